/-
  GM.Props.ConvertE2ENT — END-TO-END TOTALITY for goldmark with a parser built WITHOUT paragraph transformers
  (`parser.NewParser(parser.WithBlockParsers(parser.DefaultBlockParsers()...), parser.WithInlineParsers(
  parser.DefaultInlineParsers()...))`: the configuration GM.Model.Blocks.Driver models; no link reference definitions), and
  what it gives for the default configuration `convertCore`.

  `GM.E2E.convertT pts guard uc o src` is `GM.Convert.convertWith` with the list of paragraph transformers as a parameter
  (`convert_with_is_convertT`: `convertWith guard = convertT (paragraphTransformers guard) guard` by `rfl`);
  `convertNT = convertT [] true`. Composes: `runT [] = run` (GM.Proof.BlocksRunEq), `GM.Props.Blocks.no_panic` /
  `lines_in_range`, `GM.Props.Wf0.inline_lines_wf0` / `inline_lines_ordered`, `GM.Props.Inlines.parseBlock_total`,
  and the frame invariants / renderer-side totality of GM.Props.ConvertE2E. Kept apart from GM.Props.ConvertE2E because it needs
  GM.Props.Wf0. Proofs: GM/Proof/E2ENT.lean.
-/
import GM.Proof.E2ENT

namespace GM.Props.ConvertE2ENT
open GM GM.Text GM.Convert GM.Spec GM.E2E

/-- `convert_with_is_convertT`: the composed model is the instance `pts = paragraphTransformers guard` -/
theorem convert_with_is_convertT (guard : Bool) (uc : List (Nat × (Bool × Bool))) (o : ROpts) (src : Bytes) :
    convertWith guard uc o src = convertT (paragraphTransformers guard) guard uc o src := rfl

/-- **`convert_total_without_transformers`** — for EVERY byte string, every Unicode class assignment and every renderer
    option set, the pipeline without paragraph transformers answers HTML: no Go panic of the block phase (all ten
    parsers), none of the inline phase, no `Segment.Value` panic while a node renderer resolves a segment, no node
    renderer panic; the run-time `WF0` check on the lines handed to the inline phase passes; no fuel bound, contract
    monitor or modelling precondition is hit. -/
theorem convert_total_without_transformers (uc : List (Nat × (Bool × Bool))) (o : ROpts) (src : Bytes) :
    ∃ html, convertNT uc o src = .ok html :=
  convertNT_total uc o src

/-- `convert_total_of_store`: the DEFAULT pipeline answers HTML on every source on which its block phase (with the
    link-reference transformer) answers a store whose raw segments are in range and whose inline-bearing blocks have `WF0`
    lines (`StoreTot`) — what remains of C01 for `convertCore` is exactly "the block phase with the transformer answers
    such a store". -/
theorem convert_total_of_store (uc : List (Nat × (Bool × Bool))) (o : ROpts) (src : Bytes) (st : GM.Blocks.St)
    (hst : blockPhase true src = .ok st) (hS : StoreTot src st) : ∃ html, convertCore uc o src = .ok html :=
  convertT_total_of_store (paragraphTransformers_keep true) uc o src st hst hS

/-- **`convert_total_of_block_facts`** — the interface to the block-phase theorems (GM.Props.ConvertNP: `block_phase_total`,
    `block_phase_lines_wellformed`; GM.Props.Wf0: the close discipline). `convertCore` answers HTML on every source on which the
    block phase with the link-reference transformer answers a store in which (i) every line is in range, (ii) the lines of
    every non-raw block with lines are `WFSegs`, (iii) every line of a non-raw block has padding 0. CAUTION: (iii) store-wide is FALSE for the driver with
    transformers on some sources (see `convert_total_of_tree_facts`); this form is for drivers without them. Nothing else about the
    block phase is needed: the info / closure segments, heading levels and the root are frame invariants (GM.Proof.E2EKeeps),
    the inline phase is total on `WF0` lines, its segments resolve, no node renderer panics. -/
theorem convert_total_of_block_facts (uc : List (Nat × (Bool × Bool))) (o : ROpts) (src : Bytes) (st : GM.Blocks.St)
    (hst : blockPhase true src = .ok st)
    (hL : ∀ n ∈ st.nodes, ∀ t ∈ n.lines, 0 ≤ t.start ∧ t.start ≤ t.stop ∧ t.stop ≤ src.length ∧ 0 ≤ t.padding)
    (hW : ∀ n ∈ st.nodes, GM.Proof.BlocksWF0.isRaw n.kind = false → n.lines ≠ [] → WFSegs src n.lines)
    (hP : ∀ n ∈ st.nodes, GM.Proof.BlocksWF0.isRaw n.kind = false → ∀ t ∈ n.lines, t.padding = 0) :
    ∃ html, convertCore uc o src = .ok html :=
  convertCore_total_of_facts uc o src st hst hL hW hP

/-- **`convert_total_of_tree_facts`** — the same interface in TREE form. The store of the driver WITH transformers contains
    nodes that are not in the tree (a Paragraph that was transformed away; a setext Heading abandoned on the `goto retry`
    behind it keeps a padded line: GM.Props.ConvertNP's witness `> [a]: /u⏎>⇥===⏎`), so "padding 0" is only true of attached nodes —
    and `docTree` only visits the tree: (iii) is needed of the non-raw nodes that are somebody's child, and the Document has
    no lines. -/
theorem convert_total_of_tree_facts (uc : List (Nat × (Bool × Bool))) (o : ROpts) (src : Bytes) (st : GM.Blocks.St)
    (hst : blockPhase true src = .ok st)
    (hL : ∀ n ∈ st.nodes, ∀ t ∈ n.lines, 0 ≤ t.start ∧ t.start ≤ t.stop ∧ t.stop ≤ src.length ∧ 0 ≤ t.padding)
    (hW : ∀ n ∈ st.nodes, GM.Proof.BlocksWF0.isRaw n.kind = false → n.lines ≠ [] → WFSegs src n.lines)
    (hP : ∀ p c, c ∈ (st.nodes.getD p default).children → GM.Proof.BlocksWF0.isRaw (st.nodes.getD c default).kind = false →
      ∀ t ∈ (st.nodes.getD c default).lines, t.padding = 0)
    (h0 : (st.nodes.getD 0 default).lines = []) :
    ∃ html, convertCore uc o src = .ok html :=
  convertCore_total_of_tree_facts uc o src st hst hL hW hP h0

/-- **`convert_total_of_block_phase_theorems`** — C01 END TO END for the default pipeline from statements about its block
    phase, in the shapes GM.Props.ConvertNP states them (`GM.Props.ConvertNP.block_phase_total`,
    `block_phase_lines_wellformed`, and the tree-walk form of the close discipline): the block phase with the link-reference
    transformer always answers a store with `NodesOK`; the lines of its non-raw blocks are `WFSegs`; every line of a non-raw
    node that is somebody's child has padding 0; the Document has no lines. Then for EVERY byte string, Unicode-class
    assignment and option set `convertCore` answers HTML — no error outcome of any phase. -/
theorem convert_total_of_block_phase_theorems
    (hTot : ∀ src, ∃ s, blockPhase true src = .ok s ∧ GM.Blocks.NodesOK src s ∧ GM.Blocks.KidsOK s)
    (hWF : ∀ src s, blockPhase true src = .ok s →
      (∀ n ∈ s.nodes, GM.Proof.BlocksWF0.isRaw n.kind = false → GM.Blocks.OrdFrom 0 n.lines ∧
          (∀ t ∈ n.lines, t.start < t.stop ∧ t.forceNewline = false) ∧ (n.lines ≠ [] → WFSegs src n.lines)) ∧
      (∀ n ∈ s.nodes, n.kind = .paragraph → ∀ t ∈ n.lines, GM.Blocks.NonBlankSeg src t))
    (hPad : ∀ src s, blockPhase true src = .ok s →
      (∀ p c, c ∈ (s.nodes.getD p default).children → GM.Proof.BlocksWF0.isRaw (s.nodes.getD c default).kind = false →
        ∀ t ∈ (s.nodes.getD c default).lines, t.padding = 0) ∧ (s.nodes.getD 0 default).lines = [])
    (uc : List (Nat × (Bool × Bool))) (o : ROpts) (src : Bytes) : ∃ html, convertCore uc o src = .ok html := by
  obtain ⟨st, hst, hN, _⟩ := hTot src
  exact convertCore_total_of_tree_facts uc o src st hst (fun n hn t ht => (hN n hn).lines t ht)
    (fun n hn hr hne => ((hWF src st hst).1 n hn hr).2.2 hne) (hPad src st hst).1 (hPad src st hst).2

/-- `store_of_plain_driver_is_total`: the store of the transformer-free block phase has `StoreTot`, every source -/
theorem store_of_plain_driver_is_total (src : Bytes) (st : GM.Blocks.St) (h : GM.Blocks.run src = .ok st) :
    StoreTot src st :=
  run_storeTot src st h

/-- `convert_total_of_block_phase_agreement`: `convertCore` answers HTML on every source on which the block phase with
    the link-reference transformer ends with the node store of the transformer-free one (sources without `[`:
    `GM.Props.ConvertE2ENP.block_phase_bracket_free_eq`). -/
theorem convert_total_of_block_phase_agreement (uc : List (Nat × (Bool × Bool))) (o : ROpts) (src : Bytes)
    (hA : ∃ st st', blockPhase true src = .ok st ∧ GM.Blocks.run src = .ok st' ∧ st.nodes = st'.nodes) :
    ∃ html, convertCore uc o src = .ok html :=
  convertCore_total_of_agree uc o src hA

/-! ### C05 -/

/-- `parse_ast_exists_without_transformers`: the parser without transformers always answers a tree (with segments) -/
theorem parse_ast_exists_without_transformers (uc : List (Nat × (Bool × Bool))) (src : Bytes) :
    ∃ a, parseAstT [] true uc src = .ok a :=
  parseAstNT_exists uc src

/-- `store_hyps_of_plain_driver`: ALL FOUR store hypotheses of `parser_output_wellformed_partial` are theorems for the
    transformer-free block phase, every source — `lines` (`GM.Props.Blocks.lines_in_range`), `ord` (`GM.Props.Wf0.all_lines_ordered`, the
    raw kinds included), `noLines` (`GM.Props.Wf0.container_nodes_no_lines`), `listShape` (the children of a List are ListItems:
    `KidsOK` of the final store; a ListItem is only ever a child of a List: GM.Proof.E2EDriver). -/
theorem store_hyps_of_plain_driver (src : Bytes) (st : GM.Blocks.St) (h : GM.Blocks.run src = .ok st) :
    StoreHypsCore src st :=
  run_storeHypsCore src st h

/-- **`parser_output_wellformed_without_transformers`** — C05 END TO END, unconditional, for the parser without paragraph
    transformers: for EVERY byte string and Unicode-class assignment the parse phases answer a tree, and its position dump
    (the format of the harness' dumper) passes `Spec.wfAst` with `len(source)`: clause (a) sibling / parent links and
    counts, no node twice; (b) the root is the Document, children of Lists are ListItems and ListItems only occur there,
    inline nodes only below blocks that take them, Heading levels 1..6, Emphasis levels 1..2; (c) every segment inside the
    source, a block's lines in order, inline segments in order inside their block's lines. -/
theorem parser_output_wellformed_without_transformers (uc : List (Nat × (Bool × Bool))) (src : Bytes) :
    ∃ a, parseAstT [] true uc src = .ok a ∧ wfAst src.length (dumpAst a) = none :=
  parseAstNT_wfAst uc src

/-- **`block_phase_items_under_lists`** — for EVERY source: in the store the block phase WITH the link-reference transformer
    returns (guarded or not), a ListItem is only ever a child of a List, and every child index is a node of the store.
    (An invariant that is NOT blind to child lists: the two edge-adding writes of ast.go — `AppendChild`, `InsertBefore` —
    are obligations; the four places that add an edge know that the new child is a fresh node of another kind, or that
    `listItemParser.Open` has just checked `parent.(*ast.List)`.) -/
theorem block_phase_items_under_lists (guard : Bool) (src : Bytes) (st : GM.Blocks.St)
    (h : blockPhase guard src = .ok st) :
    ∀ i, ∀ c ∈ (st.nodes.getD i default).children, c < st.nodes.length ∧
      ((st.nodes.getD c default).kind = .listItem → (st.nodes.getD i default).kind = .list) :=
  GM.E2E.LI.blockPhase_lc guard src st h

/-- `list_shape_of_kids_ok`: with `KidsOK` (`GM.Props.ConvertNP.block_phase_total`) the store hypothesis `listShape` of the default
    pipeline is a theorem -/
theorem list_shape_of_kids_ok (guard : Bool) (src : Bytes) (st : GM.Blocks.St) (h : blockPhase guard src = .ok st)
    (hK : GM.Blocks.KidsOK st) : ListShape st :=
  listShape_of_halves hK (blockPhase_itemsUnderLists guard src st h)

/-- `parser_output_wellformed_of_block_phase_facts` — C05 END TO END for the default pipeline from facts about its block
    phase in the shapes the block-phase theorems state them: `NodesOK` and `KidsOK` (`GM.Props.ConvertNP.block_phase_total`), the
    order of the lines of every block (`GM.Props.ConvertNP.block_phase_lines_wellformed` has the non-raw kinds) and "Document / List
    have no lines" — GM.Props.Wf0 has the last two for `run` (`all_lines_ordered`, `container_nodes_no_lines`), GM.Props.ConvertNP for the
    driver with the transformer (`block_phase_raw_lines_ordered`, `block_phase_container_nodes_have_no_lines`). The other half of the list shape is `block_phase_items_under_lists`. -/
theorem parser_output_wellformed_of_block_phase_facts (uc : List (Nat × (Bool × Bool))) (src : Bytes) (a : ATree)
    (h : parseAst true uc src = .ok a)
    (hN : ∀ st, blockPhase true src = .ok st → GM.Blocks.NodesOK src st ∧ GM.Blocks.KidsOK st)
    (hO : ∀ st, blockPhase true src = .ok st → ∀ n ∈ st.nodes, GM.Blocks.OrdFrom 0 n.lines)
    (hNL : ∀ st, blockPhase true src = .ok st → ∀ n ∈ st.nodes, (n.kind = .document ∨ n.kind = .list) → n.lines = []) :
    wfAst src.length (dumpAst a) = none :=
  GM.E2E.parseAst_wfAst_core uc src a h (fun st hst =>
    { lines := fun n hn t ht => ((hN st hst).1 n hn).lines t ht
      ord := fun n hn => ordFrom_of_OrdFrom _ _ (hO st hst n hn)
      noLines := hNL st hst
      listShape := list_shape_of_kids_ok true src st hst (hN st hst).2 })

/-- `parser_output_wellformed_of_store`: `parser_output_wellformed_partial` for ANY list of paragraph transformers that
    keep the three frame invariants (`PTsGood`; the empty list and the default list do) -/
theorem parser_output_wellformed_of_store {pts : List GM.Blocks.PT} {src : Bytes} (hp : PTsGood src pts)
    (uc : List (Nat × (Bool × Bool))) (a : ATree) (h : parseAstT pts true uc src = .ok a)
    (hS : ∀ st, GM.Blocks.runT pts src = .ok st → StoreHypsCore src st) : wfAst src.length (dumpAst a) = none :=
  parseAstT_wfAst hp uc a h hS

/-! ### sources without `[` -/

/-- **`convert_bracket_free`** — for EVERY source without `[`: `convertCore` answers what the pipeline without paragraph
    transformers answers (which is always HTML), or it ends in a block-phase error -/
theorem convert_bracket_free (uc : List (Nat × (Bool × Bool))) (o : ROpts) (src : Bytes) (hb : NoBracket src) :
    convertCore uc o src = convertNT uc o src ∨ ∃ p, convertCore uc o src = .error (.blocks p) := by
  rcases Rel.runT_rel src hb true with h | ⟨e, h⟩
  · left
    show convertT (paragraphTransformers true) true uc o src = convertT [] true uc o src
    unfold convertT parseDocT
    rw [show GM.Blocks.runT (paragraphTransformers true) src = GM.Blocks.runT [] src from h]
  · right
    refine ⟨e, ?_⟩
    show convertT (paragraphTransformers true) true uc o src = _
    unfold convertT parseDocT
    rw [show GM.Blocks.runT (paragraphTransformers true) src = .error e from h]
    rfl

/-- **`convert_total_bracket_free`** — with "the block phase of the default pipeline never errs" (`GM.Props.ConvertNP.block_phase_total`),
    `convertCore` answers HTML on every source without `[` — and it is the HTML of the pipeline without transformers -/
theorem convert_total_bracket_free (uc : List (Nat × (Bool × Bool))) (o : ROpts) (src : Bytes) (hb : NoBracket src)
    (hTot : ∃ s, blockPhase true src = .ok s) : ∃ html, convertCore uc o src = .ok html ∧ convertNT uc o src = .ok html := by
  obtain ⟨html, hh⟩ := convertNT_total uc o src
  obtain ⟨s, hs⟩ := hTot
  rcases Rel.runT_rel src hb true with h | ⟨e, h⟩
  · have e1 : convertCore uc o src = convertNT uc o src := by
      show convertT (paragraphTransformers true) true uc o src = convertT [] true uc o src
      unfold convertT parseDocT
      rw [h]
    exact ⟨html, by rw [e1]; exact hh, hh⟩
  · have hs' : GM.Blocks.runT (paragraphTransformers true) src = .ok s := hs
    rw [hs'] at h
    cases h

/-- **`parser_output_wellformed_bracket_free`** — C05 END TO END, unconditional, for the DEFAULT pipeline on every source
    without `[`: whenever the parse phases answer a tree, its position dump passes `Spec.wfAst` — all four store hypotheses
    are theorems, because the store is the store of the transformer-free block phase (`block_phase_bracket_free`) -/
theorem parser_output_wellformed_bracket_free (uc : List (Nat × (Bool × Bool))) (src : Bytes) (hb : NoBracket src) (a : ATree)
    (h : parseAst true uc src = .ok a) : wfAst src.length (dumpAst a) = none := by
  refine GM.E2E.parseAst_wfAst_core uc src a h (fun st hst => ?_)
  rcases blockPhase_noBracket true src hb with h1 | ⟨e, h1⟩
  · rw [hst] at h1
    exact run_storeHypsCore src st h1.symm
  · rw [hst] at h1; cases h1

/-! ### tests on literals (kernel-evaluated) -/

/-- the two pipelines agree on a document without `[` … -/
example : (convertNT [] {} (strBytes "# a\n\n> b\n> c\n\n- d\n")).toOption =
      some (strBytes "<h1>a</h1>\n<blockquote>\n<p>b\nc</p>\n</blockquote>\n<ul>\n<li>d</li>\n</ul>\n") ∧
    (convertCore [] {} (strBytes "# a\n\n> b\n> c\n\n- d\n")).toOption =
      some (strBytes "<h1>a</h1>\n<blockquote>\n<p>b\nc</p>\n</blockquote>\n<ul>\n<li>d</li>\n</ul>\n") := by
  decide +kernel

/-- … and differ on a link reference definition (the transformer-free parser has none) -/
example : (convertNT [] {} (strBytes "[a]: /u\n\n[a]\n")).toOption = some (strBytes "<p>[a]: /u</p>\n<p>[a]</p>\n") := by
  decide +kernel
example : (convertCore [] {} (strBytes "[a]: /u\n\n[a]\n")).toOption = some (strBytes "<p><a href=\"/u\">a</a></p>\n") := by
  decide +kernel

/-- the unconditional C05 theorem, instantiated (the tree exists and its dump is accepted) — and evaluated by the kernel on
    a document with a list, a quote, a setext heading, raw HTML and a fenced block -/
example : ((parseAstT [] true [] (strBytes "- a\n\n> b\nc\n===\n\n<div>\n\n```go\nz\n```\n")).toOption.map
    fun a => wfAst 35 (dumpAst a)) = some none := by decide +kernel

/-- `PTsGood` is satisfiable -/
example (src : Bytes) : PTsGood src [] := ptsGood_nil src
example (src : Bytes) : PTsGood src (paragraphTransformers true) := ptsGood_default src true

end GM.Props.ConvertE2ENT
