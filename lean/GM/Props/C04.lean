/-
  Property C04 — safe mode never emits a script-capable or local-file URL.

  `Spec.hrefDangerous named v` is the browser-like reading of one href/src attribute value `v` as it stands in
  the output (GM.Spec.Url, written independently of goldmark's code): decode character references with the HTML5
  table, trim C0-control/space at both ends, remove tab/CR/LF everywhere, read the scheme up to the first `:`,
  lower-case it; dangerous = `javascript`, `vbscript`, `file`, or `data` other than `image/{png,gif,jpeg,webp,svg+xml};`.

  The theorems below are about the values the renderer MODEL (GM.Model.Render `enter`, tied to renderer/html by the
  `render` correspondence runs) writes between `href="`/`src="` and the closing quote in safe mode (`unsafe_ = false`),
  for ALL byte strings stored in the node (destination / autolink URL) — so they hold however the URL was spelled
  in the source and whatever the parser did with it.
  Only property theorems and their non-vacuity examples live here; helper lemmas are in GM/Proof/Url*.lean.
-/
import GM.Model.Render
import GM.Spec.Url
import GM.Gen.RenderFacts
import GM.Proof.UrlSafe
import GM.Props.ConvertE2E
import GM.Props.ConvertE2EAll

namespace GM.Props.C04
open GM GM.Spec

/-- Links (`renderLink`) and images (`renderImage`): whatever bytes the destination holds, the value written
    into `href`/`src` in safe mode is not read by a browser as a dangerous URL. -/
theorem safe_href (dest : Bytes) :
    hrefDangerous lookupEntity (urlOut false (urlEscape dest true)) = false := Proof.safe_href dest

/-- Autolinks (`renderAutoLink`: `<...>` autolinks and linkified URLs / e-mail addresses), including the
    `mailto:` the renderer puts in front of e-mail autolinks: the `href` value is not dangerous. -/
theorem safe_autolink (email : Bool) (url : Bytes) :
    hrefDangerous lookupEntity
      ((if email && !mailtoPrefixed url (strBytes "mailto:") then strBytes "mailto:" else []) ++
        urlOut false (urlEscape url false)) = false := Proof.safe_autolink email url

/-- Footnote references and back-references write `href="#…`: a value that starts with `#` has no scheme,
    whatever follows. -/
theorem footnote_href_harmless (rest : Bytes) : hrefDangerous lookupEntity (35 :: rest) = false :=
  Proof.hash_not_dangerous rest

/-- The string literals through which `href=`/`src=` is written anywhere in renderer/html and extension
    (regenerated from the Go source on every run) belong to exactly the five modelled emitters: a new emitter
    in the code breaks this obligation. -/
theorem emitters_complete :
    Gen.urlAttrSites.map (·.1) =
      ["html.renderAutoLink", "html.renderLink", "html.renderImage",
       "extension.renderFootnoteLink", "extension.renderFootnoteBacklink"] := by decide

/-- The two footnote emitters' literals end in `href="#` — the premise of `footnote_href_harmless`. -/
theorem footnote_sites_hash :
    ((Gen.urlAttrSites.filter fun s => s.1.startsWith "extension.").all fun s =>
      s.2.reverse.take 7 == (strBytes "href=\"#").reverse) = true := by decide +kernel

/-- The second way an attribute reaches the output is `RenderAttributes(w, node, <filter>)`, which writes only names
    the filter contains: none of the attribute filters regenerated from the Go source admits `href` or `src`
    (the name list pins the set of filters, so a new filter must be added here). -/
theorem attribute_filters_exclude_urls :
    Gen.attributeFilterNames =
      ["GlobalAttributeFilter", "HeadingAttributeFilter", "BlockquoteAttributeFilter", "ListAttributeFilter",
       "ListItemAttributeFilter", "ParagraphAttributeFilter", "ThematicAttributeFilter", "LinkAttributeFilter",
       "CodeAttributeFilter", "EmphasisAttributeFilter", "ImageAttributeFilter", "DefinitionListAttributeFilter",
       "DefinitionTermAttributeFilter", "DefinitionDescriptionAttributeFilter", "StrikethroughAttributeFilter",
       "TableAttributeFilter", "TableHeaderAttributeFilter", "TableRowAttributeFilter",
       "TableThCellAttributeFilter", "TableTdCellAttributeFilter"] ∧
    ([Gen.GlobalAttributeFilter, Gen.HeadingAttributeFilter, Gen.BlockquoteAttributeFilter, Gen.ListAttributeFilter,
      Gen.ListItemAttributeFilter, Gen.ParagraphAttributeFilter, Gen.ThematicAttributeFilter, Gen.LinkAttributeFilter,
      Gen.CodeAttributeFilter, Gen.EmphasisAttributeFilter, Gen.ImageAttributeFilter,
      Gen.DefinitionListAttributeFilter, Gen.DefinitionTermAttributeFilter, Gen.DefinitionDescriptionAttributeFilter,
      Gen.StrikethroughAttributeFilter, Gen.TableAttributeFilter, Gen.TableHeaderAttributeFilter,
      Gen.TableRowAttributeFilter, Gen.TableThCellAttributeFilter, Gen.TableTdCellAttributeFilter].all fun f =>
        urlAttrNames.all fun n => !f.contains n) = true := by
  constructor
  · decide
  · decide +kernel

/-- The scheme constants of the model's `isDangerousURL` are the ones regenerated from renderer/html/html.go:
    a changed constant in the code breaks this obligation. -/
theorem schemes_tied :
    bJs = Gen.bJs ∧ bVb = Gen.bVb ∧ bFile = Gen.bFile ∧ bData = Gen.bData ∧ bDataImage = Gen.bDataImage ∧
    imageTypes = [Gen.bPng, Gen.bGif, Gen.bJpeg, Gen.bWebp, Gen.bSvg] := by decide +kernel

/-- Why the guard sees what the browser sees (a): util.URLEscape's result never contains a space or control
    byte (≤ 0x20, 0x7f), `"`, `<` or `>` — on every branch, including "input returned unchanged". -/
theorem urlEscape_plain (v : Bytes) (resolve : Bool) : Proof.plainUrl (urlEscape v resolve) = true :=
  Proof.urlEscape_plain v resolve

/-- (b)+(c): for such a value, decoding and cleaning the escaped attribute text gives back the value itself. -/
theorem browser_reads_written_value (s : Bytes) (h : Proof.plainUrl s = true) :
    urlClean (attrDecode lookupEntity (escapeHTML s).length (escapeHTML s)) = s := by
  rw [Proof.attrDecode_escapeHTML s _ (Nat.le_refl _), Proof.urlClean_plain s h]

/-- Decoder-independent form of what is written (any `resolve` flag, i.e. all three emitters): either nothing, or
    `EscapeHTML d` for a plain `d` that html.IsDangerousURL accepted; every `&` of it begins one of
    `&amp; &lt; &gt; &quot;`, so no HTML decoder — including the semicolon-less reference forms browsers accept, which
    `Spec.attrDecode` does not model — can read anything but `d` out of it. -/
theorem written_value_form (v : Bytes) (resolve : Bool) :
    urlOut false (urlEscape v resolve) = [] ∨
      (urlOut false (urlEscape v resolve) = escapeHTML (urlEscape v resolve) ∧
        Proof.plainUrl (urlEscape v resolve) = true ∧ isDangerousURL (urlEscape v resolve) = false ∧
        ampsOK4 (escapeHTML (urlEscape v resolve)) = true) :=
  Proof.urlOut_form _ (Proof.urlEscape_plain v resolve)

/-- (d): for EVERY byte string, what the independent scheme reader calls dangerous html.IsDangerousURL rejects
    (same four schemes; the media-type exceptions coincide, the code folding the case of the prefix, the spec of
    the whole remainder). -/
theorem guard_covers_spec (d : Bytes) (h : dangerousUrl d = true) : isDangerousURL d = true :=
  Proof.dangerousUrl_imp d h

/-! ### non-vacuity and tests on literals (tests, not proofs of the property) -/

/-- the spec predicate is not constantly false: these are what the pre-fix code emitted -/
example : hrefDangerous lookupEntity (strBytes "javascript:alert(1)") = true := by decide +kernel
example : hrefDangerous lookupEntity (strBytes "&#106;avascript:alert(1)") = true := by decide +kernel
example : hrefDangerous lookupEntity (strBytes "javascript&colon;alert(1)") = true := by decide +kernel
example : hrefDangerous lookupEntity (strBytes " \tJaVa\nScRiPt:alert(1)") = true := by decide +kernel
example : hrefDangerous lookupEntity (strBytes "data:text/html,x") = true := by decide +kernel
example : hrefDangerous lookupEntity (strBytes "data:image/png;base64,AAAA") = false := by decide +kernel
example : hrefDangerous lookupEntity (strBytes "FILE:///etc/passwd") = true := by decide +kernel
/-- the guarded value for those spellings, as destinations, is empty or harmless -/
example : urlOut false (urlEscape (strBytes "javascript&colon;alert(1)") true) = [] := by decide +kernel
example : urlOut false (urlEscape (strBytes "&#106;avascript:alert(1)") true) = [] := by decide +kernel
example : urlOut false (urlEscape (strBytes "java\\script:alert(1)") true) = strBytes "java%5Cscript:alert(1)" := by
  decide +kernel
example : urlOut false (urlEscape (strBytes "http://a/?b=c&d") true) = strBytes "http://a/?b=c&amp;d" := by
  decide +kernel
/-- without the guard (Unsafe) the same value IS dangerous: the theorem is about the guard, not the escaping -/
example : hrefDangerous lookupEntity (urlOut true (urlEscape (strBytes "javascript:alert(1)") true)) = true := by
  decide +kernel
/-- hypothesis of `browser_reads_written_value` is satisfiable -/
example : Proof.plainUrl (strBytes "http://example.com/a%20b") = true := by decide +kernel

/-- (re-export of `GM.Props.ConvertE2E.convert_safe_urls_harmless`) `convert_safe_urls_harmless`. For EVERY source, Unicode class assignment, XHTML / HardWraps setting: the HTML
    `convertCore` answers in safe mode is the concatenation of the emitted pieces of one piece list `ps`
    (`convert_options_orthogonal`), and EVERY destination-carrying piece `.url d` of `ps` — Link, Image and AutoLink
    nodes are the only sources of such pieces — stands at an attribute site: the output reads
    `… tag ++ value ++ '"' …` with `tag` = `<a href="` or `<img src="`, `value` = `m ++ urlOut false d` (`m` = the
    `mailto:` the renderer puts in front of an e-mail autolink, else empty), `value` contains no `"` (so it IS the
    attribute value a tokenizer reads), and `value` is not dangerous under `Spec.hrefDangerous` (decode character
    references, trim, strip tab/CR/LF, read the scheme): C04's `safe_href` / `safe_autolink` composed over whole documents. -/
theorem convert_safe_urls_harmless : type_of% @GM.Props.ConvertE2E.convert_safe_urls_harmless := @GM.Props.ConvertE2E.convert_safe_urls_harmless

/-- (re-export of `GM.Props.ConvertE2E.url_pieces_at_attribute_sites`) the piece-list fact behind it holds for EVERY tree, extension set and alignment method (not only parser output):
    C04 quantifies over all byte strings a node can store -/
theorem url_pieces_at_attribute_sites : type_of% @GM.Props.ConvertE2E.url_pieces_at_attribute_sites := @GM.Props.ConvertE2E.url_pieces_at_attribute_sites

/-- (re-export of `GM.Props.ConvertE2E.convert_safe_urls_harmless_tokens`) `convert_safe_urls_harmless_tokens` (C04 at TOKEN level). For EVERY source, Unicode class assignment, XHTML /
    HardWraps setting: the HTML `convertCore` answers in safe mode is accepted by the strict tokenizer and `Spec.urlsOK
    lookupEntity` holds of its tokens — every `href` / `src` value of every start tag, read the way a browser reads it
    (`Spec.hrefDangerous`: decode character references, trim, strip tab / CR / LF, read the scheme), is harmless. This is
    the predicate the run-time oracle `tok urls` evaluates, as a theorem about every document. -/
theorem convert_safe_urls_harmless_tokens : type_of% @GM.Props.ConvertE2E.convert_safe_urls_harmless_tokens := @GM.Props.ConvertE2E.convert_safe_urls_harmless_tokens

/-- (re-export of `GM.Props.ConvertE2E.render_safe_urls_harmless_tokens`) the renderer half of it for EVERY tree with `Spec.Inv`, every option / extension set (footnote `href="#…"` included):
    C04 at token level for the renderer model, not only for parser output -/
theorem render_safe_urls_harmless_tokens : type_of% @GM.Props.ConvertE2E.render_safe_urls_harmless_tokens := @GM.Props.ConvertE2E.render_safe_urls_harmless_tokens

/-- (re-export of `GM.Props.ConvertE2EAll.convert_safe_urls_harmless_total`) **`convert_safe_urls_harmless_total`** — C04 END TO END at TOKEN level, no hypothesis on the source: in safe mode `convertCore`
    answers HTML that the strict tokenizer accepts, and `Spec.urlsOK lookupEntity` holds of its tokens — every `href` / `src`
    value of every start tag, read the way a browser reads it (`Spec.hrefDangerous`: decode character references, trim, strip
    tab / CR / LF, read the scheme), is harmless. -/
theorem convert_safe_urls_harmless_total : type_of% @GM.Props.ConvertE2EAll.convert_safe_urls_harmless_total := @GM.Props.ConvertE2EAll.convert_safe_urls_harmless_total

/-- (re-export of `GM.Props.ConvertE2EAll.convert_safe_urls_harmless_pieces_total`) the piece-level form: every destination-carrying piece stands at an `href=` / `src=` attribute site, its value has no `"`
    and is not dangerous -/
theorem convert_safe_urls_harmless_pieces_total : type_of% @GM.Props.ConvertE2EAll.convert_safe_urls_harmless_pieces_total := @GM.Props.ConvertE2EAll.convert_safe_urls_harmless_pieces_total

end GM.Props.C04
