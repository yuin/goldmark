/-
  GM.Props.Wf0 — the LINE PROTOCOL of goldmark's block phase (`parser.parseBlocks` with the ten default block parsers,
  no paragraph transformers), over the executable model GM.Model.Blocks that the `blocks` correspondence ties to the
  real parser. A shared lemma file (no entry of its own in properties_cfg.py): GM.Props.C05 / C01 re-export from here.

  PROVED for EVERY byte string:
  * `inline_lines_wf0`            — `GM.Props.Blocks.InlineLinesWF0 src`: every inline-bearing block of the final store
                                    has `WF0` lines (what the inline phase assumes of its input).
  * `nonraw_lines_padding_zero`, `open_stack_empty_at_end` — the CLOSE DISCIPLINE at the end of the run: every segment
                                    of every non-raw block has padding 0; the open-block stack is empty.
  * `inline_lines_ordered`        — C05(c) ORDER clause for every block that is not raw (everything but CodeBlock,
                                    FencedCodeBlock, HTMLBlock): its line segments increase.
  * `inline_lines_in_range_and_ordered` — range + order together for those blocks.
  * `lines_ordered_reduction`, `inline_wf0_reduction`, `inline_wf0_remaining` — what `GM.Props.Blocks.LinesInRange` /
    `InlineLinesWF0` are equivalent to.
  * `inline_segments_nonempty`, `inline_lines_wellformed`, `inline_bearing_wellformed` — every segment of a non-raw
                                    block is non-empty without ForceNewline; its line list is `WFSegs`.
  PROVED per parser / per driver function (from the reader invariant `RI`, every state): which segment paragraph Open /
  Continue / Close, ATX Open, setext Open / Close and list Close put into the tree (`paragraph_open_line`, …); the close
  discipline of `closeBlocks`, `openBlocks`, one pass of the line loop (`close_blocks_discipline`, …).
  * `lines_in_range_and_ordered`  — `GM.Props.Blocks.LinesInRange src`: C05(c) with the order clause for EVERY node
                                    (`raw_lines_ordered`: the three raw kinds; `all_lines_ordered`).
  * `container_nodes_no_lines`    — Document / Blockquote / List / ListItem / ThematicBreak nodes have no lines.
  * `list_shape`, `list_item_parent`, `store_hyps_core_run` — a child is a ListItem exactly when its parent is a List; the
                                    four store facts of the end-to-end proof of C05 in one statement.
  Not proved here: anything about the driver WITH paragraph transformers (`runT`); the same facts for that driver are in
  GM.Props.ConvertNP (`block_phase_total`, `block_phase_lines_wellformed`, `block_phase_lines_padding_zero`,
  `block_phase_lines_ordered`, `block_phase_raw_lines_ordered`). See notes/status_wf0.md.
-/
import GM.Proof.BlocksClosedRun
import GM.Proof.BlocksShape
import GM.Props.Blocks

namespace GM.Props.Wf0
open GM GM.Text GM.Spec GM.Blocks GM.Proof.Reader
open GM.Proof.BlocksWF0 (isRaw inlineBearing allInlineWF0 BlocksEstablishWF0)
open GM.Proof.InlinesReader (WF0)

/-! ### whole runs, every byte string -/

/-- **C05(c), order clause, every source.** When the block phase returns, every block of the store that is not raw —
    `!IsRaw()`: Document, Paragraph, TextBlock, ThematicBreak, Blockquote, Heading, List, ListItem; in particular every
    block whose lines the inline phase reads — has increasing line segments: the first starts at or behind 0, each next
    one at or behind the previous `Stop`. (Reachable from the Document or not: replaced paragraphs are included.) -/
theorem inline_lines_ordered (src : Bytes) (s : St) (h : GM.Blocks.run src = .ok s) :
    ∀ n ∈ s.nodes, isRaw n.kind = false → OrdFrom 0 n.lines :=
  run_ordered src s h

/-- the same for the source the block phase always answers on (`GM.Props.Blocks.no_panic`): there IS a final store,
    and it has the property -/
theorem inline_lines_ordered_total (src : Bytes) :
    ∃ s, GM.Blocks.run src = .ok s ∧ ∀ n ∈ s.nodes, isRaw n.kind = false → OrdFrom 0 n.lines := by
  obtain ⟨s, h⟩ := run_ok src
  exact ⟨s, h, run_ordered src s h⟩

/-- **C05(c) for non-raw blocks, both clauses, as the Boolean the driver evaluates** (`GM.Blocks.linesOK`, op
    `blocks lines`): every line inside the source, padding ≥ 0, and a line never starts before the previous line's stop. -/
theorem inline_lines_in_range_and_ordered (src : Bytes) (s : St) (h : GM.Blocks.run src = .ok s) :
    ∀ n ∈ s.nodes, isRaw n.kind = false → linesOK src.length (-1) n.lines = true := by
  intro n hn hr
  rw [linesOK_iff]
  exact ⟨(nodesOK_of_run h n hn).lines, OrdFrom.mono (by decide) (run_ordered src s h n hn hr)⟩

/-- **Every segment of a non-raw block is non-empty and carries no ForceNewline, every source.** (A Paragraph's lines
    hold a byte that is not white space from the moment they are taken — `paragraph_open_line`, `paragraph_continue_line`
    — so the trims of `Close` cannot empty them; ATX bodies are non-empty; setext `Close` and list `Close` copy.) -/
theorem inline_segments_nonempty (src : Bytes) (s : St) (h : GM.Blocks.run src = .ok s) :
    ∀ n ∈ s.nodes, isRaw n.kind = false → ∀ t ∈ n.lines, t.start < t.stop ∧ t.forceNewline = false :=
  run_segs_nonempty src s h

/-- **The lines of every non-raw block that has lines are WELL FORMED, every source**: `WFSegs src n.lines`
    (GM.Spec.Cursor) — a non-empty list of non-empty segments inside the source that increase, padding ≥ 0, no
    ForceNewline. This is the predicate `GM.LinkRef.guardedTransform` checks (`wfSegsB`) and, up to `padding = 0`, the
    `WF0` the inline-phase theorems assume. -/
theorem inline_lines_wellformed (src : Bytes) (s : St) (h : GM.Blocks.run src = .ok s) :
    ∀ n ∈ s.nodes, isRaw n.kind = false → n.lines ≠ [] → WFSegs src n.lines :=
  run_wfsegs src s h

/-- **`LinesInRange` reduced to the raw kinds**: the range clause is proved for all blocks and the order clause for the non-raw
    ones, so `GM.Props.Blocks.LinesInRange src` is equivalent to the order clause for the three raw kinds alone (which is
    `raw_lines_ordered` of GM.Props.Wf0). -/
theorem lines_ordered_reduction (src : Bytes) :
    GM.Props.Blocks.LinesInRange src ↔
      ∀ s, GM.Blocks.run src = .ok s → ∀ n ∈ s.nodes, isRaw n.kind = true → OrdFrom 0 n.lines := by
  unfold GM.Props.Blocks.LinesInRange
  constructor
  · intro hh s hs n hn _
    exact (allLinesOK_iff_ordered hs).1 (hh s hs) n hn
  · intro hh s hs
    refine (allLinesOK_iff_ordered hs).2 (fun n hn => ?_)
    cases hr : isRaw n.kind with
    | true => exact hh s hs n hn hr
    | false => exact run_ordered src s hs n hn hr

/-- **C05(c), order clause for the three raw kinds, every source.** The line segments of every CodeBlock,
    FencedCodeBlock and HTMLBlock of the final store increase: each line is appended on its own source line, at or
    behind the line start — `preserveLeadingTabInCodeBlock`, which moves a segment start one byte back onto a tab, never
    leaves the line, because a virtual padding only exists behind a tab of the current line (`PadL`). -/
theorem raw_lines_ordered (src : Bytes) (s : St) (h : GM.Blocks.run src = .ok s) :
    ∀ n ∈ s.nodes, isRaw n.kind = true → OrdFrom 0 n.lines :=
  run_ordered_raw src s h

/-- **C05(c) with the order clause, every source** (`GM.Props.Blocks.LinesInRange src` is a theorem): when the block
    phase returns, the line segments of EVERY node of the store lie inside the source (0 ≤ start ≤ stop ≤ len,
    padding ≥ 0) and increase (each starts at or behind the previous stop). -/
theorem lines_in_range_and_ordered (src : Bytes) : GM.Props.Blocks.LinesInRange src :=
  (lines_ordered_reduction src).2 (fun s hs => run_ordered_raw src s hs)

/-- the same, spelled out per node -/
theorem all_lines_ordered (src : Bytes) (s : St) (h : GM.Blocks.run src = .ok s) :
    ∀ n ∈ s.nodes, OrdFrom 0 n.lines := by
  intro n hn
  cases hr : isRaw n.kind with
  | true => exact run_ordered_raw src s h n hn hr
  | false => exact run_ordered src s h n hn hr

/-- **containers carry no lines, every source**: in the final store, Document, Blockquote, List, ListItem and
    ThematicBreak nodes have an empty line list (`Lines().Len() == 0`): no block parser ever appends to them. -/
theorem container_nodes_no_lines (src : Bytes) (s : St) (h : GM.Blocks.run src = .ok s) :
    ∀ n ∈ s.nodes, noLinesKind n.kind = true → n.lines = [] :=
  run_no_lines src s h

/-- **`list_shape`, every source**: in the final store of the block phase a child node is a ListItem exactly when its
    parent is a List (children lists; `st.nodes.getD i default` is node `i`). "Children of a List are ListItems" is the
    list invariant of the no-panic proof; "a ListItem only ever hangs under a List" holds because the one call that
    attaches the node a parser has built (`parent.AppendChild`, parser.go:1003) attaches a FRESH node of the parser's
    kind, and listItemParser.Open answers a node only when `parent` is a List (list_item.go:25-28). -/
theorem list_shape (src : Bytes) (s : St) (h : GM.Blocks.run src = .ok s) :
    ∀ i, ∀ c ∈ (s.nodes.getD i default).children,
      ((s.nodes.getD c default).kind = .listItem ↔ (s.nodes.getD i default).kind = .list) :=
  run_list_shape src s h

/-- the same on parent pointers: a node with a parent is a ListItem exactly when that parent is a List -/
theorem list_item_parent (src : Bytes) (s : St) (h : GM.Blocks.run src = .ok s) :
    ∀ i p, (nd s i).parent = some p → ((nd s i).kind = .listItem ↔ (nd s p).kind = .list) :=
  run_item_parent src s h

/-- **the four store facts the end-to-end proof of C05 (`wfAst`) takes as hypotheses (`GM.E2E.StoreHypsCore`: `lines`,
    `ord`, `noLines`, `listShape`), for the final store of `run`, every source** — stated here without importing the
    end-to-end files; `OrdFrom` is `GM.Blocks.OrdFrom` (the recursion of `GM.E2E.ordFrom`). -/
theorem store_hyps_core_run (src : Bytes) (s : St) (h : GM.Blocks.run src = .ok s) :
    (∀ n ∈ s.nodes, ∀ t ∈ n.lines, 0 ≤ t.start ∧ t.start ≤ t.stop ∧ t.stop ≤ src.length ∧ 0 ≤ t.padding) ∧
    (∀ n ∈ s.nodes, OrdFrom 0 n.lines) ∧
    (∀ n ∈ s.nodes, (n.kind = .document ∨ n.kind = .list) → n.lines = []) ∧
    (∀ i, ∀ c ∈ (s.nodes.getD i default).children,
      ((s.nodes.getD c default).kind = .listItem ↔ (s.nodes.getD i default).kind = .list)) :=
  GM.Blocks.store_hyps_core_run src s h

/-- `InlineLinesWF0` in parts (`GM.Blocks.allInlineWF0_iff_parts`, GM.Proof.BlocksOrdRun), as a statement about the property -/
theorem inline_wf0_reduction (src : Bytes) :
    GM.Props.Blocks.InlineLinesWF0 src ↔
      ∀ s, GM.Blocks.run src = .ok s → ∀ n ∈ s.nodes, inlineBearing n = true →
        OrdFrom 0 n.lines ∧ ∀ t ∈ n.lines, t.start < t.stop ∧ t.padding = 0 ∧ t.forceNewline = false := by
  unfold GM.Props.Blocks.InlineLinesWF0 BlocksEstablishWF0
  exact ⟨fun hh s hs => (allInlineWF0_iff_parts hs).1 (hh s hs), fun hh s hs => (allInlineWF0_iff_parts hs).2 (hh s hs)⟩

/-- **the hand-over to the inline phase reduced to the padding**: with order, range, non-emptiness and "no ForceNewline"
    proved, `InlineLinesWF0 src` (every inline-bearing block has `WF0` lines) is equivalent to ONE fact: every line
    segment of an inline-bearing block of the final store has padding 0 (which is `nonraw_lines_padding_zero` of
    GM.Props.Wf0). -/
theorem inline_wf0_remaining (src : Bytes) :
    GM.Props.Blocks.InlineLinesWF0 src ↔
      ∀ s, GM.Blocks.run src = .ok s → ∀ n ∈ s.nodes, inlineBearing n = true → ∀ t ∈ n.lines, t.padding = 0 := by
  rw [inline_wf0_reduction]
  constructor
  · intro hh s hs n hn hb t ht; exact ((hh s hs n hn hb).2 t ht).2.1
  · intro hh s hs n hn hb
    have hr : isRaw n.kind = false := by
      simp only [inlineBearing, Bool.and_eq_true, Bool.not_eq_true'] at hb
      exact hb.1
    refine ⟨run_ordered src s hs n hn hr, fun t ht => ?_⟩
    obtain ⟨h1, h2⟩ := run_segs_nonempty src s hs n hn hr t ht
    exact ⟨h1, hh s hs n hn hb t ht, h2⟩

/-- the hand-over, as far as it is proved: every inline-bearing block of the final store has `WFSegs` lines (all of
    `WF0` but `padding = 0`) -/
theorem inline_bearing_wellformed (src : Bytes) (s : St) (h : GM.Blocks.run src = .ok s) :
    ∀ n ∈ s.nodes, inlineBearing n = true → WFSegs src n.lines := by
  intro n hn hb
  simp only [inlineBearing, Bool.and_eq_true, Bool.not_eq_true'] at hb
  exact run_wfsegs src s h n hn hb.1 (by intro e; rw [e] at hb; simp at hb)

/-! ### the close discipline -/

/-- **padding 0 at the end, every source.** When the block phase returns, every line segment of every block of the
    store that is not raw has padding 0: each Paragraph / setext heading was handed to its parser's `Close`
    (paragraphParser.Close trims the lines and resets the padding) before the run ended, and the lines that setext /
    list `Close` copy into Headings / TextBlocks are copied from closed paragraphs. -/
theorem nonraw_lines_padding_zero (src : Bytes) (s : St) (h : GM.Blocks.run src = .ok s) :
    ∀ n ∈ s.nodes, isRaw n.kind = false → ∀ t ∈ n.lines, t.padding = 0 :=
  run_closed src s h

/-- **the open-block stack is empty when the block phase returns**, every source: every block that was pushed has
    been popped by `closeBlocks` (which hands it to `Close`: see `close_blocks_discipline`). -/
theorem open_stack_empty_at_end (src : Bytes) (s : St) (h : GM.Blocks.run src = .ok s) : s.pc.opened = [] :=
  run_opened_nil src s h

/-- **`InlineLinesWF0`, every source** (the premise `GM.Props.Blocks.InlineLinesWF0 src` of the end-to-end theorems is
    a theorem): when the block phase returns, the lines of every inline-bearing block of the store (not raw, with at
    least one line) are `WF0` — non-empty segments inside the source that increase, padding 0, no ForceNewline. -/
theorem inline_lines_wf0 (src : Bytes) : GM.Props.Blocks.InlineLinesWF0 src :=
  (inline_wf0_remaining src).2 (fun s hs n hn hb => by
    have hr : isRaw n.kind = false := by
      simp only [inlineBearing, Bool.and_eq_true, Bool.not_eq_true'] at hb
      exact hb.1
    exact run_closed src s hs n hn hr)

/-- the same, spelled out: `WF0 src n.lines` for every inline-bearing block `n` of the final store -/
theorem inline_bearing_wf0 (src : Bytes) (s : St) (h : GM.Blocks.run src = .ok s) :
    ∀ n ∈ s.nodes, inlineBearing n = true →
      OrdFrom 0 n.lines ∧ ∀ t ∈ n.lines, t.start < t.stop ∧ t.padding = 0 ∧ t.forceNewline = false :=
  (inline_wf0_reduction src).1 (inline_lines_wf0 src) s h

/-- **closeBlocks under the close discipline** (parser.go:900-918), any state: if every block of the stack is attached
    and every non-raw node has padding 0 unless it is the node of an open Paragraph / setext block (`CInv`), then
    `closeBlocks(from, to)` hands EVERY block of the range to its parser's `Close` (none is skipped as detached), the
    stack becomes `take to ++ drop (from+1)`, and the invariant holds of the new stack — provided the Paragraph /
    setext blocks that stay open are guarded (`Guard`: their parent is not a Paragraph and not an item of a list that is
    being closed) and a closing setext heading's paragraph is not an open block. -/
theorem close_blocks_discipline : type_of% @closeBlocks_cl := @closeBlocks_cl
/-- **closeBlocks never skips a `Close`** under the close discipline: its loop (with the `Parent() != nil` test of
    parser.go:904-909) equals the loop without the test (`GM.Blocks.closeAll`) as a state transformer. -/
theorem close_blocks_never_skips : type_of% @closeList_eq_closeAll := @closeList_eq_closeAll
/-- the loop of closeBlocks in the same form, for a list of blocks given top first -/
theorem close_list_discipline : type_of% @closeList_cl := @closeList_cl
/-- one `Close` call: the closed block's node has padding 0 afterwards; only Paragraph nodes can be detached -/
theorem close_one_discipline : type_of% @bpClose_cl := @bpClose_cl
/-- **openBlocks under the close discipline** (parser.go:928-1024): from a clean line start, the invariant holds of the
    new stack; every node built by the call hangs below the parent of the call or below another new node, and no new
    node's parent is a Paragraph (`OW`); if the answer is not `newBlocksOpened` the stack is unchanged. -/
theorem open_blocks_discipline : type_of% @openBlocks_cl := @openBlocks_cl
/-- one pass of the `for i` loop of parseBlocks (parser.go:1081-1123) keeps the close discipline -/
theorem line_loop_discipline : type_of% @GM.Blocks.L.lineLoop_cl := @GM.Blocks.L.lineLoop_cl
/-- the open blocks are consistent with their parsers: the node of an open block has the kind its parser builds and is
    inside the store -/
theorem open_block_kind : type_of% @CInv.kinds := @CInv.kinds

/-! ### the invariant behind it, for use in further proofs -/

/-- **the per-line protocol, as an invariant of `openBlocks`** (parser.go:928-1024): from a state in which every non-raw
    block's lines increase and end at or before `L`, a Paragraph has a line, `temporaryParagraphKey` points to a
    Paragraph and every open block has the kind its parser builds (`Inv src L s`), with the reader standing for a
    cursor at or behind `L`, a normal end of `openBlocks` leaves such a state for a bound `E` that the reader's line end
    has reached — at most one segment per block was appended, behind `L`. For EVERY state, not only reachable ones. -/
theorem open_blocks_keeps_order (src : Bytes) (L : Int) (parent : Nat) (blank : Bool) (s : St) (c : RCur)
    (r' : OpenResult) (s' : St) (hc : Clean src L s c) (h : openBlocks parent blank s = .ok (r', s')) : Dirty src s' :=
  openBlocks_ord L parent blank s c r' s' hc h

/-- **closeBlocks only trims, cuts and copies** (parser.go:900-918): it keeps the invariant for every bound, does not
    move the reader and leaves a sub-list of the open-block stack. -/
theorem close_blocks_keeps_order (src : Bytes) (B : Int) (s s' : St) (frm to : Int) (hi : Inv src B s)
    (hsrc : s.r.source = src) (e : closeBlocks frm to s = .ok ((), s')) :
    Inv src B s' ∧ s'.r = s.r ∧ (∀ b ∈ s'.pc.opened, b ∈ s.pc.opened) ∧ KG s s' :=
  closeBlocks_inv frm to hi hsrc e

/-! ### per parser: the segment each call puts into the tree (from the reader invariant `RI`, every state) -/

/-- paragraphParser.Open (paragraph.go:24-34): nothing, or a parentless Paragraph whose single line is the rest of the
    current source line behind its leading white space: `c.p ≤ start < stop = lineEnd src c.p`, padding 0, no
    ForceNewline. -/
theorem paragraph_open_line : type_of% @paragraphOpen_line := @paragraphOpen_line
/-- paragraphParser.Continue (paragraph.go:36-44): `Close` with nothing changed, or exactly the reader's segment
    `[c.p, lineEnd src c.p)` with the reader's padding is appended, and it holds a byte that is not white space. -/
theorem paragraph_continue_line : type_of% @paragraphContinue_line := @paragraphContinue_line
/-- paragraphParser.Close (paragraph.go:46-64): every line becomes a sub-segment of itself with padding 0 and without
    ForceNewline; lines that held a non-space byte stay non-empty. -/
theorem paragraph_close_lines : type_of% @paragraphClose_lines := @paragraphClose_lines
/-- closed paragraphs are `WF0`: increasing, in-range lines that hold non-space bytes become `WF0` under the trims -/
theorem closed_paragraph_wf0 : type_of% @wf0_of_closed := @wf0_of_closed
/-- atxHeadingParser.Open (atx_heading.go:82-166): no line, or one: `c.p < start < stop ≤ lineEnd src c.p`, padding 0 -/
theorem atx_open_line : type_of% @atxOpen_line := @atxOpen_line
/-- setextHeadingParser.Open (setext_headings.go:55-76): the Heading's (temporary) line is the reader's segment; the
    context key points to the last opened block, a Paragraph that is a child of `parent` -/
theorem setext_open_line : type_of% @setextOpen_line := @setextOpen_line
/-- setextHeadingParser.Close (setext_headings.go:82-118), branch `tmp.Lines().Len() != 0`: the Heading gets exactly
    the paragraph's lines; every other node keeps its lines; kinds never change -/
theorem setext_close_copies : type_of% @setextClose_copy := @setextClose_copy
/-- listParser.Close (list.go:247-279): existing nodes keep lines and kind; every node it adds is a TextBlock carrying
    the lines of a Paragraph of the store -/
theorem list_close_copies : type_of% @listClose_copies := @listClose_copies
/-- `Continue` of the raw leaf parsers writes only its own node (which keeps its kind) -/
theorem code_continue_writes_own_node : type_of% @codeContinue_frn := @codeContinue_frn
theorem fenced_continue_writes_own_node : type_of% @fencedContinue_frn := @fencedContinue_frn
theorem html_continue_writes_own_node : type_of% @htmlContinue_frn := @htmlContinue_frn

/-! ### tests (non-vacuity; examples, not theorems) -/

/-- test: the order predicate accepts increasing lines and rejects overlapping ones -/
example : OrdFrom 0 [{ start := 0, stop := 2 }, { start := 2, stop := 5 }] := ⟨by decide, by decide, trivial⟩
example : ¬ OrdFrom 0 [{ start := 0, stop := 3 }, { start := 2, stop := 5 }] := fun h => absurd h.2.1 (by decide)

/-- test: a source with a lazy continuation line inside a quote, a setext heading and a tight list: three non-raw
    blocks of the final tree carry lines (Paragraph `2:4,4:5`, Heading `7:8`, TextBlock `15:17,19:20`), so
    `inline_lines_ordered` is not vacuous on it -/
example : GM.Proof.BlocksWF0.bearing (strBytes "> a\nb\n\nc\n===\n- d\n  e\n") = 3 := by decide +kernel

/-- test: padded segments do occur in final stores — on raw blocks (`-\t\tcode`: the CodeBlock's one line is `3:8` with
    padding 2), so "padding 0" is a fact about the non-raw blocks only -/
example : (match GM.Blocks.run (strBytes "-\t\tcode\n") with
    | .ok st => st.nodes.any (fun n => isRaw n.kind && n.lines.any (fun t => t.padding != 0))
    | .error _ => false) = true := by decide +kernel

/-- test: a source with an indented code block inside a list item behind tabs (where `preserveLeadingTabInCodeBlock`
    acts), a fenced block inside a quote and an HTML block: the final store has raw blocks with several lines, so
    `raw_lines_ordered` is not vacuous on it, and the Boolean oracle of C05(c) agrees -/
example : (match GM.Blocks.run (strBytes "-\t\ta\n\t\tb\n> ```\n> x\n> y\n<div>\nz\n") with
    | .ok st => (st.nodes.filter (fun n => isRaw n.kind && decide (2 ≤ n.lines.length))).length
    | .error _ => 0) = 3 := by decide +kernel
example : GM.Blocks.checkLines (strBytes "-\t\ta\n\t\tb\n> ```\n> x\n> y\n<div>\nz\n") = "ok" := by decide +kernel

/-- test: `list_shape` is not vacuous: a source with two lists (one nested in a quote) — the store has four ListItem
    nodes, each with a parent -/
example : (match GM.Blocks.run (strBytes "- a\n- b\n\n> 1. c\n> 2. d\n") with
    | .ok st => (st.nodes.filter (fun n => n.kind == .listItem && n.parent.isSome)).length
    | .error _ => 0) = 4 := by decide +kernel

/-- test: `Inv` holds for the state the block phase starts in (the hypothesis of `close_blocks_keeps_order` is
    satisfiable) -/
example : Inv [97] 0 (initSt [97]) where
  nrb := fun i => by
    cases i with
    | zero => exact NodeB.nil _ rfl
    | succ k => exact NodeB.nil _ rfl
  pne := fun i hk => by
    cases i with
    | zero => cases hk
    | succ k => cases hk
  pnb := fun i hk => by
    cases i with
    | zero => cases hk
    | succ k => cases hk
  tmpk := fun t ht => by cases ht
  kinds := fun b hb => by cases hb
  nodes := fun n hn => by
    simp only [initSt, List.mem_singleton] at hn
    subst hn
    exact ⟨(fun t ht => by cases ht), fun _ => rfl⟩

end GM.Props.Wf0
