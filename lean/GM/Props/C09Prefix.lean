/-
  GM.Props.C09Prefix — property C09, first half, for a NON-EMPTY first part `a`: prefix determinism of the block phase
  by a right-extension simulation (GM.Proof.ShiftSimX*), and `GM.Props.C09.IndependentBlocks a h b` for the class
  "`a` ends with a line feed and contains none of the bytes `- * + 0-9 = ` ~`" (every `h`, every `b`).
  Kept apart from GM.Props.C09Shift only because its import closure brings a second type called `Node` into scope.
-/
import GM.Props.C09Shift
import GM.Proof.ShiftSimXPrefix

namespace GM.Props.C09Shift
open GM GM.Text GM.Blocks

/-! ### a NON-EMPTY first part — prefix determinism by a right-extension simulation -/

/-- **Prefix determinism + "closing at the end of the source = closing by a blank line"**, as one statement about two runs
    of the block-phase model: let `a` end with a line feed, contain none of the bytes `- * + 0-9 = ` ~` (so no list
    parser, no setext parser, no fenced-code parser is ever triggered; block quotes, paragraphs, ATX headings, `___`,
    indented code, HTML blocks are allowed), and let the tree of `run a` not end in a raw block. Then the run on
    `a ++ "\n" ++ "# h\n" ++ "\n" ++ b` passes through a `Start` state behind the heading's blank line whose old part is
    the final store of `run a` plus the heading (`PrefixReached`). Proved by a simulation of `run a` against the run on the
    LONGER source (GM.Proof.ShiftSimX*: the shift simulation with a suffix instead of a prefix; the two runs agree while
    run A has a line, every reader call being shown to stay in front of the line's final line feed), followed, when run A
    reaches the end of `a`, by the comparison "run A closes every open block" / "run B reads the blank line, on which the
    first open block does not continue (it is not a raw block: tree criterion `endsInRawBlock`, linked to the open stack by
    the invariant `TopLast`: the first open block is the Document's last child), and closes them with the same call". -/
theorem prefix_reached_plain : type_of% @GM.Blocks.Xs.reach_plain := @GM.Blocks.Xs.reach_plain

/-- **C09 first half for a non-empty first part**: `IndependentBlocks a h b` for EVERY `h`, EVERY `b` and every `a` that
    ends with a line feed and contains none of the bytes `- * + 0-9 = ` ~` (the other provisos — no `[`, no CR, `a` not
    ending in a raw block — are the statement's own). -/
theorem independent_blocks_plain_a (a h b : Bytes) (ha : a.getLast? = some 10)
    (hpl : ∀ c ∈ a, c ≠ 45 ∧ c ≠ 42 ∧ c ≠ 43 ∧ isNumeric c = false ∧ c ≠ 61 ∧ c ≠ 96 ∧ c ≠ 126) :
    ∀ e g, indepPair a h b = some (e, g) → e = g :=
  GM.Blocks.Xs.independent_blocks_plain6 a h b ha hpl

/-- the two classes together: `a` empty, or ending with a line feed and free of list / setext / fence triggers -/
theorem independent_blocks (a h b : Bytes)
    (hclass : a = [] ∨ (a.getLast? = some 10 ∧
      ∀ c ∈ a, c ≠ 45 ∧ c ≠ 42 ∧ c ≠ 43 ∧ isNumeric c = false ∧ c ≠ 61 ∧ c ≠ 96 ∧ c ≠ 126)) :
    ∀ e g, indepPair a h b = some (e, g) → e = g := by
  rcases hclass with rfl | ⟨ha, hpl⟩
  · exact GM.Props.C09Shift.independent_blocks_empty_a_all h b
  · exact independent_blocks_plain_a a h b ha hpl

/-- not vacuous: `a = "> q\n\npara\n"`, `h = "h"`, `b = "- x\n"` -/
example : (indepPair [62, 32, 113, 10, 10, 112, 97, 114, 97, 10] [104] [45, 32, 120, 10]).isSome = true := by
  decide +kernel

/-! ### the POSITIONAL class -/

/-- the positional class of first parts (`GM.Blocks.Xs.PlainL`, GM/Proof/ShiftSimXSafe.lean): for every byte `a[j]` such
    that all bytes of its line in front of it are spaces, tabs or `>`, `a[j]` is none of `- * + 0-9 = ` ~` — i.e. no line
    of `a` starts, after its quote markers and indentation, with a trigger of a list parser, the setext parser or the
    fenced-code parser. Digits, dashes, stars, equal signs, backticks INSIDE lines are allowed. -/
abbrev PositionalClass := @GM.Blocks.Xs.PlainL

/-- an executable test for the class (sound: `positional_check_sound`) -/
abbrev positionalCheck := @GM.Blocks.Xs.plainLB
theorem positional_check_sound : type_of% @GM.Blocks.Xs.plainLB_sound := @GM.Blocks.Xs.plainLB_sound

/-- the byte-level class `GM.Blocks.Xs.Plain6` (of `independent_blocks_plain_a`) is contained in the positional class -/
theorem positional_of_bytes : type_of% @GM.Blocks.Xs.plainL_of_plain6 := @GM.Blocks.Xs.plainL_of_plain6

/-- `PrefixReached` for the positional class (prefix determinism + closing at the end of the source = closing by a blank
    line; the right-extension simulation threads "run A's cursor is trigger-safe": everything of the line in front of
    the cursor is quote markers and spaces, or the rest of the line is blank — so the byte `openBlocks` looks up is the
    first byte of the line that is not ` `, tab or `>`) -/
theorem prefix_reached_positional : type_of% @GM.Blocks.Xs.reach_plainL := @GM.Blocks.Xs.reach_plainL

/-- **C09 first half for the positional class**: every `h`, every `b`, every `a` that ends with a line feed and in which
    no line starts, after its quote markers and indentation, with `- * + 0-9 = ` ~`. -/
theorem independent_blocks_positional (a h b : Bytes) (ha : a.getLast? = some 10) (hpl : PositionalClass a) :
    ∀ e g, indepPair a h b = some (e, g) → e = g :=
  GM.Blocks.Xs.independent_blocks_plainL a h b ha hpl

/-- the same with the executable test -/
theorem independent_blocks_checked (a h b : Bytes) (ha : a.getLast? = some 10) (hc : positionalCheck a = true) :
    ∀ e g, indepPair a h b = some (e, g) → e = g :=
  independent_blocks_positional a h b ha (GM.Blocks.Xs.plainLB_sound a hc)

/-- the classes together: `a` empty, or ending with a line feed and in the positional class -/
theorem independent_blocks_wide (a h b : Bytes) (hclass : a = [] ∨ (a.getLast? = some 10 ∧ PositionalClass a)) :
    ∀ e g, indepPair a h b = some (e, g) → e = g := by
  rcases hclass with rfl | ⟨ha, hpl⟩
  · exact GM.Props.C09Shift.independent_blocks_empty_a_all h b
  · exact independent_blocks_positional a h b ha hpl

/-- not vacuous, with prose that the byte-level class rejects: `a = "> a - 1\n\nb = 2 * `x`\n"`, `h = "h"`, `b = "- x\n"` -/
example : positionalCheck [62, 32, 97, 32, 45, 32, 49, 10, 10, 98, 32, 61, 32, 50, 32, 42, 32, 96, 120, 96, 10] = true := by decide
example : (indepPair [62, 32, 97, 32, 45, 32, 49, 10, 10, 98, 32, 61, 32, 50, 32, 42, 32, 96, 120, 96, 10] [104]
    [45, 32, 120, 10]).isSome = true := by decide +kernel

end GM.Props.C09Shift
