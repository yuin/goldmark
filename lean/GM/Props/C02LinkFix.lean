/-
  Property C02 — goldmark's link-destination scanner, as modelled after the repairs 5e850d1 (an unescaped
  `<` inside `<…>` rejects) and ce3b6c4 (a parenthesis left open rejects), agrees with the specification-side reference
  GM.Spec.CMLink (written from the CommonMark text). The models are tied to the Go code by the components
  inlines / convert (and `parseLinkDestination` is shared with link reference definitions, GM.Model.LinkRef); the inputs of
  the four repaired defects L1, L2, L3, L5 are regression cases of the components cmlink and convert. Helper lemmas: GM/Proof/LinkFix.lean.
-/
import GM.Proof.LinkFix

namespace GM.Props.C02LinkFix
open GM GM.Inl GM.Spec.CMLink GM.Proof.LinkFix

/-- `model_destination_agrees_with_reference`, the `<…>` form (repair 5e850d1). `l` = the bytes of the peeked line behind
    the `<` (no line ending inside; the line's own final line feed is handled by the second theorem's caller, see the example):
    the raw destination `line[1:i]` and the rest behind the `>` that goldmark's `parseLinkDestination` (model `GM.Inl.destAngle`,
    tied by the components inlines / convert) computes are EXACTLY what the specification-side scanner `GM.Spec.CMLink.pointy`
    returns, and one rejects iff the other does — for every such `l`. With `GM.Props.C02Link.pointy_sound` / `pointy_complete`:
    the model accepts exactly the grammar of the first form. -/
theorem model_destination_agrees_with_reference_pointy (l : Bytes) (hnl : ∀ c ∈ l, c ≠ 10) :
    (destAngle l 1).map (fun i => (l.take (i - 1), l.drop i)) = pointy Dev.spec false l :=
  model_pointy_destination_agrees l hnl

/-- `model_destination_agrees_with_reference`, the form without brackets (repair ce3b6c4). On a line whose only white-space
    or control characters are spaces and line feeds (`Clean`; tab, CR and the other control characters are where goldmark and
    the specification still differ: finding `link-destination-control-char-differs`), the scan of `parseLinkDestination`
    (`destPlain` = where it stops, `destOpened` = the parentheses still open there; rejected when that is positive) yields
    exactly the raw destination and the rest that `GM.Spec.CMLink.bare` yields, and rejects exactly when it rejects. -/
theorem model_destination_agrees_with_reference_bare (l : Bytes) (hcl : Clean l) :
    (if destOpened l 0 > 0 then none else some (l.take (destPlain l 0 0), l.drop (destPlain l 0 0))) =
      bare Dev.spec 0 false l :=
  model_bare_destination_agrees l hcl

/-- hence: what the model accepts in the first form satisfies the grammar (no line ending, no unescaped `<` or `>`) … -/
theorem model_pointy_destination_in_grammar (l : Bytes) (hnl : ∀ c ∈ l, c ≠ 10) (i : Nat) (h : destAngle l 1 = some i) :
    l = l.take (i - 1) ++ 62 :: l.drop i ∧ pointyOK false (l.take (i - 1)) = true := by
  have e := model_pointy_destination_agrees l hnl
  rw [h] at e
  exact GM.Proof.CMLink.pointy_sound l false _ _ e.symm

/-- … and in the second form every unescaped parenthesis of the accepted destination belongs to a balanced pair -/
theorem model_bare_destination_balanced (l : Bytes) (hcl : Clean l) (h : ¬ destOpened l 0 > 0) :
    bareDepth 0 false (l.take (destPlain l 0 0)) = some 0 := by
  have e := model_bare_destination_agrees l hcl
  rw [if_neg h] at e
  exact (GM.Proof.CMLink.bare_sound l 0 false _ _ e.symm).2

/-! ### tests on literals (kernel-evaluated): the repaired inputs on the model's scanners -/

/-- L1 `[a](<b<c>)`: behind the `<` the line is `b<c>)` — rejected (before the repair: index 4, destination `b<c`) -/
example : destAngle [98, 60, 99, 62, 41] 1 = none := by decide +kernel
example : destAngle [98, 92, 60, 99, 62, 41] 1 = some 5 := by decide +kernel   -- `b\<c>)`: the escaped `<` is fine
/-- L2 `[a](b(c )`: the scan of `b(c )` stops at the space with one parenthesis open — rejected -/
example : destPlain [98, 40, 99, 32, 41] 0 0 = 3 ∧ destOpened [98, 40, 99, 32, 41] 0 = 1 := by decide +kernel
example : destPlain [98, 40, 99, 41, 41] 0 0 = 4 ∧ destOpened [98, 40, 99, 41, 41] 0 = -1 := by decide +kernel  -- `b(c))`: balanced, stops at the outer `)`
/-- the hypotheses are satisfiable -/
example : Clean [98, 40, 99, 32, 41] := by intro c hc; simp at hc; rcases hc with rfl | rfl | rfl | rfl | rfl <;> decide

end GM.Props.C02LinkFix
