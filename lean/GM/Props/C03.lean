/-
  Property C03 — safe mode emits only inert, well-nested markup from a fixed vocabulary.
  Only property theorems and their non-vacuity examples live here; the proofs are in GM/Proof/RenderWF/.

  Setting: `render (mkRCfg o e) t` is the model of goldmark's HTML renderer (GM.Model.Render, tied to the Go
  code by the `render` correspondence) for a Markdown built with global options `o` and extension set `e`;
  `Spec.Inv` is the decidable tree invariant the parser is relied on to establish (evaluated on every real
  parser output by the harness); `Spec.safeHtmlOK` / `Spec.xmlOK` are the specification-side strict tokenizer
  followed by the structural predicates of the property.
-/
import GM.Proof.RenderWF.Main
import GM.Proof.RenderWF.Tokenize
import GM.Props.Attribute
import GM.Props.ConvertE2E
import GM.Props.Consts.Render
import GM.Props.ConvertE2EAll

namespace GM.Props.C03
open GM GM.Spec

/-- In safe mode, for every option/extension combination and every tree satisfying the invariant, the output
    is accepted by the strict tokenizer and is well nested, uses only the renderer's tags and per-tag allowed
    (or `data-*`) attribute names, has inert text and attribute values (no raw `<` in text, no raw `"` in
    values, every `&` starts a well-formed character reference, the only comment is the placeholder), and
    writes void elements in the style of the output mode. -/
theorem safe_wf (o : Opts) (e : Exts) (t : Node) (hsafe : o.unsafe_ = false)
    (hinv : Spec.Inv (mkRCfg o e) t = true) :
    Spec.safeHtmlOK o.xhtml (render (mkRCfg o e) t) = true :=
  Proof.RenderWF.safeHtmlOK_of_wf (Proof.RenderWF.render_wf o e t hsafe hinv)

/-- The same for any state of the node renderers (in particular with non-default footnote options whose
    strings are inert, which `Inv` requires): safe mode, and the core / task-list / footnote copies of the XHTML
    flag agree. -/
theorem safe_wf_rc (x : Bool) (rc : RCfg) (t : Node) (hsafe : rc.core.unsafe_ = false)
    (hcore : rc.core.xhtml = x) (htask : rc.task.xhtml = x) (hfoot : rc.foot.xhtml = x)
    (hinv : Spec.Inv rc t = true) : Spec.safeHtmlOK x (render rc t) = true ∧ Spec.xmlOK (render rc t) = true :=
  have h := Proof.RenderWF.render_wf_rc x rc hsafe hcore htask hfoot t hinv
  ⟨Proof.RenderWF.safeHtmlOK_of_wf h, Proof.RenderWF.xmlOK_of_wf h⟩

/-- The same output, read as a word of the inductive grammar `WFHtml` (inert text, the placeholder comment,
    void elements, elements around a well-formed body, concatenation) — the specification in generative form. -/
theorem safe_wf_grammar (o : Opts) (e : Exts) (t : Node) (hsafe : o.unsafe_ = false)
    (hinv : Spec.Inv (mkRCfg o e) t = true) :
    Proof.RenderWF.WFHtml o.xhtml (render (mkRCfg o e) t) :=
  Proof.RenderWF.render_wf o e t hsafe hinv

/-- Soundness of the strict tokenizer for the grammar: every grammar word tokenizes and satisfies every
    structural predicate (this is what connects the two formulations above). -/
theorem grammar_sound (x : Bool) (b : Bytes) (h : Proof.RenderWF.WFHtml x b) :
    Spec.safeHtmlOK x b = true ∧ Spec.xmlOK b = true :=
  ⟨Proof.RenderWF.safeHtmlOK_of_wf h, Proof.RenderWF.xmlOK_of_wf h⟩

/-- With XHTML output the result is additionally well-formed XML as far as the token structure goes: no `<`
    in attribute values and no attribute name twice in a start tag (all voids self-closed is part of
    `safe_wf`). Representability of the characters in XML is the property's own proviso. -/
theorem safe_xhtml_xml (o : Opts) (e : Exts) (t : Node) (hsafe : o.unsafe_ = false) (_hx : o.xhtml = true)
    (hinv : Spec.Inv (mkRCfg o e) t = true) : Spec.xmlOK (render (mkRCfg o e) t) = true :=
  Proof.RenderWF.xmlOK_of_wf (Proof.RenderWF.render_wf o e t hsafe hinv)

/-- Under the invariant no node renderer function panics (heading level index, CodeSpan child type
    assertion, table-cell style type assertion). -/
theorem inv_noPanic (rc : RCfg) (t : Node) (hinv : Spec.Inv rc t = true) : renderPanics rc t = none :=
  Proof.RenderWF.inv_noPanic rc t hinv

/-- Option propagation is complete: after initialisation every per-renderer copy of html.Config equals the
    default configuration updated with the global options. -/
theorem propagation_complete (o : Opts) (e : Exts) :
    (mkRCfg o e).core = ({} : HCfg).setOpts o ∧ (mkRCfg o e).task = ({} : HCfg).setOpts o ∧
    (mkRCfg o e).strike = ({} : HCfg).setOpts o ∧ (mkRCfg o e).dl = ({} : HCfg).setOpts o ∧
    (mkRCfg o e).foot = ({} : HCfg).setOpts o ∧ (mkRCfg o e).table = ({} : HCfg).setOpts o :=
  Proof.RenderWF.propagation_complete o e

/-! ### the `noClash` clause of the invariant is needed (finding)

A tree that satisfies every other clause of `Inv` but carries, through the public AST API, an attribute whose
name the renderer function also writes itself (`start` on an ordered list here) renders the attribute twice:
`<ol start="2" start="5">`. The output still passes `safeHtmlOK` but is not well-formed XML. The parsers only
attach attributes to headings, which have no fixed attributes, so parser output satisfies `noClash`. -/

def clashTree : Node := .mk (.list true 2) (some [⟨strBytes "start", some [53]⟩]) []

/-- witness: without `noClash` the XML clause fails -/
theorem xml_needs_noClash_witness :
    Spec.attrsInv clashTree.attrs = true ∧ Spec.noClash clashTree.kind clashTree.attrs = false ∧
    Spec.safeHtmlOK true (render (mkRCfg { xhtml := true } {}) clashTree) = true ∧
    Spec.xmlOK (render (mkRCfg { xhtml := true } {}) clashTree) = false := by
  decide +kernel

/-! ### the attribute clauses of `Inv` hold of what the attribute parser produces

`Inv` of parser output is otherwise monitored, not proved. For the only place where the parsers attach attributes
(headings, with parser.WithAttribute / WithAutoHeadingID) the attribute clauses are theorems about the model of
parser/attribute.go and the heading glue: names lexically valid for EVERY source, pairwise distinct on the node. -/
theorem attribute_names_valid : type_of% @GM.Props.Attribute.parseAttributes_names_valid := @GM.Props.Attribute.parseAttributes_names_valid
theorem attribute_names_distinct : type_of% @GM.Props.Attribute.setAttribute_names_distinct := @GM.Props.Attribute.setAttribute_names_distinct
theorem attribute_heading_node_inv : type_of% @GM.Props.Attribute.heading_node_inv := @GM.Props.Attribute.heading_node_inv
theorem attribute_setext_close_inv : type_of% @GM.Props.Attribute.setext_close_attrs_inv := @GM.Props.Attribute.setext_close_attrs_inv

/-! ### non-vacuity (tests on literals) -/

def sampleTree : Node :=
  .mk .document none [
    .mk (.heading 2) (some [⟨strBytes "id", some (strBytes "a<b")⟩]) [.mk (.text (strBytes "x & <y>") false false false false) none []],
    .mk .paragraph none [
      .mk (.link (strBytes "javascript:x") (some (strBytes "t\"")) ) none [.mk (.text (strBytes "l") true false false false) none []],
      .mk (.image (strBytes "/i") none) none [.mk (.text (strBytes "alt") false true false false) none []],
      .mk (.rawHTML [strBytes "<b>"]) none []],
    .mk .table none [
      .mk .tableHeader none [.mk (.tableCell 0) none []],
      .mk .tableRow none [.mk (.tableCell 3) none []]]]

example : Spec.Inv (mkRCfg { xhtml := true } { table := true }) sampleTree = true := by decide +kernel
example : Spec.safeHtmlOK true (render (mkRCfg { xhtml := true } { table := true }) sampleTree) = true := by
  decide +kernel
example : (render (mkRCfg {} { table := true }) sampleTree).length > 100 := by decide +kernel

/-- (re-export of `GM.Props.ConvertE2E.convert_safe_wellformed`) `convert_safe_wellformed`. For EVERY source and Unicode class assignment, XHTML and HardWraps on or off: when
    `convertCore` answers HTML in safe mode (`Unsafe` off), the HTML is accepted by the strict tokenizer, is well nested,
    uses only the renderer's tags and per-tag allowed attribute names, has inert text and attribute values (no raw `<`
    in text, no raw `"` in values, every `&` starts a well-formed character reference, the only comment is the
    placeholder), writes void elements in the style of the output mode (`Spec.safeHtmlOK`, the conclusion of C03
    `safe_wf`) — and its token structure is well-formed XML (`Spec.xmlOK`, the conclusion of `safe_xhtml_xml`; with XHTML
    on all void elements are self-closed as part of `safeHtmlOK true`). -/
theorem convert_safe_wellformed : type_of% @GM.Props.ConvertE2E.convert_safe_wellformed := @GM.Props.ConvertE2E.convert_safe_wellformed

/-- (re-export of `GM.Props.ConvertE2E.convert_safe_grammar`) the same output as a word of the inductive grammar `WFHtml` (C03 `safe_wf_grammar`) -/
theorem convert_safe_grammar : type_of% @GM.Props.ConvertE2E.convert_safe_grammar := @GM.Props.ConvertE2E.convert_safe_grammar

/-- (re-export of `GM.Props.ConvertE2E.parser_output_satisfies_inv`) `parser_output_satisfies_inv` (what C03 monitors on generated documents, as a theorem). For EVERY source, Unicode
    class assignment and option set: the tree the parse phases hand to the renderer satisfies `Spec.Inv` — heading
    levels 1..6, CodeSpan children are Text, no attributes (hence no invalid / duplicate / clashing attribute name), no
    code-flagged String, no table node outside its place; the footnote strings of the renderer state are the inert
    defaults. -/
theorem parser_output_satisfies_inv : type_of% @GM.Props.ConvertE2E.parser_output_satisfies_inv := @GM.Props.ConvertE2E.parser_output_satisfies_inv

/-- (re-export of `GM.Props.ConvertE2E.block_store_heading_levels`) `block_store_heading_levels` (`GM.E2E.HeadOK`). For EVERY source: in the node store the block phase (with the
    link-reference paragraph transformer, guarded or not) returns, every Heading node — reachable from the Document or
    not — has `1 ≤ Level ≤ 6`. The level is fixed at creation (ATX: the length of the `#` run, declined above 6; setext:
    1 or 2) and no step of the block phase writes a node's kind or level afterwards. -/
theorem block_store_heading_levels : type_of% @GM.Props.ConvertE2E.block_store_heading_levels := @GM.Props.ConvertE2E.block_store_heading_levels

/-- (re-export of `GM.Props.ConvertE2E.store_inv_gives_tree_inv`) `store_inv_gives_tree_inv`: from `GM.E2E.HeadOK` of ANY block store to the invariant of the tree `docTree` builds from
    it (the inline clauses — CodeSpan children are Text, no bookkeeping node, no attributes, no String / table node —
    come from the shape theorem of the inline phase, `GM.Props.Inlines.codespan_holds_text` & co.). -/
theorem store_inv_gives_tree_inv : type_of% @GM.Props.ConvertE2E.store_inv_gives_tree_inv := @GM.Props.ConvertE2E.store_inv_gives_tree_inv

/-- every literal the node renderers write, and the constants the renderer model names, are the model's -/
theorem consts_rendered_literals_tied : GM.Spec.Consts.allOk GM.Spec.Consts.renderedLiterals = true := GM.Props.Consts.Render.rendered_literals_tied
/-- package constants for which a model has its own definition (incl. bufio's 4096) have the model's value -/
theorem consts_named_constants_tied : GM.Spec.Consts.allOk GM.Spec.Consts.namedConstants = true := GM.Props.Consts.Render.named_constants_tied

/-- (re-export of `GM.Props.ConvertE2EAll.convert_safe_wellformed_total`) **`convert_safe_wellformed_total`** — C03 END TO END, no hypothesis on the source: for EVERY byte string and Unicode-class
    assignment, XHTML and HardWraps on or off, in safe mode (`Unsafe` off) `convertCore` answers HTML, and that HTML is accepted by
    the strict tokenizer, well nested, uses only the renderer's tags and per-tag allowed attribute names, has inert text and
    attribute values, writes void elements in the style of the output mode (`Spec.safeHtmlOK`), and its token structure is
    well-formed XML (`Spec.xmlOK`). -/
theorem convert_safe_wellformed_total : type_of% @GM.Props.ConvertE2EAll.convert_safe_wellformed_total := @GM.Props.ConvertE2EAll.convert_safe_wellformed_total

/-- (re-export of `GM.Props.ConvertE2EAll.convert_safe_grammar_total`) the same output as a word of the inductive grammar `WFHtml` -/
theorem convert_safe_grammar_total : type_of% @GM.Props.ConvertE2EAll.convert_safe_grammar_total := @GM.Props.ConvertE2EAll.convert_safe_grammar_total

end GM.Props.C03
