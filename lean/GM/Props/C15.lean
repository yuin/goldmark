/-
  Property C15 — auto heading ids are present, non-empty and unique within a document, and depend on that
  document only. Theorems are about the model GM.Model.Ids of parser/parser.go:65-118 (`ids.Generate/Put`),
  of the per-`Context` table (parser/parser.go:234-252, :868-871) and of the heading parsers' one
  `Generate(lastLine, KindHeading)` per closed heading (atx_heading.go:171-206, setext_headings.go:108-118).
  "Presence" (every h1-h6 carries the id) is a fact about parser+renderer, tied by the document-level
  correspondence/oracle run of component `ids`, not a theorem.
-/
import GM.Model.Ids
import GM.Proof.Ids
import GM.Props.C15E2E
import GM.Props.ConvertE2EAll
import GM.Props.C15Total

namespace GM.Props.C15
open GM GM.Ids

/-- The probing loop `for i := 1; ; i++` always stops: `Generate` returns (the model's bound `|used|+1` on
    the number of probes is never exhausted), and it inserts exactly the returned id. -/
theorem generate_terminates (used : Tbl) (value : Bytes) (isHeading : Bool) :
    ∃ id, generate used value isHeading = some (id, id :: used) := Proof.Ids.generate_isSome used value isHeading

/-- …and it stops at the first free candidate, some `i ≤ |used| + 1` (pigeonhole): the result is the slug
    itself or `slug-i` where `slug-1 … slug-(i-1)` are all taken. -/
theorem generate_probe_bound (used : Tbl) (value : Bytes) (isHeading : Bool) (id : Bytes) (used' : Tbl)
    (h : generate used value isHeading = some (id, used')) :
    id = base value isHeading ∨ ∃ i, 1 ≤ i ∧ i ≤ used.length + 1 ∧ id = cand (base value isHeading) i ∧
      ∀ j, 1 ≤ j → j < i → cand (base value isHeading) j ∈ used := Proof.Ids.generate_bound h

/-- The id returned by `Generate` was not in the table before and is in it afterwards (and nothing is forgotten). -/
theorem generate_fresh (used : Tbl) (value : Bytes) (isHeading : Bool) (id : Bytes) (used' : Tbl)
    (h : generate used value isHeading = some (id, used')) :
    id ∉ used ∧ id ∈ used' ∧ ∀ x ∈ used, x ∈ used' := by
  obtain ⟨h1, h2, _⟩ := Proof.Ids.generate_spec h
  subst h2
  exact ⟨h1, by simp, fun x hx => by simp [hx]⟩

/-- `Generate` never returns an empty id. -/
theorem generate_nonempty (used : Tbl) (value : Bytes) (isHeading : Bool) (id : Bytes) (used' : Tbl)
    (h : generate used value isHeading = some (id, used')) : id ≠ [] := (Proof.Ids.generate_spec h).2.2

/-- For every list of heading texts: the document gets one id per heading, all non-empty and pairwise
    different (whatever the texts: repeated, empty, non-ASCII, `a, a, a-1`, …). -/
theorem ids_pairwise_distinct (texts : List Bytes) :
    ∃ ids, docIds texts = some ids ∧ ids.length = texts.length ∧ ids.Nodup ∧ ∀ id ∈ ids, id ≠ [] := by
  obtain ⟨ids, h⟩ := Proof.Ids.run_isSome (texts.map fun t => Op.gen t true) []
  obtain ⟨h1, _, h3⟩ := Proof.Ids.run_fresh _ _ _ h
  refine ⟨ids, h, ?_, h1, h3⟩
  have := Proof.Ids.run_length _ _ _ h
  have e : List.filter (fun _ => true) texts = texts := List.filter_eq_self.2 (fun _ _ => rfl)
  simpa [List.filter_map, Function.comp_def, e] using this

/-- The same for any interleaving of `Generate` (any node kind) and `Put` (explicit ids registered by
    attribute syntax) started on any table: generated ids are pairwise different, non-empty, and different
    from everything that was in the table at the start. -/
theorem ids_ops_distinct (used : Tbl) (ops : List Op) :
    ∃ ids, run used ops = some ids ∧ ids.Nodup ∧ (∀ id ∈ ids, id ∉ used) ∧ ∀ id ∈ ids, id ≠ [] := by
  obtain ⟨ids, h⟩ := Proof.Ids.run_isSome ops used
  exact ⟨ids, h, Proof.Ids.run_fresh _ _ _ h⟩

/-- The ids of a document are a function of that document's heading texts only: whatever was converted
    before or after on the same instance (each `Parse` creates its own table), the n-th document gets
    `docIds` of its own texts. -/
theorem ids_doc_local (before after : List (List Bytes)) (texts : List Bytes) :
    (convertAll (before ++ texts :: after))[before.length]? = some (docIds texts) := by
  simp [convertAll]

/-! ### tests on literals (not theorems): the adversarial suffix collision, empty / non-ASCII / punctuation-only texts.
  Bytes: a=97 A=65 b=98 c=99 D=68 '-'=45 '1'=49 '2'=50 ' '=32 '_'=95 '!'=33, é = C3 A9, "heading" = headingDefault -/

-- a, a, a-1  ↦  a, a-1, a-1-1
example : docIds [[97], [97], [97, 45, 49]] = some [[97], [97, 45, 49], [97, 45, 49, 45, 49]] := by decide
-- a-1, a, a  ↦  a-1, a, a-2
example : docIds [[97, 45, 49], [97], [97]] = some [[97, 45, 49], [97], [97, 45, 50]] := by decide
-- "", é, !!!, Heading  ↦  heading, heading-1, heading-2, heading-3
example : docIds [[], [0xC3, 0xA9], [33, 33, 33], [72, 101, 97, 100, 105, 110, 103]] =
    some [headingDefault, headingDefault ++ [45, 49], headingDefault ++ [45, 50], headingDefault ++ [45, 51]] := by decide
-- " A b_c-D " ↦ a-b-c-d ; the invalid lead byte 0x80 swallows the rest of the line (utf8lenTable = 99)
example : docIds [[32, 65, 32, 98, 95, 99, 45, 68, 32], [0x80, 97]] =
    some [[97, 45, 98, 45, 99, 45, 100], headingDefault] := by decide
-- the hypothesis of `generate_fresh` is satisfiable and the probing branch is exercised
example : generate [[97, 45, 49], [97]] [65] true = some ([97, 45, 50], [[97, 45, 50], [97, 45, 49], [97]]) := by decide

/-! ### end to end (GM.Props.C15E2E): the heading parsers call the generator, the renderer writes the id — inside the
  composed model `GM.ConvertH.convertH true` of `goldmark.New(WithParserOptions(WithAutoHeadingID()), …).Convert`
  (`type_of%` restates the exact statement; see GM.Props.C15E2E for the doc comments) -/
theorem e2e_converth_off_is_core : type_of% @GM.Props.C15E2E.converth_off_is_core := @GM.Props.C15E2E.converth_off_is_core
theorem e2e_converth_block_phase_projects : type_of% @GM.Props.C15E2E.converth_block_phase_projects := @GM.Props.C15E2E.converth_block_phase_projects
theorem e2e_converth_never_loops : type_of% @GM.Props.C15E2E.converth_never_loops := @GM.Props.C15E2E.converth_never_loops
theorem e2e_attributes_are_generated_ids : type_of% @GM.Props.C15E2E.attributes_are_generated_ids := @GM.Props.C15E2E.attributes_are_generated_ids
theorem e2e_every_heading_has_id : type_of% @GM.Props.C15E2E.every_heading_has_id := @GM.Props.C15E2E.every_heading_has_id
theorem e2e_heading_ids_nonempty : type_of% @GM.Props.C15E2E.heading_ids_nonempty := @GM.Props.C15E2E.heading_ids_nonempty
theorem e2e_heading_ids_alphabet : type_of% @GM.Props.C15E2E.heading_ids_alphabet := @GM.Props.C15E2E.heading_ids_alphabet
theorem e2e_heading_ids_distinct_by_node : type_of% @GM.Props.C15E2E.heading_ids_distinct_by_node := @GM.Props.C15E2E.heading_ids_distinct_by_node
theorem e2e_heading_ids_pairwise_distinct : type_of% @GM.Props.C15E2E.heading_ids_pairwise_distinct := @GM.Props.C15E2E.heading_ids_pairwise_distinct
theorem e2e_heading_ids_table_fed_in_close_order : type_of% @GM.Props.C15E2E.heading_ids_table_fed_in_close_order := @GM.Props.C15E2E.heading_ids_table_fed_in_close_order
theorem e2e_heading_start_tag_rendered : type_of% @GM.Props.C15E2E.heading_start_tag_rendered := @GM.Props.C15E2E.heading_start_tag_rendered
theorem e2e_heading_ids_rendered : type_of% @GM.Props.C15E2E.heading_ids_rendered := @GM.Props.C15E2E.heading_ids_rendered
theorem e2e_c15_end_to_end : type_of% @GM.Props.C15E2E.c15_end_to_end := @GM.Props.C15E2E.c15_end_to_end
theorem e2e_headings_always_closed : type_of% @GM.Props.C15E2E.headings_always_closed := @GM.Props.C15E2E.headings_always_closed
theorem e2e_headings_always_once : type_of% @GM.Props.C15E2E.headings_always_once := @GM.Props.C15E2E.headings_always_once
theorem e2e_block_phase_close_discipline : type_of% @GM.Props.C15E2E.block_phase_close_discipline := @GM.Props.C15E2E.block_phase_close_discipline
theorem e2e_heading_ids_document_local : type_of% @GM.Props.C15E2E.heading_ids_document_local := @GM.Props.C15E2E.heading_ids_document_local

/-- (re-export of `GM.Props.ConvertE2EAll.converth_total_of_block_phase`) **`converth_total_of_block_phase`** — everything BEHIND the block phase is total for the AutoHeadingID configuration: whenever
    the block phase with the option returns a state, `convertH true` answers HTML, for every Unicode-class assignment and option
    set (the inline phase on every block of the tree, every `Segment.Value` of the tree conversion, every node renderer — the
    generated `id` attributes form a legal, clash-free attribute list, so `Spec.Inv` holds of the tree). -/
theorem converth_total_of_block_phase : type_of% @GM.Props.ConvertE2EAll.converth_total_of_block_phase := @GM.Props.ConvertE2EAll.converth_total_of_block_phase

/-- (re-export of `GM.Props.ConvertE2EAll.converth_total_or_value_panic`) **`converth_total_or_value_panic`** — for EVERY byte string, Unicode-class assignment and option set: `convertH true` answers
    HTML, or its block phase ended in the ONE panic this theorem does not exclude (`GM.Props.C15Total.converth_total` does): `lastLine.Value(reader.Source())` inside
    `generateAutoHeadingID` (atx_heading.go:203) — never fuel exhaustion, never a panic `convertCore`'s block phase has (it has
    none: `block_phase_total`), never an error of the inline phase, the tree conversion or a node renderer. -/
theorem converth_total_or_value_panic : type_of% @GM.Props.ConvertE2EAll.converth_total_or_value_panic := @GM.Props.ConvertE2EAll.converth_total_or_value_panic

/-- (re-export of `GM.Props.ConvertE2EAll.c15_end_to_end_of_block_phase`) **`c15_end_to_end_of_block_phase`** — C15 END TO END with totality behind the block phase: whenever the block phase with the
    option returns, `convertH true` answers HTML `html`, `html` is the rendering of the parsed tree, and for the Heading nodes
    the renderer visits, in document order: the attribute lists are exactly `id = v`, pairwise DISTINCT; every `v` is NON-EMPTY
    and consists of `a-z 0-9 -`; the start tag `<hN id="v">` is a contiguous part of `html`. -/
theorem c15_end_to_end_of_block_phase : type_of% @GM.Props.ConvertE2EAll.c15_end_to_end_of_block_phase := @GM.Props.ConvertE2EAll.c15_end_to_end_of_block_phase

/-- (re-export of `GM.Props.ConvertE2EAll.c15_end_to_end_or_value_panic`) **`c15_end_to_end_or_value_panic`**: for EVERY source either all of C15's conclusions hold of the HTML `convertH true` answers,
    or the block phase hit the `Segment.Value` panic of `generateAutoHeadingID` -/
theorem c15_end_to_end_or_value_panic : type_of% @GM.Props.ConvertE2EAll.c15_end_to_end_or_value_panic := @GM.Props.ConvertE2EAll.c15_end_to_end_or_value_panic

/-- (re-export of `GM.Props.C15Total.converth_total`) **`converth_total`** — C01 for the AutoHeadingID configuration: for EVERY byte string, Unicode-class assignment and
    renderer option set, `convertH true` (the model of `goldmark.New(WithParserOptions(WithAutoHeadingID()), …).Convert`, tied
    byte for byte by component `converth`) answers HTML: no Go run-time panic, no fuel exhaustion, no monitor, no guard. -/
theorem e2e_converth_total : type_of% @GM.Props.C15Total.converth_total := @GM.Props.C15Total.converth_total

/-- (re-export of `GM.Props.C15Total.c15_end_to_end_total`) **`c15_end_to_end_total`** — C15 END TO END, TOTAL: for EVERY byte string `convertH true` answers HTML `html`; `html` is the
    rendering of the parsed tree; for the Heading nodes the renderer visits, in document order, the attribute lists are exactly
    `id = v`, pairwise DISTINCT; every `v` is NON-EMPTY and consists of `a-z 0-9 -`; the start tag `<hN id="v">` is a contiguous
    part of `html`. -/
theorem e2e_c15_end_to_end_total : type_of% @GM.Props.C15Total.c15_end_to_end_total := @GM.Props.C15Total.c15_end_to_end_total

/-- (re-export of `GM.Props.C15Total.monitored_block_phase_total`) **the monitored block driver is total for every byte string** (and every line segment of the store it returns lies inside
    the source): the heading's last line is inside the source at the moment `Close` runs -/
theorem e2e_monitored_block_phase_total : type_of% @GM.Props.C15Total.monitored_block_phase_total := @GM.Props.C15Total.monitored_block_phase_total

/-- (re-export of `GM.Props.C15Total.block_phase_h_total`) **the block phase with AutoHeadingID is total**: the strict form of `converth_block_phase_projects` — it returns exactly
    when (always) `convertCore`'s block phase returns, in the same store -/
theorem e2e_block_phase_h_total : type_of% @GM.Props.C15Total.block_phase_h_total := @GM.Props.C15Total.block_phase_h_total

end GM.Props.C15
