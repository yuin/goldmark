/-
  Property C13 — the AST mutation API and Walk behave like a plain ordered tree.

  Model: GM.Model.AstHeap (ast/ast.go:179-371, 483-527 transcribed onto a pointer heap).
  Spec:  GM.Spec.Forest (node ↦ ordered list of children; textbook DFS on the unfolded tree).
  Only property theorems and their non-vacuity examples live here; helper lemmas are in GM/Proof/Ast*.lean.

  Reading guide: `Abs h f` = every pointer field of heap `h` agrees with the forest `f`;
  `Pre f op` = the proviso of C13 for one call (the inserted node is not the target parent nor one of
  its ancestors, and is not the reference node; no nil where Go would dereference it);
  `Bounded n f`/`OpIn n op` = the nodes involved are among the `n` allocated ones (only used to size the fuel).
-/
import GM.Proof.AstWalk

namespace GM.Props.C13
open GM.Spec GM.Spec.Forest GM.AstHeap GM.Proof.AstHeap

/-! ## refinement -/

/-- One call. On a heap that represents a forest, every one of the seven mutators, called within the
    proviso, does not panic, does not run out of fuel, and yields a heap that represents exactly the
    forest the list-of-children meaning of the call gives. -/
theorem step_refines {h : Heap} {f : Forest} (A : Abs h f) {op : Op} (hpre : Pre f op)
    {fuel : Nat} (hfuel : ∀ p, (f p).length < fuel) :
    ∃ h', step fuel h op = .ok h' ∧ Abs h' (specStep f op) :=
  Proof.AstHeap.step_refines A hpre hfuel

/-- Any finite sequence of calls (induction over the sequence), starting from any represented forest over
    `n` allocated nodes, with any fuel above `n`: no panic, no fuel exhaustion, and the final heap
    represents the forest obtained by running the spec. -/
theorem run_refines {n fuel : Nat} (hn : n < fuel) (ops : List Op) {h : Heap} {f : Forest}
    (A : Abs h f) (B : Bounded n f) (hpre : PreAll f ops) (hin : ∀ op ∈ ops, OpIn n op) :
    ∃ h', run fuel h ops = .ok h' ∧ Abs h' (specRun f ops) :=
  let ⟨h', e, A', _⟩ := Proof.AstHeap.run_refines hn ops A B hpre hin
  ⟨h', e, A'⟩

/-- The same from freshly allocated nodes (all links nil), which is how every AST starts. -/
theorem run_refines_fresh {n fuel : Nat} (hn : n < fuel) (ops : List Op)
    (hpre : PreAll Forest.empty ops) (hin : ∀ op ∈ ops, OpIn n op) :
    ∃ h', run fuel Heap.empty ops = .ok h' ∧ Abs h' (specRun Forest.empty ops) :=
  run_refines hn ops abs_empty (bounded_empty n) hpre hin

/-- No loop of the model exhausts its fuel (= the Go loops terminate) and nothing panics, for every
    call sequence within the proviso over `n` nodes, whenever the fuel exceeds `n`. -/
theorem fuel_suffices {n fuel : Nat} (hn : n < fuel) (ops : List Op)
    (hpre : PreAll Forest.empty ops) (hin : ∀ op ∈ ops, OpIn n op) (e : Fault) :
    run fuel Heap.empty ops ≠ .error e := by
  obtain ⟨h', he, _⟩ := run_refines_fresh hn ops hpre hin
  rw [he]; intro hc; cases hc

/-- The proviso keeps the forest acyclic (this is what makes Walk and every parent-chain loop terminate). -/
theorem run_acyclic {n fuel : Nat} (hn : n < fuel) (ops : List Op)
    (hpre : PreAll Forest.empty ops) (hin : ∀ op ∈ ops, OpIn n op) :
    Acyclic (specRun Forest.empty ops) :=
  specRun_acyclic ops hn abs_empty (bounded_empty n) acyclic_empty hpre hin

/-! ## observers: what the accessors return is what the list model says -/

/-- ChildCount is the length of the child list. -/
theorem childCount_eq {h : Heap} {f : Forest} (A : Abs h f) (p : Nat) :
    childCount h p = (f p).length := A.count p

/-- HasChildren says whether the child list is non-empty. -/
theorem hasChildren_eq {h : Heap} {f : Forest} (A : Abs h f) (p : Nat) :
    hasChildren h p = !(f p).isEmpty := by
  simp only [hasChildren, A.first]; cases f p <;> rfl

/-- FirstChild / LastChild are the ends of the child list. -/
theorem firstChild_eq {h : Heap} {f : Forest} (A : Abs h f) (p : Nat) :
    firstChild h p = (f p).head? := A.first p
theorem lastChild_eq {h : Heap} {f : Forest} (A : Abs h f) (p : Nat) :
    lastChild h p = (f p).getLast? := A.last p

/-- NextSibling / PreviousSibling of a child are its neighbours in its parent's list
    (so walking forward from FirstChild or backward from LastChild spells the list). -/
theorem nextSibling_eq {h : Heap} {f : Forest} (A : Abs h f) {c p : Nat} (hc : c ∈ f p) :
    nextSibling h c = nextIn (f p) c := A.next c p hc
theorem previousSibling_eq {h : Heap} {f : Forest} (A : Abs h f) {c p : Nat} (hc : c ∈ f p) :
    previousSibling h c = prevIn (f p) c := A.prev c p hc

/-- Parent is the derived parent: `p` exactly when `c` is in `p`'s list; a node in no list has no
    parent and no siblings. Child lists have no duplicates and are pairwise disjoint. -/
theorem parent_eq {h : Heap} {f : Forest} (A : Abs h f) (c p : Nat) :
    parentNode h c = some p ↔ c ∈ f p := A.parent c p
theorem parent_derived {h : Heap} {f : Forest} (A : Abs h f) {n c p : Nat} (hp : p < n)
    (hc : parentNode h c = some p) : parentOf n f c = some p := parentOf_eq A hp hc
theorem orphan_links {h : Heap} {f : Forest} (A : Abs h f) {c : Nat} (hc : ∀ p, c ∉ f p) :
    parentNode h c = none ∧ nextSibling h c = none ∧ previousSibling h c = none := by
  have hp : h.parent c = none := by
    cases hh : h.parent c with
    | none => rfl
    | some p => exact absurd ((A.parent c p).1 hh) (hc p)
  exact ⟨hp, A.orphan c hp⟩
theorem child_lists_disjoint {h : Heap} {f : Forest} (A : Abs h f) {c p q : Nat}
    (hp : c ∈ f p) (hq : c ∈ f q) : p = q ∧ (f p).Nodup := ⟨A.disjoint hp hq, A.nodup p⟩

/-! ## SortChildren's list meaning -/

/-- SortChildren rearranges, never loses or duplicates children — for every comparator. -/
theorem sort_perm (cmp : Nat → Nat → Int) (l : List Nat) : (sortList cmp l).Perm l :=
  Proof.ForestLists.perm_sortList cmp l

/-- With a total preorder comparator the result is sorted. -/
theorem sort_sorted {cmp : Nat → Nat → Int} (tot : ∀ a b, cmp a b < 0 ∨ cmp b a ≤ 0)
    (trans : ∀ a b c, cmp a b ≤ 0 → cmp b c ≤ 0 → cmp a c ≤ 0) (l : List Nat) :
    (sortList cmp l).Pairwise (fun a b => cmp a b ≤ 0) :=
  Proof.ForestLists.sorted_sortList tot trans l

/-! ## Walk -/

/-- Walk on a heap representing `f`, from the root of a tree `t` that unfolds `f`, makes exactly the
    visitor calls of the textbook depth-first traversal of `t` (with skip / stop / error) and returns
    its error; fuel `2·size t` is enough. -/
theorem walk_eq_dfs {h : Heap} {f : Forest} (A : Abs h f) (s : Script) (t : Tree) (ht : Tree.IsTree f t)
    {fuel : Nat} (hf : 2 * t.size ≤ fuel) : walk fuel h s t.id = .ok (dfs s t) :=
  Proof.AstHeap.walk_eq_dfs A s t ht hf

/-- After any call sequence within the proviso over `n` allocated nodes, every node `root < n` is the root
    of a finite tree unfolding the forest (of at most `n` nodes), and Walk from it — with any fuel of at
    least `2·n`, in particular the driver's — is the textbook traversal of that tree: no fuel exhaustion,
    i.e. the Go recursion terminates. -/
theorem walk_after_run {n fuel : Nat} (hn : n < fuel) (ops : List Op)
    (hpre : PreAll Forest.empty ops) (hin : ∀ op ∈ ops, OpIn n op) (s : Script) {root : Nat} (hroot : root < n) :
    ∃ h t, run fuel Heap.empty ops = .ok h ∧ Tree.IsTree (specRun Forest.empty ops) t ∧ t.id = root ∧
      t.size ≤ n ∧ ∀ wfuel, 2 * n ≤ wfuel → walk wfuel h s root = .ok (dfs s t) := by
  obtain ⟨h, he, A, B⟩ := Proof.AstHeap.run_refines hn ops abs_empty (bounded_empty n) hpre hin
  have hA := run_acyclic hn ops hpre hin
  obtain ⟨t, ht, hid⟩ := exists_tree hA root
  have hsz : t.size ≤ n := tree_size_le A hA B ht (hid ▸ hroot)
  exact ⟨h, t, he, ht, hid, hsz, fun wfuel hw => hid ▸ Proof.AstHeap.walk_eq_dfs A s t ht (by omega)⟩

/-- A visitor that never skips, stops or fails sees every node entered once and left once, children
    between the two calls, in list order. -/
theorem dfs_enter_leave_once {s : Script} (hs : Plain s) (t : Tree) : dfs s t = ⟨brackets t, false, false⟩ :=
  dfs_plain hs t

/-- A skip status on entering: the children are not visited, the node is still left. -/
theorem dfs_skip (s : Script) (a : Nat) (ks : List Tree) (h : (s a true).2 = false ∧ (s a true).1 = .skip) :
    dfs s (.node a ks) = ⟨[(a, true), (a, false)], (s a false).2 || (s a false).1 == .stop, (s a false).2⟩ :=
  Proof.AstHeap.dfs_skip s a ks h

/-- A stop status or an error on entering ends the walk at once (no leave call, no children). -/
theorem dfs_stop_immediately (s : Script) (a : Nat) (ks : List Tree)
    (h : (s a true).2 = true ∨ (s a true).1 = .stop) :
    dfs s (.node a ks) = ⟨[(a, true)], true, (s a true).2⟩ :=
  Proof.AstHeap.dfs_stop_immediately s a ks h

/-- … and it propagates: after a halted subtree no later sibling is visited and no ancestor is left. -/
theorem dfs_halt_propagates (s : Script) (t : Tree) (ts : List Tree) (h : (dfs s t).halted = true) :
    dfsL s (t :: ts) = dfs s t :=
  dfsL_halt s t ts h

/-! ## outside the proviso / outside the documented contract (witnesses) -/

/-- ReplaceChild(self, nil, x) panics (after having appended x): the doc comment's "if v1 is not a child,
    append" does not cover a nil v1. Recorded as a finding; `Pre` excludes it. -/
theorem replace_nil_panics (h : Heap) (p c : Nat) : replaceChild h p none (some c) = .error .nilDeref :=
  Proof.AstHeap.replace_nil_panics h p c

/-- A nil child panics in every call taking one. `Pre` excludes it. -/
theorem nil_child_panics (h : Heap) (p : Nat) (v : Option Nat) :
    appendChild h p none = .error .nilDeref ∧ insertBefore h p v none = .error .nilDeref ∧
    insertAfter h p v none = .error .nilDeref ∧ replaceChild h p v none = .error .nilDeref ∧
    removeChild h p none = .error .nilDeref :=
  Proof.AstHeap.nil_child_panics h p v

/-- The "not relative to itself" proviso is needed: InsertBefore(p, v, v) on a child v yields a heap that
    represents no forest at all (v becomes its own next sibling). -/
theorem self_reference_breaks :
    ∃ h, run 8 Heap.empty [.append 0 (some 1), .insertBefore 0 (some 1) (some 1)] = .ok h ∧ ¬ ∃ f, Abs h f := by
  refine ⟨_, rfl, ?_⟩
  rintro ⟨f, A⟩
  exact A.next_ne_self 1 (by rfl)

/-- The "not into its own subtree" proviso is needed: AppendChild(p, p) makes p its own parent. -/
theorem self_insertion_breaks :
    ∃ h, run 8 Heap.empty [.append 0 (some 0)] = .ok h ∧ parentNode h 0 = some 0 ∧
      ¬ Pre Forest.empty (.append 0 (some 0)) :=
  ⟨_, rfl, rfl, fun hp => hp (Desc.refl 0)⟩

/-! ## non-vacuity: the hypotheses are satisfiable, and tests on literals -/

/-- test: a concrete sequence with a move between parents, a foreign reference, a nil reference,
    a replace and a sort satisfies `PreAll` from the fresh state -/
example : PreAll Forest.empty
    [.append 0 (some 2), .append 1 (some 3), .insertBefore 0 (some 3) (some 4), .insertAfter 0 none (some 3),
     .replace 0 (some 2) (some 5), .sort 0 (fun a b => (b : Int) - a), .remove 0 (some 4), .removeChildren 1] := by
  refine ⟨?_, ?_, ⟨?_, by simp⟩, ⟨?_, by simp⟩, ⟨?_, by simp⟩, trivial, trivial, trivial, trivial⟩
  · intro hd; have := desc_empty hd; omega
  all_goals
    intro hd
    rcases desc_head hd with e | ⟨k, hk, _⟩
    · omega
    · simp [specStep, upd, detach, Forest.empty] at hk

/-- test: the model on that sequence, observed through the accessors (kernel evaluation) -/
example :
    (run 14 Heap.empty
      [.append 0 (some 2), .append 1 (some 3), .insertBefore 0 (some 3) (some 4), .insertAfter 0 none (some 3),
       .replace 0 (some 2) (some 5), .sort 0 (fun a b => (b : Int) - a)]).toOption.map
      (fun h => (childCount h 0, firstChild h 0, nextSibling h 5, nextSibling h 4, lastChild h 0,
        parentNode h 2, hasChildren h 1)) = some (3, some 5, some 4, some 3, some 3, none, false) := by
  rfl

/-- test: the spec on the same sequence -/
example :
    specRun Forest.empty
      [.append 0 (some 2), .append 1 (some 3), .insertBefore 0 (some 3) (some 4), .insertAfter 0 none (some 3),
       .replace 0 (some 2) (some 5), .sort 0 (fun a b => (b : Int) - a)] 0 = [5, 4, 3] := by
  decide

/-- test: Walk with a script that skips node 1 and stops with an error when leaving node 2 -/
example :
    (match run 8 Heap.empty [.append 0 (some 1), .append 1 (some 3), .append 0 (some 2)] with
     | .ok h => (walk 8 h (fun n e => if n = 1 ∧ e then (.skip, false) else if n = 2 ∧ !e then (.cont, true)
                   else (.cont, false)) 0).toOption
     | .error _ => none)
    = some ⟨[(0, true), (1, true), (1, false), (2, true), (2, false)], true, true⟩ := by
  decide +kernel

/-- test: the same traversal on the spec tree -/
example :
    dfs (fun n e => if n = 1 ∧ e then (.skip, false) else if n = 2 ∧ !e then (.cont, true) else (.cont, false))
      (.node 0 [.node 1 [.node 3 []], .node 2 []])
    = ⟨[(0, true), (1, true), (1, false), (2, true), (2, false)], true, true⟩ := by
  decide

end GM.Props.C13
