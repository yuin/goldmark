/-
  GM.Props.C08E2ETotal — the HTML-level theorems of GM.Props.C08E2E (C08) and GM.Props.C09E2E (C09 first half, empty `A`) WITHOUT the
  hypothesis "the source converts": composed with `GM.Props.ConvertE2ENP.convert_total` (every byte string converts).
-/
import GM.Props.C08E2E
import GM.Props.C09E2E
import GM.Props.ConvertE2ENP

namespace GM.Props.C08E2ETotal
open GM GM.Text GM.Convert GM.Spec GM.E2E GM.Blocks GM.Blocks.Sh GM.E2E.Quote GM.E2E.Shift
open GM.Props.ConvertE2ENP (convert_total)

/-! ### C08 -/

/-- **C08 at HTML level, lists and blank lines (`C08ClassG`), no `[`, given the inline invariant for `D`**: `D` converts, and the
    block-quoted source converts to `<blockquote>⏎` + that HTML + `</blockquote>⏎` -/
theorem convert_quote_prefix_total (uc : List (Nat × (Bool × Bool))) (o : ROpts) (D : Bytes) (hc : C08ClassG D) (hb : NoBracket D)
    (KEY : InlineQuoteInvariantAt D) :
    ∃ html, convertCore uc o D = .ok html ∧
      convertCore uc o (quotePrefix D) = .ok (strBytes "<blockquote>\n" ++ html ++ strBytes "</blockquote>\n") := by
  obtain ⟨html, h⟩ := convert_total uc o D
  exact ⟨html, h, GM.Props.C08E2E.convert_quote_prefix uc o D hc hb KEY html h⟩

/-- the same for `C08ClassF` (lists, no blank line) -/
theorem convert_quote_prefix_lists_total (uc : List (Nat × (Bool × Bool))) (o : ROpts) (D : Bytes) (hc : C08ClassF D)
    (hb : NoBracket D) (KEY : InlineQuoteInvariantAt D) :
    ∃ html, convertCore uc o D = .ok html ∧
      convertCore uc o (quotePrefix D) = .ok (strBytes "<blockquote>\n" ++ html ++ strBytes "</blockquote>\n") := by
  obtain ⟨html, h⟩ := convert_total uc o D
  exact ⟨html, h, GM.Props.C08E2E.convert_quote_prefix_lists uc o D hc hb KEY html h⟩

/-- the same for `C08ClassW` (no final line feed needed) -/
theorem convert_quote_prefix_no_final_newline_total (uc : List (Nat × (Bool × Bool))) (o : ROpts) (D : Bytes) (hc : C08ClassW D)
    (hb : NoBracket D) (KEY : InlineQuoteInvariantAt D) :
    ∃ html, convertCore uc o D = .ok html ∧
      convertCore uc o (quotePrefix D) = .ok (strBytes "<blockquote>\n" ++ html ++ strBytes "</blockquote>\n") := by
  obtain ⟨html, h⟩ := convert_total uc o D
  exact ⟨html, h, GM.Props.C08E2E.convert_quote_prefix_no_final_newline uc o D hc hb KEY html h⟩

/-- **no inline hypothesis: documents whose leaves are raw blocks** -/
theorem convert_quote_prefix_raw_leaves_total (uc : List (Nat × (Bool × Bool))) (o : ROpts) (D : Bytes) (hc : C08ClassG D)
    (hb : NoBracket D)
    (hraw : ∀ sA, GM.Blocks.run D = .ok sA → ∀ i, isRawKind (sA.nodes.getD i default).kind = false →
      (sA.nodes.getD i default).lines = []) :
    ∃ html, convertCore uc o D = .ok html ∧
      convertCore uc o (quotePrefix D) = .ok (strBytes "<blockquote>\n" ++ html ++ strBytes "</blockquote>\n") := by
  obtain ⟨html, h⟩ := convert_total uc o D
  exact ⟨html, h, GM.Props.C08E2E.convert_quote_prefix_raw_leaves uc o D hc hb hraw html h⟩

/-- **no inline hypothesis: any block structure of the class, plain-text inline content** (`GoodBlocks`) -/
theorem convert_quote_prefix_good_lines_total (uc : List (Nat × (Bool × Bool))) (o : ROpts) (D : Bytes) (hc : C08ClassG D)
    (hb : NoBracket D) (hg : ∀ sA, GM.Blocks.run D = .ok sA → GoodBlocks D sA) :
    ∃ html, convertCore uc o D = .ok html ∧
      convertCore uc o (quotePrefix D) = .ok (strBytes "<blockquote>\n" ++ html ++ strBytes "</blockquote>\n") := by
  obtain ⟨html, h⟩ := convert_total uc o D
  exact ⟨html, h, GM.Props.C08E2E.convert_quote_prefix_good_lines uc o D hc hb hg html h⟩

/-- **… all hypotheses decidable** (`C08ClassG D`, `NoBracket D`, `goodLinesCheck D`) -/
theorem convert_quote_prefix_checked_total (uc : List (Nat × (Bool × Bool))) (o : ROpts) (D : Bytes) (hc : C08ClassG D)
    (hb : NoBracket D) (hg : GM.Props.C08E2E.goodLinesCheck D = true) :
    ∃ html, convertCore uc o D = .ok html ∧
      convertCore uc o (quotePrefix D) = .ok (strBytes "<blockquote>\n" ++ html ++ strBytes "</blockquote>\n") := by
  obtain ⟨html, h⟩ := convert_total uc o D
  exact ⟨html, h, GM.Props.C08E2E.convert_quote_prefix_checked uc o D hc hb hg html h⟩

/-! ### C09 first half, empty `A` -/

/-- **C09 first half at HTML level, empty `A`, given the inline invariant**: `"# h\n"` and `b` convert, and `"\n# h\n\n" ++ b`
    converts to the concatenation -/
theorem heading_then_blocks_html_total (uc : List (Nat × (Bool × Bool))) (o : ROpts) (h b : Bytes) (hh : ∀ c ∈ h, c ≠ 10)
    (hbh : NoBracket h) (hbb : NoBracket b)
    (KEYh : ∀ sh, GM.Blocks.run (hlB h) = .ok sh → InlineMoveStep (hlB h) (docB h b) 1 (sh.nodes.getD 1 default).lines)
    (KEYb : ∀ sb, GM.Blocks.run b = .ok sb → ∀ j, isRawKind (sb.nodes.getD j default).kind = false →
      (sb.nodes.getD j default).lines ≠ [] →
      InlineMoveStep b (docB h b) ((pre h).length : Int) (sb.nodes.getD j default).lines) :
    ∃ htmlH htmlB, convertCore uc o (hlB h) = .ok htmlH ∧ convertCore uc o b = .ok htmlB ∧
      convertCore uc o (docB h b) = .ok (htmlH ++ htmlB) := by
  obtain ⟨htmlH, h1⟩ := convert_total uc o (hlB h)
  obtain ⟨htmlB, h2⟩ := convert_total uc o b
  exact ⟨htmlH, htmlB, h1, h2, GM.Props.C09E2E.heading_then_blocks_html uc o h b hh hbh hbb KEYh KEYb htmlH htmlB h1 h2⟩

/-- **no inline hypothesis: plain-text inline content** (`GoodBlocks`) -/
theorem heading_then_blocks_html_good_lines_total (uc : List (Nat × (Bool × Bool))) (o : ROpts) (h b : Bytes)
    (hh : ∀ c ∈ h, c ≠ 10) (hbh : NoBracket h) (hbb : NoBracket b)
    (hgh : ∀ sh, GM.Blocks.run (hlB h) = .ok sh → GoodBlocks (hlB h) sh)
    (hgb : ∀ sb, GM.Blocks.run b = .ok sb → GoodBlocks b sb) :
    ∃ htmlH htmlB, convertCore uc o (hlB h) = .ok htmlH ∧ convertCore uc o b = .ok htmlB ∧
      convertCore uc o (docB h b) = .ok (htmlH ++ htmlB) := by
  obtain ⟨htmlH, h1⟩ := convert_total uc o (hlB h)
  obtain ⟨htmlB, h2⟩ := convert_total uc o b
  exact ⟨htmlH, htmlB, h1, h2,
    GM.Props.C09E2E.heading_then_blocks_html_good_lines uc o h b hh hbh hbb hgh hgb htmlH htmlB h1 h2⟩

/-- **… all hypotheses decidable** -/
theorem heading_then_blocks_html_checked_total (uc : List (Nat × (Bool × Bool))) (o : ROpts) (h b : Bytes)
    (hh : ∀ c ∈ h, c ≠ 10) (hbh : NoBracket h) (hbb : NoBracket b)
    (hgh : GM.Props.C08E2E.goodLinesCheck (hlB h) = true) (hgb : GM.Props.C08E2E.goodLinesCheck b = true) :
    ∃ htmlH htmlB, convertCore uc o (hlB h) = .ok htmlH ∧ convertCore uc o b = .ok htmlB ∧
      convertCore uc o (docB h b) = .ok (htmlH ++ htmlB) := by
  obtain ⟨htmlH, h1⟩ := convert_total uc o (hlB h)
  obtain ⟨htmlB, h2⟩ := convert_total uc o b
  exact ⟨htmlH, htmlB, h1, h2,
    GM.Props.C09E2E.heading_then_blocks_html_checked uc o h b hh hbh hbb hgh hgb htmlH htmlB h1 h2⟩

end GM.Props.C08E2ETotal
