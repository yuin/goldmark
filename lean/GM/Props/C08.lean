/-
  Property C08 — prefixing every line with a block-quote marker wraps the same content.

  What is PROVED here

  (1) line level, over GM.Model.LineRec (the Lean model of goldmark's line recognisers, tied to the Go functions by
      the exhaustive function-level correspondence of harness component `linerec`):
    * `quote_consumes_marker…`: on a tab-free line, `blockquoteParser.process` consumes exactly the marker
      (up to 3 spaces, `>`, one optional space), leaves padding 0, and the children see exactly the rest of
      the line, two (one) columns further right;
    * `offset_invariant…`: on tab-free lines every offset-taking recogniser (IndentWidth, IndentPosition,
      thematic break, fence close, indented code, the openBlocks gate, the quote marker itself) answers the
      same from every start column — so the two columns the marker adds cannot change what the children see.
      calcListOffset and listItemParser.Open take the column too: `offset_invariant_list`.

  (2) block level, over GM.Model.Blocks (the executable model of parser.parseBlocks / openBlocks / closeBlocks and
      the ten default block parsers, tied to the real parser by harness component `blocks`), by a SIMULATION
      between run A = the block phase on a source `D` and run B = the block phase on `quotePrefix D` (`"> "` in
      front of every line). The relation (`GM.Blocks.SR`, GM/Proof/QuoteSimRel.lean): B's reader stands at the same
      byte of the prefixed source (`p + 2·(k+1)` on line `k`), both without padding; B's node store is A's with one
      more node (B's Document), A's Document being B's Blockquote, ids shifted by one, every stored segment moved by
      the markers in front of its line; the context keys are the same; B's `openedBlocks` is A's with the Blockquote
      block in front. `HasBlankPreviousLines` is NOT related (it differs for the blocks directly inside the quote,
      parser.go:1099, and is read only by listParser.Close).
    * `quote_first_line`, `quote_marker_every_line` — on every line of the prefixed source the driver / the
      Blockquote's Continue consumes exactly `"> "` and hands the rest of the line to the children;
    * `quote_step_open` / `quote_step_continue` / `quote_step_close` — ONE LINE STEP, parser by parser: from related
      states inside a line, `Open` of each of the TEN block parsers, `Continue` of each of them (fenced code and list
      item under explicit side conditions) and `Close` of each but the list parser (setext under a side condition)
      behave identically in both runs and end in related states;
    * `quote_driver_…` — closeBlocks, openBlocks (the whole `goto retry` loop with the contract monitor) and the
      per-line loop over the opened blocks preserve the relation, for every set of parsers whose steps are simulated;
    * `nonblank_line_opens_block` — a line that is not blank always opens a block (every candidate list ends with the
      code block and the paragraph parser; a declining `Open` does not move the reader): the original run reads
      every line;
    * `quote_prefix_run` — WHOLE RUNS, UNCONDITIONALLY for every source without tab and CR that ends with a line feed
      and contains no byte that can start a list item (`-`, `*`, `+`, digits; `C08Class`): the block phase on `D` ends
      normally (`GM.Props.Blocks.no_panic`), so does the block phase on `quotePrefix D`, the two final node stores are
      related, and the original store has a Document without lines that is nobody's child and no List / ListItem node;
    * `quote_prefix_simulation_class` — for the same class, UNCONDITIONALLY: `QuotePrefixSimulation D` holds — the tree
      of `quotePrefix D` is Document[Blockquote[tree of D, segments moved]]. `original_run_well_shaped`: the original
      run stores no empty line / info / closure segment: for raw blocks
      and info / closure segments it is carried by the relation (`NodeRel.rawNE`, `infoNE`, `closNE`; the driver knows
      that paragraph / setext blocks have nodes that are not raw, `AInv.pk`, so the trimming `Close` functions never
      touch a raw block), for all other blocks it is `GM.Props.Wf0.inline_segments_nonempty`.

    * `quote_prefix_simulation_nofinalnl` — the same for sources whose last line has no line feed (`C08ClassW`: not
      empty, last byte not a space);
    * `quote_prefix_simulation_noitems` / `quote_prefix_simulation_nolist` — the same for every tab- and CR-free source
      that does not end with a space and in which NO POSITION STARTS A LIST ITEM (`NoItem`: nowhere a bullet or a number
      with `.` / `)` followed by white space or the end): digits, hyphens, `*`, `+` are allowed; the list parsers are
      tried and decline in both runs.

    * `quote_prefix_simulation_lists` — documents WITH LISTS and without a blank line (`C08ClassF`), all ten parsers;
    * `quote_prefix_simulation_lists_blank` — documents with lists AND blank lines in which no position starts a setext
      heading underline (`C08ClassG`, `NoBar`); `quote_prefix_simulation_union` collects the three classes.

  What is NOT proved (`QuotePrefixSimulationAll` below is the full statement): documents that have a setext underline
  pattern AND a blank line AND a list item position (`setextHeadingParser.Close` copies a `HasBlankPreviousLines` flag
  that may differ between the two runs; needs "the heading is the temporary paragraph's next sibling"); a last line
  without `\n` that ends with a space (there `fencedCodeBlockParser.Continue` calls `Advance(-1)` on a rest of line of
  spaces); the inline phase and the renderer (C08 on HTML is SEARCHED by component `quote`).
  Helper lemmas: GM/Proof/LineRec.lean, GM/Proof/QuoteSim*.lean (unary facts about the original run:
  QuoteSimInv.lean, QuoteSimBar.lean), GM/Proof/BlocksOrd*.lean.
-/
import GM.Model.LineRec
import GM.Proof.LineRec
import GM.Proof.QuoteSimTop
import GM.Proof.QuoteSimSetext
import GM.Proof.QuoteSimFE6
import GM.Props.Blocks
import GM.Props.C08E2E
import GM.Props.C08E2ETotal

namespace GM.Props.C08
open GM GM.LineRec GM.Proof.LineRec

/-- `indent_pos_tabfree`. On a line without tabs, `util.IndentWidth` is (number of leading spaces, same
    number) and `util.IndentPosition(line, col, width)` is `(width, 0)` when the line has at least `width`
    leading spaces and `(-1, -1)` otherwise — whatever the current column `col`. -/
theorem indent_pos_tabfree (line : Bytes) (col width : Nat) (h : tabFree line) :
    indentWidth line col = (leadSp line, leadSp line) ∧
    indentPosition line col width = if width ≤ leadSp line then ((width : Int), 0) else (-1, -1) :=
  ⟨indentWidth_tabfree line col h, indentPosition_tabfree line col width h⟩

/-- `offset_invariant`. For a tab-free line every recogniser that takes the start column gives the same
    answer for any two columns `c`, `c'`: IndentWidth, IndentPosition (every width), isThematicBreak, the
    closing-fence test (every fence), indented-code Open/Continue, the block offset/indent published by
    openBlocks, and the openBlocks gate with each single parser. -/
theorem offset_invariant (line : Bytes) (h : tabFree line) (c c' : Nat) :
    indentWidth line c = indentWidth line c' ∧
    (∀ w, indentPosition line c w = indentPosition line c' w) ∧
    isThematicBreak line c = isThematicBreak line c' ∧
    (∀ ch n, fenceClose line c ch n = fenceClose line c' ch n) ∧
    codeOpen line c = codeOpen line c' ∧ codeContinue line c = codeContinue line c' ∧
    blockOffset line c = blockOffset line c' ∧
    (∀ wh, openLine wh line c = openLine wh line c') :=
  ⟨by rw [indentWidth_tabfree line c h, indentWidth_tabfree line c' h],
   fun w => by rw [indentPosition_tabfree line c w h, indentPosition_tabfree line c' w h],
   tb_offset line h c c', fenceClose_offset line h c c', (code_offset line h c c').1, (code_offset line h c c').2,
   blockOffset_offset line h c c', fun wh => openLine_offset wh line h c c'⟩

/-- `offset_invariant` for list items (`calcListOffset` and `listItemParser.Open` add
    `reader.LineOffset()` to the column handed to IndentWidth / IndentPosition): on a tab-free line the content
    offset and the whole result of `listItemParser.Open` (item offset, child position, padding) are the same for
    any two columns. -/
theorem offset_invariant_list (line : Bytes) (h : tabFree line) (c c' : Nat) :
    (∀ m4, calcListOffset line m4 c = calcListOffset line m4 c') ∧
    (∀ lastOff, listItemOpen line lastOff c = listItemOpen line lastOff c') :=
  ⟨fun m4 => calcListOffset_offset line m4 h c c', fun lastOff => listItemOpen_offset line lastOff h c c'⟩

/-- `offset_invariant` for the quote marker itself: on a tab-free one-line `line`, whatever precedes it on
    its source line (`pre`: any bytes, i.e. any start column — e.g. outer quote markers), `process` accepts
    iff `quoteRel line` says so and consumes exactly `(quoteRel line).2` bytes, leaving padding 0.
    `quoteRel` is a function of the line alone. -/
theorem offset_invariant_quote (pre line : Bytes) (h : tabFree line) (h1 : oneLine line) :
    quoteProcess (rd pre line) =
      some ((quoteRel line).1, { src := pre ++ line, start := pre.length + (quoteRel line).2, padding := 0 }) :=
  quoteProcess_tabfree pre line h h1

/-- `quote_consumes_marker` (marker followed by a space). On the tab-free line `k spaces ++ "> " ++ r`
    (k ≤ 3), wherever it starts (`pre`), `process` returns true, advances exactly `k + 2` bytes, leaves padding
    0, the view handed to the children is exactly `r`, and the column (`LineOffset`) grew by `k + 2`. -/
theorem quote_consumes_marker (pre r : Bytes) (k : Nat) (hk : k ≤ 3) (htf : tabFree r) (h1 : oneLine r) :
    ∃ r', quoteProcess (rd pre (List.replicate k 32 ++ 62 :: 32 :: r)) = some (true, r') ∧
      r'.start = (rd pre (List.replicate k 32 ++ 62 :: 32 :: r)).start + (k + 2) ∧ r'.padding = 0 ∧ r'.peek = r ∧
      r'.lineOffset = (rd pre (List.replicate k 32 ++ 62 :: 32 :: r)).lineOffset + (k + 2) :=
  quote_consumes_space pre r k hk htf h1

/-- `quote_consumes_marker` (no space after the marker). On `k spaces ++ ">" ++ r` with `r` not starting with
    a space, `process` advances exactly `k + 1` bytes, padding 0, view `r`, column + `k + 1`. -/
theorem quote_consumes_marker_nospace (pre r : Bytes) (k : Nat) (hk : k ≤ 3) (htf : tabFree r) (h1 : oneLine r)
    (hns : r.head? ≠ some 32) :
    ∃ r', quoteProcess (rd pre (List.replicate k 32 ++ 62 :: r)) = some (true, r') ∧
      r'.start = (rd pre (List.replicate k 32 ++ 62 :: r)).start + (k + 1) ∧ r'.padding = 0 ∧ r'.peek = r ∧
      r'.lineOffset = (rd pre (List.replicate k 32 ++ 62 :: r)).lineOffset + (k + 1) :=
  quote_consumes_nospace pre r k hk htf h1 hns

/-- A tab-free line without a `>` within the first three columns is declined and the reader is untouched. -/
theorem quote_declines (pre tail : Bytes) (k : Nat) (htf : tabFree tail) (hns : tail.head? ≠ some 32)
    (h1 : oneLine (List.replicate k 32 ++ tail)) (hno : 3 < k ∨ tail.head? ≠ some 62) :
    quoteProcess (rd pre (List.replicate k 32 ++ tail)) = some (false, rd pre (List.replicate k 32 ++ tail)) :=
  Proof.LineRec.quote_declines pre tail k htf hns h1 hno

/-! ### non-vacuity and tests (literals; `decide` = evaluation of the model) -/

-- hypotheses are satisfiable: the line `"> # a\n"` seen after an outer `"> "` (bytes: 62 '>', 32 ' ', 35 '#', 97 'a', 10 LF, 9 TAB, 45 '-')
example : tabFree [35, 32, 97, 10] ∧ oneLine [35, 32, 97, 10] := by decide
example : quoteProcess (rd [62, 32] [62, 32, 35, 32, 97, 10]) =
    some (true, { src := [62, 32, 62, 32, 35, 32, 97, 10], start := 4, padding := 0 }) := by decide
example : ({ src := [62, 32, 62, 32, 35, 32, 97, 10], start := 4, padding := 0 } : LR).peek = [35, 32, 97, 10] := by decide
example : quoteRel [32, 32, 62, 97] = (true, 3) := by decide
example : quoteRel [32, 32, 32, 32, 62, 32, 97] = (false, 0) := by decide

-- WHY TABS ARE EXCLUDED: with a tab the same line answers differently from different columns.
example : indentWidth [9, 97] 0 = (4, 1) ∧ indentWidth [9, 97] 2 = (2, 1) := by decide
example : indentPosition [9, 97] 0 4 = (1, 0) ∧ indentPosition [9, 97] 2 4 = (-1, -1) := by decide
example : codeOpen [9, 97] 0 = true ∧ codeOpen [9, 97] 2 = false := by decide
example : isThematicBreak [32, 9, 45, 45, 45] 0 = false ∧ isThematicBreak [32, 9, 45, 45, 45] 2 = true := by decide
example : listItemOpen [45, 9, 97] 0 0 = .ok (some { offset := 4, child := some (2, 0) }) ∧
    listItemOpen [45, 9, 97] 0 2 = .ok (some { offset := 2, child := some (2, 0) }) := by decide
-- and the marker's optional "space" may be a partial tab: padding 2 is left behind
example : quoteProcess (rd [] [62, 9, 97]) = some (true, { src := [62, 9, 97], start := 2, padding := 2 }) := by
  decide

/-! ## block level: the simulation between the run on `D` and the run on `quotePrefix D` -/

section blocks
open GM.Blocks GM.Text GM.Spec

/-- **First line.** On the first line of the prefixed source (`D` non-empty) `openBlocks` — from the state `Parse`
    starts in — opens a Blockquote as the Document's only child, consumes exactly `"> "` (the reader ends at byte 2
    of line 0, no padding) and retries with the Blockquote as parent: what is left to do is `openBlocks`' loop
    below the Blockquote, in the reader state (shifted by the marker) in which the original run starts. -/
theorem quote_first_line {src : Bytes} (hl : LineAt src 0 0) {s : St} (h : RI (quotePrefix src) s.r ⟨0, 0, 0⟩)
    (hn : s.nodes = [{ kind := .document }]) (ho : s.pc.opened = []) (blank : Bool) :
    ∃ r', RI (quotePrefix src) r' ⟨0, 2, 0⟩ ∧
      openBlocks 0 blank s =
        openBlocksLoop blank false (2 * (quotePrefix src).length + 7) 1 OpenResult.newBlocksOpened none
          { r := r',
            nodes := [{ kind := .document, children := [1] }, { kind := .blockquote, parent := some 0, blankPrev := blank }],
            pc := { s.pc with blockOffset := 0, blockIndent := 0, opened := [{ node := 1, bp := .blockquote }] } } :=
  openBlocks_first hl h hn ho blank

/-- **Every later line.** At the start of line `k` of the prefixed source (which starts at byte `ls + 2·k`, `ls`
    the start of line `k` of `D`) the Blockquote's `Continue` answers Continue|HasChildren, changes nothing but the
    reader, and leaves it at byte `ls + 2·(k+1)`: exactly behind `"> "`, no padding. -/
theorem quote_marker_every_line {src : Bytes} {k ls : Nat} (hl : LineAt src k ls) {sB : St}
    (hb : RI (quotePrefix src) sB.r ⟨k, ls + 2 * k, 0⟩) :
    ∃ r', bpContinue .blockquote 1 sB = .ok (stContinueHasChildren, { sB with r := r' }) ∧
      RI (quotePrefix src) r' ⟨k, ls + 2 * (k + 1), 0⟩ :=
  blockquoteContinue_marker hl hb

/-- **One line step, `Open`.** For EVERY tab-free source and each of the TEN default block parsers: from states
    related by `SR` inside line `k` (any position `p`, parents `parent` / `parent + 1`), if `Open` ends normally in
    run A it ends normally in run B, with the same parser state bits, no node or the same node (id shifted), and in
    related states at a position `p' ≥ p` of the same line. -/
theorem quote_step_open (src : Bytes) (bp : BP) : OpenSim src bp := by
  cases bp with
  | setext => exact setextOpen_sim src
  | thematic => exact thematicOpen_sim src
  | list => exact listOpen_sim src
  | listItem => exact listItemOpen_sim src
  | code => exact codeOpen_sim src
  | atx => exact atxOpen_sim src
  | fenced => exact fencedOpen_sim src
  | blockquote => exact blockquoteOpen_sim src
  | html => exact htmlOpen_sim src
  | paragraph => exact paragraphOpen_sim src

/-- **One line step, `Continue`.** The same for `Continue` (same answer in both runs) of six parsers from all
    related states; for the code block and the HTML block parser when there is a current line (`p < src.length`: on an
    exhausted reader they would store an empty segment, which the relation excludes for raw blocks — `NodeRel.rawNE`,
    `closNE`; the driver only calls `Continue` on a line); for fenced code blocks when the remembered fence indent is not
    negative and the rest of the line has a byte that is not a space (it fails only for a last line without `\n`
    consisting of exactly the fence's indentation, where goldmark calls `Advance(-1)`); for list items when there is a
    current line and the parent list's offsets are as `listParser.Continue` leaves them (`ListItemContPre`). -/
theorem quote_step_continue (src : Bytes) :
    (∀ bp, bp ≠ .fenced → bp ≠ .listItem → bp ≠ .code → bp ≠ .html → ContinueSim src bp) ∧
    (∀ bp, bp = .code ∨ bp = .html → ∀ k ls p node sA sB, SR src k ls p sA sB → p < src.length →
      S2 (fun a b sA' sB' => b = a ∧ ∃ p', p ≤ p' ∧ SR src k ls p' sA' sB')
        (bpContinue bp node sA) (bpContinue bp (node + 1) sB)) ∧
    (∀ k ls p node sA sB, SR src k ls p sA sB → FenceOK sA → (∃ c ∈ (viewA src ls p).getD [], c ≠ 32) →
      S2 (fun a b sA' sB' => b = a ∧ ∃ p', p ≤ p' ∧ SR src k ls p' sA' sB')
        (bpContinue .fenced node sA) (bpContinue .fenced (node + 1) sB)) ∧
    (∀ k ls p node sA sB, SR src k ls p sA sB → p < src.length →
      (isBlank ((viewA src ls p).getD []) = false → ListItemContPre src ls p node sA) →
      S2 (fun a b sA' sB' => b = a ∧ ∃ p', p ≤ p' ∧ SR src k ls p' sA' sB')
        (bpContinue .listItem node sA) (bpContinue .listItem (node + 1) sB)) := by
  refine ⟨fun bp h1 h2 h3 h4 => ?_, fun bp hbp => ?_, fencedContinue_sim' src, listItemContinue_sim' src⟩
  · cases bp with
    | setext => exact setextContinue_sim src
    | thematic => exact thematicContinue_sim src
    | list => exact listContinue_sim src
    | listItem => exact absurd rfl h2
    | code => exact absurd rfl h3
    | atx => exact atxContinue_sim src
    | fenced => exact absurd rfl h1
    | blockquote => exact blockquoteContinue_sim src
    | html => exact absurd rfl h4
    | paragraph => exact paragraphContinue_sim src
  · rcases hbp with rfl | rfl
    · exact codeContinue_sim' src
    · exact htmlContinue_sim' src

/-- **One line step, `Close`.** `Close` of every parser but the list parser is simulated (code block: the same trailing
    blank lines are dropped; paragraph: the trimmed lines stay the same lines moved — on a node that is not raw, because
    the relation keeps "no empty line segment" for raw blocks and trimming could empty a blank code line; setext
    heading: when its node is not the Document and not raw and the temporary-paragraph key does not point to the
    Document). The driver supplies the side conditions: it carries "blocks opened by the paragraph / setext parser have
    nodes that are not raw" (`AInv.pk`). `listParser.Close`, which reads `HasBlankPreviousLines`: when the flags it
    reads agree in the two runs (`FlagsOK`: the own flag of every item but the first, the flags of every item's children
    but the first) — then `IsTight` is the same and the same paragraphs become text blocks. These flags agree on the
    reachable states of a source without blank line (`flagsOK_node`) and, when the setext heading parser is not covered,
    of any source (`flagsOK_of_fe`). -/
theorem quote_step_close (src : Bytes) :
    (∀ bp, bp ≠ .list → bp ≠ .setext → bp ≠ .paragraph → CloseSim src bp) ∧
    (∀ k ls p node sA sB, SR src k ls p sA sB →
      FlagsOK sA.nodes sB.nodes (sA.nodes.getD node default).children true →
      S2 (fun _ _ sA' sB' => SR src k ls p sA' sB') (bpClose .list node sA) (bpClose .list (node + 1) sB)) ∧
    (∀ k ls p node sA sB, SR src k ls p sA sB → rawK (sA.nodes.getD node default).kind = false →
      S2 (fun _ _ sA' sB' => SR src k ls p sA' sB') (bpClose .paragraph node sA) (bpClose .paragraph (node + 1) sB)) ∧
    (∀ k ls p node sA sB, SR src k ls p sA sB → node ≠ 0 → sA.pc.tmpPara ≠ some 0 →
      rawK (sA.nodes.getD node default).kind = false →
      S2 (fun _ _ sA' sB' => SR src k ls p sA' sB') (bpClose .setext node sA) (bpClose .setext (node + 1) sB)) := by
  refine ⟨fun bp h1 h2 h3 => ?_, listClose_sim' src, paragraphClose_sim' src, setextClose_sim' src⟩
  cases bp with
  | setext => exact absurd rfl h2
  | thematic => exact thematicClose_sim src
  | list => exact absurd rfl h1
  | listItem => exact listItemClose_sim src
  | code => exact codeClose_sim src
  | atx => exact atxClose_sim src
  | fenced => exact fencedClose_sim src
  | blockquote => exact blockquoteClose_sim src
  | html => exact htmlClose_sim src
  | paragraph => exact absurd rfl h3

/-- **The driver, `openBlocks`.** For every set `al` of parsers whose steps are simulated (`PS`) and that covers the
    parsers a line of `src` can trigger (`TrigOK`), with the unary facts `Frames` about run A (all proved:
    `frames_all`) and every reader position inside a line having a non-space byte in front of it (`NS`: sources
    ending with `\n`): `openBlocks parent` in A and `openBlocks (parent+1)` in B — the whole `goto retry` loop,
    including the RequireParagraph path, closing a detached last block and the contract monitor, whose measure
    differs by a constant of the line — give the same result and end in related states. -/
theorem quote_driver_open_blocks {src : Bytes} {al : BP → Bool} (ps : PS src al) (fr : Frames al) (ot : OT src) (ns : NS src)
    (tr : TrigOK src al) (bA bB : Bool) (hb : FL src → bB = bA) (q : Nat) {k ls p : Nat} {sA sB : St}
    (h : DRL src al k ls p sA sB) (hq : q < sA.nodes.length) (hbq : al .setext = false → (bB = bA ∨ q = 0)) :
    S2 (fun a b sA' sB' => b = a ∧ ∃ p', DR src al k ls p' sA' sB') (openBlocks q bA sA) (openBlocks (q + 1) bB sB) :=
  S2.mono (openBlocks_sim ps fr ot ns tr bA bB hb q h hq hbq) (fun _ _ _ _ hh => ⟨hh.1, hh.2.1⟩)

/-- **The driver, one line.** The loop of parseBlocks over the opened blocks (parser.go:1081-1123) — A at levels
    `i, i+1, …`, B one level deeper, B's `openedBlocks` being A's with the Blockquote in front — ends both in
    `next` with related states or both at the end of the source with related node stores. -/
theorem quote_driver_line {src : Bytes} {al : BP → Bool} (ps : PS src al) (fr : Frames al) (ot : OT src) (ns : NS src)
    (tr : TrigOK src al) (ob : List Block) (L : Int) (rest : List Block) (hsub : ∀ b ∈ rest, b ∈ ob) (i : Int)
    (hi : 0 ≤ i) (stA stB : List LineStat) {k ls p : Nat} {sA sB : St} (h : DR src al k ls p sA sB)
    (hop : sA.pc.opened = ob) (hL : L = (ob.length : Int) - 1) (hcur : FL src → CUR (k : Int) i stA stB)
    (hi0 : i = 0 → p = ls) (pre : List Block) (hm : Sh.MidA src ob pre rest i sA) (hcg : CURG (k : Int) i stA stB) :
    S2 (LLRel src al k ls (loOf i rest)) (lineLoop 0 ob L rest i stA sA)
      (lineLoop 0 (bqBlock :: ob.map shB) (L + 1) (rest.map shB) (i + 1) stB sB) :=
  lineLoop_sim ps fr ot ns tr ob L rest hsub i hi stA stB h hop hL hcur hi0 pre hm hcg

/-- **The driver, `closeBlocks`.** `closeBlocks(from, to)` in A and `closeBlocks(from+1, to+1)` in B. -/
theorem quote_driver_close_blocks {src : Bytes} {al : BP → Bool} (ps : PS src al) (fr : Frames al) {k ls p : Nat}
    {sA sB : St} (h : DR src al k ls p sA sB) (frm to : Int) :
    S2 (fun _ _ sA' sB' => DR src al k ls p sA' sB') (closeBlocks frm to sA) (closeBlocks (frm + 1) (to + 1) sB) :=
  S2.mono (closeBlocks_sim ps fr h frm to) (fun _ _ _ _ hh => hh.1)

/-- **A line that is not blank always opens a block** (the fact that makes the original run read every line,
    `ReadToEnd`). For every tab-free source in which every position
    inside a line has a rest of line with a byte that is not a space (`NS`: sources ending with `\n`) and every covered
    parser set: from related states inside a line, with nothing open in the original run and a rest of line that is not blank, `openBlocks` answers
    `newBlocksOpened`: every candidate list of parser.go:842-850 ends with the code block and the paragraph parser, a
    declining `Open` leaves the reader where it was, the paragraph parser opens on such a line indented by at most
    three columns, the code block parser on one indented by more. (The two runs still answer the same and end in
    related states: `quote_driver_open_blocks`.) -/
theorem nonblank_line_opens_block {src : Bytes} {al : BP → Bool} (ps : PS src al) (fr : Frames al) (ot : OT src) (ns : NS src)
    (tr : TrigOK src al) (bA bB : Bool) (hb : FL src → bB = bA) (q : Nat) {k ls p : Nat} {sA sB : St}
    (h : DRL src al k ls p sA sB) (hq : q < sA.nodes.length) (hbq : al .setext = false → (bB = bA ∨ q = 0))
    (ho : sA.pc.opened = []) (hnb : isBlank ((viewA src ls p).getD []) = false) (a : OpenResult) (sA' : St)
    (hA : openBlocks q bA sA = .ok (a, sA')) : a = .newBlocksOpened := by
  obtain ⟨_, _, _, _, _, hh⟩ := openBlocks_sim ps fr ot ns tr bA bB hb q h hq hbq a sA' hA
  exact hh ho hnb

/-- **Whole runs.** For every source without tab and CR that ends with a line feed and has no byte that can start a
    list item (`C08Class`): the block phase on `D` ends normally (`GM.Props.Blocks.no_panic`), and so does the block
    phase on `quotePrefix D` (no panic, no contract violation, enough fuel), in a state whose node store is the
    original one with one more node in front, the original Document being the Blockquote, and every segment moved by
    the markers in front of its line; and the original store satisfies `UStore`: the Document has no lines and is
    nobody's child, and there is no List / ListItem node. NO assumption about the original run is left here. -/
theorem quote_prefix_run {src : Bytes} (hc : C08Class src) :
    ∃ sA sB, GM.Blocks.run src = .ok sA ∧ GM.Blocks.run (quotePrefix src) = .ok sB ∧
      StoreRel src sA.nodes sB.nodes ∧ UStore sA.nodes := by
  obtain ⟨sA, hA⟩ := GM.Props.Blocks.no_panic src
  obtain ⟨sB, hB, hn, hu, hk, _⟩ := run_sim hc.wide.wider hA
  exact ⟨sA, sB, hA, hB, hn, ustore_of_L hu (hk rfl)⟩

/-- **`QuotePrefixSimulation` for the class — UNCONDITIONAL** (`GM.Props.Blocks.QuotePrefixSimulation`, the tree-level
    statement of C08). For every source of `C08Class` (no tab, no CR, ends with a line feed, none of `- * + 0-9`): the
    block tree of the prefixed source is Document[Blockquote[children of the original Document, every segment moved by
    `shiftSeg`]], all printed fields equal. Nothing about the original run is assumed: it ends normally
    (`no_panic`), reads every line (`nonblank_line_opens_block`), leaves the Document without lines and nobody's child,
    builds no List / ListItem node (`quote_prefix_run`), and stores no empty segment (`original_run_well_shaped`: raw
    blocks, info and closure segments through the simulation — `NodeRel.rawNE / infoNE / closNE` —, all other blocks by
    `GM.Props.Wf0.inline_segments_nonempty`). -/
theorem quote_prefix_simulation_class {src : Bytes} (hc : C08Class src) : GM.Props.Blocks.QuotePrefixSimulation src := by
  obtain ⟨sA, hA⟩ := GM.Props.Blocks.no_panic src
  exact quoteSim_of_class hc.wide.wider hA

/-- **The same without the final line feed** (`C08ClassW`: no tab, no CR, none of `- * + 0-9`, not empty, and the last
    byte is not a space — it may or may not be a line feed): `QuotePrefixSimulation D`, unconditionally. What the last
    line without `\n` needed: the parser/kind consistency of the open blocks (`AInv.pk`) makes `openBlocks`' exit
    `continuable:` call `paragraphParser.Continue` — also at the end of the source, where the other `Continue`s are not
    simulated (`HC`, `toContinuable_sim`); `AdvanceLine` from behind the last line (`advanceLine_LS`); blank lines still
    end with `\n` (`blank_shape_w`). Excluded: a last line without `\n` that ends with a space — there
    `fencedCodeBlockParser.Continue` can see a rest of line of spaces only and calls `Advance(-1)`. -/
theorem quote_prefix_simulation_nofinalnl {src : Bytes} (hc : C08ClassW src) :
    GM.Props.Blocks.QuotePrefixSimulation src := by
  obtain ⟨sA, hA⟩ := GM.Props.Blocks.no_panic src
  exact quoteSim_of_class hc.wider hA

/-- **Documents without list items** (`C08ClassL`: no tab, no CR, not empty, last byte not a space, and NO POSITION OF
    THE SOURCE STARTS A LIST ITEM — `NoItem`: nowhere is a bullet `-` `*` `+`, or a number of at most nine digits with `.`
    or `)`, followed by a space, a tab, a line end or the end of the source; digits, hyphens, `*emphasis*`, `+1` … are
    allowed): `QuotePrefixSimulation D`, unconditionally. The two list parsers are tried on such documents (the trigger
    table of parser.go:842-850 is the full one); their `Open` is simulated and declines in both runs
    (`listOpen_declines`: `matchesListItem` on the rest of the line; `listItemOpen_declines`: the parent is no List), so
    no List is ever opened and `listParser.Close` / the blank-line flags are never needed. -/
theorem quote_prefix_simulation_noitems {src : Bytes} (hc : C08ClassL src) :
    GM.Props.Blocks.QuotePrefixSimulation src := by
  obtain ⟨sA, hA⟩ := GM.Props.Blocks.no_panic src
  exact quoteSim_of_class hc hA

/-- **Documents WITH LISTS, without a blank line** (`C08ClassF`: no tab, no CR, not empty, last byte not a space, and
    no line of the source is blank — `FL`): `QuotePrefixSimulation D`, unconditionally, with ALL TEN block parsers in
    both runs — bullet and ordered lists, nested lists, lists in block quotes, tight lists, list items interrupted by
    other blocks, and also `---`, `***`, `a - b`, which the earlier classes excluded. The three list-specific
    obligations: (1) the `HasBlankPreviousLines` flags that `listParser.Close` reads and the dump prints are equal in
    both runs on every node but the Document (`NodeRel.blank`): in a source without a blank line every `openBlocks`
    call gets the same flag — the blank-line statistics of A at level `i` and of B at level `i + 1` answer alike
    (`GM.Blocks.cur_query`, `lst_next`), the only unshifted calls (children of the Document) answer `false` in both runs
    after line 0 and `true` in both on line 0; (2) `ListItemContPre` ("the block below an open ListItem is its parent
    List, whose last item's offset is not negative, and `IndentPosition` is only asked for an indentation that is
    there") from run A's invariant in the middle of a pass (`Sh.MidA`, the no-panic proof's `StableL`/`ChainedO`/
    `ListHint`), threaded through `lineLoop_sim`; (3) the driver's unary invariants for the list parsers
    (`frames_lists`), the List / ListItem kinds in `tree_sim`, and the flags in the dump (`FlagsEq`). -/
theorem quote_prefix_simulation_lists {src : Bytes} (hc : C08ClassF src) :
    GM.Props.Blocks.QuotePrefixSimulation src := by
  obtain ⟨sA, hA⟩ := GM.Props.Blocks.no_panic src
  exact quoteSim_of_classF hc hA

theorem quote_prefix_simulation_lists_all (src : Bytes) (htf : ∀ c ∈ src, c ≠ 9) (hcr : ∀ c ∈ src, c ≠ 13)
    (hfl : FL src) (hl : ∀ c, src.getLast? = some c → c ≠ 32) : GM.Props.Blocks.QuotePrefixSimulation src := by
  by_cases he : src = []
  · subst he
    intro e g h
    have : quoteSimPair [] = none := rfl
    rw [this] at h
    cases h
  · exact quote_prefix_simulation_lists ⟨htf, hcr, he, hl, hfl⟩

/-- whole runs with lists: both block phases end normally, the stores are related (flags included), the original
    store is well shaped (no empty segment, the Document nobody's child) -/
theorem quote_prefix_run_lists {src : Bytes} (hc : C08ClassF src) :
    ∃ sA sB, GM.Blocks.run src = .ok sA ∧ GM.Blocks.run (quotePrefix src) = .ok sB ∧
      StoreRel src sA.nodes sB.nodes ∧ WellShapedL sA ∧ FlagsEq sA.nodes sB.nodes := by
  obtain ⟨sA, hA⟩ := GM.Props.Blocks.no_panic src
  obtain ⟨sB, hB, hn, hu, _⟩ := run_sim_lists hc hA
  exact ⟨sA, sB, hA, hB, hn, wellShapedL_of hu (segsNE_of_rel hA hn), flagsEq_of_rel hc.noblank hn⟩

/-- **Documents WITH LISTS AND BLANK LINES** (`C08ClassG`: no tab, no CR, not empty, last byte not a space, and no
    position starts a setext heading underline — `NoBar`: no rest of a line consists of `=` only or of `-` only, up to
    trailing spaces): `QuotePrefixSimulation D`, unconditionally. Loose and tight lists, paragraphs / headings / fences
    / lists after blank lines, nested containers. Here the `HasBlankPreviousLines` flags of the two runs DIFFER: on a
    child of the Document opened after a blank line the original run sets `true`, the prefixed run `false`
    (parser.go:1099: its Blockquote's statistics entry for the previous line is not blank), and so on the chain of first
    children opened in the same `openBlocks` call. Nobody reads those flags; the simulation carries the store relation
    `FE` — equal flags on every child BUT THE FIRST of every node BUT THE DOCUMENT — which is what `listParser.Close`
    (`flagsOK_of_fe`) and the dump (`quoteSimPair_eqF`) read. It is kept across every `Open` / `Continue` / `Close` as
    a UNIT (`S2.withFE`, `fe_step`) from unary facts of both runs (flags of existing nodes unchanged, new nodes
    unflagged: `BPn`; a child that is not the first afterwards was not the first before or is new: `CHn`, with
    `replaceChild` treated as a unit), across the driver's `SetBlankPreviousLines` (`fe_setFlag`: the node an `Open`
    returns is nobody's child until it is appended, `Unref`, from "all ids in range", `RStore`) and `AppendChild`
    (`fe_append`: equal flags — every call below an opened container, by the statistics relation `CURG`, for
    sources with blank lines too: `lstG_reset` —, or the parent is the Document, or the parent has no child yet: the
    container the same call has just opened, `QE`). The setext heading parser — whose `Close` copies the paragraph's
    flag to the heading while the heading stands behind it — is tried and declines (`NoBar`, `setextOpen_declines`). -/
theorem quote_prefix_simulation_lists_blank {src : Bytes} (hc : C08ClassG src) :
    GM.Props.Blocks.QuotePrefixSimulation src := by
  obtain ⟨sA, hA⟩ := GM.Props.Blocks.no_panic src
  exact quoteSim_of_classG hc hA

theorem quote_prefix_simulation_lists_blank_all (src : Bytes) (htf : ∀ c ∈ src, c ≠ 9) (hcr : ∀ c ∈ src, c ≠ 13)
    (hnb : NoBar src) (hl : ∀ c, src.getLast? = some c → c ≠ 32) : GM.Props.Blocks.QuotePrefixSimulation src := by
  by_cases he : src = []
  · subst he
    intro e g h
    have : quoteSimPair [] = none := rfl
    rw [this] at h
    cases h
  · exact quote_prefix_simulation_lists_blank ⟨htf, hcr, he, hl, hnb⟩

/-- whole runs with lists and blank lines: both block phases end normally, the stores are related, the flags agree
    wherever the block phase reads them (`FE`), the original store is well shaped -/
theorem quote_prefix_run_lists_blank {src : Bytes} (hc : C08ClassG src) :
    ∃ sA sB, GM.Blocks.run src = .ok sA ∧ GM.Blocks.run (quotePrefix src) = .ok sB ∧
      StoreRel src sA.nodes sB.nodes ∧ WellShapedL sA ∧ FE sA.nodes sB.nodes := by
  obtain ⟨sA, hA⟩ := GM.Props.Blocks.no_panic src
  obtain ⟨sB, hB, hn, hu, _, hfe⟩ := run_sim_listsG hc hA
  exact ⟨sA, sB, hA, hB, hn, wellShapedL_of hu (segsNE_of_rel hA hn), hfe rfl⟩

/-- **`setextHeadingParser.Close` and the flags** (the step that keeps `quote_prefix_simulation_lists_blank` from covering
    setext underlines): from stores with `FE` (equal `HasBlankPreviousLines` on every child but the first of every node
    but the Document), `Close` of the heading `node` in the original run and of `node + 1` in the prefixed run — which
    COPIES the flag of the temporary paragraph `t` to the heading and removes the paragraph, or, when the paragraph has
    no lines left, inserts a new paragraph and removes the heading — ends in stores with `FE` again, PROVIDED the heading
    is the paragraph's next sibling and occurs nowhere else (`ADJ`): the heading then stands where the paragraph stood.
    `ADJ` on the reachable states of the original run is the one fact missing for the full statement. -/
theorem quote_setext_close_keeps_flags {sA sA' sB sB' : St} {node t : Nat} {uA uB : Unit} (hfe : FE sA.nodes sB.nodes)
    (hlen : sB.nodes.length = sA.nodes.length + 1) (htA : sA.pc.tmpPara = some t)
    (htB : sB.pc.tmpPara = some (t + 1)) (hne : node ≠ t) (hnode : node < sA.nodes.length)
    (hlines : ((sB.nodes.getD (t + 1) default).lines.length == 0) = ((sA.nodes.getD t default).lines.length == 0))
    (hadj : ADJ sA.nodes t node) (eA : bpClose .setext node sA = .ok (uA, sA'))
    (eB : bpClose .setext (node + 1) sB = .ok (uB, sB')) : FE sA'.nodes sB'.nodes :=
  fe_bpClose_setext hfe hlen htA htB hne hnode hlines hadj eA eB

/-- **The blank-line flags in whole runs** (obligation (1) of `quote_prefix_simulation_lists`, as a statement about ANY covered parser
    set): for a source without a blank line, related final stores have equal `HasBlankPreviousLines` flags on every
    node but the Document. -/
theorem quote_flags_equal {src : Bytes} (hfl : FL src) {nA nB : List GM.Blocks.Node} (hn : StoreRel src nA nB) :
    FlagsEq nA nB := flagsEq_of_rel hfl hn

/-- `quote_prefix_simulation_noitems` with the provisos spelled out, the empty document included (for which the statement holds vacuously) -/
theorem quote_prefix_simulation_nolist (src : Bytes) (htf : ∀ c ∈ src, c ≠ 9) (hcr : ∀ c ∈ src, c ≠ 13)
    (hno : NoItem src) (hl : ∀ c, src.getLast? = some c → c ≠ 32) : GM.Props.Blocks.QuotePrefixSimulation src := by
  by_cases he : src = []
  · subst he
    intro e g h
    have : quoteSimPair [] = none := rfl
    rw [this] at h
    cases h
  · exact quote_prefix_simulation_noitems ⟨htf, hcr, he, hl, hno⟩

/-- **What is proved of `QuotePrefixSimulationAll`, in one statement**: every tab- and CR-free source that does not end
    with a space and lacks AT LEAST ONE of: a position that starts a list item (`NoItem`), a blank line (`FL`), a
    position that starts a setext heading underline (`NoBar`). The gap: sources with all three (there
    `setextHeadingParser.Close` copies a `HasBlankPreviousLines` flag that may differ between the runs), and a last line
    without line feed that ends with a space. -/
theorem quote_prefix_simulation_union (src : Bytes) (htf : ∀ c ∈ src, c ≠ 9) (hcr : ∀ c ∈ src, c ≠ 13)
    (hl : ∀ c, src.getLast? = some c → c ≠ 32) (h : NoItem src ∨ FL src ∨ NoBar src) :
    GM.Props.Blocks.QuotePrefixSimulation src := by
  rcases h with h | h | h
  · exact quote_prefix_simulation_nolist src htf hcr h hl
  · exact quote_prefix_simulation_lists_all src htf hcr h hl
  · exact quote_prefix_simulation_lists_blank_all src htf hcr h hl

/-- whole runs for the wider class: both block phases end normally, the stores are related, the original store is
    well shaped -/
theorem quote_prefix_run_nofinalnl {src : Bytes} (hc : C08ClassW src) :
    ∃ sA sB, GM.Blocks.run src = .ok sA ∧ GM.Blocks.run (quotePrefix src) = .ok sB ∧
      StoreRel src sA.nodes sB.nodes ∧ WellShaped sA := by
  obtain ⟨sA, hA⟩ := GM.Props.Blocks.no_panic src
  obtain ⟨sB, hB, hn, hu, hk, _⟩ := run_sim hc.wider hA
  exact ⟨sA, sB, hA, hB, hn, wellShaped_of (ustore_of_L hu (hk rfl)) (segsNE_of_rel hA hn)⟩

/-- `partial` refers to the class of sources -/
theorem quote_prefix_simulation_partial {src : Bytes} (hc : C08Class src) : GM.Props.Blocks.QuotePrefixSimulation src :=
  quote_prefix_simulation_class hc

/-- **The original run is well shaped**: for every source of the class the final state of
    the original run is `WellShaped` — the Document has no lines, no List / ListItem node, no empty line / info /
    closure segment, node 0 is nobody's child. (The driver oracle `blocks quotesimhyp` evaluates exactly this, and
    "all lines read"; it is kept as a regression oracle of the model.) -/
theorem original_run_well_shaped {src : Bytes} (hc : C08Class src) {sA : St} (hA : GM.Blocks.run src = .ok sA) :
    WellShaped sA := by
  obtain ⟨sB, _, hn, hu, hk, _⟩ := run_sim hc.wide.wider hA
  exact wellShaped_of (ustore_of_L hu (hk rfl)) (segsNE_of_rel hA hn)

/-- the same, from the executable test `GM.Blocks.quoteHypB` (GM/Spec/QuoteHyp.lean: the class and the facts about
    the original run as one Bool — all lines read and `WellShaped`, a superset of `SegsNE`; the driver
    evaluates it — op `blocks quotesimhyp` — on every source of the class that the `blocks` correspondence generates) -/
theorem quote_prefix_simulation_checked {src : Bytes} (h : quoteHypB src = true) :
    GM.Props.Blocks.QuotePrefixSimulation src :=
  quoteSim_of_hypB src h

/-- **The full statement of C08 on block trees — NOT PROVED.** `QuotePrefixSimulation D` for every tab- and CR-free,
    non-blank `D` (for other `D` it holds vacuously: `quoteSimPair` answers `none`). Proved:
    `quote_prefix_simulation_union` (unconditional for its classes). Missing: (1) sources that have a position starting
    a list item AND a blank line AND a position starting a setext heading underline: `setextHeadingParser.Close` copies
    a `HasBlankPreviousLines` flag that may differ between the runs (`quote_setext_close_keeps_flags` is the step under
    the hypothesis `ADJ`); (2) a last line without `\n` that ends with a space (`Advance(-1)` in
    `fencedCodeBlockParser.Continue`; the empty segment it stores needs the `lineNo` form of `SegRel`). -/
def QuotePrefixSimulationAll : Prop :=
  ∀ src : Bytes, GM.Props.Blocks.QuotePrefixSimulation src

/-! ### non-vacuity and tests for the block-level theorems -/

-- the class and the three facts about the original run are satisfiable together: a document with an ATX and a setext
-- heading, paragraphs, nested quotes, fenced and indented code, an HTML block and a thematic break
example : quoteHypB (strBytes "a\n===\n\n~~~x\n  \ncode\n~~~\n> q\n> > r\n\n<div>\nh\n</div>\n\n    ind\n___\n# t\n") = true := quoteHypB_doc
-- hence the theorem applies to it
example : GM.Props.Blocks.QuotePrefixSimulation
    (strBytes "a\n===\n\n~~~x\n  \ncode\n~~~\n> q\n> > r\n\n<div>\nh\n</div>\n\n    ind\n___\n# t\n") :=
  quote_prefix_simulation_checked quoteHypB_doc
-- test: the executable statement on the same document
example : GM.Blocks.quoteSim (strBytes "a\n===\n\n~~~x\n  \ncode\n~~~\n> q\n> > r\n\n<div>\nh\n</div>\n\n    ind\n___\n# t\n") = "ok" := by
  decide +kernel
-- the remaining assumption `SegsNE` is satisfiable together with the class (same document), so the class theorem applies
example : C08Class (strBytes "a\n===\n\n~~~x\n  \ncode\n~~~\n> q\n> > r\n\n<div>\nh\n</div>\n\n    ind\n___\n# t\n") := c08Class_doc
example : (match GM.Blocks.run (strBytes "a\n===\n\n~~~x\n  \ncode\n~~~\n> q\n> > r\n\n<div>\nh\n</div>\n\n    ind\n___\n# t\n") with
    | .ok s => decide (SegsNE s) | .error _ => false) = true := by
  have h := (Bool.and_eq_true_iff.mp (quoteHyp_of_B _ quoteHypB_doc)).2
  split
  · next s hr =>
    rw [hr] at h
    exact decide_eq_true (of_decide_eq_true (Bool.and_eq_true_iff.mp h).2).segsNE
  · next e hr => rw [hr] at h; cases h
-- the unconditional whole-run theorem on it: both runs end normally
example : ∃ sA sB, GM.Blocks.run (strBytes "a\n\n> q\n") = .ok sA ∧ GM.Blocks.run (quotePrefix (strBytes "a\n\n> q\n")) = .ok sB ∧
    StoreRel (strBytes "a\n\n> q\n") sA.nodes sB.nodes ∧ UStore sA.nodes :=
  quote_prefix_run (by decide +kernel)
-- the unconditional theorem applied to it
example : GM.Props.Blocks.QuotePrefixSimulation
    (strBytes "a\n===\n\n~~~x\n  \ncode\n~~~\n> q\n> > r\n\n<div>\nh\n</div>\n\n    ind\n___\n# t\n") :=
  quote_prefix_simulation_class c08Class_doc
-- the wider class: no final line feed (fenced code block open at the end, paragraph in a quote, heading)
example : GM.Props.Blocks.QuotePrefixSimulation (strBytes "# t\n> q\nlazy\n\n~~~\ncode") :=
  quote_prefix_simulation_nofinalnl (by decide +kernel)
example : GM.Blocks.quoteSim (strBytes "# t\n> q\nlazy\n\n~~~\ncode") = "ok" := by decide +kernel
example : ¬ C08ClassW (strBytes "~~~\n  ") := by decide +kernel
-- documents without list items: digits, hyphens, emphasis, a `+` — but no list marker
example : GM.Props.Blocks.QuotePrefixSimulation
    (strBytes "In 1986 a well-known *fact*:\n> 2+2=4 (see p.12a)\n\n    code-1\n___\n# 3rd") :=
  quote_prefix_simulation_noitems (by decide +kernel)
example : ¬ C08ClassL (strBytes "a - b\n") := by decide +kernel
example : ¬ C08ClassL (strBytes "---\n") := by decide +kernel
-- the class excludes list markers and a missing final line feed
example : ¬ C08Class (strBytes "- a\n") := by decide +kernel
example : ¬ C08Class (strBytes "a") := by decide +kernel
-- the hypotheses of the one-line-step lemmas are satisfiable: the relation holds at the start of the runs
example : StoreRel (strBytes "a\n") [{ kind := .document }]
    [{ kind := .document, children := [1] }, { kind := .blockquote, parent := some 0, blankPrev := true }] :=
  storeRel_init _ true

/-- tests: documents with lists are in the class of `quote_prefix_simulation_lists` (non-vacuity), the statement is not
    vacuous on them (`quoteSim … = "ok"` means `quoteSimPair` is `some` pair of equal dumps), and the thematic breaks /
    hyphens that the `NoItem` class excluded are admitted -/
example : C08ClassF (strBytes "- a\n  b\n- c\n  1. d\n  2. e\n> * q\n>   r\n***\n+ x\ny - z\n---\n") := c08ClassF_doc
example : GM.Props.Blocks.QuotePrefixSimulation
    (strBytes "- a\n  b\n- c\n  1. d\n  2. e\n> * q\n>   r\n***\n+ x\ny - z\n---\n") :=
  quote_prefix_simulation_lists c08ClassF_doc
example : GM.Blocks.quoteSim (strBytes "- a\n  b\n- c\n  1. d\n  2. e\n> * q\n>   r\n***\n+ x\ny - z\n---\n") = "ok" := by
  decide +kernel
example : C08ClassF (strBytes "a - b\n") ∧ C08ClassF (strBytes "---\n") ∧ C08ClassF (strBytes "1. a\n   - b") := by decide +kernel
example : ¬ C08ClassF (strBytes "- a\n\n- b\n") := by decide +kernel
-- lists AND blank lines: a paragraph, a loose list with a nested ordered list, a quote with a list, a thematic break
example : C08ClassG (strBytes "a\n\n- b\n\n  c\n- d\n  1. e\n\n  2. f\n\n> * q\n>\n> * r\n\n***\n# h\n\ng") := c08ClassG_doc
example : GM.Props.Blocks.QuotePrefixSimulation
    (strBytes "a\n\n- b\n\n  c\n- d\n  1. e\n\n  2. f\n\n> * q\n>\n> * r\n\n***\n# h\n\ng") :=
  quote_prefix_simulation_lists_blank c08ClassG_doc
example : GM.Blocks.quoteSim (strBytes "a\n\n- b\n\n  c\n- d\n  1. e\n\n  2. f\n\n> * q\n>\n> * r\n\n***\n# h\n\ng") = "ok" := by
  decide +kernel
example : ¬ C08ClassG (strBytes "a\n===\n") ∧ ¬ C08ClassG (strBytes "---\n") := by decide +kernel

end blocks

/-- (re-export of `GM.Props.C08E2E.renderer_wraps_blockquote`) **the renderer on Document[Blockquote[xs]]** (html.go:renderBlockquote): `<blockquote>⏎`, the children, `</blockquote>⏎` — for
    every renderer configuration and every list of children -/
theorem renderer_wraps_blockquote : type_of% @GM.Props.C08E2E.renderer_wraps_blockquote := @GM.Props.C08E2E.renderer_wraps_blockquote

/-- (re-export of `GM.Props.C08E2E.parse_quote_prefix_of_store_relation`) **C08 at the level of the renderer's tree, from the store relation**: `parseDoc` of the block-quoted source is
    Document[Blockquote[children of `parseDoc D`]] -/
theorem parse_quote_prefix_of_store_relation : type_of% @GM.Props.C08E2E.parse_quote_prefix_of_store_relation := @GM.Props.C08E2E.parse_quote_prefix_of_store_relation

/-- (re-export of `GM.Props.C08E2E.convert_quote_prefix_of_store_relation`) **C08 at HTML level, from the store relation** (any class of sources for which the block-level simulation is proved) -/
theorem convert_quote_prefix_of_store_relation : type_of% @GM.Props.C08E2E.convert_quote_prefix_of_store_relation := @GM.Props.C08E2E.convert_quote_prefix_of_store_relation

/-- (re-export of `GM.Props.C08E2E.convert_quote_prefix`) **`convert_quote_prefix` — C08 at HTML level, documents with lists and blank lines**: for every option set, every source of
    `C08ClassG` (no tab, no CR, not empty, last byte not a space, no setext underline pattern) without `[`, given the inline
    invariant for this source -/
theorem convert_quote_prefix : type_of% @GM.Props.C08E2E.convert_quote_prefix := @GM.Props.C08E2E.convert_quote_prefix

/-- (re-export of `GM.Props.C08E2E.convert_quote_prefix_lists`) the same for `C08ClassF` (lists, no blank line) -/
theorem convert_quote_prefix_lists : type_of% @GM.Props.C08E2E.convert_quote_prefix_lists := @GM.Props.C08E2E.convert_quote_prefix_lists

/-- (re-export of `GM.Props.C08E2E.convert_quote_prefix_no_final_newline`) the same for `C08ClassW` (no final line feed needed, none of `- * + 0-9`) -/
theorem convert_quote_prefix_no_final_newline : type_of% @GM.Props.C08E2E.convert_quote_prefix_no_final_newline := @GM.Props.C08E2E.convert_quote_prefix_no_final_newline

/-- (re-export of `GM.Props.C08E2E.convert_quote_prefix_raw_leaves`) **without the inline hypothesis: documents whose leaves are raw blocks** — every block with lines is a CodeBlock, a
    FencedCodeBlock or an HTMLBlock (in any nesting of lists and quotes of the class) -/
theorem convert_quote_prefix_raw_leaves : type_of% @GM.Props.C08E2E.convert_quote_prefix_raw_leaves := @GM.Props.C08E2E.convert_quote_prefix_raw_leaves

/-- (re-export of `GM.Props.C08E2E.inline_invariant_good_lines`) **the inline hypothesis holds for blocks of plain-text lines** (`GM.Proof.CMFrag.GoodLine`), wherever the lines lie -/
theorem inline_invariant_good_lines : type_of% @GM.Props.C08E2E.inline_invariant_good_lines := @GM.Props.C08E2E.inline_invariant_good_lines

/-- (re-export of `GM.Props.C08E2E.convert_quote_prefix_good_lines`) **without the inline hypothesis: any block structure of the class, plain-text inline content** — every Paragraph / Heading /
    TextBlock of the block tree of `D` consists of good lines (`GoodBlocks`) -/
theorem convert_quote_prefix_good_lines : type_of% @GM.Props.C08E2E.convert_quote_prefix_good_lines := @GM.Props.C08E2E.convert_quote_prefix_good_lines

/-- (re-export of `GM.Props.C08E2E.convert_quote_prefix_checked`) **… with decidable hypotheses**: `C08ClassG D`, `NoBracket D` and `goodLinesCheck D` are decidable -/
theorem convert_quote_prefix_checked : type_of% @GM.Props.C08E2E.convert_quote_prefix_checked := @GM.Props.C08E2E.convert_quote_prefix_checked

/-- (re-export of `GM.Props.C08E2ETotal.convert_quote_prefix_total`) **C08 at HTML level, lists and blank lines (`C08ClassG`), no `[`, given the inline invariant for `D`**: `D` converts, and the
    block-quoted source converts to `<blockquote>⏎` + that HTML + `</blockquote>⏎` -/
theorem convert_quote_prefix_total : type_of% @GM.Props.C08E2ETotal.convert_quote_prefix_total := @GM.Props.C08E2ETotal.convert_quote_prefix_total

/-- (re-export of `GM.Props.C08E2ETotal.convert_quote_prefix_lists_total`) the same for `C08ClassF` (lists, no blank line) -/
theorem convert_quote_prefix_lists_total : type_of% @GM.Props.C08E2ETotal.convert_quote_prefix_lists_total := @GM.Props.C08E2ETotal.convert_quote_prefix_lists_total

/-- (re-export of `GM.Props.C08E2ETotal.convert_quote_prefix_no_final_newline_total`) the same for `C08ClassW` (no final line feed needed) -/
theorem convert_quote_prefix_no_final_newline_total : type_of% @GM.Props.C08E2ETotal.convert_quote_prefix_no_final_newline_total := @GM.Props.C08E2ETotal.convert_quote_prefix_no_final_newline_total

/-- (re-export of `GM.Props.C08E2ETotal.convert_quote_prefix_raw_leaves_total`) **no inline hypothesis: documents whose leaves are raw blocks** -/
theorem convert_quote_prefix_raw_leaves_total : type_of% @GM.Props.C08E2ETotal.convert_quote_prefix_raw_leaves_total := @GM.Props.C08E2ETotal.convert_quote_prefix_raw_leaves_total

/-- (re-export of `GM.Props.C08E2ETotal.convert_quote_prefix_good_lines_total`) **no inline hypothesis: any block structure of the class, plain-text inline content** (`GoodBlocks`) -/
theorem convert_quote_prefix_good_lines_total : type_of% @GM.Props.C08E2ETotal.convert_quote_prefix_good_lines_total := @GM.Props.C08E2ETotal.convert_quote_prefix_good_lines_total

/-- (re-export of `GM.Props.C08E2ETotal.convert_quote_prefix_checked_total`) **… all hypotheses decidable** (`C08ClassG D`, `NoBracket D`, `goodLinesCheck D`) -/
theorem convert_quote_prefix_checked_total : type_of% @GM.Props.C08E2ETotal.convert_quote_prefix_checked_total := @GM.Props.C08E2ETotal.convert_quote_prefix_checked_total

end GM.Props.C08
