/-
  C15 / C01 — TOTALITY of `convertH true` (the default pipeline with `parser.WithAutoHeadingID()`), for every byte string:
  `converth_total`, `c15_end_to_end_total`.

  GM.Props.ConvertE2EAll proves: `convertH true` answers HTML, or its block phase ended in `lastLine.Value(reader.Source())`
  inside generateAutoHeadingID (atx_heading.go:203). This file proves that the Heading's last line is inside the source when
  `Close` runs, so that panic does not occur. It is a fact about an INTERMEDIATE state of the run, which the final-state theorem
  `block_phase_total` does not give.

  How it is proved. `GM.Blocks.runV` (lean/GM/Proof/ConvertHV.lean) is `runT` — the block driver with paragraph transformers, in
  the plain block monad — with ONE difference: behind `Close` of the two heading parsers it evaluates
  `Lines().At(Len()-1).Value(source)` of the node and throws the result away (`bpCloseV`).
    1. `block_phase_h_of_monitor`: when `runV` ends normally, the block phase WITH the option ends normally in the same store
       (GM.Proof.ConvertHVMain: the option's code panics only in that `Value` call, `Generate` always returns).
    2. `runV` is total up to the guard outcome `pre` (`GM.Blocks.TV.runV_total`, GM.Proof.BlocksV): the no-panic walk of the block
       driver (GM.Proof.BlocksTNPX*) is proved for the driver with the parsers' `Close` as a parameter (GM.Proof.BlocksDriverC), of
       which `runT` and `runV` are the instances `bpClose` and `bpCloseV`. The walk uses of `bpClose` only its contracts, and
       `bpCloseV_okl` (GM.Proof.BlocksVT) supplies the same contracts for `bpCloseV`, because the monitor is a no-op in every
       state with `NodesOK` — which `ClosePost` gives right behind `bpClose`.
    3. `runV` refines `runT` (GM.Proof.BlocksVT): a panic of `runV` is a panic of `runT` or a `Value` panic — never `pre`;
       `runT` is total (`block_phase_total`), so `runV` does not answer `pre`.
  Hence `monitored_block_phase_total`, and with `GM.Props.ConvertE2EAll.converth_total_of_block_phase`: `converth_total`.
-/
import GM.Proof.ConvertHVMain
import GM.Proof.BlocksVT
import GM.Proof.BlocksV
import GM.Props.ConvertE2EAll

namespace GM.Props.C15Total
open GM GM.Text GM.Blocks GM.Convert GM.ConvertH GM.Props.C15E2E

def MonitoredBlockPhaseTotal : Prop := ∀ src : Bytes, ∃ st, runV (paragraphTransformers true) src = .ok st

/-- **the monitored block driver is total for every byte string** (and every line segment of the store it returns lies inside
    the source): the heading's last line is inside the source at the moment `Close` runs -/
theorem monitored_block_phase_total (src : Bytes) :
    ∃ st, runV (paragraphTransformers true) src = .ok st ∧ GM.Blocks.NodesOK src st := by
  rcases GM.Blocks.TV.runV_total src .pre (paragraphTransformers true) (GM.Proof.LinkRefTot2.paragraphTransformers_spec src)
    GM.Proof.LinkRefPres.paragraphTransformers_ok with ⟨s, h, hn, _⟩ | h
  · exact ⟨s, h, hn⟩
  · exfalso
    have ht := GM.Blocks.runV_error_pre _ _ h
    obtain ⟨s, hs, _⟩ := GM.Props.ConvertNP.block_phase_total src
    unfold blockPhase at hs
    rw [hs] at ht
    cases ht

theorem monitored_block_phase_total' : MonitoredBlockPhaseTotal :=
  fun src => (monitored_block_phase_total src).imp fun _ h => h.1

/-- **the option's block phase follows the monitored driver**: when `runV` ends normally, the block phase with
    AutoHeadingID ends normally in the same node store / context, for every transformer list and byte string -/
theorem block_phase_h_of_monitor (guard : Bool) (src : Bytes) (st : Blocks.St)
    (h : runV (paragraphTransformers guard) src = .ok st) : ∃ hs, blockPhaseH true guard src = .ok (hs, st) :=
  runH_of_runV (paragraphTransformers guard) src st h

/-- the monitor only reads: its one step is `valueCheck`, which leaves the state alone (when it returns) -/
theorem monitor_reads_only (node : Nat) (s s' : Blocks.St) (h : valueCheck node s = .ok ((), s')) : s' = s :=
  (generateAutoHeadingID_ok node {} s s' h).1

/-- **`converth_total_of_monitor`**: if the monitored block driver is total, `convertH true` answers HTML for EVERY byte
    string, Unicode-class assignment and renderer option set -/
theorem converth_total_of_monitor (hM : MonitoredBlockPhaseTotal) (uc : List (Nat × (Bool × Bool))) (o : ROpts)
    (src : Bytes) : ∃ html, convertH true uc o src = .ok html := by
  obtain ⟨st, hv⟩ := hM src
  obtain ⟨hs, hb⟩ := block_phase_h_of_monitor true src st hv
  exact GM.Props.ConvertE2EAll.converth_total_of_block_phase uc o src hs st hb

/-- **`c15_end_to_end_total_of_monitor`**: … and every heading start tag of THAT html carries a non-empty id, all distinct:
    `html` is the rendering of the parsed tree; for the Heading nodes the renderer visits, in document order, the attribute lists
    are exactly `id = v`, pairwise distinct; every `v` is non-empty and consists of `a-z 0-9 -`; `<hN id="v">` is a contiguous part
    of `html`. -/
theorem c15_end_to_end_total_of_monitor (hM : MonitoredBlockPhaseTotal) (uc : List (Nat × (Bool × Bool))) (o : ROpts)
    (src : Bytes) :
    ∃ html t, convertH true uc o src = .ok html ∧ parseDocH true true uc src = .ok t ∧ html = render o.rcfg t ∧
      ((rHeadings t).map (·.2)).Nodup ∧
      ∀ p ∈ rHeadings t, ∃ v, p.2 = idAttr v ∧ v ≠ [] ∧ (∀ c ∈ v, IdByte c = true) ∧ startTag p.1 v <:+: html := by
  obtain ⟨st, hv⟩ := hM src
  obtain ⟨hs, hb⟩ := block_phase_h_of_monitor true src st hv
  exact GM.Props.ConvertE2EAll.c15_end_to_end_of_block_phase uc o src hs st hb

/-- per source: whenever the monitored driver returns on `src`, all of the above holds for `src` (no global hypothesis) -/
theorem c15_end_to_end_of_monitor_run (uc : List (Nat × (Bool × Bool))) (o : ROpts) (src : Bytes) (st : Blocks.St)
    (hv : runV (paragraphTransformers true) src = .ok st) :
    ∃ html t, convertH true uc o src = .ok html ∧ parseDocH true true uc src = .ok t ∧ html = render o.rcfg t ∧
      ((rHeadings t).map (·.2)).Nodup ∧
      ∀ p ∈ rHeadings t, ∃ v, p.2 = idAttr v ∧ v ≠ [] ∧ (∀ c ∈ v, IdByte c = true) ∧ startTag p.1 v <:+: html := by
  obtain ⟨hs, hb⟩ := block_phase_h_of_monitor true src st hv
  exact GM.Props.ConvertE2EAll.c15_end_to_end_of_block_phase uc o src hs st hb

/-! ### tests on literals (not theorems): the monitored driver returns on documents with ATX / setext headings in containers -/

-- `# a⏎# a⏎a⏎=⏎`
example : (runV (paragraphTransformers true) [35, 32, 97, 10, 35, 32, 97, 10, 97, 10, 61, 10]).toOption.isSome = true := by
  decide +kernel
-- `> #⏎- a⏎  ==⏎`
example : (runV (paragraphTransformers true) [62, 32, 35, 10, 45, 32, 97, 10, 32, 32, 61, 61, 10]).toOption.isSome = true := by
  decide +kernel

/-- **the block phase with AutoHeadingID is total**: the strict form of `converth_block_phase_projects` — it returns exactly
    when (always) `convertCore`'s block phase returns, in the same store -/
theorem block_phase_h_total (src : Bytes) : ∃ hs st, blockPhaseH true true src = .ok (hs, st) ∧ blockPhase true src = .ok st := by
  obtain ⟨st, hv, _⟩ := monitored_block_phase_total src
  obtain ⟨hs, hb⟩ := block_phase_h_of_monitor true src st hv
  have := GM.Props.C15E2E.converth_block_phase_projects true src
  rw [hb] at this
  exact ⟨hs, st, hb, this⟩

/-- a panic of the block phase with the option is a panic of `convertCore`'s block phase (vacuously: there is none) -/
theorem block_phase_h_error_is_core_error (src : Bytes) (e : Panic) (h : blockPhaseH true true src = .error e) :
    blockPhase true src = .error e := by
  obtain ⟨hs, st, hb, _⟩ := block_phase_h_total src
  rw [hb] at h; cases h

/-- **`converth_total`** — C01 for the AutoHeadingID configuration: for EVERY byte string, Unicode-class assignment and
    renderer option set, `convertH true` (the model of `goldmark.New(WithParserOptions(WithAutoHeadingID()), …).Convert`, tied
    byte for byte by component `converth`) answers HTML: no Go run-time panic, no fuel exhaustion, no monitor, no guard. -/
theorem converth_total (uc : List (Nat × (Bool × Bool))) (o : ROpts) (src : Bytes) :
    ∃ html, convertH true uc o src = .ok html :=
  converth_total_of_monitor monitored_block_phase_total' uc o src

/-- **`c15_end_to_end_total`** — C15 END TO END, TOTAL: for EVERY byte string `convertH true` answers HTML `html`; `html` is the
    rendering of the parsed tree; for the Heading nodes the renderer visits, in document order, the attribute lists are exactly
    `id = v`, pairwise DISTINCT; every `v` is NON-EMPTY and consists of `a-z 0-9 -`; the start tag `<hN id="v">` is a contiguous
    part of `html`. -/
theorem c15_end_to_end_total (uc : List (Nat × (Bool × Bool))) (o : ROpts) (src : Bytes) :
    ∃ html t, convertH true uc o src = .ok html ∧ parseDocH true true uc src = .ok t ∧ html = render o.rcfg t ∧
      ((rHeadings t).map (·.2)).Nodup ∧
      ∀ p ∈ rHeadings t, ∃ v, p.2 = idAttr v ∧ v ≠ [] ∧ (∀ c ∈ v, IdByte c = true) ∧ startTag p.1 v <:+: html :=
  c15_end_to_end_total_of_monitor monitored_block_phase_total' uc o src

end GM.Props.C15Total
