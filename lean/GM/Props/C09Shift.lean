/-
  GM.Props.C09Shift — property C09, first half ("closed blocks render independently"):
  SHIFT INVARIANCE of the block phase, proved by a simulation between two runs of the executable block-phase model
  `GM.Model.Blocks` (tied to goldmark's parser by the `blocks` / `blockindep` correspondences).

  Setting. Run A is `GM.Blocks.run b` (source `b`). Run B works on `p ++ b` and stands in the outer loop of
  `parseBlocks` (parser.go:1055) at offset `|p|`, with NO open block and the context keys reset — the state that a
  non-indented ATX heading line followed by a blank line leaves (`GM.Props.C09.heading_and_blank_line_reset(_top)`).
  A `Frame F` describes what B has more than A: the prefix `F.p`, its number of lines `F.dl`, the `F.c` nodes B's store
  already holds besides the Document, and the children `F.kids0` B's Document already has. The state relation (GM.Proof.
  ShiftSimRel): B's reader is A's moved by `|p|` bytes and `dl` lines (`shR`); A's node `j` is B's node `ι j` (`ι 0 = 0`,
  `ι j = j + c`) with ids mapped by `ι` and every line / info / closure segment moved by `|p|` (`shN`), B's Document
  having `kids0` in front of its children; same context keys, same open-block stack (ids mapped); B's blank-line
  statistics are stale entries of the prefix followed by A's with line numbers `+ dl`.

  Calculus: `P2 Q x y` — if BOTH computations end normally, `Q` relates results and final states. That both whole runs
  end normally is `GM.Props.Blocks.no_panic`; the fuels of the two runs are never compared.

  What is proved here, for EVERY prefix that is empty or ends with a blank line, every state related as above:
  * the one-line step of `Open`, `Continue`, `Close` of EIGHT of the ten block parsers (all but listParser and
    listItemParser) and of `Continue` at the end of the source — `shift_step_*`;
  * the driver for any covered parser set: `closeBlocks`, `openBlocks` (candidate loop, RequireParagraph path,
    `goto retry` with the contract monitor — the retry measure is the same number in both runs), the per-line loop with the
    stale slice read and the `isBlankLine` statistics, both line loops of `parseBlocks` — `shift_driver_*`;
  * whole runs: `shift_invariance_list_free`.
  The two list parsers are covered as well (`shift_invariance`, all ten block parsers, every source `b`), over
  conditional step contracts (`shift_contracts_all`) whose side conditions are facts about run A alone: its store invariant
  `K` (acyclic, node 0 is nobody's child, open blocks are not the Document) threaded through the driver, and the mid-pass
  invariant of the no-panic proof (`StableL` + `ListHint`, black boxes `listContinue_okl2` / `listItemContinue_okl2`).
  And the first half END TO END for an empty `A`: `independent_blocks_empty_a_all` = `IndependentBlocks [] h b` for all `h`,
  `b`. For a non-empty `A`, prefix determinism (the run on `a ++ t` up to `|a|` against the run on `a`) and
  closing at the end of the source against closing by blank line + heading are proved in GM.Props.C09Prefix for first
  parts that end with a line feed and lie in the positional class `PlainL`; for other non-empty `A` they are not proved.
  A last line of `b` WITHOUT line feed is covered (`shift_invariance_list_free`): there fcode_block.go:104 can call
  `Advance(-1)`, after which the readers are only related again after the next AdvanceLine; this is harmless because a leaf
  block is always the last open block — an invariant of run A taken from the no-panic proof (`StableL`, used as a black
  box about run A at line boundaries).
-/
import GM.Proof.ShiftSimMainW
import GM.Proof.ShiftSimList
import GM.Proof.ShiftSimEnd
import GM.Proof.ShiftSimXReach
import GM.Proof.ShiftSimCompose

namespace GM.Props.C09Shift
open GM GM.Text GM.Blocks GM.Blocks.Sh

/-! ### the reader -/

/-- **PeekLine / Advance / AdvanceLine commute with the shift.** B's reader is a function of A's (`shR`: source
    `p ++ _`, positions `+ |p|`, line `+ dl`, same caches); as long as A's position is not negative every reader call gives
    the same bytes, the same column, and segments moved by `|p|`. -/
theorem shift_reader_peek_line (F : Frame) (r : Reader) (h0 : 0 ≤ r.pos.start) :
    (shR F r).peekLine = r.peekLine.map (fun x => ((x.1.1, moveSeg F.d x.1.2), shR F x.2)) :=
  peekLine_sh F r h0

theorem shift_reader_advance (F : Frame) (r : Reader) (n : Int) (h0 : 0 ≤ r.pos.start) (h1 : 0 ≤ r.pos.stop) :
    (shR F r).advance n = (r.advance n).map (shR F) :=
  advance_sh F r n h0 h1

/-- `SetPosition` (used by preserveLeadingTabInCodeBlock, which looks ONE BYTE BACK) commutes with the shift even one
    byte in front of `b` — because the prefix ends with a blank line (`Frame.OK`). For a prefix ending with a non-blank
    line this is false for arbitrary states (the column of the byte in front of `b` would differ). -/
theorem shift_reader_set_position (F : Frame) (hF : F.OK) (r : Reader) (l : Int) (pos : Segment) (h0 : -1 ≤ pos.start) :
    (shR F r).setPosition (l + F.dl) (moveSeg F.d pos) = shR F (r.setPosition l pos) :=
  setPosition_sh F hF r l pos h0

/-! ### one step of a block parser -/

/-- **`Open` of every block parser but the two list parsers** from related states on a line: same answer (node id mapped
    by `ι`), related states — the full relation when the answer is nil or HasChildren, the limbo relation (readers related
    after the next AdvanceLine) after a leaf parser consumed its line. -/
theorem shift_step_open (F : Frame) (hF : F.OK) (b : Bytes) (bp : BP) (h : NotList bp) : OpenSim F b bp :=
  (psim_notList F hF b).op bp h

/-- **`Continue`** of the same eight parsers on a line (for a source that is empty or ends with a line feed): same answer,
    related states. -/
theorem shift_step_continue (F : Frame) (hF : F.OK) (b : Bytes) (bp : BP) (h : NotList bp) : ContinueSim F b bp :=
  (psim_notList F hF b).co bp h

/-- **`Continue` without the assumption that the source ends with a line feed**: same answer; afterwards the full relation,
    or — when the answer is "Continue, no children" — at least the limbo relation (only fencedCodeBlockParser.Continue on a
    last line that is all fence indentation needs this: `Advance(-1)`, fcode_block.go:104). -/
theorem shift_step_continue_any_source (F : Frame) (hF : F.OK) (b : Bytes) (bp : BP) (h : NotList bp) :
    ContinueSimW F b bp :=
  (psimW_notList F hF b).co bp h

/-- **`Continue` at the end of the source** (openBlocks calls it for the last opened paragraph when a container consumed
    the rest of the last line): same answer, limbo relation. -/
theorem shift_step_continue_eof (F : Frame) (hF : F.OK) (b : Bytes) (bp : BP) (h : NotList bp) : ContinueEofSim F b bp :=
  (psim_notList F hF b).coEof bp h

/-- **`Close`** of the same parsers (no `Close` looks at the reader, only at its source): related stores and contexts,
    including the tree surgery of setextHeadingParser.Close and the trimming of paragraph / code block lines. -/
theorem shift_step_close (F : Frame) (hF : F.OK) (b : Bytes) (bp : BP) (h : NotList bp) : CloseSim F b bp :=
  (psim_notList F hF b).cl bp h

/-! ### the two list parsers: one step, under explicit side conditions (partial; not used by the whole-run theorems)

The side conditions are facts about run A's store that hold in every reachable state (no-panic invariants `KidsOK`,
`ChainedO`) but are not part of the relation: B's Document has the children `kids0` in front, so wherever the LAST child or
the children of a node are read the node must not be the Document; and `listItemParser.Continue` / `Open` end with an
`AdvanceAndSetPadding` whose argument is `IndentPosition(...)`, which is not negative only because of what the list parser
decided before — given here as "run A's reader is in its invariant afterwards". Frames with `flag = true`: the flag
`emptyListItemWithBlankLines` is equal in both runs. -/

/-- listParser.Open (list.go:131-163): unconditional. -/
theorem shift_step_list_open (F : Frame) (b : Bytes) : OpenSim F b .list := listOpen_sim F b

/-- listParser.Continue (list.go:165-245): the last child of the list is not the Document. -/
theorem shift_step_list_continue : type_of% @listContinue_simW' := @listContinue_simW'

/-- listParser.Close (list.go:247-279, tightness + Paragraph → TextBlock): the list and its items are not the Document. -/
theorem shift_step_list_close : type_of% @listClose_simN := @listClose_simN

/-- listItemParser.Open (list_item.go:24-52), given that run A's reader is in its invariant afterwards. -/
theorem shift_step_list_item_open : type_of% @listItemOpen_simH := @listItemOpen_simH

/-- listItemParser.Continue (list_item.go:54-78): the item and its parent are not the Document, and run A's reader is in
    its invariant afterwards (i.e. `IndentPosition` did not answer -1). -/
theorem shift_step_list_item_continue : type_of% @listItemContinue_simH := @listItemContinue_simH

/-- listItemParser.Continue at the end of the source: unconditional. -/
theorem shift_step_list_item_continue_eof (F : Frame) (b : Bytes) : ContinueEofSim F b .listItem :=
  listItemContinue_eof F b

/-! ### the driver, for any set of parsers that meet the step contracts -/

/-- **closeBlocks** (parser.go:900-918) keeps the relation and run A's open blocks covered. -/
theorem shift_driver_close_blocks : type_of% @closeBlocks_l2 := @closeBlocks_l2

/-- **the candidate loop** of openBlocks (parser.go:960-1014) incl. the RequireParagraph path and the detached-last-block
    path: same outcome (`goto retry` with the mapped parent, or done), same `result`, related `lastBlock`. -/
theorem shift_driver_try_parsers : type_of% @tryParsers_p2 := @tryParsers_p2

/-- **the retry measure** of the contract monitor is the same number in both runs. -/
theorem shift_driver_retry_measure : type_of% @retryMeasure_eq := @retryMeasure_eq

/-- **openBlocks** (parser.go:928-1024) from weakly related states (BlockOffset / BlockIndent need not agree: they are
    written before they are read): same answer, limbo relation; the retry fuels of the two runs are unrelated. -/
theorem shift_driver_open_blocks : type_of% @openBlocks_p2 := @openBlocks_p2

/-- **isBlankLine** (parser.go:1032-1049): B's statistics are stale entries from lines of the prefix followed by A's with
    shifted line numbers; a query about a line `≥ 0` of A at a level A's statistics cover gets the same answer — the scan
    stops with `false` at the first stale entry exactly where A's runs off the end. -/
theorem shift_driver_is_blank_line : type_of% @isBlankLine_shift := @isBlankLine_shift

/-- **one pass of the per-line loop** (parser.go:1081-1123) incl. the stale slice read `openedBlocks[lastIndex]`. -/
theorem shift_driver_line : type_of% @lineLoop_p2 := @lineLoop_p2

/-- **the inner and the outer line loop** of parseBlocks (for a source that is empty or ends with a line feed). -/
theorem shift_driver_lines : type_of% @linesLoop_p2 := @linesLoop_p2
theorem shift_driver_blocks : type_of% @blocksLoop_p2 := @blocksLoop_p2

/-- **the same for any source**: run A's states at line boundaries additionally carry the invariant of the no-panic proof
    (`AStable`), from which "a leaf block is the last open block" is read. -/
theorem shift_driver_line_any_source : type_of% @lineLoop_p2W := @lineLoop_p2W
theorem shift_driver_lines_any_source : type_of% @linesLoop_p2W := @linesLoop_p2W
theorem shift_driver_blocks_any_source : type_of% @blocksLoop_p2W := @blocksLoop_p2W

/-! ### whole runs -/

/-- **Shift invariance for a covered parser set.** If the parsers in `Cov` meet the step contracts and the bytes of `b`
    trigger only parsers in `Cov`, then from a `Start` state the rest of run B builds the store of `run b` moved by the
    frame: `StoreRel F sA'.nodes sB'.nodes`. -/
theorem shift_invariance_covered : type_of% @shift_invariance_core := @shift_invariance_core

/-- **Shift invariance, all block parsers but the list parsers** (C09 first half, step (iii); partial only in that the
    two list parsers are not covered).

    Let `p` (= `F.p`) be empty or end with a blank line, let `b` be ANY byte string that contains none of `- * +` and no
    digit. Let run B stand in the outer loop of parseBlocks at offset `|p|` of `p ++ b` (`Start`): reader = the fresh reader
    of `b` moved by `|p|` bytes / `dl` lines, no open block, `temporaryParagraphKey`, `fencedCodeBlockInfoKey`,
    `skipListParserKey` unset, store = Document (children `kids0`) + `c` nodes, blank-line statistics all from lines `< dl`
    and (if any) saying that line `dl - 1` is blank. If the rest of run B ends normally in `sB'` (it does:
    `GM.Props.Blocks.no_panic` for whole runs), then `run b` ends normally in some `sA'` and

      * B's store has `c` more nodes than A's; A's node `j` is B's node `ι j` (`ι 0 = 0`, `ι j = j + c`);
      * B's node `ι j` is A's node `j` with parent / children ids mapped by `ι` and EVERY line segment, info segment and
        closure line moved by `|p|`; kind, level, list fields, HasBlankPreviousLines, HTML type are equal;
      * B's Document has exactly the children `kids0 ++ (A's Document children, mapped)`

    (`shift_invariance_store_shape`, and at tree level `shift_invariance_subtrees` / `shift_invariance_document`), i.e. what
    comes before a closed block does not change how the following text is parsed. -/
theorem shift_invariance_list_free (F : Frame) (hF : F.OK) (b : Bytes)
    (hLF : ∀ c ∈ b, c ≠ 45 ∧ c ≠ 42 ∧ c ≠ 43 ∧ isNumeric c = false) {sB : St} {statsB : List LineStat}
    (hS : Start F b sB statsB) (fuelB : Nat) (sB' : St) (hB : blocksLoop 0 fuelB statsB sB = .ok ((), sB')) :
    ∃ sA', run b = .ok sA' ∧ StoreRel F sA'.nodes sB'.nodes :=
  GM.Blocks.Sh.shift_invariance_list_free_all F hF b hLF hS fuelB sB' hB

/-- the same for any parser set `Cov` that meets the step contracts, triggers only covered parsers, and whose containers
    answer HasChildren when they continue -/
theorem shift_invariance_covered_all : type_of% @shift_invariance_coreW := @shift_invariance_coreW

/-- what `StoreRel` says about the Document and about every node, spelled out -/
theorem shift_invariance_store_shape (F : Frame) {nA nB : List Node} (h : StoreRel F nA nB) :
    nB.length = nA.length + F.c ∧
    (nB.getD 0 default).children = F.kids0 ++ (nA.getD 0 default).children.map F.ι ∧
    ∀ j, (nB.getD (F.ι j) default).kind = (nA.getD j default).kind ∧
      (nB.getD (F.ι j) default).lines = (nA.getD j default).lines.map (moveSeg F.d) ∧
      (nB.getD (F.ι j) default).parent = (nA.getD j default).parent.map F.ι ∧
      (nB.getD (F.ι j) default).blankPrev = (nA.getD j default).blankPrev ∧
      (j ≠ 0 → (nB.getD (F.ι j) default).children = (nA.getD j default).children.map F.ι) := by
  refine ⟨h.len, ?_, fun j => ?_⟩
  · have := h.node 0
    rw [ι_zero] at this
    rw [this]; rfl
  · rw [h.node j]
    refine ⟨rfl, rfl, rfl, rfl, fun hj => ?_⟩
    have : (j == 0) = false := beq_eq_false_iff_ne.mpr hj
    simp [shN, this]

/-- **tree level, below the Document**: read with the same fuel, the subtree of B's node `ι j` dumps (`Tree.str`, the
    canonical dump the correspondence compares, after `readBlank`) like the subtree of A's node `j` with every segment
    moved by `|p|` — provided no node of A's store has the Document as a child. -/
theorem shift_invariance_subtrees : type_of% @treeOf_shift_str := @treeOf_shift_str

/-- **tree level, the Document**: B's Document children dump as the old children `kids0` followed by A's Document
    children moved by `|p|` — the shape `GM.Blocks.indepPair` expects for the part of `A + heading + B` that comes from `B`. -/
theorem shift_invariance_document : type_of% @treeOf_shift_doc := @treeOf_shift_doc

/-! ### acyclic stores, and the first half END TO END for an empty document `A` -/

/-- **The store of the block phase is acyclic, for EVERY source**: links point downwards — every child has a larger node id
    than its parent and every parent pointer is smaller than the node's own id (so the children lists describe a forest and
    `treeOf` does not depend on its fuel once the fuel is at least the store's length); the Document has no lines.
    An ingredient of C05(b) ("the AST is a tree") as well. -/
theorem store_acyclic (src : Bytes) (s : St) (h : run src = .ok s) :
    Acyc s ∧ (s.nodes.getD 0 default).lines = [] ∧ (s.nodes.getD 0 default).kind = .document :=
  run_acyc src s h

/-- reading the tree with more fuel than the store has nodes changes nothing -/
theorem tree_fuel_irrelevant : type_of% @treeOf_root_stable := @treeOf_root_stable

/-- the heading line `# h` + end of source: the store is Document[1] and the heading that `atxNodeOf` describes -/
theorem heading_line_run : type_of% @run_heading_line := @run_heading_line

/-- the run on `"\n# h\n\n" ++ b`, followed line by line (leading blank line, heading line, blank line): it reaches the
    outer loop of parseBlocks behind the blank line in a `Start` state whose store is Document[1] + the same heading with
    its line moved by one byte — prefix determinism and the reset for an EMPTY `A`, by exact step lemmas (`openBlocks_heading_exact`,
    `blank_after_heading_exact`, `skip_one_blank`) instead of a general prefix-determinism argument. -/
theorem joined_run_reaches_start : type_of% @run_joined := @run_joined

/-- **C09 first half, END TO END, for an empty document `A`**: for EVERY heading text `h` (the statement itself demands it
    free of LF / CR) and EVERY `b` without `- * +` and digits (and, by the statement, without `[` and CR): the two dumps
    `GM.Blocks.indepPair [] h b` compares are equal — the block tree of `"\n# h\n\n" ++ b`, read with its own fuel, is
    Document[ heading of `"# h\n"` moved by 1, blocks of `b` moved by `|"\n# h\n\n"|` ], `HasBlankPreviousLines` compared
    where the block phase reads it. This is `GM.Props.C09.IndependentBlocks [] h b`. -/
theorem independent_blocks_empty_a (h b : Bytes) (hb : ∀ c ∈ b, c ≠ 45 ∧ c ≠ 42 ∧ c ≠ 43 ∧ isNumeric c = false) :
    ∀ e g, indepPair [] h b = some (e, g) → e = g :=
  independent_blocks_empty_all h b

/-- the statement is not vacuous: `indepPair` applies (answers `some`) for `h = "h"`, `b = "a\n\n> q\n"` -/
example : (indepPair [] [104] [97, 10, 10, 62, 32, 113, 10]).isSome = true := by decide +kernel

/-! ### the two list parsers — shift invariance for ALL block parsers -/

/-- the step contracts of all ten block parsers, for frames that also relate the flag `emptyListItemWithBlankLines`
    (`F.flag = true`). The contracts of the list parsers are conditional (`PSimL`): `Close`/`Continue` need run A's store
    invariant `K` and a node that is not the Document; `listItemParser.Continue` on a line needs that its List is not the
    Document and that run A's reader is well-formed afterwards. -/
theorem shift_contracts_all : type_of% @psimL_all := @psimL_all

/-- `listItemParser.Open` under the relation, unconditionally -/
theorem shift_step_list_item_open_all : type_of% @GM.Blocks.Sh.listItemOpen_sim := @GM.Blocks.Sh.listItemOpen_sim

/-- the driver over the conditional contracts, run A's store invariant `K` threaded through -/
theorem shift_driver_close_blocks_all : type_of% @closeBlocks_L := @closeBlocks_L
theorem shift_driver_try_parsers_all : type_of% @tryParsers_L := @tryParsers_L
theorem shift_driver_open_blocks_all : type_of% @openBlocks_L := @openBlocks_L

/-- one pass of the per-line loop, all parsers: run A's state carries the mid-pass invariant of the no-panic proof
    (`MidA`: `StableL` and what `listParser.Continue` has established on this line) -/
theorem shift_driver_line_all : type_of% @lineLoop_L := @lineLoop_L
theorem shift_driver_lines_all : type_of% @linesLoop_L := @linesLoop_L
theorem shift_driver_blocks_all : type_of% @blocksLoop_L := @blocksLoop_L

/-- **Shift invariance of the block phase, ALL block parsers, EVERY source `b`** (C09 first half, step (iii), complete).
    As `shift_invariance_list_free`, without any restriction on `b`; the frame also relates the flag
    `emptyListItemWithBlankLines` (`F.flag = true`, i.e. `Start` demands that run B's flag is unset, as it is in a fresh
    run and behind a heading + blank line). -/
theorem shift_invariance (F : Frame) (hF : F.OK) (hfl : F.flag = true) (b : Bytes) {sB : St} {statsB : List LineStat}
    (hS : Start F b sB statsB) (fuelB : Nat) (sB' : St) (hB : blocksLoop 0 fuelB statsB sB = .ok ((), sB')) :
    ∃ sA', run b = .ok sA' ∧ StoreRel F sA'.nodes sB'.nodes :=
  shift_invariance_all F hF hfl b hS fuelB sB' hB

/-- **C09 first half, END TO END, for an empty document `A`, EVERY `h`, EVERY `b`** (lists included):
    `GM.Props.C09.IndependentBlocks [] h b`. -/
theorem independent_blocks_empty_a_all (h b : Bytes) : ∀ e g, indepPair [] h b = some (e, g) → e = g :=
  independent_blocks_empty_all h b

/-- **what prefix determinism and the reset have to deliver for a non-empty `A`** (`GM.Blocks.Sh.Reach a h b sa sh sd`): the run on the joined
    document passes through a `Start` state of a frame for the prefix `a ++ sep ++ "# h\n" ++ "\n"`, and in its final store
    the old children of the Document dump like the children of `run a`'s Document followed by the heading of
    `run "# h\n"` moved by `|a ++ sep|`. -/
abbrev PrefixReached := @GM.Blocks.Sh.Reach

/-- **the composition, for EVERY `a`, `h`, `b`**: `IndependentBlocks a h b` follows from `PrefixReached` (shift
    invariance for all parsers + acyclic stores + the assembly of the dumps for an arbitrary frame, `indep_strings_gen`);
    nothing is assumed about `b`. `independent_blocks_empty_a_all` is the instance `a = []`. -/
theorem independent_blocks_from_prefix (a h b : Bytes)
    (hreach : ∀ sa sh sd, run a = .ok sa → run (headingLine h) = .ok sh → run (indepDoc a h b) = .ok sd →
      PrefixReached a h b sa sh sd) :
    ∀ e g, indepPair a h b = some (e, g) → e = g :=
  independent_blocks_of_reach a h b hreach

/-- not vacuous for a `b` with lists: `h = "h"`, `b = "- a\n\n  b\n1. c\n"` -/
example : (indepPair [] [104] [45, 32, 97, 10, 10, 32, 32, 98, 10, 49, 46, 32, 99, 10]).isSome = true := by decide +kernel

/-! ### non-vacuity (tests on literals) -/

/-- the frame of the prefix `"# h\n\n"`: 5 bytes, 2 lines, one node (the heading, node 1) under the Document -/
def exNodes : List Node :=
  [{ kind := .document, children := [1] },
   { kind := .heading, level := 1, parent := some 0, lines := [{ start := 2, stop := 3 }], linesNil := false,
     blankPrev := true }]

def exFrame : Frame := { p := [35, 32, 104, 10, 10], dl := 2, c := 1, kids0 := [1], oldNodes := exNodes }

/-- run B's state after `"# h\n\n"` in front of `b`: reader moved, Document + closed heading, nothing open -/
def exStateB (b : Bytes) : St :=
  { r := shR exFrame (Reader.new b),
    nodes := exNodes,
    pc := {} }

/-- the statistics B has recorded: the blank line (line 1) at level 0 -/
def exStats : List LineStat := [{ lineNum := 1, level := 0, isBlank := true }]

example : exFrame.OK := ⟨.inr (by decide), .inr (by decide), by decide⟩

/-- the hypotheses of `shift_invariance_list_free` hold for `b = "a\n\n> q\n"` behind `"# h\n\n"` … -/
example : Start exFrame [97, 10, 10, 62, 32, 113, 10] (exStateB [97, 10, 10, 62, 32, 113, 10]) exStats :=
  ⟨rfl, rfl, rfl, rfl, rfl, rfl, rfl, (fun h => absurd h (by decide)), (fun _ _ _ => rfl), by decide, .inr (by decide)⟩

example : ∀ c ∈ ([97, 10, 10, 62, 32, 113, 10] : Bytes), c ≠ 45 ∧ c ≠ 42 ∧ c ≠ 43 ∧ isNumeric c = false := by decide

/-- … the rest of run B ends normally, and its Document has the heading and then `b`'s paragraph and block quote
    (nodes 2 and 3 = `ι 1`, `ι 2`), the paragraph's line moved by 5 bytes -/
example : (blocksLoop 0 9 exStats (exStateB [97, 10, 10, 62, 32, 113, 10])).toOption.map
      (fun r => ((r.2.nodes.getD 0 default).children, (r.2.nodes.getD 2 default).lines.map (fun s => (s.start, s.stop))))
    = some ([1, 2, 3], [(5, 6)]) := by decide +kernel

example : (run [97, 10, 10, 62, 32, 113, 10]).toOption.map
      (fun s => ((s.nodes.getD 0 default).children, (s.nodes.getD 1 default).lines.map (fun s => (s.start, s.stop))))
    = some ([1, 2], [(0, 1)]) := by decide +kernel

/-- the example state is the real one: the rest of the run from it builds exactly the tree of the whole document
    `"# h\n\n" ++ b` -/
example : (blocksLoop 0 9 exStats (exStateB [97, 10, 10, 62, 32, 113, 10])).toOption.map
      (fun r => (treeOf r.2.nodes r.2.nodes.length 0).str)
    = some (dump ([35, 32, 104, 10, 10] ++ [97, 10, 10, 62, 32, 113, 10])) := by decide +kernel

/-- the corner that needs the limbo relation: `b` = a fence indented by two spaces and a LAST LINE WITHOUT LINE FEED that
    is exactly the fence indentation (fcode_block.go:104 calls `Advance(-1)`): hypotheses hold, both runs end normally, and
    the empty code line `8:8` of `run b` is `13:13` behind the 5-byte prefix -/
example : Start exFrame [32, 32, 96, 96, 96, 10, 32, 32] (exStateB [32, 32, 96, 96, 96, 10, 32, 32]) exStats :=
  ⟨rfl, rfl, rfl, rfl, rfl, rfl, rfl, (fun h => absurd h (by decide)), (fun _ _ _ => rfl), by decide, .inr (by decide)⟩

example : (blocksLoop 0 9 exStats (exStateB [32, 32, 96, 96, 96, 10, 32, 32])).toOption.map
      (fun r => (treeOf r.2.nodes r.2.nodes.length 0).str)
    = some "Document(0|||Heading(1|1|2:3:0:0|)FencedCodeBlock(1|nil|13:13:0:1|))" ∧
    dump [32, 32, 96, 96, 96, 10, 32, 32] = "Document(0|||FencedCodeBlock(1|nil|8:8:0:1|))" := by decide +kernel

end GM.Props.C09Shift
