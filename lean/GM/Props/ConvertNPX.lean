/-
  GM.Props.ConvertNPX — C01 for the block phase WITH GFM's table paragraph transformer (extension/table.go:152-182, model
  GM.TableX.transformPT, GM/Model/ExtTableX.lean): the driver theorem of GM.Props.ConvertNP for a WIDER transformer
  contract, and the block phase `GM.ConvertX.blockPhaseX` of every member set of the GFM extensions.
  Helper lemmas: GM/Proof/BlocksTNPX*.lean, BlocksTNPTotal.lean, BlocksTNPTable*.lean (contract `StepX` / `PTSpecX`, the no-panic walk for the wide contract, `buildTable_stepX`),
  GM/Proof/BlocksTNOTable*, BlocksTNO*W, BlocksTNOPhaseX (one table call exactly; the line invariant `InvW` of GM.Proof.BlocksTNOInvW through the driver with both
  transformers). What is proved / conditional / open: notes/status_tnopanic.md.
-/
import GM.Props.ConvertNP
import GM.Props.ConvertXE2E
import GM.Proof.BlocksTNPTable
import GM.Proof.BlocksTNOPhaseXGood
import GM.Proof.BlocksTNOPhaseX
import GM.Proof.BlocksTNPEsc

namespace GM.Props.ConvertNPX
open GM GM.Text GM.Spec GM.Blocks GM.LinkRef GM.Convert GM.ConvertX GM.TableX
open GM.Blocks.L.G.X

/-! ### (1) the widened contract -/

/-- **The block driver with paragraph transformers is total for the WIDER contract `PTsSpecX`**, every byte string: a transformer
    call on a Paragraph (with a parent, with lines) must end in `StepX` — only the paragraph's lines change among the old nodes'
    lines, all lines stay in range, the tree-link frames hold (`TF`, `PLTf`, `TreeOK`), every OTHER node that was the last child of
    its parent still is (`LK` frame: what keeps the `else` of `last == parent.LastChild()` dead — a Table inserted directly BEHIND
    the paragraph never displaces a later sibling), and when the paragraph stays attached (`g = false`) it keeps at least one
    line, old nodes keep their parents and fresh nodes hang below fresh nodes or below the paragraph's parent (`KeepF`) — or answer
    the guard's outcome `e`. Any number of fresh nodes, any kept sub-list of the lines (prefix or suffix). Conclusion as before:
    a tree with all lines in range and Lists of ListItems, or `e`; no Go panic, no fuel error, neither retry monitor. -/
theorem block_phase_with_transformers_total_x (src : Bytes) (e : Panic) (pts : List PT) (hs : PTsSpecX src e pts)
    (hl : PTsOK pts) :
    (∃ s, runT pts src = .ok s ∧ NodesOK src s ∧ KidsOK s) ∨ runT pts src = .error e :=
  GM.Blocks.T.runT_totalX src e pts hs hl

/-- the narrow contract of GM.Props.ConvertNP (`PTPost`: a suffix of the lines, or ONE fresh TextBlock in the paragraph's place) is a
    special case, so `block_phase_with_transformers_total` / `block_phase_total` are cases of the theorem above -/
theorem narrow_contract_is_wide {src : Bytes} {e : Panic} {pts : List PT} (h : PTsSpec src e pts) : PTsSpecX src e pts :=
  ptsSpecX_of_ptsSpec h

/-- contracts of transformer lists compose -/
theorem wide_contract_append {src : Bytes} {e : Panic} {l1 l2 : List PT} (h1 : PTsSpecX src e l1) (h2 : PTsSpecX src e l2) :
    PTsSpecX src e (l1 ++ l2) :=
  ptsSpecX_append h1 h2

/-! ### (2) the table paragraph transformer is inside the wide contract -/

/-- the table transformer never exhausts fuel and keeps every reader-only invariant (admissible for the termination theorem) -/
theorem table_transformer_terminates (src : Bytes) : PTOK (transformPT src) :=
  GM.Blocks.transformPT_ptok src

/-- **the table transformer is inside the wide contract** — behind the check "every line of the paragraph is non-empty and valid"
    (`tableE e src`: the check answers the parameter `e`; `tblLinesB`): one call is a `StepX` — the fresh subtree (Table, TableHeader,
    TableRows, TableCells: all `NodeOK`, cell segments inside their row line, `GM.Blocks.TO.Tab.parseRow_in`), `SetSliced` of the paragraph's
    lines (a prefix, last newline cut), `InsertAfter`, `RemoveChild` of an emptied paragraph — tree frames, last-child frame — or `e`. -/
theorem table_transformer_in_wide_contract (src : Bytes) (e : Panic) : PTSpecX src e (GM.Blocks.TO.tableE e src) :=
  GM.Blocks.TO.tableE_specX src e

/-- the check is needed for the CONTRACT only (kernel-evaluated witness `GM.Blocks.TX.tableNodesOK_false`: on a hand-built paragraph
    with an EMPTY line the one-byte cut of `trimLastNewline` inverts the kept segment); in a run it never fires, nor does the link
    reference guard: with both checks the block phase is the block phase with the bare transformers -/
theorem table_and_linkref_checks_never_fire (src : Bytes) (e : Panic) :
    runT [guardE e, GM.Blocks.TO.tableE e src] src = runT [transform, transformPT src] src :=
  GM.Blocks.TX.twins_never_fire src e

/-! ### (3) the block phase of the GFM member sets — every byte string

  These theorems need the field `linesNil := (cells.flatMap (·.esc)).isEmpty` of the TableRow record built by `GM.TableX.addRow`
  (lean/GM/Model/ExtTableX.lean): the record of a row with an escaped pipe holds the pipe positions as lines, and the store invariant
  `NodeOK.nil` (`linesNil → lines = []`) only holds of it because `linesNil` is false there. -/

/-- **C01, block phase with the link reference AND the table transformer, every member set of the GFM extensions, EVERY byte string:
    `blockPhaseX c true src` returns a tree with all line segments in range** — no Go panic of the driver, the block parsers, either
    transformer or the tree surgery; no fuel error; no contract monitor; neither run-time check (`guardedTransform`'s `WFSegs`, the table
    model's domain monitor `validB`) fires. -/
theorem block_phase_x_total (c : XCfg) (src : Bytes) : ∃ s, blockPhaseX c true src = .ok s ∧ NodesOK src s :=
  GM.Blocks.TX.blockPhaseX_total c src

/-- the run-time checks are observers -/
theorem block_phase_x_guard_is_observer (c : XCfg) (src : Bytes) : blockPhaseX c true src = blockPhaseX c false src :=
  GM.Blocks.TX.blockPhaseX_guard_irrelevant c src

/-- **the line facts of the store with Table on** (`c.table = true`; with Table off `blockPhaseX` is `blockPhase`, GM.Props.ConvertNP):
    every line of every node is in range; every CHILD that is not raw and not a table record (`thematicBreak`) and has lines has `WF0`
    lines; table records that are children have padding 0 on all lines; the Document has no lines -/
theorem block_phase_x_line_facts (c : XCfg) (src : Bytes) (ht : c.table = true) (s : St)
    (h : blockPhaseX c true src = .ok s) :
    (∀ n ∈ s.nodes, ∀ t ∈ n.lines, segInRange src t) ∧
    (∀ p ch, ch ∈ (s.nodes.getD p default).children → GM.Convert.isRawKind (s.nodes.getD ch default).kind = false →
      (s.nodes.getD ch default).kind ≠ .thematicBreak → (s.nodes.getD ch default).lines ≠ [] →
      GM.Proof.InlinesReader.WF0 src (s.nodes.getD ch default).lines) ∧
    (∀ p ch, ch ∈ (s.nodes.getD p default).children → (s.nodes.getD ch default).kind = .thematicBreak →
      ∀ t ∈ (s.nodes.getD ch default).lines, t.padding = 0) ∧
    (s.nodes.getD 0 default).lines = [] :=
  GM.Blocks.TX.blockPhaseX_line_facts c src ht s h

/-- parent pointers and child lists of the final store agree (`TreeOK`); every entry of a child list has that parent and, when
    not raw, padding 0 on all its lines -/
theorem block_phase_x_tree_consistent (c : XCfg) (src : Bytes) (ht : c.table = true) (s : St)
    (h : blockPhaseX c true src = .ok s) : TreeOK s :=
  GM.Blocks.TX.blockPhaseX_tree c src ht s h

/-- `RecClassAt src st`: in the final store a table record (`thematicBreak` child) that has lines is a row record, or a cell record with
    exactly one line without ForceNewline — i.e. the driver never rewrites `htmlType` / `offset` / `lines` of a record after the table
    transformer built it. STATED, NOT PROVED (needs data frames for setextClose / listClose / list Continue / ptReplace beyond
    lines-linesNil-kind). -/
abbrev RecordsClassify (src : Bytes) (st : St) : Prop := GM.Blocks.TX.RecClassAt src st

/-- **`BlockPhaseXGood` (the interface of GM.Props.ConvertXE2E) minus its escaped-pipe clause, literally, from `RecordsClassify`** — one member set, one source -/
theorem block_phase_x_good_but_esc (c : GCfg) (src : Bytes)
    (hR : c.base.table = true → ∀ st, blockPhaseX c.base true src = .ok st → RecordsClassify src st) :
    ∃ st, blockPhaseX c.base true src = .ok st ∧
      (∀ n ∈ st.nodes, isRawKind n.kind = true → ∀ t ∈ n.lines, segInRange src t) ∧
      (∀ p ch, ch ∈ (st.nodes.getD p default).children → isRawKind (st.nodes.getD ch default).kind = false →
        (c.base.table && isRowNode src (st.nodes.getD ch default)) = false →
        (c.base.table && isCellNode src (st.nodes.getD ch default) &&
          (st.nodes.getD ch default).lines.all (fun s => s.start == s.stop && s.padding == 0)) = false →
        (st.nodes.getD ch default).lines ≠ [] → GM.Proof.InlinesReader.WF0 src (st.nodes.getD ch default).lines) ∧
      (st.nodes.getD 0 default).lines = [] :=
  GM.Blocks.TX.blockPhaseX_good_but_esc_of c src hR

/-- **what is left for C01 end to end with `extension.GFM`**: the two remaining facts about the final store — records classify
    (`RecordsClassify`), escaped-pipe positions ascend in tree order (`GM.Props.ConvertXE2E.table_escaped_pipe_positions_ascend` has it per table; across
    tables it is a driver fact) — give `∀ c uc o src, ∃ html, convertL c uc o src = .ok html` -/
theorem convertl_total_of_records_and_esc
    (hR : ∀ (c : GCfg) (src : Bytes) st, c.base.table = true → blockPhaseX c.base true src = .ok st → RecordsClassify src st)
    (hE : ∀ (c : GCfg) (src : Bytes) st, blockPhaseX c.base true src = .ok st →
      (if c.base.table then escOfTree src (treeOf st.nodes st.nodes.length 0) else []).Pairwise (· < ·)) :
    GM.Props.ConvertXE2E.ConvertLTotal :=
  GM.Blocks.TX.convertL_total_of_class_esc hR hE

/-- the tree-level half of the escaped-pipe clause: if the node ids of the final store can be labelled by source spans
    `[lo id, hi id)` (`SpanOK`: a node's own recorded positions ascend inside its span and lie before its children's spans; children's
    spans are nested in the parent's and disjoint in child-list order), then `escOfTree` of the tree is strictly ascending. What is
    still missing is the DRIVER fact that such a labelling exists (children appended in source order, the Table inserted directly
    behind its paragraph). -/
theorem esc_ascending_of_spans (c : GCfg) (src : Bytes) (st : St)
    (hS : c.base.table = true → ∃ lo hi, GM.Blocks.TP4.SpanOK src st.nodes lo hi) :
    (if c.base.table then escOfTree src (treeOf st.nodes st.nodes.length 0) else []).Pairwise (· < ·) :=
  GM.Blocks.TP4.blockPhaseX_esc_ascending_of_spans c src st hS

/-- tests on literals (kernel-evaluated): `|a|b|⏎|-|-|⏎|c|d|⏎` — the block phase with Table builds the table (the store grows beyond
    Document + Paragraph); `|a|⏎|-|⏎|`\|`|⏎` — a row with an escaped pipe: the TableRow record (node 5, tag 103) holds the position
    (10,10) and `linesNil = false` -/
example : ((blockPhaseX { table := true } true
    [124, 97, 124, 98, 124, 10, 124, 45, 124, 45, 124, 10, 124, 99, 124, 100, 124, 10]).toOption.map
      (fun s => decide (s.nodes.length > 4))) = some true := by decide +kernel
example : ((blockPhaseX { table := true } true [124, 97, 124, 10, 124, 45, 124, 10, 124, 96, 92, 124, 96, 124, 10]).toOption.map
      (fun s => ((nd s 5).htmlType, (nd s 5).linesNil, (nd s 5).lines.map (fun t => (t.start, t.stop))))) =
      some (103, false, [(10, 10)]) := by decide +kernel

end GM.Props.ConvertNPX
