/-
  Property C02 (part a) — the line recognisers agree with the CommonMark wording.

  Characterisation theorems, for EVERY line (induction / case analysis, no samples), over GM.Model.LineRec —
  the Lean model of goldmark's line recognisers, tied to the Go functions by the exhaustive function-level
  correspondence of harness component `linerec` (which also compares each real function with a Go regexp
  transcription of the specification's sentence).  Helper lemmas: GM/Proof/LineRec.lean.

  Proved here (all characterisations are for every line): thematic break, setext underline, list markers
  (bullet / ordered incl. the 1–9 digit rule and "space, tab or end of line after the marker", with the match
  array), the list-content offset rule (`calcListOffset`), opening and closing code fence, ATX opening sequence
  (+ no panic) and ATX content range, tabs-vs-spaces (`tabs_eq_spaces`, incl. the padding half).
  The block driver that calls the recognisers is not modelled here (GM.Model.Blocks).
-/
import GM.Model.LineRec
import GM.Proof.LineRec

namespace GM.Props.C02a
open GM GM.LineRec GM.Proof.LineRec

/-- `isThematicBreak_iff` (spec 4.1: "a line consisting of optionally up to three spaces of indentation,
    followed by a sequence of three or more matching `-`, `_`, or `*` characters, each followed optionally by
    any number of spaces or tabs"). For every line and start column: goldmark accepts iff the indentation
    is at most 3 columns and there is ONE marker `m ∈ {*, -, _}` such that every byte of the line is `m` or
    white space (`util.IsSpace`: space, tab, LF, CR) and `m` occurs at least three times. -/
theorem isThematicBreak_iff (line : Bytes) (off : Nat) :
    isThematicBreak line off = true ↔
      (indentWidth line off).1 ≤ 3 ∧
      ∃ m, isTBMark m ∧ (∀ c ∈ line, c = m ∨ isSpace c = true) ∧ 3 ≤ line.count m :=
  Proof.LineRec.isThematicBreak_iff line off

/-- `fence_close_iff` (spec 4.5: "the closing code fence must use the same character as the opening fence, and
    have at least as many backticks or tildes as the opening fence … may be preceded by up to three spaces of
    indentation, and may be followed only by spaces or tabs"). For an open fence of `len ≥ 1` characters `ch`
    (not a white-space byte): the line closes it iff its indentation is ≤ 3 columns and, after the indentation,
    it is `n ≥ len` copies of `ch` followed only by white space. -/
theorem fence_close_iff (line : Bytes) (off : Nat) (ch : UInt8) (len : Nat) (hch : isSpace ch = false) (hlen : 1 ≤ len) :
    fenceClose line off ch len = .ok true ↔
      (indentWidth line off).1 ≤ 3 ∧
      ∃ n ws, len ≤ n ∧ ws.all isSpace = true ∧ line.dropWhile isIndent = List.replicate n ch ++ ws :=
  fenceClose_iff line off ch len hch hlen

/-- the closing-fence test never panics for an opening length ≥ 1 (goldmark only records lengths ≥ 3) -/
theorem fence_close_noPanic (line : Bytes) (off : Nat) (ch : UInt8) (len : Nat) (hlen : 1 ≤ len) :
    ∃ b, fenceClose line off ch len = .ok b :=
  fenceClose_noPanic line off ch len hlen

/-- `atx_open_iff` (spec 4.2: "an opening sequence of 1–6 unescaped `#` characters … The opening sequence of `#`
    characters must be followed by spaces or tabs, or by the end of line"). With `pos` the block offset (first
    non-space byte; ≤ 3 columns by the openBlocks gate): goldmark opens a heading of level `n` iff
    `1 ≤ n ≤ 6` and the line from `pos` on is exactly `n` `#`s followed by nothing or by a white-space byte
    (`util.IsSpace`, which includes the line's own LF). -/
theorem atx_open_iff (line : Bytes) (pos n : Nat) :
    (∃ c, atxOpen line pos = .ok (some { level := n, content := c })) ↔
      1 ≤ n ∧ n ≤ 6 ∧ ∃ rest, line.drop pos = List.replicate n 35 ++ rest ∧
        (rest = [] ∨ ∃ d t, rest = d :: t ∧ isSpace d = true) :=
  atxOpen_iff line pos n

/-- ATX Open never panics: the backwards scan for the closing sequence (`for ; line[i] == '#' && i >= start; i--`)
    cannot reach index −1 because `start ≥ 1`. -/
theorem atx_open_noPanic (line : Bytes) (pos : Nat) : ∃ r, atxOpen line pos = .ok r :=
  atxOpen_noPanic line pos

/-- `calcListOffset`, no content after the marker (end of line: `match[4] = −1`): the content offset is 1,
    whatever the column `lo` at which the line view starts. -/
theorem calcListOffset_noContent (source : Bytes) (lo : Nat) : calcListOffset source (-1) lo = .ok 1 :=
  Proof.LineRec.calcListOffset_noContent source lo

/-- `calcListOffset`, only white space after the marker (the item starts with a blank line): 1, for every column. -/
theorem calcListOffset_blank (source : Bytes) (k lo : Nat) (hk : k ≤ source.length) (hb : isBlank (source.drop k) = true) :
    calcListOffset source k lo = .ok 1 :=
  Proof.LineRec.calcListOffset_blank source k lo hk hb

/-- `calcListOffset` (spec 5.2 rules 1 and 2): `n` spaces after the marker followed by a non-space byte give a
    content offset of `n` when `1 ≤ n ≤ 4` and of 1 when `n ≥ 5` (the rest is then an indented code block).
    With spaces the result does not depend on the column `lo` at which the line view starts. -/
theorem calcListOffset_spaces (source : Bytes) (k lo n : Nat) (c : UInt8) (t : Bytes) (hc : isSpace c = false)
    (hs : source.drop k = List.replicate n 32 ++ c :: t) :
    calcListOffset source k lo = .ok (if n > 4 then 1 else n) :=
  Proof.LineRec.calcListOffset_spaces source k lo n c t hc hs

/-- `calcListOffset_tab` (since /repo 3fb40b2). One tab after the marker, then content: the content offset is the
    width of that tab measured from the column where the marker ends IN THE LINE — `lo` (column at which the line
    view starts) plus `k` (bytes of indentation and marker, which are tab-free) — i.e. `4 − (lo + k) mod 4`, always
    between 1 and 4, so the "more than 4 → 1" cap never applies. E.g. `-⇥foo` at the start of a line: 3; the same
    item after a `> ` quote marker (`lo = 2`): 1. -/
theorem calcListOffset_tab (source : Bytes) (k lo : Nat) (c : UInt8) (t : Bytes) (hc : isSpace c = false)
    (hs : source.drop k = 9 :: c :: t) :
    calcListOffset source k lo = .ok (4 - (lo + k) % 4) :=
  Proof.LineRec.calcListOffset_tab source k lo c t hc hs

/-- `IndentPosition(line, col, width)` fails (−1) exactly when the line is indented by fewer than `width`
    columns — for every mix of tabs and spaces and every start column. -/
theorem indentPosition_fails_iff (bs : Bytes) (c width : Nat) :
    (indentPosition bs c width).1 < 0 ↔ (indentWidth bs c).1 < width :=
  Proof.LineRec.indentPosition_fails_iff bs c width

/-- `tabs_eq_spaces_partial`. Two white-space prefixes `p`, `q` (any mix of spaces and tabs) that reach the same
    column from start column `c`, in front of the same rest `r`: `IndentWidth` reports the same width (and the
    byte positions `|p|`, `|q|`), and for every width `IndentPosition` succeeds on one iff it succeeds on the
    other. (The padding half is `tabs_eq_spaces` below.) -/
theorem tabs_eq_spaces_partial (c : Nat) (p q r : Bytes) (hp : p.all isIndent = true) (hq : q.all isIndent = true)
    (hr : ∀ b ∈ r.head?, isIndent b = false) (hw : (indentWidth p c).1 = (indentWidth q c).1) :
    indentWidth (p ++ r) c = ((indentWidth p c).1, p.length) ∧
    indentWidth (q ++ r) c = ((indentWidth p c).1, q.length) ∧
    ∀ width, ((indentPosition (p ++ r) c width).1 < 0 ↔ (indentPosition (q ++ r) c width).1 < 0) :=
  tabs_eq_spaces c p q r hp hq hr hw


/-- `setextBar_iff` (spec 4.3: "a setext heading underline is a sequence of `=` characters or a sequence of `-`
    characters, with no more than 3 spaces of indentation and any number of trailing spaces or tabs"). For every
    line: `matchesSetextHeadingBar` answers `c` iff the line is `k ≤ 3` spaces, then `n ≥ 1` copies of `c ∈ {=, -}`,
    then only white space (`util.IsSpace`). (A TAB in the indentation is not accepted: only spaces are trimmed.) -/
theorem setextBar_iff (line : Bytes) (c : UInt8) :
    setextBar line = .ok (some c) ↔
      ∃ k n ws, k ≤ 3 ∧ 1 ≤ n ∧ (c = 61 ∨ c = 45) ∧ ws.all isSpace = true ∧
        line = List.replicate k 32 ++ (List.replicate n c ++ ws) :=
  Proof.LineRec.setextBar_iff line c

/-- `parseListItem_bullet_iff` (spec 5.2: "a bullet list marker is a `-`, `+`, or `*` character"; the marker
    is followed by at least one space or tab, or by the end of the line; at most 3 spaces of indentation).
    Soundness and completeness: the type is `bullet` iff the line has exactly that shape. `restOK rest` = `rest` is
    empty or starts with LF, space or tab. -/
theorem parseListItem_bullet_iff (line : Bytes) :
    (parseListItem line).2 = .bullet ↔
      ∃ k c rest, k ≤ 3 ∧ isBullet c = true ∧ line = List.replicate k 32 ++ c :: rest ∧ restOK rest = true :=
  Proof.LineRec.parseListItem_bullet_iff line

/-- `parseListItem_ordered_iff` (spec 5.2: "an ordered list marker is a sequence of 1–9 arabic digits,
    followed by either a `.` character or a `)` character"). The type is `ordered` iff the line is `k ≤ 3` spaces,
    1 to 9 digits, `.` or `)`, and then nothing / LF / space / tab. Ten digits are never a list item. -/
theorem parseListItem_ordered_iff (line : Bytes) :
    (parseListItem line).2 = .ordered ↔
      ∃ k ds d rest, k ≤ 3 ∧ 1 ≤ ds.length ∧ ds.length ≤ 9 ∧ ds.all isNumeric = true ∧ (d = 46 ∨ d = 41) ∧
        line = List.replicate k 32 ++ (ds ++ d :: rest) ∧ restOK rest = true :=
  Proof.LineRec.parseListItem_ordered_iff line

/-- the match array of an accepted bullet item: indentation `[0, k)`, marker `[k, k+1)`, rest from `k+1`
    (`-1` when the line ends after the marker) -/
theorem parseListItem_bullet_match (k : Nat) (c : UInt8) (rest : Bytes) (hk : k ≤ 3) (hb : isBullet c = true)
    (hr : restOK rest = true) :
    let m := (parseListItem (List.replicate k 32 ++ c :: rest)).1
    m.r0 = 0 ∧ m.r1 = k ∧ m.r2 = k ∧ m.r3 = (k + 1 : Nat) ∧ m.r4 = (if rest = [] then -1 else ((k + 1 : Nat) : Int)) :=
  Proof.LineRec.parseListItem_bullet_match k c rest hk hb hr

/-- the match array of an accepted ordered item: marker = digits and delimiter `[k, k + |ds| + 1)` -/
theorem parseListItem_ordered_match (k : Nat) (ds : Bytes) (d : UInt8) (rest : Bytes) (hk : k ≤ 3)
    (h1 : 1 ≤ ds.length) (h9 : ds.length ≤ 9) (hds : ds.all isNumeric = true) (hd : d = 46 ∨ d = 41)
    (hr : restOK rest = true) :
    let m := (parseListItem (List.replicate k 32 ++ (ds ++ d :: rest))).1
    m.r0 = 0 ∧ m.r1 = k ∧ m.r2 = k ∧ m.r3 = (k + ds.length + 1 : Nat) ∧
      m.r4 = (if rest = [] then -1 else ((k + ds.length + 1 : Nat) : Int)) :=
  Proof.LineRec.parseListItem_ordered_match k ds d rest hk h1 h9 hds hd hr

/-- `fence_open_iff` (spec 4.5: "a code fence is a sequence of at least three consecutive backtick characters or
    tildes … The line with the opening code fence may optionally contain some text following the code fence … If
    the info string comes after a backtick fence, it may not contain any backtick characters"). With `pos` the
    block offset (≤ 3 columns by the openBlocks gate): a fence `(c, n)` is opened iff `c` is a backtick or a
    tilde, the line from `pos` on is a maximal run of `n ≥ 3` copies of `c`, and — for backticks — no backtick
    occurs in the rest of the line. -/
theorem fence_open_iff (line : Bytes) (pos : Nat) (c : UInt8) (n : Nat) :
    (∃ info, fenceOpen line pos = .ok (some { char := c, indent := pos, length := n, info := info })) ↔
      (c = 96 ∨ c = 126) ∧ 3 ≤ n ∧
      ∃ rest, line.drop pos = List.replicate n c ++ rest ∧ rest.head? ≠ some c ∧ (c = 96 → (96 : UInt8) ∉ rest) :=
  fenceOpen_iff line pos c n

/-- `atx_content_range` (spec 4.2: "The raw contents of the heading are stripped of leading and trailing space or
    tabs … The optional closing sequence of `#`s must be preceded by spaces or tabs and may be followed by spaces
    or tabs only"). For EVERY indentation `pre` (the bytes before the block offset), level `n`, non-empty white
    space `s1` after the opening sequence, text `text ++ [d]` starting with a non-space, `h` hashes after `d`, and
    trailing white space `trail` (which contains the line's LF):
    * `d` not a space (and not `#`): the hashes are glued to the text, nothing is stripped — the heading's segment
      is exactly `text ++ [d] ++ #^h`;
    * `d` a space (then `h ≥ 1`): `#^h` is the closing sequence and is stripped — the segment is `text ++ [d]`
      (the spaces in front of the closing sequence stay in the segment; the inline phase trims them).
    In both cases it starts right after `s1`. -/
theorem atx_content_range (pre s1 text trail : Bytes) (d : UInt8) (n h : Nat)
    (hn1 : 1 ≤ n) (hn6 : n ≤ 6) (hs1 : s1 ≠ []) (hs1s : s1.all isSpace = true)
    (hhead : ∀ x ∈ (text ++ [d]).head?, isSpace x = false)
    (hd35 : d ≠ 35) (hdh : isSpace d = true → 1 ≤ h) (htrail : trail.all isSpace = true) :
    atxOpen (pre ++ (List.replicate n 35 ++ (s1 ++ (text ++ d :: (List.replicate h 35 ++ trail))))) pre.length =
      .ok (some { level := n,
                  content := some (pre.length + n + s1.length,
                    pre.length + n + s1.length + text.length + 1 + (if isSpace d = true then 0 else h)) }) :=
  Proof.LineRec.atx_content_range pre s1 text trail d n h hn1 hn6 hs1 hs1s hhead hd35 hdh htrail

/-- `indentPosition_column`. When the line is indented by at least `width > 0` columns, `IndentPosition` returns
    `(pos, padding)` such that the first `pos` bytes are spaces/tabs whose width from column `c` is exactly
    `width + padding`, with `padding ≤ 3`: position minus padding is exactly column `c + width`. -/
theorem indentPosition_column (bs : Bytes) (c width : Nat) (hw : 0 < width) (hok : width ≤ (indentWidth bs c).1) :
    ∃ m pad : Nat, indentPosition bs c width = ((m : Int), (pad : Int)) ∧ m ≤ bs.length ∧
      (bs.take m).all isIndent = true ∧ (indentWidth (bs.take m) c).1 = width + pad ∧ pad ≤ 3 :=
  Proof.LineRec.indentPosition_column bs c width hw hok

/-- `tabs_eq_spaces` (padding half). For two white-space prefixes reaching the same column in front of the same
    rest, and every width they cover: both `IndentPosition` calls succeed, and in both results the consumed
    prefix minus the padding is exactly `width` columns — the two spellings leave the children at the same column. -/
theorem tabs_eq_spaces (c : Nat) (p q r : Bytes) (hp : p.all isIndent = true) (hq : q.all isIndent = true)
    (hr : ∀ b ∈ r.head?, isIndent b = false) (hw : (indentWidth p c).1 = (indentWidth q c).1)
    (width : Nat) (hpos : 0 < width) (hle : width ≤ (indentWidth p c).1) :
    ∃ m₁ pad₁ m₂ pad₂ : Nat,
      indentPosition (p ++ r) c width = ((m₁ : Int), (pad₁ : Int)) ∧
      indentPosition (q ++ r) c width = ((m₂ : Int), (pad₂ : Int)) ∧
      (indentWidth ((p ++ r).take m₁) c).1 = width + pad₁ ∧ (indentWidth ((q ++ r).take m₂) c).1 = width + pad₂ ∧
      pad₁ ≤ 3 ∧ pad₂ ≤ 3 :=
  tabs_eq_spaces_padding c p q r hp hq hr hw width hpos hle

/-! ### non-vacuity and tests (byte literals: 32 ' ', 9 TAB, 10 LF, 35 '#', 42 '*', 45 '-', 96 '`', 97 'a') -/

example : isThematicBreak [32, 42, 32, 42, 9, 42, 10] 0 = true := by decide
example : isThematicBreak [45, 45, 10] 0 = false := by decide            -- two markers are not enough
example : isThematicBreak [45, 45, 42, 10] 0 = false := by decide        -- markers must match
example : fenceClose [32, 32, 96, 96, 96, 96, 32, 10] 0 96 3 = .ok true := by decide
example : fenceClose [96, 96, 10] 0 96 3 = .ok false := by decide         -- shorter than the opening fence
example : fenceClose [96, 96, 96, 97, 10] 0 96 3 = .ok false := by decide -- something after the fence
example : atxOpen [35, 35, 32, 97, 32, 35, 35, 10] 0 = .ok (some { level := 2, content := some (3, 5) }) := by decide  -- "a " : the space before the closing sequence stays, the inline phase trims it
example : atxOpen [35, 97, 10] 0 = .ok none := by decide                  -- `#a` is not a heading
example : atxOpen [35, 35, 35, 35, 35, 35, 35, 32, 97] 0 = .ok none := by decide   -- seven `#`
example : calcListOffset [45, 32, 32, 32, 32, 97] 1 0 = .ok 4 ∧ calcListOffset [45, 32, 32, 32, 32, 97] 1 3 = .ok 4 := by decide
example : calcListOffset [45, 32, 32, 32, 32, 32, 97] 1 0 = .ok 1 := by decide
-- `-⇥a`: the tab is 3 columns wide at the start of a line, 1 column wide after a `> ` marker (column 2)
example : calcListOffset [45, 9, 97] 1 0 = .ok 3 ∧ calcListOffset [45, 9, 97] 1 2 = .ok 1 := by decide
-- tab = spaces: `"\t"` and `"    "` reach column 4 from column 0; `" \t"` and `"  "` reach column 4 from column 2
example : (indentWidth [9] 0).1 = (indentWidth [32, 32, 32, 32] 0).1 := by decide
example : (indentWidth [32, 9] 2).1 = (indentWidth [32, 32] 2).1 := by decide
example : [(9 : UInt8)].all isIndent = true ∧ (∀ b ∈ [(97 : UInt8)].head?, isIndent b = false) := by decide
-- setext / list marker / fence open / ATX content: instances of the characterisations above, evaluated
example : setextBar [32, 61, 61, 32, 10] = .ok (some 61) := by decide
example : (parseListItem [49, 50, 51, 52, 53, 54, 55, 56, 57, 48, 46, 32, 97]).2 = .notList := by decide  -- ten digits
example : (parseListItem [49, 50, 51, 52, 53, 54, 55, 56, 57, 46, 32, 97]).2 = .ordered := by decide       -- nine digits
example : listOpen [50, 46, 32, 97, 10] true = none ∧ (listOpen [49, 46, 32, 97, 10] true).isSome = true := by decide
example : fenceOpen [96, 96, 96, 32, 97, 96, 10] 0 = .ok none := by decide   -- backtick in a backtick info string

-- atx_content_range instances: "  ## a b ##  \n" (closing sequence stripped), "# a#\n" (glued hashes kept)
example : atxOpen [32, 32, 35, 35, 32, 97, 32, 98, 32, 35, 35, 32, 32, 10] 2 =
    .ok (some { level := 2, content := some (5, 9) }) := by decide
example : atxOpen [35, 32, 97, 35, 10] 0 = .ok (some { level := 1, content := some (2, 4) }) := by decide
-- hypotheses of atx_content_range are satisfiable (pre = "  ", s1 = " ", text = "a ", d = 'b' / d = ' ')
example : ([32] : Bytes).all isSpace = true ∧ (∀ x ∈ ([97, 32] ++ [(98 : UInt8)]).head?, isSpace x = false) ∧
    (98 : UInt8) ≠ 35 ∧ (isSpace 98 = true → 1 ≤ 0) := by decide
example : restOK [] = true ∧ restOK [10] = true ∧ restOK [97] = false ∧ isBullet 43 = true := by decide
example : (parseListItem [32, 45, 9, 97]).2 = .bullet ∧ (parseListItem [45, 97]).2 = .notList := by decide
-- tabs_eq_spaces: IndentPosition("\t\tx", col 0, width 6) stops inside the 2nd tab with padding 2;
-- the spelling with 8 spaces stops after 6 spaces with padding 0: both at column 6
example : indentPosition [9, 9, 120] 0 6 = (2, 2) ∧ indentPosition [32, 32, 32, 32, 32, 32, 32, 32, 120] 0 6 = (6, 0) := by decide

end GM.Props.C02a
