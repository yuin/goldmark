/-
  Property C02 — the two mechanisms behind the CommonMark deviations repaired by
  KNOWN_FINDINGS `fixed:` 24c9f23 (parser/parser.go parseBlock: `escaped = false` at the top of the line loop) and
  9e57c92 (text/reader.go findClosureReader: `seg.WithStop(seg.Start + i - seg.Padding)`), as theorems about the
  models that mirror the repaired code (GM.Model.InlineLoop / InlinesLoop / InlinesLoopX, GM.Model.Reader; tied by the
  components inlineloop, inlines, convert, convertx, reader). Both were FALSE of the models of the unrepaired code (the
  literals below evaluated differently); the inputs are regression cases of the components cmemph and convert.
  Helper lemmas: GM/Proof/EscFix.lean.
-/
import GM.Proof.EscFix

namespace GM.Props.C02Esc
open GM GM.Text GM.Spec GM.Proof.Reader GM.Proof.EscFix

/-- `escape_state_does_not_cross_line_end` (CommonMark 2.4 / 6.7: a backslash escapes the NEXT character; a line ending
    is not carried over). `Reach P b top st`: `st` is a state the loop of parseBlock goes through `retry:` with, for ANY
    inline parsers `P` and block `b`; `top = true` marks the states in which an iteration of the outer `for` begins (the
    first one, and the one after every end of line), `top = false` those behind a `goto retry`. In every state at the
    top of the line loop the flag `escaped` is false. -/
theorem escape_state_does_not_cross_line_end {P : InlineLoop.Params} {b : InlineLoop.Block} {st : InlineLoop.St}
    (h : Reach P b true st) : st.escaped = false :=
  reach_top_escaped h

/-- `Reach` misses nothing: from a reached state, every state the loop is in after any number of passes is reached
    (so the theorem above speaks about every line start of every run: `Reach.init` is the state `run` starts from). -/
theorem reach_covers_the_run {P : InlineLoop.Params} {b : InlineLoop.Block} (fuel : Nat) {k : Bool} {st : InlineLoop.St}
    (h : Reach P b k st) : ∃ k', Reach P b k' (InlineLoop.loop P b fuel st).st :=
  reach_loop fuel h

/-- what the end of a line hands to the next line does not depend on the flag the byte loop left behind -/
theorem line_end_forgets_escape (b : InlineLoop.Block) (fl : InlineLoop.Flags) (l : Nat) (st : InlineLoop.St)
    (sp n : Nat) (e : Bool) :
    InlineLoop.eol b fl l { st with escaped := e } sp n = InlineLoop.eol b fl l st sp n ∧
    (InlineLoop.eol b fl l st sp n).escaped = false :=
  ⟨eol_flag_irrelevant b fl l st sp n e, eol_escaped b fl l st sp n⟩

/-- the CONCRETE inline phase (GM.Inl.lineLoop, the model tied to `parseBlock` with the default parsers by component
    `inlines`): when the byte loop of a pass reaches the end of its line (`.eol s`), the loop goes on from the end-of-line
    state with `escaped = false` — whatever `s.escaped` is. -/
theorem lineLoop_line_end_resets (env : Inl.Env) (fuel : Nat) (esc : Bool) (st : Inl.St) {pl} {line : Bytes}
    {s : Inl.Scan} (hpl : st.rd.peekLine = .ok pl) (hline : pl.1.1 = some line) (hne : line.isEmpty = false)
    (hscan : Inl.scan env (line.take (Inl.classify line).1) 0
      { st := { st with rd := pl.2 }, n := 0, sp := pl.2.position.2, escaped := esc } = .ok (.eol s)) :
    Inl.lineLoop env (fuel + 1) esc st =
      (Inl.endOfLine (Inl.classify line).2 pl.2.position.1 s >>= fun st' => Inl.lineLoop env fuel false st') :=
  lineLoop_line_end env fuel esc st hpl hline hne hscan

/-- … and the loop over an open trigger table (GM.Inl.lineLoopX: the inline phase of `convertX` / `convertH`) -/
theorem lineLoopX_line_end_resets (env : Inl.Env) (tbl : UInt8 → List Inl.XIp) (fuel : Nat) (esc : Bool) (st : Inl.St)
    {pl} {line : Bytes} {s : Inl.Scan} (hpl : st.rd.peekLine = .ok pl) (hline : pl.1.1 = some line)
    (hne : line.isEmpty = false)
    (hscan : Inl.scanX env tbl (line.take (Inl.classify line).1) 0
      { st := { st with rd := pl.2 }, n := 0, sp := pl.2.position.2, escaped := esc } = .ok (.eol s)) :
    Inl.lineLoopX env tbl (fuel + 1) esc st =
      (Inl.endOfLine (Inl.classify line).2 pl.2.position.1 s >>= fun st' => Inl.lineLoopX env tbl fuel false st') :=
  lineLoopX_line_end env tbl fuel esc st hpl hline hne hscan

/-- `findClosure_stop_excludes_padding`: FindClosure on a block reader `r` that stands for a well-formed cursor over
    lines with ANY virtual paddings (`WFSegs`, `BAbs`: what the paragraph transformer and the inline parsers hold), for
    any opener, any options and any closer other than the space the padding is made of (goldmark's closers are `]`, `"`,
    `'`, `)`), with a fuel above the bytes in front of the cursor: when a closure is reported, the LAST returned segment
    stops exactly at the source offset of a closer byte — the virtual padding at the head of the peeked line is not
    counted (before the repair the stop was `Padding` bytes further right). -/
theorem findClosure_stop_excludes_padding {src : Bytes} {segs : List Segment} (hw : WFSegs src segs)
    {r r' : BlockReader} {c : BCur} (h : BAbs src segs r c) (o cl : UInt8) (hcl : cl ≠ 32) (opts : FindClosureOptions)
    (fuel : Nat) (hf : (BCur.remaining segs c).toNat < fuel) {sgs : List Segment}
    (e : findClosure blockOps fuel o cl opts r = .ok ((some sgs, true), r')) :
    ∃ s, sgs.getLast? = some s ∧ 0 ≤ s.stop ∧ src[s.stop.toNat]? = some cl :=
  blockReader_findClosure_stop hw h o cl hcl opts fuel hf e

/-- the same on the specification cursor `BCur` itself (C18's abstract side) -/
theorem findClosure_stop_excludes_padding_cursor {src : Bytes} {segs : List Segment} (hw : WFSegs src segs)
    (o cl : UInt8) (hcl : cl ≠ 32) (opts : FindClosureOptions) (fuel : Nat) {c c' : BCur} {x}
    (w : GM.Proof.Reader.BWF segs c) (e : findClosure (BCur.ops src segs) fuel o cl opts c = .ok (x, c'))
    (hx : x.2 = true) : ∃ s, (x.1.getD []).getLast? = some s ∧ 0 ≤ s.stop ∧ src[s.stop.toNat]? = some cl :=
  bcur_findClosure_stop (segFacts hw) o cl hcl opts fuel w e hx

/-! ### tests on literals (kernel-evaluated): the hypotheses are satisfiable, and the two repaired inputs -/

/-- (T) `> [a⏎>⇥b]: /u⏎`, lines `[a⏎` = [2,5) and `b]: /u⏎` = [7,14) with padding 2, cursor behind the `[`:
    FindClosure('[', ']') hands out [3,5) and [7,8) — offset 8 is the `]` (before the repair: [7,10)) -/
example : (findClosure (BCur.ops [62, 32, 91, 97, 10, 62, 9, 98, 93, 58, 32, 47, 117, 10]
      [⟨2, 5, 0, false⟩, ⟨7, 14, 2, false⟩]) 64 91 93 ⟨false, false, true, true⟩ ⟨0, 3, 0⟩).toOption.map (·.1) =
    some (some [⟨3, 5, 0, false⟩, ⟨7, 8, 2, false⟩], true) := by decide +kernel

/-- why `cl ≠ 32` is needed (quirk of the code, unreachable from goldmark's own callers): a closer that IS a space is
    found inside the virtual padding, at index 1 < Padding = 2, and the stop `Start + 1 - 2` lies before the start -/
example : (findClosure (BCur.ops [62, 9, 98, 10] [⟨2, 4, 2, false⟩]) 64 91 32 ⟨false, false, true, true⟩
      ⟨0, 2, 1⟩).toOption.map (·.1) = some (some [⟨2, 1, 1, false⟩], true) := by decide +kernel

/-- (E) the abstract loop on `a\␠␠⏎\*⏎` (lines [0,5) and [5,8)) with one parser triggered by `*`: the `*` of the second
    line is escaped by the backslash in front of it, so the parser is never consulted — the call log stays empty
    (before the repair the flag left by the `\` of line 1, whose two spaces are cut off before the scan, made the `\` of
    line 2 the escaped character and the parser was asked about the `*`) -/
example : (InlineLoop.run ⟨[⟨7, [42], fun _ _ => .decline 0⟩], false⟩
    ⟨[97, 92, 32, 32, 10, 92, 42, 10], [⟨0, 5⟩, ⟨5, 8⟩]⟩).st.log = [] := by decide +kernel

/-- … while an unescaped `*` there is asked about (the parser is not dead in this test) -/
example : ((InlineLoop.run ⟨[⟨7, [42], fun _ _ => .decline 0⟩], false⟩
    ⟨[97, 92, 32, 32, 10, 97, 42, 10], [⟨0, 5⟩, ⟨5, 8⟩]⟩).st.log.map (·.pos)) = [6] := by decide +kernel

end GM.Props.C02Esc
