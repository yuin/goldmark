/-
  C15, end to end — "With automatic heading IDs enabled (and no explicit attribute syntax in play), every heading in every
  rendered document carries an id attribute, no id is empty, all ids in the document are pairwise distinct, and they depend
  only on that document."

  GM.Props.C15 proves uniqueness / non-emptiness / locality of the id GENERATOR (parser.go ids.Generate/Put) for every
  call sequence. This file puts the rest of the path inside the composed model of `goldmark.Convert`:
  `GM.ConvertH.convertH true` (lean/GM/Model/ConvertH.lean) is `GM.Convert.convertCore` with the parser option
  `parser.WithAutoHeadingID()`: Close of both heading parsers runs `generateAutoHeadingID` (atx_heading.go:179-208,
  setext_headings.go:110-119) on the heading's last line, the id table lives in the parse state (one per Parse), the Heading
  node gets the `id` attribute, renderHeading writes it through RenderAttributes with html.HeadingAttributeFilter. It is
  tied to the real `goldmark.New(WithParserOptions(WithAutoHeadingID()), …).Convert` by component `converth` (HTML byte for
  byte). All theorems are for EVERY byte string `src` (and every Unicode class assignment `uc`, renderer option set `o`).

  What is proved unconditionally: the option does not change the block phase (`converth_off_is_core`,
  `converth_block_phase_projects`), never loops (`converth_never_loops`); nothing but `generateAutoHeadingID` writes an
  attribute, and each attribute list is exactly one `id` = the value `Generate` returned for that node
  (`attributes_are_generated_ids`); those values are non-empty (`heading_ids_nonempty`), made of `a-z 0-9 -` (`heading_ids_alphabet`), different for different nodes
  (`heading_ids_distinct_by_node`), and are what GM.Ids.run — the function GM.Props.C15 speaks about — returns for the
  logged operations on a fresh table (`heading_ids_table_fed_in_close_order`); the renderer writes `<hN id="…">` for every
  Heading node it visits (`heading_start_tag_rendered`).

  The CLOSE DISCIPLINE of the block driver (GM.Proof.ConvertHWF*, for the driver with paragraph transformers and the option,
  every byte string): the node store is a well-formed tree at every step (`TreeWF`: child edges point to existing nodes
  whose parent pointer agrees, child lists duplicate-free); the only Heading nodes that ever get a parent are the ones
  `openBlocks` appends and pushes on the open-block stack (the tree surgery of paragraph / setext heading / list Close and of
  the link reference transformer inserts only Paragraph / TextBlock nodes it has just created); a Heading node on the stack was
  put there by a heading parser; every slot `closeBlocks` removes from the stack was handed to its parser's `Close` unless
  its node has no parent — and then it is in no child list; the stack is empty when `parseBlocks` returns
  (`headings_always_closed`, `headings_always_once`, `block_phase_close_discipline`). A Setext heading IS the node the setext
  parser's Open created and the driver pushed (Close moves the paragraph's lines into it and unlinks the paragraph), and the
  AutoHeadingID block runs in that very Close call. Hence `every_heading_has_id`, `heading_ids_pairwise_distinct`,
  `heading_ids_rendered`, `c15_end_to_end` hold WITHOUT hypotheses other than `convertH … = .ok html` / `parseDocH … = .ok t`.
-/
import GM.Proof.ConvertHWFMain

namespace GM.Props.C15E2E
open GM GM.Text GM.Convert GM.ConvertH

/-- the tree `convertH` renders is the one `parseDocH` returns (definitional) -/
theorem converth_renders_parsed_tree (autoId : Bool) (uc : List (Nat × (Bool × Bool))) (o : ROpts) (src : Bytes) :
    convertH autoId uc o src = (parseDocH autoId true uc src >>= renderDoc o) := rfl

/-- **Without the option the model is `convertCore`**: the copied block driver with the second state layer erased is the
    driver of GM.Convert, and the tree conversion with an empty attribute store is GM.Convert.docTree. -/
theorem converth_off_is_core (uc : List (Nat × (Bool × Bool))) (o : ROpts) (src : Bytes) :
    convertH false uc o src = convertCore uc o src := convertH_off uc o src

/-- **The option does not change the block phase.** When the block phase with AutoHeadingID returns, the block phase of
    `convertCore` returns the same node store / context; when it ends in a Go panic, so does `convertCore`'s with the
    same panic, or the panic is `Segment.Value`'s in generateAutoHeadingID (never fuel exhaustion). -/
theorem converth_block_phase_projects (guard : Bool) (src : Bytes) :
    match blockPhaseH true guard src with
    | .ok (_, st) => blockPhase guard src = .ok st
    | .error e => blockPhase guard src = .error e ∨ e ≠ Panic.loop := by
  have := runH_on (paragraphTransformers guard) src
  unfold blockPhaseH blockPhase
  cases h : runH true (paragraphTransformers guard) src with
  | error e => rw [h] at this; exact this
  | ok p => rw [h] at this; exact this.2

/-- **`convertH` never loops**: for every byte string, with or without the option, no fuelled loop of the model runs out
    (block phase: by projection to `convertCore`'s; `Generate`'s probing loop: GM.Props.C15.generate_terminates). -/
theorem converth_never_loops (autoId : Bool) (uc : List (Nat × (Bool × Bool))) (o : ROpts) (src : Bytes) (e : Err)
    (h : convertH autoId uc o src = .error e) : e.isLoop = false := convertH_noLoop autoId uc o src h

/-- **No attribute parser, no other attribute.** Whatever the source: every attribute list a node has after the block
    phase is exactly `[id = v]` where `v` is the value a `Generate` call made for THAT node returned; in particular the
    lookup `node.AttributeString("id")` at the start of the option's code in Close can only find an id an earlier Close
    of the same node generated. -/
theorem attributes_are_generated_ids (guard : Bool) (src : Bytes) (hs : HS) (st : Blocks.St)
    (h : blockPhaseH true guard src = .ok (hs, st)) (i : Nat) (as : List Attr.PAttr) (ha : nodeAttrs hs i = some as) :
    ∃ g ∈ hs.gens, g.node = i ∧ as = idAttrs g.id := by
  have hr := runH_on (paragraphTransformers guard) src
  unfold blockPhaseH at h
  rw [h] at hr
  obtain ⟨h1, _, _, _, g, hg, hn, hi⟩ := treeAttrs_entry hs hr.1 i as ha
  exact ⟨g, hg, hn, by rw [h1, hi]⟩

/-- **every Heading node of the final tree was handed to Close**:
    for every byte string, when the block phase with the option returns, every Heading node of the final block tree has
    its attribute entry. -/
theorem headings_always_closed (src : Bytes) : headingsClosedOK true src = true := headingsClosedOK_all true src

/-- **no Heading node occurs twice in the final tree** -/
theorem headings_always_once (src : Bytes) : headingsOnceOK true src = true := headingsOnceOK_all true src

/-- **the close discipline, projected to `convertCore`'s block phase**: whenever the block phase with the option
    returns, `convertCore`'s block phase returns the same store, the open-block stack is empty and the store is a
    well-formed tree -/
theorem block_phase_close_discipline (guard : Bool) (src : Bytes) (hs : HS) (st : Blocks.St)
    (h : blockPhaseH true guard src = .ok (hs, st)) :
    blockPhase guard src = .ok st ∧ st.pc.opened = [] ∧ TreeWF st := blockPhase_closed_of_H guard src hs st h

/-- **Every heading carries an id**: every Heading node of the tree `convertH true` renders carries exactly one
    attribute, `id`, with a byte-string value. Unconditional (every byte string). -/
theorem every_heading_has_id (uc : List (Nat × (Bool × Bool))) (src : Bytes) (t : GM.Node)
    (h : parseDocH true true uc src = .ok t) :
    ∀ a ∈ headingAttrs t, ∃ v, a = idAttr v := by
  have hc := headingsClosedOK_all true src
  obtain ⟨hs, st, hb, hh, ht⟩ := parseDocH_spec true uc src t h
  unfold headingsClosedOK at hc
  rw [hb] at hc
  obtain ⟨h1, _⟩ := closed_headings_spec hs hh _ hc
  intro a ha
  rw [ht, h1] at ha
  obtain ⟨v, _, rfl⟩ := List.mem_map.1 ha
  exact ⟨v, rfl⟩

/-- **No id is empty** (unconditional): whatever attributes a Heading node of the rendered tree has, they are exactly one
    `id` with a non-empty value. -/
theorem heading_ids_nonempty (uc : List (Nat × (Bool × Bool))) (src : Bytes) (t : GM.Node)
    (h : parseDocH true true uc src = .ok t) :
    ∀ a ∈ headingAttrs t, ∀ as, a = some as → ∃ v, a = idAttr v ∧ v ≠ [] := by
  obtain ⟨hs, st, hb, hh, ht⟩ := parseDocH_spec true uc src t h
  intro a ha as has
  rw [ht] at ha
  obtain ⟨i, _, rfl⟩ := List.mem_map.1 ha
  cases hn : nodeAttrs hs i with
  | none => simp [treeAttrs, hn] at has
  | some as' =>
    obtain ⟨_, h2, h3, _⟩ := treeAttrs_entry hs hh i as' hn
    exact ⟨_, h3, h2⟩

/-- **Ids are made of `a-z`, `0-9`, `-`** (unconditional): so util.EscapeHTML, which RenderAttributes applies, leaves them
    alone and the attribute value in the HTML is the id itself. -/
theorem heading_ids_alphabet (uc : List (Nat × (Bool × Bool))) (src : Bytes) (t : GM.Node)
    (h : parseDocH true true uc src = .ok t) :
    ∀ a ∈ headingAttrs t, ∀ v, a = idAttr v → (∀ c ∈ v, IdByte c = true) ∧ escapeHTML v = v := by
  obtain ⟨hs, st, hb, hh, ht⟩ := parseDocH_spec true uc src t h
  intro a ha v hav
  rw [ht] at ha
  obtain ⟨i, _, rfl⟩ := List.mem_map.1 ha
  cases hn : nodeAttrs hs i with
  | none => simp [treeAttrs, hn, idAttr] at hav
  | some as' =>
    obtain ⟨_, _, h3, _⟩ := treeAttrs_entry hs hh i as' hn
    have e : idOf hs i = v := by
      rw [h3] at hav
      simpa [idAttr] using hav
    have := idOf_idBytes hs hh i as' hn
    rw [e] at this
    exact ⟨this, escapeHTML_idBytes v this⟩

/-- **Different heading nodes never share an id** (unconditional, by node identity): after the block phase two different
    nodes never carry the same attribute list. -/
theorem heading_ids_distinct_by_node (guard : Bool) (src : Bytes) (hs : HS) (st : Blocks.St)
    (h : blockPhaseH true guard src = .ok (hs, st)) (i j : Nat) (hij : i ≠ j) (ai aj : List Attr.PAttr)
    (hi : nodeAttrs hs i = some ai) (hj : nodeAttrs hs j = some aj) : ai ≠ aj := by
  have hr := runH_on (paragraphTransformers guard) src
  unfold blockPhaseH at h
  rw [h] at hr
  exact attrs_distinct_by_node hs hr.1 i j ai aj hij hi hj

/-- **All ids of the document are pairwise distinct**: the Heading nodes of the rendered tree carry, in document order,
    `id = v` for a duplicate-free list of non-empty values `v`, one per heading, each of them returned by a `Generate`
    call of the block phase. Unconditional (every byte string). -/
theorem heading_ids_pairwise_distinct (uc : List (Nat × (Bool × Bool))) (src : Bytes) (t : GM.Node)
    (h : parseDocH true true uc src = .ok t) :
    ∃ ids : List Bytes, headingAttrs t = ids.map idAttr ∧ ids.Nodup ∧ ∀ v ∈ ids, v ≠ [] := by
  have hc := headingsClosedOK_all true src
  have ho := headingsOnceOK_all true src
  obtain ⟨hs, st, hb, hh, ht⟩ := parseDocH_spec true uc src t h
  unfold headingsClosedOK at hc
  unfold headingsOnceOK at ho
  rw [hb] at hc ho
  obtain ⟨h1, h4⟩ := closed_headings_spec hs hh _ hc
  exact ⟨_, by rw [ht, h1], once_headings_nodup hs hh _ hc ho, fun v hv => (h4 v hv).1⟩

/-- **The id table is fed by the heading parsers' Close calls, in order** (unconditional): replaying the operations the
    block phase made on its id table — one `Generate(text, KindHeading)` per `generateAutoHeadingID` call, with the
    heading's last-line text, in the order of the Close calls — on a fresh table with GM.Ids.run returns exactly the ids
    the nodes got. This is the function GM.Props.C15.ids_ops_distinct / ids_pairwise_distinct are about
    (uniqueness and non-emptiness here are GM.Proof.Ids.run_fresh, the lemma behind them). -/
theorem heading_ids_table_fed_in_close_order (guard : Bool) (src : Bytes) (hs : HS) (st : Blocks.St)
    (h : blockPhaseH true guard src = .ok (hs, st)) :
    Ids.run [] hs.ops = some (hs.gens.map (·.id)) ∧
    hs.ops.filterMap (fun op => match op with | .gen v _ => some v | .put _ => none) = hs.gens.map (·.text) ∧
    (hs.gens.map (·.id)).Nodup ∧ (∀ g ∈ hs.gens, g.id ≠ [] ∧ nodeAttrs hs g.node = some (idAttrs g.id)) := by
  have hr := runH_on (paragraphTransformers guard) src
  unfold blockPhaseH at h
  rw [h] at hr
  obtain ⟨h2, _, h4⟩ := GM.Proof.Ids.run_fresh _ _ _ hr.1.run
  refine ⟨hr.1.run, hr.1.opsGens, h2, fun g hg => ⟨h4 _ (List.mem_map.2 ⟨g, hg, rfl⟩), hr.1.genKept g hg⟩⟩

/-- the renderer writes the start tag with the node's attributes for every Heading node it visits (any tree) -/
theorem heading_start_tag_rendered (o : ROpts) (t : GM.Node) (p : Nat × Option (List GM.Attr)) (hp : p ∈ rHeadings t) :
    headingTag p.1 p.2 <:+: render o.rcfg t := render_heading_infix o.rcfg t p hp

/-- `<hN id="v">`, literally (` id="` = 32 105 100 61 34, `">` = 34 62) -/
def startTag (lv : Nat) (v : Bytes) : Bytes :=
  strBytes "<h" ++ [UInt8.ofNat (48 + lv)] ++ [32, 105, 100, 61, 34] ++ v ++ [34, 62]

/-- **The ids are in the HTML** (unconditional): when `convertH true` returns `html`,
    then for every Heading node the renderer visits (level `lv`) there is a non-empty `v` such that the node's attributes
    are `id = v` and the start tag `<hlv id="v">` — the id itself, nothing escaped — is a contiguous part of `html`. -/
theorem heading_ids_rendered (uc : List (Nat × (Bool × Bool))) (o : ROpts) (src : Bytes) (html : Bytes)
    (h : convertH true uc o src = .ok html) :
    ∃ t, parseDocH true true uc src = .ok t ∧
      ∀ p ∈ rHeadings t, ∃ v, v ≠ [] ∧ p.2 = idAttr v ∧ startTag p.1 v <:+: html := by
  unfold convertH convertHWith at h
  obtain ⟨t, ht, hr⟩ := ebind_ok h
  refine ⟨t, ht, fun p hp => ?_⟩
  have hmem := rHeadings_sub t p hp
  obtain ⟨v, hv⟩ := every_heading_has_id uc src t ht _ hmem
  obtain ⟨v', hv', hne⟩ := heading_ids_nonempty uc src t ht _ hmem _ hv
  have e : v' = v := by
    rw [hv] at hv'
    simpa [idAttr] using hv'.symm
  subst e
  have hesc := (heading_ids_alphabet uc src t ht _ hmem v' hv).2
  refine ⟨v', hne, hv, ?_⟩
  unfold renderDoc at hr
  split at hr
  · cases hr
  · cases hr
    have := heading_start_tag_rendered o t p hp
    rw [hv, headingTag_id] at this
    unfold idTag at this
    rw [hesc] at this
    exact this

/-- **The ids depend only on the document**: trivial for a pure model — `convertH true uc o` is a function of `src`, there
    is no state between conversions (the id table is created by `blockPhaseH` for each document: `HS` starts empty). The
    content is the tie: component `converth` converts every document twice on one shared goldmark instance. -/
theorem heading_ids_document_local (uc : List (Nat × (Bool × Bool))) (o : ROpts) (before after : List Bytes) (src : Bytes) :
    ((before ++ src :: after).map (convertH true uc o))[before.length]? = some (convertH true uc o src) := by
  simp

/-- **C15, end to end.** When `convertH true` — the model of `goldmark.New(WithParserOptions(WithAutoHeadingID()), …).Convert`,
    tied to it byte for byte — returns `html` for a byte string `src`: `html` is the rendering of the tree `t` the parser
    model returns, and for the Heading nodes the renderer visits, in document order (`rHeadings t`: level, attributes):
    * the attributes of each are exactly `id = v`, and the list of these attribute lists is DUPLICATE-FREE (all ids distinct);
    * every `v` is NON-EMPTY, consists of `a-z 0-9 -` (nothing for EscapeHTML to change);
    * the start tag the renderer writes for it, `<hN id="v">`, is a contiguous part of `html`.
    The ids are a function of `src` alone (`heading_ids_document_local`). -/
theorem c15_end_to_end (uc : List (Nat × (Bool × Bool))) (o : ROpts) (src : Bytes) (html : Bytes)
    (h : convertH true uc o src = .ok html) :
    ∃ t, parseDocH true true uc src = .ok t ∧ html = render o.rcfg t ∧
      ((rHeadings t).map (·.2)).Nodup ∧
      ∀ p ∈ rHeadings t, ∃ v, p.2 = idAttr v ∧ v ≠ [] ∧ (∀ c ∈ v, IdByte c = true) ∧ startTag p.1 v <:+: html := by
  obtain ⟨t, ht, hr⟩ := heading_ids_rendered uc o src html h
  obtain ⟨ids, hi, hn, _⟩ := heading_ids_pairwise_distinct uc src t ht
  refine ⟨t, ht, ?_, ?_, fun p hp => ?_⟩
  · unfold convertH convertHWith at h
    obtain ⟨t', ht', hr'⟩ := ebind_ok h
    rw [ht] at ht'
    cases ht'
    unfold renderDoc at hr'
    split at hr'
    · cases hr'
    · cases hr'; rfl
  · have hs := rHeadings_sublist t
    rw [hi] at hs
    exact List.Nodup.sublist hs (nodup_map_idAttr ids hn)
  · obtain ⟨v, hne, hv, htag⟩ := hr p hp
    exact ⟨v, hv, hne, (heading_ids_alphabet uc src t ht _ (rHeadings_sub t p hp) v hv).1, htag⟩

/-! ### tests on literals (not theorems), evaluated by the kernel -/

-- `# a⏎# a⏎a⏎=⏎`  ↦  `<h1 id="a">a</h1>⏎<h1 id="a-1">a</h1>⏎<h1 id="a-2">a</h1>⏎`
example : (convertH true [] {} [35, 32, 97, 10, 35, 32, 97, 10, 97, 10, 61, 10]).toOption =
    some (strBytes "<h1 id=\"a\">a</h1>\n<h1 id=\"a-1\">a</h1>\n<h1 id=\"a-2\">a</h1>\n") := by
  decide +kernel

-- the hypothesis `convertH … = .ok html` is satisfiable: the literal above, and `> #⏎` (an empty heading inside a quote)
example : (convertH true [] {} [62, 32, 35, 10]).toOption =
    some (strBytes "<blockquote>\n<h1 id=\"heading\"></h1>\n</blockquote>\n") := by decide +kernel

end GM.Props.C15E2E
