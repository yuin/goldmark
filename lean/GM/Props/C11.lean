/-
  Property C11 — extensions are conservative: no trigger syntax, no change.
  What is PROVED here is the shared machinery every inline extension hooks into: the per-block inline driver
  `(*parser).parseBlock` (dispatch by trigger byte, flushing of pending text with `MergeOrAppendTextSegment`,
  position restore after a declined consultation, `goto retry`, end-of-line trimming including repair 8b9b792),
  modelled in GM.Model.InlineLoop for ABSTRACT parsers (trigger bytes + a script position ↦ decline | accept n).
  PER EXTENSION (second half of this file) the extensions' own code is tied to theorems:
   * regenerated facts (GM.Gen.ExtFacts, read from extension/*.go and parser/*.go by gmgen on every run): the byte
     literals of every `Trigger()`, what every `Extend` registers, GFM's member list — `facts_*` obligations;
   * `never_consulted`: a parser none of whose trigger bytes occurs in the source changes nothing at all;
   * decline models (GM.Model.ExtDecline, tied by component `extdecline`) of Linkify, the footnote parsers and
     transformer, the definition-list parsers, the task-list and typographer parsers, the table transformer
     (GM.Model.Table) and the East-Asian line-break decision, with a theorem each: on input without the
     extension's characters the code returns nil / leaves the paragraph / writes the break, without effect;
   * `ext_*_conservative_inline`: facts + loop theorem + decline theorem composed, per extension;
   * `never_consulted_concrete`, `ext_strikethrough/tasklist_conservative_concrete`: the same on the CONCRETE inline
     phase (GM.Model.InlinesLoop with the default parser models; open-table variant GM.Model.InlinesLoopX).
  AT WHOLE-DOCUMENT LEVEL (composition with the block phase and the renderer, over the composed models GM.Props.ConvertX /
  ConvertL / C16E2E, re-exported at the end of this file) the property is proved for Strikethrough, TaskList and Table
  (`convertx_conservative_*`, `convertl_conservative_*`: every member set, every source without the trigger byte) and
  for Footnote (`convertf_conservative`: every source without `[^`).
  Still SEARCHED, not proved (component `conservative`): the same composition for Linkify (`GM.Props.ConvertL.
  ConservativeLinkify`, reduced to the insensitivity to the consultation flush:
  `conservative_linkify_iff_flush_insensitive`) and for the extensions outside those models (Typographer,
  DefinitionList, CJK), the node renderers these register (inert without their node kinds), Table's AST transformer.
  Helper lemmas: GM/Proof/InlineLoop.lean, InlineLoopUnused.lean, ExtDecline.lean, ExtLoop.lean.
-/
import GM.Model.InlineLoop
import GM.Proof.InlineLoop
import GM.Model.ExtDecline
import GM.Model.InlinesLoop
import GM.Spec.ExtFacts
import GM.Proof.InlineLoopUnused
import GM.Proof.ExtDecline
import GM.Proof.ExtLoop
import GM.Proof.ExtWriter
import GM.Model.InlinesLoopX
import GM.Proof.InlinesLoopX
import GM.Props.Convert
import GM.Props.Consts.Ext
import GM.Props.ConvertX
import GM.Props.C16E2E
import GM.Props.ConvertL

namespace GM.Props.C11
open GM GM.InlineLoop GM.Proof.InlineLoop

/-- `silent_parser_irrelevant`. Take any well-formed block (line segments inside the source, increasing, every
    line but the last ending with its newline — what the block parsers produce), any list of inline parsers that
    obey the forward-progress contract (a parser returning a node consumed ≥ 1 byte), and ADD one parser `q` — any
    trigger bytes, any place in the priority order — that declines at every position (it may move the reader
    before returning nil). Then the loop terminates in both configurations and the RESOLVED TEXT of the block is
    the same: the same bytes in the same order, the same soft/hard break flags at the same places, the same
    parser-made nodes. (How the text is cut into `Text` nodes may differ: the additional consultations flush the
    pending text earlier; `MergeOrAppendTextSegment` and, at the end of a line, repair 8b9b792 make that
    invisible.) Before 8b9b792 this statement was false (`### bar    ###` with Linkify: `<h3>bar   </h3>`). -/
theorem silent_parser_irrelevant (b : Block) (hWF : WF b) (l1 l2 : List Parser) (q : Parser) (escapedSpace : Bool)
    (hq : Silent q) (hC : Contract (l1 ++ l2)) :
    ∃ stA stB, run ⟨l1 ++ l2, escapedSpace⟩ b = .done stA ∧ run ⟨l1 ++ q :: l2, escapedSpace⟩ b = .done stB ∧
      resolve b.src stB.kids = resolve b.src stA.kids :=
  run_silent hWF l1 l2 q escapedSpace hq hC

/-- `not_consulted`. Every `Parse` call the loop makes (on any block, well-formed or not, whatever the parsers
    do) is for a byte `c = line[i]` that passed the trigger test of parser.go:1199 — unescaped punctuation, a
    space/tab that is not an escaped space under `WithEscapedSpace`, or the first byte of a scan (`i = 0`) — and
    goes to a parser registered for the table index of that byte: the byte itself for punctuation, `' '` for a
    space/tab and for a non-punctuation first byte. A parser whose trigger set does not contain that index is
    not called there. -/
theorem not_consulted (P : Params) (b : Block) :
    ∀ e ∈ (run P b).st.log,
      e.pc = (if (isSpace e.c && e.c != 13 && e.c != 10) || (e.i == 0 && !isPunct e.c) then 32 else e.c) ∧
      ((isPunct e.c && !e.escaped) || ((isSpace e.c && e.c != 13 && e.c != 10) && !(e.escaped && P.escapedSpace)) ||
        e.i == 0) = true ∧
      ∃ q ∈ P.parsers, q.id = e.id ∧ e.pc ∈ q.triggers :=
  run_log P b

/-- `not_consulted`, contrapositive for one parser: a parser with no trigger equal to the table index of a call
    is not the parser of that call (ids identify parsers). -/
theorem not_consulted_off_trigger (P : Params) (b : Block) (q : Parser)
    (uniq : ∀ x ∈ P.parsers, x.id = q.id → x = q) :
    ∀ e ∈ (run P b).st.log, e.pc ∉ q.triggers → e.id ≠ q.id := by
  intro e he hnot hid
  obtain ⟨_, _, x, hx, hxid, hmem⟩ := run_log P b e he
  have := uniq x hx (hxid.trans hid)
  subst this
  exact hnot hmem

/-- `first_accept_wins`. In one consultation (parser.go:1213-1219) over the table entry `pre ++ p :: post` (the
    parsers sharing the trigger, in priority order — `table` keeps the order of the sorted configuration): if all
    of `pre` decline at the saved position (wherever they left the reader) and `p` accepts `n` bytes, the result
    is `p`'s node with the reader `n` bytes after the SAVED position, exactly `pre ++ [p]` were called, in that
    order, each at the saved position, and nobody in `post` was called. -/
theorem first_accept_wins (b : Block) (saved : Reader) (pc : UInt8) (i : Nat) (c : UInt8) (esc : Bool)
    (pre post : List Parser) (p : Parser) (n id : Nat) (log : List Call)
    (hpre : ∀ x ∈ pre, ∃ m, x.script saved.line saved.start = .decline m)
    (hp : p.script saved.line saved.start = .accept n id) :
    tryParsers b saved pc i c esc (pre ++ p :: post) log =
      (some (advance b saved n, id),
       ((pre ++ [p]).map fun x => (⟨x.id, saved.line, saved.start, pc, i, c, esc⟩ : Call)).reverse ++ log) :=
  tryParsers_first_accept b saved pc i c esc pre post p n id log hpre hp

/-- the table entry for a byte lists the parsers triggered by it in the order of the configuration -/
theorem table_keeps_order (xs ys : List Parser) (pc : UInt8) : table (xs ++ ys) pc = table xs pc ++ table ys pc :=
  table_append xs ys pc

/-! ## Per extension -/

open GM.ExtLoop GM.Proof.ExtLoop GM.Proof.InlineLoopUnused

/-! ### regenerated facts (a changed `Trigger()` / `Extend` breaks one of these on the next run) -/

/-- Regenerated fact: gmgen understood every `Trigger()` body, every registered constructor and every option call. -/
theorem facts_understood : Spec.Ext.allUnderstood = true := by decide +kernel

/-- Regenerated fact: each built-in extension's `Extend` registers exactly what is expected of it — Strikethrough,
    TaskList, Linkify, Typographer one inline parser (plus a node renderer for the first two); Table a paragraph
    transformer, an AST transformer, a node renderer; Footnote a block parser, an inline parser, an AST
    transformer, a node renderer; DefinitionList two block parsers and a node renderer; CJK only renderer/parser
    options; GFM nothing of its own — with the priorities of the documentation. -/
theorem facts_registrations : Spec.Ext.registrationsAsExpected = true ∧ Spec.Ext.noOtherExtension = true := by
  decide +kernel

/-- Regenerated fact: the trigger bytes of every parser an extension registers lie inside the characters C11 names
    for it: Strikethrough ⊆ {~}; TaskList ⊆ {[}; Footnote block ⊆ {[}, inline ⊆ {!, [}; DefinitionList ⊆ {:};
    Typographer ⊆ {' " - . < >} ∪ {, * [} (at the last three its Parse declines: `typographer_declines`);
    Linkify = {space * _ ~ (} exactly (NOT inside {: @ w}: Linkify is covered by `linkify_declines`);
    Table and CJK register no block or inline parser. -/
theorem facts_triggers : Spec.Ext.triggersAsExpected = true := by decide +kernel

/-- Regenerated fact: `extension.GFM.Extend` is exactly `Linkify.Extend; Table.Extend; Strikethrough.Extend;
    TaskList.Extend`, registers nothing itself, and no other extension delegates. -/
theorem facts_gfm_members : Spec.Ext.gfmAsExpected = true := by decide +kernel

/-- Regenerated fact: the trigger table of the DEFAULT inline parsers, as `Trigger()` and
    `parser.DefaultInlineParsers` say, is the one hard-coded in the concrete inline-phase model
    (GM.Inl.parsersFor): same parsers for every byte, in priority order. -/
theorem facts_default_inline_table : Spec.Ext.defaultInlineSorted = true ∧
    ∀ c : UInt8, Spec.Ext.defaultInlineFor c = (Inl.parsersFor c).map fun
      | .codeSpan => "codeSpanParser" | .link => "linkParser" | .autoLink => "autoLinkParser"
      | .rawHTML => "rawHTMLParser" | .emphasis => "emphasisParser" := by
  refine ⟨by decide +kernel, ?_⟩
  apply forall_uint8
  decide +kernel

/-! ### never consulted -/

/-- `never_consulted`. If no byte of the source is a trigger byte of `q`, and `q` is not registered for ' ' (the
    table index of white space and of a line head), then inserting `q` ANYWHERE in the priority order changes
    nothing: the two runs are EQUAL — same children, same reader, same Parse call log, same outcome — for every
    block (well-formed or not), whatever `q` and the other parsers would do. -/
theorem never_consulted (b : Block) (l1 l2 : List Parser) (q : Parser) (escapedSpace : Bool)
    (h32 : (32 : UInt8) ∉ q.triggers) (hsrc : ∀ c ∈ b.src, c ∉ q.triggers) :
    run ⟨l1 ++ q :: l2, escapedSpace⟩ b = run ⟨l1 ++ l2, escapedSpace⟩ b :=
  run_unused b l1 l2 q escapedSpace h32 hsrc

/-- Strikethrough, inline side: ANY parser carrying the trigger bytes `(*strikethroughParser).Trigger()` returns
    (regenerated) is never consulted on a source without '~': the runs with and without it are equal. -/
theorem ext_strikethrough_conservative_inline (b : Block) (l1 l2 : List Parser) (q : Parser) (escapedSpace : Bool)
    (hq : q.triggers = Spec.Ext.triggersOf "strikethrough" "inline") (hsrc : (126 : UInt8) ∉ b.src) :
    run ⟨l1 ++ q :: l2, escapedSpace⟩ b = run ⟨l1 ++ l2, escapedSpace⟩ b :=
  run_unused_of_subset b l1 l2 q escapedSpace [126] (hq ▸ strikethrough_triggers) (by decide)
    (fun c hc => by simp at hc; subst hc; exact hsrc)

/-- TaskList, inline side: the same for `(*taskCheckBoxParser).Trigger()` and sources without '['. -/
theorem ext_tasklist_conservative_inline (b : Block) (l1 l2 : List Parser) (q : Parser) (escapedSpace : Bool)
    (hq : q.triggers = Spec.Ext.triggersOf "taskList" "inline") (hsrc : (91 : UInt8) ∉ b.src) :
    run ⟨l1 ++ q :: l2, escapedSpace⟩ b = run ⟨l1 ++ l2, escapedSpace⟩ b :=
  run_unused_of_subset b l1 l2 q escapedSpace [91] (hq ▸ taskList_triggers) (by decide)
    (fun c hc => by simp at hc; subst hc; exact hsrc)

/-- TaskList, parser body: called on a line that does not start with '[' (impossible through the loop, see above)
    or outside the first text block of a list item, Parse returns nil without effect. -/
theorem tasklist_declines (inItem : Bool) (line : Bytes) (h : line.head? ≠ some 91) :
    Ext.taskParse inItem line = .nil 0 := Ext.taskParse_needs_bracket inItem line h

/-! ### Typographer -/

/-- `typographer_declines`. `(*typographerParser).Parse` (model `Ext.typoParse`, default substitutions) consulted at a
    byte other than ' " - . < > — in particular at its three other trigger bytes , * [ — returns nil without
    advancing the reader or touching the parent. -/
theorem typographer_declines (c : UInt8) (rest : Bytes) (h : c ≠ 39 ∧ c ≠ 34 ∧ c ≠ 45 ∧ c ≠ 46 ∧ c ≠ 60 ∧ c ≠ 62) :
    Ext.typoParse (c :: rest) = .nil 0 := Ext.typoParse_declines c rest h

/-- Typographer, inline side: the parser with the REGENERATED trigger bytes whose answers are those of the decline
    model on the line the reader shows, added anywhere to a configuration obeying the progress contract, leaves the
    resolved text of every well-formed block without ' " - . < > unchanged. (It IS consulted at , * [ and at
    nothing else; it declines there.) -/
theorem ext_typographer_conservative_inline (b : Block) (hWF : WF b) (l1 l2 : List Parser) (id : Nat) (escapedSpace : Bool)
    (hC : Contract (l1 ++ l2))
    (hsrc : ∀ c ∈ b.src, c ≠ 39 ∧ c ≠ 34 ∧ c ≠ 45 ∧ c ≠ 46 ∧ c ≠ 60 ∧ c ≠ 62) :
    ∃ stA stB, run ⟨l1 ++ l2, escapedSpace⟩ b = .done stA ∧
      run ⟨l1 ++ extParser b id (Spec.Ext.triggersOf "typographer" "inline") (fun _ _ => Ext.typoParse) :: l2, escapedSpace⟩ b = .done stB ∧
      resolve b.src stB.kids = resolve b.src stA.kids :=
  run_silent hWF l1 l2 _ escapedSpace (typographer_silent b id _ hsrc) hC

/-! ### Linkify -/

/-- `linkify_declines`. `(*linkifyParser).Parse` (model `Ext.linkifyParse`: default configuration; the first byte is
    skipped when it is one of the trigger bytes; `http:`/`https:`/`ftp:`/`www.` guards; e-mail candidate through
    util.FindEmailIndex) on ANY non-empty peeked line without ':', without '@' and without the substring `www.`
    returns nil, with the reader where it was and the parent untouched — inside or outside a link label. -/
theorem linkify_declines (inLinkLabel : Bool) (line : Bytes) (hne : line ≠ [])
    (hcolon : (58 : UInt8) ∉ line) (hat : (64 : UInt8) ∉ line) (hwww : Ext.hasInfix Ext.domainWWW line = false) :
    Ext.linkifyParse inLinkLabel line = .nil 0 := Ext.linkifyParse_declines inLinkLabel line hne hcolon hat hwww

/-- Linkify, inline side. Linkify IS consulted on trigger-free documents — at every space, tab, line head, `*`,
    `_`, `~`, `(` — and every consultation flushes the pending text. With the REGENERATED trigger bytes and the
    decline model as script (whatever the link-label state at each position): on every well-formed block whose
    source has no ':', no '@' and no `www.`, the resolved text is the same with and without it. -/
theorem ext_linkify_conservative_inline (b : Block) (hWF : WF b) (l1 l2 : List Parser) (id : Nat) (escapedSpace : Bool)
    (inLabel : Nat → Nat → Bool) (hC : Contract (l1 ++ l2))
    (hcolon : (58 : UInt8) ∉ b.src) (hat : (64 : UInt8) ∉ b.src) (hwww : Ext.hasInfix Ext.domainWWW b.src = false) :
    ∃ stA stB, run ⟨l1 ++ l2, escapedSpace⟩ b = .done stA ∧
      run ⟨l1 ++ extParser b id (Spec.Ext.triggersOf "linkify" "inline") (fun l p => Ext.linkifyParse (inLabel l p)) :: l2, escapedSpace⟩ b = .done stB ∧
      resolve b.src stB.kids = resolve b.src stA.kids :=
  run_silent hWF l1 l2 _ escapedSpace (linkify_silent b id _ inLabel hcolon hat hwww) hC

/-! ### Footnote -/

/-- `footnote_open_declines`. `(*footnoteBlockParser).Open` on a line without the two bytes `[^` (block offset inside
    the line, or −1 for a blank line, as openBlocks sets it) returns (nil, NoChildren) before creating anything. -/
theorem footnote_open_declines (line : Bytes) (pos : Int) (hpos : pos < 0 ∨ pos.toNat < line.length)
    (h : Ext.hasInfix [91, 94] line = false) : Ext.footnoteOpen line pos = .nil :=
  Ext.footnoteOpen_declines line pos hpos h

/-- `footnote_inline_declines`. (a) While the context holds no FootnoteList — none exists until a footnote
    definition has been opened and closed, which needs `[^` by `footnote_open_declines` — `(*footnoteParser).Parse`
    returns nil on EVERY line (it may have advanced the reader first; the loop restores it), parent untouched.
    (b) At a '[' not followed by '^' it returns nil at its first test whatever the context holds. -/
theorem footnote_inline_declines (line : Bytes) :
    (∃ m, Ext.footnoteParse none line = .nil m) ∧
    (∀ refs, line.head? = some 91 → Ext.hasInfix [91, 94] line = false → Ext.footnoteParse refs line = .nil 0) :=
  ⟨Ext.footnoteParse_noList line, fun refs hh h => Ext.footnoteParse_bracket refs line hh h⟩

/-- Footnote, inline side: with the REGENERATED triggers ('!' and '[' — it IS consulted at every image and link
    opener) and the decline model without a list as script, the resolved text of every well-formed block is
    unchanged. -/
theorem ext_footnote_conservative_inline (b : Block) (hWF : WF b) (l1 l2 : List Parser) (id : Nat) (escapedSpace : Bool)
    (hC : Contract (l1 ++ l2)) :
    ∃ stA stB, run ⟨l1 ++ l2, escapedSpace⟩ b = .done stA ∧
      run ⟨l1 ++ extParser b id (Spec.Ext.triggersOf "footnote" "inline") (fun _ _ => Ext.footnoteParse none) :: l2, escapedSpace⟩ b = .done stB ∧
      resolve b.src stB.kids = resolve b.src stA.kids :=
  run_silent hWF l1 l2 _ escapedSpace (footnote_silent b id _) hC

/-- the footnote AST transformer returns the document as it is when the context holds no FootnoteList
    (footnote.go:202-218; by construction of the model, tied by op `fntr`) -/
theorem footnote_transformer_without_list {Doc : Type} (d : Doc) : Ext.footnoteTransformNoList d = d := rfl

/-! ### DefinitionList -/

/-- `deflist_open_declines`. Both definition-list block parsers' `Open` return (nil, NoChildren) on a line without
    ':' — whatever the parent, its last child and the indent are. -/
theorem deflist_open_declines (parentIsDL : Bool) (line : Bytes) (pos indent : Int) (last : Ext.LastChild)
    (hpos : pos < 0 ∨ pos.toNat < line.length) (h : (58 : UInt8) ∉ line) :
    Ext.defListOpen parentIsDL line pos indent last = .nil ∧ Ext.defDescOpen parentIsDL line pos indent = .nil :=
  ⟨Ext.defListOpen_declines parentIsDL line pos indent last hpos h, Ext.defDescOpen_declines parentIsDL line pos indent hpos h⟩

/-- Block side of "never consulted": a block parser with trigger bytes `t` does not change the list of parsers
    openBlocks tries on a line whose first non-space byte is not in `t` (parser.go:749-771, 845-849, 949-955:
    triggered parsers in priority order, then the free ones) — so DefinitionList's and Footnote's block parsers are
    not even called on lines that do not start with ':' / '['. -/
theorem block_parser_not_tried (l1 l2 : List Ext.BlockP) (q : Ext.BlockP) (t : Bytes) (c : UInt8)
    (hq : q.triggers = some t) (hc : c ∉ t) :
    Ext.blockCandidates (l1 ++ q :: l2) c = Ext.blockCandidates (l1 ++ l2) c :=
  Ext.blockCandidates_insert_off l1 l2 q t c hq hc

/-! ### Table -/

/-- `table_needs_dash`. The table paragraph transformer (model GM.Table.transform, tied by component `table`) leaves
    every paragraph of a source without '-' exactly as it is: no delimiter row, no table. -/
theorem table_needs_dash (src : Bytes) (lines : List Table.Seg) (h : (45 : UInt8) ∉ src) :
    Table.transform src lines = { para := lines, table := none } :=
  Ext.transform_no_dash src lines fun l _ => Ext.value_no_dash src l h

/-! ### CJK -/

/-- `cjk_ascii_breaks_kept`. With the Unicode predicates as parameters that are false on ASCII (`AsciiNarrow`:
    checked exhaustively on the real tables by `extdecline`), under both East-Asian styles the renderer writes the
    newline of a soft break whenever the text before it ends in, and the text after it (if any) starts with, an
    ASCII character — exactly as without the option. -/
theorem cjk_ascii_breaks_kept (U : Ext.RuneClass) (hU : Ext.AsciiNarrow U) (style : Nat) (hs : style ≤ 2) (valueEmpty : Bool)
    (last : Nat) (next : Option Nat) (hl : last < 128) (hn : ∀ r, next = some r → r < 128) :
    Ext.softBreakWritten U style valueEmpty last next = Ext.softBreakWritten U 0 valueEmpty last next :=
  Ext.softBreakWritten_ascii U hU style hs valueEmpty last next hl hn

/-- `cjk_escaped_space_inert`. `parser.WithEscapedSpace()` is read by the inline loop only in the trigger test of a
    space/tab; when no inline parser is registered for ' ' (every built-in configuration without Linkify) the run
    is EQUAL with and without it. (With Linkify the extra/missing consultations are declined ones:
    `silent_parser_irrelevant`.) -/
theorem cjk_escaped_space_inert (ps : List Parser) (b : Block) (h : table ps 32 = []) :
    run ⟨ps, true⟩ b = run ⟨ps, false⟩ b := run_escSpace ps b h

/-- `cjk_escaped_space_writer`. `html.NewWriter(html.WithEscapedSpace())` (model GM.Model.Writer, tied by component
    `render`) writes, for every byte string that does not contain the two bytes backslash-space, exactly what the
    default writer writes. -/
theorem cjk_escaped_space_writer (v : Bytes) (h : Ext.hasInfix Ext.escSp v = false) : write true v = write false v :=
  Ext.write_escSpace v h

/-- `never_consulted`, sharper: only PUNCTUATION bytes of the source matter (a byte that is neither punctuation nor
    white space is never a table index: it passes the trigger test only at a line head, with index ' '). -/
theorem never_consulted_punct (b : Block) (l1 l2 : List Parser) (q : Parser) (escapedSpace : Bool)
    (h32 : (32 : UInt8) ∉ q.triggers) (hsrc : ∀ c ∈ b.src, isPunct c = true → c ∉ q.triggers) :
    run ⟨l1 ++ q :: l2, escapedSpace⟩ b = run ⟨l1 ++ l2, escapedSpace⟩ b :=
  run_unused_punct b l1 l2 q escapedSpace h32 hsrc

/-! ### never consulted, on the CONCRETE inline phase (default parsers plugged in) -/

/-- `never_consulted_concrete`. GM.Model.InlinesLoopX is the concrete inline phase of a block (`parseBlock` of
    GM.Model.InlinesLoop: the real code span / link / autolink / raw HTML / emphasis parser models, delimiter
    processing, link labels) over an open trigger table. Add ONE more inline parser `x` to the default table — at any
    place `pos c` of any entry, whatever its `Parse` does to reader, children and context. For every source that
    contains none of `x`'s trigger bytes (and `x` not registered for ' '), every well-formed padding-free line list,
    every reference map and Unicode class assignment (`env`): the result is `parseBlock`'s — the same tree, or the
    same panic. -/
theorem never_consulted_concrete {src : Bytes} {segs : List Text.Segment} (W : Spec.WFSegs src segs)
    (Z : ∀ s ∈ segs, s.padding = 0) (env : Inl.Env) (x : Inl.XParser) (pos : UInt8 → Nat)
    (h32 : (32 : UInt8) ∉ x.triggers) (hsrc : ∀ c ∈ src, c ∉ x.triggers) :
    Inl.parseBlockX env (Inl.insertTbl x pos Inl.baseTbl) src segs = Inl.parseBlock env src segs :=
  Proof.InlinesLoopX.parseBlock_unused W Z env x pos h32 hsrc

/-- the open-table model with the default table IS the concrete model (refinement, every source) -/
theorem concrete_open_table_refines {src : Bytes} {segs : List Text.Segment} (W : Spec.WFSegs src segs)
    (Z : ∀ s ∈ segs, s.padding = 0) (env : Inl.Env) :
    Inl.parseBlockX env Inl.baseTbl src segs = Inl.parseBlock env src segs :=
  Proof.InlinesLoopX.parseBlockX_eq W Z env _ rfl (fun _ _ => rfl)

/-- Strikethrough on the concrete inline phase: ANY parser with the regenerated trigger bytes of
    `(*strikethroughParser).Trigger()`, added to the default parsers at any priority, leaves the inline tree of every
    block of a source without '~' unchanged. -/
theorem ext_strikethrough_conservative_concrete {src : Bytes} {segs : List Text.Segment} (W : Spec.WFSegs src segs)
    (Z : ∀ s ∈ segs, s.padding = 0) (env : Inl.Env) (x : Inl.XParser) (pos : UInt8 → Nat)
    (hx : x.triggers = Spec.Ext.triggersOf "strikethrough" "inline") (hsrc : (126 : UInt8) ∉ src) :
    Inl.parseBlockX env (Inl.insertTbl x pos Inl.baseTbl) src segs = Inl.parseBlock env src segs := by
  have hsub := hx ▸ strikethrough_triggers
  refine Proof.InlinesLoopX.parseBlock_unused W Z env x pos (fun h => ?_) (fun c hc ht => ?_)
  · have := mem_of_subset hsub h; simp at this
  · have := mem_of_subset hsub ht; simp at this; subst this; exact hsrc hc

/-- TaskList on the concrete inline phase: the same for `(*taskCheckBoxParser).Trigger()` and sources without '['. -/
theorem ext_tasklist_conservative_concrete {src : Bytes} {segs : List Text.Segment} (W : Spec.WFSegs src segs)
    (Z : ∀ s ∈ segs, s.padding = 0) (env : Inl.Env) (x : Inl.XParser) (pos : UInt8 → Nat)
    (hx : x.triggers = Spec.Ext.triggersOf "taskList" "inline") (hsrc : (91 : UInt8) ∉ src) :
    Inl.parseBlockX env (Inl.insertTbl x pos Inl.baseTbl) src segs = Inl.parseBlock env src segs := by
  have hsub := hx ▸ taskList_triggers
  refine Proof.InlinesLoopX.parseBlock_unused W Z env x pos (fun h => ?_) (fun c hc ht => ?_)
  · have := mem_of_subset hsub h; simp at this
  · have := mem_of_subset hsub ht; simp at this; subst this; exact hsrc hc

/-! ### non-vacuity and tests on literals -/

/-- "bar    " (the content of `### bar    ###`) as a one-line block -/
def barBlock : Block := ⟨[35, 35, 35, 32, 98, 97, 114, 32, 32, 32, 32, 35, 35, 35], [⟨4, 11⟩]⟩
/-- a space-triggered parser that always declines (Linkify on text without links) -/
def linkifyLike : Parser := ⟨7, [32], fun _ _ => .decline 0⟩

/-- the hypotheses are satisfiable: this block is well-formed, the parser is silent, the empty list obeys the contract -/
example : WF barBlock := by
  refine ⟨?_, ?_, ?_⟩
  · intro i s h
    match i, h with
    | 0, h => cases h; decide
  · intro i s t h1 h2
    match i, h1, h2 with
    | 0, _, h2 => cases h2
  · intro i s h hl
    have : i + 1 < 1 := hl
    omega
example : Silent linkifyLike := fun _ _ => ⟨0, rfl⟩
example : Contract ([] : List Parser) := fun _ h => by cases h

/-- test: without the parser one Text `bar`; with it the pieces `bar`, three flushed spaces … trimmed to the
    same resolved text `bar` by the repair -/
example : (run ⟨[], false⟩ barBlock).st.kids = [.text 4 7 false false] := by decide +kernel
example : (run ⟨[linkifyLike], false⟩ barBlock).st.kids = [.text 10 10 false false, .text 4 7 false false] := by decide +kernel
example : resolve barBlock.src (run ⟨[linkifyLike], false⟩ barBlock).st.kids =
    resolve barBlock.src (run ⟨[], false⟩ barBlock).st.kids := by decide +kernel


/-- the hypotheses of the per-extension theorems are satisfiable, and the models do accept when the characters are
    there (tests on literals) -/
example : Ext.linkifyParse false (strBytes " see a@b.cd.") = .nil 0 := by decide +kernel
example : Ext.linkifyParse false (strBytes " a@b.cd.") = .node "email" 7 true := by decide +kernel
example : Ext.linkifyParse false (strBytes "(www.x") = .regexp := by decide +kernel
example : Ext.hasInfix Ext.domainWWW (strBytes "see www.x") = true := by decide +kernel
example : Ext.hasInfix Ext.domainWWW (strBytes "ww w. wow") = false := by decide +kernel
example : Ext.footnoteParse (some [strBytes "a"]) (strBytes "[^a] x") = .node "footnoteLink" 4 false := by decide +kernel
example : Ext.footnoteParse none (strBytes "!x^a] y") = .nil 5 := by decide +kernel
example : Ext.footnoteOpen (strBytes "[^a]: x") 0 = .node "footnote" 8 5 := by decide +kernel
example : Ext.defListOpen false (strBytes ": x") 0 0 (.paragraph false) = .node "new" 40 0 := by decide +kernel
example : Ext.typoParse (strBytes "--- x") = .node "emdash" 3 false := by decide +kernel
example : Ext.typoParse (strBytes "*x") = .nil 0 := by decide +kernel
example : Ext.taskParse true (strBytes "[x]  y") = .node "checked" 5 false := by decide +kernel
/-- a rune class that is wide exactly on the CJK ideograph 一: ASCII-narrow, and it does suppress a break -/
def demoClass : Ext.RuneClass := ⟨(· == 0x4E00), (· == 0x4E00), fun _ => false, fun _ => false, fun _ => false⟩
example : Ext.AsciiNarrow demoClass := fun r hr => by
  have : (r == 0x4E00) = false := by simp; omega
  simp [demoClass, this]
example : Ext.softBreakWritten demoClass 1 false 0x4E00 (some 0x4E00) = false := by decide
example : Ext.softBreakWritten demoClass 1 false 97 (some 98) = true := by decide
example : write true (strBytes "a\\ b") ≠ write false (strBytes "a\\ b") := by decide +kernel
example : Ext.hasInfix Ext.escSp (strBytes "a \\b\\") = false := by decide +kernel
/-- a block without '~': strikethrough's hypothesis holds; the regenerated trigger set is not empty -/
example : (126 : UInt8) ∉ barBlock.src := by decide
example : Spec.Ext.triggersOf "strikethrough" "inline" ≠ [] := by decide +kernel
example : Spec.Ext.triggersOf "linkify" "inline" = [32, 42, 95, 126, 40] := by decide +kernel
/-- Linkify on `### bar    ###`: consulted (5 calls), all declined, same resolved text -/
example : (run ⟨[extParser barBlock 7 (Spec.Ext.triggersOf "linkify" "inline") (fun _ _ => Ext.linkifyParse false)], false⟩ barBlock).st.log.length = 5 := by
  decide +kernel
example : resolve barBlock.src (run ⟨[extParser barBlock 7 (Spec.Ext.triggersOf "linkify" "inline") (fun _ _ => Ext.linkifyParse false)], false⟩ barBlock).st.kids =
    resolve barBlock.src (run ⟨[], false⟩ barBlock).st.kids := by decide +kernel

/-! ### paragraph transformers return without touching paragraphs they do not recognise: the built-in link reference
    transformer (GM.Model.LinkRef = parser/link_ref.go) -/

theorem unrecognised_paragraph_untouched : type_of% @GM.Props.Convert.unrecognised_paragraph_untouched :=
  @GM.Props.Convert.unrecognised_paragraph_untouched
/-- `Transform` on a paragraph it does not recognise ends in EXACTLY the state it started from -/
theorem unrecognised_paragraph_state_untouched : type_of% @GM.Props.Convert.unrecognised_paragraph_state_untouched :=
  @GM.Props.Convert.unrecognised_paragraph_state_untouched
theorem paragraph_not_started_by_bracket_untouched : type_of% @GM.Props.Convert.paragraph_not_started_by_bracket_untouched :=
  @GM.Props.Convert.paragraph_not_started_by_bracket_untouched

/-- the task-list expression, linkify guards, footnote and definition-list openers are the decline models' -/
theorem consts_extension_regexps_tied : GM.Spec.Consts.allOk GM.Spec.Consts.extensionRegexps = true := GM.Props.Consts.Ext.extension_regexps_tied
/-- goldmark compiles exactly the 18 known regular expressions, all understood by the extractor -/
theorem consts_regexp_inventory_complete : GM.Spec.Consts.allOk GM.Spec.Consts.regexpInventory = true := GM.Props.Consts.Ext.regexp_inventory_complete

/-- (re-export of `GM.Props.ConvertX.convertx_off_is_core`) `convertx_off_is_core`. With no member switched on the composed model IS the model of the default CommonMark pipeline:
    same HTML, same outcome, for every source, Unicode class assignment and renderer option set — guarded and unguarded. -/
theorem convertx_off_is_core : type_of% @GM.Props.ConvertX.convertx_off_is_core := @GM.Props.ConvertX.convertx_off_is_core

/-- (re-export of `GM.Props.ConvertX.convertx_conservative_tasklist`) `convertx_conservative_tasklist` — C11 AT WHOLE-DOCUMENT LEVEL on the model, for every member set without Strikethrough
    (Table on or off): a source without `[` converts to the same HTML — or the same error outcome — with and without
    TaskList, for every renderer option set and Unicode class assignment. The case without Strikethrough of
    `convertx_conservative_tasklist_all`. -/
theorem convertx_conservative_tasklist : type_of% @GM.Props.ConvertX.convertx_conservative_tasklist := @GM.Props.ConvertX.convertx_conservative_tasklist

/-- (re-export of `GM.Props.ConvertX.convertx_conservative_tasklist_phases`) the same at phase level: the block phase is the same, and behind the run-time check the inline children of EVERY block
    (any line list) are the same -/
theorem convertx_conservative_tasklist_phases : type_of% @GM.Props.ConvertX.convertx_conservative_tasklist_phases := @GM.Props.ConvertX.convertx_conservative_tasklist_phases

/-- (re-export of `GM.Props.ConvertX.convertx_conservative_table`) `convertx_conservative_table` — C11 AT WHOLE-DOCUMENT LEVEL on the model, for EVERY member set (Strikethrough / TaskList
    on or off), WITHOUT proviso: a source without '-' converts to the same HTML — or the same error outcome — with and without
    Table, for every renderer option set and Unicode class assignment. Composed from `table_needs_dash` (GM.Props.C11: the
    transformer returns the state unchanged), "the transformer's domain monitor cannot fire behind the guarded link-reference
    transformer" (GM.Proof.ConvertXMon.guarded_post: `guardedTransform` leaves the reader alone and leaves the paragraph a
    suffix — `transformer_removes_front` — of lines it has just checked on that reader's source), the monotonicity of the block
    driver `runT` in its transformer list (GM.Proof.ConvertXRel, the simulation walk of GM.Proof.BlocksDriverGSim with the
    transformer hook related: same node store, context, reader), "no node decodes as a table node on a source without '-'" (the witness of GM.Model.ExtTableX, so the tree,
    the escaped-pipe list and every block's inline phase are the same) and "the renderer reads `Exts` only through `handled`" on
    a tree without table kinds. -/
theorem convertx_conservative_table : type_of% @GM.Props.ConvertX.convertx_conservative_table := @GM.Props.ConvertX.convertx_conservative_table

/-- (re-export of `GM.Props.ConvertX.convertx_conservative_table_blockphase`) the same for the block phase alone (guarded or not): exactly the state — node store, parse context with the reference
    map, reader — or the error of the block phase without Table, or `pre` -/
theorem convertx_conservative_table_blockphase : type_of% @GM.Props.ConvertX.convertx_conservative_table_blockphase := @GM.Props.ConvertX.convertx_conservative_table_blockphase

/-- (re-export of `GM.Props.ConvertX.convertx_conservative_table_partial`) the same at transformer level (any state of the block phase): the state is returned unchanged, or `pre` -/
theorem convertx_conservative_table_partial : type_of% @GM.Props.ConvertX.convertx_conservative_table_partial := @GM.Props.ConvertX.convertx_conservative_table_partial

/-- (re-export of `GM.Props.ConvertX.convertx_conservative_strikethrough_partial`) byte-loop level (subsumed): on a line without `~` the byte loop never consults the strikethrough parser -/
theorem convertx_conservative_strikethrough_partial : type_of% @GM.Props.ConvertX.convertx_conservative_strikethrough_partial := @GM.Props.ConvertX.convertx_conservative_strikethrough_partial

/-- (re-export of `GM.Props.C16E2E.convertf_conservative`) **C11 at whole-document level, full statement**: for EVERY byte string without the two bytes `[^` (every Unicode class
    assignment, every renderer option set), `goldmark.New(WithExtensions(extension.Footnote), …)` as modelled by `convertF`
    answers exactly what `convertCore` answers: the same HTML, or the same error outcome. Composition of
    `convertf_conservative_blockphase` (the block parser is consulted at every line that starts with `[` and declines
    without a trace), `convertf_inline_phase_without_list` (the inline parser is consulted at every `!` and `[`, may even
    ADVANCE the reader — `!x^abc]`, `list == nil` is tested behind `block.Advance` — and the loop's SetPosition gives back
    the very reader it saved), `parseBlock_wf` (the default parsers build no FootnoteLink representation),
    `footnote_transformer_without_list_concrete` and the renderer lemma (a tree without footnote kinds renders alike with
    and without FootnoteHTMLRenderer). -/
theorem convertf_conservative : type_of% @GM.Props.C16E2E.convertf_conservative := @GM.Props.C16E2E.convertf_conservative

/-- (re-export of `GM.Props.C16E2E.convertf_conservative_blockphase`) **C11 for the block phase at whole-document level.** For EVERY source without the two bytes `[^`: the block phase with
    the footnote block parser registered returns exactly the state of `convertCore`'s block phase (same node store,
    context, reader — or the same Go panic / monitor outcome), and no Footnote / FootnoteList exists. The parser IS
    consulted on every line whose first non-space byte is `[`; it declines (`footnote_open_declines_concrete`) — and the
    `reader.PeekLine()` it has called changes nothing, because openBlocks' own PeekLine has filled the reader's cache
    already and the cache is coherent (a reader invariant kept by every reader primitive, hence — through the `Pres`
    calculus of GM.Proof.BlocksPres — by all ten block parsers, the link-reference transformer and the driver). The
    proof also follows the one place where the footnote parser's presence changes a local variable of openBlocks
    (`lastBlock` is re-read in front of its `Open`): it is only read when it is fresh. -/
theorem convertf_conservative_blockphase : type_of% @GM.Props.C16E2E.convertf_conservative_blockphase := @GM.Props.C16E2E.convertf_conservative_blockphase

/-- (re-export of `GM.Props.C16E2E.convertf_inline_phase_without_list`) **the inline phase while the context holds no FootnoteList is the default inline phase** — for every block with
    well-formed padding-free lines (what the run-time check of `convertF` lets through), WHATEVER the source: the footnote
    parser in front of the link parser returns nil, and SetPosition restores the reader exactly (under the invariant of
    GM.Proof.InlinesLoopTotal every field but `lineOffset` is determined by the cursor the reader stands for, and
    `lineOffset` is −1 behind Advance and behind SetPosition). -/
theorem convertf_inline_phase_without_list : type_of% @GM.Props.C16E2E.convertf_inline_phase_without_list := @GM.Props.C16E2E.convertf_inline_phase_without_list

/-- (re-export of `GM.Props.C16E2E.convertf_off_is_core`) **Without the extension the model is `convertCore`** (guarded and unguarded): the copied block driver with the footnote
    state layer erased is the driver of GM.Convert (no Footnote is ever opened: the layer stays empty), every tag is plain,
    the trigger table is the default one, no FootnoteLink is decoded, the transformer finds no list, and the node renderers'
    state is the core's. -/
theorem convertf_off_is_core : type_of% @GM.Props.C16E2E.convertf_off_is_core := @GM.Props.C16E2E.convertf_off_is_core

/-- (re-export of `GM.Props.C16E2E.footnote_open_declines_concrete`) `footnote_open_declines` on the concrete block model: on a peeked line without the two bytes `[^`,
    (*footnoteBlockParser).Open returns (nil, NoChildren) with the footnote state untouched and the `St` `peekLine` leaves —
    or panics with the index panic of `line[pos]` (block offset outside the line: never, by the driver). -/
theorem footnote_open_declines_concrete : type_of% @GM.Props.C16E2E.footnote_open_declines_concrete := @GM.Props.C16E2E.footnote_open_declines_concrete

/-- (re-export of `GM.Props.C16E2E.footnote_inline_declines_concrete`) `footnote_inline_declines` on the concrete inline model: while the context holds no FootnoteList — none exists until a
    definition has been opened and closed, which needs `[^` — (*footnoteParser).Parse returns nil on EVERY line and leaves
    the parent's children alone (it may have advanced the reader; the loop puts it back). -/
theorem footnote_inline_declines_concrete : type_of% @GM.Props.C16E2E.footnote_inline_declines_concrete := @GM.Props.C16E2E.footnote_inline_declines_concrete

/-- (re-export of `GM.Props.C16E2E.footnote_transformer_without_list_concrete`) `footnote_transformer_without_list` on the composed model: without a FootnoteList in the context the transformer
    returns the document as it is (footnote.go:217-219) -/
theorem footnote_transformer_without_list_concrete : type_of% @GM.Props.C16E2E.footnote_transformer_without_list_concrete := @GM.Props.C16E2E.footnote_transformer_without_list_concrete

/-- (re-export of `GM.Props.ConvertX.convertx_conservative_strikethrough`) `convertx_conservative_strikethrough` — C11 AT WHOLE-DOCUMENT LEVEL on the model, for EVERY member set (TaskList / Table on or
    off): a source without `~` converts to the same HTML — or the same error outcome — with and without Strikethrough, for
    every renderer option set and Unicode class assignment. Composed from: (1) the strikethrough parser is never consulted
    (`lineLoopX_eq2`: the open-table loop does not look at a table entry whose byte does not occur in the source; the peeked
    lines are slices of the source by the loop invariant of the totality proof, GM.Proof.ConvertXTotal); (2) no `~` delimiter
    ever stands among `parent`'s children (`NT`, kept by every parser of the table), and on such children ProcessDelimiters and
    the link parser over both delimiter processors ARE the default ones (`processDelimitersG_NT`, `parseLinkG_eq`), so the
    loops over the two tables are equal step by step (`lineLoopX_sim` with the identity relabelling); (3) a member set without
    Strikethrough never builds the representation of a Strikethrough node (`parseBlockG_fix`: its inline phase simulates itself
    under the relabelling that moves the levels −3 / −4, so its result is a fixed point), hence decoding does not depend on the
    flag; (4) the renderer reads `Exts` only through `handled`, on a tree without Strikethrough nodes. -/
theorem convertx_conservative_strikethrough : type_of% @GM.Props.ConvertX.convertx_conservative_strikethrough := @GM.Props.ConvertX.convertx_conservative_strikethrough

/-- (re-export of `GM.Props.ConvertX.convertx_conservative_tasklist_all`) `ConservativeTasklist`, proved: the same for EVERY member set (Strikethrough on, too): the checkbox parser is never
    consulted (`lineLoopX_eq2` on the open table with the contracts of GM.Proof.ConvertXTotal), and a member set without
    TaskList never builds the representation of a TaskCheckBox (`parseBlockG_fixS`: the inline phase of any member set simulates
    itself under a relabelling that fixes the levels its members build) -/
theorem convertx_conservative_tasklist_all : type_of% @GM.Props.ConvertX.convertx_conservative_tasklist_all := @GM.Props.ConvertX.convertx_conservative_tasklist_all

/-- (re-export of `GM.Props.ConvertL.convertl_off_is_convertx`) `convertl_off_is_convertx`. Without Linkify the extended model IS `convertX` of the remaining member set — every source,
    option set, class assignment; guarded and unguarded. With `convertx_off_is_core`: all four off = `convertCore`. -/
theorem convertl_off_is_convertx : type_of% @GM.Props.ConvertL.convertl_off_is_convertx := @GM.Props.ConvertL.convertl_off_is_convertx

/-- (re-export of `GM.Props.ConvertL.convertx_gfm_is_members`) `convertx_gfm_is_members` (C11, last clause, on the model): `extension.GFM` is its four members. ON THE MODEL THIS IS BY
    CONSTRUCTION: `convertGFM` is defined as `convertL` with all four flags — justified by gfm.go:13-18, whose `Extend` calls
    exactly `Linkify.Extend`, `Table.Extend`, `Strikethrough.Extend`, `TaskList.Extend` (GM.Props.C11.facts_gfm_members proves
    that of the regenerated source facts). What the tie adds: on every document of member set 15 (quick: ≈ 20k, thorough ≈ 10×)
    component `convertx` converts with a REAL `goldmark.New(WithExtensions(extension.GFM))` instance and with the real
    four-member instance and compares the HTML byte for byte (clause `gfm-differs-from-members`: 0), and compares the latter
    with `convertL gfmCfg`. -/
theorem convertx_gfm_is_members : type_of% @GM.Props.ConvertL.convertx_gfm_is_members := @GM.Props.ConvertL.convertx_gfm_is_members

/-- (re-export of `GM.Props.ConvertL.convertl_conservative_strikethrough`) Strikethrough: a source without `~` converts to the same HTML / outcome with and without it — whatever the other three
    members, Linkify among them (whose trigger set contains `~`: on such a source its entry of `~` is never consulted
    either). The proofs of GM.Props.ConvertX over `inlineTblL`: the Linkify parser keeps the loop's contract, keeps "no `~`
    delimiter among the children" and commutes with every relabelling of emphasis levels. -/
theorem convertl_conservative_strikethrough : type_of% @GM.Props.ConvertL.convertl_conservative_strikethrough := @GM.Props.ConvertL.convertl_conservative_strikethrough

/-- (re-export of `GM.Props.ConvertL.convertl_conservative_tasklist`) TaskList: a source without `[` -/
theorem convertl_conservative_tasklist : type_of% @GM.Props.ConvertL.convertl_conservative_tasklist := @GM.Props.ConvertL.convertl_conservative_tasklist

/-- (re-export of `GM.Props.ConvertL.convertl_conservative_table`) Table: a source without '-' -/
theorem convertl_conservative_table : type_of% @GM.Props.ConvertL.convertl_conservative_table := @GM.Props.ConvertL.convertl_conservative_table

/-- (re-export of `GM.Props.ConvertL.gfm_without_triggers_is_linkify`) `extension.GFM` on a source without `~`, `[` and '-' is Linkify alone -/
theorem gfm_without_triggers_is_linkify : type_of% @GM.Props.ConvertL.gfm_without_triggers_is_linkify := @GM.Props.ConvertL.gfm_without_triggers_is_linkify

/-- (re-export of `GM.Props.ConvertL.convertx_conservative_linkify_partial`) `convertx_conservative_linkify_partial`, parser level, on the CONCRETE loop (composes the decline argument of
    GM.Props.C11.linkify_declines for the accept-path model): whatever the state — children, open labels, delimiters —, when
    the peeked line has no ':', no '@' and no `www.`, `(*linkifyParser).Parse` returns nil and leaves the children, the id
    counter and the link-bottom stack exactly as they are; only the reader's line cache may be filled (PeekLine). -/
theorem convertx_conservative_linkify_partial : type_of% @GM.Props.ConvertL.convertx_conservative_linkify_partial := @GM.Props.ConvertL.convertx_conservative_linkify_partial

/-- (re-export of `GM.Props.ConvertL.convertl_linkify_is_flush`) `convertl_linkify_is_flush` (C11 for Linkify, whole documents, what IS proved): on a source without ':', '@' and `www.`,
    for every member set, option set and class assignment, `convertL` with Linkify is `convertFlush` — the same pipeline with
    a parser in Linkify's place that returns nil and touches nothing (GM.ConvertX.nullParser). In EVERY consultation of every
    run of the inline loop of every block the peeked line is a piece of the source, so `(*linkifyParser).Parse` returns nil
    and leaves reader, children, delimiters and link bottoms as they are (loop level: `linkify_consultation_without_effect`).
    What remains of Linkify on such a document is the consultation itself: Advance, the flush of the pending text
    (parser.go:1203-1211), SetPosition. -/
theorem convertl_linkify_is_flush : type_of% @GM.Props.ConvertL.convertl_linkify_is_flush := @GM.Props.ConvertL.convertl_linkify_is_flush

/-- (re-export of `GM.Props.ConvertL.linkify_consultation_without_effect`) the loop-level statement: the inline loop of a block whose lines pass the run-time check, over the trigger table with
    Linkify, is the loop over the table with `nullParser` in its place -/
theorem linkify_consultation_without_effect : type_of% @GM.Props.ConvertL.linkify_consultation_without_effect := @GM.Props.ConvertL.linkify_consultation_without_effect

/-- (re-export of `GM.Props.ConvertL.conservative_linkify_iff_flush_insensitive`) what is missing for `ConservativeLinkify`, exactly: that the consultation flush does not change the HTML of such a
    document -/
theorem conservative_linkify_iff_flush_insensitive : type_of% @GM.Props.ConvertL.conservative_linkify_iff_flush_insensitive := @GM.Props.ConvertL.conservative_linkify_iff_flush_insensitive

/-- (re-export of `GM.Props.ConvertL.consultation_flush_merges`) `consultation_flush_merges` (flush-insensitivity, inside a line): flushing the pending text `[a, b)` into `parent` and later the
    text `[b, c)` behind it leaves exactly the children one flush of `[a, c)` leaves — whatever the children are. So a run with
    an extra consultation (Linkify declining, `nullParser`) and the run without it hold the SAME children again at the next
    common flush; what stays visible of a consultation is only the cut in front of the end-of-line Text, which parseBlock
    appends without merging (parser.go:1252-1269) — there the soft / hard break flag and the trailing-blank trim (with its repair
    for an already flushed blank rest, parser.go:1258-1265) sit, and there the proviso of `ConservativeLinkify` lives. -/
theorem consultation_flush_merges : type_of% @GM.Props.ConvertL.consultation_flush_merges := @GM.Props.ConvertL.consultation_flush_merges

end GM.Props.C11
