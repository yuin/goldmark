/-
  Property C09 — closed blocks render independently; reference definitions work from anywhere.
  Proved here (second half of the property): the reference map is first-wins over normalised labels; moving a
  block of definitions whose normalised labels are defined nowhere else — from the top of the document to its
  end or anywhere — leaves every lookup, hence every resolved use, unchanged; labels that normalise equally
  resolve equally (the normalisation laws themselves are C19's); and the kernel-checked obligations over facts
  REGENERATED from /repo: Parse finishes the block phase (parseBlocks) before the inline phase (parseBlock),
  the map is written only by the link-reference-definition code and read only by the link parser.
  First half (independence of neighbouring closed blocks): stated on the executable model of the whole block
  phase (GM.Model.Blocks, tied to the real parser by the `blocks` / `blockindep` correspondences) as
  `IndependentBlocks` — a `def … : Prop`, NOT proved in general (proved for an empty first part in GM.Props.C09Shift,
  and for first parts in which no line starts with a list / setext / fence trigger in GM.Props.C09Prefix, every heading
  and every second part); it is EVALUATED by the driver on every triple the
  `blockindep` component generates (GM.Blocks.indepCheck) and, in the same run, on the real parser's trees and on
  the HTML of goldmark.Convert. PROVED here, for every state of the model (reachable or not), are the two
  mechanisms the property names: "the open-block stack is fully unwound when a non-lazy line at column 0 opens a
  new top-level block" (`closeBlocks_removes_exactly`, `stack_unwound`, `stack_empty_at_end_of_document`, `heading_line_unwinds_stack`,
  `blank_line_closes_heading`, `heading_and_blank_line_reset`, `heading_and_blank_line_reset_top`) and "context keys used as cross-line flags are
  reset when their block closes" (`fence_key_reset_on_close`, `setext_key_reset_on_close`,
  `close_keeps_list_flags`), plus which open blocks a heading line closes (`first_block_closes_*`).
-/
import GM.Proof.Refs
import GM.Gen.PhaseFacts
import GM.Props.Convert
import GM.Proof.IndepReset
import GM.Proof.IndepEnd
import GM.Props.C09Shift
import GM.Props.C09Prefix
import GM.Props.C09E2E
import GM.Props.C08E2ETotal

namespace GM.Props.C09
open GM GM.Refs

/-- The map built from the definitions in document order answers every key with the FIRST definition whose
    normalised label equals it. -/
theorem refs_first_wins {α : Type} (ds : List (Bytes × α)) (k : Bytes) :
    (build ds).lookup k = (normList ds).lookup k := build_lookup ds k

/-- Moving a block `A` of definitions across the rest `B` does not change any lookup, provided no
    normalised label of `A` is also defined in `B`. -/
theorem refs_move_invariant {α : Type} (A B : List (Bytes × α)) (k : Bytes)
    (h : ∀ a ∈ A, ∀ b ∈ B, toLinkReference a.1 ≠ toLinkReference b.1) :
    (build (A ++ B)).lookup k = (build (B ++ A)).lookup k := by
  rw [build_lookup, build_lookup]
  simp only [normList, List.map_append]
  apply lookup_comm_of_disjoint
  intro x hx y hy
  obtain ⟨a, ha, rfl⟩ := List.mem_map.mp hx
  obtain ⟨b, hb, rfl⟩ := List.mem_map.mp hy
  exact h a ha b hb

/-- …so every use in the document resolves to the same reference wherever that block of definitions stands. -/
theorem resolve_position_independent {α : Type} (A B : List (Bytes × α)) (uses : List Bytes)
    (h : ∀ a ∈ A, ∀ b ∈ B, toLinkReference a.1 ≠ toLinkReference b.1) :
    resolveUses (A ++ B) uses = resolveUses (B ++ A) uses := by
  unfold resolveUses lookupRef
  apply List.map_congr_left
  intro u _
  exact refs_move_invariant A B _ h

/-- Two spellings of a label that normalise equally (case / whitespace variants, see C19) resolve equally. -/
theorem lookup_label_variant {α : Type} (m : List (Bytes × α)) (l1 l2 : Bytes)
    (h : toLinkReference l1 = toLinkReference l2) : lookupRef m l1 = lookupRef m l2 := by
  unfold lookupRef; rw [h]

/-- Regenerated fact: in (*parser).Parse the block phase is complete before the inline phase starts, and AST
    transformers run after both. -/
theorem facts_two_phase :
    Gen.parsePhaseOrder = ["parseBlocks", "walkBlock", "parseBlock", "astTransform"] := by decide

/-- Regenerated fact: the reference map is written only by parseLinkReferenceDefinition (block phase, via the
    paragraph transformer) and read only by the link parser (inline phase); parseBlocks/parseBlock are called
    from Parse alone. -/
theorem facts_ref_sites :
    Gen.refAndPhaseSites.all (fun s =>
      (s.2.2 != "AddReference" || (s.1 == "link_ref.go" && s.2.1 == "parseLinkReferenceDefinition")) &&
      (s.2.2 != "Reference" || s.1 == "link.go") &&
      ((s.2.2 != "parseBlocks" && s.2.2 != "parseBlock") || (s.1 == "parser.go" && s.2.1 == "Parse"))) = true := by
  decide

/-- non-vacuity: the hypothesis of `refs_move_invariant` is met by non-empty blocks (labels `a` and `b`) -/
example : ∃ (A B : List (Bytes × Nat)), A ≠ [] ∧ B ≠ [] ∧
    ∀ a ∈ A, ∀ b ∈ B, toLinkReference a.1 ≠ toLinkReference b.1 := by
  refine ⟨[([97], 1)], [([98], 2)], by simp, by simp, ?_⟩
  intro a ha b hb
  simp only [List.mem_singleton] at ha hb
  subst ha; subst hb
  simp [toLinkReference, trimLeftSpace, trimRightSpace, isTrimSpace, caseFold, replaceSpaces, hasInnerRun]

/-! ### the map the composed model really builds (GM.Model.LinkRef = parser/link_ref.go) -/

/-- whatever a paragraph defines, every key the map already has keeps its destination and title -/
theorem first_definition_wins : type_of% @GM.Props.Convert.first_definition_wins := @GM.Props.Convert.first_definition_wins
/-- the map a paragraph leaves is `ds.foldl GM.Refs.addRef refs` for the list `ds` of its definitions: the theorems above
    (`refs_first_wins`, `refs_move_invariant`, `resolve_position_independent`) speak about the map the model of Transform builds -/
theorem scan_builds_map_by_add_reference : type_of% @GM.Props.Convert.scan_builds_map_by_add_reference :=
  @GM.Props.Convert.scan_builds_map_by_add_reference
theorem duplicate_definition_ignored : type_of% @GM.Props.Convert.duplicate_definition_ignored := @GM.Props.Convert.duplicate_definition_ignored
theorem new_definition_resolves : type_of% @GM.Props.Convert.new_definition_resolves := @GM.Props.Convert.new_definition_resolves
/-- what Transform keeps of a paragraph is its lines without an initial segment (unconditional, of the model with its
    contract monitor; the arithmetic lemma for adjacent ranges is `transformer_removes_front_partial`) -/
theorem transformer_removes_front : type_of% @GM.Props.Convert.transformer_removes_front := @GM.Props.Convert.transformer_removes_front
theorem transformer_removes_front_partial : type_of% @GM.Props.Convert.transformer_removes_front_partial :=
  @GM.Props.Convert.transformer_removes_front_partial
theorem title_needs_blank_rest_of_line : type_of% @GM.Props.Convert.title_needs_blank_rest_of_line :=
  @GM.Props.Convert.title_needs_blank_rest_of_line
theorem scan_stops_at_first_non_definition : type_of% @GM.Props.Convert.scan_stops_at_first_non_definition :=
  @GM.Props.Convert.scan_stops_at_first_non_definition
/-! ## First half: closed blocks are parsed independently of their neighbours -/

section independence
open GM.Text GM.Blocks

/-- **C09, first half, on block trees — the full statement (not proved in general).** For documents `a`, `b` and
    a heading text `h`: whenever the side conditions hold (`indepPair` answers `some`: no `[` / CR in `a`, `b`; `h`
    is one line; `# h` is a level-1 heading; the deepest last block of `a` is not a code / fenced code / HTML block)
    the block tree of `a`, blank line, `# h`, blank line, `b` is the tree of `a`, then that heading, then the tree of
    `b` with all segments moved (dumps compared, `HasBlankPreviousLines` where the block phase reads it).

    What is established: (1) EVALUATED by the model driver (`blocks indep`) on every triple of the `blockindep`
    component — all pairs of short strings over block alphabets, all short strings against 64 probe documents both
    ways round, corpus pairs — with the same answer computed on the real parser's trees, 0 failures;
    (2) PROVED below, for all states: mechanism (ii) "reset" — after the heading line and the blank line no block is
    open, whatever was open before (`heading_and_blank_line_reset`), and every `Close` writes its context key back.
    (3) PROVED in GM.Props.C09Shift: (iii) shift invariance (the line loop started at offset `k` builds the tree of `b`
    moved by `k`) for all ten block parsers and every `b` (`shift_invariance`), and the composition: the statement
    follows, for every `a`, `h`, `b`, from `PrefixReached` (`independent_blocks_from_prefix`); the statement itself for
    `a = []` (`independent_blocks_empty_a_all`).
    (4) PROVED in GM.Props.C09Prefix: (i) prefix determinism (the state after the lines of `a` does not depend on what
    follows) and with it the statement itself, for every `h`, every `b` and every `a` that ends with a line feed and in
    which no line starts, after its quote markers and indentation, with `- * + 0-9 = ` ~` (`PositionalClass`:
    `prefix_reached_positional`, `independent_blocks_positional`, `independent_blocks_wide`).
    What is MISSING for a proof of this statement for every `a`: (i) `PrefixReached` for an `a` in which a list, setext
    or fenced-code parser is triggered, or which does not end with a line feed — there the hypotheses of (ii) are needed
    at the state `a` leaves (open blocks are valid nodes, a list's last item has a positive content offset) and the
    stale `emptyListItemWithBlankLines` flag must not be read before a list parser rewrites it. -/
def IndependentBlocks (a h b : Bytes) : Prop :=
  ∀ e g, indepPair a h b = some (e, g) → e = g

/-- **The open-block stack loses exactly the blocks it is asked to close** (parser.go:900-918): from ANY state,
    `closeBlocks(from, to)` — if it does not panic — leaves `openedBlocks[:to] ++ openedBlocks[from+1:]`; no `Close`
    function of the ten block parsers touches the stack. -/
theorem closeBlocks_removes_exactly (frm to : Int) (s s' : St) (h : closeBlocks frm to s = .ok ((), s')) :
    0 ≤ to ∧ s'.pc.opened = s.pc.opened.take to.toNat ++ s.pc.opened.drop (frm + 1).toNat :=
  closeBlocks_opened frm to s s' h

/-- **The open-block stack is fully unwound**: `closeBlocks(len-1, 0)` — what parseBlocks does at the end of the
    source and when a line continues none of the open blocks — leaves no block open, from any state. -/
theorem stack_unwound (s s' : St) (h : closeBlocks ((s.pc.opened.length : Int) - 1) 0 s = .ok ((), s')) :
    s'.pc.opened = [] :=
  closeBlocks_unwinds s s' h

/-- **At the end of every document the open-block stack is empty**: for EVERY source, if the block phase
    (`parser.parseBlocks` under the Document) ends normally, no block is open in its final state — whatever the
    document ends in (an open list, a lazy paragraph line, an unclosed fence, trailing blank lines). A statement
    about the reachable states of whole runs, all inputs; proved through `openBlocks` (the stack changes only when
    it answers `newBlocksOpened`), the line loop and the outer loop. -/
theorem stack_empty_at_end_of_document (src : Bytes) (s : St) (h : run src = .ok s) : s.pc.opened = [] :=
  run_opened_empty src s h

/-- **fencedCodeBlockInfoKey is reset when its block closes** (fcode_block.go:29, :109-114): after `Close` of the
    fenced code block that set the key, the key is nil, from any state. -/
theorem fence_key_reset_on_close (node : Nat) (s s' : St) (h : fencedClose node s = .ok ((), s'))
    (hk : s.pc.fence.map (·.node) = some node) : s'.pc.fence = none :=
  fencedClose_resets node s s' h hk

/-- **temporaryParagraphKey is reset when its block closes** (setext_headings.go:9, :72, :85): after `Close` of a
    setext heading the key is nil, from any state. -/
theorem setext_key_reset_on_close (node : Nat) (s s' : St) (h : setextClose node s = .ok ((), s')) :
    s'.pc.tmpPara = none :=
  setextClose_resets node s s' h

/-- **No `Close` writes the list parser's flags** `skipListParser` / `emptyListItemWithBlankLines` (list.go:19-21):
    closing any number of blocks leaves both as they were — they are written by the list / list item parsers'
    `Open` and `Continue` only. -/
theorem close_keeps_list_flags (frm to : Int) (s s' : St) (h : closeBlocks frm to s = .ok ((), s')) :
    s'.pc.skipList = s.pc.skipList ∧ s'.pc.emptyItemBlank = s.pc.emptyItemBlank :=
  (closeBlocks_sameListKeys frm to).h s () s' h

/-- **A heading line at column 0 unwinds the whole stack** (parser.go:1081-1123, one pass of the line loop). The
    reader stands on the line `# …` (`AtLine`); at least one block is open; the open blocks are valid node ids; the
    first open block is a paragraph or does not continue on this line (`ClosesAt`, see `first_block_closes_*`).
    Then the pass, if it ends normally, leaves EXACTLY ONE open block — the new heading, a fresh node — however
    many blocks of whatever kind were open; `skipListParser` and `emptyListItemWithBlankLines` are untouched and
    the reader has not moved. From any state. -/
theorem heading_line_unwinds_stack (rest : Bytes) (s : St) (be : Block) (obs : List Block) (stats : List LineStat)
    (hl : AtLine (35 :: 32 :: rest) s.r) (hop : s.pc.opened = be :: obs)
    (hids : ∀ b ∈ be :: obs, b.node < s.nodes.length)
    (hfirst : (s.nodes.getD be.node default).kind = .paragraph ∨ ClosesAt (35 :: 32 :: rest) be s)
    (out : LineOutcome) (stats' : List LineStat) (s' : St)
    (h : lineLoop 0 (be :: obs) (obs.length : Int) (be :: obs) 0 stats s = .ok ((out, stats'), s')) :
    out = .next ∧ s'.pc.opened = [⟨s.nodes.length, .atx⟩] ∧ s.nodes.length < s'.nodes.length ∧
      s'.pc.skipList = s.pc.skipList ∧ s'.pc.emptyItemBlank = s.pc.emptyItemBlank ∧ Cur s s' :=
  headingLine_unwinds rest s be obs stats hl hop hids hfirst out stats' s' h

/-- **The blank line after the heading closes it**: with the heading as the only open block, the pass over the line
    `\n` leaves no block open; flags and reader position as before. From any state. -/
theorem blank_line_closes_heading (s : St) (hd : Nat) (stats : List LineStat)
    (hl : AtLine [10] s.r) (hop : s.pc.opened = [⟨hd, .atx⟩])
    (out : LineOutcome) (stats' : List LineStat) (s' : St)
    (h : lineLoop 0 [⟨hd, .atx⟩] 0 [⟨hd, .atx⟩] 0 stats s = .ok ((out, stats'), s')) :
    out = .next ∧ s'.pc.opened = [] ∧ s.nodes.length ≤ s'.nodes.length ∧
      s'.pc.skipList = s.pc.skipList ∧ s'.pc.emptyItemBlank = s.pc.emptyItemBlank ∧ Cur s s' :=
  blankLine_closes_heading s hd stats hl hop out stats' s' h

/-- **Reset** — mechanism (ii) at the level of parseBlocks' loop over lines (parser.go:1074-1126). The reader stands
    on a non-indented ATX heading line `# …` followed by the blank line `\n`; some blocks are open (valid node
    ids), the first of them is a paragraph or does not continue on the heading line. Then the loop, if it ends
    normally, returns to the outer loop of parseBlocks after exactly these two lines with NO BLOCK OPEN, with
    `skipListParser` / `emptyListItemWithBlankLines` as they were, the node store grown by at least the heading,
    and the reader at the line after the blank line: what the outer loop sees next is what it sees at the start of
    a document, up to the contents of the node store, the reader offset and the two flags. From any state. -/
theorem heading_and_blank_line_reset (rest : Bytes) (s : St) (be : Block) (obs : List Block) (stats : List LineStat)
    (fuel : Nat) (hl : AtLine (35 :: 32 :: rest) s.r) (hnext : AtLine [10] s.r.advanceLine)
    (hop : s.pc.opened = be :: obs) (hids : ∀ b ∈ be :: obs, b.node < s.nodes.length)
    (hfirst : (s.nodes.getD be.node default).kind = .paragraph ∨ ClosesAt (35 :: 32 :: rest) be s)
    (ret : Bool) (stats' : List LineStat) (s' : St)
    (h : linesLoop 0 (fuel + 3) stats s = .ok ((ret, stats'), s')) :
    ret = false ∧ s'.pc.opened = [] ∧ s.nodes.length < s'.nodes.length ∧
      s'.pc.skipList = s.pc.skipList ∧ s'.pc.emptyItemBlank = s.pc.emptyItemBlank ∧
      s'.r.pos = s.r.advanceLine.advanceLine.pos ∧ s'.r.source = s.r.source :=
  heading_blank_resets rest s be obs stats fuel hl hnext hop hids hfirst ret stats' s' h

/-- **Reset when nothing is open** — the other path through parseBlocks (parser.go:1055-1127), taken when `a`
    left no list open: the outer loop stands on a non-indented ATX heading line `# …` followed by the blank line
    `\\n`, no block is open. Then, if the run ends normally, the rest of the run IS the outer loop started again
    after exactly these two lines, in a state with no block open, `skipListParser` / `emptyListItemWithBlankLines`
    as they were, the node store grown by the heading, the reader at the line after the blank line. From any
    state. -/
theorem heading_and_blank_line_reset_top (rest : Bytes) (s : St) (stats : List LineStat) (fuel : Nat)
    (hl : AtLine (35 :: 32 :: rest) s.r) (hnext : AtLine [10] s.r.advanceLine)
    (hop : s.pc.opened = []) (s' : St) (h : blocksLoop 0 (fuel + 3) stats s = .ok ((), s')) :
    ∃ stats'' s'', s''.pc.opened = [] ∧ s.nodes.length < s''.nodes.length ∧
      s''.pc.skipList = s.pc.skipList ∧ s''.pc.emptyItemBlank = s.pc.emptyItemBlank ∧
      s''.r.pos = s.r.advanceLine.advanceLine.pos ∧ s''.r.source = s.r.source ∧
      blocksLoop 0 (fuel + 2) stats'' s'' = .ok ((), s') :=
  heading_blank_resets_top rest s stats fuel hl hnext hop s' h

/-- A block quote does not continue on a line that starts with `#` (blockquote.go:20-40, :53-58). -/
theorem first_block_closes_blockquote (rest : Bytes) (be : Block) (s : St) (hbp : be.bp = .blockquote) :
    ClosesAt (35 :: rest) be s :=
  closesAt_blockquote rest be s hbp

/-- A list whose last item is a list item with a positive content offset does not continue on a line that starts
    with `#` in column 0 (list.go:165-245): the line is neither indented to the item's content nor a list item. -/
theorem first_block_closes_list (rest : Bytes) (be : Block) (s : St) (hbp : be.bp = .list)
    (hli : LastItemIndented s.nodes be.node) : ClosesAt (35 :: rest) be s :=
  closesAt_list rest be s hbp hli

/-- An indented code block does not continue on a line that starts with `#` (code_block.go:46-71). -/
theorem first_block_closes_code (rest : Bytes) (be : Block) (s : St) (hbp : be.bp = .code) :
    ClosesAt (35 :: rest) be s :=
  closesAt_code rest be s hbp

/-- ATX headings, thematic breaks and setext headings never continue, on any line. -/
theorem first_block_closes_one_line (line : Bytes) (be : Block) (s : St)
    (hbp : be.bp = .atx ∨ be.bp = .thematic ∨ be.bp = .setext) : ClosesAt line be s :=
  closesAt_oneLine line be s hbp

/-! ### tests and non-vacuity (labelled: evaluated on literals, not theorems over all inputs) -/

/-- test: the statement applies to A = `- a`, h = `h`, B = `> b` and holds there -/
example : (indepPair [45, 32, 97] [104] [62, 32, 98]).map (fun p => p.1 == p.2) = some true := by decide +kernel

/-- test: it applies and holds for an A that ends in an empty list item followed by a blank line (the case that
    leaves `emptyListItemWithBlankLines` set) and a B that is a list -/
example : (indepPair [45, 10, 10] [104] [45, 32, 98, 10]).map (fun p => p.1 == p.2) = some true := by decide +kernel

/-- test: an A that ends inside an open fenced code block is outside the statement -/
example : indepPair [96, 96, 96] [104] [98] = none := by decide +kernel

/-- a state on the heading line `# h` (followed by a blank line) with an open list and list item -/
def exampleState : St :=
  { r := Reader.new [35, 32, 104, 10, 10],
    nodes := [{ kind := .document, children := [1] },
              { kind := .list, parent := some 0, children := [2], marker := 45 },
              { kind := .listItem, parent := some 1, offset := 2 }],
    pc := { opened := [⟨1, .list⟩, ⟨2, .listItem⟩] } }

/-- non-vacuity of `heading_and_blank_line_reset`: every hypothesis holds of `exampleState` … -/
example : AtLine [35, 32, 104, 10] exampleState.r := ⟨by decide, by decide, by rfl, .inl rfl⟩
example : AtLine [10] exampleState.r.advanceLine := ⟨by decide, by decide, by rfl, .inl rfl⟩
example : ∀ b ∈ exampleState.pc.opened, b.node < exampleState.nodes.length := by decide
example : ClosesAt [35, 32, 104, 10] ⟨1, .list⟩ exampleState :=
  first_block_closes_list _ _ _ rfl ⟨2, by decide, by decide, by decide⟩

/-- … and the loop does end normally there (so the conclusion is about a real run): no block open afterwards -/
example : (linesLoop 0 3 [] exampleState).toOption.map (fun r => (r.1.1, r.2.pc.opened)) = some (false, []) := by
  decide +kernel

/-- non-vacuity of `stack_empty_at_end_of_document`: runs that end normally, e.g. on a document that ends inside an
    open list item and on one that ends inside an unclosed fence -/
example : (run [45, 32, 97]).toOption.isSome = true ∧ (run [96, 96, 96, 10, 120]).toOption.isSome = true := by
  decide +kernel

/-- non-vacuity of `stack_unwound` / `closeBlocks_removes_exactly`: `closeBlocks(1, 0)` on the two open blocks of
    `exampleState` ends normally -/
example : (closeBlocks ((exampleState.pc.opened.length : Int) - 1) 0 exampleState).toOption.map (fun r => r.2.pc.opened)
    = some [] := by decide +kernel

/-- non-vacuity of `heading_and_blank_line_reset_top`: the initial state of the document `# h\n\n` has no block open,
    stands on the heading line, and its run ends normally -/
example : AtLine [35, 32, 104, 10] (initSt [35, 32, 104, 10, 10]).r ∧ AtLine [10] (initSt [35, 32, 104, 10, 10]).r.advanceLine ∧
    (initSt [35, 32, 104, 10, 10]).pc.opened = [] :=
  ⟨⟨by decide, by decide, by rfl, .inl rfl⟩, ⟨by decide, by decide, by rfl, .inl rfl⟩, rfl⟩
example : (blocksLoop 0 (0 + 3) [] (initSt [35, 32, 104, 10, 10])).toOption.isSome = true := by decide +kernel

/-- non-vacuity of `fence_key_reset_on_close` / `setext_key_reset_on_close`: states in which the key is set and
    `Close` ends normally -/
example : (fencedClose 1 { exampleState with pc := { fence := some ⟨96, 0, 3, 1⟩ } }).toOption.map (fun r => r.2.pc.fence.isNone)
    = some true := by decide +kernel

end independence

/-- (re-export of `GM.Props.C09Shift.shift_invariance_list_free`) **Shift invariance, all block parsers but the list parsers** (C09 first half, step (iii); partial only in that the
    two list parsers are not covered).

    Let `p` (= `F.p`) be empty or end with a blank line, let `b` be ANY byte string that contains none of `- * +` and no
    digit. Let run B stand in the outer loop of parseBlocks at offset `|p|` of `p ++ b` (`Start`): reader = the fresh reader
    of `b` moved by `|p|` bytes / `dl` lines, no open block, `temporaryParagraphKey`, `fencedCodeBlockInfoKey`,
    `skipListParserKey` unset, store = Document (children `kids0`) + `c` nodes, blank-line statistics all from lines `< dl`
    and (if any) saying that line `dl - 1` is blank. If the rest of run B ends normally in `sB'` (it does:
    `GM.Props.Blocks.no_panic` for whole runs), then `run b` ends normally in some `sA'` and

      * B's store has `c` more nodes than A's; A's node `j` is B's node `ι j` (`ι 0 = 0`, `ι j = j + c`);
      * B's node `ι j` is A's node `j` with parent / children ids mapped by `ι` and EVERY line segment, info segment and
        closure line moved by `|p|`; kind, level, list fields, HasBlankPreviousLines, HTML type are equal;
      * B's Document has exactly the children `kids0 ++ (A's Document children, mapped)`

    (`shift_invariance_store_shape`, and at tree level `shift_invariance_subtrees` / `shift_invariance_document`), i.e. what
    comes before a closed block does not change how the following text is parsed. -/
theorem shift_invariance_list_free : type_of% @GM.Props.C09Shift.shift_invariance_list_free := @GM.Props.C09Shift.shift_invariance_list_free

/-- (re-export of `GM.Props.C09Shift.shift_invariance_covered_all`) the same for any parser set `Cov` that meets the step contracts, triggers only covered parsers, and whose containers
    answer HasChildren when they continue -/
theorem shift_invariance_covered_all : type_of% @GM.Props.C09Shift.shift_invariance_covered_all := @GM.Props.C09Shift.shift_invariance_covered_all

/-- (re-export of `GM.Props.C09Shift.shift_invariance_store_shape`) what `StoreRel` says about the Document and about every node, spelled out -/
theorem shift_invariance_store_shape : type_of% @GM.Props.C09Shift.shift_invariance_store_shape := @GM.Props.C09Shift.shift_invariance_store_shape

/-- (re-export of `GM.Props.C09Shift.shift_step_open`) **`Open` of every block parser but the two list parsers** from related states on a line: same answer (node id mapped
    by `ι`), related states — the full relation when the answer is nil or HasChildren, the limbo relation (readers related
    after the next AdvanceLine) after a leaf parser consumed its line. -/
theorem shift_step_open : type_of% @GM.Props.C09Shift.shift_step_open := @GM.Props.C09Shift.shift_step_open

/-- (re-export of `GM.Props.C09Shift.shift_step_continue_any_source`) **`Continue` without the assumption that the source ends with a line feed**: same answer; afterwards the full relation,
    or — when the answer is "Continue, no children" — at least the limbo relation (only fencedCodeBlockParser.Continue on a
    last line that is all fence indentation needs this: `Advance(-1)`, fcode_block.go:104). -/
theorem shift_step_continue_any_source : type_of% @GM.Props.C09Shift.shift_step_continue_any_source := @GM.Props.C09Shift.shift_step_continue_any_source

/-- (re-export of `GM.Props.C09Shift.shift_step_close`) **`Close`** of the same parsers (no `Close` looks at the reader, only at its source): related stores and contexts,
    including the tree surgery of setextHeadingParser.Close and the trimming of paragraph / code block lines. -/
theorem shift_step_close : type_of% @GM.Props.C09Shift.shift_step_close := @GM.Props.C09Shift.shift_step_close

/-- (re-export of `GM.Props.C09Shift.shift_driver_open_blocks`) **openBlocks** (parser.go:928-1024) from weakly related states (BlockOffset / BlockIndent need not agree: they are
    written before they are read): same answer, limbo relation; the retry fuels of the two runs are unrelated. -/
theorem shift_driver_open_blocks : type_of% @GM.Props.C09Shift.shift_driver_open_blocks := @GM.Props.C09Shift.shift_driver_open_blocks

/-- (re-export of `GM.Props.C09Shift.shift_driver_blocks_any_source`) see `GM.Props.C09Shift.shift_driver_blocks_any_source` -/
theorem shift_driver_blocks_any_source : type_of% @GM.Props.C09Shift.shift_driver_blocks_any_source := @GM.Props.C09Shift.shift_driver_blocks_any_source

/-- **C09 first half with an empty first part**: for EVERY heading text `h` and EVERY document `b`
    (lists included) the blocks of `"# h\n\n" ++ b` are the heading and the blocks of `b` alone, moved. -/
theorem independent_blocks_empty_a_all : type_of% @GM.Props.C09Shift.independent_blocks_empty_a_all := @GM.Props.C09Shift.independent_blocks_empty_a_all

/-- the composition, for every `a`, `h`, `b`: `IndependentBlocks a h b` follows from ONE explicit
    hypothesis about the prefix (`PrefixReached`: the joined run passes through a `Start` state behind `a`, its separator and the heading line,
    and the Document's old children dump like `run a`'s children followed by the moved heading) — proved for `a` of the positional class (`prefix_reached_positional`). -/
theorem independent_blocks_from_prefix : type_of% @GM.Props.C09Shift.independent_blocks_from_prefix := @GM.Props.C09Shift.independent_blocks_from_prefix

/-- (re-export of `GM.Props.C09Shift.shift_invariance`) **Shift invariance of the block phase, ALL block parsers, EVERY source `b`** (C09 first half, step (iii), complete).
    As `shift_invariance_list_free`, without any restriction on `b`; the frame also relates the flag
    `emptyListItemWithBlankLines` (`F.flag = true`, i.e. `Start` demands that run B's flag is unset, as it is in a fresh
    run and behind a heading + blank line). -/
theorem shift_invariance : type_of% @GM.Props.C09Shift.shift_invariance := @GM.Props.C09Shift.shift_invariance

/-- (re-export of `GM.Props.C09Shift.store_acyclic`) **The store of the block phase is acyclic, for EVERY source**: links point downwards — every child has a larger node id
    than its parent and every parent pointer is smaller than the node's own id (so the children lists describe a forest and
    `treeOf` does not depend on its fuel once the fuel is at least the store's length); the Document has no lines.
    An ingredient of C05(b) ("the AST is a tree") as well. -/
theorem store_acyclic : type_of% @GM.Props.C09Shift.store_acyclic := @GM.Props.C09Shift.store_acyclic

/-- (re-export of `GM.Props.C09Shift.independent_blocks`) the two classes together: `a` empty, or ending with a line feed and free of list / setext / fence triggers -/
theorem independent_blocks : type_of% @GM.Props.C09Shift.independent_blocks := @GM.Props.C09Shift.independent_blocks

/-- (re-export of `GM.Props.C09Shift.independent_blocks_plain_a`) **C09 first half for a non-empty first part**: `IndependentBlocks a h b` for EVERY `h`, EVERY `b` and every `a` that
    ends with a line feed and contains none of the bytes `- * + 0-9 = ` ~` (the other provisos — no `[`, no CR, `a` not
    ending in a raw block — are the statement's own). -/
theorem independent_blocks_plain_a : type_of% @GM.Props.C09Shift.independent_blocks_plain_a := @GM.Props.C09Shift.independent_blocks_plain_a

/-- (re-export of `GM.Props.C09Shift.prefix_reached_plain`) **Prefix determinism + "closing at the end of the source = closing by a blank line"**, as one statement about two runs
    of the block-phase model: let `a` end with a line feed, contain none of the bytes `- * + 0-9 = ` ~` (so no list
    parser, no setext parser, no fenced-code parser is ever triggered; block quotes, paragraphs, ATX headings, `___`,
    indented code, HTML blocks are allowed), and let the tree of `run a` not end in a raw block. Then the run on
    `a ++ "\n" ++ "# h\n" ++ "\n" ++ b` passes through a `Start` state behind the heading's blank line whose old part is
    the final store of `run a` plus the heading (`PrefixReached`). Proved by a simulation of `run a` against the run on the
    LONGER source (GM.Proof.ShiftSimX*: the shift simulation with a suffix instead of a prefix; the two runs agree while
    run A has a line, every reader call being shown to stay in front of the line's final line feed), followed, when run A
    reaches the end of `a`, by the comparison "run A closes every open block" / "run B reads the blank line, on which the
    first open block does not continue (it is not a raw block: tree criterion `endsInRawBlock`, linked to the open stack by
    the invariant `TopLast`: the first open block is the Document's last child), and closes them with the same call". -/
theorem prefix_reached_plain : type_of% @GM.Props.C09Shift.prefix_reached_plain := @GM.Props.C09Shift.prefix_reached_plain

/-- **C09 first half on a positional class**: for every first part `a` that ends with a line feed and in which
    no line starts, after its quote markers and indentation, with a list, setext or fence trigger (digits, dashes, stars, equal signs and
    backticks INSIDE lines are allowed), every heading text `h` and EVERY document `b`: the blocks of `a`, the heading, the blocks of `b`. -/
theorem independent_blocks_positional : type_of% @GM.Props.C09Shift.independent_blocks_positional := @GM.Props.C09Shift.independent_blocks_positional

/-- the same through the executable test `positionalCheck` (proved sound) -/
theorem independent_blocks_checked : type_of% @GM.Props.C09Shift.independent_blocks_checked := @GM.Props.C09Shift.independent_blocks_checked

/-- both classes: `a` empty, or ending with a line feed and positional -/
theorem independent_blocks_wide : type_of% @GM.Props.C09Shift.independent_blocks_wide := @GM.Props.C09Shift.independent_blocks_wide

/-- `PrefixReached` for the positional class -/
theorem prefix_reached_positional : type_of% @GM.Props.C09Shift.prefix_reached_positional := @GM.Props.C09Shift.prefix_reached_positional

/-- (re-export of `GM.Props.C09E2E.renderer_heading_then_rest`) **the renderer on a Document whose first child is a Heading**: the heading, then the other children — a Heading does not look
    at its next sibling (html.go:renderHeading) -/
theorem renderer_heading_then_rest : type_of% @GM.Props.C09E2E.renderer_heading_then_rest := @GM.Props.C09E2E.renderer_heading_then_rest

/-- (re-export of `GM.Props.C09E2E.parse_heading_then_blocks`) **C09 first half at the level of the renderer's tree, empty `A`**: `parseDoc ("\n# h\n\n" ++ b)` is
    Document[the Heading of `parseDoc "# h\n"`, the children of `parseDoc b`] -/
theorem parse_heading_then_blocks : type_of% @GM.Props.C09E2E.parse_heading_then_blocks := @GM.Props.C09E2E.parse_heading_then_blocks

/-- (re-export of `GM.Props.C09E2E.heading_then_blocks_html`) **`heading_then_blocks_html` — C09 first half at HTML level, empty `A`**, given the inline invariant for the heading and for
    the blocks of `b` -/
theorem heading_then_blocks_html : type_of% @GM.Props.C09E2E.heading_then_blocks_html := @GM.Props.C09E2E.heading_then_blocks_html

/-- (re-export of `GM.Props.C09E2E.inline_move_good_lines`) **the inline hypothesis holds for blocks of plain-text lines**, the lines moved into `P ++ src ++ S` -/
theorem inline_move_good_lines : type_of% @GM.Props.C09E2E.inline_move_good_lines := @GM.Props.C09E2E.inline_move_good_lines

/-- (re-export of `GM.Props.C09E2E.heading_then_blocks_html_good_lines`) **without the inline hypothesis: plain-text inline content**, any block structure in `b` -/
theorem heading_then_blocks_html_good_lines : type_of% @GM.Props.C09E2E.heading_then_blocks_html_good_lines := @GM.Props.C09E2E.heading_then_blocks_html_good_lines

/-- (re-export of `GM.Props.C09E2E.heading_then_blocks_html_checked`) **… with decidable hypotheses** (`GM.Props.C08E2E.goodLinesCheck`: run the block phase, test every block with inline content) -/
theorem heading_then_blocks_html_checked : type_of% @GM.Props.C09E2E.heading_then_blocks_html_checked := @GM.Props.C09E2E.heading_then_blocks_html_checked

/-- (re-export of `GM.Props.C08E2ETotal.heading_then_blocks_html_total`) **C09 first half at HTML level, empty `A`, given the inline invariant**: `"# h\n"` and `b` convert, and `"\n# h\n\n" ++ b`
    converts to the concatenation -/
theorem heading_then_blocks_html_total : type_of% @GM.Props.C08E2ETotal.heading_then_blocks_html_total := @GM.Props.C08E2ETotal.heading_then_blocks_html_total

/-- (re-export of `GM.Props.C08E2ETotal.heading_then_blocks_html_good_lines_total`) **no inline hypothesis: plain-text inline content** (`GoodBlocks`) -/
theorem heading_then_blocks_html_good_lines_total : type_of% @GM.Props.C08E2ETotal.heading_then_blocks_html_good_lines_total := @GM.Props.C08E2ETotal.heading_then_blocks_html_good_lines_total

/-- (re-export of `GM.Props.C08E2ETotal.heading_then_blocks_html_checked_total`) **… all hypotheses decidable** -/
theorem heading_then_blocks_html_checked_total : type_of% @GM.Props.C08E2ETotal.heading_then_blocks_html_checked_total := @GM.Props.C08E2ETotal.heading_then_blocks_html_checked_total

end GM.Props.C09
