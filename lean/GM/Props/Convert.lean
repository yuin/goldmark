/-
  GM.Props.Convert — theorems about the composition `GM.Convert.convertCore` (lean/GM/Model/Convert.lean): the model of
  `goldmark.New(goldmark.WithRendererOptions(…)).Convert` for the default CommonMark configuration — block phase WITH the
  link reference definition transformer (GM.Model.LinkRef, GM.Model.Blocks.DriverT), inline phase of every non-raw
  block, HTML renderer — tied to `goldmark.Convert` on whole documents by component `convert`
  (harness/cmd/gmharness/comp_convert.go). A shared package: C01 / C02 / C05 / C09 / C11 cite these.
  Helper lemmas: GM/Proof/BlocksT.lean, LinkRefScan.lean, LinkRefPres.lean, LinkRefFacts.lean, ConvertTotal.lean.
-/
import GM.Proof.ConvertLTotal
import GM.Proof.LinkRefFacts

namespace GM.Props.Convert
open GM GM.Text GM.Spec GM.Blocks GM.LinkRef GM.Convert GM.Proof.InlinesReader GM.Proof.LinkRefFacts

/-! ### C01: the whole pipeline never hangs -/

/-- **C01, whole pipeline — no loop of `Convert` runs for ever, for EVERY byte string, every renderer option set
    (Unsafe / XHTML / HardWraps) and every Unicode class assignment.** `convertCore uc o src` never ends in a
    fuel-exhaustion outcome (`blocks loop`, `inlines loop`): the line loops of parseBlocks, SkipBlankLines, the
    `goto retry` loop of openBlocks (incl. the retry behind a transformed paragraph), the transformer's `for` loop with
    SkipSpaces / FindClosure of the block reader, the `retry:` loop of parseBlock with every inline parser and
    ProcessDelimiters, and the renderer's walk (structural). The composition checks two hypotheses at run time and
    answers a distinct outcome instead of assuming them: the lines a paragraph hands to the transformer are well-formed
    (`WFSegs`: non-empty, inside the source, increasing, paddings ≥ 0, no ForceNewline; virtual padding allowed) —
    outcome `blocks pre`; the lines a block hands to the inline phase are `WF0` (well-formed and padding 0) — outcome
    `linesNotWF0`. The tie reports how often they fire: never. -/
theorem convert_never_loops (uc : List (Nat × (Bool × Bool))) (o : ROpts) (src : Bytes) (e : Err)
    (h : convertCore uc o src = .error e) : e.isLoop = false :=
  GM.Proof.ConvertTotal.convertCore_noLoop uc o src h

/-- test on a literal, evaluated by the kernel: `[a]: /u⏎⏎[A]⏎` converts to `<p><a href="/u">A</a></p>⏎` (all options off) -/
example : (convertCore [] {} [91, 97, 93, 58, 32, 47, 117, 10, 10, 91, 65, 93, 10]).toOption =
    some [60, 112, 62, 60, 97, 32, 104, 114, 101, 102, 61, 34, 47, 117, 34, 62, 65, 60, 47, 97, 62, 60, 47, 112, 62, 10] := by
  decide +kernel

/-- the outcome of `convertCore` is HTML, or an error that is not fuel exhaustion (a Go run-time panic of a phase, a
    contract monitor / run-time hypothesis check, a broken modelling invariant of the inline model) -/
theorem convert_outcome (uc : List (Nat × (Bool × Bool))) (o : ROpts) (src : Bytes) :
    (∃ html, convertCore uc o src = .ok html) ∨ (∃ e, convertCore uc o src = .error e ∧ e.isLoop = false) := by
  cases h : convertCore uc o src with
  | ok b => exact .inl ⟨b, rfl⟩
  | error e => exact .inr ⟨e, rfl, convert_never_loops uc o src e h⟩

/-- **the block phase with paragraph transformers terminates**: for every list of paragraph transformers that
    themselves never exhaust fuel and do not touch the main reader (`PTsOK`: they keep every invariant that only
    speaks about the reader), `parseBlocks` with `transformParagraph` called where parser.go calls it (closeBlocks, the
    RequireParagraph path of openBlocks with `goto retry`) never exhausts the fuel of any of its loops. -/
theorem block_phase_with_transformers_terminates (pts : List PT) (hp : PTsOK pts) (src : Bytes) :
    runT pts src ≠ .error .loop :=
  runT_noLoop hp src

/-- the hypothesis is satisfiable: no transformers (the configuration of component `blocks`), and the default list -/
example : PTsOK [] := ptsOK_nil
example : PTsOK (paragraphTransformers true) := GM.Proof.LinkRefPres.paragraphTransformers_ok

/-- the block phase of the default configuration (link reference transformer behind its run-time check) -/
theorem block_phase_terminates (src : Bytes) : blockPhase true src ≠ .error .loop :=
  GM.Proof.LinkRefPres.blockPhase_noLoop src

/-- the inline phase of one block behind its run-time check answers children or `linesNotWF0` — no Go panic, no
    loop, no `pre` of the inline model (GM.Props.Inlines.parseBlock_total under the checked hypothesis) -/
theorem inline_phase_guarded (env : GM.Inl.Env) (src : Bytes) (n : GM.Blocks.Node) :
    (∃ kids, inlinePhase true env src n = .ok kids) ∨ inlinePhase true env src n = .error .linesNotWF0 :=
  GM.Proof.ConvertTotal.inlinePhase_guarded env src n

/-! ### the link reference definition transformer (parser/link_ref.go) -/

/-- **termination of the transformer's scan**: on a paragraph whose lines are well-formed (`WFSegs`; ANY paddings —
    continuation lines behind a partly consumed tab inside a container carry virtual padding when the transformer runs)
    or that has no lines, the `for` loop of Transform with all its SkipSpaces / FindClosure calls never exhausts fuel —
    for every source, every reference map. -/
theorem transform_never_loops (src : Bytes) (lines : List Segment) (h : lines = [] ∨ WFSegs src lines) (refs : RefMap) :
    transformScan src lines refs ≠ .error .loop :=
  GM.Proof.LinkRefPad.transformScan_noLoop_pad h refs

/-- `WFSegs` with a padded continuation line is satisfiable (test on a literal): `> [a]:\n>\t/u`, lines `[a]:` and `/u` with padding 2 -/
example : WFSegs [62, 32, 91, 97, 93, 58, 10, 62, 9, 47, 117] [{ start := 2, stop := 7 }, { start := 9, stop := 11, padding := 2 }] :=
  GM.Proof.LinkRefPad.wfSegsB_sound (by decide)

/-- `WF0` is satisfiable (test on a literal): the one-line paragraph `[a]: /u` -/
example : WF0 [91, 97, 93, 58, 32, 47, 117] [{ start := 0, stop := 7 }] :=
  GM.Proof.LinkRefTotal.wf0B_sound (by decide)

/-- **parseLinkReferenceDefinition is total** on a block reader that stands for a padding-free cursor over well-formed
    lines (`RS`: what NewBlockReader gives for `WF0` lines and what every call leaves): no Go panic — `line[pos]`
    is the first byte behind the skipped white space, every `Advance` stays inside the peeked line, every `Value` is
    in range —, no fuel exhaustion of SkipSpaces / FindClosure; the reader stands for such a cursor again, not further
    back; and a recognised definition (`start > -1`) has moved it forward by at least one byte (its `[`). -/
theorem definition_scanner_total {src : Bytes} {segs : List Segment} (W : WF0 src segs) {r : BlockReader} {c : BCur}
    (h : RS src segs r c) (refs : RefMap) :
    ∃ x r' refs' c', parseLinkReferenceDefinition r refs = .ok (x, r', refs') ∧ RS src segs r' c' ∧ c.p ≤ c'.p ∧
      (x.1 > -1 → c.p < c'.p ∧ c.p < src.length) :=
  GM.Proof.LinkRefTotal.parseLinkReferenceDefinition_total W.1 W.2 h refs

/-- the hypothesis `RS` is satisfiable: the reader NewBlockReader builds over `WF0` lines stands for the initial cursor -/
example {src : Bytes} {segs : List Segment} (W : WF0 src segs) :
    ∃ r, BlockReader.new src segs = .ok r ∧ RS src segs r (BCur.init segs) := by
  have F := GM.Proof.Reader.segFacts W.1
  obtain ⟨r, e, a⟩ := GM.Proof.Reader.blockReader_init F
  exact ⟨r, e, a, segOf_pad F W.2 0 (Int.le_refl _) F.kpos⟩

/-- **the scan of Transform is total** on a paragraph with `WF0` lines (or none): block reader construction, the `for`
    loop with every definition it recognises, the progress monitor of the model (never fires) — an answer
    `(removed line ranges, new reference map)`, for every source and every reference map. What is left of `Transform`
    (the second loop and the tree surgery, `transformFinish`) can still answer `slice` / `pre` / `nil` in the model. -/
theorem transform_scan_total (src : Bytes) (lines : List Segment) (h : lines = [] ∨ WF0 src lines) (refs : RefMap) :
    ∃ res, transformScan src lines refs = .ok res :=
  GM.Proof.LinkRefTotal.transformScan_total h refs

/-- **first definition wins** (pc.AddReference, parser.go:352-357): whatever a paragraph defines, every key the map
    already has keeps its destination and title; the scan only ever extends the map. -/
theorem first_definition_wins {src : Bytes} {lines : List Segment} {refs refs' : RefMap} {rm : List (Int × Int)}
    (h : transformScan src lines refs = .ok (rm, refs')) (k : Bytes) (v : Bytes × Option Bytes)
    (hk : refs.lookup k = some v) : refs'.lookup k = some v :=
  transformScan_extends h k v hk

/-- **the map a paragraph leaves is the old map after AddReference of a list of definitions, in order** — i.e.
    `ds.foldl GM.Refs.addRef refs`, the form in which GM.Props.C09 (`refs_first_wins`, `refs_move_invariant`: a block of
    definitions whose normalised labels occur nowhere else can be moved without changing any lookup;
    `lookup_label_variant`) speaks about the map: those theorems are statements about the map THIS model builds. -/
theorem scan_builds_map_by_add_reference {src : Bytes} {lines : List Segment} {refs refs' : RefMap} {rm : List (Int × Int)}
    (h : transformScan src lines refs = .ok (rm, refs')) :
    ∃ ds : List (Bytes × (Bytes × Option Bytes)), refs' = ds.foldl GM.Refs.addRef refs :=
  transformScan_adds h

/-- a definition whose normalised label is already a key changes nothing -/
theorem duplicate_definition_ignored (m : RefMap) (l d : Bytes) (t : Option Bytes)
    (h : (m.lookup (toLinkReference l)).isSome) : addReference m l d t = m :=
  addReference_dup m l d t h

/-- a definition with a new normalised label is what that label resolves to from then on -/
theorem new_definition_resolves (m : RefMap) (l d : Bytes) (t : Option Bytes)
    (h : m.lookup (toLinkReference l) = none) :
    (addReference m l d t).lookup (toLinkReference l) = some (d, t) :=
  addReference_new m l d t h

/-- hypotheses satisfiable (tests on literals) -/
example : (([] : RefMap).lookup (toLinkReference [97])) = none := rfl
example : ((addReference [] [65] [47, 117] none).lookup (toLinkReference [97])).isSome := by decide +kernel

/-- **C11 mechanism — a paragraph transformer returns without touching a paragraph it does not recognise.**
    When the first call of parseLinkReferenceDefinition declines at `line[pos] != '['` (or earlier), the scan of
    Transform answers: nothing to remove, reference map unchanged; and with nothing to remove the second loop leaves
    the lines as they are. -/
theorem unrecognised_paragraph_untouched {src : Bytes} {lines : List Segment} {refs : RefMap} {b r' : BlockReader}
    (hn : BlockReader.new src lines = .ok b) (hd : defHead b = .ok (none, r')) :
    transformScan src lines refs = .ok ([], refs) ∧ removeLoop [] 0 lines = .ok lines :=
  ⟨transformScan_declined hn hd, removeLoop_nil lines⟩

/-- … at the level of the block-phase state: `Transform` on such a paragraph (it has lines, the scan declines) ends in
    EXACTLY the state it started from — node store, parse context (reference map included), reader. -/
theorem unrecognised_paragraph_state_untouched (node : Nat) (s : GM.Blocks.St)
    (hne : (s.nodes.getD node default).lines ≠ [])
    (hscan : transformScan s.r.source (s.nodes.getD node default).lines s.pc.refs = .ok ([], s.pc.refs)) :
    transform node s = .ok ((), s) :=
  transform_declined_state node s hne hscan

/-- … in terms of bytes: a paragraph with `WF0` lines whose first byte is neither white space nor `[` (the paragraph
    parser trims the first line, so the first byte of a paragraph is never white space) -/
theorem paragraph_not_started_by_bracket_untouched {src : Bytes} {lines : List Segment} (W : WF0 src lines)
    (refs : RefMap) {b0 : UInt8} {rest : Bytes}
    (hv : BCur.view src lines (BCur.init lines) = some (b0 :: rest)) (hsp : isSpace b0 = false) (hbr : b0 ≠ 91) :
    transformScan src lines refs = .ok ([], refs) :=
  transformScan_not_bracket W refs hv hsp hbr

/-- hypotheses satisfiable (test on a literal): the paragraph `ab` -/
example : transformScan [97, 98] [{ start := 0, stop := 2 }] [] = .ok ([], []) :=
  paragraph_not_started_by_bracket_untouched (b0 := 97) (rest := [98])
    (GM.Proof.LinkRefTotal.wf0B_sound (by decide)) [] (by decide) (by decide) (by decide)

/-- **the transformer only removes lines from the FRONT of the paragraph** — unconditional, of the model: whatever
    ranges the scan hands over, when the second stage of Transform (`finishLines`: contract monitor (3) + the
    Sliced / SetSliced / AppendAll loop with its running offset) answers a line list, that list is the paragraph's lines
    without an initial segment: the first `lastEnd` lines are gone, all others are kept, in order. The monitor (the ranges
    are adjacent from line 0 on and end inside the paragraph) answers `pre` otherwise; since /repo 0539a73 (the reader
    continues at the START of the line behind a definition) it never fires on any document of the tie — before that
    commit it fires on findings R4 / R5, where goldmark removed lines 0 and 2 of a paragraph and kept line 1. -/
theorem transformer_removes_front {rs : List (Int × Int)} {lines ls : List Segment} (h : finishLines rs lines = .ok ls) :
    ls = lines.drop (lastEnd 0 rs).toNat :=
  finishLines_front h

/-- the hypothesis is satisfiable (test on a literal, kernel-evaluated) -/
example : (finishLines [(0, 1), (1, 2)] [{ start := 0, stop := 3 }, { start := 3, stop := 5 }, { start := 5, stop := 9 }]).toOption.map
    (·.map fun s => (s.start, s.stop)) = some [(5, 9)] := by decide +kernel

/-- the arithmetic half of `transformer_removes_front`, without the monitor: for removed ranges that
    are adjacent from line 0 on (`(0,e₁), (e₁,e₂), …`: each definition starts on the line where the previous one ended) the
    second loop of Transform (Sliced / SetSliced / AppendAll with the running offset) drops exactly the first `lastEnd`
    lines, keeps the others in order. (Before /repo 0539a73 the scan could answer NON-adjacent ranges — for
    `[foo]:⏎/url⏎"title" [b]: /x` the ranges (0,1), (2,3), after which this loop removed lines 0 and 2 and kept line 1:
    findings R4 / R5 of notes/status_convert.md.) -/
theorem transformer_removes_front_partial (rs : List (Int × Int)) (lines : List Segment) (ha : Adjacent 0 rs)
    (hl : lastEnd 0 rs ≤ lines.length) : removeLoop rs 0 lines = .ok (lines.drop (lastEnd 0 rs).toNat) := by
  have := removeLoop_front rs 0 lines ha (by omega)
  simpa using this

/-- hypotheses satisfiable -/
example : Adjacent 0 [(0, 1), (1, 3)] ∧ lastEnd 0 [(0, 1), (1, 3)] = 3 :=
  ⟨⟨rfl, by decide, rfl, by decide, trivial⟩, rfl⟩

/-- regression tests on literals, evaluated by the kernel (the inputs of findings R4 / R5 after the repair): the scan of
    `[foo]:⏎/url⏎"title" [b]: /x` answers the single range (0,2) and registers `foo` WITHOUT a title; `[b]` is not defined -/
def witnessSrc : Bytes :=
  [91, 102, 111, 111, 93, 58, 10, 47, 117, 114, 108, 10, 34, 116, 105, 116, 108, 101, 34, 32, 91, 98, 93, 58, 32, 47, 120, 10]
def witnessLines : List Segment := [{ start := 0, stop := 7 }, { start := 7, stop := 12 }, { start := 12, stop := 28 }]

example : (transformScan witnessSrc witnessLines []).toOption.map (·.1) = some [(0, 2)] := by decide +kernel
example : (transformScan witnessSrc witnessLines []).toOption.map (fun x => x.2.map fun d => (d.1, d.2.1, d.2.2.isSome)) =
    some [([102, 111, 111], [47, 117, 114, 108], false)] := by decide +kernel

/-- **a title is only ever registered when the rest of its line is blank**: whatever the title stage answers, the map
    is unchanged, or the definition was registered WITHOUT a title (and then ends behind the destination's line), or it was
    registered with the title and nothing but white space follows the closing delimiter on its line. (The other exits of
    parseLinkReferenceDefinition register `nil` titles by construction: `defNoTitle_result`, the no-opener exit.) -/
theorem title_needs_blank_rest_of_line (r : BlockReader) (refs : RefMap) (sl el : Int) (ep : Segment) (nl : Bool)
    (label dest : Bytes) (sg : List Segment) {x : Int × Int} {r' : BlockReader} {refs' : RefMap}
    (h : defTitled r refs sl el ep nl label dest sg = .ok (x, r', refs')) :
    refs' = refs ∨ refs' = addReference refs label dest none ∨
      (RestBlank r ∧ ∃ t, closureValue r sg = .ok t ∧ refs' = addReference refs label dest t) :=
  defTitled_title_needs_blank_rest r refs sl el ep nl label dest sg h

/-- a definition that ends behind its destination's line (title opener without closer, or a "title" followed by text):
    no title, range end `endLine + 1`, and the reader continues at the START of the next line
    (`SetPosition(endLine, endPos); AdvanceLine()`), so paragraph text on the would-be title line ends the scan -/
theorem definition_without_title_ends_after_destination_line (r : BlockReader) (refs : RefMap) (sl el : Int) (ep : Segment)
    (label dest : Bytes) {x : Int × Int} {r' : BlockReader} {refs' : RefMap}
    (h : defNoTitle r refs sl el ep label dest = .ok (x, r', refs')) :
    x = (sl, el + 1) ∧ refs' = addReference refs label dest none ∧
      ∃ r1, r.setPosition el ep = .ok r1 ∧ r1.advanceLine = .ok r' :=
  defNoTitle_result r refs sl el ep label dest h

/-- **the scan stops at the first call that is not a definition**: when parseLinkReferenceDefinition declines, the `for`
    loop of Transform returns at once with the ranges and the map it has (nothing behind that point is looked at) -/
theorem scan_stops_at_first_non_definition (fuel : Nat) (rd rd' : BlockReader) (refs refs' : RefMap)
    (removes : List (Int × Int)) (s e : Int)
    (h : parseLinkReferenceDefinition rd refs = .ok ((s, e), rd', refs')) (hs : ¬ s > -1) :
    transformLoop (fuel + 1) rd refs removes = .ok (removes, refs') :=
  transformLoop_stops fuel rd rd' refs refs' removes s e h hs

/-! ### stated here; what is proved of each, and where, is said at the statement -/

/-- the composition WITHOUT the two run-time checks always answers HTML. Not proved as stated. The same statement for
    `convertCore` (with the checks) is proved: `GM.Props.ConvertE2ENP.convert_total`, every byte string — so what remains
    is `GuardsAreObservers` below. What `convert_total` had to establish beyond never `loop` (above) and the inline phase
    behind its check never panicking: (1) invariants in the style of `GM.Props.Blocks.no_panic`
    of the block driver (stack / tree invariants; the candidate panic sites are listed in notes/status_blocks.md)
    also through `transformParagraph`; (2) the three contract monitors never fire (`blocks pre`); (3) the block phase
    only produces `WF0` lines for inline-bearing blocks (`linesNotWF0` unreachable) — C05(c) of the block phase;
    (4) `Segment.Value` of every line / info / closure segment is in range; (5) `renderPanics` is none on parser
    output (heading level ≤ 6, code spans hold text — the latter is GM.Props.Inlines.codespan_holds_text). -/
def NoPanic : Prop := ∀ uc o src, ∃ html, convertUnguarded uc o src = .ok html

/-- the run-time checks are only observers: whenever `convertCore` answers HTML, `convertUnguarded` answers the same.
    (By construction the two differ only in the two `if guard && …` tests; not mechanised.) -/
def GuardsAreObservers : Prop := ∀ uc o src html, convertCore uc o src = .ok html → convertUnguarded uc o src = .ok html

/-- contract monitor (3) never fires: on a paragraph with well-formed padding-free lines none of which is blank (what the
    paragraph parser produces) the ranges the scan answers are adjacent from line 0 on and end inside the paragraph.
    Not proved in this file; proved in GM.Props.ConvertNP (`scan_ranges_adjacent`: behind SkipSpaces the reader is on the
    line where the previous definition ended — a landing lemma
    for SkipSpaces over a blank rest of a line —, `line < number of lines` through Advance / SkipSpaces / FindClosure, and
    the exit-by-exit bookkeeping of `endLine`); true of the code only since /repo 0539a73. The tie evaluates the monitor on
    every paragraph of every document: it never fires. -/
def ScanRangesAdjacent : Prop :=
  ∀ (src : Bytes) (lines : List Segment) (refs : RefMap) rm refs', WF0 src lines →
    (∀ s ∈ lines, isBlank (sub src s.start.toNat s.stop.toNat) = false) →
    transformScan src lines refs = .ok (rm, refs') → Adjacent 0 rm ∧ lastEnd 0 rm ≤ lines.length

/-- C09, second half, on the model: a block of definitions with pairwise distinct normalised labels, none defined in
    `d`, terminated by a blank line, can be moved from the top of a document to its end. NOT proved (needs: the block
    phase of `defs ++ d` is the block phase of `d` shifted by `defs.length` plus the map of `defs` — a simulation
    argument over GM.Blocks like `QuotePrefixSimulation`; and GM.Props.C09.refs_move_invariant for the map).
    Searched on the real code by the oracle `definitions-not-position-independent` of component `convert`. -/
def DefinitionsMove : Prop :=
  ∀ uc o (defs d : Bytes), (∀ b ∈ d, b ≠ 13) →
    (∃ st, blockPhase false defs = .ok st ∧ (treeOf st.nodes st.nodes.length 0).str = "Document(1|||)") →
    convertUnguarded uc o (defs ++ d) = convertUnguarded uc o (d ++ [10, 10] ++ defs)

end GM.Props.Convert
