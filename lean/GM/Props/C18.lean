/-
  Property C18 — Reader, BlockReader and Segment behave as a cursor over the source.

  Models: GM.Model.Reader / GM.Model.Segment (text/reader.go, text/segment.go, every cached field, Go
  panics explicit). Specification: GM.Spec.Cursor (`RCur` for the source reader, `BCur` for the block
  reader): a cursor `(ln, p, pad)` over the list of line views, every call a *partial* function that is
  undefined (`Panic.pre`) outside the documented preconditions. "The call sequence respects the
  preconditions" therefore reads: the specification's run of the sequence is defined (`= .ok …`).
  The preconditions, spelled out (each is a named definition in GM.Spec.Cursor):
    * `Advance n`: `0 ≤ n` (source reader: stops at the end; block reader also `n ≤ remaining`);
    * `SetPosition line seg`: `WFPos` — `seg` is the rest of a line, as `Position`/`PeekLine` return it;
    * `SetPadding v`: `0 ≤ v`;
    * `LineOffset`: the cursor is not at the end (source reader) / has not left the last line (block);
    * `Value seg`: `seg` lies inside the source;
    * `ResetPosition`, `PrecendingCharacter`: modelled and tied to the code, not specified.
  Only property theorems and their non-vacuity examples live here; lemmas are in GM/Proof/Reader.lean.
-/
import GM.Model.Reader
import GM.Spec.Cursor
import GM.Proof.Reader
import GM.Proof.BlockReader
import GM.Proof.ReaderFuel

namespace GM.Props.C18
open GM GM.Text GM.Spec GM.Proof.Reader

/-! ### source reader -/

/-- One call: if the reader state `r` stands for the cursor `c` and the call is inside the preconditions
    (the cursor's step is defined), the reader does not panic, returns exactly what the cursor returns
    and ends in a state that stands for the cursor's next state. Covers Peek, PeekLine, Advance,
    AdvanceAndSetPadding, AdvanceLine, Position, SetPosition, SetPadding, LineOffset, Value, SkipSpaces,
    SkipBlankLines, ReadRune and FindClosure. -/
theorem reader_refines {src : Bytes} {r : Reader} {c : RCur} (h : RAbs src r c) {op : Op} {out : Out} {c' : RCur}
    (hs : RCur.step src c op = .ok (out, c')) : ∃ r', r.step op = .ok (out, r') ∧ RAbs src r' c' :=
  Proof.Reader.reader_refines h hs

/-- All call sequences, from the fresh reader: whenever the cursor's run of the sequence is defined, the
    reader's run does not panic and every return value of every call agrees (by induction on the
    sequence). -/
theorem reader_refines_seq (src : Bytes) (ops : List Op) {outs : List Out} {c' : RCur}
    (hs : runSteps (RCur.step src) RCur.init ops = .ok (outs, c')) :
    ∃ r', runSteps Reader.step (Reader.new src) ops = .ok (outs, r') ∧ RAbs src r' c' :=
  runSteps_refines (A := RAbs src) (stepC := Reader.step) (stepS := RCur.step src)
    (fun hA h => Proof.Reader.reader_refines hA h) ops (reader_init src) hs

/-- No call sequence inside the preconditions makes the source reader panic (or loop). -/
theorem reader_no_panic (src : Bytes) (ops : List Op) {outs : List Out} {c' : RCur}
    (hs : runSteps (RCur.step src) RCur.init ops = .ok (outs, c')) :
    ∃ x, runSteps Reader.step (Reader.new src) ops = .ok x := by
  obtain ⟨r', h, _⟩ := reader_refines_seq src ops hs
  exact ⟨_, h⟩

/-- pos_in_range: in every state reached inside the preconditions, the segment that Position and
    PeekLine return satisfies `0 ≤ Start ≤ Stop ≤ len(source)`. -/
theorem reader_pos_in_range (src : Bytes) (ops : List Op) {outs : List Out} {c' : RCur} {r' : Reader}
    (hs : runSteps (RCur.step src) RCur.init ops = .ok (outs, c'))
    (hr : runSteps Reader.step (Reader.new src) ops = .ok (outs, r')) :
    0 ≤ r'.position.2.start ∧ r'.position.2.start ≤ r'.position.2.stop ∧
      r'.position.2.stop ≤ src.length := by
  obtain ⟨r2, h, hA⟩ := reader_refines_seq src ops hs
  rw [hr] at h
  simp only [Except.ok.injEq, Prod.mk.injEq, true_and] at h
  subst h
  have := pos_wf hA
  exact ⟨this.1, this.2.1, this.2.2.1⟩

/-- Value(seg) is the segment's own value (source reader): padding spaces, the bytes `src[start:stop)`,
    and a newline if ForceNewline asks for one. -/
theorem reader_value_eq_segment_value {src : Bytes} {r : Reader} {c : RCur} (h : RAbs src r c) (s : Segment)
    (hin : segInRange src s) :
    r.valueOp s = .ok (segValue src s) ∧ s.value src = .ok (segValue src s) :=
  ⟨(value_ref h (c' := c) (v := segValue src s) (by simp [RCur.value, hin])).1, value_spec src s hin⟩

/-- SetPosition with a value Position returned earlier (at state `r`) brings any later state `r2` to a
    state that stands for the same cursor as `r` did — so, by `reader_refines`, every later call sequence
    returns what it would have returned at `r`: the view seen then is restored exactly. -/
theorem reader_setPosition_restores {src : Bytes} {r r2 : Reader} {c c2 : RCur} (h : RAbs src r c) (h2 : RAbs src r2 c2) :
    RAbs src (r2.setPosition r.position.1 r.position.2) c ∧
      (r2.setPosition r.position.1 r.position.2).position = r.position := by
  have h3 := Proof.Reader.reader_setPosition_restores h h2
  exact ⟨h3, by rw [position_ref h3, position_ref h]⟩

/-- FindClosure without the Advance option leaves the cursor, and the reader's Position, untouched. -/
theorem reader_findClosure_noAdvance_restores {src : Bytes} {r : Reader} {c c' : RCur} (h : RAbs src r c)
    {o cl : UInt8} {opts : FindClosureOptions} {out : Out} (hadv : opts.advance = false)
    (hs : RCur.step src c (.findClosure o cl opts) = .ok (out, c')) :
    c' = c ∧ ∃ r', r.step (.findClosure o cl opts) = .ok (out, r') ∧ r'.position = r.position ∧ RAbs src r' c := by
  have e := reader_findClosure_noAdvance hadv h.inRange hs
  obtain ⟨r', h1, h2⟩ := Proof.Reader.reader_refines h hs
  rw [e] at h2
  exact ⟨e, r', h1, by rw [position_ref h2, position_ref h], h2⟩

/-- Peek is the first byte of the line PeekLine returns, or EOF (0xff) when PeekLine returns nil. -/
theorem reader_peek_head {src : Bytes} {r : Reader} {c : RCur} (h : RAbs src r c) :
    ∃ l s r', r.peekLine = .ok ((l, s), r') ∧ r.peek = .ok (match l with | some (b :: _) => b | _ => 255) :=
  Proof.Reader.reader_peek_head h

/-- fuel_suffices and "the helpers stay inside the preconditions" for the source reader: from every cursor
    inside the source, SkipSpaces, SkipBlankLines, ReadRune and FindClosure (any options) are defined — the
    fuel `4·len+64` is never exhausted and no interface call they make is outside Pre. -/
theorem reader_helpers_defined (src : Bytes) (c : RCur) (hc : c.p ≤ src.length) :
    (∃ x, RCur.step src c .skipSpaces = .ok x) ∧ (∃ x, RCur.step src c .skipBlankLines = .ok x) ∧
    (∃ x, RCur.step src c .readRune = .ok x) ∧
    (∀ o cl opts, ∃ x, RCur.step src c (.findClosure o cl opts) = .ok x) :=
  rcur_helpers_defined src c hc

/-- … hence the reader's own SkipSpaces / SkipBlankLines / ReadRune / FindClosure terminate without panic in
    every state that stands for a cursor (no hypothesis on the call itself). -/
theorem reader_helpers_no_panic {src : Bytes} {r : Reader} {c : RCur} (h : RAbs src r c) :
    (∃ x, r.step .skipSpaces = .ok x) ∧ (∃ x, r.step .skipBlankLines = .ok x) ∧ (∃ x, r.step .readRune = .ok x) ∧
    (∀ o cl opts, ∃ x, r.step (.findClosure o cl opts) = .ok x) := by
  obtain ⟨⟨x1, h1⟩, ⟨x2, h2⟩, ⟨x3, h3⟩, h4⟩ := rcur_helpers_defined src c h.inRange
  refine ⟨?_, ?_, ?_, ?_⟩
  · obtain ⟨r', e, _⟩ := Proof.Reader.reader_refines h (out := x1.1) (c' := x1.2) h1; exact ⟨_, e⟩
  · obtain ⟨r', e, _⟩ := Proof.Reader.reader_refines h (out := x2.1) (c' := x2.2) h2; exact ⟨_, e⟩
  · obtain ⟨r', e, _⟩ := Proof.Reader.reader_refines h (out := x3.1) (c' := x3.2) h3; exact ⟨_, e⟩
  · intro o cl opts
    obtain ⟨x, hx⟩ := h4 o cl opts
    obtain ⟨r', e, _⟩ := Proof.Reader.reader_refines h (out := x.1) (c' := x.2) hx; exact ⟨_, e⟩

/-! ### block reader

`WFSegs src segs`: the list of line segments is non-empty; every segment lies in the source, is non-empty,
has padding ≥ 0 and no ForceNewline; the segments are increasing (`stop ≤ next start`). -/

/-- One call of the block reader (Peek, PeekLine, Advance, AdvanceAndSetPadding, AdvanceLine, Position,
    SetPosition, SetPadding, LineOffset, ResetPosition, SkipSpaces, SkipBlankLines, ReadRune, FindClosure):
    inside the preconditions no panic, the cursor's return value, and a state that stands for the cursor's
    next state. -/
theorem blockReader_refines {src : Bytes} {segs : List Segment} (hw : WFSegs src segs) {r : BlockReader} {c : BCur}
    (h : BAbs src segs r c) {op : Op} {out : Out} {c' : BCur} (hs : BCur.step src segs c op = .ok (out, c')) :
    ∃ r', r.step op = .ok (out, r') ∧ BAbs src segs r' c' :=
  Proof.Reader.blockReader_refines (segFacts hw) h hs

/-- All call sequences, from NewBlockReader(src, segs). -/
theorem blockReader_refines_seq {src : Bytes} {segs : List Segment} (hw : WFSegs src segs) (ops : List Op)
    {outs : List Out} {c' : BCur} (hs : runSteps (BCur.step src segs) (BCur.init segs) ops = .ok (outs, c')) :
    ∃ r0 r', BlockReader.new src segs = .ok r0 ∧ runSteps BlockReader.step r0 ops = .ok (outs, r') ∧
      BAbs src segs r' c' := by
  obtain ⟨r0, h0, hA⟩ := blockReader_init (segFacts hw)
  obtain ⟨r', h1, h2⟩ := runSteps_refines (A := BAbs src segs) (stepC := BlockReader.step) (stepS := BCur.step src segs)
    (fun hA h => Proof.Reader.blockReader_refines (segFacts hw) hA h) ops hA hs
  exact ⟨r0, r', h0, h1, h2⟩

/-- No call sequence inside the preconditions makes the block reader panic (or loop). -/
theorem blockReader_no_panic {src : Bytes} {segs : List Segment} (hw : WFSegs src segs) (ops : List Op)
    {outs : List Out} {c' : BCur} (hs : runSteps (BCur.step src segs) (BCur.init segs) ops = .ok (outs, c')) :
    ∃ r0 x, BlockReader.new src segs = .ok r0 ∧ runSteps BlockReader.step r0 ops = .ok x := by
  obtain ⟨r0, r', h0, h1, _⟩ := blockReader_refines_seq hw ops hs
  exact ⟨r0, _, h0, h1⟩

/-- pos_in_range for the block reader: every state that stands for a cursor has
    `0 ≤ Start ≤ Stop ≤ len(source)` (and every state reached inside the preconditions does). -/
theorem blockReader_pos_in_range {src : Bytes} {segs : List Segment} (hw : WFSegs src segs) {r : BlockReader} {c : BCur}
    (h : BAbs src segs r c) :
    0 ≤ r.position.2.start ∧ r.position.2.start ≤ r.position.2.stop ∧ r.position.2.stop ≤ src.length := by
  have := bpos_wf (segFacts hw) h
  exact ⟨this.1, this.2.1, this.2.2.1⟩

/-- SetPosition with a value Position returned earlier restores the cursor (block reader). -/
theorem blockReader_setPosition_restores {src : Bytes} {segs : List Segment} (hw : WFSegs src segs)
    {r r2 : BlockReader} {c c2 : BCur} (h : BAbs src segs r c) (h2 : BAbs src segs r2 c2) :
    ∃ r3, r2.setPosition r.position.1 r.position.2 = .ok r3 ∧ BAbs src segs r3 c ∧ r3.position = r.position := by
  obtain ⟨r3, h3, h4⟩ := Proof.Reader.blockReader_setPosition_restores (segFacts hw) h h2
  exact ⟨r3, h3, h4, by rw [bposition_ref h4, bposition_ref h]⟩

/-- FindClosure without the Advance option leaves the block reader's cursor and Position untouched. -/
theorem blockReader_findClosure_noAdvance_restores {src : Bytes} {segs : List Segment} (hw : WFSegs src segs)
    {r : BlockReader} {c c' : BCur} (h : BAbs src segs r c) {o cl : UInt8} {opts : FindClosureOptions} {out : Out}
    (hadv : opts.advance = false) (hs : BCur.step src segs c (.findClosure o cl opts) = .ok (out, c')) :
    c' = c ∧ ∃ r', r.step (.findClosure o cl opts) = .ok (out, r') ∧ r'.position = r.position ∧ BAbs src segs r' c := by
  have e := blockReader_findClosure_noAdvance (segFacts hw) hadv h.wf hs
  obtain ⟨r', h1, h2⟩ := Proof.Reader.blockReader_refines (segFacts hw) h hs
  rw [e] at h2
  exact ⟨e, r', h1, by rw [bposition_ref h2, bposition_ref h], h2⟩

/-- BlockReader.Value(seg) is the segment's own value (`seg.padding` spaces, then `src[start:stop)`)
    whenever `seg` lies inside one block line `j` (before the next line) without ForceNewline and EITHER starts
    at the line's first byte and carries that line's padding OR starts inside the line and has padding 0
    (`BCur.valuePreAt`; the second case relies on repair 96b5bf4). -/
theorem blockReader_value_eq_segment_value {src : Bytes} {segs : List Segment} (hw : WFSegs src segs)
    {r : BlockReader} {c : BCur} (h : BAbs src segs r c) (j : Nat) (s : Segment) (hp : BCur.valuePreAt segs j s) :
    r.valueOp s = .ok (segValue src s) :=
  bvalue_ref (segFacts hw) h j s hp

/-- Value(seg) for a segment that starts in block line `j` and may run on over later lines (labels and titles
    that continue on following lines): `BCur.blockValue` — the first line gives its padding only if `seg` starts
    at its first byte, then `src[seg.start : min(seg.stop, line.stop))`; every later line, until one reaches
    `seg.stop`, gives its padding spaces and its bytes. `seg.padding` and ForceNewline are not looked at. -/
theorem blockReader_value_multiline {src : Bytes} {segs : List Segment} (hw : WFSegs src segs)
    {r : BlockReader} {c : BCur} (h : BAbs src segs r c) (j : Nat) (s : Segment) (hp : BCur.valueLineAt segs j s) :
    r.valueOp s = .ok (BCur.blockValue src segs j s) :=
  bvalue_multi (segFacts hw) h j s hp

/-- Peek is the first byte of the line PeekLine returns, or EOF (block reader). -/
theorem blockReader_peek_head {src : Bytes} {segs : List Segment} (hw : WFSegs src segs) {r : BlockReader} {c : BCur}
    (h : BAbs src segs r c) :
    ∃ l s r', r.peekLine = .ok ((l, s), r') ∧ r.peek = .ok (match l with | some (b :: _) => b | _ => 255) :=
  Proof.Reader.blockReader_peek_head (segFacts hw) h

/-- Advance(n) moves exactly n bytes of the view: it uses up exactly n of the bytes that remain in front
    of the cursor (one per step, crossing lines and their padding as needed). -/
theorem blockReader_advance_exact {src : Bytes} {segs : List Segment} (hw : WFSegs src segs) {c : BCur}
    (w : BWF segs c) (hl : BCur.live segs c = true) :
    BCur.remaining segs (BCur.adv1 segs c) = BCur.remaining segs c - 1 :=
  (rem_adv1 (segFacts hw) w hl).1

/-! #### the preconditions are satisfiable (tests on literals) -/

/-- "a\n\tb": PeekLine, Advance 2 (crosses the line), LineOffset, AdvanceAndSetPadding 1 2, PeekLine -/
example : (runSteps (RCur.step [97, 10, 9, 98]) RCur.init
    [.peekLine, .advance 2, .lineOffset, .advanceAndSetPadding 1 2, .peekLine, .position]).isOk = true := by
  decide

instance (src : Bytes) : ∀ (lo : Int) (l : List Segment), Decidable (WFSegsFrom src lo l)
  | _, [] => isTrue trivial
  | lo, s :: rest => by
    unfold WFSegsFrom
    have := instDecidableWFSegsFrom src s.stop rest
    infer_instance

/-- "a\n\tcd\ne" with the block lines {0 2 0}, {3 6 2} (a tab turned into 2 columns of padding), {6 7 0}:
    the segment list is well formed and a sequence crossing the padded line is inside the preconditions -/
example : WFSegs [97, 10, 9, 99, 100, 10, 101] [⟨0, 2, 0, false⟩, ⟨3, 6, 2, false⟩, ⟨6, 7, 0, false⟩] := by
  unfold WFSegs; exact ⟨by simp, by decide⟩

example : (runSteps (BCur.step [97, 10, 9, 99, 100, 10, 101] [⟨0, 2, 0, false⟩, ⟨3, 6, 2, false⟩, ⟨6, 7, 0, false⟩])
    (BCur.init [⟨0, 2, 0, false⟩, ⟨3, 6, 2, false⟩, ⟨6, 7, 0, false⟩])
    [.peekLine, .advance 3, .lineOffset, .peekLine, .position, .skipSpaces, .advanceLine, .peek,
     .findClosure 91 93 ⟨false, false, true, false⟩]).isOk = true := by
  decide +kernel

/-- `valuePreAt` is satisfiable: the rest {4 6 pad 0} of the padded line {3 6 2}, and the whole line -/
example : BCur.valuePreAt [⟨0, 2, 0, false⟩, ⟨3, 6, 2, false⟩, ⟨6, 7, 0, false⟩] 1 ⟨4, 6, 0, false⟩ := by
  refine ⟨⟨3, 6, 2, false⟩, rfl, by decide, by decide, by decide, Or.inr ⟨by decide, rfl⟩, rfl, ?_⟩
  intro n hn
  simp at hn
  subst hn
  decide

example : BCur.valuePreAt [⟨0, 2, 0, false⟩, ⟨3, 6, 2, false⟩, ⟨6, 7, 0, false⟩] 1 ⟨3, 6, 2, false⟩ := by
  refine ⟨⟨3, 6, 2, false⟩, rfl, by decide, by decide, by decide, Or.inl ⟨rfl, rfl⟩, rfl, ?_⟩
  intro n hn
  simp at hn
  subst hn
  decide

/-- test: "a\n\tcd\ne", Value({1 7}) over the three lines = "\n" ++ "  cd\n" ++ "e" -/
example : BCur.blockValue [97, 10, 9, 99, 100, 10, 101] [⟨0, 2, 0, false⟩, ⟨3, 6, 2, false⟩, ⟨6, 7, 0, false⟩] 0
    ⟨1, 7, 0, false⟩ = [10, 32, 32, 99, 100, 10, 101] := by decide

end GM.Props.C18
