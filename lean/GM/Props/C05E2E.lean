/-
  GM.Props.C05E2E — C05 END TO END for the default CommonMark configuration: the Lean predicate `GM.Spec.wfAst` (the formal
  statement of C05 that the harness evaluates on the position dump of every parsed tree, GM/Spec/AstWF.lean) for the tree
  the composed model `GM.Convert` parses, for EVERY byte string.

  The tree. `GM.Convert.parseDoc` hands the renderer a `GM.Node` whose segments are already resolved to bytes, so C05 is
  stated about `GM.E2E.parseAst`: the same composition (block phase with the link-reference transformer, `treeOf`, inline
  phase per block behind the `WF0` check) with the SEGMENTS kept (`parse_ast_exists`: whenever `parseDoc` answers, so does
  `parseAst`). `GM.E2E.dumpAst` turns it into the dumper's format `Spec.PNode`: kind string, node type, Text / RawHTML
  segments, a block's `Lines()`, FencedCodeBlock info and HTMLBlock closure as `xsegs`, Heading / Emphasis level — the
  fields `harness/cmd/gmharness/dump.go: posDumper.node` prints — and numbers the nodes in preorder (`relabel`; the Go dumper
  numbers a node's children before descending: another injective numbering, `wfAst` only compares ids for equality).

  Clause (a) (sibling links both ways, ChildCount, parent links, no node twice) holds BY CONSTRUCTION of a dump made from
  nested lists (`clause_a_by_construction`) — that goldmark's intrusive lists agree with the nested-list view is C13 / C05
  `parser_traces_refine`. Clauses (b) and (c): proved pieces + the NAMED hypotheses of `parser_output_wellformed_partial`.
-/
import GM.Proof.E2EStoreDone

namespace GM.Props.C05E2E
open GM GM.Text GM.Convert GM.Spec GM.E2E GM.Proof.Inlines GM.Proof.InlinesTotal GM.Proof.InlinesReader

/-- `parse_ast_exists`: whenever the parse phases answer the renderer's tree, they answer the tree with its segments -/
theorem parse_ast_exists (guard : Bool) (uc : List (Nat × (Bool × Bool))) (src : Bytes) (t : GM.Node)
    (h : parseDoc guard uc src = .ok t) : ∃ a, parseAst guard uc src = .ok a :=
  parseDoc_ok_parseAst h

/-! ### clause (a): a tree -/

/-- `clause_a_by_construction`. For ANY dump `t` built as nested lists, after numbering (`relabel`): no id occurs twice
    and every node's forward walk, backward walk, ChildCount, HasChildren and its children's Parent() agree with the
    nesting — so `wfAst` answers "well formed" as soon as the identity-free clauses (`semWf`: kinds, places, levels,
    segments) hold everywhere. -/
theorem clause_a_by_construction (len : Nat) (t : PNode) (h : semWf len none false t) :
    wfAst len (relabel 0 (-1) t) = none :=
  wfAst_relabel len t h

/-- the ids of a numbered dump are `next, next+1, …` in preorder: pairwise distinct -/
theorem dump_ids_distinct (next : Nat) (par : Int) (t : PNode) :
    allIds (relabel next par t) = List.range' next (psize t) :=
  allIds_relabel next par t

/-! ### clause (b): only public node kinds in legal places -/

/-- `root_is_document`: node 0 of every store the block phase returns — the root of the tree — is the Document
    (a frame invariant: no step of the block phase writes a node's kind; carried through `runT` by `Keeps`) -/
theorem root_is_document (guard : Bool) (src : Bytes) (st : GM.Blocks.St) (h : blockPhase guard src = .ok st) :
    ∃ d rest, st.nodes = d :: rest ∧ d.kind = .document :=
  blockPhase_rootDoc guard src st h

/-- `heading_levels`: every Heading of the store has level 1..6 (= `GM.Props.ConvertE2E.block_store_heading_levels`) -/
theorem heading_levels (guard : Bool) (src : Bytes) (st : GM.Blocks.St) (h : blockPhase guard src = .ok st) :
    ∀ n ∈ st.nodes, n.kind = .heading → 1 ≤ n.level ∧ n.level ≤ 6 :=
  blockPhase_headOK guard src st h

/-- `inline_nodes_legal`. The inline children `parseBlock` answers, dumped below a block (or inline node) that is
    neither the Document nor a List: only the public kinds Text / CodeSpan / Emphasis / Link / Image / AutoLink /
    RawHTML (no Delimiter, no link-label bookkeeping node), inline nodes only below blocks and inline nodes, a CodeSpan
    holds only Text, emphasis levels 1..2, no Link inside a Link at any depth, and — given their range — every Text /
    RawHTML segment passes the range clause. From the shape theorem of the inline phase, for every source / lines /
    reference map. -/
theorem inline_nodes_legal (env : GM.Inl.Env) (src : Bytes) (lines : List Segment) (kids : List GM.Inl.Node)
    (h : GM.Inl.parseBlock env src lines = .ok kids) (hr : ∀ s ∈ segsOfL kids, segInRange src s)
    (pk : String × NType) (hd : pk.2 ≠ .document) (hl : pk.1 ≠ "List") (hc : pk.1 ≠ "CodeSpan") :
    semWfL src.length pk false (shapeIs kids) :=
  shapeIs_sem src.length kids pk false (parseBlock_wf h) (fun s hs => segOK_of_inRange (hr s hs)) hd hl
    (fun e => absurd e hc) (fun e => by cases e)

/-- `block_node_clauses`: all identity-free clauses of one block node of the dump from the per-node facts `BlockP`
    (heading level, lines / info / closure in range, lines increasing, Document and List without lines), the facts
    `KidsP` about its inline children and the ListItem ⇔ List relation to its parent -/
theorem block_node_clauses (src : Bytes) (pk : Option GM.Blocks.Kind) (n : GM.Blocks.Node) (bs : List ATree)
    (kids : List GM.Inl.Node) (hb : BlockP src n) (hk : KidsP src n kids) (hr : ListRel pk n.kind) :
    SemNode src.length (pk.map fun k => (k.name, ntypeOf k)) false (blockInfo n) (shapeBs bs ++ shapeIs kids) :=
  semNode_block src pk n bs kids hb hk hr

/-! ### clause (c): positions -/

/-- `inline_segments_end_inside_block`: the segments the inline phase records for a block, in tree order, are in
    range, ordered, and end at or before the end of the block's LAST line (GM.Props.Inlines bounds them by
    `len(source)`) -/
theorem inline_segments_end_inside_block (env : GM.Inl.Env) (src : Bytes) (lines : List Segment) (h : WF0 src lines)
    (kids : List GM.Inl.Node) (hk : GM.Inl.parseBlock env src lines = .ok kids) :
    chain 0 (hiOf lines) (segsOfL kids) :=
  parseBlock_segments_hi h.1 h.2 env hk

/-! ### the composition -/

/-- `inline_segments_unpadded`: the segments the inline phase records have padding 0
    — so with their range (`GM.Props.Inlines.text_segments_in_range_and_ordered`) they pass `segOK` -/
theorem inline_segments_unpadded : InlineSegsUnpadded := inlineSegsUnpadded

/-- `inline_segments_inside_block_lines` (clause (c), "inline segments lie inside the block's lines, in order").
    For EVERY source, `WF0` line list, reference map, Unicode class assignment: the
    segments recorded in the tree `parseBlock` answers, in tree order, start at or behind the start of the block's FIRST
    line, end at or before the end of its LAST line, none is inverted, each starts at or behind the end of the one
    before. (GM.Proof.InlinesLoopTotal / InlinesLink: the loop invariant and the contracts of the five inline parsers hold
    with any lower bound of the segment chain between 0 and the first line's start.) -/
theorem inline_segments_inside_block_lines (env : GM.Inl.Env) (src : Bytes) (lines : List Segment) (h : WF0 src lines)
    (kids : List GM.Inl.Node) (hk : GM.Inl.parseBlock env src lines = .ok kids) :
    chain (loOf lines) (hiOf lines) (segsOfL kids) := by
  rw [loOf_segOf, hiOf_lastStop]
  exact GM.Proof.InlinesLink.parseBlock_segments_lo h.1 h.2 env hk

/-- `info_closure_in_range` (clause (c) for the two segments of a block that are neither lines nor inline content,
    every source): FencedCodeBlock.Info and HTMLBlock.ClosureLine lie inside the source -/
theorem info_closure_in_range (guard : Bool) (src : Bytes) (st : GM.Blocks.St) (h : blockPhase guard src = .ok st) :
    ∀ n ∈ st.nodes, XP src n :=
  blockPhase_xsegs guard src st h

/-- `parser_output_wellformed_partial` (C05 over `GM.Convert`). For EVERY byte string `src` and Unicode class
    assignment: when the parse phases answer the tree `a`, its position dump passes `wfAst` — clause (a) by
    construction; clause (b) root / heading levels / kinds / inline places / code spans / emphasis levels / links
    proved; clause (c) proved for ALL inline segments (range, order, padding, inside the block's lines) and for info /
    closure segments — GIVEN, for the store `st` the block phase returns, the FOUR named hypotheses `StoreHypsCore src st`:
        `lines` (LinesInRange — the shape of `GM.Blocks.NodesOK`), `ord` (LinesOrdered — the shape of
        `GM.Blocks.OrdFrom 0`), `noLines` (Document and List nodes have no lines), `listShape` (a child is a ListItem
        exactly when its parent is a List; one direction is `KidsOK.kids`).
    No hypothesis about the inline phase remains. -/
theorem parser_output_wellformed_partial (uc : List (Nat × (Bool × Bool))) (src : Bytes)
    (a : ATree) (h : parseAst true uc src = .ok a)
    (hS : ∀ st, blockPhase true src = .ok st → StoreHypsCore src st) : wfAst src.length (dumpAst a) = none :=
  parseAst_wfAst_core uc src a h hS

/-- the same from `AOK` of the annotated tree (what the named hypotheses and the proved pieces establish) -/
theorem wellformed_of_tree_facts (src : Bytes) (a : ATree) (h : AOK src none a) : wfAst src.length (dumpAst a) = none :=
  wfAst_dumpAst src a h

/-! ### non-vacuity and tests on literals -/

/-- `# a⏎`: the parse phases answer a tree with segments, and its dump passes `wfAst` (kernel-evaluated) -/
example : ((parseAst true [] (strBytes "# a\n")).toOption.map fun a => wfAst 4 (dumpAst a)) = some none := by
  decide +kernel

/-- a document with a list, a quote, a link, raw HTML and a fenced block -/
def sampleSrc : Bytes := strBytes "- a\n\n> [x](/u) <b>\n\n```go\nz\n```\n"
example : ((parseAst true [] sampleSrc).toOption.map fun a => wfAst sampleSrc.length (dumpAst a)) = some none := by
  decide +kernel

/-- the checker is not constantly `none` (test on a literal): a Heading of level 7 is rejected -/
example : wfAst 0 (dumpAst (.node { kind := .document } [.node { kind := .heading, level := 7 } [] []] [])) =
    some "heading-level" := by
  decide +kernel

/-- `StoreHypsCore` is satisfiable (test on a literal): the store of the empty document -/
example : StoreHypsCore [] (GM.Blocks.initSt []) where
  lines := fun n hn t ht => by
    simp only [GM.Blocks.initSt, List.mem_singleton] at hn; subst hn; cases ht
  ord := fun n hn => by
    simp only [GM.Blocks.initSt, List.mem_singleton] at hn; subst hn; trivial
  noLines := fun n hn _ => by
    simp only [GM.Blocks.initSt, List.mem_singleton] at hn; subst hn; rfl
  listShape := fun i c hc => by
    cases i with
    | zero => simp [GM.Blocks.initSt] at hc
    | succ k => simp [GM.Blocks.initSt, List.getD] at hc; cases hc

end GM.Props.C05E2E
