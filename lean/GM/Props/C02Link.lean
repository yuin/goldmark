/-
  Property C02 — theorems about the SPEC-SIDE inline-link reference GM.Spec.CMLink
  (CommonMark 0.31.2 sections 6.3 / 6.4; written from the specification text).  That goldmark renders a source as the
  reference prescribes is decided by the correspondence run (component `cmlink`); proved here, for ALL inputs, are laws
  of the reference itself (with all deviation switches off: `Dev.spec`).
-/
import GM.Proof.CMLink

namespace GM.Props.C02Link
open GM GM.Spec.CMLink

/-- `dest_form_sound`: whenever the reference accepts the parenthesised part of an inline link, the destination it
    reports satisfies the grammar of the form it was recognised in — first form: the content of `<…>` has no line
    ending and no unescaped `<` or `>`; second form: no space, no ASCII control character, does not start with `<`,
    and every unescaped parenthesis belongs to a balanced pair (`bareDepth 0 … = some 0`). -/
theorem dest_form_sound (s : Bytes) (tl : Tail) (h : inlineTail Dev.spec s = some tl) : tl.destOK = true := by
  obtain ⟨_, _, _, _, _, _, _, _, hd, _⟩ := Proof.CMLink.inlineTail_sound s tl h
  exact hd

/-- `inline_link_grammar`: … and the bytes it consumed are exactly `(`, white space (spaces and at most one line
    ending), that destination, and — only behind white space — a title between `"…"`, `'…'` or `(…)` whose content
    has the closing character (for `(…)` also `(`) only backslash-escaped, white space, `)`; the reported rest is
    what follows.  In particular the number of bytes the scan skips is the length of that prefix. -/
theorem inline_link_grammar (s : Bytes) (tl : Tail) (h : inlineTail Dev.spec s = some tl) :
    ∃ w1 w2 tsrc w3, isSepWs w1 = true ∧ isSepWs w2 = true ∧ isSepWs w3 = true ∧
      s = 40 :: (w1 ++ (tl.destSrc ++ (w2 ++ (tsrc ++ (w3 ++ 41 :: tl.rest))))) ∧
      tl.destOK = true ∧ Proof.CMLink.TitlePart tl w2 tsrc :=
  Proof.CMLink.inlineTail_sound s tl h

/-- the two destination scanners and the title scanner on their own: what they return is a prefix that satisfies the
    grammar, followed by the closing character (if the form has one) and the reported rest -/
theorem pointy_sound (s : Bytes) (raw rest : Bytes) (h : pointy Dev.spec false s = some (raw, rest)) :
    s = raw ++ 62 :: rest ∧ pointyOK false raw = true := Proof.CMLink.pointy_sound s false raw rest h
theorem bare_balanced (s : Bytes) (raw rest : Bytes) (h : bare Dev.spec 0 false s = some (raw, rest)) :
    s = raw ++ rest ∧ bareDepth 0 false raw = some 0 := Proof.CMLink.bare_sound s 0 false raw rest h
theorem title_sound (cl : UInt8) (s : Bytes) (raw rest : Bytes) (h : titleGo cl false s = some (raw, rest)) :
    s = raw ++ cl :: rest ∧ titleOK cl false raw = true := Proof.CMLink.titleGo_sound cl s false raw rest h

/-- completeness of the two destination scanners (the converse of `pointy_sound` / `bare_balanced`): EVERY text that
    satisfies the grammar of the form, does not end in an unescaped backslash, and is followed by `>` resp. by what may
    follow a destination (nothing, a space, a control character / line ending, or `)`) is accepted as it stands.  Together:
    the reference recognises exactly the destinations of 6.3. -/
theorem pointy_complete (raw rest : Bytes) (h : pointyOK false raw = true) (he : escEnd false raw = false) :
    pointy Dev.spec false (raw ++ 62 :: rest) = some (raw, rest) := Proof.CMLink.pointy_complete raw false rest h he
theorem bare_complete (raw rest : Bytes) (h : bareDepth 0 false raw = some 0) (he : escEnd false raw = false)
    (hs : Proof.CMLink.stopper rest) : bare Dev.spec 0 false (raw ++ rest) = some (raw, rest) :=
  Proof.CMLink.bare_complete raw 0 false rest h he hs

/-- `links_not_nested` (6.3: "Links may not contain other links, at any level of nesting"): in the tree the reference
    builds for ANY inline content no link node has a link below it, at any depth, also not inside the description
    of an image inside it (the active / inactive bookkeeping of the bracket stack). -/
theorem links_not_nested (inl : Bytes) : noNestedL (parse inl) = true := Proof.CMLink.parse_noNested inl

/-- … for every setting of the reference's switches, in particular when the document has a link reference definition
    (full, collapsed and shortcut reference links, step two) -/
theorem links_not_nested_with_references (dv : Dev) (inl : Bytes) : noNestedL (parseD dv inl) = true :=
  Proof.CMLink.parseD_noNested dv inl

/-- the link label that follows a link text (full reference): what `labelGo` accepts contains no unescaped bracket
    and is followed by the `]` it stopped at -/
theorem label_sound (s raw rest : Bytes) (h : labelGo false s = some (raw, rest)) :
    s = raw ++ 93 :: rest ∧ Proof.CMLink.labelOK false raw = true := Proof.CMLink.labelGo_sound s false raw rest h

/-- the prescribed HTML of every tree is tag-balanced: the concatenation of an event sequence in which `<a …>` and
    `</a>` nest properly (images, breaks, text and raw HTML are leaves; raw HTML is opaque) -/
theorem link_html_balanced (ns : List Inl) :
    renderL ns = (eventsL ns).flatMap Ev.bytes ∧ balGo 0 (eventsL ns) = true :=
  ⟨Proof.CMLink.renderL_events ns, Proof.CMLink.eventsL_balanced ns⟩

/-! ### tests (`decide` on literals — NOT part of the claim) -/

/-- test: `[a](b)` -/
example : linkDoc [91, 97, 93, 40, 98, 41] = some ([60, 112, 62] ++ sAOpen ++ [98, 34, 62, 97] ++ sAClose ++ [60, 47, 112, 62, 10]) := by decide
/-- test: L1 `[a](<<>)` is not a link -/
example : inlineTail Dev.spec [40, 60, 60, 62, 41] = none := by decide
/-- test: L2 `[a](( )` is not a link; `[a](())` is -/
example : inlineTail Dev.spec [40, 40, 32, 41] = none := by decide
example : (inlineTail Dev.spec [40, 40, 41, 41]).isSome = true := by decide
/-- test: L3 `(<b>"t")` is not a link tail, `(<b> "t")` is -/
example : inlineTail Dev.spec [40, 60, 98, 62, 34, 116, 34, 41] = none := by decide
example : (inlineTail Dev.spec [40, 60, 98, 62, 32, 34, 116, 34, 41]).isSome = true := by decide
/-- test: L4 a control character ends a destination without brackets -/
example : inlineTail Dev.spec [40, 1, 41] = none := by decide
/-- test (step two): `[a][ ]` + `[a]: /u`: the `[ ]` is not a link label, `[a]` is a shortcut reference -/
example : linkDocRef [91, 97, 93, 91, 32, 93]
    = some ([60, 112, 62] ++ sAOpen ++ [47, 117, 34, 62, 97] ++ sAClose ++ [91, 32, 93] ++ [60, 47, 112, 62, 10]) := by decide
/-- test (step two): `[b][a]` full reference, `[a][b]` no link at all (followed by a label that is not defined) -/
example : linkDocRef [91, 98, 93, 91, 97, 93]
    = some ([60, 112, 62] ++ sAOpen ++ [47, 117, 34, 62, 98] ++ sAClose ++ [60, 47, 112, 62, 10]) := by decide
example : linkDocRef [91, 97, 93, 91, 98, 93] = some ([60, 112, 62, 91, 97, 93, 91, 98, 93] ++ [60, 47, 112, 62, 10]) := by decide
/-- test (definitions, 4.7): `[a]: /u` is a definition, `[a]: b(c` and `[a]: <b<c>` are not -/
example : defDoc [47, 117] = some ([60, 112, 62] ++ sAOpen ++ [47, 117, 34, 62, 97] ++ sAClose ++ [60, 47, 112, 62, 10]) := by decide
example : defTail Dev.spec [98, 40, 99] = none := by decide
example : defTail Dev.spec [60, 98, 60, 99, 62] = none := by decide
/-- test: the deviation switches reproduce goldmark on these inputs (attribution only) -/
example : (inlineTail { ctl := true } [40, 1, 41]).isSome = true := by decide
example : (inlineTail { unbal := true } [40, 40, 32, 41]).isSome = true := by decide

end GM.Props.C02Link
