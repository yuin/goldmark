/-
  GM.Props.C08E2E — property C08 AT HTML LEVEL on the composed model of `goldmark.Convert` (`GM.Convert.convertCore`: block phase with
  the link-reference transformer, inline phase, renderer):

      convertCore uc o (quotePrefix D) = "<blockquote>\n" ++ convertCore uc o D ++ "</blockquote>\n"

  for every option set, every source `D` of the classes of GM.Props.C08 (`C08ClassG`: lists and blank lines; also `C08ClassF`,
  `C08ClassW`) without the byte `[`. `quotePrefix D` puts `> ` in front of every line of `D`.

  What is proved without hypothesis about the model (GM.Proof.E2EQuote): the block phase of both sources is the plain driver
  (`block_phase_bracket_free_eq`); the two block stores are related node by node (`StoreRel` of GM.Proof.QuoteSimRel); the renderer's view of every
  block node is the same — kinds, heading levels, list data, the VALUES of the lines / info strings / closures of code blocks and
  HTML blocks; the run-time check of the inline phase (`WF0`) passes on the moved lines; the renderer writes
  `<blockquote>⏎ … </blockquote>⏎` around the children.
  What is a NAMED HYPOTHESIS: `InlineQuoteStep D L L'` — the inline phase of ONE block answers the same renderer trees on the lines
  moved by the markers. It is needed only for blocks with inline content (Paragraph, Heading, TextBlock with lines), and it is PROVED
  for blocks of "good lines" (`GM.Proof.CMFrag.GoodLine`: plain text) — `convert_quote_prefix_good_lines` has no such hypothesis;
  neither has `convert_quote_prefix_raw_leaves` (documents whose leaves are code blocks, HTML blocks, thematic breaks).
  The theorems are stated for a source that converts (`convertCore uc o D = .ok html`); that EVERY source converts is
  `GM.Props.ConvertE2ENP.convert_total`; GM.Props.C08E2ETotal composes the two.
-/
import GM.Proof.E2EQuoteGood
-- NOT imported: GM.Props.C08 (so that GM.Props.C08 can import this module and re-export)

namespace GM.Props.C08E2E
open GM GM.Text GM.Convert GM.Spec GM.E2E GM.Blocks GM.E2E.Quote

/-- **the renderer on Document[Blockquote[xs]]** (html.go:renderBlockquote): `<blockquote>⏎`, the children, `</blockquote>⏎` — for
    every renderer configuration and every list of children -/
theorem renderer_wraps_blockquote (rc : RCfg) (xs : List GM.Node) :
    render rc (.mk .document none [.mk .blockquote none xs]) =
      strBytes "<blockquote>\n" ++ render rc (.mk .document none xs) ++ strBytes "</blockquote>\n" :=
  render_quote rc xs

/-- **C08 at the level of the renderer's tree, from the store relation**: `parseDoc` of the block-quoted source is
    Document[Blockquote[children of `parseDoc D`]] -/
theorem parse_quote_prefix_of_store_relation : type_of% @parseDoc_quote_prefix_of_rel := @parseDoc_quote_prefix_of_rel

/-- **C08 at HTML level, from the store relation** (any class of sources for which the block-level simulation is proved) -/
theorem convert_quote_prefix_of_store_relation : type_of% @convert_quote_prefix_of_rel := @convert_quote_prefix_of_rel

/-- **`convert_quote_prefix` — C08 at HTML level, documents with lists and blank lines**: for every option set, every source of
    `C08ClassG` (no tab, no CR, not empty, last byte not a space, no setext underline pattern) without `[`, given the inline
    invariant for this source -/
theorem convert_quote_prefix (uc : List (Nat × (Bool × Bool))) (o : ROpts) (D : Bytes) (hc : C08ClassG D) (hb : NoBracket D)
    (KEY : InlineQuoteInvariantAt D) (html : Bytes) (h : convertCore uc o D = .ok html) :
    convertCore uc o (quotePrefix D) = .ok (strBytes "<blockquote>\n" ++ html ++ strBytes "</blockquote>\n") :=
  convert_quote_prefix_cls uc o D (cls_listsG hc) hc.ne hb (fun _ _ _ hrel i _ _ => KEY _ _ (hrel.node i).lines) html h

/-- the same for `C08ClassF` (lists, no blank line) -/
theorem convert_quote_prefix_lists (uc : List (Nat × (Bool × Bool))) (o : ROpts) (D : Bytes) (hc : C08ClassF D) (hb : NoBracket D)
    (KEY : InlineQuoteInvariantAt D) (html : Bytes) (h : convertCore uc o D = .ok html) :
    convertCore uc o (quotePrefix D) = .ok (strBytes "<blockquote>\n" ++ html ++ strBytes "</blockquote>\n") :=
  convert_quote_prefix_cls uc o D (cls_lists hc) hc.ne hb (fun _ _ _ hrel i _ _ => KEY _ _ (hrel.node i).lines) html h

/-- the same for `C08ClassW` (no final line feed needed, none of `- * + 0-9`) -/
theorem convert_quote_prefix_no_final_newline (uc : List (Nat × (Bool × Bool))) (o : ROpts) (D : Bytes) (hc : C08ClassW D)
    (hb : NoBracket D) (KEY : InlineQuoteInvariantAt D) (html : Bytes) (h : convertCore uc o D = .ok html) :
    convertCore uc o (quotePrefix D) = .ok (strBytes "<blockquote>\n" ++ html ++ strBytes "</blockquote>\n") :=
  convert_quote_prefix_cls uc o D (cls_of hc.wider) hc.ne hb (fun _ _ _ hrel i _ _ => KEY _ _ (hrel.node i).lines) html h

/-- **without the inline hypothesis: documents whose leaves are raw blocks** — every block with lines is a CodeBlock, a
    FencedCodeBlock or an HTMLBlock (in any nesting of lists and quotes of the class) -/
theorem convert_quote_prefix_raw_leaves (uc : List (Nat × (Bool × Bool))) (o : ROpts) (D : Bytes) (hc : C08ClassG D)
    (hb : NoBracket D)
    (hraw : ∀ sA, GM.Blocks.run D = .ok sA → ∀ i, isRawKind (sA.nodes.getD i default).kind = false →
      (sA.nodes.getD i default).lines = [])
    (html : Bytes) (h : convertCore uc o D = .ok html) :
    convertCore uc o (quotePrefix D) = .ok (strBytes "<blockquote>\n" ++ html ++ strBytes "</blockquote>\n") :=
  convert_quote_prefix_cls uc o D (cls_listsG hc) hc.ne hb (fun sA _ hA _ i h1 h2 => absurd (hraw sA hA i h1) h2) html h

/-- **the inline hypothesis holds for blocks of plain-text lines** (`GM.Proof.CMFrag.GoodLine`), wherever the lines lie -/
theorem inline_invariant_good_lines : type_of% @inlineQuoteStep_good := @inlineQuoteStep_good

/-- **without the inline hypothesis: any block structure of the class, plain-text inline content** — every Paragraph / Heading /
    TextBlock of the block tree of `D` consists of good lines (`GoodBlocks`) -/
theorem convert_quote_prefix_good_lines (uc : List (Nat × (Bool × Bool))) (o : ROpts) (D : Bytes) (hc : C08ClassG D)
    (hb : NoBracket D) (hg : ∀ sA, GM.Blocks.run D = .ok sA → GoodBlocks D sA)
    (html : Bytes) (h : convertCore uc o D = .ok html) :
    convertCore uc o (quotePrefix D) = .ok (strBytes "<blockquote>\n" ++ html ++ strBytes "</blockquote>\n") :=
  convert_quote_prefix_cls uc o D (cls_listsG hc) hc.ne hb (fun sA _ hA hrel => key_of_goodBlocks hrel (hg sA hA)) html h

/-- the executable form of the hypothesis `GoodBlocks`: run the block phase of `D`, test every block with inline content -/
def goodLinesCheck (D : Bytes) : Bool :=
  match GM.Blocks.run D with
  | .ok s => goodBlocksB D s
  | .error _ => false

/-- **… with decidable hypotheses**: `C08ClassG D`, `NoBracket D` and `goodLinesCheck D` are decidable -/
theorem convert_quote_prefix_checked (uc : List (Nat × (Bool × Bool))) (o : ROpts) (D : Bytes) (hc : C08ClassG D)
    (hb : NoBracket D) (hg : goodLinesCheck D = true) (html : Bytes) (h : convertCore uc o D = .ok html) :
    convertCore uc o (quotePrefix D) = .ok (strBytes "<blockquote>\n" ++ html ++ strBytes "</blockquote>\n") :=
  convert_quote_prefix_good_lines uc o D hc hb (fun sA hA => by
    unfold goodLinesCheck at hg
    rw [hA] at hg
    exact goodBlocksB_sound hg) html h

/-- the three hypotheses hold for a document with a heading, a two-item list with a nested paragraph, a fenced code block, an HTML
    block and a paragraph of two lines -/
example : C08ClassG (strBytes "# h\n\n- a\n- b c\n\n  d\n\n```\nc\n```\n\n<div>\nq\n</div>\n\nx\ny z\n") := by decide +kernel
example : NoBracket (strBytes "# h\n\n- a\n- b c\n\n  d\n\n```\nc\n```\n\n<div>\nq\n</div>\n\nx\ny z\n") := by decide +kernel
example : goodLinesCheck (strBytes "# h\n\n- a\n- b c\n\n  d\n\n```\nc\n```\n\n<div>\nq\n</div>\n\nx\ny z\n") = true := by
  decide +kernel
/-- … and fail where they should: emphasis is not a good line -/
example : goodLinesCheck (strBytes "x\n*y* z\n") = false := by decide +kernel

/-! ### non-vacuity: the equation on literals, both sides evaluated by the kernel -/

/-- a heading, a list, a fenced code block, an HTML block (unsafe output off: the omission comment), a paragraph of two lines.
    (Sources with emphasis are evaluated by the interpreter only — `decide +kernel` does not reduce the delimiter pass; e.g.
    `x⏎*y* z⏎`, where `precendingCharacter` reads the byte in front of the continuation line, converts to
    `<blockquote>⏎<p>x⏎<em>y</em> z</p>⏎</blockquote>⏎` under the prefix.) -/
example : (convertCore [] {} (quotePrefix (strBytes "# h\n\n- a\n- b\n\n```\nc\n```\n\n<div>\nq\n</div>\n\nx\ny z\n"))).toOption =
    (convertCore [] {} (strBytes "# h\n\n- a\n- b\n\n```\nc\n```\n\n<div>\nq\n</div>\n\nx\ny z\n")).toOption.map
      (fun html => strBytes "<blockquote>\n" ++ html ++ strBytes "</blockquote>\n") := by decide +kernel

example : (convertCore [] {} (strBytes "# h\n\n- a\n- b\n\n```\nc\n```\n\n<div>\nq\n</div>\n\nx\ny z\n")).toOption.isSome = true := by
  decide +kernel

example : quotePrefix (strBytes "x\ny z\n") = strBytes "> x\n> y z\n" := by decide +kernel

example : (convertCore [] {} (strBytes "> x\n> y z\n")).toOption =
    some (strBytes "<blockquote>\n<p>x\ny z</p>\n</blockquote>\n") := by decide +kernel

end GM.Props.C08E2E
