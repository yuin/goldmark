/-
  GM.Props.ConvertNP — C01 ("conversion is total") for the link reference definition paragraph transformer
  (parser/link_ref.go, model GM.Model.LinkRef) on the lines it really gets, and for the block driver that calls it
  (GM.Model.Blocks.DriverT). `ScanRangesAdjacent` (stated in GM.Props.Convert) is a theorem here, the scan
  and the whole of `Transform` are total on well-formed lines WITH ANY virtual paddings.
  Helper lemmas: GM/Proof/LinkRefCursor.lean (cursor facts), LinkRefScan.lean (the landing lemma of SkipSpaces, the exits of
  parseLinkReferenceDefinition one by one), LinkRefTransform.lean (Transform, the guard), GM/Proof/BlocksTNPSpec.lean
  (the contract of a paragraph transformer call), GM/Proof/BlocksTNP*.lean (the no-panic walk for the driver with transformers; GM.Proof.BlocksDriver /
  BlocksDriverL have it for the driver without). What is proved / partial / open: notes/status_tnopanic.md.
-/
import GM.Props.Convert
import GM.Proof.LinkRefTransform
import GM.Proof.BlocksTNPNoBar
import GM.Proof.BlocksTNPTotal
import GM.Proof.BlocksTNORunLR
import GM.Proof.BlocksTNOClosedLR

namespace GM.Props.ConvertNP
open GM GM.Text GM.Spec GM.Blocks GM.LinkRef GM.Convert GM.Proof.InlinesReader GM.Proof.LinkRefFacts
open GM.Proof.LinkRefAdj GM.Proof.LinkRefTot2

/-! ### (a) contract monitor (3) of `finishLines` never fires -/

/-- **The ranges the transformer's scan hands to its second loop are adjacent from line 0 on, non-empty, and end inside the
    paragraph** — for every source, every paragraph whose lines are well-formed (`WFSegs`: inside the source, increasing,
    non-empty, paddings ≥ 0 — ANY paddings, i.e. also continuation lines behind a partly consumed tab inside a container)
    and none of which is blank (the paragraph parser never appends a blank line), every reference map. Moreover the scan
    itself is TOTAL on such lines: no Go panic (`line[pos]`, `Advance`, `Value`), no fuel exhaustion, the progress monitor
    of the model does not fire. True of the code because a definition leaves the reader at the start of the
    line behind it, or in front of white space only. -/
theorem scan_total_and_ranges_adjacent (src : Bytes) (lines : List Segment) (W : WFSegs src lines)
    (hnb : ∀ s ∈ lines, isBlank (sub src s.start.toNat s.stop.toNat) = false) (refs : RefMap) :
    ∃ rm refs', transformScan src lines refs = .ok (rm, refs') ∧ Adjacent 0 rm ∧ lastEnd 0 rm ≤ lines.length := by
  have hnb' : NoBlank src lines := fun j h0 h1 =>
    hnb _ (List.mem_of_getElem? (GM.Proof.Reader.segOf_get lines j h0 h1))
  obtain ⟨rm, refs', e, h⟩ := transformScan_ok (NB := True) W (fun _ => hnb') refs
  obtain ⟨a, l⟩ := h trivial
  exact ⟨rm, refs', e, adjacentB_sound rm 0 a, by rw [← lastEndOf_eq]; exact l⟩

/-- **`GM.Props.Convert.ScanRangesAdjacent` is a theorem** (stated there as a `def … : Prop`): on a paragraph with
    well-formed padding-free non-blank lines the ranges the scan answers are adjacent from line 0 on and end inside the
    paragraph, so contract monitor (3) of `GM.LinkRef.finishLines` is unreachable. -/
theorem scan_ranges_adjacent : GM.Props.Convert.ScanRangesAdjacent := by
  intro src lines refs rm refs' W hnb h
  obtain ⟨rm2, refs2, e, a, l⟩ := scan_total_and_ranges_adjacent src lines W.1 hnb refs
  rw [e] at h
  simp only [Except.ok.injEq, Prod.mk.injEq] at h
  obtain ⟨rfl, _⟩ := h
  exact ⟨a, l⟩

/-- the second stage of Transform on what the scan answers: the monitor passes, no `slice` panic of
    `Sliced` / `SetSliced`, no stale-elements `pre`; the paragraph keeps its lines without the first `lastEnd` ones -/
theorem second_loop_total (src : Bytes) (lines : List Segment) (W : WFSegs src lines)
    (hnb : ∀ s ∈ lines, isBlank (sub src s.start.toNat s.stop.toNat) = false) (refs : RefMap) :
    ∃ rm refs', transformScan src lines refs = .ok (rm, refs') ∧
      finishLines rm lines = .ok (lines.drop (lastEnd 0 rm).toNat) := by
  have hnb' : NoBlank src lines := fun j h0 h1 =>
    hnb _ (List.mem_of_getElem? (GM.Proof.Reader.segOf_get lines j h0 h1))
  obtain ⟨rm, refs', e, h⟩ := transformScan_ok (NB := True) W (fun _ => hnb') refs
  obtain ⟨a, l⟩ := h trivial
  exact ⟨rm, refs', e, finishLines_ok a l⟩

/-- the hypotheses are satisfiable, with a padded continuation line (test on a literal): `> [a]:⏎>⇥/u`, lines `[a]:⏎` and
    `/u` with padding 2 — the scan removes both lines -/
example : (transformScan [62, 32, 91, 97, 93, 58, 10, 62, 9, 47, 117]
    [{ start := 2, stop := 7 }, { start := 9, stop := 11, padding := 2 }] []).toOption.map (·.1) = some [(0, 2)] := by
  decide +kernel

/-- why "no line is blank" is needed (test on a literal, kernel-evaluated; NOT producible by the paragraph parser): with
    the lines `[a]: /u⏎`, `⏎`, `[b]: /v⏎` the scan answers the ranges (0,1), (2,3) — SkipSpaces behind the first
    definition runs over the blank line — and contract monitor (3) fires -/
example : (transformScan [91, 97, 93, 58, 32, 47, 117, 10, 10, 91, 98, 93, 58, 32, 47, 118, 10]
    [{ start := 0, stop := 8 }, { start := 8, stop := 9 }, { start := 9, stop := 17 }] []).toOption.map (·.1) =
      some [(0, 1), (2, 3)] := by decide +kernel

/-- finding T1 of notes/status_tnopanic.md, REPAIRED in /repo (KNOWN_FINDINGS `fixed:` 9e57c92; regression test on a literal,
    kernel-evaluated): in `> [a⏎>⇥b]: /u` the label closes on a tab-padded continuation line; FindClosure's
    `seg.WithStop(seg.Start + i - seg.Padding)` does not count the two virtual spaces of the padding as bytes, so the reference
    is registered under the key `a b` (before the repair: `a b]:`) -/
example : (transformScan [62, 32, 91, 97, 10, 62, 9, 98, 93, 58, 32, 47, 117, 10]
    [{ start := 2, stop := 5 }, { start := 7, stop := 14, padding := 2 }] []).toOption.map (fun x => x.2.map (·.1)) =
      some [[97, 32, 98]] := by decide +kernel

/-! ### (b) `Transform` is total on the paragraphs it really gets -/

/-- **`linkReferenceParagraphTransformer.Transform` is total**: from EVERY block-phase state, on a node whose lines are fit
    for it (`TLinesOK`: no lines, or `WFSegs` with any paddings and no blank line) and that has a parent: no Go panic — the
    scan, `Sliced` / `SetSliced`, `node.Parent().ReplaceChild` —, no fuel exhaustion, none of the model's monitors; and
    what it does to the state is `PTPost`: the main reader is untouched, of the context only the reference map changes,
    the paragraph loses an initial segment of its lines and keeps one, or loses all and an empty TextBlock takes its
    place among its parent's children (link_ref.go:41-50). -/
theorem transform_total (node : Nat) (s : St) (hl : TLinesOK s.r.source (nd s node).lines)
    (hp : (nd s node).parent.isSome = true) :
    ∃ s', transform node s = .ok ((), s') ∧ PTPost node s s' :=
  GM.Proof.LinkRefTot2.transform_total node s hl hp

/-- **the scan is total on well-formed lines with ANY paddings, blank lines allowed** (or on no lines): no Go panic, no fuel
    exhaustion, the progress monitor silent. (GM.Props.Convert.transform_scan_total has this for padding-free lines,
    transform_never_loops only termination for padded ones.) -/
theorem transform_scan_total_padded (src : Bytes) (lines : List Segment) (h : lines = [] ∨ WFSegs src lines) (refs : RefMap) :
    ∃ res, transformScan src lines refs = .ok res :=
  GM.Proof.LinkRefTotal.transformScan_total_wf h refs

/-- … and the whole of Transform on such a paragraph with a parent: `PTPost`, or contract monitor (3) answered `pre` — never a
    Go panic, never the fuel error. (With a blank line among the lines the monitor CAN fire: the example above.) -/
theorem transform_total_or_monitor (node : Nat) (s : St)
    (hl : (nd s node).lines = [] ∨ WFSegs s.r.source (nd s node).lines) (hp : (nd s node).parent.isSome = true) :
    (∃ s', transform node s = .ok ((), s') ∧ PTPost node s s') ∨ transform node s = .error .pre :=
  transform_total_wf node s hl hp

/-- **the transformer of the composition, `GM.LinkRef.guardedTransform` (Transform behind the run-time check `WFSegs`),
    never raises a Go panic and never exhausts fuel**, from any state, on any Paragraph node that has a parent: it ends as
    `PTPost` says, or answers `pre` (the check or monitor (3)). In the form the driver theorem consumes: `PTsSpec src pre` of
    the default transformer list of `GM.Convert.blockPhase true`. -/
theorem default_transformers_contract (src : Bytes) : PTsSpec src .pre (paragraphTransformers true) :=
  paragraphTransformers_spec src

/-- the nil case of `node.Parent().ReplaceChild` is real in the model: a PARENTLESS paragraph whose lines are all
    definitions makes Transform panic (test on a literal). parser.go only calls transformParagraph on paragraphs that have a
    parent (closeBlocks: `node.Parent() != nil`; RequireParagraph: the paragraph is the last child of `parent`). -/
def parentlessParagraph : St :=
  { initSt [91, 97, 93, 58, 32, 47, 117] with
    nodes := [{ kind := .paragraph, lines := [{ start := 0, stop := 7 }], linesNil := false }] }

example : (match transform 0 parentlessParagraph with | .error .nil => true | _ => false) = true := by decide +kernel

/-- **the contract of the guarded transformer** (`guardE e`: Transform behind the run-time check `linesOKB` of exactly the
    hypothesis above, the check answering `e`): on a Paragraph node that has a parent, from any state, it ends as `PTPost`
    says or answers `e` — for EVERY choice of `e`, so the check is the only source of an abnormal end. This is the
    hypothesis `PTsSpec` of the driver theorem. -/
theorem guarded_transformer_contract (src : Bytes) (e : Panic) : PTsSpec src e [guardE e] :=
  guardE_ptsSpec src e

/-- … and it is admissible for the termination theorem of the driver (GM.Props.Convert.block_phase_with_transformers_terminates) -/
theorem guarded_transformer_terminates (e : Panic) (he : e ≠ .loop) : PTsOK [guardE e] :=
  guardE_ptsOK e he

/-- the block phase with the guarded transformer never exhausts fuel, whatever the guard answers -/
theorem block_phase_guardE_terminates (e : Panic) (he : e ≠ .loop) (src : Bytes) : runT [guardE e] src ≠ .error .loop :=
  runT_noLoop (guardE_ptsOK e he) src

/-- when its check passes the guarded transformer IS Transform; when it fails it answers `e` -/
theorem guard_passes (e : Panic) (node : Nat) (s : St) (h : linesOKB s.r.source (nd s node).lines = true) :
    guardE e node s = transform node s := guardE_passes e node s h

theorem guard_fires (e : Panic) (node : Nat) (s : St) (h : linesOKB s.r.source (nd s node).lines = false) :
    guardE e node s = .error e := guardE_fires e node s h

/-- the check decides the hypothesis of `transform_total` -/
theorem guard_decides_hypothesis {src : Bytes} {l : List Segment} (h : linesOKB src l = true) : TLinesOK src l :=
  linesOKB_sound h

/-- non-vacuity: the check passes on the padded paragraph above -/
example : linesOKB [62, 32, 91, 97, 93, 58, 10, 62, 9, 47, 117]
    [{ start := 2, stop := 7 }, { start := 9, stop := 11, padding := 2 }] = true := by decide +kernel

/-! ### (c)/(d) the block phase WITH paragraph transformers, whole runs — partial: sources without a setext underline -/

/-- the source class of the whole-run theorems: no view of (the rest of) a line of the source — from any byte offset, with
    any virtual padding — is a setext heading underline (`matchesSetextHeadingBar`: ≤ 3 spaces, a run of `=` or of `-`,
    trailing white space). The bytes `-` and `=` themselves are allowed (bullet lists with `-`, text, `a = b`); excluded are
    sources with a line that ends in such a run, e.g. `---` or `Title⏎===`. On these sources setextHeadingParser.Open always
    declines, so the RequireParagraph path of openBlocks (parser.go:985-997) is never entered. -/
abbrev NoUnderline (src : Bytes) : Prop := GM.Blocks.L.B.NoSetextBar src

/-- a decidable sufficient condition: the source has neither `-` nor `=` -/
theorem no_underline_of_setext_free (src : Bytes) (h : GM.Blocks.T.SetextFree src) : NoUnderline src :=
  GM.Blocks.T.noBar_of_setextFree src h

/-- a decidable sufficient condition that allows `-` and `=`: the executable test `noBarB` (the views from every byte offset with
    the paddings 0..3; more than 3 leading spaces never make an underline) -/
theorem no_underline_of_check (src : Bytes) (h : GM.Blocks.T.noBarB src = true) : NoUnderline src :=
  GM.Blocks.T.noBarB_sound h

/-- non-vacuity (test on a literal, kernel-evaluated): `[a]: /u⏎⏎- [a]⏎- b = c⏎` — a definition, a bullet list written with
    `-`, an `=` in the text — is in the class -/
example : NoUnderline [91, 97, 93, 58, 32, 47, 117, 10, 10, 45, 32, 91, 97, 93, 10, 45, 32, 98, 32, 61, 32, 99, 10] :=
  no_underline_of_check _ (by decide +kernel)

/-- … and `Title⏎===⏎` is not accepted by the test (it is the RequireParagraph path) -/
example : GM.Blocks.T.noBarB [84, 10, 61, 61, 61, 10] = false := by decide +kernel

/-- **the block driver with paragraph transformers is total, for EVERY list of transformers that keep the contract** — on every
    source without a setext underline (`NoUnderline`), ALL ten block parsers, lists included: `parseBlocks` with
    `transformParagraph` called from `closeBlocks` returns a tree all of whose line segments lie inside the source, or a
    transformer's run-time guard answered `e`. No Go panic of parseBlocks / openBlocks / closeBlocks / the block parsers / the
    tree surgery, no fuel exhaustion, and NEITHER contract monitor of the retry loop (`retryStepT` (1)/(2)) fires. `_partial`:
    on sources with an underline the RequireParagraph path is live; what its proof needs is in notes/status_tnopanic.md. -/
theorem block_phase_with_transformers_total_partial (src : Bytes) (e : Panic) (pts : List PT) (hs : PTsSpec src e pts)
    (hl : PTsOK pts) (hsrc : NoUnderline src) :
    (∃ s, runT pts src = .ok s ∧ NodesOK src s) ∨ runT pts src = .error e :=
  GM.Blocks.T.runT_total_noBar src e pts hs hl hsrc

/-- **partial — the block phase of the default pipeline never raises a Go panic** on such sources:
    `GM.Convert.blockPhase true src` (the link reference transformer behind its run-time check) returns a tree with all line
    segments in range, or answers `pre` — the outcome of the run-time check `WFSegs` and of contract monitor (3), the only
    abnormal ends left; every Go run-time panic of the model (`index`, `slice`, `nil`, `assert`, `explicit`) and the fuel error
    are excluded. -/
theorem block_phase_no_go_panic_partial (src : Bytes) (hsrc : NoUnderline src) :
    (∃ s, blockPhase true src = .ok s ∧ NodesOK src s) ∨ blockPhase true src = .error .pre :=
  GM.Blocks.T.runT_total_noBar src .pre (paragraphTransformers true) (paragraphTransformers_spec src)
    GM.Proof.LinkRefPres.paragraphTransformers_ok hsrc

/-- the same with the list shape of the returned store exported (`KidsOK`: the children of a List are ListItems with offset ≥ 0,
    a node whose parent is a List is a ListItem) — what the end-to-end C05 statement of GM.Props.ConvertE2ENT consumes -/
theorem block_phase_store_shape_partial (src : Bytes) (hsrc : NoUnderline src) :
    (∃ s, blockPhase true src = .ok s ∧ NodesOK src s ∧ KidsOK s) ∨ blockPhase true src = .error .pre :=
  GM.Blocks.T.runT_total_noBar_kids src .pre (paragraphTransformers true) (paragraphTransformers_spec src)
    GM.Proof.LinkRefPres.paragraphTransformers_ok hsrc

/-- **partial — no Go panic in the block phase, in the form that composes with "the guard never fires"** (GM.Props.Wf0): with the transformer behind
    the check `linesOKB` (`WFSegs` ∧ no blank line) whose outcome `e` is a PARAMETER, the run ends normally or with `e` — for
    every `e`. Since `e` is arbitrary, the check is the only source of an abnormal end: if `runT [guardE e] src` is the same
    for two different `e` (e.g. because the check never fires), it is `.ok`. -/
theorem block_phase_total_modulo_guard_partial (e : Panic) (he : e ≠ .loop) (src : Bytes) (hsrc : NoUnderline src) :
    (∃ s, runT [guardE e] src = .ok s ∧ NodesOK src s) ∨ runT [guardE e] src = .error e :=
  GM.Blocks.T.runT_total_noBar src e [guardE e] (guardE_ptsSpec src e) (guardE_ptsOK e he) hsrc

/-- the same for sources without `-` `=` `*` `+` and digits (no byte triggers the setext heading, list or list item parser) —
    subsumed by the theorem above -/
theorem block_phase_with_transformers_total_list_free (src : Bytes) (e : Panic) (pts : List PT) (hs : PTsSpec src e pts)
    (hl : PTsOK pts) (hsrc : GM.Blocks.T.SetextListFree src) :
    (∃ s, runT pts src = .ok s ∧ NodesOK src s) ∨ runT pts src = .error e :=
  GM.Blocks.T.runT_total_base src e pts hs hl hsrc

/-- **partial — none of the model's contract monitors fires** on such sources: with the guard's outcome chosen different
    from `pre` (the code every monitor answers: retry monitors (1)/(2) of `retryStepT`, the progress monitor of the scan, the
    stale-elements check of `removeLoop`, contract monitor (3) of `finishLines`), the run never ends in `pre` -/
theorem monitors_never_fire_partial (e : Panic) (he : e ≠ .loop) (hp : e ≠ .pre) (src : Bytes) (hsrc : NoUnderline src) :
    runT [guardE e] src ≠ .error .pre := by
  intro h
  rcases block_phase_total_modulo_guard_partial e he src hsrc with ⟨s, h', _⟩ | h'
  · rw [h] at h'; cases h'
  · rw [h] at h'; cases h'; exact hp rfl

/-! ### (c)/(d) the block phase WITH paragraph transformers, whole runs — GENERAL: every byte string -/

/-- **The block driver with paragraph transformers is total, for EVERY byte string and EVERY list of transformers that keep the
    contract** (`PTsSpec src e pts`: a call on a Paragraph with a parent ends as `PTPost` says or answers the guard's outcome `e`;
    `PTsOK pts`: no transformer exhausts fuel): `parseBlocks` with `transformParagraph` called where parser.go calls it —
    `closeBlocks` (parser.go:904-907) and the RequireParagraph path of `openBlocks` (985-997: `Close` the paragraph, pop it,
    transform it, `continuable = false; goto retry` when it has been transformed away) — returns a tree all of whose line segments
    lie inside the source and whose Lists only have ListItem children, or a transformer's guard answered `e`. No Go panic of
    parseBlocks / openBlocks / closeBlocks / the ten block parsers / the tree surgery (incl. `setextHeadingParser.Close` on a
    transformed paragraph and the stale slice read `openedBlocks[lastIndex]` behind a transformed retry), no fuel exhaustion,
    and NEITHER contract monitor of the retry loop (`retryStepT` (1)/(2)) fires. Invariants beyond those of the plain driver (GM.Proof.BlocksTNPTree, BlocksTNPWin): parent
    pointers and children lists agree (`TreeOK`), the last opened leaf is the last child of its parent (so the `else` of
    `last == parent.LastChild()` is dead), `temporaryParagraphKey` is only constrained while a setext block is open. -/
theorem block_phase_with_transformers_total (src : Bytes) (e : Panic) (pts : List PT) (hs : PTsSpec src e pts)
    (hl : PTsOK pts) :
    (∃ s, runT pts src = .ok s ∧ NodesOK src s ∧ KidsOK s) ∨ runT pts src = .error e :=
  GM.Blocks.T.runT_total src e pts hs hl

/-- **The block phase of the default pipeline never raises a Go panic, for EVERY byte string**:
    `GM.Convert.blockPhase true src` (the link reference transformer behind its run-time check) returns a tree, or answers `pre` —
    the outcome of the run-time check `WFSegs` and of contract monitor (3), the only abnormal ends left; every Go run-time panic of
    the model (`index`, `slice`, `nil`, `assert`, `explicit`) and the fuel error are excluded. -/
theorem block_phase_no_go_panic (src : Bytes) :
    (∃ s, blockPhase true src = .ok s ∧ NodesOK src s ∧ KidsOK s) ∨ blockPhase true src = .error .pre :=
  GM.Blocks.T.runT_total src .pre (paragraphTransformers true) (paragraphTransformers_spec src)
    GM.Proof.LinkRefPres.paragraphTransformers_ok

/-- **No Go panic in the block phase of the default pipeline, in the form that composes with "the guard never fires"**: with the transformer behind the check `linesOKB`
    (`WFSegs` ∧ no blank line) whose outcome `e` is a PARAMETER, every run ends normally or with `e` — for every `e` and every byte
    string -/
theorem block_phase_total_modulo_guard (e : Panic) (he : e ≠ .loop) (src : Bytes) :
    (∃ s, runT [guardE e] src = .ok s ∧ NodesOK src s ∧ KidsOK s) ∨ runT [guardE e] src = .error e :=
  GM.Blocks.T.runT_total src e [guardE e] (guardE_ptsSpec src e) (guardE_ptsOK e he)

/-- **None of the model's contract monitors fires, for EVERY byte string**: with the guard's outcome chosen different
    from `pre` (the code every monitor answers: retry monitors (1)/(2) of `retryStepT`, the progress monitor of the scan, the
    stale-elements check of `removeLoop`, contract monitor (3) of `finishLines`), no run ends in `pre` -/
theorem monitors_never_fire (e : Panic) (he : e ≠ .loop) (hp : e ≠ .pre) (src : Bytes) :
    runT [guardE e] src ≠ .error .pre := by
  intro h
  rcases block_phase_total_modulo_guard e he src with ⟨s, h', _⟩ | h'
  · rw [h] at h'; cases h'
  · rw [h] at h'; cases h'; exact hp rfl

/-! ### "the guard never fires": the lines handed to the transformer are `WFSegs` and none is blank -/

/-- **the run-time check in front of the transformer never fires** — on every source without a setext underline: the block phase
    with the guarded transformer IS the block phase with the bare `Transform`, whatever the guard would answer. Invariant (`InvW` of
    GM.Proof.BlocksTNOInvW: `Inv` of GM.Proof.BlocksOrdInv carried through the driver with transformers, GM.Proof.BlocksTNO*W): the lines of every non-raw block increase, every
    segment is non-empty, every line of a Paragraph holds a non-space byte; a transformer call (`PTPost`) only drops a prefix of the
    lines, so all of it survives. -/
theorem guard_never_fires_no_underline (src : Bytes) (h : NoUnderline src) (e : Panic) :
    runT [guardE e] src = runT [transform] src :=
  GM.Blocks.TO.guard_never_fires src e

/-- … hence **the block phase with the bare transformer ends normally** on such sources: no guard, no monitor, no panic -/
theorem transform_run_total_no_underline (src : Bytes) (h : NoUnderline src) :
    ∃ s, runT [transform] src = .ok s ∧ NodesOK src s :=
  GM.Blocks.TO.runT_transform_total src

/-- … and **C01 for the block phase of the default pipeline, unconditional on such sources**: `blockPhase true src` returns a tree;
    the run-time check is an observer (`blockPhase true = blockPhase false`) -/
theorem block_phase_total_no_underline (src : Bytes) (h : NoUnderline src) :
    ∃ s, blockPhase true src = .ok s ∧ NodesOK src s :=
  GM.Blocks.TO.blockPhase_total src

theorem block_phase_guard_is_observer_no_underline (src : Bytes) (h : NoUnderline src) :
    blockPhase true src = blockPhase false src :=
  GM.Blocks.TO.blockPhase_guard_irrelevant src

/-- the C05(c) facts for the store the block phase WITH the transformer returns (such sources): the lines of every non-raw block
    increase, segments are non-empty without ForceNewline, `WFSegs` when there are lines; every line of a Paragraph holds a non-space
    byte -/
theorem transform_run_lines_wellformed_no_underline (src : Bytes) (h : NoUnderline src) (s : St)
    (hr : runT [transform] src = .ok s) :
    (∀ n ∈ s.nodes, GM.Proof.BlocksWF0.isRaw n.kind = false → OrdFrom 0 n.lines ∧ (∀ t ∈ n.lines, t.start < t.stop ∧ t.forceNewline = false) ∧
      (n.lines ≠ [] → WFSegs src n.lines)) ∧
    (∀ n ∈ s.nodes, n.kind = .paragraph → ∀ t ∈ n.lines, NonBlankSeg src t) :=
  GM.Blocks.TO.runT_transform_wfsegs src s hr

/-! ### "the guard never fires" and C01 for the block phase — GENERAL: every byte string -/

/-- **The run-time check in front of the transformer never fires, for EVERY byte string**: the block phase with the guarded
    transformer (`guardE e`: check `WFSegs` ∧ no blank line, outcome `e`) IS the block phase with the bare `Transform`, whatever
    `e`. Invariant carried through the whole driver with transformers, RequireParagraph path included (GM.Proof.BlocksTNO*W:
    `InvW`, the form of `Inv` of GM.Proof.BlocksOrdInv for this driver, next to the no-panic walk): the lines of every non-raw block increase, every segment is non-empty, every
    line of a Paragraph holds a non-space byte; `Transform` only drops a prefix of the lines (`PTPost`); the setext heading takes
    the lines of a paragraph that still has some. -/
theorem guard_never_fires (src : Bytes) (e : Panic) : runT [guardE e] src = runT [transform] src :=
  GM.Blocks.TO.guard_never_fires src e

/-- **C01, block phase of the default pipeline, for EVERY byte string: `GM.Convert.blockPhase true src` returns a tree** — no Go
    run-time panic, no fuel exhaustion, no contract monitor, and the run-time check `WFSegs` of `guardedTransform` does not fire —
    all of whose line segments lie inside the source and whose Lists only have ListItem children. -/
theorem block_phase_total (src : Bytes) : ∃ s, blockPhase true src = .ok s ∧ NodesOK src s ∧ KidsOK s := by
  obtain ⟨s, hs, _⟩ := GM.Blocks.TO.blockPhase_total src
  rcases block_phase_no_go_panic src with h | h
  · exact h
  · rw [hs] at h; cases h

/-- the run-time check of the composition is an observer: with and without it the block phase is the same function -/
theorem block_phase_guard_is_observer (src : Bytes) : blockPhase true src = blockPhase false src :=
  GM.Blocks.TO.blockPhase_guard_irrelevant src

/-- the block phase with the bare transformer (`blockPhase false`) returns a tree for every byte string -/
theorem transform_run_total (src : Bytes) : ∃ s, runT [transform] src = .ok s ∧ NodesOK src s :=
  GM.Blocks.TO.runT_transform_total src

/-- **C05(c) for the store the block phase WITH the transformer returns, every byte string**: the lines of every non-raw block
    increase, segments are non-empty without ForceNewline, `WFSegs` when there are lines; every line of a Paragraph holds a
    non-space byte (the same as `GM.Props.Wf0.inline_lines_wellformed` (for `run`), for `runT`) -/
theorem transform_run_lines_wellformed (src : Bytes) (s : St) (hr : runT [transform] src = .ok s) :
    (∀ n ∈ s.nodes, GM.Proof.BlocksWF0.isRaw n.kind = false → OrdFrom 0 n.lines ∧
        (∀ t ∈ n.lines, t.start < t.stop ∧ t.forceNewline = false) ∧ (n.lines ≠ [] → WFSegs src n.lines)) ∧
    (∀ n ∈ s.nodes, n.kind = .paragraph → ∀ t ∈ n.lines, NonBlankSeg src t) :=
  GM.Blocks.TO.runT_transform_wfsegs src s hr

/-- … for `blockPhase true` itself -/
theorem block_phase_lines_wellformed (src : Bytes) (s : St) (hr : blockPhase true src = .ok s) :
    (∀ n ∈ s.nodes, GM.Proof.BlocksWF0.isRaw n.kind = false → OrdFrom 0 n.lines ∧
        (∀ t ∈ n.lines, t.start < t.stop ∧ t.forceNewline = false) ∧ (n.lines ≠ [] → WFSegs src n.lines)) ∧
    (∀ n ∈ s.nodes, n.kind = .paragraph → ∀ t ∈ n.lines, NonBlankSeg src t) := by
  rw [block_phase_guard_is_observer] at hr
  exact transform_run_lines_wellformed src s (by simpa [blockPhase, paragraphTransformers] using hr)

/-! ### the close discipline for the driver WITH transformers: padding 0 on every attached non-raw block -/

/-- **Every non-raw block of the store `blockPhase true` returns has padding 0 on all its lines — unless it is a PARENTLESS
    Heading** (the close discipline `GM.Props.Wf0.nonraw_lines_padding_zero`, carried through the driver with transformers,
    GM.Proof.BlocksTNOCl*). The exception is real: see `abandoned_heading_keeps_padding`. -/
theorem block_phase_lines_closed (src : Bytes) (s : St) (h : blockPhase true src = .ok s) :
    ∀ i, GM.Proof.BlocksWF0.isRaw (nd s i).kind = false →
      (∀ t ∈ (nd s i).lines, t.padding = 0) ∨ ((nd s i).kind = .heading ∧ (nd s i).parent = none) :=
  GM.Blocks.TO.blockPhase_closed src s h

/-- the tree-walk form (what `walkBlock` / the inline phase visit): every entry of a child list has that parent and, when it is
    not raw, padding 0 on all its lines -/
theorem block_phase_child_lines_padding_zero (src : Bytes) (s : St) (h : blockPhase true src = .ok s) (p c : Nat)
    (hc : c ∈ (nd s p).children) :
    (nd s c).parent = some p ∧
      (GM.Proof.BlocksWF0.isRaw (nd s c).kind = false → ∀ t ∈ (nd s c).lines, t.padding = 0) :=
  GM.Blocks.TO.blockPhase_child_closed src s h p c hc

/-- the conjunction `GM.Props.ConvertE2ENT.convert_total_of_block_phase_theorems` composes with: children of any
    node are padding-free when not raw, and the Document node has no lines -/
theorem block_phase_lines_padding_zero (src : Bytes) (s : St) (h : blockPhase true src = .ok s) :
    (∀ p c, c ∈ (s.nodes.getD p default).children → GM.Proof.BlocksWF0.isRaw (s.nodes.getD c default).kind = false →
        ∀ t ∈ (s.nodes.getD c default).lines, t.padding = 0) ∧ (s.nodes.getD 0 default).lines = [] :=
  GM.Blocks.TO.blockPhase_pad_facts src s h

/-- Document, Blockquote, List, ListItem and ThematicBreak nodes have no lines; node 0 is the Document; the open-block stack is
    empty at the end; parent pointers and child lists agree (`TreeOK`) -/
theorem block_phase_container_nodes_have_no_lines (src : Bytes) (s : St) (h : blockPhase true src = .ok s) :
    ∀ i, noLinesKind (nd s i).kind = true → (nd s i).lines = [] :=
  GM.Blocks.TO.blockPhase_no_lines src s h

theorem block_phase_root_is_document (src : Bytes) (s : St) (h : blockPhase true src = .ok s) :
    (nd s 0).kind = .document ∧ 0 < s.nodes.length :=
  GM.Blocks.TO.blockPhase_root src s h

theorem block_phase_stack_empty_at_end (src : Bytes) (s : St) (h : blockPhase true src = .ok s) : s.pc.opened = [] :=
  GM.Blocks.TO.blockPhase_opened_nil src s h

theorem block_phase_tree_consistent (src : Bytes) (s : St) (h : blockPhase true src = .ok s) : TreeOK s :=
  GM.Blocks.TO.blockPhase_tree src s h

/-- **C05(c) order clause for the store `blockPhase true` returns, EVERY node, raw kinds included** (CodeBlock / FencedCodeBlock /
    HTMLBlock: the `PadL` / `RawC` machinery of GM.Proof.BlocksOrdRaw carried through the driver with transformers): the line segments
    of every node increase -/
theorem block_phase_lines_ordered (src : Bytes) (s : St) (h : blockPhase true src = .ok s) :
    ∀ n ∈ s.nodes, OrdFrom 0 n.lines :=
  GM.Blocks.TO.blockPhase_ordered_all src s h

theorem block_phase_raw_lines_ordered (src : Bytes) (s : St) (h : blockPhase true src = .ok s) :
    ∀ n ∈ s.nodes, GM.Proof.BlocksWF0.isRaw n.kind = true → OrdFrom 0 n.lines :=
  GM.Blocks.TO.blockPhase_ordered_raw src s h

/-- **"padding 0 on every non-raw node of the store" is FALSE for the driver with transformers** (kernel-evaluated witness):
    in `> [a]: /u⏎>⇥===⏎` setextHeadingParser.Open builds a Heading on the tab-padded underline (segment 12..16, padding 2), the
    paragraph is transformed away, `continuable = false; goto retry` — the Heading is abandoned: it stays in the store, parentless,
    with its padded line (Go: garbage; never visited by `walkBlock`). -/
theorem abandoned_heading_keeps_padding :
    ∃ s, blockPhase true [62, 32, 91, 97, 93, 58, 32, 47, 117, 10, 62, 9, 61, 61, 61, 10] = .ok s ∧
      (nd s 3).kind = .heading ∧ (nd s 3).parent = none ∧ (nd s 3).lines.map (·.padding) = [2] := by
  cases h : blockPhase true [62, 32, 91, 97, 93, 58, 32, 47, 117, 10, 62, 9, 61, 61, 61, 10] with
  | error e => exact absurd h (by
      have := block_phase_total [62, 32, 91, 97, 93, 58, 32, 47, 117, 10, 62, 9, 61, 61, 61, 10]
      obtain ⟨s, hs, _⟩ := this
      rw [hs]; intro hh; cases hh)
  | ok s =>
    refine ⟨s, rfl, ?_⟩
    have e : (blockPhase true [62, 32, 91, 97, 93, 58, 32, 47, 117, 10, 62, 9, 61, 61, 61, 10]).toOption.map
        (fun s => ((nd s 3).kind == .heading, (nd s 3).parent, (nd s 3).lines.map (·.padding))) = some (true, none, [2]) := by
      decide +kernel
    rw [h] at e
    simp only [Except.toOption, Option.map_some, Option.some.injEq, Prod.mk.injEq, beq_iff_eq] at e
    exact e

/-- tests on literals (kernel-evaluated): `a⏎[b]: /u⏎===⏎` — RequireParagraph path, the paragraph keeps a line (KEEP), setext
    heading; `[a]: /u⏎===⏎x⏎` — the paragraph is transformed away (GONE → `continuable = false; goto retry`) -/
example : (blockPhase true [97, 10, 91, 98, 93, 58, 32, 47, 117, 10, 61, 61, 61, 10]).toOption.isSome = true := by decide +kernel
example : (blockPhase true [91, 97, 93, 58, 32, 47, 117, 10, 61, 61, 61, 10, 120, 10]).toOption.isSome = true := by decide +kernel

/-- how the two results compose (no hypothesis on the source here): if the guard's outcome does not influence the run — what
    "the guard never fires" gives — then a run that ends "normally or with `e`" for every `e` ends normally -/
theorem total_of_guard_irrelevant (src : Bytes)
    (hirr : ∀ e, runT [guardE e] src = runT [transform] src)
    (htot : ∀ e, e ≠ .loop → (∃ s, runT [guardE e] src = .ok s) ∨ runT [guardE e] src = .error e) :
    ∃ s, runT [transform] src = .ok s := by
  rcases htot .index (by decide) with ⟨s, h⟩ | h1
  · exact ⟨s, by rw [← hirr]; exact h⟩
  · rcases htot .nil (by decide) with ⟨s, h⟩ | h2
    · exact ⟨s, by rw [← hirr]; exact h⟩
    · rw [hirr] at h1 h2
      rw [h1] at h2
      cases h2

/-- non-vacuity (tests on literals): a source with a definition, a bullet list item and a block quote is `SetextFree`; the
    block phase of the default pipeline returns a tree on it -/
example : NoUnderline [91, 97, 93, 58, 32, 47, 117, 10, 10, 42, 32, 91, 97, 93, 10, 62, 32, 120, 10] :=
  no_underline_of_setext_free _ (by decide)
example : (blockPhase true [91, 97, 93, 58, 32, 47, 117, 10, 10, 42, 32, 91, 97, 93, 10, 62, 32, 120, 10]).toOption.isSome = true := by
  decide +kernel
example : GM.Blocks.T.SetextListFree [91, 97, 93, 58, 32, 47, 117, 10, 10, 62, 32, 91, 97, 93, 10] := by decide
example : (blockPhase true [91, 97, 93, 58, 32, 47, 117, 10, 10, 62, 32, 91, 97, 93, 10]).toOption.isSome = true := by
  decide +kernel

end GM.Props.ConvertNP
