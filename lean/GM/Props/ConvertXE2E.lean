/-
  GM.Props.ConvertXE2E — C01 END TO END WITH EXTENSIONS on the composed models (GM.ConvertX.convertX / convertL, tied to the real
  code on whole documents by component `convertx`): for the member sets WITHOUT Table — Strikethrough, TaskList, Linkify on or
  off, 8 of the 16 — the model answers HTML for EVERY byte string, Unicode-class assignment and renderer option set: no error
  outcome of any phase. Composition of the statements of GM.Props.ConvertNP about the default block phase (the
  block phase of these member sets IS the default one), the totality of the inline loop over the members' trigger
  table (GM.Proof.ConvertXTotal), and, proved here: the segments of the inline tree are in range and padding-free (every `Segment.Value` answers), every
  CodeSpan holds Text (no node renderer panics). Helper lemmas: GM/Proof/ConvertXE2E*.lean.
-/
import GM.Proof.ConvertXE2E
import GM.Proof.ConvertXE2ESpec
import GM.Proof.ConvertXE2ETable
import GM.Proof.ConvertXE2EEsc
import GM.Props.ConvertNP
import GM.Props.ConvertL

namespace GM.Props.ConvertXE2E
open GM GM.Text GM.Convert GM.ConvertX GM.Spec

/-- **`convertl_total_no_table`** (C01 end to end, 8 member sets): with Table off — Strikethrough, TaskList, Linkify in any
    combination — `convertL` answers HTML for every source, class assignment and option set. -/
theorem convertl_total_no_table (c : GCfg) (ht : c.base.table = false) (uc : List (Nat × (Bool × Bool))) (o : ROpts)
    (src : Bytes) : ∃ html, convertL c uc o src = .ok html := by
  obtain ⟨st, hst, hN, _⟩ := GM.Props.ConvertNP.block_phase_total src
  have hW := GM.Props.ConvertNP.block_phase_lines_wellformed src st hst
  have hP := GM.Props.ConvertNP.block_phase_lines_padding_zero src st hst
  exact GM.Proof.ConvertXE2E.convertL_total_of_tree_facts c ht uc o st hst (fun n hn t ht => (hN n hn).lines t ht)
    (fun n hn hr hne => ((hW.1 n hn hr).2.2) hne) hP.1 hP.2

/-- **`convertx_total`**: the member sets of {Strikethrough, TaskList} — `convertX` answers HTML for every byte string -/
theorem convertx_total (c : XCfg) (ht : c.table = false) (uc : List (Nat × (Bool × Bool))) (o : ROpts) (src : Bytes) :
    ∃ html, convertX c uc o src = .ok html := by
  rw [← GM.Props.ConvertL.convertl_off_is_convertx]
  exact convertl_total_no_table { base := c, linkify := false } ht uc o src

/-- no outcome other than HTML -/
theorem convertx_never_errs (c : XCfg) (ht : c.table = false) (uc : List (Nat × (Bool × Bool))) (o : ROpts) (src : Bytes)
    (e : Err) : convertX c uc o src ≠ .error e := by
  obtain ⟨html, h⟩ := convertx_total c ht uc o src
  rw [h]; intro h'; cases h'

/-- **`convertl_total_linkify`** (without Table): Linkify next to any subset of {Strikethrough, TaskList} -/
theorem convertl_total_linkify (s t : Bool) (uc : List (Nat × (Bool × Bool))) (o : ROpts) (src : Bytes) :
    ∃ html, convertL { base := { strikethrough := s, tasklist := t }, linkify := true } uc o src = .ok html :=
  convertl_total_no_table _ rfl uc o src

theorem convertl_never_errs_no_table (c : GCfg) (ht : c.base.table = false) (uc : List (Nat × (Bool × Bool))) (o : ROpts)
    (src : Bytes) (e : Err) : convertL c uc o src ≠ .error e := by
  obtain ⟨html, h⟩ := convertl_total_no_table c ht uc o src
  rw [h]; intro h'; cases h'

/-! ### the pieces, each a statement of its own -/

/-- the inline phase of a block under ANY of the 16 member sets, on lines that pass the run-time check: it answers, and every
    segment of its tree lies inside the source, is not inverted and carries no padding (so every `Segment.Value` answers) -/
theorem inline_phase_total_segments_resolve (c : GCfg) (inItem : Bool) (env : GM.Inl.Env) (src : Bytes) (segs : List Segment)
    (W : WFSegs src segs) (Z : ∀ s ∈ segs, s.padding = 0) :
    ∃ kids, parseBlockG env (inlineTblL c inItem) (pdX c.base) src segs = .ok kids ∧
      ∀ s ∈ GM.Proof.InlinesTotal.segsOfL kids, segInRange src s :=
  GM.Proof.ConvertXE2E.parseBlockL_total_segs c inItem W Z env

/-- every CodeSpan of the tree the inline phase answers holds Text nodes only (what renderCodeSpan's `c.(*ast.Text)` needs),
    all 16 member sets, every source and lines -/
theorem inline_phase_code_spans_hold_text (c : GCfg) (inItem : Bool) (env : GM.Inl.Env) (src : Bytes) (lines : List Segment)
    (kids : List GM.Inl.Node) (h : parseBlockG env (inlineTblL c inItem) (pdX c.base) src lines = .ok kids) :
    GM.Proof.ConvertXE2E.csHL kids = true :=
  GM.Proof.ConvertXE2ECS.parseBlockG_csHL c inItem env src lines kids h

/-- the segments of that tree are padding-free whenever the lines are (no reader refinement needed) -/
theorem inline_phase_segments_unpadded (c : GCfg) (inItem : Bool) (env : GM.Inl.Env) (src : Bytes) (segs : List Segment)
    (hz : ∀ s ∈ segs, s.padding = 0) (kids : List GM.Inl.Node)
    (h : parseBlockG env (inlineTblL c inItem) (pdX c.base) src segs = .ok kids) :
    ∀ s ∈ GM.Proof.InlinesTotal.segsOfL kids, s.padding = 0 :=
  GM.Proof.ConvertXE2EPad.parseBlockG_unpadded c inItem env src segs hz kids h

/-- no node renderer panics on a tree without attributes whose Headings have level ≤ 6 and whose CodeSpans hold Text —
    whatever the renderer configuration and member set -/
theorem render_no_panic_of_shape (rc : RCfg) (t : GM.Node) (h : GM.Proof.ConvertXE2E.okN t = true) : renderPanics rc t = none :=
  GM.Proof.ConvertXE2E.renderPanics_none_of_okN rc t h

/-! ### with Table: sources without '-' -/

/-- **`convertl_total_dash_free`**: ALL 16 member sets (Table and `extension.GFM` among them) on a source without '-' — the table
    paragraph transformer never finds a delimiter row (`convertl_conservative_table`), so the conversion is the one without
    Table, which is total -/
theorem convertl_total_dash_free (c : GCfg) (uc : List (Nat × (Bool × Bool))) (o : ROpts) (src : Bytes)
    (hsrc : (45 : UInt8) ∉ src) : ∃ html, convertL c uc o src = .ok html := by
  have e := GM.Props.ConvertL.convertl_conservative_table c uc o src hsrc
  have hc : ({ c with base := { c.base with table := true } } : GCfg) = c ∨
      ({ c with base := { c.base with table := false } } : GCfg) = c := by
    cases h : c.base.table with
    | true => left; cases c with | mk b l => cases b; simp_all
    | false => right; cases c with | mk b l => cases b; simp_all
  have tot := convertl_total_no_table { c with base := { c.base with table := false } } rfl uc o src
  rcases hc with hc | hc
  · rw [hc] at e; rw [e]; exact tot
  · rw [hc] at tot; exact tot

theorem convertgfm_total_dash_free (uc : List (Nat × (Bool × Bool))) (o : ROpts) (src : Bytes) (hsrc : (45 : UInt8) ∉ src) :
    ∃ html, convertGFM uc o src = .ok html :=
  convertl_total_dash_free gfmCfg uc o src hsrc

theorem convertx_total_dash_free (c : XCfg) (uc : List (Nat × (Bool × Bool))) (o : ROpts) (src : Bytes)
    (hsrc : (45 : UInt8) ∉ src) : ∃ html, convertX c uc o src = .ok html := by
  rw [← GM.Props.ConvertL.convertl_off_is_convertx]
  exact convertl_total_dash_free { base := c, linkify := false } uc o src hsrc

/-! ### with Table: why `block_phase_with_transformers_total` does not apply -/

/-- **`table_transformer_outside_contract`** (negative): the driver theorem of GM.Props.ConvertNP takes any transformer list with
    `PTsSpec src e` — every call ends in `PTPost` (the paragraph keeps a SUFFIX of its lines and nothing else changes, or it is
    replaced by ONE fresh TextBlock) or answers `e`. The table paragraph transformer is OUTSIDE that contract on every call
    that builds a table: from any state, if `GM.Table.transform` finds a table in the paragraph's lines and `transformPT`
    answers a state, that state is not `PTPost` of the initial one (it holds at least two more nodes: Table, TableHeader; the
    paragraph keeps a PREFIX of its lines, or is removed). So block-phase totality with Table needs the wider contract
    `PTsSpecX` (GM.Props.ConvertNPX.block_phase_with_transformers_total_x). -/
theorem table_transformer_outside_contract (src : Bytes) (node : Nat) (s s' : GM.Blocks.St) (t : GM.Table.Table)
    (ht : (GM.Table.transform src ((GM.Blocks.nd s node).lines.map GM.TableX.toSeg)).table = some t)
    (h : GM.TableX.transformPT src node s = .ok ((), s')) : ¬ GM.Blocks.PTPost node s s' :=
  GM.Proof.ConvertXE2ESpec.transformPT_not_ptPost src node s s' t ht h

/-- the two counts behind it -/
theorem contract_adds_at_most_one_node {node : Nat} {s s' : GM.Blocks.St} (h : GM.Blocks.PTPost node s s') :
    s'.nodes.length ≤ s.nodes.length + 1 :=
  GM.Proof.ConvertXE2ESpec.ptPost_adds_at_most_one h

theorem build_table_adds_two_nodes (src : Bytes) (node : Nat) (parent : Option Nat) (para : List GM.Table.Seg)
    (t : GM.Table.Table) (s s' : GM.Blocks.St) (h : GM.TableX.buildTable src node parent para t s = .ok ((), s')) :
    s.nodes.length + 2 ≤ s'.nodes.length :=
  GM.Proof.ConvertXE2ESpec.buildTable_adds_two src node parent para t s s' h

/-! ### with Table: the tree phases below a cell (pieces) -/

/-- tableASTTransformer's walk below a cell keeps "every CodeSpan holds Text nodes only", for ANY list of recorded positions -/
theorem escaped_pipe_walk_keeps_code_spans (ps : List Int) (ns : List GM.Inl.Node)
    (h : GM.Proof.ConvertXE2E.csHL ns = true) : GM.Proof.ConvertXE2E.csHL (GM.TableX.escNodes ps ns) = true :=
  GM.Proof.ConvertXE2ECells.escNodes_csHL ps ns h

/-- … and keeps every segment in range when the positions are ascending (they are recorded in document order): the pieces
    `[start, pos)` and `[pos+1, stop)` of a Text that holds an escaped pipe are never inverted; so every `Segment.Value` of a
    cell's decoded children answers -/
theorem escaped_pipe_walk_segments_resolve (c : GCfg) (src : Bytes) (ps : List Int) (hs : ps.Pairwise (· < ·))
    (kids : List GM.Inl.Node) (h : ∀ s ∈ GM.Proof.InlinesTotal.segsOfL kids, segInRange src s) :
    ∃ ts, inlineTreesL c src (GM.TableX.escNodes ps kids) = .ok ts :=
  GM.Proof.ConvertXE2ECells.cell_children_resolve c src ps hs kids h

/-! ### `BlockPhaseXGood`, the part about escaped-pipe positions that does not need the block driver -/

/-- **one row** (table.go:215-235): the positions parseRow records for the escaped pipes of a row are strictly ascending and
    lie inside the paragraph line the row is cut from, `[seg.start, seg.stop)` -/
theorem row_escaped_pipe_positions_ascend (src : Bytes) (seg : GM.Table.Seg) (aligns : List GM.Table.Align) (isHeader : Bool)
    (h : seg.start ≤ seg.stop) :
    (GM.Proof.ConvertXE2EEsc.rowEsc (GM.Table.parseRow src seg aligns isHeader)).Pairwise (· < ·) ∧
      ∀ p ∈ GM.Proof.ConvertXE2EEsc.rowEsc (GM.Table.parseRow src seg aligns isHeader), seg.start ≤ p ∧ p < seg.stop :=
  GM.Proof.ConvertXE2EEsc.parseRow_esc_in src seg aligns isHeader h

/-- **one Table**: whenever tableParagraphTransformer.Transform builds a table from paragraph lines that follow each other in
    the source (none inverted, each ends where or before the next starts), the escaped-pipe positions it records — the header's,
    then the body rows' in order: exactly the `lines` `buildTable` writes into the TableHeader / TableRow records, i.e. this
    table's stretch of `escOfTree` — are strictly ascending, each inside one of the paragraph's lines. What is left of
    "the recorded positions ascend" is the order ACROSS tables (tree order = source order: a fact about the driver). -/
theorem table_escaped_pipe_positions_ascend (src : Bytes) (lines : List GM.Table.Seg) (t : GM.Table.Table)
    (ho : GM.Proof.ConvertXE2EEsc.OrdLines lines) (h : (GM.Table.transform src lines).table = some t) :
    (GM.Proof.ConvertXE2EEsc.tableEsc t).Pairwise (· < ·) ∧
      ∀ p ∈ GM.Proof.ConvertXE2EEsc.tableEsc t, ∃ s ∈ lines, s.start ≤ p ∧ p < s.stop :=
  GM.Proof.ConvertXE2EEsc.transform_esc src lines t ho h

/-- the full statement (all 16 member sets, `extension.GFM` among them): with Table NOT proved. `convertl_total_of_block_phase_x`
    reduces it to a statement about the block phase with the table paragraph transformer (`BlockPhaseXGood`);
    `table_transformer_outside_contract` says why the generic driver theorem of GM.Props.ConvertNP does not give that statement as it is. -/
def ConvertLTotal : Prop :=
  ∀ (c : GCfg) uc o src, ∃ html, convertL c uc o src = .ok html

/-- what is left of `ConvertLTotal`, exactly — a statement about the LINES in the store `blockPhaseX` (the block phase with
    `[guardedTransform, transformPT src]` when Table is on) ends in: it answers; the lines of raw blocks are in range; the lines
    of every node that is somebody's child and bears inline content — not raw, not a TableHeader / TableRow (whose `lines` are
    the model's bookkeeping), not an empty cell — are `WF0`; the Document has no lines; the recorded escaped-pipe positions
    are ascending. (Heading levels, the root, info / closure segments: `table_transformer_keeps_frame_invariants`.) -/
def BlockPhaseXGood : Prop :=
  ∀ (c : GCfg) (src : Bytes), ∃ st, blockPhaseX c.base true src = .ok st ∧
    (∀ n ∈ st.nodes, isRawKind n.kind = true → ∀ t ∈ n.lines, segInRange src t) ∧
    (∀ p ch, ch ∈ (st.nodes.getD p default).children → isRawKind (st.nodes.getD ch default).kind = false →
      (c.base.table && GM.TableX.isRowNode src (st.nodes.getD ch default)) = false →
      (c.base.table && GM.TableX.isCellNode src (st.nodes.getD ch default) &&
        (st.nodes.getD ch default).lines.all (fun s => s.start == s.stop && s.padding == 0)) = false →
      (st.nodes.getD ch default).lines ≠ [] → GM.Proof.InlinesReader.WF0 src (st.nodes.getD ch default).lines) ∧
    (st.nodes.getD 0 default).lines = [] ∧
    (if c.base.table then GM.TableX.escOfTree src (GM.Blocks.treeOf st.nodes st.nodes.length 0) else []).Pairwise (· < ·)

/-- **`convertl_total_of_block_phase_x`** (the interface for Table / `extension.GFM`): the tree phases and the renderer side of
    ALL 16 member sets are total on such a store — the inline phase of every inline-bearing node (table cells among them)
    answers, the escaped-pipe transformer keeps segments in range and CodeSpans on Text, every `Segment.Value` answers, no node
    renderer panics. For the 8 member sets without Table the hypothesis is a theorem (`convertl_total_no_table`). -/
theorem convertl_total_of_block_phase_x (H : BlockPhaseXGood) : ConvertLTotal := by
  intro c uc o src
  obtain ⟨st, hst, hL, hW, h0, hE⟩ := H c src
  exact GM.Proof.ConvertXE2E.convertL_total_of_lines_facts c uc o st hst hL hW h0 hE

/-- the same for one source and member set, in `NodeTotX` form (with the frame facts as hypotheses) -/
theorem convertl_total_of_store_facts (c : GCfg) (uc : List (Nat × (Bool × Bool))) (o : ROpts) (src : Bytes)
    (st : GM.Blocks.St) (hst : blockPhaseX c.base true src = .ok st)
    (h0 : GM.Proof.ConvertXE2E.NodeTotX c src (st.nodes.getD 0 default) ∧ GM.E2E.HeadP (st.nodes.getD 0 default))
    (hk : ∀ p ch, ch ∈ (st.nodes.getD p default).children →
      GM.Proof.ConvertXE2E.NodeTotX c src (st.nodes.getD ch default) ∧ GM.E2E.HeadP (st.nodes.getD ch default))
    (hE : (if c.base.table then GM.TableX.escOfTree src (GM.Blocks.treeOf st.nodes st.nodes.length 0) else []).Pairwise (· < ·)) :
    ∃ html, convertL c uc o src = .ok html :=
  GM.Proof.ConvertXE2E.convertL_total_of_treeX c uc o st hst h0 hk hE

/-- **`table_transformer_keeps_frame_invariants`**: the table paragraph transformer keeps EVERY frame invariant of GM.Proof.E2EKeeps
    (`GM.E2E.Frame`) — it allocates `thematicBreak` records without info segment / closure line and rewrites only `lines`,
    `children`, `parent`. Instances, for the store the block phase of ANY member set returns: Heading levels are 1..6, node 0 is
    the Document, a fenced block's info segment and an HTML block's closure line are in range. -/
theorem table_transformer_keeps_frame_invariants {I : GM.Blocks.St → Prop} [GM.E2E.Frame I] (src : Bytes) (node : Nat) :
    GM.E2E.Keeps I (GM.TableX.transformPT src node) :=
  GM.E2E.transformPT_keeps src node

theorem block_phase_x_heading_levels (c : XCfg) (guard : Bool) (src : Bytes) (st : GM.Blocks.St)
    (h : blockPhaseX c guard src = .ok st) : GM.E2E.HeadOK st :=
  GM.E2E.blockPhaseX_headOK c guard src st h

theorem block_phase_x_root_is_document (c : XCfg) (guard : Bool) (src : Bytes) (st : GM.Blocks.St)
    (h : blockPhaseX c guard src = .ok st) : GM.E2E.RootDoc st :=
  GM.E2E.blockPhaseX_rootDoc c guard src st h

theorem block_phase_x_info_closure_in_range (c : XCfg) (guard : Bool) (src : Bytes) (st : GM.Blocks.St)
    (h : blockPhaseX c guard src = .ok st) : ∀ n ∈ st.nodes, GM.E2E.XP src n :=
  GM.E2E.blockPhaseX_xsegs c guard src st h

end GM.Props.ConvertXE2E
