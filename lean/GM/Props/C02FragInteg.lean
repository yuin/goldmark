/-
  Property C02: the hypothesis `BlockPhaseBracketFree` of the quoted stages of GM.Props.C02Frag (10, 13-quoted, 14, 22, 23) is discharged from
  `GM.Props.ConvertE2E.block_phase_bracket_free` (on a source without `[` the block phase with the link-reference transformer equals the
  plain driver's, or is an error) and `GM.Props.ConvertNP.block_phase_total` (never an error).
-/
import GM.Props.C02Frag
import GM.Props.ConvertE2E
import GM.Props.ConvertNP

namespace GM.Props.C02FragInteg
open GM

/-- on a source without `[` the block phase of the default pipeline IS the transformer-free driver's run -/
theorem block_phase_bracket_free_holds : GM.Props.C02Frag.BlockPhaseBracketFree := by
  intro src hb
  rcases GM.Props.ConvertE2E.block_phase_bracket_free true src hb with h | ⟨e, h⟩
  · exact h
  · obtain ⟨s, hs, _⟩ := GM.Props.ConvertNP.block_phase_total src
    rw [hs] at h; cases h

/-- **Conformance inside one block quote** (stage 10): for every stage-6 fragment document without `-`, `*`, `+`, digits, `[`, written with
    `> ` in front of every line, the composed model answers the prescribed HTML of the quoted document — no hypothesis left. -/
theorem fragment10_conforms : type_of% (@GM.Props.C02Frag.fragment10_conforms block_phase_bracket_free_holds) :=
  GM.Props.C02Frag.fragment10_conforms block_phase_bracket_free_holds

/-- the same without the line feed of the last line -/
theorem fragment10_conforms_no_final_newline : type_of% (@GM.Props.C02Frag.fragment10_conforms_no_final_newline block_phase_bracket_free_holds) :=
  GM.Props.C02Frag.fragment10_conforms_no_final_newline block_phase_bracket_free_holds

/-- **Conformance inside `k+1` nested block quotes**, every `k` (stage 14) -/
theorem fragment14_conforms : type_of% (@GM.Props.C02Frag.fragment14_conforms block_phase_bracket_free_holds) :=
  GM.Props.C02Frag.fragment14_conforms block_phase_bracket_free_holds

/-- **The union fragment inside `k+1` nested block quotes** (stage 13, quoted) -/
theorem fragment13_conforms_quoted : type_of% (@GM.Props.C02Frag.fragment13_conforms_quoted block_phase_bracket_free_holds) :=
  GM.Props.C02Frag.fragment13_conforms_quoted block_phase_bracket_free_holds

/-- **Nested block quotes, wider class** (stage 22: digits, `*`, `+`, `-` inside; no line ending in `-` / `=`) -/
theorem fragment22_conforms : type_of% (@GM.Props.C02Frag.fragment22_conforms block_phase_bracket_free_holds) :=
  GM.Props.C02Frag.fragment22_conforms block_phase_bracket_free_holds

/-- **The union fragment with `*` emphasis inside nested block quotes** (stage 22) -/
theorem fragment22_conforms_union : type_of% (@GM.Props.C02Frag.fragment22_conforms_union block_phase_bracket_free_holds) :=
  GM.Props.C02Frag.fragment22_conforms_union block_phase_bracket_free_holds

/-- **The full union (stage 21) inside nested block quotes** (stage 23) -/
theorem fragment23_conforms : type_of% (@GM.Props.C02Frag.fragment23_conforms block_phase_bracket_free_holds) :=
  GM.Props.C02Frag.fragment23_conforms block_phase_bracket_free_holds

end GM.Props.C02FragInteg
