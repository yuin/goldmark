/-
  Property C01 — conversion is total: no panic, no error, always terminates, for any bytes.
  What is PROVED here: for every component of goldmark that is inside the model, on every input (every byte
  string, tree, call sequence, fault position) and under exactly the guard the real code runs it with, the
  model's explicit panic / fuel-exhaustion outcomes are unreachable — the model functions are total Lean
  definitions whose recursion is justified, and each loop that is modelled with fuel has its `fuel suffices`
  theorem here. The theorems are proved in the modules of the properties that own the components and are
  collected here under C01 names (`type_of%` restates the exact statement):
    renderer + node renderers (C03), dispatch of unknown kinds (C20), the AST mutators and Walk (C13), the
    bufio/Render/Convert error path (C14), heading-id probing (C15), Reader/BlockReader and their helpers (C18),
    the inline driver loop for contract-abiding parsers (C05a/C11), line recognisers (C02a).
  The util transformers (escape, unescape, resolvers, URL escape, case folding, label normalisation) are total
  definitions without any panic outcome; their recursion is by structural or well-founded descent
  (GM.Model.Util, GM.Model.Writer) and they are tied to the Go functions by the `util` correspondence.
  The whole BLOCK PHASE is modelled (GM.Model.Blocks) and proved to terminate on every byte string.
  The whole INLINE PHASE with the concrete parsers is modelled (GM.Model.Inlines*) and proved total (no panic, terminates).
  The COMPOSITION for the default CommonMark configuration (block phase with the link reference paragraph transformer,
  inline phase of every block, renderer; GM.Model.Convert, tied to goldmark.Convert on whole documents by component
  `convert`) never hangs: convert_never_loops; and it answers HTML — no panic, no error outcome of any phase, the block
  phase with the paragraph transformer and the hand-over of block lines to the inline phase included — for every byte
  string, every Unicode-class assignment and every option set: `convert_total` (GM.Props.ConvertE2ENP).
  What is NOT proved: extensions and options outside the composed models (GM.Model.Convert and its extended forms of
  GM.Props.ConvertX / C16E2E), stack depth, super-linear running time. That part is
  searched: component `total` (exhaustive short strings + mutated corpus under the configuration lattice,
  panic recovery, per-input watchdog, Convert vs Parse+Render).
-/
import GM.Props.C03
import GM.Props.C13
import GM.Props.C14
import GM.Props.C15
import GM.Props.C18
import GM.Props.C20
import GM.Props.C05a
import GM.Props.C02a
import GM.Props.Blocks
import GM.Props.Inlines
import GM.Props.Attribute
import GM.Props.Convert
import GM.Props.ConvertE2E
import GM.Props.Consts.Parser
import GM.Props.ConvertNP
import GM.Props.Wf0
import GM.Props.ConvertX
import GM.Props.C16E2E
import GM.Props.ConvertE2ENT
import GM.Props.ConvertE2ENP
import GM.Props.ConvertL
import GM.Props.ConvertE2EAll
import GM.Props.ConvertXE2E
import GM.Props.C15Total
import GM.Props.ConvertNPX

namespace GM.Props.C01
open GM

/-- Rendering a tree that satisfies the renderer invariant never panics (heading level index, `c.(*ast.Text)`
    in code spans, the `[]byte` assertion on a table cell's style attribute). -/
theorem render_no_panic : type_of% @GM.Props.C03.inv_noPanic := @GM.Props.C03.inv_noPanic

/-- A node whose kind has no renderer function — inside or beyond the function table — is skipped, its
    children are still walked; no index out of range. -/
theorem unknown_kind_no_panic : type_of% @GM.Props.C20.kind_beyond_table := @GM.Props.C20.kind_beyond_table
theorem unknown_kind_children_walked : type_of% @GM.Props.C20.missing_kind_skipped := @GM.Props.C20.missing_kind_skipped

/-- Every AST mutator call inside the API's proviso returns normally (no nil dereference, its loops end). -/
theorem ast_mutators_no_panic : type_of% @GM.Props.C13.step_refines := @GM.Props.C13.step_refines
/-- …for whole call sequences, with the fuel the model gives its loops. -/
theorem ast_runs_no_panic : type_of% @GM.Props.C13.fuel_suffices := @GM.Props.C13.fuel_suffices
/-- Walk terminates on every tree built through the API and visits it as the textbook traversal. -/
theorem walk_terminates : type_of% @GM.Props.C13.walk_after_run := @GM.Props.C13.walk_after_run

/-- Render/Convert over a failing or non-failing writer never panics and the model's buffer loops never starve. -/
theorem write_path_no_panic : type_of% @GM.Props.C14.never_panics_fuel_suffices := @GM.Props.C14.never_panics_fuel_suffices

/-- The unbounded `for i := 1; ; i++` probing of ids.Generate terminates for every table and value. -/
theorem heading_id_probing_terminates : type_of% @GM.Props.C15.generate_terminates := @GM.Props.C15.generate_terminates

/-- Reader and BlockReader calls inside their documented preconditions never panic; the helper loops
    (SkipSpaces, SkipBlankLines, ReadRune, FindClosure) terminate. -/
theorem reader_no_panic : type_of% @GM.Props.C18.reader_no_panic := @GM.Props.C18.reader_no_panic
theorem blockReader_no_panic : type_of% @GM.Props.C18.blockReader_no_panic := @GM.Props.C18.blockReader_no_panic
theorem reader_helpers_terminate : type_of% @GM.Props.C18.reader_helpers_no_panic := @GM.Props.C18.reader_helpers_no_panic

/-- The inline driver loop terminates without panic for every well-formed block and all parsers that consume at
    least one byte when they accept (a parser that accepts without consuming would spin: the contract). -/
theorem inline_loop_terminates : type_of% @GM.Props.C05a.loop_terminates := @GM.Props.C05a.loop_terminates
theorem inline_loop_fuel_suffices : type_of% @GM.Props.C05a.fuel_suffices := @GM.Props.C05a.fuel_suffices

/-- The closing-fence and ATX-open recognisers index their line safely for every line. -/
theorem fence_close_no_panic : type_of% @GM.Props.C02a.fence_close_noPanic := @GM.Props.C02a.fence_close_noPanic
theorem atx_open_no_panic : type_of% @GM.Props.C02a.atx_open_noPanic := @GM.Props.C02a.atx_open_noPanic

/-- The whole block phase (parseBlocks / openBlocks / closeBlocks with the ten block parsers, as modelled in
    GM.Model.Blocks and tied to the real parser by the `blocks` correspondence) terminates for EVERY byte string:
    neither line loop needs more than (number of newlines + 3) iterations and the container retry loop never
    exceeds its bound. -/
theorem block_phase_terminates : type_of% @GM.Props.Blocks.parseBlocks_fuel_suffices := @GM.Props.Blocks.parseBlocks_fuel_suffices
theorem block_phase_outcome : type_of% @GM.Props.Blocks.parseBlocks_outcome := @GM.Props.Blocks.parseBlocks_outcome

/-- The whole block phase returns a block tree for EVERY byte string: no Go run-time panic (index, slice, nil,
    type assertion, explicit) is reachable in parseBlocks / openBlocks / closeBlocks or in Open / Continue / Close of
    the ten default block parsers, and the BlockParser contract ("Open must advance the reader") is kept at every
    `goto retry` (the model's contract monitor never fires). Invariant proof over the model GM.Model.Blocks. -/
theorem block_phase_no_panic : type_of% @GM.Props.Blocks.no_panic := @GM.Props.Blocks.no_panic
theorem block_phase_never_errs : type_of% @GM.Props.Blocks.run_never_errs := @GM.Props.Blocks.run_never_errs
theorem block_phase_contract_kept : type_of% @GM.Props.Blocks.monitor_never_fires := @GM.Props.Blocks.monitor_never_fires

/-- The delimiter-processing loop of the INLINE PHASE (emphasis matching over the delimiter list, as modelled in
    GM.Model.Inlines and tied to the real parser by the `inlines` correspondence) terminates without a Go panic
    for every child list. (Termination/no-panic of the whole inline phase with the concrete parsers is
    `inline_phase_total` below.) -/
theorem process_delimiters_terminates : type_of% @GM.Props.Inlines.processDelimiters_terminates_no_panic := @GM.Props.Inlines.processDelimiters_terminates_no_panic

/-- The whole INLINE PHASE with the concrete default inline parsers (code span, emphasis + ProcessDelimiters, links and
    images with inline / full / collapsed / shortcut references, autolinks, raw HTML) returns a tree — no Go panic, no
    non-termination, none of the model's guards — for EVERY source, every padding-free well-formed segment list,
    every reference map and every Unicode-class assignment. -/
theorem inline_phase_total : type_of% @GM.Props.Inlines.parseBlock_total := @GM.Props.Inlines.parseBlock_total
/-- the link parser keeps the contract the loop relies on (consumes at least one byte when it returns a node,
    restores the reader otherwise, keeps the delimiter/label context invariant) -/
theorem link_parser_contract : type_of% @GM.Props.Inlines.link_parser_keeps_contract := @GM.Props.Inlines.link_parser_keeps_contract

/-- Block phase: blockquote.process, the paragraph parser's Open/Continue/Close, thematic-break Open and ATX Open never
    panic from any reader state satisfying the block-phase reader invariant. -/
theorem blockquote_process_total : type_of% @GM.Props.Blocks.blockquote_process_total_progress := @GM.Props.Blocks.blockquote_process_total_progress
theorem paragraph_open_total : type_of% @GM.Props.Blocks.paragraph_open_total := @GM.Props.Blocks.paragraph_open_total
theorem atx_open_total : type_of% @GM.Props.Blocks.atx_open_total := @GM.Props.Blocks.atx_open_total

/-- The Attribute option: `parser.ParseAttributes` from every reader offset of every byte string, the last-line scan
    `parseLastLineAttributes`, and ATX Open (+ Close of both heading parsers) with WithAttribute / WithAutoHeadingID
    never panic and terminate. -/
theorem attribute_parser_total : type_of% @GM.Props.Attribute.parseAttributes_total := @GM.Props.Attribute.parseAttributes_total
theorem attribute_last_line_total : type_of% @GM.Props.Attribute.lastLineAttrs_total := @GM.Props.Attribute.lastLineAttrs_total
theorem attribute_heading_total : type_of% @GM.Props.Attribute.atx_heading_attrs_inv := @GM.Props.Attribute.atx_heading_attrs_inv

/-- The whole pipeline of the default CommonMark configuration (GM.Model.Convert): `convertCore` — block phase WITH the
    link reference paragraph transformer, inline phase of every non-raw block, HTML renderer, options Unsafe / XHTML /
    HardWraps — never ends in fuel exhaustion, for EVERY byte string; its outcome is HTML or a non-loop error; the block
    driver with ANY admissible list of paragraph transformers terminates. -/
theorem convert_never_loops : type_of% @GM.Props.Convert.convert_never_loops := @GM.Props.Convert.convert_never_loops
theorem convert_outcome : type_of% @GM.Props.Convert.convert_outcome := @GM.Props.Convert.convert_outcome
theorem block_phase_with_transformers_terminates : type_of% @GM.Props.Convert.block_phase_with_transformers_terminates :=
  @GM.Props.Convert.block_phase_with_transformers_terminates
theorem link_reference_scanner_total : type_of% @GM.Props.Convert.definition_scanner_total := @GM.Props.Convert.definition_scanner_total
theorem link_reference_scan_total : type_of% @GM.Props.Convert.transform_scan_total := @GM.Props.Convert.transform_scan_total
theorem link_reference_scan_never_loops : type_of% @GM.Props.Convert.transform_never_loops := @GM.Props.Convert.transform_never_loops

/-- (re-export of `GM.Props.ConvertE2E.convert_no_render_panic`) `convert_no_render_panic`. For EVERY source, Unicode class assignment and option set `convertCore` never ends in
    `Err.render k`: no node renderer function panics on parser output (`"0123456"[n.Level]` in renderHeading,
    `c.(*ast.Text)` in renderCodeSpan; the table-cell assertion needs the table extension). -/
theorem convert_no_render_panic : type_of% @GM.Props.ConvertE2E.convert_no_render_panic := @GM.Props.ConvertE2E.convert_no_render_panic

/-- (re-export of `GM.Props.ConvertE2E.convert_no_value_panic_partial`) `convert_no_value_panic_partial`. Given (a) the segments the inline phase records never carry a negative padding
    (`InlineSegsUnpadded`, a statement about `GM.Inl.parseBlock` on `WF0` lines) and (b) in the store the block phase
    returns for `src` the lines of raw blocks, fenced info segments and HTML closure lines are inside the source with
    non-negative padding (`RawSegsInRange`): `convertCore` never ends in `Err.value p`, for every Unicode class
    assignment and option set. The RANGE of the inline segments is not a hypothesis: it follows from the `WF0` check
    `convertCore` makes and the segment theorem of the inline phase. -/
theorem convert_no_value_panic_partial : type_of% @GM.Props.ConvertE2E.convert_no_value_panic_partial := @GM.Props.ConvertE2E.convert_no_value_panic_partial

/-- the regular expressions, tag list, limits and marker bytes of parser/*.go are the ones the block / inline models were written against (obligations over the regenerated GM.Gen.Consts; `./check` names the constant when one changes) -/
theorem consts_html_block_regexps_tied : GM.Spec.Consts.allOk GM.Spec.Consts.htmlBlockRegexps = true := GM.Props.Consts.Parser.html_block_regexps_tied
/-- `allowedBlockTags` and the type 2-5 closers of parser/html_block.go are the block model's -/
theorem consts_html_block_tags_tied : GM.Spec.Consts.allOk GM.Spec.Consts.htmlBlockTags = true := GM.Props.Consts.Parser.html_block_tags_tied
/-- the raw-HTML tag expressions of parser/raw_html.go are the ones the inline model's matchers were written against -/
theorem consts_raw_html_regexps_tied : GM.Spec.Consts.allOk GM.Spec.Consts.rawHtmlRegexps = true := GM.Props.Consts.Parser.raw_html_regexps_tied
/-- the autolink expressions and bounds of parser/auto_link.go are the inline model's -/
theorem consts_autolink_regexps_tied : GM.Spec.Consts.allOk GM.Spec.Consts.autolinkRegexps = true := GM.Props.Consts.Parser.autolink_regexps_tied
/-- the numeric limits of the parsers (label length 999, list start 9 digits, indents 3/4, fence 3, ATX 6, ...) are the models' -/
theorem consts_limits_tied : GM.Spec.Consts.allOk GM.Spec.Consts.limits = true := GM.Props.Consts.Parser.limits_tied
/-- bullet / delimiter / fence / heading / emphasis marker bytes are the models' -/
theorem consts_markers_tied : GM.Spec.Consts.allOk GM.Spec.Consts.markers = true := GM.Props.Consts.Parser.markers_tied

/-- (re-export of `GM.Props.ConvertNP.scan_total_and_ranges_adjacent`) **The ranges the transformer's scan hands to its second loop are adjacent from line 0 on, non-empty, and end inside the
    paragraph** — for every source, every paragraph whose lines are well-formed (`WFSegs`: inside the source, increasing,
    non-empty, paddings ≥ 0 — ANY paddings, i.e. also continuation lines behind a partly consumed tab inside a container)
    and none of which is blank (the paragraph parser never appends a blank line), every reference map. Moreover the scan
    itself is TOTAL on such lines: no Go panic (`line[pos]`, `Advance`, `Value`), no fuel exhaustion, the progress monitor
    of the model does not fire. True of the code because a definition leaves the reader at the start of the
    line behind it, or in front of white space only. -/
theorem link_reference_scan_total_and_adjacent : type_of% @GM.Props.ConvertNP.scan_total_and_ranges_adjacent := @GM.Props.ConvertNP.scan_total_and_ranges_adjacent

/-- (re-export of `GM.Props.ConvertNP.scan_ranges_adjacent`) **`GM.Props.Convert.ScanRangesAdjacent` is a theorem** (stated there as a `def … : Prop`): on a paragraph with
    well-formed padding-free non-blank lines the ranges the scan answers are adjacent from line 0 on and end inside the
    paragraph, so contract monitor (3) of `GM.LinkRef.finishLines` is unreachable. -/
theorem link_reference_ranges_adjacent : type_of% @GM.Props.ConvertNP.scan_ranges_adjacent := @GM.Props.ConvertNP.scan_ranges_adjacent

/-- (re-export of `GM.Props.ConvertNP.second_loop_total`) the second stage of Transform on what the scan answers: the monitor passes, no `slice` panic of
    `Sliced` / `SetSliced`, no stale-elements `pre`; the paragraph keeps its lines without the first `lastEnd` ones -/
theorem link_reference_second_loop_total : type_of% @GM.Props.ConvertNP.second_loop_total := @GM.Props.ConvertNP.second_loop_total

/-- (re-export of `GM.Props.ConvertNP.transform_scan_total_padded`) **the scan is total on well-formed lines with ANY paddings, blank lines allowed** (or on no lines): no Go panic, no fuel
    exhaustion, the progress monitor silent. (GM.Props.Convert.transform_scan_total has this for padding-free lines,
    transform_never_loops only termination for padded ones.) -/
theorem link_reference_scan_total_padded : type_of% @GM.Props.ConvertNP.transform_scan_total_padded := @GM.Props.ConvertNP.transform_scan_total_padded

/-- (re-export of `GM.Props.ConvertNP.transform_total`) **`linkReferenceParagraphTransformer.Transform` is total**: from EVERY block-phase state, on a node whose lines are fit
    for it (`TLinesOK`: no lines, or `WFSegs` with any paddings and no blank line) and that has a parent: no Go panic — the
    scan, `Sliced` / `SetSliced`, `node.Parent().ReplaceChild` —, no fuel exhaustion, none of the model's monitors; and
    what it does to the state is `PTPost`: the main reader is untouched, of the context only the reference map changes,
    the paragraph loses an initial segment of its lines and keeps one, or loses all and an empty TextBlock takes its
    place among its parent's children (link_ref.go:41-50). -/
theorem link_reference_transform_total : type_of% @GM.Props.ConvertNP.transform_total := @GM.Props.ConvertNP.transform_total

/-- (re-export of `GM.Props.ConvertNP.transform_total_or_monitor`) … and the whole of Transform on such a paragraph with a parent: `PTPost`, or contract monitor (3) answered `pre` — never a
    Go panic, never the fuel error. (With a blank line among the lines the monitor CAN fire: the example above.) -/
theorem link_reference_transform_total_or_monitor : type_of% @GM.Props.ConvertNP.transform_total_or_monitor := @GM.Props.ConvertNP.transform_total_or_monitor

/-- (re-export of `GM.Props.ConvertNP.default_transformers_contract`) **the transformer of the composition, `GM.LinkRef.guardedTransform` (Transform behind the run-time check `WFSegs`),
    never raises a Go panic and never exhausts fuel**, from any state, on any Paragraph node that has a parent: it ends as
    `PTPost` says, or answers `pre` (the check or monitor (3)). In the form the driver theorem consumes: `PTsSpec src pre` of
    the default transformer list of `GM.Convert.blockPhase true`. -/
theorem default_transformers_contract : type_of% @GM.Props.ConvertNP.default_transformers_contract := @GM.Props.ConvertNP.default_transformers_contract

/-- (re-export of `GM.Props.ConvertNP.guarded_transformer_contract`) **the contract of the guarded transformer** (`guardE e`: Transform behind the run-time check `linesOKB` of exactly the
    hypothesis above, the check answering `e`): on a Paragraph node that has a parent, from any state, it ends as `PTPost`
    says or answers `e` — for EVERY choice of `e`, so the check is the only source of an abnormal end. This is the
    hypothesis `PTsSpec` of the driver theorem. -/
theorem guarded_transformer_contract : type_of% @GM.Props.ConvertNP.guarded_transformer_contract := @GM.Props.ConvertNP.guarded_transformer_contract

/-- (re-export of `GM.Props.ConvertNP.no_underline_of_setext_free`) a decidable sufficient condition: the source has neither `-` nor `=` -/
theorem no_underline_of_setext_free : type_of% @GM.Props.ConvertNP.no_underline_of_setext_free := @GM.Props.ConvertNP.no_underline_of_setext_free

/-- (re-export of `GM.Props.ConvertNP.no_underline_of_check`) a decidable sufficient condition that allows `-` and `=`: the executable test `noBarB` (the views from every byte offset with
    the paddings 0..3; more than 3 leading spaces never make an underline) -/
theorem no_underline_of_check : type_of% @GM.Props.ConvertNP.no_underline_of_check := @GM.Props.ConvertNP.no_underline_of_check

/-- (re-export of `GM.Props.ConvertNP.block_phase_with_transformers_total_partial`) **the block driver with paragraph transformers is total, for EVERY list of transformers that keep the contract** — on every
    source without a setext underline (`NoUnderline`), ALL ten block parsers, lists included: `parseBlocks` with
    `transformParagraph` called from `closeBlocks` returns a tree all of whose line segments lie inside the source, or a
    transformer's run-time guard answered `e`. No Go panic of parseBlocks / openBlocks / closeBlocks / the block parsers / the
    tree surgery, no fuel exhaustion, and NEITHER contract monitor of the retry loop (`retryStepT` (1)/(2)) fires. `_partial`:
    on sources with an underline the RequireParagraph path is live; what its proof needs is in notes/status_tnopanic.md. -/
theorem block_phase_with_transformers_total_partial : type_of% @GM.Props.ConvertNP.block_phase_with_transformers_total_partial := @GM.Props.ConvertNP.block_phase_with_transformers_total_partial

/-- (re-export of `GM.Props.ConvertNP.block_phase_with_transformers_total_list_free`) the same for sources without `-` `=` `*` `+` and digits (no byte triggers the setext heading, list or list item parser) —
    subsumed by the theorem above -/
theorem block_phase_with_transformers_total_list_free : type_of% @GM.Props.ConvertNP.block_phase_with_transformers_total_list_free := @GM.Props.ConvertNP.block_phase_with_transformers_total_list_free

/-- (re-export of `GM.Props.ConvertNP.block_phase_no_go_panic_partial`) **partial — the block phase of the default pipeline never raises a Go panic** on such sources:
    `GM.Convert.blockPhase true src` (the link reference transformer behind its run-time check) returns a tree with all line
    segments in range, or answers `pre` — the outcome of the run-time check `WFSegs` and of contract monitor (3), the only
    abnormal ends left; every Go run-time panic of the model (`index`, `slice`, `nil`, `assert`, `explicit`) and the fuel error
    are excluded. -/
theorem block_phase_no_go_panic_partial : type_of% @GM.Props.ConvertNP.block_phase_no_go_panic_partial := @GM.Props.ConvertNP.block_phase_no_go_panic_partial

/-- (re-export of `GM.Props.ConvertNP.block_phase_total_modulo_guard_partial`) **partial — no Go panic in the block phase, in the form that composes with "the guard never fires"** (GM.Props.Wf0): with the transformer behind
    the check `linesOKB` (`WFSegs` ∧ no blank line) whose outcome `e` is a PARAMETER, the run ends normally or with `e` — for
    every `e`. Since `e` is arbitrary, the check is the only source of an abnormal end: if `runT [guardE e] src` is the same
    for two different `e` (e.g. because the check never fires), it is `.ok`. -/
theorem block_phase_total_modulo_guard_partial : type_of% @GM.Props.ConvertNP.block_phase_total_modulo_guard_partial := @GM.Props.ConvertNP.block_phase_total_modulo_guard_partial

/-- (re-export of `GM.Props.ConvertNP.monitors_never_fire_partial`) **partial — none of the model's contract monitors fires** on such sources: with the guard's outcome chosen different
    from `pre` (the code every monitor answers: retry monitors (1)/(2) of `retryStepT`, the progress monitor of the scan, the
    stale-elements check of `removeLoop`, contract monitor (3) of `finishLines`), the run never ends in `pre` -/
theorem monitors_never_fire_partial : type_of% @GM.Props.ConvertNP.monitors_never_fire_partial := @GM.Props.ConvertNP.monitors_never_fire_partial

/-- (re-export of `GM.Props.ConvertNP.total_of_guard_irrelevant`) how the two results compose (no hypothesis on the source here): if the guard's outcome does not influence the run — what
    "the guard never fires" gives — then a run that ends "normally or with `e`" for every `e` ends normally -/
theorem total_of_guard_irrelevant : type_of% @GM.Props.ConvertNP.total_of_guard_irrelevant := @GM.Props.ConvertNP.total_of_guard_irrelevant

/-- (re-export of `GM.Props.Wf0.inline_bearing_wellformed`) the hand-over, as far as it is proved: every inline-bearing block of the final store has `WFSegs` lines (all of
    `WF0` but `padding = 0`) -/
theorem inline_handover_wellformed : type_of% @GM.Props.Wf0.inline_bearing_wellformed := @GM.Props.Wf0.inline_bearing_wellformed

/-- (re-export of `GM.Props.Wf0.inline_wf0_remaining`) **the hand-over to the inline phase reduced to the padding**: with order, range, non-emptiness and "no ForceNewline"
    proved, `InlineLinesWF0 src` (every inline-bearing block has `WF0` lines) is equivalent to ONE fact: every line
    segment of an inline-bearing block of the final store has padding 0 (which is `nonraw_lines_padding_zero` of
    GM.Props.Wf0). -/
theorem inline_handover_remaining : type_of% @GM.Props.Wf0.inline_wf0_remaining := @GM.Props.Wf0.inline_wf0_remaining

/-- (re-export of `GM.Props.ConvertX.convertx_never_loops_partial`) `convertx_never_loops` for the member sets {} and {Table}: HTML, or an error that is not fuel exhaustion. -/
theorem convertx_never_loops_partial : type_of% @GM.Props.ConvertX.convertx_never_loops_partial := @GM.Props.ConvertX.convertx_never_loops_partial

/-- (re-export of `GM.Props.ConvertX.convertx_never_loops_of`) every member set: no fuel exhaustion, provided the inline phase of that member set never exhausts its fuel -/
theorem convertx_never_loops_of : type_of% @GM.Props.ConvertX.convertx_never_loops_of := @GM.Props.ConvertX.convertx_never_loops_of

/-- (re-export of `GM.Props.ConvertX.block_phase_x_terminates`) the block phase of EVERY member set terminates on every source: the table paragraph transformer is an admissible
    transformer of the block driver (reads the source, writes the node store: `PTOK`), so
    GM.Props.Convert.block_phase_with_transformers_terminates applies to [link references, table] -/
theorem block_phase_x_terminates : type_of% @GM.Props.ConvertX.block_phase_x_terminates := @GM.Props.ConvertX.block_phase_x_terminates

/-- (re-export of `GM.Props.ConvertX.table_transformer_admissible`) see `GM.Props.ConvertX.table_transformer_admissible` -/
theorem table_transformer_admissible : type_of% @GM.Props.ConvertX.table_transformer_admissible := @GM.Props.ConvertX.table_transformer_admissible

/-- (re-export of `GM.Props.ConvertE2E.block_store_info_closure_in_range`) `block_store_info_closure_in_range`. For EVERY source: in the store the
    block phase returns (guarded or not), the info segment of every FencedCodeBlock and the closure line of every
    HTMLBlock (`HasClosure()`) satisfy `0 ≤ start ≤ stop ≤ len(source)`, `padding ≥ 0`. A frame invariant that looks
    at the reader: whenever the source reader hands out a line it is `Value` of the position it hands out, and both
    segments are computed from a position handed out TOGETHER WITH a line. -/
theorem block_store_info_closure_in_range : type_of% @GM.Props.ConvertE2E.block_store_info_closure_in_range := @GM.Props.ConvertE2E.block_store_info_closure_in_range

/-- (re-export of `GM.Props.ConvertE2E.convert_no_value_panic_of_raw_lines`) `convert_no_value_panic_of_raw_lines`: `Err.value p` is unreachable given ONLY that the LINES of the raw blocks
    (CodeBlock / FencedCodeBlock / HTMLBlock) of the store are in range — a consequence of `GM.Blocks.NodesOK src st`,
    the conclusion of the no-panic theorems of the block phase. -/
theorem convert_no_value_panic_of_raw_lines : type_of% @GM.Props.ConvertE2E.convert_no_value_panic_of_raw_lines := @GM.Props.ConvertE2E.convert_no_value_panic_of_raw_lines

/-- (re-export of `GM.Props.ConvertE2E.convert_renderer_side_total_of_lines`) `convert_renderer_side_total_of_lines`: given that, `convertCore` only fails in the parse phases -/
theorem convert_renderer_side_total_of_lines : type_of% @GM.Props.ConvertE2E.convert_renderer_side_total_of_lines := @GM.Props.ConvertE2E.convert_renderer_side_total_of_lines

/-- (re-export of `GM.Props.ConvertE2E.inline_children_resolve`) `inline_children_resolve`: behind `convertCore`'s `WF0` check the inline children of EVERY block resolve to bytes —
    no `Segment.Value` panic of a node renderer comes from an inline node. Unconditional. -/
theorem inline_children_resolve : type_of% @GM.Props.ConvertE2E.inline_children_resolve := @GM.Props.ConvertE2E.inline_children_resolve

/-- (re-export of `GM.Props.ConvertE2E.convert_no_value_panic_of_raw_segments`) `convert_no_value_panic_of_raw_segments`: `Err.value p` is unreachable given ONLY hypothesis (b) — in the store the
    block phase returns, the lines of raw blocks, fenced info segments and HTML closure lines are in range -/
theorem convert_no_value_panic_of_raw_segments : type_of% @GM.Props.ConvertE2E.convert_no_value_panic_of_raw_segments := @GM.Props.ConvertE2E.convert_no_value_panic_of_raw_segments

/-- (re-export of `GM.Props.ConvertE2E.convert_renderer_side_total_partial`) `convert_renderer_side_total_partial`: given (b), `convertCore` can only fail in the parse phases — with a
    `blocks …`, `linesNotWF0` or `inlines …` outcome; the renderer side (`value`, `render`) is total. -/
theorem convert_renderer_side_total_partial : type_of% @GM.Props.ConvertE2E.convert_renderer_side_total_partial := @GM.Props.ConvertE2E.convert_renderer_side_total_partial

/-- (re-export of `GM.Props.Wf0.inline_lines_wf0`) **`InlineLinesWF0`, every source** (the premise `GM.Props.Blocks.InlineLinesWF0 src` of the end-to-end theorems is
    a theorem): when the block phase returns, the lines of every inline-bearing block of the store (not raw, with at
    least one line) are `WF0` — non-empty segments inside the source that increase, padding 0, no ForceNewline. -/
theorem inline_lines_wf0 : type_of% @GM.Props.Wf0.inline_lines_wf0 := @GM.Props.Wf0.inline_lines_wf0

/-- (re-export of `GM.Props.Wf0.nonraw_lines_padding_zero`) **padding 0 at the end, every source.** When the block phase returns, every line segment of every block of the
    store that is not raw has padding 0: each Paragraph / setext heading was handed to its parser's `Close`
    (paragraphParser.Close trims the lines and resets the padding) before the run ended, and the lines that setext /
    list `Close` copy into Headings / TextBlocks are copied from closed paragraphs. -/
theorem nonraw_lines_padding_zero : type_of% @GM.Props.Wf0.nonraw_lines_padding_zero := @GM.Props.Wf0.nonraw_lines_padding_zero

/-- (re-export of `GM.Props.Wf0.open_stack_empty_at_end`) **the open-block stack is empty when the block phase returns**, every source: every block that was pushed has
    been popped by `closeBlocks` (which hands it to `Close`: see `close_blocks_discipline`). -/
theorem open_stack_empty_at_end : type_of% @GM.Props.Wf0.open_stack_empty_at_end := @GM.Props.Wf0.open_stack_empty_at_end

/-- (re-export of `GM.Props.C16E2E.convertf_never_loops_of`) **No fuel exhaustion, relative to the two phase loops**: when the block phase with the footnote block parser and the
    inline loop over the table with the footnote parser never exhaust their fuel, `convertF true` never does (the
    transformer is a total function; the renderer has no fuel). -/
theorem convertf_never_loops_of : type_of% @GM.Props.C16E2E.convertf_never_loops_of := @GM.Props.C16E2E.convertf_never_loops_of

/-- (re-export of `GM.Props.C16E2E.convertf_never_loops_partial`) with the extension off: never, unconditionally (it is `convertCore`) -/
theorem convertf_never_loops_partial : type_of% @GM.Props.C16E2E.convertf_never_loops_partial := @GM.Props.C16E2E.convertf_never_loops_partial

/-- (re-export of `GM.Props.C16E2E.convertf_never_loops_conservative`) … hence `convertF` never exhausts fuel on a source without `[^` -/
theorem convertf_never_loops_conservative : type_of% @GM.Props.C16E2E.convertf_never_loops_conservative := @GM.Props.C16E2E.convertf_never_loops_conservative

/-- (re-export of `GM.Props.C16E2E.convertf_inline_phase_without_list_total`) C01 for that inline phase: TOTAL — children, no Go panic, no fuel exhaustion, no monitor (GM.Proof.InlinesLink.parseBlock_total
    carried over by the equality above) -/
theorem convertf_inline_phase_without_list_total : type_of% @GM.Props.C16E2E.convertf_inline_phase_without_list_total := @GM.Props.C16E2E.convertf_inline_phase_without_list_total

/-- (re-export of `GM.Props.ConvertE2ENT.convert_total_without_transformers`) **`convert_total_without_transformers`** — for EVERY byte string, every Unicode class assignment and every renderer
    option set, the pipeline without paragraph transformers answers HTML: no Go panic of the block phase (all ten
    parsers), none of the inline phase, no `Segment.Value` panic while a node renderer resolves a segment, no node
    renderer panic; the run-time `WF0` check on the lines handed to the inline phase passes; no fuel bound, contract
    monitor or modelling precondition is hit. -/
theorem convert_total_without_transformers : type_of% @GM.Props.ConvertE2ENT.convert_total_without_transformers := @GM.Props.ConvertE2ENT.convert_total_without_transformers

/-- (re-export of `GM.Props.ConvertE2ENT.convert_total_of_block_facts`) **`convert_total_of_block_facts`** — the interface to the block-phase theorems (GM.Props.ConvertNP: `block_phase_total`,
    `block_phase_lines_wellformed`; GM.Props.Wf0: the close discipline). `convertCore` answers HTML on every source on which the
    block phase with the link-reference transformer answers a store in which (i) every line is in range, (ii) the lines of
    every non-raw block with lines are `WFSegs`, (iii) every line of a non-raw block has padding 0. CAUTION: (iii) store-wide is FALSE for the driver with
    transformers on some sources (see `convert_total_of_tree_facts`); this form is for drivers without them. Nothing else about the
    block phase is needed: the info / closure segments, heading levels and the root are frame invariants (GM.Proof.E2EKeeps),
    the inline phase is total on `WF0` lines, its segments resolve, no node renderer panics. -/
theorem convert_total_of_block_facts : type_of% @GM.Props.ConvertE2ENT.convert_total_of_block_facts := @GM.Props.ConvertE2ENT.convert_total_of_block_facts

/-- (re-export of `GM.Props.ConvertE2ENT.convert_total_of_tree_facts`) **`convert_total_of_tree_facts`** — the same interface in TREE form. The store of the driver WITH transformers contains
    nodes that are not in the tree (a Paragraph that was transformed away; a setext Heading abandoned on the `goto retry`
    behind it keeps a padded line: GM.Props.ConvertNP's witness `> [a]: /u⏎>⇥===⏎`), so "padding 0" is only true of attached nodes —
    and `docTree` only visits the tree: (iii) is needed of the non-raw nodes that are somebody's child, and the Document has
    no lines. -/
theorem convert_total_of_tree_facts : type_of% @GM.Props.ConvertE2ENT.convert_total_of_tree_facts := @GM.Props.ConvertE2ENT.convert_total_of_tree_facts

/-- (re-export of `GM.Props.ConvertE2ENT.convert_total_of_block_phase_theorems`) **`convert_total_of_block_phase_theorems`** — C01 END TO END for the default pipeline from statements about its block
    phase, in the shapes GM.Props.ConvertNP states them (`GM.Props.ConvertNP.block_phase_total`,
    `block_phase_lines_wellformed`, and the tree-walk form of the close discipline): the block phase with the link-reference
    transformer always answers a store with `NodesOK`; the lines of its non-raw blocks are `WFSegs`; every line of a non-raw
    node that is somebody's child has padding 0; the Document has no lines. Then for EVERY byte string, Unicode-class
    assignment and option set `convertCore` answers HTML — no error outcome of any phase. -/
theorem convert_total_of_block_phase_theorems : type_of% @GM.Props.ConvertE2ENT.convert_total_of_block_phase_theorems := @GM.Props.ConvertE2ENT.convert_total_of_block_phase_theorems

/-- (re-export of `GM.Props.ConvertE2ENT.convert_total_of_store`) `convert_total_of_store`: the DEFAULT pipeline answers HTML on every source on which its block phase (with the
    link-reference transformer) answers a store whose raw segments are in range and whose inline-bearing blocks have `WF0`
    lines (`StoreTot`) — what remains of C01 for `convertCore` is exactly "the block phase with the transformer answers
    such a store". -/
theorem convert_total_of_store : type_of% @GM.Props.ConvertE2ENT.convert_total_of_store := @GM.Props.ConvertE2ENT.convert_total_of_store

/-- (re-export of `GM.Props.ConvertE2ENT.convert_total_of_block_phase_agreement`) `convert_total_of_block_phase_agreement`: `convertCore` answers HTML on every source on which the block phase with
    the link-reference transformer ends with the node store of the transformer-free one (sources without `[`:
    `GM.Props.ConvertE2ENP.block_phase_bracket_free_eq`). -/
theorem convert_total_of_block_phase_agreement : type_of% @GM.Props.ConvertE2ENT.convert_total_of_block_phase_agreement := @GM.Props.ConvertE2ENT.convert_total_of_block_phase_agreement

/-- (re-export of `GM.Props.ConvertE2ENT.store_of_plain_driver_is_total`) `store_of_plain_driver_is_total`: the store of the transformer-free block phase has `StoreTot`, every source -/
theorem store_of_plain_driver_is_total : type_of% @GM.Props.ConvertE2ENT.store_of_plain_driver_is_total := @GM.Props.ConvertE2ENT.store_of_plain_driver_is_total

/-- (re-export of `GM.Props.ConvertE2ENT.convert_with_is_convertT`) `convert_with_is_convertT`: the composed model is the instance `pts = paragraphTransformers guard` -/
theorem convert_with_is_convertT : type_of% @GM.Props.ConvertE2ENT.convert_with_is_convertT := @GM.Props.ConvertE2ENT.convert_with_is_convertT

/-- (re-export of `GM.Props.ConvertE2ENT.convert_bracket_free`) **`convert_bracket_free`** — for EVERY source without `[`: `convertCore` answers what the pipeline without paragraph
    transformers answers (which is always HTML), or it ends in a block-phase error -/
theorem convert_bracket_free : type_of% @GM.Props.ConvertE2ENT.convert_bracket_free := @GM.Props.ConvertE2ENT.convert_bracket_free

/-- (re-export of `GM.Props.ConvertE2ENT.convert_total_bracket_free`) **`convert_total_bracket_free`** — with "the block phase of the default pipeline never errs" (`GM.Props.ConvertNP.block_phase_total`),
    `convertCore` answers HTML on every source without `[` — and it is the HTML of the pipeline without transformers -/
theorem convert_total_bracket_free : type_of% @GM.Props.ConvertE2ENT.convert_total_bracket_free := @GM.Props.ConvertE2ENT.convert_total_bracket_free

/-- (re-export of `GM.Props.ConvertE2E.driver_with_no_transformers_is_plain_driver`) `driver_with_no_transformers_is_plain_driver`: `runT [] = run`, for EVERY source — the block driver WITH paragraph
    transformers (GM.Model.Blocks.DriverT, what `convertCore` runs) instantiated with the empty list IS the driver of
    GM.Model.Blocks.Driver (what GM.Props.Blocks / C01 / C05 / C08 / C09 / Wf0 speak about), as final states and as error
    outcomes. Mechanised function by function (`tryParsersT`, the retry loop, the two line loops); the two differ by the dead
    `retryTransformed` branch and the `tdone` flag only. So every `run` theorem is a theorem about `runT []`. -/
theorem driver_with_no_transformers_is_plain_driver : type_of% @GM.Props.ConvertE2E.driver_with_no_transformers_is_plain_driver := @GM.Props.ConvertE2E.driver_with_no_transformers_is_plain_driver

/-- (re-export of `GM.Props.ConvertE2E.block_phase_bracket_free`) **`block_phase_bracket_free`** — for EVERY source without the byte `[` and both settings of the run-time check: the block phase
    of the default pipeline (driver WITH the link-reference transformer) answers exactly what the block phase WITHOUT paragraph
    transformers answers — the same final state (reader, node store, parse context, reference map) — or it ends in an error.
    (With `GM.Props.ConvertNP.block_phase_total`, which excludes the error, this is the equality
    `blockPhase true src = GM.Blocks.run src`.) Proof (GM.Proof.E2ERel): the two drivers are run side by side; the invariants
    that make the transformer silent at its two call sites are carried along — the source is fixed, every Paragraph has a line
    (`PNE`), the open-block stack is consistent (`J2`, so `RequireParagraph` closes the paragraph with `paragraphParser.Close`,
    which keeps a paragraph that has a line attached: `transformed` is false on both sides). -/
theorem block_phase_bracket_free : type_of% @GM.Props.ConvertE2E.block_phase_bracket_free := @GM.Props.ConvertE2E.block_phase_bracket_free

/-- (re-export of `GM.Props.ConvertE2E.open_block_stack_consistent_and_paragraphs_have_lines`) **`open_block_stack_consistent_and_paragraphs_have_lines`** — for EVERY source: in the store the block phase WITHOUT
    transformers returns, every block of the open-block stack has a node of the kind its parser builds (`J2`) and every
    Paragraph node has at least one line (`PNE`). (Invariants that are not blind to the parse context / the lines: the
    driver rule with side facts, GM.Proof.E2EDriver.) -/
theorem open_block_stack_consistent_and_paragraphs_have_lines : type_of% @GM.Props.ConvertE2E.open_block_stack_consistent_and_paragraphs_have_lines := @GM.Props.ConvertE2E.open_block_stack_consistent_and_paragraphs_have_lines

/-- (re-export of `GM.Props.ConvertE2E.link_reference_scan_finds_nothing_without_bracket`) `link_reference_scan_finds_nothing_without_bracket`: on a source without the byte `[` the first loop of
    `linkReferenceParagraphTransformer.Transform` (link_ref.go:20-31), run on ANY list of line segments and any reference
    map, removes nothing and registers nothing — whenever it answers at all. (Every line the block reader hands out
    consists of source bytes, padding spaces and a newline, so `line[pos] != '['`, link_ref.go:73.) -/
theorem link_reference_scan_finds_nothing_without_bracket : type_of% @GM.Props.ConvertE2E.link_reference_scan_finds_nothing_without_bracket := @GM.Props.ConvertE2E.link_reference_scan_finds_nothing_without_bracket

/-- (re-export of `GM.Props.ConvertE2E.link_reference_transformer_silent_without_bracket`) `link_reference_transformer_silent_without_bracket`: from EVERY block-phase state over a source without `[`, on a
    node that HAS at least one line, the paragraph transformer of `blockPhase guard` returns the state UNCHANGED (reader,
    node store, reference map, open blocks) or ends in an error outcome. -/
theorem link_reference_transformer_silent_without_bracket : type_of% @GM.Props.ConvertE2E.link_reference_transformer_silent_without_bracket := @GM.Props.ConvertE2E.link_reference_transformer_silent_without_bracket

/-- (re-export of `GM.Props.ConvertE2E.link_reference_transformer_not_silent_on_lineless_paragraph`) `link_reference_transformer_not_silent_on_lineless_paragraph` (the NEGATION of "the transformer declines on every
    state over a source without `[`", on a witness; reproduced on /repo by calling `Transform` on an attached
    `ast.NewParagraph()` without lines: the Document's child becomes a TextBlock). On `witnessSt` — empty source, a
    Document whose only child is a Paragraph WITHOUT lines — the guarded transformer succeeds and changes the tree: a
    fresh TextBlock takes the paragraph's place (link_ref.go:41-47), the paragraph is detached. Hence carrying `run`
    theorems over to `blockPhase` on such sources needs the driver invariant "a Paragraph handed to
    `transformParagraph` (parser.go:904-907, 985-997) has a line", not only the byte condition. -/
theorem link_reference_transformer_not_silent_on_lineless_paragraph : type_of% @GM.Props.ConvertE2E.link_reference_transformer_not_silent_on_lineless_paragraph := @GM.Props.ConvertE2E.link_reference_transformer_not_silent_on_lineless_paragraph

/-- (re-export of `GM.Props.ConvertNP.block_phase_with_transformers_total`) **The block driver with paragraph transformers is total, for EVERY byte string and EVERY list of transformers that keep the
    contract** (`PTsSpec src e pts`: a call on a Paragraph with a parent ends as `PTPost` says or answers the guard's outcome `e`;
    `PTsOK pts`: no transformer exhausts fuel): `parseBlocks` with `transformParagraph` called where parser.go calls it —
    `closeBlocks` (parser.go:904-907) and the RequireParagraph path of `openBlocks` (985-997: `Close` the paragraph, pop it,
    transform it, `continuable = false; goto retry` when it has been transformed away) — returns a tree all of whose line segments
    lie inside the source and whose Lists only have ListItem children, or a transformer's guard answered `e`. No Go panic of
    parseBlocks / openBlocks / closeBlocks / the ten block parsers / the tree surgery (incl. `setextHeadingParser.Close` on a
    transformed paragraph and the stale slice read `openedBlocks[lastIndex]` behind a transformed retry), no fuel exhaustion,
    and NEITHER contract monitor of the retry loop (`retryStepT` (1)/(2)) fires. Invariants beyond those of the plain driver (GM.Proof.BlocksTNPTree, BlocksTNPWin): parent
    pointers and children lists agree (`TreeOK`), the last opened leaf is the last child of its parent (so the `else` of
    `last == parent.LastChild()` is dead), `temporaryParagraphKey` is only constrained while a setext block is open. -/
theorem block_phase_with_transformers_total : type_of% @GM.Props.ConvertNP.block_phase_with_transformers_total := @GM.Props.ConvertNP.block_phase_with_transformers_total

/-- (re-export of `GM.Props.ConvertNP.block_phase_no_go_panic`) **The block phase of the default pipeline never raises a Go panic, for EVERY byte string**:
    `GM.Convert.blockPhase true src` (the link reference transformer behind its run-time check) returns a tree, or answers `pre` —
    the outcome of the run-time check `WFSegs` and of contract monitor (3), the only abnormal ends left; every Go run-time panic of
    the model (`index`, `slice`, `nil`, `assert`, `explicit`) and the fuel error are excluded. -/
theorem block_phase_no_go_panic : type_of% @GM.Props.ConvertNP.block_phase_no_go_panic := @GM.Props.ConvertNP.block_phase_no_go_panic

/-- (re-export of `GM.Props.ConvertNP.block_phase_total_modulo_guard`) **No Go panic in the block phase of the default pipeline, in the form that composes with "the guard never fires"**: with the transformer behind the check `linesOKB`
    (`WFSegs` ∧ no blank line) whose outcome `e` is a PARAMETER, every run ends normally or with `e` — for every `e` and every byte
    string -/
theorem block_phase_total_modulo_guard : type_of% @GM.Props.ConvertNP.block_phase_total_modulo_guard := @GM.Props.ConvertNP.block_phase_total_modulo_guard

/-- (re-export of `GM.Props.ConvertNP.monitors_never_fire`) **None of the model's contract monitors fires, for EVERY byte string**: with the guard's outcome chosen different
    from `pre` (the code every monitor answers: retry monitors (1)/(2) of `retryStepT`, the progress monitor of the scan, the
    stale-elements check of `removeLoop`, contract monitor (3) of `finishLines`), no run ends in `pre` -/
theorem monitors_never_fire : type_of% @GM.Props.ConvertNP.monitors_never_fire := @GM.Props.ConvertNP.monitors_never_fire

/-- (re-export of `GM.Props.ConvertNP.guard_never_fires`) **The run-time check in front of the transformer never fires, for EVERY byte string**: the block phase with the guarded
    transformer (`guardE e`: check `WFSegs` ∧ no blank line, outcome `e`) IS the block phase with the bare `Transform`, whatever
    `e`. Invariant carried through the whole driver with transformers, RequireParagraph path included (GM.Proof.BlocksTNO*W:
    `InvW`, the form of `Inv` of GM.Proof.BlocksOrdInv for this driver, next to the no-panic walk): the lines of every non-raw block increase, every segment is non-empty, every
    line of a Paragraph holds a non-space byte; `Transform` only drops a prefix of the lines (`PTPost`); the setext heading takes
    the lines of a paragraph that still has some. -/
theorem guard_never_fires : type_of% @GM.Props.ConvertNP.guard_never_fires := @GM.Props.ConvertNP.guard_never_fires

/-- (re-export of `GM.Props.ConvertNP.block_phase_total`) **C01, block phase of the default pipeline, for EVERY byte string: `GM.Convert.blockPhase true src` returns a tree** — no Go
    run-time panic, no fuel exhaustion, no contract monitor, and the run-time check `WFSegs` of `guardedTransform` does not fire —
    all of whose line segments lie inside the source and whose Lists only have ListItem children. -/
theorem block_phase_total : type_of% @GM.Props.ConvertNP.block_phase_total := @GM.Props.ConvertNP.block_phase_total

/-- (re-export of `GM.Props.ConvertNP.block_phase_guard_is_observer`) the run-time check of the composition is an observer: with and without it the block phase is the same function -/
theorem block_phase_guard_is_observer : type_of% @GM.Props.ConvertNP.block_phase_guard_is_observer := @GM.Props.ConvertNP.block_phase_guard_is_observer

/-- (re-export of `GM.Props.ConvertNP.transform_run_total`) the block phase with the bare transformer (`blockPhase false`) returns a tree for every byte string -/
theorem transform_run_total : type_of% @GM.Props.ConvertNP.transform_run_total := @GM.Props.ConvertNP.transform_run_total

/-- (re-export of `GM.Props.ConvertNP.transform_run_lines_wellformed`) **C05(c) for the store the block phase WITH the transformer returns, every byte string**: the lines of every non-raw block
    increase, segments are non-empty without ForceNewline, `WFSegs` when there are lines; every line of a Paragraph holds a
    non-space byte (the same as `GM.Props.Wf0.inline_lines_wellformed` (for `run`), for `runT`) -/
theorem transform_run_lines_wellformed : type_of% @GM.Props.ConvertNP.transform_run_lines_wellformed := @GM.Props.ConvertNP.transform_run_lines_wellformed

/-- (re-export of `GM.Props.ConvertNP.block_phase_lines_wellformed`) … for `blockPhase true` itself -/
theorem block_phase_lines_wellformed : type_of% @GM.Props.ConvertNP.block_phase_lines_wellformed := @GM.Props.ConvertNP.block_phase_lines_wellformed

/-- (re-export of `GM.Props.ConvertNP.guard_never_fires_no_underline`) **the run-time check in front of the transformer never fires** — on every source without a setext underline: the block phase
    with the guarded transformer IS the block phase with the bare `Transform`, whatever the guard would answer. Invariant (`InvW` of
    GM.Proof.BlocksTNOInvW: `Inv` of GM.Proof.BlocksOrdInv carried through the driver with transformers, GM.Proof.BlocksTNO*W): the lines of every non-raw block increase, every
    segment is non-empty, every line of a Paragraph holds a non-space byte; a transformer call (`PTPost`) only drops a prefix of the
    lines, so all of it survives. -/
theorem guard_never_fires_no_underline : type_of% @GM.Props.ConvertNP.guard_never_fires_no_underline := @GM.Props.ConvertNP.guard_never_fires_no_underline

/-- (re-export of `GM.Props.ConvertNP.transform_run_total_no_underline`) … hence **the block phase with the bare transformer ends normally** on such sources: no guard, no monitor, no panic -/
theorem transform_run_total_no_underline : type_of% @GM.Props.ConvertNP.transform_run_total_no_underline := @GM.Props.ConvertNP.transform_run_total_no_underline

/-- (re-export of `GM.Props.ConvertNP.block_phase_total_no_underline`) … and **C01 for the block phase of the default pipeline, unconditional on such sources**: `blockPhase true src` returns a tree;
    the run-time check is an observer (`blockPhase true = blockPhase false`) -/
theorem block_phase_total_no_underline : type_of% @GM.Props.ConvertNP.block_phase_total_no_underline := @GM.Props.ConvertNP.block_phase_total_no_underline

/-- (re-export of `GM.Props.ConvertNP.block_phase_guard_is_observer_no_underline`) see `GM.Props.ConvertNP.block_phase_guard_is_observer_no_underline` -/
theorem block_phase_guard_is_observer_no_underline : type_of% @GM.Props.ConvertNP.block_phase_guard_is_observer_no_underline := @GM.Props.ConvertNP.block_phase_guard_is_observer_no_underline

/-- (re-export of `GM.Props.ConvertNP.transform_run_lines_wellformed_no_underline`) the C05(c) facts for the store the block phase WITH the transformer returns (such sources): the lines of every non-raw block
    increase, segments are non-empty without ForceNewline, `WFSegs` when there are lines; every line of a Paragraph holds a non-space
    byte -/
theorem transform_run_lines_wellformed_no_underline : type_of% @GM.Props.ConvertNP.transform_run_lines_wellformed_no_underline := @GM.Props.ConvertNP.transform_run_lines_wellformed_no_underline

/-- (re-export of `GM.Props.ConvertNP.block_phase_store_shape_partial`) the same with the list shape of the returned store exported (`KidsOK`: the children of a List are ListItems with offset ≥ 0,
    a node whose parent is a List is a ListItem) — what the end-to-end C05 statement of GM.Props.ConvertE2ENT consumes -/
theorem block_phase_store_shape_partial : type_of% @GM.Props.ConvertNP.block_phase_store_shape_partial := @GM.Props.ConvertNP.block_phase_store_shape_partial

/-- (re-export of `GM.Props.ConvertNP.block_phase_lines_closed`) **Every non-raw block of the store `blockPhase true` returns has padding 0 on all its lines — unless it is a PARENTLESS
    Heading** (the close discipline `GM.Props.Wf0.nonraw_lines_padding_zero`, carried through the driver with transformers,
    GM.Proof.BlocksTNOCl*). The exception is real: see `abandoned_heading_keeps_padding`. -/
theorem block_phase_lines_closed : type_of% @GM.Props.ConvertNP.block_phase_lines_closed := @GM.Props.ConvertNP.block_phase_lines_closed

/-- (re-export of `GM.Props.ConvertNP.block_phase_child_lines_padding_zero`) the tree-walk form (what `walkBlock` / the inline phase visit): every entry of a child list has that parent and, when it is
    not raw, padding 0 on all its lines -/
theorem block_phase_child_lines_padding_zero : type_of% @GM.Props.ConvertNP.block_phase_child_lines_padding_zero := @GM.Props.ConvertNP.block_phase_child_lines_padding_zero

/-- (re-export of `GM.Props.ConvertNP.block_phase_lines_padding_zero`) the conjunction `GM.Props.ConvertE2ENT.convert_total_of_block_phase_theorems` composes with: children of any
    node are padding-free when not raw, and the Document node has no lines -/
theorem block_phase_lines_padding_zero : type_of% @GM.Props.ConvertNP.block_phase_lines_padding_zero := @GM.Props.ConvertNP.block_phase_lines_padding_zero

/-- (re-export of `GM.Props.ConvertNP.block_phase_container_nodes_have_no_lines`) Document, Blockquote, List, ListItem and ThematicBreak nodes have no lines; node 0 is the Document; the open-block stack is
    empty at the end; parent pointers and child lists agree (`TreeOK`) -/
theorem block_phase_container_nodes_have_no_lines : type_of% @GM.Props.ConvertNP.block_phase_container_nodes_have_no_lines := @GM.Props.ConvertNP.block_phase_container_nodes_have_no_lines

/-- (re-export of `GM.Props.ConvertNP.block_phase_root_is_document`) see `GM.Props.ConvertNP.block_phase_root_is_document` -/
theorem block_phase_root_is_document : type_of% @GM.Props.ConvertNP.block_phase_root_is_document := @GM.Props.ConvertNP.block_phase_root_is_document

/-- (re-export of `GM.Props.ConvertNP.block_phase_stack_empty_at_end`) see `GM.Props.ConvertNP.block_phase_stack_empty_at_end` -/
theorem block_phase_stack_empty_at_end : type_of% @GM.Props.ConvertNP.block_phase_stack_empty_at_end := @GM.Props.ConvertNP.block_phase_stack_empty_at_end

/-- (re-export of `GM.Props.ConvertNP.block_phase_tree_consistent`) see `GM.Props.ConvertNP.block_phase_tree_consistent` -/
theorem block_phase_tree_consistent : type_of% @GM.Props.ConvertNP.block_phase_tree_consistent := @GM.Props.ConvertNP.block_phase_tree_consistent

/-- (re-export of `GM.Props.ConvertNP.abandoned_heading_keeps_padding`) **"padding 0 on every non-raw node of the store" is FALSE for the driver with transformers** (kernel-evaluated witness):
    in `> [a]: /u⏎>⇥===⏎` setextHeadingParser.Open builds a Heading on the tab-padded underline (segment 12..16, padding 2), the
    paragraph is transformed away, `continuable = false; goto retry` — the Heading is abandoned: it stays in the store, parentless,
    with its padded line (Go: garbage; never visited by `walkBlock`). -/
theorem abandoned_heading_keeps_padding : type_of% @GM.Props.ConvertNP.abandoned_heading_keeps_padding := @GM.Props.ConvertNP.abandoned_heading_keeps_padding

/-- (re-export of `GM.Props.ConvertNP.block_phase_lines_ordered`) **C05(c) order clause for the store `blockPhase true` returns, EVERY node, raw kinds included** (CodeBlock / FencedCodeBlock /
    HTMLBlock: the `PadL` / `RawC` machinery of GM.Proof.BlocksOrdRaw carried through the driver with transformers): the line segments
    of every node increase -/
theorem block_phase_lines_ordered : type_of% @GM.Props.ConvertNP.block_phase_lines_ordered := @GM.Props.ConvertNP.block_phase_lines_ordered

/-- (re-export of `GM.Props.ConvertNP.block_phase_raw_lines_ordered`) see `GM.Props.ConvertNP.block_phase_raw_lines_ordered` -/
theorem block_phase_raw_lines_ordered : type_of% @GM.Props.ConvertNP.block_phase_raw_lines_ordered := @GM.Props.ConvertNP.block_phase_raw_lines_ordered

/-- (re-export of `GM.Props.ConvertE2ENP.convert_total`) **C01 END TO END**: `convertCore` answers HTML for every byte string, every Unicode-class assignment and every option
    set — no error outcome of any phase of the composed model -/
theorem convert_total : type_of% @GM.Props.ConvertE2ENP.convert_total := @GM.Props.ConvertE2ENP.convert_total

/-- (re-export of `GM.Props.ConvertE2ENP.convert_never_errs`) no outcome other than HTML -/
theorem convert_never_errs : type_of% @GM.Props.ConvertE2ENP.convert_never_errs := @GM.Props.ConvertE2ENP.convert_never_errs

/-- (re-export of `GM.Props.ConvertE2ENP.block_phase_bracket_free_eq`) **on a source without `[` the block phase of the default pipeline IS the block phase without paragraph transformers** -/
theorem block_phase_bracket_free_eq : type_of% @GM.Props.ConvertE2ENP.block_phase_bracket_free_eq := @GM.Props.ConvertE2ENP.block_phase_bracket_free_eq

/-- (re-export of `GM.Props.ConvertX.convertx_never_loops`) `convertx_never_loops` — for EVERY member set, every source, renderer option set and Unicode class assignment: `convertX`
    answers HTML or an error that is not fuel exhaustion (`blocks loop` / `inlines loop`). The inline phase: the totality proof
    of the default inline loop, stated for the open trigger table (GM.Proof.InlinesLoopTotal: `scanX_total_lo`, `lineLoopX_total_lo`),
    with the contracts of the strikethrough and the task-checkbox parser proved directly and the contract of the link parser
    over both delimiter processors obtained from GM.Proof.InlinesLink.link_contract through a relabelling of emphasis levels
    (GM.Proof.ConvertXRelv: the inline model is blind to levels; the generalised ProcessDelimiters / link parser are the default
    ones up to a relabelling that sends the representation of a Strikethrough made by `c` tildes to level `c`). -/
theorem convertx_never_loops : type_of% @GM.Props.ConvertX.convertx_never_loops := @GM.Props.ConvertX.convertx_never_loops

/-- (re-export of `GM.Props.ConvertX.inline_loop_x_total`) the inline loop of a block under ANY member set FINISHES behind the run-time check (no fuel exhaustion, no Go panic, no
    broken modelling invariant in the loop; what remains of parseBlock is the final ProcessDelimiters, which answers a child
    list or `pre`) -/
theorem inline_loop_x_total : type_of% @GM.Props.ConvertX.inline_loop_x_total := @GM.Props.ConvertX.inline_loop_x_total

/-- (re-export of `GM.Props.ConvertL.convertl_never_loops`) `convertl_never_loops`. For ALL 16 member sets of {Strikethrough, TaskList, Table, Linkify} — `extension.GFM` among them —,
    every source, option set, class assignment: `convertL` answers HTML or an error that is not fuel exhaustion. The Linkify
    parser keeps the contract of the inline loop (`linkify_contract`: a match of the hand-matched expressions lies inside the
    peeked line — `matchURL_bounds`, `matchWWW_bounds`, `findEmailIndex_le` —, the three trailing-character rules and the
    e-mail path ANSWER — no `line[-1]`, no `line[-1:…]` — and leave at least one byte, so a returned node has consumed input);
    the totality proof of the open-table loop covers a non-empty entry of ' ' (white space, a non-punctuation line head). -/
theorem convertl_never_loops : type_of% @GM.Props.ConvertL.convertl_never_loops := @GM.Props.ConvertL.convertl_never_loops

/-- (re-export of `GM.Props.ConvertL.convertgfm_never_loops`) see `GM.Props.ConvertL.convertgfm_never_loops` -/
theorem convertgfm_never_loops : type_of% @GM.Props.ConvertL.convertgfm_never_loops := @GM.Props.ConvertL.convertgfm_never_loops

/-- (re-export of `GM.Props.ConvertL.inline_loop_l_total`) the inline loop of a block under any of the 16 member sets FINISHES behind the run-time check: no Go panic of any parser —
    in particular none of `(*linkifyParser).Parse`'s unguarded index expressions —, no fuel exhaustion -/
theorem inline_loop_l_total : type_of% @GM.Props.ConvertL.inline_loop_l_total := @GM.Props.ConvertL.inline_loop_l_total

/-- (re-export of `GM.Props.ConvertE2EAll.no_renderer_side_panic`) `no_renderer_side_panic` — the statement `GM.Props.ConvertE2E.NoRendererSidePanic` (kept there as a `def`) is a theorem -/
theorem no_renderer_side_panic : type_of% @GM.Props.ConvertE2EAll.no_renderer_side_panic := @GM.Props.ConvertE2EAll.no_renderer_side_panic

/-- (re-export of `GM.Props.ConvertXE2E.convertl_total_no_table`) **`convertl_total_no_table`** (C01 end to end, 8 member sets): with Table off — Strikethrough, TaskList, Linkify in any
    combination — `convertL` answers HTML for every source, class assignment and option set. -/
theorem convertl_total_no_table : type_of% @GM.Props.ConvertXE2E.convertl_total_no_table := @GM.Props.ConvertXE2E.convertl_total_no_table

/-- (re-export of `GM.Props.ConvertXE2E.convertx_total`) **`convertx_total`**: the member sets of {Strikethrough, TaskList} — `convertX` answers HTML for every byte string -/
theorem convertx_total : type_of% @GM.Props.ConvertXE2E.convertx_total := @GM.Props.ConvertXE2E.convertx_total

/-- (re-export of `GM.Props.ConvertXE2E.convertx_never_errs`) no outcome other than HTML -/
theorem convertx_never_errs : type_of% @GM.Props.ConvertXE2E.convertx_never_errs := @GM.Props.ConvertXE2E.convertx_never_errs

/-- (re-export of `GM.Props.ConvertXE2E.convertl_total_linkify`) **`convertl_total_linkify`** (without Table): Linkify next to any subset of {Strikethrough, TaskList} -/
theorem convertl_total_linkify : type_of% @GM.Props.ConvertXE2E.convertl_total_linkify := @GM.Props.ConvertXE2E.convertl_total_linkify

/-- (re-export of `GM.Props.ConvertXE2E.convertl_never_errs_no_table`) see `GM.Props.ConvertXE2E.convertl_never_errs_no_table` -/
theorem convertl_never_errs_no_table : type_of% @GM.Props.ConvertXE2E.convertl_never_errs_no_table := @GM.Props.ConvertXE2E.convertl_never_errs_no_table

/-- (re-export of `GM.Props.ConvertXE2E.inline_phase_total_segments_resolve`) the inline phase of a block under ANY of the 16 member sets, on lines that pass the run-time check: it answers, and every
    segment of its tree lies inside the source, is not inverted and carries no padding (so every `Segment.Value` answers) -/
theorem ext_inline_phase_total_segments_resolve : type_of% @GM.Props.ConvertXE2E.inline_phase_total_segments_resolve := @GM.Props.ConvertXE2E.inline_phase_total_segments_resolve

/-- (re-export of `GM.Props.ConvertXE2E.inline_phase_code_spans_hold_text`) every CodeSpan of the tree the inline phase answers holds Text nodes only (what renderCodeSpan's `c.(*ast.Text)` needs),
    all 16 member sets, every source and lines -/
theorem ext_inline_phase_code_spans_hold_text : type_of% @GM.Props.ConvertXE2E.inline_phase_code_spans_hold_text := @GM.Props.ConvertXE2E.inline_phase_code_spans_hold_text

/-- (re-export of `GM.Props.ConvertXE2E.inline_phase_segments_unpadded`) the segments of that tree are padding-free whenever the lines are (no reader refinement needed) -/
theorem ext_inline_phase_segments_unpadded : type_of% @GM.Props.ConvertXE2E.inline_phase_segments_unpadded := @GM.Props.ConvertXE2E.inline_phase_segments_unpadded

/-- (re-export of `GM.Props.ConvertXE2E.render_no_panic_of_shape`) no node renderer panics on a tree without attributes whose Headings have level ≤ 6 and whose CodeSpans hold Text —
    whatever the renderer configuration and member set -/
theorem render_no_panic_of_shape : type_of% @GM.Props.ConvertXE2E.render_no_panic_of_shape := @GM.Props.ConvertXE2E.render_no_panic_of_shape

/-- (re-export of `GM.Props.ConvertXE2E.convertl_total_dash_free`) **`convertl_total_dash_free`**: ALL 16 member sets (Table and `extension.GFM` among them) on a source without '-' — the table
    paragraph transformer never finds a delimiter row (`convertl_conservative_table`), so the conversion is the one without
    Table, which is total -/
theorem convertl_total_dash_free : type_of% @GM.Props.ConvertXE2E.convertl_total_dash_free := @GM.Props.ConvertXE2E.convertl_total_dash_free

/-- (re-export of `GM.Props.ConvertXE2E.convertgfm_total_dash_free`) see `GM.Props.ConvertXE2E.convertgfm_total_dash_free` -/
theorem convertgfm_total_dash_free : type_of% @GM.Props.ConvertXE2E.convertgfm_total_dash_free := @GM.Props.ConvertXE2E.convertgfm_total_dash_free

/-- (re-export of `GM.Props.ConvertXE2E.convertx_total_dash_free`) see `GM.Props.ConvertXE2E.convertx_total_dash_free` -/
theorem convertx_total_dash_free : type_of% @GM.Props.ConvertXE2E.convertx_total_dash_free := @GM.Props.ConvertXE2E.convertx_total_dash_free

/-- (re-export of `GM.Props.ConvertXE2E.table_transformer_outside_contract`) **`table_transformer_outside_contract`** (negative): the driver theorem of GM.Props.ConvertNP takes any transformer list with
    `PTsSpec src e` — every call ends in `PTPost` (the paragraph keeps a SUFFIX of its lines and nothing else changes, or it is
    replaced by ONE fresh TextBlock) or answers `e`. The table paragraph transformer is OUTSIDE that contract on every call
    that builds a table: from any state, if `GM.Table.transform` finds a table in the paragraph's lines and `transformPT`
    answers a state, that state is not `PTPost` of the initial one (it holds at least two more nodes: Table, TableHeader; the
    paragraph keeps a PREFIX of its lines, or is removed). So block-phase totality with Table needs the wider contract
    `PTsSpecX` (GM.Props.ConvertNPX.block_phase_with_transformers_total_x). -/
theorem table_transformer_outside_contract : type_of% @GM.Props.ConvertXE2E.table_transformer_outside_contract := @GM.Props.ConvertXE2E.table_transformer_outside_contract

/-- (re-export of `GM.Props.ConvertXE2E.contract_adds_at_most_one_node`) the two counts behind it -/
theorem contract_adds_at_most_one_node : type_of% @GM.Props.ConvertXE2E.contract_adds_at_most_one_node := @GM.Props.ConvertXE2E.contract_adds_at_most_one_node

/-- (re-export of `GM.Props.ConvertXE2E.build_table_adds_two_nodes`) see `GM.Props.ConvertXE2E.build_table_adds_two_nodes` -/
theorem build_table_adds_two_nodes : type_of% @GM.Props.ConvertXE2E.build_table_adds_two_nodes := @GM.Props.ConvertXE2E.build_table_adds_two_nodes

/-- (re-export of `GM.Props.ConvertXE2E.escaped_pipe_walk_keeps_code_spans`) tableASTTransformer's walk below a cell keeps "every CodeSpan holds Text nodes only", for ANY list of recorded positions -/
theorem escaped_pipe_walk_keeps_code_spans : type_of% @GM.Props.ConvertXE2E.escaped_pipe_walk_keeps_code_spans := @GM.Props.ConvertXE2E.escaped_pipe_walk_keeps_code_spans

/-- (re-export of `GM.Props.ConvertXE2E.escaped_pipe_walk_segments_resolve`) … and keeps every segment in range when the positions are ascending (they are recorded in document order): the pieces
    `[start, pos)` and `[pos+1, stop)` of a Text that holds an escaped pipe are never inverted; so every `Segment.Value` of a
    cell's decoded children answers -/
theorem escaped_pipe_walk_segments_resolve : type_of% @GM.Props.ConvertXE2E.escaped_pipe_walk_segments_resolve := @GM.Props.ConvertXE2E.escaped_pipe_walk_segments_resolve

/-- (re-export of `GM.Props.ConvertXE2E.convertl_total_of_block_phase_x`) **`convertl_total_of_block_phase_x`** (the interface for Table / `extension.GFM`): the tree phases and the renderer side of
    ALL 16 member sets are total on such a store — the inline phase of every inline-bearing node (table cells among them)
    answers, the escaped-pipe transformer keeps segments in range and CodeSpans on Text, every `Segment.Value` answers, no node
    renderer panics. For the 8 member sets without Table the hypothesis is a theorem (`convertl_total_no_table`). -/
theorem convertl_total_of_block_phase_x : type_of% @GM.Props.ConvertXE2E.convertl_total_of_block_phase_x := @GM.Props.ConvertXE2E.convertl_total_of_block_phase_x

/-- (re-export of `GM.Props.ConvertXE2E.convertl_total_of_store_facts`) the same for one source and member set, in `NodeTotX` form (with the frame facts as hypotheses) -/
theorem convertl_total_of_store_facts : type_of% @GM.Props.ConvertXE2E.convertl_total_of_store_facts := @GM.Props.ConvertXE2E.convertl_total_of_store_facts

/-- (re-export of `GM.Props.ConvertXE2E.table_transformer_keeps_frame_invariants`) **`table_transformer_keeps_frame_invariants`**: the table paragraph transformer keeps EVERY frame invariant of GM.Proof.E2EKeeps
    (`GM.E2E.Frame`) — it allocates `thematicBreak` records without info segment / closure line and rewrites only `lines`,
    `children`, `parent`. Instances, for the store the block phase of ANY member set returns: Heading levels are 1..6, node 0 is
    the Document, a fenced block's info segment and an HTML block's closure line are in range. -/
theorem table_transformer_keeps_frame_invariants : type_of% @GM.Props.ConvertXE2E.table_transformer_keeps_frame_invariants := @GM.Props.ConvertXE2E.table_transformer_keeps_frame_invariants

/-- (re-export of `GM.Props.ConvertXE2E.block_phase_x_heading_levels`) see `GM.Props.ConvertXE2E.block_phase_x_heading_levels` -/
theorem block_phase_x_heading_levels : type_of% @GM.Props.ConvertXE2E.block_phase_x_heading_levels := @GM.Props.ConvertXE2E.block_phase_x_heading_levels

/-- (re-export of `GM.Props.ConvertXE2E.block_phase_x_root_is_document`) see `GM.Props.ConvertXE2E.block_phase_x_root_is_document` -/
theorem block_phase_x_root_is_document : type_of% @GM.Props.ConvertXE2E.block_phase_x_root_is_document := @GM.Props.ConvertXE2E.block_phase_x_root_is_document

/-- (re-export of `GM.Props.ConvertXE2E.block_phase_x_info_closure_in_range`) see `GM.Props.ConvertXE2E.block_phase_x_info_closure_in_range` -/
theorem block_phase_x_info_closure_in_range : type_of% @GM.Props.ConvertXE2E.block_phase_x_info_closure_in_range := @GM.Props.ConvertXE2E.block_phase_x_info_closure_in_range

/-- (re-export of `GM.Props.C15Total.converth_total`) **`converth_total`** — C01 for the AutoHeadingID configuration: for EVERY byte string, Unicode-class assignment and
    renderer option set, `convertH true` (the model of `goldmark.New(WithParserOptions(WithAutoHeadingID()), …).Convert`, tied
    byte for byte by component `converth`) answers HTML: no Go run-time panic, no fuel exhaustion, no monitor, no guard. -/
theorem converth_total : type_of% @GM.Props.C15Total.converth_total := @GM.Props.C15Total.converth_total

/-- (re-export of `GM.Props.C15Total.block_phase_h_total`) **the block phase with AutoHeadingID is total**: the strict form of `converth_block_phase_projects` — it returns exactly
    when (always) `convertCore`'s block phase returns, in the same store -/
theorem converth_block_phase_total : type_of% @GM.Props.C15Total.block_phase_h_total := @GM.Props.C15Total.block_phase_h_total

/-- (re-export of `GM.Props.C15Total.block_phase_h_error_is_core_error`) a panic of the block phase with the option is a panic of `convertCore`'s block phase (vacuously: there is none) -/
theorem converth_block_phase_error_is_core_error : type_of% @GM.Props.C15Total.block_phase_h_error_is_core_error := @GM.Props.C15Total.block_phase_h_error_is_core_error

/-- (re-export of `GM.Props.ConvertNPX.block_phase_with_transformers_total_x`) **The block driver with paragraph transformers is total for the WIDER contract `PTsSpecX`**, every byte string: a transformer
    call on a Paragraph (with a parent, with lines) must end in `StepX` — only the paragraph's lines change among the old nodes'
    lines, all lines stay in range, the tree-link frames hold (`TF`, `PLTf`, `TreeOK`), every OTHER node that was the last child of
    its parent still is (`LK` frame: what keeps the `else` of `last == parent.LastChild()` dead — a Table inserted directly BEHIND
    the paragraph never displaces a later sibling), and when the paragraph stays attached (`g = false`) it keeps at least one
    line, old nodes keep their parents and fresh nodes hang below fresh nodes or below the paragraph's parent (`KeepF`) — or answer
    the guard's outcome `e`. Any number of fresh nodes, any kept sub-list of the lines (prefix or suffix). Conclusion as before:
    a tree with all lines in range and Lists of ListItems, or `e`; no Go panic, no fuel error, neither retry monitor. -/
theorem block_phase_with_transformers_total_x : type_of% @GM.Props.ConvertNPX.block_phase_with_transformers_total_x := @GM.Props.ConvertNPX.block_phase_with_transformers_total_x

/-- (re-export of `GM.Props.ConvertNPX.narrow_contract_is_wide`) the narrow contract of GM.Props.ConvertNP (`PTPost`: a suffix of the lines, or ONE fresh TextBlock in the paragraph's place) is a
    special case, so `block_phase_with_transformers_total` / `block_phase_total` are cases of the theorem above -/
theorem narrow_contract_is_wide : type_of% @GM.Props.ConvertNPX.narrow_contract_is_wide := @GM.Props.ConvertNPX.narrow_contract_is_wide

/-- (re-export of `GM.Props.ConvertNPX.wide_contract_append`) contracts of transformer lists compose -/
theorem wide_contract_append : type_of% @GM.Props.ConvertNPX.wide_contract_append := @GM.Props.ConvertNPX.wide_contract_append

/-- (re-export of `GM.Props.ConvertNPX.table_transformer_terminates`) the table transformer never exhausts fuel and keeps every reader-only invariant (admissible for the termination theorem) -/
theorem table_transformer_terminates : type_of% @GM.Props.ConvertNPX.table_transformer_terminates := @GM.Props.ConvertNPX.table_transformer_terminates

/-- (re-export of `GM.Props.ConvertNPX.table_transformer_in_wide_contract`) **the table transformer is inside the wide contract** — behind the check "every line of the paragraph is non-empty and valid"
    (`tableE e src`: the check answers the parameter `e`; `tblLinesB`): one call is a `StepX` — the fresh subtree (Table, TableHeader,
    TableRows, TableCells: all `NodeOK`, cell segments inside their row line, `GM.Blocks.TO.Tab.parseRow_in`), `SetSliced` of the paragraph's
    lines (a prefix, last newline cut), `InsertAfter`, `RemoveChild` of an emptied paragraph — tree frames, last-child frame — or `e`. -/
theorem table_transformer_in_wide_contract : type_of% @GM.Props.ConvertNPX.table_transformer_in_wide_contract := @GM.Props.ConvertNPX.table_transformer_in_wide_contract

/-- (re-export of `GM.Props.ConvertNPX.table_and_linkref_checks_never_fire`) the check is needed for the CONTRACT only (kernel-evaluated witness `GM.Blocks.TX.tableNodesOK_false`: on a hand-built paragraph
    with an EMPTY line the one-byte cut of `trimLastNewline` inverts the kept segment); in a run it never fires, nor does the link
    reference guard: with both checks the block phase is the block phase with the bare transformers -/
theorem table_and_linkref_checks_never_fire : type_of% @GM.Props.ConvertNPX.table_and_linkref_checks_never_fire := @GM.Props.ConvertNPX.table_and_linkref_checks_never_fire

/-- (re-export of `GM.Props.ConvertNPX.block_phase_x_total`) **C01, block phase with the link reference AND the table transformer, every member set of the GFM extensions, EVERY byte string:
    `blockPhaseX c true src` returns a tree with all line segments in range** — no Go panic of the driver, the block parsers, either
    transformer or the tree surgery; no fuel error; no contract monitor; neither run-time check (`guardedTransform`'s `WFSegs`, the table
    model's domain monitor `validB`) fires. -/
theorem block_phase_x_total : type_of% @GM.Props.ConvertNPX.block_phase_x_total := @GM.Props.ConvertNPX.block_phase_x_total

/-- (re-export of `GM.Props.ConvertNPX.block_phase_x_guard_is_observer`) the run-time checks are observers -/
theorem block_phase_x_guard_is_observer : type_of% @GM.Props.ConvertNPX.block_phase_x_guard_is_observer := @GM.Props.ConvertNPX.block_phase_x_guard_is_observer

/-- (re-export of `GM.Props.ConvertNPX.block_phase_x_line_facts`) **the line facts of the store with Table on** (`c.table = true`; with Table off `blockPhaseX` is `blockPhase`, GM.Props.ConvertNP):
    every line of every node is in range; every CHILD that is not raw and not a table record (`thematicBreak`) and has lines has `WF0`
    lines; table records that are children have padding 0 on all lines; the Document has no lines -/
theorem block_phase_x_line_facts : type_of% @GM.Props.ConvertNPX.block_phase_x_line_facts := @GM.Props.ConvertNPX.block_phase_x_line_facts

/-- (re-export of `GM.Props.ConvertNPX.block_phase_x_tree_consistent`) parent pointers and child lists of the final store agree (`TreeOK`); every entry of a child list has that parent and, when
    not raw, padding 0 on all its lines -/
theorem block_phase_x_tree_consistent : type_of% @GM.Props.ConvertNPX.block_phase_x_tree_consistent := @GM.Props.ConvertNPX.block_phase_x_tree_consistent

/-- (re-export of `GM.Props.ConvertNPX.block_phase_x_good_but_esc`) **`BlockPhaseXGood` (the interface of GM.Props.ConvertXE2E) minus its escaped-pipe clause, literally, from `RecordsClassify`** — one member set, one source -/
theorem block_phase_x_good_but_esc : type_of% @GM.Props.ConvertNPX.block_phase_x_good_but_esc := @GM.Props.ConvertNPX.block_phase_x_good_but_esc

/-- (re-export of `GM.Props.ConvertNPX.convertl_total_of_records_and_esc`) **what is left for C01 end to end with `extension.GFM`**: the two remaining facts about the final store — records classify
    (`RecordsClassify`), escaped-pipe positions ascend in tree order (`GM.Props.ConvertXE2E.table_escaped_pipe_positions_ascend` has it per table; across
    tables it is a driver fact) — give `∀ c uc o src, ∃ html, convertL c uc o src = .ok html` -/
theorem convertl_total_of_records_and_esc : type_of% @GM.Props.ConvertNPX.convertl_total_of_records_and_esc := @GM.Props.ConvertNPX.convertl_total_of_records_and_esc

/-- (re-export of `GM.Props.ConvertXE2E.row_escaped_pipe_positions_ascend`) **one row** (table.go:215-235): the positions parseRow records for the escaped pipes of a row are strictly ascending and
    lie inside the paragraph line the row is cut from, `[seg.start, seg.stop)` -/
theorem row_escaped_pipe_positions_ascend : type_of% @GM.Props.ConvertXE2E.row_escaped_pipe_positions_ascend := @GM.Props.ConvertXE2E.row_escaped_pipe_positions_ascend

/-- (re-export of `GM.Props.ConvertXE2E.table_escaped_pipe_positions_ascend`) **one Table**: whenever tableParagraphTransformer.Transform builds a table from paragraph lines that follow each other in
    the source (none inverted, each ends where or before the next starts), the escaped-pipe positions it records — the header's,
    then the body rows' in order: exactly the `lines` `buildTable` writes into the TableHeader / TableRow records, i.e. this
    table's stretch of `escOfTree` — are strictly ascending, each inside one of the paragraph's lines. What is left of
    "the recorded positions ascend" is the order ACROSS tables (tree order = source order: a fact about the driver). -/
theorem table_escaped_pipe_positions_ascend : type_of% @GM.Props.ConvertXE2E.table_escaped_pipe_positions_ascend := @GM.Props.ConvertXE2E.table_escaped_pipe_positions_ascend

/-- (re-export of `GM.Props.ConvertNPX.esc_ascending_of_spans`) the tree-level half of the escaped-pipe clause: if the node ids of the final store can be labelled by source spans
    `[lo id, hi id)` (`SpanOK`: a node's own recorded positions ascend inside its span and lie before its children's spans; children's
    spans are nested in the parent's and disjoint in child-list order), then `escOfTree` of the tree is strictly ascending. What is
    still missing is the DRIVER fact that such a labelling exists (children appended in source order, the Table inserted directly
    behind its paragraph). -/
theorem esc_ascending_of_spans : type_of% @GM.Props.ConvertNPX.esc_ascending_of_spans := @GM.Props.ConvertNPX.esc_ascending_of_spans

end GM.Props.C01
