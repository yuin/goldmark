/-
  Property C17 — every rendered table is rectangular.
  Model: GM.Model.Table (extension/table.go Transform, parseRow, parseDelimiter, render funcs).
  Spec of "rectangular skeleton": GM.Spec.Table.  Helper lemmas: GM.Proof.Table.
  Only property theorems and their non-vacuity examples live here.
-/
import GM.Model.Table
import GM.Spec.Table
import GM.Proof.Table
import GM.Props.Consts.Table
import GM.Props.ConvertX

namespace GM.Props.C17
open GM GM.Table

/-- Body rows: for every source, every line segment and every alignment list, parseRow returns exactly as many
    cells as there are columns (short rows padded, excess cells dropped). -/
theorem parseRow_len (src : Bytes) (line : Seg) (aligns : List Align) :
    (parseRow src line aligns false).length = aligns.length := Proof.Table.parseRow_len src line aligns

/-- Cell `k` of a row (header or body), when it is written in the source, carries the alignment of column `k`. -/
theorem parseRow_align (src : Bytes) (line : Seg) (aligns : List Align) (isHeader : Bool) (k : Nat) (c : Cell)
    (h : (parseRow src line aligns isHeader)[k]? = some c) (hw : c.seg.isSome = true) :
    c.align = aligns.getD k Align.none := Proof.Table.parseRow_align src line aligns isHeader k c h hw

/-- A cell that is not written in the source is the empty padding cell (no line, no alignment), occurs only in
    body rows, and only after all written cells. -/
theorem parseRow_padding (src : Bytes) (line : Seg) (aligns : List Align) (isHeader : Bool) :
    (∀ (k : Nat) (c : Cell), (parseRow src line aligns isHeader)[k]? = some c → c.seg.isSome = false → c = padCell ∧ isHeader = false) ∧
    (∃ n : Nat, ∀ (k : Nat) (c : Cell), (parseRow src line aligns isHeader)[k]? = some c → (c.seg.isSome = true ↔ k < n)) := by
  refine ⟨?_, Proof.Table.parseRow_written_prefix src line aligns isHeader⟩
  intro k c h hn
  rcases Proof.Table.parseRow_cell src line aligns isHeader k c h with h | h
  · simp [h.1] at hn
  · exact h

/-- A delimiter row has at least one column and contains a `-` (and consists of delimiter characters only). -/
theorem parseDelimiter_needs_dash (line : Bytes) (al : List Align) (h : parseDelimiter line = some al) :
    al ≠ [] ∧ (45 : UInt8) ∈ line ∧ isTableDelim line = true := Proof.Table.parseDelimiter_some h

/-- Transform, completely, for every paragraph `pre ++ [hdr, dl] ++ rest` whose first delimiter row (lines 1,2,…)
    is `dl`: if the header's cell count differs from the delimiter row's there is no table and the paragraph is
    untouched; otherwise the table has that header, one body row per remaining line, and the text before the
    header stays a paragraph (its last newline trimmed). -/
theorem transform_first_delim (src : Bytes) (pre : List Seg) (hdr dl : Seg) (rest : List Seg) (al : List Align)
    (hpre : ∀ l ∈ (pre ++ [hdr]).tail, parseDelimiter (l.value src) = Option.none)
    (hdl : parseDelimiter (dl.value src) = some al) :
    transform src (pre ++ hdr :: dl :: rest) =
      if al.length != (parseRow src hdr al true).length then
        { para := pre ++ hdr :: dl :: rest, table := Option.none }
      else
        { para := trimLastNewline pre,
          table := some { aligns := al, header := parseRow src hdr al true,
                          rows := rest.map fun l => parseRow src l al false } } :=
  Proof.Table.transform_first_delim src pre hdr dl rest al hpre hdl

/-- Header guard: a candidate header whose cell count differs from the delimiter row does not become a table. -/
theorem header_guard (src : Bytes) (pre : List Seg) (hdr dl : Seg) (rest : List Seg) (al : List Align)
    (hpre : ∀ l ∈ (pre ++ [hdr]).tail, parseDelimiter (l.value src) = Option.none)
    (hdl : parseDelimiter (dl.value src) = some al)
    (hcount : (parseRow src hdr al true).length ≠ al.length) :
    transform src (pre ++ hdr :: dl :: rest) = { para := pre ++ hdr :: dl :: rest, table := Option.none } := by
  rw [Proof.Table.transform_first_delim src pre hdr dl rest al hpre hdl]
  have : (al.length != (parseRow src hdr al true).length) = true := by
    simp; exact fun h => hcount h.symm
  simp [this]

/-- The header's cell count is the number of cells written in the source: header rows are never padded. -/
theorem header_not_padded (src : Bytes) (hdr : Seg) (al : List Align) :
    ∀ c ∈ parseRow src hdr al true, c.seg.isSome = true := Proof.Table.parseRow_header_written src hdr al

/-- Every table Transform makes, from any paragraph: at least one column; the header has exactly one written cell
    per column, each with its column's alignment; every body row has exactly one cell per column, each either
    written with its column's alignment or an empty padding cell. -/
theorem table_rectangular (src : Bytes) (lines : List Seg) (t : GM.Table.Table)
    (h : (transform src lines).table = some t) :
    t.aligns ≠ [] ∧ t.header.length = t.aligns.length ∧
    (∀ (k : Nat) (c : Cell), t.header[k]? = some c → c.seg.isSome = true ∧ c.align = t.aligns.getD k Align.none) ∧
    (∀ r ∈ t.rows, r.length = t.aligns.length) ∧
    (∀ r ∈ t.rows, ∀ (k : Nat) (c : Cell), r[k]? = some c → (c.seg.isSome = true ∧ c.align = t.aligns.getD k Align.none) ∨ c = padCell) :=
  let w := Proof.Table.transform_wellShaped src lines t h
  ⟨w.cols, w.header_len, w.header_cells, w.row_len, w.row_cells⟩

/-- Exactly one header row, and it is the first child of the table; all other children are body rows. -/
theorem one_header (t : GM.Table.Table) :
    ∃ rows, t.children = { isHeader := true, cells := t.header } :: rows ∧ rows.length = t.rows.length ∧
      ∀ r ∈ rows, r.isHeader = false := by
  refine ⟨_, rfl, by simp, ?_⟩
  intro r hr
  simp at hr
  obtain ⟨_, _, rfl⟩ := hr
  rfl

/-- The tag skeleton of every table Transform makes, rendered with any alignment method, is rectangular in the
    sense of GM.Spec.Table.Rectangular: `<table><thead><tr>` n `<th>` `</tr></thead>`, then — iff there is a body
    row — exactly one `<tbody>` holding one `<tr>` of exactly n `<td>` per row, then `</table>`; header cell i shows
    column i's alignment, body cell i shows it too unless it is an empty padding cell. -/
theorem rendered_rectangular (src : Bytes) (lines : List Seg) (m : AlignMethod) (t : GM.Table.Table)
    (h : (transform src lines).table = some t) :
    Spec.Table.Rectangular (t.aligns.map (Proof.Table.vis m)) (renderSkeleton m t) :=
  Proof.Table.rendered_rectangular_of_wellShaped m t (Proof.Table.transform_wellShaped src lines t h)

/-- What the grammar means in counting terms, for every rendered table: one `<table>`, exactly one `<thead>`, a
    `<tbody>` (exactly one, properly closed) iff there is a body row, `1 + nrows` `<tr>`, exactly one `<th>` per
    column and `nrows` × columns `<td>`. -/
theorem rendered_counts (src : Bytes) (lines : List Seg) (m : AlignMethod) (t : GM.Table.Table)
    (h : (transform src lines).table = some t) :
    ∃ nrows : Nat,
      (renderSkeleton m t).count Tok.tableOpen = 1 ∧ (renderSkeleton m t).count Tok.theadOpen = 1 ∧
      (renderSkeleton m t).count Tok.tbodyOpen = (if nrows = 0 then 0 else 1) ∧
      (renderSkeleton m t).count Tok.tbodyClose = (if nrows = 0 then 0 else 1) ∧
      (renderSkeleton m t).count Tok.trOpen = 1 + nrows ∧
      (renderSkeleton m t).countP (Spec.Table.isCell true) = t.aligns.length ∧
      (renderSkeleton m t).countP (Spec.Table.isCell false) = nrows * t.aligns.length := by
  have := Proof.Table.rectangular_counts _ _ (rendered_rectangular src lines m t h)
  simpa using this

/-! ### tests on literals (non-vacuity; not part of the claim) -/

/-- "a|b\n-|:-\nx|y|z\nq\n" -/
def src1 : Bytes := [97, 124, 98, 10, 45, 124, 58, 45, 10, 120, 124, 121, 124, 122, 10, 113, 10]
def lines1 : List Seg := [⟨0, 4, 0⟩, ⟨4, 9, 0⟩, ⟨9, 15, 0⟩, ⟨15, 17, 0⟩]

-- a table is made: 2 columns, one truncated row (x|y|z), one padded row (q)
example : transform src1 lines1 =
    { para := [],
      table := some { aligns := [.none, .left],
                      header := [⟨.none, some ⟨0, 1, 0⟩, []⟩, ⟨.left, some ⟨2, 3, 0⟩, []⟩],
                      rows := [[⟨.none, some ⟨9, 10, 0⟩, []⟩, ⟨.left, some ⟨11, 12, 0⟩, []⟩],
                               [⟨.none, some ⟨15, 16, 0⟩, []⟩, padCell]] } } := by decide +kernel

-- the hypotheses of transform_first_delim / header_guard are satisfiable: "a\n|-|-|\n" has a delimiter row of two
-- columns after a one-cell header, and does not become a table (regression input of the repaired defect)
def src2 : Bytes := [97, 10, 124, 45, 124, 45, 124, 10]
example : parseDelimiter (Seg.value src2 ⟨2, 8, 0⟩) = some [.none, .none] := by decide +kernel
example : (parseRow src2 ⟨0, 2, 0⟩ [.none, .none] true).length = 1 := by decide +kernel
example : transform src2 [⟨0, 2, 0⟩, ⟨2, 8, 0⟩] = { para := [⟨0, 2, 0⟩, ⟨2, 8, 0⟩], table := Option.none } := by decide +kernel

-- text before the table stays a paragraph: "t\na\n-\n"
example : (transform [116, 10, 97, 10, 45, 10] [⟨0, 2, 0⟩, ⟨2, 4, 0⟩, ⟨4, 6, 0⟩]).para = [⟨0, 1, 0⟩] := by decide +kernel

-- the rendered skeleton of the first example
example : (transform src1 lines1).table.map (renderSkeleton .style) = some
    [.tableOpen, .theadOpen, .trOpen, .cellOpen true .none, .content (some ⟨0, 1, 0⟩), .cellClose true,
     .cellOpen true .left, .content (some ⟨2, 3, 0⟩), .cellClose true, .trClose, .theadClose, .tbodyOpen,
     .trOpen, .cellOpen false .none, .content (some ⟨9, 10, 0⟩), .cellClose false,
     .cellOpen false .left, .content (some ⟨11, 12, 0⟩), .cellClose false, .trClose,
     .trOpen, .cellOpen false .none, .content (some ⟨15, 16, 0⟩), .cellClose false,
     .cellOpen false .none, .content Option.none, .cellClose false, .trClose, .tbodyClose, .tableClose] := by
  decide +kernel

-- escaped pipe inside a code span is recorded, the cell is not split: "`a\|b`|c" after a 2-column header
example : (parseRow [96, 97, 92, 124, 98, 96, 124, 99] ⟨0, 8, 0⟩ [.none, .none] false) =
    [⟨.none, some ⟨0, 6, 0⟩, [2]⟩, ⟨.none, some ⟨7, 8, 0⟩, []⟩] := by decide +kernel

/-- the four delimiter-row regular expressions and the literals of extension/table.go are the table model's -/
theorem consts_table_regexps_tied : GM.Spec.Consts.allOk GM.Spec.Consts.tableRegexps = true := GM.Props.Consts.Table.table_regexps_tied

/-- (re-export of `GM.Props.ConvertX.convertx_tables_rectangular_partial`) `convertx_tables_rectangular_partial`, transformer level: whatever paragraph the table transformer of the composed model is
    called on, the table it builds nodes for (`GM.Table.transform`'s, handed to `buildTable`) has ≥ 1 column, a header with
    exactly one cell per column and body rows with exactly one cell per column (GM.Props.C17.table_rectangular). -/
theorem convertx_tables_rectangular_partial : type_of% @GM.Props.ConvertX.convertx_tables_rectangular_partial := @GM.Props.ConvertX.convertx_tables_rectangular_partial

/-- (re-export of `GM.Props.ConvertX.tables_rectangular_of_store`) `tables_rectangular_of_store` (C17 on the composed OUTPUT tree, the tree half): for every member set, source and class
    assignment, if the store is rectangular then so is the tree the renderer receives. `docTreeX` keeps child counts
    (`docTreesX` is a map), gives every node the decoded kind (`blockKindX`), gives a Table / TableHeader / TableRow node no
    inline children, and inline subtrees contain no table kind; without the member no node has a table kind at all. -/
theorem tables_rectangular_of_store : type_of% @GM.Props.ConvertX.tables_rectangular_of_store := @GM.Props.ConvertX.tables_rectangular_of_store

/-- (re-export of `GM.Props.ConvertX.doc_tree_keeps_rectangular`) the tree half for one tree: `rectT` of a block tree ⇒ `rectB` of what `docTreeX` makes of it -/
theorem doc_tree_keeps_rectangular : type_of% @GM.Props.ConvertX.doc_tree_keeps_rectangular := @GM.Props.ConvertX.doc_tree_keeps_rectangular

end GM.Props.C17
