/-
  Property C16 — footnote numbering and cross-links are consistent.

  Model: GM.Model.Footnote (extension/footnote.go after repair 97633bf). One parse is abstracted to the definition
  labels in block-phase order and the reference events in inline-phase order; each event says whether its link ends up
  under an Image (`dropped`) and which definition's body hosts it (`host`). The meaning of "consistent" for one rendered
  document is GM.Spec.Footnote.Consistent (six clauses over the ids, hrefs and shown numbers of the output).

  History: before 97633bf the full statement was false of the code (finding F13: a reference in image alt text, or in the
  body of a footnote that is never referenced, was counted by the transformer although never rendered, leaving a
  back-link to an id that does not exist). The repaired transformer counts only the links the renderer reaches, and the
  full statement is now a theorem for all inputs. The two former refuting witnesses are kept as examples.

  How "referenced" is read (clause `unreferenced`): at source level — a definition is referenced when some footnote
  reference `[^label]` recognised by the inline parser *anywhere* (also in image alt text, also in the body of a footnote
  that is itself removed) carries its label and it is the first definition with that label. Under this reading a
  definition referenced only from invisible places is legitimately listed (numbered, without back-link). Under the
  stricter reading "target of a reference that appears in the output" the repaired code does not satisfy the clause in
  general (examples below); `footnote_items_visibly_referenced` gives it under the hypothesis that no link is filtered.
-/
import GM.Model.Footnote
import GM.Spec.Footnote
import GM.Proof.Footnote
import GM.Props.C16E2E

namespace GM.Props.C16
open GM GM.Footnote GM.Spec.Footnote

/-- The full statement of C16 for one parse: `pre` the configured id prefix, `labels` the definitions, `evs` the
    reference events. -/
def FootnoteConsistent (pre : Bytes) (labels : List Bytes) (evs : List Event) : Prop :=
  Consistent pre labels (evs.map (·.label)) (Footnote.render pre labels evs)

instance (pre : Bytes) (labels : List Bytes) (evs : List Event) : Decidable (FootnoteConsistent pre labels evs) := by
  unfold FootnoteConsistent; infer_instance

/-- **C16.** For every id prefix, every list of definitions and every sequence of reference events (any order and
    multiplicity, any of them under images or inside other footnotes, referenced or not): the items are numbered 1..n in
    listed order (the k-th has id `<prefix>fn:k`); every rendered reference links to exactly one rendered item and shows
    its number; every back-link points to exactly one rendered reference, which links back to the same item; every
    rendered reference is the target of exactly one back-link; all generated ids are distinct; and every rendered item's
    definition is referenced (source-level reading, see the header). -/
theorem footnote_consistent (pre : Bytes) (labels : List Bytes) (evs : List Event) :
    FootnoteConsistent pre labels evs :=
  Proof.Footnote.consistent pre labels evs

/-- The references that appear in the output are exactly the links that passed the transformer's
    `footnoteLinkIsRendered` filter (the ones it counted and numbered): the counting and the rendering agree. -/
theorem footnote_rendered_iff_counted (pre : Bytes) (labels : List Bytes) (evs : List Event) (p : Event × Link) :
    p ∈ renderedLinks (transform labels evs) ↔ p ∈ (transform labels evs).links :=
  Proof.Footnote.rendered_iff_counted pre labels evs p

/-- Stricter reading of "referenced": when no created link is filtered out (no reference under an image or inside a
    removed footnote), every listed item is the target of a reference that appears in the output. -/
theorem footnote_items_visibly_referenced (pre : Bytes) (labels : List Bytes) (evs : List Event)
    (h : Proof.Footnote.allCreatedRendered labels evs = true) :
    ∀ it ∈ (Footnote.render pre labels evs).items, ∃ r ∈ (Footnote.render pre labels evs).refs, r.href = it.id :=
  Proof.Footnote.items_visibly_referenced pre labels evs h

/-- Decimal formatting (strconv.Itoa in the model) writes a numeral whose value is the number: it is injective and the
    model's digit fuel never runs out. -/
theorem decimal_value (n : Nat) : decimalValue? (dec n) = some n := Proof.Footnote.decimalValue_dec n

/-- Ids of links are determined by, and determine, (Index, RefIndex): the `:` separates the two numbers. -/
theorem link_id_injective (pre : Bytes) (l l' : Link) (k k' : Nat) (hk : l.index = (k : Int)) (hk' : l'.index = (k' : Int))
    (h : linkId pre l = linkId pre l') : k = k' ∧ l.refIndex = l'.refIndex :=
  Proof.Footnote.linkId_inj hk hk' h

/-! ### tests on literals (not theorems about all inputs) -/

/-- former witness 1, `![x[^1]](y)` + `[^1]: d` (reference only in image alt text): the item is listed without
    back-link, no reference is rendered, and the output is consistent -/
def altOnly : List Event := [{ label := [49], dropped := true, host := none }]
example : FootnoteConsistent [] [[49]] altOnly := by decide
example : (Footnote.render [] [[49]] altOnly).items = [{ src := 0, id := [102, 110, 58, 49], backs := [] }] := by decide
example : (Footnote.render [] [[49]] altOnly).refs = [] := by decide
/-- …so under the stricter reading of "referenced" this item has no visible reference -/
example : ¬ ∀ it ∈ (Footnote.render [] [[49]] altOnly).items, ∃ r ∈ (Footnote.render [] [[49]] altOnly).refs, r.href = it.id := by decide

/-- former witness 2, `[^a]: see[^b]` + `[^b]: bee` (reference only inside a removed footnote) -/
def removedOnly : List Event := [{ label := [98], dropped := false, host := some 0 }]
example : FootnoteConsistent [] [[97], [98]] removedOnly := by decide
example : ((Footnote.render [] [[97], [98]] removedOnly).items.map (·.backs), (Footnote.render [] [[97], [98]] removedOnly).refs) = ([[]], []) := by decide

/-- a non-trivial document: `a[^x] b[^y] c[^x]`, `[^y]: two [^x]`, `[^x]: one`, `[^z]: unused` -/
def sampleEvents : List Event :=
  [ { label := [120], dropped := false, host := none }, { label := [121], dropped := false, host := none },
    { label := [120], dropped := false, host := none }, { label := [120], dropped := false, host := some 0 } ]

example : ((Footnote.render [112, 45] [[121], [120], [122]] sampleEvents).items.length,
           (Footnote.render [112, 45] [[121], [120], [122]] sampleEvents).refs.length) = (2, 4) := by decide
example : Proof.Footnote.allCreatedRendered [[121], [120], [122]] sampleEvents = true := by decide
/-- mixed: one reference in alt text, one visible: RefIndex is counted over the rendered ones only -/
example : (Footnote.render [] [[49]] [{ label := [49], dropped := true, host := none }, { label := [49], dropped := false, host := none }]).refs.map (·.id)
    = [[102, 110, 114, 101, 102, 58, 49]] := by decide

/-- (re-export of `GM.Props.C16E2E.convertf_off_is_core`) **Without the extension the model is `convertCore`** (guarded and unguarded): the copied block driver with the footnote
    state layer erased is the driver of GM.Convert (no Footnote is ever opened: the layer stays empty), every tag is plain,
    the trigger table is the default one, no FootnoteLink is decoded, the transformer finds no list, and the node renderers'
    state is the core's. -/
theorem e2e_convertf_off_is_core : type_of% @GM.Props.C16E2E.convertf_off_is_core := @GM.Props.C16E2E.convertf_off_is_core

/-- (re-export of `GM.Props.C16E2E.convertf_events_are_abstraction`) **The abstraction GM.Props.C16 speaks about is what the concrete model produces.** For every source on which the two
    parse phases return (block-phase state `(f, st)`, tree `t` in front of the AST transformer):
    (1) `absOf` answers `labels` = the `Ref`s of the FootnoteList's children in the final node store (the definitions in the
        order `Close` appended them) and `events` = one event per FootnoteLink node of `t` in document order (= creation
        order), each with the label of the definition it resolved to, `dropped` = it lies below an Image, `host` = the
        Footnote that encloses it;
    (2) the document the renderer receives is the transformer `finishDoc` applied to `GM.Footnote.transform labels events` —
        the very function `footnote_consistent` is about — with `if list == nil return` decided by the parse context;
    (3) `convertF` renders exactly that document.
    This replaces the probes' OBSERVATION of (labels, events) by the model's computation; the tie (component `convertf`)
    compares the two on every document. -/
theorem e2e_convertf_events_are_abstraction : type_of% @GM.Props.C16E2E.convertf_events_are_abstraction := @GM.Props.C16E2E.convertf_events_are_abstraction

/-- (re-export of `GM.Props.C16E2E.footnote_link_resolves`) **Every node the inline parser returns is a FootnoteLink for a definition of the list** — the FIRST one whose `Ref`
    equals the bytes between `[^` and `]` (footnote.go:162-172, `index == 0` ⇒ nil): without a list, or with an unknown label,
    it returns nil. -/
theorem e2e_footnote_link_resolves : type_of% @GM.Props.C16E2E.footnote_link_resolves := @GM.Props.C16E2E.footnote_link_resolves

/-- (re-export of `GM.Props.C16E2E.footnote_label_resolution`) the position `resolve` answers is the one GM.Spec.Footnote.resolve? (the meaning of "the definition a reference `[^v]`
    means" in clause 6) names, and the label there is `v` -/
theorem e2e_footnote_label_resolution : type_of% @GM.Props.C16E2E.footnote_label_resolution := @GM.Props.C16E2E.footnote_label_resolution

/-- (re-export of `GM.Props.C16E2E.convertf_abstraction_consistent`) **C16 for the abstraction of every parse**: whatever the source, the (labels, events) the concrete model computes
    satisfy the six clauses (`GM.Props.C16.FootnoteConsistent`, i.e. `footnote_consistent`, composed with `absOf`; this file does
    not import GM.Props.C16 so that it can be re-exported there). -/
theorem e2e_convertf_abstraction_consistent : type_of% @GM.Props.C16E2E.convertf_abstraction_consistent := @GM.Props.C16E2E.convertf_abstraction_consistent

/-- (re-export of `GM.Props.C16E2E.convertf_tree_shows_abstraction`) **The tree the renderer receives shows exactly the output of GM.Footnote.render on its abstraction**, for EVERY tree `t`
    in front of the transformer that satisfies (S) — in particular (by the tie's evaluation) the one of every source: the
    `(Index, RefCount, RefIndex)` `fill` writes into the FootnoteLinks in creation order, the removal / move of the list, the
    kept definitions in sorted order with their back-links appended to the last Paragraph, read back in output order
    (nothing below an Image), ARE `items` / `refs` of GM.Model.Footnote (`renderedLinks`: body first, then each kept
    definition's hosted links) — ids, hrefs, shown numbers. Proof: GM.Proof.ConvertFTree (`fill` hands the fields out in
    event order; erasing the fields shows the shape is unchanged; a walk over body / list / notes; `allLinkFields` keeps
    creation order and its rendered entries are the numbered links). -/
theorem e2e_convertf_tree_shows_abstraction : type_of% @GM.Props.C16E2E.convertf_tree_shows_abstraction := @GM.Props.C16E2E.convertf_tree_shows_abstraction

/-- (re-export of `GM.Props.C16E2E.convertf_shape_implies_oracle`) the Lean-defined oracle the tie evaluates (`treeShowsAbsB`) is implied by (S) -/
theorem e2e_convertf_shape_implies_oracle : type_of% @GM.Props.C16E2E.convertf_shape_implies_oracle := @GM.Props.C16E2E.convertf_shape_implies_oracle

/-- (re-export of `GM.Props.C16E2E.convertf_footnotes_consistent`) **C16 for the tree the renderer receives.** For every source whose parse satisfies (S): the ids / hrefs / shown numbers
    FootnoteHTMLRenderer writes for the document `convertF` renders (`treeOutput`: `<li id>` + back-link targets per item,
    `<sup id>` / `href` / number per reference, in output order, nothing below an Image) are those of an output `o` that
    satisfies the six clauses of GM.Spec.Footnote.Consistent w.r.t. the definitions and the reference labels of the source:
    items numbered 1…n in listed order; every reference links to exactly one item and shows its number; every back-link
    points to exactly one rendered reference of its own item; every reference has exactly one back-link; all ids distinct;
    every listed definition is referenced. -/
theorem e2e_convertf_footnotes_consistent : type_of% @GM.Props.C16E2E.convertf_footnotes_consistent := @GM.Props.C16E2E.convertf_footnotes_consistent

/-- (re-export of `GM.Props.C16E2E.shape_always_ok`) **(S) always holds** — for every byte string, Unicode class assignment and guard setting, the tree in front of the
    transformer that the parse phases return has the AST shape: at most one FootnoteList, its children exactly the
    definitions `0 … n−1` in list order with no Footnote / FootnoteList below them, no Footnote elsewhere, FootnoteLinks are
    leaves that point at definitions of the list, no FootnoteBacklink yet, the root is the Document. It holds BY
    CONSTRUCTION of the composed model: the walk over the store (`treeOfF`: modes body / definition / below a definition)
    tags the list's children by their position, and the model's DOMAIN MONITORS (`tagIn`, `treeOfF`, `blockKindF`,
    `inlineTreeF`, `monitorFires` — not Go code, documented in GM.Model.ConvertF) answer `pre` for the stores Go never
    builds (a Footnote outside the list, a FootnoteList twice in the tree or below a definition, node 0 not the Document,
    a FootnoteLink to no definition, a Footnote with lines). So C16 holds of EVERY document `convertF` converts; that the
    monitors never fire (`MonitorsNeverFire`, stated) is a no-`pre` fact of the C01 kind: evaluated by the tie on every
    document (an `err:` answer is a disagreement), never observed; on `[^`-free sources it is a theorem
    (`convertf_conservative`: the outcome is `convertCore`'s). -/
theorem e2e_shape_always_ok : type_of% @GM.Props.C16E2E.shape_always_ok := @GM.Props.C16E2E.shape_always_ok

/-- (re-export of `GM.Props.C16E2E.convertf_footnotes_consistent_unconditional`) **C16 END TO END, UNCONDITIONAL.** For EVERY byte string `src` (every Unicode class assignment, id prefix, guard
    setting): whenever the parse phases of `convertF` return, the ids / hrefs / shown numbers FootnoteHTMLRenderer writes for
    the document `convertF` renders are those of an output that satisfies all six clauses of GM.Spec.Footnote.Consistent:
    items numbered 1…n in listed order; every reference links to exactly one item and shows its number; every back-link
    points to exactly one rendered reference of its own item; every reference has exactly one back-link; all ids distinct;
    every listed definition is referenced. (`convertf_footnotes_consistent` + `shape_always_ok`.) -/
theorem e2e_convertf_footnotes_consistent_unconditional : type_of% @GM.Props.C16E2E.convertf_footnotes_consistent_unconditional := @GM.Props.C16E2E.convertf_footnotes_consistent_unconditional

/-- (re-export of `GM.Props.C16E2E.convertf_tree_always_shows_abstraction`) the Lean-defined oracle of the tie is a theorem: the tree `convertF` renders ALWAYS shows the abstraction's output -/
theorem e2e_convertf_tree_always_shows_abstraction : type_of% @GM.Props.C16E2E.convertf_tree_always_shows_abstraction := @GM.Props.C16E2E.convertf_tree_always_shows_abstraction

/-- (re-export of `GM.Props.C16E2E.convertf_store_wellformed`) **Store well-formedness of the block driver with the footnote block parser** (the `MF` copy of the driver): for every
    source, guard setting and registration flag, whenever the block phase ends normally the node store is tree-shaped
    (`GM.ConvertH.TreeWF`: every child edge is mirrored by the child's parent pointer, child lists are duplicate-free,
    node 0 is the parentless Document) and the footnote context — the FootnoteList of the parse context, every `*ast.Footnote`
    — names existing nodes other than node 0. Technique and parser-level lemmas: GM.Proof.ConvertHWF*. -/
theorem e2e_convertf_store_wellformed : type_of% @GM.Props.C16E2E.convertf_store_wellformed := @GM.Props.C16E2E.convertf_store_wellformed

/-- (re-export of `GM.Props.C16E2E.convertf_block_monitor_never_fires`) **The block-phase monitor never fires**: for every source the walk over the final store meets the FootnoteList at most
    once and node 0 is the plain Document — the first half of `MonitorsNeverFire`, part 1. -/
theorem e2e_convertf_block_monitor_never_fires : type_of% @GM.Props.C16E2E.convertf_block_monitor_never_fires := @GM.Props.C16E2E.convertf_block_monitor_never_fires

/-- (re-export of `GM.Props.C16E2E.convertf_inline_links_resolve`) **The inline monitor never fires**: every FootnoteLink representation among the inline children the inline phase with
    the footnote parser returns — for every block, reference list, environment — points at a definition of the list
    (`k < refs.length`): part 2 of `MonitorsNeverFire`. The per-node property is carried through every default inline parser,
    ProcessDelimiters (it only builds Emphasis of level 1 or 2), the link parser, the byte loop over the trigger table and
    CloseBlock; the node `parseFootnote` answers has it by `footnote_label_resolution`. -/
theorem e2e_convertf_inline_links_resolve : type_of% @GM.Props.C16E2E.convertf_inline_links_resolve := @GM.Props.C16E2E.convertf_inline_links_resolve

/-- (re-export of `GM.Props.C16E2E.monitors_never_fire_of`) see `GM.Props.C16E2E.monitors_never_fire_of` -/
theorem e2e_monitors_never_fire_of : type_of% @GM.Props.C16E2E.monitors_never_fire_of := @GM.Props.C16E2E.monitors_never_fire_of

/-- (re-export of `GM.Props.C16E2E.convertf_close_discipline`) **The close discipline of the block driver with the footnote block parser** (`MF` copy; technique and parser-level
    lemmas of GM.Proof.ConvertHWF*): for every source, guard setting and registration flag, in the final state
    of the block phase the open-block stack is empty and the invariant `FJ` holds — the store is tree-shaped, every
    `*ast.Footnote` and the FootnoteList are nodes of their store kind, NO node of that kind has lines, and every child edge to
    a Footnote comes from the FootnoteList. -/
theorem e2e_convertf_close_discipline : type_of% @GM.Props.C16E2E.convertf_close_discipline := @GM.Props.C16E2E.convertf_close_discipline

/-- (re-export of `GM.Props.C16E2E.footnotes_all_filed`) **Every Footnote is filed** — `FootnotesAllFiled` is a theorem. -/
theorem e2e_footnotes_all_filed : type_of% @GM.Props.C16E2E.footnotes_all_filed := @GM.Props.C16E2E.footnotes_all_filed

/-- (re-export of `GM.Props.C16E2E.monitors_never_fire`) **NO DOMAIN MONITOR OF THE FOOTNOTE MODEL EVER FIRES** — `MonitorsNeverFire` is a theorem, for every byte string: after
    every block phase `monitorFires = false` and the tagged tree is `clean`; every FootnoteLink of every inline phase points at
    a definition of the list. With `shape_always_ok` and `convertf_footnotes_consistent_unconditional`: C16 end to end for
    every byte string with no footnote monitor left in the way. -/
theorem e2e_monitors_never_fire : type_of% @GM.Props.C16E2E.monitors_never_fire := @GM.Props.C16E2E.monitors_never_fire

/-- (re-export of `GM.Props.C16E2E.convertf_no_footnote_monitor_outcome`) **…in terms of outcomes**: for every byte string (guard setting, Unicode class assignment) the parse phases of the composed
    model with the extension never answer `value pre` — the outcome of every footnote monitor of the tree phase (`stray`, lines
    on a Footnote / the list, a FootnoteLink to no definition) — and they answer `blocks pre` only when the BLOCK PHASE itself
    does (the retry contract monitors of the block driver that `convertCore` has too), never because of `monitorFires`. -/
theorem e2e_convertf_no_footnote_monitor_outcome : type_of% @GM.Props.C16E2E.convertf_no_footnote_monitor_outcome := @GM.Props.C16E2E.convertf_no_footnote_monitor_outcome

/-- (re-export of `GM.Props.C16E2E.convertf_anchor_loop_terminates`) **A provable part of `BlockNoLoopF`: the ancestor loop of `(*footnoteBlockParser).Close` has enough fuel** (footnote.go:96-100,
    `anchorLoop` with fuel `len + 1`) for every node whose parent-pointer chain reaches node 0 of a tree-shaped store: the nodes
    on the chain exist and are pairwise different (node 0 has no parent, so a node has one depth), so there are at most `len`
    of them. -/
theorem e2e_convertf_anchor_loop_terminates : type_of% @GM.Props.C16E2E.convertf_anchor_loop_terminates := @GM.Props.C16E2E.convertf_anchor_loop_terminates

/-- (re-export of `GM.Props.C16E2E.convertf_close_no_loop_of_reach`) … hence **`Close` of such a Footnote never answers `loop`** (its other outcomes: normal end, `nil`). -/
theorem e2e_convertf_close_no_loop_of_reach : type_of% @GM.Props.C16E2E.convertf_close_no_loop_of_reach := @GM.Props.C16E2E.convertf_close_no_loop_of_reach

end GM.Props.C16
