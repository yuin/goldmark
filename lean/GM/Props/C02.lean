/-
  Property C02 — CommonMark conformance on constructed documents and rewritten spec examples.
  Level "other": the property itself (goldmark's HTML for every constructed document equals the HTML the
  specification prescribes) is decided by correspondence between the Lean spec-side model and the
  implementation (component `cmspec`), not by a theorem. The theorems listed here are the mechanism laws that
  ARE proved, re-exported from C02c (the spec-side generator), C02Emph / C02Link (the spec-side emphasis and link
  references), C02Esc, C02LinkFix, C02Frag / C02FragInteg (the conformance fragments) and Consts.Parser; the line
  recognisers and the line breaks are in C02a / C02b.
-/
import GM.Props.C02c
import GM.Props.Consts.Parser
import GM.Props.C02Emph
import GM.Props.C02Esc
import GM.Props.C02LinkFix
import GM.Props.C02Frag
import GM.Props.C02Link
import GM.Props.C02FragInteg

namespace GM.Props.C02
open GM GM.Spec.CM

/-- escapes axis (`write_undoes_spelling`): the text-writer model undoes every licensed spelling of printable
    ASCII text, for all strings and all per-character choices. -/
theorem escSpell_decodes (cs : List TChar) (hp : ∀ t ∈ cs, printable t.c = true) :
    GM.write false (escSpell cs) = GM.rawWrite (plain cs) := C02c.escSpell_decodes_default cs hp

/-- … for either value of the writer's EscapedSpace option. -/
theorem escSpell_decodes_any (escSpace : Bool) (cs : List TChar) (hp : ∀ t ∈ cs, printable t.c = true) :
    GM.write escSpace (escSpell cs) = GM.rawWrite (plain cs) := C02c.escSpell_decodes escSpace cs hp

/-- the spec side's HTML escaping of text is the writer's RawWrite -/
theorem escHtml_eq_rawWrite (b : Bytes) : escHtml b = GM.rawWrite b := C02c.escHtml_eq_rawWrite b

/-- the expected HTML of every tree is tag-balanced -/
theorem expected_balanced (d : Doc) : Proof.CMSpecTree.balanced (expectedPieces d) = true := C02c.expected_balanced d

/-- `expected` depends on the structure only, never on a spelling choice (true by construction) -/
theorem spell_choice_independent_expected (d : Doc) : expected (eraseDoc d) = expected d :=
  C02c.spell_choice_independent_expected d

/-- the regular expressions, tag list, limits and marker bytes of parser/*.go are the ones the block / inline models were written against (obligations over the regenerated GM.Gen.Consts; `./check` names the constant when one changes) -/
theorem consts_html_block_regexps_tied : GM.Spec.Consts.allOk GM.Spec.Consts.htmlBlockRegexps = true := GM.Props.Consts.Parser.html_block_regexps_tied
/-- `allowedBlockTags` and the type 2-5 closers of parser/html_block.go are the block model's -/
theorem consts_html_block_tags_tied : GM.Spec.Consts.allOk GM.Spec.Consts.htmlBlockTags = true := GM.Props.Consts.Parser.html_block_tags_tied
/-- the raw-HTML tag expressions of parser/raw_html.go are the ones the inline model's matchers were written against -/
theorem consts_raw_html_regexps_tied : GM.Spec.Consts.allOk GM.Spec.Consts.rawHtmlRegexps = true := GM.Props.Consts.Parser.raw_html_regexps_tied
/-- the autolink expressions and bounds of parser/auto_link.go are the inline model's -/
theorem consts_autolink_regexps_tied : GM.Spec.Consts.allOk GM.Spec.Consts.autolinkRegexps = true := GM.Props.Consts.Parser.autolink_regexps_tied
/-- the numeric limits of the parsers (label length 999, list start 9 digits, indents 3/4, fence 3, ATX 6, ...) are the models' -/
theorem consts_limits_tied : GM.Spec.Consts.allOk GM.Spec.Consts.limits = true := GM.Props.Consts.Parser.limits_tied
/-- bullet / delimiter / fence / heading / emphasis marker bytes are the models' -/
theorem consts_markers_tied : GM.Spec.Consts.allOk GM.Spec.Consts.markers = true := GM.Props.Consts.Parser.markers_tied

/-- (re-export of `GM.Props.C02Emph.emph_preserves_text`) `emph_preserves_text`: writing the tree back — every `<em>` node as one, every `<strong>` node as two of its
    delimiter characters around its children, text and line breaks as they are — gives exactly the characters of
    the token sequence (= the source with escape backslashes removed).  So the text content of the prescribed HTML
    (`textOfL`: the same traversal without the delimiter characters of the nodes) is the source with exactly the
    consumed delimiter characters and the escape backslashes removed, in order; no character is lost, duplicated
    or invented, and a delimiter character is dropped only as part of a matched pair. -/
theorem emph_preserves_text : type_of% @GM.Props.C02Emph.emph_preserves_text := @GM.Props.C02Emph.emph_preserves_text

/-- (re-export of `GM.Props.C02Emph.emph_sound_rules_1_8`) `emph_sound_rules_1_8` (and 9/10): every `<em>` / `<strong>` node of the tree — at any depth — was made from
    two DIFFERENT delimiter runs of the token sequence, the opening one before the closing one, of the node's
    delimiter character, where the first can open and the second can close emphasis (rules 1-8, computed by `mkRun`
    from left- and right-flanking) and the pair satisfies the multiple-of-3 condition of rules 9/10 (`matchesRun`). -/
theorem emph_sound_rules_1_8 : type_of% @GM.Props.C02Emph.emph_sound_rules_1_8 := @GM.Props.C02Emph.emph_sound_rules_1_8

/-- (re-export of `GM.Props.C02Emph.emph_html_balanced`) the prescribed HTML is tag-balanced: it is the concatenation of an event sequence (`<em>` `<strong>` `</em>`
    `</strong>`, escaped text / line endings / `<br />`) in which every closing tag closes the innermost open element and
    nothing stays open — for the tree of EVERY token sequence -/
theorem emph_html_balanced : type_of% @GM.Props.C02Emph.emph_html_balanced := @GM.Props.C02Emph.emph_html_balanced

/-- (re-export of `GM.Props.C02Emph.emph_html_text`) the text content of the prescribed HTML (tags stripped; still entity-escaped) is the escaped text content of the
    tree, i.e. by `emph_preserves_text` the escaped source without escape backslashes and consumed delimiters -/
theorem emph_html_text : type_of% @GM.Props.C02Emph.emph_html_text := @GM.Props.C02Emph.emph_html_text

/-- (re-export of `GM.Props.C02Emph.openers_bottom_is_optimisation`) the `openers_bottom` table of the spec's appendix is a pure optimisation of this reference (which leaves it out):
    the closing loop WITH a table that remembers, per key, how many bottom-most stack entries a failed search has
    ruled out (`Proof.CMEmphMemo.parseM`; a count, clamped when the stack shrinks, instead of the appendix's pointer)
    computes the same tree for EVERY token sequence when the key is the appendix's — delimiter character, whether the
    closer can also open, closer length mod 3.  More generally (`Proof.CMEmphMemo.parseM_eq`) for every key that
    determines which openers a closer may take. -/
theorem emph_openers_bottom_is_optimisation : type_of% @GM.Props.C02Emph.openers_bottom_is_optimisation := @GM.Props.C02Emph.openers_bottom_is_optimisation

/-- (re-export of `GM.Props.C02Frag.fragment_conforms`) **Conformance on the fragment (stages 1–3).** For EVERY document `d` of the fragment — any number of
    paragraphs, each a non-empty sequence of lines; a line is a non-empty run of printable ASCII characters in any
    licensed spelling (literal, backslash escape, decimal / hexadecimal character reference with leading zeros,
    named entity) that starts with a literal letter, ends with a literal letter or digit and has no literal `!`;
    `gap` extra blank lines in front of every paragraph, `trail` blank lines at the end — and for every assignment
    `uc` of Unicode classes (irrelevant here: the source is ASCII), the model of goldmark's `Convert` on the
    Markdown source `spellF d` returns, without error, exactly the prescribed HTML `expectedF d`: every paragraph
    `<p>`…`</p>` + newline, its lines joined by a newline (soft line break), `& < > "` escaped. -/
theorem fragment_conforms : type_of% @GM.Props.C02Frag.fragment_conforms := @GM.Props.C02Frag.fragment_conforms

/-- (re-export of `GM.Props.C02Frag.fragment4_conforms`) **Conformance on the stage-4 fragment.** For EVERY document `d` whose blocks are paragraphs (as above), ATX
    headings (`#`…`######`, one space, a line of fragment text, no closing sequence) and thematic breaks (three or
    more `*`, `-` or `_`), every two blocks separated by at least one blank line (so `---` never stands directly
    under a paragraph: no setext reading), with any number of further blank lines in front, between and behind: the
    model of goldmark's `Convert` on the source `spellG d` returns exactly the prescribed HTML `expectedG d`
    (`<hN>`text`</hN>`, `<hr />`, `<p>`…`</p>`). -/
theorem fragment4_conforms : type_of% @GM.Props.C02Frag.fragment4_conforms := @GM.Props.C02Frag.fragment4_conforms

/-- (re-export of `GM.Props.C02Frag.fragment5_conforms`) **Conformance on the stage-5 fragment.** For EVERY document `d` whose blocks are paragraphs, ATX headings, thematic
    breaks (as in stage 4) and FENCED CODE BLOCKS — an opening fence of 3+n backticks or tildes directly followed by an
    info string of letters and digits (possibly empty), any number of content lines of printable ASCII characters
    that are empty or start with a character that is neither a space nor the fence character, a closing fence of the
    same characters and length — blocks separated by at least one blank line: the model of goldmark's `Convert` on
    `spellH d` returns exactly the prescribed HTML `expectedH d` (`<pre><code class="language-INFO">` + the content
    lines, HTML-escaped, each with its line feed + `</code></pre>`). -/
theorem fragment5_conforms : type_of% @GM.Props.C02Frag.fragment5_conforms := @GM.Props.C02Frag.fragment5_conforms

/-- (re-export of `GM.Props.C02Frag.fragment6_conforms`) **Conformance on the stage-6 fragment.** For EVERY document `d` of paragraphs, ATX headings, thematic breaks and
    fenced code blocks (as in stage 5) in which a block may follow the previous one WITHOUT a blank line wherever the
    specification allows that for these blocks — behind an ATX heading, a thematic break or a closed fence: any block;
    behind a paragraph: an ATX heading, a fenced code block, a thematic break of `*` or `_` (not a further text line:
    continuation; not `---`: setext underline) — and otherwise any number of blank lines between, in front and
    behind: the model of goldmark's `Convert` on `spellK d` returns exactly the prescribed HTML `expectedK d`. -/
theorem fragment6_conforms : type_of% @GM.Props.C02Frag.fragment6_conforms := @GM.Props.C02Frag.fragment6_conforms

/-- (re-export of `GM.Props.C02Frag.fragment6_conforms_spec`) **Stage-6 conformance stated on the spec model itself**, including its choice "no blank line before this block". -/
theorem fragment6_conforms_spec : type_of% @GM.Props.C02Frag.fragment6_conforms_spec := @GM.Props.C02Frag.fragment6_conforms_spec

/-- (re-export of `GM.Props.C02Frag.plain_line_conforms`) **Stage 1 in bytes.** One line of plain text (letters, digits, spaces — also several in a row — starting with a
    letter and ending with a letter or digit) followed by a line feed is converted to `<p>`, the same bytes, `</p>`,
    line feed. -/
theorem plain_line_conforms : type_of% @GM.Props.C02Frag.plain_line_conforms := @GM.Props.C02Frag.plain_line_conforms

/-- (re-export of `GM.Props.C02Frag.fragment_block_phase`) **Block phase on the fragment.** The block phase (`parser.parseBlocks` with the link-reference paragraph
    transformer and its run-time check) on the source of a fragment document ends normally — no Go panic, no
    contract monitor, fuel suffices — and leaves the Document with exactly one closed Paragraph per paragraph of
    the document (lines = the source lines, the last one without its line feed) and an empty reference map. -/
theorem fragment_block_phase : type_of% @GM.Props.C02Frag.fragment_block_phase := @GM.Props.C02Frag.fragment_block_phase

/-- (re-export of `GM.Props.C02Frag.inline_phase_quiet_lines`) **Inline phase on quiet lines.** For a paragraph whose source lines are non-empty, contain no line feed, never
    make the byte loop of `parseBlock` consult an inline parser (`quiet`) and end neither in white space nor in a
    backslash, the inline phase yields exactly one Text node per line, with a soft line break on all but the last. -/
theorem inline_phase_quiet_lines : type_of% @GM.Props.C02Frag.inline_phase_quiet_lines := @GM.Props.C02Frag.inline_phase_quiet_lines

/-- (re-export of `GM.Props.C02Link.dest_form_sound`) `dest_form_sound`: whenever the reference accepts the parenthesised part of an inline link, the destination it
    reports satisfies the grammar of the form it was recognised in — first form: the content of `<…>` has no line
    ending and no unescaped `<` or `>`; second form: no space, no ASCII control character, does not start with `<`,
    and every unescaped parenthesis belongs to a balanced pair (`bareDepth 0 … = some 0`). -/
theorem link_dest_form_sound : type_of% @GM.Props.C02Link.dest_form_sound := @GM.Props.C02Link.dest_form_sound

/-- (re-export of `GM.Props.C02Link.links_not_nested`) `links_not_nested` (6.3: "Links may not contain other links, at any level of nesting"): in the tree the reference
    builds for ANY inline content no link node has a link below it, at any depth, also not inside the description
    of an image inside it (the active / inactive bookkeeping of the bracket stack). -/
theorem links_not_nested : type_of% @GM.Props.C02Link.links_not_nested := @GM.Props.C02Link.links_not_nested

/-- (re-export of `GM.Props.C02Link.link_html_balanced`) the prescribed HTML of every tree is tag-balanced: the concatenation of an event sequence in which `<a …>` and
    `</a>` nest properly (images, breaks, text and raw HTML are leaves; raw HTML is opaque) -/
theorem link_html_balanced : type_of% @GM.Props.C02Link.link_html_balanced := @GM.Props.C02Link.link_html_balanced
/-- (re-export of `GM.Props.C02Esc.escape_state_does_not_cross_line_end`, repair 24c9f23) in every state in which an iteration of
    the line loop of parseBlock begins (the first, and the one after every end of line; not behind a `goto retry`) the flag `escaped`
    is false — for ANY inline parsers and block: a backslash never escapes across a line end (CommonMark 2.4 / 6.7) -/
theorem escape_state_does_not_cross_line_end : type_of% @GM.Props.C02Esc.escape_state_does_not_cross_line_end := @GM.Props.C02Esc.escape_state_does_not_cross_line_end

/-- (re-export of `GM.Props.C02Esc.lineLoop_line_end_resets`) the same on the concrete inline phase: after the end of a line the loop goes on with
    `escaped = false`, whatever the byte loop left in the flag -/
theorem lineLoop_line_end_resets : type_of% @GM.Props.C02Esc.lineLoop_line_end_resets := @GM.Props.C02Esc.lineLoop_line_end_resets

/-- (re-export of `GM.Props.C02Esc.findClosure_stop_excludes_padding`, repair 9e57c92) FindClosure on a block reader over lines
    with ANY virtual paddings, closer not a space: the last segment it hands out stops exactly at the source offset of a closer byte
    (the padding at the head of the peeked line is not counted) -/
theorem findClosure_stop_excludes_padding : type_of% @GM.Props.C02Esc.findClosure_stop_excludes_padding := @GM.Props.C02Esc.findClosure_stop_excludes_padding

/-- (re-export of `GM.Props.C02LinkFix.model_destination_agrees_with_reference_pointy`, repair 5e850d1) goldmark's `<…>` link destination
    (model `GM.Inl.destAngle`), on every line without an inner line ending, is exactly what the specification-side scanner `GM.Spec.CMLink.pointy` returns:
    same raw destination, same rest, rejected iff rejected -/
theorem model_destination_agrees_with_reference_pointy : type_of% @GM.Props.C02LinkFix.model_destination_agrees_with_reference_pointy := @GM.Props.C02LinkFix.model_destination_agrees_with_reference_pointy

/-- (re-export of `GM.Props.C02LinkFix.model_destination_agrees_with_reference_bare`, repair ce3b6c4) … and the bracket-free destination (`destPlain` / `destOpened`),
    on every line whose only white-space / control characters are spaces and line feeds, is what `GM.Spec.CMLink.bare` returns -/
theorem model_destination_agrees_with_reference_bare : type_of% @GM.Props.C02LinkFix.model_destination_agrees_with_reference_bare := @GM.Props.C02LinkFix.model_destination_agrees_with_reference_bare

/-- (re-export of `GM.Props.C02Frag.fragment7_conforms`) **Conformance without the final line feed.** For EVERY stage-6 document `d` that ends with a block (`trail = 0`,
    at least one block), written WITHOUT the line feed of its last line (`spellKE d` = `spellK d` minus its last
    byte; the last line may be a paragraph line, an ATX heading, a thematic break or the closing fence of a fenced
    code block, behind a blank line or directly behind the previous block): the model of goldmark's `Convert` returns
    exactly the same prescribed HTML `expectedK d`. -/
theorem fragment7_conforms : type_of% @GM.Props.C02Frag.fragment7_conforms := @GM.Props.C02Frag.fragment7_conforms

/-- (re-export of `GM.Props.C02Frag.fragment7_conforms_spec`) **Stage-7 conformance stated on the spec model itself** (its axis "missing final newline"). -/
theorem fragment7_conforms_spec : type_of% @GM.Props.C02Frag.fragment7_conforms_spec := @GM.Props.C02Frag.fragment7_conforms_spec

/-- (re-export of `GM.Props.C02Frag.fragment8_conforms`) **Conformance with code spans.** For EVERY document of paragraphs (`RDoc`) whose lines are made of text atoms (any
    licensed spelling of every character, as in stage 1–3) alternating with CODE SPANS — one backtick, a non-empty run of
    ASCII letters and digits, one backtick — each line beginning and ending with text (`RFrag`, decidable), with any
    number of blank lines between the paragraphs and at both ends: the model of goldmark's `Convert` returns exactly the
    prescribed HTML (`<code>…</code>` in place of every span). The span may touch the text on both sides (`a`x`b`),
    stand behind an escaped backtick or backslash, several spans per line, several lines per paragraph. -/
theorem fragment8_conforms : type_of% @GM.Props.C02Frag.fragment8_conforms := @GM.Props.C02Frag.fragment8_conforms

/-- (re-export of `GM.Props.C02Frag.fragment9_conforms`) **Conformance with hard line breaks.** For EVERY document of paragraphs (`BDoc`) whose lines are stage-1–3 text lines,
    every line except the last of its paragraph optionally followed by a BACKSLASH (`BFrag`, decidable): the model of
    goldmark's `Convert` returns exactly the prescribed HTML — `<br />` and a line feed behind a hard line. -/
theorem fragment9_conforms : type_of% @GM.Props.C02Frag.fragment9_conforms := @GM.Props.C02Frag.fragment9_conforms

/-- (re-export of `GM.Props.C02Frag.fragment11_conforms`) **Conformance with emphasis.** For EVERY document of paragraphs (`EDoc`) whose lines are made of text atoms (any
    licensed spelling of every character) alternating with code spans, `*x*` and `**x**` (x a non-empty run of ASCII
    letters and digits), each line beginning and ending with text (`EFrag`, decidable): the model of goldmark's `Convert`
    returns exactly the prescribed HTML (`<em>x</em>`, `<strong>x</strong>`). NO condition on the characters next to
    the `*` runs is needed (the content is alphanumeric, so the opening run is left-flanking and the closing run
    right-flanking whatever stands outside — letters, spaces, punctuation in any spelling, an escaped `\*`): the tie
    enumerates all 95 characters × 7 spellings on both sides. -/
theorem fragment11_conforms : type_of% @GM.Props.C02Frag.fragment11_conforms := @GM.Props.C02Frag.fragment11_conforms

/-- (re-export of `GM.Props.C02Frag.fragment12_conforms`) **Conformance on the stage-12 fragment.** For EVERY document `d` of paragraphs, ATX headings, thematic breaks,
    fenced code blocks (as in stage 6) and INDENTED CODE BLOCKS (one or more lines of four spaces followed by printable
    ASCII text that does not start with a space), where blocks follow each other with or without blank lines as
    CommonMark allows — an indented code block needs a blank line behind a paragraph (4.4: it cannot interrupt a
    paragraph), any block may directly follow an indented code block, and no indented code block follows an indented
    code block (with only blank lines between them they would be ONE block): the model of goldmark's `Convert` on
    `spellIc d` returns exactly the prescribed HTML `expectedI d`. In particular the blank lines behind an indented code
    block — which goldmark first appends to the open block and removes again when it closes the block — never reach the
    output. -/
theorem fragment12_conforms : type_of% @GM.Props.C02Frag.fragment12_conforms := @GM.Props.C02Frag.fragment12_conforms

/-- (re-export of `GM.Props.C02Frag.fragment13_conforms`) **Conformance of the union fragment.** For EVERY document `d : UDocS` — paragraphs, ATX headings, thematic breaks,
    fenced code blocks and INDENTED CODE BLOCKS (stage 12: lines of printable ASCII behind four spaces; not directly behind
    a paragraph, and never behind another indented code block, however many blank lines lie between them), abutting where
    CommonMark allows (stage 6), where every paragraph line and every heading text is a RICH line (text in any licensed
    spelling alternating with code spans, `*x*`, `**x**`) and a paragraph line that is not the last may end with a
    backslash HARD BREAK (`UFrag`, decidable): the model of goldmark's `Convert` returns exactly the prescribed HTML.
    This one statement contains stages 1–6, 8, 9, 11 and 12. -/
theorem fragment13_conforms : type_of% @GM.Props.C02Frag.fragment13_conforms := @GM.Props.C02Frag.fragment13_conforms

/-- (re-export of `GM.Props.C02Frag.fragment13_conforms_spec`) **The union stated on the spec model itself.** -/
theorem fragment13_conforms_spec : type_of% @GM.Props.C02Frag.fragment13_conforms_spec := @GM.Props.C02Frag.fragment13_conforms_spec

/-- (re-export of `GM.Props.C02Frag.fragment16_conforms`) **Conformance with inline links.** For EVERY document of paragraphs (`LDoc`) whose lines are text atoms (any licensed
    spelling of every character) alternating with INLINE LINKS `[t](d)` — `t` a non-empty run of ASCII letters and digits,
    `d` a non-empty run of letters, digits and `/`, no title —, each line beginning and ending with text (`LFrag`,
    decidable): the model of goldmark's `Convert` returns exactly the prescribed HTML (`<a href="d">t</a>`). No condition
    on the characters next to the brackets is needed (an escaped `\[`, `\]`, `\!` included). -/
theorem fragment16_conforms : type_of% @GM.Props.C02Frag.fragment16_conforms := @GM.Props.C02Frag.fragment16_conforms

/-- (re-export of `GM.Props.C02Frag.fragment17_conforms`) **Conformance with images.** As stage 16 with IMAGES `![t](d)` in place of the links (`ImgDoc`, `ImgFrag`): the model of
    goldmark's `Convert` returns `<img src="d" alt="t" />` for every image. -/
theorem fragment17_conforms : type_of% @GM.Props.C02Frag.fragment17_conforms := @GM.Props.C02Frag.fragment17_conforms

/-- (re-export of `GM.Props.C02Frag.fragment18_conforms`) **Conformance with URI autolinks.** For EVERY document of paragraphs (`ADoc`) whose lines are text atoms alternating
    with AUTOLINKS `<s:r>` — `s` a scheme of 2 to 32 ASCII letters, `r` a non-empty run of letters, digits, `/` and `.` —,
    each line beginning and ending with text (`AFrag`): the model of goldmark's `Convert` returns
    `<a href="s:r">s:r</a>` for every autolink. (A scheme of 33 letters is OUTSIDE the fragment: there goldmark deviates
    from CommonMark 6.5 — see notes/status_cmfrag.md, findings.) -/
theorem fragment18_conforms : type_of% @GM.Props.C02Frag.fragment18_conforms := @GM.Props.C02Frag.fragment18_conforms

/-- (re-export of `GM.Props.C02Frag.fragment19_conforms`) **Conformance with raw inline HTML.** For EVERY document of paragraphs (`H19Doc`) whose lines are text atoms
    alternating with OPEN TAGS `<n>` and CLOSING TAGS `</n>` (`n` = an ASCII letter followed by letters and digits, no
    attributes), each line beginning and ending with text (`H19Frag`): with `html.WithUnsafe()` the model of goldmark's
    `Convert` passes every tag through verbatim. (The autolink parser, which shares the trigger `<`, declines; names of
    block-level elements — `div`, `pre`, `script` — are harmless in inline position.) -/
theorem fragment19_conforms : type_of% @GM.Props.C02Frag.fragment19_conforms := @GM.Props.C02Frag.fragment19_conforms

/-- (re-export of `GM.Props.C02Frag.fragment20_conforms`) **Conformance with `_` emphasis.** For EVERY document of paragraphs (`UnDoc`) whose lines are text atoms alternating
    with `_x_` and `__x__` (x a non-empty run of ASCII letters and digits) such that the SOURCE byte directly in front of
    an opening run and the one directly behind a closing run is not a letter or digit (6.2, rules 2 / 4 / 6 / 8: with
    alphanumeric neighbours `a_b_c` is literal text — the tie checks that too, on non-members) (`UnFrag`): the model of
    goldmark's `Convert` returns `<em>x</em>` / `<strong>x</strong>`. -/
theorem fragment20_conforms : type_of% @GM.Props.C02Frag.fragment20_conforms := @GM.Props.C02Frag.fragment20_conforms

/-- (re-export of `GM.Props.C02Frag.fragment12_conforms_no_final_newline`) … and the same documents written WITHOUT the line feed of their last line (`trail = 0`, at least one block; the last
    block may be an indented code block whose last line ends the source): the same HTML -/
theorem fragment12_conforms_no_final_newline : type_of% @GM.Props.C02Frag.fragment12_conforms_no_final_newline := @GM.Props.C02Frag.fragment12_conforms_no_final_newline

/-- (re-export of `GM.Props.C02Frag.fragment13_conforms_no_final_newline`) … written without the final line feed (contains stage 7); here the LAST block is not an indented code block
    (`ulastNotIc`; that case is `fragment12_conforms_no_final_newline`) -/
theorem fragment13_conforms_no_final_newline : type_of% @GM.Props.C02Frag.fragment13_conforms_no_final_newline := @GM.Props.C02Frag.fragment13_conforms_no_final_newline

/-- (re-export of `GM.Props.C02FragInteg.block_phase_bracket_free_holds`) on a source without `[` the block phase of the default pipeline IS the transformer-free driver's run -/
theorem block_phase_bracket_free_holds : type_of% @GM.Props.C02FragInteg.block_phase_bracket_free_holds := @GM.Props.C02FragInteg.block_phase_bracket_free_holds

/-- (re-export of `GM.Props.C02FragInteg.fragment10_conforms`) **Conformance inside one block quote** (stage 10): for every stage-6 fragment document without `-`, `*`, `+`, digits, `[`, written with
    `> ` in front of every line, the composed model answers the prescribed HTML of the quoted document — no hypothesis left. -/
theorem fragment10_conforms : type_of% @GM.Props.C02FragInteg.fragment10_conforms := @GM.Props.C02FragInteg.fragment10_conforms

/-- (re-export of `GM.Props.C02FragInteg.fragment10_conforms_no_final_newline`) the same without the line feed of the last line -/
theorem fragment10_conforms_no_final_newline : type_of% @GM.Props.C02FragInteg.fragment10_conforms_no_final_newline := @GM.Props.C02FragInteg.fragment10_conforms_no_final_newline

/-- (re-export of `GM.Props.C02FragInteg.fragment14_conforms`) **Conformance inside `k+1` nested block quotes**, every `k` (stage 14) -/
theorem fragment14_conforms : type_of% @GM.Props.C02FragInteg.fragment14_conforms := @GM.Props.C02FragInteg.fragment14_conforms

/-- (re-export of `GM.Props.C02FragInteg.fragment13_conforms_quoted`) **The union fragment inside `k+1` nested block quotes** (stage 13, quoted) -/
theorem fragment13_conforms_quoted : type_of% @GM.Props.C02FragInteg.fragment13_conforms_quoted := @GM.Props.C02FragInteg.fragment13_conforms_quoted

/-- (re-export of `GM.Props.C02Frag.fragment21_conforms`) **Conformance of the full union.** For EVERY document `d : F21Doc` — paragraphs, ATX headings, thematic breaks, fenced
    and indented code blocks, abutting where CommonMark allows (stages 6, 12) — where every paragraph line and every heading
    text is a rich line whose non-text atoms are, IN ANY MIX, code spans, `*x*` / `**x**`, `_x_` / `__x__` (the source bytes
    outside an underscore run not alphanumeric), inline links `[t](d)`, images `![t](d)`, URI autolinks `<s:r>`, raw tags
    `<n>` / `</n>`, and a paragraph line that is not the last may end with a backslash hard break (`F21Frag`, decidable):
    the model of goldmark's `Convert` returns exactly the prescribed HTML. Contains stages 1–9, 11–13, 16–20. (Emphasis
    delimiters stay pending across links / images until the end of the block: `link_step21`, `processDelimiters_rawS21`.) -/
theorem fragment21_conforms : type_of% @GM.Props.C02Frag.fragment21_conforms := @GM.Props.C02Frag.fragment21_conforms

/-- (re-export of `GM.Props.C02Frag.fragment21_conforms_no_final_newline`) … written without the final line feed (the last block not an indented code block) -/
theorem fragment21_conforms_no_final_newline : type_of% @GM.Props.C02Frag.fragment21_conforms_no_final_newline := @GM.Props.C02Frag.fragment21_conforms_no_final_newline

/-- (re-export of `GM.Props.C02Frag.fragment21_conforms_spec`) **The full union stated on the spec model itself.** -/
theorem fragment21_conforms_spec : type_of% @GM.Props.C02Frag.fragment21_conforms_spec := @GM.Props.C02Frag.fragment21_conforms_spec

/-- (re-export of `GM.Props.C02FragInteg.fragment22_conforms`) **Nested block quotes, wider class** (stage 22: digits, `*`, `+`, `-` inside; no line ending in `-` / `=`) -/
theorem fragment22_conforms : type_of% @GM.Props.C02FragInteg.fragment22_conforms := @GM.Props.C02FragInteg.fragment22_conforms

/-- (re-export of `GM.Props.C02FragInteg.fragment22_conforms_union`) **The union fragment with `*` emphasis inside nested block quotes** (stage 22) -/
theorem fragment22_conforms_union : type_of% @GM.Props.C02FragInteg.fragment22_conforms_union := @GM.Props.C02FragInteg.fragment22_conforms_union

/-- (re-export of `GM.Props.C02FragInteg.fragment23_conforms`) **The full union (stage 21) inside nested block quotes** (stage 23) -/
theorem fragment23_conforms : type_of% @GM.Props.C02FragInteg.fragment23_conforms := @GM.Props.C02FragInteg.fragment23_conforms

end GM.Props.C02
