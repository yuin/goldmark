/-
  GM.Props.ConvertE2EAll — the END-TO-END theorems of C03 / C04 / C10 (GM.Props.ConvertE2E: "WHEN `convertCore` answers HTML, …")
  made UNCONDITIONAL with `GM.Props.ConvertE2ENP.convert_total` ("`convertCore` ALWAYS answers HTML"): for every byte string, every
  Unicode-class assignment and every option set the composed model of `goldmark.New(…).Convert` answers HTML, and that HTML has the
  property. Proofs are compositions; nothing new is assumed.
-/
import GM.Props.ConvertE2E
import GM.Props.ConvertE2ENP
import GM.Proof.E2EAllH

namespace GM.Props.ConvertE2EAll
open GM GM.Text GM.Convert GM.Spec GM.E2E

/-! ### C03 -/

/-- **`convert_safe_wellformed_total`** — C03 END TO END, no hypothesis on the source: for EVERY byte string and Unicode-class
    assignment, XHTML and HardWraps on or off, in safe mode (`Unsafe` off) `convertCore` answers HTML, and that HTML is accepted by
    the strict tokenizer, well nested, uses only the renderer's tags and per-tag allowed attribute names, has inert text and
    attribute values, writes void elements in the style of the output mode (`Spec.safeHtmlOK`), and its token structure is
    well-formed XML (`Spec.xmlOK`). -/
theorem convert_safe_wellformed_total (uc : List (Nat × (Bool × Bool))) (o : ROpts) (src : Bytes) (hsafe : o.unsafe_ = false) :
    ∃ html, convertCore uc o src = .ok html ∧ Spec.safeHtmlOK o.xhtml html = true ∧ Spec.xmlOK html = true := by
  obtain ⟨html, h⟩ := GM.Props.ConvertE2ENP.convert_total uc o src
  exact ⟨html, h, GM.Props.ConvertE2E.convert_safe_wellformed uc o src html h hsafe⟩

/-- the same output as a word of the inductive grammar `WFHtml` -/
theorem convert_safe_grammar_total (uc : List (Nat × (Bool × Bool))) (o : ROpts) (src : Bytes) (hsafe : o.unsafe_ = false) :
    ∃ html, convertCore uc o src = .ok html ∧ GM.Proof.RenderWF.WFHtml o.xhtml html := by
  obtain ⟨html, h⟩ := GM.Props.ConvertE2ENP.convert_total uc o src
  exact ⟨html, h, GM.Props.ConvertE2E.convert_safe_grammar uc o src html h hsafe⟩

/-! ### C04 -/

/-- **`convert_safe_urls_harmless_total`** — C04 END TO END at TOKEN level, no hypothesis on the source: in safe mode `convertCore`
    answers HTML that the strict tokenizer accepts, and `Spec.urlsOK lookupEntity` holds of its tokens — every `href` / `src`
    value of every start tag, read the way a browser reads it (`Spec.hrefDangerous`: decode character references, trim, strip
    tab / CR / LF, read the scheme), is harmless. -/
theorem convert_safe_urls_harmless_total (uc : List (Nat × (Bool × Bool))) (o : ROpts) (src : Bytes) (hsafe : o.unsafe_ = false) :
    ∃ html ts, convertCore uc o src = .ok html ∧ tokenize html = some ts ∧ urlsOK lookupEntity ts = true := by
  obtain ⟨html, h⟩ := GM.Props.ConvertE2ENP.convert_total uc o src
  obtain ⟨ts, h1, h2⟩ := GM.Props.ConvertE2E.convert_safe_urls_harmless_tokens uc o src html h hsafe
  exact ⟨html, ts, h, h1, h2⟩

/-- the piece-level form: every destination-carrying piece stands at an `href=` / `src=` attribute site, its value has no `"`
    and is not dangerous -/
theorem convert_safe_urls_harmless_pieces_total (uc : List (Nat × (Bool × Bool))) (o : ROpts) (src : Bytes)
    (hsafe : o.unsafe_ = false) :
    ∃ html, convertCore uc o src = .ok html ∧
      ∃ ps : List Piece, html = ps.flatMap (emit o.xhtml o.hardWraps false) ∧
        ∀ pre d post, ps = pre ++ Piece.url d :: post →
          ∃ pre' tag m c post', pre = pre' ++ [Piece.lit (tag ++ m)] ∧ post = Piece.lit (34 :: c) :: post' ∧
            (tag = strBytes "<a href=\"" ∨ tag = strBytes "<img src=\"") ∧
            html = pre'.flatMap (emit o.xhtml o.hardWraps false) ++ tag ++ (m ++ urlOut false d) ++
                    34 :: (c ++ post'.flatMap (emit o.xhtml o.hardWraps false)) ∧
            (∀ b ∈ m ++ urlOut false d, b ≠ 34) ∧
            hrefDangerous lookupEntity (m ++ urlOut false d) = false := by
  obtain ⟨html, h⟩ := GM.Props.ConvertE2ENP.convert_total uc o src
  exact ⟨html, h, GM.Props.ConvertE2E.convert_safe_urls_harmless uc o src html h hsafe⟩

/-! ### C10 -/

/-- **`convert_options_orthogonal_total`** — C10 END TO END, no hypothesis on the source: for EVERY source there is ONE piece list
    `ps`, computed without the three renderer options, such that for EVERY option set (all eight) `convertCore` answers HTML and
    that HTML is (a) the concatenation of `emit o.xhtml o.hardWraps o.unsafe_` over `ps`; (b) — XHTML — the concatenation over
    the HardWraps-rewritten list of bytes that do not depend on XHTML, except that each void end is `>` / ` />`; (c) — HardWraps
    — the HardWraps-off emission with `<br` + void end in front of each soft break; (d) — Unsafe — the safe emission of every
    piece that is neither raw HTML nor a destination classified dangerous. (`convert_options_orthogonal` without its error
    alternative.) -/
theorem convert_options_orthogonal_total (uc : List (Nat × (Bool × Bool))) (src : Bytes) :
    ∃ ps : List Piece, ∀ o : ROpts, ∃ html, convertCore uc o src = .ok html ∧
        html = ps.flatMap (emit o.xhtml o.hardWraps o.unsafe_) ∧
        html = (ps.flatMap (hardWrap o.hardWraps)).flatMap
          (fun p => if p.isVoidEnd then voidEndBytes o.xhtml else emitBase false o.unsafe_ p) ∧
        html = ps.flatMap (fun p => (if p.isSoftBreak && o.hardWraps then strBytes "<br" ++ voidEndBytes o.xhtml else []) ++
                              emit o.xhtml false o.unsafe_ p) ∧
        html = ps.flatMap (fun p => if p.unsafeSensitive then emit o.xhtml o.hardWraps o.unsafe_ p
                                    else emit o.xhtml o.hardWraps false p) := by
  rcases GM.Props.ConvertE2E.convert_options_orthogonal uc src with h | ⟨e, h⟩
  · exact h
  · exact absurd (h {}) (GM.Props.ConvertE2ENP.convert_never_errs uc {} src e)

/-- **`convert_one_tree_for_all_options`**: for every source the parse phases answer ONE tree, and for every option set the
    outcome is `render` of that tree -/
theorem convert_one_tree_for_all_options (uc : List (Nat × (Bool × Bool))) (src : Bytes) :
    ∃ t, parseDoc true uc src = .ok t ∧ ∀ o : ROpts, convertCore uc o src = .ok (render o.rcfg t) := by
  rcases GM.Props.ConvertE2E.convert_tree_independent_of_options uc src with h | ⟨e, _, h⟩
  · exact h
  · exact absurd (h {}) (GM.Props.ConvertE2ENP.convert_never_errs uc {} src e)

/-- **`convert_unsafe_only_changes_raw_total`**: the safe and the unsafe conversion of every source both answer HTML, as emissions
    of one piece list that agree on every piece that is neither raw HTML nor a dangerous destination -/
theorem convert_unsafe_only_changes_raw_total (uc : List (Nat × (Bool × Bool))) (o : ROpts) (src : Bytes) :
    ∃ html html', convertCore uc { o with unsafe_ := false } src = .ok html ∧
      convertCore uc { o with unsafe_ := true } src = .ok html' ∧
      ∃ ps : List Piece, html = ps.flatMap (emit o.xhtml o.hardWraps false) ∧
        html' = ps.flatMap (emit o.xhtml o.hardWraps true) ∧
        ∀ p ∈ ps, p.unsafeSensitive = false → emit o.xhtml o.hardWraps true p = emit o.xhtml o.hardWraps false p := by
  obtain ⟨html, h⟩ := GM.Props.ConvertE2ENP.convert_total uc { o with unsafe_ := false } src
  obtain ⟨html', h'⟩ := GM.Props.ConvertE2ENP.convert_total uc { o with unsafe_ := true } src
  exact ⟨html, html', h, h', GM.Props.ConvertE2E.convert_unsafe_only_changes_raw uc o src html html' h h'⟩

/-! ### the renderer side never panics, without hypotheses -/

/-- `no_renderer_side_panic` — the statement `GM.Props.ConvertE2E.NoRendererSidePanic` (kept there as a `def`) is a theorem -/
theorem no_renderer_side_panic : GM.Props.ConvertE2E.NoRendererSidePanic :=
  fun uc o src => ⟨fun k => GM.Props.ConvertE2ENP.convert_never_errs uc o src _,
    fun p => GM.Props.ConvertE2ENP.convert_never_errs uc o src _⟩

/-! ### C15: `convertH true` (goldmark with `WithAutoHeadingID()`) -/

open GM.ConvertH in
/-- **`converth_total_of_block_phase`** — everything BEHIND the block phase is total for the AutoHeadingID configuration: whenever
    the block phase with the option returns a state, `convertH true` answers HTML, for every Unicode-class assignment and option
    set (the inline phase on every block of the tree, every `Segment.Value` of the tree conversion, every node renderer — the
    generated `id` attributes form a legal, clash-free attribute list, so `Spec.Inv` holds of the tree). -/
theorem converth_total_of_block_phase (uc : List (Nat × (Bool × Bool))) (o : ROpts) (src : Bytes) (hs : HS)
    (st : GM.Blocks.St) (h : blockPhaseH true true src = .ok (hs, st)) : ∃ html, convertH true uc o src = .ok html :=
  GM.E2E.H.convertH_total_of_blockPhaseH uc o src hs st h

open GM.ConvertH in
/-- **`converth_total_or_value_panic`** — for EVERY byte string, Unicode-class assignment and option set: `convertH true` answers
    HTML, or its block phase ended in the ONE panic this theorem does not exclude (`GM.Props.C15Total.converth_total` does): `lastLine.Value(reader.Source())` inside
    `generateAutoHeadingID` (atx_heading.go:203) — never fuel exhaustion, never a panic `convertCore`'s block phase has (it has
    none: `block_phase_total`), never an error of the inline phase, the tree conversion or a node renderer. -/
theorem converth_total_or_value_panic (uc : List (Nat × (Bool × Bool))) (o : ROpts) (src : Bytes) :
    (∃ html, convertH true uc o src = .ok html) ∨
      ∃ p, p ≠ Panic.loop ∧ blockPhaseH true true src = .error p ∧ convertH true uc o src = .error (.blocks p) :=
  GM.E2E.H.convertH_total_or_value_panic uc o src

open GM.ConvertH GM.Props.C15E2E in
/-- **`c15_end_to_end_of_block_phase`** — C15 END TO END with totality behind the block phase: whenever the block phase with the
    option returns, `convertH true` answers HTML `html`, `html` is the rendering of the parsed tree, and for the Heading nodes
    the renderer visits, in document order: the attribute lists are exactly `id = v`, pairwise DISTINCT; every `v` is NON-EMPTY
    and consists of `a-z 0-9 -`; the start tag `<hN id="v">` is a contiguous part of `html`. -/
theorem c15_end_to_end_of_block_phase (uc : List (Nat × (Bool × Bool))) (o : ROpts) (src : Bytes) (hs : HS)
    (st : GM.Blocks.St) (hB : blockPhaseH true true src = .ok (hs, st)) :
    ∃ html t, convertH true uc o src = .ok html ∧ parseDocH true true uc src = .ok t ∧ html = render o.rcfg t ∧
      ((rHeadings t).map (·.2)).Nodup ∧
      ∀ p ∈ rHeadings t, ∃ v, p.2 = idAttr v ∧ v ≠ [] ∧ (∀ c ∈ v, IdByte c = true) ∧ startTag p.1 v <:+: html := by
  obtain ⟨html, h⟩ := GM.E2E.H.convertH_total_of_blockPhaseH uc o src hs st hB
  obtain ⟨t, h1, h2, h3, h4⟩ := c15_end_to_end uc o src html h
  exact ⟨html, t, h, h1, h2, h3, h4⟩

open GM.ConvertH GM.Props.C15E2E in
/-- **`c15_end_to_end_or_value_panic`**: for EVERY source either all of C15's conclusions hold of the HTML `convertH true` answers,
    or the block phase hit the `Segment.Value` panic of `generateAutoHeadingID` -/
theorem c15_end_to_end_or_value_panic (uc : List (Nat × (Bool × Bool))) (o : ROpts) (src : Bytes) :
    (∃ html t, convertH true uc o src = .ok html ∧ parseDocH true true uc src = .ok t ∧ html = render o.rcfg t ∧
      ((rHeadings t).map (·.2)).Nodup ∧
      ∀ p ∈ rHeadings t, ∃ v, p.2 = idAttr v ∧ v ≠ [] ∧ (∀ c ∈ v, IdByte c = true) ∧ startTag p.1 v <:+: html) ∨
    ∃ p, p ≠ Panic.loop ∧ blockPhaseH true true src = .error p ∧ convertH true uc o src = .error (.blocks p) := by
  cases hB : blockPhaseH true true src with
  | ok x => exact .inl (c15_end_to_end_of_block_phase uc o src x.1 x.2 hB)
  | error p =>
    rcases converth_total_or_value_panic uc o src with ⟨html, h⟩ | h
    · exfalso
      unfold convertH convertHWith parseDocH at h
      simp only [bind, Except.bind, hB, liftErr] at h
      cases h
    · rw [hB] at h; exact .inr h

/-- non-vacuity of the hypothesis `blockPhaseH true true src = .ok …` (kernel-evaluated): `# a⏎# a⏎a⏎=⏎` -/
example : (GM.ConvertH.blockPhaseH true true [35, 32, 97, 10, 35, 32, 97, 10, 97, 10, 61, 10]).toOption.isSome = true := by
  decide +kernel

end GM.Props.ConvertE2EAll
