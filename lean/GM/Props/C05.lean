/-
  Property C05 — every parsed AST is a well-formed tree with all positions inside the source.

  C05 has three clauses: (a) the link fields (Parent, siblings, First/LastChild, ChildCount) agree with the
  actual child sequence and no node appears twice; (b) only public kinds, in legal places; (c) every
  recorded position is inside the source, block lines increase, inline text segments are in document order.
  The formal statement of all three is the decidable predicate `GM.Spec.wfAst` (GM.Spec.AstWF) on a dump of the tree.

  What is PROVED here, and how it is tied to the parser:

  (a) For EVERY sequence of calls of the seven ast.Node mutators that stays within the proviso of C13
      (`PreAll`: no node inserted into its own subtree or relative to itself, no nil where Go dereferences),
      started from freshly allocated nodes, the resulting pointer heap is exactly the plain forest of child
      lists and every accessor returns what that forest says (`parser_traces_refine`). The parser builds its
      tree ONLY through these calls, and this is not assumed but checked per parse: the `verif` hook
      ast.VerifTrace logs every top-level mutator call of a real Parse; component `asttrace` replays the
      log on the heap model with the proviso DECIDED before every call (`GM.AstTrace.runChecked`) and
      compares the model's final heap with the real final tree. `checked_replay_ok`,
      `checked_replay_violated`, `checked_replay_never_stuck` say that the replay's answer is exact:
      `ok` iff the trace is within the proviso, and then the final heap is the forest.
  (c) Pieces: the inline driver loop leaves its text segments inside the block's lines and in increasing
      order (`inline_text_segments_monotone`, re-export of C05a), and every segment a reader / block
      reader hands out by Position/PeekLine lies inside the source (`reader_positions_in_range`,
      `blockReader_positions_in_range`, re-exports of C18).

  (b), (c) END TO END for the default CommonMark configuration, over the composed model GM.Convert (block phase with the
      link-reference transformer, inline phase of every block; component `convert`): for EVERY byte string the parse
      phases answer a tree and its position dump passes `wfAst` (`parser_output_wellformed_total`, from
      GM.Props.ConvertE2ENP) — only public kinds in legal places, no Delimiter / link-label bookkeeping node left
      (`no_bookkeeping_node_survives`), a block's lines reader-derived and increasing (`lines_in_range_and_ordered`),
      the text segments in range and ordered also where emphasis / link post-processing and
      MergeOrReplaceTextSegment re-cut Text nodes (`inline_segments_in_range_and_ordered`).

  What is NOT proved (monitored by search: `wfAst`, evaluated by the Lean driver AND an independent Go
  checker on every tree of component `wfast`):
    * clauses (b) and (c) for parsers outside the composed model (extensions, user-supplied parsers and transformers);
    * that the recorded trace is complete: it is, if no code outside package ast writes link fields
      (Gen.Facts: nothing outside `ast` calls SetParent/SetNextSibling/SetPreviousSibling) — and a write
      that bypassed the mutators would show up as a difference between the replayed heap and the real tree.

  Helper lemmas: GM/Proof/AstTrace.lean (+ the C13 development GM/Proof/Ast*.lean).
-/
import GM.Props.C13
import GM.Props.C05a
import GM.Props.C18
import GM.Proof.AstTrace
import GM.Props.Inlines
import GM.Props.Blocks
import GM.Props.Wf0
import GM.Props.C05E2E
import GM.Props.ConvertE2ENT
import GM.Props.ConvertE2ENP

namespace GM.Props.C05

section links
open GM.Spec GM.Spec.Forest GM.AstHeap GM.AstTrace GM.Proof.AstHeap

/-! ## (a) links and counts: any mutator-call trace within the proviso yields a consistent tree -/

/-- `parser_traces_refine`. Take ANY list of mutator calls over `n` allocated nodes that is within the
    proviso (`PreAll`), replayed from fresh nodes with any fuel above `n`. Then the replay neither panics
    nor loops, and in the final heap, with `f` the list-of-children forest the documented meaning of the
    calls gives:
    ChildCount is the length of the child list, HasChildren its non-emptiness, FirstChild / LastChild its
    two ends; Parent(c) = p exactly when c is in p's list; NextSibling / PreviousSibling of a child are its
    neighbours in that list (so walking forward from FirstChild or backward from LastChild spells the same
    list); no node is in two lists or twice in one list; and the forest has no cycle.
    This is clause (a) of C05 for every tree built through the API within the proviso. -/
theorem parser_traces_refine {n fuel : Nat} (hn : n < fuel) (ops : List Op)
    (hpre : PreAll Forest.empty ops) (hin : ∀ op ∈ ops, OpIn n op) :
    ∃ h', run fuel Heap.empty ops = .ok h' ∧
      (∀ p, childCount h' p = ((specRun Forest.empty ops) p).length ∧
            hasChildren h' p = !((specRun Forest.empty ops) p).isEmpty ∧
            firstChild h' p = ((specRun Forest.empty ops) p).head? ∧
            lastChild h' p = ((specRun Forest.empty ops) p).getLast?) ∧
      (∀ c p, parentNode h' c = some p ↔ c ∈ (specRun Forest.empty ops) p) ∧
      (∀ c p, c ∈ (specRun Forest.empty ops) p →
            nextSibling h' c = nextIn ((specRun Forest.empty ops) p) c ∧
            previousSibling h' c = prevIn ((specRun Forest.empty ops) p) c) ∧
      (∀ c p q, c ∈ (specRun Forest.empty ops) p → c ∈ (specRun Forest.empty ops) q → p = q) ∧
      (∀ p, ((specRun Forest.empty ops) p).Nodup) ∧
      Acyclic (specRun Forest.empty ops) := by
  obtain ⟨h', he, A⟩ := C13.run_refines_fresh hn ops hpre hin
  refine ⟨h', he, ?_, ?_, ?_, ?_, ?_, C13.run_acyclic hn ops hpre hin⟩
  · exact fun p => ⟨C13.childCount_eq A p, C13.hasChildren_eq A p, C13.firstChild_eq A p, C13.lastChild_eq A p⟩
  · exact fun c p => C13.parent_eq A c p
  · exact fun c p hc => ⟨C13.nextSibling_eq A hc, C13.previousSibling_eq A hc⟩
  · exact fun c p q hp hq => (C13.child_lists_disjoint A hp hq).1
  · exact fun p => A.nodup p

/-- `preB_sound`. On a heap that represents a forest, the decidable check the replay makes before a call
    (walk up the Parent chain from the target parent looking for the inserted node; compare the reference
    node with the inserted node; reject nil) accepts only calls within the proviso `Pre`. -/
theorem preB_sound {h : Heap} {f : Forest} (A : Abs h f) {fuel : Nat} {op : Op}
    (hok : preB fuel h op = true) : Pre f op :=
  Proof.AstTrace.preB_sound A hok

/-- … and it rejects only calls outside the proviso: a `pre-violated` answer is never a false alarm. -/
theorem preCheck_violated_exact {h : Heap} {f : Forest} (A : Abs h f) {fuel : Nat} {op : Op}
    (hv : preCheck fuel h op = .violated) : ¬ Pre f op :=
  Proof.AstTrace.preCheck_violated A hv

/-- `fuel_suffices` for the check: on an acyclic forest over `n` allocated nodes the walk up the Parent
    chain ends within `n + 1` steps, so with fuel above `n` the check always decides. -/
theorem preCheck_fuel_suffices {h : Heap} {f : Forest} (A : Abs h f) (hA : Acyclic f) {n : Nat}
    (B : Bounded n f) {fuel : Nat} (hn : n < fuel) (op : Op) : preCheck fuel h op ≠ .fuel :=
  Proof.AstTrace.preCheck_ne_fuel A hA B hn op

/-- The driver's re-tabulation of the heap (done every 32 calls, for speed only) is the identity. -/
theorem compact_is_identity (n : Nat) (h : Heap) : compact n h = h :=
  Proof.AstTrace.compact_eq n h

/-- `checked_replay_ok`. When the checked replay of a trace (what the driver does for component
    `asttrace`: from the empty heap, fuel `2N+2`, all ids below `N`) answers `ok h'`, then the trace is
    within the proviso, `h'` is the heap of the plain model run, and it represents the spec forest — so all
    the observer equalities of `parser_traces_refine` hold of the very heap whose dump is compared with the
    real tree. -/
theorem checked_replay_ok {n fuel : Nat} (hn : n < fuel) (ops : List Op) (hin : ∀ op ∈ ops, OpIn n op)
    {h' : Heap} (hr : runChecked n fuel 0 Heap.empty ops = .ok h') :
    PreAll Forest.empty ops ∧ run fuel Heap.empty ops = .ok h' ∧ Abs h' (specRun Forest.empty ops) := by
  have := Proof.AstTrace.runChecked_meaning hn ops 0 abs_empty (bounded_empty n) acyclic_empty hin
  rw [hr] at this; exact this

/-- `checked_replay_violated`. When it answers `pre-violated@k`, the trace really is outside the proviso:
    the parser used the API in a way C13 does not cover. -/
theorem checked_replay_violated {n fuel : Nat} (hn : n < fuel) (ops : List Op) (hin : ∀ op ∈ ops, OpIn n op)
    {k : Nat} (hr : runChecked n fuel 0 Heap.empty ops = .preViolated k) : ¬ PreAll Forest.empty ops := by
  have := Proof.AstTrace.runChecked_meaning hn ops 0 abs_empty (bounded_empty n) acyclic_empty hin
  rw [hr] at this; exact this

/-- `checked_replay_never_stuck`. It gives no other answer: the check never runs out of fuel and, behind a
    passed check, the model never panics or loops. -/
theorem checked_replay_never_stuck {n fuel : Nat} (hn : n < fuel) (ops : List Op) (hin : ∀ op ∈ ops, OpIn n op) :
    (∀ k, runChecked n fuel 0 Heap.empty ops ≠ .preFuel k) ∧
    (∀ k e, runChecked n fuel 0 Heap.empty ops ≠ .fault k e) := by
  have := Proof.AstTrace.runChecked_meaning hn ops 0 abs_empty (bounded_empty n) acyclic_empty hin
  constructor
  · intro k hr; rw [hr] at this; exact this
  · intro k e hr; rw [hr] at this; exact this

/-- Summary: the replay accepts a trace exactly when the trace is within the proviso. -/
theorem checked_replay_accepts_iff {n fuel : Nat} (hn : n < fuel) (ops : List Op) (hin : ∀ op ∈ ops, OpIn n op) :
    (runChecked n fuel 0 Heap.empty ops).isOk = true ↔ PreAll Forest.empty ops :=
  Proof.AstTrace.runChecked_isOk_iff hn ops hin

end links

/-! ## (c) positions: the proved pieces, under C05 names -/

section inlineLoop
open GM GM.InlineLoop GM.Proof.InlineLoop

/-- Clause (c), "the text segments of a block's inline content appear in document order within that
    block's lines", for the inline driver loop `(*parser).parseBlock` over ANY inline parsers: every Text
    child the loop leaves is a range `start ≤ stop` inside one line of the block, and each stops at or
    before the start of the next. (Re-export of `GM.Props.C05a.segments_monotone`.) -/
theorem inline_text_segments_monotone (P : Params) (b : Block) (hWF : WF b) :
    (∀ x ∈ texts (run P b).st.kids, x.1 ≤ x.2 ∧ ∃ s ∈ b.lines, s.start ≤ x.1 ∧ x.2 ≤ s.stop) ∧
    (texts (run P b).st.kids).Pairwise (fun x y => x.2 ≤ y.1) :=
  C05a.segments_monotone P b hWF

/-- The inline driver loop terminates (no panic, no fuel exhaustion) when every parser that returns a
    node has consumed input. (Re-export of `GM.Props.C05a.loop_terminates`.) -/
theorem inline_loop_terminates (P : Params) (b : Block) (hWF : WF b) (hC : Contract P.parsers) :
    ∃ st, run P b = .done st :=
  C05a.loop_terminates P b hWF hC

end inlineLoop

section readers
open GM GM.Text GM.Spec GM.Proof.Reader

/-- Clause (c), "0 ≤ Start ≤ Stop ≤ len(source)", for every segment the source reader returns from
    Position / PeekLine after any call sequence inside its preconditions — the segments block parsers
    store as a block's lines are obtained this way. (Re-export of `GM.Props.C18.reader_pos_in_range`.) -/
theorem reader_positions_in_range (src : Bytes) (ops : List Op) {outs : List Out} {c' : RCur} {r' : Reader}
    (hs : runSteps (RCur.step src) RCur.init ops = .ok (outs, c'))
    (hr : runSteps Reader.step (Reader.new src) ops = .ok (outs, r')) :
    0 ≤ r'.position.2.start ∧ r'.position.2.start ≤ r'.position.2.stop ∧
      r'.position.2.stop ≤ src.length :=
  C18.reader_pos_in_range src ops hs hr

/-- The same for the block reader the inline phase reads a block's lines through: in every state that
    stands for a cursor over well-formed line segments, Position lies inside the source.
    (Re-export of `GM.Props.C18.blockReader_pos_in_range`.) -/
theorem blockReader_positions_in_range {src : Bytes} {segs : List Segment} (hw : WFSegs src segs)
    {r : BlockReader} {c : BCur} (h : BAbs src segs r c) :
    0 ≤ r.position.2.start ∧ r.position.2.start ≤ r.position.2.stop ∧ r.position.2.stop ≤ src.length :=
  C18.blockReader_pos_in_range hw h

end readers

/-! ## non-vacuity / tests on literals -/

section tests
open GM.Spec GM.Spec.Forest GM.AstHeap GM.AstTrace GM.Proof.AstHeap

/-- the REAL trace of Parse("- Foo\n--\n") with all extensions (9 nodes; 0 = Document, the Setext
    fallback splices with InsertAfter + RemoveChild), as recorded by the hook -/
def setextTrace : List Op :=
  [.append 0 (some 1), .append 1 (some 2), .append 2 (some 3), .append 4 (some 5), .append 6 (some 5),
   .append 7 (some 6), .insertAfter 2 (some 3) (some 7), .remove 2 (some 3), .append 5 (some 8)]

/-- test: the ids are among the 9 allocated ones -/
theorem setextTrace_in : ∀ op ∈ setextTrace, OpIn 9 op := by
  intro op hop
  simp only [setextTrace, List.mem_cons, List.not_mem_nil, or_false] at hop
  rcases hop with h | h | h | h | h | h | h | h | h <;> subst h <;> simp [OpIn]

/-- test: the checked replay accepts it (kernel evaluation) … -/
theorem setextTrace_accepted : (runChecked 9 20 0 Heap.empty setextTrace).isOk = true := by
  decide +kernel

/-- … hence `PreAll` is satisfiable by a real parser trace: the hypotheses of `parser_traces_refine` are
    not vacuous -/
example : PreAll Forest.empty setextTrace :=
  (checked_replay_accepts_iff (by decide) setextTrace setextTrace_in).1 setextTrace_accepted

/-- test: the final model heap, through the accessors: Document → List → ListItem → the new node 7 → … -/
example :
    (match runChecked 9 20 0 Heap.empty setextTrace with
     | .ok h => (childCount h 2, firstChild h 2, lastChild h 2, parentNode h 7, parentNode h 3, childCount h 5)
     | _ => (0, none, none, none, none, 0)) = (1, some 7, some 7, some 2, none, 1) := by
  decide +kernel

/-- test: a transformer-style call that inserts a node below itself is rejected at that call -/
example :
    (match runChecked 3 8 0 Heap.empty [.append 0 (some 1), .append 1 (some 2), .append 2 (some 0)] with
     | .preViolated k => some k
     | _ => none) = some 2 := by
  decide +kernel

/-- test: the spec forest of the real trace at the list item (node 2) is the single new child 7 -/
example : specRun Forest.empty setextTrace 2 = [7] := by decide

end tests

/-! ### clause (b) for the inline phase — kinds in legal places (GM.Model.Inlines*, tied by the `inlines` correspondence) -/

/-- After ProcessDelimiters and the link parser's CloseBlock no Delimiter or link-label bookkeeping node survives
    anywhere in the inline tree of a block, for every source, segment list, reference map and Unicode-class assignment. -/
theorem no_bookkeeping_node_survives : type_of% @GM.Props.Inlines.no_delimiter_survives := @GM.Props.Inlines.no_delimiter_survives
/-- Every Emphasis node produced by the inline phase has level 1 or 2. -/
theorem emphasis_levels_1_2 : type_of% @GM.Props.Inlines.emphasis_levels := @GM.Props.Inlines.emphasis_levels
/-- Every CodeSpan produced by the inline phase holds only Text nodes. -/
theorem code_spans_hold_text : type_of% @GM.Props.Inlines.codespan_holds_text := @GM.Props.Inlines.codespan_holds_text
/-- No Link has a Link below it (through Emphasis and Image descriptions too). -/
theorem links_never_nested : type_of% @GM.Props.Inlines.no_link_in_link := @GM.Props.Inlines.no_link_in_link

/-- Clause (c) for inline content, for EVERY source and padding-free well-formed line list: all segments recorded in the
    inline tree that parseBlock returns (Text nodes, code-span text, autolink values, raw HTML segments) lie inside
    the source and follow each other in document order without overlap. -/
theorem inline_segments_in_range_and_ordered : type_of% @GM.Props.Inlines.text_segments_in_range_and_ordered := @GM.Props.Inlines.text_segments_in_range_and_ordered

/-! ### the block phase (GM.Model.Blocks, tied by the `blocks` correspondence) -/

/-- (c) for block lines, range clause, for EVERY byte string: every line segment of every block the block phase
    builds satisfies `0 ≤ start ≤ stop ≤ len(source)` and `padding ≥ 0`. (The order clause "a block's lines increase"
    is `GM.Props.Blocks.LinesInRange`, evaluated on every `blocks` case and proved for every byte string:
    `GM.Props.Wf0.lines_in_range_and_ordered`.) -/
theorem block_lines_in_range : type_of% @GM.Props.Blocks.lines_in_range := @GM.Props.Blocks.lines_in_range
/-- No block parser ever moves the reader's line end backwards (an ingredient of "a block's lines are increasing"). -/
theorem block_parsers_keep_line_end : type_of% @GM.Props.Blocks.open_keeps_stop := @GM.Props.Blocks.open_keeps_stop
/-- Only blockquote, list and list item can have children: the seven leaf block parsers always answer NoChildren. -/
theorem only_containers_have_children : type_of% @GM.Props.Blocks.only_containers_have_children := @GM.Props.Blocks.only_containers_have_children

/-- (re-export of `GM.Props.Wf0.inline_lines_ordered`) **C05(c), order clause, every source.** When the block phase returns, every block of the store that is not raw —
    `!IsRaw()`: Document, Paragraph, TextBlock, ThematicBreak, Blockquote, Heading, List, ListItem; in particular every
    block whose lines the inline phase reads — has increasing line segments: the first starts at or behind 0, each next
    one at or behind the previous `Stop`. (Reachable from the Document or not: replaced paragraphs are included.) -/
theorem block_lines_ordered : type_of% @GM.Props.Wf0.inline_lines_ordered := @GM.Props.Wf0.inline_lines_ordered

/-- (re-export of `GM.Props.Wf0.inline_lines_in_range_and_ordered`) **C05(c) for non-raw blocks, both clauses, as the Boolean the driver evaluates** (`GM.Blocks.linesOK`, op
    `blocks lines`): every line inside the source, padding ≥ 0, and a line never starts before the previous line's stop. -/
theorem block_lines_in_range_and_ordered : type_of% @GM.Props.Wf0.inline_lines_in_range_and_ordered := @GM.Props.Wf0.inline_lines_in_range_and_ordered

/-- (re-export of `GM.Props.Wf0.inline_lines_wellformed`) **The lines of every non-raw block that has lines are WELL FORMED, every source**: `WFSegs src n.lines`
    (GM.Spec.Cursor) — a non-empty list of non-empty segments inside the source that increase, padding ≥ 0, no
    ForceNewline. This is the predicate `GM.LinkRef.guardedTransform` checks (`wfSegsB`) and, up to `padding = 0`, the
    `WF0` the inline-phase theorems assume. -/
theorem block_lines_wellformed : type_of% @GM.Props.Wf0.inline_lines_wellformed := @GM.Props.Wf0.inline_lines_wellformed

/-- (re-export of `GM.Props.Wf0.lines_ordered_reduction`) **`LinesInRange` reduced to the raw kinds**: the range clause is proved for all blocks and the order clause for the non-raw
    ones, so `GM.Props.Blocks.LinesInRange src` is equivalent to the order clause for the three raw kinds alone (which is
    `raw_lines_ordered` of GM.Props.Wf0). -/
theorem block_lines_order_remaining : type_of% @GM.Props.Wf0.lines_ordered_reduction := @GM.Props.Wf0.lines_ordered_reduction

/-- (re-export of `GM.Props.C05E2E.parser_output_wellformed_partial`) `parser_output_wellformed_partial` (C05 over `GM.Convert`). For EVERY byte string `src` and Unicode class
    assignment: when the parse phases answer the tree `a`, its position dump passes `wfAst` — clause (a) by
    construction; clause (b) root / heading levels / kinds / inline places / code spans / emphasis levels / links
    proved; clause (c) proved for ALL inline segments (range, order, padding, inside the block's lines) and for info /
    closure segments — GIVEN, for the store `st` the block phase returns, the FOUR named hypotheses `StoreHypsCore src st`:
        `lines` (LinesInRange — the shape of `GM.Blocks.NodesOK`), `ord` (LinesOrdered — the shape of
        `GM.Blocks.OrdFrom 0`), `noLines` (Document and List nodes have no lines), `listShape` (a child is a ListItem
        exactly when its parent is a List; one direction is `KidsOK.kids`).
    No hypothesis about the inline phase remains. -/
theorem parser_output_wellformed_partial : type_of% @GM.Props.C05E2E.parser_output_wellformed_partial := @GM.Props.C05E2E.parser_output_wellformed_partial

/-- (re-export of `GM.Props.C05E2E.clause_a_by_construction`) `clause_a_by_construction`. For ANY dump `t` built as nested lists, after numbering (`relabel`): no id occurs twice
    and every node's forward walk, backward walk, ChildCount, HasChildren and its children's Parent() agree with the
    nesting — so `wfAst` answers "well formed" as soon as the identity-free clauses (`semWf`: kinds, places, levels,
    segments) hold everywhere. -/
theorem clause_a_by_construction : type_of% @GM.Props.C05E2E.clause_a_by_construction := @GM.Props.C05E2E.clause_a_by_construction

/-- (re-export of `GM.Props.C05E2E.root_is_document`) `root_is_document`: node 0 of every store the block phase returns — the root of the tree — is the Document
    (a frame invariant: no step of the block phase writes a node's kind; carried through `runT` by `Keeps`) -/
theorem root_is_document : type_of% @GM.Props.C05E2E.root_is_document := @GM.Props.C05E2E.root_is_document

/-- (re-export of `GM.Props.C05E2E.inline_nodes_legal`) `inline_nodes_legal`. The inline children `parseBlock` answers, dumped below a block (or inline node) that is
    neither the Document nor a List: only the public kinds Text / CodeSpan / Emphasis / Link / Image / AutoLink /
    RawHTML (no Delimiter, no link-label bookkeeping node), inline nodes only below blocks and inline nodes, a CodeSpan
    holds only Text, emphasis levels 1..2, no Link inside a Link at any depth, and — given their range — every Text /
    RawHTML segment passes the range clause. From the shape theorem of the inline phase, for every source / lines /
    reference map. -/
theorem inline_nodes_legal : type_of% @GM.Props.C05E2E.inline_nodes_legal := @GM.Props.C05E2E.inline_nodes_legal

/-- (re-export of `GM.Props.C05E2E.block_node_clauses`) `block_node_clauses`: all identity-free clauses of one block node of the dump from the per-node facts `BlockP`
    (heading level, lines / info / closure in range, lines increasing, Document and List without lines), the facts
    `KidsP` about its inline children and the ListItem ⇔ List relation to its parent -/
theorem block_node_clauses : type_of% @GM.Props.C05E2E.block_node_clauses := @GM.Props.C05E2E.block_node_clauses

/-- (re-export of `GM.Props.C05E2E.inline_segments_end_inside_block`) `inline_segments_end_inside_block`: the segments the inline phase records for a block, in tree order, are in
    range, ordered, and end at or before the end of the block's LAST line (GM.Props.Inlines bounds them by
    `len(source)`) -/
theorem inline_segments_end_inside_block : type_of% @GM.Props.C05E2E.inline_segments_end_inside_block := @GM.Props.C05E2E.inline_segments_end_inside_block

/-- (re-export of `GM.Props.C05E2E.inline_segments_unpadded`) `inline_segments_unpadded`: the segments the inline phase records have padding 0
    — so with their range (`GM.Props.Inlines.text_segments_in_range_and_ordered`) they pass `segOK` -/
theorem inline_segments_unpadded : type_of% @GM.Props.C05E2E.inline_segments_unpadded := @GM.Props.C05E2E.inline_segments_unpadded

/-- (re-export of `GM.Props.C05E2E.inline_segments_inside_block_lines`) `inline_segments_inside_block_lines` (clause (c), "inline segments lie inside the block's lines, in order").
    For EVERY source, `WF0` line list, reference map, Unicode class assignment: the
    segments recorded in the tree `parseBlock` answers, in tree order, start at or behind the start of the block's FIRST
    line, end at or before the end of its LAST line, none is inverted, each starts at or behind the end of the one
    before. (GM.Proof.InlinesLoopTotal / InlinesLink: the loop invariant and the contracts of the five inline parsers hold
    with any lower bound of the segment chain between 0 and the first line's start.) -/
theorem inline_segments_inside_block_lines : type_of% @GM.Props.C05E2E.inline_segments_inside_block_lines := @GM.Props.C05E2E.inline_segments_inside_block_lines

/-- (re-export of `GM.Props.C05E2E.info_closure_in_range`) `info_closure_in_range` (clause (c) for the two segments of a block that are neither lines nor inline content,
    every source): FencedCodeBlock.Info and HTMLBlock.ClosureLine lie inside the source -/
theorem info_closure_in_range : type_of% @GM.Props.C05E2E.info_closure_in_range := @GM.Props.C05E2E.info_closure_in_range

/-- (re-export of `GM.Props.Wf0.lines_in_range_and_ordered`) **C05(c) with the order clause, every source** (`GM.Props.Blocks.LinesInRange src` is a theorem): when the block
    phase returns, the line segments of EVERY node of the store lie inside the source (0 ≤ start ≤ stop ≤ len,
    padding ≥ 0) and increase (each starts at or behind the previous stop). -/
theorem lines_in_range_and_ordered : type_of% @GM.Props.Wf0.lines_in_range_and_ordered := @GM.Props.Wf0.lines_in_range_and_ordered

/-- (re-export of `GM.Props.Wf0.raw_lines_ordered`) **C05(c), order clause for the three raw kinds, every source.** The line segments of every CodeBlock,
    FencedCodeBlock and HTMLBlock of the final store increase: each line is appended on its own source line, at or
    behind the line start — `preserveLeadingTabInCodeBlock`, which moves a segment start one byte back onto a tab, never
    leaves the line, because a virtual padding only exists behind a tab of the current line (`PadL`). -/
theorem raw_block_lines_ordered : type_of% @GM.Props.Wf0.raw_lines_ordered := @GM.Props.Wf0.raw_lines_ordered

/-- (re-export of `GM.Props.Wf0.all_lines_ordered`) the same, spelled out per node -/
theorem all_block_lines_ordered : type_of% @GM.Props.Wf0.all_lines_ordered := @GM.Props.Wf0.all_lines_ordered

/-- (re-export of `GM.Props.Wf0.container_nodes_no_lines`) **containers carry no lines, every source**: in the final store, Document, Blockquote, List, ListItem and
    ThematicBreak nodes have an empty line list (`Lines().Len() == 0`): no block parser ever appends to them. -/
theorem container_nodes_no_lines : type_of% @GM.Props.Wf0.container_nodes_no_lines := @GM.Props.Wf0.container_nodes_no_lines

/-- (re-export of `GM.Props.Wf0.list_shape`) **`list_shape`, every source**: in the final store of the block phase a child node is a ListItem exactly when its
    parent is a List (children lists; `st.nodes.getD i default` is node `i`). "Children of a List are ListItems" is the
    list invariant of the no-panic proof; "a ListItem only ever hangs under a List" holds because the one call that
    attaches the node a parser has built (`parent.AppendChild`, parser.go:1003) attaches a FRESH node of the parser's
    kind, and listItemParser.Open answers a node only when `parent` is a List (list_item.go:25-28). -/
theorem list_shape : type_of% @GM.Props.Wf0.list_shape := @GM.Props.Wf0.list_shape

/-- (re-export of `GM.Props.Wf0.store_hyps_core_run`) **the four store facts the end-to-end proof of C05 (`wfAst`) takes as hypotheses (`GM.E2E.StoreHypsCore`: `lines`,
    `ord`, `noLines`, `listShape`), for the final store of `run`, every source** — stated here without importing the
    end-to-end files; `OrdFrom` is `GM.Blocks.OrdFrom` (the recursion of `GM.E2E.ordFrom`). -/
theorem store_hyps_core_run : type_of% @GM.Props.Wf0.store_hyps_core_run := @GM.Props.Wf0.store_hyps_core_run

/-- (re-export of `GM.Props.ConvertE2ENT.parser_output_wellformed_without_transformers`) **`parser_output_wellformed_without_transformers`** — C05 END TO END, unconditional, for the parser without paragraph
    transformers: for EVERY byte string and Unicode-class assignment the parse phases answer a tree, and its position dump
    (the format of the harness' dumper) passes `Spec.wfAst` with `len(source)`: clause (a) sibling / parent links and
    counts, no node twice; (b) the root is the Document, children of Lists are ListItems and ListItems only occur there,
    inline nodes only below blocks that take them, Heading levels 1..6, Emphasis levels 1..2; (c) every segment inside the
    source, a block's lines in order, inline segments in order inside their block's lines. -/
theorem parser_output_wellformed_without_transformers : type_of% @GM.Props.ConvertE2ENT.parser_output_wellformed_without_transformers := @GM.Props.ConvertE2ENT.parser_output_wellformed_without_transformers

/-- (re-export of `GM.Props.ConvertE2ENT.parser_output_wellformed_bracket_free`) **`parser_output_wellformed_bracket_free`** — C05 END TO END, unconditional, for the DEFAULT pipeline on every source
    without `[`: whenever the parse phases answer a tree, its position dump passes `Spec.wfAst` — all four store hypotheses
    are theorems, because the store is the store of the transformer-free block phase (`block_phase_bracket_free`) -/
theorem parser_output_wellformed_bracket_free : type_of% @GM.Props.ConvertE2ENT.parser_output_wellformed_bracket_free := @GM.Props.ConvertE2ENT.parser_output_wellformed_bracket_free

/-- (re-export of `GM.Props.ConvertE2ENT.parse_ast_exists_without_transformers`) `parse_ast_exists_without_transformers`: the parser without transformers always answers a tree (with segments) -/
theorem parse_ast_exists_without_transformers : type_of% @GM.Props.ConvertE2ENT.parse_ast_exists_without_transformers := @GM.Props.ConvertE2ENT.parse_ast_exists_without_transformers

/-- (re-export of `GM.Props.ConvertE2ENT.store_hyps_of_plain_driver`) `store_hyps_of_plain_driver`: ALL FOUR store hypotheses of `parser_output_wellformed_partial` are theorems for the
    transformer-free block phase, every source — `lines` (`GM.Props.Blocks.lines_in_range`), `ord` (`GM.Props.Wf0.all_lines_ordered`, the
    raw kinds included), `noLines` (`GM.Props.Wf0.container_nodes_no_lines`), `listShape` (the children of a List are ListItems:
    `KidsOK` of the final store; a ListItem is only ever a child of a List: GM.Proof.E2EDriver). -/
theorem store_hyps_of_plain_driver : type_of% @GM.Props.ConvertE2ENT.store_hyps_of_plain_driver := @GM.Props.ConvertE2ENT.store_hyps_of_plain_driver

/-- (re-export of `GM.Props.ConvertE2ENT.block_phase_items_under_lists`) **`block_phase_items_under_lists`** — for EVERY source: in the store the block phase WITH the link-reference transformer
    returns (guarded or not), a ListItem is only ever a child of a List, and every child index is a node of the store.
    (An invariant that is NOT blind to child lists: the two edge-adding writes of ast.go — `AppendChild`, `InsertBefore` —
    are obligations; the four places that add an edge know that the new child is a fresh node of another kind, or that
    `listItemParser.Open` has just checked `parent.(*ast.List)`.) -/
theorem block_phase_items_under_lists : type_of% @GM.Props.ConvertE2ENT.block_phase_items_under_lists := @GM.Props.ConvertE2ENT.block_phase_items_under_lists

/-- (re-export of `GM.Props.ConvertE2ENT.list_shape_of_kids_ok`) `list_shape_of_kids_ok`: with `KidsOK` (`GM.Props.ConvertNP.block_phase_total`) the store hypothesis `listShape` of the default
    pipeline is a theorem -/
theorem list_shape_of_kids_ok : type_of% @GM.Props.ConvertE2ENT.list_shape_of_kids_ok := @GM.Props.ConvertE2ENT.list_shape_of_kids_ok

/-- (re-export of `GM.Props.ConvertE2ENT.parser_output_wellformed_of_block_phase_facts`) `parser_output_wellformed_of_block_phase_facts` — C05 END TO END for the default pipeline from facts about its block
    phase in the shapes the block-phase theorems state them: `NodesOK` and `KidsOK` (`GM.Props.ConvertNP.block_phase_total`), the
    order of the lines of every block (`GM.Props.ConvertNP.block_phase_lines_wellformed` has the non-raw kinds) and "Document / List
    have no lines" — GM.Props.Wf0 has the last two for `run` (`all_lines_ordered`, `container_nodes_no_lines`), GM.Props.ConvertNP for the
    driver with the transformer (`block_phase_raw_lines_ordered`, `block_phase_container_nodes_have_no_lines`). The other half of the list shape is `block_phase_items_under_lists`. -/
theorem parser_output_wellformed_of_block_phase_facts : type_of% @GM.Props.ConvertE2ENT.parser_output_wellformed_of_block_phase_facts := @GM.Props.ConvertE2ENT.parser_output_wellformed_of_block_phase_facts

/-- (re-export of `GM.Props.ConvertE2ENT.parser_output_wellformed_of_store`) `parser_output_wellformed_of_store`: `parser_output_wellformed_partial` for ANY list of paragraph transformers that
    keep the three frame invariants (`PTsGood`; the empty list and the default list do) -/
theorem parser_output_wellformed_of_store : type_of% @GM.Props.ConvertE2ENT.parser_output_wellformed_of_store := @GM.Props.ConvertE2ENT.parser_output_wellformed_of_store

/-- (re-export of `GM.Props.ConvertE2ENP.parser_output_wellformed_partial_raw`) **C05 END TO END for the default pipeline**, given ONE fact about the driver with the transformer: the order
    of the lines of CodeBlock / FencedCodeBlock / HTMLBlock (GM.Props.Wf0 has it for `run`; unconditional on sources without `[`:
    `GM.Props.ConvertE2ENT.parser_output_wellformed_bracket_free`; discharged in `parser_output_wellformed`) -/
theorem parser_output_wellformed_partial_raw : type_of% @GM.Props.ConvertE2ENP.parser_output_wellformed_partial_raw := @GM.Props.ConvertE2ENP.parser_output_wellformed_partial_raw

/-- (re-export of `GM.Props.ConvertE2ENP.parser_output_wellformed`) **C05 END TO END for the default pipeline, every source, no hypothesis**: whenever the parse phases answer a tree (they always
    do: `parse_ast_total`), its position dump passes `Spec.wfAst` with `len(source)` -/
theorem parser_output_wellformed : type_of% @GM.Props.ConvertE2ENP.parser_output_wellformed := @GM.Props.ConvertE2ENP.parser_output_wellformed

/-- (re-export of `GM.Props.ConvertE2ENP.parse_ast_total`) the parse phases of the default pipeline always answer a tree with its segments -/
theorem parse_ast_total : type_of% @GM.Props.ConvertE2ENP.parse_ast_total := @GM.Props.ConvertE2ENP.parse_ast_total

/-- (re-export of `GM.Props.ConvertE2ENP.parser_output_wellformed_total`) … so: for every source there is a tree and its dump is well formed -/
theorem parser_output_wellformed_total : type_of% @GM.Props.ConvertE2ENP.parser_output_wellformed_total := @GM.Props.ConvertE2ENP.parser_output_wellformed_total

end GM.Props.C05
