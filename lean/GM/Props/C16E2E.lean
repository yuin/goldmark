/-
  C16, end to end — "With the Footnote extension, in every rendered document the footnote items are numbered consecutively
  from 1 in the order they are listed, every footnote reference shows the number of, and links to, exactly one rendered item,
  every back-link of a rendered item points to a reference that exists in the output, all generated ids are distinct, and a
  definition that is never referenced produces no output."

  GM.Props.C16 proves the six clauses for the footnote code's numbering / cross-linking over an ABSTRACTION of one parse
  (definition labels in `Close` order, reference events in inline-phase order), which the harness OBSERVES on the real
  parse with two passive probes (component `footnote`). This file puts the rest of the path inside the composed, executable model of `goldmark.Convert`:
  `GM.ConvertF.convertF true pre` (lean/GM/Model/ConvertF.lean, lean/GM/Model/ExtFootnoteX.lean) is `GM.Convert.convertCore`
  with what `extension.Footnote` registers — the block parser (Open / Continue / Close, the FootnoteList in the parse context,
  inserted in front of the outermost Footnote ancestor), the inline parser in front of the link parser (`[^label]`, the `!`
  quirk), the AST transformer (a total function on the tree over GM.Footnote.transform) and FootnoteHTMLRenderer. It is tied to
  the real `goldmark.New(WithExtensions(extension.Footnote), …).Convert` by component `convertf`: HTML byte for byte AND the
  abstraction `(labels, events)` the model computes against the one the probes observe. All theorems are for EVERY byte string
  `src` (every Unicode class assignment `uc`, renderer option set `o`, id prefix `pre`).

  Proved without hypothesis: off = `convertCore` (`convertf_off_is_core`); the abstraction C16 speaks about is read off the
  concrete parse — labels = the `Ref`s of the list's children, one event per FootnoteLink node of the tree in front of the
  transformer, and the tree the renderer gets is the transformer applied to GM.Footnote.transform OF THAT ABSTRACTION
  (`convertf_events_are_abstraction`, with `footnote_link_resolves`, `footnote_label_resolution`); that abstraction satisfies the
  six clauses (`convertf_abstraction_consistent`); the decline paths on the concrete parsers (`footnote_open_declines_concrete`,
  `footnote_inline_declines_concrete`, `footnote_transformer_without_list_concrete`); C11 at whole-document level.
  `convertf_tree_shows_abstraction`: EVERY tree in front of the transformer that satisfies the AST well-formedness (S)
  (`shapeOKB`: one FootnoteList, its children the definitions 0…n−1 in order, no Footnote elsewhere, FootnoteLinks are leaves
  pointing at definitions, no FootnoteBacklink yet, root = Document) is turned by `finishDoc` into a tree whose items /
  references, read in output order, are exactly `GM.Footnote.render` of its abstraction.
  Proved relative to a named, decidable or stated, hypothesis: the six clauses for the ids / hrefs / numbers IN THE TREE the
  renderer receives (`convertf_footnotes_consistent`: hypothesis (S) for the parse of the source, `shapeOK` — decidable,
  evaluated by the tie on every document, flag `c1`; never false); no fuel exhaustion (`convertf_never_loops_of`: hypotheses
  `BlockNoLoopF`, `InlineNoLoopF`; unconditional with the extension off, `convertf_never_loops_partial`).

  (S) holds of the parse of EVERY source (`shape_always_ok`), so the six clauses hold of the tree the renderer
  receives for every document `convertF` converts (`convertf_footnotes_consistent_unconditional`). (S) holds by construction
  of the composed model: its footnote DOMAIN MONITORS (not Go code) answer `pre` for the stores / inline results Go never
  builds. THAT NO MONITOR EVER FIRES IS A THEOREM, for every byte string (`monitors_never_fire`):
  * the store of the `MF` block driver is tree-shaped and the footnote context names existing nodes other than node 0
    (`convertf_store_wellformed`); the walk meets the FootnoteList at most once, node 0 is the plain Document
    (`convertf_block_monitor_never_fires`);
  * every FootnoteLink of the inline phase points at a definition of the list (`convertf_inline_links_resolve`);
  * the CLOSE DISCIPLINE of the driver (`convertf_close_discipline`: at the end the open-block stack is empty; every
    `*ast.Footnote` and the list have their store kind, no node of that kind has lines, every child edge to a Footnote comes from
    the list) and with it `footnotes_all_filed`: no Footnote outside the list, none (and no list) below a definition, the list
    reached with fuel, no lines on Footnote / list.
  A child of the FootnoteList that is no Footnote is NOT a monitor: the model mirrors the panic of the transformer's type
  assertion (footnote.go:251; tag `alien`, outcome `value assert`).
  Stated, not proved: `ConvertFNeverLoops` (`BlockNoLoopF`, `InlineNoLoopF`).
-/
import GM.Proof.ConvertLTotal
import GM.Proof.ConvertFMain
import GM.Proof.ConvertFConsDoc
import GM.Proof.ConvertFShape
import GM.Proof.ConvertFOnce
import GM.Proof.ConvertFLinks
import GM.Proof.ConvertFFiled
import GM.Proof.ConvertFNoPre
import GM.Proof.ConvertFAnchor

namespace GM.Props.C16E2E
open GM GM.Text GM.Convert GM.ConvertF

/-- the tree `convertF` renders is the one `parseDocF` returns (definitional) -/
theorem convertf_renders_parsed_tree (on : Bool) (pre : Option Bytes) (uc : List (Nat × (Bool × Bool))) (o : ROpts) (src : Bytes) :
    convertF on pre uc o src = (parseDocF on true uc src >>= renderDocF on pre o) := rfl

/-- **Without the extension the model is `convertCore`** (guarded and unguarded): the copied block driver with the footnote
    state layer erased is the driver of GM.Convert (no Footnote is ever opened: the layer stays empty), every tag is plain,
    the trigger table is the default one, no FootnoteLink is decoded, the transformer finds no list, and the node renderers'
    state is the core's. -/
theorem convertf_off_is_core (pre : Option Bytes) (uc : List (Nat × (Bool × Bool))) (o : ROpts) (src : Bytes) :
    convertF false pre uc o src = convertCore uc o src ∧ convertFUnguarded false pre uc o src = convertUnguarded uc o src :=
  ⟨convertFWith_off true pre uc o src, convertFWith_off false pre uc o src⟩

/-- the block phase with the block parser not registered is GM.Blocks.runT and leaves no footnote state -/
theorem convertf_off_block_phase (guard : Bool) (src : Bytes) :
    blockPhaseF false guard src = (blockPhase guard src).map fun st => ({}, st) :=
  runF_off (paragraphTransformers guard) src

/-! ### fuel -/

/-- FULL STATEMENT (not proved): `convertF true` never ends in `blocks loop` / `inlines loop`. What is missing are the two
    hypotheses of `convertf_never_loops_of`: `BlockNoLoopF` — the `Pres`/`Tr` calculus of GM.Proof.BlocksPres / BlocksTerm for the
    driver in `MF` with one more container parser (`fnOpen` consumes ≥ 4 bytes: the retry measure decreases; `fnContinue` /
    `fnClose` only call reader primitives and tree surgery; `anchorLoop`'s fuel needs the store's parent pointers acyclic) —
    and `InlineNoLoopF` — the contract of GM.Proof.InlinesLoopTotal for `parseFootnote` (a returned node consumed ≥ 3 bytes;
    blocked, as for the members of GM.Props.ConvertX, by the ENCODING: `wf` demands emphasis levels 1–2). -/
def ConvertFNeverLoops : Prop :=
  ∀ (pre : Option Bytes) (uc : List (Nat × (Bool × Bool))) (o : ROpts) (src : Bytes) (e : Err),
    convertF true pre uc o src = .error e → e.isLoop = false

/-- **No fuel exhaustion, relative to the two phase loops**: when the block phase with the footnote block parser and the
    inline loop over the table with the footnote parser never exhaust their fuel, `convertF true` never does (the
    transformer is a total function; the renderer has no fuel). -/
theorem convertf_never_loops_of (hB : BlockNoLoopF) (hI : InlineNoLoopF) : ConvertFNeverLoops :=
  fun pre uc o src _ h => convertF_noLoop_of hB hI pre uc o src h

/-- with the extension off: never, unconditionally (it is `convertCore`) -/
theorem convertf_never_loops_partial (pre : Option Bytes) (uc : List (Nat × (Bool × Bool))) (o : ROpts) (src : Bytes) (e : Err)
    (h : convertF false pre uc o src = .error e) : e.isLoop = false := by
  rw [(convertf_off_is_core pre uc o src).1] at h
  exact GM.Proof.ConvertTotal.convertCore_noLoop uc o src h

/-! ### the abstraction -/

/-- **The abstraction GM.Props.C16 speaks about is what the concrete model produces.** For every source on which the two
    parse phases return (block-phase state `(f, st)`, tree `t` in front of the AST transformer):
    (1) `absOf` answers `labels` = the `Ref`s of the FootnoteList's children in the final node store (the definitions in the
        order `Close` appended them) and `events` = one event per FootnoteLink node of `t` in document order (= creation
        order), each with the label of the definition it resolved to, `dropped` = it lies below an Image, `host` = the
        Footnote that encloses it;
    (2) the document the renderer receives is the transformer `finishDoc` applied to `GM.Footnote.transform labels events` —
        the very function `footnote_consistent` is about — with `if list == nil return` decided by the parse context;
    (3) `convertF` renders exactly that document.
    This replaces the probes' OBSERVATION of (labels, events) by the model's computation; the tie (component `convertf`)
    compares the two on every document. -/
theorem convertf_events_are_abstraction (guard : Bool) (pre : Option Bytes) (uc : List (Nat × (Bool × Bool))) (o : ROpts)
    (src : Bytes) (f : FS) (st : GM.Blocks.St) (t : GM.Node) (h : parsePhases true guard uc src = .ok (f, st, t)) :
    let labels := (listKids f st).map f.refOf
    let evs := (evNode false none t).map (RawEv.event labels)
    absOf true guard uc src = .ok (labels, evs) ∧
    parseDocF true guard uc src = .ok (finishDoc f.list.isSome (GM.Footnote.transform labels evs) t) ∧
    convertFWith true guard pre uc o src = renderDocF true pre o (finishDoc f.list.isSome (GM.Footnote.transform labels evs) t) := by
  refine ⟨?_, ?_, ?_⟩
  · simp only [absOf, h, bind, Except.bind, pure, Except.pure, labelsOf, events]
  · simp only [parseDocF, h, bind, Except.bind, pure, Except.pure, labelsOf, events]
  · simp only [convertFWith, parseDocF, h, bind, Except.bind, pure, Except.pure, labelsOf, events]

/-- an event's label is the `Ref` of the definition at the position the FootnoteLink node carries -/
theorem convertf_event_label (labels : List Bytes) (e : RawEv) : (e.event labels).label = labels.getD e.k [] := rfl

/-- **Every node the inline parser returns is a FootnoteLink for a definition of the list** — the FIRST one whose `Ref`
    equals the bytes between `[^` and `]` (footnote.go:162-172, `index == 0` ⇒ nil): without a list, or with an unknown label,
    it returns nil. -/
theorem footnote_link_resolves (rs : Option (List Bytes)) (env : GM.Inl.Env) (st : GM.Inl.St) (r : Option GM.Inl.Node × GM.Inl.St)
    (n : GM.Inl.Node) (h : parseFootnote rs env st = .ok r) (hn : r.1 = some n) :
    ∃ labels v k, rs = some labels ∧ resolve labels v 0 = some k ∧ n = fnLinkNode k :=
  parseFootnote_node rs env st r n h hn

/-- the position `resolve` answers is the one GM.Spec.Footnote.resolve? (the meaning of "the definition a reference `[^v]`
    means" in clause 6) names, and the label there is `v` -/
theorem footnote_label_resolution (rs : List Bytes) (v : Bytes) (k : Nat) (h : resolve rs v 0 = some k) :
    rs[k]? = some v ∧ GM.Spec.Footnote.resolve? rs v = some k := by
  obtain ⟨j, hj, hg, hr⟩ := resolve_sound rs v 0 k h
  have : k = j := by omega
  subst this
  exact ⟨hg, hr⟩

/-- the representation of a FootnoteLink decodes to the definition position it was built from -/
theorem footnote_link_encoding (k : Nat) : ∃ lv, fnLinkNode k = .emphasis lv [] ∧ fnLinkPos? lv = some k := by
  refine ⟨-(3 + (k : Int)), rfl, ?_⟩
  unfold fnLinkPos?
  have h1 : -(3 + (k : Int)) ≤ -3 := by omega
  simp only [h1, if_true, Option.some.injEq]
  omega

/-! ### C16 -/

/-- **C16 for the abstraction of every parse**: whatever the source, the (labels, events) the concrete model computes
    satisfy the six clauses (`GM.Props.C16.FootnoteConsistent`, i.e. `footnote_consistent`, composed with `absOf`; this file does
    not import GM.Props.C16 so that it can be re-exported there). -/
theorem convertf_abstraction_consistent (guard : Bool) (pre : Bytes) (uc : List (Nat × (Bool × Bool))) (src : Bytes)
    (labels : List Bytes) (evs : List GM.Footnote.Event) (_h : absOf true guard uc src = .ok (labels, evs)) :
    GM.Spec.Footnote.Consistent pre labels (evs.map (·.label)) (GM.Footnote.render pre labels evs) :=
  GM.Proof.Footnote.consistent pre labels evs

/-- hypothesis (S) of the two theorems below, for the parse of `src`: `shapeOKB` of the tree in front of the transformer
    (true when the phases do not return: nothing is rendered). Decidable; EVALUATED by the tie on every document (flag `c1`). -/
def shapeOK (guard : Bool) (uc : List (Nat × (Bool × Bool))) (src : Bytes) : Bool :=
  match parsePhases true guard uc src with
  | .ok (f, st, t) => shapeOKB f.list.isSome (labelsOf f st) t
  | .error _ => true

/-- the statement that the AST well-formedness (S) holds of the parse of every source -/
def ShapeAlwaysOK : Prop := ∀ (guard : Bool) (uc : List (Nat × (Bool × Bool))) (src : Bytes), shapeOK guard uc src = true

/-- **(S) always holds** — for every byte string, Unicode class assignment and guard setting, the tree in front of the
    transformer that the parse phases return has the AST shape: at most one FootnoteList, its children exactly the
    definitions `0 … n−1` in list order with no Footnote / FootnoteList below them, no Footnote elsewhere, FootnoteLinks are
    leaves that point at definitions of the list, no FootnoteBacklink yet, the root is the Document. It holds BY
    CONSTRUCTION of the composed model: the walk over the store (`treeOfF`: modes body / definition / below a definition)
    tags the list's children by their position, and the model's DOMAIN MONITORS (`tagIn`, `treeOfF`, `blockKindF`,
    `inlineTreeF`, `monitorFires` — not Go code, documented in GM.Model.ConvertF) answer `pre` for the stores Go never
    builds (a Footnote outside the list, a FootnoteList twice in the tree or below a definition, node 0 not the Document,
    a FootnoteLink to no definition, a Footnote with lines). So C16 holds of EVERY document `convertF` converts; that the
    monitors never fire (`MonitorsNeverFire`, stated) is a no-`pre` fact of the C01 kind: evaluated by the tie on every
    document (an `err:` answer is a disagreement), never observed; on `[^`-free sources it is a theorem
    (`convertf_conservative`: the outcome is `convertCore`'s). -/
theorem shape_always_ok : ShapeAlwaysOK := by
  intro guard uc src
  unfold shapeOK
  cases h : parsePhases true guard uc src with
  | error e => rfl
  | ok r =>
    obtain ⟨f, st, t⟩ := r
    exact shape_of_parse guard uc src f st t h

/-- FULL STATEMENT (not proved; the tie evaluates it on every document): the parse phases never answer one of the model's
    footnote domain monitors. A proof is store / driver well-formedness of the block driver in `MF` (tree-shaped store, every
    opened Footnote closed into the one list, the list placed outside every Footnote, stores only grow) — the technique of
    GM.Proof.ConvertHWF* / BlocksClosed* applied to the driver with the footnote parser — plus "every FootnoteLink
    representation of the inline phase comes from `parseFootnote`". -/
def MonitorsNeverFire : Prop :=
  (∀ (guard : Bool) (src : Bytes) (f : FS) (st : GM.Blocks.St), blockPhaseF true guard src = .ok (f, st) →
    monitorFires f st (treeOfF f st.nodes st.nodes.length .body 0) = false ∧
    (treeOfF f st.nodes st.nodes.length .body 0).clean = true) ∧
  (∀ (env : GM.Inl.Env) (src : Bytes) (refs : Option (List Bytes)) (lines : List Segment) (kids : List GM.Inl.Node),
    GM.Inl.parseBlockX env (inlineTblF true refs) src lines = .ok kids → linksBelowL (refs.getD []).length kids = true)

/-- **Store well-formedness of the block driver with the footnote block parser** (the `MF` copy of the driver): for every
    source, guard setting and registration flag, whenever the block phase ends normally the node store is tree-shaped
    (`GM.ConvertH.TreeWF`: every child edge is mirrored by the child's parent pointer, child lists are duplicate-free,
    node 0 is the parentless Document) and the footnote context — the FootnoteList of the parse context, every `*ast.Footnote`
    — names existing nodes other than node 0. Technique and parser-level lemmas: GM.Proof.ConvertHWF*. -/
theorem convertf_store_wellformed (on guard : Bool) (src : Bytes) (f : FS) (st : GM.Blocks.St)
    (h : blockPhaseF on guard src = .ok (f, st)) : GM.ConvertH.TreeWF st ∧ IdsOK f st :=
  blockPhaseF_wf on guard src f st h

/-- **The block-phase monitor never fires**: for every source the walk over the final store meets the FootnoteList at most
    once and node 0 is the plain Document — the first half of `MonitorsNeverFire`, part 1. -/
theorem convertf_block_monitor_never_fires (on guard : Bool) (src : Bytes) (f : FS) (st : GM.Blocks.St)
    (h : blockPhaseF on guard src = .ok (f, st)) :
    monitorFires f st (treeOfF f st.nodes st.nodes.length .body 0) = false :=
  monitor_never_fires on guard src f st h

/-- **The inline monitor never fires**: every FootnoteLink representation among the inline children the inline phase with
    the footnote parser returns — for every block, reference list, environment — points at a definition of the list
    (`k < refs.length`): part 2 of `MonitorsNeverFire`. The per-node property is carried through every default inline parser,
    ProcessDelimiters (it only builds Emphasis of level 1 or 2), the link parser, the byte loop over the trigger table and
    CloseBlock; the node `parseFootnote` answers has it by `footnote_label_resolution`. -/
theorem convertf_inline_links_resolve (env : GM.Inl.Env) (src : Bytes) (refs : Option (List Bytes)) (lines : List Segment)
    (kids : List GM.Inl.Node) (h : GM.Inl.parseBlockX env (inlineTblF true refs) src lines = .ok kids) :
    linksBelowL (refs.getD []).length kids = true :=
  GM.Inl.FLinks.parseBlockX_linksBelow env src refs lines kids h

/-- the last part of `MonitorsNeverFire` (a theorem: `footnotes_all_filed`) — in the final store every `*ast.Footnote` the
    walk meets is a child of the FootnoteList, neither a Footnote nor the list occurs below a definition, the list is reached
    with fuel, and Footnote / list nodes have no lines (the close discipline of the driver: every opened Footnote is closed
    into the list before its parent). A child of the list that is no Footnote is not a monitor: the model mirrors the panic of
    the transformer's type assertion `footnote.(*ast.Footnote)` (footnote.go:251; tag `alien`, outcome `value assert`). -/
def FootnotesAllFiled : Prop :=
  ∀ (guard : Bool) (src : Bytes) (f : FS) (st : GM.Blocks.St), blockPhaseF true guard src = .ok (f, st) →
    (treeOfF f st.nodes st.nodes.length .body 0).clean = true

theorem monitors_never_fire_of (h : FootnotesAllFiled) : MonitorsNeverFire :=
  ⟨fun guard src f st e => ⟨monitor_never_fires true guard src f st e, h guard src f st e⟩,
    GM.Inl.FLinks.parseBlockX_linksBelow⟩

/-- **The close discipline of the block driver with the footnote block parser** (`MF` copy; technique and parser-level
    lemmas of GM.Proof.ConvertHWF*): for every source, guard setting and registration flag, in the final state
    of the block phase the open-block stack is empty and the invariant `FJ` holds — the store is tree-shaped, every
    `*ast.Footnote` and the FootnoteList are nodes of their store kind, NO node of that kind has lines, and every child edge to
    a Footnote comes from the FootnoteList. -/
theorem convertf_close_discipline (on guard : Bool) (src : Bytes) (f : FS) (st : GM.Blocks.St)
    (h : blockPhaseF on guard src = .ok (f, st)) : FJ f st ∧ st.pc.opened = [] :=
  blockPhaseF_disc on guard src f st h

/-- **Every Footnote is filed** — `FootnotesAllFiled` is a theorem. -/
theorem footnotes_all_filed : FootnotesAllFiled :=
  fun guard src f st e => blockPhaseF_clean true guard src f st e

/-- **NO DOMAIN MONITOR OF THE FOOTNOTE MODEL EVER FIRES** — `MonitorsNeverFire` is a theorem, for every byte string: after
    every block phase `monitorFires = false` and the tagged tree is `clean`; every FootnoteLink of every inline phase points at
    a definition of the list. With `shape_always_ok` and `convertf_footnotes_consistent_unconditional`: C16 end to end for
    every byte string with no footnote monitor left in the way. -/
theorem monitors_never_fire : MonitorsNeverFire := monitors_never_fire_of footnotes_all_filed

/-- **A provable part of `BlockNoLoopF`: the ancestor loop of `(*footnoteBlockParser).Close` has enough fuel** (footnote.go:96-100,
    `anchorLoop` with fuel `len + 1`) for every node whose parent-pointer chain reaches node 0 of a tree-shaped store: the nodes
    on the chain exist and are pairwise different (node 0 has no parent, so a node has one depth), so there are at most `len`
    of them. -/
theorem convertf_anchor_loop_terminates (f : FS) (s : GM.Blocks.St) (w : GM.ConvertH.TreeWF s) (d x : Nat)
    (hx : x < s.nodes.length) (hd : anc s d x = some 0) :
    (anchorLoop f s.nodes (s.nodes.length + 1) (GM.ConvertH.ndx s x).parent x).isSome = true :=
  anchorLoop_terminates f s w d x hx hd

/-- … hence **`Close` of such a Footnote never answers `loop`** (its other outcomes: normal end, `nil`). -/
theorem convertf_close_no_loop_of_reach (node d : Nat) (f : FS) (s : GM.Blocks.St) (w : GM.ConvertH.TreeWF s)
    (hv : node < s.nodes.length) (hd : anc s d node = some 0) (e : Panic) (h : fnClose node f s = .error e) : e ≠ .loop :=
  fnClose_noLoop node d f s w hv hd e h

/-- FULL STATEMENT (not proved): the invariant that would finish the `anchorLoop` part of `BlockNoLoopF` — whenever the block
    driver calls `Close` on a block, the parent-pointer chain of its node reaches node 0. `TreeWF` relates child edges to parent
    pointers in one direction only; what is missing is a parent-pointer frame fact for every parser function and mutator (which
    pointers are set: `ins ↦ p` for a node it has created, `c ↦ none`). Stated for the final store (where it is a consequence of
    every attached node's chain being backed by child edges): every node that is somebody's child reaches node 0. -/
def AttachedNodesReachRoot : Prop :=
  ∀ (guard : Bool) (src : Bytes) (f : FS) (st : GM.Blocks.St), blockPhaseF true guard src = .ok (f, st) →
    ∀ p c, c ∈ (GM.ConvertH.ndx st p).children → ∃ d, anc st d c = some 0

/-- FULL STATEMENT (not proved; a C01 fact of the extension, not a monitor): the children of the FootnoteList are
    `*ast.Footnote`s — the type assertion `footnote.(*ast.Footnote)` of the AST transformer (footnote.go:251; the model's
    outcome `value assert`, tag `alien`) never panics. Only `(*footnoteBlockParser).Close` appends to the list; what is missing
    for a proof is a frame fact about the child edges the default parsers' tree surgery ADDS (they never add one to the list). -/
def ListKidsAreFootnotes : Prop :=
  ∀ (guard : Bool) (src : Bytes) (f : FS) (st : GM.Blocks.St), blockPhaseF true guard src = .ok (f, st) →
    ∀ l, f.list = some l → ∀ c ∈ (st.nodes.getD l default).children, f.isFn c = true

/-- **…in terms of outcomes**: for every byte string (guard setting, Unicode class assignment) the parse phases of the composed
    model with the extension never answer `value pre` — the outcome of every footnote monitor of the tree phase (`stray`, lines
    on a Footnote / the list, a FootnoteLink to no definition) — and they answer `blocks pre` only when the BLOCK PHASE itself
    does (the retry contract monitors of the block driver that `convertCore` has too), never because of `monitorFires`. -/
theorem convertf_no_footnote_monitor_outcome (guard : Bool) (uc : List (Nat × (Bool × Bool))) (src : Bytes) (e : Err)
    (h : parsePhases true guard uc src = .error e) :
    e ≠ .value .pre ∧ (e = .blocks .pre → blockPhaseF true guard src = .error .pre) :=
  parsePhases_noMonitor guard uc src e h

/-- **The tree the renderer receives shows exactly the output of GM.Footnote.render on its abstraction**, for EVERY tree `t`
    in front of the transformer that satisfies (S) — in particular (by the tie's evaluation) the one of every source: the
    `(Index, RefCount, RefIndex)` `fill` writes into the FootnoteLinks in creation order, the removal / move of the list, the
    kept definitions in sorted order with their back-links appended to the last Paragraph, read back in output order
    (nothing below an Image), ARE `items` / `refs` of GM.Model.Footnote (`renderedLinks`: body first, then each kept
    definition's hosted links) — ids, hrefs, shown numbers. Proof: GM.Proof.ConvertFTree (`fill` hands the fields out in
    event order; erasing the fields shows the shape is unchanged; a walk over body / list / notes; `allLinkFields` keeps
    creation order and its rendered entries are the numbered links). -/
theorem convertf_tree_shows_abstraction (hasList : Bool) (pre : Bytes) (labels : List Bytes) (t : GM.Node)
    (hs : shapeOKB hasList labels t = true) :
    treeOutput pre (finishDoc hasList (GM.Footnote.transform labels (events labels t)) t) =
      absOutput pre labels (events labels t) :=
  tree_shows hasList pre labels t hs

/-- the Lean-defined oracle the tie evaluates (`treeShowsAbsB`) is implied by (S) -/
theorem convertf_shape_implies_oracle (guard : Bool) (pre : Bytes) (uc : List (Nat × (Bool × Bool))) (src : Bytes)
    (hs : shapeOK guard uc src = true) : treeShowsAbsB true guard pre uc src = true := by
  unfold treeShowsAbsB
  unfold shapeOK at hs
  cases h : parsePhases true guard uc src with
  | error e => rfl
  | ok r =>
    obtain ⟨f, st, t⟩ := r
    rw [h] at hs
    simp only [] at hs ⊢
    rw [tree_shows _ pre _ t hs]
    simp

/-- **C16 for the tree the renderer receives.** For every source whose parse satisfies (S): the ids / hrefs / shown numbers
    FootnoteHTMLRenderer writes for the document `convertF` renders (`treeOutput`: `<li id>` + back-link targets per item,
    `<sup id>` / `href` / number per reference, in output order, nothing below an Image) are those of an output `o` that
    satisfies the six clauses of GM.Spec.Footnote.Consistent w.r.t. the definitions and the reference labels of the source:
    items numbered 1…n in listed order; every reference links to exactly one item and shows its number; every back-link
    points to exactly one rendered reference of its own item; every reference has exactly one back-link; all ids distinct;
    every listed definition is referenced. -/
theorem convertf_footnotes_consistent (guard : Bool) (pre : Bytes) (uc : List (Nat × (Bool × Bool))) (src : Bytes)
    (f : FS) (st : GM.Blocks.St) (t : GM.Node) (h : parsePhases true guard uc src = .ok (f, st, t))
    (hs : shapeOK guard uc src = true) :
    let labels := labelsOf f st
    let evs := events labels t
    let doc := finishDoc f.list.isSome (GM.Footnote.transform labels evs) t
    ∃ o : GM.Spec.Footnote.Output, GM.Spec.Footnote.Consistent pre labels (evs.map (·.label)) o ∧
      (treeOutput pre doc).1 = o.items.map (fun it => (it.id, it.backs)) ∧ (treeOutput pre doc).2 = o.refs := by
  intro labels evs doc
  apply consistent_of_shows
  unfold shapeOK at hs
  rw [h] at hs
  exact tree_shows _ pre labels t hs

/-- **C16 END TO END, UNCONDITIONAL.** For EVERY byte string `src` (every Unicode class assignment, id prefix, guard
    setting): whenever the parse phases of `convertF` return, the ids / hrefs / shown numbers FootnoteHTMLRenderer writes for
    the document `convertF` renders are those of an output that satisfies all six clauses of GM.Spec.Footnote.Consistent:
    items numbered 1…n in listed order; every reference links to exactly one item and shows its number; every back-link
    points to exactly one rendered reference of its own item; every reference has exactly one back-link; all ids distinct;
    every listed definition is referenced. (`convertf_footnotes_consistent` + `shape_always_ok`.) -/
theorem convertf_footnotes_consistent_unconditional (guard : Bool) (pre : Bytes) (uc : List (Nat × (Bool × Bool))) (src : Bytes)
    (f : FS) (st : GM.Blocks.St) (t : GM.Node) (h : parsePhases true guard uc src = .ok (f, st, t)) :
    let labels := labelsOf f st
    let evs := events labels t
    let doc := finishDoc f.list.isSome (GM.Footnote.transform labels evs) t
    ∃ o : GM.Spec.Footnote.Output, GM.Spec.Footnote.Consistent pre labels (evs.map (·.label)) o ∧
      (treeOutput pre doc).1 = o.items.map (fun it => (it.id, it.backs)) ∧ (treeOutput pre doc).2 = o.refs :=
  convertf_footnotes_consistent guard pre uc src f st t h (shape_always_ok guard uc src)

/-- the Lean-defined oracle of the tie is a theorem: the tree `convertF` renders ALWAYS shows the abstraction's output -/
theorem convertf_tree_always_shows_abstraction (guard : Bool) (pre : Bytes) (uc : List (Nat × (Bool × Bool))) (src : Bytes) :
    treeShowsAbsB true guard pre uc src = true :=
  convertf_shape_implies_oracle guard pre uc src (shape_always_ok guard uc src)

/-! ### C11: the decline paths on the concrete parsers -/

/-- the full statement of C11 for the Footnote extension at whole-document level -/
def ConvertFConservative : Prop :=
  ∀ (uc : List (Nat × (Bool × Bool))) (o : ROpts) (src : Bytes), GM.Ext.hasInfix [91, 94] src = false →
    convertF true none uc o src = convertCore uc o src

/-- **C11 at whole-document level, full statement**: for EVERY byte string without the two bytes `[^` (every Unicode class
    assignment, every renderer option set), `goldmark.New(WithExtensions(extension.Footnote), …)` as modelled by `convertF`
    answers exactly what `convertCore` answers: the same HTML, or the same error outcome. Composition of
    `convertf_conservative_blockphase` (the block parser is consulted at every line that starts with `[` and declines
    without a trace), `convertf_inline_phase_without_list` (the inline parser is consulted at every `!` and `[`, may even
    ADVANCE the reader — `!x^abc]`, `list == nil` is tested behind `block.Advance` — and the loop's SetPosition gives back
    the very reader it saved), `parseBlock_wf` (the default parsers build no FootnoteLink representation),
    `footnote_transformer_without_list_concrete` and the renderer lemma (a tree without footnote kinds renders alike with
    and without FootnoteHTMLRenderer). -/
theorem convertf_conservative : ConvertFConservative :=
  fun uc o src h => convertF_cons uc o src h

/-- **the inline phase while the context holds no FootnoteList is the default inline phase** — for every block with
    well-formed padding-free lines (what the run-time check of `convertF` lets through), WHATEVER the source: the footnote
    parser in front of the link parser returns nil, and SetPosition restores the reader exactly (under the invariant of
    GM.Proof.InlinesLoopTotal every field but `lineOffset` is determined by the cursor the reader stands for, and
    `lineOffset` is −1 behind Advance and behind SetPosition). -/
theorem convertf_inline_phase_without_list (src : Bytes) (segs : List Segment) (W : GM.Spec.WFSegs src segs)
    (Z : ∀ s ∈ segs, s.padding = 0) (env : GM.Inl.Env) :
    GM.Inl.parseBlockX env (inlineTblF true none) src segs = GM.Inl.parseBlock env src segs :=
  parseBlockX_fn W Z env

/-- C01 for that inline phase: TOTAL — children, no Go panic, no fuel exhaustion, no monitor (GM.Proof.InlinesLink.parseBlock_total
    carried over by the equality above) -/
theorem convertf_inline_phase_without_list_total (src : Bytes) (segs : List Segment) (W : GM.Spec.WFSegs src segs)
    (Z : ∀ s ∈ segs, s.padding = 0) (env : GM.Inl.Env) :
    ∃ kids, GM.Inl.parseBlockX env (inlineTblF true none) src segs = .ok kids := by
  rw [parseBlockX_fn W Z env]
  exact GM.Proof.InlinesLink.parseBlock_total W Z env

/-- … hence `convertF` never exhausts fuel on a source without `[^` -/
theorem convertf_never_loops_conservative (uc : List (Nat × (Bool × Bool))) (o : ROpts) (src : Bytes)
    (h : GM.Ext.hasInfix [91, 94] src = false) (e : Err) (he : convertF true none uc o src = .error e) : e.isLoop = false := by
  rw [convertF_cons uc o src h] at he
  exact GM.Proof.ConvertTotal.convertCore_noLoop uc o src he

/-- **C11 for the block phase at whole-document level.** For EVERY source without the two bytes `[^`: the block phase with
    the footnote block parser registered returns exactly the state of `convertCore`'s block phase (same node store,
    context, reader — or the same Go panic / monitor outcome), and no Footnote / FootnoteList exists. The parser IS
    consulted on every line whose first non-space byte is `[`; it declines (`footnote_open_declines_concrete`) — and the
    `reader.PeekLine()` it has called changes nothing, because openBlocks' own PeekLine has filled the reader's cache
    already and the cache is coherent (a reader invariant kept by every reader primitive, hence — through the `Pres`
    calculus of GM.Proof.BlocksPres — by all ten block parsers, the link-reference transformer and the driver). The
    proof also follows the one place where the footnote parser's presence changes a local variable of openBlocks
    (`lastBlock` is re-read in front of its `Open`): it is only read when it is fresh. -/
theorem convertf_conservative_blockphase (src : Bytes) (h : GM.Ext.hasInfix [91, 94] src = false) :
    blockPhaseF true true src = (blockPhase true src).map fun st => ({}, st) :=
  blockPhaseF_cons h

/-- **C11 at whole-document level for sources without the inline parser's trigger bytes**: a source that contains
    neither `[` nor `!` converts to the same HTML / outcome with and without the extension (block phase: above; the inline
    parser is never consulted; the default parsers build no FootnoteLink representation; a tree without footnote kinds
    renders alike with and without the footnote node renderers). -/
theorem convertf_conservative_notrigger (uc : List (Nat × (Bool × Bool))) (o : ROpts) (src : Bytes)
    (h91 : (91 : UInt8) ∉ src) (h33 : (33 : UInt8) ∉ src) : convertF true none uc o src = convertCore uc o src :=
  convertF_unused uc o src h91 h33

/-- … hence no fuel exhaustion on such sources -/
theorem convertf_never_loops_notrigger (uc : List (Nat × (Bool × Bool))) (o : ROpts) (src : Bytes)
    (h91 : (91 : UInt8) ∉ src) (h33 : (33 : UInt8) ∉ src) (e : Err) (h : convertF true none uc o src = .error e) :
    e.isLoop = false := by
  rw [convertF_unused uc o src h91 h33] at h
  exact GM.Proof.ConvertTotal.convertCore_noLoop uc o src h

/-- on a source without `[^`, with the line cached by openBlocks' PeekLine and the reader invariant, Open is a no-op on
    the WHOLE two-layer state (the step the block-phase theorem rests on) -/
theorem footnote_open_noop (src : Bytes) (hsrc : GM.Ext.hasInfix [91, 94] src = false) (parent : Nat) (s : GM.Blocks.St)
    (l : Bytes) (hI : IC src s) (hp : PPeek l s) : fnOpen parent {} s = .ok (((none, GM.Blocks.stNoChildren), {}), s) :=
  fnOpen_noop hsrc parent s l hI hp

/-- `footnote_open_declines` on the concrete block model: on a peeked line without the two bytes `[^`,
    (*footnoteBlockParser).Open returns (nil, NoChildren) with the footnote state untouched and the `St` `peekLine` leaves —
    or panics with the index panic of `line[pos]` (block offset outside the line: never, by the driver). -/
theorem footnote_open_declines_concrete (parent : Nat) (f : FS) (s : GM.Blocks.St) (line : Bytes) (seg : Segment) (r' : Reader)
    (hp : s.r.peekLine = .ok ((some line, seg), r')) (h : GM.Ext.hasInfix [91, 94] line = false) :
    fnOpen parent f s = .ok (((none, GM.Blocks.stNoChildren), f), { s with r := r' }) ∨ fnOpen parent f s = .error .index :=
  fnOpen_declines parent f s line seg r' hp h

/-- `footnote_inline_declines` on the concrete inline model: while the context holds no FootnoteList — none exists until a
    definition has been opened and closed, which needs `[^` — (*footnoteParser).Parse returns nil on EVERY line and leaves
    the parent's children alone (it may have advanced the reader; the loop puts it back). -/
theorem footnote_inline_declines_concrete (env : GM.Inl.Env) (st : GM.Inl.St) (r : Option GM.Inl.Node × GM.Inl.St)
    (h : parseFootnote none env st = .ok r) : r.1 = none ∧ r.2.kids = st.kids :=
  parseFootnote_noList env st r h

/-- `footnote_transformer_without_list` on the composed model: without a FootnoteList in the context the transformer
    returns the document as it is (footnote.go:217-219) -/
theorem footnote_transformer_without_list_concrete (tr : GM.Footnote.Transformed) (t : GM.Node) : finishDoc false tr t = t := by
  simp [finishDoc]

/-- the block parser is only ever tried on a line whose first non-space byte is `[` -/
theorem footnote_block_parser_trigger (c : UInt8) (h : c ≠ 91) :
    triggeredF true c = (GM.Blocks.triggered c).map (·.map .core) := by
  have : (c == 91) = false := by simp [h]
  simp [triggeredF, this]

/-! ### tests on literals (kernel-evaluated; not theorems about all inputs) -/

/-- `a[^1]⏎⏎[^1]: d⏎`: one reference, one item, one back-link -/
def srcOne : Bytes := [97, 91, 94, 49, 93, 10, 10, 91, 94, 49, 93, 58, 32, 100, 10]

example : (absOf true true [] srcOne).toOption = some ([[49]], [{ label := [49], dropped := false, host := none }]) := by decide +kernel
example : treeShowsAbsB true true [] [] srcOne = true := by decide +kernel
example : shapeOK true [] srcOne = true := by decide +kernel
example : (convertF true none [] {} srcOne).toOption.isSome = true := by decide +kernel
/-- non-vacuity of the hypotheses: the phases return on it -/
example : (parsePhases true true [] srcOne).toOption.isSome = true := by decide +kernel
/-- F13 witness 1 `![x[^1]](y)⏎⏎[^1]: d`: the event is `dropped` -/
example : (absOf true true [] [33, 91, 120, 91, 94, 49, 93, 93, 40, 121, 41, 10, 10, 91, 94, 49, 93, 58, 32, 100]).toOption =
    some ([[49]], [{ label := [49], dropped := true, host := none }]) := by decide +kernel
/-- `GM.Ext.hasInfix [91, 94]` is satisfiable both ways -/
example : GM.Ext.hasInfix [91, 94] [91, 97, 93] = false := by decide
example : GM.Ext.hasInfix [91, 94] srcOne = true := by decide

end GM.Props.C16E2E
