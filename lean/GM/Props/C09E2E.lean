/-
  GM.Props.C09E2E — property C09, first half ("closed blocks render independently"), AT HTML LEVEL on the composed model of
  `goldmark.Convert`, for an EMPTY document `A`:

      convertCore uc o ("\n# h\n\n" ++ b) = convertCore uc o ("# h\n") ++ convertCore uc o b

  for every option set, every heading text `h` without line feed, every `b` (lists included), both without the byte `[`.
  (`"# h\n"` is `GM.Blocks.Sh.hlB h` = `GM.Blocks.headingLine h`; `"\n# h\n\n" ++ b` is `GM.Blocks.Sh.docB h b` =
  `GM.Blocks.indepDoc [] h b`.) From the shift invariance of the block phase (`GM.Props.C09Shift.shift_invariance`,
  `joined_run_reaches_start`, `heading_line_run`) through the inline phase and the renderer (GM.Proof.E2EShift).

  NAMED HYPOTHESIS `InlineMoveStep src src' d L`: the inline phase of ONE block answers the same renderer trees when its lines are
  moved by `d` bytes into another source. It is PROVED for blocks of plain-text lines (`GM.Proof.CMFrag.GoodLine`, `inline_move_good_lines`);
  `heading_then_blocks_html_checked` has no such hypothesis.
  Not covered: a non-empty `A` (the prefix determinism of GM.Props.C09Prefix is stated on canonical dumps, not on stores).
  The theorems are stated for sources that convert (`convertCore … = .ok html`); that EVERY source converts is
  `GM.Props.ConvertE2ENP.convert_total`; GM.Props.C08E2ETotal composes the two.
-/
import GM.Proof.E2EShiftGood
import GM.Props.C08E2E

namespace GM.Props.C09E2E
open GM GM.Text GM.Convert GM.Spec GM.E2E GM.Blocks GM.Blocks.Sh GM.E2E.Shift

/-- the two sources of the statement, spelled out -/
example (h : Bytes) : hlB h = headingLine h := (headingLine_eq h).symm
example (h b : Bytes) : docB h b = indepDoc [] h b := (indepDoc_nil h b).symm

/-- **the renderer on a Document whose first child is a Heading**: the heading, then the other children — a Heading does not look
    at its next sibling (html.go:renderHeading) -/
theorem renderer_heading_then_rest : type_of% @render_heading_cons := @render_heading_cons

/-- **C09 first half at the level of the renderer's tree, empty `A`**: `parseDoc ("\n# h\n\n" ++ b)` is
    Document[the Heading of `parseDoc "# h\n"`, the children of `parseDoc b`] -/
theorem parse_heading_then_blocks : type_of% @parseDoc_joined := @parseDoc_joined

/-- **`heading_then_blocks_html` — C09 first half at HTML level, empty `A`**, given the inline invariant for the heading and for
    the blocks of `b` -/
theorem heading_then_blocks_html : type_of% @convert_joined := @convert_joined

/-- **the inline hypothesis holds for blocks of plain-text lines**, the lines moved into `P ++ src ++ S` -/
theorem inline_move_good_lines : type_of% @inlineMoveStep_good := @inlineMoveStep_good

/-- **without the inline hypothesis: plain-text inline content**, any block structure in `b` -/
theorem heading_then_blocks_html_good_lines : type_of% @convert_joined_good := @convert_joined_good

/-- **… with decidable hypotheses** (`GM.Props.C08E2E.goodLinesCheck`: run the block phase, test every block with inline content) -/
theorem heading_then_blocks_html_checked (uc : List (Nat × (Bool × Bool))) (o : ROpts) (h b : Bytes) (hh : ∀ c ∈ h, c ≠ 10)
    (hbh : NoBracket h) (hbb : NoBracket b) (hgh : GM.Props.C08E2E.goodLinesCheck (hlB h) = true)
    (hgb : GM.Props.C08E2E.goodLinesCheck b = true)
    (htmlH htmlB : Bytes) (h1 : convertCore uc o (hlB h) = .ok htmlH) (h2 : convertCore uc o b = .ok htmlB) :
    convertCore uc o (docB h b) = .ok (htmlH ++ htmlB) :=
  convert_joined_good uc o h b hh hbh hbb
    (fun sh hsh => by
      unfold GM.Props.C08E2E.goodLinesCheck at hgh
      rw [hsh] at hgh
      exact GM.E2E.Quote.goodBlocksB_sound hgh)
    (fun sb hsb => by
      unfold GM.Props.C08E2E.goodLinesCheck at hgb
      rw [hsb] at hgb
      exact GM.E2E.Quote.goodBlocksB_sound hgb) htmlH htmlB h1 h2

/-! ### non-vacuity -/

/-- the hypotheses hold for `h = "t x"`, `b` = a list, a fenced code block, an HTML block, a paragraph of two lines -/
example : GM.Props.C08E2E.goodLinesCheck (hlB (strBytes "t x")) = true := by decide +kernel
example : GM.Props.C08E2E.goodLinesCheck (strBytes "- a\n- b c\n\n```\nc\n```\n\n<div>\nq\n</div>\n\nx\ny z\n") = true := by
  decide +kernel

/-- the equation on literals, both sides evaluated by the kernel -/
example : (convertCore [] {} (docB (strBytes "t x") (strBytes "- a\n- b c\n\n```\nc\n```\n\n<div>\nq\n</div>\n\nx\ny z\n"))).toOption =
    (do let a ← (convertCore [] {} (hlB (strBytes "t x"))).toOption
        let b ← (convertCore [] {} (strBytes "- a\n- b c\n\n```\nc\n```\n\n<div>\nq\n</div>\n\nx\ny z\n")).toOption
        pure (a ++ b)) := by decide +kernel

example : (convertCore [] {} (hlB (strBytes "t x"))).toOption = some (strBytes "<h1>t x</h1>\n") := by decide +kernel

end GM.Props.C09E2E
