/-
  GM.Props.ConvertE2E — END-TO-END theorems for the default CommonMark configuration: the renderer properties C03 / C04 /
  C10 and the renderer half of C01, stated over the composed model `GM.Convert.convertCore uc o src` (block phase with the
  link-reference transformer → inline phase per block → `docTree` → renderer model; tied to `goldmark.New(…).Convert` on
  whole documents by component `convert`) instead of over abstract trees that are assumed to satisfy `Spec.Inv`.

  Every theorem quantifies over EVERY byte string `src`, every Unicode class assignment `uc` and every renderer option
  set `o` (Unsafe / XHTML / HardWraps). Where a statement needs "the parse phases answered a tree" the hypothesis is
  `convertCore … = .ok html` (that the block phase never panics and hands `WF0` lines to the inline phase is the subject
  of other modules). Only property theorems and their non-vacuity examples live here; proofs: GM/Proof/E2E*.lean.
-/
import GM.Proof.E2EMain
import GM.Proof.E2EValue
import GM.Proof.E2EStoreDone
import GM.Proof.BlocksRunEq
import GM.Proof.E2EBracket
import GM.Proof.E2ERel

namespace GM.Props.ConvertE2E
open GM GM.Text GM.Convert GM.Spec GM.E2E

/-! ### (1) `Spec.Inv` holds of parser output -/

/-- `block_store_heading_levels` (`GM.E2E.HeadOK`). For EVERY source: in the node store the block phase (with the
    link-reference paragraph transformer, guarded or not) returns, every Heading node — reachable from the Document or
    not — has `1 ≤ Level ≤ 6`. The level is fixed at creation (ATX: the length of the `#` run, declined above 6; setext:
    1 or 2) and no step of the block phase writes a node's kind or level afterwards. -/
theorem block_store_heading_levels (guard : Bool) (src : Bytes) (st : GM.Blocks.St)
    (h : blockPhase guard src = .ok st) :
    ∀ n ∈ st.nodes, n.kind = .heading → 1 ≤ n.level ∧ n.level ≤ 6 :=
  blockPhase_headOK guard src st h

/-- `block_store_ok_decidable`: the store predicate is decidable — the Boolean `headOKB` (evaluable on any dumped
    store) says the same, and it is `true` of every store the block phase returns -/
theorem block_store_ok_decidable (guard : Bool) (src : Bytes) (st : GM.Blocks.St) (h : blockPhase guard src = .ok st) :
    headOKB st = true :=
  (headOKB_iff st).2 (blockPhase_headOK guard src st h)

/-- the Boolean is not constantly true (test on a literal): a store with a level-7 Heading -/
example : headOKB { r := Reader.new [], nodes := [{ kind := .heading, level := 7 }], pc := {} } = false := by decide

/-- the same for the block driver with ANY list of paragraph transformers that keep the heading levels -/
theorem block_store_heading_levels_any_transformers (pts : List GM.Blocks.PT) (hp : PTsKeep HeadOK pts) (src : Bytes)
    (st : GM.Blocks.St) (h : GM.Blocks.runT pts src = .ok st) :
    ∀ n ∈ st.nodes, n.kind = .heading → 1 ≤ n.level ∧ n.level ≤ 6 :=
  runT_headOK hp src st h

/-- `store_inv_gives_tree_inv`: from `GM.E2E.HeadOK` of ANY block store to the invariant of the tree `docTree` builds from
    it (the inline clauses — CodeSpan children are Text, no bookkeeping node, no attributes, no String / table node —
    come from the shape theorem of the inline phase, `GM.Props.Inlines.codespan_holds_text` & co.). -/
theorem store_inv_gives_tree_inv (rc : RCfg) (guard : Bool) (env : GM.Inl.Env) (src : Bytes) (st : GM.Blocks.St)
    (hs : ∀ n ∈ st.nodes, n.kind = .heading → 1 ≤ n.level ∧ n.level ≤ 6) (fuel id : Nat) (t : GM.Node)
    (h : docTree guard env src (GM.Blocks.treeOf st.nodes fuel id) = .ok t) : Spec.nodeInv rc .any t = true :=
  docTree_inv_of_store rc guard env src st hs fuel id t h

/-- `parser_output_satisfies_inv` (what C03 monitors on generated documents, as a theorem). For EVERY source, Unicode
    class assignment and option set: the tree the parse phases hand to the renderer satisfies `Spec.Inv` — heading
    levels 1..6, CodeSpan children are Text, no attributes (hence no invalid / duplicate / clashing attribute name), no
    code-flagged String, no table node outside its place; the footnote strings of the renderer state are the inert
    defaults. -/
theorem parser_output_satisfies_inv (uc : List (Nat × (Bool × Bool))) (o : ROpts) (src : Bytes) (t : GM.Node)
    (h : parseDoc true uc src = .ok t) : Spec.Inv o.rcfg t = true :=
  parseDoc_inv (ROpts.opts o) {} true uc src t h

/-- the same for the composition with or without the two run-time checks, and for the renderer state of ANY global
    option set and extension set built by `mkRCfg` (the parsed tree has no extension node, so registering extension
    renderers does not matter) -/
theorem parser_output_satisfies_inv_any_cfg (guard : Bool) (uc : List (Nat × (Bool × Bool))) (o : Opts) (e : Exts)
    (src : Bytes) (t : GM.Node) (h : parseDoc guard uc src = .ok t) : Spec.Inv (mkRCfg o e) t = true :=
  parseDoc_inv o e guard uc src t h

/-! ### (2) + (3d) the renderer-side panic outcome is unreachable -/

/-- `convert_no_render_panic`. For EVERY source, Unicode class assignment and option set `convertCore` never ends in
    `Err.render k`: no node renderer function panics on parser output (`"0123456"[n.Level]` in renderHeading,
    `c.(*ast.Text)` in renderCodeSpan; the table-cell assertion needs the table extension). -/
theorem convert_no_render_panic (uc : List (Nat × (Bool × Bool))) (o : ROpts) (src : Bytes) (k : PanicKind) :
    convertCore uc o src ≠ .error (.render k) :=
  convertWith_not_render o true uc src k

/-- the same for the composition without the two run-time checks -/
theorem convert_unguarded_no_render_panic (uc : List (Nat × (Bool × Bool))) (o : ROpts) (src : Bytes) (k : PanicKind) :
    convertUnguarded uc o src ≠ .error (.render k) :=
  convertWith_not_render o false uc src k

/-! ### (2) the other renderer-side outcome, `Err.value p` (a `Segment.Value` panic while a node renderer resolves a segment)

The full statement is `NoRendererSidePanic` below. Proved here: the `render k` half unconditionally
(`convert_no_render_panic`), and the `value p` half REDUCED to two explicit facts about the parse phases
(`convert_no_value_panic_partial`). The first fact is not proved in this file: it is the range clause of C05(c) carried
through the driver with transformers (`NodesOK` of `GM.Props.ConvertNP.block_phase_total`) plus the same for the info /
closure segments (`GM.Props.C05E2E.info_closure_in_range`). The second, a padding invariant of the inline phase whose range
half is `GM.Props.Inlines.text_segments_in_range_and_ordered`, is `inline_segments_unpadded` below. -/

/-- the full statement: no renderer-side error outcome at all (not proved in this file; it is contained in
    `GM.Props.ConvertE2ENP.convert_never_errs`: no error outcome of any kind, every byte string) -/
def NoRendererSidePanic : Prop :=
  ∀ (uc : List (Nat × (Bool × Bool))) (o : ROpts) (src : Bytes),
    (∀ k, convertCore uc o src ≠ .error (.render k)) ∧ (∀ p, convertCore uc o src ≠ .error (.value p))

/-- `convert_no_value_panic_partial`. Given (a) the segments the inline phase records never carry a negative padding
    (`InlineSegsUnpadded`, a statement about `GM.Inl.parseBlock` on `WF0` lines) and (b) in the store the block phase
    returns for `src` the lines of raw blocks, fenced info segments and HTML closure lines are inside the source with
    non-negative padding (`RawSegsInRange`): `convertCore` never ends in `Err.value p`, for every Unicode class
    assignment and option set. The RANGE of the inline segments is not a hypothesis: it follows from the `WF0` check
    `convertCore` makes and the segment theorem of the inline phase. -/
theorem convert_no_value_panic_partial (hI : InlineSegsUnpadded) (uc : List (Nat × (Bool × Bool))) (o : ROpts)
    (src : Bytes) (hB : ∀ st, blockPhase true src = .ok st → RawSegsInRange src st) (p : Panic) :
    convertCore uc o src ≠ .error (.value p) :=
  convertCore_noValue hI uc o src hB p

/-- `inline_children_resolve_partial`: behind the `WF0` check, every segment of the inline children of a block lies
    inside the source, so with (a) the children resolve to bytes (`inlineTrees` answers) -/
theorem inline_children_resolve_partial (hI : InlineSegsUnpadded) (env : GM.Inl.Env) (src : Bytes)
    (n : GM.Blocks.Node) (kids : List GM.Inl.Node) (h : inlinePhase true env src n = .ok kids) :
    ∃ ts, inlineTrees src kids = .ok ts :=
  inlinePhase_values hI h

/-- `block_kind_resolves`: a block node whose renderer-read segments are in range resolves to a renderer kind -/
theorem block_kind_resolves (src : Bytes) (n : GM.Blocks.Node) (h : RawSegsP src n) : ∃ k, blockKind src n = .ok k :=
  blockKind_total h

/-- `inline_segments_unpadded`. For EVERY source, every `WF0` line
    list, reference map and Unicode class assignment: every segment recorded in the tree `parseBlock` answers — Text,
    code-span text, autolink value, raw-HTML segments — has padding 0. Proved by a logical relation through the block
    reader and the whole inline model (GM.Proof.E2EPad*): segment arithmetic never creates padding. -/
theorem inline_segments_unpadded : InlineSegsUnpadded := inlineSegsUnpadded

/-- `inline_children_resolve`: behind `convertCore`'s `WF0` check the inline children of EVERY block resolve to bytes —
    no `Segment.Value` panic of a node renderer comes from an inline node. Unconditional. -/
theorem inline_children_resolve (env : GM.Inl.Env) (src : Bytes) (n : GM.Blocks.Node) (kids : List GM.Inl.Node)
    (h : inlinePhase true env src n = .ok kids) : ∃ ts, inlineTrees src kids = .ok ts :=
  inlinePhase_values_total h

/-- `convert_no_value_panic_of_raw_segments`: `Err.value p` is unreachable given ONLY hypothesis (b) — in the store the
    block phase returns, the lines of raw blocks, fenced info segments and HTML closure lines are in range -/
theorem convert_no_value_panic_of_raw_segments (uc : List (Nat × (Bool × Bool))) (o : ROpts) (src : Bytes)
    (hB : ∀ st, blockPhase true src = .ok st → RawSegsInRange src st) (p : Panic) :
    convertCore uc o src ≠ .error (.value p) :=
  convertCore_noValue_of_raw uc o src hB p

/-- `convert_renderer_side_total_partial`: given (b), `convertCore` can only fail in the parse phases — with a
    `blocks …`, `linesNotWF0` or `inlines …` outcome; the renderer side (`value`, `render`) is total. -/
theorem convert_renderer_side_total_partial (uc : List (Nat × (Bool × Bool))) (o : ROpts) (src : Bytes)
    (hB : ∀ st, blockPhase true src = .ok st → RawSegsInRange src st) (e : Err) (h : convertCore uc o src = .error e) :
    (∃ p, e = .blocks p) ∨ e = .linesNotWF0 ∨ (∃ p, e = .inlines p) := by
  cases e with
  | blocks p => exact .inl ⟨p, rfl⟩
  | linesNotWF0 => exact .inr (.inl rfl)
  | inlines p => exact .inr (.inr ⟨p, rfl⟩)
  | value p => exact absurd h (convertCore_noValue_of_raw uc o src hB p)
  | render k => exact absurd h (convertWith_not_render o true uc src k)

/-- `block_store_info_closure_in_range`. For EVERY source: in the store the
    block phase returns (guarded or not), the info segment of every FencedCodeBlock and the closure line of every
    HTMLBlock (`HasClosure()`) satisfy `0 ≤ start ≤ stop ≤ len(source)`, `padding ≥ 0`. A frame invariant that looks
    at the reader: whenever the source reader hands out a line it is `Value` of the position it hands out, and both
    segments are computed from a position handed out TOGETHER WITH a line. -/
theorem block_store_info_closure_in_range (guard : Bool) (src : Bytes) (st : GM.Blocks.St)
    (h : blockPhase guard src = .ok st) : ∀ n ∈ st.nodes, XP src n :=
  blockPhase_xsegs guard src st h

/-- `convert_no_value_panic_of_raw_lines`: `Err.value p` is unreachable given ONLY that the LINES of the raw blocks
    (CodeBlock / FencedCodeBlock / HTMLBlock) of the store are in range — a consequence of `GM.Blocks.NodesOK src st`,
    the conclusion of the no-panic theorems of the block phase. -/
theorem convert_no_value_panic_of_raw_lines (uc : List (Nat × (Bool × Bool))) (o : ROpts) (src : Bytes)
    (hB : ∀ st, blockPhase true src = .ok st →
      ∀ n ∈ st.nodes, isRawKind n.kind = true → ∀ t ∈ n.lines, segInRange src t) (p : Panic) :
    convertCore uc o src ≠ .error (.value p) :=
  convertCore_noValue_of_lines uc o src hB p

/-- `convert_renderer_side_total_of_lines`: given that, `convertCore` only fails in the parse phases -/
theorem convert_renderer_side_total_of_lines (uc : List (Nat × (Bool × Bool))) (o : ROpts) (src : Bytes)
    (hB : ∀ st, blockPhase true src = .ok st →
      ∀ n ∈ st.nodes, isRawKind n.kind = true → ∀ t ∈ n.lines, segInRange src t)
    (e : Err) (h : convertCore uc o src = .error e) :
    (∃ p, e = .blocks p) ∨ e = .linesNotWF0 ∨ (∃ p, e = .inlines p) := by
  cases e with
  | blocks p => exact .inl ⟨p, rfl⟩
  | linesNotWF0 => exact .inr (.inl rfl)
  | inlines p => exact .inr (.inr ⟨p, rfl⟩)
  | value p => exact absurd h (convertCore_noValue_of_lines uc o src hB p)
  | render k => exact absurd h (convertWith_not_render o true uc src k)

/-- `raw_segments_from_lines_in_range`: hypothesis (b) splits into the range clause of C05(c) for the store (the shape of
    `GM.Props.Blocks.lines_in_range`, there proved for the driver WITHOUT transformers) plus the same for the two other
    segments a node renderer resolves — so a `lines_in_range` theorem for `blockPhase` discharges the first part. -/
theorem raw_segments_from_lines_in_range (src : Bytes) (st : GM.Blocks.St)
    (hl : ∀ n ∈ st.nodes, ∀ t ∈ n.lines, 0 ≤ t.start ∧ t.start ≤ t.stop ∧ t.stop ≤ src.length ∧ 0 ≤ t.padding)
    (hi : ∀ n ∈ st.nodes, n.kind = .fencedCodeBlock → ∀ s, n.info = some s → segInRange src s)
    (hc : ∀ n ∈ st.nodes, n.kind = .htmlBlock → n.closure.start ≥ 0 → segInRange src n.closure) :
    RawSegsInRange src st :=
  fun n hn => ⟨fun _ t ht => hl n hn t ht, hi n hn, hc n hn⟩

/-- hypothesis (b) is satisfiable (test on a literal): the store of the empty document -/
example : RawSegsInRange [] (GM.Blocks.initSt []) := by
  intro n hn
  simp only [GM.Blocks.initSt, List.mem_singleton] at hn
  subst hn
  exact ⟨fun h => (by cases h), fun h => (by cases h), fun h => (by cases h)⟩

/-! ### (3a) safe mode: well-formed, well-nested, inert output — C03 end to end -/

/-- `convert_safe_wellformed`. For EVERY source and Unicode class assignment, XHTML and HardWraps on or off: when
    `convertCore` answers HTML in safe mode (`Unsafe` off), the HTML is accepted by the strict tokenizer, is well nested,
    uses only the renderer's tags and per-tag allowed attribute names, has inert text and attribute values (no raw `<`
    in text, no raw `"` in values, every `&` starts a well-formed character reference, the only comment is the
    placeholder), writes void elements in the style of the output mode (`Spec.safeHtmlOK`, the conclusion of C03
    `safe_wf`) — and its token structure is well-formed XML (`Spec.xmlOK`, the conclusion of `safe_xhtml_xml`; with XHTML
    on all void elements are self-closed as part of `safeHtmlOK true`). -/
theorem convert_safe_wellformed (uc : List (Nat × (Bool × Bool))) (o : ROpts) (src : Bytes) (html : Bytes)
    (h : convertCore uc o src = .ok html) (hsafe : o.unsafe_ = false) :
    Spec.safeHtmlOK o.xhtml html = true ∧ Spec.xmlOK html = true :=
  safe_wellformed uc o src html h hsafe

/-- the same output as a word of the inductive grammar `WFHtml` (C03 `safe_wf_grammar`) -/
theorem convert_safe_grammar (uc : List (Nat × (Bool × Bool))) (o : ROpts) (src : Bytes) (html : Bytes)
    (h : convertCore uc o src = .ok html) (hsafe : o.unsafe_ = false) :
    GM.Proof.RenderWF.WFHtml o.xhtml html := by
  obtain ⟨t, ht, rfl⟩ := convertWith_ok h
  exact GM.Proof.RenderWF.render_wf (ROpts.opts o) {} t hsafe (parser_output_satisfies_inv uc o src t ht)

/-! ### (3b) safe mode: every href / src value is harmless — C04 end to end -/

/-- `convert_safe_urls_harmless`. For EVERY source, Unicode class assignment, XHTML / HardWraps setting: the HTML
    `convertCore` answers in safe mode is the concatenation of the emitted pieces of one piece list `ps`
    (`convert_options_orthogonal`), and EVERY destination-carrying piece `.url d` of `ps` — Link, Image and AutoLink
    nodes are the only sources of such pieces — stands at an attribute site: the output reads
    `… tag ++ value ++ '"' …` with `tag` = `<a href="` or `<img src="`, `value` = `m ++ urlOut false d` (`m` = the
    `mailto:` the renderer puts in front of an e-mail autolink, else empty), `value` contains no `"` (so it IS the
    attribute value a tokenizer reads), and `value` is not dangerous under `Spec.hrefDangerous` (decode character
    references, trim, strip tab/CR/LF, read the scheme): C04's `safe_href` / `safe_autolink` composed over whole documents. -/
theorem convert_safe_urls_harmless (uc : List (Nat × (Bool × Bool))) (o : ROpts) (src : Bytes) (html : Bytes)
    (h : convertCore uc o src = .ok html) (hsafe : o.unsafe_ = false) :
    ∃ ps : List Piece, html = ps.flatMap (emit o.xhtml o.hardWraps false) ∧
      ∀ pre d post, ps = pre ++ Piece.url d :: post →
        ∃ pre' tag m c post', pre = pre' ++ [Piece.lit (tag ++ m)] ∧ post = Piece.lit (34 :: c) :: post' ∧
          (tag = strBytes "<a href=\"" ∨ tag = strBytes "<img src=\"") ∧
          html = pre'.flatMap (emit o.xhtml o.hardWraps false) ++ tag ++ (m ++ urlOut false d) ++
                  34 :: (c ++ post'.flatMap (emit o.xhtml o.hardWraps false)) ∧
          (∀ b ∈ m ++ urlOut false d, b ≠ 34) ∧
          hrefDangerous lookupEntity (m ++ urlOut false d) = false :=
  safe_urls_harmless uc o src html h hsafe

/-- `convert_safe_urls_harmless_tokens` (C04 at TOKEN level). For EVERY source, Unicode class assignment, XHTML /
    HardWraps setting: the HTML `convertCore` answers in safe mode is accepted by the strict tokenizer and `Spec.urlsOK
    lookupEntity` holds of its tokens — every `href` / `src` value of every start tag, read the way a browser reads it
    (`Spec.hrefDangerous`: decode character references, trim, strip tab / CR / LF, read the scheme), is harmless. This is
    the predicate the run-time oracle `tok urls` evaluates, as a theorem about every document. -/
theorem convert_safe_urls_harmless_tokens (uc : List (Nat × (Bool × Bool))) (o : ROpts) (src : Bytes) (html : Bytes)
    (h : convertCore uc o src = .ok html) (hsafe : o.unsafe_ = false) :
    ∃ ts, tokenize html = some ts ∧ urlsOK lookupEntity ts = true :=
  safe_urls_harmless_tokens uc o src html h hsafe

/-- the renderer half of it for EVERY tree with `Spec.Inv`, every option / extension set (footnote `href="#…"` included):
    C04 at token level for the renderer model, not only for parser output -/
theorem render_safe_urls_harmless_tokens (o : Opts) (e : Exts) (t : GM.Node) (hsafe : o.unsafe_ = false)
    (hinv : Spec.Inv (mkRCfg o e) t = true) :
    ∃ ts, tokenize (render (mkRCfg o e) t) = some ts ∧ urlsOK lookupEntity ts = true :=
  render_urlsOK o e t hsafe hinv

/-- the token predicate is not constantly true (test on a literal): the pre-fix spelling is rejected -/
example : ((tokenize (strBytes "<a href=\"javascript:x\">y</a>")).map (urlsOK lookupEntity)) = some false := by
  decide +kernel

/-- the piece-list fact behind it holds for EVERY tree, extension set and alignment method (not only parser output):
    C04 quantifies over all byte strings a node can store -/
theorem url_pieces_at_attribute_sites (e : Exts) (a : Nat) (esc : Bool) (t : GM.Node) : UrlPiecesOK (ir e a esc t) :=
  ir_urlOK e a esc t

/-! ### (3c) the renderer options are orthogonal rewrites of ONE piece list — C10 end to end -/

/-- `convert_tree_independent_of_options`. By construction of `convertCore` the parse phases do not see the renderer
    options: either they answer one tree `t` and the outcome is `render` of THAT tree for every option set (no option
    set makes the renderer panic), or they answer one error and that is the outcome for every option set. -/
theorem convert_tree_independent_of_options (uc : List (Nat × (Bool × Bool))) (src : Bytes) :
    (∃ t, parseDoc true uc src = .ok t ∧ ∀ o : ROpts, convertCore uc o src = .ok (render o.rcfg t)) ∨
    (∃ e, parseDoc true uc src = .error e ∧ ∀ o : ROpts, convertCore uc o src = .error e) :=
  tree_independent_of_options uc src

/-- `convert_options_orthogonal` (C10 `render_factor` / `xhtml_only_voids_render` / `hardwraps_only_softbreaks` /
    `unsafe_only_raw_render` between `convertCore uc o src` and `convertCore uc o' src`). For EVERY source there is ONE
    piece list `ps`, computed without the three options, such that for every option set the HTML `convertCore` answers
    is (a) the concatenation of `emit o.xhtml o.hardWraps o.unsafe_` over `ps`; (b) — XHTML — the concatenation over the
    HardWraps-rewritten list of bytes that do not depend on XHTML, except that each void end is `>` / ` />`; (c) —
    HardWraps — the HardWraps-off emission with `<br` + void end in front of each soft break; (d) — Unsafe — the safe
    emission of every piece that is neither raw HTML nor a destination classified dangerous. Or the parse phases fail
    and every option set gets the same error. -/
theorem convert_options_orthogonal (uc : List (Nat × (Bool × Bool))) (src : Bytes) :
    (∃ ps : List Piece, ∀ o : ROpts, ∃ html, convertCore uc o src = .ok html ∧
        html = ps.flatMap (emit o.xhtml o.hardWraps o.unsafe_) ∧
        html = (ps.flatMap (hardWrap o.hardWraps)).flatMap
          (fun p => if p.isVoidEnd then voidEndBytes o.xhtml else emitBase false o.unsafe_ p) ∧
        html = ps.flatMap (fun p => (if p.isSoftBreak && o.hardWraps then strBytes "<br" ++ voidEndBytes o.xhtml else []) ++
                              emit o.xhtml false o.unsafe_ p) ∧
        html = ps.flatMap (fun p => if p.unsafeSensitive then emit o.xhtml o.hardWraps o.unsafe_ p
                                    else emit o.xhtml o.hardWraps false p)) ∨
    (∃ e, ∀ o : ROpts, convertCore uc o src = .error e) :=
  options_orthogonal uc src

/-- `convert_unsafe_only_changes_raw`: two conversions of the same source that differ only in `Unsafe` are emissions of
    the same piece list that agree on every piece that is neither raw HTML nor a dangerous destination. -/
theorem convert_unsafe_only_changes_raw (uc : List (Nat × (Bool × Bool))) (o : ROpts) (src : Bytes) (html html' : Bytes)
    (h : convertCore uc { o with unsafe_ := false } src = .ok html)
    (h' : convertCore uc { o with unsafe_ := true } src = .ok html') :
    ∃ ps : List Piece, html = ps.flatMap (emit o.xhtml o.hardWraps false) ∧
      html' = ps.flatMap (emit o.xhtml o.hardWraps true) ∧
      ∀ p ∈ ps, p.unsafeSensitive = false → emit o.xhtml o.hardWraps true p = emit o.xhtml o.hardWraps false p :=
  unsafe_only_changes_raw uc o src html html' h h'

/-! ### the driver without transformers, and the link-reference transformer on sources without `[`

(The theorems that need GM.Props.Wf0 — end-to-end totality of the pipeline without paragraph transformers — are in
GM.Props.ConvertE2ENT, so that this file does not depend on it.) -/

/-- `driver_with_no_transformers_is_plain_driver`: `runT [] = run`, for EVERY source — the block driver WITH paragraph
    transformers (GM.Model.Blocks.DriverT, what `convertCore` runs) instantiated with the empty list IS the driver of
    GM.Model.Blocks.Driver (what GM.Props.Blocks / C01 / C05 / C08 / C09 / Wf0 speak about), as final states and as error
    outcomes. Mechanised function by function (`tryParsersT`, the retry loop, the two line loops); the two differ by the dead
    `retryTransformed` branch and the `tdone` flag only. So every `run` theorem is a theorem about `runT []`. -/
theorem driver_with_no_transformers_is_plain_driver (src : Bytes) : GM.Blocks.runT [] src = GM.Blocks.run src :=
  GM.Blocks.runT_nil src

/-- `link_reference_scan_finds_nothing_without_bracket`: on a source without the byte `[` the first loop of
    `linkReferenceParagraphTransformer.Transform` (link_ref.go:20-31), run on ANY list of line segments and any reference
    map, removes nothing and registers nothing — whenever it answers at all. (Every line the block reader hands out
    consists of source bytes, padding spaces and a newline, so `line[pos] != '['`, link_ref.go:73.) -/
theorem link_reference_scan_finds_nothing_without_bracket (src : Bytes) (hb : NoBracket src) (lines : List Segment)
    (refs refs' : GM.LinkRef.RefMap) (rm : List (Int × Int))
    (h : GM.LinkRef.transformScan src lines refs = .ok (rm, refs')) : rm = [] ∧ refs' = refs :=
  transformScan_noBracket hb h

/-- `link_reference_transformer_silent_without_bracket`: from EVERY block-phase state over a source without `[`, on a
    node that HAS at least one line, the paragraph transformer of `blockPhase guard` returns the state UNCHANGED (reader,
    node store, reference map, open blocks) or ends in an error outcome. -/
theorem link_reference_transformer_silent_without_bracket (guard : Bool) (node : Nat) (s : GM.Blocks.St)
    (hb : NoBracket s.r.source) (hl : (s.nodes.getD node default).lines ≠ []) :
    ∀ pt ∈ paragraphTransformers guard, pt node s = .ok ((), s) ∨ ∃ e, pt node s = .error e :=
  paragraphTransformer_silent guard node s hb hl

/-- `link_reference_transformer_not_silent_on_lineless_paragraph` (the NEGATION of "the transformer declines on every
    state over a source without `[`", on a witness; reproduced on /repo by calling `Transform` on an attached
    `ast.NewParagraph()` without lines: the Document's child becomes a TextBlock). On `witnessSt` — empty source, a
    Document whose only child is a Paragraph WITHOUT lines — the guarded transformer succeeds and changes the tree: a
    fresh TextBlock takes the paragraph's place (link_ref.go:41-47), the paragraph is detached. Hence carrying `run`
    theorems over to `blockPhase` on such sources needs the driver invariant "a Paragraph handed to
    `transformParagraph` (parser.go:904-907, 985-997) has a line", not only the byte condition. -/
theorem link_reference_transformer_not_silent_on_lineless_paragraph :
    NoBracket witnessSt.r.source ∧
    ∃ s', GM.LinkRef.guardedTransform 1 witnessSt = .ok ((), s') ∧ s'.nodes.length = 3 ∧
      (s'.nodes.getD 0 default).children = [2] ∧ (s'.nodes.getD 2 default).kind = .textBlock ∧
      (s'.nodes.getD 1 default).parent = none ∧ s' ≠ witnessSt :=
  transform_not_silent_witness

/-- **`block_phase_bracket_free`** — for EVERY source without the byte `[` and both settings of the run-time check: the block phase
    of the default pipeline (driver WITH the link-reference transformer) answers exactly what the block phase WITHOUT paragraph
    transformers answers — the same final state (reader, node store, parse context, reference map) — or it ends in an error.
    (With `GM.Props.ConvertNP.block_phase_total`, which excludes the error, this is the equality
    `blockPhase true src = GM.Blocks.run src`.) Proof (GM.Proof.E2ERel): the two drivers are run side by side; the invariants
    that make the transformer silent at its two call sites are carried along — the source is fixed, every Paragraph has a line
    (`PNE`), the open-block stack is consistent (`J2`, so `RequireParagraph` closes the paragraph with `paragraphParser.Close`,
    which keeps a paragraph that has a line attached: `transformed` is false on both sides). -/
theorem block_phase_bracket_free (guard : Bool) (src : Bytes) (hb : NoBracket src) :
    blockPhase guard src = GM.Blocks.run src ∨ ∃ e, blockPhase guard src = .error e :=
  blockPhase_noBracket guard src hb

/-- **`open_block_stack_consistent_and_paragraphs_have_lines`** — for EVERY source: in the store the block phase WITHOUT
    transformers returns, every block of the open-block stack has a node of the kind its parser builds (`J2`) and every
    Paragraph node has at least one line (`PNE`). (Invariants that are not blind to the parse context / the lines: the
    driver rule with side facts, GM.Proof.E2EDriver.) -/
theorem open_block_stack_consistent_and_paragraphs_have_lines (src : Bytes) (st : GM.Blocks.St)
    (h : GM.Blocks.runT [] src = .ok st) :
    (∀ i, (st.nodes.getD i default).kind = .paragraph → (st.nodes.getD i default).lines ≠ []) ∧
    (∀ b ∈ st.pc.opened, b.node < st.nodes.length ∧ (st.nodes.getD b.node default).kind = GM.ConvertH.BP.kindOf b.bp) :=
  GM.E2E.PJ.runT_pj (fun _ _ _ hq => by cases hq) src st h

/-- `NoBracket` is decidable and not constantly true (tests on literals) -/
example : NoBracket (strBytes "# a\n> b\n") := by decide +kernel
example : ¬ NoBracket (strBytes "[a]: /u\n") := by decide +kernel

/-! ### non-vacuity (tests on literals, evaluated by the kernel) -/

/-- `# a⏎` converts (all options off) to `<h1>a</h1>⏎`: the hypotheses `convertCore … = .ok html`, `o.unsafe_ = false`
    are satisfiable -/
example : (convertCore [] {} (strBytes "# a\n")).toOption = some (strBytes "<h1>a</h1>\n") := by decide +kernel

/-- a document with raw HTML, a dangerous destination, a soft break and a void element, in safe XHTML mode -/
example : (convertCore [] { xhtml := true } (strBytes "a\n<b>[x](javascript:y)\n\n---\n")).toOption =
    some (strBytes "<p>a\n<!-- raw HTML omitted --><a href=\"\">x</a></p>\n<hr />\n") := by decide +kernel

/-- the same document with all three options on -/
example : (convertCore [] { xhtml := true, hardWraps := true, unsafe_ := true }
      (strBytes "a\n<b>[x](javascript:y)\n\n---\n")).toOption =
    some (strBytes "<p>a<br />\n<b><a href=\"javascript:y\">x</a></p>\n<hr />\n") := by decide +kernel

/-- a seven-`#` line is a paragraph, not a level-7 heading (the clause of `Inv` the ATX parser establishes) -/
example : (convertCore [] {} (strBytes "####### a\n")).toOption = some (strBytes "<p>####### a</p>\n") := by
  decide +kernel

/-- the URL theorem is not vacuous: the piece list of `[x](javascript:y)` has a URL piece, dangerous when written raw -/
example : (convertCore [] {} (strBytes "[x](javascript:y) <http://a> ![i](/s)\n")).toOption =
    some (strBytes "<p><a href=\"\">x</a> <a href=\"http://a\">http://a</a> <img src=\"/s\" alt=\"i\"></p>\n") := by
  decide +kernel

/-- `PTsKeep` is satisfiable: the default transformer list, and the empty list -/
example : PTsKeep HeadOK (paragraphTransformers true) := paragraphTransformers_keep true
example : PTsKeep HeadOK [] := fun _ h => by cases h

end GM.Props.ConvertE2E
