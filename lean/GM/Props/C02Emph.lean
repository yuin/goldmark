/-
  Property C02 — theorems about the SPEC-SIDE emphasis reference GM.Spec.CMEmph (CommonMark 0.31.2
  section 6.2 and the delimiter-stack algorithm of the appendix; written from the specification text).  That goldmark
  renders a source as this reference prescribes IS the property and is decided by the correspondence run
  (component `cmemph`); what is proved here, for ALL token sequences / sources, are laws of the reference itself:
  it is a parse of the source (nothing lost, nothing invented), and it only ever pairs runs that rules 1-10 allow.
  The algorithm terminates by construction (structural recursion only; no fuel).
-/
import GM.Proof.CMEmph

namespace GM.Props.C02Emph
open GM GM.Spec.CMEmph

/-- `emph_preserves_text`: writing the tree back — every `<em>` node as one, every `<strong>` node as two of its
    delimiter characters around its children, text and line breaks as they are — gives exactly the characters of
    the token sequence (= the source with escape backslashes removed).  So the text content of the prescribed HTML
    (`textOfL`: the same traversal without the delimiter characters of the nodes) is the source with exactly the
    consumed delimiter characters and the escape backslashes removed, in order; no character is lost, duplicated
    or invented, and a delimiter character is dropped only as part of a matched pair. -/
theorem emph_preserves_text (toks : List Tok) : respellL (parse toks) = tokChars toks :=
  Proof.CMEmph.parse_respell toks

/-- the same for a source: the tree the reference builds for the inline content `inl` spells back `inl`'s characters -/
theorem emph_preserves_text_source (u : UCls) (inl : Bytes) :
    respellL (parse (tokens u inl)) = tokChars (tokens u inl) := Proof.CMEmph.parse_respell _

/-- `emph_sound_rules_1_8` (and 9/10): every `<em>` / `<strong>` node of the tree — at any depth — was made from
    two DIFFERENT delimiter runs of the token sequence, the opening one before the closing one, of the node's
    delimiter character, where the first can open and the second can close emphasis (rules 1-8, computed by `mkRun`
    from left- and right-flanking) and the pair satisfies the multiple-of-3 condition of rules 9/10 (`matchesRun`). -/
theorem emph_sound_rules_1_8 (toks : List Tok) : allEmphL (soundAt toks) (parse toks) = true :=
  Proof.CMEmph.parse_sound toks

/-- rules 1 and 5 (`*` opens iff left-flanking) and 3 and 7 (`*` closes iff right-flanking) -/
theorem star_rules (n : Nat) (before after : CC) :
    (mkRun 42 n before after).canOpen = leftFlanking before after
    ∧ (mkRun 42 n before after).canClose = rightFlanking before after := by
  simp [mkRun]

/-- rules 2 and 6 / 4 and 8 for `_`: left-flanking and (not right-flanking or preceded by punctuation) / the mirror image -/
theorem underscore_rules (n : Nat) (before after : CC) :
    (mkRun 95 n before after).canOpen
        = (leftFlanking before after && (!rightFlanking before after || before == .punct))
    ∧ (mkRun 95 n before after).canClose
        = (rightFlanking before after && (!leftFlanking before after || after == .punct)) := by
  simp [mkRun]

/-- `_` between two alphanumerics (intraword) can neither open nor close; `*` there can do both -/
theorem intraword (n : Nat) :
    (mkRun 95 n .other .other).canOpen = false ∧ (mkRun 95 n .other .other).canClose = false
    ∧ (mkRun 42 n .other .other).canOpen = true ∧ (mkRun 42 n .other .other).canClose = true := by
  simp [mkRun, leftFlanking, rightFlanking]
  decide

/-- the prescribed HTML is tag-balanced: it is the concatenation of an event sequence (`<em>` `<strong>` `</em>`
    `</strong>`, escaped text / line endings / `<br />`) in which every closing tag closes the innermost open element and
    nothing stays open — for the tree of EVERY token sequence -/
theorem emph_html_balanced (toks : List Tok) :
    renderL (parse toks) = (eventsL (parse toks)).flatMap Ev.bytes ∧ balGo [] (eventsL (parse toks)) = true :=
  ⟨Proof.CMEmph.renderL_events _, Proof.CMEmph.eventsL_balanced _⟩

/-- the text content of the prescribed HTML (tags stripped; still entity-escaped) is the escaped text content of the
    tree, i.e. by `emph_preserves_text` the escaped source without escape backslashes and consumed delimiters -/
theorem emph_html_text (u : UCls) (inl : Bytes) :
    stripTags false (emphInline u inl) = esc (textOfL (parse (tokens u inl))) := by
  have := Proof.CMEmph.strip_renderL (parse (tokens u inl)) []
  simpa [emphInline, stripTags] using this

/-- the `openers_bottom` table of the spec's appendix is a pure optimisation of this reference (which leaves it out):
    the closing loop WITH a table that remembers, per key, how many bottom-most stack entries a failed search has
    ruled out (`Proof.CMEmphMemo.parseM`; a count, clamped when the stack shrinks, instead of the appendix's pointer)
    computes the same tree for EVERY token sequence when the key is the appendix's — delimiter character, whether the
    closer can also open, closer length mod 3.  More generally (`Proof.CMEmphMemo.parseM_eq`) for every key that
    determines which openers a closer may take. -/
theorem openers_bottom_is_optimisation (toks : List Tok) :
    Proof.CMEmphMemo.parseM Proof.CMEmphMemo.specKey toks = parse toks := Proof.CMEmphMemo.parseM_specKey toks

/-- REFUTING WITNESS for the weaker key (character, can-open) of the seeded change C02-7 / cmark issue 383, on
    `*a**b**c*y`: the table then hides the opening `*` from the final `*` (left: with that table; right: prescribed) -/
theorem openers_bottom_without_length_differs :
    renderL (Proof.CMEmphMemo.parseM Proof.CMEmphMemo.seededKey Proof.CMEmphMemo.witness383)
        = [42, 97] ++ tagStO ++ [98] ++ tagStC ++ [99, 42, 121]
    ∧ renderL (parse Proof.CMEmphMemo.witness383)
        = tagEmO ++ [97] ++ tagStO ++ [98] ++ tagStC ++ [99] ++ tagEmC ++ [121] :=
  Proof.CMEmphMemo.seededKey_differs

/-- the closing loop never uses more characters than the closer has, and what it leaves is what was not paired:
    spelled-back stack + unused closer characters = stack before + all closer characters (the step lemma behind
    `emph_preserves_text`, stated for every stack whose entries are non-empty) -/
theorem closeLoop_accounts (c : Run) (ci cur : Nat) (st : Stack) (h : Proof.CMEmph.entsPos st.ents) :
    respellL (closeLoop c ci cur st).1.flatten ++ List.replicate (closeLoop c ci cur st).2 c.ch
      = respellL st.flatten ++ List.replicate cur c.ch :=
  (Proof.CMEmph.closeLoop_respell c ci cur st h).1

/-! ### tests (`decide` on literals — examples of spec.json, NOT part of the claim) -/

/-- test: the applicability predicate accepts / rejects -/
example : emphOnly ucls0 [42, 97, 42] = true := by decide
example : emphOnly ucls0 [60, 97, 62] = false := by decide          -- raw HTML / autolinks are outside the alphabet
/-- test: code spans bind more tightly than emphasis (example 342 `*foo`*``) -/
example : emphInline ucls0 [42, 102, 96, 42, 96] = [42, 102] ++ tagCoO ++ [42] ++ tagCoC := by decide
/-- test: spec example 350 `*foo bar*` -/
example : emphDoc ucls0 [42, 102, 111, 111, 32, 98, 97, 114, 42, 10]
    = some [60, 112, 62, 60, 101, 109, 62, 102, 111, 111, 32, 98, 97, 114, 60, 47, 101, 109, 62, 60, 47, 112, 62, 10] := by decide
/-- test: spec example 351 `a * foo bar*` (not left-flanking) -/
example : emphInline ucls0 [97, 32, 42, 32, 102, 42] = [97, 32, 42, 32, 102, 42] := by decide
/-- test: `foo_bar_` intraword underscore (example 359) -/
example : emphInline ucls0 [102, 95, 98, 95] = [102, 95, 98, 95] := by decide
/-- test: the multiple-of-3 rule, `*a**b**c*y` (cmark issue 383) gives `<em>a<strong>b</strong>c</em>y` -/
example : emphInline ucls0 [42, 97, 42, 42, 98, 42, 42, 99, 42, 121]
    = tagEmO ++ [97] ++ tagStO ++ [98] ++ tagStC ++ [99] ++ tagEmC ++ [121] := by decide
/-- test: `*foo**bar*` (example 413 family): the `**` cannot close `*` (1 + 2 = 3) and stays text -/
example : emphInline ucls0 [42, 102, 42, 42, 98, 42] = tagEmO ++ [102, 42, 42, 98] ++ tagEmC := by decide
/-- test: an escaped delimiter is text: `\*a*` -/
example : emphInline ucls0 [92, 42, 97, 42] = [42, 97, 42] := by decide
/-- test: a thematic break / a list item are outside the scope (`none`) -/
example : emphDoc ucls0 [42, 42, 42] = none := by decide
example : emphDoc ucls0 [42, 32, 97] = none := by decide

end GM.Props.C02Emph
