/-
  GM.Props.ConvertE2ENP — END TO END for the DEFAULT pipeline `convertCore`: the compositions of the interface theorems of
  GM.Props.ConvertE2ENT / GM.Props.ConvertE2E with the statements of GM.Props.ConvertNP about the block phase with the link-reference
  transformer.
-/
import GM.Props.ConvertE2E
import GM.Props.ConvertE2ENT
import GM.Props.ConvertNP
import GM.Props.C05E2E

namespace GM.Props.ConvertE2ENP
open GM GM.Text GM.Convert GM.Spec GM.E2E

/-- **C01 END TO END**: `convertCore` answers HTML for every byte string, every Unicode-class assignment and every option
    set — no error outcome of any phase of the composed model -/
theorem convert_total (uc : List (Nat × (Bool × Bool))) (o : ROpts) (src : Bytes) : ∃ html, convertCore uc o src = .ok html :=
  GM.Props.ConvertE2ENT.convert_total_of_block_phase_theorems GM.Props.ConvertNP.block_phase_total
    GM.Props.ConvertNP.block_phase_lines_wellformed GM.Props.ConvertNP.block_phase_lines_padding_zero uc o src

/-- no outcome other than HTML -/
theorem convert_never_errs (uc : List (Nat × (Bool × Bool))) (o : ROpts) (src : Bytes) (e : Err) :
    convertCore uc o src ≠ .error e := by
  obtain ⟨html, h⟩ := convert_total uc o src
  rw [h]; intro h'; cases h'

/-- **on a source without `[` the block phase of the default pipeline IS the block phase without paragraph transformers** -/
theorem block_phase_bracket_free_eq (src : Bytes) (hb : NoBracket src) : blockPhase true src = GM.Blocks.run src := by
  rcases GM.Props.ConvertE2E.block_phase_bracket_free true src hb with h | ⟨e, h⟩
  · exact h
  · obtain ⟨s, hs, _⟩ := GM.Props.ConvertNP.block_phase_total src
    rw [hs] at h; cases h

/-- … and `convertCore` answers the HTML of the pipeline without transformers -/
theorem convert_bracket_free_eq (uc : List (Nat × (Bool × Bool))) (o : ROpts) (src : Bytes) (hb : NoBracket src) :
    convertCore uc o src = convertNT uc o src := by
  rcases GM.Props.ConvertE2ENT.convert_bracket_free uc o src hb with h | ⟨p, h⟩
  · exact h
  · exact absurd h (convert_never_errs uc o src _)

/-- **C05 END TO END for the default pipeline**, given ONE fact about the driver with the transformer: the order
    of the lines of CodeBlock / FencedCodeBlock / HTMLBlock (GM.Props.Wf0 has it for `run`; unconditional on sources without `[`:
    `GM.Props.ConvertE2ENT.parser_output_wellformed_bracket_free`; discharged in `parser_output_wellformed`) -/
theorem parser_output_wellformed_partial_raw (uc : List (Nat × (Bool × Bool))) (src : Bytes) (a : ATree)
    (h : parseAst true uc src = .ok a)
    (hRaw : ∀ st, blockPhase true src = .ok st → ∀ n ∈ st.nodes, GM.Proof.BlocksWF0.isRaw n.kind = true → GM.Blocks.OrdFrom 0 n.lines) :
    wfAst src.length (dumpAst a) = none :=
  GM.Props.ConvertE2ENT.parser_output_wellformed_of_block_phase_facts uc src a h
    (fun st hst => by
      obtain ⟨s, hs, hN, hK⟩ := GM.Props.ConvertNP.block_phase_total src
      rw [hst] at hs; cases hs; exact ⟨hN, hK⟩)
    (fun st hst n hn => by
      cases hr : GM.Proof.BlocksWF0.isRaw n.kind with
      | true => exact hRaw st hst n hn hr
      | false => exact ((GM.Props.ConvertNP.block_phase_lines_wellformed src st hst).1 n hn hr).1)
    (fun st hst n hn hk => by
      obtain ⟨i, hi, rfl⟩ := GM.Blocks.mem_nodes_nd hn
      exact GM.Props.ConvertNP.block_phase_container_nodes_have_no_lines src st hst i (by
        rcases hk with hk | hk <;> rw [hk] <;> rfl))

/-- **C05 END TO END for the default pipeline, every source, no hypothesis**: whenever the parse phases answer a tree (they always
    do: `parse_ast_total`), its position dump passes `Spec.wfAst` with `len(source)` -/
theorem parser_output_wellformed (uc : List (Nat × (Bool × Bool))) (src : Bytes) (a : ATree)
    (h : parseAst true uc src = .ok a) : wfAst src.length (dumpAst a) = none :=
  parser_output_wellformed_partial_raw uc src a h
    (fun st hst => GM.Props.ConvertNP.block_phase_raw_lines_ordered src st hst)

/-- the parse phases of the default pipeline always answer a tree with its segments -/
theorem parse_ast_total (uc : List (Nat × (Bool × Bool))) (src : Bytes) : ∃ a, parseAst true uc src = .ok a := by
  obtain ⟨html, h⟩ := convert_total uc {} src
  obtain ⟨t, ht, _⟩ := GM.E2E.convertWith_ok (o := {}) (guard := true) h
  exact GM.Props.C05E2E.parse_ast_exists true uc src t ht

/-- … so: for every source there is a tree and its dump is well formed -/
theorem parser_output_wellformed_total (uc : List (Nat × (Bool × Bool))) (src : Bytes) :
    ∃ a, parseAst true uc src = .ok a ∧ wfAst src.length (dumpAst a) = none := by
  obtain ⟨a, ha⟩ := parse_ast_total uc src
  exact ⟨a, ha, parser_output_wellformed uc src a ha⟩

end GM.Props.ConvertE2ENP
