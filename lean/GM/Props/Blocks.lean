/-
  GM.Props.Blocks — theorems about the block phase of goldmark (`parser.parseBlocks` with the ten default
  block parsers), over the executable model GM.Model.Blocks that is tied to the real parser by the
  `blocks` correspondence. A shared lemma file: property files for C01 / C05 / C08 / C09 cite these.
  Not a property of its own (no entry in properties_cfg.py).
-/
import GM.Proof.BlocksNoPanicAll
import GM.Proof.BlocksWF0

namespace GM.Props.Blocks
open GM GM.Text GM.Blocks GM.Spec

/-- **C01, block phase — termination for every byte string.** `GM.Blocks.run src` is the block phase of
    `parser.Parse` on `src` (fresh reader, fresh context, Document node). Its three unbounded Go loops are
    fuelled: the outer `for` of parseBlocks and the `for` over lines with `lineCount src + 2` (number of
    `\n` + 3) iterations, `reader.SkipBlankLines` with the Reader model's `4·len + 64`, the `goto retry` of
    openBlocks with `2·len + 8`. For EVERY source none of them runs out: each line-loop iteration ends in
    `AdvanceLine` after a line that was there (the measure `mu` = lines still to come decreases, and no
    block parser ever moves `pos.Stop` backwards); each `goto retry` follows a container parser that made
    progress (checked by the model's contract monitor, which answers `pre` — never `loop` — otherwise). -/
theorem parseBlocks_fuel_suffices (src : Bytes) : GM.Blocks.run src ≠ .error .loop :=
  run_noLoop src

/-- The outcome of the block phase is a block tree, a Go run-time panic (index / slice / nil / assert /
    explicit) or the contract monitor's `pre` — nothing else, for every source. (That it is always a tree is
    what the `blocks` correspondence checks input by input: the real parser neither panics nor breaks the
    contract on any evaluated source.) -/
theorem parseBlocks_outcome (src : Bytes) :
    (∃ s, GM.Blocks.run src = .ok s) ∨ (∃ e, GM.Blocks.run src = .error e ∧ e ≠ .loop) := by
  cases h : GM.Blocks.run src with
  | ok s => exact .inl ⟨s, rfl⟩
  | error e => exact .inr ⟨e, rfl, fun he => run_noLoop src (he ▸ h)⟩

/-- The fuel of the line loops is the number of lines plus a constant: at most `lineCount src + 2`
    iterations of either loop. -/
theorem linesFuel_eq (src : Bytes) : linesFuel src = (src.filter (· == 10)).length + 3 := by
  unfold linesFuel lineCount; rfl

/-- **No block parser moves the reader backwards over a line end** (C08 mechanism "leaf parsers must not
    advance beyond the current line" is the converse direction; this is the half termination needs): from a
    state whose reader reads `src` with `0 ≤ pos.Stop ≤ len`, `Open` of any of the ten parsers ends — if it
    does not panic — in such a state with `pos.Stop` at least what it was, and it never exhausts fuel. -/
theorem open_keeps_stop (src : Bytes) (bp : BP) (parent : Nat) (s : St)
    (hsrc : s.r.source = src) (h0 : 0 ≤ s.r.pos.stop) (hlen : s.r.pos.stop ≤ src.length) :
    match bpOpen bp parent s with
    | .ok (_, s') => s'.r.source = src ∧ s.r.pos.stop ≤ s'.r.pos.stop ∧ s'.r.pos.stop ≤ src.length
    | .error e => e ≠ .loop := by
  have := (bpOpen_pres (stop_prims src s.r.pos.stop) bp parent).h s ⟨hsrc, h0, hlen, Int.le_refl _⟩
  revert this
  cases bpOpen bp parent s with
  | error e => exact id
  | ok x => intro h; exact ⟨h.source, h.lb, h.stop_le⟩

/-- the same for `Continue` -/
theorem continue_keeps_stop (src : Bytes) (bp : BP) (node : Nat) (s : St)
    (hsrc : s.r.source = src) (h0 : 0 ≤ s.r.pos.stop) (hlen : s.r.pos.stop ≤ src.length) :
    match bpContinue bp node s with
    | .ok (_, s') => s'.r.source = src ∧ s.r.pos.stop ≤ s'.r.pos.stop ∧ s'.r.pos.stop ≤ src.length
    | .error e => e ≠ .loop := by
  have := (bpContinue_pres (stop_prims src s.r.pos.stop) bp node).h s ⟨hsrc, h0, hlen, Int.le_refl _⟩
  revert this
  cases bpContinue bp node s with
  | error e => exact id
  | ok x => intro h; exact ⟨h.source, h.lb, h.stop_le⟩

/-- the same for `Close` -/
theorem close_keeps_stop (src : Bytes) (bp : BP) (node : Nat) (s : St)
    (hsrc : s.r.source = src) (h0 : 0 ≤ s.r.pos.stop) (hlen : s.r.pos.stop ≤ src.length) :
    match bpClose bp node s with
    | .ok (_, s') => s'.r.source = src ∧ s.r.pos.stop ≤ s'.r.pos.stop ∧ s'.r.pos.stop ≤ src.length
    | .error e => e ≠ .loop := by
  have := (bpClose_pres (stop_prims src s.r.pos.stop) bp node).h s ⟨hsrc, h0, hlen, Int.le_refl _⟩
  revert this
  cases bpClose bp node s with
  | error e => exact id
  | ok x => intro h; exact ⟨h.source, h.lb, h.stop_le⟩

/-- **Only the three container parsers can make `openBlocks` retry**: a parser whose `Open` answers
    `HasChildren` is the block quote, list or list item parser (the seven leaf parsers always answer
    `NoChildren`, whatever the state). -/
theorem only_containers_have_children (bp : BP) (parent : Nat) (s s' : St) (a : Option Nat × PState)
    (h : bpOpen bp parent s = .ok (a, s')) (hc : a.2.hasChildren = true) : bp.isContainer = true :=
  hasChildren_only_containers bp parent s s' a h hc

/-! ### no Go panic, parser by parser, from the reader invariant `RI`
   (`RI src r c`: the reader `r` stands for C18's cursor `c` over `src`, GM.Proof.BlocksTotal; it holds for
   `Reader.new src` — `ri_init` — and every reader call below ends in it) -/

/-- the reader the block phase starts with satisfies the reader invariant -/
theorem reader_invariant_init (src : Bytes) : RI src (initSt src).r RCur.init := ri_init src

/-- **`blockquote.process` (blockquote.go:20-40): no panic and PROGRESS.** From any state whose reader
    satisfies `RI`, it returns normally (`run_noLoop` excludes the other disjunct for whole runs); the result
    state differs only in the reader, which satisfies `RI` again; when the answer is `true` (a block quote is
    opened or continued) the cursor has passed at least one byte of the source — the marker `>` — and when it
    is `false` the cursor has not moved. This is the block quote's share of the BlockParser contract the
    model's retry monitor checks, and of C08's "a container consumes exactly its marker". -/
theorem blockquote_process_total_progress (src : Bytes) (s : St) (c : RCur) (h : RI src s.r c) :
    (∃ b s', blockquoteProcess s = .ok (b, s') ∧ ∃ r' c', s' = { s with r := r' } ∧ RI src r' c' ∧
        c.p ≤ c'.p ∧ (b = true → c.p < c'.p) ∧ (b = false → c' = c))
    ∨ blockquoteProcess s = .error .loop :=
  blockquoteProcess_okl h

/-- **paragraphParser.Open: no panic; what it builds is in range** (C01 + C05(c) for this entry point). The
    context is untouched; either nothing is built and the cursor has not moved, or the next node of the store
    is a parentless Paragraph with exactly one line, inside the source. -/
theorem paragraph_open_total (src : Bytes) (s : St) (c : RCur) (h : RI src s.r c) (parent : Nat) :
    OKL (fun a s' => ∃ r' c', s'.r = r' ∧ RI src r' c' ∧ c.p ≤ c'.p ∧ s'.pc = s.pc ∧ a.2 = stNoChildren ∧
        ((a.1 = none ∧ s'.nodes = s.nodes ∧ c' = c) ∨
         (a.1 = some s.nodes.length ∧ ∃ nd seg, s'.nodes = s.nodes ++ [nd] ∧ nd.kind = .paragraph ∧
            nd.lines = [seg] ∧ SegOK src seg ∧ nd.parent = none)))
      (paragraphOpen parent s) :=
  paragraphOpen_okl h parent

/-- **paragraphParser.Continue: no panic; the appended line is the (non-empty) rest of the current line.** -/
theorem paragraph_continue_total (src : Bytes) (s : St) (c : RCur) (h : RI src s.r c) (node : Nat) :
    OKL (fun st s' => ∃ r' c', s'.r = r' ∧ RI src r' c' ∧ c.p ≤ c'.p ∧ s'.pc = s.pc ∧
        ((st = stClose ∧ s'.nodes = s.nodes ∧ c' = c) ∨
         (st = stContinueNoChildren ∧ c.p < src.length ∧ SegOK src (RCur.seg src c) ∧
            s'.nodes = s.nodes.set node
              { (s.nodes.getD node default) with
                  lines := (s.nodes.getD node default).lines ++ [RCur.seg src c], linesNil := false })))
      (paragraphContinue node s) :=
  paragraphContinue_okl h node

/-- **paragraphParser.Close keeps the lines in range** (C05(c) under trimming): on a paragraph that has a
    line and whose lines lie inside the source it does not panic, touches neither reader nor context, and
    leaves the node with as many lines, all inside the source. -/
theorem paragraph_close_total (src : Bytes) (s : St) (node : Nat) (hsrc : s.r.source = src)
    (hl : LinesOK src (s.nodes.getD node default).lines) (hne : (s.nodes.getD node default).lines ≠ []) :
    OKL (fun _ s' => s'.r = s.r ∧ s'.pc = s.pc ∧ ∃ ls, LinesOK src ls ∧
        ls.length = (s.nodes.getD node default).lines.length ∧
        s'.nodes = s.nodes.set node { (s.nodes.getD node default) with lines := ls })
      (paragraphClose node s) :=
  paragraphClose_okl node hsrc hl hne

/-- **thematicBreakParser.Open: no panic.** -/
theorem thematic_open_total (src : Bytes) (s : St) (c : RCur) (h : RI src s.r c) (parent : Nat) :
    OKL (fun a s' => ∃ r' c', s'.r = r' ∧ RI src r' c' ∧ c.p ≤ c'.p ∧ s'.pc = s.pc ∧ a.2 = stNoChildren ∧
        ((a.1 = none ∧ s'.nodes = s.nodes ∧ c' = c) ∨
         (a.1 = some s.nodes.length ∧ s'.nodes = s.nodes ++ [{ kind := .thematicBreak }])))
      (thematicOpen parent s) :=
  thematicOpen_okl h parent

/-- **atxHeadingParser.Open: no panic, for any `BlockOffset` in the context** — in particular the backward loop
    `for ; line[i] == '#' && i >= start; i-- {}` (atx_heading.go:153), which reads `line[i]` before testing
    `i >= start`, never reaches index −1 (`start ≥ 1`), and every slice it takes is inside the line. It moves
    neither the cursor nor the context. -/
theorem atx_open_total (src : Bytes) (s : St) (c : RCur) (h : RI src s.r c) (parent : Nat) :
    OKL (fun a s' => ∃ r', s'.r = r' ∧ RI src r' c ∧ s'.pc = s.pc ∧ a.2 = stNoChildren) (atxOpen parent s) :=
  atxOpen_okl h parent

/-! ### no panic for whole runs, for EVERY byte string -/

/-- **C01, block phase — no Go panic, for every byte string.** `GM.Blocks.run src` (the block phase of `parser.Parse`:
    `parseBlocks / openBlocks / closeBlocks` with the ten default block parsers) always ends normally with a block
    tree: no index / slice / nil / type-assertion / explicit panic is reachable, none of the fuelled loops runs out,
    and the contract monitor of the `goto retry` loop never fires. Every candidate site listed in
    notes/status_blocks.md is covered: `node.LastChild().ChildCount()` (list.go:169,191) and `lastChild.(*ast.ListItem)`
    — a List on `openedBlocks` always has a last child that is a ListItem; `lastOffset(node.Parent())` (list_item.go:62)
    — a ListItem on `openedBlocks` sits directly below its parent List; `reader.AdvanceAndSetPadding(-1,-1)`
    (list_item.go:75-76) — listParser.Continue has closed the list in exactly the cases where IndentPosition is −1;
    the context-key assertions (setext_headings.go:86, fcode_block.go:73,110) — a setext heading / fenced code block
    on `openedBlocks` has its key set; `closeBlocks(-1,-1)` (parser.go:1002) and `lastBlock.Parser.Close` on the zero
    Block (parser.go:977) — RequireParagraph is only answered with a paragraph on top of the stack, which keeps its
    lines and parent; `line[len(line)-1]` (fcode_block.go:84) — a closing fence has ≥ 3 bytes; `Segments.Unshift` /
    `SetSliced` on nil and every `line[i]`, `line[a:b]` of the ten parsers. Proof: the state invariant
    `GM.Blocks.L.G.X.StableG` (reader `RI`; node store `NodesOK`, `KidsOK`, `TreeOK`; stack `BlockOK`, `Leafy`, `ChainedO`)
    through `GM.Blocks.L.G.X.runG`, the walk over the driver with the parsers' Close and the paragraph transformers as
    parameters (`runC cls pts`), at `cls = bpClose`, `pts = []` (`GM.Blocks.run_total`); per-parser contracts in
    GM.Proof.BlocksSpec*. -/
theorem no_panic (src : Bytes) : ∃ s, GM.Blocks.run src = .ok s := by
  obtain ⟨s, h, _⟩ := run_ok_all src
  exact ⟨s, h⟩

/-- no outcome other than a tree: in particular no Go run-time panic of any kind -/
theorem run_never_errs (src : Bytes) (e : Panic) : GM.Blocks.run src ≠ .error e := by
  obtain ⟨s, h, _⟩ := run_ok_all src
  rw [h]; intro h'; cases h'

/-- **The BlockParser contract (parser.go:496-505) is kept at every `goto retry`** — the model's contract monitor
    never fires: a block quote and a list item consume at least their marker byte (`blockquote_process_total_progress`,
    `list_item_open_total_progress`), and a list, which consumes nothing, is never opened directly inside a list
    (so `retryMeasure` decreases there, too). For every byte string. -/
theorem monitor_never_fires (src : Bytes) : GM.Blocks.run src ≠ .error .pre := run_never_errs src .pre

/-- **C05(c), block phase, range clause** (`lines_in_range`): every line segment of every node the block phase builds
    — reachable from the Document or not — satisfies `0 ≤ start ≤ stop ≤ len(source)` and `padding ≥ 0`; moreover a
    node whose `lines.values` is nil has no lines. For every byte string. -/
theorem lines_in_range (src : Bytes) (s : St) (h : GM.Blocks.run src = .ok s) :
    ∀ n ∈ s.nodes, (∀ t ∈ n.lines, 0 ≤ t.start ∧ t.start ≤ t.stop ∧ t.stop ≤ src.length ∧ 0 ≤ t.padding) ∧
      (n.linesNil = true → n.lines = []) := by
  obtain ⟨s', h', hn⟩ := run_ok_all src
  rw [h] at h'; cases h'
  intro n hm
  exact ⟨fun t ht => (hn n hm).lines t ht, (hn n hm).nil⟩

/-- **Every `Open` of the ten default block parsers is total** from the invariant (`LineCtx`: reader invariant `RI`, a
    current line, `BlockOffset` an index of it, `NodesOK`; `KidsOK`: children of Lists are ListItems), with the contract
    `OpenPostW`: where the cursor is afterwards, that the stack is untouched, what the new node looks like, which
    context key is set, that only containers answer HasChildren and then consume a byte (a list excepted). -/
theorem open_total (src : Bytes) (bp : BP) (parent : Nat) (s : St) (c : RCur) (hc : LineCtx src s c) (hk : KidsOK s) :
    OKL (fun a s' => L.OpenPostW src bp parent s c a s') (bpOpen bp parent s) :=
  L.openAllW (lsp_all src) bp parent s c hc hk

/-- **Every `Close` of the ten default block parsers is total** on a block that satisfies `BlockOK`, and keeps the
    store invariants (`ClosePost`). -/
theorem close_total (src : Bytes) (bp : BP) : CloseSpec src bp := L.closeAll src bp

/-- **`Continue` of the eight list-free parsers is total** (`ContSpec`); for the two list parsers see
    `GM.Blocks.listContinue_okl` / `list_item_continue_total`, which need the list hypotheses the driver proof supplies. -/
theorem continue_total (src : Bytes) (bp : BP) (h : bp ≠ .list ∧ bp ≠ .listItem) : ContSpec src bp :=
  (specs_notList src).cont bp h

/-- **listItemParser.Open: no panic and PROGRESS** (the list item's half of "the contract monitor never fires"): when
    it answers HasChildren the cursor has passed at least the marker byte. -/
theorem list_item_open_total_progress (src : Bytes) (parent : Nat) (s : St) (c : RCur) (h : LineCtx src s c)
    (hk : li_ListKidsOK s parent) :
    OKL (fun a s' => ∃ c', RI src s'.r c' ∧ PadOK c' ∧ c.p ≤ c'.p ∧ (a.1 = none → c' = c) ∧
        (a.2.hasChildren = true → c.p < c'.p) ∧
        s'.pc.opened = s.pc.opened ∧ s'.pc.blockOffset = s.pc.blockOffset ∧ s'.pc.tmpPara = s.pc.tmpPara ∧
        s'.pc.fence = s.pc.fence ∧
        (a.1 = none → s'.nodes = s.nodes) ∧
        (∀ id, a.1 = some id → id = s.nodes.length ∧ (nd s parent).kind = .list ∧
            ∃ n, s'.nodes = s.nodes ++ [n] ∧ n.kind = .listItem ∧ n.children = [] ∧ n.lines = [] ∧
              n.linesNil = true ∧ n.parent = none))
      (listItemOpen parent s) :=
  listItemOpen_okl src parent s c h hk

/-- **listItemParser.Continue: no panic** when its parent list has just continued (`li_ListContinued`: listParser.Continue
    did not see `indent < offset` in a situation where it answers Close) — `IndentPosition` is then never −1. -/
theorem list_item_continue_total (src : Bytes) (node : Nat) (s : St) (c : RCur) (h : RI src s.r c) (hpad : PadOK c)
    (hlt : c.p < src.length) (p : Nat) (hp : (nd s node).parent = some p) (hk : li_ListKidsOK s p)
    (hoff : 0 ≤ li_lastOff s p) (hlist : li_ListContinued src s c node p) :
    OKL (fun st s' => ∃ c', RI src s'.r c' ∧ PadOK c' ∧ c.p ≤ c'.p ∧ s'.nodes = s.nodes ∧
        s'.pc.opened = s.pc.opened ∧ s'.pc.tmpPara = s.pc.tmpPara ∧ s'.pc.fence = s.pc.fence ∧
        (st.cont = true → st.hasChildren = true))
      (listItemContinue node s) :=
  listItemContinue_okl src node s c h hpad hlt p hp hk hoff hlist

/-- **The whole-run theorem for the list-free fragment**: sources without `-`, `*`, `+` and digits. A case of `no_panic`
    and proved as one (`GM.Blocks.run_ok_listFree` is `GM.Blocks.run_ok_all`; the hypothesis is not used). -/
theorem no_panic_list_free (src : Bytes) (h : ListFree src) : ∃ s, GM.Blocks.run src = .ok s := by
  obtain ⟨s, hs, _⟩ := run_ok_listFree src h
  exact ⟨s, hs⟩

/-! ### statements (decidable / executable; checked input by input); the first two are proved in GM.Props.Wf0, the third for classes in GM.Props.C08 -/

/-- **C05(c), block phase, with the order clause** (`lines_in_range` + order): in addition to
    `lines_in_range` (PROVED above) a block's lines do not overlap and increase. The order clause is not proved in this
    file; the statement is proved for every byte string in GM.Props.Wf0 (`lines_in_range_and_ordered`), by the per-line
    protocol as an invariant — "every line of every node ends at or before the start of the current source line, until
    that node receives its (single) line for this line". It is also evaluated by the driver (`blocks lines`) on the
    model's tree for every source of the correspondence, and by the Go oracle on the real tree. -/
def LinesInRange (src : Bytes) : Prop :=
  ∀ s, GM.Blocks.run src = .ok s → allLinesOK src s = true

/-- **What the inline phase assumes about the lines of the blocks it visits** (`WF0` of GM.Props.Inlines: non-empty
    list, every line non-empty and inside the source, padding 0, no ForceNewline, increasing), stated for every
    inline-bearing node (`!IsRaw()` and `Lines().Len() > 0`: Paragraph, Heading, TextBlock — parser.go:1152-1163) of
    the final store. Not proved in this file; proved for every byte string in GM.Props.Wf0 (`inline_lines_wf0`: the order
    clause as for `LinesInRange`, plus "a closed paragraph's lines are non-empty with padding 0" — trim-left of a
    non-blank line). `GM.Proof.BlocksWF0.allInlineWF0` evaluates it (exhaustive strings ≤ 7 over an 8-symbol alphabet in
    the model and against the real parser: no counterexample). -/
def InlineLinesWF0 (src : Bytes) : Prop := GM.Proof.BlocksWF0.BlocksEstablishWF0 src

/-- **C08 on block trees**, stated, NOT PROVED in general (proved for explicit classes of
    sources in GM.Props.C08, `quote_prefix_simulation_*`): for a tab- and CR-free,
    non-blank source, the block tree of the source with `"> "` in front of every line (`quotePrefix`) is a
    Document with one Blockquote whose children are the children of the original Document's tree with every
    segment moved by the markers before it (`shiftSeg`); node fields, list item offsets (relative) and the
    `HasBlankPreviousLines` flags the block phase reads (`Tree.readBlank`: list items and children of list
    items, the first excepted) are unchanged. The other blank flags DO differ (a new block directly inside the
    quote after a marker-only line has the flag unset, parser.go:1099), which no renderer observes.
    `quoteSimPair src` computes both canonical dumps (`none` = the statement does not apply); the driver
    evaluates it (`blocks quotesim`) for every tab-free non-blank source of the `blocks` component. -/
def QuotePrefixSimulation (src : Bytes) : Prop :=
  ∀ e g, quoteSimPair src = some (e, g) → e = g

/-! ### tests (non-vacuity: the model produces trees; examples, not theorems) -/

/-- test: a quote with a list and a paragraph -/
example : GM.Blocks.dump (strBytes "> - a\n\nb") =
    "Document(0|||Blockquote(1|||List(1|45,0,1||ListItem(1|2||TextBlock(0||4:5:0:0|))))Paragraph(1||7:8:0:0|))" := by
  decide +kernel

/-- test: `LinesInRange` holds on a sample -/
example : GM.Blocks.checkLines (strBytes "1. a\n\n   b\n```\nc") = "ok" := by decide +kernel

/-- test: the quote-prefix statement on a sample with a loose list, a fence and an HTML block -/
example : GM.Blocks.quoteSim (strBytes "- a\n\n  b\n```\nc\n```\n<!-- x\n-->\ny") = "ok" := by decide +kernel

end GM.Props.Blocks
