/-
  GM.Props.ConvertL — theorems about GM.ConvertX.convertL (lean/GM/Model/ConvertL.lean): `convertX` extended by
  extension.Linkify (accept path: GM.Model.ExtLinkify, the two URL expressions hand-matched), and `convertGFM`. Tied on whole
  documents by component `convertx` (16 member sets; `extension.GFM` against its four members on the REAL outputs).
-/
import GM.Proof.ConvertX
import GM.Proof.ConvertLTotal
import GM.Proof.ConvertLConservative
import GM.Proof.ConvertLFlush
import GM.Props.ConvertX

namespace GM.Props.ConvertL
open GM GM.Text GM.Convert GM.ConvertX

/-- `convertl_off_is_convertx`. Without Linkify the extended model IS `convertX` of the remaining member set — every source,
    option set, class assignment; guarded and unguarded. With `convertx_off_is_core`: all four off = `convertCore`. -/
theorem convertl_off_is_convertx (c : XCfg) (uc : List (Nat × (Bool × Bool))) (o : ROpts) (src : Bytes) :
    convertL { base := c, linkify := false } uc o src = convertX c uc o src :=
  GM.Proof.ConvertL.convertLWith_off c true uc o src

/-- `convertx_gfm_is_members` (C11, last clause, on the model): `extension.GFM` is its four members. ON THE MODEL THIS IS BY
    CONSTRUCTION: `convertGFM` is defined as `convertL` with all four flags — justified by gfm.go:13-18, whose `Extend` calls
    exactly `Linkify.Extend`, `Table.Extend`, `Strikethrough.Extend`, `TaskList.Extend` (GM.Props.C11.facts_gfm_members proves
    that of the regenerated source facts). What the tie adds: on every document of member set 15 (quick: ≈ 20k, thorough ≈ 10×)
    component `convertx` converts with a REAL `goldmark.New(WithExtensions(extension.GFM))` instance and with the real
    four-member instance and compares the HTML byte for byte (clause `gfm-differs-from-members`: 0), and compares the latter
    with `convertL gfmCfg`. -/
theorem convertx_gfm_is_members (uc : List (Nat × (Bool × Bool))) (o : ROpts) (src : Bytes) :
    convertGFM uc o src =
      convertL { base := { strikethrough := true, tasklist := true, table := true }, linkify := true } uc o src := rfl

/-- `convertl_never_loops`. For ALL 16 member sets of {Strikethrough, TaskList, Table, Linkify} — `extension.GFM` among them —,
    every source, option set, class assignment: `convertL` answers HTML or an error that is not fuel exhaustion. The Linkify
    parser keeps the contract of the inline loop (`linkify_contract`: a match of the hand-matched expressions lies inside the
    peeked line — `matchURL_bounds`, `matchWWW_bounds`, `findEmailIndex_le` —, the three trailing-character rules and the
    e-mail path ANSWER — no `line[-1]`, no `line[-1:…]` — and leave at least one byte, so a returned node has consumed input);
    the totality proof of the open-table loop covers a non-empty entry of ' ' (white space, a non-punctuation line head). -/
theorem convertl_never_loops (c : GCfg) (uc : List (Nat × (Bool × Bool))) (o : ROpts) (src : Bytes) (e : Err)
    (h : convertL c uc o src = .error e) : e.isLoop = false :=
  GM.Proof.ConvertLTotal.convertL_noLoop c uc o src h

theorem convertgfm_never_loops (uc : List (Nat × (Bool × Bool))) (o : ROpts) (src : Bytes) (e : Err)
    (h : convertGFM uc o src = .error e) : e.isLoop = false :=
  convertl_never_loops gfmCfg uc o src e h

/-- the inline loop of a block under any of the 16 member sets FINISHES behind the run-time check: no Go panic of any parser —
    in particular none of `(*linkifyParser).Parse`'s unguarded index expressions —, no fuel exhaustion -/
theorem inline_loop_l_total (c : GCfg) (inItem : Bool) (env : GM.Inl.Env) (src : Bytes) (segs : List Segment)
    (W : GM.Spec.WFSegs src segs) (Z : ∀ s ∈ segs, s.padding = 0) :
    ∃ rd st', BlockReader.new src segs = .ok rd ∧
      GM.Inl.lineLoopX env (inlineTblL c inItem) (GM.Inl.blockFuel src segs) false { rd := rd } = .ok st' :=
  GM.Proof.ConvertLTotal.lineLoopL_total c inItem W Z env

/-! ### C11 at whole-document level for Strikethrough, TaskList, Table under ALL 16 member sets (Linkify on or off, GFM) -/

/-- Strikethrough: a source without `~` converts to the same HTML / outcome with and without it — whatever the other three
    members, Linkify among them (whose trigger set contains `~`: on such a source its entry of `~` is never consulted
    either). The proofs of GM.Props.ConvertX over `inlineTblL`: the Linkify parser keeps the loop's contract, keeps "no `~`
    delimiter among the children" and commutes with every relabelling of emphasis levels. -/
theorem convertl_conservative_strikethrough (c : GCfg) (uc : List (Nat × (Bool × Bool))) (o : ROpts) (src : Bytes)
    (hsrc : (126 : UInt8) ∉ src) :
    convertL { c with base := { c.base with strikethrough := true } } uc o src =
      convertL { c with base := { c.base with strikethrough := false } } uc o src :=
  GM.Proof.ConvertLStrike.convertL_strike c uc o src hsrc

/-- TaskList: a source without `[` -/
theorem convertl_conservative_tasklist (c : GCfg) (uc : List (Nat × (Bool × Bool))) (o : ROpts) (src : Bytes)
    (hsrc : (91 : UInt8) ∉ src) :
    convertL { c with base := { c.base with tasklist := true } } uc o src =
      convertL { c with base := { c.base with tasklist := false } } uc o src :=
  GM.Proof.ConvertLTask.convertL_task c uc o src hsrc

/-- Table: a source without '-' -/
theorem convertl_conservative_table (c : GCfg) (uc : List (Nat × (Bool × Bool))) (o : ROpts) (src : Bytes)
    (hsrc : (45 : UInt8) ∉ src) :
    convertL { c with base := { c.base with table := true } } uc o src =
      convertL { c with base := { c.base with table := false } } uc o src :=
  GM.Proof.ConvertLTask.convertL_table c uc o src hsrc

/-- `extension.GFM` on a source without `~`, `[` and '-' is Linkify alone -/
theorem gfm_without_triggers_is_linkify (uc : List (Nat × (Bool × Bool))) (o : ROpts) (src : Bytes)
    (h1 : (126 : UInt8) ∉ src) (h2 : (91 : UInt8) ∉ src) (h3 : (45 : UInt8) ∉ src) :
    convertGFM uc o src = convertL { base := {}, linkify := true } uc o src := by
  have a := convertl_conservative_strikethrough gfmCfg uc o src h1
  have b := convertl_conservative_tasklist { base := { tasklist := true, table := true }, linkify := true } uc o src h2
  have c := convertl_conservative_table { base := { table := true }, linkify := true } uc o src h3
  exact a.trans (b.trans c)

/-- the full statement (C11 for Linkify at whole-document level): NOT proved. Linkify IS consulted on such documents — at every
    space, tab, line head, `*`, `_`, `~`, `(` — and every consultation first flushes the pending text into `parent`; the runs
    differ in how the text is cut into Text nodes and agree only after merging (GM.Props.C11.ext_linkify_conservative_inline
    shows that on the abstract loop). `convertl_linkify_is_flush` proves that this cut is ALL that is left of Linkify on such a
    document; `conservative_linkify_iff_flush_insensitive` reduces the statement to the default parsers' and the renderer's
    insensitivity to that cut. Searched on the real code by the oracles `extension-changes-trigger-free-document-linkify` and
    `consultation-flush-changes-output` (the latter on ALL documents of the tie) of component `convertx`: 0. -/
def ConservativeLinkify : Prop :=
  ∀ (c : XCfg) uc o src, (58 : UInt8) ∉ src → (64 : UInt8) ∉ src → GM.Ext.hasInfix GM.Ext.domainWWW src = false →
    convertL { base := c, linkify := true } uc o src = convertL { base := c, linkify := false } uc o src

/-- `convertl_linkify_is_flush` (C11 for Linkify, whole documents, what IS proved): on a source without ':', '@' and `www.`,
    for every member set, option set and class assignment, `convertL` with Linkify is `convertFlush` — the same pipeline with
    a parser in Linkify's place that returns nil and touches nothing (GM.ConvertX.nullParser). In EVERY consultation of every
    run of the inline loop of every block the peeked line is a piece of the source, so `(*linkifyParser).Parse` returns nil
    and leaves reader, children, delimiters and link bottoms as they are (loop level: `linkify_consultation_without_effect`).
    What remains of Linkify on such a document is the consultation itself: Advance, the flush of the pending text
    (parser.go:1203-1211), SetPosition. -/
theorem convertl_linkify_is_flush (c : XCfg) (uc : List (Nat × (Bool × Bool))) (o : ROpts) (src : Bytes)
    (hcolon : (58 : UInt8) ∉ src) (hat : (64 : UInt8) ∉ src) (hwww : GM.Ext.hasInfix GM.Ext.domainWWW src = false) :
    convertL { base := c, linkify := true } uc o src = convertFlush c uc o src :=
  GM.Proof.ConvertLFlush.convertL_flush hcolon hat hwww c uc o

/-- the loop-level statement: the inline loop of a block whose lines pass the run-time check, over the trigger table with
    Linkify, is the loop over the table with `nullParser` in its place -/
theorem linkify_consultation_without_effect (c : XCfg) (inItem : Bool) (env : GM.Inl.Env) (src : Bytes) (segs : List Segment)
    (W : GM.Spec.WFSegs src segs) (Z : ∀ s ∈ segs, s.padding = 0)
    (hcolon : (58 : UInt8) ∉ src) (hat : (64 : UInt8) ∉ src) (hwww : GM.Ext.hasInfix GM.Ext.domainWWW src = false)
    (rd : BlockReader) (h0 : BlockReader.new src segs = .ok rd) :
    GM.Inl.lineLoopX env (inlineTblL { base := c, linkify := true } inItem) (GM.Inl.blockFuel src segs) false { rd := rd } =
      GM.Inl.lineLoopX env (flushTbl c inItem) (GM.Inl.blockFuel src segs) false { rd := rd } :=
  GM.Proof.ConvertLFlush.lineLoopL_flush c inItem W Z env hcolon hat hwww rd h0

/-- what is missing for `ConservativeLinkify`, exactly: that the consultation flush does not change the HTML of such a
    document -/
theorem conservative_linkify_iff_flush_insensitive :
    ConservativeLinkify ↔
      ∀ (c : XCfg) uc o src, (58 : UInt8) ∉ src → (64 : UInt8) ∉ src → GM.Ext.hasInfix GM.Ext.domainWWW src = false →
        convertFlush c uc o src = convertX c uc o src := by
  constructor
  · intro h c uc o src h1 h2 h3
    rw [← convertl_linkify_is_flush c uc o src h1 h2 h3, h c uc o src h1 h2 h3, convertl_off_is_convertx]
  · intro h c uc o src h1 h2 h3
    rw [convertl_linkify_is_flush c uc o src h1 h2 h3, h c uc o src h1 h2 h3, convertl_off_is_convertx]

/-- `consultation_flush_merges` (flush-insensitivity, inside a line): flushing the pending text `[a, b)` into `parent` and later the
    text `[b, c)` behind it leaves exactly the children one flush of `[a, c)` leaves — whatever the children are. So a run with
    an extra consultation (Linkify declining, `nullParser`) and the run without it hold the SAME children again at the next
    common flush; what stays visible of a consultation is only the cut in front of the end-of-line Text, which parseBlock
    appends without merging (parser.go:1252-1269) — there the soft / hard break flag and the trailing-blank trim (with its repair
    for an already flushed blank rest, parser.go:1258-1265) sit, and there the proviso of `ConservativeLinkify` lives. -/
theorem consultation_flush_merges (kids : List GM.Inl.Node) (s1 s2 : Segment) (h : s1.stop = s2.start) :
    GM.Inl.mergeOrAppend (GM.Inl.mergeOrAppend kids s1) s2 = GM.Inl.mergeOrAppend kids (s1.withStop s2.stop) :=
  GM.Proof.ConvertLFlushMerge.mergeOrAppend_twice kids s1 s2 h

/-- `convertx_conservative_linkify_partial`, parser level, on the CONCRETE loop (composes the decline argument of
    GM.Props.C11.linkify_declines for the accept-path model): whatever the state — children, open labels, delimiters —, when
    the peeked line has no ':', no '@' and no `www.`, `(*linkifyParser).Parse` returns nil and leaves the children, the id
    counter and the link-bottom stack exactly as they are; only the reader's line cache may be filled (PeekLine). -/
theorem convertx_conservative_linkify_partial (env : GM.Inl.Env) (st : GM.Inl.St) (line : Bytes) (seg : Segment)
    (rd : BlockReader) (hp : st.rd.peekLine = .ok ((some line, seg), rd)) (hne : line ≠ [])
    (hcolon : (58 : UInt8) ∉ line) (hat : (64 : UInt8) ∉ line) (hwww : GM.Ext.hasInfix GM.Ext.domainWWW line = false) :
    GM.Inl.parseLinkify env st = .ok (none, st) ∨ GM.Inl.parseLinkify env st = .ok (none, { st with rd := rd }) :=
  GM.Proof.ConvertL.parseLinkify_declines env st line seg rd hp hne hcolon hat hwww

/-- TESTS on literals (kernel-evaluated): the hand-matched URL expressions.
    `http://a.b.cd:80/x?y=(z)! w` → 25; `http://a.B` → no match; `www.a-b.c.de#f$` → 14; `http://a.bc/x&amp;` (18) → 13;
    `http://a.bc/(x))` (16) → 15 -/
example : GM.Inl.matchURL [104, 116, 116, 112, 58, 47, 47, 97, 46, 98, 46, 99, 100, 58, 56, 48, 47, 120, 63, 121, 61, 40, 122, 41, 33, 32, 119] = some 25 := by decide +kernel
example : GM.Inl.matchURL [104, 116, 116, 112, 58, 47, 47, 97, 46, 66] = none := by decide +kernel
example : GM.Inl.matchWWW [119, 119, 119, 46, 97, 45, 98, 46, 99, 46, 100, 101, 35, 102, 36] = some 14 := by decide +kernel
example : (GM.Inl.lkURLEnd [104, 116, 116, 112, 58, 47, 47, 97, 46, 98, 99, 47, 120, 38, 97, 109, 112, 59] 18).toOption = some 13 := by decide +kernel
example : (GM.Inl.lkURLEnd [104, 116, 116, 112, 58, 47, 47, 97, 46, 98, 99, 47, 40, 120, 41, 41] 16).toOption = some 15 := by decide +kernel

end GM.Props.ConvertL
