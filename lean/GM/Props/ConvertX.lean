/-
  GM.Props.ConvertX — theorems about GM.ConvertX.convertX (lean/GM/Model/ConvertX.lean), the composed model of
  `goldmark.New(goldmark.WithExtensions(…)).Convert` for the member sets of {Strikethrough, TaskList, Table}, tied to the real
  code on whole documents by component `convertx`. Every theorem quantifies over ALL byte strings / states. Where a full
  statement is not proved it is kept visible as a `def … : Prop` next to the strongest partial result,
  with what is missing. Helper lemmas: GM/Proof/ConvertX.lean.
-/
import GM.Proof.ConvertXRect
import GM.Proof.ConvertX
import GM.Proof.ConvertXRel
import GM.Proof.ConvertXTotal
import GM.Proof.ConvertXNoNode
import GM.Proof.ConvertLConservative
import GM.Proof.ConvertXMon
import GM.Proof.Table

namespace GM.Props.ConvertX
open GM GM.Text GM.Convert GM.ConvertX GM.Proof.ConvertX

/-! ### every member off -/

/-- `convertx_off_is_core`. With no member switched on the composed model IS the model of the default CommonMark pipeline:
    same HTML, same outcome, for every source, Unicode class assignment and renderer option set — guarded and unguarded. -/
theorem convertx_off_is_core (uc : List (Nat × (Bool × Bool))) (o : ROpts) (src : Bytes) :
    convertX {} uc o src = convertCore uc o src ∧ convertXUnguarded {} uc o src = convertUnguarded uc o src :=
  ⟨convertXWith_off true uc o src, convertXWith_off false uc o src⟩

/-! ### no fuel exhaustion -/

/-- the full statement: `convertX` never ends in `blocks loop` / `inlines loop`, for any member set. PROVED:
    `convertx_never_loops` below, as `convertx_never_loops_all`. The loop
    invariant of the totality proof wants every appended node `wf`, and `wf` demands emphasis levels 1–2, which the
    representations of Strikethrough / TaskCheckBox inside GM.Inl.Node violate on purpose; the proof reads the
    invariant off the NORMALISED children (`Ctx.normed`: all levels relabelled into {1, 2}); the inline model is blind to levels
    (GM.Proof.ConvertXRelv). -/
def ConvertXNeverLoops : Prop :=
  ∀ (c : XCfg) uc o src (e : Err), convertX c uc o src = .error e → e.isLoop = false

/-- `convertx_never_loops` — for EVERY member set, every source, renderer option set and Unicode class assignment: `convertX`
    answers HTML or an error that is not fuel exhaustion (`blocks loop` / `inlines loop`). The inline phase: the totality proof
    of the default inline loop, stated for the open trigger table (GM.Proof.InlinesLoopTotal: `scanX_total_lo`, `lineLoopX_total_lo`),
    with the contracts of the strikethrough and the task-checkbox parser proved directly and the contract of the link parser
    over both delimiter processors obtained from GM.Proof.InlinesLink.link_contract through a relabelling of emphasis levels
    (GM.Proof.ConvertXRelv: the inline model is blind to levels; the generalised ProcessDelimiters / link parser are the default
    ones up to a relabelling that sends the representation of a Strikethrough made by `c` tildes to level `c`). -/
theorem convertx_never_loops (c : XCfg) (uc : List (Nat × (Bool × Bool))) (o : ROpts) (src : Bytes) (e : Err)
    (h : convertX c uc o src = .error e) : e.isLoop = false :=
  convertX_noLoop (GM.Proof.ConvertXTotal.inlineNoLoop_all c) uc o src h

/-- `ConvertXNeverLoops`, proved -/
theorem convertx_never_loops_all : ConvertXNeverLoops := fun c uc o src e h => convertx_never_loops c uc o src e h

/-- the inline loop of a block under ANY member set FINISHES behind the run-time check (no fuel exhaustion, no Go panic, no
    broken modelling invariant in the loop; what remains of parseBlock is the final ProcessDelimiters, which answers a child
    list or `pre`) -/
theorem inline_loop_x_total (c : XCfg) (inItem : Bool) (env : GM.Inl.Env) (src : Bytes) (segs : List Segment)
    (W : GM.Spec.WFSegs src segs) (Z : ∀ s ∈ segs, s.padding = 0) :
    ∃ rd st', BlockReader.new src segs = .ok rd ∧
      GM.Inl.lineLoopX env (inlineTbl c inItem) (GM.Inl.blockFuel src segs) false { rd := rd } = .ok st' :=
  GM.Proof.ConvertL.inlineTblL_off c inItem ▸ GM.Proof.ConvertLTotal.lineLoopL_total { base := c, linkify := false } inItem W Z env

/-- the same for the member sets {} and {Table} (subsumed by `convertx_never_loops`) -/
theorem convertx_never_loops_partial (c : XCfg) (hs : c.strikethrough = false) (ht : c.tasklist = false)
    (uc : List (Nat × (Bool × Bool))) (o : ROpts) (src : Bytes) (e : Err) (h : convertX c uc o src = .error e) :
    e.isLoop = false :=
  convertX_noLoop (inlineNoLoop_noInline c hs ht) uc o src h

/-- every member set: no fuel exhaustion, provided the inline phase of that member set never exhausts its fuel -/
theorem convertx_never_loops_of (c : XCfg) (H : InlineNoLoop c) (uc : List (Nat × (Bool × Bool))) (o : ROpts)
    (src : Bytes) (e : Err) (h : convertX c uc o src = .error e) : e.isLoop = false :=
  convertX_noLoop H uc o src h

/-- the block phase of EVERY member set terminates on every source: the table paragraph transformer is an admissible
    transformer of the block driver (reads the source, writes the node store: `PTOK`), so
    GM.Props.Convert.block_phase_with_transformers_terminates applies to [link references, table] -/
theorem block_phase_x_terminates (c : XCfg) (src : Bytes) : blockPhaseX c true src ≠ .error .loop :=
  blockPhaseX_noLoop c src

theorem table_transformer_admissible (src : Bytes) : GM.Blocks.PTOK (GM.TableX.transformPT src) := GM.Blocks.transformPT_ptok src

/-! ### C11 on the composed model -/

/-- the full statements (C11 at whole-document level, on the model): all three PROVED — `conservative_tasklist`,
    `conservative_strikethrough`, `conservative_table` below -/
def ConservativeTasklist : Prop :=
  ∀ (c : XCfg) uc o src, (91 : UInt8) ∉ src →
    convertX { c with tasklist := true } uc o src = convertX { c with tasklist := false } uc o src
def ConservativeStrikethrough : Prop :=
  ∀ (c : XCfg) uc o src, (126 : UInt8) ∉ src →
    convertX { c with strikethrough := true } uc o src = convertX { c with strikethrough := false } uc o src
def ConservativeTable : Prop :=
  ∀ (c : XCfg) uc o src, (45 : UInt8) ∉ src →
    convertX { c with table := true } uc o src = convertX { c with table := false } uc o src

/-- `convertx_conservative_tasklist` — C11 AT WHOLE-DOCUMENT LEVEL on the model, for every member set without Strikethrough
    (Table on or off): a source without `[` converts to the same HTML — or the same error outcome — with and without
    TaskList, for every renderer option set and Unicode class assignment. The case without Strikethrough of
    `convertx_conservative_tasklist_all`. -/
theorem convertx_conservative_tasklist (c : XCfg) (hs : c.strikethrough = false) (uc : List (Nat × (Bool × Bool)))
    (o : ROpts) (src : Bytes) (hsrc : (91 : UInt8) ∉ src) :
    convertX { c with tasklist := true } uc o src = convertX { c with tasklist := false } uc o src :=
  GM.Proof.ConvertXTaskDoc.convertX_task_all c uc o src hsrc

/-- `ConservativeTasklist`, proved: the same for EVERY member set (Strikethrough on, too): the checkbox parser is never
    consulted (`lineLoopX_eq2` on the open table with the contracts of GM.Proof.ConvertXTotal), and a member set without
    TaskList never builds the representation of a TaskCheckBox (`parseBlockG_fixS`: the inline phase of any member set simulates
    itself under a relabelling that fixes the levels its members build) -/
theorem convertx_conservative_tasklist_all (c : XCfg) (uc : List (Nat × (Bool × Bool))) (o : ROpts) (src : Bytes)
    (hsrc : (91 : UInt8) ∉ src) :
    convertX { c with tasklist := true } uc o src = convertX { c with tasklist := false } uc o src :=
  GM.Proof.ConvertXTaskDoc.convertX_task_all c uc o src hsrc

theorem conservative_tasklist : ConservativeTasklist :=
  fun c uc o src h => convertx_conservative_tasklist_all c uc o src h

/-- the same at phase level: the block phase is the same, and behind the run-time check the inline children of EVERY block
    (any line list) are the same -/
theorem convertx_conservative_tasklist_phases (c : XCfg) (hs : c.strikethrough = false) (src : Bytes)
    (hsrc : (91 : UInt8) ∉ src) :
    blockPhaseX { c with tasklist := true } true src = blockPhaseX { c with tasklist := false } true src ∧
    ∀ (env : GM.Inl.Env) (inItem : Bool) (lines : List Segment),
      inlineLines { c with tasklist := true } true env src inItem lines =
        inlineLines { c with tasklist := false } true env src inItem lines :=
  ⟨rfl, fun env inItem lines => inlineLines_task_unused c hs env src hsrc inItem lines⟩

/-- `convertx_conservative_strikethrough` — C11 AT WHOLE-DOCUMENT LEVEL on the model, for EVERY member set (TaskList / Table on or
    off): a source without `~` converts to the same HTML — or the same error outcome — with and without Strikethrough, for
    every renderer option set and Unicode class assignment. Composed from: (1) the strikethrough parser is never consulted
    (`lineLoopX_eq2`: the open-table loop does not look at a table entry whose byte does not occur in the source; the peeked
    lines are slices of the source by the loop invariant of the totality proof, GM.Proof.ConvertXTotal); (2) no `~` delimiter
    ever stands among `parent`'s children (`NT`, kept by every parser of the table), and on such children ProcessDelimiters and
    the link parser over both delimiter processors ARE the default ones (`processDelimitersG_NT`, `parseLinkG_eq`), so the
    loops over the two tables are equal step by step (`lineLoopX_sim` with the identity relabelling); (3) a member set without
    Strikethrough never builds the representation of a Strikethrough node (`parseBlockG_fix`: its inline phase simulates itself
    under the relabelling that moves the levels −3 / −4, so its result is a fixed point), hence decoding does not depend on the
    flag; (4) the renderer reads `Exts` only through `handled`, on a tree without Strikethrough nodes. -/
theorem convertx_conservative_strikethrough (c : XCfg) (uc : List (Nat × (Bool × Bool))) (o : ROpts) (src : Bytes)
    (hsrc : (126 : UInt8) ∉ src) :
    convertX { c with strikethrough := true } uc o src = convertX { c with strikethrough := false } uc o src :=
  GM.Proof.ConvertXStrikeDoc.convertX_strike c uc o src hsrc

/-- `ConservativeStrikethrough`, proved -/
theorem conservative_strikethrough : ConservativeStrikethrough :=
  fun c uc o src h => convertx_conservative_strikethrough c uc o src h

/-- the same at block level: behind the run-time check the inline children of EVERY block are the same -/
theorem convertx_conservative_strikethrough_phases (c : XCfg) (src : Bytes) (hsrc : (126 : UInt8) ∉ src)
    (env : GM.Inl.Env) (inItem : Bool) (lines : List Segment) :
    inlineLines { c with strikethrough := true } true env src inItem lines =
      inlineLines { c with strikethrough := false } true env src inItem lines :=
  GM.Proof.ConvertXStrikeDoc.inlineLines_strike c env src hsrc inItem lines

/-- the trigger table of a member set with the entry of `~` emptied -/
def tblWithoutTilde (c : XCfg) (inItem : Bool) (b : UInt8) : List GM.Inl.XIp :=
  if b == 126 then [] else inlineTbl c inItem b

/-- byte-loop level (subsumed): on a line without `~` the byte loop never consults the strikethrough parser -/
theorem convertx_conservative_strikethrough_partial (c : XCfg) (env : GM.Inl.Env) (inItem : Bool) (line : Bytes)
    (hl : (126 : UInt8) ∉ line) (i : Nat) (s : GM.Inl.Scan) :
    GM.Inl.scanX env (inlineTbl c inItem) line i s = GM.Inl.scanX env (tblWithoutTilde c inItem) line i s :=
  scanX_congr env _ _ (by simp [tblWithoutTilde]) line i s (fun b hb => by
    have : b ≠ 126 := fun h => hl (h ▸ hb)
    simp [tblWithoutTilde, this])

/-- `convertx_conservative_table` — C11 AT WHOLE-DOCUMENT LEVEL on the model, for EVERY member set (Strikethrough / TaskList
    on or off), WITHOUT proviso: a source without '-' converts to the same HTML — or the same error outcome — with and without
    Table, for every renderer option set and Unicode class assignment. Composed from `table_needs_dash` (GM.Props.C11: the
    transformer returns the state unchanged), "the transformer's domain monitor cannot fire behind the guarded link-reference
    transformer" (GM.Proof.ConvertXMon.guarded_post: `guardedTransform` leaves the reader alone and leaves the paragraph a
    suffix — `transformer_removes_front` — of lines it has just checked on that reader's source), the monotonicity of the block
    driver `runT` in its transformer list (GM.Proof.ConvertXRel, the simulation walk of GM.Proof.BlocksDriverGSim with the
    transformer hook related: same node store, context, reader), "no node decodes as a table node on a source without '-'" (the witness of GM.Model.ExtTableX, so the tree,
    the escaped-pipe list and every block's inline phase are the same) and "the renderer reads `Exts` only through `handled`" on
    a tree without table kinds. -/
theorem convertx_conservative_table (c : XCfg) (uc : List (Nat × (Bool × Bool))) (o : ROpts) (src : Bytes)
    (h : (45 : UInt8) ∉ src) :
    convertX { c with table := true } uc o src = convertX { c with table := false } uc o src :=
  GM.Proof.ConvertXMon.convertX_table_guarded c uc o src h

/-- `ConservativeTable`, proved -/
theorem conservative_table : ConservativeTable := fun c uc o src h => convertx_conservative_table c uc o src h

/-- the unguarded composition keeps the proviso: equal, or the transformer's domain monitor answers `blocks pre` -/
theorem convertx_conservative_table_unguarded_blockphase (c : XCfg) (src : Bytes) (h : (45 : UInt8) ∉ src) :
    blockPhaseX { c with table := true } false src = blockPhaseX { c with table := false } false src ∨
    blockPhaseX { c with table := true } false src = .error .pre :=
  GM.Proof.ConvertXRel.blockPhaseX_table_no_dash c false src h

/-- the same for the block phase alone (guarded or not): exactly the state — node store, parse context with the reference
    map, reader — or the error of the block phase without Table, or `pre` -/
theorem convertx_conservative_table_blockphase (c : XCfg) (guard : Bool) (src : Bytes) (h : (45 : UInt8) ∉ src) :
    blockPhaseX { c with table := true } guard src = blockPhaseX { c with table := false } guard src ∨
    blockPhaseX { c with table := true } guard src = .error .pre :=
  GM.Proof.ConvertXRel.blockPhaseX_table_no_dash c guard src h

/-- the same at transformer level (any state of the block phase): the state is returned unchanged, or `pre` -/
theorem convertx_conservative_table_partial (src : Bytes) (h : (45 : UInt8) ∉ src) (node : Nat) (s : GM.Blocks.St) :
    GM.TableX.transformPT src node s = .ok ((), s) ∨ GM.TableX.transformPT src node s = .error .pre :=
  transformPT_no_dash src h node s

/-! ### C17 on the composed model -/

/-- the full statement: every Table node of the tree `convertX` hands to the renderer is rectangular (`rectB`: one header
    row first, ≥ 1 column, every row as many TableCells as the header). NOT proved; `tables_rectangular_of_store` reduces it to
    a statement about the node store the block phase ends in. Evaluated by the driver on every document with a table of the
    tie (`convertx rect`, a Lean-defined oracle on the output tree AND on the store: always `ok`). -/
def TablesRectangular : Prop :=
  ∀ (c : XCfg) uc src t, parseDocX c true uc src = .ok t → rectB t = true

/-- what is missing for `TablesRectangular`, exactly (`GM.Proof.ConvertXRect.StoreTablesRect`): the block tree `treeOf` reads
    out of the store the block phase (with the table paragraph transformer) ends in is rectangular in the store's encoding
    (`GM.ConvertX.rectT`: a node that decodes as a Table has no lines, its children decode as one TableHeader and TableRows,
    every row has as many children as the header, all of them decode as TableCells). `buildTable` writes exactly that
    (`convertx_tables_rectangular_partial` for the counts); what is not proved is the FRAME property of the block driver —
    the records of these nodes are never written again, and `treeOf`'s fuel exceeds the depth. -/
abbrev StoreTablesRect : Prop := GM.Proof.ConvertXRect.StoreTablesRect

/-- `tables_rectangular_of_store` (C17 on the composed OUTPUT tree, the tree half): for every member set, source and class
    assignment, if the store is rectangular then so is the tree the renderer receives. `docTreeX` keeps child counts
    (`docTreesX` is a map), gives every node the decoded kind (`blockKindX`), gives a Table / TableHeader / TableRow node no
    inline children, and inline subtrees contain no table kind; without the member no node has a table kind at all. -/
theorem tables_rectangular_of_store (H : StoreTablesRect) : TablesRectangular :=
  fun c uc src t h => GM.Proof.ConvertXRect.parseDocX_rect H c uc src t h

/-- the tree half for one tree: `rectT` of a block tree ⇒ `rectB` of what `docTreeX` makes of it -/
theorem doc_tree_keeps_rectangular (c : XCfg) (hc : c.table = true) (g : Bool) (env : GM.Inl.Env) (src : Bytes)
    (escs : List Int) (inItem : Bool) (t : GM.Blocks.Tree) (x : GM.Node) (hr : rectT src t = true)
    (h : docTreeX c g env src escs inItem t = .ok x) : rectB x = true :=
  GM.Proof.ConvertXRect.docTreeX_rect c hc g env src escs inItem t x hr h

/-- TESTS on literals (kernel-evaluated): `rectT` on hand-built block trees over the source `-` (the witness): a 2 x 2 table; a
    body row that is one cell short; no header; a Table node without children under a Document; a `thematicBreak` record
    whose witness fails (source `a`) is not a Table node at all -/
private def tN (tag : Nat) : GM.Blocks.Node := { kind := .thematicBreak, htmlType := tag, offset := 0 }
private def cellT : GM.Blocks.Tree := .node (tN GM.TableX.tagCell) []
example : rectT [45] (.node (tN GM.TableX.tagTable) [.node (tN GM.TableX.tagHeader) [cellT, cellT], .node (tN GM.TableX.tagRow) [cellT, cellT]]) = true := by decide +kernel
example : rectT [45] (.node (tN GM.TableX.tagTable) [.node (tN GM.TableX.tagHeader) [cellT, cellT], .node (tN GM.TableX.tagRow) [cellT]]) = false := by decide +kernel
example : rectT [45] (.node (tN GM.TableX.tagTable) [.node (tN GM.TableX.tagRow) [cellT], .node (tN GM.TableX.tagRow) [cellT]]) = false := by decide +kernel
example : rectT [45] (.node { kind := .document } [.node (tN GM.TableX.tagTable) []]) = false := by decide +kernel
example : rectT [97] (.node (tN GM.TableX.tagTable) []) = true := by decide +kernel

/-- `convertx_tables_rectangular_partial`, transformer level: whatever paragraph the table transformer of the composed model is
    called on, the table it builds nodes for (`GM.Table.transform`'s, handed to `buildTable`) has ≥ 1 column, a header with
    exactly one cell per column and body rows with exactly one cell per column (GM.Props.C17.table_rectangular). -/
theorem convertx_tables_rectangular_partial (src : Bytes) (lines : List Segment) (t : GM.Table.Table)
    (h : (GM.Table.transform src (lines.map GM.TableX.toSeg)).table = some t) :
    t.aligns ≠ [] ∧ t.header.length = t.aligns.length ∧ ∀ r ∈ t.rows, r.length = t.aligns.length :=
  let w := GM.Proof.Table.transform_wellShaped src _ t h
  ⟨w.cols, w.header_len, w.row_len⟩

/-! ### generalisations are refinements on the default instantiation -/

/-- ScanDelimiter over the emphasis processor's IsDelimiter is the emphasis model's ScanDelimiter -/
theorem scan_delimiter_generalises (env : GM.Inl.Env) (line : Bytes) (before : Nat) :
    GM.Inl.scanDelimiterP GM.Inl.isEmphasisDelim env line before = GM.Inl.scanDelimiter env line before := rfl

/-- the open-table inline phase over the default table and ProcessDelimiters is `parseBlock`, unconditionally -/
theorem parse_block_generalises (env : GM.Inl.Env) (src : Bytes) (segs : List Segment) :
    parseBlockG env GM.Inl.baseTbl GM.Inl.processDelimiters src segs = GM.Inl.parseBlock env src segs :=
  parseBlockG_base env src segs

/-! ### non-vacuity (tests on literals; whole-document literals are evaluated by the compiled driver in the tie —
     `echo "convertx html 1 7e7e617e7e0a -" | gmdriver` — the kernel runs out of memory on them) -/

/-- TEST: the strikethrough parser accepts `~a~` at the head of a one-line block: a `~` delimiter of length 1 -/
example : ((GM.Text.BlockReader.new [126, 97, 126, 10] [{ start := 0, stop := 4 }]).toOption.bind fun rd =>
    (GM.Inl.parseStrike {} { rd := rd }).toOption.map fun r => r.1.isSome) = some true := by decide +kernel

/-- TEST: OnMatch of a `~` opener builds the representation of Strikethrough, of a `*` opener an Emphasis -/
example : GM.Inl.onMatch true { seg := ⟨0, 1, 0, false⟩, canOpen := true, canClose := false, length := 1, origLength := 1, char := 126 } 1 [] =
    GM.Inl.strikeNode 1 [] := rfl

/-- the hypotheses are satisfiable: sources without the trigger bytes, a state without '-' -/
example : (91 : UInt8) ∉ ([97, 10] : Bytes) := by decide
example : (126 : UInt8) ∉ ([97, 10] : Bytes) := by decide
example : (GM.Table.transform [97, 124, 98, 10, 45, 124, 45, 10]
    (([{ start := 0, stop := 4 }, { start := 4, stop := 8 }] : List Segment).map GM.TableX.toSeg)).table.isSome = true := by
  decide +kernel

end GM.Props.ConvertX
