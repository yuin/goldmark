/-
  Property C02 (spec-side model): theorems about the Lean generator of constructed
  CommonMark documents (GM.Spec.CommonMark) and about the escape-spelling axis of the property.

  What is PROVED here:
  * `escSpell_decodes` (DESIGN's `write_undoes_spelling`): the model of goldmark's text writer
    (`GM.write`, GM.Model.Writer; tied to renderer/html/html.go defaultWriter.Write by component `render`) applied to ANY
    licensed spelling of a run of printable-ASCII text — per character: literal, backslash escape, decimal
    reference with leading zeros, hexadecimal reference in either case with leading zeros, named HTML5 entity —
    yields exactly the HTML-escaped plain text. Quantified over all strings and all per-character choices; the
    entity names are checked against the entity table REGENERATED from /repo.
  * `expected_balanced`: the expected HTML of every tree is tag-balanced (stack discipline over the output
    pieces; raw HTML passed through by html.WithUnsafe is opaque).
  * `spell_choice_independent_expected`: `expected` is a function of the tree's structure alone — true by
    construction (no clause of `expected` mentions a choice field); stated as invariance under erasing all choices.

  What is NOT proved here: that goldmark renders `spell d` as `expected d`. That is the property itself; it is proved
  over the composed model of `Convert` for the documents of an explicit fragment in GM.Props.C02Frag
  (`fragment*_conforms`) and otherwise decided by the correspondence run of component `cmspec` (the Lean model is the
  specification side).
-/
import GM.Proof.CMSpec
import GM.Proof.CMSpecTree

namespace GM.Props.C02c
open GM GM.Spec.CM

/-- The writer model undoes every licensed spelling: for every string over printable ASCII and every
    per-character choice of literal / backslash / decimal / hex / named-entity spelling,
    `Write(escSpell cs) = RawWrite(plain cs)` (for both values of the writer's EscapedSpace option). -/
theorem escSpell_decodes (escSpace : Bool) (cs : List TChar) (hp : ∀ t ∈ cs, printable t.c = true) :
    GM.write escSpace (escSpell cs) = GM.rawWrite (plain cs) :=
  Proof.CMSpec.escSpell_decodes escSpace cs hp

/-- The same with EscapedSpace off, as in the default renderer. -/
theorem escSpell_decodes_default (cs : List TChar) (hp : ∀ t ∈ cs, printable t.c = true) :
    GM.write false (escSpell cs) = GM.rawWrite (plain cs) :=
  Proof.CMSpec.escSpell_decodes false cs hp

/-- … and the spec-side escaping used by `expected` is the writer's RawWrite: the text pieces of `expected`
    are what goldmark's writer produces from the spelled source. -/
theorem escHtml_eq_rawWrite (b : Bytes) : escHtml b = GM.rawWrite b := Proof.CMSpec.escHtml_eq_rawWrite b

/-- The expected HTML of EVERY tree (well-formed or not) is tag-balanced. -/
theorem expected_balanced (d : Doc) : Proof.CMSpecTree.balanced (expectedPieces d) = true :=
  Proof.CMSpecTree.expected_balanced d

/-- `expected` never looks at a surface-syntax choice (trivially true by construction: it is defined by
    recursion on the structure only): erasing every choice leaves it unchanged, hence two annotated trees with
    the same structure have the same expected HTML. -/
theorem spell_choice_independent_expected (d : Doc) : expected (eraseDoc d) = expected d :=
  Proof.CMSpecTree.expected_erase d

/-! ### non-vacuity and tests (examples on literals are tests, not theorems) -/

-- test: `a&#0042;\\*&ast;&#x2A;` spells `a****`
example : escSpell [⟨97, .lit⟩, ⟨42, .dec 2⟩, ⟨42, .bs⟩, ⟨42, .named⟩, ⟨42, .hex 0 false true⟩] =
    [97, 38, 35, 48, 48, 52, 50, 59, 92, 42, 38, 97, 115, 116, 59, 38, 35, 120, 50, 65, 59] := by decide +kernel
-- test: the hypothesis is satisfiable and the conclusion is not trivial (`<` and `&` come out escaped)
example : GM.write false (escSpell [⟨60, .named⟩, ⟨38, .lit⟩]) = [38, 108, 116, 59, 38, 97, 109, 112, 59] := by
  rw [escSpell_decodes_default _ (by decide)]; decide +kernel
-- test (wellFormed itself is evaluated by the compiled driver on every generated document): the expected HTML of `a` is `<p>a</p>\n`
example : expected { blocks := [.para {} [.text [⟨97, .lit⟩]] 0] } = [60, 112, 62, 97, 60, 47, 112, 62, 10] := by decide +kernel

end GM.Props.C02c
