/-
  GM.Props.Inlines — property theorems about the inline phase of one block (C01 / C05(b) for inline content).
  Model: GM/Model/Inlines.lean, InlinesParsers.lean, InlinesLoop.lean (`parseBlock` = (*parser).parseBlock with the
  default inline parsers, ProcessDelimiters(nil, pc), linkParser.CloseBlock), tied to the real parser by the
  harness component `inlines`. Helper lemmas: GM/Proof/Inlines.lean.

  Every theorem speaks about EVERY source, EVERY list of line segments, EVERY reference map and EVERY assignment
  of Unicode classes (`Env`): the hypothesis `parseBlock … = .ok kids` only says that the phase finished (the
  alternative outcomes are a Go panic, `loop` and `pre`, see notes/status_inlines.md).
-/
import GM.Proof.Inlines
import GM.Proof.InlinesLoopTotal
import GM.Proof.InlinesLink

namespace GM.Props.Inlines
open GM GM.Text GM.Spec GM.Inl GM.Proof.Inlines GM.Proof.InlinesReader GM.Proof.InlinesTotal GM.Proof.InlinesLink

/-- `no_delimiter_survives` (C05(b), "no leftover delimiter or bracket bookkeeping nodes"). Whatever the source,
    lines, references: after ProcessDelimiters(nil, pc) and CloseBlock no Delimiter node and no LinkLabelState
    node is left anywhere in the block's inline tree — not at top level, not inside an Emphasis, Link, Image
    or CodeSpan. -/
theorem no_delimiter_survives (env : Env) (src : Bytes) (segs : List Segment) (kids : List Node)
    (h : parseBlock env src segs = .ok kids) : hasBookkeepingL kids = false :=
  wfL_noBook kids (parseBlock_wf h)

/-- `emphasis_levels` (C05(b), "emphasis levels 1-2"). Every Emphasis node of the block's inline tree, at any
    depth, has level 1 or 2. -/
theorem emphasis_levels (env : Env) (src : Bytes) (segs : List Segment) (kids : List Node)
    (h : parseBlock env src segs = .ok kids) : emphasisLevelsOKL kids = true :=
  wfL_levels kids (parseBlock_wf h)

/-- `codespan_holds_text` (C05(b), "code spans hold only text"). Every CodeSpan node of the block's inline
    tree, at any depth, has only Text children. -/
theorem codespan_holds_text (env : Env) (src : Bytes) (segs : List Segment) (kids : List Node)
    (h : parseBlock env src segs = .ok kids) : codeSpansHoldTextL kids = true :=
  wfL_codeSpans kids (parseBlock_wf h)

/-- `no_link_in_link` (C05(b), "links never nested in links"). No Link node of the block's inline tree has
    another Link below it at any depth — not directly, not through Emphasis, not through an Image's
    description (`linkParser.containsLink` looks through all of them, and ProcessDelimiters cannot move a node
    across the opening bracket). -/
theorem no_link_in_link (env : Env) (src : Bytes) (segs : List Segment) (kids : List Node)
    (h : parseBlock env src segs = .ok kids) : linkInLinkL kids = false :=
  wfL_noLinkInLink kids (parseBlock_wf h)

/-- `processDelimiters_terminates_no_panic` (C01 for ProcessDelimiters). For every child list and every
    `bottom`, ProcessDelimiters terminates (the model function is total; its closer loop is a well-founded
    recursion: a closer is dropped or loses a character per round) and has exactly two outcomes: a child list,
    or `pre` — the modelling invariant "every listed delimiter is a child of `parent` and has `Length ≥ 1`"
    was handed in broken. There is no Go panic and no non-termination in it. -/
theorem processDelimiters_terminates_no_panic (bottom : Bottom) (kids : List Node) :
    (∃ r, processDelimiters bottom kids = .ok r) ∨ processDelimiters bottom kids = .error .pre :=
  processDelimiters_total bottom kids

/-- `processDelimiters_succeeds` (C01 for ProcessDelimiters, no `pre`). On every child list whose delimiters all
    still have characters (`Length ≥ 1` — what ScanDelimiter creates, and what a match leaves: a used-up
    delimiter is taken off at once) ProcessDelimiters returns a child list, for every `bottom`; and that list's
    delimiters again all have characters. -/
theorem processDelimiters_succeeds (bottom : Bottom) (kids : List Node) (h : posL kids) :
    ∃ res, processDelimiters bottom kids = .ok res ∧ posL res :=
  processDelimiters_ok bottom kids h

/-- `processDelimiters_nil_clears`: ProcessDelimiters(nil, pc) on well-shaped children (open delimiters only at
    the top level) leaves no delimiter anywhere and keeps the shape. -/
theorem processDelimiters_nil_clears (kids res : List Node) (hk : topL kids = true)
    (h : processDelimiters .nil kids = .ok res) : wfL true res = true :=
  processDelimiters_nil_wfL h hk


/-! ### termination and panic-freedom of the whole inline phase (C01)

`WF0 src segs`: the block's lines are well-formed (`WFSegs` of C18: non-empty list; every line non-empty, inside
the source, increasing, no ForceNewline) and carry no virtual padding — what the block parsers hand over for
paragraphs, headings and the other inline-bearing blocks (the harness checks it on every block it compares). -/

/-- `parseBlock_fuel_suffices_nobracket` (C01, inline phase). For EVERY source without `[` and `]`, every
    well-formed line list, reference map and Unicode class assignment the inline phase of the block returns an
    inline tree: no Go panic (index, slice, nil, assertion, `Segment.Between` on different lines, …), none of
    the loops (`retry:` loop, code-span / raw-HTML line loops, the rune stream of `Reader.Match`) runs out of
    its fuel, no modelling invariant is broken. Code spans, emphasis with ProcessDelimiters, autolinks, raw
    HTML, hard and soft breaks are all in scope; the link parser only sees `!` and declines. -/
theorem parseBlock_fuel_suffices_nobracket (env : Env) (src : Bytes) (segs : List Segment) (h : WF0 src segs)
    (hnb : ∀ x ∈ src, x ≠ 91 ∧ x ≠ 93) : ∃ kids, parseBlock env src segs = .ok kids :=
  parseBlock_total_nobracket h.1 h.2 env hnb

/-- `parseBlock_fuel_suffices_of_link_contract` (C01, inline phase, all sources). The same for EVERY source,
    given that the link parser keeps the contract every other parser is proved to keep (`PContract`: consulted at
    one of its trigger bytes with the reader standing for a cursor, the recorded segments in order up to the
    cursor and the context invariant `X`, it returns; the reader still stands for a cursor that did not move back;
    a returned node means at least one byte was consumed and its segments lie between the old and the new
    offset; `X` holds again). `X` is any invariant of (children, next id, linkBottom stack) that the loop's own
    steps preserve and that implies `Length ≥ 1` for open delimiters. The contract itself is
    `link_parser_keeps_contract` below; together they give `parseBlock_total`. -/
theorem parseBlock_fuel_suffices_of_link_contract (X : Ctx) (hbase : X.LK [] 0 [])
    (hpos : ∀ k n b, X.LK k n b → posL k) (env : Env) (src : Bytes) (segs : List Segment) (h : WF0 src segs)
    (hlink : PContract X src segs (trigOf .link) (Ip.link.parse env)) :
    ∃ kids, parseBlock env src segs = .ok kids :=
  parseBlock_total_of X hbase hpos h.1 h.2 env hlink

/-- `retry_loop_terminates`: the `for { retry: … }` loop of parseBlock with ANY parsers that keep `PContract`
    never exhausts a fuel larger than the number of bytes in front of the reader, and keeps the invariant
    "the reader stands for a cursor, the recorded segments are in range and in order up to it". -/
theorem retry_loop_terminates (X : Ctx) (env : Env) (src : Bytes) (segs : List Segment) (h : WF0 src segs)
    (hC : ∀ ip, PContract X src segs (trigOf ip) (ip.parse env)) (fuel : Nat) (esc : Bool) (st : St) (c : BCur)
    (hI : LInv X src segs st c) (hf : (BCur.remaining segs c).toNat < fuel) :
    ∃ st' c', lineLoop env fuel esc st = .ok st' ∧ LInv X src segs st' c' :=
  lineLoop_total X (GM.Proof.Reader.segFacts h.1) h.2 env hC fuel esc st c hI hf

/-- `segments_in_range_and_ordered_at_loop_end` (C05(c) for inline content, partial). For every source without
    `[`/`]` and well-formed lines: when the `retry:` loop of parseBlock has ended — i.e. before
    ProcessDelimiters(nil) and CloseBlock rewrite delimiter and bracket nodes into Text / Emphasis — the segments
    recorded in the children (Text, the raw Text of code spans, autolink values, raw-HTML segments, the segments of
    the still open delimiters and labels), read in tree order, satisfy `0 ≤ s₁.start ≤ s₁.stop ≤ s₂.start ≤ … ≤
    len(source)`: each lies inside the source, none is inverted, each starts at or after the end of the one
    before. (`segsOfL` = the segments in tree order; `chain lo hi` = that inequality chain.)
    (`text_segments_in_range_and_ordered` speaks about the tree parseBlock RETURNS, for
    every source.) -/
theorem segments_in_range_and_ordered_at_loop_end (env : Env) (src : Bytes) (segs : List Segment) (h : WF0 src segs)
    (hnb : ∀ x ∈ src, x ≠ 91 ∧ x ≠ 93) (r0 : BlockReader) (st' : St) (h0 : BlockReader.new src segs = .ok r0)
    (hl : lineLoop env (blockFuel src segs) false { rd := r0 } = .ok st') :
    chain 0 src.length (segsOfL st'.kids) :=
  lineLoop_segments Ctx.trivial True.intro h.1 h.2 env (all_contracts_nobracket Ctx.trivial h.1 h.2 env hnb) h0 hl

/-! ### every source: the link parser's contract, totality, segment order

`linkCtx lo` (`lo` = the start of the block's first line) is the context invariant of the link parser
(`GM.Proof.InlinesLink.LK`): every open delimiter has `Length ≥ 1` and `Segment = [Start, Start + Length)`; the ids
of the top-level delimiters increase strictly and lie below the id counter; LinkLabelState nodes occur only among
the children of `parent`, never below an Emphasis / Link / Image; a label's segment starts at or behind `lo`; the
`linkBottom` stack has exactly one entry per label, the entry of a label being the last delimiter in front of it,
or the typed nil `*Delimiter` when there is none. -/

/-- `link_parser_keeps_contract` (C01, `linkParser.Parse`). For EVERY source, line list (`WF0`), reference map:
    consulted by the loop at a `!`, `[` or `]` in a state that satisfies the loop invariant (reader stands for a
    cursor, recorded segments in order up to it, `linkCtx`), `linkParser.Parse` returns — no Go panic in
    `[`/`![` opener, `]` closer, inline `(dest "title")` (SkipSpaces, parseLinkDestination, parseLinkTitle with
    FindClosure and multi-line `Value`), full / collapsed / shortcut reference (FindClosure, `Value` of the label
    text across lines), every failure path; none of SkipSpaces / FindClosure runs out of fuel; none of the three
    modelling guards of `processLinkLabel` fires (the label is still a child of `parent` after
    ProcessDelimiters(bottom), no open label and no listed delimiter lies behind it: ProcessDelimiters(bottom)
    provably leaves everything up to and including the label alone) — the reader stands for a cursor that did
    not move back, a returned node consumed at least one byte, the recorded segments are still in order and
    `linkCtx` holds again. -/
theorem link_parser_keeps_contract (env : Env) (src : Bytes) (segs : List Segment) (h : WF0 src segs) :
    PContract (linkCtx (BCur.segOf segs 0).start) src segs (trigOf .link) (Ip.link.parse env) :=
  link_contract h.1 h.2 env

/-- `processDelimiters_prefix_local`: ProcessDelimiters(bottom) with a non-nil `bottom` cannot touch a prefix `P`
    of the children whose last node is neither a Text nor a delimiter (an open link label) and in which every
    right-to-left walk stops at `bottom` before meeting another delimiter (`bottom` is the last delimiter of `P`,
    or `P` has none and `bottom` is the typed nil) — provided no delimiter id occurs on both sides:
    the result is `P` followed by what ProcessDelimiters(bottom) makes of the rest alone. -/
theorem processDelimiters_prefix_local (b : Bottom) (hb : b ≠ .nil) (P y : List Node)
    (hc : GM.Proof.InlinesDelims.Closed b P.reverse)
    (hd : ∀ id d d', Node.delim id d ∈ P → Node.delim id d' ∈ y → False) :
    processDelimiters b (P ++ y) = (processDelimiters b y).map (P ++ ·) :=
  GM.Proof.InlinesDelims.processDelimiters_prefix hb hc y hd

/-- `parseBlock_total` (C01, inline phase, unconditional). For EVERY source, every well-formed padding-free line
    list, every reference map and every assignment of Unicode classes the inline phase of a block returns an
    inline tree: no Go panic (index, slice, nil, type assertion, `Segment.Between`, `make` with a negative
    capacity in `BlockReader.Value`), every loop ends (`retry:` loop, code-span / raw-HTML line loops, the rune
    stream of `Reader.Match`, SkipSpaces, FindClosure, the closer loop of ProcessDelimiters), and no modelling
    invariant (`pre`) is broken — the model's answers `loop` and `pre` are unreachable. -/
theorem parseBlock_total (env : Env) (src : Bytes) (segs : List Segment) (h : WF0 src segs) :
    ∃ kids, parseBlock env src segs = .ok kids :=
  GM.Proof.InlinesLink.parseBlock_total h.1 h.2 env

/-- `text_segments_in_range_and_ordered` (C05(c) for inline content). For EVERY source and well-formed
    padding-free line list: the segments recorded in the inline tree that parseBlock returns — Text nodes (also
    those made from cleared delimiters and unmatched brackets), the raw Text of code spans, autolink values,
    raw-HTML segments — read in tree order (through Emphasis, Link, Image, CodeSpan) satisfy
    `0 ≤ s₁.start ≤ s₁.stop ≤ s₂.start ≤ s₂.stop ≤ … ≤ len(source)`: each lies inside the source, none is
    inverted, each starts at or behind the end of the one before (`segsOfL` = the segments in tree order,
    `chain lo hi` = that chain of inequalities). -/
theorem text_segments_in_range_and_ordered (env : Env) (src : Bytes) (segs : List Segment) (h : WF0 src segs)
    (kids : List Node) (hk : parseBlock env src segs = .ok kids) : chain 0 src.length (segsOfL kids) :=
  parseBlock_segments h.1 h.2 env hk

/-- `processDelimiters_keeps_segment_order`: for every `bottom`, on children whose delimiters have `Length ≥ 1`
    and `Segment = [Start, Start + Length)`, ProcessDelimiters keeps the recorded segments in range and in order
    (ConsumeCharacters shrinks a delimiter from its end, a used-up delimiter is dropped, a cleared one becomes a
    Text of its segment or extends the adjacent Text in front, matched runs are wrapped). -/
theorem processDelimiters_keeps_segment_order (b : Bottom) (lo hi : Int) (kids res : List Node)
    (h : processDelimiters b kids = .ok res) (hp : posL kids)
    (hD : ∀ id d, Node.delim id d ∈ kids → d.seg.stop = d.seg.start + d.length)
    (hc : chain lo hi (segsOfL kids)) : chain lo hi (segsOfL res) :=
  GM.Proof.InlinesDelims.processDelimiters_chain h hp (fun _ hn id d e => hD id d (e ▸ hn)) hc

/-- `blockReader_helpers_fuel_suffices` (C01 / C18, block reader): for every well-formed line list — ANY line
    paddings — and every block reader state `r` that stands for a well-formed cursor `c` (`BAbs`, the refinement
    relation of C18), `SkipSpaces` and `FindClosure` (any opener / closer / options) are defined whenever their
    fuel exceeds the number of bytes of the line views in front of the cursor: neither loop runs out of fuel, no
    interface call they make panics, and the reader afterwards again stands for a cursor. (The block-reader
    counterpart of C18's `reader_helpers_defined`.) -/
theorem blockReader_helpers_fuel_suffices (src : Bytes) (segs : List Segment) (hw : WFSegs src segs)
    (r : BlockReader) (c : BCur) (h : GM.Proof.Reader.BAbs src segs r c) (fuel : Nat)
    (hf : (BCur.remaining segs c).toNat < fuel) :
    (∃ x r' c', skipSpaces blockOps fuel 0 r = .ok (x, r') ∧ GM.Proof.Reader.BAbs src segs r' c') ∧
    (∀ o cl opts, ∃ x r' c', findClosure blockOps fuel o cl opts r = .ok (x, r') ∧
      GM.Proof.Reader.BAbs src segs r' c') :=
  ⟨GM.Proof.BlockReaderFuel.blockReader_skipSpaces_defined (GM.Proof.Reader.segFacts hw) h fuel hf,
   fun o cl opts => GM.Proof.BlockReaderFuel.blockReader_findClosure_defined (GM.Proof.Reader.segFacts hw) h o cl opts
     fuel hf⟩

/-- the hypotheses are satisfiable (test on a literal): "[a](b)" as one line has `WF0` lines -/
example : WF0 [91, 97, 93, 40, 98, 41] [{ start := 0, stop := 6 }] := by
  refine ⟨⟨by simp, ?_⟩, ?_⟩
  · simp [WFSegsFrom]
  · intro s hs; simp at hs; subst hs; rfl

/-- "[a](b)": the phase finishes (test on a literal) -/
example : (parseBlock {} [91, 97, 93, 40, 98, 41] [{ start := 0, stop := 6 }]).toBool = true := by decide +kernel

/-- the base case of the context invariant: an empty child list with an empty `linkBottom` stack -/
example : (linkCtx 0).LK [] 0 [] := LK_base 0

/-- the hypothesis `Closed` of `processDelimiters_prefix_local` is satisfiable (test on a literal): the prefix `[`
    (one open label, no delimiter in front of it) with the typed-nil bottom -/
example : GM.Proof.InlinesDelims.Closed .tnil [Node.label 0 { start := 0, stop := 1 } false].reverse :=
  ⟨⟨_, [], rfl, rfl, rfl⟩, trivial⟩

/-- the hypotheses are satisfiable (test on a literal): "a*b*" as one line -/
example : WF0 [97, 42, 98, 42] [{ start := 0, stop := 4 }] := by
  refine ⟨⟨by simp, ?_⟩, ?_⟩
  · simp [WFSegsFrom]
  · intro s hs; simp at hs; subst hs; rfl

/-! #### the hypotheses are satisfiable (tests on literals) -/

/-- "a": the phase finishes -/
example : (parseBlock {} [97] [{ start := 0, stop := 1 }]).toBool = true := by decide +kernel

def exOpen : Delim :=
  { seg := { start := 0, stop := 1 }, canOpen := true, canClose := false, length := 1, origLength := 1, char := 42 }
def exClose : Delim :=
  { seg := { start := 2, stop := 3 }, canOpen := false, canClose := true, length := 1, origLength := 1, char := 42 }

/-- the children of "*a*" before ProcessDelimiters are well-shaped -/
example : topL [.delim 0 exOpen, textOf { start := 1, stop := 2 }, .delim 1 exClose] = true := by decide +kernel

/-- the delimiters of "*a*" have characters -/
example : posL [.delim 0 exOpen, textOf { start := 1, stop := 2 }, .delim 1 exClose] := by
  intro id d hm
  simp [textOf] at hm
  rcases hm with ⟨_, rfl⟩ | ⟨_, rfl⟩ <;> decide

/-- "*a*": one round of the closer loop matches the two delimiters into an Emphasis of level 1 -/
example : closerStep .nil [.delim 0 exOpen, textOf { start := 1, stop := 2 }] 1 exClose [] =
    .done [.emphasis 1 [textOf { start := 1, stop := 2 }]] := by rfl

end GM.Props.Inlines
