/-
  Property C10 — renderer options are orthogonal rewrites of the same output.
  For every tree, every extension set and every global option set with the table alignment method pinned
  (≠ Default) and East-Asian line-break suppression off, the rendered bytes are `flatMap emit` of ONE piece list
  `ir e a esc t` that does not depend on XHTML / HardWraps / Unsafe; the three clauses of the property are
  read off `emit`. The renderer model (GM.Model.Render) keeps the scattered conditionals and the six
  html.Config copies of the Go code; `propagation_complete` is why a single global flag describes them.
  Only property theorems and their non-vacuity examples live here; helper lemmas are in GM/Proof/RenderIR.lean.
-/
import GM.Model.RenderIR
import GM.Proof.RenderIR
import GM.Props.ConvertE2E
import GM.Props.ConvertE2EAll

namespace GM.Props.C10
open GM

/-- Option propagation is complete: after initialisation EVERY node renderer's copy of html.Config (core, task
    list, strikethrough, definition list, footnote, table) equals the default config with all global options
    applied, and the table's alignment method is the global one. No copy is missed. -/
theorem propagation_complete (o : Opts) (e : Exts) :
    (mkRCfg o e).core = ({} : HCfg).setOpts o ∧ (mkRCfg o e).task = ({} : HCfg).setOpts o ∧
    (mkRCfg o e).strike = ({} : HCfg).setOpts o ∧ (mkRCfg o e).dl = ({} : HCfg).setOpts o ∧
    (mkRCfg o e).foot = ({} : HCfg).setOpts o ∧ (mkRCfg o e).table = ({} : HCfg).setOpts o ∧
    (mkRCfg o e).tableAlign = o.tableAlign.getD 0 ∧ (mkRCfg o e).exts = e ∧ (mkRCfg o e).footc = {} :=
  Proof.mkRCfg_copies o e

/-- …and each copy's three flags are exactly the global options. -/
theorem propagation_flags (o : Opts) :
    (({} : HCfg).setOpts o).xhtml = o.xhtml ∧ (({} : HCfg).setOpts o).hardWraps = o.hardWraps ∧
    (({} : HCfg).setOpts o).unsafe_ = o.unsafe_ := by
  cases o with
  | mk h x u ea w ta => cases h <;> cases x <;> cases u <;> simp [HCfg.setOpts]

/-- Propagation does not depend on how the node renderers were constructed: from ANY renderer state, a global
    option that is set reaches every copy. -/
theorem propagation_uniform (r : RCfg) (o : Opts) :
    (o.xhtml = true → (r.propagate o).core.xhtml = true ∧ (r.propagate o).task.xhtml = true ∧
        (r.propagate o).strike.xhtml = true ∧ (r.propagate o).dl.xhtml = true ∧
        (r.propagate o).foot.xhtml = true ∧ (r.propagate o).table.xhtml = true) ∧
    (o.hardWraps = true → (r.propagate o).core.hardWraps = true ∧ (r.propagate o).task.hardWraps = true ∧
        (r.propagate o).strike.hardWraps = true ∧ (r.propagate o).dl.hardWraps = true ∧
        (r.propagate o).foot.hardWraps = true ∧ (r.propagate o).table.hardWraps = true) ∧
    (o.unsafe_ = true → (r.propagate o).core.unsafe_ = true ∧ (r.propagate o).task.unsafe_ = true ∧
        (r.propagate o).strike.unsafe_ = true ∧ (r.propagate o).dl.unsafe_ = true ∧
        (r.propagate o).foot.unsafe_ = true ∧ (r.propagate o).table.unsafe_ = true) := by
  refine ⟨?_, ?_, ?_⟩ <;> intro h <;> simp [RCfg.propagate, HCfg.setOpts, h]

/-- The factorisation. For all trees, extension sets and options (alignment pinned to `a ≠ 0`, East-Asian
    breaks off) the output is the concatenation of `emit` over a piece list computed WITHOUT the three options. -/
theorem render_factor (o : Opts) (e : Exts) (a : Nat) (hea : o.ea = none) (hta : o.tableAlign = some a)
    (ha : a ≠ 0) (t : Node) :
    render (mkRCfg o e) t =
      (ir e a (o.writerEsc.getD false) t).flatMap (emit o.xhtml o.hardWraps o.unsafe_) :=
  Proof.render_factor o e a hea hta ha t

/-! ### clause 1: XHTML only rewrites the ends of void elements -/

/-- One piece: apart from a void-element end, no piece's bytes depend on XHTML; a void end is `>` vs ` />`. -/
theorem xhtml_only_voids (x u : Bool) (p : Piece) :
    (p.isVoidEnd = false → emitBase x u p = emitBase false u p) ∧
    emitBase false u .voidEnd = [62] ∧ emitBase true u .voidEnd = [32, 47, 62] :=
  ⟨Proof.emitBase_xhtml x u p, rfl, Proof.voidEndBytes_true⟩

/-- Whole output: it is the concatenation over ONE piece list (the `ir` with HardWraps applied, computed without
    XHTML) of bytes that do not depend on XHTML, except that each void end is `voidEndBytes o.xhtml`. -/
theorem xhtml_only_voids_render (o : Opts) (e : Exts) (a : Nat) (hea : o.ea = none) (hta : o.tableAlign = some a)
    (ha : a ≠ 0) (t : Node) :
    render (mkRCfg o e) t =
      ((ir e a (o.writerEsc.getD false) t).flatMap (hardWrap o.hardWraps)).flatMap
        (fun p => if p.isVoidEnd then voidEndBytes o.xhtml else emitBase false o.unsafe_ p) := by
  rw [Proof.render_factor o e a hea hta ha t, Proof.flatMap_emit, Proof.emitBase_xhtml_fun]

/-- XHTML on versus off, side by side: same pieces, same bytes, ` />` instead of `>` at the void ends. -/
theorem xhtml_on_off (o : Opts) (e : Exts) (a : Nat) (hea : o.ea = none) (hta : o.tableAlign = some a)
    (ha : a ≠ 0) (t : Node) :
    let ps := (ir e a (o.writerEsc.getD false) t).flatMap (hardWrap o.hardWraps)
    render (mkRCfg { o with xhtml := false } e) t =
        ps.flatMap (fun p => if p.isVoidEnd then [62] else emitBase false o.unsafe_ p) ∧
    render (mkRCfg { o with xhtml := true } e) t =
        ps.flatMap (fun p => if p.isVoidEnd then [32, 47, 62] else emitBase false o.unsafe_ p) := by
  have hv : voidEndBytes true = [32, 47, 62] := Proof.voidEndBytes_true
  have h0 := xhtml_only_voids_render { o with xhtml := false } e a hea hta ha t
  have h1 := xhtml_only_voids_render { o with xhtml := true } e a hea hta ha t
  simp only [hv] at h1
  exact ⟨h0, h1⟩

/-! ### clause 2: HardWraps only puts a `<br>` element before each soft line break -/

/-- One piece: only `softBreak` depends on HardWraps, and with HardWraps it is the `<br` + void end followed by
    what it is without. -/
theorem hardwraps_only_softbreaks (x h u : Bool) (p : Piece) :
    (p.isSoftBreak = false → emit x h u p = emit x false u p) ∧
    emit x true u .softBreak = strBytes "<br" ++ voidEndBytes x ++ emit x false u .softBreak ∧
    emit x false u .softBreak = [10] :=
  ⟨Proof.emit_hardWraps x h u p, Proof.emit_softBreak_hard x u, rfl⟩

/-- Whole output, HardWraps on versus off: same pieces; each soft break is preceded by the `<br>` element, nothing
    else changes. -/
theorem hardwraps_on_off (o : Opts) (e : Exts) (a : Nat) (hea : o.ea = none) (hta : o.tableAlign = some a)
    (ha : a ≠ 0) (t : Node) :
    let ps := ir e a (o.writerEsc.getD false) t
    render (mkRCfg { o with hardWraps := false } e) t = ps.flatMap (emit o.xhtml false o.unsafe_) ∧
    render (mkRCfg { o with hardWraps := true } e) t =
        ps.flatMap (fun p => (if p.isSoftBreak then strBytes "<br" ++ voidEndBytes o.xhtml else []) ++
                              emit o.xhtml false o.unsafe_ p) := by
  have h0 := Proof.render_factor { o with hardWraps := false } e a hea hta ha t
  have h1 := Proof.render_factor { o with hardWraps := true } e a hea hta ha t
  rw [Proof.emit_hardWraps_fun] at h1
  exact ⟨h0, h1⟩

/-! ### clause 3: Unsafe only changes raw HTML and destinations classified dangerous -/

/-- One piece: a piece that is neither raw HTML nor a dangerous destination has the same bytes with and without
    Unsafe; the sensitive ones are placeholder vs original bytes, empty vs actual (HTML-escaped) URL. -/
theorem unsafe_only_raw (x h u : Bool) (p : Piece) :
    (p.unsafeSensitive = false → emit x h u p = emit x h false p) ∧
    (∀ ls, emit x h false (.rawBlock ls) = omitted ++ [10] ∧ emit x h true (.rawBlock ls) = ls.flatMap secureWrite) ∧
    (∀ c, emit x h false (.rawBlockClosure c) = omitted ++ [10] ∧ emit x h true (.rawBlockClosure c) = secureWrite c) ∧
    (∀ ss, emit x h false (.rawInline ss) = omitted ∧ emit x h true (.rawInline ss) = ss.flatten) ∧
    (∀ d, isDangerousURL d = true → emit x h false (.url d) = [] ∧ emit x h true (.url d) = escapeHTML d) := by
  refine ⟨Proof.emit_unsafeOff x h u p, ?_, ?_, ?_, ?_⟩ <;> intros <;> simp_all [emit, hardWrap, emitBase, urlOut]

/-- Whole output: the bytes of every non-sensitive piece are those of the safe rendering, whatever Unsafe is. -/
theorem unsafe_only_raw_render (o : Opts) (e : Exts) (a : Nat) (hea : o.ea = none) (hta : o.tableAlign = some a)
    (ha : a ≠ 0) (t : Node) :
    render (mkRCfg o e) t =
      (ir e a (o.writerEsc.getD false) t).flatMap
        (fun p => if p.unsafeSensitive then emit o.xhtml o.hardWraps o.unsafe_ p
                  else emit o.xhtml o.hardWraps false p) := by
  rw [Proof.render_factor o e a hea hta ha t, ← Proof.emit_unsafe_fun]

/-- Unsafe changes nothing when the tree has no raw HTML and no dangerous destination. -/
theorem unsafe_noop_without_raw (o : Opts) (e : Exts) (a : Nat) (hea : o.ea = none) (hta : o.tableAlign = some a)
    (ha : a ≠ 0) (t : Node)
    (hclean : ∀ p ∈ ir e a (o.writerEsc.getD false) t, p.unsafeSensitive = false) :
    render (mkRCfg { o with unsafe_ := true } e) t = render (mkRCfg { o with unsafe_ := false } e) t := by
  rw [Proof.render_factor { o with unsafe_ := true } e a hea hta ha t,
    Proof.render_factor { o with unsafe_ := false } e a hea hta ha t]
  exact Proof.flatMap_emit_unsafe_noop _ _ _ hclean

/-- The same, with the hypothesis on the tree: no HTMLBlock / RawHTML node anywhere and no Link / Image / AutoLink
    whose URL-escaped destination is classified dangerous. -/
theorem unsafe_noop_clean_tree (o : Opts) (e : Exts) (a : Nat) (hea : o.ea = none) (hta : o.tableAlign = some a)
    (ha : a ≠ 0) (t : Node) (hclean : t.unsafeFree = true) :
    render (mkRCfg { o with unsafe_ := true } e) t = render (mkRCfg { o with unsafe_ := false } e) t :=
  unsafe_noop_without_raw o e a hea hta ha t (Proof.irNode_unsafeFree e a _ false none t hclean)

/-! ### the proviso is needed -/

/-- one left-aligned table cell -/
def cellTree : Node := .mk (.tableCell 0) none []

/-- WITHOUT pinning the alignment method the factorisation is impossible: with the Default method the cell is
    `<td align="left">` under XHTML and `<td style="text-align:left">` otherwise, and no piece list whatsoever
    (for any HardWraps/Unsafe) produces both, because an XHTML-on emission is never shorter than the XHTML-off
    emission of the same pieces. -/
theorem witness_default_align :
    ¬ ∃ (ps : List Piece) (h u : Bool),
        ∀ x, render (mkRCfg { xhtml := x } { table := true }) cellTree = ps.flatMap (emit x h u) := by
  rintro ⟨ps, h, u, hx⟩
  have h1 := congrArg List.length (hx true)
  have h0 := congrArg List.length (hx false)
  have l1 : (render (mkRCfg { xhtml := true } { table := true }) cellTree).length = 23 := by decide +kernel
  have l0 : (render (mkRCfg { xhtml := false } { table := true }) cellTree).length = 34 := by decide +kernel
  have := Proof.flatMap_emit_len_mono h u ps
  omega

/-! ### non-vacuity and tests (examples on literals are tests, not proofs of the property) -/

/-- the hypotheses are satisfiable for every combination of the three options -/
example (x h u : Bool) :
    ({ xhtml := x, hardWraps := h, unsafe_ := u, tableAlign := some 1 } : Opts).ea = none ∧
    ({ xhtml := x, hardWraps := h, unsafe_ := u, tableAlign := some 1 } : Opts).tableAlign = some 1 ∧ 1 ≠ 0 :=
  ⟨rfl, rfl, by decide⟩

/-- a paragraph `a⏎<b>[x](javascript:y)` then a thematic break -/
def sample : Node :=
  .mk .document none
    [.mk .paragraph none
       [.mk (.text [97] true false false false) none [], .mk (.rawHTML [[60, 98, 62]]) none [],
        .mk (.link (strBytes "javascript:y") none) none [.mk (.text [120] false false false false) none []]],
     .mk .thematicBreak none []]

/-- test: the sample's piece list contains every option-sensitive kind of piece -/
example : (ir {} 1 false sample).any Piece.isVoidEnd ∧ (ir {} 1 false sample).any Piece.isSoftBreak ∧
    (ir {} 1 false sample).any Piece.unsafeSensitive := by decide +kernel

/-- test: a tree that satisfies the clean-tree hypothesis, and one that does not -/
example : cellTree.unsafeFree = true ∧ sample.unsafeFree = false := by decide +kernel

/-- test: all options off / all on -/
example : render (mkRCfg { tableAlign := some 1 } {}) sample =
    strBytes "<p>a\n<!-- raw HTML omitted --><a href=\"\">x</a></p>\n<hr>\n" := by decide +kernel
example : render (mkRCfg { tableAlign := some 1, xhtml := true, hardWraps := true, unsafe_ := true } {}) sample =
    strBytes "<p>a<br />\n<b><a href=\"javascript:y\">x</a></p>\n<hr />\n" := by decide +kernel

/-- test: the two renderings of the witness -/
example : render (mkRCfg { xhtml := true } { table := true }) cellTree = strBytes "<td align=\"left\"></td>\n" := by
  decide +kernel
example : render (mkRCfg { xhtml := false } { table := true }) cellTree =
    strBytes "<td style=\"text-align:left\"></td>\n" := by decide +kernel

/-- (re-export of `GM.Props.ConvertE2E.convert_options_orthogonal`) `convert_options_orthogonal` (C10 `render_factor` / `xhtml_only_voids_render` / `hardwraps_only_softbreaks` /
    `unsafe_only_raw_render` between `convertCore uc o src` and `convertCore uc o' src`). For EVERY source there is ONE
    piece list `ps`, computed without the three options, such that for every option set the HTML `convertCore` answers
    is (a) the concatenation of `emit o.xhtml o.hardWraps o.unsafe_` over `ps`; (b) — XHTML — the concatenation over the
    HardWraps-rewritten list of bytes that do not depend on XHTML, except that each void end is `>` / ` />`; (c) —
    HardWraps — the HardWraps-off emission with `<br` + void end in front of each soft break; (d) — Unsafe — the safe
    emission of every piece that is neither raw HTML nor a destination classified dangerous. Or the parse phases fail
    and every option set gets the same error. -/
theorem convert_options_orthogonal : type_of% @GM.Props.ConvertE2E.convert_options_orthogonal := @GM.Props.ConvertE2E.convert_options_orthogonal

/-- (re-export of `GM.Props.ConvertE2E.convert_tree_independent_of_options`) `convert_tree_independent_of_options`. By construction of `convertCore` the parse phases do not see the renderer
    options: either they answer one tree `t` and the outcome is `render` of THAT tree for every option set (no option
    set makes the renderer panic), or they answer one error and that is the outcome for every option set. -/
theorem convert_tree_independent_of_options : type_of% @GM.Props.ConvertE2E.convert_tree_independent_of_options := @GM.Props.ConvertE2E.convert_tree_independent_of_options

/-- (re-export of `GM.Props.ConvertE2E.convert_unsafe_only_changes_raw`) `convert_unsafe_only_changes_raw`: two conversions of the same source that differ only in `Unsafe` are emissions of
    the same piece list that agree on every piece that is neither raw HTML nor a dangerous destination. -/
theorem convert_unsafe_only_changes_raw : type_of% @GM.Props.ConvertE2E.convert_unsafe_only_changes_raw := @GM.Props.ConvertE2E.convert_unsafe_only_changes_raw

/-- (re-export of `GM.Props.ConvertE2EAll.convert_options_orthogonal_total`) **`convert_options_orthogonal_total`** — C10 END TO END, no hypothesis on the source: for EVERY source there is ONE piece list
    `ps`, computed without the three renderer options, such that for EVERY option set (all eight) `convertCore` answers HTML and
    that HTML is (a) the concatenation of `emit o.xhtml o.hardWraps o.unsafe_` over `ps`; (b) — XHTML — the concatenation over
    the HardWraps-rewritten list of bytes that do not depend on XHTML, except that each void end is `>` / ` />`; (c) — HardWraps
    — the HardWraps-off emission with `<br` + void end in front of each soft break; (d) — Unsafe — the safe emission of every
    piece that is neither raw HTML nor a destination classified dangerous. (`convert_options_orthogonal` without its error
    alternative.) -/
theorem convert_options_orthogonal_total : type_of% @GM.Props.ConvertE2EAll.convert_options_orthogonal_total := @GM.Props.ConvertE2EAll.convert_options_orthogonal_total

/-- (re-export of `GM.Props.ConvertE2EAll.convert_one_tree_for_all_options`) **`convert_one_tree_for_all_options`**: for every source the parse phases answer ONE tree, and for every option set the
    outcome is `render` of that tree -/
theorem convert_one_tree_for_all_options : type_of% @GM.Props.ConvertE2EAll.convert_one_tree_for_all_options := @GM.Props.ConvertE2EAll.convert_one_tree_for_all_options

/-- (re-export of `GM.Props.ConvertE2EAll.convert_unsafe_only_changes_raw_total`) **`convert_unsafe_only_changes_raw_total`**: the safe and the unsafe conversion of every source both answer HTML, as emissions
    of one piece list that agree on every piece that is neither raw HTML nor a dangerous destination -/
theorem convert_unsafe_only_changes_raw_total : type_of% @GM.Props.ConvertE2EAll.convert_unsafe_only_changes_raw_total := @GM.Props.ConvertE2EAll.convert_unsafe_only_changes_raw_total

end GM.Props.C10
