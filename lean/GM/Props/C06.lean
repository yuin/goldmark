/-
  Property C06 — output is a pure function of configuration and source.
  Proved here:
   * for the instance state machine (pending options, configuration frozen by a Once at first use, per-call
     document state): after ANY history of earlier calls a call returns what it returns on a fresh
     instance, and Convert is Parse followed by Render;
   * rendering is a function of the tree alone in the renderer model (GM.Model.Render mirrors every node
     renderer including the table cell's style computation, which does not write the node, repair 72d659a):
     re-rendering gives the same bytes — by construction, the tie is the `render` correspondence;
   * the kernel-checked obligations over the REGENERATED write facts that justify the state machine: every
     write to long-lived goldmark state is in a Once closure, a configuration method or a package
     initialiser, and no method on the Parse/Render path writes through a long-lived receiver.
  Not provable here (searched by the `history` component): that the unmodelled block/inline parsers keep no
  state outside the per-call Context — a state leak there would show as a new write fact or in the search.
-/
import GM.Model.Instance
import GM.Spec.StateFacts

namespace GM.Props.C06
open GM GM.Instance

variable {Cfg Src Out : Type}

theorem frozen_after_use (conv : Cfg → Src → Out) (i : Inst Cfg) (s : Src) :
    (use conv i s).1.frozen = some (i.frozen.getD i.pending) := by
  unfold use; cases h : i.frozen <;> simp [h]

theorem use_out (conv : Cfg → Src → Out) (i : Inst Cfg) (s : Src) :
    (use conv i s).2 = conv (i.frozen.getD i.pending) s := by
  unfold use; cases h : i.frozen <;> simp [h]

theorem runHist_cfg (conv : Cfg → Src → Out) (i : Inst Cfg) (hist : List Src) :
    (runHist conv i hist).frozen.getD (runHist conv i hist).pending = i.frozen.getD i.pending := by
  induction hist generalizing i with
  | nil => rfl
  | cons s rest ih =>
    simp only [runHist]
    rw [ih]
    rw [frozen_after_use]
    simp

/-- After any history of earlier conversions on the same instance, converting `src` yields exactly what a
    fresh instance of the same configuration yields. -/
theorem history_irrelevant (conv : Cfg → Src → Out) (i : Inst Cfg) (hist : List Src) (src : Src) :
    (use conv (runHist conv i hist) src).2 = (use conv i src).2 := by
  rw [use_out, use_out, runHist_cfg]

/-- Repeated calls give identical results. -/
theorem repeat_same (conv : Cfg → Src → Out) (i : Inst Cfg) (src : Src) :
    (use conv (use conv i src).1 src).2 = (use conv i src).2 :=
  history_irrelevant conv i [src] src

/-- Convert is Parse followed by Render. -/
theorem convert_eq_parse_render {P R Ast : Type} (parse : P → Src → Ast) (render : R → Src → Ast → Out)
    (pr : P × R) (src : Src) : convert parse render pr src = render pr.2 src (parse pr.1 src) := rfl

/-- Regenerated fact: every write to long-lived goldmark state sits in a Once closure, a configuration
    method or a package initialiser. -/
theorem facts_shared_writes_guarded : Spec.sharedWritesGuarded = true := by decide +kernel

/-- Regenerated fact: no method on the Parse/Render path (Parse, Render, Open, Continue, Close, Transform,
    render*, …) writes through a long-lived receiver outside a Once closure: parsers, transformers and node
    renderers keep no state between documents. -/
theorem facts_no_path_writes : Spec.noPathWrites = true := by decide +kernel

/-- Regenerated fact: the only sync / sync-atomic objects in goldmark's long-lived structs and package variables
    are the three `sync.Once` guards (no cache behind a mutex, `sync.Map`, `sync.Pool` or atomic pointer). -/
theorem facts_only_once_guards : Spec.onlyOnceGuards = true := by decide +kernel

/-- non-vacuity (test): a history that includes the freezing first call -/
example : (use (fun (c : Nat) (s : Nat) => c + s) (runHist (fun c s => c + s) ⟨5, none⟩ [1, 2, 3]) 10).2 = 15 := by
  decide

end GM.Props.C06
