/-
  GM.Spec.QuoteHyp — the FORMER hypotheses of the whole-run C08 theorem as ONE executable test on a source, for the
  driver (op `blocks quotesimhyp`): the class of sources (no tab, no CR, ends with a line feed, no byte that can start
  a list item) and, evaluated on the model's run on the source ITSELF: it ends normally, has read all lines, and its
  node store is well shaped. All of this is PROVED for the class now (`GM.Props.C08.quote_prefix_run`,
  `original_run_well_shaped`; `quote_prefix_simulation_class` assumes nothing), so the test is a REGRESSION ORACLE of
  the model: it can only fail if the executable model and the proved statements diverge.
  Core Lean only; no proofs here (`GM.Blocks.quoteHyp_of_B` in GM/Proof/QuoteSimTop.lean shows that it implies the
  former hypotheses).
-/
import GM.Model.Blocks

namespace GM.Blocks
open GM GM.Text

/-- `ls` is the first byte of line `k`, and the line exists -/
def lineAtB (src : Bytes) (k ls : Nat) : Bool :=
  decide (ls < src.length) && (ls == 0 || src[ls - 1]? == some 10) && lineNo src ls == k

/-- the reader's line counter points behind the last line -/
def readToEndB (src : Bytes) (s : St) : Bool :=
  (List.range src.length).all fun ls => !lineAtB src s.r.line.toNat ls

/-- the Document has no lines; no List / ListItem; no empty line / info / closure segment; node 0 is nobody's child -/
def wellShapedB (s : St) : Bool :=
  (s.nodes.getD 0 default).lines.isEmpty &&
  s.nodes.all fun n =>
    n.kind != .list && n.kind != .listItem &&
    n.lines.all (fun l => decide (l.start < l.stop)) &&
    (match n.info with | some i => decide (i.start < i.stop) | none => true) &&
    (decide (n.closure.start < 0) || decide (n.closure.start < n.closure.stop)) &&
    !n.children.contains 0

/-- no tab, no CR, no `-` `*` `+`, no digit; the last byte is a line feed -/
def classB (src : Bytes) : Bool :=
  src.all (fun c => c != 9 && c != 13 && c != 45 && c != 42 && c != 43 && !isNumeric c) && src.getLast? == some 10

def quoteHypB (src : Bytes) : Bool :=
  classB src &&
    match run src with
    | .ok s => readToEndB src s && wellShapedB s
    | .error _ => false

/-- `n-a` outside the class, otherwise whether the facts about the original run hold -/
def quoteHypStr (src : Bytes) : String :=
  if classB src then (if quoteHypB src then "ok" else "fail:assumption:quote-sim-hypothesis") else "n-a"

end GM.Blocks
