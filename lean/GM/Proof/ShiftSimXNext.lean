/-
  GM.Proof.ShiftSimXNext — one pass of `lineLoop` from a state that has a line ends with `next`, and the
  statistics only hold lines up to the current one.
-/
import GM.Proof.ShiftSimXHcl
import GM.Proof.ShiftSimXDriver
import GM.Proof.ShiftSimAcyc2
import GM.Proof.IndepFrame

namespace GM.Blocks.Xs
open GM GM.Text GM.Spec GM.Proof.Reader GM.Blocks
open GM.Blocks.Sh (llOpen llFall llBody ll_lineLoop_cons)

/-! ### the line counter never decreases in the driver -/

section lg
open GM.Blocks.Sh (LineGe bpOpen_lg bpContinue_lg)
variable {k : Int}

theorem xn_of_sameReader {α} {m : M α} (h : IFr SameReader m) : Keeps (LineGe k) m := by
  intro s a s' hs e
  have : s'.r = s.r := IFr.apply e h
  show k ≤ s'.r.line
  rw [this]; exact hs

theorem xn_closeBlocks_lg (frm to : Int) : Keeps (LineGe k) (closeBlocks frm to) :=
  xn_of_sameReader (closeBlocks_sameReader frm to)

theorem xn_bpClose_lg (bp : BP) (n : Nat) : Keeps (LineGe k) (bpClose bp n) :=
  xn_of_sameReader (bpClose_fr sameReader_prims (fun _ => rfl) (fun _ => rfl) bp n)

theorem xn_appendChild_lg (p c : Nat) : Keeps (LineGe k) (appendChild p c) :=
  xn_of_sameReader (appendChild_frI sameReader_prims p c)

/-- the line counter at the driver rule (GM.Proof.BlocksDriverKeeps): nothing is asked of a block, a parent or an edge -/
theorem driverOps_lg :
    DriverOps (LineGe k) (fun A => ∀ s s' : St, True → A s → A s') (fun _ _ => True) (fun _ _ => True) (fun _ _ _ _ => True)
      bpClose (transformParagraph []) :=
  DriverOps.ofRel (R := fun _ _ => True) (hB := fun _ _ _ _ h => h) (hP := fun _ _ _ _ h => h)
    (hAtt := fun _ _ _ _ _ _ h => h) (stack := fun _ _ _ _ => trivial)
    (hpeek := fun s a s' hs e => ⟨Sh.peekLine_lg s a s' hs e, trivial⟩)
    (hoff := fun s a s' hs e => ⟨Sh.lineOffset_lg s a s' hs e, trivial⟩)
    (hadv := fun s a s' hs e => ⟨Int.le_trans hs (Sh.ll_advanceLine_line s s' a e).1, trivial⟩)
    (hskip := fun s a s' hs e => ⟨Int.le_trans hs (Sh.skipBlankLinesR_line s s' a e).1, trivial⟩)
    (hpcw := fun _ _ hs _ => ⟨hs, trivial⟩) (hopened := fun _ _ hs _ => ⟨hs, trivial⟩)
    (hblank := fun _ c _ _ s a s' hs _ e => ⟨Sh.modNode_lg c _ s a s' hs e, trivial⟩)
    (happend := fun _ c p s a s' hs _ e => ⟨xn_appendChild_lg p c s a s' hs e, trivial⟩)
    (hopn := fun bp p s a s' hs _ e => ⟨⟨bpOpen_lg k bp p s a s' hs e, trivial⟩, fun _ _ => ⟨trivial, trivial, fun _ => trivial⟩⟩)
    (hcont := fun b s a s' hs _ e => ⟨bpContinue_lg k b.bp b.node s a s' hs e, trivial⟩)
    (hclose := fun b s a s' hs _ e => ⟨xn_bpClose_lg b.bp b.node s a s' hs e, trivial⟩)
    (htp := fun _ s _ _ hs _ e => by rw [transformParagraph_nil] at e; cases e; exact ⟨hs, trivial⟩)

theorem xn_openBlocks_lg (parent : Nat) (blank : Bool) : Keeps (LineGe k) (openBlocks parent blank) :=
  fun s a s' hs e => (Hoare.Tri.top_iff.1 (driverOps_lg.openBlocks_keeps (A := fun _ => True) (fun _ _ _ _ => trivial) parent
    (fun _ _ => trivial) blank) s a s' ⟨hs, trivial⟩ e).1

end lg

theorem xn_openBlocks_line (parent : Nat) (blank : Bool) (s s' : St) (a : OpenResult)
    (h : openBlocks parent blank s = .ok (a, s')) : s.r.line ≤ s'.r.line :=
  xn_openBlocks_lg parent blank s a s' (Int.le_refl _) h

theorem xn_closeBlocks_line (frm to : Int) (s s' : St) (a : Unit)
    (h : closeBlocks frm to s = .ok (a, s')) : s.r.line ≤ s'.r.line :=
  xn_closeBlocks_lg frm to s a s' (Int.le_refl _) h

/-- the statistics only hold lines up to the current one -/
def SLe (st : List LineStat) (s : St) : Prop := ∀ e ∈ st, e.lineNum ≤ s.r.line

theorem SLe.mono {st : List LineStat} {s s' : St} (h : SLe st s) (hl : s.r.line ≤ s'.r.line) : SLe st s' :=
  fun e he => Int.le_trans (h e he) hl

theorem xn_llOpen (openedBlocks : List Block) (lastIndex i : Int) (blank : Bool) (blankLines : List LineStat)
    (thisParent : Nat) (s s' : St) (x : LineOutcome × List LineStat)
    (h : llOpen openedBlocks lastIndex i blank blankLines thisParent s = .ok (x, s')) :
    x = (.next, blankLines) ∧ s.r.line ≤ s'.r.line := by
  unfold llOpen at h
  obtain ⟨ln, s1, h1, hA⟩ := bind_ok_inv h
  obtain ⟨_, e1⟩ := liftE_ok_inv h1
  subst e1
  obtain ⟨r, s2, h2, hB⟩ := bind_ok_inv hA
  have k2 := xn_openBlocks_line _ _ _ _ _ h2
  split at hB
  · obtain ⟨pc, s3, h3, hC⟩ := bind_ok_inv hB
    obtain ⟨_, e3⟩ := Sh.a2_getPc_inv h3
    subst e3
    obtain ⟨_, s4, h4, hD⟩ := bind_ok_inv hC
    cases hD
    exact ⟨rfl, Int.le_trans k2 (xn_closeBlocks_line _ _ _ _ _ h4)⟩
  · cases hB
    exact ⟨rfl, k2⟩

theorem xn_llFall (parent : Nat) (openedBlocks : List Block) (lastIndex i lineNum : Int)
    (blankLines : List LineStat) (s s' : St) (x : LineOutcome × List LineStat)
    (h : llFall parent openedBlocks lastIndex i lineNum blankLines s = .ok (x, s')) :
    x = (.next, blankLines) ∧ s.r.line ≤ s'.r.line := by
  unfold llFall at h
  split at h
  · obtain ⟨b, s1, h1, hA⟩ := bind_ok_inv h
    obtain ⟨_, e1⟩ := liftE_ok_inv h1
    subst e1
    exact xn_llOpen _ _ _ _ _ _ _ _ _ hA
  · exact xn_llOpen _ _ _ _ _ _ _ _ _ h

/-- one pass from a state that has a line ends with `next` (also for `rest = []`) -/
theorem xn_lineLoop (b : Bytes) (hnl : b.getLast? = some 10) (parent : Nat) (ob : List Block) (li : Int)
    (hob : ∀ z ∈ ob, Cov6 z.bp) :
    ∀ (rest : List Block) (i : Int) (bl : List LineStat) (s s' : St) (x : LineOutcome × List LineStat),
      (∀ z ∈ rest, z ∈ ob) → HasLine b s → SLe bl s →
      lineLoop parent ob li rest i bl s = .ok (x, s') → x.1 = .next ∧ SLe x.2 s' ∧ s.r.line ≤ s'.r.line := by
  intro rest
  induction rest with
  | nil =>
    intro i bl s s' x _ _ hsle h
    unfold lineLoop at h
    cases h
    exact ⟨rfl, hsle, Int.le_refl _⟩
  | cons be rest ih =>
    intro i bl s s' x hrest hl hsle h
    rw [ll_lineLoop_cons] at h
    obtain ⟨lp, s1, h1, hA⟩ := bind_ok_inv h
    have k1 : s.r.line ≤ s1.r.line := Sh.peekLine_lg (k := s.r.line) s lp s1 (Int.le_refl _) h1
    obtain ⟨c0, hc0, hp0⟩ := hl
    have hlp : lp.1 = RCur.view b c0 ∧ RI b s1.r c0 := by
      obtain ⟨r', e1, e2⟩ := ri_peekLine hc0
      unfold GM.Blocks.peekLine at h1
      rw [e1] at h1
      cases h1
      exact ⟨rfl, e2⟩
    have hline1 : HasLine b s1 := ⟨c0, hlp.2, hp0⟩
    cases hv : lp.1 with
    | none =>
      rw [hlp.1, view_eq b c0 hp0] at hv
      cases hv
    | some line =>
      rw [hv] at hA
      obtain ⟨y, s2, h2, hB⟩ := bind_ok_inv hA
      cases h2
      have hsle1 : SLe (bl ++ [{ lineNum := s1.r.position.1, level := i, isBlank := isBlank line }]) s1 := by
        intro e he
        rcases List.mem_append.1 he with he | he
        · exact Int.le_trans (hsle e he) k1
        · rw [List.mem_singleton.1 he]
          exact Int.le_refl _
      have hcov : Cov6 be.bp := hob be (hrest be List.mem_cons_self)
      have fall : ∀ t, s1.r.line ≤ t.r.line → llFall parent ob li i s1.r.position.1
          (bl ++ [{ lineNum := s1.r.position.1, level := i, isBlank := isBlank line }]) t = .ok (x, s') →
          x.1 = .next ∧ SLe x.2 s' ∧ s.r.line ≤ s'.r.line := by
        intro t kt e
        obtain ⟨ex, ke⟩ := xn_llFall _ _ _ _ _ _ _ _ _ e
        subst ex
        exact ⟨rfl, hsle1.mono (Int.le_trans kt ke), Int.le_trans k1 (Int.le_trans kt ke)⟩
      unfold llBody at hB
      obtain ⟨bn, s3, h3, hC⟩ := bind_ok_inv hB
      obtain ⟨_, e3⟩ := Sh.a2_getNode_inv h3
      subst e3
      split at hC
      · obtain ⟨st, s4, h4, hD⟩ := bind_ok_inv hC
        have k4 := Sh.bpContinue_line _ _ _ _ _ h4
        by_cases hc : st.cont = true
        · rw [if_pos hc] at hD
          split at hD
          · obtain ⟨_, s5, h5, hE⟩ := bind_ok_inv hD
            cases hE
            have k5 := xn_openBlocks_line _ _ _ _ _ h5
            exact ⟨rfl, hsle1.mono (Int.le_trans k4 k5), Int.le_trans k1 (Int.le_trans k4 k5)⟩
          · have hline4 : HasLine b s4 := by
              cases hk : st.hasChildren with
              | true => exact strictC6 b hnl be.bp hcov _ _ _ _ hline1 h4 hc hk
              | false => exact continue_leaf_hasLine b hnl be.bp hcov _ _ _ _ hline1 h4 hc hk
            obtain ⟨q1, q2, q3⟩ := ih (i + 1) _ _ _ _ (fun z hz => hrest z (List.mem_cons_of_mem _ hz)) hline4
              (hsle1.mono k4) hD
            exact ⟨q1, q2, Int.le_trans k1 (Int.le_trans k4 q3)⟩
        · rw [if_neg hc] at hD
          exact fall _ k4 hD
      · exact fall _ (Int.le_refl _) hC

theorem lineLoop_next_sle (b : Bytes) (hnl : b.getLast? = some 10) (ob : List Block) (li : Int)
    (hob : ∀ z ∈ ob, Cov6 z.bp) :
    ∀ (rest : List Block) (i : Int) (bl : List LineStat) (s s' : St) (x : LineOutcome × List LineStat),
      (∀ z ∈ rest, z ∈ ob) → rest ≠ [] → HasLine b s → SLe bl s →
      lineLoop 0 ob li rest i bl s = .ok (x, s') → x.1 = .next ∧ SLe x.2 s' := by
  intro rest i bl s s' x hrest _ hl hsle h
  obtain ⟨q1, q2, _⟩ := xn_lineLoop b hnl 0 ob li hob rest i bl s s' x hrest hl hsle h
  exact ⟨q1, q2⟩

end GM.Blocks.Xs
