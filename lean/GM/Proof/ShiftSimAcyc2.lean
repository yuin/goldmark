/-
  GM.Proof.ShiftSimAcyc2 — for every source, the store the block-phase model builds is acyclic (`Acyc`) and its
  Document (node 0) has no lines (`run_acyc`).
  * `DocInv`: node 0 is a Document without lines and nobody's child.
  * `DocTree I`: `I` contains `DocInv` and is kept by the writes that leave node 0 alone or change only its links; such
    an `I` is kept by every `Open` / `Continue` / `Close` that is given a node id `≠ 0` (`DocTree.step`, `DocTree.link`
    for the primitive steps and link writes of GM.Proof.BlocksStep; calculus `Keeps`, tactic `a2`, for `Close`).
    Instances: `DocInv`, and `D` of GM.Proof.ShiftSimXDoc0.
  * `K`: `Acyc`, `DocInv`, and every open block is a node `≠ 0` of the store; kept by the driver: `driverOps_ki` is the
    driver rule of GM.Proof.BlocksDriverKeeps at `KI I` (`K` with `I` in place of `DocInv`), `ki_closeBlocks`,
    `ki_openBlocks`, `ki_lineLoop`, `ki_blocksLoop` are read off it; the candidate loop (`ki_tryParsers`) is walked here,
    because its clients know of `lastBlock` only that its node is not the Document.
-/
import GM.Proof.ShiftSimAcyc
import GM.Proof.BlocksDriverKeeps
import GM.Proof.ShiftSimDriver

namespace GM.Blocks.Sh
open GM GM.Text GM.Blocks

def DocOK (s : St) : Prop :=
  (s.nodes.getD 0 default).lines = [] ∧ (s.nodes.getD 0 default).kind = .document

/-- the store is not empty, node 0 is a Document without lines, and node 0 is nobody's child -/
def DocInv (s : St) : Prop :=
  0 < s.nodes.length ∧ DocOK s ∧ ∀ j, 0 ∉ (s.nodes.getD j default).children

theorem a2_noR : NoR DocInv := ⟨fun _ _ hs => hs⟩

theorem a2_set (s : St) (id : Nat) (v : Node) (hs : DocInv s)
    (hl : id ≠ 0 ∨ (v.lines = (s.nodes.getD id default).lines ∧ v.kind = (s.nodes.getD id default).kind))
    (hc : ∀ x, x ∈ v.children → x ∈ (s.nodes.getD id default).children ∨ x ≠ 0) :
    DocInv { s with nodes := s.nodes.set id v } := by
  obtain ⟨h1, ⟨h2, h3⟩, h4⟩ := hs
  refine ⟨?_, ⟨?_, ?_⟩, ?_⟩
  · show 0 < (s.nodes.set id v).length
    rw [List.length_set]; exact h1
  · show ((s.nodes.set id v).getD 0 default).lines = []
    rw [ac_getD_set]
    split
    · rename_i h
      rcases hl with hl | hl
      · exact absurd h.1 hl
      · obtain ⟨rfl, _⟩ := h; rw [hl.1]; exact h2
    · exact h2
  · show ((s.nodes.set id v).getD 0 default).kind = .document
    rw [ac_getD_set]
    split
    · rename_i h
      rcases hl with hl | hl
      · exact absurd h.1 hl
      · obtain ⟨rfl, _⟩ := h; rw [hl.2]; exact h3
    · exact h3
  · intro j hm
    change 0 ∈ ((s.nodes.set id v).getD j default).children at hm
    rw [ac_getD_set] at hm
    split at hm
    · rename_i h
      obtain ⟨rfl, _⟩ := h
      rcases hc 0 hm with h5 | h5
      · exact h4 _ h5
      · exact h5 rfl
    · exact h4 _ hm

theorem a2_push (s : St) (n : Node) (hs : DocInv s) (hc : n.children = []) :
    DocInv { s with nodes := s.nodes ++ [n] } := by
  obtain ⟨h1, ⟨h2, h3⟩, h4⟩ := hs
  refine ⟨?_, ⟨?_, ?_⟩, ?_⟩
  · show 0 < (s.nodes ++ [n]).length
    rw [List.length_append]; exact Nat.lt_of_lt_of_le h1 (Nat.le_add_right _ _)
  · show ((s.nodes ++ [n]).getD 0 default).lines = []
    rw [ac_getD_push, if_pos h1]; exact h2
  · show ((s.nodes ++ [n]).getD 0 default).kind = .document
    rw [ac_getD_push, if_pos h1]; exact h3
  · intro j hm
    change 0 ∈ ((s.nodes ++ [n]).getD j default).children at hm
    rw [ac_getD_push] at hm
    split at hm
    · exact h4 _ hm
    · split at hm
      · rw [hc] at hm; cases hm
      · cases hm

/-- an invariant that contains `DocInv` and is kept by the writes that keep `DocInv` and the shape of the Document -/
structure DocTree (I : St → Prop) : Prop where
  doc : ∀ s, I s → DocInv s
  noR : NoR I
  pc : ∀ s pc, I s → I { s with pc := pc }
  /-- a write to a node other than the Document that keeps `children` -/
  setNe : ∀ s id v, I s → id ≠ 0 → v.children = (s.nodes.getD id default).children →
    I { s with nodes := s.nodes.set id v }
  /-- a write of `children` that adds only nodes `≠ 0`, or the reset of `parent` -/
  setCh : ∀ s id v, I s →
    (v = { s.nodes.getD id default with children := v.children } ∨
      v = { s.nodes.getD id default with parent := none }) →
    (∀ x, x ∈ v.children → x ∈ (s.nodes.getD id default).children ∨ x ≠ 0) →
    I { s with nodes := s.nodes.set id v }
  push : ∀ s n, I s → n.children = [] → I { s with nodes := s.nodes ++ [n] }

theorem a2_docTree : DocTree DocInv where
  doc := fun _ hs => hs
  noR := a2_noR
  pc := fun _ _ hs => hs
  setNe := fun s id v hs hid hc => a2_set s id v hs (Or.inl hid) fun x hx => Or.inl (hc ▸ hx)
  setCh := fun s id v hs hv hc => a2_set s id v hs (Or.inr (by rcases hv with h | h <;> rw [h] <;> exact ⟨rfl, rfl⟩)) hc
  push := a2_push

theorem a2_modNode_ch (id : Nat) (f : Node → Node)
    (h : ∀ n, (f n).lines = n.lines ∧ (f n).kind = n.kind ∧ ∀ x, x ∈ (f n).children → x ∈ n.children ∨ x ≠ 0) :
    Keeps DocInv (modNode id f) := by
  intro s a s' hs hm
  cases hm
  exact a2_set s id _ hs (Or.inr ⟨(h _).1, (h _).2.1⟩) (h _).2.2

theorem DocTree.step {I : St → Prop} (hI : DocTree I) {Kw : Prop} {W : Nat → Prop} {s s' : St} (h : Step Kw W s s')
    (hW : ∀ id, W id → id ≠ 0) (hs : I s) : I s' := by
  induction h with
  | refl => exact hs
  | trans _ _ ih1 ih2 => exact ih2 (ih1 hs)
  | rd s r' _ _ => exact hI.noR.h s r' hs
  | key s pc' _ _ => exact hI.pc s pc' hs
  | write s id v hw hv => exact hI.setNe s id v hs (hW id hw) hv.links.2.1
  | push s n _ hc => exact hI.push s n hs hc

section tree
variable {I : St → Prop} (hI : DocTree I)
include hI

theorem dt_modPc (f : Ctx → Ctx) : Keeps I (modPc f) := modPc_keeps f fun s hs => hI.pc s _ hs

theorem dt_modNode_ne (id : Nat) (hid : id ≠ 0) (f : Node → Node) (h : ∀ n, (f n).children = n.children) :
    Keeps I (modNode id f) := by
  intro s a s' hs hm
  cases hm
  exact hI.setNe s id _ hs hid (h _)

theorem dt_appendLine (id : Nat) (hid : id ≠ 0) (seg : Segment) : Keeps I (appendLine id seg) :=
  dt_modNode_ne hI id hid _ fun _ => rfl

theorem dt_newNode (n : Node) (hc : n.children = []) : Keeps I (newNode n) := by
  intro s a s' hs hm
  cases hm
  exact hI.push s n hs hc

theorem dt_bind_new {β} (n : Node) (f : Nat → M β) (hc : n.children = [])
    (hf : ∀ k, 0 < k → Keeps I (f k)) : Keeps I (newNode n >>= f) := by
  intro s b s' hs h
  have h' : f s.nodes.length { s with nodes := s.nodes ++ [n] } = .ok (b, s') := h
  exact hf s.nodes.length (hI.doc s hs).1 _ b s' (hI.push s n hs hc) h'

end tree

macro "a2_ne" : tactic => `(tactic| first | assumption | omega | (apply_assumption; rfl))

macro "a2_inv" : tactic => `(tactic| first | assumption | apply_hyp)

macro "a2_step" : tactic =>
  `(tactic| first
    | with_reducible apply Keeps.pure
    | with_reducible apply ac_pure_bind
    | with_reducible apply ac_throw_bind
    | ((with_reducible apply dt_bind_new) <;> first | rfl | a2_inv | skip)
    | with_reducible apply Keeps.bind
    | with_reducible apply Keeps.ite
    | with_reducible apply Keeps.throw
    | with_reducible apply getNode_keeps
    | with_reducible apply getPc_keeps
    | with_reducible apply source_keeps
    | with_reducible apply get_keeps
    | with_reducible apply liftE_keeps
    | (with_reducible apply dt_modPc; a2_inv)
    | ((with_reducible apply dt_appendLine); a2_inv; a2_ne)
    | ((with_reducible apply dt_modNode_ne); a2_inv; a2_ne; (intro n; rfl))
    | apply_hyp
    | intro_pi
    | split)

/-- walk over the `do` block of a tree operation or a `Close` that keeps a `DocTree` -/
macro "a2" : tactic => `(tactic| repeat' a2_step)

section tree
variable {I : St → Prop} (hI : DocTree I)
include hI

theorem DocTree.link {Kw : Prop} {W : Nat → Prop} {s s' : St} (h : Link (fun _ c => c ≠ 0) Kw W s s')
    (hW : ∀ id, W id → id ≠ 0) (hs : I s) : I s' := by
  induction h with
  | step h => exact hI.step h hW hs
  | trans _ _ ih1 ih2 => exact ih2 (ih1 hs)
  | kids s p cs hc => exact hI.setCh s p _ hs (Or.inl rfl) hc
  | orphan s c => exact hI.setCh s c _ hs (Or.inr rfl) fun x hx => Or.inl hx
  | adopt s c p h => exact hI.setNe s c _ hs h rfl

theorem DocTree.links {α} {m : M α} (h : Links (fun _ c => c ≠ 0) True (· ≠ 0) m) : Keeps I m :=
  fun s a s' hs e => hI.link (h.h s a s' e) (fun _ h => h) hs

theorem dt_appendChild (p c : Nat) (h : c ≠ 0) : Keeps I (appendChild p c) :=
  hI.links (appendChild_links (L := fun _ c => c ≠ 0) h)

theorem dt_replaceChild (p v1 ins : Nat) (h : ins ≠ 0) : Keeps I (replaceChild p v1 ins) :=
  hI.links (replaceChild_links (L := fun _ c => c ≠ 0) v1 h)

theorem dt_bpOpen (bp : BP) (parent : Nat) : Keeps I (bpOpen bp parent) :=
  fun s _ _ hs h =>
    hI.step (bpOpen_step h).1 (fun _ hid => Nat.pos_iff_ne_zero.1 (Nat.lt_of_lt_of_le (hI.doc s hs).1 hid)) hs

theorem dt_bpContinue (n : Nat) (hn : n ≠ 0) (bp : BP) : Keeps I (bpContinue bp n) :=
  fun _ _ _ hs h => hI.step (bpContinue_step h) (fun _ e => e ▸ hn) hs

theorem dt_paragraphClose (n : Nat) (hn : n ≠ 0) : Keeps I (paragraphClose n) :=
  hI.links (paragraphClose_links hn)

theorem dt_codeClose (n : Nat) (hn : n ≠ 0) : Keeps I (codeClose n) :=
  fun s a s' hs h => hI.step ((codeClose_steps (Kw := True) (W := (· = n)) rfl).h s a s' h) (fun _ e => e ▸ hn) hs

theorem dt_fencedClose (n : Nat) : Keeps I (fencedClose n) :=
  fun s a s' hs h => hI.step ((fencedClose_steps (W := fun _ => False) trivial n).h s a s' h) (fun _ e => e.elim) hs

theorem dt_tightenItem (child : Nat) : ∀ gcs, Keeps I (tightenItem child gcs)
  | [] => by unfold tightenItem; exact Keeps.pure _
  | gc :: gcs => by
    have ih := dt_tightenItem child gcs
    have := fun k (hk : 0 < k) => dt_replaceChild hI child gc k (Nat.pos_iff_ne_zero.1 hk)
    unfold tightenItem; a2

theorem dt_tightenItems : ∀ cs, Keeps I (tightenItems cs)
  | [] => by unfold tightenItems; exact Keeps.pure _
  | c :: cs => by
    have ih := dt_tightenItems cs
    have := dt_tightenItem hI
    unfold tightenItems; a2

theorem dt_listClose (n : Nat) (hn : n ≠ 0) : Keeps I (listClose n) := by
  have := dt_tightenItems hI
  unfold listClose; a2

end tree

section tree
variable {I : St → Prop} (hI : DocTree I)
include hI

theorem dt_setextClose (n : Nat) (hn : n ≠ 0) : Keeps I (setextClose n) := by
  intro s a s' hs h
  obtain ⟨s1, s2, l1, hmid, l2⟩ := setextClose_link h
  have hd := hI.doc s hs
  have hL : ∀ p c, SetextL s n p c → c ≠ 0 := fun p c hl => by rw [hl.2]; exact Nat.pos_iff_ne_zero.1 hd.1
  have hW : ∀ id, May n s.nodes id → id ≠ 0 := by
    rintro id (rfl | hl | ⟨q, hq⟩)
    · exact hn
    · exact Nat.pos_iff_ne_zero.1 (Nat.lt_of_lt_of_le hd.1 hl)
    · intro e; subst e; exact hd.2.2 q hq
  have h1 : I s1 := hI.link (l1.mono hL id fun _ h => h) hW hs
  have h2 : I s2 := by
    rcases hmid with rfl | ⟨v, _, hc, _, rfl⟩
    · exact h1
    · exact hI.setNe s1 n v h1 hn hc
  exact hI.link (l2.mono hL id fun _ h => h) hW h2

theorem dt_bpClose (bp : BP) (n : Nat) (hn : n ≠ 0) : Keeps I (bpClose bp n) := by
  cases bp <;> unfold bpClose
  · exact dt_setextClose hI n hn
  · exact Keeps.pure _
  · exact dt_listClose hI n hn
  · exact Keeps.pure _
  · exact dt_codeClose hI n hn
  · exact Keeps.pure _
  · exact dt_fencedClose hI n
  · exact Keeps.pure _
  · exact Keeps.pure _
  · exact dt_paragraphClose hI n hn

end tree

theorem a2_appendChild (p c : Nat) (h : c ≠ 0) : Keeps DocInv (appendChild p c) := dt_appendChild a2_docTree p c h

theorem bpOpen_doc (bp : BP) (parent : Nat) : Keeps DocInv (bpOpen bp parent) := dt_bpOpen a2_docTree bp parent

theorem bpContinue_doc (n : Nat) (hn : n ≠ 0) (bp : BP) : Keeps DocInv (bpContinue bp n) :=
  dt_bpContinue a2_docTree n hn bp

theorem bpClose_doc (bp : BP) (n : Nat) (hn : n ≠ 0) : Keeps DocInv (bpClose bp n) := dt_bpClose a2_docTree bp n hn

/-- the store is acyclic, node 0 is a Document without lines, every open block is a node `≠ 0` of the store -/
structure K (s : St) : Prop where
  acyc : Acyc s
  doc : DocInv s
  opened : ∀ x ∈ s.pc.opened, 0 < x.node ∧ x.node < s.nodes.length

def KS (s s' : St) : Prop := K s' ∧ s.nodes.length ≤ s'.nodes.length

def Same (s0 : St) (t : St) : Prop := t.nodes = s0.nodes ∧ t.pc.opened = s0.pc.opened

theorem a2_same_noR (s0 : St) : NoR (Same s0) := ⟨fun _ _ hs => hs⟩

theorem a2_getNode_inv {id : Nat} {s s' : St} {n : Node} (h : getNode id s = .ok (n, s')) :
    n = s.nodes.getD id default ∧ s' = s := by
  cases h; exact ⟨rfl, rfl⟩

theorem a2_getPc_inv {s s' : St} {pc : Ctx} (h : getPc s = .ok (pc, s')) : pc = s.pc ∧ s' = s := by
  cases h; exact ⟨rfl, rfl⟩

theorem a2_modPc_inv {f : Ctx → Ctx} {s s' : St} {a : Unit} (h : modPc f s = .ok (a, s')) :
    s' = { s with pc := f s.pc } := by
  cases h; rfl

theorem a2_lastOpenedBlock_inv {s s' : St} {x : Option Block} (h : lastOpenedBlock s = .ok (x, s')) :
    x = s.pc.opened.getLast? ∧ s' = s := by
  rw [lastOpenedBlock_eq] at h
  cases h; exact ⟨rfl, rfl⟩

def ObsOK (obs : List Block) (s : St) : Prop := ∀ z ∈ obs, 0 < z.node ∧ z.node < s.nodes.length

theorem ObsOK.mono' {obs : List Block} {s s' : St} (h : ObsOK obs s) (hl : s.nodes.length ≤ s'.nodes.length) :
    ObsOK obs s' :=
  fun z hz => ⟨(h z hz).1, Nat.lt_of_lt_of_le (h z hz).2 hl⟩

/-- what the driver asks of `I`: it looks at the store only, and the steps that write to the store keep it -/
structure DocStep (I : St → Prop) : Prop where
  same : ∀ {s s' : St}, s'.nodes = s.nodes → I s → I s'
  op : ∀ bp p, Keeps I (bpOpen bp p)
  co : ∀ n, n ≠ 0 → ∀ bp, Keeps I (bpContinue bp n)
  cl : ∀ bp n, n ≠ 0 → Keeps I (bpClose bp n)
  append : ∀ p c, c ≠ 0 → Keeps I (appendChild p c)
  blank : ∀ id, id ≠ 0 → ∀ v, Keeps I (modNode id fun n => { n with blankPrev := v })

/-- `K` with `I` in place of `DocInv` -/
structure KI (I : St → Prop) (s : St) : Prop where
  acyc : Acyc s
  doc : I s
  opened : ∀ x ∈ s.pc.opened, 0 < x.node ∧ x.node < s.nodes.length

def KSI (I : St → Prop) (s s' : St) : Prop := KI I s' ∧ s.nodes.length ≤ s'.nodes.length

theorem KSI.refl {I : St → Prop} {s : St} (h : KI I s) : KSI I s s := ⟨h, Nat.le_refl _⟩

theorem KSI.trans {I : St → Prop} {s s1 s2 : St} (h1 : KSI I s s1) (h2 : KSI I s1 s2) : KSI I s s2 :=
  ⟨h2.1, Nat.le_trans h1.2 h2.2⟩

/-- what the "a node was opened" paths establish -/
def TpPostI (I : St → Prop) (s s' : St) (lastBlock : Option Block) (x : TryOutcome × OpenResult × Option Block) : Prop :=
  KSI I s s' ∧ (∀ p, x.1 = .retry p → p < s'.nodes.length) ∧ x.2.2 = lastBlock

section driver
variable {I : St → Prop} (hI : DocStep I)
include hI

omit hI in
theorem ki_KS_mk {s s' : St} (hs : KI I s) (ha : Acyc s') (hd : I s') (ho : s'.pc.opened = s.pc.opened)
    (hl : s.nodes.length ≤ s'.nodes.length) : KSI I s s' :=
  ⟨⟨ha, hd, fun x hx => ⟨(hs.opened x (ho ▸ hx)).1, Nat.lt_of_lt_of_le (hs.opened x (ho ▸ hx)).2 hl⟩⟩, hl⟩

theorem ki_KS_same {s s' : St} (hs : KI I s) (h : Same s s') : KSI I s s' := by
  obtain ⟨hn, ho⟩ := h
  obtain ⟨h1, h2, h3⟩ := hs
  refine ⟨⟨?_, ?_, ?_⟩, by rw [hn]; exact Nat.le_refl _⟩
  · unfold Acyc at *; rw [hn]; exact h1
  · exact hI.same hn h2
  · rw [hn, ho]; exact h3

theorem ki_bpOpen_KS (bp : BP) (parent : Nat) (s s' : St) (a : Option Nat × PState) (hs : KI I s)
    (h : bpOpen bp parent s = .ok (a, s')) : KSI I s s' :=
  ki_KS_mk hs (bpOpen_acyc bp parent s a s' hs.acyc h) (hI.op bp parent s a s' hs.doc h)
    (bpOpen_opened bp parent s s' a h) (bpOpen_len bp parent s s' a h)

theorem ki_bpContinue_KS (bp : BP) (node : Nat) (hn : 0 < node) (s s' : St) (a : PState) (hs : KI I s)
    (h : bpContinue bp node s = .ok (a, s')) : KSI I s s' :=
  ki_KS_mk hs (bpContinue_acyc bp node s a s' hs.acyc h)
    (hI.co node (Nat.pos_iff_ne_zero.1 hn) bp s a s' hs.doc h)
    (bpContinue_opened bp node s s' a h) (bpContinue_len bp node s s' a h)

theorem ki_bpClose_KS (bp : BP) (node : Nat) (hn : 0 < node) (s s' : St) (a : Unit) (hs : KI I s)
    (h : bpClose bp node s = .ok (a, s')) : KSI I s s' :=
  ki_KS_mk hs (bpClose_acyc bp node s a s' hs.acyc h)
    (hI.cl bp node (Nat.pos_iff_ne_zero.1 hn) s a s' hs.doc h)
    (bpClose_opened bp node s s' a h) (bpClose_len bp node s s' a h)

/-- the driver rule of GM.Proof.BlocksDriverKeeps at `KI I`: steps never shrink the store, a stack block is a node `≠ 0` of
    the store, a parent is a node of the store, an attached node is younger than its parent -/
theorem driverOps_ki :
    DriverOps (KI I) (fun A => ∀ s s', s.nodes.length ≤ s'.nodes.length → A s → A s')
      (fun b s => 0 < b.node ∧ b.node < s.nodes.length) (fun p s => p < s.nodes.length) (fun _ c p _ => p < c) bpClose
      (transformParagraph []) :=
  DriverOps.ofRel (R := fun s s' => s.nodes.length ≤ s'.nodes.length)
    (hB := fun _ _ _ r h => ⟨h.1, Nat.lt_of_lt_of_le h.2 r⟩) (hP := fun _ _ _ r h => Nat.lt_of_lt_of_le h r)
    (hAtt := fun _ _ _ _ _ _ h => h) (stack := fun _ hs => hs.opened)
    (hpeek := fun s a s' hs e => ki_KS_same hI hs (peekLine_keeps (a2_same_noR s) s a s' ⟨rfl, rfl⟩ e))
    (hoff := fun s a s' hs e => ki_KS_same hI hs (lineOffset_keeps (a2_same_noR s) s a s' ⟨rfl, rfl⟩ e))
    (hadv := fun s a s' hs e => ki_KS_same hI hs (advanceLine_keeps (a2_same_noR s) s a s' ⟨rfl, rfl⟩ e))
    (hskip := fun s a s' hs e => ki_KS_same hI hs (skipBlankLinesR_keeps (a2_same_noR s) s a s' ⟨rfl, rfl⟩ e))
    (hpcw := fun s pc hs e => ⟨⟨hs.acyc, hI.same (s := s) rfl hs.doc, fun x hx => hs.opened x (e ▸ hx)⟩, Nat.le_refl _⟩)
    (hopened := fun s l hs hl => ⟨⟨hs.acyc, hI.same (s := s) rfl hs.doc, hl⟩, Nat.le_refl _⟩)
    (hblank := fun _ c _ bl s a s' hs hc e =>
      ki_KS_mk hs (ac_modNode_acyc c (fun n => { n with blankPrev := bl }) (fun _ => ⟨rfl, rfl⟩) s a s' hs.acyc e)
        (hI.blank c (Nat.pos_iff_ne_zero.1 hc.1.1) bl s a s' hs.doc e) (modNode_opened _ _ _ _ _ e)
        (ac_modNode_len s.nodes.length c _ s a s' (Nat.le_refl _) e))
    (happend := fun _ c p s a s' hs hc e =>
      ki_KS_mk hs (ac_appendChild p c hc.2 s a s' hs.acyc e) (hI.append p c (Nat.pos_iff_ne_zero.1 hc.1.1) s a s' hs.doc e)
        (appendChild_opened p c s s' a e) (ac_appendChild_len s.nodes.length p c s a s' (Nat.le_refl _) e))
    (hopn := fun bp p s a s' hs hp e => ⟨ki_bpOpen_KS hI bp p s s' a hs e, fun id hid => by
      obtain ⟨f1, f2, _, _⟩ := bpOpen_fresh bp p s s' id a.2 (by rw [← hid]; exact e)
      exact ⟨⟨show 0 < id by omega, f2⟩, show p < id by omega, fun _ => f2⟩⟩)
    (hcont := fun b s a s' hs hb e => ki_bpContinue_KS hI b.bp b.node hb.1 s s' a hs e)
    (hclose := fun b s a s' hs hb e => ki_bpClose_KS hI b.bp b.node hb.1 s s' a hs e)
    (htp := fun _ s a s' hs _ e => by rw [transformParagraph_nil] at e; cases e; exact ⟨hs, Nat.le_refl _⟩)

/-- the two-state reading of the rule's conclusion: the side fact "the store is at least as long as it was at `s`" -/
theorem ki_of_inv {α} {m : M α} {s s' : St} {a : α}
    (hm : Hoare.Inv Hoare.Top (fun t => KI I t ∧ s.nodes.length ≤ t.nodes.length) m) (hs : KI I s) (h : m s = .ok (a, s')) : KSI I s s' :=
  Hoare.Tri.top_iff.1 hm s a s' ⟨hs, Nat.le_refl _⟩ h

omit hI in
theorem ki_len_side (s : St) : ∀ t t' : St, t.nodes.length ≤ t'.nodes.length → s.nodes.length ≤ t.nodes.length →
    s.nodes.length ≤ t'.nodes.length := fun _ _ r h => Nat.le_trans h r

theorem ki_closeBlocks (frm to : Int) (s s' : St) (a : Unit) (hs : KI I s) (h : closeBlocks frm to s = .ok (a, s')) :
    KSI I s s' :=
  ki_of_inv hI ((driverOps_ki hI).closeBlocks_keeps (ki_len_side s) frm to) hs h

theorem ki_tpJp2 (parent node : Nat) (bp : BP) (state : PState) (lastBlock : Option Block) (s s' : St)
    (x : TryOutcome × OpenResult × Option Block) (hs : KI I s) (hpn : parent < node) (hn : node < s.nodes.length)
    (h : tpJp2 parent node bp state lastBlock s = .ok (x, s')) : TpPostI I s s' lastBlock x := by
  unfold tpJp2 at h
  obtain ⟨_, s1, h1, hA⟩ := bind_ok_inv h
  have hn0 : node ≠ 0 := by omega
  have a1 := ac_appendChild parent node hpn s _ s1 hs.acyc h1
  have d1 := hI.append parent node hn0 s _ s1 hs.doc h1
  have o1 := appendChild_opened parent node s s1 _ h1
  have l1 : s.nodes.length ≤ s1.nodes.length :=
    ac_appendChild_len s.nodes.length parent node s _ s1 (Nat.le_refl _) h1
  obtain ⟨_, s2, h2, hB⟩ := bind_ok_inv hA
  have e2 := a2_modPc_inv h2
  subst e2
  have k2 : KSI I s { s1 with pc := { s1.pc with opened := s1.pc.opened ++ [{ node := node, bp := bp }] } } := by
    refine ⟨⟨a1, hI.same (s := s1) rfl d1, fun y hy => ?_⟩, l1⟩
    rcases List.mem_append.1 hy with hy | hy
    · rw [o1] at hy
      exact ⟨(hs.opened y hy).1, Nat.lt_of_lt_of_le (hs.opened y hy).2 l1⟩
    · rw [List.mem_singleton.1 hy]
      exact ⟨by show 0 < node; omega, by show node < s1.nodes.length; omega⟩
  split at hB
  · cases hB
    refine ⟨k2, ⟨fun p e => ?_, rfl⟩⟩
    have e' : TryOutcome.retry node = .retry p := e
    cases e'
    show node < s1.nodes.length
    omega
  · cases hB
    refine ⟨k2, ⟨fun p e => ?_, rfl⟩⟩
    have e' : TryOutcome.done = .retry p := e
    cases e'

theorem ki_tpJp1 (parent node : Nat) (bp : BP) (state : PState) (lastBlock : Option Block) (blankLine : Bool)
    (last : Option Nat) (s s' : St)
    (x : TryOutcome × OpenResult × Option Block) (hs : KI I s) (hpn : parent < node) (hn : node < s.nodes.length)
    (h : tpJp1 parent node bp state lastBlock blankLine last s = .ok (x, s')) : TpPostI I s s' lastBlock x := by
  unfold tpJp1 at h
  obtain ⟨_, s1, h1, hA⟩ := bind_ok_inv h
  have a1 := ac_modNode_acyc node (fun n => { n with blankPrev := blankLine }) (fun _ => ⟨rfl, rfl⟩) s _ s1 hs.acyc h1
  have d1 := hI.blank node (by omega) blankLine s _ s1 hs.doc h1
  have o1 := modNode_opened _ _ _ _ _ h1
  have l1 : s.nodes.length ≤ s1.nodes.length :=
    ac_modNode_len s.nodes.length node _ s _ s1 (Nat.le_refl _) h1
  have k1 : KSI I s s1 := ki_KS_mk hs a1 d1 o1 l1
  have hn1 : node < s1.nodes.length := Nat.lt_of_lt_of_le hn l1
  have fin : ∀ t, KSI I s1 t → tpJp2 parent node bp state lastBlock t = .ok (x, s') → TpPostI I s s' lastBlock x := by
    intro t kt e
    have := ki_tpJp2 hI parent node bp state lastBlock t s' x kt.1 hpn (Nat.lt_of_lt_of_le hn1 kt.2) e
    exact ⟨k1.trans (kt.trans this.1), this.2⟩
  cases last with
  | none => exact fin s1 (KSI.refl k1.1) hA
  | some l =>
    obtain ⟨ln, s2, h2, hB⟩ := bind_ok_inv hA
    obtain ⟨_, e2⟩ := a2_getNode_inv h2
    subst e2
    by_cases hp : ln.parent.isNone = true
    · rw [if_pos hp] at hB
      obtain ⟨pc, s3, h3, hC⟩ := bind_ok_inv hB
      obtain ⟨_, e3⟩ := a2_getPc_inv h3
      subst e3
      obtain ⟨_, s4, h4, hD⟩ := bind_ok_inv hC
      exact fin s4 (ki_closeBlocks hI _ _ _ _ _ k1.1 h4) hD
    · rw [if_neg hp] at hB
      exact fin _ (KSI.refl k1.1) hB

theorem ki_tpJp3 (parent node : Nat) (bp : BP) (state : PState) (lastBlock : Option Block) (blankLine : Bool)
    (last : Option Nat) (lb : Block) (blocks : List Block) (s s' : St)
    (x : TryOutcome × OpenResult × Option Block) (hs : KI I s) (hpn : parent < node) (hn : node < s.nodes.length)
    (hb : ∀ z ∈ blocks, z ∈ s.pc.opened)
    (h : tpJp3 parent node bp state lastBlock blankLine last lb blocks s = .ok (x, s')) :
    TpPostI I s s' lastBlock x := by
  unfold tpJp3 at h
  obtain ⟨_, s1, h1, hA⟩ := bind_ok_inv h
  have e1 := a2_modPc_inv h1
  subst e1
  have k1 : KSI I s { s with pc := { s.pc with opened := blocks.dropLast } } :=
    ⟨⟨hs.acyc, hI.same (s := s) rfl hs.doc, fun y hy => hs.opened y (hb y (List.dropLast_subset _ hy))⟩, Nat.le_refl _⟩
  obtain ⟨ln, s2, h2, hB⟩ := bind_ok_inv hA
  obtain ⟨_, e2⟩ := a2_getNode_inv h2
  subst e2
  by_cases hk : (ln.kind != Kind.paragraph) = true
  · rw [if_pos hk] at hB
    obtain ⟨_, _, h3, _⟩ := bind_ok_inv hB
    cases h3
  · rw [if_neg hk] at hB
    have := ki_tpJp1 hI parent node bp state lastBlock blankLine last _ s' x k1.1 hpn hn hB
    exact ⟨k1.trans this.1, this.2⟩

theorem ki_tpSome (parent node : Nat) (bp : BP) (state : PState) (lastBlock : Option Block) (blankLine : Bool)
    (last : Option Nat) (s s' : St)
    (x : TryOutcome × OpenResult × Option Block) (hs : KI I s) (hpn : parent < node) (hn : node < s.nodes.length)
    (hlb : ∀ l, lastBlock = some l → 0 < l.node)
    (h : tpSome parent node bp state lastBlock blankLine last s = .ok (x, s')) : TpPostI I s s' lastBlock x := by
  unfold tpSome at h
  by_cases hr : state.requirePara = true
  · rw [if_pos hr] at h
    obtain ⟨pn, s1, h1, hA⟩ := bind_ok_inv h
    obtain ⟨_, e1⟩ := a2_getNode_inv h1
    subst e1
    by_cases hc : (last == pn.children.getLast?) = true
    · rw [if_pos hc] at hA
      cases lastBlock with
      | none =>
        obtain ⟨_, _, h3, _⟩ := bind_ok_inv hA
        cases h3
      | some lb =>
        obtain ⟨_, s2, h2, hB⟩ := bind_ok_inv hA
        have k2 := ki_bpClose_KS hI lb.bp lb.node (hlb lb rfl) _ _ _ hs h2
        obtain ⟨pc, s3, h3, hC⟩ := bind_ok_inv hB
        obtain ⟨epc, e3⟩ := a2_getPc_inv h3
        subst e3
        have hn2 : node < s3.nodes.length := Nat.lt_of_lt_of_le hn k2.2
        by_cases hz : (pc.opened.length == 0) = true
        · rw [if_pos hz] at hC
          obtain ⟨_, _, h4, _⟩ := bind_ok_inv hC
          cases h4
        · rw [if_neg hz] at hC
          have := ki_tpJp3 hI parent node bp state (some lb) blankLine last lb pc.opened _ s' x k2.1 hpn hn2
            (fun z hz => epc ▸ hz) hC
          exact ⟨k2.trans this.1, this.2⟩
    · rw [if_neg hc] at hA
      exact ki_tpJp1 hI parent node bp state lastBlock blankLine last _ s' x hs hpn hn hA
  · rw [if_neg hr] at h
    exact ki_tpJp1 hI parent node bp state lastBlock blankLine last _ s' x hs hpn hn h

theorem ki_tryParsers (parent : Nat) (blankLine continuable : Bool) (w : Int) :
    ∀ (bps : List BP) (result : OpenResult) (lastBlock : Option Block) (s s' : St)
      (x : TryOutcome × OpenResult × Option Block), KI I s → parent < s.nodes.length →
      (∀ l, lastBlock = some l → 0 < l.node) →
      tryParsers parent blankLine continuable w bps result lastBlock s = .ok (x, s') →
      KSI I s s' ∧ (∀ p, x.1 = .retry p → p < s'.nodes.length) ∧ (∀ l, x.2.2 = some l → 0 < l.node) := by
  intro bps
  induction bps with
  | nil =>
    intro result lastBlock s s' x hs hp hlb h
    unfold tryParsers at h
    cases h
    refine ⟨KSI.refl hs, ⟨fun p e => ?_, hlb⟩⟩
    have e' : TryOutcome.done = .retry p := e
    cases e'
  | cons bp bps ih =>
    intro result lastBlock s s' x hs hp hlb h
    rw [tryParsers_cons] at h
    by_cases c1 : (continuable && result == OpenResult.noBlocksOpened && !bp.canInterruptParagraph) = true
    · rw [if_pos c1] at h; exact ih result lastBlock s s' x hs hp hlb h
    rw [if_neg c1] at h
    by_cases c2 : (decide (w > 3) && !bp.canAcceptIndentedLine) = true
    · rw [if_pos c2] at h; exact ih result lastBlock s s' x hs hp hlb h
    rw [if_neg c2] at h
    obtain ⟨x0, s1, h1, hA⟩ := bind_ok_inv h
    obtain ⟨ex0, e1⟩ := a2_lastOpenedBlock_inv h1
    subst e1
    have hlb0 : ∀ l, x0 = some l → 0 < l.node := by
      intro l hl
      rw [ex0] at hl
      exact (hs.opened l (List.mem_of_getLast? hl)).1
    obtain ⟨y, s2, h2, hB⟩ := bind_ok_inv hA
    have k2 := ki_bpOpen_KS hI bp parent _ _ _ hs h2
    cases hy : y.1 with
    | none =>
      rw [hy] at hB
      have := ih result x0 s2 s' x k2.1 (Nat.lt_of_lt_of_le hp k2.2) hlb0 hB
      exact ⟨k2.trans this.1, this.2⟩
    | some node =>
      rw [hy] at hB
      have hy' : y = (some node, y.2) := by rw [← hy]
      rw [hy'] at h2
      obtain ⟨f1, f2, _, _⟩ := bpOpen_fresh bp parent _ _ node y.2 h2
      have := ki_tpSome hI parent node bp y.2 x0 blankLine _ s2 s' x k2.1 (by omega) f2 hlb0 hB
      exact ⟨k2.trans this.1, this.2.1, fun l hl => hlb0 l (this.2.2 ▸ hl)⟩


theorem ki_openBlocks (parent : Nat) (blank : Bool) (s s' : St) (x : OpenResult) (hs : KI I s)
    (hp : parent < s.nodes.length) (h : openBlocks parent blank s = .ok (x, s')) : KSI I s s' := by
  have := (driverOps_ki hI).openBlocks_keeps (A := fun t => s.nodes.length ≤ t.nodes.length ∧ parent < t.nodes.length)
    (fun t t' r h => ⟨Nat.le_trans h.1 r, Nat.lt_of_lt_of_le h.2 r⟩) parent (fun _ h => h.2.2) blank
  exact (Hoare.Tri.top_iff.1 this s x s' ⟨hs, Nat.le_refl _, hp⟩ h).imp_right fun k => k.1

theorem ki_lineLoop (parent : Nat) (openedBlocks : List Block) (lastIndex : Int) :
    ∀ (rest : List Block) (i : Int) (bl : List LineStat) (s s' : St) (x : LineOutcome × List LineStat),
      KI I s → parent < s.nodes.length → ObsOK openedBlocks s → (∀ z ∈ rest, z ∈ openedBlocks) →
      lineLoop parent openedBlocks lastIndex rest i bl s = .ok (x, s') → KSI I s s' := by
  intro rest i bl s s' x hs hp hob hr h
  have := (driverOps_ki hI).lineLoop_keeps
    (A := fun t => s.nodes.length ≤ t.nodes.length ∧ parent < t.nodes.length ∧ ObsOK openedBlocks t)
    (fun t t' r h => ⟨Nat.le_trans h.1 r, Nat.lt_of_lt_of_le h.2.1 r, h.2.2.mono' r⟩) parent (fun _ h => h.2.2.1) openedBlocks
    (fun _ h => h.2.2.2) (fun _ h b hb _ => (h.2.2.2 b hb).2) lastIndex rest hr i
    (fun _ h _ _ _ b hb => (h.2.2.2 b (mem_of_blockAt hb)).2) bl
  exact (Hoare.Tri.top_iff.1 this s x s' ⟨hs, Nat.le_refl _, hp, hob⟩ h).imp_right fun k => k.1

theorem ki_blocksLoop (parent : Nat) :
    ∀ (fuel : Nat) (bl : List LineStat) (s s' : St) (x : Unit),
      KI I s → parent < s.nodes.length → blocksLoop parent fuel bl s = .ok (x, s') → KSI I s s' := by
  intro fuel bl s s' x hs hp h
  have := (driverOps_ki hI).blocksLoop_keeps (fun t ht b hb _ => (ht.opened b hb).2)
    (A := fun t => s.nodes.length ≤ t.nodes.length ∧ parent < t.nodes.length)
    (fun t t' r h => ⟨Nat.le_trans h.1 r, Nat.lt_of_lt_of_le h.2 r⟩) parent (fun _ h => h.2.2) fuel bl
  exact (Hoare.Tri.top_iff.1 this s x s' ⟨hs, Nat.le_refl _, hp⟩ h).imp_right fun k => k.1

end driver

theorem docInv_step : DocStep DocInv where
  same := fun hn h => by unfold DocInv DocOK at *; rw [hn]; exact h
  op := bpOpen_doc
  co := fun n hn bp => bpContinue_doc n hn bp
  cl := bpClose_doc
  append := a2_appendChild
  blank := fun id _ v => a2_modNode_ch id _ (fun _ => ⟨rfl, rfl, fun x hx => Or.inl hx⟩)

theorem K.toI {s : St} (h : K s) : KI DocInv s := ⟨h.acyc, h.doc, h.opened⟩

theorem KI.toK {s : St} (h : KI DocInv s) : K s := ⟨h.acyc, h.doc, h.opened⟩

theorem KSI.toKS {s s' : St} (h : KSI DocInv s s') : KS s s' := ⟨h.1.toK, h.2⟩

def TpPost (s s' : St) (lastBlock : Option Block) (x : TryOutcome × OpenResult × Option Block) : Prop :=
  KS s s' ∧ (∀ p, x.1 = .retry p → p < s'.nodes.length) ∧ x.2.2 = lastBlock

theorem TpPostI.toTpPost {s s' : St} {lastBlock : Option Block} {x : TryOutcome × OpenResult × Option Block}
    (h : TpPostI DocInv s s' lastBlock x) : TpPost s s' lastBlock x := ⟨h.1.toKS, h.2⟩

theorem a2_KS_mk {s s' : St} (hs : K s) (ha : Acyc s') (hd : DocInv s') (ho : s'.pc.opened = s.pc.opened)
    (hl : s.nodes.length ≤ s'.nodes.length) : KS s s' :=
  (ki_KS_mk hs.toI ha hd ho hl).toKS

theorem a2_KS_same {s s' : St} (hs : K s) (h : Same s s') : KS s s' := (ki_KS_same docInv_step hs.toI h).toKS

theorem a2_bpOpen_KS (bp : BP) (parent : Nat) (s s' : St) (a : Option Nat × PState) (hs : K s)
    (h : bpOpen bp parent s = .ok (a, s')) : KS s s' :=
  (ki_bpOpen_KS docInv_step bp parent s s' a hs.toI h).toKS

theorem a2_bpContinue_KS (bp : BP) (node : Nat) (hn : 0 < node) (s s' : St) (a : PState) (hs : K s)
    (h : bpContinue bp node s = .ok (a, s')) : KS s s' :=
  (ki_bpContinue_KS docInv_step bp node hn s s' a hs.toI h).toKS

theorem a2_bpClose_KS (bp : BP) (node : Nat) (hn : 0 < node) (s s' : St) (a : Unit) (hs : K s)
    (h : bpClose bp node s = .ok (a, s')) : KS s s' :=
  (ki_bpClose_KS docInv_step bp node hn s s' a hs.toI h).toKS

theorem a2_tpJp2 (parent node : Nat) (bp : BP) (state : PState) (lastBlock : Option Block) (s s' : St)
    (x : TryOutcome × OpenResult × Option Block) (hs : K s) (hpn : parent < node) (hn : node < s.nodes.length)
    (h : tpJp2 parent node bp state lastBlock s = .ok (x, s')) : TpPost s s' lastBlock x :=
  (ki_tpJp2 docInv_step parent node bp state lastBlock s s' x hs.toI hpn hn h).toTpPost

theorem a2_tryParsers (parent : Nat) (blankLine continuable : Bool) (w : Int) :
    ∀ (bps : List BP) (result : OpenResult) (lastBlock : Option Block) (s s' : St)
      (x : TryOutcome × OpenResult × Option Block), K s → parent < s.nodes.length →
      (∀ l, lastBlock = some l → 0 < l.node) →
      tryParsers parent blankLine continuable w bps result lastBlock s = .ok (x, s') →
      KS s s' ∧ (∀ p, x.1 = .retry p → p < s'.nodes.length) ∧ (∀ l, x.2.2 = some l → 0 < l.node) :=
  fun bps result lastBlock s s' x hs hp hlb h =>
    let ⟨k, r⟩ := ki_tryParsers docInv_step parent blankLine continuable w bps result lastBlock s s' x hs.toI hp hlb h
    ⟨k.toKS, r⟩

theorem a2_openBlocks (parent : Nat) (blank : Bool) (s s' : St) (x : OpenResult) (hs : K s)
    (hp : parent < s.nodes.length) (h : openBlocks parent blank s = .ok (x, s')) : KS s s' :=
  (ki_openBlocks docInv_step parent blank s s' x hs.toI hp h).toKS

theorem a2_lineLoop (parent : Nat) (openedBlocks : List Block) (lastIndex : Int) :
    ∀ (rest : List Block) (i : Int) (bl : List LineStat) (s s' : St) (x : LineOutcome × List LineStat),
      K s → parent < s.nodes.length → ObsOK openedBlocks s → (∀ z ∈ rest, z ∈ openedBlocks) →
      lineLoop parent openedBlocks lastIndex rest i bl s = .ok (x, s') → KS s s' :=
  fun rest i bl s s' x hs hp hob hr h =>
    (ki_lineLoop docInv_step parent openedBlocks lastIndex rest i bl s s' x hs.toI hp hob hr h).toKS

theorem a2_blocksLoop (parent : Nat) :
    ∀ (fuel : Nat) (bl : List LineStat) (s s' : St) (x : Unit),
      K s → parent < s.nodes.length → blocksLoop parent fuel bl s = .ok (x, s') → KS s s' :=
  fun fuel bl s s' x hs hp h => (ki_blocksLoop docInv_step parent fuel bl s s' x hs.toI hp h).toKS

theorem a2_run_eq_blocksLoop (b : Bytes) : run b = (blocksLoop 0 (linesFuel b) [] (initSt b)).map (·.2) := rfl

theorem a2_K_init (src : Bytes) : K (initSt src) := by
  refine ⟨⟨?_, ?_⟩, ⟨Nat.zero_lt_one, ⟨rfl, rfl⟩, ?_⟩, fun x hx => nomatch hx⟩
  · intro j c hc
    match j with
    | 0 => cases hc
    | j + 1 => cases hc
  · intro i p hp
    match i with
    | 0 => cases hp
    | i + 1 => cases hp
  · intro j hc
    match j with
    | 0 => cases hc
    | j + 1 => cases hc

/-- for every source, the store the block phase builds is acyclic, and node 0 is a Document without lines -/
theorem run_acyc (src : Bytes) (s : St) (h : run src = .ok s) :
    Acyc s ∧ (s.nodes.getD 0 default).lines = [] ∧ (s.nodes.getD 0 default).kind = .document := by
  rw [a2_run_eq_blocksLoop] at h
  cases hb : blocksLoop 0 (linesFuel src) [] (initSt src) with
  | error e => rw [hb] at h; cases h
  | ok p =>
    rw [hb] at h
    cases h
    have k := a2_blocksLoop 0 _ _ _ p.2 p.1 (a2_K_init src) Nat.zero_lt_one hb
    exact ⟨k.1.acyc, k.1.doc.2.1⟩


end GM.Blocks.Sh
