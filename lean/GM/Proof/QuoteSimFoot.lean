import GM.Proof.BlocksLeaf
import GM.Proof.Hoare
import GM.Proof.BlocksInv
import GM.Proof.BlocksStep

/-
  part Keeps — a calculus of unary state invariants for the monad `M` of the block-phase model.
  `Keeps I m`: every successful run of `m` from a state with `I` ends in a state with `I` (nothing is said
  about panics). `Keeps` is closed under `pure` / `bind` / `if` / `match` / `throw`, so a proof for a
  parser function is a syntactic walk over its `do` block (tactic `keeps`, in the style of `pres` in
  GM.Proof.BlocksPres). The reader primitives keep every `I` that ignores the reader (`NoR`), the store
  primitives every `I` that ignores the node store (`NoNodes`); `PcMods I`: `I` ignores both and is closed
  under the unconditional context writes of the parsers (`skipList`, `emptyItemBlank`; reset of `tmpPara` /
  `fence`); `PcFrame I`: `I` looks only at the fields of the parse context that no block parser writes.
-/
section Keeps
namespace GM.Blocks
open GM GM.Text

/-- every successful run of `m` from a state with `I` ends in a state with `I` -/
def Keeps (I : St → Prop) {α : Type} (m : M α) : Prop :=
  ∀ s a s', I s → m s = .ok (a, s') → I s'

section calculus
variable {I : St → Prop}
open GM.Hoare

theorem keeps_iff {α} {m : M α} : Keeps I m ↔ Inv Top I m := ⟨fun h => Tri.top_iff.2 h, fun h => Tri.top_iff.1 h⟩

theorem Keeps.ok {α} {m : M α} (hm : Keeps I m) {s : St} (hs : I s) {a : α} {s' : St}
    (h : m s = .ok (a, s')) : I s' := hm s a s' hs h

theorem Keeps.pure {α} (a : α) : Keeps I (pure a : M α) := keeps_iff.2 (Inv.pure a)

theorem Keeps.bind {α β} {m : M α} {f : α → M β} (hm : Keeps I m) (hf : ∀ a, Keeps I (f a)) :
    Keeps I (m >>= f) := keeps_iff.2 (Inv.bind (keeps_iff.1 hm) fun a => keeps_iff.1 (hf a))

theorem Keeps.ite {α} {c : Prop} [Decidable c] {a b : M α} (ha : c → Keeps I a) (hb : ¬c → Keeps I b) :
    Keeps I (if c then a else b) := keeps_iff.2 (Tri.ite (fun h => keeps_iff.1 (ha h)) fun h => keeps_iff.1 (hb h))

theorem Keeps.throw {α} (e : Panic) : Keeps I (throw e : M α) := keeps_iff.2 (Tri.throw e trivial)

structure NoR (I : St → Prop) : Prop where
  h : ∀ s r, I s → I { s with r := r }

structure NoNodes (I : St → Prop) : Prop where
  h : ∀ s nodes, I s → I { s with nodes := nodes }

theorem Keeps.det {α} {m : M α} {a : St → α} {t : St → St} (hm : ∀ s, m s = .ok (a s, t s)) (h : ∀ s, I s → I (t s)) :
    Keeps I m := keeps_iff.2 (Tri.det hm h)

/-- a primitive that moves the reader -/
theorem Keeps.reader {α β : Type} {m : M β} {op : Reader → Except Panic α} {f : α → β} {k : α → Reader} (hI : NoR I)
    (hm : ∀ s, m s = (op s.r).map fun a => (f a, { s with r := k a })) : Keeps I m :=
  keeps_iff.2 (Tri.reader hm fun s h => Out.top_iff.2 fun a _ => hI.h s (k a) h)

theorem getNode_keeps (id : Nat) : Keeps I (getNode id) := .det (getNode_run id) fun _ h => h
theorem getPc_keeps : Keeps I getPc := .det getPc_run fun _ h => h
theorem source_keeps : Keeps I source := .det source_run fun _ h => h
theorem position_keeps : Keeps I position := .det position_run fun _ h => h
theorem get_keeps : Keeps I (get : M St) := .det get_run fun _ h => h
theorem liftE_keeps {α} (e : Except Panic α) : Keeps I (liftE e) :=
  keeps_iff.2 (Tri.lift e fun _ h => Out.top_iff.2 fun _ _ => h)
theorem lastOpenedBlock_keeps : Keeps I lastOpenedBlock := .det lastOpenedBlock_run fun _ h => h

theorem nextSibling_keeps (c : Nat) : Keeps I (nextSibling c) := by
  unfold nextSibling
  refine Keeps.bind (getNode_keeps _) (fun cn => ?_)
  split
  · exact Keeps.pure _
  · exact Keeps.bind (getNode_keeps _) (fun _ => Keeps.pure _)

theorem lastOpenedBlock_eq (s : St) : lastOpenedBlock s = .ok (s.pc.opened.getLast?, s) := rfl

theorem peekLine_keeps (hI : NoR I) : Keeps I peekLine := .reader hI peekLine_run
theorem lineOffset_keeps (hI : NoR I) : Keeps I lineOffset := .reader hI lineOffset_run
theorem advance_keeps (hI : NoR I) (n : Int) : Keeps I (advance n) := .reader hI (advance_run n)
theorem advanceAndSetPadding_keeps (hI : NoR I) (n p : Int) : Keeps I (advanceAndSetPadding n p) :=
  .reader hI (advanceAndSetPadding_run n p)
theorem advanceLine_keeps (hI : NoR I) : Keeps I advanceLine := .det advanceLine_run fun s h => hI.h s _ h
theorem setPosition_keeps (hI : NoR I) (l : Int) (p : Segment) : Keeps I (setPosition l p) :=
  .det (setPosition_run l p) fun s h => hI.h s _ h
theorem skipBlankLinesR_keeps (hI : NoR I) : Keeps I skipBlankLinesR :=
  .reader (op := fun r => skipBlankLines readerOps (loopFuel r.source) 0 r) hI skipBlankLinesR_run

theorem modNode_keeps (hI : NoNodes I) (id : Nat) (f : Node → Node) : Keeps I (modNode id f) :=
  .det (modNode_run id f) fun s h => hI.h s _ h
theorem newNode_keeps (hI : NoNodes I) (n : Node) : Keeps I (newNode n) := .det (newNode_run n) fun s h => hI.h s _ h
theorem appendLine_keeps (hI : NoNodes I) (id : Nat) (seg : Segment) : Keeps I (appendLine id seg) :=
  modNode_keeps hI _ _

theorem modPc_keeps (f : Ctx → Ctx) (hf : ∀ s, I s → I { s with pc := f s.pc }) : Keeps I (modPc f) :=
  .det (modPc_run f) hf

end calculus

/-- the invariant does not look at the reader or the node store and is closed under the writes to the parse
    context that the block parsers make unconditionally (`skipList`, `emptyItemBlank`; reset of `tmpPara`
    and `fence`) -/
structure PcMods (I : St → Prop) : Prop where
  noR : NoR I
  noNodes : NoNodes I
  skipList : ∀ s b, I s → I { s with pc := { s.pc with skipList := b } }
  emptyItemBlank : ∀ s b, I s → I { s with pc := { s.pc with emptyItemBlank := b } }
  tmpNone : ∀ s, I s → I { s with pc := { s.pc with tmpPara := none } }
  fenceNone : ∀ s, I s → I { s with pc := { s.pc with fence := none } }

/-- the invariant looks only at the fields of the parse context that no block parser writes -/
structure PcFrame (I : St → Prop) : Prop where
  h : ∀ s s', I s → s'.pc.opened = s.pc.opened → s'.pc.blockOffset = s.pc.blockOffset →
    s'.pc.blockIndent = s.pc.blockIndent → I s'

theorem PcFrame.mods {I} (h : PcFrame I) : PcMods I where
  noR := ⟨fun s _ hs => h.h s _ hs rfl rfl rfl⟩
  noNodes := ⟨fun s _ hs => h.h s _ hs rfl rfl rfl⟩
  skipList := fun s _ hs => h.h s _ hs rfl rfl rfl
  emptyItemBlank := fun s _ hs => h.h s _ hs rfl rfl rfl
  tmpNone := fun s hs => h.h s _ hs rfl rfl rfl
  fenceNone := fun s hs => h.h s _ hs rfl rfl rfl

/-- `bind` where the continuation may use that its argument was returned from a state with `I` -/
theorem Keeps.bind_of {I : St → Prop} {α β} {m : M α} {f : α → M β} (hm : Keeps I m)
    (hf : ∀ a, (∃ s s', I s ∧ m s = .ok (a, s')) → Keeps I (f a)) : Keeps I (m >>= f) :=
  open GM.Hoare in
  keeps_iff.2 (Tri.bind (R := fun a s' => I s' ∧ ∃ s, I s ∧ m s = .ok (a, s'))
    (Tri.top_iff.2 fun s a s' hs e => ⟨hm s a s' hs e, s, hs, e⟩)
    fun a => Tri.top_iff.2 fun s' b s'' hs e => hf a (let ⟨s, h1, h2⟩ := hs.2; ⟨s, s', h1, h2⟩) s' b s'' hs.1 e)

open Lean Elab Tactic Meta in
/-- `intro` when the goal is syntactically a `∀` / `→` (never unfolds a definition) -/
elab "intro_pi" : tactic => do
  let g ← getMainGoal
  let t ← instantiateMVars (← g.getType)
  if t.consumeMData.isForall then
    let (_, g') ← g.intro1
    replaceMainGoal [g']
  else
    throwError "not a pi"

/-- the side goal `NoR I` of the reader rules; a file that defines an invariant adds how to find it -/
syntax "nor_side" : tactic
macro_rules | `(tactic| nor_side) => `(tactic| assumption)

/-- the steps of a walk that do not depend on the invariant: the monad structure, the reader primitives (for an
    invariant that ignores the reader) and the primitives that leave the state alone. `Keeps.pure` comes first: it also
    closes a goal whose computation is still unknown. `split` comes after the reader rules, so that an `if` in the
    argument of `advance` is not split. -/
macro "walk_step" : tactic =>
  `(tactic| first
    | with_reducible apply Keeps.pure
    | intro_pi
    | with_reducible apply Keeps.bind
    | with_reducible apply Keeps.ite
    | (with_reducible apply peekLine_keeps; nor_side)
    | (with_reducible apply lineOffset_keeps; nor_side)
    | (with_reducible apply advance_keeps; nor_side)
    | (with_reducible apply advanceAndSetPadding_keeps; nor_side)
    | split
    | with_reducible apply Keeps.throw
    | with_reducible apply getNode_keeps
    | with_reducible apply liftE_keeps
    | with_reducible apply getPc_keeps
    | with_reducible apply source_keeps
    | with_reducible apply get_keeps
    | with_reducible apply lastOpenedBlock_keeps
    | with_reducible apply position_keeps
    | (with_reducible apply setPosition_keeps; nor_side)
    | (with_reducible apply advanceLine_keeps; nor_side)
    | (with_reducible apply skipBlankLinesR_keeps; nor_side))

/-- `walk_step` without the reader rules, for the functions that leave the reader alone -/
macro "walk_core" : tactic =>
  `(tactic| first
    | with_reducible apply Keeps.pure
    | intro_pi
    | with_reducible apply Keeps.bind
    | with_reducible apply Keeps.ite
    | split
    | with_reducible apply Keeps.throw
    | with_reducible apply getNode_keeps
    | with_reducible apply liftE_keeps
    | with_reducible apply getPc_keeps
    | with_reducible apply source_keeps
    | with_reducible apply get_keeps)

macro "keeps_step" : tactic =>
  `(tactic| first
    | walk_step
    | (with_reducible apply modNode_keeps; assumption)
    | (with_reducible apply newNode_keeps; assumption)
    | (with_reducible apply appendLine_keeps; assumption)
    | ((with_reducible apply modPc_keeps);
        first
        | assumption
        | (intro s hs;
           first
           | exact PcMods.skipList (by assumption) s _ hs
           | exact PcMods.emptyItemBlank (by assumption) s _ hs
           | exact PcMods.tmpNone (by assumption) s hs
           | exact PcMods.fenceNone (by assumption) s hs
           | (apply_hyp <;> first | assumption | omega | (dsimp only; omega))))
    | apply_hyp)

/-- walk over an `M` do block -/
macro "keeps" : tactic => `(tactic| repeat' keeps_step)

end GM.Blocks
end Keeps

/-
  part Foot — what `Open` / `Continue` of a block parser may do to the state, as a two-state statement.

  `Foot W K L s0 s`: `s` comes from `s0` by steps that
  * append nodes without parent, children and `blankPrev`, of a kind in `K`;
  * overwrite a node keeping everything but its `lines` / `linesNil` / `closure` (`Node.skel`), and among the nodes of
    `s0` only those in `W`;
  * leave `pc.opened`, `blockOffset`, `blockIndent`, `refs` alone, reset `tmpPara` or set it to the node of the block `L`,
    reset `fence` or set it to a record with `indent ≥ 0` (`skipList` and `emptyItemBlank` are free).
  It is the extensional view of the generated relation `StepB` of GM.Proof.BlocksStep (`StepB.foot`: `Grow.refl` / `trans` /
  `set` / `push` and the `PcFoot` rules are the cases of that induction), so the parser functions are walked there, once.
  Results: `bpOpen_foot`, `bpContinue_foot`. `Close` is in GM.Proof.QuoteSimEdit.
-/
section Foot
namespace GM.Blocks
open GM GM.Text

theorem node_getD_ge (n : List Node) (i : Nat) (h : n.length ≤ i) : n.getD i default = default := by
  simp [List.getD_eq_getElem?_getD, List.getElem?_eq_none h]

theorem node_getD_set (n : List Node) (id q : Nat) (x : Node) :
    (n.set id x).getD q default = if id = q ∧ id < n.length then x else n.getD q default := by
  simp only [List.getD_eq_getElem?_getD, List.getElem?_set]
  by_cases hi : id = q
  · subst hi
    by_cases hl : id < n.length
    · simp [hl]
    · simp [hl]
  · simp [hi]

theorem getD_append_node (l : List Node) (q : Nat) (x : Node) :
    (l ++ [x]).getD q default = if q < l.length then l.getD q default else if q = l.length then x else default := by
  simp only [List.getD_eq_getElem?_getD]
  by_cases h : q < l.length
  · rw [List.getElem?_append_left h, if_pos h]
  · rw [if_neg h]
    by_cases h2 : q = l.length
    · subst h2; simp
    · rw [if_neg h2]
      have : (l ++ [x])[q]? = none := by
        apply List.getElem?_eq_none
        simp; omega
      rw [this]; rfl

theorem node_getD_mem {n : List Node} {i : Nat} (h : i < n.length) : n.getD i default ∈ n := by
  rw [List.getD_eq_getElem?_getD, List.getElem?_eq_getElem h]
  exact List.getElem_mem h

theorem node_mem_getD {n : List Node} {x : Node} (h : x ∈ n) : ∃ i, i < n.length ∧ n.getD i default = x := by
  obtain ⟨i, hi, e⟩ := List.mem_iff_getElem.mp h
  exact ⟨i, hi, by rw [List.getD_eq_getElem?_getD, List.getElem?_eq_getElem hi]; exact e⟩

/-- a node without its lines: the fields that no `Open` / `Continue` writes -/
def Node.skel (n : Node) : Node := { n with lines := [], linesNil := true, closure := ⟨0, 0, 0, false⟩ }

theorem Lit.of_skel {x y : Node} (h : x.skel = y.skel) (hy : Lit y) : Lit x :=
  ⟨(congrArg Node.parent h).trans hy.parent, (congrArg Node.children h).trans hy.children,
    (congrArg Node.blankPrev h).trans hy.blankPrev⟩

/-- the parse context `pc` comes from `pc0` by the writes of the block parsers -/
structure PcFoot (L : Option Block) (pc0 pc : Ctx) : Prop where
  opened : pc.opened = pc0.opened
  blockOffset : pc.blockOffset = pc0.blockOffset
  blockIndent : pc.blockIndent = pc0.blockIndent
  refs : pc.refs = pc0.refs
  tmp : pc.tmpPara = pc0.tmpPara ∨ pc.tmpPara = none ∨ ∃ lb, L = some lb ∧ pc.tmpPara = some lb.node
  fence : pc.fence = pc0.fence ∨ pc.fence = none ∨ ∃ f, pc.fence = some f ∧ 0 ≤ f.indent

/-- the store `n` comes from `n0` by appending unlinked nodes of a kind in `K` and by writing the lines of appended
    nodes and of the nodes in `W` -/
structure Grow (W : Nat → Prop) (K : Kind → Prop) (n0 n : List Node) : Prop where
  len : n0.length ≤ n.length
  skel : ∀ i, i < n0.length → (n.getD i default).skel = (n0.getD i default).skel
  same : ∀ i, i < n0.length → ¬ W i → n.getD i default = n0.getD i default
  new : ∀ i, n0.length ≤ i → i < n.length → Lit (n.getD i default) ∧ K (n.getD i default).kind

structure Foot (W : Nat → Prop) (K : Kind → Prop) (L : Option Block) (s0 s : St) : Prop where
  nodes : Grow W K s0.nodes s.nodes
  pc : PcFoot L s0.pc s.pc

section closure
variable {W : Nat → Prop} {K : Kind → Prop} {L : Option Block}

theorem PcFoot.refl (pc : Ctx) : PcFoot L pc pc := ⟨rfl, rfl, rfl, rfl, .inl rfl, .inl rfl⟩

theorem PcFoot.trans {a b c : Ctx} (h1 : PcFoot L a b) (h2 : PcFoot L b c) : PcFoot L a c where
  opened := h2.opened.trans h1.opened
  blockOffset := h2.blockOffset.trans h1.blockOffset
  blockIndent := h2.blockIndent.trans h1.blockIndent
  refs := h2.refs.trans h1.refs
  tmp := by
    rcases h2.tmp with e | e | e
    · rw [e]; exact h1.tmp
    · exact .inr (.inl e)
    · exact .inr (.inr e)
  fence := by
    rcases h2.fence with e | e | e
    · rw [e]; exact h1.fence
    · exact .inr (.inl e)
    · exact .inr (.inr e)

theorem PcFoot.skipList {pc0 pc : Ctx} (b : Bool) (h : PcFoot L pc0 pc) : PcFoot L pc0 { pc with skipList := b } :=
  ⟨h.opened, h.blockOffset, h.blockIndent, h.refs, h.tmp, h.fence⟩

theorem PcFoot.emptyItemBlank {pc0 pc : Ctx} (b : Bool) (h : PcFoot L pc0 pc) :
    PcFoot L pc0 { pc with emptyItemBlank := b } :=
  ⟨h.opened, h.blockOffset, h.blockIndent, h.refs, h.tmp, h.fence⟩

theorem PcFoot.tmpSome {pc0 pc : Ctx} (lb : Block) (hl : L = some lb) (h : PcFoot L pc0 pc) :
    PcFoot L pc0 { pc with tmpPara := some lb.node } :=
  ⟨h.opened, h.blockOffset, h.blockIndent, h.refs, .inr (.inr ⟨lb, hl, rfl⟩), h.fence⟩

theorem PcFoot.fenceSome {pc0 pc : Ctx} (f : FenceData) (hf : 0 ≤ f.indent) (h : PcFoot L pc0 pc) :
    PcFoot L pc0 { pc with fence := some f } :=
  ⟨h.opened, h.blockOffset, h.blockIndent, h.refs, h.tmp, .inr (.inr ⟨f, rfl, hf⟩)⟩

theorem Grow.kind {n0 n : List Node} (h : Grow W K n0 n) {i : Nat} (hi : i < n0.length) :
    (n.getD i default).kind = (n0.getD i default).kind := (congrArg Node.kind (h.skel i hi) :)

theorem Grow.children {n0 n : List Node} (h : Grow W K n0 n) {i : Nat} (hi : i < n0.length) :
    (n.getD i default).children = (n0.getD i default).children := (congrArg Node.children (h.skel i hi) :)

theorem Grow.blankPrev {n0 n : List Node} (h : Grow W K n0 n) {i : Nat} (hi : i < n0.length) :
    (n.getD i default).blankPrev = (n0.getD i default).blankPrev := (congrArg Node.blankPrev (h.skel i hi) :)

theorem Grow.mem {n0 n : List Node} (h : Grow W K n0 n) {x : Node} (hx : x ∈ n) :
    (∃ y ∈ n0, x.skel = y.skel) ∨ (Lit x ∧ K x.kind) := by
  obtain ⟨i, hi, e⟩ := node_mem_getD hx
  by_cases h0 : i < n0.length
  · exact .inl ⟨_, node_getD_mem h0, e ▸ h.skel i h0⟩
  · exact .inr (e ▸ h.new i (Nat.le_of_not_lt h0) hi)

theorem Grow.refl (n : List Node) : Grow W K n n :=
  ⟨Nat.le_refl _, fun _ _ => rfl, fun _ _ _ => rfl, fun _ h1 h2 => absurd h2 (Nat.not_lt.mpr h1)⟩

/-- the second stretch may also write to the nodes that the first one appended -/
theorem Grow.trans {W' : Nat → Prop} {a b c : List Node} (h1 : Grow W K a b) (h2 : Grow W' K b c)
    (hw : ∀ i, W' i → W i ∨ a.length ≤ i) : Grow W K a c where
  len := Nat.le_trans h1.len h2.len
  skel := fun i hi => (h2.skel i (Nat.lt_of_lt_of_le hi h1.len)).trans (h1.skel i hi)
  same := fun i hi hn => by
    rw [h2.same i (Nat.lt_of_lt_of_le hi h1.len) (fun h => (hw i h).elim hn (fun h' => Nat.not_lt.mpr h' hi))]
    exact h1.same i hi hn
  new := fun i hi hc => by
    by_cases hb : i < b.length
    · have h := h1.new i hi hb
      have e := h2.skel i hb
      have ek := congrArg Node.kind e
      exact ⟨Lit.of_skel e h.1, ek ▸ h.2⟩
    · exact h2.new i (Nat.le_of_not_lt hb) hc

theorem Grow.set {n0 n : List Node} (h : Grow W K n0 n) (id : Nat) (x : Node)
    (hw : W id ∨ n0.length ≤ id) (hx : x.skel = (n.getD id default).skel) : Grow W K n0 (n.set id x) := by
  refine h.trans (W' := fun i => i = id) ⟨by simp, fun i _ => ?_, fun i _ hn => ?_, fun i h1 h2 => ?_⟩
    (fun i hi => by rw [hi]; exact hw)
  · rw [node_getD_set]
    split
    · rename_i hc; rw [← hc.1]; exact hx
    · rfl
  · rw [node_getD_set, if_neg (fun hc => hn hc.1.symm)]
  · rw [List.length_set] at h2
    exact absurd h2 (Nat.not_lt.mpr h1)

theorem Grow.push {n0 n : List Node} (h : Grow W K n0 n) (x : Node) (hl : Lit x) (hk : K x.kind) :
    Grow W K n0 (n ++ [x]) := by
  refine h.trans (W' := fun _ => False) ⟨by simp, fun i hi => ?_, fun i hi _ => ?_, fun i h1 h2 => ?_⟩
    (fun _ hf => hf.elim)
  · rw [getD_append_node, if_pos hi]
  · rw [getD_append_node, if_pos hi]
  · have e : i = n.length := by
      rw [List.length_append, List.length_singleton] at h2
      omega
    rw [getD_append_node, if_neg (Nat.not_lt.mpr h1), if_pos e]
    exact ⟨hl, hk⟩

theorem Foot.refl (s : St) : Foot W K L s s := ⟨Grow.refl _, PcFoot.refl _⟩

theorem Foot.trans {W' : Nat → Prop} {a b c : St} (h1 : Foot W K L a b) (h2 : Foot W' K L b c)
    (hw : ∀ i, W' i → W i ∨ a.nodes.length ≤ i) : Foot W K L a c :=
  ⟨h1.nodes.trans h2.nodes hw, h1.pc.trans h2.pc⟩

theorem bind_inv_u {α β} {m : M α} {f : α → M β} {s : St} {b : β} {s' : St} (h : (m >>= f) s = .ok (b, s')) :
    ∃ a s1, m s = .ok (a, s1) ∧ f a s1 = .ok (b, s') := bind_ok h

theorem bind_inv {α β} {m : M α} {f : α → M β} {s : St} {b : β} {s' : St} (h : (m >>= f) s = .ok (b, s')) :
    ∃ a s1, m s = .ok (a, s1) ∧ f a s1 = .ok (b, s') := bind_ok h

theorem fe4_bind_inv {α β} {m : M α} {f : α → M β} {s s' : St} {b : β} (h : (m >>= f) s = .ok (b, s')) :
    ∃ a s1, m s = .ok (a, s1) ∧ f a s1 = .ok (b, s') := bind_ok h

theorem PcW.foot {L : Option Block} {pc pc' : Ctx} (h : PcW L pc pc') : PcFoot L pc pc' := by
  cases h with
  | skipList b => exact (PcFoot.refl pc).skipList b
  | emptyItemBlank b => exact (PcFoot.refl pc).emptyItemBlank b
  | tmpSome lb hl => exact (PcFoot.refl pc).tmpSome lb hl
  | fenceSome f hf => exact (PcFoot.refl pc).fenceSome f hf
  | tmpNone => exact ⟨rfl, rfl, rfl, rfl, .inr (.inl rfl), .inl rfl⟩
  | fenceNone => exact ⟨rfl, rfl, rfl, rfl, .inl rfl, .inr (.inl rfl)⟩

theorem LinesOnly.skel {v old : Node} (h : LinesOnly v old) : v.skel = old.skel := by
  rw [h]; rfl

theorem Grow.restrict {W W' : Nat → Prop} {n0 n : List Node} (h : Grow W' K n0 n)
    (hw : ∀ i, i < n0.length → W' i → W i) : Grow W K n0 n :=
  ⟨h.len, h.skel, fun i hi hn => h.same i hi (fun h' => hn (hw i hi h')), h.new⟩

/-- QuoteSim's footprint is the two-state view: nodes of `W` or created since `N0` are written -/
theorem StepB.foot_from {Kw : Prop} (N0 : Nat) {a b : St} (h : StepB Kw L K (fun i => W i ∨ N0 ≤ i) a b) :
    N0 ≤ a.nodes.length → Foot (fun i => W i ∨ N0 ≤ i) K L a b := by
  induction h with
  | refl s => exact fun _ => Foot.refl s
  | trans _ _ ih1 ih2 =>
    intro h0
    have h1 := ih1 h0
    exact h1.trans (ih2 (Nat.le_trans h0 h1.nodes.len)) (fun _ hi => .inl hi)
  | rd s r' _ _ => exact fun _ => ⟨Grow.refl _, PcFoot.refl _⟩
  | key s pc' _ h2 => exact fun _ => ⟨Grow.refl _, h2.foot⟩
  | write s id v h1 h2 => exact fun _ => ⟨(Grow.refl _).set id v (.inl h1) h2.skel, PcFoot.refl _⟩
  | push s n h1 => exact fun _ => ⟨(Grow.refl _).push n h1.1 h1.2, PcFoot.refl _⟩

theorem StepB.foot {Kw : Prop} {s s' : St} (h : StepB Kw L K (fun i => W i ∨ s.nodes.length ≤ i) s s') : Foot W K L s s' :=
  have hf := StepB.foot_from s.nodes.length h (Nat.le_refl _)
  ⟨hf.nodes.restrict (fun _ hi hw => hw.elim id (fun h' => absurd hi (Nat.not_lt.mpr h'))), hf.pc⟩

/-- a function walked in GM.Proof.BlocksStep keeps the footprint since any `s0` -/
theorem StepsB.keeps_foot {Kw : Prop} {s0 : St} {α} {m : M α}
    (hm : StepsB Kw L K (fun i => W i ∨ s0.nodes.length ≤ i) m) : Keeps (Foot W K L s0) m :=
  fun s a s' hs e => hs.trans (StepB.foot_from s0.nodes.length (hm.h s a s' e) hs.nodes.len) (fun _ h => h)

theorem lastOffset_foot {s0 : St} (n : Nat) : Keeps (Foot W K L s0) (lastOffset n) :=
  StepsB.keeps_foot (Kw := False)
    ((lastOffset_built (RD := False) (NW := fun _ _ => False) (PW := fun _ => False) (NN := fun _ => False) n).stepsF
      (fun _ _ h => h.elim) (fun _ h => h.elim) (fun _ h => h.elim))

end closure

/-- `Continue` of a block parser appends no node and writes, in the store, at most to the lines of its node -/
theorem bpContinue_foot (bp : BP) (n : Nat) {s s' : St} {a : PState} (e : bpContinue bp n s = .ok (a, s')) :
    Foot (· = n) (fun _ => False) none s s' :=
  StepB.foot ((bpContinue_stepB e).mono id (fun _ h => Or.inl h))

/-- `Open` of a block parser writes to new nodes only, all of the kind the parser builds, and the node it answers is
    one of them; `tmpPara` can only become the node of the last opened block -/
theorem bpOpen_foot (bp : BP) (p : Nat) {s s' : St} {a : Option Nat × PState} (e : bpOpen bp p s = .ok (a, s')) :
    Foot (fun _ => False) (· = bp.kind) s.pc.opened.getLast? s s' ∧
      ∀ id, a.1 = some id → s.nodes.length ≤ id ∧ id < s'.nodes.length :=
  ⟨StepB.foot ((bpOpen_stepB e).1.mono id (fun _ h => Or.inr h)), (bpOpen_stepB e).2⟩

end GM.Blocks
end Foot
