/-
  GM.Proof.BlocksClosedRun — the close discipline through the LINE side of the plain driver and for whole runs: `closeBlocks` over a range of the stack, the end of an iteration
  (`lineTail_cl`), one pass over the opened blocks and the outer loops (instances of GM.Proof.BlocksLoopRule), `run_closed`; `closeBlocks(len-1, 0)` is `closeAll`.
-/
import GM.Proof.BlocksClosedWalk
import GM.Proof.BlocksDriverL
import GM.Proof.BlocksLoopRule
import GM.Proof.BlocksLsp

section BlocksClosedRun
/-
  The close discipline through the end of one iteration of the `for i` loop of parseBlocks
  (parser.go:1108-1121): `openBlocks(thisParent)`, then `closeBlocks(lastIndex, i)`.

  The blocks that `closeBlocks` closes here are OLD blocks (they were open at the line start); the only Paragraph /
  setext block that stays open and is not closed is the new leaf `openBlocks` has just pushed. Its parent is
  `thisParent` or a node built on this line (`NewPar`), which is not a Paragraph and whose own parent is no old block
  below `thisParent` — so the tree surgery of the `Close` functions (setext: detach the paragraph it copies from;
  list: Paragraph → TextBlock in tight items) cannot reach it (`Guard`).
-/

namespace GM.Blocks
open GM GM.Text GM.Spec GM.Proof.Reader
open GM.Proof.BlocksWF0 (isRaw)

theorem CInv.of_same {src : Bytes} {s s' : St} {U : List Block} (h : CInv src s U) (hn : s'.nodes = s.nodes)
    (ho : s'.pc.opened = s.pc.opened) (ht : s'.pc.tmpPara = s.pc.tmpPara) : CInv src s' U := by
  have hnd : ∀ i, nd s' i = nd s i := fun i => by simp only [nd, hn]
  obtain ⟨B, hB⟩ := h.inv
  exact cinv_iff.2 ((cinv_iff.1 h).same ⟨B, hB.of_same hn ho ht⟩ (fun i => by rw [hnd]; exact ⟨rfl, rfl⟩)
    (fun i => by rw [hnd]; exact ⟨rfl, rfl⟩) (fun _ h => h) ho)

/-- a step that writes only the lines of one raw node (`Continue` of a code block, a fenced code block, an HTML block) -/
theorem CInv.onlyN {src : Bytes} {s s' : St} {U : List Block} {X : Nat} (h : CInv src s U) (ho : OnlyN X s s')
    (hraw : isRaw (nd s X).kind = true) (hpc : s'.pc = s.pc) (hinv' : ∃ B, Inv src B s') (hl : LinksKept s s') :
    CInv src s' U := by
  have hlinks : ∀ i, (nd s' i).parent = (nd s i).parent ∧ (nd s' i).children = (nd s i).children := by
    intro i
    rcases Nat.lt_or_ge i s.nodes.length with hi | hi
    · exact hl.2.1 i hi
    · rw [nd_default_of_ge s hi, nd_default_of_ge s' (by rw [ho.1]; exact hi)]; exact ⟨rfl, rfl⟩
  exact cinv_iff.2 ((cinv_iff.1 h).onlyX hinv' hlinks ho.2.1 ho.2.2 hraw (fun _ _ h => h) (by rw [hpc]))

/-- **closeBlocks on the middle of the stack** `pre ++ mid ++ new`, in the form the line loop calls it
    (`closeBlocks(len(pre)+len(mid)-1, len(pre))`): `mid` is closed, top first; `pre ++ new` stays -/
theorem closeBlocks_mid {src : Bytes} {s s' : St} (pre mid new : List Block) (hop : s.pc.opened = pre ++ mid ++ new)
    (h : CInv src s s.pc.opened) (hsrc : s.r.source = src)
    (hcont : ∀ b ∈ mid.reverse.tail, b.bp.isContainer = true)
    (hG : ∀ g ∈ pre ++ new, PSb g → Guard s mid.reverse g)
    (hsx : (∃ b ∈ mid, b.bp = .setext) → ∀ t, s.pc.tmpPara = some t → ∀ g ∈ s.pc.opened, g.bp = .paragraph → g.node ≠ t)
    (e : closeBlocks ((pre.length : Int) + (mid.length : Int) - 1) (pre.length : Int) s = .ok ((), s')) :
    CInv src s' s'.pc.opened ∧ s'.pc.opened = pre ++ new ∧ s'.r = s.r := by
  obtain ⟨a1, a2, a3⟩ := closeBlocks_clM pre mid new hop h hsrc hcont hG
    (fun ⟨b, hb, hbs⟩ => hsx ⟨b, by simpa using hb, hbs⟩) e
  exact ⟨by rw [a3]; exact a1, a3, a2.r⟩

namespace L

/-- the stack ids increase, so the node below a suffix of the stack is smaller than the nodes of the suffix -/
theorem lastNode_lt_of_incr {root : Nat} {pre mid : List Block}
    (h : (root :: (pre ++ mid).map (·.node)).Pairwise (· < ·)) {L : Block} (hL : L ∈ mid) :
    lastNode root pre < L.node := by
  rw [List.pairwise_cons] at h
  rcases lastNode_mem root pre with e | ⟨b, hb, e⟩
  · rw [e]; exact h.1 _ (List.mem_map.2 ⟨L, List.mem_append_right _ hL, rfl⟩)
  · rw [e]
    have h2 := h.2
    rw [List.map_append, List.pairwise_append] at h2
    exact h2.2.2 _ (List.mem_map.2 ⟨b, hb, rfl⟩) _ (List.mem_map.2 ⟨L, hL, rfl⟩)


section line
variable {src : Bytes} (lsp : LSp src)
include lsp

/-- `openBlocks(thisParent)` then `closeBlocks(lastIndex, i)` (parser.go:1108-1121) under the close discipline;
    hypotheses as `lineTailL` -/
theorem lineTail_cl {root : Nat} (Lb : Int) (pre : List Block) (be : Block) (rest : List Block) (ob : List Block)
    (li i : Int) (hob : ob = pre ++ be :: rest) (hli : li = (ob.length : Int) - 1) (hi : i = (pre.length : Int))
    (thisParent : Nat) (blank : Bool) (bl' : List LineStat) (s : St) (c : RCur)
    (x : LineOutcome × List LineStat) (s' : St)
    (hop : s.pc.opened = ob) (hri : RI src s.r c) (hpad : PadOK c) (hst : StableL src root s)
    (hpar : thisParent = lastNode root pre) (hmode : (nd s thisParent).kind = .list → Due src s c thisParent)
    (hinv : Inv src Lb s) (hle : Lb ≤ c.p) (hpl : PadL Lb c) (hci : CInv src s s.pc.opened)
    (e : (do
          let lastNode ← liftE (blockAt ob li)
          let result ← openBlocks thisParent blank
          if (result != OpenResult.paragraphContinuation) = true then do
              let __do_lift ← getPc
              closeBlocks
                  (if (Option.map (fun x => x.node) (slotAfter ob __do_lift.opened li.toNat) != some lastNode.node) = true then
                    li - 1
                  else li)
                  i
              pure (LineOutcome.next, bl')
            else pure (LineOutcome.next, bl') : M _) s = .ok (x, s')) :
    CInv src s' s'.pc.opened ∧ (x.1 = LineOutcome.eof → s'.pc.opened = []) := by
  have hlen : ob.length = pre.length + rest.length + 1 := by rw [hob]; simp; omega
  have hliN : li = ((pre.length + rest.length : Nat) : Int) := by rw [hli, hlen]; omega
  have hlt : pre.length + rest.length < ob.length := by omega
  have hba : blockAt ob li = .ok ob[pre.length + rest.length] := by rw [hliN]; exact blockAt_ok ob _ hlt
  obtain ⟨ln, s0, h0, k0⟩ := bind_ok e
  obtain ⟨hln', hs0⟩ := liftE_ok h0
  subst s0
  have hln : ln = ob[pre.length + rest.length] := by rw [hba] at hln'; cases hln'; rfl
  have hlastmem : ln ∈ ob := by rw [hln]; exact List.getElem_mem _
  have hcl : Call s.pc.opened pre := ⟨⟨be :: rest, by rw [hop, hob], fun h => by cases h⟩⟩
  obtain ⟨res, s1, h1, k1⟩ := bind_ok k0
  obtain ⟨c1, new1, hria1, _, hw1, hleafy1, _, hpc1, _, _⟩ :=
    (openBlocksL lsp pre thisParent blank s c hri hpad hst hcl hpar hmode).of_ok h1
  obtain ⟨hprec, hbec, hleafmid, hmidc⟩ := leafy_split (hob ▸ hop ▸ hst.leafy)
  -- the parent of the call
  have htplt : thisParent < s.nodes.length := by
    rw [hpar]
    rcases lastNode_mem root pre with e | ⟨b, hb, e⟩
    · rw [e]; exact hst.ls.rootLt
    · rw [e]; exact (hst.blocks b (by rw [hop, hob]; exact List.mem_append_left _ hb)).lt
  have htpk : (nd s thisParent).kind ≠ .paragraph := by
    rw [hpar]
    rcases lastNode_mem root pre with e | ⟨b, hb, e⟩
    · rw [e, hst.ls.rootKind]; decide
    · rw [e, (hst.blocks b (by rw [hop, hob]; exact List.mem_append_left _ hb)).kind]
      exact container_kind_ne_paragraph (hprec b hb)
  obtain ⟨how, _⟩ := openBlocks_cl (src := src) Lb thisParent blank s c res s1 ⟨hinv, hri, hpad, hle, hpl⟩ hci htplt htpk h1
  split at k1
  · obtain ⟨pc, s2, h2, k2⟩ := bind_ok k1
    obtain ⟨hpc, hs2⟩ := getPc_ok h2
    subst s2
    subst pc
    obtain ⟨_, s3, h3, k3⟩ := bind_ok k2
    obtain ⟨hx, hs⟩ := pure_ok k3
    subst s'
    subst x
    refine (fun (p : CInv src s3 s3.pc.opened) => ⟨p, fun h => by cases h⟩) ?_
    -- the guards of the new leaf
    have hincr : (root :: (pre ++ be :: rest).map (·.node)).Pairwise (· < ·) := by
      have := hst.ls.incr; rw [hop, hob] at this; exact this
    have hguard : ∀ (mid : List Block), (∀ L ∈ mid, L ∈ be :: rest) → ∀ g ∈ pre ++ new1, PSb g →
        g ∈ s1.pc.opened → Guard s1 mid.reverse g := by
      intro mid hmid g hg hps hgo
      rcases List.mem_append.1 hg with hg | hg
      · exact absurd hps (not_ps_of_container (hprec g hg))
      · have hfr := hw1.fresh g hg
        have hatt := how.ci.att g hgo
        cases hq : (nd s1 g.node).parent with
        | none => rw [hq] at hatt; cases hatt
        | some q =>
          obtain ⟨q1, q2, q3⟩ := how.np g.node hfr q hq
          refine ⟨q, hq, q2, q3, fun L hL _ hpq => ?_⟩
          have hLm : L ∈ be :: rest := hmid L (by simpa using hL)
          have hLlt : L.node < s.nodes.length := hw1.oldlt L (by rw [hop, hob]; exact List.mem_append_right _ hLm)
          have htl : thisParent < L.node := by rw [hpar]; exact lastNode_lt_of_incr hincr hLm
          rcases q1 with q1 | q1
          · have := how.ci.tree.par_lt q L.node hpq
            omega
          · obtain ⟨r1, _, _⟩ := how.np q q1 L.node hpq
            omega
    rcases hw1.shape with e | ⟨hne, hnew, e⟩
    · have hslot : slotAfter ob s1.pc.opened li.toNat = some ln := by
        unfold slotAfter
        rw [e, hop, hliN, Int.toNat_natCast, List.getElem?_append_left hlt, List.getElem?_eq_getElem hlt, hln]
      rw [hslot] at h3
      simp only [Option.map, bne_self_eq_false, Bool.false_eq_true, if_false] at h3
      have harg : li = (pre.length : Int) + ((be :: rest).length : Int) - 1 := by rw [hliN]; simp; omega
      rw [harg, hi] at h3
      have hop1 : s1.pc.opened = pre ++ (be :: rest) ++ new1 := by rw [e, hop, hob]
      obtain ⟨a1, _, _⟩ := closeBlocks_mid (src := src) pre (be :: rest) new1 hop1 how.ci hria1.source
        (fun b hb => hmidc b (by rw [List.tail_reverse] at hb; simpa using hb))
        (fun g hg hps => hguard (be :: rest) (fun L hL => hL) g hg hps (by
          rw [hop1]
          rcases List.mem_append.1 hg with hg | hg
          · exact List.mem_append_left _ (List.mem_append_left _ hg)
          · exact List.mem_append_right _ hg))
        (fun ⟨b, hb, hbs⟩ t ht g hg hgp => by
          have htn := how.tmp t ht
          rw [hop1] at hg
          rcases List.mem_append.1 hg with hg | hg
          · -- an old Paragraph block is the old leaf, as is the setext block
            have hgo : g ∈ ob := by rw [hob]; simpa using hg
            have hbo : b ∈ ob := by rw [hob]; exact List.mem_append_right _ hb
            have hlg : ob.getLast? = some g := by
              rcases mem_dropLast_or_last ob g hgo with h | h
              · have := (hop ▸ hst.leafy) g h; rw [hgp] at this; cases this
              · exact h
            have hlb : ob.getLast? = some b := by
              rcases mem_dropLast_or_last ob b hbo with h | h
              · have := (hop ▸ hst.leafy) b h; rw [hbs] at this; cases this
              · exact h
            rw [hlg] at hlb
            cases hlb
            rw [hgp] at hbs; cases hbs
          · have := hw1.fresh g hg
            omega) h3
      exact a1
    · obtain ⟨x, xs, hx⟩ : ∃ x xs, new1 = x :: xs := by
        cases new1 with
        | nil => exact absurd rfl hnew
        | cons x xs => exact ⟨x, xs, rfl⟩
      have hdl : ob.dropLast.length = pre.length + rest.length := by rw [List.length_dropLast]; omega
      have hslot : slotAfter ob s1.pc.opened li.toNat = some x := by
        unfold slotAfter
        rw [e, hop, hliN, Int.toNat_natCast, List.getElem?_append_right (by omega), hdl, Nat.sub_self, hx]
        rfl
      have hxne : (x.node == ln.node) = false := by
        have h1 := hw1.fresh x (by rw [hx]; simp)
        have h2 := hw1.oldlt ln (by rw [hop]; exact hlastmem)
        exact beq_false_of_ne (by omega)
      rw [hslot] at h3
      have hcond : (Option.map (fun x => x.node) (some x) != some ln.node) = true := by
        simp only [Option.map, bne, Option.some_beq_some, hxne, Bool.not_false]
      rw [if_pos hcond] at h3
      have hdrop : ob.dropLast = pre ++ (be :: rest).dropLast := by
        rw [hob]; exact List.dropLast_append_of_ne_nil (by simp)
      have harg : li - 1 = (pre.length : Int) + ((be :: rest).dropLast.length : Int) - 1 := by
        rw [hliN, List.length_dropLast]; simp
      rw [harg, hi] at h3
      have hop1 : s1.pc.opened = pre ++ (be :: rest).dropLast ++ new1 := by rw [e, hop, hdrop]
      obtain ⟨a1, _, _⟩ := closeBlocks_mid (src := src) pre (be :: rest).dropLast new1 hop1 how.ci hria1.source
        (fun b hb => hmidc b (by simpa using List.mem_of_mem_tail hb))
        (fun g hg hps => hguard (be :: rest).dropLast (fun L hL => List.dropLast_subset _ hL) g hg hps (by
          rw [hop1]
          rcases List.mem_append.1 hg with hg | hg
          · exact List.mem_append_left _ (List.mem_append_left _ hg)
          · exact List.mem_append_right _ hg))
        (fun ⟨b, hb, hbs⟩ => by have := hmidc b hb; rw [hbs] at this; cases this) h3
      exact a1
  · obtain ⟨hx, hs⟩ := pure_ok k1
    subst s'
    subst x
    exact ⟨how.ci, fun h => by cases h⟩

end line

end L

end GM.Blocks
end BlocksClosedRun

section BlocksClosedLoop
/-
  The order invariant and the close discipline through one pass of the `for i` loop of
  parseBlocks (parser.go:1081-1123), in one walk (`lineLoop_inv`): `Inv` up to the line start becomes `Inv` up to the
  line end (`Dirty`), and `CInv src s s.pc.opened` is carried along. The fall-through of an iteration is `lineF_ord` /
  `lineF_cl`.
-/

namespace GM.Blocks
open GM GM.Text GM.Spec GM.Proof.Reader
open GM.Proof.BlocksWF0 (isRaw)

/-- what a pass over the opened blocks ends in: the close discipline holds for the new stack, and at the end of the
    source the stack is empty -/
def QL (src : Bytes) (x : LineOutcome × List LineStat) (s' : St) : Prop :=
  CInv src s' s'.pc.opened ∧ (x.1 = LineOutcome.eof → s'.pc.opened = [])

/-- `Continue` of the eight list-free parsers, on a block that is not a Paragraph: the close discipline is kept -/
theorem bpContinue_cinv {src : Bytes} {s s' : St} {st : PState} {U : List Block} (bp : BP) (node : Nat)
    (hi : CInv src s U) (c : RCur) (hri : RI src s.r c)
    (hnl : bp ≠ .list ∧ bp ≠ .listItem) (hnp : bp ≠ .paragraph) (hk : (nd s node).kind = bp.kind)
    (hpc : s'.pc = s.pc) (hinv' : ∃ B, Inv src B s') (e : bpContinue bp node s = .ok (st, s')) : CInv src s' U := by
  have same : s' = s → CInv src s' U := fun h => by rw [h]; exact hi
  have raw : isRaw bp.kind = true → FrN node (bpContinue bp node) → CInv src s' U := fun hr hf =>
    hi.onlyN (hf.h s st s' e) (by rw [hk]; exact hr) hpc hinv' ((bpContinue_frl bp node).h s st s' e)
  cases bp
  case setext => exact same (by have e' : (pure stClose : M PState) s = .ok (st, s') := e; exact (pure_ok e').2)
  case thematic => exact same (by have e' : (pure stClose : M PState) s = .ok (st, s') := e; exact (pure_ok e').2)
  case list => exact absurd rfl hnl.1
  case listItem => exact absurd rfl hnl.2
  case code => exact raw rfl codeContinue_frn
  case atx => exact same (by have e' : (pure stClose : M PState) s = .ok (st, s') := e; exact (pure_ok e').2)
  case fenced => exact raw rfl fencedContinue_frn
  case blockquote =>
    have e' : blockquoteContinue node s = .ok (st, s') := e
    unfold blockquoteContinue at e'
    obtain ⟨b, s1, h1, k1⟩ := bind_ok e'
    obtain ⟨r1, c1, hs1, _⟩ := (blockquoteProcess_okl hri).of_ok h1
    have hs' : s' = s1 := by
      split at k1
      · exact (pure_ok k1).2
      · exact (pure_ok k1).2
    rw [hs', hs1]
    exact hi.of_same rfl rfl rfl
  case html => exact raw rfl htmlContinue_frn
  case paragraph => exact absurd rfl hnp

namespace L

section run
variable {src : Bytes} (lsp : LSp src)
include lsp

/-- the fall-through continuation of one iteration of the `for i` loop; hypotheses as `lineFL` -/
theorem lineF_cl {root : Nat} (Lb : Int) (parent : Nat) (hroot : parent = root) (pre : List Block) (be : Block)
    (rest : List Block) (ob : List Block) (li i : Int)
    (hob : ob = pre ++ be :: rest) (hli : li = (ob.length : Int) - 1) (hi : i = (pre.length : Int))
    (blank : Bool) (bl' : List LineStat) (s : St) (c : RCur) (x : LineOutcome × List LineStat) (s' : St)
    (hop : s.pc.opened = ob) (hri : RI src s.r c) (hpad : PadOK c) (hst : StableL src root s)
    (hmode : (nd s (lastNode root pre)).kind = .list → Due src s c (lastNode root pre))
    (hinv : Inv src Lb s) (hle : Lb ≤ c.p) (hpl : PadL Lb c) (hci : CInv src s s.pc.opened)
    (e : lineFT parent ob li i blank bl' s = .ok (x, s')) : QL src x s' := by
  rw [lineFT_eq hroot li hob hi] at e
  exact lineTail_cl lsp Lb pre be rest ob li i hob hli hi _ blank bl' s c x s' hop hri hpad hst rfl hmode hinv hle hpl hci e

/-- **one pass of the `for i` loop (parser.go:1081-1123)**, with the hypotheses of `lineLoopL` (`StableL`, the list
    hints: they exclude `reader.AdvanceAndSetPadding(-1,-1)` in listItemParser.Continue, the only way the reader could
    step back inside a line) and the order invariant up to the line start: the order invariant holds up to the line
    end, and the close discipline is kept. While only container blocks have continued nothing was appended (`Clean`);
    the one leaf `Continue` / the one `openBlocks` of the line appends at most one segment per block, behind the line
    start. `Continue` of a container writes no node, `Continue` of a raw leaf writes the lines of its own, raw node and
    no link; at the end of the source `closeBlocks(lastIndex, 0)` closes the whole stack.
    The walk is `lineLoopT_rule` (GM.Proof.BlocksLoopRule) at `pts = []`. -/
theorem lineLoop_inv {root : Nat} (parent : Nat) (hroot : parent = root) (ob : List Block) (li : Int)
    (hli : li = (ob.length : Int) - 1) (Lb : Int) :
    ∀ (rest pre : List Block) (i : Int) (bl : List LineStat) (s : St) (c : RCur)
      (x : LineOutcome × List LineStat) (s' : St), ob = pre ++ rest → i = (pre.length : Int) →
      s.pc.opened = ob → RI src s.r c → PadOK c → StableL src root s →
      (∀ Lk, pre.getLast? = some Lk → Lk.bp = .list → ListHint src s c Lk.node) →
      Inv src Lb s → Lb ≤ c.p → PadL Lb c → CInv src s s.pc.opened →
      lineLoop parent ob li rest i bl s = .ok (x, s') →
      Dirty src s' ∧ QL src x s' := by
  intro rest pre i bl s c x s' hob hi hop hri hpad hst hhint hinv hle hpl hci h
  rw [← lineLoopT_nil] at h
  refine (lineLoopT_rule (pts1 := []) (pts2 := []) (K := fun s => Inv src Lb s ∧ CInv src s s.pc.opened)
    (Dy := fun s => Dirty src s ∧ CInv src s s.pc.opened) (Q := fun x s' => Dirty src s' ∧ QL src x s') lsp parent ob li Lb hli
    (lineLayer_stableL src root) loopCalc_eqv
    (fun h hn ho ht => ⟨h.1.of_same hn ho ht, by rw [ho]; exact h.2.of_same hn ho ht⟩)
    (fun h hri hpad hle hpl => ⟨(Clean.mk h.1 hri hpad hle hpl).dirty, h.2⟩)
    (fun _ _ _ h => ⟨h.1, h.2, fun h => by cases h⟩)
    (fun bl s c hk hri hpad hle hpl hst hop hv => TO.EQV.refl fun _ s2 h2 => ?_)
    (fun be s c c2 st s4 hk hri hpad hle hpl hst hop hbe hp hnl hnp h2c h4 => ?_)
    (fun _ be blank bl' s c hk hri hpad hle hpl hst hop hbe _ hbec => TO.EQV.refl fun res s3 h3 => ?_)
    (fun pre be rest i hob hi blank bl' s c hk hri hpad hle hpl hst hop hmode => TO.EQV.refl fun x s' e' => ?_)
    rest pre i bl s c hob hi hop hri hpad hst hhint ⟨hinv, hci⟩ hle hpl).2 x s' h
  · -- the end of the source: `closeBlocks` closes the whole stack
    rw [closeBlocksT_nil] at h2
    have hc1 : Clean src Lb s c := ⟨hk.1, hri, hpad, hle, hpl⟩
    obtain ⟨b1, b2, _, _⟩ := closeBlocks_inv _ _ hc1.invE hri.source h2
    have hstop2 : Stop src (lineEnd src c.p : Int) s2 := (RI.stop hri).congr b2
    have e1 : li = (([] : List Block).length : Int) + (ob.length : Int) - 1 := by simp [hli]
    rw [e1] at h2
    obtain ⟨a1, a2, _⟩ := closeBlocks_mid (src := src) [] ob [] (by rw [hop]; simp) hk.2 hri.source
      (fun b hb => (hop ▸ hst.leafy) b (by rw [List.tail_reverse] at hb; simpa using hb))
      (fun g hg => by cases hg)
      (fun ⟨b, hb, hbs⟩ t ht g hg hgp => by
        exfalso
        have hg' : g ∈ ob := by rw [← hop]; exact hg
        exact leaf_unique (hop ▸ hst.leafy) hg' hb hgp hbs) h2
    exact ⟨⟨_, b1.congr_r _, hstop2.toR.advanceLine.toS⟩, a1.of_same rfl rfl rfl, fun _ => by show s2.pc.opened = []; rw [a2]; rfl⟩
  · -- `Continue` of the eight list-free parsers
    have hbeok := hst.blocks be (hop ▸ hbe)
    obtain ⟨hinvE, hrest⟩ := bpContinue_clean (c2 := c2) be (Clean.mk hk.1 hri hpad hle hpl) hp hst.keys hbeok.kind hnl hnp h2c h4
    have hstop4 : Stop src (lineEnd src c.p : Int) s4 := by
      have := (bpContinue_pres (stop_prims src (lineEnd src c.p : Int)) be.bp be.node).h _ (RI.stop hri)
      rw [h4] at this; exact this
    have hci4 : CInv src s4 s4.pc.opened := by
      rw [h2c.pc]
      exact bpContinue_cinv be.bp be.node hk.2 c hri hnl hnp hbeok.kind h2c.pc ⟨_, hinvE⟩ h4
    exact ⟨⟨⟨_, hinvE, hstop4⟩, hci4⟩, fun hor => ⟨⟨(hrest hor).1, hci4⟩, (hrest hor).2⟩⟩
  · -- `openBlocks` below a container that goes on
    rw [openBlocksT_nil] at h3
    have hbe2 := hst.blocks be (hop ▸ hbe)
    have hcw : Clean src Lb s c := ⟨hk.1, hri, hpad, hle, hpl⟩
    exact ⟨openBlocks_ord (src := src) Lb be.node blank s c res s3 hcw h3,
      (openBlocks_cl (src := src) Lb be.node blank s c res s3 hcw hk.2 hbe2.lt
        (by rw [hbe2.kind]; exact container_kind_ne_paragraph hbec) h3).1.ci, fun h => by cases h⟩
  · -- the fall-through
    rw [lineFTT_nil] at e'
    exact ⟨lineF_ord Lb parent ob li i blank bl' s c x s' ⟨hk.1, hri, hpad, hle, hpl⟩ e',
      lineF_cl lsp Lb parent hroot pre be rest ob li i hob hli hi blank bl' s c x s' hop hri hpad hst hmode hk.1 hle hpl hk.2 e'⟩

/-- **one pass of the `for i` loop (parser.go:1081-1123) keeps the close discipline** -/
theorem lineLoop_cl {root : Nat} (parent : Nat) (hroot : parent = root) (ob : List Block) (li : Int)
    (hli : li = (ob.length : Int) - 1) (Lb : Int) :
    ∀ (rest pre : List Block) (i : Int) (bl : List LineStat) (s : St) (c : RCur)
      (x : LineOutcome × List LineStat) (s' : St), ob = pre ++ rest → i = (pre.length : Int) →
      s.pc.opened = ob → RI src s.r c → PadOK c → StableL src root s →
      (∀ Lk, pre.getLast? = some Lk → Lk.bp = .list → ListHint src s c Lk.node) →
      Inv src Lb s → Lb ≤ c.p → PadL Lb c → CInv src s s.pc.opened →
      lineLoop parent ob li rest i bl s = .ok (x, s') → QL src x s' :=
  fun rest pre i bl s c x s' hob hi hop hri hpad hst hhint hinv hle hpl hci h =>
    (lineLoop_inv lsp parent hroot ob li hli Lb rest pre i bl s c x s' hob hi hop hri hpad hst hhint hinv hle hpl hci h).2

end run

end L

end GM.Blocks
end BlocksClosedLoop

section BlocksClosedEnd
/-
  THE CLOSE DISCIPLINE FOR WHOLE RUNS of the block phase (transformer-free driver `run`).

  `blocksLoop_cl` (an instance of GM.Proof.BlocksLoopRule): at every line boundary all lines end at or before the new line start (`Inv`) and
  `CInv src s s.pc.opened` holds — every block on the open-block stack is attached (so `closeBlocks` will hand it to
  its parser's `Close`), every non-raw node that is not the node of an open Paragraph / setext block has padding 0 on
  all its lines — and the block phase ends with an empty stack.
  `run_closed`: in the final store every segment of every non-raw block has padding 0, and `pc.opened = []`.
-/

namespace GM.Blocks
open GM GM.Text GM.Spec GM.Proof.Reader
open GM.Proof.BlocksWF0 (isRaw)

namespace L

section run
variable {src : Bytes} (lsp : LSp src)
include lsp

/-- the outer loop of parseBlocks (parser.go:1055-1127) under the close discipline: `blocksLoopT_rule` at `pts = []`, with
    `Inv` / `Dirty` and the close discipline of the stack, and "the stack is empty" at the end of the source -/
theorem blocksLoop_cl {root : Nat} (parent : Nat) (hroot : parent = root) :
    ∀ (fuel : Nat) (bl : List LineStat) (s : St) (c : RCur) (s' : St), RI src s.r c → PadOK c → StableL src root s →
      s.pc.opened = [] → Inv src (c.p : Int) s → c.pad = 0 → CInv src s s.pc.opened →
      blocksLoop parent fuel bl s = .ok ((), s') →
      CInv src s' s'.pc.opened ∧ s'.pc.opened = [] := by
  intro fuel bl s c s' hri hpad hst hemp hinv hp0 hci h
  rw [← blocksLoopT_nil] at h
  refine (blocksLoopT_rule (pts1 := []) (pts2 := []) (ST := StableL src root)
    (K := fun B s => Inv src B s ∧ CInv src s s.pc.opened) (Dy := fun s => Dirty src s ∧ CInv src s s.pc.opened)
    (De := fun s => s.pc.opened = []) (Fin := fun s => CInv src s s.pc.opened ∧ s.pc.opened = []) parent
    (fun r h => h.congr_r r) (fun h hi => ⟨hi.1.mono h, hi.2⟩) (fun r hi => ⟨hi.1.congr_r r, hi.2.of_same rfl rfl rfl⟩)
    (fun hd hria => ⟨dirty_next hd.1 hria, hd.2.of_same rfl rfl rfl⟩)
    (fun bl s c hri hpad hst hinv hp0 => TO.EQV.refl fun y s1 h1 => ?_)
    (fun blank s c hri hpad hst hemp hinv hp0 => TO.EQV.refl fun res s4 h4 => ?_)
    (fun _ _ h he => ⟨h.2, he⟩) (fun _ hd he => ⟨hd.2, he⟩)
    fuel bl s c hri hpad hst hemp ⟨hinv, hci⟩ hp0).2 () s' h
  · rw [lineLoopT_nil] at h1
    obtain ⟨hd1, q⟩ := lineLoop_inv lsp parent hroot s.pc.opened ((s.pc.opened.length : Int) - 1) rfl (c.p : Int)
      s.pc.opened [] 0 bl s c y s1 (by simp) (by simp) rfl hri hpad hst (fun Lk h => by simp at h) hinv.1 (Int.le_refl _)
      (fun hne => absurd hp0 hne) hinv.2 h1
    exact ⟨⟨hd1, q.1⟩, q.2, (lineLoopL lsp parent hroot s.pc.opened ((s.pc.opened.length : Int) - 1) rfl s.pc.opened [] 0 bl s c
      (by simp) (by simp) rfl hri hpad hst (fun Lk h => by simp at h)).of_ok h1⟩
  · rw [openBlocksT_nil] at h4
    have hcw : Clean src (c.p : Int) s c := ⟨hinv.1, hri, hpad, Int.le_refl _, fun hne => absurd hp0 hne⟩
    have q := openBlocks_cl (src := src) (c.p : Int) parent blank s c res s4 hcw hinv.2 (by rw [hroot]; exact hst.ls.rootLt)
      (by rw [hroot, hst.ls.rootKind]; decide) h4
    exact ⟨⟨openBlocks_ord (src := src) (c.p : Int) parent blank s c res s4 hcw h4, q.1.ci⟩,
      fun hne => by rw [q.2 hne]; exact hemp, stableL_top lsp hroot hri hpad hst hemp h4⟩

/-- the whole block phase: the close discipline holds of the final store, with an empty stack -/
theorem run_closed_aux (s : St) (h : run src = .ok s) : CInv src s [] ∧ s.pc.opened = [] := by
  unfold run parseBlocks at h
  have hnd0 : ∀ i, nd ({ (initSt src) with pc := { (initSt src).pc with opened := [] } } : St) i =
      if i = 0 then { kind := .document } else default := by
    intro i
    cases i with
    | zero => rfl
    | succ n => rfl
  have hnodes0 : NodesOK src { (initSt src) with pc := { (initSt src).pc with opened := [] } } := by
    intro n hn
    simp only [initSt, List.mem_singleton] at hn
    subst hn
    exact ⟨by intro t ht; simp at ht, fun _ => rfl⟩
  have hinit : StableL src 0 { (initSt src) with pc := { (initSt src).pc with opened := [] } } := by
    refine ⟨hnodes0, ⟨?_, ?_⟩, ?_, ?_, ⟨⟨?_, ?_, ?_⟩, ?_, ?_, ?_, ?_, ?_⟩, ?_, ?_⟩
    · intro t h; simp [initSt] at h
    · intro f h; simp [initSt] at h
    · intro b hb; simp at hb
    · intro b hb; simp at hb
    · intro i lc hk; rw [hnd0] at hk; split at hk <;> cases hk
    · intro i hk; rw [hnd0] at hk; split at hk <;> cases hk
    · intro i p hp; rw [hnd0] at hp; split at hp <;> cases hp
    · intro i p hp; rw [hnd0] at hp; split at hp <;> cases hp
    · rw [hnd0]; rfl
    · simp [initSt]
    · intro b hb; simp at hb
    · simp
    · trivial
    · show (nd _ (lastNode 0 [])).kind ≠ .list
      rw [lastNode_nil, hnd0]; decide
  have hinv0 : Inv src ((RCur.init).p : Int) { (initSt src) with pc := { (initSt src).pc with opened := [] } } := by
    refine ⟨fun i => ?_, fun i hk => ?_, fun i hk => ?_, fun t ht => ?_, fun b hb => ?_, hnodes0⟩
    · rw [hnd0]; split
      · exact NodeB.nil _ rfl
      · exact NodeB.nil _ rfl
    · rw [hnd0] at hk; split at hk <;> cases hk
    · rw [hnd0] at hk; split at hk <;> cases hk
    · simp [initSt] at ht
    · simp at hb
  have hci0 : CInv src { (initSt src) with pc := { (initSt src).pc with opened := [] } } [] := by
    refine ⟨⟨_, hinv0⟩, ⟨fun i p hp => ?_, fun x c hc => ?_, fun x => ?_⟩, fun i _ => .inl (fun t ht => ?_),
      (fun b hb => by cases hb), (fun a ha => by cases ha), (fun b hb => by cases hb)⟩
    · rw [hnd0] at hp; split at hp <;> cases hp
    · rw [hnd0] at hc; split at hc <;> cases hc
    · rw [hnd0]; split <;> exact List.nodup_nil
    · rw [hnd0] at ht; split at ht <;> cases ht
  simp only [bind, StateT.bind, modPc, source, Except.bind, pure, StateT.pure, Except.pure] at h
  cases hb : blocksLoop 0 (linesFuel (initSt src).r.source) []
      { r := (initSt src).r, nodes := (initSt src).nodes, pc := { (initSt src).pc with opened := [] } } with
  | error e => rw [hb] at h; cases h
  | ok p =>
    rw [hb] at h
    obtain ⟨u, s1⟩ := p
    have hs : s1 = s := by simpa [Except.map] using h
    subst hs
    obtain ⟨a1, a2⟩ := blocksLoop_cl lsp 0 rfl (linesFuel (initSt src).r.source) []
      { (initSt src) with pc := { (initSt src).pc with opened := [] } } RCur.init s1 (ri_init src)
      (fun h => absurd rfl h) hinit rfl hinv0 rfl hci0 hb
    rw [a2] at a1
    exact ⟨a1, a2⟩

end run

end L

/-- **padding 0 at the end, for every byte string**: when the block phase ends normally, every line segment of every
    block that is not raw (everything but CodeBlock, FencedCodeBlock, HTMLBlock) has padding 0 in the final store —
    each such block was handed to its parser's `Close` (paragraphParser.Close trims and resets the padding; the
    copies made by setext / list `Close` copy closed lines) or never had a padded line. -/
theorem run_closed (src : Bytes) (s : St) (h : run src = .ok s) :
    ∀ n ∈ s.nodes, isRaw n.kind = false → ∀ t ∈ n.lines, t.padding = 0 := by
  obtain ⟨hc, _⟩ := L.run_closed_aux (lsp_all src) s h
  intro n hn hr
  obtain ⟨i, _, rfl⟩ := mem_nodes_nd hn
  rcases hc.pad i hr with hcl | ⟨b, hb, _⟩
  · exact hcl
  · cases hb

/-- **the open-block stack is empty when the block phase ends**, for every byte string -/
theorem run_opened_nil (src : Bytes) (s : St) (h : run src = .ok s) : s.pc.opened = [] :=
  (L.run_closed_aux (lsp_all src) s h).2

end GM.Blocks
end BlocksClosedEnd

section BlocksClosedAll
/-
  "every block that closeBlocks pops is handed to its parser's `Close`", as an equation.

  parser.closeBlocks (parser.go:900-918) skips the `Close` of a block whose node is detached (`Parent() == nil`,
  parser.go:904-909). Under the close discipline (`CInv`, GM.Proof.BlocksClosedInv) that test never fails: the loop of
  closeBlocks equals the loop WITHOUT the test (`closeAll`), as state transformers — same final state, same panic.
  For users who reason about what `Close` does (heading ids, attributes): they may work with `closeAll`.
-/

namespace GM.Blocks
open GM GM.Text GM.Spec GM.Proof.Reader
open GM.Proof.BlocksWF0 (isRaw)

/-- the loop of closeBlocks without the `Parent() != nil` test: `Close` for every block of the list, in order -/
def closeAll : List Block → M Unit
  | [] => pure ()
  | b :: bs => do
    bpClose b.bp b.node
    closeAll bs

/-- **closeBlocks never skips a `Close`** under the close discipline: the hypotheses are those of `closeList_cl`
    (the blocks `l` are closed top first, only the top may be a leaf; the Paragraph / setext blocks `K` that stay open are
    guarded; a closing setext heading's paragraph is not an open block). -/
theorem closeList_eq_closeAll {src : Bytes} : ∀ (l K : List Block) (s : St), CInv src s (l ++ K) → s.r.source = src →
    (∀ b ∈ l.tail, b.bp.isContainer = true) → (∀ g ∈ K, PSb g → Guard s l g) →
    ((∃ b ∈ l, b.bp = .setext) → ∀ t, s.pc.tmpPara = some t → ∀ g ∈ l ++ K, g.bp = .paragraph → g.node ≠ t) →
    closeList l s = closeAll l s := by
  intro l
  induction l with
  | nil => intro K s _ _ _ _ _; rfl
  | cons b rest ih =>
    intro K s h hsrc hcont hG hsx
    have h' : CInv src s (b :: (rest ++ K)) := by simpa using h
    have hatt := h'.att b (List.mem_cons_self ..)
    have hrestc : ∀ g ∈ rest, g.bp.isContainer = true := fun g hg => hcont g (by simpa using hg)
    unfold closeList closeAll
    have hnode : (s.nodes.getD b.node default).parent.isSome = true := hatt
    simp only [bind, StateT.bind, getNode, pure, StateT.pure, Except.bind, Except.pure, hnode, if_true]
    cases hb : bpClose b.bp b.node s with
    | error e => rfl
    | ok p =>
      obtain ⟨u, s1⟩ := p
      simp only
      obtain ⟨hc1, hs1⟩ := bpClose_cl h' hsrc (fun g hg hp => by
          rcases List.mem_append.1 hg with hg | hg
          · exact absurd hp (not_ps_of_container (hrestc g hg))
          · obtain ⟨q, q1, q2, q3, q4⟩ := hG g hg hp
            exact ⟨q, q1, q2, q3, fun L hL => q4 L (by
              simp only [List.mem_singleton] at hL; rw [hL]; exact List.mem_cons_self ..)⟩)
        (fun hbs t ht g hg hgp => hsx ⟨b, List.mem_cons_self .., hbs⟩ t ht g (by simpa using hg) hgp) hb
      have hG1 : ∀ g ∈ K, PSb g → Guard s1 rest g := fun g hg hp =>
        (hG g hg hp).step hs1 (List.mem_append_right _ hg) hp (fun L hL => List.mem_cons_of_mem _ hL)
      have hsx1 : (∃ b' ∈ rest, b'.bp = .setext) → ∀ t, s1.pc.tmpPara = some t → ∀ g ∈ rest ++ K, g.bp = .paragraph →
          g.node ≠ t := by
        rintro ⟨b', hb', hbs⟩
        have := hrestc b' hb'
        rw [hbs] at this; cases this
      exact ih K s1 hc1 (by rw [hs1.r]; exact hsrc) (fun g hg => hrestc g (List.mem_of_mem_tail hg)) hG1 hsx1

end GM.Blocks
end BlocksClosedAll
