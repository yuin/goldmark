/-
  GM.Proof.QuoteSimOpen — parser.openBlocks (the `goto retry` loop with the model's contract monitor) preserves the
  simulation relation.
-/
import GM.Proof.QuoteSimDriver

namespace GM.Blocks
open GM GM.Text GM.Spec GM.Proof.Reader

/-- the parsers that can be tried on any line of `src` are covered -/
structure TrigOK (src : Bytes) (al : BP → Bool) : Prop where
  free : ∀ bp ∈ freeParsers, al bp = true ∨ (bp.notList = false ∧ al .list = false ∧ NoItem src) ∨
      (bp = .setext ∧ al .setext = false ∧ NoBar src)
  trig : ∀ c ∈ src, ∀ bp ∈ (triggered c).getD freeParsers, al bp = true ∨ (bp.notList = false ∧ al .list = false ∧ NoItem src) ∨
      (bp = .setext ∧ al .setext = false ∧ NoBar src)

theorem TrigOK.of_all {src : Bytes} {al : BP → Bool}
    (h : ∀ bp, al bp = true ∨ (bp.notList = false ∧ al .list = false ∧ NoItem src) ∨
      (bp = .setext ∧ al .setext = false ∧ NoBar src)) : TrigOK src al :=
  ⟨fun bp _ => h bp, fun _ _ bp _ => h bp⟩

theorem nodesEq_noR (n0 : List Node) : NoR (fun s : St => s.nodes = n0) := ⟨fun _ _ hs => hs⟩

/-! ### the retry measure: B's is A's plus a constant of the line -/

theorem lastIsList_q {src al k ls p} {sA sB : St} (h : DR src al k ls p sA sB) : lastIsList sB = lastIsList sA := by
  unfold lastIsList
  rcases h.s.c.last with ⟨e1, e2⟩ | ⟨x, e1, e2⟩
  · rw [e1, e2]
    have hroot := h.s.n.node 0
    have hk := hroot.kind
    simp only [beq_self_eq_true, if_true] at hk
    simp only [bqBlock]
    have : (sB.nodes.getD (0 + 1) default).kind = .blockquote := hk.1
    simp only [Nat.zero_add] at this
    rw [this]; rfl
  · rw [e1, e2]
    have hx0 := (h.a.opened x (List.mem_of_getLast? e1)).2
    have hn := h.s.n.node x.node
    rw [beq_eq_false_iff_ne.mpr hx0] at hn
    have hk := hn.kind
    simp only [Bool.false_eq_true, if_false] at hk
    simp only [shB]
    rw [hk]

theorem retryMeasure_q {src al k ls p} {sA sB : St} (h : DR src al k ls p sA sB) :
    retryMeasure sA = 2 * (src.length - p) + (if lastIsList sA then 0 else 1) ∧
    retryMeasure sB = 2 * ((quotePrefix src).length - (p + 2 * (k + 1))) + (if lastIsList sA then 0 else 1) := by
  unfold retryMeasure
  rw [lastIsList_q h, h.s.r.a.source, h.s.r.b.source, h.s.r.a.pos, h.s.r.b.pos]
  simp only [Int.toNat_natCast]
  exact ⟨trivial, trivial⟩

theorem retry_cmp {src al k ls p p'} {sA sB sA' sB' : St} (h : DR src al k ls p sA sB) (h' : DR src al k ls p' sA' sB') :
    decide (retryMeasure sB' < retryMeasure sB) = decide (retryMeasure sA' < retryMeasure sA) := by
  obtain ⟨e1, e2⟩ := retryMeasure_q h
  obtain ⟨e3, e4⟩ := retryMeasure_q h'
  rw [e1, e2, e3, e4]
  have b1 := lineEnd_le src ls
  have b2 := qp_length_ge h.s.r.inl.line
  have b3 := h.s.r.inl.le
  have b4 := h'.s.r.inl.le
  generalize (if lastIsList sA = true then 0 else 1 : Nat) = x
  generalize (if lastIsList sA' = true then 0 else 1 : Nat) = y
  apply decide_eq_decide.mpr
  constructor <;> intro hh <;> omega

theorem get_s2 {src al k ls p} {sA sB : St} (h : DR src al k ls p sA sB) :
    S2 (fun a b sA' sB' => a = sA ∧ b = sB ∧ sA' = sA ∧ sB' = sB) ((get : M St) sA) ((get : M St) sB) :=
  S2.ok ⟨rfl, rfl, rfl, rfl⟩

/-! ### one retry of openBlocks -/

/-- what run A's `openBlocks` loop answers when the last opened block is no paragraph: `newBlocksOpened` once something
    was opened, and also when nothing was opened yet but the rest of the line is not blank -/
def OLU (src : Bytes) (ls p : Nat) (cont : Bool) (result : OpenResult) (a : OpenResult) : Prop :=
  cont = false → (result = .newBlocksOpened ∨ (result = .noBlocksOpened ∧ NBV src ls p)) → a = .newBlocksOpened

theorem toContinuable_false (result : OpenResult) (lb : Option Block) (s : St) :
    toContinuable false result lb s = .ok (result, s) := by
  unfold toContinuable
  simp only [Bool.and_false, Bool.false_eq_true, if_false]
  rfl

/-- every candidate list ends with the free parsers -/
theorem free_mem_triggered (c : UInt8) :
    BP.paragraph ∈ (triggered c).getD freeParsers ∧ BP.code ∈ (triggered c).getD freeParsers := by
  obtain ⟨pre, e⟩ := triggered_ends_free c
  rw [e]
  exact ⟨List.mem_append_right pre (by decide), List.mem_append_right pre (by decide)⟩

theorem nbv_first10 {src k ls p} (h : InL src k ls p) {c : UInt8} (hc : idx ((viewA src ls p).getD []) 0 = .ok c)
    (h10 : c = 10) : ¬ NBV src ls p := by
  obtain ⟨_, hlt, hb⟩ := idx_view_la hc
  simp only [Int.toNat_zero, Nat.add_zero] at hlt hb
  subst h10
  have e1 := lineEnd_nl src hb
  have e2 := h.lineEnd_eq
  intro hn
  unfold NBV viewA at hn
  rw [if_pos hlt, ← e2, e1] at hn
  have : sub src p (p + 1) = [10] := by
    apply List.ext_getElem?
    intro i
    rw [sub_getElem?]
    cases i with
    | zero => simp [hb]
    | succ j => simp
  rw [this] at hn
  simp [isBlank, isSpace] at hn


/-- parser.go:960-1014 with the monitor, for the candidate list `bps` -/
def obJp (b c : Bool) (f q : Nat) (w : Int) (r : OpenResult) (l : Option Block) (bps : List BP) : M OpenResult := do
  let st ← get
  let x ← tryParsers q b c w bps r l
  match x with
  | (outcome, result, lastBlock) =>
    match outcome with
    | TryOutcome.retry parent' => do
      let st' ← get
      if (!decide (retryMeasure st' < retryMeasure st)) = true then do
        let r ← (throw Panic.pre : M Unit)
        (fun _ => openBlocksLoop b c f parent' result lastBlock) r
      else openBlocksLoop b c f parent' result lastBlock
    | TryOutcome.done => toContinuable c result lastBlock

/-- what the induction on the retry fuel provides -/
def LoopIH (src : Bytes) (al : BP → Bool) (bA bB cont : Bool) (fA fB : Nat) : Prop :=
  (FL src → bB = bA) →
  ∀ (q : Nat) (result resultB : OpenResult) (lbA lbB : Option Block) {k ls p : Nat} {sA sB : St},
    DRL src al k ls p sA sB → LRw al lbA lbB → RRes cont result resultB → HC cont result lbA sA →
    q < sA.nodes.length → (al .setext = false → (bB = bA ∨ q = 0 ∨ QE q sA)) →
    S2 (fun a b sA' sB' => RRes cont a b ∧ (resultB = result → b = a) ∧ (∃ p', DR src al k ls p' sA' sB') ∧
        OLU src ls p cont result a)
      (openBlocksLoop bA cont fA q result lbA sA) (openBlocksLoop bB cont fB (q + 1) resultB lbB sB)

theorem obJp_sim {src al} (ps : PS src al) (fr : Frames al) (ot : OT src) (ns : NS src) (bA bB cont : Bool) (hb : FL src → bB = bA) {fA fB : Nat}
    (ih : LoopIH src al bA bB cont fA fB) (q : Nat) (w : Int) (result resultB : OpenResult) {lbA lbB : Option Block}
    (hl : LRw al lbA lbB) (bps : List BP) (hbps : ∀ bp ∈ bps, al bp = true ∨ (bp.notList = false ∧ al .list = false ∧ NoItem src) ∨
      (bp = .setext ∧ al .setext = false ∧ NoBar src)) {k ls p} {sA sB : St}
    (h : DR src al k ls p sA sB) (hres : RRes cont result resultB) (hcl : HC cont result lbA sA)
    (hq : q < sA.nodes.length) (hbq : al .setext = false → (bB = bA ∨ q = 0 ∨ QE q sA))
    (hm1 : w ≤ 3 → BP.paragraph ∈ bps)
    (hm2 : 3 < w → BP.code ∈ bps ∧ ∃ lo : Int, w = (indentWidthI ((viewA src ls p).getD []) lo).1) :
    S2 (fun a b sA' sB' => RRes cont a b ∧ (resultB = result → b = a) ∧ (∃ p', DR src al k ls p' sA' sB') ∧
        OLU src ls p cont result a)
      (obJp bA cont fA q w result lbA bps sA) (obJp bB cont fB (q + 1) w resultB lbB bps sB) := by
  unfold obJp
  refine S2.bind (get_s2 h) (fun stA stB sA1 sB1 hq => ?_)
  obtain ⟨e1, e2, e3, e4⟩ := hq
  rw [e1, e2, e3, e4]
  refine S2.bind (tryParsers_sim ps fr ot bA bB cont hb w q bps hbps result resultB lbA lbB h hl hres hcl hq hbq) (fun a b sA2 sB2 hq => ?_)
  obtain ⟨⟨hout, hr, hl2, hnew⟩, heq, ⟨p', h2⟩, hu, hcl2, hret, _⟩ := hq
  obtain ⟨oA, rA, lA⟩ := a
  obtain ⟨oB, rB, lB⟩ := b
  simp only at hout hr hl2 hnew heq hu hcl2 hret ⊢
  cases oA with
  | retry qa =>
    cases oB with
    | done => exact hout.elim
    | retry qb =>
      have hq' : qb = qa + 1 := hout
      rw [hq']
      obtain ⟨hrA, hrB⟩ := hnew (by intro e; cases e)
      simp only
      refine S2.bind (get_s2 h2) (fun stA' stB' sA3 sB3 hq => ?_)
      obtain ⟨e1, e2, e3, e4⟩ := hq
      rw [e1, e2, e3, e4, retry_cmp h h2]
      by_cases hc : (!decide (retryMeasure sA2 < retryMeasure sA)) = true
      · rw [if_pos hc, if_pos hc]
        exact S2.errL (throw_bind_err _ _ _)
      · rw [if_neg hc, if_neg hc]
        rw [hrA, hrB]
        exact S2.mono (ih hb qa .newBlocksOpened .newBlocksOpened lA lB h2.loose hl2 (.inl rfl) (HC.of_new rfl)
            (hret qa rfl).1 (fun _ => .inr (.inr (hret qa rfl).2)))
          (fun _ _ _ _ hh => ⟨hh.1, fun _ => hh.2.1 rfl, hh.2.2.1, fun hc _ => hh.2.2.2 hc (.inl rfl)⟩)
  | done =>
    cases oB with
    | retry _ => exact hout.elim
    | done =>
      simp only
      refine S2.mono (S2.andL (toContinuable_sim fr cont rA rB hr hl2 h2 hcl2) (F := fun a _ => cont = false → a = rA)
        (fun a sA' e hc => by subst hc; rw [toContinuable_false] at e; cases e; rfl))
        (fun _ _ _ _ hh => ⟨hh.1.1, fun e => hh.1.2.1 (heq e), hh.1.2.2, fun hc hpre => ?_⟩)
      rw [hh.2 hc]
      rcases hpre with e | ⟨e, hnb⟩
      · rcases hu.1 with e' | e'
        · rw [e', e]
        · exact e'
      · exact hu.2 hc e hnb hm1 hm2

theorem openBlocksLoop_sim {src al} (ps : PS src al) (fr : Frames al) (ot : OT src) (ns : NS src) (tr : TrigOK src al)
    (bA bB cont : Bool) : ∀ (fA fB : Nat), fA ≤ fB → LoopIH src al bA bB cont fA fB := by
  intro fA
  induction fA with
  | zero =>
    intro fB _ hb q result resultB lbA lbB k ls p sA sB _ _ _ _ _ _
    unfold openBlocksLoop
    exact S2.errL rfl
  | succ fA ih =>
    intro fB hle hb q result resultB lbA lbB k ls p sA sB h hl hres hcl hq hbq
    obtain ⟨fB', rfl⟩ : ∃ f, fB = f + 1 := ⟨fB - 1, by omega⟩
    have ih' := ih fB' (by omega)
    -- the exit through `toContinuable` before any parser was tried
    have tc : ∀ {sA3 sB3 : St}, DR src al k ls p sA3 sB3 → sA3.pc.opened = sA.pc.opened → ¬ NBV src ls p →
        S2 (fun a b sA' sB' => RRes cont a b ∧ (resultB = result → b = a) ∧ (∃ p', DR src al k ls p' sA' sB') ∧
          OLU src ls p cont result a) (toContinuable cont result lbA sA3) (toContinuable cont resultB lbB sB3) := by
      intro sA3 sB3 h3 ho3 hnb
      refine S2.mono (S2.andL (toContinuable_sim fr cont result resultB hres hl h3 (hcl.congr ho3))
        (F := fun a _ => cont = false → a = result)
        (fun a sA' e hc => by subst hc; rw [toContinuable_false] at e; cases e; rfl))
        (fun _ _ _ _ hh => ⟨hh.1.1, hh.1.2.1, hh.1.2.2, fun hc hpre => ?_⟩)
      rw [hh.2 hc]
      rcases hpre with e | ⟨_, hn⟩
      · exact e
      · exact absurd hn hnb
    unfold openBlocksLoop
    refine S2.bind (S2.andL (peekLine_l h) (F := fun _ sA' => sA'.pc.opened = sA.pc.opened ∧ sA'.nodes = sA.nodes)
      (fun _ sA' e => ⟨peekLine_keeps (openedIs_frame sA.pc.opened).mods.noR sA _ sA' rfl e,
        peekLine_keeps (nodesEq_noR sA.nodes) sA _ sA' rfl e⟩)) (fun a b sA1 sB1 hq => ?_)
    obtain ⟨⟨ea, eb, h1⟩, ho1, hn1⟩ := hq
    subst ea eb
    simp only
    refine S2.bind (S2.andL (lineOffset_l h1) (F := fun _ sA' => sA'.pc.opened = sA1.pc.opened ∧ sA'.nodes = sA1.nodes)
      (fun _ sA' e => ⟨lineOffset_keeps (openedIs_frame sA1.pc.opened).mods.noR sA1 _ sA' rfl e,
        lineOffset_keeps (nodesEq_noR sA1.nodes) sA1 _ sA' rfl e⟩)) (fun loA loB sA2 sB2 hq => ?_)
    obtain ⟨⟨_, h2⟩, ho2, hn2⟩ := hq
    have htf := viewA_tf_la h.r.tf ls p
    rw [indentWidthI_tf _ htf loB loA]
    generalize hwp : indentWidthI ((viewA src ls p).getD []) loA = wp
    obtain ⟨w, pos⟩ := wp
    have hw : w = (indentWidthI ((viewA src ls p).getD []) loA).1 := by rw [hwp]
    simp only
    refine S2.bind (S2.andL (modPc_l h2 _ _ (fun a b hab => ?_) (fun a n ha => ?_))
      (F := fun _ sA' => sA'.pc.opened = sA2.pc.opened ∧ sA'.nodes = sA2.nodes) (fun _ sA' e => ?_)) (fun _ _ sA3 sB3 hq => ?_)
    · split
      · exact ⟨rfl, rfl, hab.opened, hab.tmpPara, hab.fence, hab.skipList, hab.emptyItemBlank⟩
      · exact ⟨rfl, rfl, hab.opened, hab.tmpPara, hab.fence, hab.skipList, hab.emptyItemBlank⟩
    · split
      · exact ⟨ha.opened, ha.tmp, ha.fence, ha.u, ha.nk, ha.pk, ha.rg⟩
      · exact ⟨ha.opened, ha.tmp, ha.fence, ha.u, ha.nk, ha.pk, ha.rg⟩
    · unfold modPc at e; cases e; simp only; exact ⟨by split <;> rfl, trivial⟩
    obtain ⟨h3, ho3', hn3'⟩ := hq
    have ho3 : sA3.pc.opened = sA.pc.opened := by rw [ho3', ho2, ho1]
    have hn3 : sA3.nodes = sA.nodes := by rw [hn3', hn2, hn1]
    have hq3 : q < sA3.nodes.length := by rw [hn3]; exact hq
    have hbq3 : al .setext = false → (bB = bA ∨ q = 0 ∨ QE q sA3) := fun hns =>
      (hbq hns).imp id (Or.imp id (fun e => by
        show (sA3.nodes.getD q default).children = []
        rw [hn3]; exact e))
    have hcl3 : HC cont result lbA sA3 := hcl.congr ho3
    by_cases hnone : (viewA src ls p).isNone = true
    · rw [if_pos hnone, if_pos hnone]
      refine tc h3 ho3 (fun hn => ?_)
      unfold NBV at hn
      rw [Option.isNone_iff_eq_none.mp hnone] at hn
      simp [isBlank] at hn
    rw [if_neg hnone, if_neg hnone]
    refine S2.bind_liftE (fun c hcidx => ?_)
    by_cases hc10 : (c == 10) = true
    · rw [if_pos hc10, if_pos hc10]
      exact tc h3 ho3 (nbv_first10 h.r.inl hcidx (by simpa using hc10))
    rw [if_neg hc10, if_neg hc10]
    by_cases hpl : pos < (((viewA src ls p).getD []).length : Int)
    · rw [if_pos hpl, if_pos hpl]
      refine S2.bind_liftE (fun d hd => ?_)
      have hmem : d ∈ src := by
        obtain ⟨_, _, hb⟩ := idx_view_la hd
        exact List.mem_of_getElem? hb
      exact obJp_sim ps fr ot ns bA bB cont hb ih' q w result resultB hl _ (tr.trig d hmem) h3 hres hcl3 hq3 hbq3
        (fun _ => (free_mem_triggered d).1) (fun _ => ⟨(free_mem_triggered d).2, loA, hw⟩)
    · rw [if_neg hpl, if_neg hpl]
      exact obJp_sim ps fr ot ns bA bB cont hb ih' q w result resultB hl _ tr.free h3 hres hcl3 hq3 hbq3
        (fun _ => by simp [freeParsers]) (fun _ => ⟨by simp [freeParsers], loA, hw⟩)

theorem qp_length_ge_len (src : Bytes) : src.length ≤ (quotePrefix src).length := by
  have := qpg_length src true
  unfold quotePrefix
  split at this <;> simp only [if_true] at this <;> omega

/-- parser.openBlocks, from states that may still disagree on BlockOffset / BlockIndent -/
theorem openBlocks_sim {src al} (ps : PS src al) (fr : Frames al) (ot : OT src) (ns : NS src) (tr : TrigOK src al)
    (bA bB : Bool) (hb : FL src → bB = bA) (q : Nat) {k ls p} {sA sB : St} (h : DRL src al k ls p sA sB)
    (hq : q < sA.nodes.length) (hbq : al .setext = false → (bB = bA ∨ q = 0)) :
    S2 (fun a b sA' sB' => b = a ∧ (∃ p', DR src al k ls p' sA' sB') ∧
        (sA.pc.opened = [] → NBV src ls p → a = .newBlocksOpened))
      (openBlocks q bA sA) (openBlocks (q + 1) bB sB) := by
  unfold openBlocks
  have e1 : lastOpenedBlock sA = .ok (sA.pc.opened.getLast?, sA) := rfl
  have e2 : lastOpenedBlock sB = .ok (sB.pc.opened.getLast?, sB) := rfl
  rw [bind_run e1, bind_run e2]
  have hl : LR al sA.pc.opened.getLast? sB.pc.opened.getLast? :=
    ⟨h.c.last, fun x hx => h.a.opened x (List.mem_of_getLast? hx)⟩
  have fuel : retryFuel sA.r.source ≤ retryFuel sB.r.source := by
    rw [h.r.a.source, h.r.b.source]
    have := qp_length_ge_len src
    unfold retryFuel; omega
  have esA : source sA = .ok (sA.r.source, sA) := rfl
  have esB : source sB = .ok (sB.r.source, sB) := rfl
  rcases h.c.last with ⟨ea, eb⟩ | ⟨x, ea, eb⟩
  · rw [ea, eb] at hl ⊢
    simp only [bqBlock]
    have eg : getNode 1 sB = .ok (sB.nodes.getD 1 default, sB) := rfl
    have hroot := h.n.node 0
    have hk := hroot.kind
    simp only [beq_self_eq_true, if_true] at hk
    have hk1 : (sB.nodes.getD 1 default).kind = .blockquote := by
      have : (sB.nodes.getD (0 + 1) default).kind = .blockquote := hk.1
      simpa using this
    simp only [bind_assoc, pure_bind]
    rw [bind_run eg, hk1]
    show S2 _ ((source >>= fun x => openBlocksLoop bA false (retryFuel x) q .noBlocksOpened none) sA)
      ((source >>= fun x => openBlocksLoop bB false (retryFuel x) (q + 1) .noBlocksOpened (some bqBlock)) sB)
    rw [bind_run esA, bind_run esB]
    exact S2.mono (openBlocksLoop_sim ps fr ot ns tr bA bB false _ _ fuel hb q _ _ _ _ h (.inr hl) (.inl rfl)
        (fun hc => by cases hc) hq (fun hns => (hbq hns).imp id .inl))
      (fun _ _ _ _ hh => ⟨hh.2.1 rfl, hh.2.2.1, fun _ hnb => hh.2.2.2 rfl (.inr ⟨rfl, hnb⟩)⟩)
  · rw [ea, eb] at hl ⊢
    obtain ⟨_, hx0⟩ := hl.ok x rfl
    simp only [shB]
    have egA : getNode x.node sA = .ok (sA.nodes.getD x.node default, sA) := rfl
    have egB : getNode (x.node + 1) sB = .ok (sB.nodes.getD (x.node + 1) default, sB) := rfl
    have hn := h.n.node x.node
    rw [beq_eq_false_iff_ne.mpr hx0] at hn
    have hk := hn.kind
    simp only [Bool.false_eq_true, if_false] at hk
    simp only [bind_assoc, pure_bind]
    rw [bind_run egA, bind_run egB, hk]
    show S2 _ ((source >>= fun y => openBlocksLoop bA _ (retryFuel y) q .noBlocksOpened (some x)) sA)
      ((source >>= fun y => openBlocksLoop bB _ (retryFuel y) (q + 1) .noBlocksOpened (some (shB x))) sB)
    rw [bind_run esA, bind_run esB]
    have hcl : HC ((sA.nodes.getD x.node default).kind == Kind.paragraph) OpenResult.noBlocksOpened (some x) sA := by
      intro hc _
      refine ⟨ea.symm, fun y hy => ?_⟩
      cases hy
      have hk := (h.a.pk x (List.mem_of_getLast? ea)).2
      exact bp_kind_paragraph (by rw [← hk]; simpa using hc)
    exact S2.mono (openBlocksLoop_sim ps fr ot ns tr bA bB _ _ _ fuel hb q _ _ _ _ h (.inr hl) (.inl rfl) hcl
        hq (fun hns => (hbq hns).imp id .inl))
      (fun _ _ _ _ hh => ⟨hh.2.1 rfl, hh.2.2.1, fun ho _ => by rw [ho] at ea; cases ea⟩)

end GM.Blocks
