/-
  GM.Proof.AstHeap — refinement proof: the pointer heap of GM.Model.AstHeap represents the plain
  list-of-children forest of GM.Spec.Forest, and every mutator preserves that (property C13).
-/
import GM.Model.AstHeap
import GM.Spec.Forest
import GM.Proof.ForestLists

namespace GM.Proof.AstHeap
open GM.Spec GM.Spec.Forest GM.AstHeap GM.Proof.ForestLists

section removeFields
variable {h : Heap} {p c : Nat} (hp : h.parent c = some p)
include hp

theorem rc_parent (x : Nat) : (removeChildN h p c).parent x = if x = c then none else h.parent x := by
  simp only [removeChildN, hp, ne_eq, not_true_eq_false, ↓reduceIte]
  cases h.prev c <;> cases h.next c <;> simp

theorem rc_count (q : Nat) : (removeChildN h p c).count q = if q = p then h.count p - 1 else h.count q := by
  simp only [removeChildN, hp, ne_eq, not_true_eq_false, ↓reduceIte]
  cases h.prev c <;> cases h.next c <;> simp

theorem rc_first (q : Nat) : (removeChildN h p c).first q =
    if q = p ∧ h.prev c = none then h.next c else h.first q := by
  simp only [removeChildN, hp, ne_eq, not_true_eq_false, ↓reduceIte]
  cases h.prev c <;> cases h.next c <;> simp

theorem rc_last (q : Nat) : (removeChildN h p c).last q =
    if q = p ∧ h.next c = none then h.prev c else h.last q := by
  simp only [removeChildN, hp, ne_eq, not_true_eq_false, ↓reduceIte]
  cases h.prev c <;> cases h.next c <;> simp

theorem rc_next (x : Nat) : (removeChildN h p c).next x =
    if x = c then none else if h.prev c = some x then h.next c else h.next x := by
  simp only [removeChildN, hp, ne_eq, not_true_eq_false, ↓reduceIte]
  cases h.prev c <;> cases h.next c <;> simp <;> grind

theorem rc_prev (x : Nat) : (removeChildN h p c).prev x =
    if x = c then none else if h.next c = some x then h.prev c else h.prev x := by
  simp only [removeChildN, hp, ne_eq, not_true_eq_false, ↓reduceIte]
  cases h.prev c <;> cases h.next c <;> simp <;> grind

end removeFields


/-- every pointer field of `h` agrees with the forest `f` -/
structure Abs (h : Heap) (f : Forest) : Prop where
  nodup : ∀ p, (f p).Nodup
  first : ∀ p, h.first p = (f p).head?
  last : ∀ p, h.last p = (f p).getLast?
  count : ∀ p, h.count p = (f p).length
  parent : ∀ c p, h.parent c = some p ↔ c ∈ f p
  next : ∀ c p, c ∈ f p → h.next c = nextIn (f p) c
  prev : ∀ c p, c ∈ f p → h.prev c = prevIn (f p) c
  orphan : ∀ c, h.parent c = none → h.next c = none ∧ h.prev c = none

theorem abs_empty : Abs Heap.empty Forest.empty := by
  constructor <;> simp [Heap.empty, Forest.empty]

namespace Abs
variable {h : Heap} {f : Forest} (A : Abs h f)
include A

theorem disjoint {c p q : Nat} (hp : c ∈ f p) (hq : c ∈ f q) : p = q := by
  have h1 := (A.parent c p).2 hp
  have h2 := (A.parent c q).2 hq
  rw [h1] at h2; exact Option.some.inj h2

theorem not_mem_of_orphan {c : Nat} (hc : h.parent c = none) (q : Nat) : c ∉ f q := by
  intro hm
  have := (A.parent c q).2 hm
  rw [hc] at this; cases this

end Abs

/-- Frame lemma: a mutator that rewrites the child list of `p` to `l`, touching only the links of the old
    and new children of `p`, keeps `Abs`. The new children are old ones or orphans. -/
theorem Abs.upd_of_local {h h' : Heap} {f : Forest} (A : Abs h f) {p : Nat} {l : List Nat}
    (nd : l.Nodup) (hnew : ∀ x ∈ l, x ∈ f p ∨ h.parent x = none)
    (hp : h'.first p = l.head? ∧ h'.last p = l.getLast? ∧ h'.count p = l.length)
    (hq : ∀ q, q ≠ p → h'.first q = h.first q ∧ h'.last q = h.last q ∧ h'.count q = h.count q)
    (hin : ∀ x ∈ l, h'.parent x = some p ∧ h'.next x = nextIn l x ∧ h'.prev x = prevIn l x)
    (hgone : ∀ x ∈ f p, x ∉ l → h'.parent x = none ∧ h'.next x = none ∧ h'.prev x = none)
    (hout : ∀ x, x ∉ l → x ∉ f p →
      h'.parent x = h.parent x ∧ h'.next x = h.next x ∧ h'.prev x = h.prev x) :
    Abs h' (upd f p l) := by
  -- away from `p`, a child of `q` is neither a new nor an old child of `p`
  have away : ∀ {x q}, q ≠ p → x ∈ f q → x ∉ l ∧ x ∉ f p := fun hqp hx =>
    ⟨fun hl => (hnew _ hl).elim (fun h1 => hqp (A.disjoint hx h1)) (fun h1 => A.not_mem_of_orphan h1 _ hx),
      fun h1 => hqp (A.disjoint hx h1)⟩
  constructor
  · intro q
    by_cases hqp : q = p
    · subst hqp; simpa [upd] using nd
    · simpa [upd, hqp] using A.nodup q
  · intro q
    by_cases hqp : q = p
    · subst hqp; simpa [upd] using hp.1
    · simpa [upd, hqp, A.first] using (hq q hqp).1
  · intro q
    by_cases hqp : q = p
    · subst hqp; simpa [upd] using hp.2.1
    · simpa [upd, hqp, A.last] using (hq q hqp).2.1
  · intro q
    by_cases hqp : q = p
    · subst hqp; simpa [upd] using hp.2.2
    · simpa [upd, hqp, A.count] using (hq q hqp).2.2
  · intro x q
    by_cases hl : x ∈ l
    · rw [(hin x hl).1]
      by_cases hqp : q = p
      · subst hqp; simp [upd, hl]
      · simp only [upd, hqp, ↓reduceIte, Option.some.injEq]
        exact ⟨fun e => absurd e.symm hqp, fun hx => absurd hl (away hqp hx).1⟩
    · by_cases hm : x ∈ f p
      · rw [(hgone x hm hl).1]
        by_cases hqp : q = p
        · subst hqp; simp [upd, hl]
        · simp only [upd, hqp, ↓reduceIte, reduceCtorEq, false_iff]
          exact fun hx => (away hqp hx).2 hm
      · rw [(hout x hl hm).1, A.parent]
        by_cases hqp : q = p
        · subst hqp; simp [upd, hl, hm]
        · simp [upd, hqp]
  · intro x q hx
    by_cases hqp : q = p
    · subst hqp; simp only [upd, ↓reduceIte] at hx ⊢; exact (hin x hx).2.1
    · simp only [upd, hqp, ↓reduceIte] at hx ⊢
      rw [(hout x (away hqp hx).1 (away hqp hx).2).2.1]; exact A.next x q hx
  · intro x q hx
    by_cases hqp : q = p
    · subst hqp; simp only [upd, ↓reduceIte] at hx ⊢; exact (hin x hx).2.2
    · simp only [upd, hqp, ↓reduceIte] at hx ⊢
      rw [(hout x (away hqp hx).1 (away hqp hx).2).2.2]; exact A.prev x q hx
  · intro x hx
    by_cases hl : x ∈ l
    · rw [(hin x hl).1] at hx; cases hx
    · by_cases hm : x ∈ f p
      · exact (hgone x hm hl).2
      · obtain ⟨e1, e2, e3⟩ := hout x hl hm
        rw [e2, e3]; exact A.orphan x (e1 ▸ hx)

theorem removeChild_abs {h : Heap} {f : Forest} (A : Abs h f) {p c : Nat} (hc : c ∈ f p) :
    Abs (removeChildN h p c) (upd f p ((f p).erase c)) := by
  have hp : h.parent c = some p := (A.parent c p).2 hc
  have nd := A.nodup p
  have hn := A.next c p hc
  have hv := A.prev c p hc
  have mem : ∀ {x}, x ∈ (f p).erase c ↔ x ≠ c ∧ x ∈ f p := nd.mem_erase_iff
  refine A.upd_of_local (nd.erase c) (fun x hx => Or.inl (mem.1 hx).2) ⟨?_, ?_, ?_⟩ ?_ ?_ ?_ ?_
  · rw [rc_first hp, head?_erase nd hc, hv, hn, A.first]; simp only [true_and, prevIn_none_iff nd hc]
  · rw [rc_last hp, getLast?_erase nd hc, hv, hn, A.last]; simp only [true_and, nextIn_none_iff nd hc]
  · have := List.length_pos_of_mem hc
    rw [rc_count hp, A.count, List.length_erase_of_mem hc]; simp only [↓reduceIte]; omega
  · intro q hqp; simp [rc_first hp, rc_last hp, rc_count hp, hqp]
  · intro x hx
    obtain ⟨hxc, hxl⟩ := mem.1 hx
    refine ⟨by rw [rc_parent hp, if_neg hxc]; exact (A.parent x p).2 hxl, ?_, ?_⟩
    · rw [rc_next hp, nextIn_erase nd hxc, if_neg hxc, hv, hn, A.next x p hxl]; simp only [next_prev nd]
    · rw [rc_prev hp, prevIn_erase nd hxc, if_neg hxc, hv, hn, A.prev x p hxl]; simp only [next_prev nd]
  · intro x hxl hx
    have hxc : x = c := Decidable.of_not_not fun e => hx (mem.2 ⟨e, hxl⟩)
    simp [rc_parent hp, rc_next hp, rc_prev hp, hxc]
  · intro x _ hxl
    have hxc : x ≠ c := fun e => hxl (e ▸ hc)
    have h1 : h.prev c ≠ some x := fun e => hxl (prevIn_mem (hv ▸ e)).2
    have h2 : h.next c ≠ some x := fun e => hxl (nextIn_mem (hn ▸ e)).2
    simp [rc_parent hp, rc_next hp, rc_prev hp, hxc, h1, h2]


/-! ## ensureIsolated = "a moved node leaves its old parent" -/

theorem detach_eq_upd {h : Heap} {f : Forest} (A : Abs h f) {p c : Nat} (hc : c ∈ f p) :
    detach f c = upd f p ((f p).erase c) := by
  funext q
  by_cases hq : q = p
  · subst hq; simp [detach, upd]
  · simp only [detach, upd, hq, ↓reduceIte]
    exact List.erase_of_not_mem (fun hm => hq (A.disjoint hm hc))

theorem detach_eq_self {h : Heap} {f : Forest} (A : Abs h f) {c : Nat} (hc : h.parent c = none) :
    detach f c = f := by
  funext q
  exact List.erase_of_not_mem (A.not_mem_of_orphan hc q)

theorem ensureIsolated_abs {h : Heap} {f : Forest} (A : Abs h f) (c : Nat) :
    Abs (ensureIsolatedN h c) (detach f c) ∧ (ensureIsolatedN h c).parent c = none := by
  unfold ensureIsolatedN
  cases hp : h.parent c with
  | none => simp only [detach_eq_self A hp]; exact ⟨A, hp⟩
  | some p =>
    have hc : c ∈ f p := (A.parent c p).1 hp
    simp only [detach_eq_upd A hc]
    exact ⟨removeChild_abs A hc, by rw [rc_parent hp]; simp⟩

theorem mem_detach {f : Forest} (nd : ∀ p, (f p).Nodup) {c x q : Nat} :
    x ∈ detach f c q ↔ x ≠ c ∧ x ∈ f q := by
  simp only [detach]
  rw [(nd q).mem_erase_iff]

/-- The orphan `c` becomes the child of `p` before `ref` (`none`: the last child); `pv` is the node it comes after. -/
theorem Abs.link {h h' : Heap} {f : Forest} (A : Abs h f) {c p : Nat} (hc : h.parent c = none)
    {ref pv : Option Nat} (href : ∀ d, ref = some d → d ∈ f p) (hpv : prevOf (f p) ref = pv)
    (fpar : ∀ x, h'.parent x = if x = c then some p else h.parent x)
    (fcnt : ∀ q, h'.count q = if q = p then h.count p + 1 else h.count q)
    (ffst : ∀ q, h'.first q = if q = p ∧ pv = none then some c else h.first q)
    (flst : ∀ q, h'.last q = if q = p ∧ ref = none then some c else h.last q)
    (fnxt : ∀ x, h'.next x = if x = c then ref else if pv = some x then some c else h.next x)
    (fprv : ∀ x, h'.prev x = if x = c then pv else if ref = some x then some c else h.prev x) :
    Abs h' (upd f p (insBeforeOpt c ref (f p))) := by
  subst hpv
  have hcn : c ∉ f p := A.not_mem_of_orphan hc p
  have nd := A.nodup p
  refine A.upd_of_local (nodup_insBeforeOpt nd hcn ref) ?_ ⟨?_, ?_, ?_⟩ ?_ ?_ ?_ ?_
  · intro x hx
    exact (mem_insBeforeOpt.1 hx).elim (fun e => Or.inr (e ▸ hc)) Or.inl
  · rw [ffst, head?_insBeforeOpt nd href, A.first]; simp only [true_and]
  · rw [flst, getLast?_insBeforeOpt href, A.last]; simp only [true_and]
  · rw [fcnt, length_insBeforeOpt, A.count]; simp
  · intro q hqp; simp [ffst, flst, fcnt, hqp]
  · intro x hx
    refine ⟨?_, link_chain nd href hcn (fun x hx => ⟨A.next x p hx, A.prev x p hx⟩) fnxt fprv hx⟩
    rw [fpar]; split
    · rfl
    · exact (A.parent x p).2 ((mem_insBeforeOpt.1 hx).resolve_left ‹_›)
  · intro x hxl hx; exact absurd (mem_insBeforeOpt.2 (Or.inr hxl)) hx
  · intro x hx hxl
    have hxc : x ≠ c := fun e => hx (mem_insBeforeOpt.2 (Or.inl e))
    have h1 : prevOf (f p) ref ≠ some x := fun e => hxl (prevOf_mem e)
    have h2 : ref ≠ some x := fun e => hxl (href x e)
    simp [fpar, fnxt, fprv, hxc, h1, h2]

/-- AppendChild after its `ensureIsolated` call -/
def appendOrphan (h : Heap) (self v : Nat) : Except Fault Heap :=
  let h? : Except Fault Heap :=
    match h.first self with
    | none =>
      let h := { h with first := set h.first self (some v) }
      let h := { h with next := set h.next v none }
      .ok { h with prev := set h.prev v none }
    | some _ =>
      match h.last self with
      | none => .error .nilDeref
      | some last =>
        let h := { h with next := set h.next last (some v) }
        .ok { h with prev := set h.prev v (some last) }
  match h? with
  | .error e => .error e
  | .ok h =>
    let h := { h with parent := set h.parent v (some self) }
    let h := { h with last := set h.last self (some v) }
    .ok { h with count := set h.count self (h.count self + 1) }

theorem appendChildN_eq (h : Heap) (p c : Nat) : appendChildN h p c = appendOrphan (ensureIsolatedN h c) p c := rfl

theorem appendOrphan_fields {h : Heap} {p c : Nat} (hfl : h.first p = none ↔ h.last p = none)
    (hnc : h.next c = none) (hlc : h.last p ≠ some c) :
    ∃ h', appendOrphan h p c = .ok h' ∧
      (∀ x, h'.parent x = if x = c then some p else h.parent x) ∧
      (∀ q, h'.count q = if q = p then h.count p + 1 else h.count q) ∧
      (∀ q, h'.first q = if q = p ∧ h.last p = none then some c else h.first q) ∧
      (∀ q, h'.last q = if q = p then some c else h.last q) ∧
      (∀ x, h'.next x = if x = c then none else if h.last p = some x then some c else h.next x) ∧
      (∀ x, h'.prev x = if x = c then h.last p else h.prev x) := by
  unfold appendOrphan
  cases hf : h.first p with
  | none =>
    have hl := hfl.1 hf
    refine ⟨_, rfl, ?_, ?_, ?_, ?_, ?_, ?_⟩ <;> intro x <;> simp [hl] <;> grind
  | some a =>
    cases hl : h.last p with
    | none => rw [hfl.2 hl] at hf; cases hf
    | some lst =>
      refine ⟨_, rfl, ?_, ?_, ?_, ?_, ?_, ?_⟩ <;> intro x <;> simp <;> grind

theorem appendOrphan_abs {h : Heap} {f : Forest} (A : Abs h f) {c : Nat} (hc : h.parent c = none) (p : Nat) :
    ∃ h', appendOrphan h p c = .ok h' ∧ Abs h' (upd f p (f p ++ [c])) := by
  have hfl : h.first p = none ↔ h.last p = none := by
    rw [A.first, A.last]; simp
  have hlc : h.last p ≠ some c := fun e =>
    A.not_mem_of_orphan hc p (List.mem_of_getLast? ((A.last p).symm.trans e))
  obtain ⟨h', he, fpar, fcnt, ffst, flst, fnxt, fprv⟩ := appendOrphan_fields hfl (A.orphan c hc).1 hlc
  exact ⟨h', he, A.link hc (ref := none) (by simp) (A.last p).symm fpar fcnt ffst
    (by simpa using flst) fnxt (by simpa using fprv)⟩

theorem appendChild_abs {h : Heap} {f : Forest} (A : Abs h f) (p c : Nat) :
    ∃ h', appendChildN h p c = .ok h' ∧ Abs h' (upd (detach f c) p (detach f c p ++ [c])) := by
  rw [appendChildN_eq]
  obtain ⟨A1, hc⟩ := ensureIsolated_abs A c
  exact appendOrphan_abs A1 hc p


/-- InsertBefore after its guard and its `ensureIsolated` call -/
def insertOrphan (h : Heap) (self v1 ins : Nat) : Heap :=
  let h := { h with count := set h.count self (h.count self + 1) }
  let prev := h.prev v1
  let h := match prev with
    | some a =>
      let h := { h with next := set h.next a (some ins) }
      { h with prev := set h.prev ins (some a) }
    | none =>
      let h := { h with first := set h.first self (some ins) }
      { h with prev := set h.prev ins none }
  let h := { h with next := set h.next ins (some v1) }
  let h := { h with prev := set h.prev v1 (some ins) }
  { h with parent := set h.parent ins (some self) }

theorem insertBeforeN_child {h : Heap} {p v c : Nat} (hv : h.parent v = some p) :
    insertBeforeN h p (some v) c = .ok (insertOrphan (ensureIsolatedN h c) p v c) := by
  simp only [insertBeforeN, hv, ne_eq, not_true_eq_false, ↓reduceIte]; rfl

theorem insertBeforeN_foreign {h : Heap} {p v c : Nat} (hv : h.parent v ≠ some p) :
    insertBeforeN h p (some v) c = appendChildN h p c := by
  simp [insertBeforeN, hv]

section insertFields
variable {h : Heap} {p v c : Nat}

theorem io_parent (x : Nat) : (insertOrphan h p v c).parent x = if x = c then some p else h.parent x := by
  simp only [insertOrphan]; cases h.prev v <;> simp
theorem io_count (q : Nat) : (insertOrphan h p v c).count q = if q = p then h.count p + 1 else h.count q := by
  simp only [insertOrphan]; cases h.prev v <;> simp
theorem io_last (q : Nat) : (insertOrphan h p v c).last q = h.last q := by
  simp only [insertOrphan]; cases h.prev v <;> simp
theorem io_first (q : Nat) : (insertOrphan h p v c).first q =
    if q = p ∧ h.prev v = none then some c else h.first q := by
  simp only [insertOrphan]; cases h.prev v <;> simp
theorem io_next (x : Nat) : (insertOrphan h p v c).next x =
    if x = c then some v else if h.prev v = some x then some c else h.next x := by
  simp only [insertOrphan]; cases hh : h.prev v <;> simp <;> grind
theorem io_prev (hvc : v ≠ c) (x : Nat) : (insertOrphan h p v c).prev x =
    if x = c then h.prev v else if x = v then some c else h.prev x := by
  simp only [insertOrphan]; cases hh : h.prev v <;> simp <;> grind
end insertFields

theorem insertOrphan_abs {h : Heap} {f : Forest} (A : Abs h f) {c : Nat} (hc : h.parent c = none)
    {p v : Nat} (hv : v ∈ f p) :
    Abs (insertOrphan h p v c) (upd f p (insBefore c v (f p))) := by
  have hvc : v ≠ c := fun e => A.not_mem_of_orphan hc p (e ▸ hv)
  exact A.link hc (ref := some v) (fun d e => Option.some.inj e ▸ hv) (A.prev v p hv).symm
    io_parent io_count io_first (by simp [io_last]) io_next (by simp [io_prev hvc, eq_comm])

theorem insertBefore_abs {h : Heap} {f : Forest} (A : Abs h f) (p : Nat) (v : Option Nat) (c : Nat)
    (hvc : v ≠ some c) :
    ∃ h', insertBeforeN h p v c = .ok h' ∧
      Abs h' (upd (detach f c) p (insBeforeOpt c v (detach f c p))) := by
  cases v with
  | none => exact appendChild_abs A p c
  | some v =>
    have hne : v ≠ c := fun e => hvc (e ▸ rfl)
    by_cases hv : h.parent v = some p
    · rw [insertBeforeN_child hv]
      obtain ⟨A1, hc⟩ := ensureIsolated_abs A c
      have hm : v ∈ detach f c p := (mem_detach A.nodup).2 ⟨hne, (A.parent v p).1 hv⟩
      exact ⟨_, rfl, insertOrphan_abs A1 hc hm⟩
    · rw [insertBeforeN_foreign hv]
      have hm : v ∉ detach f c p := fun hm => hv ((A.parent v p).2 ((mem_detach A.nodup).1 hm).2)
      simp only [insBeforeOpt, insBefore_not_mem hm]
      exact appendChild_abs A p c


theorem upd_upd (f : Forest) (p : Nat) (a b : List Nat) : upd (upd f p a) p b = upd f p b := by
  funext q; by_cases hq : q = p <;> simp [upd, hq]

theorem upd_self (f : Forest) (p : Nat) : upd f p (f p) = f := by
  funext q; by_cases hq : q = p <;> simp [upd, hq]

theorem Abs.next_mem {h : Heap} {f : Forest} (A : Abs h f) {x y : Nat} (hxy : h.next x = some y) :
    ∃ q, x ∈ f q ∧ y ∈ f q := by
  cases hp : h.parent x with
  | none => rw [(A.orphan x hp).1] at hxy; cases hxy
  | some q =>
    have hx := (A.parent x q).1 hp
    rw [A.next x q hx] at hxy
    exact ⟨q, hx, (nextIn_mem hxy).2⟩

theorem Abs.next_ne_self {h : Heap} {f : Forest} (A : Abs h f) (x : Nat) : h.next x ≠ some x := by
  intro e
  obtain ⟨q, hx, _⟩ := A.next_mem e
  rw [A.next x q hx] at e
  exact nextIn_ne_self (A.nodup q) x e

theorem removeChildN_abs {h : Heap} {f : Forest} (A : Abs h f) (p c : Nat) :
    Abs (removeChildN h p c) (upd f p ((f p).erase c)) := by
  by_cases hc : c ∈ f p
  · exact removeChild_abs A hc
  · have hp : h.parent c ≠ some p := fun e => hc ((A.parent c p).1 e)
    rw [List.erase_of_not_mem hc, upd_self]
    simpa [removeChildN, hp] using A

def insAfterOpt (c : Nat) (v : Option Nat) (l : List Nat) : List Nat :=
  match v with
  | some v => insAfter c v l
  | none => l ++ [c]

theorem insertAfter_abs {h : Heap} {f : Forest} (A : Abs h f) (p : Nat) (v : Option Nat) (c : Nat)
    (hvc : v ≠ some c) :
    ∃ h', insertAfter h p v (some c) = .ok h' ∧
      Abs h' (upd (detach f c) p (insAfterOpt c v (detach f c p))) := by
  cases v with
  | none => exact appendChild_abs A p c
  | some v =>
    have hne : v ≠ c := fun e => hvc (e ▸ rfl)
    -- the reference node handed to InsertBefore
    have key : ∃ nx, insertAfter h p (some v) (some c) = insertBeforeN h p nx c ∧ nx ≠ some c ∧
        insBeforeOpt c nx (detach f c p) = insAfter c v (detach f c p) := by
      refine ⟨if h.next v = some c then h.next c else h.next v, ?_, ?_, ?_⟩
      · simp only [insertAfter, insertBefore]; split <;> rfl
      · split
        · exact A.next_ne_self c
        · assumption
      · have ndg : (detach f c p).Nodup := (A.nodup p).erase c
        by_cases hv : v ∈ f p
        · have hvg : v ∈ detach f c p := (mem_detach A.nodup).2 ⟨hne, hv⟩
          have e1 : (if h.next v = some c then h.next c else h.next v) = nextIn (detach f c p) v := by
            simp only [detach]
            rw [nextIn_erase (A.nodup p) hne, A.next v p hv]
            split
            · rename_i e; rw [A.next c p (nextIn_mem e).2]
            · rfl
          rw [e1, insAfter_eq ndg hvg]
          cases nextIn (detach f c p) v <;> rfl
        · have hvg : v ∉ detach f c p := fun hm => hv ((mem_detach A.nodup).1 hm).2
          rw [insAfter_not_mem hvg]
          have foreign : ∀ w, (if h.next v = some c then h.next c else h.next v) = some w → w ∉ detach f c p := by
            intro w hw hm
            have hwp : w ∈ f p := ((mem_detach A.nodup).1 hm).2
            split at hw
            · rename_i e
              obtain ⟨q, hvq, hcq⟩ := A.next_mem e
              obtain ⟨q', hcq', hwq'⟩ := A.next_mem hw
              have : q' = q := A.disjoint hcq' hcq
              subst this
              have : q' = p := A.disjoint hwq' hwp
              subst this
              exact hv hvq
            · obtain ⟨q, hvq, hwq⟩ := A.next_mem hw
              have : q = p := A.disjoint hwq hwp
              subst this
              exact hv hvq
          cases hnx : (if h.next v = some c then h.next c else h.next v) with
          | none => rfl
          | some w => simp only [insBeforeOpt, insBefore_not_mem (foreign w hnx)]
    obtain ⟨nx, e1, hnx, e2⟩ := key
    have := insertBefore_abs A p nx c hnx
    rw [e2] at this
    rw [e1]; exact this

theorem replaceChild_abs {h : Heap} {f : Forest} (A : Abs h f) (p v c : Nat) (hne : v ≠ c) :
    ∃ h', replaceChild h p (some v) (some c) = .ok h' ∧
      Abs h' (upd (detach f c) p (replaceIn c v (detach f c p))) := by
  obtain ⟨h1, e1, A1⟩ := insertBefore_abs A p (some v) c (fun e => hne (Option.some.inj e))
  have ndg : (detach f c p).Nodup := (A.nodup p).erase c
  have hcg : c ∉ detach f c p := fun hm => ((mem_detach A.nodup).1 hm).1 rfl
  refine ⟨removeChildN h1 p v, ?_, ?_⟩
  · simp only [replaceChild, insertBefore, e1, removeChild]
  · have A2 := removeChildN_abs A1 p v
    simp only [insBeforeOpt, upd_upd] at A2
    have e : (upd (detach f c) p (insBefore c v (detach f c p)) p).erase v = replaceIn c v (detach f c p) := by
      simp only [upd, ↓reduceIte]
      by_cases hv : v ∈ detach f c p
      · exact insBefore_erase ndg hv hcg hne
      · rw [insBefore_not_mem hv, replaceIn_not_mem hv]
        apply List.erase_of_not_mem
        simp only [List.mem_append, List.mem_singleton, not_or]
        exact ⟨hv, hne⟩
    rw [e] at A2
    exact A2

theorem removeChildrenLoop_spec : ∀ (rest : List Nat) (fuel : Nat) (h0 : Heap), rest.Nodup →
    (∀ x ∈ rest, h0.next x = nextIn rest x) → rest.length < fuel →
    ∃ h', removeChildrenLoop fuel h0 rest.head? = .ok h' ∧
      h'.first = h0.first ∧ h'.last = h0.last ∧ h'.count = h0.count ∧
      (∀ x, h'.parent x = if x ∈ rest then none else h0.parent x) ∧
      (∀ x, h'.prev x = if x ∈ rest then none else h0.prev x) ∧
      (∀ x, h'.next x = if x ∈ rest then none else h0.next x) := by
  intro rest
  induction rest with
  | nil => intro fuel h0 _ _ _; exact ⟨h0, by simp [removeChildrenLoop]⟩
  | cons a t ih =>
    intro fuel h0 nd hn hf
    cases fuel with
    | zero => simp at hf
    | succ k =>
      obtain ⟨hna, hnt⟩ := chain_cons nd hn
      simp only [List.head?_cons, removeChildrenLoop, hna]
      obtain ⟨h', e, f1, f2, f3, f4, f5, f6⟩ := ih k
        { parent := set h0.parent a none, first := h0.first, last := h0.last,
          next := set h0.next a none, prev := set h0.prev a none, count := h0.count } (List.nodup_cons.1 nd).2
        (by
          intro x hx
          have hxa : x ≠ a := fun e => (List.nodup_cons.1 nd).1 (e ▸ hx)
          simp only [set_apply, hxa, ↓reduceIte]; exact hnt x hx)
        (by simpa using hf)
      refine ⟨h', e, f1, f2, f3, ?_, ?_, ?_⟩
      · intro x; rw [f4]; simp only [set_apply, List.mem_cons]; grind
      · intro x; rw [f5]; simp only [set_apply, List.mem_cons]; grind
      · intro x; rw [f6]; simp only [set_apply, List.mem_cons]; grind

theorem removeChildren_abs {h : Heap} {f : Forest} (A : Abs h f) (p : Nat) {fuel : Nat}
    (hf : (f p).length < fuel) :
    ∃ h', removeChildren fuel h p = .ok h' ∧ Abs h' (upd f p []) := by
  obtain ⟨h1, e, f1, f2, f3, f4, f5, f6⟩ :=
    removeChildrenLoop_spec (f p) fuel h (A.nodup p) (fun x hx => A.next x p hx) hf
  rw [← A.first] at e
  refine ⟨{ h1 with first := set h1.first p none, last := set h1.last p none, count := set h1.count p 0 },
    by simp only [removeChildren, e], ?_⟩
  refine A.upd_of_local List.nodup_nil (by simp) (by simp) ?_ (by simp) ?_ ?_
  · intro q hqp; simp [hqp, f1, f2, f3]
  · intro x hx _; simp [f4, f5, f6, hx]
  · intro x _ hx; simp [f4, f5, f6, hx]


end GM.Proof.AstHeap
