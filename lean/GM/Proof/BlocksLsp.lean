import GM.Proof.BlocksDriverL
import GM.Proof.BlocksFrames

namespace GM.Blocks
open GM GM.Text GM.Spec GM.Proof.Reader

theorem lsp_all (src : Bytes) : L.LSp src where
  closeTF := fun bp node s s' hn hk hb hkids h => bpClose_tf src bp node s s' hn hk hb hkids h
  contTS := fun bp node s st s' h => bpContinue_treeSame bp node s st s' h
  thematicDet := fun parent s c h hlt => thematicOpen_det src parent s c h hlt
  setextNone := fun parent s c h hlt => setextOpen_none src parent s c h hlt
  paraCloseTS := fun node s s' hb hn h => paragraphClose_tf (src := src) node s s' hb hn h
  closePLT := fun bp node s s' hn hk hb hkids hp h => bpClose_plt src bp node s s' hn hk hb hkids hp h

end GM.Blocks
