/-
  GM.Proof.BlocksOrdDrv — the ORDER invariant through the plain driver, function by function: the candidate loop, `toContinuable`, the retry loop and `openBlocks` from a clean state
  (`Clean` → `Dirty`), then the end of an iteration of the line loop (`lineTail_ord`, `lineF_ord`) and `skipBlankLines`.
-/
import GM.Proof.BlocksOrdOpen
import GM.Proof.BlocksLoopEq

section BlocksOrdDrv
/-
  The ORDER invariant through the candidate loop, the `continuable:` exit, the `goto retry`
  loop and `openBlocks` (parser.go:928-1024): from a clean state (nothing appended on this source line yet) they end in
  a state where every non-raw block's lines still increase and end at or before the reader's line end (`Dirty`).
-/

namespace GM.Blocks
open GM GM.Text GM.Spec GM.Proof.Reader
open GM.Proof.BlocksWF0 (isRaw)

theorem Inv.push {src : Bytes} {B : Int} {s : St} (hi : Inv src B s) (node : Nat) (bp : BP)
    (hk : (nd s node).kind = bp.kind) (hlt : node < s.nodes.length) :
    Inv src B { s with pc := { s.pc with opened := s.pc.opened ++ [{ node := node, bp := bp }] } } :=
  ⟨hi.nrb, hi.pne, hi.pnb, hi.tmpk, fun b hb => by
    rcases List.mem_append.1 hb with h | h
    · exact hi.kinds b h
    · simp only [List.mem_singleton] at h; rw [h]; exact ⟨hk, hlt⟩, hi.nodes⟩

theorem appendChild_lk' {p c : Nat} {s : St} {a : Unit} {s' : St} (h : appendChild p c s = .ok (a, s')) : LK s s' :=
  appendChild_lk h

theorem nk_kg {s s' : St} {node : Nat} {k : Kind} (h : KG s s') (hk : (nd s node).kind = k) (hlt : node < s.nodes.length) :
    (nd s' node).kind = k ∧ node < s'.nodes.length :=
  ⟨by rw [h.2 node hlt]; exact hk, Nat.lt_of_lt_of_le hlt h.1⟩

section tp
variable {src : Bytes}

/-- the end of one successful attempt of the candidate loop (parser.go:1002-1013): `AppendChild`, push, answer -/
theorem tryTailB_ord (parent node : Nat) (bp : BP) (hc : Bool) (lb' : Option Block) (s3 s' : St)
    (x : TryOutcome × OpenResult × Option Block)
    (hk : (nd s3 node).kind = bp.kind) (hlt : node < s3.nodes.length)
    (e : (do
        appendChild parent node
        modPc fun pc => { pc with opened := pc.opened ++ [{ node := node, bp := bp }] }
        if hc = true then pure (TryOutcome.retry node, OpenResult.newBlocksOpened, lb')
          else pure (TryOutcome.done, OpenResult.newBlocksOpened, lb') : M _) s3 = .ok (x, s')) :
    (∀ B, Inv src B s3 → Inv src B s') ∧ s'.r = s3.r ∧
      x = (if hc = true then TryOutcome.retry node else TryOutcome.done, OpenResult.newBlocksOpened, lb') := by
  obtain ⟨_, s4, h4, k4⟩ := bind_ok e
  have hlk := appendChild_lk h4
  obtain ⟨_, s5, h5, k5⟩ := bind_ok k4
  have e5 := modPc_ok h5
  subst s5
  obtain ⟨hk4, hlt4⟩ := nk_kg hlk.kg hk hlt
  have hx : x = (if hc = true then TryOutcome.retry node else TryOutcome.done, OpenResult.newBlocksOpened, lb') ∧
      s' = { s4 with pc := { s4.pc with opened := s4.pc.opened ++ [{ node := node, bp := bp }] } } := by
    split at k5
    · next h => obtain ⟨a, b⟩ := pure_ok k5; rw [if_pos h]; exact ⟨a, b⟩
    · next h => obtain ⟨a, b⟩ := pure_ok k5; rw [if_neg h]; exact ⟨a, b⟩
  obtain ⟨hx1, hx2⟩ := hx
  subst s'
  exact ⟨fun B hB => (hB.lk hlk).push node bp hk4 hlt4, hlk.r, hx1⟩



/-- one successful attempt behind `Open` (parser.go:985-1013): the RequireParagraph pop, `SetBlankPreviousLines`, the
    `last.Parent() == nil` pop, `AppendChild`, push -/
theorem tryTail_ord (parent node : Nat) (bp : BP) (blank : Bool) (state : PState) (lb' : Option Block) (s2 s' : St)
    (x : TryOutcome × OpenResult × Option Block) (E : Int)
    (hE : Inv src E s2) (hsrc : s2.r.source = src) (hlb : ∀ lb, lb' = some lb → lb ∈ s2.pc.opened)
    (hk : (nd s2 node).kind = bp.kind) (hlt : node < s2.nodes.length)
    (e : (do
        if state.requirePara then
          if lb'.map (·.node) == (← getNode parent).children.getLast? then
            match lb' with
            | none => throw .nil
            | some lb =>
              bpClose lb.bp lb.node
              let blocks := (← getPc).opened
              if blocks.length == 0 then throw .slice
              modPc fun pc => { pc with opened := blocks.dropLast }
              if (← getNode lb.node).kind != .paragraph then throw .assert
        modNode node fun n => { n with blankPrev := blank }
        match lb'.map (·.node) with
        | some l =>
          if (← getNode l).parent.isNone then
            let lastPos : Int := ((← getPc).opened.length : Int) - 1
            closeBlocks lastPos lastPos
        | none => pure ()
        appendChild parent node
        modPc fun pc => { pc with opened := pc.opened ++ [{ node := node, bp := bp }] }
        if state.hasChildren then return (TryOutcome.retry node, OpenResult.newBlocksOpened, lb')
        return (TryOutcome.done, OpenResult.newBlocksOpened, lb') : M _) s2 = .ok (x, s')) :
    (∀ B, Inv src B s2 → Inv src B s') ∧ s'.r = s2.r ∧
      x = (if state.hasChildren = true then TryOutcome.retry node else TryOutcome.done, OpenResult.newBlocksOpened, lb') := by
  -- the part behind the RequireParagraph block, from any state
  have part2 : ∀ (s3 : St), s3.r.source = src → (nd s3 node).kind = bp.kind → node < s3.nodes.length →
      (∃ B, Inv src B s3) →
      (do
        modNode node fun n => { n with blankPrev := blank }
        match lb'.map (·.node) with
        | some l =>
          if (← getNode l).parent.isNone then
            let lastPos : Int := ((← getPc).opened.length : Int) - 1
            closeBlocks lastPos lastPos
        | none => pure ()
        appendChild parent node
        modPc fun pc => { pc with opened := pc.opened ++ [{ node := node, bp := bp }] }
        if state.hasChildren then return (TryOutcome.retry node, OpenResult.newBlocksOpened, lb')
        return (TryOutcome.done, OpenResult.newBlocksOpened, lb') : M _) s3 = .ok (x, s') →
      (∀ B, Inv src B s3 → Inv src B s') ∧ s'.r = s3.r ∧
        x = (if state.hasChildren = true then TryOutcome.retry node else TryOutcome.done, OpenResult.newBlocksOpened, lb') := by
    intro s3 hsrc3 hk3 hlt3 hex e3
    obtain ⟨_, s4, h4, k4⟩ := bind_ok e3
    have hlk := modNode_lk h4 (fun _ => ⟨rfl, rfl, rfl⟩)
    obtain ⟨hk4, hlt4⟩ := nk_kg hlk.kg hk3 hlt3
    have hsrc4 : s4.r.source = src := by rw [hlk.r]; exact hsrc3
    extract_lets jp at k4
    have hjp : ∀ (r : Unit) (s5 : St), (nd s5 node).kind = bp.kind → node < s5.nodes.length → jp r s5 = .ok (x, s') →
        (∀ B, Inv src B s5 → Inv src B s') ∧ s'.r = s5.r ∧
          x = (if state.hasChildren = true then TryOutcome.retry node else TryOutcome.done, OpenResult.newBlocksOpened, lb') :=
      fun r s5 hk5 hlt5 h => tryTailB_ord (src := src) parent node bp state.hasChildren lb' s5 s' x hk5 hlt5 h
    cases hl : lb'.map (·.node) with
    | none =>
      rw [hl] at k4
      obtain ⟨r1, r2, r3⟩ := hjp () s4 hk4 hlt4 k4
      exact ⟨fun B hB => r1 B (hB.lk hlk), by rw [r2, hlk.r], r3⟩
    | some l =>
      rw [hl] at k4
      dsimp only at k4
      obtain ⟨ln, s6, h6, k6⟩ := bind_ok k4
      obtain ⟨_, hs6⟩ := getNode_ok h6
      subst s6
      split at k6
      · obtain ⟨pc, s7, h7, k7⟩ := bind_ok k6
        obtain ⟨_, hs7⟩ := getPc_ok h7
        subst s7
        obtain ⟨rr, s8, h8, k8⟩ := bind_ok k7
        obtain ⟨B0, hB0⟩ := hex
        have hB4 := hB0.lk hlk
        obtain ⟨_, b2, _, b4⟩ := closeBlocks_inv _ _ hB4 hsrc4 h8
        obtain ⟨hk8, hlt8⟩ := nk_kg b4 hk4 hlt4
        obtain ⟨r1, r2, r3⟩ := hjp rr s8 hk8 hlt8 k8
        exact ⟨fun B hB => r1 B (closeBlocks_inv _ _ (hB.lk hlk) hsrc4 h8).1, by rw [r2, b2, hlk.r], r3⟩
      · obtain ⟨r1, r2, r3⟩ := hjp () s4 hk4 hlt4 k6
        exact ⟨fun B hB => r1 B (hB.lk hlk), by rw [r2, hlk.r], r3⟩
  extract_lets jpB jp1 at e
  have hjp1 : ∀ (r : Unit) (s3 : St), s3.r.source = src → (nd s3 node).kind = bp.kind → node < s3.nodes.length →
      (∃ B, Inv src B s3) → jp1 r s3 = .ok (x, s') →
      (∀ B, Inv src B s3 → Inv src B s') ∧ s'.r = s3.r ∧
        x = (if state.hasChildren = true then TryOutcome.retry node else TryOutcome.done, OpenResult.newBlocksOpened, lb') :=
    fun r s3 a b c d h => part2 s3 a b c d h
  rcases ite_ok e with ⟨_, e⟩ | ⟨_, e⟩
  · obtain ⟨pn, s4, h4, k4⟩ := bind_ok e
    obtain ⟨_, hs4⟩ := getNode_ok h4
    subst s4
    rcases ite_ok k4 with ⟨_, k4⟩ | ⟨_, k4⟩
    · cases hlb' : lb' with
      | none =>
        rw [hlb'] at k4
        obtain ⟨_, _, ht, _⟩ := bind_ok k4
        cases ht
      | some lb =>
        rw [hlb'] at k4
        dsimp only at k4
        obtain ⟨_, s5, h5, k5⟩ := bind_ok k4
        obtain ⟨hkb, hltb⟩ := hE.kinds lb (hlb lb hlb')
        obtain ⟨c1, c2, c3, c4⟩ := bpClose_inv lb.bp lb.node hE hsrc hkb hltb h5
        obtain ⟨pc, s6, h6, k6⟩ := bind_ok k5
        obtain ⟨rfl, hs6⟩ := getPc_ok h6
        subst s6
        have hsrc5 : s5.r.source = src := by rw [c2]; exact hsrc
        obtain ⟨hk5, hlt5⟩ := nk_kg c4 hk hlt
        -- the pop and the type assertion
        have hpop : ∀ (r : Unit), (do
              modPc fun pc => { pc with opened := s5.pc.opened.dropLast }
              if (← getNode lb.node).kind != .paragraph then do
                let __r ← throw Panic.assert
                jp1 __r
              else jp1 () : M _) s5 = .ok (x, s') →
            (∀ B, Inv src B s2 → Inv src B s') ∧ s'.r = s2.r ∧
              x = (if state.hasChildren = true then TryOutcome.retry node else TryOutcome.done,
                OpenResult.newBlocksOpened, lb') := by
          intro _ k7
          obtain ⟨_, s8, h8, k8⟩ := bind_ok k7
          have e8 := modPc_ok h8
          subst s8
          obtain ⟨ln, s9, h9, k9⟩ := bind_ok k8
          obtain ⟨_, hs9⟩ := getNode_ok h9
          subst s9
          split at k9
          · obtain ⟨_, _, ht, _⟩ := bind_ok k9
            cases ht
          · have hpopInv : ∀ B, Inv src B s2 → Inv src B
                ({ s5 with pc := { s5.pc with opened := s5.pc.opened.dropLast } } : St) := fun B hB =>
              ((bpClose_inv lb.bp lb.node hB hsrc hkb hltb h5).1).congr_pc _ rfl
                (fun b hb => List.dropLast_subset _ hb)
            obtain ⟨r1, r2, r3⟩ := hjp1 () ({ s5 with pc := { s5.pc with opened := s5.pc.opened.dropLast } } : St)
              hsrc5 hk5 hlt5 ⟨E, hpopInv E hE⟩ k9
            exact ⟨fun B hB => r1 B (hpopInv B hB), by rw [r2]; exact c2, r3⟩
        split at k6
        · obtain ⟨_, _, ht, _⟩ := bind_ok k6
          cases ht
        · have hfin := hpop () k6
          rw [hlb'] at hfin
          exact hfin
    · exact hjp1 () s2 hsrc hk hlt ⟨E, hE⟩ k4
  · exact hjp1 () s2 hsrc hk hlt ⟨E, hE⟩ e


/-- `BlockOffset` is an index of the current view (or −1) -/
def BoffOK (src : Bytes) (s : St) (c : RCur) : Prop := s.pc.blockOffset < (((RCur.view src c).getD []).length : Int)

/-- **the candidate loop** (parser.go:960-1014) from a clean state: nothing opened — still clean, same cursor, same
    store and stack; a leaf opened — `Dirty`; a container opened — clean again, cursor further on. -/
theorem tryParsers_ord (L : Int) (parent : Nat) (blank cont : Bool) (w : Int) :
    ∀ (bps : List BP) (result : OpenResult) (lb : Option Block) (s : St) (c : RCur)
      (x : TryOutcome × OpenResult × Option Block) (s' : St),
      Clean src L s c → c.p < src.length → BoffOK src s c →
      tryParsers parent blank cont w bps result lb s = .ok (x, s') →
      Dirty src s' ∧
      ((x.1 = .done ∧ x.2.1 = result ∧ Clean src L s' c ∧ s'.nodes = s.nodes ∧ s'.pc.opened = s.pc.opened ∧
          s'.pc.blockOffset = s.pc.blockOffset ∧ (x.2.2 = lb ∨ x.2.2 = s.pc.opened.getLast?)) ∨
       (x.1 = .done ∧ x.2.1 = .newBlocksOpened) ∨
       (∃ p' c', x.1 = .retry p' ∧ x.2.1 = .newBlocksOpened ∧ Clean src L s' c' ∧ c.p ≤ c'.p)) := by
  intro bps
  induction bps with
  | nil =>
    intro result lb s c x s' hc _ _ h
    unfold tryParsers at h
    obtain ⟨rfl, hs⟩ := pure_ok h
    subst s'
    exact ⟨hc.dirty, .inl ⟨rfl, rfl, hc, rfl, rfl, rfl, .inl rfl⟩⟩
  | cons bp bps ih =>
    intro result lb s c x s' hc hlt hoff h
    rw [tryParsers_step] at h
    by_cases hc1 : (cont && result == OpenResult.noBlocksOpened && !bp.canInterruptParagraph) = true
    · rw [if_pos hc1] at h
      exact ih _ _ _ _ _ _ hc hlt hoff h
    · rw [if_neg hc1] at h
      by_cases hc2 : (decide (w > 3) && !bp.canAcceptIndentedLine) = true
      · rw [if_pos hc2] at h
        exact ih _ _ _ _ _ _ hc hlt hoff h
      · rw [if_neg hc2] at h
        obtain ⟨lb', s1, h1, k1⟩ := bind_ok h
        obtain ⟨hlb', hs1⟩ := lastOpenedBlock_ok h1
        subst s1
        subst lb'
        dsimp only at k1
        obtain ⟨y, s2, h2, k2⟩ := bind_ok k1
        have eff := open_eff bp parent hc hlt hoff h2
        obtain ⟨node, state⟩ := y
        cases node with
        | none =>
          dsimp only at k2
          obtain ⟨hc2, hn2⟩ := eff.declined rfl
          have hoff2 : BoffOK src s2 c := by unfold BoffOK; rw [eff.boff]; exact hoff
          obtain ⟨d, hcases⟩ := ih _ _ _ _ _ _ hc2 hlt hoff2 k2
          refine ⟨d, ?_⟩
          rcases hcases with ⟨a1, a2, a3, a4, a5, a6, a7⟩ | hb | hcc
          · refine .inl ⟨a1, a2, a3, a4.trans hn2, a5.trans eff.opened, a6.trans eff.boff, .inr ?_⟩
            rcases a7 with a7 | a7
            · exact a7
            · rw [a7, eff.opened]
          · exact .inr (.inl hb)
          · exact .inr (.inr hcc)
        | some node =>
          dsimp only at k2
          obtain ⟨hid, hltn, hkn⟩ := eff.node node rfl
          have htail := tryTail_ord (src := src) parent node bp blank state s.pc.opened.getLast? s2 s' x
            (lineEnd src c.p : Int) eff.invE eff.stop.source
            (fun lb0 hlb0 => by rw [eff.opened]; exact List.mem_of_getLast? hlb0) hkn hltn k2
          obtain ⟨t1, t2, t3⟩ := htail
          have hd : Dirty src s' := ⟨_, t1 _ eff.invE, eff.stop.congr t2⟩
          refine ⟨hd, ?_⟩
          by_cases hch : state.hasChildren = true
          · obtain ⟨c', hc', hle⟩ := eff.container hch
            rw [if_pos hch] at t3
            refine .inr (.inr ⟨node, c', by rw [t3], by rw [t3], hc'.congr (t1 L hc'.inv) t2, hle⟩)
          · rw [if_neg hch] at t3
            exact .inr (.inl ⟨by rw [t3], by rw [t3]⟩)

/-- `cont` was computed from the last opened block, which is a Paragraph -/
def ContOK (cont : Bool) (s : St) : Prop :=
  cont = true → ∃ lb, s.pc.opened.getLast? = some lb ∧ (nd s lb.node).kind = .paragraph

/-- **the `continuable:` exit** (parser.go:1016-1023) from a clean state -/
theorem toContinuable_ord (L : Int) (cont : Bool) (result : OpenResult) (lbo : Option Block) (s : St) (c : RCur)
    (r' : OpenResult) (s' : St) (hc : Clean src L s c)
    (hres : result = .noBlocksOpened → lbo = s.pc.opened.getLast? ∧ ContOK cont s)
    (h : toContinuable cont result lbo s = .ok (r', s')) : Dirty src s' := by
  unfold toContinuable at h
  split at h
  · next hcond =>
    simp only [Bool.and_eq_true, beq_iff_eq] at hcond
    obtain ⟨hlbo, hck⟩ := hres hcond.1
    obtain ⟨lb, hlast, hkind⟩ := hck hcond.2
    rw [hlbo, hlast] at h
    dsimp only at h
    obtain ⟨st, s1, h1, k1⟩ := bind_ok h
    have hs' : s' = s1 := by
      split at k1
      · obtain ⟨_, hs⟩ := pure_ok k1; exact hs
      · obtain ⟨_, hs⟩ := pure_ok k1; exact hs
    subst s'
    have hmem := List.mem_of_getLast? hlast
    obtain ⟨hkb, hltb⟩ := hc.inv.kinds lb hmem
    have hbp : lb.bp = .paragraph := kind_paragraph (by rw [← hkb]; exact hkind)
    rw [hbp] at h1
    have h1' : paragraphContinue lb.node s = .ok (st, s1) := h1
    obtain ⟨r1, c1, hr1, hri1, hle1, hpc1, hcase⟩ := (paragraphContinue_line hc.ri lb.node).of_ok h1'
    have hstop : Stop src (lineEnd src c.p : Int) s1 := by
      have := (paragraphContinue_pres (stop_prims src (lineEnd src c.p : Int)) lb.node).h s hc.ri.stop
      rw [h1'] at this; exact this
    refine ⟨(lineEnd src c.p : Int), ?_, hstop⟩
    rcases hcase with ⟨_, hn, _⟩ | ⟨_, hp, hok, hnbs, hlt', hn⟩
    · exact ⟨fun i => by simp only [nd, hn]; exact hc.invE.nrb i, fun i => by simp only [nd, hn]; exact hc.invE.pne i,
        fun i => by simp only [nd, hn]; exact hc.invE.pnb i,
        fun t ht => by rw [hpc1] at ht; simp only [nd, hn]; exact hc.invE.tmpk t ht, fun b hb => by
          rw [hpc1] at hb; simp only [nd, hn]; exact hc.invE.kinds b hb, fun m hm => hc.invE.nodes m (by rw [← hn]; exact hm)⟩
    · -- the continuation line goes to a block whose lines all end at or before the line start
      have hge := lineEnd_ge src hc.ri.inRange
      have hfresh := (hc.inv.nrb lb.node).1 (by rw [hkind]; rfl)
      have hs1 : s1 = ⟨r1, s.nodes.set lb.node
          { (nd s lb.node) with lines := (nd s lb.node).lines ++ [RCur.seg src c], linesNil := false }, s.pc⟩ := by
        cases s1; simp only at hr1 hpc1 hn; subst hr1 hpc1 hn; rfl
      have hnd : ∀ i, nd s1 i = if i = lb.node then
          { (nd s lb.node) with lines := (nd s lb.node).lines ++ [RCur.seg src c], linesNil := false } else nd s i := by
        intro i
        have : nd s1 i = nd (upd s lb.node fun n => { n with lines := n.lines ++ [RCur.seg src c], linesNil := false }) i := by
          rw [hs1]; rfl
        rw [this, nd_upd]
        by_cases hi : i = lb.node
        · subst hi; simp [hltb]
        · have : ¬ (lb.node = i ∧ lb.node < s.nodes.length) := fun hh => hi hh.1.symm
          rw [if_neg this, if_neg hi]
      have hord : OrdFrom 0 ((nd s lb.node).lines ++ [RCur.seg src c]) ∧
          Below (lineEnd src c.p : Int) ((nd s lb.node).lines ++ [RCur.seg src c]) ∧
          ∀ t ∈ (nd s lb.node).lines ++ [RCur.seg src c], t.start < t.stop ∧ t.forceNewline = false :=
        ⟨OrdFrom.append_fresh (L := L) (by show L ≤ (c.p : Int); exact hc.le) hfresh.1 hfresh.2.1
            (by show (0 : Int) ≤ (c.p : Int); omega),
          hfresh.2.1.append (by have := hc.le; omega) (Int.le_refl _),
          fun t ht => by
            rcases List.mem_append.1 ht with h' | h'
            · exact hfresh.2.2 t h'
            · simp only [List.mem_singleton] at h'; rw [h']; exact ⟨hlt', rfl⟩⟩
      refine ⟨fun i => ?_, fun i hk => ?_, fun i hk => ?_, fun t ht => ?_, fun b hb => ?_, fun m hm => ?_⟩
      · rw [hnd]
        split
        · exact ⟨fun _ => hord, (fun hr => by simp only at hr; rw [hkind] at hr; cases hr),
            (fun hr => by simp only at hr; rw [hkind] at hr; cases hr)⟩
        · exact hc.invE.nrb i
      · rw [hnd] at hk ⊢
        split
        · simp
        · next hne => rw [if_neg hne] at hk; exact hc.invE.pne i hk
      · rw [hnd] at hk ⊢
        split
        · intro t ht
          rcases List.mem_append.1 ht with h' | h'
          · exact hc.inv.pnb lb.node hkind t h'
          · simp only [List.mem_singleton] at h'; rw [h']; exact hnbs
        · next hne => rw [if_neg hne] at hk; exact hc.invE.pnb i hk
      · rw [hpc1] at ht
        rw [hnd]; split
        · exact hkind
        · exact hc.inv.tmpk t ht
      · rw [hpc1] at hb
        obtain ⟨k1', k2'⟩ := hc.inv.kinds b hb
        refine ⟨?_, by rw [hs1]; simpa using k2'⟩
        rw [hnd]; split
        · next he => simp only; rw [← he]; exact k1'
        · exact k1'
      · obtain ⟨i, hil, rfl⟩ := mem_nodes_nd hm
        rw [hnd]
        split
        · refine ⟨fun u hu => ?_, fun hn0 => by cases hn0⟩
          rcases List.mem_append.1 hu with h' | h'
          · exact (nodeOK_nd hc.inv.nodes lb.node).lines u h'
          · simp only [List.mem_singleton] at h'; rw [h']; exact hok
        · exact nodeOK_nd hc.inv.nodes i
  · have h' : (pure result : M OpenResult) s = .ok (r', s') := h
    obtain ⟨_, hs⟩ := pure_ok h'
    subst s'
    exact hc.dirty


theorem toContinuable_new (cont : Bool) (lbo : Option Block) (s : St) (r' : OpenResult) (s' : St)
    (h : toContinuable cont .newBlocksOpened lbo s = .ok (r', s')) : s' = s := by
  unfold toContinuable at h
  rw [if_neg (by simp)] at h
  have h' : (pure OpenResult.newBlocksOpened : M OpenResult) s = .ok (r', s') := h
  exact (pure_ok h').2

theorem lineOffset_inv {s s2 : St} {c : RCur} {lo : Int} (h : RI src s.r c) (e : lineOffset s = .ok (lo, s2)) :
    ∃ r2, s2 = { s with r := r2 } ∧ RI src r2 c := by
  obtain ⟨_, r2, hs, hr⟩ := (lineOffset_okl h).of_ok e
  exact ⟨r2, hs, hr⟩

/-- **the `goto retry` loop of openBlocks** (parser.go:935-1023) from a clean state ends `Dirty` -/
theorem openBlocksLoop_ord (L : Int) (blank cont : Bool) :
    ∀ (fuel parent : Nat) (result : OpenResult) (lbo : Option Block) (s : St) (c : RCur) (r' : OpenResult) (s' : St),
      Clean src L s c → (result = .noBlocksOpened → lbo = s.pc.opened.getLast? ∧ ContOK cont s) →
      openBlocksLoop blank cont fuel parent result lbo s = .ok (r', s') → Dirty src s' := by
  intro fuel
  induction fuel with
  | zero => intro parent result lbo s c r' s' _ _ h; unfold openBlocksLoop at h; cases h
  | succ fuel ih =>
    intro parent result lbo s c r' s' hc hres h
    rw [openBlocksLoop_step] at h
    obtain ⟨y, s1, h1, k1⟩ := bind_ok h
    obtain ⟨rfl, r1, hs1, hr1⟩ := peekLine_inv hc.ri h1
    subst s1
    dsimp only at k1
    obtain ⟨lo, s2, h2, k2⟩ := bind_ok k1
    obtain ⟨r2, hs2, hr2⟩ := lineOffset_inv (s := { s with r := r1 }) hr1 h2
    subst s2
    obtain ⟨u, s3, h3, k3⟩ := bind_ok k2
    have e3 := modPc_ok h3
    -- the state after the three steps: reader caches and BlockOffset / BlockIndent changed
    have hop3 : s3.pc.opened = s.pc.opened := by rw [e3]; dsimp only; split <;> rfl
    have htm3 : s3.pc.tmpPara = s.pc.tmpPara := by rw [e3]; dsimp only; split <;> rfl
    have hn3 : s3.nodes = s.nodes := by rw [e3]
    have hr3 : s3.r = r2 := by rw [e3]
    have hc3 : Clean src L s3 c := by
      refine ⟨?_, by rw [hr3]; exact hr2, hc.pad, hc.le, hc.padl⟩
      have hi := hc.inv
      exact ⟨fun i => by simp only [nd, hn3]; exact hi.nrb i, fun i => by simp only [nd, hn3]; exact hi.pne i,
        fun i => by simp only [nd, hn3]; exact hi.pnb i,
        fun t ht => by rw [htm3] at ht; simp only [nd, hn3]; exact hi.tmpk t ht,
        fun b hb => by rw [hop3] at hb; simp only [nd, hn3]; exact hi.kinds b hb,
        fun m hm => hi.nodes m (by rw [← hn3]; exact hm)⟩
    have hres3 : result = .noBlocksOpened → lbo = s3.pc.opened.getLast? ∧ ContOK cont s3 := by
      intro hr
      obtain ⟨a, b⟩ := hres hr
      refine ⟨by rw [hop3]; exact a, fun hct => ?_⟩
      obtain ⟨lb, h1', h2'⟩ := b hct
      exact ⟨lb, by rw [hop3]; exact h1', by simp only [nd, hn3]; exact h2'⟩
    have hboff : (RCur.view src c).isSome = true → BoffOK src s3 c := by
      intro hsome
      unfold BoffOK
      rw [e3]
      dsimp only
      split
      · simp only; omega
      · simp only; omega
    have exit : ∀ (res : OpenResult) (l : Option Block) (sA : St), sA = s3 →
        (res = .noBlocksOpened → l = s3.pc.opened.getLast? ∧ ContOK cont s3) →
        toContinuable cont res l sA = .ok (r', s') → Dirty src s' := by
      intro res l sA hsA hr hk
      subst hsA
      exact toContinuable_ord L cont res l sA c r' s' hc3 hr hk
    have viaTry : ∀ (bps : List BP), (RCur.view src c).isSome = true →
        openTry blank cont fuel parent (indentWidthI ((RCur.view src c).getD []) lo).1 bps result lbo s3 = .ok (r', s') →
        Dirty src s' := by
      intro bps hsome hk
      unfold openTry at hk
      obtain ⟨s0, s4, h4, k4⟩ := bind_ok hk
      have e4 : s4 = s3 := by cases h4; rfl
      subst s4
      obtain ⟨x, s5, h5, k5⟩ := bind_ok k4
      have hlt : c.p < src.length := by
        cases hv : RCur.view src c with
        | none => rw [hv] at hsome; cases hsome
        | some l => exact view_some_lt src c hv
      obtain ⟨hd5, hcases⟩ := tryParsers_ord (src := src) L parent blank cont _ bps result lbo s3 c x s5 hc3 hlt
        (hboff hsome) h5
      obtain ⟨o, res5, lb5⟩ := x
      dsimp only at k5 hcases
      rcases hcases with ⟨a1, a2, a3, a4, a5, _, a7⟩ | ⟨b1, b2⟩ | ⟨p', c', c1, c2, c3, _⟩
      · subst a1
        dsimp only at k5
        refine toContinuable_ord L cont res5 lb5 s5 c r' s' a3 (fun hr => ?_) k5
        rw [a2] at hr
        obtain ⟨q1, q2⟩ := hres3 hr
        refine ⟨?_, fun hct => ?_⟩
        · rcases a7 with a7 | a7
          · rw [a7, q1, a5]
          · rw [a7, a5]
        · obtain ⟨lb, h1', h2'⟩ := q2 hct
          exact ⟨lb, by rw [a5]; exact h1', by simp only [nd, a4]; exact h2'⟩
      · subst b1 b2
        dsimp only at k5
        rw [toContinuable_new cont _ s5 r' s' k5]
        exact hd5
      · subst c1
        dsimp only at k5
        obtain ⟨s6, s7, h7, k7⟩ := bind_ok k5
        have e7 : s7 = s5 := by cases h7; rfl
        subst s7
        have hrec : openBlocksLoop blank cont fuel p' res5 lb5 s5 = .ok (r', s') := by
          split at k7
          · obtain ⟨_, _, hthrow, _⟩ := bind_ok k7
            cases hthrow
          · exact k7
        exact ih p' res5 lb5 s5 c' r' s' c3 (fun hr => by rw [c2] at hr; cases hr) hrec
    by_cases hnone : (RCur.view src c).isNone = true
    · rw [if_pos hnone] at k3
      exact exit _ _ s3 rfl hres3 k3
    · rw [if_neg hnone] at k3
      have hsome : (RCur.view src c).isSome = true := by
        cases hv : RCur.view src c with
        | none => rw [hv] at hnone; simp at hnone
        | some l => rfl
      obtain ⟨ch, s4, h4, k4⟩ := bind_ok k3
      obtain ⟨_, e4⟩ := liftE_ok h4
      subst s4
      by_cases hnl : (ch == 10) = true
      · rw [if_pos hnl] at k4
        exact exit _ _ s3 rfl hres3 k4
      · rw [if_neg hnl] at k4
        split at k4
        · obtain ⟨c', s5, h5, k5⟩ := bind_ok k4
          obtain ⟨_, e5⟩ := liftE_ok h5
          subst s5
          obtain ⟨bps, s6, h6, k6⟩ := bind_ok k5
          obtain ⟨_, e6⟩ := pure_ok h6
          subst s6
          exact viaTry bps hsome k6
        · obtain ⟨bps, s6, h6, k6⟩ := bind_ok k4
          obtain ⟨_, e6⟩ := pure_ok h6
          subst s6
          exact viaTry bps hsome k6

/-- **openBlocks** (parser.go:928-1024) from a clean state ends `Dirty` -/
theorem openBlocks_ord (L : Int) (parent : Nat) (blank : Bool) (s : St) (c : RCur) (r' : OpenResult) (s' : St)
    (hc : Clean src L s c) (h : openBlocks parent blank s = .ok (r', s')) : Dirty src s' := by
  unfold openBlocks at h
  obtain ⟨lb, s1, h1, k1⟩ := bind_ok h
  obtain ⟨hlb, hs1⟩ := lastOpenedBlock_ok h1
  subst s1
  subst lb
  have fin : ∀ cont, ContOK cont s →
      (do let v ← source; openBlocksLoop blank cont (retryFuel v) parent OpenResult.noBlocksOpened s.pc.opened.getLast? : M OpenResult) s
      = .ok (r', s') → Dirty src s' := by
    intro cont hco k2
    obtain ⟨v, s3, h3, k3⟩ := bind_ok k2
    have e3 : s3 = s := by cases h3; rfl
    subst s3
    exact openBlocksLoop_ord L blank cont _ parent _ _ s c r' s' hc (fun _ => ⟨rfl, hco⟩) k3
  dsimp only at k1
  cases hl : s.pc.opened.getLast? with
  | none =>
    rw [hl] at k1
    dsimp only at k1
    obtain ⟨cont, s2, h2, k2⟩ := bind_ok k1
    obtain ⟨hcont, e2⟩ := pure_ok h2
    subst s2
    subst cont
    rw [← hl] at k2
    exact fin false (fun h => by cases h) k2
  | some b =>
    rw [hl] at k1
    dsimp only at k1
    obtain ⟨n, s2, h2, k2⟩ := bind_ok k1
    obtain ⟨hn, e2⟩ := getNode_ok h2
    subst s2
    subst n
    obtain ⟨cont, s3, h3, k3⟩ := bind_ok k2
    obtain ⟨hcont, e3⟩ := pure_ok h3
    subst s3
    subst cont
    rw [← hl] at k3
    exact fin _ (fun hct => ⟨b, hl, by simpa using hct⟩) k3

end tp

end GM.Blocks
end BlocksOrdDrv

section BlocksOrdLine
/-
  The ORDER invariant through the pieces of one pass of the line loop (parser.go:1081-1123).

  * `lineTail_ord` / `lineF_ord` — the end of an iteration: `openBlocks` from a clean state, then `closeBlocks`.
  * `bpContinue_inv` / `bpContinue_clean` — `Continue` of the eight list-free parsers on an open block.
  * `dirty_next`, `skipBlankLines_mono` — from the end of a line to the start of the next.
-/

namespace GM.Blocks
open GM GM.Text GM.Spec GM.Proof.Reader
open GM.Proof.BlocksWF0 (isRaw)

section line
variable {src : Bytes}

/-- `openBlocks(thisParent)` then `closeBlocks(lastIndex, i)` (parser.go:1108-1121) from a clean state -/
theorem lineTail_ord (L : Int) (ob : List Block) (li i : Int) (thisParent : Nat) (blank : Bool) (bl' : List LineStat)
    (s : St) (c : RCur) (x : LineOutcome × List LineStat) (s' : St) (hc : Clean src L s c)
    (e : lineTail ob li i thisParent blank bl' s = .ok (x, s')) : Dirty src s' := by
  unfold lineTail at e
  obtain ⟨ln, s1, h1, k1⟩ := bind_ok e
  obtain ⟨_, hs1⟩ := liftE_ok h1
  subst s1
  obtain ⟨res, s2, h2, k2⟩ := bind_ok k1
  obtain ⟨E, hE, hstop⟩ := openBlocks_ord (src := src) L thisParent blank s c res s2 hc h2
  split at k2
  · obtain ⟨pc, s3, h3, k3⟩ := bind_ok k2
    obtain ⟨_, hs3⟩ := getPc_ok h3
    subst s3
    obtain ⟨_, s4, h4, k4⟩ := bind_ok k3
    obtain ⟨a1, a2, _, _⟩ := closeBlocks_inv _ _ hE hstop.source h4
    obtain ⟨_, hs⟩ := pure_ok k4
    subst s'
    exact ⟨E, a1, hstop.congr a2⟩
  · obtain ⟨_, hs⟩ := pure_ok k2
    subst s'
    exact ⟨E, hE, hstop⟩

/-- the fall-through continuation of one iteration of the `for i` loop, as `GM.Blocks.L.lineFL` states it -/
theorem lineF_ord (L : Int) (parent : Nat) (ob : List Block) (li i : Int) (blank : Bool) (bl' : List LineStat)
    (s : St) (c : RCur) (x : LineOutcome × List LineStat) (s' : St) (hc : Clean src L s c)
    (e : lineFT parent ob li i blank bl' s = .ok (x, s')) : Dirty src s' := by
  unfold lineFT at e
  split at e
  · obtain ⟨b, s1, h1, k1⟩ := bind_ok e
    obtain ⟨_, hs1⟩ := liftE_ok h1
    subst s1
    exact lineTail_ord L ob li i b.node blank bl' s c x s' hc k1
  · exact lineTail_ord L ob li i parent blank bl' s c x s' hc e

end line

theorem Inv.of_same {src : Bytes} {B : Int} {s s' : St} (hi : Inv src B s) (hn : s'.nodes = s.nodes)
    (ho : s'.pc.opened = s.pc.opened) (ht : s'.pc.tmpPara = s.pc.tmpPara) : Inv src B s' :=
  ⟨fun i => by simp only [nd, hn]; exact hi.nrb i, fun i => by simp only [nd, hn]; exact hi.pne i,
    fun i => by simp only [nd, hn]; exact hi.pnb i,
    fun t h => by rw [ht] at h; simp only [nd, hn]; exact hi.tmpk t h,
    fun b hb => by rw [ho] at hb; simp only [nd, hn]; exact hi.kinds b hb,
    fun m hm => hi.nodes m (by rw [← hn]; exact hm)⟩

/-- `Continue` of the eight list-free parsers, on a block that is not a Paragraph and whose node has the kind its
    parser builds: the invariant is kept for every bound (a container and the one-line leaves write no node; the raw
    leaves write their own, raw node) -/
theorem bpContinue_inv {src : Bytes} {B : Int} {s s' : St} {st : PState} (bp : BP) (node : Nat) (hi : Inv src B s)
    (c : RCur) (hri : RI src s.r c)
    (hnl : bp ≠ .list ∧ bp ≠ .listItem) (hnp : bp ≠ .paragraph) (hk : (nd s node).kind = bp.kind)
    (hpc : s'.pc = s.pc) (hn : NodesOK src s') (e : bpContinue bp node s = .ok (st, s'))
    (hx : isRaw bp.kind = true → OrdFrom 0 (nd s' node).lines ∧ Below B (nd s' node).lines) : Inv src B s' := by
  have same : s' = s → Inv src B s' := fun h => by rw [h]; exact hi
  have raw : isRaw bp.kind = true → FrN node (bpContinue bp node) → Inv src B s' := fun hr hf =>
    hi.onlyN (hf.h s st s' e) (by rw [hk]; exact hr) hpc hn (hx hr)
  cases bp
  case setext => exact same (by have e' : (pure stClose : M PState) s = .ok (st, s') := e; exact (pure_ok e').2)
  case thematic => exact same (by have e' : (pure stClose : M PState) s = .ok (st, s') := e; exact (pure_ok e').2)
  case list => exact absurd rfl hnl.1
  case listItem => exact absurd rfl hnl.2
  case code => exact raw rfl codeContinue_frn
  case atx => exact same (by have e' : (pure stClose : M PState) s = .ok (st, s') := e; exact (pure_ok e').2)
  case fenced => exact raw rfl fencedContinue_frn
  case blockquote =>
    have e' : blockquoteContinue node s = .ok (st, s') := e
    unfold blockquoteContinue at e'
    obtain ⟨b, s1, h1, k1⟩ := bind_ok e'
    obtain ⟨r1, c1, hs1, _⟩ := (blockquoteProcess_okl hri).of_ok h1
    have hs' : s' = s1 := by
      split at k1
      · exact (pure_ok k1).2
      · exact (pure_ok k1).2
    rw [hs', hs1]
    exact hi.congr_r r1
  case html => exact raw rfl htmlContinue_frn
  case paragraph => exact absurd rfl hnp

/-- `Continue` of the eight list-free parsers from a clean state, on an open block that is not a Paragraph: the
    invariant up to the line end; and, when the walk over the line goes on (children, or `Close`), the invariant up to
    the line start and `PadL` for the cursor -/
theorem bpContinue_clean {src : Bytes} {Lb : Int} {s s' : St} {c c2 : RCur} {st : PState} (be : Block)
    (hc1 : Clean src Lb s c) (hp : c.p < src.length) (hkeys : KeysOK s) (hkind : (nd s be.node).kind = be.bp.kind)
    (hnl : be.bp ≠ .list ∧ be.bp ≠ .listItem) (hnp : be.bp ≠ .paragraph)
    (h2c : ContPost src be.bp s c st s') (h4 : bpContinue be.bp be.node s = .ok (st, s')) :
    Inv src (lineEnd src c.p : Int) s' ∧
      ((st.hasChildren = true ∨ st.cont = false) → Inv src Lb s' ∧ (RI src s'.r c2 → PadL Lb c2)) := by
  have hr1 := hc1.ri
  have hle := hc1.le
  have hpl := hc1.padl
  have hrc : isRaw be.bp.kind = true → RawC src Lb (lineEnd src c.p : Int) be.node s s' st :=
    fun hr => bpContinue_rawC be.bp be.node hr hr1 hp hle hpl (fun f hf => (hkeys.fence f hf).2.1) h4
  have hge := lineEnd_ge src hr1.inRange
  have h04 : ∀ t ∈ (nd s' be.node).lines, 0 ≤ t.start := fun t ht =>
    ((nodeOK_nd h2c.nodes be.node).lines t ht).1
  have hinvE : Inv src (lineEnd src c.p : Int) s' :=
    bpContinue_inv be.bp be.node hc1.invE c hr1 hnl hnp hkind h2c.pc h2c.nodes h4 (fun hr =>
      (hrc hr).1.nodeR ((hc1.inv.nrb be.node).2.1 (by rw [hkind]; exact hr)) (by omega) h04)
  have hleafraw : isRaw be.bp.kind = true → st.hasChildren = false := fun hr => h2c.leaf (by
    cases hbp : be.bp <;> rw [hbp] at hr <;> first | rfl | exact absurd hr (by decide))
  refine ⟨hinvE, fun hor => ⟨?_, fun hri4 => ?_⟩⟩
  · exact bpContinue_inv be.bp be.node hc1.inv c hr1 hnl hnp hkind h2c.pc h2c.nodes h4 (fun hr => by
      have hcf : st.cont = false := by
        rcases hor with h' | h'
        · rw [hleafraw hr] at h'; cases h'
        · exact h'
      rw [((hrc hr).2 hcf).1]
      exact (hc1.inv.nrb be.node).2.1 (by rw [hkind]; exact hr))
  · by_cases hr : isRaw be.bp.kind = true
    · have hcf : st.cont = false := by
        rcases hor with h' | h'
        · rw [hleafraw hr] at h'; cases h'
        · exact h'
      exact ((hrc hr).2 hcf).2 c2 hri4
    · have pureC : (pure stClose : M PState) s = .ok (st, s') → PadL Lb c2 := fun e' => by
        obtain ⟨_, hs4⟩ := pure_ok e'
        rw [hs4] at hri4
        exact padl_of_ri_ri hr1 hri4 hpl
      cases hbp : be.bp <;> rw [hbp] at h4 hr hnl hnp
      case setext => exact pureC h4
      case thematic => exact pureC h4
      case list => exact absurd rfl hnl.1
      case listItem => exact absurd rfl hnl.2
      case code => exact absurd rfl hr
      case atx => exact pureC h4
      case fenced => exact absurd rfl hr
      case blockquote =>
        have e' : blockquoteContinue be.node s = .ok (st, s') := h4
        unfold blockquoteContinue at e'
        obtain ⟨b, s5, h5, k5⟩ := bind_ok e'
        obtain ⟨r5, c5, hs5, hri5, hle5, hb1, hb2⟩ := (blockquoteProcess_okl hr1).of_ok h5
        have hs45 : s' = s5 := by
          split at k5
          · exact (pure_ok k5).2
          · exact (pure_ok k5).2
        rw [hs45, hs5] at hri4
        refine padl_of_ri_ri hri5 hri4 ?_
        cases b with
        | true => intro _; have := hb1 rfl; omega
        | false => rw [hb2 rfl]; exact hpl
      case html => exact absurd rfl hr
      case paragraph => exact absurd rfl hnp

namespace L

variable {src : Bytes}

theorem advanceLine_start (r : Reader) : r.advanceLine.pos.start = r.pos.stop := by
  unfold Reader.advanceLine
  simp only
  split <;> rfl

/-- at the end of a line (`RIa`: the reader agrees with an `RI` reader after the next `AdvanceLine`) the reader's line
    end is the line end of the cursor -/
theorem ria_stop {r : Reader} {c : RCur} (h : RIa src r c) : r.pos.stop = (lineEnd src c.p : Int) := by
  obtain ⟨r0, h0, e⟩ := h
  have h1 := advanceLine_start r
  have h2 := advanceLine_start r0
  rw [e, h2, h0.pos] at h1
  exact h1.symm

/-- `Dirty` at the end of a line gives `Inv` up to the start of the next line -/
theorem dirty_next {s : St} {c : RCur} (hd : Dirty src s) (hria : RIa src s.r c) :
    Inv src ((RCur.advanceLine src c).p : Int) { s with r := s.r.advanceLine } := by
  obtain ⟨E, hE, hstop⟩ := hd
  have h1 := ria_stop hria
  have h2 := hstop.lb
  exact (hE.mono (by show E ≤ (lineEnd src c.p : Int); omega)).congr_r _

theorem skipBlankLines_mono : ∀ (fuel : Nat) (lines : Int) (r : Reader) (c : RCur) (x : Segment × Int × Bool) (r' : Reader),
    RI src r c → PadOK c → skipBlankLines readerOps fuel lines r = .ok (x, r') →
    ∃ c', RI src r' c' ∧ PadOK c' ∧ c.p ≤ c'.p ∧ (c.pad = 0 → c'.pad = 0) := by
  intro fuel
  induction fuel with
  | zero => intro _ _ _ _ _ _ _ h; cases h
  | succ fuel ih =>
    intro lines r c x r' hri hpad h
    obtain ⟨r1, e1, h1⟩ := ri_peekLine hri
    unfold skipBlankLines at h
    simp only [readerOps, e1, bind, Except.bind, pure, Except.pure] at h
    cases hv : RCur.view src c with
    | none =>
      rw [hv] at h
      simp only [] at h
      cases h
      exact ⟨c, h1, hpad, Nat.le_refl _, fun h => h⟩
    | some l =>
      rw [hv] at h
      simp only [] at h
      by_cases hb : isBlank l = true
      · rw [if_pos hb] at h
        obtain ⟨c', a1, a2, a3, a4⟩ := ih (lines + 1) r1.advanceLine _ x r' (ri_advanceLine h1) (padOK_advanceLine c) h
        refine ⟨c', a1, a2, ?_, fun _ => a4 rfl⟩
        have := lineEnd_ge src hri.inRange
        have e : (RCur.advanceLine src c).p = lineEnd src c.p := rfl
        omega
      · rw [if_neg hb] at h
        cases h
        exact ⟨c, h1, hpad, Nat.le_refl _, fun h => h⟩

end L

end GM.Blocks
end BlocksOrdLine
