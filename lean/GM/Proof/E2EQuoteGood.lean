/-
  GM.Proof.E2EQuoteGood — The named hypothesis `InlineQuoteStep` of GM.Proof.E2EQuote holds of blocks of good lines (`GoodLine`, GM.Proof.CMFragDefs), wherever the lines lie in
  the two sources; `GoodBlocks D s` has an executable test with a soundness proof, so the hypotheses of
  `GM.Props.C08E2E.convert_quote_prefix_good_lines` are decidable for a given source.
-/
import GM.Proof.E2EQuote
import GM.Proof.CMFragQInl

section E2EQuoteGood
/-
  An INSTANCE of the named hypothesis of GM.Proof.E2EQuote (`InlineQuoteStep`): blocks whose lines are
  "good lines" of GM.Proof.CMFragDefs (`GoodLine`: first byte a letter, the byte loop of the inline phase never consults an inline parser,
  last byte neither white space nor `\`), wherever the lines lie in the two sources (`LinesAtG`). From
  `parseBlock_linesG` / `inlineTrees_linesG` of GM.Proof.CMFragQInl.
-/

namespace GM.E2E.Quote
open GM GM.Text GM.Convert GM.Blocks GM.Proof.CMFrag

/-- the inline phase of a block of good lines answers one Text per line (soft line breaks between them), in `D` and in
    `quotePrefix D` alike -/
theorem inlineQuoteStep_good {D : Bytes} (ps ps' : List Nat) (ls : List Bytes) (hne : ls ≠ [])
    (hg : ∀ l ∈ ls, GoodLine l) (hA : LinesAtG D ps ls) (hB : LinesAtG (quotePrefix D) ps' ls) :
    InlineQuoteStep D (paraSegsG ps ls) (paraSegsG ps' ls) := by
  intro env env' _ hes hes' _ _ kids hk
  rw [parseBlock_linesG env hes D ps ls hne hg hA] at hk
  cases hk
  exact ⟨_, parseBlock_linesG env' hes' _ ps' ls hne hg hB, by
    rw [inlineTrees_linesG ps' ls hB, inlineTrees_linesG ps ls hA]⟩

/-! ### good lines of `D` moved by the quote markers are good lines of `quotePrefix D` -/

theorem linesG_transfer {D : Bytes} : ∀ (ls : List Bytes) (ps : List Nat) (L' : List Segment),
    (∀ l ∈ ls, l ≠ []) → LinesAtG D ps ls → SegsRel D (paraSegsG ps ls) L' →
    ∃ ps', L' = paraSegsG ps' ls ∧ LinesAtG (quotePrefix D) ps' ls ∧
      (∀ p, ps.head? = some p → ∃ k ls0, LineAt D k ls0 ∧ ls0 ≤ p ∧ p < lineEnd D ls0 ∧ ps'.head? = some (p + 2 * (k + 1)))
  | [], [], L', _, _, hr => by
    cases L' with
    | nil => exact ⟨[], rfl, trivial, fun p hp => by simp at hp⟩
    | cons t L'' => exact hr.elim
  | [], _ :: _, _, _, h, _ => by simp [LinesAtG] at h
  | _ :: _, [], _, _, h, _ => by simp [LinesAtG] at h
  | [_], _ :: _ :: _, _, _, h, _ => by simp [LinesAtG] at h
  | _ :: _ :: _, [_], _, _, h, _ => by simp [LinesAtG] at h
  | [l], [p], L', hne, h, hr => by
    have hlen : 0 < l.length := List.length_pos_iff.mpr (hne l (by simp))
    simp only [paraSegsG] at hr
    cases L' with
    | nil => exact hr.elim
    | cons t L'' =>
      cases L'' with
      | cons _ _ => exact hr.2.elim
      | nil =>
        obtain ⟨k, ls0, hl, g1, g2, g3, rfl⟩ := hr.1
        simp only [] at g1 g2 g3
        have hq := qp_sub hl (a := p) (b := p + l.length) (by omega) (by omega) (by omega)
        have hge := qp_length_ge hl
        refine ⟨[p + 2 * (k + 1)], ?_, ⟨?_, ?_⟩, ?_⟩
        · simp only [paraSegsG, shK]
          congr 1
          simp only [Segment.mk.injEq]
          refine ⟨by omega, by omega, trivial, trivial⟩
        · have e : p + 2 * (k + 1) + l.length = p + l.length + 2 * (k + 1) := by omega
          rw [e, hq]; exact h.1
        · omega
        · intro p0 hp0
          simp only [List.head?, Option.some.injEq] at hp0
          subst hp0
          exact ⟨k, ls0, hl, by omega, by omega, rfl⟩
  | l :: l' :: rest, p :: p' :: ps, L', hne, h, hr => by
    have hlen : 0 < l.length := List.length_pos_iff.mpr (hne l (by simp))
    have hrr : SegsRel D ({ start := (p : Int), stop := (p : Int) + (l.length : Int) + 1 } :: paraSegsG (p' :: ps) (l' :: rest)) L' := hr
    cases L' with
    | nil => exact hrr.elim
    | cons t L'' =>
      obtain ⟨k, ls0, hl, g1, g2, g3, rfl⟩ := hrr.1
      simp only [] at g1 g2 g3
      obtain ⟨ps'', e1, e2, e3⟩ := linesG_transfer (l' :: rest) (p' :: ps) L''
        (fun x hx => hne x (List.mem_cons_of_mem _ hx)) h.2.2 hrr.2
      obtain ⟨k', ls1, hl', a1, a2, a3⟩ := e3 p' rfl
      cases ps'' with
      | nil => simp at a3
      | cons P' ps3 =>
        simp only [List.head?, Option.some.injEq] at a3
        subst a3
        have hk : k ≤ k' := by
          have c1 : lineNo D p = k := lineNo_in hl (by omega) (by omega)
          have c2 : lineNo D p' = k' := lineNo_in hl' a1 a2
          have := lineNo_mono D (a := p) (b := p') (by have := h.2.1; omega)
          omega
        have hq := qp_sub hl (a := p) (b := p + l.length + 1) (by omega) (by omega) (by omega)
        refine ⟨(p + 2 * (k + 1)) :: (p' + 2 * (k' + 1)) :: ps3, ?_, ⟨?_, ?_, e2⟩, ?_⟩
        · show _ = { start := ((p + 2 * (k + 1) : Nat) : Int), stop := ((p + 2 * (k + 1) : Nat) : Int) + (l.length : Int) + 1 } ::
            paraSegsG ((p' + 2 * (k' + 1)) :: ps3) (l' :: rest)
          rw [← e1]
          congr 1
          simp only [shK, Segment.mk.injEq]
          refine ⟨by omega, by omega, trivial, trivial⟩
        · have e : p + 2 * (k + 1) + l.length + 1 = p + l.length + 1 + 2 * (k + 1) := by omega
          rw [e, hq]; exact h.1
        · have := h.2.1; omega
        · intro p0 hp0
          simp only [List.head?, Option.some.injEq] at hp0
          subst hp0
          exact ⟨k, ls0, hl, by omega, by omega, rfl⟩

/-- every block of the store that has inline content consists of good lines -/
def GoodBlocks (D : Bytes) (s : St) : Prop :=
  ∀ i, isRawKind (s.nodes.getD i default).kind = false → (s.nodes.getD i default).lines ≠ [] →
    ∃ ps ls, (s.nodes.getD i default).lines = paraSegsG ps ls ∧ ls ≠ [] ∧ (∀ l ∈ ls, GoodLine l) ∧ LinesAtG D ps ls

theorem key_of_goodBlocks {D : Bytes} {sA sB : St} (hrel : StoreRel D sA.nodes sB.nodes) (hg : GoodBlocks D sA) :
    ∀ i, isRawKind (sA.nodes.getD i default).kind = false → (sA.nodes.getD i default).lines ≠ [] →
      InlineQuoteStep D (sA.nodes.getD i default).lines (sB.nodes.getD (i + 1) default).lines := by
  intro i h1 h2
  obtain ⟨ps, ls, e, hne, hgl, hat⟩ := hg i h1 h2
  have hr := (hrel.node i).lines
  rw [e] at hr ⊢
  obtain ⟨ps', e', hat', _⟩ := linesG_transfer ls ps _ (fun l hl => (hgl l hl).ne) hat hr
  rw [e']
  exact inlineQuoteStep_good ps ps' ls hne hgl hat hat'

end GM.E2E.Quote
end E2EQuoteGood

section E2EQuoteCheck
namespace GM.E2E.Quote
open GM GM.Text GM.Convert GM.Blocks GM.Proof.CMFrag

def goodLineB (l : Bytes) : Bool :=
  !l.isEmpty && (match l.head? with | some c => GM.Spec.CM.isLetter c | none => true) && quiet l 0 false &&
    (match l.getLast? with | some c => !isSpace c && c != 92 | none => true)

theorem goodLineB_sound {l : Bytes} (h : goodLineB l = true) : GoodLine l := by
  simp only [goodLineB, Bool.and_eq_true, Bool.not_eq_true'] at h
  obtain ⟨⟨⟨h1, h2⟩, h3⟩, h4⟩ := h
  refine ⟨?_, ?_, h3, ?_, ?_⟩
  · intro e; rw [e] at h1; simp at h1
  · intro c hc; rw [hc] at h2; exact h2
  · intro c hc; rw [hc] at h4; simp at h4; exact h4.1
  · intro c hc; rw [hc] at h4; simp at h4; exact h4.2

def linesAtGB (src : Bytes) : List Nat → List Bytes → Bool
  | [], [] => true
  | [p], [l] => sub src p (p + l.length) == l && decide (p + l.length ≤ src.length)
  | p :: p' :: ps, l :: l' :: rest =>
    sub src p (p + l.length + 1) == l ++ [10] && decide (p + l.length + 1 ≤ p') && linesAtGB src (p' :: ps) (l' :: rest)
  | _, _ => false

theorem linesAtGB_sound {src : Bytes} : ∀ (ps : List Nat) (ls : List Bytes), linesAtGB src ps ls = true → LinesAtG src ps ls
  | [], [], _ => trivial
  | [], _ :: _, h => by simp [linesAtGB] at h
  | _ :: _, [], h => by simp [linesAtGB] at h
  | [_], _ :: _ :: _, h => by simp [linesAtGB] at h
  | _ :: _ :: _, [_], h => by simp [linesAtGB] at h
  | [p], [l], h => by
    simp only [linesAtGB, Bool.and_eq_true, beq_iff_eq, decide_eq_true_eq] at h
    exact h
  | p :: p' :: ps, l :: l' :: rest, h => by
    simp only [linesAtGB, Bool.and_eq_true, beq_iff_eq, decide_eq_true_eq] at h
    exact ⟨h.1.1, h.1.2, linesAtGB_sound (p' :: ps) (l' :: rest) h.2⟩

/-- the lines a list of segments holds, the line feed of all but the last taken off -/
def linesOf (src : Bytes) : List Segment → List Bytes
  | [] => []
  | [s] => [sub src s.start.toNat s.stop.toNat]
  | s :: s' :: rest => sub src s.start.toNat (s.stop.toNat - 1) :: linesOf src (s' :: rest)

def goodNodeB (D : Bytes) (n : Blocks.Node) : Bool :=
  isRawKind n.kind || n.lines.isEmpty ||
    (let ps := n.lines.map (·.start.toNat)
     let ls := linesOf D n.lines
     n.lines == paraSegsG ps ls && !ls.isEmpty && ls.all goodLineB && linesAtGB D ps ls)

def goodBlocksB (D : Bytes) (s : St) : Bool := s.nodes.all (goodNodeB D)

theorem goodBlocksB_sound {D : Bytes} {s : St} (h : goodBlocksB D s = true) : GoodBlocks D s := by
  intro i h1 h2
  have hn : goodNodeB D (s.nodes.getD i default) = true := by
    by_cases hi : i < s.nodes.length
    · have hmem : s.nodes.getD i default ∈ s.nodes := by
        rw [List.getD_eq_getElem?_getD, List.getElem?_eq_getElem hi, Option.getD_some]; exact List.getElem_mem _
      exact List.all_eq_true.mp h _ hmem
    · exfalso
      apply h2
      rw [List.getD_eq_getElem?_getD, List.getElem?_eq_none (by omega)]
      rfl
  simp only [goodNodeB, Bool.or_eq_true, Bool.and_eq_true, Bool.not_eq_true', beq_iff_eq, List.all_eq_true] at hn
  rcases hn with (hr | he) | ⟨⟨⟨e1, e2⟩, e3⟩, e4⟩
  · rw [h1] at hr; cases hr
  · exfalso; apply h2; cases hl : (s.nodes.getD i default).lines with
    | nil => rfl
    | cons a b => rw [hl] at he; simp at he
  · refine ⟨_, _, e1, ?_, fun l hl => goodLineB_sound (e3 l hl), linesAtGB_sound _ _ e4⟩
    intro e; rw [e] at e2; simp at e2

end GM.E2E.Quote
end E2EQuoteCheck
