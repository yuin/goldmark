/-
  GM.Proof.Hoare — the program logic of the models. A model function is a function `σ → Except ε (α × σ)`
  (`M`: σ = `St`; `MH`, `MF` = `StateT τ M`: read with σ = τ × St through `run₂`; the inline phase: plain `Except`).
  ONE outcome predicate `Out E Q` (a normal end satisfies `Q`, a panic `e` satisfies `E e`), ONE triple `Tri E P m Q`
  (`Inv E I m`: `m` keeps `I`); partial correctness is `E = Top`, "never runs out of fuel" is `E = NL`, totality is `E = Bot`.
  A two-state statement is a triple with the start state as a ghost variable; for a preorder `R` it is the
  invariant `R s0 ·`, for every `s0`. Two runs in step: a nested `Out` (`Out.bind₂`). Two programs from the same state: `Tri₂`
  (`Tri Top` on the diagonal). The primitives of `M` have exact run equations (`getNode_run` … `liftE_run`).
-/
import GM.Model.Blocks.Basic

namespace GM.Hoare

variable {ε : Type} {σ α β γ : Type}

/-- a normal end satisfies `Q`, a panic satisfies `E` -/
def Out (E : ε → Prop) (Q : β → Prop) : Except ε β → Prop
  | .ok b => Q b
  | .error e => E e

abbrev Top : ε → Prop := fun _ => True
abbrev Bot : ε → Prop := fun _ => False
/-- any panic but the one that stands for a loop that ran out of model fuel -/
abbrev NL : GM.Text.Panic → Prop := (· ≠ GM.Text.Panic.loop)

variable {E E' : ε → Prop} {Q Q' R : β → Prop} {x : Except ε β}

theorem Out.iff : Out E Q x ↔ (∀ b, x = .ok b → Q b) ∧ (∀ e, x = .error e → E e) := by
  cases x with
  | ok b => exact ⟨fun h => ⟨fun _ e => (by cases e; exact h), fun _ e => (by cases e)⟩, fun h => h.1 _ rfl⟩
  | error e => exact ⟨fun h => ⟨fun _ e => (by cases e), fun _ e => (by cases e; exact h)⟩, fun h => h.2 _ rfl⟩

/-- partial correctness in the form the development states it -/
theorem Out.top_iff : Out Top Q x ↔ ∀ b, x = .ok b → Q b :=
  Out.iff.trans ⟨fun h => h.1, fun h => ⟨h, fun _ _ => trivial⟩⟩

/-- totality in the form the development states it -/
theorem Out.bot_iff : Out Bot Q x ↔ ∃ b, x = .ok b ∧ Q b := by
  cases x with
  | ok b => exact ⟨fun h => ⟨b, rfl, h⟩, fun ⟨_, e, h⟩ => by cases e; exact h⟩
  | error e => exact ⟨fun h => h.elim, fun ⟨_, e, _⟩ => by cases e⟩

theorem Out.mono (hE : ∀ e, E e → E' e) (hQ : ∀ b, Q b → Q' b) (h : Out E Q x) : Out E' Q' x := by
  cases x with
  | ok b => exact hQ b h
  | error e => exact hE e h

theorem Out.and (h : Out E Q x) (h' : Out E' Q' x) : Out (fun e => E e ∧ E' e) (fun b => Q b ∧ Q' b) x := by
  cases x with
  | ok b => exact ⟨h, h'⟩
  | error e => exact ⟨h, h'⟩

/-- the one rule of sequencing: every monad of the model binds through `Except.bind` -/
theorem Out.bind {Q : γ → Prop} {f : β → Except ε γ} (hx : Out E R x) (hf : ∀ b, R b → Out E Q (f b)) :
    Out E Q (x >>= f) := by
  cases x with
  | ok b => exact hf b hx
  | error e => exact hx

theorem Out.map {Q : γ → Prop} {g : β → γ} (hx : Out E (fun b => Q (g b)) x) : Out E Q (x.map g) := by
  cases x with
  | ok b => exact hx
  | error e => exact hx

/-- two runs in step: the second run's outcome is the postcondition of the first (`E' = Top`: both end normally;
    `E' = Bot`: the second run follows the first) -/
theorem Out.bind₂ {β' γ' : Type} {E' : ε → Prop} {R : β → β' → Prop} {Q : γ → γ' → Prop}
    {x : Except ε β} {y : Except ε β'} {f : β → Except ε γ} {g : β' → Except ε γ'}
    (h : Out Top (fun p => Out E' (R p) y) x) (hf : ∀ p q, R p q → Out Top (fun p' => Out E' (Q p') (g q)) (f p)) :
    Out Top (fun p' => Out E' (Q p') (y >>= g)) (x >>= f) := by
  cases x with
  | error e => trivial
  | ok p =>
    cases y with
    | error e =>
      show Out Top _ (f p)
      cases f p with
      | error e' => trivial
      | ok p' => exact (h : E' e)
    | ok q => exact hf p q h

theorem bind_ok {m : StateT σ (Except ε) α} {f : α → StateT σ (Except ε) β} {s : σ} {b : β} {s'' : σ}
    (h : (m >>= f) s = .ok (b, s'')) : ∃ a s', m s = .ok (a, s') ∧ f a s' = .ok (b, s'') := by
  have h : (m s >>= fun p => f p.1 p.2) = .ok (b, s'') := h
  cases hm : m s with
  | error e => rw [hm] at h; cases h
  | ok p => rw [hm] at h; exact ⟨p.1, p.2, rfl, h⟩


/-- from a state with `P`, `m` ends in `Out E Q` -/
def Tri (E : ε → Prop) (P : σ → Prop) (m : StateT σ (Except ε) α) (Q : α → σ → Prop) : Prop :=
  ∀ s, P s → Out E (fun p => Q p.1 p.2) (m s)

/-- `m` keeps `I` -/
abbrev Inv (E : ε → Prop) (I : σ → Prop) (m : StateT σ (Except ε) α) : Prop := Tri E I m fun _ => I

section rules
variable {P P' : σ → Prop} {Q Q' : α → σ → Prop} {m : StateT σ (Except ε) α}

theorem Tri.pure (a : α) (h : ∀ s, P s → Q a s) : Tri E P (pure a : StateT σ (Except ε) α) Q := fun s hs => h s hs

theorem Tri.bind {R : α → σ → Prop} {Q : β → σ → Prop} {f : α → StateT σ (Except ε) β} (hm : Tri E P m R)
    (hf : ∀ a, Tri E (R a) (f a) Q) : Tri E P (m >>= f) Q :=
  fun s hs => Out.bind (hm s hs) fun p hp => hf p.1 p.2 hp

theorem Tri.ite {c : Prop} [Decidable c] {a b : StateT σ (Except ε) α} (ha : c → Tri E P a Q) (hb : ¬ c → Tri E P b Q) :
    Tri E P (if c then a else b) Q := by
  split
  · exact ha ‹_›
  · exact hb ‹_›

theorem Tri.throw (e : ε) (h : E e) : Tri E P (throw e : StateT σ (Except ε) α) Q := fun _ _ => h

/-- an `Except` value read as a program (`liftE` of the block model is this) -/
theorem Tri.lift (e : Except ε α) (h : ∀ s, P s → Out E (fun a => Q a s) e) :
    Tri E P (fun s => e.map fun a => (a, s)) Q := fun s hs => Out.map (h s hs)

/-- a primitive: its run equation and what the answer and the new state satisfy -/
theorem Tri.det {a : σ → α} {t : σ → σ} (hm : ∀ s, m s = .ok (a s, t s)) (h : ∀ s, P s → Q (a s) (t s)) : Tri E P m Q :=
  fun s hs => by rw [hm s]; exact h s hs

theorem Tri.conseq (hm : Tri E P m Q) (hE : ∀ e, E e → E' e) (hP : ∀ s, P' s → P s) (hQ : ∀ a s, Q a s → Q' a s) :
    Tri E' P' m Q' := fun s hs => (hm s (hP s hs)).mono hE fun p => hQ p.1 p.2

theorem Tri.and (h : Tri E P m Q) (h' : Tri E' P' m Q') :
    Tri (fun e => E e ∧ E' e) (fun s => P s ∧ P' s) m (fun a s => Q a s ∧ Q' a s) :=
  fun s hs => (h s hs.1).and (h' s hs.2)

/-- a fact that does not speak of the state -/
theorem Tri.frame {C : Prop} (h : C → Tri E P m Q) : Tri E (fun s => C ∧ P s) m Q := fun s hs => h hs.1 s hs.2

/-- what is known of every normal end may be assumed by the rest (`Keeps.bind_of`, `Tr.and_pres`, …) -/
theorem Tri.partial_and (h : Tri E P m Q) (h' : Tri Top P' m Q') :
    Tri E (fun s => P s ∧ P' s) m (fun a s => Q a s ∧ Q' a s) :=
  ((h.and h').conseq (fun _ he => he.1) (fun _ hs => hs) fun _ _ hq => hq)

theorem Tri.top_iff : Tri Top P m Q ↔ ∀ s a s', P s → m s = .ok (a, s') → Q a s' :=
  ⟨fun h s a s' hs e => Out.top_iff.1 (h s hs) (a, s') e, fun h s hs => Out.top_iff.2 fun p e => h s p.1 p.2 hs e⟩

theorem Tri.trivial {Q : α → σ → Prop} (h : ∀ a s, Q a s) : Tri Top P m Q := Tri.top_iff.2 fun _ a s' _ _ => h a s'

theorem Inv.pure (a : α) {I : σ → Prop} : Inv E I (pure a : StateT σ (Except ε) α) := Tri.pure a fun _ h => h

theorem Inv.bind {I : σ → Prop} {f : α → StateT σ (Except ε) β} (hm : Inv E I m) (hf : ∀ a, Inv E I (f a)) :
    Inv E I (m >>= f) := Tri.bind hm hf

end rules

section rel
variable {P P' : σ → Prop} {Q Q' : α → σ → Prop} {m m1 m2 : StateT σ (Except ε) α}

/-- from every `P`-state `m1` answers what `m2` answers, or `m1` errs; and `m2` is a partial triple. On the diagonal it is
    `Tri Top` (`Tri₂.refl`, `Tri₂.right`), so what is known of a common step joins the precondition of what follows it -/
def Tri₂ (P : σ → Prop) (m1 m2 : StateT σ (Except ε) α) (Q : α → σ → Prop) : Prop :=
  ∀ s, P s → (m1 s = m2 s ∨ ∃ e, m1 s = .error e) ∧ ∀ a s', m2 s = .ok (a, s') → Q a s'

theorem Tri₂.refl (h : Tri Top P m Q) : Tri₂ P m m Q :=
  fun s hs => ⟨.inl rfl, fun a s' hm => Tri.top_iff.1 h s a s' hs hm⟩

theorem Tri₂.right (h : Tri₂ P m1 m2 Q) : Tri Top P m2 Q := Tri.top_iff.2 fun s a s' hs hm => (h s hs).2 a s' hm

theorem Tri₂.bind {R : α → σ → Prop} {Q : β → σ → Prop} {f1 f2 : α → StateT σ (Except ε) β} (hm : Tri₂ P m1 m2 R)
    (hf : ∀ a, Tri₂ (R a) (f1 a) (f2 a) Q) : Tri₂ P (m1 >>= f1) (m2 >>= f2) Q := by
  intro s hs
  obtain ⟨h1, h2⟩ := hm s hs
  have e : ∀ (m : StateT σ (Except ε) α) (f : α → StateT σ (Except ε) β), (m >>= f) s = (m s >>= fun p => f p.1 p.2) :=
    fun _ _ => rfl
  rw [e, e]
  cases hx : m2 s with
  | error e2 =>
    refine ⟨?_, fun _ _ h => by cases h⟩
    rcases h1 with h | ⟨e1, h⟩
    · rw [h, hx]; exact .inl rfl
    · rw [h]; exact .inr ⟨e1, rfl⟩
  | ok p =>
    rcases h1 with h | ⟨e1, h⟩
    · rw [h, hx]; exact hf p.1 p.2 (h2 p.1 p.2 hx)
    · rw [h]; exact ⟨.inr ⟨e1, rfl⟩, (hf p.1 p.2 (h2 p.1 p.2 hx)).2⟩

theorem Tri₂.ite {c : Prop} [Decidable c] {a1 a2 b1 b2 : StateT σ (Except ε) α} (ha : c → Tri₂ P a1 a2 Q)
    (hb : ¬ c → Tri₂ P b1 b2 Q) : Tri₂ P (if c then a1 else b1) (if c then a2 else b2) Q := by
  split
  · exact ha ‹_›
  · exact hb ‹_›

theorem Tri₂.conseq (h : Tri₂ P m1 m2 Q) (hP : ∀ s, P' s → P s) (hQ : ∀ a s, Q a s → Q' a s) : Tri₂ P' m1 m2 Q' :=
  fun s hs => ⟨(h s (hP s hs)).1, fun a s' hm => hQ a s' ((h s (hP s hs)).2 a s' hm)⟩

theorem Tri₂.frame {C : Prop} (h : C → Tri₂ P m1 m2 Q) : Tri₂ (fun s => C ∧ P s) m1 m2 Q := fun s hs => h hs.1 s hs.2

end rel

/-- `MH`, `MF` as programs over the pair state -/
def run₂ {τ : Type} (m : StateT τ (StateT σ (Except ε)) α) : StateT (τ × σ) (Except ε) α :=
  fun p => (m p.1 p.2).map fun r => (r.1.1, (r.1.2, r.2))

section run2
variable {τ : Type}

/-! the nested form `m t s`, for statements written without `run₂` -/

theorem bind_apply₂ (m : StateT τ (StateT σ (Except ε)) α) (f : α → StateT τ (StateT σ (Except ε)) β) (t : τ) (s : σ) :
    (m >>= f) t s = match m t s with
      | .ok ((a, t'), s') => f a t' s'
      | .error e => .error e := by
  simp only [bind, StateT.bind, Except.bind]
  cases m t s with
  | error e => rfl
  | ok x => rfl

theorem lift_apply₂ (x : StateT σ (Except ε) α) (t : τ) (s : σ) :
    (StateT.lift x : StateT τ (StateT σ (Except ε)) α) t s = match x s with
      | .ok (a, s') => .ok ((a, t), s')
      | .error e => .error e := by
  simp only [StateT.lift, bind, StateT.bind, Except.bind, pure, StateT.pure, Except.pure]
  cases x s with
  | error e => rfl
  | ok x => rfl

theorem bind_ok₂ {m : StateT τ (StateT σ (Except ε)) α} {f : α → StateT τ (StateT σ (Except ε)) β} {t : τ} {s : σ} {b : β}
    {t'' : τ} {s'' : σ} (e : (m >>= f) t s = .ok ((b, t''), s'')) :
    ∃ a t' s', m t s = .ok ((a, t'), s') ∧ f a t' s' = .ok ((b, t''), s'') := by
  rw [bind_apply₂] at e
  cases hm : m t s with
  | error x => rw [hm] at e; cases e
  | ok p => obtain ⟨⟨a, t'⟩, s'⟩ := p; rw [hm] at e; exact ⟨a, t', s', rfl, e⟩

theorem lift_ok₂ {x : StateT σ (Except ε) α} {t : τ} {s : σ} {a : α} {t' : τ} {s' : σ}
    (e : (StateT.lift x : StateT τ (StateT σ (Except ε)) α) t s = .ok ((a, t'), s')) : t' = t ∧ x s = .ok (a, s') := by
  rw [lift_apply₂] at e
  cases hx : x s with
  | error y => rw [hx] at e; cases e
  | ok p => rw [hx] at e; cases e; exact ⟨rfl, rfl⟩

end run2

end GM.Hoare

namespace GM.Blocks
open GM GM.Text GM.Hoare

theorem getNode_run (id : Nat) (s : St) : getNode id s = .ok (s.nodes.getD id default, s) := rfl
theorem modNode_run (id : Nat) (f : Node → Node) (s : St) :
    modNode id f s = .ok ((), { s with nodes := s.nodes.set id (f (s.nodes.getD id default)) }) := rfl
theorem newNode_run (n : Node) (s : St) : newNode n s = .ok (s.nodes.length, { s with nodes := s.nodes ++ [n] }) := rfl
theorem getPc_run (s : St) : getPc s = .ok (s.pc, s) := rfl
theorem modPc_run (f : Ctx → Ctx) (s : St) : modPc f s = .ok ((), { s with pc := f s.pc }) := rfl
theorem position_run (s : St) : position s = .ok (s.r.position, s) := rfl
theorem source_run (s : St) : source s = .ok (s.r.source, s) := rfl
theorem get_run (s : St) : (get : M St) s = .ok (s, s) := rfl
theorem advanceLine_run (s : St) : advanceLine s = .ok ((), { s with r := s.r.advanceLine }) := rfl
theorem setPosition_run (l : Int) (p : Segment) (s : St) :
    setPosition l p s = .ok ((), { s with r := s.r.setPosition l p }) := rfl
theorem lastOpenedBlock_run (s : St) : lastOpenedBlock s = .ok (s.pc.opened.getLast?, s) := rfl
theorem appendLine_run (id : Nat) (seg : Segment) :
    appendLine id seg = modNode id fun n => { n with lines := n.lines ++ [seg], linesNil := false } := rfl

theorem peekLine_run (s : St) : peekLine s = (s.r.peekLine).map fun p => (p.1, { s with r := p.2 }) := by
  unfold peekLine; cases s.r.peekLine <;> rfl
theorem lineOffset_run (s : St) : lineOffset s = (s.r.lineOffsetOp).map fun p => (p.1, { s with r := p.2 }) := by
  unfold lineOffset; cases s.r.lineOffsetOp <;> rfl
theorem advance_run (n : Int) (s : St) : advance n s = (s.r.advance n).map fun r => ((), { s with r := r }) := by
  unfold advance; cases s.r.advance n <;> rfl
theorem advanceAndSetPadding_run (n p : Int) (s : St) :
    advanceAndSetPadding n p s = (s.r.advanceAndSetPadding n p).map fun r => ((), { s with r := r }) := by
  unfold advanceAndSetPadding; cases s.r.advanceAndSetPadding n p <;> rfl
theorem skipBlankLinesR_run (s : St) : skipBlankLinesR s =
    (skipBlankLines readerOps (loopFuel s.r.source) 0 s.r).map fun p => (p.1, { s with r := p.2 }) := by
  unfold skipBlankLinesR; cases skipBlankLines readerOps (loopFuel s.r.source) 0 s.r <;> rfl
theorem liftE_run {α} (e : Except Panic α) (s : St) : liftE e s = e.map fun a => (a, s) := rfl

/-- a reader primitive: what it may do is what the reader operation may do -/
theorem _root_.GM.Hoare.Tri.reader {E : Panic → Prop} {P : St → Prop} {α β} {Q : β → St → Prop} {m : M β} {op : Reader → Except Panic α}
    {g : St → α → β × St} (hm : ∀ s, m s = (op s.r).map (g s))
    (h : ∀ s, P s → Out E (fun a => Q (g s a).1 (g s a).2) (op s.r)) : Tri E P m Q :=
  fun s hs => by rw [hm s]; exact Out.map (h s hs)

end GM.Blocks
