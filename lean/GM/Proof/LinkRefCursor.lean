/-
  GM.Proof.LinkRefCursor — cursor-level facts for the link reference definition scanner on well-formed lines WITH ANY
  paddings (the block cursor `BCur` of GM.Spec.Cursor, lifted to the block reader by the simulation of
  GM.Proof.BlockReader):
    * `Advance` never moves back (line number, byte offset), stays on a line of the block (`ln < k`) when it started on one,
      and passes a real byte when the padding is used up;
    * the padded cursor (`BWF`, `PadOK`, `PadAny`) is a measured reader interface (`bcurMeasP`): SkipSpaces and FindClosure
      are defined on it, keep it and never move back;
    * FindClosure: a found closer leaves the cursor on a line of the block (`found_live`); every segment handed out starts at
      or behind the old cursor and is not inverted (what `BlockReader.Value` needs not to panic).
-/
import GM.Proof.LinkRefPad

namespace GM.Proof.LinkRefAdj
open GM GM.Text GM.Spec GM.Inl GM.LinkRef GM.Proof.Reader GM.Proof.InlinesReader GM.Proof.BlockReaderFuel
open GM.Proof.LinkRefPad

variable {src : Bytes} {segs : List Segment}

/-- the cursor at the head of line `j` (what AdvanceLine and a line-crossing Advance produce) -/
def lineCur (segs : List Segment) (j : Int) : BCur := ⟨j, (BCur.segOf segs j).start, (BCur.segOf segs j).padding⟩

theorem adv1_ln (c : BCur) :
    c.ln ≤ (BCur.adv1 segs c).ln ∧ (c.ln < BCur.k segs → (BCur.adv1 segs c).ln < BCur.k segs) := by
  unfold BCur.adv1
  split
  · simp
  · split
    · simp
    · rename_i h; simp only; constructor <;> omega

theorem advN_ln (n : Nat) : ∀ (c : BCur),
    c.ln ≤ (BCur.advN segs n c).ln ∧ (c.ln < BCur.k segs → (BCur.advN segs n c).ln < BCur.k segs) := by
  induction n with
  | zero => intro c; simp [BCur.advN]
  | succ n ih =>
    intro c
    have h1 := adv1_ln (segs := segs) c
    have h2 := ih (BCur.adv1 segs c)
    simp only [BCur.advN]
    exact ⟨by omega, fun h => h2.2 (h1.2 h)⟩

theorem adv1_p (F : SegFacts src segs) {c : BCur} (w : BWF segs c) (hl : BCur.live segs c = true) :
    c.p ≤ (BCur.adv1 segs c).p ∧ (c.pad = 0 → c.p < (BCur.adv1 segs c).p) := by
  simp only [BCur.live, Bool.and_eq_true, decide_eq_true_eq] at hl
  have i1 := w.inLine hl.1
  unfold BCur.adv1
  split
  · rename_i hp; exact ⟨Int.le_refl _, fun h => absurd h hp⟩
  · split
    · simp only; exact ⟨by omega, fun _ => by omega⟩
    · rename_i h
      have hm := F.mono c.ln (c.ln + 1) w.ln0 (by omega) (by omega)
      simp only
      exact ⟨by omega, fun _ => by omega⟩

theorem advN_p (F : SegFacts src segs) (n : Nat) : ∀ {c : BCur}, BWF segs c → (n : Int) ≤ BCur.remaining segs c →
    c.p ≤ (BCur.advN segs n c).p ∧ (c.pad = 0 → 1 ≤ n → c.p < (BCur.advN segs n c).p) := by
  induction n with
  | zero => intro c _ _; simp [BCur.advN]
  | succ n ih =>
    intro c w hn
    have hl : BCur.live segs c = true := rem_nonneg_live (by omega)
    obtain ⟨r1, r2⟩ := rem_adv1 F w hl
    obtain ⟨a1, a2⟩ := adv1_p F w hl
    obtain ⟨b1, _⟩ := ih r2 (by omega)
    simp only [BCur.advN]
    exact ⟨by omega, fun hz _ => by have := a2 hz; omega⟩

/-- a well-formed cursor with `PadOK`, on or behind line `L0`, at or behind offset `P0` -/
def J (segs : List Segment) (L0 P0 : Int) (c : BCur) : Prop := BWF segs c ∧ PadOK segs c ∧ L0 ≤ c.ln ∧ P0 ≤ c.p

theorem J.mono {L0 P0 L1 P1 : Int} {c : BCur} (h : J segs L1 P1 c) (hl : L0 ≤ L1) (hp : P0 ≤ P1) : J segs L0 P0 c :=
  ⟨h.1, h.2.1, by have := h.2.2.1; omega, by have := h.2.2.2; omega⟩

theorem advanceLine_p (F : SegFacts src segs) {c : BCur} (w : BWF segs c) : c.p ≤ (BCur.advanceLine segs c).p := by
  unfold BCur.advanceLine
  split
  · rename_i hl
    have i1 := w.inLine (by omega)
    have hm := F.mono c.ln (c.ln + 1) w.ln0 (by omega) hl
    simp only; omega
  · exact Int.le_refl _

theorem view_live {c : BCur} {l : Bytes} (hv : BCur.view src segs c = some l) : c.ln < BCur.k segs := by
  unfold BCur.view at hv
  split at hv
  · rename_i hl
    simp only [BCur.live, Bool.and_eq_true, decide_eq_true_eq] at hl
    exact hl.1
  · cases hv

/-- a byte of the peeked line that is no space is not one of the padding spaces in front of it -/
theorem view_behind_pad {c : BCur} {bs : Bytes} (hv : BCur.view src segs c = some bs) {i : Nat} {b : UInt8}
    (hb : bs[i]? = some b) (h32 : b ≠ 32) : c.pad ≤ (i : Int) := by
  unfold BCur.view at hv
  split at hv
  · simp only [Option.some.injEq] at hv
    rw [← hv] at hb
    by_cases hlt : i < c.pad.toNat
    · rw [List.getElem?_append_left (by simpa [spaces] using hlt)] at hb
      simp only [spaces, List.getElem?_replicate, hlt, if_true, Option.some.injEq] at hb
      exact absurd hb.symm h32
    · omega
  · cases hv

/-- the closer `scanLine` finds on the peeked line of the cursor is not one of the padding spaces in front of it -/
theorem found_behind_pad {c : BCur} {bs : Bytes} (hv : BCur.view src segs c = some bs) {o cl : UInt8} (hcl : cl ≠ 32)
    {cs ne : Bool} {op cso i : Nat} (hsc : scanLine o cl cs ne bs 0 op cso = .found i) : c.pad ≤ (i : Int) := by
  have hb := scanLine_found_closer _ _ _ _ _ _ _ _ _ hsc
  simp only [Nat.sub_zero] at hb
  exact view_behind_pad hv hb hcl

/-- the padded block cursor as a measured reader interface (GM.Proof.BlockReaderFuel): `PadOK` and `PadAny` are kept, line
    numbers and byte offsets never go back, and a segment cut at a byte that is no space (what the padding is made of) starts
    at or behind the old cursor and is not inverted (what `BlockReader.Value` needs not to panic) -/
theorem bcurMeasP (F : SegFacts src segs) :
    Meas (BCur.ops src segs) (fun c => BWF segs c ∧ PadOK segs c ∧ PadAny segs c) (fun c => (BCur.remaining segs c).toNat)
      (fun c c' => c.ln ≤ c'.ln ∧ c.p ≤ c'.p ∧ BCur.remaining segs c' ≤ BCur.remaining segs c)
      (fun c0 b g => b ≠ 32 → c0.p ≤ g.start ∧ g.start ≤ g.stop) where
  refl := fun _ => ⟨Int.le_refl _, Int.le_refl _, Int.le_refl _⟩
  trans := fun h1 h2 => ⟨Int.le_trans h1.1 h2.1, Int.le_trans h1.2.1 h2.2.1, Int.le_trans h2.2.2 h1.2.2⟩
  peekLine := fun {c} w => ⟨_, _, rfl, fun bs hv => by
    obtain ⟨v1, v2, _⟩ := bcur_view_len F w.1 hv; omega⟩
  advance := fun {c} n w h0 hn => by
    have := remaining_nonneg F w.1
    obtain ⟨w1, r1⟩ := bcur_advN_rem F n.toNat w.1 (by omega)
    have h1 := (advN_ln (segs := segs) n.toNat c).1
    have h2 := (advN_p F n.toNat w.1 (by omega)).1
    refine ⟨BCur.advN segs n.toNat c, ?_, ⟨w1, padOK_advN _ w.2.1, padAny_advN _ w.2.2⟩, by omega, h1, h2, by omega⟩
    simp only [BCur.ops, BCur.advance]; rw [if_pos ⟨h0, by omega⟩]
  advanceLine := fun {c bs sg} w hpl => by
    have hv : BCur.view src segs c = some bs := by
      simp only [BCur.ops, BCur.peekLine, Except.ok.injEq, Prod.mk.injEq] at hpl; exact hpl.1.1
    have := rem_advanceLine F w.1 hv
    have := remaining_nonneg F (bwf_advanceLine F w.1)
    have h2 : c.ln ≤ (BCur.advanceLine segs c).ln := by unfold BCur.advanceLine; split <;> simp only <;> omega
    exact ⟨_, rfl, ⟨bwf_advanceLine F w.1, padOK_advanceLine w.2.1, padAny_advanceLine w.2.2⟩, by omega, h2,
      advanceLine_p F w.1, by omega⟩
  restore := fun {c c1} w _ =>
    ⟨c, bcur_setPosition_seg F c c1 w.1, w, ⟨Int.le_refl _, Int.le_refl _, Int.le_refl _⟩, Nat.le_refl _⟩
  segs := fun {c0 c bs sg} w h0 hpl => by
    simp only [BCur.ops, BCur.peekLine, Except.ok.injEq, Prod.mk.injEq] at hpl
    obtain ⟨⟨hv, rfl⟩, _⟩ := hpl
    obtain ⟨_, _, _, _, v5⟩ := bcur_view_len F w.1 hv
    simp only [BCur.seg, Segment.withStop]
    exact ⟨fun _ _ => ⟨h0.2.1, by omega⟩, fun i b hb h32 => ⟨h0.2.1, by have := view_behind_pad hv hb h32; omega⟩⟩

/-- a closure reported on the cursor leaves it on a line of the block -/
theorem found_live {I : BCur → Prop} {cl : UInt8} {sgs : List Segment} {c2 : BCur}
    (h : Found (BCur.ops src segs) I cl sgs c2) : c2.ln < BCur.k segs := by
  obtain ⟨c1, bs, sg, i, _, hpl, _, ha, _⟩ := h
  simp only [BCur.ops, BCur.peekLine, Except.ok.injEq, Prod.mk.injEq] at hpl
  simp only [BCur.ops, BCur.advance] at ha
  split at ha
  · cases ha; exact (advN_ln _ c1).2 (view_live hpl.1.1)
  · cases ha

end GM.Proof.LinkRefAdj
