/-
  GM.Proof.ShiftSimMainW — the line loops of `parseBlocks` under the shift relation WITHOUT the assumption that `b` ends
  with a line feed. Run A's states at line boundaries carry the invariant `StableL` of the no-panic proof
  (GM.Proof.BlocksDriverL), used as a black box about run A alone; all that is taken from it is `Leafy`: a leaf block is
  always the last open block, so after a leaf's `Continue` (where only the limbo relation may hold, fcode_block.go:104) the
  per-line loop is at its end.
-/
import GM.Proof.ShiftSimMain
import GM.Proof.ShiftSimDriver
import GM.Proof.ShiftSimContW
import GM.Proof.BlocksLineRule

namespace GM.Blocks.Sh
open GM GM.Text GM.Spec GM.Proof.Reader GM.Blocks GM.Blocks.L

variable {F : Frame} {b : Bytes} {Cov : BP → Prop}

theorem okl_ok {α} {P : α → St → Prop} {x : Except Panic (α × St)} {a : α} {s' : St} (h : OKL P x) (e : x = .ok (a, s')) :
    P a s' := by
  rcases h with ⟨a', s'', h1, h2⟩ | h1
  · rw [e] at h1; cases h1; exact h2
  · rw [e] at h1; cases h1

theorem ri_unique {r : Reader} {c c' : RCur} (h : RI b r c) (h' : RI b r c') : c = c' := by
  have e1 := h.pos
  have e2 := h'.pos
  rw [e1] at e2
  have l1 := h.abs.line
  have l2 := h'.abs.line
  simp only [clearLo] at l1 l2
  cases c; cases c'
  simp only [Segment.mk.injEq] at e2
  simp only at l1 l2
  obtain ⟨p1, _, p3, _⟩ := e2
  congr 1
  · omega
  · omega
  · omega

/-- what run A's states satisfy at line boundaries -/
structure AStable (b : Bytes) (s : St) : Prop where
  st : StableL b 0 s
  pad : ∀ c, RI b s.r c → PadOK c

theorem padOK_of_zero {r : Reader} (h0 : r.pos.padding = 0) : ∀ c, RI b r c → PadOK c := by
  intro c hc hp
  have := hc.pos
  rw [this] at h0
  simp only at h0
  omega

theorem advanceLine_pad (r : Reader) (h : 0 ≤ r.pos.stop) : r.advanceLine.pos.padding = 0 := by
  unfold Reader.advanceLine
  simp only
  rw [if_neg (by omega)]

theorem leaf_of_stable {s : St} (h : StableL b 0 s) :
    ∀ pre be rest, s.pc.opened = pre ++ be :: rest → rest ≠ [] → be.bp.isContainer = true := by
  intro pre be rest e hr
  have := h.leafy
  rw [e] at this
  exact (leafy_split this).2.1 hr

theorem blockquoteContinue_cont (node : Nat) (s s' : St) (st : PState)
    (h : blockquoteContinue node s = .ok (st, s')) (hc : st.cont = true) : st.hasChildren = true := by
  unfold blockquoteContinue at h
  obtain ⟨x, s1, _, h⟩ := bind_ok_inv h
  split at h
  · cases h; rfl
  · cases h; cases hc

theorem leafCont_notList : ∀ bp, NotList bp → bp.isContainer = true →
    ∀ node s s' (st : PState), bpContinue bp node s = .ok (st, s') → st.cont = true → st.hasChildren = true := by
  intro bp hn hcont node s s' st h hc
  cases bp with
  | blockquote => exact blockquoteContinue_cont node s s' st h hc
  | list => exact absurd rfl hn.1
  | listItem => exact absurd rfl hn.2
  | setext => cases hcont
  | thematic => cases hcont
  | code => cases hcont
  | atx => cases hcont
  | fenced => cases hcont
  | html => cases hcont
  | paragraph => cases hcont

theorem aStable_adv {s : St} (h : StableL b 0 s) (hs : 0 ≤ s.r.pos.stop) :
    AStable b { s with r := s.r.advanceLine } :=
  ⟨h.congr_r _, padOK_of_zero (advanceLine_pad _ hs)⟩

theorem aStable_skip {s s' : St} {a : Segment × Int × Bool} (h : AStable b s) (hri : ∃ c, RI b s.r c)
    (e : skipBlankLinesR s = .ok (a, s')) : AStable b s' := by
  obtain ⟨c0, hri0⟩ := hri
  unfold skipBlankLinesR at e
  rcases skipBlankLines_ri (src := b) (loopFuel s.r.source) 0 s.r c0 hri0 (h.pad c0 hri0) with
    ⟨x, r', c', e', h1, h2⟩ | e'
  · rw [e'] at e
    simp only [bind, Except.bind, pure, Except.pure] at e
    cases e
    exact ⟨h.st.congr_r r', fun c hc => by rw [ri_unique hc h1]; exact h2⟩
  · rw [e'] at e; cases e

/-- one pass of the per-line loop over all open blocks -/
theorem stableL_pass {s s' : St} {sa : List LineStat} {a : LineOutcome × List LineStat} (h : AStable b s)
    (hri : ∃ c, RI b s.r c)
    (e : lineLoop 0 s.pc.opened ((s.pc.opened.length : Int) - 1) s.pc.opened 0 sa s = .ok (a, s')) :
    StableL b 0 s' := by
  obtain ⟨c, hri⟩ := hri
  have := lineLoopL (lsp_all b) 0 rfl s.pc.opened ((s.pc.opened.length : Int) - 1) rfl s.pc.opened [] 0 sa s c
    rfl rfl rfl hri (h.pad c hri) h.st (fun Lb hLb => by simp at hLb)
  obtain ⟨_, _, hst'⟩ := okl_ok this e
  exact hst'

/-- `openBlocks` at the top of the outer loop, nothing open -/
theorem stableL_open0 {s s' : St} {blank : Bool} {a : OpenResult} (h : AStable b s) (hri : ∃ c, RI b s.r c)
    (hop : s.pc.opened = []) (e : openBlocks 0 blank s = .ok (a, s')) : StableL b 0 s' := by
  obtain ⟨c1, hri1⟩ := hri
  obtain ⟨_, _, h'⟩ := stableL_top (lsp_all b) rfl hri1 (h.pad c1 hri1) h.st hop e
  exact h'

theorem loopsG_W (hP : PSim F b Cov) (hW : PSimW F b Cov) (hF : F.OK) (hO : OpenBlocksSim F b Cov)
    (hcont : ∀ bp, Cov bp → bp.isContainer = true → ∀ node s s' (st : PState),
      bpContinue bp node s = .ok (st, s') → st.cont = true → st.hasChildren = true) :
    LoopsG F b 0 (AI Cov) (AStable b) (StableL b 0) where
  aR := fun _ _ h => h
  pass := fun sa sb sA sB h hc hst hline hz hne =>
    ((lineLoop_p2W hP hW hF hO 0 sA.pc.opened _ hc (leaf_of_stable hz.st) hcont sA.pc.opened 0 sa sb sA sB ⟨[], rfl⟩ h hc
      hst hline (by omega)).withL (R := fun _ sA' => StableL b 0 sA') (fun _ _ e => stableL_pass hz h.ri e)).mono
      fun _ _ _ _ ⟨⟨q1, q2, q3, q4, q5, q6⟩, q7⟩ => ⟨q1, q2, q3, q4, q5, fun e => q6 e hne, q7⟩
  adv := fun _ h hs => aStable_adv h hs
  skip := fun _ _ _ h hri e => aStable_skip h hri e
  open0 := fun blank sA sB h hc hz hop =>
    ((hO 0 blank sA sB h hc).withL (R := fun _ sA' => StableL b 0 sA') (fun _ _ e => stableL_open0 hz h.ri hop e)).mono
      fun _ _ _ _ ⟨⟨q1, q2, q3, q4, q5⟩, q6⟩ => ⟨q1, q2, q3, q4, q5, q6⟩

def LinesQW (F : Frame) (b : Bytes) (Cov : BP → Prop) (sA : St) (sa : List LineStat)
    (x y : Bool × List LineStat) (sA' sB' : St) : Prop :=
  y.1 = x.1 ∧ StatsRel F x.2 y.2 ∧ SRLim F b sA' sB' ∧ AI Cov sA' ∧ 1 ≤ sA'.r.line ∧
    (x.1 = false → SR F b sA' sB' ∧ sA'.pc.opened = [] ∧ AStable b sA' ∧ (sa ≠ [] ∨ sA.pc.opened ≠ [] → x.2 ≠ []))


theorem linesLoop_p2W (hP : PSim F b Cov) (hW : PSimW F b Cov) (hF : F.OK) (hO : OpenBlocksSim F b Cov)
    (hcont : ∀ bp, Cov bp → bp.isContainer = true → ∀ node s s' (st : PState),
      bpContinue bp node s = .ok (st, s') → st.cont = true → st.hasChildren = true) :
    ∀ (fuelA fuelB : Nat) (sa sb : List LineStat) (sA sB : St),
      SR F b sA sB → AI Cov sA → StatsRel F sa sb → 1 ≤ sA.r.line → AStable b sA →
      P2 (LinesQW F b Cov sA sa) (linesLoop 0 fuelA sa sA) (linesLoop (F.ι 0) fuelB sb sB) :=
  linesLoop_g (loopsG_W hP hW hF hO hcont)

theorem blocksLoop_p2W (hP : PSim F b Cov) (hW : PSimW F b Cov) (hF : F.OK) (hO : OpenBlocksSim F b Cov)
    (hcont : ∀ bp, Cov bp → bp.isContainer = true → ∀ node s s' (st : PState),
      bpContinue bp node s = .ok (st, s') → st.cont = true → st.hasChildren = true) :
    ∀ (fuelA fuelB : Nat) (sa sb : List LineStat) (sA sB : St),
      SRw F b sA sB → AI Cov sA → sA.pc.opened = [] → 0 ≤ sA.r.line → BInv F sa sb sA.r.line → AStable b sA →
      P2 (fun _ _ sA' sB' => StoreRel F sA'.nodes sB'.nodes)
        (blocksLoop 0 fuelA sa sA) (blocksLoop (F.ι 0) fuelB sb sB) :=
  blocksLoop_g (loopsG_W hP hW hF hO hcont)

/-- the start state of `run b` satisfies the invariant of the no-panic proof (cf. the start of `GM.Blocks.L.G.X.runG`) -/
theorem stable_init (b : Bytes) : StableL b 0 (initSt b) := by
  have hnd0 : ∀ i, nd (initSt b) i = if i = 0 then { kind := .document } else default := by
    intro i
    cases i with
    | zero => rfl
    | succ n => rfl
  refine ⟨?_, ⟨?_, ?_⟩, ?_, ?_, ⟨⟨?_, ?_, ?_⟩, ?_, ?_, ?_, ?_, ?_⟩, ?_, ?_⟩
  · intro n hn
    simp only [initSt, List.mem_singleton] at hn
    subst hn
    exact ⟨by intro t ht; simp at ht, fun _ => rfl⟩
  · intro t h; simp [initSt] at h
  · intro f h; simp [initSt] at h
  · intro b hb; simp [initSt] at hb
  · intro b hb; simp [initSt] at hb
  · intro i lc hk; rw [hnd0] at hk; split at hk <;> cases hk
  · intro i hk; rw [hnd0] at hk; split at hk <;> cases hk
  · intro i p hp; rw [hnd0] at hp; split at hp <;> cases hp
  · intro i p hp; rw [hnd0] at hp; split at hp <;> cases hp
  · rw [hnd0]; rfl
  · simp [initSt]
  · intro b hb; simp [initSt] at hb
  · simp [initSt]
  · trivial
  · show (nd _ (lastNode 0 (initSt b).pc.opened)).kind ≠ .list
    show (nd _ (lastNode 0 [])).kind ≠ .list
    rw [lastNode_nil, hnd0]; decide

/-- the start state of `run b` at its first line boundary -/
theorem aStable_init (b : Bytes) : AStable b (initSt b) :=
  ⟨stable_init b, padOK_of_zero (by simp [initSt, Reader.new, Reader.advanceLine])⟩

/-- **Shift invariance of the block phase** for a covered parser set, without any assumption on the end of `b`. -/
theorem shift_invariance_coreW (hP : PSim F b Cov) (hW : PSimW F b Cov) (hF : F.OK) (hT : Triggers b Cov)
    (hcont : ∀ bp, Cov bp → bp.isContainer = true → ∀ node s s' (st : PState),
      bpContinue bp node s = .ok (st, s') → st.cont = true → st.hasChildren = true)
    {sB : St} {statsB : List LineStat} (hS : Start F b sB statsB) (fuelB : Nat) (sB' : St)
    (hB : blocksLoop 0 fuelB statsB sB = .ok ((), sB')) :
    ∃ sA', run b = .ok sA' ∧ StoreRel F sA'.nodes sB'.nodes :=
  shift_invariance_g (loopsG_W hP hW hF (openBlocks_p2W hP hW hF hT) hcont) (fun x hx => by simp [initSt] at hx)
    (aStable_init b) hS fuelB sB' hB

/-- all block parsers but `listParser` / `listItemParser`: EVERY source without `-`, `*`, `+` and digits -/
theorem shift_invariance_list_free_all (F : Frame) (hF : F.OK) (b : Bytes) (hLF : ListFree b) {sB : St}
    {statsB : List LineStat} (hS : Start F b sB statsB) (fuelB : Nat) (sB' : St)
    (hB : blocksLoop 0 fuelB statsB sB = .ok ((), sB')) :
    ∃ sA', run b = .ok sA' ∧ StoreRel F sA'.nodes sB'.nodes :=
  shift_invariance_coreW (psim_notList F hF b) (psimW_notList F hF b) hF (triggers_notList b hLF) leafCont_notList hS fuelB
    sB' hB

end GM.Blocks.Sh
