/-
  GM.Proof.LinkRefPres — the link reference transformer as a step of the block phase: `guardedTransform` keeps every
  reader-only invariant (it reads the main reader's source only) and never exhausts fuel (`PTOK`), hence the block
  phase with it terminates for every source (`blockPhase_noLoop`). The GFM table transformer is admissible in the same sense
  (`transformPT_ptok`).
-/
import GM.Proof.LinkRefScan
import GM.Proof.BlocksT
import GM.Model.Convert
import GM.Model.ExtTableX

namespace GM.Proof.LinkRefPres
open GM GM.Text GM.Spec GM.Blocks GM.LinkRef GM.Proof.LinkRefTotal GM.Proof.LinkRefPad GM.Proof.InlinesReader

theorem slicedSegs_noLoop (l : List Segment) (lo hi : Int) : NoLoop (slicedSegs l lo hi) := by
  unfold slicedSegs; noloop

theorem removeLoop_noLoop : ∀ (rs : List (Int × Int)) (off : Int) (l : List Segment), NoLoop (removeLoop rs off l)
  | [], _, _ => by unfold removeLoop; noloop
  | (r0, r1) :: rest, off, l => by
    have := fun a b => slicedSegs_noLoop l a b
    have := fun o l' => removeLoop_noLoop rest o l'
    unfold removeLoop; noloop

theorem finishLines_noLoop (rs : List (Int × Int)) (l : List Segment) : NoLoop (finishLines rs l) := by
  have := removeLoop_noLoop rs 0 l
  unfold finishLines; noloop

theorem pres_of {I : St → Prop} {α : Type} {m : M α}
    (h : ∀ s, I s → (∀ a s', m s = .ok (a, s') → I s') ∧ m s ≠ .error .loop) : Pres I m := by
  constructor
  intro s hs
  obtain ⟨t1, t2⟩ := h s hs
  cases ht : m s with
  | error e => exact fun he => t2 (he ▸ ht)
  | ok p => exact t1 p.1 p.2 ht

/-- the run-time check of `guardedTransform` answers `pre`, or the paragraph's lines are well-formed (or none) and
    `Transform` runs -/
theorem guardedTransform_cases (node : Nat) (s : St) :
    guardedTransform node s = .error .pre ∨
      (guardedTransform node s = transform node s ∧
        ((s.nodes.getD node default).lines = [] ∨ WFSegs s.r.source (s.nodes.getD node default).lines)) := by
  by_cases hg : ((s.nodes.getD node default).lines.length != 0 && !wfSegsB s.r.source (s.nodes.getD node default).lines) = true
  · left
    unfold guardedTransform
    simp only [bind, StateT.bind, getNode, source, pure, Except.pure, Except.bind, hg, if_true]
    rfl
  · refine .inr ⟨?_, ?_⟩
    · unfold guardedTransform
      simp only [bind, StateT.bind, getNode, source, pure, Except.pure, Except.bind, hg, Bool.false_eq_true, if_false]
    · by_cases he : (s.nodes.getD node default).lines = []
      · exact Or.inl he
      · refine Or.inr (wfSegsB_sound ?_)
        cases hw : wfSegsB s.r.source (s.nodes.getD node default).lines with
        | true => rfl
        | false =>
          exfalso; apply hg
          have : (s.nodes.getD node default).lines.length ≠ 0 := by
            intro h0; exact he (List.length_eq_zero_iff.1 h0)
          rw [hw]; simpa using this

section
variable {I : St → Prop} (h : RPrims I)
include h

theorem transformFinish_pres (node : Nat) (n : GM.Blocks.Node) (removes : List (Int × Int)) (refs : RefMap) :
    Pres I (transformFinish node n removes refs) := by
  have := h.ronly
  have := replaceChild_pres h
  have hr : Pres I (liftE (finishLines removes n.lines)) := liftE_pres _ (finishLines_noLoop _ _)
  unfold transformFinish; pres

/-- `Transform` from a state whose paragraph has well-formed lines (or none) -/
theorem transform_ok (node : Nat) (s : St) (hs : I s)
    (hl : (s.nodes.getD node default).lines = [] ∨ WFSegs s.r.source (s.nodes.getD node default).lines) :
    (∀ a s', transform node s = .ok (a, s') → I s') ∧ transform node s ≠ .error .loop := by
  have hscan := transformScan_noLoop_pad hl s.pc.refs
  cases hsc : transformScan s.r.source (s.nodes.getD node default).lines s.pc.refs with
  | error e =>
    have et : transform node s = .error e := by
      unfold transform
      simp only [bind, StateT.bind, getNode, source, getPc, pure, Except.pure, Except.bind, liftE, hsc, Except.map]
    rw [et]
    refine ⟨fun _ _ h' => (by cases h'), fun he => ?_⟩
    cases he; exact hscan hsc
  | ok x =>
    obtain ⟨removes, refs⟩ := x
    have et : transform node s = transformFinish node (s.nodes.getD node default) removes refs s := by
      unfold transform
      simp only [bind, StateT.bind, getNode, source, getPc, pure, Except.pure, Except.bind, liftE, hsc, Except.map]
    rw [et]
    have hp := transformFinish_pres h node (s.nodes.getD node default) removes refs
    exact ⟨fun a s' h' => hp.ok hs h', hp.noLoop hs⟩

theorem guardedTransform_pres (node : Nat) : Pres I (guardedTransform node) := by
  refine pres_of fun s hs => ?_
  rcases guardedTransform_cases node s with e1 | ⟨e2, hl⟩
  · rw [e1]; exact ⟨fun _ _ h' => (by cases h'), fun h' => (by cases h')⟩
  · rw [e2]; exact transform_ok h node s hs hl

end

/-- the link reference transformer behind its run-time check is an admissible paragraph transformer -/
theorem guardedTransform_ptok : PTOK guardedTransform := fun _ h n => guardedTransform_pres h n

theorem paragraphTransformers_ok : PTsOK (GM.Convert.paragraphTransformers true) := by
  intro pt hpt
  simp only [GM.Convert.paragraphTransformers, if_true, List.mem_singleton] at hpt
  subst hpt
  exact guardedTransform_ptok

/-- **the block phase with the link reference transformer terminates**, for every source -/
theorem blockPhase_noLoop (src : Bytes) : GM.Convert.blockPhase true src ≠ .error .loop :=
  runT_noLoop paragraphTransformers_ok src

end GM.Proof.LinkRefPres

namespace GM.Blocks
open GM GM.Text GM.TableX

section pres
variable {I : St → Prop} (h : RPrims I)
include h

theorem addCells_pres (src : Bytes) (row : Nat) : ∀ cells, Pres I (addCells src row cells) := by
  have := h.ronly
  have := appendChild_pres h
  intro cells
  induction cells with
  | nil => unfold addCells; pres
  | cons c rest ih => unfold addCells; pres

theorem addRow_pres (src : Bytes) (table tag : Nat) (cells : List GM.Table.Cell) : Pres I (addRow src table tag cells) := by
  have := h.ronly
  have := appendChild_pres h
  have := addCells_pres h src
  unfold addRow; pres

theorem addRows_pres (src : Bytes) (table : Nat) : ∀ rows, Pres I (addRows src table rows) := by
  have := addRow_pres h src
  intro rows
  induction rows with
  | nil => unfold addRows; pres
  | cons r rest ih => unfold addRows; pres

theorem buildTable_pres (src : Bytes) (node : Nat) (parent : Option Nat) (para : List GM.Table.Seg) (t : GM.Table.Table) :
    Pres I (buildTable src node parent para t) := by
  have := h.ronly
  have := addRow_pres h src
  have := addRows_pres h src
  have := insertBefore_pres h
  have := removeChild_pres h
  unfold buildTable; pres

theorem transformPT_pres (src : Bytes) (node : Nat) : Pres I (transformPT src node) := by
  have := buildTable_pres h src
  unfold transformPT; pres

end pres

/-- the table paragraph transformer never exhausts fuel and keeps every reader-only invariant -/
theorem transformPT_ptok (src : Bytes) : PTOK (transformPT src) := fun _ h n => transformPT_pres h src n

end GM.Blocks
