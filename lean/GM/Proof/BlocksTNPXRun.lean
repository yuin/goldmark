/-
  GM.Proof.BlocksTNPXRun — the line loops and the whole run `runC cls pts` for the wide transformer contract `PTsSpecX` and any `cls` with
  `CloseLike`, at the invariant `StableG` of GM.Proof.BlocksTNPXOpen: one pass over the opened blocks is the rule of
  GM.Proof.BlocksLoopRule at the total judgement `OKE e` (`lineLoopLC`); then `linesLoopC`, `blocksLoopC`, `runC` (`runG`).
-/
import GM.Proof.BlocksTNPXOpen
import GM.Proof.BlocksLineRule

namespace GM.Blocks.L.G.X
open GM GM.Text GM.Spec GM.Proof.Reader GM.Blocks.T GM.Blocks.TR

theorem _root_.GM.Blocks.lineLayer_stableG (src : Bytes) (root : Nat) : LineLayer src root (StableG src root) where
  core := fun h => ⟨h.nodes, h.keys, h.blocks, h.leafy, h.ls, h.chain, h.endOK⟩
  same := fun h e hn t ho ht hf => h.same e hn t ho ht hf

section tp
variable {src : Bytes} (lsp : LSp src) {e : Panic} {pts : List PT} (hpts : PTsSpecX src e pts)
  {cls : BP → Nat → M Unit} (hC : CloseLike src cls)
include lsp hpts hC

theorem lineLoopLC {root : Nat} (parent : Nat) (hroot : parent = root) (ob : List Block) (li : Int)
    (hli : li = (ob.length : Int) - 1) :
    ∀ (rest pre : List Block) (i : Int) (bl : List LineStat) (s : St) (c : RCur), ob = pre ++ rest → i = (pre.length : Int) →
      s.pc.opened = ob → RI src s.r c → PadOK c → StableG src root s →
      (∀ Lb, pre.getLast? = some Lb → Lb.bp = .list → ListHint src s c Lb.node) →
      OKE e (LLPostG src root) (lineLoopC cls pts parent ob li rest i bl s) := by
  intro rest pre i bl s c hob hi hop hri hpad hst hhint
  refine lineLoopC_rule (cls := cls) (pts1 := pts) (pts2 := pts) (K := fun _ => True) (Dy := fun _ => True) (Cu := fun _ => True)
    (Q := LLPostG src root) lsp parent ob li hli (lineLayer_stableG src root) (loopCalc_oke e)
    (fun _ _ _ _ => trivial) (fun _ _ _ _ _ _ _ _ _ _ => trivial) (fun _ _ _ _ => trivial) (fun _ hst hria _ => ⟨_, hria, hst⟩)
    (fun bl s c _ hri hpad _ hst hop hv => ?_)
    (fun _ _ _ _ _ _ _ _ _ _ _ _ _ _ _ _ _ _ _ => ⟨trivial, fun _ => ⟨trivial, fun _ => trivial⟩⟩)
    (fun pre be blank bl' s c _ hri hpad _ hst hop hbe hobe hbec => ?_)
    (fun pre be rest i hob hi blank bl' s c _ hri hpad _ hst hop hmode => ?_)
    rest pre i bl s c hob hi hop hri hpad hst hhint trivial trivial
  · -- the end of the source
    show OKE e _ (closeBlocksC cls pts li 0 s)
    have hcb := closeBlocksG_oke lsp hpts hC [] ob [] s (by simp [hop]) hri.source
      ⟨hst.nodes, hst.keys, hst.ls.kids, hst.ls.plt, hst.tree⟩
      (fun b hb => hst.blocks b (by simpa [hop] using hb)) (hop ▸ hst.leafy)
      (fun ⟨b, hb, hs⟩ => hst.tl ⟨b, by simpa [hop] using hb, hs⟩) (by simp)
    have e1 : ((([] : List Block).length : Int) + (ob.length : Int) - 1) = li := by simp [hli]
    rw [e1] at hcb
    refine hcb.mono (fun _ s2 h2 => ?_)
    obtain ⟨h2o, hr2, _⟩ := h2
    have h2e := hr2.extw
    have hri2 : RI src s2.r c := by rw [hr2.r]; exact hri
    have hls2 : LStore s2 root := L.T.LStore.closeW hst.ls h2e hr2.tf hr2.inv.plt (by rw [h2o]; simp) hst.blocks
    refine ⟨_, (ri_advanceLine hri2).toRIa, hr2.inv.nodes, ⟨hr2.inv.keys.fence⟩, ?_, ?_,
      ⟨⟨hls2.kids.kids, hls2.kids.off, hls2.kids.pk⟩, hls2.plt, hls2.rootKind, hls2.rootLt, ?_, ?_⟩, ?_, ?_, ?_,
      ⟨hr2.inv.tree.pc, hr2.inv.tree.cp, hr2.inv.tree.nodup⟩, ?_, ?_⟩
    · intro b hb; simp only [h2o, List.append_nil] at hb; cases hb
    · simp only [h2o, List.append_nil]; intro b hb; cases hb
    · intro b hb; simp only [h2o, List.append_nil] at hb; cases hb
    · simp only [h2o, List.append_nil, List.map_nil]; exact List.pairwise_singleton _ _
    · simp only [h2o, List.append_nil]; trivial
    · simp only [h2o, List.append_nil, lastNode_nil]
      show (nd s2 root).kind ≠ .list
      rw [hls2.rootKind]; decide
    · intro ⟨b, hb, _⟩
      simp only [h2o, List.append_nil] at hb; cases hb
    · intro lb hlb _
      simp only [h2o, List.append_nil] at hlb; cases hlb
    · intro t ht
      have ht' : s2.pc.tmpPara = some t := ht
      show t < s2.nodes.length
      rcases hr2.tmp with h | h
      · rw [h] at ht'
        have := hst.tmplt t ht'
        have := h2e.len
        omega
      · rw [h] at ht'; cases ht'
  · -- `openBlocksT` below the last container, which goes on
    show OKE e _ (openBlocksC cls pts be.node blank s)
    have hlast : ob.getLast? = some be := by rw [hobe]; simp
    have hln : lastNode root ob = be.node := by rw [hobe, lastNode_concat]
    have hbek : (nd s be.node).kind ≠ .list := by
      have := hst.endOK
      rw [hop, hln] at this; exact this
    have hcl : Call s.pc.opened ob := ⟨⟨[], by rw [hop]; simp, fun _ b hb => by
      rw [hop, hlast] at hb; cases hb; exact hbec⟩⟩
    refine (openBlocksLC (e := e) (pts := pts) lsp hpts hC ob be.node blank s c hri hpad hst hcl hln.symm
      (fun hk => absurd hk hbek)).mono (fun res s3 h3 => ?_)
    obtain ⟨c3, new3, hria3, _, hw3, hleafy3, _, _, hend3, _, htl3, _, hlk3, _⟩ := h3
    have hallold : ∀ b ∈ ob, b.bp.isContainer = true := by
      intro b hb
      obtain ⟨hprec, _, _, _⟩ := leafy_split (hobe ▸ hop ▸ hst.leafy)
      rw [hobe] at hb
      rcases List.mem_append.1 hb with h | h
      · exact hprec b h
      · simp only [List.mem_singleton] at h; rw [h]; exact hbec
    obtain ⟨suf, hstack⟩ := hw3.stack
    have hsufe : suf = [] ∧ s3.pc.opened = ob ++ new3 := by
      rcases hw3.shape with e | ⟨_, e⟩
      · rw [hop] at e
        rw [e] at hstack
        have hl := congrArg List.length hstack
        simp only [List.length_append] at hl
        exact ⟨List.length_eq_zero_iff.1 (by omega), e⟩
      · rw [hop] at e
        rw [e] at hstack
        have hl := congrArg List.length hstack
        simp only [List.length_append, List.length_dropLast] at hl
        have hol : 1 ≤ ob.length := by rw [hobe]; simp
        omega
    refine ⟨c3, hria3, hw3.nodes, hw3.keys, hw3.blocks, ?_, hw3.ls, ?_, ?_, htl3, hw3.tree, ?_,
      fun t ht => Nat.lt_of_lt_of_le (hw3.tmplt t ht) hw3.ext.len⟩
    · rw [hsufe.2]; exact leafy_append hallold hleafy3
    · rw [hsufe.2]; exact hw3.chain
    · rw [hsufe.2]; exact hend3
    · intro lb hlb hleaf
      rw [hsufe.2] at hlb
      cases hn : new3.getLast? with
      | none =>
        have : new3 = [] := List.getLast?_eq_none_iff.1 hn
        rw [this, List.append_nil] at hlb
        have := hallold lb (List.mem_of_getLast? hlb)
        rw [hleaf] at this; cases this
      | some y =>
        rw [List.getLast?_append, hn] at hlb
        cases hlb
        exact ⟨_, hlk3 lb hn hleaf⟩
  · -- the fall-through
    show OKE e _ (lineFTC cls pts parent ob li i blank bl' s)
    rw [lineFTC_eq cls pts hroot li hob hi blank bl']
    exact lineTailL lsp hpts hC pre be rest ob li i hob hli hi (lastNode root pre) blank bl' s c hop hri hpad hst rfl hmode

omit hC in
theorem lineLoopL {root : Nat} (parent : Nat) (hroot : parent = root) (ob : List Block) (li : Int)
    (hli : li = (ob.length : Int) - 1) :
    ∀ (rest pre : List Block) (i : Int) (bl : List LineStat) (s : St) (c : RCur), ob = pre ++ rest → i = (pre.length : Int) →
      s.pc.opened = ob → RI src s.r c → PadOK c → StableG src root s →
      (∀ Lb, pre.getLast? = some Lb → Lb.bp = .list → ListHint src s c Lb.node) →
      OKE e (LLPostG src root) (lineLoopT pts parent ob li rest i bl s) := by
  intro rest pre i bl s c
  rw [lineLoopT_eqC]
  exact lineLoopLC lsp hpts (closeLike_bpClose src) parent hroot ob li hli rest pre i bl s c

/-- the outer loops: `blocksLoopC_rule` at the total judgement, with `StableG` at every line start and line end -/
theorem blocksLoopL {root : Nat} (parent : Nat) (hroot : parent = root) :
    ∀ (fuel : Nat) (bl : List LineStat) (s : St) (c : RCur), RI src s.r c → PadOK c → StableG src root s →
      s.pc.opened = [] → OKE e (fun _ s' => StableG src root s') (blocksLoopC cls pts parent fuel bl s) := by
  intro fuel bl s c hri hpad hst hemp
  refine blocksLoopC_rule (pts1 := pts) (pts2 := pts) (ST := StableG src root) (K := fun _ s => StableG src root s)
    (Dy := StableG src root) (De := fun _ => True) parent (loopCalc_oke e) (fun r h => h.congr_r r)
    (fun h _ => h.congr_r _) ?_ ?_ ?_ (fun _ _ h _ => h) (fun _ h _ => h) fuel bl s c hri hpad hst hemp hst
  · intro s c x r1 hst hri hpad hx
    rcases skipBlankLines_ri (src := src) (loopFuel s.r.source) 0 s.r c hri hpad with ⟨x', r', c', e', h1, h2⟩ | e'
    · rw [hx] at e'; cases e'; exact ⟨c', h1, h2, hst.congr_r _⟩
    · rw [hx] at e'; cases e'
  · intro bl s c hri hpad hst _
    exact (lineLoopLC lsp hpts hC parent hroot s.pc.opened ((s.pc.opened.length : Int) - 1) rfl s.pc.opened [] 0 bl s c
      (by simp) (by simp) rfl hri hpad hst (fun Lb h => by simp at h)).mono
      (fun _ s' ⟨c1, hria1, hst1⟩ => ⟨hst1, fun _ => trivial, c1, hria1, hst1⟩)
  · intro blank s c hri hpad hst hemp _
    have hcl : Call s.pc.opened [] := ⟨⟨s.pc.opened, by simp, fun h b hb => by rw [hemp] at hb; cases hb⟩⟩
    have hkroot : (nd s parent).kind ≠ .list := by rw [hroot, hst.ls.rootKind]; decide
    exact (openBlocksLC lsp hpts hC [] parent blank s c hri hpad hst hcl (by rw [hroot]; rfl) (fun hk => absurd hk hkroot)).mono
      (fun res s2 h2 => by
        obtain ⟨c2, hria2, hst2⟩ := OBPostG.stable_top hemp h2
        exact ⟨hst2, fun _ => trivial, c2, hria2, hst2⟩)

theorem runG : (∃ s, runC cls pts src = .ok s ∧ NodesOK src s ∧ KidsOK s) ∨ runC cls pts src = .error .loop ∨ runC cls pts src = .error e := by
  unfold runC parseBlocksC
  have hinit : StableG src 0 { (initSt src) with pc := { (initSt src).pc with opened := [] } } := by
    have hnd0 : ∀ i, nd ({ (initSt src) with pc := { (initSt src).pc with opened := [] } } : St) i =
        if i = 0 then { kind := .document } else default := by
      intro i
      cases i with
      | zero => rfl
      | succ n => rfl
    refine ⟨?_, ⟨?_⟩, ?_, ?_, ⟨⟨?_, ?_, ?_⟩, ?_, ?_, ?_, ?_, ?_⟩, ?_, ?_, (fun ⟨b, hb, _⟩ => by simp at hb), ?tree,
      (fun lb hlb _ => by simp at hlb), (fun t h => by simp [initSt] at h)⟩
    case tree =>
      refine ⟨fun i p hp => ?_, fun p i hi => ?_, fun p => ?_⟩
      · rw [hnd0] at hp; split at hp <;> cases hp
      · rw [hnd0] at hi; split at hi <;> cases hi
      · rw [hnd0]; split <;> exact List.nodup_nil
    · intro n hn
      simp only [initSt, List.mem_singleton] at hn
      subst hn
      exact ⟨by intro t ht; simp at ht, fun _ => rfl⟩
    · intro f h; simp [initSt] at h
    · intro b hb; simp at hb
    · intro b hb; simp at hb
    · intro i lc hk; rw [hnd0] at hk; split at hk <;> cases hk
    · intro i hk; rw [hnd0] at hk; split at hk <;> cases hk
    · intro i p hp; rw [hnd0] at hp; split at hp <;> cases hp
    · intro i p hp; rw [hnd0] at hp; split at hp <;> cases hp
    · rw [hnd0]; rfl
    · simp [initSt]
    · intro b hb; simp at hb
    · simp
    · trivial
    · show (nd _ (lastNode 0 [])).kind ≠ .list
      rw [lastNode_nil, hnd0]; decide
  have := blocksLoopL lsp hpts hC 0 rfl (linesFuel src) [] { (initSt src) with pc := { (initSt src).pc with opened := [] } }
    RCur.init (ri_init src) (fun h => absurd rfl h) hinit rfl
  simp only [bind, StateT.bind, modPc, source, Except.bind, pure, StateT.pure, Except.pure]
  rcases this with (⟨_, s', e1, hs'⟩ | e1) | e1
  · left
    refine ⟨s', ?_, hs'.nodes, hs'.ls.kids⟩
    have e' : blocksLoopC cls pts 0 (linesFuel (initSt src).r.source) []
        { r := (initSt src).r, nodes := (initSt src).nodes, pc := { (initSt src).pc with opened := [] } } = .ok ((), s') := e1
    rw [e']; rfl
  · right; left
    have e' : blocksLoopC cls pts 0 (linesFuel (initSt src).r.source) []
        { r := (initSt src).r, nodes := (initSt src).nodes, pc := { (initSt src).pc with opened := [] } } = .error .loop := e1
    rw [e']; rfl
  · right; right
    have e' : blocksLoopC cls pts 0 (linesFuel (initSt src).r.source) []
        { r := (initSt src).r, nodes := (initSt src).nodes, pc := { (initSt src).pc with opened := [] } } = .error e := e1
    rw [e']; rfl


end tp

end GM.Blocks.L.G.X
