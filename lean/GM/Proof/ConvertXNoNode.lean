/-
  GM.Proof.ConvertXNoNode — Trees without the representation of a member's node — `noS` (no emphasis level −3 / −4: Strikethrough), `noT` (−1 / −2: TaskCheckBox): kept by the
  escaped-pipe walk, decoded alike with and without the member, what a fixed point of the relabelling `g0` / `g1` is; and a tree decoded without the member
  has no such node. (The conservativity theorems built from these: GM.Proof.ConvertLConservative.)
-/
import GM.Proof.ConvertXLevels
import GM.Proof.ConvertXRel

section ConvertXStrikeDoc
namespace GM.Proof.ConvertXStrikeDoc
open GM GM.Text GM.Inl GM.Convert GM.ConvertX GM.Proof.ConvertX GM.Proof.ConvertXRelv GM.Proof.ConvertXLevels
open GM.Proof.ConvertL GM.Proof.ConvertLDoc

mutual
/-- no emphasis node, at any depth, has the level −3 / −4 of a Strikethrough representation -/
def noS : Inl.Node → Bool
  | .emphasis lv ks => !(lv == -3 || lv == -4) && noSL ks
  | .codeSpan ks => noSL ks
  | .link _ _ _ ks => noSL ks
  | _ => true
def noSL : List Inl.Node → Bool
  | [] => true
  | n :: rest => noS n && noSL rest
end

mutual
theorem noS_eq : ∀ n : Inl.Node, noS n = lvAll (fun lv => !(lv == -3 || lv == -4)) n
  | .emphasis lv ks => by simp only [noS, lvAll, noSL_eq ks]
  | .codeSpan ks => by simp only [noS, lvAll, noSL_eq ks]
  | .link _ _ _ ks => by simp only [noS, lvAll, noSL_eq ks]
  | .text .. => rfl
  | .autoLink .. => rfl
  | .rawHTML .. => rfl
  | .delim .. => rfl
  | .label .. => rfl
theorem noSL_eq : ∀ l : List Inl.Node, noSL l = lvAllL (fun lv => !(lv == -3 || lv == -4)) l
  | [] => rfl
  | n :: rest => by simp only [noSL, lvAllL, noS_eq n, noSL_eq rest]
end

theorem noSL_allText : ∀ (ks : List Inl.Node), ks.all GM.Proof.Inlines.isText = true → noSL ks = true := by
  intro ks h
  rw [noSL_eq]; exact lvAllL_allText ks h

theorem escNode_noS (ps : List Int) : ∀ n : Inl.Node, noS n = true → noS (GM.TableX.escNode ps n) = true := by
  intro n h
  rw [noS_eq] at h ⊢
  exact escNode_lvAll ps n h

theorem escSpanKids_noS (ps : List Int) : ∀ ns : List Inl.Node, noSL ns = true → noSL (GM.TableX.escSpanKids ps ns) = true := by
  intro ns h
  rw [noSL_eq] at h ⊢
  exact escSpanKids_lvAll ps ns h

theorem noS_level (lv : Int) (h : (!(lv == -3 || lv == -4)) = true) : lv ≠ -3 ∧ lv ≠ -4 := by
  simpa using h

theorem inlineTreeX_sflag (c1 c2 : XCfg) (ht : c1.tasklist = c2.tasklist) (src : Bytes) : ∀ n : Inl.Node, noS n = true →
    inlineTreeX c1 src n = inlineTreeX c2 src n := by
  intro n h
  rw [noS_eq] at h
  rw [← inlineTreeL_off, ← inlineTreeL_off]
  exact inlineTreeL_lvAll { base := c1, linkify := false } { base := c2, linkify := false } rfl (.inr noS_level) (.inl ht) src n h

mutual
theorem fix_lvAll {g : Int → Int} {p : Int → Bool} (hg : ∀ lv, g lv = lv → p lv = true) :
    ∀ n : Inl.Node, relv g n = n → lvAll p n = true
  | .emphasis lv ks, h => by
    simp only [relv_emphasis, Node.emphasis.injEq] at h
    simp only [lvAll, Bool.and_eq_true]
    exact ⟨hg lv h.1, fixL_lvAll hg ks h.2⟩
  | .codeSpan ks, h => by
    simp only [relv_codeSpan, Node.codeSpan.injEq] at h
    simp only [lvAll]; exact fixL_lvAll hg ks h
  | .link im d t ks, h => by
    simp only [relv_link, Node.link.injEq, true_and] at h
    simp only [lvAll]; exact fixL_lvAll hg ks h
  | .text .., _ => rfl
  | .autoLink .., _ => rfl
  | .rawHTML .., _ => rfl
  | .delim .., _ => rfl
  | .label .., _ => rfl
theorem fixL_lvAll {g : Int → Int} {p : Int → Bool} (hg : ∀ lv, g lv = lv → p lv = true) :
    ∀ l : List Inl.Node, relvL g l = l → lvAllL p l = true
  | [], _ => rfl
  | n :: rest, h => by
    simp only [relvL_cons, List.cons.injEq] at h
    simp only [lvAllL, Bool.and_eq_true]
    exact ⟨fix_lvAll hg n h.1, fixL_lvAll hg rest h.2⟩
end

theorem fixL_noSL (l : List Inl.Node) (h : relvL g0 l = l) : noSL l = true := by
  rw [noSL_eq]
  refine fixL_lvAll (fun lv e => ?_) l h
  unfold g0 at e
  split at e
  · rename_i hc
    simp only [Bool.or_eq_true, beq_iff_eq] at hc
    omega
  · rename_i hc; simpa using hc

def notStrike : Kind → Bool
  | .strikethrough => false
  | _ => true

theorem handled_strike (e : Exts) (x y : Bool) {k : Kind} (h : notStrike k = true) :
    handled { e with strike := x } k = handled { e with strike := y } k := by
  cases k <;> simp_all [handled, notStrike]

theorem memberKind_notStrike {t tb : Bool} (k : Kind) (h : memberKind false t tb k = true) : notStrike k = true := by
  cases k <;> first | rfl | exact h

theorem inlineTreeX_notStrike (c : XCfg) (ht : c.strikethrough = false) (src : Bytes) : ∀ (n : Inl.Node) (t : GM.Node),
    inlineTreeX c src n = .ok t → allKinds notStrike t = true := by
  intro n t h
  rw [← inlineTreeL_off] at h
  have := inlineTreeL_kinds _ src n t h
  rw [show ({ base := c, linkify := false } : GCfg).base.strikethrough = false from ht] at this
  exact allKinds_mono memberKind_notStrike t this

theorem docTreesX_notStrike (c : XCfg) (ht : c.strikethrough = false) (g : Bool) (env : Env) (src : Bytes) (escs : List Int) :
    ∀ (pi first : Bool) (ts : List GM.Blocks.Tree) (xs : List GM.Node),
    docTreesX c g env src escs pi first ts = .ok xs → allKindsL notStrike xs = true := by
  intro pi first ts xs h
  rw [← docTreesL_off] at h
  have := docTreesL_kinds _ g env src escs pi first ts xs h
  rw [show ({ base := c, linkify := false } : GCfg).base.strikethrough = false from ht] at this
  exact allKindsL_mono memberKind_notStrike xs this

end GM.Proof.ConvertXStrikeDoc
end ConvertXStrikeDoc

section ConvertXTaskDoc
namespace GM.Proof.ConvertXTaskDoc
open GM GM.Text GM.Spec GM.Inl GM.Convert GM.ConvertX GM.Proof.ConvertX GM.Proof.ConvertXRelv GM.Proof.ConvertXLevels
open GM.Proof.ConvertL GM.Proof.ConvertLDoc
open GM.Proof.ConvertXStrikeDoc (fixL_lvAll)

mutual
/-- no emphasis node, at any depth, has the level −1 / −2 of a TaskCheckBox representation -/
def noT : Inl.Node → Bool
  | .emphasis lv ks => !(lv == -1 || lv == -2) && noTL ks
  | .codeSpan ks => noTL ks
  | .link _ _ _ ks => noTL ks
  | _ => true
def noTL : List Inl.Node → Bool
  | [] => true
  | n :: rest => noT n && noTL rest
end

mutual
theorem noT_eq : ∀ n : Inl.Node, noT n = lvAll (fun lv => !(lv == -1 || lv == -2)) n
  | .emphasis lv ks => by simp only [noT, lvAll, noTL_eq ks]
  | .codeSpan ks => by simp only [noT, lvAll, noTL_eq ks]
  | .link _ _ _ ks => by simp only [noT, lvAll, noTL_eq ks]
  | .text .. => rfl
  | .autoLink .. => rfl
  | .rawHTML .. => rfl
  | .delim .. => rfl
  | .label .. => rfl
theorem noTL_eq : ∀ l : List Inl.Node, noTL l = lvAllL (fun lv => !(lv == -1 || lv == -2)) l
  | [] => rfl
  | n :: rest => by simp only [noTL, lvAllL, noT_eq n, noTL_eq rest]
end

theorem noTL_allText : ∀ (ks : List Inl.Node), ks.all GM.Proof.Inlines.isText = true → noTL ks = true := by
  intro ks h
  rw [noTL_eq]; exact lvAllL_allText ks h

theorem escNode_noT (ps : List Int) : ∀ n : Inl.Node, noT n = true → noT (GM.TableX.escNode ps n) = true := by
  intro n h
  rw [noT_eq] at h ⊢
  exact escNode_lvAll ps n h

theorem escSpanKids_noT (ps : List Int) : ∀ ns : List Inl.Node, noTL ns = true → noTL (GM.TableX.escSpanKids ps ns) = true := by
  intro ns h
  rw [noTL_eq] at h ⊢
  exact escSpanKids_lvAll ps ns h

theorem noT_level (lv : Int) (h : (!(lv == -1 || lv == -2)) = true) : lv ≠ -1 ∧ lv ≠ -2 := by
  simpa using h

theorem inlineTreeX_tflag (c1 c2 : XCfg) (ht : c1.strikethrough = c2.strikethrough) (src : Bytes) : ∀ n : Inl.Node, noT n = true →
    inlineTreeX c1 src n = inlineTreeX c2 src n := by
  intro n h
  rw [noT_eq] at h
  rw [← inlineTreeL_off, ← inlineTreeL_off]
  exact inlineTreeL_lvAll { base := c1, linkify := false } { base := c2, linkify := false } rfl (.inl ht) (.inr noT_level) src n h

theorem fixL_noTL (l : List Inl.Node) (h : relvL g1 l = l) : noTL l = true := by
  rw [noTL_eq]
  refine fixL_lvAll (fun lv e => ?_) l h
  unfold g1 at e
  split at e
  · rename_i hc
    simp only [Bool.or_eq_true, beq_iff_eq] at hc
    omega
  · rename_i hc; simpa using hc

end GM.Proof.ConvertXTaskDoc
end ConvertXTaskDoc
