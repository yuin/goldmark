/-
  GM.Proof.ConvertXTotal — the totality of the inline loop over the member sets' trigger tables: the loop over an open table
  is total given a contract per table entry (GM.Proof.InlinesLoopTotal); here the contracts of the members' parsers, the link
  parser over both delimiter processors through the relabelling of GM.Proof.ConvertXRelv.
-/
import GM.Proof.ConvertXRelv
import GM.Proof.ConvertX

namespace GM.Proof.ConvertXTotal
open GM GM.Text GM.Spec GM.Inl GM.Proof.Reader GM.Proof.InlinesReader GM.Proof.Inlines GM.Proof.InlinesTotal
open GM.Proof.InlinesLink GM.Proof.ConvertXRelv GM.Proof.ExtShape

variable {src : Bytes} {segs : List Segment}

theorem lineLoopX_total (X : Ctx) (F : SegFacts src segs) (Z : ∀ s ∈ segs, s.padding = 0) (env : Env)
    (tbl : UInt8 → List XIp)
    (hC32 : ∀ ip ∈ tbl 32, ∀ b, PContract X src segs (· == b) (ip.parse env))
    (hC : ∀ b, ∀ ip ∈ tbl b, PContract X src segs (· == b) (ip.parse env)) :
    ∀ (fuel : Nat) (esc : Bool) (st : St) (c : BCur), LInv X src segs st c →
    (BCur.remaining segs c).toNat < fuel →
    ∃ st' c', lineLoopX env tbl fuel esc st = .ok st' ∧ LInv X src segs st' c' := by
  simpa only [linvLo_zero] using lineLoopX_total_lo X (Int.le_refl 0) F Z env tbl
    (fun ip h b => pcontractLo_zero.mpr (hC32 ip h b)) (fun b ip h => pcontractLo_zero.mpr (hC b ip h))

/-- the normalising relabelling: the representation of a two-tilde Strikethrough and level 2 go to 2, everything else to 1 -/
def gN (lv : Int) : Int := if lv == 2 || lv == -4 then 2 else 1

theorem gN_ok (sk : Bool) : GOK sk gN := ⟨by decide, by decide, fun _ => by decide, fun _ => by decide⟩

theorem gN_range (lv : Int) : gN lv = 1 ∨ gN lv = 2 := by
  unfold gN; split <;> simp

mutual
theorem segsOf_relv (g : Int → Int) : ∀ n : Inl.Node, segsOf (relv g n) = segsOf n
  | .text .. => rfl
  | .codeSpan ks => by simp [segsOf, segsOfL_relv g ks]
  | .emphasis lv ks => by simp [segsOf, segsOfL_relv g ks]
  | .link im d t ks => by simp [segsOf, segsOfL_relv g ks]
  | .autoLink .. => rfl
  | .rawHTML .. => rfl
  | .delim .. => rfl
  | .label .. => rfl
theorem segsOfL_relv (g : Int → Int) : ∀ l : List Inl.Node, segsOfL (relvL g l) = segsOfL l
  | [] => rfl
  | n :: rest => by simp [segsOfL, segsOf_relv g n, segsOfL_relv g rest]
end

theorem all_isText_relv (g : Int → Int) : ∀ l : List Inl.Node, (relvL g l).all isText = l.all isText
  | [] => rfl
  | n :: rest => by cases n <;> simp [isText, all_isText_relv g rest]

mutual
theorem wf_relv_gN (lab : Bool) : ∀ n : Inl.Node, wf lab n = true → wf lab (relv gN n) = true
  | .text .., _ => rfl
  | .codeSpan ks, h => by simp only [wf] at h; simp only [relv_codeSpan, wf, all_isText_relv, h]
  | .emphasis lv ks, h => by
    simp only [wf, Bool.and_eq_true] at h
    simp only [relv_emphasis, wf, Bool.and_eq_true, Bool.or_eq_true, beq_iff_eq]
    exact ⟨gN_range lv, wfL_relv_gN lab ks h.2⟩
  | .link im d t ks, h => by
    simp only [wf, Bool.and_eq_true] at h
    simp only [relv_link, wf, Bool.and_eq_true, containsLinkL_relv]
    exact ⟨wfL_relv_gN lab ks h.1, h.2⟩
  | .autoLink .., _ => rfl
  | .rawHTML .., _ => rfl
  | .delim .., h => by simp [wf] at h
  | .label .., h => by simpa [wf] using h
theorem wfL_relv_gN (lab : Bool) : ∀ l : List Inl.Node, wfL lab l = true → wfL lab (relvL gN l) = true
  | [], _ => rfl
  | n :: rest, h => by
    simp only [wfL, Bool.and_eq_true] at h
    simp only [relvL_cons, wfL, Bool.and_eq_true]
    exact ⟨wf_relv_gN lab n h.1, wfL_relv_gN lab rest h.2⟩
end

/-- `X`'s invariant read off the NORMALISED children: the invariant the loop of a member set keeps -/
def Ctx.normed (X : Ctx) : Ctx where
  LK := fun k n b => X.LK (relvL gN k) n b
  appendText := fun s so ha ra h => by simpa using X.appendText s so ha ra h
  swapText := fun s t so ha ra h => by
    have := X.swapText s t so ha ra (by simpa using h)
    simpa using this
  appendPlain := fun nd h hw => by
    have := X.appendPlain (relv gN nd) h (wf_relv_gN false nd hw)
    simpa using this
  appendDelim := fun d h h1 h2 => by simpa using X.appendDelim d h h1 h2
  bumpId := fun h => X.bumpId h

theorem contract_at {X : Ctx} {trig : UInt8 → Bool} {p : St → PRes} (h : PContract X src segs trig p) {b : UInt8}
    (hb : trig b = true) : PContract X src segs (· == b) p := by
  intro st c b' l hI hv ht
  have : b' = b := by simpa using ht
  subst this
  exact h st c b' l hI hv hb

/-- the link parser over a ProcessDelimiters that is the default one up to the normalisation keeps the loop's contract for
    the normalised link invariant: through GM.Proof.InlinesLink.link_contract on the normalised state -/
theorem linkG_contract (W : WFSegs src segs) (Z : ∀ s ∈ segs, s.padding = 0) (env : Env) {pd : PD} (hpd : PDSim gN pd) :
    PContract (Ctx.normed (linkCtx (BCur.segOf segs 0).start)) src segs (trigOf .link) (parseLinkG pd env) := by
  intro st c b l hI hv ht
  have hI' : LInv (linkCtx (BCur.segOf segs 0).start) src segs (relvSt gN st) c :=
    ⟨hI.rs, by simpa [segsOfL_relv] using hI.ch, hI.lk⟩
  obtain ⟨n, st2, c', e1, e2, e3, e4, e5⟩ := link_contract W Z env (relvSt gN st) c b l hI' hv ht
  have hs := parseLinkG_relv hpd env st
  simp only [Ip.parse] at e1
  rw [e1] at hs
  cases hp : parseLinkG pd env st with
  | error e => rw [hp] at hs; cases hs
  | ok r =>
    obtain ⟨n', st'⟩ := r
    rw [hp] at hs
    simp only [Except.map, relvPR, Except.ok.injEq, Prod.mk.injEq] at hs
    obtain ⟨hn, hst⟩ := hs
    subst hst
    refine ⟨n', st', c', rfl, e2, e3, e4, ?_⟩
    cases n' with
    | none =>
      subst hn
      exact ⟨by simpa [segsOfL_relv] using e5.1, e5.2⟩
    | some nd =>
      subst hn
      simp only [Option.map_some] at e5
      refine ⟨e5.1, ?_, ?_⟩
      · have := e5.2.1
        rw [show (relvSt gN st').kids ++ [relv gN nd] = relvL gN (st'.kids ++ [nd]) by simp, segsOfL_relv] at this
        exact this
      · have := e5.2.2
        simpa [Ctx.normed] using this

/-- a parser of a known shape (GM.Proof.ExtShape) keeps the loop's contract if it does where it accepts: skipping and
    declining leave what the loop handed over but for the reader's line cache, and where the loop consults a parser there is
    a non-empty line to peek at -/
theorem shape_contract {p : St → PRes} {skip : St → Bool} {Acc : Bytes → Segment → BlockReader → (St → PRes) → Prop}
    (X : Ctx) (W : WFSegs src segs) (trig : UInt8 → Bool) (H : ∀ rd0, Shape p skip Acc rd0)
    (ha : ∀ {st : St} {c : BCur} {b : UInt8} {l : Bytes} {f : St → PRes}, LInv X src segs st c →
      BCur.view src segs c = some (b :: l) → Acc (b :: l) st.rd.pos st.rd f →
      ∃ n st' c', f st = .ok (n, st') ∧ RS src segs st'.rd c' ∧ c.p ≤ c'.p ∧ c.ln ≤ c'.ln ∧
        (match n with
          | none => chain 0 c.p (segsOfL st'.kids) ∧ X.LK st'.kids st'.nextId st'.bottoms
          | some nd => BCur.remaining segs c' + 1 ≤ BCur.remaining segs c ∧
              chain 0 c'.p (segsOfL (st'.kids ++ [nd])) ∧ X.LK (st'.kids ++ [nd]) st'.nextId st'.bottoms)) :
    PContract X src segs trig p := by
  intro st c b l hI hv _
  obtain ⟨f, hf, hc⟩ := H st.rd
  rw [hf st rfl]
  split
  · exact ⟨none, st, c, rfl, hI.rs, Int.le_refl _, Int.le_refl _, hI.ch, hI.lk⟩
  rw [(peekLine_facts (segFacts W) hI.rs).1, hv] at hc
  rcases hc with ⟨e, rfl, hno⟩ | ⟨line, seg, rd, hp, rfl | h⟩
  · cases hno _ _ _ rfl
  · cases hp; exact ⟨none, _, c, rfl, hI.rs, Int.le_refl _, Int.le_refl _, hI.ch, hI.lk⟩
  · cases hp; exact ha hI hv h

/-- the strikethrough parser keeps the loop's contract (as the emphasis parser: it only reads the line and pushes a
    delimiter), for every context invariant -/
theorem strike_contract (X : Ctx) (W : WFSegs src segs) (Z : ∀ s ∈ segs, s.padding = 0) (env : Env) (trig : UInt8 → Bool) :
    PContract X src segs trig (parseStrike env) := by
  refine shape_contract X W trig (parseStrike_shape env) fun {st c b l _} hI hv ⟨dd, d1, d2, d3, hf⟩ => ?_
  subst hf
  have F := segFacts W
  have hpos := (peekLine_facts F hI.rs).2
  obtain ⟨v1, v2, v3, v4, v5, v6, v7, v8⟩ := view_some F hI.rs.abs.wf hI.rs.pad hv
  simp only [List.length_cons] at v6 v7 d3
  obtain ⟨r', c', e1, e2, e3, e4, e5, _⟩ := advance_ok F Z hI.rs (n := dd.origLength) (by omega) (by omega)
  simp only [e1, bind, Except.bind, pure, Except.pure]
  refine ⟨_, _, c', rfl, e2, by omega, e4, by omega, ?_, ?_⟩
  · rw [segsOfL_append]
    refine chain_append hI.ch ?_
    simp only [segsOfL, segsOf, hpos, Segment.withStop, List.append_nil]
    exact chain_single (by simp only; omega) (by simp only; omega) (by simp only; omega)
  · exact X.appendDelim _ hI.lk (by simpa using (by omega : 1 ≤ dd.length)) (by simp only [Segment.withStop]; omega)

/-- the task-checkbox parser keeps the loop's contract for a NORMALISED context invariant (the checkbox it appends is a leaf
    whose normal form is a well-shaped subtree) -/
theorem task_contract (X : Ctx) (W : WFSegs src segs) (Z : ∀ s ∈ segs, s.padding = 0) (inItem : Bool) (env : Env)
    (trig : UInt8 → Bool) : PContract (Ctx.normed X) src segs trig (parseTask inItem env) := by
  refine shape_contract _ W trig (parseTask_shape inItem env) fun {st c b l _} hI hv ⟨n, chk, n3, nl, hf⟩ => ?_
  subst hf
  have F := segFacts W
  obtain ⟨v1, v2, v3, v4, v5, v6, v7, v8⟩ := view_some F hI.rs.abs.wf hI.rs.pad hv
  simp only [List.length_cons] at v6 v7 nl
  obtain ⟨r', c', e1, e2, e3, e4, e5, _⟩ := advance_ok F Z hI.rs (n := (n : Int)) (by omega) (by omega)
  simp only [e1, bind, Except.bind, pure, Except.pure]
  have hp : c.p ≤ c'.p := by omega
  refine ⟨_, _, c', rfl, e2, hp, e4, by omega, ?_, ?_⟩
  · rw [segsOfL_append]
    simp only [taskNode, segsOfL, segsOf, List.append_nil]
    exact chain_mono (Int.le_refl _) hp hI.ch
  · have := X.appendPlain (.emphasis 1 []) hI.lk (by simp [wf, wfL])
    simp only [Ctx.normed, relvL_append, relvL_cons, relvL_nil, taskNode, relv_emphasis]
    rw [show gN (if chk = true then -2 else -1) = 1 by cases chk <;> decide]
    exact this

open GM.ConvertX GM.Convert

theorem pdX_sim (c : XCfg) : PDSim gN (pdX c) := by
  unfold pdX
  split
  · exact fun b k => processDelimitersG_relv (gN_ok true) b k
  · have := fun b k => processDelimitersG_relv (gN_ok false) b k
    rw [processDelimitersG_false] at this
    exact this

theorem pdX_noLoop (c : XCfg) (b : Bottom) (k : List Inl.Node) : pdX c b k ≠ .error .loop := by
  intro h
  have hs := pdX_sim c b k
  rw [h] at hs
  rcases GM.Proof.Inlines.processDelimiters_total b (relvL gN k) with ⟨r, hr⟩ | hr
  · rw [hr] at hs; cases hs
  · rw [hr] at hs; cases hs

theorem linkX_contract (c : XCfg) (W : WFSegs src segs) (Z : ∀ s ∈ segs, s.padding = 0) (env : Env) :
    PContract (Ctx.normed (linkCtx (BCur.segOf segs 0).start)) src segs (trigOf .link) ((linkX c).parse env) := by
  unfold linkX
  split
  · exact linkG_contract W Z env (pdX_sim c)
  · have h : PDSim gN processDelimiters := by
      have := fun b k => processDelimitersG_relv (gN_ok false) b k
      rw [processDelimitersG_false] at this
      exact this
    have := linkG_contract W Z env h
    rw [parseLinkG_default] at this
    exact this

theorem builtin_contract (X0 : Ctx) (env : Env) (hl : PContract (Ctx.normed X0) src segs (trigOf .link) (Ip.link.parse env))
    (W : WFSegs src segs) (Z : ∀ s ∈ segs, s.padding = 0) (ip : Ip) :
    PContract (Ctx.normed X0) src segs (trigOf ip) (ip.parse env) := by
  cases ip with
  | codeSpan => exact codeSpan_contract _ W Z env
  | link => exact hl
  | autoLink => exact autoLink_contract _ W Z env
  | rawHTML => exact rawHTML_contract _ W Z env
  | emphasis => exact emphasis_contract _ W Z env

theorem inlineTbl_32 (c : XCfg) (inItem : Bool) : inlineTbl c inItem 32 = [] := by
  simp [inlineTbl, baseTbl, parsersFor]

theorem inlineTbl_contracts (c : XCfg) (inItem : Bool) (W : WFSegs src segs) (Z : ∀ s ∈ segs, s.padding = 0) (env : Env) :
    ∀ b, ∀ ip ∈ inlineTbl c inItem b,
      PContract (Ctx.normed (linkCtx (BCur.segOf segs 0).start)) src segs (· == b) (ip.parse env) := by
  intro b ip hip
  have hlk := linkX_contract c W Z env
  unfold inlineTbl at hip
  split at hip
  · split at hip
    · simp only [List.mem_singleton] at hip; subst hip
      exact strike_contract _ W Z env _
    · cases hip
  · split at hip
    · rename_i h91
      have hb : b = 91 := by simpa using h91
      subst hb
      simp only [List.mem_append, List.mem_singleton] at hip
      rcases hip with hip | hip
      · split at hip
        · simp only [List.mem_singleton] at hip; subst hip
          exact task_contract _ W Z inItem env _
        · cases hip
      · subst hip; exact contract_at hlk (by decide)
    · split at hip
      · rename_i hb
        simp only [List.mem_singleton] at hip; subst hip
        refine contract_at hlk ?_
        simp only [Bool.or_eq_true, beq_iff_eq] at hb
        rcases hb with rfl | rfl <;> decide
      · simp only [baseTbl, List.mem_map] at hip
        obtain ⟨ip0, hm, rfl⟩ := hip
        have hl0 : PContract (Ctx.normed (linkCtx (BCur.segOf segs 0).start)) src segs (trigOf .link) (Ip.link.parse env) := by
          have h : PDSim gN processDelimiters := by
            have := fun b k => processDelimitersG_relv (gN_ok false) b k
            rw [processDelimitersG_false] at this
            exact this
          have := linkG_contract W Z env h
          rw [parseLinkG_default] at this
          exact this
        exact contract_at (builtin_contract _ env hl0 W Z ip0) (parsersFor_trig hm)

theorem block_start (W : WFSegs src segs) (Z : ∀ s ∈ segs, s.padding = 0) :
    ∃ r0, BlockReader.new src segs = .ok r0 ∧
      LInv (Ctx.normed (linkCtx (BCur.segOf segs 0).start)) src segs { rd := r0 } (BCur.init segs) ∧
      (BCur.remaining segs (BCur.init segs)).toNat < blockFuel src segs := by
  have F := segFacts W
  obtain ⟨r0, e0, a0⟩ := blockReader_init F
  have hz0 : (BCur.init segs).pad = 0 := segOf_pad F Z 0 (Int.le_refl _) F.kpos
  exact ⟨r0, e0,
    ⟨⟨a0, hz0⟩, by simp only [segsOfL, chain, BCur.init]; exact (F.rng 0 (Int.le_refl _) F.kpos).1, LK_base _⟩,
    blockFuel_gt W Z a0.wf hz0⟩

end GM.Proof.ConvertXTotal
