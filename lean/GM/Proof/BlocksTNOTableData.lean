/-
  GM.Proof.BlocksTNOTableData — the table paragraph transformer against the wide no-panic contract: the run-time check `tblLinesB`, `tableNodesOK'`, the checked twin `tableE e src` with `tableE_specX`, `transformPT_post`;
  and `TableData`, what a table-making call does to the DATA of the nodes from any store, which is what the line invariants need of it.
-/
import GM.Proof.BlocksTNOTableCall
import GM.Proof.BlocksTNPTable

section BlocksTNOTableSpec
/-
  The table paragraph transformer against the wide no-panic contract of GM.Proof.BlocksTNPX*, BlocksTNPTable*.

  * `L.G.X.TableNodesOK src` (the hypothesis of `transformPT_specX`, GM.Proof.BlocksTNPTable) is too strong: it speaks about lines with
    `start = stop` (the cut of the last kept line, `stop - 1`, then inverts the segment; GM.Proof.BlocksTNOPhaseXEnd).
  * Here: `tblLinesB` (the lines are valid AND non-empty), `tableNodesOK'` (then the records and the remaining lines are
    `NodeOK` / `LinesOK`, from GM.Proof.BlocksTNOTableFn: cell segments and escaped-pipe positions lie inside the row's
    line), the checked twin `tableE e src` of `transformPT src`, `tableE_specX : PTSpecX src e (tableE e src)`,
    `tableE_passes`.
  * `transformPT_post`: a normal end of `transformPT` is "nothing happened" or `TablePost` (GM.Proof.BlocksTNOTableCall).
-/

namespace GM.Blocks.TO
open GM GM.Text GM.Spec GM.Proof.Reader GM.TableX GM.Blocks.L.G.X GM.Blocks.T GM.Blocks.TR
open GM.Blocks.TO.Tab

/-- lines fit for the table transformer: in the domain of GM.Table and non-empty -/
def tblLinesB (src : Bytes) (ls : List Segment) : Bool := ls.all fun t => validB src t && decide (t.start < t.stop)

theorem tblLinesB_valid {src : Bytes} {ls : List Segment} (h : tblLinesB src ls = true) : ls.all (validB src) = true := by
  unfold tblLinesB at h
  rw [List.all_eq_true] at h ⊢
  intro t ht
  have := h t ht
  simp only [Bool.and_eq_true] at this
  exact this.1

theorem tblLinesB_mem {src : Bytes} {ls : List Segment} (h : tblLinesB src ls = true) {t : Segment} (ht : t ∈ ls) :
    0 ≤ t.start ∧ t.start < t.stop ∧ t.stop ≤ src.length ∧ 0 ≤ t.padding ∧ t.forceNewline = false := by
  unfold tblLinesB at h
  rw [List.all_eq_true] at h
  have := h t ht
  simp only [validB, Bool.and_eq_true, decide_eq_true_eq, Bool.not_eq_true'] at this
  obtain ⟨⟨⟨⟨⟨a, _⟩, c⟩, d⟩, e⟩, f⟩ := this
  exact ⟨a, f, c, d, e⟩

theorem ofSeg_toSeg {t : Segment} (h1 : 0 ≤ t.start) (h2 : 0 ≤ t.stop) (h3 : 0 ≤ t.padding) (h4 : t.forceNewline = false) :
    ofSeg (toSeg t) = t := by
  cases t with
  | mk a b c d =>
    simp only at h1 h2 h3 h4
    subst h4
    simp only [ofSeg, toSeg, Segment.mk.injEq, and_true]
    omega

theorem table_facts {src : Bytes} {ls : List Segment} (hv : tblLinesB src ls = true) {t : GM.Table.Table}
    (ht : (GM.Table.transform src (ls.map toSeg)).table = some t) :
    (∃ pre hdr dl tl, ls = pre ++ hdr :: dl :: tl ∧
      (GM.Table.transform src (ls.map toSeg)).para = GM.Table.trimLastNewline (pre.map toSeg)) ∧
    ∀ r ∈ t.header :: t.rows, ∃ l ∈ ls, ∀ c ∈ r, CellIn l.start.toNat l.stop.toNat c := by
  obtain ⟨pre, hdr, dl, tl, al, hsplit, _, hpara, hT⟩ := transform_spec src _ t ht
  obtain ⟨pre', rest', hls, hpre, hrest⟩ := List.map_eq_append_iff.1 hsplit
  cases rest' with
  | nil => simp at hrest
  | cons hdr' rest2 =>
    cases rest2 with
    | nil => simp at hrest
    | cons dl' tl' =>
      simp only [List.map_cons, List.cons.injEq] at hrest
      obtain ⟨h1, h2, h3⟩ := hrest
      refine ⟨⟨pre', hdr', dl', tl', hls, by rw [hpara, hpre]⟩, ?_⟩
      have hrow : ∀ (l : Segment) (b : Bool), l ∈ ls → ∀ c ∈ GM.Table.parseRow src (toSeg l) al b, CellIn l.start.toNat l.stop.toNat c := by
        intro l b hl c hc
        obtain ⟨a1, a2, _⟩ := tblLinesB_mem hv hl
        exact parseRow_in src (toSeg l) al b (by simp only [toSeg]; omega) c hc
      intro r hr
      rw [hT] at hr
      simp only [List.mem_cons, List.mem_map] at hr
      rcases hr with hr | ⟨l, hl, hr⟩
      · subst hr
        refine ⟨hdr', by rw [hls]; simp, ?_⟩
        rw [← h1]
        exact hrow hdr' true (by rw [hls]; simp)
      · subst hr
        rw [← h3] at hl
        obtain ⟨l', hl', rfl⟩ := List.mem_map.1 hl
        exact ⟨l', by rw [hls]; simp [hl'], hrow l' false (by rw [hls]; simp [hl'])⟩

theorem nodeOK_cell {src : Bytes} {c : GM.Table.Cell} {lo hi : Nat} (hc : CellIn lo hi c) (hh : hi ≤ src.length) :
    NodeOK src (cellNode src c) := by
  refine ⟨fun t ht => ?_, fun hn => ?_⟩
  · unfold cellNode at ht
    cases hs : c.seg with
    | none => rw [hs] at ht; cases ht
    | some sg =>
      rw [hs] at ht
      simp only [List.mem_singleton] at ht
      subst ht
      obtain ⟨a1, a2, a3, a4⟩ := hc.1 sg hs
      simp only [SegOK, ofSeg]
      omega
  · unfold cellNode at hn ⊢
    simp only [Option.isNone_iff_eq_none] at hn
    rw [hn]

/-- **`TableNodesOK` for lines that are valid AND non-empty** (`tblLinesB`) -/
theorem tableNodesOK' {src : Bytes} {ls : List Segment} (hv : tblLinesB src ls = true)
    {t : GM.Table.Table} (ht : (GM.Table.transform src (ls.map toSeg)).table = some t) :
    LinesOK src ((GM.Table.transform src (ls.map toSeg)).para.map ofSeg) ∧
    (NodeOK src (rowNode src tagHeader t.header) ∧ ∀ c ∈ t.header, NodeOK src (cellNode src c)) ∧
    ∀ r ∈ t.rows, NodeOK src (rowNode src tagRow r) ∧ ∀ c ∈ r, NodeOK src (cellNode src c) := by
  obtain ⟨⟨pre, hdr, dl, tl, hls, hpara⟩, hcells⟩ := table_facts hv ht
  have hrowN : ∀ (tag : Nat), ∀ r ∈ t.header :: t.rows, NodeOK src (rowNode src tag r) := by
    intro tag r hr
    obtain ⟨l, hl, hin⟩ := hcells r hr
    obtain ⟨_, _, a3, _⟩ := tblLinesB_mem hv hl
    unfold rowNode
    refine ⟨fun x hx => ?_, fun hn => ?_⟩
    · simp only [List.mem_map, List.mem_flatMap] at hx
      obtain ⟨q, ⟨c, hc, hq⟩, rfl⟩ := hx
      have := (hin c hc).2 q hq
      simp only [SegOK, escSeg]
      omega
    · simp only [List.isEmpty_iff] at hn
      simp only [hn, List.map_nil]
  have hcellN : ∀ r ∈ t.header :: t.rows, ∀ c ∈ r, NodeOK src (cellNode src c) := by
    intro r hr c hc
    obtain ⟨l, hl, hin⟩ := hcells r hr
    obtain ⟨_, _, a3, _⟩ := tblLinesB_mem hv hl
    exact nodeOK_cell (hin c hc) (by omega)
  refine ⟨?_, ⟨hrowN _ _ (List.mem_cons_self ..), hcellN _ (List.mem_cons_self ..)⟩,
    fun r hr => ⟨hrowN _ _ (List.mem_cons_of_mem _ hr), hcellN _ (List.mem_cons_of_mem _ hr)⟩⟩
  rw [hpara]
  intro x hx
  obtain ⟨y, hy, rfl⟩ := List.mem_map.1 hx
  -- `y` is a line of `pre`, possibly cut by one byte
  have hmem : ∀ u ∈ pre, 0 ≤ u.start ∧ u.start < u.stop ∧ u.stop ≤ src.length ∧ 0 ≤ u.padding :=
    fun u hu => by
      obtain ⟨a, b, c, d, _⟩ := tblLinesB_mem hv (t := u) (by rw [hls]; simp [hu])
      exact ⟨a, b, c, d⟩
  rcases List.eq_nil_or_concat pre with hp | ⟨init, last, hp⟩
  · subst hp; simp [GM.Table.trimLastNewline] at hy
  · subst hp
    rw [List.concat_eq_append, List.map_append, List.map_cons, List.map_nil, trimLastNewline_snoc] at hy
    simp only [List.mem_append, List.mem_map, List.mem_singleton] at hy
    rcases hy with ⟨u, hu, rfl⟩ | rfl
    · obtain ⟨a, b, c, d⟩ := hmem u (by simp [hu])
      simp only [SegOK, ofSeg, toSeg]
      omega
    · obtain ⟨a, b, c, d⟩ := hmem last (by simp)
      simp only [SegOK, ofSeg, toSeg]
      omega


/-! ### the checked twin -/

/-- `transformPT src` behind the run-time check "the lines are fit" (answering `e`) -/
def tableE (e : Panic) (src : Bytes) : PT := fun node => do
  let n ← getNode node
  if !(tblLinesB src n.lines) then throw e else transformPT src node

theorem tableE_passes (e : Panic) (src : Bytes) (node : Nat) (s : St) (h : tblLinesB src (nd s node).lines = true) :
    tableE e src node s = transformPT src node s := by
  unfold tableE
  simp only [bind, StateT.bind, getNode, pure, Except.pure, Except.bind]
  have : (s.nodes.getD node default).lines = (nd s node).lines := rfl
  rw [this, h]
  rfl

theorem tableE_fails (e : Panic) (src : Bytes) (node : Nat) (s : St) (h : ¬ tblLinesB src (nd s node).lines = true) :
    tableE e src node s = .error e := by
  unfold tableE
  simp only [bind, StateT.bind, getNode, pure, Except.pure, Except.bind]
  have : (s.nodes.getD node default).lines = (nd s node).lines := rfl
  rw [this]
  have : tblLinesB src (nd s node).lines = false := by
    cases hh : tblLinesB src (nd s node).lines
    · rfl
    · exact absurd hh h
  rw [this]
  rfl

/-- **the checked table transformer meets the wide contract** -/
theorem tableE_specX (src : Bytes) (e : Panic) : PTSpecX src e (tableE e src) := by
  intro node s hsrc hlt hk hp hl hn hkids hplt htree
  by_cases hv : tblLinesB src (nd s node).lines = true
  · rw [tableE_passes e src node s hv]
    have hrefl : StepX src node s s false :=
      ⟨TStep.refl hn hl, L.TF.refl s, hplt, htree, fun _ _ _ h => h, fun _ => KeepF.refl node s⟩
    unfold transformPT
    simp only [bind, StateT.bind, getNode, source, pure, StateT.pure, Except.pure, Except.bind]
    rw [hsrc]
    have hv' : ((s.nodes.getD node default).lines.all (validB src)) = true := tblLinesB_valid hv
    rw [if_neg (by rw [hv']; simp)]
    cases htb : (GM.Table.transform src ((s.nodes.getD node default).lines.map toSeg)).table with
    | none => exact .inl ⟨s, false, rfl, hrefl⟩
    | some t =>
      simp only []
      obtain ⟨p, hpp⟩ := Option.isSome_iff_exists.1 hp
      obtain ⟨h1, h2, h3⟩ := tableNodesOK' hv htb
      have hpp' : (s.nodes.getD node default).parent = some p := hpp
      rw [hpp']
      obtain ⟨s', e', hst⟩ := buildTable_stepX (src := src) hlt hk hpp hl hn hkids hplt htree _ t h1
        (nodeOK_noLines src _ rfl) h2 h3
      exact .inl ⟨s', _, e', hst⟩
  · exact .inr (tableE_fails e src node s hv)

theorem transformPT_post (src : Bytes) {node : Nat} {s s' : St} {a : Unit} (htr : TreeOK s)
    (e : transformPT src node s = .ok (a, s')) :
    ((GM.Table.transform src ((nd s node).lines.map toSeg)).table = none ∧ s' = s) ∨
    ∃ t p, (GM.Table.transform src ((nd s node).lines.map toSeg)).table = some t ∧ (nd s node).parent = some p ∧
      TablePost (RecD src t) node p ((GM.Table.transform src ((nd s node).lines.map toSeg)).para.map ofSeg) s s' := by
  unfold transformPT at e
  obtain ⟨n, s1, h1, k1⟩ := bind_ok e
  obtain ⟨rfl, rfl⟩ := getNode_ok h1
  obtain ⟨rsrc, s2, h2, k2⟩ := bind_ok k1
  have : s2 = s1 := by cases h2; rfl
  subst this
  split at k2
  · cases k2
  · have hnd : s2.nodes.getD node default = nd s2 node := rfl
    rw [hnd] at k2
    cases htb : (GM.Table.transform src ((nd s2 node).lines.map toSeg)).table with
    | none =>
      rw [htb] at k2
      exact .inl ⟨rfl, (pure_ok k2).2⟩
    | some t =>
      rw [htb] at k2
      right
      cases hp : (nd s2 node).parent with
      | none =>
        rw [hp] at k2
        unfold buildTable at k2
        obtain ⟨_, _, _, k3⟩ := bind_ok k2
        obtain ⟨_, _, _, k4⟩ := bind_ok k3
        obtain ⟨_, _, _, k5⟩ := bind_ok k4
        obtain ⟨_, _, _, k6⟩ := bind_ok k5
        cases k6
      | some p =>
        rw [hp] at k2
        exact ⟨t, p, rfl, rfl, buildTable_post src htr hp k2⟩

end GM.Blocks.TO
end BlocksTNOTableSpec

section BlocksTNOTableData
/-
  `TableData`: what a table-making call of `GM.TableX.transformPT` does to the DATA of the nodes
  (everything but the tree links) and to the paragraph's own parent pointer — from ANY store (no hypothesis on the tree
  links; GM.Proof.BlocksTNOTableCall `TablePost` describes the links too, but needs `TreeOK`). This is what the line invariants
  (`InvG`) need of the call.
-/

namespace GM.Blocks.TO
open GM GM.Text GM.Spec GM.Proof.Reader GM.TableX

/-- a step that keeps reader and context, the data of every node, the parent pointer of every node below `n0`, and
    allocates nodes with `P` (of their data) -/
structure DF (P : Node → Prop) (n0 : Nat) (s s' : St) : Prop where
  r : s'.r = s.r
  pc : s'.pc = s.pc
  len : s.nodes.length ≤ s'.nodes.length
  data : ∀ i, i < s.nodes.length → dataOf (nd s' i) = dataOf (nd s i)
  par : ∀ i, i < n0 → (nd s' i).parent = (nd s i).parent
  fresh : ∀ i, s.nodes.length ≤ i → i < s'.nodes.length → P (dataOf (nd s' i))

variable {P : Node → Prop} {n0 : Nat}

theorem DF.refl (P : Node → Prop) (n0 : Nat) (s : St) : DF P n0 s s :=
  ⟨rfl, rfl, Nat.le_refl _, fun _ _ => rfl, fun _ _ => rfl, fun i h1 h2 => absurd h2 (by omega)⟩

theorem DF.trans {a b c : St} (h1 : DF P n0 a b) (h2 : DF P n0 b c) : DF P n0 a c :=
  ⟨h2.r.trans h1.r, h2.pc.trans h1.pc, Nat.le_trans h1.len h2.len,
    fun i hi => (h2.data i (Nat.lt_of_lt_of_le hi h1.len)).trans (h1.data i hi),
    fun i hi => (h2.par i hi).trans (h1.par i hi),
    fun i hi1 hi2 => by
      rcases Nat.lt_or_ge i b.nodes.length with h | h
      · rw [h2.data i h]; exact h1.fresh i hi1 h
      · exact h2.fresh i h hi2⟩

theorem DF.newNode {s s' : St} {n : Node} {id : Nat} (h0 : n0 ≤ s.nodes.length) (hP : P (dataOf n)) (e : newNode n s = .ok (id, s')) :
    DF P n0 s s' ∧ id = s.nodes.length ∧ s'.nodes.length = s.nodes.length + 1 := by
  obtain ⟨rfl, hs'⟩ := newNode_ok e
  have hn : s'.nodes = s.nodes ++ [n] := by rw [hs']
  have hnd := nd_snoc hn
  have hlen : s'.nodes.length = s.nodes.length + 1 := by rw [hn]; simp
  refine ⟨⟨by rw [hs'], by rw [hs'], by omega, fun i hi => by rw [hnd, if_pos hi], fun i hi => ?_, fun i h1 h2 => ?_⟩, rfl, hlen⟩
  · rw [hnd, if_pos (by omega)]
  · rw [hnd, if_neg (by omega), if_pos (by omega)]; exact hP

theorem DF.modNode {s s' : St} {id : Nat} {f : Node → Node} {a : Unit} (e : modNode id f s = .ok (a, s'))
    (hf : ∀ n, dataOf (f n) = dataOf n) (hp : id < n0 → ∀ n, (f n).parent = n.parent) :
    DF P n0 s s' ∧ s'.nodes.length = s.nodes.length := by
  rw [modNode_eq] at e
  cases e
  refine ⟨⟨rfl, rfl, by rw [upd_len]; exact Nat.le_refl _, fun i _ => ?_, fun i hi => ?_, fun i h1 h2 => ?_⟩, upd_len ..⟩
  · rw [nd_upd]; split
    · next h => rw [← h.1]; exact hf _
    · rfl
  · rw [nd_upd]; split
    · next h => rw [← h.1]; exact hp (by rw [h.1]; exact hi) _
    · rfl
  · rw [upd_len] at h2; omega

theorem DF.removeChild {q c : Nat} {s s' : St} {a : Unit} (hc : n0 ≤ c) (e : removeChild q c s = .ok (a, s')) :
    DF P n0 s s' ∧ s'.nodes.length = s.nodes.length := by
  unfold GM.Blocks.removeChild at e
  obtain ⟨cn, s1, h1, k1⟩ := bind_ok e
  obtain ⟨_, hs1⟩ := getNode_ok h1
  subst s1
  split at k1
  · obtain ⟨_, hs⟩ := pure_ok k1
    subst s'
    exact ⟨DF.refl P n0 s, rfl⟩
  · obtain ⟨_, s2, h2, k2⟩ := bind_ok k1
    obtain ⟨d1, l1⟩ := DF.modNode (P := P) (n0 := n0) h2 (fun _ => rfl) (fun _ _ => rfl)
    obtain ⟨d2, l2⟩ := DF.modNode (P := P) (n0 := n0) k2 (fun _ => rfl) (fun h => absurd h (by omega))
    exact ⟨d1.trans d2, l2.trans l1⟩

theorem DF.ensureIsolated {c : Nat} {s s' : St} {a : Unit} (hc : n0 ≤ c) (e : ensureIsolated c s = .ok (a, s')) :
    DF P n0 s s' ∧ s'.nodes.length = s.nodes.length := by
  unfold GM.Blocks.ensureIsolated at e
  obtain ⟨cn, s1, h1, k1⟩ := bind_ok e
  obtain ⟨hcn, hs1⟩ := getNode_ok h1
  subst s1
  subst hcn
  cases hp : (s.nodes.getD c default).parent with
  | some q => rw [hp] at k1; exact DF.removeChild hc k1
  | none =>
    rw [hp] at k1
    obtain ⟨_, hs⟩ := pure_ok k1
    subst s'
    exact ⟨DF.refl P n0 s, rfl⟩

theorem DF.appendChild {q c : Nat} {s s' : St} {a : Unit} (hc : n0 ≤ c) (e : appendChild q c s = .ok (a, s')) :
    DF P n0 s s' ∧ s'.nodes.length = s.nodes.length := by
  unfold GM.Blocks.appendChild at e
  obtain ⟨_, s1, h1, k1⟩ := bind_ok e
  obtain ⟨d1, l1⟩ := DF.ensureIsolated (P := P) hc h1
  obtain ⟨_, s2, h2, k2⟩ := bind_ok k1
  obtain ⟨d2, l2⟩ := DF.modNode (P := P) (n0 := n0) h2 (fun _ => rfl) (fun _ _ => rfl)
  obtain ⟨d3, l3⟩ := DF.modNode (P := P) (n0 := n0) k2 (fun _ => rfl) (fun h => absurd h (by omega))
  exact ⟨(d1.trans d2).trans d3, by omega⟩

theorem DF.insertBefore {q : Nat} {v1 : Option Nat} {c : Nat} {s s' : St} {a : Unit} (hc : n0 ≤ c)
    (e : insertBefore q v1 c s = .ok (a, s')) : DF P n0 s s' ∧ s'.nodes.length = s.nodes.length := by
  unfold GM.Blocks.insertBefore at e
  cases v1 with
  | none => exact DF.appendChild hc e
  | some v =>
    dsimp only at e
    obtain ⟨vn, s0, h0, k0⟩ := bind_ok e
    obtain ⟨_, hs0⟩ := getNode_ok h0
    subst s0
    split at k0
    · exact DF.appendChild hc k0
    · obtain ⟨_, s1, h1, k1⟩ := bind_ok k0
      obtain ⟨d1, l1⟩ := DF.ensureIsolated (P := P) hc h1
      obtain ⟨_, s2, h2, k2⟩ := bind_ok k1
      obtain ⟨d2, l2⟩ := DF.modNode (P := P) (n0 := n0) h2 (fun _ => rfl) (fun _ _ => rfl)
      obtain ⟨d3, l3⟩ := DF.modNode (P := P) (n0 := n0) k2 (fun _ => rfl) (fun h => absurd h (by omega))
      exact ⟨(d1.trans d2).trans d3, by omega⟩

theorem DF.addCells (src : Bytes) (row : Nat) : ∀ (cells : List GM.Table.Cell) {s s' : St} {a : Unit}, n0 ≤ s.nodes.length →
    (∀ c ∈ cells, P (dataOf (cellNode src c))) → addCells src row cells s = .ok (a, s') → DF P n0 s s'
  | [], s, s', a, _, _, e => by
    unfold GM.TableX.addCells at e
    obtain ⟨_, hs⟩ := pure_ok e
    subst s'
    exact DF.refl P n0 s
  | c :: rest, s, s', a, h0, hP, e => by
    unfold GM.TableX.addCells at e
    obtain ⟨id, s1, h1, k1⟩ := bind_ok e
    obtain ⟨d1, rfl, l1⟩ := DF.newNode (P := P) (n0 := n0) h0 (hP c (List.mem_cons_self ..)) h1
    obtain ⟨_, s2, h2, k2⟩ := bind_ok k1
    obtain ⟨d2, l2⟩ := DF.appendChild (P := P) h0 h2
    exact (d1.trans d2).trans (DF.addCells src row rest (by omega) (fun c' hc' => hP c' (List.mem_cons_of_mem _ hc')) k2)

theorem DF.addRow (src : Bytes) (table tag : Nat) (cells : List GM.Table.Cell) {s s' : St} {a : Unit} (h0 : n0 ≤ s.nodes.length)
    (hR : P (dataOf { kind := .thematicBreak, htmlType := tag, offset := dashAt src, lines := (cells.flatMap (·.esc)).map escSeg, linesNil := (cells.flatMap (·.esc)).isEmpty }))
    (hP : ∀ c ∈ cells, P (dataOf (cellNode src c)))
    (e : addRow src table tag cells s = .ok (a, s')) : DF P n0 s s' := by
  unfold GM.TableX.addRow at e
  obtain ⟨id, s1, h1, k1⟩ := bind_ok e
  obtain ⟨d1, rfl, l1⟩ := DF.newNode (P := P) (n0 := n0) h0 hR h1
  obtain ⟨_, s2, h2, k2⟩ := bind_ok k1
  have d2 := DF.addCells (P := P) src s.nodes.length cells (Nat.le_trans h0 d1.len) hP h2
  obtain ⟨d3, _⟩ := DF.appendChild (P := P) (n0 := n0) (c := s.nodes.length) h0 k2
  exact (d1.trans d2).trans d3

theorem DF.addRows (src : Bytes) (table : Nat) : ∀ (rows : List (List GM.Table.Cell)) {s s' : St} {a : Unit}, n0 ≤ s.nodes.length →
    (∀ r ∈ rows, P (dataOf { kind := .thematicBreak, htmlType := tagRow, offset := dashAt src, lines := (r.flatMap (·.esc)).map escSeg, linesNil := (r.flatMap (·.esc)).isEmpty })) →
    (∀ r ∈ rows, ∀ c ∈ r, P (dataOf (cellNode src c))) →
    addRows src table rows s = .ok (a, s') → DF P n0 s s'
  | [], s, s', a, _, _, _, e => by
    unfold GM.TableX.addRows at e
    obtain ⟨_, hs⟩ := pure_ok e
    subst s'
    exact DF.refl P n0 s
  | r :: rest, s, s', a, h0, hR, hP, e => by
    unfold GM.TableX.addRows at e
    obtain ⟨_, s1, h1, k1⟩ := bind_ok e
    have d1 := DF.addRow (P := P) src table tagRow r h0 (hR r (List.mem_cons_self ..)) (hP r (List.mem_cons_self ..)) h1
    exact d1.trans (DF.addRows src table rest (Nat.le_trans h0 d1.len) (fun r' hr' => hR r' (List.mem_cons_of_mem _ hr'))
      (fun r' hr' => hP r' (List.mem_cons_of_mem _ hr')) k1)

/-- **the effect of a table-making call on the data of the nodes** -/
structure TableData (P : Node → Prop) (node : Nat) (lines : List Segment) (s s' : St) : Prop where
  r : s'.r = s.r
  pc : s'.pc = s.pc
  len : s.nodes.length < s'.nodes.length
  old : ∀ i, i < s.nodes.length → i ≠ node → dataOf (nd s' i) = dataOf (nd s i)
  self : dataOf (nd s' node) = dataOf { (nd s node) with lines := lines }
  selfpar : (nd s' node).parent = if lines.isEmpty then none else (nd s node).parent
  fresh : ∀ i, s.nodes.length ≤ i → i < s'.nodes.length → P (dataOf (nd s' i))

theorem buildTable_data (src : Bytes) {node p : Nat} {para : List GM.Table.Seg} {t : GM.Table.Table} {s s' : St} {a : Unit}
    (hp : (nd s node).parent = some p) (e : buildTable src node (some p) para t s = .ok (a, s')) :
    TableData (RecD src t) node (para.map ofSeg) s s' := by
  have hnl : node < s.nodes.length := by
    rcases Nat.lt_or_ge node s.nodes.length with h | h
    · exact h
    · rw [nd_default_of_ge s h] at hp; cases hp
  unfold buildTable at e
  obtain ⟨table, s1, h1, k1⟩ := bind_ok e
  obtain ⟨d1, rfl, l1⟩ := DF.newNode (P := RecD src t) (n0 := s.nodes.length) (Nat.le_refl _) (.inl rfl) h1
  obtain ⟨_, s2, h2, k2⟩ := bind_ok k1
  have d2 := DF.addRow (P := RecD src t) (n0 := s.nodes.length) src s.nodes.length tagHeader t.header (by omega) (.inr (.inl rfl))
    (fun c hc => .inr (.inr (.inr ⟨t.header, List.mem_cons_self .., c, hc, rfl⟩))) h2
  obtain ⟨_, s3, h3, k3⟩ := bind_ok k2
  have d3 := DF.addRows (P := RecD src t) (n0 := s.nodes.length) src s.nodes.length t.rows (by have := d2.len; omega)
    (fun r hr => .inr (.inr (.inl ⟨r, hr, rfl⟩)))
    (fun r hr c hc => .inr (.inr (.inr ⟨r, List.mem_cons_of_mem _ hr, c, hc, rfl⟩))) h3
  have dB := (d1.trans d2).trans d3
  obtain ⟨_, s4, h4, k4⟩ := bind_ok k3
  rw [modNode_eq] at h4
  cases h4
  dsimp only at k4
  obtain ⟨pn, s5, h5, k5⟩ := bind_ok k4
  obtain ⟨_, hs5⟩ := getNode_ok h5
  subst s5
  obtain ⟨_, s6, h6, k6⟩ := bind_ok k5
  obtain ⟨d6, l6⟩ := DF.insertBefore (P := RecD src t) (n0 := s.nodes.length) (Nat.le_refl _) h6
  have hl3 : node < s3.nodes.length := Nat.lt_of_lt_of_le hnl dB.len
  have hnd4 : ∀ i, nd (upd s3 node fun n => { n with lines := para.map ofSeg }) i =
      if node = i then { (nd s3 node) with lines := para.map ofSeg } else nd s3 i := fun i => nd_upd_lt _ _ _ hl3
  have hl4 : (upd s3 node fun n => { n with lines := para.map ofSeg }).nodes.length = s3.nodes.length := upd_len ..
  -- the store behind InsertAfter
  have hlen6 : s.nodes.length < s6.nodes.length := by rw [l6, hl4]; have := d2.len; have := d3.len; omega
  have hold6 : ∀ i, i < s.nodes.length → i ≠ node → dataOf (nd s6 i) = dataOf (nd s i) := by
    intro i hi hne
    rw [d6.data i (by rw [hl4]; exact Nat.lt_of_lt_of_le hi dB.len), hnd4, if_neg (Ne.symm hne)]
    exact dB.data i hi
  have hself6 : dataOf (nd s6 node) = dataOf { (nd s node) with lines := para.map ofSeg } := by
    rw [d6.data node (by rw [hl4]; exact hl3), hnd4, if_pos rfl]
    have := dB.data node hnl
    simp only [dataOf, Node.mk.injEq] at this ⊢
    obtain ⟨a1, _, _, _, a5, a6, a7, a8, a9, a10, a11, a12, a13, a14⟩ := this
    exact ⟨a1, trivial, trivial, trivial, a5, a6, a7, a8, a9, a10, a11, a12, a13, a14⟩
  have hpar6 : (nd s6 node).parent = some p := by
    rw [d6.par node hnl, hnd4, if_pos rfl]
    show (nd s3 node).parent = some p
    rw [dB.par node hnl]; exact hp
  have hfresh6 : ∀ i, s.nodes.length ≤ i → i < s6.nodes.length → RecD src t (dataOf (nd s6 i)) := by
    intro i h1 h2
    rw [l6, hl4] at h2
    have hne : ¬ node = i := by omega
    rw [d6.data i (by rw [hl4]; exact h2), hnd4, if_neg hne]
    exact dB.fresh i h1 h2
  have hr6 : s6.r = s.r := by rw [d6.r]; exact dB.r
  have hpc6 : s6.pc = s.pc := by rw [d6.pc]; exact dB.pc
  by_cases hemp : para.isEmpty = true
  · rw [if_pos hemp] at k6
    have hs7 := removeChild_some hpar6 k6
    have hl7 : s'.nodes.length = s6.nodes.length := by rw [hs7, upd_len, upd_len]
    have hnl6 : node < s6.nodes.length := by omega
    have hp6 : p < s6.nodes.length ∨ ¬ p < s6.nodes.length := Nat.lt_or_ge p _ |>.imp id (fun h => by omega)
    have hdata7 : ∀ i, dataOf (nd s' i) = dataOf (nd s6 i) := by
      intro i
      rw [hs7, nd_upd_lt _ _ _ (by rw [upd_len]; exact hnl6)]
      by_cases h1 : node = i
      · rw [if_pos h1, nd_upd]
        by_cases h2 : p = node ∧ p < s6.nodes.length
        · rw [if_pos h2, ← h1, ← h2.1]; rfl
        · rw [if_neg h2, ← h1]; rfl
      · rw [if_neg h1, nd_upd]
        by_cases h2 : p = i ∧ p < s6.nodes.length
        · rw [if_pos h2, ← h2.1]; rfl
        · rw [if_neg h2]
    have hemp' : (para.map ofSeg).isEmpty = true := by simpa using hemp
    refine ⟨by rw [hs7, upd_r, upd_r]; exact hr6, by rw [hs7, upd_pc, upd_pc]; exact hpc6, by omega,
      fun i hi hne => by rw [hdata7]; exact hold6 i hi hne, by rw [hdata7]; exact hself6, ?_,
      fun i h1 h2 => by rw [hdata7]; exact hfresh6 i h1 (by rw [← hl7]; exact h2)⟩
    rw [hemp', if_pos rfl, hs7, nd_upd_lt _ _ _ (by rw [upd_len]; exact hnl6), if_pos rfl]
  · have hpe : para.isEmpty = false := by
      cases hh : para.isEmpty
      · rfl
      · exact absurd hh hemp
    rw [hpe] at k6
    simp only [Bool.false_eq_true, if_false] at k6
    obtain ⟨_, hs'⟩ := pure_ok k6
    subst s'
    have hemp' : (para.map ofSeg).isEmpty = false := by
      cases hh : (para.map ofSeg).isEmpty
      · rfl
      · exfalso; apply hemp; simpa using hh
    refine ⟨hr6, hpc6, hlen6, hold6, hself6, ?_, hfresh6⟩
    rw [hemp', hpar6, hp]; rfl

theorem transformPT_data (src : Bytes) {node : Nat} {s s' : St} {a : Unit}
    (e : transformPT src node s = .ok (a, s')) :
    ((GM.Table.transform src ((nd s node).lines.map toSeg)).table = none ∧ s' = s) ∨
    ∃ t, (GM.Table.transform src ((nd s node).lines.map toSeg)).table = some t ∧ (nd s node).parent.isSome = true ∧
      TableData (RecD src t) node ((GM.Table.transform src ((nd s node).lines.map toSeg)).para.map ofSeg) s s' := by
  unfold transformPT at e
  obtain ⟨n, s1, h1, k1⟩ := bind_ok e
  obtain ⟨hn, hs1⟩ := getNode_ok h1
  subst s1
  subst hn
  obtain ⟨rsrc, s2, h2, k2⟩ := bind_ok k1
  have : s2 = s := by cases h2; rfl
  subst this
  split at k2
  · cases k2
  · have hnd : s2.nodes.getD node default = nd s2 node := rfl
    rw [hnd] at k2
    cases htb : (GM.Table.transform src ((nd s2 node).lines.map toSeg)).table with
    | none =>
      rw [htb] at k2
      exact .inl ⟨rfl, (pure_ok k2).2⟩
    | some t =>
      rw [htb] at k2
      right
      cases hp : (nd s2 node).parent with
      | none =>
        rw [hp] at k2
        unfold buildTable at k2
        obtain ⟨_, _, _, k3⟩ := bind_ok k2
        obtain ⟨_, _, _, k4⟩ := bind_ok k3
        obtain ⟨_, _, _, k5⟩ := bind_ok k4
        obtain ⟨_, _, _, k6⟩ := bind_ok k5
        cases k6
      | some p =>
        rw [hp] at k2
        exact ⟨t, rfl, rfl, buildTable_data src hp k2⟩

end GM.Blocks.TO
end BlocksTNOTableData
