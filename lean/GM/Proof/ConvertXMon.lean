/-
  GM.Proof.ConvertXMon — the domain monitor of the table paragraph transformer cannot fire behind the guarded link-reference
  transformer: `guardedTransform` leaves the reader alone and leaves the paragraph with a suffix of lines it has just checked
  to be well-formed on that reader's source. Hence Table is conservative at whole-document level without a proviso (GM.Proof.ConvertLConservative).
-/
import GM.Proof.ConvertXRel
import GM.Proof.LinkRefFacts
import GM.Proof.IndepFrame

namespace GM.Proof.ConvertXMon
open GM GM.Text GM.Blocks GM.LinkRef GM.Proof.ConvertXRel

/-- the reader kept, the node store not shortened, the lines of every node that was there kept -/
def PLR (s s' : St) : Prop :=
  s'.r = s.r ∧ s.nodes.length ≤ s'.nodes.length ∧
    ∀ id, id < s.nodes.length → (s'.nodes.getD id default).lines = (s.nodes.getD id default).lines

theorem plPre : FrPre PLR :=
  ⟨fun _ => ⟨rfl, Nat.le_refl _, fun _ _ => rfl⟩, fun ⟨a1, a2, a3⟩ ⟨b1, b2, b3⟩ =>
    ⟨b1.trans a1, Nat.le_trans a2 b2, fun id hid => (b3 id (Nat.lt_of_lt_of_le hid a2)).trans (a3 id hid)⟩⟩

/-- every normal end of `m` is a `PLR`-step -/
abbrev PL {α : Type} (m : M α) : Prop := IFr PLR m

theorem modNode_pl (id : Nat) (f : Blocks.Node → Blocks.Node) (hf : ∀ n, (f n).lines = n.lines) : PL (modNode id f) :=
  ⟨fun s a s' h => by
    simp only [modNode, Pure.pure, Except.pure, Except.ok.injEq, Prod.mk.injEq] at h
    obtain ⟨_, rfl⟩ := h
    refine ⟨rfl, by simp, fun i hi => ?_⟩
    simp only [List.getD_eq_getElem?_getD, List.getElem?_set]
    split
    · rename_i e; subst e
      simp only [hi, if_true, Option.getD_some]
      rw [hf]
    · rfl⟩

theorem newNode_pl (n : Blocks.Node) : PL (newNode n) :=
  ⟨fun s a s' h => by
    simp only [newNode, Pure.pure, Except.pure, Except.ok.injEq, Prod.mk.injEq] at h
    obtain ⟨_, rfl⟩ := h
    refine ⟨rfl, by simp, fun i hi => ?_⟩
    simp [List.getD_eq_getElem?_getD, List.getElem?_append_left hi]⟩

macro "pl_step" : tactic =>
  `(tactic| first
    | with_reducible exact IFr.pure plPre _
    | with_reducible apply IFr.bind plPre
    | with_reducible apply IFr.ite
    | with_reducible apply IFr.throw
    | with_reducible exact getNode_fr plPre _
    | (with_reducible apply modNode_pl; intro _; rfl)
    | with_reducible apply newNode_pl
    | apply_hyp
    | intro _
    | split)

macro "pl" : tactic => `(tactic| repeat' pl_step)

theorem removeChild_pl (p c : Nat) : PL (removeChild p c) := by unfold removeChild; pl
theorem ensureIsolated_pl (c : Nat) : PL (ensureIsolated c) := by
  have := removeChild_pl
  unfold ensureIsolated; pl
theorem appendChild_pl (p c : Nat) : PL (appendChild p c) := by
  have := ensureIsolated_pl
  unfold appendChild; pl
theorem insertBefore_pl (p : Nat) (v1 : Option Nat) (ins : Nat) : PL (insertBefore p v1 ins) := by
  have := ensureIsolated_pl
  have := appendChild_pl
  unfold insertBefore; pl
theorem replaceChild_pl (p v1 ins : Nat) : PL (replaceChild p v1 ins) := by
  have := insertBefore_pl
  have := removeChild_pl
  unfold replaceChild; pl

theorem wfSegsFrom_valid (src : Bytes) : ∀ (segs : List Segment) (lo : Int), 0 ≤ lo → wfSegsFromB src lo segs = true →
    segs.all (GM.TableX.validB src) = true
  | [], _, _, _ => rfl
  | sg :: rest, lo, hlo, h => by
    simp only [wfSegsFromB, Bool.and_eq_true, decide_eq_true_eq, Bool.not_eq_true'] at h
    obtain ⟨⟨⟨⟨⟨h1, h2⟩, h3⟩, h4⟩, h5⟩, h6⟩ := h
    simp only [List.all_cons, Bool.and_eq_true]
    refine ⟨?_, wfSegsFrom_valid src rest sg.stop (by omega) h6⟩
    simp only [GM.TableX.validB, Bool.and_eq_true, decide_eq_true_eq, Bool.not_eq_true']
    exact ⟨⟨⟨⟨by omega, by omega⟩, h3⟩, h4⟩, h5⟩

theorem all_drop {α} (p : α → Bool) (l : List α) (k : Nat) (h : l.all p = true) : (l.drop k).all p = true := by
  simp only [List.all_eq_true] at *
  exact fun x hx => h x (List.mem_of_mem_drop hx)

/-- what `transformFinish` does behind `modNode` -/
def finishTail (node : Nat) (n : Blocks.Node) (lines : List Segment) : M Unit := do
  if lines.length == 0 then
    let t ← newNode { kind := .textBlock, blankPrev := n.blankPrev }
    match n.parent with
    | none => throw .nil
    | some p => replaceChild p node t

theorem finishTail_pl (node : Nat) (n : Blocks.Node) (lines : List Segment) : PL (finishTail node n lines) := by
  have := replaceChild_pl
  unfold finishTail; pl

theorem transformFinish_eq (node : Nat) (n : Blocks.Node) (removes : List (Int × Int)) (refs : RefMap) :
    transformFinish node n removes refs = (do
      modPc fun pc => { pc with refs := refs }
      let lines ← liftE (finishLines removes n.lines)
      modNode node fun n => { n with lines := lines }
      finishTail node n lines) := rfl

theorem guarded_post (node : Nat) (s s1 : St) (h : guardedTransform node s = .ok ((), s1)) :
    s1.r = s.r ∧ (s1.nodes.getD node default).lines.all (GM.TableX.validB s.r.source) = true := by
  unfold guardedTransform at h
  simp only [bind, StateT.bind, getNode, source, pure, Except.pure, Except.bind, StateT.pure] at h
  split at h
  · cases h
  · rename_i hchk
    have hv0 : (s.nodes.getD node default).lines.all (GM.TableX.validB s.r.source) = true := by
      by_cases hl : (s.nodes.getD node default).lines.length = 0
      · have : (s.nodes.getD node default).lines = [] := List.eq_nil_of_length_eq_zero hl
        rw [this]; rfl
      · have hw : wfSegsB s.r.source (s.nodes.getD node default).lines = true := by
          simp only [Bool.and_eq_true, bne_iff_ne, ne_eq, Bool.not_eq_true', not_and, Bool.not_eq_false] at hchk
          exact hchk hl
        simp only [wfSegsB, Bool.and_eq_true] at hw
        exact wfSegsFrom_valid _ _ 0 (Int.le_refl _) hw.2
    unfold transform at h
    simp only [bind, StateT.bind, getNode, source, getPc, pure, Except.pure, Except.bind, liftE, Except.map] at h
    cases hsc : transformScan s.r.source (s.nodes.getD node default).lines s.pc.refs with
    | error e => rw [hsc] at h; cases h
    | ok x =>
      obtain ⟨removes, refs⟩ := x
      rw [hsc] at h
      simp only [] at h
      rw [transformFinish_eq] at h
      simp only [bind, StateT.bind, modPc, liftE, modNode, pure, Except.pure, Except.bind, Except.map] at h
      cases hf : finishLines removes (s.nodes.getD node default).lines with
      | error e => rw [hf] at h; cases h
      | ok ls =>
        rw [hf] at h
        simp only [] at h
        have hls : ls.all (GM.TableX.validB s.r.source) = true := by
          rw [GM.Proof.LinkRefFacts.finishLines_front hf]
          exact all_drop _ _ _ hv0
        obtain ⟨p1, p2, p3⟩ := (finishTail_pl node (s.nodes.getD node default) ls).h _ _ _ h
        refine ⟨p1, ?_⟩
        by_cases hn : node < s.nodes.length
        · have := p3 node (by simpa using hn)
          rw [this]
          simp only [List.getD_eq_getElem?_getD, List.getElem?_set, hn, if_true, Option.getD_some]
          exact hls
        · -- a node id outside the store: its record is the default one, without lines and without parent: Transform fails
          exfalso
          have hd : s.nodes.getD node default = default := by
            simp [List.getD_eq_getElem?_getD, List.getElem?_eq_none (by omega : s.nodes.length ≤ node)]
          rw [hd] at hf h
          have hl0 : ls = [] := by
            have := GM.Proof.LinkRefFacts.finishLines_front hf
            have hdl : (default : Blocks.Node).lines = [] := rfl
            rw [hdl] at this
            simpa using this
          subst hl0
          simp only [finishTail, List.length_nil, beq_self_eq_true, if_true, bind, StateT.bind, newNode, pure, Except.pure,
            Except.bind] at h
          cases h

section table
open GM.ConvertX GM.Convert GM.Proof.ConvertX

theorem transformPT_no_dash_valid (src : Bytes) (h : (45 : UInt8) ∉ src) (node : Nat) (s : St)
    (hv : (s.nodes.getD node default).lines.all (GM.TableX.validB s.r.source) = true) :
    GM.TableX.transformPT src node s = .ok ((), s) := by
  have ht := GM.Ext.transform_no_dash src (List.map GM.TableX.toSeg (s.nodes.getD node default).lines)
    (fun l _ => GM.Ext.value_no_dash src l h)
  unfold GM.TableX.transformPT
  simp only [bind, StateT.bind, getNode, source, pure, Except.pure, Except.bind, StateT.pure, hv, Bool.not_true,
    Bool.false_eq_true, if_false, ht]

theorem transformParagraph_silent_guarded (src : Bytes) (h : (45 : UInt8) ∉ src) (n : Nat) :
    Rel false (transformParagraph ([guardedTransform] ++ [GM.TableX.transformPT src]) n)
      (transformParagraph ([guardedTransform] ++ []) n) := by
  constructor
  intro s
  left
  simp only [List.append_nil, List.singleton_append, transformParagraph, bind, StateT.bind, getNode, pure,
    Except.pure, Except.bind]
  cases hg : guardedTransform n s with
  | error e => rfl
  | ok r =>
    obtain ⟨u, s1⟩ := r
    obtain ⟨q1, q2⟩ := guarded_post n s s1 hg
    simp only []
    split
    · rfl
    · rename_i hp
      have hv : (s1.nodes.getD n default).lines.all (GM.TableX.validB s1.r.source) = true := by rw [q1]; exact q2
      simp only [StateT.bind, transformPT_no_dash_valid src h n s1 hv, getNode, pure, Except.pure]
      show (if (s1.nodes.getD n default).parent.isNone = true then StateT.pure true else StateT.pure false) s1 = _
      rw [if_neg hp]

theorem blockPhaseX_table_guarded (c : XCfg) (src : Bytes) (h : (45 : UInt8) ∉ src) :
    blockPhaseX { c with table := true } true src = blockPhaseX { c with table := false } true src := by
  unfold blockPhaseX paragraphTransformersX paragraphTransformers
  rcases runT_rel (fun n => transformParagraph_silent_guarded src h n) src with e | e
  · exact e
  · exact absurd e.1 (by decide)

end table
end GM.Proof.ConvertXMon
