/-
  GM.Proof.CMFrag5 — stage 5 (fenced code blocks): the block phase on an opening fence line, on the content lines and the
  closing fence with the block open; the blocks `Raw5` of all later stages (stage-4 blocks, fenced and indented code
  blocks), their source lines, closed nodes (`node5`, `node5E`), what the phases need of them (`Good5`, `Good5'`), the values
  of the segments of a code block, and the blocks of the fragment `GM.Spec.CMFrag.HDoc` as such blocks.
-/
import GM.Proof.CMFrag5Defs
import GM.Proof.CMFrag4
import GM.Proof.CMFragBlockPhase
import GM.Proof.CMFragRender
import GM.Proof.CMFragSpec

/-
  section CMFrag5Fence — the block phase on one opening fence line `fc…fc info⏎` (n+3 backticks or tildes directly
  followed by an alphanumeric info string, possibly empty), as an equation on explicit states: whatever is open,
  fencedCodeBlockParser.Open opens a FencedCodeBlock whose Info segment is the info string (none when empty) and
  records the fence data in the parse context; the reader is not advanced (the peeked line and LineOffset stay cached).
-/
section CMFrag5Fence
namespace GM.Proof.CMFrag
open GM GM.Text GM.Blocks

theorem alnum_facts_fence (c : UInt8) (h : GM.Spec.CM.isAlnumC c = true) : c ≠ 96 ∧ c ≠ 126 ∧ c ≠ 10 ∧ isSpace c = false := by
  obtain ⟨hp, h32, _, h96, h126, _, _⟩ := alnum_facts c h
  refine ⟨h96, h126, ?_, printable_notSpace c hp (by simpa using h32)⟩
  intro e; subst e; cases hp

theorem countLeading_fence (fc : UInt8) (m : Nat) (c : UInt8) (t : Bytes) (hc : c ≠ fc) :
    countLeading fc (List.replicate m fc ++ c :: t) = m := by
  induction m with
  | zero => simp [countLeading, hc]
  | succ n ih =>
    have hcb : (c == fc) = false := by simp [hc]
    simp only [countLeading] at ih ⊢
    simp [List.replicate_succ, List.takeWhile, hcb]

theorem scan_fence (fc : UInt8) (m : Nat) (c : UInt8) (t : Bytes) (hc : c ≠ fc) :
    scanWhileEq (List.replicate m fc ++ c :: t) fc 0 = (m : Int) := by
  simp [scanWhileEq, countLeading_fence fc m c t hc]

theorem sliceFrom_fence (fc : UInt8) (m : Nat) (t : Bytes) :
    sliceFrom (List.replicate m fc ++ t) (m : Int) = .ok t := by
  have c : (0 : Int) ≤ (m : Int) ∧ (m : Int) ≤ ((List.replicate m fc ++ t).length : Int) := by
    simp; omega
  unfold sliceFrom
  rw [if_pos c]
  simp

section fence
variable {src : Bytes} {p e : Nat} {v : Bytes}

theorem fencedOpen_fence (hl : Ln src p e v) (fc : UInt8) (hfc : fc = 96 ∨ fc = 126)
    (n : Nat) (info : Bytes) (hinfo : ∀ c ∈ info, GM.Spec.CM.isAlnumC c = true)
    (hv : v = List.replicate (n + 3) fc ++ (info ++ [10]))
    (k : Int) (nodes : List Blocks.Node) (pc : Ctx) (hoff : pc.blockOffset = 0) (parent : Nat) :
    fencedOpen parent ⟨rdr src k p p e (some v) 0, nodes, pc⟩ =
      .ok ((some nodes.length, stNoChildren),
        ⟨rdr src k p p e (some v) 0,
          nodes ++ [{ kind := .fencedCodeBlock, info := (if info.isEmpty then none else some (sg (p + n + 3) (e - 1))) }],
          { pc with fence := some { char := fc, indent := 0, length := ((n + 3 : Nat) : Int), node := nodes.length } }⟩) := by
  have hp : p < src.length := by have := hl.le; have := hl.lt; omega
  have hfcb : (fc != 96 && fc != 126) = false := by rcases hfc with h | h <;> subst h <;> decide
  obtain ⟨c, t, hct, hc⟩ : ∃ c t, info ++ [10] = c :: t ∧ c ≠ fc := by
    cases info with
    | nil => exact ⟨10, [], rfl, by rcases hfc with h | h <;> subst h <;> decide⟩
    | cons c t =>
      obtain ⟨h1, h2, -, -⟩ := alnum_facts_fence c (hinfo c (by simp))
      exact ⟨c, t ++ [10], rfl, by rcases hfc with h | h <;> subst h <;> assumption⟩
  have hscan := scan_fence fc (n + 3) c t hc
  rw [← hct, ← hv] at hscan
  have hsl := sliceFrom_fence fc (n + 3) (info ++ [10])
  rw [← hv] at hsl
  have hidx : idx v 0 = .ok fc := by rw [hv]; rfl
  have hvl : v.length = n + 3 + info.length + 1 := by rw [hv]; simp; omega
  have c0 : ¬ ((0 : Int) < 0) := by omega
  have c1 : ¬ (((n + 3 : Nat) : Int) - 0 < 3) := by omega
  unfold fencedOpen
  simp only [bind_apply, peekLine_cached hp, getPc_run, hoff, Option.getD_some, hscan, c0, if_false, hidx, liftE_ok, hfcb,
    Bool.false_eq_true, c1]
  cases info with
  | nil =>
    have c2 : ¬ (((n + 3 : Nat) : Int) < (v.length : Int) - 1) := by simp at hvl; omega
    simp only [c2, if_false, bind_apply, newNode_run, modPc_run, pure_apply]
    simp [hoff]
  | cons a u =>
    obtain ⟨ha1, ha2, ha3, hasp⟩ := alnum_facts_fence a (hinfo a (by simp))
    have c2 : (((n + 3 : Nat) : Int) < (v.length : Int) - 1) := by simp at hvl; omega
    have hs10 : isSpace 10 = true := by decide
    have htl : trimLeftSpaceLength (a :: u ++ [10]) = 0 := by
      simp [trimLeftSpaceLength, hasp]
    have hne : (a :: u) ≠ [] := by simp
    have hlastsp : isSpace ((a :: u).getLast hne) = false :=
      (alnum_facts_fence _ (hinfo _ (List.getLast_mem hne))).2.2.2
    have hrev : (a :: u).reverse = (a :: u).getLast hne :: (a :: u).dropLast.reverse := by
      conv => lhs; rw [← List.dropLast_concat_getLast hne]
      simp
    have htrr : trimRightSpaceLength (a :: u ++ [10]) = 1 := by
      unfold trimRightSpaceLength
      rw [List.reverse_append, hrev]
      simp [List.takeWhile, hs10, hlastsp]
    have e0 : ((0 : Nat) : Int) = 0 := rfl
    have e1 : ((1 : Nat) : Int) = 1 := rfl
    have hslice : slice (a :: u ++ [10]) 0 (((a :: u ++ [10]).length : Int) - 1) = .ok (a :: u) := by
      have c : (0 ≤ (0 : Int) ∧ (0 : Int) ≤ ((a :: u ++ [10]).length : Int) - 1 ∧
          ((a :: u ++ [10]).length : Int) - 1 ≤ ((a :: u ++ [10]).length : Int)) := by simp; omega
      unfold slice sliceB
      rw [if_pos c]
      have t2 : (((a :: u ++ [10]).length : Int) - 1).toNat = (a :: u).length := by simp
      rw [t2]
      simp [sub]
    have c3 : ((0 : Int) < ((a :: u ++ [10]).length : Int) - 1) := by simp <;> omega
    have hcont : (fc == 96 && (a :: u).contains 96) = false := by
      rcases hfc with h | h
      · have : (a :: u).contains 96 = false := by
          rw [Bool.eq_false_iff]
          intro hm
          have hm' : (96 : UInt8) ∈ a :: u := by simpa using hm
          exact (alnum_facts_fence _ (hinfo _ hm')).1 rfl
        rw [this]; simp
      · subst h; rfl
    have c4 : ((sg p e).start - (sg p e).padding + ((n + 3 : Nat) : Int) + 0 != (sg p e).stop - 1) = true := by
      have := hl.len; have := hl.lt
      simp only [sg, bne_iff_ne, ne_eq]
      simp at hvl
      omega
    have hseg : ({ start := (sg p e).start - (sg p e).padding + ((n + 3 : Nat) : Int) + 0, stop := (sg p e).stop - 1 } : Segment) =
        sg (p + n + 3) (e - 1) := by
      have := hl.len; have := hl.lt
      simp only [sg, Segment.mk.injEq, and_true]
      omega
    simp only [c2, if_true, bind_apply, hsl, liftE_ok, htl, htrr, e0, e1, c3, hslice, hcont, Bool.false_eq_true, if_false, c4,
      hseg, newNode_run, modPc_run, pure_apply]
    simp [hoff]

theorem fence_facts {fc : UInt8} (hfc : fc = 96 ∨ fc = 126) :
    (fc == 32) = false ∧ (fc == 9) = false ∧ (fc == 10) = false ∧ isSpace fc = false ∧
      (triggered fc).getD freeParsers = [.fenced, .code, .paragraph] := by
  rcases hfc with h | h <;> subst h <;> decide

/-- the parser loop on an opening fence line, whatever is open -/
theorem try_fence (hl : Ln src p e v) (fc : UInt8) (hfc : fc = 96 ∨ fc = 126)
    (n : Nat) (info : Bytes) (hinfo : ∀ c ∈ info, GM.Spec.CM.isAlnumC c = true)
    (hv : v = List.replicate (n + 3) fc ++ (info ++ [10])) (pts : List PT) (k : Int)
    (d : Blocks.Node) (rest : List Blocks.Node) (pc : Ctx) (hprev : PrevKept (d :: rest) pc) (hoff : pc.blockOffset = 0)
    (cont blank : Bool) (lb : Option Block) :
    tryParsersT pts 0 blank cont 0 [.fenced, .code, .paragraph] .noBlocksOpened lb
        ⟨rdr src k p p e (some v) 0, d :: rest, pc⟩ =
      .ok ((.done, .newBlocksOpened, pc.opened.getLast?),
        ⟨rdr src k p p e (some v) 0,
          { d with children := d.children ++ [rest.length + 1] } ::
            (rest ++ [fenceN (if info.isEmpty then none else some (sg (p + n + 3) (e - 1))) [] blank]),
          { pc with opened := pc.opened ++ [{ node := rest.length + 1, bp := .fenced }],
                    fence := some { char := fc, indent := 0, length := ((n + 3 : Nat) : Int), node := rest.length + 1 } }⟩) :=
  tryParsersT_hit (bp := .fenced) (Or.inr rfl) (Or.inl (by decide))
    (fencedOpen_fence hl fc hfc n info hinfo hv k (d :: rest) pc hoff 0) rfl rfl rfl hprev

end fence
end GM.Proof.CMFrag
end CMFrag5Fence

section CMFrag5Lines
namespace GM.Proof.CMFrag
open GM GM.Text GM.Blocks GM.Spec

theorem lineOffset_any {src : Bytes} {h p : Nat} (hhp : h ≤ p) (hp : p ≤ src.length) (k e pk nodes pc) :
    ∃ lo : Int, lineOffset ⟨rdr src k h p e pk (-1), nodes, pc⟩ = .ok (lo, ⟨rdr src k h p e pk lo, nodes, pc⟩) := by
  by_cases hc : (h : Int) ≥ (p : Int)
  · exact ⟨0, by simp [lineOffset, Reader.lineOffsetOp, rdr, colLoop, hc, bind, Except.bind, pure, Except.pure]⟩
  · have hc' : ¬ (p ≤ h) := by omega
    have c2 : ¬ (src.length < p) := by omega
    exact ⟨_, by simp [lineOffset, Reader.lineOffsetOp, rdr, colLoop, hc', c2, bind, Except.bind, pure, Except.pure]; rfl⟩

theorem sub_last {src : Bytes} {p e : Nat} {w : Bytes} (h : sub src p e = w ++ [10]) (hpe : p < e) (hlen : (w ++ [10]).length = e - p) :
    sub src (e - 1) e = [10] := by
  unfold sub at *
  have e1 : e - (e - 1) = 1 := by omega
  rw [e1]
  have e2 : List.drop (e - 1) src = List.drop (e - 1 - p) (List.drop p src) := by
    rw [List.drop_drop]; congr 1; omega
  rw [e2]
  have hw : w.length = e - 1 - p := by simp at hlen; omega
  have h3 : List.take 1 (List.drop (e - 1 - p) (List.take (e - p) (List.drop p src))) = [10] := by
    rw [h, ← hw]; simp
  rw [List.drop_take] at h3
  rw [List.take_take] at h3
  have : min 1 (e - p - (e - 1 - p)) = 1 := by omega
  rw [this] at h3
  exact h3

theorem stAdvancePad_fast {src : Bytes} {n : Int} {m : Nat} {v : Bytes} (hn : n = (m : Int)) (hm : m < v.length)
    (k h p e lo nodes pc) :
    advanceAndSetPadding n 0 ⟨rdr src k h p e (some v) lo, nodes, pc⟩ =
      .ok ((), ⟨rdr src k h (p + m) e none (-1), nodes, pc⟩) := by
  subst hn
  have c : ((m : Int) < (v.length : Int)) := by omega
  simp [advanceAndSetPadding, Reader.advanceAndSetPadding, Reader.advance, rdr, c, bind, Except.bind, pure, Except.pure]

/-- the slow loop of `Advance` over bytes that are not line feeds -/
theorem advanceLoop_runE (src : Bytes) (k : Int) (h e : Nat) : ∀ (m p : Nat), p + m ≤ src.length →
    (∀ i, p ≤ i → i < p + m → ∃ c, src[i]? = some c ∧ c ≠ 10) →
    Reader.advanceLoop (rdr src k h p e none (-1)) m = .ok (rdr src k h (p + m) e none (-1))
  | 0, p, _, _ => rfl
  | m + 1, p, hle, hb => by
    obtain ⟨c, hc, hc10⟩ := hb p (Nat.le_refl _) (by omega)
    have ih := advanceLoop_runE src k h e m (p + 1) (by omega) (fun i h1 h2 => hb i (by omega) (by omega))
    have c1 : (p : Int) < (src.length : Int) := by omega
    have c10 : (c == 10) = false := by simp [hc10]
    have c0 : ¬ ((p : Int) < 0) := by omega
    have e1 : p + 1 + m = p + (m + 1) := by omega
    rw [e1] at ih
    rw [← ih]
    rw [Reader.advanceLoop]
    simp [rdr, Reader.sourceLength, c1, getByte, c0, hc, c10, bind, Except.bind]

theorem sub_getE {src : Bytes} {p e : Nat} {v : Bytes} (hsub : sub src p e = v) (i : Nat) (h1 : p ≤ i) (h2 : i < e) :
    src[i]? = v[i - p]? := by
  subst hsub
  unfold sub
  rw [List.getElem?_take]
  have : i - p < e - p := by omega
  simp [this]
  congr 1; omega

/-- `Advance(n)` over the whole peeked line, which has no line feed -/
theorem stAdvance_slowE {src : Bytes} {p e : Nat} {v : Bytes} (hl : Ln src p e v) (hnl : ∀ c ∈ v, c ≠ 10) {n : Int}
    (hn : n = ((e - p : Nat) : Int)) (k h lo nodes pc) :
    advance n ⟨rdr src k h p e (some v) lo, nodes, pc⟩ = .ok ((), ⟨rdr src k h e e none (-1), nodes, pc⟩) := by
  subst hn
  have hlen := hl.len
  have hlt := hl.lt
  have hle := hl.le
  have c : ¬ (((e - p : Nat) : Int) < (v.length : Int)) := by omega
  have hloop := advanceLoop_runE src k h e (e - p) p (by omega) (by
    intro i h1 h2
    have hg := sub_getE hl.sub i h1 (by omega)
    have hi : i - p < v.length := by omega
    refine ⟨v[i - p], ?_, hnl _ (List.getElem_mem hi)⟩
    rw [hg]; exact List.getElem?_eq_getElem hi)
  have e1 : p + (e - p) = e := by omega
  rw [e1] at hloop
  simp [advance, Reader.advance, rdr, c, bind, Except.bind, pure, Except.pure] at hloop ⊢
  rw [hloop]

/-- `Advance(n)` over the content `w` of the peeked line `w ++ tl`: up to the line feed, or (no line feed: the last line
    of the source) through the slow loop to the end of the line -/
theorem stAdvance_line {src : Bytes} {p e : Nat} {v : Bytes} (hl : Ln src p e v) (w tl : Bytes) (hv : v = w ++ tl)
    (htl : tl = [10] ∨ tl = []) (hw : ∀ c ∈ w, c ≠ 10) {n : Int} (hn : n = (w.length : Int)) (k h lo nodes pc) :
    advance n ⟨rdr src k h p e (some v) lo, nodes, pc⟩ = .ok ((), ⟨rdr src k h (p + w.length) e none (-1), nodes, pc⟩) := by
  have hlen := hl.len
  have hlt := hl.lt
  rcases htl with rfl | rfl
  · exact stAdvance_fast hn (by rw [hv]; simp) src k h p e lo nodes pc
  · simp only [List.append_nil] at hv
    subst hv
    rw [stAdvance_slowE hl hw (by omega), show p + v.length = e by omega]

section fence
variable {src : Bytes} {p e : Nat} {v : Bytes}

/-- the fence data of the open block -/
def fdOf (fc : UInt8) (n node : Nat) : FenceData := { char := fc, indent := 0, length := ((n + 3 : Nat) : Int), node := node }

/-- fencedCodeBlockParser.Continue on a content line (already peeked) -/
theorem fencedContinue_line (hl : Ln src p e v) (fc : UInt8) (n : Nat) (c0 : UInt8) (t : Bytes) (hv : v = c0 :: t)
    (h32 : c0 ≠ 32) (h9 : c0 ≠ 9) (hfc : c0 ≠ fc) (k : Int) (d : Blocks.Node) (rest : List Blocks.Node)
    (info : Option Segment) (lines : List Segment) (b : Bool) (pc : Ctx) (hfd : pc.fence = some (fdOf fc n (rest.length + 1))) :
    fencedContinue (rest.length + 1) ⟨rdr src k p p e (some v) (-1), d :: (rest ++ [fenceN info lines b]), pc⟩ =
      .ok (stContinueNoChildren,
        ⟨rdr src k p (e - 1) e none (-1), d :: (rest ++ [fenceN info (lines ++ [csg p e]) b]), pc⟩) := by
  have hp : p < src.length := by have := hl.le; have := hl.lt; omega
  have b32 : (c0 == 32) = false := by simp [h32]
  have b9 : (c0 == 9) = false := by simp [h9]
  have hiw : indentWidthI v 0 = (0, 0) := by
    subst hv; unfold GM.Blocks.indentWidthI GM.Blocks.indentWidthGo; simp [b32, b9]
  have hscan : scanWhileEq v fc 0 = 0 := by
    subst hv
    have : (c0 == fc) = false := by simp [hfc]
    simp [scanWhileEq, countLeading, List.takeWhile, this]
  have hipp : indentPositionPadding v 0 0 0 = (0, 0) := by simp [indentPositionPadding]
  unfold fencedContinue
  simp only [bind_apply, peekLine_cached hp, getPc_run, hfd, pure_apply, lineOffset_fresh, Option.getD_some, hiw, hscan, fdOf]
  have hlenv := hl.len
  have hlt := hl.lt
  have c1 : ¬ ((0 : Int) - 0 ≥ ((n + 3 : Nat) : Int)) := by omega
  simp only [show ((0 : Int) < 4) from by decide, if_true, c1, if_false, hipp]
  have hpad : (sg p e).padding = 0 := rfl
  have hst : (sg p e).start = (p : Int) := rfl
  have hsp : (sg p e).stop = (e : Int) := rfl
  simp only [hpad, hipp, hst, hsp, show ¬ ((0 : Int) < 0) from by decide, if_false, bne_self_eq_false, Bool.false_eq_true,
    pure_apply, bind_apply, appendLine, modNode_run, getD_last, set_last]
  rw [stAdvancePad_fast (m := e - p - 1) (by omega) (by omega)]
  have e3 : p + (e - p - 1) = e - 1 := by omega
  simp [fenceN, csg, e3]

theorem lineLoop_fence_cont (hl : Ln src p e v) (fc : UInt8) (n : Nat) (c0 : UInt8) (t : Bytes) (hv : v = c0 :: t)
    (h32 : c0 ≠ 32) (h9 : c0 ≠ 9) (hfc : c0 ≠ fc) (k : Int) (d : Blocks.Node) (rest : List Blocks.Node)
    (info : Option Segment) (lines : List Segment) (b : Bool) (pc : Ctx) (hfd : pc.fence = some (fdOf fc n (rest.length + 1)))
    (hop : pc.opened = [{ node := rest.length + 1, bp := .fenced }]) (bl : List LineStat) :
    lineLoopT pts 0 [{ node := rest.length + 1, bp := .fenced }] 0 [{ node := rest.length + 1, bp := .fenced }] 0 bl
        ⟨rdr src k p p e none (-1), d :: (rest ++ [fenceN info lines b]), pc⟩ =
      .ok ((.next, bl ++ [{ lineNum := k, level := 0, isBlank := isBlank v }]),
        ⟨rdr src k p (e - 1) e none (-1), d :: (rest ++ [fenceN info (lines ++ [csg p e]) b]), pc⟩) := by
  have hp : p < src.length := by have := hl.le; have := hl.lt; omega
  have hk : ((fenceN info lines b).kind != .paragraph) = true := rfl
  rw [lineLoopT]
  simp only [bind_apply, peekLine_fresh hl.sub hp (Nat.le_of_lt hl.lt) hl.le, position_run, getNode_run, getD_last, hk,
    if_true, bpContinue, fencedContinue_line hl fc n c0 t hv h32 h9 hfc k d rest info lines b pc hfd]
  simp [stContinueNoChildren, lineLoopT, pure_apply]

/-- fencedCodeBlockParser.Continue on the closing fence (already peeked), with its line feed (`tl = [10]`) or as the last
    line of a source without final line feed (`tl = []`) -/
theorem fencedContinue_close (hl : Ln src p e v) (tl : Bytes) (htl : tl = [10] ∨ tl = []) (fc : UInt8)
    (hfc : fc = 96 ∨ fc = 126) (n : Nat)
    (hv : v = List.replicate (n + 3) fc ++ tl) (k : Int) (nodes : List Blocks.Node) (pc : Ctx) (node : Nat)
    (hfd : pc.fence = some (fdOf fc n node)) :
    fencedContinue node ⟨rdr src k p p e (some v) (-1), nodes, pc⟩ =
      .ok (stClose, ⟨rdr src k p (e - tl.length) e none (-1), nodes, pc⟩) := by
  have hp : p < src.length := by have := hl.le; have := hl.lt; omega
  have hfacts : (fc == 32) = false ∧ (fc == 9) = false ∧ fc ≠ 10 := by rcases hfc with h | h <;> subst h <;> decide
  have hiw : indentWidthI v 0 = (0, 0) := by
    rw [hv]; simp only [List.replicate_succ, List.cons_append]
    unfold GM.Blocks.indentWidthI GM.Blocks.indentWidthGo; simp [hfacts.1, hfacts.2.1]
  have htl0 : tl.takeWhile (· == fc) = [] := by rcases htl with rfl | rfl <;> simp [Ne.symm hfacts.2.2]
  have hcl : ∀ m : Nat, countLeading fc (List.replicate m fc ++ tl) = m := by
    intro m
    induction m with
    | zero => simp [countLeading, htl0]
    | succ m ih => simp only [countLeading, List.replicate_succ, List.cons_append, List.takeWhile, beq_self_eq_true,
        List.length_cons] at ih ⊢; rw [ih]
  have hscan : scanWhileEq v fc 0 = ((n + 3 : Nat) : Int) := by
    rw [hv]; simp only [scanWhileEq, show ¬ ((0 : Int) < 0) from by decide, if_false, Int.toNat_zero, List.drop_zero, hcl]
    simp
  have hlenv := hl.len
  have hvl : v.length = n + 3 + tl.length := by rw [hv]; simp
  have hsl : sliceFrom v ((n + 3 : Nat) : Int) = .ok tl := by
    have c : (0 ≤ ((n + 3 : Nat) : Int) ∧ ((n + 3 : Nat) : Int) ≤ (v.length : Int)) := by omega
    simp only [sliceFrom, c, and_self, if_true, Int.toNat_natCast]
    rw [hv, List.drop_left' (by simp)]
  have hib : isBlank tl = true := by rcases htl with rfl | rfl <;> decide
  -- the last byte of the line says whether `Advance` stops in front of a line feed
  have hlast : ∃ c, idx v ((v.length : Int) - 1) = .ok c ∧ (if (c != 10) = true then (0 : Int) else 1) = tl.length := by
    have c : ¬ ((v.length : Int) - 1 < 0) := by omega
    have e1 : ((v.length : Int) - 1).toNat = n + 2 + tl.length := by omega
    simp only [idx, getByte, c, if_false, e1]
    rcases htl with rfl | rfl
    · exact ⟨10, by rw [hv, List.getElem?_append_right (by simp)]; simp, rfl⟩
    · exact ⟨fc, by rw [hv]; simp, by simp [hfacts.2.2]⟩
  obtain ⟨cl, hcl1, hcl2⟩ := hlast
  unfold fencedContinue
  simp only [bind_apply, peekLine_cached hp, getPc_run, hfd, pure_apply, lineOffset_fresh, Option.getD_some, hiw, hscan, fdOf]
  have c1 : ((n + 3 : Nat) : Int) - 0 ≥ ((n + 3 : Nat) : Int) := by omega
  simp only [show ((0 : Int) < 4) from by decide, if_true, c1, hsl, liftE_ok, bind_apply, hib, hcl1, hcl2]
  have hpad : (sg p e).padding = 0 := rfl
  have hst : (sg p e).start = (p : Int) := rfl
  have hsp : (sg p e).stop = (e : Int) := rfl
  simp only [hpad, hst, hsp]
  rw [stAdvance_line hl _ tl hv htl (fun c hc => by rw [(List.mem_replicate.mp hc).2]; exact hfacts.2.2)
    (by simp; omega)]
  simp [pure_apply, show p + (n + 3) = e - tl.length by omega]

theorem closeBlocks_fence (r : Reader) (d : Blocks.Node) (rest : List Blocks.Node) (x : Blocks.Node)
    (hk : x.kind = .fencedCodeBlock) (hpar : x.parent = some 0) (pc : Ctx) (fc : UInt8) (n : Nat)
    (hfd : pc.fence = some (fdOf fc n (rest.length + 1)))
    (hop : pc.opened = [{ node := rest.length + 1, bp := .fenced }]) :
    closeBlocksT pts 0 0 ⟨r, d :: (rest ++ [x]), pc⟩ =
      .ok ((), ⟨r, d :: (rest ++ [x]), { pc with opened := [], fence := none }⟩) := by
  have hc : bpClose .fenced (rest.length + 1) ⟨r, d :: (rest ++ [x]), pc⟩ =
      .ok ((), ⟨r, d :: (rest ++ [x]), { pc with fence := none }⟩) := by
    simp [bpClose, fencedClose, bind_apply, getPc_run, hfd, fdOf, modPc_run, pure_apply]
  exact closeBlocks_first r _ pc { node := rest.length + 1, bp := .fenced } [] hop 0 (by rw [getD_last]; exact hpar)
    (fun h => by rw [getD_last, hk] at h; cases h) _ hc

/-- the per-line loop on the closing fence: the block is closed on this line -/
theorem lineLoop_fence_close (hl : Ln src p e v) (fc : UInt8) (hfc : fc = 96 ∨ fc = 126) (n : Nat)
    (hv : v = List.replicate (n + 3) fc ++ [10]) (k : Int) (d : Blocks.Node) (rest : List Blocks.Node)
    (x : Blocks.Node) (hk : x.kind = .fencedCodeBlock) (hpar : x.parent = some 0)
    (pc : Ctx) (hfd : pc.fence = some (fdOf fc n (rest.length + 1)))
    (hop : pc.opened = [{ node := rest.length + 1, bp := .fenced }]) (bl : List LineStat) :
    ∃ lo' : Int,
    lineLoopT pts 0 [{ node := rest.length + 1, bp := .fenced }] 0 [{ node := rest.length + 1, bp := .fenced }] 0 bl
        ⟨rdr src k p p e none (-1), d :: (rest ++ [x]), pc⟩ =
      .ok ((.next, bl ++ [{ lineNum := k, level := 0, isBlank := isBlank v }]),
        ⟨rdr src k p (e - 1) e (some [10]) lo', d :: (rest ++ [x]),
          { pc with blockOffset := 0, blockIndent := 0, opened := [], fence := none }⟩) := by
  have hp : p < src.length := by have := hl.le; have := hl.lt; omega
  have hlt := hl.lt
  have hle := hl.le
  have hk1 : (x.kind != .paragraph) = true := by rw [hk]; rfl
  have hk2 : (x.kind == .paragraph) = false := by rw [hk]; rfl
  have hsub : sub src (e - 1) e = [10] := sub_last (by rw [hl.sub, hv]) hlt (by rw [← hv]; exact hl.len)
  obtain ⟨lo', hlo⟩ := lineOffset_any (src := src) (h := p) (p := e - 1) (by omega) (by omega) k e (some [10])
    (d :: (rest ++ [x])) pc
  refine ⟨lo', ?_⟩
  have hob : ∀ blank, openBlocksT pts 0 blank ⟨rdr src k p (e - 1) e none (-1), d :: (rest ++ [x]), pc⟩ =
      .ok (.noBlocksOpened, ⟨rdr src k p (e - 1) e (some [10]) lo', d :: (rest ++ [x]),
        { pc with blockOffset := 0, blockIndent := 0 }⟩) := by
    intro blank
    unfold openBlocksT
    simp only [bind_apply, lastOpenedBlock_run, hop, List.getLast?_singleton, pure_apply, source_run, retryFuel,
      getNode_run, getD_last, hk2]
    rw [openBlocksLoopT]
    have hiw : ∀ lo : Int, indentWidthI [10] lo = (0, 0) := by
      intro lo; unfold GM.Blocks.indentWidthI GM.Blocks.indentWidthGo; simp
    simp only [bind_apply, peekLine_fresh hsub (by omega) (by omega) hle, Option.getD_some, hlo, hiw]
    have hidx : idx [10] 0 = .ok 10 := rfl
    simp [modPc_run, bind_apply, hidx, liftE_ok, toContinuable, pure_apply, hop]
  rw [lineLoopT]
  simp only [bind_apply, peekLine_fresh hl.sub hp (Nat.le_of_lt hl.lt) hl.le, position_run, getNode_run, getD_last, hk1,
    if_true, bpContinue, fencedContinue_close hl [10] (Or.inl rfl) fc hfc n hv k _ pc _ hfd, stClose,
    List.length_singleton]
  simp [liftE_ok, rdr_line, hob, pure_apply, getPc_run, hop, slotAfter, bind_apply, map_apply, blockAt]
  rw [closeBlocks_fence _ d rest x hk hpar
    { pc with blockOffset := 0, blockIndent := 0, opened := [{ node := rest.length + 1, bp := .fenced }] } fc n hfd rfl]
end fence

/-- the line segments of the code lines `ls` from byte `p` on -/
def csegs : Nat → List Bytes → List Segment
  | _, [] => []
  | p, l :: rest => csg p (p + l.length + 1) :: csegs (p + l.length + 1) rest

theorem csegs_append (p : Nat) (ls : List Bytes) (l : Bytes) :
    csegs p (ls ++ [l]) = csegs p ls ++ [csg (p + (paraBytes ls).length) (p + (paraBytes ls).length + l.length + 1)] := by
  induction ls generalizing p with
  | nil => simp [csegs, paraBytes]
  | cons a rest ih =>
    simp only [List.cons_append, csegs, ih, paraBytes, List.flatMap_cons, List.length_append, List.length_cons,
      List.length_nil]
    have e : p + a.length + 1 + (List.flatMap (fun x => x ++ [10]) rest).length =
        p + (a.length + (0 + 1) + (List.flatMap (fun x => x ++ [10]) rest).length) := by omega
    rw [e]

/-- a content line cannot be taken for indentation or for the closing fence -/
def CodeLine (fc : UInt8) (l : Bytes) : Prop := ∀ c0 t, l ++ [10] = c0 :: t → c0 ≠ 32 ∧ c0 ≠ 9 ∧ c0 ≠ fc

section fenceLoop
variable {src : Bytes}

/-- the per-line loop over the content lines `more` of the open fenced code block -/
theorem fence_body (fc : UInt8) (n : Nat) (d : Blocks.Node) (rest : List Blocks.Node)
    (info : Option Segment) (b : Bool) (P : Nat) :
    ∀ (more done : List Bytes) (k : Int) (fl : Nat) (bl : List LineStat) (pc : Ctx),
      ParaAt src (P + (paraBytes done).length) more → (∀ l ∈ more, CodeLine fc l) →
      pc.opened = [{ node := rest.length + 1, bp := .fenced }] → pc.fence = some (fdOf fc n (rest.length + 1)) →
      ∃ bl' k',
        linesLoopT pts 0 (fl + more.length) bl
            ⟨rdr src k (P + (paraBytes done).length) (P + (paraBytes done).length)
              (lineEnd src (P + (paraBytes done).length)) none (-1),
              d :: (rest ++ [fenceN info (csegs P done) b]), pc⟩ =
          linesLoopT pts 0 fl bl'
            ⟨rdr src k' (P + (paraBytes (done ++ more)).length) (P + (paraBytes (done ++ more)).length)
              (lineEnd src (P + (paraBytes (done ++ more)).length)) none (-1),
              d :: (rest ++ [fenceN info (csegs P (done ++ more)) b]), pc⟩ := by
  intro more
  induction more with
  | nil =>
    intro done k fl bl pc _ _ _ _
    exact ⟨bl, k, by simp⟩
  | cons l more ih =>
    intro done k fl bl pc hpa hcode hop hfd
    obtain ⟨hl, hm'⟩ := hpa
    have eq1 : P + (paraBytes (done ++ [l])).length = P + (paraBytes done).length + l.length + 1 := by
      rw [paraBytes_snoc_len]; omega
    have eapp : done ++ l :: more = (done ++ [l]) ++ more := by simp
    obtain ⟨c0, t, hvt⟩ : ∃ c0 t, l ++ [10] = c0 :: t := by
      cases l with
      | nil => exact ⟨10, [], rfl⟩
      | cons a r => exact ⟨a, r ++ [10], rfl⟩
    obtain ⟨h32, h9, hne⟩ := hcode l (by simp) c0 t hvt
    obtain ⟨bl', k', h1⟩ :=
      ih (done ++ [l]) (k + 1) fl (bl ++ [{ lineNum := k, level := 0, isBlank := isBlank (l ++ [10]) }]) pc
        (by rw [eq1]; exact hm') (fun x hx => hcode x (by simp [hx])) hop hfd
    refine ⟨bl', k', ?_⟩
    have efl : fl + (l :: more).length = (fl + more.length) + 1 := by simp; omega
    rw [efl, pass_next hl k _ _ pc _ _ hop bl _ _ _ _
      (lineLoop_fence_cont hl fc n c0 t hvt h32 h9 hne k d rest info (csegs P done) b pc hfd hop bl)]
    rw [csegs_append, eq1] at h1
    rw [eapp]
    exact h1

/-- the per-line loop over the remaining content lines `more` and the closing fence of the open fenced code block -/
theorem linesLoop_fence (fc : UInt8) (hfc : fc = 96 ∨ fc = 126) (n : Nat) (d : Blocks.Node) (rest : List Blocks.Node)
    (info : Option Segment) (b : Bool) (P : Nat) (more done : List Bytes) (k : Int) (fuel : Nat) (bl : List LineStat)
    (pc : Ctx) (hpa : ParaAt src (P + (paraBytes done).length) (more ++ [List.replicate (n + 3) fc]))
    (hcode : ∀ l ∈ more, CodeLine fc l) (hf : more.length + 2 ≤ fuel)
    (hop : pc.opened = [{ node := rest.length + 1, bp := .fenced }]) (hfd : pc.fence = some (fdOf fc n (rest.length + 1))) :
    ∃ bl' s',
      linesLoopT pts 0 fuel bl
          ⟨rdr src k (P + (paraBytes done).length) (P + (paraBytes done).length)
            (lineEnd src (P + (paraBytes done).length)) none (-1),
            d :: (rest ++ [fenceN info (csegs P done) b]), pc⟩ = .ok ((false, bl'), s') ∧
        s'.nodes = d :: (rest ++ [fenceN info (csegs P (done ++ more)) b]) ∧ s'.pc.opened = [] ∧
        s'.pc.refs = pc.refs ∧
        ∃ k', s'.r = rdr src k' (P + (paraBytes (done ++ more ++ [List.replicate (n + 3) fc])).length)
          (P + (paraBytes (done ++ more ++ [List.replicate (n + 3) fc])).length)
          (lineEnd src (P + (paraBytes (done ++ more ++ [List.replicate (n + 3) fc])).length)) none (-1) := by
  obtain ⟨f, rfl⟩ : ∃ f, fuel = (f + 1 + 1) + more.length := ⟨fuel - more.length - 2, by omega⟩
  obtain ⟨bl1, k1, hbody⟩ := fence_body (src := src) fc n d rest info b P more done k (f + 1 + 1) bl pc
    (paraAt_take more _ _ hpa) hcode hop hfd
  have hl : Ln src (P + (paraBytes (done ++ more)).length) (P + (paraBytes (done ++ more)).length + (n + 3) + 1)
      (List.replicate (n + 3) fc ++ [10]) := by
    have := (paraAt_drop more [List.replicate (n + 3) fc] _ hpa).1
    have e : P + (paraBytes done).length + (paraBytes more).length = P + (paraBytes (done ++ more)).length := by
      simp [paraBytes]; omega
    simpa [e] using this
  obtain ⟨lo', hcl⟩ := lineLoop_fence_close hl fc hfc n rfl k1 d rest (fenceN info (csegs P (done ++ more)) b) rfl rfl pc
    hfd hop bl1
  have eQ : P + (paraBytes (done ++ more ++ [List.replicate (n + 3) fc])).length =
      P + (paraBytes (done ++ more)).length + (n + 3) + 1 := by
    simp only [paraBytes_snoc_len, List.length_replicate]; omega
  refine ⟨bl1 ++ [{ lineNum := k1, level := 0, isBlank := isBlank (List.replicate (n + 3) fc ++ [10]) }],
    ⟨rdr src (k1 + 1) (P + (paraBytes (done ++ more)).length + (n + 3) + 1)
      (P + (paraBytes (done ++ more)).length + (n + 3) + 1)
      (lineEnd src (P + (paraBytes (done ++ more)).length + (n + 3) + 1)) none (-1),
      d :: (rest ++ [fenceN info (csegs P (done ++ more)) b]),
      { pc with blockOffset := 0, blockIndent := 0, opened := [], fence := none }⟩, ?_, rfl, rfl, rfl, k1 + 1, by rw [eQ]⟩
  rw [hbody, pass_next hl k1 _ _ pc _ _ hop bl1 _ _ _ (f + 1) hcl]
  exact linesLoop_done f _ _ _ _ rfl
end fenceLoop

end GM.Proof.CMFrag
end CMFrag5Lines

section CMFrag5Block
namespace GM.Proof.CMFrag
open GM GM.Text GM.Blocks GM.Spec

/-- the source lines of a block (without line feeds) -/
def lines5 : Raw5 → List Bytes
  | .old b => lines4 b
  | .fence fc n info ls => (List.replicate (n + 3) fc ++ info) :: (ls ++ [List.replicate (n + 3) fc])
  | .icode ls => icLines ls

def conv5 (it : Nat × Raw5) : Nat × List Bytes := (it.1, lines5 it.2)

/-- the closed block-phase node of a block that starts at byte `p` -/
def node5 (p : Nat) : Raw5 → Bool → Blocks.Node
  | .old b, bk => node4 p b bk
  | .fence _ n info ls, bk =>
    fenceN (if info.isEmpty then none else some (sg (p + n + 3) (p + n + 3 + info.length)))
      (csegs (p + n + 3 + info.length + 1) ls) bk
  | .icode ls, bk => codeN (icsegs p ls) bk

def mkNodes5 : List (Nat × List Bytes) → List Raw5 → List Bool → List Blocks.Node
  | (p, _) :: cl, blk :: blks, b :: bs => node5 p blk b :: mkNodes5 cl blks bs
  | _, _, _ => []

/-- the closed node of the LAST block of a source without final line feed: an indented code block's last segment ends
    with the source (every other kind has the same node as with the line feed) -/
def node5E (p : Nat) : Raw5 → Bool → Blocks.Node
  | .icode ls, bk => codeN (icsegsE p ls) bk
  | b, bk => node5 p b bk

/-- `mkNodes5` with the node of the last block given by `NL` -/
def mkNodes5L (NL : Nat → Raw5 → Bool → Blocks.Node) :
    List (Nat × List Bytes) → List Raw5 → List Bool → List Blocks.Node
  | [(p, _)], [blk], [b] => [NL p blk b]
  | (p, _) :: cl, blk :: blks, b :: bs => node5 p blk b :: mkNodes5L NL cl blks bs
  | _, _, _ => []

theorem mkNodes5L_node5 : ∀ (cl : List (Nat × List Bytes)) (blks : List Raw5) (bs : List Bool),
    mkNodes5L node5 cl blks bs = mkNodes5 cl blks bs
  | [], _, _ => by simp [mkNodes5L, mkNodes5]
  | _ :: _, [], _ => by simp [mkNodes5L, mkNodes5]
  | _ :: _, _ :: _, [] => by simp [mkNodes5L, mkNodes5]
  | [(p, ls)], [blk], [b] => by simp [mkNodes5L, mkNodes5]
  | (p, ls) :: x :: cl, blk :: blks, b :: bs => by
    have ih := mkNodes5L_node5 (x :: cl) blks bs
    cases blks with
    | nil => simp [mkNodes5L, mkNodes5]
    | cons b2 blks' =>
      cases bs with
      | nil => simp [mkNodes5L, mkNodes5]
      | cons k2 bs' => simp only [mkNodes5L, mkNodes5] at ih ⊢; rw [ih]
  | [(p, ls)], blk :: b2 :: blks, b :: bs => by simp [mkNodes5L, mkNodes5]
  | [(p, ls)], [blk], b :: k2 :: bs => by simp [mkNodes5L, mkNodes5]

theorem mkNodes5L_cons (NL : Nat → Raw5 → Bool → Blocks.Node) (p : Nat) (ls : List Bytes) (x : Nat × List Bytes)
    (cl : List (Nat × List Bytes)) (blk b2 : Raw5) (blks : List Raw5) (b k2 : Bool) (bs : List Bool) :
    mkNodes5L NL ((p, ls) :: x :: cl) (blk :: b2 :: blks) (b :: k2 :: bs) =
      node5 p blk b :: mkNodes5L NL (x :: cl) (b2 :: blks) (k2 :: bs) := by
  simp [mkNodes5L]

/-- what the block phase needs of a block -/
def Good5 : Raw5 → Prop
  | .old b => Good4 b
  | .fence fc _ info ls => (fc = 96 ∨ fc = 126) ∧ (∀ c ∈ info, GM.Spec.CM.isAlnumC c = true) ∧ ∀ l ∈ ls, CodeLine fc l
  | .icode ls => ls ≠ [] ∧ ∀ l ∈ ls, IcLine l

/-- the first gap one larger: the blank line in front belongs to the gap -/
def bump : List (Nat × Raw5) → List (Nat × Raw5)
  | [] => []
  | (g, b) :: rest => (g + 1, b) :: rest

theorem bump_snd (items : List (Nat × Raw5)) : (bump items).map (·.2) = items.map (·.2) := by
  cases items with
  | nil => rfl
  | cons it rest => obtain ⟨g, b⟩ := it; rfl

theorem closedOf_bump (q : Nat) (items : List (Nat × Raw5)) :
    closedOf q ((bump items).map conv5) = closedOf (q + 1) (items.map conv5) := by
  cases items with
  | nil => rfl
  | cons it rest =>
    obtain ⟨g, b⟩ := it
    have e : q + (g + 1) = q + 1 + g := by omega
    simp only [bump, List.map_cons, conv5, closedOf, e]

theorem mkNodes5_bump (q : Nat) (items : List (Nat × Raw5)) (bs : List Bool) :
    mkNodes5 (closedOf q ((bump items).map conv5)) ((bump items).map (·.2)) bs =
      mkNodes5 (closedOf (q + 1) (items.map conv5)) (items.map (·.2)) bs := by
  rw [closedOf_bump, bump_snd]

theorem sub_drop_prefix (src : Bytes) (p e : Nat) (a b : Bytes) (h : sub src p e = a ++ b) (hlen : (a ++ b).length = e - p) :
    sub src (p + a.length) e = b := by
  unfold sub at *
  have e1 : List.drop (p + a.length) src = List.drop a.length (List.drop p src) := by rw [List.drop_drop]
  have e2 : e - (p + a.length) = e - p - a.length := by omega
  rw [e1, e2, ← List.drop_take, h]
  simp

theorem seg_value_nat (src : Bytes) (p e : Nat) (fn : Bool) (v : Bytes) (hsub : sub src p e = v) (hpe : p ≤ e)
    (he : e ≤ src.length) (hnn : fn = true → v.getLast? = some 10) :
    Segment.value { start := (p : Int), stop := (e : Int), padding := 0, forceNewline := fn } src = .ok v := by
  have c2 : (0 ≤ (p : Int) ∧ (p : Int) ≤ (e : Int) ∧ (e : Int) ≤ (src.length : Int)) := by omega
  cases fn with
  | false => simp [Segment.value, sliceB, c2, needsNewline, hsub, bind, Except.bind, pure, Except.pure]
  | true =>
    have := hnn rfl
    simp [Segment.value, sliceB, c2, needsNewline, hsub, this, bind, Except.bind, pure, Except.pure]

theorem csg_value {src : Bytes} {p : Nat} {l : Bytes} (hl : Ln src p (p + l.length + 1) (l ++ [10])) :
    (csg p (p + l.length + 1)).value src = .ok (l ++ [10]) :=
  seg_value_nat src p (p + l.length + 1) true (l ++ [10]) hl.sub (by omega) hl.le (fun _ => by simp)

theorem segValues_csegs {src : Bytes} : ∀ (ls tail : List Bytes) (P : Nat), ParaAt src P (ls ++ tail) →
    GM.Convert.segValues src (csegs P ls) = .ok (ls.map (· ++ [10]))
  | [], _, _, _ => rfl
  | l :: rest, tail, P, h => by
    have ih := segValues_csegs rest tail (P + l.length + 1) h.2
    simp only [csegs, GM.Convert.segValues, csg_value h.1, ih, bind, Except.bind, pure, Except.pure, List.map_cons]

/-- what the three phases need of a block -/
def Good5' : Raw5 → Prop
  | .old b => Good4' b
  | .fence fc _ info ls => (fc = 96 ∨ fc = 126) ∧ (∀ c ∈ info, GM.Spec.CM.isAlnumC c = true) ∧
      ∀ l ∈ ls, CodeLine fc l ∧ ∀ c ∈ l, c ≠ 10
  | .icode ls => ls ≠ [] ∧ ∀ l ∈ ls, IcLine l

theorem good5_of (b : Raw5) (h : Good5' b) : Good5 b := by
  cases b with
  | old b => exact good4_of b h
  | fence fc n info ls => exact ⟨h.1, h.2.1, fun l hl => (h.2.2 l hl).1⟩
  | icode ls => exact h

theorem lines5_no_nl (b : Raw5) (h : Good5' b) : ∀ l ∈ lines5 b, ∀ c ∈ l, c ≠ 10 := by
  cases b with
  | old b => exact lines4_no_nl b h
  | fence fc n info ls =>
    obtain ⟨hfc, hinfo, hls⟩ := h
    have hfc10 : fc ≠ 10 := by rcases hfc with h | h <;> subst h <;> decide
    intro l hl c hc
    simp only [lines5, List.mem_cons, List.mem_append, List.mem_singleton] at hl
    rcases hl with rfl | hl | hl
    · simp only [List.mem_append, List.mem_replicate] at hc
      rcases hc with ⟨_, rfl⟩ | hc
      · exact hfc10
      · exact (alnum_facts_fence c (hinfo c hc)).2.2.1
    · exact (hls l hl).2 c hc
    · simp at hl
      subst hl
      simp only [List.mem_replicate] at hc
      rw [hc.2]; exact hfc10
  | icode ls =>
    intro l hl c hc
    simp only [lines5, icLines, List.mem_map] at hl
    obtain ⟨l', hl', rfl⟩ := hl
    simp only [List.mem_append] at hc
    rcases hc with hc | hc
    · simp [ind4] at hc; rw [hc]; decide
    · exact (h.2 l' hl').noNl c hc

theorem lines5_ne (b : Raw5) (h : Good5 b) : lines5 b ≠ [] := by
  cases b with
  | old b => exact lines4_ne b h
  | fence fc n info ls => simp [lines5]
  | icode ls => simpa [lines5, icLines] using h.1

theorem segValues_icsegs {src : Bytes} : ∀ (ls : List Bytes) (P : Nat), ParaAt src P (icLines ls) →
    GM.Convert.segValues src (icsegs P ls) = .ok (ls.map (· ++ [10]))
  | [], _, _ => rfl
  | l :: rest, P, h => by
    have e : P + (ind4 ++ l).length + 1 = P + 4 + l.length + 1 := by simp [ind4]; omega
    have h1 : Ln src P (P + 4 + l.length + 1) ((ind4 ++ l) ++ [10]) := by have := h.1; rw [e] at this; exact this
    have ih := segValues_icsegs rest (P + 4 + l.length + 1) (by have := h.2; rw [e] at this; exact this)
    have hsub : sub src (P + 4) (P + 4 + l.length + 1) = l ++ [10] := by
      have := sub_drop_prefix src P (P + 4 + l.length + 1) ind4 (l ++ [10]) (by rw [h1.sub]; simp)
        (by simp [ind4]; omega)
      simpa [ind4] using this
    have hval : (csg (P + 4) (P + 4 + l.length + 1)).value src = .ok (l ++ [10]) :=
      seg_value_nat src (P + 4) (P + 4 + l.length + 1) true (l ++ [10]) hsub (by omega) h1.le (fun _ => by simp)
    simp only [icsegs, GM.Convert.segValues, hval, ih, bind, Except.bind, pure, Except.pure, List.map_cons]

theorem mkNodes5_children : ∀ (cl : List (Nat × List Bytes)) (blks : List Raw5) (bs : List Bool),
    ∀ n ∈ mkNodes5 cl blks bs, n.children = []
  | [], _, _, n, h => by simp [mkNodes5] at h
  | _ :: _, [], _, n, h => by simp [mkNodes5] at h
  | _ :: _, _ :: _, [], n, h => by simp [mkNodes5] at h
  | (p, ls) :: cl, b :: blks, bk :: bs, n, h => by
    simp only [mkNodes5, List.mem_cons] at h
    rcases h with rfl | h
    · cases b with
      | old b => cases b <;> rfl
      | fence fc n info ls => rfl
      | icode ls => rfl
    · exact mkNodes5_children cl blks bs n h

theorem mkNodes5_length : ∀ (cl : List (Nat × List Bytes)) (blks : List Raw5) (bs : List Bool),
    blks.length = cl.length → bs.length = cl.length → (mkNodes5 cl blks bs).length = cl.length
  | [], _, _, _, _ => by simp [mkNodes5]
  | _ :: _, [], _, h, _ => by simp at h
  | _ :: _, _ :: _, [], _, h => by simp at h
  | (p, ls) :: cl, b :: blks, bk :: bs, h1, h2 => by
    simp only [mkNodes5, List.length_cons]
    rw [mkNodes5_length cl blks bs (by simpa using h1) (by simpa using h2)]

theorem mkNodes5L_length (NL : Nat → Raw5 → Bool → Blocks.Node) :
    ∀ (cl : List (Nat × List Bytes)) (blks : List Raw5) (bs : List Bool),
    blks.length = cl.length → bs.length = cl.length → (mkNodes5L NL cl blks bs).length = cl.length
  | [], _, _, _, _ => by simp [mkNodes5L]
  | _ :: _, [], _, h, _ => by simp at h
  | _ :: _, _ :: _, [], _, h => by simp at h
  | [(p, ls)], [b], [bk], _, _ => by simp [mkNodes5L]
  | [(p, ls)], b :: b2 :: blks, _ :: _, h, _ => by simp at h
  | [(p, ls)], [b], bk :: k2 :: bs, _, h => by simp at h
  | (p, ls) :: x :: cl, [b], _ :: _, h, _ => by simp at h
  | (p, ls) :: x :: cl, b :: b2 :: blks, [bk], _, h => by simp at h
  | (p, ls) :: x :: cl, b :: b2 :: blks, bk :: k2 :: bs, h1, h2 => by
    rw [mkNodes5L_cons, List.length_cons,
      mkNodes5L_length NL (x :: cl) (b2 :: blks) (k2 :: bs) (by simpa using h1) (by simpa using h2)]
    simp

theorem node5_children (p : Nat) (b : Raw5) (bk : Bool) : (node5 p b bk).children = [] := by
  cases b with
  | old b => cases b <;> rfl
  | fence fc n info ls => rfl
  | icode ls => rfl

theorem node5E_children (p : Nat) (b : Raw5) (bk : Bool) : (node5E p b bk).children = [] := by
  cases b with
  | old b => cases b <;> rfl
  | fence fc n info ls => rfl
  | icode ls => rfl

theorem mkNodes5L_children (NL : Nat → Raw5 → Bool → Blocks.Node) (hNL : ∀ p b bk, (NL p b bk).children = []) :
    ∀ (cl : List (Nat × List Bytes)) (blks : List Raw5) (bs : List Bool),
    ∀ n ∈ mkNodes5L NL cl blks bs, n.children = []
  | [], _, _, n, h => by simp [mkNodes5L] at h
  | _ :: _, [], _, n, h => by simp [mkNodes5L] at h
  | _ :: _, _ :: _, [], n, h => by simp [mkNodes5L] at h
  | [(p, ls)], [b], [bk], n, h => by
    simp only [mkNodes5L, List.mem_singleton] at h
    subst h; exact hNL p b bk
  | [(p, ls)], b :: b2 :: blks, bk :: bs, n, h => by
    simp only [mkNodes5L, List.mem_cons, List.not_mem_nil, or_false] at h
    subst h; exact node5_children p b bk
  | [(p, ls)], [b], bk :: k2 :: bs, n, h => by
    simp only [mkNodes5L, List.mem_cons, List.not_mem_nil, or_false] at h
    subst h; exact node5_children p b bk
  | (p, ls) :: x :: cl, b :: blks, bk :: bs, n, h => by
    have e : mkNodes5L NL ((p, ls) :: x :: cl) (b :: blks) (bk :: bs) =
        node5 p b bk :: mkNodes5L NL (x :: cl) blks bs := by
      cases blks with
      | nil => simp [mkNodes5L]
      | cons b2 blks' =>
        cases bs with
        | nil => simp [mkNodes5L]
        | cons k2 bs' => rw [mkNodes5L_cons]
    rw [e, List.mem_cons] at h
    rcases h with rfl | h
    · exact node5_children p b bk
    · exact mkNodes5L_children NL hNL (x :: cl) blks bs n h

open GM.Spec.CM GM.Spec.CMFrag

theorem isIcB_rawOfH (b : HBlock) : isIcB (rawOfH b) = false := by
  cases b <;> rfl

theorem paraBytes_rawOfH (b : HBlock) : paraBytes (lines5 (rawOfH b)) = spellHBlock b := by
  cases b with
  | base b => exact paraBytes_rawOfG b
  | fcode tilde n info lines =>
    simp [rawOfH, lines5, spellHBlock, paraBytes, List.flatMap_append]

theorem printable_code : ∀ c : UInt8, printable c = true → c ≠ 10 ∧ c ≠ 9 := GM.forall_uint8 _ (by decide +kernel)

theorem codeLine_of_ok (fc : UInt8) (hfc : fc = 96 ∨ fc = 126) (l : Bytes) (h : codeLineOK fc l = true) :
    CodeLine fc l ∧ ∀ c ∈ l, c ≠ 10 := by
  simp only [codeLineOK, Bool.and_eq_true, List.all_eq_true] at h
  obtain ⟨hp, hh⟩ := h
  refine ⟨?_, fun c hc => (printable_code c (hp c hc)).1⟩
  intro c0 t he
  cases l with
  | nil =>
    simp at he
    obtain ⟨rfl, _⟩ := he
    rcases hfc with h | h <;> subst h <;> decide
  | cons a r =>
    simp at he
    obtain ⟨rfl, _⟩ := he
    simp only [List.head?_cons, Bool.and_eq_true, bne_iff_ne, ne_eq] at hh
    exact ⟨hh.1, (printable_code a (hp a (by simp))).2, hh.2⟩

theorem good5_rawOfH (b : HBlock) (h : hblockOK b = true) : Good5' (rawOfH b) := by
  cases b with
  | base b => exact good4_rawOfG b h
  | fcode tilde n info lines =>
    simp only [hblockOK, Bool.and_eq_true, List.all_eq_true] at h
    have hfc : fenceChar tilde = 96 ∨ fenceChar tilde = 126 := by
      cases tilde
      · left; rfl
      · right; rfl
    exact ⟨hfc, h.1, fun l hl => codeLine_of_ok _ hfc l (h.2 l hl)⟩

end GM.Proof.CMFrag
end CMFrag5Block
