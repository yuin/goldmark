/-
  GM.Proof.BlocksTerm — What the termination proof of the block phase (GM.Proof.BlocksT) measures: the line loops of `parseBlocks` need at most (number of lines + 2) iterations
  (`Stop`, `mu`), and the `goto retry` loop of `openBlocks` has enough fuel because the model's contract monitor makes `retryMeasure` decrease
  (`Tr`, `RetryInv`).
-/
import GM.Proof.BlocksPres
import GM.Proof.Reader

section BlocksTerm
/-
  Line level. `Stop src b s`: the reader still reads `src`, `0 ≤ pos.Stop ≤ len` and `b ≤ pos.Stop`. Every
  reader primitive keeps it (the reader never moves `pos.Stop` backwards), hence so does every block
  parser (GM.Proof.BlocksPres). `mu` = number of lines after the current one + 1 if there is a current
  line; `AdvanceLine` after a line that was there decreases it.
-/

namespace GM.Blocks
open GM GM.Text

/-! ### scans: the lemmas of GM.Proof.Reader under the names of this namespace -/

export GM.Proof.Reader (lineLen_le lineLen_pos lineEnd_le lineEnd_ge lt_lineEnd)

/-- number of `\n` -/
def nlCount (l : Bytes) : Nat := (l.filter (· == 10)).length

/-- lines from byte `p` on -/
def linesAfter (src : Bytes) (p : Nat) : Nat := nlCount (src.drop p) + (if p < src.length then 1 else 0)

theorem nlCount_cons (c : UInt8) (cs : Bytes) : nlCount (c :: cs) = (if c == 10 then 1 else 0) + nlCount cs := by
  unfold nlCount; simp only [List.filter]; split <;> simp_all <;> omega

theorem nlCount_drop_le (l : Bytes) (k : Nat) : nlCount (l.drop k) ≤ nlCount l := by
  induction l generalizing k with
  | nil => simp
  | cons c cs ih =>
    cases k with
    | zero => simp
    | succ k => simp only [List.drop_succ_cons]; have := ih k; rw [nlCount_cons]; omega

theorem linesAfter_antitone (src : Bytes) {p q : Nat} (h : p ≤ q) : linesAfter src q ≤ linesAfter src p := by
  unfold linesAfter
  have e : src.drop q = (src.drop p).drop (q - p) := by rw [List.drop_drop]; congr 1; omega
  have := nlCount_drop_le (src.drop p) (q - p)
  rw [← e] at this
  split <;> split <;> omega

theorem nlCount_lineLen (l : Bytes) (h : l ≠ []) :
    nlCount (l.drop (lineLen l)) + (if lineLen l < l.length then 1 else 0) ≤ nlCount l := by
  induction l with
  | nil => exact absurd rfl h
  | cons c cs ih =>
    by_cases hc : (c == 10) = true
    · simp only [lineLen, hc, if_true, List.drop_succ_cons, List.drop_zero, nlCount_cons, List.length_cons]
      split <;> omega
    · have hc' : (c == 10) = false := by simpa using hc
      simp only [lineLen, hc', Bool.false_eq_true, if_false, nlCount_cons, List.length_cons]
      have e : List.drop (1 + lineLen cs) (c :: cs) = cs.drop (lineLen cs) := by
        rw [Nat.add_comm]; rfl
      rw [e]
      by_cases hcs : cs = []
      · subst hcs; simp [lineLen, nlCount]
      · have := ih hcs
        have e2 : (1 + lineLen cs < cs.length + 1) ↔ (lineLen cs < cs.length) := by omega
        simp only [e2]
        omega

theorem linesAfter_lineEnd (src : Bytes) {p : Nat} (h : p < src.length) :
    linesAfter src (lineEnd src p) + 1 ≤ linesAfter src p := by
  unfold linesAfter lineEnd
  rw [if_pos (Nat.le_of_lt h), if_pos h]
  have hne : src.drop p ≠ [] := by
    intro e; have := congrArg List.length e; simp at this; omega
  have := nlCount_lineLen (src.drop p) hne
  rw [List.drop_drop] at this
  have e : (lineLen (src.drop p) < (src.drop p).length) ↔ (p + lineLen (src.drop p) < src.length) := by
    simp; omega
  simp only [e] at this
  omega

theorem linesAfter_zero (src : Bytes) : linesAfter src 0 ≤ lineCount src := by
  unfold linesAfter lineCount nlCount; simp; split <;> omega

theorem linesAfter_len (src : Bytes) : linesAfter src src.length = 0 := by
  unfold linesAfter nlCount; simp

/-- there is a current line (`PeekLine` is not nil) -/
def hasLine (r : Reader) : Bool := decide (r.pos.start ≥ 0 ∧ r.pos.start < r.sourceLength)

/-- lines still to come, the current one included -/
def mu (src : Bytes) (r : Reader) : Nat := linesAfter src r.pos.stop.toNat + (if hasLine r then 1 else 0)

structure Stop (src : Bytes) (b : Int) (s : St) : Prop where
  source : s.r.source = src
  stop0 : 0 ≤ s.r.pos.stop
  stop_le : s.r.pos.stop ≤ src.length
  lb : b ≤ s.r.pos.stop

theorem Stop.ronly (src : Bytes) (b : Int) : ROnly (Stop src b) := fun _ _ _ h => ⟨h.source, h.stop0, h.stop_le, h.lb⟩

/-- the reader-level content of `Stop` -/
structure StopR (src : Bytes) (b : Int) (r : Reader) : Prop where
  source : r.source = src
  stop0 : 0 ≤ r.pos.stop
  stop_le : r.pos.stop ≤ src.length
  lb : b ≤ r.pos.stop

theorem Stop.toR {src b s} (h : Stop src b s) : StopR src b s.r := ⟨h.source, h.stop0, h.stop_le, h.lb⟩
theorem StopR.toS {src b} {s : St} {r : Reader} (h : StopR src b r) : Stop src b { s with r := r } :=
  ⟨h.source, h.stop0, h.stop_le, h.lb⟩

theorem StopR.advanceLine {src b r} (h : StopR src b r) : StopR src b r.advanceLine := by
  obtain ⟨h1, h2, h3, h4⟩ := h
  unfold Reader.advanceLine
  simp only
  have hn : ¬ (r.pos.stop < 0) := by omega
  rw [if_neg hn]
  have hle : r.pos.stop.toNat ≤ src.length := by omega
  have a := lineEnd_le src r.pos.stop.toNat
  have c := lineEnd_ge src hle
  refine ⟨h1, ?_, ?_, ?_⟩ <;> simp only [h1] <;> omega

/-- an `Except` result: the value satisfies `P`, an error is not the fuel error -/
structure GoodE {α : Type} (P : α → Prop) (e : Except Panic α) : Prop where
  ok : ∀ a, e = .ok a → P a
  err : ∀ x, e = .error x → x ≠ Panic.loop

theorem GoodE.pure {α} {P : α → Prop} {a : α} (h : P a) : GoodE P (Pure.pure a : Except Panic α) :=
  ⟨fun _ h' => by cases h'; exact h, fun _ h' => by cases h'⟩

theorem GoodE.bind {α β} {Q : α → Prop} {P : β → Prop} {m : Except Panic α} {f : α → Except Panic β}
    (hm : GoodE Q m) (hf : ∀ a, Q a → GoodE P (f a)) : GoodE P (m >>= f) := by
  cases m with
  | error e =>
    refine ⟨fun a h => ?_, fun x h => ?_⟩
    · simp only [Bind.bind, Except.bind] at h; cases h
    · simp only [Bind.bind, Except.bind] at h; cases h; exact hm.err _ rfl
  | ok a => exact hf a (hm.ok a rfl)

theorem GoodE.ite {α} {P : α → Prop} {c : Prop} [Decidable c] {a b : Except Panic α}
    (ha : c → GoodE P a) (hb : ¬ c → GoodE P b) : GoodE P (if c then a else b) := by
  split
  · exact ha ‹_›
  · exact hb ‹_›

theorem GoodE.of_noLoop {α} {e : Except Panic α} (h : NoLoop e) : GoodE (fun _ => True) e :=
  ⟨fun _ _ => trivial, h.h⟩

theorem StopR.advanceLoop {src b} (n : Nat) : ∀ {r : Reader}, StopR src b r →
    GoodE (StopR src b) (r.advanceLoop n) := by
  induction n with
  | zero => intro r h; unfold Reader.advanceLoop; exact GoodE.pure h
  | succ n ih =>
    intro r h
    unfold Reader.advanceLoop
    refine GoodE.ite (fun _ => ?_) (fun _ => GoodE.pure h)
    refine GoodE.ite (fun _ => ?_) (fun _ => ?_)
    · exact ih ⟨h.source, h.stop0, h.stop_le, h.lb⟩
    · refine GoodE.bind (GoodE.of_noLoop (getByte_noLoop _ _)) (fun c _ => ?_)
      refine GoodE.ite (fun _ => ih h.advanceLine) (fun _ => ih ⟨h.source, h.stop0, h.stop_le, h.lb⟩)

theorem StopR.advance {src b r} (n : Int) (h : StopR src b r) : GoodE (StopR src b) (r.advance n) := by
  unfold Reader.advance
  simp only
  refine GoodE.ite (fun _ => GoodE.pure ⟨h.source, h.stop0, h.stop_le, h.lb⟩) (fun _ => ?_)
  exact StopR.advanceLoop _ ⟨h.source, h.stop0, h.stop_le, h.lb⟩

theorem StopR.peekLine {src b r} (h : StopR src b r) :
    GoodE (fun x => StopR src b x.2 ∧ x.2.pos = r.pos ∧ x.1.1.isSome = hasLine r) r.peekLine := by
  unfold Reader.peekLine
  refine GoodE.ite (fun hc => ?_) (fun hc => GoodE.pure ⟨h, rfl, by simp [hasLine, hc]⟩)
  split
  · exact GoodE.pure ⟨h, rfl, by simp [hasLine, hc]⟩
  · refine GoodE.bind (GoodE.of_noLoop (value_noLoop _ _)) (fun v _ => ?_)
    exact GoodE.pure ⟨⟨h.source, h.stop0, h.stop_le, h.lb⟩, rfl, by simp [hasLine, hc]⟩

theorem colLoop_noLoop (src : Bytes) (a b : Int) : NoLoop (colLoop src a b) := by unfold colLoop; noloop

theorem StopR.lineOffsetOp {src b r} (h : StopR src b r) :
    GoodE (fun x => StopR src b x.2 ∧ x.2.pos = r.pos) r.lineOffsetOp := by
  unfold Reader.lineOffsetOp
  refine GoodE.ite (fun _ => ?_) (fun _ => GoodE.pure ⟨h, rfl⟩)
  refine GoodE.bind (GoodE.of_noLoop (colLoop_noLoop _ _ _)) (fun v _ => ?_)
  exact GoodE.pure ⟨⟨h.source, h.stop0, h.stop_le, h.lb⟩, rfl⟩

/-- lifting a reader operation that keeps `StopR` -/
theorem pres_of_reader {α β : Type} (src : Bytes) (b : Int) (f : Reader → Except Panic (α × Reader)) (g : α → β)
    (hf : ∀ r, StopR src b r → GoodE (fun x => StopR src b x.2) (f r)) :
    Pres (Stop src b) (fun s => do let (x, r) ← f s.r; Pure.pure (g x, { s with r := r }) : M β) := by
  constructor
  intro s hs
  have := hf s.r hs.toR
  cases hp : f s.r with
  | error e => simp only [hp, bind, Except.bind]; exact this.err e hp
  | ok x => simp only [hp, bind, Except.bind, Pure.pure, Except.pure]; exact (this.ok x hp).toS

theorem peekLine_stop (src : Bytes) (b : Int) : Pres (Stop src b) peekLine :=
  pres_of_reader src b Reader.peekLine id (fun _ h => ⟨fun a ha => (h.peekLine.ok a ha).1, h.peekLine.err⟩)

theorem lineOffset_stop (src : Bytes) (b : Int) : Pres (Stop src b) lineOffset :=
  pres_of_reader src b Reader.lineOffsetOp id (fun _ h => ⟨fun a ha => (h.lineOffsetOp.ok a ha).1, h.lineOffsetOp.err⟩)

theorem advance_stop (src : Bytes) (b : Int) (n : Int) : Pres (Stop src b) (advance n) := by
  constructor
  intro s hs
  have := hs.toR.advance n
  unfold GM.Blocks.advance
  cases hp : s.r.advance n with
  | error e => simp only [bind, Except.bind]; exact this.err e hp
  | ok x => simp only [bind, Except.bind, Pure.pure, Except.pure]; exact (this.ok x hp).toS

theorem StopR.setPadding {src b r} (v : Int) (h : StopR src b r) : StopR src b (r.setPadding v) :=
  ⟨h.source, h.stop0, h.stop_le, h.lb⟩

theorem advanceAndSetPadding_stop (src : Bytes) (b : Int) (n p : Int) :
    Pres (Stop src b) (advanceAndSetPadding n p) := by
  constructor
  intro s hs
  have := hs.toR.advance n
  unfold GM.Blocks.advanceAndSetPadding Reader.advanceAndSetPadding
  cases hp : s.r.advance n with
  | error e => simp only [bind, Except.bind]; exact this.err e hp
  | ok x =>
    have hx := this.ok x hp
    simp only [bind, Except.bind, Pure.pure, Except.pure]
    by_cases hc : p > x.pos.padding
    · simp only [hc, if_true]; exact (hx.setPadding p).toS
    · simp only [hc, if_false]; exact hx.toS

theorem advanceLine_stop (src : Bytes) (b : Int) : Pres (Stop src b) advanceLine := by
  constructor
  intro s hs
  exact hs.toR.advanceLine.toS

theorem StopR.setPosition {src b r} (l : Int) (p : Segment) (h : StopR src b r) (hp : p.stop = r.pos.stop) :
    StopR src b (r.setPosition l p) := by
  unfold Reader.setPosition
  exact ⟨h.source, by simp only [hp]; exact h.stop0, by simp only [hp]; exact h.stop_le, by simp only [hp]; exact h.lb⟩

theorem setPosition_pos (r : Reader) (l : Int) (p : Segment) : (r.setPosition l p).pos = p := rfl

theorem preserveLeadingTab_stop (src : Bytes) (b : Int) (seg : Segment) (ind : Int) :
    Pres (Stop src b) (preserveLeadingTab seg ind) := by
  constructor
  intro s hs
  unfold preserveLeadingTab
  simp only [bind, StateT.bind, GM.Blocks.lineOffset, position, setPosition, Reader.position]
  have a1 := hs.toR.lineOffsetOp
  cases hp : s.r.lineOffsetOp with
  | error e => simp only [Except.bind]; exact a1.err e hp
  | ok x =>
    obtain ⟨a1, a1p⟩ := a1.ok x hp
    simp only [Except.bind, Pure.pure, Except.pure, StateT.pure]
    have b2 : StopR src b (x.2.setPosition x.2.line { start := x.2.pos.start - 1, stop := x.2.pos.stop }) :=
      a1.setPosition _ _ rfl
    have a2 := b2.lineOffsetOp
    cases hp2 : (x.2.setPosition x.2.line { start := x.2.pos.start - 1, stop := x.2.pos.stop }).lineOffsetOp with
    | error e => simp only [Except.bind]; exact a2.err e hp2
    | ok y =>
      obtain ⟨a2, a2p⟩ := a2.ok y hp2
      simp only [Except.bind]
      have : StopR src b (y.2.setPosition x.2.line x.2.pos) := by
        apply a2.setPosition
        rw [a2p, setPosition_pos]
      exact this.toS

theorem stop_prims (src : Bytes) (b : Int) : RPrims (Stop src b) where
  ronly := Stop.ronly src b
  peekLine := peekLine_stop src b
  lineOffset := lineOffset_stop src b
  advance := advance_stop src b
  advanceAndSetPadding := advanceAndSetPadding_stop src b
  preserveLeadingTab := preserveLeadingTab_stop src b


theorem mu_of_pos {src : Bytes} {r r' : Reader} (hp : r'.pos = r.pos) (hs : r'.source = r.source) :
    mu src r' = mu src r := by
  unfold mu hasLine Reader.sourceLength; rw [hp, hs]

theorem mu_le (src : Bytes) (r : Reader) : mu src r ≤ src.length + 2 := by
  unfold mu linesAfter
  have := nlCount_drop_le src r.pos.stop.toNat
  have : nlCount src ≤ src.length := by unfold nlCount; exact List.length_filter_le _ _
  split <;> split <;> omega

/-- `AdvanceLine` leaves at most the lines after the old `pos.Stop` -/
theorem mu_advanceLine {src b r} (h : StopR src b r) :
    mu src r.advanceLine ≤ linesAfter src r.pos.stop.toNat := by
  obtain ⟨h1, h2, h3, _⟩ := h
  unfold mu hasLine Reader.advanceLine Reader.sourceLength
  simp only
  have hn : ¬ (r.pos.stop < 0) := by omega
  rw [if_neg hn]
  simp only [h1, Int.toNat_natCast]
  by_cases hlt : r.pos.stop < src.length
  · have hlt' : r.pos.stop.toNat < src.length := by omega
    have := linesAfter_lineEnd src hlt'
    split <;> omega
  · have e : r.pos.stop.toNat = src.length := by omega
    have hd : ¬ (r.pos.stop ≥ 0 ∧ r.pos.stop < (src.length : Int)) := by omega
    simp only [hd, decide_false, Bool.false_eq_true, if_false, e]
    have : lineEnd src src.length = src.length := by
      unfold lineEnd; simp [lineLen]
    rw [this, linesAfter_len]; omega

/-- the line that was there is gone after processing it and `AdvanceLine` -/
theorem mu_next {src b} {r r1 : Reader} (hl : hasLine r = true) (h1 : StopR src r.pos.stop r1) (_h : StopR src b r) :
    mu src r1.advanceLine < mu src r := by
  have a := mu_advanceLine h1
  have c : linesAfter src r1.pos.stop.toNat ≤ linesAfter src r.pos.stop.toNat := by
    apply linesAfter_antitone
    have := h1.lb; have := _h.stop0; omega
  unfold mu at *
  rw [hl]; simp only [if_true]; omega

theorem peekLine_none_of_noLine (r : Reader) (h : hasLine r = false) :
    r.peekLine = .ok ((none, r.pos), r) := by
  unfold Reader.peekLine
  have : ¬ (r.pos.start ≥ 0 ∧ r.pos.start < r.sourceLength) := by
    simpa [hasLine] using h
  rw [if_neg this]; rfl

theorem hasLine_of_pos {r r' : Reader} (hp : r'.pos = r.pos) (hs : r'.source = r.source) :
    hasLine r' = hasLine r := by
  unfold hasLine Reader.sourceLength; rw [hp, hs]

/-- `reader.SkipBlankLines()` (the Reader model's loop) has enough fuel and only moves forward -/
theorem skipBlank_ok {src : Bytes} : ∀ (fuel : Nat) (lines : Int) (r : Reader) (b : Int),
    StopR src b r → mu src r < fuel →
    GoodE (fun x => StopR src b x.2 ∧ mu src x.2 ≤ mu src r ∧ (x.1.2.2 = true → hasLine x.2 = true))
      (skipBlankLines readerOps fuel lines r) := by
  intro fuel
  induction fuel with
  | zero => intro _ _ _ _ h; omega
  | succ fuel ih =>
    intro lines r b hr hmu
    unfold skipBlankLines
    simp only [readerOps]
    refine GoodE.bind hr.peekLine (fun x hx => ?_)
    obtain ⟨hx1, hx2, hx3⟩ := hx
    have hsrc : x.2.source = r.source := by rw [hx1.source, hr.source]
    have hmueq := mu_of_pos (src := src) hx2 hsrc
    have hleq := hasLine_of_pos hx2 hsrc
    obtain ⟨⟨line, seg⟩, r1⟩ := x
    simp only at hx1 hx2 hx3 hmueq hleq ⊢
    cases line with
    | none => exact GoodE.pure ⟨hx1, Nat.le_of_eq hmueq, fun h => by cases h⟩
    | some l =>
      simp only [Option.isSome_some] at hx3
      simp only
      refine GoodE.ite (fun _ => ?_) (fun _ => GoodE.pure ⟨hx1, Nat.le_of_eq hmueq, fun _ => by rw [hleq]; exact hx3.symm⟩)
      refine GoodE.bind (GoodE.pure (P := fun y => y = r1.advanceLine) rfl) (fun r2 hr2 => ?_)
      subst hr2
      have hl1 : hasLine r1 = true := by rw [hleq]; exact hx3.symm
      have hx1' : StopR src r1.pos.stop r1 := ⟨hx1.source, hx1.stop0, hx1.stop_le, Int.le_refl _⟩
      have hdec := mu_next hl1 hx1' hx1
      have := ih (lines + 1) r1.advanceLine b hx1.advanceLine (by omega)
      exact ⟨fun a ha => by
          obtain ⟨c1, c2, c3⟩ := this.ok a ha
          exact ⟨c1, by omega, c3⟩, this.err⟩

theorem mu_lt_loopFuel (src : Bytes) (r : Reader) : mu src r < loopFuel src := by
  have := mu_le src r; unfold loopFuel; omega

/-- the struct `NewReader` starts from (reader.go:109-120) -/
def readerZero (src : Bytes) : Reader :=
  { source := src, line := -1, peekedLine := none, pos := { start := 0, stop := 0 }, head := 0, lineOffset := -1 }

theorem reader_new_eq (src : Bytes) : Reader.new src = (readerZero src).advanceLine := rfl

theorem stopR_zero (src : Bytes) : StopR src 0 (readerZero src) := ⟨rfl, by simp [readerZero], by simp [readerZero], by simp [readerZero]⟩

/-- `Reader.new src` satisfies the line-level invariant -/
theorem stop_init (src : Bytes) : Stop src 0 (initSt src) := by
  unfold initSt; rw [reader_new_eq]
  have h := (stopR_zero src).advanceLine
  exact ⟨h.source, h.stop0, h.stop_le, h.lb⟩

theorem mu_init (src : Bytes) : mu src (initSt src).r < linesFuel src := by
  have h1 := mu_advanceLine (stopR_zero src)
  have h2 := linesAfter_zero src
  have e : (readerZero src).pos.stop.toNat = 0 := by simp [readerZero]
  rw [e] at h1
  unfold initSt linesFuel
  rw [reader_new_eq]
  simp only
  omega

end GM.Blocks
end BlocksTerm

section BlocksRetry
/-
  The `goto retry` loop of `openBlocks` (parser.go:935-1023) has enough fuel.

  The model monitors the BlockParser contract at every retry (`retryMeasure` must have decreased, otherwise it
  answers `Panic.pre`, see GM.Model.Blocks.Driver.openBlocksLoop). Hence a retry that continues has a smaller
  measure, the measure is below `retryFuel src` at the start, and the loop never answers `Panic.loop`. Here: the
  triple `Tr` and the loop invariant `RetryInv` with which GM.Proof.BlocksT proves that (`openBlocksLoopT_ok`, for any
  list of paragraph transformers). That the monitor never fires (`run src ≠ .error .pre`), i.e. that the block quote /
  list item parsers really consume a byte, is not proved here: it is part of the no-panic walk (`run_ok_all`,
  GM.Proof.BlocksNoPanicAll; the block quote's share is `blockquoteProcess_okl` of GM.Proof.BlocksQuote).
-/

namespace GM.Blocks
open GM GM.Text

/-- Hoare triple: from `P`, `m` either fails with a panic that is not the fuel error, or ends in `Q` -/
structure Tr {α : Type} (P : St → Prop) (m : M α) (Q : α → St → Prop) : Prop where
  h : ∀ s, P s → match m s with
    | .ok (a, s') => Q a s'
    | .error e => e ≠ Panic.loop

theorem Tr.pure {α} {P : St → Prop} {Q : α → St → Prop} (a : α) (h : ∀ s, P s → Q a s) :
    Tr P (Pure.pure a : M α) Q := ⟨fun s hs => h s hs⟩

theorem Tr.bind {α β} {P : St → Prop} {R : α → St → Prop} {Q : β → St → Prop} {m : M α} {f : α → M β}
    (hm : Tr P m R) (hf : ∀ a, Tr (R a) (f a) Q) : Tr P (m >>= f) Q := by
  constructor
  intro s hs
  have h1 := hm.h s hs
  show match (m >>= f) s with | .ok (a, s') => Q a s' | .error e => e ≠ Panic.loop
  simp only [Bind.bind, StateT.bind]
  cases hms : m s with
  | error e => rw [hms] at h1; simpa [Except.bind] using h1
  | ok p =>
    rw [hms] at h1
    simp only [Except.bind]
    exact (hf p.1).h p.2 h1

theorem Tr.ite {α} {P : St → Prop} {Q : α → St → Prop} {c : Prop} [Decidable c] {a b : M α}
    (ha : c → Tr P a Q) (hb : ¬ c → Tr P b Q) : Tr P (if c then a else b) Q := by
  split
  · exact ha ‹_›
  · exact hb ‹_›

theorem Tr.of_pres {α} {P I : St → Prop} {m : M α} (hm : Pres I m) (hP : ∀ s, P s → I s) :
    Tr P m (fun _ s => I s) := ⟨fun s hs => hm.h s (hP s hs)⟩

theorem Tr.weaken {α} {P P' : St → Prop} {Q : α → St → Prop} {m : M α} (h : Tr P m Q) (hP : ∀ s, P' s → P s) :
    Tr P' m Q := ⟨fun s hs => h.h s (hP s hs)⟩

theorem Tr.and_pres {α} {P I : St → Prop} {Q : α → St → Prop} {m : M α} (h : Tr P m Q) (hm : Pres I m) :
    Tr (fun s => P s ∧ I s) m (fun a s => Q a s ∧ I s) := by
  constructor
  intro s hs
  have h1 := h.h s hs.1
  have h2 := hm.h s hs.2
  cases hms : m s with
  | error e => rw [hms] at h1; exact h1
  | ok p => rw [hms] at h1 h2; exact ⟨h1, h2⟩

/-- the measure of the retry loop (defined in the model, where the contract monitor uses it) -/
abbrev phi (_src : Bytes) (s : St) : Nat := retryMeasure s

/-- the assertion carried through the prologue of one retry iteration -/
structure RetryInv (src : Bytes) (b : Int) (n : Nat) (hl : Bool) (s : St) : Prop where
  stop : Stop src b s
  fuel : phi src s < n
  line : hasLine s.r = hl

theorem phi_of_eq {src : Bytes} {s s' : St} (hp : s'.r.pos = s.r.pos) (hsrc : s'.r.source = s.r.source)
    (hn : s'.nodes = s.nodes) (ho : s'.pc.opened = s.pc.opened) : phi src s' = phi src s := by
  unfold phi retryMeasure lastIsList; rw [hp, hn, ho, hsrc]

theorem retryInv_peekLine {src b n} :
    Tr (fun s => Stop src b s ∧ phi src s < n) peekLine (fun x s => RetryInv src b n x.1.isSome s) := by
  constructor
  intro s hs
  have := hs.1.toR.peekLine
  unfold GM.Blocks.peekLine
  cases hp : s.r.peekLine with
  | error e => simp only [bind, Except.bind]; exact this.err e hp
  | ok x =>
    obtain ⟨c1, c2, c3⟩ := this.ok x hp
    simp only [bind, Except.bind, Pure.pure, Except.pure]
    refine ⟨c1.toS, ?_, ?_⟩
    · rw [phi_of_eq (s' := { s with r := x.2 }) (s := s) c2 (by rw [c1.source, hs.1.source]) rfl rfl]; exact hs.2
    · rw [hasLine_of_pos (r := s.r) c2 (by rw [c1.source, hs.1.source])]; exact c3.symm

theorem retryInv_lineOffset {src b n hl} : Pres (RetryInv src b n hl) lineOffset := by
  constructor
  intro s hs
  have := hs.stop.toR.lineOffsetOp
  unfold GM.Blocks.lineOffset
  cases hp : s.r.lineOffsetOp with
  | error e => simp only [bind, Except.bind]; exact this.err e hp
  | ok x =>
    obtain ⟨c1, c2⟩ := this.ok x hp
    simp only [bind, Except.bind, Pure.pure, Except.pure]
    refine ⟨c1.toS, ?_, ?_⟩
    · rw [phi_of_eq (s' := { s with r := x.2 }) (s := s) c2 (by rw [c1.source, hs.stop.source]) rfl rfl]; exact hs.fuel
    · rw [hasLine_of_pos (r := s.r) c2 (by rw [c1.source, hs.stop.source])]; exact hs.line

theorem retryInv_modPc {src b n hl} (f : Ctx → Ctx) (hf : ∀ pc, (f pc).opened = pc.opened) :
    Pres (RetryInv src b n hl) (modPc f) := by
  constructor
  intro s hs
  refine ⟨⟨hs.stop.source, hs.stop.stop0, hs.stop.stop_le, hs.stop.lb⟩, ?_, hs.line⟩
  rw [phi_of_eq (s' := { s with pc := f s.pc }) (s := s) rfl rfl rfl (hf _)]; exact hs.fuel

theorem retryInv_liftE {src b n hl α} (e : Except Panic α) (h : NoLoop e) : Pres (RetryInv src b n hl) (liftE e) :=
  liftE_pres e h

theorem toContinuable_pres {I : St → Prop} (h : RPrims I) (c : Bool) (r : OpenResult) (lb : Option Block) :
    Pres I (toContinuable c r lb) := by
  have := bpContinue_pres h
  unfold toContinuable; pres

theorem Tr.toPres {I : St → Prop} {α} {m : M α} (h : Tr I m (fun _ s => I s)) : Pres I m := ⟨h.h⟩

end GM.Blocks
end BlocksRetry
