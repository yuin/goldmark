/-
  GM.Proof.BlocksTNOCleanW — `InvW` through `closeBlocksT` with two transformer lists that agree on guarded paragraphs (`PTPostW`, `Agree`, `closeBlocksT_eqg`), then a clean state and what `Open`
  of a block parser does to it (`CleanW`, `DirtyW`, `OpenEffW`).
-/
import GM.Proof.BlocksTNOInvW

section BlocksTNOPostW
/-
  `PTPostW` (what `transformParagraph` with the link reference transformer followed by the table
  transformer ends in), `InvW.ptpostX`, the two-list agreement `Agree` and `closeLoopT_eqg` / `closeBlocksT_eqg` (the
  blocks whose closing has begun are collected in `D`).
-/

namespace GM.Blocks.TX
open GM GM.Text GM.Spec GM.Proof.Reader GM.Blocks.TO GM.TableX
open GM.Proof.BlocksWF0 (isRaw)

variable {tb : Prop} {F : Prop} {D : List Block}

/-- the outcome of `transformParagraph`: `PTPost` (link reference definitions), possibly followed by a table-making call
    when a table transformer is in the list (`tb`) -/
def PTPostW (tb : Prop) (src : Bytes) (node : Nat) (s s' : St) : Prop :=
  PTPost node s s' ∨ (tb ∧ ∃ s1 t, PTPost node s s1 ∧
    (GM.Table.transform src ((nd s1 node).lines.map toSeg)).table = some t ∧
    TableData (RecD src t) node ((GM.Table.transform src ((nd s1 node).lines.map toSeg)).para.map ofSeg) s1 s')

theorem InvW.dmono {D' : List Block} {src : Bytes} {B : Int} {s : St} (hi : InvW tb D F src B s) (h : ∀ b, b ∈ D → b ∈ D') :
    InvW tb D' F src B s :=
  ⟨hi.nrb, hi.ord, hi.pnb, hi.tmpk, hi.kinds, hi.nodes, hi.tl, hi.raw, hi.pnl, fun b hb hd => hi.pol b hb (fun hh => hd (h b hh))⟩

theorem InvW.node_inj {src : Bytes} {B : Int} {s : St} (hi : InvW tb D F src B s) {b b' : Block} (hb : b ∈ s.pc.opened)
    (hb' : b' ∈ s.pc.opened) (h : b'.node = b.node) : b' = b := by
  obtain ⟨i, hi1, he1⟩ := List.getElem_of_mem hb
  obtain ⟨i', hi2, he2⟩ := List.getElem_of_mem hb'
  have hp := List.pairwise_iff_getElem.1 hi.ord
  rcases Nat.lt_trichotomy i i' with hlt | heq | hgt
  · have := hp i i' hi1 hi2 hlt; rw [he1, he2] at this; omega
  · subst heq; rw [← he1, ← he2]
  · have := hp i' i hi2 hi1 hgt; rw [he1, he2] at this; omega

theorem InvW.nodup {src : Bytes} {B : Int} {s : St} (hi : InvW tb D F src B s) : s.pc.opened.Nodup :=
  hi.ord.imp (fun h e => by rw [e] at h; exact Nat.lt_irrefl _ h)

/-- the stack shrinks to blocks none of which is in `D`: `pol` for all of them -/
theorem InvW.congr_pcD {src : Bytes} {B : Int} {s : St} (hi : InvW tb D F src B s) (pc' : Ctx) (ht : pc'.tmpPara = s.pc.tmpPara)
    (ho : pc'.opened.Sublist s.pc.opened) (hd : ∀ b ∈ pc'.opened, b ∉ D) : InvW tb [] F src B { s with pc := pc' } := by
  have h1 := hi.congr_pc pc' ht ho
  exact ⟨h1.nrb, h1.ord, h1.pnb, h1.tmpk, h1.kinds, h1.nodes, h1.tl, h1.raw, h1.pnl, fun b hb _ => h1.pol b hb (hd b hb)⟩

/-- `InvW.ptpost` for the wide outcome `PTPostW` -/
theorem InvW.ptpostX {src : Bytes} {B : Int} {s s' : St} {node : Nat} (hi : InvW tb D F src B s)
    (hlt : node < s.nodes.length)
    (hnt : ∀ t, s.pc.tmpPara = some t → (F ∨ ∃ b ∈ s.pc.opened, b.bp = .setext) → t ≠ node)
    (hkp : (nd s node).kind = .paragraph) (hD : ∀ b ∈ s.pc.opened, b.node = node → b ∈ D) (h : PTPostW tb src node s s') :
    InvW tb D F src B s' ∧ s'.r = s.r ∧ s'.pc.opened = s.pc.opened ∧ KG s s' ∧ s'.pc.tmpPara = s.pc.tmpPara ∧ LO node s s' := by
  rcases h with h | ⟨htab, s1, t, h1, htb, hT⟩
  · exact hi.ptpost hlt hnt hkp h
  · obtain ⟨a1, a2, a3, a4, a5, a6⟩ := hi.ptpost hlt hnt hkp h1
    obtain ⟨b1, b2, b3, b4, b5, b6⟩ := a1.tabledata htab (Nat.lt_of_lt_of_le hlt a4.1)
      (fun x hx hm => hnt x (by rw [← a5]; exact hx) (by rw [a3] at hm; exact hm)) (by rw [a4.2 node hlt]; exact hkp)
      (fun b hb hx => hD b (by rw [← a3]; exact hb) hx) htb hT
    exact ⟨b1, b2.trans a2, b3.trans a3, a4.trans b4, b5.trans a5,
      fun i hi' hx => (b6 i (Nat.lt_of_lt_of_le hi' a4.1) hx).trans (a6 i hi' hx)⟩

/-- two transformer lists that do the same — and what `PTPostW` says — on a Paragraph that has a parent and whose lines
    pass the run-time checks -/
def Agree (tb : Prop) (src : Bytes) (pts1 pts2 : List PT) : Prop :=
  ∀ (node : Nat) (s : St), s.r.source = src → node < s.nodes.length → (nd s node).kind = .paragraph →
    (nd s node).parent.isSome = true → NodesOK src s → GM.LinkRef.linesOKB src (nd s node).lines = true →
    EQV (fun _ s' => PTPostW tb src node s s') (transformParagraph pts1 node) (transformParagraph pts2 node) s

/-! ### the blocks that survive `closeBlocksT` are not among the closed ones -/

theorem nodup_getElem_inj {l : List Block} (hnd : l.Nodup) {i j : Nat} (hi : i < l.length) (hj : j < l.length)
    (h : l[i] = l[j]) : i = j := by
  have hp := List.pairwise_iff_getElem.1 hnd
  rcases Nat.lt_trichotomy i j with hlt | heq | hgt
  · exact absurd h (hp i j hi hj hlt)
  · exact heq
  · exact absurd h.symm (hp j i hj hi hgt)

theorem blockAt_getElem {l : List Block} {i : Int} {b : Block} (h : blockAt l i = .ok b) :
    0 ≤ i ∧ ∃ hi : i.toNat < l.length, l[i.toNat] = b := by
  unfold blockAt at h
  split at h
  · cases h
  · next h0 =>
    cases hh : l[i.toNat]? with
    | none => rw [hh] at h; cases h
    | some x =>
      rw [hh] at h
      cases h
      obtain ⟨hlt, he⟩ := List.getElem?_eq_some_iff.1 hh
      exact ⟨by omega, hlt, he⟩

section walkG
variable {src : Bytes} {pts1 pts2 : List PT} (hag : Agree tb src pts1 pts2)
include hag

theorem closeLoopT_eqg {B : Int} (blocks : List Block) (to : Int) : ∀ (k : Nat) (s : St) (D : List Block),
    InvW tb D F src B s → s.r.source = src → (∀ b ∈ blocks, b ∈ s.pc.opened) →
    EQV (fun _ s' => (∃ D', InvW tb D' F src B s' ∧ ∀ b ∈ D', b ∈ D ∨ ∃ j : Nat, j < k ∧ blockAt blocks (to + j) = .ok b) ∧
        s'.r = s.r ∧ s'.pc.opened = s.pc.opened ∧ KG s s' ∧
        (∀ t, s'.pc.tmpPara = some t → s.pc.tmpPara = some t) ∧
        (∀ i, i < s.nodes.length → (∀ b ∈ blocks, b.node ≠ i) → (nd s' i).lines = (nd s i).lines))
      (closeLoopT pts1 blocks to k) (closeLoopT pts2 blocks to k) s := by
  intro k
  induction k with
  | zero =>
    intro s D hi _ _
    rw [closeLoopT_zero, closeLoopT_zero]
    exact EQV.pure ⟨⟨D, hi, fun b hb => .inl hb⟩, rfl, rfl, KG.refl _, fun _ h => h, fun _ _ _ => rfl⟩
  | succ k ih =>
    intro s D hi0 hsrc hsub
    rw [closeLoopT_succ, closeLoopT_succ]
    refine EQV.bind_same (fun b s1 h1 => ?_)
    obtain ⟨hb, hs1⟩ := liftE_ok h1
    subst s1
    have hbm := hsub b (blockAt_mem hb)
    have hi : InvW tb (b :: D) F src B s := hi0.dmono (fun x hx => List.mem_cons_of_mem _ hx)
    obtain ⟨hkb, hltb⟩ := hi.kinds b hbm
    refine EQV.bind_same (fun n s2 h2 => ?_)
    obtain ⟨hn, hs2⟩ := getNode_ok h2
    subst s2
    -- behind the transformer step
    have jp : ∀ s3 : St, InvW tb (b :: D) F src B s3 ∧ s3.r = s.r ∧ s3.pc.opened = s.pc.opened ∧ KG s s3 ∧ s3.pc.tmpPara = s.pc.tmpPara ∧
          LO b.node s s3 →
        EQV (fun _ s' => (∃ D', InvW tb D' F src B s' ∧ ∀ b ∈ D', b ∈ D ∨ ∃ j : Nat, j < k + 1 ∧ blockAt blocks (to + j) = .ok b) ∧
            s'.r = s.r ∧ s'.pc.opened = s.pc.opened ∧ KG s s' ∧
            (∀ t, s'.pc.tmpPara = some t → s.pc.tmpPara = some t) ∧
            (∀ i, i < s.nodes.length → (∀ b ∈ blocks, b.node ≠ i) → (nd s' i).lines = (nd s i).lines))
          (do
            let __do_lift ← getNode b.node
            if __do_lift.parent.isSome = true then do
                let __r ← bpClose b.bp b.node
                closeLoopT pts1 blocks to k
              else closeLoopT pts1 blocks to k)
          (do
            let __do_lift ← getNode b.node
            if __do_lift.parent.isSome = true then do
                let __r ← bpClose b.bp b.node
                closeLoopT pts2 blocks to k
              else closeLoopT pts2 blocks to k) s3 := by
      intro s3 ⟨a1, a2, a3, a4, a5, a6⟩
      have hbl : b ∈ blocks := blockAt_mem hb
      have hsrc3 : s3.r.source = src := by rw [a2]; exact hsrc
      have hsub3 : ∀ b ∈ blocks, b ∈ s3.pc.opened := fun b hb => by rw [a3]; exact hsub b hb
      have hfin : ∀ D' : List Block, (∀ x ∈ D', x ∈ b :: D ∨ ∃ j : Nat, j < k ∧ blockAt blocks (to + j) = .ok x) →
          ∀ x ∈ D', x ∈ D ∨ ∃ j : Nat, j < k + 1 ∧ blockAt blocks (to + j) = .ok x := by
        intro D' hD' x hx
        rcases hD' x hx with h | ⟨j, hj, he⟩
        · simp only [List.mem_cons] at h
          rcases h with h | h
          · subst h; exact .inr ⟨k, Nat.lt_succ_self _, hb⟩
          · exact .inl h
        · exact .inr ⟨j, Nat.lt_succ_of_lt hj, he⟩
      refine EQV.bind_same (fun n4 s4 h4 => ?_)
      obtain ⟨_, hs4⟩ := getNode_ok h4
      subst s4
      refine EQV.ite (fun _ => ?_) (fun _ => ?_)
      · refine EQV.bind_same (fun _ s5 h5 => ?_)
        obtain ⟨hkb3, hltb3⟩ := nk_kg a4 hkb hltb
        obtain ⟨c1, c2, c3, c4, c5, c6⟩ := bpClose_invG b.bp b.node a1 hsrc3 hkb3 hltb3
          (fun hs => ⟨b, by rw [a3]; exact hbm, hs⟩)
          (fun _ b' hb' hx => by
            rw [a1.node_inj (by rw [a3]; exact hbm) hb' hx]; exact List.mem_cons_self ..) h5
        refine (ih s5 (b :: D) c1 (by rw [c2]; exact hsrc3) (fun b hb => by rw [c3]; exact hsub3 b hb)).mono ?_
        intro _ s' ⟨⟨D', d1, dD⟩, d2, d3, d4, d5, d6⟩
        exact ⟨⟨D', d1, hfin D' dD⟩, by rw [d2, c2, a2], by rw [d3, c3, a3], (a4.trans c4).trans d4,
          fun t ht => (by rw [← a5]; exact c5 t (d5 t ht)), fun i hi' hx => by
            have hne : i ≠ b.node := fun e0 => hx b hbl e0.symm
            rw [d6 i (Nat.lt_of_lt_of_le hi' (a4.trans c4).1) hx, c6 i (Nat.lt_of_lt_of_le hi' a4.1) hne, a6 i hi' hne]⟩
      · refine (ih s3 (b :: D) a1 hsrc3 hsub3).mono ?_
        intro _ s' ⟨⟨D', d1, dD⟩, d2, d3, d4, d5, d6⟩
        exact ⟨⟨D', d1, hfin D' dD⟩, by rw [d2, a2], by rw [d3, a3], a4.trans d4, fun t ht => (by rw [← a5]; exact d5 t ht),
          fun i hi' hx => by
            have hne : i ≠ b.node := fun e0 => hx b hbl e0.symm
            rw [d6 i (Nat.lt_of_lt_of_le hi' a4.1) hx, a6 i hi' hne]⟩
    dsimp only
    refine EQV.ite (fun hc => ?_) (fun _ => jp s ⟨hi, rfl, rfl, KG.refl _, rfl, LO.refl _ _⟩)
    simp only [Bool.and_eq_true, beq_iff_eq] at hc
    have hkp : (nd s b.node).kind = .paragraph := by rw [← hc.1, hn]
    have hpar : (nd s b.node).parent.isSome = true := by rw [← hc.2, hn]
    refine EQV.bind (hag b.node s hsrc hltb hkp hpar hi.nodes (hi.linesOKB hkp)) (fun g s3 _ hp => ?_)
    exact jp s3 (hi.ptpostX hltb (fun t ht hm => fun h0 => (hi.tl t ht hm).2 b hbm h0.symm) hkp
      (fun b' hb' hx => by rw [hi.node_inj hbm hb' hx]; exact List.mem_cons_self ..) hp)

theorem closeBlocksT_eqg {B : Int} {s : St} (frm to : Int) (hle : to ≤ frm + 1) (hi : InvWF tb F src B s)
    (hsrc : s.r.source = src) :
    EQV (fun _ s' => InvWF tb F src B s' ∧ s'.r = s.r ∧ s'.pc.opened.Sublist s.pc.opened ∧ KG s s' ∧
        (∀ t, s'.pc.tmpPara = some t → s.pc.tmpPara = some t) ∧
        (∀ i, i < s.nodes.length → (∀ b ∈ s.pc.opened, b.node ≠ i) → (nd s' i).lines = (nd s i).lines))
      (closeBlocksT pts1 frm to) (closeBlocksT pts2 frm to) s := by
  rw [closeBlocksT_cut, closeBlocksT_cut]
  refine EQV.bind_same (fun pc s1 h1 => ?_)
  obtain ⟨rfl, hs1⟩ := getPc_ok h1
  subst s1
  refine EQV.bind (closeLoopT_eqg hag s.pc.opened to _ s [] hi hsrc (fun b hb => hb)) (fun _ s2 _ h2 => ?_)
  obtain ⟨⟨D', a1, aD⟩, a2, a3, a4, a5, a6⟩ := h2
  refine EQV.refl (fun _ s' k2 => ?_)
  obtain ⟨bl, s3, h3, k3⟩ := bind_ok k2
  obtain ⟨hb, hs3⟩ := liftE_ok h3
  subst s3
  have := modPc_ok k3
  subst this
  have hbl := cutRange_sublist hle hb
  refine ⟨a1.congr_pcD _ rfl (by rw [a3]; exact hbl) (fun b hbb hd => ?_), a2, hbl, a4, a5, a6⟩
  -- a block that stays stands below `to` or above `frm`; a closed one stands between; the stack has no block twice
  rcases aD b hd with h | ⟨j, hj, he⟩
  · cases h
  · obtain ⟨i, hi', hio⟩ := (cutRange_mem_iff hb b).1 hbb
    obtain ⟨h0, hlt, he2⟩ := blockAt_getElem he
    obtain ⟨hil, hie⟩ := List.getElem?_eq_some_iff.1 hi'
    have := nodup_getElem_inj hi.nodup hil hlt (hie.trans he2.symm)
    omega

/-- `closeBlocksT_eqg` for all bounds at once -/
theorem closeBlocksT_eqg_all {s : St} (frm to : Int) (hle : to ≤ frm + 1) (hex : ∃ B, InvWF tb F src B s) (hsrc : s.r.source = src) :
    EQV (fun _ s' => (∀ B, InvWF tb F src B s → InvWF tb F src B s') ∧ s'.r = s.r ∧ s'.pc.opened.Sublist s.pc.opened ∧ KG s s' ∧
        (∀ t, s'.pc.tmpPara = some t → s.pc.tmpPara = some t) ∧
        (∀ i, i < s.nodes.length → (∀ b ∈ s.pc.opened, b.node ≠ i) → (nd s' i).lines = (nd s i).lines))
      (closeBlocksT pts1 frm to) (closeBlocksT pts2 frm to) s := by
  obtain ⟨B0, hB0⟩ := hex
  have h0 := closeBlocksT_eqg hag frm to hle hB0 hsrc
  refine ⟨h0.1, fun a s' e => ?_⟩
  obtain ⟨_, a2, a3, a4, a5, a6⟩ := h0.2 a s' e
  exact ⟨fun B hB => ((closeBlocksT_eqg hag frm to hle hB hsrc).2 a s' e).1, a2, a3, a4, a5, a6⟩

end walkG

end GM.Blocks.TX
end BlocksTNOPostW

section BlocksTNOCleanW
/-
  `Open` from a clean state, for the invariant `InvW0` of GM.Proof.BlocksTNOInvW: `CleanW`, `DirtyW`,
  and `open_effG`, what `Open` of each of the ten block parsers does to a clean state (from `bpOpen_openStep` and `InvW.snoc`).
  The setext heading parser may answer a node (`OpenEffW.sxL`: the state stays clean — the new Heading node is exempt from
  the bound — and temporaryParagraphKey now names the last opened block, a Paragraph), under the hypothesis that then no
  setext block is open; `OpenEffW.pnew`: the line of a fresh Paragraph ends at a line end.
-/

namespace GM.Blocks.TX
open GM GM.Text GM.Spec GM.Proof.Reader GM.Blocks.TO GM.TableX
open GM.Proof.BlocksWF0 (isRaw)

variable {tb : Prop}


theorem InvW.onlyN {X : Nat} {src : Bytes} {B : Int} {s s' : St} (hi : InvW0 tb src B s) (h : OnlyN X s s')
    (hraw : isRaw (nd s X).kind = true) (hpc : s'.pc = s.pc) (hn : NodesOK src s')
    (hX : OrdFrom 0 (nd s' X).lines ∧ Below B (nd s' X).lines) : InvW0 tb src B s' := by
  have hk : ∀ i, (nd s' i).kind = (nd s i).kind := fun i => by
    by_cases hx : i = X
    · subst hx; exact h.2.2
    · rw [h.2.1 i hx]
  refine ⟨fun i hr => ?_, by rw [hpc]; exact hi.ord, fun i hkp => ?_, fun t ht => ?_, fun b hb => ?_, hn, fun t ht hm => ?_,
    fun i hr => ?_, fun i hkp => ?_, fun b hb hd hbp => ?_⟩
  · by_cases hx : i = X
    · subst hx; rw [h.2.2, hraw] at hr; cases hr
    · rw [h.2.1 i hx] at hr ⊢; exact hi.nrb i hr
  · by_cases hx : i = X
    · subst hx; rw [h.2.2] at hkp; rw [hkp] at hraw; cases hraw
    · rw [h.2.1 i hx] at hkp ⊢; exact hi.pnb i hkp
  · rw [hpc] at ht; rw [hk]; exact hi.tmpk t ht
  · rw [hpc] at hb; rw [hk, h.1]; exact hi.kinds b hb
  · rw [hpc] at ht hm ⊢
    obtain ⟨a1, a2⟩ := hi.tl t ht hm
    refine ⟨?_, a2⟩
    by_cases hx : t = X
    · subst hx; have := hi.tmpk t ht; rw [this] at hraw; cases hraw
    · rw [h.2.1 t hx]; exact a1
  · by_cases hx : i = X
    · subst hx; exact hX
    · rw [h.2.1 i hx] at hr ⊢; exact hi.raw i hr
  · by_cases hx : i = X
    · subst hx; rw [h.2.2] at hkp; rw [hkp] at hraw; cases hraw
    · rw [h.2.1 i hx] at hkp ⊢; exact hi.pnl i hkp
  · rw [hpc] at hb
    have hx : b.node ≠ X := fun e0 => by
      have := (hi.kinds b hb).1; rw [e0, hbp] at this; rw [this] at hraw; cases hraw
    rw [h.2.1 b.node hx]; exact hi.pol b hb hd hbp


theorem lend_of_lineEnd {src : Bytes} {seg : Segment} {p : Nat} (hp : p ≤ src.length) (h : seg.stop = (lineEnd src p : Int)) :
    LEnd src seg := by
  rcases Nat.lt_or_ge (lineEnd src p) src.length with h1 | h1
  · right
    unfold NLAt
    rw [h, Int.toNat_natCast]
    exact lineEnd_nl_before src hp h1
  · left
    rw [h]
    have := lineEnd_le src p
    omega

structure CleanW (tb : Prop) (src : Bytes) (L : Int) (s : St) (c : RCur) : Prop where
  inv : InvW0 tb src L s
  ri : RI src s.r c
  pad : PadOK c
  le : L ≤ c.p
  padl : PadL L c

/-- `InvW0` up to some `E` that the reader's line end has reached -/
def DirtyW (tb : Prop) (src : Bytes) (s : St) : Prop := ∃ E : Int, InvW0 tb src E s ∧ Stop src E s

theorem CleanW.dirty {src : Bytes} {L : Int} {s : St} {c : RCur} (h : CleanW tb src L s c) : DirtyW tb src s := by
  have h2 := lineEnd_ge src h.ri.inRange
  exact ⟨(lineEnd src c.p : Int), h.inv.mono (by have := h.le; omega), h.ri.stop⟩

theorem CleanW.invE {src : Bytes} {L : Int} {s : St} {c : RCur} (h : CleanW tb src L s c) :
    InvW0 tb src (lineEnd src c.p : Int) s := by
  have h2 := lineEnd_ge src h.ri.inRange
  exact h.inv.mono (by have := h.le; omega)


theorem CleanW.congr {src : Bytes} {L : Int} {s s' : St} {c : RCur} (h : CleanW tb src L s c) (hi : InvW0 tb src L s')
    (hr : s'.r = s.r) : CleanW tb src L s' c := ⟨hi, by rw [hr]; exact h.ri, h.pad, h.le, h.padl⟩

theorem InvW.snoc {src : Bytes} {B : Int} {s s' : St} {n : Node} (hi : InvW0 tb src B s) (h : s'.nodes = s.nodes ++ [n])
    (ho : s'.pc.opened = s.pc.opened)
    (ht : ∀ t, s'.pc.tmpPara = some t → t < s.nodes.length ∧ (nd s t).kind = .paragraph)
    (hb : NodeW tb B n) (hp : n.kind = .paragraph → ∀ t ∈ n.lines, NonBlankSeg src t)
    (hok : NodeOK src n) (htl : s'.pc.tmpPara = s.pc.tmpPara ∨ ∀ b ∈ s.pc.opened, b.bp ≠ .setext)
    (hrw : isRaw n.kind = true → OrdFrom 0 n.lines ∧ Below B n.lines)
    (hpn : n.kind = .paragraph → ∀ t ∈ n.lines.dropLast, NLAt src t) : InvW0 tb src B s' := by
  refine ⟨fun i => ?_, by rw [ho]; exact hi.ord, fun i hk => ?_, fun t htt => ?_, fun b hbm => ?_, fun m hm => ?_, fun t htt hm => ?_,
    fun i hr => ?_, fun i hk => ?_, fun b hbm hd hbp => ?_⟩
  · rw [nd_snoc h]; split
    · exact hi.nrb i
    · split
      · exact hb
      · exact fun _ _ => ⟨trivial, fun _ => Below.nil B, fun t ht => by cases ht⟩
  · rw [nd_snoc h] at hk ⊢; split
    · next h1 => rw [if_pos h1] at hk; exact hi.pnb i hk
    · next h1 =>
      rw [if_neg h1] at hk
      split
      · next h2 => rw [if_pos h2] at hk; exact hp hk
      · next h2 => rw [if_neg h2] at hk; cases hk
  · obtain ⟨h1, h2⟩ := ht t htt
    rw [nd_snoc h, if_pos h1]; exact h2
  · rw [ho] at hbm
    obtain ⟨h1, h2⟩ := hi.kinds b hbm
    rw [nd_snoc h, if_pos h2, h]
    exact ⟨h1, by simp; omega⟩
  · rw [h] at hm
    rcases List.mem_append.1 hm with h1 | h1
    · exact hi.nodes m h1
    · simp only [List.mem_singleton] at h1; rw [h1]; exact hok
  · rw [ho] at hm ⊢
    rcases htl with e0 | hsf
    · rw [e0] at htt
      obtain ⟨a1, a2⟩ := hi.tl t htt hm
      rw [nd_snoc h, if_pos (tmp_lt (hi.tmpk t htt))]
      exact ⟨a1, a2⟩
    · obtain ⟨b, hb, hs⟩ := hm.resolve_left id
      exact absurd hs (hsf b hb)
  · rw [nd_snoc h] at hr ⊢; split
    · next h1 => rw [if_pos h1] at hr; exact hi.raw i hr
    · next h1 =>
      rw [if_neg h1] at hr
      split
      · next h2 => rw [if_pos h2] at hr; exact hrw hr
      · next h2 => rw [if_neg h2] at hr; cases hr
  · rw [nd_snoc h] at hk ⊢; split
    · next h1 => rw [if_pos h1] at hk; exact hi.pnl i hk
    · next h1 =>
      rw [if_neg h1] at hk
      split
      · next h2 => rw [if_pos h2] at hk; exact hpn hk
      · next h2 => rw [if_neg h2] at hk; cases hk
  · rw [ho] at hbm
    rw [nd_snoc h, if_pos (hi.kinds b hbm).2]; exact hi.pol b hbm hd hbp

/-- what `Open` of any of the ten parsers does to a clean state (the contract `OpenPost` of GM.Proof.BlocksInv, the list
    parsers' own contracts, and `open_newNode`) -/
structure OpenEffW (tb : Prop) (src : Bytes) (L : Int) (bp : BP) (s : St) (c : RCur) (a : Option Nat × PState) (s' : St) : Prop where
  invE : InvW0 tb src (lineEnd src c.p : Int) s'
  stop : Stop src (lineEnd src c.p : Int) s'
  opened : s'.pc.opened = s.pc.opened
  boff : s'.pc.blockOffset = s.pc.blockOffset
  declined : a.1 = none → CleanW tb src L s' c ∧ s'.nodes = s.nodes ∧ s'.pc.tmpPara = s.pc.tmpPara
  container : a.2.hasChildren = true → ∃ c', CleanW tb src L s' c' ∧ c.p ≤ c'.p
  node : ∀ id, a.1 = some id → id = s.nodes.length ∧ id < s'.nodes.length ∧ (nd s' id).kind = bp.kind
  noreq : a.2.requirePara = true → bp = .setext
  cont : a.2.hasChildren = true → bp.isContainer = true
  tmplt : ∀ t, s'.pc.tmpPara = some t → t < s.nodes.length
  tmpsame : bp ≠ .setext → s'.pc.tmpPara = s.pc.tmpPara
  sxL : bp = .setext → a.1.isSome = true → (∃ c', CleanW tb src L s' c' ∧ c.p ≤ c'.p) ∧
    ∃ lb, s.pc.opened.getLast? = some lb ∧ (nd s lb.node).kind = .paragraph ∧ s'.pc.tmpPara = some lb.node
  snoc : ∀ id, a.1 = some id → ∃ n, s'.nodes = s.nodes ++ [n] ∧ n.kind = bp.kind
  pnew : ∀ id, a.1 = some id → bp = .paragraph → ∃ seg, (nd s' id).lines = [seg] ∧ LEnd src seg

theorem open_effG {src : Bytes} {L : Int} {s s' : St} {c : RCur} (bp : BP) (parent : Nat) {a : Option Nat × PState}
    (hc : CleanW tb src L s c) (hlt : c.p < src.length)
    (hoff : s.pc.blockOffset < (((RCur.view src c).getD []).length : Int))
    (hqq : bp = .setext → ∀ lb, s.pc.opened.getLast? = some lb → (nd s lb.node).kind = .paragraph →
      ∀ b ∈ s.pc.opened, b.bp ≠ .setext)
    (e : bpOpen bp parent s = .ok (a, s')) : OpenEffW tb src L bp s c a s' := by
  obtain ⟨c', st⟩ := bpOpen_openStep bp parent ⟨hc.ri, hlt, hc.pad, hoff, hc.inv.nodes⟩ hc.le hc.padl e
  have hle := st.le
  have hcle := hc.le
  -- temporaryParagraphKey afterwards: what it was, or the last opened block (a Paragraph) and then no setext block is open
  have htmp : ∀ t, s'.pc.tmpPara = some t → t < s.nodes.length ∧ (nd s t).kind = .paragraph := by
    intro t ht
    rcases st.tmp with ⟨_, _, lb, _, hk, htm⟩ | ⟨_, htm⟩
    · rw [htm] at ht; cases ht; exact ⟨tmp_lt hk, hk⟩
    · rw [htm] at ht; exact ⟨tmp_lt (hc.inv.tmpk t ht), hc.inv.tmpk t ht⟩
  have htl : s'.pc.tmpPara = s.pc.tmpPara ∨ ∀ b ∈ s.pc.opened, b.bp ≠ .setext := by
    rcases st.tmp with ⟨hb, _, lb, h1, h2, _⟩ | ⟨_, h⟩
    · exact .inr (hqq hb lb h1 h2)
    · exact .inl h
  have hsame : a.1 = none → s'.pc.tmpPara = s.pc.tmpPara := by
    intro ha
    rcases st.tmp with ⟨_, hs, _⟩ | ⟨_, h⟩
    · rw [ha] at hs; cases hs
    · exact h
  -- the one line of a fresh Paragraph ends at a line end
  have hpn : ∀ id, a.1 = some id → bp = .paragraph → ∃ seg, (nd s' id).lines = [seg] ∧ LEnd src seg := fun id ha hb => by
    obtain ⟨seg, hl, h4⟩ := st.pnew id ha hb
    exact ⟨seg, hl, lend_of_lineEnd hc.ri.inRange h4⟩
  -- `InvW0` for every bound `B` that the new node (if any) respects
  have hinv : ∀ B : Int, InvW0 tb src B s → (∀ n, s'.nodes = s.nodes ++ [n] → NodeW tb B n ∧
      (isRaw n.kind = true → OrdFrom 0 n.lines ∧ Below B n.lines)) → InvW0 tb src B s' := by
    intro B hiB hnB
    cases ha : a.1 with
    | none => exact hiB.of_same (st.declined ha) st.opened (hsame ha)
    | some id =>
      obtain ⟨hid, n, hn, hk, hok, _, hp⟩ := st.node id ha
      refine hiB.snoc hn st.opened htmp (hnB n hn).1 (fun hk => (hp hk).2) hok htl (hnB n hn).2 (fun hkp => ?_)
      obtain ⟨seg, hl, _⟩ := st.pnew id ha (kind_paragraph (by rw [← hk]; exact hkp))
      rw [hid, GM.Blocks.L.nd_append_self hn] at hl
      rw [hl]; intro t ht; cases ht
  -- the new node: its lines end on the current line; a container has none; a Heading is exempt from the bound
  have hnewE : ∀ n, s'.nodes = s.nodes ++ [n] → NodeW tb (lineEnd src c.p : Int) n ∧
      (isRaw n.kind = true → OrdFrom 0 n.lines ∧ Below (lineEnd src c.p : Int) n.lines) := fun n hn =>
    have hb := (st.new hn).2.2.2.1
    ⟨fun hr _ => ⟨(hb.1 hr).1, fun _ => (hb.1 hr).2.1, (hb.1 hr).2.2⟩, hb.2.1⟩
  have hnewK : a.2.hasChildren = true → ∀ n, s'.nodes = s.nodes ++ [n] → NodeW tb L n ∧
      (isRaw n.kind = true → OrdFrom 0 n.lines ∧ Below L n.lines) := fun hch n hn =>
    ⟨fun _ _ => by rw [st.kidsNoLines hch hn]; exact ⟨trivial, fun _ => Below.nil L, fun t ht => by cases ht⟩,
      fun hr => by rw [(st.new hn).2.1, BP.isContainer_notRaw bp (st.kids hch).2] at hr; cases hr⟩
  have hnewS : bp = .setext → ∀ n, s'.nodes = s.nodes ++ [n] → NodeW tb L n ∧
      (isRaw n.kind = true → OrdFrom 0 n.lines ∧ Below L n.lines) := fun hb n hn => by
    have hkh : n.kind = .heading := by rw [(st.new hn).2.1, hb]; rfl
    obtain ⟨q1, _, q3⟩ := (st.new hn).2.2.2.1.1 (by rw [hkh]; rfl)
    exact ⟨fun _ _ => ⟨q1, fun hh => absurd hkh hh, q3⟩, fun hr => by rw [hkh] at hr; cases hr⟩
  have hnone : a.1 = none → ∀ n, s'.nodes = s.nodes ++ [n] → NodeW tb L n ∧
      (isRaw n.kind = true → OrdFrom 0 n.lines ∧ Below L n.lines) := fun ha n hn => by
    rw [st.declined ha] at hn; simp at hn
  refine ⟨hinv _ hc.invE hnewE, st.stop, st.opened, st.boff, fun ha => ?_, fun hch => ?_, fun id ha => ?_, st.req,
    fun hch => (st.kids hch).2, fun t ht => (htmp t ht).1, fun hb => ?_, fun hb hs => ⟨⟨c', ⟨hinv L hc.inv (hnewS hb),
      st.ri, st.pad, by omega, st.sxpadl hb⟩, hle⟩, ?_⟩, fun id ha => ?_, hpn⟩
  · have hcc := st.same ha
    subst hcc
    exact ⟨⟨hinv L hc.inv (hnone ha), st.ri, st.pad, hc.le, hc.padl⟩, st.declined ha, hsame ha⟩
  · have hpl' : PadL L c' := by
      rcases st.prog hch with h1 | h1
      · rw [h1]; exact hc.padl
      · intro _; omega
    exact ⟨c', ⟨hinv L hc.inv (hnewK hch), st.ri, st.pad, by omega, hpl'⟩, hle⟩
  · obtain ⟨hid, n, hn, hk, _⟩ := st.node id ha
    subst hid
    exact ⟨rfl, by rw [hn]; simp, by rw [GM.Blocks.L.nd_append_self hn]; exact hk⟩
  · rcases st.tmp with ⟨h, _⟩ | ⟨_, h⟩
    · exact absurd h hb
    · exact h
  · rcases st.tmp with ⟨_, _, lb, h1, h2, h3⟩ | ⟨h | h, _⟩
    · exact ⟨lb, h1, h2, h3⟩
    · exact absurd hb h
    · rw [h] at hs; cases hs
  · obtain ⟨_, n, hn, hk, _⟩ := st.node id ha
    exact ⟨n, hn, hk⟩

/-! ### the instance with tables -/

structure CleanG (src : Bytes) (L : Int) (s : St) (c : RCur) : Prop where
  inv : InvG src L s
  ri : RI src s.r c
  pad : PadOK c
  le : L ≤ c.p
  padl : PadL L c

/-- what `Open` of any of the ten parsers does to a clean state (the contract `OpenPost` of GM.Proof.BlocksInv, the list
    parsers' own contracts, and `open_newNode`) -/
structure OpenEffG (src : Bytes) (L : Int) (bp : BP) (s : St) (c : RCur) (a : Option Nat × PState) (s' : St) : Prop where
  invE : InvG src (lineEnd src c.p : Int) s'
  stop : Stop src (lineEnd src c.p : Int) s'
  opened : s'.pc.opened = s.pc.opened
  boff : s'.pc.blockOffset = s.pc.blockOffset
  declined : a.1 = none → CleanG src L s' c ∧ s'.nodes = s.nodes ∧ s'.pc.tmpPara = s.pc.tmpPara
  container : a.2.hasChildren = true → ∃ c', CleanG src L s' c' ∧ c.p ≤ c'.p
  node : ∀ id, a.1 = some id → id = s.nodes.length ∧ id < s'.nodes.length ∧ (nd s' id).kind = bp.kind
  noreq : a.2.requirePara = true → bp = .setext
  cont : a.2.hasChildren = true → bp.isContainer = true
  tmplt : ∀ t, s'.pc.tmpPara = some t → t < s.nodes.length
  tmpsame : bp ≠ .setext → s'.pc.tmpPara = s.pc.tmpPara
  sxL : bp = .setext → a.1.isSome = true → (∃ c', CleanG src L s' c' ∧ c.p ≤ c'.p) ∧
    ∃ lb, s.pc.opened.getLast? = some lb ∧ (nd s lb.node).kind = .paragraph ∧ s'.pc.tmpPara = some lb.node
  snoc : ∀ id, a.1 = some id → ∃ n, s'.nodes = s.nodes ++ [n] ∧ n.kind = bp.kind
  pnew : ∀ id, a.1 = some id → bp = .paragraph → ∃ seg, (nd s' id).lines = [seg] ∧ LEnd src seg

end GM.Blocks.TX
end BlocksTNOCleanW
