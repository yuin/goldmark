/-
  GM.Proof.InlinesLoopRule — the inline loop over an OPEN trigger table (GM.Model.InlinesLoopX) before anything is proved about
  a parser. Over the default table it IS the default loop (`lineLoopX_base`), so a statement about `lineLoopX env tbl` is one
  about `lineLoop`. And the rule for invariants that need no cursor: what the loop's own operations (PeekLine, the flush of a
  consultation, SetPosition, the end of a line) owe an invariant `I` of the state is `LoopKeeps I S`; table entries that keep
  `I` (`ParserKeeps`) then make every answer of the loop an `I`-state (`LoopKeeps.lineLoopX`). The legal-children invariant
  (GM.Proof.Inlines), "no virtual padding" (GM.Proof.E2EPadLoop) and the child-list invariants of GM.Proof.ConvertXSim are instances.
-/
import GM.Model.InlinesLoopX
import GM.Proof.InlinesShape

namespace GM.Proof.Inlines
open GM GM.Text GM.Inl

theorem bump_eq (c : UInt8) (s : Inl.Scan) : bump c s = { s with escaped := (!s.escaped && c == 92), n := s.n + 1 } := by
  unfold bump
  cases h : s.escaped <;> cases h2 : (c == 92) <;> simp

end GM.Proof.Inlines

namespace GM.Proof.InlinesLoopX
open GM GM.Text GM.Inl

theorem tryParsersX_builtin (env : Env) (l : Int) (p : Segment) (ips : List Ip) (st : St) :
    tryParsersX env l p (ips.map .builtin) st = tryParsers env l p ips st := by
  induction ips generalizing st with
  | nil => rfl
  | cons ip rest ih =>
    simp only [List.map_cons, tryParsersX, tryParsers, XIp.parse, bind, Except.bind]
    cases ip.parse env st with
    | error e => rfl
    | ok r =>
      obtain ⟨n, st1⟩ := r
      cases n with
      | some nd => rfl
      | none =>
        simp only []
        cases st1.rd.setPosition l p with
        | error e => rfl
        | ok rd => exact ih _

theorem triggerX_builtin (env : Env) (ips : List Ip) (i : Nat) (s : Inl.Scan) :
    triggerX env (ips.map .builtin) i s = trigger env ips i s := by
  unfold triggerX trigger
  simp only [tryParsersX_builtin]
  rfl

theorem parserChar_cases (c : UInt8) (i : Nat) : parserChar c i = 32 ∨ parserChar c i = c := by
  unfold parserChar
  simp only []
  split
  · exact Or.inl rfl
  · exact Or.inr rfl

/-- the byte loop over a table that agrees with the default one on ' ' and on the scanned bytes -/
theorem scanX_eq_scan (env : Env) (tbl : UInt8 → List XIp) (h32 : tbl 32 = baseTbl 32) :
    ∀ (bs : Bytes) (i : Nat) (s : Inl.Scan), (∀ c ∈ bs, tbl c = baseTbl c) → scanX env tbl bs i s = scan env bs i s := by
  intro bs
  induction bs with
  | nil => intro i s _; rfl
  | cons c cs ih =>
    intro i s hb
    have hpc : tbl (parserChar c i) = (parsersFor (parserChar c i)).map .builtin := by
      rcases parserChar_cases c i with h | h
      · rw [h]; exact h32
      · rw [h]; exact hb c (by simp)
    have hcs : ∀ x ∈ cs, tbl x = baseTbl x := fun x hx => hb x (by simp [hx])
    simp only [scanX, scan, hpc, List.isEmpty_map, triggerX_builtin]
    split
    · rfl
    · split
      · cases ht : trigger env (parsersFor (parserChar c i)) i s with
        | error e => rfl
        | ok r =>
          cases r with
          | inl st => rfl
          | inr s' => exact ih _ _ hcs
      · exact ih _ _ hcs

/-- the open-table loop over the default table, unconditionally -/
theorem lineLoopX_base (env : Env) : ∀ (fuel : Nat) (esc : Bool) (st : St),
    lineLoopX env baseTbl fuel esc st = lineLoop env fuel esc st := by
  intro fuel
  induction fuel with
  | zero => intro esc st; rfl
  | succ f ih =>
    intro esc st
    simp only [lineLoopX, lineLoop, bind, Except.bind]
    cases st.rd.peekLine with
    | error e => rfl
    | ok pl =>
      simp only []
      cases pl.1.1 with
      | none => rfl
      | some line =>
        simp only []
        split
        · rfl
        · rw [scanX_eq_scan env baseTbl rfl _ 0 _ (fun _ _ => rfl)]
          cases scan env (List.take (classify line).fst line) 0
              { st := { st with rd := pl.2 }, n := 0, sp := (BlockReader.position pl.2).snd, escaped := esc } with
          | error e => rfl
          | ok r =>
            cases r with
            | hit st' e' => exact ih e' st'
            | eol s' =>
              simp only []
              cases endOfLine (classify line).snd (BlockReader.position pl.2).fst s' with
              | error e => rfl
              | ok st2 => exact ih _ st2

end GM.Proof.InlinesLoopX

namespace GM.Proof.Inlines
open GM GM.Text GM.Inl

/-- what an invariant `I` of the loop state owes the loop's own operations; `S` holds of the recorded start position and of
    every position the reader reports -/
structure LoopKeeps (I : St → Prop) (S : Segment → Prop) : Prop where
  peek : ∀ {st : St}, I st → Ans st.rd.peekLine (fun pl => I { st with rd := pl.2 } ∧ S pl.2.position.2)
  advance : ∀ {st : St} (n : Int), I st → Ans (st.rd.advance n) (fun rd => I { st with rd := rd } ∧ S rd.position.2)
  merge : ∀ {st : St} {a b seg : Segment}, I st → S a → S b → a.between b = .ok seg →
    I { st with kids := mergeOrAppend st.kids seg }
  restore : ∀ {st : St} (l : Int) {p : Segment}, I st → S p → Ans (st.rd.setPosition l p) (fun rd => I { st with rd := rd })
  eol : ∀ (flags : Nat) (l : Int) {s : Inl.Scan}, I s.st → S s.sp → Ans (endOfLine flags l s) I

/-- what a parser call answers from an `I`-state: an `I`-state, still one with the node it returns appended -/
def POut (I : St → Prop) (r : Option Inl.Node × St) : Prop :=
  I r.2 ∧ ∀ nd, r.1 = some nd → I { r.2 with kids := r.2.kids ++ [nd] }

def ParserKeeps (I : St → Prop) (p : St → PRes) : Prop := ∀ st, I st → Ans (p st) (POut I)

namespace LoopKeeps
variable {I : St → Prop} {S : Segment → Prop} {env : Env}

theorem tryParsersX (K : LoopKeeps I S) (l : Int) {p : Segment} (hp : S p) :
    ∀ (ips : List XIp), (∀ ip ∈ ips, ParserKeeps I (ip.parse env)) → ∀ {st : St}, I st →
      Ans (Inl.tryParsersX env l p ips st) (POut I)
  | [], _, st, hs => by unfold Inl.tryParsersX; exact Ans.pure ⟨hs, fun _ e => by cases e⟩
  | ip :: ips, hT, st, hs => by
    unfold Inl.tryParsersX
    refine Ans.seq (hT ip (by simp) st hs) (fun a ha => ?_)
    obtain ⟨node, st1⟩ := a
    dsimp only
    split
    · exact Ans.pure ha
    · exact Ans.seq (K.restore l ha.1 hp)
        (fun rd hr => K.tryParsersX l hp ips (fun ip' h' => hT ip' (by simp [h'])) (st := { st1 with rd := rd }) hr)

theorem triggerX (K : LoopKeeps I S) (ips : List XIp) (hT : ∀ ip ∈ ips, ParserKeeps I (ip.parse env)) (i : Nat)
    {s : Inl.Scan} (h : I s.st) (hsp : S s.sp) :
    Ans (Inl.triggerX env ips i s) (fun r => match r with | .inl st => I st | .inr s' => I s'.st ∧ S s'.sp) := by
  unfold Inl.triggerX
  refine Ans.seq (K.advance _ h) (fun rd hr => ?_)
  dsimp only
  have hks : Ans (if i != 0 then (s.sp.between rd.position.2).map (fun seg => (mergeOrAppend s.st.kids seg, rd.position.2))
      else Pure.pure (s.st.kids, s.sp)) (fun ks => I { s.st with rd := rd, kids := ks.1 } ∧ S ks.2) := by
    split
    · intro x hx
      cases hb : s.sp.between rd.position.2 with
      | error e => rw [hb] at hx; cases hx
      | ok seg =>
        rw [hb] at hx
        cases hx
        exact ⟨K.merge hr.1 hsp hr.2 hb, hr.2⟩
    · exact Ans.pure ⟨hr.1, hsp⟩
  refine Ans.seq hks (fun ks hk => ?_)
  refine Ans.seq (K.tryParsersX _ hr.2 ips hT hk.1) (fun r hrr => ?_)
  split
  · rename_i nd hnd
    exact Ans.pure (hrr.2 nd hnd)
  · exact Ans.pure ⟨hrr.1, hk.2⟩

theorem scanX (K : LoopKeeps I S) (tbl : UInt8 → List XIp) (hT : ∀ b, ∀ ip ∈ tbl b, ParserKeeps I (ip.parse env)) :
    ∀ (l : Bytes) (i : Nat) {s : Inl.Scan}, I s.st → S s.sp →
      Ans (Inl.scanX env tbl l i s) (fun r => match r with | .hit st _ => I st | .eol s' => I s'.st ∧ S s'.sp)
  | [], _, s, h, hs => by unfold Inl.scanX; exact Ans.pure ⟨h, hs⟩
  | c :: cs, i, s, h, hs => by
    unfold Inl.scanX
    refine Ans.ite (Ans.pure ⟨h, hs⟩) (Ans.ite ?_ (K.scanX tbl hT cs (i + 1) (s := bump c s)
      (by rw [bump_eq]; exact h) (by rw [bump_eq]; exact hs)))
    split
    · rename_i st he
      exact Ans.pure (K.triggerX _ (hT _) i h hs _ he)
    · rename_i s' he
      have h' := K.triggerX _ (hT _) i h hs _ he
      exact K.scanX tbl hT cs (i + 1) (s := bump c s') (by rw [bump_eq]; exact h'.1) (by rw [bump_eq]; exact h'.2)
    · exact Ans.error _

/-- **the loop rule**: an invariant the loop's operations and every entry of the table keep is kept by the loop -/
theorem lineLoopX (K : LoopKeeps I S) (tbl : UInt8 → List XIp) (hT : ∀ b, ∀ ip ∈ tbl b, ParserKeeps I (ip.parse env)) :
    ∀ (fuel : Nat) (escaped : Bool) {st : St}, I st → Ans (Inl.lineLoopX env tbl fuel escaped st) I
  | 0, _, _, _ => by unfold Inl.lineLoopX; exact Ans.error _
  | fuel + 1, escaped, st, hs => by
    unfold Inl.lineLoopX
    refine Ans.seq (K.peek hs) (fun pl hpl => ?_)
    dsimp only
    split
    · exact Ans.pure hpl.1
    · refine Ans.ite (Ans.throw _) ?_
      refine Ans.seq (K.scanX tbl hT _ 0 (s := ⟨{ st with rd := pl.2 }, 0, pl.2.position.2, escaped⟩) hpl.1 hpl.2)
        (fun r hr => ?_)
      split
      · rename_i st' esc
        exact K.lineLoopX tbl hT fuel esc hr
      · rename_i s'
        exact Ans.seq (K.eol _ _ hr.1 hr.2) (fun st2 hst2 => K.lineLoopX tbl hT fuel _ hst2)

/-- the default loop: the entries are the five parsers of `Ip` -/
theorem lineLoop (K : LoopKeeps I S) (hT : ∀ ip : Ip, ParserKeeps I (ip.parse env)) (fuel : Nat) (escaped : Bool)
    {st : St} (h : I st) : Ans (Inl.lineLoop env fuel escaped st) I := by
  rw [← GM.Proof.InlinesLoopX.lineLoopX_base]
  refine K.lineLoopX baseTbl (fun b ip hip => ?_) fuel escaped h
  obtain ⟨ip', _, rfl⟩ := List.mem_map.mp hip
  exact hT ip'

end LoopKeeps

end GM.Proof.Inlines
