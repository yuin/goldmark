/-
  GM.Proof.CMFrag21Main — stage 21 at the level of its proof-side blocks (`FBlock21`): the lines are good for the block phase,
  what `docTree` reads from a representing node (`repDT_f`), the phases composed with / without final line feed and inside
  `k` nested block quotes (`convert_raw21`, `convert_raw21E`, `convert_nest21`), from the inline facts `F21InlG` (CMFrag21Inl).
-/
import GM.Proof.CMFrag21Defs
import GM.Proof.CMFrag13Inl
import GM.Proof.CMFragQuote
import GM.Proof.CMFrag16Inl

section CMFrag21Main
namespace GM.Proof.CMFrag
open GM GM.Text GM.Blocks GM.Spec

theorem fatomSrc_noNl (a : FAtom) (h : FAtomOK a) : ∀ c ∈ fatomSrc a, c ≠ 10 := by
  cases a with
  | txt bs => exact quiet_no_nl bs 0 false (h.2.1 0)
  | code bs =>
    intro c hc
    simp only [fatomSrc, List.mem_append, List.mem_cons, List.not_mem_nil, or_false] at hc
    rcases hc with (rfl | hc) | rfl
    · decide
    · exact alnum_ne_lf8 c (h.2 c hc)
    · decide
  | em bs =>
    intro c hc
    simp only [fatomSrc, List.mem_append, List.mem_cons, List.not_mem_nil, or_false] at hc
    rcases hc with (rfl | hc) | rfl
    · decide
    · exact alnum_ne_lf8 c (h.2 c hc)
    · decide
  | strong bs =>
    intro c hc
    simp only [fatomSrc, List.mem_append, List.mem_cons, List.not_mem_nil, or_false] at hc
    rcases hc with ((rfl | rfl) | hc) | (rfl | rfl)
    · decide
    · decide
    · exact alnum_ne_lf8 c (h.2 c hc)
    · decide
    · decide
  | uem bs =>
    intro c hc
    simp only [fatomSrc, List.mem_append, List.mem_cons, List.not_mem_nil, or_false] at hc
    rcases hc with (rfl | hc) | rfl
    · decide
    · exact alnum_ne_lf8 c (h.2 c hc)
    · decide
  | ustrong bs =>
    intro c hc
    simp only [fatomSrc, List.mem_append, List.mem_cons, List.not_mem_nil, or_false] at hc
    rcases hc with ((rfl | rfl) | hc) | (rfl | rfl)
    · decide
    · decide
    · exact alnum_ne_lf8 c (h.2 c hc)
    · decide
    · decide
  | link t d =>
    intro c hc
    simp only [fatomSrc, List.mem_append, List.mem_cons, List.not_mem_nil, or_false] at hc
    rcases hc with (((rfl | hc) | (rfl | rfl)) | hc) | rfl
    · decide
    · exact alnum_ne_lf8 c (h.1.2 c hc)
    · decide
    · decide
    · exact dest_ne_lf16 c (h.2.2 c hc)
    · decide
  | img t d =>
    intro c hc
    simp only [fatomSrc, List.mem_append, List.mem_cons, List.not_mem_nil, or_false] at hc
    rcases hc with ((((rfl | rfl) | hc) | (rfl | rfl)) | hc) | rfl
    · decide
    · decide
    · exact alnum_ne_lf8 c (h.1.2 c hc)
    · decide
    · decide
    · exact dest_ne_lf16 c (h.2.2 c hc)
    · decide
  | auto s r =>
    intro c hc
    simp only [fatomSrc, List.mem_append, List.mem_cons, List.not_mem_nil, or_false] at hc
    rcases hc with (((rfl | hc) | rfl) | hc) | rfl
    · decide
    · exact letter_ne_lf18 c (h.1.2.2 c hc)
    · decide
    · exact auto_ne_lf18 c (h.2.2 c hc)
    · decide
  | otag n =>
    intro c hc
    simp only [fatomSrc, List.mem_append, List.mem_cons, List.not_mem_nil, or_false] at hc
    rcases hc with (rfl | hc) | rfl
    · decide
    · exact alnum_ne_lf8 c (h.2.2 c hc)
    · decide
  | ctag n =>
    intro c hc
    simp only [fatomSrc, List.mem_append, List.mem_cons, List.not_mem_nil, or_false] at hc
    rcases hc with ((rfl | rfl) | hc) | rfl
    · decide
    · decide
    · exact alnum_ne_lf8 c (h.2.2 c hc)
    · decide

theorem flineSrc_append (a b : List FAtom) : flineSrc (a ++ b) = flineSrc a ++ flineSrc b := by
  simp [flineSrc]

theorem frichLine_first {l : List FAtom} (h : FRichLine l) :
    ∃ c t, flineSrc l = c :: t ∧ GM.Spec.CM.isLetter c = true := by
  obtain ⟨bs, rest, e, hf⟩ := h.first
  have hok := h.ok (.txt bs) (by rw [e]; simp)
  cases bs with
  | nil => exact absurd rfl hok.1
  | cons c t => exact ⟨c, t ++ flineSrc rest, by rw [e]; simp [flineSrc, fatomSrc], hf c rfl⟩

theorem frichLine_last {l : List FAtom} (h : FRichLine l) :
    ∀ c, (flineSrc l).getLast? = some c → isSpace c = false ∧ c ≠ 92 := by
  obtain ⟨init, bs, e, hl⟩ := h.last
  have hok := h.ok (.txt bs) (by rw [e]; simp)
  intro c hc
  have e2 : flineSrc l = flineSrc init ++ bs := by rw [e, flineSrc_append]; simp [flineSrc, fatomSrc]
  rw [e2, List.getLast?_append] at hc
  cases hb : bs.getLast? with
  | none => exact absurd (List.getLast?_eq_none_iff.mp hb) hok.1
  | some z =>
    rw [hb] at hc
    have hc' : z = c := by simpa using hc
    subst hc'
    exact hl z hb

theorem frichLine_noNl {l : List FAtom} (h : FRichLine l) : ∀ c ∈ flineSrc l, c ≠ 10 := by
  intro c hc
  simp only [flineSrc, List.mem_flatMap] at hc
  obtain ⟨a, ha, hca⟩ := hc
  exact fatomSrc_noNl a (h.ok a ha) c hca

theorem frichLine_blk {l : List FAtom} (h : FRichLine l) : BlkLine (flineSrc l) :=
  ⟨frichLine_first h, fun c hc => (frichLine_last h c hc).1, frichLine_noNl h⟩

theorem fline_blk21 (x : FLine21) (h : FRichLine x.atoms) : BlkLine (flineSrc21 x) := by
  unfold flineSrc21
  cases hx : x.hard
  · simpa using frichLine_blk h
  · simp only [if_true]
    obtain ⟨c, t, e, hc⟩ := frichLine_first h
    refine ⟨⟨c, t ++ [92], by rw [e]; rfl, hc⟩, ?_, ?_⟩
    · intro z hz
      rw [List.getLast?_append] at hz
      have : z = 92 := by simpa using hz.symm
      subst this; decide
    · intro z hz
      rcases List.mem_append.mp hz with hz | hz
      · exact frichLine_noNl h z hz
      · have : z = 92 := by simpa using hz
        subst this; decide

theorem restr_single (l : List FAtom) (h : F21Restr [⟨l, false⟩]) : F21Restr [⟨l, false⟩] := h

theorem flines_blk21 (ls : List FLine21) (h : FLinesOK ls) : ∀ l ∈ ls.map flineSrc21, BlkLine l := by
  intro l hl
  obtain ⟨x, hx, rfl⟩ := List.mem_map.mp hl
  exact fline_blk21 x (h.1 x hx)

theorem good5_fraw (b : FBlock21) (h : FGood b) : Good5 (fraw b) := by
  cases b with
  | para ls => exact ⟨by simpa using h.1, flines_blk21 ls h.2.1⟩
  | atx level l => exact ⟨h.1, h.2.1, frichLine_blk h.2.2.1, h.2.2.2.1⟩
  | hr x => exact good5_of _ h
  | fence fc n info ls => exact good5_of _ h
  | icode ls => exact good5_of _ h

theorem isIcB_fraw (b : FBlock21) : isIcB (fraw b) = b.isIc := by cases b <;> rfl

theorem fraw_noic (b : FBlock21) (h : b.isIc = false) : isIcB (fraw b) = false := by rw [isIcB_fraw, h]

theorem repDT_f (H : F21InlG) (env : GM.Inl.Env) (henv : env.escapedSpace = false) (b : FBlock21) (h : FGood b) :
    RepDT env (fraw b) (fNode b) := by
  cases b with
  | para ls =>
    exact repDT_para env (ls.map flineSrc21) (by simpa using h.1) (flines_blk21 ls h.2.1) (fNodes ls)
      (H env henv ls h.1 h.2.1 h.2.2)
  | atx level l =>
    have hok : FLinesOK [⟨l, false⟩] := ⟨by simpa using h.2.2.1, by simp⟩
    have hin : ParaDTG env _ _ := H env henv [⟨l, false⟩] (by simp) hok h.2.2.2.2
    have e1 : [(⟨l, false⟩ : FLine21)].map flineSrc21 = [flineSrc l] := by simp [flineSrc21]
    rw [e1] at hin
    exact repDT_atx env level (flineSrc l) (frichLine_blk h.2.2.1) _ hin
  | hr x => exact repDT_hr env x
  | fence fc n info ls => exact repDT_fence env fc n info ls
  | icode ls => exact repDT_icode env ls

theorem repL_f (H : F21InlG) (env : GM.Inl.Env) (henv : env.escapedSpace = false) (bs : List FBlock21)
    (h : ∀ b ∈ bs, FGood b) : RelL (RepDT env) (bs.map fraw) (bs.map fNode) :=
  relL_map fraw fNode bs (fun b hb => repDT_f H env henv b (h b hb))

theorem repL_fitems (H : F21InlG) (env : GM.Inl.Env) (henv : env.escapedSpace = false) (items : List (Nat × FBlock21))
    (hgood : ∀ it ∈ items, FGood it.2) :
    RelL (RepDT env) ((items.map fun it => (it.1, fraw it.2)).map (·.2)) (items.map fun it => fNode it.2) := by
  have := repL_f H env henv (items.map (·.2)) (fun b hb => by
    obtain ⟨it, hit, rfl⟩ := List.mem_map.mp hb
    exact hgood it hit)
  simpa [List.map_map, Function.comp_def] using this

theorem fraw_noNl (b : FBlock21) (h : FGood b) : ∀ l ∈ lines5 (fraw b), ∀ c ∈ l, c ≠ 10 := by
  cases b with
  | para ls => exact fun l hl => (flines_blk21 ls h.2.1 l (by simpa [fraw, lines5, lines4] using hl)).noNl
  | atx level l =>
    intro x hx c hc
    simp only [fraw, lines5, lines4, List.mem_singleton] at hx
    subst hx
    simp only [List.mem_append, List.mem_replicate, List.mem_cons] at hc
    rcases hc with ⟨_, rfl⟩ | rfl | hc
    · decide
    · decide
    · exact frichLine_noNl h.2.2.1 c hc
  | hr x => exact lines5_no_nl _ h
  | fence fc n info ls => exact lines5_no_nl _ h
  | icode ls => exact lines5_no_nl _ h

theorem fraw_lastNe (b : FBlock21) (h : FGood b) : ∀ l, (lines5 (fraw b)).getLast? = some l → l ≠ [] := by
  cases b with
  | para ls => exact fun l hl => blkLine_ne (flines_blk21 ls h.2.1 l (List.mem_of_getLast? (by simpa [fraw, lines5, lines4] using hl)))
  | atx level l =>
    intro x hx
    simp only [fraw, lines5, lines4, List.getLast?_singleton, Option.some.injEq] at hx
    subst hx
    simp
  | hr x => exact lastLine_ne _ h
  | fence fc n info ls => exact lastLine_ne _ h
  | icode ls => exact lastLine_ne _ h

/-- a document without indented code blocks (what the block-quote theorems ask) -/
theorem fitems_noic (items : List (Nat × FBlock21)) (hn : ∀ it ∈ items, it.2.isIc = false) :
    ∀ it ∈ items.map (fun it => (it.1, fraw it.2)), isIcB it.2 = false := by
  intro x hx
  obtain ⟨it, hit, rfl⟩ := List.mem_map.mp hx
  exact fraw_noic it.2 (hn it hit)

theorem fitems_good5 (items : List (Nat × FBlock21)) (hgood : ∀ it ∈ items, FGood it.2) :
    ∀ it ∈ items.map (fun it => (it.1, fraw it.2)), Good5 it.2 := by
  intro x hx
  obtain ⟨it, hit, rfl⟩ := List.mem_map.mp hx
  exact good5_fraw it.2 (hgood it hit)

theorem fitems_lines (items : List (Nat × FBlock21)) (hgood : ∀ it ∈ items, FGood it.2) :
    ∀ it ∈ items.map (fun it => (it.1, fraw it.2)), lines5 it.2 ≠ [] ∧
      (∀ l, (lines5 it.2).getLast? = some l → l ≠ []) ∧ ∀ l ∈ lines5 it.2, ∀ c ∈ l, c ≠ 10 := by
  intro x hx
  obtain ⟨it, hit, rfl⟩ := List.mem_map.mp hx
  exact ⟨lines5_ne _ (good5_fraw it.2 (hgood it hit)), fraw_lastNe it.2 (hgood it hit), fraw_noNl it.2 (hgood it hit)⟩

/-- the model of `goldmark.Convert` on a document of good blocks of stage 21 -/
theorem convert_raw21 (H : F21InlG) (uc : List (Nat × (Bool × Bool))) (items : List (Nat × FBlock21)) (trail : Nat)
    (hgood : ∀ it ∈ items, FGood it.2) (hseps : SepsOK6 none (items.map fun it => (it.1, fraw it.2)))
    (hic : IcOK6 false (items.map fun it => (it.1, fraw it.2))) (html : Bytes)
    (hr : GM.Convert.renderDoc cmOpts (.mk .document none (items.map fun it => fNode it.2)) = .ok html) :
    GM.Convert.convertCore uc cmOpts (rawDoc6 (items.map fun it => (it.1, fraw it.2)) trail) = .ok html :=
  convert_of_nest uc cmOpts
    (nestRun_doc6 _ trail (fitems_good5 items hgood) hseps hic (fun x hx => (fitems_lines items hgood x hx).2.2)) _ html
    (fun env henv => repL_fitems H env henv items hgood) hr

/-- … and without the final line feed (the last block may be an indented code block: it is closed as `node5E`) -/
theorem convert_raw21E (H : F21InlG) (uc : List (Nat × (Bool × Bool))) (items : List (Nat × FBlock21)) (hne : items ≠ [])
    (hgood : ∀ it ∈ items, FGood it.2) (hseps : SepsOK6 none (items.map fun it => (it.1, fraw it.2)))
    (hic : IcOK6 false (items.map fun it => (it.1, fraw it.2))) (html : Bytes)
    (hr : GM.Convert.renderDoc cmOpts (.mk .document none (items.map fun it => fNode it.2)) = .ok html) :
    GM.Convert.convertCore uc cmOpts (rawDoc6E (items.map fun it => (it.1, fraw it.2))) = .ok html :=
  convert_of_nest uc cmOpts
    (nestRun_doc7 _ (by simpa using hne) (fitems_good5 items hgood) hseps hic (fitems_lines items hgood)) _ html
    (fun env henv => repL_fitems H env henv items hgood) hr

end GM.Proof.CMFrag
end CMFrag21Main

/-
  section CMFrag21Quote — stage 21 inside `k` nested block quotes (over `SimOK`: any class of GM.Props.C08).
-/
section CMFrag21Quote
namespace GM.Proof.CMFrag
open GM GM.Text GM.Blocks GM.Spec

theorem convert_nest21 (HB : BPFree) (H : F21InlG) (uc : List (Nat × (Bool × Bool))) (items : List (Nat × FBlock21))
    (trail : Nat) (hgood : ∀ it ∈ items, FGood it.2) (hseps : SepsOK6 none (items.map fun it => (it.1, fraw it.2)))
    (hnoic : ∀ it ∈ items, it.2.isIc = false)
    (k : Nat) (hsim : ∀ j, j < k → SimOK (qpN j (rawDoc6 (items.map fun it => (it.1, fraw it.2)) trail)))
    (hnb : ∀ b ∈ rawDoc6 (items.map fun it => (it.1, fraw it.2)) trail, b ≠ 91) (html : Bytes)
    (hr : GM.Convert.renderDoc cmOpts (nestNodeN k (items.map fun it => fNode it.2)) = .ok html) :
    GM.Convert.convertCore uc cmOpts (qpN k (rawDoc6 (items.map fun it => (it.1, fraw it.2)) trail)) = .ok html :=
  convert_nest_genS HB uc _ trail (fitems_good5 items hgood) hseps (fitems_noic items hnoic)
    (fun x hx => (fitems_lines items hgood x hx).2.2) k hsim hnb _ html
    (fun env henv => repL_fitems H env henv items hgood) hr

end GM.Proof.CMFrag
end CMFrag21Quote
