import GM.Proof.QuoteSimBytes
import GM.Proof.BlocksQuote

/-
  part Rel — the simulation relation `SR` between the state of run A (on `src`) and of run B (on
  `quotePrefix src`) while both work inside line `k`, and the model's primitives related under it.

  * readers: `R3` (GM.Proof.QuoteSimBytes);
  * node stores: B has one node more — its Document `0`; A's node `i` is B's node `i+1` (A's Document is B's
    Blockquote `1`), ids inside nodes are shifted by one, every segment is moved by the markers in front of its
    line (`SegRel`, which is `shiftSeg`); `HasBlankPreviousLines` is related only for sources without a blank line (`FL`);
  * contexts: the same keys (node ids shifted), B's `openedBlocks` is A's with the Blockquote block in front.
-/
section Rel
namespace GM.Blocks
open GM GM.Text GM.Spec GM.Proof.Reader

/-- `t` is `s` moved by the markers of the line `k` that `s` lies in. (For a non-empty `s` this is
    `shiftSeg src s`: `segRel_shiftSeg`. An EMPTY segment standing exactly behind the `\n` of line `k` also
    satisfies the bounds; it is moved like line `k`, whereas `shiftSeg` would move it like line `k+1`.) -/
def SegRel (src : Bytes) (s t : Segment) : Prop :=
  ∃ k ls, LineAt src k ls ∧ (ls : Int) ≤ s.start ∧ s.start ≤ s.stop ∧ s.stop ≤ lineEnd src ls ∧ t = shK k s

def SegsRel (src : Bytes) : List Segment → List Segment → Prop
  | [], [] => True
  | a :: as, b :: bs => SegRel src a b ∧ SegsRel src as bs
  | _, _ => False

def InfoRel (src : Bytes) : Option Segment → Option Segment → Prop
  | none, none => True
  | some a, some b => SegRel src a b
  | _, _ => False

def ClosRel (src : Bytes) (a b : Segment) : Prop := (a.start < 0 ∧ b = a) ∨ SegRel src a b

theorem SegsRel.append {src} : ∀ {as bs : List Segment} {a b : Segment}, SegsRel src as bs → SegRel src a b →
    SegsRel src (as ++ [a]) (bs ++ [b])
  | [], [], _, _, _, h => ⟨h, trivial⟩
  | _ :: _, _ :: _, _, _, ⟨h1, h2⟩, h => ⟨h1, SegsRel.append h2 h⟩
  | [], _ :: _, _, _, h, _ => h.elim
  | _ :: _, [], _, _, h, _ => h.elim

theorem SegsRel.length {src} : ∀ {as bs : List Segment}, SegsRel src as bs → bs.length = as.length
  | [], [], _ => rfl
  | _ :: _, _ :: _, ⟨_, h2⟩ => by simp [SegsRel.length h2]
  | [], _ :: _, h => h.elim
  | _ :: _, [], h => h.elim

/-- the sources for which the relation also relates `HasBlankPreviousLines` (of every node but A's Document / B's
    Blockquote): no line of the source is blank. Then every call of `openBlocks` gets the same flag in both runs: the
    calls below an opened container ask `isBlankLine` one level deeper in the prefixed run and the statistics are
    shifted accordingly, and the calls for children of the Document (where the levels are NOT shifted) answer `false`
    in both runs because the line before is not blank. (With blank lines the flags of the Document's children differ.) -/
def FL (src : Bytes) : Prop := ∀ k ls, LineAt src k ls → isBlank (sub src ls (lineEnd src ls)) = false

/-- the raw block kinds (`IsRaw()`: CodeBlock, FencedCodeBlock, HTMLBlock) — `GM.Proof.BlocksWF0.isRaw` -/
def rawK : Kind → Bool
  | .codeBlock | .fencedCodeBlock | .htmlBlock => true
  | _ => false

/-- node `a` of store A and the node `b` of store B that stands for it; `root`: `a` is A's Document, `b` is
    B's Blockquote. The last three fields are unary facts about `a`: a RAW block has no empty line segment (for the
    other kinds GM.Props.Wf0.inline_segments_nonempty says so about every run), an info / closure segment is not empty. -/
structure NodeRel (src : Bytes) (root : Bool) (a b : Node) : Prop where
  kind : if root then b.kind = .blockquote ∧ a.kind = .document else b.kind = a.kind
  parent : if root then b.parent = some 0 ∧ a.parent = none else b.parent = a.parent.map (· + 1)
  children : b.children = a.children.map (· + 1)
  lines : SegsRel src a.lines b.lines
  linesNil : b.linesNil = a.linesNil
  level : b.level = a.level
  marker : b.marker = a.marker
  start : b.start = a.start
  tight : b.tight = a.tight
  offset : b.offset = a.offset
  htmlType : b.htmlType = a.htmlType
  info : InfoRel src a.info b.info
  closure : ClosRel src a.closure b.closure
  rawNE : rawK a.kind = true → ∀ l ∈ a.lines, l.start < l.stop
  infoNE : ∀ i, a.info = some i → i.start < i.stop
  closNE : 0 ≤ a.closure.start → a.closure.start < a.closure.stop
  blank : FL src → root = false → b.blankPrev = a.blankPrev

theorem nodeRel_default (src : Bytes) : NodeRel src false (default : Node) (default : Node) := by
  refine ⟨rfl, rfl, rfl, trivial, rfl, rfl, rfl, rfl, rfl, rfl, rfl, trivial, .inl ⟨by decide, rfl⟩,
    (fun _ l hl => by cases hl), (fun i hi => by cases hi), (fun h => absurd h (by decide)), (fun _ _ => rfl)⟩

theorem nodeRel_new (src : Bytes) (n : Node) (h1 : n.parent = none) (h2 : n.children = []) (h3 : n.lines = [])
    (h4 : n.info = none) (h5 : n.closure.start < 0) : NodeRel src false n n := by
  refine ⟨rfl, by simp [h1], by simp [h2], by rw [h3]; trivial, rfl, rfl, rfl, rfl, rfl, rfl, rfl, by rw [h4]; trivial,
    .inl ⟨h5, rfl⟩, (fun _ l hl => by rw [h3] at hl; cases hl), (fun i hi => by rw [h4] at hi; cases hi),
    (fun h => by omega), (fun _ _ => rfl)⟩

structure StoreRel (src : Bytes) (nA nB : List Node) : Prop where
  len : nB.length = nA.length + 1
  pos : 0 < nA.length
  doc : (nB.getD 0 default).kind = .document ∧ (nB.getD 0 default).children = [1]
  node : ∀ i, NodeRel src (i == 0) (nA.getD i default) (nB.getD (i + 1) default)
  /-- B's Document is never touched again after the Blockquote was appended to it -/
  doc0 : nB.getD 0 default = { kind := .document, children := [1] }

def shB (b : Block) : Block := { b with node := b.node + 1 }
def bqBlock : Block := { node := 1, bp := .blockquote }
def shF (f : FenceData) : FenceData := { f with node := f.node + 1 }

theorem opt_succ_beq (o : Option Nat) (p : Nat) : (o.map (· + 1) == some (p + 1)) = (o == some p) := by
  cases o with
  | none => rfl
  | some q =>
    simp only [Option.map_some, Option.some_beq_some]
    exact decide_eq_decide.mpr (by constructor <;> intro _ <;> omega)

structure CtxRel (a b : Ctx) : Prop where
  blockOffset : b.blockOffset = a.blockOffset
  blockIndent : b.blockIndent = a.blockIndent
  opened : b.opened = bqBlock :: a.opened.map shB
  tmpPara : b.tmpPara = a.tmpPara.map (· + 1)
  fence : b.fence = a.fence.map shF
  skipList : b.skipList = a.skipList
  emptyItemBlank : b.emptyItemBlank = a.emptyItemBlank

/-- the last opened block of A and of B -/
def LastRel (a b : Option Block) : Prop :=
  (a = none ∧ b = some bqBlock) ∨ ∃ x, a = some x ∧ b = some (shB x)

theorem CtxRel.last {a b : Ctx} (h : CtxRel a b) : LastRel a.opened.getLast? b.opened.getLast? := by
  rw [h.opened]
  cases ho : a.opened.getLast? with
  | none =>
    have : a.opened = [] := List.getLast?_eq_none_iff.mp ho
    rw [this]; exact .inl ⟨rfl, rfl⟩
  | some x =>
    refine .inr ⟨x, rfl, ?_⟩
    rw [List.getLast?_cons, List.getLast?_map, ho]; rfl

/-! ### the state relation inside line `k` -/

structure SR (src : Bytes) (k ls p : Nat) (sA sB : St) : Prop where
  r : R3 src k ls p sA.r sB.r
  n : StoreRel src sA.nodes sB.nodes
  c : CtxRel sA.pc sB.pc

theorem peekLine_s2 {src k ls p} {sA sB : St} (h : SR src k ls p sA sB) :
    S2 (fun a b sA' sB' => a = (viewA src ls p, segA src ls p) ∧ b = (viewA src ls p, shK k (segA src ls p)) ∧
        SR src k ls p sA' sB') (peekLine sA) (peekLine sB) := by
  obtain ⟨rA, h1, h2⟩ := ri_peekLine h.r.a
  obtain ⟨rB, h3, h4⟩ := ri_peekLine h.r.b
  unfold GM.Blocks.peekLine
  rw [h1, h3, view_A h.r.inl, view_B h.r.inl, seg_A h.r.inl, seg_B h.r.inl]
  exact S2.ok ⟨rfl, rfl, ⟨⟨h.r.tf, h.r.inl, h2, h4⟩, h.n, h.c⟩⟩

theorem lineOffset_s2 {src k ls p} {sA sB : St} (h : SR src k ls p sA sB) :
    S2 (fun a b sA' sB' => (p < src.length → a = (p : Int) - ls ∧ b = (p : Int) - ls + 2) ∧
        SR src k ls p sA' sB') (lineOffset sA) (lineOffset sB) := by
  obtain ⟨vA, rA, h1, h2, h2'⟩ := ri_lineOffset h.r.a
  obtain ⟨vB, rB, h3, h4, h4'⟩ := ri_lineOffset h.r.b
  unfold GM.Blocks.lineOffset
  rw [h1, h3]
  refine S2.ok ⟨fun hp => ?_, ⟨⟨h.r.tf, h.r.inl, h2, h4⟩, h.n, h.c⟩⟩
  have hq : p + 2 * (k + 1) < (quotePrefix src).length := by
    have := qp_length_ge h.r.inl.line
    have := h.r.inl.lt_iff.mp hp
    omega
  rw [h2' hp, h4' hq, loVal_A h.r.tf h.r.inl hp, loVal_B h.r.tf h.r.inl hp]
  exact ⟨rfl, rfl⟩

theorem advance_s2 {src k ls p} {sA sB : St} (h : SR src k ls p sA sB) {n m : Int} (hm : m = n) (hn : 0 ≤ n)
    (h' : InL src k ls (p + n.toNat)) :
    S2 (fun _ _ sA' sB' => SR src k ls (p + n.toNat) sA' sB') (advance n sA) (advance m sB) := by
  subst hm
  obtain ⟨rA, h1, h2⟩ := ri_advance h.r.a hn
  obtain ⟨rB, h3, h4⟩ := ri_advance h.r.b hn
  unfold GM.Blocks.advance
  rw [h1, h3]
  rw [advN_inl h.r.inl _ h'] at h2
  rw [advN_inl_q h.r.inl _ h'] at h4
  exact S2.ok ⟨⟨h.r.tf, h', h2, h4⟩, h.n, h.c⟩

theorem advPadCur_zero (src : Bytes) (n pd : Int) (c : RCur) (hpd : pd ≤ 0) :
    advPadCur src n pd c = RCur.advN src n.toNat c := by
  unfold advPadCur
  simp only
  rw [if_neg (by omega)]

theorem advanceAndSetPadding_s2 {src k ls p} {sA sB : St} (h : SR src k ls p sA sB) {n m pd pd' : Int} (hm : m = n)
    (hpd' : pd' = pd) (hn : 0 ≤ n) (hpd : pd ≤ 0) (h' : InL src k ls (p + n.toNat)) :
    S2 (fun _ _ sA' sB' => SR src k ls (p + n.toNat) sA' sB')
      (advanceAndSetPadding n pd sA) (advanceAndSetPadding m pd' sB) := by
  rw [hm, hpd']
  obtain ⟨rA, h1, h2⟩ := ri_advanceAndSetPadding h.r.a hn pd
  obtain ⟨rB, h3, h4⟩ := ri_advanceAndSetPadding h.r.b hn pd
  unfold GM.Blocks.advanceAndSetPadding
  rw [h1, h3]
  rw [advPadCur_zero _ _ _ _ hpd, advN_inl h.r.inl _ h'] at h2
  rw [advPadCur_zero _ _ _ _ hpd, advN_inl_q h.r.inl _ h'] at h4
  exact S2.ok ⟨⟨h.r.tf, h', h2, h4⟩, h.n, h.c⟩

/-- `Advance(n)` to a position in front of the line's end -/
theorem advance_lt_s2 {src k ls p} {sA sB : St} (h : SR src k ls p sA sB) {n m : Int} (hm : m = n) (hn : 0 ≤ n)
    (hlt : (p : Int) + n < lineEnd src ls) :
    S2 (fun _ _ sA' sB' => SR src k ls (p + n.toNat) sA' sB') (advance n sA) (advance m sB) :=
  advance_s2 h hm hn (h.r.inl.adv_lt (Nat.le_add_right _ _) (by omega))

theorem advanceAndSetPadding_lt_s2 {src k ls p} {sA sB : St} (h : SR src k ls p sA sB) {n m pd pd' : Int} (hm : m = n)
    (hpd' : pd' = pd) (hn : 0 ≤ n) (hpd : pd ≤ 0) (hlt : (p : Int) + n < lineEnd src ls) :
    S2 (fun _ _ sA' sB' => SR src k ls (p + n.toNat) sA' sB')
      (advanceAndSetPadding n pd sA) (advanceAndSetPadding m pd' sB) :=
  advanceAndSetPadding_s2 h hm hpd' hn hpd (h.r.inl.adv_lt (Nat.le_add_right _ _) (by omega))

/-- the last `Advance(segment.Len() - 1)` of a leaf parser, `s` a rest of the current line that is not empty: the readers
    stay in front of the line's last byte -/
theorem advance_eol_s2 {src k ls p} {sA sB : St} (h : SR src k ls p sA sB) {s : Segment} (hs : (p : Int) ≤ s.start)
    (hne : s.start < s.stop) (hst : s.stop = lineEnd src ls) (hp : s.padding = 0) :
    S2 (fun _ _ sA' sB' => ∃ p', p ≤ p' ∧ SR src k ls p' sA' sB')
      (advance (s.len - 1) sA) (advance ((shK k s).len - 1) sB) :=
  (advance_lt_s2 h (by rw [shK_len]) (by simp only [Segment.len]; omega) (by simp only [Segment.len]; omega)).mono
    fun _ _ _ _ h' => ⟨_, Nat.le_add_right _ _, h'⟩

theorem position_s2 {src k ls p} {sA sB : St} (h : SR src k ls p sA sB) :
    S2 (fun a b sA' sB' => a = ((k : Int), segA src ls p) ∧ b = ((k : Int), shK k (segA src ls p)) ∧
        SR src k ls p sA' sB') (position sA) (position sB) := by
  unfold GM.Blocks.position Reader.position
  have e1 := h.r.a.pos
  have e2 := h.r.b.pos
  have l1 := h.r.a.abs.line
  have l2 := h.r.b.abs.line
  simp only [clearLo] at l1 l2
  have s1 := seg_A h.r.inl
  have s2 := seg_B h.r.inl
  simp only [RCur.seg] at s1 s2
  refine S2.ok ⟨?_, ?_, h⟩
  · rw [e1, l1]; simp only [Prod.mk.injEq, true_and]; rw [← s1]
  · rw [e2, l2]; simp only [Prod.mk.injEq, true_and]; rw [← s2]

theorem source_s2 {src k ls p} {sA sB : St} (h : SR src k ls p sA sB) :
    S2 (fun a b sA' sB' => a = src ∧ b = quotePrefix src ∧ SR src k ls p sA' sB') (source sA) (source sB) := by
  unfold GM.Blocks.source
  exact S2.ok ⟨h.r.a.source, h.r.b.source, h⟩

theorem getNode_s2 {src k ls p} {sA sB : St} (h : SR src k ls p sA sB) (id : Nat) :
    S2 (fun a b sA' sB' => NodeRel src (id == 0) a b ∧ SR src k ls p sA' sB') (getNode id sA) (getNode (id + 1) sB) := by
  unfold getNode
  exact S2.ok ⟨h.n.node id, h⟩

theorem set_ge {α} (l : List α) (i : Nat) (a : α) (h : l.length ≤ i) : l.set i a = l := by
  apply List.ext_getElem?
  intro j
  rw [List.getElem?_set]
  split
  · next e => subst e; rw [if_neg (by omega)]; simp [List.getElem?_eq_none h]
  · rfl

theorem StoreRel.set {src} {nA nB : List Node} (h : StoreRel src nA nB) (id : Nat) {a b : Node}
    (hab : NodeRel src (id == 0) a b) : StoreRel src (nA.set id a) (nB.set (id + 1) b) := by
  refine ⟨by simp [h.len], by simp [h.pos], ?_, fun i => ?_, ?_⟩
  rotate_left 2
  · rw [getD_set_ne _ _ _ _ _ (by omega)]; exact h.doc0
  · rw [getD_set_ne _ _ _ _ _ (by omega)]; exact h.doc
  · by_cases hi : i = id
    · subst hi
      by_cases hlt : i < nA.length
      · rw [getD_set_eq _ _ _ _ hlt, getD_set_eq _ _ _ _ (by rw [h.len]; omega)]; exact hab
      · rw [set_ge _ _ _ (by omega), set_ge _ _ _ (by rw [h.len]; omega)]; exact h.node i
    · rw [getD_set_ne _ _ _ _ _ (Ne.symm hi), getD_set_ne _ _ _ _ _ (by omega)]; exact h.node i

theorem modNode_s2 {src k ls p} {sA sB : St} (h : SR src k ls p sA sB) (id : Nat) (fA fB : Node → Node)
    (hf : ∀ a b, NodeRel src (id == 0) a b → NodeRel src (id == 0) (fA a) (fB b)) :
    S2 (fun _ _ sA' sB' => SR src k ls p sA' sB') (modNode id fA sA) (modNode (id + 1) fB sB) := by
  unfold modNode
  exact S2.ok ⟨h.r, h.n.set id (hf _ _ (h.n.node id)), h.c⟩

/-- `modNode` where the functions need to be related only on the two nodes they are applied to -/
theorem modNode_s2' {src k ls p} {sA sB : St} (h : SR src k ls p sA sB) (id : Nat) (fA fB : Node → Node)
    (hf : NodeRel src (id == 0) (sA.nodes.getD id default) (sB.nodes.getD (id + 1) default) →
      NodeRel src (id == 0) (fA (sA.nodes.getD id default)) (fB (sB.nodes.getD (id + 1) default))) :
    S2 (fun _ _ sA' sB' => SR src k ls p sA' sB') (modNode id fA sA) (modNode (id + 1) fB sB) := by
  unfold modNode
  exact S2.ok ⟨h.r, h.n.set id (hf (h.n.node id)), h.c⟩

theorem getD_append_eq {α} (l : List α) (x d : α) : (l ++ [x]).getD l.length d = x := by
  simp [List.getD_eq_getElem?_getD]

theorem newNode_s2 {src k ls p} {sA sB : St} (h : SR src k ls p sA sB) (nA nB : Node) (hn : NodeRel src false nA nB) :
    S2 (fun a b sA' sB' => a = sA.nodes.length ∧ b = a + 1 ∧ a ≠ 0 ∧ SR src k ls p sA' sB')
      (newNode nA sA) (newNode nB sB) := by
  unfold newNode
  have hpos := h.n.pos
  refine S2.ok ⟨rfl, h.n.len, by omega, h.r, ⟨by simp [h.n.len], by simp, ?_, fun i => ?_, ?_⟩, h.c⟩
  rotate_left 2
  · rw [getD_append_lt _ _ _ _ (by rw [h.n.len]; omega)]; exact h.n.doc0
  · rw [getD_append_lt _ _ _ _ (by rw [h.n.len]; omega)]; exact h.n.doc
  · by_cases hi : i = sA.nodes.length
    · subst hi
      have e : sA.nodes.length + 1 = sB.nodes.length := h.n.len.symm
      rw [getD_append_eq, e, getD_append_eq]
      have : (sA.nodes.length == 0) = false := beq_eq_false_iff_ne.mpr (by omega)
      rw [this]; exact hn
    · rw [getD_append_lt _ _ _ _ hi, getD_append_lt _ _ _ _ (by rw [h.n.len]; omega)]; exact h.n.node i

/-- `newNode_s2`, with the fact that A's new node is the given one -/
theorem newNode_s2k {src k ls p} {sA sB : St} (h : SR src k ls p sA sB) (nA nB : Node) (hn : NodeRel src false nA nB) :
    S2 (fun a b sA' sB' => a = sA.nodes.length ∧ b = a + 1 ∧ a ≠ 0 ∧ SR src k ls p sA' sB' ∧
        sA'.nodes.getD a default = nA)
      (newNode nA sA) (newNode nB sB) := by
  intro a sA' e
  obtain ⟨b, sB', e2, h1, h2, h3, h4⟩ := newNode_s2 h nA nB hn a sA' e
  refine ⟨b, sB', e2, h1, h2, h3, h4, ?_⟩
  unfold newNode at e
  cases e
  exact getD_append_eq _ _ _

theorem getPc_s2 {src k ls p} {sA sB : St} (h : SR src k ls p sA sB) :
    S2 (fun a b sA' sB' => a = sA.pc ∧ b = sB.pc ∧ CtxRel a b ∧ sA' = sA ∧ sB' = sB) (getPc sA) (getPc sB) := by
  unfold getPc
  exact S2.ok ⟨rfl, rfl, h.c, rfl, rfl⟩

theorem modPc_s2 {src k ls p} {sA sB : St} (h : SR src k ls p sA sB) (fA fB : Ctx → Ctx)
    (hf : ∀ a b, CtxRel a b → CtxRel (fA a) (fB b)) :
    S2 (fun _ _ sA' sB' => SR src k ls p sA' sB') (modPc fA sA) (modPc fB sB) := by
  unfold modPc
  exact S2.ok ⟨h.r, h.n, hf _ _ h.c⟩

theorem lastOpenedBlock_s2 {src k ls p} {sA sB : St} (h : SR src k ls p sA sB) :
    S2 (fun a b sA' sB' => LastRel a b ∧ a = sA.pc.opened.getLast? ∧ sA' = sA ∧ sB' = sB)
      (lastOpenedBlock sA) (lastOpenedBlock sB) := by
  unfold lastOpenedBlock
  refine S2.bind (getPc_s2 h) (fun a b sA' sB' hq => ?_)
  obtain ⟨ha, hb, hc, h1, h2⟩ := hq
  subst ha hb h1 h2
  exact S2.pure ⟨hc.last, rfl, rfl, rfl⟩

end GM.Blocks
end Rel

/-
  part Ops — what the block parsers compute from a line is the same in run A and run B:
  column-taking recognisers on tab-free lines (`indentWidthI`, `indentPositionPadding`, `isThematicBreak` do not
  depend on the column), segment operations on a segment of line `k` and on the same segment moved by the
  markers (`Segment.trimLeftSpace`, `trimRightSpace`, `value`), and the tree operations under `SR`.
-/
section Ops
namespace GM.Blocks
open GM GM.Text GM.Spec GM.Proof.Reader

/-! ### tab-free lines: the column does not matter -/

theorem indentWidthI_tf (bs : Bytes) (h : ∀ c ∈ bs, c ≠ 9) (cur cur' : Int) :
    indentWidthI bs cur = indentWidthI bs cur' := by
  have ht : ∀ c ∈ indentOf bs, c ≠ 9 := fun c hc => h c ((List.takeWhile_sublist _).mem hc)
  obtain ⟨a1, _, a3⟩ := indentWidthI_eq bs cur
  obtain ⟨b1, _, b3⟩ := indentWidthI_eq bs cur'
  exact Prod.ext ((a3 ht).trans (b3 ht).symm) (a1.trans b1.symm)

theorem ippLoop_tf (cur cur' width : Int) : ∀ (bs : Bytes) (i p w : Int), (∀ c ∈ bs, c ≠ 9) →
    ippLoop cur width bs i p w = ippLoop cur' width bs i p w := by
  intro bs
  induction bs with
  | nil => intro i p w _; rfl
  | cons b bs ih =>
    intro i p w h
    have hb : (b == 9) = false := by
      have := h b (by simp); simpa using this
    have ht := fun i p w => ih i p w (fun c hc => h c (by simp [hc]))
    unfold ippLoop
    simp only [hb, Bool.false_and, Bool.false_eq_true, if_false]
    split
    · exact ht _ _ _
    · split
      · exact ht _ _ _
      · rfl

theorem indentPositionPadding_tf (bs : Bytes) (h : ∀ c ∈ bs, c ≠ 9) (cur cur' pad width : Int) :
    indentPositionPadding bs cur pad width = indentPositionPadding bs cur' pad width := by
  unfold indentPositionPadding
  rw [ippLoop_tf cur cur' width bs 0 pad 0 h]

theorem indentPosition_tf (bs : Bytes) (h : ∀ c ∈ bs, c ≠ 9) (cur cur' width : Int) :
    indentPosition bs cur width = indentPosition bs cur' width :=
  indentPositionPadding_tf bs h cur cur' 0 width

theorem isThematicBreak_tf (bs : Bytes) (h : ∀ c ∈ bs, c ≠ 9) (cur cur' : Int) :
    isThematicBreak bs cur = isThematicBreak bs cur' := by
  unfold isThematicBreak
  rw [indentWidthI_tf bs h cur cur']

/-- on a tab-free line with no padding the loop of IndentPositionPadding ends with `w ≤ width` -/
theorem ippLoop_tf_le (cur width : Int) : ∀ (bs : Bytes) (i w : Int), (∀ c ∈ bs, c ≠ 9) → w ≤ width →
    (ippLoop cur width bs i 0 w).2 ≤ width ∧ i ≤ (ippLoop cur width bs i 0 w).1 ∧
      (ippLoop cur width bs i 0 w).1 ≤ i + bs.length := by
  intro bs
  induction bs with
  | nil => intro i w _ hw; simp [ippLoop]; exact hw
  | cons b bs ih =>
    intro i w h hw
    have hb : (b == 9) = false := by
      have := h b (by simp); simpa using this
    unfold ippLoop
    simp only [hb, Bool.false_and, Bool.false_eq_true, if_false, Int.lt_irrefl]
    split
    · next hc =>
      simp only [Bool.and_eq_true, decide_eq_true_eq] at hc
      have := ih (i + 1) (w + 1) (fun c hc => h c (by simp [hc])) (by omega)
      simp only [List.length_cons]; omega
    · simp only [List.length_cons]; omega

/-- `IndentPosition` on a tab-free line: no padding is ever asked for, and the position is inside the line -/
theorem indentPosition_tf_pad (bs : Bytes) (h : ∀ c ∈ bs, c ≠ 9) (cur width : Int) (hw : 0 ≤ width) :
    (indentPosition bs cur width).2 ≤ 0 ∧ (indentPosition bs cur width).1 ≤ bs.length := by
  unfold indentPosition indentPositionPadding
  split
  · simp
  · have := ippLoop_tf_le cur width bs 0 0 h hw
    simp only
    split
    · simp only; omega
    · simp only; omega

theorem toNat_shift (a : Int) (k : Nat) (h : 0 ≤ a) : (a + 2 * ((k : Int) + 1)).toNat = a.toNat + 2 * (k + 1) := by
  omega

theorem sliceB_q {src k ls} (h : LineAt src k ls) {a b : Int} (h1 : (ls : Int) ≤ a) (h2 : a ≤ b)
    (h3 : b ≤ lineEnd src ls) :
    sliceB src a b = .ok (sub src a.toNat b.toNat) ∧
    sliceB (quotePrefix src) (a + 2 * ((k : Int) + 1)) (b + 2 * ((k : Int) + 1)) = .ok (sub src a.toNat b.toNat) := by
  have hle := lineEnd_le src ls
  have hq := qp_length_ge h
  constructor
  · exact sliceB_ok src (by omega) h2 (by omega)
  · rw [sliceB_ok _ (by omega) (by omega) (by omega), toNat_shift a k (by omega), toNat_shift b k (by omega),
      qp_sub h (by omega) (by omega) (by omega)]

/-- a segment inside line `k` -/
structure SegIn (src : Bytes) (k ls : Nat) (s : Segment) : Prop where
  line : LineAt src k ls
  ge : (ls : Int) ≤ s.start
  le : s.start ≤ s.stop
  stop : s.stop ≤ lineEnd src ls

theorem segA_in {src k ls p} (h : InL src k ls p) : SegIn src k ls (segA src ls p) :=
  ⟨h.line, by simp [segA]; exact h.ge, by simp [segA]; exact h.le, by simp [segA]⟩

theorem trimLeftSpace_q {src k ls s} (h : SegIn src k ls s) :
    ∃ t, s.trimLeftSpace src = .ok t ∧ (shK k s).trimLeftSpace (quotePrefix src) = .ok (shK k t) ∧
      t.stop = s.stop ∧ s.start ≤ t.start ∧ t.padding = 0 ∧
      t.start = s.start + trimLeftSpaceLength (sub src s.start.toNat s.stop.toNat) := by
  obtain ⟨e1, e2⟩ := sliceB_q h.line h.ge h.le h.stop
  unfold Segment.trimLeftSpace
  simp only [shK, e1, e2, bind, Except.bind, pure, Except.pure]
  refine ⟨_, rfl, ?_, rfl, by simp only; omega, rfl, rfl⟩
  simp only [Except.ok.injEq, Segment.mk.injEq, and_true]
  omega

theorem takeWhile_length_le {α} (p : α → Bool) (l : List α) : (l.takeWhile p).length ≤ l.length := by
  induction l with
  | nil => simp
  | cons a l ih => simp only [List.takeWhile]; split <;> simp <;> omega

theorem trimLeftSpaceLength_le (v : Bytes) : trimLeftSpaceLength v ≤ v.length := by
  unfold trimLeftSpaceLength
  exact takeWhile_length_le _ _

theorem trimRightSpaceLength_le (v : Bytes) : trimRightSpaceLength v ≤ v.length := by
  unfold trimRightSpaceLength
  have := takeWhile_length_le isSpace v.reverse
  simpa using this

theorem trimRightSpace_q {src k ls s} (h : SegIn src k ls s) :
    ∃ t, s.trimRightSpace src = .ok t ∧ (shK k s).trimRightSpace (quotePrefix src) = .ok (shK k t) ∧
      t.start = s.start ∧ t.stop ≤ s.stop ∧ t.start ≤ t.stop := by
  obtain ⟨e1, e2⟩ := sliceB_q h.line h.ge h.le h.stop
  have hl : (trimRightSpaceLength (sub src s.start.toNat s.stop.toNat) : Int) ≤ s.stop - s.start := by
    have h0 := trimRightSpaceLength_le (sub src s.start.toNat s.stop.toNat)
    have hle := lineEnd_le src ls
    rw [length_sub src (by have := h.stop; omega)] at h0
    have := h.ge; have := h.le
    omega
  unfold Segment.trimRightSpace
  simp only [shK, e1, e2, bind, Except.bind, pure, Except.pure]
  split
  · exact ⟨_, rfl, by simp, rfl, by simp only; exact h.le, by simp⟩
  · refine ⟨_, rfl, by simp only [Except.ok.injEq, Segment.mk.injEq, and_true, true_and]; omega, rfl,
      by simp only; omega, by simp only; omega⟩

theorem segRel_of_in {src k ls s} (h : SegIn src k ls s) (_hlt : s.start < lineEnd src ls) : SegRel src s (shK k s) := by
  exact ⟨k, ls, h.line, h.ge, h.le, h.stop, rfl⟩

end GM.Blocks
end Ops
