/-
  GM.Proof.E2EQuote — C08 AT HTML LEVEL on the composed model: from the block-TREE relation of GM.Proof.QuoteSimRel (`StoreRel D nA nB`:
  the store of `quotePrefix D` is Document[Blockquote[the store of `D`, node ids + 1, segments moved by the markers]]) to
  `convertCore uc o (quotePrefix D) = "<blockquote>\n" ++ convertCore uc o D ++ "</blockquote>\n"`, for sources without `[`.

  What is proved here: the renderer's view of every block node is the same in both trees (`docTree_quote`) — kinds, levels, list
  data are equal fields of `NodeRel`; the VALUES of lines / info / closure segments of raw blocks are equal (`html_value_q`); the
  run-time `WF0` check passes on the moved lines (block-phase facts of GM.Props.ConvertNP for `quotePrefix D`) — GIVEN the one named
  hypothesis `InlineQuoteInvariant`: the inline phase of a block answers the same renderer tree on the lines moved by the markers.
  NOTE for whoever proves it: "the inline phase depends only on the VALUES of the lines" is NOT true as stated —
  `BlockReader.precendingCharacter` (reader.go:376-390) reads the source byte BEFORE a line's start (flanking of `*` / `_` at the
  beginning of a continuation line); under the marker shift that byte is the same byte of the same line, or `\n` in `D` and the
  space of `> ` in `quotePrefix D` — both white space. The hypothesis is therefore stated on `SegsRel` (which knows this), not on
  bare values.
-/
import GM.Props.ConvertE2E
import GM.Props.ConvertNP
import GM.Props.Blocks
import GM.Proof.QuoteSimTop
import GM.Proof.QuoteSimCode

namespace GM.E2E.Quote
open GM GM.Text GM.Convert GM.Spec GM.E2E GM.Blocks
open GM.Proof.InlinesReader (WF0)

/-- **the key lemma, as a named hypothesis, for ONE block**: the inline phase on the lines `L` of `D` and on the lines `L'` of
    `quotePrefix D` answers the same renderer trees — for any reference maps (never consulted without `[`) and the same Unicode
    classes -/
def InlineQuoteStep (D : Bytes) (L L' : List Segment) : Prop :=
  ∀ (env env' : GM.Inl.Env), env'.uc = env.uc → env.escapedSpace = false → env'.escapedSpace = false →
    WF0 D L → WF0 (quotePrefix D) L' →
    ∀ kids, GM.Inl.parseBlock env D L = .ok kids →
      ∃ kids', GM.Inl.parseBlock env' (quotePrefix D) L' = .ok kids' ∧ inlineTrees (quotePrefix D) kids' = inlineTrees D kids

/-- … for ONE source `D`: for all lines moved by the quote markers (`SegsRel D L L'`) -/
def InlineQuoteInvariantAt (D : Bytes) : Prop := ∀ (L L' : List Segment), SegsRel D L L' → InlineQuoteStep D L L'

/-- … for every source without `[` -/
def InlineQuoteInvariant : Prop := ∀ D : Bytes, NoBracket D → InlineQuoteInvariantAt D

theorem segValues_rel {D : Bytes} : ∀ (L L' : List Segment), SegsRel D L L' → segValues (quotePrefix D) L' = segValues D L
  | [], [], _ => rfl
  | [], _ :: _, h => h.elim
  | _ :: _, [], h => h.elim
  | s :: L, t :: L', ⟨h1, h2⟩ => by
    simp only [segValues]
    rw [GM.Blocks.html_value_q h1, segValues_rel L L' h2]

/-- the renderer's kind of related nodes: equal, except that A's Document stands for B's Blockquote -/
theorem blockKind_rel {D : Bytes} {root : Bool} {a b : Blocks.Node} (h : NodeRel D root a b) {k : GM.Kind}
    (hk : blockKind D a = .ok k) : blockKind (quotePrefix D) b = .ok (if root then .blockquote else k) := by
  cases root with
  | true =>
    have h1 := h.kind
    simp only [if_true] at h1
    unfold blockKind
    rw [h1.1]
    rfl
  | false =>
    have h1 : b.kind = a.kind := by have := h.kind; simpa using this
    simp only [Bool.false_eq_true, if_false]
    unfold blockKind at hk ⊢
    rw [h1]
    cases hka : a.kind <;> rw [hka] at hk <;> simp only [] at hk ⊢
    all_goals first
      | exact hk
      | (rw [h.level]; exact hk)
      | (rw [h.marker, h.start]; exact hk)
      | skip
    · -- codeBlock
      rw [segValues_rel _ _ h.lines]; exact hk
    · -- fencedCodeBlock
      have hi := h.info
      cases hia : a.info with
      | none =>
        rw [hia] at hi hk
        cases hib : b.info with
        | none => simp only [] at hk ⊢; rw [segValues_rel _ _ h.lines]; exact hk
        | some t => rw [hib] at hi; exact hi.elim
      | some sg =>
        rw [hia] at hi hk
        cases hib : b.info with
        | none => rw [hib] at hi; exact hi.elim
        | some t =>
          rw [hib] at hi
          simp only [] at hk ⊢
          rw [GM.Blocks.html_value_q hi, segValues_rel _ _ h.lines]; exact hk
    · -- htmlBlock
      rw [segValues_rel _ _ h.lines]
      rcases h.closure with ⟨hneg, heq⟩ | hc
      · rw [heq]
        have : ¬ (a.closure.start ≥ 0) := by omega
        rw [if_neg this] at hk ⊢
        exact hk
      · obtain ⟨kk, ls, hl, g1, g2, g3, e⟩ := hc
        have hge : a.closure.start ≥ 0 := by omega
        have hge' : b.closure.start ≥ 0 := by rw [e]; simp only [shK]; omega
        rw [if_pos hge] at hk
        rw [if_pos hge', GM.Blocks.html_value_q ⟨kk, ls, hl, g1, g2, g3, e⟩]
        exact hk

/-- the renderer node with A's Document read as B's Blockquote -/
def requote (root : Bool) : GM.Node → GM.Node
  | .mk k a cs => .mk (if root then .blockquote else k) a cs

theorem requote_false (x : GM.Node) : requote false x = x := by cases x; rfl

section rel
variable {D : Bytes} (env env' : GM.Inl.Env) (huc : env'.uc = env.uc) (hes : env.escapedSpace = false)
  (hes' : env'.escapedSpace = false)
include huc hes hes'

theorem inlinePhase_rel {root : Bool} {a b : Blocks.Node} (h : NodeRel D root a b)
    (KEY : isRawKind a.kind = false → a.lines ≠ [] → InlineQuoteStep D a.lines b.lines) (hw : WFB (quotePrefix D) b)
    {kids : List GM.Inl.Node} (hk : inlinePhase true env D a = .ok kids) :
    ∃ kids', inlinePhase true env' (quotePrefix D) b = .ok kids' ∧ inlineTrees (quotePrefix D) kids' = inlineTrees D kids := by
  have hraw : isRawKind b.kind = isRawKind a.kind := by
    cases root with
    | true => have := h.kind; simp only [if_true] at this; rw [this.1, this.2]; rfl
    | false => have := h.kind; simp only [Bool.false_eq_true, if_false] at this; rw [this]
  have hlen := SegsRel.length h.lines
  unfold inlinePhase at hk ⊢
  rw [hraw]
  split at hk
  · rename_i hr; rw [if_pos hr]; cases hk; exact ⟨[], rfl, rfl⟩
  · rename_i hr
    rw [if_neg hr]
    have hemp : b.lines.isEmpty = a.lines.isEmpty := by
      cases ha : a.lines <;> cases hb' : b.lines <;> simp [ha, hb'] at hlen ⊢
    rw [hemp]
    split at hk
    · rename_i he; rw [if_pos he]; cases hk; exact ⟨[], rfl, rfl⟩
    · rename_i he
      rw [if_neg he]
      split at hk
      · cases hk
      · rename_i hg
        have hwa : WF0 D a.lines := by
          have : GM.LinkRef.wf0B D a.lines = true := by simpa using hg
          exact GM.Proof.LinkRefTotal.wf0B_sound this
        have hne : b.lines ≠ [] := by
          intro e; rw [e] at hemp; exact he (by simpa using hemp.symm)
        have hwb : WF0 (quotePrefix D) b.lines := hw (by rw [hraw]; simpa using hr) hne
        rw [wf0B_complete hwb]
        simp only [Bool.not_true, Bool.and_false, Bool.false_eq_true, if_false]
        obtain ⟨ks, hks⟩ : ∃ ks, GM.Inl.parseBlock env D a.lines = .ok ks := by
          cases hp : GM.Inl.parseBlock env D a.lines with
          | error e => rw [hp] at hk; simp [liftErr] at hk
          | ok ks => exact ⟨ks, rfl⟩
        rw [hks] at hk
        simp only [liftErr] at hk
        cases hk
        obtain ⟨kids', h1, h2⟩ := KEY (by simpa using hr) (by intro e; exact he (by simp [e])) env env' huc hes hes' hwa hwb _ hks
        exact ⟨kids', by rw [h1]; rfl, h2⟩

variable {nA nB : List Blocks.Node} (hrel : StoreRel D nA nB)
  (hz : ∀ p c, c ∈ (nA.getD p default).children → c ≠ 0)
  (hW : ∀ p c, c ∈ (nB.getD p default).children → WFB (quotePrefix D) (nB.getD c default))
  (KEY : ∀ i, isRawKind (nA.getD i default).kind = false → (nA.getD i default).lines ≠ [] →
    InlineQuoteStep D (nA.getD i default).lines (nB.getD (i + 1) default).lines)
include hrel hz hW KEY

theorem docTree_quote : ∀ (fuel i : Nat) (x : GM.Node), (∃ p, i + 1 ∈ (nB.getD p default).children) →
    docTree true env D (treeOf nA fuel i) = .ok x →
    docTree true env' (quotePrefix D) (treeOf nB fuel (i + 1)) = .ok (requote (i == 0) x) := by
  intro fuel
  induction fuel with
  | zero =>
    intro i x hch h
    obtain ⟨p, hp⟩ := hch
    simp only [treeOf] at h ⊢
    unfold docTree at h ⊢
    unfold docTrees at h ⊢
    simp only [bind, Except.bind, pure, Except.pure] at h ⊢
    obtain ⟨kids, hk, h⟩ : ∃ kids, inlinePhase true env D (nA.getD i default) = .ok kids ∧ _ := by
      cases hq : inlinePhase true env D (nA.getD i default) with
      | error e => rw [hq] at h; cases h
      | ok kids => rw [hq] at h; exact ⟨kids, rfl, h⟩
    obtain ⟨kids', hk', hv⟩ := inlinePhase_rel env env' huc hes hes' (hrel.node i) (KEY i) (hW p _ hp) hk
    rw [hk']
    simp only [] at h ⊢
    rw [hv]
    cases hi : liftErr Err.value (inlineTrees D kids) with
    | error e => rw [hi] at h; cases h
    | ok is =>
      rw [hi] at h
      simp only [] at h ⊢
      cases hkk : blockKind D (nA.getD i default) with
      | error e => rw [hkk] at h; simp [liftErr] at h
      | ok k =>
        rw [hkk] at h
        rw [blockKind_rel (hrel.node i) hkk]
        simp only [liftErr] at h ⊢
        cases h
        rfl
  | succ fuel ih =>
    intro i x hch h
    obtain ⟨p, hp⟩ := hch
    simp only [treeOf] at h ⊢
    unfold docTree at h ⊢
    simp only [bind, Except.bind, pure, Except.pure] at h ⊢
    -- the children
    have hkids : ∀ (cs : List Nat) (xs : List GM.Node), (∀ c ∈ cs, c ∈ (nA.getD i default).children) →
        docTrees true env D (cs.map (treeOf nA fuel)) = .ok xs →
        docTrees true env' (quotePrefix D) ((cs.map (· + 1)).map (treeOf nB fuel)) = .ok xs := by
      intro cs
      induction cs with
      | nil => intro xs _ hx; exact hx
      | cons c rest ihc =>
        intro xs hmem hx
        simp only [List.map] at hx ⊢
        unfold docTrees at hx ⊢
        simp only [bind, Except.bind, pure, Except.pure] at hx ⊢
        cases h1 : docTree true env D (treeOf nA fuel c) with
        | error e => rw [h1] at hx; cases hx
        | ok y =>
          rw [h1] at hx
          have hc : c ∈ (nA.getD i default).children := hmem c (List.mem_cons_self ..)
          have hc0 : c ≠ 0 := hz i c hc
          have hcB : c + 1 ∈ (nB.getD (i + 1) default).children := by
            rw [(hrel.node i).children]; exact List.mem_map_of_mem hc
          have := ih c y ⟨i + 1, hcB⟩ h1
          have hb0 : (c == 0) = false := by simpa using hc0
          rw [hb0, requote_false] at this
          rw [this]
          simp only [] at hx ⊢
          cases h2 : docTrees true env D (rest.map (treeOf nA fuel)) with
          | error e => rw [h2] at hx; cases hx
          | ok ys =>
            rw [h2] at hx
            rw [ihc ys (fun c' hc' => hmem c' (List.mem_cons_of_mem _ hc')) h2]
            exact hx
    cases hbs : docTrees true env D ((nA.getD i default).children.map (treeOf nA fuel)) with
    | error e => rw [hbs] at h; cases h
    | ok bs =>
      rw [hbs] at h
      rw [(hrel.node i).children, hkids _ bs (fun _ hc => hc) hbs]
      simp only [] at h ⊢
      obtain ⟨kids, hk, h⟩ : ∃ kids, inlinePhase true env D (nA.getD i default) = .ok kids ∧ _ := by
        cases hq : inlinePhase true env D (nA.getD i default) with
        | error e => rw [hq] at h; cases h
        | ok kids => rw [hq] at h; exact ⟨kids, rfl, h⟩
      obtain ⟨kids', hk', hv⟩ := inlinePhase_rel env env' huc hes hes' (hrel.node i) (KEY i) (hW p _ hp) hk
      rw [hk']
      simp only [] at h ⊢
      rw [hv]
      cases hi : liftErr Err.value (inlineTrees D kids) with
      | error e => rw [hi] at h; cases h
      | ok is =>
        rw [hi] at h
        simp only [] at h ⊢
        cases hkk : blockKind D (nA.getD i default) with
        | error e => rw [hkk] at h; simp [liftErr] at h
        | ok k =>
          rw [hkk] at h
          rw [blockKind_rel (hrel.node i) hkk]
          simp only [liftErr] at h ⊢
          cases h
          rfl

end rel

theorem blockPhase_eq_run {D : Bytes} (hb : NoBracket D) : blockPhase true D = GM.Blocks.run D := by
  rcases GM.Props.ConvertE2E.block_phase_bracket_free true D hb with h | ⟨e, h⟩
  · exact h
  · obtain ⟨s, hs, _⟩ := GM.Props.ConvertNP.block_phase_total D
    rw [hs] at h; cases h

theorem noBracket_quotePrefix {D : Bytes} (h : NoBracket D) : NoBracket (quotePrefix D) := by
  intro b hb
  rcases mem_quotePrefixGo D true b hb with rfl | rfl | hm
  · decide
  · decide
  · exact h b hm

theorem treeOf_node (nodes : List Blocks.Node) (f i : Nat) : ∃ cs, treeOf nodes f i = .node (nodes.getD i default) cs := by
  cases f with
  | zero => exact ⟨_, rfl⟩
  | succ f => exact ⟨_, rfl⟩

theorem render_quote (rc : RCfg) (xs : List GM.Node) :
    render rc (.mk .document none [.mk .blockquote none xs]) =
      strBytes "<blockquote>\n" ++ render rc (.mk .document none xs) ++ strBytes "</blockquote>\n" := by
  unfold render
  rw [GM.Proof.RenderWF.renderNode_mk, GM.Proof.RenderWF.renderNode_mk]
  simp only [GM.Proof.RenderWF.renderNodes_cons, GM.Proof.RenderWF.renderNodes_nil, GM.Proof.RenderWF.renderNode_mk, List.head?]
  simp [enter, leave, handled, skipsChildren, Kind.isTableHeader]
  decide +kernel

theorem parseDoc_quote_prefix_of_rel (uc : List (Nat × (Bool × Bool))) (D : Bytes)
    (hb : NoBracket D) (sA sB : St) (hA : GM.Blocks.run D = .ok sA) (hB : GM.Blocks.run (quotePrefix D) = .ok sB)
    (hrel : StoreRel D sA.nodes sB.nodes)
    (KEY : ∀ i, isRawKind (sA.nodes.getD i default).kind = false → (sA.nodes.getD i default).lines ≠ [] →
      InlineQuoteStep D (sA.nodes.getD i default).lines (sB.nodes.getD (i + 1) default).lines) (t : GM.Node)
    (hpt : parseDoc true uc D = .ok t) :
    ∃ xs, t = .mk .document none xs ∧
      parseDoc true uc (quotePrefix D) = .ok (.mk .document none [.mk .blockquote none xs]) := by
  have hbQ := noBracket_quotePrefix hb
  have hpA : blockPhase true D = .ok sA := by rw [blockPhase_eq_run hb]; exact hA
  have hpB : blockPhase true (quotePrefix D) = .ok sB := by rw [blockPhase_eq_run hbQ]; exact hB
  have tA := GM.Props.ConvertNP.block_phase_tree_consistent D sA hpA
  have tB := GM.Props.ConvertNP.block_phase_tree_consistent _ sB hpB
  have hz : ∀ p c, c ∈ (sA.nodes.getD p default).children → c ≠ 0 := fun p c hc => by
    have := (tA.kid_lt hc).1; omega
  have hW : ∀ p c, c ∈ (sB.nodes.getD p default).children → WFB (quotePrefix D) (sB.nodes.getD c default) := by
    intro p c hc hraw hne
    have hlt := (tB.kid_lt hc).2
    have hmem : sB.nodes.getD c default ∈ sB.nodes := by
      rw [List.getD_eq_getElem?_getD, List.getElem?_eq_getElem hlt, Option.getD_some]; exact List.getElem_mem _
    have hr : GM.Proof.BlocksWF0.isRaw (sB.nodes.getD c default).kind = false := by rw [isRaw_eq_isRawKind]; exact hraw
    obtain ⟨_, _, hwf⟩ := (GM.Props.ConvertNP.block_phase_lines_wellformed _ sB hpB).1 _ hmem hr
    exact ⟨hwf hne, (GM.Props.ConvertNP.block_phase_lines_padding_zero _ sB hpB).1 p c hc hr⟩
  unfold parseDoc at hpt
  rw [hpA] at hpt
  simp only [liftErr, bind, Except.bind] at hpt
  have hq := docTree_quote { refs := sA.pc.refs, uc := uc } { refs := sB.pc.refs, uc := uc } rfl rfl rfl hrel hz hW KEY
    sA.nodes.length 0 t ⟨0, by rw [hrel.doc.2]; simp⟩ hpt
  obtain ⟨cs, hcs⟩ := treeOf_node sA.nodes sA.nodes.length 0
  rw [hcs] at hpt
  obtain ⟨k, xs, rfl, hk⟩ := docTree_shape hpt
  have hk0 : k = .document := by
    have := (hrel.node 0).kind
    simp only [beq_self_eq_true, if_true] at this
    unfold blockKind at hk
    rw [this.2] at hk
    cases hk; rfl
  subst hk0
  refine ⟨xs, rfl, ?_⟩
  unfold parseDoc
  rw [hpB]
  simp only [liftErr, bind, Except.bind]
  rw [hrel.len]
  simp only [treeOf]
  rw [hrel.doc0]
  simp only [List.map]
  unfold docTree
  unfold docTrees
  simp only [bind, Except.bind, pure, Except.pure]
  rw [hq]
  unfold docTrees
  simp [inlinePhase, isRawKind, blockKind, inlineTrees, liftErr, requote, pure, Except.pure]

theorem convert_quote_prefix_of_rel (uc : List (Nat × (Bool × Bool))) (o : ROpts) (D : Bytes)
    (hb : NoBracket D) (sA sB : St) (hA : GM.Blocks.run D = .ok sA) (hB : GM.Blocks.run (quotePrefix D) = .ok sB)
    (hrel : StoreRel D sA.nodes sB.nodes)
    (KEY : ∀ i, isRawKind (sA.nodes.getD i default).kind = false → (sA.nodes.getD i default).lines ≠ [] →
      InlineQuoteStep D (sA.nodes.getD i default).lines (sB.nodes.getD (i + 1) default).lines) (html : Bytes)
    (h : convertCore uc o D = .ok html) :
    convertCore uc o (quotePrefix D) = .ok (strBytes "<blockquote>\n" ++ html ++ strBytes "</blockquote>\n") := by
  unfold convertCore at h ⊢
  obtain ⟨t, hpt, rfl⟩ := convertWith_ok h
  obtain ⟨xs, rfl, hpQ⟩ := parseDoc_quote_prefix_of_rel uc D hb sA sB hA hB hrel KEY _ hpt
  rw [convertWith_of_tree o hpQ, render_quote]

/-- **C08 at HTML level for any class of sources of the block-level simulation** (`Cls D al`), given the inline hypothesis for
    the blocks with inline content of the two related final stores -/
theorem convert_quote_prefix_cls (uc : List (Nat × (Bool × Bool))) (o : ROpts) (D : Bytes) {al : BP → Bool} (cl : Cls D al)
    (hne : D ≠ []) (hb : NoBracket D)
    (KEY : ∀ sA sB : St, GM.Blocks.run D = .ok sA → StoreRel D sA.nodes sB.nodes →
      ∀ i, isRawKind (sA.nodes.getD i default).kind = false → (sA.nodes.getD i default).lines ≠ [] →
        InlineQuoteStep D (sA.nodes.getD i default).lines (sB.nodes.getD (i + 1) default).lines)
    (html : Bytes) (h : convertCore uc o D = .ok html) :
    convertCore uc o (quotePrefix D) = .ok (strBytes "<blockquote>\n" ++ html ++ strBytes "</blockquote>\n") := by
  obtain ⟨sA, hA⟩ := GM.Props.Blocks.no_panic D
  obtain ⟨sB, hB, hrel, _⟩ := run_simG cl hne hA
  exact convert_quote_prefix_of_rel uc o D hb sA sB hA hB hrel (KEY sA sB hA hrel) html h

end GM.E2E.Quote
