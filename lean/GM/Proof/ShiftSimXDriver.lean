/-
  GM.Proof.ShiftSimXDriver — the driver of the block phase under the shift relation, ONCE (namespace `GM.Blocks.Xs.G`): for
  the frame with a suffix, over
  * a `Side` `W`: what the lemmas are told about run A alone — the candidate parsers `W.Cv`, what is known of a stack block
    (`W.Bk`), of a parent (`W.P`), of a node opened under a parent (`W.Att`), the invariant `W.I` of run A's store and
    context, what is known of run A's reader between two blocks of a line (`W.J`; "on a line" is `W.J s ∧ HasLine b s`; when
    run B's source goes on behind run A's, `J` has to provide the line, `jQ`), and a relation `W.R` every step respects.
    `Side.OK` is the closure of `I` under the steps of the driver — the field list of `DriverOps.ofRel`
    (GM.Proof.BlocksDriverKeeps), relative to `W.Cv`;
  * the per-parser contracts `Sim` / `SimO F b W`, which may assume `W.I` of run A's state and `W.Bk` of the block.
  1. `closeBlocks`, the candidate loop of `openBlocks` (`tryParsers_p2`);
  2. `parser.openBlocks` (parser.go:928-1024 incl. `goto retry` and the contract monitor; the two runs may have different
     retry fuel). `Continue` at the exit `continuable:` is only asked for the limbo relation (`coLim`), so nothing is assumed
     about the end of the source; it is asked only of blocks in `W.CoOK`, which is demanded of the last open block if
     its node is a Paragraph (`LastOK`);
  3. one pass of the per-line loop (`lineLoop`, parser.go:1081-1123), with `openBlocks` as `OpenG` and what the loop needs of
     `Continue` at each position of the open-block stack as `CoAt`, over what is known of run A in the middle of a pass
     (`M rest s`) — afterwards the full relation, or "Continue, no children" on the LAST block (then the limbo relation
     is enough: the loop ends there). When run A has no line left the pass closes everything; this happens only if run
     B's source ends with run A's.
  Instances: `sideK Cov I J` (a set `Cov` of covered parsers, an invariant kept by whatever keeps the four context keys,
  `KeysEq`; nothing asked of parents) gives the plain simulation (namespace `Sh`: `q = []`, `I = J = True`,
  GM.Proof.ShiftSimDriver) and the right-extension simulation (`Xs.PSim`: `I = KeysOff`, `J = HL b`, here); the side of all
  ten parsers (`I = K`, GM.Proof.ShiftSimDriverL) asks that parents are nodes of the store. Run A's fuel and run B's fuel are
  unrelated (`P2` only speaks about runs that both end normally).
-/
import GM.Proof.ShiftSimXParsers
import GM.Proof.QuoteSimInvNE
import GM.Proof.ShiftSimLine
import GM.Proof.ShiftSimXKeys
import GM.Proof.ShiftSimXSafe

namespace GM.Blocks.Xs
open GM GM.Text GM.Spec GM.Proof.Reader GM.Blocks
open GM.Blocks.Sh (tpJp1 tpJp2 tpJp3 tpSome tryParsers_cons blockAt_mem)

/-- the four context keys are the same -/
def KeysEq (s s' : St) : Prop :=
  s'.pc.tmpPara = s.pc.tmpPara ∧ s'.pc.fence = s.pc.fence ∧ s'.pc.skipList = s.pc.skipList ∧
    s'.pc.emptyItemBlank = s.pc.emptyItemBlank

theorem KeysEq.off {s s' : St} (h : KeysEq s s') (hk : KeysOff s) : KeysOff s' :=
  hk.congr_pc h.1 h.2.1 h.2.2.1 h.2.2.2

theorem KeysEq.of_pc {s s' : St} (h : s'.pc = s.pc) : KeysEq s s' := by
  unfold KeysEq; rw [h]; exact ⟨rfl, rfl, rfl, rfl⟩

theorem KeysEq.refl (s : St) : KeysEq s s := ⟨rfl, rfl, rfl, rfl⟩

theorem KeysEq.trans {s s' s'' : St} (h : KeysEq s s') (h' : KeysEq s' s'') : KeysEq s s'' :=
  ⟨h'.1.trans h.1, h'.2.1.trans h.2.1, h'.2.2.1.trans h.2.2.1, h'.2.2.2.trans h.2.2.2⟩

theorem xd_appendChild_keeps {I : St → Prop} (hR : NoR I) (hN : NoNodes I) (p c : Nat) :
    Keeps I (appendChild p c) := by
  have := xk_removeChild_keeps hR hN
  have : ∀ c, Keeps I (ensureIsolated c) := by intro c; unfold ensureIsolated; keeps
  unfold appendChild; keeps

theorem appendChild_keysEq (p c : Nat) (s s' : St) (a : Unit) (h : appendChild p c s = .ok (a, s')) :
    KeysEq s s' :=
  xd_appendChild_keeps (xk_keysAre_noR _ _ _ _) (xk_keysAre_noNodes _ _ _ _) p c s a s'
    (⟨rfl, rfl, rfl, rfl⟩ : xk_KeysAre s.pc.tmpPara s.pc.fence s.pc.skipList s.pc.emptyItemBlank s) h

theorem HasLine.of_r {b : Bytes} {s s' : St} (h : HasLine b s) (e : s'.r = s.r) : HasLine b s' := by
  unfold HasLine; rw [e]; exact h

theorem TS.of_r {b : Bytes} {s s' : St} (h : TS b s) (e : s'.r = s.r) : TS b s' := by
  unfold TS; rw [e]; exact h

theorem HL.of_r {b : Bytes} {s s' : St} (h : HL b s) (e : s'.r = s.r) : HL b s' :=
  ⟨h.1.of_r e, h.2.of_r e⟩

theorem TSafe.of_eq {b : Bytes} {c c' : RCur} (h : TSafe b c) (ep : c'.p = c.p) (ed : c'.pad = c.pad) :
    TSafe b c' := by
  unfold TSafe PreC RCur.view at *; rw [ep, ed]; exact h

theorem ri_pos_eq {b : Bytes} {r r' : Reader} {c c' : RCur} (h : RI b r c) (h' : RI b r' c') (e : r'.pos = r.pos) :
    c'.p = c.p ∧ c'.pad = c.pad := by
  have e1 := h.pos
  have e2 := h'.pos
  rw [e, e1] at e2
  simp only [Segment.mk.injEq] at e2
  obtain ⟨p1, _, p3, _⟩ := e2
  constructor <;> omega

theorem TS.of_pos {b : Bytes} {s s1 : St} (h : TS b s) (h1 : ∃ c, RI b s1.r c) (hp : s1.r.pos = s.r.pos) : TS b s1 := by
  obtain ⟨c, hc, ht⟩ := h
  obtain ⟨c1, hc1⟩ := h1
  obtain ⟨ep, ed⟩ := ri_pos_eq hc hc1 hp
  exact ⟨c1, hc1, ht.of_eq ep ed⟩

/-- the cursor of a trigger-safe state, for any `RI` cursor of a reader at the same position -/
theorem TS.tsafe {b : Bytes} {s : St} (h : TS b s) {r : Reader} {c : RCur} (hc : RI b r c) (hp : r.pos = s.r.pos) :
    TSafe b c := by
  obtain ⟨c0, hc0, ht⟩ := h
  obtain ⟨ep, ed⟩ := ri_pos_eq hc0 hc hp
  exact ht.of_eq ep ed

theorem hasLine_of_pos {b : Bytes} {sA sA1 : St} (hl : HasLine b sA) (h1 : ∃ c, RI b sA1.r c) (hp : sA1.r.pos = sA.r.pos) :
    HasLine b sA1 := by
  obtain ⟨c, hc, hlt⟩ := hl
  obtain ⟨c1, hc1⟩ := h1
  refine ⟨c1, hc1, ?_⟩
  have e1 := hc.pos
  have e2 := hc1.pos
  rw [hp, e1] at e2
  have : (c.p : Int) = c1.p := by
    have := congrArg Segment.start e2; simpa using this
  omega

theorem hl_of_pos {b : Bytes} {sA sA1 : St} (hl : HL b sA) (h1 : ∃ c, RI b sA1.r c) (hp : sA1.r.pos = sA.r.pos) :
    HL b sA1 :=
  ⟨hasLine_of_pos hl.1 h1 hp, hl.2.of_pos h1 hp⟩

theorem P2.withL {α β} {Q : α → β → St → St → Prop} {R : α → St → Prop} {x y} (h : P2 Q x y)
    (hr : ∀ a sA, x = .ok (a, sA) → R a sA) : P2 (fun a b sA sB => Q a b sA sB ∧ R a sA) x y :=
  fun a sA b sB e1 e2 => ⟨h a sA b sB e1 e2, hr a sA e1⟩

theorem P2.throwBindL {α α' β : Type} {Q : α' → β → St → St → Prop} {e : Panic} {f : α → M α'} {sA : St}
    {y : Except Panic (β × St)} : P2 Q (((throw e : M α) >>= f) sA) y := by
  intro a sA' b' sB' h
  exact absurd h (by intro h'; cases h')

theorem advanceLine_limbo {F b sA sB} (h : SRLim F b sA sB) (he : sB.r.advanceLine = shR F sA.r.advanceLine) :
    P2 (fun _ _ sA' sB' => SR F b sA' sB') (advanceLine sA) (advanceLine sB) := by
  unfold GM.Blocks.advanceLine
  exact P2.ok ⟨h.2.1, he, h.1.n, h.1.c⟩

theorem bind_ok_inv {α β} {m : M α} {f : α → M β} {s s'' : St} {y : β} (h : (m >>= f) s = .ok (y, s'')) :
    ∃ a s', m s = .ok (a, s') ∧ f a s' = .ok (y, s'') := Sh.bind_ok_inv h

theorem closeLoop_openedIs (L : List Block) (blocks : List Block) (to : Int) :
    ∀ k, Keeps (OpenedIs L) (closeLoop blocks to k) :=
  Sh.closeLoop_openedIs L blocks to

theorem liftE_ok_inv {α} {e : Except Panic α} {s s' : St} {a : α} (h : GM.Blocks.liftE e s = .ok (a, s')) :
    e = .ok a ∧ s' = s :=
  Sh.liftE_ok_inv h

theorem modNode_opened (id : Nat) (f : Node → Node) (s s' : St) (a : Unit) (h : modNode id f s = .ok (a, s')) :
    s'.pc.opened = s.pc.opened :=
  Sh.modNode_opened id f s s' a h

theorem blockAt_map (F : Frame) (blocks : List Block) (i : Int) :
    blockAt (blocks.map (shB F)) i = (blockAt blocks i).map (shB F) := by
  unfold blockAt
  split
  · rfl
  · rw [List.getElem?_map]
    cases blocks[i.toNat]? <;> rfl

variable {F : Frame} {b : Bytes} {Cov : BP → Prop}

theorem ctxRel_opened {x y : Ctx} (h : CtxRel F x y) (l : List Block) :
    CtxRel F { x with opened := l } { y with opened := l.map (shB F) } :=
  ⟨⟨rfl, h.tmpPara, h.fence, h.skipList, h.emptyItemBlank⟩, h.blockOffset, h.blockIndent⟩

theorem getLast_cond (hF : F.OK) (root : Bool) (ch : List Nat) (l : Nat) :
    (some (F.ι l) == (kidsB F root ch).getLast?) = (some l == ch.getLast?) := by
  unfold kidsB
  cases hch : ch.getLast? with
  | none =>
    have : ch = [] := List.getLast?_eq_none_iff.mp hch
    subst this
    simp only [List.map_nil, List.append_nil]
    cases hk : (if root = true then F.kids0 else []).getLast? with
    | none => rfl
    | some k =>
      have hm : k ∈ (if root = true then F.kids0 else []) := List.mem_of_getLast? hk
      have hne : F.ι l ≠ k := fun e => ι_not_kid F hF l (e ▸ kidsB_pre F root k hm)
      simp [hne]
  | some c =>
    rw [List.getLast?_append, List.getLast?_map, hch]
    simp only [Option.map_some, Option.or, Option.some_beq_some, ι_beq]

theorem getLast_cond_none (root : Bool) (ch : List Nat) (h : (none == ch.getLast?) = false) :
    ((none : Option Nat) == (kidsB F root ch).getLast?) = false := by
  unfold kidsB
  cases hch : ch.getLast? with
  | none => rw [hch] at h; simp at h
  | some c =>
    rw [List.getLast?_append, List.getLast?_map, hch]
    rfl

/-- the outcome of the candidate loop in run B -/
def shO (F : Frame) : TryOutcome → TryOutcome
  | .retry p => .retry (F.ι p)
  | .done => .done

namespace G

/-- what the driver lemmas are told about run A alone:
    * `Cv`: the candidate parsers that `openBlocks` may try;
    * `Bk`: what is known of a block of the open-block stack, or of the block handed on as `lastBlock`;
    * `CoOK`: the blocks whose `Continue` may be asked at the exit `continuable:` of `openBlocks`;
    * `I`: the invariant of run A's store and context (it does not look at the reader);
    * `J`: what is known of run A's reader between two blocks of a line; "on a line" is `J s ∧ HasLine b s`;
    * `P p`: what is known of a node that serves as parent; `Att c p`: of a node `c` that was opened under `p`;
    * `R`: a relation that every step of the driver respects and along which `P` and `Att` persist. -/
structure Side where
  Cv : BP → Prop
  Bk : Block → Prop
  CoOK : Block → Prop
  I : St → Prop
  J : St → Prop
  P : Nat → St → Prop
  Att : Nat → Nat → St → Prop
  R : St → St → Prop

/-- what is asked of a `Side`: the steps of the driver keep `I` and are steps of `R` (the field list of
    `DriverOps.ofRel`, GM.Proof.BlocksDriverKeeps, relative to the candidate parsers `Cv`) -/
structure Side.OK (b : Bytes) (W : Side) : Prop where
  rRefl : ∀ s, W.R s s
  rTrans : ∀ {s s' s''}, W.R s s' → W.R s' s'' → W.R s s''
  pR : ∀ {s s'} p, W.R s s' → W.P p s → W.P p s'
  attR : ∀ {s s'} c p, W.R s s' → W.Att c p s → W.Att c p s'
  attP : ∀ c p s, W.Att c p s → W.P c s
  stack : ∀ s, W.I s → ∀ x ∈ s.pc.opened, W.Bk x ∧ W.P x.node s
  /-- the reader calls and the context writes that leave the stack alone -/
  same : ∀ s s', W.I s → s'.nodes = s.nodes → s'.pc.opened = s.pc.opened → KeysEq s s' → W.I s' ∧ W.R s s'
  /-- the stack is cut down to some of its blocks -/
  shrink : ∀ s l, W.I s → (∀ x ∈ l, x ∈ s.pc.opened) →
    W.I { s with pc := { s.pc with opened := l } } ∧ W.R s { s with pc := { s.pc with opened := l } }
  /-- the node that was opened is pushed -/
  push : ∀ s bp c p, W.Cv bp → W.I s → W.Att c p s →
    W.I { s with pc := { s.pc with opened := s.pc.opened ++ [{ node := c, bp := bp }] } } ∧
      W.R s { s with pc := { s.pc with opened := s.pc.opened ++ [{ node := c, bp := bp }] } }
  blank : ∀ c p (bl : Bool) s a s', W.I s → W.Att c p s →
    modNode c (fun n => { n with blankPrev := bl }) s = .ok (a, s') → W.I s' ∧ W.R s s'
  append : ∀ c p s a s', W.I s → W.Att c p s → appendChild p c s = .ok (a, s') → W.I s' ∧ W.R s s'
  opn : ∀ bp, W.Cv bp → ∀ p s a s', W.I s → W.P p s → bpOpen bp p s = .ok (a, s') →
    (W.I s' ∧ W.R s s') ∧ ∀ id, a.1 = some id → W.Att id p s'
  cont : ∀ x, W.Bk x → ∀ s a s', W.I s → bpContinue x.bp x.node s = .ok (a, s') → W.I s' ∧ W.R s s'
  close : ∀ x, W.Bk x → ∀ s a s', W.I s → bpClose x.bp x.node s = .ok (a, s') → W.I s' ∧ W.R s s'
  jPos : ∀ s s1, W.J s → (∃ c, RI b s1.r c) → s1.r.pos = s.r.pos → W.J s1
  /-- a container that goes on with children leaves run A on its line -/
  strictO : ∀ bp, W.Cv bp → ∀ parent s s' x, W.J s → HasLine b s → bpOpen bp parent s = .ok (x, s') →
    x.2.hasChildren = true → W.J s'

/-- what `closeBlocks` and the candidate loop ask of the parsers: `Open` of a candidate, `Close` of a block of which `Bk`
    is known, from states of which run A's satisfies `I` -/
structure Sim (F : Frame) (b : Bytes) (W : Side) : Prop where
  op : ∀ bp, W.Cv bp → OpenSim F b bp
  cl : ∀ x, W.Bk x → ∀ rA rB sA sB, SRL F b rA rB sA sB → W.I sA →
    P2 (fun _ _ sA' sB' => SRL F b rA rB sA' sB') (bpClose x.bp x.node sA) (bpClose x.bp (F.ι x.node) sB)

/-- what `openBlocks` asks in addition -/
structure SimO (F : Frame) (b : Bytes) (W : Side) : Prop extends Sim F b W where
  /-- `Continue` of the last open block at the exit `continuable:` of `openBlocks`: the limbo relation is enough -/
  coLim : ∀ x, W.Bk x → W.CoOK x → ∀ sA sB, SR F b sA sB → W.J sA → W.I sA →
    P2 (fun u v sA' sB' => v = u ∧ SRLim F b sA' sB') (bpContinue x.bp x.node sA) (bpContinue x.bp (F.ι x.node) sB)
  /-- a line is needed only when run B's source goes on behind run A's -/
  jQ : ∀ s, W.J s → F.q = [] ∨ HasLine b s
  free : ∀ bp ∈ freeParsers, W.Cv bp
  /-- the byte `openBlocks` looks up selects candidates of `Cv` -/
  trig : ∀ s (r : Reader) c l lo ch, W.J s → RI b r c → r.pos = s.r.pos → RCur.view b c = some l →
    idx l (indentWidthI l lo).2 = .ok ch → ∀ bp ∈ (triggered ch).getD freeParsers, W.Cv bp

/-- every open block of run A belongs to a covered parser, and `I` holds -/
def AIg (Cov : BP → Prop) (I : St → Prop) (s : St) : Prop := (∀ x ∈ s.pc.opened, Cov x.bp) ∧ I s

/-- the side for a set `Cov` of covered parsers and an invariant `I` that is kept by whatever keeps the four context keys
    (`KeysEq`): nothing is asked of parents and of attached nodes -/
def sideK (Cov : BP → Prop) (I J : St → Prop) : Side where
  Cv := Cov
  Bk := fun x => Cov x.bp
  CoOK := fun _ => True
  I := AIg Cov I
  J := J
  P := fun _ _ => True
  Att := fun _ _ _ => True
  R := fun _ _ => True

theorem sideK_ok {Cov : BP → Prop} {I J : St → Prop}
    (keepO : ∀ bp, Cov bp → ∀ parent s s' a, bpOpen bp parent s = .ok (a, s') → I s → I s')
    (keepC : ∀ bp, Cov bp → ∀ node s s' a, bpContinue bp node s = .ok (a, s') → I s → I s')
    (keepCl : ∀ bp, Cov bp → ∀ node s s' a, bpClose bp node s = .ok (a, s') → I s → I s')
    (keys : ∀ s s', KeysEq s s' → I s → I s')
    (jPos : ∀ s s1, J s → (∃ c, RI b s1.r c) → s1.r.pos = s.r.pos → J s1)
    (strictO : ∀ bp, Cov bp → ∀ parent s s' x, J s → HasLine b s → bpOpen bp parent s = .ok (x, s') →
      x.2.hasChildren = true → J s') : (sideK Cov I J).OK b where
  rRefl := fun _ => trivial
  rTrans := fun _ _ => trivial
  pR := fun _ _ h => h
  attR := fun _ _ _ h => h
  attP := fun _ _ _ _ => trivial
  stack := fun _ hi x hx => ⟨hi.1 x hx, trivial⟩
  same := fun s s' hi _ ho hk => ⟨⟨fun x hx => hi.1 x (ho ▸ hx), keys s s' hk hi.2⟩, trivial⟩
  shrink := fun s l hi hl => ⟨⟨fun x hx => hi.1 x (hl x hx), keys s _ ⟨rfl, rfl, rfl, rfl⟩ hi.2⟩, trivial⟩
  push := fun s bp c p hbp hi _ => by
    refine ⟨⟨fun x hx => ?_, keys s _ ⟨rfl, rfl, rfl, rfl⟩ hi.2⟩, trivial⟩
    rcases List.mem_append.mp hx with hx | hx
    · exact hi.1 x hx
    · simp at hx; subst hx; exact hbp
  blank := fun c p bl s a s' hi _ e => by
    have epc : s'.pc = s.pc := by unfold modNode at e; cases e; rfl
    exact ⟨⟨fun x hx => hi.1 x (epc ▸ hx), keys s s' (KeysEq.of_pc epc) hi.2⟩, trivial⟩
  append := fun c p s a s' hi _ e =>
    ⟨⟨fun x hx => hi.1 x (appendChild_opened _ _ _ _ _ e ▸ hx), keys s s' (appendChild_keysEq _ _ _ _ _ e) hi.2⟩, trivial⟩
  opn := fun bp hbp p s a s' hi _ e =>
    ⟨⟨⟨fun x hx => hi.1 x (bpOpen_opened _ _ _ _ _ e ▸ hx), keepO bp hbp p s s' a e hi.2⟩, trivial⟩, fun _ _ => trivial⟩
  cont := fun x hx s a s' hi e =>
    ⟨⟨fun z hz => hi.1 z (bpContinue_opened _ _ _ _ _ e ▸ hz), keepC x.bp hx x.node s s' a e hi.2⟩, trivial⟩
  close := fun x hx s a s' hi e =>
    ⟨⟨fun z hz => hi.1 z (bpClose_opened _ _ _ _ _ e ▸ hz), keepCl x.bp hx x.node s s' a e hi.2⟩, trivial⟩
  jPos := jPos
  strictO := strictO

variable {W : Side}

/-- a step that only moves run A's reader -/
theorem Side.OK.reader (hW : W.OK b) {s : St} (hi : W.I s) (r : Reader) : W.I { s with r := r } ∧ W.R s { s with r := r } :=
  hW.same s _ hi rfl rfl ⟨rfl, rfl, rfl, rfl⟩

theorem closeLoop_l (hW : W.OK b) (hP : Sim F b W) : ∀ (k : Nat) (blocks : List Block) (to : Int) (rA rB : Reader) (sA sB : St),
    (∀ x ∈ blocks, W.Bk x) → SRL F b rA rB sA sB → W.I sA →
    P2 (fun _ _ sA' sB' => SRL F b rA rB sA' sB' ∧ W.I sA' ∧ W.R sA sA' ∧ sA'.pc.opened = sA.pc.opened)
      (closeLoop blocks to k sA) (closeLoop (blocks.map (shB F)) to k sB) := by
  intro k
  induction k with
  | zero => intro blocks to rA rB sA sB _ h hk; unfold closeLoop; exact P2.pure ⟨h, hk, hW.rRefl _, rfl⟩
  | succ k ih =>
    intro blocks to rA rB sA sB hc h hk
    unfold closeLoop
    refine P2.bind (P := fun x y sA' sB' => y = shB F x ∧ x ∈ blocks ∧ sA = sA' ∧ sB = sB')
      (P2.liftE (fun x y e1 e2 => ?_)) (fun x y sA1 sB1 ⟨hy, hx, e1, e2⟩ => ?_)
    · rw [blockAt_map, e1] at e2; cases e2; exact ⟨rfl, blockAt_mem e1, rfl, rfl⟩
    subst hy e1 e2
    refine P2.bind (getNode_l h x.node) (fun n m sA2 sB2 ⟨hn, hm, e1, e2⟩ => ?_)
    subst e1 e2 hm
    have hp : (shN F (x.node == 0) n).parent.isSome = n.parent.isSome := by
      rw [shN_parent]; cases n.parent <;> rfl
    rw [hp]
    by_cases hps : n.parent.isSome = true
    · rw [if_pos hps, if_pos hps]
      refine P2.bind ((hP.cl x (hc x hx) rA rB _ _ h hk).withL
        (R := fun _ sA' => (W.I sA' ∧ W.R sA2 sA') ∧ sA'.pc.opened = sA2.pc.opened)
        (fun a sA' e => ⟨hW.close x (hc x hx) _ a _ hk e, bpClose_opened _ _ _ _ _ e⟩))
        (fun _ _ sA3 sB3 ⟨h3, ⟨hk3, hr3⟩, ho3⟩ => ?_)
      show P2 _ (closeLoop blocks to k sA3) (closeLoop _ to k sB3)
      exact (ih blocks to rA rB sA3 sB3 hc h3 hk3).mono
        fun _ _ _ _ ⟨q1, q2, q3, q4⟩ => ⟨q1, q2, hW.rTrans hr3 q3, q4.trans ho3⟩
    · rw [if_neg hps, if_neg hps]
      exact ih blocks to rA rB _ _ hc h hk

theorem closeBlocks_l2 (hW : W.OK b) (hP : Sim F b W) (frm to : Int) {rA rB : Reader} {sA sB : St} (hc : W.I sA)
    (h : SRL F b rA rB sA sB) :
    P2 (fun _ _ sA' sB' => SRL F b rA rB sA' sB' ∧ W.I sA' ∧ W.R sA sA') (closeBlocks frm to sA) (closeBlocks frm to sB) := by
  rw [closeBlocks_cut]
  refine P2.bind (getPc_l h) (fun x y sA1 sB1 ⟨hx, hy, hxy, e1, e2⟩ => ?_)
  subst e1 e2
  have ho : y.opened = x.opened.map (shB F) := hxy.opened
  rw [ho]
  have hcx : ∀ z ∈ x.opened, W.Bk z := by rw [hx]; exact fun z hz => (hW.stack _ hc z hz).1
  refine P2.bind (closeLoop_l hW hP _ x.opened to rA rB _ _ hcx h hc) (fun _ _ sA2 sB2 ⟨h2, hk2, hr2, ho2⟩ => ?_)
  refine P2.bind (P := fun (u v : List Block) sA' sB' => v = u.map (shB F) ∧ (∀ z ∈ u, z ∈ x.opened) ∧ sA2 = sA' ∧ sB2 = sB')
    (P2.liftE (fun u v e1 e2 => ?_)) (fun u v sA3 sB3 ⟨hv, hu, e1, e2⟩ => ?_)
  · rw [cutRange_map, e1] at e2; cases e2; exact ⟨rfl, cutRange_mem e1, rfl, rfl⟩
  subst hv e1 e2
  refine ((modPc_l h2 _ _ (fun x y hxy => ctxRel_opened hxy u)).withL (R := fun _ sA' => W.I sA' ∧ W.R sA1 sA')
    (fun a sA' e => ?_)).mono fun _ _ _ _ ⟨q1, q2, q3⟩ => ⟨q1, q2, q3⟩
  unfold modPc at e; cases e
  have := hW.shrink sA2 u hk2 (fun z hz => by rw [ho2, ← hx]; exact hu z hz)
  exact ⟨this.1, hW.rTrans hr2 this.2⟩

/-- what the "a node was opened" paths establish (`sA0`: run A's state at their start) -/
def TpQ (F : Frame) (b : Bytes) (W : Side) (sA0 : St) (rA rB : Reader) (node : Nat) (state : PState)
    (lastBlock : Option Block) (x y : TryOutcome × OpenResult × Option Block) (sA' sB' : St) : Prop :=
  x = ((if state.hasChildren = true then TryOutcome.retry node else TryOutcome.done), OpenResult.newBlocksOpened, lastBlock) ∧
  y = (shO F x.1, x.2.1, x.2.2.map (shB F)) ∧ SRL F b rA rB sA' sB' ∧ (W.I sA' ∧ W.R sA0 sA') ∧ sA'.pc.opened ≠ []

theorem TpQ.from (hW : W.OK b) {sA0 sA1 : St} (hr : W.R sA0 sA1) {rA rB : Reader} {node : Nat} {state : PState}
    {lastBlock : Option Block} {x y : TryOutcome × OpenResult × Option Block} {sA' sB' : St}
    (h : TpQ F b W sA1 rA rB node state lastBlock x y sA' sB') : TpQ F b W sA0 rA rB node state lastBlock x y sA' sB' :=
  ⟨h.1, h.2.1, h.2.2.1, ⟨h.2.2.2.1.1, hW.rTrans hr h.2.2.2.1.2⟩, h.2.2.2.2⟩

theorem tpJp2_p2 (hW : W.OK b) (hF : F.OK) {rA rB : Reader} {sA sB : St} (parent node : Nat) (bp : BP) (state : PState)
    (lastBlock : Option Block) (h : SRL F b rA rB sA sB) (hc : W.I sA) (hbp : W.Cv bp) (hat : W.Att node parent sA) :
    P2 (TpQ F b W sA rA rB node state lastBlock) (tpJp2 parent node bp state lastBlock sA)
      (tpJp2 (F.ι parent) (F.ι node) bp state (lastBlock.map (shB F)) sB) := by
  unfold tpJp2
  refine P2.bind ((appendChild_l hF h parent node).withL (R := fun _ sA' => W.I sA' ∧ W.R sA sA')
    (fun a sA' e => hW.append node parent _ a _ hc hat e)) (fun _ _ sA1 sB1 ⟨h1, hk1, hr1⟩ => ?_)
  refine P2.bind (P := fun _ _ sA' sB' => SRL F b rA rB sA' sB' ∧
      (sA'.pc.opened = sA1.pc.opened ++ [{ node := node, bp := bp }] ∧ W.I sA' ∧ W.R sA1 sA'))
    ?_ (fun _ _ sA2 sB2 ⟨h2, ho2, hk2, hr2⟩ => ?_)
  · refine (modPc_l h1 _ _ (fun x y hxy => ?_)).withL (fun a sA' e => ?_)
    · have := ctxRel_opened hxy (x.opened ++ [{ node := node, bp := bp }])
      rw [hxy.opened]
      simpa [shB] using this
    · unfold modPc at e; cases e
      exact ⟨rfl, hW.push sA1 bp node parent hbp hk1 (hW.attR _ _ hr1 hat)⟩
  · have hai : W.I sA2 ∧ W.R sA sA2 := ⟨hk2, hW.rTrans hr1 hr2⟩
    have hne : sA2.pc.opened ≠ [] := by rw [ho2]; simp
    by_cases hh : state.hasChildren = true
    · rw [if_pos hh, if_pos hh]
      exact P2.pure ⟨by rw [if_pos hh], by simp [shO], h2, hai, hne⟩
    · rw [if_neg hh, if_neg hh]
      exact P2.pure ⟨by rw [if_neg hh], by simp [shO], h2, hai, hne⟩

theorem tpJp1_p2 (hW : W.OK b) (hP : Sim F b W) (hF : F.OK) {rA rB : Reader} {sA sB : St} (parent node : Nat) (bp : BP)
    (state : PState) (lastBlock : Option Block) (blankLine : Bool) (last : Option Nat)
    (h : SRL F b rA rB sA sB) (hc : W.I sA) (hbp : W.Cv bp) (hat : W.Att node parent sA) :
    P2 (TpQ F b W sA rA rB node state lastBlock) (tpJp1 parent node bp state lastBlock blankLine last sA)
      (tpJp1 (F.ι parent) (F.ι node) bp state (lastBlock.map (shB F)) blankLine (last.map F.ι) sB) := by
  unfold tpJp1
  refine P2.bind ((modNode_l h node (fun n => { n with blankPrev := blankLine }) (fun n => { n with blankPrev := blankLine }) (fun a => by simp [shN]) (fun _ => rfl)).withL
    (R := fun _ sA' => W.I sA' ∧ W.R sA sA') (fun a sA' e => hW.blank node parent blankLine _ a _ hc hat e))
    (fun _ _ sA1 sB1 ⟨h1, hc1, hr1⟩ => ?_)
  have hat1 := hW.attR _ _ hr1 hat
  cases last with
  | none => exact (tpJp2_p2 hW hF parent node bp state lastBlock h1 hc1 hbp hat1).mono fun _ _ _ _ q => q.from hW hr1
  | some l =>
    simp only [Option.map_some]
    refine P2.bind (getNode_l h1 l) (fun ln lm sA2 sB2 ⟨_, hm, e1, e2⟩ => ?_)
    subst e1 e2 hm
    have hp : (shN F (l == 0) ln).parent.isNone = ln.parent.isNone := by
      rw [shN_parent]; cases ln.parent <;> rfl
    rw [hp]
    by_cases hn : ln.parent.isNone = true
    · rw [if_pos hn, if_pos hn]
      refine P2.bind (getPc_l h1) (fun x y sA3 sB3 ⟨hx, hy, hxy, e1, e2⟩ => ?_)
      subst e1 e2
      have hlen : (y.opened.length : Int) = x.opened.length := by rw [hxy.opened, List.length_map]
      rw [hlen]
      refine P2.bind (closeBlocks_l2 hW hP _ _ hc1 h1) (fun _ _ sA4 sB4 ⟨h4, hc4, hr4⟩ => ?_)
      exact (tpJp2_p2 hW hF parent node bp state lastBlock h4 hc4 hbp (hW.attR _ _ hr4 hat1)).mono
        fun _ _ _ _ q => q.from hW (hW.rTrans hr1 hr4)
    · rw [if_neg hn, if_neg hn]
      exact (tpJp2_p2 hW hF parent node bp state lastBlock h1 hc1 hbp hat1).mono fun _ _ _ _ q => q.from hW hr1

theorem tpJp3_p2 (hW : W.OK b) (hP : Sim F b W) (hF : F.OK) {rA rB : Reader} {sA sB : St} (parent node : Nat) (bp : BP)
    (state : PState) (lastBlock : Option Block) (blankLine : Bool) (last : Option Nat) (lb : Block) (blocks : List Block)
    (h : SRL F b rA rB sA sB) (hb : ∀ z ∈ blocks, z ∈ sA.pc.opened) (hk : W.I sA) (hbp : W.Cv bp)
    (hat : W.Att node parent sA) :
    P2 (TpQ F b W sA rA rB node state lastBlock) (tpJp3 parent node bp state lastBlock blankLine last lb blocks sA)
      (tpJp3 (F.ι parent) (F.ι node) bp state (lastBlock.map (shB F)) blankLine (last.map F.ι) (shB F lb)
        (blocks.map (shB F)) sB) := by
  unfold tpJp3
  refine P2.bind (P := fun _ _ sA' sB' => SRL F b rA rB sA' sB' ∧ (W.I sA' ∧ W.R sA sA')) ?_
    (fun _ _ sA1 sB1 ⟨h1, hk1, hr1⟩ => ?_)
  · refine (modPc_l h _ _ (fun x y hxy => ?_)).withL (fun a sA' e => ?_)
    · have := ctxRel_opened hxy blocks.dropLast
      simpa [List.map_dropLast] using this
    · unfold modPc at e; cases e
      exact hW.shrink sA _ hk (fun z hz => hb z (List.dropLast_subset _ hz))
  refine P2.bind (getNode_l h1 lb.node) (fun ln lm sA2 sB2 ⟨_, hm, e1, e2⟩ => ?_)
  subst e1 e2 hm
  rw [shN_kind]
  by_cases hk : (ln.kind != Kind.paragraph) = true
  · rw [if_pos hk, if_pos hk]; exact P2.throwBindL
  · rw [if_neg hk, if_neg hk]
    exact (tpJp1_p2 hW hP hF parent node bp state lastBlock blankLine last h1 hk1 hbp (hW.attR _ _ hr1 hat)).mono
      fun _ _ _ _ q => q.from hW hr1

theorem tpSome_p2 (hW : W.OK b) (hP : Sim F b W) (hF : F.OK) {rA rB : Reader} {sA sB : St} (parent node : Nat) (bp : BP)
    (state : PState) (lastBlock : Option Block) (blankLine : Bool)
    (h : SRL F b rA rB sA sB) (hc : W.I sA) (hbp : W.Cv bp) (hat : W.Att node parent sA)
    (hlb : ∀ l, lastBlock = some l → W.Bk l) :
    P2 (TpQ F b W sA rA rB node state lastBlock)
      (tpSome parent node bp state lastBlock blankLine (lastBlock.map (·.node)) sA)
      (tpSome (F.ι parent) (F.ι node) bp state (lastBlock.map (shB F)) blankLine
        ((lastBlock.map (shB F)).map (·.node)) sB) := by
  have hlast : (lastBlock.map (shB F)).map (·.node) = (lastBlock.map (·.node)).map F.ι := by
    cases lastBlock <;> rfl
  rw [hlast]
  unfold tpSome
  by_cases hr : state.requirePara = true
  · rw [if_pos hr, if_pos hr]
    refine P2.bind (getNode_l h parent) (fun pn pm sA1 sB1 ⟨_, hm, e1, e2⟩ => ?_)
    subst e1 e2 hm
    rw [shN_children]
    cases lastBlock with
    | none =>
      simp only [Option.map_none]
      by_cases hcond : ((none : Option Nat) == pn.children.getLast?) = true
      · rw [if_pos hcond]; exact P2.throwBindL
      · have hcond' : ((none : Option Nat) == pn.children.getLast?) = false := by simpa using hcond
        rw [if_neg hcond, getLast_cond_none (F := F) _ _ hcond', if_neg (by simp)]
        exact tpJp1_p2 hW hP hF parent node bp state none blankLine none h hc hbp hat
    | some lb =>
      simp only [Option.map_some]
      have e : (shB F lb).node = F.ι lb.node := rfl
      rw [show (some (F.ι lb.node) == (kidsB F (parent == 0) pn.children).getLast?) =
        (some lb.node == pn.children.getLast?) from getLast_cond hF _ _ _]
      by_cases hcond : (some lb.node == pn.children.getLast?) = true
      · rw [if_pos hcond, if_pos hcond]
        refine P2.bind ((hP.cl lb (hlb lb rfl) rA rB _ _ h hc).withL
          (R := fun _ sA' => sA'.pc.opened = sA1.pc.opened ∧ W.I sA' ∧ W.R sA1 sA')
          (fun a sA' e => ⟨bpClose_opened _ _ _ _ _ e, hW.close lb (hlb lb rfl) _ a _ hc e⟩))
          (fun _ _ sA2 sB2 ⟨h2, ho2, hk2, hr2⟩ => ?_)
        refine P2.bind (getPc_l h2) (fun x y sA3 sB3 ⟨hx, hy, hxy, e1, e2⟩ => ?_)
        subst e1 e2
        have ho : y.opened = x.opened.map (shB F) := hxy.opened
        rw [ho, List.length_map]
        have hcb : ∀ z ∈ x.opened, z ∈ sA3.pc.opened := by rw [hx]; exact fun z hz => hz
        by_cases hz : (x.opened.length == 0) = true
        · rw [if_pos hz, if_pos hz]; exact P2.throwBindL
        · rw [if_neg hz, if_neg hz]
          exact (tpJp3_p2 hW hP hF parent node bp state (some lb) blankLine (some lb.node) lb x.opened h2 hcb hk2 hbp
            (hW.attR _ _ hr2 hat)).mono fun _ _ _ _ q => q.from hW hr2
      · rw [if_neg hcond, if_neg hcond]
        exact tpJp1_p2 hW hP hF parent node bp state (some lb) blankLine (some lb.node) h hc hbp hat
  · rw [if_neg hr, if_neg hr]
    exact tpJp1_p2 hW hP hF parent node bp state lastBlock blankLine _ h hc hbp hat

/-- what one run of the candidate loop establishes (`sA0`: run A's state at its start, `resIn` / `lbIn`: the `result` and
    `lastBlock` it got) -/
structure TryPost (F : Frame) (b : Bytes) (W : Side) (sA0 : St) (resIn : OpenResult) (lbIn : Option Block)
    (x : TryOutcome × OpenResult × Option Block) (sA' sB' : St) : Prop where
  lim : SRLim F b sA' sB'
  ai : W.I sA'
  r : W.R sA0 sA'
  lb : ∀ l, x.2.2 = some l → W.Bk l
  par : ∀ p, x.1 = .retry p → W.P p sA'
  sr : ((∃ p, x.1 = .retry p) ∨ x.2.1 = .noBlocksOpened) → SR F b sA' sB'
  line : sA0.r.line ≤ sA'.r.line
  hasLine : x.2.1 = .noBlocksOpened → W.J sA' ∧ HasLine b sA'
  hasLineR : (∃ p, x.1 = .retry p) → W.J sA'
  ne : x.2.1 = .newBlocksOpened → (resIn = .newBlocksOpened → sA0.pc.opened ≠ []) → sA'.pc.opened ≠ []
  /-- nothing opened: the stack of open blocks is the old one, `lastBlock` is the one handed in or the last open block -/
  same : x.2.1 = .noBlocksOpened → resIn = .noBlocksOpened ∧ sA'.pc.opened = sA0.pc.opened ∧
    (x.2.2 = lbIn ∨ x.2.2 = sA0.pc.opened.getLast?)
  retryNew : ∀ p, x.1 = .retry p → x.2.1 = .newBlocksOpened

theorem tryParsers_p2 (hW : W.OK b) (hP : Sim F b W) (hF : F.OK) (hq : QNL F b) (parent : Nat) (blankLine continuable : Bool)
    (w : Int) :
    ∀ (bps : List BP) (result : OpenResult) (lastBlock : Option Block) (sA sB : St),
      (∀ bp ∈ bps, W.Cv bp) → (∀ l, lastBlock = some l → W.Bk l) → SR F b sA sB → W.J sA → HasLine b sA → W.I sA →
      W.P parent sA →
      P2 (fun x y sA' sB' => y = (shO F x.1, x.2.1, x.2.2.map (shB F)) ∧ TryPost F b W sA result lastBlock x sA' sB')
        (tryParsers parent blankLine continuable w bps result lastBlock sA)
        (tryParsers (F.ι parent) blankLine continuable w bps result (lastBlock.map (shB F)) sB) := by
  intro bps
  induction bps with
  | nil =>
    intro result lastBlock sA sB _ hlb h hj hl hc _
    unfold tryParsers
    refine P2.pure ⟨rfl, h.limbo hq, hc, hW.rRefl _, hlb, fun p e => ?_, fun _ => h, Int.le_refl _, fun _ => ⟨hj, hl⟩,
      fun ⟨_, e⟩ => (by cases e), fun e he => he e, fun e => ⟨e, rfl, .inl rfl⟩, fun p e => ?_⟩
    · have e' : TryOutcome.done = .retry p := e
      cases e'
    · have e' : TryOutcome.done = .retry p := e
      cases e'
  | cons bp bps ih =>
    intro result lastBlock sA sB hbps hlb h hj hl hc hpp
    have hbp : W.Cv bp := hbps bp List.mem_cons_self
    have hbps' : ∀ q ∈ bps, W.Cv q := fun q hq => hbps q (List.mem_cons_of_mem _ hq)
    rw [tryParsers_cons, tryParsers_cons]
    by_cases c1 : (continuable && result == OpenResult.noBlocksOpened && !bp.canInterruptParagraph) = true
    · rw [if_pos c1, if_pos c1]; exact ih result lastBlock sA sB hbps' hlb h hj hl hc hpp
    rw [if_neg c1, if_neg c1]
    by_cases c2 : (decide (w > 3) && !bp.canAcceptIndentedLine) = true
    · rw [if_pos c2, if_pos c2]; exact ih result lastBlock sA sB hbps' hlb h hj hl hc hpp
    rw [if_neg c2, if_neg c2]
    refine P2.bind (lastOpenedBlock_p2 h) (fun x0 y0 sA0 sB0 ⟨hx0, hy0, e1, e2⟩ => ?_)
    subst e1 e2 hy0
    have hlb0 : ∀ l, x0 = some l → W.Bk l := by
      intro l hl0
      rw [hx0] at hl0
      exact (hW.stack _ hc l (List.mem_of_getLast? hl0)).1
    refine P2.bind (((hP.op bp hbp parent _ _ h hl).withL
      (R := fun a sA' => sA'.pc.opened = sA0.pc.opened ∧ sA0.r.line ≤ sA'.r.line ∧ (a.1 = none → sA'.r.pos = sA0.r.pos) ∧
        ((W.I sA' ∧ W.R sA0 sA') ∧ ∀ id, a.1 = some id → W.Att id parent sA') ∧ (a.2.hasChildren = true → W.J sA'))
      (fun a sA' e => ⟨bpOpen_opened _ _ _ _ _ e, Sh.bpOpen_line _ _ _ _ _ e, bpOpen_none_pos _ _ _ _ _ e,
        hW.opn bp hbp parent _ a _ hc hpp e, hW.strictO bp hbp parent _ _ a hj hl e⟩)))
      (fun x y sA1 sB1 ⟨⟨hy, hlim, hsr, _⟩, ho1, hline1, hpos1, ⟨⟨hk1, hr1⟩, hat1⟩, hstr1⟩ => ?_)
    subst hy
    cases hx1 : x.1 with
    | none =>
      simp only [Option.map_none]
      have h1 : SR F b sA1 sB1 := hsr (.inr hx1)
      have hj1 : W.J sA1 := hW.jPos _ _ hj h1.ri (hpos1 hx1)
      have hl1 : HasLine b sA1 := hasLine_of_pos hl h1.ri (hpos1 hx1)
      refine (ih result x0 sA1 sB1 hbps' hlb0 h1 hj1 hl1 hk1 (hW.pR _ hr1 hpp)).mono
        (fun u v sA' sB' ⟨hv, hpost⟩ => ⟨hv, ?_⟩)
      refine ⟨hpost.lim, hpost.ai, hW.rTrans hr1 hpost.r, hpost.lb, hpost.par, hpost.sr, Int.le_trans hline1 hpost.line,
        hpost.hasLine, hpost.hasLineR, fun e he => hpost.ne e (fun e' => ho1 ▸ he e'), fun e => ?_, hpost.retryNew⟩
      obtain ⟨hres, ho, hor⟩ := hpost.same e
      refine ⟨hres, ho.trans ho1, .inr ?_⟩
      rcases hor with hor | hor
      · rw [hor, hx0]
      · rw [hor, ho1]
    | some node =>
      simp only [Option.map_some]
      have hat := hat1 node hx1
      refine (tpSome_p2 hW hP hF parent node bp x.2 x0 blankLine hlim.1 hk1 hbp hat hlb0).mono
        (fun u v sA' sB' ⟨hu, hv, h', ⟨hai, hr'⟩, hne⟩ => ⟨hv, ?_⟩)
      have era := h'.ra
      have hh_of : (∃ p, u.1 = .retry p) → x.2.hasChildren = true := by
        rintro ⟨p, hp⟩
        rw [hu] at hp
        by_cases hh : x.2.hasChildren = true
        · exact hh
        · simp [hh] at hp
      refine ⟨SRLim.of_l hlim h', hai, hW.rTrans hr1 hr', ?_, ?_, ?_, ?_, ?_, ?_, fun _ _ => hne, ?_, ?_⟩
      · intro l hl'; rw [hu] at hl'; exact hlb0 l hl'
      · intro p hp
        have hh := hh_of ⟨p, hp⟩
        rw [hu, if_pos hh] at hp
        cases hp
        exact hW.attP _ _ _ (hW.attR _ _ hr' hat)
      · intro hcase
        have hh : x.2.hasChildren = true := by
          rcases hcase with hp | hp
          · exact hh_of hp
          · rw [hu] at hp; cases hp
        exact SRL.sr (hsr (.inl hh)) h'
      · rw [era]; exact hline1
      · intro e; rw [hu] at e; cases e
      · intro hp
        have hh := hh_of hp
        exact hW.jPos _ _ (hstr1 hh) (SRL.sr (hsr (.inl hh)) h').ri (by rw [era])
      · intro e; rw [hu] at e; cases e
      · intro p _; rw [hu]

/-- the interface of `openBlocks` under the relation (section 2 below): from weakly related states (BlockOffset /
    BlockIndent need not agree) same answer, afterwards at least the limbo relation; run A's invariant holds again, its line
    counter does not decrease, and `newBlocksOpened` means a block is open. Of the last open block is asked: if its node is a
    Paragraph, its `Continue` may be asked (`CoOK`) -/
def OpenG (F : Frame) (b : Bytes) (W : Side) : Prop :=
  ∀ (parent : Nat) (blank : Bool) (sA sB : St), SRw F b sA sB → W.I sA → W.J sA → W.P parent sA →
    (∀ x, sA.pc.opened.getLast? = some x → (sA.nodes.getD x.node default).kind = .paragraph → W.CoOK x) →
    P2 (fun x y sA' sB' => y = x ∧ SRLim F b sA' sB' ∧ (W.I sA' ∧ W.R sA sA') ∧ sA.r.line ≤ sA'.r.line ∧
        (x = OpenResult.newBlocksOpened → sA'.pc.opened ≠ []))
      (openBlocks parent blank sA) (openBlocks (F.ι parent) blank sB)

end G


/-! ### the right-extension simulation: the context keys stay unset, run A's cursor stays trigger-safe -/

/-- the parsers in `Cov` meet the contracts; they never touch the four context keys; a container parser that goes on
    with children leaves the line feed of its line unread (run A still has a line) -/
structure PSim (F : Frame) (b : Bytes) (Cov : BP → Prop) : Prop where
  op : ∀ bp, Cov bp → OpenSim F b bp
  co : ∀ bp, Cov bp → ContinueSim F b bp
  cl : ∀ bp, Cov bp → CloseSim F b bp
  keysO : ∀ bp, Cov bp → ∀ parent s s' a, bpOpen bp parent s = .ok (a, s') → KeysEq s s'
  keysC : ∀ bp, Cov bp → ∀ node s s' a, bpContinue bp node s = .ok (a, s') → KeysEq s s'
  keysCl : ∀ bp, Cov bp → ∀ node s s' a, bpClose bp node s = .ok (a, s') → KeysEq s s'
  strictO : ∀ bp, Cov bp → ∀ parent s s' x, HL b s → bpOpen bp parent s = .ok (x, s') →
    x.2.hasChildren = true → HL b s'
  strictC : ∀ bp, Cov bp → ∀ node s s' st, HL b s → bpContinue bp node s = .ok (st, s') →
    st.cont = true → st.hasChildren = true → HL b s'

/-- every open block of run A belongs to a covered parser, and the four context keys are unset -/
def AI (Cov : BP → Prop) (s : St) : Prop := (∀ x ∈ s.pc.opened, Cov x.bp) ∧ KeysOff s

/-- the unary side of the right-extension simulation: the covered parsers, the context keys unset, run A's cursor
    trigger-safe on a line -/
abbrev side (b : Bytes) (Cov : BP → Prop) : G.Side := G.sideK Cov KeysOff (HL b)

theorem PSim.ok (hP : PSim F b Cov) : (side b Cov).OK b :=
  G.sideK_ok (fun bp hb parent s s' a e hk => (hP.keysO bp hb parent s s' a e).off hk)
    (fun bp hb node s s' a e hk => (hP.keysC bp hb node s s' a e).off hk)
    (fun bp hb node s s' a e hk => (hP.keysCl bp hb node s s' a e).off hk)
    (fun _ _ hk h => hk.off h) (fun _ _ hl h1 hp => hl_of_pos hl h1 hp)
    (fun bp hb parent s s' x hl _ e hh => hP.strictO bp hb parent s s' x hl e hh)

theorem PSim.toG (hP : PSim F b Cov) : G.Sim F b (side b Cov) where
  op := hP.op
  cl := fun x hx rA rB sA sB h _ => hP.cl x.bp hx x.node rA rB sA sB h

theorem closeBlocks_l (hP : PSim F b Cov) (frm to : Int) {rA rB : Reader} {sA sB : St} (hc : AI Cov sA)
    (h : SRL F b rA rB sA sB) :
    P2 (fun _ _ sA' sB' => SRL F b rA rB sA' sB') (closeBlocks frm to sA) (closeBlocks frm to sB) :=
  (G.closeBlocks_l2 hP.ok hP.toG frm to hc h).mono fun _ _ _ _ h => h.1

theorem closeBlocks_l2 (hP : PSim F b Cov) (frm to : Int) {rA rB : Reader} {sA sB : St} (hc : AI Cov sA)
    (h : SRL F b rA rB sA sB) :
    P2 (fun _ _ sA' sB' => SRL F b rA rB sA' sB' ∧ AI Cov sA') (closeBlocks frm to sA) (closeBlocks frm to sB) :=
  (G.closeBlocks_l2 hP.ok hP.toG frm to hc h).mono fun _ _ _ _ h => ⟨h.1, h.2.1⟩

end GM.Blocks.Xs

namespace GM.Blocks.Xs
open GM GM.Text GM.Spec GM.Proof.Reader GM.Blocks
open GM.Blocks.Sh (oblTry openBlocksLoop_succ)

variable {F : Frame} {b : Bytes} {Cov : BP → Prop}

/-! ### the retry measure of the contract monitor: the same number up to the suffix -/

theorem lastIsList_eq {sA sB : St} (h : SR F b sA sB) : lastIsList sB = lastIsList sA := by
  unfold lastIsList
  rw [h.c.toCtxRelW.last]
  cases sA.pc.opened.getLast? with
  | none => rfl
  | some lb =>
    simp only [Option.map_some]
    show ((sB.nodes.getD (F.ι lb.node) default).kind == Kind.list) = _
    rw [h.n.node lb.node]; rfl

theorem retryMeasure_eq {sA sB : St} (h : SR F b sA sB) :
    retryMeasure sB = retryMeasure sA + 2 * F.q.length := by
  unfold retryMeasure
  rw [lastIsList_eq h]
  obtain ⟨c, hc⟩ := h.ri
  have h0 := RI.start_nonneg hc
  have hin : sA.r.pos.start.toNat ≤ sA.r.source.length := by
    rw [hc.pos, hc.source]; simpa using hc.abs.inRange
  have e1 : sB.r.source.length = F.p.length + sA.r.source.length + F.q.length := by
    rw [h.r]; simp [shR]; omega
  have e2 : sB.r.pos.start.toNat = sA.r.pos.start.toNat + F.p.length := by
    rw [h.r]; simp only [shR, moveSeg, Frame.d]; omega
  rw [e1, e2]
  generalize (if lastIsList sA = true then 0 else 1 : Nat) = k
  omega

theorem view_byte {c : RCur} {l : Bytes} {x : UInt8} (hv : RCur.view b c = some l) (hx : x ∈ l) : x ∈ b ∨ x = 32 := Sh.view_byte hv hx

theorem idx_mem {l : Bytes} {i : Int} {x : UInt8} (h : idx l i = .ok x) : x ∈ l := Sh.idx_mem h

theorem get_p2 (sA sB : St) :
    P2 (fun x y sA' sB' => x = sA ∧ y = sB ∧ sA' = sA ∧ sB' = sB) ((get : M St) sA) ((get : M St) sB) :=
  P2.ok ⟨rfl, rfl, rfl, rfl⟩

theorem ctxRel_setBO {x y : Ctx} (h : CtxRelW F x y) (o i : Int) :
    CtxRel F { x with blockOffset := o, blockIndent := i } { y with blockOffset := o, blockIndent := i } :=
  ⟨⟨h.opened, h.tmpPara, h.fence, h.skipList, h.emptyItemBlank⟩, rfl, rfl⟩

/-- the parsers that the bytes of the source (and a virtual padding space) trigger are covered -/
def Triggers (b : Bytes) (Cov : BP → Prop) : Prop :=
  (∀ bp ∈ freeParsers, Cov bp) ∧ ∀ c : UInt8, (c ∈ b ∨ c = 32) → ∀ bp ∈ (triggered c).getD freeParsers, Cov bp

namespace G

variable {W : Side}

/-- when the exit `continuable:` asks `Continue` of the block `o`, it may -/
def CoMay (W : Side) (continuable : Bool) (o : Option Block) : Prop := continuable = true → ∀ x, o = some x → W.CoOK x

theorem toContinuable_p2 (hW : W.OK b) (hP : SimO F b W) (continuable : Bool) (result : OpenResult)
    (lastBlock : Option Block) {sA sB : St} (hlim : SRLim F b sA sB) (hsr : result = .noBlocksOpened → SR F b sA sB)
    (hl : result = .noBlocksOpened → W.J sA) (hi : W.I sA) (hlb : ∀ l, lastBlock = some l → W.Bk l)
    (hco : result = .noBlocksOpened → CoMay W continuable lastBlock) :
    P2 (fun x y sA' sB' => y = x ∧ SRLim F b sA' sB' ∧ sA'.pc.opened = sA.pc.opened ∧ (W.I sA' ∧ W.R sA sA') ∧
        sA.r.line ≤ sA'.r.line ∧
        (x = .newBlocksOpened → result = .newBlocksOpened))
      (toContinuable continuable result lastBlock sA) (toContinuable continuable result (lastBlock.map (shB F)) sB) := by
  unfold toContinuable
  by_cases hc : (result == OpenResult.noBlocksOpened && continuable) = true
  · rw [if_pos hc, if_pos hc]
    have hres : result = .noBlocksOpened := by
      simp only [Bool.and_eq_true, beq_iff_eq] at hc; exact hc.1
    have hcont : continuable = true := by
      simp only [Bool.and_eq_true] at hc; exact hc.2
    have h := hsr hres
    cases lastBlock with
    | none => exact P2.throwBindL
    | some lb =>
      simp only [Option.map_some]
      have hcov := hlb lb rfl
      have key : P2 (fun x y sA' sB' => y = x ∧ SRLim F b sA' sB')
          (bpContinue lb.bp lb.node sA) (bpContinue (shB F lb).bp (shB F lb).node sB) :=
        hP.coLim lb hcov (hco hres hcont lb rfl) sA sB h (hl hres) hi
      refine P2.bind (key.withL
        (R := fun _ sA' => sA'.pc.opened = sA.pc.opened ∧ (W.I sA' ∧ W.R sA sA') ∧ sA.r.line ≤ sA'.r.line)
        (fun a sA' e => ⟨bpContinue_opened _ _ _ _ _ e, hW.cont lb hcov _ a _ hi e, Sh.bpContinue_line _ _ _ _ _ e⟩))
        (fun st st' sA1 sB1 ⟨⟨hst, h1⟩, ho, hk, hl⟩ => ?_)
      rw [hst]
      by_cases hcont : st.cont = true
      · rw [if_pos hcont]
        exact P2.pure ⟨rfl, h1, ho, hk, hl, fun e => by cases e⟩
      · rw [if_neg hcont]
        exact P2.pure ⟨rfl, h1, ho, hk, hl, fun e => e⟩
  · rw [if_neg hc, if_neg hc]
    exact P2.pure ⟨rfl, hlim, rfl, ⟨hi, hW.rRefl _⟩, Int.le_refl _, fun e => e⟩

/-- what `openBlocks` establishes -/
def OpenQ2 (F : Frame) (b : Bytes) (W : Side) (sA : St) (resIn : OpenResult) (x y : OpenResult) (sA' sB' : St) : Prop :=
  y = x ∧ SRLim F b sA' sB' ∧ (W.I sA' ∧ W.R sA sA') ∧ sA.r.line ≤ sA'.r.line ∧
    (x = .newBlocksOpened → (resIn = .newBlocksOpened → sA.pc.opened ≠ []) → sA'.pc.opened ≠ [])

theorem oblTry_p2 (hW : W.OK b) (hP : SimO F b W) (hF : F.OK) (hq : QNL F b)
    (blankLine continuable : Bool) (fuelA fuelB : Nat)
    (ih : ∀ (parent : Nat) (result : OpenResult) (lastBlock : Option Block) (sA sB : St),
      SRw F b sA sB → W.I sA → W.J sA → W.P parent sA → (∀ l, lastBlock = some l → W.Bk l) →
      (result = .noBlocksOpened → CoMay W continuable lastBlock ∧ CoMay W continuable sA.pc.opened.getLast?) →
      P2 (OpenQ2 F b W sA result)
        (openBlocksLoop blankLine continuable fuelA parent result lastBlock sA)
        (openBlocksLoop blankLine continuable fuelB (F.ι parent) result (lastBlock.map (shB F)) sB))
    (parent : Nat) (w : Int) (result : OpenResult) (lastBlock : Option Block) (bps : List BP) {sA sB : St}
    (h : SR F b sA sB) (hj : W.J sA) (hl : HasLine b sA) (hc : W.I sA) (hpp : W.P parent sA)
    (hlb : ∀ l, lastBlock = some l → W.Bk l)
    (hn : result = .noBlocksOpened → CoMay W continuable lastBlock ∧ CoMay W continuable sA.pc.opened.getLast?)
    (hbps : ∀ bp ∈ bps, W.Cv bp) :
    P2 (OpenQ2 F b W sA result)
      (oblTry blankLine continuable fuelA parent w result lastBlock bps sA)
      (oblTry blankLine continuable fuelB (F.ι parent) w result (lastBlock.map (shB F)) bps sB) := by
  unfold oblTry
  refine P2.bind (get_p2 sA sB) (fun s0 t0 sA0 sB0 ⟨e1, e2, e3, e4⟩ => ?_)
  rw [e1, e2, e3, e4]
  refine P2.bind (tryParsers_p2 hW hP.toSim hF hq parent blankLine continuable w bps result lastBlock _ _ hbps hlb h hj hl hc hpp)
    (fun x y sA1 sB1 ⟨hy, hpost⟩ => ?_)
  subst hy
  cases hx1 : x.1 with
  | retry parent' =>
    simp only [shO]
    have h1 : SR F b sA1 sB1 := hpost.sr (.inl ⟨parent', hx1⟩)
    refine P2.bind (get_p2 sA1 sB1) (fun s1 t1 sA2 sB2 ⟨e1, e2, e3, e4⟩ => ?_)
    rw [e1, e2, e3, e4]
    rw [retryMeasure_eq h, retryMeasure_eq h1]
    simp only [Nat.add_lt_add_iff_right]
    have hnew : x.2.1 = .newBlocksOpened := hpost.retryNew parent' hx1
    have key := ih parent' x.2.1 x.2.2 _ _ h1.w hpost.ai (hpost.hasLineR ⟨parent', hx1⟩) (hpost.par parent' hx1) hpost.lb
      (fun e => by rw [hnew] at e; cases e)
    have fin : P2 (OpenQ2 F b W sA result)
        (openBlocksLoop blankLine continuable fuelA parent' x.2.1 x.2.2 sA1)
        (openBlocksLoop blankLine continuable fuelB (F.ι parent') x.2.1 (x.2.2.map (shB F)) sB1) := by
      refine key.mono (fun u v sA' sB' ⟨hv, hlim, hai, hline, hne⟩ =>
        ⟨hv, hlim, ⟨hai.1, hW.rTrans hpost.r hai.2⟩, Int.le_trans hpost.line hline, ?_⟩)
      intro e he
      exact hne e (fun e' => hpost.ne e' he)
    by_cases hm : (!decide (retryMeasure sA1 < retryMeasure sA)) = true
    · rw [if_pos hm, if_pos hm]; exact P2.throwBindL
    · rw [if_neg hm, if_neg hm]; exact fin
  | done =>
    simp only [shO]
    have hnli : x.2.1 = .noBlocksOpened → CoMay W continuable x.2.2 := by
      intro e
      obtain ⟨hres, _, hor⟩ := hpost.same e
      obtain ⟨n1, n2⟩ := hn hres
      rcases hor with hor | hor
      · rw [hor]; exact n1
      · rw [hor]; exact n2
    refine (toContinuable_p2 hW hP continuable x.2.1 x.2.2 hpost.lim (fun e => hpost.sr (.inr e)) (fun e => (hpost.hasLine e).1)
      hpost.ai hpost.lb hnli).mono
      (fun u v sA' sB' ⟨hv, hlim, ho, hk, hline, hnew⟩ =>
        ⟨hv, hlim, ⟨hk.1, hW.rTrans hpost.r hk.2⟩, Int.le_trans hpost.line hline, ?_⟩)
    intro e he
    rw [ho]
    exact hpost.ne (hnew e) he

theorem openBlocksLoop_p2 (hW : W.OK b) (hP : SimO F b W) (hF : F.OK) (hq : QNL F b)
    (blankLine continuable : Bool) :
    ∀ (fuelA fuelB parent : Nat) (result : OpenResult) (lastBlock : Option Block) (sA sB : St),
      SRw F b sA sB → W.I sA → W.J sA → W.P parent sA → (∀ l, lastBlock = some l → W.Bk l) →
      (result = .noBlocksOpened → CoMay W continuable lastBlock ∧ CoMay W continuable sA.pc.opened.getLast?) →
      P2 (OpenQ2 F b W sA result)
        (openBlocksLoop blankLine continuable fuelA parent result lastBlock sA)
        (openBlocksLoop blankLine continuable fuelB (F.ι parent) result (lastBlock.map (shB F)) sB) := by
  intro fuelA
  induction fuelA with
  | zero => intro fuelB parent result lastBlock sA sB _ _ _ _ _ _; unfold openBlocksLoop; exact P2.throwL
  | succ fuelA ih =>
    intro fuelB parent result lastBlock sA sB h hc hj hpp hlb hn
    cases fuelB with
    | zero => unfold openBlocksLoop; exact P2.throwR
    | succ fuelB =>
      rw [openBlocksLoop_succ, openBlocksLoop_succ]
      refine P2.bind ((peekLine_core h.rd (hP.jQ _ hj)).withL (R := fun _ sA' => sA.r.line ≤ sA'.r.line ∧ sA'.r.pos = sA.r.pos)
        (fun a sA' e => ⟨Sh.peekLine_lg (k := sA.r.line) sA a sA' (Int.le_refl _) e, peekLine_pos _ _ _ e⟩))
        (fun lp lp' sA1 sB1 ⟨⟨⟨c, hc1, hlp⟩, hlp', hs1⟩, hline1, hpos1⟩ => ?_)
      have h1 := hs1.srw h
      have epc1 : sA1.pc = sA.pc := by obtain ⟨rA, c', _, e1, _⟩ := hs1; rw [e1]
      have en1 : sA1.nodes = sA.nodes := by obtain ⟨rA, c', _, e1, _⟩ := hs1; rw [e1]
      have e1 : lp'.1 = lp.1 := by rw [hlp']
      rw [e1]
      refine P2.bind ((lineOffset_core h1.rd).withL (R := fun _ sA' => sA1.r.line ≤ sA'.r.line ∧ sA'.r.pos = sA1.r.pos)
        (fun a sA' e => ⟨Sh.lineOffset_lg (k := sA1.r.line) sA1 a sA' (Int.le_refl _) e, lineOffset_pos _ _ _ e⟩))
        (fun lo lo' sA2 sB2 ⟨⟨hlo, ⟨c2, hc2, _⟩, hs2⟩, hline2, hpos2⟩ => ?_)
      rw [hlo]
      have h2 := hs2.srw h1
      have epc2 : sA2.pc = sA.pc := by obtain ⟨rA, c', _, e2, _⟩ := hs2; rw [e2]; exact epc1
      have en2 : sA2.nodes = sA.nodes := by obtain ⟨rA, c', _, e2, _⟩ := hs2; rw [e2]; exact en1
      -- the context update: afterwards the full relation
      refine P2.bind (P := fun _ _ sA' sB' => SR F b sA' sB' ∧ sA'.pc.opened = sA.pc.opened ∧ sA'.r = sA2.r ∧
          KeysEq sA sA' ∧ sA'.nodes = sA.nodes) ?_
        (fun _ _ sA3 sB3 ⟨h3, ho3, er3, hk3, en3⟩ => ?_)
      · unfold modPc
        refine P2.ok ⟨⟨h2.ri, h2.r, h2.n, ?_⟩, ?_, rfl, ?_, en2⟩
        rotate_left 2
        · unfold KeysEq
          simp only
          rw [← epc2]
          split <;> exact ⟨rfl, rfl, rfl, rfl⟩
        · simp only
          split
          · exact ctxRel_setBO h2.c _ _
          · exact ctxRel_setBO h2.c _ _
        · simp only
          rw [← epc2]
          split <;> rfl
      obtain ⟨hc3, hr3⟩ := hW.same sA sA3 hc en3 ho3 hk3
      have hpp3 : W.P parent sA3 := hW.pR _ hr3 hpp
      have hj3 : W.J sA3 := hW.jPos _ _ hj h3.ri (by rw [er3, hpos2, hpos1])
      have hn3 : result = .noBlocksOpened →
          CoMay W continuable lastBlock ∧ CoMay W continuable sA3.pc.opened.getLast? := by
        rw [ho3]; exact hn
      have hline3 : sA.r.line ≤ sA3.r.line := by rw [er3]; exact Int.le_trans hline1 hline2
      have conv : ∀ x y sA' sB', OpenQ2 F b W sA3 result x y sA' sB' → OpenQ2 F b W sA result x y sA' sB' := by
        intro x y sA' sB' ⟨hv', hlim, hai, hline, hne⟩
        exact ⟨hv', hlim, ⟨hai.1, hW.rTrans hr3 hai.2⟩, Int.le_trans hline3 hline, fun e he => hne e (fun e' => ho3 ▸ he e')⟩
      have tc : P2 (OpenQ2 F b W sA result) (toContinuable continuable result lastBlock sA3)
          (toContinuable continuable result (lastBlock.map (shB F)) sB3) := by
        refine (toContinuable_p2 hW hP continuable result lastBlock (h3.limbo hq) (fun _ => h3) (fun _ => hj3) hc3 hlb
          (fun e => (hn e).1)).mono
          (fun u v sA' sB' ⟨hv, hlim, ho, hk, hline, hnew⟩ =>
            ⟨hv, hlim, ⟨hk.1, hW.rTrans hr3 hk.2⟩, Int.le_trans hline3 hline, ?_⟩)
        intro e he; rw [ho, ho3]; exact he (hnew e)
      by_cases hnone : lp.1.isNone = true
      · rw [if_pos hnone, if_pos hnone]; exact tc
      rw [if_neg hnone, if_neg hnone]
      refine P2.bind (P := fun u v sA' sB' => v = u ∧ sA' = sA3 ∧ sB' = sB3) (P2.liftE_same (fun a _ => ⟨rfl, rfl, rfl⟩))
        (fun c0 c0' sA4 sB4 ⟨e1, e2, e3⟩ => ?_)
      rw [e1, e2, e3]
      by_cases hnl : (c0 == 10) = true
      · rw [if_pos hnl, if_pos hnl]; exact tc
      rw [if_neg hnl, if_neg hnl]
      -- a line is there
      have hview : ∃ l, RCur.view b c = some l ∧ lp.1 = some l := by
        rw [hlp] at hnone ⊢
        cases hv : RCur.view b c with
        | none => rw [hv] at hnone; simp at hnone
        | some l => exact ⟨l, rfl, rfl⟩
      obtain ⟨l, hv, hl1⟩ := hview
      have hpl : c.p < b.length := by
        by_cases hp : c.p < b.length
        · exact hp
        · rw [view_none b c hp] at hv; cases hv
      have hl3 : HasLine b sA3 := hasLine_of_pos ⟨c, hc1, hpl⟩ h3.ri (by rw [er3, hpos2])
      by_cases hpos : (indentWidthI (lp.1.getD []) lo).2 < ((lp.1.getD []).length : Int)
      · rw [if_pos hpos, if_pos hpos]
        refine P2.bind (P := fun u v sA' sB' => v = u ∧ idx (lp.1.getD []) (indentWidthI (lp.1.getD []) lo).2 = .ok u ∧
            sA' = sA3 ∧ sB' = sB3) (P2.liftE_same (fun a ha => ⟨rfl, ha, rfl, rfl⟩))
          (fun ch ch' sA4 sB4 ⟨e1, hidx, e2, e3⟩ => ?_)
        rw [e1, e2, e3]
        have hcov : ∀ bp ∈ (triggered ch).getD freeParsers, W.Cv bp := by
          rw [hl1] at hidx
          simp only [Option.getD_some] at hidx
          exact hP.trig sA3 sA1.r c l lo ch hj3 hc1 (by rw [er3, hpos2]) hv hidx
        exact (oblTry_p2 hW hP hF hq blankLine continuable fuelA fuelB (ih fuelB) parent _ result lastBlock _ h3 hj3 hl3 hc3
          hpp3 hlb hn3 hcov).mono conv
      · rw [if_neg hpos, if_neg hpos]
        exact (oblTry_p2 hW hP hF hq blankLine continuable fuelA fuelB (ih fuelB) parent _ result lastBlock _ h3 hj3 hl3 hc3
          hpp3 hlb hn3 hP.free).mono conv

theorem openBlocks_p2 (hW : W.OK b) (hP : SimO F b W) (hF : F.OK) (hq : QNL F b) : OpenG F b W := by
  intro parent blank sA sB h hc hl hpp hli
  unfold openBlocks
  have hlast : sB.pc.opened.getLast? = sA.pc.opened.getLast?.map (shB F) := h.c.last
  refine P2.bind (P := fun x y sA' sB' => x = sA.pc.opened.getLast? ∧ y = x.map (shB F) ∧ sA' = sA ∧ sB' = sB) ?_
    (fun lb lb' sA1 sB1 ⟨hlb, hlb', e1, e2⟩ => ?_)
  · unfold lastOpenedBlock getPc
    exact P2.ok ⟨rfl, hlast, rfl, rfl⟩
  rw [hlb', e1, e2]
  have hlbc : ∀ l, lb = some l → W.Bk l := by
    intro l hl; rw [hlb] at hl; exact (hW.stack _ hc l (List.mem_of_getLast? hl)).1
  have tail : ∀ cont : Bool, CoMay W cont lb →
      P2 (fun x y sA' sB' => y = x ∧ SRLim F b sA' sB' ∧ (W.I sA' ∧ W.R sA sA') ∧ sA.r.line ≤ sA'.r.line ∧
        (x = OpenResult.newBlocksOpened → sA'.pc.opened ≠ []))
      ((do let src ← source
           openBlocksLoop blank cont (retryFuel src) parent OpenResult.noBlocksOpened lb) sA)
      ((do let src ← source
           openBlocksLoop blank cont (retryFuel src) (F.ι parent) OpenResult.noBlocksOpened (lb.map (shB F))) sB) := by
    intro cont hnl
    refine P2.bind (P := fun _ _ sA' sB' => sA' = sA ∧ sB' = sB) (by unfold GM.Blocks.source; exact P2.ok ⟨rfl, rfl⟩)
      (fun src src' sA3 sB3 ⟨e1, e2⟩ => ?_)
    rw [e1, e2]
    refine (openBlocksLoop_p2 hW hP hF hq blank cont _ _ parent .noBlocksOpened lb sA sB h hc hl hpp hlbc
      (fun _ => ⟨hnl, hlb ▸ hnl⟩)).mono
      (fun x y sA' sB' ⟨hv, hlim, hai, hline, hne⟩ => ⟨hv, hlim, hai, hline, fun e => hne e (fun e' => by cases e')⟩)
  cases lb with
  | none => exact tail false (fun e => by cases e)
  | some l =>
    simp only [Option.map_some]
    refine P2.bind (P := fun (x y : Node) sA' sB' => y.kind = x.kind ∧ x = sA.nodes.getD l.node default ∧
        sA' = sA ∧ sB' = sB) ?_
      (fun n n' sA2 sB2 ⟨e0, en, e1, e2⟩ => ?_)
    · unfold getNode
      refine P2.ok ⟨?_, rfl, rfl, rfl⟩
      show (sB.nodes.getD (F.ι l.node) default).kind = _
      rw [h.n.node l.node]; rfl
    rw [e0, e1, e2]
    refine tail (n.kind == Kind.paragraph) ?_
    intro hc x hx
    have hxl : l = x := Option.some.inj hx
    rw [← hxl]
    refine hli l hlb.symm ?_
    rw [← en]
    exact eq_of_beq hc

end G

/-- `NL b` is what `Continue` asks for; `TrigAt` says that a trigger-safe cursor selects covered parsers -/
theorem PSim.toO (hP : PSim F b Cov) (hNL : NL b) (hT : TrigAt b Cov) : G.SimO F b (side b Cov) where
  toSim := hP.toG
  coLim := fun x hb _ sA sB h hl _ =>
    (hP.co x.bp hb x.node sA sB h hl.1 hNL).mono fun _ _ _ _ ⟨h1, h2⟩ => ⟨h1, h2.limbo (.inr (hl.1.last_of_nl hNL))⟩
  jQ := fun _ h => .inr h.1
  free := hT.1
  trig := fun _ _ c l lo ch hl hc hp hv hidx => hT.2 c l lo ch hc.inRange (hl.2.tsafe hc hp) hv hidx

theorem openBlocks_p2 (hP : PSim F b Cov) (hF : F.OK) (hNL : NL b) (hT : TrigAt b Cov) : G.OpenG F b (side b Cov) :=
  fun parent blank sA sB h hc hl hpp hli =>
    G.openBlocks_p2 hP.ok (hP.toO hNL hT) hF (.inr (hl.1.last_of_nl hNL)) parent blank sA sB h hc hl hpp hli

end GM.Blocks.Xs


namespace GM.Blocks.Xs
open GM GM.Text GM.Spec GM.Proof.Reader GM.Blocks
open GM.Blocks.Sh (llOpen llFall llBody ll_lineLoop_cons blockAt_mem)

variable {F : Frame} {b : Bytes} {Cov : BP → Prop}

theorem ll_slotAfter_map (F : Frame) (old new : List Block) (k : Nat) :
    slotAfter (old.map (shB F)) (new.map (shB F)) k = (slotAfter old new k).map (shB F) := by
  unfold slotAfter
  rw [List.getElem?_map, List.getElem?_map]
  cases new[k]? <;> rfl

theorem ll_map_node (F : Frame) (o : Option Block) :
    (o.map (shB F)).map (fun x => x.node) = (o.map (fun x => x.node)).map F.ι := by
  cases o <;> rfl

theorem ll_advanceLine_line (s s' : St) (a : Unit) (e : advanceLine s = .ok (a, s')) :
    s.r.line ≤ s'.r.line ∧ s'.pc = s.pc :=
  Sh.ll_advanceLine_line s s' a e

namespace G

variable {W : Side}

/-- what `OpenG` asks of the last open block -/
def LastOK (W : Side) (s : St) : Prop :=
  ∀ x, s.pc.opened.getLast? = some x → (s.nodes.getD x.node default).kind = .paragraph → W.CoOK x

/-- what the per-line loop needs of `Continue` of the block `be` with the blocks `rest` behind it on the stack; `M r s` is
    what is known of run A in the middle of a pass when the blocks `r` are still to be asked. Afterwards the full relation
    (and `M rest` again when the answer is "Continue"), or "Continue, no children" on the LAST block -/
def CoAt (F : Frame) (b : Bytes) (W : Side) (M : List Block → St → Prop) (be : Block) (rest : List Block) : Prop :=
  ∀ sA sB, SR F b sA sB → M (be :: rest) sA → HasLine b sA → W.I sA →
    P2 (fun x y sA' sB' => y = x ∧ SRLim F b sA' sB' ∧ (W.I sA' ∧ W.R sA sA') ∧
        ((x.cont = true ∧ x.hasChildren = false ∧ rest = []) ∨
          (SR F b sA' sB' ∧ W.J sA' ∧ LastOK W sA' ∧ (x.cont = true → M rest sA'))))
      (bpContinue be.bp be.node sA) (bpContinue be.bp (F.ι be.node) sB)

/-- the working postcondition: `line0` a lower bound of run A's line counter, `n` a lower bound of the number of
    statistics entries when the pass ends with `next` -/
def LQ (F : Frame) (b : Bytes) (W : Side) (line0 : Int) (n : Nat)
    (x y : LineOutcome × List LineStat) (sA' sB' : St) : Prop :=
  y.1 = x.1 ∧ StatsRel F x.2 y.2 ∧ SRLim F b sA' sB' ∧ W.I sA' ∧ line0 ≤ sA'.r.line ∧
    (x.1 = LineOutcome.next → n ≤ x.2.length)

theorem LQ.mono {line0 : Int} {n n' : Nat} (hn : n' ≤ n) {x y : LineOutcome × List LineStat} {sA' sB' : St}
    (h : LQ F b W line0 n x y sA' sB') : LQ F b W line0 n' x y sA' sB' :=
  ⟨h.1, h.2.1, h.2.2.1, h.2.2.2.1, h.2.2.2.2.1, fun e => Nat.le_trans hn (h.2.2.2.2.2 e)⟩

theorem ll_open_p2 (hW : W.OK b) (hP : Sim F b W) (hO : OpenG F b W) (openedBlocks : List Block) (lastIndex i : Int)
    (blank : Bool) (bla blb : List LineStat) (thisParent : Nat) (line0 : Int) {sA sB : St}
    (h : SR F b sA sB) (hai : W.I sA) (hline : W.J sA) (hlo : LastOK W sA) (hpp : W.P thisParent sA)
    (hst : StatsRel F bla blb) (hl0 : line0 ≤ sA.r.line) :
    P2 (LQ F b W line0 bla.length) (llOpen openedBlocks lastIndex i blank bla thisParent sA)
      (llOpen (openedBlocks.map (shB F)) lastIndex i blank blb (F.ι thisParent) sB) := by
  unfold llOpen
  refine P2.bind (P := fun x y sA' sB' => y = shB F x ∧ sA = sA' ∧ sB = sB')
    (P2.liftE (fun x y e1 e2 => ?_)) (fun ln ln' sA1 sB1 ⟨hy, e1, e2⟩ => ?_)
  · rw [blockAt_map, e1] at e2; cases e2; exact ⟨rfl, rfl, rfl⟩
  subst hy e1 e2
  refine P2.bind (hO thisParent blank sA sB h.w hai hline hpp hlo)
    (fun res res' sA2 sB2 ⟨hres, hlim, ⟨hai2, _⟩, hline2, _⟩ => ?_)
  subst hres
  by_cases hr : (res' != OpenResult.paragraphContinuation) = true
  · rw [if_pos hr, if_pos hr]
    refine P2.bind (getPc_l hlim.1) (fun x y sA3 sB3 ⟨hx, hy, hxy, e1, e2⟩ => ?_)
    subst e1 e2
    have ho : y.opened = x.opened.map (shB F) := hxy.opened
    rw [ho, ll_slotAfter_map, ll_map_node, show (shB F ln).node = F.ι ln.node from rfl, map_ι_ne]
    refine P2.bind (closeBlocks_l2 hW hP _ _ hai2 hlim.1) (fun _ _ sA4 sB4 ⟨h4, hai4, _⟩ => ?_)
    refine P2.pure ⟨rfl, hst, SRLim.of_l hlim h4, hai4, ?_, fun _ => Nat.le_refl _⟩
    rw [h4.ra]; exact Int.le_trans hl0 hline2
  · rw [if_neg hr, if_neg hr]
    exact P2.pure ⟨rfl, hst, hlim, hai2, Int.le_trans hl0 hline2, fun _ => Nat.le_refl _⟩

theorem ll_fall_p2 (hW : W.OK b) (hP : Sim F b W) (hO : OpenG F b W) (parent : Nat) (openedBlocks : List Block)
    (lastIndex i lnA lnB : Int) (bla blb : List LineStat) (line0 : Int) {sA sB : St}
    (h : SR F b sA sB) (hai : W.I sA) (hline : W.J sA) (hlo : LastOK W sA) (hpp : W.P parent sA)
    (hob : ∀ x ∈ openedBlocks, W.P x.node sA) (hst : StatsRel F bla blb) (hl0 : line0 ≤ sA.r.line)
    (hbl : isBlankLine (lnB - 1) i blb = isBlankLine (lnA - 1) i bla) :
    P2 (LQ F b W line0 bla.length) (llFall parent openedBlocks lastIndex i lnA bla sA)
      (llFall (F.ι parent) (openedBlocks.map (shB F)) lastIndex i lnB blb sB) := by
  unfold llFall
  rw [hbl]
  by_cases hi : (i != 0) = true
  · rw [if_pos hi, if_pos hi]
    refine P2.bind (P := fun x y sA' sB' => y = shB F x ∧ sA = sA' ∧ sB = sB' ∧ x ∈ openedBlocks)
      (P2.liftE (fun x y e1 e2 => ?_)) (fun x y sA1 sB1 ⟨hy, e1, e2, hmem⟩ => ?_)
    · have hmem := blockAt_mem e1
      rw [blockAt_map, e1] at e2; cases e2; exact ⟨rfl, rfl, rfl, hmem⟩
    subst hy e1 e2
    exact ll_open_p2 hW hP hO openedBlocks lastIndex i _ bla blb x.node line0 h hai hline hlo (hob x hmem) hst hl0
  · rw [if_neg hi, if_neg hi]
    exact ll_open_p2 hW hP hO openedBlocks lastIndex i _ bla blb parent line0 h hai hline hlo hpp hst hl0

theorem ll_body_p2 (hW : W.OK b) (hP : Sim F b W) (hO : OpenG F b W) (parent : Nat)
    (openedBlocks : List Block) (lastIndex : Int) (M : List Block → St → Prop) (be : Block) (rest : List Block)
    (i lnA lnB : Int) (bla blb : List LineStat) (line0 : Int) {sA sB : St}
    (h : SR F b sA sB) (hai : W.I sA) (hst : StatsRel F bla blb) (hl0 : line0 ≤ sA.r.line)
    (hbl : isBlankLine (lnB - 1) i blb = isBlankLine (lnA - 1) i bla) (hm : M (be :: rest) sA) (hj : W.J sA)
    (hlo : LastOK W sA) (hline : HasLine b sA) (hpp : W.P parent sA) (hob : ∀ x ∈ openedBlocks, W.P x.node sA)
    (hpe : W.P be.node sA) (hco : CoAt F b W M be rest)
    (hrec : ∀ sA' sB', SR F b sA' sB' → W.I sA' → W.R sA sA' → M rest sA' → line0 ≤ sA'.r.line → sA.r.line ≤ sA'.r.line →
      P2 (LQ F b W line0 bla.length) (lineLoop parent openedBlocks lastIndex rest (i + 1) bla sA')
        (lineLoop (F.ι parent) (openedBlocks.map (shB F)) lastIndex (rest.map (shB F)) (i + 1) blb sB')) :
    P2 (LQ F b W line0 bla.length) (llBody parent openedBlocks lastIndex be.bp be.node rest i lnA bla sA)
      (llBody (F.ι parent) (openedBlocks.map (shB F)) lastIndex be.bp (F.ι be.node) (rest.map (shB F)) i lnB blb sB) := by
  unfold llBody
  refine P2.bind (getNode_p2 h be.node) (fun n m sA1 sB1 ⟨_, hm', e1, e2⟩ => ?_)
  subst e1 e2 hm'
  rw [shN_kind]
  by_cases hk : (n.kind != Kind.paragraph) = true
  · rw [if_pos hk, if_pos hk]
    refine P2.bind ((hco sA1 sB1 h hm hline hai).withL
      (R := fun _ sA' => sA1.r.line ≤ sA'.r.line)
      (fun a sA' e => Sh.bpContinue_line _ _ _ _ _ e))
      (fun st st' sA2 sB2 ⟨⟨hst', hlim2, ⟨hi2, hr2⟩, hdis⟩, hl2⟩ => ?_)
    subst hst'
    have hl02 : line0 ≤ sA2.r.line := Int.le_trans hl0 hl2
    by_cases hc : st'.cont = true
    · rw [if_pos hc, if_pos hc]
      by_cases hh : (st'.hasChildren && i == lastIndex) = true
      · rw [if_pos hh, if_pos hh, hbl]
        have hch : st'.hasChildren = true := by
          cases hx : st'.hasChildren with
          | true => rfl
          | false => rw [hx] at hh; simp at hh
        obtain ⟨h2, hj2, hlo2, _⟩ : SR F b sA2 sB2 ∧ W.J sA2 ∧ LastOK W sA2 ∧
            (st'.cont = true → M rest sA2) := by
          rcases hdis with ⟨_, hf, _⟩ | h2
          · rw [hch] at hf; cases hf
          · exact h2
        refine P2.bind (hO be.node _ sA2 sB2 h2.w hi2 hj2 (hW.pR _ hr2 hpe) hlo2)
          (fun res res' sA3 sB3 ⟨hres, hlim, ⟨hai3, _⟩, hline3, _⟩ => ?_)
        exact P2.pure ⟨rfl, hst, hlim, hai3, Int.le_trans hl02 hline3, fun _ => Nat.le_refl _⟩
      · rw [if_neg hh, if_neg hh]
        rcases hdis with ⟨_, hnc, hnil⟩ | ⟨h2, hj2, _, hm2⟩
        · -- "Continue, no children" on the last block: the loop ends, the limbo relation is enough
          subst hnil
          simp only [List.map_nil]
          unfold lineLoop
          exact P2.pure ⟨rfl, hst, hlim2, hi2, hl02, fun _ => Nat.le_refl _⟩
        · exact hrec sA2 sB2 h2 hi2 hr2 (hm2 hc) hl02 hl2
    · rw [if_neg hc, if_neg hc]
      obtain ⟨h2, hj2, hlo2, _⟩ : SR F b sA2 sB2 ∧ W.J sA2 ∧ LastOK W sA2 ∧
          (st'.cont = true → M rest sA2) := by
        rcases hdis with ⟨hf, _⟩ | h2
        · exact absurd hf hc
        · exact h2
      exact ll_fall_p2 hW hP hO parent openedBlocks lastIndex i lnA lnB bla blb line0 h2 hi2 hj2 hlo2 (hW.pR _ hr2 hpp)
        (fun x hx => hW.pR _ hr2 (hob x hx)) hst hl02 hbl
  · rw [if_neg hk, if_neg hk]
    exact ll_fall_p2 hW hP hO parent openedBlocks lastIndex i lnA lnB bla blb line0 h hai hj hlo hpp hob hst hl0 hbl

theorem peekLine_same {s s' : St} {c : RCur} {a : Option Bytes × Segment} (h : RI b s.r c)
    (e : peekLine s = .ok (a, s')) : ∃ r', s' = { s with r := r' } ∧ RI b r' c := by
  rcases peekLine_okl h with ⟨a', s'', e', _, hr⟩ | e'
  · rw [e] at e'; cases e'; exact hr
  · rw [e] at e'; cases e'

theorem ll_lineLoop_p2 (hW : W.OK b) (hP : Sim F b W) (hq : QNL F b) (hjQ : ∀ s, W.J s → F.q = [] ∨ HasLine b s)
    (hO : OpenG F b W) (parent : Nat) (openedBlocks : List Block) (lastIndex : Int)
    (M : List Block → St → Prop) (hM : ∀ r s, M r s → W.J s ∧ LastOK W s)
    (hMp : ∀ be r s, M (be :: r) s → W.I s → W.P be.node s)
    (hMr : ∀ r s c r', M r s → RI b s.r c → RI b r' c → M r { s with r := r' })
    (hS : ∀ be rest, CoAt F b W M be rest) :
    ∀ (rest : List Block) (i : Int) (sa sb : List LineStat) (sA sB : St) (line0 : Int),
      M rest sA → SR F b sA sB → W.I sA → W.P parent sA → (∀ x ∈ openedBlocks, W.P x.node sA) → StatsRel F sa sb →
      line0 ≤ sA.r.line → 1 ≤ sA.r.line → i ≤ (sa.length : Int) →
      P2 (LQ F b W line0 (sa.length + min 1 rest.length))
        (lineLoop parent openedBlocks lastIndex rest i sa sA)
        (lineLoop (F.ι parent) (openedBlocks.map (shB F)) lastIndex (rest.map (shB F)) i sb sB) := by
  intro rest
  induction rest with
  | nil =>
    intro i sa sb sA sB line0 _ h hai _ _ hst hl0 _ _
    simp only [List.map_nil]
    unfold lineLoop
    exact P2.pure ⟨rfl, hst, h.limbo hq, hai, hl0, fun _ => by simp⟩
  | cons be rest ih =>
    intro i sa sb sA sB line0 hm h hai hpp hob hst hl0 h1 hi
    obtain ⟨hj, _⟩ := hM _ _ hm
    obtain ⟨c0, hri0⟩ := h.ri
    simp only [List.map_cons]
    rw [ll_lineLoop_cons, ll_lineLoop_cons]
    have hQ := hjQ sA hj
    refine P2.bind ((peekLine_core h.rd hQ).withL
      (R := fun _ sA' => (sA.r.line ≤ sA'.r.line ∧ sA'.r.pos = sA.r.pos) ∧ ∃ r', sA' = { sA with r := r' } ∧ RI b r' c0)
      (fun a sA' e => ⟨⟨Sh.peekLine_lg (k := sA.r.line) sA a sA' (Int.le_refl _) e, peekLine_pos _ _ _ e⟩,
        peekLine_same hri0 e⟩))
      (fun x y sA1 sB1 ⟨⟨⟨c, hc, hx⟩, hy, hstep⟩, ⟨hl1, hpos1⟩, r1, er1, hri1⟩ => ?_)
    have hs1 : SR F b sA1 sB1 := hstep.sr h
    obtain ⟨hai1, hr1⟩ : W.I sA1 ∧ W.R sA sA1 := by rw [er1]; exact hW.reader hai r1
    have hm1 : M (be :: rest) sA1 := by rw [er1]; exact hMr _ _ _ _ hm hri0 hri1
    obtain ⟨hj1, hlo1⟩ := hM _ _ hm1
    have hpp1 := hW.pR _ hr1 hpp
    have hob1 : ∀ x ∈ openedBlocks, W.P x.node sA1 := fun x hx => hW.pR _ hr1 (hob x hx)
    subst hx hy
    simp only
    cases hv : RCur.view b c with
    | none =>
      -- run A has no line left; then neither has run B: its source ends here
      simp only
      have hnp : ¬ c.p < b.length := fun hp => by rw [view_eq b c hp] at hv; cases hv
      have hq0 : F.q = [] := by
        rcases hQ with h0 | ⟨c0, hc0, hp0⟩
        · exact h0
        · exact absurd (by have := (ri_pos_eq hc0 hc hpos1).1; omega) hnp
      refine P2.bind (closeBlocks_l2 hW hP lastIndex 0 hai1 hs1.l) (fun _ _ sA2 sB2 ⟨h2, hai2, _⟩ => ?_)
      have hs2 : SR F b sA2 sB2 := SRL.sr hs1 h2
      refine P2.bind ((advanceLine_core hs2.rd (.inl hq0)).withL
        (R := fun _ sA' => sA2.r.line ≤ sA'.r.line ∧ sA'.pc = sA2.pc)
        (fun a sA' e => ll_advanceLine_line _ _ a e)) (fun _ _ sA3 sB3 ⟨hstep3, hl3, hpc3⟩ => ?_)
      have hs3 : SR F b sA3 sB3 := hstep3.sr hs2
      have hai3 : W.I sA3 := by
        obtain ⟨rA, _, _, e1, _⟩ := hstep3
        rw [e1]; exact (hW.reader hai2 rA).1
      refine P2.pure ⟨rfl, hst, hs3.limbo hq, hai3, ?_, fun e => by cases e⟩
      have := h2.ra
      rw [this] at hl3
      omega
    | some l =>
      simp only
      have hp : c.p < b.length := by
        apply Classical.byContradiction
        intro hn
        rw [view_none b c hn] at hv
        cases hv
      have hline : HasLine b sA1 := ⟨c, hc, hp⟩
      refine P2.bind (position_p2 hs1) (fun p q sA2 sB2 ⟨hp', hq', e1, e2⟩ => ?_)
      subst e1 e2 hq' hp'
      have hst' : StatsRel F (sa ++ [{ lineNum := sA2.r.line, level := i, isBlank := isBlank l }])
          (sb ++ [{ lineNum := sA2.r.line + F.dl, level := i, isBlank := isBlank l }]) :=
        hst.append { lineNum := sA2.r.line, level := i, isBlank := isBlank l }
      have hbl : isBlankLine (sA2.r.line + F.dl - 1) i
            (sb ++ [{ lineNum := sA2.r.line + F.dl, level := i, isBlank := isBlank l }]) =
          isBlankLine (sA2.r.line - 1) i (sa ++ [{ lineNum := sA2.r.line, level := i, isBlank := isBlank l }]) := by
        rw [show sA2.r.line + F.dl - 1 = (sA2.r.line - 1) + F.dl by omega]
        exact isBlankLine_shift hst' (sA2.r.line - 1) i (by omega) (by simp; omega)
      refine (ll_body_p2 hW hP hO parent openedBlocks lastIndex M be rest i sA2.r.line
        (sA2.r.line + F.dl) _ _ line0 hs1 hai1 hst' (by omega) hbl hm1 hj1 hlo1 hline hpp1 hob1 (hMp _ _ _ hm1 hai1)
        (hS be rest)
        (fun sA' sB' h' hai' hr' hm' hl0' hl' => ?_)).mono (fun x y sA' sB' hq => LQ.mono (by simp) hq)
      exact (ih (i + 1) _ _ sA' sB' line0 hm' h' hai' (hW.pR _ hr' hpp1) (fun x hx => hW.pR _ hr' (hob1 x hx)) hst' hl0'
        (by omega) (by simp; omega)).mono
        (fun x y sA' sB' hq => LQ.mono (by omega) hq)

/-- what one pass of the `for i` loop over the opened blocks establishes -/
def LineQ (F : Frame) (b : Bytes) (W : Side) (sA : St) (rest : List Block)
    (x y : LineOutcome × List LineStat) (sA' sB' : St) : Prop :=
  y.1 = x.1 ∧ StatsRel F x.2 y.2 ∧ SRLim F b sA' sB' ∧ W.I sA' ∧ sA.r.line ≤ sA'.r.line ∧
    (x.1 = LineOutcome.next → rest ≠ [] → x.2 ≠ [])

theorem lineLoop_p2 (hW : W.OK b) (hP : Sim F b W) (hq : QNL F b) (hjQ : ∀ s, W.J s → F.q = [] ∨ HasLine b s)
    (hO : OpenG F b W) (parent : Nat) (openedBlocks : List Block) (lastIndex : Int)
    (M : List Block → St → Prop) (hM : ∀ r s, M r s → W.J s ∧ LastOK W s)
    (hMp : ∀ be r s, M (be :: r) s → W.I s → W.P be.node s)
    (hMr : ∀ r s c r', M r s → RI b s.r c → RI b r' c → M r { s with r := r' })
    (hS : ∀ be rest, CoAt F b W M be rest) :
    ∀ (rest : List Block) (i : Int) (sa sb : List LineStat) (sA sB : St),
      M rest sA → SR F b sA sB → W.I sA → W.P parent sA → (∀ x ∈ openedBlocks, W.P x.node sA) → StatsRel F sa sb →
      1 ≤ sA.r.line → i ≤ (sa.length : Int) →
      P2 (LineQ F b W sA rest)
        (lineLoop parent openedBlocks lastIndex rest i sa sA)
        (lineLoop (F.ι parent) (openedBlocks.map (shB F)) lastIndex (rest.map (shB F)) i sb sB) := by
  intro rest i sa sb sA sB hrest h hai hpp hob hst h1 hi
  refine (ll_lineLoop_p2 hW hP hq hjQ hO parent openedBlocks lastIndex M hM hMp hMr hS rest i sa sb sA sB sA.r.line hrest h
    hai hpp hob hst (Int.le_refl _) h1 hi).mono
    (fun x y sA' sB' ⟨q1, q2, q3, q4, q5, q6⟩ => ⟨q1, q2, q3, q4, q5, fun e hne => ?_⟩)
  have hlen := q6 e
  have : 0 < rest.length := List.length_pos_iff.mpr hne
  intro hx
  have h0 : x.2.length = 0 := by rw [hx]; rfl
  omega

end G

/-- one pass of the per-line loop: `Continue` of a covered parser keeps the context keys and leaves run A's cursor
    trigger-safe on its line (`strictC`, `hcl`); a block whose `Continue` answers "Continue, no children" is a leaf, hence
    the last open block (`hleaf`, `hcont`) -/
theorem lineLoop_p2 (hP : PSim F b Cov) (_hF : F.OK) (hq : QNL F b) (hNL : NL b) (hO : G.OpenG F b (side b Cov))
    (hcl : ∀ bp, Cov bp → ∀ node s s' st, HL b s → bpContinue bp node s = .ok (st, s') → st.cont = false →
      HL b s')
    (parent : Nat) (openedBlocks : List Block) (lastIndex : Int) (hob : ∀ x ∈ openedBlocks, Cov x.bp)
    (hleaf : ∀ pre be rest, openedBlocks = pre ++ be :: rest → rest ≠ [] → be.bp.isContainer = true)
    (hcont : ∀ bp, Cov bp → bp.isContainer = true → ∀ node s s' (st : PState),
      bpContinue bp node s = .ok (st, s') → st.cont = true → st.hasChildren = true) :
    ∀ (rest : List Block) (i : Int) (sa sb : List LineStat) (sA sB : St),
      (∃ pre, openedBlocks = pre ++ rest) → SR F b sA sB → AI Cov sA → HL b sA → StatsRel F sa sb →
      1 ≤ sA.r.line → i ≤ (sa.length : Int) →
      P2 (G.LineQ F b (side b Cov) sA rest)
        (lineLoop parent openedBlocks lastIndex rest i sa sA)
        (lineLoop (F.ι parent) (openedBlocks.map (shB F)) lastIndex (rest.map (shB F)) i sb sB) := by
  intro rest i sa sb sA sB hrest h hai hl hst h1 hi
  refine G.lineLoop_p2 hP.ok hP.toG hq (fun _ h => .inr h.1) hO parent openedBlocks lastIndex
    (fun r s => (∃ pre, openedBlocks = pre ++ r) ∧ HL b s) (fun _ _ hm => ⟨hm.2, fun _ _ _ => trivial⟩)
    (fun _ _ _ _ _ => trivial) (fun _ s c r' hm hc hc' => ⟨hm.1, hl_of_pos (sA := s) hm.2 ⟨c, hc'⟩ ?_⟩)
    (fun be rest sA sB h ⟨⟨pre, hpre⟩, hj⟩ hl hk => ?_) rest i sa sb sA sB ⟨hrest, hl⟩ h hai trivial (fun _ _ => trivial) hst h1 hi
  · show r'.pos = s.r.pos
    rw [hc.pos, hc'.pos]
  have hmem : be ∈ openedBlocks := by rw [hpre]; simp
  have hcov := hob be hmem
  refine ((hP.co be.bp hcov be.node sA sB h hl hNL).withL (R := fun a sA' => bpContinue be.bp be.node sA = .ok (a, sA'))
    (fun _ _ e => e)).mono (fun x _ sA' _ ⟨⟨e1, e2⟩, heq⟩ =>
      ⟨e1, e2.limbo hq, hP.ok.cont be hcov _ x _ hk heq, ?_⟩)
  by_cases hc : x.cont = true
  · by_cases hch : x.hasChildren = true
    · have hj' := hP.strictC be.bp hcov _ _ _ _ hj heq hc hch
      exact .inr ⟨e2, hj', fun _ _ _ => trivial, fun _ => ⟨⟨pre ++ [be], by rw [hpre]; simp⟩, hj'⟩⟩
    · refine .inl ⟨hc, by simpa using hch, ?_⟩
      apply Classical.byContradiction
      intro hne
      exact hch (hcont be.bp hcov (hleaf pre be rest hpre hne) be.node _ _ x heq hc)
  · have hj' := hcl be.bp hcov _ _ _ _ hj heq (by simpa using hc)
    exact .inr ⟨e2, hj', fun _ _ _ => trivial, fun hc' => absurd hc' hc⟩

end GM.Blocks.Xs
