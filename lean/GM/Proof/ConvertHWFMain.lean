/-
  GM.Proof.ConvertHWFMain — The two well-formedness hypotheses of GM.Props.C15E2E hold for every byte string: every Heading of the final tree was handed to Close
  (`headingsClosedOK_all`) and none stands twice in the tree (`headingsOnceOK_all`: in a `TreeWF` store the tree below the Document has no node twice).
-/
import GM.Proof.ConvertHWFRun
import GM.Proof.ConvertHE2E
import GM.Proof.ForestLists

section ConvertHWFTree
/-
  In a well-formed store (`TreeWF`) the tree read off below the Document contains every node at
  most once (`ids_nodup_root`): parent pointers are unique, so two occurrences would have the same chain of ancestors (`anc`) up
  to the Document, and child lists are duplicate-free. Hence `headingsOnceB` (`headingsOnce_of_wf`).
-/

namespace GM.ConvertH
open GM GM.Text GM.Blocks

mutual
/-- all node ids of a block tree, in document order -/
def ids : TreeH → List Nat
  | .node i _ cs => i :: idsL cs
def idsL : List TreeH → List Nat
  | [] => []
  | t :: rest => ids t ++ idsL rest
end

mutual
theorem headingIds_sublist : ∀ t : TreeH, List.Sublist (headingIds t) (ids t)
  | .node i n cs => by
    unfold headingIds ids
    split
    · exact List.Sublist.cons₂ _ (headingIdsL_sublist cs)
    · exact List.Sublist.cons _ (headingIdsL_sublist cs)
theorem headingIdsL_sublist : ∀ ts : List TreeH, List.Sublist (headingIdsL ts) (idsL ts)
  | [] => by unfold headingIdsL idsL; exact List.Sublist.slnil
  | t :: rest => by
    unfold headingIdsL idsL
    exact List.Sublist.append (headingIds_sublist t) (headingIdsL_sublist rest)
end

end GM.ConvertH

namespace GM.ConvertF
open GM GM.Text GM.Blocks GM.ConvertH

/-- the `k`-th ancestor -/
def anc (s : St) : Nat → Nat → Option Nat
  | 0, x => some x
  | k + 1, x =>
    match (ndx s x).parent with
    | none => none
    | some p => anc s k p

theorem anc_root {s : St} (w : TreeWF s) : ∀ (k : Nat) (y : Nat), anc s k 0 = some y → k = 0
  | 0, _, _ => rfl
  | k + 1, y, h => by
    unfold anc at h
    rw [w.root] at h
    cases h

theorem anc_depth {s : St} (w : TreeWF s) : ∀ (j k : Nat) (x : Nat), anc s j x = some 0 → anc s k x = some 0 → j = k
  | 0, k, x, h1, h2 => by
    have : x = 0 := by simpa [anc] using h1
    subst this
    exact (anc_root w k 0 h2).symm
  | j + 1, 0, x, h1, h2 => by
    have : x = 0 := by simpa [anc] using h2
    subst this
    exact anc_root w (j + 1) 0 h1
  | j + 1, k + 1, x, h1, h2 => by
    unfold anc at h1 h2
    cases hp : (ndx s x).parent with
    | none => rw [hp] at h1; cases h1
    | some p =>
      rw [hp] at h1 h2
      have := anc_depth w j k p h1 h2
      omega

theorem anc_add {s : St} : ∀ (e d : Nat) (l x y : Nat), anc s e l = some x → anc s d x = some y → anc s (e + d) l = some y
  | 0, d, l, x, y, h1, h2 => by
    have : l = x := by simpa [anc] using h1
    subst this
    rw [Nat.zero_add]; exact h2
  | e + 1, d, l, x, y, h1, h2 => by
    have he : e + 1 + d = (e + d) + 1 := by omega
    rw [he]
    unfold anc at h1 ⊢
    cases hp : (ndx s l).parent with
    | none => rw [hp] at h1; cases h1
    | some p =>
      rw [hp] at h1
      exact anc_add e d p x y h1 h2

theorem anc_one {s : St} (w : TreeWF s) {x c : Nat} (hc : c ∈ (ndx s x).children) : anc s 1 c = some x := by
  simp [anc, (w.edge x c hc).2]

theorem anc_child {s : St} (w : TreeWF s) {x c : Nat} (hc : c ∈ (ndx s x).children) (d : Nat) (y : Nat) (h : anc s d x = some y) :
    anc s (d + 1) c = some y := by
  have := anc_add 1 d c x y (anc_one w hc) h
  rw [Nat.add_comm]; exact this

theorem anc_succ {s : St} {c x : Nat} (hp : (ndx s c).parent = some x) (e : Nat) : anc s (e + 1) c = anc s e x := by
  conv => lhs; unfold anc
  rw [hp]


/-! ### a node's depth is below the size of the store -/

/-- the nodes on the chain from `x` up to node 0 -/
def chainOf (s : St) : Nat → Nat → List Nat
  | 0, x => [x]
  | d + 1, x =>
    match (ndx s x).parent with
    | none => [x]
    | some p => x :: chainOf s d p

theorem chainOf_length (s : St) : ∀ (d x : Nat), anc s d x = some 0 → (chainOf s d x).length = d + 1
  | 0, _, _ => rfl
  | d + 1, x, h => by
    unfold anc at h
    unfold chainOf
    cases hp : (ndx s x).parent with
    | none => rw [hp] at h; cases h
    | some p => rw [hp] at h; simp [chainOf_length s d p h]

theorem chainOf_mem (s : St) : ∀ (d x y : Nat), anc s d x = some 0 → y ∈ chainOf s d x → ∃ e, e ≤ d ∧ anc s e x = some y ∧
    anc s (d - e) y = some 0
  | 0, x, y, h, hy => by
    simp [chainOf] at hy
    subst hy
    exact ⟨0, Nat.le_refl _, rfl, h⟩
  | d + 1, x, y, h, hy => by
    have h0 := h
    unfold anc at h
    unfold chainOf at hy
    cases hp : (ndx s x).parent with
    | none => rw [hp] at h; cases h
    | some p =>
      rw [hp] at h hy
      rcases List.mem_cons.1 hy with rfl | hy
      · exact ⟨0, Nat.zero_le _, rfl, h0⟩
      · obtain ⟨e, he, h1, h2⟩ := chainOf_mem s d p y h hy
        refine ⟨e + 1, by omega, ?_, by rw [show d + 1 - (e + 1) = d - e by omega]; exact h2⟩
        rw [anc_succ hp]; exact h1

theorem chainOf_valid (s : St) (w : TreeWF s) : ∀ (d x : Nat), x < s.nodes.length → anc s d x = some 0 →
    ∀ y ∈ chainOf s d x, y < s.nodes.length
  | 0, x, hx, _, y, hy => by simp [chainOf] at hy; subst hy; exact hx
  | d + 1, x, hx, h, y, hy => by
    unfold anc at h
    unfold chainOf at hy
    cases hp : (ndx s x).parent with
    | none => rw [hp] at h; cases h
    | some p =>
      rw [hp] at h hy
      rcases List.mem_cons.1 hy with rfl | hy
      · exact hx
      · have hpv : p < s.nodes.length := by
          cases hlt : decide (p < s.nodes.length) with
          | true => simpa using hlt
          | false =>
            exfalso
            have hge : s.nodes.length ≤ p := by simpa using hlt
            cases d with
            | zero =>
              have : p = 0 := by simpa [anc] using h
              have := w.ne
              omega
            | succ d =>
              simp only at h
              unfold anc at h
              rw [ndx_ge s hge] at h
              cases h
        exact chainOf_valid s w d p hpv h y hy

theorem chainOf_nodup (s : St) (w : TreeWF s) : ∀ (d x : Nat), anc s d x = some 0 → (chainOf s d x).Nodup
  | 0, x, _ => by simp [chainOf]
  | d + 1, x, h => by
    have h0 := h
    unfold anc at h
    unfold chainOf
    cases hp : (ndx s x).parent with
    | none => rw [hp] at h; cases h
    | some p =>
      rw [hp] at h
      simp only
      refine List.nodup_cons.2 ⟨fun hin => ?_, chainOf_nodup s w d p h⟩
      obtain ⟨e, he, _, h2⟩ := chainOf_mem s d p x h hin
      have := anc_depth w _ _ x h2 h0
      omega

/-- pigeonhole on the chain of ancestors -/
theorem anc_depth_lt {s : St} (w : TreeWF s) {d x : Nat} (hd : anc s d x = some 0) : d < s.nodes.length := by
  cases d with
  | zero => exact w.ne
  | succ d =>
    have hx : x < s.nodes.length := by
      rcases Nat.lt_or_ge x s.nodes.length with h | h
      · exact h
      · unfold anc at hd; rw [ndx_ge s h] at hd; cases hd
    have hlen := GM.Proof.ForestLists.length_le_of_nodup_lt (chainOf_nodup s w _ x hd) (chainOf_valid s w _ x hx hd)
    rw [chainOf_length s _ x hd] at hlen
    omega

end GM.ConvertF

namespace GM.ConvertH
open GM GM.Text GM.Blocks GM.ConvertF

theorem idsL_map_mem (nodes : List Blocks.Node) (fuel : Nat) : ∀ (l : List Nat) (x : Nat),
    x ∈ idsL (l.map (treeOfH nodes fuel)) → ∃ c ∈ l, x ∈ ids (treeOfH nodes fuel c)
  | [], x, h => by simp [idsL] at h
  | c :: rest, x, h => by
    simp only [List.map, idsL] at h
    rcases List.mem_append.1 h with h | h
    · exact ⟨c, List.mem_cons_self .., h⟩
    · obtain ⟨c', hc', hx⟩ := idsL_map_mem nodes fuel rest x h
      exact ⟨c', List.mem_cons_of_mem _ hc', hx⟩

section
variable (s : St) (w : TreeWF s)
include w

theorem ids_anc : ∀ (fuel i x : Nat), x ∈ ids (treeOfH s.nodes fuel i) → ∃ k, anc s k x = some i
  | 0, i, x, h => by
    simp only [treeOfH, ids, idsL, List.mem_singleton] at h
    exact ⟨0, by rw [h]; rfl⟩
  | fuel + 1, i, x, h => by
    simp only [treeOfH, ids] at h
    rcases List.mem_cons.1 h with rfl | h
    · exact ⟨0, rfl⟩
    · obtain ⟨c, hc, hx⟩ := idsL_map_mem s.nodes fuel _ x h
      obtain ⟨k, hk⟩ := ids_anc fuel c x hx
      exact ⟨k + 1, anc_add k 1 x c i hk (anc_one w hc)⟩

/-- below a node `i` at depth `d` no id occurs twice: an id `k` steps below a child of `i` has depth `k + (d + 1)`, and a
    node has one depth only (`anc_depth`), so it is not `i` and it lies below one child only -/
theorem ids_nodup : ∀ (fuel i d : Nat), anc s d i = some 0 → (ids (treeOfH s.nodes fuel i)).Nodup
  | 0, i, _, _ => by simp [treeOfH, ids, idsL]
  | fuel + 1, i, d, hd => by
    have depth : ∀ c ∈ (ndx s i).children, ∀ x k, anc s k x = some c → anc s (k + (d + 1)) x = some 0 :=
      fun c hc x k hk => anc_add k (d + 1) x c 0 hk (anc_child w hc d 0 hd)
    simp only [treeOfH, ids]
    rw [List.nodup_cons]
    constructor
    · intro hi
      obtain ⟨c, hc, hx⟩ := idsL_map_mem s.nodes fuel _ i hi
      obtain ⟨k, hk⟩ := ids_anc s w fuel c i hx
      have := anc_depth w _ _ i (depth c hc i k hk) hd
      omega
    · have key : ∀ (l : List Nat), l.Nodup → (∀ c ∈ l, c ∈ (ndx s i).children) →
          (idsL (l.map (treeOfH s.nodes fuel))).Nodup := by
        intro l
        induction l with
        | nil => intro _ _; simp [idsL]
        | cons c rest ih =>
          intro hl hsub
          rw [List.nodup_cons] at hl
          simp only [List.map, idsL]
          rw [List.nodup_append]
          have hc := hsub c (List.mem_cons_self ..)
          refine ⟨ids_nodup fuel c (d + 1) (anc_child w hc d 0 hd),
            ih hl.2 (fun c' hc' => hsub c' (List.mem_cons_of_mem _ hc')), ?_⟩
          intro a ha b hb hab
          subst hab
          obtain ⟨c2, hc2, hx2⟩ := idsL_map_mem s.nodes fuel rest a hb
          obtain ⟨k1, u1⟩ := ids_anc s w fuel c a ha
          obtain ⟨k2, u2⟩ := ids_anc s w fuel c2 a hx2
          have := anc_depth w _ _ a (depth c hc a k1 u1) (depth c2 (hsub c2 (List.mem_cons_of_mem _ hc2)) a k2 u2)
          obtain rfl : k1 = k2 := by omega
          rw [u1] at u2
          cases u2
          exact hl.1 hc2
      exact key _ (w.nodup i) (fun _ h => h)

theorem ids_nodup_root (fuel : Nat) : (ids (treeOfH s.nodes fuel 0)).Nodup := ids_nodup s w fuel 0 0 rfl

theorem headingsOnce_of_wf : headingsOnceB (finalTree s) = true := by
  unfold headingsOnceB finalTree
  simp only [decide_eq_true_eq]
  exact List.Nodup.sublist (headingIds_sublist _) (ids_nodup_root s w _)

end

end GM.ConvertH
end ConvertHWFTree

section ConvertHWFMain
/-
  The two well-formedness hypotheses of GM.Props.C15E2E hold for EVERY byte string:
  `headingsClosedOK_all` (every Heading of the final tree was handed to Close) and `headingsOnceOK_all` (no Heading twice in
  the tree), from the close discipline (`runH_J`, `runH_opened_empty`) and the tree lemma (`headingsOnce_of_wf`).
-/

namespace GM.ConvertH
open GM GM.Text GM.Blocks GM.Convert

theorem headingsClosedOK_all (guard : Bool) (src : Bytes) : headingsClosedOK guard src = true := by
  unfold headingsClosedOK blockPhaseH
  cases h : runH true (paragraphTransformers guard) src with
  | error e => rfl
  | ok r =>
    obtain ⟨hs, st⟩ := r
    exact headingsClosed_of_J hs st (runH_J _ (paragraphTransformers_stp guard) src hs st h)
      (runH_opened_empty _ (paragraphTransformers_stp guard) src hs st h)

theorem headingsOnceOK_all (guard : Bool) (src : Bytes) : headingsOnceOK guard src = true := by
  unfold headingsOnceOK blockPhaseH
  cases h : runH true (paragraphTransformers guard) src with
  | error e => rfl
  | ok r =>
    obtain ⟨hs, st⟩ := r
    exact headingsOnce_of_wf st (runH_J _ (paragraphTransformers_stp guard) src hs st h).wf

/-- the block phase of `convertCore` itself ends with an empty open-block stack and a well-formed tree (by projection:
    the option does not change the block phase) — whenever the block phase WITH the option returns -/
theorem blockPhase_closed_of_H (guard : Bool) (src : Bytes) (hs : HS) (st : St)
    (h : blockPhaseH true guard src = .ok (hs, st)) :
    blockPhase guard src = .ok st ∧ st.pc.opened = [] ∧ TreeWF st := by
  unfold blockPhaseH at h
  have hr := runH_on (paragraphTransformers guard) src
  rw [h] at hr
  exact ⟨hr.2, runH_opened_empty _ (paragraphTransformers_stp guard) src hs st h,
    (runH_J _ (paragraphTransformers_stp guard) src hs st h).wf⟩

mutual
theorem rHeadings_sublist : ∀ t : GM.Node, List.Sublist ((rHeadings t).map (·.2)) (headingAttrs t)
  | .mk k a cs => by
    unfold rHeadings headingAttrs
    rw [List.map_append]
    apply List.Sublist.append
    · unfold headingOf
      split <;> simp [isHeadingKind]
    · split
      · simp
      · exact rHeadingsL_sublist cs
theorem rHeadingsL_sublist : ∀ ts : List GM.Node, List.Sublist ((rHeadingsL ts).map (·.2)) (headingAttrsL ts)
  | [] => by unfold rHeadingsL headingAttrsL; simp
  | t :: rest => by
    unfold rHeadingsL headingAttrsL
    rw [List.map_append]
    exact List.Sublist.append (rHeadings_sublist t) (rHeadingsL_sublist rest)
end

theorem idAttr_inj {a b : Bytes} (h : idAttr a = idAttr b) : a = b := by
  simpa [idAttr] using h

theorem nodup_map_idAttr (ids : List Bytes) (h : ids.Nodup) : (ids.map idAttr).Nodup := by
  unfold List.Nodup at h ⊢
  rw [List.pairwise_map]
  exact h.imp (fun hne e => hne (idAttr_inj e))

end GM.ConvertH
end ConvertHWFMain
