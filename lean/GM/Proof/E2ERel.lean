/-
  GM.Proof.E2ERel — the block phase WITH the link-reference transformer against the block phase WITHOUT transformers, on a
  source without `[`: the same outcome, or the run with the transformer ends in an error (`runT_rel`).

  The monotonicity argument of GM.Proof.ConvertXRel ("a transformer that is silent on EVERY state") does not apply: the
  link-reference transformer changes the tree on a line-less attached Paragraph (GM.Proof.E2EBracket). What is needed at the
  two call sites of `transformParagraph` is supplied by invariants of the run WITHOUT transformers that are carried along:
    * the source is fixed (`XS src`, GM.Proof.E2EXSegs) — the scan finds nothing;
    * every Paragraph has a line (`PNE`, GM.Proof.E2EDriver) — the transformer returns the state unchanged or an error;
    * the open-block stack is consistent (`J2`) — so the block that `RequireParagraph` closes is closed by
      `paragraphParser.Close`, which keeps the paragraph attached when it has a line: `transformed` is false on both sides.
  The walk over the driver is the relational rule of GM.Proof.BlocksDriverKeeps (`DriverOps.parseBlocksC_rel`): the invariant
  is an instance of `DriverOps` (`driverOps_inv`), and what is asked of the two transformer lists at the call sites is
  `driverRel_inv`. `RelKP I P m₁ m₂` (from every `I ∧ P`-state: same outcome or `m₁` errs; `m₂` re-establishes `I`) is
  `GM.Hoare.Tri₂` (`relKP_iff`).
-/
import GM.Proof.E2EDriver
import GM.Proof.E2EXSegs
import GM.Proof.E2EBracket
import GM.Proof.BlocksLeaf
import GM.Proof.BlocksRunEq
import GM.Proof.BlocksDriverKeeps

namespace GM.E2E.Rel
open GM GM.Text GM.Blocks GM.E2E GM.E2E.LI GM.E2E.PJ

/-- at `s`: the same outcome, or the left computation errs -/
def RelS {α : Type} (m1 m2 : M α) (s : St) : Prop := m1 s = m2 s ∨ ∃ e, m1 s = .error e

/-- from every state that satisfies the invariant `I` and the pre-condition `P`: the same outcome or the left computation errs;
    and the right computation re-establishes `I` -/
structure RelKP (I P : St → Prop) {α : Type} (m1 m2 : M α) : Prop where
  rel : ∀ s, I s → P s → RelS m1 m2 s
  keep : ∀ s a s', I s → P s → m2 s = .ok (a, s') → I s'

/-- no pre-condition -/
abbrev RelK (I : St → Prop) {α : Type} (m1 m2 : M α) : Prop := RelKP I (fun _ => True) m1 m2

variable {I : St → Prop}

theorem relKP_iff {α} {P : St → Prop} {m1 m2 : M α} :
    RelKP I P m1 m2 ↔ Hoare.Tri₂ (fun s => I s ∧ P s) m1 m2 (fun _ s => I s) :=
  ⟨fun h s hs => ⟨h.rel s hs.1 hs.2, fun a s' hm => h.keep s a s' hs.1 hs.2 hm⟩,
   fun h => ⟨fun s hs hp => (h s ⟨hs, hp⟩).1, fun s a s' hs hp hm => (h s ⟨hs, hp⟩).2 a s' hm⟩⟩

theorem RelK.keeps {α} {m1 m2 : M α} (h : RelK I m1 m2) : Keeps I m2 := ⟨fun s a s' hs hm => h.keep s a s' hs trivial hm⟩

theorem liftE_eq {α} {e : Except Panic α} {s : St} {a : α} {s' : St} (h : liftE e s = .ok (a, s')) : e = .ok a := by
  unfold liftE at h
  cases e with
  | error x => simp [Except.map] at h
  | ok v => simp only [Except.map, Except.ok.injEq, Prod.mk.injEq] at h; rw [h.1]

/-- the source is fixed (`XS src`), every Paragraph has a line, the open-block stack is consistent, and a stable side fact -/
def INV (src : Bytes) (A : St → Prop) (s : St) : Prop := XS src s ∧ PJ A s

/-- `INV` without its side fact: the invariant of the driver rule -/
def INV0 (src : Bytes) (s : St) : Prop := XS src s ∧ PNE s ∧ J2 s

theorem inv_iff {src : Bytes} (A : St → Prop) (s : St) : INV src A s ↔ INV0 src s ∧ A s :=
  ⟨fun h => ⟨⟨h.1, h.2.1, h.2.2.1⟩, h.2.2.2⟩, fun h => ⟨h.1.1, h.1.2.1, h.1.2.2, h.2⟩⟩

theorem inv_keeps {src : Bytes} {A : St → Prop} {α} {m : M α} (h1 : Keeps (XS src) m) (h2 : Keeps (PJ A) m) :
    Hoare.Inv Hoare.Top (fun s => INV0 src s ∧ A s) m :=
  Hoare.Tri.top_iff.2 fun s a s' hs hm =>
    (inv_iff A s').1 ⟨h1.h s a s' hs.1.1 hm, h2.h s a s' ⟨hs.1.2.1, hs.1.2.2, hs.2⟩ hm⟩

/-- a common first step that establishes a STABLE side fact: the continuations are compared under the larger invariant -/
theorem RelKP.bindQ {src : Bytes} {A : St → Prop} {α β} {P0 : St → Prop} {m : M α} {f1 f2 : α → M β}
    (hk : Keeps (INV src A) m) (Q : α → St → Prop) (hq : ∀ s a s', INV src A s → m s = .ok (a, s') → Q a s')
    (hf : ∀ a, RelK (INV src (fun s => A s ∧ Q a s)) (f1 a) (f2 a)) :
    RelKP (INV src A) P0 (m >>= f1) (m >>= f2) :=
  relKP_iff.2 <| Hoare.Tri₂.bind (R := fun a s => INV src (fun s => A s ∧ Q a s) s ∧ True)
    (Hoare.Tri₂.refl <| Hoare.Tri.top_iff.2 fun s a s' hs hm =>
      have h1 := hk.h s a s' hs.1 hm
      ⟨⟨h1.1, h1.2.1, h1.2.2.1, h1.2.2.2, hq s a s' hs.1 hm⟩, trivial⟩)
    fun a => (relKP_iff.1 (hf a)).conseq (fun _ hs => hs) fun _ _ hs => ⟨hs.1, hs.2.1, hs.2.2.1, hs.2.2.2.1⟩

section call
variable {src : Bytes} (hb : NoBracket src) (guard : Bool)
include hb

theorem tp_silent (node : Nat) (s : St) (hs : s.r.source = src) (hl : (s.nodes.getD node default).lines ≠ [])
    (hp : (s.nodes.getD node default).parent.isSome = true) :
    transformParagraph (GM.Convert.paragraphTransformers guard) node s = .ok (false, s) ∨
      ∃ e, transformParagraph (GM.Convert.paragraphTransformers guard) node s = .error e := by
  have hsil := paragraphTransformer_silent guard node s (by rw [hs]; exact hb) hl
  unfold GM.Convert.paragraphTransformers at hsil ⊢
  simp only [List.mem_singleton, forall_eq] at hsil
  unfold transformParagraph
  simp only [bind, StateT.bind, Except.bind]
  rcases hsil with h | ⟨e, h⟩
  · rw [h]
    simp only [getNode, pure, StateT.pure, Except.pure]
    have hn : (s.nodes.getD node default).parent.isNone = false := by
      cases hq : (s.nodes.getD node default).parent with
      | none => rw [hq] at hp; cases hp
      | some p => rfl
    rw [hn]
    simp only [Bool.false_eq_true, ↓reduceIte]
    left
    unfold transformParagraph
    rfl
  · rw [h]; exact .inr ⟨e, rfl⟩

omit hb in
theorem tp_nil (node : Nat) (s : St) : transformParagraph [] node s = .ok (false, s) := by
  unfold transformParagraph; rfl

end call

theorem getD_append_left (l : List Blocks.Node) (n : Blocks.Node) {j : Nat} (hj : j < l.length) :
    (l ++ [n]).getD j default = l.getD j default := by
  rw [getD_append, if_pos hj]

/-- setext_headings.go:55-76: `RequireParagraph` is only answered when the last opened block is a Paragraph child of
    `parent` — and that node is untouched -/
theorem setextOpen_post (parent : Nat) (s s' : St) (a : Option Nat × PState) (h : setextOpen parent s = .ok (a, s'))
    (hr : a.2.requirePara = true) :
    ∃ lb, s.pc.opened.getLast? = some lb ∧ (s'.nodes.getD lb.node default).kind = .paragraph ∧
      (s'.nodes.getD lb.node default).parent = some parent := by
  unfold setextOpen at h
  simp only [lastOpenedBlock, bind, StateT.bind, getPc, pure, StateT.pure, Except.pure, Except.bind] at h
  cases hl : s.pc.opened.getLast? with
  | none => rw [hl] at h; simp only [] at h; cases h; cases hr
  | some lb =>
    rw [hl] at h
    refine ⟨lb, rfl, ?_⟩
    obtain ⟨ln, s0, h1, h2⟩ := bind_ok (m := getNode lb.node) h
    cases h1
    by_cases hc : (((s.nodes.getD lb.node default).kind != Blocks.Kind.paragraph ||
        (s.nodes.getD lb.node default).parent != some parent) = true)
    · rw [if_pos hc] at h2; cases h2; cases hr
    · rw [if_neg hc] at h2
      simp only [Bool.or_eq_true, bne_iff_ne, ne_eq, not_or, Decidable.not_not] at hc
      obtain ⟨hk, hp⟩ := hc
      have hlt : lb.node < s.nodes.length := by
        rcases Nat.lt_or_ge lb.node s.nodes.length with h' | h'
        · exact h'
        · rw [List.getD_eq_getElem?_getD, List.getElem?_eq_none h'] at hk; cases hk
      obtain ⟨x, s1, h3, h4⟩ := bind_ok (m := peekLine) h2
      have hn1 : s1.nodes = s.nodes := by
        unfold peekLine at h3
        cases hq : s.r.peekLine with
        | error e => simp [hq, bind, Except.bind] at h3
        | ok v =>
          simp only [hq, bind, Except.bind, pure, Except.pure, Except.ok.injEq, Prod.mk.injEq] at h3
          rw [← h3.2]
      obtain ⟨y, s2, h5, h6⟩ := bind_ok (m := liftE _) h4
      have hs2 : s2 = s1 := by
        unfold liftE at h5
        cases hm : matchesSetextHeadingBar (x.1.getD []) with
        | error e => rw [hm] at h5; simp [Except.map] at h5
        | ok v => rw [hm] at h5; simp only [Except.map, Except.ok.injEq, Prod.mk.injEq] at h5; exact h5.2.symm
      subst hs2
      by_cases hok : ((!y.2) = true)
      · rw [if_pos hok] at h6; cases h6; cases hr
      · rw [if_neg hok] at h6
        simp only [StateT.bind, newNode, appendLine, modNode, modPc, pure, StateT.pure, Except.pure, Except.bind] at h6
        cases h6
        dsimp only
        rw [getD_set, if_neg (by simp [hn1]; omega), hn1, getD_append_left s.nodes _ hlt]
        exact ⟨hk, hp⟩

/-- paragraph.go:46-64: `Close` of a Paragraph that has a line keeps it attached -/
theorem paragraphClose_parent (node : Nat) (s s1 : St) (h : paragraphClose node s = .ok ((), s1))
    (hl : (s.nodes.getD node default).lines ≠ []) :
    (s1.nodes.getD node default).parent = (s.nodes.getD node default).parent := by
  unfold paragraphClose at h
  obtain ⟨n, s0, h1, h2⟩ := bind_ok (m := getNode node) h
  cases h1
  obtain ⟨src, s0, h1, h2⟩ := bind_ok (m := source) h2
  cases h1
  have hlen : ((s.nodes.getD node default).lines.length != 0) = true := by
    cases hq : (s.nodes.getD node default).lines with
    | nil => exact absurd hq hl
    | cons a b => rfl
  dsimp only at h2
  rw [if_pos hlen] at h2
  have stay : ∀ {α : Type} {e : Except Panic α} {a : α} {t t' : St}, liftE e t = .ok (a, t') → t' = t := by
    intro α e a t t' hh
    have e' := liftE_eq hh
    unfold liftE at hh; rw [e'] at hh; simp only [Except.map, Except.ok.injEq, Prod.mk.injEq] at hh; exact hh.2.symm
  obtain ⟨ls, t1, h1, h2⟩ := bind_ok (m := liftE _) h2
  have e1 := liftE_eq h1
  rw [stay h1] at h2
  obtain ⟨l1, t2, h1, h2⟩ := bind_ok (m := liftE _) h2
  rw [stay h1] at h2
  obtain ⟨l2, t3, h1, h2⟩ := bind_ok (m := liftE _) h2
  rw [stay h1] at h2
  obtain ⟨ls', t4, h1, h2⟩ := bind_ok (m := liftE _) h2
  have e4 := liftE_eq h1
  rw [stay h1] at h2
  obtain ⟨u, s2, h1, h2⟩ := bind_ok (m := modNode node _) h2
  cases h1
  obtain ⟨n', s3, h1, h2⟩ := bind_ok (m := getNode node) h2
  cases h1
  have hlt : node < s.nodes.length := by
    rcases Nat.lt_or_ge node s.nodes.length with h' | h'
    · exact h'
    · rw [List.getD_eq_getElem?_getD, List.getElem?_eq_none h'] at hl; exact absurd rfl hl
  have hne : ls'.length ≠ 0 := by
    have a1 := lineSet_length e4
    have a2 := trimLeftAll_length _ _ _ e1
    simp only [bne_iff_ne, ne_eq] at hlen
    omega
  have hpos : node = node ∧ node < s.nodes.length := ⟨rfl, hlt⟩
  dsimp only at h2
  rw [getD_set, if_pos hpos] at h2
  have hz : ¬ ((ls'.length == 0) = true) := by simpa using hne
  rw [if_neg hz] at h2
  cases h2
  dsimp only
  rw [getD_set, if_pos hpos]

section driver
open GM.Hoare
variable {src : Bytes}

/-- `INV` at the driver rule: a block of the stack is `OKB`; nothing is asked of a parent or of an attachment -/
theorem driverOps_inv : DriverOps (INV0 src) (fun A => Stable A) OKB (fun _ _ => True) (fun _ _ _ _ => True) bpClose
    (transformParagraph []) where
  sAnd := fun hA hA' => @stableAnd _ _ hA hA'
  sImp := fun c _ hA => @stableImp c _ hA
  sAll := fun hA => @stableForall _ _ hA
  sB := stableOKB
  sP := fun _ => stableTrue
  sAtt := fun _ _ _ => stableTrue
  stack := fun _ h => h.2.2
  peekLine := fun hA => by haveI := hA; exact inv_keeps GM.E2E.peekLine_keeps GM.E2E.peekLine_keeps
  lineOffset := fun hA => by haveI := hA; exact inv_keeps GM.E2E.lineOffset_keeps GM.E2E.lineOffset_keeps
  advanceLine := fun hA => by haveI := hA; exact inv_keeps GM.E2E.advanceLine_keeps GM.E2E.advanceLine_keeps
  skipBlank := fun hA => by haveI := hA; exact inv_keeps GM.E2E.skipBlankLinesR_keeps GM.E2E.skipBlankLinesR_keeps
  pcw := fun hA f hf => by haveI := hA; exact inv_keeps (GM.E2E.modPc_keeps f hf) (GM.E2E.modPc_keeps f hf)
  opened := fun {A} hA g hg => by
    haveI := hA
    refine Tri.det (modPc_run _) fun s hs => ?_
    have := Tri.top_iff.1 (inv_keeps (src := src) (A := fun t => A t ∧ AllOKB (g s.pc) t) (GM.E2E.setOpened_keeps _)
      (setOpenedOK_keeps (g s.pc) fun _ h => h.2.2.2)) s () _ ⟨hs.1, hs.2, hg s hs⟩ (modPc_run _ s)
    exact ⟨this.1, this.2.1⟩
  blank := fun hA _ c _ bl _ => by
    haveI := hA
    exact inv_keeps (GM.E2E.modNode_keeps _ _ (fun _ => ⟨rfl, rfl, rfl, rfl, fun _ h => h⟩) (fun _ h => h))
      (GM.E2E.modNode_keeps _ _ (fun _ => ⟨rfl, rfl, rfl, rfl, fun _ h => h⟩) (fun _ h => h))
  append := fun hA _ c p _ => by haveI := hA; exact inv_keeps (GM.E2E.appendChild_keeps p c) (GM.E2E.appendChild_keeps p c)
  opn := fun {A} hA bp p _ => by
    haveI := hA
    exact Tri.top_iff.2 fun s a s' hs ho =>
      have h1 := Tri.top_iff.1 (inv_keeps (src := src) (A := A) (GM.E2E.bpOpen_keeps bp p) (GM.E2E.bpOpen_keeps bp p)) s a s' hs ho
      ⟨h1.1, h1.2, fun id ha => ⟨bpOpen_kind bp p s s' a ho id ha, trivial, fun _ => trivial⟩⟩
  cont := fun hA b _ => by
    haveI := hA; exact inv_keeps (GM.E2E.bpContinue_keeps b.bp b.node) (GM.E2E.bpContinue_keeps b.bp b.node)
  close := fun {A} hA b hb => by
    haveI := hA
    refine Tri.top_iff.2 fun s a s' hs hm => ?_
    have := Tri.top_iff.1 (inv_keeps (src := src) (A := fun t => A t ∧ OKB b t) (GM.E2E.bpClose_keeps b.bp b.node)
      (GM.E2E.bpClose_keeps b.bp b.node fun t ht _ hne => by rw [ht.2.2.2.2]; exact kindOf_ne_para hne)) s a s'
      ⟨hs.1, hs.2, hb s hs⟩ hm
    exact ⟨this.1, this.2.1⟩
  tp := fun _ b _ => Tri.det (tp_nil b.node) fun _ hs => hs

/-- the call-site fact: the node is an attached Paragraph -/
def AttPara (n : Nat) (s : St) : Prop :=
  (s.nodes.getD n default).kind = .paragraph ∧ (s.nodes.getD n default).parent.isSome = true

/-- the two transformer lists at the call sites: `tp_silent` on an attached Paragraph (it has a line: `PNE`); the driver's
    guard is `AttPara` itself; `paragraphParser.Close` keeps a Paragraph with a line attached (`paragraphClose_parent`); only
    `setextHeadingParser.Open` answers `RequireParagraph`, and then the top of the stack is an attached Paragraph
    (`requirePara_only_setext`, `setextOpen_post`) -/
theorem driverRel_inv (hb : NoBracket src) (guard : Bool) :
    DriverRel (INV0 src) (fun A => Stable A) OKB bpClose (GM.Convert.paragraphTransformers guard) [] AttPara
      (fun b s => AttPara b.node s) where
  tp := fun {A} _ b _ s hs => by
    refine ⟨?_, fun a s' hm => by rw [tp_nil] at hm; cases hm; exact hs.1⟩
    rw [tp_nil]
    rcases tp_silent hb guard b.node s hs.1.1.1.1.1 (hs.1.1.2.1 b.node hs.2.1) hs.2.2 with h | h
    · exact .inl h
    · exact .inr h
  guard := fun _ _ h1 h2 => ⟨h1, h2⟩
  pc := fun _ _ _ h => h
  close := fun {A} hA b hB => by
    refine Tri.top_iff.2 fun s a s' hs hm => ⟨Tri.top_iff.1 (driverOps_inv.close hA b hB) s a s' hs.1 hm, fun hk => ⟨hk, ?_⟩⟩
    have hbp : b.bp = .paragraph := by
      have := (hB s hs.1).2
      rw [hs.2.1] at this
      cases hb' : b.bp <;> rw [hb'] at this <;> simp [GM.ConvertH.BP.kindOf] at this
    have hpc : bpClose b.bp b.node = paragraphClose b.node := by rw [hbp]; rfl
    rw [hpc] at hm
    rw [paragraphClose_parent b.node s s' hm (hs.1.1.2.1 b.node hs.2.1)]
    exact hs.2.2
  opn := fun {A} _ bp p lb => by
    refine Tri.top_iff.2 fun s a s' hs hm hr b hb' => ?_
    have hbp := requirePara_only_setext bp p s s' a hm hr
    subst hbp
    obtain ⟨lb', h1, h2, h3⟩ := setextOpen_post p s s' a (by simpa [bpOpen] using hm) hr
    have : b = lb' := by rw [hs.2, h1] at hb'; cases hb'; rfl
    subst this
    exact ⟨h2, by rw [h3]; rfl⟩

end driver

theorem runT_rel (src : Bytes) (hb : NoBracket src) (guard : Bool) :
    runT (GM.Convert.paragraphTransformers guard) src = runT [] src ∨
      ∃ e, runT (GM.Convert.paragraphTransformers guard) src = .error e := by
  have hpj := PJ.pj_init src
  have := (driverOps_inv.parseBlocksC_rel (driverRel_inv hb guard) (fun _ _ _ _ _ => trivial) (A := fun _ => True) stableTrue 0
    (fun _ _ => trivial) (initSt src) ⟨⟨xs_init src, hpj.1, hpj.2.1⟩, trivial⟩).1
  rw [runT_eqC, runT_eqC]
  unfold runC
  rcases this with h | ⟨e, h⟩
  · rw [h]; exact .inl rfl
  · rw [h]; exact .inr ⟨e, rfl⟩

end GM.E2E.Rel

namespace GM.E2E
open GM GM.Text GM.Convert

/-- **`block_phase_bracket_free`**: on a source without `[` the block phase of the default pipeline (guarded or not) answers what
    the block phase without paragraph transformers answers, or it errs -/
theorem blockPhase_noBracket (guard : Bool) (src : Bytes) (hb : NoBracket src) :
    blockPhase guard src = GM.Blocks.run src ∨ ∃ e, blockPhase guard src = .error e := by
  unfold blockPhase
  rw [← GM.Blocks.runT_nil]
  exact Rel.runT_rel src hb guard

end GM.E2E
