/-
  GM.Proof.BlocksSpecBasic — the contracts of GM.Proof.BlocksInv (`OpenSpec`, `ContSpec`, `CloseSpec`) for the
  paragraph, thematic break, ATX heading and block quote parsers.
-/
import GM.Proof.BlocksInv
import GM.Proof.BlocksAtx
namespace GM.Blocks
open GM GM.Text GM.Spec GM.Proof.Reader

theorem nd_of_set_self {s s' : St} {i : Nat} {n : Node} (hn : s'.nodes = s.nodes.set i n)
    (hi : i < s.nodes.length) : nd s' i = n := by
  simp [nd, hn, List.getD_eq_getElem?_getD, hi]

theorem nd_of_set_ne {s s' : St} {i j : Nat} {n : Node} (hn : s'.nodes = s.nodes.set i n) (hj : j ≠ i) :
    nd s' j = nd s j := by
  simp [nd, hn, List.getD_eq_getElem?_getD, Ne.symm hj]

theorem nd_of_append_lt {s s' : St} {j : Nat} {n : Node} (hn : s'.nodes = s.nodes ++ [n])
    (hj : j < s.nodes.length) : nd s' j = nd s j := by
  simp [nd, hn, List.getD_eq_getElem?_getD, List.getElem?_append_left hj]

theorem Ext.of_set {s s' : St} {i : Nat} {n : Node} (hn : s'.nodes = s.nodes.set i n)
    (hk : n.kind = (nd s i).kind) (hl : (nd s i).lines ≠ [] → n.lines ≠ []) : Ext s s' := by
  refine ⟨by rw [hn, List.length_set]; exact Nat.le_refl _, fun j hj => ?_, fun j hj _ hne => ?_⟩
  · by_cases e : j = i
    · subst e; rw [nd_of_set_self hn hj, hk]
    · rw [nd_of_set_ne hn e]
  · by_cases e : j = i
    · subst e; rw [nd_of_set_self hn hj]; exact hl hne
    · rw [nd_of_set_ne hn e]; exact hne

theorem Ext.of_append {s s' : St} {n : Node} (hn : s'.nodes = s.nodes ++ [n]) : Ext s s' := by
  refine ⟨by rw [hn]; simp, fun j hj => by rw [nd_of_append_lt hn hj], fun j hj _ hne => ?_⟩
  rw [nd_of_append_lt hn hj]; exact hne

theorem NodesOK.of_set {src : Bytes} {s s' : St} {i : Nat} {n : Node} (h : NodesOK src s)
    (hn : s'.nodes = s.nodes.set i n) (hok : NodeOK src n) : NodesOK src s' := by
  intro m hm
  rw [hn] at hm
  rcases List.mem_or_eq_of_mem_set hm with h1 | h1
  · exact h m h1
  · rw [h1]; exact hok

theorem NodesOK.of_append {src : Bytes} {s s' : St} {n : Node} (h : NodesOK src s)
    (hn : s'.nodes = s.nodes ++ [n]) (hok : NodeOK src n) : NodesOK src s' := by
  intro m hm
  rw [hn] at hm
  rcases List.mem_append.1 hm with h1 | h1
  · exact h m h1
  · simp only [List.mem_singleton] at h1; rw [h1]; exact hok

theorem NodesOK.of_nodes_eq {src : Bytes} {s s' : St} (h : NodesOK src s) (hn : s'.nodes = s.nodes) :
    NodesOK src s' := by
  intro m hm; rw [hn] at hm; exact h m hm

theorem NodesOK.nd {src : Bytes} {s : St} (h : NodesOK src s) {i : Nat} (hi : i < s.nodes.length) :
    NodeOK src (nd s i) := by
  have : GM.Blocks.nd s i = s.nodes[i] := by simp [GM.Blocks.nd, List.getD_eq_getElem?_getD, hi]
  rw [this]; exact h _ (List.getElem_mem hi)

/-! ### the parsers whose `Continue` / `Close` do nothing -/

theorem contPost_close (src : Bytes) (bp : BP) (s : St) (c : RCur) (h : RI src s.r c) (hpad : PadOK c)
    (hn : NodesOK src s) : ContPost src bp s c stClose s where
  ria := ⟨c, h.toRIa, hpad, Nat.le_refl _, h.inRange, .inr h⟩
  pc := rfl
  ext := Ext.refl s
  nodes := hn
  leaf := fun _ => rfl
  cont := fun _ hc => by cases hc

theorem closePost_refl (src : Bytes) (bp : BP) (node : Nat) (s : St) (hn : NodesOK src s) :
    ClosePost src bp node s s where
  r := rfl
  opened := rfl
  ext := Ext.refl s
  nodes := hn
  tmp := .inl rfl
  fence := .inl rfl
  para := fun _ => rfl

theorem W.thematicContinue_spec (src : Bytes) : W.ContSpecW src .thematic :=
  fun _ s c h hpad _ hn _ _ => OKL.ok (contPost_close src _ s c h hpad hn)

theorem thematicContinue_spec (src : Bytes) : ContSpec src .thematic := (W.thematicContinue_spec src).toSpec

theorem W.thematicClose_spec (src : Bytes) : W.CloseSpecW src .thematic :=
  fun node s _ hn _ _ => OKL.ok (closePost_refl src _ node s hn)

theorem thematicClose_spec (src : Bytes) : CloseSpec src .thematic := (W.thematicClose_spec src).toSpec

theorem W.atxContinue_spec (src : Bytes) : W.ContSpecW src .atx :=
  fun _ s c h hpad _ hn _ _ => OKL.ok (contPost_close src _ s c h hpad hn)

theorem atxContinue_spec (src : Bytes) : ContSpec src .atx := (W.atxContinue_spec src).toSpec

theorem W.atxClose_spec (src : Bytes) : W.CloseSpecW src .atx :=
  fun node s _ hn _ _ => OKL.ok (closePost_refl src _ node s hn)

theorem atxClose_spec (src : Bytes) : CloseSpec src .atx := (W.atxClose_spec src).toSpec

theorem W.blockquoteClose_spec (src : Bytes) : W.CloseSpecW src .blockquote :=
  fun node s _ hn _ _ => OKL.ok (closePost_refl src _ node s hn)

theorem blockquoteClose_spec (src : Bytes) : CloseSpec src .blockquote := (W.blockquoteClose_spec src).toSpec

/-! ### paragraph.go -/

theorem W.paragraphClose_spec (src : Bytes) : W.CloseSpecW src .paragraph := by
  intro node s hsrc hn _ hb
  have hlt : node < s.nodes.length := hb.lt
  have hne : (nd s node).lines ≠ [] := hb.para rfl
  have hok := hn.nd hlt
  show OKL _ (paragraphClose node s)
  refine (paragraphClose_okl node hsrc hok.lines hne).mono (fun _ s' hp => ?_)
  obtain ⟨hr, hpc, ls, hls, hlen, hnodes⟩ := hp
  have hnil : (nd s node).linesNil = false := by
    cases h : (nd s node).linesNil with
    | false => rfl
    | true => exact absurd (hok.nil h) hne
  have hls_ne : ls ≠ [] := by
    intro e; subst e
    exact hne (List.eq_nil_of_length_eq_zero hlen.symm)
  exact { r := hr, opened := by rw [hpc], ext := Ext.of_set hnodes rfl (fun _ => hls_ne),
          nodes := hn.of_set hnodes ⟨hls, fun h => by
            have h' : (nd s node).linesNil = true := h
            rw [hnil] at h'; cases h'⟩,
          tmp := .inl (by rw [hpc]), fence := .inl (by rw [hpc]),
          para := fun _ => by rw [nd_of_set_self hnodes hlt] }

theorem paragraphClose_spec (src : Bytes) : CloseSpec src .paragraph := (W.paragraphClose_spec src).toSpec

/-- Continue of a paragraph, also at the end of the source (no `c.p < src.length` hypothesis) -/
theorem W.paragraphContinue_spec' (src : Bytes) (node : Nat) (s : St) (c : RCur) (h : RI src s.r c) (hpad : PadOK c)
    (hn : NodesOK src s) (hk : W.KeysOKF s) (hb : BlockOK s ⟨node, .paragraph⟩) :
    OKL (fun st s' => ContPost src .paragraph s c st s') (paragraphContinue node s) := by
  have _ := hk
  refine (paragraphContinue_okl' h node).mono (fun st s' hp => ?_)
  obtain ⟨c', hri, ⟨n, hc'⟩, hpc, hcase⟩ := hp
  have hria : ∃ c', RIa src s'.r c' ∧ PadOK c' ∧ c.p ≤ c'.p ∧ c'.p ≤ src.length ∧
      ((st.cont = true ∧ st.hasChildren = false) ∨ RI src s'.r c') :=
    ⟨c', hri.toRIa, by rw [hc']; exact hpad.advN h.inRange n,
      by rw [hc']; exact (advN_mono src n c h.inRange).1, hri.inRange, .inr hri⟩
  rcases hcase with ⟨hst, hnodes, _⟩ | ⟨hst, _, _, _, hnodes⟩
  · exact { ria := hria, pc := hpc, ext := Ext.of_nodes_eq hnodes, nodes := hn.of_nodes_eq hnodes,
            leaf := fun _ => (by rw [hst]; rfl), cont := fun hc => (by cases hc) }
  · have hok := hn.nd hb.lt
    refine { ria := hria, pc := hpc, ext := Ext.of_set hnodes rfl (fun _ => by simp),
             nodes := hn.of_set hnodes ⟨?_, fun hh => by cases hh⟩,
             leaf := fun _ => (by rw [hst]; rfl), cont := fun hc => (by cases hc) }
    intro t ht
    simp only [List.mem_append, List.mem_singleton] at ht
    rcases ht with ht | ht
    · exact hok.lines t ht
    · rw [ht]; exact seg_ok src c h.inRange

theorem paragraphContinue_spec' (src : Bytes) (node : Nat) (s : St) (c : RCur) (h : RI src s.r c) (hpad : PadOK c)
    (hn : NodesOK src s) (hk : KeysOK s) (hb : BlockOK s ⟨node, .paragraph⟩) :
    OKL (fun st s' => ContPost src .paragraph s c st s') (paragraphContinue node s) :=
  W.paragraphContinue_spec' src node s c h hpad hn (.of hk) hb

theorem W.paragraphContinue_spec (src : Bytes) : W.ContSpecW src .paragraph :=
  fun node s c h hpad _ hn hk hb => W.paragraphContinue_spec' src node s c h hpad hn hk hb

theorem paragraphContinue_spec (src : Bytes) : ContSpec src .paragraph := (W.paragraphContinue_spec src).toSpec

/-! ### `Open` of a leaf parser that touches nothing of the context -/

theorem openPost_leaf {src : Bytes} {bp : BP} {parent : Nat} {s s' : St} {c c' : RCur} {a : Option Nat × PState}
    (hbp1 : bp ≠ .setext) (hbp2 : bp ≠ .fenced) (hpad : PadOK c) (hin : c.p ≤ src.length)
    (hri : RI src s'.r c') (hadv : ∃ n, c' = RCur.advN src n c) (hpc : s'.pc = s.pc) (ha : a.2 = stNoChildren)
    (hcase : (a.1 = none ∧ s'.nodes = s.nodes ∧ c' = c) ∨
      (a.1 = some s.nodes.length ∧ ∃ n, s'.nodes = s.nodes ++ [n] ∧ n.kind = bp.kind ∧ NodeOK src n ∧
        n.parent = none ∧ (bp = .paragraph → n.lines ≠ []))) :
    OpenPost src bp parent s c a s' := by
  obtain ⟨k, hk⟩ := hadv
  have hri' : ∃ c', RI src s'.r c' ∧ PadOK c' ∧ c.p ≤ c'.p ∧ (a.1 = none → c' = c) ∧
      (a.2.hasChildren = true → c.p < c'.p) := by
    refine ⟨c', hri, by rw [hk]; exact hpad.advN hin k, by rw [hk]; exact (advN_mono src k c hin).1, ?_, ?_⟩
    · intro hnone
      rcases hcase with ⟨_, _, e⟩ | ⟨e, _⟩
      · exact e
      · rw [e] at hnone; cases hnone
    · intro hh; rw [ha] at hh; cases hh
  refine { ri := hri', opened := by rw [hpc], boff := by rw [hpc], noNode := ?_, newNode := ?_,
           tmp := .inr ⟨.inl hbp1, by rw [hpc]⟩, fence := .inr ⟨.inl hbp2, by rw [hpc]⟩,
           req := fun hh => (by rw [ha] at hh; cases hh), kids := fun hh => (by rw [ha] at hh; cases hh) }
  · intro hnone
    rcases hcase with ⟨_, e, _⟩ | ⟨e, _⟩
    · exact e
    · rw [e] at hnone; cases hnone
  · intro id hid
    rcases hcase with ⟨e, _⟩ | ⟨e, n, h1, h2, h3, h4, h5⟩
    · rw [e] at hid; cases hid
    · rw [e] at hid
      cases hid
      exact ⟨rfl, n, h1, h2, h3, h4, h5, fun e => absurd e hbp1⟩

theorem paragraphOpen_spec (src : Bytes) : OpenSpec src .paragraph := by
  intro parent s c hctx
  show OKL _ (paragraphOpen parent s)
  refine (paragraphOpen_okl' hctx.ri parent).mono (fun a s' hp => ?_)
  obtain ⟨c', hri, hadv, hpc, ha, hcase⟩ := hp
  refine openPost_leaf (by decide) (by decide) hctx.pad hctx.ri.inRange hri hadv hpc ha ?_
  rcases hcase with h1 | ⟨h1, n, seg, h2, h3, h4, h5, h6, h7, _⟩
  · exact .inl h1
  · refine .inr ⟨h1, n, h2, h3, ⟨?_, fun hh => by rw [h7] at hh; cases hh⟩, h6, fun _ => by rw [h4]; simp⟩
    intro t ht
    rw [h4, List.mem_singleton] at ht
    rw [ht]; exact h5

/-! ### thematic_break.go -/

theorem nodeOK_noLines (src : Bytes) (n : Node) (h : n.lines = []) : NodeOK src n :=
  ⟨fun t ht => (by rw [h] at ht; cases ht), fun _ => h⟩

theorem thematicOpen_spec (src : Bytes) : OpenSpec src .thematic := by
  intro parent s c hctx
  show OKL _ (thematicOpen parent s)
  refine (thematicOpen_okl' hctx.ri parent).mono (fun a s' hp => ?_)
  obtain ⟨c', hri, hadv, hpc, ha, hcase⟩ := hp
  refine openPost_leaf (by decide) (by decide) hctx.pad hctx.ri.inRange hri hadv hpc ha ?_
  rcases hcase with h1 | ⟨h1, h2⟩
  · exact .inl h1
  · exact .inr ⟨h1, _, h2, rfl, nodeOK_noLines src _ rfl, rfl, fun hh => by cases hh⟩

/-! ### blockquote.go -/

/-- `blockquoteProcess_okl` with `PadOK` of the final cursor: after `true` the cursor is past byte 0 -/
theorem blockquoteProcess_okl' {src} {s : St} {c : RCur} (h : RI src s.r c) (hpad : PadOK c) :
    OKL (fun b s' => ∃ r' c', s' = { s with r := r' } ∧ RI src r' c' ∧ PadOK c' ∧ c.p ≤ c'.p ∧
        (b = true → c.p < c'.p) ∧ (b = false → c' = c)) (blockquoteProcess s) := by
  refine (blockquoteProcess_okl h).mono (fun b s' hp => ?_)
  obtain ⟨r', c', hs, hri, hle, ht, hf⟩ := hp
  refine ⟨r', c', hs, hri, ?_, hle, ht, hf⟩
  cases b with
  | true => intro _; have := ht rfl; omega
  | false => rw [hf rfl]; exact hpad

theorem blockquoteOpen_spec (src : Bytes) : OpenSpec src .blockquote := by
  intro parent s c hctx
  show OKL _ (blockquoteOpen parent s)
  unfold blockquoteOpen
  refine OKL.bind (blockquoteProcess_okl' hctx.ri hctx.pad) (fun b s1 hb => ?_)
  obtain ⟨r', c', hs1, hri, hpad', hle, ht, hf⟩ := hb
  subst hs1
  cases b with
  | true =>
    simp only [if_true, bind, StateT.bind, newNode, pure, StateT.pure, Except.bind, Except.pure]
    refine OKL.ok { ri := ⟨c', hri, hpad', hle, fun hh => (by cases hh), fun _ => ht rfl⟩,
                    opened := rfl, boff := rfl, noNode := fun hh => (by cases hh), newNode := ?_,
                    tmp := .inr ⟨.inl (by decide), rfl⟩, fence := .inr ⟨.inl (by decide), rfl⟩,
                    req := fun hh => (by cases hh), kids := fun _ => ⟨rfl, rfl⟩ }
    intro id hid
    cases hid
    exact ⟨rfl, _, rfl, rfl, nodeOK_noLines src _ rfl, rfl, fun hh => (by cases hh), fun hh => (by cases hh)⟩
  | false =>
    simp only [Bool.false_eq_true, if_false, pure, StateT.pure, Except.pure]
    exact OKL.ok { ri := ⟨c', hri, hpad', hle, fun _ => hf rfl, fun hh => (by cases hh)⟩,
                   opened := rfl, boff := rfl, noNode := fun _ => rfl, newNode := fun id hid => (by cases hid),
                   tmp := .inr ⟨.inl (by decide), rfl⟩, fence := .inr ⟨.inl (by decide), rfl⟩,
                   req := fun hh => (by cases hh), kids := fun hh => (by cases hh) }

theorem W.blockquoteContinue_spec (src : Bytes) : W.ContSpecW src .blockquote := by
  intro node s c h hpad _ hn _ _
  show OKL _ (blockquoteContinue node s)
  unfold blockquoteContinue
  refine OKL.bind (blockquoteProcess_okl' h hpad) (fun b s1 hb => ?_)
  obtain ⟨r', c', hs1, hri, hpad', hle, ht, hf⟩ := hb
  subst hs1
  cases b with
  | true =>
    simp only [if_true, pure, StateT.pure, Except.pure]
    exact OKL.ok { ria := ⟨c', hri.toRIa, hpad', hle, hri.inRange, .inr hri⟩, pc := rfl,
                   ext := Ext.of_nodes_eq rfl, nodes := hn.of_nodes_eq rfl,
                   leaf := fun hh => (by cases hh), cont := fun _ _ => rfl }
  | false =>
    simp only [Bool.false_eq_true, if_false, pure, StateT.pure, Except.pure]
    exact OKL.ok { ria := ⟨c', hri.toRIa, hpad', hle, hri.inRange, .inr hri⟩, pc := rfl,
                   ext := Ext.of_nodes_eq rfl, nodes := hn.of_nodes_eq rfl,
                   leaf := fun hh => (by cases hh), cont := fun _ hh => by cases hh }

theorem blockquoteContinue_spec (src : Bytes) : ContSpec src .blockquote := (W.blockquoteContinue_spec src).toSpec

/-! ### atx_heading.go -/

theorem nodeOK_oneLine (src : Bytes) (n : Node) (seg : Segment) (h : n.lines = [seg]) (hs : SegOK src seg)
    (hnil : n.linesNil = false) : NodeOK src n :=
  ⟨fun t ht => (by rw [h, List.mem_singleton] at ht; rw [ht]; exact hs), fun hh => (by rw [hnil] at hh; cases hh)⟩

theorem countLeading_pos_head (c : UInt8) (l : Bytes) (h : 0 < countLeading c l) : l[0]? = some c := by
  cases l with
  | nil => simp [countLeading] at h
  | cons b bs =>
    unfold countLeading at h
    by_cases e : (b == c) = true
    · have : b = c := by simpa using e
      simp [this]
    · simp [List.takeWhile, e] at h

/-- the first `pad` bytes of a view are spaces: a `#` of the view lies behind them -/
theorem view_hash_behind_pad (src : Bytes) (c : RCur) (hp : c.p < src.length) (k : Nat)
    (h : ((RCur.view src c).getD [])[k]? = some 35) : c.pad ≤ k := by
  rw [view_eq src c hp] at h
  simp only [Option.getD_some] at h
  rcases Nat.lt_or_ge k c.pad with hk | hk
  · rw [List.getElem?_append_left (by simpa [spaces] using hk)] at h
    simp only [spaces] at h
    rw [List.getElem?_replicate] at h
    split at h
    · cases h
    · cases h
  · exact hk

/-- atxHeadingParser.Open on an `RI` reader: total but for the reader's fuel; it is `atxFinish` of what `atxScan` reads off
    the view. The contract, the line it takes and the exact execution are read off this. -/
theorem atxOpen_one {src} {s : St} {c : RCur} (h : RI src s.r c) (parent : Nat) :
    OKL (fun a s' => ∃ r' o, RI src r' c ∧ atxScan ((RCur.view src c).getD []) s.pc.blockOffset = .ok o ∧
        atxFinish { s with r := r' } (o.map (atxMk (RCur.seg src c))) = .ok (a, s')) (atxOpen parent s) := by
  rw [atxOpen_eq]
  rcases peekLine_okl h with ⟨x, s1, e, hx, r', hs1, hri⟩ | e
  · subst hx hs1
    rw [e]
    simp only [Except.bind]
    rcases atxScan_ok ((RCur.view src c).getD []) s.pc.blockOffset with ho | ⟨tx, ho, _⟩
    · rw [ho]; exact .inl ⟨_, _, rfl, r', none, hri, rfl, rfl⟩
    · rw [ho]; exact .inl ⟨_, _, rfl, r', some _, hri, rfl, rfl⟩
  · rw [e]; exact .inr rfl

/-- **atxHeadingParser.Open, the line it takes** (atx_heading.go:82-166) on an `RI` reader: cursor and context are
    untouched; it builds nothing, or the next node of the store, a parentless Heading with no line (empty heading `#`,
    `## ##`) or with exactly one line `t`, the heading's text: not empty, strictly behind the cursor (at least one `#` lies
    between) and inside the current source line — `c.p < t.start < t.stop ≤ (lineEnd src c.p : Int)`, padding 0, no
    ForceNewline. -/
theorem atxOpen_full {src} {s : St} {c : RCur} (h : RI src s.r c) (parent : Nat) :
    OKL (fun a s' => RI src s'.r c ∧ s'.pc = s.pc ∧ a.2 = stNoChildren ∧
        ((a.1 = none ∧ s'.nodes = s.nodes) ∨
         (a.1 = some s.nodes.length ∧ ∃ n, s'.nodes = s.nodes ++ [n] ∧ n.kind = .heading ∧ n.parent = none ∧
            NodeOK src n ∧
            (n.lines = [] ∨ ∃ t, n.lines = [t] ∧ (c.p : Int) < t.start ∧ t.start < t.stop ∧
              t.stop ≤ (lineEnd src c.p : Int) ∧ t.padding = 0 ∧ t.forceNewline = false))))
      (atxOpen parent s) := by
  refine (atxOpen_one h parent).mono (fun a s' hp => ?_)
  obtain ⟨r', o, hri, ho, hf⟩ := hp
  rcases atxScan_ok ((RCur.view src c).getD []) s.pc.blockOffset with h0 | ⟨tx, hn, hbo, hhash, hl⟩
  · rw [h0] at ho; cases ho; cases hf; exact ⟨hri, rfl, rfl, .inl ⟨rfl, rfl⟩⟩
  · rw [hn] at ho; cases ho; cases hf
    refine ⟨hri, rfl, rfl, .inr ⟨rfl, _, rfl, ?_⟩⟩
    cases tx with
    | none => exact ⟨rfl, rfl, nodeOK_noLines src _ rfl, .inl rfl⟩
    | some az =>
      obtain ⟨h1, h2, h3⟩ := hl az.1 az.2 rfl
      -- the line is there, and the `#` lies behind the virtual padding
      have hp : c.p < src.length := by
        rcases Nat.lt_or_ge c.p src.length with hp | hp
        · exact hp
        · rw [view_none src c (by omega)] at hhash; simp at hhash
      have hpad := view_hash_behind_pad src c hp _ hhash
      have hlen := view_getD_length src c hp
      have hle := lineEnd_le src c.p
      have hge := lt_lineEnd src hp
      have hpad' : (c.pad : Int) ≤ s.pc.blockOffset := by omega
      refine ⟨rfl, rfl, nodeOK_oneLine src _ _ rfl ?_ rfl, .inr ⟨_, rfl, ?_, ?_, ?_, rfl, rfl⟩⟩
      · unfold SegOK RCur.seg; simp only; omega
      all_goals simp only [RCur.seg]; omega

theorem atxOpen_line {src} {s : St} {c : RCur} (h : RI src s.r c) (parent : Nat) :
    OKL (fun a s' => ∃ r', s'.r = r' ∧ RI src r' c ∧ s'.pc = s.pc ∧ a.2 = stNoChildren ∧
        ((a.1 = none ∧ s'.nodes = s.nodes) ∨
         (a.1 = some s.nodes.length ∧ ∃ n, s'.nodes = s.nodes ++ [n] ∧ n.kind = .heading ∧ n.parent = none ∧
            (n.lines = [] ∨ ∃ t, n.lines = [t] ∧ (c.p : Int) < t.start ∧ t.start < t.stop ∧
              t.stop ≤ (lineEnd src c.p : Int) ∧ t.padding = 0 ∧ t.forceNewline = false))))
      (atxOpen parent s) :=
  (atxOpen_full h parent).mono fun _ _ ⟨hri, hpc, ha, hc⟩ =>
    ⟨_, rfl, hri, hpc, ha, hc.imp id fun ⟨h0, n, hn, hk, hpar, _, hl⟩ => ⟨h0, n, hn, hk, hpar, hl⟩⟩

/-- atxHeadingParser.Open: total on an `RI` reader, for any context; it moves neither cursor nor context; a new
    Heading node is the next node of the store, with no line or one line inside the source -/
theorem atxOpen_okl' {src} {s : St} {c : RCur} (h : RI src s.r c) (parent : Nat) :
    OKL (fun a s' => RI src s'.r c ∧ s'.pc = s.pc ∧ a.2 = stNoChildren ∧
        ((a.1 = none ∧ s'.nodes = s.nodes) ∨
         (a.1 = some s.nodes.length ∧ ∃ n, s'.nodes = s.nodes ++ [n] ∧ n.kind = .heading ∧ NodeOK src n ∧
            n.parent = none)))
      (atxOpen parent s) :=
  (atxOpen_full h parent).mono fun _ _ ⟨hri, hpc, ha, hc⟩ =>
    ⟨hri, hpc, ha, hc.imp id fun ⟨h0, n, hn, hk, hpar, hok, _⟩ => ⟨h0, n, hn, hk, hok, hpar⟩⟩

theorem atxOpen_okl {src} {s : St} {c : RCur} (h : RI src s.r c) (parent : Nat) :
    OKL (fun a s' => ∃ r', s'.r = r' ∧ RI src r' c ∧ s'.pc = s.pc ∧ a.2 = stNoChildren)
      (atxOpen parent s) :=
  (atxOpen_okl' h parent).mono (fun _ _ hp => ⟨_, rfl, hp.1, hp.2.1, hp.2.2.1⟩)

theorem atxOpen_spec (src : Bytes) : OpenSpec src .atx := by
  intro parent s c hctx
  show OKL _ (atxOpen parent s)
  refine (atxOpen_okl' hctx.ri parent).mono (fun a s' hp => ?_)
  obtain ⟨hri, hpc, ha, hcase⟩ := hp
  refine openPost_leaf (c' := c) (by decide) (by decide) hctx.pad hctx.ri.inRange hri ⟨0, rfl⟩ hpc ha ?_
  rcases hcase with ⟨h1, h2⟩ | ⟨h1, n, h2, h3, h4, h5⟩
  · exact .inl ⟨h1, h2, rfl⟩
  · exact .inr ⟨h1, n, h2, h3, h4, h5, fun hh => (by cases hh)⟩

end GM.Blocks
