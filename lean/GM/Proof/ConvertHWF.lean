/-
  GM.Proof.ConvertHWF — Tree well-formedness `TreeWF` of the block-phase node store, the frame relation `LR` (judgement `Lk`) that carries it, and
  the AST mutators of ast.go as the block phase uses them: they keep `TreeWF` and add no child edge but the one they are asked to (`OpR`, `RmR`).
-/
import GM.Proof.BlocksTreeOp
import GM.Model.ConvertH

section ConvertHWF
/-
  Tree well-formedness of the block-phase node store and the frame relation `LR` that carries
  it through every parser function.

  * `TreeWF s`  — every child edge `c ∈ children p` points to an existing node whose parent pointer is `p`; child lists
                  are duplicate-free; the Document (node 0) has no parent.
  * `LR s s'`   — the store grew, the tree links (parent, children) of EVERY index are what they were (so new nodes are
                  unlinked), kinds of existing nodes are what they were, and `pc.opened` is what it was.
  * `Lk m`      — whenever `m` ends normally, start and end state are related by `LR`. The store primitives: `newNode n`
                  needs `n.parent = none`, `n.children = []`; `modNode id f` needs `f` to keep parent / children / kind;
                  `modPc f` needs `f` to keep `opened`; the primitives that write neither store nor context are `Rd`.
  * `StepR s s'`— (GM.Proof.ConvertHWFClose) what the driver invariant needs from ANY step of a block parser / paragraph transformer (also the tree
                  surgery of Close): store grows, kinds stay, `opened` stays, and from a well-formed store: the new store
                  is well-formed and no child edge to a Heading node is new.
-/

namespace GM.ConvertH
open GM GM.Text GM.Blocks

def ndx (s : St) (i : Nat) : Blocks.Node := s.nodes.getD i default

structure TreeWF (s : St) : Prop where
  edge : ∀ p c, c ∈ (ndx s p).children → c < s.nodes.length ∧ (ndx s c).parent = some p
  nodup : ∀ p, (ndx s p).children.Nodup
  root : (ndx s 0).parent = none
  ne : 0 < s.nodes.length
  rootKind : (ndx s 0).kind = .document

structure LR (s s' : St) : Prop where
  len : s.nodes.length ≤ s'.nodes.length
  links : ∀ i, (ndx s' i).parent = (ndx s i).parent ∧ (ndx s' i).children = (ndx s i).children
  kind : ∀ i, i < s.nodes.length → (ndx s' i).kind = (ndx s i).kind
  opened : s'.pc.opened = s.pc.opened

theorem LR.refl (s : St) : LR s s := ⟨Nat.le_refl _, fun _ => ⟨rfl, rfl⟩, fun _ _ => rfl, rfl⟩

theorem LR.trans {a b c : St} (h1 : LR a b) (h2 : LR b c) : LR a c where
  len := Nat.le_trans h1.len h2.len
  links := fun i => ⟨(h2.links i).1.trans (h1.links i).1, (h2.links i).2.trans (h1.links i).2⟩
  kind := fun i hi => (h2.kind i (Nat.lt_of_lt_of_le hi h1.len)).trans (h1.kind i hi)
  opened := h2.opened.trans h1.opened

theorem LR.of_same {s s' : St} (hn : s'.nodes = s.nodes) (hp : s'.pc = s.pc) : LR s s' :=
  ⟨by rw [hn]; exact Nat.le_refl _, fun i => by simp [ndx, hn], fun i _ => by simp only [ndx, hn],
   by rw [hp]⟩

theorem LR.wf {s s' : St} (h : LR s s') (w : TreeWF s) : TreeWF s' where
  edge := fun p c hc => by
    rw [(h.links p).2] at hc
    obtain ⟨a, b⟩ := w.edge p c hc
    exact ⟨Nat.lt_of_lt_of_le a h.len, by rw [(h.links c).1]; exact b⟩
  nodup := fun p => by rw [(h.links p).2]; exact w.nodup p
  root := by rw [(h.links 0).1]; exact w.root
  ne := Nat.lt_of_lt_of_le w.ne h.len
  rootKind := by rw [h.kind 0 w.ne]; exact w.rootKind

/-- `m` only reads the tree links -/
structure Lk {α : Type} (m : M α) : Prop where
  h : ∀ s a s', m s = .ok (a, s') → LR s s'

theorem Lk.pure {α} (a : α) : Lk (Pure.pure a : M α) := ⟨fun s _ _ h => by cases h; exact LR.refl s⟩

theorem Lk.throw {α} (e : Panic) : Lk (throw e : M α) := ⟨fun _ _ _ h => by cases h⟩

/-- `m` writes neither the node store nor the context -/
def Rd {α : Type} (m : M α) : Prop := ∀ s a s', m s = .ok (a, s') → s'.nodes = s.nodes ∧ s'.pc = s.pc

theorem Lk.of_rd {α} {m : M α} (h : Rd m) : Lk m := ⟨fun s a s' e => LR.of_same (h s a s' e).1 (h s a s' e).2⟩

theorem getNode_rd (id : Nat) : Rd (getNode id) := fun _ _ _ h => by cases h; exact ⟨rfl, rfl⟩
theorem getPc_rd : Rd getPc := fun _ _ _ h => by cases h; exact ⟨rfl, rfl⟩
theorem source_rd : Rd source := fun _ _ _ h => by cases h; exact ⟨rfl, rfl⟩
theorem position_rd : Rd position := fun _ _ _ h => by cases h; exact ⟨rfl, rfl⟩
theorem get_rd : Rd (get : M St) := fun _ _ _ h => by cases h; exact ⟨rfl, rfl⟩
theorem setPosition_rd (l : Int) (p : Segment) : Rd (setPosition l p) := fun _ _ _ h => by cases h; exact ⟨rfl, rfl⟩
theorem advanceLine_rd : Rd advanceLine := fun _ _ _ h => by cases h; exact ⟨rfl, rfl⟩

theorem liftE_rd {α} (e : Except Panic α) : Rd (liftE e) := fun s a s' h => by
  obtain ⟨_, rfl⟩ := liftE_ok h; exact ⟨rfl, rfl⟩

theorem reader_rd {α β} (f : Reader → Except Panic (α × Reader)) (g : α → β) :
    Rd (fun s => do let (x, r) ← f s.r; Pure.pure (g x, { s with r := r }) : M β) := fun s a s' h => by
  simp only [bind, Except.bind] at h
  cases hf : f s.r with
  | error e => rw [hf] at h; cases h
  | ok p => rw [hf] at h; cases h; exact ⟨rfl, rfl⟩

theorem peekLine_rd : Rd peekLine := reader_rd (fun r => r.peekLine) id
theorem lineOffset_rd : Rd lineOffset := reader_rd (fun r => r.lineOffsetOp) id
theorem skipBlankLinesR_rd : Rd skipBlankLinesR := fun s a s' h => by
  unfold skipBlankLinesR at h
  simp only [bind, Except.bind] at h
  cases hf : skipBlankLines readerOps (loopFuel s.r.source) 0 s.r with
  | error e => rw [hf] at h; cases h
  | ok p => rw [hf] at h; cases h; exact ⟨rfl, rfl⟩

theorem advance_rd (n : Int) : Rd (advance n) := fun s a s' h => by
  unfold advance at h
  simp only [bind, Except.bind] at h
  cases hf : s.r.advance n with
  | error e => rw [hf] at h; cases h
  | ok p => rw [hf] at h; cases h; exact ⟨rfl, rfl⟩

theorem advanceAndSetPadding_rd (n p : Int) : Rd (advanceAndSetPadding n p) := fun s a s' h => by
  unfold advanceAndSetPadding at h
  simp only [bind, Except.bind] at h
  cases hf : s.r.advanceAndSetPadding n p with
  | error e => rw [hf] at h; cases h
  | ok p => rw [hf] at h; cases h; exact ⟨rfl, rfl⟩

/-- the primitives of `M` that only read the store and the context, or move the reader -/
macro "rd_leaf" : tactic =>
  `(tactic| first
    | with_reducible exact getNode_rd _
    | with_reducible exact getPc_rd
    | with_reducible exact source_rd
    | with_reducible exact position_rd
    | with_reducible exact setPosition_rd _ _
    | with_reducible exact get_rd
    | with_reducible exact peekLine_rd
    | with_reducible exact lineOffset_rd
    | with_reducible exact advance_rd _
    | with_reducible exact advanceAndSetPadding_rd _ _
    | with_reducible exact advanceLine_rd
    | with_reducible exact liftE_rd _
    | with_reducible exact skipBlankLinesR_rd)

theorem modPc_lk (f : Ctx → Ctx) (hf : ∀ pc, (f pc).opened = pc.opened) : Lk (modPc f) :=
  ⟨fun s a s' h => by
    have := modPc_ok h; subst this
    exact ⟨Nat.le_refl _, fun _ => ⟨rfl, rfl⟩, fun _ _ => rfl, hf s.pc⟩⟩

theorem ndx_set (s : St) (id : Nat) (m : Blocks.Node) (i : Nat) (r : Reader) (pc : Ctx) :
    ndx { r := r, nodes := s.nodes.set id m, pc := pc } i = if i = id ∧ id < s.nodes.length then m else ndx s i := by
  simp only [ndx, List.getD_eq_getElem?_getD, List.getElem?_set]
  by_cases h : id = i
  · subst h
    by_cases h2 : id < s.nodes.length
    · simp [h2]
    · simp [h2]
  · have : ¬ (i = id ∧ id < s.nodes.length) := fun e => h e.1.symm
    simp [h, this]

theorem ndx_append (s : St) (n : Blocks.Node) (i : Nat) (r : Reader) (pc : Ctx) :
    ndx { r := r, nodes := s.nodes ++ [n], pc := pc } i = if i = s.nodes.length then n else ndx s i := by
  simp only [ndx, List.getD_eq_getElem?_getD]
  by_cases h : i < s.nodes.length
  · rw [List.getElem?_append_left h]
    have : i ≠ s.nodes.length := Nat.ne_of_lt h
    simp [this]
  · by_cases h2 : i = s.nodes.length
    · subst h2; simp
    · have h3 : s.nodes.length < i := by omega
      rw [List.getElem?_append_right (by omega)]
      have : ¬ i - s.nodes.length = 0 := by omega
      simp [h2, List.getElem?_eq_none (Nat.le_of_lt h3)]
      cases hk : i - s.nodes.length with
      | zero => exact absurd hk this
      | succ k => simp

theorem ndx_ge (s : St) {i : Nat} (h : s.nodes.length ≤ i) : ndx s i = default := by
  simp [ndx, List.getD_eq_getElem?_getD, List.getElem?_eq_none h]

theorem modNode_lk (id : Nat) (f : Blocks.Node → Blocks.Node)
    (hf : ∀ n, (f n).parent = n.parent ∧ (f n).children = n.children ∧ (f n).kind = n.kind) : Lk (modNode id f) :=
  ⟨fun s a s' h => by
    have := modNode_ok h; subst this
    refine ⟨by simp, fun i => ?_, fun i _ => ?_, rfl⟩
    · rw [ndx_set]; split
      · rename_i e; rw [e.1]; exact ⟨(hf _).1, (hf _).2.1⟩
      · exact ⟨rfl, rfl⟩
    · rw [ndx_set]; split
      · rename_i e; rw [e.1]; exact (hf _).2.2
      · rfl⟩

theorem appendLine_lk (id : Nat) (seg : Segment) : Lk (appendLine id seg) :=
  modNode_lk id _ (fun _ => ⟨rfl, rfl, rfl⟩)

theorem newNode_lk (n : Blocks.Node) (hp : n.parent = none) (hc : n.children = []) : Lk (newNode n) :=
  ⟨fun s a s' h => by
    obtain ⟨_, rfl⟩ := newNode_ok h
    refine ⟨by simp, fun i => ?_, fun i hi => ?_, rfl⟩
    · rw [ndx_append]; split
      · rename_i e; rw [e, ndx_ge s (Nat.le_refl _), hp, hc]; exact ⟨rfl, rfl⟩
      · exact ⟨rfl, rfl⟩
    · rw [ndx_append]; split
      · rename_i e; omega
      · rfl⟩

/-- the primitives of `M` for `Lk` -/
macro "lk_leaf" : tactic =>
  `(tactic| first
    | ((with_reducible apply Lk.of_rd); rd_leaf)
    | with_reducible apply appendLine_lk
    | ((with_reducible apply modNode_lk); intro _; exact ⟨rfl, rfl, rfl⟩)
    | ((with_reducible apply modPc_lk); intro _; rfl)
    | ((with_reducible apply newNode_lk) <;> rfl))

end GM.ConvertH
end ConvertHWF

section ConvertHWFOps
/-
  The AST mutators the block phase uses (ast.go RemoveChild / AppendChild / InsertBefore /
  InsertAfter / ReplaceChild as modelled in GM.Model.Blocks.Basic) keep `TreeWF`, and the only child edge they can add is
  `(p, ins)` for the node `ins` they are asked to insert (`OpR`): an induction over their runs `TreeOp` (GM.Proof.BlocksTreeOp), whose
  two units are `removeChild_rm` and `attach_op`.
-/

namespace GM.ConvertH
open GM GM.Text GM.Blocks

/-- what a tree mutator does: same store length, kinds, context; well-formedness kept (given the inserted node exists and is
    not the Document); every child edge afterwards is an old one or `(p, ins)` -/
structure OpR (p ins : Nat) (s s' : St) : Prop where
  len : s'.nodes.length = s.nodes.length
  kind : ∀ i, (ndx s' i).kind = (ndx s i).kind
  pc : s'.pc = s.pc
  wf : TreeWF s → ins < s.nodes.length → ins ≠ 0 → TreeWF s'
  edges : ∀ q x, x ∈ (ndx s' q).children → x ∈ (ndx s q).children ∨ (q = p ∧ x = ins)

/-- a pure removal: no new edge at all -/
structure RmR (s s' : St) : Prop where
  len : s'.nodes.length = s.nodes.length
  kind : ∀ i, (ndx s' i).kind = (ndx s i).kind
  pc : s'.pc = s.pc
  wf : TreeWF s → TreeWF s'
  edges : ∀ q x, x ∈ (ndx s' q).children → x ∈ (ndx s q).children

theorem RmR.refl (s : St) : RmR s s := ⟨rfl, fun _ => rfl, rfl, id, fun _ _ h => h⟩

theorem RmR.trans {a b c : St} (h1 : RmR a b) (h2 : RmR b c) : RmR a c :=
  ⟨h2.len.trans h1.len, fun i => (h2.kind i).trans (h1.kind i), h2.pc.trans h1.pc, fun w => h2.wf (h1.wf w),
   fun q x h => h1.edges q x (h2.edges q x h)⟩

theorem modNode_state {id : Nat} {f : Blocks.Node → Blocks.Node} {s s' : St} (h : modNode id f s = .ok ((), s')) :
    s' = { s with nodes := s.nodes.set id (f (ndx s id)) } := modNode_ok h

theorem ndx_mod (s : St) (id : Nat) (f : Blocks.Node → Blocks.Node) (i : Nat) :
    ndx { s with nodes := s.nodes.set id (f (ndx s id)) } i =
      if i = id ∧ id < s.nodes.length then f (ndx s id) else ndx s i := ndx_set s id _ i s.r s.pc

theorem modNode_ndx {id : Nat} {f : Blocks.Node → Blocks.Node} {s s' : St} (h : modNode id f s = .ok ((), s')) (i : Nat) :
    ndx s' i = if i = id ∧ id < s.nodes.length then f (ndx s id) else ndx s i := by
  have := modNode_state h; subst this; exact ndx_mod s id f i

theorem mem_erase_of {α} [DecidableEq α] {a b : α} {l : List α} (h : a ∈ l.erase b) : a ∈ l := List.mem_of_mem_erase h

theorem removeChild_rm (p c : Nat) (s s' : St) (h : removeChild p c s = .ok ((), s')) :
    RmR s s' ∧ ((ndx s c).parent = some p → (ndx s' c).parent = none) ∧
      (∀ i, i ≠ c → (ndx s' i).parent = (ndx s i).parent) ∧
      ((ndx s c).parent ≠ some p → s' = s) := by
  unfold removeChild at h
  obtain ⟨cn, s0, h0, h⟩ := bind_ok h
  obtain ⟨rfl, rfl⟩ := getNode_ok h0
  by_cases hpar : (ndx s0 c).parent = some p
  · have hne : ((ndx s0 c).parent != some p) = false := by simp [hpar]
    simp only [ndx] at hne
    simp only [hne, Bool.false_eq_true, if_false] at h
    obtain ⟨_, s1, h1, h2⟩ := bind_ok h
    have e1 := modNode_state h1
    have e2 := modNode_state h2
    -- the links of s1, s'
    have c1 : ∀ i, (ndx s1 i).children = if i = p then (ndx s0 p).children.erase c else (ndx s0 i).children := by
      intro i; rw [modNode_ndx h1]
      by_cases hi : i = p
      · subst hi
        by_cases hv : i < s0.nodes.length
        · simp [hv]
        · simp [hv, ndx_ge s0 (Nat.le_of_not_lt hv)]
          rfl
      · simp [hi]
    have p1 : ∀ i, (ndx s1 i).parent = (ndx s0 i).parent := by
      intro i; rw [modNode_ndx h1]; split
      · rename_i e; rw [e.1]
      · rfl
    have k1 : ∀ i, (ndx s1 i).kind = (ndx s0 i).kind := by
      intro i; rw [modNode_ndx h1]; split
      · rename_i e; rw [e.1]
      · rfl
    have l1 : s1.nodes.length = s0.nodes.length := by rw [e1]; simp
    have c2 : ∀ i, (ndx s' i).children = (ndx s1 i).children := by
      intro i; rw [modNode_ndx h2]; split
      · rename_i e; rw [e.1]
      · rfl
    have k2 : ∀ i, (ndx s' i).kind = (ndx s1 i).kind := by
      intro i; rw [modNode_ndx h2]; split
      · rename_i e; rw [e.1]
      · rfl
    have p2 : ∀ i, (ndx s' i).parent = if i = c then none else (ndx s1 i).parent := by
      intro i; rw [modNode_ndx h2]
      by_cases hi : i = c
      · subst hi
        by_cases hv : i < s1.nodes.length
        · simp [hv]
        · simp [hv, ndx_ge s1 (Nat.le_of_not_lt hv)]
          rfl
      · simp [hi]
    have l2 : s'.nodes.length = s1.nodes.length := by rw [e2]; simp
    have hpc : s'.pc = s0.pc := by rw [e2, e1]
    have hch : ∀ i, (ndx s' i).children = if i = p then (ndx s0 p).children.erase c else (ndx s0 i).children :=
      fun i => (c2 i).trans (c1 i)
    have hpa : ∀ i, (ndx s' i).parent = if i = c then none else (ndx s0 i).parent := by
      intro i; rw [p2 i]; split
      · rfl
      · exact p1 i
    refine ⟨⟨l2.trans l1, fun i => (k2 i).trans (k1 i), hpc, fun w => ?_, fun q x hx => ?_⟩, fun _ => ?_, fun i hi => ?_,
      fun hn => absurd hpar hn⟩
    · -- well-formedness
      refine ⟨fun q x hx => ?_, fun q => ?_, ?_, by rw [l2, l1]; exact w.ne, by rw [k2, k1]; exact w.rootKind⟩
      · rw [hch] at hx
        by_cases hq : q = p
        · subst hq
          simp only [if_true] at hx
          have hx' := mem_erase_of hx
          obtain ⟨a, b⟩ := w.edge q x hx'
          have hxc : x ≠ c := by
            intro e; subst e
            exact (List.Nodup.not_mem_erase (w.nodup q)) hx
          refine ⟨by rw [l2, l1]; exact a, ?_⟩
          rw [hpa]; simp [hxc, b]
        · simp only [hq, if_false] at hx
          obtain ⟨a, b⟩ := w.edge q x hx
          have hxc : x ≠ c := by
            intro e; subst e
            rw [b] at hpar; cases hpar; exact hq rfl
          refine ⟨by rw [l2, l1]; exact a, ?_⟩
          rw [hpa]; simp [hxc, b]
      · rw [hch]; split
        · exact (w.nodup p).erase c
        · exact w.nodup q
      · rw [hpa]; split
        · rfl
        · exact w.root
    · rw [hch] at hx
      split at hx
      · rename_i e; subst e; exact mem_erase_of hx
      · exact hx
    · rw [hpa]; simp
    · rw [hpa]; simp [hi]
  · have hne : ((ndx s0 c).parent != some p) = true := by simp [hpar]
    simp only [ndx] at hne
    simp only [hne, if_true] at h
    cases h
    exact ⟨RmR.refl _, fun e => absurd e hpar, fun _ _ => rfl, fun _ => rfl⟩

/-- `children p := g (children p)`, `parent ins := some p` for an isolated `ins`, where `g` adds exactly `ins` -/
theorem attach_op (g : List Nat → List Nat) (p ins : Nat) (s s1 s' : St)
    (hg : ∀ l x, x ∈ g l ↔ x = ins ∨ x ∈ l) (hgn : ∀ l, l.Nodup → ins ∉ l → (g l).Nodup)
    (h1 : modNode p (fun n => { n with children := g n.children }) s = .ok ((), s1))
    (h2 : modNode ins (fun n => { n with parent := some p }) s1 = .ok ((), s'))
    (hiso : (ndx s ins).parent = none) :
    OpR p ins s s' ∧ ((ndx s' ins).parent = some p ∨ s.nodes.length ≤ ins) ∧
      (∀ i, i ≠ ins → (ndx s' i).parent = (ndx s i).parent) := by
  have e1 := modNode_state h1
  have e2 := modNode_state h2
  have l1 : s1.nodes.length = s.nodes.length := by rw [e1]; simp
  have l2 : s'.nodes.length = s1.nodes.length := by rw [e2]; simp
  have k1 : ∀ i, (ndx s1 i).kind = (ndx s i).kind := by
    intro i; rw [modNode_ndx h1]; split
    · rename_i e; rw [e.1]
    · rfl
  have k2 : ∀ i, (ndx s' i).kind = (ndx s1 i).kind := by
    intro i; rw [modNode_ndx h2]; split
    · rename_i e; rw [e.1]
    · rfl
  have p1 : ∀ i, (ndx s1 i).parent = (ndx s i).parent := by
    intro i; rw [modNode_ndx h1]; split
    · rename_i e; rw [e.1]
    · rfl
  have c2 : ∀ i, (ndx s' i).children = (ndx s1 i).children := by
    intro i; rw [modNode_ndx h2]; split
    · rename_i e; rw [e.1]
    · rfl
  have c1 : ∀ i, (ndx s1 i).children = if i = p ∧ p < s.nodes.length then g (ndx s p).children else (ndx s i).children := by
    intro i; rw [modNode_ndx h1]; split
    · rfl
    · rfl
  have p2 : ∀ i, (ndx s' i).parent = if i = ins ∧ ins < s.nodes.length then some p else (ndx s i).parent := by
    intro i; rw [modNode_ndx h2, l1]; split
    · rfl
    · exact p1 i
  have hch : ∀ i, (ndx s' i).children = if i = p ∧ p < s.nodes.length then g (ndx s p).children else (ndx s i).children :=
    fun i => (c2 i).trans (c1 i)
  refine ⟨⟨l2.trans l1, fun i => (k2 i).trans (k1 i), by rw [e2, e1], fun w hiv hi0 => ?_, fun q x hx => ?_⟩, ?_,
    fun i hi => ?_⟩
  · -- `ins` is in no child list
    have hnot : ∀ q, ins ∉ (ndx s q).children := by
      intro q hq
      have := (w.edge q ins hq).2
      rw [hiso] at this; cases this
    refine ⟨fun q x hx => ?_, fun q => ?_, ?_, by rw [l2, l1]; exact w.ne, by rw [k2, k1]; exact w.rootKind⟩
    · rw [hch] at hx
      rw [l2, l1, p2]
      split at hx
      · rename_i e
        obtain ⟨rfl, _⟩ := e
        rcases (hg _ _).1 hx with rfl | hx
        · exact ⟨hiv, by simp [hiv]⟩
        · obtain ⟨a, b⟩ := w.edge q x hx
          have : x ≠ ins := fun e => hnot q (e ▸ hx)
          exact ⟨a, by simp [this, b]⟩
      · obtain ⟨a, b⟩ := w.edge q x hx
        have : x ≠ ins := fun e => hnot q (e ▸ hx)
        exact ⟨a, by simp [this, b]⟩
    · rw [hch]; split
      · exact hgn _ (w.nodup p) (hnot p)
      · exact w.nodup q
    · rw [p2]
      have : ¬ (0 = ins ∧ ins < s.nodes.length) := fun e => hi0 e.1.symm
      simp only [this, if_false]; exact w.root
  · rw [hch] at hx
    split at hx
    · rename_i e
      obtain ⟨rfl, _⟩ := e
      rcases (hg _ _).1 hx with rfl | hx
      · exact Or.inr ⟨rfl, rfl⟩
      · exact Or.inl hx
    · exact Or.inl hx
  · by_cases hv : ins < s.nodes.length
    · left; rw [p2]; simp [hv]
    · right; exact Nat.le_of_not_lt hv
  · rw [p2]; simp [hi]

theorem _root_.GM.Blocks.TreeOp.linesx {R : Nat → Prop} {C : Nat → Nat → Prop} {s s' : St} (h : TreeOp R C s s') (i : Nat) :
    (ndx s' i).lines = (ndx s i).lines := h.lines i

theorem OpR.refl (p ins : Nat) (s : St) : OpR p ins s s := ⟨rfl, fun _ => rfl, rfl, fun w _ _ => w, fun _ _ h => .inl h⟩

theorem OpR.trans {p ins : Nat} {a b c : St} (h1 : OpR p ins a b) (h2 : OpR p ins b c) : OpR p ins a c where
  len := h2.len.trans h1.len
  kind := fun i => (h2.kind i).trans (h1.kind i)
  pc := h2.pc.trans h1.pc
  wf := fun w hi h0 => h2.wf (h1.wf w hi h0) (by rw [h1.len]; exact hi) h0
  edges := fun q x hx => (h2.edges q x hx).elim (h1.edges q x) .inr

/-- a run of the mutators (GM.Proof.BlocksTreeOp) that puts nothing but `ins` under `p`: the two cases are `removeChild_rm` and `attach_op` -/
theorem OpR.of_treeOp {p ins : Nat} {s s' : St} (h : TreeOp (fun _ => True) (fun q x => q = p ∧ x = ins) s s') : OpR p ins s s' := by
  induction h with
  | refl s => exact .refl p ins s
  | trans _ _ ih1 ih2 => exact ih1.trans ih2
  | rm s q c _ hpar =>
    have e := removeChild_run q c s
    rw [if_pos hpar] at e
    have r := (removeChild_rm q c s _ e).1
    exact ⟨r.len, r.kind, r.pc, fun w _ _ => r.wf w, fun a x hx => .inl (r.edges a x hx)⟩
  | link s g q c hc hg hgn hiso =>
    obtain ⟨rfl, rfl⟩ := hc
    exact (attach_op g q c s _ _ hg hgn (modNode_eq q _ s) (modNode_eq c _ _) hiso).1

theorem appendChild_op (p c : Nat) (s s' : St) (h : appendChild p c s = .ok ((), s')) : OpR p c s s' :=
  .of_treeOp (appendChild_treeOp trivial ⟨rfl, rfl⟩ h).1

theorem insertBefore_op (p : Nat) (v1 : Option Nat) (ins : Nat) (s s' : St)
    (h : insertBefore p v1 ins s = .ok ((), s')) : OpR p ins s s' :=
  .of_treeOp (insertBefore_treeOp v1 trivial ⟨rfl, rfl⟩ h).1

theorem insertAfter_op (p : Nat) (v1 : Option Nat) (ins : Nat) (s s' : St)
    (h : insertAfter p v1 ins s = .ok ((), s')) : OpR p ins s s' :=
  .of_treeOp (insertAfter_treeOp v1 trivial ⟨rfl, rfl⟩ h).1

theorem replaceChild_op (p v1 ins : Nat) (s s' : St) (h : replaceChild p v1 ins s = .ok ((), s')) : OpR p ins s s' :=
  .of_treeOp (replaceChild_treeOp trivial trivial ⟨rfl, rfl⟩ h)

end GM.ConvertH
end ConvertHWFOps
