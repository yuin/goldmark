/-
  GM.Proof.ConvertLFlush — Linkify on a source without ':', '@' and `www.`: in every consultation of the inline loop the parser returns nil and leaves the state alone, so the
  loop over the table with Linkify is the loop with `nullParser` in its place (`convertFlush`); and why the consultation's flush of the pending text is
  invisible inside a line (`mergeOrAppend_twice`).
-/
import GM.Model.Inlines
import GM.Proof.ConvertLTotal

section ConvertLFlushMerge
/-
  Why the consultation flush (parser.go:1203-1211) is invisible INSIDE a line: flushing the pending
  text `[a, b)` and later the text `[b, c)` behind it leaves `parent`'s children exactly as one flush of `[a, c)` does
  (`ast.MergeOrAppendTextSegment` merges into a last Text child that ends where the segment starts). So the run with an extra
  consultation and the run without it agree again at the next common flush. What the consultation leaves visible is only the
  cut in front of the END-OF-LINE Text, which parseBlock appends without merging (parser.go:1252-1269).
-/

namespace GM.Proof.ConvertLFlushMerge
open GM GM.Text GM.Inl GM.Proof.Inlines

/-- **two flushes in a row are one flush**: for segments `s1 = [a, b)`, `s2 = [b, c)` of the same line (same padding and
    `ForceNewline`), whatever the children are. Only the last child matters (`mergeOrAppend_concat`). -/
theorem mergeOrAppend_twice (kids : List Inl.Node) (s1 s2 : Segment) (h : s1.stop = s2.start) :
    mergeOrAppend (mergeOrAppend kids s1) s2 = mergeOrAppend kids (s1.withStop s2.stop) := by
  rcases List.eq_nil_or_concat kids with rfl | ⟨ys, x, rfl⟩
  · simp [mergeOrAppend, textOf, h, Segment.withStop]
  · rw [List.concat_eq_append, mergeOrAppend_concat, mergeOrAppend_concat, mergeOrAppend_append _ (mergeOrAppend_ne_nil _ _)]
    congr 1
    cases x with
    | text seg so ha ra =>
      by_cases hm : seg.stop = s1.start ∧ so = false <;> simp [mergeOrAppend, textOf, h, Segment.withStop, hm]
    | _ => simp [mergeOrAppend, textOf, h, Segment.withStop]

end GM.Proof.ConvertLFlushMerge
end ConvertLFlushMerge

section ConvertLFlush
/-
  With `nullParser` in Linkify's place the consultation — Advance, the flush of the pending text, SetPosition — stays.
  Generic part: two tables whose entries agree on the states of a run (loop invariant `LInv`, non-empty peeked line) give the
  same run (`lineLoopX_agree`: GM.Proof.InlinesLoopTotal's `lineLoopX_agreeAt`, the agreement given entry by entry); in
  particular two tables that are equal at ' ' and at every byte of the source (`lineLoopX_eq2`).
-/

namespace GM.Proof.ConvertLFlush
open GM GM.Text GM.Spec GM.Inl GM.Proof.Reader GM.Proof.InlinesReader GM.Proof.Inlines GM.Proof.InlinesTotal
open GM.Proof.InlinesLink GM.Proof.ConvertXRelv GM.Proof.ConvertXTotal

variable {src : Bytes} {segs : List Segment}

/-- entry lists that agree, position by position, on every state of a run that is consulted at byte `b` -/
inductive AgreeL (X : Ctx) (src : Bytes) (segs : List Segment) (env : Env) (b : UInt8) : List XIp → List XIp → Prop
  | nil : AgreeL X src segs env b [] []
  | cons {p q : XIp} {l1 l2 : List XIp} :
      (∀ (st : St) (c : BCur) (l : Bytes), LInv X src segs st c → BCur.view src segs c = some (b :: l) →
        q.parse env st = p.parse env st) →
      AgreeL X src segs env b l1 l2 → AgreeL X src segs env b (p :: l1) (q :: l2)

theorem AgreeL.refl (X : Ctx) (env : Env) (b : UInt8) : ∀ l : List XIp, AgreeL X src segs env b l l
  | [] => .nil
  | _ :: r => .cons (fun _ _ _ _ _ => rfl) (AgreeL.refl X env b r)

theorem AgreeL.isEmpty {X : Ctx} {env : Env} {b : UInt8} {l1 l2 : List XIp} (h : AgreeL X src segs env b l1 l2) :
    l2.isEmpty = l1.isEmpty := by
  cases h <;> rfl

theorem AgreeL.append {X : Ctx} {env : Env} {b : UInt8} {a1 a2 b1 b2 : List XIp} (h1 : AgreeL X src segs env b a1 a2)
    (h2 : AgreeL X src segs env b b1 b2) : AgreeL X src segs env b (a1 ++ b1) (a2 ++ b2) := by
  induction h1 with
  | nil => exact h2
  | cons hp _ ih => exact .cons hp ih

theorem tryParsersX_agree (X : Ctx) (F : SegFacts src segs) (env : Env)
    {r0 : BlockReader} {c : BCur} {b : UInt8} {l : Bytes}
    (h0 : RS src segs r0 c) (hv : BCur.view src segs c = some (b :: l)) {ips1 ips2 : List XIp}
    (hA : AgreeL X src segs env b ips1 ips2) :
    ∀ (st : St), LInv X src segs st c →
    (∀ ip ∈ ips1, PContract X src segs (· == b) (ip.parse env)) →
    tryParsersX env r0.position.1 r0.position.2 ips2 st = tryParsersX env r0.position.1 r0.position.2 ips1 st := by
  induction hA with
  | nil => intro _ _ _; rfl
  | cons hp _ ih =>
    intro st hI ht
    rename_i p q l1 l2 _
    obtain ⟨n, st1, c1, e1, e2, e3, e4, e5⟩ := ht p (by simp) st c b l hI hv (by simp)
    simp only [tryParsersX, hp st c l hI hv, e1, bind, Except.bind]
    cases n with
    | some nd => rfl
    | none =>
      obtain ⟨r3, s1, s2⟩ := setPosition_restore F h0 e2
      simp only [s1]
      exact ih { st1 with rd := r3 } ⟨s2, e5.1, e5.2⟩ (fun ip' hip => ht ip' (by simp [hip]))

theorem AgreeAt.of_agreeL {X : Ctx} (F : SegFacts src segs) {env : Env} {b : UInt8} {l1 l2 : List XIp}
    (hA : AgreeL X src segs env b l1 l2) (hC : ∀ ip ∈ l1, PContract X src segs (· == b) (ip.parse env)) :
    AgreeAt 0 X src segs env b l1 l2 :=
  ⟨hA.isEmpty, fun st _ _ _ _ _ hI hv => tryParsersX_agree X F env (linvLo_zero.mp hI).rs hv hA st (linvLo_zero.mp hI) hC⟩

theorem lineLoopX_agree (X : Ctx) (F : SegFacts src segs) (Z : ∀ s ∈ segs, s.padding = 0) (env : Env)
    (T1 T2 : UInt8 → List XIp)
    (hC32 : ∀ ip ∈ T1 32, ∀ b, PContract X src segs (· == b) (ip.parse env))
    (hC : ∀ b, ∀ ip ∈ T1 b, PContract X src segs (· == b) (ip.parse env))
    (hA : ∀ b ∈ src, ∀ i, AgreeL X src segs env b (T1 (parserChar b i)) (T2 (parserChar b i))) :
    ∀ (fuel : Nat) (esc : Bool) (st : St) (c : BCur), LInv X src segs st c →
    (BCur.remaining segs c).toNat < fuel → lineLoopX env T2 fuel esc st = lineLoopX env T1 fuel esc st := by
  have hC32' := fun ip h b => pcontractLo_zero.mpr (hC32 ip h b)
  have hC' := fun b ip h => pcontractLo_zero.mpr (hC b ip h)
  simpa only [linvLo_zero] using lineLoopX_agreeAt X (Int.le_refl 0) F Z env T1 T2 hC32' hC' fun b hb i =>
    AgreeAt.of_agreeL F (hA b hb i) fun ip h => pcontractLo_zero.mp (contracts_parserChar hC32' hC' b i ip h)

end GM.Proof.ConvertLFlush

namespace GM.Proof.ConvertXTotal
open GM GM.Text GM.Spec GM.Inl GM.Proof.Reader GM.Proof.InlinesReader GM.Proof.Inlines GM.Proof.InlinesTotal GM.Proof.ConvertLFlush

variable {src : Bytes} {segs : List Segment}

theorem lineLoopX_eq2 (X : Ctx) (F : SegFacts src segs) (Z : ∀ s ∈ segs, s.padding = 0) (env : Env)
    (T1 T2 : UInt8 → List XIp)
    (hC32 : ∀ ip ∈ T1 32, ∀ b, PContract X src segs (· == b) (ip.parse env))
    (hC : ∀ b, ∀ ip ∈ T1 b, PContract X src segs (· == b) (ip.parse env))
    (h32 : T2 32 = T1 32) (hT : ∀ c ∈ src, T2 c = T1 c) :
    ∀ (fuel : Nat) (esc : Bool) (st : St) (c : BCur), LInv X src segs st c →
    (BCur.remaining segs c).toNat < fuel → lineLoopX env T2 fuel esc st = lineLoopX env T1 fuel esc st := by
  simpa only [linvLo_zero] using lineLoopX_eq_lo X (Int.le_refl 0) F Z env T1 T2
    (fun ip h b => pcontractLo_zero.mpr (hC32 ip h b)) (fun b ip h => pcontractLo_zero.mpr (hC b ip h)) h32 hT

end GM.Proof.ConvertXTotal

namespace GM.Proof.ConvertLFlush
open GM GM.Text GM.Spec GM.Inl GM.Proof.Reader GM.Proof.InlinesReader GM.Proof.Inlines GM.Proof.InlinesTotal
open GM.Proof.InlinesLink GM.Proof.ConvertXRelv GM.Proof.ConvertXTotal

variable {src : Bytes} {segs : List Segment}

theorem isPrefixOf_take : ∀ (p l : Bytes) (k : Nat), p.isPrefixOf (l.take k) = true → p.isPrefixOf l = true
  | [], _, _, _ => by simp
  | _ :: _, [], k, h => by simp at h
  | a :: p, b :: l, 0, h => by simp at h
  | a :: p, b :: l, k + 1, h => by
    simp only [List.take_succ_cons, List.isPrefixOf, Bool.and_eq_true] at h ⊢
    exact ⟨h.1, isPrefixOf_take p l k h.2⟩

theorem hasInfix_false_of_drops {pat : Bytes} : ∀ (l : Bytes), (∀ k, pat.isPrefixOf (l.drop k) = false) →
    GM.Ext.hasInfix pat l = false
  | [], h => by simpa [GM.Ext.hasInfix] using h 0
  | a :: r, h => by
    simp only [GM.Ext.hasInfix, Bool.or_eq_false_iff]
    exact ⟨by simpa using h 0, hasInfix_false_of_drops r (fun k => by simpa using h (k + 1))⟩

theorem hasInfix_sub {pat src : Bytes} (h : GM.Ext.hasInfix pat src = false) (a b : Nat) :
    GM.Ext.hasInfix pat (sub src a b) = false := by
  apply hasInfix_false_of_drops
  intro k
  cases hh : pat.isPrefixOf ((sub src a b).drop k) with
  | false => rfl
  | true =>
    exfalso
    unfold sub at hh
    rw [List.drop_take] at hh
    have := isPrefixOf_take _ _ _ hh
    rw [List.drop_drop] at this
    rw [GM.Ext.no_prefix_of_drop h] at this
    cases this

theorem parseLinkify_null (X : Ctx) (F : SegFacts src segs) (env : Env)
    (hcolon : (58 : UInt8) ∉ src) (hat : (64 : UInt8) ∉ src) (hwww : GM.Ext.hasInfix GM.Ext.domainWWW src = false)
    (st : St) (c : BCur) (b : UInt8) (l : Bytes) (hI : LInv X src segs st c) (hv : BCur.view src segs c = some (b :: l)) :
    parseLinkify env st = .ok (none, st) := by
  obtain ⟨hpl, _⟩ := peekLine_facts F hI.rs
  obtain ⟨_, _, _, _, v5, _, _, _⟩ := view_some F hI.rs.abs.wf hI.rs.pad hv
  rw [hv] at hpl
  have hmem : ∀ x, x ∈ b :: l → x ∈ src := fun x hx => by rw [v5] at hx; exact sub_mem hx
  have := GM.Proof.ConvertL.parseLinkify_declines env st (b :: l) st.rd.pos st.rd hpl (by simp)
    (fun h => hcolon (hmem _ h)) (fun h => hat (hmem _ h)) (by rw [v5]; exact hasInfix_sub hwww _ _)
  rcases this with h | h
  · exact h
  · exact h

open GM.ConvertX GM.Convert GM.Proof.ConvertX GM.Proof.ConvertLTotal in
theorem lineLoopL_flush (c : XCfg) (inItem : Bool) (W : WFSegs src segs) (Z : ∀ s ∈ segs, s.padding = 0) (env : Env)
    (hcolon : (58 : UInt8) ∉ src) (hat : (64 : UInt8) ∉ src) (hwww : GM.Ext.hasInfix GM.Ext.domainWWW src = false)
    (rd : BlockReader) (h0 : BlockReader.new src segs = .ok rd) :
    lineLoopX env (inlineTblL { base := c, linkify := true } inItem) (blockFuel src segs) false { rd := rd } =
      lineLoopX env (flushTbl c inItem) (blockFuel src segs) false { rd := rd } := by
  have F := segFacts W
  obtain ⟨r0, e0, hI, hfuel⟩ := block_start W Z
  rw [h0] at e0
  simp only [Except.ok.injEq] at e0
  subst e0
  symm
  apply lineLoopX_agree _ F Z env (inlineTblL { base := c, linkify := true } inItem) (flushTbl c inItem)
    (inlineTblL_32 _ inItem W Z env) (inlineTblL_contracts _ inItem W Z env) ?_ _ false _ _ hI hfuel
  intro b _ i
  unfold inlineTblL flushTbl
  apply AgreeL.append (AgreeL.refl _ env b _)
  simp only [Bool.true_and]
  split
  · refine .cons ?_ .nil
    intro st cc l hI' hv
    exact (parseLinkify_null _ F env hcolon hat hwww st cc b l hI' hv).symm
  · exact .nil

open GM.ConvertX GM.Convert

theorem bind_congr_ok {α β : Type} {m : Except Panic α} {f g : α → Except Panic β} (h : ∀ a, m = .ok a → f a = g a) :
    (m >>= f) = (m >>= g) := by
  cases m with
  | error e => rfl
  | ok a => exact h a rfl

theorem parseBlockG_eq (env : Env) (tbl : UInt8 → List XIp) (pd : PD) (src : Bytes) (segs : List Segment) :
    parseBlockG env tbl pd src segs = (BlockReader.new src segs >>= fun rd =>
      lineLoopX env tbl (blockFuel src segs) false { rd := rd } >>= fun st =>
      pd .nil st.kids >>= fun kids => pure (closeLabelsL kids)) := rfl

theorem parseBlockG_flush (c : XCfg) (inItem : Bool) (W : WFSegs src segs) (Z : ∀ s ∈ segs, s.padding = 0) (env : Env)
    (pd : PD) (hcolon : (58 : UInt8) ∉ src) (hat : (64 : UInt8) ∉ src)
    (hwww : GM.Ext.hasInfix GM.Ext.domainWWW src = false) :
    parseBlockG env (inlineTblL { base := c, linkify := true } inItem) pd src segs =
      parseBlockG env (flushTbl c inItem) pd src segs := by
  rw [parseBlockG_eq, parseBlockG_eq]
  apply bind_congr_ok
  intro rd h0
  rw [lineLoopL_flush c inItem W Z env hcolon hat hwww rd h0]

section doc
open GM.ConvertX GM.Convert

variable (hcolon : (58 : UInt8) ∉ src) (hat : (64 : UInt8) ∉ src) (hwww : GM.Ext.hasInfix GM.Ext.domainWWW src = false)
include hcolon hat hwww

theorem inlineLinesL_flush (c : XCfg) (env : Env) (inItem : Bool) (lines : List Segment) :
    inlineLinesL { base := c, linkify := true } true env src inItem lines = inlineLinesF c true env src inItem lines := by
  unfold inlineLinesL inlineLinesF
  split
  · rfl
  · split
    · rfl
    · rename_i hw
      have hw' : GM.LinkRef.wf0B src lines = true := by simpa using hw
      obtain ⟨W, Z⟩ := GM.Proof.LinkRefTotal.wf0B_sound hw'
      rw [parseBlockG_flush c inItem W Z env _ hcolon hat hwww]

theorem inlinePhaseL_flush (c : XCfg) (env : Env) (inItem : Bool) (n : GM.Blocks.Node) :
    inlinePhaseL { base := c, linkify := true } true env src inItem n = inlinePhaseF c true env src inItem n := by
  unfold inlinePhaseL inlinePhaseF
  simp only [inlineLinesL_flush hcolon hat hwww]

mutual
theorem docTreeL_flush (c : XCfg) (env : Env) (escs : List Int) (inItem : Bool) :
    ∀ t : GM.Blocks.Tree, docTreeL { base := c, linkify := true } true env src escs inItem t = docTreeF c true env src escs inItem t
  | .node n cs => by
    unfold docTreeL docTreeF
    rw [docTreesL_flush c env escs _ _ cs, inlinePhaseL_flush hcolon hat hwww]
theorem docTreesL_flush (c : XCfg) (env : Env) (escs : List Int) (pi first : Bool) :
    ∀ ts : List GM.Blocks.Tree,
    docTreesL { base := c, linkify := true } true env src escs pi first ts = docTreesF c true env src escs pi first ts
  | [] => by unfold docTreesL docTreesF; rfl
  | t :: rest => by
    unfold docTreesL docTreesF
    rw [docTreeL_flush c env escs _ t, docTreesL_flush c env escs _ _ rest]
end

theorem convertL_flush (c : XCfg) (uc : List (Nat × (Bool × Bool))) (o : ROpts) :
    convertL { base := c, linkify := true } uc o src = convertFlush c uc o src := by
  unfold convertL convertLWith convertFlush parseDocL parseDocF
  simp only [docTreeL_flush hcolon hat hwww]

end doc

end GM.Proof.ConvertLFlush
end ConvertLFlush
