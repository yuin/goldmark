/-
  GM.Proof.ShiftSimXRight — the RIGHT-EXTENSION simulation: run A on `b` (ending with a line feed), run B on
  `b ++ "\n" ++ L ++ rest` (`L` a non-blank line); frame: no prefix, no old nodes, only the suffix (the id map is the
  identity and related stores are EQUAL). The two runs go together as long as run A has a line (GM.Proof.ShiftSimXDriver).
  1. `SkipBlankLines`: while run A sees lines of `b` both runs step together; when run A's blank lines reach the end of
     `b`, run A answers `(_, lines, false)`, run B skips one blank line more (the `\n` in front of `L`) and answers
     `(_, lines + 1, true)`, its reader standing at the start of `L`;
  2. the end of run A's source: what `AdvanceLine` gives out of the limbo relation (either both runs have a line again, or
     run A stands at the end of `b` and run B on the first line of the suffix), and what is known in the second case;
  3. the line loops when run A reaches the end of `b`: nothing open — run A's `SkipBlankLines` ends the run, run B's skips
     the blank line and stands on `L`; blocks open — run A closes them all (`closeBlocks(last, 0)`), run B reads the blank
     line, on which the first open block does not continue (it is not a raw block: tree criterion `endsInRawBlock`), so
     it closes them all with the same call and arrives on `L` with nothing open (`XEnd`, the inner `for {}`). In both
     cases run B then stands at the top of the outer loop with run A's FINAL store (`TopB`, `GoalQ`);
  4. whole runs (`run_reaches_top`): for a source `b` that ends with a line feed and triggers none of the list / setext /
     fenced parsers (`PlainL`), whose final tree does not end in a raw block, the run on `b ++ "\n" ++ L ++ rest` passes
     through the top of the outer loop with the FINAL STORE of `run b`, nothing open, keys unset, on its way to `L` —
     prefix determinism + "closing at the end of the source = closing by a blank line" in one statement, given that run
     A's invariants survive a pass (`PassKeeps`, `OpenKeeps`, discharged in GM.Proof.ShiftSimXPrefix).
-/
import GM.Proof.ShiftSimXRel
import GM.Proof.ShiftSimEnd
import GM.Proof.ShiftSimXDriver
import GM.Proof.ShiftSimXSafe
import GM.Proof.ShiftSimXBlank
import GM.Proof.ShiftSimXOpens
import GM.Proof.ShiftSimXTop3
import GM.Proof.ShiftSimXTop
import GM.Proof.ShiftSimXSafe2
import GM.Proof.ShiftSimXParsers
import GM.Proof.ShiftSimXHcl
import GM.Proof.ShiftSimXNext

namespace GM.Blocks.Xs
open GM GM.Text GM.Spec GM.Proof.Reader GM.Blocks

/-- the frame of a right extension by `q` -/
def FX (q : Bytes) : Frame := { p := [], dl := 0, c := 0, kids0 := [], flag := true, oldNodes := [], q := q }

theorem FX_d (q : Bytes) : (FX q).d = 0 := rfl

theorem FX_ι (q : Bytes) (j : Nat) : (FX q).ι j = j := by
  unfold Frame.ι FX
  split
  · next h => exact h.symm
  · rfl

theorem FX_ι_fun (q : Bytes) : (FX q).ι = id := funext (FX_ι q)

theorem moveSeg_zero' : moveSeg 0 = id := by
  funext s; cases s; simp [moveSeg]

theorem FX_shN (q : Bytes) (root : Bool) (n : Node) : shN (FX q) root n = n := by
  have h1 : (FX q).kids0 = [] := rfl
  unfold shN
  rw [FX_ι_fun, FX_d, moveSeg_zero', h1]
  have hc : shClosure 0 n.closure = n.closure := by
    unfold shClosure
    split
    · rfl
    · rw [moveSeg_zero']; rfl
  cases n
  simp only [List.map_id, Option.map_id', id_eq, hc]
  cases root <;> simp

theorem FX_shB (q : Bytes) (x : Block) : shB (FX q) x = x := by
  unfold shB; rw [FX_ι]

theorem FX_shB_map (q : Bytes) (l : List Block) : l.map (shB (FX q)) = l := by
  induction l with
  | nil => rfl
  | cons x xs ih => rw [List.map_cons, FX_shB, ih]

theorem FX_store {q : Bytes} {nA nB : List Node} (h : StoreRel (FX q) nA nB) : nB = nA := by
  apply List.ext_getElem
  · rw [h.len]; rfl
  · intro i h1 h2
    have := h.node i
    rw [FX_ι, FX_shN] at this
    have e1 : nB.getD i default = nB[i] := by simp [List.getD, h1]
    have e2 : nA.getD i default = nA[i] := by simp [List.getD, h2]
    rw [e1, e2] at this
    exact this

end GM.Blocks.Xs

namespace GM.Blocks.Xs
open GM GM.Text GM.Spec GM.Proof.Reader GM.Blocks

theorem xsk_lineEnd_at (pre L rest body : Bytes) (hL : L = body ++ [10]) (hb : ∀ c ∈ body, c ≠ 10) :
    lineEnd (pre ++ (L ++ rest)) pre.length = pre.length + L.length := by
  unfold lineEnd
  rw [if_pos (by simp), List.drop_left' rfl]
  subst hL
  have e : body ++ [10] ++ rest = body ++ 10 :: rest := by simp
  rw [e, Sh.lineLen_noLF body rest hb]
  simp

theorem xsk_sub_at (pre L rest : Bytes) : sub (pre ++ (L ++ rest)) pre.length (pre.length + L.length) = L := by
  unfold sub
  rw [List.drop_left' rfl]
  have : pre.length + L.length - pre.length = L.length := by omega
  rw [this, List.take_left' rfl]

/-- what run B's reader looks like when it stands at the start of `L` -/
structure XskEnd (F : Frame) (b L : Bytes) (rA rB : Reader) : Prop where
  source : rB.source = F.p ++ b ++ F.q
  pos : rB.pos = { start := ((F.p.length + b.length + 1 : Nat) : Int),
                   stop := ((F.p.length + b.length + 1 + L.length : Nat) : Int), padding := 0, forceNewline := false }
  line : rB.line = rA.line + F.dl + 1
  atLine : AtLine L rB
  riA : ∃ c, RI b rA c ∧ c.p = b.length

/-- `r0` is a reader whose line ends where `pre` ends; behind `pre` the source holds `\n`, then `L`. -/
theorem xsk_tail (pre L rest : Bytes) (r0 : Reader)
    (hL : ∃ body, L = body ++ [10] ∧ ∀ c ∈ body, c ≠ 10) (hLb : isBlank L = false)
    (hs : r0.source = pre ++ 10 :: (L ++ rest)) (hstop : r0.pos.stop = (pre.length : Int))
    (hf : r0.pos.forceNewline = false) :
    ∀ (f : Nat) (lines : Int) x r', skipBlankLines readerOps f lines r0.advanceLine = .ok (x, r') →
      x.2.2 = true ∧ x.2.1 = lines + 1 ∧ AtLine L r' ∧ r'.source = pre ++ 10 :: (L ++ rest) ∧
      r'.pos = { start := ((pre.length + 1 : Nat) : Int), stop := ((pre.length + 1 + L.length : Nat) : Int),
                 padding := 0, forceNewline := false } ∧ r'.line = r0.line + 2 := by
  obtain ⟨body, hLe, hbody⟩ := hL
  have e1 : lineEnd (pre ++ 10 :: (L ++ rest)) pre.length = pre.length + 1 := by
    have := xsk_lineEnd_at pre [10] (L ++ rest) [] rfl (by intro c hc; cases hc)
    simpa using this
  have s1 : sub (pre ++ 10 :: (L ++ rest)) pre.length (pre.length + 1) = [10] := by
    have := xsk_sub_at pre [10] (L ++ rest)
    simpa using this
  have esrc : pre ++ 10 :: (L ++ rest) = (pre ++ [10]) ++ (L ++ rest) := by simp
  have e2 : lineEnd (pre ++ 10 :: (L ++ rest)) (pre.length + 1) = pre.length + 1 + L.length := by
    have := xsk_lineEnd_at (pre ++ [10]) L rest body hLe hbody
    rw [esrc]; simpa using this
  have s2 : sub (pre ++ 10 :: (L ++ rest)) (pre.length + 1) (pre.length + 1 + L.length) = L := by
    have := xsk_sub_at (pre ++ [10]) L rest
    rw [esrc]; simpa using this
  have hLlen : 0 < L.length := by rw [hLe]; simp
  have hlen : (pre ++ 10 :: (L ++ rest)).length = pre.length + 1 + L.length + rest.length := by
    simp; omega
  have a1 : AtLine [10] r0.advanceLine := by
    have := Sh.atLine_advanceLine (r := r0) (src := pre ++ 10 :: (L ++ rest)) (k := pre.length) hs hstop hf (by omega)
    rwa [e1, s1] at this
  have q1 := Sh.advanceLine_eq r0 (by omega)
  have hs1 : r0.advanceLine.source = pre ++ 10 :: (L ++ rest) := by rw [q1]; exact hs
  have hstop1 : r0.advanceLine.pos.stop = ((pre.length + 1 : Nat) : Int) := by
    rw [q1]; simp only; rw [hs, hstop, Int.toNat_natCast, e1]
  have hf1 : r0.advanceLine.pos.forceNewline = false := by rw [q1]; exact hf
  have hl1 : r0.advanceLine.line = r0.line + 1 := by rw [q1]
  have a2 : AtLine L r0.advanceLine.advanceLine := by
    have := Sh.atLine_advanceLine (r := r0.advanceLine) (src := pre ++ 10 :: (L ++ rest)) (k := pre.length + 1)
      hs1 hstop1 hf1 (by omega)
    rwa [e2, s2] at this
  have q2 := Sh.advanceLine_eq r0.advanceLine (by omega)
  have hs2 : r0.advanceLine.advanceLine.source = pre ++ 10 :: (L ++ rest) := by rw [q2]; exact hs1
  have hp2 : r0.advanceLine.advanceLine.pos =
      { start := ((pre.length + 1 : Nat) : Int), stop := ((pre.length + 1 + L.length : Nat) : Int),
        padding := 0, forceNewline := false } := by
    rw [q2]; simp only; rw [hs1, hstop1, hf1, Int.toNat_natCast, e2]
  have hl2 : r0.advanceLine.advanceLine.line = r0.line + 2 := by rw [q2]; simp only; rw [hl1]; omega
  intro f lines x r' h
  cases f with
  | zero => unfold skipBlankLines at h; cases h
  | succ f =>
    unfold skipBlankLines at h
    obtain ⟨r1, p1, _, rc1⟩ := Sh.h2_peekLineR a1
    simp only [readerOps, p1, bind, Except.bind, Sh.h2_isBlank_nl, if_true, pure, Except.pure] at h
    rw [Sh.h2_advanceLine_congr rc1] at h
    cases f with
    | zero => unfold skipBlankLines at h; cases h
    | succ f =>
      unfold skipBlankLines at h
      obtain ⟨r2, p2, al2, rc2⟩ := Sh.h2_peekLineR a2
      simp only [readerOps, p2, bind, Except.bind, hLb, Bool.false_eq_true, if_false, pure, Except.pure] at h
      cases h
      exact ⟨rfl, rfl, al2, by rw [rc2.1, hs2], by rw [rc2.2.1, hp2], by rw [rc2.2.2, hl2]⟩

theorem xsk_loop (F : Frame) (b L rest : Bytes) (hq : F.q = 10 :: (L ++ rest))
    (hL : ∃ body, L = body ++ [10] ∧ ∀ c ∈ body, c ≠ 10) (hLb : isBlank L = false) (hnl : b.getLast? = some 10) :
    ∀ (fA fB : Nat) (lines : Int) (r : Reader) (c : RCur), RI b r c → c.p < b.length →
      ∀ xA rA xB rB, skipBlankLines readerOps fA lines r = .ok (xA, rA) →
        skipBlankLines readerOps fB lines (shR F r) = .ok (xB, rB) →
        (xA.2.2 = true → xB = (moveSeg F.d xA.1, xA.2.1, true) ∧ rB = shR F rA ∧ ∃ c', RI b rA c' ∧ c'.p < b.length) ∧
        (xA.2.2 = false → xB.2.2 = true ∧ xB.2.1 = xA.2.1 + 1 ∧ XskEnd F b L rA rB) := by
  intro fA
  induction fA with
  | zero => intro fB lines r c _ _ xA rA xB rB e; cases e
  | succ fA ih =>
    intro fB lines r c hri hlt xA rA xB rB e1 e2
    cases fB with
    | zero => cases e2
    | succ fB =>
      unfold skipBlankLines at e1 e2
      obtain ⟨r1, hp, hri1⟩ := ri_peekLine hri
      have h0 : 0 ≤ r.pos.start := by rw [hri.pos]; simp
      have hle := GM.Blocks.lineEnd_le b c.p
      have hpB : (shR F r).peekLine = .ok ((RCur.view b c, moveSeg F.d (RCur.seg b c)), shR F r1) := by
        rw [peekLine_sh F r h0 (.inr (by rw [hri.source, hri.pos]; simp only; omega)), hp]; rfl
      simp only [readerOps, hp, hpB, bind, Except.bind] at e1 e2
      rw [GM.Blocks.view_eq b c hlt] at e1 e2
      simp only at e1 e2
      by_cases hb : isBlank (spaces c.pad ++ sub b c.p (lineEnd b c.p)) = true
      · rw [if_pos hb] at e1 e2
        simp only [pure, Except.pure] at e1 e2
        have h1 : 0 ≤ r1.pos.stop := by rw [hri1.pos]; simp
        have hri2 := ri_advanceLine hri1
        by_cases hend : lineEnd b c.p < b.length
        · rw [advanceLine_sh F r1 h1 (.inr ⟨by rw [hri1.source, hri1.pos]; simp only; omega,
            by rw [hri1.source]; exact hnl⟩)] at e2
          exact ih fB (lines + 1) r1.advanceLine _ hri2 hend xA rA xB rB e1 e2
        · -- run A's blank line is the last line of `b`
          have hpe : (RCur.advanceLine b c).p = b.length := by
            show lineEnd b c.p = b.length
            omega
          cases fA with
          | zero => unfold skipBlankLines at e1; cases e1
          | succ fA =>
            unfold skipBlankLines at e1
            obtain ⟨r2, hp2, hri3⟩ := ri_peekLine hri2
            simp only [readerOps, hp2, bind, Except.bind] at e1
            rw [GM.Blocks.view_none b _ (by rw [hpe]; omega)] at e1
            simp only [pure, Except.pure, Except.ok.injEq, Prod.mk.injEq] at e1
            obtain ⟨e1a, e1b⟩ := e1
            subst e1a e1b
            have hsrc : (shR F r1).source = (F.p ++ b) ++ 10 :: (L ++ rest) := by
              show F.p ++ r1.source ++ F.q = _
              rw [hri1.source, hq]
            have hstop : (shR F r1).pos.stop = ((F.p ++ b).length : Int) := by
              show r1.pos.stop + F.d = _
              rw [hri1.pos]
              simp only [Frame.d, List.length_append, Int.natCast_add]
              omega
            have hf : (shR F r1).pos.forceNewline = false := by
              show r1.pos.forceNewline = false
              rw [hri1.pos]
            obtain ⟨t1, t2, t3, t4, t5, t6⟩ :=
              xsk_tail (F.p ++ b) L rest (shR F r1) hL hLb hsrc hstop hf fB (lines + 1) xB rB e2
            refine ⟨fun h => (by cases h), fun _ => ⟨t1, t2, ?_⟩⟩
            have hlA : r2.line = r1.line + 1 := by
              have a := hri3.abs.line
              have b' := hri1.abs.line
              show r2.line = r1.line + 1
              have a' : r2.line = (RCur.advanceLine b c).ln := a
              have b'' : r1.line = c.ln := b'
              rw [a', b'']; rfl
            refine ⟨by rw [t4, hq, List.append_assoc], ?_, ?_, t3, _, hri3, hpe⟩
            · rw [t5]; simp only [List.length_append]
            · rw [t6, hlA]
              show r1.line + F.dl + 2 = _
              omega
      · rw [if_neg hb] at e1 e2
        simp only [pure, Except.pure, Except.ok.injEq, Prod.mk.injEq] at e1 e2
        obtain ⟨e1a, e1b⟩ := e1
        obtain ⟨e2a, e2b⟩ := e2
        subst e1a e1b e2a e2b
        exact ⟨fun _ => ⟨rfl, rfl, c, hri1, hlt⟩, fun h => by cases h⟩

theorem skipBlankLinesR_x {F : Frame} {b : Bytes} {sA sB : St} (L rest : Bytes)
    (hq : F.q = 10 :: (L ++ rest)) (hL : ∃ body, L = body ++ [10] ∧ ∀ c ∈ body, c ≠ 10) (hLb : isBlank L = false)
    (hnl : b.getLast? = some 10) (h : RD F b sA sB) (hl : ∃ c, RI b sA.r c ∧ c.p < b.length) :
    P2 (fun x y sA' sB' =>
        (x.2.2 = true → y = (moveSeg F.d x.1, x.2.1, true) ∧ RDstep F b sA sB sA' sB' ∧
          (∃ c, RI b sA'.r c ∧ c.p < b.length)) ∧
        (x.2.2 = false → y.2.2 = true ∧ y.2.1 = x.2.1 + 1 ∧ sB'.nodes = sB.nodes ∧ sB'.pc = sB.pc ∧
          sA'.nodes = sA.nodes ∧ sA'.pc = sA.pc ∧
          sB'.r.source = F.p ++ b ++ F.q ∧
          sB'.r.pos = { start := ((F.p.length + b.length + 1 : Nat) : Int),
                        stop := ((F.p.length + b.length + 1 + L.length : Nat) : Int), padding := 0,
                        forceNewline := false } ∧
          sB'.r.line = sA'.r.line + F.dl + 1 ∧ AtLine L sB'.r ∧ (∃ c, RI b sA'.r c ∧ c.p = b.length)))
      (skipBlankLinesR sA) (skipBlankLinesR sB) := by
  obtain ⟨_, hr⟩ := h
  obtain ⟨c, hc, hlt⟩ := hl
  intro x sA' y sB' e1 e2
  unfold skipBlankLinesR at e1 e2
  cases h1 : skipBlankLines readerOps (loopFuel sA.r.source) 0 sA.r with
  | error e => rw [h1] at e1; cases e1
  | ok v1 =>
    cases h2 : skipBlankLines readerOps (loopFuel sB.r.source) 0 sB.r with
    | error e => rw [h2] at e2; cases e2
    | ok v2 =>
      rw [h1] at e1; rw [h2] at e2
      cases e1; cases e2
      rw [hr] at h2
      obtain ⟨k1, k2⟩ := xsk_loop F b L rest hq hL hLb hnl _ _ 0 sA.r c hc hlt v1.1 v1.2 v2.1 v2.2 h1 h2
      refine ⟨fun ht => ?_, fun hf => ?_⟩
      · obtain ⟨q1, q2, c', q3, q4⟩ := k1 ht
        exact ⟨q1, ⟨v1.2, c', q3, rfl, by rw [q2]⟩, c', q3, q4⟩
      · obtain ⟨q1, q2, q3⟩ := k2 hf
        exact ⟨q1, q2, rfl, rfl, rfl, rfl, q3.source, q3.pos, q3.line, q3.atLine, q3.riA⟩

end GM.Blocks.Xs

namespace GM.Blocks.Xs
open GM GM.Text GM.Spec GM.Proof.Reader GM.Blocks

variable {F : Frame} {b : Bytes} {Cov : BP → Prop}

theorem limbo_stop' {rA rB : Reader} (h : Limbo F b rA rB) : 0 ≤ rA.pos.stop := by
  obtain ⟨⟨c, hc⟩, _⟩ := h
  have hp := hc.pos
  have : rA.advanceLine.pos.start = rA.pos.stop := by
    unfold Reader.advanceLine
    simp only
    split <;> rfl
  have e := congrArg Segment.start hp
  simp only at e
  rw [this] at e
  omega

theorem advanceLine_line_succ' (r : Reader) (h : 0 ≤ r.pos.stop) : r.advanceLine.line = r.line + 1 := by
  unfold Reader.advanceLine
  simp only
  rw [if_neg (by omega)]

theorem advanceLine_start (r : Reader) (h : 0 ≤ r.pos.stop) : r.advanceLine.pos.start = r.pos.stop := by
  unfold Reader.advanceLine
  simp only
  rw [if_neg (by omega)]

/-- run A stands at the end of `b` (after the AdvanceLine behind its last line), run B on the first line of the suffix;
    stores and contexts are related -/
def XEnd (F : Frame) (b : Bytes) (sA sB : St) : Prop :=
  ∃ sA0 sB0, SRL F b sA0.r sB0.r sA0 sB0 ∧ (∃ c, RI b sA0.r.advanceLine c) ∧ AtEndR F b sA0.r sB0.r ∧
    sA = { sA0 with r := sA0.r.advanceLine } ∧ sB = { sB0 with r := sB0.r.advanceLine }

/-- at a line boundary: both runs have a line, or run A is at its end -/
def TopRel (F : Frame) (b : Bytes) (sA sB : St) : Prop := (SR F b sA sB ∧ HL b sA) ∨ XEnd F b sA sB

theorem advanceLine_head (r : Reader) (h : 0 ≤ r.pos.stop) : r.advanceLine.head = r.pos.stop := by
  unfold Reader.advanceLine
  simp only
  rw [if_neg (by omega)]

/-- behind an AdvanceLine the cursor stands at the start of a line: it is trigger-safe -/
theorem ts_advanceLine {r : Reader} {c : RCur} (hc : RI b r.advanceLine c) (h0 : 0 ≤ r.pos.stop) (hlt : c.p < b.length) :
    TSafe b c := by
  left
  have hh := hc.abs.head hlt
  have hcp : (c.p : Int) = r.pos.stop := by
    have := congrArg Segment.start hc.pos
    simp only at this
    rw [advanceLine_start _ h0] at this
    omega
  have : ((lineStart b c.p : Nat) : Int) = c.p := by
    have e : (clearLo r.advanceLine).head = r.advanceLine.head := rfl
    rw [e, advanceLine_head _ h0] at hh
    omega
  intro i h1 h2
  omega

theorem advanceLine_limbo_x {sA sB : St} (hqne : F.q ≠ []) (h : SRLim F b sA sB) :
    P2 (fun _ _ sA' sB' => TopRel F b sA' sB' ∧ sA'.pc = sA.pc ∧ sA'.r.line = sA.r.line + 1 ∧
        sA' = { sA with r := sA.r.advanceLine })
      (advanceLine sA) (advanceLine sB) := by
  unfold GM.Blocks.advanceLine
  obtain ⟨hl, ⟨c, hc⟩, hd⟩ := h
  refine P2.ok ⟨?_, rfl, advanceLine_line_succ' _ (limbo_stop' ⟨⟨c, hc⟩, hd⟩), rfl⟩
  have h0 := limbo_stop' (F := F) (b := b) ⟨⟨c, hc⟩, hd⟩
  have hcp : (c.p : Int) = sA.r.pos.stop := by
    have := congrArg Segment.start hc.pos
    simp only at this
    rw [advanceLine_start _ h0] at this
    omega
  rcases hd with ⟨he, hr⟩ | he
  · left
    have hlt : c.p < b.length := by
      rcases hr with hr | hr
      · exact absurd hr hqne
      · omega
    exact ⟨⟨⟨c, hc⟩, he, hl.n, hl.c⟩, ⟨c, hc, hlt⟩, c, hc, ts_advanceLine hc h0 hlt⟩
  · right
    exact ⟨sA, sB, hl, ⟨c, hc⟩, he, rfl, rfl⟩

end GM.Blocks.Xs

namespace GM.Blocks.Xs
open GM GM.Text GM.Spec GM.Proof.Reader GM.Blocks GM.Blocks.L

/-- the frame: no prefix, suffix `"\n" ++ L ++ rest` -/
abbrev FQ (L rest : Bytes) : Frame := FX (10 :: (L ++ rest))

theorem FQ_q (L rest : Bytes) : (FQ L rest).q = 10 :: (L ++ rest) := rfl
theorem FQ_qne (L rest : Bytes) : (FQ L rest).q ≠ [] := by rw [FQ_q]; exact List.cons_ne_nil _ _
theorem FQ_ok (L rest : Bytes) : (FQ L rest).OK := ⟨.inl rfl, .inl (Nat.zero_le _), fun x hx => by cases hx⟩

/-- what run A's states satisfy after a pass (before the AdvanceLine) -/
structure AUr (b : Bytes) (s : St) : Prop where
  st : StableL b 0 s
  k : Sh.K s
  top : TopLast s
  gp : tl_GP s
  att : ∀ z ∈ s.pc.opened, (nd s z.node).parent.isSome = true

/-- … and at line boundaries -/
structure AU (b : Bytes) (s : St) : Prop extends AUr b s where
  pad : ∀ c, RI b s.r c → PadOK c

/-- one pass of the per-line loop keeps run A's invariants (discharged in GM.Proof.ShiftSimXPrefix, `passKeeps`) -/
def PassKeeps (b : Bytes) : Prop :=
  ∀ (ob : List Block) (s s' : St) (bl : List LineStat) (x : LineOutcome × List LineStat),
    AU b s → s.pc.opened = ob → ob ≠ [] → (∀ z ∈ ob, Cov6 z.bp) → HL b s → SLe bl s →
    lineLoop 0 ob ((ob.length : Int) - 1) ob 0 bl s = .ok (x, s') → AUr b s' ∧ SLe x.2 s' ∧ x.1 = .next

/-- `openBlocks` at the top of the outer loop keeps them -/
def OpenKeeps (b : Bytes) : Prop :=
  ∀ (blank : Bool) (s s' : St) (r : OpenResult),
    AU b s → s.pc.opened = [] → HL b s → openBlocks 0 blank s = .ok (r, s') → AUr b s'

theorem AUr.adv {b : Bytes} {s : St} (h : AUr b s) (h0 : 0 ≤ s.r.pos.stop) (hgr : ∀ (t : St) r', tl_GP t → tl_GP { t with r := r' }) :
    AU b { s with r := s.r.advanceLine } :=
  { st := h.st.congr_r _, k := Sh.K.congr_r h.k _, top := h.top.congr_r _, gp := hgr s _ h.gp, att := h.att,
    pad := Sh.padOK_of_zero (Sh.advanceLine_pad _ h0) }

theorem endsInRawBlock_congr_r (s : St) (r' : Reader) : endsInRawBlock { s with r := r' } = endsInRawBlock s := rfl

/-- run B stands at the top of the outer loop on the line `L`, nothing open, keys unset, with run A's store -/
structure TopB (b L rest : Bytes) (sA' sB' : St) (stB : List LineStat) : Prop where
  nodes : sB'.nodes = sA'.nodes
  opened : sB'.pc.opened = []
  keys : KeysOff sB'
  atLine : AtLine L sB'.r
  source : sB'.r.source = b ++ 10 :: (L ++ rest)
  pos : sB'.r.pos = { start := ((b.length + 1 : Nat) : Int), stop := ((b.length + 1 + L.length : Nat) : Int),
                      padding := 0, forceNewline := false }
  stats : ∀ e ∈ stB, e.lineNum ≤ sB'.r.line

theorem advanceLine_force (r : Reader) : r.advanceLine.pos.forceNewline = r.pos.forceNewline := by
  unfold Reader.advanceLine
  simp only
  split <;> rfl

/-- what `XEnd` says, spelled out -/
theorem xend_facts {b L rest : Bytes} (hL : ∃ body, L = body ++ [10] ∧ ∀ c ∈ body, c ≠ 10) {sA sB : St}
    (h : XEnd (FQ L rest) b sA sB) :
    (∃ c, RI b sA.r c ∧ c.p = b.length) ∧ StoreRel (FQ L rest) sA.nodes sB.nodes ∧ CtxRel (FQ L rest) sA.pc sB.pc ∧
    AtLine [10] sB.r ∧ AtLine L sB.r.advanceLine ∧ sB.r.source = b ++ 10 :: (L ++ rest) ∧
    sB.r.advanceLine.pos = { start := ((b.length + 1 : Nat) : Int), stop := ((b.length + 1 + L.length : Nat) : Int),
                             padding := 0, forceNewline := false } ∧
    sB.r.line = sA.r.line ∧ sB.r.advanceLine.line = sA.r.line + 1 := by
  obtain ⟨sA0, sB0, hl, ⟨c, hc⟩, ⟨_, ha2, ha3, ha4, ha5, ha6, ha7⟩, eA, eB⟩ := h
  subst eA eB
  have hd : (FQ L rest).d = 0 := rfl
  have hdl : (FQ L rest).dl = 0 := rfl
  have hsrcB : sB0.r.source = b ++ 10 :: (L ++ rest) := by rw [ha4]; rfl
  have h0 : 0 ≤ sA0.r.pos.stop := by rw [ha3]; omega
  have hstopB : sB0.r.pos.stop = ((b.length : Nat) : Int) := by rw [ha5, hd, ha3]; omega
  have hforceA : sA0.r.pos.forceNewline = false := by
    have := congrArg Segment.forceNewline hc.pos
    simp only at this
    rw [advanceLine_force] at this
    exact this
  have hforceB : sB0.r.pos.forceNewline = false := by rw [ha6, hforceA]
  have hcp : c.p = b.length := by
    have := congrArg Segment.start hc.pos
    simp only at this
    rw [advanceLine_start _ h0, ha3] at this
    omega
  have e1 : lineEnd (b ++ 10 :: (L ++ rest)) b.length = b.length + 1 := by
    have := xsk_lineEnd_at b [10] (L ++ rest) [] rfl (by intro c hc; cases hc)
    simpa using this
  have s1 : sub (b ++ 10 :: (L ++ rest)) b.length (b.length + 1) = [10] := by
    have := xsk_sub_at b [10] (L ++ rest)
    simpa using this
  obtain ⟨body, hLe, hbody⟩ := hL
  have esrc : b ++ 10 :: (L ++ rest) = (b ++ [10]) ++ (L ++ rest) := by simp
  have e2 : lineEnd (b ++ 10 :: (L ++ rest)) (b.length + 1) = b.length + 1 + L.length := by
    have := xsk_lineEnd_at (b ++ [10]) L rest body hLe hbody
    rw [← esrc] at this
    simpa using this
  have s2 : sub (b ++ 10 :: (L ++ rest)) (b.length + 1) (b.length + 1 + L.length) = L := by
    have := xsk_sub_at (b ++ [10]) L rest
    rw [← esrc] at this
    simpa using this
  have hlen : b.length < (b ++ 10 :: (L ++ rest)).length := by simp
  have hlen2 : b.length + 1 < (b ++ 10 :: (L ++ rest)).length := by
    rw [hLe]; simp; omega
  have hat1 : AtLine [10] sB0.r.advanceLine := by
    have := Sh.atLine_advanceLine (r := sB0.r) (src := b ++ 10 :: (L ++ rest)) (k := b.length) hsrcB hstopB hforceB hlen
    rw [e1, s1] at this
    exact this
  have hsB0 : 0 ≤ sB0.r.pos.stop := by rw [hstopB]; omega
  have hstop1 : sB0.r.advanceLine.pos.stop = ((b.length + 1 : Nat) : Int) := by
    rw [Sh.advanceLine_eq sB0.r hsB0]; simp only
    rw [hsrcB, hstopB, Int.toNat_natCast, e1]
  have hsrc1 : sB0.r.advanceLine.source = b ++ 10 :: (L ++ rest) := by rw [Sh.advanceLine_eq sB0.r hsB0]; exact hsrcB
  have hforce1 : sB0.r.advanceLine.pos.forceNewline = false := by rw [advanceLine_force]; exact hforceB
  have hat2 : AtLine L sB0.r.advanceLine.advanceLine := by
    have := Sh.atLine_advanceLine (r := sB0.r.advanceLine) (src := b ++ 10 :: (L ++ rest)) (k := b.length + 1) hsrc1 hstop1
      hforce1 hlen2
    rw [e2, s2] at this
    exact this
  refine ⟨⟨c, hc, hcp⟩, hl.n, hl.c, hat1, hat2, hsrc1, ?_, ?_, ?_⟩
  · rw [Sh.advanceLine_eq sB0.r.advanceLine (by rw [hstop1]; omega)]
    simp only [hstop1, hsrc1, hforce1, Int.toNat_natCast, e2]
  · show sB0.r.advanceLine.line = sA0.r.advanceLine.line
    rw [advanceLine_line_succ' _ h0, advanceLine_line_succ' _ (by rw [hstopB]; omega), ha7, hdl]; omega
  · show sB0.r.advanceLine.advanceLine.line = sA0.r.advanceLine.line + 1
    rw [advanceLine_line_succ' _ (by rw [hstop1]; omega), advanceLine_line_succ' _ h0,
      advanceLine_line_succ' _ (by rw [hstopB]; omega), ha7, hdl]; omega

/-- what the inner loop establishes: if run A leaves it normally (`false`: nothing open), so does run B and the runs are
    at a line boundary again; if run A reached the end of its source inside (`true`), run B has arrived on `L` -/
def LinesQX (b L rest : Bytes) (sA : St) (sa : List LineStat) (x y : Bool × List LineStat) (sA' sB' : St) : Prop :=
  (x.1 = false → y.1 = false ∧ StatsRel (FQ L rest) x.2 y.2 ∧ TopRel (FQ L rest) b sA' sB' ∧ sA'.pc.opened = [] ∧
      AI Cov6 sA' ∧ 1 ≤ sA'.r.line ∧ AU b sA' ∧ SLe x.2 sA' ∧ (sa ≠ [] ∨ sA.pc.opened ≠ [] → x.2 ≠ [])) ∧
  (x.1 = true → endsInRawBlock sA' = false → y.1 = false ∧ TopB b L rest sA' sB' y.2)

/-- the inner loop when run A stands at the end of its source (proved below, `linesLoop_xend`) -/
def LinesXEndP (b L rest : Bytes) : Prop :=
  ∀ (fuelA fuelB : Nat) (sa sb : List LineStat) (sA sB : St),
    XEnd (FQ L rest) b sA sB → AI Cov6 sA → StatsRel (FQ L rest) sa sb → 1 ≤ sA.r.line → AU b sA → SLe sa sA →
    P2 (LinesQX b L rest sA sa) (linesLoop 0 fuelA sa sA) (linesLoop 0 fuelB sb sB)

end GM.Blocks.Xs

namespace GM.Blocks.Xs
open GM GM.Text GM.Spec GM.Proof.Reader GM.Blocks GM.Blocks.L
open GM.Blocks.Sh (ll_lineLoop_cons)

theorem xe_linesLoop_zero (parent : Nat) (bl : List LineStat) (s : St) (x) (s' : St) :
    linesLoop parent 0 bl s ≠ .ok (x, s') := by
  rw [linesLoop]
  intro h
  cases h

theorem xe_linesLoop_nil (parent fuel : Nat) (bl : List LineStat) (s : St) (hop : s.pc.opened = []) (x) (s' : St)
    (h : linesLoop parent fuel bl s = .ok (x, s')) : x = (false, bl) ∧ s' = s := by
  cases fuel with
  | zero => exact absurd h (xe_linesLoop_zero _ _ _ _ _)
  | succ f =>
    rw [linesLoop] at h
    obtain ⟨pc, s0, h0, h⟩ := bind_ok h
    obtain ⟨rfl, rfl⟩ := getPc_ok h0
    simp only [hop, List.length_nil, beq_self_eq_true, if_true] at h
    exact pure_ok h

theorem xe_linesLoop_cons (parent fuel : Nat) (bl : List LineStat) (s : St) (b0 : Block) (rs : List Block)
    (hop : s.pc.opened = b0 :: rs) (x) (s' : St)
    (h : linesLoop parent (fuel + 1) bl s = .ok (x, s')) :
    ∃ o bl1 s1, lineLoop parent (b0 :: rs) (((b0 :: rs).length : Int) - 1) (b0 :: rs) 0 bl s = .ok ((o, bl1), s1) ∧
      ((o = .eof ∧ x = (true, bl1) ∧ s' = s1) ∨
       (o = .next ∧ linesLoop parent fuel bl1 { s1 with r := s1.r.advanceLine } = .ok (x, s'))) := by
  rw [linesLoop] at h
  obtain ⟨pc, s0, h0, h⟩ := bind_ok h
  obtain ⟨rfl, rfl⟩ := getPc_ok h0
  simp only [hop] at h
  have hl : ((b0 :: rs).length == 0) = false := by simp
  rw [hl] at h
  simp only [Bool.false_eq_true, if_false] at h
  obtain ⟨⟨o, bl1⟩, s1, h1, h⟩ := bind_ok h
  refine ⟨o, bl1, s1, h1, ?_⟩
  cases o with
  | eof =>
    left
    obtain ⟨rfl, rfl⟩ := pure_ok h
    exact ⟨rfl, rfl, rfl⟩
  | next =>
    right
    obtain ⟨u, s2, h2, h⟩ := bind_ok h
    have : s2 = { s1 with r := s1.r.advanceLine } := by cases h2; rfl
    rw [this] at h
    exact ⟨rfl, h⟩

theorem xe_lineLoop_end {b : Bytes} (s : St) (c : RCur) (hri : RI b s.r c) (hcp : c.p = b.length)
    (ob : List Block) (li : Int) (be : Block) (rs : List Block) (i : Int) (bl : List LineStat) (x) (s' : St)
    (h : lineLoop 0 ob li (be :: rs) i bl s = .ok (x, s')) :
    ∃ r1 sc, RI b r1 c ∧ closeBlocks li 0 { s with r := r1 } = .ok ((), sc) ∧ x = (.eof, bl) ∧
      s' = { sc with r := sc.r.advanceLine } := by
  rw [ll_lineLoop_cons] at h
  obtain ⟨y, s1, h1, k1⟩ := bind_ok h
  obtain ⟨ey, r1, es1, hri1⟩ := Sh.okl_ok (peekLine_okl hri) h1
  have hv : y.1 = none := by rw [ey]; exact view_none b c (by omega)
  rw [hv] at k1
  dsimp only at k1
  obtain ⟨u, s2, h2, k2⟩ := bind_ok k1
  obtain ⟨u', s3, h3, k3⟩ := bind_ok k2
  have e3 : s3 = { s2 with r := s2.r.advanceLine } := by cases h3; rfl
  obtain ⟨rfl, rfl⟩ := pure_ok k3
  cases u
  rw [es1] at h2
  exact ⟨r1, s2, hri1, h2, rfl, e3⟩

theorem xe_bp_cases (bp : BP) (h6 : Cov6 bp) (hr : bp ≠ .code ∧ bp ≠ .fenced ∧ bp ≠ .html) :
    bp = .thematic ∨ bp = .atx ∨ bp = .blockquote ∨ bp = .paragraph ∨ bp = .setext := by
  obtain ⟨a1, a2, a3, a4⟩ := h6
  obtain ⟨a5, a6, a7⟩ := hr
  cases bp <;> simp at *

theorem linesLoop_xend {b L rest : Bytes} (hL : ∃ body, L = body ++ [10] ∧ ∀ c ∈ body, c ≠ 10)
    (hP : PSim (FQ L rest) b Cov6) (fuelA fuelB : Nat) (sa sb : List LineStat) (sA sB : St)
    (hx : XEnd (FQ L rest) b sA sB) (hc : AI Cov6 sA) (hst : StatsRel (FQ L rest) sa sb) (hline : 1 ≤ sA.r.line)
    (hau : AU b sA) (hsle : SLe sa sA) :
    P2 (LinesQX b L rest sA sa) (linesLoop 0 fuelA sa sA) (linesLoop 0 fuelB sb sB) := by
  intro x sA' y sB' e1 e2
  obtain ⟨⟨c, hri, hcp⟩, hn, hctx, hat1, hat2, hsrcB, hposB, hlineB, hlineB2⟩ := xend_facts hL hx
  have hnodes : sB.nodes = sA.nodes := FX_store hn
  have hopAB : sB.pc.opened = sA.pc.opened := by rw [hctx.opened, FX_shB_map]
  cases hopA : sA.pc.opened with
  | nil =>
    obtain ⟨rfl, rfl⟩ := xe_linesLoop_nil _ _ _ _ hopA _ _ e1
    obtain ⟨rfl, rfl⟩ := xe_linesLoop_nil _ _ _ _ (hopAB.trans hopA) _ _ e2
    refine ⟨fun _ => ⟨rfl, hst, .inr hx, hopA, hc, hline, hau, hsle, fun h => ?_⟩, fun h => by cases h⟩
    rcases h with h | h
    · exact h
    · exact absurd hopA h
  | cons b0 rs =>
    have hopB : sB.pc.opened = b0 :: rs := hopAB.trans hopA
    cases fuelA with
    | zero => exact absurd e1 (xe_linesLoop_zero _ _ _ _ _)
    | succ fA =>
    cases fuelB with
    | zero => exact absurd e2 (xe_linesLoop_zero _ _ _ _ _)
    | succ fB =>
    -- run A
    obtain ⟨oA, blA, sA1', hA, hAalt⟩ := xe_linesLoop_cons _ _ _ _ b0 rs hopA _ _ e1
    obtain ⟨r1, sAc, hri1, hclA, exA, esA⟩ := xe_lineLoop_end sA c hri hcp _ _ _ _ _ _ _ _ hA
    obtain ⟨rfl, rfl⟩ := Prod.mk.inj exA
    have hAalt' : x = (true, blA) ∧ sA' = sA1' := by
      rcases hAalt with ⟨_, h1, h2⟩ | ⟨h, _⟩
      · exact ⟨h1, h2⟩
      · cases h
    obtain ⟨rfl, rfl⟩ := hAalt'
    subst esA
    refine ⟨fun h => (by cases h), fun _ hraw => ?_⟩
    have hraw' : endsInRawBlock sAc = false := hraw
    have hmemA : ∀ z ∈ b0 :: rs, z ∈ sA.pc.opened := fun z hz => hopA ▸ hz
    have hleaf : b0.bp.isContainer = false → (nd sA b0.node).children = [] :=
      tl_GP.leafKids hau.gp hau.st.blocks b0 (hmemA b0 List.mem_cons_self)
    have hnr := first_open_not_raw (src := b) { sA with r := r1 } sAc (hau.st.congr_r r1) (hau.top.congr_r r1) b0 rs hopA
      hleaf (by rw [show ({ sA with r := r1 } : St).pc.opened = b0 :: rs from hopA]; exact hclA) hraw'
    have hb0 := xe_bp_cases b0.bp (hc.1 b0 (hmemA b0 List.mem_cons_self)) hnr
    -- run B
    obtain ⟨oB, blB, sB1, hB, hBalt⟩ := xe_linesLoop_cons _ _ _ _ b0 rs hopB _ _ e2
    obtain ⟨eo, ebl, o, i, rm, hrc, hclBp⟩ := blank_pass_closes sB b0 rs sb hat1 hopB
      (fun z hz => by rw [hnodes]; exact (hau.st.blocks z (hmemA z hz)).lt)
      (fun z hz => by rw [hnodes]; exact (hau.st.blocks z (hmemA z hz)).kind) hb0 _ _ hB
    simp only at eo ebl
    subst eo ebl
    rcases hBalt with ⟨h, _⟩ | ⟨_, hB2⟩
    · cases h
    rw [closeBlocks_setBO _ _ o i sB rm hrc.1] at hclBp
    cases hclB : closeBlocks (((b0 :: rs).length : Int) - 1) 0 sB with
    | error e => rw [hclB] at hclBp; cases hclBp
    | ok p =>
    obtain ⟨u, sBc⟩ := p
    cases u
    rw [hclB] at hclBp
    have esB1 : sB1 = { SetBO o i sBc with r := rm } := by cases hclBp; rfl
    subst esB1
    have hsrl : SRL (FQ L rest) b r1 sB.r { sA with r := r1 } sB :=
      { ra := rfl, rb := rfl, srcA := hri1.abs.source, srcB := by rw [hsrcB]; rfl, n := hn, c := hctx }
    obtain ⟨hs2, hai2⟩ := closeBlocks_l2 hP _ 0 (sA := { sA with r := r1 }) hc hsrl _ _ _ _ hclA hclB
    have hn2 : sBc.nodes = sAc.nodes := FX_store hs2.n
    have hk2 : KeysOff sBc := by
      obtain ⟨k1, k2, k3, k4⟩ := hai2.2
      refine ⟨?_, ?_, ?_, ?_⟩
      · rw [hs2.c.tmpPara, k1]; rfl
      · rw [hs2.c.fence, k2]; rfl
      · rw [hs2.c.skipList, k3]
      · rw [hs2.c.emptyItemBlank rfl, k4]
    have ho2 : sBc.pc.opened = [] := by
      have := (closeBlocks_opened _ _ _ _ hclB).2
      rw [this, hopB]
      have e : (((b0 :: rs).length : Int) - 1 + 1).toNat = (b0 :: rs).length := by omega
      rw [e]
      simp
    obtain ⟨rfl, rfl⟩ := xe_linesLoop_nil _ _ _ { ({ SetBO o i sBc with r := rm } : St) with r := rm.advanceLine }
      ho2 _ _ hB2
    have eadv : rm.advanceLine = sB.r.advanceLine := Sh.h2_advanceLine_congr hrc
    refine ⟨rfl, ?_⟩
    refine { nodes := hn2, opened := ho2, keys := hk2, atLine := ?_, source := ?_, pos := ?_, stats := ?_ }
    · show AtLine L rm.advanceLine
      rw [eadv]; exact hat2
    · show rm.advanceLine.source = _
      rw [eadv, GM.Blocks.advanceLine_source]; exact hsrcB
    · show rm.advanceLine.pos = _
      rw [eadv]; exact hposB
    · show ∀ e ∈ sb ++ [{ lineNum := sB.r.line, level := 0, isBlank := true }], e.lineNum ≤ rm.advanceLine.line
      rw [eadv, hlineB2]
      intro e he
      rcases List.mem_append.mp he with he | he
      · obtain ⟨stale, esb, hstale⟩ := hst
        rw [esb] at he
        rcases List.mem_append.mp he with he | he
        · have := hstale e he
          have hdl : (FQ L rest).dl = 0 := rfl
          rw [hdl] at this
          omega
        · obtain ⟨e0, he0, rfl⟩ := List.mem_map.mp he
          have := hsle e0 he0
          have hdl : (FQ L rest).dl = 0 := rfl
          show e0.lineNum + (FQ L rest).dl ≤ _
          rw [hdl]
          omega
      · rw [List.mem_singleton] at he
        rw [he]
        show sB.r.line ≤ _
        rw [hlineB]
        omega

end GM.Blocks.Xs

namespace GM.Blocks.Xs
open GM GM.Text GM.Spec GM.Proof.Reader GM.Blocks GM.Blocks.L

variable {b L rest : Bytes}

theorem linesLoop_x (hnl : b.getLast? = some 10)
    (hP : PSim (FQ L rest) b Cov6) (hO : G.OpenG (FQ L rest) b (side b Cov6))
    (hcl : ∀ bp, Cov6 bp → ∀ node s s' st, HL b s → bpContinue bp node s = .ok (st, s') → st.cont = false →
      HL b s')
    (hPK : PassKeeps b) (hXE : LinesXEndP b L rest) :
    ∀ (fuelA fuelB : Nat) (sa sb : List LineStat) (sA sB : St),
      TopRel (FQ L rest) b sA sB → AI Cov6 sA → StatsRel (FQ L rest) sa sb → 1 ≤ sA.r.line → AU b sA → SLe sa sA →
      P2 (LinesQX b L rest sA sa) (linesLoop 0 fuelA sa sA) (linesLoop 0 fuelB sb sB) := by
  intro fuelA
  induction fuelA with
  | zero => intro fuelB sa sb sA sB _ _ _ _ _ _; unfold linesLoop; exact P2.throwL
  | succ fuelA ih =>
    intro fuelB sa sb sA sB htop hc hst hline hau hsle
    rcases htop with ⟨h, hl⟩ | hx
    · cases fuelB with
      | zero => unfold linesLoop; exact P2.throwR
      | succ fuelB =>
        have hNL : NL b := .inr hnl
        have hq : QNL (FQ L rest) b := .inr hnl
        unfold linesLoop
        refine P2.bind (getPc_p2 h) (fun x y sA1 sB1 ⟨hx, hy, hxy, e1, e2⟩ => ?_)
        rw [e1, e2]
        have ho : y.opened = x.opened.map (shB (FQ L rest)) := hxy.opened
        rw [ho, List.length_map]
        by_cases hl0 : (x.opened.length == 0) = true
        · rw [if_pos hl0, if_pos hl0]
          have hnil : sA.pc.opened = [] := by
            rw [← hx]; exact List.eq_nil_of_length_eq_zero (by simpa using hl0)
          refine P2.pure ⟨fun _ => ⟨rfl, hst, .inl ⟨h, hl⟩, hnil, hc, hline, hau, hsle, fun hh => ?_⟩, fun e => by cases e⟩
          rcases hh with hh | hh
          · exact hh
          · exact absurd hnil hh
        · rw [if_neg hl0, if_neg hl0]
          have hne : x.opened ≠ [] := by
            intro e; rw [e] at hl0; simp at hl0
          have hob : ∀ z ∈ x.opened, Cov6 z.bp := by rw [hx]; exact hc.1
          have hleaf := Sh.leaf_of_stable hau.st
          rw [← hx] at hleaf
          have hcont : ∀ bp, Cov6 bp → bp.isContainer = true → ∀ node s s' (st : PState),
              bpContinue bp node s = .ok (st, s') → st.cont = true → st.hasChildren = true :=
            fun bp hb => Sh.leafCont_notList bp ⟨hb.1, hb.2.1⟩
          have key := lineLoop_p2 hP (FQ_ok L rest) hq hNL hO hcl 0 x.opened ((x.opened.length : Int) - 1) hob hleaf hcont
            x.opened 0 sa sb sA sB ⟨[], rfl⟩ h hc hl hst hline (by omega)
          rw [ι_zero] at key
          refine P2.bind (key.withL (R := fun a sA' => AUr b sA' ∧ SLe a.2 sA' ∧ a.1 = .next)
              (fun a sA' e => hPK x.opened sA sA' sa a hau (by rw [hx]) hne hob hl hsle e))
            (fun u v sA2 sB2 ⟨⟨hv1, hst2, hlim2, hai2, hline2, hne2⟩, haur2, hsle2, hnext⟩ => ?_)
          obtain ⟨uo, us⟩ := u
          obtain ⟨vo, vs⟩ := v
          simp only at hv1 hst2 hne2 hnext hsle2
          subst hv1 hnext
          simp only
          refine P2.bind (advanceLine_limbo_x (FQ_qne L rest) hlim2) (fun _ _ sA3 sB3 ⟨h3, hpc3, hl3, he3⟩ => ?_)
          have hc3 : AI Cov6 sA3 := by rw [he3]; exact hai2
          have hline3 : 1 ≤ sA3.r.line := by omega
          have hu2 : us ≠ [] := hne2 rfl hne
          have hau3 : AU b sA3 := by
            rw [he3]; exact haur2.adv (limbo_stop' hlim2.2) (fun t r' ht => ht)
          have hsle3 : SLe us sA3 := hsle2.mono (by omega)
          refine (ih fuelB us vs sA3 sB3 h3 hc3 hst2 hline3 hau3 hsle3).mono
            (fun w z sA' sB' ⟨hf, ht⟩ => ⟨fun e => ?_, ht⟩)
          obtain ⟨f1, f2, f3, f4, f5, f6, f7, f8, f9⟩ := hf e
          exact ⟨f1, f2, f3, f4, f5, f6, f7, f8, fun _ => f9 (.inl hu2)⟩
    · exact hXE (fuelA + 1) fuelB sa sb sA sB hx hc hst hline hau hsle

theorem P2.apply {α β} {Q : α → β → St → St → Prop} {x y} (h : P2 Q x y) {a sA c sB}
    (e1 : x = .ok (a, sA)) (e2 : y = .ok (c, sB)) : Q a c sA sB := h a sA c sB e1 e2

/-- at the end of the source `SkipBlankLines` answers "no line" -/
theorem skip_at_end {s : St} {c : RCur} (hri : RI b s.r c) (hp : c.p = b.length)
    (x : Segment × Int × Bool) (s' : St) (h : skipBlankLinesR s = .ok (x, s')) :
    x.2.2 = false ∧ s'.nodes = s.nodes ∧ s'.pc = s.pc := by
  unfold skipBlankLinesR at h
  have hf : loopFuel s.r.source = ((4 * s.r.source.length + 62) + 1) + 1 := rfl
  rw [hf] at h
  unfold skipBlankLines at h
  obtain ⟨r1, h1, _⟩ := ri_peekLine hri
  have hv : RCur.view b c = none := view_none b c (by omega)
  simp only [readerOps, h1, hv, bind, Except.bind, pure, Except.pure] at h
  cases h
  exact ⟨rfl, rfl, rfl⟩

/-- on a line that is not blank `SkipBlankLines` skips nothing -/
theorem skip_zero {s : St} {line : Bytes} (hl : AtLine line s.r) (hnb : isBlank line = false)
    (x : Segment × Int × Bool) (s' : St) (h : skipBlankLinesR s = .ok (x, s')) :
    x.2.1 = 0 ∧ x.2.2 = true ∧ s'.nodes = s.nodes ∧ s'.pc = s.pc ∧ AtLine line s'.r ∧
      s'.r.source = s.r.source ∧ s'.r.pos = s.r.pos ∧ s'.r.line = s.r.line := by
  unfold skipBlankLinesR at h
  have hf : loopFuel s.r.source = ((4 * s.r.source.length + 62) + 1) + 1 := rfl
  rw [hf] at h
  unfold skipBlankLines at h
  obtain ⟨r2, h2, hl2, rc2⟩ := Sh.h2_peekLineR hl
  simp only [readerOps, h2, bind, Except.bind, hnb, Bool.false_eq_true, if_false, pure, Except.pure] at h
  cases h
  exact ⟨rfl, rfl, rfl, rfl, hl2, rc2.1, rc2.2.1, rc2.2.2⟩

theorem keysOff_of_ctxRel {sA sB : St} (h : CtxRelW (FQ L rest) sA.pc sB.pc) (hk : KeysOff sA) : KeysOff sB := by
  obtain ⟨k1, k2, k3, k4⟩ := hk
  refine ⟨?_, ?_, ?_, ?_⟩
  · rw [h.tmpPara, k1]; rfl
  · rw [h.fence, k2]; rfl
  · rw [h.skipList, k3]
  · rw [h.emptyItemBlank rfl, k4]

/-- run B stands at the top of the outer loop, nothing open, keys unset, store `N`, and its `SkipBlankLines` takes it to
    the start of `L` -/
structure AtTop (b L rest : Bytes) (N : List Node) (s1 : St) (stats1 : List LineStat) : Prop where
  nodes : s1.nodes = N
  opened : s1.pc.opened = []
  keys : KeysOff s1
  skip : ∃ x s1', skipBlankLinesR s1 = .ok (x, s1') ∧ x.2.2 = true ∧ s1'.nodes = s1.nodes ∧ s1'.pc = s1.pc ∧
    AtLine L s1'.r ∧ s1'.r.source = b ++ 10 :: (L ++ rest) ∧
    s1'.r.pos = { start := ((b.length + 1 : Nat) : Int), stop := ((b.length + 1 + L.length : Nat) : Int),
                  padding := 0, forceNewline := false } ∧
    (x.2.1 = 0 → ∀ e ∈ stats1, e.lineNum ≤ s1'.r.line)

/-- what the simulation delivers: if run A's final tree does not end in a raw block, the rest of run B IS the outer loop
    started at the top with run A's final store, on the way to `L` -/
def GoalQ (b L rest : Bytes) (sA' sd : St) : Prop :=
  endsInRawBlock sA' = false →
    ∃ s1 stats1 f1, AtTop b L rest sA'.nodes s1 stats1 ∧ blocksLoop 0 f1 stats1 s1 = .ok ((), sd)

/-- the statistics at the head of the outer loop (as in GM.Proof.ShiftSimMain) -/
def BInv (F : Frame) (sa sb : List LineStat) (line : Int) : Prop :=
  ∃ stale, sb = stale ++ sa.map (shS F) ∧ (∀ e ∈ stale, e.lineNum < F.dl) ∧
    (sa = [] → stale = [] ∨ (line = 0 ∧ isBlankLine (F.dl - 1) 0 stale = true)) ∧ (sa ≠ [] → 1 ≤ line)

theorem topB_atTop {sA' sB' : St} {stB : List LineStat} (hLb : isBlank L = false) (h : TopB b L rest sA' sB' stB)
    {fuel : Nat} {sd : St} (e : blocksLoop 0 fuel stB sB' = .ok ((), sd)) : AtTop b L rest sA'.nodes sB' stB := by
  cases fuel with
  | zero => unfold blocksLoop at e; cases e
  | succ fuel =>
    unfold blocksLoop at e
    obtain ⟨x, s1', hsk, _⟩ := GM.Blocks.bind_ok e
    obtain ⟨q1, q2, q3, q4, q5, q6, q7, q8⟩ := skip_zero h.atLine hLb x s1' hsk
    refine ⟨h.nodes, h.opened, h.keys, x, s1', hsk, q2, q3, q4, q5, by rw [q6]; exact h.source, by rw [q7]; exact h.pos,
      fun _ => ?_⟩
    rw [q8]; exact h.stats

theorem binv_sle {sa sb : List LineStat} {sA : St} (hbi : BInv (FQ L rest) sa sb sA.r.line) (hsle : SLe sa sA)
    (hline : 0 ≤ sA.r.line) : ∀ e ∈ sb, e.lineNum ≤ sA.r.line := by
  obtain ⟨stale, hsb, hstale, _, _⟩ := hbi
  intro e he
  rw [hsb] at he
  rcases List.mem_append.1 he with he | he
  · have := hstale e he
    have hd0 : (FQ L rest).dl = 0 := rfl
    omega
  · obtain ⟨e0, he0, rfl⟩ := List.mem_map.1 he
    have := hsle e0 he0
    simp only [shS]
    have hd0 : (FQ L rest).dl = 0 := rfl
    omega

theorem statsRel_sle {sa sb : List LineStat} {sA : St} (hst : StatsRel (FQ L rest) sa sb) (hsle : SLe sa sA)
    (hline : 0 ≤ sA.r.line) : ∀ e ∈ sb, e.lineNum ≤ sA.r.line := by
  obtain ⟨stale, hsb, hstale⟩ := hst
  intro e he
  rw [hsb] at he
  rcases List.mem_append.1 he with he | he
  · have := hstale e he
    have hd0 : (FQ L rest).dl = 0 := rfl
    omega
  · obtain ⟨e0, he0, rfl⟩ := List.mem_map.1 he
    have := hsle e0 he0
    simp only [shS]
    have hd0 : (FQ L rest).dl = 0 := rfl
    omega

/-- at the top of the outer loop: both runs have a line (weak relation), or run A is at its end -/
def TopRelW (F : Frame) (b : Bytes) (sA sB : St) : Prop := (SRw F b sA sB ∧ HL b sA) ∨ XEnd F b sA sB

theorem TopRel.w {F : Frame} {sA sB : St} (h : TopRel F b sA sB) : TopRelW F b sA sB := by
  rcases h with ⟨h1, h2⟩ | h
  · exact .inl ⟨h1.w, h2⟩
  · exact .inr h

theorem blocksLoop_x (hnl : b.getLast? = some 10) (hL : ∃ body, L = body ++ [10] ∧ ∀ c ∈ body, c ≠ 10)
    (hLb : isBlank L = false)
    (hP : PSim (FQ L rest) b Cov6) (hO : G.OpenG (FQ L rest) b (side b Cov6))
    (hcl : ∀ bp, Cov6 bp → ∀ node s s' st, HL b s → bpContinue bp node s = .ok (st, s') → st.cont = false →
      HL b s')
    (hPK : PassKeeps b) (hOK : OpenKeeps b) (hXE : LinesXEndP b L rest) :
    ∀ (fuelA fuelB : Nat) (sa sb : List LineStat) (sA sB : St),
      TopRelW (FQ L rest) b sA sB → AI Cov6 sA → sA.pc.opened = [] → 0 ≤ sA.r.line →
      BInv (FQ L rest) sa sb sA.r.line → AU b sA → SLe sa sA →
      P2 (fun _ _ sA' sd => GoalQ b L rest sA' sd) (blocksLoop 0 fuelA sa sA) (blocksLoop 0 fuelB sb sB) := by
  intro fuelA
  induction fuelA with
  | zero => intro fuelB sa sb sA sB _ _ _ _ _ _ _; unfold blocksLoop; exact P2.throwL
  | succ fuelA ih =>
    intro fuelB sa sb sA sB htop hc hop hline hbi hau hsle
    cases fuelB with
    | zero => unfold blocksLoop; exact P2.throwR
    | succ fuelB =>
      intro u sA' v sd e1 e2
      have e2' := e2
      unfold blocksLoop at e1 e2
      obtain ⟨xa, sA1, ha, ka⟩ := GM.Blocks.bind_ok e1
      obtain ⟨xb, sB1, hb, kb⟩ := GM.Blocks.bind_ok e2
      rcases htop with ⟨h, hl⟩ | hx
      · -- both runs have a line
        have hs := (skipBlankLinesR_x L rest (FQ_q L rest) hL hLb hnl h.rd hl.1).apply ha hb
        have hts1 : TS b sA1 := skip_ts hl.2 ha
        obtain ⟨c0, hri0, _⟩ := hl.1
        by_cases hok : xa.2.2 = true
        · obtain ⟨hy, hs1, hl1'⟩ := hs.1 hok
          have hl1 : HL b sA1 := ⟨hl1', hts1⟩
          have hcont : P2 (fun _ _ sA' sd => GoalQ b L rest sA' sd)
              ((match xa with
                | (_, lines, ok) => do
                  if (!ok) = true then pure ()
                  else do
                    let y ← position
                    let pc ← getPc
                    let r ← openBlocks 0 (isBlankLine (y.1 - 1) 0
                      (if (lines != 0) = true then blankStats y.1 lines pc.opened.length else sa))
                    if (r != OpenResult.newBlocksOpened) = true then pure ()
                    else do
                      advanceLine
                      let w ← linesLoop 0 fuelA
                        (if (lines != 0) = true then blankStats y.1 lines pc.opened.length else sa)
                      if w.1 = true then pure () else blocksLoop 0 fuelA w.2) sA1)
              ((match xb with
                | (_, lines, ok) => do
                  if (!ok) = true then pure ()
                  else do
                    let y ← position
                    let pc ← getPc
                    let r ← openBlocks 0 (isBlankLine (y.1 - 1) 0
                      (if (lines != 0) = true then blankStats y.1 lines pc.opened.length else sb))
                    if (r != OpenResult.newBlocksOpened) = true then pure ()
                    else do
                      advanceLine
                      let w ← linesLoop 0 fuelB
                        (if (lines != 0) = true then blankStats y.1 lines pc.opened.length else sb)
                      if w.1 = true then pure () else blocksLoop 0 fuelB w.2) sB1) := by
            obtain ⟨segA, linesA, okA⟩ := xa
            simp only at hok hy
            subst hok
            rw [hy]
            simp only [Bool.not_true, Bool.false_eq_true, if_false]
            have h1 := hs1.srw h
            obtain ⟨rA1, cA1, hcA1, eA1, eB1⟩ := hs1
            have epc1 : sA1.pc = sA.pc := by rw [eA1]
            have hlA := Sh.skipBlankLinesR_line _ _ _ ha
            obtain ⟨hl1', hl1''⟩ := hlA
            simp only at hl1''
            obtain ⟨c1, hri1, hpad1, hlt1, hnb1, _, _⟩ :=
              skipBlankLinesR_nonblank b sA sA1 (segA, linesA, true) c0 hri0 (hau.pad c0 hri0) ha rfl
            have hau1 : AU b sA1 := by
              rw [eA1]
              refine { st := hau.st.congr_r _, k := Sh.K.congr_r hau.k _, top := hau.top.congr_r _, gp := hau.gp, att := hau.att,
                       pad := fun c hc => ?_ }
              have hc' : RI b sA1.r c := by rw [eA1]; exact hc
              rw [Sh.ri_unique hc' hri1]; exact hpad1
            have hop1 : sA1.pc.opened = [] := by rw [epc1]; exact hop
            refine P2.bind (P := fun u v sA' sB' => u = sA1.r.position ∧
                v = (u.1 + (FQ L rest).dl, moveSeg (FQ L rest).d u.2) ∧ sA' = sA1 ∧ sB' = sB1)
              ?_ (fun u v sA2 sB2 ⟨hu, hv, e1, e2⟩ => ?_)
            · unfold GM.Blocks.position
              refine P2.ok ⟨rfl, ?_, rfl, rfl⟩
              rw [h1.r]; rfl
            rw [hv, e1, e2]
            simp only
            refine P2.bind (P := fun u' v' sA' sB' => u' = sA1.pc ∧ v'.opened = u'.opened.map (shB (FQ L rest)) ∧
                sA' = sA1 ∧ sB' = sB1)
              (by unfold getPc; exact P2.ok ⟨rfl, h1.c.opened, rfl, rfl⟩)
              (fun pcA pcB sA3 sB3 ⟨hpa, hpb, e1, e2⟩ => ?_)
            rw [hpb, List.length_map, e1, e2]
            have hlen0 : pcA.opened.length = 0 := by rw [hpa, epc1, hop]; rfl
            rw [hlen0]
            have hlineNum : u.1 = sA1.r.line := by rw [hu]; rfl
            have hd0 : (FQ L rest).dl = 0 := rfl
            obtain ⟨stale, hsb, hstale, hfirst, hsane⟩ := hbi
            have key : ∃ sa' sb', (if (linesA != 0) = true then blankStats u.1 linesA 0 else sa) = sa' ∧
                (if (linesA != 0) = true then blankStats (u.1 + (FQ L rest).dl) linesA 0 else sb) = sb' ∧
                StatsRel (FQ L rest) sa' sb' ∧
                isBlankLine (u.1 + (FQ L rest).dl - 1) 0 sb' = isBlankLine (u.1 - 1) 0 sa' ∧
                (sa' ≠ [] → sa ≠ [] ∧ sA1.r.line = sA.r.line) ∧ SLe sa' sA1 := by
              by_cases hz : (linesA != 0) = true
              · rw [if_pos hz, if_pos hz]
                refine ⟨_, _, rfl, rfl, ?_, ?_, ?_, ?_⟩
                · simp only [blankStats]; exact StatsRel.map (FQ L rest) []
                · simp only [blankStats]
                  rw [isBlankLine_nil _ _ (Int.le_refl 0), isBlankLine_nil _ _ (Int.le_refl 0)]
                · intro hh; simp [blankStats] at hh
                · intro e he; simp [blankStats] at he
              · rw [if_neg hz, if_neg hz]
                have hz0 : linesA = 0 := by simpa using hz
                have hsame := hl1'' hz0
                refine ⟨_, _, rfl, rfl, ⟨stale, hsb, hstale⟩, ?_, fun hh => ⟨hh, hsame⟩, hsle.mono hl1'⟩
                by_cases hsa : sa = []
                · subst hsa
                  rw [isBlankLine_nil _ _ (Int.le_refl 0)]
                  simp only [List.map_nil, List.append_nil] at hsb
                  rw [hsb]
                  rcases hfirst rfl with hs | ⟨hl0, hs⟩
                  · rw [hs]; exact isBlankLine_nil _ _ (Int.le_refl 0)
                  · have : u.1 + (FQ L rest).dl - 1 = (FQ L rest).dl - 1 := by rw [hlineNum, hsame, hl0]; omega
                    rw [this]; exact hs
                · have h1le := hsane hsa
                  have e : u.1 + (FQ L rest).dl - 1 = (u.1 - 1) + (FQ L rest).dl := by omega
                  rw [e]
                  refine isBlankLine_shift ⟨stale, hsb, hstale⟩ (u.1 - 1) 0 (by rw [hlineNum, hsame]; omega) ?_
                  have : 0 < sa.length := List.length_pos_iff.mpr hsa
                  omega
            obtain ⟨sa', sb', e1, e2, hst', hblank, hsa', hsle1⟩ := key
            rw [e1, e2, hblank]
            have hc1 : AI Cov6 sA1 := by rw [eA1]; exact hc
            have hO' := hO 0 (isBlankLine (u.1 - 1) 0 sa') sA1 sB1 h1 hc1 hl1 trivial (fun _ _ _ => trivial)
            rw [ι_zero] at hO'
            refine P2.bind (hO'.withL (R := fun r sA' => AUr b sA' ∧ r = OpenResult.newBlocksOpened)
                (fun a sA4 e => ⟨hOK _ sA1 sA4 a hau1 hop1 hl1 e,
                  openBlocks0_new b sA1 sA4 _ a c1 hop1 hri1 hlt1 hnb1 e⟩))
              (fun r r' sA4 sB4 ⟨⟨hr, hlim4, ⟨hai4, _⟩, hline4, hne4⟩, haur4, hrnew⟩ => ?_)
            rw [hr, hrnew]
            simp only [bne_self_eq_false, Bool.false_eq_true, if_false]
            refine P2.bind (advanceLine_limbo_x (FQ_qne L rest) hlim4) (fun _ _ sA5 sB5 ⟨h5, hpc5, hl5, he5⟩ => ?_)
            have hc5 : AI Cov6 sA5 := by rw [he5]; exact hai4
            have hline5 : 1 ≤ sA5.r.line := by omega
            have hau5 : AU b sA5 := by
              rw [he5]; exact haur4.adv (limbo_stop' hlim4.2) (fun t r' ht => ht)
            have hsle5 : SLe sa' sA5 := hsle1.mono (by omega)
            refine P2.bind (linesLoop_x hnl hP hO hcl hPK hXE fuelA fuelB sa' sb' sA5 sB5 h5 hc5 hst' hline5 hau5 hsle5)
              (fun w z sA6 sB6 ⟨hqf, hqt⟩ => ?_)
            by_cases hret : w.1 = true
            · -- run A is done; run B has arrived on `L`
              rw [if_pos hret]
              intro _ sAf _ sdf f1 f2
              simp only [pure, StateT.pure, Except.pure, Except.ok.injEq, Prod.mk.injEq] at f1
              obtain ⟨_, rfl⟩ := f1
              intro hraw
              obtain ⟨hz, htb⟩ := hqt hret hraw
              rw [hz] at f2
              simp only [Bool.false_eq_true, if_false] at f2
              exact ⟨sB6, z.2, fuelB, topB_atTop hLb htb f2, f2⟩
            · rw [if_neg hret]
              have hwf : w.1 = false := by simpa using hret
              obtain ⟨hz, hst6, htop6, hop6, hai6, hline6, hau6, hsle6, hne6⟩ := hqf hwf
              rw [hz]
              simp only [Bool.false_eq_true, if_false]
              have hw2 : w.2 ≠ [] := hne6 (.inr (by rw [hpc5]; exact hne4 hrnew))
              obtain ⟨stale6, hsb6, hstale6⟩ := hst6
              exact ih fuelB w.2 z.2 sA6 sB6 htop6.w hai6 hop6 (by omega)
                ⟨stale6, hsb6, hstale6, fun e => absurd e hw2, fun _ => hline6⟩ hau6 hsle6
          exact hcont.apply ka kb
        · -- run A's SkipBlankLines reaches the end of `b`: run B's goes on to `L`
          have hokf : xa.2.2 = false := by simpa using hok
          obtain ⟨q1, q2, q3, q4, q5, q6, q7, q8, q9, q10, q11⟩ := hs.2 hokf
          obtain ⟨_, lines, ok⟩ := xa
          simp only at hokf
          subst hokf
          simp only [Bool.not_false, if_true, pure, StateT.pure, Except.pure] at ka
          cases ka
          intro _
          have hlA := (Sh.skipBlankLinesR_line _ _ _ ha).1
          refine ⟨sB, sb, fuelB + 1, ⟨?_, ?_, keysOff_of_ctxRel (L := L) (rest := rest) h.c hc.2, ?_⟩, e2'⟩
          · rw [q5]; exact FX_store h.n
          · rw [h.c.opened, hop]; rfl
          · refine ⟨xb, sB1, hb, q1, q3, q4, q10, ?_, ?_, fun _ e he => ?_⟩
            · rw [q7]; rfl
            · rw [q8]; simp [FQ, FX]
            · have := binv_sle hbi hsle hline e he
              rw [q9]
              have hd0 : (FQ L rest).dl = 0 := rfl
              omega
      · -- run A stands at the end of `b`
        obtain ⟨⟨c, hri, hcp⟩, hn, hctx, hl1, hl2, hsrc, hpos2, _, _⟩ := xend_facts hL hx
        obtain ⟨a1, a2, a3⟩ := skip_at_end hri hcp xa sA1 ha
        obtain ⟨_, lines, ok⟩ := xa
        simp only at a1
        subst a1
        simp only [Bool.not_false, if_true, pure, StateT.pure, Except.pure] at ka
        cases ka
        intro _
        obtain ⟨p1, p2, p3, p4, p5, p6, p7, _⟩ := Sh.skip_one_blank sB L hl1 hl2 hLb xb sB1 hb
        refine ⟨sB, sb, fuelB + 1, ⟨?_, ?_, keysOff_of_ctxRel (L := L) (rest := rest) hctx.toCtxRelW hc.2, ?_⟩, e2'⟩
        · rw [a2]; exact FX_store hn
        · rw [hctx.opened, hop]; rfl
        · refine ⟨xb, sB1, hb, p2, p3, p4, p5, by rw [p6]; exact hsrc, by rw [p7]; exact hpos2, fun h0 => ?_⟩
          rw [p1] at h0; cases h0

end GM.Blocks.Xs

namespace GM.Blocks.Xs
open GM GM.Text GM.Spec GM.Proof.Reader GM.Blocks GM.Blocks.L

theorem psim_cov6 (F : Frame) (hF : F.OK) (b : Bytes) (hnl : b.getLast? = some 10) : PSim F b Cov6 where
  op := by
    intro bp h
    have hq : QNL F b := .inr hnl
    cases bp with
    | setext => exact absurd rfl h.2.2.1
    | thematic => exact thematicOpen_sim F b hq
    | list => exact absurd rfl h.1
    | listItem => exact absurd rfl h.2.1
    | code => exact codeOpen_sim F hF b hq
    | atx => exact atxOpen_sim F b hq
    | fenced => exact absurd rfl h.2.2.2
    | blockquote => exact blockquoteOpen_sim F b hq
    | html => exact htmlOpen_sim F b hq
    | paragraph => exact paragraphOpen_sim F b hq
  co := by
    intro bp h
    cases bp with
    | setext => exact absurd rfl h.2.2.1
    | thematic => exact thematicContinue_sim F b
    | list => exact absurd rfl h.1
    | listItem => exact absurd rfl h.2.1
    | code => exact codeContinue_sim F hF b
    | atx => exact atxContinue_sim F b
    | fenced => exact absurd rfl h.2.2.2
    | blockquote => exact blockquoteContinue_sim F b
    | html => exact htmlContinue_sim F b
    | paragraph => exact paragraphContinue_sim F b
  cl := by
    intro bp h
    cases bp with
    | setext => exact absurd rfl h.2.2.1
    | thematic => exact thematicClose_sim F b
    | list => exact absurd rfl h.1
    | listItem => exact absurd rfl h.2.1
    | code => exact codeClose_sim F b
    | atx => exact atxClose_sim F b
    | fenced => exact absurd rfl h.2.2.2
    | blockquote => exact blockquoteClose_sim F b
    | html => exact htmlClose_sim F b
    | paragraph => exact paragraphClose_sim F hF b
  keysO := fun bp h parent s s' a e => bpOpen_keys bp h parent s s' a e
  keysC := fun bp h node s s' a e => bpContinue_keys bp h node s s' a e
  keysCl := fun bp h node s s' a e => bpClose_keys bp h node s s' a e
  strictO := strictO6' b hnl
  strictC := strictC6' b hnl

theorem new_ext (b q : Bytes) (hnl : b.getLast? = some 10) : Reader.new (b ++ q) = shR (FX q) (Reader.new b) := by
  have hb : 0 < b.length := by
    cases b with
    | nil => cases hnl
    | cons x xs => simp
  unfold Reader.new
  rw [← advanceLine_sh (FX q) _ (by simp) (.inr ⟨by simpa using hb, hnl⟩)]
  rfl

/-- **the run on `b ++ "\n" ++ L ++ rest` reaches the top of the outer loop with the final store of `run b`** -/
theorem run_reaches_top (b L rest : Bytes) (hnl : b.getLast? = some 10) (hpl : PlainL b)
    (hL : ∃ body, L = body ++ [10] ∧ ∀ c ∈ body, c ≠ 10) (hLb : isBlank L = false)
    (hPK : PassKeeps b) (hOK : OpenKeeps b)
    (sa sd : St) (hsa : run b = .ok sa) (hsd : run (b ++ 10 :: (L ++ rest)) = .ok sd)
    (hraw : endsInRawBlock sa = false) :
    ∃ s1 stats1 f1, AtTop b L rest sa.nodes s1 stats1 ∧ blocksLoop 0 f1 stats1 s1 = .ok ((), sd) := by
  have hP := psim_cov6 (FQ L rest) (FQ_ok L rest) b hnl
  have hNL : NL b := .inr hnl
  have hO : G.OpenG (FQ L rest) b (side b Cov6) := openBlocks_p2 hP (FQ_ok L rest) hNL (trigAt_plainL b hpl)
  have hcl := hcl6' b hnl
  have hXE : LinesXEndP b L rest := fun fA fB sa sb sA sB => linesLoop_xend hL hP fA fB sa sb sA sB
  have hb : 0 < b.length := by
    cases b with
    | nil => cases hnl
    | cons x xs => simp
  rw [Sh.run_eq_blocksLoop] at hsa hsd
  cases ha : blocksLoop 0 (linesFuel b) [] (initSt b) with
  | error e => rw [ha] at hsa; cases hsa
  | ok va =>
    cases hd : blocksLoop 0 (linesFuel (b ++ 10 :: (L ++ rest))) [] (initSt (b ++ 10 :: (L ++ rest))) with
    | error e => rw [hd] at hsd; cases hsd
    | ok vd =>
      rw [ha] at hsa; rw [hd] at hsd
      obtain ⟨ua, sa'⟩ := va
      obtain ⟨ud, sd'⟩ := vd
      simp only [Except.map, Except.ok.injEq] at hsa hsd
      subst hsa hsd
      have hline0 : (initSt b).r.line = 0 := by simp [initSt, Reader.new, Reader.advanceLine]
      have hpad0 : (initSt b).r.pos.padding = 0 := by simp [initSt, Reader.new, Reader.advanceLine]
      have hstart : SRw (FQ L rest) b (initSt b) (initSt (b ++ 10 :: (L ++ rest))) := by
        refine ⟨⟨_, ri_init b⟩, new_ext b _ hnl, ⟨by simp [initSt], by simp [initSt, FQ, FX], fun j => ?_, by simp [initSt],
          fun i h1 h2 => ?_⟩, ⟨rfl, rfl, rfl, rfl, fun _ => rfl⟩⟩
        · rw [FX_ι, FX_shN]; rfl
        · have : (FQ L rest).c = 0 := rfl
          omega
      have hl : HL b (initSt b) := ⟨⟨_, ri_init b, by simpa [RCur.init] using hb⟩, ts_init b⟩
      have hai : AI Cov6 (initSt b) := ⟨by intro x hx; simp [initSt] at hx, rfl, rfl, rfl, rfl⟩
      have hbi : BInv (FQ L rest) [] [] (initSt b).r.line :=
        ⟨[], by simp, (fun e he => by cases he), fun _ => Or.inl rfl, fun h => absurd rfl h⟩
      have hau : AU b (initSt b) :=
        { st := Sh.stable_init b, k := Sh.a2_K_init b, top := by intro b0 h0; simp [initSt] at h0,
          gp := tl_GP_init b, att := by intro z hz; simp [initSt] at hz,
          pad := Sh.padOK_of_zero hpad0 }
      have key := blocksLoop_x hnl hL hLb hP hO hcl hPK hOK hXE (linesFuel b)
        (linesFuel (b ++ 10 :: (L ++ rest))) [] [] (initSt b) (initSt (b ++ 10 :: (L ++ rest)))
        (.inl ⟨hstart, hl⟩) hai rfl (by rw [hline0]; exact Int.le_refl _) hbi hau (by intro e he; cases he)
      exact key.apply ha hd hraw

end GM.Blocks.Xs
