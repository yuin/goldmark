import GM.Proof.QuoteSimFoot

/-
  part Edit — what `Close` of a block parser (and a tree operation that inserts a new node) may do to the
  state, said once.

  `CFoot w B K s0 s` (`Close` of node `w`): kinds stay; flags stay outside `B`; lines are written only at `w`, at new nodes
  and at somebody's children; children lists gain new nodes only; new nodes have a kind in `K`; of the context only
  `tmpPara` and `fence` change, by being reset. `Keeps (CFoot w B K s0) m` is read off the walks of GM.Proof.BlocksStep /
  GM.Proof.BlocksBuilt (`LinksB.cfoot`, `Built.keeps`); `setextClose` and the list parser's `Close` are walked here
  (tactic `cfoot`). Result: `bpClose_foot`. The store part `Edit` also holds across `Open` and `Continue`
  (`bpOpen_edit`, `bpContinue_edit`, from GM.Proof.QuoteSimFoot): what follows from `Edit` holds for all three.
-/
section Edit
namespace GM.Blocks
open GM GM.Text

/-- the context after `Close`: `tmpPara` and `fence` are kept or reset, nothing else changes -/
structure PcClose (pc0 pc : Ctx) : Prop where
  eq : pc = { pc0 with tmpPara := pc.tmpPara, fence := pc.fence }
  tmp : pc.tmpPara = pc0.tmpPara ∨ pc.tmpPara = none
  fence : pc.fence = pc0.fence ∨ pc.fence = none

theorem PcClose.refl (pc : Ctx) : PcClose pc pc := ⟨rfl, .inl rfl, .inl rfl⟩

theorem PcClose.tmpNone {pc0 pc : Ctx} (h : PcClose pc0 pc) : PcClose pc0 { pc with tmpPara := none } :=
  ⟨by rw [h.eq], .inr rfl, h.fence⟩

theorem PcClose.fenceNone {pc0 pc : Ctx} (h : PcClose pc0 pc) : PcClose pc0 { pc with fence := none } :=
  ⟨by rw [h.eq], h.tmp, .inr rfl⟩

theorem PcClose.foot {L : Option Block} {pc0 pc : Ctx} (h : PcClose pc0 pc) : PcFoot L pc0 pc := by
  have e := h.eq
  exact ⟨(congrArg Ctx.opened e :), (congrArg Ctx.blockOffset e :), (congrArg Ctx.blockIndent e :),
    (congrArg Ctx.refs e :), h.tmp.elim .inl (fun e => .inr (.inl e)), h.fence.elim .inl (fun e => .inr (.inl e))⟩

/-- the lines of node `id` may be written: it is the node being closed, a new node, or somebody's child -/
def May (w : Nat) (n0 : List Node) (id : Nat) : Prop :=
  id = w ∨ n0.length ≤ id ∨ ∃ q, id ∈ (n0.getD q default).children

/-- the store `n` comes from `n0` by `Close` of node `w` or by tree operations: kinds stay, new nodes have a kind in `K`
    and, like the old ones outside `B`, their flag; lines are written only where `May` allows; the children lists
    gain new nodes only -/
structure Edit (w : Nat) (B : Nat → Prop) (K : Kind → Prop) (n0 n : List Node) : Prop where
  len : n0.length ≤ n.length
  kind : ∀ i, i < n0.length → (n.getD i default).kind = (n0.getD i default).kind
  flag : ∀ i, i < n0.length → ¬ B i → (n.getD i default).blankPrev = (n0.getD i default).blankPrev
  lines : ∀ i, i < n0.length → (n.getD i default).lines = (n0.getD i default).lines ∨ i = w ∨
    ∃ q, i ∈ (n0.getD q default).children
  kids : ∀ q c, c ∈ (n.getD q default).children → c ∈ (n0.getD q default).children ∨ n0.length ≤ c
  new : ∀ i, n0.length ≤ i → i < n.length →
    K (n.getD i default).kind ∧ (¬ B i → (n.getD i default).blankPrev = false)

structure CFoot (w : Nat) (B : Nat → Prop) (K : Kind → Prop) (s0 s : St) : Prop where
  nodes : Edit w B K s0.nodes s.nodes
  pc : PcClose s0.pc s.pc

section edit
variable {w : Nat} {B : Nat → Prop} {K : Kind → Prop}

theorem Edit.refl (n : List Node) : Edit w B K n n :=
  ⟨Nat.le_refl _, fun _ _ => rfl, fun _ _ _ => rfl, fun _ _ => .inl rfl, fun _ _ h => .inl h,
    fun _ h1 h2 => absurd h2 (Nat.not_lt.mpr h1)⟩

theorem Edit.set {n0 n : List Node} (h : Edit w B K n0 n) (id : Nat) (x : Node)
    (hk : x.kind = (n.getD id default).kind) (hb : x.blankPrev = (n.getD id default).blankPrev ∨ B id)
    (hl : x.lines = (n.getD id default).lines ∨ May w n0 id)
    (hc : ∀ c ∈ x.children, c ∈ (n.getD id default).children ∨ n0.length ≤ c) : Edit w B K n0 (n.set id x) where
  len := by rw [List.length_set]; exact h.len
  kind := fun i hi => by
    rw [node_getD_set]
    split
    · rename_i e; rw [hk, e.1]; exact h.kind i hi
    · exact h.kind i hi
  flag := fun i hi hB => by
    rw [node_getD_set]
    split
    · rename_i e
      rcases hb with hb | hb
      · rw [hb, e.1]; exact h.flag i hi hB
      · exact absurd (e.1 ▸ hb) hB
    · exact h.flag i hi hB
  lines := fun i hi => by
    rw [node_getD_set]
    split
    · rename_i e
      rcases hl with hl | hl | hl | hl
      · rw [hl, e.1]; exact h.lines i hi
      · exact .inr (.inl (e.1 ▸ hl))
      · exact absurd hi (Nat.not_lt.mpr (e.1 ▸ hl))
      · exact .inr (.inr (e.1 ▸ hl))
    · exact h.lines i hi
  kids := fun q c hcm => by
    rw [node_getD_set] at hcm
    split at hcm
    · rename_i e
      rcases hc c hcm with hc | hc
      · exact h.kids q c (e.1 ▸ hc)
      · exact .inr hc
    · exact h.kids q c hcm
  new := fun i h1 h2 => by
    rw [List.length_set] at h2
    rw [node_getD_set]
    split
    · rename_i e
      have hn := h.new i h1 h2
      refine ⟨by rw [hk, e.1]; exact hn.1, fun hB => ?_⟩
      rcases hb with hb | hb
      · rw [hb, e.1]; exact hn.2 hB
      · exact absurd (e.1 ▸ hb) hB
    · exact h.new i h1 h2

theorem Edit.push {n0 n : List Node} (h : Edit w B K n0 n) (x : Node) (hk : K x.kind) (hb : x.blankPrev = false)
    (hc : x.children = []) : Edit w B K n0 (n ++ [x]) where
  len := by rw [List.length_append]; exact Nat.le_trans h.len (Nat.le_add_right _ _)
  kind := fun i hi => by rw [getD_append_node, if_pos (Nat.lt_of_lt_of_le hi h.len)]; exact h.kind i hi
  flag := fun i hi => by rw [getD_append_node, if_pos (Nat.lt_of_lt_of_le hi h.len)]; exact h.flag i hi
  lines := fun i hi => by rw [getD_append_node, if_pos (Nat.lt_of_lt_of_le hi h.len)]; exact h.lines i hi
  kids := fun q c hcm => by
    rw [getD_append_node] at hcm
    split at hcm
    · exact h.kids q c hcm
    · split at hcm
      · rw [hc] at hcm; cases hcm
      · cases hcm
  new := fun i h1 h2 => by
    rw [getD_append_node]
    split
    · rename_i hi; exact h.new i h1 hi
    · rename_i hi
      have e : i = n.length := by
        rw [List.length_append, List.length_singleton] at h2
        omega
      rw [if_pos e]
      exact ⟨hk, fun _ => hb⟩

theorem Edit.mono {B' : Nat → Prop} {K' : Kind → Prop} {n0 n : List Node} (h : Edit w B K n0 n)
    (hB : ∀ i, B i → B' i) (hK : ∀ k, K k → K' k) : Edit w B' K' n0 n :=
  ⟨h.len, h.kind, fun i hi hn => h.flag i hi (fun hb => hn (hB i hb)), h.lines, h.kids,
    fun i h1 h2 => ⟨hK _ (h.new i h1 h2).1, fun hn => (h.new i h1 h2).2 (fun hb => hn (hB i hb))⟩⟩

/-- `Open` / `Continue` are special cases -/
theorem Grow.edit {W : Nat → Prop} {n0 n : List Node} (h : Grow W K n0 n) (hw : ∀ i, W i → i = w) : Edit w B K n0 n where
  len := h.len
  kind := fun _ hi => h.kind hi
  flag := fun _ hi _ => h.blankPrev hi
  lines := fun i hi => by
    by_cases hW : W i
    · exact .inr (.inl (hw i hW))
    · rw [h.same i hi hW]; exact .inl rfl
  kids := fun q c hc => by
    by_cases h0 : q < n0.length
    · rw [h.children h0] at hc; exact .inl hc
    · exfalso
      by_cases h1 : q < n.length
      · rw [(h.new q (Nat.le_of_not_lt h0) h1).1.children] at hc; cases hc
      · rw [node_getD_ge _ q (Nat.le_of_not_lt h1)] at hc; cases hc
  new := fun i h1 h2 => ⟨(h.new i h1 h2).2, fun _ => (h.new i h1 h2).1.blankPrev⟩

theorem CFoot.refl (s : St) : CFoot w B K s s := ⟨Edit.refl _, PcClose.refl _⟩

variable {s0 : St}

theorem cfoot_modPc (f : Ctx → Ctx) (hf : ∀ pc, PcClose s0.pc pc → PcClose s0.pc (f pc)) :
    Keeps (CFoot w B K s0) (modPc f) := by
  intro s a s' hs h; cases h; exact ⟨hs.nodes, hf _ hs.pc⟩

theorem cfoot_modNode (id : Nat) (f : Node → Node) (hk : ∀ n, (f n).kind = n.kind)
    (hb : (∀ n, (f n).blankPrev = n.blankPrev) ∨ B id) (hl : (∀ n, (f n).lines = n.lines) ∨ May w s0.nodes id)
    (hc : ∀ n c, c ∈ (f n).children → c ∈ n.children ∨ s0.nodes.length ≤ c) :
    Keeps (CFoot w B K s0) (modNode id f) := by
  intro s a s' hs h; cases h
  exact ⟨hs.nodes.set id _ (hk _) (hb.elim (fun h => .inl (h _)) .inr) (hl.elim (fun h => .inl (h _)) .inr)
    (fun c hcm => hc _ c hcm), hs.pc⟩

theorem cfoot_appendLine (id : Nat) (seg : Segment) (hl : May w s0.nodes id) :
    Keeps (CFoot w B K s0) (appendLine id seg) :=
  cfoot_modNode id _ (fun _ => rfl) (.inl fun _ => rfl) (.inr hl) (fun _ _ h => .inl h)

theorem cfoot_newNode (x : Node) (hk : K x.kind) (hb : x.blankPrev = false) (hc : x.children = []) :
    Keeps (CFoot w B K s0) (newNode x) := by
  intro s a s' hs h; cases h; exact ⟨hs.nodes.push x hk hb hc, hs.pc⟩

theorem cfoot_newNode_bind {β} (x : Node) (f : Nat → M β) (hk : K x.kind) (hb : x.blankPrev = false)
    (hc : x.children = []) (hf : ∀ id, s0.nodes.length ≤ id → Keeps (CFoot w B K s0) (f id)) :
    Keeps (CFoot w B K s0) (newNode x >>= f) := by
  intro s b s' hs h
  obtain ⟨id, s1, e1, e2⟩ := bind_inv_u h
  have h1 := cfoot_newNode x hk hb hc s id s1 hs e1
  cases e1
  exact hf _ hs.nodes.len _ b s' h1 e2

/-- the store part along the generated relation of GM.Proof.BlocksStep: lines are written where `May` allows, a node
    comes under a parent only when it is new -/
theorem LinkB.edit {Kw : Prop} {Lb : Option Block} {n0 : List Node} {a b : St}
    (h : LinkB (fun _ c => n0.length ≤ c) Kw Lb K (May w n0) a b) : Edit w B K n0 a.nodes → Edit w B K n0 b.nodes := by
  induction h with
  | step h =>
    induction h with
    | refl s => exact id
    | trans _ _ ih1 ih2 => exact fun h => ih2 (ih1 h)
    | rd s r' _ _ => exact id
    | key s pc' _ _ => exact id
    | write s id v h1 h2 =>
      intro h
      have h2 : LinesOnly v (s.nodes.getD id default) := h2
      obtain ⟨_, ec, ek⟩ := h2.links
      exact h.set id v ek (.inl (by rw [h2])) (.inr h1) (fun c hc => .inl (ec ▸ hc))
    | push s n h1 => exact fun h => h.push n h1.2 h1.1.blankPrev h1.1.children
  | trans _ _ ih1 ih2 => exact fun h => ih2 (ih1 h)
  | kids s p cs hg => exact fun h => h.set p _ rfl (.inl rfl) (.inl rfl) (fun c hc => hg c hc)
  | orphan s c => exact fun h => h.set c _ rfl (.inl rfl) (.inl rfl) (fun _ hc => .inl hc)
  | adopt s c p _ => exact fun h => h.set c _ rfl (.inl rfl) (.inl rfl) (fun _ hc => .inl hc)

theorem LinkF.pc_eq {L : Nat → Nat → Prop} {Lb : Option Block} {N : Node → Prop} {U : Node → Node → Prop} {W : Nat → Prop}
    {a b : St} (h : LinkF L False Lb N U W a b) : b.pc = a.pc := by
  induction h with
  | step h =>
    induction h with
    | refl s => rfl
    | trans _ _ ih1 ih2 => exact ih2.trans ih1
    | rd s r' _ _ => rfl
    | key s pc' hk _ => exact hk.elim
    | write s id v _ _ => rfl
    | push s n _ => rfl
  | trans _ _ ih1 ih2 => exact ih2.trans ih1
  | kids s p cs _ => rfl
  | orphan s c => rfl
  | adopt s c p _ => rfl

/-- a function walked in GM.Proof.BlocksStep that writes no context key keeps the footprint of `Close` -/
theorem LinksB.cfoot {Lb : Option Block} {α} {m : M α}
    (hm : LinksB (fun _ c => s0.nodes.length ≤ c) False Lb K (May w s0.nodes) m) : Keeps (CFoot w B K s0) m :=
  fun s a s' hs e =>
    have h := hm.h s a s' e
    ⟨LinkB.edit h hs.nodes, (LinkF.pc_eq h) ▸ hs.pc⟩

theorem cfoot_removeChild (p c : Nat) : Keeps (CFoot w B K s0) (removeChild p c) :=
  LinksB.cfoot (Lb := none) (removeChild_linksF p c)

theorem cfoot_nextSibling (c : Nat) : Keeps (CFoot w B K s0) (nextSibling c) := nextSibling_keeps c

theorem mem_nextIn {c x : Nat} : ∀ {l : List Nat}, nextIn c l = some x → x ∈ l
  | [], h => by simp [nextIn] at h
  | [a], h => by simp [nextIn] at h
  | a :: b :: rest, h => by
    unfold nextIn at h
    split at h
    · simp at h; rw [← h]; simp
    · exact List.mem_cons_of_mem _ (mem_nextIn h)

theorem nextSibling_child {c nx : Nat} {s s' : St} (h : nextSibling c s = .ok (some nx, s')) :
    ∃ q, nx ∈ (s.nodes.getD q default).children := by
  unfold nextSibling at h
  obtain ⟨cn, s1, e1, h⟩ := bind_inv_u h
  cases e1
  cases hp : (s.nodes.getD c default).parent with
  | none => rw [hp] at h; cases h
  | some p =>
    rw [hp] at h
    obtain ⟨pn, s2, e2, h⟩ := bind_inv_u h
    cases e2
    have h' : (Except.ok (nextIn c (s.nodes.getD p default).children, s) : Except Panic (Option Nat × St)) =
        .ok (some nx, s') := h
    simp only [Except.ok.injEq, Prod.mk.injEq] at h'
    exact ⟨p, mem_nextIn h'.1⟩

theorem cfoot_nextSibling_bind {β} (c : Nat) (f : Option Nat → M β) (hnone : Keeps (CFoot w B K s0) (f none))
    (hsome : ∀ nx, May w s0.nodes nx → Keeps (CFoot w B K s0) (f (some nx))) :
    Keeps (CFoot w B K s0) (nextSibling c >>= f) := by
  refine Keeps.bind_of (cfoot_nextSibling c) (fun a ha => ?_)
  obtain ⟨s, s', hs, hm⟩ := ha
  cases a with
  | none => exact hnone
  | some nx =>
    obtain ⟨q, hq⟩ := nextSibling_child hm
    exact hsome nx ((hs.nodes.kids q nx hq).elim (fun h => .inr (.inr ⟨q, h⟩)) (fun h => .inr (.inl h)))

theorem cfoot_insertAfter (p : Nat) (v1 : Option Nat) (ins : Nat) (hi : s0.nodes.length ≤ ins) :
    Keeps (CFoot w B K s0) (insertAfter p v1 ins) :=
  LinksB.cfoot (Lb := none) (insertAfter_linksF (L := fun _ c => s0.nodes.length ≤ c) v1 hi)

theorem cfoot_replaceChild (p v1 ins : Nat) (hi : s0.nodes.length ≤ ins) :
    Keeps (CFoot w B K s0) (replaceChild p v1 ins) :=
  LinksB.cfoot (Lb := none) (replaceChild_linksF (L := fun _ c => s0.nodes.length ≤ c) v1 hi)

end edit

/-- no `Close` touches the reader: the reader rules of `walk_step` are left out -/
macro "cfoot_step" : tactic =>
  `(tactic| first
    | with_reducible apply Keeps.pure
    | intro_pi
    | ((with_reducible apply cfoot_newNode_bind) <;> (first | exact .inl rfl | exact .inr rfl | rfl | (intro_pi; intro_pi)))
    | ((with_reducible apply cfoot_nextSibling_bind) <;> (first | (intro_pi; intro_pi; dsimp only) | dsimp only))
    | with_reducible apply Keeps.bind
    | with_reducible apply Keeps.ite
    | split
    | with_reducible apply Keeps.throw
    | with_reducible apply getNode_keeps
    | with_reducible apply liftE_keeps
    | with_reducible apply getPc_keeps
    | with_reducible apply source_keeps
    | with_reducible apply get_keeps
    | ((with_reducible apply cfoot_modPc); intro pc hpc; first | exact hpc.tmpNone | exact hpc.fenceNone)
    | ((with_reducible apply cfoot_appendLine); first | assumption | exact .inr (.inl (by assumption)))
    | ((with_reducible apply cfoot_modNode) <;> first
        | (intro n; rfl)
        | exact .inl (fun _ => rfl)
        | exact .inr (by assumption)
        | exact .inr (.inl rfl)
        | exact .inr rfl
        | exact fun _ _ h => .inl h)
    | with_reducible apply cfoot_removeChild
    | ((with_reducible apply cfoot_insertAfter); assumption)
    | ((with_reducible apply cfoot_replaceChild); assumption)
    | apply_hyp
    | (exfalso; contradiction))

/-- walk over the `do` block of a `Close` -/
macro "cfoot" : tactic => `(tactic| repeat' cfoot_step)

/-- the fold of GM.Proof.BlocksBuilt into `Keeps`, for a program that does not call the reader -/
theorem Built.keeps {I : St → Prop} {NW : Nat → (Node → Node) → Prop} {PW : (Ctx → Ctx) → Prop} {NN : Node → Prop}
    (hnw : ∀ id f, NW id f → Keeps I (GM.Blocks.modNode id f)) (hnn : ∀ n, NN n → Keeps I (GM.Blocks.newNode n))
    (hpw : ∀ f, PW f → Keeps I (GM.Blocks.modPc f)) {α : Type} {m : M α} (h : Built False NW PW NN m) : Keeps I m :=
  h.fold (J := fun m => Keeps I m)
    { pure := Keeps.pure, bind := Keeps.bind, throw := fun e _ => Keeps.throw e, liftE := fun e _ => liftE_keeps e,
      rd := fun h _ => h.elim, getNode := getNode_keeps, getPc := getPc_keeps, source := source_keeps,
      position := position_keeps, get := get_keeps, modNode := hnw, newNode := hnn, modPc := hpw }

/-- the kinds of the nodes `Close` makes: the Paragraph of a setext heading without text, the TextBlocks of a tight list -/
def CloseK (k : Kind) : Prop := k = .paragraph ∨ k = .textBlock

section close
variable {B : Nat → Prop} {s0 : St}

theorem paragraphClose_foot (n : Nat) : Keeps (CFoot n B CloseK s0) (paragraphClose n) :=
  LinksB.cfoot (Lb := none) (paragraphClose_linksB (.inl rfl))

theorem codeClose_foot (n : Nat) : Keeps (CFoot n B CloseK s0) (codeClose n) :=
  LinksB.cfoot (Lb := none) (LinksF.of_steps (codeClose_stepsB (.inl rfl)))

theorem fencedClose_foot (n : Nat) : Keeps (CFoot n B CloseK s0) (fencedClose n) :=
  (fencedClose_built (RD := False) (NW := fun _ _ => False) (NN := fun _ => False) n).keeps (fun _ _ h => h.elim)
    (fun _ h => h.elim) fun _ hf => hf ▸ cfoot_modPc _ fun _ h => h.fenceNone

/-- `setextClose` copies the flag of the temporary paragraph to the heading. It and the list parser's `Close` are walked
    (tactic `cfoot`), not folded: the nodes they relink and overwrite are read from the store during the run, and that these
    are children or new (`May`) holds only under the footprint so far (`cfoot_nextSibling_bind`, `cfoot_newNode_bind`). -/
theorem setextClose_foot (n : Nat) : Keeps (CFoot n (· = n) CloseK s0) (setextClose n) := by
  unfold setextClose; cfoot

theorem tightenItem_foot {w : Nat} (child : Nat) : ∀ gcs : List Nat, Keeps (CFoot w B CloseK s0) (tightenItem child gcs) := by
  intro gcs
  induction gcs with
  | nil => unfold tightenItem; exact Keeps.pure _
  | cons gc gcs ih => unfold tightenItem; cfoot

theorem tightenItems_foot {w : Nat} : ∀ cs : List Nat, Keeps (CFoot w B CloseK s0) (tightenItems cs) := by
  have := @tightenItem_foot B s0 w
  intro cs
  induction cs with
  | nil => unfold tightenItems; exact Keeps.pure _
  | cons c cs ih => unfold tightenItems; cfoot

theorem listClose_foot (n : Nat) : Keeps (CFoot n B CloseK s0) (listClose n) := by
  have := @tightenItems_foot B s0 n
  unfold listClose; cfoot

end close

/-- `Close` of a block parser; only `setextHeadingParser.Close` changes a flag, that of its node -/
theorem bpClose_foot (bp : BP) (n : Nat) {s s' : St} {a : Unit} (e : bpClose bp n s = .ok (a, s')) :
    CFoot n (fun i => bp = .setext ∧ i = n) CloseK s s' := by
  refine Keeps.ok ?_ (CFoot.refl s) e
  cases bp <;> unfold bpClose
  · intro s1 a1 s2 h1 e1
    have h := setextClose_foot n s1 a1 s2 ⟨h1.nodes.mono (fun _ hb => hb.2) (fun _ hk => hk), h1.pc⟩ e1
    exact ⟨h.nodes.mono (fun _ hb => ⟨rfl, hb⟩) (fun _ hk => hk), h.pc⟩
  · exact Keeps.pure _
  · exact listClose_foot n
  · exact Keeps.pure _
  · exact codeClose_foot n
  · exact Keeps.pure _
  · exact fencedClose_foot n
  · exact Keeps.pure _
  · exact Keeps.pure _
  · exact paragraphClose_foot n

/-- `Open` as an `Edit`: no old node is written, so any `w` will do -/
theorem bpOpen_edit (bp : BP) (p : Nat) {s s' : St} {a : Option Nat × PState} (e : bpOpen bp p s = .ok (a, s'))
    (w : Nat) : Edit w (fun _ => False) (· = bp.kind) s.nodes s'.nodes :=
  (bpOpen_foot bp p e).1.nodes.edit (fun _ h => h.elim)

theorem bpContinue_edit (bp : BP) (n : Nat) {s s' : St} {a : PState} (e : bpContinue bp n s = .ok (a, s')) :
    Edit n (fun _ => False) (fun _ => False) s.nodes s'.nodes :=
  (bpContinue_foot bp n e).nodes.edit (fun _ h => h)

end GM.Blocks
end Edit

/-
  part Frame — what the block parsers leave alone in the parse context, read off their footprints
  (GM.Proof.QuoteSimFoot, section `Edit` above): `pc.opened` (and `blockOffset`, `blockIndent`) is never touched
  (`bp*_opened`); `pc.tmpPara ≠ some 0` (`bp*_tmp`); `FenceIndOK` (`bp*_fence`); `Close` keeps every `I` with
  `PcMods I` (`bpClose_keeps`).
  Also: only `setextOpen` answers `RequireParagraph`, and only when there is a last opened block
  (`requirePara_setext`).
-/
section Frame
namespace GM.Blocks
open GM GM.Text

theorem PcMods.close {I : St → Prop} (hI : PcMods I) {s s' : St} (hs : I s) (h : PcClose s.pc s'.pc) : I s' := by
  have h1 : I { r := s'.r, nodes := s'.nodes, pc := s.pc } := hI.noNodes.h _ s'.nodes (hI.noR.h s s'.r hs)
  have h2 : I { r := s'.r, nodes := s'.nodes, pc := { s.pc with tmpPara := s'.pc.tmpPara } } := by
    rcases h.tmp with e | e <;> rw [e]
    · exact h1
    · exact hI.tmpNone _ h1
  have h3 : I { r := s'.r, nodes := s'.nodes, pc := { s.pc with tmpPara := s'.pc.tmpPara, fence := s'.pc.fence } } := by
    rcases h.fence with e | e <;> rw [e]
    · exact h2
    · exact hI.fenceNone _ h2
  rw [← h.eq] at h3
  exact h3

theorem bpClose_keeps {I : St → Prop} (hI : PcMods I) (bp : BP) (n : Nat) : Keeps I (bpClose bp n) :=
  fun _ _ _ hs e => hI.close hs (bpClose_foot bp n e).pc

theorem appendChild_keeps {I : St → Prop} (hI : NoNodes I) (p c : Nat) : Keeps I (appendChild p c) := by
  have : ∀ p c, Keeps I (removeChild p c) := by intro p c; unfold removeChild; keeps
  have : ∀ c, Keeps I (ensureIsolated c) := by intro c; unfold ensureIsolated; keeps
  unfold appendChild; keeps

theorem removeChild_keeps {I : St → Prop} (hI : NoNodes I) (p c : Nat) : Keeps I (removeChild p c) := by
  unfold removeChild; keeps

section pcframe
variable {I : St → Prop} (hI : PcFrame I)
include hI

theorem setextOpen_keeps (p : Nat) : Keeps I (setextOpen p) :=
  fun s _ s' hs e =>
    have h := (bpOpen_foot .setext p e).1.pc
    hI.h s s' hs h.opened h.blockOffset h.blockIndent

theorem fencedOpen_keeps (p : Nat) : Keeps I (fencedOpen p) :=
  fun s _ s' hs e =>
    have h := (bpOpen_foot .fenced p e).1.pc
    hI.h s s' hs h.opened h.blockOffset h.blockIndent

end pcframe

def OpenedIs (L : List Block) : St → Prop := fun s => s.pc.opened = L

theorem openedIs_frame (L : List Block) : PcFrame (OpenedIs L) :=
  ⟨fun _ _ hs ho _ _ => ho.trans hs⟩

theorem blockOffsetIs_frame (v : Int) : PcFrame (fun s => s.pc.blockOffset = v) :=
  ⟨fun _ _ hs _ ho _ => ho.trans hs⟩

theorem blockIndentIs_frame (v : Int) : PcFrame (fun s => s.pc.blockIndent = v) :=
  ⟨fun _ _ hs _ _ ho => ho.trans hs⟩

theorem bpOpen_opened (bp : BP) (parent : Nat) (s s' : St) (a : Option Nat × PState)
    (h : bpOpen bp parent s = .ok (a, s')) : s'.pc.opened = s.pc.opened :=
  (bpOpen_foot bp parent h).1.pc.opened

theorem bpContinue_opened (bp : BP) (node : Nat) (s s' : St) (a : PState)
    (h : bpContinue bp node s = .ok (a, s')) : s'.pc.opened = s.pc.opened :=
  (bpContinue_foot bp node h).pc.opened
theorem bpClose_opened (bp : BP) (node : Nat) (s s' : St) (a : Unit)
    (h : bpClose bp node s = .ok (a, s')) : s'.pc.opened = s.pc.opened :=
  (bpClose_foot bp node h).pc.foot (L := none).opened

theorem appendChild_opened (p c : Nat) (s s' : St) (a : Unit)
    (h : appendChild p c s = .ok (a, s')) : s'.pc.opened = s.pc.opened :=
  appendChild_keeps (openedIs_frame s.pc.opened).mods.noNodes p c s a s' rfl h

theorem removeChild_opened (p c : Nat) (s s' : St) (a : Unit)
    (h : removeChild p c s = .ok (a, s')) : s'.pc.opened = s.pc.opened :=
  removeChild_keeps (openedIs_frame s.pc.opened).mods.noNodes p c s a s' rfl h

/-! ### the temporary paragraph key never points to node 0 -/

theorem PcFoot.tmp_ne0 {L : Option Block} {pc0 pc : Ctx} (h : PcFoot L pc0 pc) (hl : ∀ lb, L = some lb → lb.node ≠ 0)
    (ht : pc0.tmpPara ≠ some 0) : pc.tmpPara ≠ some 0 := by
  rcases h.tmp with e | e | ⟨lb, hlb, e⟩ <;> rw [e]
  · exact ht
  · exact fun h => nomatch h
  · exact fun h => hl lb hlb (Option.some.inj h)

theorem bpOpen_tmp (bp : BP) (parent : Nat) (s s' : St) (a : Option Nat × PState)
    (h : bpOpen bp parent s = .ok (a, s')) (hn : ∀ b ∈ s.pc.opened, b.node ≠ 0)
    (ht : s.pc.tmpPara ≠ some 0) : s'.pc.tmpPara ≠ some 0 :=
  (bpOpen_foot bp parent h).1.pc.tmp_ne0 (fun lb hl => hn lb (List.mem_of_getLast? hl)) ht

theorem bpContinue_tmp (bp : BP) (node : Nat) (s s' : St) (a : PState)
    (h : bpContinue bp node s = .ok (a, s')) (ht : s.pc.tmpPara ≠ some 0) : s'.pc.tmpPara ≠ some 0 :=
  (bpContinue_foot bp node h).pc.tmp_ne0 (fun _ hl => nomatch hl) ht

theorem bpClose_tmp (bp : BP) (node : Nat) (s s' : St) (a : Unit)
    (h : bpClose bp node s = .ok (a, s')) (ht : s.pc.tmpPara ≠ some 0) : s'.pc.tmpPara ≠ some 0 :=
  ((bpClose_foot bp node h).pc.foot (L := none)).tmp_ne0 (fun _ hl => nomatch hl) ht

/-! ### the fenced code block key keeps a non-negative indent -/

def FenceIndOK (s : St) : Prop := ∀ f, s.pc.fence = some f → 0 ≤ f.indent

theorem PcFoot.fenceIndOK {L : Option Block} {s s' : St} (h : PcFoot L s.pc s'.pc) (hf : FenceIndOK s) :
    FenceIndOK s' := by
  intro g hg
  rcases h.fence with e | e | ⟨f, e, h0⟩ <;> rw [e] at hg
  · exact hf g hg
  · cases hg
  · cases hg; exact h0

theorem bpOpen_fence (bp : BP) (parent : Nat) (s s' : St) (a : Option Nat × PState)
    (h : bpOpen bp parent s = .ok (a, s')) (hf : FenceIndOK s) : FenceIndOK s' :=
  (bpOpen_foot bp parent h).1.pc.fenceIndOK hf

theorem bpContinue_fence (bp : BP) (node : Nat) (s s' : St) (a : PState)
    (h : bpContinue bp node s = .ok (a, s')) (hf : FenceIndOK s) : FenceIndOK s' :=
  (bpContinue_foot bp node h).pc.fenceIndOK hf

theorem bpClose_fence (bp : BP) (node : Nat) (s s' : St) (a : Unit)
    (h : bpClose bp node s = .ok (a, s')) (hf : FenceIndOK s) : FenceIndOK s' :=
  ((bpClose_foot bp node h).pc.foot (L := none)).fenceIndOK hf

/-! ### only `setextOpen` answers `RequireParagraph` -/

theorem setextOpen_none_qs (parent : Nat) (s : St) (h : s.pc.opened.getLast? = none) :
    setextOpen parent s = .ok ((none, stNoChildren), s) := by
  unfold setextOpen
  show (lastOpenedBlock >>= _) s = _
  simp only [Bind.bind, StateT.bind, lastOpenedBlock_eq, Except.bind, h]
  rfl

theorem setextOpen_requirePara (parent : Nat) (s s' : St) (a : Option Nat × PState)
    (h : setextOpen parent s = .ok (a, s')) (hr : a.2.requirePara = true) :
    s.pc.opened.getLast? ≠ none := by
  intro hn
  rw [setextOpen_none_qs parent s hn] at h
  cases h
  cases hr

theorem requirePara_setext (bp : BP) (parent : Nat) (s s' : St) (a : Option Nat × PState)
    (h : bpOpen bp parent s = .ok (a, s')) (hr : a.2.requirePara = true) :
    bp = .setext ∧ s.pc.opened.getLast? ≠ none := by
  cases requirePara_only_setext bp parent s s' a h hr
  exact ⟨rfl, setextOpen_requirePara parent s s' a h hr⟩

end GM.Blocks
end Frame
