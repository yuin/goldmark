/-
  GM.Proof.LinkFix — the model's link-destination scanners (GM.Inl.destAngle, destPlain / destOpened: parser/link.go
  parseLinkDestination after the repairs 5e850d1, ce3b6c4) compute what the SPECIFICATION-side scanners of
  GM.Spec.CMLink (`pointy`, `bare` with all deviation switches off) compute — for every line. Stated in GM.Props.C02LinkFix.
-/
import GM.Model.InlinesParsers
import GM.Proof.CMLink
import GM.Proof.InlinesTotal

namespace GM.Proof.LinkFix
open GM GM.Inl GM.Spec.CMLink
open GM.Spec.CMEmph (isAsciiPunct)

theorem punct_eq (c : UInt8) : isAsciiPunct c = isPunct c := rfl

theorem pointy_esc_nonpunct (d : UInt8) (t : Bytes) (h : isPunct d = false) :
    pointy Dev.spec true (d :: t) = pointy Dev.spec false (d :: t) := by
  simp only [pointy, punct_eq, h, Bool.and_false, Bool.false_eq_true, if_false, Bool.false_and]

/-- the index the model's scanner reports is `i` + the length of the reference's raw destination -/
theorem destAngle_eq_pointy : ∀ (n : Nat) (l : Bytes), l.length ≤ n → (∀ c ∈ l, c ≠ 10) → ∀ i : Nat,
    destAngle l i = (pointy Dev.spec false l).map (fun p => i + p.1.length) := by
  intro n
  induction n with
  | zero =>
    intro l hl _ i
    cases l with
    | nil => simp [destAngle, pointy]
    | cons a t => simp at hl
  | succ n ih =>
    intro l hl hnl i
    cases l with
    | nil => simp [destAngle, pointy]
    | cons c rest =>
      have hc10 : c ≠ 10 := hnl c (by simp)
      have hrest : ∀ x ∈ rest, x ≠ 10 := fun x hx => hnl x (by simp [hx])
      simp only [List.length_cons] at hl
      rw [destAngle.eq_def]
      simp only
      by_cases h92 : c = 92
      · subst h92
        simp only [beq_self_eq_true, if_true]
        have hp : pointy Dev.spec false (92 :: rest) = consRaw 92 (pointy Dev.spec true rest) := by
          simp [pointy, Dev.spec]
        rw [hp]
        cases rest with
        | nil => simp [pointy, consRaw]
        | cons d rest' =>
          simp only
          have hrest' : ∀ x ∈ rest', x ≠ 10 := fun x hx => hrest x (by simp [hx])
          simp only [List.length_cons] at hl
          by_cases hd : isPunct d = true
          · simp only [hd, if_true]
            have hq : pointy Dev.spec true (d :: rest') = consRaw d (pointy Dev.spec false rest') := by
              simp [pointy, punct_eq, hd]
            rw [hq, ih rest' (by omega) hrest' (i + 2)]
            cases pointy Dev.spec false rest' with
            | none => simp [consRaw]
            | some p => simp [consRaw]; omega
          · have hd' : isPunct d = false := by simpa using hd
            simp only [hd', Bool.false_eq_true, if_false]
            rw [pointy_esc_nonpunct d rest' hd', ih (d :: rest') (by simp only [List.length_cons]; omega) hrest (i + 1)]
            cases pointy Dev.spec false (d :: rest') with
            | none => simp [consRaw]
            | some p => simp [consRaw]; omega
      · have h92' : (c == 92) = false := by simpa using h92
        simp only [h92', Bool.false_eq_true, if_false]
        by_cases h62 : c = 62
        · subst h62; simp [pointy]
        · have h62' : (c == 62) = false := by simpa using h62
          simp only [h62', Bool.false_eq_true, if_false]
          by_cases h60 : c = 60
          · subst h60; simp [pointy, Dev.spec]
          · have h60' : (c == 60) = false := by simpa using h60
            have h10' : (c == 10) = false := by simpa using hc10
            simp only [h60', Bool.false_eq_true, if_false]
            have hp : pointy Dev.spec false (c :: rest) = consRaw c (pointy Dev.spec false rest) := by
              simp [pointy, h62', h60', h10', h92']
            rw [hp, ih rest (by omega) hrest (i + 1)]
            cases pointy Dev.spec false rest with
            | none => simp [consRaw]
            | some p => simp [consRaw]; omega

/-- **the model's `<…>` destination is the reference's**: on a line without line ending inside, `l` = the bytes after the
    `<`: the raw destination `line[1:i]` and the rest behind the `>` that `parseLinkDestination` computes from `destAngle`
    are exactly what `GM.Spec.CMLink.pointy` (the specification, `Dev.spec`) returns; in particular one rejects iff the other does -/
theorem model_pointy_destination_agrees (l : Bytes) (hnl : ∀ c ∈ l, c ≠ 10) :
    (destAngle l 1).map (fun i => (l.take (i - 1), l.drop i)) = pointy Dev.spec false l := by
  rw [destAngle_eq_pointy l.length l (Nat.le_refl _) hnl 1]
  cases hp : pointy Dev.spec false l with
  | none => rfl
  | some p =>
    obtain ⟨raw, rest⟩ := p
    obtain ⟨hs, _⟩ := GM.Proof.CMLink.pointy_sound l false raw rest hp
    simp only [Option.map_some, Option.some.injEq, Prod.mk.injEq]
    have h1 : 1 + raw.length - 1 = raw.length := by omega
    rw [h1]
    constructor
    · rw [hs]; simp
    · rw [hs]
      have : 1 + raw.length = raw.length + 1 := by omega
      rw [this, List.drop_append]
      simp

/-- what `parseLinkDestination` makes of the index and the depth (before the `len != 0` test): `none` = rejected -/
def plainResult (l : Bytes) (i : Nat) (o : Int) : Option (Bytes × Bytes) :=
  if destOpened l o > 0 then none
  else some (l.take (destPlain l i o - i), l.drop (destPlain l i o - i))

theorem bare_esc_nonpunct (n : Nat) (d : UInt8) (t : Bytes) (h : isPunct d = false) :
    bare Dev.spec n true (d :: t) = bare Dev.spec n false (d :: t) := by
  simp only [GM.Proof.CMLink.bare_spec_cons, punct_eq, h, Bool.and_false, Bool.false_and]

theorem consRaw_plain (c : UInt8) (t : Bytes) (i k : Nat) (o : Int) (hk : i + 1 ≤ k) :
    consRaw c (if o > 0 then none else some (t.take (k - (i + 1)), t.drop (k - (i + 1)))) =
      (if o > 0 then none else some ((c :: t).take (k - i), (c :: t).drop (k - i))) := by
  have : k - i = (k - (i + 1)) + 1 := by omega
  split
  · rfl
  · rw [this]; rfl

/-- only space and line feed among the white-space and control characters (tab, CR, the other control characters: outside the
    comparison — finding `link-destination-control-char-differs` stays recorded) -/
def Clean (l : Bytes) : Prop := ∀ c ∈ l, isControl c = true → c = 10

theorem destPlain_eq_bare : ∀ (n : Nat) (l : Bytes), l.length ≤ n → Clean l → ∀ (i d : Nat),
    bare Dev.spec d false l = plainResult l i (d : Int) := by
  intro n
  induction n with
  | zero =>
    intro l hl _ i d
    cases l with
    | nil =>
      simp only [bare, plainResult, destOpened, destPlain, Dev.spec, Bool.or_false]
      by_cases hd : d = 0
      · subst hd; simp
      · have : (d : Int) > 0 := by omega
        simp [hd, this]
    | cons a t => simp at hl
  | succ n ih =>
    intro l hl hcl i d
    cases l with
    | nil =>
      simp only [bare, plainResult, destOpened, destPlain, Dev.spec, Bool.or_false]
      by_cases hd : d = 0
      · subst hd; simp
      · have : (d : Int) > 0 := by omega
        simp [hd, this]
    | cons c rest =>
      have hcc := hcl c (by simp)
      have hrest : Clean rest := fun x hx => hcl x (by simp [hx])
      simp only [List.length_cons] at hl
      unfold plainResult
      rw [destPlain.eq_def, destOpened.eq_def]
      simp only
      by_cases h92 : c = 92
      · subst h92
        simp only [beq_self_eq_true, if_true]
        have hp : bare Dev.spec d false (92 :: rest) = consRaw 92 (bare Dev.spec d true rest) := by
          simp [bare, Dev.spec, isControl]
        rw [hp]
        cases rest with
        | nil =>
          simp only [bare, Dev.spec, Bool.or_false]
          by_cases hd : d = 0
          · subst hd; simp [consRaw]
          · have : (d : Int) > 0 := by omega
            simp [hd, this, consRaw]
        | cons e rest' =>
          simp only
          have hrest' : Clean rest' := fun x hx => hrest x (by simp [hx])
          simp only [List.length_cons] at hl
          by_cases he : isPunct e = true
          · simp only [he, if_true]
            have hq : bare Dev.spec d true (e :: rest') = consRaw e (bare Dev.spec d false rest') := by
              simp [bare, punct_eq, he]
            have hb := (GM.Proof.InlinesTotal.destPlain_bound _ rest' (Nat.le_refl _) (i + 2) (d : Int)).1
            rw [hq, ih rest' (by omega) hrest' (i + 2) d]
            unfold plainResult
            rw [consRaw_plain e rest' (i + 1) _ _ (by omega), consRaw_plain 92 (e :: rest') i _ _ (by omega)]
          · have he' : isPunct e = false := by simpa using he
            simp only [he', Bool.false_eq_true, if_false]
            have hb := (GM.Proof.InlinesTotal.destPlain_bound _ (e :: rest') (Nat.le_refl _) (i + 1) (d : Int)).1
            rw [bare_esc_nonpunct d e rest' he', ih (e :: rest') (by simp only [List.length_cons]; omega) hrest (i + 1) d]
            unfold plainResult
            rw [consRaw_plain 92 (e :: rest') i _ _ (by omega)]
      · have h92' : (c == 92) = false := by simpa using h92
        simp only [h92', Bool.false_eq_true, if_false]
        by_cases h40 : c = 40
        · subst h40
          simp only [beq_self_eq_true, if_true]
          have hp : bare Dev.spec d false (40 :: rest) = consRaw 40 (bare Dev.spec (d + 1) false rest) := by
            simp [bare, Dev.spec, isControl]
          have hb := (GM.Proof.InlinesTotal.destPlain_bound _ rest (Nat.le_refl _) (i + 1) ((d : Int) + 1)).1
          rw [hp, ih rest (by omega) hrest (i + 1) (d + 1)]
          unfold plainResult
          have hc : ((d + 1 : Nat) : Int) = (d : Int) + 1 := by push_cast; rfl
          rw [hc, consRaw_plain 40 rest i _ _ (by omega)]
        · have h40' : (c == 40) = false := by simpa using h40
          simp only [h40', Bool.false_eq_true, if_false]
          by_cases h41 : c = 41
          · subst h41
            simp only [beq_self_eq_true, if_true]
            by_cases hd : d = 0
            · subst hd
              have hp : bare Dev.spec 0 false (41 :: rest) = some ([], 41 :: rest) := by
                simp [bare, Dev.spec, isControl]
              rw [hp]
              simp
            · have hlt : ¬ ((d : Int) - 1 < 0) := by omega
              have hp : bare Dev.spec d false (41 :: rest) = consRaw 41 (bare Dev.spec (d - 1) false rest) := by
                simp [bare, Dev.spec, isControl, hd]
              have hb := (GM.Proof.InlinesTotal.destPlain_bound _ rest (Nat.le_refl _) (i + 1) ((d : Int) - 1)).1
              simp only [hlt, if_false]
              rw [hp, ih rest (by omega) hrest (i + 1) (d - 1)]
              unfold plainResult
              have hc : ((d - 1 : Nat) : Int) = (d : Int) - 1 := by omega
              rw [hc, consRaw_plain 41 rest i _ _ (by omega)]
          · have h41' : (c == 41) = false := by simpa using h41
            simp only [h41', Bool.false_eq_true, if_false]
            by_cases hsp : isSpace c = true
            · simp only [hsp, if_true]
              have hc : c = 32 ∨ c = 10 := by
                simp only [isSpace, Bool.or_eq_true, beq_iff_eq] at hsp
                rcases hsp with ((h | h) | h) | h
                · exact .inr (hcc (by subst h; decide))
                · exact .inr h
                · exact .inr (hcc (by subst h; decide))
                · exact .inl h
              have hp : bare Dev.spec d false (c :: rest) = (if d == 0 then some ([], c :: rest) else none) := by
                rcases hc with rfl | rfl <;> simp [bare, Dev.spec]
              rw [hp]
              by_cases hd : d = 0
              · subst hd; simp
              · have : (d : Int) > 0 := by omega
                simp [hd, this]
            · have hsp' : isSpace c = false := by simpa using hsp
              simp only [hsp', Bool.false_eq_true, if_false]
              have h32 : (c == 32) = false := by
                cases h : c == 32 with
                | false => rfl
                | true => simp only [beq_iff_eq] at h; subst h; simp [isSpace] at hsp'
              have h10 : (c == 10) = false := by
                cases h : c == 10 with
                | false => rfl
                | true => simp only [beq_iff_eq] at h; subst h; simp [isSpace] at hsp'
              have hctl : isControl c = false := by
                cases h : isControl c with
                | false => rfl
                | true => have := hcc h; subst this; simp at h10
              have hp : bare Dev.spec d false (c :: rest) = consRaw c (bare Dev.spec d false rest) := by
                simp [bare, Dev.spec, h32, h10, hctl, h40', h41', h92']
              have hb := (GM.Proof.InlinesTotal.destPlain_bound _ rest (Nat.le_refl _) (i + 1) (d : Int)).1
              rw [hp, ih rest (by omega) hrest (i + 1) d]
              unfold plainResult
              rw [consRaw_plain c rest i _ _ (by omega)]

/-- **the model's bracket-free destination is the reference's**: on a line whose only white-space / control characters are
    spaces and line feeds, the scan of `parseLinkDestination` (`destPlain` for the index, `destOpened` for the depth; rejected
    when a parenthesis is left open, repair ce3b6c4) yields exactly the raw destination and the rest that
    `GM.Spec.CMLink.bare` (the specification, `Dev.spec`) yields; one rejects iff the other does -/
theorem model_bare_destination_agrees (l : Bytes) (hcl : Clean l) :
    (if destOpened l 0 > 0 then none else some (l.take (destPlain l 0 0), l.drop (destPlain l 0 0))) =
      bare Dev.spec 0 false l := by
  have := destPlain_eq_bare l.length l (Nat.le_refl _) hcl 0 0
  rw [this]; rfl

end GM.Proof.LinkFix
