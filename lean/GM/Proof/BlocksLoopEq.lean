/-
  GM.Proof.BlocksLoopEq — the recursive functions of the driver (GM.Model.Blocks.Driver) as step equations, with the
  join points of their `do` blocks named:
    * `tryParsers_step`: the candidate loop (parser.go:960-1014) on a non-empty list; `tryTail` is what follows a
      successful `Open`;
    * `openBlocksLoop_step`: one round of the `goto retry` loop (parser.go:935-1023); `openTry` is the candidate loop
      with the retry / the exit `continuable:` behind it;
    * `lineLoop_step`: one iteration of the `for i` loop of parseBlocks (parser.go:1081-1123) with the `fallThrough`
      flag resolved; the two places where the flag stays set share the continuation `lineFT`, which ends in `lineTail`.
-/
import GM.Model.Blocks

namespace GM.Blocks
open GM GM.Text

/-- `openBlocks(thisParent)`, then `closeBlocks(lastIndex, i)` unless the line continued a paragraph
    (parser.go:1108-1121) -/
def lineTail (ob : List Block) (li i : Int) (thisParent : Nat) (blank : Bool) (bl' : List LineStat) :
    M (LineOutcome × List LineStat) := do
  let lastNode ← liftE (blockAt ob li)
  let result ← openBlocks thisParent blank
  if result != .paragraphContinuation then
    let now := slotAfter ob (← getPc).opened li.toNat
    let lastIndex := if now.map (·.node) != some lastNode.node then li - 1 else li
    closeBlocks lastIndex i
  return (.next, bl')

/-- the fall-through of an iteration (parser.go:1103-1122): no block `Continue`d at index `i` -/
def lineFT (parent : Nat) (ob : List Block) (li i : Int) (blank : Bool) (bl' : List LineStat) :
    M (LineOutcome × List LineStat) :=
  if i != 0 then do
    let b ← liftE (blockAt ob (i - 1))
    lineTail ob li i b.node blank bl'
  else lineTail ob li i parent blank bl'

/-- one successful attempt behind `Open` (parser.go:985-1013): the RequireParagraph pop, `SetBlankPreviousLines`, the
    `last.Parent() == nil` pop, `AppendChild`, push, answer -/
def tryTail (parent node : Nat) (bp : BP) (blankLine : Bool) (state : PState) (lastBlock : Option Block) :
    M (TryOutcome × OpenResult × Option Block) := do
  if state.requirePara then
    if lastBlock.map (·.node) == (← getNode parent).children.getLast? then
      match lastBlock with
      | none => throw .nil
      | some lb =>
        bpClose lb.bp lb.node
        let blocks := (← getPc).opened
        if blocks.length == 0 then throw .slice
        modPc fun pc => { pc with opened := blocks.dropLast }
        if (← getNode lb.node).kind != .paragraph then throw .assert
  modNode node fun n => { n with blankPrev := blankLine }
  match lastBlock.map (·.node) with
  | some l =>
    if (← getNode l).parent.isNone then
      let lastPos : Int := ((← getPc).opened.length : Int) - 1
      closeBlocks lastPos lastPos
  | none => pure ()
  appendChild parent node
  modPc fun pc => { pc with opened := pc.opened ++ [{ node := node, bp := bp }] }
  if state.hasChildren then return (.retry node, .newBlocksOpened, lastBlock)
  return (.done, .newBlocksOpened, lastBlock)

theorem tryParsers_step (parent : Nat) (blankLine continuable : Bool) (w : Int) (bp : BP) (bps : List BP)
    (result : OpenResult) (lastBlock : Option Block) :
    tryParsers parent blankLine continuable w (bp :: bps) result lastBlock =
      (if continuable && result == .noBlocksOpened && !bp.canInterruptParagraph then
        tryParsers parent blankLine continuable w bps result lastBlock
      else if w > 3 && !bp.canAcceptIndentedLine then tryParsers parent blankLine continuable w bps result lastBlock
      else do
        let lastBlock ← lastOpenedBlock
        let (node, state) ← bpOpen bp parent
        match node with
        | none => tryParsers parent blankLine continuable w bps result lastBlock
        | some node => tryTail parent node bp blankLine state lastBlock) := by
  rw [tryParsers]
  rfl

/-- the candidate loop for the parsers `bps` and what follows it: `goto retry` under the contract monitor of
    `openBlocksLoop`, or the exit `continuable:` (parser.go:960-1023) -/
def openTry (blankLine continuable : Bool) (fuel parent : Nat) (w : Int) (bps : List BP) (result : OpenResult)
    (lastBlock : Option Block) : M OpenResult := do
  let before := retryMeasure (← get)
  let (outcome, result, lastBlock) ← tryParsers parent blankLine continuable w bps result lastBlock
  match outcome with
  | .retry parent' =>
    let after := retryMeasure (← get)
    if !(after < before) then throw .pre
    openBlocksLoop blankLine continuable fuel parent' result lastBlock
  | .done => toContinuable continuable result lastBlock

theorem openBlocksLoop_step (blankLine continuable : Bool) (fuel parent : Nat) (result : OpenResult)
    (lastBlock : Option Block) :
    openBlocksLoop blankLine continuable (fuel + 1) parent result lastBlock = (do
      let (line, _) ← peekLine
      let lineB := line.getD []
      let len : Int := lineB.length
      let (w, pos) := indentWidthI lineB (← lineOffset)
      modPc fun pc =>
        if pos ≥ len then { pc with blockOffset := -1, blockIndent := -1 }
        else { pc with blockOffset := pos, blockIndent := w }
      if line.isNone then toContinuable continuable result lastBlock
      else if (← liftE (idx lineB 0)) == 10 then toContinuable continuable result lastBlock
      else
        let bps ←
          if pos < len then do
            let c ← liftE (idx lineB pos)
            pure ((triggered c).getD freeParsers)
          else pure freeParsers
        openTry blankLine continuable fuel parent w bps result lastBlock) := by
  rw [openBlocksLoop]
  rfl

theorem lineLoop_step (parent : Nat) (ob : List Block) (li : Int) (be : Block) (rest : List Block) (i : Int)
    (bl : List LineStat) :
    lineLoop parent ob li (be :: rest) i bl = (do
      let (line, _) ← peekLine
      match line with
      | none =>
        closeBlocks li 0
        advanceLine
        return (.eof, bl)
      | some line =>
        let (lineNum, _) ← position
        let bl' := bl ++ [{ lineNum := lineNum, level := i, isBlank := isBlank line }]
        let blank := isBlankLine (lineNum - 1) i bl'
        let beNode ← getNode be.node
        if beNode.kind != .paragraph then
          let st ← bpContinue be.bp be.node
          if st.cont then
            if st.hasChildren && i == li then
              let _ ← openBlocks be.node blank
              return (.next, bl')
            else lineLoop parent ob li rest (i + 1) bl'
          else lineFT parent ob li i blank bl'
        else lineFT parent ob li i blank bl') := by
  rw [lineLoop]
  rfl

end GM.Blocks
