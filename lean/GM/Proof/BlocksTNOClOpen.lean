/-
  GM.Proof.BlocksTNOClOpen — the close discipline `CInvW` through the OPEN side of the driver with transformers: one successful attempt with the RequireParagraph path (`tryTailB_clG`, `TailPre`),
  the candidate loop (KEEP / GONE), `toContinuable`, the retry loop and `openBlocksT_clG`, over `OWG`.
-/
import GM.Proof.BlocksTNOClInv

section BlocksTNOClTail
/-
  The close discipline through one successful attempt of the candidate loop with both transformers
  (the heading between `Open` and the push is a parentless Heading, which `CInvW.pad` exempts): `ptpost_cl0`,
  `tablepost_cl0`, `ptpostT_cl0` (a call on a popped paragraph), `TailPre`, `tryTailB_clG` (`AppendChild`, push), `tailT_clG`
  (`SetBlankPreviousLines`, the dead `last.Parent() == nil` pop, `AppendChild`, push).
-/

namespace GM.Blocks.TX
open GM GM.Text GM.Spec GM.Proof.Reader GM.LinkRef GM.Blocks.TO GM.TableX
open GM.Proof.BlocksWF0 (isRaw)

variable {tb : Prop}

variable {F : Prop}

/-- **one transformer call on a Paragraph that has left the open set** (the popped paragraph of the RequireParagraph
    path: `Closed`, no open block's node): the discipline is kept; a node it adds is a TextBlock below the paragraph's
    parent -/
theorem ptpost_cl0 {src : Bytes} {s s1 : St} {x0 : Nat} {U : List Block} (h : CInvW tb F src s U)
    (hltb : x0 < s.nodes.length) (hkp : (nd s x0).kind = .paragraph) (hneU : ∀ g ∈ U, g.node ≠ x0)
    (hcl : Closed (nd s x0))
    (hnt : ∀ t, s.pc.tmpPara = some t → (F ∨ ∃ b ∈ s.pc.opened, b.bp = .setext) → t ≠ x0)
    (hp : PTPost x0 s s1) :
    CInvW tb F src s1 U ∧ CStep s s1 U ∧
      (∀ i, i < s.nodes.length → i ≠ x0 → (nd s1 i).parent = (nd s i).parent) ∧
      ((nd s1 x0).parent = (nd s x0).parent ∨ (nd s1 x0).parent = none) ∧
      (∀ i, s.nodes.length ≤ i → i < s1.nodes.length →
        (nd s1 i).kind = .textBlock ∧ (nd s1 i).parent = (nd s x0).parent ∧ (nd s x0).parent.isSome = true) := by
  obtain ⟨B, D, hB⟩ := h.inv
  obtain ⟨hB1, hr1, hop1, hkg1, htm1, _⟩ := hB.ptpost hltb hnt hkp hp
  rcases hp.res with ⟨refs, k, _, e⟩ | ⟨refs, p, hpar, e⟩
  · -- KEEP
    have hnds : ∀ i, nd s1 i = nd ({ s with nodes := s.nodes.set x0 { (nd s x0) with lines := (nd s x0).lines.drop k } } : St) i := by
      intro i; rw [e]
    have hlk : ∀ i, (nd s1 i).parent = (nd s i).parent ∧ (nd s1 i).children = (nd s i).children := fun i => by
      rw [hnds]; exact setLines_links s x0 _ i
    have hnd := setLines_nd s x0 ((nd s x0).lines.drop k)
    have hlen : s1.nodes.length = s.nodes.length := by rw [e]; simp
    refine ⟨⟨⟨B, D, hB1⟩, h.tree.of_links hlk, fun i hr => ?_, fun g hg => by rw [(hlk g.node).1]; exact h.att g hg, h.nodup,
      fun g hg => by rw [hop1]; exact h.sub g hg, fun i hn => ?_⟩,
      ⟨hr1, hop1, hkg1, fun i _ _ => (hlk i).1, fun g _ _ => (hlk g.node).1, fun t ht => by rw [htm1] at ht; exact ht⟩,
      fun i _ _ => (hlk i).1, .inl (hlk x0).1, fun i h1 h2 => by omega⟩
    by_cases hi : x0 = i
    · subst hi
      left
      rw [Closed, hnds, hnd, if_pos ⟨rfl, hltb⟩]
      intro u hu
      exact hcl u (List.mem_of_mem_drop hu)
    · have hki : (nd s1 i).kind = (nd s i).kind := by rw [hnds, hnd, if_neg (fun hh => hi hh.1)]
      rw [hki] at hr
      rcases h.pad i hr with hc | hc | hab
      · left; rw [Closed, hnds, hnd, if_neg (fun hh => hi hh.1)]; exact hc
      · exact .inr (.inl hc)
      · exact .inr (.inr ⟨by rw [hki]; exact hab.1, by rw [(hlk i).1]; exact hab.2⟩)
    · by_cases hi : x0 = i
      · subst hi
        rw [hkg1.2 x0 hltb, hkp] at hn; cases hn.1
      · have e0 : nd s1 i = nd s i := by rw [hnds, hnd, if_neg (fun hh => hi hh.1)]
        rw [e0] at hn ⊢; exact h.nl i hn
  · -- GONE
    have hEn : (ptEmptied s x0 refs).nodes = s.nodes.set x0 { (nd s x0) with lines := [] } := rfl
    have hElt : x0 < (ptEmptied s x0 refs).nodes.length := by rw [hEn, List.length_set]; exact hltb
    have hElen : (ptEmptied s x0 refs).nodes.length = s.nodes.length := by rw [hEn, List.length_set]
    have hEp : (nd (ptEmptied s x0 refs) x0).parent = some p := by rw [nd_of_set_self hEn hltb]; exact hpar
    obtain ⟨s2, e2, hf, hpn⟩ := T.ptReplace_eq x0 p (nd s x0).blankPrev (ptEmptied s x0 refs) hElt hEp
    have hs2 : s2 = s1 := by rw [e2] at e; cases e; rfl
    subst hs2
    have hlkE : ∀ i, (nd (ptEmptied s x0 refs) i).parent = (nd s i).parent ∧
        (nd (ptEmptied s x0 refs) i).children = (nd s i).children := fun i => setLines_links s x0 [] i
    have htE : TreeOK (ptEmptied s x0 refs) := h.tree.of_links hlkE
    have e' := e
    unfold ptReplace at e'
    obtain ⟨t, sA, hA, kA⟩ := bind_ok e'
    obtain ⟨ht, hsA⟩ := newNode_ok hA
    have hnA : sA.nodes = (ptEmptied s x0 refs).nodes ++ [{ kind := .textBlock, blankPrev := (nd s x0).blankPrev }] := by
      rw [hsA]
    have htA : TreeOK sA := htE.snoc hnA rfl rfl
    have hplt : p < x0 := h.tree.par_lt x0 p hpar
    obtain ⟨t1, l1, f1, pins, _⟩ := replaceChild_tree (p := p) (v1 := x0) (ins := t) htA (by rw [ht, hElen]; omega)
      (by rw [ht, hnA]; simp) (by rw [ht, hElen]; omega) kA
    have hndA : ∀ i, nd sA i = if i < s.nodes.length then nd (ptEmptied s x0 refs) i
        else if i = s.nodes.length then { kind := .textBlock, blankPrev := (nd s x0).blankPrev } else default := by
      intro i; rw [nd_snoc hnA i, hElen]
    have frame : ∀ i, i < s.nodes.length → i ≠ x0 → (nd s2 i).parent = (nd s i).parent := by
      intro i hi hne
      rw [f1 i (by rw [ht, hElen]; omega) hne, hndA, if_pos hi]
      exact (hlkE i).1
    have hsame : ∀ i, (nd s2 i).kind = (nd sA i).kind ∧ (nd s2 i).lines = (nd sA i).lines := fun i => by
      have := hf.same i
      rw [hsA]
      exact ⟨this.1, this.2.1⟩
    have hlen2 : s2.nodes.length = s.nodes.length + 1 := by rw [l1, hnA]; simp [hElen]
    refine ⟨⟨⟨B, D, hB1⟩, t1, fun i hr => ?_, fun g hg => ?_, h.nodup, fun g hg => by rw [hop1]; exact h.sub g hg,
        fun i hn => ?_⟩,
      ⟨hr1, hop1, hkg1, fun i hi hk => frame i hi (fun e0 => hk (e0 ▸ hkp)),
        fun g hg _ => frame g.node (h.kinds hg).2 (hneU g hg),
        fun t ht => by rw [htm1] at ht; exact ht⟩, frame, .inr hpn, fun i h1 h2 => ?_⟩
    · rw [(hsame i).1] at hr
      rw [Closed, (hsame i).2]
      rw [hndA] at hr ⊢
      by_cases h1 : i < s.nodes.length
      · rw [if_pos h1] at hr ⊢
        by_cases hi : i = x0
        · subst hi; left; rw [nd_of_set_self hEn hltb]; intro u hu; cases hu
        · rw [nd_of_set_ne hEn hi] at hr ⊢
          rcases h.pad i hr with hc | hc | hab
          · exact .inl hc
          · exact .inr (.inl hc)
          · refine .inr (.inr ⟨?_, by rw [frame i h1 hi]; exact hab.2⟩)
            rw [(hsame i).1, hndA, if_pos h1, nd_of_set_ne hEn hi]; exact hab.1
      · rw [if_neg h1]
        left
        split
        · intro u hu; cases hu
        · intro u hu; cases hu
    · rw [frame g.node (h.kinds hg).2 (hneU g hg)]
      exact h.att g hg
    · rw [(hsame i).1] at hn
      rw [(hsame i).2]
      rw [hndA] at hn ⊢
      by_cases h1 : i < s.nodes.length
      · rw [if_pos h1] at hn ⊢
        by_cases hi : i = x0
        · subst hi; rw [nd_of_set_self hEn hltb]
        · rw [nd_of_set_ne hEn hi] at hn ⊢; exact h.nl i hn
      · rw [if_neg h1]
        split <;> rfl
    · have hi : i = s.nodes.length := by omega
      subst hi
      refine ⟨?_, ?_, by rw [hpar]; rfl⟩
      · rw [(hsame _).1, hndA, if_neg (by omega), if_pos rfl]
      · have : t = s.nodes.length := by rw [ht, hElen]
        rw [← this, pins, hpar]

/-- what is known about the node `Open` has just built, while the tail of the attempt runs -/
structure TailPre (tb : Prop) (F : Prop) (src : Bytes) (n0 tp parent node : Nat) (bp : BP) (s : St) : Prop where
  cx : CInvW tb F src s s.pc.opened
  lt : node < s.nodes.length
  par : (nd s node).parent = none
  kind : (nd s node).kind = bp.kind
  fresh : ∀ b ∈ s.pc.opened, b.node < node
  plt : parent < node
  pk : (nd s parent).kind ≠ .paragraph
  ptp : parent = tp ∨ n0 ≤ parent
  n0le : n0 ≤ node
  np : NewPar n0 tp s
  closedNew : bp ≠ .setext → isRaw (nd s node).kind = false → Closed (nd s node)
  src : s.r.source = src
  tmpne : ∀ t, s.pc.tmpPara = some t → t ≠ node

/-- `InvW.push` without a claim about the new block (it joins `D`) -/
theorem InvW.pushD {F : Prop} {D : List Block} {src : Bytes} {B : Int} {s : St} (hi : InvW tb D F src B s) (node : Nat) (bp : BP)
    (hk : (nd s node).kind = bp.kind) (hlt : node < s.nodes.length)
    (hgt : ∀ b ∈ s.pc.opened, b.node < node) (hnt : ∀ t, s.pc.tmpPara = some t → t ≠ node) (hsx : bp = .setext → F) :
    InvW tb (⟨node, bp⟩ :: D) False src B { s with pc := { s.pc with opened := s.pc.opened ++ [{ node := node, bp := bp }] } } := by
  refine ⟨hi.nrb, ?_, hi.pnb, hi.tmpk, fun b hb => ?_, hi.nodes, fun t ht hm => ?_, hi.raw, hi.pnl, fun b hb hd hbp => ?_⟩
  · exact List.pairwise_append.2 ⟨hi.ord, List.pairwise_singleton _ _, fun a ha b hb => by
      simp only [List.mem_singleton] at hb; rw [hb]; exact hgt a ha⟩
  · rcases List.mem_append.1 hb with h | h
    · exact hi.kinds b h
    · simp only [List.mem_singleton] at h; rw [h]; exact ⟨hk, hlt⟩
  · obtain ⟨b, hb, hs⟩ := hm.resolve_left id
    have hm' : F ∨ ∃ b ∈ s.pc.opened, b.bp = .setext := by
      rcases List.mem_append.1 hb with h | h
      · exact .inr ⟨b, h, hs⟩
      · simp only [List.mem_singleton] at h; rw [h] at hs; exact .inl (hsx hs)
    obtain ⟨a1, a2⟩ := hi.tl t ht hm'
    refine ⟨a1, fun b' hb' => ?_⟩
    rcases List.mem_append.1 hb' with h | h
    · exact a2 b' h
    · simp only [List.mem_singleton] at h; rw [h]; exact fun e0 => hnt t ht e0.symm
  · rcases List.mem_append.1 hb with h | h
    · exact hi.pol b h (fun hx => hd (List.mem_cons_of_mem _ hx)) hbp
    · simp only [List.mem_singleton] at h; exact absurd (h ▸ List.mem_cons_self ..) hd

section tl
variable {src : Bytes}

/-- `AppendChild`, push, answer -/
theorem tryTailB_clG (n0 tp parent node : Nat) (bp : BP) (hc : Bool) (lb' : Option Block) (s3 s' : St)
    (x : TryOutcomeT × OpenResult × Option Block) (hp : TailPre tb F src n0 tp parent node bp s3) (hsx : bp = .setext → F)
    (e : tryPushT parent node bp hc lb' s3 = .ok (x, s')) :
    CInvW tb False src s' s'.pc.opened ∧ NewPar n0 tp s' ∧ s'.nodes.length = s3.nodes.length ∧
      s'.pc.tmpPara = s3.pc.tmpPara ∧ s'.pc.opened = s3.pc.opened ++ [{ node := node, bp := bp }] ∧
      (∀ i, (nd s' i).kind = (nd s3 i).kind) ∧
      x = (if hc = true then TryOutcomeT.retry node else TryOutcomeT.done, OpenResult.newBlocksOpened, lb') := by
  unfold tryPushT at e
  obtain ⟨_, s4, h4, k4⟩ := bind_ok e
  have hlk := appendChild_lk h4
  obtain ⟨t4, l4, f4, p4⟩ := appendChild_tree hp.cx.tree hp.plt hp.lt h4
  obtain ⟨_, s5, h5, k5⟩ := bind_ok k4
  have e5 := modPc_ok h5
  subst s5
  have hs' : s' = { s4 with pc := { s4.pc with opened := s4.pc.opened ++ [{ node := node, bp := bp }] } } ∧
      x = (if hc = true then TryOutcomeT.retry node else TryOutcomeT.done, OpenResult.newBlocksOpened, lb') := by
    split at k5
    · next h => obtain ⟨a, b⟩ := pure_ok k5; rw [if_pos h]; exact ⟨b, a⟩
    · next h => obtain ⟨a, b⟩ := pure_ok k5; rw [if_neg h]; exact ⟨b, a⟩
  obtain ⟨hs', hxx⟩ := hs'
  subst s'
  obtain ⟨B, D, hB⟩ := hp.cx.inv
  have hk4 : (nd s4 node).kind = bp.kind := by rw [(hlk.same node).2.2]; exact hp.kind
  have hlt4 : node < s4.nodes.length := by rw [hlk.len]; exact hp.lt
  have hop4 : s4.pc.opened = s3.pc.opened := by rw [hlk.pc]
  have hnd : ∀ i, nd ({ s4 with pc := { s4.pc with opened := s4.pc.opened ++ [{ node := node, bp := bp }] } } : St) i =
      nd s4 i := fun _ => rfl
  refine ⟨⟨⟨B, _, (hB.lk hlk).pushD node bp hk4 hlt4 (by rw [hop4]; exact hp.fresh) (by rw [hlk.pc]; exact hp.tmpne) hsx⟩,
    t4.of_links (fun i => ⟨rfl, rfl⟩), fun i hr => ?_, fun g hg => ?_, ?_, fun g hg => hg,
    fun i hn => by
      rw [hnd] at hn ⊢
      rw [(hlk.same i).2.2] at hn; rw [(hlk.same i).1]; exact hp.cx.nl i hn⟩, fun x hx q hq => ?_, l4,
    by show s4.pc.tmpPara = _; rw [hlk.pc], by show s4.pc.opened ++ _ = _; rw [hop4], fun i => (hlk.same i).2.2, hxx⟩
  · -- pad
    rw [hnd] at hr ⊢
    rw [(hlk.same i).2.2] at hr
    by_cases hin : i = node
    · subst hin
      by_cases hbs : bp = .setext
      · exact .inr (.inl ⟨⟨i, bp⟩, by show _ ∈ s4.pc.opened ++ _; simp, rfl, .inr hbs⟩)
      · left; rw [Closed, (hlk.same i).1]; exact hp.closedNew hbs hr
    · rcases hp.cx.pad i hr with hc' | ⟨b, hb, hn, hps⟩ | hab
      · left; rw [Closed, (hlk.same i).1]; exact hc'
      · exact .inr (.inl ⟨b, by show b ∈ s4.pc.opened ++ _; rw [hop4]; exact List.mem_append_left _ hb, hn, hps⟩)
      · exact .inr (.inr ⟨by rw [(hlk.same i).2.2]; exact hab.1, by rw [f4 i hin]; exact hab.2⟩)
  · -- att
    rw [hnd]
    have hg' : g ∈ s3.pc.opened ++ [{ node := node, bp := bp }] := by rw [← hop4]; exact hg
    rcases List.mem_append.1 hg' with hg' | hg'
    · have hne : g.node ≠ node := Nat.ne_of_lt (hp.fresh g hg')
      rw [f4 g.node hne]; exact hp.cx.att g hg'
    · simp only [List.mem_singleton] at hg'; rw [hg']; show (nd s4 node).parent.isSome = true; rw [p4]; rfl
  · -- nodup
    show ((s4.pc.opened ++ [({ node := node, bp := bp } : Block)]).map (fun b : Block => b.node)).Nodup
    rw [hop4, List.map_append]
    refine List.nodup_append.2 ⟨hp.cx.nodup, by simp, fun a ha b hb => ?_⟩
    simp only [List.map_cons, List.map_nil, List.mem_singleton] at hb
    obtain ⟨g, hg, rfl⟩ := List.mem_map.1 ha
    rw [hb]; exact Nat.ne_of_lt (hp.fresh g hg)
  · -- NewPar
    rw [hnd] at hq
    rw [hnd]
    by_cases hxn : x = node
    · subst hxn
      rw [p4] at hq; cases hq
      exact ⟨hp.ptp, by rw [(hlk.same _).2.2]; exact hp.pk, by rw [hlk.len]; have := hp.plt; have := hp.lt; omega⟩
    · rw [f4 x hxn] at hq
      obtain ⟨a1, a2, a3⟩ := hp.np x hx q hq
      exact ⟨a1, by rw [(hlk.same _).2.2]; exact a2, by rw [hlk.len]; exact a3⟩

theorem TailPre.same {n0 tp parent node : Nat} {bp : BP} {s s' : St} (hp : TailPre tb F src n0 tp parent node bp s)
    (hlk : LK s s') (hl : ∀ i, (nd s' i).parent = (nd s i).parent ∧ (nd s' i).children = (nd s i).children) :
    TailPre tb F src n0 tp parent node bp s' :=
  ⟨by rw [hlk.pc]; exact hp.cx.same hlk hl, by rw [hlk.len]; exact hp.lt, by rw [(hl node).1]; exact hp.par,
    by rw [(hlk.same node).2.2]; exact hp.kind, by rw [hlk.pc]; exact hp.fresh, hp.plt,
    by rw [(hlk.same parent).2.2]; exact hp.pk, hp.ptp, hp.n0le,
    fun x hx q hq => by
      rw [(hl x).1] at hq
      obtain ⟨a1, a2, a3⟩ := hp.np x hx q hq
      exact ⟨a1, by rw [(hlk.same q).2.2]; exact a2, by rw [hlk.len]; exact a3⟩,
    fun hb hr => by
      rw [(hlk.same node).2.2] at hr
      rw [Closed, (hlk.same node).1]; exact hp.closedNew hb hr,
    by rw [hlk.r]; exact hp.src, by rw [hlk.pc]; exact hp.tmpne⟩

/-- behind the RequireParagraph part of one successful attempt: `SetBlankPreviousLines`, the `last.Parent() == nil` pop
    (dead: the last opened block is attached), `AppendChild`, push, answer -/
theorem tailT_clG {pts : List PT} (n0 tp parent node : Nat) (bp : BP) (blank hch : Bool) (lb' : Option Block) (s3 s' : St)
    (x : TryOutcomeT × OpenResult × Option Block) (hp3 : TailPre tb F src n0 tp parent node bp s3)
    (hlpar : ∀ l, lb'.map (·.node) = some l → (nd s3 l).parent.isSome = true) (hsx : bp = .setext → F)
    (e : tryTailT pts parent node bp blank hch lb' s3 = .ok (x, s')) :
    CInvW tb False src s' s'.pc.opened ∧ NewPar n0 tp s' ∧ s'.nodes.length = s3.nodes.length ∧
      s'.pc.tmpPara = s3.pc.tmpPara ∧ s'.pc.opened = s3.pc.opened ++ [{ node := node, bp := bp }] ∧
      (∀ i, (nd s' i).kind = (nd s3 i).kind) ∧
      x = (if hch = true then TryOutcomeT.retry node else TryOutcomeT.done, OpenResult.newBlocksOpened, lb') := by
  unfold tryTailT at e
  obtain ⟨_, s4, h4, k4⟩ := bind_ok e
  have hlk := modNode_lk h4 (fun _ => ⟨rfl, rfl, rfl⟩)
  have hl4 := modNode_links h4 (fun _ => ⟨rfl, rfl⟩)
  have hp4 := hp3.same hlk hl4
  have fin : tryPushT parent node bp hch lb' s4 = .ok (x, s') →
      CInvW tb False src s' s'.pc.opened ∧ NewPar n0 tp s' ∧ s'.nodes.length = s3.nodes.length ∧
        s'.pc.tmpPara = s3.pc.tmpPara ∧ s'.pc.opened = s3.pc.opened ++ [{ node := node, bp := bp }] ∧
        (∀ i, (nd s' i).kind = (nd s3 i).kind) ∧
        x = (if hch = true then TryOutcomeT.retry node else TryOutcomeT.done, OpenResult.newBlocksOpened, lb') := by
    intro h
    obtain ⟨a1, a2, a3, a4, a5, a6, a7⟩ := tryTailB_clG n0 tp parent node bp hch lb' s4 s' x hp4 hsx h
    exact ⟨a1, a2, a3.trans hlk.len, by rw [a4, hlk.pc], by rw [a5, hlk.pc], fun i => (a6 i).trans (hlk.same i).2.2, a7⟩
  cases lb' with
  | none =>
    dsimp only [Option.map] at k4
    exact fin k4
  | some lb0 =>
    dsimp only [Option.map] at k4
    obtain ⟨ln, s6, h6, k6⟩ := bind_ok k4
    obtain ⟨hln, hs6⟩ := getNode_ok h6
    subst s6
    subst ln
    split at k6
    · next hnone =>
      exfalso
      have := hlpar lb0.node rfl
      have e' : (nd s4 lb0.node).parent = (nd s3 lb0.node).parent := (hl4 lb0.node).1
      have hn' : (nd s4 lb0.node).parent.isNone = true := hnone
      rw [e'] at hn'
      cases hq : (nd s3 lb0.node).parent with
      | none => rw [hq] at this; cases this
      | some q => rw [hq] at hn'; cases hn'
    · exact fin k6

end tl

/-! ### the table step on a Paragraph that has left the open set -/

/-- what the nodes added by a transformer call on the popped paragraph `x0` look like: no Paragraph; the parent is the
    paragraph's parent or another new node that is not a Paragraph -/
def FreshOK (x0 : Nat) (s s1 : St) : Prop :=
  ∀ i, s.nodes.length ≤ i → i < s1.nodes.length → (nd s1 i).kind ≠ .paragraph ∧
    ∀ q, (nd s1 i).parent = some q → (some q = (nd s x0).parent) ∨
      (s.nodes.length ≤ q ∧ q < s1.nodes.length ∧ (nd s1 q).kind ≠ .paragraph)

theorem tablepost_cl0 {src : Bytes} {s s1 : St} {x0 : Nat} {U : List Block} {t : GM.Table.Table} {p : Nat}
    (htab : tb) (h : CInvW tb F src s U) (hltb : x0 < s.nodes.length) (hkp : (nd s x0).kind = .paragraph)
    (hneU : ∀ g ∈ U, g.node ≠ x0) (hcl : Closed (nd s x0))
    (hnt : ∀ t, s.pc.tmpPara = some t → (F ∨ ∃ b ∈ s.pc.opened, b.bp = .setext) → t ≠ x0)
    (htb : (GM.Table.transform src ((nd s x0).lines.map toSeg)).table = some t) (hpar : (nd s x0).parent = some p)
    (hT : TablePost (RecD src t) x0 p ((GM.Table.transform src ((nd s x0).lines.map toSeg)).para.map ofSeg) s s1) :
    CInvW tb F src s1 U ∧ CStep s s1 U ∧
      (∀ i, i < s.nodes.length → i ≠ x0 → (nd s1 i).parent = (nd s i).parent) ∧
      ((nd s1 x0).parent = (nd s x0).parent ∨ (nd s1 x0).parent = none) ∧ FreshOK x0 s s1 := by
  obtain ⟨B, D, hB0⟩ := h.inv
  have hB : InvW tb (s.pc.opened ++ D) F src B s := hB0.dmono (fun _ hx => List.mem_append_right _ hx)
  have hv := hB.tblLinesB hkp
  obtain ⟨hB1, hr1, hop1, hkg1, htm1, hlo1⟩ := hB.tabledata htab hltb hnt hkp
    (fun b' hb' _ => List.mem_append_left _ hb') htb (tablePost_toData hT hpar)
  have hlines := table_lines hv htb
  obtain ⟨L', hL'⟩ : ∃ L', (GM.Table.transform src ((nd s x0).lines.map toSeg)).para.map ofSeg = L' := ⟨_, rfl⟩
  rw [hL'] at hT hlines
  have hself : nd s1 x0 = { (nd s x0) with lines := L', parent := if L'.isEmpty then none else some p } := hT.self
  have hpo : ∀ i, i < s.nodes.length → i ≠ x0 → (nd s1 i).parent = (nd s i).parent := fun i hi hne => (hT.old i hi hne).2
  have hclL : ∀ x ∈ L', x.padding = 0 := by
    rcases hlines with h0 | ⟨init, u, rest, hls, _, h0⟩
    · rw [h0]; intro x hx; cases hx
    · rw [h0]
      intro x hx
      simp only [List.mem_append, List.mem_singleton] at hx
      rcases hx with hx | hx
      · exact hcl x (by rw [hls]; simp [hx])
      · subst hx; exact hcl u (by rw [hls]; simp)
  have hfk : ∀ i, s.nodes.length ≤ i → i < s1.nodes.length → (nd s1 i).kind = .thematicBreak :=
    fun i h1 h2 => recD_kind (hT.fresh i h1 h2)
  have hfresh : ∀ i, s.nodes.length ≤ i → Closed (nd s1 i) ∧ (noLinesW tb (nd s1 i).kind → (nd s1 i).lines = []) := by
    intro i hi
    rcases Nat.lt_or_ge i s1.nodes.length with h2 | h2
    · exact ⟨recD_closed hv htb (hT.fresh i hi h2), fun hn => by rw [hfk i hi h2] at hn; exact absurd rfl (hn.2 htab)⟩
    · rw [nd_default_of_ge s1 h2]
      exact ⟨fun x hx => (by cases hx), fun _ => rfl⟩
  refine ⟨⟨⟨B, _, hB1⟩, hT.tree, fun i hr => ?_, fun g hg => ?_, h.nodup, fun g hg => by rw [hop1]; exact h.sub g hg,
      fun i hn => ?_⟩,
    ⟨hr1, hop1, hkg1, fun i hi hk => hpo i hi (fun e0 => hk (e0 ▸ hkp)),
      fun g hg _ => hpo g.node (h.kinds hg).2 (hneU g hg), fun x hx => by rw [htm1] at hx; exact hx⟩,
    hpo, ?_, fun i h1 h2 => ⟨by rw [hfk i h1 h2]; decide, fun q hq => ?_⟩⟩
  · rcases Nat.lt_or_ge i s.nodes.length with hi | hi
    · by_cases hx : i = x0
      · subst hx
        left
        rw [hself]
        exact hclL
      · rw [hkg1.2 i hi] at hr
        rcases h.pad i hr with hc | hc | hab
        · left; rw [Closed, hlo1 i hi hx]; exact hc
        · exact .inr (.inl hc)
        · exact .inr (.inr ⟨by rw [hkg1.2 i hi]; exact hab.1, by rw [hpo i hi hx]; exact hab.2⟩)
    · exact .inl (hfresh i hi).1
  · rw [hpo g.node (h.kinds hg).2 (hneU g hg)]; exact h.att g hg
  · rcases Nat.lt_or_ge i s.nodes.length with hi | hi
    · by_cases hx : i = x0
      · subst hx; rw [hkg1.2 i hltb, hkp] at hn; cases hn.1
      · rw [hkg1.2 i hi] at hn; rw [hlo1 i hi hx]; exact h.nl i hn
    · exact (hfresh i hi).2 hn
  · rw [hself]
    cases hemp : L'.isEmpty with
    | true => exact .inr rfl
    | false => exact .inl (by simp only [Bool.false_eq_true, if_false]; exact hpar.symm)
  · by_cases hi0 : i = s.nodes.length
    · subst hi0
      rw [hT.tpar] at hq
      left; rw [← hq, hpar]
    · have hq0 := hT.fpar i q (by omega) hq
      have hqi : q < i := hT.tree.par_lt i q hq
      exact .inr ⟨hq0, by omega, by rw [hfk q hq0 (by omega)]; decide⟩

theorem ptpostT_cl0 {src : Bytes} {s s2 : St} {x0 : Nat} {U : List Block} (h : CInvW tb F src s U)
    (hltb : x0 < s.nodes.length) (hkp : (nd s x0).kind = .paragraph) (hneU : ∀ g ∈ U, g.node ≠ x0)
    (hcl : Closed (nd s x0))
    (hnt : ∀ t, s.pc.tmpPara = some t → (F ∨ ∃ b ∈ s.pc.opened, b.bp = .setext) → t ≠ x0)
    (hp : PTPostT tb src x0 s s2) :
    CInvW tb F src s2 U ∧ CStep s s2 U ∧
      (∀ i, i < s.nodes.length → i ≠ x0 → (nd s2 i).parent = (nd s i).parent) ∧
      ((nd s2 x0).parent = (nd s x0).parent ∨ (nd s2 x0).parent = none) ∧ FreshOK x0 s s2 := by
  rcases hp with hp | ⟨htab, s1, t, p, h1, htb, hpar, hT⟩
  · obtain ⟨a1, a2, a3, a4, a5⟩ := ptpost_cl0 h hltb hkp hneU hcl hnt hp
    refine ⟨a1, a2, a3, a4, fun i hi1 hi2 => ?_⟩
    obtain ⟨b1, b2, _⟩ := a5 i hi1 hi2
    exact ⟨by rw [b1]; decide, fun q hq => .inl (by rw [← hq, b2])⟩
  · obtain ⟨a1, a2, a3, a4, a5⟩ := ptpost_cl0 h hltb hkp hneU hcl hnt h1
    have hlt1 : x0 < s1.nodes.length := Nat.lt_of_lt_of_le hltb a2.kg.1
    have hkp1 : (nd s1 x0).kind = .paragraph := by rw [a2.kg.2 x0 hltb]; exact hkp
    have hcl1 : Closed (nd s1 x0) := by
      rcases a1.pad x0 (by rw [hkp1]; rfl) with hc | ⟨g, hg, hn, _⟩ | hab
      · exact hc
      · exact absurd hn (hneU g hg)
      · rw [hkp1] at hab; cases hab.1
    have hpar0 : (nd s1 x0).parent = (nd s x0).parent := by
      rcases a4 with a4 | a4
      · exact a4
      · rw [a4] at hpar; cases hpar
    obtain ⟨c1, c2, c3, c4, c5⟩ := tablepost_cl0 htab a1 hlt1 hkp1 hneU hcl1
      (fun x hx hm => hnt x (a2.tmp x hx) (by rw [a2.opened] at hm; exact hm)) htb hpar (hT a1.tree)
    refine ⟨c1, a2.trans c2, fun i hi hne => (c3 i (Nat.lt_of_lt_of_le hi a2.kg.1) hne).trans (a3 i hi hne), ?_,
      fun i hi1 hi2 => ?_⟩
    · rcases c4 with c4 | c4
      · exact .inl (c4.trans hpar0)
      · exact .inr c4
    · rcases Nat.lt_or_ge i s1.nodes.length with h1' | h1'
      · obtain ⟨b1, b2, _⟩ := a5 i hi1 h1'
        have hne : i ≠ x0 := by omega
        refine ⟨by rw [c2.kg.2 i h1', b1]; decide, fun q hq => .inl ?_⟩
        rw [c3 i h1' hne] at hq
        rw [← hq, b2]
      · obtain ⟨d1, d2⟩ := c5 i h1' hi2
        refine ⟨d1, fun q hq => ?_⟩
        rcases d2 q hq with d2 | ⟨d2, d3, d4⟩
        · exact .inl (by rw [d2, hpar0])
        · exact .inr ⟨Nat.le_trans a2.kg.1 d2, d3, d4⟩

end GM.Blocks.TX
end BlocksTNOClTail

section BlocksTNOClOpen
/-
  The close discipline through `openBlocksT` with both transformers: `OWG`, the candidate loop
  `tryParsersT_clG` WITH the RequireParagraph path (the popped paragraph is closed, then transformed: KEEP — the setext
  block is pushed; GONE — `.retryTransformed`, the abandoned Heading is a parentless Heading, the fresh TextBlock or Table
  hangs below `parent`), the `continuable:` exit, the `goto retry` loop.
-/

namespace GM.Blocks.TX
open GM GM.Text GM.Spec GM.Proof.Reader GM.LinkRef GM.Blocks.TO GM.TableX
open GM.Proof.BlocksWF0 (isRaw)

variable {tb : Prop}

variable {F : Prop}



theorem CInvW.of_same {src : Bytes} {s s' : St} {U : List Block} (h : CInvW tb F src s U) (hn : s'.nodes = s.nodes)
    (ho : s'.pc.opened = s.pc.opened) (ht : s'.pc.tmpPara = s.pc.tmpPara) : CInvW tb F src s' U := by
  have hnd : ∀ i, nd s' i = nd s i := fun i => by simp only [nd, hn]
  obtain ⟨B, D, hB⟩ := h.inv
  exact .ofA (h.toA.same ⟨B, D, hB.of_same hn ho ht⟩ (fun i => by rw [hnd]; exact ⟨rfl, rfl⟩)
    (fun i => by rw [hnd]; exact ⟨rfl, rfl⟩) (fun i hab => by unfold AbW; rw [hnd]; exact hab) ho) h.nodup
    (fun i hn => by rw [hnd] at hn ⊢; exact h.nl i hn)

theorem CInvW.strengthen {src : Bytes} {s : St} {U : List Block} (h : CInvW tb F src s U)
    (hs : ∀ t, s.pc.tmpPara = some t → (nd s t).lines ≠ [] ∧ ∀ b' ∈ s.pc.opened, b'.node ≠ t) : CInvW tb True src s U := by
  obtain ⟨B, D, hB⟩ := h.inv
  exact ⟨⟨B, D, hB.strengthen hs⟩, h.tree, h.pad, h.att, h.nodup, h.sub, h.nl⟩

theorem paragraphClose_frame {src : Bytes} {B : Int} {D : List Block} {s s' : St} {node : Nat} (hi : InvW tb D F src B s) (htr : TreeOK s)
    (hsrc : s.r.source = src) (e : paragraphClose node s = .ok ((), s')) :
    s'.nodes.length = s.nodes.length ∧
      ((nd s' node).parent = (nd s node).parent ∨ (nd s' node).parent = none) := by
  by_cases hne : (nd s node).lines = []
  · obtain ⟨p, hp, k4⟩ := paragraphClose_empty hne e
    have hlk := removeChild_lk k4
    obtain ⟨_, _, _, f2⟩ := removeChild_tree' htr k4
    refine ⟨hlk.len, ?_⟩
    rcases f2 with f2 | ⟨f2, _⟩
    · exact .inl f2
    · exact .inr f2
  · have hl : LinesOK src (nd s node).lines := (nodeOK_nd hi.nodes node).lines
    obtain ⟨hr, hpc, ls, _, _, _, _, hn⟩ := (paragraphClose_lines node hsrc hl hne).of_ok e
    have hs' : s' = { s with nodes := s.nodes.set node { (nd s node) with lines := ls } } := by
      cases s'; simp only at hr hpc hn; subst hr hpc hn; rfl
    subst hs'
    exact ⟨by simp, .inl (setLines_links s node ls node).1⟩

structure OWG (tb : Prop) (src : Bytes) (n0 tp : Nat) (s : St) : Prop where
  ci : CInvW tb False src s s.pc.opened
  np : NewPar n0 tp s
  len : n0 ≤ s.nodes.length
  tmp : ∀ t, s.pc.tmpPara = some t → t < n0

section walk
variable {src : Bytes}

theorem OWG.congr {n0 tp : Nat} {s s' : St} (h : OWG tb src n0 tp s) (hn : s'.nodes = s.nodes)
    (ho : s'.pc.opened = s.pc.opened) (ht : s'.pc.tmpPara = s.pc.tmpPara) : OWG tb src n0 tp s' := by
  have hnd : ∀ i, nd s' i = nd s i := fun i => by simp only [nd, hn]
  refine ⟨by rw [ho]; exact h.ci.of_same hn ho ht, fun x hx q hq => ?_, by rw [hn]; exact h.len,
    fun t htt => h.tmp t (by rw [← ht]; exact htt)⟩
  rw [hnd] at hq
  obtain ⟨a1, a2, a3⟩ := h.np x hx q hq
  exact ⟨a1, by rw [hnd]; exact a2, by rw [hn]; exact a3⟩

variable {pts : List PT} (hag : AgreeP tb src pts pts) (hagT : AgreeT tb src pts)
include hag hagT

theorem tryParsersT_clG (L : Int) (n0 tp : Nat) (parent : Nat) (blank cont : Bool) (w : Int) (old : List Block) (s0 : St)
    (hent : Ent old s0) :
    ∀ (bps : List BP) (result : OpenResult) (lb : Option Block) (s : St) (c : RCur)
      (x : TryOutcomeT × OpenResult × Option Block) (s' : St),
      CleanW tb src L s c → c.p < src.length → BoffOK src s c → NP old s0 s → OWG tb src n0 tp s → FreshN n0 s →
      (parent = tp ∨ n0 ≤ parent) → parent < s.nodes.length → (nd s parent).kind ≠ .paragraph →
      tryParsersT pts parent blank cont w bps result lb s = .ok (x, s') →
      OWG tb src n0 tp s' ∧
      ((x.1 = .done ∧ x.2.1 = result ∧ s'.nodes = s.nodes ∧ s'.pc.opened = s.pc.opened) ∨
       (x.1 = .done ∧ x.2.1 = .newBlocksOpened) ∨
       (∃ p', x.1 = .retry p' ∧ FreshN n0 s' ∧ n0 ≤ p' ∧ p' < s'.nodes.length ∧ (nd s' p').kind ≠ .paragraph) ∨
       (x.1 = .retryTransformed ∧ x.2.1 = result ∧ FreshN n0 s' ∧ KG s s' ∧ s'.pc.opened = s.pc.opened.dropLast)) := by
  intro bps
  induction bps with
  | nil =>
    intro result lb s c x s' _ _ _ _ how _ _ _ _ h
    rw [tryParsersT_end] at h
    obtain ⟨rfl, hs⟩ := pure_ok h
    subst s'
    exact ⟨how, .inl ⟨rfl, rfl, rfl, rfl⟩⟩
  | cons bp bps ih =>
    intro result lb s c x s' hc hlt hoff hnp how hfn hptp hpl hpk h
    rw [tryParsersT_cons] at h
    by_cases hskip1 : (cont && result == .noBlocksOpened && !bp.canInterruptParagraph) = true
    · rw [if_pos hskip1] at h
      exact ih _ _ _ _ _ _ hc hlt hoff hnp how hfn hptp hpl hpk h
    · rw [if_neg hskip1] at h
      by_cases hskip2 : (decide (w > 3) && !bp.canAcceptIndentedLine) = true
      · rw [if_pos hskip2] at h
        exact ih _ _ _ _ _ _ hc hlt hoff hnp how hfn hptp hpl hpk h
      · rw [if_neg hskip2] at h
        obtain ⟨lb', s1, h1, k1⟩ := bind_ok h
        obtain ⟨hlb', hs1⟩ := lastOpenedBlock_ok h1
        subst s1
        subst lb'
        dsimp only at k1
        obtain ⟨y, s2, h2, k2⟩ := bind_ok k1
        have hkindsS : ∀ b ∈ s.pc.opened, (nd s b.node).kind = b.bp.kind := fun b hb => (hc.inv.kinds b hb).1
        have eff := open_effG bp parent hc hlt hoff
          (fun _ lb0 hl0 hp0 => (hnp.sf hent.leafy hkindsS hl0 hp0).2) h2
        have frl := (bpOpen_frl bp parent).h s y s2 h2
        obtain ⟨node, state⟩ := y
        -- the setext key behind `Open` points to a node older than the call
        have htmpn0 : ∀ t, s2.pc.tmpPara = some t → t < n0 := by
          intro t ht
          have h1' := eff.tmplt t ht
          have h2' := eff.invE.tmpk t ht
          rcases Nat.lt_or_ge t n0 with h' | h'
          · exact h'
          · exfalso
            have : (nd s2 t).kind = (nd s t).kind := by
              cases hnode : node with
              | none => obtain ⟨_, hn2, _⟩ := eff.declined (by rw [hnode]); simp only [nd, hn2]
              | some id =>
                obtain ⟨n, hsn, _⟩ := eff.snoc id (by rw [hnode])
                rw [nd_snoc hsn, if_pos h1']
            rw [this] at h2'
            exact hfn t h' h2'
        cases node with
        | none =>
          dsimp only at k2
          obtain ⟨hc2, hn2, htm2⟩ := eff.declined rfl
          have hoff2 : BoffOK src s2 c := by unfold BoffOK; rw [eff.boff]; exact hoff
          have hnd : ∀ i, nd s2 i = nd s i := fun i => by simp only [nd, hn2]
          have how2 : OWG tb src n0 tp s2 := how.congr hn2 eff.opened htm2
          obtain ⟨d, hcases⟩ := ih _ _ _ _ _ _ hc2 hlt hoff2 (hnp.congr hn2 eff.opened) how2
            (fun i hi => by rw [hnd]; exact hfn i hi) hptp (by rw [hn2]; exact hpl) (by rw [hnd]; exact hpk) k2
          refine ⟨d, ?_⟩
          rcases hcases with ⟨a1, a2, a3, a4⟩ | hb | hcc | ⟨d1, d0, d2, d3, d4⟩
          · exact .inl ⟨a1, a2, a3.trans hn2, a4.trans eff.opened⟩
          · exact .inr (.inl hb)
          · exact .inr (.inr (.inl hcc))
          · exact .inr (.inr (.inr ⟨d1, d0, d2, by
              refine ⟨by rw [← hn2]; exact d3.1, fun i hi => ?_⟩
              rw [d3.2 i (by rw [hn2]; exact hi), hnd], by rw [d4, eff.opened]⟩))
        | some node =>
          dsimp only at k2
          obtain ⟨hid, hltn, hkn⟩ := eff.node node rfl
          obtain ⟨n, hsn, hnk⟩ := eff.snoc node rfl
          subst hid
          have hnd2 := fun i => nd_snoc hsn i
          have hctx : LineCtx src s c := ⟨hc.ri, hlt, hc.pad, hoff, hc.inv.nodes⟩
          have hnself : nd s2 s.nodes.length = n := by rw [hnd2, if_neg (by omega), if_pos rfl]
          have hnparN : (nd s2 s.nodes.length).parent = none := (frl.2.2 _ (Nat.le_refl _)).1
          -- the state behind `Open`
          have hpre : TailPre tb False src n0 tp parent s.nodes.length bp s2 := by
            refine ⟨⟨⟨_, _, eff.invE⟩, how.ci.tree.linksKept frl, fun i hr => ?_,
              fun g hg => ?_, by rw [eff.opened]; exact how.ci.nodup, fun g hg => hg, fun i hn => by
                rw [hnd2] at hn ⊢
                split
                · next hi => rw [if_pos hi] at hn; exact how.ci.nl i hn
                · next hi =>
                  rw [if_neg hi] at hn
                  split
                  · next hi2 => rw [if_pos hi2] at hn; exact (bpOpen_openStep bp parent hctx hc.le hc.padl h2).elim fun _ st => (st.new hsn).2.2.2.1.2.2 hn.1
                  · rfl⟩, hltn, hnparN,
              hkn, fun b hb => ?_, hpl, ?_, hptp, how.len, fun x hx q hq => ?_, fun hbs hr => ?_, eff.stop.source,
              fun t ht => Nat.ne_of_lt (eff.tmplt t ht)⟩
            · by_cases hi : i < s.nodes.length
              · have e0 : nd s2 i = nd s i := by rw [hnd2, if_pos hi]
                rw [e0] at hr ⊢
                rw [eff.opened]; exact how.ci.pad i hr
              · by_cases hi2 : i = s.nodes.length
                · subst hi2
                  by_cases hbs : bp = .setext
                  · exact .inr (.inr ⟨by rw [hkn, hbs]; rfl, hnparN⟩)
                  · left; rw [hnself] at hr ⊢; exact open_newClosed bp parent hctx h2 hsn hnk hbs hr
                · left; rw [hnd2, if_neg hi, if_neg hi2]; intro t ht; cases ht
            · rw [eff.opened] at hg
              have hgl := (how.ci.kinds hg).2
              rw [(frl.2.1 g.node hgl).1]; exact how.ci.att g hg
            · rw [eff.opened] at hb; exact (how.ci.kinds hb).2
            · rw [hnd2, if_pos hpl]; exact hpk
            · rw [hnd2] at hq
              by_cases hxl : x < s.nodes.length
              · rw [if_pos hxl] at hq
                obtain ⟨a1, a2, a3⟩ := how.np x hx q hq
                exact ⟨a1, by rw [hnd2, if_pos a3]; exact a2, by rw [hsn]; simp; omega⟩
              · rw [if_neg hxl] at hq
                by_cases hx2 : x = s.nodes.length
                · rw [if_pos hx2] at hq
                  rw [hnself] at hnparN; rw [hnparN] at hq; cases hq
                · rw [if_neg hx2] at hq; cases hq
            · rw [hnself] at hr ⊢
              exact open_newClosed bp parent hctx h2 hsn hnk hbs hr
          -- the last opened block is attached
          have hlpar2 : ∀ l, (s.pc.opened.getLast?).map (·.node) = some l → (nd s2 l).parent.isSome = true := by
            intro l hl
            cases hlb' : s.pc.opened.getLast? with
            | none => rw [hlb'] at hl; cases hl
            | some lb0 =>
              rw [hlb'] at hl
              simp only [Option.map_some, Option.some.injEq] at hl
              subst hl
              exact hpre.cx.att lb0 (by rw [eff.opened]; exact List.mem_of_getLast? hlb')
          have h2' : bp = .setext → setextOpen parent s = .ok ((some s.nodes.length, state), s2) :=
            fun hb => by subst hb; exact h2
          by_cases hrq : state.requirePara = true
          · have hbs := eff.noreq hrq
            subst hbs
            obtain ⟨r', hri', hcase⟩ := setextOpen_line hc.ri (h2' rfl)
            rcases hcase with ⟨hnone, _⟩ | ⟨lb, lvl, hlast, hkp, hpar, ha, hs2⟩
            · cases hnone
            obtain ⟨⟨hn0, hop0⟩, hsf⟩ := hnp.sf hent.leafy hkindsS hlast hkp
            have hnd0 : ∀ i, nd s0 i = nd s i := fun i => by simp only [nd, hn0]
            obtain ⟨hll, hplt⟩ := hent.ll lb (by rw [← hop0]; exact hlast) (by rw [hnd0]; exact hkp) parent
              (by rw [hnd0]; exact hpar)
            have hlbm : lb ∈ s.pc.opened := List.mem_of_getLast? hlast
            have hlbp : lb.bp = .paragraph := kind_paragraph (by rw [← hkindsS lb hlbm]; exact hkp)
            have hstf : state.hasChildren = false := by
              have : state = { requirePara := true } := (Prod.mk.inj ha).2
              rw [this]
            have htmp2 : s2.pc.tmpPara = some lb.node := by rw [hs2]
            have hsrc2 : s2.r.source = src := eff.stop.source
            have hlbm2 : lb ∈ s2.pc.opened := by rw [eff.opened]; exact hlbm
            obtain ⟨hkb, hltb⟩ := hpre.cx.kinds hlbm2
            have hlbn0 : lb.node < n0 := htmpn0 lb.node htmp2
            have hlbs : lb.node < s.nodes.length := (hc.inv.kinds lb hlbm).2
            have hsplit : s2.pc.opened = s2.pc.opened.dropLast ++ [lb] :=
              eq_dropLast_append_of_getLast? _ _ (by rw [eff.opened]; exact hlast)
            have hcx : CInvW tb False src s2 (lb :: s2.pc.opened.dropLast) := hpre.cx.perm (by
              have := List.perm_append_comm (l₁ := [lb]) (l₂ := s2.pc.opened.dropLast)
              rw [← hsplit] at this
              exact this)
            have hdlc : ∀ g ∈ s2.pc.opened.dropLast, g.bp.isContainer = true := fun g hg =>
              hent.leafy g (by rw [← hop0, ← eff.opened]; exact hg)
            have hpar2 : (nd s2 lb.node).parent = some parent := by rw [hnd2, if_pos hlbs]; exact hpar
            obtain ⟨B2, D2, hB2⟩ := hpre.cx.inv
            rw [if_pos hrq] at k2
            unfold requireParaT at k2
            rw [hlast] at k2
            obtain ⟨tr, s8, hreq, kc⟩ := bind_ok k2
            obtain ⟨pn, s3, h3, k3⟩ := bind_ok hreq
            obtain ⟨hpn, hs3⟩ := getNode_ok h3
            subst s3
            split at k3
            · dsimp only at k3
              obtain ⟨_, s5, h5, k5⟩ := bind_ok k3
              have e5 : paragraphClose lb.node s2 = .ok ((), s5) := by rw [hlbp] at h5; exact h5
              obtain ⟨hlen5, hpar5⟩ := paragraphClose_frame hB2 hpre.cx.tree hsrc2 e5
              obtain ⟨hc5, hs5⟩ := bpClose_clG hcx hsrc2
                (fun g hg hp => absurd hp (not_ps_of_container (hdlc g hg))) h5
              obtain ⟨pc6, s6, h6, k6⟩ := bind_ok k5
              obtain ⟨hpc6, hs6⟩ := getPc_ok h6
              subst s6
              subst pc6
              split at k6
              · obtain ⟨_, _, ht, _⟩ := bind_ok k6
                cases ht
              obtain ⟨_, s7, h7, k7⟩ := bind_ok k6
              have e7 := modPc_ok h7
              subst s7
              obtain ⟨n8, sx, h8, k8⟩ := bind_ok k7
              obtain ⟨_, hsx⟩ := getNode_ok h8
              subst sx
              split at k8
              · obtain ⟨_, _, ht, _⟩ := bind_ok k8
                cases ht
              -- the state after the pop
              have hop5 : s5.pc.opened = s2.pc.opened := hs5.opened
              obtain ⟨B5, D5, hB5⟩ := hc5.inv
              have hc7 : CInvW tb False src ({ s5 with pc := { s5.pc with opened := s5.pc.opened.dropLast } } : St)
                  s2.pc.opened.dropLast :=
                ⟨⟨B5, D5, hB5.congr_pc _ rfl (List.dropLast_sublist _)⟩, hc5.tree.of_links (fun i => ⟨rfl, rfl⟩), hc5.pad,
                  hc5.att, hc5.nodup, fun g hg => by show g ∈ s5.pc.opened.dropLast; rw [hop5]; exact hg, hc5.nl⟩
              obtain ⟨hk5, hlt5⟩ := nk_kg hs5.kg (show (nd s2 lb.node).kind = .paragraph by rw [hkb, hlbp]; rfl) hltb
              have hneU : ∀ g ∈ s2.pc.opened.dropLast, g.node ≠ lb.node := fun g hg => hcx.ne hg
              have hcl5 : Closed (nd s5 lb.node) := by
                rcases hc5.pad lb.node (by rw [hk5]; rfl) with hcc | ⟨g, hg, hn, _⟩ | hab
                · exact hcc
                · exact absurd hn (hneU g hg)
                · rw [hk5] at hab; cases hab.1
              have hnt7 : ∀ t, ({ s5 with pc := { s5.pc with opened := s5.pc.opened.dropLast } } : St).pc.tmpPara = some t →
                  (False ∨ ∃ b ∈ ({ s5 with pc := { s5.pc with opened := s5.pc.opened.dropLast } } : St).pc.opened,
                    b.bp = .setext) → t ≠ lb.node := by
                intro t _ hm
                obtain ⟨b, hb, hs⟩ := hm.resolve_left id
                have hb' : b ∈ s.pc.opened := by
                  have : b ∈ s5.pc.opened := List.dropLast_subset _ hb
                  rw [hop5, eff.opened] at this; exact this
                exact absurd hs (hsf b hb')
              obtain ⟨B7, D7, hB7⟩ := hc7.inv
              have hp := (hag lb.node ({ s5 with pc := { s5.pc with opened := s5.pc.opened.dropLast } } : St)
                (by show s5.r.source = src; rw [hs5.r]; exact hsrc2) hlt5 hk5 hB7.nodes (hB7.linesOKB hk5)).2 tr s8 k8
              have hpT := hagT lb.node ({ s5 with pc := { s5.pc with opened := s5.pc.opened.dropLast } } : St)
                (by show s5.r.source = src; rw [hs5.r]; exact hsrc2) hlt5 hk5 hB7.nodes (hB7.linesOKB hk5) hc7.tree tr s8 k8
              obtain ⟨hc8, hs8, fr8, _, new8⟩ := ptpostT_cl0 hc7 hlt5 hk5 hneU hcl5 hnt7 hpT
              -- facts about `s8` relative to `s2` and `s`
              have hkg28 : KG s2 s8 := hs5.kg.trans hs8.kg
              have hkgs2 : KG s s2 := ⟨by rw [hsn]; simp, fun i hi => by rw [hnd2, if_pos hi]⟩
              have hkgs8 : KG s s8 := hkgs2.trans hkg28
              have hop8 : s8.pc.opened = s2.pc.opened.dropLast := by
                rw [hs8.opened]; show s5.pc.opened.dropLast = _; rw [hop5]
              have hr8 : s8.r = s2.r := by rw [hs8.r]; exact hs5.r
              have hlen7 : ({ s5 with pc := { s5.pc with opened := s5.pc.opened.dropLast } } : St).nodes.length =
                  s2.nodes.length := hlen5
              have hs2len : s2.nodes.length = s.nodes.length + 1 := by rw [hsn]; simp
              have hfr2 : ∀ i, n0 ≤ i → i < s2.nodes.length → (nd s2 i).kind ≠ .paragraph := by
                intro i hi hil
                rw [hnd2]
                split
                · exact hfn i hi
                · split
                  · rw [hnk]; decide
                  · decide
              have hpar28 : ∀ i, n0 ≤ i → i < s2.nodes.length → (nd s8 i).parent = (nd s2 i).parent := by
                intro i hi hil
                have hne : i ≠ lb.node := by omega
                rw [fr8 i (by rw [hlen7]; exact hil) hne]
                exact hs5.npar i hil (hfr2 i hi hil)
              have htmp8 : ∀ t, s8.pc.tmpPara = some t → t = lb.node := by
                intro t ht
                have h1' := hs5.tmp t (hs8.tmp t ht)
                rw [htmp2] at h1'
                cases h1'; rfl
              have hfresh8 : FreshN n0 s8 := by
                intro i hi
                rcases Nat.lt_or_ge i s2.nodes.length with h1' | h1'
                · rw [hkg28.2 i h1']; exact hfr2 i hi h1'
                · rcases Nat.lt_or_ge i s8.nodes.length with h2' | h2'
                  · exact (new8 i (by rw [hlen7]; exact h1') h2').1
                  · rw [nd_default_of_ge s8 h2']; decide
              have hnp8 : NewPar n0 tp s8 := by
                intro x hx q hq
                rcases Nat.lt_or_ge x s2.nodes.length with h1' | h1'
                · rw [hpar28 x hx h1'] at hq
                  obtain ⟨a1, a2, a3⟩ := hpre.np x hx q hq
                  exact ⟨a1, by rw [hkg28.2 q a3]; exact a2, Nat.lt_of_lt_of_le a3 hkg28.1⟩
                · rcases Nat.lt_or_ge x s8.nodes.length with h2' | h2'
                  · obtain ⟨_, b2⟩ := new8 x (by rw [hlen7]; exact h1') h2'
                    rcases b2 q hq with b2 | ⟨b2, b3, b4⟩
                    · have hq5 : (nd s5 lb.node).parent = some q := b2.symm
                      have hqp : q = parent := by
                        rcases hpar5 with h5' | h5'
                        · rw [h5', hpar2] at hq5; cases hq5; rfl
                        · rw [h5'] at hq5; cases hq5
                      subst hqp
                      refine ⟨hptp, ?_, Nat.lt_of_lt_of_le hpl hkgs8.1⟩
                      rw [hkgs8.2 q hpl]; exact hpk
                    · have hb2 : s2.nodes.length ≤ q := by rw [← hlen7]; exact b2
                      exact ⟨.inr (by have := how.len; omega), b4, b3⟩
                  · rw [nd_default_of_ge s8 h2'] at hq; cases hq
              have hnode8 : (nd s8 s.nodes.length).kind = BP.setext.kind ∧ s.nodes.length < s8.nodes.length :=
                nk_kg hkg28 hkn hltn
              have hc8' : CInvW tb False src s8 s8.pc.opened := by rw [hop8]; exact hc8
              cases tr with
              | true =>
                simp only [if_true] at kc
                obtain ⟨hx, hs'⟩ := pure_ok kc
                subst hs'
                refine ⟨⟨hc8', hnp8, Nat.le_trans how.len hkgs8.1, fun t ht => by rw [htmp8 t ht]; exact hlbn0⟩,
                  .inr (.inr (.inr ⟨by rw [hx], by rw [hx], hfresh8, hkgs8, by rw [hop8, eff.opened]⟩))⟩
              | false =>
                simp only [Bool.false_eq_true, if_false] at kc
                have hstrong : ∀ t, s8.pc.tmpPara = some t → (nd s8 t).lines ≠ [] ∧ ∀ b' ∈ s8.pc.opened, b'.node ≠ t := by
                  intro t ht
                  have := htmp8 t ht
                  subst this
                  refine ⟨ptpostX_keep hB7.nodes hlt5 hp.1 (hp.2 rfl), fun b' hb' => ?_⟩
                  rw [hop8] at hb'
                  exact hneU b' hb'
                have hp8 : TailPre tb True src n0 tp parent s.nodes.length .setext s8 := by
                  refine ⟨hc8'.strengthen hstrong, hnode8.2, ?_, hnode8.1, fun b hb => ?_, hpl, ?_, hptp, how.len, hnp8,
                    fun hb => absurd rfl hb, by rw [hr8]; exact hsrc2, fun t ht => by rw [htmp8 t ht]; omega⟩
                  · rw [hpar28 _ how.len hltn]; exact hnparN
                  · rw [hop8] at hb
                    exact hpre.fresh b (List.dropLast_subset _ hb)
                  · rw [hkgs8.2 parent hpl]; exact hpk
                obtain ⟨t1, t2, t3, t4, t5, t6, hx3⟩ := tailT_clG (src := src) n0 tp parent s.nodes.length .setext blank
                  state.hasChildren (some lb) s8 s' x hp8
                  (fun l hl => by
                    simp only [Option.map_some, Option.some.injEq] at hl
                    subst hl
                    exact hp.2 rfl) (fun _ => trivial) kc
                refine ⟨⟨t1, t2, by rw [t3]; exact Nat.le_trans how.len hkgs8.1,
                  fun t ht => by rw [t4] at ht; rw [htmp8 t ht]; exact hlbn0⟩, ?_⟩
                rw [hstf] at hx3
                simp only [Bool.false_eq_true, if_false] at hx3
                exact .inr (.inl ⟨by rw [hx3], by rw [hx3]⟩)
            · -- the ELSE branch of `last == parent.LastChild()` is dead
              next hne =>
              exfalso
              apply hne
              have : (s2.nodes.getD parent default) = nd s0 parent := by
                rw [hnd0]
                have hplt' : parent < s.nodes.length := by rw [hn0]; exact hplt
                exact GM.Blocks.L.nd_append_lt hsn hplt'
              rw [hpn, this, hll]
              simp
          · have hbs : bp ≠ .setext := by
              intro hb
              obtain ⟨r', _, hcase⟩ := setextOpen_line hc.ri (h2' hb)
              rcases hcase with ⟨hnone, _⟩ | ⟨lb0, lvl, _, _, _, ha, _⟩
              · cases hnone
              · have : state = { requirePara := true } := (Prod.mk.inj ha).2
                rw [this] at hrq
                exact hrq rfl
            rw [if_neg hrq] at k2
            simp only [pure_bind, Bool.false_eq_true, if_false] at k2
            obtain ⟨t1, t2, t3, t4, t5, t6, hx3⟩ := tailT_clG (src := src) n0 tp parent s.nodes.length bp blank
              state.hasChildren s.pc.opened.getLast? s2 s' x hpre hlpar2 (fun hb => absurd hb hbs) k2
            have how' : OWG tb src n0 tp s' :=
              ⟨t1, t2, by rw [t3]; have := how.len; omega, fun t ht => htmpn0 t (by rw [← t4]; exact ht)⟩
            refine ⟨how', ?_⟩
            by_cases hch : state.hasChildren = true
            · rw [if_pos hch] at hx3
              have hkc : bp.kind ≠ .paragraph := container_kind_ne_paragraph (eff.cont hch)
              refine .inr (.inr (.inl ⟨s.nodes.length, by rw [hx3], fun i hi => ?_, how.len, by rw [t3]; exact hltn, ?_⟩))
              · rw [t6, hnd2]
                split
                · exact hfn i hi
                · split
                  · rw [hnk]; exact hkc
                  · decide
              · rw [t6, hkn]; exact hkc
            · rw [if_neg hch] at hx3
              exact .inr (.inl ⟨by rw [hx3], by rw [hx3]⟩)

omit hag hagT in
/-- **the `continuable:` exit** under the close discipline: the continuation line goes to a block that is still open -/
theorem toContinuableG_cl (L : Int) (n0 tp : Nat) (cont : Bool) (result : OpenResult) (lbo : Option Block) (s : St)
    (c : RCur) (r' : OpenResult) (s' : St) (hc : CleanW tb src L s c) (how : OWG tb src n0 tp s)
    (hres : result = .noBlocksOpened → cont = true → lbo = s.pc.opened.getLast? ∧ ContOK cont s)
    (h : toContinuable cont result lbo s = .ok (r', s')) :
    OWG tb src n0 tp s' ∧ s'.pc.opened = s.pc.opened ∧
      (r' = result ∨ (result = .noBlocksOpened ∧ r' = .paragraphContinuation)) := by
  obtain ⟨E, hE, _⟩ := toContinuableG_ord L cont result lbo s c r' s' hc hres h
  unfold toContinuable at h
  split at h
  · next hcond =>
    simp only [Bool.and_eq_true, beq_iff_eq] at hcond
    obtain ⟨hlbo, hck⟩ := hres hcond.1 hcond.2
    obtain ⟨lb, hlast, hkind⟩ := hck hcond.2
    rw [hlbo, hlast] at h
    dsimp only at h
    obtain ⟨st, s1, h1, k1⟩ := bind_ok h
    have hs' : s' = s1 ∧ (r' = result ∨ (result = .noBlocksOpened ∧ r' = .paragraphContinuation)) := by
      split at k1
      · exact ⟨(pure_ok k1).2, .inr ⟨hcond.1, (pure_ok k1).1⟩⟩
      · exact ⟨(pure_ok k1).2, .inl (pure_ok k1).1⟩
    obtain ⟨hs', hrr⟩ := hs'
    subst s'
    have hmem := List.mem_of_getLast? hlast
    obtain ⟨hkb, hltb⟩ := hc.inv.kinds lb hmem
    have hbp : lb.bp = .paragraph := kind_paragraph (by rw [← hkb]; exact hkind)
    rw [hbp] at h1
    have h1' : paragraphContinue lb.node s = .ok (st, s1) := h1
    obtain ⟨r1, c1, hr1, _, _, hpc1, hcase⟩ := (paragraphContinue_line hc.ri lb.node).of_ok h1'
    refine ⟨?_, by rw [hpc1], hrr⟩
    rcases hcase with ⟨_, hn, _⟩ | ⟨_, _, _, _, _, hn⟩
    · exact how.congr hn (by rw [hpc1]) (by rw [hpc1])
    · have hnd : ∀ i, nd s1 i = if lb.node = i ∧ lb.node < s.nodes.length then
          { (nd s lb.node) with lines := (nd s lb.node).lines ++ [RCur.seg src c], linesNil := false } else nd s i := by
        intro i
        have : nd s1 i = nd ({ s with nodes := s.nodes.set lb.node ((fun n : Node =>
            { n with lines := n.lines ++ [RCur.seg src c], linesNil := false }) (s.nodes.getD lb.node default)) } : St) i := by
          simp only [nd, hn]
        rw [this]
        exact nd_mod s lb.node (fun n => { n with lines := n.lines ++ [RCur.seg src c], linesNil := false }) i
      have hlinks : ∀ i, (nd s1 i).parent = (nd s i).parent ∧ (nd s1 i).children = (nd s i).children ∧
          (nd s1 i).kind = (nd s i).kind := by
        intro i; rw [hnd]; split
        · next hc' => rw [hc'.1]; exact ⟨rfl, rfl, rfl⟩
        · exact ⟨rfl, rfl, rfl⟩
      have hlen : s1.nodes.length = s.nodes.length := by rw [hn]; simp
      refine ⟨⟨⟨E, _, hE⟩, how.ci.tree.of_links (fun i => ⟨(hlinks i).1, (hlinks i).2.1⟩), fun i hr => ?_,
        fun g hg => by rw [(hlinks g.node).1]; rw [hpc1] at hg; exact how.ci.att g hg,
        by rw [hpc1]; exact how.ci.nodup, fun g hg => hg, fun i hn => by
          rw [(hlinks i).2.2] at hn
          rw [hnd]
          split
          · next hc' => rw [← hc'.1, hkind] at hn; cases hn.1
          · exact how.ci.nl i hn⟩, fun x hx q hq => ?_, by rw [hlen]; exact how.len,
        fun t ht => how.tmp t (by rw [← hpc1]; exact ht)⟩
      · rw [(hlinks i).2.2] at hr
        by_cases hi : lb.node = i
        · subst hi
          exact .inr (.inl ⟨lb, by rw [hpc1]; exact hmem, rfl, .inl hbp⟩)
        · rcases how.ci.pad i hr with hcl | hop | hab
          · left; rw [Closed, hnd, if_neg (fun hh => hi hh.1)]; exact hcl
          · rw [hpc1]; exact .inr (.inl hop)
          · exact .inr (.inr ⟨by rw [(hlinks i).2.2]; exact hab.1, by rw [(hlinks i).1]; exact hab.2⟩)
      · rw [(hlinks x).1] at hq
        obtain ⟨a1, a2, a3⟩ := how.np x hx q hq
        exact ⟨a1, by rw [(hlinks q).2.2]; exact a2, by rw [hlen]; exact a3⟩
  · have h' : (pure result : M OpenResult) s = .ok (r', s') := h
    obtain ⟨hr, hs⟩ := pure_ok h'
    subst s'
    exact ⟨how, rfl, .inl hr⟩


/-- **the `goto retry` loop** under the close discipline -/
theorem openBlocksLoopT_clG (L : Int) (n0 tp : Nat) (blank : Bool) (old : List Block) (s0 : St) (hent : Ent old s0) :
    ∀ (fuel : Nat) (tdone cont : Bool) (parent : Nat) (result : OpenResult) (lbo : Option Block) (s : St) (c : RCur)
      (r' : OpenResult) (s' : St),
      CleanW tb src L s c → NP old s0 s → OWG tb src n0 tp s → FreshN n0 s →
      (parent = tp ∨ n0 ≤ parent) → parent < s.nodes.length → (nd s parent).kind ≠ .paragraph →
      (result = .noBlocksOpened → cont = true → lbo = s.pc.opened.getLast? ∧ ContOK cont s) →
      openBlocksLoopT pts blank fuel tdone cont parent result lbo s = .ok (r', s') →
      OWG tb src n0 tp s' ∧ (result = .newBlocksOpened → r' = .newBlocksOpened) ∧
        (r' ≠ .newBlocksOpened → s'.pc.opened.Sublist s.pc.opened) := by
  intro fuel
  induction fuel with
  | zero => intro tdone cont parent result lbo s c r' s' _ _ _ _ _ _ _ _ h; rw [openBlocksLoopT_zero] at h; cases h
  | succ fuel ih =>
    intro tdone cont parent result lbo s c r' s' hc hnp how hfn hptp hpl hpk hres h
    rw [openBlocksLoopT_succ] at h
    obtain ⟨y, s1, h1, k1⟩ := bind_ok h
    obtain ⟨rfl, r1, hs1, hr1⟩ := peekLine_inv hc.ri h1
    subst s1
    dsimp only at k1
    obtain ⟨lo, s2, h2, k2⟩ := bind_ok k1
    obtain ⟨r2, hs2, hr2⟩ := lineOffset_inv (s := { s with r := r1 }) hr1 h2
    subst s2
    obtain ⟨u, s3, h3, k3⟩ := bind_ok k2
    have e3 := modPc_ok h3
    have hop3 : s3.pc.opened = s.pc.opened := by rw [e3]; dsimp only; split <;> rfl
    have htm3 : s3.pc.tmpPara = s.pc.tmpPara := by rw [e3]; dsimp only; split <;> rfl
    have hn3 : s3.nodes = s.nodes := by rw [e3]
    have hr3 : s3.r = r2 := by rw [e3]
    have hnd3 : ∀ i, nd s3 i = nd s i := fun i => by simp only [nd, hn3]
    have hc3 : CleanW tb src L s3 c := ⟨hc.inv.of_same hn3 hop3 htm3, by rw [hr3]; exact hr2, hc.pad, hc.le, hc.padl⟩
    have how3 : OWG tb src n0 tp s3 := how.congr hn3 hop3 htm3
    have hnp3 : NP old s0 s3 := hnp.congr hn3 hop3
    have hfn3 : FreshN n0 s3 := fun i hi => by rw [hnd3]; exact hfn i hi
    have hpl3 : parent < s3.nodes.length := by rw [hn3]; exact hpl
    have hpk3 : (nd s3 parent).kind ≠ .paragraph := by rw [hnd3]; exact hpk
    have hres3 : result = .noBlocksOpened → cont = true → lbo = s3.pc.opened.getLast? ∧ ContOK cont s3 := by
      intro hr hct0
      obtain ⟨a, b⟩ := hres hr hct0
      refine ⟨by rw [hop3]; exact a, fun hct => ?_⟩
      obtain ⟨lb, h1', h2'⟩ := b hct
      exact ⟨lb, by rw [hop3]; exact h1', by rw [hnd3]; exact h2'⟩
    have hboff : (RCur.view src c).isSome = true → BoffOK src s3 c := by
      intro hsome
      unfold BoffOK
      rw [e3]
      dsimp only
      split
      · simp only; omega
      · simp only; omega
    have exit : toContinuable cont result lbo s3 = .ok (r', s') →
        OWG tb src n0 tp s' ∧ (result = .newBlocksOpened → r' = .newBlocksOpened) ∧
          (r' ≠ .newBlocksOpened → s'.pc.opened.Sublist s.pc.opened) := fun hk => by
      obtain ⟨a1, a2, a3⟩ := toContinuableG_cl L n0 tp cont result lbo s3 c r' s' hc3 how3 hres3 hk
      refine ⟨a1, fun hn => ?_, fun _ => by rw [a2, hop3]; exact List.Sublist.refl _⟩
      rcases a3 with a3 | ⟨a3, _⟩
      · rw [a3]; exact hn
      · rw [hn] at a3; cases a3
    have viaTry : ∀ (bps : List BP), (RCur.view src c).isSome = true →
        retryStepT pts blank tdone cont parent (indentWidthI ((RCur.view src c).getD []) lo).fst bps result lbo
          (openBlocksLoopT pts blank fuel) s3 = .ok (r', s') →
        OWG tb src n0 tp s' ∧ (result = .newBlocksOpened → r' = .newBlocksOpened) ∧
          (r' ≠ .newBlocksOpened → s'.pc.opened.Sublist s.pc.opened) := by
      intro bps hsome hk
      have hlt : c.p < src.length := by
        cases hv : RCur.view src c with
        | none => rw [hv] at hsome; cases hsome
        | some l => exact view_some_lt src c hv
      unfold retryStepT at hk
      obtain ⟨sb, s4, h4, k4⟩ := bind_ok hk
      have e4 : s4 = s3 := by cases h4; rfl
      subst s4
      obtain ⟨x, s5, h5, k5⟩ := bind_ok k4
      obtain ⟨_, hord⟩ := (tryParsersT_eqg hag L parent blank cont _ old s0 hent bps result lbo s3 c hc3 hlt (hboff hsome)
        hnp3).2 x s5 h5
      obtain ⟨how5, hcl⟩ := tryParsersT_clG hag hagT L n0 tp parent blank cont _ old s0 hent bps result lbo s3 c x s5 hc3 hlt
        (hboff hsome) hnp3 how3 hfn3 hptp hpl3 hpk3 h5
      obtain ⟨o, res, l⟩ := x
      cases o with
      | done =>
        dsimp only at k5
        by_cases hnew : res = .newBlocksOpened
        · rw [hnew] at k5
          have hr5 : r' = .newBlocksOpened := by
            have k5' := k5
            unfold toContinuable at k5'
            rw [if_neg (by simp)] at k5'
            have h' : (pure OpenResult.newBlocksOpened : M OpenResult) s5 = .ok (r', s') := k5'
            exact (pure_ok h').1
          rw [toContinuable_new cont _ s5 r' s' k5]
          exact ⟨how5, fun _ => hr5, fun hne => absurd hr5 hne⟩
        · have hA : res = result ∧ CleanW tb src L s5 c ∧ s5.nodes = s3.nodes ∧ s5.pc.opened = s3.pc.opened ∧
              (l = lbo ∨ l = s3.pc.opened.getLast?) := by
            rcases hord with ⟨_, a2, a3, a4, a5, _, a7⟩ | ⟨_, b2⟩ | ⟨p', c', c1, _⟩ | ⟨c', d1, _⟩
            · exact ⟨a2, a3, a4, a5, a7⟩
            · exact absurd b2 hnew
            · cases c1
            · cases d1
          obtain ⟨a2, a3, a4, a5, a7⟩ := hA
          obtain ⟨b1, b2, b3⟩ := toContinuableG_cl L n0 tp cont res l s5 c r' s' a3 how5 (fun hr hct0 => by
            rw [a2] at hr
            obtain ⟨q1, q2⟩ := hres3 hr hct0
            refine ⟨?_, fun hct => ?_⟩
            · rcases a7 with a7 | a7
              · rw [a7, q1, a5]
              · rw [a7, a5]
            · obtain ⟨lb, h1', h2'⟩ := q2 hct
              exact ⟨lb, by rw [a5]; exact h1', by simp only [nd, a4]; exact h2'⟩) k5
          refine ⟨b1, fun hn => ?_, fun _ => by rw [b2, a5, hop3]; exact List.Sublist.refl _⟩
          rw [a2] at b3
          rcases b3 with b3 | ⟨b3, _⟩
          · rw [b3]; exact hn
          · rw [hn] at b3; cases b3
      | retry p' =>
        dsimp only at k5
        obtain ⟨s6, s7, h7, k7⟩ := bind_ok k5
        have e7 : s7 = s5 := by cases h7; rfl
        subst s7
        have hrec : openBlocksLoopT pts blank fuel tdone cont p' res l s5 = .ok (r', s') := by
          split at k7
          · obtain ⟨_, _, hthrow, _⟩ := bind_ok k7
            cases hthrow
          · exact k7
        have hC : ∃ c', res = .newBlocksOpened ∧ CleanW tb src L s5 c' ∧ NP old s0 s5 := by
          rcases hord with ⟨a1, _⟩ | ⟨b1, _⟩ | ⟨p'', c', _, c2, c3, _, c5⟩ | ⟨c', d1, _⟩
          · cases a1
          · cases b1
          · exact ⟨c', c2, c3, c5⟩
          · cases d1
        obtain ⟨c', hnew, hc5, hnp5⟩ := hC
        have hC2 : FreshN n0 s5 ∧ n0 ≤ p' ∧ p' < s5.nodes.length ∧ (nd s5 p').kind ≠ .paragraph := by
          rcases hcl with ⟨a1, _⟩ | ⟨b1, _⟩ | ⟨p'', c1, c2, c3, c4, c5⟩ | ⟨d1, _⟩
          · cases a1
          · cases b1
          · cases c1; exact ⟨c2, c3, c4, c5⟩
          · cases d1
        obtain ⟨d1, d2, d3, d4⟩ := hC2
        obtain ⟨e1, e2, _⟩ := ih tdone cont p' res l s5 c' r' s' hc5 hnp5 how5 d1 (.inr d2) d3 d4
          (fun hr => by rw [hnew] at hr; cases hr) hrec
        have hr' := e2 hnew
        exact ⟨e1, fun _ => hr', fun hne => absurd hr' hne⟩
      | retryTransformed =>
        dsimp only at k5
        obtain ⟨s6, s7, h7, k7⟩ := bind_ok k5
        have e7 : s7 = s5 := by cases h7; rfl
        subst s7
        have hrec : openBlocksLoopT pts blank fuel true false parent res l s5 = .ok (r', s') := by
          split at k7
          · obtain ⟨_, _, hthrow, _⟩ := bind_ok k7
            cases hthrow
          · exact k7
        have hC : ∃ c', CleanW tb src L s5 c' ∧ NP old s0 s5 := by
          rcases hord with ⟨a1, _⟩ | ⟨b1, _⟩ | ⟨p'', c', c1, _⟩ | ⟨c', _, d2, _, d4⟩
          · cases a1
          · cases b1
          · cases c1
          · exact ⟨c', d2, d4⟩
        obtain ⟨c', hc5, hnp5⟩ := hC
        have hC2 : res = result ∧ FreshN n0 s5 ∧ KG s3 s5 ∧ s5.pc.opened = s3.pc.opened.dropLast := by
          rcases hcl with ⟨a1, _⟩ | ⟨b1, _⟩ | ⟨p'', c1, _⟩ | ⟨_, d0, d2, d3, d4⟩
          · cases a1
          · cases b1
          · cases c1
          · exact ⟨d0, d2, d3, d4⟩
        obtain ⟨d0, d1, d2, d4⟩ := hC2
        obtain ⟨e1, e2, e3⟩ := ih true false parent res l s5 c' r' s' hc5 hnp5 how5 d1 hptp (Nat.lt_of_lt_of_le hpl3 d2.1)
          (by rw [d2.2 parent hpl3]; exact hpk3) (fun _ hct => by cases hct) hrec
        exact ⟨e1, fun hn => e2 (by rw [d0]; exact hn), fun hne => by
          have := e3 hne
          rw [d4, hop3] at this
          exact this.trans (List.dropLast_sublist _)⟩
    split at k3
    · exact exit k3
    · next hsome0 =>
      have hsome : (RCur.view src c).isSome = true := by
        cases hv : RCur.view src c with
        | none => rw [hv] at hsome0; simp at hsome0
        | some l => rfl
      obtain ⟨ch, s4, h4, k4⟩ := bind_ok k3
      obtain ⟨_, e4⟩ := liftE_ok h4
      subst s4
      split at k4
      · exact exit k4
      · split at k4
        · obtain ⟨c', s5, h5, k5⟩ := bind_ok k4
          obtain ⟨_, e5⟩ := liftE_ok h5
          subst s5
          obtain ⟨bps, s6, h6, k6⟩ := bind_ok k5
          obtain ⟨_, e6⟩ := pure_ok h6
          subst s6
          exact viaTry bps hsome k6
        · obtain ⟨bps, s6, h6, k6⟩ := bind_ok k4
          obtain ⟨_, e6⟩ := pure_ok h6
          subst s6
          exact viaTry bps hsome k6

/-- **openBlocksT under the close discipline**: from `CInvW` for the whole stack (and a clean reader) it ends with `CInvW`
    for the whole stack; every node it created hangs below `parent` or below another new node; the setext key points
    to a node that existed before -/
theorem openBlocksT_clG (L : Int) (parent : Nat) (blank : Bool) (s : St) (c : RCur) (r' : OpenResult) (s' : St)
    (hc : CleanW tb src L s c) (hent : Ent s.pc.opened s) (hci : CInvW tb False src s s.pc.opened) (hpl : parent < s.nodes.length)
    (hpk : (nd s parent).kind ≠ .paragraph) (h : openBlocksT pts parent blank s = .ok (r', s')) :
    OWG tb src s.nodes.length parent s' ∧ (r' ≠ .newBlocksOpened → s'.pc.opened.Sublist s.pc.opened) := by
  have how : OWG tb src s.nodes.length parent s :=
    ⟨hci, (fun x hx q hq => by rw [nd_default_of_ge s hx] at hq; cases hq), Nat.le_refl _,
      fun t ht => tmp_lt (hc.inv.tmpk t ht)⟩
  have hfn : FreshN s.nodes.length s := fun i hi => by rw [nd_default_of_ge s hi]; decide
  unfold openBlocksT at h
  obtain ⟨lb, s1, h1, k1⟩ := bind_ok h
  obtain ⟨hlb, hs1⟩ := lastOpenedBlock_ok h1
  subst s1
  subst lb
  have fin : ∀ cont, ContOK cont s →
      (do let v ← source
          openBlocksLoopT pts blank (retryFuel v) false cont parent OpenResult.noBlocksOpened s.pc.opened.getLast? : M OpenResult) s
      = .ok (r', s') → OWG tb src s.nodes.length parent s' ∧ (r' ≠ .newBlocksOpened → s'.pc.opened.Sublist s.pc.opened) := by
    intro cont hco k2
    obtain ⟨v, s3, h3, k3⟩ := bind_ok k2
    have e3 : s3 = s := by cases h3; rfl
    subst s3
    obtain ⟨a1, _, a3⟩ := openBlocksLoopT_clG hag hagT L s.nodes.length parent blank _ s hent _ false cont parent _ _ s c r' s' hc
      (.inl ⟨rfl, rfl⟩) how hfn (.inl rfl) hpl hpk (fun _ _ => ⟨rfl, hco⟩) k3
    exact ⟨a1, a3⟩
  dsimp only at k1
  cases hl : s.pc.opened.getLast? with
  | none =>
    rw [hl] at k1
    dsimp only at k1
    simp only [pure_bind] at k1
    rw [← hl] at k1
    exact fin false (fun h => by cases h) k1
  | some b =>
    rw [hl] at k1
    dsimp only at k1
    obtain ⟨n, s2, h2, k2⟩ := bind_ok k1
    obtain ⟨hn, e2⟩ := getNode_ok h2
    subst s2
    subst n
    simp only [pure_bind] at k2
    rw [← hl] at k2
    exact fin _ (fun hct => ⟨b, hl, by simpa using hct⟩) k2

end walk

end GM.Blocks.TX
end BlocksTNOClOpen
