/-
  GM.Proof.BlocksClosedClose — the close discipline `CInv` under each parser's `Close` (`bpClose_cl`), under the loop of `closeBlocks` (`closeList_cl`, `closeBlocks_cl`: the blocks that stay are
  guarded) and under each parser's `Open`: the node it appends is `Closed` unless it is the setext heading (`open_newClosed`); `CInvX` is `CInv` with exempt nodes.
-/
import GM.Proof.BlocksClosedInv
import GM.Proof.BlocksClosedTree
import GM.Proof.BlocksCloseRange

section BlocksClosedClose
/-
  * `bpClose_cl`   — `Close` of the top block `b` of the open set `b :: U`: afterwards `b`'s node is `Closed` (Paragraph:
                     trimmed; setext heading: the closed paragraph's lines; everything else never had padded lines), the
                     blocks of `U` that are guarded are still attached, `CInv` holds for `U`.
  * `closeList_cl` — the loop of `closeBlocks` over the blocks `l` (top first, only the top may be a leaf).
  * `closeBlocks_cl` — parser.closeBlocks (parser.go:900-918) for a range `[to, frm]` of the stack.
-/

namespace GM.Blocks
open GM GM.Text GM.Spec GM.Proof.Reader
open GM.Proof.BlocksWF0 (isRaw)

/-- codeBlockParser.Close, the state it leaves: a prefix of the node's lines -/
theorem codeClose_eff {node : Nat} {s s' : St} (e : codeClose node s = .ok ((), s')) :
    ∃ k, s' = { s with nodes := s.nodes.set node { (nd s node) with lines := (nd s node).lines.take k } } := by
  unfold codeClose at e
  obtain ⟨n, s1, h1, k1⟩ := bind_ok e
  obtain ⟨rfl, hs1⟩ := getNode_ok h1
  subst s1
  obtain ⟨src', s2, h2, k2⟩ := bind_ok k1
  have hs2 : s2 = s := by cases h2; rfl
  subst s2
  obtain ⟨len, s3, h3, k3⟩ := bind_ok k2
  obtain ⟨_, hs3⟩ := liftE_ok h3
  subst s3
  dsimp only at k3
  split at k3
  · obtain ⟨_, _, ht, _⟩ := bind_ok k3; cases ht
  exact ⟨_, modNode_ok k3⟩

/-- a write of `lines` only: all links stay -/
theorem setLines_links (s : St) (X : Nat) (ls : List Segment) (i : Nat) :
    (nd ({ s with nodes := s.nodes.set X { (nd s X) with lines := ls } } : St) i).parent = (nd s i).parent ∧
    (nd ({ s with nodes := s.nodes.set X { (nd s X) with lines := ls } } : St) i).children = (nd s i).children := by
  rw [nd_mod s X (fun n => { n with lines := ls }) i]
  split
  · next hc => rw [hc.1]; exact ⟨rfl, rfl⟩
  · exact ⟨rfl, rfl⟩

theorem setLines_nd (s : St) (X : Nat) (ls : List Segment) (i : Nat) :
    nd ({ s with nodes := s.nodes.set X { (nd s X) with lines := ls } } : St) i =
      if X = i ∧ X < s.nodes.length then { (nd s X) with lines := ls } else nd s i :=
  nd_mod s X (fun n => { n with lines := ls }) i

/-- what every step of the close discipline reports next to `CInv` -/
structure CStep (s s1 : St) (U : List Block) : Prop where
  r : s1.r = s.r
  opened : s1.pc.opened = s.pc.opened
  kg : KG s s1
  npar : ∀ i, i < s.nodes.length → (nd s i).kind ≠ .paragraph → (nd s1 i).parent = (nd s i).parent
  gpar : ∀ g ∈ U, PSb g → (nd s1 g.node).parent = (nd s g.node).parent
  tmp : ∀ t, s1.pc.tmpPara = some t → s.pc.tmpPara = some t

theorem CStep.refl (s : St) (U : List Block) : CStep s s U :=
  ⟨rfl, rfl, KG.refl s, fun _ _ _ => rfl, fun _ _ _ => rfl, fun _ h => h⟩

theorem CStep.trans {a b c : St} {U : List Block} (h1 : CStep a b U) (h2 : CStep b c U) : CStep a c U :=
  ⟨h2.r.trans h1.r, h2.opened.trans h1.opened, h1.kg.trans h2.kg,
    fun i hi hk => (h2.npar i (Nat.lt_of_lt_of_le hi h1.kg.1) (by rw [h1.kg.2 i hi]; exact hk)).trans (h1.npar i hi hk),
    fun g hg hp => (h2.gpar g hg hp).trans (h1.gpar g hg hp), fun t ht => h1.tmp t (h2.tmp t ht)⟩

/-- the node of the top block `b` gets the line list `ls` (padding 0 when not raw), nothing else changes: `b` may leave the open set -/
theorem CInvA.setLines {IV : St → Prop} {Ab : St → Nat → Prop} {s : St} {b : Block} {U : List Block} {ls : List Segment}
    (h : CInvA IV Ab s (b :: U)) (hlt : b.node < s.nodes.length)
    (hinv : IV ({ s with nodes := s.nodes.set b.node { (nd s b.node) with lines := ls } } : St))
    (hcl : isRaw (nd s b.node).kind = false → ∀ t ∈ ls, t.padding = 0)
    (hab : ∀ i, i ≠ b.node → Ab s i → Ab ({ s with nodes := s.nodes.set b.node { (nd s b.node) with lines := ls } } : St) i) :
    CInvA IV Ab ({ s with nodes := s.nodes.set b.node { (nd s b.node) with lines := ls } } : St) U := by
  have hnd := setLines_nd s b.node ls
  have hself : nd ({ s with nodes := s.nodes.set b.node { (nd s b.node) with lines := ls } } : St) b.node =
      { (nd s b.node) with lines := ls } := by rw [hnd, if_pos ⟨rfl, hlt⟩]
  have hcb : isRaw (nd ({ s with nodes := s.nodes.set b.node { (nd s b.node) with lines := ls } } : St) b.node).kind = false →
      Closed (nd ({ s with nodes := s.nodes.set b.node { (nd s b.node) with lines := ls } } : St) b.node) := by
    rw [hself]; exact fun hr t ht => hcl hr t ht
  refine (h.transport hinv (setLines_links s b.node ls) (fun i hr => ?_) (fun _ hb => hb)).drop hcb
  by_cases hi : i = b.node
  · subst hi; exact .inl (hcb hr)
  · have e0 : nd ({ s with nodes := s.nodes.set b.node { (nd s b.node) with lines := ls } } : St) i = nd s i := by
      rw [hnd, if_neg (fun hh => hi hh.1.symm)]
    exact .inr ⟨by rw [← e0]; exact hr, fun hc => by rw [e0]; exact hc, hab i hi⟩

theorem CInv.setLines {src : Bytes} {s : St} {b : Block} {U : List Block} {ls : List Segment} (h : CInv src s (b :: U))
    (B : Int) (hinv : Inv src B ({ s with nodes := s.nodes.set b.node { (nd s b.node) with lines := ls } } : St))
    (hcl : isRaw (nd s b.node).kind = false → ∀ t ∈ ls, t.padding = 0) :
    CInv src ({ s with nodes := s.nodes.set b.node { (nd s b.node) with lines := ls } } : St) U ∧
      CStep s ({ s with nodes := s.nodes.set b.node { (nd s b.node) with lines := ls } } : St) U := by
  have hlk := setLines_links s b.node ls
  refine ⟨cinv_iff.2 ((cinv_iff.1 h).setLines (h.kinds (List.mem_cons_self ..)).2 ⟨B, hinv⟩ hcl (fun _ _ h => h)),
    ⟨rfl, rfl, ⟨by simp, fun i _ => ?_⟩, fun i _ _ => (hlk i).1, fun g _ _ => (hlk g.node).1, fun _ ht => ht⟩⟩
  rw [setLines_nd]; split
  · next hc => rw [hc.1]
  · rfl

/-- **`Close` of the top block under the close discipline** -/
theorem bpClose_cl {src : Bytes} {s s1 : St} {b : Block} {U : List Block} (h : CInv src s (b :: U))
    (hsrc : s.r.source = src) (hG : ∀ g ∈ U, PSb g → Guard s [b] g)
    (hsx : b.bp = .setext → ∀ t, s.pc.tmpPara = some t → ∀ g ∈ b :: U, g.bp = .paragraph → g.node ≠ t)
    (e : bpClose b.bp b.node s = .ok ((), s1)) : CInv src s1 U ∧ CStep s s1 U := by
  obtain ⟨hkb, hltb⟩ := h.kinds (List.mem_cons_self ..)
  obtain ⟨B, hB⟩ := h.inv
  obtain ⟨bnode, bbp⟩ := b
  simp only at hkb hltb e hsx
  -- a `Close` that does nothing
  have triv : s1 = s → ¬ PSb ⟨bnode, bbp⟩ → CInv src s1 U ∧ CStep s s1 U := by
    intro hs hps
    subst hs
    exact ⟨h.drop (fun hr => h.closed_of_notPS (List.mem_cons_self ..) hps hr), CStep.refl _ _⟩
  cases bbp
  case setext =>
    have e' : setextClose bnode s = .ok ((), s1) := e
    cases ht : s.pc.tmpPara with
    | none =>
      exfalso
      obtain ⟨a, _, _⟩ := setextClose_inv hB hkb hltb e'
      -- `setextClose_inv` already refutes a normal end without the key; redo the short argument
      unfold setextClose at e'
      obtain ⟨hn, sa, h1, k1⟩ := bind_ok e'
      obtain ⟨rfl, hs1⟩ := getNode_ok h1
      subst sa
      obtain ⟨seg, sb, h2, k2⟩ := bind_ok k1
      obtain ⟨_, hs2⟩ := liftE_ok h2
      subst sb
      obtain ⟨_, s3, h3, k3⟩ := bind_ok k2
      have e3 := modNode_ok h3
      obtain ⟨pc4, s4, h4, k4⟩ := bind_ok k3
      obtain ⟨rfl, hs4⟩ := getPc_ok h4
      subst s4
      have hpc3 : s3.pc = s.pc := by rw [e3]
      rw [hpc3, ht] at k4
      dsimp only at k4
      obtain ⟨_, _, h5, _⟩ := bind_ok k4
      cases h5
    | some t =>
      have hkt := hB.tmpk t ht
      have hne := hB.pne t hkt
      have hnt : bnode ≠ t := by intro e0; rw [e0, hkt] at hkb; cases hkb
      have hsafe := hsx rfl t ht
      -- the paragraph behind the key is closed
      have hct : Closed (nd s t) := by
        rcases h.pad t (by rw [hkt]; rfl) with hc | ⟨g, hg, hn, hp⟩
        · exact hc
        · exfalso
          have hgk := (h.kinds hg).1
          rw [hn, hkt] at hgk
          exact hsafe g hg (kind_paragraph hgk.symm) hn
      obtain ⟨hlen, ⟨hl, hln⟩, hoth, hkind, hpc, hr⟩ := setextClose_copy ht hne hnt hltb e'
      obtain ⟨htree, hpar⟩ := setextClose_tree h.tree ht hne hnt hltb e'
      obtain ⟨hinv1, _, hop1, hkg1⟩ := setextClose_inv hB hkb hltb e'
      have hgt : ∀ g ∈ U, PSb g → g.node ≠ t := by
        intro g hg hp hgt'
        rcases hp with hp | hp
        · exact hsafe g (List.mem_cons_of_mem _ hg) hp hgt'
        · have := (h.kinds (List.mem_cons_of_mem _ hg)).1
          rw [hgt', hkt, hp] at this; cases this
      have hgt' : ∀ g ∈ U, g.node ≠ t := by
        intro g hg hgt''
        by_cases hp : PSb g
        · exact hgt g hg hp hgt''
        · have hk := (h.kinds (List.mem_cons_of_mem _ hg)).1
          rw [hgt'', hkt] at hk
          exact hp (.inl (kind_paragraph hk.symm))
      refine ⟨⟨⟨B, hinv1⟩, htree, fun i hr' => ?_, fun g hg => ?_,
        fun a ha c hc e0 => h.inj a (List.mem_cons_of_mem _ ha) c (List.mem_cons_of_mem _ hc) e0,
        fun g hg => by rw [hop1]; exact h.sub g (List.mem_cons_of_mem _ hg)⟩,
        ⟨hr, hop1, hkg1, fun i _ hk => hpar i (fun e0 => hk (e0 ▸ hkt)), fun g hg hp => hpar g.node (hgt g hg hp),
          fun t' ht' => by rw [hpc] at ht'; cases ht'⟩⟩
      · rw [hkind] at hr'
        by_cases hi : i = bnode
        · subst hi; left; intro u hu; rw [hl] at hu; exact hct u hu
        · rcases h.pad i hr' with hc | ⟨b', hb', hn, hp⟩
          · left; intro u hu; rw [(hoth i hi).1] at hu; exact hc u hu
          · rcases List.mem_cons.1 hb' with e0 | hm
            · subst e0; exact absurd hn.symm hi
            · exact .inr ⟨b', hm, hn, hp⟩
      · rw [hpar g.node (hgt' g hg)]; exact h.att g (List.mem_cons_of_mem _ hg)
  case thematic =>
    exact triv (by have e' : (pure () : M Unit) s = .ok ((), s1) := e; exact (pure_ok e').2)
      (fun hp => by rcases hp with hp | hp <;> cases hp)
  case list =>
    have e' : listClose bnode s = .ok ((), s1) := e
    let Prot : Nat → Prop := fun i => (∃ g ∈ U, PSb g ∧ g.node = i) ∨ (i < s.nodes.length ∧ (nd s i).kind ≠ .paragraph)
    have hp0 : ∀ i, Prot i → i < s.nodes.length := by
      rintro i (⟨g, hg, _, rfl⟩ | ⟨h1, _⟩)
      · exact (h.kinds (List.mem_cons_of_mem _ hg)).2
      · exact h1
    have hprot : ∀ i, Prot i → (nd s i).kind = .paragraph → ∀ c ∈ (nd s bnode).children, (nd s i).parent ≠ some c := by
      rintro i (⟨g, hg, hp, rfl⟩ | ⟨_, hk⟩) hkp c hc hpc
      · obtain ⟨q, hq1, _, _, hq4⟩ := hG g hg hp
        rw [hq1] at hpc
        cases hpc
        exact hq4 ⟨bnode, .list⟩ (List.mem_singleton.2 rfl) rfl (h.tree.kid bnode _ hc)
      · exact hk hkp
    have hit := listClose_tight Prot h.tree hp0 hprot e'
    obtain ⟨hinv1, _, _, hkg1⟩ := listClose_inv hB e'
    refine ⟨⟨⟨B, hinv1⟩, hit.tree, fun i hr' => ?_, fun g hg => ?_,
      fun a ha c hc e0 => h.inj a (List.mem_cons_of_mem _ ha) c (List.mem_cons_of_mem _ hc) e0,
      fun g hg => by rw [hit.pc]; exact h.sub g (List.mem_cons_of_mem _ hg)⟩,
      ⟨hit.r, by rw [hit.pc], hkg1, fun i hi hk => hit.prot i (.inr ⟨hi, hk⟩),
        fun g hg hp => hit.prot g.node (.inl ⟨g, hg, hp, rfl⟩), fun t ht => by rw [hit.pc] at ht; exact ht⟩⟩
    · rcases Nat.lt_or_ge i s.nodes.length with hil | hil
      · obtain ⟨x1, _, x3⟩ := hit.old i hil
        rw [x3] at hr'
        rcases h.pad i hr' with hc | ⟨b', hb', hn, hp⟩
        · left; intro u hu; rw [x1] at hu; exact hc u hu
        · rcases List.mem_cons.1 hb' with e0 | hm
          · subst e0; rcases hp with hp | hp <;> cases hp
          · exact .inr ⟨b', hm, hn, hp⟩
      · rcases Nat.lt_or_ge i s1.nodes.length with hil' | hil'
        · obtain ⟨_, j, hj, hjk, hjp, hjl, _⟩ := hit.new i hil hil'
          left
          intro u hu
          rw [hjl] at hu
          rcases h.pad j (by rw [hjk]; rfl) with hc | ⟨b', hb', hn, hp⟩
          · exact hc u hu
          · exfalso
            rcases List.mem_cons.1 hb' with e0 | hm
            · subst e0; rcases hp with hp | hp <;> cases hp
            · exact hjp (.inl ⟨b', hm, hp, hn⟩)
        · left; rw [nd_default_of_ge s1 hil']; intro u hu; cases hu
    · have hgp : Prot g.node := by
        by_cases hp : PSb g
        · exact .inl ⟨g, hg, hp, rfl⟩
        · obtain ⟨hk, hl⟩ := h.kinds (List.mem_cons_of_mem _ hg)
          exact .inr ⟨hl, fun hkp => hp (.inl (kind_paragraph (by rw [← hk]; exact hkp)))⟩
      rw [hit.prot g.node hgp]; exact h.att g (List.mem_cons_of_mem _ hg)
  case listItem =>
    exact triv (by have e' : (pure () : M Unit) s = .ok ((), s1) := e; exact (pure_ok e').2)
      (fun hp => by rcases hp with hp | hp <;> cases hp)
  case code =>
    have e' : codeClose bnode s = .ok ((), s1) := e
    obtain ⟨k, hs1⟩ := codeClose_eff e'
    obtain ⟨hinv1, _, _, _⟩ := codeClose_inv hB hkb hltb e'
    subst hs1
    exact CInv.setLines (b := ⟨bnode, .code⟩) h B hinv1 (fun hr => by rw [hkb] at hr; cases hr)
  case atx =>
    exact triv (by have e' : (pure () : M Unit) s = .ok ((), s1) := e; exact (pure_ok e').2)
      (fun hp => by rcases hp with hp | hp <;> cases hp)
  case fenced =>
    have e' : fencedClose bnode s = .ok ((), s1) := e
    obtain ⟨hinv1, hr1, hop1, _⟩ := fencedClose_inv hB e'
    -- only `pc.fence` may change
    have hs1 : s1.nodes = s.nodes ∧ s1.pc.tmpPara = s.pc.tmpPara := by
      unfold fencedClose at e'
      obtain ⟨pc, sa, h1, k1⟩ := bind_ok e'
      obtain ⟨rfl, hsa⟩ := getPc_ok h1
      subst sa
      cases hf : s.pc.fence with
      | none => rw [hf] at k1; cases k1
      | some f =>
        rw [hf] at k1
        dsimp only at k1
        split at k1
        · rw [modPc_ok k1]; exact ⟨rfl, rfl⟩
        · rw [(pure_ok k1).2]; exact ⟨rfl, rfl⟩
    have hnd : ∀ i, nd s1 i = nd s i := fun i => by simp only [nd, hs1.1]
    have h' := h.drop (fun hr => h.closed_of_notPS (List.mem_cons_self ..)
      (fun hp => by rcases hp with hp | hp <;> cases hp) hr)
    refine ⟨⟨⟨B, hinv1⟩, h.tree.of_links (fun i => by rw [hnd]; exact ⟨rfl, rfl⟩), fun i hr' => ?_,
      fun g hg => by rw [hnd]; exact h'.att g hg, h'.inj, fun g hg => by rw [hop1]; exact h'.sub g hg⟩,
      ⟨hr1, hop1, KG.of_nodes hs1.1, fun i _ _ => by rw [hnd], fun g _ _ => by rw [hnd],
        fun t ht => by rw [hs1.2] at ht; exact ht⟩⟩
    rw [hnd] at hr' ⊢
    exact h'.pad i hr'
  case blockquote =>
    exact triv (by have e' : (pure () : M Unit) s = .ok ((), s1) := e; exact (pure_ok e').2)
      (fun hp => by rcases hp with hp | hp <;> cases hp)
  case html =>
    exact triv (by have e' : (pure () : M Unit) s = .ok ((), s1) := e; exact (pure_ok e').2)
      (fun hp => by rcases hp with hp | hp <;> cases hp)
  case paragraph =>
    have e' : paragraphClose bnode s = .ok ((), s1) := e
    have hne := hB.pne bnode hkb
    have hl : LinesOK src (nd s bnode).lines := (nodeOK_nd hB.nodes bnode).lines
    obtain ⟨hr, hpc, ls, _, _, hpf, _, hn⟩ := (paragraphClose_lines bnode hsrc hl hne).of_ok e'
    obtain ⟨hinv1, _, _, _⟩ := paragraphClose_inv hB hsrc hkb hltb e'
    have hs1 : s1 = { s with nodes := s.nodes.set bnode { (nd s bnode) with lines := ls } } := by
      cases s1; simp only at hr hpc hn; subst hr hpc hn; rfl
    subst hs1
    exact CInv.setLines (b := ⟨bnode, .paragraph⟩) h B hinv1 (fun _ t ht => (hpf t ht).1)


/-- `CStep` without the clause about the stack (for steps that pop) -/
structure CStepW (s s1 : St) (U : List Block) : Prop where
  r : s1.r = s.r
  kg : KG s s1
  npar : ∀ i, i < s.nodes.length → (nd s i).kind ≠ .paragraph → (nd s1 i).parent = (nd s i).parent
  gpar : ∀ g ∈ U, PSb g → (nd s1 g.node).parent = (nd s g.node).parent
  tmp : ∀ t, s1.pc.tmpPara = some t → s.pc.tmpPara = some t

theorem CStep.toW {s s1 : St} {U : List Block} (h : CStep s s1 U) : CStepW s s1 U := ⟨h.r, h.kg, h.npar, h.gpar, h.tmp⟩

theorem CStepW.refl (s : St) (U : List Block) : CStepW s s U := (CStep.refl s U).toW

theorem CStepW.trans {a b c : St} {U : List Block} (h1 : CStepW a b U) (h2 : CStepW b c U) : CStepW a c U :=
  ⟨h2.r.trans h1.r, h1.kg.trans h2.kg,
    fun i hi hk => (h2.npar i (Nat.lt_of_lt_of_le hi h1.kg.1) (by rw [h1.kg.2 i hi]; exact hk)).trans (h1.npar i hi hk),
    fun g hg hp => (h2.gpar g hg hp).trans (h1.gpar g hg hp), fun t ht => h1.tmp t (h2.tmp t ht)⟩

theorem CStepW.mono {s s1 : St} {U U' : List Block} (h : CStepW s s1 U) (hs : ∀ g ∈ U', g ∈ U) : CStepW s s1 U' :=
  ⟨h.r, h.kg, h.npar, fun g hg hp => h.gpar g (hs g hg) hp, h.tmp⟩

theorem CStep.mono {s s1 : St} {U U' : List Block} (h : CStep s s1 U) (hs : ∀ g ∈ U', g ∈ U) : CStep s s1 U' :=
  ⟨h.r, h.opened, h.kg, h.npar, fun g hg hp => h.gpar g (hs g hg) hp, h.tmp⟩

theorem not_ps_of_container {b : Block} (h : b.bp.isContainer = true) : ¬ PSb b := by
  obtain ⟨n, bp⟩ := b
  rintro (hp | hp) <;> simp only at hp <;> subst hp <;> cases h

/-- a guard survives a step of the close discipline -/
theorem Guard.step {s s1 : St} {l l' : List Block} {U : List Block} {g : Block} (hg : Guard s l g) (hs : CStep s s1 U)
    (hgU : g ∈ U) (hp : PSb g) (hl : ∀ L ∈ l', L ∈ l) : Guard s1 l' g := by
  obtain ⟨q, h1, h2, h3, h4⟩ := hg
  refine ⟨q, by rw [hs.gpar g hgU hp]; exact h1, by rw [hs.kg.2 q h3]; exact h2, Nat.lt_of_lt_of_le h3 hs.kg.1,
    fun L hL hLl => ?_⟩
  rw [hs.npar q h3 h2]
  exact h4 L (hl L hL) hLl

/-- **the loop of closeBlocks under the close discipline**: the blocks `l` are closed top first (only the top may be a
    leaf), the blocks `K` stay open -/
theorem closeList_cl {src : Bytes} : ∀ (l K : List Block) (s s' : St), CInv src s (l ++ K) → s.r.source = src →
    (∀ b ∈ l.tail, b.bp.isContainer = true) → (∀ g ∈ K, PSb g → Guard s l g) →
    ((∃ b ∈ l, b.bp = .setext) → ∀ t, s.pc.tmpPara = some t → ∀ g ∈ l ++ K, g.bp = .paragraph → g.node ≠ t) →
    closeList l s = .ok ((), s') → CInv src s' K ∧ CStep s s' K := by
  intro l
  induction l with
  | nil =>
    intro K s s' h _ _ _ _ e
    unfold closeList at e
    obtain ⟨_, hs⟩ := pure_ok e
    subst s'
    exact ⟨by simpa using h, CStep.refl _ _⟩
  | cons b rest ih =>
    intro K s s' h hsrc hcont hG hsx e
    unfold closeList at e
    obtain ⟨n, s0, h0, k0⟩ := bind_ok e
    obtain ⟨hn, hs0⟩ := getNode_ok h0
    subst s0
    subst n
    have hrestc : ∀ g ∈ rest, g.bp.isContainer = true := fun g hg => hcont g (by simpa using hg)
    have h' : CInv src s (b :: (rest ++ K)) := by simpa using h
    have cont : ∀ s1, CInv src s1 (rest ++ K) → CStep s s1 (rest ++ K) → closeList rest s1 = .ok ((), s') →
        CInv src s' K ∧ CStep s s' K := by
      intro s1 hc1 hs1 k1
      have hG1 : ∀ g ∈ K, PSb g → Guard s1 rest g := fun g hg hp =>
        (hG g hg hp).step hs1 (List.mem_append_right _ hg) hp (fun L hL => List.mem_cons_of_mem _ hL)
      have hsx1 : (∃ b' ∈ rest, b'.bp = .setext) → ∀ t, s1.pc.tmpPara = some t → ∀ g ∈ rest ++ K, g.bp = .paragraph →
          g.node ≠ t := by
        rintro ⟨b', hb', hbs⟩
        have := hrestc b' hb'
        rw [hbs] at this; cases this
      obtain ⟨hc2, hs2⟩ := ih K s1 s' hc1 (by rw [hs1.r]; exact hsrc)
        (fun g hg => hrestc g (List.mem_of_mem_tail hg)) hG1 hsx1 k1
      exact ⟨hc2, (hs1.mono (fun g hg => List.mem_append_right _ hg)).trans hs2⟩
    dsimp only at k0
    split at k0
    · obtain ⟨_, s1, h1, k1⟩ := bind_ok k0
      obtain ⟨hc1, hs1⟩ := bpClose_cl h' hsrc (fun g hg hp => by
          rcases List.mem_append.1 hg with hg | hg
          · exact absurd hp (not_ps_of_container (hrestc g hg))
          · obtain ⟨q, q1, q2, q3, q4⟩ := hG g hg hp
            exact ⟨q, q1, q2, q3, fun L hL => q4 L (by
              simp only [List.mem_singleton] at hL; rw [hL]; exact List.mem_cons_self ..)⟩)
        (fun hb t ht g hg hgp => hsx ⟨b, List.mem_cons_self .., hb⟩ t ht g (by simpa using hg) hgp) h1
      exact cont s1 hc1 hs1 k1
    · next hpar =>
      refine cont s (h'.drop (fun hr => ?_)) (CStep.refl _ _) k0
      exfalso
      exact hpar (h'.att b (List.mem_cons_self ..))

/-- **closeBlocks under the close discipline** (parser.go:900-918) for the range `mid` of the stack `pre ++ mid ++ post`: the blocks of
    the range are closed (top first), the stack becomes `pre ++ post` -/
theorem closeBlocks_clM {src : Bytes} {s s' : St} (pre mid post : List Block) (hop : s.pc.opened = pre ++ mid ++ post)
    (h : CInv src s s.pc.opened) (hsrc : s.r.source = src) (hcont : ∀ b ∈ mid.reverse.tail, b.bp.isContainer = true)
    (hG : ∀ g ∈ pre ++ post, PSb g → Guard s mid.reverse g)
    (hsx : (∃ b ∈ mid.reverse, b.bp = .setext) →
      ∀ t, s.pc.tmpPara = some t → ∀ g ∈ s.pc.opened, g.bp = .paragraph → g.node ≠ t)
    (e : closeBlocks ((pre.length : Int) + (mid.length : Int) - 1) (pre.length : Int) s = .ok ((), s')) :
    CInv src s' (pre ++ post) ∧ CStepW s s' (pre ++ post) ∧ s'.pc.opened = pre ++ post := by
  rw [closeBlocks_mid_eq pre mid post s hop] at e
  obtain ⟨_, s2, h2, k3⟩ := bind_ok e
  have := modPc_ok k3
  subst this
  have hmem : ∀ b, b ∈ mid.reverse ++ (pre ++ post) ↔ b ∈ s.pc.opened := fun b => by rw [hop]; exact mem_split_iff b
  obtain ⟨hc2, hs2⟩ := closeList_cl _ (pre ++ post) s s2 (h.congr hmem) hsrc hcont hG
    (fun hx t ht g hg hgp => hsx hx t ht g ((hmem g).1 hg) hgp) h2
  obtain ⟨B, hB⟩ := hc2.inv
  exact ⟨⟨⟨B, hB.congr_pc _ rfl (fun b hb => by
      rw [hs2.opened, hop]
      rcases List.mem_append.1 hb with hb | hb
      · exact List.mem_append_left _ (List.mem_append_left _ hb)
      · exact List.mem_append_right _ hb)⟩, hc2.tree.of_links (fun i => ⟨rfl, rfl⟩), hc2.pad, hc2.att, hc2.inj,
    fun b hb => hb⟩, ⟨hs2.r, hs2.kg, hs2.npar, hs2.gpar, hs2.tmp⟩, rfl⟩

/-- **closeBlocks under the close discipline** (parser.go:900-918) for the range `[tn, fn]` of the stack: the blocks of
    the range are closed (top first), the stack becomes `take tn ++ drop (fn+1)` -/
theorem closeBlocks_cl {src : Bytes} {s s' : St} (tn fn : Nat) (htf : tn ≤ fn) (hfl : fn < s.pc.opened.length)
    (h : CInv src s s.pc.opened) (hsrc : s.r.source = src)
    (hcont : ∀ b ∈ (((s.pc.opened.drop tn).take (fn - tn + 1)).reverse).tail, b.bp.isContainer = true)
    (hG : ∀ g ∈ s.pc.opened.take tn ++ s.pc.opened.drop (fn + 1), PSb g →
      Guard s ((s.pc.opened.drop tn).take (fn - tn + 1)).reverse g)
    (hsx : (∃ b ∈ ((s.pc.opened.drop tn).take (fn - tn + 1)).reverse, b.bp = .setext) →
      ∀ t, s.pc.tmpPara = some t → ∀ g ∈ s.pc.opened, g.bp = .paragraph → g.node ≠ t)
    (e : closeBlocks (fn : Int) (tn : Int) s = .ok ((), s')) :
    CInv src s' (s.pc.opened.take tn ++ s.pc.opened.drop (fn + 1)) ∧
      CStepW s s' (s.pc.opened.take tn ++ s.pc.opened.drop (fn + 1)) ∧
      s'.pc.opened = s.pc.opened.take tn ++ s.pc.opened.drop (fn + 1) := by
  obtain ⟨pre, mid, post, hsp, hpre, hmid, hpost, hfn, htn⟩ := opened_split s.pc.opened tn fn htf hfl
  rw [hpre, hpost]
  rw [hmid] at hcont hG hsx
  rw [hpre, hpost] at hG
  rw [hfn, htn] at e
  exact closeBlocks_clM pre mid post hsp h hsrc hcont hG hsx e

end GM.Blocks
end BlocksClosedClose

section BlocksClosedOpen
/-
  What the walk through `openBlocks` (parser.go:928-1024; GM.Proof.BlocksClosedWalk) takes from here:

  * `open_newClosed` — the node a successful `Open` appends is `Closed` (no line, or a line with padding 0) unless it is
                       the setext heading (whose temporary bar line is the reader's raw segment).
  * `CInvX X src s U` — `CInv` with the nodes in `X` exempt from `pad` (the heading between `Open` and the push).
-/

namespace GM.Blocks
open GM GM.Text GM.Spec GM.Proof.Reader
open GM.Proof.BlocksWF0 (isRaw)

/-- the node a successful `Open` appends carries no padded line, the setext heading excepted -/
theorem open_newClosed {src : Bytes} {s s' : St} {c : RCur} (bp : BP) (parent : Nat) {a : Option Nat × PState}
    (hctx : LineCtx src s c) (e : bpOpen bp parent s = .ok (a, s')) {n : Node} (hn : s'.nodes = s.nodes ++ [n])
    (hk : n.kind = bp.kind) (hbp : bp ≠ .setext) (hr : isRaw n.kind = false) : Closed n := by
  have nil : n.lines = [] → Closed n := fun h => by rw [Closed, h]; intro t ht; cases ht
  cases bp
  case setext => exact absurd rfl hbp
  case thematic =>
    have e' : thematicOpen parent s = .ok (a, s') := e
    obtain ⟨_, _, _, _, _, _, _, h1 | h1⟩ := (thematicOpen_okl hctx.ri parent).of_ok e'
    · exfalso; rw [h1.2.1] at hn; simp at hn
    · rw [h1.2] at hn
      have : n = { kind := .thematicBreak } := by simpa using hn.symm
      subst this
      exact nil rfl
  case list =>
    have e' : listOpen parent s = .ok (a, s') := e
    obtain ⟨_, _, _, _, _, _, _, _, _, hnone, hsome⟩ := (listOpen_okl_ri src parent s c hctx.ri).of_ok e'
    cases ha : a.1 with
    | none => exfalso; rw [(hnone ha).1] at hn; simp at hn
    | some id =>
      obtain ⟨_, _, _, _, ⟨m, hm, _, _, hl, _⟩, _⟩ := hsome id ha
      rw [hm] at hn
      have : n = m := by simpa using hn.symm
      subst this
      exact nil hl
  case listItem =>
    have e' : listItemOpen parent s = .ok (a, s') := e
    by_cases hkl : (nd s parent).kind = .list
    · obtain ⟨_, _, _, _, _, _, _, _, _, _, hnone, hsome⟩ :=
        (listItemOpen_okl src parent s c hctx (listItemOpen_kids e' hkl)).of_ok e'
      cases ha : a.1 with
      | none => exfalso; rw [hnone ha] at hn; simp at hn
      | some id =>
        obtain ⟨_, _, m, hm, _, _, hl, _⟩ := hsome id ha
        rw [hm] at hn
        have : n = m := by simpa using hn.symm
        subst this
        exact nil hl
    · exfalso
      rw [GM.Blocks.L.listItemOpen_notList parent s hkl] at e'
      cases e'
      simp at hn
  case code => rw [hk] at hr; cases hr
  case atx =>
    have e' : atxOpen parent s = .ok (a, s') := e
    obtain ⟨_, _, _, _, _, h1 | ⟨_, m, hm, _, _, hl⟩⟩ := (atxOpen_line hctx.ri parent).of_ok e'
    · exfalso; rw [h1.2] at hn; simp at hn
    · rw [hm] at hn
      have : n = m := by simpa using hn.symm
      subst this
      rcases hl with hl | ⟨t, hl, _, _, _, h4, _⟩
      · exact nil hl
      · rw [Closed, hl]; intro u hu; simp only [List.mem_singleton] at hu; rw [hu]; exact h4
  case fenced => rw [hk] at hr; cases hr
  case blockquote =>
    have e' : blockquoteOpen parent s = .ok (a, s') := e
    unfold blockquoteOpen at e'
    obtain ⟨b, s1, h1, k1⟩ := bind_ok e'
    obtain ⟨r1, c1, hs1, _⟩ := (blockquoteProcess_okl hctx.ri).of_ok h1
    subst s1
    split at k1
    · obtain ⟨id, s2, h2, k2⟩ := bind_ok k1
      obtain ⟨_, hs2⟩ := newNode_ok h2
      subst s2
      obtain ⟨_, hs⟩ := pure_ok k2
      subst s'
      have : n = { kind := .blockquote } := by simpa using hn.symm
      subst this
      exact nil rfl
    · obtain ⟨_, hs⟩ := pure_ok k1
      subst s'
      exfalso; simp at hn
  case html => rw [hk] at hr; cases hr
  case paragraph =>
    have e' : paragraphOpen parent s = .ok (a, s') := e
    obtain ⟨_, _, _, _, _, _, _, h1 | ⟨_, m, seg, hm, _, hl, _, _, _, _, _, h5, _⟩⟩ :=
      (paragraphOpen_line hctx.ri parent).of_ok e'
    · exfalso; rw [h1.2.1] at hn; simp at hn
    · rw [hm] at hn
      have : n = m := by simpa using hn.symm
      subst this
      rw [Closed, hl]; intro u hu; simp only [List.mem_singleton] at hu; rw [hu]; exact h5

/-- a step that keeps lines, kinds, links of all nodes, the store length and the context -/
theorem CInv.same {src : Bytes} {s s' : St} {U : List Block} (h : CInv src s U) (hlk : LK s s')
    (hl : ∀ i, (nd s' i).parent = (nd s i).parent ∧ (nd s' i).children = (nd s i).children) : CInv src s' U := by
  obtain ⟨B, hB⟩ := h.inv
  exact cinv_iff.2 ((cinv_iff.1 h).same ⟨B, hB.lk hlk⟩ hl (fun i => ⟨(hlk.same i).1, (hlk.same i).2.2⟩) (fun _ h => h)
    (by rw [hlk.pc]))


/-- `CInv`, but the nodes in `X` need not be `Closed` -/
structure CInvX (X : Nat → Prop) (src : Bytes) (s : St) (U : List Block) : Prop where
  inv : ∃ B, Inv src B s
  tree : TreeOK s
  pad : ∀ i, isRaw (nd s i).kind = false → Closed (nd s i) ∨ (∃ b ∈ U, b.node = i ∧ PSb b) ∨ X i
  att : ∀ b ∈ U, (nd s b.node).parent.isSome = true
  inj : ∀ a ∈ U, ∀ b ∈ U, a.node = b.node → a = b
  sub : ∀ b ∈ U, b ∈ s.pc.opened

theorem CInv.toX {src : Bytes} {s : St} {U : List Block} (h : CInv src s U) (X : Nat → Prop) : CInvX X src s U :=
  ⟨h.inv, h.tree, fun i hr => by
    rcases h.pad i hr with hc | hc
    · exact .inl hc
    · exact .inr (.inl hc), h.att, h.inj, h.sub⟩

theorem CInvX.toCInv {X : Nat → Prop} {src : Bytes} {s : St} {U : List Block} (h : CInvX X src s U)
    (hx : ∀ i, X i → isRaw (nd s i).kind = false → Closed (nd s i) ∨ ∃ b ∈ U, b.node = i ∧ PSb b) : CInv src s U :=
  ⟨h.inv, h.tree, fun i hr => by
    rcases h.pad i hr with hc | hc | hc
    · exact .inl hc
    · exact .inr hc
    · exact hx i hc hr, h.att, h.inj, h.sub⟩

theorem cinvX_iff {X : Nat → Prop} {src : Bytes} {s : St} {U : List Block} :
    CInvX X src s U ↔ CInvA (fun s => ∃ B, Inv src B s) (fun _ i => X i) s U :=
  ⟨fun h => ⟨h.inv, h.tree, h.pad, h.att, h.inj, h.sub⟩, fun h => ⟨h.inv, h.tree, h.pad, h.att, h.inj, h.sub⟩⟩

theorem CInvX.kinds {X : Nat → Prop} {src : Bytes} {s : St} {U : List Block} (h : CInvX X src s U) {b : Block}
    (hb : b ∈ U) : (nd s b.node).kind = b.bp.kind ∧ b.node < s.nodes.length := by
  obtain ⟨B, hB⟩ := h.inv
  exact hB.kinds b (h.sub b hb)

/-- membership in the open set, and what `Inv` looks at in the context, is all that matters -/
theorem CInvX.congr {X : Nat → Prop} {src : Bytes} {s : St} {U U' : List Block} (h : CInvX X src s U)
    (hm : ∀ b, b ∈ U' ↔ b ∈ U) : CInvX X src s U' :=
  cinvX_iff.2 ((cinvX_iff.1 h).congr hm)

theorem CInvX.drop {X : Nat → Prop} {src : Bytes} {s : St} {b : Block} {U : List Block} (h : CInvX X src s (b :: U))
    (hc : isRaw (nd s b.node).kind = false → Closed (nd s b.node)) : CInvX X src s U :=
  cinvX_iff.2 ((cinvX_iff.1 h).drop hc)

theorem CInvX.same {X : Nat → Prop} {src : Bytes} {s s' : St} {U : List Block} (h : CInvX X src s U) (hlk : LK s s')
    (hl : ∀ i, (nd s' i).parent = (nd s i).parent ∧ (nd s' i).children = (nd s i).children) : CInvX X src s' U := by
  obtain ⟨B, hB⟩ := h.inv
  exact cinvX_iff.2 ((cinvX_iff.1 h).same ⟨B, hB.lk hlk⟩ hl (fun i => ⟨(hlk.same i).1, (hlk.same i).2.2⟩) (fun _ h => h)
    (by rw [hlk.pc]))

theorem CInvX.setLines {X : Nat → Prop} {src : Bytes} {s : St} {b : Block} {U : List Block} {ls : List Segment}
    (h : CInvX X src s (b :: U)) (B : Int)
    (hinv : Inv src B ({ s with nodes := s.nodes.set b.node { (nd s b.node) with lines := ls } } : St))
    (hcl : isRaw (nd s b.node).kind = false → ∀ t ∈ ls, t.padding = 0) :
    CInvX X src ({ s with nodes := s.nodes.set b.node { (nd s b.node) with lines := ls } } : St) U :=
  cinvX_iff.2 ((cinvX_iff.1 h).setLines (h.kinds (List.mem_cons_self ..)).2 ⟨B, hinv⟩ hcl (fun _ _ h => h))

end GM.Blocks
end BlocksClosedOpen
