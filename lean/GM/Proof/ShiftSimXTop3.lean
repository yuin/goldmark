/-
  GM.Proof.ShiftSimXTop3 — the store invariant `tl_GP` ("a node with children has a container kind; a
  parent pointer points to a container node of the store") is kept by every `Open` / `Continue`, by every `Close` but
  `setextClose` (that one and the driver: GM.Proof.ShiftSimXTop5), by `AppendChild p c` when `p` is a container node
  (`tl_GPc ps`: the nodes of `ps` are container nodes). With `BlockOK` it gives `LeafKids`.
-/
import GM.Proof.ShiftSimXTop

namespace GM.Blocks.Xs
open GM GM.Text GM.Spec GM.Proof.Reader GM.Blocks GM.Blocks.L
open GM.Blocks.Sh (K KS bind_ok_inv liftE_ok_inv a2_getNode_inv a2_getPc_inv a2_modPc_inv a2_lastOpenedBlock_inv
  ac_getD_set ac_getD_push ac_pure_bind ac_throw_bind)

/-- the leaf blocks on the stack have no children -/
def LeafKids (s : St) : Prop := ∀ x ∈ s.pc.opened, x.bp.isContainer = false → (nd s x.node).children = []

theorem LeafKids.congr_r {s : St} (h : LeafKids s) (r' : Reader) : LeafKids { s with r := r' } := h

/-- the kinds that have children -/
def tl_cont : Kind → Bool
  | .document | .blockquote | .list | .listItem => true
  | _ => false

/-- a node with children has a container kind; a parent pointer points to a container node of the store -/
def tl_GP (s : St) : Prop :=
  (∀ i, (nd s i).children ≠ [] → tl_cont (nd s i).kind = true) ∧
  (∀ i p, (nd s i).parent = some p → p < s.nodes.length ∧ tl_cont (nd s p).kind = true)

/-- `tl_GP`, and the nodes of `ps` are container nodes of the store -/
def tl_GPc (ps : List Nat) (s : St) : Prop :=
  tl_GP s ∧ ∀ p ∈ ps, p < s.nodes.length ∧ tl_cont (nd s p).kind = true

theorem tl_GP.leafKids {s : St} (h : tl_GP s) (hb : ∀ b ∈ s.pc.opened, BlockOK s b) : LeafKids s := by
  intro x hx hc
  cases hch : (nd s x.node).children with
  | nil => rfl
  | cons c cs =>
    exfalso
    have := h.1 x.node (by rw [hch]; exact List.cons_ne_nil _ _)
    rw [(hb x hx).kind] at this
    cases hbp : x.bp <;> rw [hbp] at this hc <;> first | (cases hc; done) | (cases this; done)

theorem tl_GP_init (src : Bytes) : tl_GP (initSt src) := by
  refine ⟨fun i hi => ?_, fun i p hp => ?_⟩
  · match i with
    | 0 => exact absurd rfl hi
    | i + 1 => exact absurd rfl hi
  · match i with
    | 0 => cases hp
    | i + 1 => cases hp

variable {ps : List Nat}

theorem tl_g_set (s : St) (id : Nat) (v : Node) (hs : tl_GPc ps s) (hk : v.kind = (nd s id).kind)
    (hc : v.children ≠ [] → (nd s id).children ≠ [] ∨ tl_cont (nd s id).kind = true)
    (hp : ∀ q, v.parent = some q → (nd s id).parent = some q ∨ (q < s.nodes.length ∧ tl_cont (nd s q).kind = true)) :
    tl_GPc ps { s with nodes := s.nodes.set id v } := by
  have hkind : ∀ j, (nd ({ s with nodes := s.nodes.set id v } : St) j).kind = (nd s j).kind := by
    intro j
    show ((s.nodes.set id v).getD j default).kind = _
    rw [ac_getD_set]
    split
    · next h => obtain ⟨rfl, _⟩ := h; exact hk
    · rfl
  have hlen : ({ s with nodes := s.nodes.set id v } : St).nodes.length = s.nodes.length := List.length_set ..
  refine ⟨⟨fun j hj => ?_, fun j q hq => ?_⟩, fun p hp' => by rw [hkind, hlen]; exact hs.2 p hp'⟩
  · rw [hkind]
    change ((s.nodes.set id v).getD j default).children ≠ [] at hj
    rw [ac_getD_set] at hj
    split at hj
    · next h =>
      obtain ⟨rfl, _⟩ := h
      rcases hc hj with h1 | h1
      · exact hs.1.1 _ h1
      · exact h1
    · exact hs.1.1 _ hj
  · rw [hkind, hlen]
    change ((s.nodes.set id v).getD j default).parent = some q at hq
    rw [ac_getD_set] at hq
    split at hq
    · next h =>
      obtain ⟨rfl, _⟩ := h
      rcases hp q hq with h1 | h1
      · exact hs.1.2 _ _ h1
      · exact h1
    · exact hs.1.2 _ _ hq

theorem tl_g_push (s : St) (n : Node) (hs : tl_GPc ps s) (hc : n.children = []) (hp : n.parent = none) :
    tl_GPc ps { s with nodes := s.nodes ++ [n] } := by
  have hold : ∀ j, j < s.nodes.length → nd ({ s with nodes := s.nodes ++ [n] } : St) j = nd s j := by
    intro j hj
    show (s.nodes ++ [n]).getD j default = _
    rw [ac_getD_push, if_pos hj]
  have hlen : s.nodes.length < ({ s with nodes := s.nodes ++ [n] } : St).nodes.length := by
    show _ < (s.nodes ++ [n]).length
    rw [List.length_append]; exact Nat.lt_succ_self _
  refine ⟨⟨fun j hj => ?_, fun j q hq => ?_⟩, fun p hp' => ?_⟩
  · by_cases h1 : j < s.nodes.length
    · rw [hold j h1] at hj ⊢; exact hs.1.1 j hj
    · exfalso
      change ((s.nodes ++ [n]).getD j default).children ≠ [] at hj
      rw [ac_getD_push, if_neg h1] at hj
      split at hj
      · exact hj hc
      · exact hj rfl
  · by_cases h1 : j < s.nodes.length
    · rw [hold j h1] at hq
      obtain ⟨a, b⟩ := hs.1.2 j q hq
      rw [hold q a]
      exact ⟨Nat.lt_trans a hlen, b⟩
    · exfalso
      change ((s.nodes ++ [n]).getD j default).parent = some q at hq
      rw [ac_getD_push, if_neg h1] at hq
      split at hq
      · rw [hp] at hq; cases hq
      · cases hq
  · obtain ⟨a, b⟩ := hs.2 p hp'
    rw [hold p a]
    exact ⟨Nat.lt_trans a hlen, b⟩

theorem tl_g_noR : NoR (tl_GPc ps) := ⟨fun _ _ hs => hs⟩

theorem tl_g_modPc (f : Ctx → Ctx) : Keeps (tl_GPc ps) (modPc f) := modPc_keeps f fun _ hs => hs

theorem tl_g_modNode_sub (id : Nat) (f : Node → Node)
    (h : ∀ n, (f n).kind = n.kind ∧ ((f n).children ≠ [] → n.children ≠ []) ∧
      ∀ q, (f n).parent = some q → n.parent = some q) : Keeps (tl_GPc ps) (modNode id f) := by
  intro s a s' hs hm
  cases hm
  exact tl_g_set s id _ hs (h _).1 (fun hc => Or.inl ((h _).2.1 hc)) (fun q hq => Or.inl ((h _).2.2 q hq))

theorem tl_g_newNode (n : Node) (h : n.children = [] ∧ n.parent = none) : Keeps (tl_GPc ps) (newNode n) := by
  intro s a s' hs hm
  cases hm
  exact tl_g_push s n hs h.1 h.2

theorem tl_g_appendLine (id : Nat) (seg : Segment) : Keeps (tl_GPc ps) (appendLine id seg) :=
  tl_g_modNode_sub id _ fun _ => ⟨rfl, fun h => h, fun _ h => h⟩

macro "tl_gw_step" : tactic =>
  `(tactic| first
    | with_reducible apply Keeps.pure
    | with_reducible apply ac_pure_bind
    | with_reducible apply ac_throw_bind
    | with_reducible apply Keeps.bind
    | with_reducible apply Keeps.ite
    | with_reducible apply Keeps.throw
    | with_reducible apply getNode_keeps
    | with_reducible apply getPc_keeps
    | with_reducible apply source_keeps
    | with_reducible apply position_keeps
    | with_reducible apply get_keeps
    | with_reducible apply liftE_keeps
    | with_reducible apply lastOpenedBlock_keeps
    | (with_reducible apply peekLine_keeps; exact tl_g_noR)
    | (with_reducible apply lineOffset_keeps; exact tl_g_noR)
    | (with_reducible apply advance_keeps; exact tl_g_noR)
    | (with_reducible apply advanceAndSetPadding_keeps; exact tl_g_noR)
    | (with_reducible apply advanceLine_keeps; exact tl_g_noR)
    | (with_reducible apply setPosition_keeps; exact tl_g_noR)
    | (with_reducible apply skipBlankLinesR_keeps; exact tl_g_noR)
    | with_reducible apply tl_g_modPc
    | with_reducible apply tl_g_appendLine
    | ((with_reducible apply tl_g_modNode_sub); (intro n; exact ⟨rfl, fun h => h, fun _ h => h⟩))
    | ((with_reducible apply tl_g_newNode); exact ⟨rfl, rfl⟩)
    | apply_hyp
    | intro_pi
    | split)

/-- walk over an `M` do block that keeps `tl_GPc ps` -/
macro "tl_gw" : tactic => `(tactic| repeat' tl_gw_step)

theorem tl_g_step {Kw : Prop} {W : Nat → Prop} {s s' : St} (h : Step Kw W s s') (hs : tl_GPc ps s) :
    tl_GPc ps s' := by
  induction h with
  | refl => exact hs
  | trans _ _ ih1 ih2 => exact ih2 (ih1 hs)
  | rd => exact hs
  | key => exact hs
  | write s id v _ hv =>
    exact tl_g_set s id v hs hv.links.2.2 (fun hc => Or.inl (hv.links.2.1 ▸ hc)) (fun q hq => Or.inl (hv.links.1 ▸ hq))
  | push s n hp hc => exact tl_g_push s n hs hc hp

/-- `tl_GPc ps` is kept by the link writes that put a node under a node of `ps` -/
theorem tl_g_link {Kw : Prop} {W : Nat → Prop} {s s' : St} (h : Link (fun p _ => p ∈ ps) Kw W s s')
    (hs : tl_GPc ps s) : tl_GPc ps s' := by
  induction h with
  | step h => exact tl_g_step h hs
  | trans _ _ ih1 ih2 => exact ih2 (ih1 hs)
  | kids s p cs hc =>
    refine tl_g_set s p _ hs rfl (fun hne => ?_) (fun q hq => Or.inl hq)
    cases cs with
    | nil => exact absurd rfl hne
    | cons x _ =>
      rcases hc x List.mem_cons_self with h1 | h1
      · exact Or.inl (List.ne_nil_of_mem h1)
      · exact Or.inr (hs.2 p h1).2
  | orphan s c => exact tl_g_set s c _ hs rfl (fun h => Or.inl h) (fun q hq => nomatch hq)
  | adopt s c p hp =>
    exact tl_g_set s c _ hs rfl (fun h => Or.inl h) (fun q hq => by cases hq; exact Or.inr (hs.2 p hp))

theorem tl_g_links {α} {m : M α} (h : Links (fun p _ => p ∈ ps) True (fun _ => True) m) : Keeps (tl_GPc ps) m :=
  fun s a s' hs e => tl_g_link (h.h s a s' e) hs

theorem tl_g_appendChild (p c : Nat) (hp : p ∈ ps) : Keeps (tl_GPc ps) (appendChild p c) :=
  tl_g_links (appendChild_links (L := fun p _ => p ∈ ps) hp)

theorem tl_g_replaceChild (p : Nat) (hp : p ∈ ps) (v1 ins : Nat) : Keeps (tl_GPc ps) (replaceChild p v1 ins) :=
  tl_g_links (replaceChild_links (L := fun p _ => p ∈ ps) v1 hp)

theorem tl_g_bpOpen (bp : BP) (parent : Nat) : Keeps (tl_GPc ps) (bpOpen bp parent) :=
  fun _ _ _ hs h => tl_g_step (bpOpen_step h).1 hs

theorem tl_g_bpContinue (n : Nat) (bp : BP) : Keeps (tl_GPc ps) (bpContinue bp n) :=
  fun _ _ _ hs h => tl_g_step (bpContinue_step h) hs

theorem tl_g_paragraphClose (n : Nat) : Keeps (tl_GPc ps) (paragraphClose n) :=
  tl_g_links (paragraphClose_links trivial)

theorem tl_g_codeClose (n : Nat) : Keeps (tl_GPc ps) (codeClose n) :=
  fun s a s' hs h => tl_g_step ((codeClose_steps (Kw := True) (W := fun _ => True) trivial).h s a s' h) hs

theorem tl_g_fencedClose (n : Nat) : Keeps (tl_GPc ps) (fencedClose n) :=
  fun s a s' hs h => tl_g_step ((fencedClose_steps (W := fun _ => True) trivial n).h s a s' h) hs

theorem tl_GPc.weaken {c : Nat} {s : St} (h : tl_GPc (c :: ps) s) : tl_GPc ps s :=
  ⟨h.1, fun p hp => h.2 p (List.mem_cons_of_mem _ hp)⟩

theorem tl_GPc.add {c : Nat} {s : St} (h : tl_GPc ps s) (hc : c < s.nodes.length ∧ tl_cont (nd s c).kind = true) :
    tl_GPc (c :: ps) s :=
  ⟨h.1, fun p hp => by
    rcases List.mem_cons.1 hp with e | e
    · rw [e]; exact hc
    · exact h.2 p e⟩

theorem tl_g_tightenItem (child : Nat) (hc : child ∈ ps) : ∀ gcs, Keeps (tl_GPc ps) (tightenItem child gcs)
  | [] => by unfold tightenItem; exact Keeps.pure _
  | gc :: gcs => by
    have ih := tl_g_tightenItem child hc gcs
    have := fun k => tl_g_replaceChild child hc gc k
    unfold tightenItem; tl_gw

theorem tl_g_tightenItems : ∀ cs, Keeps (tl_GPc ps) (tightenItems cs)
  | [] => by unfold tightenItems; exact Keeps.pure _
  | c :: cs => by
    have ih := tl_g_tightenItems cs
    unfold tightenItems
    intro s a s' hs h
    obtain ⟨n, s1, h1, hA⟩ := bind_ok_inv h
    obtain ⟨en, e1⟩ := a2_getNode_inv h1
    subst e1
    obtain ⟨_, s2, h2, hB⟩ := bind_ok_inv hA
    refine ih s2 a s' ?_ hB
    cases hch : n.children with
    | nil =>
      rw [hch] at h2
      unfold tightenItem at h2
      cases h2
      exact hs
    | cons g gs =>
      have hne : (nd s1 c).children ≠ [] := by
        have e' : (nd s1 c).children = g :: gs := by rw [← hch, en]
        rw [e']; exact List.cons_ne_nil _ _
      have hlt : c < s1.nodes.length := by
        rcases Nat.lt_or_ge c s1.nodes.length with hh | hh
        · exact hh
        · exfalso; rw [nd_default_of_ge s1 hh] at hne; exact hne rfl
      have hc : tl_GPc (c :: ps) s1 := hs.add ⟨hlt, hs.1.1 c hne⟩
      exact (tl_g_tightenItem c List.mem_cons_self _ s1 _ s2 hc h2).weaken

theorem tl_g_listClose (n : Nat) : Keeps (tl_GPc ps) (listClose n) := by
  have := @tl_g_tightenItems ps
  unfold listClose; tl_gw

theorem tl_g_bpClose (bp : BP) (hbp : bp ≠ .setext) (n : Nat) : Keeps (tl_GPc ps) (bpClose bp n) := by
  cases bp <;> unfold bpClose
  · exact absurd rfl hbp
  · exact Keeps.pure _
  · exact tl_g_listClose n
  · exact Keeps.pure _
  · exact tl_g_codeClose n
  · exact Keeps.pure _
  · exact tl_g_fencedClose n
  · exact Keeps.pure _
  · exact Keeps.pure _
  · exact tl_g_paragraphClose n

end GM.Blocks.Xs
