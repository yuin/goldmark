/-
  GM.Proof.ConvertFFiled — EVERY FOOTNOTE IS FILED: in the final state of the block phase with the footnote block parser the
  tagged tree `treeOfF` is `clean` — no `*ast.Footnote` outside the FootnoteList, none (and no list) below a definition, no
  list node reached without fuel, no lines on a Footnote / the list. From the close discipline (GM.Proof.ConvertFDiscRun:
  invariant `FJ`, empty stack at the end) and the depth lemmas of a tree-shaped store (`anc_depth`, `anc_depth_lt` of GM.Proof.ConvertHWFMain).
-/
import GM.Proof.ConvertFDiscRun
import GM.Proof.ConvertFOnce

namespace GM.ConvertF
open GM GM.Text GM.Blocks GM.Convert GM.ConvertH

theorem cleanL_map (g : Nat → FTree) : ∀ cs : List Nat, (∀ c ∈ cs, (g c).clean = true) → FTree.cleanL (cs.map g) = true
  | [], _ => rfl
  | c :: rest, h => by
    simp only [List.map_cons, FTree.cleanL, Bool.and_eq_true]
    exact ⟨h c (List.mem_cons_self ..), cleanL_map g rest (fun x hx => h x (List.mem_cons_of_mem _ hx))⟩

theorem cleanL_mapIdx (g : Nat → Nat → FTree) : ∀ (k : Nat) (cs : List Nat), (∀ i, ∀ c ∈ cs, (g i c).clean = true) →
    FTree.cleanL (mapIdxFrom g k cs) = true
  | _, [], _ => rfl
  | k, c :: rest, h => by
    simp only [mapIdxFrom, FTree.cleanL, Bool.and_eq_true]
    exact ⟨h k c (List.mem_cons_self ..), cleanL_mapIdx g (k + 1) rest (fun i x hx => h i x (List.mem_cons_of_mem _ hx))⟩

section
variable (f : FS) (s : St) (j : FJ f s) (ho : s.pc.opened = [])
include j ho

/-- with the stack empty: every child edge to a Footnote comes from the list -/
theorem ein0 (p c : Nat) (hc : c ∈ (ndx s p).children) (hfn : f.isFn c = true) : f.list = some p := by
  rcases j.ein p c hc hfn with h | ⟨b, hb, _⟩
  · exact h
  · rw [ho] at hb; cases hb

/-- the list is not its own proper ancestor -/
theorem list_acyclic (L dL : Nat) (hd : anc s dL L = some 0) (e : Nat) (h : anc s (e + 1) L = some L) : False := by
  have := anc_add (e + 1) dL L L 0 h hd
  have := anc_depth j.wf _ _ L this hd
  omega

/-- below a definition: plain nodes only -/
theorem clean_note (L dL : Nat) (hL : f.list = some L) (hd : anc s dL L = some 0) :
    ∀ (k : Nat) (y p e : Nat), y ∈ (ndx s p).children → anc s (e + 1) p = some L →
      (treeOfF f s.nodes k .note y).clean = true := by
  intro k
  induction k with
  | zero =>
    intro y p e hy hp
    have htag := clean_note_tag y p e hy hp
    simp only [treeOfF, htag, FTag.isList, Bool.false_and, Bool.false_eq_true, if_false, FTree.clean, FTree.cleanL, Bool.and_self]
  | succ k ih =>
    intro y p e hy hp
    have htag := clean_note_tag y p e hy hp
    simp only [treeOfF, htag, FTag.isList, Bool.false_eq_true, if_false, FTree.clean, Bool.true_and]
    apply cleanL_map
    intro c hc
    refine ih c y (e + 1) hc ?_
    rw [anc_succ (j.wf.edge p y hy).2]
    exact hp
where
  clean_note_tag (y p e : Nat) (hy : y ∈ (ndx s p).children) (hp : anc s (e + 1) p = some L) : tagIn f .note y = .plain := by
    have h1 : (f.list == some y) = false := by
      rw [hL]
      cases hb : (some L == some y) with
      | false => rfl
      | true =>
        exfalso
        have : L = y := by simpa using hb
        subst this
        have h2 : anc s (e + 2) L = some L := by
          rw [anc_succ (j.wf.edge p L hy).2]; exact hp
        exact list_acyclic f s j ho L dL hd (e + 1) h2
    have h2 : f.isFn y = false := by
      cases hb : f.isFn y with
      | false => rfl
      | true =>
        exfalso
        have := ein0 f s j ho p y hy hb
        rw [hL] at this
        cases this
        exact list_acyclic f s j ho L dL hd e hp
    simp [tagIn, h1, h2]

/-- a child of the list: a definition without lines (or the transformer's panic), plain nodes below it -/
theorem clean_noteRoot (L dL : Nat) (hL : f.list = some L) (hd : anc s dL L = some 0) (k i c : Nat)
    (hc : c ∈ (ndx s L).children) : (treeOfF f s.nodes k (.noteRoot i) c).clean = true := by
  have hnl : (tagIn f (.noteRoot i) c).isList = false := by
    rcases tagIn_noteRoot f i c with h | h <;> rw [h] <;> rfl
  have hown : (match tagIn f (.noteRoot i) c with
      | .stray => false
      | .alien => true
      | .list => (s.nodes.getD c default).lines.isEmpty
      | .footnote _ => (s.nodes.getD c default).lines.isEmpty
      | .plain => true) = true := by
    unfold tagIn
    simp only
    by_cases hfn : f.isFn c = true
    · simp only [hfn, if_true]
      have := j.nl c (j.kfn c hfn)
      simp only [ndx] at this
      rw [this]; rfl
    · simp [hfn]
  cases k with
  | zero =>
    simp only [treeOfF, hnl, Bool.false_and, Bool.false_eq_true, if_false, FTree.clean, FTree.cleanL, Bool.and_true]
    exact hown
  | succ k =>
    simp only [treeOfF, hnl, Bool.false_eq_true, if_false, FTree.clean, Bool.and_eq_true]
    refine ⟨hown, cleanL_map _ _ (fun y hy => ?_)⟩
    refine clean_note f s j ho L dL hL hd k y c 0 hy ?_
    rw [anc_succ (j.wf.edge L c hc).2]
    rfl

/-- outside the list: the list itself (once; with fuel, since a node's depth is below the size of the store), plain nodes -/
theorem clean_body : ∀ (k : Nat) (x d : Nat), anc s d x = some 0 → d + k = s.nodes.length →
    f.isFn x = false → (∀ l, f.list = some l → ∀ e, anc s (e + 1) x ≠ some l) →
    (treeOfF f s.nodes k .body x).clean = true := by
  intro k
  induction k with
  | zero =>
    intro x d hd hk _ _
    have := anc_depth_lt j.wf hd
    omega
  | succ k ih =>
    intro x d hd hk hfn hnp
    by_cases hx : f.list = some x
    · have htag : tagIn f .body x = .list := by simp [tagIn, hx]
      have hlines : (s.nodes.getD x default).lines = [] := by
        have := j.nl x (j.klist x hx)
        simpa only [ndx] using this
      simp only [treeOfF, htag, FTag.isList, if_true, FTree.clean, hlines, List.isEmpty_nil, Bool.true_and]
      exact cleanL_mapIdx _ _ _ (fun i c hc => clean_noteRoot f s j ho x d hx hd k i c hc)
    · have htag : tagIn f .body x = .plain := by
        have h1 : (f.list == some x) = false := by
          cases hb : (f.list == some x) with
          | false => rfl
          | true => exact absurd (by simpa using hb) hx
        simp [tagIn, h1, hfn]
      simp only [treeOfF, htag, FTag.isList, Bool.false_eq_true, if_false, FTree.clean, Bool.true_and]
      apply cleanL_map
      intro c hc
      have hpc := (j.wf.edge x c hc).2
      refine ih c (d + 1) (by rw [anc_succ hpc]; exact hd) (by omega) ?_ ?_
      · cases hb : f.isFn c with
        | false => rfl
        | true => exact absurd (ein0 f s j ho x c hc hb) hx
      · intro l hl' e he
        rw [anc_succ hpc] at he
        cases e with
        | zero =>
          have : x = l := by simpa [anc] using he
          subst this
          exact hx hl'
        | succ e => exact hnp l hl' e he

theorem treeOfF_clean : (treeOfF f s.nodes s.nodes.length .body 0).clean = true := by
  refine clean_body f s j ho s.nodes.length 0 0 rfl (by omega) ?_ ?_
  · cases hb : f.isFn 0 with
    | false => rfl
    | true => have := (isFn_valid j.ids hb).1; omega
  · intro l _ e he
    unfold anc at he
    rw [j.wf.root] at he
    cases he

end

/-- **`FootnotesAllFiled`**: for every source, guard setting and registration flag the tagged tree of the final state of
    the block phase is `clean` -/
theorem blockPhaseF_clean (on guard : Bool) (src : Bytes) (f : FS) (st : St) (e : blockPhaseF on guard src = .ok (f, st)) :
    (treeOfF f st.nodes st.nodes.length .body 0).clean = true := by
  obtain ⟨j, ho⟩ := blockPhaseF_disc on guard src f st e
  exact treeOfF_clean f st j ho

end GM.ConvertF
