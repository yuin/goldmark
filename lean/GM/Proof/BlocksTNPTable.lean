/-
  GM.Proof.BlocksTNPTable — the GFM table paragraph transformer meets the wide contract `PTSpecX`: the records it allocates (`buildTable`), one call as a `StepX` of the store, and the contract
  with its hypothesis `TableNodesOK src`; that it never exhausts fuel is `transformPT_ptok` (GM.Proof.LinkRefPres).
-/
import GM.Model.ExtTableX
import GM.Proof.BlocksTNPXClose
import GM.Proof.BlocksTNPNoBar
import GM.Proof.BlocksOrdPar
import GM.Proof.BlocksBP
import GM.Proof.LinkRefTransform
import GM.Proof.LinkRefPres
import GM.Model.ConvertX

section BlocksTNPTableBuild
/-
  GFM's table paragraph transformer (`GM.TableX.transformPT`, model of extension/table.go:152-182)
  satisfies the wide transformer contract `PTSpecX` of GM.Proof.BlocksTNPXClose with the error `.pre` (its domain monitor), under
  ONE named hypothesis `TableNodesOK src` about GM.Table.transform's output (the remaining paragraph segments lie inside the
  source; every node the builder allocates is `NodeOK`). Part 1: list facts, the build phase (fresh nodes only).
-/

namespace GM.Blocks.L.G.X
open GM GM.Text GM.Spec GM.Proof.Reader GM.Blocks.T GM.Blocks.TR GM.TableX

/-! ### list facts: `InsertAfter` = `InsertBefore(NextSibling)` never displaces a later last child -/

theorem nextIn_none_last (c : Nat) : ∀ (l : List Nat), c ∈ l → nextIn c l = none → l.getLast? = some c
  | [], h, _ => by cases h
  | [a], h, _ => by simp at h; subst h; rfl
  | a :: b :: rest, h, hn => by
    unfold nextIn at hn
    by_cases e : (a == c) = true
    · rw [if_pos e] at hn; cases hn
    · rw [if_neg e] at hn
      have hc : c ∈ b :: rest := by
        rcases List.mem_cons.1 h with h1 | h1
        · exfalso; apply e; simp [h1]
        · exact h1
      rw [List.getLast?_cons_cons]
      exact nextIn_none_last c (b :: rest) hc hn

theorem nextIn_mem (c : Nat) : ∀ (l : List Nat) (x : Nat), nextIn c l = some x → x ∈ l
  | [], _, h => by cases h
  | [a], _, h => by cases h
  | a :: b :: rest, x, h => by
    unfold nextIn at h
    by_cases e : (a == c) = true
    · rw [if_pos e] at h; cases h; simp
    · rw [if_neg e] at h
      exact List.mem_cons_of_mem _ (nextIn_mem c (b :: rest) x h)

theorem getLast?_insertBeforeIn_mem (v c : Nat) : ∀ (l : List Nat), v ∈ l →
    (insertBeforeIn v c l).getLast? = l.getLast?
  | [], h => by cases h
  | a :: rest, h => by
    unfold insertBeforeIn
    by_cases e : (a == v) = true
    · rw [if_pos e, List.getLast?_cons_cons]
    · rw [if_neg e]
      have hv : v ∈ rest := by
        rcases List.mem_cons.1 h with h1 | h1
        · exfalso; apply e; simp [h1]
        · exact h1
      have ih := getLast?_insertBeforeIn_mem v c rest hv
      cases rest with
      | nil => cases hv
      | cons b r =>
        cases hr : insertBeforeIn v c (b :: r) with
        | nil => rw [hr] at ih; exact absurd ih.symm (by simp [List.getLast?_eq_none_iff])
        | cons d ds => rw [hr] at ih; rw [List.getLast?_cons_cons, List.getLast?_cons_cons]; exact ih

/-! ### the build phase: only fresh nodes are made and linked -/

/-- `cur` extends `s0` by fresh nodes only -/
structure FX (src : Bytes) (s0 cur : St) : Prop where
  r : cur.r = s0.r
  pc : cur.pc = s0.pc
  len : s0.nodes.length ≤ cur.nodes.length
  old : ∀ i, i < s0.nodes.length → nd cur i = nd s0 i
  fk : ∀ i, s0.nodes.length ≤ i → i < cur.nodes.length →
    (nd cur i).kind = .thematicBreak ∧ NodeOK src (nd cur i) ∧ ∀ q, (nd cur i).parent = some q → s0.nodes.length ≤ q
  tree : TreeOK cur
  plt : PLT cur

theorem FX.refl {src : Bytes} {s : St} (ht : TreeOK s) (hp : PLT s) : FX src s s :=
  ⟨rfl, rfl, Nat.le_refl _, fun _ _ => rfl, fun i h1 h2 => by omega, ht, hp⟩

theorem FX.newNode {src : Bytes} {s0 cur : St} (h : FX src s0 cur) (n : Node) (hk : n.kind = .thematicBreak)
    (hp : n.parent = none) (hc : n.children = []) (hok : NodeOK src n) :
    FX src s0 { cur with nodes := cur.nodes ++ [n] } := by
  have key := fr_nd_append cur n cur.r cur.pc
  refine ⟨h.r, h.pc, by simp; have := h.len; omega, fun i hi => ?_, fun i h1 h2 => ?_,
    treeOK_tinv.app n _ _ hp hc h.tree, plt_append cur n h.plt hp⟩
  · rw [key, if_pos (Nat.lt_of_lt_of_le hi h.len)]; exact h.old i hi
  · rw [key]
    simp only [List.length_append, List.length_singleton] at h2
    split
    · rename_i h3; exact h.fk i h1 h3
    · rw [if_pos (by omega)]
      exact ⟨hk, hok, fun q hq => by rw [hp] at hq; cases hq⟩

/-- `AppendChild(P, C)` of two fresh nodes, `C` parentless -/
theorem FX.append {src : Bytes} {s0 cur : St} (h : FX src s0 cur) (P C : Nat) (hP : s0.nodes.length ≤ P)
    (hPl : P < cur.nodes.length) (hC : s0.nodes.length ≤ C) (hCl : C < cur.nodes.length) (hpar : (nd cur C).parent = none) :
    ∃ cur', appendChild P C cur = .ok ((), cur') ∧ FX src s0 cur' ∧ cur'.nodes.length = cur.nodes.length ∧
      ∀ j, j ≠ C → (nd cur' j).parent = (nd cur j).parent := by
  have e := L.appendChild_fresh P C cur hpar
  refine ⟨_, e, ?_, by simp [upd], fun j hj => ?_⟩
  · have hf : FrameEq cur (upd (upd cur P fun n => { n with children := n.children ++ [C] }) C
        fun n => { n with parent := some P }) :=
      (upd_frame cur P (f := fun n => { n with children := n.children ++ [C] }) (fun n => ⟨rfl, rfl, rfl⟩)).trans
        (upd_frame _ C (f := fun n => { n with parent := some P }) (fun n => ⟨rfl, rfl, rfl⟩))
    refine ⟨by rw [hf.r]; exact h.r, by rw [hf.pc]; exact h.pc, by rw [hf.len]; exact h.len, fun i hi => ?_, fun i h1 h2 => ?_,
      (inv_appendChild treeOK_tinv P C cur _ trivial trivial hPl hCl h.tree e).1,
      (plt_appendChild P C cur _ h.plt hPl e).1⟩
    · rw [nd_upd, if_neg (by omega), nd_upd, if_neg (by omega)]
      exact h.old i hi
    · rw [hf.len] at h2
      obtain ⟨a, b, c⟩ := h.fk i h1 h2
      obtain ⟨k1, k2, k3⟩ := hf.same i
      refine ⟨by rw [k1]; exact a, ⟨by rw [k2]; exact b.lines, by rw [k2, k3]; exact b.nil⟩, fun q hq => ?_⟩
      rw [upd2_parent cur P C (fun l => l ++ [C]) (some P)] at hq
      split at hq
      · cases hq; exact hP
      · exact c q hq
  · rw [upd2_parent cur P C (fun l => l ++ [C]) (some P), if_neg (fun hh => hj hh.1)]

/-- the row / header node `addRow` allocates -/
def rowNode (src : Bytes) (tag : Nat) (cells : List GM.Table.Cell) : Node :=
  { kind := .thematicBreak, htmlType := tag, offset := dashAt src, lines := (cells.flatMap (·.esc)).map escSeg,
    linesNil := (cells.flatMap (·.esc)).isEmpty }

/-- the Table node `buildTable` allocates -/
def tableNode (src : Bytes) : Node := { kind := .thematicBreak, htmlType := tagTable, offset := dashAt src }

/-- what the fresh part of the store looks like after a build step: `FX`, the store grew, and the nodes that existed before
    the step kept their parent pointer -/
def Built (src : Bytes) (s0 cur cur' : St) : Prop :=
  FX src s0 cur' ∧ cur.nodes.length ≤ cur'.nodes.length ∧ ∀ j, j < cur.nodes.length → (nd cur' j).parent = (nd cur j).parent

theorem addCells_built {src : Bytes} {s0 : St} (R : Nat) (hR : s0.nodes.length ≤ R) : ∀ (cells : List GM.Table.Cell) (cur : St),
    FX src s0 cur → R < cur.nodes.length → (∀ c ∈ cells, NodeOK src (cellNode src c)) →
    ∃ cur', addCells src R cells cur = .ok ((), cur') ∧ Built src s0 cur cur' := by
  intro cells
  induction cells with
  | nil =>
    intro cur h _ _
    exact ⟨cur, rfl, h, Nat.le_refl _, fun _ _ => rfl⟩
  | cons c rest ih =>
    intro cur h hRl hok
    have h1 := h.newNode (cellNode src c) rfl rfl rfl (hok c (by simp))
    generalize hs1 : ({ cur with nodes := cur.nodes ++ [cellNode src c] } : St) = cur1 at h1
    have hl1 : cur1.nodes.length = cur.nodes.length + 1 := by rw [← hs1]; simp
    have hnd1 : ∀ j, j < cur.nodes.length → nd cur1 j = nd cur j := fun j hj => by
      rw [← hs1, fr_nd_append cur _ cur.r cur.pc, if_pos hj]
    have hid : nd cur1 cur.nodes.length = cellNode src c := by
      rw [← hs1, fr_nd_append cur _ cur.r cur.pc, if_neg (by omega), if_pos rfl]
    obtain ⟨cur2, e2, h2, hl2, hp2⟩ := h1.append R cur.nodes.length hR (by omega) (by have := h.len; omega) (by omega)
      (by rw [hid]; rfl)
    obtain ⟨cur3, e3, h3, hl3, hp3⟩ := ih cur2 h2 (by omega) (fun c' hc' => hok c' (by simp [hc']))
    refine ⟨cur3, ?_, h3, by omega, fun j hj => ?_⟩
    · unfold addCells
      simp only [bind, StateT.bind, Blocks.newNode, pure, Except.pure, Except.bind]
      rw [hs1, e2]
      exact e3
    · rw [hp3 j (by omega), hp2 j (by omega), hnd1 j hj]

theorem addRow_built {src : Bytes} {s0 : St} (T : Nat) (tag : Nat) (cells : List GM.Table.Cell) (cur : St)
    (h : FX src s0 cur) (hT : s0.nodes.length ≤ T) (hTl : T < cur.nodes.length)
    (hrow : NodeOK src (rowNode src tag cells)) (hok : ∀ c ∈ cells, NodeOK src (cellNode src c)) :
    ∃ cur', addRow src T tag cells cur = .ok ((), cur') ∧ Built src s0 cur cur' := by
  have h1 := h.newNode (rowNode src tag cells) rfl rfl rfl hrow
  generalize hs1 : ({ cur with nodes := cur.nodes ++ [rowNode src tag cells] } : St) = cur1 at h1
  have hl1 : cur1.nodes.length = cur.nodes.length + 1 := by rw [← hs1]; simp
  have hnd1 : ∀ j, j < cur.nodes.length → nd cur1 j = nd cur j := fun j hj => by
    rw [← hs1, fr_nd_append cur _ cur.r cur.pc, if_pos hj]
  have hid : nd cur1 cur.nodes.length = rowNode src tag cells := by
    rw [← hs1, fr_nd_append cur _ cur.r cur.pc, if_neg (by omega), if_pos rfl]
  obtain ⟨cur2, e2, h2, hl2, hp2⟩ := addCells_built cur.nodes.length (by have := h.len; omega) cells cur1 h1 (by omega) hok
  obtain ⟨cur3, e3, h3, hl3, hp3⟩ := h2.append T cur.nodes.length hT (by omega) (by have := h.len; omega) (by omega)
    (by rw [hp2 _ (by omega), hid]; rfl)
  refine ⟨cur3, ?_, h3, by omega, fun j hj => ?_⟩
  · have hrw : addRow src T tag cells cur = ((Blocks.newNode (rowNode src tag cells) >>= fun id =>
        addCells src id cells >>= fun _ => appendChild T id) cur) := rfl
    rw [hrw]
    simp only [bind, StateT.bind, Blocks.newNode, pure, Except.pure, Except.bind]
    rw [hs1, e2]
    exact e3
  · rw [hp3 j (by omega), hp2 j (by omega), hnd1 j hj]

theorem addRows_built {src : Bytes} {s0 : St} (T : Nat) (hT : s0.nodes.length ≤ T) : ∀ (rows : List (List GM.Table.Cell)) (cur : St),
    FX src s0 cur → T < cur.nodes.length →
    (∀ r ∈ rows, NodeOK src (rowNode src tagRow r) ∧ ∀ c ∈ r, NodeOK src (cellNode src c)) →
    ∃ cur', addRows src T rows cur = .ok ((), cur') ∧ Built src s0 cur cur' := by
  intro rows
  induction rows with
  | nil =>
    intro cur h _ _
    exact ⟨cur, rfl, h, Nat.le_refl _, fun _ _ => rfl⟩
  | cons r rest ih =>
    intro cur h hTl hok
    obtain ⟨cur1, e1, h1, hl1, hp1⟩ := addRow_built T tagRow r cur h hT hTl (hok r (by simp)).1 (hok r (by simp)).2
    obtain ⟨cur2, e2, h2, hl2, hp2⟩ := ih cur1 h1 (by omega) (fun r' hr' => hok r' (by simp [hr']))
    refine ⟨cur2, ?_, h2, by omega, fun j hj => ?_⟩
    · unfold addRows
      simp only [bind, StateT.bind, Except.bind]
      rw [e1]
      exact e2
    · rw [hp2 j (by omega), hp1 j hj]

end GM.Blocks.L.G.X
end BlocksTNPTableBuild

section BlocksTNPTableStep
/-
  GFM's table paragraph transformer satisfies the wide contract, part 2: `buildTable` (table.go:166-180:
  the fresh Table subtree, `SetSliced` of the paragraph's lines, `InsertAfter`, `RemoveChild` of an emptied paragraph) ends in
  `StepX`; `transformPT_specX`.
-/

namespace GM.Blocks.L.G.X
open GM GM.Text GM.Spec GM.Proof.Reader GM.Blocks.T GM.Blocks.TR GM.TableX

theorem upd2_offset (s : St) (p c : Nat) (g : List Nat → List Nat) (par : Option Nat) (j : Nat) :
    (nd (upd (upd s p fun n => { n with children := g n.children }) c fun n => { n with parent := par }) j).offset =
      (nd s j).offset := by
  have h1 : ∀ j, (nd (upd s p fun n => { n with children := g n.children }) j).offset = (nd s j).offset := by
    intro j
    rw [nd_upd]; split
    · rename_i h; obtain ⟨rfl, _⟩ := h; rfl
    · rfl
  rw [nd_upd]; split
  · rename_i h; obtain ⟨rfl, _⟩ := h; exact h1 _
  · exact h1 j

/-- the state after `InsertAfter(node, T)` under `p` (`g` = what happens to `p`'s children) and the optional `RemoveChild` -/
def tblFinal (sC : St) (p node T : Nat) (g : List Nat → List Nat) (gone : Bool) : St :=
  let sD := upd (upd sC p fun n => { n with children := g n.children }) T fun n => { n with parent := some p }
  if gone then upd (upd sD p fun n => { n with children := n.children.erase node }) node fun n => { n with parent := none }
  else sD

theorem buildTable_stepX {src : Bytes} {node p : Nat} {s : St} (hlt : node < s.nodes.length)
    (hk : (nd s node).kind = .paragraph) (hp : (nd s node).parent = some p) (hl : (nd s node).lines ≠ [])
    (hn : NodesOK src s) (hkids : KidsOK s) (hplt : PLTf s) (htree : TreeOK s)
    (para : List GM.Table.Seg) (t : GM.Table.Table) (hpara : LinesOK src (para.map ofSeg))
    (htab : NodeOK src (tableNode src))
    (hhead : NodeOK src (rowNode src tagHeader t.header) ∧ ∀ c ∈ t.header, NodeOK src (cellNode src c))
    (hrows : ∀ r ∈ t.rows, NodeOK src (rowNode src tagRow r) ∧ ∀ c ∈ r, NodeOK src (cellNode src c)) :
    ∃ s', buildTable src node (some p) para t s = .ok ((), s') ∧ StepX src node s s' para.isEmpty := by
  -- the build phase
  have h0 : FX src s s := FX.refl htree hplt
  have hA := h0.newNode (tableNode src) rfl rfl rfl htab
  generalize hsA : ({ s with nodes := s.nodes ++ [tableNode src] } : St) = sA at hA
  have hlA : sA.nodes.length = s.nodes.length + 1 := by rw [← hsA]; simp
  have hTA : nd sA s.nodes.length = tableNode src := by
    rw [← hsA, fr_nd_append s _ s.r s.pc, if_neg (by omega), if_pos rfl]
  obtain ⟨sB1, eB1, hB1, hlB1, hpB1⟩ := addRow_built s.nodes.length tagHeader t.header sA hA (Nat.le_refl _) (by omega)
    hhead.1 hhead.2
  obtain ⟨sB, eB, hB, hlB, hpB⟩ := addRows_built s.nodes.length (Nat.le_refl _) t.rows sB1 hB1 (by omega) hrows
  have hTl : s.nodes.length < sB.nodes.length := by omega
  have hTpar : (nd sB s.nodes.length).parent = none := by
    rw [hpB _ (by omega), hpB1 _ (by omega), hTA]; rfl
  have hpl : p < s.nodes.length := hplt node p hp
  have hnodeB : nd sB node = nd s node := hB.old node hlt
  have hpB' : nd sB p = nd s p := hB.old p hpl
  -- `SetSliced`
  generalize hL : para.map ofSeg = Lp at hpara
  have eC : modNode node (fun n => { n with lines := Lp }) sB = .ok ((), upd sB node fun n => { n with lines := Lp }) := rfl
  generalize hsC : (upd sB node fun n => { n with lines := Lp }) = sC at eC
  have tsC : TreeSame sB sC := by rw [← hsC]; exact L.upd_treeSame sB node (fun n => ⟨rfl, rfl, rfl, rfl⟩)
  have hlC : sC.nodes.length = sB.nodes.length := tsC.len
  have hkids_p : (nd sC p).children = (nd s p).children := by rw [(tsC.same p).2.2.1, hpB']
  have hmem : node ∈ (nd s p).children := htree.pc node p hp
  have hTparC : (nd sC s.nodes.length).parent = none := by rw [(tsC.same _).2.1]; exact hTpar
  -- `InsertAfter`
  have hstep5 : ∃ g : List Nat → List Nat,
      (∀ l y, y ∈ g l ↔ (y ∈ l ∨ y = s.nodes.length)) ∧ (∀ l, l.Nodup → s.nodes.length ∉ l → (g l).Nodup) ∧
      (∀ x, x ≠ node → (nd s p).children.getLast? = some x → (g (nd s p).children).getLast? = some x) ∧
      insertBefore p (nextIn node (nd sC p).children) s.nodes.length sC = .ok ((),
        upd (upd sC p fun n => { n with children := g n.children }) s.nodes.length fun n => { n with parent := some p }) := by
    rw [hkids_p]
    cases hnx : nextIn node (nd s p).children with
    | none =>
      refine ⟨fun l => l ++ [s.nodes.length], fun l y => by simp, fun l hn' hc' => ?_, fun x hx hlast => ?_, ?_⟩
      · rw [List.nodup_append]
        exact ⟨hn', by simp, fun a ha b hb => by simp at hb; subst hb; intro e'; exact hc' (e' ▸ ha)⟩
      · have := nextIn_none_last node _ hmem hnx
        rw [hlast] at this; cases this; exact absurd rfl hx
      · show appendChild p s.nodes.length sC = _
        exact L.appendChild_fresh p s.nodes.length sC hTparC
    | some nx =>
      have hnxm : nx ∈ (nd s p).children := nextIn_mem node _ nx hnx
      have hnxp : (nd s nx).parent = some p := htree.cp p nx hnxm
      have hnxl : nx < s.nodes.length := nd_parent_lt hnxp
      refine ⟨fun l => insertBeforeIn nx s.nodes.length l, fun l y => mem_insertBeforeIn nx _ l y,
        fun l hn' hc' => nodup_insertBeforeIn nx _ l hn' hc', fun x _ hlast => ?_, ?_⟩
      · rw [getLast?_insertBeforeIn_mem nx _ _ hnxm]; exact hlast
      · exact insertBefore_eq p nx s.nodes.length sC (by rw [(tsC.same nx).2.1, hB.old nx hnxl]; exact hnxp) hTparC
  obtain ⟨g, hgm, hgn, hgl, e5⟩ := hstep5
  generalize hsD : (upd (upd sC p fun n => { n with children := g n.children }) s.nodes.length
      fun n => { n with parent := some p }) = sD at e5
  have hlD : sD.nodes.length = sB.nodes.length := by rw [← hsD]; simp [upd, hlC]
  -- the fields of `sD`
  have hparD : ∀ j, (nd sD j).parent = if j = s.nodes.length then some p else (nd sB j).parent := by
    intro j
    rw [← hsD, upd2_parent sC p s.nodes.length g (some p) j]
    by_cases e' : j = s.nodes.length
    · rw [if_pos ⟨e', by omega⟩, if_pos e']
    · rw [if_neg (fun hh => e' hh.1), if_neg e', (tsC.same j).2.1]
  have hkidsD : ∀ j, (nd sD j).children = if j = p then g (nd s p).children else (nd sB j).children := by
    intro j
    rw [← hsD, upd2_children sC p s.nodes.length g (some p) j]
    by_cases e' : j = p
    · rw [if_pos ⟨e', by omega⟩, if_pos e', hkids_p]
    · rw [if_neg (fun hh => e' hh.1), if_neg e', (tsC.same j).2.2.1]
  have hfD : FrameEq sC sD := by
    rw [← hsD]
    exact (upd_frame sC p (f := fun n => { n with children := g n.children }) (fun n => ⟨rfl, rfl, rfl⟩)).trans
      (upd_frame _ _ (f := fun n => { n with parent := some p }) (fun n => ⟨rfl, rfl, rfl⟩))
  have hoffD : ∀ j, (nd sD j).offset = (nd sB j).offset := by
    intro j
    rw [← hsD, upd2_offset sC p s.nodes.length g (some p) j, (tsC.same j).2.2.2]
  have hkindD : ∀ j, (nd sD j).kind = (nd sB j).kind := fun j => by rw [(hfD.same j).1, (tsC.same j).1]
  have hlinesC : ∀ j, (nd sC j).lines = if j = node then Lp else (nd sB j).lines := by
    intro j
    rw [← hsC, nd_upd]
    by_cases e' : node = j
    · rw [if_pos ⟨e', by omega⟩, if_pos e'.symm]
    · rw [if_neg (fun hh => e' hh.1), if_neg (fun hh => e' hh.symm)]
  have hnilC : ∀ j, (nd sC j).linesNil = (nd sB j).linesNil := by
    intro j
    rw [← hsC, nd_upd]; split
    · rename_i h; obtain ⟨rfl, _⟩ := h; rfl
    · rfl
  have hparD_node : (nd sD node).parent = some p := by
    rw [hparD, if_neg (by omega), hnodeB]; exact hp
  have hpnl : (nd s p).kind ≠ .list := by
    intro hh
    have := hkids.pk node p hp hh
    rw [hk] at this; cases this
  have hrD : sD.r = s.r := by rw [hfD.r, ← hsC]; exact hB.r
  have hpcD : sD.pc = s.pc := by rw [hfD.pc, ← hsC]; exact hB.pc
  have hlinesD : ∀ j, (nd sD j).lines = if j = node then Lp else (nd sB j).lines := fun j => by
    rw [(hfD.same j).2.1]; exact hlinesC j
  have hnilD : ∀ j, (nd sD j).linesNil = (nd sB j).linesNil := fun j => by rw [(hfD.same j).2.2]; exact hnilC j
  -- `PLT`, `TreeOK` of `sD`
  have hpltC : PLT sC := hB.plt.treeSame tsC
  have htreeC : TreeOK sC := treeOK_tinv.ts tsC hB.tree
  have hpltD : PLT sD := (plt_insertBefore p _ s.nodes.length sC sD hpltC (by omega) e5).1
  have htreeD : TreeOK sD := by
    rw [hkids_p] at e5
    cases hnx : nextIn node (nd s p).children with
    | none =>
      rw [hnx] at e5
      exact (inv_appendChild treeOK_tinv p s.nodes.length sC sD trivial trivial (by omega) (by omega) htreeC e5).1
    | some nx =>
      rw [hnx] at e5
      exact (inv_insertBefore treeOK_tinv p nx s.nodes.length sC sD trivial trivial (by omega) (by omega) htreeC e5).1
  -- the frame of "x is the last child of q" up to `sD`
  have hlkD : ∀ x q, x ≠ node → LK s x q → LK sD x q := by
    intro x q hx hlk
    have hxl := hlk.xlt
    have hql := hlk.qlt
    have hlkB : LK sB x q := by
      refine ⟨by rw [hB.old x hxl]; exact hlk.par, by rw [hB.old q hql]; exact hlk.last, fun p' hm => ?_⟩
      rcases Nat.lt_or_ge p' s.nodes.length with h1 | h1
      · rw [hB.old p' h1] at hm; exact hlk.only p' hm
      · exfalso
        have := hB.tree.cp p' x hm
        rw [hB.old x hxl, hlk.par] at this
        cases this; omega
    refine ⟨by rw [hparD, if_neg (by omega)]; exact hlkB.par, ?_, fun p' hm => ?_⟩
    · rw [hkidsD]
      split
      · rename_i e'
        rw [e'] at hlk
        exact hgl x hx hlk.last
      · exact hlkB.last
    · rw [hkidsD] at hm
      split at hm
      · rename_i e'
        rcases (hgm _ _).1 hm with h1 | h1
        · rw [e']; exact hlk.only p h1
        · omega
      · exact hlkB.only p' hm
  -- everything about the final state, from its fields
  have key : ∀ (s' : St) (gone : Bool), s'.r = sD.r → s'.pc = sD.pc → s'.nodes.length = sD.nodes.length →
      (∀ j, (nd s' j).parent = if gone = true ∧ j = node then none else (nd sD j).parent) →
      (∀ j, j ≠ p → (nd s' j).children = (nd sD j).children) →
      (∀ j, (nd s' j).kind = (nd sD j).kind ∧ (nd s' j).offset = (nd sD j).offset ∧ (nd s' j).lines = (nd sD j).lines ∧
        (nd s' j).linesNil = (nd sD j).linesNil) →
      PLT s' → TreeOK s' → (∀ x q, x ≠ node → LK sD x q → LK s' x q) → (gone = false → Lp ≠ []) →
      StepX src node s s' gone := by
    intro s' gone hr' hpc' hl' hpar' hkids' hsame' hplt' htree' hlk' hLne
    have hlen' : s.nodes.length ≤ s'.nodes.length := by omega
    have hold : ∀ i, i < s.nodes.length → (nd s' i).kind = (nd s i).kind := fun i hi => by
      rw [(hsame' i).1, hkindD, hB.old i hi]
    have hfreshk : ∀ i, s.nodes.length ≤ i → (nd s' i).kind ≠ .list ∧ (nd s' i).kind ≠ .listItem := by
      intro i hi
      rcases Nat.lt_or_ge i sB.nodes.length with h1 | h1
      · rw [(hsame' i).1, hkindD, (hB.fk i hi h1).1]; exact ⟨by decide, by decide⟩
      · rw [nd_default_of_ge s' (by omega)]; exact ⟨by decide, by decide⟩
    have hlinesO : ∀ i, i < s.nodes.length → i ≠ node → (nd s' i).lines = (nd s i).lines := fun i hi hne => by
      rw [(hsame' i).2.2.1, hlinesD, if_neg hne, hB.old i hi]
    have hparO : ∀ i, i < s.nodes.length → i ≠ node → (nd s' i).parent = (nd s i).parent := fun i hi hne => by
      rw [hpar', if_neg (fun hh => hne hh.2), hparD, if_neg (by omega), hB.old i hi]
    have hparN : ∀ i, s.nodes.length ≤ i → ∀ q, (nd s' i).parent = some q → s.nodes.length ≤ q ∨ q = p := by
      intro i hi q hq
      rw [hpar', if_neg (fun hh => by omega), hparD] at hq
      split at hq
      · cases hq; exact .inr rfl
      · rcases Nat.lt_or_ge i sB.nodes.length with h1 | h1
        · exact .inl ((hB.fk i hi h1).2.2 q hq)
        · rw [nd_default_of_ge sB h1] at hq; cases hq
    have hnodes' : NodesOK src s' := by
      intro n hmem
      obtain ⟨j, hj, rfl⟩ := List.getElem_of_mem hmem
      have e' : s'.nodes[j] = nd s' j := by simp [nd, List.getD_eq_getElem?_getD, hj]
      rw [e']
      have hjB : j < sB.nodes.length := by omega
      constructor
      · rw [(hsame' j).2.2.1, hlinesD]
        split
        · exact hpara
        · rcases Nat.lt_or_ge j s.nodes.length with h1 | h1
          · rw [hB.old j h1]; exact (hn.nd h1).lines
          · exact (hB.fk j h1 hjB).2.1.lines
      · intro hnil
        rw [(hsame' j).2.2.2, hnilD] at hnil
        rw [(hsame' j).2.2.1, hlinesD]
        split
        · rename_i e''
          exfalso
          rw [e'', hnodeB] at hnil
          exact hl ((hn.nd hlt).nil hnil)
        · rcases Nat.lt_or_ge j s.nodes.length with h1 | h1
          · rw [hB.old j h1] at hnil ⊢; exact (hn.nd h1).nil hnil
          · exact (hB.fk j h1 hjB).2.1.nil hnil
    have htstep : TStep src node s s' gone := by
      refine ⟨by rw [hr', hrD], ⟨s.pc.refs, by rw [hpc', hpcD]⟩, hlen', hold, hlinesO, hnodes', fun hg => ?_, fun hg => ?_⟩
      · refine ⟨by rw [(hsame' node).2.2.1, hlinesD, if_pos rfl]; exact hLne hg, ?_⟩
        rw [hpar', if_neg (fun hh => by rw [hg] at hh; cases hh.1), hparD_node]; exact hp.symm
      · rw [hpar', if_pos ⟨hg, rfl⟩]
    have htf : TF s s' := by
      refine ⟨fun i hi hc => ?_, fun i hi hkl => ?_, fun i hi => ?_, fun i q hq hkl => ?_, fun i hi => hfreshk i hi⟩
      · exact hparO i hi (fun e' => by rw [e', hk] at hc; cases hc)
      · have hip : i ≠ p := fun e' => hpnl (e' ▸ hkl)
        rw [hkids' i hip, hkidsD, if_neg hip, hB.old i hi]
      · rw [(hsame' i).2.1, hoffD, hB.old i hi]
      · have hql : q < s.nodes.length := by
          rcases Nat.lt_or_ge q s.nodes.length with h1 | h1
          · exact h1
          · exact absurd hkl (hfreshk q h1).1
        rw [hold q hql] at hkl
        rcases Nat.lt_or_ge i s.nodes.length with h1 | h1
        · by_cases e' : i = node
          · exfalso
            rw [e', hpar'] at hq
            split at hq
            · cases hq
            · rw [hparD_node] at hq; cases hq; exact hpnl hkl
          · exact ⟨h1, by rw [← hparO i h1 e']; exact hq⟩
        · exfalso
          rcases hparN i h1 q hq with h2 | h2
          · omega
          · exact hpnl (h2 ▸ hkl)
    refine ⟨htstep, htf, hplt', htree', fun x q hx hlk => hlk' x q hx (hlkD x q hx hlk), fun hg => ?_⟩
    refine ⟨⟨hlen', hold, fun i hi _ hne => ?_⟩, hparO, fun i hi q hq => ?_⟩
    · by_cases e' : i = node
      · rw [e', (hsame' node).2.2.1, hlinesD, if_pos rfl]; exact hLne hg
      · rw [hlinesO i hi e']; exact hne
    · rcases hparN i hi q hq with h2 | h2
      · exact .inl h2
      · exact .inr (h2 ▸ hp)
  -- the two ways `buildTable` ends
  have hrun : ∀ s', (do
        insertBefore p (nextIn node (nd sC p).children) s.nodes.length
        if para.isEmpty then removeChild p node : M Unit) sC = .ok ((), s') →
      buildTable src node (some p) para t s = .ok ((), s') := by
    intro s' h'
    have hrw : buildTable src node (some p) para t s = ((Blocks.newNode (tableNode src) >>= fun table =>
        addRow src table tagHeader t.header >>= fun _ => addRows src table t.rows >>= fun _ =>
        modNode node (fun n => { n with lines := para.map ofSeg }) >>= fun _ =>
        (getNode p >>= fun pn => insertBefore p (nextIn node pn.children) table >>= fun _ =>
          if para.isEmpty then removeChild p node else pure ())) s) := rfl
    rw [hrw]
    simp only [bind, StateT.bind, Blocks.newNode, pure, Except.pure, Except.bind, getNode]
    rw [hsA, eB1]
    simp only [Except.bind]
    rw [eB]
    simp only [Except.bind]
    rw [hL, eC]
    simp only [Except.bind]
    exact h'
  have hLne : para.isEmpty = false → Lp ≠ [] := by
    intro h e'
    rw [← hL] at e'
    cases para with
    | nil => cases h
    | cons a b => cases e'
  cases hgo : para.isEmpty with
  | false =>
    refine ⟨sD, hrun sD ?_, ?_⟩
    · simp only [bind, StateT.bind, Except.bind, e5, hgo, Bool.false_eq_true, if_false]
      rfl
    · exact key sD false rfl rfl rfl (fun j => by simp) (fun _ _ => rfl) (fun _ => ⟨rfl, rfl, rfl, rfl⟩) hpltD htreeD
        (fun _ _ _ h => h) (fun _ => hLne hgo)
  | true =>
    have e6 := removeChild_eq p node sD hparD_node
    generalize hsE : (upd (upd sD p fun n => { n with children := n.children.erase node }) node
        fun n => { n with parent := none }) = sE at e6
    have hfE : FrameEq sD sE := by
      rw [← hsE]
      exact (upd_frame sD p (f := fun n => { n with children := n.children.erase node }) (fun n => ⟨rfl, rfl, rfl⟩)).trans
        (upd_frame _ _ (f := fun n => { n with parent := none }) (fun n => ⟨rfl, rfl, rfl⟩))
    refine ⟨sE, hrun sE ?_, ?_⟩
    · simp only [bind, StateT.bind, Except.bind, e5, hgo, if_true]
      exact e6
    · refine key sE true hfE.r hfE.pc hfE.len (fun j => ?_) (fun j hj => ?_) (fun j => ⟨(hfE.same j).1, ?_, (hfE.same j).2.1,
        (hfE.same j).2.2⟩) (plt_removeChild p node sD sE hpltD e6).1
        (inv_removeChild treeOK_tinv p node sD sE trivial htreeD e6).1 (fun x q hx hlk => ?_) (fun h => by cases h)
      · rw [← hsE, upd2_parent sD p node (fun l => l.erase node) none j]
        by_cases e' : j = node
        · rw [if_pos ⟨e', by omega⟩, if_pos ⟨rfl, e'⟩]
        · rw [if_neg (fun hh => e' hh.1), if_neg (fun hh => e' hh.2)]
      · rw [← hsE, upd2_children sD p node (fun l => l.erase node) none j, if_neg (fun hh => hj hh.1)]
      · rw [← hsE]; exact upd2_offset sD p node (fun l => l.erase node) none j
      · exact (inv_removeChild (lk_tinv x q) p node sD sE (fun e' => hx e'.symm) hlk e6).1

end GM.Blocks.L.G.X
end BlocksTNPTableStep

section BlocksTNPTableSpec
/-
  **GFM's table paragraph transformer satisfies the wide contract**: `transformPT_specX`
  (`PTSpecX src .pre (GM.TableX.transformPT src)`, under the named hypothesis `TableNodesOK src`). The block phase of the extended composition
  (`blockPhaseX_total_or_pre`) is GM.Proof.BlocksTNPTableTotal.
-/

namespace GM.Blocks.L.G.X
open GM GM.Text GM.Spec GM.Proof.Reader GM.Blocks.T GM.Blocks.TR GM.TableX

/-- what the driver proof needs to know about GM.Table.transform's output (the ONLY hypothesis of `transformPT_specX`): on a
    list of valid lines on which it finds a table, the remaining paragraph segments lie inside the source, and every node the
    builder allocates for the header, the rows and their cells is `NodeOK` (line segments inside the source; `linesNil` only
    without lines) -/
def TableNodesOK (src : Bytes) : Prop :=
  ∀ (ls : List Segment), ls.all (validB src) = true → ∀ t, (GM.Table.transform src (ls.map toSeg)).table = some t →
    LinesOK src ((GM.Table.transform src (ls.map toSeg)).para.map ofSeg) ∧
    (NodeOK src (rowNode src tagHeader t.header) ∧ ∀ c ∈ t.header, NodeOK src (cellNode src c)) ∧
    ∀ r ∈ t.rows, NodeOK src (rowNode src tagRow r) ∧ ∀ c ∈ r, NodeOK src (cellNode src c)


/-- the same, in terms of GM.Table alone: on lines inside the source on which GM.Table.transform finds a table, the remaining
    paragraph segments and the cell segments lie inside the source, and no row records an escaped pipe (`esc = []`: with a
    recorded position the row node `addRow` allocates has `linesNil = true` AND lines — not `NodeOK`) -/
def TableRangeOK (src : Bytes) : Prop :=
  ∀ (ls : List GM.Table.Seg), (∀ l ∈ ls, l.start ≤ l.stop ∧ l.stop ≤ src.length) →
    ∀ t, (GM.Table.transform src ls).table = some t →
    (∀ sg ∈ (GM.Table.transform src ls).para, sg.start ≤ sg.stop ∧ sg.stop ≤ src.length) ∧
    ∀ r ∈ t.header :: t.rows, r.flatMap (·.esc) = [] ∧
      ∀ c ∈ r, ∀ sg, c.seg = some sg → sg.start ≤ sg.stop ∧ sg.stop ≤ src.length

theorem segOK_ofSeg (src : Bytes) (sg : GM.Table.Seg) (h : sg.start ≤ sg.stop ∧ sg.stop ≤ src.length) : SegOK src (ofSeg sg) := by
  unfold SegOK ofSeg
  simp only
  omega

theorem tableNodesOK_of_range (src : Bytes) (h : TableRangeOK src) : TableNodesOK src := by
  intro ls hv t ht
  have hin : ∀ l ∈ ls.map toSeg, l.start ≤ l.stop ∧ l.stop ≤ src.length := by
    intro l hl
    obtain ⟨sg, hsg, rfl⟩ := List.mem_map.1 hl
    have := List.all_eq_true.1 hv sg hsg
    unfold validB at this
    simp only [Bool.and_eq_true, decide_eq_true_eq] at this
    unfold toSeg
    simp only
    omega
  obtain ⟨hp, hr⟩ := h _ hin t ht
  have hcell : ∀ r ∈ t.header :: t.rows, ∀ c ∈ r, NodeOK src (cellNode src c) := by
    intro r hrm c hc
    have hcs := (hr r hrm).2 c hc
    unfold cellNode
    constructor
    · intro sg' hm
      cases hsg : c.seg with
      | none => rw [hsg] at hm; cases hm
      | some sg =>
        rw [hsg] at hm
        simp only [List.mem_singleton] at hm
        subst hm
        exact segOK_ofSeg src sg (hcs sg hsg)
    · intro hnil
      simp only at hnil ⊢
      cases hsg : c.seg with
      | none => rfl
      | some sg => rw [hsg] at hnil; cases hnil
  have hrow : ∀ r ∈ t.header :: t.rows, ∀ tag, NodeOK src (rowNode src tag r) := by
    intro r hrm tag
    refine nodeOK_noLines src _ ?_
    unfold rowNode
    simp only
    rw [(hr r hrm).1]; rfl
  refine ⟨fun sg' hm => ?_, ⟨hrow _ (by simp) _, hcell _ (by simp)⟩, fun r hrm => ⟨hrow r (by simp [hrm]) _, hcell r (by simp [hrm])⟩⟩
  obtain ⟨sg, hsg, rfl⟩ := List.mem_map.1 hm
  exact segOK_ofSeg src sg (hp sg hsg)

theorem transformPT_specX (src : Bytes) (hT : TableNodesOK src) : PTSpecX src .pre (transformPT src) := by
  intro node s hsrc hlt hk hp hl hn hkids hplt htree
  have hrefl : StepX src node s s false :=
    ⟨TStep.refl hn hl, L.TF.refl s, hplt, htree, fun _ _ _ h => h, fun _ => KeepF.refl node s⟩
  unfold transformPT
  simp only [bind, StateT.bind, getNode, source, pure, StateT.pure, Except.pure, Except.bind]
  rw [hsrc]
  by_cases hv : ((s.nodes.getD node default).lines.all (validB src)) = true
  · rw [if_neg (by rw [hv]; simp)]
    cases htb : (GM.Table.transform src ((s.nodes.getD node default).lines.map toSeg)).table with
    | none => exact .inl ⟨s, false, rfl, hrefl⟩
    | some t =>
      simp only []
      obtain ⟨p, hpp⟩ := Option.isSome_iff_exists.1 hp
      obtain ⟨h1, h2, h3⟩ := hT _ hv t htb
      have hpp' : (s.nodes.getD node default).parent = some p := hpp
      rw [hpp']
      obtain ⟨s', e', hst⟩ := buildTable_stepX (src := src) hlt hk hpp hl hn hkids hplt htree _ t h1
        (nodeOK_noLines src _ rfl) h2 h3
      exact .inl ⟨s', _, e', hst⟩
  · rw [if_pos (by simpa using hv)]
    exact .inr rfl

end GM.Blocks.L.G.X
end BlocksTNPTableSpec
