/-
  GM.Proof.CMFragDoc — the source of a fragment document (`rawDoc`: blank lines, the lines of the paragraphs), the
  closed Paragraph nodes the block phase leaves for it, and the count of its line feeds (`nlCount`: the fuel of parseBlocks
  suffices).
-/
import GM.Proof.CMFragBlockPhase
import GM.Proof.CMFragInl

namespace GM.Proof.CMFrag
open GM GM.Text GM.Blocks GM.Spec

/-- where the paragraphs start -/
def closedOf : Nat → List (Nat × List Bytes) → List (Nat × List Bytes)
  | _, [] => []
  | q, (g, ls) :: rest => (q + g, ls) :: closedOf (q + g + (paraBytes ls).length + 1) rest

/-- closed paragraph nodes -/
def mkParas : List (Nat × List Bytes) → List Bool → List Blocks.Node
  | (p, ls) :: rest, b :: bs => paraN (paraSegs p ls) b :: mkParas rest bs
  | _, _ => []

/-- the Document node with `n` more children, numbered from `m + 1` -/
def addKids (d : Blocks.Node) (m n : Nat) : Blocks.Node := { d with children := d.children ++ List.range' (m + 1) n }

theorem addKids_zero (d : Blocks.Node) (m : Nat) : addKids d m 0 = d := by
  cases d; simp [addKids]

def blanks (n : Nat) : Bytes := List.replicate n 10

theorem blanks_eq (n : Nat) : GM.Proof.CMFrag.blanks n = GM.Spec.CMFrag.blanks n := rfl

/-- what follows a paragraph -/
def rawTail : List (Nat × List Bytes) → Nat → Bytes
  | [], 0 => []
  | [], t + 1 => 10 :: blanks t
  | (g, ls) :: rest, trail => 10 :: (blanks g ++ (paraBytes ls ++ rawTail rest trail))

/-- the source: `gap` blank lines, the paragraph's lines, one blank line before the next paragraph, …, `trail`
    blank lines -/
def rawDoc : List (Nat × List Bytes) → Nat → Bytes
  | [], trail => blanks trail
  | (g, ls) :: rest, trail => blanks g ++ (paraBytes ls ++ rawTail rest trail)

theorem blanksAt_append : ∀ (g : Nat) (pre post : Bytes), BlanksAt (pre ++ (blanks g ++ post)) pre.length g
  | 0, _, _ => trivial
  | g + 1, pre, post => by
    have e : pre ++ (blanks (g + 1) ++ post) = pre ++ (([] : Bytes) ++ 10 :: (blanks g ++ post)) := by
      simp [blanks, List.replicate_succ]
    have h1 := Ln.of_append pre [] (blanks g ++ post) (by simp)
    have e2 : pre ++ (blanks (g + 1) ++ post) = (pre ++ [10]) ++ (blanks g ++ post) := by
      simp [blanks, List.replicate_succ]
    have h2 := blanksAt_append g (pre ++ [10]) post
    refine ⟨?_, ?_⟩
    · rw [e]; simpa using h1
    · rw [e2]; simpa using h2

theorem paraAt_src : ∀ (ls : List Bytes) (pre post : Bytes), (∀ l ∈ ls, ∀ c ∈ l, c ≠ 10) →
    ParaAt (pre ++ (paraBytes ls ++ post)) pre.length ls
  | [], _, _, _ => trivial
  | l :: rest, pre, post, h => by
    have e : pre ++ (paraBytes (l :: rest) ++ post) = pre ++ (l ++ 10 :: (paraBytes rest ++ post)) := by
      simp [paraBytes]
    have e2 : pre ++ (paraBytes (l :: rest) ++ post) = (pre ++ (l ++ [10])) ++ (paraBytes rest ++ post) := by
      simp [paraBytes]
    have h1 := Ln.of_append pre l (paraBytes rest ++ post) (h l (by simp))
    have h2 := paraAt_src rest (pre ++ (l ++ [10])) post (fun x hx => h x (by simp [hx]))
    refine ⟨?_, ?_⟩
    · rw [e]; exact h1
    · rw [e2]
      have : (pre ++ (l ++ [10])).length = pre.length + l.length + 1 := by simp; omega
      rw [this] at h2; exact h2

theorem nl_append (a b : Bytes) : nlCount (a ++ b) = nlCount a + nlCount b := by simp [nlCount]

theorem nl_cons10 (b : Bytes) : nlCount (10 :: b) = nlCount b + 1 := by simp [nlCount]

theorem nl_blanks (g : Nat) : nlCount (blanks g) = g := by
  induction g with
  | zero => rfl
  | succ g ih => simp only [blanks, List.replicate_succ] at ih ⊢; rw [nl_cons10, ih]

theorem nl_line (l : Bytes) (h : ∀ c ∈ l, c ≠ 10) : nlCount l = 0 := by
  simp only [nlCount, List.length_eq_zero_iff, List.filter_eq_nil_iff]
  intro c hc; simp [h c hc]

theorem nl_para : ∀ (ls : List Bytes), (∀ l ∈ ls, ∀ c ∈ l, c ≠ 10) → nlCount (paraBytes ls) = ls.length
  | [], _ => rfl
  | l :: rest, h => by
    have ih := nl_para rest (fun x hx => h x (by simp [hx]))
    have e : paraBytes (l :: rest) = l ++ (10 :: paraBytes rest) := by simp [paraBytes]
    rw [e, nl_append, nl_cons10, nl_line l (h l (by simp)), ih]; simp

theorem quiet_no_nl : ∀ (l : Bytes) (i : Nat) (e : Bool), quiet l i e = true → ∀ c ∈ l, c ≠ 10
  | [], _, _, _, c, hc => by simp at hc
  | a :: rest, i, e, h, c, hc => by
    simp only [quiet, Bool.and_eq_true] at h
    simp only [List.mem_cons] at hc
    rcases hc with rfl | hc
    · intro h10; rw [h10] at h; simp at h
    · exact quiet_no_nl rest _ _ h.2 c hc

theorem treeOf_leaf (nodes : List Blocks.Node) (f i : Nat) (h : (nodes.getD i default).children = []) :
    treeOf nodes f i = .node (nodes.getD i default) [] := by
  cases f with
  | zero => rfl
  | succ f => simp only [treeOf, h, List.map_nil]

end GM.Proof.CMFrag
