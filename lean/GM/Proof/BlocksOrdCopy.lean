/-
  GM.Proof.BlocksOrdCopy — the parsers that COPY the lines of a closed paragraph into an inline-bearing block, and the
  setext heading's own (temporary) line:

  * `setextOpen_line`  — setext_headings.go:55-76: when it opens a Heading, the node is the next one of the store, its
                         single line is exactly the reader's segment `[c.p, lineEnd src c.p)` (the bar line — it is
                         thrown away by `Close`), `temporaryParagraphKey` is the last opened block's node, a Paragraph;
                         the reader's cursor is where it was; otherwise nothing changes but the reader's caches.
  * `setextClose_copy` — setext_headings.go:82-118, the branch `tmp.Lines().Len() != 0` (the only one reachable
                         without paragraph transformers): the Heading's lines become the paragraph's lines, every
                         other node keeps its lines and its kind, the store does not grow.
  * `tightenItem_copies`, `listClose_copies` — list.go:247-279: every node `Close` of a tight list adds is a TextBlock
                         whose lines are the lines of a Paragraph of the store; existing nodes keep lines and kinds.
  * `LK`               — "same store length, every node keeps lines / linesNil / kind": the frame of the tree
                         surgery (`removeChild`, `appendChild`, `insertBefore`, `replaceChild`).
-/
import GM.Proof.BlocksOrd
import GM.Proof.BlocksDriver
import GM.Proof.BlocksDriverC
import GM.Proof.BlocksRunEq

namespace GM.Blocks
open GM GM.Text GM.Spec GM.Proof.Reader

theorem OKL.of_ok {α} {P : α → St → Prop} {x : Except Panic (α × St)} {a : α} {s' : St} (h : OKL P x)
    (e : x = .ok (a, s')) : P a s' := by
  rcases h with ⟨a', s'', e', hp⟩ | e'
  · rw [e] at e'; cases e'; exact hp
  · rw [e] at e'; cases e'

theorem peekLine_inv {src} {s s1 : St} {c : RCur} {x : Option Bytes × Segment} (h : RI src s.r c)
    (e : peekLine s = .ok (x, s1)) : x = (RCur.view src c, RCur.seg src c) ∧ ∃ r1, s1 = { s with r := r1 } ∧ RI src r1 c :=
  (peekLine_okl h).of_ok e

/-- same store length; every node keeps its lines, its `lines.values == nil` flag and its kind -/
structure LK (s s' : St) : Prop where
  len : s'.nodes.length = s.nodes.length
  same : ∀ i, (nd s' i).lines = (nd s i).lines ∧ (nd s' i).linesNil = (nd s i).linesNil ∧ (nd s' i).kind = (nd s i).kind
  r : s'.r = s.r
  pc : s'.pc = s.pc

theorem LK.refl (s : St) : LK s s := ⟨rfl, fun _ => ⟨rfl, rfl, rfl⟩, rfl, rfl⟩

theorem LK.trans {a b c : St} (h1 : LK a b) (h2 : LK b c) : LK a c :=
  ⟨h2.len.trans h1.len, fun i => ⟨(h2.same i).1.trans (h1.same i).1, (h2.same i).2.1.trans (h1.same i).2.1,
    (h2.same i).2.2.trans (h1.same i).2.2⟩, h2.r.trans h1.r, h2.pc.trans h1.pc⟩

theorem modNode_lk {id : Nat} {f : Node → Node} {s : St} {a : Unit} {s' : St}
    (h : modNode id f s = .ok (a, s')) (hf : SameLK f) : LK s s' := by
  rw [modNode_ok h]
  refine ⟨by simp, fun i => ?_, rfl, rfl⟩
  have := nd_upd s id f i
  have e : nd ({ s with nodes := s.nodes.set id (f (s.nodes.getD id default)) } : St) i = nd (upd s id f) i := rfl
  rw [e, this]
  split
  · next hc => rw [hc.1]; exact ⟨(hf _).2.1, (hf _).2.2, (hf _).1⟩
  · exact ⟨rfl, rfl, rfl⟩

theorem removeChild_lk {p c : Nat} {s : St} {a : Unit} {s' : St} (h : removeChild p c s = .ok (a, s')) : LK s s' := by
  unfold removeChild at h
  obtain ⟨cn, s1, h1, k1⟩ := bind_ok h
  obtain ⟨_, rfl⟩ := getNode_ok h1
  split at k1
  · obtain ⟨_, rfl⟩ := pure_ok k1; exact LK.refl _
  · obtain ⟨_, s2, h2, k2⟩ := bind_ok k1
    exact (modNode_lk h2 (fun _ => ⟨rfl, rfl, rfl⟩)).trans (modNode_lk k2 (fun _ => ⟨rfl, rfl, rfl⟩))

theorem removeChild_rpc {p c : Nat} {s : St} {a : Unit} {s' : St} (h : removeChild p c s = .ok (a, s')) :
    s'.r = s.r ∧ s'.pc = s.pc := by
  unfold removeChild at h
  obtain ⟨cn, s1, h1, k1⟩ := bind_ok h
  obtain ⟨_, rfl⟩ := getNode_ok h1
  split at k1
  · obtain ⟨_, rfl⟩ := pure_ok k1; exact ⟨rfl, rfl⟩
  · obtain ⟨_, s2, h2, k2⟩ := bind_ok k1
    rw [modNode_ok k2, modNode_ok h2]; exact ⟨rfl, rfl⟩

theorem ensureIsolated_lk {c : Nat} {s : St} {a : Unit} {s' : St} (h : ensureIsolated c s = .ok (a, s')) : LK s s' := by
  unfold ensureIsolated at h
  obtain ⟨cn, s1, h1, k1⟩ := bind_ok h
  obtain ⟨rfl, rfl⟩ := getNode_ok h1
  cases hp : (s1.nodes.getD c default).parent with
  | some q => rw [hp] at k1; exact removeChild_lk k1
  | none => rw [hp] at k1; obtain ⟨_, rfl⟩ := pure_ok k1; exact LK.refl _

theorem appendChild_lk {p c : Nat} {s : St} {a : Unit} {s' : St} (h : appendChild p c s = .ok (a, s')) : LK s s' := by
  unfold appendChild at h
  obtain ⟨_, s1, h1, k1⟩ := bind_ok h
  obtain ⟨_, s2, h2, k2⟩ := bind_ok k1
  exact ((ensureIsolated_lk h1).trans (modNode_lk h2 (fun _ => ⟨rfl, rfl, rfl⟩))).trans
    (modNode_lk k2 (fun _ => ⟨rfl, rfl, rfl⟩))

theorem insertBefore_lk {p : Nat} {v1 : Option Nat} {ins : Nat} {s : St} {a : Unit} {s' : St}
    (h : insertBefore p v1 ins s = .ok (a, s')) : LK s s' := by
  unfold insertBefore at h
  cases v1 with
  | none => exact appendChild_lk h
  | some v =>
    dsimp only at h
    obtain ⟨vn, s1, h1, k1⟩ := bind_ok h
    obtain ⟨_, rfl⟩ := getNode_ok h1
    split at k1
    · exact appendChild_lk k1
    · obtain ⟨_, s2, h2, k2⟩ := bind_ok k1
      obtain ⟨_, s3, h3, k3⟩ := bind_ok k2
      exact ((ensureIsolated_lk h2).trans (modNode_lk h3 (fun _ => ⟨rfl, rfl, rfl⟩))).trans
        (modNode_lk k3 (fun _ => ⟨rfl, rfl, rfl⟩))

theorem replaceChild_lk {p v1 ins : Nat} {s : St} {a : Unit} {s' : St} (h : replaceChild p v1 ins s = .ok (a, s')) :
    LK s s' := by
  unfold replaceChild at h
  obtain ⟨_, s1, h1, k1⟩ := bind_ok h
  exact (insertBefore_lk h1).trans (removeChild_lk k1)

/-- **setextHeadingParser.Open, the line it takes** (setext_headings.go:55-76), from an `RI` reader, for every normal
    end: the cursor stays; either only the reader's caches changed (no node), or the last opened block is a
    Paragraph, the new Heading is the next node of the store with the single line `[c.p, lineEnd src c.p)` — the
    reader's segment, padding included — and `temporaryParagraphKey` points to that Paragraph. -/
theorem setextOpen_line {src} {s s' : St} {c : RCur} {parent : Nat} {a : Option Nat × PState} (h : RI src s.r c)
    (e : setextOpen parent s = .ok (a, s')) :
    ∃ r', RI src r' c ∧
      ((a.1 = none ∧ s' = { s with r := r' }) ∨
       (∃ lb lvl, s.pc.opened.getLast? = some lb ∧ (nd s lb.node).kind = .paragraph ∧
          (nd s lb.node).parent = some parent ∧
          a = (some s.nodes.length, { requirePara := true }) ∧
          s' = { r := r', nodes := s.nodes ++ [{ kind := .heading, level := lvl, lines := [RCur.seg src c], linesNil := false }],
                 pc := { s.pc with tmpPara := some lb.node } })) := by
  unfold setextOpen at e
  obtain ⟨lb', s1, h1, k1⟩ := bind_ok e
  obtain ⟨hlb', hs1⟩ := lastOpenedBlock_ok h1
  subst s1
  subst lb'
  clear h1
  cases hlb : s.pc.opened.getLast? with
  | none =>
    rw [hlb] at k1
    obtain ⟨rfl, hs⟩ := pure_ok k1
    subst s'
    exact ⟨s.r, h, .inl ⟨rfl, rfl⟩⟩
  | some lb =>
    rw [hlb] at k1
    dsimp only at k1
    obtain ⟨ln, s2, h2, k2⟩ := bind_ok k1
    obtain ⟨rfl, hs2⟩ := getNode_ok h2
    subst s2
    split at k2
    · obtain ⟨rfl, hs⟩ := pure_ok k2
      subst s'
      exact ⟨s.r, h, .inl ⟨rfl, rfl⟩⟩
    · next hcond =>
      obtain ⟨x, s3, h3, k3⟩ := bind_ok k2
      obtain ⟨rfl, r1, hs3, hr1⟩ := peekLine_inv h h3
      subst s3
      dsimp only at k3
      obtain ⟨y, s4, h4, k4⟩ := bind_ok k3
      obtain ⟨_, hs4⟩ := liftE_ok h4
      subst s4
      obtain ⟨cc, ok⟩ := y
      dsimp only at k4
      split at k4
      · obtain ⟨rfl, hs⟩ := pure_ok k4
        subst s'
        exact ⟨r1, hr1, .inl ⟨rfl, rfl⟩⟩
      · obtain ⟨node, s5, h5, k5⟩ := bind_ok k4
        obtain ⟨rfl, hs5⟩ := newNode_ok h5
        subst s5
        obtain ⟨_, s6, h6, k6⟩ := bind_ok k5
        have e6 := modNode_ok h6
        subst s6
        obtain ⟨_, s7, h7, k7⟩ := bind_ok k6
        have e7 := modPc_ok h7
        subst s7
        obtain ⟨rfl, hs⟩ := pure_ok k7
        subst s'
        have hk : (s.nodes.getD lb.node default).kind = .paragraph ∧ (s.nodes.getD lb.node default).parent = some parent := by
          simp only [Bool.or_eq_true, bne_iff_ne, ne_eq, not_or, Decidable.not_not] at hcond
          exact hcond
        refine ⟨r1, hr1, .inr ⟨lb, (if (cc == 45) = true then 2 else 1), rfl, hk.1, hk.2, rfl, ?_⟩⟩
        simp only [getD_length_append, set_length_append]
        rfl

/-- **setextHeadingParser.Close copies the closed paragraph** (setext_headings.go:82-118): when
    `temporaryParagraphKey` points to a node that has lines, a normal end of `Close(node)` leaves the store as long
    as it was, the heading `node` with exactly the lines of that paragraph, and every other node with its lines;
    kinds never change. -/
theorem setextClose_copy {s s' : St} {node t : Nat} (ht : s.pc.tmpPara = some t) (hne : (nd s t).lines ≠ [])
    (hnt : node ≠ t) (hlt : node < s.nodes.length) (e : setextClose node s = .ok ((), s')) :
    s'.nodes.length = s.nodes.length ∧
      ((nd s' node).lines = (nd s t).lines ∧ (nd s' node).linesNil = (nd s t).linesNil) ∧
      (∀ i, i ≠ node → (nd s' i).lines = (nd s i).lines ∧ (nd s' i).linesNil = (nd s i).linesNil) ∧
      (∀ i, (nd s' i).kind = (nd s i).kind) ∧
      s'.pc = { s.pc with tmpPara := none } ∧ s'.r = s.r := by
  unfold setextClose at e
  obtain ⟨hn, s1, h1, k1⟩ := bind_ok e
  obtain ⟨rfl, hs1⟩ := getNode_ok h1
  subst s1
  obtain ⟨seg, s2, h2, k2⟩ := bind_ok k1
  obtain ⟨_, hs2⟩ := liftE_ok h2
  subst s2
  obtain ⟨_, s3, h3, k3⟩ := bind_ok k2
  have e3 := modNode_ok h3
  obtain ⟨pc4, s4, h4, k4⟩ := bind_ok k3
  obtain ⟨rfl, hs4⟩ := getPc_ok h4
  subst s4
  have hpc3 : s3.pc = s.pc := by rw [e3]
  rw [hpc3, ht] at k4
  dsimp only at k4
  obtain ⟨tmp, s4, h4', k4'⟩ := bind_ok k4
  obtain ⟨htm, hs4⟩ := pure_ok h4'
  subst tmp
  subst s4
  obtain ⟨_, s5, h5, k5⟩ := bind_ok k4'
  have e5 := modPc_ok h5
  obtain ⟨tn, s6, h6, k6⟩ := bind_ok k5
  obtain ⟨rfl, hs6⟩ := getNode_ok h6
  subst s6
  -- the node `t` in `s5` is the node `t` of `s` (only `node ≠ t` was written)
  have hnd5 : ∀ i, nd s5 i = if i = node then { (nd s node) with lines := [], linesNil := true } else nd s i := by
    intro i
    have : nd s5 i = nd (upd s node fun n => { n with lines := [], linesNil := true }) i := by
      rw [e5, e3]; rfl
    rw [this, nd_upd]
    by_cases hi : i = node
    · subst hi; simp [hlt]
    · have : ¬ (node = i ∧ node < s.nodes.length) := fun hh => hi hh.1.symm
      rw [if_neg this, if_neg hi]
  have ht5 : s5.nodes.getD t default = nd s t := by
    have := hnd5 t
    rw [if_neg (Ne.symm hnt)] at this
    exact this
  rw [ht5] at k6
  have hlen0 : ((nd s t).lines.length == 0) = false := by
    cases hh : (nd s t).lines with
    | nil => exact absurd hh hne
    | cons a b => simp
  rw [if_neg (by rw [hlen0]; decide)] at k6
  obtain ⟨_, s7, h7, k7⟩ := bind_ok k6
  have e7 := modNode_ok h7
  have hlk : LK s7 s' := by
    cases hp : (nd s t).parent with
    | some tp => rw [hp] at k7; exact removeChild_lk k7
    | none => rw [hp] at k7; obtain ⟨_, rfl⟩ := pure_ok k7; exact LK.refl _
  have hlen5 : s5.nodes.length = s.nodes.length := by rw [e5, e3]; simp
  have hnd7 : ∀ i, nd s7 i = if i = node then
      { (nd s5 node) with lines := (nd s t).lines, linesNil := (nd s t).linesNil, blankPrev := (nd s t).blankPrev }
      else nd s5 i := by
    intro i
    have : nd s7 i = nd (upd s5 node fun n =>
        { n with lines := (nd s t).lines, linesNil := (nd s t).linesNil, blankPrev := (nd s t).blankPrev }) i := by
      rw [e7]; rfl
    rw [this, nd_upd]
    by_cases hi : i = node
    · subst hi; simp [hlen5, hlt]
    · have : ¬ (node = i ∧ node < s5.nodes.length) := fun hh => hi hh.1.symm
      rw [if_neg this, if_neg hi]
  have hrpc : s'.r = s7.r ∧ s'.pc = s7.pc := by
    cases hp : (nd s t).parent with
    | some tp => rw [hp] at k7; exact removeChild_rpc k7
    | none => rw [hp] at k7; obtain ⟨_, rfl⟩ := pure_ok k7; exact ⟨rfl, rfl⟩
  have hr : s'.r = s.r := by
    rw [hrpc.1, e7, e5, e3]
  have htmp : s'.pc = { s.pc with tmpPara := none } := by
    rw [hrpc.2, e7, e5, e3]
  refine ⟨?_, ⟨?_, ?_⟩, ?_, ?_, htmp, hr⟩
  · rw [hlk.len, e7]; simp [hlen5]
  · rw [(hlk.same node).1, hnd7 node, if_pos rfl]
  · rw [(hlk.same node).2.1, hnd7 node, if_pos rfl]
  · intro i hi
    refine ⟨?_, ?_⟩
    · rw [(hlk.same i).1, hnd7 i, if_neg hi, hnd5 i, if_neg hi]
    · rw [(hlk.same i).2.1, hnd7 i, if_neg hi, hnd5 i, if_neg hi]
  · intro i
    rw [(hlk.same i).2.2, hnd7 i]
    by_cases hi : i = node
    · subst hi; rw [if_pos rfl]; simp only; rw [hnd5 i, if_pos rfl]
    · rw [if_neg hi, hnd5 i, if_neg hi]

/-- what `Close` of a tight list does to the state: reader and context untouched, existing nodes keep lines, nil flag
    and kind, every added node is a TextBlock carrying the lines of an existing Paragraph -/
structure Copies (s s' : St) : Prop where
  len : s.nodes.length ≤ s'.nodes.length
  old : ∀ i, i < s.nodes.length → (nd s' i).lines = (nd s i).lines ∧ (nd s' i).linesNil = (nd s i).linesNil ∧
      (nd s' i).kind = (nd s i).kind
  new : ∀ i, s.nodes.length ≤ i → i < s'.nodes.length →
      (nd s' i).kind = .textBlock ∧ ∃ j, j < s.nodes.length ∧ (nd s j).kind = .paragraph ∧
        (nd s' i).lines = (nd s j).lines ∧ (nd s' i).linesNil = (nd s j).linesNil
  r : s'.r = s.r
  pc : s'.pc = s.pc

theorem Copies.refl (s : St) : Copies s s :=
  ⟨Nat.le_refl _, fun _ _ => ⟨rfl, rfl, rfl⟩, fun i h1 h2 => by omega, rfl, rfl⟩

theorem Copies.of_lk {s s' : St} (h : LK s s') : Copies s s' :=
  ⟨by rw [h.len]; exact Nat.le_refl _, fun i _ => h.same i, fun i h1 h2 => by rw [h.len] at h2; omega, h.r, h.pc⟩

theorem Copies.trans {a b c : St} (h1 : Copies a b) (h2 : Copies b c) : Copies a c := by
  refine ⟨Nat.le_trans h1.len h2.len, fun i hi => ?_, fun i hi1 hi2 => ?_, h2.r.trans h1.r, h2.pc.trans h1.pc⟩
  · obtain ⟨x1, x2, x3⟩ := h1.old i hi
    obtain ⟨y1, y2, y3⟩ := h2.old i (Nat.lt_of_lt_of_le hi h1.len)
    exact ⟨y1.trans x1, y2.trans x2, y3.trans x3⟩
  · rcases Nat.lt_or_ge i b.nodes.length with hb | hb
    · obtain ⟨y1, y2, y3⟩ := h2.old i hb
      obtain ⟨k, j, hj, hjk, hl, hln⟩ := h1.new i hi1 hb
      exact ⟨y3.trans k, j, hj, hjk, y1.trans hl, y2.trans hln⟩
    · obtain ⟨k, j, hj, hjk, hl, hln⟩ := h2.new i hb hi2
      rcases Nat.lt_or_ge j a.nodes.length with ha | ha
      · obtain ⟨x1, x2, x3⟩ := h1.old j ha
        exact ⟨k, j, ha, by rw [← x3]; exact hjk, by rw [hl, x1], by rw [hln, x2]⟩
      · -- `j` was itself added between `a` and `b`: then it is a TextBlock, not a Paragraph
        obtain ⟨k', _⟩ := h1.new j ha hj
        rw [k'] at hjk; cases hjk

theorem tightenItem_copies (child : Nat) : ∀ (gcs : List Nat) (s s' : St), tightenItem child gcs s = .ok ((), s') →
    Copies s s' := by
  intro gcs
  induction gcs with
  | nil => intro s s' h; unfold tightenItem at h; obtain ⟨_, rfl⟩ := pure_ok h; exact Copies.refl _
  | cons gc gcs ih =>
    intro s s' h
    unfold tightenItem at h
    obtain ⟨g, s1, h1, k1⟩ := bind_ok h
    obtain ⟨rfl, hs1⟩ := getNode_ok h1
    subst s1
    dsimp only at k1
    split at k1
    · next hk =>
      obtain ⟨tb, s3, h3, k3⟩ := bind_ok k1
      obtain ⟨rfl, hs3⟩ := newNode_ok h3
      subst s3
      obtain ⟨_, s4, h4, k4⟩ := bind_ok k3
      have hlk := replaceChild_lk h4
      have hgc : gc < s.nodes.length := by
        rcases Nat.lt_or_ge gc s.nodes.length with h' | h'
        · exact h'
        · exfalso
          have hd : s.nodes.getD gc default = default := by
            simp [List.getD_eq_getElem?_getD, List.getElem?_eq_none h']
          rw [hd] at hk
          exact absurd hk (by decide)
      have hkp : (nd s gc).kind = .paragraph := by simpa using hk
      have hnew : ∀ n : Node, n.kind = .textBlock → n.lines = (s.nodes.getD gc default).lines →
          n.linesNil = (s.nodes.getD gc default).linesNil →
          Copies s ({ s with nodes := s.nodes ++ [n] } : St) := by
        intro n hnk hnl hnn
        refine ⟨by simp, fun i hi => ?_, fun i hi1 hi2 => ?_, rfl, rfl⟩
        · simp only [nd, List.getD_eq_getElem?_getD, List.getElem?_append_left hi]; exact ⟨trivial, trivial, trivial⟩
        · have : i = s.nodes.length := by simp at hi2; omega
          subst this
          simp only [nd, getD_length_append]
          exact ⟨hnk, gc, hgc, hkp, hnl, hnn⟩
      have hc := Copies.of_lk hlk
      refine Copies.trans (Copies.trans ?_ hc) (ih _ _ k4)
      exact hnew _ rfl rfl rfl
    · exact ih _ _ k1

theorem tightenItems_copies : ∀ (cs : List Nat) (s s' : St), tightenItems cs s = .ok ((), s') → Copies s s' := by
  intro cs
  induction cs with
  | nil => intro s s' h; unfold tightenItems at h; obtain ⟨_, rfl⟩ := pure_ok h; exact Copies.refl _
  | cons c cs ih =>
    intro s s' h
    unfold tightenItems at h
    obtain ⟨cn, s0, h0, k0⟩ := bind_ok h
    obtain ⟨rfl, hs0⟩ := getNode_ok h0
    subst s0
    obtain ⟨_, s1, h1, k1⟩ := bind_ok k0
    exact (tightenItem_copies c _ _ _ h1).trans (ih _ _ k1)

/-- **listParser.Close only copies** (list.go:247-279): existing nodes keep lines and kind; every node it adds is a
    TextBlock whose lines are the lines of a Paragraph that was in the store — `Segments` values, so what holds for
    the closed paragraph's lines (order, `WF0`) holds for the TextBlock's. -/
theorem listClose_copies {node : Nat} {s s' : St} (h : listClose node s = .ok ((), s')) : Copies s s' := by
  unfold listClose at h
  obtain ⟨list, s1, h1, k1⟩ := bind_ok h
  obtain ⟨rfl, hs1⟩ := getNode_ok h1
  subst s1
  obtain ⟨st, s2, h2, k2⟩ := bind_ok k1
  have e2 : st = s ∧ s2 = s := by cases h2; exact ⟨rfl, rfl⟩
  obtain ⟨hst, hs2⟩ := e2
  subst st
  subst s2
  dsimp only at k2
  obtain ⟨_, s3, h3, k3⟩ := bind_ok k2
  have hlk := modNode_lk h3 (fun _ => ⟨rfl, rfl, rfl⟩)
  split at k3
  · exact (Copies.of_lk hlk).trans (tightenItems_copies _ _ _ k3)
  · obtain ⟨_, hs'⟩ := pure_ok k3
    subst s'
    exact Copies.of_lk hlk

end GM.Blocks
