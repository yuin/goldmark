/-
  GM.Proof.InlinesReader — the block reader as the inline phase uses it: lines without padding (what the block
  parsers hand over for inline-bearing blocks), every call expressed through the cursor `BCur` of GM.Spec.Cursor
  and the refinement lemmas of GM.Proof.BlockReader: a call inside the preconditions cannot panic, the
  number of bytes in front of the cursor (`remaining`) goes down by what was consumed, byte offsets never go back.
-/
import GM.Proof.BlockReader
import GM.Model.InlinesLoop

namespace GM.Proof.InlinesReader
open GM GM.Text GM.Spec GM.Proof.Reader

theorem spanB_fst_len (p : UInt8 → Bool) (l : Bytes) : (spanB p l).1.length + (spanB p l).2.length = l.length := by
  have := congrArg List.length (spanB_append p l)
  simpa using this

/-- well-formed lines of an inline-bearing block: `WFSegs` and no virtual padding -/
def WF0 (src : Bytes) (segs : List Segment) : Prop := WFSegs src segs ∧ ∀ s ∈ segs, s.padding = 0

variable {src : Bytes} {segs : List Segment}

/-- the reader `r` stands for the padding-free cursor `c` -/
structure RS (src : Bytes) (segs : List Segment) (r : BlockReader) (c : BCur) : Prop where
  abs : BAbs src segs r c
  pad : c.pad = 0

theorem segOf_pad (F : SegFacts src segs) (Z : ∀ s ∈ segs, s.padding = 0) (ln : Int) (h0 : 0 ≤ ln) (h1 : ln < BCur.k segs) :
    (BCur.segOf segs ln).padding = 0 := by
  have := F.get ln h0 h1
  exact Z _ (List.mem_of_getElem? this)

/-- bytes in front of the cursor, as a natural number -/
def rem (segs : List Segment) (c : BCur) : Nat := (BCur.remaining segs c).toNat

theorem viewsLen_nonneg (F : SegFacts src segs) : ∀ (n : Nat), 0 ≤ BCur.viewsLen (segs.drop n) := by
  intro n
  have : ∀ (l : List Segment), (∀ s ∈ l, s.start < s.stop ∧ 0 ≤ s.padding) → 0 ≤ BCur.viewsLen l := by
    intro l
    induction l with
    | nil => intro _; simp [BCur.viewsLen]
    | cons a r ih =>
      intro h
      have h1 := h a (by simp)
      have h2 := ih (fun s hs => h s (by simp [hs]))
      simp only [BCur.viewsLen]; omega
  apply this
  intro s hs
  have hm : s ∈ segs := List.mem_of_mem_drop hs
  obtain ⟨i, hi, he⟩ := List.getElem_of_mem hm
  have hk : (i : Int) < BCur.k segs := by simp [BCur.k]; omega
  have g := F.get i (by omega) hk
  have r := F.rng i (by omega) hk
  simp only [Int.toNat_natCast] at g
  rw [List.getElem?_eq_getElem hi, he] at g
  simp at g
  rw [← g] at r
  exact ⟨r.2.1, r.2.2.2.1⟩

theorem remaining_nonneg (F : SegFacts src segs) {c : BCur} (w : BWF segs c) : 0 ≤ BCur.remaining segs c := by
  unfold BCur.remaining
  split
  · rename_i hl
    simp only [BCur.live, Bool.and_eq_true, decide_eq_true_eq] at hl
    have i1 := w.inLine hl.1
    have v := viewsLen_nonneg F (c.ln.toNat + 1)
    have : BCur.stopOf segs c = (BCur.segOf segs c.ln).stop := by simp [BCur.stopOf, hl.1]
    have := w.pad0
    omega
  · omega

/-- one byte forward: still well-formed, no padding, one byte less in front, offsets do not go back -/
theorem adv1_facts (F : SegFacts src segs) (Z : ∀ s ∈ segs, s.padding = 0) {c : BCur} (w : BWF segs c) (hz : c.pad = 0)
    (hl : BCur.live segs c = true) :
    BWF segs (BCur.adv1 segs c) ∧ (BCur.adv1 segs c).pad = 0 ∧
    BCur.remaining segs (BCur.adv1 segs c) = BCur.remaining segs c - 1 ∧
    c.ln ≤ (BCur.adv1 segs c).ln ∧ c.p < (BCur.adv1 segs c).p ∧ (BCur.adv1 segs c).ln < BCur.k segs := by
  obtain ⟨r1, r2⟩ := rem_adv1 F w hl
  simp only [BCur.live, Bool.and_eq_true, decide_eq_true_eq] at hl
  obtain ⟨l1, l2⟩ := hl
  have i1 := w.inLine l1
  have hst : BCur.stopOf segs c = (BCur.segOf segs c.ln).stop := by simp [BCur.stopOf, l1]
  by_cases hh : c.p + 1 < BCur.stopOf segs c ∨ BCur.k segs ≤ c.ln + 1
  · have e : BCur.adv1 segs c = { c with p := c.p + 1 } := by simp [BCur.adv1, hz, hh]
    rw [e] at r1 r2 ⊢
    exact ⟨r2, hz, r1, Int.le_refl _, by simp only; omega, l1⟩
  · have e : BCur.adv1 segs c = ⟨c.ln + 1, (BCur.segOf segs (c.ln + 1)).start,
        (BCur.segOf segs (c.ln + 1)).padding⟩ := by simp [BCur.adv1, hz, hh]
    rw [e] at r1 r2 ⊢
    have hm := F.mono c.ln (c.ln + 1) w.ln0 (by omega) (by omega)
    rw [hst] at hh
    refine ⟨r2, segOf_pad F Z _ (by have := w.ln0; omega) (by omega), r1, by simp only; omega, ?_, by simp only; omega⟩
    simp only; omega

theorem advN_facts (F : SegFacts src segs) (Z : ∀ s ∈ segs, s.padding = 0) (n : Nat) :
    ∀ {c : BCur}, BWF segs c → c.pad = 0 → (n : Int) ≤ BCur.remaining segs c →
    BWF segs (BCur.advN segs n c) ∧ (BCur.advN segs n c).pad = 0 ∧
    BCur.remaining segs (BCur.advN segs n c) = BCur.remaining segs c - n ∧
    c.ln ≤ (BCur.advN segs n c).ln ∧ c.p + n ≤ (BCur.advN segs n c).p := by
  induction n with
  | zero => intro c w hz _; simp [BCur.advN, w, hz]
  | succ n ih =>
    intro c w hz hn
    have hl : BCur.live segs c = true := rem_nonneg_live (by omega)
    obtain ⟨a1, a2, a3, a4, a5, _⟩ := adv1_facts F Z w hz hl
    obtain ⟨b1, b2, b3, b4, b5⟩ := ih a1 a2 (by omega)
    simp only [BCur.advN]
    exact ⟨b1, b2, by omega, by omega, by omega⟩

theorem peekLine_facts (F : SegFacts src segs) {r : BlockReader} {c : BCur} (h : RS src segs r c) :
    r.peekLine = .ok ((BCur.view src segs c, r.pos), r) ∧
    r.pos = { start := c.p, stop := BCur.stopOf segs c, padding := 0, forceNewline := false } := by
  have e := bpeekLine_ref F h.abs
  have hp : r.pos = { start := c.p, stop := BCur.stopOf segs c, padding := 0, forceNewline := false } := by
    rw [h.abs.pos, h.pad]
  refine ⟨?_, hp⟩
  rw [e]
  simp only [BCur.peekLine, BCur.seg]
  rw [hp, h.pad]

/-- a line that PeekLine returns: the bytes up to the line's stop, at least one, all of them in front -/
theorem view_some (F : SegFacts src segs) {c : BCur} (w : BWF segs c) (hz : c.pad = 0) {l : Bytes}
    (hv : BCur.view src segs c = some l) :
    c.ln < BCur.k segs ∧ 0 ≤ c.p ∧ c.p < BCur.stopOf segs c ∧ BCur.stopOf segs c ≤ src.length ∧
    l = sub src c.p.toNat (BCur.stopOf segs c).toNat ∧ (l.length : Int) = BCur.stopOf segs c - c.p ∧
    (l.length : Int) ≤ BCur.remaining segs c ∧ BCur.live segs c = true := by
  unfold BCur.view at hv
  split at hv
  · rename_i hl
    obtain ⟨l1, _, _, _, l5, _, l7, l8⟩ := w.live F hl
    simp only [hz, Int.toNat_zero, spaces, List.replicate_zero, List.nil_append, Option.some.injEq] at hv
    have hlen : (l.length : Int) = BCur.stopOf segs c - c.p := by
      rw [← hv]; simp only [sub, List.length_take, List.length_drop]
      omega
    have v := viewsLen_nonneg F (c.ln.toNat + 1)
    exact ⟨l1, by omega, l5, l7, hv.symm, hlen, by omega, hl⟩
  · simp at hv

theorem view_none_rem {c : BCur} (hv : BCur.view src segs c = none) :
    BCur.remaining segs c = 0 := by
  unfold BCur.view at hv
  split at hv
  · simp at hv
  · rename_i hl; simp [BCur.remaining, hl]

/-- Advance(n) for 0 ≤ n ≤ remaining -/
theorem advance_ok (F : SegFacts src segs) (Z : ∀ s ∈ segs, s.padding = 0) {r : BlockReader} {c : BCur}
    (h : RS src segs r c) {n : Int} (h0 : 0 ≤ n) (h1 : n ≤ BCur.remaining segs c) :
    ∃ r' c', r.advance n = .ok r' ∧ RS src segs r' c' ∧
      BCur.remaining segs c' = BCur.remaining segs c - n ∧ c.ln ≤ c'.ln ∧ c.p + n ≤ c'.p ∧
      c' = BCur.advN segs n.toNat c := by
  have hs : BCur.advance segs n c = .ok (BCur.advN segs n.toNat c) := by simp [BCur.advance, h0, h1]
  obtain ⟨r', hr, ha⟩ := badvance_ref F h.abs hs
  obtain ⟨b1, b2, b3, b4, b5⟩ := advN_facts F Z n.toNat h.abs.wf h.pad (by omega)
  exact ⟨r', _, hr, ⟨ha, b2⟩, by omega, b4, by omega, rfl⟩

/-- Advance(n) inside the line: only the offset moves -/
theorem advance_inline (F : SegFacts src segs) (Z : ∀ s ∈ segs, s.padding = 0) {r : BlockReader} {c : BCur}
    (h : RS src segs r c) {n : Int} (h0 : 0 ≤ n) (h1 : c.p + n < BCur.stopOf segs c)
    (hr : n ≤ BCur.remaining segs c) :
    ∃ r', r.advance n = .ok r' ∧ RS src segs r' { c with p := c.p + n } := by
  obtain ⟨r', c', e1, e2, _, _, _, e6⟩ := advance_ok F Z h h0 hr
  have := badvN_inline segs n.toNat c h.pad (by omega)
  rw [this] at e6
  have e : ((n.toNat : Nat) : Int) = n := by omega
  rw [e] at e6
  subst e6
  exact ⟨r', e1, e2⟩

theorem advanceLine_ok (F : SegFacts src segs) (Z : ∀ s ∈ segs, s.padding = 0) {r : BlockReader} {c : BCur}
    (h : RS src segs r c) :
    ∃ r', r.advanceLine = .ok r' ∧ RS src segs r' (BCur.advanceLine segs c) := by
  obtain ⟨r', e1, e2, _⟩ := badvanceLine_ref F h.abs
  refine ⟨r', e1, e2, ?_⟩
  unfold BCur.advanceLine
  split
  · exact segOf_pad F Z _ (by have := h.abs.wf.ln0; omega) (by assumption)
  · exact h.pad

/-- SetPosition with what Position returned in a state standing for `c` brings `c` back -/
theorem setPosition_restore (F : SegFacts src segs) {r r2 : BlockReader} {c c2 : BCur}
    (h : RS src segs r c) (h2 : RS src segs r2 c2) :
    ∃ r3, r2.setPosition r.position.1 r.position.2 = .ok r3 ∧ RS src segs r3 c := by
  obtain ⟨r3, e1, e2⟩ := blockReader_setPosition_restores F h.abs h2.abs
  exact ⟨r3, e1, e2, h.pad⟩

theorem peek_ok (F : SegFacts src segs) {r : BlockReader} {c : BCur} (h : RS src segs r c) :
    r.peek = .ok (BCur.peek src segs c) := bpeek_ref F h.abs

theorem precendingCharacter_ok (r : BlockReader) : ∃ v, r.precendingCharacter = .ok v := by
  unfold BlockReader.precendingCharacter
  simp only [bind, Except.bind, pure, Except.pure]
  split
  · exact ⟨_, rfl⟩
  · split
    · exact ⟨_, rfl⟩
    · rename_i hlen
      have : ∃ s, segAt r.segments 0 = .ok s := by
        unfold segAt
        cases hs : r.segments with
        | nil => simp [hs] at hlen
        | cons a t => simp
      obtain ⟨s, hs⟩ := this
      rw [hs]
      simp only
      split
      · exact ⟨_, rfl⟩
      · split
        · exact ⟨_, rfl⟩
        · split <;> exact ⟨_, rfl⟩

/-- AdvanceLine: the next line, offsets do not go back, what was left of the line is no longer in front -/
theorem advanceLine_facts (F : SegFacts src segs) {c : BCur} (w : BWF segs c) (hz : c.pad = 0) :
    (BCur.advanceLine segs c).ln = c.ln + 1 ∧ c.p ≤ (BCur.advanceLine segs c).p ∧
    BCur.remaining segs (BCur.advanceLine segs c) ≤ BCur.remaining segs c ∧
    (BCur.live segs c = true →
      BCur.remaining segs (BCur.advanceLine segs c) = BCur.remaining segs c - (BCur.stopOf segs c - c.p)) ∧
    (c.ln + 1 < BCur.k segs → BCur.stopOf segs c ≤ (BCur.advanceLine segs c).p) := by
  have hn := remaining_nonneg F w
  have v := viewsLen_nonneg F (c.ln.toNat + 1)
  rcases advanceLine_cases F w with ⟨hl, e, a3, a4, _, _⟩ | ⟨hl, e, a3⟩
  · have l1 : c.ln < BCur.k segs := by omega
    have i1 := w.inLine l1
    have hplt : c.p < (BCur.segOf segs c.ln).stop := by rcases i1.2 with h | ⟨h, _⟩ <;> omega
    have hsl := stop_lt_last F w.ln0 hl
    have hlive : BCur.live segs c = true := by simp [BCur.live, l1]; omega
    obtain ⟨_, hst, _, _, _, _, _, hr⟩ := w.live F hlive
    exact ⟨by rw [e], by omega, by omega, fun _ => by omega, fun _ => by omega⟩
  · refine ⟨by rw [e], by rw [e]; exact Int.le_refl _, by omega, fun hlive => ?_, fun h => by omega⟩
    obtain ⟨l1, _, _, _, _, _, _, hr⟩ := w.live F hlive
    have : BCur.viewsLen (segs.drop (c.ln.toNat + 1)) = 0 :=
      viewsLen_drop_ge segs _ (by have := w.ln0; simp [BCur.k] at hl; omega)
    omega

theorem viewsLen_le (src : Bytes) : ∀ (l : List Segment) (lo : Int), WFSegsFrom src lo l → (∀ s ∈ l, s.padding = 0) →
    lo ≤ src.length → BCur.viewsLen l ≤ src.length - lo
  | [], lo, _, _, h => by simp only [BCur.viewsLen]; omega
  | s :: rest, lo, hw, hz, h => by
    obtain ⟨w1, w2, w3, w4, w5, w6⟩ := hw
    have := viewsLen_le src rest s.stop w6 (fun x hx => hz x (by simp [hx])) w3
    have := hz s (by simp)
    simp only [BCur.viewsLen]; omega

theorem viewsLen_drop_le (F : SegFacts src segs) : ∀ (n : Nat), BCur.viewsLen (segs.drop n) ≤ BCur.viewsLen segs := by
  intro n
  induction n with
  | zero => simp
  | succ n ih =>
    by_cases hn : n < segs.length
    · have hv := viewsLen_drop segs (n : Int) (by omega) (by simp [BCur.k]; omega)
      have r := F.rng (n : Int) (by omega) (by simp [BCur.k]; omega)
      simp only [Int.toNat_natCast] at hv
      omega
    · rw [viewsLen_drop_ge segs (n + 1) (by omega)]
      have := viewsLen_nonneg F 0
      simpa using this

/-- never more bytes in front of the cursor than the source has -/
theorem remaining_le_len (W : WFSegs src segs) (Z : ∀ s ∈ segs, s.padding = 0) {c : BCur} (w : BWF segs c)
    (hz : c.pad = 0) : BCur.remaining segs c ≤ src.length := by
  have F := segFacts W
  unfold BCur.remaining
  split
  · rename_i hl
    simp only [BCur.live, Bool.and_eq_true, decide_eq_true_eq] at hl
    have i1 := w.inLine hl.1
    have hst : BCur.stopOf segs c = (BCur.segOf segs c.ln).stop := by simp [BCur.stopOf, hl.1]
    have hv := viewsLen_drop segs c.ln w.ln0 hl.1
    have h1 := viewsLen_drop_le F c.ln.toNat
    have h2 := viewsLen_le src segs 0 W.2 Z (by omega)
    have r := F.rng c.ln w.ln0 hl.1
    omega
  · omega

theorem rdFuel_gt (W : WFSegs src segs) (Z : ∀ s ∈ segs, s.padding = 0) {r : BlockReader} {c : BCur}
    (h : RS src segs r c) : (BCur.remaining segs c).toNat < GM.Inl.rdFuel r := by
  have := remaining_le_len W Z h.abs.wf h.pad
  unfold GM.Inl.rdFuel loopFuel
  rw [h.abs.source]
  omega

theorem advN_ln_lt (F : SegFacts src segs) (Z : ∀ s ∈ segs, s.padding = 0) (n : Nat) :
    ∀ {c : BCur}, BWF segs c → c.pad = 0 → (n : Int) ≤ BCur.remaining segs c → c.ln < BCur.k segs →
    (BCur.advN segs n c).ln < BCur.k segs := by
  induction n with
  | zero => intro c _ _ _ h; simpa [BCur.advN] using h
  | succ n ih =>
    intro c w hz hn hk
    have hl : BCur.live segs c = true := rem_nonneg_live (by omega)
    obtain ⟨a1, a2, a3, a4, a5, a6⟩ := adv1_facts F Z w hz hl
    simp only [BCur.advN]
    exact ih a1 a2 (by omega) a6

end GM.Proof.InlinesReader
