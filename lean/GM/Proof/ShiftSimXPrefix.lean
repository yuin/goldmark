/-
  GM.Proof.ShiftSimXPrefix — C09 first half for a NON-EMPTY first part.
  1. run A's line-boundary invariants (`AU`) survive a pass of the per-line loop and an `openBlocks` at the top of the
     outer loop, for a source of the positional class `PlainL` that ends with a line feed: `StableL` from the no-panic
     proof, `K` (GM.Proof.ShiftSimAcyc2), `TopLast` / attachment (GM.Proof.ShiftSimXTop7), `tl_GP` (ShiftSimXTop5), the
     statistics bound and "never `eof` while there is a line" (ShiftSimXNext);
  2. `Reach a h b` (GM.Proof.ShiftSimCompose) for every `a` that ends with a line feed, triggers none of the list /
     setext / fenced parsers and does not end in a raw block; hence `IndependentBlocks a h b` for all `h`, `b`;
  3. unconditionally for every `a` that ends with a line feed and contains none of the bytes `- * + 0-9 = ` ~` (no list,
     no setext heading, no fenced code block: block quotes, paragraphs, ATX headings, thematic breaks `___`, indented code
     and HTML blocks are allowed), and for the positional class — the statement's own proviso "`a` does not end in a raw
     block" is used where run B reads the blank line behind `a`.
-/
import GM.Proof.ShiftSimXRight
import GM.Proof.ShiftSimXTop5
import GM.Proof.ShiftSimXTop7
import GM.Proof.ShiftSimXHcl
import GM.Proof.ShiftSimXSafe2
import GM.Proof.ShiftSimXRi
import GM.Proof.ShiftSimXNext
import GM.Proof.ShiftSimXReach
import GM.Proof.ShiftSimXDoc0
import GM.Proof.BlocksClosedRun

namespace GM.Blocks.Xs
open GM GM.Text GM.Spec GM.Proof.Reader GM.Blocks GM.Blocks.L

theorem hl_peek (b : Bytes) : ∀ (t : St) lp t1, HL b t → peekLine t = .ok (lp, t1) → HL b t1 := by
  intro t lp t1 ⟨⟨c1, hc1, hlt⟩, c2, hc2, hts⟩ h
  unfold GM.Blocks.peekLine at h
  obtain ⟨r1, e1, h1⟩ := ri_peekLine hc1
  obtain ⟨r2, e2, h2⟩ := ri_peekLine hc2
  rw [e1] at h
  simp only [bind, Except.bind, pure, Except.pure, Except.ok.injEq, Prod.mk.injEq] at h
  obtain ⟨_, rfl⟩ := h
  rw [e1] at e2
  simp only [Except.ok.injEq, Prod.mk.injEq] at e2
  obtain ⟨_, rfl⟩ := e2
  exact ⟨⟨c1, h1, hlt⟩, c2, h2, hts⟩

theorem hl_lineOffset (b : Bytes) : Keeps (HL b) lineOffset := by
  intro t a t1 ⟨⟨c1, hc1, hlt⟩, c2, hc2, hts⟩ h
  unfold GM.Blocks.lineOffset at h
  obtain ⟨v1, r1, e1, h1, _⟩ := ri_lineOffset hc1
  obtain ⟨v2, r2, e2, h2, _⟩ := ri_lineOffset hc2
  rw [e1] at h
  simp only [bind, Except.bind, pure, Except.pure, Except.ok.injEq, Prod.mk.injEq] at h
  obtain ⟨_, rfl⟩ := h
  rw [e1] at e2
  simp only [Except.ok.injEq, Prod.mk.injEq] at e2
  obtain ⟨_, rfl⟩ := e2
  exact ⟨⟨c1, h1, hlt⟩, c2, h2, hts⟩

theorem hl_trig (b : Bytes) (hpl : PlainL b) : ∀ (t t1 : St) (lp : Option Bytes × Segment) (l : Bytes) (lo : Int)
    (ch : UInt8), HL b t → peekLine t = .ok (lp, t1) → lp.1 = some l → idx l (indentWidthI l lo).2 = .ok ch →
    ∀ bp ∈ (triggered ch).getD freeParsers, Cov6 bp := by
  intro t t1 lp l lo ch ⟨_, c, hc, hts⟩ h hl hidx
  unfold GM.Blocks.peekLine at h
  obtain ⟨r1, e1, h1⟩ := ri_peekLine hc
  rw [e1] at h
  simp only [bind, Except.bind, pure, Except.pure, Except.ok.injEq, Prod.mk.injEq] at h
  obtain ⟨rfl, _⟩ := h
  exact (trigAt_plainL b hpl).2 c l lo ch hc.inRange hts hl hidx

theorem hl_open_go (b : Bytes) (hnl : b.getLast? = some 10) : ∀ bp, Cov6 bp → ∀ (p : Nat) (s : St)
    (x : Option Nat × PState) (s' : St), HL b s → bpOpen bp p s = .ok (x, s') → (x.1 = none ∨ x.2.hasChildren = true) →
    HL b s' := by
  intro bp h p s x s' hl e hx
  rcases hx with hx | hx
  · have hri : ∃ c, RI b s'.r c := by
      obtain ⟨c, hc, _⟩ := hl.1
      exact ri_open6 b bp h p s x s' ⟨c, hc⟩ e
    exact hl_of_pos hl hri (bpOpen_none_pos bp p s s' x e hx)
  · exact strictO6' b hnl bp h p s s' x hl e hx

theorem hl_continue_go (b : Bytes) (hnl : b.getLast? = some 10) : ∀ bp, Cov6 bp → ∀ (n : Nat) (s : St) (st : PState)
    (s' : St), HL b s → bpContinue bp n s = .ok (st, s') → (st.cont = false ∨ st.hasChildren = true) → HL b s' := by
  intro bp h n s st s' hl e hx
  by_cases hc : st.cont = true
  · rcases hx with hx | hx
    · rw [hc] at hx; cases hx
    · exact strictC6' b hnl bp h n s s' st hl e hc hx
  · exact hcl6' b hnl bp h n s s' st hl e (by simpa using hc)

theorem passKeeps (b : Bytes) (hnl : b.getLast? = some 10) (hpl : PlainL b) : PassKeeps b := by
  intro ob s s' bl x hau hop hne hcov hl hsle e
  obtain ⟨c, hri, _⟩ := hl.1
  have hst' : StableL b 0 s' := by
    have := lineLoopL (lsp_all b) 0 rfl ob ((ob.length : Int) - 1) rfl ob [] 0 bl s c
      rfl rfl hop hri (hau.pad c hri) hau.st (fun Lb hLb => by simp at hLb)
    obtain ⟨_, _, h⟩ := Sh.okl_ok this e
    exact h
  have hk' : Sh.K s' := by
    have hobs : Sh.ObsOK ob s := by
      intro z hz; exact hau.k.opened z (by rw [hop]; exact hz)
    exact (Sh.a2_lineLoop 0 ob ((ob.length : Int) - 1) ob 0 bl s s' x hau.k hau.k.doc.1 hobs (fun z hz => hz) e).1
  obtain ⟨b0, rest, rfl⟩ : ∃ b0 rest, ob = b0 :: rest := by
    cases ob with
    | nil => exact absurd rfl hne
    | cons b0 rest => exact ⟨b0, rest, rfl⟩
  have hatt : ∀ z ∈ b0 :: rest, (nd s z.node).parent.isSome = true := by
    intro z hz; exact hau.att z (by rw [hop]; exact hz)
  have hJr : ∀ t t' : St, HL b t → t'.r = t.r → HL b t' := fun t t' h e => h.of_r e
  obtain ⟨htop', hatt'⟩ := top_att_lineLoopJ hJr (hl_open_go b hnl) (hl_lineOffset b) (hl_peek b) xk_free_cov6 (hl_trig b hpl)
    (hl_continue_go b hnl) b0 rest s s' bl x hau.k hau.top hop hcov hl hau.st hatt e
  have hgp' := gp_lineLoop (b0 :: rest) s s' bl x hau.gp hau.k hau.st hop e
  obtain ⟨hnext, hsle'⟩ := lineLoop_next_sle b hnl (b0 :: rest) (((b0 :: rest).length : Int) - 1) hcov (b0 :: rest) 0 bl s s' x
    (fun z hz => hz) (List.cons_ne_nil _ _) hl.1 hsle e
  exact ⟨⟨hst', hk', htop', hgp', fun z hz => (hatt' z hz).1⟩, hsle', hnext⟩

theorem openKeeps (b : Bytes) (hnl : b.getLast? = some 10) (hpl : PlainL b) : OpenKeeps b := by
  intro blank s s' r hau hop hl e
  obtain ⟨c, hri, _⟩ := hl.1
  obtain ⟨_, _, hst'⟩ := stableL_top (lsp_all b) rfl hri (hau.pad c hri) hau.st hop e
  have hk' : Sh.K s' := (Sh.a2_openBlocks 0 blank s s' r hau.k hau.k.doc.1 e).1
  have hgp' : tl_GP s' := by
    refine gp_openBlocks 0 blank s s' r hau.gp hau.k.doc.1 ?_ e
    have : (nd s 0).kind = .document := hau.k.doc.2.1.2
    rw [this]; rfl
  have hJr : ∀ t t' : St, HL b t → t'.r = t.r → HL b t' := fun t t' h e => h.of_r e
  obtain ⟨htop', hatt'⟩ := top_att_openBlocks0J hJr (hl_open_go b hnl) (hl_lineOffset b) (hl_peek b) xk_free_cov6 (hl_trig b hpl)
    blank s s' r hau.k hop hl e
  exact ⟨hst', hk', htop', hgp', fun z hz => (hatt' z hz).1⟩

end GM.Blocks.Xs

namespace GM.Blocks.Xs
open GM GM.Text GM.Spec GM.Proof.Reader GM.Blocks GM.Blocks.L

theorem indepDoc_nl (a h b : Bytes) (ha : a.getLast? = some 10) :
    indepDoc a h b = a ++ 10 :: (Sh.hlB h ++ 10 :: b) := by
  have hs : indepSep a = [10] := by
    unfold indepSep
    rw [ha]
    simp
  unfold indepDoc
  rw [hs, Sh.headingLine_eq]
  simp

theorem run_kids_lt (src : Bytes) (s : St) (h : run src = .ok s) :
    ∀ j c, c ∈ (s.nodes.getD j default).children → c < s.nodes.length := by
  intro j c hc
  have := (L.run_closed_aux (lsp_all src) s h).1.tree
  exact (this.kid_lt (x := j) (c := c) hc).2

theorem reach_plainL_of (a h b : Bytes) (hh : ∀ c ∈ h, c ≠ 10) (ha : a.getLast? = some 10) (hpl : PlainL a)
    (hPK : PassKeeps a) (hOK : OpenKeeps a)
    (sa sh sd : St) (hsa : run a = .ok sa) (hsh : run (headingLine h) = .ok sh) (hsd : run (indepDoc a h b) = .ok sd)
    (hraw : endsInRawBlock sa = false) : Sh.Reach a h b sa sh sd := by
  rw [indepDoc_nl a h b ha] at hsd
  have hL : ∃ body, Sh.hlB h = body ++ [10] ∧ ∀ c ∈ body, c ≠ 10 := by
    refine ⟨35 :: 32 :: h, by simp [Sh.hlB], ?_⟩
    intro c hc
    simp only [List.mem_cons] at hc
    rcases hc with rfl | rfl | hc
    · decide
    · decide
    · exact hh c hc
  obtain ⟨s1, stats1, f1, hat, hloop⟩ :=
    run_reaches_top a (Sh.hlB h) (10 :: b) ha hpl hL (Sh.isBlank_hl h) hPK hOK sa sd hsa hsd hraw
  refine Sh.reach_of_atHeading a h b hh (by simp [indepSep, ha]) sa sh sd hsa hsh (Sh.run_doc0 a sa hsa) (run_kids_lt a sa hsa) s1 stats1 f1 ?_ hloop
  obtain ⟨x, s1', hsk, q1, q2, q3, q4, q5, q6, q7⟩ := hat.skip
  have hlen := Sh.hl_length hh
  refine ⟨hat.nodes, hat.opened, hat.keys.1, hat.keys.2.1, hat.keys.2.2.1, hat.keys.2.2.2,
    x, s1', hsk, q1, q2, q3, q4, ?_, q5, ?_, q7⟩
  · -- the line behind the heading line is the blank line
    have hstop : s1'.r.pos.stop = (((a ++ 10 :: Sh.hlB h).length : Nat) : Int) := by
      rw [q6]; simp; omega
    have hforce : s1'.r.pos.forceNewline = false := by rw [q6]
    have esrc : a ++ 10 :: (Sh.hlB h ++ 10 :: b) = (a ++ 10 :: Sh.hlB h) ++ ([10] ++ b) := by simp
    have e1 : lineEnd (a ++ 10 :: (Sh.hlB h ++ 10 :: b)) (a ++ 10 :: Sh.hlB h).length =
        (a ++ 10 :: Sh.hlB h).length + 1 := by
      rw [esrc]
      have := xsk_lineEnd_at (a ++ 10 :: Sh.hlB h) [10] b [] rfl (by intro c hc; cases hc)
      simpa using this
    have s1e : sub (a ++ 10 :: (Sh.hlB h ++ 10 :: b)) (a ++ 10 :: Sh.hlB h).length
        ((a ++ 10 :: Sh.hlB h).length + 1) = [10] := by
      rw [esrc]
      have := xsk_sub_at (a ++ 10 :: Sh.hlB h) [10] b
      simpa using this
    have := Sh.atLine_advanceLine (r := s1'.r) (src := a ++ 10 :: (Sh.hlB h ++ 10 :: b))
      (k := (a ++ 10 :: Sh.hlB h).length) q5 hstop hforce (by simp)
    rw [e1, s1e] at this
    exact this
  · rw [q6, hlen]

/-- **C09 first half for a non-empty first part** (given that run A's invariants survive a pass): every `a` that ends
    with a line feed and is in the positional class `PlainL`, every `h`, every `b` -/
theorem independent_blocks_plainL_of (a h b : Bytes) (ha : a.getLast? = some 10) (hpl : PlainL a)
    (hPK : PassKeeps a) (hOK : OpenKeeps a) :
    ∀ e g, indepPair a h b = some (e, g) → e = g := by
  intro e g hp
  have hh : ∀ c ∈ h, c ≠ 10 := Sh.noLF_of_indepPair hp
  exact Sh.independent_blocks_of_reach_raw a h b
    (fun sa sh sd h1 h2 h3 h4 => reach_plainL_of a h b hh ha hpl hPK hOK sa sh sd h1 h2 h3 h4) e g hp

end GM.Blocks.Xs

namespace GM.Blocks.Xs
open GM GM.Text GM.Spec GM.Proof.Reader GM.Blocks

/-- the byte-level class `Plain6` (none of the bytes `- * + 0-9 = ` ~` occurs) is contained in the positional class -/
theorem plainL_of_plain6 (b : Bytes) (h : Plain6 b) : PlainL b := by
  intro j ch hj _
  have hm : ch ∈ b := List.mem_of_getElem? hj
  obtain ⟨h1, h2, h3, h4, h5, h6, h7⟩ := h ch hm
  exact ⟨h1, h2, h3, h4, h5, h6, h7⟩

/-- prefix determinism + closing at the end of the source = closing by a blank line, for the positional class -/
theorem reach_plainL (a h b : Bytes) (hh : ∀ c ∈ h, c ≠ 10) (ha : a.getLast? = some 10) (hpl : PlainL a)
    (sa sh sd : St) (hsa : run a = .ok sa) (hsh : run (headingLine h) = .ok sh) (hsd : run (indepDoc a h b) = .ok sd)
    (hraw : endsInRawBlock sa = false) : Sh.Reach a h b sa sh sd :=
  reach_plainL_of a h b hh ha hpl (passKeeps a ha hpl) (openKeeps a ha hpl) sa sh sd hsa hsh hsd hraw

/-- **C09 first half for the positional class**: `a` ends with a line feed and no line of `a` starts, after its quote
    markers and indentation, with a list / setext / fence trigger -/
theorem independent_blocks_plainL (a h b : Bytes) (ha : a.getLast? = some 10) (hpl : PlainL a) :
    ∀ e g, indepPair a h b = some (e, g) → e = g :=
  independent_blocks_plainL_of a h b ha hpl (passKeeps a ha hpl) (openKeeps a ha hpl)

/-- the same for the byte-level class `Plain6` -/
theorem reach_plain (a h b : Bytes) (hh : ∀ c ∈ h, c ≠ 10) (ha : a.getLast? = some 10) (hpl : Plain6 a)
    (sa sh sd : St) (hsa : run a = .ok sa) (hsh : run (headingLine h) = .ok sh) (hsd : run (indepDoc a h b) = .ok sd)
    (hraw : endsInRawBlock sa = false) : Sh.Reach a h b sa sh sd :=
  reach_plainL a h b hh ha (plainL_of_plain6 a hpl) sa sh sd hsa hsh hsd hraw

theorem independent_blocks_plain6 (a h b : Bytes) (ha : a.getLast? = some 10) (hpl : Plain6 a) :
    ∀ e g, indepPair a h b = some (e, g) → e = g :=
  independent_blocks_plainL a h b ha (plainL_of_plain6 a hpl)

end GM.Blocks.Xs
