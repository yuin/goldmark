/-
  GM.Proof.BlocksSpecListItem — the list item parser (list_item.go): `listItemOpen` and `listItemContinue` raise no
  Go panic, and `listItemOpen` makes PROGRESS (when it answers HasChildren the cursor has passed the marker byte).
  With the facts the driver proof needs: `listItemOpen` writes only `emptyItemBlank` and DEFINITELY builds a node on a
  list-item line of a List whose indent is within 3 of the last offset; `listItemContinue` leaves the parse context
  alone when it continues, and when it answers Close the reader has not moved and one of the two reasons of
  list_item.go:66-72 holds. Every helper of this file carries the prefix `li_`.
-/
import GM.Proof.BlocksSpecList
namespace GM.Blocks
open GM GM.Text GM.Spec GM.Proof.Reader

/-! ### util.TabWidth / util.IndentWidth / util.IndentPosition -/

/-- util.IndentPosition(bs, cur, width) answers a position whenever `0 ≤ width ≤` the indent of `bs` (same `cur`) -/
theorem li_indentPosition_ok (bs : Bytes) (cur width : Int) (h0 : 0 ≤ width) (h : width ≤ (indentWidthI bs cur).1) :
    0 ≤ (indentPosition bs cur width).1 ∧ (indentPosition bs cur width).1 ≤ bs.length ∧
    (isBlank bs = false → (indentPosition bs cur width).1 < bs.length) ∧
    (0 < (indentPosition bs cur width).2 → 1 ≤ (indentPosition bs cur width).1) := by
  unfold indentPosition indentPositionPadding
  by_cases hz : (width == 0) = true
  · rw [if_pos hz]
    simp only
    refine ⟨Int.le_refl _, by omega, fun hb => ?_, fun hh => by omega⟩
    cases bs with
    | nil => simp [isBlank] at hb
    | cons b bs => simp
  · rw [if_neg hz]
    have hr := ippLoop_reach cur width bs 0 0 0 0 (Int.le_refl _) h
    have hge := ippLoop_ge cur width bs 0 0 0
    simp only
    rw [if_pos hr]
    simp only
    refine ⟨by omega, by omega, fun hb => ?_, fun hp => ?_⟩
    · have := ippLoop_lt cur width bs 0 0 0 (Int.le_refl _) hb; omega
    · rcases Int.lt_or_le 0 (ippLoop cur width bs 0 0 0).1 with h1 | h1
      · omega
      · have := ippLoop_eq cur width bs 0 0 0 (by omega); omega

/-! ### list.go: the recogniser -/

/-- what a successful `parseListItem(line)` says about its match array -/
structure li_ItemOK (line : Bytes) (m : M6) : Prop where
  r1_nonneg : 0 ≤ m.r1
  r1_le : m.r1 ≤ 3
  r2 : m.r2 = m.r1
  r13 : m.r1 < m.r3
  r3_le : m.r3 ≤ line.length
  spaces : ∀ j : Nat, (j : Int) < m.r1 → line[j]? = some 32
  marker : ∃ b, line[(m.r3 - 1).toNat]? = some b ∧ b ≠ 32 ∧ b ≠ 9 ∧ b ≠ 10
  tail : (m.r4 = -1 ∧ m.r5 = -1 ∧ m.r3 = line.length) ∨
    (m.r4 = m.r3 ∧ m.r4 < line.length ∧ m.r4 ≤ m.r5 ∧ m.r5 ≤ line.length ∧
      ∃ b, line[m.r4.toNat]? = some b ∧ (b = 10 ∨ b = 32 ∨ b = 9))

theorem ListMatchOK.itemOK {line : Bytes} {m : M6} {typ : ListTyp} (ok : ListMatchOK line m typ) : li_ItemOK line m where
  r1_nonneg := ok.r1_ge
  r1_le := ok.r1_le
  r2 := ok.r2
  r13 := by have := ok.r2; have := ok.r3_gt; omega
  r3_le := ok.r3_le
  spaces := ok.spaces
  marker := by
    obtain ⟨b, hb, _, _, hc⟩ := ok.marker
    refine ⟨b, hb, ?_⟩
    rcases hc with h | h | h | h | h <;> subst h <;> decide
  tail := by
    rcases ok.tail with h | ⟨h1, h2, h3, h4, _, h6⟩
    · exact .inl h
    · exact .inr ⟨h1, h4, h2, h3, h6⟩

/-- parser.matchesListItem (list.go:87-93), when it recognises a list item (strict or not) -/
theorem li_matchesListItem_bounds (line : Bytes) (strict : Bool) (h : (matchesListItem line strict).2 ≠ .notList) :
    li_ItemOK line (matchesListItem line strict).1 :=
  (matchesListItem_ok line strict (matchesListItem line strict).1 (matchesListItem line strict).2 rfl h).itemOK

/-- the strict and the non-strict recogniser agree: a recognised item never has 4 or more leading spaces (the test
    `match[1] < 4` of list.go:89 is always true) — `listParser.Continue` uses the non-strict one,
    `listItemParser.Continue` the strict one -/
theorem li_matchesListItem_strict (line : Bytes) : matchesListItem line true = matchesListItem line false := by
  unfold matchesListItem
  simp only
  by_cases h : (parseListItem line).2 = .notList
  · simp [h]
  · have := (parseListItem_ok line (parseListItem line).1 (parseListItem line).2 rfl h).r1_le
    have h4 : (parseListItem line).1.r1 < 4 := by omega
    simp [h, h4]

/-! ### parser.calcListOffset -/

theorem li_isBlank_take (l : Bytes) (n : Nat) (h : isBlank (l.take n) = false) : isBlank l = false := by
  cases hb : isBlank l with
  | false => rfl
  | true =>
    exfalso
    have : isBlank (l.take n) = true := by
      unfold isBlank at hb ⊢
      rw [List.all_eq_true] at hb ⊢
      exact fun x hx => hb x (List.mem_of_mem_take hx)
    rw [this] at h; cases h

theorem li_slice_ok (l : Bytes) (a b : Int) (h0 : 0 ≤ a) (h1 : a ≤ b) (h2 : b ≤ l.length) :
    slice l a b = .ok ((l.drop a.toNat).take (b.toNat - a.toNat)) := by
  unfold slice sliceB sub; rw [if_pos ⟨h0, h1, h2⟩]

/-- parser.calcListOffset (list.go:91-103) on a recognised item: total, the answer is in 0..4 — it is ≥ 1 unless the
    byte after the marker is a newline that is followed by a non-blank rest (which no line of a reader is) —, and it is
    at most the indent width of the rest of the line after the marker when that rest is not blank. -/
theorem li_calcListOffset_ok (line : Bytes) (m : M6) (lo : Int) (hm : li_ItemOK line m) :
    ∃ off, calcListOffset line m lo = .ok off ∧ 0 ≤ off ∧ off ≤ 4 ∧
      (1 ≤ off ∨ (0 ≤ m.r4 ∧ line[m.r4.toNat]? = some 10 ∧ isBlank (line.drop m.r4.toNat) = false)) ∧
      (0 ≤ m.r4 → isBlank (line.drop m.r4.toNat) = false →
        off ≤ (indentWidthI (line.drop m.r4.toNat) (lo + m.r4)).1) := by
  obtain ⟨off, h1, h2, h3, h4, h5, h6⟩ := calcListOffset_total line m lo
    (by rcases hm.tail with ⟨a, _⟩ | ⟨_, a, _⟩ <;> omega)
  refine ⟨off, h1, h2, h3, ?_, h6⟩
  rcases h4 with e | ⟨g1, g2, _⟩
  · exact .inl (by omega)
  · rcases hm.tail with ⟨a, _⟩ | ⟨_, _, _, _, b, hb, hc⟩
    · omega
    · rcases hc with e | e | e
      · exact .inr ⟨g1, by rw [hb, e], g2⟩
      · exact .inl (h5 (fun b' hb' => by rw [hb] at hb'; cases hb'; exact .inl e))
      · exact .inl (h5 (fun b' hb' => by rw [hb] at hb'; cases hb'; exact .inr e))

/-- a byte of the line that is not a space lies behind the virtual padding -/
theorem li_view_pad_le (src : Bytes) (c : RCur) (hp : c.p < src.length) {line : Bytes}
    (hline : (RCur.view src c).getD [] = line) {i : Nat} {b : UInt8} (h : line[i]? = some b) (hb : b ≠ 32) :
    c.pad ≤ i := by
  rcases Nat.lt_or_ge i c.pad with hlt | hge
  · exfalso
    rw [view_eq src c hp] at hline
    simp only [Option.getD_some] at hline
    subst hline
    rw [spaces_getElem c.pad _ i hlt] at h
    exact hb (Option.some.inj h).symm
  · exact hge

/-- a line of the reader has its newline (if any) at the very end -/
theorem li_view_nl_last (src : Bytes) (c : RCur) (hp : c.p < src.length) {line : Bytes}
    (hline : (RCur.view src c).getD [] = line) {i : Nat} (h : line[i]? = some 10) : i + 1 = line.length := by
  have hpad := li_view_pad_le src c hp hline h (by decide)
  have hvl := view_getD_length_nat src c hp
  rw [hline] at hvl
  have hi : i < line.length := by
    rcases Nat.lt_or_ge i line.length with h' | h'
    · exact h'
    · rw [List.getElem?_eq_none h'] at h; cases h
  obtain ⟨i1, i2, _, i4, _, i6⟩ := advN_within src i c hp (by omega)
  have hv := view_advN_within src i c hp (by omega)
  rw [hline, view_eq src _ i6, i2] at hv
  have e0 : c.pad - i = 0 := by omega
  rw [e0] at hv
  simp only [spaces, List.replicate_zero, List.nil_append, Option.some.injEq] at hv
  have h0 : (sub src (RCur.advN src i c).p (lineEnd src (RCur.advN src i c).p))[0]? = some 10 := by
    rw [hv]; simpa using h
  have hlt2 := lt_lineEnd src i6
  have h10 : src[(RCur.advN src i c).p]? = some 10 := by
    unfold sub at h0
    rw [List.getElem?_take_of_lt (by omega)] at h0
    simpa using h0
  have := lineEnd_nl src h10
  omega

/-- on a line of the reader the answer of `calcListOffset` is in 1..4 -/
theorem li_calcListOffset_view (src : Bytes) (c : RCur) (hp : c.p < src.length) {line : Bytes}
    (hline : (RCur.view src c).getD [] = line) (m : M6) (lo : Int) (hm : li_ItemOK line m) :
    ∃ off, calcListOffset line m lo = .ok off ∧ 1 ≤ off ∧ off ≤ 4 ∧
      (0 ≤ m.r4 → isBlank (line.drop m.r4.toNat) = false →
        off ≤ (indentWidthI (line.drop m.r4.toNat) (lo + m.r4)).1) := by
  obtain ⟨off, h1, _, h3, h4, h5⟩ := li_calcListOffset_ok line m lo hm
  refine ⟨off, h1, ?_, h3, h5⟩
  rcases h4 with h4 | ⟨_, h10, hnb⟩
  · exact h4
  · exfalso
    have hlast := li_view_nl_last src c hp hline h10
    have hlt : m.r4.toNat < line.length := by omega
    rw [List.drop_eq_getElem_cons hlt, List.drop_eq_nil_of_le (by omega)] at hnb
    rw [List.getElem?_eq_getElem hlt] at h10
    rw [Option.some.inj h10] at hnb
    exact absurd hnb (by decide)

/-! ### parser.lastOffset -/

/-- the parent List as listItemParser.Open needs it (`lastOffset(parent)`): if it has a last child, that child is a
    ListItem -/
def li_ListKidsOK (s : St) (parent : Nat) : Prop :=
  ∀ lc, (nd s parent).children.getLast? = some lc → (nd s lc).kind = .listItem

/-- the value of `lastOffset(node)` -/
def li_lastOff (s : St) (node : Nat) : Int :=
  match (nd s node).children.getLast? with
  | none => 0
  | some lc => (nd s lc).offset

theorem li_lastOffset_okl (s : St) (node : Nat) (hk : li_ListKidsOK s node) :
    OKL (fun v s' => v = li_lastOff s node ∧ s' = s) (lastOffset node s) := by
  unfold lastOffset
  refine OKL.bind (m := getNode node) (P := fun n s' => n = nd s node ∧ s = s') (OKL.ok ⟨rfl, rfl⟩)
    (fun n s0 hn => ?_)
  obtain ⟨hn, hs0⟩ := hn
  subst hn hs0
  unfold li_lastOff
  cases hl : (nd s node).children.getLast? with
  | none => exact OKL.ok ⟨rfl, rfl⟩
  | some lc =>
    simp only
    refine OKL.bind (m := getNode lc) (P := fun n s' => n = nd s lc ∧ s = s') (OKL.ok ⟨rfl, rfl⟩)
      (fun n s0 hn => ?_)
    obtain ⟨hn, hs0⟩ := hn
    subst hn hs0
    rw [if_neg (by rw [hk lc hl]; decide)]
    exact OKL.ok ⟨rfl, rfl⟩

/-- `listItemOpen`: no Go panic and progress; it writes only `emptyItemBlank`; the new item's offset is ≥ 2 and the
    cursor stays inside the source; and it DEFINITELY builds a node on a list-item line of a List whose indent is
    within 3 of the last offset -/
theorem listItemOpen_okl2 (src : Bytes) (parent : Nat) (s : St) (c : RCur) (hctx : LineCtx src s c)
    (hk : li_ListKidsOK s parent) :
    OKL (fun a s' => ∃ c', RI src s'.r c' ∧ PadOK c' ∧ c.p ≤ c'.p ∧ (a.1 = none → c' = c) ∧
        (a.2.hasChildren = true → c.p < c'.p) ∧ c'.p < src.length ∧
        s'.pc.opened = s.pc.opened ∧ s'.pc.blockOffset = s.pc.blockOffset ∧ s'.pc.tmpPara = s.pc.tmpPara ∧
        s'.pc.fence = s.pc.fence ∧
        (a.1 = none → s'.nodes = s.nodes) ∧
        (∀ id, a.1 = some id → id = s.nodes.length ∧ (nd s parent).kind = .list ∧
            ∃ n, s'.nodes = s.nodes ++ [n] ∧ n.kind = .listItem ∧ n.children = [] ∧ n.lines = [] ∧
              n.linesNil = true ∧ n.parent = none ∧ 2 ≤ n.offset) ∧
        s'.pc.skipList = s.pc.skipList ∧
        ((nd s parent).kind = .list →
          (∀ m typ, matchesListItem ((RCur.view src c).getD []) false = (m, typ) →
            typ ≠ .notList ∧ m.r1 - li_lastOff s parent ≤ 3) → a.1.isSome = true))
      (listItemOpen parent s) := by
  obtain ⟨h, hp, hpad, _, _⟩ := hctx
  unfold listItemOpen
  refine OKL.bind (m := getNode parent) (P := fun n s' => n = nd s parent ∧ s = s') (OKL.ok ⟨rfl, rfl⟩)
    (fun n s0 hn => ?_)
  obtain ⟨hn, hs0⟩ := hn
  subst hn hs0
  by_cases hkind : ((nd s parent).kind != Kind.list) = true
  · rw [if_pos hkind]
    exact OKL.ok ⟨c, h, hpad, Nat.le_refl _, fun _ => rfl, (fun hh => by cases hh), hp, rfl, rfl, rfl, rfl,
      fun _ => rfl, (fun id hid => by cases hid), rfl, fun hk' _ => by rw [hk'] at hkind; cases hkind⟩
  · rw [if_neg hkind]
    have hkl : (nd s parent).kind = Kind.list := by simpa using hkind
    refine OKL.bind (li_lastOffset_okl s parent hk) (fun offset s1 ho => ?_)
    obtain ⟨ho, hs1⟩ := ho
    rw [hs1]
    clear hs1 s1
    subst ho
    refine OKL.bind (peekLine_okl h) (fun x s1 hx => ?_)
    obtain ⟨hx, r1, hs1, h1⟩ := hx
    subst hx hs1
    simp only
    have hvl := view_getD_length_nat src c hp
    have hpadle := @li_view_pad_le src c hp
    generalize hline : (RCur.view src c).getD [] = line at hvl hpadle ⊢
    have hmb := li_matchesListItem_bounds line false
    generalize matchesListItem line false = mt at hmb ⊢
    obtain ⟨m, typ⟩ := mt
    simp only at hmb ⊢
    by_cases ht : (typ == ListTyp.notList) = true
    · rw [if_pos ht]
      exact OKL.ok ⟨c, h1, hpad, Nat.le_refl _, fun _ => rfl, (fun hh => by cases hh), hp, rfl, rfl, rfl, rfl,
        fun _ => rfl, (fun id hid => by cases hid), rfl,
        fun _ hh => absurd (by simpa using ht) (hh m typ rfl).1⟩
    · rw [if_neg ht]
      have hm := hmb (by simpa using ht)
      by_cases h3 : m.r1 - li_lastOff s parent > 3
      · rw [if_pos (by simpa using h3)]
        exact OKL.ok ⟨c, h1, hpad, Nat.le_refl _, fun _ => rfl, (fun hh => by cases hh), hp, rfl, rfl, rfl, rfl,
          fun _ => rfl, (fun id hid => by cases hid), rfl,
          fun _ hh => by have := (hh m typ rfl).2; omega⟩
      · rw [if_neg (by simpa using h3)]
        refine OKL.bind (m := modPc fun pc => { pc with emptyItemBlank := false })
          (P := fun _ s' => s' = { s with r := r1, pc := { s.pc with emptyItemBlank := false } })
          (OKL.ok rfl) (fun _ s2 hs2 => ?_)
        subst hs2
        refine OKL.bind (lineOffset_okl
          (s := { s with r := r1, pc := { s.pc with emptyItemBlank := false } }) h1) (fun lo s3 hlo => ?_)
        obtain ⟨_, r3, hs3, h3'⟩ := hlo
        subst hs3
        simp only
        obtain ⟨off, hoff, hoff1, _, hoffw⟩ := li_calcListOffset_view src c hp hline m lo hm
        have hoff0 : 0 ≤ off := by omega
        refine OKL.bind (liftE_okl (P := fun a s' => a = off ∧
          s' = { s with r := r3, pc := { s.pc with emptyItemBlank := false } }) hoff ⟨rfl, rfl⟩)
          (fun a s4 ha => ?_)
        obtain ⟨ha, hs4⟩ := ha
        subst ha hs4
        refine OKL.bind (m := newNode { kind := Kind.listItem, offset := m.r3 + a })
          (P := fun id s' => id = s.nodes.length ∧
            s' = { r := r3, nodes := s.nodes ++ [({ kind := Kind.listItem, offset := m.r3 + a } : Node)],
                   pc := { s.pc with emptyItemBlank := false } })
          (OKL.ok ⟨rfl, rfl⟩) (fun id s5 hs5 => ?_)
        obtain ⟨hid, hs5⟩ := hs5
        subst hid hs5
        have hr1 := hm.r1_nonneg
        have hr13 := hm.r13
        have hnode : ∀ id, some s.nodes.length = some id → id = s.nodes.length ∧ (nd s parent).kind = .list ∧
            ∃ n, s.nodes ++ [({ kind := Kind.listItem, offset := m.r3 + a } : Node)] = s.nodes ++ [n] ∧
              n.kind = .listItem ∧ n.children = [] ∧ n.lines = [] ∧ n.linesNil = true ∧ n.parent = none ∧
              2 ≤ n.offset := by
          intro id hid
          cases hid
          exact ⟨rfl, hkl, _, rfl, rfl, rfl, rfl, rfl, rfl, by simp only; omega⟩
        by_cases h4 : m.r4 < 0
        · rw [if_pos (by simpa using h4)]
          exact OKL.ok ⟨c, h3', hpad, Nat.le_refl _, fun _ => rfl, (fun hh => by cases hh), hp, rfl, rfl, rfl, rfl,
            (fun hh => by cases hh), hnode, rfl, fun _ _ => rfl⟩
        · rw [if_neg (by simpa using h4)]
          rcases hm.tail with ⟨e4, _, _⟩ | ⟨e43, h4lt, h45, h5le, _⟩
          · omega
          have hsl := li_slice_ok line m.r4 m.r5 (by omega) h45 h5le
          refine OKL.bind (liftE_okl (P := fun v s' => v = (line.drop m.r4.toNat).take (m.r5.toNat - m.r4.toNat) ∧
            s' = { r := r3, nodes := s.nodes ++ [({ kind := Kind.listItem, offset := m.r3 + a } : Node)],
                   pc := { s.pc with emptyItemBlank := false } }) hsl ⟨rfl, rfl⟩) (fun v s6 hv => ?_)
          obtain ⟨hv, hs6⟩ := hv
          subst hv hs6
          by_cases hbl : isBlank ((line.drop m.r4.toNat).take (m.r5.toNat - m.r4.toNat)) = true
          · rw [if_pos hbl]
            exact OKL.ok ⟨c, h3', hpad, Nat.le_refl _, fun _ => rfl, (fun hh => by cases hh), hp, rfl, rfl, rfl, rfl,
              (fun hh => by cases hh), hnode, rfl, fun _ _ => rfl⟩
          · rw [if_neg hbl]
            have hnb : isBlank (line.drop m.r4.toNat) = false :=
              li_isBlank_take _ _ (by cases hh : isBlank _ with
                | true => exact absurd hh hbl
                | false => rfl)
            refine OKL.bind (liftE_okl (P := fun v s' => v = line.drop m.r4.toNat ∧
              s' = { r := r3, nodes := s.nodes ++ [({ kind := Kind.listItem, offset := m.r3 + a } : Node)],
                     pc := { s.pc with emptyItemBlank := false } })
              (sliceFrom_ok line m.r4 (by omega) (by omega)) ⟨rfl, rfl⟩) (fun v s7 hv => ?_)
            obtain ⟨hv, hs7⟩ := hv
            subst hv hs7
            obtain ⟨hq0, hq1, hq2, hq3⟩ :=
              li_indentPosition_ok (line.drop m.r4.toNat) (lo + m.r4) a hoff0 (hoffw (by omega) hnb)
            have hq2' := hq2 hnb
            generalize indentPosition (line.drop m.r4.toNat) (lo + m.r4) a = pp at hq0 hq1 hq2' hq3 ⊢
            obtain ⟨pos, padding⟩ := pp
            simp only [List.length_drop] at hq0 hq1 hq2' hq3 ⊢
            -- the marker byte lies behind the virtual padding
            obtain ⟨mb, hmb1, hmb2, _, _⟩ := hm.marker
            have hpm := hpadle rfl hmb1 hmb2
            have hch0 : 0 ≤ m.r3 + pos := by omega
            have hchlt : (m.r3 + pos).toNat + 1 ≤ c.pad + (lineEnd src c.p - c.p) := by omega
            obtain ⟨hw1, hw2, hw3⟩ := advPadCur_within (src := src) (c := c) hp hpad (pos := m.r3 + pos)
              (padding := padding) hchlt (fun _ => by omega)
            have hprog : c.p < (advPadCur src (m.r3 + pos) padding c).p := by
              have := advN_progress src (m.r3 + pos).toNat c hp (by omega)
              unfold advPadCur
              simp only
              split <;> exact this
            refine OKL.bind (advanceAndSetPadding_okl
              (s := { r := r3, nodes := s.nodes ++ [({ kind := Kind.listItem, offset := m.r3 + a } : Node)],
                      pc := { s.pc with emptyItemBlank := false } }) h3' hch0 padding) (fun _ s8 hs8 => ?_)
            obtain ⟨r8, hs8, h8⟩ := hs8
            subst hs8
            exact OKL.ok ⟨_, h8, hw3, hw2, (fun hh => by cases hh), fun _ => hprog, hw1, rfl, rfl, rfl, rfl,
              (fun hh => by cases hh), hnode, rfl, fun _ _ => rfl⟩

theorem listItemOpen_okl (src : Bytes) (parent : Nat) (s : St) (c : RCur) (h : LineCtx src s c)
    (hk : li_ListKidsOK s parent) :
    OKL (fun a s' => ∃ c', RI src s'.r c' ∧ PadOK c' ∧ c.p ≤ c'.p ∧ (a.1 = none → c' = c) ∧
        (a.2.hasChildren = true → c.p < c'.p) ∧                         -- PROGRESS: the marker byte is consumed
        s'.pc.opened = s.pc.opened ∧ s'.pc.blockOffset = s.pc.blockOffset ∧ s'.pc.tmpPara = s.pc.tmpPara ∧
        s'.pc.fence = s.pc.fence ∧
        (a.1 = none → s'.nodes = s.nodes) ∧
        (∀ id, a.1 = some id → id = s.nodes.length ∧ (nd s parent).kind = .list ∧
            ∃ n, s'.nodes = s.nodes ++ [n] ∧ n.kind = .listItem ∧ n.children = [] ∧ n.lines = [] ∧
              n.linesNil = true ∧ n.parent = none))
      (listItemOpen parent s) := by
  refine (listItemOpen_okl2 src parent s c h hk).mono (fun a s' hq => ?_)
  obtain ⟨c', q1, q2, q3, q4, q5, _, q7, q8, q9, q10, q11, q12, _⟩ := hq
  refine ⟨c', q1, q2, q3, q4, q5, q7, q8, q9, q10, q11, fun id hid => ?_⟩
  obtain ⟨e1, e2, n, e3, e4, e5, e6, e7, e8, _⟩ := q12 id hid
  exact ⟨e1, e2, n, e3, e4, e5, e6, e7, e8⟩

/-- what `listParser.Continue` has established on the same line before `listItemParser.Continue` runs for the last item
    `node` of the list `p`: on a non-blank line it has NOT seen one of the two situations in which it answers Close
    and in which list_item.go:75 would get `IndentPosition = -1` -/
def li_ListContinued (src : Bytes) (s : St) (c : RCur) (node p : Nat) : Prop :=
  let line := (RCur.view src c).getD []
  let indent := (indentWidthI line (loVal src c)).1
  let offset := li_lastOff s p
  let isEmpty := ((nd s node).children.length == 0 && s.pc.emptyItemBlank)
  isBlank line = false →
    ¬ (indent < offset ∧ 4 ≤ indent) ∧
    ¬ (isEmpty = true ∧ indent < offset ∧ indent < 4 ∧ (matchesListItem line true).2 = .notList)

/-- `listItemContinue`: no Go panic; it leaves the parse context alone when it continues, and when it answers Close the
    reader has not moved and one of the two reasons of list_item.go:66-72 holds -/
theorem listItemContinue_okl2 (src : Bytes) (node : Nat) (s : St) (c : RCur) (h : RI src s.r c) (hpad : PadOK c)
    (hlt : c.p < src.length) (p : Nat) (hp : (nd s node).parent = some p) (hk : li_ListKidsOK s p)
    (hoff : 0 ≤ li_lastOff s p) (hlist : li_ListContinued src s c node p) :
    OKL (fun st s' => ∃ c', RI src s'.r c' ∧ PadOK c' ∧ c.p ≤ c'.p ∧ s'.nodes = s.nodes ∧
        s'.pc.opened = s.pc.opened ∧ s'.pc.tmpPara = s.pc.tmpPara ∧ s'.pc.fence = s.pc.fence ∧
        (st.cont = true → st.hasChildren = true) ∧
        (st.cont = true → s'.pc = s.pc) ∧
        (st.cont = false → c' = c ∧ isBlank ((RCur.view src c).getD []) = false ∧
          s'.pc.emptyItemBlank = s.pc.emptyItemBlank ∧ s'.pc.blockOffset = s.pc.blockOffset ∧
          ((s'.pc.skipList = true ∧ (matchesListItem ((RCur.view src c).getD []) true).2 ≠ .notList ∧
              (indentWidthI ((RCur.view src c).getD []) (loVal src c)).1 < 4 ∧
              (((nd s node).children.length == 0 && s.pc.emptyItemBlank) = true ∨
                (indentWidthI ((RCur.view src c).getD []) (loVal src c)).1 < li_lastOff s p)) ∨
           (s'.pc = s.pc ∧ ((nd s node).children.length == 0 && s.pc.emptyItemBlank) = false ∧
              (indentWidthI ((RCur.view src c).getD []) (loVal src c)).1 < li_lastOff s p ∧
              (indentWidthI ((RCur.view src c).getD []) (loVal src c)).1 < 4 ∧
              (matchesListItem ((RCur.view src c).getD []) true).2 = .notList))))
      (listItemContinue node s) := by
  unfold listItemContinue
  refine OKL.bind (peekLine_okl h) (fun x s1 hx => ?_)
  obtain ⟨hx, r1, hs1, h1⟩ := hx
  subst hx hs1
  simp only
  have hvl := view_getD_length_nat src c hlt
  unfold li_ListContinued at hlist
  simp only at hlist
  generalize hline : (RCur.view src c).getD [] = line at hvl hlist ⊢
  by_cases hbl : isBlank line = true
  · rw [if_pos hbl]
    have hlen : 0 ≤ (line.length : Int) - 1 := by have := lt_lineEnd src hlt; omega
    refine OKL.bind (advance_okl (s := { s with r := r1 }) h1 hlen) (fun _ s2 hs2 => ?_)
    obtain ⟨r2, hs2, h2⟩ := hs2
    subst hs2
    exact OKL.ok ⟨_, h2, hpad.advN h1.inRange _, (advN_mono src _ c h1.inRange).1, rfl, rfl, rfl, rfl, (fun _ => rfl),
      (fun _ => rfl), fun hh => by cases hh⟩
  · rw [if_neg hbl]
    have hnb : isBlank line = false := by
      cases hh : isBlank line with
      | true => exact absurd hh hbl
      | false => rfl
    obtain ⟨hbad1, hbad2⟩ := hlist hnb
    refine OKL.bind (m := getNode node) (P := fun n s' => n = nd s node ∧ s' = { s with r := r1 })
      (OKL.ok ⟨rfl, rfl⟩) (fun n s2 hn => ?_)
    obtain ⟨hn, hs2⟩ := hn
    subst hn hs2
    rw [hp]
    simp only
    refine OKL.bind (li_lastOffset_okl { s with r := r1 } p hk) (fun offset s3 ho => ?_)
    obtain ⟨ho, hs3⟩ := ho
    rw [hs3]
    clear hs3 s3
    have ho' : offset = li_lastOff s p := ho
    subst ho'
    refine OKL.bind (m := getPc) (P := fun pc s' => pc = s.pc ∧ s' = { s with r := r1 })
      (OKL.ok ⟨rfl, rfl⟩) (fun pc s4 hpc => ?_)
    obtain ⟨hpc, hs4⟩ := hpc
    subst hpc hs4
    refine OKL.bind (lineOffset_okl (s := { s with r := r1 }) h1) (fun lo s5 hlo => ?_)
    obtain ⟨hlov, r5, hs5, h5⟩ := hlo
    have hlov' := hlov hlt
    subst hlov' hs5
    simp only
    clear hlov ho
    generalize hind : (indentWidthI line (loVal src c)).1 = indent at hbad1 hbad2 ⊢
    generalize ((nd s node).children.length == 0 && s.pc.emptyItemBlank) = isEmpty at hbad2 ⊢
    -- list_item.go:75-77, reached with `offset ≤ indent`
    have tail : li_lastOff s p ≤ indent →
        OKL (fun st s' => ∃ c', RI src s'.r c' ∧ PadOK c' ∧ c.p ≤ c'.p ∧ s'.nodes = s.nodes ∧
            s'.pc = s.pc ∧ st = stContinueHasChildren)
          ((advanceAndSetPadding (indentPosition line (loVal src c) (li_lastOff s p)).1
              (indentPosition line (loVal src c) (li_lastOff s p)).2 >>= fun _ => pure stContinueHasChildren)
            { s with r := r5 }) := by
      intro hle
      obtain ⟨q0, q1, q2, q3⟩ := li_indentPosition_ok line (loVal src c) (li_lastOff s p) hoff (by rw [hind]; exact hle)
      have q2' := q2 hnb
      generalize indentPosition line (loVal src c) (li_lastOff s p) = pp at q0 q1 q2' q3 ⊢
      obtain ⟨pos, padding⟩ := pp
      simp only at q0 q1 q2' q3 ⊢
      obtain ⟨hw1, hw2, hw3⟩ := advPadCur_within (src := src) (c := c) hlt hpad (pos := pos)
        (padding := padding) (by omega) q3
      refine OKL.bind (advanceAndSetPadding_okl (s := { s with r := r5 }) h5 q0 padding) (fun _ s8 hs8 => ?_)
      obtain ⟨r8, hs8, h8⟩ := hs8
      subst hs8
      exact OKL.ok ⟨_, h8, hw3, hw2, rfl, rfl, rfl⟩
    by_cases hc1 : ((isEmpty || decide (indent < li_lastOff s p)) && decide (indent < 4)) = true
    · rw [if_pos hc1]
      simp only [Bool.and_eq_true, Bool.or_eq_true, decide_eq_true_eq] at hc1
      by_cases hc2 : ((matchesListItem line true).2 != ListTyp.notList) = true
      · rw [if_pos hc2]
        simp only [bind, StateT.bind, modPc, pure, StateT.pure, Except.bind, Except.pure]
        exact OKL.ok ⟨c, h5, hpad, Nat.le_refl _, rfl, rfl, rfl, rfl, (fun hh => by cases hh),
          (fun hh => by cases hh), fun _ => ⟨rfl, hnb, rfl, rfl, .inl ⟨rfl, by simpa using hc2, hc1.2, hc1.1⟩⟩⟩
      · rw [if_neg hc2]
        have hnl : (matchesListItem line true).2 = ListTyp.notList := by simpa using hc2
        by_cases hc3 : (!isEmpty) = true
        · rw [if_pos hc3]
          have hne : isEmpty = false := by simpa using hc3
          have hio : indent < li_lastOff s p := by
            rcases hc1.1 with e | e
            · rw [hne] at e; cases e
            · exact e
          exact OKL.ok ⟨c, h5, hpad, Nat.le_refl _, rfl, rfl, rfl, rfl, (fun hh => by cases hh),
            (fun hh => by cases hh), fun _ => ⟨rfl, hnb, rfl, rfl, .inr ⟨rfl, hne, hio, hc1.2, hnl⟩⟩⟩
        · rw [if_neg hc3]
          have hemp : isEmpty = true := by simpa using hc3
          refine (tail ?_).mono (fun st s' hq => ?_)
          · rcases Int.lt_or_le indent (li_lastOff s p) with hh | hh
            · exact absurd ⟨hemp, hh, hc1.2, hnl⟩ hbad2
            · exact hh
          · obtain ⟨c', q1, q2, q3, q4, q5, q6⟩ := hq
            subst q6
            exact ⟨c', q1, q2, q3, q4, by rw [q5], by rw [q5], by rw [q5], (fun _ => rfl), (fun _ => q5),
              fun hh => by cases hh⟩
    · rw [if_neg hc1]
      refine (tail ?_).mono (fun st s' hq => ?_)
      · rcases Int.lt_or_le indent (li_lastOff s p) with hh | hh
        · exfalso
          apply hc1
          have : indent < 4 := by
            rcases Int.lt_or_le indent 4 with h4 | h4
            · exact h4
            · exact absurd ⟨hh, h4⟩ hbad1
          simp [hh, this]
        · exact hh
      · obtain ⟨c', q1, q2, q3, q4, q5, q6⟩ := hq
        subst q6
        exact ⟨c', q1, q2, q3, q4, by rw [q5], by rw [q5], by rw [q5], (fun _ => rfl), (fun _ => q5),
          fun hh => by cases hh⟩

theorem listItemContinue_okl (src : Bytes) (node : Nat) (s : St) (c : RCur) (h : RI src s.r c) (hpad : PadOK c)
    (hlt : c.p < src.length) (p : Nat) (hp : (nd s node).parent = some p) (hk : li_ListKidsOK s p)
    (hoff : 0 ≤ li_lastOff s p) (hlist : li_ListContinued src s c node p) :
    OKL (fun st s' => ∃ c', RI src s'.r c' ∧ PadOK c' ∧ c.p ≤ c'.p ∧ s'.nodes = s.nodes ∧
        s'.pc.opened = s.pc.opened ∧ s'.pc.tmpPara = s.pc.tmpPara ∧ s'.pc.fence = s.pc.fence ∧
        (st.cont = true → st.hasChildren = true))
      (listItemContinue node s) := by
  refine (listItemContinue_okl2 src node s c h hpad hlt p hp hk hoff hlist).mono (fun st s' hq => ?_)
  obtain ⟨c', q1, q2, q3, q4, q5, q6, q7, q8, _⟩ := hq
  exact ⟨c', q1, q2, q3, q4, q5, q6, q7, q8⟩

end GM.Blocks
