/-
  GM.Proof.ConvertFDiscRun — The close discipline of the block driver with the footnote block parser: the driver meets the interface `Disc` of GM.Proof.BlocksDriverGDisc (`discF`), so
  at the end of the block phase the invariant `FJ` holds and the open-block stack is empty (`runF_disc`).
-/
import GM.Proof.ConvertFDisc
import GM.Proof.BlocksDriverGDisc
import GM.Proof.ConvertHWFRun
import GM.Proof.BlocksDriverGRun

section DiscInstance

namespace GM.ConvertF
open GM GM.Text GM.Blocks GM.Convert GM.ConvertH

theorem kindOf_bq (bp : BP) (h : BP.kindOf bp = .blockquote) : bp = .blockquote := by
  cases bp <;> simp [BP.kindOf] at h <;> rfl

/-! ### what a stretch of the driver without `Open` does -/

structure StepD (f : FS) (s : St) (f' : FS) (s' : St) : Prop where
  ks : KS s s'
  opened : s'.pc.opened = s.pc.opened
  refs : f'.refs = f.refs
  fm : FM f f'
  edges : ∀ p c, c ∈ (ndx s' p).children → f.isFn c = true → c ∈ (ndx s p).children ∨ f'.list = some p

theorem StepD.refl (f : FS) (s : St) : StepD f s f s := ⟨KS.refl _, rfl, rfl, FM.refl _, fun _ _ h _ => Or.inl h⟩

theorem isFn_refs {f f' : FS} (h : f'.refs = f.refs) (x : Nat) : f'.isFn x = f.isFn x := by unfold FS.isFn; rw [h]

theorem StepD.trans {a : FS} {sa : St} {b : FS} {sb : St} {c : FS} {sc : St} (h1 : StepD a sa b sb) (h2 : StepD b sb c sc) :
    StepD a sa c sc :=
  ⟨h1.ks.trans h2.ks, h2.opened.trans h1.opened, h2.refs.trans h1.refs, h1.fm.trans h2.fm, fun p x hx hfn => by
    rcases h2.edges p x hx (by rw [isFn_refs h1.refs]; exact hfn) with h | h
    · rcases h1.edges p x h hfn with h' | h'
      · exact Or.inl h'
      · exact Or.inr (h2.fm.2 p h')
    · exact Or.inr h⟩

theorem StepD.of_stepB {f : FS} {s s' : St} (j : FJ f s) (st : StepB s s') : StepD f s f s' :=
  ⟨st.ks, st.opened, rfl, FM.refl _, fun p c hc hfn => by
    have hv := (isFn_valid j.ids hfn).2
    exact Or.inl (st.edges p c hc (by rw [st.kind c hv]; exact j.kfn c hfn) hv)⟩

/-- a block of the stack is done: if its node is a Footnote, every child edge to it comes from the list -/
def Done (f : FS) (s : St) (b : Block) : Prop :=
  f.isFn b.node = true → ∀ q, b.node ∈ (ndx s q).children → f.list = some q

theorem Done.stable {f f' : FS} {s s' : St} {b : Block} (d : Done f s b) (st : StepD f s f' s') : Done f' s' b := by
  intro hfn q hq
  rw [isFn_refs st.refs] at hfn
  rcases st.edges q b.node hq hfn with h | h
  · exact st.fm.2 q (d hfn q h)
  · exact h

/-- removing closed slots from the stack keeps the invariant -/
theorem FJ.remove {f : FS} {s : St} (j : FJ f s) (blocks' : List Block) (hsub : ∀ b ∈ blocks', b ∈ s.pc.opened)
    (hdone : ∀ b ∈ s.pc.opened, b ∉ blocks' → Done f s b) :
    FJ f { s with pc := { s.pc with opened := blocks' } } := by
  refine ⟨⟨j.wf.edge, j.wf.nodup, j.wf.root, j.wf.ne, j.wf.rootKind⟩, j.ids, j.kfn, j.klist, j.nl, fun p c hc hfn => ?_,
    fun b hb => j.pn b (hsub b hb)⟩
  rcases j.ein p c hc hfn with h | ⟨b, hb, rfl⟩
  · exact Or.inl h
  · by_cases hin : b ∈ blocks'
    · exact Or.inr ⟨b, hin, rfl⟩
    · exact Or.inl (hdone b hb hin hfn p hc)

/-! ### `Close` through the dispatch -/

theorem bpCloseF_spec (bp : BP) (node : Nat) (f : FS) (s : St) (a : Unit) (f' : FS) (s' : St) (j : FJ f s)
    (hpn : PNb { node := node, bp := bp } s) (e : bpCloseF bp node f s = .ok ((a, f'), s')) :
    FJ f' s' ∧ StepD f s f' s' ∧ Done f' s' { node := node, bp := bp } := by
  unfold bpCloseF at e
  obtain ⟨f0, f1, s1, e0, ee⟩ := Hoare.bind_ok₂ e
  obtain ⟨h0, h1, h2⟩ := getF_ok e0
  subst h0 h1 h2
  by_cases hfn : f.isFn node = true
  · rw [if_pos hfn] at ee
    obtain ⟨a1, a2, a3, a4, a5, a6, a7⟩ := fnClose_spec node f s a f' s' j hfn ee
    exact ⟨a1, ⟨a3, a4, a5, a2, a6⟩, fun _ q hq => a7 q hq⟩
  · rw [if_neg hfn] at ee
    obtain ⟨rfl, ex⟩ := upF_ok' ee
    have st : StepB s s' := StepB.of (.of_stepR ((bpClose_stp bp node).h s a s' ex)) ((bpClose_br bp node).h s a s' ex)
      (fun i hi => by
        obtain ⟨rfl, hne⟩ := hi
        refine ⟨hpn.1, fun hk => hne (kindOf_bq bp ?_)⟩
        rw [← hpn.2]; exact hk)
    exact ⟨j.step st, .of_stepB j st, fun h => absurd h hfn⟩

/-! ### `Open` through the dispatch -/

/-- the open-block stack stays -/
structure OSF {α : Type} (m : MF α) : Prop where
  h : ∀ f s a f' s', m f s = .ok ((a, f'), s') → s'.pc.opened = s.pc.opened

theorem OSF.pure {α} (a : α) : OSF (Pure.pure a : MF α) := ⟨fun f s _ _ _ e => by cases e; rfl⟩
theorem OSF.throw {α} (e : Panic) : OSF (throw e : MF α) := ⟨fun _ _ _ _ _ e' => by cases e'⟩
theorem osf_getF : OSF getF := ⟨fun f s _ _ _ e => by cases e; rfl⟩
theorem osf_setF (g : FS) : OSF (setF g) := ⟨fun f s _ _ _ e => by cases e; rfl⟩
theorem OSF.up {α} {W : Nat → Prop} {x : M α} (hb : Br W x) : OSF (GM.ConvertF.up x) :=
  ⟨fun f s a f' s' e => by obtain ⟨_, ex⟩ := upF_ok' e; exact (hb.h s a s' ex).opened⟩
theorem OSF.bind {α β} {m : MF α} {k : α → MF β} (hm : OSF m) (hk : ∀ a, OSF (k a)) : OSF (m >>= k) :=
  ⟨fun f s b f'' s'' e => by
    obtain ⟨a, f', s', e1, e2⟩ := Hoare.bind_ok₂ e
    rw [(hk a).h f' s' b f'' s'' e2, hm.h f s a f' s' e1]⟩
theorem OSF.ite {α} {c : Prop} [Decidable c] {a b : MF α} (ha : OSF a) (hb : OSF b) : OSF (if c then a else b) := by
  split <;> assumption

macro "osf_step" : tactic =>
  `(tactic| first
    | with_reducible exact OSF.pure _
    | with_reducible exact OSF.throw _
    | with_reducible exact osf_getF
    | with_reducible exact osf_setF _
    | apply_hyp
    | ((with_reducible refine OSF.up (W := fun _ => False) ?_); first
        | br0_leaf
        | ((with_reducible apply newNode_br) <;> first | rfl | (intro _; rfl)))
    | with_reducible apply OSF.bind
    | with_reducible apply OSF.ite
    | intro _
    | split)
macro "osf" : tactic => `(tactic| repeat' osf_step)

theorem fnOpen_osf (parent : Nat) : OSF (fnOpen parent) := by unfold fnOpen; osf

theorem bpOpenF_spec (bp : BPF) (parent : Nat) (f : FS) (s : St) (r : Option Nat × PState) (f' : FS) (s' : St) (j : FJ f s)
    (e : bpOpenF bp parent f s = .ok ((r, f'), s')) :
    FJ f' s' ∧ FM f f' ∧ KS s s' ∧ s'.pc.opened = s.pc.opened ∧ ∀ nd, r.1 = some nd → PNb { node := nd, bp := bp.tag } s' := by
  cases bp with
  | footnote =>
    obtain ⟨a1, a2, a3, a4⟩ := (fnOpen_gj (P := fun _ => True) stb_true parent).h f s r f' s' j trivial e
    exact ⟨a1, a2, a3, (fnOpen_osf parent).h f s r f' s' e, a4⟩
  | core bp =>
    have e' : (GM.ConvertF.up (bpOpen bp parent)) f s = .ok ((r, f'), s') := e
    obtain ⟨rfl, ex⟩ := upF_ok' e'
    obtain ⟨hlr, hid⟩ := (bpOpen_oj bp parent).h s r s' ex
    have st : StepB s s' := StepB.of (W := fun _ => False) (.of_lr hlr) ((bpOpen_br bp parent).h s r s' ex) (fun _ h => h.elim)
    exact ⟨j.step st, FM.refl _, st.ks, st.opened, fun nd hnd => ⟨(hid nd hnd).2.1, (hid nd hnd).2.2⟩⟩

/-- parser.go:1004-1008: `parent.AppendChild(parent, node)` and the push on the open-block stack, for a node `Open` has
    just answered -/
theorem push_spec (parent node : Nat) (bp : BP) (f : FS) (s s1 : St) (j : FJ f s) (hpn : PNb { node := node, bp := bp } s)
    (e : appendChild parent node s = .ok ((), s1)) :
    FJ f { s1 with pc := { s1.pc with opened := s1.pc.opened ++ [{ node := node, bp := bp }] } } ∧ KS s s1 := by
  have op := appendChild_op parent node s s1 e
  have hl := (appendChild_treeOps e).linesx
  have hn0 : node ≠ 0 := by
    intro e0; subst e0
    have := hpn.2
    rw [j.wf.rootKind] at this
    exact kindOf_ne_document bp this.symm
  have w1 := op.wf j.wf hpn.1 hn0
  have ks : KS s s1 := ⟨Nat.le_of_eq op.len.symm, fun i _ => op.kind i⟩
  have ks' : KS s { s1 with pc := { s1.pc with opened := s1.pc.opened ++ [{ node := node, bp := bp }] } } :=
    ⟨ks.len, ks.kind⟩
  refine ⟨⟨⟨w1.edge, w1.nodup, w1.root, w1.ne, w1.rootKind⟩, idsOK_ks j.ids ks', fun x hx => ?_, fun l hl' => ?_, fun i hk => ?_,
    fun p c hc hfn => ?_, fun b hb => ?_⟩, ks⟩
  · show (ndx s1 x).kind = _
    rw [op.kind]; exact j.kfn x hx
  · show (ndx s1 l).kind = _
    rw [op.kind]; exact j.klist l hl'
  · show (ndx s1 i).lines = _
    rw [hl]; exact j.nl i (by rw [← op.kind]; exact hk)
  · have hc' : c ∈ (ndx s1 p).children := hc
    rcases op.edges p c hc' with e1 | ⟨_, rfl⟩
    · rcases j.ein p c e1 hfn with a | ⟨b, hb, rfl⟩
      · exact Or.inl a
      · exact Or.inr ⟨b, by simp only [op.pc]; exact List.mem_append_left _ hb, rfl⟩
    · exact Or.inr ⟨_, List.mem_append_right _ (List.mem_singleton.2 rfl), rfl⟩
  · simp only [op.pc] at hb
    rcases List.mem_append.1 hb with hb | hb
    · exact (j.pn b hb).ks ks'
    · rw [List.mem_singleton] at hb
      subst hb
      exact hpn.ks ks'

/-! ### `Continue` through the dispatch -/

/-- keeps the invariant and the stack (given the facts `P`) -/
structure OSJ (P : St → Prop) {α : Type} (m : MF α) : Prop where
  h : ∀ f s a f' s', FJ f s → P s → m f s = .ok ((a, f'), s') → FJ f' s' ∧ FM f f' ∧ KS s s' ∧ s'.pc.opened = s.pc.opened

section
variable {P : St → Prop}

theorem OSJ.pure {α} (a : α) : OSJ P (Pure.pure a : MF α) :=
  ⟨fun f s _ _ _ j _ e => by cases e; exact ⟨j, FM.refl _, KS.refl _, rfl⟩⟩

theorem OSJ.up {α} {W : Nat → Prop} {x : M α} (hx : Wk x) (hb : Br W x)
    (hW : ∀ s, P s → ∀ i, W i → i < s.nodes.length ∧ (ndx s i).kind ≠ .blockquote) : OSJ P (GM.ConvertF.up x) := by
  constructor
  intro f s a f' s' j hp e
  obtain ⟨rfl, ex⟩ := upF_ok' e
  have st := StepB.of (hx.h s a s' ex) (hb.h s a s' ex) (hW s hp)
  exact ⟨j.step st, FM.refl _, st.ks, st.opened⟩

theorem OSJ.up0 {α} {x : M α} (hx : Wk x) (hb : Br (fun _ => False) x) : OSJ P (GM.ConvertF.up x) :=
  OSJ.up hx hb (fun _ _ _ h => h.elim)

theorem OSJ.bind {α β} {m : MF α} {k : α → MF β} (hP : Stb P) (hm : OSJ P m) (hk : ∀ a, OSJ P (k a)) : OSJ P (m >>= k) := by
  constructor
  intro f s b f'' s'' j hp e
  obtain ⟨a, f', s', e1, e2⟩ := Hoare.bind_ok₂ e
  obtain ⟨j1, m1, k1, o1⟩ := hm.h f s a f' s' j hp e1
  obtain ⟨j2, m2, k2, o2⟩ := (hk a).h f' s' b f'' s'' j1 (hP _ _ k1 hp) e2
  exact ⟨j2, m1.trans m2, k1.trans k2, o2.trans o1⟩

theorem OSJ.ite {α} {c : Prop} [Decidable c] {a b : MF α} (ha : OSJ P a) (hb : OSJ P b) : OSJ P (if c then a else b) := by
  split <;> assumption

theorem osj_getF : OSJ P getF := ⟨fun f s _ _ _ j _ e => by cases e; exact ⟨j, FM.refl _, KS.refl _, rfl⟩⟩

theorem fnContinue_osj (hP : Stb P) (node : Nat) : OSJ P (fnContinue node) := by
  unfold fnContinue
  repeat' first
    | exact OSJ.pure _
    | (refine OSJ.up0 ?_ ?_ <;> first | wk_leaf | br0_leaf)
    | (with_reducible apply OSJ.bind hP)
    | with_reducible apply OSJ.ite
    | intro _
    | split

/-- `be.Parser.Continue(be.Node, …)` for a block that was on the stack -/
theorem bpContinueF_osj (hP : Stb P) (bp : BP) (node : Nat) (hp : ∀ s, P s → PNb { node := node, bp := bp } s) :
    OSJ P (bpContinueF bp node) := by
  unfold bpContinueF
  apply OSJ.bind hP osj_getF
  intro f
  apply OSJ.ite
  · exact fnContinue_osj hP node
  · refine OSJ.up (Wk.of_stp (bpContinue_stp bp node)) (bpContinue_br bp node) (fun s hs i hi => ?_)
    obtain ⟨rfl, hne⟩ := hi
    have := hp s hs
    refine ⟨this.1, fun hk => hne (kindOf_bq bp ?_)⟩
    rw [← this.2]; exact hk

end

section
variable (pts : List PT) (hpts : ∀ pt ∈ pts, PTStp pt) (hptb : ∀ pt ∈ pts, PTBr pt)
include hpts hptb

theorem transformParagraph_stepB (node : Nat) (s : St) (a : Bool) (s' : St) (hv : node < s.nodes.length)
    (hk : (ndx s node).kind = .paragraph) (e : transformParagraph pts node s = .ok (a, s')) : StepB s s' :=
  StepB.of (.of_stepR ((transformParagraph_stp pts hpts node).h s a s' e)) ((transformParagraph_br pts hptb node).h s a s' e)
    (fun i hi => by subst hi; exact ⟨hv, by rw [hk]; decide⟩)

/-- the interface of GM.Proof.BlocksDriverGDisc for the driver with the footnote block parser: a stretch without `Open` is
    `StepD`; a slot is done when every child edge to its Footnote comes from the FootnoteList -/
theorem discF (on : Bool) : Disc (hooksF on pts) FJ StepD (fun f s f' s' => FM f f' ∧ KS s s') PNb PNb Done where
  refl := StepD.refl
  trans := StepD.trans
  opened := fun d => d.opened
  wrefl := fun _ _ => ⟨FM.refl _, KS.refl _⟩
  wtrans := fun a b => ⟨a.1.trans b.1, a.2.trans b.2⟩
  dw := fun d => ⟨d.fm, d.ks⟩
  weak := fun _ d => ⟨d.fm, d.ks.len, d.ks.kind⟩
  valid := fun w v => v.ks w.2
  valid_pc := fun _ v => v
  ovalid := fun j => j.pn
  vn := fun w v => v.ks w.2
  stable := fun _ _ d dn => dn.stable d
  orphan := fun {f s b} j hpar => fun _ q hc => absurd (by
    have := (j.wf.edge q b.node hc).2
    simp only [ndx] at this
    rw [this]; rfl) hpar
  para_done := fun {f s b} j hk => fun hfn => by have := j.kfn _ hfn; simp only [ndx] at this; rw [hk] at this; cases this
  remove := fun j => j.remove
  cls := fun {f s f' s' bp node} j v e => bpCloseF_spec bp node f s () f' s' j v e
  tp := fun {f s f' s' b a} j v hk e => by
    obtain ⟨rfl, ex⟩ := Hoare.lift_ok₂ (x := transformParagraph pts b.node) e
    have st := transformParagraph_stepB pts hpts hptb b.node s a s' v.1 hk ex
    exact ⟨j.step st, StepD.of_stepB j st⟩
  opn := fun {f s f' s' p parent r} j e => by
    obtain ⟨a, b, c, d, e⟩ := bpOpenF_spec p parent f s r f' s' j e
    exact ⟨a, ⟨b, c⟩, d, e⟩
  blank := fun {f s s' node bl} j e => by
    have st : StepB s s' := StepB.of (W := fun _ => False)
      (.of_lr ((modNode_lk node (fun n => { n with blankPrev := bl }) (fun _ => ⟨rfl, rfl, rfl⟩)).h _ _ _ e))
      ((modNode_br node (fun n => { n with blankPrev := bl }) (fun _ => ⟨rfl, rfl, rfl⟩)).h _ _ _ e) (fun _ h => h.elim)
    exact ⟨j.step st, ⟨FM.refl _, st.ks⟩, st.opened⟩
  push := fun {f s s1 parent node bp} j v e => by
    obtain ⟨jp, kp⟩ := push_spec parent node bp f s s1 j v e
    exact ⟨jp, FM.refl _, ⟨kp.len, kp.kind⟩⟩
  same := fun {f s s'} j hn ho => by
    have st : StepB s s' := StepB.of (W := fun _ => False)
      (.of_lr ⟨by rw [hn]; exact Nat.le_refl _, fun i => by simp [ndx, hn], fun i _ => by simp only [ndx, hn], ho⟩)
      (BR.of_same hn ho) (fun _ h => h.elim)
    exact ⟨j.step st, FM.refl _, st.ks⟩
  tocont := fun {f s c r lb x s'} j hl e => by
    have st := StepB.of (.of_stepR ((toContinuable_stp c r lb).h s x s' e)) ((toContinuable_br c r lb).h s x s' e)
      (fun i hi => by
        obtain ⟨b, hb, rfl, hne⟩ := hi
        have := hl b hb
        refine ⟨this.1, fun hk => hne (kindOf_bq b.bp ?_)⟩
        rw [← this.2]; exact hk)
    exact ⟨j.step st, ⟨FM.refl _, st.ks⟩, st.opened⟩
  cont := fun {f s f' s' bp node a} j v e => by
    obtain ⟨j', m, k, o⟩ := (bpContinueF_osj (P := PNb { node := node, bp := bp }) (fun _ _ k h => h.ks k) bp node
      (fun _ h => h)).h f s a f' s' j v e
    exact ⟨j', ⟨m, k⟩, o⟩

end

end GM.ConvertF
end DiscInstance

section DiscRun

namespace GM.ConvertF
open GM GM.Text GM.Blocks GM.Convert GM.ConvertH

/-- keeps the invariant and can only answer `.next` -/
structure NXJ (m : MF (LineOutcome × List LineStat)) : Prop where
  h : ∀ f s x f' s', FJ f s → m f s = .ok ((x, f'), s') → FJ f' s' ∧ FM f f' ∧ KS s s' ∧ x.1 = .next

theorem NXJ.throw (e : Panic) : NXJ (throw e) := ⟨fun _ _ _ _ _ _ e => by cases e⟩

theorem FJ_init (src : Bytes) : FJ {} (initSt src) := by
  have w := (J_init src).wf
  refine ⟨w, ⟨(fun l hl => by cases hl), (fun p hp => by cases hp)⟩, (fun x hx => by cases hx), (fun l hl => by cases hl),
    fun i hk => ?_, (fun p c hc hfn => by cases hfn), (fun b hb => by cases hb)⟩
  rw [ndx_init] at hk ⊢
  split
  · rfl
  · rfl

/-- **the close discipline of the block phase with the footnote block parser**: in the final state the invariant `FJ` holds
    and the open-block stack is empty -/
theorem runF_disc (on : Bool) (pts : List PT) (hpts : ∀ pt ∈ pts, PTStp pt) (hptb : ∀ pt ∈ pts, PTBr pt) (src : Bytes)
    (f : FS) (st : St) (e : runF on pts src = .ok (f, st)) : FJ f st ∧ st.pc.opened = [] := by
  rw [runF_eqG] at e
  exact runG_disc (discF pts hpts hptb on) {} src (FJ_init src) f st e

theorem blockPhaseF_disc (on guard : Bool) (src : Bytes) (f : FS) (st : St) (e : blockPhaseF on guard src = .ok (f, st)) :
    FJ f st ∧ st.pc.opened = [] :=
  runF_disc on _ (paragraphTransformers_stp guard) (paragraphTransformers_br guard) src f st e

/-- STORE WELL-FORMEDNESS OF THE `MF` DRIVER: whenever the block phase with the footnote block parser ends normally, the
    store is tree-shaped and the footnote state (the list, the definitions) names existing nodes other than node 0 -/
theorem blockPhaseF_wf (on guard : Bool) (src : Bytes) (f : FS) (st : St) (e : blockPhaseF on guard src = .ok (f, st)) :
    TreeWF st ∧ IdsOK f st :=
  have j := (blockPhaseF_disc on guard src f st e).1
  ⟨j.wf, j.ids⟩

end GM.ConvertF
end DiscRun
