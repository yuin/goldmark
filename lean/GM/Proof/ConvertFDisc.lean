/-
  GM.Proof.ConvertFDisc — THE CLOSE DISCIPLINE of the block driver with the footnote block parser (`MF`, GM.Model.ConvertF):
  invariant `FJ f s` of the two-layer state
    * the store is a well-formed tree (`TreeWF`), the footnote context names existing nodes other than node 0 (`IdsOK`);
    * every `*ast.Footnote` and the FootnoteList are nodes of kind Blockquote (their store kind), and NO node of that kind has
      lines;
    * every child edge to a Footnote comes from the FootnoteList, or the Footnote is still on the open-block stack;
    * a node on the stack exists and has the kind its parser builds.
  The same technique as GM.Proof.ConvertHWFDrv (`J`, `Done`, `push_spec`, `discH`), for `MF` (`FJ` here; `Done`, `push_spec`,
  `discF` in GM.Proof.ConvertFDiscRun); the parser-level facts are `BR` (GM.Proof.ConvertFBr) and `Wk` (GM.Proof.ConvertFWF).
-/
import GM.Proof.ConvertFWF
import GM.Proof.ConvertFBr
import GM.Proof.ConvertHWFDrv

namespace GM.ConvertF
open GM GM.Text GM.Blocks GM.Convert GM.ConvertH

/-! ### a step of the store that leaves Blockquote-kind nodes alone -/

structure StepB (s s' : St) : Prop where
  len : s.nodes.length ≤ s'.nodes.length
  kind : ∀ i, i < s.nodes.length → (ndx s' i).kind = (ndx s i).kind
  opened : s'.pc.opened = s.pc.opened
  wf : TreeWF s → TreeWF s'
  lines : ∀ i, (ndx s' i).kind = .blockquote → (ndx s' i).lines = (ndx s i).lines
  edges : ∀ p c, c ∈ (ndx s' p).children → (ndx s' c).kind = .blockquote → c < s.nodes.length → c ∈ (ndx s p).children

theorem StepB.ks {s s' : St} (h : StepB s s') : KS s s' := ⟨h.len, h.kind⟩

theorem StepB.refl (s : St) : StepB s s := ⟨Nat.le_refl _, fun _ _ => rfl, rfl, id, fun _ _ => rfl, fun _ _ h _ _ => h⟩

/-- from the parser-level facts: the nodes whose lines may be written are not of kind Blockquote -/
theorem StepB.of {W : Nat → Prop} {s s' : St} (w : WStep s s') (b : BR W s s')
    (hW : ∀ i, W i → i < s.nodes.length ∧ (ndx s i).kind ≠ .blockquote) : StepB s s' :=
  ⟨b.len, b.kind, b.opened, w.wf, fun i hk => by
      by_cases hw : W i
      · obtain ⟨hv, hne⟩ := hW i hw
        rw [b.kind i hv] at hk
        exact absurd hk hne
      · exact b.lines i hw hk,
   b.edges⟩

/-! ### the invariant -/

/-- the block exists and its node has the kind its parser builds -/
def PNb (b : Block) (s : St) : Prop := b.node < s.nodes.length ∧ (ndx s b.node).kind = BP.kindOf b.bp

theorem PNb.ks {b : Block} {s s' : St} (p : PNb b s) (k : KS s s') : PNb b s' :=
  ⟨Nat.lt_of_lt_of_le p.1 k.len, by rw [k.kind b.node p.1]; exact p.2⟩

structure FJ (f : FS) (s : St) : Prop where
  wf : TreeWF s
  ids : IdsOK f s
  kfn : ∀ x, f.isFn x = true → (ndx s x).kind = .blockquote
  klist : ∀ l, f.list = some l → (ndx s l).kind = .blockquote
  nl : ∀ i, (ndx s i).kind = .blockquote → (ndx s i).lines = []
  ein : ∀ p c, c ∈ (ndx s p).children → f.isFn c = true → f.list = some p ∨ ∃ b ∈ s.pc.opened, b.node = c
  pn : ∀ b ∈ s.pc.opened, PNb b s

theorem idsOK_ks {f : FS} {s s' : St} (h : IdsOK f s) (k : KS s s') : IdsOK f s' :=
  ⟨fun l hl => ⟨(h.1 l hl).1, Nat.lt_of_lt_of_le (h.1 l hl).2 k.len⟩,
   fun p hp => ⟨(h.2 p hp).1, Nat.lt_of_lt_of_le (h.2 p hp).2 k.len⟩⟩

theorem FJ.step {f : FS} {s s' : St} (j : FJ f s) (st : StepB s s') : FJ f s' := by
  refine ⟨st.wf j.wf, idsOK_ks j.ids st.ks, fun x hx => ?_, fun l hl => ?_, fun i hk => ?_, fun p c hc hfn => ?_,
    fun b hb => ?_⟩
  · rw [st.kind x (isFn_valid j.ids hx).2]; exact j.kfn x hx
  · rw [st.kind l (j.ids.1 l hl).2]; exact j.klist l hl
  · rw [st.lines i hk]
    by_cases hi : i < s.nodes.length
    · exact j.nl i (by rw [← st.kind i hi]; exact hk)
    · exact ndx_default_lines s (Nat.le_of_not_lt hi)
  · have hv := (isFn_valid j.ids hfn).2
    have hk : (ndx s' c).kind = .blockquote := by rw [st.kind c hv]; exact j.kfn c hfn
    rw [st.opened]
    exact j.ein p c (st.edges p c hc hk hv) hfn
  · rw [st.opened] at hb
    exact (j.pn b hb).ks st.ks

/-- the footnote context only grows -/
def FM (f f' : FS) : Prop := (∀ x, f.isFn x = true → f'.isFn x = true) ∧ (∀ l, f.list = some l → f'.list = some l)

theorem FM.refl (f : FS) : FM f f := ⟨fun _ h => h, fun _ h => h⟩
theorem FM.trans {a b c : FS} (h1 : FM a b) (h2 : FM b c) : FM a c :=
  ⟨fun x hx => h2.1 x (h1.1 x hx), fun l hl => h2.2 l (h1.2 l hl)⟩

/-! ### inversion -/

theorem upF_ok' {α} {x : M α} {f : FS} {s : St} {a : α} {f' : FS} {s' : St} (e : (GM.ConvertF.up x) f s = .ok ((a, f'), s')) :
    f = f' ∧ x s = .ok (a, s') := by
  obtain ⟨h1, h2⟩ := upF_ok e
  exact ⟨h2, h1⟩

theorem getF_ok {f : FS} {s : St} {a : FS} {f' : FS} {s' : St} (e : getF f s = .ok ((a, f'), s')) : f = a ∧ f = f' ∧ s = s' := by
  cases e; exact ⟨rfl, rfl, rfl⟩

theorem setF_ok {g f : FS} {s : St} {a : Unit} {f' : FS} {s' : St} (e : setF g f s = .ok ((a, f'), s')) : g = f' ∧ s = s' := by
  cases e; exact ⟨rfl, rfl⟩

theorem getNode_ok' {id : Nat} {s : St} {a : Blocks.Node} {s' : St} (h : getNode id s = .ok (a, s')) :
    ndx s id = a ∧ s = s' := by cases h; exact ⟨rfl, rfl⟩

theorem pureF_ok {α} {x : α} {f : FS} {s : St} {a : α} {f' : FS} {s' : St} (e : (pure x : MF α) f s = .ok ((a, f'), s')) :
    x = a ∧ f = f' ∧ s = s' := by
  cases e; exact ⟨rfl, rfl, rfl⟩

/-! ### the calculus -/

/-- a fact about the store that stays true while the store grows and kinds stay -/
def Stb (P : St → Prop) : Prop := ∀ s s', KS s s' → P s → P s'

structure GJ (P : St → Prop) {α : Type} (Q : α → St → Prop) (m : MF α) : Prop where
  h : ∀ f s a f' s', FJ f s → P s → m f s = .ok ((a, f'), s') → FJ f' s' ∧ FM f f' ∧ KS s s' ∧ Q a s'

abbrev QTj {α : Type} : α → St → Prop := fun _ _ => True

variable {P : St → Prop}

theorem GJ.pure {α} {Q : α → St → Prop} (a : α) (hq : ∀ s, P s → Q a s) : GJ P Q (Pure.pure a : MF α) :=
  ⟨fun f s a' f' s' j hp e => by cases e; exact ⟨j, FM.refl _, KS.refl _, hq _ hp⟩⟩

theorem GJ.throw {α} {Q : α → St → Prop} (e : Panic) : GJ P Q (throw e : MF α) := ⟨fun _ _ _ _ _ _ _ e' => by cases e'⟩

theorem gj_getF : GJ P QTj getF := ⟨fun f s a f' s' j _ e => by cases e; exact ⟨j, FM.refl _, KS.refl _, trivial⟩⟩

/-- an `M` program: tree kept (`Wk`), Blockquote-kind nodes left alone (`Br W`), what it may write is not of that kind -/
theorem GJ.up {α} {W : Nat → Prop} {x : M α} (hx : Wk x) (hb : Br W x)
    (hW : ∀ s, P s → ∀ i, W i → i < s.nodes.length ∧ (ndx s i).kind ≠ .blockquote) : GJ P QTj (GM.ConvertF.up x) := by
  constructor
  intro f s a f' s' j hp e
  obtain ⟨rfl, ex⟩ := upF_ok' e
  have st := StepB.of (hx.h s a s' ex) (hb.h s a s' ex) (hW s hp)
  exact ⟨j.step st, FM.refl _, st.ks, trivial⟩

theorem GJ.up0 {α} {x : M α} (hx : Wk x) (hb : Br (fun _ => False) x) : GJ P QTj (GM.ConvertF.up x) :=
  GJ.up hx hb (fun _ _ _ h => h.elim)

theorem GJ.bind {α β} {Q : α → St → Prop} {Q' : β → St → Prop} {m : MF α} {k : α → MF β} (hP : Stb P)
    (hm : GJ P Q m) (hk : ∀ a, GJ (fun s => P s ∧ Q a s) Q' (k a)) : GJ P Q' (m >>= k) := by
  constructor
  intro f s b f'' s'' j hp e
  obtain ⟨a, f', s', e1, e2⟩ := Hoare.bind_ok₂ e
  obtain ⟨j1, m1, k1, q1⟩ := hm.h f s a f' s' j hp e1
  obtain ⟨j2, m2, k2, q2⟩ := (hk a).h f' s' b f'' s'' j1 ⟨hP _ _ k1 hp, q1⟩ e2
  exact ⟨j2, m1.trans m2, k1.trans k2, q2⟩

theorem GJ.bind' {α β} {Q' : β → St → Prop} {m : MF α} {k : α → MF β} (hP : Stb P)
    (hm : GJ P QTj m) (hk : ∀ a, GJ P Q' (k a)) : GJ P Q' (m >>= k) := by
  constructor
  intro f s b f'' s'' j hp e
  obtain ⟨a, f', s', e1, e2⟩ := Hoare.bind_ok₂ e
  obtain ⟨j1, m1, k1, _⟩ := hm.h f s a f' s' j hp e1
  obtain ⟨j2, m2, k2, q2⟩ := (hk a).h f' s' b f'' s'' j1 (hP _ _ k1 hp) e2
  exact ⟨j2, m1.trans m2, k1.trans k2, q2⟩

theorem GJ.ite {α} {Q : α → St → Prop} {c : Prop} [Decidable c] {a b : MF α} (ha : GJ P Q a) (hb : GJ P Q b) :
    GJ P Q (if c then a else b) := by
  split <;> assumption

theorem GJ.weaken {α} {Q Q' : α → St → Prop} {m : MF α} (h : GJ P Q m) (hq : ∀ a s, Q a s → Q' a s) : GJ P Q' m :=
  ⟨fun f s a f' s' j hp e => by
    obtain ⟨a1, a2, a3, a4⟩ := h.h f s a f' s' j hp e
    exact ⟨a1, a2, a3, hq _ _ a4⟩⟩

theorem GJ.pre {P' : St → Prop} {α} {Q : α → St → Prop} {m : MF α} (h : GJ P Q m) (hp : ∀ s, P' s → P s) : GJ P' Q m :=
  ⟨fun f s a f' s' j hp' e => h.h f s a f' s' j (hp s hp') e⟩

theorem stb_and {P P' : St → Prop} (h : Stb P) (h' : Stb P') : Stb (fun s => P s ∧ P' s) :=
  fun s s' k hp => ⟨h s s' k hp.1, h' s s' k hp.2⟩

theorem stb_true : Stb (fun _ => True) := fun _ _ _ _ => trivial

theorem stb_pnb (b : Block) : Stb (PNb b) := fun _ _ k p => p.ks k

theorem stb_all {α} (l : List α) (F : α → St → Prop) (h : ∀ a, Stb (F a)) : Stb (fun s => ∀ a ∈ l, F a s) :=
  fun s s' k hp a ha => h a s s' k (hp a ha)

/-- leaves of the driver that keep the stack and write no lines -/
macro "br0_leaf" : tactic =>
  `(tactic| first
    | with_reducible exact modPc_br _ (fun _ => rfl)
    | with_reducible exact modPc_br _ (fun _ => by split <;> rfl)
    | with_reducible exact lastOpenedBlock_br
    | with_reducible exact bpOpen_br _ _
    | br_leaf)

macro "gj_step" : tactic =>
  `(tactic| first
    | ((with_reducible refine GJ.pure _ ?_); intro _ _; trivial)
    | with_reducible exact GJ.throw _
    | with_reducible exact gj_getF
    | apply_hyp
    | ((with_reducible refine GJ.up0 ?_ ?_) <;> first | wk_leaf | br0_leaf)
    | (with_reducible apply GJ.bind' (by assumption))
    | with_reducible apply GJ.ite
    | intro _
    | split)

macro "gj" : tactic => `(tactic| repeat' gj_step)

/-! ### the footnote block parser -/

theorem lookup_append_single : ∀ (l : List (Nat × Bytes)) (k : Nat) (v : Bytes) (x : Nat),
    ((l ++ [(k, v)]).lookup x).isSome = ((l.lookup x).isSome || x == k)
  | [], k, v, x => by
    by_cases h : x = k
    · subst h; simp [List.lookup]
    · have : (x == k) = false := by simpa using h
      simp [List.lookup, this]
  | (a, b) :: l, k, v, x => by
    by_cases h : x = a
    · subst h; simp [List.lookup]
    · have : (x == a) = false := by simpa using h
      simp only [List.cons_append, List.lookup, this]
      exact lookup_append_single l k v x

theorem isFn_addRef (f : FS) (item : Nat) (label : Bytes) (x : Nat) :
    ({ f with refs := f.refs ++ [(item, label)] } : FS).isFn x = (f.isFn x || x == item) := by
  unfold FS.isFn; exact lookup_append_single f.refs item label x

def fnBlock (nd : Nat) : Block := { node := nd, bp := .blockquote }

/-- `ast.NewFootnote(label)`: a fresh node of kind Blockquote enters the footnote context -/
theorem GJ.newFn {α} {Q : α → St → Prop} (hP : Stb P) (label : Bytes) (k : Nat → MF α)
    (hk : ∀ item, GJ (fun s => P s ∧ PNb (fnBlock item) s) Q (k item)) :
    GJ P Q (GM.ConvertF.up (newNode { kind := .blockquote }) >>= fun item =>
      getF >>= fun f => setF { f with refs := f.refs ++ [(item, label)] } >>= fun _ => k item) := by
  constructor
  intro f0 s b f'' s'' j hp e
  have ex1 : Blocks.newNode { kind := Blocks.Kind.blockquote } s =
      .ok (s.nodes.length, { s with nodes := s.nodes ++ [{ kind := Blocks.Kind.blockquote }] }) := rfl
  rw [Hoare.bind_apply₂, upF_apply, ex1] at e
  simp only at e
  have e' : k s.nodes.length { f0 with refs := f0.refs ++ [(s.nodes.length, label)] }
      { s with nodes := s.nodes ++ [{ kind := Blocks.Kind.blockquote }] } = .ok ((b, f''), s'') := e
  clear e
  have e := e'
  have hlr : LR s { s with nodes := s.nodes ++ [{ kind := Blocks.Kind.blockquote }] } :=
    (GM.ConvertH.newNode_lk _ rfl rfl).h s _ _ ex1
  have hks : KS s { s with nodes := s.nodes ++ [{ kind := Blocks.Kind.blockquote }] } := ⟨hlr.len, hlr.kind⟩
  have hnew : ∀ i, ndx ({ s with nodes := s.nodes ++ [{ kind := Blocks.Kind.blockquote }] } : St) i =
      if i = s.nodes.length then { kind := Blocks.Kind.blockquote } else ndx s i := fun i => ndx_append s _ i s.r s.pc
  have hfn : ∀ x, ({ f0 with refs := f0.refs ++ [(s.nodes.length, label)] } : FS).isFn x = true →
      f0.isFn x = true ∨ x = s.nodes.length := by
    intro x hx
    rw [isFn_addRef] at hx
    simpa using hx
  have j1 : FJ { f0 with refs := f0.refs ++ [(s.nodes.length, label)] }
      { s with nodes := s.nodes ++ [{ kind := Blocks.Kind.blockquote }] } := by
    refine ⟨hlr.wf j.wf, ⟨fun l hl => (idsOK_ks j.ids hks).1 l hl, fun p hp' => ?_⟩, fun x hx => ?_, fun l hl => ?_,
      fun i hk' => ?_, fun p c hc hx => ?_, fun b hb => (j.pn b hb).ks hks⟩
    · simp only [List.mem_append, List.mem_singleton] at hp'
      rcases hp' with hp' | hp'
      · exact (idsOK_ks j.ids hks).2 p hp'
      · subst hp'; exact ⟨j.wf.ne, by simp⟩
    · rcases hfn x hx with h | h
      · rw [hks.kind x (isFn_valid j.ids h).2]; exact j.kfn x h
      · subst h; rw [hnew]; simp
    · rw [hks.kind l (j.ids.1 l hl).2]; exact j.klist l hl
    · rw [hnew] at hk' ⊢
      split
      · rfl
      · rename_i hne; rw [if_neg hne] at hk'; exact j.nl i hk'
    · rw [(hlr.links p).2] at hc
      rcases hfn c hx with h | h
      · exact j.ein p c hc h
      · subst h
        exact absurd (j.wf.edge p _ hc).1 (Nat.lt_irrefl _)
  have m1 : FM f0 { f0 with refs := f0.refs ++ [(s.nodes.length, label)] } :=
    ⟨fun x hx => by rw [isFn_addRef, hx]; rfl, fun l hl => hl⟩
  have pn1 : PNb (fnBlock s.nodes.length) { s with nodes := s.nodes ++ [{ kind := Blocks.Kind.blockquote }] } :=
    ⟨by simp [fnBlock], by simp only [fnBlock]; rw [hnew]; simp [BP.kindOf]⟩
  obtain ⟨j2, m2, k2, q2⟩ := (hk s.nodes.length).h _ _ b f'' s'' j1 ⟨hP _ _ hks hp, pn1⟩ e
  exact ⟨j2, m1.trans m2, hks.trans k2, q2⟩

/-- the node `Open` answers exists and has the kind its parser builds -/
def Qn (bp : BP) (r : Option Nat × PState) (s : St) : Prop := ∀ nd, r.1 = some nd → PNb { node := nd, bp := bp } s

theorem fnOpen_gj (hP : Stb P) (parent : Nat) : GJ P (Qn .blockquote) (fnOpen parent) := by
  unfold fnOpen
  apply GJ.bind' hP (by gj)
  intro x
  apply GJ.bind' hP (by gj)
  intro pc
  apply GJ.bind' hP (by gj)
  intro sc
  split
  · exact GJ.pure _ (fun _ _ nd h => by cases h)
  · apply GJ.bind' hP (by gj)
    intro src
    apply GJ.bind' hP (by gj)
    intro label
    split
    · exact GJ.pure _ (fun _ _ nd h => by cases h)
    · refine GJ.newFn hP label _ (fun item => ?_)
      have hP2 : Stb (fun s => P s ∧ PNb (fnBlock item) s) := stb_and hP (stb_pnb _)
      dsimp only
      split
      · apply GJ.bind' hP2 (by gj)
        intro _
        exact GJ.pure _ (fun s h nd hn => by cases hn; exact h.2)
      · apply GJ.bind' hP2 (by gj)
        intro _
        exact GJ.pure _ (fun s h nd hn => by cases hn; exact h.2)

theorem fnContinue_gj (hP : Stb P) (node : Nat) : GJ P QTj (fnContinue node) := by
  unfold fnContinue; gj

/-! ### (*footnoteBlockParser).Close -/

/-- what `node.Parent().RemoveChild(node); list.AppendChild(list, node)` does to the store -/
theorem fnCloseTail_facts (list node : Nat) (f : FS) (s : St) (a : Unit) (f' : FS) (s' : St) (w : TreeWF s)
    (e : fnCloseTail list node f s = .ok ((a, f'), s')) :
    f' = f ∧ s'.nodes.length = s.nodes.length ∧ s'.pc.opened = s.pc.opened ∧ (∀ i, (ndx s' i).lines = (ndx s i).lines) ∧
    (∀ i, (ndx s' i).kind = (ndx s i).kind) ∧
    (∀ q c, c ∈ (ndx s' q).children → c ∈ (ndx s q).children ∨ (q = list ∧ c = node)) ∧
    (∀ q, node ∈ (ndx s' q).children → q = list) := by
  unfold fnCloseTail at e
  obtain ⟨nd, f8, s8, g5, ee⟩ := Hoare.bind_ok₂ e
  clear e
  obtain ⟨hf8, hgn⟩ := upF_ok' g5
  obtain ⟨hnd, hs8⟩ := getNode_ok' hgn
  subst hf8 hs8
  dsimp only at ee
  cases hpar : nd.parent with
  | none =>
    rw [hpar] at ee
    obtain ⟨_, f6, s6, g4, e1⟩ := Hoare.bind_ok₂ ee
    cases g4
  | some p =>
    rw [hpar] at ee
    obtain ⟨_, f7, s7, e2, e⟩ := Hoare.bind_ok₂ ee
    obtain ⟨hf7, hr⟩ := upF_ok' e2
    subst hf7
    obtain ⟨hrm, hdet, _, _⟩ := removeChild_rm p node _ s7 hr
    have hl1 := (removeChild_treeOps hr).linesx
    obtain ⟨hf', hap⟩ := upF_ok' e
    have hop := appendChild_op list node s7 s' hap
    have hl2 := (appendChild_treeOps hap).linesx
    have hpn : (ndx s node).parent = some p := by rw [← hpar, hnd]
    have hnone := hdet hpn
    have w7 := hrm.wf w
    refine ⟨hf'.symm, by rw [hop.len, hrm.len], by rw [hop.pc, hrm.pc], fun i => by rw [hl2, hl1],
      fun i => by rw [hop.kind, hrm.kind], fun q c hc => ?_, fun q hq => ?_⟩
    · rcases hop.edges q c hc with h | h
      · exact Or.inl (hrm.edges q c h)
      · exact Or.inr h
    · rcases hop.edges q node hq with h | h
      · have := (w7.edge q node h).2
        rw [hnone] at this
        cases this
      · exact h.1

/-- `Close` of a Footnote: the invariant, and the Footnote is filed — afterwards every child edge to it comes from the list;
    the only other new edge leads to the (new) list -/
theorem fnClose_spec (node : Nat) (f : FS) (s : St) (a : Unit) (f' : FS) (s' : St) (j : FJ f s) (hfn : f.isFn node = true)
    (e : fnClose node f s = .ok ((a, f'), s')) :
    FJ f' s' ∧ FM f f' ∧ KS s s' ∧ s'.pc.opened = s.pc.opened ∧ f'.refs = f.refs ∧
    (∀ p c, c ∈ (ndx s' p).children → f.isFn c = true → c ∈ (ndx s p).children ∨ f'.list = some p) ∧
    (∀ q, node ∈ (ndx s' q).children → f'.list = some q) := by
  have hn := isFn_valid j.ids hfn
  have hfi := fnClose_inv (P := fun _ => True) (fun _ _ _ _ => trivial) node f s a f' s' ⟨j.wf, j.ids, trivial⟩ hn e
  -- the frame facts
  have key : s.nodes.length ≤ s'.nodes.length ∧ s'.pc.opened = s.pc.opened ∧ f'.refs = f.refs ∧
      (∀ l, f.list = some l → f'.list = some l) ∧
      (∀ i, i < s.nodes.length → (ndx s' i).lines = (ndx s i).lines ∧ (ndx s' i).kind = (ndx s i).kind) ∧
      (∀ l, f'.list = some l → f.list = some l ∨ (s.nodes.length ≤ l ∧ (ndx s' l).kind = .blockquote ∧ (ndx s' l).lines = [])) ∧
      (∀ i, s.nodes.length ≤ i → f'.list = some i ∨ (ndx s' i).kind ≠ .blockquote) ∧
      (∀ p c, c ∈ (ndx s' p).children → c < s.nodes.length → c ∈ (ndx s p).children ∨ (f'.list = some p ∧ c = node)) ∧
      (∀ q, node ∈ (ndx s' q).children → f'.list = some q) := by
    unfold fnClose at e
    obtain ⟨f0, f1, s1, e0, ee⟩ := Hoare.bind_ok₂ e
    obtain ⟨h0, h1, h2⟩ := getF_ok e0
    subst h0 h1 h2
    clear e e0
    dsimp only at ee
    generalize hl : f.list = o at ee
    cases o with
    | some l =>
      obtain ⟨list, f2, s2, e1, e⟩ := Hoare.bind_ok₂ ee
      obtain ⟨h3, h4, h5⟩ := pureF_ok e1
      subst h3 h4 h5
      obtain ⟨t1, t2, t3, t4, t5, t6, t7⟩ := fnCloseTail_facts _ node _ _ a f' s' j.wf e
      subst t1
      refine ⟨Nat.le_of_eq t2.symm, t3, rfl, (fun l' h' => by first | exact h' | (rw [hl]; exact h')), fun i _ => ⟨t4 i, t5 i⟩,
        (fun l' hl' => Or.inl (by first | exact hl' | (rw [hl] at hl'; exact hl'))),
        fun i hi => ?_, fun p c hc _ => ?_, fun q hq => by rw [t7 q hq]; exact hl⟩
      · right
        rw [t5, ndx_ge _ hi]
        decide
      · rcases t6 p c hc with h | h
        · exact Or.inl h
        · exact Or.inr ⟨by rw [h.1]; exact hl, h.2⟩
    | none =>
      obtain ⟨l, f3, s3, g1, e1⟩ := Hoare.bind_ok₂ ee
      obtain ⟨hf3, hnew⟩ := upF_ok' g1
      obtain ⟨hl3, hs3⟩ := newNode_ok hnew
      subst hf3 hl3 hs3
      have hlr : LR s { s with nodes := s.nodes ++ [{ kind := Blocks.Kind.blockquote }] } :=
        (GM.ConvertH.newNode_lk _ rfl rfl).h _ _ _ hnew
      have hnewx : ∀ i, ndx ({ s with nodes := s.nodes ++ [{ kind := Blocks.Kind.blockquote }] } : St) i =
          if i = s.nodes.length then { kind := Blocks.Kind.blockquote } else ndx s i := fun i => ndx_append s _ i s.r s.pc
      obtain ⟨_, f4, s4, g2, e1⟩ := Hoare.bind_ok₂ e1
      obtain ⟨hf4, hs4⟩ := setF_ok g2
      subst hf4 hs4
      obtain ⟨st, f5, s5, g3, e1⟩ := Hoare.bind_ok₂ e1
      obtain ⟨hf5, hget⟩ := upF_ok' g3
      have hget' : st = ({ s with nodes := s.nodes ++ [{ kind := Blocks.Kind.blockquote }] } : St) ∧
          s5 = ({ s with nodes := s.nodes ++ [{ kind := Blocks.Kind.blockquote }] } : St) := by cases hget; exact ⟨rfl, rfl⟩
      obtain ⟨hst, hs5⟩ := hget'
      subst hf5 hst hs5
      dsimp only at e1
      generalize anchorLoop f _ _ _ node = r at e1
      cases r with
      | none =>
        obtain ⟨_, f6, s6, g4, e1⟩ := Hoare.bind_ok₂ e1
        cases g4
      | some anchor =>
        dsimp only at e1
        generalize Blocks.Node.parent _ = q at e1
        cases q with
        | none =>
          obtain ⟨_, f6, s6, g4, e1⟩ := Hoare.bind_ok₂ e1
          cases g4
        | some ap =>
          obtain ⟨_, f6, s6, g4, e1⟩ := Hoare.bind_ok₂ e1
          obtain ⟨hf6, hins⟩ := upF_ok' g4
          subst hf6
          have hop := insertBefore_op ap (some anchor) s.nodes.length _ s6 hins
          have hlB := (insertBefore_treeOps hins).linesx
          have wA : TreeWF { s with nodes := s.nodes ++ [{ kind := Blocks.Kind.blockquote }] } := hlr.wf j.wf
          have wB : TreeWF s6 := hop.wf wA (by simp) (by have := j.wf.ne; omega)
          obtain ⟨list, f2, s2, e2, e⟩ := Hoare.bind_ok₂ e1
          obtain ⟨h3, h4, h5⟩ := pureF_ok e2
          subst h3 h4 h5
          obtain ⟨t1, t2, t3, t4, t5, t6, t7⟩ := fnCloseTail_facts _ node _ _ a f' s' wB e
          subst t1
          have hlen6 : s6.nodes.length = s.nodes.length + 1 := by rw [hop.len]; simp
          refine ⟨by omega, by rw [t3, hop.pc], rfl, (fun l' hl' => by first | cases hl' | (rw [hl] at hl'; cases hl')), fun i hi => ?_,
            fun l' hl' => ?_, fun i hi => ?_, fun p c hc hv => ?_, fun q hq => by rw [t7 q hq]⟩
          · have hne : i ≠ s.nodes.length := by omega
            refine ⟨by rw [t4, hlB, hnewx, if_neg hne], by rw [t5, hop.kind, hnewx, if_neg hne]⟩
          · right
            simp only [Option.some.injEq] at hl'
            subst hl'
            refine ⟨Nat.le_refl _, by rw [t5, hop.kind, hnewx]; simp, by rw [t4, hlB, hnewx]; simp⟩
          · by_cases hi' : i = s.nodes.length
            · left; rw [hi']
            · right
              rw [t5, hop.kind, hnewx, if_neg hi', ndx_ge _ hi]
              decide
          · rcases t6 p c hc with h | h
            · rcases hop.edges p c h with h' | h'
              · left
                rw [(hlr.links p).2] at h'
                exact h'
              · omega
            · exact Or.inr ⟨by rw [h.1], h.2⟩
  obtain ⟨k1, k2, k3, k4, k5, k6, k7, k8, k9⟩ := key
  have hisfn : ∀ x, f'.isFn x = f.isFn x := fun x => by unfold FS.isFn; rw [k3]
  have ks : KS s s' := ⟨k1, fun i hi => (k5 i hi).2⟩
  refine ⟨⟨hfi.1, hfi.2.1, fun x hx => ?_, fun l hl => ?_, fun i hk => ?_, fun p c hc hx => ?_, fun b hb => ?_⟩,
    ⟨fun x hx => by rw [hisfn]; exact hx, k4⟩, ks, k2, k3, fun p c hc hx => ?_, k9⟩
  · rw [hisfn] at hx
    rw [(k5 x (isFn_valid j.ids hx).2).2]; exact j.kfn x hx
  · rcases k6 l hl with h | h
    · rw [(k5 l (j.ids.1 l h).2).2]; exact j.klist l h
    · exact h.2.1
  · by_cases hi : i < s.nodes.length
    · rw [(k5 i hi).1]; exact j.nl i (by rw [← (k5 i hi).2]; exact hk)
    · rcases k7 i (Nat.le_of_not_lt hi) with h | h
      · rcases k6 i h with h' | h'
        · exact absurd (j.ids.1 i h').2 hi
        · exact h'.2.2
      · exact absurd hk h
  · rw [hisfn] at hx
    rcases k8 p c hc (isFn_valid j.ids hx).2 with h | h
    · rcases j.ein p c h hx with h' | h'
      · exact Or.inl (k4 p h')
      · rw [k2]; exact Or.inr h'
    · exact Or.inl h.1
  · rw [k2] at hb; exact (j.pn b hb).ks ks
  · rcases k8 p c hc (isFn_valid j.ids hx).2 with h | h
    · exact Or.inl h
    · exact Or.inr h.1

end GM.ConvertF
