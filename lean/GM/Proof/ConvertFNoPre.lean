/-
  GM.Proof.ConvertFNoPre — the outcome form of "no footnote monitor ever fires": for every byte string the parse phases of the
  composed model never answer `value pre`, and they answer `blocks pre` only when the block phase itself does (the two retry
  contract monitors of the block driver, the ones `convertCore` has). From `monitor_never_fires`, `blockPhaseF_clean`,
  `parseBlockX_linksBelow`.
-/
import GM.Proof.ConvertFFiled
import GM.Proof.ConvertFLinks

namespace GM.ConvertF
open GM GM.Text GM.Blocks GM.Convert

theorem ebind_err {α β} {x : Except Panic α} {k : α → Except Panic β} {e : Panic} (h : (x >>= k) = .error e) :
    x = .error e ∨ ∃ a, x = .ok a ∧ k a = .error e := by
  cases x with
  | error e' => left; simpa [bind, Except.bind] using h
  | ok a => right; exact ⟨a, rfl, h⟩

theorem value_noPre (t : Segment) (buf : Bytes) (e : Panic) (h : t.value buf = .error e) : e ≠ .pre := by
  unfold Segment.value sliceB at h
  intro he
  subst he
  repeat' split at h
  all_goals (simp [bind, Except.bind, pure, Except.pure, throw, throwThe, MonadExceptOf.throw] at h)
  all_goals (try (repeat' split at h))
  all_goals (try cases h)

theorem segValues_noPre (src : Bytes) : ∀ (l : List Segment) (e : Panic), segValues src l = .error e → e ≠ .pre
  | [], e, h => by simp [segValues, pure, Except.pure] at h
  | s :: rest, e, h => by
    unfold segValues at h
    rcases ebind_err h with h1 | ⟨v, _, h2⟩
    · exact value_noPre s src e h1
    · rcases ebind_err h2 with h3 | ⟨vs, _, h4⟩
      · exact segValues_noPre src rest e h3
      · cases h4

mutual
theorem inlineTreeF_noPre (n : Nat) (src : Bytes) : ∀ (x : GM.Inl.Node) (e : Panic), linksBelow n x = true →
    inlineTreeF true n src x = .error e → e ≠ .pre
  | .text seg _ _ _, e, _, h => by
    unfold inlineTreeF at h
    rcases ebind_err h with h1 | ⟨v, _, h2⟩
    · exact value_noPre seg src e h1
    · cases h2
  | .codeSpan kids, e, hl, h => by
    unfold inlineTreeF at h
    rcases ebind_err h with h1 | ⟨v, _, h2⟩
    · exact inlineTreesF_noPre n src kids e (by simpa [linksBelow] using hl) h1
    · cases h2
  | .emphasis lv kids, e, hl, h => by
    unfold inlineTreeF at h
    simp only [linksBelow, Bool.and_eq_true] at hl
    simp only [if_true] at h
    cases hp : fnLinkPos? lv with
    | some k =>
      rw [hp] at h hl
      simp only [decide_eq_true_eq] at hl
      simp only [hl.1, if_true] at h
      cases h
    | none =>
      rw [hp] at h
      simp only at h
      rcases ebind_err h with h1 | ⟨v, _, h2⟩
      · exact inlineTreesF_noPre n src kids e hl.2 h1
      · cases h2
  | .link _ _ _ kids, e, hl, h => by
    unfold inlineTreeF at h
    rcases ebind_err h with h1 | ⟨v, _, h2⟩
    · exact inlineTreesF_noPre n src kids e (by simpa [linksBelow] using hl) h1
    · cases h2
  | .autoLink _ seg, e, _, h => by
    unfold inlineTreeF at h
    rcases ebind_err h with h1 | ⟨v, _, h2⟩
    · exact value_noPre seg src e h1
    · cases h2
  | .rawHTML segs, e, _, h => by
    unfold inlineTreeF at h
    rcases ebind_err h with h1 | ⟨v, _, h2⟩
    · exact segValues_noPre src segs e h1
    · cases h2
  | .delim _ _, e, _, h => by simp [inlineTreeF, pure, Except.pure] at h
  | .label _ _ _, e, _, h => by simp [inlineTreeF, pure, Except.pure] at h
theorem inlineTreesF_noPre (n : Nat) (src : Bytes) : ∀ (l : List GM.Inl.Node) (e : Panic), linksBelowL n l = true →
    inlineTreesF true n src l = .error e → e ≠ .pre
  | [], e, _, h => by simp [inlineTreesF, pure, Except.pure] at h
  | x :: rest, e, hl, h => by
    unfold inlineTreesF at h
    simp only [linksBelowL, Bool.and_eq_true] at hl
    rcases ebind_err h with h1 | ⟨v, _, h2⟩
    · exact inlineTreeF_noPre n src x e hl.1 h1
    · rcases ebind_err h2 with h3 | ⟨vs, _, h4⟩
      · exact inlineTreesF_noPre n src rest e hl.2 h3
      · cases h4
end

theorem blockKind_noPre (src : Bytes) (n : Blocks.Node) (e : Panic) (h : blockKind src n = .error e) : e ≠ .pre := by
  unfold blockKind at h
  split at h
  all_goals (try (simp [pure, Except.pure] at h; done))
  · rcases ebind_err h with h1 | ⟨v, _, h2⟩
    · exact segValues_noPre src _ e h1
    · cases h2
  · dsimp only at h
    split at h
    · rename_i sg _
      rcases ebind_err h with h1 | ⟨v, _, h2⟩
      · exact value_noPre sg src e h1
      · rcases ebind_err h2 with h3 | ⟨info, _, h4⟩
        · cases h3
        · rcases ebind_err h4 with h5 | ⟨w, _, h6⟩
          · exact segValues_noPre src _ e h5
          · cases h6
    · rcases ebind_err h with h3 | ⟨info, _, h4⟩
      · cases h3
      · rcases ebind_err h4 with h5 | ⟨w, _, h6⟩
        · exact segValues_noPre src _ e h5
        · cases h6
  · dsimp only at h
    split at h
    · rcases ebind_err h with h1 | ⟨v, _, h2⟩
      · exact value_noPre _ src e h1
      · rcases ebind_err h2 with h3 | ⟨info, _, h4⟩
        · cases h3
        · rcases ebind_err h4 with h5 | ⟨w, _, h6⟩
          · exact segValues_noPre src _ e h5
          · cases h6
    · rcases ebind_err h with h3 | ⟨info, _, h4⟩
      · cases h3
      · rcases ebind_err h4 with h5 | ⟨w, _, h6⟩
        · exact segValues_noPre src _ e h5
        · cases h6

/-- the tag's own part of `FTree.clean` -/
def tagClean (tag : FTag) (n : Blocks.Node) : Bool :=
  match tag with
  | .stray => false
  | .alien => true
  | .list => n.lines.isEmpty
  | .footnote _ => n.lines.isEmpty
  | .plain => true

theorem clean_node (tag : FTag) (n : Blocks.Node) (cs : List FTree) :
    (FTree.node tag n cs).clean = (tagClean tag n && FTree.cleanL cs) := by
  cases tag <;> rfl

theorem blockKindF_noPre (tag : FTag) (src : Bytes) (n : Blocks.Node) (e : Panic) (hc : tagClean tag n = true)
    (h : blockKindF tag src n = .error e) : e ≠ .pre := by
  cases tag with
  | plain => exact blockKind_noPre src n e h
  | list => simp only [tagClean] at hc; simp [blockKindF, hc, pure, Except.pure] at h
  | footnote k => simp only [tagClean] at hc; simp [blockKindF, hc, pure, Except.pure] at h
  | stray => cases hc
  | alien =>
    simp only [blockKindF, throw, throwThe, MonadExceptOf.throw] at h
    cases h
    decide

theorem eebind_err {α β} {x : Except Err α} {k : α → Except Err β} {e : Err} (h : (x >>= k) = .error e) :
    x = .error e ∨ ∃ a, x = .ok a ∧ k a = .error e := by
  cases x with
  | error e' => left; simpa [bind, Except.bind] using h
  | ok a => right; exact ⟨a, rfl, h⟩

theorem liftErr_value_err {α} {x : Except Panic α} {e : Err} (h : liftErr Err.value x = .error e) :
    ∃ p, x = .error p ∧ e = .value p := by
  cases x with
  | ok a => cases h
  | error p => cases h; exact ⟨p, rfl, rfl⟩

theorem inlinePhaseF_links (guard : Bool) (refs : Option (List Bytes)) (env : GM.Inl.Env) (src : Bytes) (n : Blocks.Node)
    (kids : List GM.Inl.Node) (h : inlinePhaseF true guard refs env src n = .ok kids) :
    linksBelowL (refs.getD []).length kids = true := by
  unfold inlinePhaseF at h
  split at h
  · cases h; rfl
  · split at h
    · cases h; rfl
    · split at h
      · cases h
      · cases hp : GM.Inl.parseBlockX env (inlineTblF true refs) src n.lines with
        | error e => rw [hp] at h; cases h
        | ok ks =>
          rw [hp] at h
          have hk : ks = kids := by simpa [liftErr] using h
          subst hk
          exact GM.Inl.FLinks.parseBlockX_linksBelow env src refs n.lines ks hp

theorem inlinePhaseF_err (guard : Bool) (refs : Option (List Bytes)) (env : GM.Inl.Env) (src : Bytes) (n : Blocks.Node)
    (e : Err) (h : inlinePhaseF true guard refs env src n = .error e) : e ≠ .value .pre := by
  unfold inlinePhaseF at h
  split at h
  · cases h
  · split at h
    · cases h
    · split at h
      · cases h; intro h'; cases h'
      · cases hp : GM.Inl.parseBlockX env (inlineTblF true refs) src n.lines with
        | error e' => rw [hp] at h; cases h; intro h'; cases h'
        | ok ks => rw [hp] at h; cases h

mutual
/-- on a clean tagged tree the tree phase never answers `value pre` -/
theorem docTreeF_noPre (guard : Bool) (refs : Option (List Bytes)) (env : GM.Inl.Env) (src : Bytes) :
    ∀ (t : FTree) (e : Err), t.clean = true → docTreeF true guard refs env src t = .error e → e ≠ .value .pre
  | .node tag n cs, e, hc, h => by
    rw [clean_node, Bool.and_eq_true] at hc
    unfold docTreeF at h
    rcases eebind_err h with h1 | ⟨bs, _, h⟩
    · exact docTreesF_noPre guard refs env src cs e hc.2 h1
    · rcases eebind_err h with h1 | ⟨kids, hk, h⟩
      · exact inlinePhaseF_err guard refs env src n e h1
      · rcases eebind_err h with h1 | ⟨is, _, h⟩
        · obtain ⟨p, hp, rfl⟩ := liftErr_value_err h1
          intro hv
          cases hv
          exact inlineTreesF_noPre _ src kids _ (inlinePhaseF_links guard refs env src n kids hk) hp rfl
        · rcases eebind_err h with h1 | ⟨k, _, h⟩
          · obtain ⟨p, hp, rfl⟩ := liftErr_value_err h1
            intro hv
            cases hv
            exact blockKindF_noPre tag src n _ hc.1 hp rfl
          · cases h
theorem docTreesF_noPre (guard : Bool) (refs : Option (List Bytes)) (env : GM.Inl.Env) (src : Bytes) :
    ∀ (ts : List FTree) (e : Err), FTree.cleanL ts = true → docTreesF true guard refs env src ts = .error e → e ≠ .value .pre
  | [], e, _, h => by simp [docTreesF, pure, Except.pure] at h
  | t :: rest, e, hc, h => by
    simp only [FTree.cleanL, Bool.and_eq_true] at hc
    unfold docTreesF at h
    rcases eebind_err h with h1 | ⟨x, _, h⟩
    · exact docTreeF_noPre guard refs env src t e hc.1 h1
    · rcases eebind_err h with h1 | ⟨xs, _, h⟩
      · exact docTreesF_noPre guard refs env src rest e hc.2 h1
      · cases h
end

theorem inlinePhaseF_noBlocks (guard : Bool) (refs : Option (List Bytes)) (env : GM.Inl.Env) (src : Bytes) (n : Blocks.Node)
    (e : Err) (h : inlinePhaseF true guard refs env src n = .error e) (p : Panic) : e ≠ .blocks p := by
  unfold inlinePhaseF at h
  split at h
  · cases h
  · split at h
    · cases h
    · split at h
      · cases h; intro h'; cases h'
      · cases hp : GM.Inl.parseBlockX env (inlineTblF true refs) src n.lines with
        | error e' => rw [hp] at h; cases h; intro h'; cases h'
        | ok ks => rw [hp] at h; cases h

mutual
theorem docTreeF_noBlocks (guard : Bool) (refs : Option (List Bytes)) (env : GM.Inl.Env) (src : Bytes) :
    ∀ (t : FTree) (e : Err), docTreeF true guard refs env src t = .error e → ∀ p, e ≠ .blocks p
  | .node tag n cs, e, h, p => by
    unfold docTreeF at h
    rcases eebind_err h with h1 | ⟨bs, _, h⟩
    · exact docTreesF_noBlocks guard refs env src cs e h1 p
    · rcases eebind_err h with h1 | ⟨kids, hk, h⟩
      · exact inlinePhaseF_noBlocks guard refs env src n e h1 p
      · rcases eebind_err h with h1 | ⟨is, _, h⟩
        · obtain ⟨q, _, rfl⟩ := liftErr_value_err h1
          intro hv; cases hv
        · rcases eebind_err h with h1 | ⟨k, _, h⟩
          · obtain ⟨q, _, rfl⟩ := liftErr_value_err h1
            intro hv; cases hv
          · cases h
theorem docTreesF_noBlocks (guard : Bool) (refs : Option (List Bytes)) (env : GM.Inl.Env) (src : Bytes) :
    ∀ (ts : List FTree) (e : Err), docTreesF true guard refs env src ts = .error e → ∀ p, e ≠ .blocks p
  | [], e, h, _ => by simp [docTreesF, pure, Except.pure] at h
  | t :: rest, e, h, p => by
    unfold docTreesF at h
    rcases eebind_err h with h1 | ⟨x, _, h⟩
    · exact docTreeF_noBlocks guard refs env src t e h1 p
    · rcases eebind_err h with h1 | ⟨xs, _, h⟩
      · exact docTreesF_noBlocks guard refs env src rest e h1 p
      · cases h
end

/-- **the outcome form of "no footnote monitor fires"**: the parse phases never answer `value pre`, and they answer
    `blocks pre` only when the block phase itself does -/
theorem parsePhases_noMonitor (guard : Bool) (uc : List (Nat × (Bool × Bool))) (src : Bytes) (e : Err)
    (h : parsePhases true guard uc src = .error e) :
    e ≠ .value .pre ∧ (e = .blocks .pre → blockPhaseF true guard src = .error .pre) := by
  unfold parsePhases at h
  cases hb : blockPhaseF true guard src with
  | error p =>
    rw [hb] at h
    simp only [liftErr, bind, Except.bind] at h
    cases h
    exact ⟨(fun h' => by cases h'), (fun h' => by cases h'; rfl)⟩
  | ok r =>
    obtain ⟨f, st⟩ := r
    rw [hb] at h
    simp only [liftErr, bind, Except.bind] at h
    rw [monitor_never_fires true guard src f st hb] at h
    simp only [Bool.false_eq_true, if_false] at h
    have hcl := blockPhaseF_clean true guard src f st hb
    cases hd : docTreeF true guard (if f.list.isSome then some (labelsOf f st) else none)
        { refs := st.pc.refs, uc := uc } src (treeOfF f st.nodes st.nodes.length .body 0) with
    | ok t => rw [hd] at h; cases h
    | error e' =>
      rw [hd] at h
      cases h
      have hne := docTreeF_noPre guard _ _ src _ e hcl hd
      refine ⟨hne, fun h' => ?_⟩
      exfalso
      exact docTreeF_noBlocks guard _ _ src _ _ hd _ h'

end GM.ConvertF
