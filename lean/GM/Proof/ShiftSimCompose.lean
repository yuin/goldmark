/-
  GM.Proof.ShiftSimCompose — from the store relation to the statement `IndependentBlocks a h b`, for an ARBITRARY
  document `A`:
  1. fuel stability of `treeOf` for stores whose child links point downwards, and the algebra of segment moves on trees
     (`Tree.mapSegs (moveSeg k)`: composition, the zero move);
  2. the tree-level form of `StoreRel`: read with the same fuel, B's subtree below `F.ι j` (`j ≠ 0`) dumps like A's
     subtree below `j` with every segment moved by `|p|`; B's Document has the children `kids0` followed by A's, moved.
     Both assume that no node of A has the child `0` (`h0`): the Document is nobody's child in a well-formed store, and
     `F.ι 0 = 0` is B's Document, whose children are not `ι` of A's;
  3. the pieces of the two canonical dumps that `indepPair a h b` compares: the Document's children with the canonical
     fuel, and the heading;
  4. the composition: `IndependentBlocks a h b` follows from shift invariance (all parsers, GM.Proof.ShiftSimMainL) once
     the run on the joined document `a ++ sep ++ "# h\n" ++ "\n" ++ b` is known to REACH the outer loop of parseBlocks
     behind the heading's blank line in a `Start` state whose old part (the children `kids0` of the Document) dumps like
     the children of the Document of `run a` followed by the heading moved by `|a ++ sep|` — `Reach`, which is what prefix
     determinism and "closing at the end of the source = closing by blank line + heading" have to deliver. Nothing about
     `b` is assumed. GM.Proof.ShiftSimXReach has the instance `a = []` (`reach_nil`) and the step from the heading line for an
     `a` that ends with a line feed (`reach_of_atHeading`; the instance is `reach_plainL` of GM.Proof.ShiftSimXPrefix).
-/
import GM.Model.Blocks.Indep
import GM.Proof.ShiftSimRel
import GM.Proof.ShiftSimMainL

namespace GM.Blocks.Sh
open GM GM.Text GM.Blocks

theorem fu_default_children : (default : Node).children = [] := rfl

theorem fu_getD_default {nodes : List Node} {id : Nat} (h : nodes.length ≤ id) :
    nodes.getD id default = default := by
  simp [List.getD, List.getElem?_eq_none h]

theorem fu_treeOf_leaf {nodes : List Node} {id : Nat} (h : (nodes.getD id default).children = []) :
    ∀ f : Nat, treeOf nodes f id = .node (nodes.getD id default) []
  | 0 => rfl
  | f + 1 => by simp only [treeOf, h, List.map]

theorem fu_map_congr {α β : Type} {g g' : α → β} : ∀ (l : List α), (∀ a, a ∈ l → g a = g' a) → l.map g = l.map g'
  | [], _ => rfl
  | a :: l, h => by
    simp only [List.map]
    rw [h a (List.mem_cons_self), fu_map_congr l (fun b hb => h b (List.mem_cons_of_mem _ hb))]

theorem treeOf_stable {nodes : List Node} (h : ∀ j c, c ∈ (nodes.getD j default).children → j < c) :
    ∀ (f f' id : Nat), nodes.length ≤ f + id → nodes.length ≤ f' + id →
      treeOf nodes f id = treeOf nodes f' id := by
  intro f
  induction f with
  | zero =>
    intro f' id h1 _
    have hd : (nodes.getD id default).children = [] := by
      rw [fu_getD_default (by omega)]; rfl
    rw [fu_treeOf_leaf hd, fu_treeOf_leaf hd]
  | succ f ih =>
    intro f' id h1 h2
    cases f' with
    | zero =>
      have hd : (nodes.getD id default).children = [] := by
        rw [fu_getD_default (by omega)]; rfl
      rw [fu_treeOf_leaf hd, fu_treeOf_leaf hd]
    | succ f' =>
      simp only [treeOf]
      congr 1
      apply fu_map_congr
      intro c hc
      have := h id c hc
      exact ih f' c (by omega) (by omega)

theorem treeOf_root_stable {nodes : List Node} (h : ∀ j c, c ∈ (nodes.getD j default).children → j < c)
    (f : Nat) (hf : nodes.length ≤ f) : treeOf nodes f 0 = treeOf nodes nodes.length 0 :=
  treeOf_stable h f nodes.length 0 (by omega) (by omega)

theorem treeOf_child_stable {nodes : List Node} (h : ∀ j c, c ∈ (nodes.getD j default).children → j < c)
    (f c : Nat) (hc : 1 ≤ c) (hf : nodes.length - 1 ≤ f) :
    treeOf nodes f c = treeOf nodes (nodes.length - 1) c :=
  treeOf_stable h f (nodes.length - 1) c (by omega) (by omega)

theorem fu_moveSeg_comp (a b : Int) (s : Segment) : moveSeg a (moveSeg b s) = moveSeg (a + b) s := by
  cases s
  simp only [moveSeg, Segment.mk.injEq, and_true]
  constructor <;> omega

theorem fu_moveSeg_zero (s : Segment) : moveSeg 0 s = s := by
  cases s
  simp [moveSeg]

theorem fu_moveSeg_start (k : Int) (s : Segment) : (moveSeg k s).start = s.start + k := rfl

theorem fu_map_moveSeg_comp (a b : Int) : ∀ l : List Segment,
    (l.map (moveSeg b)).map (moveSeg a) = l.map (moveSeg (a + b))
  | [] => rfl
  | s :: l => by simp only [List.map, fu_moveSeg_comp, fu_map_moveSeg_comp a b l]

theorem fu_omap_moveSeg_comp (a b : Int) : ∀ o : Option Segment,
    (o.map (moveSeg b)).map (moveSeg a) = o.map (moveSeg (a + b))
  | none => rfl
  | some s => by simp only [Option.map, fu_moveSeg_comp]

theorem fu_closure_comp (d1 d2 : Int) (h2 : 0 ≤ d2) (c : Segment) :
    (if (if c.start < 0 then c else moveSeg d2 c).start < 0 then (if c.start < 0 then c else moveSeg d2 c)
      else moveSeg d1 (if c.start < 0 then c else moveSeg d2 c))
    = (if c.start < 0 then c else moveSeg (d1 + d2) c) := by
  by_cases hc : c.start < 0
  · simp only [hc, if_true]
  · have : ¬ (moveSeg d2 c).start < 0 := by rw [fu_moveSeg_start]; omega
    simp only [hc, if_false, this, fu_moveSeg_comp]

mutual
  theorem mapSegs_moveSeg_comp (d1 d2 : Int) (h2 : 0 ≤ d2) : ∀ t : Tree,
      (t.mapSegs (moveSeg d2)).mapSegs (moveSeg d1) = t.mapSegs (moveSeg (d1 + d2))
    | .node n cs => by
      simp only [Tree.mapSegs, fu_map_moveSeg_comp, fu_omap_moveSeg_comp, fu_closure_comp d1 d2 h2,
        mapSegsL_moveSeg_comp d1 d2 h2 cs]
  theorem mapSegsL_moveSeg_comp (d1 d2 : Int) (h2 : 0 ≤ d2) : ∀ ts : List Tree,
      Tree.mapSegsL (moveSeg d1) (Tree.mapSegsL (moveSeg d2) ts) = Tree.mapSegsL (moveSeg (d1 + d2)) ts
    | [] => by simp only [Tree.mapSegsL]
    | t :: ts => by
      simp only [Tree.mapSegsL, mapSegs_moveSeg_comp d1 d2 h2 t, mapSegsL_moveSeg_comp d1 d2 h2 ts]
end

theorem fu_map_moveSeg_zero : ∀ l : List Segment, l.map (moveSeg 0) = l
  | [] => rfl
  | s :: l => by simp only [List.map, fu_moveSeg_zero, fu_map_moveSeg_zero l]

theorem fu_omap_moveSeg_zero : ∀ o : Option Segment, o.map (moveSeg 0) = o
  | none => rfl
  | some s => by simp only [Option.map, fu_moveSeg_zero]

mutual
  theorem mapSegs_zero : ∀ t : Tree, t.mapSegs (moveSeg 0) = t
    | .node n cs => by
      simp only [Tree.mapSegs, fu_map_moveSeg_zero, fu_omap_moveSeg_zero, fu_moveSeg_zero, ite_self,
        mapSegsL_zero cs]
  theorem mapSegsL_zero : ∀ ts : List Tree, Tree.mapSegsL (moveSeg 0) ts = ts
    | [] => by simp only [Tree.mapSegsL]
    | t :: ts => by simp only [Tree.mapSegsL, mapSegs_zero t, mapSegsL_zero ts]
end

end GM.Blocks.Sh

namespace GM.Blocks.Sh
open GM GM.Text GM.Blocks

theorem to_nodeFields_congr {n m : Node} (hk : n.kind = m.kind) (h1 : n.level = m.level) (h2 : n.marker = m.marker)
    (h3 : n.start = m.start) (h4 : n.tight = m.tight) (h5 : n.offset = m.offset) (h6 : n.info = m.info)
    (h7 : n.htmlType = m.htmlType) (h8 : n.closure = m.closure) : nodeFields n = nodeFields m := by
  unfold nodeFields
  rw [hk, h1, h2, h3, h4, h5, h6, h7, h8]

theorem to_str_congr {n m : Node} {cs ds : List Tree} (hk : n.kind = m.kind) (hb : n.blankPrev = m.blankPrev)
    (hf : nodeFields n = nodeFields m) (hl : n.lines = m.lines) (hc : Tree.strs cs = Tree.strs ds) :
    (Tree.node n cs).str = (Tree.node m ds).str := by
  simp only [Tree.str, hk, hb, hf, hl, hc]

theorem to_strs_append : ∀ (xs ys : List Tree), Tree.strs (xs ++ ys) = Tree.strs xs ++ Tree.strs ys
  | [], ys => by simp [Tree.strs]
  | x :: xs, ys => by
    rw [List.cons_append, Tree.strs, Tree.strs, to_strs_append xs ys, String.append_assoc]

theorem to_mapSegsL_map (f : Segment → Segment) (g : Nat → Tree) : ∀ ids : List Nat,
    Tree.mapSegsL f (ids.map g) = ids.map (fun i => (g i).mapSegs f)
  | [] => rfl
  | i :: ids => by rw [List.map_cons, Tree.mapSegsL, to_mapSegsL_map f g ids, List.map_cons]

/-- outside a list the position among the siblings does not matter -/
theorem to_readBlankL_false_first : ∀ (first first' : Bool) (ts : List Tree),
    Tree.readBlankL false first ts = Tree.readBlankL false first' ts
  | _, _, [] => rfl
  | _, _, t :: ts => by
    simp only [Tree.readBlankL, Bool.false_and]

theorem to_readBlankL_false_append : ∀ (first : Bool) (xs ys : List Tree),
    Tree.readBlankL false first (xs ++ ys) = Tree.readBlankL false first xs ++ Tree.readBlankL false first ys
  | _, [], _ => rfl
  | first, x :: xs, ys => by
    simp only [List.cons_append, Tree.readBlankL]
    rw [to_readBlankL_false_append false xs ys, to_readBlankL_false_first false first ys]

theorem to_node_str (F : Frame) (root : Bool) (a : Node) (keep : Bool) (cs ds : List Tree)
    (hc : Tree.strs (Tree.readBlankL (a.kind == .list || a.kind == .listItem) true ds) =
      Tree.strs (Tree.readBlankL (a.kind == .list || a.kind == .listItem) true (Tree.mapSegsL (moveSeg F.d) cs))) :
    ((Tree.node (shN F root a) ds).readBlank keep).str =
      (((Tree.node a cs).mapSegs (moveSeg F.d)).readBlank keep).str := by
  simp only [Tree.readBlank, Tree.mapSegs]
  refine to_str_congr rfl rfl ?_ rfl hc
  exact to_nodeFields_congr rfl rfl rfl rfl rfl rfl rfl rfl rfl

theorem to_strs_sim (F : Frame) {ta tb : Nat → Tree} : ∀ (ids : List Nat) (inList first : Bool),
    (∀ i ∈ ids, ∀ keep, ((tb (F.ι i)).readBlank keep).str = (((ta i).mapSegs (moveSeg F.d)).readBlank keep).str) →
    Tree.strs (Tree.readBlankL inList first ((ids.map F.ι).map tb)) =
      Tree.strs (Tree.readBlankL inList first (Tree.mapSegsL (moveSeg F.d) (ids.map ta)))
  | [], _, _, _ => rfl
  | i :: ids, inList, first, h => by
    simp only [List.map_cons, Tree.mapSegsL, Tree.readBlankL, Tree.strs]
    rw [h i (List.mem_cons_self ..), to_strs_sim F ids inList false (fun j hj => h j (List.mem_cons_of_mem _ hj))]

theorem treeOf_shift_str {F : Frame} {nA nB : List Node} (h : StoreRel F nA nB)
    (h0 : ∀ j, ∀ c ∈ (nA.getD j default).children, c ≠ 0) :
    ∀ (fuel j : Nat) (keep : Bool), j ≠ 0 →
      ((treeOf nB fuel (F.ι j)).readBlank keep).str =
        (((treeOf nA fuel j).mapSegs (moveSeg F.d)).readBlank keep).str := by
  intro fuel
  induction fuel with
  | zero =>
    intro j keep hj
    have hab := h.node j
    rw [beq_eq_false_iff_ne.mpr hj] at hab
    have e1 : treeOf nA 0 j = .node (nA.getD j default) [] := rfl
    have e2 : treeOf nB 0 (F.ι j) = .node (nB.getD (F.ι j) default) [] := rfl
    rw [e1, e2, hab]
    exact to_node_str F false _ keep [] [] rfl
  | succ f ih =>
    intro j keep hj
    have hab := h.node j
    rw [beq_eq_false_iff_ne.mpr hj] at hab
    have e1 : treeOf nA (f + 1) j =
      .node (nA.getD j default) ((nA.getD j default).children.map (treeOf nA f)) := rfl
    have e2 : treeOf nB (f + 1) (F.ι j) =
      .node (nB.getD (F.ι j) default) ((nB.getD (F.ι j) default).children.map (treeOf nB f)) := rfl
    rw [e1, e2, hab]
    refine to_node_str F false _ keep _ _ ?_
    have hch : (shN F false (nA.getD j default)).children = (nA.getD j default).children.map F.ι := by
      simp [shN]
    rw [hch]
    refine to_strs_sim F (ta := treeOf nA f) (tb := treeOf nB f) _ _ true ?_
    intro i hi keep'
    exact ih i keep' (h0 j i hi)

theorem treeOf_shift_doc {F : Frame} {nA nB : List Node} (h : StoreRel F nA nB) (fuel : Nat)
    (h0 : ∀ j, ∀ c ∈ (nA.getD j default).children, c ≠ 0) :
    Tree.strs (Tree.readBlankL false true ((nB.getD 0 default).children.map (treeOf nB fuel))) =
      Tree.strs (Tree.readBlankL false true (F.kids0.map (treeOf nB fuel) ++
        Tree.mapSegsL (moveSeg F.d) ((nA.getD 0 default).children.map (treeOf nA fuel)))) := by
  have hab := h.node 0
  rw [ι_zero] at hab
  have hch : (nB.getD 0 default).children = F.kids0 ++ (nA.getD 0 default).children.map F.ι := by
    rw [hab]; simp [shN]
  rw [hch, List.map_append, to_readBlankL_false_append, to_readBlankL_false_append, to_strs_append, to_strs_append]
  congr 1
  refine to_strs_sim F (ta := treeOf nA fuel) (tb := treeOf nB fuel) _ false true ?_
  intro i hi keep
  exact treeOf_shift_str h h0 fuel i keep (h0 0 i hi)

end GM.Blocks.Sh

namespace GM.Blocks.Sh
open GM GM.Text GM.Blocks

theorem st_nodeFields_doc {n : Node} (h : n.kind = .document) : nodeFields n = "" := by
  unfold nodeFields; rw [h]

theorem st_nodeFields_heading {n m : Node} (hn : n.kind = .heading) (hm : m.kind = .heading)
    (hl : n.level = m.level) : nodeFields n = nodeFields m := by
  unfold nodeFields; rw [hn, hm]; simp only [hl]

/-- the children of the Document of the heading-line run -/
theorem st_docKids_h (sh : St) (HH : Node)
    (hsh : sh.nodes = [{ kind := .document, children := [1] }, HH]) (hHHc : HH.children = []) :
    (docKids sh).2 = [.node HH []] := by
  unfold docKids
  rw [hsh]
  simp [treeOf, hHHc]

/-- the children of the Document of a run, with the canonical fuel -/
theorem st_docKids_b (sb : St) (hpos : 0 < sb.nodes.length) :
    (docKids sb).2 = (sb.nodes.getD 0 default).children.map (treeOf sb.nodes (sb.nodes.length - 1)) := by
  unfold docKids
  obtain ⟨k, hk⟩ : ∃ k, sb.nodes.length = k + 1 := ⟨sb.nodes.length - 1, by omega⟩
  rw [hk]
  simp [treeOf]

/-- a childless heading `HD` of the joined run dumps like the heading `HH` of the heading-line run moved by `d`, when its
    line is `HH`'s moved by `d` (the first child's `blankPrev` is not dumped) -/
theorem st_heading_strs (sh : St) (HH HD : Node) (d : Int)
    (hsh : sh.nodes = [{ kind := .document, children := [1] }, HH]) (hHHc : HH.children = [])
    (hnotl : HH.kind = .heading) (hkind : HD.kind = HH.kind) (hlev : HD.level = HH.level)
    (hlines : HD.lines = HH.lines.map (moveSeg d)) :
    Tree.strs (Tree.readBlankL false true [.node HD []]) =
      Tree.strs (Tree.readBlankL false true (Tree.mapSegsL (moveSeg d) (docKids sh).2)) := by
  rw [st_docKids_h sh HH hsh hHHc]
  simp only [Tree.mapSegsL, Tree.mapSegs, Tree.readBlankL, Tree.readBlank, Tree.strs]
  congr 1
  refine to_str_congr hkind (by simp) ?_ hlines rfl
  exact st_nodeFields_heading (hkind.trans hnotl) hnotl hlev

end GM.Blocks.Sh

namespace GM.Blocks.Sh
open GM GM.Text GM.Spec GM.Proof.Reader GM.Blocks

theorem docKids_fst (s : St) : (docKids s).1 = s.nodes.getD 0 default := by
  unfold docKids
  cases s.nodes.length with
  | zero => rfl
  | succ k => rfl

/-- the final assembly of the two dumps, any prefix: `nd` = final store of the run on the joined document, related by
    the frame to the final store of `run b`; the old children of `nd`'s Document dump like `old` -/
theorem indep_strings_gen (F : Frame) (sb : St) (nd : List Node) (da : Node) (old : List Tree)
    (hrel : StoreRel F sb.nodes nd)
    (hac : ∀ j c, c ∈ (sb.nodes.getD j default).children → j < c)
    (hdl : (sb.nodes.getD 0 default).lines = [])
    (hdak : da.kind = .document) (hdal : da.lines = [])
    (hold : Tree.strs (Tree.readBlankL false true (F.kids0.map (treeOf nd (nd.length - 1)))) =
      Tree.strs (Tree.readBlankL false true old)) :
    ((Tree.node da (old ++ Tree.mapSegsL (moveSeg F.d) (docKids sb).2)).readBlank false).str =
      ((treeOf nd nd.length 0).readBlank false).str := by
  have hpos := hrel.pos
  have hlen : nd.length = sb.nodes.length + F.c := hrel.len
  have h0 : ∀ j, ∀ c ∈ (sb.nodes.getD j default).children, c ≠ 0 := by
    intro j c hm; have := hac j c hm; omega
  have hdd : nd.getD 0 default = shN F true (sb.nodes.getD 0 default) := by
    have := hrel.node 0
    rw [ι_zero] at this
    exact this
  have hddk : (nd.getD 0 default).kind = .document := by rw [hdd]; exact hrel.doc
  have hddl : (nd.getD 0 default).lines = [] := by
    rw [hdd]; show (sb.nodes.getD 0 default).lines.map (moveSeg F.d) = []; rw [hdl]; rfl
  obtain ⟨k, hk⟩ : ∃ k, nd.length = k + 1 := ⟨nd.length - 1, by omega⟩
  have hk1 : nd.length - 1 = k := by omega
  rw [hk1] at hold
  rw [st_docKids_b sb hpos, hk]
  simp only [treeOf, Tree.readBlank]
  refine to_str_congr (hdak.trans hddk.symm) (by simp) ?_ (hdal.trans hddl.symm) ?_
  · rw [st_nodeFields_doc (n := { da with blankPrev := false && da.blankPrev }) hdak]
    exact (st_nodeFields_doc (n := { nd.getD 0 default with blankPrev := false && (nd.getD 0 default).blankPrev }) hddk).symm
  · have hf1 : ((da.kind == Kind.list) || (da.kind == Kind.listItem)) = false := by rw [hdak]; rfl
    have hf2 : (((nd.getD 0 default).kind == Kind.list) || ((nd.getD 0 default).kind == Kind.listItem)) = false := by
      rw [hddk]; rfl
    rw [hf1, hf2, treeOf_shift_doc hrel k h0]
    have hst : (sb.nodes.getD 0 default).children.map (treeOf sb.nodes k) =
        (sb.nodes.getD 0 default).children.map (treeOf sb.nodes (sb.nodes.length - 1)) := by
      apply fu_map_congr
      intro c hm
      have := hac 0 c hm
      exact treeOf_child_stable hac k c (by omega) (by omega)
    rw [hst, to_readBlankL_false_append, to_readBlankL_false_append, to_strs_append, to_strs_append, hold]

/-- **what an instance has to deliver** for the documents `a`, `h`, `b` and the final state `sd` of the run on the
    joined document: that run passes through a `Start` state of a frame for the prefix `a ++ sep ++ "# h\n" ++ "\n"`
    (same length; `F.OK` says the prefix ends with a blank line), and in its final store the old children of the
    Document dump like the children of `run a`'s Document followed by the heading of `run "# h\n"` moved by `|a ++ sep|`. -/
def Reach (a h b : Bytes) (sa sh sd : St) : Prop :=
  ∃ (F : Frame) (stats : List LineStat) (s : St) (fuel : Nat), F.OK ∧ F.flag = true ∧
    (F.d : Int) = ((a ++ indepSep a ++ headingLine h ++ [10]).length : Int) ∧
    Start F b s stats ∧ blocksLoop 0 fuel stats s = .ok ((), sd) ∧
    Tree.strs (Tree.readBlankL false true (F.kids0.map (treeOf sd.nodes (sd.nodes.length - 1)))) =
      Tree.strs (Tree.readBlankL false true
        ((docKids sa).2 ++ Tree.mapSegsL (moveSeg ((a ++ indepSep a).length : Int)) (docKids sh).2))

/-- **composition**: `IndependentBlocks a h b` from `Reach`, which is only asked for when `a` does not end in a raw
    block (the statement's own proviso) -/
theorem independent_blocks_of_reach_raw (a h b : Bytes)
    (hreach : ∀ sa sh sd, run a = .ok sa → run (headingLine h) = .ok sh → run (indepDoc a h b) = .ok sd →
      endsInRawBlock sa = false → Reach a h b sa sh sd) :
    ∀ e g, indepPair a h b = some (e, g) → e = g := by
  intro e g hp
  unfold indepPair at hp
  have hok : indepBytesOK a h b = true := by
    cases hq : indepBytesOK a h b with
    | true => rfl
    | false => rw [hq] at hp; simp at hp
  simp only [hok, Bool.not_true, Bool.false_eq_true, if_false] at hp
  obtain ⟨sa, hsa, _⟩ := run_ok_all a
  obtain ⟨sh, hsh, _⟩ := run_ok_all (headingLine h)
  obtain ⟨sb, hsb, _⟩ := run_ok_all b
  obtain ⟨sd, hsd, _⟩ := run_ok_all (indepDoc a h b)
  rw [hsa, hsh, hsb] at hp
  simp only at hp
  split at hp
  · cases hp
  · next hraw =>
    rw [hsd] at hp
    obtain ⟨F, stats, s, fuel, hF, hfl, hd, hstart, hcont, hold⟩ :=
      hreach sa sh sd hsa hsh hsd (by simpa using hraw)
    obtain ⟨sb', hsb', hrel⟩ := shift_invariance_all F hF hfl b hstart fuel sd hcont
    rw [hsb] at hsb'
    cases hsb'
    obtain ⟨hacb, hdlb, _⟩ := run_acyc b sb hsb
    obtain ⟨_, hdla, hdka⟩ := run_acyc a sa hsa
    have hstr := indep_strings_gen F sb sd.nodes (docKids sa).1
      ((docKids sa).2 ++ Tree.mapSegsL (moveSeg ((a ++ indepSep a).length : Int)) (docKids sh).2) hrel hacb.1 hdlb
      (by rw [docKids_fst]; exact hdka) (by rw [docKids_fst]; exact hdla) hold
    rw [hd] at hstr
    split at hp
    · cases hp
    · simp only [Option.some.injEq, Prod.mk.injEq] at hp
      obtain ⟨he, hg⟩ := hp
      rw [← he, ← hg]
      exact hstr

/-- **composition**: `IndependentBlocks a h b` from `Reach` — every `a`, `h`, `b` -/
theorem independent_blocks_of_reach (a h b : Bytes)
    (hreach : ∀ sa sh sd, run a = .ok sa → run (headingLine h) = .ok sh → run (indepDoc a h b) = .ok sd →
      Reach a h b sa sh sd) :
    ∀ e g, indepPair a h b = some (e, g) → e = g :=
  independent_blocks_of_reach_raw a h b (fun sa sh sd h1 h2 h3 _ => hreach sa sh sd h1 h2 h3)

end GM.Blocks.Sh
