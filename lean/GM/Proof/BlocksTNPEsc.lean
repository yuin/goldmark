/-
  GM.Proof.BlocksTNPEsc — the escaped-pipe positions of the final tree ascend (`GM.TableX.escOfTree`): the tree-level half (`escOrd` ⇒ the pre-order concatenation ascends) and a store-level sufficient
  condition (`SpanOK`: a labelling of the node ids by nested source spans). Not proved: that the block driver establishes it.
-/
import GM.Model.ExtTableX
import GM.Model.ConvertL

section BlocksTNPEscTree
/-
  The escaped-pipe positions of the final tree (`GM.TableX.escOfTree`, the last conjunct of
  `GM.Props.ConvertXE2E.BlockPhaseXGood`): the TREE-LEVEL half of "they ascend". `escOrd src t`: at every node the positions the
  node itself records ascend and lie before everything recorded below it, and among its children everything recorded in an
  earlier subtree lies before everything recorded in a later one. `escOfTree_pw`: then the pre-order concatenation ascends.
  `blockPhaseX_esc_ascending_of`: that conjunct from `escOrd` of the final tree (trivial with Table off).
  NOT proved here: that the block driver establishes `escOrd` (tables appear in source order — needs a sibling-order
  invariant of the walk: children are appended in temporal = source order, a Table is inserted directly behind ITS paragraph).
-/

namespace GM.Blocks.TP4
open GM GM.Text GM.Blocks GM.TableX

/-- every position of `a` lies before every position of `b` -/
def Before (a b : List Int) : Prop := ∀ x ∈ a, ∀ y ∈ b, x < y

theorem before_of_bound {a b : List Int} (m : Int) (ha : ∀ x ∈ a, x < m) (hb : ∀ y ∈ b, m ≤ y) : Before a b :=
  fun x hx y hy => Int.lt_of_lt_of_le (ha x hx) (hb y hy)

theorem before_nil_left (b : List Int) : Before [] b := fun _ h => by cases h
theorem before_nil_right (a : List Int) : Before a [] := fun _ _ _ h => by cases h

theorem before_append_right {a b c : List Int} (h1 : Before a b) (h2 : Before a c) : Before a (b ++ c) :=
  fun x hx y hy => by
    rcases List.mem_append.1 hy with h | h
    · exact h1 x hx y h
    · exact h2 x hx y h

/-- what a node itself records -/
def ownEsc (src : Bytes) (n : Node) : List Int := if isRowNode src n then n.lines.map (·.start) else []

mutual
/-- the recorded positions are ordered along the pre-order walk -/
def escOrd (src : Bytes) : Tree → Prop
  | .node n cs => (ownEsc src n).Pairwise (· < ·) ∧ Before (ownEsc src n) (escOfTrees src cs) ∧ escOrdL src cs
def escOrdL (src : Bytes) : List Tree → Prop
  | [] => True
  | t :: rest => escOrd src t ∧ escOrdL src rest ∧ Before (escOfTree src t) (escOfTrees src rest)
end

mutual
theorem escOfTree_pw (src : Bytes) : ∀ t, escOrd src t → (escOfTree src t).Pairwise (· < ·)
  | .node n cs, h => by
    unfold escOrd at h
    unfold escOfTree
    exact List.pairwise_append.2 ⟨h.1, escOfTrees_pw src cs h.2.2, h.2.1⟩
theorem escOfTrees_pw (src : Bytes) : ∀ ts, escOrdL src ts → (escOfTrees src ts).Pairwise (· < ·)
  | [], _ => by unfold escOfTrees; exact List.Pairwise.nil
  | t :: rest, h => by
    unfold escOrdL at h
    unfold escOfTrees
    exact List.pairwise_append.2 ⟨escOfTree_pw src t h.1, escOfTrees_pw src rest h.2.1, h.2.2⟩
end

/-- a list of subtrees whose own children record nothing (the rows of ONE Table: the cells below a row record nothing) is
    ordered as soon as its concatenated positions ascend — the form the per-table lemma of
    GM.Proof.ConvertXE2EEsc (header, then the body rows) delivers -/
theorem escOrdL_of_flat (src : Bytes) : ∀ ts : List Tree,
    (∀ t ∈ ts, ∃ n cs, t = .node n cs ∧ escOfTrees src cs = [] ∧ escOrdL src cs) →
    (escOfTrees src ts).Pairwise (· < ·) → escOrdL src ts
  | [], _, _ => by unfold escOrdL; trivial
  | t :: rest, hk, hp => by
    unfold escOfTrees at hp
    obtain ⟨h1, h2, h3⟩ := List.pairwise_append.1 hp
    obtain ⟨n, cs, e, hcs, hol⟩ := hk t (by simp)
    unfold escOrdL
    refine ⟨?_, escOrdL_of_flat src rest (fun t' ht' => hk t' (by simp [ht'])) h2, h3⟩
    subst e
    unfold escOfTree at h1
    rw [hcs, List.append_nil] at h1
    unfold escOrd
    exact ⟨h1, by rw [hcs]; exact before_nil_right _, hol⟩

/-- the subtree of ONE Table: the Table node records nothing itself; its rows as above -/
theorem escOrd_table (src : Bytes) (tn : Node) (rows : List Tree) (htn : isRowNode src tn = false)
    (hk : ∀ t ∈ rows, ∃ n cs, t = .node n cs ∧ escOfTrees src cs = [] ∧ escOrdL src cs)
    (hp : (escOfTrees src rows).Pairwise (· < ·)) : escOrd src (.node tn rows) := by
  unfold escOrd
  have : ownEsc src tn = [] := by unfold ownEsc; rw [htn]; rfl
  rw [this]
  exact ⟨List.Pairwise.nil, before_nil_left _, escOrdL_of_flat src rows hk hp⟩

/-- **the escaped-pipe clause from the order of the final tree**: the escaped-pipe positions `tableASTTransformer` is handed ascend -/
theorem blockPhaseX_esc_ascending_of (c : GM.ConvertX.GCfg) (src : Bytes) (st : St)
    (hO : c.base.table = true → escOrd src (treeOf st.nodes st.nodes.length 0)) :
    (if c.base.table then escOfTree src (treeOf st.nodes st.nodes.length 0) else []).Pairwise (· < ·) := by
  cases hc : c.base.table with
  | false => simp
  | true => simp only [if_true]; exact escOfTree_pw src _ (hO hc)

end GM.Blocks.TP4
end BlocksTNPEscTree

section BlocksTNPEscStore
/-
  A STORE-LEVEL sufficient condition for `escOrd` of the tree read out of the node store:
  a labelling of the node ids by source spans `[lo id, hi id)` such that what a node records itself
  ascends inside its span and before the spans of its children, the children's spans are nested in the node's span and
  follow each other in child order (`SpanOK`). `escOrd_treeOf`: then `escOrd src (treeOf nodes fuel id)` for every fuel and id —
  the invariant a walk of the block driver has to establish ("tables appear in source order") in order to obtain
  the escaped-pipe clause through `blockPhaseX_esc_ascending_of`.
-/

namespace GM.Blocks.TP4
open GM GM.Text GM.Blocks GM.TableX

structure SpanOK (src : Bytes) (nodes : List Node) (lo hi : Nat → Int) : Prop where
  own : ∀ id, (ownEsc src (nodes.getD id default)).Pairwise (· < ·) ∧
    ∀ x ∈ ownEsc src (nodes.getD id default), lo id ≤ x ∧ x < hi id
  ownKids : ∀ id c, c ∈ (nodes.getD id default).children → ∀ x ∈ ownEsc src (nodes.getD id default), x < lo c
  nest : ∀ id c, c ∈ (nodes.getD id default).children → lo id ≤ lo c ∧ hi c ≤ hi id
  sib : ∀ id, (nodes.getD id default).children.Pairwise (fun a b => hi a ≤ lo b)

theorem escOrdL_map {src : Bytes} {lo hi : Nat → Int} (f : Nat → Tree)
    (hf : ∀ c, (∀ x ∈ escOfTree src (f c), lo c ≤ x ∧ x < hi c) ∧ escOrd src (f c)) :
    ∀ l : List Nat, l.Pairwise (fun a b => hi a ≤ lo b) →
      (∀ x ∈ escOfTrees src (l.map f), ∃ c ∈ l, lo c ≤ x ∧ x < hi c) ∧ escOrdL src (l.map f)
  | [], _ => by
    simp only [List.map_nil]
    unfold escOfTrees escOrdL
    exact ⟨(fun _ h => by cases h), trivial⟩
  | a :: rest, hp => by
    obtain ⟨h1, h2⟩ := List.pairwise_cons.1 hp
    obtain ⟨ihb, iho⟩ := escOrdL_map f hf rest h2
    simp only [List.map_cons]
    unfold escOfTrees escOrdL
    refine ⟨fun x hx => ?_, (hf a).2, iho, fun x hx y hy => ?_⟩
    · rcases List.mem_append.1 hx with h | h
      · exact ⟨a, by simp, (hf a).1 x h⟩
      · obtain ⟨c, hc, hb⟩ := ihb x h
        exact ⟨c, by simp [hc], hb⟩
    · obtain ⟨c, hc, hb⟩ := ihb y hy
      have := ((hf a).1 x hx).2
      have := h1 c hc
      omega

theorem escOrd_treeOf {src : Bytes} {nodes : List Node} {lo hi : Nat → Int} (h : SpanOK src nodes lo hi) :
    ∀ (fuel id : Nat), (∀ x ∈ escOfTree src (treeOf nodes fuel id), lo id ≤ x ∧ x < hi id) ∧
      escOrd src (treeOf nodes fuel id)
  | 0, id => by
    unfold treeOf escOfTree escOrd
    unfold escOfTrees escOrdL
    refine ⟨fun x hx => ?_, (h.own id).1, before_nil_right _, trivial⟩
    rw [List.append_nil] at hx
    exact (h.own id).2 x hx
  | fuel + 1, id => by
    obtain ⟨hb, ho⟩ := escOrdL_map (src := src) (lo := lo) (hi := hi) (treeOf nodes fuel)
      (fun c => escOrd_treeOf h fuel c) (nodes.getD id default).children (h.sib id)
    unfold treeOf escOfTree escOrd
    refine ⟨fun x hx => ?_, (h.own id).1, fun x hx y hy => ?_, ho⟩
    · rcases List.mem_append.1 hx with h1 | h1
      · exact (h.own id).2 x h1
      · obtain ⟨c, hc, hbb⟩ := hb x h1
        have := h.nest id c hc
        omega
    · obtain ⟨c, hc, hbb⟩ := hb y hy
      have := h.ownKids id c hc x hx
      omega

/-- the escaped-pipe clause from a span labelling of the final store -/
theorem blockPhaseX_esc_ascending_of_spans (c : GM.ConvertX.GCfg) (src : Bytes) (st : St)
    (hS : c.base.table = true → ∃ lo hi, SpanOK src st.nodes lo hi) :
    (if c.base.table then escOfTree src (treeOf st.nodes st.nodes.length 0) else []).Pairwise (· < ·) :=
  blockPhaseX_esc_ascending_of c src st (fun hc => by
    obtain ⟨lo, hi, h⟩ := hS hc
    exact (escOrd_treeOf h st.nodes.length 0).2)

end GM.Blocks.TP4
end BlocksTNPEscStore
