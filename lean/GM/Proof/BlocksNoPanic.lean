/-
  GM.Proof.BlocksNoPanic — the contracts of the eight list-free block parsers put together (`specs_notList`), and the
  trigger table: in a source without `-`, `*`, `+` and digits no byte triggers the list parsers (`triggered_notList`).
  The whole-run theorem for such sources, `run_ok_listFree`, is in GM.Proof.BlocksNoPanicAll.
-/
import GM.Proof.BlocksDriver
import GM.Proof.BlocksSpecCode
import GM.Proof.BlocksSpecFenced
import GM.Proof.BlocksSpecHtml

namespace GM.Blocks
open GM GM.Text GM.Spec GM.Proof.Reader

/-- the parsers other than list and list item -/
def NotList (bp : BP) : Prop := bp ≠ .list ∧ bp ≠ .listItem

/-- no byte of the source triggers `listParser` / `listItemParser` -/
def ListFree (src : Bytes) : Prop := ∀ b ∈ src, b ≠ 45 ∧ b ≠ 42 ∧ b ≠ 43 ∧ isNumeric b = false

instance (src : Bytes) : Decidable (ListFree src) := by unfold ListFree; infer_instance

theorem specs_notList (src : Bytes) : Specs src NotList where
  opn := by
    intro bp h
    cases bp
    · exact setextOpen_spec src
    · exact thematicOpen_spec src
    · exact absurd rfl h.1
    · exact absurd rfl h.2
    · exact codeOpen_spec src
    · exact atxOpen_spec src
    · exact fencedOpen_spec src
    · exact blockquoteOpen_spec src
    · exact htmlOpen_spec src
    · exact paragraphOpen_spec src
  cont := by
    intro bp h
    cases bp
    · exact setextContinue_spec src
    · exact thematicContinue_spec src
    · exact absurd rfl h.1
    · exact absurd rfl h.2
    · exact codeContinue_spec src
    · exact atxContinue_spec src
    · exact fencedContinue_spec src
    · exact blockquoteContinue_spec src
    · exact htmlContinue_spec src
    · exact paragraphContinue_spec src
  close := by
    intro bp h
    cases bp
    · exact setextClose_spec src
    · exact thematicClose_spec src
    · exact absurd rfl h.1
    · exact absurd rfl h.2
    · exact codeClose_spec src
    · exact atxClose_spec src
    · exact fencedClose_spec src
    · exact blockquoteClose_spec src
    · exact htmlClose_spec src
    · exact paragraphClose_spec src
  paraCont := fun _ node s c h hpad hn hk hb => paragraphContinue_spec' src node s c h hpad hn hk hb

/-- the trigger table: `listParser` / `listItemParser` are entered under `-`, `*`, `+` and the digits only -/
theorem triggered_list_bytes : ∀ c : UInt8, (c == 45 || c == 42 || c == 43 || isNumeric c) = false →
    ((triggered c).getD []).all (fun bp => bp != .list && bp != .listItem) = true := by
  apply forall_uint8; decide +kernel

theorem triggered_notList (src : Bytes) (hsrc : ListFree src) :
    ∀ ch ∈ src, ∀ bps, triggered ch = some bps → ∀ bp ∈ bps, NotList bp := by
  intro ch hch bps htr bp hbp
  obtain ⟨h1, h2, h3, h4⟩ := hsrc ch hch
  have hall := triggered_list_bytes ch (by simp [h1, h2, h3, h4])
  rw [htr] at hall
  simpa [NotList] using List.all_eq_true.mp hall bp hbp

end GM.Blocks
