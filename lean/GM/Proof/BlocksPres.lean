/-
  GM.Proof.BlocksPres — invariant-preservation calculus for the block-phase model (GM.Model.Blocks):
  `Pres I m` says that the monadic program `m` keeps the state invariant `I` and never answers
  `Panic.loop` (it may answer any other panic). `Pres` is closed under `bind` / `pure` / `if` / `match` and holds of
  the primitives once the reader primitives keep `I` (hypotheses `RPrims I`, discharged for concrete invariants in
  GM.Proof.BlocksTerm): so every parser function has it (`Built.pres`, a fold over GM.Proof.BlocksBuilt), and the
  driver loops, which do throw `Panic.loop` on empty fuel, by a walk over their `do` block (tactic `pres`). In front of it: list facts about child lists and the node store that
  the block proofs share.
-/
import GM.Proof.BlocksBuilt

namespace GM.Blocks
open GM GM.Text

theorem qs_mem_insertBeforeIn {b v x : Nat} : ∀ {l : List Nat}, x ∈ insertBeforeIn b v l → x = v ∨ x ∈ l
  | [], h => by simp [insertBeforeIn] at h; exact .inl h
  | a :: rest, h => by
    unfold insertBeforeIn at h
    split at h
    · rcases List.mem_cons.mp h with h | h
      · exact .inl h
      · exact .inr h
    · rcases List.mem_cons.mp h with h | h
      · exact .inr (by rw [h]; exact List.mem_cons_self ..)
      · rcases qs_mem_insertBeforeIn h with h | h
        · exact .inl h
        · exact .inr (List.mem_cons_of_mem _ h)

theorem getD_set_ne {α} (l : List α) (i j : Nat) (a d : α) (h : i ≠ j) : (l.set i a).getD j d = l.getD j d := by
  simp [List.getD_eq_getElem?_getD, List.getElem?_set, h]

theorem getD_set_eq {α} (l : List α) (i : Nat) (a d : α) (h : i < l.length) : (l.set i a).getD i d = a := by
  simp [List.getD_eq_getElem?_getD, List.getElem?_set, h]

theorem getD_append_lt {α} (l : List α) (x d : α) (i : Nat) (h : i ≠ l.length) : (l ++ [x]).getD i d = l.getD i d := by
  simp only [List.getD_eq_getElem?_getD]
  rcases Nat.lt_or_ge i l.length with h1 | h1
  · rw [List.getElem?_append_left h1]
  · rw [List.getElem?_eq_none (by simp; omega), List.getElem?_eq_none h1]

/-- a `bind` that ends normally: so did its first part, and the rest ran from the state that left -/
theorem bind_ok {α β} {m : M α} {f : α → M β} {s : St} {b : β} {s'' : St} (h : (m >>= f) s = .ok (b, s'')) :
    ∃ a s', m s = .ok (a, s') ∧ f a s' = .ok (b, s'') := by
  simp only [Bind.bind, StateT.bind] at h
  cases hm : m s with
  | error e => rw [hm] at h; simp [Except.bind] at h
  | ok p => rw [hm] at h; exact ⟨p.1, p.2, rfl, h⟩

/-- `m` preserves `I` and never runs out of fuel -/
structure Pres (I : St → Prop) {α : Type} (m : M α) : Prop where
  h : ∀ s, I s → match m s with
    | .ok (_, s') => I s'
    | .error e => e ≠ Panic.loop

variable {I : St → Prop}

theorem Pres.pure {α} (a : α) : Pres I (pure a : M α) := ⟨fun _ hs => hs⟩

theorem Pres.bind {α β} {m : M α} {f : α → M β} (hm : Pres I m) (hf : ∀ a, Pres I (f a)) :
    Pres I (m >>= f) := by
  constructor
  intro s hs
  have h1 := hm.h s hs
  show match (m >>= f) s with | .ok (_, s') => I s' | .error e => e ≠ Panic.loop
  simp only [Bind.bind, StateT.bind]
  cases hms : m s with
  | error e => rw [hms] at h1; simpa [Except.bind] using h1
  | ok p =>
    rw [hms] at h1
    simp only [Except.bind]
    exact (hf p.1).h p.2 h1

theorem Pres.ite {α} {c : Prop} [Decidable c] {a b : M α} (ha : Pres I a) (hb : Pres I b) :
    Pres I (if c then a else b) := by
  split <;> assumption

theorem Pres.throw {α} (e : Panic) (h : e ≠ .loop) : Pres I (throw e : M α) := ⟨fun _ _ => h⟩

theorem Pres.ok {α} {m : M α} (hm : Pres I m) {s : St} (hs : I s) {a : α} {s' : St}
    (h : m s = .ok (a, s')) : I s' := by
  have := hm.h s hs; rw [h] at this; exact this

theorem Pres.noLoop {α} {m : M α} (hm : Pres I m) {s : St} (hs : I s) : m s ≠ .error .loop := by
  have := hm.h s hs
  intro h; rw [h] at this; exact this rfl

/-- the invariant does not look at the node store or the parse context -/
def ROnly (I : St → Prop) : Prop := ∀ s nodes pc, I s → I { s with nodes := nodes, pc := pc }

theorem getNode_pres (id : Nat) : Pres I (getNode id) := ⟨fun _ hs => hs⟩
theorem getPc_pres : Pres I getPc := ⟨fun _ hs => hs⟩
theorem source_pres : Pres I source := ⟨fun _ hs => hs⟩
theorem position_pres : Pres I position := ⟨fun _ hs => hs⟩
theorem get_pres : Pres I (get : M St) := ⟨fun _ hs => hs⟩
theorem modNode_pres (hI : ROnly I) (id : Nat) (f) : Pres I (modNode id f) := ⟨fun s hs => hI s _ _ hs⟩
theorem newNode_pres (hI : ROnly I) (n) : Pres I (newNode n) := ⟨fun s hs => hI s _ _ hs⟩
theorem modPc_pres (hI : ROnly I) (f) : Pres I (modPc f) := ⟨fun s hs => hI s _ _ hs⟩
theorem appendLine_pres (hI : ROnly I) (id seg) : Pres I (appendLine id seg) := modNode_pres hI _ _

theorem liftE_pres {α} (e : Except Panic α) (h : NoLoop e) : Pres I (liftE e) := by
  constructor
  intro s hs
  cases e with
  | ok a => exact hs
  | error e => exact h.h e rfl

/-- the reader primitives keep the invariant -/
structure RPrims (I : St → Prop) : Prop where
  ronly : ROnly I
  peekLine : Pres I peekLine
  lineOffset : Pres I lineOffset
  advance : ∀ n, Pres I (advance n)
  advanceAndSetPadding : ∀ n p, Pres I (advanceAndSetPadding n p)
  preserveLeadingTab : ∀ seg ind, Pres I (preserveLeadingTab seg ind)

/-- one step of the walk, the frequent shapes first -/
macro "pres_step" : tactic =>
  `(tactic| first
    | intro _
    | with_reducible apply Pres.bind
    | with_reducible apply Pres.pure
    | with_reducible apply Pres.ite
    | with_reducible apply getNode_pres
    | ((with_reducible apply liftE_pres) <;> noloop_prim)
    | with_reducible apply getPc_pres
    | (with_reducible apply modNode_pres; assumption)
    | (with_reducible apply modPc_pres; assumption)
    | (with_reducible apply appendLine_pres; assumption)
    | (with_reducible apply newNode_pres; assumption)
    | (with_reducible apply Pres.throw; decide)
    | with_reducible apply source_pres
    | with_reducible apply position_pres
    | with_reducible apply get_pres
    | apply_hyp
    | split)

/-- walk over an `M` do block -/
macro "pres" : tactic => `(tactic| repeat' pres_step)

/-- every program over the primitives keeps an invariant that the reader primitives keep, whatever it writes -/
theorem Built.pres {RD NW PW NN} (h : RPrims I) {α : Type} {m : M α} (hm : Built RD NW PW NN m) : Pres I m :=
  hm.fold (J := fun m => Pres I m)
    { pure := .pure, bind := .bind, throw := .throw, liftE := liftE_pres,
      rd := fun _ hr => by
        cases hr with
        | peekLine => exact h.peekLine
        | lineOffset => exact h.lineOffset
        | advance n => exact h.advance n
        | advanceAndSetPadding n p => exact h.advanceAndSetPadding n p
        | preserveLeadingTab s i => exact h.preserveLeadingTab s i
      getNode := getNode_pres, getPc := getPc_pres, source := source_pres, position := position_pres, get := get_pres,
      modNode := fun id f _ => modNode_pres h.ronly id f, newNode := fun n _ => newNode_pres h.ronly n,
      modPc := fun f _ => modPc_pres h.ronly f }

section parsers
variable (h : RPrims I)
include h

theorem lastOpenedBlock_pres : Pres I lastOpenedBlock :=
  (lastOpenedBlock_built (RD := False) (NW := fun _ _ => False) (PW := fun _ => False) (NN := fun _ => False)).pres h
theorem removeChild_pres (p c : Nat) : Pres I (removeChild p c) :=
  (removeChild_built (L := fun _ _ => True) (RD := False) (NW := fun _ _ => False) (PW := fun _ => False)
    (NN := fun _ => False) p c).pres h
theorem appendChild_pres (p c : Nat) : Pres I (appendChild p c) :=
  (appendChild_built (L := fun _ _ => True) (RD := False) (NW := fun _ _ => False) (PW := fun _ => False)
    (NN := fun _ => False) trivial).pres h
theorem insertBefore_pres (p : Nat) (v1 : Option Nat) (ins : Nat) : Pres I (insertBefore p v1 ins) :=
  (insertBefore_built (L := fun _ _ => True) (RD := False) (NW := fun _ _ => False) (PW := fun _ => False)
    (NN := fun _ => False) v1 trivial).pres h
theorem replaceChild_pres (p v1 ins : Nat) : Pres I (replaceChild p v1 ins) :=
  (replaceChild_built (L := fun _ _ => True) (RD := False) (NW := fun _ _ => False) (PW := fun _ => False)
    (NN := fun _ => False) v1 trivial).pres h
theorem paragraphContinue_pres (n : Nat) : Pres I (paragraphContinue n) :=
  (paragraphContinue_built (PW := fun _ => False) (NN := fun _ => False) n).pres h
theorem bpOpen_pres (bp : BP) (p : Nat) : Pres I (bpOpen bp p) := (bpOpen_built bp p).built.pres h
theorem bpContinue_pres (bp : BP) (n : Nat) : Pres I (bpContinue bp n) :=
  (bpContinue_built (L := none) (NN := fun _ => False) bp n).pres h
theorem bpClose_pres (bp : BP) (n : Nat) : Pres I (bpClose bp n) := (bpClose_built (RD := False) bp n).pres h

end parsers

end GM.Blocks
