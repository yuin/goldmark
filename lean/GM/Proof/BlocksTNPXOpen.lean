/-
  GM.Proof.BlocksTNPXOpen — the no-panic walk of the driver with hooks (`cls`, wide transformer contract `PTsSpecX`) at the line-boundary invariant
  `StableG`: the retry loop and `openBlocksC` (`openBlocksL`, `stableG_top`), then the end of an iteration of the line loop (`lineTailL`).
-/
import GM.Proof.BlocksTNPXTry

section BlocksTNPXOpen
/-
  One `openBlocksC cls` call for the wide transformer contract `PTsSpecX` and any `cls` with `CloseLike`:
  `toContinuable`, the retry loop `openBlocksLoopC` / `retryStepC` with BOTH contract monitors ((1) as in GM.Proof.BlocksDriverL;
  (2): a transformed retry happens at most once per call — afterwards the stack is popped and all its blocks are containers, so
  the setext parser cannot succeed again — and does not increase `retryMeasure`: the reader is untouched and the flag term was
  already 1), `openBlocksC`. Namespace `L.G` holds what does not mention the contract.
-/

namespace GM.Blocks.L.G
open GM GM.Text GM.Spec GM.Proof.Reader GM.Blocks.T GM.Blocks.TR

/-- what `openBlocksC` hands back (cf. `L.OBPostL`) -/
def OBPostG (src : Bytes) (old pre : List Block) (root : Nat) (s0 : St) (c : RCur) (res : OpenResult) (s' : St) : Prop :=
  ∃ c' new', RIa src s'.r c' ∧ c.p ≤ c'.p ∧ WinL src old pre root s0 s' new' ∧ Leafy new' ∧
    (∀ k ∈ new', ∀ b ∈ old, CompatT s' k b) ∧ (res = .paragraphContinuation → new' = [] ∧ s'.pc.opened = old) ∧
    (nd s' (lastNode root (pre ++ new'))).kind ≠ .list ∧ (new' = [] → s'.pc.opened = old → TreeSame s0 s') ∧ TL s' ∧
    (∀ k ∈ new', k.bp = .setext → s'.pc.opened = old.dropLast ++ new') ∧
    (∀ y, new'.getLast? = some y → y.bp.isContainer = false → LK s' y.node (lastNode root (pre ++ new'.dropLast))) ∧
    (old ≠ [] → s'.pc.opened = old.dropLast ++ new' → new' ≠ [])

/-- what the retry loop carries besides the window -/
structure LoopInv (old pre : List Block) (root : Nat) (tdone cont : Bool) (s : St) (new : List Block) : Prop where
  tl : TL s
  sp : ∀ k ∈ new, k.bp = .setext → s.pc.opened = old.dropLast ++ new
  lk : ∀ y, new.getLast? = some y → y.bp.isContainer = false → LK s y.node (lastNode root (pre ++ new.dropLast))
  cop : cont = true → new = [] → s.pc.opened = old
  td : tdone = true → old ≠ [] ∧ s.pc.opened = old.dropLast ++ new
  np : tdone = false → new = [] → s.pc.opened = old
  tdc : tdone = true → cont = false

/-- what the retry behind a transformed paragraph knows about the (unchanged) line: it was a setext underline -/
structure BarInv (src : Bytes) (c : RCur) : Prop where
  vs : (RCur.view src c).isNone = false
  nl : ∀ b, ((RCur.view src c).getD [])[0]? = some b → (b == 10) = false
  w3 : ¬ (indentWidthI ((RCur.view src c).getD []) (loVal src c)).1 > 3
  nb : NonBlankSeg src (RCur.seg src c)

theorem LoopInv.congr {old pre : List Block} {root : Nat} {tdone cont : Bool} {s s' : St} {new : List Block}
    (h : LoopInv old pre root tdone cont s new) (hn : s'.nodes = s.nodes) (ho : s'.pc.opened = s.pc.opened)
    (ht : s'.pc.tmpPara = s.pc.tmpPara) : LoopInv old pre root tdone cont s' new where
  tl := h.tl.ext (Ext.of_nodes_eq hn) ht (fun b hb hs => ⟨b, by rw [← ho]; exact hb, hs⟩)
  sp := fun k hk hs => by rw [ho]; exact h.sp k hk hs
  lk := fun y hy hl => (lk_tinv _ _).ts (TreeSame.of_nodes_eq hn) (h.lk y hy hl)
  cop := fun hc hn' => by rw [ho]; exact h.cop hc hn'
  td := fun ht' => by rw [ho]; exact h.td ht'
  np := fun a b => by rw [ho]; exact h.np a b
  tdc := h.tdc

variable {e : Panic} {pts : List PT}

section tp2
variable {src : Bytes} (lsp : LSp src)
include lsp

theorem toContinuableL {old pre : List Block} {root : Nat} {s0 : St} {tdone : Bool} (cont : Bool) (result : OpenResult)
    (lastBlock : Option Block) (s : St) (c c0 : RCur) (new : List Block) (hri : RI src s.r c) (hpad : PadOK c)
    (hle : c0.p ≤ c.p) (hw : WinL src old pre root s0 s new) (hleafy : Leafy new)
    (hcompat : ∀ k ∈ new, ∀ b ∈ old, CompatT s k b)
    (hres : (result = .noBlocksOpened ∧ new = [] ∧ (s.pc.opened = old → lastBlock = old.getLast?)) ∨ (result = .newBlocksOpened ∧ new ≠ []))
    (hcont : cont = true → ∃ lb, old.getLast? = some lb ∧ lb.bp = .paragraph)
    (hend : (nd s (lastNode root (pre ++ new))).kind ≠ .list) (hplt : lastNode root (pre ++ new) < s.nodes.length)
    (htmp : LoopInv old pre root tdone cont s new)
    (hnpop : old ≠ [] → s.pc.opened = old.dropLast ++ new → new ≠ []) :
    OKE e (OBPostG src old pre root s0 c0) (toContinuable cont result lastBlock s) := by
  unfold toContinuable
  have fin : OKE e (OBPostG src old pre root s0 c0) ((pure result : M OpenResult) s) := by
    refine OKE.ok ⟨c, new, hri.toRIa, hle, hw, hleafy, hcompat, fun h => ?_, hend, hw.tsame, htmp.tl, htmp.sp, htmp.lk, hnpop⟩
    rcases hres with ⟨h', _⟩ | ⟨h', _⟩ <;> rw [h'] at h <;> cases h
  by_cases hc : (result == OpenResult.noBlocksOpened && cont) = true
  · rw [if_pos hc]
    simp only [Bool.and_eq_true, beq_iff_eq] at hc
    obtain ⟨hr, hct⟩ := hc
    obtain ⟨lb, hlast, hbp⟩ := hcont hct
    rcases hres with ⟨_, hnew, hlb⟩ | ⟨h', _⟩
    · subst hnew
      have hop : s.pc.opened = old := htmp.cop hct rfl
      rw [hlb hop, hlast]
      simp only []
      have hmem : lb ∈ s.pc.opened := by rw [hop]; exact List.mem_of_getLast? hlast
      obtain ⟨lnode, lbp⟩ := lb
      simp only at hbp
      subst hbp
      have hpc := W.paragraphContinue_spec' src lnode s c hri hpad hw.nodes hw.keys (hw.blocks _ hmem)
      have hpc' : OKL (fun st s1 => ContPost src .paragraph s c st s1 ∧ TreeSame s s1) (bpContinue .paragraph lnode s) := by
        rcases hpc with ⟨a, s1, e1, h1⟩ | e1
        · exact .inl ⟨a, s1, e1, h1, lsp.contTS .paragraph lnode s a s1 e1⟩
        · exact .inr e1
      refine OKE.bind (m := bpContinue .paragraph lnode) (OKE.of_okl hpc') (fun st s1 h1 => ?_)
      obtain ⟨h1, hts⟩ := h1
      obtain ⟨c1, hria, _, hle1, _, _⟩ := h1.ria
      have hwin : WinL src old pre root s0 s1 [] :=
        hw.same h1.ext h1.nodes hts (by rw [h1.pc]) (by rw [h1.pc]) (by rw [h1.pc])
      have fin' : ∀ r : OpenResult, OKE e (OBPostG src old pre root s0 c0) ((pure r : M OpenResult) s1) := fun r =>
        OKE.ok ⟨c1, [], hria, Nat.le_trans hle hle1, hwin, by intro b hb; simp at hb, by simp, fun _ => ⟨rfl, by rw [h1.pc]; exact hop⟩,
          by rw [(hts.same _).1]; exact hend, hwin.tsame,
          htmp.tl.ext h1.ext (by rw [h1.pc]) (fun b hb hs => ⟨b, by rw [← h1.pc]; exact hb, hs⟩),
          (fun k hk => by cases hk), (fun y hy => by cases hy),
          (fun hne ho' => absurd (by have := ho'; rw [h1.pc, hop] at this; simpa using this.symm) (dropLast_ne old hne))⟩
      by_cases hst : st.cont = true
      · rw [if_pos hst]; exact fin' _
      · rw [if_neg hst]; exact fin' _
    · rw [hr] at h'; cases h'
  · rw [if_neg hc]; exact fin

end tp2

end GM.Blocks.L.G

namespace GM.Blocks.L.G.X
open GM GM.Text GM.Spec GM.Proof.Reader GM.Blocks.T GM.Blocks.TR

/-- the state invariant at line boundaries -/
structure StableG (src : Bytes) (root : Nat) (s : St) : Prop where
  nodes : NodesOK src s
  keys : W.KeysOKF s
  blocks : ∀ b ∈ s.pc.opened, BlockOK s b
  leafy : Leafy s.pc.opened
  ls : LStore s root
  chain : ChainedO s root s.pc.opened
  endOK : (nd s (lastNode root s.pc.opened)).kind ≠ .list
  tl : TL s
  tree : TreeOK s
  leafLast : ∀ lb, s.pc.opened.getLast? = some lb → lb.bp.isContainer = false → ∃ q, LK s lb.node q
  tmplt : ∀ t, s.pc.tmpPara = some t → t < s.nodes.length

variable {e : Panic} {pts : List PT}

section tp2
variable {src : Bytes} (lsp : LSp src) (hpts : PTsSpecX src e pts) {cls : BP → Nat → M Unit} (hC : CloseLike src cls)
include lsp hpts hC

theorem openBlocksLoopL {old pre : List Block} {root : Nat} {s0 : St} {c0 : RCur} (cl : Call old pre)
    (hll : ∀ lb, old.getLast? = some lb → lb.bp.isContainer = false → ∃ q, LK s0 lb.node q) (blank : Bool) :
    ∀ (fuel : Nat) (tdone cont : Bool) (parent : Nat) (result : OpenResult) (lb : Option Block) (s : St) (c : RCur) (new : List Block),
      (cont = true → ∃ lb, old.getLast? = some lb ∧ lb.bp = .paragraph) → RI src s.r c → PadOK c → c0.p ≤ c.p → WinL src old pre root s0 s new → LoopInv old pre root tdone cont s new → (tdone = true → new ≠ [] ∨ BarInv src c) → (∀ b ∈ new, b.bp.isContainer = true) →
      parent = lastNode root (pre ++ new) →
      ((result = .noBlocksOpened ∧ new = [] ∧ (s.pc.opened = old → lb = old.getLast?)) ∨ (result = .newBlocksOpened ∧ new ≠ [])) →
      ((nd s parent).kind = .list → Due src s c parent) →
      OKE e (OBPostG src old pre root s0 c0) (openBlocksLoopC cls pts blank fuel tdone cont parent result lb s) := by
  intro fuel
  induction fuel with
  | zero => intro _ _ _ _ _ _ _ _ _ _ _ _ _ _ _ _ _ _ _; exact .inl (.inr rfl)
  | succ fuel ih =>
    intro tdone cont parent result lb s c new hcont hri hpad hle hw htmp hbar hallc hq hres hmode
    have hcompat0 : ∀ (sX : St), ∀ k ∈ new, ∀ b ∈ old, CompatT sX k b :=
      fun _ k hk _ _ => CompatT.of_container_left (hallc k hk)
    unfold openBlocksLoopC
    refine OKE.bind (OKE.of_okl (peekLine_okl hri)) (fun x s1 hx => ?_)
    obtain ⟨hx, r1, hs1, h1⟩ := hx
    subst hx hs1
    simp only
    refine OKE.bind (OKE.of_okl (lineOffset_okl (s := { s with r := r1 }) h1)) (fun lo s2 hlo => ?_)
    obtain ⟨hlo, r2, hs2, h2⟩ := hlo
    subst hs2
    generalize hline : (RCur.view src c).getD [] = line
    have hb := indentWidthI_bounds line lo
    generalize hpos : (indentWidthI line lo).2 = pos at hb
    generalize hwd : (indentWidthI line lo).1 = wd
    refine OKE.bind (m := modPc _)
      (P := fun _ s3 => s3.r = r2 ∧ s3.nodes = s.nodes ∧ s3.pc.opened = s.pc.opened ∧ s3.pc.tmpPara = s.pc.tmpPara ∧
        s3.pc.fence = s.pc.fence ∧ s3.pc.skipList = s.pc.skipList ∧
        s3.pc.blockOffset = (if pos ≥ (line.length : Int) then -1 else pos))
      (OKE.ok ⟨rfl, rfl, by simp only; split <;> rfl, by simp only; split <;> rfl, by simp only; split <;> rfl,
        by simp only; split <;> rfl, by simp only; split <;> rfl⟩) (fun _ s3 h3 => ?_)
    obtain ⟨h3r, h3n, h3o, h3t, h3f, h3s, h3b⟩ := h3
    have hri3 : RI src s3.r c := by rw [h3r]; exact h2
    have hw3 : WinL src old pre root s0 s3 new := hw.congr h3n h3o h3t h3f
    have htmp3 : LoopInv old pre root tdone cont s3 new := htmp.congr h3n h3o h3t
    have hres3 : (result = .noBlocksOpened ∧ new = [] ∧ (s3.pc.opened = old → lb = old.getLast?)) ∨ (result = .newBlocksOpened ∧ new ≠ []) := by
      rw [h3o]; exact hres
    have hk3 : (nd s3 parent).kind = (nd s parent).kind := by rw [nd_eq_of_nodes_eq h3n]
    have hmode3 : (nd s3 parent).kind = .list → Due src s3 c parent := fun hk =>
      (hmode (by rw [← hk3]; exact hk)).congr' h3n h3o h3s
    have hplt3 : lastNode root (pre ++ new) < s3.nodes.length := by
      rcases lastNode_mem root (pre ++ new) with e | ⟨b, hb', e⟩
      · rw [e]; exact hw3.ls.rootLt
      · rw [e]
        obtain ⟨suf, es⟩ := hw3.stack
        refine (hw3.blocks b ?_).lt
        rw [es]
        rcases List.mem_append.1 hb' with h | h
        · exact List.mem_append_left _ (List.mem_append_left _ h)
        · exact List.mem_append_right _ h
    -- the exits before the parsers are tried: only when the parent is not a List
    have exit : (nd s3 parent).kind ≠ .list → (tdone = true → new = [] → False) → ∀ (r : OpenResult) (l : Option Block),
        ((r = .noBlocksOpened ∧ new = [] ∧ (s3.pc.opened = old → l = old.getLast?)) ∨ (r = .newBlocksOpened ∧ new ≠ [])) →
        OKE e (OBPostG src old pre root s0 c0) (toContinuable cont r l s3) := fun hk hx r l hr =>
      toContinuableL lsp cont r l s3 c c0 new hri3 hpad hle hw3 (leafy_of_all hallc) (hcompat0 s3) hr hcont
        (by rw [← hq]; exact hk) hplt3 htmp3 (fun hne ho' hn0 => by
          cases htdv : tdone with
          | true => exact hx htdv hn0
          | false =>
            have := htmp3.np htdv hn0
            rw [this, hn0, List.append_nil] at ho'
            exact dropLast_ne old hne ho'.symm)
    -- in a `Due` state the line is a list item: facts about it
    have hdueLine : (nd s3 parent).kind = .list → ∃ (m : M6) (typ : ListTyp) (ch : UInt8) (pre0 : List BP),
        matchesListItem line false = (m, typ) ∧ typ ≠ .notList ∧ pos = m.r1 ∧ wd = m.r1 ∧ m.r1 ≤ 3 ∧ 0 ≤ m.r1 ∧
        line[m.r1.toNat]? = some ch ∧ triggered ch = some (pre0 ++ [BP.list, BP.listItem] ++ freeParsers) ∧
        (∀ q ∈ pre0, q = BP.setext ∨ q = BP.thematic) ∧ (∀ i : Nat, (i : Int) < m.r1 → line[i]? = some 32) ∧ lo = loVal src c := by
      intro hk
      have hd := hmode3 hk
      have hlo' : lo = loVal src c := hlo hd.lt
      cases hmt : matchesListItem line false with
      | mk m typ =>
        have hmt' : matchesListItem (lineOf src c) false = (m, typ) := by rw [← hmt, ← hline]
        obtain ⟨htyp, _⟩ := hd.m m typ hmt'
        have ok := matchesListItem_ok line false m typ hmt htyp
        have hiw := det_indent_of_item line m typ lo hmt htyp
        obtain ⟨ch, l, hch, htg, pre0, hl, hp0⟩ := det_trigger_of_item line m typ hmt htyp
        refine ⟨m, typ, ch, pre0, rfl, htyp, ?_, ?_, ok.r1_le, ok.r1_ge, hch, by rw [htg, hl], hp0, ok.spaces, hlo'⟩
        · rw [← hpos, hiw]
        · rw [← hwd, hiw]
    by_cases hnone : (RCur.view src c).isNone = true
    · rw [if_pos hnone]
      refine exit (fun hk => ?_) (fun htd hn0 => by
        rcases hbar htd with h | h
        · exact h hn0
        · rw [h.vs] at hnone; cases hnone) _ _ hres3
      have := (hmode3 hk).lt
      rw [view_eq src c this] at hnone; simp at hnone
    rw [if_neg hnone]
    have hp : c.p < src.length := by
      rcases Nat.lt_or_ge c.p src.length with hp | hp
      · exact hp
      · rw [view_none src c (by omega)] at hnone; simp at hnone
    have hvl := view_length src c hp (view_eq src c hp)
    have hlen : 1 ≤ line.length := by rw [← hline, view_eq src c hp]; simp only [Option.getD_some]; omega
    obtain ⟨b0, hb0, hb0'⟩ := idx_ok line 0 (by omega) (by omega)
    refine OKE.bind (OKE.of_okl (liftE_okl (P := fun a s' => a = b0 ∧ s' = s3) hb0 ⟨rfl, rfl⟩)) (fun a sy hy => ?_)
    obtain ⟨ha, hsy⟩ := hy
    subst a sy
    by_cases hnl : (b0 == 10) = true
    · rw [if_pos hnl]
      refine exit (fun hk => ?_) (fun htd hn0 => by
        rcases hbar htd with h | h
        · exact h hn0
        · have := h.nl b0 (by rw [hline]; simpa using hb0')
          rw [this] at hnl; cases hnl) _ _ hres3
      obtain ⟨m, typ, ch, pre0, _, _, _, _, _, h0, hch, htg, _, hsp, _⟩ := hdueLine hk
      have hb10 : b0 = 10 := by simpa using hnl
      rcases Int.lt_or_le 0 m.r1 with hlt | hge
      · have := hsp 0 (by simpa using hlt)
        simp only [Int.toNat_zero] at hb0'
        rw [this] at hb0'; cases hb0'; cases hb10
      · have e0 : m.r1 = 0 := by omega
        rw [e0] at hch
        simp only [Int.toNat_zero] at hb0' hch
        rw [hch] at hb0'; cases hb0'
        rw [hb10, triggered_nl] at htg; cases htg
    rw [if_neg hnl]
    have hctx : LineCtx src s3 c := by
      refine ⟨hri3, hp, hpad, ?_, hw3.nodes⟩
      rw [h3b, hline]
      split
      · omega
      · omega
    -- the rest of the iteration, for the parser list `bps`
    have tail : ∀ bps : List BP,
        (((nd s3 parent).kind ≠ .list ∧
            (BP.list ∈ bps → ∃ pre0, bps = pre0 ++ [BP.list, BP.listItem] ++ freeParsers ∧
              ∀ q ∈ pre0, q = BP.setext ∨ q = BP.thematic) ∧
            (∀ (ch : UInt8) (l : List BP),
              (lineOf src c)[(indentWidthI (lineOf src c) (loVal src c)).2.toNat]? = some ch → triggered ch = some l →
                BP.list ∈ bps → l = bps)) ∨
          ((nd s3 parent).kind = .list ∧ ∃ (ch : UInt8) (pre0 : List BP),
            (lineOf src c)[(indentWidthI (lineOf src c) (loVal src c)).2.toNat]? = some ch ∧
            triggered ch = some (pre0 ++ [BP.list, BP.listItem] ++ freeParsers) ∧
            (∀ q ∈ pre0, q = BP.setext ∨ q = BP.thematic) ∧ bps = pre0 ++ [BP.list, BP.listItem] ++ freeParsers ∧ ¬ wd > 3)) →
        BP.paragraph ∈ bps →
        OKE e (OBPostG src old pre root s0 c0)
        (retryStepC cls pts blank tdone cont parent wd bps result lb (openBlocksLoopC cls pts blank fuel) s3) := by
      intro bps hbps hpb
      unfold retryStepC
      refine OKE.bind (m := get) (P := fun sb sy => sb = s3 ∧ sy = s3) (OKE.ok ⟨rfl, rfl⟩) (fun sb sy hy => ?_)
      obtain ⟨hsb, hsy⟩ := hy
      subst sb sy
      have htp : OKE e (TPPostG src old pre root s0 s3 c (tdone = true) new wd) (tryParsersC cls pts parent blank cont wd bps result lb s3) := by
        rcases hbps with ⟨hk, hst, htr⟩ | ⟨hk, ch, pre0, hch, htg, hp0, hbe, hw3'⟩
        · exact tryParsersL lsp hpts hC cl hll parent blank cont wd c bps hst htr bps [] rfl result lb s3 new hctx hw3 htmp3.tl
            (fun h => (htmp3.td h).2) (fun h => by
              rcases hbar h with h1 | h1
              · exact .inl h1
              · refine .inr ⟨hpb, htmp3.tdc h, ?_, h1.nb⟩
                have := h1.w3
                rw [hline, ← hlo hp, hwd] at this
                exact this) hallc hq hres3 hk
            rfl rfl (fun h => by cases h)
        · rw [hbe]
          exact tryItemL lsp hpts hC cl hll parent blank cont wd c pre0 hp0 ch hch htg hw3' pre0 [] rfl result lb s3 new hctx hw3 htmp3.tl
            (fun h => (htmp3.td h).2) hallc hq hres3 (hmode3 hk)
      refine OKE.bind htp (fun x s4 h4 => ?_)
      obtain ⟨outcome, res, lb'⟩ := x
      obtain ⟨c', new', hri4, hpad4, hle4, hw4, hres4, hcompat4, htl4, hsp4, hlk4, hdone4, hpp4, hnb4, hmust4, hout⟩ := h4
      have hplt4 : lastNode root (pre ++ new') < s4.nodes.length := by
        rcases lastNode_mem root (pre ++ new') with e | ⟨b, hb', e⟩
        · rw [e]; exact hw4.ls.rootLt
        · rw [e]
          obtain ⟨suf, es⟩ := hw4.stack
          refine (hw4.blocks b ?_).lt
          rw [es]
          rcases List.mem_append.1 hb' with h | h
          · exact List.mem_append_left _ (List.mem_append_left _ h)
          · exact List.mem_append_right _ h
      cases outcome with
      | retry p' =>
        simp only at hout ⊢
        obtain ⟨hallc4, hp4, hprog4, hne4⟩ := hout
        refine OKE.bind (m := get) (P := fun sb sy => sb = s4 ∧ sy = s4) (OKE.ok ⟨rfl, rfl⟩) (fun sb sy hy => ?_)
        obtain ⟨hsb, hsy⟩ := hy
        subst sb sy
        have hlt : retryMeasure s4 < retryMeasure s3 := by
          rcases hprog4 with ⟨hpr, _⟩ | ⟨hcc, hdn⟩
          · unfold retryMeasure
            rw [hri4.source, hri3.source, hri4.pos, hri3.pos]
            simp only [Int.toNat_natCast]
            have := hri4.inRange
            split <;> split <;> omega
          · subst hcc
            unfold retryMeasure
            rw [hri4.source, hri3.source, hri4.pos, hri3.pos]
            have h4l : lastIsList s4 = true := by
              obtain ⟨lbx, hl1, hl2⟩ := hdn.isLast
              unfold lastIsList
              rw [hl1]
              simp only
              have := hdn.kind
              rw [← hl2] at this
              simp only [nd] at this
              rw [this]; rfl
            rw [h4l, hdn.wasNotList]
            simp
        rw [if_neg (by simp [hlt])]
        refine ih tdone cont p' res lb' s4 c' new' hcont hri4 hpad4 (Nat.le_trans hle hle4) hw4
          ⟨htl4, hsp4, hlk4, fun _ hn => absurd hn hne4, fun h => ⟨(htmp3.td h).1, hpp4 h⟩, fun _ hn => absurd hn hne4,
            htmp3.tdc⟩ (fun _ => .inl hne4) hallc4 hp4 hres4 (fun hk => ?_)
        rcases hprog4 with ⟨_, hnk⟩ | ⟨hcc, hdn⟩
        · exact absurd hk hnk
        · subst hcc
          refine ⟨hp, hdn.kind, fun m typ he => ?_, hdn.th, .inr ?_⟩
          · obtain ⟨m', typ', he', ht', hr'⟩ := hdn.m
            rw [he'] at he; cases he
            have : li_lastOff s4 p' = 0 := by unfold li_lastOff; rw [hdn.noKids]; rfl
            rw [this]
            exact ⟨ht', by omega⟩
          · obtain ⟨lbx, hl1, hl2⟩ := hdn.isLast
            exact ⟨lbx, hl1, by rw [hl2]; exact hdn.kind⟩
      | retryTransformed =>
        simp only at hout ⊢
        obtain ⟨hn4, hne4, hop4, hsb4, hlil4, ⟨lbp, hlbp1, hlbp2⟩, hkl4, hcc4, ⟨chb, hbarm⟩, hw34⟩ := hout
        subst hcc4
        refine OKE.bind (m := get) (P := fun sb sy => sb = s4 ∧ sy = s4) (OKE.ok ⟨rfl, rfl⟩) (fun sb sy hy => ?_)
        obtain ⟨hsb, hsy⟩ := hy
        subst sb sy
        have hdl : old.dropLast ≠ old := dropLast_ne old hne4
        have htdf : tdone = false := by
          cases htd : tdone with
          | false => rfl
          | true =>
            exfalso
            obtain ⟨_, hpo⟩ := htmp3.td htd
            rw [hsb4] at hpo
            cases hgl : new.getLast? with
            | none =>
              have : new = [] := List.getLast?_eq_none_iff.1 hgl
              rw [this, List.append_nil] at hpo
              exact hdl hpo.symm
            | some y =>
              have h1 : old.getLast? = some y := by
                rw [hpo, List.getLast?_append, hgl]; rfl
              rw [hlbp1] at h1; cases h1
              have := hallc lbp (List.mem_of_getLast? hgl)
              rw [hlbp2] at this; cases this
        have hle2 : retryMeasure s4 ≤ retryMeasure s3 := by
          unfold retryMeasure
          rw [hri4.source, hri3.source, hri4.pos, hri3.pos, hlil4]
          simp only [Int.toNat_natCast]
          split <;> simp <;> omega
        rw [if_neg (by simp [htdf, hle2])]
        subst hn4
        have hnew0 : new = [] := hnb4 rfl
        subst hnew0
        exact ih true false parent res lb' s4 c' [] (fun h => by cases h) hri4 hpad4 (Nat.le_trans hle hle4) hw4
          ⟨htl4, (fun k hk => by cases hk), (fun y hy => by cases hy), (fun h => by cases h), (fun _ => ⟨hne4, by rw [hop4]; simp⟩),
            (fun h => by cases h), (fun _ => rfl)⟩
          (fun _ => .inr ⟨Bool.eq_false_iff.2 hnone, fun b hb => by
              rw [hline] at hb
              have : b = b0 := by simpa [hb] using hb0'
              rw [this]; simpa using hnl, by
              have := hw34
              rw [← hwd, hlo hp, ← hline] at this
              exact this, bar_nonblank src c' hp chb hbarm⟩)
          (by simp) hq hres4 (fun hk => absurd (hq ▸ hk) hkl4)
      | done =>
        simp only at hout ⊢
        exact toContinuableL lsp cont res lb' s4 c' c0 new' hri4 hpad4 (Nat.le_trans hle hle4) hw4 hout.1 hcompat4 hres4 hcont
          hout.2 hplt4 ⟨htl4, hsp4, hlk4, fun hc hn' => by rw [hdone4 hn' rfl]; exact htmp3.cop hc (hnb4 hn'),
            fun h => ⟨(htmp3.td h).1, hpp4 h⟩, fun h hn' => by rw [hdone4 hn' rfl]; exact htmp3.np h (hnb4 hn'), htmp3.tdc⟩
          (fun hne ho' hn0 => by
            cases htdv : tdone with
            | true => exact hmust4 htdv (by simp) hn0
            | false =>
              have h1 := hdone4 hn0 rfl
              rw [htmp3.np htdv (hnb4 hn0)] at h1
              rw [h1, hn0, List.append_nil] at ho'
              exact dropLast_ne old hne ho'.symm)
    -- which parsers
    have hlineOf : lineOf src c = line := hline
    by_cases hpl : pos < (line.length : Int)
    · rw [if_pos hpl]
      obtain ⟨b1, hb1, hb1'⟩ := idx_ok line pos hb.1 hpl
      refine OKE.bind (OKE.of_okl (liftE_okl (P := fun a s' => a = b1 ∧ s' = s3) hb1 ⟨rfl, rfl⟩)) (fun a sy hy => ?_)
      obtain ⟨ha, hsy⟩ := hy
      subst a sy
      simp only [pure_bind]
      refine tail _ ?_ (para_mem_triggered b1)
      by_cases hk : (nd s3 parent).kind = .list
      · right
        obtain ⟨m, typ, ch, pre0, _, _, hpm, hwm, hr3, _, hch, htg, hp0, _, hlo'⟩ := hdueLine hk
        have hchb : ch = b1 := by rw [← hpm] at hch; rw [hch] at hb1'; cases hb1'; rfl
        subst hchb
        refine ⟨hk, ch, pre0, ?_, htg, hp0, by rw [htg]; rfl, by rw [hwm]; omega⟩
        rw [hlineOf, ← hlo', hpos, hpm]; exact hch
      · left
        refine ⟨hk, ?_, ?_⟩
        · intro hl
          cases htr : triggered b1 with
          | none => rw [htr] at hl; exact absurd hl (by decide)
          | some l => rw [htr] at hl; exact det_triggered_list b1 l htr hl
        · intro ch l hch htg hl
          by_cases hlo' : lo = loVal src c
          · rw [hlineOf, ← hlo', hpos] at hch
            rw [hch] at hb1'; cases hb1'
            rw [htg]; rfl
          · exact absurd (hlo hp) hlo'
    · rw [if_neg hpl]
      simp only [pure_bind]
      refine tail _ ?_ (by decide)
      by_cases hk : (nd s3 parent).kind = .list
      · exfalso
        obtain ⟨m, typ, ch, pre0, _, _, hpm, _, _, h0, hch, _⟩ := hdueLine hk
        have : m.r1.toNat < line.length := by
          rcases Nat.lt_or_ge m.r1.toNat line.length with h | h
          · exact h
          · rw [List.getElem?_eq_none h] at hch; cases hch
        omega
      · left
        exact ⟨hk, fun hl => absurd hl (by decide), fun _ _ _ _ hl => absurd hl (by decide)⟩



theorem openBlocksLC {root : Nat} (pre : List Block) (parent : Nat) (blank : Bool) (s : St) (c : RCur)
    (hri : RI src s.r c) (hpad : PadOK c) (hst : StableG src root s) (cl : Call s.pc.opened pre)
    (hpar : parent = lastNode root pre) (hmode : (nd s parent).kind = .list → Due src s c parent) :
    OKE e (OBPostG src s.pc.opened pre root s c) (openBlocksC cls pts parent blank s) := by
  unfold openBlocksC
  refine OKE.bind (m := lastOpenedBlock) (P := fun lb s1 => lb = s.pc.opened.getLast? ∧ s1 = s) (OKE.ok ⟨rfl, rfl⟩)
    (fun lb0 sx hlb => ?_)
  obtain ⟨hlb0, hsx⟩ := hlb
  subst sx
  have hw : WinL src s.pc.opened pre root s s [] := by
    obtain ⟨suf0, e0, _⟩ := cl.pref
    refine ⟨hst.nodes, hst.keys, ExtW.refl s, .inl (by simp), hst.blocks, fun b hb => (hst.blocks b hb).lt, hst.leafy, by simp,
      hst.ls, ?_, ⟨suf0, by simp [← e0]⟩, fun _ _ => TreeSame.refl s, hst.tree, hst.tmplt⟩
    rw [List.append_nil]
    have := hst.chain
    rw [e0, chainedO_append] at this
    exact this.1
  have run : ∀ cont : Bool, (cont = true → ∃ lb, s.pc.opened.getLast? = some lb ∧ lb.bp = .paragraph) →
      OKE e (OBPostG src s.pc.opened pre root s c)
        ((do let v ← source; openBlocksLoopC cls pts blank (retryFuel v) false cont parent OpenResult.noBlocksOpened lb0) s) := by
    intro cont hcont
    refine OKE.bind (m := source) (P := fun v sy => v = s.r.source ∧ sy = s) (OKE.ok ⟨rfl, rfl⟩) (fun v sy hy => ?_)
    obtain ⟨hv, hsy⟩ := hy
    subst v sy
    exact openBlocksLoopL lsp hpts hC cl hst.leafLast blank _ false cont parent .noBlocksOpened lb0 s c [] hcont hri hpad (Nat.le_refl _) hw
      ⟨hst.tl, (fun k hk => by cases hk), (fun y hy => by cases hy), (fun _ _ => rfl), (fun h => by cases h), (fun _ _ => rfl), (fun h => by cases h)⟩ (fun h => by cases h) (by simp) (by rw [List.append_nil]; exact hpar) (.inl ⟨rfl, rfl, fun _ => hlb0⟩) hmode
  cases hl : lb0 with
  | none =>
    simp only [pure_bind]
    rw [← hl]
    exact run false (fun h => by cases h)
  | some lb =>
    simp only []
    refine OKE.bind (m := getNode lb.node)
      (P := fun v sy => v = nd s lb.node ∧ sy = s) (OKE.ok ⟨rfl, rfl⟩) (fun v sy hy => ?_)
    obtain ⟨hv, hsy⟩ := hy
    subst v sy
    simp only [pure_bind]
    rw [← hl]
    refine run _ (fun h => ?_)
    have hlast : s.pc.opened.getLast? = some lb := by rw [← hlb0, hl]
    have hk := (hst.blocks lb (List.mem_of_getLast? hlast)).kind
    have : (nd s lb.node).kind = Kind.paragraph := by simpa using h
    rw [this] at hk
    exact ⟨lb, hlast, kind_paragraph hk.symm⟩

omit hC in
theorem openBlocksL {root : Nat} (pre : List Block) (parent : Nat) (blank : Bool) (s : St) (c : RCur)
    (hri : RI src s.r c) (hpad : PadOK c) (hst : StableG src root s) (cl : Call s.pc.opened pre)
    (hpar : parent = lastNode root pre) (hmode : (nd s parent).kind = .list → Due src s c parent) :
    OKE e (OBPostG src s.pc.opened pre root s c) (openBlocksT pts parent blank s) := by
  rw [openBlocksT_eqC]
  exact openBlocksLC lsp hpts (closeLike_bpClose src) pre parent blank s c hri hpad hst cl hpar hmode

omit lsp hpts hC in
/-- what `openBlocksC` leaves when it was called with nothing open (the top of the outer loop): the line-boundary invariant again -/
theorem OBPostG.stable_top {root : Nat} {s s' : St} {c : RCur} {res : OpenResult} (hemp : s.pc.opened = [])
    (h : OBPostG src s.pc.opened [] root s c res s') : ∃ c', RIa src s'.r c' ∧ StableG src root s' := by
  obtain ⟨c2, new2, hria2, _, hw2, hleafy2, _, _, hend2, _, htl2, _, hlk2, _⟩ := h
  have hop2 : s'.pc.opened = new2 := by
    rcases hw2.shape with e | ⟨h, _⟩
    · rw [e, hemp]; rfl
    · exact absurd hemp h
  exact ⟨c2, hria2, hw2.nodes, hw2.keys, hw2.blocks, by rw [hop2]; exact hleafy2, hw2.ls, by rw [hop2]; simpa using hw2.chain,
    by rw [hop2]; simpa using hend2, htl2, hw2.tree, fun lb hlb hl => ⟨_, hlk2 lb (by rw [← hop2]; exact hlb) hl⟩,
    fun t ht => Nat.lt_of_lt_of_le (hw2.tmplt t ht) hw2.ext.len⟩

omit hC in
/-- `openBlocksT` below the root while nothing is open keeps `StableG` -/
theorem stableG_top {root : Nat} {parent : Nat} (hroot : parent = root) {blank : Bool} {s s' : St} {c : RCur} {res : OpenResult}
    (hri : RI src s.r c) (hpad : PadOK c) (hst : StableG src root s) (hemp : s.pc.opened = [])
    (h : openBlocksT pts parent blank s = .ok (res, s')) : ∃ c', RIa src s'.r c' ∧ StableG src root s' := by
  have hcl : Call s.pc.opened [] := ⟨⟨s.pc.opened, by simp, fun _ b hb => by rw [hemp] at hb; cases hb⟩⟩
  have hkroot : (nd s parent).kind ≠ .list := by rw [hroot, hst.ls.rootKind]; decide
  rcases openBlocksL (e := e) lsp hpts [] parent blank s c hri hpad hst hcl (by rw [hroot]; rfl) (fun hk => absurd hk hkroot) with
    (⟨a, s2, h1, h2⟩ | h1) | h1
  · rw [h] at h1; cases h1; exact OBPostG.stable_top hemp h2
  · rw [h] at h1; cases h1
  · rw [h] at h1; cases h1

end tp2


end GM.Blocks.L.G.X
end BlocksTNPXOpen

section BlocksTNPXLineTail
/-
  `StableG` is kept by what keeps the tree (`StableG.same`); the end of an iteration of `lineLoopC` for an opened block whose
  Continue declines (`lineTailL`: `openBlocksC` under the last continued block, then `closeBlocksC` of the rest).
-/

namespace GM.Blocks.L.G.X
open GM GM.Text GM.Spec GM.Proof.Reader GM.Blocks.T GM.Blocks.TR


/-- the post-condition of one pass over the opened blocks -/
def LLPostG (src : Bytes) (root : Nat) (_x : LineOutcome × List LineStat) (s' : St) : Prop :=
  ∃ c', RIa src s'.r c' ∧ StableG src root s'

theorem StableG.same {src : Bytes} {root : Nat} {s s' : St} (h : StableG src root s) (e : Ext s s') (hnodes : NodesOK src s')
    (t : TreeSame s s') (ho : s'.pc.opened = s.pc.opened) (ht : s'.pc.tmpPara = s.pc.tmpPara)
    (hf : s'.pc.fence = s.pc.fence) : StableG src root s' := by
  have hbok : ∀ b, BlockOK s b → BlockOK s' b := fun b hb =>
    hb.ext e (fun hp => by rw [ht]; exact (hb.setext hp).2) (fun hp => by rw [hf]; exact hb.fenced hp)
  refine ⟨hnodes, h.keys.ext e (.inl ht) (.inl hf), fun b hb => by rw [ho] at hb; exact hbok b (h.blocks b hb),
    by rw [ho]; exact h.leafy,
    h.ls.step e t.tf (fun i p hp => by rw [(t.same i).2.1] at hp; rw [t.len]; exact h.ls.plt i p hp) ho h.blocks, ?_, ?_,
    h.tl.ext e ht (fun b hb hs => ⟨b, by rw [← ho]; exact hb, hs⟩), treeOK_tinv.ts t h.tree, ?_,
    fun t' htt => by rw [t.len]; exact h.tmplt t' (by rw [← ht]; exact htt)⟩
  · rw [ho]
    exact chainedO_agree root s.pc.opened h.chain (fun a _ => (t.same a).1) (fun b _ => (t.same b.node).2.1)
      (fun a _ => (t.same a).2.2.1)
  · rw [ho, (t.same _).1]; exact h.endOK
  · intro lb hlb hleaf
    rw [ho] at hlb
    obtain ⟨q, hq⟩ := h.leafLast lb hlb hleaf
    exact ⟨q, (lk_tinv _ _).ts t hq⟩

theorem StableG.congr {src : Bytes} {root : Nat} {s s' : St} (h : StableG src root s) (hn : s'.nodes = s.nodes)
    (ho : s'.pc.opened = s.pc.opened) (ht : s'.pc.tmpPara = s.pc.tmpPara) (hf : s'.pc.fence = s.pc.fence) :
    StableG src root s' :=
  h.same (Ext.of_nodes_eq hn) (fun n hm => h.nodes n (by rw [← hn]; exact hm)) (TreeSame.of_nodes_eq hn) ho ht hf

theorem StableG.congr_r {src : Bytes} {root : Nat} {s : St} (h : StableG src root s) (r' : Reader) :
    StableG src root { s with r := r' } :=
  h.congr rfl rfl rfl rfl

section tp
variable {src : Bytes} (lsp : LSp src) {e : Panic} {pts : List PT} (hpts : PTsSpecX src e pts)
  {cls : BP → Nat → M Unit} (hC : CloseLike src cls)
include lsp hpts hC

theorem lineTailL {root : Nat} (pre : List Block) (be : Block) (rest : List Block) (ob : List Block) (li i : Int)
    (hob : ob = pre ++ be :: rest) (hli : li = (ob.length : Int) - 1) (hi : i = (pre.length : Int))
    (thisParent : Nat) (blank : Bool) (bl' : List LineStat) (s : St) (c : RCur)
    (hop : s.pc.opened = ob) (hri : RI src s.r c) (hpad : PadOK c) (hst : StableG src root s)
    (hpar : thisParent = lastNode root pre) (hmode : (nd s thisParent).kind = .list → Due src s c thisParent) :
    OKE e (LLPostG src root)
      ((do
        let lastNode ← liftE (blockAt ob li)
        let result ← openBlocksC cls pts thisParent blank
        if (result != OpenResult.paragraphContinuation) = true then do
            let __do_lift ← getPc
            closeBlocksC cls pts
                (if (Option.map (fun x => x.node) (slotAfter ob __do_lift.opened li.toNat) != some lastNode.node) = true then
                  li - 1
                else li)
                i
            pure (LineOutcome.next, bl')
          else pure (LineOutcome.next, bl') : M _) s) := by
  have hlen : ob.length = pre.length + rest.length + 1 := by rw [hob]; simp; omega
  have hliN : li = ((pre.length + rest.length : Nat) : Int) := by rw [hli, hlen]; omega
  have hlt : pre.length + rest.length < ob.length := by omega
  have hba : blockAt ob li = .ok ob[pre.length + rest.length] := by rw [hliN]; exact blockAt_ok ob _ hlt
  refine OKE.bind (OKE.of_okl (liftE_okl (P := fun a s' => a = ob[pre.length + rest.length] ∧ s' = s) hba ⟨rfl, rfl⟩)) (fun ln sy hy => ?_)
  obtain ⟨hln, hsy⟩ := hy
  subst sy
  have hlastmem : ln ∈ ob := by rw [hln]; exact List.getElem_mem _
  have hcl : Call s.pc.opened pre := ⟨⟨be :: rest, by rw [hop, hob], fun h => by cases h⟩⟩
  have hob' := hop ▸ openBlocksLC (e := e) (pts := pts) lsp hpts hC pre thisParent blank s c hri hpad hst hcl hpar hmode
  refine OKE.bind hob' (fun res s1 h1 => ?_)
  obtain ⟨c1, new1, hria1, _, hw1, hleafy1, hcompat1, hpc1, hend1, hts1, htl1, hsp1, hlk1, hnp1⟩ := h1
  obtain ⟨hprec, hbec, hleafmid, hmidc⟩ := leafy_split (hob ▸ hop ▸ hst.leafy)
  have hplt1 : lastNode root (pre ++ new1) < s1.nodes.length := by
    rcases lastNode_mem root (pre ++ new1) with e | ⟨b, hb', e⟩
    · rw [e]; exact hw1.ls.rootLt
    · rw [e]
      obtain ⟨suf, es⟩ := hw1.stack
      refine (hw1.blocks b ?_).lt
      rw [es]
      rcases List.mem_append.1 hb' with h | h
      · exact List.mem_append_left _ (List.mem_append_left _ h)
      · exact List.mem_append_right _ h
  have hsubnodes : ∀ b ∈ pre ++ new1, b.node < s1.nodes.length ∧ (nd s1 b.node).kind = b.bp.kind := by
    intro b hb'
    obtain ⟨suf, es⟩ := hw1.stack
    have hm : b ∈ s1.pc.opened := by
      rw [es]
      rcases List.mem_append.1 hb' with h | h
      · exact List.mem_append_left _ (List.mem_append_left _ h)
      · exact List.mem_append_right _ h
    exact ⟨(hw1.blocks b hm).lt, (hw1.blocks b hm).kind⟩
  by_cases hres : (res != OpenResult.paragraphContinuation) = true
  · rw [if_pos hres]
    refine OKE.bind (m := getPc) (P := fun pc sy => pc = s1.pc ∧ sy = s1) (OKE.ok ⟨rfl, rfl⟩) (fun pc sy hy => ?_)
    obtain ⟨hpc, hsy⟩ := hy
    subst pc sy
    have hci1 : CInv src s1 := ⟨hw1.nodes, hw1.keys, hw1.ls.kids, hw1.ls.plt, hw1.tree⟩
    have hsl : s.nodes.length ≤ s1.nodes.length := hw1.ext.len
    have fin : ∀ s2 : St, s2.pc.opened = pre ++ new1 → CRel src (pre ++ new1) s1 s2 →
        List.Sublist (pre ++ new1) s1.pc.opened →
        (∀ y, new1.getLast? = some y → y.bp.isContainer = false → ∃ q, LK s2 y.node q) →
        OKE e (LLPostG src root) ((pure (LineOutcome.next, bl') : M _) s2) := by
      intro s2 h2o hr hsub hlast
      refine OKE.ok ⟨c1, by rw [hr.r]; exact hria1, hr.inv.nodes, hr.inv.keys, by rw [h2o]; exact hr.blocks,
        by rw [h2o]; exact leafy_append hprec hleafy1,
        L.T.LStore.closeW hw1.ls hr.extw hr.tf hr.inv.plt (by rw [h2o]; exact hsub) hw1.blocks, ?_, ?_, ?_, hr.inv.tree, ?_, ?_⟩
      · rw [h2o]
        exact L.T.chainedO_tfW hr.extw hr.tf root (pre ++ new1) hw1.chain hw1.ls.rootLt hsubnodes
      · rw [h2o, hr.extw.kind _ hplt1]; exact hend1
      · intro ⟨b, hb, hs⟩
        rw [h2o] at hb
        exact hr.tmpok ⟨b, hb, hs⟩ (htl1 ⟨b, hsub.subset hb, hs⟩)
      · intro lb hlb hleaf
        rw [h2o] at hlb
        cases hn : new1.getLast? with
        | none =>
          have : new1 = [] := List.getLast?_eq_none_iff.1 hn
          rw [this, List.append_nil] at hlb
          have := hprec lb (List.mem_of_getLast? hlb)
          rw [hleaf] at this; cases this
        | some y =>
          rw [List.getLast?_append, hn] at hlb
          cases hlb
          exact hlast lb hn hleaf
      · intro t ht
        rcases hr.tmp with h | h
        · rw [h] at ht
          have := hw1.tmplt t ht
          have := hr.extw.len
          omega
        · rw [h] at ht; cases ht
    -- what the frame of the new leaf's `LK` over the closing of `mid` needs
    have hinc := hst.ls.incr
    rw [hop, hob, List.map_append] at hinc
    have hroot_lt : ∀ b ∈ be :: rest, root < b.node := fun b hb =>
      (List.pairwise_cons.1 hinc).1 b.node (List.mem_append_right _ (List.mem_map.2 ⟨b, hb, rfl⟩))
    have hpre_lt : ∀ b' ∈ pre, ∀ b ∈ be :: rest, b'.node < b.node := fun b' hb' b hb =>
      (List.pairwise_append.1 (List.pairwise_cons.1 hinc).2).2.2 b'.node (List.mem_map.2 ⟨b', hb', rfl⟩) b.node
        (List.mem_map.2 ⟨b, hb, rfl⟩)
    have hlkh : ∀ (mid : List Block), (∀ b ∈ mid, b ∈ be :: rest) →
        ∀ y, new1.getLast? = some y → y.bp.isContainer = false →
        LKHyp s1 mid y.node (lastNode root (pre ++ new1.dropLast)) := by
      intro mid hsubm y hy _
      have hyf := hw1.fresh y (List.mem_of_getLast? hy)
      have hmlt : ∀ b ∈ mid, b.node < s.nodes.length := fun b hb =>
        hw1.oldlt b (by rw [hob]; exact List.mem_append_right _ (hsubm b hb))
      refine ⟨fun b hb => by have := hmlt b hb; omega, fun e' => by have := hw1.tmplt _ e'; omega, fun hk b hb => ?_⟩
      cases hgl : (pre ++ new1.dropLast).getLast? with
      | none =>
        exfalso
        have hq : lastNode root (pre ++ new1.dropLast) = root := by unfold lastNode; rw [hgl]; rfl
        rw [hq, hw1.ls.rootKind] at hk; cases hk
      | some bq =>
        have hq : lastNode root (pre ++ new1.dropLast) = bq.node := by unfold lastNode; rw [hgl]; rfl
        rw [hq] at hk ⊢
        have hL0 := eq_dropLast_append_of_getLast? _ _ hgl
        have hnew := eq_dropLast_append_of_getLast? _ _ hy
        have hsplit : pre ++ new1 = (pre ++ new1.dropLast).dropLast ++ ([bq] ++ [y]) := by
          conv => lhs; rw [hnew, ← List.append_assoc, hL0]
          simp
        have hch := hw1.chain
        rw [hsplit] at hch
        have hlink := ((chainedO_append s1 root _ _).1 hch).2.1
        have hbqm : bq ∈ s1.pc.opened := by
          obtain ⟨suf, es⟩ := hw1.stack
          rw [es]
          have : bq ∈ pre ++ new1.dropLast := List.mem_of_getLast? hgl
          rcases List.mem_append.1 this with h | h
          · exact List.mem_append_left _ (List.mem_append_left _ h)
          · exact List.mem_append_right _ (List.dropLast_subset _ h)
        have hbqk := (hw1.blocks bq hbqm).kind
        rw [hk] at hbqk
        have hbqi : bq.bp = .listItem := kind_listItem hbqk.symm
        have hpk := hlink.up hbqi
        obtain ⟨_, hpar, _⟩ := hlink.down hpk
        rw [hpar]
        intro e'
        have e'' := Option.some.inj e'
        have hbm := hmlt b hb
        rcases lastNode_mem root (pre ++ new1.dropLast).dropLast with h | ⟨b', hb', h⟩
        · rw [h] at e''
          have := hroot_lt b (hsubm b hb); omega
        · rw [h] at e''
          have hb'' : b' ∈ pre ++ new1.dropLast := List.dropLast_subset _ hb'
          rcases List.mem_append.1 hb'' with h1 | h1
          · have := hpre_lt b' h1 b (hsubm b hb); omega
          · have := hw1.fresh b' (List.dropLast_subset _ h1); omega
    rcases hw1.shape with e | ⟨hne, e⟩
    · have hslot : slotAfter ob s1.pc.opened li.toNat = some ln := by
        unfold slotAfter
        rw [e, hliN, Int.toNat_natCast, List.getElem?_append_left hlt, List.getElem?_eq_getElem hlt, hln]
      rw [hslot]
      simp only [Option.map, bne_self_eq_false, Bool.false_eq_true, if_false]
      have hmo : ∀ b ∈ be :: rest, b ∈ s1.pc.opened := fun b hb => by
        rw [e, hob]; exact List.mem_append_left _ (List.mem_append_right _ hb)
      have hcb := closeBlocksG_oke lsp hpts hC pre (be :: rest) new1 s1 (by rw [e, hob, List.append_assoc]) hria1.source hci1
        (fun b hb => hw1.blocks b (hmo b hb)) hleafmid (fun ⟨b, hb, hs⟩ => htl1 ⟨b, hmo b hb, hs⟩)
        (fun k hk => ⟨hw1.blocks k (by
            rw [e, hob]; rcases List.mem_append.1 hk with h | h
            · exact List.mem_append_left _ (List.mem_append_left _ h)
            · exact List.mem_append_right _ h), fun top htop => by
          rcases List.mem_append.1 hk with h | h
          · exact CompatG.of_container_left (hprec k h)
          · refine ⟨hcompat1 k h top (by rw [hob]; exact List.mem_append_right _ (List.mem_of_getLast? htop)), fun hks => ?_⟩
            exfalso
            have h2 := hsp1 k h hks
            rw [e] at h2
            have h3 := List.append_cancel_right h2
            have h4 := congrArg List.length h3
            rw [List.length_dropLast] at h4
            omega⟩)
      have harg : li = (pre.length : Int) + ((be :: rest).length : Int) - 1 := by rw [hliN]; simp; omega
      rw [harg, hi]
      refine OKE.bind hcb (fun _ s2 h2 => fin s2 h2.1 h2.2.1 ?_ (fun y hy hl => ⟨_, h2.2.2 _ _ (hlk1 y hy hl)
        (hlkh (be :: rest) (fun b hb => hb) y hy hl)⟩))
      rw [e, hob, List.append_assoc]
      exact List.Sublist.append (List.Sublist.refl _) (List.sublist_append_right _ _)
    · have hdl : ob.dropLast.length = pre.length + rest.length := by rw [List.length_dropLast]; omega
      have hcond : (Option.map (fun x => x.node) (slotAfter ob s1.pc.opened li.toNat) != some ln.node) = true := by
        cases hn1 : new1 with
        | nil => exact absurd hn1 (hnp1 hne e)
        | cons x xs =>
          have hslot : slotAfter ob s1.pc.opened li.toNat = some x := by
            unfold slotAfter
            rw [e, hliN, Int.toNat_natCast, List.getElem?_append_right (by omega), hdl, Nat.sub_self, hn1]
            rfl
          have hxne : (x.node == ln.node) = false := by
            have h1 := hw1.fresh x (by rw [hn1]; simp)
            have h2 := hw1.oldlt ln hlastmem
            exact beq_false_of_ne (by omega)
          rw [hslot]
          simp only [Option.map, bne, Option.some_beq_some, hxne, Bool.not_false]
      rw [if_pos hcond]
      have hdrop : ob.dropLast = pre ++ (be :: rest).dropLast := by
        rw [hob]; exact List.dropLast_append_of_ne_nil (by simp)
      have hmo : ∀ b ∈ (be :: rest).dropLast, b ∈ s1.pc.opened := fun b hb => by
        rw [e, hdrop]; exact List.mem_append_left _ (List.mem_append_right _ hb)
      have hcb := closeBlocksG_oke lsp hpts hC pre (be :: rest).dropLast new1 s1 (by rw [e, hdrop]) hria1.source hci1
        (fun b hb => hw1.blocks b (hmo b hb))
        (leafy_of_all hmidc) (fun ⟨b, hb, hs⟩ => htl1 ⟨b, hmo b hb, hs⟩)
        (fun k hk => ⟨hw1.blocks k (by
            rw [e, hdrop]; rcases List.mem_append.1 hk with h | h
            · exact List.mem_append_left _ (List.mem_append_left _ h)
            · exact List.mem_append_right _ h), fun top htop =>
          CompatG.of_container (hmidc top (List.mem_of_getLast? htop))⟩)
      have harg : li - 1 = (pre.length : Int) + ((be :: rest).dropLast.length : Int) - 1 := by
        rw [hliN, List.length_dropLast]; simp
      rw [harg, hi]
      refine OKE.bind hcb (fun _ s2 h2 => fin s2 h2.1 h2.2.1 ?_ (fun y hy hl => ⟨_, h2.2.2 _ _ (hlk1 y hy hl)
        (hlkh (be :: rest).dropLast (fun b hb => List.dropLast_subset _ hb) y hy hl)⟩))
      rw [e, hdrop, List.append_assoc]
      exact List.Sublist.append (List.Sublist.refl _) (List.sublist_append_right _ _)
  · rw [if_neg hres]
    obtain ⟨hpcn, hop1⟩ := hpc1 (by simpa using hres)
    subst hpcn
    -- nothing opened, nothing closed: the stack is the old one; kinds and links are unchanged
    have hts := hts1 rfl hop1
    refine OKE.ok ⟨c1, hria1, hw1.nodes, hw1.keys, hw1.blocks, by rw [hop1, ← hop]; exact hst.leafy, hw1.ls, ?_, ?_, htl1,
      hw1.tree, ?_, fun t ht => Nat.lt_of_lt_of_le (hw1.tmplt t ht) hw1.ext.len⟩
    · rw [hop1, ← hop]
      exact chainedO_agree root s.pc.opened hst.chain (fun a _ => (hts.same a).1) (fun b _ => (hts.same b.node).2.1)
        (fun a _ => (hts.same a).2.2.1)
    · rw [hop1, ← hop, (hts.same _).1]; exact hst.endOK
    · intro lb hlb hleaf
      rw [hop1, ← hop] at hlb
      obtain ⟨q, hq⟩ := hst.leafLast lb hlb hleaf
      exact ⟨q, (lk_tinv _ _).ts hts hq⟩

end tp

end GM.Blocks.L.G.X
end BlocksTNPXLineTail
