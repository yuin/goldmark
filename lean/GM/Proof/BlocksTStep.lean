/-
  GM.Proof.BlocksTStep — the step equations of the recursive functions of GM.Model.Blocks.DriverT, with the parts of
  their bodies that the walks treat separately under names of their own: `tryPushT`, `tryTailT` (parser.go:998-1013), `lineTailT`
  (parser.go:1108-1121) and `lineFTT` (parser.go:1101-1121, the fall-through part of one iteration of the `for i` loop).
-/
import GM.Model.Blocks.DriverT

namespace GM.Blocks
open GM GM.Text

/-- the end of one successful attempt of the candidate loop: `AppendChild`, push, answer (parser.go:1002-1013) -/
def tryPushT (parent node : Nat) (bp : BP) (hch : Bool) (lb : Option Block) :
    M (TryOutcomeT × OpenResult × Option Block) := do
  appendChild parent node
  modPc fun pc => { pc with opened := pc.opened ++ [{ node := node, bp := bp }] }
  if hch then return (.retry node, .newBlocksOpened, lb)
  return (.done, .newBlocksOpened, lb)

/-- behind the RequireParagraph part of one successful `Open`: `SetBlankPreviousLines`, the `last.Parent() == nil`
    pop, then `tryPushT` (parser.go:998-1013) -/
def tryTailT (pts : List PT) (parent node : Nat) (bp : BP) (blank hch : Bool) (lb : Option Block) :
    M (TryOutcomeT × OpenResult × Option Block) := do
  modNode node fun n => { n with blankPrev := blank }
  match lb.map (·.node) with
  | some l =>
    if (← getNode l).parent.isNone then
      let lastPos : Int := ((← getPc).opened.length : Int) - 1
      closeBlocksT pts lastPos lastPos
  | none => pure ()
  tryPushT parent node bp hch lb

theorem tryParsersT_end (pts : List PT) (parent : Nat) (blank cont : Bool) (w : Int) (result : OpenResult)
    (lb : Option Block) : tryParsersT pts parent blank cont w [] result lb = pure (.done, result, lb) := rfl

theorem tryParsersT_cons (pts : List PT) (parent : Nat) (blank cont : Bool) (w : Int) (bp : BP) (bps : List BP)
    (result : OpenResult) (lb : Option Block) :
    tryParsersT pts parent blank cont w (bp :: bps) result lb =
      (if (cont && result == .noBlocksOpened && !bp.canInterruptParagraph) = true then
        tryParsersT pts parent blank cont w bps result lb
      else if (decide (w > 3) && !bp.canAcceptIndentedLine) = true then
        tryParsersT pts parent blank cont w bps result lb
      else do
        let lb' ← lastOpenedBlock
        let (node, state) ← bpOpen bp parent
        match node with
        | none => tryParsersT pts parent blank cont w bps result lb'
        | some node => do
          let transformed ←
            if state.requirePara then requireParaT pts parent (lb'.map (·.node)) lb' else pure false
          if transformed then pure (.retryTransformed, result, lb')
          else tryTailT pts parent node bp blank state.hasChildren lb') := rfl

/-- `openBlocks(thisParent)`, then `closeBlocks(lastIndex, i)` unless the line continues a paragraph
    (parser.go:1108-1121) -/
def lineTailT (pts : List PT) (ob : List Block) (li i : Int) (thisParent : Nat) (blank : Bool) (bl : List LineStat) :
    M (LineOutcome × List LineStat) := do
  let lastNode ← liftE (blockAt ob li)
  let result ← openBlocksT pts thisParent blank
  if result != .paragraphContinuation then
    let now := slotAfter ob (← getPc).opened li.toNat
    let li' := if now.map (·.node) != some lastNode.node then li - 1 else li
    closeBlocksT pts li' i
  return (.next, bl)

/-- the fall-through part of one iteration of the `for i` loop (parser.go:1101-1121) -/
def lineFTT (pts : List PT) (parent : Nat) (ob : List Block) (li i : Int) (blank : Bool) (bl : List LineStat) :
    M (LineOutcome × List LineStat) := do
  let thisParent ←
    if i != 0 then do
      let b ← liftE (blockAt ob (i - 1))
      pure b.node
    else pure parent
  lineTailT pts ob li i thisParent blank bl

theorem lineLoopT_end (pts : List PT) (parent : Nat) (ob : List Block) (li i : Int) (bl : List LineStat) :
    lineLoopT pts parent ob li [] i bl = pure (.next, bl) := rfl

theorem lineLoopT_cons (pts : List PT) (parent : Nat) (ob : List Block) (li : Int) (be : Block) (rest : List Block)
    (i : Int) (bl : List LineStat) :
    lineLoopT pts parent ob li (be :: rest) i bl = (do
      let (line, _) ← peekLine
      match line with
      | none => do
        closeBlocksT pts li 0
        advanceLine
        pure (.eof, bl)
      | some line => do
        let (lineNum, _) ← position
        let bl' := bl ++ [{ lineNum := lineNum, level := i, isBlank := isBlank line }]
        let beNode ← getNode be.node
        if beNode.kind != .paragraph then do
          let state ← bpContinue be.bp be.node
          if state.cont then
            if state.hasChildren && i == li then do
              let _ ← openBlocksT pts be.node (isBlankLine (lineNum - 1) i bl')
              pure (.next, bl')
            else lineLoopT pts parent ob li rest (i + 1) bl'
          else lineFTT pts parent ob li i (isBlankLine (lineNum - 1) i bl') bl'
        else lineFTT pts parent ob li i (isBlankLine (lineNum - 1) i bl') bl') := rfl

theorem closeLoopT_zero (pts : List PT) (blocks : List Block) (to : Int) : closeLoopT pts blocks to 0 = pure () := rfl

theorem closeLoopT_succ (pts : List PT) (blocks : List Block) (to : Int) (k : Nat) :
    closeLoopT pts blocks to (k + 1) = (do
      let b ← liftE (blockAt blocks (to + k))
      let n ← getNode b.node
      if n.kind == .paragraph && n.parent.isSome then
        let _ ← transformParagraph pts b.node
      if (← getNode b.node).parent.isSome then bpClose b.bp b.node
      closeLoopT pts blocks to k) := rfl

theorem openBlocksLoopT_zero (pts : List PT) (blank tdone cont : Bool) (parent : Nat) (result : OpenResult)
    (lb : Option Block) : openBlocksLoopT pts blank 0 tdone cont parent result lb = throw .loop := rfl

theorem openBlocksLoopT_succ (pts : List PT) (blank : Bool) (fuel : Nat) (tdone cont : Bool) (parent : Nat)
    (result : OpenResult) (lb : Option Block) :
    openBlocksLoopT pts blank (fuel + 1) tdone cont parent result lb = (do
      let (line, _) ← peekLine
      let lineB := line.getD []
      let len : Int := lineB.length
      let (w, pos) := indentWidthI lineB (← lineOffset)
      modPc fun pc =>
        if pos ≥ len then { pc with blockOffset := -1, blockIndent := -1 }
        else { pc with blockOffset := pos, blockIndent := w }
      if line.isNone then return ← toContinuable cont result lb
      if (← liftE (idx lineB 0)) == 10 then return ← toContinuable cont result lb
      let bps ←
        if pos < len then do
          let c ← liftE (idx lineB pos)
          pure ((triggered c).getD freeParsers)
        else pure freeParsers
      retryStepT pts blank tdone cont parent w bps result lb (openBlocksLoopT pts blank fuel)) := rfl

end GM.Blocks
