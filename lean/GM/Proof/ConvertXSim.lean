/-
  GM.Proof.ConvertXSim — the inline loop over two trigger tables whose entries simulate each other up to a relabelling of
  emphasis levels (GM.Proof.ConvertXRelv) on the states that satisfy an invariant `I` of `parent`'s children: the whole loop
  simulates. With the identity relabelling this is "equal parsers on invariant states ⇒ equal runs"; with a proper relabelling
  it transports level facts. No reader invariant is needed.
-/
import GM.Proof.ConvertXRelv
import GM.Proof.ExtShape

namespace GM.Proof.ConvertXSim
open GM GM.Text GM.Inl GM.Proof.ConvertXRelv

/-- an invariant of the child list the loop's own operations keep -/
structure IClosed (I : List Inl.Node → Prop) : Prop where
  merge : ∀ k s, I k → I (mergeOrAppend k s)
  appT : ∀ k s so ha ra, I k → I (k ++ [.text s so ha ra])
  dropT : ∀ k s so ha ra, I k → I (k.dropLast ++ [.text s so ha ra])

/-- entry `ip2` on the relabelled state does what entry `ip1` does, relabelled; and `ip1` keeps the invariant -/
def EntrySim (g : Int → Int) (I : List Inl.Node → Prop) (env : Env) (ip1 ip2 : XIp) : Prop :=
  ∀ st, I st.kids →
    ip2.parse env (relvSt g st) = (ip1.parse env st).map (relvPR g) ∧
    ∀ n st', ip1.parse env st = .ok (n, st') → I st'.kids ∧ ∀ nd, n = some nd → I (st'.kids ++ [nd])

/-- two table entries (lists of parsers) that simulate each other position by position -/
inductive ListSim (g : Int → Int) (I : List Inl.Node → Prop) (env : Env) : List XIp → List XIp → Prop
  | nil : ListSim g I env [] []
  | cons {a b : XIp} {l1 l2 : List XIp} : EntrySim g I env a b → ListSim g I env l1 l2 → ListSim g I env (a :: l1) (b :: l2)

variable {g : Int → Int} {I : List Inl.Node → Prop} {env : Env}

def relvScan (g : Int → Int) (s : Inl.Scan) : Inl.Scan := { s with st := relvSt g s.st }

def relvTrig (g : Int → Int) : Sum St Inl.Scan → Sum St Inl.Scan
  | .inl st => .inl (relvSt g st)
  | .inr s => .inr (relvScan g s)

/-- the part of `triggerX` behind the flush -/
def trigTail (env : Env) (l : Int) (p : Segment) (ips : List XIp) (s : Inl.Scan) (st0 : St) (sp' : Segment) :
    Except Panic (Sum St Inl.Scan) := do
  let r ← tryParsersX env l p ips st0
  match r.1 with
  | some nd => pure (.inl { r.2 with kids := r.2.kids ++ [nd] })
  | none => pure (.inr { s with st := r.2, n := 0, sp := sp' })

def relvSR (g : Int → Int) : ScanRes → ScanRes
  | .hit st e => .hit (relvSt g st) e
  | .eol s => .eol (relvScan g s)

theorem bump_relv (c : UInt8) (s : Inl.Scan) : bump c (relvScan g s) = relvScan g (bump c s) := by
  rw [GM.Proof.Inlines.bump_eq, GM.Proof.Inlines.bump_eq]; rfl

theorem eolText_sim (C : IClosed I) (src : Bytes) (flags : Nat) (diff : Segment) (kids : List Inl.Node) (hI : I kids) :
    eolText src flags diff (relvL g kids) = (eolText src flags diff kids).map (fun x => (x.1, relvL g x.2)) ∧
    ∀ x, eolText src flags diff kids = .ok x → I x.2 := by
  -- every branch but one answers the children as they are
  have keep : ∀ (sg : Segment) (x : Segment × List Inl.Node), (pure (sg, kids) : Except Panic _) = .ok x → I x.2 :=
    fun sg x h => by cases h; exact hI
  unfold eolText
  split
  · exact ⟨rfl, keep _⟩
  · simp only [bind, Except.bind]
    cases diff.trimRightSpace src with
    | error e => exact ⟨rfl, fun _ h => by cases h⟩
    | ok seg =>
      simp only []
      split
      · rw [relvL_getLast?]
        cases hl : kids.getLast? with
        | none => exact ⟨rfl, keep _⟩
        | some n =>
          cases n with
          | text tseg so ha ra =>
            simp only [Option.map_some, relv_text]
            cases so with
            | true => exact ⟨rfl, keep _⟩
            | false =>
              cases ha with
              | true => exact ⟨rfl, keep _⟩
              | false =>
                cases ra with
                | true => exact ⟨rfl, keep _⟩
                | false =>
                  simp only []
                  by_cases hc : (tseg.stop == diff.start) = true
                  · simp only [hc, if_true]
                    cases tseg.trimRightSpace src with
                    | error e => exact ⟨rfl, fun _ h => by cases h⟩
                    | ok t' =>
                      refine ⟨by simp [Except.map, pure, Except.pure], ?_⟩
                      intro x h
                      cases h
                      exact C.dropT _ _ _ _ _ hI
                  · simp only [hc, Bool.false_eq_true, if_false]
                    exact ⟨rfl, keep _⟩
          | _ => exact ⟨rfl, keep _⟩
      · exact ⟨rfl, keep _⟩

theorem endOfLine_sim (C : IClosed I) (flags : Nat) (l : Int) (s : Inl.Scan) (hI : I s.st.kids) :
    endOfLine flags l (relvScan g s) = (endOfLine flags l s).map (relvSt g) ∧
    ∀ st', endOfLine flags l s = .ok st' → I st'.kids := by
  unfold endOfLine
  simp only [relvScan, relvSt_rd, bind, Except.bind]
  have key : ∀ rd : BlockReader,
      (if (l != rd.position.1) = true then (pure { relvSt g s.st with rd := rd } : Except Panic St)
       else do
        let diff ← s.sp.between rd.position.2
        let tk ← eolText rd.source flags diff (relvSt g s.st).kids
        let rd ← rd.advanceLine
        pure { relvSt g s.st with rd := rd, kids := tk.2 ++ [.text tk.1 (flags / 2 % 2 == 1) (flags % 2 == 1) false] }) =
      (if (l != rd.position.1) = true then (pure { s.st with rd := rd } : Except Panic St)
       else do
        let diff ← s.sp.between rd.position.2
        let tk ← eolText rd.source flags diff s.st.kids
        let rd ← rd.advanceLine
        pure { s.st with rd := rd, kids := tk.2 ++ [.text tk.1 (flags / 2 % 2 == 1) (flags % 2 == 1) false] }).map (relvSt g) ∧
      ∀ st', (if (l != rd.position.1) = true then (pure { s.st with rd := rd } : Except Panic St)
       else do
        let diff ← s.sp.between rd.position.2
        let tk ← eolText rd.source flags diff s.st.kids
        let rd ← rd.advanceLine
        pure { s.st with rd := rd, kids := tk.2 ++ [.text tk.1 (flags / 2 % 2 == 1) (flags % 2 == 1) false] }) = .ok st' →
        I st'.kids := by
    intro rd
    split
    · exact ⟨rfl, fun st' h => by simp only [pure, Except.pure, Except.ok.injEq] at h; subst h; exact hI⟩
    · simp only [bind, Except.bind, relvSt_kids]
      cases s.sp.between rd.position.2 with
      | error e => exact ⟨rfl, fun _ h => by cases h⟩
      | ok diff =>
        obtain ⟨t1, t2⟩ := eolText_sim (g := g) C rd.source flags diff s.st.kids hI
        simp only [t1]
        cases he : eolText rd.source flags diff s.st.kids with
        | error e => exact ⟨rfl, fun _ h => by cases h⟩
        | ok tk =>
          have hk := t2 tk he
          simp only [Except.map]
          cases rd.advanceLine with
          | error e => exact ⟨rfl, fun _ h => by cases h⟩
          | ok rd' =>
            refine ⟨by simp [pure, Except.pure, relvSt], ?_⟩
            intro st' h
            simp only [pure, Except.pure, Except.ok.injEq] at h
            subst h
            exact C.appT _ _ _ _ _ hk
  by_cases hn : (s.n != 0) = true
  · simp only [hn, if_true]
    cases s.st.rd.advance s.n with
    | error e => exact ⟨rfl, fun _ h => by cases h⟩
    | ok rd => exact key rd
  · have hn' : (s.n != 0) = false := by simpa using hn
    simp only [hn', Bool.false_eq_true, if_false, pure, Except.pure]
    exact key s.st.rd

theorem iclosed_loopKeeps (C : IClosed I) : GM.Proof.Inlines.LoopKeeps (fun st => I st.kids) (fun _ => True) where
  peek := fun hs _ _ => ⟨hs, trivial⟩
  advance := fun _ hs _ _ => ⟨hs, trivial⟩
  merge := fun hs _ _ _ => C.merge _ _ hs
  restore := fun _ _ hs _ _ _ => hs
  eol := fun flags l s hs _ st' h => (endOfLine_sim (g := id) C flags l s hs).2 st' h

theorem ListSim.isEmpty {l1 l2 : List XIp} (h : ListSim g I env l1 l2) : l2.isEmpty = l1.isEmpty := by
  cases h <;> rfl

theorem ListSim.keeps {l1 l2 : List XIp} (h : ListSim g I env l1 l2) :
    ∀ ip ∈ l1, GM.Proof.Inlines.ParserKeeps (fun st => I st.kids) (ip.parse env) := by
  induction h with
  | nil => intro ip hip; cases hip
  | cons h1 _ ih =>
    intro ip hip st hs r hr
    rcases List.mem_cons.mp hip with rfl | hip
    · exact (h1 st hs).2 r.1 r.2 hr
    · exact ih ip hip st hs r hr

/-! ### the walk: the run over the second table is the relabelled run over the first; that the first run keeps `I` is the rule
    for invariants of the loop (GM.Proof.InlinesLoopRule) at `iclosed_loopKeeps` -/

theorem tryParsersX_sim (l : Int) (p : Segment) {ips1 ips2 : List XIp} (h : ListSim g I env ips1 ips2) :
    ∀ st, I st.kids → tryParsersX env l p ips2 (relvSt g st) = (tryParsersX env l p ips1 st).map (relvPR g) := by
  induction h with
  | nil => intro st _; rfl
  | cons h1 hr ih =>
    intro st hI
    obtain ⟨e1, e2⟩ := h1 st hI
    simp only [tryParsersX, bind, Except.bind, e1]
    rename_i ip1 ip2 r1 r2
    cases hp : ip1.parse env st with
    | error e => rfl
    | ok r =>
      obtain ⟨n, st1⟩ := r
      simp only [Except.map, relvPR]
      cases n with
      | some nd => rfl
      | none =>
        simp only [Option.map_none, relvSt_rd]
        cases hs : st1.rd.setPosition l p with
        | error e => rfl
        | ok rd =>
          simp only []
          exact ih { st1 with rd := rd } (e2 none st1 hp).1

theorem trigTail_sim {ips1 ips2 : List XIp} (h : ListSim g I env ips1 ips2) (l : Int) (p : Segment) (s : Inl.Scan)
    (st0 : St) (sp' : Segment) (hk : I st0.kids) :
    trigTail env l p ips2 (relvScan g s) (relvSt g st0) sp' = (trigTail env l p ips1 s st0 sp').map (relvTrig g) := by
  unfold trigTail
  simp only [bind, Except.bind, tryParsersX_sim l p h st0 hk]
  cases hp : tryParsersX env l p ips1 st0 with
  | error e => rfl
  | ok r =>
    obtain ⟨n, st'⟩ := r
    cases n with
    | some nd => simp [Except.map, relvPR, relvTrig, relvSt, pure, Except.pure]
    | none => simp [Except.map, relvPR, relvTrig, relvScan, pure, Except.pure]

theorem triggerX_eq (env : Env) (ips : List XIp) (i : Nat) (s : Inl.Scan) :
    triggerX env ips i s = (do
      let rd ← s.st.rd.advance s.n
      let ks ← (if i != 0 then (s.sp.between rd.position.2).map (fun seg => (mergeOrAppend s.st.kids seg, rd.position.2))
                else pure (s.st.kids, s.sp))
      trigTail env rd.position.1 rd.position.2 ips s { s.st with rd := rd, kids := ks.1 } ks.2) := rfl

theorem triggerX_sim (C : IClosed I) {ips1 ips2 : List XIp} (h : ListSim g I env ips1 ips2) (i : Nat) (s : Inl.Scan)
    (hI : I s.st.kids) :
    triggerX env ips2 i (relvScan g s) = (triggerX env ips1 i s).map (relvTrig g) := by
  rw [triggerX_eq, triggerX_eq]
  simp only [relvScan, relvSt_rd, bind, Except.bind]
  cases s.st.rd.advance s.n with
  | error e => rfl
  | ok rd =>
    simp only []
    by_cases hi : (i != 0) = true
    · simp only [hi, if_true]
      cases s.sp.between rd.position.2 with
      | error e => rfl
      | ok seg =>
        simp only [Except.map, relvSt_kids, relvSt_nextId, relvSt_bottoms, ← relvL_mergeOrAppend, relvSt_mk]
        exact trigTail_sim h _ _ s _ _ (C.merge _ seg hI)
    · have hi' : (i != 0) = false := by simpa using hi
      simp only [hi', Bool.false_eq_true, if_false, pure, Except.pure, relvSt_kids, relvSt_nextId, relvSt_bottoms,
        relvSt_mk]
      exact trigTail_sim h _ _ s _ _ hI

theorem scanX_sim (C : IClosed I) {T1 T2 : UInt8 → List XIp} (hT : ∀ b, ListSim g I env (T1 b) (T2 b)) :
    ∀ (bs : Bytes) (i : Nat) (s : Inl.Scan), I s.st.kids →
      scanX env T2 bs i (relvScan g s) = (scanX env T1 bs i s).map (relvSR g)
  | [], _, _, _ => rfl
  | c :: cs, i, s, hI => by
    simp only [scanX, (hT (parserChar c i)).isEmpty]
    have hesc : (relvScan g s).escaped = s.escaped := rfl
    rw [hesc]
    split
    · rfl
    · split
      · rw [triggerX_sim C (hT (parserChar c i)) i s hI]
        cases ht : triggerX env (T1 (parserChar c i)) i s with
        | error e => rfl
        | ok r =>
          have hr := (iclosed_loopKeeps C).triggerX _ (hT (parserChar c i)).keeps i hI trivial r ht
          cases r with
          | inl st => rfl
          | inr s' =>
            simp only [Except.map, relvTrig, bump_relv]
            exact scanX_sim C hT cs (i + 1) (bump c s') (by rw [GM.Proof.Inlines.bump_eq]; exact hr.1)
      · rw [bump_relv]
        exact scanX_sim C hT cs (i + 1) (bump c s) (by rw [GM.Proof.Inlines.bump_eq]; exact hI)

theorem lineLoopX_sim (C : IClosed I) {T1 T2 : UInt8 → List XIp} (hT : ∀ b, ListSim g I env (T1 b) (T2 b)) :
    ∀ (fuel : Nat) (esc : Bool) (st : St), I st.kids →
      lineLoopX env T2 fuel esc (relvSt g st) = (lineLoopX env T1 fuel esc st).map (relvSt g) ∧
      ∀ st', lineLoopX env T1 fuel esc st = .ok st' → I st'.kids := by
  intro fuel esc st hI
  refine ⟨?_, fun st' h => (iclosed_loopKeeps C).lineLoopX T1 (fun b => (hT b).keeps) fuel esc hI st' h⟩
  induction fuel generalizing esc st with
  | zero => rfl
  | succ f ih =>
    simp only [lineLoopX, relvSt_rd, bind, Except.bind]
    cases st.rd.peekLine with
    | error e => rfl
    | ok pl =>
      simp only []
      cases pl.1.1 with
      | none => rfl
      | some line =>
        simp only []
        split
        · rfl
        · have e : ({ st := { relvSt g st with rd := pl.2 }, n := 0, sp := (BlockReader.position pl.2).2, escaped := esc } : Inl.Scan) =
              relvScan g { st := { st with rd := pl.2 }, n := 0, sp := (BlockReader.position pl.2).2, escaped := esc } := rfl
          rw [e, scanX_sim C hT (line.take (classify line).1) 0 _ hI]
          cases hs : scanX env T1 (line.take (classify line).1) 0
              { st := { st with rd := pl.2 }, n := 0, sp := (BlockReader.position pl.2).2, escaped := esc } with
          | error e => rfl
          | ok r =>
            have hr := (iclosed_loopKeeps C).scanX T1 (fun b => (hT b).keeps) _ 0 (s := ⟨{ st with rd := pl.2 }, 0, _, esc⟩)
              hI trivial r hs
            cases r with
            | hit st' e' =>
              simp only [Except.map, relvSR]
              exact ih e' st' hr
            | eol s' =>
              simp only [Except.map, relvSR]
              obtain ⟨u1, u2⟩ := endOfLine_sim (g := g) C (classify line).2 (BlockReader.position pl.2).1 s' hr.1
              rw [u1]
              cases he : endOfLine (classify line).2 (BlockReader.position pl.2).1 s' with
              | error e => rfl
              | ok st2 =>
                simp only [Except.map]
                exact ih _ st2 (u2 st2 he)

/-- the parser keeps the invariant: of the children, and with the node it answers appended -/
def Keeps (I : List Inl.Node → Prop) (env : Env) (ip : XIp) : Prop :=
  ∀ st n st', I st.kids → ip.parse env st = .ok (n, st') → I st'.kids ∧ ∀ nd, n = some nd → I (st'.kids ++ [nd])

theorem EntrySim.of_eq {ip1 ip2 : XIp} (heq : ∀ st, I st.kids → ip2.parse env st = ip1.parse env st)
    (hk : Keeps I env ip1) : EntrySim id I env ip1 ip2 := fun st hI =>
  ⟨by rw [relvSt_id, map_relvPR_id, heq st hI], fun n st' h => hk st n st' hI h⟩

theorem ListSim.refl : ∀ {ips : List XIp}, (∀ ip ∈ ips, Keeps I env ip) → ListSim id I env ips ips
  | [], _ => .nil
  | ip :: _, h => .cons (.of_eq (fun _ _ => rfl) (h ip (List.mem_cons_self ..)))
      (ListSim.refl fun q hq => h q (List.mem_cons_of_mem _ hq))

theorem lineLoopX_keeps (C : IClosed I) {T : UInt8 → List XIp} (hT : ∀ b, ∀ ip ∈ T b, Keeps I env ip) (fuel : Nat)
    (esc : Bool) {st st' : St} (hI : I st.kids) (h : lineLoopX env T fuel esc st = .ok st') : I st'.kids :=
  (iclosed_loopKeeps C).lineLoopX T (fun b ip hip st hs r hr => hT b ip hip st r.1 r.2 hs hr) fuel esc hI st' h

open GM.Proof.InlinesDelims GM.Proof.InlinesLinkG

variable {Q : Inl.Node → Prop}

theorem iclosed_allQ (ht : ∀ s a b c, Q (.text s a b c)) : IClosed (allQ Q) where
  merge := fun _ _ h => mergeOrAppend_allQ_text ht h
  appT := fun _ _ _ _ _ h => allQ_append.mpr ⟨h, allQ_single.mpr (ht _ _ _ _)⟩
  dropT := fun _ _ _ _ _ h => allQ_append.mpr ⟨allQ_dropLast h, allQ_single.mpr (ht _ _ _ _)⟩

theorem keeps_allQ {ip : XIp} (h : ∀ st r, ip.parse env st = .ok r → allQ Q st.kids → POKQ Q r) : Keeps (allQ Q) env ip :=
  fun st n st' hI hp =>
    have ⟨a1, a2⟩ := h st (n, st') hp hI
    ⟨a1, fun nd hn => allQ_append.mpr ⟨a1, allQ_single.mpr (a2 nd hn)⟩⟩

theorem liftR_allQ {st : St} {x : RRes} {r : Option Inl.Node × St} (h : liftR st x = .ok r) (hk : allQ Q st.kids)
    (hn : ∀ y rd, x = .ok (some y, rd) → Q y) : POKQ Q r := by
  unfold liftR at h
  split at h
  · cases h
    exact ⟨hk, fun _ hm => by cases hm; exact hn _ _ rfl⟩
  · contradiction

open GM.Proof.Inlines in
theorem ipParse_allQ (I : LinkInv Q) (hpd : PDKeeps Q processDelimiters) (htop : ∀ x, top x = true → Q x) {ip : Ip} {st : St}
    {r : Option Inl.Node × St} (h : ip.parse env st = .ok r) (hk : allQ Q st.kids) : POKQ Q r := by
  cases ip with
  | codeSpan => exact liftR_allQ h hk (fun _ _ e => htop _ (parseCodeSpan_top e))
  | link => exact parseLinkG_allQ (pd := processDelimiters) I hpd h hk
  | autoLink => exact liftR_allQ h hk (fun _ _ e => htop _ (parseAutoLink_top e))
  | rawHTML => exact liftR_allQ h hk (fun _ _ e => htop _ (parseRawHTML_top e))
  | emphasis => exact liftR_allQ (st := { st with nextId := _ }) h hk (fun _ _ e => htop _ (parseEmphasis_top e))

/-! ### the members' parsers: children untouched or a Text merged in, one node of a known shape answered -/

open GM.Proof.Inlines GM.Proof.ExtShape

theorem pokq_none {st : St} (hk : allQ Q st.kids) : POKQ Q (none, st) := ⟨hk, fun _ hx => by cases hx⟩

theorem parseStrike_allQ (hd : ∀ id d, Q (.delim id d)) {st : St} {r : Option Inl.Node × St}
    (h : parseStrike env st = .ok r) (hk : allQ Q st.kids) : POKQ Q r :=
  (parseStrike_shape env st.rd).ans (pokq_none hk) (fun _ _ _ _ =>
    ⟨pokq_none hk, by
      rintro _ ⟨d, -, -, -, rfl⟩
      exact Ans.bind' fun _ => Ans.pure ⟨hk, fun _ hx => by cases hx; exact hd _ _⟩⟩) r h

theorem parseTask_allQ (hq : ∀ b, Q (taskNode b)) {inItem : Bool} {st : St} {r : Option Inl.Node × St}
    (h : parseTask inItem env st = .ok r) (hk : allQ Q st.kids) : POKQ Q r :=
  (parseTask_shape inItem env st.rd).ans (pokq_none hk) (fun _ _ _ _ =>
    ⟨pokq_none hk, by
      rintro _ ⟨n, b, -, -, rfl⟩
      exact Ans.bind' fun _ => Ans.pure ⟨hk, fun _ hx => by cases hx; exact hq _⟩⟩) r h

theorem parseLinkify_allQ (ht : ∀ s a b c, Q (.text s a b c)) (ha : ∀ e s, Q (.autoLink e s)) {st : St}
    {r : Option Inl.Node × St} (h : parseLinkify env st = .ok r) (hk : allQ Q st.kids) : POKQ Q r :=
  (parseLinkify_shape env st.rd).ans (pokq_none hk) (fun _ _ _ _ =>
    ⟨pokq_none hk, by
      rintro _ ⟨k, i, proto, email, -, -, -, -, rfl⟩
      refine Ans.bind' fun _ => Ans.pure ⟨?_, fun _ hx => by cases hx; exact ha _ _⟩
      dsimp only
      split
      · exact hk
      · exact mergeOrAppend_allQ_text ht hk⟩) r h

end GM.Proof.ConvertXSim
