/-
  GM.Proof.CMFrag11Inl — `*em*` / `**strong**`: what the line loop leaves for such an atom (`RItem11`; `rawC ch` for either
  delimiter byte), the emphasis parser on a run of delimiters (`parseEmphasis_run`, for `*` and `_`), when such a run
  can open / close (`flank11`), and the character in front of a position.
-/
import GM.Proof.CMFrag11Defs
import GM.Proof.InlinesDelims
import GM.Model.Convert

namespace GM.Proof.CMFrag
open GM GM.Text GM.Inl

/-! ### the child list after the line loop, and what `processDelimiters` makes of it -/

/-- what the line loop leaves for one atom -/
inductive RItem11 where
  | text (seg : Segment) (soft : Bool)
  | code (seg : Segment)
  | emph (oid cid : Nat) (so sc content : Segment) (two oc cc : Bool)

def elen11 (two : Bool) : Nat := if two then 2 else 1

def mkDelim11 (seg : Segment) (two canOpen canClose : Bool) : Delim :=
  { seg := seg, canOpen := canOpen, canClose := canClose, length := (elen11 two : Nat), origLength := (elen11 two : Nat),
    char := 42 }

def RItem11.raw : RItem11 → List Inl.Node
  | .text seg soft => [.text seg soft false false]
  | .code seg => [.codeSpan [.text seg false false true]]
  | .emph oid cid so sc content two oc cc =>
    [.delim oid (mkDelim11 so two true oc), .text content false false false, .delim cid (mkDelim11 sc two cc true)]

def RItem11.fin : RItem11 → List Inl.Node
  | .text seg soft => [.text seg soft false false]
  | .code seg => [.codeSpan [.text seg false false true]]
  | .emph _ _ _ _ content two _ _ => [.emphasis (elen11 two : Nat) [.text content false false false]]

def raw11 (its : List RItem11) : List Inl.Node := its.flatMap RItem11.raw
def fin11 (its : List RItem11) : List Inl.Node := its.flatMap RItem11.fin

/-- `mkDelim11`, `RItem11.raw`, `raw11` for either delimiter byte (an `RItem11` does not record the byte): everything about
    delimiter runs below is stated for `rawC ch`, and `raw11 = rawC 42` -/
def mkDelimC (ch : UInt8) (seg : Segment) (two canOpen canClose : Bool) : Delim :=
  { seg := seg, canOpen := canOpen, canClose := canClose, length := (elen11 two : Nat), origLength := (elen11 two : Nat),
    char := ch }

def RItem11.rawC (ch : UInt8) : RItem11 → List Inl.Node
  | .text seg soft => [.text seg soft false false]
  | .code seg => [.codeSpan [.text seg false false true]]
  | .emph oid cid so sc content two oc cc =>
    [.delim oid (mkDelimC ch so two true oc), .text content false false false, .delim cid (mkDelimC ch sc two cc true)]

def rawC (ch : UInt8) (its : List RItem11) : List Inl.Node := its.flatMap (RItem11.rawC ch)

theorem raw11_eq (its : List RItem11) : raw11 its = rawC 42 its := rfl

theorem raw11_append (a b : List RItem11) : raw11 (a ++ b) = raw11 a ++ raw11 b := by simp [raw11]
theorem fin11_append (a b : List RItem11) : fin11 (a ++ b) = fin11 a ++ fin11 b := by simp [fin11]

def runC11 : CStep → Except Panic (List Inl.Node)
  | .done k => .ok k
  | .bad => .error .pre
  | .next p i d po => closerLoop .nil p i d po

theorem closerLoop_run11 (pre : List Inl.Node) (cid : Nat) (cd : Delim) (post : List Inl.Node) :
    closerLoop .nil pre cid cd post = runC11 (closerStep .nil pre cid cd post) := by
  cases h : closerStep .nil pre cid cd post with
  | done k => exact GM.Proof.InlinesDelims.closerLoop_done h
  | bad => exact GM.Proof.InlinesDelims.closerLoop_bad h
  | next p i d po => exact GM.Proof.InlinesDelims.closerLoop_next h

theorem advanceCloser_cons11 (pre post : List Inl.Node) (n : Inl.Node) (hn : n.isDelim = false) :
    advanceCloser pre (n :: post) = advanceCloser (pre ++ [n]) post := by
  unfold advanceCloser
  cases n <;> simp [Node.isDelim] at hn <;> simp only [splitFirstDelim] <;>
    cases splitFirstDelim post <;> simp

theorem findOpener_noDelim11 (cd : Delim) : ∀ (l mid : List Inl.Node) (m : Bool), (∀ n ∈ l, n.isDelim = false) →
    findOpener .nil cd l mid m = (none, m)
  | [], _, _, _ => rfl
  | n :: rest, mid, m, h => by
    have ih := findOpener_noDelim11 cd rest (n :: mid) m (fun x hx => h x (by simp [hx]))
    have hn := h n (by simp)
    cases n <;> simp [Node.isDelim] at hn <;> simp [findOpener, ih]

theorem splitAt_of_first11 : ∀ (l pre post : List Inl.Node) (id : Nat) (d : Delim),
    splitFirstDelim l = some (pre, id, d, post) → splitAtDelim id l = some (pre, d, post)
  | [], _, _, _, _, h => by simp [splitFirstDelim] at h
  | n :: rest, pre, post, id, d, h => by
    cases n with
    | delim i dd =>
      simp [splitFirstDelim] at h
      obtain ⟨rfl, rfl, rfl, rfl⟩ := h
      simp [splitAtDelim]
    | _ =>
      simp only [splitFirstDelim] at h
      split at h
      · rename_i p i dd po heq
        simp at h; obtain ⟨rfl, rfl, rfl, rfl⟩ := h
        simp [splitAtDelim, splitAt_of_first11 rest _ _ _ _ heq]
      · simp at h

theorem fin_noDelim11 (its : List RItem11) : ∀ n ∈ fin11 its, n.isDelim = false := by
  intro n hn
  simp only [fin11, List.mem_flatMap] at hn
  obtain ⟨it, _, hn⟩ := hn
  cases it <;> simp [RItem11.fin] at hn <;> subst hn <;> rfl

theorem splitLastDelim_noDelim11 (l : List Inl.Node) (h : ∀ n ∈ l, n.isDelim = false) : splitLastDelim l = none := by
  unfold splitLastDelim
  rw [splitFirstDelim_noDelim _ (fun n hn => h n (by simpa using hn))]

/-! ### the emphasis parser on a run of delimiters -/

theorem alnum_facts11 : ∀ c : UInt8, GM.Spec.CM.isAlnumC c = true →
    (c < 0x80) ∧ isCont c = false ∧ isPunct c = false ∧ c.toNat < 128 ∧
    (c.toNat == 9 || c.toNat == 10 || c.toNat == 11 || c.toNat == 12 || c.toNat == 13 || c.toNat == 32) = false :=
  GM.forall_uint8 _ (by decide +kernel)

/-- what the inline phase asks of a delimiter byte -/
theorem emphC_facts (ch : UInt8) (hch : (ch == 42 || ch == 95) = true) :
    isSpace ch = false ∧ isPunct ch = true ∧ parsersFor ch = [.emphasis] ∧ (ch == 10) = false := by
  have hc : ch = 42 ∨ ch = 95 := by simpa using hch
  rcases hc with rfl | rfl <;> decide

/-- a letter or digit is not a delimiter byte: that is punctuation -/
theorem alnum_neC (ch : UInt8) (hch : (ch == 42 || ch == 95) = true) (c : UInt8) (h : GM.Spec.CM.isAlnumC c = true) :
    c ≠ ch := by
  intro hc
  have hp := (alnum_facts11 c h).2.2.1
  rw [hc, (emphC_facts ch hch).2.1] at hp
  exact Bool.noConfusion hp

theorem rune_alnum11 (env : Env) (c : UInt8) (h : GM.Spec.CM.isAlnumC c = true) :
    isSpaceRune env c.toNat = false ∧ isPunctRune env c.toNat = false := by
  obtain ⟨_, _, hp, hlt, hsp⟩ := alnum_facts11 c h
  constructor
  · unfold isSpaceRune; rw [if_pos hlt]; exact hsp
  · unfold isPunctRune; rw [if_pos hlt]; simpa using hp

/-- the rune at an ASCII byte -/
theorem toRune_ascii11 (line : Bytes) (k : Nat) (c : UInt8) (tl : Bytes) (hd : line.drop k = c :: tl)
    (hlt : c < 0x80) (hc : isCont c = false) : toRune line k = c.toNat := by
  have hk : line[k]? = some c := by
    have := congrArg (fun l => l[0]?) hd
    simpa using this
  unfold toRune
  simp [runeStartBack, hk, runeStart, hc, hd, decodeRune, hlt]

theorem toRune_alnum11 (line : Bytes) (k : Nat) (c : UInt8) (tl : Bytes) (hd : line.drop k = c :: tl)
    (h : GM.Spec.CM.isAlnumC c = true) : toRune line k = c.toNat :=
  toRune_ascii11 line k c tl hd (alnum_facts11 c h).1 (alnum_facts11 c h).2.1

def left11 (env : Env) (b a : Nat) : Bool :=
  !isSpaceRune env a && (!isPunctRune env a || isSpaceRune env b || isPunctRune env b)
def right11 (env : Env) (b a : Nat) : Bool :=
  !isSpaceRune env b && (!isPunctRune env b || isSpaceRune env a || isPunctRune env a)

/-- can open / can close for a run of the delimiter `ch` between the runes `b` and `a` (delimiter.go:139-146): for `_` a
    flanking run that is flanking on the other side too needs punctuation outside -/
def flank11 (env : Env) (ch : UInt8) (b a : Nat) : Bool × Bool :=
  if ch == 95 then
    (left11 env b a && (!right11 env b a || isPunctRune env b), right11 env b a && (!left11 env b a || isPunctRune env a))
  else (left11 env b a, right11 env b a)

/-- a run in front of a letter or digit can open: a run of `*` always, a run of `_` if white space or punctuation
    stands in front of it (then it is not right-flanking) -/
theorem flank_open11 (env : Env) (ch : UInt8) (b : Nat) (c : UInt8) (hc : GM.Spec.CM.isAlnumC c = true)
    (hb : ch = 95 → (isSpaceRune env b || isPunctRune env b) = true) : (flank11 env ch b c.toNat).1 = true := by
  obtain ⟨h1, h2⟩ := rune_alnum11 env c hc
  unfold flank11
  split
  · rename_i h95
    have := hb (by simpa using h95)
    cases h3 : isSpaceRune env b <;> cases h4 : isPunctRune env b <;> simp [left11, right11, h1, h2, h3, h4] at this ⊢
  · simp [left11, h1, h2]

/-- a run behind a letter or digit can close; for `_` if white space or punctuation follows it -/
theorem flank_close11 (env : Env) (ch : UInt8) (c : UInt8) (a : Nat) (hc : GM.Spec.CM.isAlnumC c = true)
    (ha : ch = 95 → (isSpaceRune env a || isPunctRune env a) = true) : (flank11 env ch c.toNat a).2 = true := by
  obtain ⟨h1, h2⟩ := rune_alnum11 env c hc
  unfold flank11
  split
  · rename_i h95
    have := ha (by simpa using h95)
    cases h3 : isSpaceRune env a <;> cases h4 : isPunctRune env a <;> simp [left11, right11, h1, h2, h3, h4] at this ⊢
  · simp [right11, h1, h2]

theorem takeWhile_run11 (ch : UInt8) (tail : Bytes) (ht : tail.head? ≠ some ch) : ∀ m : Nat,
    (List.replicate m ch ++ tail).takeWhile (· == ch) = List.replicate m ch
  | 0 => by
    cases tail with
    | nil => rfl
    | cons c r =>
      have : (c == ch) = false := by
        cases hc : (c == ch) with
        | false => rfl
        | true => exact absurd (by simp at hc; simp [hc]) ht
      simp [this]
  | m + 1 => by
    simp [List.replicate_succ, takeWhile_run11 ch tail ht m]

/-- the emphasis parser at a run of `n` delimiters `ch` (`*` or `_`) that something other than `ch` follows: a Delimiter
    node of length `n`, flanking as `flank11` says -/
theorem parseEmphasis_run (env : Env) (ch : UInt8) (hch : (ch == 42 || ch == 95) = true) (src : Bytes)
    (segs : List Segment) (L j hd : Int) (q n : Nat) (tail : Bytes)
    (e : Int) (id b : Nat) (hn : 1 ≤ n) (he : e = (q : Int) + n + tail.length) (hj : j < segs.length)
    (hlen : q + n + tail.length ≤ src.length) (hL : e ≤ L)
    (hsub : sub src q (q + (n + tail.length)) = List.replicate n ch ++ tail)
    (htail : tail ≠ []) (ht : tail.head? ≠ some ch)
    (hb : (rdAt src segs L j { start := q, stop := e } hd).precendingCharacter = .ok b) :
    parseEmphasis env id (rdAt src segs L j { start := q, stop := e } hd) =
      .ok (some (.delim id { seg := { start := q, stop := (q : Int) + n },
                             canOpen := (flank11 env ch b (toRune (List.replicate n ch ++ tail) n)).1,
                             canClose := (flank11 env ch b (toRune (List.replicate n ch ++ tail) n)).2,
                             length := (n : Nat), origLength := (n : Nat), char := ch }),
        rdAt src segs L j { start := (q : Int) + n, stop := e } hd) := by
  have htl : 0 < tail.length := List.length_pos_iff.mpr htail
  obtain ⟨m, rfl⟩ : ∃ m, n = m + 1 := ⟨n - 1, by omega⟩
  have hp := peekLine_at8 src segs L j q e hd hj (by omega) (by omega) (by omega) (by omega)
  have t1 : ((q : Int)).toNat = q := by omega
  have t2 : e.toNat = q + (m + 1 + tail.length) := by omega
  rw [t1, t2, hsub] at hp
  unfold parseEmphasis
  simp only [hb, hp, bind, Except.bind, Option.getD_some]
  have hline : List.replicate (m + 1) ch ++ tail = ch :: (List.replicate m ch ++ tail) := by
    simp [List.replicate_succ]
  have hj' : ((List.replicate m ch ++ tail).takeWhile (· == ch)).length + 1 = m + 1 := by
    rw [takeWhile_run11 ch tail ht m]; simp
  have hne : ¬ (m + 1 = (ch :: (List.replicate m ch ++ tail)).length) := by simp; omega
  rw [hline]
  simp only [scanDelimiter, hj', hch, Bool.not_true, Bool.false_eq_true, if_false, beq_iff_eq, hne]
  rw [advance_fast _ _ _ _ _ _ _ _ (by omega)]
  by_cases h95 : ch = 95 <;> simp [Segment.withStop, flank11, left11, right11, h95, pure, Except.pure]

theorem prec_total11 (src : Bytes) (segs : List Segment) (L j hd q e : Int) (s0 : Segment) (h0 : segs[0]? = some s0) :
    ∃ b, (rdAt src segs L j { start := q, stop := e } hd).precendingCharacter = .ok b := by
  have hl : ¬ (segs.length < 1) := by
    have := (List.getElem?_eq_some_iff.mp h0).1; omega
  have hs : segAt segs 0 = .ok s0 := by simp [segAt, h0]
  unfold BlockReader.precendingCharacter
  simp only [rdAt, bind, Except.bind, pure, Except.pure, bne_self_eq_false, Bool.false_eq_true, if_false, hl, hs]
  by_cases c1 : (j == 0) = true ∧ q ≤ s0.start
  · exact ⟨10, by simp only [c1]; simp⟩
  · by_cases c2 : ¬(q - 1 < (src.length : Int) ∧ q - 1 ≥ 0)
    · exact ⟨10, by simp only [c1, c2]; simp⟩
    · cases hr : runeStartBack src q.toNat with
      | none => exact ⟨10, by simp only [c1, c2, hr]; simp⟩
      | some i => exact ⟨(decodeRune (List.drop i src)).fst, by simp only [c1, c2, hr]; simp⟩

/-- the character in front of a position that an ASCII byte precedes -/
theorem prec_ascii11 (src : Bytes) (segs : List Segment) (L j hd e : Int) (k : Nat) (c : UInt8) (s0 : Segment)
    (h0 : segs[0]? = some s0) (hfirst : j = 0 → s0.start ≤ k) (hk : src[k]? = some c)
    (hlt : c < 0x80) (hcont : isCont c = false) :
    (rdAt src segs L j { start := (k : Int) + 1, stop := e } hd).precendingCharacter = .ok c.toNat := by
  have hl : ¬ (segs.length < 1) := by
    have := (List.getElem?_eq_some_iff.mp h0).1; omega
  have hs : segAt segs 0 = .ok s0 := by simp [segAt, h0]
  have hklt : k < src.length := (List.getElem?_eq_some_iff.mp hk).1
  have hdrop : src.drop k = c :: src.drop (k + 1) := by
    rw [List.drop_eq_getElem_cons hklt]
    congr 1
    have := List.getElem?_eq_getElem hklt
    rw [this] at hk; exact Option.some.inj hk
  unfold BlockReader.precendingCharacter
  simp only [rdAt, bind, Except.bind, pure, Except.pure, bne_self_eq_false, Bool.false_eq_true, if_false, hl, hs]
  have h1 : ¬ ((j == 0) = true ∧ (k : Int) + 1 ≤ s0.start) := by
    intro ⟨ha, hb⟩
    have := hfirst (by simpa using ha)
    omega
  have h2 : ¬ ¬ ((k : Int) + 1 - 1 < (src.length : Int) ∧ (k : Int) + 1 - 1 ≥ 0) := by
    intro h; apply h; constructor <;> omega
  have t : ((k : Int) + 1).toNat = k + 1 := by omega
  simp only [h1, h2, if_false, t]
  simp [runeStartBack, hk, runeStart, hcont, hdrop, decodeRune, hlt]

theorem prec_alnum11 (src : Bytes) (segs : List Segment) (L j hd e : Int) (k : Nat) (c : UInt8) (s0 : Segment)
    (h0 : segs[0]? = some s0) (hfirst : j = 0 → s0.start ≤ k) (hk : src[k]? = some c)
    (hc : GM.Spec.CM.isAlnumC c = true) :
    (rdAt src segs L j { start := (k : Int) + 1, stop := e } hd).precendingCharacter = .ok c.toNat :=
  prec_ascii11 src segs L j hd e k c s0 h0 hfirst hk (alnum_facts11 c hc).1 (alnum_facts11 c hc).2.1

/-! ### the end of a line; letters and digits as quiet text -/

theorem noMerge_delim11 (ks : List Inl.Node) (id : Nat) (d : Delim) : NoMerge8 (ks ++ [.delim id d]) := by
  intro seg h r; simp

/-- the rest of a line ends so that `classify` keeps all of it (whatever stands in front) -/
def EndOK11 (rest : Bytes) : Prop := ∀ x : Bytes, (classify (x ++ rest)).1 = (x ++ rest).length

theorem endOK_lf11 (l0 : Bytes) (c : UInt8) (hs : isSpace c = false) (hb : c ≠ 92) : EndOK11 (l0 ++ [c] ++ [10]) := by
  intro x
  rw [show x ++ (l0 ++ [c] ++ [10]) = (x ++ l0) ++ [c] ++ [10] by simp, classify_lf _ c hs hb]
  simp <;> omega

theorem endOK_nolf11 (l0 : Bytes) (c : UInt8) (hs : isSpace c = false) : EndOK11 (l0 ++ [c]) := by
  intro x
  have hc10 : c ≠ 10 := by intro h; subst h; simp [isSpace] at hs
  rw [show x ++ (l0 ++ [c]) = (x ++ l0) ++ [c] by simp, classify_nolf _ c hc10]
  simp <;> omega

theorem alnum_facts2_11 : ∀ c : UInt8, GM.Spec.CM.isAlnumC c = true →
    (c != 10) = true ∧ (c == 92) = false ∧ isPunct c = false ∧ isSpace c = false :=
  GM.forall_uint8 _ (by decide +kernel)

theorem alnum_quiet11 : ∀ (cs : Bytes) (i : Nat), (∀ c ∈ cs, GM.Spec.CM.isAlnumC c = true) →
    quiet cs i false = true ∧ escAfter cs false = false
  | [], _, _ => by simp [quiet, escAfter]
  | c :: cs, i, h => by
    obtain ⟨h10, h92, hp, hs⟩ := alnum_facts2_11 c (h c (by simp))
    obtain ⟨ih1, ih2⟩ := alnum_quiet11 cs (i + 1) (fun x hx => h x (by simp [hx]))
    have hF : parsersFor 32 = [] := by decide
    constructor
    · simp only [quiet, h10, h92, Bool.and_false, ih1, Bool.and_true, Bool.true_and]
      by_cases hi : i = 0
      · subst hi; simp [parserChar, hp, hs, hF]
      · simp [isTrigger, hp, hs, hi]
    · simp only [escAfter, h92, Bool.and_false, ih2]

theorem quiet_headC (ch : UInt8) (hch : (ch == 42 || ch == 95) = true) (c : UInt8) (cs : Bytes)
    (h : quiet (c :: cs) 0 false = true) : c ≠ ch := by
  intro hc
  subst hc
  obtain ⟨h1, h2, hF, _⟩ := emphC_facts c hch
  simp [quiet, isTrigger, parserChar, h1, h2, hF] at h

theorem closeLabelsL_fin11 : ∀ (its : List RItem11), closeLabelsL (fin11 its) = fin11 its
  | [] => by simp [fin11, closeLabelsL]
  | it :: rest => by
    have ih := closeLabelsL_fin11 rest
    have e : fin11 (it :: rest) = it.fin ++ fin11 rest := by simp [fin11]
    rw [e]
    cases it <;> simp [RItem11.fin, closeLabelsL, closeLabels, ih]

end GM.Proof.CMFrag
