/-
  GM.Proof.BlocksTNPTree — the tree under the transformers' surgery: the frame lemmas of GM.Proof.BlocksDriverLInv restated for the weak extension `ExtW`, and the calculus `TInv I GC GP` of
  link invariants kept by RemoveChild / attach, with `TreeOK` (parent and child lists agree, no node twice) and `LK` (x is the last child of q) as instances.
-/
import GM.Proof.BlocksTNPClose
import GM.Proof.BlocksDriverL
import GM.Proof.BlocksFrames
import GM.Proof.BlocksTreeOp

section BlocksTNPLinks
/-
  No-panic proof of the block driver WITH paragraph transformers, list-aware layer: the tree-link frame
  `TF` and `PLTf` over one transformer call that meets `PTPost` (`tstepL_of_post`).
  The frame lemmas of BlocksDriverLInv that take `Ext` only use its `len` and `kind`: they are restated for `ExtW`.
-/

namespace GM.Blocks.L.T
open GM GM.Text GM.Spec GM.Proof.Reader GM.Blocks.T

theorem TF.transW {s1 s2 s3 : St} (h12 : TF s1 s2) (e12 : ExtW s1 s2) (h23 : TF s2 s3) (e23 : ExtW s2 s3) : TF s1 s3 where
  parent := fun i hi hk => by
    rw [h23.parent i (Nat.lt_of_lt_of_le hi e12.len) (by rw [e12.kind i hi]; exact hk), h12.parent i hi hk]
  kids := fun i hi hk => by
    rw [h23.kids i (Nat.lt_of_lt_of_le hi e12.len) (by rw [e12.kind i hi]; exact hk), h12.kids i hi hk]
  offset := fun i hi => by rw [h23.offset i (Nat.lt_of_lt_of_le hi e12.len), h12.offset i hi]
  newParent := fun i p hp hk => by
    obtain ⟨hi2, hp2⟩ := h23.newParent i p hp hk
    have hp2l : p < s2.nodes.length := by
      rcases Nat.lt_or_ge p s2.nodes.length with h | h
      · exact h
      · exact absurd hk (h23.newKind p h).1
    rw [e23.kind p hp2l] at hk
    exact h12.newParent i p hp2 hk
  newKind := fun i hi => by
    rcases Nat.lt_or_ge i s2.nodes.length with h | h
    · rw [e23.kind i h]; exact h12.newKind i hi
    · exact h23.newKind i h

theorem KidsOK.tfW {s s' : St} (h : KidsOK s) (e : ExtW s s') (t : TF s s') : KidsOK s' where
  kids := by
    intro i lc hk hm
    rcases Nat.lt_or_ge i s.nodes.length with hi | hi
    · rw [e.kind i hi] at hk
      rw [t.kids i hi hk] at hm
      obtain ⟨a, b⟩ := h.kids i lc hk hm
      exact ⟨Nat.lt_of_lt_of_le a e.len, by rw [e.kind lc a]; exact b⟩
    · exact absurd hk (t.newKind i hi).1
  off := by
    intro i hk
    rcases Nat.lt_or_ge i s.nodes.length with hi | hi
    · rw [t.offset i hi]; rw [e.kind i hi] at hk; exact h.off i hk
    · exact absurd hk (t.newKind i hi).2
  pk := by
    intro i p hp hk
    obtain ⟨hi, hp'⟩ := t.newParent i p hp hk
    have hpl : p < s.nodes.length := by
      rcases Nat.lt_or_ge p s.nodes.length with h' | h'
      · exact h'
      · exact absurd hk (t.newKind p h').1
    rw [e.kind p hpl] at hk
    rw [e.kind i hi]
    exact h.pk i p hp' hk

theorem LinkP.tfW {s s' : St} {p : Nat} {b' : Block} (h : LinkP s p b') (e : ExtW s s') (t : TF s s')
    (hp : p < s.nodes.length) (hb : b'.node < s.nodes.length) (hbk : (nd s b'.node).kind = b'.bp.kind) : LinkP s' p b' where
  down := fun hk => by
    rw [e.kind p hp] at hk
    obtain ⟨a, b, c⟩ := h.down hk
    refine ⟨a, ?_, by rw [t.kids p hp hk]; exact c⟩
    rw [t.parent b'.node hb (by rw [hbk, a]; rfl)]; exact b
  up := fun hi => by rw [e.kind p hp]; exact h.up hi

theorem chainedO_tfW {s s' : St} (e : ExtW s s') (t : TF s s') : ∀ (p : Nat) (l : List Block), ChainedO s p l →
    p < s.nodes.length → (∀ b ∈ l, b.node < s.nodes.length ∧ (nd s b.node).kind = b.bp.kind) → ChainedO s' p l := by
  intro p l
  induction l generalizing p with
  | nil => intro _ _ _; trivial
  | cons b rest ih =>
    intro h hp hb
    exact ⟨LinkP.tfW h.1 e t hp (hb b (by simp)).1 (hb b (by simp)).2,
      ih b.node h.2 (hb b (by simp)).1 (fun x hx => hb x (List.mem_cons_of_mem _ hx))⟩

theorem LStore.stepW {s s' : St} {root : Nat} (h : LStore s root) (e : ExtW s s') (t : TF s s')
    (hplt : ∀ i p, (nd s' i).parent = some p → p < s'.nodes.length) (ho : s'.pc.opened = s.pc.opened)
    (hb : ∀ b ∈ s.pc.opened, BlockOK s b) : LStore s' root where
  kids := KidsOK.tfW h.kids e t
  plt := hplt
  rootKind := by rw [e.kind root h.rootLt]; exact h.rootKind
  rootLt := Nat.lt_of_lt_of_le h.rootLt e.len
  attached := fun b hbm hc => by
    rw [ho] at hbm
    have hbk := hb b hbm
    rw [t.parent b.node hbk.lt (by rw [hbk.kind]; exact isCont_of_container hc)]
    exact h.attached b hbm hc
  incr := by rw [ho]; exact h.incr

theorem LStore.closeW {s s' : St} {root : Nat} (h : LStore s root) (e : ExtW s s') (t : TF s s') (hplt : PLTf s')
    (hsub : List.Sublist s'.pc.opened s.pc.opened) (hb : ∀ b ∈ s.pc.opened, BlockOK s b) : LStore s' root where
  kids := KidsOK.tfW h.kids e t
  plt := hplt
  rootKind := by rw [e.kind root h.rootLt]; exact h.rootKind
  rootLt := Nat.lt_of_lt_of_le h.rootLt e.len
  attached := fun b hbm hc => by
    have hbm' := hsub.subset hbm
    have hbk := hb b hbm'
    rw [t.parent b.node hbk.lt (by rw [hbk.kind]; exact isCont_of_container hc)]
    exact h.attached b hbm' hc
  incr := h.incr.sublist (List.Sublist.cons_cons _ (List.Sublist.map _ hsub))

theorem tstepL_of_post {src : Bytes} {node : Nat} {s s' : St} (hn : NodesOK src s) (hlt : node < s.nodes.length)
    (hkind : (nd s node).kind = .paragraph) (hkids : KidsOK s) (hplt : PLTf s) (h : PTPost node s s') :
    ∃ g, TStep src node s s' g ∧ TF s s' ∧ PLTf s' := by
  obtain ⟨g, hg⟩ := tstep_of_post hn hlt h
  refine ⟨g, hg, ?_⟩
  rcases h.res with ⟨refs, k, hk, e⟩ | ⟨refs, p, hp, e⟩
  · have ts : TreeSame s s' := by
      rw [e]
      exact fr_treeSame_set s node _ _ _ ⟨rfl, rfl, rfl, rfl⟩
    exact ⟨ts.tf, PLT.treeSame hplt ts⟩
  · have tsE : TreeSame s (ptEmptied s node refs) :=
      fr_treeSame_set s node _ _ _ ⟨rfl, rfl, rfl, rfl⟩
    have hpltE : PLT (ptEmptied s node refs) := PLT.treeSame hplt tsE
    unfold ptReplace at e
    obtain ⟨t, sA, e1, e2⟩ := bind_ok e
    have hA := plt_newNode _ _ t sA hpltE rfl e1
    have hsA : sA = { (ptEmptied s node refs) with nodes := (ptEmptied s node refs).nodes ++
        [{ kind := .textBlock, blankPrev := (nd s node).blankPrev }] } := by cases e1; rfl
    have tfxA : TFX (ptEmptied s node refs) sA := by
      rw [hsA]; exact fr_newNode_tfx _ _ ⟨(fun h => by cases h), (fun h => by cases h)⟩ rfl
    have hElen : (ptEmptied s node refs).nodes.length = s.nodes.length := tsE.len
    have hpl : p < s.nodes.length := hplt node p hp
    have hndA : ∀ i, i < s.nodes.length → nd sA i = nd (ptEmptied s node refs) i := fun i hi =>
      nd_of_append_lt (by rw [hsA]) (by rw [hElen]; exact hi)
    have hpk : (nd sA p).kind ≠ .list := by
      rw [hndA p hpl, (tsE.same p).1]
      intro hl
      have := hkids.pk node p hp hl
      rw [hkind] at this; cases this
    have hvk : (nd sA node).kind.isCont = false := by
      rw [hndA node hlt, (tsE.same node).1, hkind]; rfl
    have htid : t = s.nodes.length := by rw [hA.2.2, hElen]
    have hndt : nd sA t = { kind := .textBlock, blankPrev := (nd s node).blankPrev } := by
      rw [htid, hsA]; simp only [nd]; rw [← hElen]; exact getD_length_append _ _ _
    have tfk := fr_replaceChild_tfk p node t sA s' hpk hvk (by rw [hndt]; rfl) (by rw [hndt]) e2
    have hplt' := plt_replaceChild p node t sA s' hA.1 (by rw [hA.2.1, hElen]; omega) e2
    exact ⟨(tsE.tfk.tfx.trans (tfxA.trans tfk.tfx)).tf, hplt'.1⟩

end GM.Blocks.L.T
end BlocksTNPLinks

section BlocksTNPTree
/-
  Tree-shape invariants of the block phase over the tree surgery of the Close functions and of the
  paragraph transformers (used by `runT_total` of GM.Proof.BlocksTNPTotal: the ELSE branch of `if last == parent.LastChild()`,
  parser.go:986, is dead).

  * `TreeOK s`  — parent pointers and children lists agree in both directions, children lists have no duplicates;
  * `LK s x q`  — `x` is the LAST child of its parent `q` and occurs in no other children list.
  Both are instances of one calculus `TInv I GC GP` ("`I` is kept by `RemoveChild` of a good child and by attaching a good
  child to a good parent": closed under the two units `rm` / `link` of GM.Proof.BlocksTreeOp, `TInv.treeOp`), from which the frames of
  `appendChild`, `insertBefore`, `replaceChild`, `tightenItem(s)`, `listClose`, `setextClose` follow once (template: GM.Proof.BlocksFrames).
-/

namespace GM.Blocks.TR
open GM GM.Text GM.Spec GM.Proof.Reader GM.Blocks.T

theorem mem_insertBeforeIn (v c : Nat) (l : List Nat) (y : Nat) : y ∈ insertBeforeIn v c l ↔ (y ∈ l ∨ y = c) :=
  (mem_insertBeforeIn_iff v c l y).trans or_comm

theorem getLast?_erase_of_ne (x c : Nat) : ∀ (l : List Nat), l.getLast? = some x → c ≠ x → (l.erase c).getLast? = some x
  | [], h, _ => by cases h
  | [a], h, hne => by
    simp at h; subst h
    have : ([a] : List Nat).erase c = [a] := by simp [List.erase_cons, hne.symm]
    rw [this]; rfl
  | a :: b :: rest, h, hne => by
    have h' : (b :: rest).getLast? = some x := by simpa [List.getLast?_cons_cons] using h
    by_cases e : a = c
    · subst e; simpa using h'
    · have : (a :: b :: rest).erase c = a :: (b :: rest).erase c := by simp [List.erase_cons, e]
      rw [this]
      have ih := getLast?_erase_of_ne x c (b :: rest) h' hne
      cases hr : (b :: rest).erase c with
      | nil => rw [hr] at ih; cases ih
      | cons d ds => rw [hr] at ih; rw [List.getLast?_cons_cons]; exact ih

theorem lt_of_mem_children (s : St) (p i : Nat) (h : i ∈ (nd s p).children) : p < s.nodes.length := by
  rcases Nat.lt_or_ge p s.nodes.length with hp | hp
  · exact hp
  · rw [nd_default_of_ge s hp] at h; cases h

/-- `I` is a property of the tree links that `RemoveChild` of a `GC` child and attaching a `GC` child to a `GP` parent keep -/
structure TInv (I : St → Prop) (GC GP : Nat → Prop) : Prop where
  ts : ∀ {s s' : St}, TreeSame s s' → I s → I s'
  app : ∀ {s : St} (n : Node) (r : Reader) (pc : Ctx), n.parent = none → n.children = [] → I s →
    I { r := r, nodes := s.nodes ++ [n], pc := pc }
  rm : ∀ {s : St} (p c : Nat), GC c → (nd s c).parent = some p → I s →
    I (upd (upd s p fun n => { n with children := n.children.erase c }) c fun n => { n with parent := none })
  link : ∀ {s : St} (g : List Nat → List Nat) (p c : Nat), GC c → GP p → p < s.nodes.length → c < s.nodes.length →
    (∀ l y, y ∈ g l ↔ (y ∈ l ∨ y = c)) → (∀ l, l.Nodup → c ∉ l → (g l).Nodup) → (nd s c).parent = none → I s →
    I (upd (upd s p fun n => { n with children := g n.children }) c fun n => { n with parent := some p })
  kids : ∀ {s : St} (p : Nat), I s → GP p → ∀ y ∈ (nd s p).children, GC y
  fresh : ∀ {s : St}, I s → GC s.nodes.length

section calculus
variable {I : St → Prop} {GC GP : Nat → Prop} (T : TInv I GC GP)
include T

/-- `I` is kept along the mutators (GM.Proof.BlocksTreeOp) when they remove `GC` children and attach `GC` children to `GP` parents of the store -/
theorem TInv.treeOp {n : Nat} {s s' : St} (h : TreeOp GC (fun p c => GC c ∧ GP p ∧ p < n ∧ c < n) s s') :
    s.nodes.length = n → I s → I s' ∧ s'.nodes.length = s.nodes.length := by
  induction h with
  | refl s => exact fun _ hi => ⟨hi, rfl⟩
  | trans _ _ ih1 ih2 =>
    intro hn hi
    obtain ⟨i1, l1⟩ := ih1 hn hi
    obtain ⟨i2, l2⟩ := ih2 (l1.trans hn) i1
    exact ⟨i2, l2.trans l1⟩
  | rm s p c hr hpar => exact fun _ hi => ⟨T.rm p c hr hpar hi, by simp [upd]⟩
  | link s g p c hc hg hgn hiso =>
    intro hn hi
    exact ⟨T.link g p c hc.1 hc.2.1 (hn ▸ hc.2.2.1) (hn ▸ hc.2.2.2) (fun l y => (hg l y).trans or_comm) hgn hiso hi, by simp [upd]⟩

theorem inv_removeChild (p c : Nat) (s s' : St) (hc : GC c) (hi : I s) (h : removeChild p c s = .ok ((), s')) :
    I s' ∧ s'.nodes.length = s.nodes.length ∧ (nd s' c).parent ≠ some p := by
  obtain ⟨i1, l1⟩ := T.treeOp (n := s.nodes.length) (removeChild_treeOp hc h) rfl hi
  refine ⟨i1, l1, ?_⟩
  rw [removeChild_run] at h
  cases h
  split
  · next hpar => rw [upd2_parent s p c (fun l => l.erase c), if_pos ⟨rfl, nd_parent_lt hpar⟩]; exact fun e => by cases e
  · next hpar => exact hpar

theorem inv_appendChild (p c : Nat) (s s' : St) (hc : GC c) (hp : GP p) (hpl : p < s.nodes.length)
    (hcl : c < s.nodes.length) (hi : I s) (h : appendChild p c s = .ok ((), s')) :
    I s' ∧ s'.nodes.length = s.nodes.length :=
  T.treeOp (appendChild_treeOp hc ⟨hc, hp, hpl, hcl⟩ h).1 rfl hi

theorem inv_insertBefore (p v ins : Nat) (s s' : St) (hc : GC ins) (hp : GP p) (hpl : p < s.nodes.length)
    (hcl : ins < s.nodes.length) (hi : I s) (h : insertBefore p (some v) ins s = .ok ((), s')) :
    I s' ∧ s'.nodes.length = s.nodes.length :=
  T.treeOp (insertBefore_treeOp (some v) hc ⟨hc, hp, hpl, hcl⟩ h).1 rfl hi

theorem inv_replaceChild (p v ins : Nat) (s s' : St) (hv : GC v) (hc : GC ins) (hp : GP p) (hpl : p < s.nodes.length)
    (hcl : ins < s.nodes.length) (hi : I s) (h : replaceChild p v ins s = .ok ((), s')) :
    I s' ∧ s'.nodes.length = s.nodes.length :=
  T.treeOp (replaceChild_treeOp hv hc ⟨hc, hp, hpl, hcl⟩ h) rfl hi

theorem inv_tightenItem (child : Nat) (hp : GP child) : ∀ (gcs : List Nat) (s s' : St), child < s.nodes.length →
    (∀ gc ∈ gcs, GC gc) → I s → tightenItem child gcs s = .ok ((), s') → I s' ∧ s.nodes.length ≤ s'.nodes.length := by
  intro gcs
  induction gcs with
  | nil => intro s s' _ _ hi h; unfold tightenItem at h; cases h; exact ⟨hi, Nat.le_refl _⟩
  | cons gc gcs ih =>
    intro s s' hc hg hi h
    unfold tightenItem at h
    obtain ⟨g, s0, h0, h1⟩ := bind_ok h
    cases h0
    simp only at h1
    split at h1
    · obtain ⟨tb, s1, h2, h3⟩ := bind_ok h1
      have e1 : tb = s.nodes.length ∧ s1 = { s with nodes := s.nodes ++
          [{ kind := .textBlock, lines := (s.nodes.getD gc default).lines, linesNil := (s.nodes.getD gc default).linesNil }] } := by
        cases h2; exact ⟨rfl, rfl⟩
      obtain ⟨etb, es1⟩ := e1
      have i1 : I s1 := by rw [es1]; exact T.app _ _ _ rfl rfl hi
      have l1 : s1.nodes.length = s.nodes.length + 1 := by rw [es1]; simp
      obtain ⟨_, s2, h4, h5⟩ := bind_ok h3
      obtain ⟨i2, l2⟩ := inv_replaceChild T child gc tb s1 s2 (hg gc (by simp)) (by rw [etb]; exact T.fresh hi) hp
        (by omega) (by omega) i1 h4
      obtain ⟨i3, l3⟩ := ih s2 s' (by omega) (fun x hx => hg x (by simp [hx])) i2 h5
      exact ⟨i3, by omega⟩
    · exact ih s s' hc (fun x hx => hg x (by simp [hx])) hi h1

theorem inv_tightenItems : ∀ (cs : List Nat) (s s' : St), (∀ c ∈ cs, c < s.nodes.length ∧ GP c) → I s →
    tightenItems cs s = .ok ((), s') → I s' ∧ s.nodes.length ≤ s'.nodes.length := by
  intro cs
  induction cs with
  | nil => intro s s' _ hi h; unfold tightenItems at h; cases h; exact ⟨hi, Nat.le_refl _⟩
  | cons child rest ih =>
    intro s s' hc hi h
    unfold tightenItems at h
    obtain ⟨cn, s0, h0, h1⟩ := bind_ok h
    cases h0
    obtain ⟨_, s1, h2, h3⟩ := bind_ok h1
    have hch := hc child (by simp)
    obtain ⟨i1, l1⟩ := inv_tightenItem T child hch.2 _ s s1 hch.1 (fun gc hg => T.kids child hi hch.2 gc hg) hi h2
    obtain ⟨i2, l2⟩ := ih s1 s' (fun c hm => ⟨Nat.lt_of_lt_of_le (hc c (by simp [hm])).1 l1, (hc c (by simp [hm])).2⟩) i1 h3
    exact ⟨i2, Nat.le_trans l1 l2⟩

theorem inv_listClose (node : Nat) (s s' : St) (hkids : KidsOK s) (hkind : (nd s node).kind = .list)
    (hgp : ∀ c ∈ (nd s node).children, GP c) (hi : I s) (h : listClose node s = .ok ((), s')) : I s' := by
  unfold listClose at h
  obtain ⟨list, s0, h0, h1⟩ := bind_ok h
  cases h0
  obtain ⟨st, s0, h0, h2⟩ := bind_ok h1
  cases h0
  simp only at h2
  obtain ⟨_, s1, h3, h4⟩ := bind_ok h2
  have t1 : TreeSame s s1 := fr_modNode_treeSame h3 (fun _ => ⟨rfl, rfl, rfl, rfl⟩)
  have i1 : I s1 := T.ts t1 hi
  split at h4
  · exact (inv_tightenItems T _ s1 s' (fun c hc => ⟨by rw [t1.len]; exact (hkids.kids node c hkind hc).1, hgp c hc⟩) i1 h4).1
  · cases h4; exact i1

/-- closing a setext heading whose temporary paragraph `t` still has lines -/
theorem inv_setextClose (node : Nat) (s s' : St) (hb : BlockOK s ⟨node, .setext⟩)
    (ht : ∀ t, s.pc.tmpPara = some t → (nd s t).kind = .paragraph ∧ (nd s t).lines ≠ [] ∧ GC t) (hi : I s)
    (h : setextClose node s = .ok ((), s')) : I s' := by
  unfold setextClose at h
  obtain ⟨_, htmp⟩ := hb.setext rfl
  have hkind : (nd s node).kind = .heading := hb.kind
  obtain ⟨t, htt⟩ := Option.isSome_iff_exists.mp htmp
  obtain ⟨htkind, htlines, hgt⟩ := ht t htt
  have hne : node ≠ t := by
    intro e; rw [e, htkind] at hkind; cases hkind
  obtain ⟨hn, s0, h0, h1⟩ := bind_ok h
  cases h0
  obtain ⟨seg, s0, h0, h2⟩ := bind_ok h1
  obtain ⟨_, e0⟩ := liftE_ok h0
  rw [e0] at h2
  obtain ⟨_, s1, h3, h4⟩ := bind_ok h2
  have e1 := modNode_ok h3
  have t1 : TreeSame s s1 := fr_modNode_treeSame h3 (fun _ => ⟨rfl, rfl, rfl, rfl⟩)
  have epc : s1.pc.tmpPara = some t := by rw [e1]; exact htt
  obtain ⟨pc, s2, h5, h6⟩ := bind_ok h4
  cases h5
  simp only [epc] at h6
  obtain ⟨tmp, s2, h7, h8⟩ := bind_ok h6
  cases h7
  clear h6
  have h6 := h8
  obtain ⟨_, s2, h9, h10⟩ := bind_ok h6
  have e2 : s2.nodes = s1.nodes := by cases h9; rfl
  obtain ⟨tn, s3, h11, h12⟩ := bind_ok h10
  cases h11
  have etn : s2.nodes.getD t default = s.nodes.getD t default := by
    simp only [e2, e1]
    exact getD_set_ne _ _ _ _ _ hne
  rw [etn] at h12
  have t2 : TreeSame s s2 := t1.trans (TreeSame.of_nodes_eq e2)
  split at h12
  · rename_i hc
    exfalso
    cases hh : (nd s t).lines with
    | nil => exact htlines hh
    | cons a b => rw [hh] at hc; simp at hc
  · obtain ⟨_, s3, h13, h14⟩ := bind_ok h12
    have t3 : TreeSame s2 s3 := fr_modNode_treeSame h13 (fun _ => ⟨rfl, rfl, rfl, rfl⟩)
    have t4 : TreeSame s s3 := t2.trans t3
    have i4 : I s3 := T.ts t4 hi
    cases htp : (s.nodes.getD t default).parent with
    | none => simp only [htp] at h14; cases h14; exact i4
    | some tp =>
      simp only [htp] at h14
      exact (inv_removeChild T tp t s3 s' hgt i4 h14).1

end calculus

/-! ### instance 1: parent pointers and children lists agree -/

structure TreeOK (s : St) : Prop where
  pc : ∀ i p, (nd s i).parent = some p → i ∈ (nd s p).children
  cp : ∀ p i, i ∈ (nd s p).children → (nd s i).parent = some p
  nodup : ∀ p, (nd s p).children.Nodup

theorem treeOK_tinv : TInv TreeOK (fun _ => True) (fun _ => True) where
  ts := fun {s s'} t h =>
    ⟨fun i p hp => by rw [(t.same i).2.1] at hp; rw [(t.same p).2.2.1]; exact h.pc i p hp,
      fun p i hi => by rw [(t.same p).2.2.1] at hi; rw [(t.same i).2.1]; exact h.cp p i hi,
      fun p => by rw [(t.same p).2.2.1]; exact h.nodup p⟩
  app := fun {s} n r pc hn hc h => by
    have key := fr_nd_append s n r pc
    have old : ∀ j, j < s.nodes.length → nd ({ r := r, nodes := s.nodes ++ [n], pc := pc } : St) j = nd s j :=
      fun j hj => by rw [key, if_pos hj]
    have kids0 : ∀ j, s.nodes.length ≤ j → (nd ({ r := r, nodes := s.nodes ++ [n], pc := pc } : St) j).children = [] := by
      intro j hj
      rw [key, if_neg (by omega)]
      split
      · exact hc
      · rfl
    have par0 : ∀ j, s.nodes.length ≤ j → (nd ({ r := r, nodes := s.nodes ++ [n], pc := pc } : St) j).parent = none := by
      intro j hj
      rw [key, if_neg (by omega)]
      split
      · exact hn
      · rfl
    refine ⟨fun i p hp => ?_, fun p i hi => ?_, fun p => ?_⟩
    · rcases Nat.lt_or_ge i s.nodes.length with hi | hi
      · rw [old i hi] at hp
        have hm := h.pc i p hp
        rw [old p (lt_of_mem_children s p i hm)]; exact hm
      · rw [par0 i hi] at hp; cases hp
    · rcases Nat.lt_or_ge p s.nodes.length with hp | hp
      · rw [old p hp] at hi
        have hq := h.cp p i hi
        rw [old i (nd_parent_lt hq)]; exact hq
      · rw [kids0 p hp] at hi; cases hi
    · rcases Nat.lt_or_ge p s.nodes.length with hp | hp
      · rw [old p hp]; exact h.nodup p
      · rw [kids0 p hp]; exact List.nodup_nil
  rm := fun {s} p c _ hpar h => by
    have hcl : c < s.nodes.length := nd_parent_lt hpar
    have hpl : p < s.nodes.length := lt_of_mem_children s p c (h.pc c p hpar)
    refine ⟨fun i p' hp => ?_, fun p' i hi => ?_, fun p' => ?_⟩
    · rw [upd2_parent s p c (fun l => l.erase c) none] at hp
      rw [upd2_children s p c (fun l => l.erase c) none]
      by_cases e : i = c
      · rw [if_pos ⟨e, hcl⟩] at hp; cases hp
      · rw [if_neg (fun hh => e hh.1)] at hp
        have hm := h.pc i p' hp
        split
        · rename_i hh; rw [hh.1] at hm; exact (List.mem_erase_of_ne e).2 hm
        · exact hm
    · rw [upd2_children s p c (fun l => l.erase c) none] at hi
      rw [upd2_parent s p c (fun l => l.erase c) none]
      split at hi
      · rename_i hh
        have hm := (List.Nodup.mem_erase_iff (h.nodup p)).1 hi
        rw [if_neg (fun h2 => hm.1 h2.1), hh.1]
        exact h.cp p i hm.2
      · rename_i hh
        have hq := h.cp p' i hi
        have : i ≠ c := by
          intro e; rw [e, hpar] at hq; cases hq; exact hh ⟨rfl, hpl⟩
        rw [if_neg (fun h2 => this h2.1)]; exact hq
    · rw [upd2_children s p c (fun l => l.erase c) none]
      split
      · exact List.Nodup.erase _ (h.nodup p)
      · exact h.nodup p'
  link := fun {s} g p c _ _ hpl hcl hg hgn hpar h => by
    have hcn : c ∉ (nd s p).children := fun hm => by have := h.cp p c hm; rw [hpar] at this; cases this
    refine ⟨fun i p' hp => ?_, fun p' i hi => ?_, fun p' => ?_⟩
    · rw [upd2_parent] at hp
      rw [upd2_children]
      by_cases e : i = c
      · rw [if_pos ⟨e, hcl⟩] at hp; cases hp
        rw [if_pos ⟨rfl, hpl⟩, e]; exact (hg _ _).2 (.inr rfl)
      · rw [if_neg (fun hh => e hh.1)] at hp
        have hm := h.pc i p' hp
        split
        · rename_i hh; rw [hh.1] at hm; exact (hg _ _).2 (.inl hm)
        · exact hm
    · rw [upd2_children] at hi
      rw [upd2_parent]
      split at hi
      · rename_i hh
        rcases (hg _ _).1 hi with hm | hm
        · have hq := h.cp p i hm
          have : i ≠ c := fun e => by rw [e, hpar] at hq; cases hq
          rw [if_neg (fun h2 => this h2.1), hh.1]; exact hq
        · rw [if_pos ⟨hm, hcl⟩, hh.1]
      · have hq := h.cp p' i hi
        have : i ≠ c := fun e => by rw [e, hpar] at hq; cases hq
        rw [if_neg (fun h2 => this h2.1)]; exact hq
    · rw [upd2_children]
      split
      · exact hgn _ (h.nodup p) hcn
      · exact h.nodup p'
  kids := fun _ _ _ _ _ => trivial
  fresh := fun _ => trivial

/-! ### instance 2: `x` is the last child of `q` and nowhere else -/

structure LK (s : St) (x q : Nat) : Prop where
  par : (nd s x).parent = some q
  last : (nd s q).children.getLast? = some x
  only : ∀ p, x ∈ (nd s p).children → p = q

theorem LK.xlt {s : St} {x q : Nat} (h : LK s x q) : x < s.nodes.length := nd_parent_lt h.par

theorem LK.qlt {s : St} {x q : Nat} (h : LK s x q) : q < s.nodes.length :=
  lt_of_mem_children s q x (List.mem_of_getLast? h.last)

theorem lk_tinv (x q : Nat) : TInv (fun s => LK s x q) (fun c => c ≠ x) (fun p => p ≠ q) where
  ts := fun {s s'} t h =>
    ⟨by rw [(t.same x).2.1]; exact h.par, by rw [(t.same q).2.2.1]; exact h.last,
      fun p hp => by rw [(t.same p).2.2.1] at hp; exact h.only p hp⟩
  app := fun {s} n r pc _ hc h => by
    have key := fr_nd_append s n r pc
    refine ⟨by rw [key, if_pos h.xlt]; exact h.par, by rw [key, if_pos h.qlt]; exact h.last, fun p hp => ?_⟩
    rw [key] at hp
    split at hp
    · exact h.only p hp
    · split at hp
      · rw [hc] at hp; cases hp
      · cases hp
  rm := fun {s} p c hc _ h => by
    refine ⟨?_, ?_, fun p' hp => ?_⟩
    · rw [upd2_parent s p c (fun l => l.erase c) none, if_neg (fun hh => hc hh.1.symm)]; exact h.par
    · rw [upd2_children s p c (fun l => l.erase c) none]
      split
      · rename_i hh; rw [← hh.1]; exact getLast?_erase_of_ne x c _ h.last hc
      · exact h.last
    · rw [upd2_children s p c (fun l => l.erase c) none] at hp
      split at hp
      · rename_i hh; rw [hh.1]; exact h.only p (List.mem_of_mem_erase hp)
      · exact h.only p' hp
  link := fun {s} g p c hc hp _ _ hg _ _ h => by
    refine ⟨?_, ?_, fun p' hm => ?_⟩
    · rw [upd2_parent, if_neg (fun hh => hc hh.1.symm)]; exact h.par
    · rw [upd2_children, if_neg (fun hh => hp hh.1.symm)]; exact h.last
    · rw [upd2_children] at hm
      split at hm
      · rename_i hh
        rcases (hg _ _).1 hm with h1 | h1
        · rw [hh.1]; exact h.only p h1
        · exact absurd h1.symm hc
      · exact h.only p' hm
  kids := fun {s} p h hp y hy e => hp (h.only p (e ▸ hy))
  fresh := fun {s} h e => by have := h.xlt; omega

/-! ### the transformer call and `AppendChild` of a fresh node -/

theorem getLast?_replace (x v c : Nat) (hvc : c ≠ v) : ∀ (l : List Nat), l.getLast? = some x → x ≠ v → v ∈ l →
    ((insertBeforeIn v c l).erase v).getLast? = some x
  | [], h, _, _ => by cases h
  | a :: rest, h, hx, hv => by
    unfold insertBeforeIn
    by_cases e : (a == v) = true
    · rw [if_pos e]
      have ea : a = v := by simpa using e
      subst ea
      have h1 : (c :: a :: rest).erase a = c :: rest := by
        rw [List.erase_cons_tail (by simpa using hvc), List.erase_cons_head]
      rw [h1]
      cases rest with
      | nil => simp at h; exact absurd h.symm hx
      | cons b r => rw [List.getLast?_cons_cons] at h ⊢; exact h
    · rw [if_neg e]
      have ea : a ≠ v := by simpa using e
      have hv' : v ∈ rest := by
        rcases List.mem_cons.1 hv with h1 | h1
        · exact absurd h1.symm ea
        · exact h1
      have h' : rest.getLast? = some x := by
        cases rest with
        | nil => cases hv'
        | cons b r => rw [List.getLast?_cons_cons] at h; exact h
      have ih := getLast?_replace x v c hvc rest h' hx hv'
      rw [List.erase_cons_tail (by simpa using ea)]
      cases hr : (insertBeforeIn v c rest).erase v with
      | nil => rw [hr] at ih; cases ih
      | cons d ds => rw [hr] at ih; rw [List.getLast?_cons_cons]; exact ih

theorem treeOK_post {node : Nat} {s s' : St} (hlt : node < s.nodes.length) (h : TreeOK s) (hp : PTPost node s s') :
    TreeOK s' := by
  rcases hp.res with ⟨refs, k, _, e⟩ | ⟨refs, p, hpar, e⟩
  · have ts : TreeSame s s' := by
      rw [e]; exact fr_treeSame_set s node _ _ _ ⟨rfl, rfl, rfl, rfl⟩
    exact treeOK_tinv.ts ts h
  · have tsE : TreeSame s (ptEmptied s node refs) := fr_treeSame_set s node _ _ _ ⟨rfl, rfl, rfl, rfl⟩
    have hE := treeOK_tinv.ts tsE h
    unfold ptReplace at e
    obtain ⟨t, sA, e1, e2⟩ := bind_ok e
    have hsA : t = (ptEmptied s node refs).nodes.length ∧ sA = { (ptEmptied s node refs) with nodes :=
        (ptEmptied s node refs).nodes ++ [{ kind := .textBlock, blankPrev := (nd s node).blankPrev }] } := by
      cases e1; exact ⟨rfl, rfl⟩
    have hA : TreeOK sA := by rw [hsA.2]; exact treeOK_tinv.app _ _ _ rfl rfl hE
    have hlen : sA.nodes.length = s.nodes.length + 1 := by rw [hsA.2]; simp [tsE.len]
    have hpl : p < s.nodes.length := lt_of_mem_children s p node (h.pc node p hpar)
    exact (inv_replaceChild treeOK_tinv p node t sA s' trivial trivial trivial (by omega)
      (by rw [hsA.1, tsE.len]; omega) hA e2).1

theorem lk_post {node x q : Nat} {s s' : St} (hx : x ≠ node) (ht : TreeOK s) (h : LK s x q) (hp : PTPost node s s') :
    LK s' x q := by
  rcases hp.res with ⟨refs, k, _, e⟩ | ⟨refs, p, hpar, e⟩
  · have ts : TreeSame s s' := by
      rw [e]; exact fr_treeSame_set s node _ _ _ ⟨rfl, rfl, rfl, rfl⟩
    exact (lk_tinv x q).ts ts h
  · have tsE : TreeSame s (ptEmptied s node refs) := fr_treeSame_set s node _ _ _ ⟨rfl, rfl, rfl, rfl⟩
    have hlt : node < s.nodes.length := nd_parent_lt hpar
    generalize hsE : ptEmptied s node refs = sE at tsE e
    have hElen : sE.nodes.length = s.nodes.length := tsE.len
    generalize hsA : ({ sE with nodes := sE.nodes ++ [{ kind := .textBlock, blankPrev := (nd s node).blankPrev }] } : St) = sA
    have hA : LK sA x q := by rw [← hsA]; exact (lk_tinv x q).app _ _ _ rfl rfl ((lk_tinv x q).ts tsE h)
    have hnA : sA.nodes = sE.nodes ++ [{ kind := .textBlock, blankPrev := (nd s node).blankPrev }] := by rw [← hsA]
    have hAlen : sA.nodes.length = s.nodes.length + 1 := by rw [hnA]; simp [hElen]
    have oldA : ∀ j, j < s.nodes.length → nd sA j = nd sE j := fun j hj => nd_of_append_lt hnA (by rw [hElen]; exact hj)
    have hA1 : (nd sA node).parent = some p := by rw [oldA node hlt, (tsE.same node).2.1]; exact hpar
    have hA2 : (nd sA sE.nodes.length).parent = none := by
      simp only [nd, hnA]; rw [getD_length_append]
    have hmem : node ∈ (nd sA p).children := by
      have hm := ht.pc node p hpar
      have hpl := lt_of_mem_children s p node hm
      rw [oldA p hpl, (tsE.same p).2.2.1]; exact hm
    have e1 := insertBefore_eq p node sE.nodes.length sA hA1 hA2
    generalize hsB : (upd (upd sA p fun n => { n with children := insertBeforeIn node sE.nodes.length n.children })
        sE.nodes.length fun n => { n with parent := some p }) = sB at e1
    have hBlen : sB.nodes.length = sA.nodes.length := by rw [← hsB]; simp [upd]
    have parB : ∀ j, (nd sB j).parent = if j = sE.nodes.length ∧ sE.nodes.length < sA.nodes.length then some p
        else (nd sA j).parent := fun j => by
      rw [← hsB]; exact upd2_parent sA p sE.nodes.length (fun l => insertBeforeIn node sE.nodes.length l) (some p) j
    have kidsB : ∀ j, (nd sB j).children = if j = p ∧ p < sA.nodes.length then
        insertBeforeIn node sE.nodes.length (nd sA p).children else (nd sA j).children := fun j => by
      rw [← hsB]; exact upd2_children sA p sE.nodes.length (fun l => insertBeforeIn node sE.nodes.length l) (some p) j
    have hB1 : (nd sB node).parent = some p := by
      rw [parB, if_neg (fun hh => by omega)]; exact hA1
    have e2 := removeChild_eq p node sB hB1
    unfold ptReplace newNode replaceChild at e
    simp only [bind, StateT.bind, pure, Except.pure, Except.bind] at e
    rw [hsA, e1] at e
    simp only [Except.bind] at e
    rw [e2] at e
    cases e
    have hxl := h.xlt
    refine ⟨?_, ?_, fun p' hm => ?_⟩
    · rw [upd2_parent sB p node (fun l => l.erase node) none, if_neg (fun hh => hx hh.1), parB,
        if_neg (fun hh => by omega)]
      exact hA.par
    · rw [upd2_children sB p node (fun l => l.erase node) none]
      split
      · rename_i hh
        rw [kidsB, if_pos ⟨rfl, by omega⟩]
        rw [hh.1] at hA
        exact getLast?_replace x node sE.nodes.length (by omega) _ (hh.1 ▸ hA.last) hx hmem
      · rw [kidsB]
        split
        · rename_i h1 h2; exact absurd ⟨h2.1, by omega⟩ h1
        · exact hA.last
    · rw [upd2_children sB p node (fun l => l.erase node) none] at hm
      have hm' : x ∈ (nd sB p').children := by
        split at hm
        · rename_i hh; rw [hh.1]; exact List.mem_of_mem_erase hm
        · exact hm
      rw [kidsB] at hm'
      split at hm'
      · rename_i hh
        rcases (mem_insertBeforeIn _ _ _ _).1 hm' with h1 | h1
        · rw [hh.1]; exact hA.only p h1
        · omega
      · exact hA.only p' hm'

/-- `AppendChild(parent, id)` of a fresh node: `id` is the last child of `parent` -/
theorem lk_appendChild_new (parent id : Nat) (s s' : St) (ht : TreeOK s) (hpar : (nd s id).parent = none)
    (hid : id < s.nodes.length) (hpl : parent < s.nodes.length) (h : appendChild parent id s = .ok ((), s')) :
    LK s' id parent ∧ TreeOK s' := by
  refine ⟨?_, (inv_appendChild treeOK_tinv parent id s s' trivial trivial hpl hid ht h).1⟩
  rw [L.appendChild_fresh parent id s hpar] at h
  cases h
  refine ⟨?_, ?_, fun p' hm => ?_⟩
  · rw [upd2_parent s parent id (fun l => l ++ [id]) (some parent), if_pos ⟨rfl, hid⟩]
  · rw [upd2_children s parent id (fun l => l ++ [id]) (some parent), if_pos ⟨rfl, hpl⟩]; simp
  · rw [upd2_children s parent id (fun l => l ++ [id]) (some parent)] at hm
    split at hm
    · rename_i hh; exact hh.1
    · have := ht.cp p' id hm; rw [hpar] at this; cases this

end GM.Blocks.TR
end BlocksTNPTree
