/-
  GM.Proof.CMFrag8Inl — the inline phase inside a line of several atoms: the code-span parser on `` `cs` `` with `cs`
  letters and digits, the reader in the middle of a line (`peekLine_at8`; `At16`: positions as natural numbers), the byte
  loop over a run of text up to the next atom (`scan_pre8`, `lineLoop_hit8`) and one pass of the line loop for any
  trigger byte with the parsers' result as a hypothesis (`passX21`).
-/
import GM.Proof.CMFrag8Defs
import GM.Model.Convert

namespace GM.Proof.CMFrag
open GM GM.Text GM.Inl

theorem sub_sub8 (src : Bytes) (q n k m : Nat) (hm : m ≤ n) :
    sub src (q + k) (q + m) = ((sub src q (q + n)).drop k).take (m - k) := by
  unfold sub
  rw [List.drop_take, List.take_take, List.drop_drop]
  congr 1 <;> omega

theorem sub_get8 (src : Bytes) (q n k : Nat) (hk : k < n) : src[q + k]? = (sub src q (q + n))[k]? := by
  unfold sub
  rw [List.getElem?_take]
  simp [hk]

theorem getByte8 (src : Bytes) (a : Int) (q n k : Nat) (l : Bytes) (c : UInt8) (h : sub src q (q + n) = l)
    (hk : k < n) (hc : l[k]? = some c) (ha : a = (q : Int) + k) : getByte src a = .ok c := by
  subst ha
  unfold getByte
  rw [if_neg (by omega)]
  have : ((q : Int) + (k : Int)).toNat = q + k := by omega
  rw [this, sub_get8 src q n k hk, h, hc]

theorem sub_mid8 (src : Bytes) (q : Nat) (a b c : Bytes)
    (h : sub src q (q + (a ++ b ++ c).length) = a ++ b ++ c) :
    sub src (q + a.length) (q + a.length + b.length) = b := by
  have := sub_sub8 src q (a ++ b ++ c).length a.length (a.length + b.length) (by simp <;> omega)
  rw [h] at this
  rw [Nat.add_assoc, this, List.append_assoc, List.drop_left]
  have : a.length + b.length - a.length = b.length := by omega
  rw [this, List.take_left]

theorem alnum_ne96_8 {c : UInt8} (h : GM.Spec.CM.isAlnumC c = true) : (c == 96) = false := by
  cases hc : (c == 96) with
  | false => rfl
  | true => simp at hc; subst hc; exact absurd h (by decide)

theorem alnum_notSpace8 {c : UInt8} (h : GM.Spec.CM.isAlnumC c = true) : isSpace c = false := by
  cases hc : isSpace c with
  | false => rfl
  | true =>
    simp [isSpace] at hc
    rcases hc with ((hc | hc) | hc) | hc <;> subst hc <;> exact absurd h (by decide)

theorem csScan_alnum8 (rest : Bytes) (hr : rest.head? ≠ some 96) :
    ∀ (cs : Bytes) (i : Nat), (∀ c ∈ cs, GM.Spec.CM.isAlnumC c = true) →
      csScan 1 (cs ++ 96 :: rest) i = some (i + cs.length + 1)
  | [], i, _ => by
    have hs : (spanB (· == 96) rest).1 = [] := by
      cases rest with
      | nil => rfl
      | cons c r =>
        have : (c == 96) = false := by
          cases hc : (c == 96) with
          | false => rfl
          | true => exact absurd (by simp at hc; simp [hc]) hr
        simp [spanB, this]
    rw [List.nil_append, csScan]
    simp [hs]
  | c :: cs, i, h => by
    have hc := alnum_ne96_8 (h c (by simp))
    rw [List.cons_append, csScan]
    simp only [hc, Bool.false_eq_true, if_false]
    rw [csScan_alnum8 rest hr cs (i + 1) (fun x hx => h x (by simp [hx]))]
    simp only [List.length_cons]
    congr 1; omega

theorem peekLine_at8 (src : Bytes) (segs : List Segment) (L j a b hd : Int) (hj : j < segs.length) (h0 : 0 ≤ a)
    (hab : a ≤ b) (hb : b ≤ src.length) (haL : a < L) :
    (rdAt src segs L j { start := a, stop := b } hd).peekLine =
      .ok ((some (sub src a.toNat b.toNat), { start := a, stop := b }), rdAt src segs L j { start := a, stop := b } hd) := by
  have hlive : (rdAt src segs L j { start := a, stop := b } hd).live = true := by
    simp [BlockReader.live, rdAt, hj, h0, haL]
  have hv : sliceB src a b = .ok (sub src a.toNat b.toNat) := by
    unfold sliceB
    rw [if_pos ⟨h0, hab, hb⟩]
  simp only [BlockReader.peekLine, hlive, if_true, bind, Except.bind, pure, Except.pure]
  simp only [rdAt, value_plain, hv]

theorem csTrim_alnum8 (src : Bytes) (a : Int) (cs : Bytes) (h0 : 0 ≤ a)
    (hsub : sub src a.toNat (a.toNat + cs.length) = cs) (hlen : a + cs.length ≤ src.length) (hcs : cs ≠ [])
    (hal : ∀ c ∈ cs, GM.Spec.CM.isAlnumC c = true) :
    csTrim src [.text { start := a, stop := a + cs.length } false false true] =
      .ok [.text { start := a, stop := a + cs.length } false false true] := by
  have hcl : 0 < cs.length := List.length_pos_iff.mpr hcs
  have hv : sliceB src a (a + cs.length) = .ok cs := by
    unfold sliceB
    rw [if_pos ⟨h0, by omega, hlen⟩]
    have : (a + (cs.length : Int)).toNat = a.toNat + cs.length := by omega
    rw [this, hsub]
  obtain ⟨c0, hc0⟩ : ∃ c, cs[0]? = some c := ⟨cs[0], by simp [hcl]⟩
  obtain ⟨c1, hc1⟩ : ∃ c, cs[cs.length - 1]? = some c := ⟨cs[cs.length - 1], by
    rw [List.getElem?_eq_getElem]⟩
  have g1 : getByte src a = .ok c0 := getByte8 src a a.toNat cs.length 0 cs c0 hsub hcl hc0 (by omega)
  have g2 : getByte src (a + cs.length - 1) = .ok c1 :=
    getByte8 src _ a.toNat cs.length (cs.length - 1) cs c1 hsub (by omega) hc1 (by omega)
  have hm0 : c0 ∈ cs := List.mem_of_getElem? hc0
  have hs0 : isSpaceOrNewline c0 = false := by
    have := alnum_notSpace8 (hal c0 hm0)
    simp [isSpace] at this
    simp [isSpaceOrNewline, this]
  have hbl : isBlank cs = false := by
    unfold isBlank
    rw [List.all_eq_false]
    exact ⟨c0, hm0, by simp [alnum_notSpace8 (hal c0 hm0)]⟩
  have e4 : ¬ (a + cs.length ≤ a) := by omega
  unfold csTrim
  simp [csIsBlank, value_plain, hv, hbl, csEdge, Segment.isEmpty, g1, g2, hs0, e4, bind, Except.bind, pure, Except.pure]

theorem parseCodeSpan_alnum8 (src : Bytes) (segs : List Segment) (L j hd : Int) (q : Nat) (cs rest : Bytes)
    (hj : j < segs.length) (hlen : q + cs.length + 2 + rest.length ≤ src.length)
    (hL : (q : Int) + cs.length + 2 + rest.length ≤ L)
    (hsub : sub src q (q + (cs.length + 2 + rest.length)) = 96 :: (cs ++ 96 :: rest))
    (hcs : cs ≠ []) (hal : ∀ c ∈ cs, GM.Spec.CM.isAlnumC c = true) (hrest : rest ≠ [])
    (hr96 : rest.head? ≠ some 96) :
    parseCodeSpan (rdAt src segs L j { start := q, stop := (q : Int) + cs.length + 2 + rest.length } hd) =
      .ok (some (.codeSpan [.text { start := (q : Int) + 1, stop := (q : Int) + 1 + cs.length } false false true]),
        rdAt src segs L j { start := (q : Int) + cs.length + 2, stop := (q : Int) + cs.length + 2 + rest.length } hd) := by
  have hrl : 0 < rest.length := List.length_pos_iff.mpr hrest
  have hcl : 0 < cs.length := List.length_pos_iff.mpr hcs
  have t1 : ((q : Int)).toNat = q := by omega
  have t2 : ((q : Int) + cs.length + 2 + rest.length).toNat = q + (cs.length + 2 + rest.length) := by omega
  have hp1 := peekLine_at8 src segs L j q ((q : Int) + cs.length + 2 + rest.length) hd hj (by omega) (by omega)
    (by omega) (by omega)
  rw [t1, t2, hsub] at hp1
  have hop : (List.takeWhile (· == 96) (96 :: (cs ++ 96 :: rest))).length = 1 := by
    cases cs with
    | nil => exact absurd rfl hcs
    | cons c cs' =>
      have := alnum_ne96_8 (hal c (by simp))
      simp [this]
  unfold parseCodeSpan
  simp only [hp1, bind, Except.bind, Option.getD_some, hop]
  rw [advance_fast _ _ _ _ _ _ _ _ (by omega)]
  simp only [BlockReader.position]
  have t3 : ((q : Int) + ((1 : Nat) : Int)).toNat = q + 1 := by omega
  have hsub2 : sub src (q + 1) (q + (cs.length + 2 + rest.length)) = cs ++ 96 :: rest := by
    rw [sub_sub8 src q (cs.length + 2 + rest.length) 1 _ (Nat.le_refl _), hsub]
    simp only [List.drop_succ_cons, List.drop_zero]
    apply List.take_of_length_le
    simp; omega
  have hp2 := peekLine_at8 src segs L j ((q : Int) + ((1 : Nat) : Int)) ((q : Int) + cs.length + 2 + rest.length) hd hj
    (by omega) (by omega) (by omega) (by omega)
  rw [t3, t2, hsub2] at hp2
  have hscan := csScan_alnum8 rest hr96 cs 0 hal
  have hcsl : csLoop 1 j { start := (q : Int) + ((1 : Nat) : Int), stop := (q : Int) + cs.length + 2 + rest.length }
      { start := q, stop := (q : Int) + cs.length + 2 + rest.length } (segs.length + 1 + 1)
      (rdAt src segs L j { start := (q : Int) + ((1 : Nat) : Int), stop := (q : Int) + cs.length + 2 + rest.length } hd) [] =
      .ok (.inr [.text { start := (q : Int) + 1, stop := (q : Int) + 1 + cs.length } false false true],
        rdAt src segs L j { start := (q : Int) + cs.length + 2, stop := (q : Int) + cs.length + 2 + rest.length } hd) := by
    rw [csLoop]
    simp only [hp2, bind, Except.bind, hscan]
    rw [advance_fast _ _ _ _ _ _ _ _ (by omega)]
    have e1 : (q : Int) + ((1 : Nat) : Int) + ((0 + cs.length + 1 : Nat) : Int) = (q : Int) + cs.length + 2 := by omega
    have e2 : (q : Int) + ((1 : Nat) : Int) + ((0 + cs.length + 1 : Nat) : Int) - ((1 : Nat) : Int) =
        (q : Int) + 1 + cs.length := by omega
    have e3 : (q : Int) + ((1 : Nat) : Int) = (q : Int) + 1 := by omega
    rw [e2, e1, e3]
    have e4 : ¬ ((q : Int) + 1 + cs.length ≤ (q : Int) + 1) := by omega
    simp [Segment.withStop, Segment.isEmpty, rawTextOf, pure, Except.pure, e4]
  rw [show (rdAt src segs L j { start := (q : Int) + ((1 : Nat) : Int), stop := (q : Int) + cs.length + 2 + rest.length } hd).segments.length + 2 = segs.length + 1 + 1 from rfl]
  simp only [rdAt] at hcsl ⊢
  rw [hcsl]
  simp only []
  have hsub3 : sub src (q + 1) (q + 1 + cs.length) = cs := by
    have := sub_sub8 src q (cs.length + 2 + rest.length) 1 (1 + cs.length) (by omega)
    rw [hsub] at this
    rw [show q + 1 + cs.length = q + (1 + cs.length) by omega, this]
    simp
  have t4 : ((q : Int) + 1).toNat = q + 1 := by omega
  rw [csTrim_alnum8 src ((q : Int) + 1) cs (by omega) (by rw [t4]; exact hsub3) (by omega) hcs hal]
  rfl

theorem parseCodeSpan_alnum8' (src : Bytes) (segs : List Segment) (L j hd : Int) (q : Nat) (cs rest : Bytes)
    (a e a' : Int) (ha : a = q) (he : e = (q : Int) + cs.length + 2 + rest.length) (ha' : a' = (q : Int) + cs.length + 2)
    (hj : j < segs.length) (hlen : q + cs.length + 2 + rest.length ≤ src.length)
    (hL : e ≤ L)
    (hsub : sub src q (q + (cs.length + 2 + rest.length)) = 96 :: (cs ++ 96 :: rest))
    (hcs : cs ≠ []) (hal : ∀ c ∈ cs, GM.Spec.CM.isAlnumC c = true) (hrest : rest ≠ [])
    (hr96 : rest.head? ≠ some 96) :
    parseCodeSpan (rdAt src segs L j { start := a, stop := e } hd) =
      .ok (some (.codeSpan [.text { start := a + 1, stop := a + 1 + cs.length } false false true]),
        rdAt src segs L j { start := a', stop := e } hd) := by
  subst ha he ha'
  exact parseCodeSpan_alnum8 src segs L j hd q cs rest hj hlen hL hsub hcs hal hrest hr96

theorem scan_pre8 (env : Env) (henv : env.escapedSpace = false) :
    ∀ (l tail : Bytes) (i : Nat) (s : Inl.Scan), quiet l i s.escaped = true →
      scan env (l ++ tail) i s =
        scan env tail (i + l.length) { s with n := s.n + l.length, escaped := escAfter l s.escaped }
  | [], tail, i, s, _ => by simp [escAfter]
  | c :: cs, tail, i, s, hq => by
    simp only [quiet, Bool.and_eq_true] at hq
    obtain ⟨⟨h10, htr⟩, hq⟩ := hq
    have h10' : (c == 10) = false := by simpa using h10
    simp only [List.cons_append, scan, h10', Bool.false_eq_true, if_false]
    rw [isTrigger_env env henv]
    have htr' : (isTrigger {} c i s.escaped && !(parsersFor (parserChar c i)).isEmpty) = false := by
      revert htr; cases (isTrigger {} c i s.escaped && !(parsersFor (parserChar c i)).isEmpty) <;> simp
    rw [htr']
    simp only [Bool.false_eq_true, if_false]
    have := scan_pre8 env henv cs tail (i + 1) (Inl.bump c s) (by rw [GM.Proof.Inlines.bump_eq]; exact hq)
    rw [this, GM.Proof.Inlines.bump_eq]
    simp only [escAfter, List.length_cons, Int.natCast_add, Int.natCast_one]
    have e1 : i + 1 + cs.length = i + (cs.length + 1) := by omega
    have e2 : s.n + 1 + (cs.length : Int) = s.n + ((cs.length : Int) + 1) := by omega
    rw [e1, e2]

/-- the last child is not a Text that `mergeOrAppend` would extend -/
def NoMerge8 (ks : List Inl.Node) : Prop := ∀ seg h r, ks.getLast? ≠ some (.text seg false h r)

theorem mergeOrAppend_nomerge8 (ks : List Inl.Node) (s : Segment) (h : NoMerge8 ks) :
    mergeOrAppend ks s = ks ++ [textOf s] := by
  rcases GM.Proof.Inlines.mergeOrAppend_cases ks s with e | ⟨ys, seg, ha, ra, rfl, _, _⟩
  · exact e
  · exact absurd (by simp) (h seg ha ra)

theorem noMerge_nil8 : NoMerge8 [] := by intro seg h r; simp
theorem noMerge_code8 (ks : List Inl.Node) (kids : List Inl.Node) : NoMerge8 (ks ++ [.codeSpan kids]) := by
  intro seg h r; simp

theorem lineLoop_hit8 (env : Env) (fuel : Nat) (esc esc' : Bool) (st st' : St) (line : Bytes) (seg : Segment)
    (hp : st.rd.peekLine = .ok ((some line, seg), st.rd)) (hne : line.isEmpty = false)
    (hscan : scan env (line.take (classify line).1) 0 { st := st, n := 0, sp := st.rd.pos, escaped := esc } =
      .ok (.hit st' esc')) :
    lineLoop env (fuel + 1) esc st = lineLoop env fuel esc' st' := by
  rw [lineLoop]
  simp only [bind, Except.bind, hp, hne, BlockReader.position, hscan]
  simp

/-- the bytes `line` stand at offset `a` of the source and reach to the end `e` of the reader's current line -/
def At16 (src : Bytes) (L : Int) (a : Nat) (e : Int) (line : Bytes) : Prop :=
  sub src a (a + line.length) = line ∧ a + line.length ≤ src.length ∧ e = ((a + line.length : Nat) : Int) ∧ e ≤ L

theorem At16.drop {src : Bytes} {L : Int} {a : Nat} {e : Int} (x y : Bytes) (h : At16 src L a e (x ++ y)) :
    At16 src L (a + x.length) e y := by
  obtain ⟨h1, h2, h3, h4⟩ := h
  refine ⟨?_, ?_, ?_, h4⟩
  · exact sub_mid8 src a x y [] (by simpa using h1)
  · simp at h2; omega
  · rw [h3]; simp; omega

theorem peekLine_at16 (src : Bytes) (segs : List Segment) (L j hd : Int) (a : Nat) (e : Int) (c : UInt8) (l : Bytes)
    (h : At16 src L a e (c :: l)) (hj : j < segs.length) :
    (rdAt src segs L j { start := a, stop := e } hd).peekLine =
      .ok ((some (c :: l), { start := a, stop := e }), rdAt src segs L j { start := a, stop := e } hd) := by
  obtain ⟨h1, h2, h3, h4⟩ := h
  simp only [List.length_cons] at h2 h3
  have hp := peekLine_at8 src segs L j a e hd hj (by omega) (by omega) (by omega) (by omega)
  have t1 : ((a : Int)).toNat = a := by omega
  have t2 : e.toNat = a + (c :: l).length := by simp only [List.length_cons]; omega
  rw [t1, t2, h1] at hp
  exact hp

theorem advance_at16 (src : Bytes) (segs : List Segment) (L j hd : Int) (a : Nat) (e : Int) (line : Bytes)
    (h : At16 src L a e line) (n : Nat) (hn : n < line.length) :
    (rdAt src segs L j { start := a, stop := e } hd).advance (n : Int) =
      .ok (rdAt src segs L j { start := ((a + n : Nat) : Int), stop := e } hd) := by
  obtain ⟨h1, h2, h3, h4⟩ := h
  rw [advance_fast _ _ _ _ _ _ _ _ (by omega), Int.natCast_add]

theorem advance1_at16 (src : Bytes) (segs : List Segment) (L j hd : Int) (a : Nat) (e : Int) (line : Bytes)
    (h : At16 src L a e line) (hn : 1 < line.length) :
    (rdAt src segs L j { start := a, stop := e } hd).advance 1 =
      .ok (rdAt src segs L j { start := ((a + 1 : Nat) : Int), stop := e } hd) :=
  advance_at16 src segs L j hd a e line h 1 hn

theorem At16.get {src : Bytes} {L : Int} {a : Nat} {e : Int} (x y : Bytes) (h : At16 src L a e (x ++ y)) (k : Nat)
    (c : UInt8) (hc : x[k]? = some c) : src[a + k]? = some c := by
  have hk : k < x.length := (List.getElem?_eq_some_iff.mp hc).1
  rw [sub_get8 src a (x ++ y).length k (by simp; omega), h.1, List.getElem?_append_left hk, hc]

/-! ### one pass through `retry:`: text up to a trigger byte whose parsers give a node -/

/-- a Text that starts at `q` is appended to the children, not merged into the last one -/
def NoMergeAt13 (ks : List Inl.Node) (q : Int) : Prop :=
  ∀ (b pd : Int), mergeOrAppend ks { start := q, stop := b, padding := pd } =
    ks ++ [textOf { start := q, stop := b, padding := pd }]

theorem noMergeAt_of8_13 {ks : List Inl.Node} (h : NoMerge8 ks) (q : Int) : NoMergeAt13 ks q :=
  fun _ _ => mergeOrAppend_nomerge8 ks _ h

theorem noMergeAt_text13 (ks : List Inl.Node) (sg : Segment) (s h r : Bool) (q : Int) (hq : sg.stop < q) :
    NoMergeAt13 (ks ++ [.text sg s h r]) q := by
  intro b pd
  rcases GM.Proof.Inlines.mergeOrAppend_cases (ks ++ [.text sg s h r]) { start := q, stop := b, padding := pd }
    with e | ⟨_, _, _, _, e, hs, _⟩
  · exact e
  · cases (List.append_inj' e rfl).2; exact absurd hs (Int.ne_of_lt hq)

/-- the part of the rest `R` of a line that `classify` keeps still starts with whatever stands in front of `R` -/
def CutOK13 (R : Bytes) : Prop := ∀ x : Bytes, ∃ Y, (x ++ R).take (classify (x ++ R)).1 = x ++ Y

theorem cutOK_app13 (y R : Bytes) (h : CutOK13 R) : CutOK13 (y ++ R) := by
  intro x
  obtain ⟨Y, hY⟩ := h (x ++ y)
  exact ⟨y ++ Y, by simpa using hY⟩

/-- one scan that ends at a trigger byte whose parsers give a node; `X` = whatever the byte loop has behind the
    trigger byte (never inspected), `tail` = what really stands there in the source -/
theorem scan_hitX21 (env : Env) (henv : env.escapedSpace = false) (src : Bytes) (segs : List Segment) (L j hd : Int)
    (q : Nat) (bs : Bytes) (c : UInt8) (X tail : Bytes) (e : Int) (ks : List Inl.Node) (nid : Nat) (bts : List Bottom)
    (ips : List Ip) (h : At16 src L q e (bs ++ c :: tail))
    (hbs : bs ≠ []) (hq : quiet bs 0 false = true) (hesc : escAfter bs false = false)
    (hpun : isPunct c = true) (hsp : isSpace c = false) (hF : parsersFor c = ips) (hips : ips.isEmpty = false)
    (hnm : NoMergeAt13 ks q) (nd : Inl.Node) (st' : St)
    (hparse : tryParsers env j { start := ((q + bs.length : Nat) : Int), stop := e } ips
      { rd := rdAt src segs L j { start := ((q + bs.length : Nat) : Int), stop := e } hd,
        kids := ks ++ [.text { start := q, stop := ((q + bs.length : Nat) : Int) } false false false], nextId := nid,
        bottoms := bts } = .ok (some nd, st')) :
    scan env (bs ++ c :: X) 0
      { st := { rd := rdAt src segs L j { start := q, stop := e } hd, kids := ks, nextId := nid, bottoms := bts },
        n := 0, sp := { start := q, stop := e }, escaped := false } =
    .ok (.hit { st' with kids := st'.kids ++ [nd] } false) := by
  have hbl : 0 < bs.length := List.length_pos_iff.mpr hbs
  rw [scan_pre8 env henv bs _ 0 _ hq]
  simp only [hesc, Nat.zero_add, Int.zero_add]
  have hT : isTrigger env c bs.length false = true := by
    simp [isTrigger, hpun]
  have hP : parserChar c bs.length = c := by
    simp [parserChar, hsp, hpun]
  have h10 : (c == 10) = false := by
    rw [beq_eq_false_iff_ne]; intro h0; subst h0; simp [isSpace] at hsp
  rw [scan]
  simp only [h10, Bool.false_eq_true, if_false, hT, hP, hF, hips]
  simp only [Bool.not_false, Bool.and_self, if_true]
  unfold trigger
  simp only [bind, Except.bind]
  rw [advance_at16 src segs L j hd q e _ h bs.length (by simp)]
  have hne0 : (bs.length != 0) = true := by simp; omega
  simp only [hne0, if_true, BlockReader.position, Segment.between, Except.map, bind, Except.bind]
  simp only [show (rdAt src segs L j { start := ((q + bs.length : Nat) : Int), stop := e } hd).pos =
    { start := ((q + bs.length : Nat) : Int), stop := e } from rfl,
    show (rdAt src segs L j { start := ((q + bs.length : Nat) : Int), stop := e } hd).line = j from rfl,
    bne_self_eq_false, Bool.false_eq_true, if_false]
  rw [hnm]
  simp only [textOf, Int.sub_self, hparse, pure, Except.pure]

theorem passX21 (env : Env) (henv : env.escapedSpace = false) (src : Bytes) (segs : List Segment) (L j hd : Int)
    (q : Nat) (bs : Bytes) (c : UInt8) (tail : Bytes) (e : Int) (ks : List Inl.Node) (nid : Nat) (bts : List Bottom)
    (fuel : Nat) (ips : List Ip)
    (h : At16 src L q e (bs ++ c :: tail)) (hj : j < segs.length) (hend : CutOK13 tail)
    (hbs : bs ≠ []) (hq : quiet bs 0 false = true) (hesc : escAfter bs false = false)
    (hpun : isPunct c = true) (hsp : isSpace c = false) (hF : parsersFor c = ips) (hips : ips.isEmpty = false)
    (hnm : NoMergeAt13 ks q) (nd : Inl.Node) (st' : St)
    (hparse : tryParsers env j { start := ((q + bs.length : Nat) : Int), stop := e } ips
      { rd := rdAt src segs L j { start := ((q + bs.length : Nat) : Int), stop := e } hd,
        kids := ks ++ [.text { start := q, stop := ((q + bs.length : Nat) : Int) } false false false], nextId := nid,
        bottoms := bts } = .ok (some nd, st')) :
    lineLoop env (fuel + 1) false
      { rd := rdAt src segs L j { start := q, stop := e } hd, kids := ks, nextId := nid, bottoms := bts } =
    lineLoop env fuel false { st' with kids := st'.kids ++ [nd] } := by
  obtain ⟨b0, bs', hbb⟩ : ∃ b0 bs', bs = b0 :: bs' := by
    cases bs with
    | nil => exact absurd rfl hbs
    | cons x xs => exact ⟨x, xs, rfl⟩
  have hp := peekLine_at16 src segs L j hd q e b0 (bs' ++ c :: tail) (by rw [← List.cons_append, ← hbb]; exact h) hj
  rw [← List.cons_append, ← hbb] at hp
  refine lineLoop_hit8 env fuel false false _ _ _ _ hp ?_ ?_
  · rw [hbb]; rfl
  · obtain ⟨Y, hY⟩ := hend (bs ++ [c])
    rw [List.append_assoc, List.singleton_append] at hY
    rw [hY, List.append_assoc, List.singleton_append]
    exact scan_hitX21 env henv src segs L j hd q bs c Y tail e ks nid bts ips h hbs hq hesc hpun hsp hF hips hnm nd st'
      hparse

theorem quiet_head8 (c : UInt8) (cs : Bytes) (h : quiet (c :: cs) 0 false = true) : c ≠ 96 := by
  intro hc
  subst hc
  have h1 : isSpace 96 = false := by decide
  have h2 : isPunct 96 = true := by decide
  have hF : parsersFor 96 = [.codeSpan] := by decide
  simp [quiet, isTrigger, parserChar, h1, h2, hF] at h

theorem inlineTrees_append8 (src : Bytes) : ∀ (a b : List Inl.Node) (x y : List GM.Node),
    GM.Convert.inlineTrees src a = .ok x → GM.Convert.inlineTrees src b = .ok y →
    GM.Convert.inlineTrees src (a ++ b) = .ok (x ++ y)
  | [], b, x, y, ha, hb => by
    simp [GM.Convert.inlineTrees, pure, Except.pure] at ha
    subst ha; simpa using hb
  | n :: a, b, x, y, ha, hb => by
    simp only [GM.Convert.inlineTrees, bind, Except.bind, List.cons_append] at ha ⊢
    cases hn : GM.Convert.inlineTree src n with
    | error e => simp [hn] at ha
    | ok t =>
      simp only [hn] at ha ⊢
      cases hr : GM.Convert.inlineTrees src a with
      | error e => simp [hr] at ha
      | ok ts =>
        simp only [hr, pure, Except.pure] at ha
        rw [inlineTrees_append8 src a b ts y hr hb]
        cases ha
        rfl

theorem value_at8 (src : Bytes) (q : Nat) (bs : Bytes) (h : sub src q (q + bs.length) = bs)
    (hlen : q + bs.length ≤ src.length) (a b : Int) (ha : a = q) (hb : b = (q : Int) + bs.length) :
    Segment.value { start := a, stop := b } src = .ok bs := by
  subst ha hb
  rw [value_plain, sliceB_nat src q bs.length hlen, h]

end GM.Proof.CMFrag
