/-
  GM.Proof.BlocksTreeOp — what ast.go's tree mutators (RemoveChild, AppendChild, InsertBefore, InsertAfter, ReplaceChild) do to the store, as one
  relation `TreeOp R C` in the units in which parent pointers and child lists stay in step: `rm` (a child leaves its parent; then `R c`) and
  `link` (a parentless node comes under `p`; then `C p c`). A single write of a mutator breaks "every entry of a child list points back", so such
  invariants cannot be carried along `Link` (GM.Proof.BlocksStep), whose steps are the single writes. Each mutator is walked once (`*_treeOp`);
  an invariant of the links is kept by all of them as soon as `rm` and `link` keep it: `OpR.of_treeOp` (GM.Proof.ConvertHWF), `TInv.treeOp`
  (GM.Proof.BlocksTNPTree), `TreeOK.treeOp` (GM.Proof.BlocksClosedTree); GM.Proof.ConvertFBr reads "they write no lines" off it (`TreeOp.lines`).
-/
import GM.Proof.IndepFrame
import GM.Proof.BlocksDriver

namespace GM.Blocks
open GM GM.Text

theorem mem_insertBeforeIn_iff (v ins : Nat) : ∀ (l : List Nat) (x : Nat), x ∈ insertBeforeIn v ins l ↔ x = ins ∨ x ∈ l
  | [], x => by simp [insertBeforeIn]
  | a :: rest, x => by
    refine ⟨qs_mem_insertBeforeIn, fun h => ?_⟩
    unfold insertBeforeIn
    split
    · simpa using h
    · rw [List.mem_cons, mem_insertBeforeIn_iff v ins rest x]
      rcases h with h | h
      · exact .inr (.inl h)
      · exact (List.mem_cons.1 h).imp_right .inr

theorem nodup_insertBeforeIn (v ins : Nat) : ∀ (l : List Nat), l.Nodup → ins ∉ l → (insertBeforeIn v ins l).Nodup
  | [], _, _ => by simp [insertBeforeIn]
  | a :: rest, hl, hn => by
    unfold insertBeforeIn
    rw [List.nodup_cons] at hl
    split
    · exact List.nodup_cons.2 ⟨hn, List.nodup_cons.2 hl⟩
    · refine List.nodup_cons.2 ⟨fun h => ?_, nodup_insertBeforeIn v ins rest hl.2 (fun h => hn (List.mem_cons_of_mem _ h))⟩
      rcases (mem_insertBeforeIn_iff v ins rest a).1 h with e | e
      · exact hn (e ▸ List.mem_cons_self ..)
      · exact hl.1 e

inductive TreeOp (R : Nat → Prop) (C : Nat → Nat → Prop) : St → St → Prop
  | refl (s : St) : TreeOp R C s s
  | trans {a b c : St} : TreeOp R C a b → TreeOp R C b c → TreeOp R C a c
  | rm (s : St) (p c : Nat) : R c → (nd s c).parent = some p →
      TreeOp R C s (upd (upd s p fun n => { n with children := n.children.erase c }) c fun n => { n with parent := none })
  | link (s : St) (g : List Nat → List Nat) (p c : Nat) : C p c → (∀ l y, y ∈ g l ↔ (y = c ∨ y ∈ l)) →
      (∀ l, l.Nodup → c ∉ l → (g l).Nodup) → (nd s c).parent = none →
      TreeOp R C s (upd (upd s p fun n => { n with children := g n.children }) c fun n => { n with parent := some p })

section
variable {R R' : Nat → Prop} {C C' : Nat → Nat → Prop}

/-- after the two writes of `rm` / `link`: the parent pointer of `c` is the new one, every other one is as before -/
theorem upd2_parent (s : St) (p c : Nat) (g : List Nat → List Nat) (par : Option Nat) (j : Nat) :
    (nd (upd (upd s p fun n => { n with children := g n.children }) c fun n => { n with parent := par }) j).parent =
      if j = c ∧ c < s.nodes.length then par else (nd s j).parent := by
  rw [nd_upd]
  have hl : (upd s p fun n => { n with children := g n.children }).nodes.length = s.nodes.length := by simp [upd]
  rw [hl]
  by_cases e : c = j ∧ c < s.nodes.length
  · obtain ⟨rfl, hc⟩ := e; simp [hc]
  · have e' : ¬ (j = c ∧ c < s.nodes.length) := fun h => e ⟨h.1.symm, h.2⟩
    rw [if_neg e, if_neg e', nd_upd]; split
    · rename_i h; obtain ⟨rfl, _⟩ := h; rfl
    · rfl

theorem upd2_children (s : St) (p c : Nat) (g : List Nat → List Nat) (par : Option Nat) (j : Nat) :
    (nd (upd (upd s p fun n => { n with children := g n.children }) c fun n => { n with parent := par }) j).children =
      if j = p ∧ p < s.nodes.length then g (nd s p).children else (nd s j).children := by
  have h1 : ∀ j, (nd (upd s p fun n => { n with children := g n.children }) j).children =
      if j = p ∧ p < s.nodes.length then g (nd s p).children else (nd s j).children := by
    intro j
    rw [nd_upd]
    by_cases e : p = j ∧ p < s.nodes.length
    · obtain ⟨rfl, hp⟩ := e; simp [hp]
    · rw [if_neg e, if_neg fun h => e ⟨h.1.symm, h.2⟩]
  rw [nd_upd]; split
  · rename_i h; obtain ⟨rfl, _⟩ := h; exact h1 _
  · exact h1 j

/-- a relinking write touches nothing but the links -/
theorem nd_upd_data (s : St) (i : Nat) {f : Node → Node} (hf : ∀ n, f n = { n with children := (f n).children, parent := (f n).parent })
    (j : Nat) : nd (upd s i f) j = { nd s j with children := (nd (upd s i f) j).children, parent := (nd (upd s i f) j).parent } := by
  rw [nd_upd]; split
  · rename_i h; obtain ⟨rfl, _⟩ := h; exact hf _
  · rfl

/-- the mutators write links only -/
theorem TreeOp.data {s s' : St} (h : TreeOp R C s s') :
    s'.nodes.length = s.nodes.length ∧ s'.pc = s.pc ∧ s'.r = s.r ∧
      ∀ i, nd s' i = { nd s i with children := (nd s' i).children, parent := (nd s' i).parent } := by
  induction h with
  | refl s => exact ⟨rfl, rfl, rfl, fun _ => rfl⟩
  | trans _ _ ih1 ih2 =>
    refine ⟨ih2.1.trans ih1.1, ih2.2.1.trans ih1.2.1, ih2.2.2.1.trans ih1.2.2.1, fun i => ?_⟩
    rw [ih2.2.2.2 i, ih1.2.2.2 i]
  | rm s p c _ _ =>
    refine ⟨by simp [upd], rfl, rfl, fun i => ?_⟩
    rw [nd_upd_data _ c (fun _ => rfl) i, nd_upd_data s p (fun _ => rfl) i]
  | link s g p c _ _ _ _ =>
    refine ⟨by simp [upd], rfl, rfl, fun i => ?_⟩
    rw [nd_upd_data _ c (fun _ => rfl) i, nd_upd_data s p (fun _ => rfl) i]

theorem TreeOp.lines {s s' : St} (h : TreeOp R C s s') (i : Nat) : (nd s' i).lines = (nd s i).lines := by rw [h.data.2.2.2 i]

/-- a node that is neither removed nor linked keeps its parent pointer -/
theorem TreeOp.parent {s s' : St} (h : TreeOp R C s s') (i : Nat) (hr : ¬ R i) (hc : ∀ p, ¬ C p i) :
    (nd s' i).parent = (nd s i).parent := by
  induction h with
  | refl s => rfl
  | trans _ _ ih1 ih2 => exact ih2.trans ih1
  | rm s p c h1 _ =>
    rw [upd2_parent s p c (fun l => l.erase c), if_neg]
    exact fun e => hr (e.1 ▸ h1)
  | link s g p c h1 _ _ _ =>
    rw [upd2_parent s p c g, if_neg]
    exact fun e => hc p (e.1 ▸ h1)

/-- Node.RemoveChild (ast.go:221-242) as a function of the store -/
theorem removeChild_run (p c : Nat) (s : St) :
    removeChild p c s = .ok ((), if (nd s c).parent = some p then
      upd (upd s p fun n => { n with children := n.children.erase c }) c fun n => { n with parent := none } else s) := by
  unfold removeChild
  by_cases hpar : (s.nodes.getD c default).parent = some p
  · simp only [bind, StateT.bind, getNode, Except.bind, pure, Except.pure, hpar, bne_self_eq_false, Bool.false_eq_true, if_false,
      nd, if_true]
    rfl
  · have hpar' : ((s.nodes.getD c default).parent != some p) = true := by simpa using hpar
    simp only [bind, StateT.bind, getNode, Except.bind, pure, StateT.pure, Except.pure, hpar', if_true, nd, hpar, if_false]

theorem removeChild_treeOp {p c : Nat} (hr : R c) {s s' : St} {a : Unit} (h : removeChild p c s = .ok (a, s')) : TreeOp R C s s' := by
  rw [removeChild_run] at h
  cases h
  split
  · rename_i hpar; exact .rm s p c hr hpar
  · exact .refl s

theorem ensureIsolated_treeOp {c : Nat} (hr : R c) {s s' : St} {a : Unit} (h : ensureIsolated c s = .ok (a, s')) :
    TreeOp R C s s' ∧ (nd s' c).parent = none := by
  unfold ensureIsolated at h
  obtain ⟨cn, s1, h1, h⟩ := bind_ok h
  cases h1
  cases hq : (s.nodes.getD c default).parent with
  | some q =>
    simp only [hq] at h
    refine ⟨removeChild_treeOp hr h, ?_⟩
    rw [removeChild_run, if_pos (show (nd s c).parent = some q from hq)] at h
    cases h
    rw [upd2_parent s q c (fun l => l.erase c)]
    exact if_pos ⟨rfl, nd_parent_lt (q := q) hq⟩
  | none => simp only [hq] at h; cases h; exact ⟨.refl s, hq⟩

/-- the common part of `AppendChild` / `InsertBefore`; a node of the store ends up under `p` -/
theorem attach_treeOp (g : List Nat → List Nat) {p c : Nat} (hr : R c) (hc : C p c)
    (hg : ∀ l y, y ∈ g l ↔ (y = c ∨ y ∈ l)) (hgn : ∀ l, l.Nodup → c ∉ l → (g l).Nodup) {s s' : St} {a : Unit}
    (h : (do
      ensureIsolated c
      modNode p fun n => { n with children := g n.children }
      modNode c fun n => { n with parent := some p } : M Unit) s = .ok (a, s')) :
    TreeOp R C s s' ∧ (c < s.nodes.length → (nd s' c).parent = some p) := by
  obtain ⟨_, s0, h0, h2⟩ := bind_ok h
  obtain ⟨t0, hpar0⟩ := ensureIsolated_treeOp (C := C) hr h0
  have e : s' = upd (upd s0 p fun n => { n with children := g n.children }) c fun n => { n with parent := some p } := by
    cases h2; rfl
  rw [e]
  refine ⟨t0.trans (.link s0 g p c hc hg hgn hpar0), fun hlt => ?_⟩
  rw [upd2_parent s0 p c g]
  exact if_pos ⟨rfl, t0.data.1 ▸ hlt⟩

theorem appendChild_treeOp {p c : Nat} (hr : R c) (hc : C p c) {s s' : St} {a : Unit} (h : appendChild p c s = .ok (a, s')) :
    TreeOp R C s s' ∧ (c < s.nodes.length → (nd s' c).parent = some p) := by
  unfold appendChild at h
  refine attach_treeOp (fun l => l ++ [c]) hr hc (fun l y => by simp [or_comm]) (fun l hn hc' => ?_) h
  rw [List.nodup_append]
  exact ⟨hn, by simp, fun a ha b hb => by simp at hb; subst hb; intro e; exact hc' (e ▸ ha)⟩

theorem insertBefore_treeOp {p : Nat} (v1 : Option Nat) {ins : Nat} (hr : R ins) (hc : C p ins) {s s' : St} {a : Unit}
    (h : insertBefore p v1 ins s = .ok (a, s')) : TreeOp R C s s' ∧ (ins < s.nodes.length → (nd s' ins).parent = some p) := by
  unfold insertBefore at h
  cases v1 with
  | none => exact appendChild_treeOp hr hc h
  | some v =>
    simp only at h
    obtain ⟨vn, s1, h1, h⟩ := bind_ok h
    cases h1
    split at h
    · exact appendChild_treeOp hr hc h
    · exact attach_treeOp (fun l => insertBeforeIn v ins l) hr hc (mem_insertBeforeIn_iff v ins) (nodup_insertBeforeIn v ins) h

theorem nextSibling_same (c : Nat) (s : St) (a : Option Nat) (s' : St) (h : nextSibling c s = .ok (a, s')) : s' = s := by
  unfold nextSibling at h
  obtain ⟨cn, s0, h0, h⟩ := bind_ok h
  obtain ⟨rfl, rfl⟩ := getNode_ok h0
  cases hq : (s0.nodes.getD c default).parent with
  | none => simp only [hq] at h; cases h; rfl
  | some q =>
    simp only [hq] at h
    obtain ⟨pn, s1, h1, h⟩ := bind_ok h
    obtain ⟨rfl, rfl⟩ := getNode_ok h1
    cases h; rfl

theorem insertAfter_treeOp {p : Nat} (v1 : Option Nat) {ins : Nat} (hr : R ins) (hc : C p ins) {s s' : St} {a : Unit}
    (h : insertAfter p v1 ins s = .ok (a, s')) : TreeOp R C s s' ∧ (ins < s.nodes.length → (nd s' ins).parent = some p) := by
  unfold insertAfter at h
  cases v1 with
  | none => exact appendChild_treeOp hr hc h
  | some v =>
    simp only at h
    obtain ⟨next, s0, h0, hk⟩ := bind_ok h
    rw [nextSibling_same v s next s0 h0] at hk
    split at hk
    · obtain ⟨next2, s1, h1, hk2⟩ := bind_ok hk
      rw [nextSibling_same ins s next2 s1 h1] at hk2
      exact insertBefore_treeOp next2 hr hc hk2
    · obtain ⟨next2, s1, h1, hk2⟩ := bind_ok hk
      obtain ⟨_, e1⟩ := pure_ok h1
      rw [e1] at hk2
      exact insertBefore_treeOp next2 hr hc hk2

theorem replaceChild_treeOp {p v1 ins : Nat} (hv : R v1) (hr : R ins) (hc : C p ins) {s s' : St} {a : Unit}
    (h : replaceChild p v1 ins s = .ok (a, s')) : TreeOp R C s s' := by
  unfold replaceChild at h
  obtain ⟨_, s0, h0, h1⟩ := bind_ok h
  exact (insertBefore_treeOp (some v1) hr hc h0).1.trans (removeChild_treeOp hv h1)

end

/-! a run of a mutator, no reason asked -/

abbrev TreeOps : St → St → Prop := TreeOp (fun _ => True) (fun _ _ => True)

theorem removeChild_treeOps {p c : Nat} {s s' : St} {a : Unit} (h : removeChild p c s = .ok (a, s')) : TreeOps s s' :=
  removeChild_treeOp trivial h
theorem appendChild_treeOps {p c : Nat} {s s' : St} {a : Unit} (h : appendChild p c s = .ok (a, s')) : TreeOps s s' :=
  (appendChild_treeOp trivial trivial h).1
theorem insertBefore_treeOps {p : Nat} {v1 : Option Nat} {ins : Nat} {s s' : St} {a : Unit}
    (h : insertBefore p v1 ins s = .ok (a, s')) : TreeOps s s' := (insertBefore_treeOp v1 trivial trivial h).1
theorem insertAfter_treeOps {p : Nat} {v1 : Option Nat} {ins : Nat} {s s' : St} {a : Unit}
    (h : insertAfter p v1 ins s = .ok (a, s')) : TreeOps s s' := (insertAfter_treeOp v1 trivial trivial h).1
theorem replaceChild_treeOps {p v1 ins : Nat} {s s' : St} {a : Unit} (h : replaceChild p v1 ins s = .ok (a, s')) : TreeOps s s' :=
  replaceChild_treeOp trivial trivial trivial h

end GM.Blocks
