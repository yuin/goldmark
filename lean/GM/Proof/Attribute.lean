/-
  GM.Proof.Attribute — lemmas about GM.Model.Attribute: reader arithmetic, where a successful parse leaves the
  reader, totality (no panic, fuel suffices), lexical validity of names, SetAttribute keeps names distinct.
-/
import GM.Model.Attribute
import GM.Spec.RenderInv
import GM.Proof.LineRec
import GM.Proof.Reader

namespace GM.Proof.Attribute
open GM GM.Attr GM.Text

theorem adv_ge (src : Bytes) (p n : Nat) (hp : p ≤ src.length) : p ≤ adv src p n := by
  unfold adv; split <;> omega

theorem adv_le (src : Bytes) (p n : Nat) (_hp : p ≤ src.length) : adv src p n ≤ src.length := by
  unfold adv; split <;> omega

theorem adv_one (src : Bytes) (p : Nat) (hp : p < src.length) : adv src p 1 = p + 1 := by
  unfold adv; split <;> omega

theorem adv_eq (src : Bytes) (p n : Nat) (h : p + n ≤ src.length) : adv src p n = p + n := by
  unfold adv; simp [h]

theorem takeWhile_length_le {α} (q : α → Bool) (l : List α) : (l.takeWhile q).length ≤ l.length := by
  induction l with
  | nil => simp
  | cons a l ih => simp only [List.takeWhile]; split <;> simp <;> omega

theorem skipWs_ge (src : Bytes) (p : Nat) : p ≤ skipWs src p := by unfold skipWs; omega

theorem skipWs_le (src : Bytes) (p : Nat) (hp : p ≤ src.length) : skipWs src p ≤ src.length := by
  unfold skipWs
  have := takeWhile_length_le isSpace (src.drop p)
  simp at this
  omega

theorem peekAt_lt (src : Bytes) (p : Nat) (h : peekAt src p ≠ 255) : p < src.length := by
  unfold peekAt at h
  rcases Nat.lt_or_ge p src.length with h' | h'
  · exact h'
  · simp [List.getElem?_eq_none h'] at h

theorem peekAt_eq (src : Bytes) (p : Nat) (hp : p < src.length) : src[p]? = some (peekAt src p) := by
  unfold peekAt
  simp [List.getElem?_eq_getElem hp]

theorem restLine_length_le (src : Bytes) (p : Nat) : (restLine src p).length ≤ src.length - p := by
  unfold restLine
  have := Reader.lineLen_le (src.drop p)
  simp at this ⊢
  omega

theorem restLine_ne_nil (src : Bytes) (p : Nat) (hp : p < src.length) : restLine src p ≠ [] := by
  unfold restLine
  have h1 : src.drop p ≠ [] := by
    intro h
    have := congrArg List.length h
    simp at this
    omega
  have h2 := Reader.lineLen_pos h1
  intro h
  have := congrArg List.length h
  simp at this
  omega

theorem takeWhile_restLine_le (src : Bytes) (p : Nat) (q : UInt8 → Bool) (hp : p ≤ src.length) :
    p + ((restLine src p).takeWhile q).length ≤ src.length := by
  have h1 := takeWhile_length_le q (restLine src p)
  have h2 := restLine_length_le src p
  omega

theorem digitsAt_le (src : Bytes) (p : Nat) (hp : p ≤ src.length) : p + (digitsAt src p).length ≤ src.length := by
  unfold digitsAt
  have := takeWhile_length_le isNumeric (src.drop p)
  simp at this
  omega

/-- neither a panic nor fuel exhaustion -/
def Good {α : Type} (r : Res α) : Prop := (∃ v p, r = .ok v p) ∨ r = .fail

/-- success of ParseAttributes / its loop: progress, inside the source, the last byte consumed is `}` -/
def AdvBrace (src : Bytes) (p : Nat) (r : Res (List PAttr)) : Prop :=
  ∀ v p', r = .ok v p' → p < p' ∧ p' ≤ src.length ∧ src[p' - 1]? = some 125

/-- The result `r` of a call with the reader at `p`. Success consumed at least one byte, stays inside the source and
    returns what `Q` says; a panic or fuel exhaustion happens only where the fuel did not `fit`. -/
def Returns (src : Bytes) (p : Nat) {α : Type} (Q : α → Nat → Prop) (fits : Prop) : Res α → Prop
  | .ok v p' => p < p' ∧ p' ≤ src.length ∧ Q v p'
  | .fail => True
  | _ => ¬ fits

theorem Returns.ok {src : Bytes} {p : Nat} {α : Type} {Q : α → Nat → Prop} {fits : Prop} {r : Res α}
    (h : Returns src p Q fits r) {v : α} {p' : Nat} (e : r = .ok v p') : p < p' ∧ p' ≤ src.length ∧ Q v p' := by
  subst e; exact h

theorem Returns.good {src : Bytes} {p : Nat} {α : Type} {Q : α → Nat → Prop} {fits : Prop} {r : Res α}
    (h : Returns src p Q fits r) (hf : fits) : Good r := by
  cases r with
  | ok v p' => exact .inl ⟨v, p', rfl⟩
  | fail => exact .inr rfl
  | _ => exact absurd hf h

/-- the same result seen from a call that started no later and fits only where this one does -/
theorem Returns.mono {src : Bytes} {p q : Nat} {α : Type} {Q : α → Nat → Prop} {fits fits' : Prop} {r : Res α}
    (h : Returns src q Q fits' r) (hq : p ≤ q) (hf : fits → fits') : Returns src p Q fits r := by
  cases r with
  | ok v p' => exact ⟨Nat.lt_of_le_of_lt hq h.1, h.2⟩
  | fail => trivial
  | _ => exact fun x => h (hf x)

theorem digitsAt_pos (src : Bytes) (p : Nat) (h : isNumeric (peekAt src p) = true) : 1 ≤ (digitsAt src p).length := by
  have hp : p < src.length := peekAt_lt src p (by intro h'; rw [h'] at h; exact absurd h (by decide))
  have e := peekAt_eq src p hp
  unfold digitsAt
  rw [List.drop_eq_getElem_cons hp]
  have : src[p] = peekAt src p := by
    rw [List.getElem?_eq_getElem hp] at e; exact Option.some.inj e
  rw [this, List.takeWhile_cons, h]
  simp

theorem signEnd_b (src : Bytes) (p : Nat) (hp : p ≤ src.length) : p ≤ signEnd src p ∧ signEnd src p ≤ src.length := by
  unfold signEnd
  split
  · exact ⟨adv_ge src p 1 hp, adv_le src p 1 hp⟩
  · exact ⟨Nat.le_refl _, hp⟩

theorem intEnd_b (src : Bytes) (p : Nat) (hp : p ≤ src.length) : p ≤ intEnd src p ∧ intEnd src p ≤ src.length :=
  ⟨adv_ge src p _ hp, adv_le src p _ hp⟩

theorem intEnd_pos (src : Bytes) (p : Nat) (hp : p ≤ src.length) (h : isNumeric (peekAt src p) = true) :
    p < intEnd src p := by
  unfold intEnd
  rw [adv_eq src p _ (digitsAt_le src p hp)]
  have := digitsAt_pos src p h
  omega

theorem fracEnd_b (src : Bytes) (p : Nat) (hp : p ≤ src.length) : p ≤ fracEnd src p ∧ fracEnd src p ≤ src.length := by
  unfold fracEnd
  split
  · have h1 := adv_ge src p 1 hp
    have h2 := adv_le src p 1 hp
    have h3 := intEnd_b src (adv src p 1) h2
    omega
  · exact ⟨Nat.le_refl _, hp⟩

theorem expEnd_b (src : Bytes) (p : Nat) (hp : p ≤ src.length) : p ≤ expEnd src p ∧ expEnd src p ≤ src.length := by
  unfold expEnd
  split
  · have h1 := adv_ge src p 1 hp
    have h2 := adv_le src p 1 hp
    have h3 := signEnd_b src (adv src p 1) h2
    have h4 := intEnd_b src (signEnd src (adv src p 1)) h3.2
    omega
  · exact ⟨Nat.le_refl _, hp⟩

theorem pNumber_returns (src : Bytes) (p : Nat) (hp : p ≤ src.length) {fits : Prop} :
    Returns src p (fun _ _ => True) fits (pNumber src p) := by
  unfold pNumber
  simp only []
  split
  · trivial
  · rename_i hn
    have h0 := signEnd_b src p hp
    have h1 := intEnd_b src _ h0.2
    have h1' := intEnd_pos src _ h0.2 (by simpa using hn)
    have h2 := fracEnd_b src _ h1.2
    have h3 := expEnd_b src _ h2.2
    split
    · exact ⟨by omega, by omega, trivial⟩
    · trivial

theorem pString_returns (src : Bytes) (p : Nat) (hp : p < src.length) {fits : Prop} :
    Returns src p (fun _ _ => True) fits (pString src p) := by
  unfold pString
  simp only []
  split
  · rename_i i _ _
    have h1 := adv_one src p hp
    have h2 := adv_ge src (adv src p 1) (i + 1) (by omega)
    have h3 := adv_le src (adv src p 1) (i + 1) (by omega)
    exact ⟨by omega, by omega, trivial⟩
  · trivial

theorem nameStart_nameChar (c : UInt8) (h : isNameStart c = true) : isNameChar c = true := by
  revert h
  exact forall_uint8 (fun c => isNameStart c = true → isNameChar c = true) (by decide +kernel) c

/-- the name or bare value scanned at `p` (attribute.go:106-121, 305-315) is not empty and fits into the source -/
theorem name_adv (src : Bytes) (p : Nat) (hp : p ≤ src.length) (c : UInt8) (rest : Bytes)
    (hl : restLine src p = c :: rest) (hs : isNameStart c = true) :
    p < adv src p ((c :: rest).takeWhile isNameChar).length ∧
      adv src p ((c :: rest).takeWhile isNameChar).length ≤ src.length := by
  have hlen : 1 ≤ ((c :: rest).takeWhile isNameChar).length := by
    rw [List.takeWhile_cons, nameStart_nameChar c hs]; simp
  have hfit := takeWhile_restLine_le src p isNameChar hp
  rw [hl] at hfit
  rw [adv_eq src p _ hfit]
  omega

theorem pOthers_returns (src : Bytes) (p : Nat) (hp : p < src.length) {fits : Prop} :
    Returns src p (fun _ _ => True) fits (pOthers src p) := by
  unfold pOthers
  split
  · rename_i hl
    exact absurd hl (restLine_ne_nil src p hp)
  · rename_i c rest hl
    split
    · trivial
    · rename_i hs
      have h := name_adv src p (by omega) c rest hl (by simpa using hs)
      have ok (v : Val) :
          Returns src p (fun _ _ => True) fits (.ok v (adv src p ((c :: rest).takeWhile isNameChar).length)) :=
        ⟨h.1, h.2, trivial⟩
      simp only []
      split
      · exact ok _
      · split
        · exact ok _
        · split <;> exact ok _

theorem peek_eq_lt (src : Bytes) (p : Nat) (c : UInt8) (hc : c ≠ 255) (h : peekAt src p = c) : p < src.length :=
  peekAt_lt src p (by rw [h]; exact hc)

/-- the position after an optional comma (attribute.go:79-83) -/
theorem comma_b (src : Bytes) (p : Nat) (hp : p ≤ src.length) :
    p ≤ (if peekAt src (skipWs src p) == 44 then skipWs src (adv src (skipWs src p) 1) else skipWs src p) ∧
    (if peekAt src (skipWs src p) == 44 then skipWs src (adv src (skipWs src p) 1) else skipWs src p) ≤ src.length := by
  have h1 := skipWs_ge src p
  have h2 := skipWs_le src p hp
  split
  · have h3 := adv_ge src (skipWs src p) 1 h2
    have h4 := adv_le src (skipWs src p) 1 h2
    have h5 := skipWs_ge src (adv src (skipWs src p) 1)
    have h6 := skipWs_le src _ h4
    omega
  · omega

/-- what parseAttribute guarantees and the class merge relies on: a `class` attribute holds bytes -/
def classOK (a : PAttr) : Prop := a.1 = nameClass → a.2.isBytes = true
def ClassOK (acc : List PAttr) : Prop := ∀ a ∈ acc, classOK a

/-- the type assertions of the merge (attribute.go:69-72) hold -/
theorem mergeClass_ok (acc : List PAttr) (a : PAttr) (hacc : ClassOK acc) (hb : a.2.isBytes = true) :
    ∃ acc', mergeClass acc a = .ok acc' := by
  induction acc with
  | nil => exact ⟨[a], rfl⟩
  | cons x rest ih =>
    obtain ⟨n, v⟩ := x
    simp only [mergeClass]
    split
    · rename_i hn
      have hv := hacc (n, v) (by simp) (by simpa using hn)
      cases v <;> simp [Val.isBytes] at hv
      cases hav : a.2 <;> rw [hav] at hb <;> simp [Val.isBytes] at hb
      exact ⟨_, rfl⟩
    · obtain ⟨acc', e⟩ := ih (fun y hy => hacc y (by simp [hy]))
      rw [e]
      exact ⟨(n, v) :: acc', rfl⟩

/-- what the merge keeps: any property of all attributes that does not depend on which bytes a value holds -/
theorem mergeClass_forall (P : PAttr → Prop) (hP : ∀ n x y, P (n, .bytes x) → P (n, .bytes y))
    (acc : List PAttr) (a : PAttr) (acc' : List PAttr) (h : mergeClass acc a = .ok acc')
    (hacc : ∀ b ∈ acc, P b) (ha : P a) : ∀ b ∈ acc', P b := by
  induction acc generalizing acc' with
  | nil =>
    simp only [mergeClass] at h
    cases h
    intro x hx; simp at hx; subst hx; exact ha
  | cons x rest ih =>
    obtain ⟨n, v⟩ := x
    simp only [mergeClass] at h
    have hx := hacc (n, v) (by simp)
    have hrest : ∀ b ∈ rest, P b := fun y hy => hacc y (by simp [hy])
    split at h
    · split at h
      · cases h
        intro y hy
        simp at hy
        rcases hy with rfl | hy
        · exact hP _ _ _ hx
        · exact hrest y hy
      · cases h
    · cases hm : mergeClass rest a with
      | error e => rw [hm] at h; cases h
      | ok r =>
        rw [hm] at h
        cases h
        intro y hy
        simp at hy
        rcases hy with rfl | hy
        · exact hx
        · exact ih r hm hrest y hy

theorem addAttr_ok (acc : List PAttr) (a : PAttr) (hacc : ClassOK acc) (ha : classOK a) :
    ∃ acc', addAttr acc a = .ok acc' := by
  unfold addAttr
  split
  · rename_i hn
    exact mergeClass_ok acc a hacc (ha (by simpa using hn))
  · exact ⟨_, rfl⟩

theorem addAttr_forall (P : PAttr → Prop) (hP : ∀ n x y, P (n, .bytes x) → P (n, .bytes y))
    (acc : List PAttr) (a : PAttr) (acc' : List PAttr) (h : addAttr acc a = .ok acc')
    (hacc : ∀ b ∈ acc, P b) (ha : P a) : ∀ b ∈ acc', P b := by
  unfold addAttr at h
  split at h
  · exact mergeClass_forall P hP acc a acc' h hacc ha
  · cases h
    intro y hy
    simp at hy
    rcases hy with hy | rfl
    · exact hacc y hy
    · exact ha

def NamesOK (l : List PAttr) : Prop := ∀ a ∈ l, Spec.attrNameOK a.1 = true

theorem nameStart_attrStart (c : UInt8) (h : isNameStart c = true) : Spec.isAttrStartB c = true := by
  revert h
  exact forall_uint8 (fun c => isNameStart c = true → Spec.isAttrStartB c = true) (by decide +kernel) c

theorem nameChar_attrName (c : UInt8) (h : isNameChar c = true) : Spec.isAttrNameB c = true := by
  revert h
  exact forall_uint8 (fun c => isNameChar c = true → Spec.isAttrNameB c = true) (by decide +kernel) c

theorem takeWhile_all (q : UInt8 → Bool) (l : Bytes) : (l.takeWhile q).all q = true := by
  induction l with
  | nil => simp
  | cons a l ih =>
    simp only [List.takeWhile]
    split
    · rename_i h; simp [List.all_cons, h, ih]
    · simp

theorem all_imp (q r : UInt8 → Bool) (l : Bytes) (h : ∀ c, q c = true → r c = true) (hl : l.all q = true) :
    l.all r = true := by
  simp only [List.all_eq_true] at hl ⊢
  exact fun c hc => h c (hl c hc)

/-- the name scanned by parseAttribute (attribute.go:106-121) is an attribute name in the sense of Spec.Inv -/
theorem scanned_name_ok (c0 : UInt8) (rest : Bytes) (hs : isNameStart c0 = true) :
    Spec.attrNameOK ((c0 :: rest).takeWhile isNameChar) = true := by
  rw [List.takeWhile_cons, nameStart_nameChar c0 hs]
  simp only [Spec.attrNameOK, if_true, Bool.and_eq_true]
  exact ⟨nameStart_attrStart c0 hs, all_imp _ _ _ nameChar_attrName (takeWhile_all _ _)⟩

/-- The five parsers at fuel `f`, each started inside the source. The measure `5 * (src.length - p) + k` orders the
    calls: `k` is 3, 2, 1, 4, 5 in the order below, and a call that consumes nothing goes to a smaller `k`. -/
structure ParseAll (src : Bytes) (f : Nat) : Prop where
  attrs : ∀ p, p ≤ src.length →
    Returns src p (fun v p' => src[p' - 1]? = some 125 ∧ NamesOK v) (5 * (src.length - p) + 3 ≤ f) (pAttributes src f p)
  loop : ∀ p acc, p ≤ src.length → ClassOK acc → NamesOK acc →
    Returns src p (fun v p' => src[p' - 1]? = some 125 ∧ NamesOK v) (5 * (src.length - p) + 2 ≤ f)
      (pAttrsLoop src f p acc)
  attr : ∀ p, p ≤ src.length →
    Returns src p (fun a _ => classOK a ∧ Spec.attrNameOK a.1 = true) (5 * (src.length - p) + 1 ≤ f)
      (pAttribute src f p)
  value : ∀ p, p ≤ src.length → Returns src p (fun _ _ => True) (5 * (src.length - p) + 4 ≤ f) (pValue src f p)
  arr : ∀ p first acc, p ≤ src.length →
    Returns src p (fun _ _ => True) (5 * (src.length - p) + 5 ≤ f) (pArrayLoop src f p first acc)

theorem parseAll (src : Bytes) : ∀ f, ParseAll src f := by
  intro f
  induction f with
  | zero =>
    refine ⟨?_, ?_, ?_, ?_, ?_⟩ <;> intros <;>
      simp only [pAttributes, pAttrsLoop, pAttribute, pValue, pArrayLoop, Returns] <;> omega
  | succ f ih =>
    refine ⟨?_, ?_, ?_, ?_, ?_⟩
    · intro p hp
      simp only [pAttributes]
      split
      · trivial
      · rename_i hb
        have hb' : peekAt src (skipWs src p) = 123 := by simpa using hb
        have h1 := skipWs_ge src p
        have h2 := skipWs_le src p hp
        have h3 := peek_eq_lt src _ 123 (by decide) hb'
        have h4 := adv_one src _ h3
        exact (ih.loop _ [] (by omega) (fun _ h => nomatch h) (fun _ h => nomatch h)).mono (by omega) (by omega)
    · intro p acc hp hacc hnm
      simp only [pAttrsLoop]
      split
      · rename_i hb
        have hb' : peekAt src p = 125 := by simpa using hb
        have h3 := peek_eq_lt src _ 125 (by decide) hb'
        have h4 := adv_one src _ h3
        exact ⟨by omega, by omega, by simp only [h4, Nat.add_sub_cancel, peekAt_eq src p h3, hb'], hnm⟩
      · have ha := ih.attr p hp
        generalize pAttribute src f p = r at ha ⊢
        cases r with
        | ok a p1 =>
          obtain ⟨h1, h1', hca, hna⟩ := ha
          obtain ⟨acc', e⟩ := addAttr_ok acc a hacc hca
          simp only [e]
          have h2 := comma_b src p1 h1'
          exact (ih.loop _ acc' h2.2 (addAttr_forall classOK (fun _ _ _ _ _ => rfl) acc a acc' e hacc hca)
            (addAttr_forall _ (fun _ _ _ h => h) acc a acc' e hnm hna)).mono (by omega) (by omega)
        | fail => trivial
        | _ => exact fun _ => ha (by omega)
    · intro p0 hp0
      simp only [pAttribute]
      have h1 := skipWs_ge src p0
      have h2 := skipWs_le src p0 hp0
      split
      · rename_i hc
        have h3 : skipWs src p0 < src.length := by
          apply peekAt_lt
          intro h'
          rw [h'] at hc
          exact absurd hc (by decide)
        have h4 := adv_one src _ h3
        have h5 := takeWhile_restLine_le src (adv src (skipWs src p0) 1) isIdChar (by omega)
        rw [adv_eq src _ _ h5]
        exact ⟨by omega, by omega, fun _ => rfl, by simp only []; split <;> decide⟩
      · split
        · trivial
        · rename_i c0 rest hl
          split
          · trivial
          · rename_i hs
            have hn := name_adv src _ h2 c0 rest hl (by simpa using hs)
            split
            · trivial
            · have h5 := skipWs_ge src (adv src (skipWs src p0) ((c0 :: rest).takeWhile isNameChar).length)
              have h6 := skipWs_le src _ hn.2
              have h7 := adv_ge src _ 1 h6
              have h8 := adv_le src _ 1 h6
              have h9 := skipWs_ge src (adv src (skipWs src (adv src (skipWs src p0) ((c0 :: rest).takeWhile isNameChar).length)) 1)
              have h10 := skipWs_le src _ h8
              have hv := ih.value _ h10
              generalize pValue src f _ = r at hv ⊢
              cases r with
              | ok v p3 =>
                simp only []
                split
                · trivial
                · rename_i hc
                  refine ⟨by have := hv.1; omega, hv.2.1, fun hn => ?_, scanned_name_ok c0 rest (by simpa using hs)⟩
                  simp only [] at hn
                  simpa [hn] using hc
              | fail => trivial
              | _ => exact fun _ => hv (by omega)
    · intro p0 hp0
      simp only [pValue]
      have h1 := skipWs_ge src p0
      have h2 := skipWs_le src p0 hp0
      split
      · trivial
      · rename_i hne
        have h3 : skipWs src p0 < src.length := peekAt_lt src _ (by simpa using hne)
        split
        · have hv := ih.attrs _ h2
          generalize pAttributes src f _ = r at hv ⊢
          cases r with
          | ok as p3 => exact ⟨by have := hv.1; omega, hv.2.1, trivial⟩
          | fail => trivial
          | _ => exact fun _ => hv (by omega)
        · split
          · have h4 := adv_one src _ h3
            have hv := ih.arr (adv src (skipWs src p0) 1) true [] (by omega)
            generalize pArrayLoop src f _ _ _ = r at hv ⊢
            cases r with
            | ok vs p3 => exact ⟨by have := hv.1; omega, hv.2.1, trivial⟩
            | fail => trivial
            | _ => exact fun _ => hv (by omega)
          · split
            · exact (pString_returns src _ h3).mono h1 id
            · split
              · exact (pNumber_returns src _ h2).mono h1 id
              · exact (pOthers_returns src _ h3).mono h1 id
    · intro p first acc hp
      simp only [pArrayLoop]
      split
      · rename_i hb
        have hb' : peekAt src p = 93 := by simpa using hb
        have h3 := peek_eq_lt src _ 93 (by decide) hb'
        have : (!first && peekAt src p == 44) = false := by rw [hb']; cases first <;> rfl
        simp only [this, Bool.not_false, Bool.false_eq_true, if_true, if_false]
        have h4 := adv_one src _ h3
        exact ⟨by omega, by omega, trivial⟩
      · have hp1 : p ≤ (if (!first && peekAt src p == 44) = true then adv src p 1 else p) ∧
            (if (!first && peekAt src p == 44) = true then adv src p 1 else p) ≤ src.length := by
          split
          · exact ⟨adv_ge src p 1 hp, adv_le src p 1 hp⟩
          · exact ⟨Nat.le_refl _, hp⟩
        have h5 := skipWs_ge src (if (!first && peekAt src p == 44) = true then adv src p 1 else p)
        have h6 := skipWs_le src _ hp1.2
        have hv := ih.value _ h6
        generalize pValue src f _ = r at hv ⊢
        cases r with
        | ok v p2 =>
          obtain ⟨h7, h7', _⟩ := hv
          have h8 := skipWs_ge src p2
          have h9 := skipWs_le src p2 h7'
          exact (ih.arr _ _ _ h9).mono (by omega) (by omega)
        | fail => trivial
        | _ => exact fun _ => hv (by omega)

/-- ParseAttributes never panics and never runs out of the fuel it is given -/
theorem parseAttributes_good (src : Bytes) (p : Nat) (hp : p ≤ src.length) : Good (parseAttributes src p) :=
  ((parseAll src _).attrs p hp).good (by unfold fuelFor; omega)

theorem parseAttributes_pos (src : Bytes) (p : Nat) (hp : p ≤ src.length) : AdvBrace src p (parseAttributes src p) :=
  fun _ _ e => have h := ((parseAll src _).attrs p hp).ok e; ⟨h.1, h.2.1, h.2.2.1⟩

/-- outside the source there is no `{` -/
theorem parseAttributes_outside (src : Bytes) (p : Nat) (hp : src.length ≤ p) : parseAttributes src p = .fail := by
  have : peekAt src (skipWs src p) = 255 := by
    simp [skipWs, peekAt, List.drop_eq_nil_of_le hp, List.getElem?_eq_none hp]
  simp [parseAttributes, fuelFor, Nat.sub_eq_zero_of_le hp, pAttributes, this]

theorem parseAttributes_names (src : Bytes) (p : Nat) (v : List PAttr) (p' : Nat)
    (h : parseAttributes src p = .ok v p') : NamesOK v := by
  rcases Nat.le_total p src.length with hp | hp
  · exact (((parseAll src _).attrs p hp).ok h).2.2.2
  · rw [parseAttributes_outside src p hp] at h; cases h

def names (l : List PAttr) : List Bytes := l.map (·.1)

theorem setAttribute_names (node : List PAttr) (a : PAttr) :
    names (setAttribute node a) = if a.1 ∈ names node then names node else names node ++ [a.1] := by
  induction node with
  | nil => simp [setAttribute, names]
  | cons x rest ih =>
    obtain ⟨n, v⟩ := x
    simp only [setAttribute]
    by_cases hn : n = a.1
    · simp [hn, names]
    · have hn' : (n == a.1) = false := by simpa using hn
      simp only [hn', Bool.false_eq_true, if_false]
      simp only [names, List.map_cons] at ih ⊢
      rw [ih]
      have : a.1 ≠ n := fun h => hn h.symm
      by_cases hm : a.1 ∈ List.map (fun x => x.1) rest
      · simp [hm]
      · simp [hm, this]

theorem setAttribute_nodup (node : List PAttr) (a : PAttr) (h : (names node).Nodup) :
    (names (setAttribute node a)).Nodup := by
  rw [setAttribute_names]
  split
  · exact h
  · rename_i hm
    rw [List.nodup_append]
    refine ⟨h, by simp, ?_⟩
    intro x hx y hy
    simp at hy
    subst hy
    intro e
    subst e
    exact hm hx

theorem setAttribute_namesOK (node : List PAttr) (a : PAttr) (h : NamesOK node) (ha : Spec.attrNameOK a.1 = true) :
    NamesOK (setAttribute node a) := by
  induction node with
  | nil => intro x hx; simp [setAttribute] at hx; subst hx; exact ha
  | cons y rest ih =>
    obtain ⟨n, v⟩ := y
    have hy := h (n, v) (by simp)
    have hrest : NamesOK rest := fun z hz => h z (by simp [hz])
    simp only [setAttribute]
    split
    · intro x hx
      simp at hx
      rcases hx with rfl | hx
      · exact ha
      · exact hrest x hx
    · intro x hx
      simp at hx
      rcases hx with rfl | hx
      · exact hy
      · exact ih hrest x hx

theorem setAll_nodup (node as : List PAttr) (h : (names node).Nodup) : (names (setAll node as)).Nodup := by
  unfold setAll
  induction as generalizing node with
  | nil => exact h
  | cons a as ih => exact ih _ (setAttribute_nodup node a h)

theorem setAll_namesOK (node as : List PAttr) (h : NamesOK node) (has : NamesOK as) : NamesOK (setAll node as) := by
  unfold setAll
  induction as generalizing node with
  | nil => exact h
  | cons a as ih =>
    exact ih _ (setAttribute_namesOK node a h (has a (by simp))) (fun x hx => has x (by simp [hx]))


/-- the attribute clauses of `Spec.Inv` for a heading of the model -/
def HOK (h : Heading) : Prop := NamesOK h.attrList ∧ (names h.attrList).Nodup ∧ 1 ≤ h.level ∧ h.level ≤ 6

theorem eraseDups_of_nodup' (l : List Bytes) (h : l.Nodup) : l.eraseDups = l := by
  induction l with
  | nil => simp
  | cons a as ih =>
    rw [List.nodup_cons] at h
    rw [List.eraseDups_cons]
    have : as.filter (fun b => !b == a) = as := by
      rw [List.filter_eq_self]
      intro b hb
      have : b ≠ a := by rintro rfl; exact h.1 hb
      simp [this]
    rw [this, ih h.2]

/-- … which is literally `Spec.attrsInv` of the attributes as the renderer model sees them -/
theorem attrsInv_of_HOK (h : Heading) (hk : HOK h) :
    Spec.attrsInv (h.attrs.map (List.map toTreeAttr)) = true := by
  cases ha : h.attrs with
  | none => rfl
  | some as =>
    rw [HOK, Heading.attrList, ha] at hk
    simp only [Option.getD_some] at hk
    simp only [Option.map_some, Spec.attrsInv, Bool.and_eq_true, List.all_eq_true, beq_iff_eq]
    constructor
    · intro a ha'
      simp only [List.mem_map] at ha'
      obtain ⟨x, hx, rfl⟩ := ha'
      exact hk.1 x hx
    · have e : (List.map toTreeAttr as).map (·.name) = names as := by
        simp [names, toTreeAttr, List.map_map, Function.comp_def]
      rw [e, eraseDups_of_nodup' _ hk.2.1]
      simp [names]

theorem hok_none (lvl : Nat) (ls : List (Nat × Nat)) (hl : 1 ≤ lvl ∧ lvl ≤ 6) :
    HOK { level := lvl, lines := ls, attrs := none } :=
  ⟨by intro a ha; simp [Heading.attrList] at ha, by simp [Heading.attrList, names], hl.1, hl.2⟩

theorem hok_setAll (h : Heading) (as : List PAttr) (hk : HOK h) (has : NamesOK as) : HOK (h.setAll as) := by
  unfold Heading.setAll
  split
  · exact hk
  · exact ⟨setAll_namesOK _ _ hk.1 has, setAll_nodup _ _ hk.2.1, hk.2.2⟩

theorem hok_lines (h : Heading) (ls : List (Nat × Nat)) (hk : HOK h) : HOK { h with lines := ls } := hk

theorem lastScan_ok (line : Bytes) : ∀ f p st, p ≤ line.length → line.length - p < f → NamesOK st.attrs →
    ∃ st', lastScan line f p st = .ok st' ∧ NamesOK st'.attrs := by
  intro f
  induction f with
  | zero => intro p st _ h; omega
  | succ f ih =>
    intro p st hp hf hst
    simp only [lastScan]
    split
    · exact ⟨_, rfl, hst⟩
    · rename_i hne
      have hlt : p < line.length := peekAt_lt line p (by simpa using hne)
      have h1 := adv_one line p hlt
      split
      · have h2 := adv_ge line (adv line p 1) 1 (by omega)
        have h3 := adv_le line (adv line p 1) 1 (by omega)
        split
        · exact ih _ _ h3 (by omega) hst
        · exact ih _ _ (by omega) (by omega) hst
      · split
        · rcases parseAttributes_good line p hp with ⟨v, p', heq⟩ | heq
          · rw [heq]; exact ih _ _ (by omega) (by omega) (parseAttributes_names line p v p' heq)
          · rw [heq]; exact ih _ _ (by omega) (by omega) (fun _ h => nomatch h)
        · exact ih _ _ (by omega) (by omega) hst

/-- parseLastLineAttributes never panics; what it attaches has valid names -/
theorem lastLineAttrs_ok (line : Bytes) :
    ∃ r, lastLineAttrs line = .ok r ∧ ∀ as n, r = some (as, n) → NamesOK as := by
  unfold lastLineAttrs
  obtain ⟨st, hst, hn⟩ :=
    lastScan_ok line (line.length + 1) 0 {} (Nat.zero_le _) (by omega) (by intro a ha; simp at ha)
  rw [hst]
  simp only []
  split
  · refine ⟨_, rfl, ?_⟩
    intro as n e
    cases e
    exact hn
  · exact ⟨_, rfl, by intro as n e; cases e⟩

theorem nameId_ok : Spec.attrNameOK nameId = true := by decide

theorem closeAttrs_ok (src : Bytes) (h : Heading) (hk : HOK h) : ∃ h', closeAttrs src h = .ok h' ∧ HOK h' := by
  unfold closeAttrs
  split
  · exact ⟨h, rfl, hk⟩
  · rename_i x y _
    obtain ⟨r, hr, hn⟩ := lastLineAttrs_ok (sub src x y)
    rw [hr]
    cases r with
    | none => exact ⟨h, rfl, hk⟩
    | some q =>
      obtain ⟨as, n⟩ := q
      exact ⟨_, rfl, hok_setAll h as hk (hn as n rfl)⟩

theorem closeAutoId_ok (src : Bytes) (h : Heading) (hk : HOK h) : ∃ h', closeAutoId src h = .ok h' ∧ HOK h' := by
  unfold closeAutoId
  simp only [Ids.generate, List.contains_nil, Bool.false_eq_true, if_false]
  exact ⟨_, rfl, setAttribute_namesOK _ _ hk.1 nameId_ok, setAttribute_nodup _ _ hk.2.1, hk.2.2⟩

/-- Close of the heading parsers never panics and keeps the attribute invariant -/
theorem closeHeading_ok (src : Bytes) (a i : Bool) (h : Heading) (hk : HOK h) :
    ∃ h', closeHeading src a i h = .ok h' ∧ HOK h' := by
  unfold closeHeading
  have step1 : ∃ h1, (if (a && !hasName h.attrList nameId) = true then closeAttrs src h else .ok h) = .ok h1 ∧ HOK h1 := by
    split
    · exact closeAttrs_ok src h hk
    · exact ⟨h, rfl, hk⟩
  obtain ⟨h1, e1, hk1⟩ := step1
  rw [e1]
  simp only []
  split
  · exact closeAutoId_ok src h1 hk1
  · exact ⟨h1, rfl, hk1⟩

theorem atxPlain_ok (line : Bytes) (ls n start stop0 : Nat) (hs : 1 ≤ start) (hstop : stop0 ≤ line.length)
    (hn : 1 ≤ n ∧ n ≤ 6) :
    ∃ r, atxPlain line ls n start stop0 = .ok r ∧ ∀ h, r = some h → HOK h := by
  unfold atxPlain
  obtain ⟨c, hc⟩ := GM.Proof.LineRec.atxContent_ok line start stop0 hs hstop
  rw [hc]
  cases c with
  | none => exact ⟨_, rfl, by intro h e; cases e; exact hok_none _ _ hn⟩
  | some q =>
    obtain ⟨x, y⟩ := q
    exact ⟨_, rfl, by intro h e; cases e; exact hok_none _ _ hn⟩

theorem closureScan_le (line : Bytes) (stop : Nat) : ∀ f j o c, closureScan line stop f j = some (o, c) →
    o ≤ c ∧ c ≤ stop := by
  intro f
  induction f with
  | zero => intro j o c h; simp [closureScan] at h
  | succ f ih =>
    intro j o c h
    simp only [closureScan] at h
    split at h
    · split at h
      · exact ih _ _ _ h
      · split at h
        · rename_i hsp
          simp only [Option.some.injEq, Prod.mk.injEq] at h
          obtain ⟨rfl, rfl⟩ := h
          have h1 := takeWhile_length_le (· == (35 : UInt8)) ((line.drop (j + 1)).take (stop - (j + 1)))
          simp only [List.length_take, List.length_drop] at h1
          simp only [Bool.and_eq_true, decide_eq_true_eq] at hsp
          omega
        · exact ih _ _ _ h
    · cases h

theorem atxAttrs_ok (src line : Bytes) (ls n start stop0 : Nat) (hls : ls ≤ src.length) (hn : 1 ≤ n ∧ n ≤ 6) :
    ∃ r, atxAttrs src line ls n start stop0 = .ok r ∧ ∀ h, r = some h → HOK h := by
  unfold atxAttrs
  split
  · rename_i cOpen cClose _
    split
    · have hp := adv_le src ls cClose hls
      rcases parseAttributes_good src _ hp with ⟨v, p', heq⟩ | heq
      · rw [heq]
        simp only []
        split
        · refine ⟨_, rfl, ?_⟩
          intro h e
          cases e
          exact hok_setAll _ _ (hok_none _ _ hn) (parseAttributes_names src _ v p' heq)
        · exact ⟨_, rfl, by intro h e; cases e⟩
      · rw [heq]; exact ⟨_, rfl, by intro h e; cases e⟩
    · exact ⟨_, rfl, by intro h e; cases e⟩
  · exact ⟨_, rfl, by intro h e; cases e⟩

/-- atxHeadingParser.Open with the Attribute option never panics; the heading it builds has valid, distinct names -/
theorem atxOpen_ok (src : Bytes) (ls pos : Nat) (a : Bool) (hls : ls ≤ src.length) :
    ∃ r, atxOpen src ls pos a = .ok r ∧ ∀ h, r = some h → HOK h := by
  unfold atxOpen
  extract_lets line n i l start stop0
  split
  · exact ⟨_, rfl, by intro h e; cases e⟩
  · rename_i hn
    have hn' := GM.Proof.LineRec.lvl_bounds _ hn
    split
    · exact ⟨_, rfl, by intro h e; cases e; exact hok_none _ _ hn'⟩
    · rename_i hi
      split
      · exact ⟨_, rfl, by intro h e; cases e⟩
      · rename_i hl
        have hstart : 1 ≤ start := by
          have hrun := takeWhile_length_le (· == (35 : UInt8)) (line.drop pos)
          have hl2 := takeWhile_length_le isSpace (line.drop i)
          simp only [List.length_drop] at hrun hl2
          simp only [beq_iff_eq] at hi hl
          show 1 ≤ if i + l ≥ line.length then line.length - 1 else i + l
          split <;> omega
        have hplain := atxPlain_ok line ls n start stop0 hstart (Nat.sub_le _ _) hn'
        split
        · exact hplain
        · obtain ⟨r, hr, hk⟩ := atxAttrs_ok src line ls n start stop0 hls hn'
          rw [hr]
          cases r with
          | none => exact hplain
          | some h => exact ⟨_, rfl, by intro h' e; cases e; exact hk h rfl⟩

/-- the first heading of a document, Open then Close: no panic, attribute names valid and pairwise distinct -/
theorem atxHeading_ok (src : Bytes) (a i : Bool) :
    ∃ r, atxHeading src a i = .ok r ∧ ∀ h, r = some h → HOK h := by
  unfold atxHeading
  obtain ⟨r, hr, hk⟩ := atxOpen_ok src 0 ((restLine src 0).takeWhile (· == 32)).length a (Nat.zero_le _)
  rw [hr]
  cases r with
  | none => exact ⟨_, rfl, by intro h e; cases e⟩
  | some h =>
    obtain ⟨h', e', hk'⟩ := closeHeading_ok src a i h (hk h rfl)
    simp only [e']
    exact ⟨_, rfl, by intro h'' e; cases e; exact hk'⟩


end GM.Proof.Attribute
