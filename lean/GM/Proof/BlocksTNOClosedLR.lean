/-
  GM.Proof.BlocksTNOClosedLR — the close discipline for whole runs of the block phase WITH the link-reference transformer: the run ends with `CInvG src s []` and an empty stack, every non-raw node has
  padding 0 on all its lines except a parentless Heading (the abandoned setext node; kernel-evaluated example), and the facts about the final store in the shape GM.Props.ConvertE2ENT consumes.
-/
import GM.Proof.BlocksTNOClRun
import GM.Proof.BlocksTNORunLR

section BlocksTNOClosedLR
/-
  THE CLOSE DISCIPLINE FOR WHOLE RUNS of the block phase WITH the link-reference transformer
  (GM.Proof.BlocksClosedRun for `runT`; the walk is that of GM.Proof.BlocksTNOCl* without a table transformer): the run ends
  with `CInvG src s []` and an empty stack, and in the final store every non-raw node has padding 0 on all its lines — EXCEPT
  a parentless Heading node: the node setextHeadingParser.Open built on an underline whose paragraph was then transformed
  away (link reference definitions only) stays in the store, unattached, with its raw bar line. (So `run_closed` of GM.Proof.BlocksClosedRun,
  ∀ n ∈ s.nodes, is FALSE for `runT [transform]`: `> [a]: /u⏎>⇥===⏎`, example at the end.) Every node that is attached — every
  entry of a child list — has padding 0.
-/

namespace GM.Blocks.TO
open GM GM.Text GM.Spec GM.Proof.Reader GM.LinkRef GM.Blocks.L GM.Blocks.T
open GM.Proof.BlocksWF0 (isRaw)

section fin
variable {src : Bytes} {pts : List PT} {e : Panic}

theorem runT_closed_aux (hag : TX.AgreeP False src pts pts) (hsp : PTsSpec src e pts) (s : St) (h : runT pts src = .ok s) :
    CInvG False src s [] ∧ s.pc.opened = [] := by
  obtain ⟨a1, a2⟩ := TX.runT_closed_aux hag (TX.agreeT_of_agreeP hag) (GM.Blocks.L.G.X.ptsSpecX_of_ptsSpec hsp) s h
  exact ⟨a1.toO, a2⟩

end fin

theorem agreeP_self_guardE (src : Bytes) (e : Panic) : TX.AgreeP False src [guardE e] [guardE e] :=
  fun node s a b c d f => ⟨rfl, (agreeP_guardE src e node s a b c d f).2⟩

/-- the close discipline of the final store of the run with the bare transformer -/
theorem runT_transform_cinv (src : Bytes) (s : St) (h : runT [transform] src = .ok s) :
    CInvG False src s [] ∧ s.pc.opened = [] := by
  rw [← guard_never_fires src .nil] at h
  exact runT_closed_aux (agreeP_self_guardE src .nil) (GM.Proof.LinkRefTot2.guardE_ptsSpec src .nil) s h

/-- **padding 0 at the end, with the transformer, every source**: every non-raw node of the final store has padding 0
    on all its lines, or is a parentless Heading (the abandoned node of setextHeadingParser.Open) -/
theorem runT_transform_closed (src : Bytes) (s : St) (h : runT [transform] src = .ok s) :
    ∀ i, isRaw (nd s i).kind = false → Closed (nd s i) ∨ ((nd s i).kind = .heading ∧ (nd s i).parent = none) := by
  obtain ⟨hc, _⟩ := runT_transform_cinv src s h
  intro i hr
  rcases hc.pad i hr with hcl | ⟨b, hb, _⟩ | hab
  · exact .inl hcl
  · cases hb
  · exact .inr hab

/-- every attached non-raw node has padding 0 on all its lines -/
theorem runT_transform_attached_closed (src : Bytes) (s : St) (h : runT [transform] src = .ok s) (i : Nat)
    (hr : isRaw (nd s i).kind = false) (hp : (nd s i).parent.isSome = true) : ∀ t ∈ (nd s i).lines, t.padding = 0 := by
  rcases runT_transform_closed src s h i hr with hc | hab
  · exact hc
  · rw [hab.2] at hp; cases hp

/-- **Document, Blockquote, List, ListItem and ThematicBreak nodes carry no lines** in the final store of the run with the
    transformer (the analogue of `run_no_lines` of GM.Proof.BlocksOrdRun) -/
theorem runT_transform_no_lines (src : Bytes) (s : St) (h : runT [transform] src = .ok s) :
    ∀ i, noLinesKind (nd s i).kind = true → (nd s i).lines = [] :=
  (runT_transform_cinv src s h).1.nl

/-- the tree links of the final store are consistent (`TreeOK` of GM.Proof.BlocksClosedTree: parents are older; every entry of a child list
    points back; child lists have no duplicates) -/
theorem runT_transform_tree (src : Bytes) (s : St) (h : runT [transform] src = .ok s) : TreeOK s :=
  (runT_transform_cinv src s h).1.tree

/-- the tree-walk form: every entry of a child list has that parent, and (when not raw) padding 0 on all its lines -/
theorem runT_transform_child_closed (src : Bytes) (s : St) (h : runT [transform] src = .ok s) (p c : Nat)
    (hc : c ∈ (nd s p).children) :
    (nd s c).parent = some p ∧ (isRaw (nd s c).kind = false → ∀ t ∈ (nd s c).lines, t.padding = 0) := by
  have hk := (runT_transform_tree src s h).kid p c hc
  exact ⟨hk, fun hr => runT_transform_attached_closed src s h c hr (by rw [hk]; rfl)⟩

/-- **the open-block stack is empty when the block phase with the transformer ends** -/
theorem runT_transform_opened_nil (src : Bytes) (s : St) (h : runT [transform] src = .ok s) : s.pc.opened = [] :=
  (runT_transform_cinv src s h).2

/-- node 0 of the final store is the Document (from the no-panic walk's invariant at the end of the run) -/
theorem runT_transform_root (src : Bytes) (s : St) (h : runT [transform] src = .ok s) :
    (nd s 0).kind = .document ∧ 0 < s.nodes.length := by
  rw [← guard_never_fires src .nil] at h
  unfold runT at h
  rw [parseBlocksT_eq] at h
  cases hx : blocksLoopT [guardE .nil] 0 (linesFuel src) [] (st0 src) with
  | error e' => rw [hx] at h; cases h
  | ok p =>
    obtain ⟨u, s1⟩ := p
    rw [hx] at h
    have : s1 = s := by simpa [Except.map] using h
    subst this
    rw [blocksLoopT_eqC] at hx
    have hst := oke_of_ok (GM.Blocks.L.G.X.blocksLoopL (lsp_all src)
      (GM.Blocks.L.G.X.ptsSpecX_of_ptsSpec (GM.Proof.LinkRefTot2.guardE_ptsSpec src .nil)) (closeLike_bpClose src) 0 rfl
      (linesFuel src) [] (st0 src) RCur.init (ri_init src) (fun h => absurd rfl h) (TX.stableG_st0 src) rfl) hx
    exact ⟨hst.ls.rootKind, hst.ls.rootLt⟩

/-! ### the same for `GM.Convert.blockPhase true` -/

theorem blockPhase_runT (src : Bytes) (s : St) (h : GM.Convert.blockPhase true src = .ok s) :
    runT [transform] src = .ok s := by
  rw [blockPhase_guard_irrelevant src] at h
  simpa [GM.Convert.blockPhase, GM.Convert.paragraphTransformers] using h

theorem blockPhase_closed (src : Bytes) (s : St) (h : GM.Convert.blockPhase true src = .ok s) :
    ∀ i, isRaw (nd s i).kind = false → Closed (nd s i) ∨ ((nd s i).kind = .heading ∧ (nd s i).parent = none) :=
  runT_transform_closed src s (blockPhase_runT src s h)

theorem blockPhase_attached_closed (src : Bytes) (s : St) (h : GM.Convert.blockPhase true src = .ok s) (i : Nat)
    (hr : isRaw (nd s i).kind = false) (hp : (nd s i).parent.isSome = true) : ∀ t ∈ (nd s i).lines, t.padding = 0 :=
  runT_transform_attached_closed src s (blockPhase_runT src s h) i hr hp

theorem blockPhase_tree (src : Bytes) (s : St) (h : GM.Convert.blockPhase true src = .ok s) : TreeOK s :=
  runT_transform_tree src s (blockPhase_runT src s h)

theorem blockPhase_child_closed (src : Bytes) (s : St) (h : GM.Convert.blockPhase true src = .ok s) (p c : Nat)
    (hc : c ∈ (nd s p).children) :
    (nd s c).parent = some p ∧ (isRaw (nd s c).kind = false → ∀ t ∈ (nd s c).lines, t.padding = 0) :=
  runT_transform_child_closed src s (blockPhase_runT src s h) p c hc

theorem blockPhase_root (src : Bytes) (s : St) (h : GM.Convert.blockPhase true src = .ok s) :
    (nd s 0).kind = .document ∧ 0 < s.nodes.length :=
  runT_transform_root src s (blockPhase_runT src s h)

theorem blockPhase_no_lines (src : Bytes) (s : St) (h : GM.Convert.blockPhase true src = .ok s) :
    ∀ i, noLinesKind (nd s i).kind = true → (nd s i).lines = [] :=
  runT_transform_no_lines src s (blockPhase_runT src s h)

theorem blockPhase_opened_nil (src : Bytes) (s : St) (h : GM.Convert.blockPhase true src = .ok s) : s.pc.opened = [] :=
  runT_transform_opened_nil src s (blockPhase_runT src s h)

/-! ### the counterexample to "every node of the store" -/

/-- `> [a]: /u⏎>⇥===⏎`: the paragraph inside the block quote is a link reference definition only; the setext heading
    parser has built a Heading on the underline `>⇥===` (padding 2 behind the tab) when the transformer empties the
    paragraph — the Heading node (3) is abandoned, parentless, with its raw bar line -/
def exAbandoned : Bytes := [62, 32, 91, 97, 93, 58, 32, 47, 117, 10, 62, 9, 61, 61, 61, 10]

example : (runT [transform] exAbandoned).toOption.map (fun s =>
    decide ((nd s 3).kind = .heading) && (nd s 3).parent.isNone &&
      (nd s 3).lines.map (fun t => (t.start, t.stop, t.padding)) == [(12, 16, 2)]) = some true := by decide +kernel

end GM.Blocks.TO
end BlocksTNOClosedLR

section BlocksTNOFinalLR
/-
  The facts about the final store of the block phase (with the link-reference transformer) in the
  shape `GM.Props.ConvertE2ENT.convert_total_of_block_phase_theorems` consumes: a walk from the Document over child lists only meets non-raw
  nodes whose lines all have padding 0, and the Document itself has no lines.
-/

namespace GM.Blocks.TO
open GM GM.Text GM.Spec GM.Proof.Reader GM.LinkRef
open GM.Proof.BlocksWF0 (isRaw)

/-- the Document (node 0) has no lines -/
theorem runT_transform_root_no_lines (src : Bytes) (s : St) (h : runT [transform] src = .ok s) : (nd s 0).lines = [] :=
  runT_transform_no_lines src s h 0 (by rw [(runT_transform_root src s h).1]; rfl)

theorem blockPhase_root_no_lines (src : Bytes) (s : St) (h : GM.Convert.blockPhase true src = .ok s) :
    (nd s 0).lines = [] :=
  runT_transform_root_no_lines src s (blockPhase_runT src s h)

theorem runT_transform_pad_facts (src : Bytes) (s : St) (h : runT [transform] src = .ok s) :
    (∀ p c, c ∈ (s.nodes.getD p default).children → isRaw (s.nodes.getD c default).kind = false →
      ∀ t ∈ (s.nodes.getD c default).lines, t.padding = 0) ∧ (s.nodes.getD 0 default).lines = [] :=
  ⟨fun p c hc hr => (runT_transform_child_closed src s h p c hc).2 hr, runT_transform_root_no_lines src s h⟩

/-- **what the end-to-end theorem needs of the block phase**: every entry of a child list that is not raw has padding 0
    on all its lines, and the Document has no lines -/
theorem blockPhase_pad_facts (src : Bytes) (s : St) (h : GM.Convert.blockPhase true src = .ok s) :
    (∀ p c, c ∈ (s.nodes.getD p default).children → isRaw (s.nodes.getD c default).kind = false →
      ∀ t ∈ (s.nodes.getD c default).lines, t.padding = 0) ∧ (s.nodes.getD 0 default).lines = [] :=
  runT_transform_pad_facts src s (blockPhase_runT src s h)

/-- the order clause for the raw kinds (CodeBlock, FencedCodeBlock, HTMLBlock) in the final store of `blockPhase true` -/
theorem blockPhase_ordered_raw (src : Bytes) (s : St) (h : GM.Convert.blockPhase true src = .ok s) :
    ∀ n ∈ s.nodes, isRaw n.kind = true → OrdFrom 0 n.lines :=
  runT_transform_ordered_raw src s (blockPhase_runT src s h)

/-- order, non-empty segments and `WFSegs` for the non-raw nodes of the final store of `blockPhase true`; every line of a
    Paragraph holds a non-space byte -/
theorem blockPhase_wfsegs (src : Bytes) (s : St) (h : GM.Convert.blockPhase true src = .ok s) :
    (∀ n ∈ s.nodes, isRaw n.kind = false → OrdFrom 0 n.lines ∧ (∀ t ∈ n.lines, t.start < t.stop ∧ t.forceNewline = false) ∧
      (n.lines ≠ [] → WFSegs src n.lines)) ∧
    (∀ n ∈ s.nodes, n.kind = .paragraph → ∀ t ∈ n.lines, NonBlankSeg src t) :=
  runT_transform_wfsegs src s (blockPhase_runT src s h)

/-- the lines of EVERY node of the final store increase (raw or not) -/
theorem blockPhase_ordered_all (src : Bytes) (s : St) (h : GM.Convert.blockPhase true src = .ok s) :
    ∀ n ∈ s.nodes, OrdFrom 0 n.lines := by
  intro n hn
  cases hr : isRaw n.kind with
  | true => exact blockPhase_ordered_raw src s h n hn hr
  | false => exact ((blockPhase_wfsegs src s h).1 n hn hr).1

end GM.Blocks.TO
end BlocksTNOFinalLR
