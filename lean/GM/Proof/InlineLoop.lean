/-
  GM.Proof.InlineLoop — lemmas about the model of `(*parser).parseBlock` (GM.Model.InlineLoop).
-/
import GM.Model.InlineLoop
import GM.Spec.HardBreak

namespace GM.Proof.InlineLoop
open GM GM.InlineLoop

theorem slice_self (src : Bytes) (a : Nat) : slice src a a = [] := by simp [slice]

theorem slice_append (src : Bytes) {a b c : Nat} (h1 : a ≤ b) (h2 : b ≤ c) :
    slice src a b ++ slice src b c = slice src a c := by
  unfold slice
  have e : c - a = (b - a) + (c - b) := by omega
  rw [e, List.take_add, List.drop_drop]
  have : a + (b - a) = b := by omega
  rw [this]

theorem slice_length (src : Bytes) {a b : Nat} (h1 : a ≤ b) (h2 : b ≤ src.length) : (slice src a b).length = b - a := by
  simp [slice]; omega

theorem le_trimStop (src : Bytes) (a b : Nat) : a ≤ trimStop src a b := by
  induction b with
  | zero => simp [trimStop]
  | succ b ih =>
    unfold trimStop
    split
    · omega
    · split <;> omega

theorem trimStop_le (src : Bytes) (a b : Nat) (h : a ≤ b) : trimStop src a b ≤ b := by
  induction b with
  | zero => simp [trimStop]; omega
  | succ b ih =>
    unfold trimStop
    split
    · omega
    · split
      · have := ih (by omega); omega
      · omega

theorem trimStop_shift (src : Bytes) (s0 sp cur : Nat) (h0 : s0 ≤ sp) (h : sp < trimStop src sp cur) :
    trimStop src s0 cur = trimStop src sp cur := by
  induction cur with
  | zero => simp [trimStop] at h
  | succ b ih =>
    unfold trimStop at h ⊢
    by_cases hb : b < sp
    · simp [hb] at h
    · have hb0 : ¬ b < s0 := by omega
      simp only [hb, hb0, if_false] at h ⊢
      split
      · rename_i hs; simp only [hs, if_true] at h; exact ih h
      · rfl

theorem trimStop_empty (src : Bytes) (s0 sp cur : Nat) (h0 : s0 ≤ sp) (h1 : sp ≤ cur) (h : trimStop src sp cur ≤ sp) :
    trimStop src s0 cur = trimStop src s0 sp := by
  induction cur with
  | zero => have : sp = 0 := by omega
            subst this; rfl
  | succ b ih =>
    by_cases hb : b < sp
    · have : sp = b + 1 := by omega
      subst this; rfl
    · have hb0 : ¬ b < s0 := by omega
      unfold trimStop at h
      simp only [hb, if_false] at h
      rw [trimStop]
      simp only [hb0, if_false]
      split
      · rename_i hs; simp only [hs, if_true] at h; exact ih (by omega) h
      · rename_i hs; simp only [hs] at h; simp at h; omega

/-- the text flushed so far in the current stretch `[s0, p)` on top of the older children `k` -/
def fl (k : List Child) (s0 p : Nat) : List Child := if s0 = p then k else .text s0 p false false :: k

/-- the last child, if a Text, ends strictly before `p` -/
def inert (k : List Child) (p : Nat) : Prop := ∀ a t s h rest, k = .text a t s h :: rest → t < p

theorem inert_nil (p : Nat) : inert [] p := by intro a t s h rest e; cases e
theorem inert_node (id : Nat) (k : List Child) (p : Nat) : inert (.node id :: k) p := by
  intro a t s h rest e; cases e
theorem inert_mono {k : List Child} {p q : Nat} (h : inert k p) (hpq : p ≤ q) : inert k q := by
  intro a t s h' rest e; have := h a t s h' rest e; omega

theorem mergeOrAppend_fl {k : List Child} {s0 sp e : Nat} (hk : inert k s0) (h0 : s0 ≤ sp) (h1 : sp < e) :
    mergeOrAppend (fl k s0 sp) sp e = fl k s0 e := by
  unfold fl
  by_cases h : s0 = sp
  · subst h
    have hne : s0 ≠ e := by omega
    simp only [if_true, hne, if_false]
    match k, hk with
    | [], _ => rfl
    | .node _ :: _, _ => rfl
    | .text a t s h' :: rest, hk =>
      have := hk a t s h' rest rfl
      have hts : (t == s0) = false := by simp; omega
      simp [mergeOrAppend, hts]
  · have hne : s0 ≠ e := by omega
    simp [h, hne, mergeOrAppend]

theorem resolve_cons (src : Bytes) (x : Child) (k : List Child) :
    resolve src (x :: k) = resolve src k ++ itemsOf src x := by
  simp [resolve]

def bytesOf (src : Bytes) (a b : Nat) : List Item := (slice src a b).map .byte

theorem bytesOf_append (src : Bytes) {a b c : Nat} (h1 : a ≤ b) (h2 : b ≤ c) :
    bytesOf src a b ++ bytesOf src b c = bytesOf src a c := by
  unfold bytesOf; rw [← List.map_append, slice_append src h1 h2]

theorem bytesOf_self (src : Bytes) (a : Nat) : bytesOf src a a = [] := by simp [bytesOf, slice_self]

theorem resolve_fl (src : Bytes) (k : List Child) (s0 p : Nat) :
    resolve src (fl k s0 p) = resolve src k ++ bytesOf src s0 p := by
  unfold fl
  split
  · rename_i h; subst h; simp [bytesOf_self]
  · simp [resolve_cons, itemsOf, bytesOf]

theorem repairPrev_inert (src : Bytes) {k : List Child} {s0 : Nat} (hk : inert k s0) : repairPrev src k s0 = k := by
  match k, hk with
  | [], _ => rfl
  | .node _ :: _, _ => rfl
  | .text a t true _ :: rest, _ => rfl
  | .text a t false true :: rest, _ => rfl
  | .text a t false false :: rest, hk =>
    have := hk a t false false rest rfl
    have hts : (t == s0) = false := by simp; omega
    simp [repairPrev, hts]

def brkOf (f : Flags) : List Item := if f.soft || f.hard then [.brk f.soft f.hard] else []

/-- where the end-of-line Text stops -/
def eolStop (src : Bytes) (f : Flags) (s0 cur : Nat) : Nat :=
  if f.hard && f.visible then cur else trimStop src s0 cur

/-- closed form of the end-of-line step: whatever part `[s0, sp)` of the stretch had already been flushed, the
    resolved text is the older children, the bytes `[s0, eolStop)` and the break -/
theorem eolKids_resolve (src : Bytes) (f : Flags) {k : List Child} {s0 sp cur : Nat}
    (hk : inert k s0) (h0 : s0 ≤ sp) (h1 : sp ≤ cur) :
    resolve src (eolKids src f (fl k s0 sp) sp cur) =
      resolve src k ++ bytesOf src s0 (eolStop src f s0 cur) ++ brkOf f := by
  unfold eolKids eolStop
  by_cases hv : (f.hard && f.visible) = true
  · simp only [hv, if_true]
    rw [resolve_cons, resolve_fl]
    simp only [itemsOf, List.append_assoc]
    rw [← List.append_assoc (bytesOf src s0 sp)]
    show _ ++ ((bytesOf src s0 sp ++ bytesOf src sp cur) ++ _) = _
    rw [bytesOf_append src h0 h1]; rfl
  · simp only [hv, if_false, Bool.false_eq_true]
    by_cases he : sp ≥ trimStop src sp cur
    · simp only [he, if_true]
      have hE := trimStop_empty src s0 sp cur h0 h1 he
      rw [hE]
      by_cases hs : s0 = sp
      · subst hs
        have hfl : fl k s0 s0 = k := by simp [fl]
        rw [hfl]
        have hrep : repairPrev src k s0 = k := repairPrev_inert src hk
        rw [hrep, resolve_cons]
        have : trimStop src s0 s0 = s0 := by
          have a1 := le_trimStop src s0 s0
          have a2 := trimStop_le src s0 s0 (Nat.le_refl _)
          omega
        simp [itemsOf, slice_self, this, bytesOf_self, brkOf]
      · have hfl : fl k s0 sp = .text s0 sp false false :: k := by simp [fl, hs]
        rw [hfl]
        simp only [repairPrev, beq_self_eq_true, if_true]
        rw [resolve_cons, resolve_cons]
        simp [itemsOf, slice_self, bytesOf, brkOf]
    · simp only [he, if_false]
      have hlt : sp < trimStop src sp cur := by omega
      rw [trimStop_shift src s0 sp cur h0 hlt, resolve_cons, resolve_fl]
      simp only [itemsOf, List.append_assoc]
      rw [← List.append_assoc (bytesOf src s0 sp)]
      show _ ++ ((bytesOf src s0 sp ++ bytesOf src sp _) ++ _) = _
      rw [bytesOf_append src h0 (Nat.le_of_lt hlt)]; rfl

theorem advance_zero (b : Block) (r : Reader) : advance b r 0 = r := by
  unfold advance; split <;> simp [advanceSlow]

theorem advance_fast (b : Block) (r : Reader) (n : Nat) (h : r.start + n < r.stop) :
    advance b r n = { r with start := r.start + n } := by
  unfold advance; have : n < r.stop - r.start := by omega
  simp [this]

/-- what a consultation of the parsers `ps` at the reader position `saved` returns: the first acceptance -/
def firstAccept (b : Block) (saved : Reader) : List Parser → Option (Reader × Nat)
  | [] => none
  | p :: ps =>
    match p.script saved.line saved.start with
    | .accept n id => some (advance b saved n, id)
    | .decline _ => firstAccept b saved ps

theorem tryParsers_fst (b : Block) (saved : Reader) (pc : UInt8) (i : Nat) (c : UInt8) (esc : Bool)
    (ps : List Parser) (log : List Call) :
    (tryParsers b saved pc i c esc ps log).1 = firstAccept b saved ps := by
  induction ps generalizing log with
  | nil => rfl
  | cons p ps ih =>
    unfold tryParsers firstAccept
    cases h : p.script saved.line saved.start with
    | accept n id => rfl
    | decline m => exact ih _

theorem firstAccept_append (b : Block) (saved : Reader) (xs ys : List Parser) :
    firstAccept b saved (xs ++ ys) =
      match firstAccept b saved xs with
      | some r => some r
      | none => firstAccept b saved ys := by
  induction xs with
  | nil => rfl
  | cons p xs ih =>
    simp only [List.cons_append, firstAccept]
    cases h : p.script saved.line saved.start with
    | accept n id => rfl
    | decline m => exact ih

theorem mem_table {ps : List Parser} {pc : UInt8} {q : Parser} (h : q ∈ table ps pc) : q ∈ ps ∧ pc ∈ q.triggers := by
  unfold table at h
  rw [List.mem_flatMap] at h
  obtain ⟨p, hp, hq⟩ := h
  rw [List.mem_map] at hq
  obtain ⟨x, hx, rfl⟩ := hq
  rw [List.mem_filter] at hx
  have : x = pc := by simpa using hx.2
  exact ⟨hp, this ▸ hx.1⟩

theorem firstAccept_some {b : Block} {saved : Reader} {xs : List Parser} {rd' : Reader} {id : Nat}
    (h : firstAccept b saved xs = some (rd', id)) :
    ∃ q ∈ xs, ∃ n, q.script saved.line saved.start = .accept n id ∧ rd' = advance b saved n := by
  induction xs with
  | nil => cases h
  | cons p xs ih =>
    unfold firstAccept at h
    cases hs : p.script saved.line saved.start with
    | accept n id' =>
      rw [hs] at h
      simp only [Option.some.injEq, Prod.mk.injEq] at h
      exact ⟨p, List.mem_cons_self, n, by rw [hs, h.2], h.1.symm⟩
    | decline m =>
      rw [hs] at h
      obtain ⟨q, hq, n, h1, h2⟩ := ih h
      exact ⟨q, List.mem_cons_of_mem _ hq, n, h1, h2⟩

/-- the trigger test parser.go:1199-1201 and the table index parser.go:1202-1205 -/
def isSp (c : UInt8) : Bool := isSpace c && c != 13 && c != 10
def trigOf (escSpace : Bool) (c : UInt8) (i : Nat) (escaped : Bool) : Bool :=
  (isPunct c && !escaped) || (isSp c && !(escaped && escSpace)) || i == 0
def pcOf (c : UInt8) (i : Nat) : UInt8 := if isSp c || (i == 0 && !isPunct c) then 32 else c

theorem step_def (P : Params) (b : Block) (c : UInt8) (i n sp : Nat) (st : St) :
    step P b c i n sp st =
      if trigOf P.escapedSpace c i st.escaped && !(table P.parsers (pcOf c i)).isEmpty then
        match tryParsers b (advance b st.rd n) (pcOf c i) i c st.escaped (table P.parsers (pcOf c i)) st.log with
        | (some (rd', id), log) =>
          .hit { st with rd := rd', log := log,
                         kids := .node id :: (if i != 0 then mergeOrAppend st.kids sp (advance b st.rd n).start else st.kids) }
        | (none, log) =>
          .cont 1 (if i != 0 then (advance b st.rd n).start else sp)
            { st with rd := advance b st.rd n, log := log, escaped := !st.escaped && c == 92,
                      kids := (if i != 0 then mergeOrAppend st.kids sp (advance b st.rd n).start else st.kids) }
      else .cont (n + 1) sp { st with escaped := !st.escaped && c == 92 } := rfl

/-- the three outcomes of one byte, in closed form -/
theorem step_cases (P : Params) (b : Block) (c : UInt8) (i n sp : Nat) (st : St) (k : List Child) (s0 : Nat)
    (hroom : st.rd.start + n < st.rd.stop) (hsp : sp = st.rd.start) (hk : st.kids = fl k s0 st.rd.start)
    (hin : inert k s0) (hs0 : s0 ≤ st.rd.start) (hi0 : i = 0 → n = 0) (hipos : i ≠ 0 → 1 ≤ n) :
    let cur := st.rd.start + n
    let rdc : Reader := { st.rd with start := cur }
    let cond := trigOf P.escapedSpace c i st.escaped && !(table P.parsers (pcOf c i)).isEmpty
    let esc' := !st.escaped && c == 92
    (cond = false ∧ step P b c i n sp st = .cont (n + 1) sp { st with escaped := esc' }) ∨
    (cond = true ∧ firstAccept b rdc (table P.parsers (pcOf c i)) = none ∧
      ∃ log, step P b c i n sp st = .cont 1 cur ⟨rdc, fl k s0 cur, esc', log⟩) ∨
    (cond = true ∧ ∃ rd' id log, firstAccept b rdc (table P.parsers (pcOf c i)) = some (rd', id) ∧
      step P b c i n sp st = .hit ⟨rd', .node id :: fl k s0 cur, st.escaped, log⟩) := by
  intro cur rdc cond esc'
  have hadv : advance b st.rd n = rdc := advance_fast b st.rd n hroom
  have hkids : (if i != 0 then mergeOrAppend st.kids sp (advance b st.rd n).start else st.kids) = fl k s0 cur := by
    rw [hadv]
    by_cases h : i = 0
    · have : n = 0 := hi0 h
      subst h; simp [hk, cur, this]
    · have := hipos h
      have hne : (i != 0) = true := by simp [h]
      simp only [hne, if_true]
      rw [hk, hsp]
      exact mergeOrAppend_fl hin hs0 (by show st.rd.start < st.rd.start + n; omega)
  have hsp' : (if i != 0 then (advance b st.rd n).start else sp) = cur := by
    rw [hadv]
    by_cases h : i = 0
    · have : n = 0 := hi0 h
      subst h; simp [hsp, cur, this]
    · have hne : (i != 0) = true := by simp [h]
      simp [hne, rdc]
  cases hc : cond with
  | false =>
    left
    refine ⟨rfl, ?_⟩
    have hc' : (trigOf P.escapedSpace c i st.escaped && !(table P.parsers (pcOf c i)).isEmpty) = false := hc
    rw [step_def, hc']
    rfl
  | true =>
    right
    have hc' : (trigOf P.escapedSpace c i st.escaped && !(table P.parsers (pcOf c i)).isEmpty) = true := hc
    have hfst := tryParsers_fst b (advance b st.rd n) (pcOf c i) i c st.escaped (table P.parsers (pcOf c i)) st.log
    rw [hadv] at hfst
    cases hr : tryParsers b (advance b st.rd n) (pcOf c i) i c st.escaped (table P.parsers (pcOf c i)) st.log with
    | mk r log =>
      rw [hadv] at hr
      rw [hr] at hfst
      simp only at hfst
      cases r with
      | none =>
        left
        refine ⟨rfl, hfst.symm, log, ?_⟩
        rw [step_def, hc', hkids, hsp', hadv, hr]
        rfl
      | some v =>
        right
        obtain ⟨rd', id⟩ := v
        refine ⟨rfl, rd', id, log, hfst.symm, ?_⟩
        rw [step_def, hc', hkids, hadv, hr]
        rfl

/-! ### two runs of the byte loop side by side -/

/-- `B` consults at least where `A` consults, and every consultation has the same result -/
structure TabRel (A B : List Parser) : Prop where
  same : ∀ pc b saved, firstAccept b saved (table A pc) = firstAccept b saved (table B pc)
  more : ∀ pc, (table A pc).isEmpty = false → (table B pc).isEmpty = false

theorem TabRel.refl (A : List Parser) : TabRel A A := ⟨fun _ _ _ => rfl, fun _ h => h⟩

/-- bytes before the first newline -/
def pre (cs : List UInt8) : Nat := (cs.takeWhile (· != 10)).length

theorem pre_cons_ne {c : UInt8} (cs : List UInt8) (h : (c == 10) = false) : pre (c :: cs) = pre cs + 1 := by
  have : (c != 10) = true := by simp [bne, h]
  simp [pre, List.takeWhile, this]

theorem pre_cons_nl (cs : List UInt8) : pre (10 :: cs) = 0 := by simp [pre, List.takeWhile]

theorem pre_le (cs : List UInt8) : pre cs ≤ cs.length := by
  unfold pre; exact (List.takeWhile_sublist _).length_le

structure Sim (i nA nB s0 : Nat) (kA kB : List Child) (spA spB : Nat) (stA stB : St) : Prop where
  line : stB.rd.line = stA.rd.line
  stop : stB.rd.stop = stA.rd.stop
  esc : stB.escaped = stA.escaped
  cur : stB.rd.start + nB = stA.rd.start + nA
  spA : spA = stA.rd.start
  spB : spB = stB.rd.start
  kidsA : stA.kids = fl kA s0 stA.rd.start
  kidsB : stB.kids = fl kB s0 stB.rd.start
  s0A : s0 ≤ stA.rd.start
  s0B : s0 ≤ stB.rd.start
  i0 : i = 0 → nA = 0 ∧ nB = 0
  ipos : i ≠ 0 → 1 ≤ nA ∧ 1 ≤ nB

def ScanPost (PA : Params) (b : Block) (line stop cur0 : Nat) (cs : List UInt8) (s0 : Nat) (kA kB : List Child) :
    ScanRes → ScanRes → Prop
  | .hit a, .hit b' => ∃ p id n q, cur0 ≤ p ∧ p < cur0 + pre cs ∧ q ∈ PA.parsers ∧ q.script line p = .accept n id ∧
      a.rd = advance b ⟨line, p, stop⟩ n ∧ b'.rd = a.rd ∧ b'.escaped = a.escaped ∧
      a.kids = .node id :: fl kA s0 p ∧ b'.kids = .node id :: fl kB s0 p
  | .eol a spa na, .eol b' spb nb =>
      a.rd.line = line ∧ a.rd.stop = stop ∧ b'.rd.line = line ∧ b'.rd.stop = stop ∧ b'.escaped = a.escaped ∧
      a.rd.start + na = cur0 + pre cs ∧ b'.rd.start + nb = cur0 + pre cs ∧
      spa = a.rd.start ∧ spb = b'.rd.start ∧ a.kids = fl kA s0 a.rd.start ∧ b'.kids = fl kB s0 b'.rd.start ∧
      s0 ≤ a.rd.start ∧ s0 ≤ b'.rd.start
  | _, _ => False

theorem ScanPost_shift {PA : Params} {b : Block} {line stop cur0 : Nat} {c : UInt8} {cs : List UInt8} {s0 : Nat}
    {kA kB : List Child} {r1 r2 : ScanRes} (hc : (c == 10) = false)
    (h : ScanPost PA b line stop (cur0 + 1) cs s0 kA kB r1 r2) :
    ScanPost PA b line stop cur0 (c :: cs) s0 kA kB r1 r2 := by
  have hp := pre_cons_ne cs hc
  cases r1 <;> cases r2 <;> simp only [ScanPost] at h ⊢
  · obtain ⟨p, id, n, q, h1, h2, rest⟩ := h
    exact ⟨p, id, n, q, by omega, by omega, rest⟩
  · obtain ⟨h1, h2, h3, h4, h5, h6, h7, rest⟩ := h
    exact ⟨h1, h2, h3, h4, h5, by omega, by omega, rest⟩

theorem scan_sim {PA PB : Params} (b : Block) (hT : TabRel PA.parsers PB.parsers) (hE : PB.escapedSpace = PA.escapedSpace)
    (s0 : Nat) (kA kB : List Child) (hinA : inert kA s0) (hinB : inert kB s0)
    (cs : List UInt8) : ∀ (i nA nB spA spB : Nat) (stA stB : St),
    Sim i nA nB s0 kA kB spA spB stA stB → stA.rd.start + nA + pre cs ≤ stA.rd.stop →
    ScanPost PA b stA.rd.line stA.rd.stop (stA.rd.start + nA) cs s0 kA kB
      (scan PA b cs i nA spA stA) (scan PB b cs i nB spB stB) := by
  induction cs with
  | nil =>
    intro i nA nB spA spB stA stB S _
    simp only [scan]
    exact ⟨rfl, rfl, S.line, S.stop, S.esc, by simp [pre], by simp [pre]; exact S.cur, S.spA, S.spB, S.kidsA, S.kidsB, S.s0A, S.s0B⟩
  | cons c cs ih =>
    intro i nA nB spA spB stA stB S hroom
    unfold scan
    cases hc : c == 10 with
    | true =>
      have : c = 10 := by simpa using hc
      subst this
      simp only [if_true]
      exact ⟨rfl, rfl, S.line, S.stop, S.esc, by simp [pre_cons_nl], by simp [pre_cons_nl]; exact S.cur, S.spA, S.spB, S.kidsA, S.kidsB, S.s0A, S.s0B⟩
    | false =>
      simp only [Bool.false_eq_true, if_false]
      have hp := pre_cons_ne cs hc
      have hrA : stA.rd.start + nA < stA.rd.stop := by omega
      have hrB : stB.rd.start + nB < stB.rd.stop := by rw [S.cur, S.stop]; exact hrA
      have cA := step_cases PA b c i nA spA stA kA s0 hrA S.spA S.kidsA hinA S.s0A (fun h => (S.i0 h).1) (fun h => (S.ipos h).1)
      have cB := step_cases PB b c i nB spB stB kB s0 hrB S.spB S.kidsB hinB S.s0B (fun h => (S.i0 h).2) (fun h => (S.ipos h).2)
      simp only at cA cB
      have hrd : ({ stB.rd with start := stB.rd.start + nB } : Reader) = { stA.rd with start := stA.rd.start + nA } := by
        have h1 := S.cur; have h2 := S.line; have h3 := S.stop
        show Reader.mk stB.rd.line (stB.rd.start + nB) stB.rd.stop = Reader.mk stA.rd.line (stA.rd.start + nA) stA.rd.stop
        rw [h1, h2, h3]
      rw [hrd, S.cur, S.esc, hE] at cB
      have hsame := hT.same (pcOf c i) b { stA.rd with start := stA.rd.start + nA }
      rcases cA with ⟨hcA, eA⟩ | ⟨hcA, fA, logA, eA⟩ | ⟨hcA, rdA, idA, logA, fA, eA⟩
      · rcases cB with ⟨hcB, eB⟩ | ⟨hcB, fB, logB, eB⟩ | ⟨hcB, rdB, idB, logB, fB, eB⟩
        · rw [eA, eB]
          have := ih (i + 1) (nA + 1) (nB + 1) spA spB { stA with escaped := !stA.escaped && c == 92 }
            { stB with escaped := !stA.escaped && c == 92 }
            ⟨S.line, S.stop, rfl, by have := S.cur; show stB.rd.start + (nB + 1) = stA.rd.start + (nA + 1); omega,
             S.spA, S.spB, S.kidsA, S.kidsB, S.s0A, S.s0B, fun h => by omega, fun _ => ⟨by omega, by omega⟩⟩
            (by show stA.rd.start + (nA + 1) + pre cs ≤ stA.rd.stop; omega)
          exact ScanPost_shift hc this
        · rw [eA, eB]
          have := ih (i + 1) (nA + 1) 1 spA (stA.rd.start + nA) { stA with escaped := !stA.escaped && c == 92 }
            ⟨{ stA.rd with start := stA.rd.start + nA }, fl kB s0 (stA.rd.start + nA), !stA.escaped && c == 92, logB⟩
            ⟨rfl, rfl, rfl, by show stA.rd.start + nA + 1 = stA.rd.start + (nA + 1); omega,
             S.spA, rfl, S.kidsA, rfl, S.s0A, by have := S.s0A; show s0 ≤ stA.rd.start + nA; omega,
             fun h => by omega, fun _ => ⟨by omega, by omega⟩⟩
            (by show stA.rd.start + (nA + 1) + pre cs ≤ stA.rd.stop; omega)
          exact ScanPost_shift hc this
        · -- B accepts where A does not even consult: impossible
          exfalso
          rw [Bool.and_eq_false_iff] at hcA
          rw [Bool.and_eq_true] at hcB
          rcases hcA with h | h
          · rw [h] at hcB; exact absurd hcB.1 (by simp)
          · have he : (table PA.parsers (pcOf c i)) = [] := by
              cases ht : table PA.parsers (pcOf c i) with
              | nil => rfl
              | cons x xs => rw [ht] at h; simp at h
            rw [he] at hsame
            rw [← hsame] at fB
            simp [firstAccept] at fB
      · have hcB' : (trigOf PA.escapedSpace c i stA.escaped && !(table PB.parsers (pcOf c i)).isEmpty) = true := by
          rw [Bool.and_eq_true] at hcA ⊢
          refine ⟨hcA.1, ?_⟩
          have h2 := hcA.2
          have := hT.more (pcOf c i) (by simpa using h2)
          simp [this]
        rcases cB with ⟨hcB, eB⟩ | ⟨hcB, fB, logB, eB⟩ | ⟨hcB, rdB, idB, logB, fB, eB⟩
        · rw [hcB'] at hcB; cases hcB
        · rw [eA, eB]
          have := ih (i + 1) 1 1 (stA.rd.start + nA) (stA.rd.start + nA)
            ⟨{ stA.rd with start := stA.rd.start + nA }, fl kA s0 (stA.rd.start + nA), !stA.escaped && c == 92, logA⟩
            ⟨{ stA.rd with start := stA.rd.start + nA }, fl kB s0 (stA.rd.start + nA), !stA.escaped && c == 92, logB⟩
            ⟨rfl, rfl, rfl, rfl, rfl, rfl, rfl, rfl, by have := S.s0A; show s0 ≤ stA.rd.start + nA; omega,
             by have := S.s0A; show s0 ≤ stA.rd.start + nA; omega, fun h => by omega, fun _ => ⟨by omega, by omega⟩⟩
            (by show stA.rd.start + nA + 1 + pre cs ≤ stA.rd.stop; omega)
          exact ScanPost_shift hc this
        · exfalso; rw [fA] at hsame; rw [← hsame] at fB; cases fB
      · have hcB' : (trigOf PA.escapedSpace c i stA.escaped && !(table PB.parsers (pcOf c i)).isEmpty) = true := by
          rw [Bool.and_eq_true] at hcA ⊢
          refine ⟨hcA.1, ?_⟩
          have h2 := hcA.2
          have := hT.more (pcOf c i) (by simpa using h2)
          simp [this]
        rcases cB with ⟨hcB, eB⟩ | ⟨hcB, fB, logB, eB⟩ | ⟨hcB, rdB, idB, logB, fB, eB⟩
        · rw [hcB'] at hcB; cases hcB
        · exfalso; rw [fA] at hsame; rw [← hsame] at fB; cases fB
        · rw [eA, eB]
          rw [fA] at hsame
          rw [← hsame] at fB
          simp only [Option.some.injEq, Prod.mk.injEq] at fB
          obtain ⟨q, hq, n, hs, hadv⟩ := firstAccept_some fA
          refine ⟨stA.rd.start + nA, idA, n, q, Nat.le_refl _, by omega, (mem_table hq).1, hs, hadv, fB.1.symm, rfl, rfl, ?_⟩
          rw [← fB.2]

/-- what the block parsers guarantee about `Lines()`: non-empty segments inside the source, in increasing order
    without overlap, every line but the last ends with its newline -/
structure WF (b : Block) : Prop where
  segs : ∀ (i : Nat) (s : Seg), b.lines[i]? = some s → s.start < s.stop ∧ s.stop ≤ b.src.length
  sorted : ∀ (i : Nat) (s t : Seg), b.lines[i]? = some s → b.lines[i + 1]? = some t → s.stop ≤ t.start
  nl : ∀ (i : Nat) (s : Seg), b.lines[i]? = some s → i + 1 < b.lines.length → b.src[s.stop - 1]? = some 10

theorem last_eq {b : Block} {i : Nat} {s : Seg} (h : b.lines[i]? = some s) (hl : i + 1 = b.lines.length) :
    b.last = s.stop := by
  unfold Block.last
  rw [List.getLast?_eq_getElem?]
  have : b.lines.length - 1 = i := by omega
  rw [this, h]

theorem sorted_lt {b : Block} (hWF : WF b) {i : Nat} {s : Seg} (hs : b.lines[i]? = some s) :
    ∀ d t, b.lines[i + 1 + d]? = some t → s.stop ≤ t.start := by
  intro d
  induction d with
  | zero => intro t ht; exact hWF.sorted i s t hs ht
  | succ d ih =>
    intro t ht
    have hlt : i + 1 + d < b.lines.length := by
      have := (List.getElem?_eq_some_iff.mp ht).1; omega
    have hu : b.lines[i + 1 + d]? = some b.lines[i + 1 + d] := List.getElem?_eq_getElem hlt
    have h1 := ih _ hu
    have h2 := hWF.sorted (i + 1 + d) _ t hu ht
    have h3 := (hWF.segs _ _ hu).1
    omega

theorem stop_lt_last {b : Block} (hWF : WF b) {i : Nat} {s : Seg} (hs : b.lines[i]? = some s)
    (hl : i + 1 < b.lines.length) : s.stop < b.last := by
  have hlt : b.lines.length - 1 < b.lines.length := by omega
  have hu : b.lines[b.lines.length - 1]? = some b.lines[b.lines.length - 1] := List.getElem?_eq_getElem hlt
  have e : i + 1 + (b.lines.length - 1 - (i + 1)) = b.lines.length - 1 := by omega
  have h1 := sorted_lt hWF hs (b.lines.length - 1 - (i + 1)) b.lines[b.lines.length - 1] (by rw [e]; exact hu)
  have h2 := (hWF.segs _ _ hu).1
  rw [last_eq hu (by omega)]
  omega

/-- the reader sits on its line: same Stop, not before the line's Start, and before the Stop on every line but the last -/
def RI (b : Block) (r : Reader) : Prop :=
  ∀ s, b.lines[r.line]? = some s → r.stop = s.stop ∧ s.start ≤ r.start ∧ (r.line + 1 < b.lines.length → r.start < r.stop)

theorem RI_setLine {b : Block} (hWF : WF b) (r : Reader) (l : Nat) : RI b (setLine b r l) := by
  unfold setLine
  cases h : b.lines[l]? with
  | none => intro s hs; simp only at hs; rw [h] at hs; cases hs
  | some t =>
    intro s hs
    simp only at hs
    rw [h] at hs
    cases hs
    exact ⟨rfl, Nat.le_refl _, fun _ => (hWF.segs l t h).1⟩

theorem RI_advance1 {b : Block} (hWF : WF b) {r : Reader} (h : RI b r) : RI b (advance1 b r) := by
  unfold advance1
  split
  · exact RI_setLine hWF r _
  · rename_i hn
    intro s hs
    obtain ⟨h1, h2, h3⟩ := h s hs
    refine ⟨h1, by show s.start ≤ r.start + 1; omega, fun hl => ?_⟩
    have hl' : r.line + 1 < b.lines.length := hl
    have := stop_lt_last hWF hs hl'
    show r.start + 1 < r.stop
    have h3' := h3 hl'
    rw [← h1] at this
    omega

theorem RI_advanceSlow {b : Block} (hWF : WF b) (n : Nat) : ∀ {r : Reader}, RI b r → RI b (advanceSlow b n r) := by
  induction n with
  | zero => intro r h; exact h
  | succ n ih => intro r h; exact ih (RI_advance1 hWF h)

theorem RI_advance {b : Block} (hWF : WF b) {r : Reader} (h : RI b r) (n : Nat) : RI b (advance b r n) := by
  unfold advance
  split
  · intro s hs
    obtain ⟨h1, h2, _⟩ := h s hs
    exact ⟨h1, by show s.start ≤ r.start + n; omega, fun _ => by show r.start + n < r.stop; omega⟩
  · exact RI_advanceSlow hWF n h

theorem advanceSlow_last (b : Block) (n : Nat) : ∀ (r : Reader), ¬ r.stop < b.last →
    advanceSlow b n r = { r with start := r.start + n } := by
  induction n with
  | zero => intro r _; rfl
  | succ n ih =>
    intro r h
    have h1 : advance1 b r = { r with start := r.start + 1 } := by
      unfold advance1
      have : ¬ (r.start + 1 ≥ r.stop ∧ r.stop < b.last) := fun hh => h hh.2
      simp [this]
    show advanceSlow b n (advance1 b r) = _
    rw [h1, ih ⟨r.line, r.start + 1, r.stop⟩ h]
    show Reader.mk r.line (r.start + 1 + n) r.stop = Reader.mk r.line (r.start + (n + 1)) r.stop
    congr 1; omega

theorem advance_to (b : Block) (r : Reader) (n : Nat) (h : r.start + n < r.stop ∨ ¬ r.stop < b.last) :
    advance b r n = { r with start := r.start + n } := by
  rcases h with h | h
  · exact advance_fast b r n h
  · unfold advance; split
    · rfl
    · exact advanceSlow_last b n r h

theorem slice_getD (src : Bytes) {a b k : Nat} (hk : k < b - a) :
    (slice src a b).getD k 0 = src.getD (a + k) 0 := by
  unfold slice
  simp [List.getD_eq_getElem?_getD, List.getElem?_take, hk]

theorem classify_fst_le (line : Bytes) : (classify line).1 ≤ line.length := by
  have chain : ∀ (c1 c2 c3 c4 n : Bool) (f1 f2 f3 f4 f5 f6 : Flags) (a1 a2 a3 a4 : Nat),
      (if c1 then (line.length - a1, f1) else if c2 then (line.length - a2, f2) else if c3 then (line.length - a3, f3)
        else if c4 then (line.length - a4, f4) else if n then (line.length, f5) else (line.length, f6)).1
      ≤ line.length := by
    intro c1 c2 c3 c4 n
    cases c1 <;> cases c2 <;> cases c3 <;> cases c4 <;> cases n <;> intros <;>
      first | exact Nat.sub_le _ _ | exact Nat.le_refl _
  exact chain ..

theorem pre_le_of_nl : ∀ (cs : List UInt8) (j : Nat), j < cs.length → cs.getD j 0 = 10 → pre cs ≤ j := by
  intro cs
  induction cs with
  | nil => intro j h; simp at h
  | cons c cs ih =>
    intro j hj hc
    cases hcn : c == 10 with
    | true =>
      have : c = 10 := by simpa using hcn
      subst this; rw [pre_cons_nl]; omega
    | false =>
      rw [pre_cons_ne cs hcn]
      cases j with
      | zero => simp at hc; rw [hc] at hcn; simp at hcn
      | succ j =>
        have := ih j (by simpa using hj) (by simpa using hc)
        omega

/-! ### one pass of two related runs -/

theorem fl_self (k : List Child) (s : Nat) : fl k s s = k := by simp [fl]

theorem eol_eq (b : Block) (f : Flags) (l : Nat) (st : St) (sp n : Nat)
    (h : st.rd.start + n < st.rd.stop ∨ ¬ st.rd.stop < b.last) (hl : l = st.rd.line) :
    eol b f l st sp n =
      { st with rd := advanceLine b { st.rd with start := st.rd.start + n },
                kids := eolKids b.src f st.kids sp (st.rd.start + n), escaped := false } := by
  have hrd : (if n != 0 then advance b st.rd n else st.rd) = { st.rd with start := st.rd.start + n } := by
    by_cases hn : n = 0
    · subst hn; simp
    · have : (n != 0) = true := by simp [hn]
      rw [this]; simp only [if_true]
      exact advance_to b st.rd n h
  unfold eol
  simp only [hrd, hl]
  simp

/-- what one pass did in two related runs `A` (from `stA`) and `B` (from `stB`) -/
inductive PassPost (PA : Params) (b : Block) (stA stB : St) : St → St → Prop
  | hit (p id n : Nat) (q : Parser) (a b' : St) :
      stA.rd.start ≤ p → p < stA.rd.stop → q ∈ PA.parsers → q.script stA.rd.line p = .accept n id →
      a.rd = advance b ⟨stA.rd.line, p, stA.rd.stop⟩ n → b'.rd = a.rd → b'.escaped = a.escaped →
      a.kids = .node id :: fl stA.kids stA.rd.start p → b'.kids = .node id :: fl stB.kids stA.rd.start p →
      PassPost PA b stA stB a b'
  | eol (f : Flags) (spa spb cur : Nat) (a b' : St) :
      stA.rd.start ≤ spa → spa ≤ cur → stA.rd.start ≤ spb → spb ≤ cur → cur ≤ stA.rd.stop →
      (stA.rd.line + 1 < b.lines.length → cur < stA.rd.stop) →
      a.rd = advanceLine b ⟨stA.rd.line, cur, stA.rd.stop⟩ → b'.rd = a.rd → b'.escaped = a.escaped →
      a.kids = eolKids b.src f (fl stA.kids stA.rd.start spa) spa cur →
      b'.kids = eolKids b.src f (fl stB.kids stA.rd.start spb) spb cur →
      PassPost PA b stA stB a b'

theorem pass_sim {PA PB : Params} {b : Block} (hWF : WF b) (hT : TabRel PA.parsers PB.parsers)
    (hE : PB.escapedSpace = PA.escapedSpace) {stA stB : St}
    (hrd : stB.rd = stA.rd) (hesc : stB.escaped = stA.escaped) (hRI : RI b stA.rd)
    (hin : peekLine b stA.rd = .none ∨ (inert stA.kids stA.rd.start ∧ inert stB.kids stA.rd.start)) :
    (pass PA b stA = .done ∧ pass PB b stB = .done ∧ peekLine b stA.rd = .none) ∨
    (∃ a b', pass PA b stA = .next a ∧ pass PB b stB = .next b' ∧ PassPost PA b stA stB a b' ∧
      ∃ l, peekLine b stA.rd = .line l) := by
  unfold pass
  rw [hrd]
  cases hp : peekLine b stA.rd with
  | none => left; exact ⟨rfl, rfl, rfl⟩
  | panic =>
    exfalso
    unfold peekLine at hp
    split at hp
    · rename_i h1
      split at hp
      · cases hp
      · rename_i h2
        obtain ⟨hl, hlast⟩ := h1
        have hu : b.lines[stA.rd.line]? = some b.lines[stA.rd.line] := List.getElem?_eq_getElem hl
        obtain ⟨r1, r2, r3⟩ := hRI _ hu
        have w := hWF.segs _ _ hu
        apply h2
        refine ⟨?_, by omega⟩
        by_cases hlen : stA.rd.line + 1 < b.lines.length
        · have := r3 hlen; omega
        · have := last_eq hu (by omega); omega
    · cases hp
  | line l =>
    right
    rcases hin with hin | ⟨hinA, hinB⟩
    · rw [hin] at hp; cases hp
    -- facts about the line
    have hp' := hp
    unfold peekLine at hp'
    split at hp'
    case isFalse => cases hp'
    rename_i h1
    split at hp'
    case isFalse => cases hp'
    rename_i h2
    simp only [Peek.line.injEq] at hp'
    obtain ⟨hl, hlast⟩ := h1
    have hu : b.lines[stA.rd.line]? = some b.lines[stA.rd.line] := List.getElem?_eq_getElem hl
    obtain ⟨r1, r2, r3⟩ := hRI _ hu
    have hlt : stA.rd.start < stA.rd.stop := by
      by_cases hlen : stA.rd.line + 1 < b.lines.length
      · exact r3 hlen
      · have := last_eq hu (by omega); omega
    have hL : l.length = stA.rd.stop - stA.rd.start := by rw [← hp']; exact slice_length _ h2.1 h2.2
    have hne : l.isEmpty = false := by
      cases l with
      | nil => simp at hL; omega
      | cons _ _ => rfl
    simp only [hne, Bool.false_eq_true, if_false]
    have hll := classify_fst_le l
    have hbody : (l.take (classify l).1).length = (classify l).1 := by simp [List.length_take]; omega
    have hpre := pre_le (l.take (classify l).1)
    have S : Sim 0 0 0 stA.rd.start stA.kids stB.kids stA.rd.start stA.rd.start stA stB :=
      ⟨by rw [hrd], by rw [hrd], hesc, by rw [hrd], rfl, by rw [hrd], (fl_self _ _).symm, by rw [hrd]; exact (fl_self _ _).symm,
       Nat.le_refl _, by rw [hrd]; exact Nat.le_refl _, fun _ => ⟨rfl, rfl⟩, fun h => absurd rfl h⟩
    have hsim := scan_sim b hT hE stA.rd.start stA.kids stB.kids hinA hinB (l.take (classify l).1) 0 0 0
      stA.rd.start stA.rd.start stA stB S (by omega)
    -- on every line but the last the scan stops before the newline
    have hnl : stA.rd.line + 1 < b.lines.length → stA.rd.start + pre (l.take (classify l).1) < stA.rd.stop := by
      intro hlen
      have hn := hWF.nl _ _ hu hlen
      have hlast1 : l.getD (l.length - 1) 0 = 10 := by
        rw [← hp', slice_length _ h2.1 h2.2, slice_getD _ (by omega)]
        have : stA.rd.start + (stA.rd.stop - stA.rd.start - 1) = b.lines[stA.rd.line].stop - 1 := by omega
        rw [this, List.getD_eq_getElem?_getD, hn]; rfl
      by_cases hc : (classify l).1 < l.length
      · omega
      · have : (classify l).1 = l.length := by omega
        rw [this, List.take_length]
        have := pre_le_of_nl l (l.length - 1) (by omega) hlast1
        omega
    have hlastline : ¬ stA.rd.line + 1 < b.lines.length → ¬ stA.rd.stop < b.last := by
      intro hlen; have := last_eq hu (by omega); omega
    cases hA : scan PA b (l.take (classify l).1) 0 0 stA.rd.start stA with
    | hit a =>
      cases hB : scan PB b (l.take (classify l).1) 0 0 stA.rd.start stB with
      | hit b' =>
        rw [hA, hB] at hsim
        obtain ⟨p, id, n, q, h1, h2', h3, h4, h5, h6, h7, h8, h9⟩ := hsim
        exact ⟨a, b', rfl, rfl, PassPost.hit p id n q a b' (by omega) (by omega) h3 h4 h5 h6 h7 h8 h9, l, rfl⟩
      | eol b' spb nb => rw [hA, hB] at hsim; exact hsim.elim
    | eol a spa na =>
      cases hB : scan PB b (l.take (classify l).1) 0 0 stA.rd.start stB with
      | hit b' => rw [hA, hB] at hsim; exact hsim.elim
      | eol b' spb nb =>
        rw [hA, hB] at hsim
        obtain ⟨e1, e2, e3, e4, e5, e6, e7, e8, e9, e10, e11, e12, e13⟩ := hsim
        have hcond : ∀ (x : St) (nx : Nat), x.rd.stop = stA.rd.stop → x.rd.start + nx = stA.rd.start + 0 + pre (l.take (classify l).1) →
            x.rd.start + nx < x.rd.stop ∨ ¬ x.rd.stop < b.last := by
          intro x nx hx1 hx2
          by_cases hlen : stA.rd.line + 1 < b.lines.length
          · left; have := hnl hlen; omega
          · right; rw [hx1]; exact hlastline hlen
        refine ⟨_, _, rfl, rfl, ?_, l, rfl⟩
        rw [eol_eq b _ _ a spa na (hcond a na e2 e6) e1.symm, eol_eq b _ _ b' spb nb (hcond b' nb e4 e7) e3.symm]
        refine PassPost.eol (classify l).2 a.rd.start b'.rd.start (stA.rd.start + pre (l.take (classify l).1)) _ _
          e12 (by omega) e13 (by omega) (by omega) (fun hlen => hnl hlen) ?_ ?_ rfl ?_ ?_
        · show advanceLine b ⟨a.rd.line, a.rd.start + na, a.rd.stop⟩ = _
          rw [e1, e2, e6]; simp
        · show advanceLine b ⟨b'.rd.line, b'.rd.start + nb, b'.rd.stop⟩ = advanceLine b ⟨a.rd.line, a.rd.start + na, a.rd.stop⟩
          rw [e1, e2, e3, e4, e6, e7]
        · show eolKids b.src _ a.kids spa (a.rd.start + na) = _
          rw [e10, e8, e6]; simp
        · show eolKids b.src _ b'.kids spb (b'.rd.start + nb) = _
          rw [e11, e9, e7]; simp

/-! ### the whole loop, two related runs -/

structure Rel (b : Block) (stA stB : St) : Prop where
  rd : stB.rd = stA.rd
  esc : stB.escaped = stA.escaped
  res : resolve b.src stB.kids = resolve b.src stA.kids
  ri : RI b stA.rd
  inert : peekLine b stA.rd = .none ∨ (inert stA.kids stA.rd.start ∧ inert stB.kids stA.rd.start)

theorem eolKids_inert (src : Bytes) (f : Flags) (k : List Child) {sp cur q : Nat} (h1 : sp ≤ cur) (h2 : cur < q) :
    inert (eolKids src f k sp cur) q := by
  unfold eolKids
  intro a t s h rest e
  split at e
  · cases e; exact h2
  · simp only at e
    split at e
    · cases e; omega
    · cases e; have := trimStop_le src sp cur h1; omega

theorem peekLine_none_of_line (b : Block) (r : Reader) (h : b.lines.length ≤ r.line) : peekLine b r = .none := by
  unfold peekLine
  have : ¬ (r.line < b.lines.length ∧ r.start < b.last) := fun hh => by omega
  simp [this]

theorem RI_mid {b : Block} {r : Reader} (h : RI b r) {p : Nat} (h1 : r.start ≤ p) (h2 : p < r.stop) :
    RI b ⟨r.line, p, r.stop⟩ := by
  intro s hs
  obtain ⟨a1, a2, _⟩ := h s hs
  exact ⟨a1, by show s.start ≤ p; omega, fun _ => h2⟩

theorem Rel_of_PassPost {PA : Params} {b : Block} (hWF : WF b) {stA stB a b' : St}
    (R : Rel b stA stB) (hinA : inert stA.kids stA.rd.start) (hinB : inert stB.kids stA.rd.start)
    (hlt : stA.rd.line < b.lines.length)
    (h : PassPost PA b stA stB a b') : Rel b a b' := by
  cases h with
  | hit p id n q _ _ h1 h2 h3 h4 h5 h6 h7 h8 h9 =>
    refine ⟨h6, h7, ?_, ?_, Or.inr ⟨?_, ?_⟩⟩
    · rw [h8, h9, resolve_cons, resolve_cons, resolve_fl, resolve_fl, R.res]
    · rw [h5]; exact RI_advance hWF (RI_mid R.ri h1 h2) n
    · rw [h8]; exact inert_node _ _ _
    · rw [h9]; exact inert_node _ _ _
  | eol f spa spb cur _ _ g1 g2 g3 g4 g5 g6 g7 g8 g9 g10 g11 =>
    have hu : b.lines[stA.rd.line]? = some b.lines[stA.rd.line] := List.getElem?_eq_getElem hlt
    obtain ⟨r1, r2, r3⟩ := R.ri _ hu
    refine ⟨g8, g9, ?_, ?_, ?_⟩
    · rw [g10, g11, eolKids_resolve b.src f hinA g1 g2, eolKids_resolve b.src f hinB g3 g4, R.res]
    · rw [g7]; exact RI_setLine hWF _ _
    · by_cases hlen : stA.rd.line + 1 < b.lines.length
      · right
        have hv : b.lines[stA.rd.line + 1]? = some b.lines[stA.rd.line + 1] := List.getElem?_eq_getElem hlen
        have hs := hWF.sorted _ _ _ hu hv
        have hc := g6 hlen
        have hstart : a.rd.start = b.lines[stA.rd.line + 1].start := by
          rw [g7]; unfold advanceLine setLine; simp only; rw [hv]
        rw [hstart, g10, g11]
        exact ⟨eolKids_inert _ _ _ g2 (by omega), eolKids_inert _ _ _ g4 (by omega)⟩
      · left
        apply peekLine_none_of_line
        rw [g7]; unfold advanceLine setLine; simp only
        have : b.lines[stA.rd.line + 1]? = none := List.getElem?_eq_none (by omega)
        rw [this]; show b.lines.length ≤ stA.rd.line + 1; omega

def OutRel (src : Bytes) : Out → Out → Prop
  | .done a, .done b' => resolve src b'.kids = resolve src a.kids
  | .fuelOut _, .fuelOut _ => True
  | _, _ => False

theorem peekLine_line_lt {b : Block} {r : Reader} {l : Bytes} (h : peekLine b r = .line l) : r.line < b.lines.length := by
  unfold peekLine at h
  split at h
  · rename_i hh; exact hh.1
  · cases h

theorem loop_sim {PA PB : Params} {b : Block} (hWF : WF b) (hT : TabRel PA.parsers PB.parsers)
    (hE : PB.escapedSpace = PA.escapedSpace) (fuel : Nat) :
    ∀ stA stB, Rel b stA stB → OutRel b.src (loop PA b fuel stA) (loop PB b fuel stB) := by
  induction fuel with
  | zero => intro stA stB _; exact True.intro
  | succ fuel ih =>
    intro stA stB R
    unfold loop
    rcases pass_sim hWF hT hE R.rd R.esc R.ri R.inert with ⟨hA, hB, _⟩ | ⟨a, b', hA, hB, hP, l, hl⟩
    · rw [hA, hB]; exact R.res
    · rw [hA, hB]
      rcases R.inert with hn | ⟨hinA, hinB⟩
      · rw [hn] at hl; cases hl
      · exact ih a b' (Rel_of_PassPost hWF R hinA hinB (peekLine_line_lt hl) hP)

/-! ### a parser that always declines -/

def Silent (q : Parser) : Prop := ∀ l p, ∃ m, q.script l p = .decline m

theorem table_append (xs ys : List Parser) (pc : UInt8) : table (xs ++ ys) pc = table xs pc ++ table ys pc := by
  simp [table, List.flatMap_append]

theorem firstAccept_silent (b : Block) (saved : Reader) (xs : List Parser) (h : ∀ x ∈ xs, Silent x) :
    firstAccept b saved xs = none := by
  induction xs with
  | nil => rfl
  | cons x xs ih =>
    unfold firstAccept
    obtain ⟨m, hm⟩ := h x List.mem_cons_self saved.line saved.start
    rw [hm]
    exact ih (fun y hy => h y (List.mem_cons_of_mem _ hy))

theorem TabRel_insert (l1 l2 : List Parser) (q : Parser) (hq : Silent q) : TabRel (l1 ++ l2) (l1 ++ q :: l2) := by
  have hsplit : ∀ pc, table (l1 ++ q :: l2) pc = table l1 pc ++ (table [q] pc ++ table l2 pc) := by
    intro pc
    have : l1 ++ q :: l2 = l1 ++ ([q] ++ l2) := by simp
    rw [this, table_append, table_append]
  have hqn : ∀ pc b saved, firstAccept b saved (table [q] pc) = none := by
    intro pc b saved
    apply firstAccept_silent
    intro x hx
    have := (mem_table hx).1
    simp at this
    rw [this]; exact hq
  constructor
  · intro pc b saved
    rw [hsplit, table_append, firstAccept_append, firstAccept_append, firstAccept_append, hqn]
  · intro pc h
    rw [hsplit]
    rw [table_append] at h
    cases h1 : table l1 pc with
    | cons _ _ => rfl
    | nil =>
      rw [h1] at h
      cases h2 : table l2 pc with
      | cons _ _ => simp
      | nil => rw [h2] at h; simp at h

/-! ### termination -/

/-- the forward-progress contract of inline parsers: a parser that returns a node has consumed at least one byte -/
def Contract (ps : List Parser) : Prop := ∀ q ∈ ps, ∀ l p n id, q.script l p = .accept n id → 1 ≤ n

def mu (b : Block) (r : Reader) : Nat := (b.lines.length - r.line) * (b.src.length + 2) + (r.stop - r.start)

theorem mul_step (m K x y : Nat) (hx : x < K) : m * K + x < (m + 1) * K + y := by
  rw [Nat.succ_mul]; omega

theorem mu_setLine_lt {b : Block} (hWF : WF b) {r : Reader} (hl : r.line < b.lines.length) (hst : r.stop ≤ b.src.length) :
    mu b (setLine b r (r.line + 1)) < mu b r := by
  unfold setLine mu
  cases h : b.lines[r.line + 1]? with
  | none =>
    simp only
    have hlen : b.lines.length ≤ r.line + 1 := by
      rcases Nat.lt_or_ge (r.line + 1) b.lines.length with hh | hh
      · rw [List.getElem?_eq_getElem hh] at h; cases h
      · exact hh
    have e1 : b.lines.length - (r.line + 1) = 0 := by omega
    have e2 : b.lines.length - r.line = 0 + 1 := by omega
    rw [e1, e2]
    have := mul_step 0 (b.src.length + 2) (r.stop - r.start) (r.stop - r.start) (by omega)
    omega
  | some t =>
    simp only
    have hlen : r.line + 1 < b.lines.length := (List.getElem?_eq_some_iff.mp h).1
    have w := hWF.segs _ _ h
    have e2 : b.lines.length - r.line = (b.lines.length - (r.line + 1)) + 1 := by omega
    rw [e2]
    exact mul_step _ _ _ _ (by omega)

theorem RI_stop_le {b : Block} (hWF : WF b) {r : Reader} (hRI : RI b r) (hl : r.line < b.lines.length) :
    r.stop ≤ b.src.length := by
  have hu : b.lines[r.line]? = some b.lines[r.line] := List.getElem?_eq_getElem hl
  have := (hRI _ hu).1
  have := (hWF.segs _ _ hu).2
  omega

theorem mu_advance1_le {b : Block} (hWF : WF b) {r : Reader} (hRI : RI b r) : mu b (advance1 b r) ≤ mu b r := by
  unfold advance1
  split
  · by_cases hl : r.line < b.lines.length
    · exact Nat.le_of_lt (mu_setLine_lt hWF hl (RI_stop_le hWF hRI hl))
    · unfold advanceLine setLine
      have : b.lines[r.line + 1]? = none := List.getElem?_eq_none (by omega)
      rw [this]; unfold mu; simp only
      have e1 : b.lines.length - (r.line + 1) = 0 := by omega
      have e2 : b.lines.length - r.line = 0 := by omega
      rw [e1, e2]; omega
  · unfold mu; simp only; omega

theorem mu_advance1_lt {b : Block} (hWF : WF b) {r : Reader} (hRI : RI b r) (hl : r.line < b.lines.length)
    (hs : r.start < r.stop) : mu b (advance1 b r) < mu b r := by
  unfold advance1
  split
  · exact mu_setLine_lt hWF hl (RI_stop_le hWF hRI hl)
  · unfold mu; simp only; omega

theorem mu_advanceSlow_le {b : Block} (hWF : WF b) (n : Nat) : ∀ {r : Reader}, RI b r → mu b (advanceSlow b n r) ≤ mu b r := by
  induction n with
  | zero => intro r _; exact Nat.le_refl _
  | succ n ih => intro r h; exact Nat.le_trans (ih (RI_advance1 hWF h)) (mu_advance1_le hWF h)

theorem mu_advance_lt {b : Block} (hWF : WF b) {r : Reader} (hRI : RI b r) (hl : r.line < b.lines.length)
    (hs : r.start < r.stop) {n : Nat} (hn : 1 ≤ n) : mu b (advance b r n) < mu b r := by
  unfold advance
  split
  · unfold mu; simp only; omega
  · cases n with
    | zero => omega
    | succ n =>
      show mu b (advanceSlow b n (advance1 b r)) < _
      exact Nat.lt_of_le_of_lt (mu_advanceSlow_le hWF n (RI_advance1 hWF hRI)) (mu_advance1_lt hWF hRI hl hs)

theorem mu_mid_le (b : Block) (r : Reader) {p : Nat} (h : r.start ≤ p) : mu b ⟨r.line, p, r.stop⟩ ≤ mu b r := by
  unfold mu; simp only; omega

theorem pass_progress {PA : Params} {b : Block} (hWF : WF b) (hC : Contract PA.parsers) {stA stB a b' : St}
    (hRI : RI b stA.rd) (hlt : stA.rd.line < b.lines.length) (h : PassPost PA b stA stB a b') :
    mu b a.rd < mu b stA.rd := by
  cases h with
  | hit p id n q _ _ h1 h2 h3 h4 h5 h6 h7 h8 h9 =>
    rw [h5]
    exact Nat.lt_of_lt_of_le (mu_advance_lt hWF (RI_mid hRI h1 h2) hlt h2 (hC q h3 _ _ _ _ h4)) (mu_mid_le b _ h1)
  | eol f spa spb cur _ _ g1 g2 g3 g4 g5 g6 g7 g8 g9 g10 g11 =>
    rw [g7]
    have hst := RI_stop_le hWF hRI hlt
    exact Nat.lt_of_lt_of_le (mu_setLine_lt hWF (r := ⟨stA.rd.line, cur, stA.rd.stop⟩) hlt hst) (mu_mid_le b _ (by omega))

theorem Rel_self {b : Block} {st : St} (hRI : RI b st.rd)
    (hin : peekLine b st.rd = .none ∨ inert st.kids st.rd.start) : Rel b st st :=
  ⟨rfl, rfl, rfl, hRI, hin.imp id (fun h => ⟨h, h⟩)⟩

theorem loop_done {P : Params} {b : Block} (hWF : WF b) (hC : Contract P.parsers) (fuel : Nat) :
    ∀ st, Rel b st st → mu b st.rd < fuel → ∃ st', loop P b fuel st = .done st' := by
  induction fuel with
  | zero => intro st _ h; omega
  | succ fuel ih =>
    intro st R hmu
    unfold loop
    rcases pass_sim hWF (TabRel.refl P.parsers) rfl R.rd R.esc R.ri R.inert with ⟨hA, _, _⟩ | ⟨a, b', hA, hB, hP, l, hl⟩
    · rw [hA]; exact ⟨st, rfl⟩
    · have hab : b' = a := by rw [hA] at hB; cases hB; rfl
      subst hab
      rw [hA]
      rcases R.inert with hn | ⟨hinA, hinB⟩
      · rw [hn] at hl; cases hl
      · have hlt := peekLine_line_lt hl
        have hprog := pass_progress hWF hC R.ri hlt hP
        exact ih b' (Rel_of_PassPost hWF R hinA hinB hlt hP) (by omega)

theorem Rel_init {b : Block} (hWF : WF b) : Rel b (initSt b) (initSt b) :=
  Rel_self (RI_setLine hWF _ _) (Or.inr (inert_nil _))

theorem mu_init_lt {b : Block} (hWF : WF b) : mu b (initSt b).rd < fuelFor b := by
  unfold initSt resetReader setLine mu fuelFor
  cases h : b.lines[0]? with
  | none =>
    simp only [Nat.sub_zero]
    have := mul_step (b.lines.length) (b.src.length + 2) 0 0 (by omega)
    omega
  | some s =>
    simp only [Nat.sub_zero]
    have w := hWF.segs _ _ h
    have := mul_step (b.lines.length) (b.src.length + 2) (s.stop - s.start) 0 (by omega)
    omega

/-! ### who is consulted where -/

/-- a logged `Parse` call respects the dispatch rule parser.go:1199-1206: the byte passed the trigger test, the
    table index is the byte itself (punctuation) or ' ' (space/tab, or a non-punctuation byte at the start of a
    scan), and the parser called is registered for that index -/
def CallOK (P : Params) (e : Call) : Prop :=
  e.pc = pcOf e.c e.i ∧ trigOf P.escapedSpace e.c e.i e.escaped = true ∧
    ∃ q ∈ P.parsers, q.id = e.id ∧ e.pc ∈ q.triggers

def LogOK (P : Params) (log : List Call) : Prop := ∀ e ∈ log, CallOK P e

theorem tryParsers_log (b : Block) (saved : Reader) (pc : UInt8) (i : Nat) (c : UInt8) (esc : Bool) (ps : List Parser) :
    ∀ (log : List Call) (e : Call), e ∈ (tryParsers b saved pc i c esc ps log).2 →
      e ∈ log ∨ (e.pc = pc ∧ e.i = i ∧ e.c = c ∧ e.escaped = esc ∧ ∃ q ∈ ps, q.id = e.id) := by
  induction ps with
  | nil => intro log e h; exact Or.inl h
  | cons p ps ih =>
    intro log e h
    unfold tryParsers at h
    simp only at h
    cases hs : p.script saved.line saved.start with
    | accept n id =>
      rw [hs] at h
      simp only [List.mem_cons] at h
      rcases h with h | h
      · right; subst h; exact ⟨rfl, rfl, rfl, rfl, p, List.mem_cons_self, rfl⟩
      · exact Or.inl h
    | decline m =>
      rw [hs] at h
      rcases ih _ e h with h' | ⟨a1, a2, a3, a4, q, hq, hid⟩
      · simp only [List.mem_cons] at h'
        rcases h' with h' | h'
        · right; subst h'; exact ⟨rfl, rfl, rfl, rfl, p, List.mem_cons_self, rfl⟩
        · exact Or.inl h'
      · exact Or.inr ⟨a1, a2, a3, a4, q, List.mem_cons_of_mem _ hq, hid⟩

def _root_.GM.InlineLoop.StepRes.st : StepRes → St
  | .hit st => st
  | .cont _ _ st => st

def _root_.GM.InlineLoop.ScanRes.st : ScanRes → St
  | .hit st => st
  | .eol st _ _ => st

theorem step_log (P : Params) (b : Block) (c : UInt8) (i n sp : Nat) (st : St) (h : LogOK P st.log) :
    LogOK P (step P b c i n sp st).st.log := by
  rw [step_def]
  cases hc : (trigOf P.escapedSpace c i st.escaped && !(table P.parsers (pcOf c i)).isEmpty) with
  | false => simp only [Bool.false_eq_true, if_false]; exact h
  | true =>
    simp only [if_true]
    have key : LogOK P (tryParsers b (advance b st.rd n) (pcOf c i) i c st.escaped (table P.parsers (pcOf c i)) st.log).2 := by
      intro e he
      rcases tryParsers_log _ _ _ _ _ _ _ _ e he with h' | ⟨a1, a2, a3, a4, q, hq, hid⟩
      · exact h e h'
      · rw [Bool.and_eq_true] at hc
        have hm := mem_table hq
        refine ⟨by rw [a1, a3, a2], by rw [a3, a2, a4]; exact hc.1, q, hm.1, hid, by rw [a1]; exact hm.2⟩
    cases hr : tryParsers b (advance b st.rd n) (pcOf c i) i c st.escaped (table P.parsers (pcOf c i)) st.log with
    | mk r log =>
      rw [hr] at key
      cases r with
      | none => exact key
      | some v => exact key

theorem scan_log (P : Params) (b : Block) (cs : List UInt8) : ∀ (i n sp : Nat) (st : St), LogOK P st.log →
    LogOK P (scan P b cs i n sp st).st.log := by
  induction cs with
  | nil => intro i n sp st h; exact h
  | cons c cs ih =>
    intro i n sp st h
    unfold scan
    split
    · exact h
    · have := step_log P b c i n sp st h
      cases hs : step P b c i n sp st with
      | hit st' => rw [hs] at this; exact this
      | cont n' sp' st' => rw [hs] at this; exact ih _ _ _ _ this

theorem eol_log (b : Block) (f : Flags) (l : Nat) (st : St) (sp n : Nat) : (eol b f l st sp n).log = st.log := by
  unfold eol
  simp only
  split <;> split <;> rfl

theorem pass_log (P : Params) (b : Block) (st : St) (h : LogOK P st.log) :
    ∀ st', pass P b st = .next st' → LogOK P st'.log := by
  intro st' hp
  unfold pass at hp
  split at hp
  · cases hp
  · cases hp
  · rename_i line _
    split at hp
    · cases hp
    · have := scan_log P b (line.take (classify line).1) 0 0 st.rd.start st h
      split at hp
      · rename_i st'' hs; rw [hs] at this; cases hp; exact this
      · rename_i st'' sp n hs; rw [hs] at this; cases hp
        rw [eol_log]; exact this

theorem loop_log (P : Params) (b : Block) (fuel : Nat) : ∀ st, LogOK P st.log → LogOK P (loop P b fuel st).st.log := by
  induction fuel with
  | zero => intro st h; exact h
  | succ fuel ih =>
    intro st h
    unfold loop
    cases hp : pass P b st with
    | done => exact h
    | panic k => exact h
    | next st' => exact ih st' (pass_log P b st h st' hp)

theorem Contract_insert {l1 l2 : List Parser} {q : Parser} (hq : Silent q) (hC : Contract (l1 ++ l2)) :
    Contract (l1 ++ q :: l2) := by
  intro x hx l p n id hs
  simp only [List.mem_append, List.mem_cons] at hx
  rcases hx with hx | hx | hx
  · exact hC x (List.mem_append_left _ hx) l p n id hs
  · subst hx
    obtain ⟨m, hm⟩ := hq l p
    rw [hm] at hs; cases hs
  · exact hC x (List.mem_append_right _ hx) l p n id hs

theorem run_done {P : Params} {b : Block} (hWF : WF b) (hC : Contract P.parsers) : ∃ st, run P b = .done st :=
  loop_done hWF hC (fuelFor b) (initSt b) (Rel_init hWF) (mu_init_lt hWF)

theorem run_silent {b : Block} (hWF : WF b) (l1 l2 : List Parser) (q : Parser) (esc : Bool)
    (hq : Silent q) (hC : Contract (l1 ++ l2)) :
    ∃ stA stB, run ⟨l1 ++ l2, esc⟩ b = .done stA ∧ run ⟨l1 ++ q :: l2, esc⟩ b = .done stB ∧
      resolve b.src stB.kids = resolve b.src stA.kids := by
  obtain ⟨stA, hA⟩ := run_done (P := ⟨l1 ++ l2, esc⟩) hWF hC
  obtain ⟨stB, hB⟩ := run_done (P := ⟨l1 ++ q :: l2, esc⟩) hWF (Contract_insert hq hC)
  have h := loop_sim (PA := ⟨l1 ++ l2, esc⟩) (PB := ⟨l1 ++ q :: l2, esc⟩) hWF (TabRel_insert l1 l2 q hq) rfl
    (fuelFor b) (initSt b) (initSt b) (Rel_init hWF)
  unfold run at hA hB
  rw [hA, hB] at h
  exact ⟨stA, stB, hA, hB, h⟩

theorem run_log (P : Params) (b : Block) : LogOK P (run P b).st.log :=
  loop_log P b (fuelFor b) (initSt b) (fun _ h => by cases h)

theorem tryParsers_first_accept (b : Block) (saved : Reader) (pc : UInt8) (i : Nat) (c : UInt8) (esc : Bool)
    (pre post : List Parser) (p : Parser) (n id : Nat) (log : List Call)
    (hpre : ∀ x ∈ pre, ∃ m, x.script saved.line saved.start = .decline m)
    (hp : p.script saved.line saved.start = .accept n id) :
    tryParsers b saved pc i c esc (pre ++ p :: post) log =
      (some (advance b saved n, id),
       ((pre ++ [p]).map fun x => (⟨x.id, saved.line, saved.start, pc, i, c, esc⟩ : Call)).reverse ++ log) := by
  induction pre generalizing log with
  | nil => simp [tryParsers, hp]
  | cons x pre ih =>
    obtain ⟨m, hm⟩ := hpre x List.mem_cons_self
    simp only [List.cons_append, tryParsers, hm]
    rw [ih _ (fun y hy => hpre y (List.mem_cons_of_mem _ hy))]
    simp

/-! ### order and range of the Text segments -/

/-- (on the reversed child list) every Text is a range `a ≤ t` inside one line of the block, the Texts are in
    increasing order without overlap, and the last one ends at or before `u` -/
def KOK (b : Block) : List Child → Nat → Prop
  | [], _ => True
  | .node _ :: k, u => KOK b k u
  | .text a t _ _ :: k, u => a ≤ t ∧ t ≤ u ∧ (∃ s ∈ b.lines, s.start ≤ a ∧ t ≤ s.stop) ∧ KOK b k a

theorem KOK_mono {b : Block} : ∀ {k : List Child} {u v : Nat}, KOK b k u → u ≤ v → KOK b k v
  | [], _, _, _, _ => True.intro
  | .node _ :: k, _, _, h, huv => KOK_mono (k := k) h huv
  | .text _ _ _ _ :: _, _, _, ⟨h1, h2, h3, h4⟩, huv => ⟨h1, Nat.le_trans h2 huv, h3, h4⟩

theorem KOK_fl {b : Block} {k : List Child} {s0 p : Nat} (h : KOK b k s0) (h0 : s0 ≤ p)
    (hseg : ∃ s ∈ b.lines, s.start ≤ s0 ∧ p ≤ s.stop) : KOK b (fl k s0 p) p := by
  unfold fl
  split
  · exact KOK_mono h h0
  · exact ⟨h0, Nat.le_refl _, hseg, h⟩

theorem KOK_repairPrev {b : Block} {k : List Child} {u : Nat} (sp : Nat) (h : KOK b k u) :
    KOK b (repairPrev b.src k sp) u := by
  unfold repairPrev
  split
  · rename_i a t k'
    split
    · obtain ⟨h1, h2, ⟨s, hs, h3, h4⟩, h5⟩ := h
      have g1 := le_trimStop b.src a t
      have g2 := trimStop_le b.src a t h1
      exact ⟨g1, by omega, ⟨s, hs, h3, by omega⟩, h5⟩
    · exact h
  · exact h

theorem KOK_eolKids {b : Block} (f : Flags) {k : List Child} {sp cur : Nat} (h : KOK b k sp) (h1 : sp ≤ cur)
    (hseg : ∃ s ∈ b.lines, s.start ≤ sp ∧ cur ≤ s.stop) : KOK b (eolKids b.src f k sp cur) cur := by
  obtain ⟨s, hs, g1, g2⟩ := hseg
  unfold eolKids
  split
  · exact ⟨h1, Nat.le_refl _, ⟨s, hs, g1, g2⟩, h⟩
  · simp only
    have e1 := le_trimStop b.src sp cur
    have e2 := trimStop_le b.src sp cur h1
    split
    · exact ⟨Nat.le_refl _, h1, ⟨s, hs, g1, by omega⟩, KOK_repairPrev sp h⟩
    · exact ⟨e1, e2, ⟨s, hs, g1, by omega⟩, h⟩

theorem advance1_start_ge {b : Block} (hWF : WF b) {r : Reader} (hRI : RI b r) : r.start ≤ (advance1 b r).start := by
  unfold advance1
  split
  · unfold advanceLine setLine
    cases h : b.lines[r.line + 1]? with
    | none => exact Nat.le_refl _
    | some t =>
      have hlen : r.line + 1 < b.lines.length := (List.getElem?_eq_some_iff.mp h).1
      have hu : b.lines[r.line]? = some b.lines[r.line] := List.getElem?_eq_getElem (by omega)
      obtain ⟨r1, r2, r3⟩ := hRI _ hu
      have := hWF.sorted _ _ _ hu h
      have := r3 hlen
      show r.start ≤ t.start
      omega
  · show r.start ≤ r.start + 1; omega

theorem advanceSlow_start_ge {b : Block} (hWF : WF b) (n : Nat) : ∀ {r : Reader}, RI b r → r.start ≤ (advanceSlow b n r).start := by
  induction n with
  | zero => intro r _; exact Nat.le_refl _
  | succ n ih => intro r h; exact Nat.le_trans (advance1_start_ge hWF h) (ih (RI_advance1 hWF h))

theorem advance_start_ge {b : Block} (hWF : WF b) {r : Reader} (hRI : RI b r) (n : Nat) : r.start ≤ (advance b r n).start := by
  unfold advance
  split
  · show r.start ≤ r.start + n; omega
  · exact advanceSlow_start_ge hWF n hRI

theorem advanceLine_start_ge {b : Block} (hWF : WF b) {r : Reader} (hRI : RI b r) (h : r.start ≤ r.stop) :
    r.start ≤ (advanceLine b r).start := by
  unfold advanceLine setLine
  cases h' : b.lines[r.line + 1]? with
  | none => exact Nat.le_refl _
  | some t =>
    have hlen : r.line + 1 < b.lines.length := (List.getElem?_eq_some_iff.mp h').1
    have hu : b.lines[r.line]? = some b.lines[r.line] := List.getElem?_eq_getElem (by omega)
    obtain ⟨r1, r2, r3⟩ := hRI _ hu
    have := hWF.sorted _ _ _ hu h'
    show r.start ≤ t.start
    omega

theorem pass_KOK {P : Params} {b : Block} (hWF : WF b) {st a : St} (hRI : RI b st.rd)
    (hlt : st.rd.line < b.lines.length) (hK : KOK b st.kids st.rd.start) (h : PassPost P b st st a a) :
    KOK b a.kids a.rd.start := by
  have hu : b.lines[st.rd.line]? = some b.lines[st.rd.line] := List.getElem?_eq_getElem hlt
  have hmem : b.lines[st.rd.line] ∈ b.lines := List.getElem_mem hlt
  obtain ⟨r1, r2, r3⟩ := hRI _ hu
  cases h with
  | hit p id n q _ _ h1 h2 h3 h4 h5 h6 h7 h8 h9 =>
    rw [h8, h5]
    have hk := KOK_fl hK h1 ⟨_, hmem, r2, by omega⟩
    have hge := advance_start_ge hWF (RI_mid hRI h1 h2) n
    exact KOK_mono (k := fl st.kids st.rd.start p) hk hge
  | eol f spa spb cur _ _ g1 g2 g3 g4 g5 g6 g7 g8 g9 g10 g11 =>
    rw [g10, g7]
    have hk := KOK_fl hK g1 ⟨_, hmem, r2, by omega⟩
    have hk2 := KOK_eolKids f hk g2 ⟨_, hmem, by omega, by omega⟩
    have hRI' : RI b ⟨st.rd.line, cur, st.rd.stop⟩ := by
      intro s hs
      rw [hu] at hs; cases hs
      exact ⟨r1, by show _ ≤ cur; omega, fun hl => g6 hl⟩
    exact KOK_mono hk2 (advanceLine_start_ge hWF hRI' g5)

theorem loop_KOK {P : Params} {b : Block} (hWF : WF b) (fuel : Nat) :
    ∀ st, Rel b st st → KOK b st.kids st.rd.start → KOK b (loop P b fuel st).st.kids (loop P b fuel st).st.rd.start := by
  induction fuel with
  | zero => intro st _ h; exact h
  | succ fuel ih =>
    intro st R hK
    unfold loop
    rcases pass_sim hWF (TabRel.refl P.parsers) rfl R.rd R.esc R.ri R.inert with ⟨hA, _, _⟩ | ⟨a, b', hA, hB, hP, l, hl⟩
    · rw [hA]; exact hK
    · have hab : b' = a := by rw [hA] at hB; cases hB; rfl
      subst hab
      rw [hA]
      rcases R.inert with hn | ⟨hinA, hinB⟩
      · rw [hn] at hl; cases hl
      · have hlt := peekLine_line_lt hl
        exact ih b' (Rel_of_PassPost hWF R hinA hinB hlt hP) (pass_KOK hWF R.ri hlt hK hP)

/-- the Text segments `(start, stop)` in document order -/
def texts (kids : List Child) : List (Nat × Nat) :=
  kids.reverse.filterMap fun | .text a t _ _ => some (a, t) | .node _ => none

theorem texts_cons_text (a t : Nat) (s h : Bool) (k : List Child) : texts (.text a t s h :: k) = texts k ++ [(a, t)] := by
  simp [texts, List.filterMap_append]

theorem texts_cons_node (id : Nat) (k : List Child) : texts (.node id :: k) = texts k := by
  simp [texts, List.filterMap_append]

theorem KOK_texts {b : Block} : ∀ (k : List Child) (u : Nat), KOK b k u →
    (∀ x ∈ texts k, x.1 ≤ x.2 ∧ x.2 ≤ u ∧ ∃ s ∈ b.lines, s.start ≤ x.1 ∧ x.2 ≤ s.stop) ∧
    (texts k).Pairwise (fun x y => x.2 ≤ y.1)
  | [], _, _ => ⟨fun x hx => by simp [texts] at hx, by simp [texts]⟩
  | .node id :: k, u, h => by rw [texts_cons_node]; exact KOK_texts k u h
  | .text a t s' h' :: k, u, ⟨h1, h2, h3, h4⟩ => by
    rw [texts_cons_text]
    obtain ⟨ih1, ih2⟩ := KOK_texts k a h4
    constructor
    · intro x hx
      rw [List.mem_append] at hx
      rcases hx with hx | hx
      · obtain ⟨p1, p2, p3⟩ := ih1 x hx
        exact ⟨p1, by omega, p3⟩
      · simp at hx; subst hx; exact ⟨h1, h2, h3⟩
    · rw [List.pairwise_append]
      refine ⟨ih2, by simp, ?_⟩
      intro x hx y hy
      simp at hy; subst hy
      exact (ih1 x hx).2.1

theorem run_texts {P : Params} {b : Block} (hWF : WF b) :
    (∀ x ∈ texts (run P b).st.kids, x.1 ≤ x.2 ∧ ∃ s ∈ b.lines, s.start ≤ x.1 ∧ x.2 ≤ s.stop) ∧
    (texts (run P b).st.kids).Pairwise (fun x y => x.2 ≤ y.1) := by
  have h := loop_KOK (P := P) hWF (fuelFor b) (initSt b) (Rel_init hWF) True.intro
  obtain ⟨h1, h2⟩ := KOK_texts _ _ h
  exact ⟨fun x hx => ⟨(h1 x hx).1, (h1 x hx).2.2⟩, h2⟩

/-! ### the line-break classifier against the spec-side reading -/

section HardBreak
open GM.Spec

theorem tb_eq (l : Bytes) : trailingBackslashes l = backslashRun l.reverse := rfl

/-- `classify`'s chain of tests, whatever the tests and the lengths are -/
theorem flags_chain {α : Type} (c1 c2 c3 c4 n : Bool) (a1 a2 a3 a4 a5 a6 : α) :
    let r := if c1 then (a1, Flags.mk true false true) else if c2 then (a2, ⟨true, false, true⟩)
      else if c3 then (a3, ⟨true, false, false⟩) else if c4 then (a4, ⟨true, false, false⟩)
      else if n then (a5, ⟨false, true, false⟩) else (a6, ⟨false, false, false⟩)
    r.2.hard = (c1 || c2 || c3 || c4) ∧ r.2.soft = (n && !r.2.hard) := by
  cases c1 <;> cases c2 <;> cases c3 <;> cases c4 <;> cases n <;> exact ⟨rfl, rfl⟩

theorem hardBefore_single (x : UInt8) : hardBefore [x] = (backslashRun [x] % 2 == 1) := by
  unfold hardBefore
  simp only [Bool.or_false]

theorem hardBefore_cons_cons (x y : UInt8) (r : Bytes) :
    hardBefore (x :: y :: r) = (backslashRun (x :: y :: r) % 2 == 1 || (x == 32 && y == 32)) := by
  unfold hardBefore
  congr 1
  split
  · next h => cases h; rfl
  · next h =>
    by_cases hx : x = 32
    · by_cases hy : y = 32
      · exact absurd (by rw [hx, hy]) (h r)
      · simp [hy]
    · simp [hx]

theorem hardBreak_concat (body : Bytes) (x : UInt8) :
    hardBreak (body ++ [x]) = (hardBefore (x :: body.reverse) || (x == 13 && hardBefore body.reverse)) := by
  unfold hardBreak
  rw [List.reverse_append, List.reverse_singleton, List.singleton_append]
  congr 1
  split
  · next h => cases h; simp
  · next h =>
    by_cases hx : x = 13
    · exact absurd (by rw [hx]) (h body.reverse)
    · simp [hx]

theorem getD_length_sub_append (p s : Bytes) (k : Nat) (h : k ≤ s.length) :
    (p ++ s).getD ((p ++ s).length - k) 0 = s.getD (s.length - k) 0 := by
  rw [List.length_append, Nat.add_sub_assoc h, List.getD_eq_getElem?_getD,
    List.getElem?_append_right (Nat.le_add_right _ _), Nat.add_sub_cancel_left, ← List.getD_eq_getElem?_getD]

theorem take_length_sub_append (p s : Bytes) (k : Nat) (h : k ≤ s.length) :
    (p ++ s).take ((p ++ s).length - k) = p ++ s.take (s.length - k) := by
  rw [List.length_append, Nat.add_sub_assoc h, List.take_length_add_append]

/- In each shape the four tests of `classify` become the four ways of `hardBreak` to hold, in another order:
   what is left is an identity of Booleans. -/
theorem shape4 (front : Bytes) (z y x : UInt8) :
    (classify (front ++ [z, y, x] ++ [10])).2.hard = hardBreak (front ++ [z, y, x]) := by
  refine (flags_chain _ _ _ _ _ _ _ _ _ _ _).1.trans ?_
  have s4 : front ++ [z, y, x] ++ [10] = front ++ [z, y, x, 10] := List.append_assoc ..
  have s3 : front ++ [z, y, x] = (front ++ [z, y]) ++ [x] := (List.append_assoc front [z, y] [x]).symm
  have i1 : _ = (10 : UInt8) := getD_length_sub_append front [z, y, x, 10] 1 (by simp)
  have i2 : _ = x := getD_length_sub_append front [z, y, x, 10] 2 (by simp)
  have i3 : _ = y := getD_length_sub_append front [z, y, x, 10] 3 (by simp)
  have i4 : _ = z := getD_length_sub_append front [z, y, x, 10] 4 (by simp)
  have k1 : _ = front ++ [z, y, x] := take_length_sub_append front [z, y, x, 10] 1 (by simp)
  have k2 : _ = front ++ [z, y] := take_length_sub_append front [z, y, x, 10] 2 (by simp)
  have g : ∀ k, k ≤ 4 → decide ((front ++ [z, y, x, 10]).length ≥ k) = true := fun k hk =>
    decide_eq_true (by rw [List.length_append]; exact Nat.le_trans hk (Nat.le_add_left _ _))
  simp only [s4, i1, i2, i3, i4, k1, k2, g 2 (by decide), g 3 (by decide), g 4 (by decide), tb_eq]
  rw [s3, hardBreak_concat]
  simp only [List.reverse_append, List.reverse_cons, List.reverse_nil, List.nil_append, List.cons_append,
    hardBefore_cons_cons]
  generalize (backslashRun (x :: y :: z :: front.reverse) % 2 == 1) = A
  generalize (backslashRun (y :: z :: front.reverse) % 2 == 1) = C
  generalize (x == 13) = B
  generalize (x == 32) = D
  generalize (y == 32) = E
  generalize (z == 32) = F
  revert A B C D E F
  decide

theorem shape0 : (classify ([] ++ [10])).2.hard = hardBreak [] := by decide
-- on a line this short the tests evaluate: `show` states what they come to
theorem shape1 (x : UInt8) : (classify ([x] ++ [10])).2.hard = hardBreak [x] := by
  refine (flags_chain _ _ _ _ _ _ _ _ _ _ _).1.trans ?_
  rw [show [x] = [] ++ [x] from rfl, hardBreak_concat]
  show (backslashRun [x] % 2 == 1 || false || false || false) = (hardBefore [x] || x == 13 && false)
  rw [hardBefore_single]
  generalize (backslashRun [x] % 2 == 1) = A
  generalize (x == 13) = B
  revert A B
  decide
theorem shape2 (y x : UInt8) : (classify ([y, x] ++ [10])).2.hard = hardBreak [y, x] := by
  refine (flags_chain _ _ _ _ _ _ _ _ _ _ _).1.trans ?_
  rw [show [y, x] = [y] ++ [x] from rfl, hardBreak_concat]
  simp only [List.reverse_cons, List.reverse_nil, List.nil_append, List.cons_append, hardBefore_cons_cons,
    hardBefore_single]
  show (backslashRun [x, y] % 2 == 1 || x == 13 && backslashRun [y] % 2 == 1 || y == 32 && x == 32 && true || false) = _
  generalize (backslashRun [x, y] % 2 == 1) = A
  generalize (backslashRun [y] % 2 == 1) = C
  generalize (x == 13) = B
  generalize (x == 32) = D
  generalize (y == 32) = E
  revert A B C D E
  decide

theorem classify_hard (body : Bytes) : (classify (body ++ [10])).2.hard = hardBreak body := by
  rcases List.eq_nil_or_concat body with rfl | ⟨b1, x, rfl⟩
  · exact shape0
  rcases List.eq_nil_or_concat b1 with rfl | ⟨b2, y, rfl⟩
  · exact shape1 x
  rcases List.eq_nil_or_concat b2 with rfl | ⟨b3, z, rfl⟩
  · exact shape2 y x
  have : ((b3.concat z).concat y).concat x = b3 ++ [z, y, x] := by simp
  rw [this]; exact shape4 b3 z y x

theorem classify_soft (line : Bytes) :
    (classify line).2.soft = (line.getD (line.length - 1) 0 == 10 && !(classify line).2.hard) :=
  (flags_chain _ _ _ _ _ _ _ _ _ _ _).2

/-- every test of `classify` asks for the final newline -/
theorem classify_no_newline (line : Bytes) (h : (line.getD (line.length - 1) 0 == 10) = false) :
    (classify line).2 = ⟨false, false, false⟩ ∧ (classify line).1 = line.length := by
  simp only [classify, h, Bool.false_and, Bool.and_false, Bool.false_eq_true, if_false, and_self]

end HardBreak

end GM.Proof.InlineLoop
