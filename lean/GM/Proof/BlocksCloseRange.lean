/-
  GM.Proof.BlocksCloseRange — `closeBlocks` over a range of the open-block stack, as an equation.

  `closeBlocks(from, to)` (parser.go:900-918) reads the stack, runs the loop over `stack[to..from]` top first, cuts the range out of
  the stack with two slices (one when `from` is the top) and writes the stack back.
  * `cutRange l from to` is what the slice expressions of parser.go:912-917 write back: `l[:to] ++ l[from+1:]`, and an error exactly
    when one of them panics (`cutRange_eq`). For ANY two indices the driver is the loop, then `opened := cutRange stack from to`
    (`closeBlocksC_cut`, `closeBlocksT_cut`, `closeBlocks_cut`). A walk that knows nothing of the indices goes through this form: a
    simulation of one run by another (`cutRange_map`, `cutRange_cons`), an invariant of the stack (`cutRange_mem`,
    `cutRange_mem_iff`, `cutRange_sublist`), what is left of the stack from any state (`cutRange_ok`).
  * `closeBlocksC_mid`: for the stack `pre ++ mid ++ post` and the range `mid` the driver IS `closeListC … mid.reverse` followed by
    `opened := pre ++ post` — for the driver generic in `Close` and the transformer list, hence for `closeBlocksT`
    (`closeBlocksT_mid_eq`) and the plain `closeBlocks` (`closeBlocks_mid_eq`). A walk from a known stack rewrites with it and is left
    with the loop over a list.
-/
import GM.Proof.BlocksDriver
import GM.Proof.BlocksDriverC
import GM.Proof.BlocksRunEq

namespace GM.Blocks
open GM GM.Text

/-- `l` without the slots `to..from`, as the slice expressions of parser.go:912-917 build it: they panic exactly when `to` or
    `from + 1` is outside `0..len` (with `from < to - 1` the slots between are kept twice) -/
def cutRange (l : List Block) (frm to : Int) : Except Panic (List Block) :=
  if 0 ≤ to ∧ to ≤ l.length ∧ 0 ≤ frm + 1 ∧ frm + 1 ≤ l.length then .ok (l.take to.toNat ++ l.drop (frm + 1).toNat)
  else .error .slice

theorem slice'_prefix (l : List Block) (b : Int) :
    closeBlocks.slice' l 0 b = if 0 ≤ b ∧ b ≤ l.length then .ok (l.take b.toNat) else .error .slice := by
  simp [closeBlocks.slice']

theorem slice'_suffix (l : List Block) (a : Int) :
    closeBlocks.slice' l a l.length = if 0 ≤ a ∧ a ≤ l.length then .ok (l.drop a.toNat) else .error .slice := by
  unfold closeBlocks.slice'
  have : (l.drop a.toNat).take ((l.length : Int) - a).toNat = l.drop a.toNat := List.take_of_length_le (by simp; omega)
  simp [this]

theorem cutRange_eq (l : List Block) (frm to : Int) : cutRange l frm to =
    if frm == (l.length : Int) - 1 then closeBlocks.slice' l 0 to
    else closeBlocks.slice' l 0 to >>= fun a => closeBlocks.slice' l (frm + 1) l.length >>= fun b => pure (a ++ b) := by
  rw [slice'_prefix, slice'_suffix]
  unfold cutRange
  by_cases h1 : 0 ≤ to ∧ to ≤ (l.length : Int)
  · by_cases h2 : 0 ≤ frm + 1 ∧ frm + 1 ≤ (l.length : Int)
    · rw [if_pos ⟨h1.1, h1.2, h2⟩, if_pos h1, if_pos h2]
      split
      · next hf =>
        have : (frm + 1).toNat = l.length := by have := eq_of_beq hf; omega
        rw [this, List.drop_length, List.append_nil]
      · rfl
    · rw [if_neg (fun h => h2 h.2.2), if_pos h1, if_neg h2]
      split
      · next hf => have := eq_of_beq hf; omega
      · rfl
  · rw [if_neg (fun h => h1 ⟨h.1, h.2.1⟩), if_neg h1]
    split <;> rfl

theorem closeBlocksC_cut (cls : BP → Nat → M Unit) (pts : List PT) (frm to : Int) :
    closeBlocksC cls pts frm to = (do
      let l := (← getPc).opened
      closeLoopC cls pts l to (frm - to + 1).toNat
      let x ← liftE (cutRange l frm to)
      modPc fun pc => { pc with opened := x }) := by
  funext s
  unfold closeBlocksC
  simp only [bind, StateT.bind, getPc, pure, Except.bind, Except.pure]
  cases closeLoopC cls pts s.pc.opened to (frm - to + 1).toNat s with
  | error e => rfl
  | ok v =>
    simp only [cutRange_eq]
    split
    · rfl
    · cases closeBlocks.slice' s.pc.opened 0 to with
      | error e => rfl
      | ok a => cases closeBlocks.slice' s.pc.opened (frm + 1) s.pc.opened.length <;> rfl

theorem closeBlocksT_cut (pts : List PT) (frm to : Int) :
    closeBlocksT pts frm to = (do
      let l := (← getPc).opened
      closeLoopT pts l to (frm - to + 1).toNat
      let x ← liftE (cutRange l frm to)
      modPc fun pc => { pc with opened := x }) := by
  rw [closeBlocksT_eqC, closeBlocksC_cut]
  simp only [← closeLoopT_eqC]

theorem closeBlocks_cut (frm to : Int) :
    closeBlocks frm to = (do
      let l := (← getPc).opened
      closeLoop l to (frm - to + 1).toNat
      let x ← liftE (cutRange l frm to)
      modPc fun pc => { pc with opened := x }) := by
  rw [← closeBlocksT_nil, closeBlocksT_cut]
  simp only [closeLoopT_nil]

theorem cutRange_ok {l x : List Block} {frm to : Int} (h : cutRange l frm to = .ok x) :
    0 ≤ to ∧ x = l.take to.toNat ++ l.drop (frm + 1).toNat := by
  unfold cutRange at h
  split at h
  · next hc => cases h; exact ⟨hc.1, rfl⟩
  · cases h

theorem cutRange_mem {l x : List Block} {frm to : Int} (h : cutRange l frm to = .ok x) : ∀ z ∈ x, z ∈ l := by
  rw [(cutRange_ok h).2]
  intro z hz
  rcases List.mem_append.1 hz with hz | hz
  · exact List.mem_of_mem_take hz
  · exact List.mem_of_mem_drop hz

/-- the slots that stay are those below `to` and those above `from` -/
theorem cutRange_mem_iff {l x : List Block} {frm to : Int} (h : cutRange l frm to = .ok x) (b : Block) :
    b ∈ x ↔ ∃ i : Nat, l[i]? = some b ∧ ((i : Int) < to ∨ frm < (i : Int)) := by
  obtain ⟨h0, rfl⟩ := cutRange_ok h
  rw [List.mem_append]
  constructor
  · rintro (hb | hb)
    · obtain ⟨i, hi, he⟩ := List.getElem_of_mem hb
      rw [List.length_take] at hi
      rw [List.getElem_take] at he
      exact ⟨i, by rw [← he, List.getElem?_eq_getElem], .inl (by omega)⟩
    · obtain ⟨i, hi, he⟩ := List.getElem_of_mem hb
      rw [List.length_drop] at hi
      rw [List.getElem_drop] at he
      exact ⟨(frm + 1).toNat + i, by rw [← he, List.getElem?_eq_getElem], .inr (by omega)⟩
  · rintro ⟨i, hi, hlt | hgt⟩
    · exact .inl (List.mem_iff_getElem?.2 ⟨i, by rw [List.getElem?_take]; simp [show i < to.toNat by omega, hi]⟩)
    · refine .inr (List.mem_iff_getElem?.2 ⟨i - (frm + 1).toNat, ?_⟩)
      rw [List.getElem?_drop, show (frm + 1).toNat + (i - (frm + 1).toNat) = i by omega, hi]

/-- a range that is not inverted (`to ≤ from + 1`; empty at equality) leaves a sublist -/
theorem cutRange_sublist {l x : List Block} {frm to : Int} (hle : to ≤ frm + 1) (h : cutRange l frm to = .ok x) : x.Sublist l := by
  obtain ⟨h0, rfl⟩ := cutRange_ok h
  have := List.Sublist.append (List.Sublist.refl (l.take to.toNat))
    (List.drop_sublist_drop_left l (show to.toNat ≤ (frm + 1).toNat by omega))
  rwa [List.take_append_drop] at this

theorem cutRange_map (f : Block → Block) (l : List Block) (frm to : Int) :
    cutRange (l.map f) frm to = (cutRange l frm to).map (List.map f) := by
  unfold cutRange
  rw [List.length_map]
  split
  · simp [Except.map, List.map_take, List.map_drop]
  · rfl

/-- one more block at the bottom of the stack, both indices one up -/
theorem cutRange_cons {l x : List Block} {frm to : Int} (b : Block) (h : cutRange l frm to = .ok x) :
    cutRange (b :: l) (frm + 1) (to + 1) = .ok (b :: x) := by
  unfold cutRange at h ⊢
  split at h
  · next hc =>
    cases h
    rw [if_pos (by simp only [List.length_cons]; omega)]
    have e1 : (to + 1).toNat = to.toNat + 1 := by omega
    have e2 : (frm + 1 + 1).toNat = (frm + 1).toNat + 1 := by omega
    rw [e1, e2]; rfl
  · cases h

theorem cutRange_mid (pre mid post : List Block) :
    cutRange (pre ++ mid ++ post) ((pre.length : Int) + (mid.length : Int) - 1) (pre.length : Int) = .ok (pre ++ post) := by
  unfold cutRange
  rw [if_pos (by simp only [List.length_append]; omega)]
  have e : ((pre.length : Int) + (mid.length : Int) - 1 + 1).toNat = (pre ++ mid).length := by simp; omega
  rw [e, List.drop_left, Int.toNat_natCast, List.append_assoc, List.take_left]

theorem cutRange_all {l : List Block} {frm : Int} (h : frm + 1 = l.length) : cutRange l frm 0 = .ok [] := by
  unfold cutRange
  rw [if_pos (by omega), h, Int.toNat_natCast, List.drop_length]; rfl

end GM.Blocks

namespace GM.Blocks.T
open GM GM.Text

/-- the loop of `closeBlocksT` over an explicit list (in closing order) -/
def closeListT (pts : List PT) : List Block → M Unit
  | [] => pure ()
  | b :: bs => do
    let n ← getNode b.node
    if n.kind == .paragraph && n.parent.isSome then
      let _ ← transformParagraph pts b.node
    if (← getNode b.node).parent.isSome then bpClose b.bp b.node
    closeListT pts bs

/-- the loop of `closeBlocksC` over an explicit list (in closing order) -/
def closeListC (cls : BP → Nat → M Unit) (pts : List PT) : List Block → M Unit
  | [] => pure ()
  | b :: bs => do
    let n ← getNode b.node
    if n.kind == .paragraph && n.parent.isSome then
      let _ ← transformParagraph pts b.node
    if (← getNode b.node).parent.isSome then cls b.bp b.node
    closeListC cls pts bs

theorem closeListT_eqC (pts : List PT) : ∀ l, closeListT pts l = closeListC bpClose pts l
  | [] => rfl
  | b :: bs => by simp only [closeListT, closeListC, closeListT_eqC pts bs]

theorem closeLoopC_eq (cls : BP → Nat → M Unit) (pts : List PT) (blocks : List Block) (to : Nat) : ∀ k, to + k ≤ blocks.length →
    closeLoopC cls pts blocks (to : Int) k = closeListC cls pts ((blocks.drop to).take k).reverse := by
  intro k
  induction k with
  | zero => intro _; simp [closeLoopC, closeListC]
  | succ k ih =>
    intro hk
    have hlt : to + k < blocks.length := by omega
    have e : ((blocks.drop to).take (k + 1)).reverse = blocks[to + k] :: ((blocks.drop to).take k).reverse := by
      rw [List.take_add_one]
      have : (blocks.drop to)[k]? = some blocks[to + k] := by
        rw [List.getElem?_drop]; simp [hlt]
      rw [this]; simp
    rw [e]
    unfold closeLoopC
    simp only [closeListC]
    have hb : blockAt blocks ((to : Int) + (k : Int)) = .ok blocks[to + k] := by
      have := blockAt_ok blocks (to + k) hlt
      simpa using this
    rw [hb, ih (by omega)]
    rfl

/-- `closeBlocksC` over the range `mid` of the stack `pre ++ mid ++ post`: the loop over `mid`, top first, then the stack is `pre ++ post`
    (parser.go:900-918; the two slices and the `from == len-1` case once) -/
theorem closeBlocksC_mid (cls : BP → Nat → M Unit) (pts : List PT) (pre mid post : List Block) (s : St)
    (hop : s.pc.opened = pre ++ mid ++ post) :
    closeBlocksC cls pts ((pre.length : Int) + (mid.length : Int) - 1) (pre.length : Int) s =
      (closeListC cls pts mid.reverse >>= fun _ => modPc fun pc => { pc with opened := pre ++ post }) s := by
  rw [closeBlocksC_cut]
  simp only [bind, StateT.bind, getPc, pure, Except.bind, Except.pure]
  have hcnt : ((pre.length : Int) + (mid.length : Int) - 1 - (pre.length : Int) + 1).toNat = mid.length := by omega
  rw [hcnt, hop, closeLoopC_eq cls pts (pre ++ mid ++ post) pre.length mid.length (by simp), cutRange_mid]
  have hdt : ((pre ++ mid ++ post).drop pre.length).take mid.length = mid := by
    rw [List.append_assoc, List.drop_left, List.take_left]
  rw [hdt]
  cases closeListC cls pts mid.reverse s <;> rfl

/-- `closeBlocksC(last, last)` when the last opened block's node has lost its parent: the block is dropped, nothing is closed -/
theorem closeBlocksC_last_skip (cls : BP → Nat → M Unit) (pts : List PT) (pre : List Block) (x : Block) (s : St)
    (hop : s.pc.opened = pre ++ [x]) (hp : (nd s x.node).parent.isSome = false) :
    closeBlocksC cls pts ((s.pc.opened.length : Int) - 1) ((s.pc.opened.length : Int) - 1) s =
      .ok ((), { s with pc := { s.pc with opened := pre } }) := by
  have hlen : ((s.pc.opened.length : Int) - 1) = (pre.length : Int) := by rw [hop]; simp
  have := closeBlocksC_mid cls pts pre [x] [] s (by rw [hop, List.append_nil])
  rw [show (pre.length : Int) + (([x] : List Block).length : Int) - 1 = (pre.length : Int) by simp] at this
  rw [hlen, this]
  have hp' : (s.nodes.getD x.node default).parent.isSome = false := hp
  simp only [List.reverse_cons, List.reverse_nil, List.nil_append, closeListC, bind, StateT.bind, getNode, pure, StateT.pure,
    Except.bind, Except.pure, hp', Bool.and_false, Bool.false_eq_true, if_false, List.append_nil]
  rfl

end GM.Blocks.T

namespace GM.Blocks
open GM GM.Text

/-- without transformers and with the parsers' `Close`, the loop is the plain one -/
theorem closeListC_nil : ∀ l : List Block, T.closeListC bpClose [] l = closeList l
  | [] => rfl
  | b :: bs => by
    unfold T.closeListC closeList
    rw [closeListC_nil bs]
    funext s
    simp only [bind, StateT.bind, getNode, pure, StateT.pure, Except.bind, Except.pure, transformParagraph]
    split <;> rfl

theorem closeBlocksT_mid_eq (pts : List PT) (pre mid post : List Block) (s : St) (hop : s.pc.opened = pre ++ mid ++ post) :
    closeBlocksT pts ((pre.length : Int) + (mid.length : Int) - 1) (pre.length : Int) s =
      (T.closeListT pts mid.reverse >>= fun _ => modPc fun pc => { pc with opened := pre ++ post }) s := by
  rw [closeBlocksT_eqC, T.closeListT_eqC, T.closeBlocksC_mid bpClose pts pre mid post s hop]

theorem closeBlocks_mid_eq (pre mid post : List Block) (s : St) (hop : s.pc.opened = pre ++ mid ++ post) :
    closeBlocks ((pre.length : Int) + (mid.length : Int) - 1) (pre.length : Int) s =
      (closeList mid.reverse >>= fun _ => modPc fun pc => { pc with opened := pre ++ post }) s := by
  rw [← closeBlocksT_nil, closeBlocksT_eqC, T.closeBlocksC_mid bpClose [] pre mid post s hop, closeListC_nil]

/-- the stack around the range `[tn, fn]`, with the two indices as `closeBlocks*_mid_eq` wants them -/
theorem opened_split (l : List Block) (tn fn : Nat) (htf : tn ≤ fn) (hfl : fn < l.length) :
    ∃ pre mid post, l = pre ++ mid ++ post ∧ l.take tn = pre ∧ (l.drop tn).take (fn - tn + 1) = mid ∧ l.drop (fn + 1) = post ∧
      (fn : Int) = (pre.length : Int) + (mid.length : Int) - 1 ∧ (tn : Int) = (pre.length : Int) := by
  refine ⟨_, _, _, ?_, rfl, rfl, rfl, by simp; omega, by simp; omega⟩
  have : l.drop (fn + 1) = (l.drop tn).drop (fn - tn + 1) := by
    rw [List.drop_drop]; congr 1; omega
  rw [this, List.append_assoc, List.take_append_drop, List.take_append_drop]

theorem mem_split_iff {pre mid post : List Block} (b : Block) :
    b ∈ mid.reverse ++ (pre ++ post) ↔ b ∈ pre ++ mid ++ post := by
  simp only [List.mem_append, List.mem_reverse]
  constructor
  · rintro (h | h | h)
    · exact .inl (.inr h)
    · exact .inl (.inl h)
    · exact .inr h
  · rintro ((h | h) | h)
    · exact .inr (.inl h)
    · exact .inl h
    · exact .inr (.inr h)

theorem closeBlocks_last_skip (pre : List Block) (x : Block) (s : St) (hop : s.pc.opened = pre ++ [x])
    (hp : (nd s x.node).parent.isSome = false) :
    closeBlocks ((s.pc.opened.length : Int) - 1) ((s.pc.opened.length : Int) - 1) s =
      .ok ((), { s with pc := { s.pc with opened := pre } }) := by
  rw [← closeBlocksT_nil, closeBlocksT_eqC, T.closeBlocksC_last_skip bpClose [] pre x s hop hp]

end GM.Blocks
