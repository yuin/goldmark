/-
  GM.Proof.CMFragBlockPhase — the block driver of the conformance fragment, line by line: the bytes and lines of a source, the
  primitives of the block parsers on them, an open paragraph (open, continue, close with the link-reference transformer
  finding nothing), the close discipline, the line loop on a blank line / at the end of the source.
-/
import GM.Proof.CMFragDefs
import GM.Proof.CMFragSpec
import GM.Proof.LinkRefFacts
import GM.Proof.BlocksCloseRange
import GM.Proof.Hoare

/-
  section CMFragBytes — basic machinery of the symbolic execution of the block phase for the fragment
  GM.Spec.CMFrag: where a line of the source is (`lineEnd`, `sub` on a decomposed source), the source reader in
  explicit form (`rdr`), and every primitive of the block-phase monad as an equation on an explicit state.
-/
section CMFragBytes
namespace GM.Proof.CMFrag
open GM GM.Text GM.Blocks

theorem lineLen_line (l post : Bytes) (h : ∀ c ∈ l, c ≠ 10) : lineLen (l ++ 10 :: post) = l.length + 1 := by
  induction l with
  | nil => simp [lineLen]
  | cons c t ih =>
    have hc : c ≠ 10 := h c (by simp)
    have ht : ∀ c ∈ t, c ≠ 10 := fun x hx => h x (by simp [hx])
    simp only [List.cons_append, lineLen, List.length_cons]
    have : (c == 10) = false := by simp [hc]
    rw [this, ih ht]; simp; omega

theorem lineEnd_line (pre l post : Bytes) (h : ∀ c ∈ l, c ≠ 10) :
    lineEnd (pre ++ (l ++ 10 :: post)) pre.length = pre.length + l.length + 1 := by
  unfold lineEnd
  rw [if_pos (by simp)]
  rw [List.drop_left, lineLen_line l post h]; omega

theorem lineEnd_eof (src : Bytes) : lineEnd src src.length = src.length := by
  unfold lineEnd; simp [lineLen]

theorem sub_line (pre l post : Bytes) :
    sub (pre ++ (l ++ 10 :: post)) pre.length (pre.length + l.length + 1) = l ++ [10] := by
  unfold sub
  rw [List.drop_left]
  have : pre.length + l.length + 1 - pre.length = (l ++ [10]).length := by simp; omega
  rw [this]
  have e : l ++ 10 :: post = (l ++ [10]) ++ post := by simp
  rw [e, List.take_left]

theorem sub_body (pre l post : Bytes) :
    sub (pre ++ (l ++ post)) pre.length (pre.length + l.length) = l := by
  unfold sub
  rw [List.drop_left]
  have : pre.length + l.length - pre.length = l.length := by omega
  rw [this, List.take_left]

/-- the reader on line `k` (which starts at byte `h` and ends at `e`), standing at byte `p`, with the caches
    `pk` (PeekLine) and `lo` (LineOffset) -/
def rdr (src : Bytes) (k : Int) (h p e : Nat) (pk : Option Bytes) (lo : Int) : Reader :=
  { source := src, line := k, peekedLine := pk,
    pos := { start := p, stop := e, padding := 0, forceNewline := false }, head := h, lineOffset := lo }

/-- the segment from `p` to `e` -/
def sg (p e : Nat) : Segment := { start := p, stop := e, padding := 0, forceNewline := false }

@[simp] theorem rdr_line (src k h p e pk lo) : (rdr src k h p e pk lo).line = k := rfl
@[simp] theorem rdr_source (src k h p e pk lo) : (rdr src k h p e pk lo).source = src := rfl
@[simp] theorem rdr_pos (src k h p e pk lo) : (rdr src k h p e pk lo).pos = sg p e := rfl

theorem reader_new (src : Bytes) : Reader.new src = rdr src 0 0 0 (lineEnd src 0) none (-1) := by
  simp [Reader.new, Reader.advanceLine, rdr]

theorem bind_apply {α β} (m : M α) (f : α → M β) (s : St) :
    (m >>= f) s = (match m s with | .ok (a, s') => f a s' | .error e => .error e) := by
  show StateT.bind m f s = _
  unfold StateT.bind
  simp only [bind, Except.bind]
  cases m s with
  | error e => rfl
  | ok p => rfl

theorem map_apply {α β} (f : α → β) (m : M α) (s : St) :
    (f <$> m) s = (match m s with | .ok (a, s') => .ok (f a, s') | .error e => .error e) := by
  show StateT.map f m s = _
  unfold StateT.map
  simp only [bind, Except.bind, pure, Except.pure]
  cases m s with
  | error e => rfl
  | ok p => rfl

theorem pure_apply {α} (a : α) (s : St) : (pure a : M α) s = .ok (a, s) := rfl
theorem getNode_run (id) (s : St) : getNode id s = .ok (s.nodes.getD id default, s) := Blocks.getNode_run id s
theorem modNode_run (id f) (s : St) :
    modNode id f s = .ok ((), { s with nodes := s.nodes.set id (f (s.nodes.getD id default)) }) := Blocks.modNode_run id f s
theorem newNode_run (n) (s : St) : newNode n s = .ok (s.nodes.length, { s with nodes := s.nodes ++ [n] }) :=
  Blocks.newNode_run n s
theorem getPc_run (s : St) : getPc s = .ok (s.pc, s) := Blocks.getPc_run s
theorem modPc_run (f) (s : St) : modPc f s = .ok ((), { s with pc := f s.pc }) := Blocks.modPc_run f s
theorem get_run (s : St) : (get : M St) s = .ok (s, s) := Blocks.get_run s
theorem source_run (s : St) : source s = .ok (s.r.source, s) := Blocks.source_run s
theorem position_run (s : St) : position s = .ok ((s.r.line, s.r.pos), s) := rfl
theorem liftE_ok {α} (a : α) (s : St) : liftE (.ok a) s = .ok (a, s) := rfl
theorem lastOpenedBlock_run (s : St) : lastOpenedBlock s = .ok (s.pc.opened.getLast?, s) := rfl

theorem advanceLine_run (src k h p e pk lo nodes pc) :
    advanceLine ⟨rdr src k h p e pk lo, nodes, pc⟩ = .ok ((), ⟨rdr src (k + 1) e e (lineEnd src e) none (-1), nodes, pc⟩) := by
  have c : ¬ ((e : Int) < 0) := by omega
  simp [advanceLine, Reader.advanceLine, rdr, pure, Except.pure, c]

theorem peekLine_fresh {src : Bytes} {p e : Nat} {v : Bytes} (hsub : sub src p e = v) (hp : p < src.length) (hpe : p ≤ e)
    (he : e ≤ src.length) (k h lo nodes pc) :
    peekLine ⟨rdr src k h p e none lo, nodes, pc⟩ = .ok ((some v, sg p e), ⟨rdr src k h p e (some v) lo, nodes, pc⟩) := by
  have c1 : ((p : Int) ≥ 0 ∧ (p : Int) < (src.length : Int)) := by omega
  have c2 : (0 ≤ (p : Int) ∧ (p : Int) ≤ (e : Int) ∧ (e : Int) ≤ (src.length : Int)) := by omega
  simp [peekLine, Reader.peekLine, rdr, Reader.sourceLength, c1, Segment.value, sliceB, c2, needsNewline, hsub, sg,
    bind, Except.bind, pure, Except.pure]

theorem peekLine_cached {src : Bytes} {p : Nat} (hp : p < src.length) (k h e v lo nodes pc) :
    peekLine ⟨rdr src k h p e (some v) lo, nodes, pc⟩ = .ok ((some v, sg p e), ⟨rdr src k h p e (some v) lo, nodes, pc⟩) := by
  have c1 : ((p : Int) ≥ 0 ∧ (p : Int) < (src.length : Int)) := by omega
  simp [peekLine, Reader.peekLine, rdr, Reader.sourceLength, c1, sg, bind, Except.bind, pure, Except.pure]

theorem peekLine_eof {src : Bytes} {p : Nat} (hp : src.length ≤ p) (k h e pk lo nodes pc) :
    peekLine ⟨rdr src k h p e pk lo, nodes, pc⟩ = .ok ((none, sg p e), ⟨rdr src k h p e pk lo, nodes, pc⟩) := by
  have c1 : ¬ (p < src.length) := by omega
  simp [peekLine, Reader.peekLine, rdr, Reader.sourceLength, c1, sg, bind, Except.bind, pure, Except.pure]

/-- `LineOffset()` at the start of a line -/
theorem lineOffset_fresh (src k p e pk nodes pc) :
    lineOffset ⟨rdr src k p p e pk (-1), nodes, pc⟩ = .ok (0, ⟨rdr src k p p e pk 0, nodes, pc⟩) := by
  simp [lineOffset, Reader.lineOffsetOp, rdr, colLoop, bind, Except.bind, pure, Except.pure]

theorem lineOffset_cached (src k h p e pk nodes pc) :
    lineOffset ⟨rdr src k h p e pk 0, nodes, pc⟩ = .ok (0, ⟨rdr src k h p e pk 0, nodes, pc⟩) := by
  simp [lineOffset, Reader.lineOffsetOp, rdr, bind, Except.bind, pure, Except.pure]

/-- `Advance(n)` inside the peeked line -/
theorem stAdvance_fast {n : Int} {m : Nat} {v : Bytes} (hn : n = (m : Int)) (hm : m < v.length) (src k h p e lo nodes pc) :
    advance n ⟨rdr src k h p e (some v) lo, nodes, pc⟩ = .ok ((), ⟨rdr src k h (p + m) e none (-1), nodes, pc⟩) := by
  subst hn
  have c : ((m : Int) < (v.length : Int)) := by omega
  simp [advance, Reader.advance, rdr, c, bind, Except.bind, pure, Except.pure]

end GM.Proof.CMFrag
end CMFragBytes

/-
  section CMFragBlocks — the block phase on one line of a fragment document, as equations on explicit states. One step
  of the parser loop of `openBlocks` in general (a parser is passed over, its `Open` declines, a leaf parser opens a
  block: `tryParsersT_pass` / `_skip` / `_hit`) and `openBlocks` around that loop (`openBlocks_of_try`); then a text
  line: whatever is open a Paragraph is opened, with the paragraph open it is continued.
-/
section CMFragBlocks
namespace GM.Proof.CMFrag
open GM GM.Text GM.Blocks

/-- what the block phase needs to know of the first byte of a text line -/
theorem letter_facts : ∀ c : UInt8, GM.Spec.CM.isLetter c = true →
    (c == 32) = false ∧ (c == 9) = false ∧ (c == 10) = false ∧ isSpace c = false ∧ triggered c = none ∧ c ≠ 91 :=
  GM.forall_uint8 _ (by decide +kernel)

theorem printable_notSpace : ∀ c : UInt8, GM.Spec.CM.printable c = true → c ≠ 32 → isSpace c = false :=
  GM.forall_uint8 _ (by decide +kernel)

/-- a paragraph node below the Document -/
def paraN (lines : List Segment) (b : Bool) : Blocks.Node :=
  { kind := .paragraph, parent := some 0, lines := lines, linesNil := false, blankPrev := b }

/-- the line of `src` that starts at byte `p` ends at `e` (line feed included) and reads `v` -/
structure Ln (src : Bytes) (p e : Nat) (v : Bytes) : Prop where
  sub : sub src p e = v
  lt : p < e
  le : e ≤ src.length
  lineEnd : lineEnd src p = e
  len : v.length = e - p

theorem Ln.of_append (pre l post : Bytes) (h : ∀ c ∈ l, c ≠ 10) :
    Ln (pre ++ (l ++ 10 :: post)) pre.length (pre.length + l.length + 1) (l ++ [10]) :=
  ⟨sub_line pre l post, by omega, by simp; omega, lineEnd_line pre l post h, by simp; omega⟩

theorem trimLeft_id {src : Bytes} {p e : Nat} {c : UInt8} {t : Bytes} (hsub : sub src p e = c :: t) (hpe : p ≤ e)
    (he : e ≤ src.length) (hsp : isSpace c = false) : (sg p e).trimLeftSpace src = .ok (sg p e) := by
  have c2 : (0 ≤ (p : Int) ∧ (p : Int) ≤ (e : Int) ∧ (e : Int) ≤ (src.length : Int)) := by omega
  simp [Segment.trimLeftSpace, sg, sliceB, c2, hsub, trimLeftSpaceLength, List.takeWhile, hsp, bind, Except.bind,
    pure, Except.pure]

/-- a node with a parent is a node of the store, and appending to the store does not move it -/
theorem getD_of_parent {nodes : List Blocks.Node} {i : Nat} (h : (nodes.getD i default).parent.isSome = true)
    (tail : List Blocks.Node) : (nodes ++ tail).getD i default = nodes.getD i default := by
  have hlt : i < nodes.length := by
    apply Classical.byContradiction
    intro hge
    rw [List.getD_eq_getElem?_getD, List.getElem?_eq_none (by omega)] at h
    cases h
  simp only [List.getD_eq_getElem?_getD]
  rw [List.getElem?_append_left hlt]

/-- the last opened block, if there is one, is a node of `nodes` that has a parent: opening a further block leaves it
    open -/
def PrevKept (nodes : List Blocks.Node) (pc : Ctx) : Prop :=
  ∀ l, pc.opened.getLast? = some l → ((nodes.getD l.node default).parent.isSome = true)

theorem PrevKept.nil {nodes : List Blocks.Node} {pc : Ctx} (hop : pc.opened = []) : PrevKept nodes pc := by
  intro l h; rw [hop] at h; cases h

theorem PrevKept.single {nodes : List Blocks.Node} {pc : Ctx} {pi q : Nat} {pbp : BP}
    (hop : pc.opened = [{ node := pi, bp := pbp }]) (hx : (nodes.getD pi default).parent = some q) :
    PrevKept nodes pc := by
  intro l h
  rw [hop, List.getLast?_singleton, Option.some.injEq] at h
  subst h; rw [hx]; rfl

theorem appendChild_last (r : Reader) (d x : Blocks.Node) (rest : List Blocks.Node) (pc : Ctx) (hx : x.parent = none) :
    appendChild 0 (rest.length + 1) ⟨r, d :: (rest ++ [x]), pc⟩ =
      .ok ((), ⟨r, { d with children := d.children ++ [rest.length + 1] } :: (rest ++ [{ x with parent := some 0 }]), pc⟩) := by
  simp [appendChild, ensureIsolated, bind_apply, getNode_run, modNode_run, pure_apply, hx, List.getD,
    List.set_append_right]

section tryParsers
variable {pts : List PT} {parent : Nat} {blank cont : Bool} {w : Int} {bp : BP} {bps : List BP} {result : OpenResult}
  {lb : Option Block} {s : St}

theorem tryParsersT_gates (hint : cont = false ∨ bp.canInterruptParagraph = true)
    (hw : w ≤ 3 ∨ bp.canAcceptIndentedLine = true) :
    (cont && result == .noBlocksOpened && !bp.canInterruptParagraph) = false ∧
      (decide (w > 3) && !bp.canAcceptIndentedLine) = false := by
  constructor
  · rcases hint with h | h <;> simp [h]
  · rcases hw with h | h
    · have : ¬ w > 3 := by omega
      simp [this]
    · simp [h]

/-- a parser that may not interrupt the open paragraph is passed over -/
theorem tryParsersT_pass (hc : cont = true) (hi : bp.canInterruptParagraph = false) :
    tryParsersT pts parent blank cont w (bp :: bps) .noBlocksOpened lb s =
      tryParsersT pts parent blank cont w bps .noBlocksOpened lb s := by
  rw [tryParsersT]
  simp [hc, hi]

/-- a parser that is asked and whose `Open` declines -/
theorem tryParsersT_skip (hint : cont = false ∨ bp.canInterruptParagraph = true)
    (hw : w ≤ 3 ∨ bp.canAcceptIndentedLine = true) {st : PState} {s' : St}
    (h : bpOpen bp parent s = .ok ((none, st), s')) :
    tryParsersT pts parent blank cont w (bp :: bps) result lb s =
      tryParsersT pts parent blank cont w bps result s.pc.opened.getLast? s' := by
  obtain ⟨h1, h2⟩ := tryParsersT_gates (result := result) hint hw
  rw [tryParsersT]
  simp only [h1, h2, Bool.false_eq_true, if_false, bind_apply, lastOpenedBlock_run, h]

/-- a leaf parser whose `Open` has appended its node `x` to the store: `x` becomes the last child of the Document and
    the last opened block; what was open stays open -/
theorem tryParsersT_hit (hint : cont = false ∨ bp.canInterruptParagraph = true)
    (hw : w ≤ 3 ∨ bp.canAcceptIndentedLine = true) {st : PState} {r' : Reader} {d x : Blocks.Node}
    {rest : List Blocks.Node} {pc' : Ctx}
    (h : bpOpen bp 0 s = .ok ((some (rest.length + 1), st), ⟨r', d :: (rest ++ [x]), pc'⟩))
    (hrp : st.requirePara = false) (hkids : st.hasChildren = false) (hx : x.parent = none)
    (hprev : PrevKept (d :: rest) s.pc) :
    tryParsersT pts 0 blank cont w (bp :: bps) result lb s =
      .ok ((.done, .newBlocksOpened, s.pc.opened.getLast?),
        ⟨r', { d with children := d.children ++ [rest.length + 1] } ::
            (rest ++ [{ x with blankPrev := blank, parent := some 0 }]),
          { pc' with opened := pc'.opened ++ [{ node := rest.length + 1, bp := bp }] }⟩) := by
  obtain ⟨h1, h2⟩ := tryParsersT_gates (result := result) hint hw
  have hset : (d :: (rest ++ [x])).set (rest.length + 1) { x with blankPrev := blank } =
      d :: (rest ++ [{ x with blankPrev := blank }]) := by simp [List.set_append_right]
  have hlast : (d :: (rest ++ [x])).getD (rest.length + 1) default = x := by simp [List.getD]
  have happ := appendChild_last r' d { x with blankPrev := blank } rest pc' hx
  rw [tryParsersT]
  simp only [h1, h2, Bool.false_eq_true, if_false, bind_apply, lastOpenedBlock_run, h, hrp, pure_apply, modNode_run,
    hlast, hset]
  cases hl : s.pc.opened.getLast? with
  | none =>
    simp only [Option.map_none, bind_apply, pure_apply, happ, modPc_run, hkids, Bool.false_eq_true, if_false]
  | some l =>
    have hp := hprev l hl
    have hg := getD_of_parent hp [{ x with blankPrev := blank }]
    rw [List.cons_append] at hg
    have hpn : ((d :: rest).getD l.node default).parent.isNone = false := by
      cases hpp : ((d :: rest).getD l.node default).parent with
      | none => rw [hpp] at hp; cases hp
      | some q => rfl
    simp only [Option.map_some, bind_apply, getNode_run, hg, hpn, pure_apply, happ, modPc_run, hkids,
      Bool.false_eq_true, if_false]
end tryParsers

section line
variable {src : Bytes} {p e : Nat} {v : Bytes} {c : UInt8} {t : Bytes}

/-- `LineOffset()` at the start of a line, whatever the cache -/
theorem lineOffset_start (src k p e pk nodes pc) (lo : Int) (hlo : lo = -1 ∨ lo = 0) :
    lineOffset ⟨rdr src k p p e pk lo, nodes, pc⟩ = .ok (0, ⟨rdr src k p p e pk 0, nodes, pc⟩) := by
  rcases hlo with h | h <;> subst h
  · exact lineOffset_fresh ..
  · exact lineOffset_cached ..

/-- `openBlocks` at the start of a line that is not blank, around the parser loop; the line is indented by `w` columns /
    `posN` bytes, `cont`: the last opened block is a paragraph -/
theorem openBlocks_of_try (hl : Ln src p e v) (w : Int) (posN : Nat) (hposlt : posN < v.length)
    (c00 c0 : UInt8) (hidx0 : idx v 0 = .ok c00) (h10 : (c00 == 10) = false) (hidx : idx v (posN : Int) = .ok c0)
    (hiw : indentWidthI v 0 = (w, (posN : Int))) (pts : List PT) (k : Int) (nodes : List Blocks.Node) (pc : Ctx)
    (blank : Bool) (pk : Option Bytes) (hpk : pk = none ∨ pk = some v) (lo : Int) (hlo : lo = -1 ∨ lo = 0)
    (cont : Bool)
    (hcont : (match pc.opened.getLast? with
      | some lb => (nodes.getD lb.node default).kind == .paragraph
      | none => false) = cont)
    (S' : St)
    (htry : tryParsersT pts 0 blank cont w ((triggered c0).getD freeParsers) .noBlocksOpened pc.opened.getLast?
        ⟨rdr src k p p e (some v) 0, nodes, { pc with blockOffset := (posN : Int), blockIndent := w }⟩ =
      .ok ((.done, .newBlocksOpened, pc.opened.getLast?), S')) :
    openBlocksT pts 0 blank ⟨rdr src k p p e pk lo, nodes, pc⟩ = .ok (.newBlocksOpened, S') := by
  have hp : p < src.length := by have := hl.le; have := hl.lt; omega
  have hpeek : ∀ nodes pc', peekLine ⟨rdr src k p p e pk lo, nodes, pc'⟩ =
      .ok ((some v, sg p e), ⟨rdr src k p p e (some v) lo, nodes, pc'⟩) := by
    intro nodes pc'
    rcases hpk with h | h
    · subst h; exact peekLine_fresh hl.sub hp (Nat.le_of_lt hl.lt) hl.le ..
    · subst h; exact peekLine_cached hp ..
  have hlen : ¬ (((posN : Nat) : Int) ≥ (v.length : Int)) := by omega
  have hlen' : ((posN : Nat) : Int) < (v.length : Int) := by omega
  have hloop : openBlocksLoopT pts blank (2 * src.length + 8) false cont 0 .noBlocksOpened pc.opened.getLast?
      ⟨rdr src k p p e pk lo, nodes, pc⟩ = .ok (.newBlocksOpened, S') := by
    rw [openBlocksLoopT]
    simp only [bind_apply, hpeek, Option.getD_some, lineOffset_start _ _ _ _ _ _ _ lo hlo, hiw]
    simp only [modPc_run, hlen, if_false, Option.isNone_some, Bool.false_eq_true, bind_apply, hidx0, hidx, liftE_ok, h10,
      hlen', if_true, pure_apply]
    unfold retryStepT
    simp only [bind_apply, get_run, htry]
    simp [toContinuable, pure_apply]
  unfold openBlocksT
  simp only [bind_apply, lastOpenedBlock_run]
  revert hcont hloop
  generalize pc.opened.getLast? = lb0
  intro hcont hloop
  subst hcont
  cases lb0 with
  | none => simpa only [bind_apply, pure_apply, source_run, retryFuel, rdr_source] using hloop
  | some lb => simpa only [bind_apply, getNode_run, pure_apply, source_run, retryFuel, rdr_source] using hloop

/-- paragraphParser.Open at the start of a text line (already peeked) -/
theorem paragraphOpen_line (hl : Ln src p e v) (hv : v = c :: t) (hc : GM.Spec.CM.isLetter c = true) (k : Int) (lo : Int)
    (nodes pc) (parent : Nat) :
    paragraphOpen parent ⟨rdr src k p p e (some v) lo, nodes, pc⟩ =
      .ok ((some nodes.length, stNoChildren),
        ⟨rdr src k p (e - 1) e none (-1),
          nodes ++ [{ kind := .paragraph, lines := [sg p e], linesNil := false }], pc⟩) := by
  obtain ⟨h32, h9, h10, hsp, htr, hbr⟩ := letter_facts c hc
  have hp : p < src.length := by have := hl.le; have := hl.lt; omega
  have htl := trimLeft_id (src := src) (p := p) (e := e) (c := c) (t := t)
    (by rw [hl.sub, hv]) (Nat.le_of_lt hl.lt) hl.le hsp
  unfold paragraphOpen
  simp only [bind_apply, peekLine_cached hp, source_run]
  have e1 : (rdr src k p p e (some v) lo).source = src := rfl
  rw [e1, htl]
  simp only [liftE_ok]
  have e2 : (sg p e).isEmpty = false := by
    have := hl.lt
    simp [Segment.isEmpty, sg]; omega
  simp only [e2, Bool.false_eq_true, if_false, bind_apply, newNode_run, appendLine, modNode_run]
  have hlen := hl.len
  have hlt := hl.lt
  rw [stAdvance_fast (m := e - p - 1) (by simp [Segment.len, sg]; omega) (by omega)]
  have e3 : p + (e - p - 1) = e - 1 := by omega
  simp [pure_apply, e3]

/-- codeBlockParser.Open declines on a text line -/
theorem codeOpen_line (hl : Ln src p e v) (hv : v = c :: t) (hc : GM.Spec.CM.isLetter c = true) (k : Int) (nodes pc)
    (parent : Nat) :
    codeOpen parent ⟨rdr src k p p e (some v) 0, nodes, pc⟩ =
      .ok ((none, stNoChildren), ⟨rdr src k p p e (some v) 0, nodes, pc⟩) := by
  obtain ⟨h32, h9, h10, hsp, htr, hbr⟩ := letter_facts c hc
  have hp : p < src.length := by have := hl.le; have := hl.lt; omega
  have hi : indentPosition v 0 4 = (-1, -1) := by
    subst hv
    simp [indentPosition, indentPositionPadding, ippLoop, h9, h32]
  unfold codeOpen
  simp only [bind_apply, peekLine_cached hp, lineOffset_cached, Option.getD_some, hi]
  simp [pure_apply]

/-- the parser loop of openBlocks on a text line, whatever is open: a Paragraph is opened below the Document -/
theorem try_line (hl : Ln src p e v) (hv : v = c :: t) (hc : GM.Spec.CM.isLetter c = true) (pts : List PT) (k : Int)
    (d : Blocks.Node) (rest : List Blocks.Node) (pc : Ctx) (hprev : PrevKept (d :: rest) pc) (blank : Bool)
    (result : OpenResult) (lb : Option Block) :
    tryParsersT pts 0 blank false 0 [.code, .paragraph] result lb ⟨rdr src k p p e (some v) 0, d :: rest, pc⟩ =
      .ok ((.done, .newBlocksOpened, pc.opened.getLast?),
        ⟨rdr src k p (e - 1) e none (-1),
          { d with children := d.children ++ [rest.length + 1] } :: (rest ++ [paraN [sg p e] blank]),
          { pc with opened := pc.opened ++ [{ node := rest.length + 1, bp := .paragraph }] }⟩) := by
  rw [tryParsersT_skip (bp := .code) (Or.inl rfl) (Or.inl (by decide)) (codeOpen_line hl hv hc k (d :: rest) pc 0)]
  exact tryParsersT_hit (bp := .paragraph) (Or.inl rfl) (Or.inl (by decide))
    (paragraphOpen_line hl hv hc k 0 (d :: rest) pc 0) rfl rfl rfl hprev

theorem getD_last (d : Blocks.Node) (rest : List Blocks.Node) (x : Blocks.Node) :
    (d :: (rest ++ [x])).getD (rest.length + 1) default = x := by
  simp [List.getD]

theorem set_last (d : Blocks.Node) (rest : List Blocks.Node) (x y : Blocks.Node) :
    (d :: (rest ++ [x])).set (rest.length + 1) y = d :: (rest ++ [y]) := by
  simp [List.set_append_right]

/-- openBlocks on a text line with the paragraph (the last node) open: paragraph continuation -/
theorem openBlocks_cont (hl : Ln src p e v) (hv : v = c :: t) (hc : GM.Spec.CM.isLetter c = true) (pts : List PT) (k : Int)
    (d : Blocks.Node) (rest : List Blocks.Node) (lines : List Segment) (b : Bool) (pc : Ctx)
    (hop : pc.opened = [{ node := rest.length + 1, bp := .paragraph }]) (blank : Bool) (pk : Option Bytes)
    (hpk : pk = none ∨ pk = some v) :
    openBlocksT pts 0 blank ⟨rdr src k p p e pk (-1), d :: (rest ++ [paraN lines b]), pc⟩ =
      .ok (.paragraphContinuation,
        ⟨rdr src k p (e - 1) e none (-1), d :: (rest ++ [paraN (lines ++ [sg p e]) b]),
          { pc with blockOffset := 0, blockIndent := 0 }⟩) := by
  obtain ⟨h32, h9, h10, hsp, htr, hbr⟩ := letter_facts c hc
  have hp : p < src.length := by have := hl.le; have := hl.lt; omega
  have hiw : indentWidthI v 0 = (0, 0) := by
    subst hv; unfold GM.Blocks.indentWidthI GM.Blocks.indentWidthGo; simp [h32, h9]
  have hpeek : ∀ nodes pc', peekLine ⟨rdr src k p p e pk (-1), nodes, pc'⟩ =
      .ok ((some v, sg p e), ⟨rdr src k p p e (some v) (-1), nodes, pc'⟩) := by
    intro nodes pc'
    rcases hpk with h | h
    · subst h; exact peekLine_fresh hl.sub hp (Nat.le_of_lt hl.lt) hl.le ..
    · subst h; exact peekLine_cached hp ..
  have hlen : ¬ ((0 : Int) ≥ (v.length : Int)) := by have := hl.len; have := hl.lt; omega
  have hlen' : (0 : Int) < (v.length : Int) := by omega
  have hidx : idx v 0 = .ok c := by subst hv; rfl
  have hbl : isBlank v = false := by subst hv; simp [isBlank, hsp]
  unfold openBlocksT
  simp only [bind_apply, lastOpenedBlock_run, hop, List.getLast?_singleton, pure_apply, source_run, retryFuel, getNode_run,
    getD_last]
  rw [openBlocksLoopT]
  simp only [bind_apply, hpeek, Option.getD_some, lineOffset_fresh, hiw]
  simp only [modPc_run, hlen, if_false, Option.isNone_some, Bool.false_eq_true, bind_apply, hidx, liftE_ok, h10, hlen',
    if_true, pure_apply, htr, Option.getD_none, freeParsers]
  unfold retryStepT
  simp only [bind_apply, get_run]
  rw [tryParsersT]
  simp [paraN, BP.canInterruptParagraph]
  rw [tryParsersT]
  simp [BP.canInterruptParagraph]
  rw [tryParsersT]
  simp [pure_apply, toContinuable, bind_apply, bpContinue, paragraphContinue, peekLine_cached hp, hbl, appendLine,
    modNode_run, set_last]
  have hlenv := hl.len
  have hlt := hl.lt
  rw [map_apply, stAdvance_fast (m := e - p - 1) (by simp [Segment.len, sg]; omega) (by omega)]
  have e3 : p + (e - p - 1) = e - 1 := by omega
  simp [pure_apply, e3, stContinueNoChildren, hop]
end line

end GM.Proof.CMFrag
end CMFragBlocks

/-
  section CMFragPara — a whole paragraph of a fragment document in the source: its line segments while it is open
  (`openSegs`) and after `paragraphParser.Close` (`paraSegs`), the run-time check of the link-reference
  transformer passes and the transformer declines, `Close` trims nothing but the last line feed.
-/
section CMFragPara
namespace GM.Proof.CMFrag
open GM GM.Text GM.Blocks GM.Spec

/-- what the block phase needs of a text line -/
structure BlkLine (l : Bytes) : Prop where
  first : ∃ c t, l = c :: t ∧ GM.Spec.CM.isLetter c = true
  lastNoSpace : ∀ c, l.getLast? = some c → isSpace c = false
  noNl : ∀ c ∈ l, c ≠ 10

theorem GoodLine.blk {l : Bytes} (h : GoodLine l) (hn : ∀ c ∈ l, c ≠ 10) : BlkLine l := by
  refine ⟨?_, h.lastNoSpace, hn⟩
  cases l with
  | nil => exact absurd rfl h.ne
  | cons c t => exact ⟨c, t, rfl, h.first c rfl⟩

/-- the lines `ls` of a paragraph lie in `src` from byte `p` on -/
def ParaAt (src : Bytes) : Nat → List Bytes → Prop
  | _, [] => True
  | p, l :: rest => Ln src p (p + l.length + 1) (l ++ [10]) ∧ ParaAt src (p + l.length + 1) rest

/-- the line segments of the open paragraph -/
def openSegs : Nat → List Bytes → List Segment
  | _, [] => []
  | p, l :: rest => sg p (p + l.length + 1) :: openSegs (p + l.length + 1) rest

theorem openSegs_append (p : Nat) (ls : List Bytes) (l : Bytes) :
    openSegs p (ls ++ [l]) = openSegs p ls ++ [sg (p + (paraBytes ls).length) (p + (paraBytes ls).length + l.length + 1)] := by
  induction ls generalizing p with
  | nil => simp [openSegs, paraBytes]
  | cons a rest ih =>
    simp only [List.cons_append, openSegs, ih, paraBytes, List.flatMap_cons, List.length_append, List.length_cons,
      List.length_nil]
    have e : p + a.length + 1 + (List.flatMap (fun x => x ++ [10]) rest).length =
        p + (a.length + (0 + 1) + (List.flatMap (fun x => x ++ [10]) rest).length) := by omega
    rw [e]

theorem paraAt_take {src : Bytes} : ∀ (done more : List Bytes) (P : Nat), ParaAt src P (done ++ more) → ParaAt src P done
  | [], _, _, _ => trivial
  | _ :: t, more, P, h => ⟨h.1, paraAt_take t more _ h.2⟩

theorem paraAt_drop {src : Bytes} : ∀ (done more : List Bytes) (P : Nat), ParaAt src P (done ++ more) →
    ParaAt src (P + (paraBytes done).length) more
  | [], more, P, h => by simpa [paraBytes] using h
  | a :: t, more, P, h => by
    have e : P + (paraBytes (a :: t)).length = P + a.length + 1 + (paraBytes t).length := by simp [paraBytes]; omega
    rw [e]
    exact paraAt_drop t more (P + a.length + 1) h.2

/-- decomposition at the last line -/
theorem segs_snoc {src : Bytes} : ∀ (ls : List Bytes) (p : Nat), ls ≠ [] → ParaAt src p ls →
    ∃ init q l, l ∈ ls ∧ openSegs p ls = init ++ [sg q (q + l.length + 1)] ∧
      paraSegs p ls = init ++ [sg q (q + l.length)] ∧ Ln src q (q + l.length + 1) (l ++ [10])
  | [], _, h, _ => absurd rfl h
  | [l], p, _, h => ⟨[], p, l, by simp, rfl, by simp [paraSegs, sg], h.1⟩
  | l :: l' :: rest, p, _, h => by
    obtain ⟨init, q, x, hx, h1, h2, h3⟩ := segs_snoc (l' :: rest) (p + l.length + 1) (by simp) h.2
    refine ⟨sg p (p + l.length + 1) :: init, q, x, by simp [hx] , ?_, ?_, h3⟩
    · simp only [openSegs] at h1 ⊢; rw [h1]; rfl
    · simp only [paraSegs] at h2 ⊢; rw [h2]; simp [sg]

theorem wfSegsFromB_open {src : Bytes} : ∀ (ls : List Bytes) (p : Nat) (lo : Int), lo ≤ p → ParaAt src p ls →
    GM.LinkRef.wfSegsFromB src lo (openSegs p ls) = true
  | [], _, _, _, _ => rfl
  | l :: rest, p, lo, hlo, h => by
    have ih := wfSegsFromB_open rest (p + l.length + 1) ((p + l.length + 1 : Nat) : Int) (Int.le_refl _) h.2
    have hle := h.1.le
    simp only [openSegs, GM.LinkRef.wfSegsFromB, sg]
    simp only [Bool.and_eq_true, decide_eq_true_eq, Bool.not_eq_true']
    refine ⟨⟨⟨⟨⟨hlo, by omega⟩, by omega⟩, by omega⟩, ?_⟩, ih⟩
    first | trivial | rfl

theorem pad0_open : ∀ (ls : List Bytes) (p : Nat), GM.LinkRef.pad0B (openSegs p ls) = true
  | [], _ => rfl
  | l :: rest, p => by
    have ih := pad0_open rest (p + l.length + 1)
    simp only [GM.LinkRef.pad0B] at ih ⊢
    simp [openSegs, sg, ih]

theorem wf0B_open {src : Bytes} (ls : List Bytes) (p : Nat) (hne : ls ≠ []) (h : ParaAt src p ls) :
    GM.LinkRef.wf0B src (openSegs p ls) = true := by
  have h1 := wfSegsFromB_open ls p 0 (by omega) h
  have h2 := pad0_open ls p
  cases ls with
  | nil => exact absurd rfl hne
  | cons l rest =>
    simp only [GM.LinkRef.wf0B, GM.LinkRef.wfSegsB, h1, h2]
    simp [openSegs]

theorem trimLeftAll_open {src : Bytes} : ∀ (ls : List Bytes) (p : Nat), ParaAt src p ls → (∀ l ∈ ls, BlkLine l) →
    trimLeftAll src (openSegs p ls) = .ok (openSegs p ls)
  | [], _, _, _ => rfl
  | l :: rest, p, h, hb => by
    obtain ⟨c, t, hl, hc⟩ := (hb l (by simp)).first
    obtain ⟨_, _, _, hsp, _, _⟩ := letter_facts c hc
    have ih := trimLeftAll_open rest (p + l.length + 1) h.2 (fun x hx => hb x (by simp [hx]))
    have h1 := trimLeft_id (src := src) (p := p) (e := p + l.length + 1) (c := c) (t := t ++ [10])
      (by rw [h.1.sub, hl]; rfl) (by omega) h.1.le hsp
    simp only [openSegs, trimLeftAll, h1, ih, bind, Except.bind, pure, Except.pure]

theorem lastStop_gt {src : Bytes} : ∀ (segs : List Segment) (lo : Int), segs ≠ [] → WFSegsFrom src lo segs →
    lo < BCur.lastStop segs
  | [], _, h, _ => absurd rfl h
  | [s], lo, _, h => by simp only [BCur.lastStop, List.getLast?_singleton]; have := h.1; have := h.2.1; omega
  | s :: s' :: rest, lo, _, h => by
    have ih := lastStop_gt (s' :: rest) s.stop (by simp) h.2.2.2.2.2
    have := h.1; have := h.2.1
    simp only [BCur.lastStop, List.getLast?_cons_cons] at ih ⊢
    omega

/-- the link-reference transformer declines on lines that pass the run-time check and start with a byte that is
    neither white space nor `[` -/
theorem transformScan_first {src : Bytes} {s : Segment} {rest : List Segment}
    (hw : GM.LinkRef.wf0B src (s :: rest) = true) (c : UInt8) (t : Bytes)
    (hsub : sub src s.start.toNat s.stop.toNat = c :: t) (hsp : isSpace c = false) (hbr : c ≠ 91)
    (refs : GM.LinkRef.RefMap) : GM.LinkRef.transformScan src (s :: rest) refs = .ok ([], refs) := by
  have W := GM.Proof.LinkRefTotal.wf0B_sound hw
  refine GM.Proof.LinkRefFacts.transformScan_not_bracket W refs (b0 := c) (rest := t) ?_ hsp hbr
  have hlt := lastStop_gt (s :: rest) s.start (by simp) ⟨Int.le_refl _, W.1.2.2⟩
  have hpad : s.padding = 0 := W.2 s (by simp)
  have h0 := W.1.2.1
  simp only [BCur.view, BCur.live, BCur.k, BCur.stopOf, BCur.segOf, BCur.init]
  simp [hpad, spaces, hsub]
  omega

/-- the link-reference transformer declines on a fragment paragraph -/
theorem transformScan_open {src : Bytes} (ls : List Bytes) (p : Nat) (hne : ls ≠ []) (h : ParaAt src p ls)
    (hb : ∀ l ∈ ls, BlkLine l) (refs : GM.LinkRef.RefMap) :
    GM.LinkRef.transformScan src (openSegs p ls) refs = .ok ([], refs) := by
  have hw := wf0B_open ls p hne h
  cases ls with
  | nil => exact absurd rfl hne
  | cons l rest =>
    obtain ⟨c, t, hl, hc⟩ := (hb l (by simp)).first
    obtain ⟨_, _, _, hsp, _, hbr⟩ := letter_facts c hc
    refine transformScan_first hw c (t ++ [10]) ?_ hsp hbr refs
    simp only [sg, Int.toNat_natCast]
    rw [h.1.sub, hl]; rfl

end GM.Proof.CMFrag
end CMFragPara

/-
  section CMFragClose — `closeBlocks` on the first opened block in general (`closeBlocks_first`), and closing the
  open paragraph of a fragment document: the guarded link-reference transformer leaves the state as it is,
  `paragraphParser.Close` removes the last line feed, `closeBlocks` empties the list of opened blocks.
-/
section CMFragClose
namespace GM.Proof.CMFrag
open GM GM.Text GM.Blocks GM.Spec

theorem lineAt_snoc (init : List Segment) (x : Segment) :
    lineAt (init ++ [x]) (((init ++ [x]).length : Int) - 1) = .ok x := by
  have e : (((init ++ [x]).length : Int) - 1).toNat = init.length := by simp
  have c : ¬ (((init ++ [x]).length : Int) - 1 < 0) := by simp
  simp only [lineAt, segAt, c, if_false, e]
  simp

theorem lineSet_snoc (init : List Segment) (x y : Segment) :
    lineSet (init ++ [x]) (((init ++ [x]).length : Int) - 1) y = .ok (init ++ [y]) := by
  have e : (((init ++ [x]).length : Int) - 1).toNat = init.length := by simp
  have c : (0 ≤ ((init ++ [x]).length : Int) - 1 ∧ ((init ++ [x]).length : Int) - 1 < ((init ++ [x]).length : Int)) := by
    simp; omega
  simp only [lineSet, c, if_true, e]
  simp

/-- `TrimRightSpace` on the last line of a paragraph, with its line feed (`tl = [10]`, trimmed off) or without
    (`tl = []`: the last line of a source without final line feed) -/
theorem trimRight_line {src : Bytes} {q : Nat} {l : Bytes} (tl : Bytes) (htl : tl = [10] ∨ tl = [])
    (hl : Ln src q (q + l.length + tl.length) (l ++ tl)) (hb : BlkLine l) :
    (sg q (q + l.length + tl.length)).trimRightSpace src = .ok (sg q (q + l.length)) := by
  obtain ⟨c, t, hlc, hc⟩ := hb.first
  have c2 : (0 ≤ (q : Int) ∧ (q : Int) ≤ ((q + l.length + tl.length : Nat) : Int) ∧
      ((q + l.length + tl.length : Nat) : Int) ≤ (src.length : Int)) := by
    have := hl.le; omega
  have hne : l ≠ [] := by rw [hlc]; simp
  have hlast : isSpace (l.getLast hne) = false := hb.lastNoSpace _ (List.getLast?_eq_some_getLast hne)
  have htr : trimRightSpaceLength (l ++ tl) = tl.length := by
    unfold trimRightSpaceLength
    rw [List.reverse_append]
    have e : l.reverse = l.getLast hne :: l.dropLast.reverse := by
      conv => lhs; rw [← List.dropLast_concat_getLast hne]
      simp
    have h10 : isSpace 10 = true := by decide
    rcases htl with rfl | rfl <;> simp [List.takeWhile, h10, e, hlast]
  have hs : sub src ((q : Nat) : Int).toNat ((q + l.length + tl.length : Nat) : Int).toNat = l ++ tl := by
    rw [Int.toNat_natCast, Int.toNat_natCast]; exact hl.sub
  have hlen : (tl.length == (l ++ tl).length) = false := by rw [hlc]; simp; omega
  simp only [Segment.trimRightSpace, sg, sliceB, c2, if_true, hs, and_self, bind, Except.bind, pure, Except.pure, htr, hlen,
    Bool.false_eq_true, if_false]
  congr 2
  omega

section close
variable {src : Bytes} {p : Nat} {ls : List Bytes}

/-- the guarded link-reference transformer on a paragraph node whose lines pass the run-time check and on which the
    transformer's scan declines: nothing changes -/
theorem guardedTransform_decl {src : Bytes} (segs : List Segment) (hw : GM.LinkRef.wf0B src segs = true) (hne : segs ≠ [])
    (hscan : ∀ refs, GM.LinkRef.transformScan src segs refs = .ok ([], refs))
    (r : Reader) (hr : r.source = src) (nodes : List Blocks.Node) (pi : Nat) (b : Bool)
    (hx : nodes.getD pi default = paraN segs b) (pc : Ctx) :
    GM.LinkRef.guardedTransform pi ⟨r, nodes, pc⟩ = .ok ((), ⟨r, nodes, pc⟩) := by
  have hw' : GM.LinkRef.wfSegsB src segs = true := by
    simp only [GM.LinkRef.wf0B, Bool.and_eq_true] at hw; exact hw.1
  unfold GM.LinkRef.guardedTransform
  simp only [bind_apply, getNode_run, hx, source_run, hr, paraN, hw', Bool.not_true, Bool.and_false,
    Bool.false_eq_true, if_false]
  apply GM.Proof.LinkRefFacts.transform_declined_state
  · simpa only [hx, paraN] using hne
  · simp only [hx, hr]
    exact hscan _

/-- paragraphParser.Close on a paragraph node with lines `init ++ [s]`: nothing is trimmed on the left (`htl`), the
    last line becomes `s'` (`htr`) -/
theorem paragraphClose_segs {src : Bytes} (init : List Segment) (s s' : Segment)
    (htl : trimLeftAll src (init ++ [s]) = .ok (init ++ [s])) (htr : s.trimRightSpace src = .ok s')
    (r : Reader) (hr : r.source = src) (nodes : List Blocks.Node) (pi : Nat) (b : Bool) (hpi : pi < nodes.length)
    (hx : nodes.getD pi default = paraN (init ++ [s]) b) (pc : Ctx) :
    paragraphClose pi ⟨r, nodes, pc⟩ = .ok ((), ⟨r, nodes.set pi (paraN (init ++ [s']) b), pc⟩) := by
  have hset : ∀ y : Blocks.Node, (nodes.set pi y).getD pi default = y := by
    intro y; simp [List.getD, hpi]
  have hlen : ((init ++ [s]).length != 0) = true := by simp
  unfold paragraphClose
  simp only [bind_apply, getNode_run, hx, source_run, hr, paraN, htl, liftE_ok, hlen, if_true, lineAt_snoc, htr,
    lineSet_snoc, modNode_run, hset]
  simp [pure_apply]

/-- the paragraph transformers of the default configuration, with the run-time check -/
abbrev pts : List PT := GM.Convert.paragraphTransformers true

/-- closeBlocks(0, 0): the first opened block `blk` — its node has a parent and is not a paragraph, or is a paragraph on
    which the transformer declines — is closed by its parser; what else is open stays open -/
theorem closeBlocks_first (r : Reader) (nodes : List Blocks.Node) (pc : Ctx) (blk : Block) (more : List Block)
    (hop : pc.opened = blk :: more) (q : Nat) (hpar : (nodes.getD blk.node default).parent = some q)
    (htr : (nodes.getD blk.node default).kind = .paragraph →
      GM.LinkRef.guardedTransform blk.node ⟨r, nodes, pc⟩ = .ok ((), ⟨r, nodes, pc⟩))
    (s' : St) (hclose : bpClose blk.bp blk.node ⟨r, nodes, pc⟩ = .ok ((), s')) :
    closeBlocksT pts 0 0 ⟨r, nodes, pc⟩ = .ok ((), { s' with pc := { s'.pc with opened := more } }) := by
  refine (closeBlocksT_mid_eq pts [] [blk] more _ hop).trans ?_
  simp only [List.reverse_cons, List.reverse_nil, List.nil_append, T.closeListT, bind_apply, getNode_run, hpar,
    Option.isSome_some, Bool.and_true]
  by_cases hk : (nodes.getD blk.node default).kind = .paragraph
  · have hk' : ((nodes.getD blk.node default).kind == .paragraph) = true := by rw [hk]; rfl
    simp only [hk', if_true, pts, GM.Convert.paragraphTransformers, transformParagraph, bind_apply, htr hk, getNode_run,
      hpar, Option.isNone_some, Bool.false_eq_true, if_false, pure_apply, Option.isSome_some, hclose, modPc_run]
  · have hk' : ((nodes.getD blk.node default).kind == .paragraph) = false := by simpa using hk
    simp only [hk', Bool.false_eq_true, if_false, pure_apply, bind_apply, getNode_run, hpar, Option.isSome_some, if_true,
      hclose, modPc_run]

/-- closeBlocks on the open fragment paragraph (the only opened block) -/
theorem closeBlocks_open (hne : ls ≠ []) (h : ParaAt src p ls) (hb : ∀ l ∈ ls, BlkLine l)
    (r : Reader) (hr : r.source = src) (d : Blocks.Node) (rest : List Blocks.Node) (b : Bool) (pc : Ctx)
    (hop : pc.opened = [{ node := rest.length + 1, bp := .paragraph }]) :
    closeBlocksT pts 0 0 ⟨r, d :: (rest ++ [paraN (openSegs p ls) b]), pc⟩ =
      .ok ((), ⟨r, d :: (rest ++ [paraN (paraSegs p ls) b]), { pc with opened := [] }⟩) := by
  obtain ⟨init, q, l, hmem, h1, h2, h3⟩ := segs_snoc ls p hne h
  have hx := getD_last d rest (paraN (openSegs p ls) b)
  have hcl := paragraphClose_segs init _ _ (h1 ▸ trimLeftAll_open ls p h hb) (trimRight_line [10] (Or.inl rfl) h3 (hb l hmem)) r hr _
    (rest.length + 1) b (by simp) (h1 ▸ hx) pc
  rw [set_last, ← h2, ← h1] at hcl
  exact closeBlocks_first r _ pc { node := rest.length + 1, bp := .paragraph } [] hop 0 (by rw [hx]; rfl)
    (fun _ => guardedTransform_decl _ (wf0B_open ls p hne h) (by rw [h1]; simp) (transformScan_open ls p hne h hb) r hr _
      _ b hx pc) _ hcl
end close

end GM.Proof.CMFrag
end CMFragClose

/-
  section CMFragDriver — the per-line loop of parseBlocks (`lineLoopT`) on the three kinds of lines that can follow
  the first line of a fragment paragraph: a further text line, a blank line, the end of the source; and one turn of
  the loop over the lines (`linesLoopT`) around such a pass.
-/
section CMFragDriver
namespace GM.Proof.CMFrag
open GM GM.Text GM.Blocks GM.Spec

section driver
variable {src : Bytes}

/-- a further text line: paragraph continuation -/
theorem lineLoop_cont {p e : Nat} {v : Bytes} {c : UInt8} {t : Bytes} (hl : Ln src p e v) (hv : v = c :: t)
    (hc : GM.Spec.CM.isLetter c = true) (k : Int) (d : Blocks.Node) (rest : List Blocks.Node) (lines : List Segment)
    (b : Bool) (pc : Ctx) (hop : pc.opened = [{ node := rest.length + 1, bp := .paragraph }]) (bl : List LineStat) :
    lineLoopT pts 0 [{ node := rest.length + 1, bp := .paragraph }] 0 [{ node := rest.length + 1, bp := .paragraph }] 0 bl
        ⟨rdr src k p p e none (-1), d :: (rest ++ [paraN lines b]), pc⟩ =
      .ok ((.next, bl ++ [{ lineNum := k, level := 0, isBlank := isBlank v }]),
        ⟨rdr src k p (e - 1) e none (-1), d :: (rest ++ [paraN (lines ++ [sg p e]) b]),
          { pc with blockOffset := 0, blockIndent := 0 }⟩) := by
  have hp : p < src.length := by have := hl.le; have := hl.lt; omega
  have e3 : (paraN lines b).kind = .paragraph := rfl
  rw [lineLoopT]
  simp only [bind_apply, peekLine_fresh hl.sub hp (Nat.le_of_lt hl.lt) hl.le, position_run, getNode_run, getD_last, e3]
  simp only [bne_self_eq_false, Bool.false_eq_true, if_false, pure_apply, Bool.not_true, bind_apply, blockAt, liftE_ok]
  simp [bind_apply, liftE_ok, openBlocks_cont hl hv hc pts k d rest lines b pc hop _ (some v) (Or.inr rfl), pure_apply, rdr_line]

/-- the end of the source with the paragraph open: it is closed -/
theorem lineLoop_eof {p : Nat} {ls : List Bytes} (hne : ls ≠ []) (h : ParaAt src p ls) (hb : ∀ l ∈ ls, BlkLine l)
    (k : Int) (e : Nat) (d : Blocks.Node) (rest : List Blocks.Node)
    (b : Bool) (pc : Ctx) (hop : pc.opened = [{ node := rest.length + 1, bp := .paragraph }]) (bl : List LineStat) :
    lineLoopT pts 0 [{ node := rest.length + 1, bp := .paragraph }] 0 [{ node := rest.length + 1, bp := .paragraph }] 0 bl
        ⟨rdr src k src.length src.length e none (-1), d :: (rest ++ [paraN (openSegs p ls) b]), pc⟩ =
      .ok ((.eof, bl),
        ⟨rdr src (k + 1) e e (lineEnd src e) none (-1), d :: (rest ++ [paraN (paraSegs p ls) b]),
          { pc with opened := [] }⟩) := by
  rw [lineLoopT]
  simp only [bind_apply, peekLine_eof (Nat.le_refl _),
    closeBlocks_open hne h hb _ (rdr_source ..) d rest b pc hop, advanceLine_run, pure_apply]

/-- a blank line with the paragraph open: it is closed -/
theorem lineLoop_blank {p : Nat} {ls : List Bytes} (hne : ls ≠ []) (h : ParaAt src p ls) (hb : ∀ l ∈ ls, BlkLine l)
    {q : Nat} (hl : Ln src q (q + 1) [10])
    (k : Int) (d : Blocks.Node) (rest : List Blocks.Node)
    (b : Bool) (pc : Ctx) (hop : pc.opened = [{ node := rest.length + 1, bp := .paragraph }]) (bl : List LineStat) :
    lineLoopT pts 0 [{ node := rest.length + 1, bp := .paragraph }] 0 [{ node := rest.length + 1, bp := .paragraph }] 0 bl
        ⟨rdr src k q q (q + 1) none (-1), d :: (rest ++ [paraN (openSegs p ls) b]), pc⟩ =
      .ok ((.next, bl ++ [{ lineNum := k, level := 0, isBlank := true }]),
        ⟨rdr src k q q (q + 1) (some [10]) 0, d :: (rest ++ [paraN (paraSegs p ls) b]),
          { pc with blockOffset := 0, blockIndent := 0, opened := [] }⟩) := by
  have hp : q < src.length := by have := hl.le; omega
  have e3 : (paraN (openSegs p ls) b).kind = .paragraph := rfl
  have hob : openBlocksT pts 0 (isBlankLine (k - 1) 0 (bl ++ [{ lineNum := k, level := 0, isBlank := true }]))
      ⟨rdr src k q q (q + 1) (some [10]) (-1), d :: (rest ++ [paraN (openSegs p ls) b]), pc⟩ =
      .ok (.noBlocksOpened, ⟨rdr src k q q (q + 1) (some [10]) 0, d :: (rest ++ [paraN (openSegs p ls) b]),
        { pc with blockOffset := 0, blockIndent := 0 }⟩) := by
    unfold openBlocksT
    simp only [bind_apply, lastOpenedBlock_run, hop, List.getLast?_singleton, pure_apply, source_run, retryFuel,
      getNode_run, getD_last, e3]
    rw [openBlocksLoopT]
    have hiw : indentWidthI [10] 0 = (0, 0) := by decide
    simp only [bind_apply, peekLine_cached hp, Option.getD_some, lineOffset_fresh, hiw]
    have hidx : idx [10] 0 = .ok 10 := rfl
    have hs10 : isSpace 10 = true := by decide
    simp [modPc_run, bind_apply, hidx, liftE_ok, toContinuable, bpContinue, paragraphContinue, peekLine_cached hp,
      pure_apply, isBlank, stClose, hs10, hop]
  rw [lineLoopT]
  simp only [bind_apply, peekLine_fresh hl.sub hp (Nat.le_succ _) hl.le, position_run, getNode_run, getD_last, e3]
  simp only [bne_self_eq_false, Bool.false_eq_true, if_false, pure_apply, Bool.not_true, bind_apply, blockAt, liftE_ok]
  have hib : isBlank [10] = true := by decide
  simp [liftE_ok, hib, rdr_line, hob, pure_apply, getPc_run, hop, slotAfter, bind_apply, map_apply]
  rw [closeBlocks_open hne h hb _ (rdr_source ..) d rest b
    { pc with blockOffset := 0, blockIndent := 0, opened := [{ node := rest.length + 1, bp := .paragraph }] } rfl]
/-- one pass of the per-line loop that ends with `.next`, then AdvanceLine -/
theorem pass_next {q e p' : Nat} {v : Bytes} (hl : Ln src q e v) (k : Int) (N nodes' : List Blocks.Node) (pc pc' : Ctx)
    (blk : Block) (hop : pc.opened = [blk]) (bl BL : List LineStat) (pk : Option Bytes) (lo : Int) (fl : Nat)
    (hp : lineLoopT pts 0 [blk] 0 [blk] 0 bl ⟨rdr src k q q e none (-1), N, pc⟩ =
      .ok ((.next, BL), ⟨rdr src k q p' e pk lo, nodes', pc'⟩)) :
    linesLoopT pts 0 (fl + 1) bl ⟨rdr src k q q (lineEnd src q) none (-1), N, pc⟩ =
      linesLoopT pts 0 fl BL ⟨rdr src (k + 1) e e (lineEnd src e) none (-1), nodes', pc'⟩ := by
  have e1 : (((1 : Nat) : Int) - 1) = 0 := by decide
  have e0 : ((1 : Nat) == 0) = false := rfl
  rw [linesLoopT]
  simp only [bind_apply, getPc_run, hop, List.length_singleton, e1, e0, Bool.false_eq_true, if_false]
  rw [hl.lineEnd, hp]
  simp only [bind_apply, advanceLine_run]

/-- the pass at the end of the source answers `.eof`: parseBlocks returns -/
theorem pass_eof (k : Int) (N : List Blocks.Node) (pc : Ctx) (blk : Block) (hop : pc.opened = [blk]) (bl BL : List LineStat)
    (fl : Nat) (s' : St)
    (hp : lineLoopT pts 0 [blk] 0 [blk] 0 bl ⟨rdr src k src.length src.length (lineEnd src src.length) none (-1), N, pc⟩ =
      .ok ((.eof, BL), s')) :
    linesLoopT pts 0 (fl + 1) bl ⟨rdr src k src.length src.length (lineEnd src src.length) none (-1), N, pc⟩ =
      .ok ((true, BL), s') := by
  have e1 : (((1 : Nat) : Int) - 1) = 0 := by decide
  have e0 : ((1 : Nat) == 0) = false := rfl
  rw [linesLoopT]
  simp only [bind_apply, getPc_run, hop, List.length_singleton, e1, e0, Bool.false_eq_true, if_false, hp, pure_apply]

/-- nothing is open: the loop over the lines is left -/
theorem linesLoop_done (fl : Nat) (bl : List LineStat) (r : Reader) (N : List Blocks.Node) (pc : Ctx) (hop : pc.opened = []) :
    linesLoopT pts 0 (fl + 1) bl ⟨r, N, pc⟩ = .ok ((false, bl), ⟨r, N, pc⟩) := by
  rw [linesLoopT]
  simp [bind_apply, getPc_run, pure_apply, hop]
end driver

end GM.Proof.CMFrag
end CMFragDriver

/-
  section CMFragLoop — the loops of parseBlocks around a fragment paragraph: `linesLoopT` behind its last line (a blank
  line or the end of the source closes it), `skipBlankLines` in front of a block and at the end of the source.
-/
section CMFragLoop
namespace GM.Proof.CMFrag
open GM GM.Text GM.Blocks GM.Spec

theorem paraBytes_snoc_len (ls : List Bytes) (l : Bytes) :
    (paraBytes (ls ++ [l])).length = (paraBytes ls).length + l.length + 1 := by
  simp [paraBytes]; omega

/-- what follows a paragraph that ends at byte `q`: the end of the source, or a blank line -/
def After (src : Bytes) (q : Nat) : Prop := q = src.length ∨ Ln src q (q + 1) [10]

section loops
variable {src : Bytes}

/-- the per-line loop behind the last line of the open paragraph: a blank line or the end of the source closes it -/
theorem linesLoop_para (d : Blocks.Node) (rest : List Blocks.Node) (b : Bool) (p : Nat) (ls : List Bytes) (k : Int)
    (fuel : Nat) (bl : List LineStat) (pc : Ctx) (hne : ls ≠ []) (hd : ParaAt src p ls) (hb : ∀ l ∈ ls, BlkLine l)
    (haft : After src (p + (paraBytes ls).length)) (hf : 2 ≤ fuel)
    (hop : pc.opened = [{ node := rest.length + 1, bp := .paragraph }]) :
    ∃ ret bl' s',
      linesLoopT pts 0 fuel bl
          ⟨rdr src k (p + (paraBytes ls).length) (p + (paraBytes ls).length)
            (lineEnd src (p + (paraBytes ls).length)) none (-1),
            d :: (rest ++ [paraN (openSegs p ls) b]), pc⟩ = .ok ((ret, bl'), s') ∧
        s'.nodes = d :: (rest ++ [paraN (paraSegs p ls) b]) ∧ s'.pc.opened = [] ∧ s'.pc.refs = pc.refs ∧
        ((ret = true ∧ p + (paraBytes ls).length = src.length) ∨
         (ret = false ∧ Ln src (p + (paraBytes ls).length) (p + (paraBytes ls).length + 1) [10] ∧
            ∃ k', s'.r = rdr src k' (p + (paraBytes ls).length + 1) (p + (paraBytes ls).length + 1)
              (lineEnd src (p + (paraBytes ls).length + 1)) none (-1))) := by
  obtain ⟨f, rfl⟩ : ∃ f, fuel = f + 1 + 1 := ⟨fuel - 2, by omega⟩
  rcases haft with hq | hl
  · refine ⟨true, bl, ⟨rdr src (k + 1) (lineEnd src src.length) (lineEnd src src.length)
        (lineEnd src (lineEnd src src.length)) none (-1), d :: (rest ++ [paraN (paraSegs p ls) b]),
        { pc with opened := [] }⟩, ?_, rfl, rfl, rfl, Or.inl ⟨rfl, hq⟩⟩
    rw [hq]
    exact pass_eof k _ pc _ hop bl bl (f + 1) _ (lineLoop_eof hne hd hb k _ d rest b pc hop bl)
  · refine ⟨false, bl ++ [{ lineNum := k, level := 0, isBlank := true }],
      ⟨rdr src (k + 1) (p + (paraBytes ls).length + 1) (p + (paraBytes ls).length + 1)
        (lineEnd src (p + (paraBytes ls).length + 1)) none (-1), d :: (rest ++ [paraN (paraSegs p ls) b]),
        { pc with blockOffset := 0, blockIndent := 0, opened := [] }⟩, ?_, rfl, rfl, rfl, Or.inr ⟨rfl, hl, k + 1, rfl⟩⟩
    rw [pass_next hl k _ _ pc _ _ hop bl _ _ _ (f + 1) (lineLoop_blank hne hd hb hl k d rest b pc hop bl)]
    exact linesLoop_done f _ _ _ _ rfl

/-- `g` blank lines from byte `q` on -/
def BlanksAt (src : Bytes) : Nat → Nat → Prop
  | _, 0 => True
  | q, g + 1 => Ln src q (q + 1) [10] ∧ BlanksAt src (q + 1) g

theorem rpeek_fresh {p e : Nat} {v : Bytes} (hsub : sub src p e = v) (hp : p < src.length) (hpe : p ≤ e)
    (he : e ≤ src.length) (k h lo) :
    Reader.peekLine (rdr src k h p e none lo) = .ok ((some v, sg p e), rdr src k h p e (some v) lo) := by
  have c1 : ((p : Int) ≥ 0 ∧ (p : Int) < (src.length : Int)) := by omega
  have c2 : (0 ≤ (p : Int) ∧ (p : Int) ≤ (e : Int) ∧ (e : Int) ≤ (src.length : Int)) := by omega
  simp [Reader.peekLine, rdr, Reader.sourceLength, c1, Segment.value, sliceB, c2, needsNewline, hsub, sg,
    bind, Except.bind, pure, Except.pure]

theorem rpeek_eof {p : Nat} (hp : src.length ≤ p) (k h e pk lo) :
    Reader.peekLine (rdr src k h p e pk lo) = .ok ((none, sg p e), rdr src k h p e pk lo) := by
  have c1 : ¬ (p < src.length) := by omega
  simp [Reader.peekLine, rdr, Reader.sourceLength, c1, sg, bind, Except.bind, pure, Except.pure]

theorem radvanceLine (k h p e pk lo) :
    (rdr src k h p e pk lo).advanceLine = rdr src (k + 1) e e (lineEnd src e) none (-1) := by
  have c : ¬ ((e : Int) < 0) := by omega
  simp [Reader.advanceLine, rdr, c]

theorem ops_peek : (readerOps).peekLine = Reader.peekLine := rfl
theorem ops_advLine (r : Reader) : (readerOps).advanceLine r = .ok r.advanceLine := rfl

/-- SkipBlankLines over `g` blank lines in front of a text line -/
theorem skipBlank_text : ∀ (g q : Nat) (k lines : Int) (fuel : Nat) {e : Nat} {v : Bytes}, BlanksAt src q g →
    Ln src (q + g) e v → isBlank v = false → g + 1 ≤ fuel →
    skipBlankLines readerOps fuel lines (rdr src k q q (lineEnd src q) none (-1)) =
      .ok ((sg (q + g) e, lines + g, true), rdr src (k + g) (q + g) (q + g) e (some v) (-1))
  | 0, q, k, lines, fuel, e, v, _, hl, hv, hf => by
    obtain ⟨f, rfl⟩ : ∃ f, fuel = f + 1 := ⟨fuel - 1, by omega⟩
    have hp : q < src.length := by have := hl.le; have := hl.lt; omega
    simp only [Nat.add_zero] at hl
    rw [skipBlankLines]
    simp only [ops_peek, ops_advLine, hl.lineEnd, rpeek_fresh hl.sub hp (Nat.le_of_lt hl.lt) hl.le, bind, Except.bind, hv]
    simp [pure, Except.pure]
  | g + 1, q, k, lines, fuel, e, v, hb, hl, hv, hf => by
    obtain ⟨f, rfl⟩ : ∃ f, fuel = f + 1 := ⟨fuel - 1, by omega⟩
    obtain ⟨h1, h2⟩ := hb
    have hp : q < src.length := by have := h1.le; omega
    have e1 : q + (g + 1) = q + 1 + g := by omega
    have ih := skipBlank_text g (q + 1) (k + 1) (lines + 1) f h2 (by rw [← e1]; exact hl) hv (by omega)
    rw [skipBlankLines]
    have hib : isBlank [10] = true := by decide
    simp only [ops_peek, ops_advLine, h1.lineEnd, rpeek_fresh h1.sub hp (Nat.le_succ _) h1.le, bind, Except.bind, hib, if_true,
      pure, Except.pure, radvanceLine]
    rw [ih]
    simp only [e1]
    have a1 : k + 1 + (g : Int) = k + ((g + 1 : Nat) : Int) := by omega
    have a2 : lines + 1 + (g : Int) = lines + ((g + 1 : Nat) : Int) := by omega
    rw [a1, a2]

/-- SkipBlankLines over `g` blank lines in front of the end of the source -/
theorem skipBlank_eof : ∀ (g q : Nat) (k lines : Int) (fuel : Nat), BlanksAt src q g →
    q + g = src.length → g + 1 ≤ fuel →
    ∃ r', skipBlankLines readerOps fuel lines (rdr src k q q (lineEnd src q) none (-1)) =
      .ok ((sg (q + g) (lineEnd src (q + g)), lines + g, false), r')
  | 0, q, k, lines, fuel, _, hq, hf => by
    obtain ⟨f, rfl⟩ : ∃ f, fuel = f + 1 := ⟨fuel - 1, by omega⟩
    refine ⟨rdr src k q q (lineEnd src q) none (-1), ?_⟩
    rw [skipBlankLines]
    simp only [ops_peek, ops_advLine, rpeek_eof (show src.length ≤ q by omega), bind, Except.bind]
    simp [pure, Except.pure]
  | g + 1, q, k, lines, fuel, hb, hq, hf => by
    obtain ⟨f, rfl⟩ : ∃ f, fuel = f + 1 := ⟨fuel - 1, by omega⟩
    obtain ⟨h1, h2⟩ := hb
    have hp : q < src.length := by have := h1.le; omega
    have e1 : q + (g + 1) = q + 1 + g := by omega
    obtain ⟨r', ih⟩ := skipBlank_eof g (q + 1) (k + 1) (lines + 1) f h2 (by omega) (by omega)
    refine ⟨r', ?_⟩
    rw [skipBlankLines]
    have hib : isBlank [10] = true := by decide
    simp only [ops_peek, ops_advLine, h1.lineEnd, rpeek_fresh h1.sub hp (Nat.le_succ _) h1.le, bind, Except.bind, hib, if_true,
      pure, Except.pure, radvanceLine]
    rw [ih]
    simp only [e1]
    have a2 : lines + 1 + (g : Int) = lines + ((g + 1 : Nat) : Int) := by omega
    rw [a2]
theorem blanks_le {src : Bytes} : ∀ (g q : Nat), BlanksAt src q g → q + g ≤ src.length ∨ g = 0
  | 0, _, _ => Or.inr rfl
  | g + 1, q, h => by
    rcases blanks_le g (q + 1) h.2 with h' | h'
    · left; omega
    · left; have := h.1.le; omega

theorem skipR_text {g q : Nat} (k : Int) {e : Nat} {v : Bytes} (hb : BlanksAt src q g)
    (hl : Ln src (q + g) e v) (hv : isBlank v = false) (nodes pc) :
    skipBlankLinesR ⟨rdr src k q q (lineEnd src q) none (-1), nodes, pc⟩ =
      .ok ((sg (q + g) e, (g : Int), true), ⟨rdr src (k + g) (q + g) (q + g) e (some v) (-1), nodes, pc⟩) := by
  have hg : g + 1 ≤ loopFuel src := by
    have := hl.le; have := hl.lt
    unfold loopFuel; omega
  unfold skipBlankLinesR
  simp only [rdr_source, skipBlank_text g q k 0 (loopFuel src) hb hl hv hg, bind, Except.bind, pure, Except.pure]
  simp

theorem skipR_eof {g q : Nat} (k : Int) (hb : BlanksAt src q g) (hq : q + g = src.length) (nodes pc) :
    ∃ r', skipBlankLinesR ⟨rdr src k q q (lineEnd src q) none (-1), nodes, pc⟩ =
      .ok ((sg (q + g) (lineEnd src (q + g)), (g : Int), false), ⟨r', nodes, pc⟩) := by
  have hg : g + 1 ≤ loopFuel src := by unfold loopFuel; omega
  obtain ⟨r', h⟩ := skipBlank_eof g q k 0 (loopFuel src) hb hq hg
  refine ⟨r', ?_⟩
  unfold skipBlankLinesR
  simp only [rdr_source, h, bind, Except.bind, pure, Except.pure]
  simp
end loops

end GM.Proof.CMFrag
end CMFragLoop
