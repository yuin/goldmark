/-
  GM.Proof.CMFragSpec21 — the union fragment (stage 21) inside the spec model GM.Spec.CommonMark: `expectedF21_eq_expected`
  (prescribed HTML) and `spellF21_eq_spell` (source, byte for byte), with / without final line feed; every stage below is
  an instance.
-/
import GM.Proof.CMFragSpec13
import GM.Proof.CMFragSpec16

/-
  section CMFragSpec21 — the stage-21 fragment (the union with ALL inline atoms) of GM.Spec.CMFrag inside the spec model
  GM.Spec.CommonMark:
  * `expectedF21_eq_expected`: the prescribed HTML of a stage-21 document is `expected` of the embedded document
    (`f21embed`); `expectedF21E_eq_expected`: the same for `f21embedE` (no final line ending).
  The per-atom facts are the ones of the stages (`render_expI_atom11/16/17/18/19/20`); the restriction `f21restrS` is not
  needed here (stated for the wide blocks `f21blockOKW`).
  The source relation `spellF21 d = spell (f21embed d)` is section CMFragSpec21Src below; the tie evaluates it as well
  (`cmfrag spec f21gen|f21enum|f21wgen|…`).
-/
section CMFragSpec21
namespace GM.Proof.CMFrag
open GM GM.Spec.CM GM.Spec.CMFrag

/-! ### F1: prescribed HTML -/

theorem render_expI_atom21 (a : FAtomS) (h : f21atomOKS a = true) :
    render (expI (f21embedAtom a)) = expFAtom a := by
  cases a with
  | txt cs => exact render_expI_atom11 (.txt cs)
  | code c => exact render_expI_atom11 (.code c)
  | em c => exact render_expI_atom11 (.em c)
  | strong c => exact render_expI_atom11 (.strong c)
  | uem c => exact render_expI_atom20 (.em c)
  | ustrong c => exact render_expI_atom20 (.strong c)
  | link t d => exact render_expI_atom16 (.link t d) h
  | img t d => exact render_expI_atom17 (.img t d) h
  | auto s r => exact render_expI_atom18 (.auto s r) h
  | otag n => exact render_expI_atom19 (.open n) h
  | ctag n => exact render_expI_atom19 (.close n) h

theorem render_expIs_line21 (l : List FAtomS) (h : ∀ a ∈ l, f21atomOKS a = true) :
    render (expIs (l.map f21embedAtom)) = expFLineA l := by
  induction l with
  | nil => simp [expIs, render, expFLineA]
  | cons a rest ih =>
    rw [List.map_cons, expIs, render_append, ih (fun x hx => h x (by simp [hx])),
      render_expI_atom21 a (h a (by simp))]
    simp [expFLineA]

theorem render_expIs_f21embedLines (ls : List FLineS21) (h : ∀ x ∈ ls, ∀ a ∈ x.atoms, f21atomOKS a = true) :
    render (expIs (f21embedLines ls)) = expFLines21 ls := by
  induction ls with
  | nil => simp [f21embedLines, expIs, render, expFLines21]
  | cons x rest ih =>
    cases rest with
    | nil => simp [f21embedLines, expFLines21, render_expIs_line21 x.atoms (h x (by simp))]
    | cons y rest =>
      have hx := render_expIs_line21 x.atoms (h x (by simp))
      obtain ⟨atoms, hard⟩ := x
      have e : f21embedLines (⟨atoms, hard⟩ :: y :: rest) =
          atoms.map f21embedAtom ++ (if hard then .hardBreak true 0 else .softBreak) :: f21embedLines (y :: rest) := rfl
      have e2 : expFLines21 (⟨atoms, hard⟩ :: y :: rest) =
          expFLineA atoms ++ (if hard then strBytes "<br />\n" else [10]) ++ expFLines21 (y :: rest) := rfl
      rw [e, e2, expIs_append11, render_append, hx, expIs, render_append, ih (fun z hz => h z (by simp [hz]))]
      have hbr : strBytes "<br />\n" = [60] ++ strBytes "br" ++ strBytes " />" ++ [10] := by decide +kernel
      cases hard
      · simp [expI, render, renderPiece, nl]
      · rw [if_pos rfl, if_pos rfl, hbr]
        simp [expI, render, renderPiece, nl]

theorem render_expB_fpara21 (a : Bool) (ls : List FLineS21) (h : ∀ x ∈ ls, ∀ b ∈ x.atoms, f21atomOKS b = true) :
    render (expB false false (.para { abut := a } (f21embedLines ls) 0)) = expFBlock21 (.para ls) := by
  rw [expB]
  simp only [wrap, Bool.false_eq_true, if_false, List.cons_append]
  have h1 : strBytes "<p>" = [60] ++ strBytes "p" ++ [62] := by decide +kernel
  have h2 : strBytes "</p>\n" = [60, 47] ++ strBytes "p" ++ [62] ++ [10] := by decide +kernel
  rw [expFBlock21, h1, h2, ← render_expIs_f21embedLines ls h]
  simp [render, renderPiece, nl]

theorem render_expB_fheading21 (a : Bool) (level : Nat) (text : List FAtomS) (hl1 : 1 ≤ level) (hl6 : level ≤ 6)
    (h : ∀ b ∈ text, f21atomOKS b = true) :
    render (expB false false (.heading { abut := a } level false 0 0 (text.map f21embedAtom))) =
      expFBlock21 (.heading level text) := by
  rw [expB, expFBlock21, decStr_level4 level hl1 hl6, ← render_expIs_line21 text h]
  have h1 : strBytes "<h" = [60, 104] := by decide +kernel
  have h2 : strBytes "</h" = [60, 47, 104] := by decide +kernel
  have h3 : strBytes ">\n" = [62, 10] := by decide +kernel
  rw [h1, h2, h3]
  simp [wrap, render, renderPiece, nl]

theorem f21lineOKS_atoms_s21 (l : List FAtomS) (h : f21lineOKS l = true) : ∀ a ∈ l, f21atomOKS a = true := by
  simp only [f21lineOKS, Bool.and_eq_true, List.all_eq_true] at h
  exact h.1.2

/-- one block, without the restriction `f21restrS` -/
theorem render_expB_f21embedW (a : Bool) (b : FBlockS21) (hok : f21blockOKW b = true) :
    render (expB false false (f21embedBlock a b)) = expFBlock21 b := by
  cases b with
  | para lines =>
    simp only [f21blockOKW, Bool.and_eq_true, List.all_eq_true] at hok
    exact render_expB_fpara21 a lines (fun x hx => f21lineOKS_atoms_s21 x.atoms (hok.1.2 x hx))
  | heading level text =>
    simp only [f21blockOKW, Bool.and_eq_true, decide_eq_true_eq] at hok
    exact render_expB_fheading21 a level text hok.1.1 hok.1.2 (f21lineOKS_atoms_s21 text hok.2)
  | thematic c n => exact render_expB_uembed13 a (.thematic c n) rfl
  | fcode tilde n info lines => exact render_expB_uembed13 a (.fcode tilde n info lines) hok
  | icode lines => exact render_expB_uembed13 a (.icode lines) hok

theorem f21blockOKW_of (b : FBlockS21) (h : f21blockOKS b = true) : f21blockOKW b = true := by
  cases b with
  | para lines =>
    simp only [f21blockOKS, Bool.and_eq_true] at h
    simp only [f21blockOKW, Bool.and_eq_true]
    exact h.1
  | heading level text =>
    simp only [f21blockOKS, Bool.and_eq_true] at h
    simp only [f21blockOKW, Bool.and_eq_true]
    exact h.1
  | thematic c n => rfl
  | fcode tilde n info lines => exact h
  | icode lines => exact h

theorem render_expBs_f21embedW (its : List F21Item) (hok : ∀ it ∈ its, f21blockOKW it.block = true) :
    render (expBs false false (its.map fun it => f21embedBlock (it.sep == 0) it.block)) =
      its.flatMap fun it => expFBlock21 it.block := by
  induction its with
  | nil => simp [expBs, render]
  | cons it rest ih =>
    rw [List.map_cons, expBs, render_append, ih (fun x hx => hok x (by simp [hx])), List.flatMap_cons,
      Bool.false_and, render_expB_f21embedW _ it.block (hok it (by simp))]

/-- F1 for the wide class (no restriction) -/
theorem expectedF21_eq_expectedW (d : F21Doc) (h : f21fragWB d = true) : expectedF21 d = expected (f21embed d) := by
  simp only [f21fragWB, Bool.and_eq_true, List.all_eq_true] at h
  rw [expected, expectedPieces, f21embed, expectedF21, render_expBs_f21embedW d.items h.1]

theorem f21frag_okS21 (d : F21Doc) (h : F21Frag d) :
    (∀ it ∈ d.items, f21blockOKS it.block = true) ∧ f21sepsOK none d.items = true := by
  have := h
  simp only [F21Frag, f21fragB, Bool.and_eq_true, List.all_eq_true] at this
  exact this

theorem f21fragW_of (d : F21Doc) (h : F21Frag d) : f21fragWB d = true := by
  obtain ⟨hok, hs⟩ := f21frag_okS21 d h
  simp only [f21fragWB, Bool.and_eq_true, List.all_eq_true]
  exact ⟨fun it hit => f21blockOKW_of it.block (hok it hit), hs⟩

/-- F1: the stage-21 prescribed HTML is `expected` of the spec model on the embedded document -/
theorem expectedF21_eq_expected (d : F21Doc) (h : F21Frag d) : expectedF21 d = expected (f21embed d) :=
  expectedF21_eq_expectedW d (f21fragW_of d h)

theorem f21fragE_partsS21 (d : F21Doc) (h : F21FragE d) : F21Frag d ∧ d.trail = 0 ∧ d.items ≠ [] := by
  have := h
  simp only [F21FragE, f21fragEB, Bool.and_eq_true, beq_iff_eq, Bool.not_eq_true', List.isEmpty_eq_false_iff] at this
  exact ⟨this.1.1.1, this.1.1.2, this.1.2⟩

theorem expectedF21E_eq_expected (d : F21Doc) (h : F21FragE d) : expectedF21 d = expected (f21embedE d) := by
  have e : expected (f21embedE d) = expected (f21embed d) := rfl
  rw [e, expectedF21_eq_expected d (f21fragE_partsS21 d h).1]

end GM.Proof.CMFrag
end CMFragSpec21

/-
  section CMFragSpec21Src — the stage-21 fragment inside the spec model GM.Spec.CommonMark, the SOURCE relation:
  * `spellF21_eq_spellW` / `spellF21_eq_spell`: for a NON-EMPTY stage-21 document without extra blank lines (exactly one
    blank line around an indented code block) the source is `spell` of the embedded document `f21embed d`, byte for byte
    (for the wide class `f21fragWB` without the restriction `f21restrS`, hence for `F21Frag`);
  * `spellF21E_eq_spell`: the same without the final line feed (`f21embedE`).
  An underscore emphasis is written as asked for because its neighbouring source bytes are not letters or digits
  (`ctxOK21`, from `f21neighOK`); every other inline is written the same way whatever its neighbours are (`plain21`).
-/
section CMFragSpec21Src
namespace GM.Proof.CMFrag
open GM GM.Spec.CM GM.Spec.CMFrag

/-! ### the inlines of a line -/

/-- an inline that is written the same way whatever its neighbours are -/
def plain21 (x : Inline) : Bool := simple13 x || simple16 x || simple17 x || simple18 x || simple19 x

theorem spellI_plain21 (x : Inline) (h : plain21 x = true) (pa na : Bool) : spellI pa na x = spellI false false x := by
  simp only [plain21, Bool.or_eq_true] at h
  rcases h with (((h | h) | h) | h) | h
  · exact spellI_simple13 x h pa na
  · exact spellI_simple16 x h pa na
  · exact spellI_simple17 x h pa na
  · exact spellI_simple18 x h pa na
  · exact spellI_simple19 x h pa na

/-- every inline is plain, or an emphasis without a letter or digit as neighbouring source byte -/
def ctxOK21 : Bool → List Inline → Bool
  | _, [] => true
  | pa, x :: rest => (plain21 x || (isEm20 x && !pa && !nextAl20 rest)) && ctxOK21 (endsAlnum x) rest

theorem spellIs_ctx21 (ks : List Inline) (pa : Bool) (h : ctxOK21 pa ks = true) :
    spellIs pa ks = ks.flatMap (spellI false false) := by
  induction ks generalizing pa with
  | nil => simp [spellIs]
  | cons x rest ih =>
    simp only [ctxOK21, Bool.and_eq_true] at h
    simp only [spellIs, List.flatMap_cons]
    rw [ih _ h.2]
    congr 1
    have key : ∀ na, na = nextAl20 rest → spellI pa na x = spellI false false x := by
      intro na hna
      subst hna
      have h1 := h.1
      simp only [Bool.or_eq_true, Bool.and_eq_true, Bool.not_eq_true'] at h1
      rcases h1 with h1 | h1
      · exact spellI_plain21 x h1 _ _
      · rw [h1.1.2, h1.2]
    exact key _ (by cases rest <;> rfl)

theorem plain_f21embedAtom (a : FAtomS) (h : a.isUnder = false) : plain21 (f21embedAtom a) = true := by
  cases a <;> first | rfl | cases h

theorem isEm_f21embedAtom (a : FAtomS) (h : a.isUnder = true) : isEm20 (f21embedAtom a) = true := by
  cases a <;> first | rfl | cases h

/-- the atom in front of an underscore atom does not end with a letter or digit (as source byte) -/
theorem endsAl_before21 (p x : FAtomS) (hx : x.isUnder = true) (h : f21pairOK p x = true) :
    endsAlnum (f21embedAtom p) = false := by
  cases p with
  | txt cs =>
    simp only [f21pairOK, hx, Bool.not_true, Bool.false_or, Bool.and_eq_true] at h
    simp only [f21embedAtom, endsAlnum]
    cases hg : cs.getLast? with
    | none => rfl
    | some t =>
      rw [hg] at h
      simpa [unbeforeOK] using h.1
  | _ => rfl

/-- what follows an underscore atom does not begin with a letter or digit (as source byte) -/
theorem nextAl_after21 (x : FAtomS) (hx : x.isUnder = true) (rest : List FAtomS) (tail : List Inline)
    (ht : nextAl20 tail = false) (h : f21neighOK (x :: rest) = true) :
    nextAl20 (rest.map f21embedAtom ++ tail) = false := by
  cases rest with
  | nil => simpa using ht
  | cons y r =>
    simp only [f21neighOK, Bool.and_eq_true] at h
    have h1 := h.1
    unfold f21pairOK at h1
    simp only [Bool.and_eq_true] at h1
    have h2 := h1.2
    simp only [List.map_cons, List.cons_append, nextAl20]
    cases y with
    | txt cs =>
      cases cs with
      | nil => rfl
      | cons t ts =>
        simp only [hx, Bool.not_true, Bool.false_or, List.head?_cons] at h2
        simpa [f21embedAtom, startsAlnum, unafterOK] using h2
    | _ => rfl

theorem ctx_tail21 (tail : List Inline) (ht : nextAl20 tail = false) (hc : ∀ pa, ctxOK21 pa tail = true)
    (l : List FAtomS) (p : FAtomS) (h : f21neighOK (p :: l) = true) :
    ctxOK21 (endsAlnum (f21embedAtom p)) (l.map f21embedAtom ++ tail) = true := by
  induction l generalizing p with
  | nil => simpa using hc _
  | cons x rest ih =>
    have h' := h
    simp only [f21neighOK, Bool.and_eq_true] at h'
    simp only [List.map_cons, List.cons_append, ctxOK21, Bool.and_eq_true]
    refine ⟨?_, ih x h'.2⟩
    cases hx : x.isUnder with
    | false => rw [plain_f21embedAtom x hx]; rfl
    | true =>
      rw [endsAl_before21 p x hx h'.1, nextAl_after21 x hx rest tail ht h'.2, isEm_f21embedAtom x hx]
      simp

theorem f21lineOKS_parts21 (l : List FAtomS) (h : f21lineOKS l = true) :
    (∃ cs rest, l = .txt cs :: rest) ∧ f21neighOK l = true ∧ ∀ a ∈ l, f21atomOKS a = true := by
  have hok := f21lineOKS_atoms_s21 l h
  simp only [f21lineOKS, Bool.and_eq_true] at h
  obtain ⟨⟨⟨⟨_, hfirst⟩, _⟩, _⟩, hnb⟩ := h
  refine ⟨?_, hnb, hok⟩
  unfold f21firstOKS at hfirst
  split at hfirst
  · exact ⟨_, _, rfl⟩
  · cases hfirst

theorem ctx_line21 (tail : List Inline) (ht : nextAl20 tail = false) (hc : ∀ pa, ctxOK21 pa tail = true)
    (l : List FAtomS) (h : f21lineOKS l = true) (pa : Bool) : ctxOK21 pa (l.map f21embedAtom ++ tail) = true := by
  obtain ⟨⟨cs, rest, rfl⟩, hnb, _⟩ := f21lineOKS_parts21 l h
  simp only [List.map_cons, List.cons_append, ctxOK21, Bool.and_eq_true]
  exact ⟨by rw [plain_f21embedAtom (.txt cs) rfl]; rfl, ctx_tail21 tail ht hc rest (.txt cs) hnb⟩

theorem ctx_f21embedLines (ls : List FLineS21) (h : ∀ x ∈ ls, f21lineOKS x.atoms = true) (pa : Bool) :
    ctxOK21 pa (f21embedLines ls) = true := by
  induction ls generalizing pa with
  | nil => rfl
  | cons l rest ih =>
    cases rest with
    | nil =>
      have := ctx_line21 [] rfl (fun _ => rfl) l.atoms (h l (by simp)) pa
      simpa [f21embedLines] using this
    | cons l' rest =>
      obtain ⟨atoms, hard⟩ := l
      have e : f21embedLines (⟨atoms, hard⟩ :: l' :: rest) =
          atoms.map f21embedAtom ++ (if hard then .hardBreak true 0 else .softBreak) :: f21embedLines (l' :: rest) := rfl
      rw [e]
      have ih' := ih (fun x hx => h x (by simp [hx]))
      apply ctx_line21 _ (by cases hard <;> rfl) _ atoms (h ⟨atoms, hard⟩ (by simp)) pa
      intro pa'
      cases hard
      · have : plain21 Inline.softBreak = true := rfl
        simp only [Bool.false_eq_true, if_false, ctxOK21, this, Bool.true_or, Bool.true_and]
        exact ih' _
      · have : plain21 (Inline.hardBreak true 0) = true := rfl
        simp only [if_true, ctxOK21, this, Bool.true_or, Bool.true_and]
        exact ih' _

theorem spellI_f21embedAtom (a : FAtomS) (h : f21atomOKS a = true) :
    spellI false false (f21embedAtom a) = spellFAtom a := by
  cases a with
  | txt cs => exact spellI_rembedAtom11 (.txt cs) h
  | code c => exact spellI_rembedAtom11 (.code c) h
  | em c => exact spellI_rembedAtom11 (.em c) h
  | strong c => exact spellI_rembedAtom11 (.strong c) h
  | uem c => exact spellI_rembedAtom20 (.em c) h
  | ustrong c => exact spellI_rembedAtom20 (.strong c) h
  | link t d => exact spellI_lembedAtom16 (.link t d) h
  | img t d => exact spellI_imgembedAtom17 (.img t d) h
  | auto s r => exact spellI_aembedAtom18 (.auto s r) h
  | otag n => exact spellI_h19embedAtom19 (.open n) h
  | ctag n => exact spellI_h19embedAtom19 (.close n) h

theorem flat_line21 (l : List FAtomS) (h : ∀ a ∈ l, f21atomOKS a = true) :
    (l.map f21embedAtom).flatMap (spellI false false) = spellFLineA l := by
  induction l with
  | nil => rfl
  | cons a rest ih =>
    simp only [List.map_cons, List.flatMap_cons, spellFLineA] at ih ⊢
    rw [ih (fun x hx => h x (by simp [hx])), spellI_f21embedAtom a (h a (by simp))]

theorem flat_f21embedLines (ls : List FLineS21) (h : ∀ l ∈ ls, ∀ a ∈ l.atoms, f21atomOKS a = true)
    (hlast : ∀ z, ls.getLast? = some z → z.hard = false) :
    (f21embedLines ls).flatMap (spellI false false) = GM.Spec.CMFrag.joinNl (ls.map spellFLine21) := by
  induction ls with
  | nil => simp [f21embedLines, GM.Spec.CMFrag.joinNl]
  | cons l rest ih =>
    cases rest with
    | nil =>
      have hx : l.hard = false := hlast l rfl
      simp [f21embedLines, GM.Spec.CMFrag.joinNl, flat_line21 l.atoms (h l (by simp)), spellFLine21, hx]
    | cons l' rest =>
      have hl' : ∀ z, (l' :: rest).getLast? = some z → z.hard = false := by
        intro z hz; exact hlast z (by rw [List.getLast?_cons_cons]; exact hz)
      obtain ⟨atoms, hard⟩ := l
      have e : f21embedLines (⟨atoms, hard⟩ :: l' :: rest) =
          atoms.map f21embedAtom ++ (if hard then .hardBreak true 0 else .softBreak) :: f21embedLines (l' :: rest) := rfl
      rw [e, List.flatMap_append, List.flatMap_cons, flat_line21 atoms (h ⟨atoms, hard⟩ (by simp)),
        ih (fun x hx => h x (by simp [hx])) hl']
      cases hard <;> simp [spellI, GM.Spec.CMFrag.joinNl, spellFLine21]

theorem spellIs_f21embedLines (ls : List FLineS21) (h : ∀ l ∈ ls, f21lineOKS l.atoms = true)
    (hlast : ∀ z, ls.getLast? = some z → z.hard = false) (pa : Bool) :
    spellIs pa (f21embedLines ls) = GM.Spec.CMFrag.joinNl (ls.map spellFLine21) := by
  rw [spellIs_ctx21 _ _ (ctx_f21embedLines ls h pa),
    flat_f21embedLines ls (fun l hl => f21lineOKS_atoms_s21 l.atoms (h l hl)) hlast]

theorem spellIs_fline21 (l : List FAtomS) (h : f21lineOKS l = true) (pa : Bool) :
    spellIs pa (l.map f21embedAtom) = spellFLineA l := by
  have hc := ctx_line21 [] rfl (fun _ => rfl) l h pa
  rw [List.append_nil] at hc
  rw [spellIs_ctx21 _ _ hc, flat_line21 l (f21lineOKS_atoms_s21 l h)]

theorem spellFAtom_printable21 (a : FAtomS) (h : f21atomOKS a = true) : (spellFAtom a).all printable = true := by
  cases a with
  | txt cs => exact spellRAtom_printable11 (.txt cs) h
  | code c => exact spellRAtom_printable11 (.code c) h
  | em c => exact spellRAtom_printable11 (.em c) h
  | strong c => exact spellRAtom_printable11 (.strong c) h
  | uem c => exact spellRAtom_printable20 (.em c) h
  | ustrong c => exact spellRAtom_printable20 (.strong c) h
  | link t d => exact spellLAtom_printable16 (.link t d) h
  | img t d => exact spellImgAtom_printable17 (.img t d) h
  | auto s r => exact spellAAtom_printable18 (.auto s r) h
  | otag n => exact spellH19Atom_printable19 (.open n) h
  | ctag n => exact spellH19Atom_printable19 (.close n) h

theorem spellFLineA_printable21 (l : List FAtomS) (h : ∀ a ∈ l, f21atomOKS a = true) :
    ∀ c ∈ spellFLineA l, printable c = true := by
  intro c hc
  simp only [spellFLineA, List.mem_flatMap] at hc
  obtain ⟨a, ha, hca⟩ := hc
  exact List.all_eq_true.mp (spellFAtom_printable21 a (h a ha)) c hca

theorem spellFLine21_printable (x : FLineS21) (h : f21lineOKS x.atoms = true) :
    ∀ c ∈ spellFLine21 x, printable c = true := by
  intro c hc
  unfold spellFLine21 at hc
  split at hc
  · rcases List.mem_append.mp hc with hc | hc
    · exact spellFLineA_printable21 x.atoms (f21lineOKS_atoms_s21 x.atoms h) c hc
    · simp only [List.mem_singleton] at hc; subst hc; decide
  · exact spellFLineA_printable21 x.atoms (f21lineOKS_atoms_s21 x.atoms h) c hc

theorem paraLines_f21embed (ls : List FLineS21) (hne : ls ≠ []) (hok : ∀ l ∈ ls, f21lineOKS l.atoms = true)
    (hlast : ∀ z, ls.getLast? = some z → z.hard = false) :
    (paraLines 0 0 (spellIs false (f21embedLines ls))).map (renderLine 0 0 0 0) = ls.map spellFLine21 := by
  have hpr : ∀ b ∈ ls.map spellFLine21, ∀ c ∈ b, printable c = true := by
    intro b hb c hc
    obtain ⟨l, hl, rfl⟩ := List.mem_map.mp hb
    exact spellFLine21_printable l (hok l hl) c hc
  have hsplit := splitLines_joinNl (ls.map spellFLine21) (by simpa using hne)
    (fun b hb c hc => (printable_facts c (hpr b hb c hc)).1)
  rw [paraLines, spellIs_f21embedLines ls hok hlast, hsplit]
  cases hls : ls.map spellFLine21 with
  | nil => simp at hls; exact absurd hls hne
  | cons f rest =>
    rw [hls] at hpr
    simp only [List.map_cons, List.map_map]
    congr 1
    · exact renderLine_plain f (fun c hc => (printable_facts c (hpr f (by simp) c hc)).2)
    · conv => rhs; rw [← List.map_id rest]
      apply List.map_congr_left
      intro b hb
      exact renderLine_plain b (fun c hc => (printable_facts c (hpr b (by simp [hb]) c hc)).2)

/-- the source lines of one block -/
def fblockLines21 : FBlockS21 → List Bytes
  | .para lines => lines.map spellFLine21
  | .heading level text => [List.replicate level 35 ++ [32] ++ spellFLineA text]
  | .thematic c n => [thematicLine c n false]
  | .fcode tilde n info lines =>
    [List.replicate (n + 3) (fenceChar tilde) ++ info] ++ lines ++ [List.replicate (n + 3) (fenceChar tilde)]
  | .icode lines => lines.map fun l => [32, 32, 32, 32] ++ l

/-- the kind of the embedded block (`kindOf`) -/
def fkind21 : FBlockS21 → Nat
  | .para _ => 1
  | .heading _ _ => 2
  | .thematic _ _ => 4
  | .fcode _ _ _ _ => 6
  | .icode _ => 5

theorem kindOf_f21embed (a : Bool) (b : FBlockS21) : kindOf (f21embedBlock a b) = fkind21 b := by
  cases b <;> rfl

theorem fkind_ne21 (b : FBlockS21) : (fkind21 b == 0) = false := by cases b <;> rfl

/-- the separator the spec model writes in front of an embedded block (an indented code block has no `abut` choice) -/
def fsep21 (prev : Nat) (a : Bool) (b : FBlockS21) : List Line :=
  match b with
  | .icode _ => if prev == 0 then [] else [blankLine]
  | _ => if prev == 0 then [] else if a && canAbut prev (f21embedBlock a b) then [] else [blankLine]

/-- one embedded block in front of any other blocks: the separator, the lines of the block, the rest -/
theorem spellBs_f21embed_cons (a : Bool) (b : FBlockS21) (prev pm : Nat) (rest : List Block) :
    spellBs false false prev pm (f21embedBlock a b :: rest) =
      fsep21 prev a b ++ spellB 0 0 (f21embedBlock a b) ++ spellBs false false (fkind21 b) 0 rest := by
  cases b <;> simp [f21embedBlock, spellBs, kindOf, bch, fsep21, fkind21]

theorem f21lastSoft_getLast (ls : List FLineS21) (h : f21lastSoftS ls = true) :
    ∀ z, ls.getLast? = some z → z.hard = false := by
  intro z hz
  unfold f21lastSoftS at h
  rw [hz] at h
  simpa using h

theorem fblockLines_f21embed (a : Bool) (b : FBlockS21) (hok : f21blockOKW b = true) :
    (spellB 0 0 (f21embedBlock a b)).map (renderLine 0 0 0 0) = fblockLines21 b := by
  cases b with
  | para lines =>
    simp only [f21blockOKW, Bool.and_eq_true, Bool.not_eq_true', List.isEmpty_eq_false_iff, List.all_eq_true] at hok
    have hp := paraLines_f21embed lines hok.1.1 hok.1.2 (f21lastSoft_getLast lines hok.2)
    simpa [f21embedBlock, spellB, fblockLines21] using hp
  | heading level text =>
    simp only [f21blockOKW, Bool.and_eq_true, decide_eq_true_eq] at hok
    have hs := spellIs_fline21 text hok.2 false
    have hpl : renderLine 0 0 0 0 (0, List.replicate level 35 ++ [32] ++ spellFLineA text) =
        List.replicate level 35 ++ [32] ++ spellFLineA text := by
      apply renderLine_plain
      intro c hc
      simp only [List.mem_append, List.mem_replicate, List.mem_singleton] at hc
      rcases hc with (hc | hc) | hc
      · rw [hc.2]; decide
      · rw [hc]; decide
      · exact (printable_facts c (spellFLineA_printable21 text (f21lineOKS_atoms_s21 text hok.2) c hc)).2
    simp only [f21embedBlock, spellB, Bool.false_eq_true, if_false, hs, fblockLines21, List.map_cons, List.map_nil]
    simpa [spaces] using hpl
  | thematic c n =>
    have h := blockLines_kembedK (.base (.thematic c n)) rfl
    have e : spellB 0 0 (f21embedBlock a (.thematic c n)) = spellBs false false 0 0 [hembedBlock (.base (.thematic c n))] := by
      simp [f21embedBlock, hembedBlock, gembedBlock, spellBs, spellB, bch]
    rw [e, h]
    rfl
  | fcode tilde n info lines =>
    have h := blockLines_kembedK (.fcode tilde n info lines) hok
    have e : spellB 0 0 (f21embedBlock a (.fcode tilde n info lines)) =
        spellBs false false 0 0 [hembedBlock (.fcode tilde n info lines)] := by
      simp [f21embedBlock, hembedBlock, spellBs, spellB, bch]
    rw [e, h]
    rfl
  | icode lines =>
    simp only [f21blockOKW, Bool.and_eq_true, List.all_eq_true] at hok
    have hl : ∀ l ∈ lines, l.all printable = true := by
      intro l hl
      have := hok.2 l hl
      simp only [icLineOK, Bool.and_eq_true] at this
      exact this.1
    have e : spellB 0 0 (f21embedBlock a (.icode lines)) = lines.map (fun l => ((4, l) : Line)) := by
      simp [f21embedBlock, spellB]
    rw [e, map_renderLine_ic lines hl]
    rfl

/-- `f21abutOK` is `canAbut` of the spec model on our blocks other than indented code blocks -/
theorem canAbut_f21embed (a b : FBlockS21) (h : f21abutOK a b = true) (ha : a.isIc = false) (hb : b.isIc = false) :
    canAbut (fkind21 a) (f21embedBlock true b) = true := by
  cases b with
  | icode _ => simp [FBlockS21.isIc] at hb
  | para ls' =>
    cases a <;> first | (simp [f21abutOK] at h; done) | (simp [FBlockS21.isIc] at ha; done) | simp [fkind21, f21embedBlock, canAbut]
  | heading level text =>
    cases a <;> first | (simp [FBlockS21.isIc] at ha; done) | simp [fkind21, f21embedBlock, canAbut]
  | thematic c n =>
    cases a with
    | para ls =>
      simp only [f21abutOK] at h
      simp [fkind21, f21embedBlock, canAbut, h]
    | icode _ => simp [FBlockS21.isIc] at ha
    | heading _ _ => simp [fkind21, f21embedBlock, canAbut]
    | thematic _ _ => simp [fkind21, f21embedBlock, canAbut]
    | fcode _ _ _ _ => simp [fkind21, f21embedBlock, canAbut]
  | fcode tilde n info lines =>
    cases a <;> first | (simp [FBlockS21.isIc] at ha; done) | simp [fkind21, f21embedBlock, canAbut]

/-- the source lines of the items: `sep` blank lines in front of every item -/
def docLinesF21 (its : List F21Item) : List Bytes :=
  its.flatMap fun it => List.replicate it.sep [] ++ fblockLines21 it.block

/-- the blocks behind a block `a` -/
theorem spellBs_f21embed (its : List F21Item) (hok : ∀ it ∈ its, f21blockOKW it.block = true) (a : FBlockS21)
    (hs : f21sepsOK (some a) its = true) (h1 : f21noExtraBlanksFrom (some a) its = true) (pm : Nat) :
    (spellBs false false (fkind21 a) pm (its.map fun it => f21embedBlock (it.sep == 0) it.block)).map
        (renderLine 0 0 0 0) = docLinesF21 its := by
  induction its generalizing a pm with
  | nil => simp [spellBs, docLinesF21]
  | cons it rest ih =>
    obtain ⟨s, b⟩ := it
    have hb := hok ⟨s, b⟩ (by simp)
    simp only [f21sepsOK, Bool.and_eq_true, Bool.or_eq_true, bne_iff_ne, ne_eq, Bool.not_eq_true',
      Bool.and_eq_false_iff] at hs
    simp only [f21noExtraBlanksFrom, Bool.and_eq_true, decide_eq_true_eq, Bool.or_eq_true, Bool.not_eq_true',
      beq_iff_eq, Bool.or_eq_false_iff] at h1
    obtain ⟨⟨hs1, hic1⟩, h1r⟩ := h1
    have ih' := ih (fun x hx => hok x (by simp [hx])) b hs.2 h1r 0
    have hsep : (fsep21 (fkind21 a) (s == 0) b).map (renderLine 0 0 0 0) = List.replicate s [] := by
      have hk := fkind_ne21 a
      rcases hic1 with ⟨hai, hbi⟩ | hs1'
      · by_cases h0 : s = 0
        · subst h0
          have hab : f21abutOK a b = true := by
            rcases hs.1.1 with h | h
            · exact absurd rfl h
            · exact h
          have hca := canAbut_f21embed a b hab hai hbi
          cases b <;> first | (simp [FBlockS21.isIc] at hbi; done) | simp [fsep21, hk, hca]
        · have hs1' : s = 1 := by omega
          subst hs1'
          cases b <;> simp [fsep21, hk, renderLine_blank]
      · subst hs1'
        cases b <;> simp [fsep21, hk, renderLine_blank]
    rw [List.map_cons, spellBs_f21embed_cons, List.map_append, List.map_append, ih', hsep,
      fblockLines_f21embed _ b hb]
    simp [docLinesF21]

theorem fblockLines_flatMap21 (b : FBlockS21) : (fblockLines21 b).flatMap (· ++ [10]) = spellFBlock21 b := by
  cases b with
  | para lines => simp only [fblockLines21, spellFBlock21, List.flatMap_map]
  | heading level text => simp [fblockLines21, spellFBlock21]
  | thematic c n => simp [fblockLines21, spellFBlock21]
  | fcode tilde n info lines => simp [fblockLines21, spellFBlock21]
  | icode lines => simp [fblockLines21, spellFBlock21, List.flatMap_map]

theorem docLinesF_flatMap21 (its : List F21Item) :
    (docLinesF21 its).flatMap (· ++ [10]) = its.flatMap fun it => blanks it.sep ++ spellFBlock21 it.block := by
  induction its with
  | nil => simp [docLinesF21]
  | cons it rest ih =>
    have e : docLinesF21 (it :: rest) = List.replicate it.sep [] ++ fblockLines21 it.block ++ docLinesF21 rest := by
      simp [docLinesF21]
    have hbl : ∀ n : Nat, (List.replicate n ([] : Bytes)).flatMap (· ++ [10]) = blanks n := by
      intro n
      induction n with
      | zero => rfl
      | succ n ihn => rw [List.replicate_succ, List.flatMap_cons, ihn, blanks, blanks, List.replicate_succ]; rfl
    rw [e, List.flatMap_append, List.flatMap_append, ih, fblockLines_flatMap21, hbl, List.flatMap_cons]

theorem fblockLines_ne21 (b : FBlockS21) (h : f21blockOKW b = true) : fblockLines21 b ≠ [] := by
  cases b with
  | para lines =>
    simp only [f21blockOKW, Bool.and_eq_true, Bool.not_eq_true', List.isEmpty_eq_false_iff] at h
    simpa [fblockLines21] using h.1.1
  | heading level text => simp [fblockLines21]
  | thematic c n => simp [fblockLines21]
  | fcode tilde n info lines => simp [fblockLines21]
  | icode lines =>
    simp only [f21blockOKW, Bool.and_eq_true, Bool.not_eq_true', List.isEmpty_eq_false_iff] at h
    simpa [fblockLines21] using h.1

/-- F2 for the wide class (no restriction `f21restrS`): a non-empty stage-21 document without extra blank lines —
    exactly one blank line in front of and behind every indented code block — is spelled byte for byte like the embedded
    one -/
theorem spellF21_eq_spellW (d : F21Doc) (h : f21fragWB d = true) (hb : f21noExtraBlanks d = true) (hne : d.items ≠ []) :
    spellF21 d = spell (f21embed d) := by
  simp only [f21fragWB, Bool.and_eq_true, List.all_eq_true] at h
  obtain ⟨hok, hseps⟩ := h
  obtain ⟨items, trail⟩ := d
  cases items with
  | nil => exact absurd rfl hne
  | cons it rest =>
    obtain ⟨s, b⟩ := it
    simp only [f21noExtraBlanks, f21noExtraBlanksFrom, Bool.and_eq_true, beq_iff_eq] at hb
    obtain ⟨ht, hs0, h1⟩ := hb
    simp only at ht hs0 hok hseps; subst ht; subst hs0
    have hbk := hok ⟨0, b⟩ (by simp)
    simp only [f21sepsOK] at hseps
    have hrest := spellBs_f21embed rest (fun x hx => hok x (by simp [hx])) b hseps h1 0
    have hl : (spellBs false false 0 0 ((⟨0, b⟩ :: rest : List F21Item).map fun it => f21embedBlock (it.sep == 0) it.block)).map
        (renderLine 0 0 0 0) = docLinesF21 (⟨0, b⟩ :: rest) := by
      rw [List.map_cons, spellBs_f21embed_cons, List.map_append, List.map_append, hrest, fblockLines_f21embed _ b hbk]
      cases b <;> simp [fsep21, docLinesF21]
    have hdn : docLinesF21 (⟨0, b⟩ :: rest) ≠ [] := by
      have := fblockLines_ne21 b hbk
      simp [docLinesF21, this]
    simp only [spell, f21embed, spellF21, blanks, List.replicate_zero, List.append_nil, if_true]
    rw [hl, joinLines_flatMap _ hdn, docLinesF_flatMap21]
    simp [blanks]

theorem spellF21_eq_spell (d : F21Doc) (h : F21Frag d) (hb : f21noExtraBlanks d = true) (hne : d.items ≠ []) :
    spellF21 d = spell (f21embed d) :=
  spellF21_eq_spellW d (f21fragW_of d h) hb hne

theorem spell_f21embed_split (d : F21Doc) : spell (f21embed d) = spell (f21embedE d) ++ [10] := by
  simp [spell, f21embed, f21embedE]

theorem spellF21E_eq_spell (d : F21Doc) (h : F21FragE d) (hb : f21noExtraBlanks d = true) :
    spellF21E d = spell (f21embedE d) := by
  obtain ⟨hk, _, hne⟩ := f21fragE_partsS21 d h
  rw [spellF21E, spellF21_eq_spell d hk hb hne, spell_f21embed_split, List.dropLast_concat]

end GM.Proof.CMFrag
end CMFragSpec21Src
