/-
  GM.Proof.ConvertXRelv — the inline model is BLIND to emphasis levels: every function of GM.Model.Inlines / InlinesParsers
  that works on `parent`'s children commutes with a relabelling `relv g` of the levels of all Emphasis nodes, provided `g`
  fixes 1 and 2 (the levels ProcessDelimiters itself writes); and the generalised functions of GM.Model.ExtStrike
  (ProcessDelimiters / the link parser over both delimiter processors) are the default ones up to such a relabelling that sends
  the representation of a Strikethrough made by `consume` tildes (level −2 − consume) to `consume`.
  The closer loop is walked once (`closerLoopG_sim`: two loops whose rounds agree up to a map of the child lists wherever a
  round-kept `P` holds); the relabelling lemma compares the match builders only at openers with a property `Q`, so that
  "no `~` delimiter among the children" (GM.Proof.ConvertXStrike) is its case `g = id`.
  Consequences (GM.Proof.ConvertXTotal): the contracts and the totality proof of the default inline phase carry over to every
  member set; level sets are kept by the default functions.
-/
import GM.Model.ConvertX
import GM.Proof.InlinesLink
import GM.Proof.InlinesLinkG

namespace GM.Proof.ConvertXRelv
open GM GM.Text GM.Inl GM.Proof.InlinesLinkG

mutual
/-- relabel the level of every Emphasis node, at any depth -/
def relv (g : Int → Int) : Inl.Node → Inl.Node
  | .emphasis lv ks => .emphasis (g lv) (relvL g ks)
  | .codeSpan ks => .codeSpan (relvL g ks)
  | .link im d t ks => .link im d t (relvL g ks)
  | .text s so ha ra => .text s so ha ra
  | .autoLink e s => .autoLink e s
  | .rawHTML ss => .rawHTML ss
  | .delim id d => .delim id d
  | .label id s im => .label id s im
def relvL (g : Int → Int) : List Inl.Node → List Inl.Node
  | [] => []
  | n :: rest => relv g n :: relvL g rest
end

variable (g : Int → Int)

theorem relvL_map : ∀ l : List Inl.Node, relvL g l = l.map (relv g)
  | [] => rfl
  | n :: rest => by simp [relvL, relvL_map rest]

@[simp] theorem relvL_nil : relvL g [] = [] := rfl
@[simp] theorem relvL_cons (n : Inl.Node) (l : List Inl.Node) : relvL g (n :: l) = relv g n :: relvL g l := rfl
@[simp] theorem relvL_append (a b : List Inl.Node) : relvL g (a ++ b) = relvL g a ++ relvL g b := by simp [relvL_map]
@[simp] theorem relvL_reverse (a : List Inl.Node) : relvL g a.reverse = (relvL g a).reverse := by simp [relvL_map]
@[simp] theorem relvL_dropLast (a : List Inl.Node) : relvL g a.dropLast = (relvL g a).dropLast := by simp [relvL_map]
@[simp] theorem relvL_length (a : List Inl.Node) : (relvL g a).length = a.length := by simp [relvL_map]
@[simp] theorem relv_delim (id : Nat) (d : Delim) : relv g (.delim id d) = .delim id d := rfl
@[simp] theorem relv_label (id : Nat) (s : Segment) (im : Bool) : relv g (.label id s im) = .label id s im := rfl
@[simp] theorem relv_text (s : Segment) (a b c : Bool) : relv g (.text s a b c) = .text s a b c := rfl
@[simp] theorem relv_emphasis (lv : Int) (ks : List Inl.Node) : relv g (.emphasis lv ks) = .emphasis (g lv) (relvL g ks) := by
  simp [relv]
@[simp] theorem relv_codeSpan (ks : List Inl.Node) : relv g (.codeSpan ks) = .codeSpan (relvL g ks) := by simp [relv]
@[simp] theorem relv_link (im : Bool) (d : Bytes) (t : Option Bytes) (ks : List Inl.Node) :
    relv g (.link im d t ks) = .link im d t (relvL g ks) := by simp [relv]
@[simp] theorem relv_autoLink (e : Bool) (s : Segment) : relv g (.autoLink e s) = .autoLink e s := by simp [relv]
@[simp] theorem relv_rawHTML (ss : List Segment) : relv g (.rawHTML ss) = .rawHTML ss := by simp [relv]
@[simp] theorem relv_textOf (s : Segment) : relv g (textOf s) = textOf s := rfl

theorem relv_of_isText {n : Inl.Node} (h : GM.Proof.Inlines.isText n = true) : relv g n = n := by
  cases n <;> first | rfl | cases h

theorem relvL_getLast? (a : List Inl.Node) : (relvL g a).getLast? = a.getLast?.map (relv g) := by
  simp [relvL_map]

@[simp] theorem relv_isDelim (n : Inl.Node) : (relv g n).isDelim = n.isDelim := by cases n <;> rfl
@[simp] theorem relv_isLabel (n : Inl.Node) : (relv g n).isLabel = n.isLabel := by cases n <;> rfl
@[simp] theorem relv_isBottom (b : Bottom) (n : Inl.Node) : (relv g n).isBottom b = n.isBottom b := by cases n <;> rfl

theorem relvL_any_isDelim (l : List Inl.Node) : (relvL g l).any Inl.Node.isDelim = l.any Inl.Node.isDelim := by
  induction l with
  | nil => rfl
  | cons n r ih => simp [ih]

theorem relvL_mergeOrAppend (kids : List Inl.Node) (s : Segment) :
    relvL g (mergeOrAppend kids s) = mergeOrAppend (relvL g kids) s := by
  unfold mergeOrAppend
  rw [relvL_getLast?]
  cases h : kids.getLast? with
  | none => simp
  | some n =>
    cases n <;> simp
    split <;> simp [textOf]

theorem splitFirstDelim_relv : ∀ l : List Inl.Node,
    splitFirstDelim (relvL g l) = (splitFirstDelim l).map fun x => (relvL g x.1, x.2.1, x.2.2.1, relvL g x.2.2.2)
  | [] => rfl
  | n :: rest => by
    have ih := splitFirstDelim_relv rest
    cases n <;> simp only [relvL_cons, relv_emphasis, relv_codeSpan, relv_link, relv_autoLink, relv_rawHTML, relv_text,
      relv_delim, relv_label, splitFirstDelim, ih, Option.map] <;>
      (cases splitFirstDelim rest <;> simp)

theorem splitLastDelim_relv (l : List Inl.Node) :
    splitLastDelim (relvL g l) = (splitLastDelim l).map fun x => (relvL g x.1, x.2.1, x.2.2.1, relvL g x.2.2.2) := by
  unfold splitLastDelim
  rw [← relvL_reverse, splitFirstDelim_relv]
  cases splitFirstDelim l.reverse with
  | none => rfl
  | some x => obtain ⟨a, b, c, d⟩ := x; simp

theorem relvL_removeDelim (pre : List Inl.Node) (d : Delim) : relvL g (removeDelim pre d) = removeDelim (relvL g pre) d := by
  unfold removeDelim
  split
  · exact relvL_mergeOrAppend g pre d.seg
  · rfl

theorem relvL_clearInner : ∀ (rest acc : List Inl.Node), relvL g (clearInner acc rest) = clearInner (relvL g acc) (relvL g rest)
  | [], acc => by simp [clearInner]
  | n :: rest, acc => by
    cases n <;> simp only [relvL_cons, relv_emphasis, relv_codeSpan, relv_link, relv_autoLink, relv_rawHTML, relv_text,
      relv_delim, relv_label, clearInner] <;>
      first
        | (rw [relvL_clearInner rest, relvL_removeDelim])
        | (rw [relvL_clearInner rest]; simp)

theorem relvL_clearRev (b : Bottom) : ∀ l : List Inl.Node, relvL g (clearRev b l) = clearRev b (relvL g l)
  | [] => rfl
  | n :: rest => by
    have ih := relvL_clearRev b rest
    cases n with
    | delim id d =>
      simp only [relvL_cons, relv_delim, clearRev]
      split
      · simp
      · split
        · -- the delimiter becomes text: merged into the Text in front or a fresh Text
          rw [← ih]
          cases rest with
          | nil => simp [clearRev]
          | cons x xs =>
            cases hr : clearRev b (x :: xs) with
            | nil => cases x <;> simp
            | cons y ys =>
              cases x <;> simp
              split <;> simp
        · exact ih
    | _ =>
      simp only [relvL_cons, relv_text, relv_codeSpan, relv_emphasis, relv_link, relv_autoLink, relv_rawHTML, relv_label,
        clearRev, ih]

theorem relvL_clearDelimiters (b : Bottom) (kids : List Inl.Node) :
    relvL g (clearDelimiters b kids) = clearDelimiters b (relvL g kids) := by
  unfold clearDelimiters
  rw [splitLastDelim_relv]
  cases splitLastDelim kids with
  | none => rfl
  | some x =>
    obtain ⟨pre, id, d, post⟩ := x
    simp only [Option.map, relvL_append, relvL_reverse, relvL_clearRev, relvL_cons, relv_delim]

/-- the result of the opener search under the relabelling -/
def relvOpener (x : Option (List Inl.Node × Nat × Delim × List Inl.Node × Int) × Bool) :
    Option (List Inl.Node × Nat × Delim × List Inl.Node × Int) × Bool :=
  (x.1.map fun y => (relvL g y.1, y.2.1, y.2.2.1, relvL g y.2.2.2.1, y.2.2.2.2), x.2)

theorem findOpener_relv (b : Bottom) (closer : Delim) : ∀ (l mid : List Inl.Node) (maybe : Bool),
    findOpener b closer (relvL g l) (relvL g mid) maybe = relvOpener g (findOpener b closer l mid maybe)
  | [], mid, maybe => rfl
  | n :: restR, mid, maybe => by
    have ih := findOpener_relv b closer restR (n :: mid)
    cases n with
    | delim id d =>
      simp only [relvL_cons, relv_delim, findOpener]
      split
      · rfl
      · split
        · split
          · simp [relvOpener]
          · simpa using ih true
        · simpa using ih maybe
    | _ => simpa [findOpener] using ih maybe

/-- a round's outcome under a map of the child lists -/
def mapC (φ : List Inl.Node → List Inl.Node) : CStep → CStep
  | .done kids => .done (φ kids)
  | .next pre cid cd post => .next (φ pre) cid cd (φ post)
  | .bad => .bad

theorem mapC_id (c : CStep) : mapC id c = c := by cases c <;> rfl

theorem advanceCloser_relv (pre post : List Inl.Node) :
    advanceCloser (relvL g pre) (relvL g post) = mapC (relvL g) (advanceCloser pre post) := by
  unfold advanceCloser
  rw [splitFirstDelim_relv]
  cases splitFirstDelim post with
  | none => simp [mapC]
  | some x => obtain ⟨a, b, c, d⟩ := x; simp [mapC]

/-- `g` turns what a match builds under the processors `sk` into what it builds under `sk2`, at openers with `Q` -/
def GOn (Q : Inl.Node → Prop) (sk sk2 : Bool) (g : Int → Int) : Prop :=
  ∀ (oid : Nat) (od : Delim) (c : Int), Q (.delim oid od) → c = 1 ∨ c = 2 →
    ∀ ks, relv g (onMatch sk od c ks) = onMatch sk2 od c (relvL g ks)

variable {g}

open GM.Proof.InlinesDelims (allQ allQ_append allQ_cons) in
theorem closerStepG_relv' {Q : Inl.Node → Prop} {sk sk2 : Bool} (G : GOn Q sk sk2 g) (b : Bottom) {pre : List Inl.Node}
    (hp : allQ Q pre) (cid : Nat) (cd : Delim) (post : List Inl.Node) :
    closerStepG sk2 b (relvL g pre) cid cd (relvL g post) = mapC (relvL g) (closerStepG sk b pre cid cd post) := by
  by_cases h1 : cd.length < 1
  · rw [closerStepG_short h1, closerStepG_short h1]; rfl
  have hst : relvL g (pre ++ [.delim cid cd]) = relvL g pre ++ [.delim cid cd] := by simp
  cases hc : cd.canClose with
  | false => rw [closerStepG_stay h1 hc, closerStepG_stay h1 hc, ← hst, advanceCloser_relv]
  | true =>
    have hf := findOpener_relv g b cd pre.reverse [] false
    rw [relvL_reverse, relvL_nil] at hf
    cases hfo : findOpener b cd pre.reverse [] false with
    | mk o m =>
      rw [hfo] at hf
      cases o with
      | none =>
        rw [closerStepG_none h1 hc hfo, closerStepG_none h1 hc hf, ← advanceCloser_relv]
        congr 1
        split
        · exact (relvL_removeDelim g pre cd).symm
        · exact hst.symm
      | some x =>
        obtain ⟨p1, oid, od, mid, c⟩ := x
        have e := GM.Proof.Inlines.findOpener_eq b cd _ _ _ hfo
        rw [List.reverse_reverse, List.append_nil] at e
        have hQ : Q (.delim oid od) := (allQ_cons.mp (allQ_append.mp (e ▸ hp)).2).1
        rw [closerStepG_match h1 hc hfo rfl]
        by_cases hc1 : c < 1
        · rw [closerStepG_match h1 hc hf rfl, if_pos hc1, if_pos hc1]; rfl
        have hc12 : c = 1 ∨ c = 2 := by have := GM.Proof.Inlines.findOpener_le2 hfo; omega
        rw [if_neg hc1, closerStepG_match h1 hc hf
          (pre' := relvL g ((if (od.consume c).length == 0 then p1 else p1 ++ [.delim oid (od.consume c)]) ++
            [onMatch sk od c (clearInner [] mid)]))
          (by rw [relvL_append, relvL_cons, G oid od c hQ hc12, relvL_clearInner]; split <;> simp), if_neg hc1]
        split
        · exact advanceCloser_relv g _ post
        · rfl

theorem closerLoopG_eq (sk : Bool) (b : Bottom) (pre : List Inl.Node) (cid : Nat) (cd : Delim) (post : List Inl.Node) :
    closerLoopG sk b pre cid cd post =
      match closerStepG sk b pre cid cd post with
      | .done k => .ok k
      | .bad => .error .pre
      | .next p i d q => closerLoopG sk b p i d q := by
  rw [closerLoopG]
  split <;> rename_i h <;> rw [h]

theorem closerLoop_eq (b : Bottom) (pre : List Inl.Node) (cid : Nat) (cd : Delim) (post : List Inl.Node) :
    closerLoop b pre cid cd post =
      match closerStep b pre cid cd post with
      | .done k => .ok k
      | .bad => .error .pre
      | .next p i d q => closerLoop b p i d q := by
  rw [closerLoop]
  split <;> rename_i h <;> rw [h]

/-- the induction over the closer loop: `L2` is a loop over rounds `S2`; wherever `P` holds, a round of `S2` on the `φ`-image
    is the `φ`-image of the round of `closerStepG sk`, and a round keeps `P`: then the loops agree up to `φ`. -/
theorem closerLoopG_sim {sk : Bool} {b : Bottom} {S2 : List Inl.Node → Nat → Delim → List Inl.Node → CStep}
    {L2 : List Inl.Node → Nat → Delim → List Inl.Node → Except Panic (List Inl.Node)}
    (hL : ∀ pre cid cd post, L2 pre cid cd post =
      match S2 pre cid cd post with
      | .done k => .ok k
      | .bad => .error .pre
      | .next p i d q => L2 p i d q)
    (φ : List Inl.Node → List Inl.Node) {P : List Inl.Node → Nat → Delim → List Inl.Node → Prop}
    (hstep : ∀ pre cid cd post, P pre cid cd post →
      S2 (φ pre) cid cd (φ post) = mapC φ (closerStepG sk b pre cid cd post))
    (hkeep : ∀ {pre cid cd post pre' cid' cd' post'}, P pre cid cd post →
      closerStepG sk b pre cid cd post = .next pre' cid' cd' post' → P pre' cid' cd' post')
    (pre : List Inl.Node) (cid : Nat) (cd : Delim) (post : List Inl.Node) :
    P pre cid cd post → L2 (φ pre) cid cd (φ post) = (closerLoopG sk b pre cid cd post).map φ := by
  fun_induction closerLoopG sk b pre cid cd post with
  | case1 pre cid cd post kids hs => intro hP; rw [hL, hstep _ _ _ _ hP, hs]; rfl
  | case2 pre cid cd post hs => intro hP; rw [hL, hstep _ _ _ _ hP, hs]; rfl
  | case3 pre cid cd post pre' cid' cd' post' hs ih => intro hP; rw [hL, hstep _ _ _ _ hP, hs]; exact ih (hkeep hP hs)

open GM.Proof.InlinesDelims (allQ allQ_append allQ_cons) in
theorem closerLoopG_relv' {Q : Inl.Node → Prop} {sk sk2 : Bool} (G : GOn Q sk sk2 g) (b : Bottom)
    (hkeep : ∀ {pre cid cd post}, allQ Q pre → Q (.delim cid cd) → allQ Q post →
      allQ Q (GM.Proof.Inlines.wholeOf (closerStepG sk b pre cid cd post)))
    {pre post : List Inl.Node} {cid : Nat} {cd : Delim} (hp : allQ Q pre) (hcd : Q (.delim cid cd)) (hq : allQ Q post) :
    closerLoopG sk2 b (relvL g pre) cid cd (relvL g post) = (closerLoopG sk b pre cid cd post).map (relvL g) :=
  closerLoopG_sim (closerLoopG_eq sk2 b) (relvL g)
    (P := fun pre cid cd post => allQ Q pre ∧ Q (.delim cid cd) ∧ allQ Q post)
    (fun _ cid cd post h => closerStepG_relv' G b h.1 cid cd post)
    (fun h hs => by
      have := hkeep h.1 h.2.1 h.2.2
      rw [hs] at this
      exact ⟨(allQ_append.mp this).1, allQ_cons.mp (allQ_append.mp this).2⟩) pre cid cd post ⟨hp, hcd, hq⟩

theorem firstCloserAfter_relv (g : Int → Int) (b : Bottom) : ∀ (l : List Inl.Node) (acc : Option Nat),
    firstCloserAfter b (relvL g l) acc = firstCloserAfter b l acc
  | [], _ => rfl
  | n :: rest, acc => by
    cases n <;> simp only [relvL_cons, relv_emphasis, relv_codeSpan, relv_link, relv_autoLink, relv_rawHTML, relv_text,
      relv_delim, relv_label, firstCloserAfter] <;>
      first
        | exact firstCloserAfter_relv g b rest acc
        | (split
           · rfl
           · exact firstCloserAfter_relv g b rest _)

theorem splitAtDelim_relv (g : Int → Int) (id : Nat) : ∀ l : List Inl.Node,
    splitAtDelim id (relvL g l) = (splitAtDelim id l).map fun x => (relvL g x.1, x.2.1, relvL g x.2.2)
  | [] => rfl
  | n :: rest => by
    have ih := splitAtDelim_relv g id rest
    cases n with
    | delim i d =>
      simp only [relvL_cons, relv_delim, splitAtDelim, ih]
      by_cases h : (i == id) = true
      · simp [h]
      · simp only [h, Bool.false_eq_true, if_false]
        cases splitAtDelim id rest <;> simp
    | _ =>
      simp only [relvL_cons, relv_text, relv_codeSpan, relv_emphasis, relv_link, relv_autoLink, relv_rawHTML, relv_label,
        splitAtDelim, ih]
      cases splitAtDelim id rest <;> simp

open GM.Proof.InlinesDelims (allQ allQ_append allQ_cons) in
/-- ProcessDelimiters with the processors `sk2` on the relabelled children is the one with `sk`, relabelled, on children
    with a property `Q` that a round keeps (`Q` is there for the opener: see `GOn`) -/
theorem processDelimitersG_relv' {Q : Inl.Node → Prop} {sk sk2 : Bool} (G : GOn Q sk sk2 g) (b : Bottom)
    (hkeep : ∀ {pre cid cd post}, allQ Q pre → Q (.delim cid cd) → allQ Q post →
      allQ Q (GM.Proof.Inlines.wholeOf (closerStepG sk b pre cid cd post)))
    {kids : List Inl.Node} (hk : allQ Q kids) :
    processDelimitersG sk2 b (relvL g kids) = (processDelimitersG sk b kids).map (relvL g) := by
  have tail : ∀ (closer : Option Nat),
      (match closer with
        | none => (.ok (clearDelimiters b (relvL g kids)) : Except Panic (List Inl.Node))
        | some cid =>
          match splitAtDelim cid (relvL g kids) with
          | none => .error .pre
          | some (pre, cd, post) =>
            match closerLoopG sk2 b pre cid cd post with
            | .ok kids' => .ok (clearDelimiters b kids')
            | .error e => .error e) =
      (match closer with
        | none => (.ok (clearDelimiters b kids) : Except Panic (List Inl.Node))
        | some cid =>
          match splitAtDelim cid kids with
          | none => .error .pre
          | some (pre, cd, post) =>
            match closerLoopG sk b pre cid cd post with
            | .ok kids' => .ok (clearDelimiters b kids')
            | .error e => .error e).map (relvL g) := by
    intro closer
    cases closer with
    | none => simp [Except.map, relvL_clearDelimiters]
    | some cid =>
      simp only [splitAtDelim_relv]
      cases hs : splitAtDelim cid kids with
      | none => rfl
      | some y =>
        obtain ⟨pre, cd, post⟩ := y
        rw [GM.Proof.Inlines.splitAtDelim_eq hs] at hk
        have hk2 := allQ_cons.mp (allQ_append.mp hk).2
        simp only [Option.map, closerLoopG_relv' G b hkeep (allQ_append.mp hk).1 hk2.1 hk2.2]
        cases closerLoopG sk b pre cid cd post with
        | error e => rfl
        | ok k => simp [Except.map, relvL_clearDelimiters]
  unfold processDelimitersG
  rw [splitLastDelim_relv]
  cases hl : splitLastDelim kids with
  | none => rfl
  | some x =>
    obtain ⟨preL, lastId, ld, lpost⟩ := x
    simp only [Option.map_some]
    cases b with
    | nil =>
      dsimp only
      have hc : (splitFirstDelim (relvL g kids)).map (·.2.1) = (splitFirstDelim kids).map (·.2.1) := by
        rw [splitFirstDelim_relv]; cases splitFirstDelim kids <;> rfl
      rw [hc]
      exact tail _
    | tnil =>
      simp only [← relvL_reverse, firstCloserAfter_relv]
      exact tail _
    | id n =>
      simp only [← relvL_reverse, firstCloserAfter_relv]
      exact tail _

theorem closerStepG_false (b : Bottom) (pre : List Inl.Node) (cid : Nat) (cd : Delim) (post : List Inl.Node) :
    closerStepG false b pre cid cd post = closerStep b pre cid cd post := by
  unfold closerStepG closerStep onMatch
  simp only [Bool.false_and, Bool.false_eq_true, if_false]
  rfl

theorem closerLoopG_false (b : Bottom) (pre : List Inl.Node) (cid : Nat) (cd : Delim) (post : List Inl.Node) :
    closerLoopG false b pre cid cd post = closerLoop b pre cid cd post := by
  refine .trans ?_ (closerLoopG_sim (sk := false) (closerLoop_eq b) id (P := fun _ _ _ _ => True)
    (fun _ _ _ _ _ => ((mapC_id _).trans (closerStepG_false ..)).symm) (fun _ _ => trivial) pre cid cd post trivial).symm
  cases closerLoopG false b pre cid cd post <;> rfl

theorem processDelimitersG_false : processDelimitersG false = processDelimiters := by
  funext b kids
  unfold processDelimitersG processDelimiters
  simp only [closerLoopG_false]
  rfl

/-- the relabellings under which the generalised ProcessDelimiters is the default one: 1 and 2 are fixed, and with the
    strikethrough processor the representation of a Strikethrough made by `c` tildes goes to `c` -/
structure GOK (sk : Bool) (g : Int → Int) : Prop where
  g1 : g 1 = 1
  g2 : g 2 = 2
  s1 : sk = true → g (-3) = 1
  s2 : sk = true → g (-4) = 2

theorem GOK.on {sk : Bool} (G : GOK sk g) : GOn (fun _ => True) sk false g := by
  intro _ od c _ hc ks
  unfold onMatch strikeNode
  simp only [Bool.false_and, Bool.false_eq_true, if_false]
  split
  · rename_i h
    have hsk : sk = true := by cases sk <;> simp_all
    rcases hc with rfl | rfl
    · simp [G.s1 hsk]
    · simp [G.s2 hsk]
  · rcases hc with rfl | rfl
    · simp [G.g1]
    · simp [G.g2]

theorem processDelimitersG_relv {sk : Bool} (G : GOK sk g) (b : Bottom) (kids : List Inl.Node) :
    processDelimiters b (relvL g kids) = (processDelimitersG sk b kids).map (relvL g) := by
  rw [← processDelimitersG_false]
  exact processDelimitersG_relv' G.on b (fun _ _ _ _ _ => trivial) fun _ _ => trivial

/-- the relabellings the generalised ProcessDelimiters itself commutes with: 1, 2 and — with the strikethrough processor —
    the two Strikethrough levels are fixed -/
structure GOKS (sk : Bool) (g : Int → Int) : Prop where
  g1 : g 1 = 1
  g2 : g 2 = 2
  s1 : sk = true → g (-3) = -3
  s2 : sk = true → g (-4) = -4

theorem GOKS.on {sk : Bool} (G : GOKS sk g) : GOn (fun _ => True) sk sk g := by
  intro _ od c _ hc ks
  unfold onMatch strikeNode
  split
  · rename_i h
    have hsk : sk = true := by cases sk <;> simp_all
    rcases hc with rfl | rfl
    · simp [G.s1 hsk]
    · simp [G.s2 hsk]
  · rcases hc with rfl | rfl
    · simp [G.g1]
    · simp [G.g2]

theorem processDelimitersG_relvS {sk : Bool} (G : GOKS sk g) (b : Bottom) (kids : List Inl.Node) :
    processDelimitersG sk b (relvL g kids) = (processDelimitersG sk b kids).map (relvL g) :=
  processDelimitersG_relv' G.on b (fun _ _ _ _ _ => trivial) fun _ _ => trivial

theorem splitFirstLabel_relv (g : Int → Int) : ∀ l : List Inl.Node,
    splitFirstLabel (relvL g l) = (splitFirstLabel l).map fun x => (relvL g x.1, x.2.1, relvL g x.2.2)
  | [] => rfl
  | n :: rest => by
    have ih := splitFirstLabel_relv g rest
    cases n with
    | label i s im => simp [splitFirstLabel]
    | _ =>
      simp only [relvL_cons, relv_text, relv_codeSpan, relv_emphasis, relv_link, relv_autoLink, relv_rawHTML, relv_delim,
        splitFirstLabel, ih]
      cases splitFirstLabel rest <;> simp

theorem splitLastLabel_relv (g : Int → Int) (l : List Inl.Node) :
    splitLastLabel (relvL g l) = (splitLastLabel l).map fun x => (relvL g x.1, x.2.1, relvL g x.2.2) := by
  unfold splitLastLabel
  rw [← relvL_reverse, splitFirstLabel_relv]
  cases splitFirstLabel l.reverse with
  | none => rfl
  | some x => obtain ⟨a, b, c⟩ := x; simp

mutual
theorem containsLink_relv (g : Int → Int) : ∀ n : Inl.Node, containsLink (relv g n) = containsLink n
  | .link im d t ks => by cases im <;> simp [containsLink, containsLinkL_relv g ks]
  | .emphasis lv ks => by simp [containsLink, containsLinkL_relv g ks]
  | .codeSpan ks => by simp [containsLink, containsLinkL_relv g ks]
  | .text .. => rfl
  | .autoLink .. => rfl
  | .rawHTML .. => rfl
  | .delim .. => rfl
  | .label .. => rfl
theorem containsLinkL_relv (g : Int → Int) : ∀ l : List Inl.Node, containsLinkL (relvL g l) = containsLinkL l
  | [] => rfl
  | n :: rest => by simp [containsLinkL, containsLink_relv g n, containsLinkL_relv g rest]
end

mutual
theorem hasLabel_relv (g : Int → Int) : ∀ n : Inl.Node, hasLabel (relv g n) = hasLabel n
  | .link im d t ks => by simp [hasLabel, hasLabelL_relv g ks]
  | .emphasis lv ks => by simp [hasLabel, hasLabelL_relv g ks]
  | .codeSpan ks => by simp [hasLabel, hasLabelL_relv g ks]
  | .text .. => rfl
  | .autoLink .. => rfl
  | .rawHTML .. => rfl
  | .delim .. => rfl
  | .label .. => rfl
theorem hasLabelL_relv (g : Int → Int) : ∀ l : List Inl.Node, hasLabelL (relvL g l) = hasLabelL l
  | [] => rfl
  | n :: rest => by simp [hasLabelL, hasLabel_relv g n, hasLabelL_relv g rest]
end

def relvSt (g : Int → Int) (st : St) : St := { st with kids := relvL g st.kids }
def relvPR (g : Int → Int) (r : Option Inl.Node × St) : Option Inl.Node × St := (r.1.map (relv g), relvSt g r.2)

@[simp] theorem relvSt_rd (g : Int → Int) (st : St) : (relvSt g st).rd = st.rd := rfl
@[simp] theorem relvSt_kids (g : Int → Int) (st : St) : (relvSt g st).kids = relvL g st.kids := rfl
@[simp] theorem relvSt_nextId (g : Int → Int) (st : St) : (relvSt g st).nextId = st.nextId := rfl
@[simp] theorem relvSt_bottoms (g : Int → Int) (st : St) : (relvSt g st).bottoms = st.bottoms := rfl
theorem relvSt_withRd (g : Int → Int) (st : St) (rd : BlockReader) :
    { relvSt g st with rd := rd } = relvSt g { st with rd := rd } := rfl

mutual
theorem relv_id : ∀ n : Inl.Node, relv id n = n
  | .text .. => rfl
  | .codeSpan ks => by simp [relvL_id ks]
  | .emphasis lv ks => by simp [relvL_id ks]
  | .link im d t ks => by simp [relvL_id ks]
  | .autoLink .. => rfl
  | .rawHTML .. => rfl
  | .delim .. => rfl
  | .label .. => rfl
theorem relvL_id : ∀ l : List Inl.Node, relvL id l = l
  | [] => rfl
  | n :: rest => by simp [relv_id n, relvL_id rest]
end

theorem relvSt_id (st : St) : relvSt id st = st := by simp [relvSt, relvL_id]
theorem relvPR_id (r : Option Inl.Node × St) : relvPR id r = r := by
  obtain ⟨n, st⟩ := r
  cases n <;> simp [relvPR, relvSt_id, relv_id]
theorem map_relvPR_id (x : PRes) : x.map (relvPR id) = x := by
  cases x with
  | error e => rfl
  | ok r => simp [Except.map, relvPR_id]

theorem pushBottom_relv (g : Int → Int) (st : St) : pushBottom (relvSt g st) = relvSt g (pushBottom st) := by
  unfold pushBottom
  simp only [relvSt_kids, splitLastDelim_relv]
  cases splitLastDelim st.kids with
  | none => rfl
  | some x => obtain ⟨a, b, c, d⟩ := x; rfl

theorem popBottom_relv (g : Int → Int) (st : St) : popBottom (relvSt g st) = ((popBottom st).1, relvSt g (popBottom st).2) := by
  unfold popBottom
  simp only [relvSt_bottoms]
  cases st.bottoms <;> rfl

theorem labelOpen_relv (g : Int → Int) (st : St) (pos : Int) (im : Bool) :
    labelOpen (relvSt g st) pos im = (labelOpen st pos im).map (relvPR g) := by
  unfold labelOpen
  simp only [relvSt_rd, bind, Except.bind]
  cases st.rd.advance 1 with
  | error e => rfl
  | ok rd => rfl

theorem linkFail_relv (g : Int → Int) (pre : List Inl.Node) (lseg : Segment) (post : List Inl.Node) (st : St) :
    linkFail (relvL g pre) lseg (relvL g post) (relvSt g st) = (linkFail pre lseg post st).map (relvPR g) := by
  unfold linkFail
  rw [popBottom_relv]
  simp [Except.map, relvPR, relvSt, relvL_mergeOrAppend]

theorem linkDone_relv (g : Int → Int) (im : Bool) (info : LinkInfo) (st : St) :
    linkDone im { info with kids := relvL g info.kids } (relvSt g st) = (linkDone im info st).map (relvPR g) := by
  unfold linkDone
  simp [Except.map, relvPR, relvSt]

theorem labelLen_relv (g : Int → Int) (pre : List Inl.Node) : labelLen (relvL g pre) = labelLen pre := by
  unfold labelLen
  rw [splitFirstLabel_relv, splitLastLabel_relv]
  cases splitFirstLabel pre with
  | none => rfl
  | some x =>
    cases splitLastLabel pre with
    | none => rfl
    | some y => rfl

/-- `pd2` on the relabelled children is `pd` relabelled -/
def PDSim2 (g : Int → Int) (pd pd2 : PD) : Prop :=
  ∀ b k, pd2 b (relvL g k) = (pd b k).map (relvL g)

/-- `pd` is the default ProcessDelimiters up to the relabelling -/
def PDSim (g : Int → Int) (pd : PD) : Prop :=
  ∀ b k, processDelimiters b (relvL g k) = (pd b k).map (relvL g)

def relvKS (g : Int → Int) (r : List Inl.Node × St) : List Inl.Node × St := (relvL g r.1, relvSt g r.2)

theorem processLinkLabelG_relv2 {pd pd2 : PD} (hpd : PDSim2 g pd pd2) (st : St) :
    processLinkLabelG pd2 (relvSt g st) = (processLinkLabelG pd st).map (relvKS g) := by
  unfold processLinkLabelG
  rw [popBottom_relv]
  simp only [relvSt_kids, splitLastLabel_relv]
  cases splitLastLabel (popBottom st).2.kids with
  | none => rfl
  | some x =>
    obtain ⟨a, lab, post0⟩ := x
    simp only [Option.map_some, hasLabelL_relv]
    split
    · rfl
    · rw [hpd]
      cases pd (popBottom st).1 (popBottom st).2.kids with
      | error e => rfl
      | ok kids =>
        simp only [Except.map, splitLastLabel_relv]
        cases splitLastLabel kids with
        | none => rfl
        | some y =>
          obtain ⟨pre, ⟨lid, lseg, im⟩, post⟩ := y
          simp only [Option.map_some, hasLabelL_relv, relvL_any_isDelim]
          split
          · rfl
          · simp [relvKS, relvSt]

def relvLI (g : Int → Int) (r : Option LinkInfo × St) : Option LinkInfo × St :=
  (r.1.map fun i => { i with kids := relvL g i.kids }, relvSt g r.2)

theorem linkFinishG_relv2 {pd pd2 : PD} (hpd : PDSim2 g pd pd2) (st : St) (a : LinkArgs) (rd : BlockReader) :
    linkFinishG pd2 (relvSt g st) a rd = (linkFinishG pd st a rd).map (relvLI g) := by
  unfold linkFinishG
  cases a with
  | none => rfl
  | some x =>
    simp only [relvSt_withRd, processLinkLabelG_relv2 hpd, bind, Except.bind]
    cases processLinkLabelG pd { st with rd := rd } <;> rfl

theorem linkShortcutG_relv2 {pd pd2 : PD} (hpd : PDSim2 g pd pd2) (env : Env) (st : St) (lseg segment : Segment) (l : Int)
    (pos : Segment) (im : Bool) (pre post : List Inl.Node) :
    linkShortcutG pd2 env (relvSt g st) lseg segment l pos im (relvL g pre) (relvL g post) =
      (linkShortcutG pd env st lseg segment l pos im pre post).map (relvPR g) := by
  unfold linkShortcutG
  simp only [relvSt_rd, relvSt_withRd, processLinkLabelG_relv2 hpd, linkFail_relv, bind, Except.bind]
  cases st.rd.setPosition l pos with
  | error e => rfl
  | ok rd =>
    dsimp only
    cases rd.valueOp { start := lseg.stop, stop := segment.start } with
    | error e => rfl
    | ok ref =>
      dsimp only
      split
      · rfl
      · cases lookupRef env ref with
        | none => rfl
        | some x =>
          dsimp only
          cases processLinkLabelG pd { st with rd := rd } with
          | error e => rfl
          | ok r => exact linkDone_relv g im { dest := x.1, title := x.2, kids := r.1 } r.2

def relvTry (g : Int → Int) (r : Option LinkInfo × Bool × St) : Option LinkInfo × Bool × St :=
  (r.1.map fun i => { i with kids := relvL g i.kids }, r.2.1, relvSt g r.2.2)

theorem linkTryG_relv2 {pd pd2 : PD} (hpd : PDSim2 g pd pd2) (env : Env) (st : St) (lseg : Segment) (c : UInt8) :
    linkTryG pd2 env (relvSt g st) lseg c = (linkTryG pd env st lseg c).map (relvTry g) := by
  unfold linkTryG
  simp only [parseLinkInlineG_rd, parseReferenceLinkG_rd, relvSt_rd, linkFinishG_relv2 hpd, bind, Except.bind]
  split
  · cases linkInlineRd st.rd with
    | error e => rfl
    | ok r =>
      dsimp only
      cases linkFinishG pd st r.1 r.2 <;> rfl
  · split
    · cases linkRefRd env st.rd lseg with
      | error e => rfl
      | ok r =>
        dsimp only
        cases linkFinishG pd st r.1.1 r.2 <;> rfl
    · rfl

theorem relvSt_mk (g : Int → Int) (rd : BlockReader) (k : List Inl.Node) (n : Nat) (b : List Bottom) :
    ({ rd := rd, kids := relvL g k, nextId := n, bottoms := b } : St) =
      relvSt g { rd := rd, kids := k, nextId := n, bottoms := b } := rfl

theorem parseLinkCloseG_relv2 {pd pd2 : PD} (hpd : PDSim2 g pd pd2) (env : Env) (st : St) (segment : Segment) :
    parseLinkCloseG pd2 env (relvSt g st) segment = (parseLinkCloseG pd env st segment).map (relvPR g) := by
  unfold parseLinkCloseG
  simp only [relvSt_kids, splitLastLabel_relv]
  cases splitLastLabel st.kids with
  | none => rfl
  | some x =>
    obtain ⟨pre, ⟨lid, lseg, im⟩, post⟩ := x
    simp only [Option.map_some, relvSt_rd, relvSt_nextId, relvSt_bottoms, relvSt_mk, labelLen_relv, containsLinkL_relv,
      linkFail_relv, linkTryG_relv2 hpd, bind, Except.bind, pure, Except.pure]
    cases st.rd.advance 1 with
    | error e => rfl
    | ok rd =>
      simp only []
      split
      · rfl
      · split
        · rfl
        · cases rd.peek with
          | error e => rfl
          | ok c =>
            simp only []
            cases linkTryG pd env { rd := rd, kids := st.kids, nextId := st.nextId, bottoms := st.bottoms } lseg c with
            | error e => rfl
            | ok r =>
              obtain ⟨link, hv, st'⟩ := r
              simp only [Except.map, relvTry]
              cases link with
              | some info =>
                simp only [Option.map_some]
                exact linkDone_relv g im info st'
              | none =>
                simp only [Option.map_none]
                split
                · exact linkFail_relv g pre lseg post st'
                · exact linkShortcutG_relv2 hpd env st' lseg segment _ _ im pre post

theorem parseLinkG_relv2 {pd pd2 : PD} (hpd : PDSim2 g pd pd2) (env : Env) (st : St) :
    parseLinkG pd2 env (relvSt g st) = (parseLinkG pd env st).map (relvPR g) := by
  unfold parseLinkG
  simp only [relvSt_rd, bind, Except.bind, pure, Except.pure]
  cases st.rd.peekLine with
  | error e => rfl
  | ok v =>
    simp only [relvSt_kids, relvSt_nextId, relvSt_bottoms, relvSt_mk]
    cases v.1.1.getD [] with
    | nil => rfl
    | cons c rest =>
      simp only []
      by_cases hc : (c == 33) = true
      · simp only [hc, if_true]
        cases rest with
        | nil => rfl
        | cons d rest' =>
          by_cases hd : d = 91
          · subst hd
            simp only []
            cases v.2.advance 1 with
            | error e => rfl
            | ok rd' =>
              simp only [relvSt_mk, pushBottom_relv, labelOpen_relv]
          · have : ∀ tail, d :: rest' ≠ 91 :: tail := fun tail h => hd (by injection h)
            split
            · rename_i heq; exact absurd heq (this _)
            · rfl
      · simp only [hc, Bool.false_eq_true, if_false]
        split
        · simp only [pushBottom_relv, labelOpen_relv]
        · exact parseLinkCloseG_relv2 hpd env _ _

theorem parseLinkG_relv {pd : PD} (hpd : PDSim g pd) (env : Env) (st : St) :
    parseLink env (relvSt g st) = (parseLinkG pd env st).map (relvPR g) :=
  parseLinkG_relv2 (pd2 := processDelimiters) hpd env st

theorem processLinkLabelG_default : processLinkLabelG processDelimiters = processLinkLabel := rfl
theorem parseLinkInlineG_default : parseLinkInlineG processDelimiters = parseLinkInline := rfl
theorem parseReferenceLinkG_default : parseReferenceLinkG processDelimiters = parseReferenceLink := rfl
theorem linkShortcutG_default : linkShortcutG processDelimiters = linkShortcut := rfl
theorem linkTryG_default : linkTryG processDelimiters = linkTry := rfl
theorem parseLinkCloseG_default : parseLinkCloseG processDelimiters = parseLinkClose := rfl
theorem parseLinkG_default : parseLinkG processDelimiters = parseLink := rfl

end GM.Proof.ConvertXRelv
