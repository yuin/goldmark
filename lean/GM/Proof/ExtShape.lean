/-
  GM.Proof.ExtShape — what the three extension parsers of the inline loop answer (GM.Model.ExtLinkify, ExtStrike, ExtTask).
  ONE statement per parser, all of one form (`Shape`): the answer as a function of the state, under what the parser read of
  the reader. The invariants of the inline loop (contract, padding, node predicates, relabelling) read their facts about a
  parser off its statement. Before them the bounds the statements rest on: Linkify's hand-matched expressions and
  trailing-character rules (a match lies inside the line, stays non-empty, no index or slice panic), ScanDelimiter's run.
-/
import GM.Proof.ExtDecline
import GM.Proof.InlinesTotal
import GM.Model.ExtLinkify
import GM.Model.ExtStrike
import GM.Model.ExtTask

namespace GM.Proof.Linkify
open GM GM.Text GM.Inl GM.Ext GM.Proof.FindEmailIndex

theorem domainSearch_spec (s : Bytes) : ∀ (lim k : Nat), domainSearch s lim = some k → 1 ≤ k ∧ k + 1 < s.length
  | 0, _, h => by simp [domainSearch] at h
  | n + 1, k, h => by
    simp only [domainSearch] at h
    split at h
    · rename_i hc
      simp only [Bool.and_eq_true, decide_eq_true_eq] at hc
      simp at h; subst h
      exact ⟨by omega, by omega⟩
    · exact domainSearch_spec s n k h

theorem matchDomain_le {s : Bytes} {d : Nat} (h : matchDomain s = some d) : 2 ≤ d ∧ d ≤ s.length := by
  unfold matchDomain at h
  simp only at h
  split at h
  · cases h
  · rename_i k hk
    obtain ⟨k1, k2⟩ := domainSearch_spec s _ k hk
    simp at h; subst h
    have := (List.takeWhile_sublist (l := s.drop (k + 1)) lkLower).length_le
    simp only [List.length_drop] at this
    constructor
    · omega
    · omega

theorem matchPort_bounds (s : Bytes) (e : Nat) (he : e ≤ s.length) : e ≤ matchPort s e ∧ matchPort s e ≤ s.length := by
  unfold matchPort
  split
  · rename_i hc
    simp only [Bool.and_eq_true, decide_eq_true_eq] at hc
    simp only
    split
    · exact ⟨Nat.le_refl _, he⟩
    · have := (List.takeWhile_sublist (l := s.drop (e + 1)) lkDigit).length_le
      simp only [List.length_drop] at this
      constructor <;> omega
  · exact ⟨Nat.le_refl _, he⟩

theorem matchPath_bounds (d : Bool) (s : Bytes) (e : Nat) (he : e ≤ s.length) :
    e ≤ matchPath d s e ∧ matchPath d s e ≤ s.length := by
  unfold matchPath
  split
  · rename_i hc
    simp only [Bool.and_eq_true, decide_eq_true_eq] at hc
    have := (List.takeWhile_sublist (l := s.drop (e + 1)) (lkPathByte d)).length_le
    simp only [List.length_drop] at this
    constructor <;> omega
  · exact ⟨Nat.le_refl _, he⟩

theorem isPrefixOf_head {p l : Bytes} {a : UInt8} {r : Bytes} (hp : p = a :: r) (h : p.isPrefixOf l = true) :
    l.head? = some a := by
  subst hp
  cases l with
  | nil => simp [List.isPrefixOf] at h
  | cons b t =>
    simp only [List.isPrefixOf, Bool.and_eq_true, beq_iff_eq] at h
    simp [h.1]

theorem isPrefixOf_getD {p l : Bytes} (h : p.isPrefixOf l = true) : ∀ j, j < p.length → l.getD j 0 = p.getD j 0 := by
  induction p generalizing l with
  | nil => intro j hj; simp at hj
  | cons a r ih =>
    cases l with
    | nil => simp [List.isPrefixOf] at h
    | cons b t =>
      simp only [List.isPrefixOf, Bool.and_eq_true, beq_iff_eq] at h
      intro j hj
      cases j with
      | zero => simp [h.1]
      | succ k =>
        simp only [List.getD_cons_succ]
        exact ih h.2 k (by simpa using hj)

/-- a URL match: at least 2 bytes, inside the line, and the line starts with a letter of the protocol -/
theorem matchURL_bounds {l : Bytes} {m : Nat} (h : matchURL l = some m) :
    2 ≤ m ∧ m ≤ l.length ∧ (l.head? = some 104 ∨ l.head? = some 102) ∧
      (∃ j, j + 2 ≤ m ∧ isAlnum (l.getD j 0) = false) ∧ (58 : UInt8) ∈ l := by
  unfold matchURL at h
  simp only at h
  have step : ∀ (p : Nat) (pre : Bytes), pre.isPrefixOf l = true → pre.length = p → 2 ≤ p →
      (match matchDomain (l.drop p) with
        | none => none
        | some d => some (p + matchPath true (l.drop p) (matchPort (l.drop p) d))) = some m → p + 2 ≤ m ∧ m ≤ l.length := by
    intro p pre hpre hlen hp2 hm
    have hpl := InlinesTotal.isPrefixOf_len hpre
    cases hd : matchDomain (l.drop p) with
    | none => rw [hd] at hm; cases hm
    | some d =>
      rw [hd] at hm
      simp at hm; subst hm
      obtain ⟨d1, d2⟩ := matchDomain_le hd
      obtain ⟨p1, p2⟩ := matchPort_bounds (l.drop p) d d2
      obtain ⟨q1, q2⟩ := matchPath_bounds true (l.drop p) _ p2
      simp only [List.length_drop] at q2 d2 p2
      constructor <;> omega
  by_cases h1 : lkHTTP.isPrefixOf l = true
  · simp only [h1, if_true] at h
    have := step 7 lkHTTP h1 rfl (by omega) h
    exact ⟨by omega, this.2, Or.inl (isPrefixOf_head rfl h1), ⟨4, by omega, by rw [isPrefixOf_getD h1 4 (by decide)]; decide⟩,
      mem_of_isPrefixOf h1 (by decide)⟩
  · by_cases h2 : lkHTTPS.isPrefixOf l = true
    · simp only [h1, h2, if_true, Bool.false_eq_true, if_false] at h
      have := step 8 lkHTTPS h2 rfl (by omega) h
      exact ⟨by omega, this.2, Or.inl (isPrefixOf_head rfl h2), ⟨5, by omega, by rw [isPrefixOf_getD h2 5 (by decide)]; decide⟩,
        mem_of_isPrefixOf h2 (by decide)⟩
    · by_cases h3 : lkFTP.isPrefixOf l = true
      · simp only [h1, h2, h3, if_true, Bool.false_eq_true, if_false] at h
        have := step 6 lkFTP h3 rfl (by omega) h
        exact ⟨by omega, this.2, Or.inr (isPrefixOf_head rfl h3), ⟨3, by omega, by rw [isPrefixOf_getD h3 3 (by decide)]; decide⟩,
          mem_of_isPrefixOf h3 (by decide)⟩
      · simp [h1, h2, h3] at h

theorem matchWWW_bounds {l : Bytes} {m : Nat} (h : matchWWW l = some m) :
    2 ≤ m ∧ m ≤ l.length ∧ l.head? = some 119 ∧ ∃ j, j + 2 ≤ m ∧ isAlnum (l.getD j 0) = false := by
  unfold matchWWW at h
  split at h
  · rename_i hw
    have hpl := InlinesTotal.isPrefixOf_len hw
    have hl4 : GM.Ext.domainWWW.length = 4 := rfl
    cases hd : matchDomain (l.drop 4) with
    | none => rw [hd] at h; cases h
    | some d =>
      rw [hd] at h
      simp at h; subst h
      obtain ⟨d1, d2⟩ := matchDomain_le hd
      obtain ⟨q1, q2⟩ := matchPath_bounds false (l.drop 4) d d2
      simp only [List.length_drop] at q2 d2
      exact ⟨by omega, by omega, isPrefixOf_head rfl hw, 3, by omega, by rw [isPrefixOf_getD hw 3 (by decide)]; decide⟩
  · cases h

/-- the match the trailing-character rules are run on (URL first, then `www.`) meets what `lkURLEnd_ok` asks; the line
    holds ':' or starts with `www.` -/
theorem urlOrWWW_bounds {l : Bytes} {m : Nat}
    (h : (if (matchURL l).isSome then matchURL l
          else if (matchURL l).isNone && GM.Ext.domainWWW.isPrefixOf l then matchWWW l else none) = some m) :
    2 ≤ m ∧ m ≤ l.length ∧ (l.head? = some 104 ∨ l.head? = some 102 ∨ l.head? = some 119) ∧
      (∃ j, j + 2 ≤ m ∧ isAlnum (l.getD j 0) = false) ∧ ((58 : UInt8) ∈ l ∨ domainWWW.isPrefixOf l = true) := by
  split at h
  · obtain ⟨b1, b2, b3, b4, b5⟩ := matchURL_bounds h
    exact ⟨b1, b2, b3.elim .inl (.inr ∘ .inl), b4, .inl b5⟩
  · split at h
    · rename_i hw
      obtain ⟨b1, b2, b3, b4⟩ := matchWWW_bounds h
      exact ⟨b1, b2, .inr (.inr b3), b4, .inr (Bool.and_eq_true_iff.mp hw).2⟩
    · cases h

theorem closing_fold_le : ∀ (l : Bytes) (a : Int),
    l.foldl (fun a c => if c == 41 then a + 1 else if c == 40 then a - 1 else a) a ≤ a + l.length
  | [], a => by simp
  | c :: rest, a => by
    simp only [List.foldl_cons, List.length_cons]
    by_cases h1 : (c == 41) = true
    · simp only [h1, if_true]
      have := closing_fold_le rest (a + 1); push_cast; omega
    · by_cases h2 : (c == 40) = true
      · simp only [h1, h2, if_true, Bool.false_eq_true, if_false]
        have := closing_fold_le rest (a - 1); push_cast; omega
      · simp only [h1, h2, Bool.false_eq_true, if_false]
        have := closing_fold_le rest a; push_cast; omega

theorem lkClosing_lt {l : Bytes} {m1 : Nat} (h1 : 1 ≤ m1) (hm : m1 ≤ l.length) (hh : l.head? ≠ some 41) :
    lkClosing l m1 ≤ (m1 : Int) - 1 := by
  unfold lkClosing
  cases l with
  | nil => simp at hm; omega
  | cons c rest =>
    have hc : (c == 41) = false := by
      cases hcc : c == 41 with
      | false => rfl
      | true => exact absurd (by simp at hcc; simp [hcc]) hh
    obtain ⟨k, rfl⟩ : ∃ k, m1 = k + 1 := ⟨m1 - 1, by omega⟩
    simp only [List.take_succ_cons, List.foldl_cons, hc, Bool.false_eq_true, if_false]
    have hl : (rest.take k).length ≤ k := by simp; omega
    by_cases h2 : (c == 40) = true
    · simp only [h2, if_true]
      have := closing_fold_le (rest.take k) (-1 : Int); push_cast; omega
    · simp only [h2, Bool.false_eq_true, if_false]
      have := closing_fold_le (rest.take k) (0 : Int); push_cast; omega

theorem entityWalk_le (l : Bytes) : ∀ n : Nat, lkEntityWalk l n ≤ n
  | 0 => by unfold lkEntityWalk; split <;> simp
  | n + 1 => by
    unfold lkEntityWalk
    split
    · have := entityWalk_le l n; push_cast; omega
    · simp

theorem entityWalk_nonneg (l : Bytes) : ∀ n : Nat, (∃ j, j ≤ n ∧ isAlnum (l.getD j 0) = false) → 0 ≤ lkEntityWalk l n
  | 0, ⟨j, hj, ha⟩ => by
    have : j = 0 := by omega
    subst this
    unfold lkEntityWalk
    rw [ha]; decide
  | n + 1, ⟨j, hj, ha⟩ => by
    unfold lkEntityWalk
    split
    · rename_i hal
      have hne : j ≠ n + 1 := fun e => by subst e; rw [ha] at hal; cases hal
      exact entityWalk_nonneg l n ⟨j, by omega, ha⟩
    · omega

theorem lkURLEnd_dot {l : Bytes} {m1 : Nat} (h : l.getD (m1 - 1) 0 = 46) : lkURLEnd l m1 = .ok (m1 - 1) := by
  unfold lkURLEnd; rw [h]; rfl

theorem lkURLEnd_paren {l : Bytes} {m1 : Nat} (h : l.getD (m1 - 1) 0 = 41) :
    lkURLEnd l m1 = .ok (if lkClosing l m1 > 0 then m1 - (lkClosing l m1).toNat else m1) := by
  unfold lkURLEnd; rw [h]; rfl

theorem lkURLEnd_semi {l : Bytes} {m1 : Nat} (h : l.getD (m1 - 1) 0 = 59) (h2 : 2 ≤ m1) :
    lkURLEnd l m1 =
      if lkEntityWalk l (m1 - 2) == ((m1 - 2 : Nat) : Int) then .ok m1
      else if lkEntityWalk l (m1 - 2) < 0 then .error .index
      else if l.getD (lkEntityWalk l (m1 - 2)).toNat 0 == 38 then .ok (lkEntityWalk l (m1 - 2)).toNat else .ok m1 := by
  unfold lkURLEnd; rw [h]; exact if_neg (Nat.not_lt.mpr h2)

theorem lkURLEnd_other {l : Bytes} {m1 : Nat} (h46 : l.getD (m1 - 1) 0 ≠ 46) (h41 : l.getD (m1 - 1) 0 ≠ 41)
    (h59 : l.getD (m1 - 1) 0 ≠ 59) : lkURLEnd l m1 = .ok m1 := by
  simp only [lkURLEnd, beq_eq_false_iff_ne.mpr h46, beq_eq_false_iff_ne.mpr h41, beq_eq_false_iff_ne.mpr h59,
    Bool.false_eq_true, if_false]

/-- on a URL match the rules answer (no index panic: the walk of the `;` rule stops at the non-alphanumeric byte of the
    protocol at the latest), and the match stays non-empty and inside the match -/
theorem lkURLEnd_ok {l : Bytes} {m1 : Nat} (h2 : 2 ≤ m1) (hm : m1 ≤ l.length)
    (hh : l.head? = some 104 ∨ l.head? = some 102 ∨ l.head? = some 119)
    (hw : ∃ j, j + 2 ≤ m1 ∧ isAlnum (l.getD j 0) = false) : ∃ m', lkURLEnd l m1 = .ok m' ∧ 1 ≤ m' ∧ m' ≤ m1 := by
  by_cases h46 : l.getD (m1 - 1) 0 = 46
  · exact ⟨_, lkURLEnd_dot h46, by omega, by omega⟩
  by_cases h41 : l.getD (m1 - 1) 0 = 41
  · have hne : l.head? ≠ some 41 := by rcases hh with e | e | e <;> rw [e] <;> simp
    have := lkClosing_lt (by omega : 1 ≤ m1) hm hne
    refine ⟨_, lkURLEnd_paren h41, ?_⟩
    split <;> constructor <;> omega
  by_cases h59 : l.getD (m1 - 1) 0 = 59
  · obtain ⟨j, hj, ha⟩ := hw
    have hnn := entityWalk_nonneg l (m1 - 2) ⟨j, by omega, ha⟩
    have hle := entityWalk_le l (m1 - 2)
    rw [lkURLEnd_semi h59 h2]
    by_cases he : (lkEntityWalk l (m1 - 2) == ((m1 - 2 : Nat) : Int)) = true
    · exact ⟨_, if_pos he, by omega, Nat.le_refl _⟩
    rw [if_neg he, if_neg (by omega)]
    by_cases hamp : (l.getD (lkEntityWalk l (m1 - 2)).toNat 0 == 38) = true
    · refine ⟨_, if_pos hamp, ?_, by omega⟩
      -- the walk does not stop at index 0: the line starts with a letter of the protocol, not with `&`
      cases hz : (lkEntityWalk l (m1 - 2)).toNat with
      | zero =>
        exfalso
        rw [hz] at hamp
        cases l with
        | nil => simp at hm; omega
        | cons c rest =>
          simp only [List.getD_cons_zero, beq_iff_eq] at hamp
          subst hamp
          rcases hh with e | e | e <;> simp at e
      | succ k => omega
    · exact ⟨_, if_neg hamp, by omega, Nat.le_refl _⟩
  · exact ⟨_, lkURLEnd_other h46 h41 h59, by omega, Nat.le_refl _⟩

theorem linkifyTrailing_le (l : Bytes) : ∀ n : Nat, GM.Ext.linkifyTrailing l n ≤ n
  | 0 => by simp [GM.Ext.linkifyTrailing]
  | n + 1 => by
    simp only [GM.Ext.linkifyTrailing]
    split
    · have := linkifyTrailing_le l n; omega
    · omega

theorem indexByte_first (c : UInt8) : ∀ (l : Bytes) (k i : Nat), l[i]? = some c →
    ∃ a, GM.Ext.indexByte c l k = some a ∧ a ≤ k + i
  | [], _, i, h => by simp at h
  | d :: rest, k, i, h => by
    simp only [GM.Ext.indexByte]
    by_cases hd : (d == c) = true
    · simp only [hd, if_true]; exact ⟨k, rfl, by omega⟩
    · simp only [hd, Bool.false_eq_true, if_false]
      cases i with
      | zero => simp at h; subst h; simp at hd
      | succ j =>
        obtain ⟨a, h1, h2⟩ := indexByte_first c rest (k + 1) j (by simpa using h)
        exact ⟨a, h1, by omega⟩

theorem lkEmailEnd_none {l : Bytes} (h : lkHeadPunct l = true ∨ findEmailIndex l < 0) : lkEmailEnd l = .ok none := by
  unfold lkEmailEnd
  by_cases hp : lkHeadPunct l = true
  · exact if_pos hp
  · rw [if_neg hp]; exact if_pos (h.resolve_left hp)

/-- behind the guards: `stop` is the index `util.FindEmailIndex` answers, `a` the first `@` -/
theorem lkEmailEnd_at {l : Bytes} {stop a m1 : Nat} (hp : lkHeadPunct l = false) (hs : findEmailIndex l = (stop : Int))
    (ha : GM.Ext.indexByte 64 l 0 = some a) (hle : a ≤ stop - 1)
    (hm : m1 = if l.getD (stop - 1) 0 == 46 then stop - 1 else stop) :
    lkEmailEnd l =
      if (GM.Ext.indexByte 46 ((l.drop a).take (stop - 1 - a)) 0).isNone then .ok none
      else if m1 < l.length && (l.getD m1 0 == 45 || l.getD m1 0 == 95) then .ok none else .ok (some m1) := by
  unfold lkEmailEnd
  rw [if_neg (by simp [hp]), hs, if_neg (by omega), Int.toNat_natCast, ha]
  subst hm
  exact if_neg (by omega)

/-- the e-mail path answers (no slice panic), and a match is non-empty and inside a line that holds '@' -/
theorem lkEmailEnd_ok (l : Bytes) :
    ∃ r, lkEmailEnd l = .ok r ∧ ∀ m1, r = some m1 → 1 ≤ m1 ∧ m1 ≤ l.length ∧ (64 : UInt8) ∈ l := by
  have hnone : ∃ r, Except.ok none = (.ok r : Except Panic (Option Nat)) ∧
      ∀ m1, r = some m1 → 1 ≤ m1 ∧ m1 ≤ l.length ∧ (64 : UInt8) ∈ l :=
    ⟨none, rfl, fun _ h => by cases h⟩
  by_cases hd : lkHeadPunct l = true ∨ findEmailIndex l < 0
  · rw [lkEmailEnd_none hd]; exact hnone
  obtain ⟨stop, hs⟩ := Int.eq_ofNat_of_zero_le (by omega : 0 ≤ findEmailIndex l)
  obtain ⟨i, hi, hst⟩ := findEmailIndex_shape (by omega : 0 ≤ findEmailIndex l)
  have hle := findEmailIndex_le l
  obtain ⟨a, ha, hai⟩ := indexByte_first 64 l 0 i hi
  generalize hm1 : (if l.getD (stop - 1) 0 == 46 then stop - 1 else stop) = m1
  have hb : stop - 1 ≤ m1 ∧ m1 ≤ stop := by subst hm1; split <;> omega
  rw [lkEmailEnd_at (by simpa using fun h => hd (.inl h)) hs ha (by omega) hm1.symm]
  split
  · exact hnone
  · rename_i hdotin
    -- the slice `line[at:stop-1]` holds a '.', so it is not empty
    have hslice : a < stop - 1 := by
      apply Decidable.byContradiction; intro hlt
      rw [show stop - 1 - a = 0 by omega] at hdotin
      simp [GM.Ext.indexByte] at hdotin
    split
    · exact hnone
    · exact ⟨_, rfl, fun _ hm => by cases hm; exact ⟨by omega, by omega, List.mem_of_getElem? hi⟩⟩

/-- the finishing step behind a match `[0, m1)`, `m1 ≥ 1`, of the line behind `k ≤ 1` stripped bytes: the reader moves over
    the stripped byte and the `i` bytes left of the match, the stripped byte is flushed into the children as text -/
theorem linkifyFinish_eq {strip : Bool} {k i m1 : Nat} {ln : Bytes} (hk : k = if strip then 1 else 0)
    (hi : i = linkifyTrailing ln (m1 - 1) + 1) (h1 : 1 ≤ m1) (st : St) (seg : Segment) (proto email : Bool) :
    linkifyFinish st seg strip ln proto email m1 = st.rd.advance ((k + i : Nat) : Int) >>= fun rd' =>
      pure (some (.autoLink email { start := seg.start + k, stop := seg.start + k + i, forceNewline := proto }),
        { st with rd := rd', kids := if k = 0 then st.kids else mergeOrAppend st.kids (seg.withStop (seg.start + 1)) }) := by
  have hm0 : (m1 == 0) = false := by simp; omega
  subst hk hi
  unfold linkifyFinish
  cases strip <;> simp only [hm0, Bool.false_eq_true, if_false, if_true, bind, Except.bind, Nat.zero_add] <;>
    cases st.rd.advance _ <;> simp [pure, Except.pure]

end GM.Proof.Linkify

namespace GM.Proof.ExtShape
open GM GM.Text GM.Inl GM.Ext GM.Proof.Linkify GM.Proof.InlinesReader GM.Proof.InlinesTotal
open GM.Proof.Inlines (Ans)

/-- WHAT AN EXTENSION'S INLINE PARSER `p` ANSWERS, as a function `f` of the state behind a reader `rd0`. Where `skip` holds
    it declines and leaves the state as it is. Else it panics (no line to peek at), or declines behind the reader PeekLine
    leaves, or accepts bytes of the peeked line (`Acc`; no line reads as the empty one, Go's nil slice). -/
def Shape (p : St → PRes) (skip : St → Bool) (Acc : Bytes → Segment → BlockReader → (St → PRes) → Prop)
    (rd0 : BlockReader) : Prop :=
  ∃ f : St → PRes, (∀ st : St, st.rd = rd0 → p st = if skip st then .ok (none, st) else f st) ∧
    ((∃ e, f = (fun _ => .error e) ∧ ∀ line seg rd, rd0.peekLine = .ok ((some line, seg), rd) → line = []) ∨
     ∃ line seg rd, rd0.peekLine = .ok ((line, seg), rd) ∧
       (f = (fun st => .ok (none, { st with rd := rd })) ∨ Acc (line.getD []) seg rd f))

section
variable {p : St → PRes} {skip : St → Bool} {Acc : Bytes → Segment → BlockReader → (St → PRes) → Prop} {rd0 rd : BlockReader}
  {line : Option Bytes} {seg : Segment}

theorem Shape.panics (e : Panic) (h : ∀ st : St, st.rd = rd0 → p st = if skip st then .ok (none, st) else .error e)
    (hno : ∀ line seg rd, rd0.peekLine = .ok ((some line, seg), rd) → line = []) : Shape p skip Acc rd0 :=
  ⟨_, h, .inl ⟨e, rfl, hno⟩⟩

theorem Shape.declines (hp : rd0.peekLine = .ok ((line, seg), rd))
    (h : ∀ st : St, st.rd = rd0 → p st = if skip st then .ok (none, st) else .ok (none, { st with rd := rd })) :
    Shape p skip Acc rd0 :=
  ⟨_, h, .inr ⟨_, _, _, hp, .inl rfl⟩⟩

theorem Shape.accepts {f : St → PRes} (hp : rd0.peekLine = .ok ((line, seg), rd)) (ha : Acc (line.getD []) seg rd f)
    (h : ∀ st : St, st.rd = rd0 → p st = if skip st then .ok (none, st) else f st) : Shape p skip Acc rd0 :=
  ⟨_, h, .inr ⟨_, _, _, hp, .inr ha⟩⟩

/-- every answer of a parser of a known shape satisfies `Q`, if the state as it is, the state behind PeekLine's reader and
    every answer of an accepting `f` do -/
theorem Shape.ans {Q : Option Node × St → Prop} {st : St} (H : Shape p skip Acc st.rd) (h0 : Q (none, st))
    (h : ∀ line seg rd, st.rd.peekLine = .ok ((line, seg), rd) →
      Q (none, { st with rd := rd }) ∧ ∀ f, Acc (line.getD []) seg rd f → Ans (f st) Q) : Ans (p st) Q := by
  obtain ⟨f, hf, hc⟩ := H
  rw [hf st rfl]
  refine Ans.ite (Ans.ok h0) ?_
  rcases hc with ⟨e, rfl, -⟩ | ⟨line, seg, rd, hp, rfl | ha⟩
  · exact Ans.error _
  · exact Ans.ok (h _ _ _ hp).1
  · exact (h _ _ _ hp).2 f ha

end

/-- the parser links, as a function `f` of the state: behind `k ≤ 1` stripped bytes of the peeked `line` (segment `seg`,
    reader `rd`), flushed into the children as text, ONE AutoLink over the next `i ≥ 1` bytes, inside the line, and the reader
    moves behind them; a line it links holds ':', '@' or `www.` -/
def Links (line : Bytes) (seg : Segment) (rd : BlockReader) (f : St → PRes) : Prop :=
  ∃ (k i : Nat) (proto email : Bool), k ≤ 1 ∧ 1 ≤ i ∧ k + i ≤ line.length ∧
    ((58 : UInt8) ∈ line ∨ (64 : UInt8) ∈ line ∨ hasInfix domainWWW line = true) ∧
    f = fun st => rd.advance ((k + i : Nat) : Int) >>= fun rd' =>
      pure (some (.autoLink email { start := seg.start + k, stop := seg.start + k + i, forceNewline := proto }),
        { st with rd := rd', kids := if k = 0 then st.kids else mergeOrAppend st.kids (seg.withStop (seg.start + 1)) })

theorem parseLinkify_shape (env : Env) (rd0 : BlockReader) :
    Shape (parseLinkify env) (fun st => st.kids.any Node.isLabel) Links rd0 := by
  cases hp : rd0.peekLine with
  | error e =>
    refine .panics e (fun st hst => ?_) fun _ _ _ h => by rw [hp] at h; cases h
    subst hst; unfold parseLinkify; rw [hp]; rfl
  | ok v =>
    obtain ⟨⟨line, seg⟩, rd⟩ := v
    cases hl : line.getD [] with
    | nil =>
      refine .panics .index (fun st hst => ?_) fun _ _ _ h => by rw [hp] at h; cases h; exact hl
      subst hst; unfold parseLinkify; simp only [hp, bind, Except.bind, hl]; rfl
    | cons c rest =>
      obtain ⟨k, hk⟩ : ∃ k : Nat, k = if linkifyStrip c then 1 else 0 := ⟨_, rfl⟩
      obtain ⟨ln, hln⟩ : ∃ ln, (if linkifyStrip c then rest else c :: rest) = ln := ⟨_, rfl⟩
      have hdrop : ln = (c :: rest).drop k := by subst hk hln; split <;> rfl
      have hlen : k + ln.length = (c :: rest).length := by subst hk hln; split <;> simp <;> omega
      -- a match `[0, m1)` of `ln`
      have hnode (proto email : Bool) (m1 : Nat) (h1 : 1 ≤ m1) (h2 : m1 ≤ ln.length)
          (hx : (58 : UInt8) ∈ ln ∨ (64 : UInt8) ∈ ln ∨ domainWWW.isPrefixOf ln = true) :
          ∃ f : St → PRes, (∀ st : St, linkifyFinish { st with rd := rd } seg (linkifyStrip c) ln proto email m1 = f st) ∧
            Links (line.getD []) seg rd f := by
        rw [hl]
        refine ⟨_, fun st => linkifyFinish_eq hk rfl h1 { st with rd := rd } seg proto email,
          k, _, proto, email, by subst hk; split <;> omega, by omega,
          by have := linkifyTrailing_le ln (m1 - 1); omega, ?_, rfl⟩
        rw [hdrop] at hx
        refine hx.imp List.mem_of_mem_drop (Or.imp List.mem_of_mem_drop fun hw => ?_)
        cases hi : hasInfix domainWWW (c :: rest) with
        | true => rfl
        | false => rw [no_prefix_of_drop hi k] at hw; cases hw
      obtain ⟨m, hm⟩ : ∃ m, (if (matchURL ln).isSome then matchURL ln
          else if (matchURL ln).isNone && domainWWW.isPrefixOf ln then matchWWW ln else none) = m := ⟨_, rfl⟩
      cases m with
      | some m1 =>
        obtain ⟨b1, b2, b3, b4, b5⟩ := urlOrWWW_bounds hm
        obtain ⟨m', q1, q2, q3⟩ := lkURLEnd_ok b1 b2 b3 b4
        obtain ⟨f, hf, hc⟩ := hnode ((matchURL ln).isNone && domainWWW.isPrefixOf ln) false m' q2 (by omega)
          (b5.imp_right .inr)
        refine .accepts hp hc fun st hst => ?_
        subst hst; unfold parseLinkify
        simp only [hp, bind, Except.bind, hl, hln, hm, q1, hf]
      | none =>
        obtain ⟨r, r1, r2⟩ := lkEmailEnd_ok ln
        cases r with
        | none =>
          refine .declines hp fun st hst => ?_
          subst hst; unfold parseLinkify
          simp only [hp, bind, Except.bind, hl, hln, hm, r1]; rfl
        | some m1 =>
          obtain ⟨f, hf, hc⟩ := hnode ((matchURL ln).isNone && domainWWW.isPrefixOf ln) true m1 (r2 m1 rfl).1
            (r2 m1 rfl).2.1 (.inr (.inl (r2 m1 rfl).2.2))
          refine .accepts hp hc fun st hst => ?_
          subst hst; unfold parseLinkify
          simp only [hp, bind, Except.bind, hl, hln, hm, r1, hf]

theorem scanDelimiterP_ok (isD : UInt8 → Bool) (env : Env) (b : UInt8) (l : Bytes) (before : Nat) :
    ∃ d, scanDelimiterP isD env (b :: l) before = .ok d ∧
      ∀ dd, d = some dd → 1 ≤ dd.length ∧ dd.origLength = dd.length ∧ dd.length ≤ (b :: l).length := by
  unfold scanDelimiterP
  simp only
  split
  · exact ⟨none, rfl, by simp⟩
  · refine ⟨_, rfl, ?_⟩
    intro dd hd
    simp at hd; subst hd
    have := takeWhile_len_le (· == b) l
    refine ⟨?_, ?_, ?_⟩ <;> simp only [List.length_cons] <;> omega

/-- the parser pushes, as a function `f` of the state: ONE delimiter `d` over the next `d.length ≥ 1` bytes of the peeked
    `line` (segment `seg`, reader `rd`), under the state's next id, and the reader moves behind them -/
def Pushes (line : Bytes) (seg : Segment) (rd : BlockReader) (f : St → PRes) : Prop :=
  ∃ d : Delim, 1 ≤ d.length ∧ d.origLength = d.length ∧ d.length ≤ line.length ∧
    f = fun st => rd.advance d.origLength >>= fun rd' =>
      pure (some (.delim st.nextId { d with seg := seg.withStop (seg.start + d.origLength) }),
        { st with rd := rd', nextId := st.nextId + 1 })

theorem parseStrike_shape (env : Env) (rd0 : BlockReader) : Shape (parseStrike env) (fun _ => false) Pushes rd0 := by
  obtain ⟨before, hb⟩ := precendingCharacter_ok rd0
  cases hp : rd0.peekLine with
  | error e =>
    refine .panics e (fun st hst => ?_) fun _ _ _ h => by rw [hp] at h; cases h
    subst hst; unfold parseStrike; rw [hb, hp]; rfl
  | ok v =>
    obtain ⟨⟨line, seg⟩, rd⟩ := v
    cases hl : line.getD [] with
    | nil =>
      refine .panics .index (fun st hst => ?_) fun _ _ _ h => by rw [hp] at h; cases h; exact hl
      subst hst; unfold parseStrike; simp only [hb, hp, bind, Except.bind, hl]; rfl
    | cons c rest =>
      obtain ⟨d, hd, hdd⟩ := scanDelimiterP_ok isStrikeDelim env c rest before
      cases d with
      | none =>
        refine .declines hp fun st hst => ?_
        subst hst; unfold parseStrike; simp only [hb, hp, bind, Except.bind, hl, hd]; rfl
      | some dd =>
        by_cases hc : (dd.origLength > 2 || before == 126) = true
        · refine .declines hp fun st hst => ?_
          subst hst; unfold parseStrike; simp only [hb, hp, bind, Except.bind, hl, hd, hc, if_true]; rfl
        · obtain ⟨d1, d2, d3⟩ := hdd dd rfl
          refine .accepts hp ⟨dd, d1, d2, hl ▸ d3, rfl⟩ fun st hst => ?_
          subst hst; unfold parseStrike; simp only [hb, hp, bind, Except.bind, hl, hd, hc]; rfl

/-- the parser checks, as a function `f` of the state: ONE checkbox over the next `n ≥ 3` bytes of the peeked `line` (reader
    `rd`), and the reader moves behind them -/
def Checks (line : Bytes) (_seg : Segment) (rd : BlockReader) (f : St → PRes) : Prop :=
  ∃ (n : Nat) (b : Bool), 3 ≤ n ∧ n ≤ line.length ∧
    f = fun st => rd.advance (n : Int) >>= fun rd' => pure (some (taskNode b), { st with rd := rd' })

theorem parseTask_shape (inItem : Bool) (env : Env) (rd0 : BlockReader) :
    Shape (parseTask inItem env) (fun st => !inItem || !st.kids.isEmpty) Checks rd0 := by
  have hskip (st : St) (y : PRes) : (if !inItem then .ok (none, st) else if !st.kids.isEmpty then .ok (none, st) else y) =
      if (!inItem || !st.kids.isEmpty) then .ok (none, st) else y := by
    cases inItem <;> cases st.kids.isEmpty <;> rfl
  cases hp : rd0.peekLine with
  | error e =>
    refine .panics e (fun st hst => ?_) fun _ _ _ h => by rw [hp] at h; cases h
    subst hst; unfold parseTask; rw [hp]; exact hskip st _
  | ok v =>
    obtain ⟨⟨line, seg⟩, rd⟩ := v
    by_cases hm : ∃ v rest, line.getD [] = 91 :: v :: 93 :: rest ∧ (reSpace v || v == 120 || v == 88) = true
    · obtain ⟨v, rest, hl, hc⟩ := hm
      refine .accepts hp ⟨3 + (rest.takeWhile reSpace).length, v == 120 || v == 88, by omega, ?_, rfl⟩ fun st hst => ?_
      · rw [hl]; have := takeWhile_len_le reSpace rest; simp only [List.length_cons]; omega
      · subst hst; unfold parseTask; rw [hskip, hp]; simp only [bind, Except.bind, hl, hc, if_true]
    · refine .declines hp fun st hst => ?_
      subst hst; unfold parseTask; rw [hskip, hp]
      refine congrArg _ ?_
      simp only [bind, Except.bind]
      split
      · split
        · exact absurd ⟨_, _, ‹_›, ‹_›⟩ hm
        · rfl
      · rfl

end GM.Proof.ExtShape
