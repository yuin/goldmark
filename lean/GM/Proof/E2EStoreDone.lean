/-
  GM.Proof.E2EStoreDone — The named hypotheses of GM.Proof.E2EValue / GM.Proof.E2EAstStore that are theorems: `InlineSegsUnpadded` (the padding relation through `parseBlock`)
  and the info / closure segments (GM.Proof.E2EXSegs). What is left: `Err.value p` of `convertCore` needs the lines of raw blocks in range, C05 over
  `parseAst` the four store hypotheses `StoreHypsCore`.
-/
import GM.Proof.E2EPadLoop
import GM.Proof.E2EAstStore
import GM.Proof.InlinesLink
import GM.Proof.E2EXSegs

section E2EInlineDone
/-
  `InlineSegsUnpadded` (the hypothesis of GM.Proof.E2EValue / E2EAstStore about the inline phase) is a
  THEOREM: the padding relation of GM.Proof.E2EPad* carried through `parseBlock`. Consequences: `Err.value p` of `convertCore`
  only needs the block-store half (`RawSegsInRange`); the inline children of every block resolve to bytes.
-/

namespace GM.E2E
open GM GM.Text GM.Convert GM.Spec GM.Inl GM.Proof.InlinesTotal GM.Proof.InlinesReader

theorem inlineSegsUnpadded : InlineSegsUnpadded := by
  intro env src lines kids hw hk s hs
  rw [GM.E2E.Pad.parseBlock_unpadded env src lines hw.2 kids hk s hs]
  exact Int.le_refl _

/-- behind `convertCore`'s `WF0` check the inline children of EVERY block resolve to bytes: no `Segment.Value` panic
    from an inline node -/
theorem inlinePhase_values_total {env : Env} {src : Bytes} {n : GM.Blocks.Node} {kids : List Inl.Node}
    (h : inlinePhase true env src n = .ok kids) : ∃ ts, inlineTrees src kids = .ok ts :=
  inlinePhase_values inlineSegsUnpadded h

theorem convertCore_noValue_of_raw (uc : List (Nat × (Bool × Bool))) (o : ROpts) (src : Bytes)
    (hB : ∀ st, blockPhase true src = .ok st → RawSegsInRange src st) (p : Panic) :
    convertCore uc o src ≠ .error (.value p) :=
  convertCore_noValue inlineSegsUnpadded uc o src hB p

theorem loOf_segOf (segs : List Segment) : loOf segs = (BCur.segOf segs 0).start := by
  cases segs with
  | nil => rfl
  | cons a r => simp [loOf, BCur.segOf]

/-- the segments the inline phase records do not start before the block's first line:
    `GM.Proof.InlinesLink.parseBlock_segments_lo`, the segment theorem of the inline phase with the start of the first line as
    the lower bound of the loop invariant's chain -/
theorem inlineSegsAfterLineStart : InlineSegsAfterLineStart := by
  intro env src lines kids hw hk s hs
  have hc := GM.Proof.InlinesLink.parseBlock_segments_lo hw.1 hw.2 env hk
  rw [loOf_segOf]
  exact (chain_mem hc s hs).1

/-- C05 end to end with BOTH inline hypotheses discharged -/
theorem parseAst_wfAst_store (uc : List (Nat × (Bool × Bool)))
    (src : Bytes) (a : ATree) (h : parseAst true uc src = .ok a)
    (hS : ∀ st, blockPhase true src = .ok st → StoreHyps src st) : wfAst src.length (dumpAst a) = none :=
  parseAst_wfAst inlineSegsUnpadded inlineSegsAfterLineStart uc src a h hS

/-- C05 end to end with the inline padding hypothesis discharged -/
theorem parseAst_wfAst' (hI2 : InlineSegsAfterLineStart) (uc : List (Nat × (Bool × Bool)))
    (src : Bytes) (a : ATree) (h : parseAst true uc src = .ok a)
    (hS : ∀ st, blockPhase true src = .ok st → StoreHyps src st) : wfAst src.length (dumpAst a) = none :=
  parseAst_wfAst inlineSegsUnpadded hI2 uc src a h hS

end GM.E2E
end E2EInlineDone

section E2EStoreDone
/-
  The info / closure hypotheses are theorems (GM.Proof.E2EXSegs), so
  * `Err.value p` of `convertCore` only needs "the LINES of raw blocks are in range" (`NodesOK` shape), and
  * C05 over `parseAst` only needs the four store hypotheses `StoreHypsCore` (lines in range, lines ordered, Document / List
    without lines, ListItem ⇔ List).
-/

namespace GM.E2E
open GM GM.Text GM.Convert GM.Spec

theorem blockPhase_xsegs (guard : Bool) (src : Bytes) (st : GM.Blocks.St) (h : blockPhase guard src = .ok st) :
    ∀ n ∈ st.nodes, XP src n :=
  runT_xsegs src (paragraphTransformers_keep guard) st h

theorem rawSegs_of_lines (guard : Bool) (src : Bytes) (st : GM.Blocks.St) (h : blockPhase guard src = .ok st)
    (hl : ∀ n ∈ st.nodes, isRawKind n.kind = true → ∀ t ∈ n.lines, segInRange src t) : RawSegsInRange src st :=
  fun n hn => ⟨hl n hn, (blockPhase_xsegs guard src st h n hn).info, (blockPhase_xsegs guard src st h n hn).closure⟩

theorem convertCore_noValue_of_lines (uc : List (Nat × (Bool × Bool))) (o : ROpts) (src : Bytes)
    (hB : ∀ st, blockPhase true src = .ok st →
      ∀ n ∈ st.nodes, isRawKind n.kind = true → ∀ t ∈ n.lines, segInRange src t) (p : Panic) :
    convertCore uc o src ≠ .error (.value p) :=
  convertCore_noValue_of_raw uc o src (fun st hst => rawSegs_of_lines true src st hst (hB st hst)) p

/-- the store hypotheses that remain for C05 -/
structure StoreHypsCore (src : Bytes) (st : GM.Blocks.St) : Prop where
  /-- `LinesInRange`: C05(c) range clause (shape of `GM.Blocks.NodesOK` / `GM.Props.Blocks.lines_in_range`) -/
  lines : ∀ n ∈ st.nodes, ∀ t ∈ n.lines, 0 ≤ t.start ∧ t.start ≤ t.stop ∧ t.stop ≤ src.length ∧ 0 ≤ t.padding
  /-- `LinesOrdered`: a block's lines increase (shape of `GM.Blocks.OrdFrom 0`) -/
  ord : ∀ n ∈ st.nodes, ordFrom 0 n.lines
  /-- `ContainersHaveNoLines`: the Document and List nodes never receive a line -/
  noLines : ∀ n ∈ st.nodes, (n.kind = .document ∨ n.kind = .list) → n.lines = []
  /-- `ListShape`: a child is a ListItem exactly when its parent is a List (one direction is `GM.Blocks.KidsOK.kids`) -/
  listShape : ∀ i, ∀ c ∈ (st.nodes.getD i default).children,
    ((st.nodes.getD c default).kind = .listItem ↔ (st.nodes.getD i default).kind = .list)

theorem storeHyps_of_core (guard : Bool) (src : Bytes) (st : GM.Blocks.St) (h : blockPhase guard src = .ok st)
    (hc : StoreHypsCore src st) : StoreHyps src st where
  lines := hc.lines
  info := fun n hn => (blockPhase_xsegs guard src st h n hn).info
  closure := fun n hn => (blockPhase_xsegs guard src st h n hn).closure
  ord := hc.ord
  noLines := hc.noLines
  listShape := hc.listShape

/-- C05 end to end from the four store hypotheses -/
theorem parseAst_wfAst_core (uc : List (Nat × (Bool × Bool))) (src : Bytes) (a : ATree)
    (h : parseAst true uc src = .ok a) (hS : ∀ st, blockPhase true src = .ok st → StoreHypsCore src st) :
    wfAst src.length (dumpAst a) = none :=
  parseAst_wfAst_store uc src a h (fun st hst => storeHyps_of_core true src st hst (hS st hst))

end GM.E2E
end E2EStoreDone
