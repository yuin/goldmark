/-
  GM.Proof.BlocksTNPWin — the window of one `openBlocksC` call for the driver with paragraph transformers: `Win` / `WinL` on the weak key invariant `KeysOKF`, what one `Open` does to it
  (`open_none`, `open_some`), and `Close` with a parameter `cls` under the store invariant `CInv` of the no-panic walk (`closeG`, `CRel`).
-/
import GM.Proof.BlocksTNPTree
import GM.Proof.BlocksStep
import GM.Proof.BlocksTNPKeysF

section BlocksTNPWin
/-
  The general no-panic proof of the block driver WITH paragraph transformers (setext / RequireParagraph
  path included), part 1: the window invariants of GM.Proof.BlocksDriver / BlocksDriverLInv re-instantiated on the WEAK key
  invariant (`W.KeysOKF`: fence half only, GM.Proof.BlocksTNPKeysF — after `.retryTransformed` temporaryParagraphKey is stale)
  and extended by `TreeOK` (GM.Proof.BlocksTNPTree). `TmpOK s`: the key, when set, points to a paragraph with lines; it is
  required only while a setext heading block is open (`TL`). Namespace `GM.Blocks.L.G`; what does not mention `KeysOK` is
  reused from `GM.Blocks.L` / `GM.Blocks`.
-/

theorem GM.Blocks.W.KeysOKF.ext {s s' : GM.Blocks.St} (h : GM.Blocks.W.KeysOKF s) (e : GM.Blocks.Ext s s')
    (_ht : s'.pc.tmpPara = s.pc.tmpPara ∨ s'.pc.tmpPara = none)
    (hf : s'.pc.fence = s.pc.fence ∨ s'.pc.fence = none) : GM.Blocks.W.KeysOKF s' where
  fence := by
    intro f hff
    rcases hf with hf | hf
    · rw [hf] at hff
      obtain ⟨a, b, c⟩ := h.fence f hff
      exact ⟨a, b, Nat.lt_of_lt_of_le c e.len⟩
    · rw [hf] at hff; cases hff

namespace GM.Blocks.L.G
open GM GM.Text GM.Spec GM.Proof.Reader GM.Blocks.T GM.Blocks.TR

/-- temporaryParagraphKey, when set, points to a paragraph that has lines -/
def TmpOK (s : St) : Prop :=
  ∀ t, s.pc.tmpPara = some t → t < s.nodes.length ∧ (nd s t).kind = .paragraph ∧ (nd s t).lines ≠ []

/-- the key is live while a setext heading block is open -/
def TL (s : St) : Prop := (∃ b ∈ s.pc.opened, b.bp = .setext) → TmpOK s

theorem TmpOK.ext {s s' : St} (h : TmpOK s) (e : Ext s s') (ht : s'.pc.tmpPara = s.pc.tmpPara) : TmpOK s' := by
  intro t htt
  rw [ht] at htt
  obtain ⟨a, b, c⟩ := h t htt
  exact ⟨Nat.lt_of_lt_of_le a e.len, by rw [e.kind t a]; exact b, e.linesNE t a (by rw [b]; simp) c⟩

theorem TL.ext {s s' : St} (h : TL s) (e : Ext s s') (ht : s'.pc.tmpPara = s.pc.tmpPara)
    (ho : ∀ b ∈ s'.pc.opened, b.bp = .setext → ∃ b' ∈ s.pc.opened, b'.bp = .setext) : TL s' := by
  intro ⟨b, hb, hs⟩
  exact (h (ho b hb hs)).ext e ht

theorem KeysOK.ofF {s : St} (h : W.KeysOKF s) (ht : TmpOK s) : KeysOK s := ⟨ht, h.fence⟩

variable {src : Bytes}

/-! ### a new node has no children (every `Open`) -/

/-- nodes with index ≥ `N` have no children -/
def KQ (N : Nat) (s : St) : Prop := ∀ j, N ≤ j → (nd s j).children = []

structure KN {α : Type} (N : Nat) (m : M α) : Prop where
  h : ∀ s a s', m s = .ok (a, s') → KQ N s → KQ N s'

theorem get_kn {N} : KN N (get : M St) := ⟨fun _ _ _ h hq => by cases h; exact hq⟩
theorem advanceLine_kn {N} : KN N advanceLine := ⟨fun _ _ _ h hq => by cases h; exact hq⟩

/-- a write keeps the child list and a pushed node has none -/
theorem KQ.step {N : Nat} {Kw : Prop} {W : Nat → Prop} {s s' : St} (h : Step Kw W s s') : KQ N s → KQ N s' := by
  induction h with
  | refl s => exact id
  | trans _ _ ih1 ih2 => exact fun hq => ih2 (ih1 hq)
  | rd s r' _ _ => exact id
  | key s pc' _ _ => exact id
  | write s id v _ hv =>
    intro hq j hj
    show (nd (upd s id fun _ => v) j).children = []
    rw [nd_upd]; split
    · rename_i e; obtain ⟨rfl, _⟩ := e; rw [hv.links.2.1]; exact hq _ hj
    · exact hq j hj
  | push s n _ hc =>
    intro hq j hj
    rw [fr_nd_append s n s.r s.pc]
    split
    · exact hq j hj
    · split
      · exact hc
      · rfl

theorem bpOpen_new_kids (bp : BP) (parent : Nat) (s : St) (a : Option Nat × PState) (s' : St)
    (h : bpOpen bp parent s = .ok (a, s')) : ∀ j, s.nodes.length ≤ j → (nd s' j).children = [] :=
  KQ.step (N := s.nodes.length) (bpOpen_step h).1 (fun j hj => by rw [nd_default_of_ge s hj]; rfl)

structure Win (src : Bytes) (A : BP → Prop) (old : List Block) (s0 s : St) (new : List Block) : Prop where
  nodes : NodesOK src s
  keys : W.KeysOKF s
  ext : ExtW s0 s
  shape : s.pc.opened = old ++ new ∨ (old ≠ [] ∧ s.pc.opened = old.dropLast ++ new)
  blocks : ∀ b ∈ s.pc.opened, BlockOK s b ∧ A b.bp
  oldlt : ∀ b ∈ old, b.node < s0.nodes.length
  leafyOld : Leafy old
  fresh : ∀ b ∈ new, s0.nodes.length ≤ b.node
  lastParent : ∀ lb, new.getLast? = some lb → (nd s lb.node).parent.isSome = true

structure Mid (src : Bytes) (A : BP → Prop) (old : List Block) (s0 : St) (id : Nat) (bp : BP) (s : St)
    (new : List Block) : Prop where
  nodes : NodesOK src s
  keys : W.KeysOKF s
  ext : ExtW s0 s
  shape : s.pc.opened = old ++ new ∨ (old ≠ [] ∧ s.pc.opened = old.dropLast ++ new)
  blocks : ∀ b ∈ s.pc.opened, BlockOK s b ∧ A b.bp
  nb : BlockOK s ⟨id, bp⟩
  abp : A bp
  idge : s0.nodes.length ≤ id
  fenceNew : bp = .fenced → ∃ f, s.pc.fence = some f ∧ f.node = id
  setextOld : bp = .setext → ∀ b ∈ old, b.bp ≠ .setext
  tmpS : bp = .setext → TmpOK s

theorem open_none {src A old s0 bp parent s c st s1 new} (hO : OpenPost src bp parent s c (none, st) s1)
    (hc : LineCtx src s c) (hw : Win src A old s0 s new) :
    LineCtx src s1 c ∧ Win src A old s0 s1 new ∧ s1.pc.opened = s.pc.opened := by
  obtain ⟨c', hri, hpad, _, hcc, _⟩ := hO.ri
  have hcc := hcc rfl
  subst hcc
  have hn := hO.noNode rfl
  have htmp : s1.pc.tmpPara = s.pc.tmpPara := by
    rcases hO.tmp with ⟨_, h, _⟩ | ⟨_, h⟩
    · cases h
    · exact h
  have hfen : s1.pc.fence = s.pc.fence := by
    rcases hO.fence with ⟨_, _, _, h, _⟩ | ⟨_, h⟩
    · cases h
    · exact h
  have hext : Ext s s1 := Ext.of_nodes_eq hn
  have hnodes : NodesOK src s1 := fun n hm => hw.nodes n (by rw [← hn]; exact hm)
  refine ⟨⟨hri, hc.lt, hpad, by rw [hO.boff]; exact hc.off, hnodes⟩, ?_, hO.opened⟩
  refine ⟨hnodes, hw.keys.ext hext (.inl htmp) (.inl hfen), hw.ext.trans (ExtW.of_ext hext), by rw [hO.opened]; exact hw.shape, ?_,
    hw.oldlt, hw.leafyOld, hw.fresh, ?_⟩
  · intro b hb
    rw [hO.opened] at hb
    have := hw.blocks b hb
    exact ⟨this.1.ext hext (fun hp => by rw [htmp]; exact (this.1.setext hp).2) (fun hp => by rw [hfen]; exact this.1.fenced hp), this.2⟩
  · intro lb hlb
    have := hw.lastParent lb hlb
    simpa only [nd, hn] using this

theorem open_some {src A old s0 bp parent s c st s1 new id} (hO : OpenPost src bp parent s c (some id, st) s1)
    (hw : Win src A old s0 s new) (hallc : ∀ b ∈ new, b.bp.isContainer = true) (habp : A bp) :
    Mid src A old s0 id bp s1 new ∧ id = s.nodes.length ∧ s1.pc.opened = s.pc.opened ∧
    (∀ j, j < s.nodes.length → nd s1 j = nd s j) ∧ (nd s1 id).parent = none ∧ s1.nodes.length = s.nodes.length + 1 ∧
    (st.requirePara = true → ∃ lb, s.pc.opened.getLast? = some lb ∧ (nd s lb.node).parent = some parent ∧
        lb.bp = .paragraph ∧ new = [] ∧ s.pc.opened = old) := by
  obtain ⟨hid, n, hn, hkind, hnok, hpar, hpl, hsl⟩ := hO.newNode id rfl
  have hext : Ext s s1 := Ext.of_append hn
  have hnd : ∀ j, j < s.nodes.length → nd s1 j = nd s j := fun j hj => nd_of_append_lt hn hj
  have hndid : nd s1 id = n := by
    rw [hid]; simp only [nd, hn]; exact getD_length_append _ _ _
  have hlen : s1.nodes.length = s.nodes.length + 1 := by rw [hn]; simp
  have hnodes : NodesOK src s1 := hw.nodes.of_append hn hnok
  -- the last opened block, when the setext parser answered
  have hsetext : bp = .setext → ∃ lb, s.pc.opened.getLast? = some lb ∧ (nd s lb.node).kind = .paragraph ∧
      (nd s lb.node).parent = some parent ∧ s1.pc.tmpPara = some lb.node ∧ lb.bp = .paragraph ∧ new = [] ∧ s.pc.opened = old := by
    intro hbp
    rcases hO.tmp with ⟨_, _, lb, h1, h2, h3, h4⟩ | ⟨h, _⟩
    · have hmem : lb ∈ s.pc.opened := List.mem_of_getLast? h1
      have hk := (hw.blocks lb hmem).1.kind
      rw [h2] at hk
      have hlbp := kind_paragraph hk.symm
      have hnew : new = [] := by
        cases hne : new.getLast? with
        | none => exact List.getLast?_eq_none_iff.1 hne
        | some x =>
          exfalso
          have hx : x ∈ new := List.mem_of_getLast? hne
          have : s.pc.opened.getLast? = some x := by
            rcases hw.shape with h | ⟨_, h⟩ <;> rw [h, List.getLast?_append, hne] <;> rfl
          rw [h1] at this; cases this
          have := hallc lb hx
          rw [hlbp] at this; cases this
      have hop : s.pc.opened = old := by
        rcases hw.shape with h | ⟨_, h⟩
        · rw [h, hnew, List.append_nil]
        · exfalso
          rw [h, hnew, List.append_nil] at hmem
          have := hw.leafyOld lb hmem
          rw [hlbp] at this; cases this
      exact ⟨lb, h1, h2, h3, h4, hlbp, hnew, hop⟩
    · rcases h with h | h
      · exact absurd hbp h
      · cases h
  have htmpS : bp = .setext → s1.pc.tmpPara.isSome = true := fun hbp => by
    obtain ⟨lb, _, _, _, h4, _⟩ := hsetext hbp; rw [h4]; rfl
  have htmpO : bp ≠ .setext → s1.pc.tmpPara = s.pc.tmpPara := fun hbp => by
    rcases hO.tmp with ⟨h, _⟩ | ⟨_, h⟩
    · exact absurd h hbp
    · exact h
  have hfenS : bp = .fenced → ∃ f, s1.pc.fence = some f ∧ f.node = id ∧ 3 ≤ f.length ∧ 0 ≤ f.indent := fun hbp => by
    rcases hO.fence with ⟨_, id', f, h1, h2, h3, h4⟩ | ⟨h, _⟩
    · cases h1; exact ⟨f, h2, h3, h4⟩
    · rcases h with h | h
      · exact absurd hbp h
      · cases h
  have hfenO : bp ≠ .fenced → s1.pc.fence = s.pc.fence := fun hbp => by
    rcases hO.fence with ⟨h, _⟩ | ⟨_, h⟩
    · exact absurd h hbp
    · exact h
  have hkeys : W.KeysOKF s1 := by
    constructor
    intro f hf
    by_cases hbp : bp = .fenced
    · obtain ⟨f', h1, h2, h3, h4⟩ := hfenS hbp
      rw [h1] at hf; cases hf
      exact ⟨h3, h4, by rw [h2, hlen, hid]; exact Nat.lt_succ_self _⟩
    · rw [hfenO hbp] at hf
      obtain ⟨a, b, c⟩ := hw.keys.fence f hf
      exact ⟨a, b, by rw [hlen]; exact Nat.lt_succ_of_lt c⟩
  have htmpOK : bp = .setext → TmpOK s1 := by
    intro hbp t ht
    obtain ⟨lb, h1, h2, _, h4, h5, _⟩ := hsetext hbp
    rw [h4] at ht; cases ht
    have hmem : lb ∈ s.pc.opened := List.mem_of_getLast? h1
    have hb := (hw.blocks lb hmem).1
    exact ⟨by rw [hlen]; exact Nat.lt_succ_of_lt hb.lt, by rw [hnd _ hb.lt]; exact h2, by rw [hnd _ hb.lt]; exact hb.para h5⟩
  have hblocks : ∀ b ∈ s1.pc.opened, BlockOK s1 b ∧ A b.bp := by
    intro b hb
    rw [hO.opened] at hb
    have := hw.blocks b hb
    refine ⟨this.1.ext hext ?_ ?_, this.2⟩
    · intro hp
      by_cases hbp : bp = .setext
      · exact htmpS hbp
      · rw [htmpO hbp]; exact (this.1.setext hp).2
    · intro hp
      by_cases hbp : bp = .fenced
      · obtain ⟨f, h1, _⟩ := hfenS hbp; rw [h1]; rfl
      · rw [hfenO hbp]; exact this.1.fenced hp
  have hnb : BlockOK s1 ⟨id, bp⟩ := by
    refine ⟨by simp only; rw [hlen, hid]; exact Nat.lt_succ_self _, by simp only; rw [hndid]; exact hkind, ?_, ?_, ?_⟩
    · intro hp; simp only at hp ⊢; rw [hndid]; exact hpl hp
    · intro hp; simp only at hp ⊢; rw [hndid]; exact ⟨hsl hp, htmpS hp⟩
    · intro hp; simp only at hp ⊢; obtain ⟨f, h1, _⟩ := hfenS hp; rw [h1]; rfl
  refine ⟨⟨hnodes, hkeys, hw.ext.trans (ExtW.of_ext hext), ?_, hblocks, hnb, habp, ?_, ?_, ?_, htmpOK⟩, hid, hO.opened, hnd, by rw [hndid]; exact hpar, hlen, ?_⟩
  · rw [hO.opened]
    rcases hw.shape with h | ⟨h1, h2⟩
    · exact .inl h
    · exact .inr ⟨h1, h2⟩
  · rw [hid]; exact hw.ext.len
  · intro hp; obtain ⟨f, h1, h2, _⟩ := hfenS hp; exact ⟨f, h1, h2⟩
  · intro hp b hb
    obtain ⟨lb, h1, _, _, _, h5, _, h7⟩ := hsetext hp
    rcases mem_dropLast_or_last old b hb with h | h
    · intro hh; have := hw.leafyOld b h; rw [hh] at this; cases this
    · rw [h7] at h1; rw [h1] at h; cases h; rw [h5]; simp
  · intro hr
    obtain ⟨hbp, _⟩ := hO.req hr
    obtain ⟨lb, h1, _, h3, _, h5, h6, h7⟩ := hsetext hbp
    exact ⟨lb, h1, h3, h5, h6, h7⟩

structure WinL (src : Bytes) (old pre : List Block) (root : Nat) (s0 s : St) (new : List Block) : Prop where
  nodes : NodesOK src s
  keys : W.KeysOKF s
  ext : ExtW s0 s
  shape : s.pc.opened = old ++ new ∨ (old ≠ [] ∧ s.pc.opened = old.dropLast ++ new)
  blocks : ∀ b ∈ s.pc.opened, BlockOK s b
  oldlt : ∀ b ∈ old, b.node < s0.nodes.length
  leafyOld : Leafy old
  fresh : ∀ b ∈ new, s0.nodes.length ≤ b.node
  ls : LStore s root
  chain : ChainedO s root (pre ++ new)
  stack : ∃ suf, s.pc.opened = pre ++ suf ++ new
  tsame : new = [] → s.pc.opened = old → TreeSame s0 s
  tree : TreeOK s
  tmplt : ∀ t, s.pc.tmpPara = some t → t < s0.nodes.length

structure MidL (src : Bytes) (old pre : List Block) (root : Nat) (s0 : St) (id : Nat) (bp : BP) (s : St)
    (new : List Block) : Prop where
  nodes : NodesOK src s
  keys : W.KeysOKF s
  ext : ExtW s0 s
  shape : s.pc.opened = old ++ new ∨ (old ≠ [] ∧ s.pc.opened = old.dropLast ++ new)
  blocks : ∀ b ∈ s.pc.opened, BlockOK s b
  nb : BlockOK s ⟨id, bp⟩
  idge : s0.nodes.length ≤ id
  fenceNew : bp = .fenced → ∃ f, s.pc.fence = some f ∧ f.node = id
  setextOld : bp = .setext → ∀ b ∈ old, b.bp ≠ .setext
  -- list part
  ls : LStore s root
  chain : ChainedO s root (pre ++ new)
  stack : ∃ suf, s.pc.opened = pre ++ suf ++ new
  idgt : ∀ b ∈ s.pc.opened, b.node < id
  rootid : root < id
  idpar : (nd s id).parent = none
  idkids : bp = .list → (nd s id).children = []
  idoff : bp = .listItem → 0 ≤ (nd s id).offset
  nopt : ∀ i, (nd s i).parent ≠ some id          -- nobody points to the new node yet
  tree : TreeOK s
  tmpS : bp = .setext → TmpOK s
  tmplt : ∀ t, s.pc.tmpPara = some t → t < s0.nodes.length

theorem WinL.toWin {src old pre root s0 s new} (h : WinL src old pre root s0 s new)
    (hallc : ∀ b ∈ new, b.bp.isContainer = true) : Win src (fun _ => True) old s0 s new where
  nodes := h.nodes
  keys := h.keys
  ext := h.ext
  shape := h.shape
  blocks := fun b hb => ⟨h.blocks b hb, trivial⟩
  oldlt := h.oldlt
  leafyOld := h.leafyOld
  fresh := h.fresh
  lastParent := fun lb hlb => by
    have hm : lb ∈ new := List.mem_of_getLast? hlb
    refine h.ls.attached lb ?_ (hallc lb hm)
    rcases h.shape with e | ⟨_, e⟩ <;> rw [e] <;> exact List.mem_append_right _ hm

theorem open_noneL {src old pre root s0 bp parent s c st s1 new} (hO : OpenPostW src bp parent s c (none, st) s1)
    (hc : LineCtx src s c) (hw : WinL src old pre root s0 s new) (hallc : ∀ b ∈ new, b.bp.isContainer = true) :
    LineCtx src s1 c ∧ WinL src old pre root s0 s1 new ∧ s1.pc.opened = s.pc.opened ∧ s1.nodes = s.nodes := by
  obtain ⟨hc1, hw1, ho⟩ := open_none (openPostW_toPost hO) hc (hw.toWin hallc)
  have hn := hO.noNode rfl
  exact ⟨hc1, ⟨hw1.nodes, hw1.keys, hw1.ext, hw1.shape, fun b hb => (hw1.blocks b hb).1, hw1.oldlt, hw1.leafyOld, hw1.fresh,
    hw.ls.congr hn ho, chainedO_congr hn _ _ hw.chain, by rw [ho]; exact hw.stack,
    fun h ho' => (hw.tsame h (by rw [← ho]; exact ho')).trans (TreeSame.of_nodes_eq hn),
    treeOK_tinv.ts (TreeSame.of_nodes_eq hn) hw.tree,
    fun t ht => hw.tmplt t (by
      rcases hO.tmp with ⟨_, h2, _⟩ | ⟨_, h⟩
      · cases h2
      · rw [← h]; exact ht)⟩, ho, hn⟩

theorem open_someL {src old pre root s0 bp parent s c st s1 new id} (hO : OpenPostW src bp parent s c (some id, st) s1)
    (hw : WinL src old pre root s0 s new) (hallc : ∀ b ∈ new, b.bp.isContainer = true)
    (hkn : ∀ j, s.nodes.length ≤ j → (nd s1 j).children = []) :
    MidL src old pre root s0 id bp s1 new ∧ id = s.nodes.length ∧ s1.pc.opened = s.pc.opened ∧
    (∀ j, j < s.nodes.length → nd s1 j = nd s j) ∧ s1.nodes.length = s.nodes.length + 1 ∧
    (st.requirePara = true → ∃ lb, s.pc.opened.getLast? = some lb ∧ (nd s lb.node).parent = some parent ∧
        lb.bp = .paragraph ∧ new = [] ∧ s.pc.opened = old) := by
  obtain ⟨hm, hid, ho, hnd, hpar, hlen, hreq⟩ := open_some (openPostW_toPost hO) (hw.toWin hallc) hallc trivial
  obtain ⟨_, n, hn, hkind, _, hnpar, hnkids, _, _, hnoff⟩ := hO.newNode id rfl
  have hndid : nd s1 id = n := by rw [hid]; exact nd_append_self hn
  have htree : TreeOK s1 := by
    have e1 : s1 = { r := s1.r, nodes := s.nodes ++ [n], pc := s1.pc } := by rw [← hn]
    rw [e1]
    exact treeOK_tinv.app n _ _ hnpar (by rw [← hndid]; exact hkn id (by omega)) hw.tree
  have htlt : ∀ t, s1.pc.tmpPara = some t → t < s0.nodes.length := by
    intro t ht
    rcases hO.tmp with ⟨_, _, lb, h1, h2, _, h4⟩ | ⟨_, h⟩
    · rw [h4] at ht; cases ht
      have hmem : lb ∈ s.pc.opened := List.mem_of_getLast? h1
      rcases hw.shape with e | ⟨_, e⟩
      · rw [e] at hmem
        rcases List.mem_append.1 hmem with h | h
        · exact hw.oldlt lb h
        · have := hallc lb h
          have hk := (hw.blocks lb (by rw [e]; exact List.mem_append_right _ h)).kind
          rw [h2] at hk
          rw [kind_paragraph hk.symm] at this; cases this
      · rw [e] at hmem
        rcases List.mem_append.1 hmem with h | h
        · exact hw.oldlt lb (List.dropLast_subset _ h)
        · have := hallc lb h
          have hk := (hw.blocks lb (by rw [e]; exact List.mem_append_right _ h)).kind
          rw [h2] at hk
          rw [kind_paragraph hk.symm] at this; cases this
    · exact hw.tmplt t (by rw [← h]; exact ht)
  have hlt : ∀ b ∈ s.pc.opened, b.node < s.nodes.length := fun b hb => (hw.blocks b hb).lt
  have hnd' : ∀ j, nd s1 j = if j < s.nodes.length then nd s j else if j = s.nodes.length then n else default := by
    intro j
    by_cases h1 : j < s.nodes.length
    · rw [if_pos h1]; exact hnd j h1
    · rw [if_neg h1]
      by_cases h2 : j = s.nodes.length
      · rw [if_pos h2, h2]; exact nd_append_self hn
      · rw [if_neg h2]; exact nd_append_gt hn (by omega)
  have hls : LStore s1 root := by
    refine ⟨⟨?_, ?_, ?_⟩, ?_, by rw [hnd root hw.ls.rootLt]; exact hw.ls.rootKind, by rw [hlen]; exact Nat.lt_succ_of_lt hw.ls.rootLt,
      fun b hb hc => by rw [ho] at hb; rw [hnd _ (hlt b hb)]; exact hw.ls.attached b hb hc, by rw [ho]; exact hw.ls.incr⟩
    · intro i lc hk hmem
      rw [hnd' i] at hk hmem
      split at hk
      · rename_i hi
        rw [if_pos hi] at hmem
        obtain ⟨a, b⟩ := hw.ls.kids.kids i lc hk hmem
        exact ⟨by rw [hlen]; exact Nat.lt_succ_of_lt a, by rw [hnd lc a]; exact b⟩
      · rename_i hi
        rw [if_neg hi] at hmem
        split at hk
        · rename_i hi2
          rw [if_pos hi2] at hmem
          rw [hkind] at hk
          have hbl : bp = .list := by cases bp <;> simp [BP.kind] at hk ⊢
          rw [hnkids hbl] at hmem; cases hmem
        · cases hk
    · intro i hk
      rw [hnd' i] at hk ⊢
      split at hk
      · rename_i hi; rw [if_pos hi]; exact hw.ls.kids.off i hk
      · rename_i hi
        rw [if_neg hi]
        split at hk
        · rename_i hi2
          rw [if_pos hi2]
          rw [hkind] at hk
          have hbl : bp = .listItem := by cases bp <;> simp [BP.kind] at hk ⊢
          exact hnoff hbl
        · cases hk
    · intro i p hp hk
      rw [hnd' i] at hp ⊢
      split at hp
      · rename_i hi
        have hpl := hw.ls.plt i p hp
        rw [hnd p hpl] at hk
        rw [if_pos ‹_›]
        exact hw.ls.kids.pk i p hp hk
      · split at hp
        · rw [hnpar] at hp; cases hp
        · cases hp
    · intro i p hp
      rw [hnd' i] at hp
      split at hp
      · rw [hlen]; exact Nat.lt_succ_of_lt (hw.ls.plt i p hp)
      · split at hp
        · rw [hnpar] at hp; cases hp
        · cases hp
  have hchain : ChainedO s1 root (pre ++ new) := by
    have hmem : ∀ b ∈ pre ++ new, b ∈ s.pc.opened := by
      obtain ⟨suf, e⟩ := hw.stack
      intro b hb
      rw [e]
      rcases List.mem_append.1 hb with h | h
      · exact List.mem_append_left _ (List.mem_append_left _ h)
      · exact List.mem_append_right _ h
    refine chainedO_agree root (pre ++ new) hw.chain ?_ ?_ ?_
    · intro a ha
      simp only [List.mem_cons, List.mem_map] at ha
      rcases ha with rfl | ⟨b, hb, rfl⟩
      · rw [hnd _ hw.ls.rootLt]
      · rw [hnd _ (hlt b (hmem b hb))]
    · intro b hb; rw [hnd _ (hlt b (hmem b hb))]
    · intro a ha
      simp only [List.mem_cons, List.mem_map] at ha
      rcases ha with rfl | ⟨b, hb, rfl⟩
      · rw [hnd _ hw.ls.rootLt]
      · rw [hnd _ (hlt b (hmem b (List.dropLast_subset _ hb)))]
  refine ⟨⟨hm.nodes, hm.keys, hm.ext, hm.shape, fun b hb => (hm.blocks b hb).1, hm.nb, hm.idge, hm.fenceNew, hm.setextOld,
    hls, hchain, by rw [ho]; exact hw.stack, fun b hb => by rw [ho] at hb; rw [hid]; exact hlt b hb,
    by rw [hid]; exact hw.ls.rootLt, by rw [hndid]; exact hnpar, fun hb => by rw [hndid]; exact hnkids hb, fun hb => by rw [hndid]; exact hnoff hb, ?_, htree, hm.tmpS, htlt⟩,
    hid, ho, hnd, hlen, hreq⟩
  intro i hp
  rw [hnd' i] at hp
  split at hp
  · have := hw.ls.plt i id hp; omega
  · split at hp
    · rw [hnpar] at hp; cases hp
    · cases hp

theorem MidL.sub {src old pre root s0 id bp s new} (h : MidL src old pre root s0 id bp s new) :
    ∀ b ∈ pre ++ new, b ∈ s.pc.opened := by
  obtain ⟨suf, e⟩ := h.stack
  intro b hb
  rw [e]
  rcases List.mem_append.1 hb with h' | h'
  · exact List.mem_append_left _ (List.mem_append_left _ h')
  · exact List.mem_append_right _ h'
theorem MidL.incr' {src old pre root s0 id bp s new} (h : MidL src old pre root s0 id bp s new) :
    (root :: (pre ++ new).map (·.node)).Pairwise (· < ·) := by
  obtain ⟨suf, e⟩ := h.stack
  have := h.ls.incr
  rw [e] at this
  refine this.sublist ?_
  refine List.Sublist.cons_cons _ (List.Sublist.map _ ?_)
  rw [List.append_assoc]
  exact List.Sublist.append (List.Sublist.refl _) (List.sublist_append_right _ _)
theorem MidL.parent_lt {src old pre root s0 id bp s new} (h : MidL src old pre root s0 id bp s new) :
    lastNode root (pre ++ new) < id ∧ lastNode root (pre ++ new) < s.nodes.length := by
  rcases lastNode_mem root (pre ++ new) with e | ⟨b, hb, e⟩
  · rw [e]
    exact ⟨h.rootid, h.ls.rootLt⟩
  · rw [e]
    exact ⟨h.idgt b (h.sub b hb), (h.blocks b (h.sub b hb)).lt⟩

theorem MidL.same {src old pre root s0 id bp s s' new} (h : MidL src old pre root s0 id bp s new)
    (e : Ext s s') (hnodes : NodesOK src s') (t : TreeSame s s') (ho : s'.pc.opened = s.pc.opened)
    (ht : s'.pc.tmpPara = s.pc.tmpPara) (hf : s'.pc.fence = s.pc.fence) : MidL src old pre root s0 id bp s' new := by
  have hbok : ∀ b, BlockOK s b → BlockOK s' b := fun b hb =>
    hb.ext e (fun hp => by rw [ht]; exact (hb.setext hp).2) (fun hp => by rw [hf]; exact hb.fenced hp)
  refine ⟨hnodes, h.keys.ext e (.inl ht) (.inl hf), h.ext.trans (ExtW.of_ext e), by rw [ho]; exact h.shape,
    fun b hb => by rw [ho] at hb; exact hbok b (h.blocks b hb), hbok _ h.nb, h.idge,
    fun hp => by rw [hf]; exact h.fenceNew hp, h.setextOld, ?_, ?_, by rw [ho]; exact h.stack,
    fun b hb => by rw [ho] at hb; exact h.idgt b hb, h.rootid, by rw [(t.same id).2.1]; exact h.idpar,
    fun hb => by rw [(t.same id).2.2.1]; exact h.idkids hb, fun hb => by rw [(t.same id).2.2.2]; exact h.idoff hb,
    fun i => by rw [(t.same i).2.1]; exact h.nopt i, treeOK_tinv.ts t h.tree,
    fun hp => TmpOK.ext (h.tmpS hp) e ht, fun t htt => h.tmplt t (by rw [← ht]; exact htt)⟩
  · exact h.ls.step e t.tf (fun i p hp => by rw [(t.same i).2.1] at hp; rw [t.len]; exact h.ls.plt i p hp) ho h.blocks
  · exact chainedO_agree root (pre ++ new) h.chain (fun a _ => (t.same a).1) (fun b _ => (t.same b.node).2.1)
      (fun a _ => (t.same a).2.2.1)

theorem MidL.pop {src old pre root s0 id bp s} (h : MidL src old pre root s0 id bp s []) (hop : s.pc.opened = old)
    (hne : old ≠ []) (hsuf : ∃ suf, old = pre ++ suf ∧ suf ≠ []) :
    MidL src old pre root s0 id bp { s with pc := { s.pc with opened := old.dropLast } } [] where
  nodes := h.nodes
  keys := ⟨h.keys.fence⟩
  ext := ⟨h.ext.len, h.ext.kind⟩
  shape := .inr ⟨hne, by simp⟩
  blocks := fun b hb => by
    have hb' : b ∈ s.pc.opened := by rw [hop]; exact List.dropLast_subset _ hb
    have := h.blocks b hb'
    exact ⟨this.lt, this.kind, this.para, this.setext, this.fenced⟩
  nb := ⟨h.nb.lt, h.nb.kind, h.nb.para, h.nb.setext, h.nb.fenced⟩
  idge := h.idge
  fenceNew := h.fenceNew
  setextOld := h.setextOld
  ls := ⟨⟨h.ls.kids.kids, h.ls.kids.off, h.ls.kids.pk⟩, h.ls.plt, h.ls.rootKind, h.ls.rootLt,
    fun b hb hc => h.ls.attached b (by rw [hop]; exact List.dropLast_subset _ hb) hc, by
      have := h.ls.incr
      rw [hop] at this
      exact this.sublist (List.Sublist.cons_cons _ (List.Sublist.map _ (List.dropLast_sublist _)))⟩
  chain := by
    have := h.chain
    exact chainedO_agree root (pre ++ []) this (fun _ _ => rfl) (fun _ _ => rfl) (fun _ _ => rfl)
  stack := by
    obtain ⟨suf, e, hs⟩ := hsuf
    refine ⟨suf.dropLast, ?_⟩
    simp only [List.append_nil]
    rw [e, List.dropLast_append_of_ne_nil hs]
  idgt := fun b hb => h.idgt b (by rw [hop]; exact List.dropLast_subset _ hb)
  rootid := h.rootid
  idpar := h.idpar
  idkids := h.idkids
  idoff := h.idoff
  nopt := h.nopt
  tree := ⟨h.tree.pc, h.tree.cp, h.tree.nodup⟩
  tmpS := h.tmpS
  tmplt := h.tmplt

theorem WinL.same {old pre : List Block} {root : Nat} {s0 s s' : St} {new : List Block}
    (h : WinL src old pre root s0 s new) (e : Ext s s') (hnodes : NodesOK src s') (t : TreeSame s s')
    (ho : s'.pc.opened = s.pc.opened) (ht : s'.pc.tmpPara = s.pc.tmpPara) (hf : s'.pc.fence = s.pc.fence) :
    WinL src old pre root s0 s' new := by
  have hbok : ∀ b, BlockOK s b → BlockOK s' b := fun b hb =>
    hb.ext e (fun hp => by rw [ht]; exact (hb.setext hp).2) (fun hp => by rw [hf]; exact hb.fenced hp)
  exact ⟨hnodes, h.keys.ext e (.inl ht) (.inl hf), h.ext.trans (ExtW.of_ext e), by rw [ho]; exact h.shape,
    fun b hb => by rw [ho] at hb; exact hbok b (h.blocks b hb), h.oldlt, h.leafyOld, h.fresh,
    h.ls.step e t.tf (fun i p hp => by rw [(t.same i).2.1] at hp; rw [t.len]; exact h.ls.plt i p hp) ho h.blocks,
    chainedO_agree root (pre ++ new) h.chain (fun a _ => (t.same a).1) (fun b _ => (t.same b.node).2.1)
      (fun a _ => (t.same a).2.2.1), by rw [ho]; exact h.stack, fun hn ho' => (h.tsame hn (by rw [← ho]; exact ho')).trans t, treeOK_tinv.ts t h.tree,
    fun t' htt => h.tmplt t' (by rw [← ht]; exact htt)⟩

theorem WinL.congr {old pre : List Block} {root : Nat} {s0 s s' : St} {new : List Block}
    (h : WinL src old pre root s0 s new) (hn : s'.nodes = s.nodes)
    (ho : s'.pc.opened = s.pc.opened) (ht : s'.pc.tmpPara = s.pc.tmpPara) (hf : s'.pc.fence = s.pc.fence) :
    WinL src old pre root s0 s' new :=
  h.same (Ext.of_nodes_eq hn) (fun n hm => h.nodes n (by rw [← hn]; exact hm)) (TreeSame.of_nodes_eq hn) ho ht hf

end GM.Blocks.L.G
end BlocksTNPWin

section BlocksTNPCloseG
/-
  General no-panic proof, part 2: what `closeLoopC` / `closeBlocksC` (GM.Proof.BlocksTNPXClose) are stated
  with: every `Close` on the weak key invariant with the tree-link frame (`TF`, `KidsOK`, `PLTf`) and `TreeOK` (`closeG`,
  `inv_bpClose`), the invariant `CInv` and the relation `CRel`, and the hypothesis `LKHyp` of the frame of "`x` is the last
  child of `q`" (`LK`) for nodes `x` outside the closed range.
-/

namespace GM.Blocks.L.G
open GM GM.Text GM.Spec GM.Proof.Reader GM.Blocks.T GM.Blocks.TR

/-! ### every `Close`, generically in the tree invariant -/

theorem inv_bpClose {I : St → Prop} {GC GP : Nat → Prop} (T : TInv I GC GP) (src : Bytes) (bp : BP) (node : Nat)
    (s s' : St) (hn : NodesOK src s) (hb : BlockOK s ⟨node, bp⟩) (hkids : KidsOK s)
    (ht : bp = .setext → ∀ t, s.pc.tmpPara = some t → (nd s t).kind = .paragraph ∧ (nd s t).lines ≠ [] ∧ GC t)
    (hgp : bp = .list → ∀ c ∈ (nd s node).children, GP c) (hi : I s) (h : bpClose bp node s = .ok ((), s')) : I s' := by
  cases bp <;> unfold bpClose at h
  · exact inv_setextClose T node s s' hb (ht rfl) hi h
  · cases h; exact hi
  · exact inv_listClose T node s s' hkids hb.kind (hgp rfl) hi h
  · cases h; exact hi
  · exact T.ts ((codeClose_tsame node).h s () s' h) hi
  · cases h; exact hi
  · exact T.ts ((fencedClose_tsame node).h s () s' h) hi
  · cases h; exact hi
  · cases h; exact hi
  · exact T.ts (paragraphClose_tf node s s' hb hn h) hi

/-- every `Close` from the weak key: contract, tree-link frame, `PLTf` -/
theorem closeG {src : Bytes} (lsp : LSp src) (bp : BP) (node : Nat) (s : St) (hsrc : s.r.source = src)
    (hn : NodesOK src s) (hk : W.KeysOKF s) (hb : BlockOK s ⟨node, bp⟩) (hkids : KidsOK s) (hplt : PLTf s)
    (htm : bp = .setext → TmpOK s) :
    OKL (fun (_ : Unit) s' => ClosePost src bp node s s' ∧ TF s s' ∧ PLTf s' ∧ bpClose bp node s = .ok ((), s'))
      (bpClose bp node s) := by
  by_cases hs : bp = .setext
  · have hkf : KeysOK s := KeysOK.ofF hk (htm hs)
    rcases closeAll src bp node s hsrc hn hkf hb with ⟨a, s1, e1, h1⟩ | e1
    · exact .inl ⟨a, s1, e1, h1, lsp.closeTF bp node s s1 hn hkf hb hkids e1,
        lsp.closePLT bp node s s1 hn hkf hb hkids hplt e1, e1⟩
    · exact .inr e1
  · rcases W.closeW_all src bp hs node s hsrc hn hk hb with ⟨a, s1, e1, h1⟩ | e1
    · exact .inl ⟨a, s1, e1, h1, W.bpClose_tfW src bp hs node s s1 hn hb hkids e1,
        (W.bpClose_pltW src bp hs node s s1 hn hb hkids hplt e1).1, e1⟩
    · exact .inr e1

/-- the KEEP case of a transformer call changes no tree link and satisfies `Ext` -/
theorem keep_facts {src : Bytes} {node : Nat} {s s' : St} (hlt : node < s.nodes.length)
    (hp : PTPost node s s') (hg : TStep src node s s' false) (hpar : (nd s node).parent.isSome = true) :
    TreeSame s s' ∧ Ext s s' := by
  rcases hp.res with ⟨refs, k, hk, e⟩ | ⟨refs, p, hpp, e⟩
  · have hnodes : s'.nodes = s.nodes.set node { (nd s node) with lines := (nd s node).lines.drop k } := by rw [e]
    refine ⟨by rw [e]; exact fr_treeSame_set s node _ _ _ ⟨rfl, rfl, rfl, rfl⟩, Ext.of_set hnodes rfl (fun _ h0 => ?_)⟩
    simp only at h0; rw [h0] at hk; simp at hk
  · exfalso
    have hEn : (ptEmptied s node refs).nodes = s.nodes.set node { (nd s node) with lines := [] } := rfl
    have hElt : node < (ptEmptied s node refs).nodes.length := by rw [hEn, List.length_set]; exact hlt
    have hEp : (nd (ptEmptied s node refs) node).parent = some p := by rw [nd_of_set_self hEn hlt]; exact hpp
    obtain ⟨s2, e2, _, hpar2⟩ := ptReplace_eq node p (nd s node).blankPrev (ptEmptied s node refs) hElt hEp
    rw [e2] at e; cases e
    have := (hg.keep rfl).2
    rw [hpar2] at this
    rw [← this] at hpar; cases hpar

/-- closing `c` (with its transformation when it is a paragraph) does not invalidate the kept block `k` -/
def CompatG (s : St) (k c : Block) : Prop := CompatT s k c ∧ (k.bp = .setext → c.bp ≠ .paragraph)

theorem CompatG.of_container {s : St} {k c : Block} (h : c.bp.isContainer = true) : CompatG s k c :=
  ⟨CompatT.of_container h, fun _ hc => absurd hc (container_kind h).1⟩

theorem CompatG.of_container_left {s : St} {k c : Block} (h : k.bp.isContainer = true) : CompatG s k c :=
  ⟨CompatT.of_container_left h, fun hk => absurd hk (container_kind h).2.1⟩

/-- the store-level invariants at every point of the driver -/
structure CInv (src : Bytes) (s : St) : Prop where
  nodes : NodesOK src s
  keys : W.KeysOKF s
  kids : KidsOK s
  plt : PLTf s
  tree : TreeOK s

/-- what `closeListT` / `closeBlocksT` guarantee; `K` = the blocks that stay open -/
structure CRel (src : Bytes) (K : List Block) (s s' : St) : Prop where
  r : s'.r = s.r
  inv : CInv src s'
  extw : ExtW s s'
  tmp : s'.pc.tmpPara = s.pc.tmpPara ∨ s'.pc.tmpPara = none
  tf : TF s s'
  blocks : ∀ k ∈ K, BlockOK s' k
  tmpok : (∃ k ∈ K, k.bp = .setext) → TmpOK s → TmpOK s'

theorem CRel.refl {src : Bytes} {K : List Block} {s : St} (hi : CInv src s) (hK : ∀ k ∈ K, BlockOK s k) :
    CRel src K s s := ⟨rfl, hi, ExtW.refl s, .inl rfl, L.TF.refl s, hK, fun _ h => h⟩

theorem CRel.trans {src : Bytes} {K : List Block} {s s1 s2 : St} (h1 : CRel src K s s1) (h2 : CRel src K s1 s2) :
    CRel src K s s2 where
  r := by rw [h2.r, h1.r]
  inv := h2.inv
  extw := h1.extw.trans h2.extw
  tmp := by
    rcases h2.tmp with h | h
    · rw [h]; exact h1.tmp
    · exact .inr h
  tf := L.T.TF.transW h1.tf h1.extw h2.tf h2.extw
  blocks := h2.blocks
  tmpok := fun hk ht => h2.tmpok hk (h1.tmpok hk ht)

/-- what the frame of "`x` is the last child of `q`" over the closing of `l` needs -/
def LKHyp (s : St) (l : List Block) (x q : Nat) : Prop :=
  (∀ b ∈ l, b.node ≠ x) ∧ s.pc.tmpPara ≠ some x ∧
    ((nd s q).kind = .listItem → ∀ b ∈ l, (nd s q).parent ≠ some b.node)

theorem LKHyp.step {src : Bytes} {K l l' : List Block} {s s1 : St} {x q : Nat} (h : LKHyp s l x q) (hr : CRel src K s s1)
    (hlk : LK s x q) (hsub : ∀ b ∈ l', b ∈ l) : LKHyp s1 l' x q := by
  refine ⟨fun b hb => h.1 b (hsub b hb), ?_, fun hk b hb => ?_⟩
  · rcases hr.tmp with e | e
    · rw [e]; exact h.2.1
    · rw [e]; simp
  · have hk0 : (nd s q).kind = .listItem := by rw [← hr.extw.kind q hlk.qlt]; exact hk
    rw [hr.tf.parent q hlk.qlt (by rw [hk0]; rfl)]
    exact h.2.2 hk0 b (hsub b hb)

end GM.Blocks.L.G
end BlocksTNPCloseG
