/-
  GM.Proof.InlinesLinkG — the link parser over a given ProcessDelimiters (GM.Model.ExtStrike; over the default one it is
  GM.Inl.parseLink). `parseLinkInlineG` and `parseReferenceLinkG` only move the reader until they hand `parent`'s children
  to `processLinkLabelG`: each is a reader-only prefix followed by `linkFinishG`, so two parsers agree where their
  `linkFinishG` do. A property of nodes that `pd` keeps among the children is kept by the whole parser (`parseLinkG_allQ`,
  the instance of `parseLinkG_keeps` at `allQ Q`).
-/
import GM.Model.ExtStrike
import GM.Proof.InlinesDelims

namespace GM.Proof.InlinesLinkG
open GM GM.Text GM.Inl GM.Proof.Inlines GM.Proof.InlinesDelims

/-! ### the reader-only prefixes -/

/-- what a prefix recognised: destination and title -/
abbrev LinkArgs := Option (Bytes × Option Bytes)

/-- `parseLinkInlineG` up to the calls of `finish` -/
def linkInlineRd (rd0 : BlockReader) : Except Panic (LinkArgs × BlockReader) := do
  let rd ← rd0.advance 1
  let (_, rd) ← skipSpaces blockOps (rdFuel rd) 0 rd
  if (← rd.peek) == 41 then
    let rd ← rd.advance 1
    pure (some ([], none), rd)
  else
    let (dest, rd) ← parseLinkDestination rd
    match dest with
    | none => pure (none, rd)
    | some dest =>
      let ((_, spaces, _), rd) ← skipSpaces blockOps (rdFuel rd) 0 rd
      if (← rd.peek) == 41 then
        let rd ← rd.advance 1
        pure (some (dest, none), rd)
      else if spaces == 0 then pure (none, rd)
      else
        let (title, rd) ← parseLinkTitle rd
        match title with
        | none => pure (none, rd)
        | some title =>
          let (_, rd) ← skipSpaces blockOps (rdFuel rd) 0 rd
          if (← rd.peek) == 41 then
            let rd ← rd.advance 1
            pure (some (dest, title), rd)
          else pure (none, rd)

/-- `parseReferenceLinkG` up to the call of `processLinkLabelG`; the Boolean is `hasValue` -/
def linkRefRd (env : Env) (rd0 : BlockReader) (lseg : Segment) : Except Panic ((LinkArgs × Bool) × BlockReader) := do
  let orgpos := rd0.position.2
  let rd ← rd0.advance 1
  let ((segs, found), rd) ← findClosure blockOps (rdFuel rd) 91 93 linkFindClosureOptions rd
  if !found then return ((none, false), rd)
  let maybeReference ← segsValue rd (segs.getD [])
  if !maybeReference.isEmpty && isBlank maybeReference then return ((none, false), rd)
  let maybeReference ←
    if maybeReference.isEmpty then rd.valueOp { start := lseg.stop, stop := orgpos.start - 1 }
    else pure maybeReference
  if maybeReference.length > 999 then return ((none, true), rd)
  return ((lookupRef env maybeReference, true), rd)

/-- behind a prefix: nothing recognised, the children stay; else `processLinkLabelG` cuts the link's children off -/
def linkFinishG (pd : PD) (st : St) (a : LinkArgs) (rd : BlockReader) : Except Panic (Option LinkInfo × St) :=
  match a with
  | none => pure (none, { st with rd := rd })
  | some (dest, title) => do
    let (kids, st) ← processLinkLabelG pd { st with rd := rd }
    pure (some { dest := dest, title := title, kids := kids }, st)

theorem parseLinkInlineG_rd (pd : PD) (st : St) :
    parseLinkInlineG pd st = linkInlineRd st.rd >>= fun r => linkFinishG pd st r.1 r.2 := by
  unfold parseLinkInlineG linkInlineRd
  simp only [bind_assoc]
  refine bind_congr fun rd => bind_congr fun s1 => bind_congr fun c => ?_
  split
  · simp only [bind_assoc, pure_bind]; rfl
  · simp only [bind_assoc]
    refine bind_congr fun d => ?_
    cases d.1 with
    | none => rfl
    | some dest =>
      simp only [bind_assoc]
      refine bind_congr fun s2 => bind_congr fun c2 => ?_
      split
      · simp only [bind_assoc, pure_bind]; rfl
      · split
        · rfl
        · simp only [bind_assoc]
          refine bind_congr fun t => ?_
          cases t.1 with
          | none => rfl
          | some title =>
            simp only [bind_assoc]
            refine bind_congr fun s3 => bind_congr fun c3 => ?_
            split
            · simp only [bind_assoc, pure_bind]; rfl
            · rfl

theorem parseReferenceLinkG_rd (pd : PD) (env : Env) (st : St) (lseg : Segment) :
    parseReferenceLinkG pd env st lseg = linkRefRd env st.rd lseg >>= fun r =>
      linkFinishG pd st r.1.1 r.2 >>= fun x => pure ((x.1, r.1.2), x.2) := by
  unfold parseReferenceLinkG linkRefRd
  simp only [bind_assoc]
  refine bind_congr fun rd => bind_congr fun cl => ?_
  -- both arms of `if maybeReference.isEmpty` end in the same look-up
  have tail : ∀ ref : Bytes, _ = _ := fun ref => by
    show (if ref.length > 999 then pure ((none, true), { st with rd := cl.2 }) else
        match lookupRef env ref with
        | none => pure ((none, true), { st with rd := cl.2 })
        | some (dest, title) => do
          let (kids, st) ← processLinkLabelG pd { st with rd := cl.2 }
          pure ((some { dest := dest, title := title, kids := kids }, true), st)) =
      (if ref.length > 999 then pure ((none, true), cl.2) else pure ((lookupRef env ref, true), cl.2)) >>= fun r =>
        linkFinishG pd st r.1.1 r.2 >>= fun x => pure ((x.1, r.1.2), x.2)
    split
    · rfl
    · cases lookupRef env ref with
      | none => rfl
      | some x => simp only [pure_bind, linkFinishG, bind_assoc]
  split
  · rfl
  · simp only [bind_assoc]
    refine bind_congr fun ref => ?_
    split
    · rfl
    · split
      · simp only [bind_assoc]
        exact bind_congr fun ref' => tail ref'
      · simp only [pure_bind]
        exact tail ref

/-! ### a property of nodes among `parent`'s children -/

/-- what the link parser itself needs of a property of nodes: the nodes it makes have it -/
structure LinkInv (Q : Inl.Node → Prop) : Prop where
  text : ∀ s a b c, Q (.text s a b c)
  label : ∀ id s im, Q (.label id s im)
  link : ∀ im d t ks, allQ Q ks → Q (.link im d t ks)

/-- `pd` keeps `Q` among the children -/
def PDKeeps (Q : Inl.Node → Prop) (pd : PD) : Prop := ∀ b k r, pd b k = .ok r → allQ Q k → allQ Q r

/-- what a link attempt leaves: `Q` among `parent`'s children and the children cut off for the link -/
def LinkResQ (Q : Inl.Node → Prop) (res : Option LinkInfo) (st' : St) : Prop :=
  allQ Q st'.kids ∧ ∀ info, res = some info → allQ Q info.kids

/-- what a parser call leaves: `Q` among the children and of the node it answers -/
def POKQ (Q : Inl.Node → Prop) (r : Option Inl.Node × St) : Prop := allQ Q r.2.kids ∧ ∀ x, r.1 = some x → Q x

variable {Q : Inl.Node → Prop} {pd : PD}

theorem mergeOrAppend_allQ_text (ht : ∀ s a b c, Q (.text s a b c)) {l : List Inl.Node} {s : Segment} (h : allQ Q l) :
    allQ Q (mergeOrAppend l s) :=
  mergeOrAppend_kept (ht _ _ _ _) (fun _ _ _ _ _ => ht _ _ _ _) h

theorem processLinkLabelG_allQ (I : LinkInv Q) (hpd : PDKeeps Q pd) {st st' : St} {post : List Inl.Node}
    (h : processLinkLabelG pd st = .ok (post, st')) (hk : allQ Q st.kids) : allQ Q st'.kids ∧ allQ Q post := by
  obtain ⟨kids, pre, lid, lseg, im, hp, hkids, _, _, _, hst⟩ := processLinkLabelG_cases pd st _ h
  dsimp only at hkids hst
  subst hkids hst
  have h1 := allQ_append.mp (hpd _ _ _ hp hk)
  exact ⟨allQ_append.mpr ⟨h1.1, allQ_single.mpr (I.label _ _ _)⟩, (allQ_cons.mp h1.2).2⟩

theorem linkTryG_allQ (I : LinkInv Q) (hpd : PDKeeps Q pd) {env : Env} {st st' : St} {lseg : Segment} {c : UInt8}
    {link : Option LinkInfo} {hv : Bool} (h : linkTryG pd env st lseg c = .ok (link, hv, st')) (hk : allQ Q st.kids) :
    LinkResQ Q link st' := by
  rcases linkTryG_cases pd h with ⟨rfl, rd, rfl⟩ | ⟨rd, d, t, post, hp, rfl⟩
  · exact ⟨hk, fun _ hi => by cases hi⟩
  · obtain ⟨a1, a2⟩ := processLinkLabelG_allQ I hpd hp hk
    exact ⟨a1, fun _ hi => by cases hi; exact a2⟩

/-- **the link parser keeps a property of nodes that ProcessDelimiters keeps**: among the children, and of the node it answers -/
theorem parseLinkG_allQ (I : LinkInv Q) (hpd : PDKeeps Q pd) {env : Env} {st : St} {r : Option Inl.Node × St}
    (h : parseLinkG pd env st = .ok r) (hk : allQ Q st.kids) : POKQ Q r :=
  parseLinkG_keeps (K := allQ Q) (N := Q) I.label
    (fun _ _ _ _ _ h => allQ_append.mpr
      ⟨mergeOrAppend_allQ_text I.text (allQ_append.mp h).1, (allQ_cons.mp (allQ_append.mp h).2).2⟩)
    (fun _ _ _ _ im _ post _ hk _ _ h =>
      have ⟨a1, a2⟩ := processLinkLabelG_allQ I hpd h hk
      ⟨allQ_dropLast a1, fun d t => I.link im d t post a2⟩)
    env st hk r h

end GM.Proof.InlinesLinkG
