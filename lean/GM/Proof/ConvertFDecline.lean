/-
  GM.Proof.ConvertFDecline — the decline paths of the two footnote parsers ON THE CONCRETE MODELS (GM.Model.ExtFootnoteX):
  on a line without the two bytes `[^` the block parser's Open returns (nil, NoChildren) and leaves the footnote state
  alone (the reader's line cache is the only thing it may have filled); without a FootnoteList in the context the inline
  parser returns nil on every line.
-/
import GM.Proof.ConvertFSim
import GM.Proof.ExtDecline

namespace GM.ConvertF
open GM GM.Text GM.Blocks GM.Convert

theorem idx_ok {line : Bytes} {i : Int} {c : UInt8} (h : idx line i = .ok c) : 0 ≤ i ∧ line[i.toNat]? = some c := by
  unfold idx getByte at h
  split at h
  · cases h
  · rename_i hi
    split at h
    · rename_i b hb
      cases h
      exact ⟨by omega, hb⟩
    · cases h

/-- footnote.go:37-57 on a line without the two bytes `[^`: `return nil, parser.NoChildren` (or the index panic of
    `line[pos]` when the block offset lies outside the line) -/
theorem fnOpenScan_declines (line : Bytes) (pos : Int) (h : GM.Ext.hasInfix [91, 94] line = false) :
    fnOpenScan line pos = .ok none ∨ fnOpenScan line pos = .error .index := by
  unfold fnOpenScan
  simp only [bind, Except.bind, pure, Except.pure]
  by_cases hp : pos < 0
  · simp [hp]
  · simp only [hp, if_false]
    cases h1 : idx line pos with
    | error e =>
      right
      unfold idx getByte at h1
      split at h1
      · cases h1; rfl
      · split at h1
        · cases h1
        · cases h1; rfl
    | ok c =>
      simp only []
      by_cases hc : c = 91
      · subst hc
        simp only [bne_self_eq_false, Bool.false_eq_true, if_false]
        by_cases hl : pos + 1 > (line.length : Int) - 1
        · simp [hl]
        · simp only [hl, if_false]
          cases h2 : idx line (pos + 1) with
          | error e =>
            right
            unfold idx getByte at h2
            split at h2
            · cases h2; rfl
            · split at h2
              · cases h2
              · cases h2; rfl
          | ok d =>
            simp only []
            by_cases hd : d = 94
            · exfalso
              subst hd
              obtain ⟨hp0, g1⟩ := idx_ok h1
              obtain ⟨_, g2⟩ := idx_ok h2
              have e : (pos + 1).toNat = pos.toNat + 1 := by omega
              rw [e] at g2
              have := GM.Ext.hasInfix_two (l := line) (p := pos.toNat) (a := 91) (b := 94) g1 g2
              rw [this] at h
              cases h
            · have : (d != 94) = true := by simp [hd]
              simp [this]
      · have : (c != 91) = true := by simp [hc]
        simp [this]

/-- (*footnoteBlockParser).Open on a line without `[^`: when it returns, it returns (nil, NoChildren), the footnote state
    is untouched and the `St` is the one `peekLine` leaves (the line cache filled) -/
theorem fnOpen_declines (parent : Nat) (f : FS) (s : St) (line : Bytes) (seg : Segment) (r' : Reader)
    (hp : s.r.peekLine = .ok ((some line, seg), r')) (h : GM.Ext.hasInfix [91, 94] line = false) :
    fnOpen parent f s = .ok (((none, stNoChildren), f), { s with r := r' }) ∨ fnOpen parent f s = .error .index := by
  unfold fnOpen
  rw [Hoare.bind_apply₂, upF_apply]
  have hpl : peekLine s = .ok ((some line, seg), { s with r := r' }) := by
    simp only [peekLine, hp, bind, Except.bind, pure, Except.pure]
  rw [hpl]
  simp only [Option.getD]
  rw [Hoare.bind_apply₂, upF_apply]
  simp only [getPc, pure, StateT.pure, Except.pure]
  rw [Hoare.bind_apply₂, upF_apply]
  rcases fnOpenScan_declines line s.pc.blockOffset h with h1 | h1
  · left
    simp only [liftE, h1, Except.map]
    rfl
  · right
    simp only [liftE, h1, Except.map]

/-- (*footnoteParser).Parse while the context holds no FootnoteList: nil on every line, the parent's children untouched
    (the reader may have been advanced; parser.go:1213-1219 puts it back) -/
theorem parseFootnote_noList (env : GM.Inl.Env) (st : GM.Inl.St) :
    ∀ r, parseFootnote none env st = .ok r → r.1 = none ∧ r.2.kids = st.kids := by
  intro r hr
  unfold parseFootnote at hr
  simp only [bind, Except.bind, pure, Except.pure] at hr
  cases hpl : st.rd.peekLine with
  | error e => rw [hpl] at hr; cases hr
  | ok pl =>
    obtain ⟨⟨line, segment⟩, rd⟩ := pl
    rw [hpl] at hr
    simp only [] at hr
    repeat' split at hr
    all_goals first
      | (cases hr; exact ⟨rfl, rfl⟩)
      | skip
    all_goals cases hr

end GM.ConvertF
