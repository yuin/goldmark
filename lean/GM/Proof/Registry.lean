/-
  GM.Proof.Registry — lemmas about GM.Model.Registry (core Lean only).
-/
import GM.Model.Registry

namespace GM.Proof.Registry
open GM GM.Registry

/-- two strictly ascending arrangements of the same values coincide -/
theorem strict_perm_unique {α} : ∀ {l₁ l₂ : List (PV α)}, l₁.Perm l₂ →
    l₁.Pairwise (fun a b => a.prio < b.prio) → l₂.Pairwise (fun a b => a.prio < b.prio) → l₁ = l₂
  | [], l₂, p, _, _ => (List.Perm.nil_eq p)
  | a :: t₁, [], p, _, _ => by simpa using p.length_eq
  | a :: t₁, b :: t₂, p, h₁, h₂ => by
    rw [List.pairwise_cons] at h₁ h₂
    have hab : a = b := by
      have ha : a ∈ b :: t₂ := p.mem_iff.mp (List.mem_cons_self)
      have hb : b ∈ a :: t₁ := p.mem_iff.mpr (List.mem_cons_self)
      rcases List.mem_cons.mp ha with h | ha'
      · exact h
      · rcases List.mem_cons.mp hb with h | hb'
        · exact h.symm
        · have := h₁.1 b hb'
          have := h₂.1 a ha'
          omega
    subst hab
    rw [strict_perm_unique p.cons_inv h₁.2 h₂.2]

theorem asc_distinct_strict {α} {l : List (PV α)} (h : Ascending l)
    (d : l.Pairwise (fun a b => a.prio ≠ b.prio)) : l.Pairwise (fun a b => a.prio < b.prio) := by
  unfold Ascending at h
  induction l with
  | nil => exact List.Pairwise.nil
  | cons a t ih =>
    rw [List.pairwise_cons] at h d ⊢
    refine ⟨fun b hb => ?_, ih h.2 d.2⟩
    have := h.1 b hb
    have := d.1 b hb
    omega

theorem distinct_perm {α} {l₁ l₂ : List (PV α)} (p : l₁.Perm l₂)
    (d : l₁.Pairwise (fun a b => a.prio ≠ b.prio)) : l₂.Pairwise (fun a b => a.prio ≠ b.prio) :=
  p.pairwise d (fun h => fun e => h e.symm)

/-- Core uniqueness lemma: whatever two sorts satisfying the contract do to two arrangements of the same
    registrations, the sub-list of the registrations satisfying `q` comes out identical, provided the
    priorities *of those* are pairwise distinct. -/
theorem sorted_filter_unique {α} {s₁ s₂ : List (PV α) → List (PV α)} (c₁ : SortContract s₁) (c₂ : SortContract s₂)
    {l₁ l₂ : List (PV α)} (p : l₁.Perm l₂) (q : PV α → Bool)
    (d : (l₁.filter q).Pairwise (fun a b => a.prio ≠ b.prio)) :
    (s₁ l₁).filter q = (s₂ l₂).filter q := by
  have p₁ : ((s₁ l₁).filter q).Perm (l₁.filter q) := (c₁.perm l₁).filter q
  have p₂ : ((s₂ l₂).filter q).Perm (l₁.filter q) := ((c₂.perm l₂).trans p.symm).filter q
  apply strict_perm_unique (p₁.trans p₂.symm)
  · exact asc_distinct_strict ((c₁.asc l₁).filter q) (distinct_perm p₁.symm d)
  · exact asc_distinct_strict ((c₂.asc l₂).filter q) (distinct_perm p₂.symm d)

theorem sorted_unique {α} {s₁ s₂ : List (PV α) → List (PV α)} (c₁ : SortContract s₁) (c₂ : SortContract s₂)
    {l₁ l₂ : List (PV α)} (p : l₁.Perm l₂) (d : l₁.Pairwise (fun a b => a.prio ≠ b.prio)) :
    s₁ l₁ = s₂ l₂ := by
  have e : ∀ l : List (PV α), l.filter (fun _ => true) = l := fun l => List.filter_eq_self.mpr (by simp)
  have := sorted_filter_unique c₁ c₂ p (fun _ => true) (by rw [e]; exact d)
  rwa [e, e] at this

theorem insertPV_perm {α} (a : PV α) (l : List (PV α)) : (insertPV a l).Perm (a :: l) := by
  induction l with
  | nil => exact List.Perm.refl _
  | cons b t ih =>
    unfold insertPV
    split
    · exact List.Perm.refl _
    · exact (List.Perm.cons b ih).trans (List.Perm.swap a b t)

theorem insertPV_asc {α} (a : PV α) {l : List (PV α)} (h : Ascending l) : Ascending (insertPV a l) := by
  unfold Ascending at *
  induction l with
  | nil => simp [insertPV]
  | cons b t ih =>
    rw [List.pairwise_cons] at h
    unfold insertPV
    split
    · rename_i hab
      rw [List.pairwise_cons]
      refine ⟨fun c hc => ?_, List.pairwise_cons.mpr h⟩
      rcases List.mem_cons.mp hc with rfl | hc
      · exact hab
      · have := h.1 c hc; omega
    · rename_i hab
      rw [List.pairwise_cons]
      refine ⟨fun c hc => ?_, ih h.2⟩
      have hc' : c ∈ a :: t := (insertPV_perm a t).mem_iff.mp hc
      rcases List.mem_cons.mp hc' with rfl | hc'
      · omega
      · exact h.1 c hc'

theorem isort_contract {α} : SortContract (isort (α := α)) where
  perm := by
    intro l
    induction l with
    | nil => exact List.Perm.refl _
    | cons a t ih => exact (insertPV_perm a (isort t)).trans (List.Perm.cons a ih)
  asc := by
    intro l
    induction l with
    | nil => exact List.Pairwise.nil
    | cons a t ih => exact insertPV_asc a ih

theorem isortRev_contract {α} : SortContract (isortRev (α := α)) where
  perm := fun l => (isort_contract.perm l.reverse).trans (List.reverse_perm l)
  asc := fun l => isort_contract.asc l.reverse

theorem foldl_append_perm {α} (es : List (List α)) (c : List α) :
    (es.foldl (· ++ ·) c) = c ++ es.flatten := by
  induction es generalizing c with
  | nil => simp
  | cons e t ih => simp [ih]

theorem apply_fold {α} (opts : List (MdOption α)) (m : MdState α) :
    let r := opts.foldl MdOption.apply m
    (r.config ++ r.exts.flatten).Perm (m.config ++ m.exts.flatten ++ opts.flatMap MdOption.values) := by
  induction opts generalizing m with
  | nil => simp
  | cons o t ih =>
    simp only [List.foldl_cons, List.flatMap_cons]
    refine (ih (MdOption.apply m o)).trans ?_
    cases o with
    | withOptions pvs =>
      simp only [MdOption.apply, MdOption.values]
      -- (config ++ pvs) ++ exts ++ rest ~ config ++ exts ++ (pvs ++ rest)
      have : (m.config ++ pvs ++ m.exts.flatten).Perm (m.config ++ m.exts.flatten ++ pvs) := by
        rw [List.append_assoc, List.append_assoc]
        exact List.Perm.append_left _ List.perm_append_comm
      rw [← List.append_assoc (m.config ++ m.exts.flatten)]
      exact List.Perm.append_right _ this
    | withExtensions es =>
      simp only [MdOption.apply, MdOption.values, List.flatten_append]
      simp only [List.append_assoc]
      exact List.Perm.refl _

/-- Whatever carrier brought a registration in, the configuration that gets sorted holds exactly the
    registrations given to the constructor plus those carried by the options and extensions. -/
theorem mdNew_perm {α} (ctor : List (PV α)) (opts : List (MdOption α)) :
    (mdNew ctor opts).Perm (ctor ++ opts.flatMap MdOption.values) := by
  unfold mdNew
  simp only [foldl_append_perm]
  simpa using apply_fold opts ⟨ctor, []⟩

/-- append to a possibly-nil list; appending nothing keeps nil -/
def appendOpt {α} (o : Option (List α)) : List α → Option (List α)
  | [] => o
  | l => some (o.getD [] ++ l)

theorem appendOpt_appendOpt {α} (o : Option (List α)) (l₁ l₂ : List α) :
    appendOpt (appendOpt o l₁) l₂ = appendOpt o (l₁ ++ l₂) := by
  cases l₁ <;> cases l₂ <;> simp [appendOpt]

theorem push_fold {α} (p : α) (tcs : Bytes) (t : Tab α) (b : UInt8) :
    (tcs.foldl (fun tab tc => Tab.push tab tc p) t) b = appendOpt (t b) (List.replicate (tcs.count b) p) := by
  induction tcs generalizing t with
  | nil => simp [appendOpt]
  | cons tc rest ih =>
    rw [List.foldl_cons, ih]
    by_cases h : b = tc
    · subst h
      simp only [Tab.push, if_true, List.count_cons_self, List.replicate_succ]
      cases hr : List.replicate (List.count b rest) p <;> simp [appendOpt]
    · have h' : ¬ (tc == b) = true := by simpa using fun e => h e.symm
      simp [Tab.push, h, List.count_cons, h']

theorem addBlock_fold (ps : List BlockParser) (t : BlockTables) :
    let r := ps.foldl addBlockParser t
    (∀ b, r.tab b = appendOpt (t.tab b) (triggered b ps)) ∧ r.free = t.free ++ frees ps := by
  induction ps generalizing t with
  | nil => simp [triggered, frees, appendOpt]
  | cons p rest ih =>
    simp only [List.foldl_cons]
    have := ih (addBlockParser t p)
    refine ⟨fun b => ?_, ?_⟩
    · rw [this.1 b]
      unfold addBlockParser
      cases hp : p.trig with
      | none => simp [triggered, occ, hp, appendOpt]
      | some tcs =>
        simp only [push_fold, triggered, List.flatMap_cons, occ, hp, Option.getD_some]
        rw [appendOpt_appendOpt]
    · rw [this.2]
      unfold addBlockParser
      cases hp : p.trig with
      | none => simp [frees, hp]
      | some tcs => simp [frees, hp]

theorem foldl_map_val {α β} (f : β → α → β) (l : List (PV α)) (b : β) :
    l.foldl (fun t v => f t v.val) b = (l.map (·.val)).foldl f b := by
  rw [List.foldl_map]

/-- `trigger_table`: the list for byte `b` is nil when nobody is triggered by `b`, otherwise the triggered
    parsers in sorted order followed by all free parsers in sorted order. -/
theorem buildBlock_tab (sorted : List (PV BlockParser)) (b : UInt8) :
    (buildBlock sorted).tab b =
      match triggered b (sorted.map (·.val)) with
      | [] => none
      | l => some (l ++ frees (sorted.map (·.val))) := by
  unfold buildBlock
  simp only [foldl_map_val]
  have := addBlock_fold (sorted.map (·.val)) ⟨Tab.empty, []⟩
  simp only at this
  rw [this.1 b, this.2]
  cases h : triggered b (sorted.map (·.val)) <;> simp [appendOpt, Tab.empty]

theorem buildBlock_free (sorted : List (PV BlockParser)) :
    (buildBlock sorted).free = frees (sorted.map (·.val)) := by
  unfold buildBlock
  simp only [foldl_map_val]
  have := addBlock_fold (sorted.map (·.val)) ⟨Tab.empty, []⟩
  simpa using this.2

theorem lookupBlock_spec (sorted : List (PV BlockParser)) (c : Option UInt8) :
    lookupBlock (buildBlock sorted) c =
      match c with
      | none => frees (sorted.map (·.val))
      | some b => match triggered b (sorted.map (·.val)) with
        | [] => frees (sorted.map (·.val))
        | l => l ++ frees (sorted.map (·.val)) := by
  unfold lookupBlock
  cases c with
  | none => simp [buildBlock_free]
  | some b =>
    simp only [buildBlock_tab, buildBlock_free]
    cases triggered b (sorted.map (·.val)) <;> simp

/-- when no parser names a byte twice, "triggered" is a plain filter -/
theorem triggered_eq_filter (b : UInt8) (ps : List BlockParser)
    (h : ∀ p ∈ ps, (p.trig.getD []).Nodup) :
    triggered b ps = ps.filter (fun p => (p.trig.getD []).contains b) := by
  induction ps with
  | nil => rfl
  | cons p rest ih =>
    have hp := h p List.mem_cons_self
    have ih := ih (fun q hq => h q (List.mem_cons_of_mem _ hq))
    simp only [triggered, List.flatMap_cons, List.filter_cons] at ih ⊢
    rw [ih]
    by_cases hb : b ∈ p.trig.getD []
    · have : (p.trig.getD []).count b = 1 := by rw [hp.count]; simp [hb]
      simp [occ, this, hb]
    · have : (p.trig.getD []).count b = 0 := List.count_eq_zero.mpr hb
      simp [occ, this, hb]

/-- only the registrations triggered by `b` matter for the list of `b` -/
theorem triggered_filter (b : UInt8) (l : List (PV BlockParser)) :
    triggered b (l.map (·.val)) =
      triggered b ((l.filter (fun v => (v.val.trig.getD []).contains b)).map (·.val)) := by
  induction l with
  | nil => rfl
  | cons v rest ih =>
    simp only [triggered, List.map_cons, List.flatMap_cons, List.filter_cons] at ih ⊢
    by_cases hb : b ∈ v.val.trig.getD []
    · simp [hb, ih]
    · have : (v.val.trig.getD []).count b = 0 := List.count_eq_zero.mpr hb
      simp [hb, ih, occ, this]

theorem frees_filter (l : List (PV BlockParser)) :
    frees (l.map (·.val)) = (l.filter (fun v => v.val.trig.isNone)).map (·.val) := by
  simp [frees, List.filter_map, Function.comp_def]

theorem addInline_fold (ps : List InlineParser) (t : Tab InlineParser) (b : UInt8) :
    (ps.foldl addInlineParser t) b = appendOpt (t b) (triggeredI b ps) := by
  induction ps generalizing t with
  | nil => simp [triggeredI, appendOpt]
  | cons p rest ih =>
    simp only [List.foldl_cons, ih, addInlineParser, push_fold, triggeredI, List.flatMap_cons]
    rw [appendOpt_appendOpt]

theorem buildInline_tab (sorted : List (PV InlineParser)) (b : UInt8) :
    (buildInline sorted) b =
      match triggeredI b (sorted.map (·.val)) with
      | [] => none
      | l => some l := by
  unfold buildInline
  rw [foldl_map_val, addInline_fold]
  cases triggeredI b (sorted.map (·.val)) <;> simp [appendOpt, Tab.empty]

/-! ### first accept wins -/

theorem consult_spec {α} (skip accept : α → Bool) (ps : List α) :
    consult skip accept ps =
      (((ps.takeWhile (fun p => skip p || !accept p)).filter (fun p => !skip p)) ++
          (ps.find? (fun p => !skip p && accept p)).toList,
        ps.find? (fun p => !skip p && accept p)) := by
  induction ps with
  | nil => rfl
  | cons p rest ih =>
    unfold consult
    by_cases hs : skip p = true
    · simp [hs, ih]
    · by_cases ha : accept p = true
      · simp [hs, ha]
      · simp [hs, ha, ih]

theorem consult_map {α β} (f : α → β) (skip accept : β → Bool) (l : List α) :
    consult skip accept (l.map f) =
      ((consult (fun a => skip (f a)) (fun a => accept (f a)) l).1.map f,
       (consult (fun a => skip (f a)) (fun a => accept (f a)) l).2.map f) := by
  induction l with
  | nil => rfl
  | cons a t ih =>
    simp only [List.map_cons]
    unfold consult
    by_cases hs : skip (f a) = true
    · simp only [hs, if_true]; exact ih
    · by_cases ha : accept (f a) = true
      · simp [hs, ha]
      · simp only [hs, ha, if_false, Bool.false_eq_true]
        rw [ih]; rfl

theorem consult_asked_sublist {α} (skip accept : α → Bool) (ps : List α) :
    (consult skip accept ps).1.Sublist ps := by
  induction ps with
  | nil => exact List.Sublist.refl _
  | cons p rest ih =>
    unfold consult
    split
    · exact ih.cons p
    · split
      · exact (List.nil_sublist rest).cons_cons p
      · exact ih.cons_cons p

theorem registerFuncs_fold (ks : List Nat) (id : Nat) (s : RegState) :
    let r := ks.foldl (fun s k => register s k id) s
    (∀ k, r.tmp k = if k ∈ ks then some id else s.tmp k) ∧ s.maxKind ≤ r.maxKind ∧
      (∀ k ∈ ks, k ≤ r.maxKind) := by
  induction ks generalizing s with
  | nil => simp
  | cons k0 rest ih =>
    simp only [List.foldl_cons]
    have := ih (register s k0 id)
    have h0 : s.maxKind ≤ (register s k0 id).maxKind ∧ k0 ≤ (register s k0 id).maxKind := by
      simp only [register]; split <;> omega
    refine ⟨fun k => ?_, ?_, ?_⟩
    · rw [this.1 k]
      by_cases h1 : k ∈ rest
      · simp [h1]
      · by_cases h2 : k = k0
        · simp [h2, register]
        · simp [h1, h2, register]
    · exact Nat.le_trans h0.1 this.2.1
    · intro k hk
      rcases List.mem_cons.mp hk with rfl | hk
      · exact Nat.le_trans h0.2 this.2.1
      · exact this.2.2 k hk

/-- state after registering the renderers of `l` from the last to the first -/
def regAll (l : List (PV NodeRenderer)) : RegState :=
  l.foldr (fun v s => registerFuncs s v.val) ⟨fun _ => none, 0⟩

theorem regAll_spec (l : List (PV NodeRenderer)) :
    (∀ k, (regAll l).tmp k = ((l.filter (fun v => v.val.kinds.contains k)).head?).map (·.val.id)) ∧
    (∀ k, (regAll l).tmp k ≠ none → k ≤ (regAll l).maxKind) := by
  induction l with
  | nil => simp [regAll]
  | cons v rest ih =>
    have hf := registerFuncs_fold v.val.kinds v.val.id (regAll rest)
    have e : regAll (v :: rest) = registerFuncs (regAll rest) v.val := rfl
    simp only [] at hf
    refine ⟨fun k => ?_, fun k hk => ?_⟩
    · rw [e]; unfold registerFuncs; rw [hf.1 k]
      by_cases h : k ∈ v.val.kinds
      · simp [h]
      · simp [h, ih.1 k]
    · rw [e] at hk ⊢; unfold registerFuncs at hk ⊢; rw [hf.1 k] at hk
      by_cases h : k ∈ v.val.kinds
      · exact hf.2.2 k h
      · simp only [h, if_false] at hk
        exact Nat.le_trans (ih.2 k hk) hf.2.1

theorem buildRenderer_eq (sorted : List (PV NodeRenderer)) :
    buildRenderer sorted = (List.range ((regAll sorted).maxKind + 1)).map (regAll sorted).tmp := by
  unfold buildRenderer regAll
  rw [List.foldl_reverse]

/-- The function table, read through the bounds-checked lookup, maps a kind to the FIRST renderer (in sorted,
    i.e. ascending, order) that registers the kind — inside and beyond the slice alike. -/
theorem dispatch_build (sorted : List (PV NodeRenderer)) (k : Nat) :
    dispatchKind (buildRenderer sorted) k =
      ((sorted.filter (fun v => v.val.kinds.contains k)).head?).map (·.val.id) := by
  rw [buildRenderer_eq]
  have sp := regAll_spec sorted
  unfold dispatchKind
  split
  · rename_i h
    simp [sp.1 k]
  · rename_i h
    rw [← sp.1 k]
    simp only [List.length_map, List.length_range] at h
    cases hk : (regAll sorted).tmp k with
    | none => rfl
    | some id =>
      have := sp.2 k (by simp [hk])
      omega

theorem dispatch_beyond (table : List (Option Nat)) (k : Nat) (h : table.length ≤ k) :
    dispatchKind table k = none := by
  unfold dispatchKind
  split
  · omega
  · rfl

theorem head_of_sorted_min {α} {F : List (PV α)} (asc : Ascending F) {m : PV α} (hm : m ∈ F)
    (hmin : ∀ v ∈ F, v ≠ m → m.prio < v.prio) : F.head? = some m := by
  cases F with
  | nil => cases hm
  | cons h t =>
    simp only [List.head?_cons, Option.some.injEq]
    apply Classical.byContradiction
    intro hne
    have h1 := hmin h List.mem_cons_self hne
    rcases List.mem_cons.mp hm with rfl | hmt
    · exact hne rfl
    · have := (List.pairwise_cons.mp asc).1 m hmt
      omega

theorem walk_missing (table : List (Option Nat)) (script : Nat → Nat → Bool → Status) (k : Nat)
    (cs : List Tree) (h : dispatchKind table k = none) :
    walk table script (.node k cs) =
      ((walkList table script cs).1, if (walkList table script cs).2 = .stop then .stop else .continue) := by
  rw [walk]
  simp only [callRenderer, h]
  simp
  split <;> rfl

/-! ### combined statements used by Props/C20 -/

/-- with pairwise distinct priorities the sorted configuration IS the ascending arrangement `t` -/
theorem sorted_is_the_ascending {α} {s : List (PV α) → List (PV α)} (c : SortContract s)
    {l t : List (PV α)} (p : t.Perm l) (asc : Ascending t)
    (d : l.Pairwise (fun a b => a.prio ≠ b.prio)) : s l = t :=
  strict_perm_unique ((c.perm l).trans p.symm)
    (asc_distinct_strict (c.asc l) (distinct_perm (c.perm l).symm d))
    (asc_distinct_strict asc (distinct_perm p.symm d))

def hasTrig (b : UInt8) (v : PV BlockParser) : Bool := (v.val.trig.getD []).contains b
def isFree (v : PV BlockParser) : Bool := v.val.trig.isNone

theorem lookup_via_filters (sorted : List (PV BlockParser)) (c : Option UInt8) :
    lookupBlock (buildBlock sorted) c =
      match c with
      | none => (sorted.filter isFree).map (·.val)
      | some b => match triggered b ((sorted.filter (hasTrig b)).map (·.val)) with
        | [] => (sorted.filter isFree).map (·.val)
        | l => l ++ (sorted.filter isFree).map (·.val) := by
  rw [lookupBlock_spec]
  cases c with
  | none => simp only [frees_filter]; rfl
  | some b =>
    simp only [frees_filter]
    rw [triggered_filter]
    rfl

/-- equal priorities are harmless unless two parsers of the same list share them -/
theorem ties_harmless_lookup {s₁ s₂ : List (PV BlockParser) → List (PV BlockParser)}
    (c₁ : SortContract s₁) (c₂ : SortContract s₂) {l₁ l₂ : List (PV BlockParser)} (p : l₁.Perm l₂)
    (dt : ∀ b, (l₁.filter (hasTrig b)).Pairwise (fun a b => a.prio ≠ b.prio))
    (df : (l₁.filter isFree).Pairwise (fun a b => a.prio ≠ b.prio)) (c : Option UInt8) :
    lookupBlock (buildBlock (s₁ l₁)) c = lookupBlock (buildBlock (s₂ l₂)) c := by
  rw [lookup_via_filters, lookup_via_filters]
  rw [sorted_filter_unique c₁ c₂ p isFree df]
  cases c with
  | none => rfl
  | some b => simp only [sorted_filter_unique c₁ c₂ p (hasTrig b) (dt b)]

theorem triggered_mem {b : UInt8} {ps : List BlockParser} {p : BlockParser} (h : p ∈ triggered b ps) :
    p ∈ ps ∧ b ∈ p.trig.getD [] := by
  simp only [triggered, List.mem_flatMap, occ] at h
  obtain ⟨q, hq, hp⟩ := h
  have := List.mem_replicate.mp hp
  obtain ⟨hne, rfl⟩ := this
  refine ⟨hq, ?_⟩
  apply Classical.byContradiction
  intro hn
  exact hne (List.count_eq_zero.mpr hn)

theorem renderer_min {s : List (PV NodeRenderer) → List (PV NodeRenderer)} (c : SortContract s)
    (l : List (PV NodeRenderer)) (k : Nat) (m : PV NodeRenderer) (hm : m ∈ l) (hk : k ∈ m.val.kinds)
    (hmin : ∀ v ∈ l, k ∈ v.val.kinds → v ≠ m → m.prio < v.prio) :
    dispatchKind (buildRenderer (s l)) k = some m.val.id := by
  rw [dispatch_build]
  have hF : ((s l).filter (fun v => v.val.kinds.contains k)).head? = some m := by
    apply head_of_sorted_min ((c.asc l).filter _)
    · exact List.mem_filter.mpr ⟨(c.perm l).mem_iff.mpr hm, by simpa using hk⟩
    · intro v hv hne
      have hv' := List.mem_filter.mp hv
      exact hmin v ((c.perm l).mem_iff.mp hv'.1) (by simpa using hv'.2) hne
  rw [hF]; rfl

theorem dispatch_none_iff {s : List (PV NodeRenderer) → List (PV NodeRenderer)} (c : SortContract s)
    (l : List (PV NodeRenderer)) (k : Nat) :
    dispatchKind (buildRenderer (s l)) k = none ↔ ∀ v ∈ l, k ∉ v.val.kinds := by
  rw [dispatch_build]
  constructor
  · intro h v hv hk
    have : v ∈ (s l).filter (fun v => v.val.kinds.contains k) :=
      List.mem_filter.mpr ⟨(c.perm l).mem_iff.mpr hv, by simpa using hk⟩
    cases hf : (s l).filter (fun v => v.val.kinds.contains k) with
    | nil => rw [hf] at this; cases this
    | cons a t => rw [hf] at h; simp at h
  · intro h
    have : (s l).filter (fun v => v.val.kinds.contains k) = [] := by
      apply List.filter_eq_nil_iff.mpr
      intro v hv
      simpa using h v ((c.perm l).mem_iff.mp hv)
    rw [this]; rfl

theorem asked_by_priority {s : List (PV BlockParser) → List (PV BlockParser)} (c : SortContract s)
    (config : List (PV BlockParser)) (b : UInt8) (nodup : ∀ v ∈ config, (v.val.trig.getD []).Nodup)
    (skip accept : BlockParser → Bool) :
    ∃ A : List (PV BlockParser),
      (consult skip accept (lookupBlock (buildBlock (s config)) (some b))).1 = A.map (·.val) ∧
      (∀ a ∈ A, a ∈ config) ∧ A.Pairwise AskedBefore := by
  let T := (s config).filter (hasTrig b)
  let F := (s config).filter isFree
  have hl : lookupBlock (buildBlock (s config)) (some b) = (T ++ F).map (·.val) := by
    rw [lookup_via_filters]
    have hn : ∀ p ∈ ((s config).filter (hasTrig b)).map (·.val), (p.trig.getD []).Nodup := by
      intro p hp
      obtain ⟨v, hv, rfl⟩ := List.mem_map.mp hp
      exact nodup v ((c.perm config).mem_iff.mp (List.mem_filter.mp hv).1)
    simp only [triggered_eq_filter b _ hn]
    have e : List.filter (fun p => (p.trig.getD []).contains b) (((s config).filter (hasTrig b)).map (·.val))
        = T.map (·.val) := by
      simp only [T, List.filter_map, Function.comp_def, List.filter_filter]
      congr 1
      apply List.filter_congr
      intro x _
      simp [hasTrig]
    rw [e]
    cases hT : T.map (·.val) with
    | nil =>
      have : T = [] := by simpa using hT
      simp [this, F]
    | cons a t => simp [← hT, F]
  refine ⟨(consult (fun a => skip a.val) (fun a => accept a.val) (T ++ F)).1, ?_, ?_, ?_⟩
  · rw [hl, consult_map]
  · intro a ha
    have h1 := (consult_asked_sublist (fun a => skip a.val) (fun a => accept a.val) (T ++ F)).subset ha
    rcases List.mem_append.mp h1 with h | h
    · exact (c.perm config).mem_iff.mp (List.mem_filter.mp h).1
    · exact (c.perm config).mem_iff.mp (List.mem_filter.mp h).1
  · apply List.Pairwise.sublist (consult_asked_sublist _ _ _)
    rw [List.pairwise_append]
    have hT : ∀ a ∈ T, a.val.trig.isNone = false := by
      intro a ha
      have := (List.mem_filter.mp ha).2
      simp only [hasTrig] at this
      cases h : a.val.trig with
      | none => simp [h] at this
      | some _ => rfl
    have hF : ∀ a ∈ F, a.val.trig.isNone = true := fun a ha => (List.mem_filter.mp ha).2
    refine ⟨?_, ?_, ?_⟩
    · have asc : Ascending T := (c.asc config).filter _
      unfold Ascending at asc
      refine (List.Pairwise.and_mem.mp asc).imp ?_
      intro a b' h
      unfold AskedBefore
      exact ⟨fun ha => (by rw [hT a h.1] at ha; cases ha), fun _ => h.2.2⟩
    · have asc : Ascending F := (c.asc config).filter _
      unfold Ascending at asc
      refine (List.Pairwise.and_mem.mp asc).imp ?_
      intro a b' h
      unfold AskedBefore
      exact ⟨fun _ => hF b' h.2.1, fun _ => h.2.2⟩
    · intro a ha b' hb
      unfold AskedBefore
      exact ⟨fun h => (by rw [hT a ha] at h; cases h), fun h => (by rw [hT a ha, hF b' hb] at h; cases h)⟩

end GM.Proof.Registry
