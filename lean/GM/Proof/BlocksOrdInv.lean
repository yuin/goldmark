/-
  GM.Proof.BlocksOrdInv — the node-store invariant `Inv src B s` of the ORDER proof (lines of every block increase and end at or before the bound `B`) and its preservation by every
  `Close` function and by `closeBlocks`; then the steps that write one node only (`OnlyN`) and the frame of `Continue` of the raw leaves.
-/
import GM.Proof.BlocksOrdCopy
import GM.Proof.BlocksOrdPar
import GM.Proof.BlocksDriverC
import GM.Proof.BlocksCloseRange

section BlocksOrdInv
/-
  The node-store invariant of the ORDER proof and its preservation by every `Close` function
  and by `closeBlocks`.

  `Inv src B s`: (1) every block that is not raw (`!IsRaw()`: everything but CodeBlock / FencedCodeBlock / HTMLBlock) has
  lines that increase from 0 and all end at or before `B` (`NodeB`, which also says what holds of the other kinds);
  (2) a Paragraph has ≥ 1 line and none that is blank; (3) `temporaryParagraphKey`
  points to a Paragraph; (4) every entry of `pc.openedBlocks` has the kind its parser builds; (5) `NodesOK`.
  `B` is the start of the current source line while nothing has been appended on it ("clean"), afterwards the end of the
  line. The `Close` functions only trim, cut, and copy (GM.Proof.BlocksOrdPar / BlocksOrdCopy), so they keep `Inv src B`
  for every `B`.
-/

namespace GM.Blocks
open GM GM.Text GM.Spec GM.Proof.Reader
open GM.Proof.BlocksWF0 (isRaw)

/-- the kinds whose nodes never carry lines: Document, Blockquote, List, ListItem, ThematicBreak -/
def noLinesKind : Kind → Bool
  | .document | .blockquote | .list | .listItem | .thematicBreak => true
  | _ => false

theorem noLinesKind_of_raw {k : Kind} (h : isRaw k = true) : noLinesKind k = false := by
  cases k <;> first | rfl | exact absurd h (by decide)

/-- a block that is not raw has increasing lines that end at or before `B` (of non-empty segments); a raw block has
    increasing lines that end at or before `B`; a container or thematic break has no lines -/
def NodeB (B : Int) (n : Node) : Prop :=
  (isRaw n.kind = false →
    OrdFrom 0 n.lines ∧ Below B n.lines ∧ ∀ t ∈ n.lines, t.start < t.stop ∧ t.forceNewline = false) ∧
  (isRaw n.kind = true → OrdFrom 0 n.lines ∧ Below B n.lines) ∧
  (noLinesKind n.kind = true → n.lines = [])

theorem NodeB.congr {B : Int} {n n' : Node} (hk : n'.kind = n.kind) (hl : n'.lines = n.lines) (h : NodeB B n) :
    NodeB B n' := by
  unfold NodeB at *
  rw [hk, hl]; exact h

theorem NodeB.nil (B : Int) {n : Node} (h : n.lines = []) : NodeB B n := by
  unfold NodeB
  rw [h]
  exact ⟨fun _ => ⟨trivial, Below.nil B, fun t ht => by cases ht⟩, fun _ => ⟨trivial, Below.nil B⟩, fun _ => rfl⟩


structure Inv (src : Bytes) (B : Int) (s : St) : Prop where
  nrb : ∀ i, NodeB B (nd s i)
  pne : ∀ i, (nd s i).kind = .paragraph → (nd s i).lines ≠ []
  pnb : ∀ i, (nd s i).kind = .paragraph → ∀ t ∈ (nd s i).lines, NonBlankSeg src t
  tmpk : ∀ t, s.pc.tmpPara = some t → (nd s t).kind = .paragraph
  kinds : ∀ b ∈ s.pc.opened, (nd s b.node).kind = b.bp.kind ∧ b.node < s.nodes.length
  nodes : NodesOK src s

theorem NodeB.mono {B B' : Int} (h : B ≤ B') {n : Node} (hn : NodeB B n) : NodeB B' n :=
  ⟨fun hr => ⟨(hn.1 hr).1, (hn.1 hr).2.1.mono h, (hn.1 hr).2.2⟩, fun hr => ⟨(hn.2.1 hr).1, (hn.2.1 hr).2.mono h⟩,
    hn.2.2⟩

theorem Inv.mono {src : Bytes} {B B' : Int} {s : St} (h : B ≤ B') (hi : Inv src B s) : Inv src B' s :=
  ⟨fun i => (hi.nrb i).mono h, hi.pne, hi.pnb, hi.tmpk, hi.kinds, hi.nodes⟩

theorem mem_nodes_nd {s : St} {n : Node} (h : n ∈ s.nodes) : ∃ i, i < s.nodes.length ∧ n = nd s i := by
  obtain ⟨i, hi, e⟩ := List.getElem_of_mem h
  exact ⟨i, hi, by simp [nd, List.getD_eq_getElem?_getD, List.getElem?_eq_getElem hi, e]⟩

theorem Inv.congr_r {src : Bytes} {B : Int} {s : St} (hi : Inv src B s) (r' : Reader) : Inv src B { s with r := r' } :=
  ⟨hi.nrb, hi.pne, hi.pnb, hi.tmpk, hi.kinds, hi.nodes⟩

/-- of the context only `tmpPara` and `opened` matter -/
theorem Inv.congr_pc {src : Bytes} {B : Int} {s : St} (hi : Inv src B s) (pc' : Ctx) (ht : pc'.tmpPara = s.pc.tmpPara)
    (ho : ∀ b ∈ pc'.opened, b ∈ s.pc.opened) : Inv src B { s with pc := pc' } :=
  ⟨hi.nrb, hi.pne, hi.pnb, fun t h => hi.tmpk t (by rw [← ht]; exact h), fun b hb => hi.kinds b (ho b hb), hi.nodes⟩

theorem Inv.lk {src : Bytes} {B : Int} {s s' : St} (hi : Inv src B s) (h : LK s s') : Inv src B s' := by
  refine ⟨fun i => ?_, fun i hk => ?_, fun i hk => ?_, fun t ht => ?_, fun b hb => ?_, fun n hn => ?_⟩
  · exact (hi.nrb i).congr (h.same i).2.2 (h.same i).1
  · rw [(h.same i).2.2] at hk; rw [(h.same i).1]; exact hi.pne i hk
  · rw [(h.same i).2.2] at hk; rw [(h.same i).1]; exact hi.pnb i hk
  · rw [h.pc] at ht; rw [(h.same t).2.2]; exact hi.tmpk t ht
  · rw [h.pc] at hb; rw [(h.same _).2.2, h.len]; exact hi.kinds b hb
  · obtain ⟨i, _, rfl⟩ := mem_nodes_nd hn
    have := nodeOK_nd hi.nodes i
    exact ⟨by rw [(h.same i).1]; exact this.lines, by rw [(h.same i).1, (h.same i).2.1]; exact this.nil⟩

/-- one node gets a new line list (everything else of every node that `Inv` looks at stays) -/
structure LinesAt (X : Nat) (ls : List Segment) (s s' : St) : Prop where
  len : s'.nodes.length = s.nodes.length
  kind : ∀ i, (nd s' i).kind = (nd s i).kind
  other : ∀ i, i ≠ X → (nd s' i).lines = (nd s i).lines ∧ (nd s' i).linesNil = (nd s i).linesNil
  lines : (nd s' X).lines = ls
  nil : (nd s' X).linesNil = true → ls = []
  r : s'.r = s.r
  tmp : ∀ t, s'.pc.tmpPara = some t → s.pc.tmpPara = some t
  opened : s'.pc.opened = s.pc.opened

theorem Inv.linesAt {src : Bytes} {B : Int} {s s' : St} {X : Nat} {ls : List Segment} (hi : Inv src B s)
    (h : LinesAt X ls s s')
    (hb : isRaw (nd s X).kind = false → OrdFrom 0 ls ∧ Below B ls ∧ ∀ t ∈ ls, t.start < t.stop ∧ t.forceNewline = false)
    (hp : (nd s X).kind = .paragraph → ls ≠ [] ∧ ∀ t ∈ ls, NonBlankSeg src t) (hok : LinesOK src ls)
    (hrw : isRaw (nd s X).kind = true → OrdFrom 0 ls ∧ Below B ls)
    (hnl : noLinesKind (nd s X).kind = true → ls = []) : Inv src B s' := by
  refine ⟨fun i => ?_, fun i hk => ?_, fun i hk => ?_, fun t ht => ?_, fun b hbm => ?_, fun n hn => ?_⟩
  · by_cases hx : i = X
    · subst hx
      unfold NodeB
      rw [h.kind i, h.lines]
      exact ⟨hb, hrw, hnl⟩
    · exact (hi.nrb i).congr (h.kind i) (h.other i hx).1
  · rw [h.kind i] at hk
    by_cases hx : i = X
    · subst hx; rw [h.lines]; exact (hp hk).1
    · rw [(h.other i hx).1]; exact hi.pne i hk
  · rw [h.kind i] at hk
    by_cases hx : i = X
    · subst hx; rw [h.lines]; exact (hp hk).2
    · rw [(h.other i hx).1]; exact hi.pnb i hk
  · rw [h.kind t]; exact hi.tmpk t (h.tmp t ht)
  · rw [h.opened] at hbm; rw [h.kind, h.len]; exact hi.kinds b hbm
  · obtain ⟨i, _, rfl⟩ := mem_nodes_nd hn
    by_cases hx : i = X
    · subst hx; exact ⟨by rw [h.lines]; exact hok, fun hn => by rw [h.lines]; exact h.nil hn⟩
    · have := nodeOK_nd hi.nodes i
      exact ⟨by rw [(h.other i hx).1]; exact this.lines, by rw [(h.other i hx).1, (h.other i hx).2]; exact this.nil⟩

theorem linesAt_upd (s : St) (X : Nat) (ls : List Segment) (hx : X < s.nodes.length)
    (hnil : (nd s X).linesNil = true → ls = []) :
    LinesAt X ls s { s with nodes := s.nodes.set X { (nd s X) with lines := ls } } := by
  have hnd : ∀ i, nd ({ s with nodes := s.nodes.set X { (nd s X) with lines := ls } } : St) i =
      if i = X then { (nd s X) with lines := ls } else nd s i := by
    intro i
    have : nd ({ s with nodes := s.nodes.set X { (nd s X) with lines := ls } } : St) i =
        nd (upd s X fun n => { n with lines := ls }) i := rfl
    rw [this, nd_upd]
    by_cases hi : i = X
    · subst hi; simp [hx]
    · have : ¬ (X = i ∧ X < s.nodes.length) := fun hh => hi hh.1.symm
      rw [if_neg this, if_neg hi]
  refine ⟨by simp, fun i => ?_, fun i hi => ?_, ?_, ?_, rfl, fun _ h => h, rfl⟩
  · rw [hnd]; split
    · next h => rw [h]
    · rfl
  · rw [hnd, if_neg hi]; exact ⟨rfl, rfl⟩
  · rw [hnd, if_pos rfl]
  · rw [hnd, if_pos rfl]; exact hnil

/-- the store does not shrink and existing nodes keep their kind -/
def KG (s s' : St) : Prop := s.nodes.length ≤ s'.nodes.length ∧ ∀ i, i < s.nodes.length → (nd s' i).kind = (nd s i).kind

theorem KG.refl (s : St) : KG s s := ⟨Nat.le_refl _, fun _ _ => rfl⟩
theorem KG.trans {a b c : St} (h1 : KG a b) (h2 : KG b c) : KG a c :=
  ⟨Nat.le_trans h1.1 h2.1, fun i hi => (h2.2 i (Nat.lt_of_lt_of_le hi h1.1)).trans (h1.2 i hi)⟩
theorem LinesAt.kg {X : Nat} {ls : List Segment} {s s' : St} (h : LinesAt X ls s s') : KG s s' :=
  ⟨by rw [h.len]; exact Nat.le_refl _, fun i _ => h.kind i⟩
theorem Copies.kg {s s' : St} (h : Copies s s') : KG s s' := ⟨h.len, fun i hi => (h.old i hi).2.2⟩
theorem LK.kg {s s' : St} (h : LK s s') : KG s s' := ⟨by rw [h.len]; exact Nat.le_refl _, fun i _ => (h.same i).2.2⟩
theorem KG.of_nodes {s s' : St} (h : s'.nodes = s.nodes) : KG s s' := ⟨by rw [h]; exact Nat.le_refl _, fun i _ => by simp only [nd, h]⟩

theorem paragraphClose_inv {src : Bytes} {B : Int} {s s' : St} {node : Nat} (hi : Inv src B s) (hsrc : s.r.source = src)
    (hk : (nd s node).kind = .paragraph) (hlt : node < s.nodes.length)
    (e : paragraphClose node s = .ok ((), s')) : Inv src B s' ∧ s'.r = s.r ∧ s'.pc = s.pc ∧ KG s s' := by
  have hne := hi.pne node hk
  have hl : LinesOK src (nd s node).lines := (nodeOK_nd hi.nodes node).lines
  obtain ⟨hr, hpc, ls, hok, hsh, hpf, hnbl, hn⟩ := (paragraphClose_lines node hsrc hl hne).of_ok e
  have hall := hnbl (hi.pnb node hk)
  have hnb := (hi.nrb node).1 (by rw [hk]; rfl)
  have hs' : s' = { s with nodes := s.nodes.set node { (nd s node) with lines := ls } } := by
    cases s'; simp only at hr hpc hn; subst hr hpc hn; rfl
  have hlen := hsh.length
  have hlsne : ls ≠ [] := by
    intro e0; rw [e0] at hlen; exact hne (List.length_eq_zero_iff.1 hlen.symm)
  have hla := linesAt_upd s node ls hlt (fun hn0 => absurd ((nodeOK_nd hi.nodes node).nil hn0) hne)
  rw [← hs'] at hla
  exact ⟨hi.linesAt hla (fun _ => ⟨OrdFrom.shrinks hsh hnb.1, Below.shrinks hsh hnb.2.1,
      fun t ht => ⟨(hall t ht).2, (hpf t ht).2⟩⟩) (fun _ => ⟨hlsne, fun t ht => (hall t ht).1⟩) hok
      (fun hr => by rw [hk] at hr; cases hr) (fun hr => by rw [hk] at hr; cases hr), hr, hpc, hla.kg⟩

theorem codeClose_inv {src : Bytes} {B : Int} {s s' : St} {node : Nat} (hi : Inv src B s)
    (hk : (nd s node).kind = .codeBlock) (hlt : node < s.nodes.length)
    (e : codeClose node s = .ok ((), s')) : Inv src B s' ∧ s'.r = s.r ∧ s'.pc = s.pc ∧ KG s s' := by
  unfold codeClose at e
  obtain ⟨n, s1, h1, k1⟩ := bind_ok e
  obtain ⟨rfl, hs1⟩ := getNode_ok h1
  subst s1
  obtain ⟨src', s2, h2, k2⟩ := bind_ok k1
  have hs2 : s2 = s := by cases h2; rfl
  subst s2
  obtain ⟨len, s3, h3, k3⟩ := bind_ok k2
  obtain ⟨_, hs3⟩ := liftE_ok h3
  subst s3
  dsimp only at k3
  split at k3
  · obtain ⟨_, _, ht, _⟩ := bind_ok k3; cases ht
  have e4 := modNode_ok k3
  have hs' : s' = { s with nodes := s.nodes.set node { (nd s node) with lines := (nd s node).lines.take (len + 1).toNat } } := e4
  have hok := (nodeOK_nd hi.nodes node)
  have hla := linesAt_upd s node ((nd s node).lines.take (len + 1).toNat) hlt (fun hn0 => by rw [hok.nil hn0]; simp)
  rw [← hs'] at hla
  have hrawn := (hi.nrb node).2.1 (by rw [hk]; rfl)
  exact ⟨hi.linesAt hla (fun hr => by rw [hk] at hr; cases hr) (fun hp => by rw [hk] at hp; cases hp)
    (fun t ht => hok.lines t (List.mem_of_mem_take ht))
    (fun _ => ⟨OrdFrom.take _ hrawn.1, fun t ht => hrawn.2 t (List.mem_of_mem_take ht)⟩)
    (fun hr => by rw [hk] at hr; cases hr), by rw [hs'], by rw [hs'], hla.kg⟩

theorem fencedClose_inv {src : Bytes} {B : Int} {s s' : St} {node : Nat} (hi : Inv src B s)
    (e : fencedClose node s = .ok ((), s')) : Inv src B s' ∧ s'.r = s.r ∧ s'.pc.opened = s.pc.opened ∧ KG s s' := by
  unfold fencedClose at e
  obtain ⟨pc, s1, h1, k1⟩ := bind_ok e
  obtain ⟨rfl, hs1⟩ := getPc_ok h1
  subst s1
  cases hf : s.pc.fence with
  | none => rw [hf] at k1; cases k1
  | some f =>
    rw [hf] at k1
    dsimp only at k1
    split at k1
    · have := modPc_ok k1
      subst this
      exact ⟨hi.congr_pc _ rfl (fun b hb => hb), rfl, rfl, KG.refl _⟩
    · obtain ⟨_, hs⟩ := pure_ok k1
      subst s'
      exact ⟨hi, rfl, rfl, KG.refl _⟩

theorem listClose_inv {src : Bytes} {B : Int} {s s' : St} {node : Nat} (hi : Inv src B s)
    (e : listClose node s = .ok ((), s')) : Inv src B s' ∧ s'.r = s.r ∧ s'.pc = s.pc ∧ KG s s' := by
  have hc := listClose_copies e
  refine ⟨⟨fun i => ?_, fun i hk => ?_, fun i hk => ?_, fun t ht => ?_, fun b hb => ?_, fun n hn => ?_⟩, hc.r, hc.pc, hc.kg⟩
  · rcases Nat.lt_or_ge i s.nodes.length with h | h
    · obtain ⟨x1, _, x3⟩ := hc.old i h
      exact (hi.nrb i).congr x3 x1
    · rcases Nat.lt_or_ge i s'.nodes.length with h' | h'
      · obtain ⟨hkn, j, hj, hjk, hl, _⟩ := hc.new i h h'
        unfold NodeB
        rw [hl]
        exact ⟨fun _ => (hi.nrb j).1 (by rw [hjk]; rfl), (fun hr => by rw [hkn] at hr; cases hr),
          (fun hr => by rw [hkn] at hr; cases hr)⟩
      · rw [nd_default_of_ge s' h']; exact NodeB.nil B rfl
  · rcases Nat.lt_or_ge i s.nodes.length with h | h
    · obtain ⟨x1, _, x3⟩ := hc.old i h
      rw [x3] at hk; rw [x1]; exact hi.pne i hk
    · rcases Nat.lt_or_ge i s'.nodes.length with h' | h'
      · obtain ⟨k, _⟩ := hc.new i h h'
        rw [k] at hk; cases hk
      · rw [nd_default_of_ge s' h'] at hk; cases hk
  · rcases Nat.lt_or_ge i s.nodes.length with h | h
    · obtain ⟨x1, _, x3⟩ := hc.old i h
      rw [x3] at hk; rw [x1]; exact hi.pnb i hk
    · rcases Nat.lt_or_ge i s'.nodes.length with h' | h'
      · obtain ⟨k, _⟩ := hc.new i h h'
        rw [k] at hk; cases hk
      · rw [nd_default_of_ge s' h'] at hk; cases hk
  · rw [hc.pc] at ht
    have hk := hi.tmpk t ht
    have htl : t < s.nodes.length := by
      rcases Nat.lt_or_ge t s.nodes.length with h | h
      · exact h
      · rw [nd_default_of_ge s h] at hk; cases hk
    rw [(hc.old t htl).2.2]; exact hk
  · rw [hc.pc] at hb
    obtain ⟨k1, k2⟩ := hi.kinds b hb
    exact ⟨by rw [(hc.old _ k2).2.2]; exact k1, Nat.lt_of_lt_of_le k2 hc.len⟩
  · obtain ⟨i, hil, rfl⟩ := mem_nodes_nd hn
    rcases Nat.lt_or_ge i s.nodes.length with h | h
    · obtain ⟨x1, x2, _⟩ := hc.old i h
      have := nodeOK_nd hi.nodes i
      exact ⟨by rw [x1]; exact this.lines, by rw [x1, x2]; exact this.nil⟩
    · obtain ⟨_, j, _, _, hl, hln⟩ := hc.new i h hil
      have := nodeOK_nd hi.nodes j
      exact ⟨by rw [hl]; exact this.lines, by rw [hl, hln]; exact this.nil⟩

theorem setextClose_inv {src : Bytes} {B : Int} {s s' : St} {node : Nat} (hi : Inv src B s)
    (hk : (nd s node).kind = .heading) (hlt : node < s.nodes.length)
    (e : setextClose node s = .ok ((), s')) : Inv src B s' ∧ s'.r = s.r ∧ s'.pc.opened = s.pc.opened ∧ KG s s' := by
  cases ht : s.pc.tmpPara with
  | none =>
    exfalso
    unfold setextClose at e
    obtain ⟨hn, s1, h1, k1⟩ := bind_ok e
    obtain ⟨rfl, hs1⟩ := getNode_ok h1
    subst s1
    obtain ⟨seg, s2, h2, k2⟩ := bind_ok k1
    obtain ⟨_, hs2⟩ := liftE_ok h2
    subst s2
    obtain ⟨_, s3, h3, k3⟩ := bind_ok k2
    have e3 := modNode_ok h3
    obtain ⟨pc4, s4, h4, k4⟩ := bind_ok k3
    obtain ⟨rfl, hs4⟩ := getPc_ok h4
    subst s4
    have hpc3 : s3.pc = s.pc := by rw [e3]
    rw [hpc3, ht] at k4
    dsimp only at k4
    obtain ⟨_, _, h5, _⟩ := bind_ok k4
    cases h5
  | some t =>
    have hkt := hi.tmpk t ht
    have hne := hi.pne t hkt
    have hnt : node ≠ t := by intro e0; rw [e0, hkt] at hk; cases hk
    obtain ⟨hlen, ⟨hl, hln⟩, hoth, hkind, hpc, hr⟩ := setextClose_copy ht hne hnt hlt e
    have hla : LinesAt node (nd s t).lines s s' :=
      ⟨hlen, hkind, hoth, hl, fun hn0 => (nodeOK_nd hi.nodes t).nil (by rw [← hln]; exact hn0), hr,
        (fun t' ht' => by rw [hpc] at ht'; cases ht'), (by rw [hpc])⟩
    exact ⟨hi.linesAt hla (fun _ => (hi.nrb t).1 (by rw [hkt]; rfl)) (fun hp => by rw [hk] at hp; cases hp)
        (nodeOK_nd hi.nodes t).lines (fun hr => by rw [hk] at hr; cases hr) (fun hr => by rw [hk] at hr; cases hr),
        hr, by rw [hpc], hla.kg⟩

/-- **every `Close` keeps the invariant** (for every bound `B`), does not move the reader and does not touch the
    open-block stack — for a block whose node has the kind its parser builds -/
theorem bpClose_inv {src : Bytes} {B : Int} {s s' : St} (bp : BP) (node : Nat) (hi : Inv src B s) (hsrc : s.r.source = src)
    (hk : (nd s node).kind = bp.kind) (hlt : node < s.nodes.length)
    (e : bpClose bp node s = .ok ((), s')) : Inv src B s' ∧ s'.r = s.r ∧ s'.pc.opened = s.pc.opened ∧ KG s s' := by
  cases bp <;> unfold bpClose at e
  · exact setextClose_inv hi hk hlt e
  · obtain ⟨_, hs⟩ := pure_ok e; subst s'; exact ⟨hi, rfl, rfl, KG.refl _⟩
  · obtain ⟨a, b, c, d⟩ := listClose_inv hi e; exact ⟨a, b, by rw [c], d⟩
  · obtain ⟨_, hs⟩ := pure_ok e; subst s'; exact ⟨hi, rfl, rfl, KG.refl _⟩
  · obtain ⟨a, b, c, d⟩ := codeClose_inv hi hk hlt e; exact ⟨a, b, by rw [c], d⟩
  · obtain ⟨_, hs⟩ := pure_ok e; subst s'; exact ⟨hi, rfl, rfl, KG.refl _⟩
  · exact fencedClose_inv hi e
  · obtain ⟨_, hs⟩ := pure_ok e; subst s'; exact ⟨hi, rfl, rfl, KG.refl _⟩
  · obtain ⟨_, hs⟩ := pure_ok e; subst s'; exact ⟨hi, rfl, rfl, KG.refl _⟩
  · obtain ⟨a, b, c, d⟩ := paragraphClose_inv hi hsrc hk hlt e; exact ⟨a, b, by rw [c], d⟩

theorem blockAt_mem {blocks : List Block} {i : Int} {b : Block} (h : blockAt blocks i = .ok b) : b ∈ blocks :=
  mem_of_blockAt h

theorem closeLoop_inv {src : Bytes} {B : Int} (blocks : List Block) (to : Int) : ∀ (k : Nat) (s s' : St),
    Inv src B s → s.r.source = src → (∀ b ∈ blocks, b ∈ s.pc.opened) →
    closeLoop blocks to k s = .ok ((), s') → Inv src B s' ∧ s'.r = s.r ∧ s'.pc.opened = s.pc.opened ∧ KG s s' := by
  intro k
  induction k with
  | zero =>
    intro s s' hi _ _ e
    unfold closeLoop at e
    obtain ⟨_, hs⟩ := pure_ok e; subst s'; exact ⟨hi, rfl, rfl, KG.refl _⟩
  | succ k ih =>
    intro s s' hi hsrc hsub e
    unfold closeLoop at e
    obtain ⟨b, s1, h1, k1⟩ := bind_ok e
    obtain ⟨hb, hs1⟩ := liftE_ok h1
    subst s1
    have hbm := hsub b (blockAt_mem hb)
    obtain ⟨hkb, hltb⟩ := hi.kinds b hbm
    obtain ⟨n, s2, h2, k2⟩ := bind_ok k1
    obtain ⟨_, hs2⟩ := getNode_ok h2
    subst s2
    dsimp only at k2
    split at k2
    · obtain ⟨_, s3, h3, k3⟩ := bind_ok k2
      obtain ⟨a1, a2, a3, a4⟩ := bpClose_inv b.bp b.node hi hsrc hkb hltb h3
      obtain ⟨b1, b2, b3, b4⟩ := ih s3 s' a1 (by rw [a2]; exact hsrc) (fun b hb => by rw [a3]; exact hsub b hb) k3
      exact ⟨b1, b2.trans a2, b3.trans a3, a4.trans b4⟩
    · exact ih s s' hi hsrc hsub k2

/-- **closeBlocks keeps the invariant**, does not move the reader, and leaves a sub-list of the open-block stack -/
theorem closeBlocks_inv {src : Bytes} {B : Int} {s s' : St} (frm to : Int) (hi : Inv src B s) (hsrc : s.r.source = src)
    (e : closeBlocks frm to s = .ok ((), s')) :
    Inv src B s' ∧ s'.r = s.r ∧ (∀ b ∈ s'.pc.opened, b ∈ s.pc.opened) ∧ KG s s' := by
  rw [closeBlocks_cut] at e
  obtain ⟨pc, s1, h1, k1⟩ := bind_ok e
  obtain ⟨rfl, hs1⟩ := getPc_ok h1
  subst s1
  obtain ⟨_, s2, h2, k2⟩ := bind_ok k1
  obtain ⟨a1, a2, a3, a4⟩ := closeLoop_inv s.pc.opened to _ s s2 hi hsrc (fun b hb => hb) h2
  obtain ⟨bl, s3, h3, k3⟩ := bind_ok k2
  obtain ⟨hb, hs3⟩ := liftE_ok h3
  subst s3
  have hbl := cutRange_mem hb
  have := modPc_ok k3
  subst this
  exact ⟨a1.congr_pc _ rfl (fun b hb => by rw [a3]; exact hbl b hb), a2, hbl, a4⟩

end GM.Blocks
end BlocksOrdInv

section BlocksOrdCont
/-
  `Continue` of the raw leaf parsers (indented code, fenced code, HTML block) writes ONLY its
  own node: `FrN X m` = "whenever `m` ends normally, the store is as long as it was, every node but `X` is what it was,
  and `X` keeps its kind" (`IFr (OnlyN X)`, by the walk of GM.Proof.BlocksFrameSteps): every `modNode` / `appendLine` of
  these functions names the parser's own node and leaves `kind` alone.
  Hence these calls never touch the lines of a Paragraph / Heading / TextBlock (`Inv.onlyN`).
-/

namespace GM.Blocks
open GM GM.Text GM.Spec GM.Proof.Reader
open GM.Proof.BlocksWF0 (isRaw)

/-- only node `X` may have changed, and it kept its kind -/
def OnlyN (X : Nat) (s s' : St) : Prop :=
  s'.nodes.length = s.nodes.length ∧ (∀ i, i ≠ X → nd s' i = nd s i) ∧ (nd s' X).kind = (nd s X).kind

theorem OnlyN.trans {X : Nat} {a b c : St} (h1 : OnlyN X a b) (h2 : OnlyN X b c) : OnlyN X a c :=
  ⟨h2.1.trans h1.1, fun i hi => (h2.2.1 i hi).trans (h1.2.1 i hi), h2.2.2.trans h1.2.2⟩
theorem OnlyN.of_nodes {X : Nat} {s s' : St} (h : s'.nodes = s.nodes) : OnlyN X s s' :=
  ⟨by rw [h], fun i _ => by simp only [nd, h], by simp only [nd, h]⟩

structure FrN (X : Nat) {α : Type} (m : M α) : Prop where
  h : ∀ s a s', m s = .ok (a, s') → OnlyN X s s'

variable {X : Nat}

theorem onlyNFrame (X : Nat) : FrameRel (OnlyN X) := ⟨OnlyN.trans, OnlyN.of_nodes⟩

theorem modPc_frn (f : Ctx → Ctx) : FrN X (modPc f) := ⟨((modPc_ns f).stepsR (onlyNFrame X)).h⟩

theorem modNode_frn (f : Node → Node) (hf : ∀ n, (f n).kind = n.kind) : IFr (OnlyN X) (modNode X f) := by
  constructor
  intro s a s' h
  rw [modNode_ok h]
  have hnd : ∀ i, nd ({ s with nodes := s.nodes.set X (f (s.nodes.getD X default)) } : St) i = nd (upd s X f) i :=
    fun _ => rfl
  refine ⟨by simp, fun i hi => ?_, ?_⟩
  · rw [hnd, nd_upd, if_neg (fun hh => hi hh.1.symm)]
  · rw [hnd, nd_upd]
    split
    · exact hf _
    · rfl

/-- `Continue` of any of the ten parsers writes its own node only, and not the kind -/
theorem bpContinue_frn (bp : BP) : FrN X (bpContinue bp X) :=
  ⟨(bpContinue_stepsR (onlyNFrame X) bp X fun f hf => modNode_frn f fun n => (hf.data.links n).1).h⟩

theorem codeContinue_frn : FrN X (codeContinue X) := bpContinue_frn .code
theorem fencedContinue_frn : FrN X (fencedContinue X) := bpContinue_frn .fenced
theorem htmlContinue_frn : FrN X (htmlContinue X) := bpContinue_frn .html

/-- a step that writes only a RAW node keeps the invariant (given the new store's range clause, the unchanged
    context keys, and the order clause for the new lines of that node) -/
theorem Inv.onlyN {src : Bytes} {B : Int} {s s' : St} (hi : Inv src B s) (h : OnlyN X s s')
    (hraw : isRaw (nd s X).kind = true) (hpc : s'.pc = s.pc) (hn : NodesOK src s')
    (hX : OrdFrom 0 (nd s' X).lines ∧ Below B (nd s' X).lines) : Inv src B s' := by
  have hk : ∀ i, (nd s' i).kind = (nd s i).kind := fun i => by
    by_cases hx : i = X
    · subst hx; exact h.2.2
    · rw [h.2.1 i hx]
  refine ⟨fun i => ?_, fun i hkp => ?_, fun i hkp => ?_, fun t ht => ?_, fun b hb => ?_, hn⟩
  · by_cases hx : i = X
    · subst hx
      exact ⟨(fun hr => by rw [h.2.2, hraw] at hr; cases hr), fun _ => hX,
        (fun hr => by rw [h.2.2, noLinesKind_of_raw hraw] at hr; cases hr)⟩
    · rw [h.2.1 i hx]; exact hi.nrb i
  · by_cases hx : i = X
    · subst hx; rw [h.2.2] at hkp; rw [hkp] at hraw; cases hraw
    · rw [h.2.1 i hx] at hkp ⊢; exact hi.pne i hkp
  · by_cases hx : i = X
    · subst hx; rw [h.2.2] at hkp; rw [hkp] at hraw; cases hraw
    · rw [h.2.1 i hx] at hkp ⊢; exact hi.pnb i hkp
  · rw [hpc] at ht; rw [hk]; exact hi.tmpk t ht
  · rw [hpc] at hb; rw [hk, h.1]; exact hi.kinds b hb

end GM.Blocks
end BlocksOrdCont
