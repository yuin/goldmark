/-
  GM.Proof.Ids — lemmas about the id generator model (GM.Model.Ids) for property C15.
-/
import GM.Model.Ids

namespace GM.Proof.Ids
open GM GM.Ids

/-! ### decimal formatting is injective (it has a left inverse) -/

def digitVal (a : Nat) (d : UInt8) : Nat := a * 10 + (d.toNat - 48)
def parseDec (bs : Bytes) : Nat := bs.foldl digitVal 0

theorem foldl_decAux : ∀ (fuel n : Nat) (acc : Bytes), n < fuel →
    (decAux fuel n acc).foldl digitVal 0 = acc.foldl digitVal n := by
  intro fuel
  induction fuel with
  | zero => intro n acc h; omega
  | succ f ih =>
    intro n acc h
    unfold decAux
    split
    · rename_i h10
      have : (UInt8.ofNat (48 + n)).toNat - 48 = n := by
        simp only [UInt8.toNat_ofNat']; omega
      simp only [List.foldl_cons, digitVal, this]
      congr 1; omega
    · rename_i h10
      rw [ih (n / 10) _ (by omega)]
      have : (UInt8.ofNat (48 + n % 10)).toNat - 48 = n % 10 := by
        simp only [UInt8.toNat_ofNat']; omega
      simp only [List.foldl_cons, digitVal, this]
      congr 1; omega

theorem parseDec_dec (n : Nat) : parseDec (dec n) = n := by
  unfold parseDec dec
  rw [foldl_decAux (n + 1) n [] (by omega)]
  rfl

theorem dec_inj {i j : Nat} (h : dec i = dec j) : i = j := by
  have := congrArg parseDec h
  simpa [parseDec_dec] using this

theorem cand_inj {b : Bytes} {i j : Nat} (h : cand b i = cand b j) : i = j := by
  unfold cand at h
  have h' := List.append_cancel_left h
  injection h' with _ h2
  exact dec_inj h2

theorem cand_ne_nil (b : Bytes) (i : Nat) : cand b i ≠ [] := by
  unfold cand; simp

theorem base_ne_nil (v : Bytes) (h : Bool) : base v h ≠ [] := by
  unfold base
  simp only
  split
  · cases h <;> simp [headingDefault, idDefault]
  · rename_i hne
    intro h0
    simp [h0] at hne

theorem pigeon {α : Type} [DecidableEq α] (f : Nat → α) (hinj : ∀ i j, f i = f j → i = j) :
    ∀ (n : Nat) (l : List α), (∀ j, j < n → f j ∈ l) → n ≤ l.length := by
  intro n
  induction n with
  | zero => intro l _; omega
  | succ n ih =>
    intro l h
    have hn : f n ∈ l := h n (by omega)
    have h' : ∀ j, j < n → f j ∈ l.erase (f n) := by
      intro j hj
      have hne : f j ≠ f n := fun e => by have := hinj _ _ e; omega
      exact (List.mem_erase_of_ne hne).2 (h j (by omega))
    have := ih (l.erase (f n)) h'
    rw [List.length_erase_of_mem hn] at this
    have : 0 < l.length := List.length_pos_of_mem hn
    omega

theorem probe_none {used : Tbl} {b : Bytes} : ∀ (fuel i : Nat), probe used b fuel i = none →
    ∀ j, j < fuel → cand b (i + j) ∈ used := by
  intro fuel
  induction fuel with
  | zero => intro i _ j hj; omega
  | succ f ih =>
    intro i h j hj
    unfold probe at h
    split at h
    · rename_i hc
      cases j with
      | zero => simpa using hc
      | succ j =>
        have := ih (i + 1) h j (by omega)
        have e : i + 1 + j = i + (j + 1) := by omega
        rwa [e] at this
    · cases h

theorem probe_some_spec {used : Tbl} {b : Bytes} : ∀ (fuel i : Nat) (c : Bytes), probe used b fuel i = some c →
    c ∉ used ∧ ∃ j, j < fuel ∧ c = cand b (i + j) := by
  intro fuel
  induction fuel with
  | zero => intro i c h; simp [probe] at h
  | succ f ih =>
    intro i c h
    unfold probe at h
    split at h
    · obtain ⟨h1, j, hj, hc⟩ := ih (i + 1) c h
      exact ⟨h1, j + 1, by omega, by rw [hc]; congr 1; omega⟩
    · rename_i hc
      injection h with h
      subst h
      exact ⟨by simpa using hc, 0, by omega, rfl⟩

/-- the bound given to the probing loop is never reached: among the `|used| + 1` candidates
    `b-1 … b-(|used|+1)` (pairwise different) one is not in the table. -/
theorem probe_isSome (used : Tbl) (b : Bytes) : ∃ c, probe used b (used.length + 1) 1 = some c := by
  cases h : probe used b (used.length + 1) 1 with
  | some c => exact ⟨c, rfl⟩
  | none =>
    have hall := probe_none (used.length + 1) 1 h
    have := pigeon (fun j => cand b (1 + j)) (fun i j e => by have := cand_inj e; omega)
      (used.length + 1) used hall
    omega

theorem generate_isSome (used : Tbl) (v : Bytes) (h : Bool) : ∃ id, generate used v h = some (id, id :: used) := by
  unfold generate
  simp only
  split
  · obtain ⟨c, hc⟩ := probe_isSome used (base v h)
    exact ⟨c, by rw [hc]⟩
  · exact ⟨_, rfl⟩

theorem generate_spec {used : Tbl} {v : Bytes} {h : Bool} {id : Bytes} {used' : Tbl}
    (hg : generate used v h = some (id, used')) : id ∉ used ∧ used' = id :: used ∧ id ≠ [] := by
  unfold generate at hg
  simp only at hg
  split at hg
  · split at hg
    · rename_i c hc
      injection hg with hg
      injection hg with h1 h2
      subst h1
      obtain ⟨hf, j, _, hj⟩ := probe_some_spec _ _ _ hc
      exact ⟨hf, h2.symm, by rw [hj]; exact cand_ne_nil _ _⟩
    · cases hg
  · rename_i hc
    injection hg with hg
    injection hg with h1 h2
    subst h1
    exact ⟨by simpa using hc, h2.symm, base_ne_nil _ _⟩

/-- the number of probes: the returned id is the base or `base-i` with `1 ≤ i ≤ |used| + 1`. -/
theorem generate_bound {used : Tbl} {v : Bytes} {h : Bool} {id : Bytes} {used' : Tbl}
    (hg : generate used v h = some (id, used')) :
    id = base v h ∨ ∃ i, 1 ≤ i ∧ i ≤ used.length + 1 ∧ id = cand (base v h) i ∧
      ∀ j, 1 ≤ j → j < i → cand (base v h) j ∈ used := by
  unfold generate at hg
  simp only at hg
  split at hg
  · split at hg
    · rename_i c hc
      injection hg with hg
      injection hg with h1 _
      subst h1
      right
      -- strengthen: first free candidate
      have key : ∀ (fuel i : Nat) (c : Bytes), probe used (base v h) fuel i = some c →
          ∃ j, j < fuel ∧ c = cand (base v h) (i + j) ∧ ∀ k, k < j → cand (base v h) (i + k) ∈ used := by
        intro fuel
        induction fuel with
        | zero => intro i c h; simp [probe] at h
        | succ f ih =>
          intro i c hp
          unfold probe at hp
          split at hp
          · rename_i hin
            obtain ⟨j, hj, hc, hk⟩ := ih (i + 1) c hp
            refine ⟨j + 1, by omega, by rw [hc]; congr 1; omega, ?_⟩
            intro k hk'
            cases k with
            | zero => simpa using hin
            | succ k =>
              have := hk k (by omega)
              have e : i + 1 + k = i + (k + 1) := by omega
              rwa [e] at this
          · injection hp with hp
            exact ⟨0, by omega, by simp [hp.symm], fun k hk => by omega⟩
      obtain ⟨j, hj, hc', hk⟩ := key _ _ _ hc
      refine ⟨1 + j, by omega, by omega, hc', ?_⟩
      intro k hk1 hk2
      have := hk (k - 1) (by omega)
      have e : 1 + (k - 1) = k := by omega
      rwa [e] at this
    · cases hg
  · injection hg with hg
    injection hg with h1 _
    exact Or.inl h1.symm

theorem run_isSome : ∀ (ops : List Op) (used : Tbl), ∃ ids, run used ops = some ids := by
  intro ops
  induction ops with
  | nil => intro used; exact ⟨[], rfl⟩
  | cons op ops ih =>
    intro used
    cases op with
    | put v => simpa [run] using ih (put used v)
    | gen v h =>
      obtain ⟨id, hid⟩ := generate_isSome used v h
      obtain ⟨ids, hids⟩ := ih (id :: used)
      exact ⟨id :: ids, by simp [run, hid, hids]⟩

/-- the ids returned by the Generate calls of any Generate/Put sequence, started on any table, are pairwise
    different, non-empty, and none of them was in the table at the start. -/
theorem run_fresh : ∀ (ops : List Op) (used : Tbl) (ids : List Bytes), run used ops = some ids →
    ids.Nodup ∧ (∀ id ∈ ids, id ∉ used) ∧ (∀ id ∈ ids, id ≠ []) := by
  intro ops
  induction ops with
  | nil =>
    intro used ids h
    simp [run] at h
    subst h
    simp
  | cons op ops ih =>
    intro used ids h
    cases op with
    | put v =>
      simp only [run] at h
      obtain ⟨h1, h2, h3⟩ := ih _ _ h
      refine ⟨h1, ?_, h3⟩
      intro id hid hin
      exact h2 id hid (by simp [put, hin])
    | gen v hd =>
      simp only [run] at h
      split at h
      · cases h
      · rename_i id used' hg
        obtain ⟨hf, hu, hne⟩ := generate_spec hg
        subst hu
        cases hr : run (id :: used) ops with
        | none => simp [hr] at h
        | some rest =>
          simp [hr] at h
          subst h
          obtain ⟨h1, h2, h3⟩ := ih _ _ hr
          refine ⟨?_, ?_, ?_⟩
          · refine List.nodup_cons.2 ⟨?_, h1⟩
            intro hin
            exact h2 id hin (by simp)
          · intro x hx
            rcases List.mem_cons.1 hx with rfl | hx
            · exact hf
            · intro hin
              exact h2 x hx (by simp [hin])
          · intro x hx
            rcases List.mem_cons.1 hx with rfl | hx
            · exact hne
            · exact h3 x hx

theorem run_length : ∀ (ops : List Op) (used : Tbl) (ids : List Bytes), run used ops = some ids →
    ids.length = (ops.filter fun o => match o with | .gen _ _ => true | .put _ => false).length := by
  intro ops
  induction ops with
  | nil => intro used ids h; simp [run] at h; subst h; rfl
  | cons op ops ih =>
    intro used ids h
    cases op with
    | put v => simp only [run] at h; simpa using ih _ _ h
    | gen v hd =>
      simp only [run] at h
      split at h
      · cases h
      · rename_i id used' hg
        cases hr : run used' ops with
        | none => simp [hr] at h
        | some rest =>
          simp [hr] at h
          subst h
          simp [ih _ _ hr]

end GM.Proof.Ids
