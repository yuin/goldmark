/-
  GM.Proof.IndepFrame — frame calculus for the block-phase model, used by C09 (first half):

  `IFr R m`: whenever the monadic program `m` ends normally, the start state and the end state are related by `R`
  (a preorder on states: "the open-block stack is the same", "the node store did not shrink", "the context key k
  is the same" …). `IFr` is closed under `bind` / `pure` / `if` / `match` and holds of a primitive as soon as `R` holds
  across its write: so a parser function has it by `Built.ifr`, a fold over GM.Proof.BlocksBuilt whose hypotheses ask
  `R` of exactly the writes the function's policy allows (`Built.frI`: `FrPrims R` alone, for a program that neither
  calls the reader nor writes the context); the driver loops by a walk over their `do` block (tactic `frame`; what it
  leaves are the `modPc` calls).

  With it: none of the ten `Close` functions touches `pc.openedBlocks` (`bpClose_fr` at `SameOpened`), and each context key is
  written back by the `Close` / `Open` the Go code relies on ("context keys used as cross-line flags are reset"). That `closeBlocks`
  removes exactly the slots it is asked to remove ("the open-block stack is fully unwound") needs no frame: it writes back a cut of
  the stack it read before the loop (`closeBlocks_cut`, GM.Proof.BlocksCloseRange).
-/
import GM.Proof.BlocksPres
import GM.Proof.BlocksCloseRange

namespace GM.Blocks
open GM GM.Text

/-! ### inversion of a normal end (backward symbolic execution) -/

theorem sbind_ok {α β} {m : M α} {f : α → M β} {s : St} {b : β} {s'' : St} (h : StateT.bind m f s = .ok (b, s'')) :
    ∃ a s', m s = .ok (a, s') ∧ f a s' = .ok (b, s'') := bind_ok (m := m) (f := f) h

theorem pure_ok {α} {a b : α} {s s' : St} (h : (pure a : M α) s = .ok (b, s')) : b = a ∧ s' = s := by
  cases h; exact ⟨rfl, rfl⟩

theorem liftE_ok {α} {e : Except Panic α} {s : St} {a : α} {s' : St} (h : liftE e s = .ok (a, s')) :
    e = .ok a ∧ s' = s := by
  cases e with
  | ok v => simp only [liftE, Except.map] at h; cases h; exact ⟨rfl, rfl⟩
  | error x => simp [liftE, Except.map] at h

theorem modPc_ok {f : Ctx → Ctx} {s : St} {a : Unit} {s' : St} (h : modPc f s = .ok (a, s')) :
    s' = { s with pc := f s.pc } := by cases h; rfl

theorem getPc_ok {s : St} {a : Ctx} {s' : St} (h : getPc s = .ok (a, s')) : a = s.pc ∧ s' = s := by
  cases h; exact ⟨rfl, rfl⟩

theorem lastOpenedBlock_ok {s : St} {a : Option Block} {s' : St} (h : lastOpenedBlock s = .ok (a, s')) :
    a = s.pc.opened.getLast? ∧ s' = s := by cases h; exact ⟨rfl, rfl⟩

theorem getNode_ok {id : Nat} {s : St} {a : Node} {s' : St} (h : getNode id s = .ok (a, s')) :
    a = s.nodes.getD id default ∧ s' = s := by cases h; exact ⟨rfl, rfl⟩

theorem modNode_ok {id : Nat} {f : Node → Node} {s : St} {a : Unit} {s' : St} (h : modNode id f s = .ok (a, s')) :
    s' = { s with nodes := s.nodes.set id (f (s.nodes.getD id default)) } := by cases h; rfl

theorem newNode_ok {n : Node} {s : St} {a : Nat} {s' : St} (h : newNode n s = .ok (a, s')) :
    a = s.nodes.length ∧ s' = { s with nodes := s.nodes ++ [n] } := by cases h; exact ⟨rfl, rfl⟩

theorem throw_ok {α} {e : Panic} {s : St} {a : α} {s' : St} (h : (throw e : M α) s = .ok (a, s')) : False := by
  cases h

/-- whenever `m` ends normally, start and end state are related by `R` -/
structure IFr (R : St → St → Prop) {α : Type} (m : M α) : Prop where
  h : ∀ s a s', m s = .ok (a, s') → R s s'

structure FrPre (R : St → St → Prop) : Prop where
  refl : ∀ s, R s s
  trans : ∀ {a b c}, R a b → R b c → R a c

/-- `R` is a preorder that is kept by the store primitives -/
structure FrPrims (R : St → St → Prop) : Prop extends FrPre R where
  modNode : ∀ s id (f : Node → Node), R s { s with nodes := s.nodes.set id (f (s.nodes.getD id default)) }
  newNode : ∀ s n, R s { s with nodes := s.nodes ++ [n] }

def IgnoresReader (R : St → St → Prop) : Prop := ∀ s r', R s { s with r := r' }

variable {R : St → St → Prop}

theorem IFr.pure {α} (hR : FrPre R) (a : α) : IFr R (pure a : M α) :=
  ⟨fun s _ _ h => by cases h; exact hR.refl s⟩

theorem IFr.bind {α β} (hR : FrPre R) {m : M α} {f : α → M β} (hm : IFr R m) (hf : ∀ a, IFr R (f a)) :
    IFr R (m >>= f) := by
  constructor
  intro s b s' h
  simp only [Bind.bind, StateT.bind] at h
  cases hms : m s with
  | error e => rw [hms] at h; simp [Except.bind] at h
  | ok p =>
    rw [hms] at h
    simp only [Except.bind] at h
    exact hR.trans (hm.h s p.1 p.2 hms) ((hf p.1).h p.2 b s' h)

theorem IFr.ite {α} {c : Prop} [Decidable c] {a b : M α} (ha : IFr R a) (hb : IFr R b) :
    IFr R (if c then a else b) := by
  split <;> assumption

theorem IFr.throw {α} (e : Panic) : IFr R (throw e : M α) := ⟨fun _ _ _ h => by cases h⟩

theorem IFr.throw_bind {α β} (e : Panic) (f : α → M β) : IFr R ((MonadExcept.throw e : M α) >>= f) :=
  ⟨fun _ _ _ h => by
    have h' : (Except.error e : Except Panic (β × St)) = .ok _ := h
    cases h'⟩

theorem getNode_fr (hR : FrPre R) (id : Nat) : IFr R (getNode id) := ⟨fun s _ _ h => by cases h; exact hR.refl s⟩
theorem getPc_fr (hR : FrPre R) : IFr R getPc := ⟨fun s _ _ h => by cases h; exact hR.refl s⟩
theorem source_fr (hR : FrPre R) : IFr R source := ⟨fun s _ _ h => by cases h; exact hR.refl s⟩
theorem position_fr (hR : FrPre R) : IFr R position := ⟨fun s _ _ h => by cases h; exact hR.refl s⟩
theorem get_fr (hR : FrPre R) : IFr R (get : M St) := ⟨fun s _ _ h => by cases h; exact hR.refl s⟩
theorem modNode_frI (hR : FrPrims R) (id : Nat) (f) : IFr R (modNode id f) :=
  ⟨fun s _ _ h => by cases h; exact hR.modNode s id f⟩
theorem newNode_frI (hR : FrPrims R) (n) : IFr R (newNode n) := ⟨fun s _ _ h => by cases h; exact hR.newNode s n⟩
theorem appendLine_fr (hR : FrPrims R) (id seg) : IFr R (appendLine id seg) := modNode_frI hR _ _
theorem modPc_fr (f : Ctx → Ctx) (hf : ∀ s, R s { s with pc := f s.pc }) : IFr R (modPc f) :=
  ⟨fun s _ _ h => by cases h; exact hf s⟩

theorem liftE_fr {α} (hR : FrPre R) (e : Except Panic α) : IFr R (liftE e) := by
  constructor
  intro s a s' h
  cases e with
  | ok v => simp only [liftE, Except.map] at h; cases h; exact hR.refl s
  | error x => simp [liftE, Except.map] at h

/-- a program that only moves the reader -/
theorem reader_fr {α β} (hR : IgnoresReader R) (f : Reader → Except Panic (α × Reader)) (g : α → β) :
    IFr R (fun s => do let (x, r) ← f s.r; Pure.pure (g x, { s with r := r }) : M β) := by
  constructor
  intro s a s' h
  cases hf : f s.r with
  | error e => simp [hf, bind, Except.bind] at h
  | ok p =>
    simp only [hf, bind, Except.bind, Pure.pure, Except.pure] at h
    cases h
    exact hR s p.2

theorem peekLine_fr (hR : IgnoresReader R) : IFr R peekLine := reader_fr hR (fun r => r.peekLine) id
theorem lineOffset_fr (hR : IgnoresReader R) : IFr R lineOffset := reader_fr hR (fun r => r.lineOffsetOp) id

theorem advance_fr (hR : IgnoresReader R) (n : Int) : IFr R (advance n) := by
  constructor
  intro s a s' h
  unfold advance at h
  cases hf : s.r.advance n with
  | error e => simp [hf, bind, Except.bind] at h
  | ok p => simp only [hf, bind, Except.bind, Pure.pure, Except.pure] at h; cases h; exact hR s p

theorem advanceAndSetPadding_fr (hR : IgnoresReader R) (n p : Int) : IFr R (advanceAndSetPadding n p) := by
  constructor
  intro s a s' h
  unfold advanceAndSetPadding at h
  cases hf : s.r.advanceAndSetPadding n p with
  | error e => simp [hf, bind, Except.bind] at h
  | ok q => simp only [hf, bind, Except.bind, Pure.pure, Except.pure] at h; cases h; exact hR s q

theorem setPosition_fr (hR : IgnoresReader R) (l : Int) (p : Segment) : IFr R (setPosition l p) :=
  ⟨fun s _ _ h => by cases h; exact hR s _⟩

theorem advanceLine_fr (hR : IgnoresReader R) : IFr R advanceLine :=
  ⟨fun s _ _ h => by cases h; exact hR s _⟩

/-- the preorder of the relation at hand -/
macro "fr_pre" : tactic => `(tactic| first | assumption | exact FrPrims.toFrPre (by assumption))

macro "frame_step" : tactic =>
  `(tactic| first
    | (with_reducible apply IFr.pure; fr_pre)
    | with_reducible apply IFr.throw_bind
    | (with_reducible apply IFr.bind; fr_pre)
    | with_reducible apply IFr.ite
    | with_reducible apply IFr.throw
    | (with_reducible apply getNode_fr; fr_pre)
    | (with_reducible apply getPc_fr; fr_pre)
    | (with_reducible apply source_fr; fr_pre)
    | (with_reducible apply position_fr; fr_pre)
    | (with_reducible apply get_fr; fr_pre)
    | (with_reducible apply modNode_frI; assumption)
    | (with_reducible apply newNode_frI; assumption)
    | (with_reducible apply appendLine_fr; assumption)
    | (with_reducible apply liftE_fr; fr_pre)
    | (with_reducible apply peekLine_fr; assumption)
    | (with_reducible apply lineOffset_fr; assumption)
    | (with_reducible apply advance_fr; assumption)
    | (with_reducible apply advanceAndSetPadding_fr; assumption)
    | (with_reducible apply setPosition_fr; assumption)
    | (with_reducible apply advanceLine_fr; assumption)
    | apply_hyp
    | intro _
    | split)

/-- walk over an `M` do block; what is left are the `modPc` calls -/
macro "frame" : tactic => `(tactic| repeat' frame_step)

/-- every program over the primitives is an `R`-step, for a preorder `R` that the primitives it may use are steps of -/
theorem Built.ifr {RD NW PW NN} (hR : FrPre R) (hrd : ∀ {α : Type} {m : M α}, RD → RdPrim m → IFr R m)
    (hnw : ∀ id f, NW id f → IFr R (GM.Blocks.modNode id f)) (hnn : ∀ n, NN n → IFr R (GM.Blocks.newNode n))
    (hpw : ∀ f, PW f → IFr R (GM.Blocks.modPc f)) {α : Type} {m : M α} (hm : Built RD NW PW NN m) : IFr R m :=
  hm.fold (J := fun m => IFr R m)
    { pure := .pure hR, bind := .bind hR, throw := fun e _ => .throw e, liftE := fun e _ => liftE_fr hR e,
      rd := fun h hr => hrd h hr, getNode := getNode_fr hR, getPc := getPc_fr hR, source := source_fr hR,
      position := position_fr hR, get := get_fr hR, modNode := hnw, newNode := hnn, modPc := hpw }

/-- a program that does not call the reader and writes no context key: any relation the store primitives keep -/
theorem Built.frI {NW NN} (hR : FrPrims R) {α : Type} {m : M α} (hm : Built False NW (fun _ => False) NN m) : IFr R m :=
  hm.ifr hR.toFrPre (fun h => h.elim) (fun id f _ => modNode_frI hR id f) (fun n _ => newNode_frI hR n)
    (fun _ h => h.elim)

theorem removeChild_frI (hR : FrPrims R) (p c : Nat) : IFr R (removeChild p c) := (removeChild_built (L := fun _ _ => True) (NW := fun _ _ => False) (NN := fun _ => False) p c).frI hR
theorem appendChild_frI (hR : FrPrims R) (p c : Nat) : IFr R (appendChild p c) := (appendChild_built (L := fun _ _ => True) (NW := fun _ _ => False) (NN := fun _ => False) trivial).frI hR
theorem paragraphClose_fr (hR : FrPrims R) (n : Nat) : IFr R (paragraphClose n) := (paragraphClose_built (L := fun _ _ => True) (NN := fun _ => False) n).frI hR
theorem codeClose_fr (hR : FrPrims R) (n : Nat) : IFr R (codeClose n) := (codeClose_built (NN := fun _ => False) n).frI hR

def SameOpened (s s' : St) : Prop := s'.pc.opened = s.pc.opened

theorem sameOpened_prims : FrPrims SameOpened where
  refl := fun _ => rfl
  trans := fun h1 h2 => h2.trans h1
  modNode := fun _ _ _ => rfl
  newNode := fun _ _ => rfl

/-- the node store did not shrink: every node id that was valid still is -/
def NodesGrow (s s' : St) : Prop := s.nodes.length ≤ s'.nodes.length

theorem nodesGrow_prims : FrPrims NodesGrow where
  refl := fun _ => Nat.le_refl _
  trans := fun h1 h2 => Nat.le_trans h1 h2
  modNode := fun s id f => by simp [NodesGrow]
  newNode := fun s n => by simp [NodesGrow]

/-- the list parser's two flags are the same -/
def SameListKeys (s s' : St) : Prop :=
  s'.pc.skipList = s.pc.skipList ∧ s'.pc.emptyItemBlank = s.pc.emptyItemBlank

theorem sameListKeys_prims : FrPrims SameListKeys where
  refl := fun _ => ⟨rfl, rfl⟩
  trans := fun h1 h2 => ⟨h2.1.trans h1.1, h2.2.trans h1.2⟩
  modNode := fun _ _ _ => ⟨rfl, rfl⟩
  newNode := fun _ _ => ⟨rfl, rfl⟩

def SameReader (s s' : St) : Prop := s'.r = s.r

theorem sameReader_prims : FrPrims SameReader where
  refl := fun _ => rfl
  trans := fun h1 h2 => h2.trans h1
  modNode := fun _ _ _ => rfl
  newNode := fun _ _ => rfl

theorem bpClose_fr (hR : FrPrims R) (h1 : ∀ s, R s { s with pc := { s.pc with tmpPara := none } })
    (h2 : ∀ s, R s { s with pc := { s.pc with fence := none } }) (bp : BP) (n : Nat) : IFr R (bpClose bp n) :=
  (bpClose_built (RD := False) bp n).ifr hR.toFrPre (fun h => h.elim) (fun id f _ => modNode_frI hR id f)
    (fun n _ => newNode_frI hR n) fun f hf => by
      rcases hf with rfl | rfl
      · exact modPc_fr _ h1
      · exact modPc_fr _ h2

theorem closeLoop_fr (hR : FrPrims R) (h1 : ∀ s, R s { s with pc := { s.pc with tmpPara := none } })
    (h2 : ∀ s, R s { s with pc := { s.pc with fence := none } }) (blocks : List Block) (to : Int) (k : Nat) :
    IFr R (closeLoop blocks to k) := by
  have := bpClose_fr hR h1 h2
  induction k with
  | zero => unfold closeLoop; frame
  | succ k ih => unfold closeLoop; frame

theorem closeLoop_nodesGrow (blocks : List Block) (to : Int) (k : Nat) : IFr NodesGrow (closeLoop blocks to k) :=
  closeLoop_fr nodesGrow_prims (fun _ => Nat.le_refl _) (fun _ => Nat.le_refl _) blocks to k

theorem closeLoop_sameListKeys (blocks : List Block) (to : Int) (k : Nat) : IFr SameListKeys (closeLoop blocks to k) :=
  closeLoop_fr sameListKeys_prims (fun _ => ⟨rfl, rfl⟩) (fun _ => ⟨rfl, rfl⟩) blocks to k

theorem closeLoop_sameReader (blocks : List Block) (to : Int) (k : Nat) : IFr SameReader (closeLoop blocks to k) :=
  closeLoop_fr sameReader_prims (fun _ => rfl) (fun _ => rfl) blocks to k

/-- **closeBlocks removes exactly the slots `to..frm` of the open-block stack** (parser.go:900-918), from any state:
    afterwards the stack is the old one without them. -/
theorem closeBlocks_opened (frm to : Int) (s s' : St) (h : closeBlocks frm to s = .ok ((), s')) :
    0 ≤ to ∧ s'.pc.opened = s.pc.opened.take to.toNat ++ s.pc.opened.drop (frm + 1).toNat := by
  -- the stack written back is cut from the one read BEFORE the loop: whatever the `Close` calls do in between
  rw [closeBlocks_cut] at h
  obtain ⟨pc, s0, h0, h⟩ := bind_ok h
  obtain ⟨rfl, rfl⟩ := getPc_ok h0
  obtain ⟨_, s1, _, h⟩ := bind_ok h
  obtain ⟨x, s2, hx, h⟩ := bind_ok h
  rw [modPc_ok h]
  exact cutRange_ok (liftE_ok hx).1

/-- **the open-block stack is fully unwound**: `closeBlocks(len-1, 0)` — what parseBlocks does at the end of the
    source and when a line continues none of the open blocks — leaves no block open, from any state. -/
theorem closeBlocks_unwinds (s s' : St) (h : closeBlocks ((s.pc.opened.length : Int) - 1) 0 s = .ok ((), s')) :
    s'.pc.opened = [] := by
  obtain ⟨_, h2⟩ := closeBlocks_opened _ _ s s' h
  rw [h2]
  have : ((s.pc.opened.length : Int) - 1 + 1).toNat = s.pc.opened.length := by omega
  rw [this]
  simp

theorem closeBlocks_nodesGrow (frm to : Int) : IFr NodesGrow (closeBlocks frm to) := by
  have hR := nodesGrow_prims
  have := closeLoop_nodesGrow
  unfold closeBlocks; frame
  all_goals exact modPc_fr _ (fun _ => Nat.le_refl _)

theorem closeBlocks_sameListKeys (frm to : Int) : IFr SameListKeys (closeBlocks frm to) := by
  have hR := sameListKeys_prims
  have := closeLoop_sameListKeys
  unfold closeBlocks; frame
  all_goals exact modPc_fr _ (fun _ => ⟨rfl, rfl⟩)

theorem closeBlocks_sameReader (frm to : Int) : IFr SameReader (closeBlocks frm to) := by
  have hR := sameReader_prims
  have := closeLoop_sameReader
  unfold closeBlocks; frame
  all_goals exact modPc_fr _ (fun _ => rfl)

/-- fencedCodeBlockInfoKey (fcode_block.go:29, :110-115): after `Close` of the fenced code block that set it,
    the key is nil again -/
theorem fencedClose_resets (node : Nat) (s s' : St) (h : fencedClose node s = .ok ((), s'))
    (hk : s.pc.fence.map (·.node) = some node) : s'.pc.fence = none := by
  unfold fencedClose at h
  simp only [bind, StateT.bind, getPc, pure, Except.pure, Except.bind] at h
  cases hf : s.pc.fence with
  | none => rw [hf] at hk; cases hk
  | some f =>
    rw [hf] at h hk
    simp only [Option.map, Option.some.injEq] at hk
    simp only [hk, beq_self_eq_true, ↓reduceIte, modPc] at h
    cases h
    rfl

def TmpStaysNone (s s' : St) : Prop := s.pc.tmpPara = none → s'.pc.tmpPara = none

theorem tmpStaysNone_prims : FrPrims TmpStaysNone where
  refl := fun _ h => h
  trans := fun h1 h2 h => h2 (h1 h)
  modNode := fun _ _ _ h => h
  newNode := fun _ _ h => h

theorem IFr.apply {α} {m : M α} {s : St} {a : α} {s' : St} (h : m s = .ok (a, s')) (hm : IFr R m) : R s s' :=
  hm.h s a s' h

/-- temporaryParagraphKey (setext_headings.go:9, :72, :85): after `Close` of a setext heading the key is nil,
    from any state -/
theorem setextClose_resets (node : Nat) (s s' : St) (h : setextClose node s = .ok ((), s')) :
    s'.pc.tmpPara = none := by
  unfold setextClose at h
  obtain ⟨hn, s1, h1, h⟩ := bind_ok h
  obtain ⟨seg, s2, h2, h⟩ := bind_ok h
  obtain ⟨_, s3, h3, h⟩ := bind_ok h
  obtain ⟨pc, s4, h4, h⟩ := bind_ok h
  have hR := tmpStaysNone_prims
  have rm := removeChild_frI hR
  have ia := fun p v i => (insertAfter_built (L := fun _ _ => True) (NW := fun _ _ => False) (NN := fun _ => False) (p := p) v (ins := i)
    trivial).frI hR
  have ns := fun c => (nextSibling_built (RD := False) (NW := fun _ _ => False) (PW := fun _ => False) (NN := fun _ => False) c).frI hR
  dsimp only at h
  cases hp : pc.tmpPara with
  | none =>
    rw [hp] at h
    obtain ⟨tmp, s5, h5, h⟩ := bind_ok h
    exact (throw_ok h5).elim
  | some t =>
  rw [hp] at h
  · obtain ⟨tmp, s5, h5, h⟩ := bind_ok h
    obtain ⟨_, s6, h6, h⟩ := bind_ok h
    have hm := modPc_ok h6
    have hr : TmpStaysNone s6 s' := by
      refine IFr.apply h ?_
      frame
    apply hr
    rw [hm]

end GM.Blocks
