/-
  GM.Proof.QuoteSimInvLI — the bridge from the unary facts about one run in the middle of a pass of the per-line loop
  (`Sh.MidA`, GM.Proof.ShiftSimDriverL, from the no-panic development GM.Proof.BlocksDriverL) to the precondition
  `ListItemContPre` of `listItemContinue_sim'` (GM.Proof.QuoteSimList).

  The reader hypotheses are the ones of `R3` (field `r` of `SR`): the source has no tab (`R3.tf`), the position `p` is
  in line `k` which starts at `ls` (`R3.inl`), the reader stands there WITHOUT left-over padding (`R3.a`). The cursor of
  `R3` never has padding, and in a source without tabs `indentWidthI` does not depend on the current column, so that
  `loVal src c` (which is `p - ls`, not `0`) does not matter. The line must not be blank (`NBV src ls p`): for a blank
  line `ListItemContPre` can be false (offset 6, a line of five spaces), and `listItemContinue_sim'` does not use it there.
-/
import GM.Proof.ShiftSimDriverL
import GM.Proof.QuoteSimList

namespace GM.Blocks
open GM GM.Text GM.Spec GM.Proof.Reader GM.Blocks.L

theorem lastOffsetVal_eq_li_lastOff (s : St) (q : Nat) : lastOffsetVal s.nodes q = li_lastOff s q := rfl

/-- `li_ListContinued` for a cursor without padding in a source without tabs, in the vocabulary of `ListItemContPre` -/
theorem listItemContPre_of_listContinued {src : Bytes} {s : St} {k ls p node q : Nat}
    (tf : ∀ c ∈ src, c ≠ 9) (hi : InL src k ls p)
    (hnb : isBlank ((viewA src ls p).getD []) = false)
    (hoff : 0 ≤ li_lastOff s q) (hlist : li_ListContinued src s ⟨k, p, 0⟩ node q) :
    0 ≤ lastOffsetVal s.nodes q ∧
    ((indentWidthI ((viewA src ls p).getD []) 0).1 < lastOffsetVal s.nodes q →
      (indentWidthI ((viewA src ls p).getD []) 0).1 < 4 ∧
      ((matchesListItem ((viewA src ls p).getD []) true).2 ≠ ListTyp.notList ∨
        ((s.nodes.getD node default).children.length == 0 && s.pc.emptyItemBlank) = false)) := by
  unfold li_ListContinued at hlist
  simp only at hlist
  rw [view_A hi, indentWidthI_tf _ (viewA_tf tf ls p) _ 0] at hlist
  obtain ⟨h1, h2⟩ := hlist hnb
  rw [lastOffsetVal_eq_li_lastOff]
  refine ⟨hoff, fun hlt => ?_⟩
  have h4 : (indentWidthI ((viewA src ls p).getD []) 0).1 < 4 := by
    apply Classical.byContradiction
    intro hn
    exact h1 ⟨hlt, by omega⟩
  refine ⟨h4, ?_⟩
  by_cases ht : (matchesListItem ((viewA src ls p).getD []) true).2 = ListTyp.notList
  · right
    cases he : ((s.nodes.getD node default).children.length == 0 && s.pc.emptyItemBlank) with
    | false => rfl
    | true => exact absurd ⟨he, hlt, h4, ht⟩ h2
  · exact .inl ht

/-- THE BRIDGE: in the middle of a pass (`Sh.MidA`), with a list item `be` next and the reader at position `p` of the
    non-blank rest of line `k`, the precondition of `listItemContinue_sim'` holds. -/
theorem listItemContPre_of_mid {src : Bytes} {ob pre rest : List Block} {be : Block} {i : Int} {s : St} {k ls p : Nat}
    (hm : Sh.MidA src ob pre (be :: rest) i s) (hbi : be.bp = .listItem)
    (tf : ∀ c ∈ src, c ≠ 9) (hi : InL src k ls p) (hr : RI src s.r ⟨k, p, 0⟩) (hp : p < src.length)
    (hnb : isBlank ((viewA src ls p).getD []) = false) :
    ListItemContPre src ls p be.node s := by
  obtain ⟨c, q, hri, _, _, hpar, _, _, hoff, hlist⟩ := Sh.lL_liPre hm ⟨_, hr, hp⟩ hbi
  have hc := Sh.ri_unique hri hr
  subst hc
  intro q' hq'
  have e : (nd s be.node).parent = some q' := hq'
  rw [hpar] at e
  cases e
  exact listItemContPre_of_listContinued tf hi hnb hoff hlist

/-- the same from the relation `SR` (its reader part is exactly the hypotheses above) -/
theorem listItemContPre_of_mid_sr {src : Bytes} {ob pre rest : List Block} {be : Block} {i : Int} {sA sB : St}
    {k ls p : Nat} (h : SR src k ls p sA sB)
    (hm : Sh.MidA src ob pre (be :: rest) i sA) (hbi : be.bp = .listItem) (hp : p < src.length)
    (hnb : isBlank ((viewA src ls p).getD []) = false) :
    ListItemContPre src ls p be.node sA :=
  listItemContPre_of_mid hm hbi h.r.tf h.r.inl h.r.a hp hnb

/-- the parent of the list item is not the Document, and it is a List (for the `node ≠ 0` cases of the simulation) -/
theorem listItem_parent_of_mid {src : Bytes} {ob pre rest : List Block} {be : Block} {i : Int} {s : St} {c : RCur}
    (hm : Sh.MidA src ob pre (be :: rest) i s) (hbi : be.bp = .listItem) (hr : RI src s.r c) (hp : c.p < src.length) :
    ∃ q, (s.nodes.getD be.node default).parent = some q ∧ (s.nodes.getD q default).kind = .list ∧ q ≠ 0 := by
  obtain ⟨c, q, hri, _, _, hpar, hk, _, _, _⟩ := Sh.lL_liPre hm ⟨_, hr, hp⟩ hbi
  refine ⟨q, hpar, hk, fun h0 => ?_⟩
  subst h0
  have hk' : (nd s 0).kind = .list := hk
  rw [hm.st.ls.rootKind] at hk'
  cases hk'

/-- `lL_step` re-exported: after a `Continue` that answers "Continue" (with children — for a container always,
    `Sh.lL_cont`) the invariant holds for the next open block -/
theorem mid_step {src : Bytes} {ob pre rest : List Block} {be : Block} {i : Int} {s s' : St} {st : PState} {c : RCur}
    (hm : Sh.MidA src ob pre (be :: rest) i s) (hr : RI src s.r c) (hp : c.p < src.length)
    (e : bpContinue be.bp be.node s = .ok (st, s')) (hc : st.cont = true) (hch : st.hasChildren = true) :
    Sh.MidA src ob (pre ++ [be]) rest (i + 1) s' :=
  (Sh.lL_step hm ⟨c, hr, hp⟩ e).2.2 hc hch

/-- the same for a container parser, where "Continue" always comes with children -/
theorem mid_step_container {src : Bytes} {ob pre rest : List Block} {be : Block} {i : Int} {s s' : St} {st : PState}
    {c : RCur} (hm : Sh.MidA src ob pre (be :: rest) i s) (hr : RI src s.r c) (hp : c.p < src.length)
    (hcn : be.bp.isContainer = true)
    (e : bpContinue be.bp be.node s = .ok (st, s')) (hc : st.cont = true) :
    Sh.MidA src ob (pre ++ [be]) rest (i + 1) s' :=
  mid_step hm hr hp e hc (Sh.lL_cont be.bp hcn be.node s s' st e hc)

/-- what `lL_step` says in every case: the opened blocks are the same and the state is stable -/
theorem mid_step_opened {src : Bytes} {ob pre rest : List Block} {be : Block} {i : Int} {s s' : St} {st : PState}
    {c : RCur} (hm : Sh.MidA src ob pre (be :: rest) i s) (hr : RI src s.r c) (hp : c.p < src.length)
    (e : bpContinue be.bp be.node s = .ok (st, s')) :
    StableL src 0 s' ∧ s'.pc.opened = ob :=
  ⟨(Sh.lL_step hm ⟨c, hr, hp⟩ e).1, (Sh.lL_step hm ⟨c, hr, hp⟩ e).2.1⟩

end GM.Blocks
