/-
  GM.Proof.ConvertFShape — the AST shape `shapeOKB` holds of EVERY tree in front of the transformer that `parsePhases`
  returns: the walk over the store (`treeOfF`: modes body / noteRoot / note) and the conversions (`docTreeF`, `inlineTreeF`,
  `blockKindF`) build it so, and the domain monitors of GM.Model.ConvertF answer `pre` for the stores that would not.
-/
import GM.Proof.ConvertFTree
import GM.Proof.ConvertFConsDoc

namespace GM.ConvertF
open GM GM.Text GM.Blocks GM.Convert GM.Proof.ConvertX

/-! ### a block kind is one all walks descend through (`special` of GM.Proof.ConvertFTree) -/

theorem blockKind_special {src : Bytes} {n : GM.Blocks.Node} {k : GM.Kind} (h : blockKind src n = .ok k) : special k = false := by
  unfold blockKind at h
  split at h
  case h_8 =>
    dsimp only at h
    split at h
    · obtain ⟨a, _, h⟩ := Proof.Reader.bind_ok h
      obtain ⟨b, hb, h⟩ := Proof.Reader.bind_ok h
      obtain ⟨c, _, h⟩ := Proof.Reader.bind_ok h
      rw [epure_ok h]; rfl
    · obtain ⟨b, hb, h⟩ := Proof.Reader.bind_ok h
      obtain ⟨c, _, h⟩ := Proof.Reader.bind_ok h
      rw [epure_ok h]; rfl
  case h_9 =>
    dsimp only at h
    split at h
    · obtain ⟨a, _, h⟩ := Proof.Reader.bind_ok h
      obtain ⟨b, hb, h⟩ := Proof.Reader.bind_ok h
      obtain ⟨c, _, h⟩ := Proof.Reader.bind_ok h
      rw [epure_ok h]; rfl
    · obtain ⟨b, hb, h⟩ := Proof.Reader.bind_ok h
      obtain ⟨c, _, h⟩ := Proof.Reader.bind_ok h
      rw [epure_ok h]; rfl
  all_goals first
    | (rw [epure_ok h]; rfl)
    | (obtain ⟨a, _, h⟩ := Proof.Reader.bind_ok h; rw [epure_ok h]; rfl)

theorem plainBL_append : ∀ a b : List GM.Node, plainBL (a ++ b) = (plainBL a && plainBL b)
  | [], b => by simp [plainBL]
  | x :: a, b => by simp [plainBL, plainBL_append a b, Bool.and_assoc]
theorem bodyOKBL_append : ∀ a b : List GM.Node, bodyOKBL (a ++ b) = (bodyOKBL a && bodyOKBL b)
  | [], b => by simp [bodyOKBL]
  | x :: a, b => by simp [bodyOKBL, bodyOKBL_append a b, Bool.and_assoc]
theorem noBacksBL_append : ∀ a b : List GM.Node, noBacksBL (a ++ b) = (noBacksBL a && noBacksBL b)
  | [], b => by simp [noBacksBL]
  | x :: a, b => by simp [noBacksBL, noBacksBL_append a b, Bool.and_assoc]
theorem evNodes_append (u : Bool) (h : Option Nat) : ∀ a b : List GM.Node, evNodes u h (a ++ b) = evNodes u h a ++ evNodes u h b
  | [], b => by simp [evNodes]
  | x :: a, b => by simp [evNodes, evNodes_append u h a b]
theorem listsOfL_append : ∀ a b : List GM.Node, listsOfL (a ++ b) = listsOfL a ++ listsOfL b
  | [], b => by simp [listsOfL]
  | x :: a, b => by simp [listsOfL, listsOfL_append a b]

/-! ### what is built from inline nodes -/

/-- no Footnote / FootnoteList / FootnoteBacklink, FootnoteLinks are leaves pointing below `n`, plain below an Image -/
def NodeOK (n : Nat) (t : GM.Node) : Prop :=
  plainB t = true ∧ bodyOKB t = true ∧ noBacksB t = true ∧ ∀ u h, ∀ e ∈ evNode u h t, e.k < n
def NodesOK (n : Nat) (ts : List GM.Node) : Prop :=
  plainBL ts = true ∧ bodyOKBL ts = true ∧ noBacksBL ts = true ∧ ∀ u h, ∀ e ∈ evNodes u h ts, e.k < n

theorem NodesOK.nil (n : Nat) : NodesOK n [] := ⟨rfl, rfl, rfl, fun _ _ e he => by simp [evNodes] at he⟩

theorem NodesOK.cons {n : Nat} {t : GM.Node} {ts : List GM.Node} (h1 : NodeOK n t) (h2 : NodesOK n ts) : NodesOK n (t :: ts) :=
  ⟨by simp [plainBL, h1.1, h2.1], by simp [bodyOKBL, h1.2.1, h2.2.1], by simp [noBacksBL, h1.2.2.1, h2.2.2.1],
   fun u h e he => by
     simp only [evNodes, List.mem_append] at he
     rcases he with he | he
     · exact h1.2.2.2 u h e he
     · exact h2.2.2.2 u h e he⟩

theorem NodesOK.append {n : Nat} {a b : List GM.Node} (h1 : NodesOK n a) (h2 : NodesOK n b) : NodesOK n (a ++ b) :=
  ⟨by simp [plainBL_append, h1.1, h2.1], by simp [bodyOKBL_append, h1.2.1, h2.2.1],
   by simp [noBacksBL_append, h1.2.2.1, h2.2.2.1],
   fun u h e he => by
     rw [evNodes_append, List.mem_append] at he
     rcases he with he | he
     · exact h1.2.2.2 u h e he
     · exact h2.2.2.2 u h e he⟩

/-- a node of a kind all walks descend through, over good children -/
theorem NodeOK.blk {n : Nat} {k : GM.Kind} (hk : special k = false) (a : Option (List GM.Attr)) {cs : List GM.Node}
    (h : NodesOK n cs) : NodeOK n (.mk k a cs) :=
  ⟨by rw [plainB_other hk]; exact h.1, by rw [bodyOKB_other hk]; exact h.2.1, by rw [noBacksB_other hk]; exact h.2.2.1,
   fun u hh e he => by rw [evNode_other hk] at he; exact h.2.2.2 u hh e he⟩

mutual
theorem inlineTreeF_ok (n : Nat) (src : Bytes) : ∀ (x : GM.Inl.Node) (t : GM.Node), inlineTreeF true n src x = .ok t → NodeOK n t
  | .text .., t, h => by
    unfold inlineTreeF at h
    obtain ⟨v, _, h⟩ := Proof.Reader.bind_ok h
    rw [epure_ok h]; exact NodeOK.blk rfl _ (NodesOK.nil n)
  | .codeSpan ks, t, h => by
    unfold inlineTreeF at h
    obtain ⟨cs, hc, h⟩ := Proof.Reader.bind_ok h
    rw [epure_ok h]; exact NodeOK.blk rfl _ (inlineTreesF_ok n src ks cs hc)
  | .emphasis lv ks, t, h => by
    unfold inlineTreeF at h
    simp only [if_true] at h
    split at h
    · rename_i k hk
      split at h
      · rename_i hlt
        rw [epure_ok h]
        refine ⟨by simp [plainB, isFootKind, plainBL], by simp [bodyOKB], by simp [noBacksB, noBacksBL], ?_⟩
        intro u hh e he
        simp only [evNode, List.mem_singleton] at he
        rw [he]; exact hlt
      · cases h
    · obtain ⟨cs, hc, h⟩ := Proof.Reader.bind_ok h
      rw [epure_ok h]; exact NodeOK.blk rfl _ (inlineTreesF_ok n src ks cs hc)
  | .link im d ti ks, t, h => by
    unfold inlineTreeF at h
    obtain ⟨cs, hc, h⟩ := Proof.Reader.bind_ok h
    rw [epure_ok h]
    have ih := inlineTreesF_ok n src ks cs hc
    cases im with
    | false => exact NodeOK.blk rfl _ ih
    | true =>
      simp only [if_true]
      refine ⟨by simp [plainB, isFootKind, ih.1], by simp [bodyOKB, ih.1], by simp [noBacksB, ih.2.2.1], ?_⟩
      intro u hh e he
      simp only [evNode] at he
      exact ih.2.2.2 true hh e he
  | .autoLink .., t, h => by
    unfold inlineTreeF at h
    obtain ⟨v, _, h⟩ := Proof.Reader.bind_ok h
    rw [epure_ok h]; exact NodeOK.blk rfl _ (NodesOK.nil n)
  | .rawHTML .., t, h => by
    unfold inlineTreeF at h
    obtain ⟨v, _, h⟩ := Proof.Reader.bind_ok h
    rw [epure_ok h]; exact NodeOK.blk rfl _ (NodesOK.nil n)
  | .delim .., t, h => by
    unfold inlineTreeF at h
    rw [epure_ok h]; exact NodeOK.blk rfl _ (NodesOK.nil n)
  | .label .., t, h => by
    unfold inlineTreeF at h
    rw [epure_ok h]; exact NodeOK.blk rfl _ (NodesOK.nil n)
theorem inlineTreesF_ok (n : Nat) (src : Bytes) : ∀ (xs : List GM.Inl.Node) (ts : List GM.Node),
    inlineTreesF true n src xs = .ok ts → NodesOK n ts
  | [], ts, h => by
    unfold inlineTreesF at h
    rw [epure_ok h]; exact NodesOK.nil n
  | x :: rest, ts, h => by
    unfold inlineTreesF at h
    obtain ⟨t, h1, h⟩ := Proof.Reader.bind_ok h
    obtain ⟨ts', h2, h⟩ := Proof.Reader.bind_ok h
    rw [epure_ok h]
    exact NodesOK.cons (inlineTreeF_ok n src x t h1) (inlineTreesF_ok n src rest ts' h2)
end

/-! ### the tagged tree -/

mutual
/-- no Footnote / FootnoteList tag (a `stray` tag makes `docTreeF` fail) -/
def ftPlain : FTree → Bool
  | .node tag _ cs => (tag == .plain || tag == .stray) && ftPlainL cs
def ftPlainL : List FTree → Bool
  | [] => true
  | t :: rest => ftPlain t && ftPlainL rest
end

/-- the children of the list: the definitions `i, i+1, …`, plain below -/
def ftNoteRoots : Nat → List FTree → Bool
  | _, [] => true
  | i, .node tag _ cs :: rest => (tag == .footnote i || tag == .alien) && ftPlainL cs && ftNoteRoots (i + 1) rest

mutual
/-- outside the list: no Footnote tag; the children of a list are note roots -/
def ftBody : FTree → Bool
  | .node .list _ cs => ftNoteRoots 0 cs
  | .node (.footnote _) _ _ => false
  | .node _ _ cs => ftBodyL cs
def ftBodyL : List FTree → Bool
  | [] => true
  | t :: rest => ftBody t && ftBodyL rest
end

mutual
/-- every list node has `L` children -/
def ftListLen (L : Nat) : FTree → Bool
  | .node tag _ cs => (!tag.isList || cs.length == L) && ftListLenL L cs
def ftListLenL (L : Nat) : List FTree → Bool
  | [] => true
  | t :: rest => ftListLen L t && ftListLenL L rest
end

mutual
theorem ftPlain_listCount : ∀ t : FTree, ftPlain t = true → t.listCount = 0
  | .node tag n cs, h => by
    simp only [ftPlain, Bool.and_eq_true, Bool.or_eq_true, beq_iff_eq] at h
    have : tag.isList = false := by rcases h.1 with h1 | h1 <;> subst h1 <;> rfl
    simp [FTree.listCount, this, ftPlainL_listCount cs h.2]
theorem ftPlainL_listCount : ∀ ts : List FTree, ftPlainL ts = true → FTree.listCountL ts = 0
  | [], _ => rfl
  | t :: rest, h => by
    simp only [ftPlainL, Bool.and_eq_true] at h
    simp [FTree.listCountL, ftPlain_listCount t h.1, ftPlainL_listCount rest h.2]
end

theorem ftNoteRoots_listCount : ∀ (i : Nat) (ts : List FTree), ftNoteRoots i ts = true → FTree.listCountL ts = 0
  | _, [], _ => rfl
  | i, .node tag n cs :: rest, h => by
    simp only [ftNoteRoots, Bool.and_eq_true, Bool.or_eq_true, beq_iff_eq] at h
    have : tag.isList = false := by rcases h.1.1 with h1 | h1 <;> subst h1 <;> rfl
    simp [FTree.listCountL, FTree.listCount, this, ftPlainL_listCount cs h.1.2, ftNoteRoots_listCount (i + 1) rest h.2]

/-! ### `docTreeF` on the tagged tree -/

theorem inlinePhaseF_nolines (on g : Bool) (refs : Option (List Bytes)) (env : GM.Inl.Env) (src : Bytes) (n : Blocks.Node)
    (h : n.lines.isEmpty = true) : inlinePhaseF on g refs env src n = .ok [] := by
  unfold inlinePhaseF
  split
  · rfl
  · simp [h]

/-- the parts of a successful `docTreeF` -/
theorem docTreeF_ok {g : Bool} {refs : Option (List Bytes)} {env : GM.Inl.Env} {src : Bytes} {tag : FTag} {n : Blocks.Node}
    {cs : List FTree} {t : GM.Node} (h : docTreeF true g refs env src (.node tag n cs) = .ok t) :
    ∃ bs kids is k, docTreesF true g refs env src cs = .ok bs ∧ inlinePhaseF true g refs env src n = .ok kids ∧
      inlineTreesF true (refs.getD []).length src kids = .ok is ∧ blockKindF tag src n = .ok k ∧ t = .mk k none (bs ++ is) := by
  unfold docTreeF at h
  obtain ⟨bs, h1, h⟩ := Proof.Reader.bind_ok h
  obtain ⟨kids, h2, h⟩ := Proof.Reader.bind_ok h
  obtain ⟨is, h3, h⟩ := Proof.Reader.bind_ok h
  obtain ⟨k, h4, h⟩ := Proof.Reader.bind_ok h
  exact ⟨bs, kids, is, k, h1, h2, liftErr_ok' h3, liftErr_ok' h4, epure_ok h⟩

mutual
theorem docTreeF_plain_ok (g : Bool) (refs : Option (List Bytes)) (env : GM.Inl.Env) (src : Bytes) : ∀ (ft : FTree) (t : GM.Node),
    ftPlain ft = true → docTreeF true g refs env src ft = .ok t → NodeOK (refs.getD []).length t
  | .node tag n cs, t, hp, h => by
    obtain ⟨bs, kids, is, k, h1, h2, h3, h4, rfl⟩ := docTreeF_ok h
    simp only [ftPlain, Bool.and_eq_true, Bool.or_eq_true, beq_iff_eq] at hp
    rcases hp.1 with ht | ht
    · subst ht
      exact NodeOK.blk (blockKind_special h4) _
        (NodesOK.append (docTreesF_plain_ok g refs env src cs bs hp.2 h1) (inlineTreesF_ok _ src kids is h3))
    · subst ht; cases h4
theorem docTreesF_plain_ok (g : Bool) (refs : Option (List Bytes)) (env : GM.Inl.Env) (src : Bytes) :
    ∀ (fts : List FTree) (ts : List GM.Node), ftPlainL fts = true → docTreesF true g refs env src fts = .ok ts →
      NodesOK (refs.getD []).length ts
  | [], ts, _, h => by
    unfold docTreesF at h
    rw [epure_ok h]; exact NodesOK.nil _
  | ft :: rest, ts, hp, h => by
    unfold docTreesF at h
    obtain ⟨x, h1, h⟩ := Proof.Reader.bind_ok h
    obtain ⟨xs, h2, h⟩ := Proof.Reader.bind_ok h
    rw [epure_ok h]
    simp only [ftPlainL, Bool.and_eq_true] at hp
    exact NodesOK.cons (docTreeF_plain_ok g refs env src ft x hp.1 h1) (docTreesF_plain_ok g refs env src rest xs hp.2 h2)
end

/-- the children of the list as the renderer-side tree has them -/
theorem docTreesF_notes_ok (g : Bool) (refs : Option (List Bytes)) (env : GM.Inl.Env) (src : Bytes) :
    ∀ (i : Nat) (fts : List FTree) (ts : List GM.Node), ftNoteRoots i fts = true → docTreesF true g refs env src fts = .ok ts →
      notesOKB i ts = true ∧ noBacksBL ts = true ∧ (∀ u h, ∀ e ∈ evNodes u h ts, e.k < (refs.getD []).length) ∧
      ts.length = fts.length
  | _, [], ts, _, h => by
    unfold docTreesF at h
    rw [epure_ok h]
    exact ⟨rfl, rfl, fun _ _ e he => by simp [evNodes] at he, rfl⟩
  | i, .node tag n cs :: rest, ts, hp, h => by
    unfold docTreesF at h
    obtain ⟨x, h1, h⟩ := Proof.Reader.bind_ok h
    obtain ⟨xs, h2, h⟩ := Proof.Reader.bind_ok h
    rw [epure_ok h]
    simp only [ftNoteRoots, Bool.and_eq_true, Bool.or_eq_true, beq_iff_eq] at hp
    obtain ⟨⟨ht, hc⟩, hr⟩ := hp
    obtain ⟨ih1, ih2, ih3, ih4⟩ := docTreesF_notes_ok g refs env src (i + 1) rest xs hr h2
    obtain ⟨bs, kids, is, k, g1, g2, g3, g4, rfl⟩ := docTreeF_ok h1
    rcases ht with ht | ht
    · subst ht
      have hk : k = .footnote i := by
        simp only [blockKindF] at g4
        split at g4
        · exact (epure_ok g4)
        · cases g4
      subst hk
      have hok := NodesOK.append (docTreesF_plain_ok g refs env src cs bs hc g1) (inlineTreesF_ok _ src kids is g3)
      refine ⟨by simp [notesOKB, isNoteKind, hok.1, ih1], by simp [noBacksBL, noBacksB, hok.2.2.1, ih2], ?_, by simp [ih4]⟩
      intro u hh e he
      simp only [evNodes, evNode, List.mem_append] at he
      rcases he with he | he
      · exact hok.2.2.2 u (some i) e he
      · exact ih3 u hh e he
    · subst ht; cases g4

/-- what a body subtree gives: `c` FootnoteLists, each with `L` well-formed children -/
def BodyOK (n L : Nat) (t : GM.Node) (c : Nat) : Prop :=
  bodyOKB t = true ∧ noBacksB t = true ∧ (∀ u h, ∀ e ∈ evNode u h t, e.k < n) ∧ (listsOf t).length = c ∧
    ∀ cs ∈ listsOf t, notesOKB 0 cs = true ∧ cs.length = L
def BodyOKL (n L : Nat) (ts : List GM.Node) (c : Nat) : Prop :=
  bodyOKBL ts = true ∧ noBacksBL ts = true ∧ (∀ u h, ∀ e ∈ evNodes u h ts, e.k < n) ∧ (listsOfL ts).length = c ∧
    ∀ cs ∈ listsOfL ts, notesOKB 0 cs = true ∧ cs.length = L

theorem BodyOKL.ofNodes {n L : Nat} {ts : List GM.Node} (h : NodesOK n ts) : BodyOKL n L ts 0 := by
  have := (plainL_linksH none none ts h.1).2.2
  exact ⟨h.2.1, h.2.2.1, h.2.2.2, by rw [this]; rfl, by rw [this]; intro cs hc; cases hc⟩

theorem BodyOKL.append {n L : Nat} {a b : List GM.Node} {c d : Nat} (h1 : BodyOKL n L a c) (h2 : BodyOKL n L b d) :
    BodyOKL n L (a ++ b) (c + d) :=
  ⟨by simp [bodyOKBL_append, h1.1, h2.1], by simp [noBacksBL_append, h1.2.1, h2.2.1],
   fun u h e he => by
     rw [evNodes_append, List.mem_append] at he
     rcases he with he | he
     · exact h1.2.2.1 u h e he
     · exact h2.2.2.1 u h e he,
   by rw [listsOfL_append, List.length_append, h1.2.2.2.1, h2.2.2.2.1],
   fun cs hc => by
     rw [listsOfL_append, List.mem_append] at hc
     rcases hc with hc | hc
     · exact h1.2.2.2.2 cs hc
     · exact h2.2.2.2.2 cs hc⟩

mutual
theorem docTreeF_body_ok (g : Bool) (refs : Option (List Bytes)) (env : GM.Inl.Env) (src : Bytes) (L : Nat) :
    ∀ (ft : FTree) (t : GM.Node), ftBody ft = true → ftListLen L ft = true → docTreeF true g refs env src ft = .ok t →
      BodyOK (refs.getD []).length L t ft.listCount
  | .node tag n cs, t, hb, hl, h => by
    obtain ⟨bs, kids, is, k, h1, h2, h3, h4, rfl⟩ := docTreeF_ok h
    simp only [ftListLen, Bool.and_eq_true, Bool.or_eq_true, Bool.not_eq_true', beq_iff_eq] at hl
    cases tag with
    | list =>
      simp only [ftBody] at hb
      have hlen : cs.length = L := by
        rcases hl.1 with h0 | h0
        · simp [FTag.isList] at h0
        · exact h0
      have hlines : n.lines.isEmpty = true := by
        simp only [blockKindF] at h4
        split at h4
        · assumption
        · cases h4
      have hk : k = .footnoteList := by
        simp only [blockKindF, hlines, if_true] at h4
        exact epure_ok h4
      subst hk
      rw [inlinePhaseF_nolines true g refs env src n hlines] at h2
      cases h2
      unfold inlineTreesF at h3
      have his := epure_ok h3
      subst his
      obtain ⟨n1, n2, n3, n4⟩ := docTreesF_notes_ok g refs env src 0 cs bs hb h1
      simp only [List.append_nil]
      refine ⟨by simp [bodyOKB], by simp [noBacksB, n2], fun u hh e he => by simp only [evNode] at he; exact n3 u hh e he,
        by simp [listsOf, FTree.listCount, FTag.isList, ftNoteRoots_listCount 0 cs hb], ?_⟩
      intro cs' hc
      simp only [listsOf, List.mem_singleton] at hc
      subst hc
      exact ⟨n1, by rw [n4, hlen]⟩
    | footnote j => simp [ftBody] at hb
    | stray => cases h4
    | alien => cases h4
    | plain =>
      simp only [ftBody] at hb
      have hk := blockKind_special h4
      have hbs := docTreesF_body_ok g refs env src L cs bs hb hl.2 h1
      have his : BodyOKL (refs.getD []).length L is 0 := BodyOKL.ofNodes (inlineTreesF_ok _ src kids is h3)
      have hall := BodyOKL.append hbs his
      refine ⟨by rw [bodyOKB_other hk]; exact hall.1, by rw [noBacksB_other hk]; exact hall.2.1,
        fun u hh e he => by rw [evNode_other hk] at he; exact hall.2.2.1 u hh e he,
        by rw [listsOf_other hk, hall.2.2.2.1]; simp [FTree.listCount, FTag.isList],
        fun cs' hc => by rw [listsOf_other hk] at hc; exact hall.2.2.2.2 cs' hc⟩
theorem docTreesF_body_ok (g : Bool) (refs : Option (List Bytes)) (env : GM.Inl.Env) (src : Bytes) (L : Nat) :
    ∀ (fts : List FTree) (ts : List GM.Node), ftBodyL fts = true → ftListLenL L fts = true →
      docTreesF true g refs env src fts = .ok ts → BodyOKL (refs.getD []).length L ts (FTree.listCountL fts)
  | [], ts, _, _, h => by
    unfold docTreesF at h
    rw [epure_ok h]
    exact ⟨rfl, rfl, fun _ _ e he => by simp [evNodes] at he, rfl, fun cs hc => by simp [listsOfL] at hc⟩
  | ft :: rest, ts, hb, hl, h => by
    unfold docTreesF at h
    obtain ⟨x, h1, h⟩ := Proof.Reader.bind_ok h
    obtain ⟨xs, h2, h⟩ := Proof.Reader.bind_ok h
    rw [epure_ok h]
    simp only [ftBodyL, ftListLenL, Bool.and_eq_true] at hb hl
    obtain ⟨a1, a2, a3, a4, a5⟩ := docTreeF_body_ok g refs env src L ft x hb.1 hl.1 h1
    obtain ⟨b1, b2, b3, b4, b5⟩ := docTreesF_body_ok g refs env src L rest xs hb.2 hl.2 h2
    refine ⟨by simp [bodyOKBL, a1, b1], by simp [noBacksBL, a2, b2], ?_, by simp [listsOfL, FTree.listCountL, a4, b4], ?_⟩
    · intro u hh e he
      simp only [evNodes, List.mem_append] at he
      rcases he with he | he
      · exact a3 u hh e he
      · exact b3 u hh e he
    · intro cs hc
      simp only [listsOfL, List.mem_append] at hc
      rcases hc with hc | hc
      · exact a5 cs hc
      · exact b5 cs hc
end

/-! ### the walk over the store builds such a tree -/

theorem tagIn_body (f : FS) (id : Nat) :
    (tagIn f .body id = .list ∧ f.list = some id) ∨ tagIn f .body id = .stray ∨ tagIn f .body id = .plain := by
  unfold tagIn
  simp only
  by_cases h : (f.list == some id) = true
  · left; simp only [h, if_true, true_and]; simpa using h
  · right
    simp only [h, Bool.false_eq_true, if_false]
    by_cases h2 : f.isFn id = true
    · left; simp [h2]
    · right; simp [h2]

theorem tagIn_noteRoot (f : FS) (i id : Nat) : tagIn f (.noteRoot i) id = .footnote i ∨ tagIn f (.noteRoot i) id = .alien := by
  unfold tagIn
  simp only
  by_cases h : f.isFn id = true
  · left; simp [h]
  · right; simp [h]

theorem tagIn_note (f : FS) (id : Nat) : tagIn f .note id = .stray ∨ tagIn f .note id = .plain := by
  unfold tagIn
  simp only
  by_cases h : (f.list == some id || f.isFn id) = true
  · left; simp [h]
  · right; simp [h]

theorem mapIdxFrom_length (g : Nat → Nat → FTree) : ∀ (k : Nat) (cs : List Nat), (mapIdxFrom g k cs).length = cs.length
  | _, [] => rfl
  | k, c :: rest => by simp [mapIdxFrom, mapIdxFrom_length g (k + 1) rest]

theorem ftNoteRoots_mapIdx (g : Nat → Nat → FTree)
    (hg : ∀ i c, ∃ tag n cs, g i c = .node tag n cs ∧ (tag = .footnote i ∨ tag = .alien) ∧ ftPlainL cs = true) :
    ∀ (k : Nat) (cs : List Nat), ftNoteRoots k (mapIdxFrom g k cs) = true
  | _, [] => rfl
  | k, c :: rest => by
    obtain ⟨tag, n, cs', e, ht, hc⟩ := hg k c
    simp only [mapIdxFrom, e, ftNoteRoots, Bool.and_eq_true, Bool.or_eq_true, beq_iff_eq]
    exact ⟨⟨ht, hc⟩, ftNoteRoots_mapIdx g hg (k + 1) rest⟩

theorem ftListLenL_mapIdx (L : Nat) (g : Nat → Nat → FTree) (hg : ∀ i c, ftListLen L (g i c) = true) :
    ∀ (k : Nat) (cs : List Nat), ftListLenL L (mapIdxFrom g k cs) = true
  | _, [] => rfl
  | k, c :: rest => by simp [mapIdxFrom, ftListLenL, hg k c, ftListLenL_mapIdx L g hg (k + 1) rest]

theorem ftPlainL_map (g : Nat → FTree) (hg : ∀ c, ftPlain (g c) = true) : ∀ cs : List Nat, ftPlainL (cs.map g) = true
  | [] => rfl
  | c :: rest => by simp [ftPlainL, hg c, ftPlainL_map g hg rest]
theorem ftBodyL_map (g : Nat → FTree) (hg : ∀ c, ftBody (g c) = true) : ∀ cs : List Nat, ftBodyL (cs.map g) = true
  | [] => rfl
  | c :: rest => by simp [ftBodyL, hg c, ftBodyL_map g hg rest]
theorem ftListLenL_map (L : Nat) (g : Nat → FTree) (hg : ∀ c, ftListLen L (g c) = true) : ∀ cs : List Nat, ftListLenL L (cs.map g) = true
  | [] => rfl
  | c :: rest => by simp [ftListLenL, hg c, ftListLenL_map L g hg rest]

theorem tagIn_list (f : FS) (m : Mode) (id : Nat) (h : tagIn f m id = .list) : f.list = some id := by
  cases m with
  | body =>
    rcases tagIn_body f id with ⟨_, h2⟩ | h' | h'
    · exact h2
    · rw [h'] at h; cases h
    · rw [h'] at h; cases h
  | noteRoot i => rcases tagIn_noteRoot f i id with h' | h' <;> rw [h'] at h <;> cases h
  | note => rcases tagIn_note f id with h' | h' <;> rw [h'] at h <;> cases h

theorem isList_iff (tag : FTag) : tag.isList = true ↔ tag = .list := by cases tag <;> simp [FTag.isList]

theorem treeOfF_shape (f : FS) (nodes : List Blocks.Node) (L : Nat)
    (hL : ∀ id, f.list = some id → (nodes.getD id default).children.length = L) : ∀ fuel : Nat,
    (∀ id, ftBody (treeOfF f nodes fuel .body id) = true) ∧
    (∀ i id, ∃ tag n cs, treeOfF f nodes fuel (.noteRoot i) id = .node tag n cs ∧ (tag = .footnote i ∨ tag = .alien) ∧
      ftPlainL cs = true) ∧
    (∀ id, ftPlain (treeOfF f nodes fuel .note id) = true) ∧
    (∀ m id, ftListLen L (treeOfF f nodes fuel m id) = true)
  | 0 => by
    refine ⟨?_, ?_, ?_, ?_⟩
    · intro id
      simp only [treeOfF]
      rcases tagIn_body f id with ⟨h, _⟩ | h | h
      · rw [h]; split <;> simp [ftBody, ftBodyL, ftNoteRoots]
      · rw [h]; simp [FTag.isList, ftBody, ftBodyL]
      · rw [h]; simp [FTag.isList, ftBody, ftBodyL]
    · intro i id
      simp only [treeOfF]
      rcases tagIn_noteRoot f i id with h | h
      · rw [h]; exact ⟨_, _, _, rfl, by simp [FTag.isList], rfl⟩
      · rw [h]; exact ⟨_, _, _, rfl, by simp [FTag.isList], rfl⟩
    · intro id
      simp only [treeOfF]
      rcases tagIn_note f id with h | h
      · rw [h]; simp [FTag.isList, ftPlain, ftPlainL]
      · rw [h]; simp [FTag.isList, ftPlain, ftPlainL]
    · intro m id
      simp only [treeOfF]
      cases htg : tagIn f m id with
      | list =>
        have hm := tagIn_list f m id htg
        have hlen := hL id hm
        by_cases hc : (nodes.getD id default).children.isEmpty = true
        · have h0 : L = 0 := by rw [← hlen]; simpa using hc
          simp [FTag.isList, hc, ftListLen, ftListLenL, h0]
        · have hc' : ¬ (nodes[id]?.getD default).children = [] := by simpa using hc
          simp [FTag.isList, hc', ftListLen, ftListLenL]
      | plain => simp [FTag.isList, ftListLen, ftListLenL]
      | footnote k => simp [FTag.isList, ftListLen, ftListLenL]
      | stray => simp [FTag.isList, ftListLen, ftListLenL]
      | alien => simp [FTag.isList, ftListLen, ftListLenL]
  | fuel + 1 => by
    obtain ⟨ih1, ih2, ih3, ih4⟩ := treeOfF_shape f nodes L hL fuel
    refine ⟨?_, ?_, ?_, ?_⟩
    · intro id
      simp only [treeOfF]
      rcases tagIn_body f id with ⟨h, _⟩ | h | h
      · rw [h]; simp only [FTag.isList, if_true, ftBody]
        exact ftNoteRoots_mapIdx _ (fun i c => ih2 i c) 0 _
      · rw [h]; simp only [FTag.isList, Bool.false_eq_true, if_false, ftBody]
        exact ftBodyL_map _ ih1 _
      · rw [h]; simp only [FTag.isList, Bool.false_eq_true, if_false, ftBody]
        exact ftBodyL_map _ ih1 _
    · intro i id
      simp only [treeOfF]
      rcases tagIn_noteRoot f i id with h | h
      · rw [h]; simp only [FTag.isList, Bool.false_eq_true, if_false]
        exact ⟨_, _, _, rfl, Or.inl rfl, ftPlainL_map _ ih3 _⟩
      · rw [h]; simp only [FTag.isList, Bool.false_eq_true, if_false]
        exact ⟨_, _, _, rfl, Or.inr rfl, ftPlainL_map _ ih3 _⟩
    · intro id
      simp only [treeOfF]
      rcases tagIn_note f id with h | h
      · rw [h]; simp only [FTag.isList, Bool.false_eq_true, if_false, ftPlain, Bool.and_eq_true]
        exact ⟨by simp, ftPlainL_map _ ih3 _⟩
      · rw [h]; simp only [FTag.isList, Bool.false_eq_true, if_false, ftPlain, Bool.and_eq_true]
        exact ⟨by simp, ftPlainL_map _ ih3 _⟩
    · intro m id
      simp only [treeOfF]
      cases htg : tagIn f m id with
      | list =>
        have hm := tagIn_list f m id htg
        simp only [FTag.isList, if_true, ftListLen, Bool.not_true, Bool.false_or, Bool.and_eq_true, beq_iff_eq,
          mapIdxFrom_length]
        exact ⟨hL id hm, ftListLenL_mapIdx L _ (fun i c => ih4 _ c) 0 _⟩
      | plain =>
        simp only [FTag.isList, Bool.false_eq_true, if_false, ftListLen, Bool.not_false, Bool.true_or, Bool.true_and]
        exact ftListLenL_map L _ (fun c => ih4 _ c) _
      | footnote k =>
        simp only [FTag.isList, Bool.false_eq_true, if_false, ftListLen, Bool.not_false, Bool.true_or, Bool.true_and]
        exact ftListLenL_map L _ (fun c => ih4 _ c) _
      | stray =>
        simp only [FTag.isList, Bool.false_eq_true, if_false, ftListLen, Bool.not_false, Bool.true_or, Bool.true_and]
        exact ftListLenL_map L _ (fun c => ih4 _ c) _
      | alien =>
        simp only [FTag.isList, Bool.false_eq_true, if_false, ftListLen, Bool.not_false, Bool.true_or, Bool.true_and]
        exact ftListLenL_map L _ (fun c => ih4 _ c) _

theorem listCountL_map_zero (g : Nat → FTree) (hg : ∀ c, (g c).listCount = 0) : ∀ cs : List Nat, FTree.listCountL (cs.map g) = 0
  | [] => rfl
  | c :: rest => by simp [FTree.listCountL, hg c, listCountL_map_zero g hg rest]

theorem tagIn_notList (f : FS) (hf : f.list = none) (m : Mode) (id : Nat) : (tagIn f m id).isList = false := by
  cases h : (tagIn f m id).isList with
  | false => rfl
  | true =>
    have := tagIn_list f m id ((isList_iff _).1 h)
    rw [hf] at this; cases this

theorem treeOfF_nolist (f : FS) (hf : f.list = none) (nodes : List Blocks.Node) : ∀ (fuel : Nat) (m : Mode) (id : Nat),
    (treeOfF f nodes fuel m id).listCount = 0
  | 0, m, id => by
    simp [treeOfF, tagIn_notList f hf m id, FTree.listCount, FTree.listCountL]
  | fuel + 1, m, id => by
    simp only [treeOfF, tagIn_notList f hf m id, Bool.false_eq_true, if_false, FTree.listCount, Nat.zero_add]
    exact listCountL_map_zero _ (fun c => treeOfF_nolist f hf nodes fuel _ c) _

theorem treeOfF_root (f : FS) (nodes : List Blocks.Node) (fuel : Nat) (m : Mode) (id : Nat) :
    ∃ tag cs, treeOfF f nodes fuel m id = .node tag (nodes.getD id default) cs ∧
      ((tagIn f m id).isList = false → tag = tagIn f m id) := by
  cases fuel with
  | zero =>
    refine ⟨_, _, rfl, ?_⟩
    intro h; simp [h]
  | succ k =>
    by_cases h : (tagIn f m id).isList = true
    · refine ⟨.list, _, by simp only [treeOfF, h, if_true]; rfl, ?_⟩
      intro h'; rw [h] at h'; cases h'
    · refine ⟨tagIn f m id, _, by simp only [treeOfF, h, Bool.false_eq_true, if_false]; rfl, fun _ => rfl⟩

theorem blockKind_document {src : Bytes} {n : Blocks.Node} (h : n.kind = .document) : blockKind src n = .ok .document := by
  unfold blockKind
  rw [h]
  rfl

/-- **the AST shape holds of every tree in front of the transformer that the parse phases return** -/
theorem shape_of_parse (guard : Bool) (uc : List (Nat × (Bool × Bool))) (src : Bytes) (f : FS) (st : St) (t : GM.Node)
    (h : parsePhases true guard uc src = .ok (f, st, t)) : shapeOKB f.list.isSome (labelsOf f st) t = true := by
  unfold parsePhases at h
  obtain ⟨fs, hb, h⟩ := Proof.Reader.bind_ok h
  obtain ⟨f', st'⟩ := fs
  simp only at h
  by_cases hm : monitorFires f' st' (treeOfF f' st'.nodes st'.nodes.length .body 0) = true
  · simp only [hm, if_true] at h; cases h
  · simp only [hm, Bool.false_eq_true, if_false] at h
    obtain ⟨t', hd, h⟩ := Proof.Reader.bind_ok h
    have he := epure_ok h
    simp only [Prod.mk.injEq] at he
    obtain ⟨rfl, rfl, rfl⟩ := he
    -- the tagged tree
    have hLen : (labelsOf f st).length = (listKids f st).length := by simp [labelsOf]
    have hL : ∀ id, f.list = some id → (st.nodes.getD id default).children.length = (labelsOf f st).length := by
      intro id hid
      rw [hLen]; simp [listKids, hid]
    obtain ⟨s1, _, _, s4⟩ := treeOfF_shape f st.nodes (labelsOf f st).length hL st.nodes.length
    have B := docTreeF_body_ok guard _ { refs := st.pc.refs, uc := uc } src (labelsOf f st).length _ t (s1 0) (s4 .body 0) hd
    obtain ⟨b1, b2, b3, b4, b5⟩ := B
    simp only [monitorFires, Bool.or_eq_true, decide_eq_true_eq, Bool.and_eq_true, Bool.not_eq_true', not_or] at hm
    obtain ⟨hm1, hm2⟩ := hm
    obtain ⟨tag0, cs0, hroot, htag0⟩ := treeOfF_root f st.nodes st.nodes.length .body 0
    rw [hroot] at hd
    obtain ⟨bs, kids, is, k, g1, g2, g3, g4, ht⟩ := docTreeF_ok hd
    cases hlist : f.list.isSome with
    | true =>
      -- the bound of the decoder is the number of definitions
      have hn : ((if f.list.isSome = true then some (labelsOf f st) else none : Option (List Bytes)).getD []).length =
          (labelsOf f st).length := by simp [hlist]
      rw [hn] at b3
      have hroot2 : tagIn f .body 0 = .plain ∧ (st.nodes.getD 0 default).kind = .document := by
        have : ¬ (f.list.isSome = true ∧
            (tagIn f .body 0 == .plain && (st.nodes.getD 0 default).kind == .document) = false) := hm2
        rw [hlist] at this
        simp only [true_and, Bool.not_eq_false, Bool.and_eq_true, beq_iff_eq] at this
        exact this
      have ht0 : tag0 = .plain := by rw [htag0 (by rw [hroot2.1]; rfl), hroot2.1]
      subst ht0
      have hk : k = .document := by
        simp only [blockKindF, blockKind_document hroot2.2] at g4
        cases g4; rfl
      simp only [shapeOKB, if_true, Bool.and_eq_true, Bool.true_or, and_true, List.all_eq_true, decide_eq_true_eq]
      refine ⟨⟨⟨⟨b1, by rw [ht, hk]; rfl⟩, b2⟩, ?_⟩, fun e he => b3 false none e he⟩
      cases hl : listsOf t with
      | nil => rfl
      | cons c rest =>
        cases rest with
        | nil =>
          have := b5 c (by rw [hl]; simp)
          simp [this.1, this.2]
        | cons c2 r2 =>
          rw [hl] at b4
          simp only [List.length_cons] at b4
          omega
    | false =>
      have hnone : f.list = none := by cases hf : f.list with | none => rfl | some x => rw [hf] at hlist; cases hlist
      have hn : ((if f.list.isSome = true then some (labelsOf f st) else none : Option (List Bytes)).getD []).length = 0 := by
        simp [hlist]
      rw [hn] at b3
      have hE : evNode false none t = [] := by
        cases hE : evNode false none t with
        | nil => rfl
        | cons e r => have := b3 false none e (by rw [hE]; simp); omega
      have hcnt := treeOfF_nolist f hnone st.nodes st.nodes.length .body 0
      rw [hcnt] at b4
      have hl : listsOf t = [] := List.eq_nil_of_length_eq_zero b4
      have hkind : isFootKind t.kind = false := by
        have hnl := tagIn_notList f hnone .body 0
        rw [htag0 hnl] at g4
        rcases tagIn_body f 0 with ⟨h1, _⟩ | h1 | h1
        · rw [h1] at hnl; cases hnl
        · rw [h1] at g4; cases g4
        · rw [h1] at g4
          rw [ht]
          exact isFootKind_other (blockKind_special g4)
      simp only [shapeOKB, Bool.false_eq_true, if_false, Bool.and_eq_true, Bool.false_or, List.all_eq_true,
        decide_eq_true_eq, hl, hE, List.isEmpty_nil, and_self, and_true, hkind, Bool.not_false]
      exact ⟨⟨b1, b2⟩, fun e he => by cases he⟩

/-! ### the predicates of `MonitorsNeverFire` (GM.Props.C16E2E): `FTree.clean` holds of the final tagged tree
    (`blockPhaseF_clean`, GM.Proof.ConvertFFiled), `linksBelowL` of the inline children (`parseBlockX_linksBelow`,
    GM.Proof.ConvertFLinks) -/

mutual
/-- no `stray` tag; a FootnoteList / Footnote has no lines -/
def FTree.clean : FTree → Bool
  | .node tag n cs =>
    (match tag with
      | .stray => false
      | .alien => true
      | .list => n.lines.isEmpty
      | .footnote _ => n.lines.isEmpty
      | .plain => true) && FTree.cleanL cs
def FTree.cleanL : List FTree → Bool
  | [] => true
  | t :: rest => t.clean && FTree.cleanL rest
end

mutual
/-- every FootnoteLink representation points below `n` -/
def linksBelow (n : Nat) : GM.Inl.Node → Bool
  | .emphasis lv kids => (match fnLinkPos? lv with | some k => decide (k < n) | none => true) && linksBelowL n kids
  | .codeSpan kids => linksBelowL n kids
  | .link _ _ _ kids => linksBelowL n kids
  | _ => true
def linksBelowL (n : Nat) : List GM.Inl.Node → Bool
  | [] => true
  | x :: rest => linksBelow n x && linksBelowL n rest
end

end GM.ConvertF
