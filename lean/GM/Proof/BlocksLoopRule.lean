/-
  GM.Proof.BlocksLoopRule — the loop rules of GM.Proof.BlocksLineRule for the walks that follow the reader with a BOUND (order of the lines,
  close discipline; plain driver or driver with paragraph transformers).

  These walks carry an invariant `K B` that holds "up to the bound `B`": at the start of a line `B` is the cursor (`c.pad = 0`), inside a line
  `K` is kept while the cursor is at or behind `B` and virtual padding only exists behind it (`PadL`). Their judgement is `EQV`: two transformer
  lists side by side, from the same state (`EQV Q x x s` is the partial-correctness triple of `x`; `loopCalc_eqv`). `blocksLoopT_rule`,
  `lineLoopT_rule` are the rules at that invariant, at the level of `…T pts` (`Close = bpClose`; the plain driver is
  `pts = []`, GM.Proof.BlocksRunEq).
-/
import GM.Proof.BlocksOrdDrv
import GM.Proof.BlocksLineRule

namespace GM.Blocks.TO
open GM GM.Text GM.Spec GM.Proof.Reader

/-- `x` and `y` answer the same from `s` (the same error, or the same value and state), and a normal end satisfies `Q` -/
def EQV {α : Type} (Q : α → St → Prop) (x y : M α) (s : St) : Prop :=
  x s = y s ∧ ∀ a s', x s = .ok (a, s') → Q a s'

theorem EQV.refl {α} {Q : α → St → Prop} {x : M α} {s : St} (h : ∀ a s', x s = .ok (a, s') → Q a s') : EQV Q x x s :=
  ⟨rfl, h⟩

theorem EQV.pure {α} {Q : α → St → Prop} {a : α} {s : St} (h : Q a s) : EQV Q (pure a) (pure a) s :=
  ⟨rfl, fun _ _ e => by obtain ⟨rfl, rfl⟩ := pure_ok e; exact h⟩

theorem EQV.mono {α} {P Q : α → St → Prop} {x y : M α} {s : St} (h : EQV P x y s) (hpq : ∀ a s', P a s' → Q a s') :
    EQV Q x y s := ⟨h.1, fun a s' e => hpq a s' (h.2 a s' e)⟩

theorem EQV.bind {α β} {P : α → St → Prop} {Q : β → St → Prop} {x y : M α} {f g : α → M β} {s : St}
    (h : EQV P x y s) (hk : ∀ a s1, x s = .ok (a, s1) → P a s1 → EQV Q (f a) (g a) s1) :
    EQV Q (x >>= f) (y >>= g) s := by
  obtain ⟨h1, h2⟩ := h
  show EQV Q (StateT.bind x f) (StateT.bind y g) s
  unfold EQV StateT.bind
  rw [← h1]
  cases hx : x s with
  | error e => exact ⟨rfl, fun a s' e' => by cases e'⟩
  | ok v =>
    obtain ⟨a, s1⟩ := v
    exact hk a s1 hx (h2 a s1 hx)

theorem EQV.bind_same {α β} {Q : β → St → Prop} {x : M α} {f g : α → M β} {s : St}
    (hk : ∀ a s1, x s = .ok (a, s1) → EQV Q (f a) (g a) s1) : EQV Q (x >>= f) (x >>= g) s :=
  EQV.bind (P := fun a s1 => x s = .ok (a, s1)) (EQV.refl fun _ _ e => e) (fun a s1 _ e => hk a s1 e)

theorem EQV.ite {α} {Q : α → St → Prop} {c : Prop} [Decidable c] {a1 a2 b1 b2 : M α} {s : St}
    (ht : c → EQV Q a1 a2 s) (hf : ¬ c → EQV Q b1 b2 s) : EQV Q (if c then a1 else b1) (if c then a2 else b2) s := by
  by_cases h : c
  · rw [if_pos h, if_pos h]; exact ht h
  · rw [if_neg h, if_neg h]; exact hf h

theorem EQV.throw {α} {Q : α → St → Prop} {e : Panic} {s : St} : EQV Q (throw e : M α) (throw e) s :=
  ⟨rfl, fun _ _ h => by cases h⟩

end GM.Blocks.TO

namespace GM.Blocks
open GM GM.Text GM.Spec GM.Proof.Reader GM.Blocks.L GM.Blocks.TO

theorem loopCalc_eqv : LoopCalc @EQV where
  pure := EQV.pure
  bind := fun h hk => EQV.bind h (fun a s1 _ hp => hk a s1 hp)
  lift := fun h hk => EQV.bind_same (fun a s1 e => hk a s1 e (h.of_ok e))
  ite := EQV.ite
  fuel := EQV.throw

section rule
variable {src : Bytes} {pts1 pts2 : List PT} (parent : Nat)
  {ST : St → Prop} {K : Int → St → Prop} {Dy De : St → Prop}
  (str : ∀ {s : St} (r : Reader), ST s → ST { s with r := r })
  (kmono : ∀ {B B' : Int} {s : St}, B ≤ B' → K B s → K B' s)
  (kr : ∀ {B : Int} {s : St} (r : Reader), K B s → K B { s with r := r })
  (next : ∀ {s : St} {c : RCur}, Dy s → RIa src s.r c → K ((RCur.advanceLine src c).p : Int) { s with r := s.r.advanceLine })
  (hline : ∀ (bl : List LineStat) (s : St) (c : RCur), RI src s.r c → PadOK c → ST s →
    K (c.p : Int) s → c.pad = 0 →
    EQV (fun y s' => Dy s' ∧ (y.1 = LineOutcome.eof → De s') ∧ ∃ c1, RIa src s'.r c1 ∧ ST s')
      (lineLoopT pts1 parent s.pc.opened ((s.pc.opened.length : Int) - 1) s.pc.opened 0 bl)
      (lineLoopT pts2 parent s.pc.opened ((s.pc.opened.length : Int) - 1) s.pc.opened 0 bl) s)
  (hopen : ∀ (blank : Bool) (s : St) (c : RCur), RI src s.r c → PadOK c → ST s →
    s.pc.opened = [] → K (c.p : Int) s → c.pad = 0 →
    EQV (fun r s' => Dy s' ∧ (r ≠ OpenResult.newBlocksOpened → De s') ∧ ∃ c2, RIa src s'.r c2 ∧ ST s')
      (openBlocksT pts1 parent blank) (openBlocksT pts2 parent blank) s)
include str next hline

include kmono kr hopen in
theorem blocksLoopT_rule {Fin : St → Prop} (fk : ∀ B s, K B s → s.pc.opened = [] → Fin s) (fd : ∀ s, Dy s → De s → Fin s) :
    ∀ (fuel : Nat) (bl : List LineStat) (s : St) (c : RCur), RI src s.r c → PadOK c → ST s →
      s.pc.opened = [] → K (c.p : Int) s → c.pad = 0 →
      EQV (fun _ s' => Fin s') (blocksLoopT pts1 parent fuel bl) (blocksLoopT pts2 parent fuel bl) s := by
  intro fuel bl s c hri hpad hst hemp hinv hp0
  rw [blocksLoopT_eqC, blocksLoopT_eqC]
  exact blocksLoopC_rule (cls := bpClose) (K := fun c s => K (c.p : Int) s ∧ c.pad = 0) (De := De) parent loopCalc_eqv str
    (fun hd hria => ⟨next hd hria, rfl⟩)
    (fun hk hri hpad hx => by
      obtain ⟨c1, a1, a2, a3⟩ := GM.Blocks.L.skipBlankLines_mono (src := src) _ _ _ _ _ _ hri hpad hx
      exact ⟨c1, a1, a2, kr _ (kmono (by omega) hk.1), a3.2 hk.2⟩)
    (fun bl s c hri hpad hst hk => by simp only [← lineLoopT_eqC]; exact hline bl s c hri hpad hst hk.1 hk.2)
    (fun blank s c hri hpad hst hemp hk => by simp only [← openBlocksT_eqC]; exact hopen blank s c hri hpad hst hemp hk.1 hk.2)
    (fun _ s hk he => fk _ s hk.1 he) fd fuel bl s c hri hpad hst hemp ⟨hinv, hp0⟩

end rule

/-- the pass of GM.Proof.BlocksLineRule at the level of `lineLoopT pts` (`Close` = `bpClose`), for an invariant `K` "up to the bound `Lb`": kept
    while the cursor is at or behind `Lb` and virtual padding only exists behind it (`PadL`) -/
theorem lineLoopT_rule {src : Bytes} (lsp : LSp src) {pts1 pts2 : List PT} {root : Nat} (parent : Nat) (ob : List Block) (li : Int) (Lb : Int)
    (hli : li = (ob.length : Int) - 1)
    {ST K Dy : St → Prop} {Q : LineOutcome × List LineStat → St → Prop} (hS : LineLayer src root ST)
    {Jd : {α : Type} → (α → St → Prop) → M α → M α → St → Prop} (hJ : LoopCalc @Jd)
    (ksame : ∀ {s s' : St}, K s → s'.nodes = s.nodes → s'.pc.opened = s.pc.opened → s'.pc.tmpPara = s.pc.tmpPara → K s')
    (kdirty : ∀ {s : St} {c : RCur}, K s → RI src s.r c → PadOK c → Lb ≤ c.p → PadL Lb c → Dy s)
    (qnext : ∀ {s : St} {c : RCur} (bl : List LineStat), ST s → RIa src s.r c → Dy s → Q (LineOutcome.next, bl) s)
    (heof : ∀ (bl : List LineStat) (s : St) (c : RCur), K s → RI src s.r c → PadOK c → Lb ≤ c.p → PadL Lb c → ST s →
      s.pc.opened = ob → RCur.view src c = none →
      Jd (fun _ s2 => Q (LineOutcome.eof, bl) { s2 with r := s2.r.advanceLine }) (closeBlocksT pts1 li 0) (closeBlocksT pts2 li 0) s)
    (hcont : ∀ (be : Block) (s : St) (c c2 : RCur) (st : PState) (s4 : St), K s → RI src s.r c → PadOK c → Lb ≤ c.p → PadL Lb c →
      ST s → s.pc.opened = ob → be ∈ ob → c.p < src.length → NotList be.bp → be.bp ≠ .paragraph → ContPost src be.bp s c st s4 →
      bpContinue be.bp be.node s = .ok (st, s4) →
      Dy s4 ∧ ((st.hasChildren = true ∨ st.cont = false) → K s4 ∧ (RI src s4.r c2 → PadL Lb c2)))
    (hopenB : ∀ (pre : List Block) (be : Block) (blank : Bool) (bl' : List LineStat) (s : St) (c : RCur), K s → RI src s.r c → PadOK c →
      Lb ≤ c.p → PadL Lb c → ST s → s.pc.opened = ob → be ∈ ob → ob = pre ++ [be] → be.bp.isContainer = true →
      Jd (fun _ s3 => Q (LineOutcome.next, bl') s3) (openBlocksT pts1 be.node blank) (openBlocksT pts2 be.node blank) s)
    (hlineF : ∀ (pre : List Block) (be : Block) (rest : List Block) (i : Int), ob = pre ++ be :: rest → i = (pre.length : Int) →
      ∀ (blank : Bool) (bl' : List LineStat) (s : St) (c : RCur), K s → RI src s.r c → PadOK c → Lb ≤ c.p → PadL Lb c → ST s →
      s.pc.opened = ob → ((nd s (lastNode root pre)).kind = .list → Due src s c (lastNode root pre)) →
      Jd Q (lineFTT pts1 parent ob li i blank bl') (lineFTT pts2 parent ob li i blank bl') s) :
    ∀ (rest pre : List Block) (i : Int) (bl : List LineStat) (s : St) (c : RCur), ob = pre ++ rest → i = (pre.length : Int) →
      s.pc.opened = ob → RI src s.r c → PadOK c → ST s →
      (∀ Lk, pre.getLast? = some Lk → Lk.bp = .list → ListHint src s c Lk.node) →
      K s → Lb ≤ c.p → PadL Lb c →
      Jd Q (lineLoopT pts1 parent ob li rest i bl) (lineLoopT pts2 parent ob li rest i bl) s := by
  intro rest pre i bl s c
  rw [lineLoopT_eqC, lineLoopT_eqC]
  intro hob hi hop hri hpad hst hhint hk hle hpl
  refine lineLoopC_rule (cls := bpClose) (Cu := fun c => Lb ≤ c.p ∧ PadL Lb c) lsp parent ob li hli hS hJ ksame
    (fun hri hlt hcu p hp hk hoff h hri' hle' => ⟨by have := hcu.1; omega, listItemContinue_padl hri hlt hcu.1 hcu.2 p hp hk hoff h _ hri'⟩)
    (fun hk hri hpad hcu => kdirty hk hri hpad hcu.1 hcu.2) qnext ?_ ?_ ?_ ?_ rest pre i bl s c hob hi hop hri hpad hst hhint hk ⟨hle, hpl⟩
  · intro bl s c hk hri hpad hcu
    simp only [← closeBlocksT_eqC]
    exact heof bl s c hk hri hpad hcu.1 hcu.2
  · intro be s c c2 st s4 hk hri hpad hcu hst hop hbe hp hnl hnp h2c h4 hle2
    have hr := hcont be s c c2 st s4 hk hri hpad hcu.1 hcu.2 hst hop hbe hp hnl hnp h2c h4
    exact ⟨hr.1, fun hor => ⟨(hr.2 hor).1, fun hri4 => ⟨by have := hcu.1; omega, (hr.2 hor).2 hri4⟩⟩⟩
  · intro pre be blank bl' s c hk hri hpad hcu
    simp only [← openBlocksT_eqC]
    exact hopenB pre be blank bl' s c hk hri hpad hcu.1 hcu.2
  · intro pre be rest i hob hi blank bl' s c hk hri hpad hcu
    simp only [← lineFTT_eqC]
    exact hlineF pre be rest i hob hi blank bl' s c hk hri hpad hcu.1 hcu.2


end GM.Blocks
