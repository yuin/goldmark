/-
  GM.Proof.CMFragParas21 — a document made of paragraphs only, as a document of the union fragment (`F21Doc`): the
  paragraph fragments (stages 8, 9, 11, 16–20) conform because their members are members of the union fragment.
  A stage supplies the embedding of its atoms into `FAtomS`; what does not depend on the atoms is here.
-/
import GM.Proof.CMFrag21Frag
import GM.Proof.CMFragGen

namespace GM.Proof.CMFrag
open GM GM.Text GM.Blocks GM.Spec GM.Spec.CM GM.Spec.CMFrag

/-- paragraphs (blank lines in front, lines of atoms) as items of a union-fragment document; a paragraph behind a paragraph
    needs one blank line more than the `gap` counts -/
def parasF21 : Bool → List (Nat × List (List FAtomS)) → List F21Item
  | _, [] => []
  | first, (g, ls) :: rest =>
    { sep := if first then g else g + 1, block := .para (ls.map fun l => { atoms := l, hard := false }) } :: parasF21 false rest

theorem expFLines21_soft {α} (g : α → List FAtomS) : ∀ (ls : List α),
    expFLines21 (ls.map fun l => { atoms := g l, hard := false }) = GM.Spec.CMFrag.joinNl (ls.map fun l => expFLineA (g l))
  | [] => rfl
  | [l] => rfl
  | l :: l' :: rest => by
    have ih := expFLines21_soft g (l' :: rest)
    simp only [List.map_cons] at ih ⊢
    simp only [expFLines21, GM.Spec.CMFrag.joinNl, ih]
    simp

theorem f21lastSoftS_soft {α} (g : α → List FAtomS) (ls : List α) (hne : ls ≠ []) :
    f21lastSoftS (ls.map fun l => { atoms := g l, hard := false }) = true := by
  unfold f21lastSoftS
  rw [List.getLast?_map]
  cases h : ls.getLast? with
  | none => exact absurd (List.getLast?_eq_none_iff.mp h) hne
  | some z => rfl

/-- the neighbour condition of the union fragment speaks of text next to underscore emphasis only -/
theorem f21neighOK_of_noUnder : ∀ (l : List FAtomS), (∀ a ∈ l, a.isUnder = false) → f21neighOK l = true
  | [], _ => rfl
  | [_], _ => rfl
  | a :: b :: rest, h => by
    have ha := h a (by simp)
    have hb := h b (by simp)
    simp only [f21neighOK, f21pairOK, ha, hb, Bool.not_false, Bool.true_or, Bool.and_eq_true]
    exact ⟨by constructor <;> split <;> rfl, f21neighOK_of_noUnder (b :: rest) (fun x hx => h x (by simp [hx]))⟩

/-- paragraphs (blank lines in front, lines) as the items of a union-fragment document; a paragraph behind a paragraph needs one
    blank line more than the `gap` counts -/
def paraItems21 : Bool → List (Nat × List FLineS21) → List F21Item
  | _, [] => []
  | first, (g, ls) :: rest => { sep := if first then g else g + 1, block := .para ls } :: paraItems21 false rest

theorem paraItems21_conv : ∀ (first : Bool) (its : List (Nat × List FLineS21)),
    (paraItems21 first its).map convF21 = paraItems first (its.map fun p => (p.1, p.2.map spellFLine21))
  | _, [] => rfl
  | first, (g, ls) :: rest => by
    simp only [paraItems21, List.map_cons, paraItems, paraItems21_conv false rest, convF21, fblockOfS21, fraw, List.map_map]
    congr 4
    exact List.map_congr_left fun x _ => flineSrc21_ofS21 x

theorem paraItems21_exp : ∀ (first : Bool) (its : List (Nat × List FLineS21)),
    (paraItems21 first its).flatMap (fun it => expFBlock21 it.block) =
      its.flatMap fun p => strBytes "<p>" ++ expFLines21 p.2 ++ strBytes "</p>\n"
  | _, [] => rfl
  | first, (g, ls) :: rest => by
    simp only [paraItems21, List.flatMap_cons, paraItems21_exp false rest]
    rfl

theorem paraItems21_seps : ∀ (prev : Option FBlockS21) (first : Bool) (its : List (Nat × List FLineS21)),
    (prev = none ∨ first = false) → f21sepsOK prev (paraItems21 first its) = true
  | none, _, [], _ => rfl
  | some _, _, [], _ => rfl
  | none, first, (g, ls) :: rest, _ => by
    simp only [paraItems21, f21sepsOK]
    exact paraItems21_seps _ false rest (Or.inr rfl)
  | some a, first, (g, ls) :: rest, h => by
    have hf : first = false := h.resolve_left (by simp)
    subst hf
    simp only [paraItems21, f21sepsOK, Bool.false_eq_true, if_false, paraItems21_seps _ false rest (Or.inr rfl)]
    simp [FBlockS21.isIc]

theorem paraItems21_notIc : ∀ (first : Bool) (its : List (Nat × List FLineS21)),
    ∀ y ∈ paraItems21 first its, y.block.isIc = false
  | _, [], y, hy => by simp [paraItems21] at hy
  | first, (g, ls) :: rest, y, hy => by
    simp only [paraItems21, List.mem_cons] at hy
    rcases hy with rfl | hy
    · rfl
    · exact paraItems21_notIc false rest y hy

theorem paraItems21_blocks : ∀ (first : Bool) (its : List (Nat × List FLineS21)),
    (∀ p ∈ its, f21blockOKS (.para p.2) = true) → ((paraItems21 first its).all fun it => f21blockOKS it.block) = true
  | _, [], _ => rfl
  | first, (g, ls) :: rest, h => by
    simp only [paraItems21, List.all_cons, Bool.and_eq_true]
    exact ⟨h (g, ls) (by simp), paraItems21_blocks false rest fun p hp => h p (by simp [hp])⟩

theorem paraItems21_frag (its : List (Nat × List FLineS21)) (h : ∀ p ∈ its, f21blockOKS (.para p.2) = true) (trail : Nat) :
    F21Frag { items := paraItems21 true its, trail := trail } := by
  simp only [F21Frag, f21fragB, Bool.and_eq_true]
  exact ⟨paraItems21_blocks true its h, paraItems21_seps none true its (Or.inl rfl)⟩

theorem paraItems21_fragE (its : List (Nat × List FLineS21)) (h : ∀ p ∈ its, f21blockOKS (.para p.2) = true)
    (hne : its ≠ []) : F21FragE { items := paraItems21 true its, trail := 0 } := by
  simp only [F21FragE, f21fragEB, Bool.and_eq_true]
  refine ⟨⟨⟨paraItems21_frag its h 0, rfl⟩, ?_⟩, ?_⟩
  · cases its with
    | nil => exact absurd rfl hne
    | cons p rest => rfl
  · simp only [f21lastNotIc]
    cases hl : (paraItems21 true its).getLast? with
    | none => rfl
    | some x => simp [paraItems21_notIc true its x (List.mem_of_getLast? hl)]

/-- a document of paragraphs whose lines are lines of the union fragment conforms -/
theorem paras21_conform (its : List (Nat × List FLineS21)) (h : ∀ p ∈ its, f21blockOKS (.para p.2) = true) (trail : Nat)
    (uc : List (Nat × (Bool × Bool))) :
    GM.Convert.convertCore uc cmOpts (rawDoc6 (paraItems true (its.map fun p => (p.1, p.2.map spellFLine21))) trail) =
      .ok (its.flatMap fun p => strBytes "<p>" ++ expFLines21 p.2 ++ strBytes "</p>\n") := by
  have := fragment21_conforms _ (paraItems21_frag its h trail) uc
  simpa only [spellF21_raw, expectedF21, paraItems21_conv, paraItems21_exp] using this

/-- … and so does the same document without its final line feed -/
theorem paras21_conformE (its : List (Nat × List FLineS21)) (h : ∀ p ∈ its, f21blockOKS (.para p.2) = true) (hne : its ≠ [])
    (uc : List (Nat × (Bool × Bool))) :
    GM.Convert.convertCore uc cmOpts (rawDoc6E (paraItems true (its.map fun p => (p.1, p.2.map spellFLine21)))) =
      .ok (its.flatMap fun p => strBytes "<p>" ++ expFLines21 p.2 ++ strBytes "</p>\n") := by
  have hE := paraItems21_fragE its h hne
  have := fragment21E_conforms _ hE uc
  simpa only [spellF21E_raw _ hE, expectedF21, paraItems21_conv, paraItems21_exp] using this

theorem parasF21_eq : ∀ (first : Bool) (its : List (Nat × List (List FAtomS))),
    parasF21 first its = paraItems21 first (its.map fun p => (p.1, p.2.map fun l => { atoms := l, hard := false }))
  | _, [] => rfl
  | first, (g, ls) :: rest => by simp only [parasF21, List.map_cons, paraItems21, parasF21_eq false rest]

/-- the paragraphs are blocks of the union fragment: none is empty, every line is a line of the fragment -/
def ParasOK21 (its : List (Nat × List (List FAtomS))) : Prop :=
  ∀ it ∈ its, it.2 ≠ [] ∧ ∀ l ∈ it.2, f21lineOKS l = true

theorem softBlocks_ok {its : List (Nat × List (List FAtomS))} (h : ParasOK21 its) :
    ∀ p ∈ its.map fun p => (p.1, p.2.map fun l => ({ atoms := l, hard := false } : FLineS21)),
      f21blockOKS (.para p.2) = true := by
  intro p hp
  obtain ⟨q, hq, rfl⟩ := List.mem_map.mp hp
  obtain ⟨hne, hls⟩ := h q hq
  simp only [f21blockOKS, f21restrS, Bool.and_true, Bool.and_eq_true, List.all_map, List.all_eq_true]
  exact ⟨⟨by simpa using hne, hls⟩, f21lastSoftS_soft id q.2 hne⟩

theorem f21frag_parasF21 (its : List (Nat × List (List FAtomS))) (trail : Nat) (h : ParasOK21 its) :
    F21Frag { items := parasF21 true its, trail := trail } := by
  rw [parasF21_eq]; exact paraItems21_frag _ (softBlocks_ok h) trail

theorem f21fragE_parasF21 (its : List (Nat × List (List FAtomS))) (hne : its ≠ []) (h : ParasOK21 its) :
    F21FragE { items := parasF21 true its, trail := 0 } := by
  rw [parasF21_eq]; exact paraItems21_fragE _ (softBlocks_ok h) (by simpa using hne)

theorem convF21_parasF21 (first : Bool) (its : List (Nat × List (List FAtomS))) :
    (parasF21 first its).map convF21 = paraItems first (its.map fun it => (it.1, it.2.map spellFLineA)) := by
  rw [parasF21_eq, paraItems21_conv]
  simp only [List.map_map, Function.comp_def, spellFLine21, Bool.false_eq_true, if_false]

theorem expectedF21_parasF21 (trail : Nat) (first : Bool) (its : List (Nat × List (List FAtomS))) :
    expectedF21 { items := parasF21 first its, trail := trail } =
      its.flatMap fun it => strBytes "<p>" ++ GM.Spec.CMFrag.joinNl (it.2.map expFLineA) ++ strBytes "</p>\n" := by
  rw [parasF21_eq, expectedF21, paraItems21_exp]
  simp only [List.flatMap_map, expFLines21_soft (fun l => l)]

theorem parasF21_conformE (its : List (Nat × List (List FAtomS))) (hne : its ≠ []) (h : ParasOK21 its)
    (uc : List (Nat × (Bool × Bool))) :
    GM.Convert.convertCore uc cmOpts (rawDoc6E (paraItems true (its.map fun it => (it.1, it.2.map spellFLineA)))) =
      .ok (expectedF21 { items := parasF21 true its, trail := 0 }) := by
  have hE := f21fragE_parasF21 its hne h
  have := fragment21E_conforms _ hE uc
  rwa [spellF21E_raw _ hE, convF21_parasF21] at this

theorem spell_parasF21 (its : List (Nat × List (List FAtomS))) (trail : Nat) :
    spellF21 ⟨parasF21 true its, trail⟩ = rawDoc6 (paraItems true (its.map fun it => (it.1, it.2.map spellFLineA))) trail := by
  rw [spellF21_raw, convF21_parasF21]

end GM.Proof.CMFrag
