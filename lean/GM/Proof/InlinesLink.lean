/-
  GM.Proof.InlinesLink — the contract of `linkParser.Parse` (GM.Model.InlinesParsers.parseLink) towards the loop of
  parseBlock, for EVERY source: consulted at `!`, `[` or `]` in a state that satisfies the loop invariant and the
  context invariant `linkCtx` it returns (no Go panic, no helper loop out of fuel, none of the three `pre` guards of
  `processLinkLabel`), the reader stands for a cursor that did not move back, the recorded segments stay a chain,
  and `linkCtx` holds again (`link_contract_lo`, for a chain with any lower bound `lo0`; `link_contract` is `lo0 = 0`).
  With it `parseBlock` is total (`parseBlock_total`), and the segments of the tree it returns lie inside the block's
  lines and are in order (`parseBlock_segments_lo`, with `lo0` = the start of the first line; `parseBlock_segments`).

  The context invariant (`LK lo`): open delimiters have `Length ≥ 1` and `Segment = [Start, Start + Length)`; the
  ids of the top-level delimiters increase strictly and are below `nextId`; link labels occur only at top level;
  a label's segment starts at or behind the first line's start `lo`; the `linkBottom` stack has one entry per
  label, the entry of a label being the last delimiter in front of it (or the typed nil).
-/
import GM.Proof.InlinesLoopTotal
import GM.Proof.InlinesDelims
import GM.Proof.BlockReaderFuel

namespace GM.Proof.InlinesLink
open GM GM.Text GM.Spec GM.Inl GM.Proof.Reader GM.Proof.InlinesReader GM.Proof.Inlines GM.Proof.InlinesTotal
open GM.Proof.InlinesDelims GM.Proof.BlockReaderFuel

/-- the ids of the top-level delimiters, in order -/
def dids : List Node → List Nat
  | [] => []
  | .delim id _ :: r => id :: dids r
  | _ :: r => dids r

theorem dids_append (a b : List Node) : dids (a ++ b) = dids a ++ dids b := by
  induction a with
  | nil => simp [dids]
  | cons x r ih => cases x <;> simp [dids, ih]

theorem mem_dids {l : List Node} {id : Nat} {d : Delim} (h : Node.delim id d ∈ l) : id ∈ dids l := by
  induction l with
  | nil => simp at h
  | cons x r ih =>
    simp only [List.mem_cons] at h
    rcases h with h | h
    · subst h; simp [dids]
    · cases x <;> simp [dids, ih h]

theorem dids_nondelim {n : Node} (h : n.isDelim = false) : dids [n] = [] := by
  cases n <;> simp_all [dids, Node.isDelim]

/-- `pc.LastDelimiter()` as pushLinkBottom stores it, read off the reversed child list -/
def lastBR (l : List Node) : Bottom :=
  match splitFirstDelim l with
  | some (_, id, _, _) => .id id
  | none => .tnil

/-- the `linkBottom` stack that belongs to the (reversed) child list: one entry per top-level label -/
def botsR : List Node → List Bottom
  | [] => []
  | .label _ _ _ :: rest => lastBR rest :: botsR rest
  | _ :: rest => botsR rest

def bots (k : List Node) : List Bottom := botsR k.reverse

theorem lastBR_cons_nondelim {n : Node} (h : n.isDelim = false) (l : List Node) : lastBR (n :: l) = lastBR l := by
  cases n <;> simp_all [lastBR, splitFirstDelim, Node.isDelim] <;> cases splitFirstDelim l <;> simp

theorem lastBR_ne_nil (l : List Node) : lastBR l ≠ .nil := by
  unfold lastBR; split <;> simp

theorem stopsAt_lastBR : ∀ (l : List Node), stopsAt (lastBR l) l
  | [] => trivial
  | n :: rest => by
    cases n with
    | delim id d => simp [stopsAt, lastBR, splitFirstDelim]
    | _ =>
      rw [lastBR_cons_nondelim (by simp [Node.isDelim])]
      simp only [stopsAt]
      exact stopsAt_lastBR rest

theorem botsR_skip {a : List Node} (h : ∀ n ∈ a, n.isLabel = false) (r : List Node) : botsR (a ++ r) = botsR r := by
  induction a with
  | nil => rfl
  | cons x rest ih =>
    have ih' := ih (fun n hn => h n (List.mem_cons_of_mem _ hn))
    cases x with
    | label => exact absurd (h _ List.mem_cons_self) (by simp [Node.isLabel])
    | _ => exact ih'

theorem bots_append_nolabel (k a : List Node) (h : ∀ n ∈ a, n.isLabel = false) : bots (k ++ a) = bots k := by
  unfold bots
  rw [List.reverse_append]
  exact botsR_skip (by intro n hn; exact h n (by simpa using hn)) _

theorem bots_append_label (k : List Node) (id : Nat) (s : Segment) (im : Bool) :
    bots (k ++ [.label id s im]) = lastBR k.reverse :: bots k := by
  simp [bots, botsR]

/-- the context invariant of the link parser; `lo` = the start of the block's first line -/
structure LK (lo : Int) (k : List Node) (n : Nat) (b : List Bottom) : Prop where
  pos : posL k
  dseg : allQ DSeg k
  sorted : (dids k).Pairwise (· < ·)
  lt : ∀ i ∈ dids k, i < n
  nest : ∀ nd ∈ k, nd.isLabel = false → hasLabel nd = false
  lablo : ∀ id s im, Node.label id s im ∈ k → lo ≤ s.start
  stack : b = bots k

theorem isLabel_of_hasLabel_false {n : Node} (h : hasLabel n = false) : n.isLabel = false := by
  cases n with
  | label => simp [hasLabel] at h
  | _ => rfl

/-- the invariant goes over to a child list made of old children and Text nodes whose delimiters are (some of) the
    old ones in the old order -/
theorem LK.transfer {lo : Int} {k k' : List Node} {n : Nat} {b : List Bottom} (h : LK lo k n b)
    (hmem : ∀ nd ∈ k', nd ∈ k ∨ isTextNode nd = true) (hd : (dids k').Sublist (dids k)) : LK lo k' n (bots k') where
  pos := by
    intro id d hm
    rcases hmem _ hm with h1 | h1
    · exact h.pos id d h1
    · simp [isTextNode] at h1
  dseg := by
    intro nd hm
    rcases hmem _ hm with h1 | h1
    · exact h.dseg nd h1
    · intro id d e; subst e; simp [isTextNode] at h1
  sorted := h.sorted.sublist hd
  lt := fun i hi => h.lt i (hd.subset hi)
  nest := by
    intro nd hm hl
    rcases hmem _ hm with h1 | h1
    · exact h.nest nd h1 hl
    · cases nd <;> simp_all [isTextNode, hasLabel]
  lablo := by
    intro id s im hm
    rcases hmem _ hm with h1 | h1
    · exact h.lablo id s im h1
    · simp [isTextNode] at h1
  stack := rfl

theorem LK.appendPlain {lo : Int} {k : List Node} {n : Nat} {b : List Bottom} (h : LK lo k n b) {nd : Node}
    (h1 : nd.isDelim = false) (h2 : hasLabel nd = false) : LK lo (k ++ [nd]) n b where
  pos := posL_append.mpr ⟨h.pos, posL_nondelim h1⟩
  dseg := allQ_append.mpr ⟨h.dseg, allQ_single.mpr (by intro id d e; subst e; simp [Node.isDelim] at h1)⟩
  sorted := by rw [dids_append, dids_nondelim h1]; simpa using h.sorted
  lt := by rw [dids_append, dids_nondelim h1]; simpa using h.lt
  nest := by
    intro x hx hl
    simp only [List.mem_append, List.mem_singleton] at hx
    rcases hx with hx | rfl
    · exact h.nest x hx hl
    · exact h2
  lablo := by
    intro id s im hm
    simp only [List.mem_append, List.mem_singleton] at hm
    rcases hm with hm | hm
    · exact h.lablo id s im hm
    · subst hm; simp [hasLabel] at h2
  stack := by
    rw [bots_append_nolabel k [nd] (by intro x hx; simp at hx; subst hx; exact isLabel_of_hasLabel_false h2)]
    exact h.stack

theorem LK.dropPlain {lo : Int} {k : List Node} {n : Nat} {b : List Bottom} {nd : Node} (h : LK lo (k ++ [nd]) n b)
    (h2 : nd.isLabel = false) : LK lo k n b := by
  have := h.transfer (k' := k) (fun x hx => Or.inl (by simp [hx])) (by rw [dids_append]; exact List.sublist_append_left _ _)
  rw [h.stack, bots_append_nolabel k [nd] (by intro x hx; simp at hx; subst hx; exact h2)]
  exact this

mutual
theorem wf_false_hasLabel : ∀ (n : Node), wf false n = true → hasLabel n = false
  | .text .., _ => by simp [hasLabel]
  | .codeSpan ks, h => by
    simp only [wf] at h
    simp only [hasLabel]
    exact allText_hasLabelL ks h
  | .emphasis _ ks, h => by
    simp only [wf, Bool.and_eq_true] at h
    simp only [hasLabel]; exact wfL_false_hasLabelL ks h.2
  | .link _ _ _ ks, h => by
    simp only [wf, Bool.and_eq_true] at h
    simp only [hasLabel]; exact wfL_false_hasLabelL ks h.1
  | .autoLink .., _ => by simp [hasLabel]
  | .rawHTML .., _ => by simp [hasLabel]
  | .delim .., h => by simp [wf] at h
  | .label .., h => by simp [wf] at h
theorem wfL_false_hasLabelL : ∀ (l : List Node), wfL false l = true → hasLabelL l = false
  | [], _ => by simp [hasLabelL]
  | n :: rest, h => by
    simp only [wfL, Bool.and_eq_true] at h
    simp only [hasLabelL, Bool.or_eq_false_iff]
    exact ⟨wf_false_hasLabel n h.1, wfL_false_hasLabelL rest h.2⟩
theorem allText_hasLabelL : ∀ (l : List Node), l.all isText = true → hasLabelL l = false
  | [], _ => by simp [hasLabelL]
  | n :: rest, h => by
    simp only [List.all_cons, Bool.and_eq_true] at h
    simp only [hasLabelL, Bool.or_eq_false_iff]
    refine ⟨?_, allText_hasLabelL rest h.2⟩
    cases n <;> simp_all [isText, hasLabel]
end

/-- the loop's own steps keep the invariant -/
def linkCtx (lo : Int) : Ctx where
  LK := LK lo
  appendText := fun s so ha ra h => h.appendPlain (by simp [Node.isDelim]) (by simp [hasLabel])
  swapText := fun s t so ha ra h =>
    (h.dropPlain (by simp [Node.isLabel])).appendPlain (by simp [Node.isDelim]) (by simp [hasLabel])
  appendPlain := fun nd h hw => h.appendPlain (by cases nd <;> simp_all [wf, Node.isDelim]) (wf_false_hasLabel nd hw)
  appendDelim := by
    intro k n b d h h1 h2
    exact {
      pos := posL_append.mpr ⟨h.pos, posL_delim.mpr h1⟩
      dseg := allQ_append.mpr ⟨h.dseg, allQ_single.mpr (by intro id d' e; simp at e; rw [← e.2]; exact h2)⟩
      sorted := by
        rw [dids_append]
        simp only [dids, List.pairwise_append, List.pairwise_cons, List.mem_singleton, List.Pairwise.nil, and_true]
        exact ⟨h.sorted, by simp, fun a ha b hb => by subst hb; exact h.lt a ha⟩
      lt := by
        rw [dids_append]
        intro i hi
        simp only [dids, List.mem_append, List.mem_singleton] at hi
        rcases hi with hi | hi
        · have := h.lt i hi; omega
        · omega
      nest := by
        intro x hx hl
        simp only [List.mem_append, List.mem_singleton] at hx
        rcases hx with hx | rfl
        · exact h.nest x hx hl
        · rfl
      lablo := by
        intro id s im hm
        simp only [List.mem_append, List.mem_singleton] at hm
        rcases hm with hm | hm
        · exact h.lablo id s im hm
        · simp at hm
      stack := by
        rw [bots_append_nolabel k _ (by intro x hx; simp at hx; subst hx; rfl)]
        exact h.stack }
  bumpId := fun h => { h with lt := fun i hi => by have := h.lt i hi; omega }

theorem LK.appendLabel {lo : Int} {k : List Node} {n : Nat} {b : List Bottom} (h : LK lo k n b) (s : Segment)
    (im : Bool) (hs : lo ≤ s.start) : LK lo (k ++ [.label n s im]) (n + 1) (lastBR k.reverse :: b) where
  pos := posL_append.mpr ⟨h.pos, posL_nondelim rfl⟩
  dseg := allQ_append.mpr ⟨h.dseg, allQ_single.mpr (by intro id d e; simp at e)⟩
  sorted := by rw [dids_append]; simpa [dids] using h.sorted
  lt := by
    rw [dids_append]
    intro i hi
    simp only [dids, List.append_nil] at hi
    have := h.lt i hi; omega
  nest := by
    intro x hx hl
    simp only [List.mem_append, List.mem_singleton] at hx
    rcases hx with hx | rfl
    · exact h.nest x hx hl
    · simp [Node.isLabel] at hl
  lablo := by
    intro id s' im' hm
    simp only [List.mem_append, List.mem_singleton] at hm
    rcases hm with hm | hm
    · exact h.lablo id s' im' hm
    · simp at hm; rw [hm.2.1]; exact hs
  stack := by rw [bots_append_label, h.stack]

theorem splitFirstLabel_pre {l pre post : List Node} {x : Nat × Segment × Bool}
    (h : splitFirstLabel l = some (pre, x, post)) : ∀ n ∈ pre, n.isLabel = false := by
  induction l generalizing pre with
  | nil => simp [splitFirstLabel] at h
  | cons n rest ih =>
    cases n with
    | label i sg m => simp [splitFirstLabel] at h; obtain ⟨rfl, _⟩ := h; simp
    | _ =>
      simp only [splitFirstLabel] at h
      split at h
      · rename_i p y po heq
        simp at h; obtain ⟨rfl, rfl, rfl⟩ := h
        intro m hm
        simp at hm
        rcases hm with rfl | hm
        · simp [Node.isLabel]
        · exact ih heq m hm
      · simp at h

theorem splitLastLabel_post {l pre post : List Node} {x : Nat × Segment × Bool}
    (h : splitLastLabel l = some (pre, x, post)) : ∀ n ∈ post, n.isLabel = false := by
  unfold splitLastLabel at h
  split at h
  · rename_i postR y preR hq
    simp at h; obtain ⟨rfl, rfl, rfl⟩ := h
    intro n hn
    exact splitFirstLabel_pre hq n (by simpa using hn)
  · simp at h

theorem splitFirstLabel_skip {a : List Node} (h : ∀ n ∈ a, n.isLabel = false) (id : Nat) (s : Segment) (im : Bool)
    (r : List Node) : splitFirstLabel (a ++ .label id s im :: r) = some (a, (id, s, im), r) := by
  induction a with
  | nil => simp [splitFirstLabel]
  | cons x rest ih =>
    have ih' := ih (fun n hn => h n (List.mem_cons_of_mem _ hn))
    cases x with
    | label => exact absurd (h _ List.mem_cons_self) (by simp [Node.isLabel])
    | _ => simp only [List.cons_append, splitFirstLabel, ih']

theorem splitLastLabel_of {pre post : List Node} (h : ∀ n ∈ post, n.isLabel = false) (id : Nat) (s : Segment)
    (im : Bool) : splitLastLabel (pre ++ .label id s im :: post) = some (pre, (id, s, im), post) := by
  unfold splitLastLabel
  have : (pre ++ Node.label id s im :: post).reverse = post.reverse ++ Node.label id s im :: pre.reverse := by simp
  rw [this, splitFirstLabel_skip (by intro n hn; exact h n (by simpa using hn))]
  simp

theorem lastBR_mem {l : List Node} {n : Nat} (h : lastBR l = .id n) : n ∈ dids l := by
  unfold lastBR at h
  split at h
  · rename_i pre id d post heq
    simp at h; subst h
    rw [splitFirstDelim_eq heq, dids_append]
    simp [dids]
  · simp at h

theorem dids_reverse (l : List Node) : dids l.reverse = (dids l).reverse := by
  induction l with
  | nil => rfl
  | cons x r ih => rw [List.reverse_cons, dids_append, ih]; cases x <;> simp [dids]

/-- what a successful `processLinkLabel` hands back -/
structure LabelDone (st : St) (pre : List Node) (lab : Node) (post y' : List Node) (st' : St) : Prop where
  state : st' = { st with bottoms := bots pre, kids := pre ++ [lab] }
  noDelim : ∀ n ∈ y', n.isDelim = false
  noLabel : hasLabelL y' = false
  chain : ∀ m hi, chain m hi (segsOfL post) → chain m hi (segsOfL y')

theorem processLinkLabel_ok {lo : Int} {st : St} {pre post : List Node} {lid : Nat} {lseg : Segment} {im : Bool}
    (hs : splitLastLabel st.kids = some (pre, (lid, lseg, im), post))
    (hlk : LK lo st.kids st.nextId st.bottoms) :
    ∃ y' st', processLinkLabel st = .ok (y', st') ∧ LabelDone st pre (.label lid lseg im) post y' st' := by
  have ek := splitLastLabel_eq hs
  have hpostL := splitLastLabel_post hs
  have hpostNest : hasLabelL post = false := by
    rw [hasLabelL_false_iff]
    intro n hn
    exact hlk.nest n (by rw [ek]; simp [hn]) (hpostL n hn)
  -- the stack
  have hst : st.bottoms = lastBR pre.reverse :: bots pre := by
    rw [hlk.stack, ek]
    have : pre ++ Node.label lid lseg im :: post = (pre ++ [Node.label lid lseg im]) ++ post := by simp
    rw [this, bots_append_nolabel _ _ hpostL, bots_append_label]
  have hpop : popBottom st = (lastBR pre.reverse, { st with bottoms := bots pre }) := by
    unfold popBottom; rw [hst]
  -- locality
  have hclosed : Closed (lastBR pre.reverse) (pre ++ [Node.label lid lseg im]).reverse := by
    refine ⟨⟨Node.label lid lseg im, pre.reverse, by simp, rfl, rfl⟩, ?_⟩
    simp only [List.reverse_append, List.reverse_cons, List.reverse_nil, List.nil_append, List.singleton_append, stopsAt]
    exact stopsAt_lastBR _
  have hsorted := hlk.sorted
  rw [ek, dids_append] at hsorted
  have hdisj : ∀ id d d', Node.delim id d ∈ pre ++ [Node.label lid lseg im] → Node.delim id d' ∈ post → False := by
    intro id d d' h1 h2
    have m1 : id ∈ dids pre := by
      simp only [List.mem_append, List.mem_singleton] at h1
      rcases h1 with h1 | h1
      · exact mem_dids h1
      · simp at h1
    have m2 : id ∈ dids (Node.label lid lseg im :: post) := by simp only [dids]; exact mem_dids h2
    have := (List.pairwise_append.mp hsorted).2.2 id m1 id m2
    omega
  have hloc := processDelimiters_prefix (lastBR_ne_nil pre.reverse) hclosed post hdisj
  have hposPost : posL post := fun id d hm => hlk.pos id d (by rw [ek]; simp [hm])
  obtain ⟨y', hy', _⟩ := processDelimiters_ok (lastBR pre.reverse) post hposPost
  have hbfree : bfree (lastBR pre.reverse) post := by
    intro id d hm hb
    have m1 : id ∈ dids pre := by
      have := lastBR_mem hb
      rw [dids_reverse] at this
      simpa using this
    have m2 : id ∈ dids (Node.label lid lseg im :: post) := by simp only [dids]; exact mem_dids hm
    have := (List.pairwise_append.mp hsorted).2.2 id m1 id m2
    omega
  have hnd := processDelimiters_clears hy' hbfree
  have hnl : hasLabelL y' = false := by rw [processDelimiters_hasLabelL hy']; exact hpostNest
  have hy'L : ∀ n ∈ y', n.isLabel = false := fun n hn => isLabel_of_hasLabel_false (hasLabelL_false_iff.mp hnl n hn)
  have hDpost : allQ DSeg post := fun n hn => hlk.dseg n (by rw [ek]; simp [hn])
  refine ⟨y', { st with bottoms := bots pre, kids := pre ++ [Node.label lid lseg im] }, ?_,
    ⟨rfl, hnd, hnl, fun m hi hc => processDelimiters_chain hy' hposPost hDpost hc⟩⟩
  unfold processLinkLabel
  simp only [hpop, hs, hpostNest, Bool.false_eq_true, if_false]
  have ek' : st.kids = (pre ++ [Node.label lid lseg im]) ++ post := by rw [ek]; simp
  rw [ek', hloc, hy']
  simp only [Except.map]
  have : pre ++ [Node.label lid lseg im] ++ y' = pre ++ Node.label lid lseg im :: y' := by simp
  rw [this, splitLastLabel_of hy'L]
  have hany : y'.any Node.isDelim = false := by
    rw [List.any_eq_false]; intro n hn; simp [hnd n hn]
  simp [hany, hnl]

/-! ### the reader side of the `]` branch -/

variable {src : Bytes} {segs : List Segment} {lo0 : Int}

/-- a step returned and the reader stands for a padding-free cursor that did not move back -/
def RStep (src : Bytes) (segs : List Segment) (c : BCur) {α : Type} (res : Except Panic (α × BlockReader)) : Prop :=
  ∃ a r' c', res = .ok (a, r') ∧ RS src segs r' c' ∧ c.p ≤ c'.p ∧ c.ln ≤ c'.ln ∧
    BCur.remaining segs c' ≤ BCur.remaining segs c

theorem peek_view {c : BCur} {b : UInt8} (h : BCur.peek src segs c = b) (hb : b ≠ 255) :
    ∃ l, BCur.view src segs c = some (b :: l) := by
  unfold BCur.peek at h
  split at h
  · rename_i b' l hv; subst h; exact ⟨l, hv⟩
  · exact absurd h.symm hb

theorem skipSpaces_step (W : WFSegs src segs) (Z : ∀ s ∈ segs, s.padding = 0) {r : BlockReader} {c : BCur}
    (h : RS src segs r c) : RStep src segs c (skipSpaces blockOps (rdFuel r) 0 r) := by
  obtain ⟨x, r', c', e, h', a1, a2, a3⟩ := skipSpaces_post (segFacts W) Z (rdFuel r) 0 h (rdFuel_gt W Z h)
  exact ⟨x, r', c', e, h', a1, a2, a3⟩

/-- Advance(n) for `n` bytes of the peeked line -/
theorem advance_in_view (F : SegFacts src segs) (Z : ∀ s ∈ segs, s.padding = 0) {r : BlockReader} {c : BCur}
    (h : RS src segs r c) {l : Bytes} (hv : BCur.view src segs c = some l) {n : Nat} (hn : n ≤ l.length) :
    ∃ r' c', r.advance (n : Int) = .ok r' ∧ RS src segs r' c' ∧ c.p + n ≤ c'.p ∧ c.ln ≤ c'.ln ∧
      BCur.remaining segs c' = BCur.remaining segs c - n := by
  obtain ⟨v1, v2, v3, v4, v5, v6, v7, v8⟩ := view_some F h.abs.wf h.pad hv
  obtain ⟨r', c', e1, e2, e3, e4, e5, _⟩ := advance_ok F Z h (n := (n : Int)) (by omega) (by omega)
  exact ⟨r', c', e1, e2, e5, e4, e3⟩

theorem RStep.bind {c : BCur} {α β : Type} {m : Except Panic β} {x : β} (hm : m = .ok x)
    {f : β → Except Panic (α × BlockReader)} (h : RStep src segs c (f x)) : RStep src segs c (m >>= f) := by
  rw [hm]; exact h

theorem RStep.ite {c : BCur} {α : Type} {p : Prop} [Decidable p] {a b : Except Panic (α × BlockReader)}
    (ha : p → RStep src segs c a) (hb : ¬p → RStep src segs c b) : RStep src segs c (if p then a else b) := by
  split
  · exact ha ‹_›
  · exact hb ‹_›

theorem parseLinkDestination_step (W : WFSegs src segs) (Z : ∀ s ∈ segs, s.padding = 0) {r : BlockReader} {c : BCur}
    (h : RS src segs r c) : RStep src segs c (parseLinkDestination r) := by
  have F := segFacts W
  obtain ⟨⟨x0, x1⟩, r1, c1, e1, h1, a1, a2, a3⟩ := skipSpaces_step W Z h
  obtain ⟨hpl, hpos⟩ := peekLine_facts F h1
  have hstay {α : Type} (a : α) : RStep src segs c (Pure.pure (a, r1)) := ⟨_, r1, c1, rfl, h1, a1, a2, a3⟩
  unfold parseLinkDestination
  refine RStep.bind e1 (RStep.bind hpl (RStep.bind (peek_ok F h1) ?_))
  dsimp only
  refine RStep.ite (fun h60 => ?_) fun _ => ?_
  · simp only [beq_iff_eq] at h60
    obtain ⟨l, hv⟩ := peek_view h60 (by decide)
    simp only [hv, Option.getD_some, List.drop_succ_cons, List.drop_zero]
    cases hd : destAngle l 1 with
    | none => exact hstay _
    | some i =>
      have hb := destAngle_bound _ l (Nat.le_refl _) 1 i hd
      obtain ⟨r2, c2, g1, g2, g3, g4, g5⟩ := advance_in_view F Z h1 hv (n := i + 1) (by simp only [List.length_cons]; omega)
      have g1' : BlockReader.advance ((i : Int) + 1) r1 = .ok r2 := by exact_mod_cast g1
      exact RStep.bind g1' ⟨_, r2, c2, rfl, g2, by omega, by omega, by omega⟩
  · -- an open parenthesis is left (repair ce3b6c4): rejected, reader not advanced
    refine RStep.ite (fun _ => hstay _) fun _ => ?_
    cases hv : BCur.view src segs c1 with
    | none =>
      have hn := remaining_nonneg F h1.abs.wf
      obtain ⟨r2, c2, g1, g2, g3, g4, g5, _⟩ := advance_ok F Z h1 (n := 0) (Int.le_refl _) hn
      have g1' : BlockReader.advance ((destPlain [] 0 0 : Nat) : Int) r1 = .ok r2 := by rw [destPlain]; exact_mod_cast g1
      exact RStep.bind g1' ⟨_, r2, c2, rfl, g2, by omega, by omega, by omega⟩
    | some l =>
      have hb := destPlain_bound _ l (Nat.le_refl _) 0 0
      obtain ⟨r2, c2, g1, g2, g3, g4, g5⟩ := advance_in_view F Z h1 hv (n := destPlain l 0 0) (by omega)
      exact RStep.bind g1 ⟨_, r2, c2, rfl, g2, by omega, by omega, by omega⟩

theorem parseLinkTitle_step (W : WFSegs src segs) (Z : ∀ s ∈ segs, s.padding = 0) {r : BlockReader} {c : BCur}
    (h : RS src segs r c) : RStep src segs c (parseLinkTitle r) := by
  have F := segFacts W
  obtain ⟨⟨x0, x1⟩, r1, c1, e1, h1, a1, a2, a3⟩ := skipSpaces_step W Z h
  unfold parseLinkTitle
  refine RStep.bind e1 (RStep.bind (peek_ok F h1) ?_)
  dsimp only
  refine RStep.ite (fun _ => ⟨_, r1, c1, rfl, h1, a1, a2, a3⟩) fun hop => ?_
  have hne : BCur.peek src segs c1 ≠ 255 := by
    intro e; rw [e] at hop; simp at hop
  obtain ⟨l, hv⟩ := peek_view (rfl : BCur.peek src segs c1 = _) hne
  obtain ⟨r2, c2, g1, g2, g3, g4, g5⟩ := advance_in_view F Z h1 hv (n := 1) (by simp)
  have g1' : BlockReader.advance 1 r1 = .ok r2 := by exact_mod_cast g1
  obtain ⟨⟨sgs, found⟩, r3, c3, k1, k2, k3, k4, k5, k6⟩ := findClosure_post F Z (BCur.peek src segs c1)
    (if (BCur.peek src segs c1 == 40) = true then 41 else BCur.peek src segs c1) linkFindClosureOptions (rdFuel r2) g2
    (rdFuel_gt W Z g2)
  have hend {α : Type} (a : α) : RStep src segs c (Pure.pure (a, r3)) := ⟨_, r3, c3, rfl, k2, by omega, by omega, by omega⟩
  refine RStep.bind g1' (RStep.bind k1 ?_)
  dsimp only
  refine RStep.ite (fun _ => ?_) fun _ => hend _
  have hfirst := first_le_p F g2.abs.wf
  obtain ⟨v, hv'⟩ := segsValue_ok F k2.abs (sgs.getD []) (fun s hs => by have := k6 s hs; exact ⟨by omega, this.2⟩)
  exact RStep.bind hv' (RStep.ite (fun _ => hend _) fun _ => hend _)

/-- what an attempt of the `]` branch leaves: nothing but a moved reader, or a processed label -/
def TryRes (st : St) (pre : List Node) (lab : Node) (post : List Node) (res : Option LinkInfo) (st' : St) : Prop :=
  match res with
  | none => st' = { st with rd := st'.rd }
  | some info => LabelDone { st with rd := st'.rd } pre lab post info.kids st'

theorem finish_post {lo : Int} {st : St} {pre post : List Node} {lid : Nat} {lseg : Segment} {im : Bool}
    (hs : splitLastLabel st.kids = some (pre, (lid, lseg, im), post))
    (hlk : LK lo st.kids st.nextId st.bottoms) (rd : BlockReader) :
    ∃ y' st', processLinkLabel { st with rd := rd } = .ok (y', st') ∧ st'.rd = rd ∧
      LabelDone { st with rd := rd } pre (.label lid lseg im) post y' st' := by
  obtain ⟨y', st', e, hd⟩ := processLinkLabel_ok (st := { st with rd := rd }) hs hlk
  exact ⟨y', st', e, by rw [hd.state], hd⟩

theorem close_paren (F : SegFacts src segs) (Z : ∀ s ∈ segs, s.padding = 0) {lo : Int} {st : St}
    {pre post : List Node} {lid : Nat} {lseg : Segment} {im : Bool}
    (hs : splitLastLabel st.kids = some (pre, (lid, lseg, im), post))
    (hlk : LK lo st.kids st.nextId st.bottoms) {r : BlockReader} {c : BCur} (hr : RS src segs r c)
    (hpk : (BCur.peek src segs c == 41) = true) :
    ∃ r1 y' st' c', BlockReader.advance 1 r = .ok r1 ∧
      processLinkLabel { rd := r1, kids := st.kids, nextId := st.nextId, bottoms := st.bottoms } = .ok (y', st') ∧
      RS src segs st'.rd c' ∧ c.p ≤ c'.p ∧ c.ln ≤ c'.ln ∧ BCur.remaining segs c' ≤ BCur.remaining segs c ∧
      LabelDone { st with rd := st'.rd } pre (.label lid lseg im) post y' st' := by
  simp only [beq_iff_eq] at hpk
  obtain ⟨l, hv⟩ := peek_view hpk (by decide)
  obtain ⟨r1, c2, g1, g2, g3, g4, g5⟩ := advance_in_view F Z hr hv (n := 1) (by simp)
  have g1' : BlockReader.advance 1 r = .ok r1 := by exact_mod_cast g1
  obtain ⟨y', st', e, hrd, hd⟩ := finish_post hs hlk r1
  refine ⟨r1, y', st', c2, g1', e, by rw [hrd]; exact g2, by omega, g4, by omega, ?_⟩
  rw [hrd]; exact hd

/-- an attempt of the `]` branch returned, the reader stands for a cursor that did not move back from `c`, and the attempt
    left `TryRes`; `sel` reads the link off the answer -/
def TryPost (src : Bytes) (segs : List Segment) (st : St) (pre : List Node) (lab : Node) (post : List Node) (c : BCur)
    {α : Type} (sel : α → Option LinkInfo) (e : Except Panic (α × St)) : Prop :=
  ∃ a st' c', e = .ok (a, st') ∧ RS src segs st'.rd c' ∧ c.p ≤ c'.p ∧ c.ln ≤ c'.ln ∧
    BCur.remaining segs c' ≤ BCur.remaining segs c ∧ TryRes st pre lab post (sel a) st'

section tryPost
variable {st : St} {pre post : List Node} {lab : Node} {c : BCur} {α : Type} {sel : α → Option LinkInfo}

theorem TryPost.bind {β : Type} {m : Except Panic β} {x : β} (hm : m = .ok x) {f : β → Except Panic (α × St)}
    (h : TryPost src segs st pre lab post c sel (f x)) : TryPost src segs st pre lab post c sel (m >>= f) := by
  rw [hm]; exact h

theorem TryPost.ite {p : Prop} [Decidable p] {a b : Except Panic (α × St)}
    (ha : p → TryPost src segs st pre lab post c sel a) (hb : ¬p → TryPost src segs st pre lab post c sel b) :
    TryPost src segs st pre lab post c sel (if p then a else b) := by
  split
  · exact ha ‹_›
  · exact hb ‹_›

/-- no link: only the reader moved -/
theorem TryPost.none {a : α} (ha : sel a = none) {r : BlockReader} {c' : BCur} (h : RS src segs r c')
    (h1 : c.p ≤ c'.p) (h2 : c.ln ≤ c'.ln) (h3 : BCur.remaining segs c' ≤ BCur.remaining segs c) :
    TryPost src segs st pre lab post c sel (Pure.pure (a, { st with rd := r })) :=
  ⟨a, _, c', rfl, h, h1, h2, h3, by rw [ha]; rfl⟩

end tryPost

theorem parseLinkInline_post (W : WFSegs src segs) (Z : ∀ s ∈ segs, s.padding = 0) {lo : Int} {st : St} {c1 : BCur}
    {pre post : List Node} {lid : Nat} {lseg : Segment} {im : Bool}
    (h : RS src segs st.rd c1) (hpk : BCur.peek src segs c1 = 40)
    (hs : splitLastLabel st.kids = some (pre, (lid, lseg, im), post))
    (hlk : LK lo st.kids st.nextId st.bottoms) :
    ∃ res st' c', parseLinkInline st = .ok (res, st') ∧ RS src segs st'.rd c' ∧ c1.p ≤ c'.p ∧ c1.ln ≤ c'.ln ∧
      BCur.remaining segs c' ≤ BCur.remaining segs c1 ∧ TryRes st pre (.label lid lseg im) post res st' := by
  have F := segFacts W
  obtain ⟨l, hv⟩ := peek_view hpk (by decide)
  obtain ⟨r1, c2, g1, g2, g3, g4, g5⟩ := advance_in_view F Z h hv (n := 1) (by simp)
  have g1' : BlockReader.advance 1 st.rd = .ok r1 := by exact_mod_cast g1
  obtain ⟨x, r2, c3, e2, h2, a1, a2, a3⟩ := skipSpaces_step W Z g2
  show TryPost src segs st pre (.label lid lseg im) post c1 id (parseLinkInline st)
  unfold parseLinkInline
  refine TryPost.bind g1' (TryPost.bind e2 ?_)
  dsimp -zeta only
  extract_lets finish
  -- at a `)` the label is processed
  have hfin {r : BlockReader} {c : BCur} (dest : Bytes) (title : Option Bytes) (hr : RS src segs r c) (h1 : c1.p ≤ c.p)
      (h2 : c1.ln ≤ c.ln) (h3 : BCur.remaining segs c ≤ BCur.remaining segs c1)
      (hp : (BCur.peek src segs c == 41) = true) :
      TryPost src segs st pre (.label lid lseg im) post c1 id (r.advance 1 >>= fun rd => finish rd dest title) := by
    obtain ⟨rr, y', st', c', q0, q1, q2, q3, q4, q5, q6⟩ := close_paren F Z hs hlk hr hp
    exact TryPost.bind q0 (TryPost.bind q1 ⟨_, st', c', rfl, q2, by omega, by omega, by omega, q6⟩)
  refine TryPost.bind (peek_ok F h2) (TryPost.ite (fun hp => hfin _ _ h2 (by omega) (by omega) (by omega) hp) fun _ => ?_)
  obtain ⟨d, r3, c4, e3, h3, b1, b2, b3⟩ := parseLinkDestination_step W Z h2
  refine TryPost.bind e3 ?_
  cases d with
  | none => exact TryPost.none rfl h3 (by omega) (by omega) (by omega)
  | some dest =>
    obtain ⟨x4, r4, c5, e4, h4, d1, d2, d3⟩ := skipSpaces_step W Z h3
    refine TryPost.bind e4 (TryPost.bind (peek_ok F h4) ?_)
    refine TryPost.ite (fun hp => hfin _ _ h4 (by omega) (by omega) (by omega) hp) fun _ => ?_
    -- no white space in front of a title (8c83fd9)
    refine TryPost.ite (fun _ => TryPost.none rfl h4 (by omega) (by omega) (by omega)) fun _ => ?_
    obtain ⟨t, r5, c6, e5, h5, f1, f2, f3⟩ := parseLinkTitle_step W Z h4
    refine TryPost.bind e5 ?_
    cases t with
    | none => exact TryPost.none rfl h5 (by omega) (by omega) (by omega)
    | some title =>
      obtain ⟨x6, r6, c7, e6, h6, k1, k2, k3⟩ := skipSpaces_step W Z h5
      refine TryPost.bind e6 (TryPost.bind (peek_ok F h6) ?_)
      exact TryPost.ite (fun hp => hfin _ _ h6 (by omega) (by omega) (by omega) hp)
        fun _ => TryPost.none rfl h6 (by omega) (by omega) (by omega)

theorem parseReferenceLink_post (W : WFSegs src segs) (Z : ∀ s ∈ segs, s.padding = 0) {lo : Int} (env : Env) {st : St}
    {c1 : BCur} {pre post : List Node} {lid : Nat} {lseg : Segment} {im : Bool}
    (h : RS src segs st.rd c1) (hpk : BCur.peek src segs c1 = 91)
    (hs : splitLastLabel st.kids = some (pre, (lid, lseg, im), post))
    (hlk : LK lo st.kids st.nextId st.bottoms)
    (hl1 : (BCur.segOf segs 0).start ≤ lseg.stop) (hl2 : lseg.stop ≤ c1.p) :
    ∃ res hv st' c', parseReferenceLink env st lseg = .ok ((res, hv), st') ∧ RS src segs st'.rd c' ∧ c1.p ≤ c'.p ∧
      c1.ln ≤ c'.ln ∧ BCur.remaining segs c' ≤ BCur.remaining segs c1 ∧
      TryRes st pre (.label lid lseg im) post res st' := by
  have F := segFacts W
  obtain ⟨l, hv⟩ := peek_view hpk (by decide)
  obtain ⟨r1, c2, g1, g2, g3, g4, g5⟩ := advance_in_view F Z h hv (n := 1) (by simp)
  have g1' : BlockReader.advance 1 st.rd = .ok r1 := by exact_mod_cast g1
  obtain ⟨⟨sgs, found⟩, r3, c3, k1, k2, k3, k4, k5, k6⟩ := findClosure_post F Z 91 93 linkFindClosureOptions (rdFuel r1) g2
    (rdFuel_gt W Z g2)
  have hpos := (peekLine_facts F h).2
  obtain ⟨y', st2, e, hrd, hd⟩ := finish_post hs hlk r3
  have hfirst := first_le_p F g2.abs.wf
  obtain ⟨sv, hsv⟩ := segsValue_ok F k2.abs (sgs.getD []) (fun s hs => by have := k6 s hs; exact ⟨by omega, this.2⟩)
  obtain ⟨vv, hval⟩ := valueOp_ok F k2.abs { start := lseg.stop, stop := st.rd.position.snd.start - 1 } hl1
    (by simp only [BlockReader.position, hpos]; omega)
  have hrs2 : RS src segs st2.rd c3 := by rw [hrd]; exact k2
  have hd2 : LabelDone { st with rd := st2.rd } pre (.label lid lseg im) post y' st2 := by rw [hrd]; exact hd
  suffices hh : TryPost src segs st pre (.label lid lseg im) post c1 Prod.fst (parseReferenceLink env st lseg) by
    obtain ⟨⟨res, hv⟩, st', c', hh⟩ := hh
    exact ⟨res, hv, st', c', hh⟩
  unfold parseReferenceLink
  refine TryPost.bind g1' (TryPost.bind k1 ?_)
  dsimp -zeta only
  have hn (hv : Bool) : TryPost src segs st pre (.label lid lseg im) post c1 Prod.fst
      (Pure.pure ((none, hv), { st with rd := r3 })) := TryPost.none rfl k2 (by omega) (by omega) (by omega)
  refine TryPost.ite (fun _ => hn _) fun _ => TryPost.bind hsv (TryPost.ite (fun _ => hn _) fun _ => ?_)
  extract_lets lookup
  have hl (ref : Bytes) : TryPost src segs st pre (.label lid lseg im) post c1 Prod.fst (lookup ref) := by
    refine TryPost.ite (fun _ => hn _) fun _ => ?_
    split
    · exact hn _
    · exact TryPost.bind e ⟨_, st2, c3, rfl, hrs2, by omega, by omega, by omega, hd2⟩
  exact TryPost.ite (fun _ => TryPost.bind hval (hl _)) fun _ => hl _

/-! ### the two ways the `]` branch ends -/

/-- what the loop expects of a parser call (the conclusion of `PContractLo lo0` for `linkCtx lo`) -/
def ClosePost (lo0 lo : Int) (src : Bytes) (segs : List Segment) (c : BCur) (res : PRes) : Prop :=
  ∃ n st' c', res = .ok (n, st') ∧ RS src segs st'.rd c' ∧ c.p ≤ c'.p ∧ c.ln ≤ c'.ln ∧
    (match n with
      | none => chain lo0 c.p (segsOfL st'.kids) ∧ LK lo st'.kids st'.nextId st'.bottoms
      | some nd => BCur.remaining segs c' + 1 ≤ BCur.remaining segs c ∧
          chain lo0 c'.p (segsOfL (st'.kids ++ [nd])) ∧ LK lo (st'.kids ++ [nd]) st'.nextId st'.bottoms)

theorem chain_label_split {cp : Int} {pre post : List Node} {lid : Nat} {lseg : Segment} {im : Bool}
    (h : chain lo0 cp (segsOfL (pre ++ .label lid lseg im :: post))) :
    ∃ a, chain lo0 a (segsOfL pre) ∧ a ≤ lseg.start ∧ lseg.start ≤ lseg.stop ∧ chain lseg.stop cp (segsOfL post) := by
  rw [segsOfL_append] at h
  obtain ⟨a, h1, h2⟩ := chain_split h
  simp only [segsOfL, segsOf, List.singleton_append, chain] at h2
  exact ⟨a, h1, h2.1, h2.2.1, h2.2.2⟩

theorem dids_mergeOrAppend (l : List Node) (s : Segment) : dids (mergeOrAppend l s) = dids l := by
  rcases mergeOrAppend_cases l s with e | ⟨ys, seg, ha, ra, rfl, _, e⟩ <;> rw [e] <;> simp [dids_append, dids, textOf]

theorem mem_mergeOrAppend {l : List Node} {s : Segment} {nd : Node} (h : nd ∈ mergeOrAppend l s) :
    nd ∈ l ∨ isTextNode nd = true := by
  rcases mergeOrAppend_cases l s with e | ⟨ys, seg, ha, ra, rfl, _, e⟩ <;> rw [e] at h <;>
    simp only [List.mem_append, List.mem_singleton] at h ⊢
  · exact h.elim .inl fun h => .inr (by subst h; rfl)
  · exact h.elim (fun h => .inl (.inl h)) fun h => .inr (by subst h; rfl)

theorem bots_mergeOrAppend (l : List Node) (s : Segment) : bots (mergeOrAppend l s) = bots l := by
  rcases mergeOrAppend_cases l s with e | ⟨ys, seg, ha, ra, rfl, _, e⟩ <;> rw [e]
  · rw [bots_append_nolabel _ _ (by intro x hx; simp [textOf] at hx; subst hx; rfl)]
  · rw [bots_append_nolabel _ _ (by intro x hx; simp at hx; subst hx; rfl),
      bots_append_nolabel _ _ (by intro x hx; simp at hx; subst hx; rfl)]

theorem popBottom_of {lo : Int} {st : St} {pre post : List Node} {lid : Nat} {lseg : Segment} {im : Bool}
    (hs : splitLastLabel st.kids = some (pre, (lid, lseg, im), post))
    (hlk : LK lo st.kids st.nextId st.bottoms) : (popBottom st).2 = { st with bottoms := bots pre } := by
  have ek := splitLastLabel_eq hs
  have hpostL := splitLastLabel_post hs
  have hst : st.bottoms = lastBR pre.reverse :: bots pre := by
    rw [hlk.stack, ek]
    have : pre ++ Node.label lid lseg im :: post = (pre ++ [Node.label lid lseg im]) ++ post := by simp
    rw [this, bots_append_nolabel _ _ hpostL, bots_append_label]
  unfold popBottom; rw [hst]

/-- every failure path of the `]` branch: the bracket becomes Text, the invariants stay -/
theorem linkFail_close {lo : Int} {st : St} {c c' : BCur} {pre post : List Node} {lid : Nat} {lseg : Segment} {im : Bool}
    (hs : splitLastLabel st.kids = some (pre, (lid, lseg, im), post))
    (hlk : LK lo st.kids st.nextId st.bottoms) (hch : chain lo0 c.p (segsOfL st.kids)) {rd' : BlockReader}
    (hr : RS src segs rd' c') (h1 : c.p ≤ c'.p) (h2 : c.ln ≤ c'.ln) :
    ClosePost lo0 lo src segs c (linkFail pre lseg post { st with rd := rd' }) := by
  have ek := splitLastLabel_eq hs
  have hpostL := splitLastLabel_post hs
  have hpop := popBottom_of (st := { st with rd := rd' }) hs hlk
  unfold linkFail
  rw [hpop]
  refine ⟨none, _, c', rfl, hr, h1, h2, ?_, ?_⟩
  · rw [ek] at hch
    obtain ⟨a, c1, c2, c3, c4⟩ := chain_label_split hch
    simp only
    rw [segsOfL_append]
    exact chain_append (chain_mergeOrAppend (chain_mono (Int.le_refl _) c2 c1) c3) c4
  · simp only
    have htr := hlk.transfer (k' := mergeOrAppend pre lseg ++ post) (by
        intro nd hm
        simp only [List.mem_append] at hm
        rcases hm with hm | hm
        · rcases mem_mergeOrAppend hm with h' | h'
          · exact Or.inl (by rw [ek]; simp [h'])
          · exact Or.inr h'
        · exact Or.inl (by rw [ek]; simp [hm]))
      (by rw [ek, dids_append, dids_append, dids_mergeOrAppend]; simp [dids])
    rw [bots_append_nolabel _ _ hpostL, bots_mergeOrAppend] at htr
    exact htr

/-- the success path of the `]` branch: the label goes, the Link / Image takes the children behind it -/
theorem linkDone_close {lo : Int} {st st2 : St} {c c' : BCur} {pre post y' : List Node} {lid : Nat} {lseg : Segment}
    {im : Bool} (hs : splitLastLabel st.kids = some (pre, (lid, lseg, im), post))
    (hlk : LK lo st.kids st.nextId st.bottoms) (hch : chain lo0 c.p (segsOfL st.kids))
    (hd : LabelDone { st with rd := st2.rd } pre (.label lid lseg im) post y' st2)
    (hr : RS src segs st2.rd c') (h1 : c.p ≤ c'.p) (h2 : c.ln ≤ c'.ln)
    (h3 : BCur.remaining segs c' + 1 ≤ BCur.remaining segs c) (isImage : Bool) (dest : Bytes) (title : Option Bytes) :
    ClosePost lo0 lo src segs c (linkDone isImage { dest := dest, title := title, kids := y' } st2) := by
  have ek := splitLastLabel_eq hs
  have hk2 : st2.kids = pre ++ [.label lid lseg im] := by rw [hd.state]
  have hn2 : st2.nextId = st.nextId := by rw [hd.state]
  have hb2 : st2.bottoms = bots pre := by rw [hd.state]
  unfold linkDone
  refine ⟨some _, _, c', rfl, hr, h1, h2, h3, ?_, ?_⟩
  · simp only [hk2, List.dropLast_concat]
    rw [ek] at hch
    obtain ⟨a, c1, c2, c3, c4⟩ := chain_label_split hch
    rw [segsOfL_append]
    simp only [segsOfL, segsOf, List.append_nil]
    exact chain_append c1 (chain_mono (by omega) h1 (hd.chain _ _ c4))
  · simp only [hk2, List.dropLast_concat, hn2, hb2]
    have hpre : LK lo pre st.nextId (bots pre) :=
      hlk.transfer (k' := pre) (fun nd hm => Or.inl (by rw [ek]; simp [hm]))
        (by rw [ek, dids_append]; exact List.sublist_append_left _ _)
    exact hpre.appendPlain rfl (by simp only [hasLabel]; exact hd.noLabel)

theorem linkTry_post (W : WFSegs src segs) (Z : ∀ s ∈ segs, s.padding = 0) {lo : Int} (env : Env) {st : St}
    {c1 : BCur} {pre post : List Node} {lid : Nat} {lseg : Segment} {im : Bool}
    (h : RS src segs st.rd c1)
    (hs : splitLastLabel st.kids = some (pre, (lid, lseg, im), post))
    (hlk : LK lo st.kids st.nextId st.bottoms)
    (hl1 : (BCur.segOf segs 0).start ≤ lseg.stop) (hl2 : lseg.stop ≤ c1.p) :
    ∃ res hv st' c', linkTry env st lseg (BCur.peek src segs c1) = .ok (res, hv, st') ∧ RS src segs st'.rd c' ∧
      c1.p ≤ c'.p ∧ c1.ln ≤ c'.ln ∧ BCur.remaining segs c' ≤ BCur.remaining segs c1 ∧
      TryRes st pre (.label lid lseg im) post res st' := by
  unfold linkTry
  split
  · rename_i h40
    simp only [beq_iff_eq] at h40
    obtain ⟨res, st', c', e, q⟩ := parseLinkInline_post W Z h h40 hs hlk
    simp only [e]
    exact ⟨res, false, st', c', rfl, q⟩
  · split
    · rename_i h91
      simp only [beq_iff_eq] at h91
      obtain ⟨res, hv, st', c', e, q⟩ := parseReferenceLink_post W Z env h h91 hs hlk hl1 hl2
      simp only [e]
      exact ⟨res, hv, st', c', rfl, q⟩
    · exact ⟨none, false, st, c1, rfl, h, Int.le_refl _, Int.le_refl _, Int.le_refl _, rfl⟩

theorem linkShortcut_post (W : WFSegs src segs) (_Z : ∀ s ∈ segs, s.padding = 0) {lo : Int} (env : Env) {st : St}
    {c c1 c2 : BCur} {pre post : List Node} {lid : Nat} {lseg : Segment} {im : Bool} {rd1 rd2 : BlockReader}
    (h1 : RS src segs rd1 c1) (h2 : RS src segs rd2 c2)
    (hs : splitLastLabel st.kids = some (pre, (lid, lseg, im), post))
    (hlk : LK lo st.kids st.nextId st.bottoms) (hch : chain lo0 c.p (segsOfL st.kids))
    (hl1 : (BCur.segOf segs 0).start ≤ lseg.stop) (hl2 : lseg.stop ≤ c.p)
    (hp : c.p ≤ c1.p) (hl : c.ln ≤ c1.ln) (hrem : BCur.remaining segs c1 + 1 ≤ BCur.remaining segs c)
    (segment : Segment) (hseg : segment.start = c.p) (isImage : Bool) :
    ClosePost lo0 lo src segs c
      (linkShortcut env { st with rd := rd2 } lseg segment rd1.position.1 rd1.position.2 isImage pre post) := by
  have F := segFacts W
  obtain ⟨r3, s1, s2⟩ := setPosition_restore F h1 h2
  obtain ⟨vv, hval⟩ := valueOp_ok F s2.abs { start := lseg.stop, stop := segment.start } hl1 (by simp only; omega)
  obtain ⟨y', st2, e, hrd, hd⟩ := finish_post hs hlk r3
  have e' : processLinkLabel { rd := r3, kids := st.kids, nextId := st.nextId, bottoms := st.bottoms } = .ok (y', st2) := e
  have hrs2 : RS src segs st2.rd c1 := by rw [hrd]; exact s2
  have hd2 : LabelDone { st with rd := st2.rd } pre (.label lid lseg im) post y' st2 := by rw [hrd]; exact hd
  unfold linkShortcut
  simp only [s1, hval, e', bind, Except.bind]
  split
  · exact linkFail_close hs hlk hch s2 hp hl
  · split
    · exact linkFail_close hs hlk hch s2 hp hl
    · exact linkDone_close hs hlk hch hd2 hrs2 hp hl hrem _ _ _

theorem parseLinkClose_post (W : WFSegs src segs) (Z : ∀ s ∈ segs, s.padding = 0) (env : Env) {st : St} {c : BCur}
    {l : Bytes} (hI : LInvLo lo0 (linkCtx (BCur.segOf segs 0).start) src segs st c)
    (hv : BCur.view src segs c = some (93 :: l)) :
    ClosePost lo0 (BCur.segOf segs 0).start src segs c (parseLinkClose env st st.rd.pos) := by
  have F := segFacts W
  have hlk : LK (BCur.segOf segs 0).start st.kids st.nextId st.bottoms := hI.lk
  unfold parseLinkClose
  cases hs : splitLastLabel st.kids with
  | none => exact ⟨none, st, c, rfl, hI.rs, Int.le_refl _, Int.le_refl _, hI.ch, hlk⟩
  | some x =>
    obtain ⟨pre, ⟨lid, lseg, im⟩, post⟩ := x
    have ek := splitLastLabel_eq hs
    have hch := hI.ch
    have hch' := hch
    rw [ek] at hch'
    obtain ⟨a, k1, k2, k3, k4⟩ := chain_label_split hch'
    have hl2 : lseg.stop ≤ c.p := chain_le k4
    have hl1 : (BCur.segOf segs 0).start ≤ lseg.stop := by
      have := hlk.lablo lid lseg im (by rw [ek]; simp)
      omega
    obtain ⟨r1, c1, g1, g2, g3, g4, g5⟩ := advance_in_view F Z hI.rs hv (n := 1) (by simp)
    have g1' : BlockReader.advance 1 st.rd = .ok r1 := by exact_mod_cast g1
    have hpos := (peekLine_facts F hI.rs).2
    simp only [g1', bind, Except.bind]
    split
    · exact linkFail_close hs hlk hch g2 (by omega) g4
    · split
      · exact linkFail_close hs hlk hch g2 (by omega) g4
      · have hpk := peek_ok F g2
        simp only [hpk]
        obtain ⟨res, hvv, st', c', e, q1, q2, q3, q4, q5⟩ := linkTry_post W Z env (st := { st with rd := r1 }) g2 hs hlk
          hl1 (by omega)
        have e' : linkTry env { rd := r1, kids := st.kids, nextId := st.nextId, bottoms := st.bottoms } lseg
            (BCur.peek src segs c1) = .ok (res, hvv, st') := e
        simp only [e']
        cases res with
        | some info =>
          simp only [TryRes] at q5
          exact linkDone_close hs hlk hch q5 q1 (by omega) (by omega) (by omega) _ _ _
        | none =>
          simp only [TryRes] at q5
          have q5' : st' = { st with rd := st'.rd } := q5
          simp only
          split
          · rw [q5']
            exact linkFail_close hs hlk hch q1 (by omega) (by omega)
          · rw [q5']
            exact linkShortcut_post W Z env g2 q1 hs hlk hch hl1 hl2 (by omega) g4 (by omega) st.rd.pos
              (by rw [hpos]) _

theorem pushBottom_eq (st : St) : pushBottom st = { st with bottoms := lastBR st.kids.reverse :: st.bottoms } := by
  unfold pushBottom lastBR splitLastDelim
  cases splitFirstDelim st.kids.reverse with
  | none => rfl
  | some x => rfl

/-- `[` / `![`: the label node is created behind the bracket(s) -/
theorem labelOpen_post (F : SegFacts src segs) (Z : ∀ s ∈ segs, s.padding = 0) {st : St} {c0 c : BCur} {l : Bytes}
    {rd : BlockReader} (hlk : LK (BCur.segOf segs 0).start st.kids st.nextId st.bottoms)
    (hch : chain lo0 c0.p (segsOfL st.kids)) (hr : RS src segs rd c) (hv : BCur.view src segs c = some (91 :: l))
    (isImage : Bool) (hp : c.p = if isImage then c0.p + 1 else c0.p) (hln : c0.ln ≤ c.ln)
    (hrem : BCur.remaining segs c ≤ BCur.remaining segs c0) (w0 : BWF segs c0) :
    ClosePost lo0 (BCur.segOf segs 0).start src segs c0 (labelOpen (pushBottom { st with rd := rd }) c.p isImage) := by
  obtain ⟨r1, c1, g1, g2, g3, g4, g5⟩ := advance_in_view F Z hr hv (n := 1) (by simp)
  have g1' : BlockReader.advance 1 rd = .ok r1 := by exact_mod_cast g1
  have hfirst := first_le_p F w0
  rw [pushBottom_eq]
  unfold labelOpen
  simp only [g1', bind, Except.bind, pure, Except.pure]
  refine ⟨some _, _, c1, rfl, g2, by split at hp <;> omega, by omega, by omega, ?_, ?_⟩
  · simp only
    rw [segsOfL_append]
    refine chain_append hch ?_
    simp only [segsOfL, segsOf, List.append_nil, chain]
    split at hp <;> simp_all <;> omega
  · simp only
    exact hlk.appendLabel _ _ (by simp only; split at hp <;> simp_all <;> omega)

/-- `linkParser.Parse` keeps the loop's contract for every source (`lo` = the start of the first line) -/
theorem link_contract_lo (W : WFSegs src segs) (Z : ∀ s ∈ segs, s.padding = 0) (env : Env) :
    PContractLo lo0 (linkCtx (BCur.segOf segs 0).start) src segs (trigOf .link) (Ip.link.parse env) := by
  intro st c b l hI hv ht
  have F := segFacts W
  obtain ⟨hpl, hpos⟩ := peekLine_facts F hI.rs
  obtain ⟨v1, v2, v3, v4, v5, v6, v7, v8⟩ := view_some F hI.rs.abs.wf hI.rs.pad hv
  have hlk : LK (BCur.segOf segs 0).start st.kids st.nextId st.bottoms := hI.lk
  have hst : ({ st with rd := st.rd } : St) = st := rfl
  show ClosePost lo0 (BCur.segOf segs 0).start src segs c (parseLink env st)
  unfold parseLink
  simp only [hpl, hv, bind, Except.bind, Option.getD_some, pure, Except.pure]
  split
  · rename_i h33
    simp only [beq_iff_eq] at h33; subst h33
    split
    · rename_i _ tl
      obtain ⟨r1, c1, g1, g2, g3, g4, g5⟩ := advance_in_view F Z hI.rs hv (n := 1) (by simp)
      have g1' : BlockReader.advance 1 st.rd = .ok r1 := by exact_mod_cast g1
      simp only [g1']
      -- one byte forward inside the line
      obtain ⟨r1', a1, a2⟩ := advance_inline F Z hI.rs (n := 1) (by omega) (by simp only [List.length_cons] at v6; omega) (by simp only [List.length_cons] at v7; omega)
      rw [g1'] at a1; simp at a1; subst a1
      obtain ⟨vs1, vs2⟩ := view_shift F hI.rs.abs.wf hI.rs.pad hv (n := 1) (by simp)
      simp only [List.drop_succ_cons, List.drop_zero] at vs1
      have e1 : ((1 : Nat) : Int) = 1 := rfl
      rw [e1] at vs1 vs2
      have hrem1 : BCur.remaining segs { c with p := c.p + 1 } ≤ BCur.remaining segs c := by
        have e : c1 = { c with p := c.p + 1 } := by
          have h1 := g2.abs.line; have h2 := g2.abs.pos; have h3 := a2.abs.line; have h4 := a2.abs.pos
          cases c1; simp only [BCur.mk.injEq]
          rw [h3] at h1; rw [h4] at h2
          simp at h2
          exact ⟨h1.symm, h2.1.symm, h2.2.2.symm⟩
        rw [← e, g5]; omega
      have := labelOpen_post F Z (st := st) (c0 := c) (c := { c with p := c.p + 1 }) hlk hI.ch a2 vs1 true (by simp)
        (Int.le_refl _) hrem1 hI.rs.abs.wf
      rw [hpos]
      exact this
    · exact ⟨none, st, c, rfl, hI.rs, Int.le_refl _, Int.le_refl _, hI.ch, hlk⟩
  · split
    · rename_i h91
      simp only [beq_iff_eq] at h91; subst h91
      have := labelOpen_post F Z (st := st) (c0 := c) (c := c) hlk hI.ch hI.rs hv false (by simp) (Int.le_refl _)
        (Int.le_refl _) hI.rs.abs.wf
      rw [hpos]
      exact this
    · rename_i h33 h91
      have h93 : b = 93 := by
        simp only [trigOf, Bool.or_eq_true, beq_iff_eq] at ht
        simp only [beq_iff_eq] at h33 h91
        rcases ht with (h | h) | h
        · exact absurd h h33
        · exact absurd h h91
        · exact h
      subst h93
      exact parseLinkClose_post W Z env hI hv

theorem link_contract (W : WFSegs src segs) (Z : ∀ s ∈ segs, s.padding = 0) (env : Env) :
    PContract (linkCtx (BCur.segOf segs 0).start) src segs (trigOf .link) (Ip.link.parse env) :=
  pcontractLo_zero.mp (link_contract_lo W Z env)

theorem LK_base (lo : Int) : LK lo [] 0 [] where
  pos := posL_nil
  dseg := allQ_nil
  sorted := by simp [dids]
  lt := by simp [dids]
  nest := by simp
  lablo := by simp
  stack := rfl

theorem all_contracts_lo (W : WFSegs src segs) (Z : ∀ s ∈ segs, s.padding = 0) (env : Env) :
    ∀ ip, PContractLo lo0 (linkCtx (BCur.segOf segs 0).start) src segs (trigOf ip) (ip.parse env) :=
  all_contracts_of _ W Z env (link_contract_lo W Z env)

theorem all_contracts (W : WFSegs src segs) (Z : ∀ s ∈ segs, s.padding = 0) (env : Env) :
    ∀ ip, PContract (linkCtx (BCur.segOf segs 0).start) src segs (trigOf ip) (ip.parse env) :=
  fun ip => pcontractLo_zero.mp (all_contracts_lo W Z env ip)

/-- C01 for the inline phase: `parseBlock` returns a tree — no Go panic, no loop without end, no broken
    modelling invariant — for every source, every well-formed padding-free line list, every reference map and
    every Unicode class assignment -/
theorem parseBlock_total (W : WFSegs src segs) (Z : ∀ s ∈ segs, s.padding = 0) (env : Env) :
    ∃ kids, parseBlock env src segs = .ok kids :=
  parseBlock_total_of (linkCtx (BCur.segOf segs 0).start) (LK_base _) (fun _ _ _ h => h.pos) W Z env
    (link_contract W Z env)

mutual
theorem segsOf_closeLabels : ∀ (n : Node), segsOf (closeLabels n) = segsOf n
  | .text .. => rfl
  | .codeSpan ks => by simp only [closeLabels, segsOf]; exact segsOfL_closeLabelsL ks
  | .emphasis _ ks => by simp only [closeLabels, segsOf]; exact segsOfL_closeLabelsL ks
  | .link _ _ _ ks => by simp only [closeLabels, segsOf]; exact segsOfL_closeLabelsL ks
  | .autoLink .. => rfl
  | .rawHTML .. => rfl
  | .delim .. => rfl
  | .label .. => by simp [closeLabels, segsOf, textOf]
theorem segsOfL_closeLabelsL : ∀ (l : List Node), segsOfL (closeLabelsL l) = segsOfL l
  | [] => rfl
  | n :: rest => by simp only [closeLabelsL, segsOfL]; rw [segsOf_closeLabels n, segsOfL_closeLabelsL rest]
end

/-- C05(c) for inline content, inside the block's lines: the segments of the tree `parseBlock` returns, in tree order,
    start at or behind the start of the block's first line, end at or before the end of its last line, none is
    inverted, each starts at or behind the end of the one before -/
theorem parseBlock_segments_lo (W : WFSegs src segs) (Z : ∀ s ∈ segs, s.padding = 0) (env : Env) {kids : List Node}
    (h : parseBlock env src segs = .ok kids) :
    chain (BCur.segOf segs 0).start (BCur.lastStop segs) (segsOfL kids) := by
  have F := segFacts W
  obtain ⟨r0, st', e0, l1, hch, hlk'⟩ := lineLoop_run (linkCtx (BCur.segOf segs 0).start) (LK_base _) W Z env
    (F.rng 0 (Int.le_refl _) F.kpos).1 (Int.le_refl _) (all_contracts_lo W Z env)
  have hlk : LK (BCur.segOf segs 0).start st'.kids st'.nextId st'.bottoms := hlk'
  obtain ⟨res, p1, _⟩ := processDelimiters_ok .nil st'.kids hlk.pos
  unfold parseBlock at h
  simp only [e0, l1, p1, bind, Except.bind, pure, Except.pure, Except.ok.injEq] at h
  subst h
  rw [segsOfL_closeLabelsL]
  exact processDelimiters_chain p1 hlk.pos hlk.dseg hch

/-- C05(c) for inline content: the segments of the tree `parseBlock` returns, in tree order, lie inside the source,
    none is inverted, each starts at or behind the end of the one before -/
theorem parseBlock_segments (W : WFSegs src segs) (Z : ∀ s ∈ segs, s.padding = 0) (env : Env) {kids : List Node}
    (h : parseBlock env src segs = .ok kids) : chain 0 src.length (segsOfL kids) :=
  have F := segFacts W
  chain_mono (F.rng 0 (Int.le_refl _) F.kpos).1 (lastStop_le_length F) (parseBlock_segments_lo W Z env h)

end GM.Proof.InlinesLink
