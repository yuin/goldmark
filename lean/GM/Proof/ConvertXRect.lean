/-
  GM.Proof.ConvertXRect — C17 on the composed OUTPUT tree, the tree half: `docTreeX` turns a block tree whose Table nodes are
  rectangular IN THE NODE STORE's encoding (`rectT`: a Table node has no lines, its children are one TableHeader and
  TableRows, every row has as many children as the header, all of them TableCells) into a `GM.Node` tree that satisfies
  `rectB`. Child counts are kept (`docTreesX` is a map), the kinds are the decoded ones (`blockKindX`), a row / a Table node
  gets no inline children, inline subtrees contain no table kind. What is left of `TablesRectangular` is a statement about
  the store the block phase ends in (`StoreTablesRect`).
-/
import GM.Proof.ConvertX
import GM.Model.ConvertXRect

namespace GM.Proof.ConvertXRect
open GM.Proof.ConvertLDoc (kindOf_cases)
open GM GM.Text GM.Convert GM.ConvertX GM.Inl GM.Proof.ConvertX

theorem rectL_append : ∀ (a b : List GM.Node), rectL (a ++ b) = (rectL a && rectL b)
  | [], b => by simp [rectL]
  | x :: a, b => by simp [rectL, rectL_append a b, Bool.and_assoc]

mutual
theorem rectB_of_notTable : ∀ t : GM.Node, allKinds notTable t = true → rectB t = true
  | .mk k a cs, h => by
    simp only [allKinds, Bool.and_eq_true] at h
    have hk : (k == GM.Kind.table) = false := by
      cases k <;> first | rfl | (simp [notTable] at h)
    simp only [rectB, hk, Bool.false_eq_true, if_false, Bool.true_and]
    exact rectL_of_notTable cs h.2
theorem rectL_of_notTable : ∀ ts : List GM.Node, allKindsL notTable ts = true → rectL ts = true
  | [], _ => rfl
  | t :: rest, h => by
    simp only [allKindsL, Bool.and_eq_true] at h
    simp only [rectL, Bool.and_eq_true]
    exact ⟨rectB_of_notTable t h.1, rectL_of_notTable rest h.2⟩
end

theorem docTreeX_parts {c : XCfg} {g : Bool} {env : Env} {src : Bytes} {escs : List Int} {inItem : Bool}
    {n : GM.Blocks.Node} {cs : List GM.Blocks.Tree} {x : GM.Node}
    (h : docTreeX c g env src escs inItem (.node n cs) = .ok x) :
    ∃ bs kids is k, docTreesX c g env src escs (n.kind == .listItem) true cs = .ok bs ∧
      inlinePhaseX c g env src inItem n = .ok kids ∧
      inlineTreesX c src (if c.table && GM.TableX.isCellNode src n then GM.TableX.escNodes escs kids else kids) = .ok is ∧
      blockKindX c src n = .ok k ∧ x = .mk k none (bs ++ is) := by
  unfold docTreeX at h
  obtain ⟨bs, h1, h⟩ := Reader.bind_ok h
  obtain ⟨kids, h2, h⟩ := Reader.bind_ok h
  obtain ⟨is, h3, h⟩ := Reader.bind_ok h
  obtain ⟨k, h4, h⟩ := Reader.bind_ok h
  exact ⟨bs, kids, is, k, h1, h2, liftErr_ok' h3, liftErr_ok' h4, epure_ok h⟩

theorem inlineTreesX_nil {c : XCfg} {src : Bytes} {is : List GM.Node} (h : inlineTreesX c src [] = .ok is) : is = [] := by
  unfold inlineTreesX at h
  exact epure_ok h

/-- pointwise relation of two lists -/
inductive All2 {α β : Type} (R : α → β → Prop) : List α → List β → Prop
  | nil : All2 R [] []
  | cons {a : α} {b : β} {l1 : List α} {l2 : List β} : R a b → All2 R l1 l2 → All2 R (a :: l1) (b :: l2)

theorem docTreesX_forall (c : XCfg) (g : Bool) (env : Env) (src : Bytes) (escs : List Int) :
    ∀ (pi first : Bool) (ts : List GM.Blocks.Tree) (xs : List GM.Node),
    docTreesX c g env src escs pi first ts = .ok xs →
    All2 (fun t x => ∃ inItem, docTreeX c g env src escs inItem t = .ok x) ts xs
  | _, _, [], xs, h => by
    unfold docTreesX at h
    rw [epure_ok h]; exact .nil
  | pi, first, t :: rest, xs, h => by
    unfold docTreesX at h
    obtain ⟨x, h1, h⟩ := Reader.bind_ok h
    obtain ⟨xs', h2, h⟩ := Reader.bind_ok h
    rw [epure_ok h]
    exact .cons ⟨_, h1⟩ (docTreesX_forall c g env src escs _ _ rest xs' h2)

theorem blockKindX_of_kindOf {c : XCfg} (hc : c.table = true) {src : Bytes} {n : GM.Blocks.Node} {k k' : Kind}
    (hk : GM.TableX.kindOf src n = some k) (h : blockKindX c src n = .ok k') : k' = k := by
  unfold blockKindX at h
  simp only [hc, if_true, hk] at h
  exact epure_ok h

theorem isTableN_of_kind {c : XCfg} {src : Bytes} {n : GM.Blocks.Node}
    (h : blockKindX c src n = .ok GM.Kind.table) : c.table = true ∧ isTableN src n = true := by
  cases hc : c.table with
  | false => exact absurd (blockKindX_notTable hc h) (by simp [notTable])
  | true =>
    refine ⟨rfl, ?_⟩
    unfold blockKindX at h
    simp only [hc, if_true] at h
    unfold isTableN
    rcases kindOf_cases src n with e | e | e | e | ⟨a, e⟩
    · rw [e] at h; exact absurd (blockKind_notTable h) (by simp [notTable])
    · rw [e]
    · rw [e] at h; cases epure_ok h
    · rw [e] at h; cases epure_ok h
    · rw [e] at h; cases epure_ok h

theorem cell_kind {c : XCfg} (hc : c.table = true) {g : Bool} {env : Env} {src : Bytes} {escs : List Int} {inItem : Bool}
    {t : GM.Blocks.Tree} {x : GM.Node} (ht : isCellT src t = true) (h : docTreeX c g env src escs inItem t = .ok x) :
    isCellKind x.kind = true := by
  obtain ⟨n, cs⟩ := t
  obtain ⟨bs, kids, is, k, _, _, _, h4, rfl⟩ := docTreeX_parts h
  simp only [isCellT, GM.TableX.isCellNode] at ht
  rcases kindOf_cases src n with e | e | e | e | ⟨a, e⟩
  · rw [e] at ht; cases ht
  · rw [e] at ht; cases ht
  · rw [e] at ht; cases ht
  · rw [e] at ht; cases ht
  · rw [blockKindX_of_kindOf hc e h4]; rfl

theorem all_cells {c : XCfg} (hc : c.table = true) {g : Bool} {env : Env} {src : Bytes} {escs : List Int}
    {ts : List GM.Blocks.Tree} {xs : List GM.Node}
    (hf : All2 (fun t x => ∃ inItem, docTreeX c g env src escs inItem t = .ok x) ts xs)
    (ht : ts.all (isCellT src) = true) : xs.length = ts.length ∧ xs.all (fun x => isCellKind x.kind) = true := by
  induction hf with
  | nil => exact ⟨rfl, rfl⟩
  | cons h1 _ ih =>
    simp only [List.all_cons, Bool.and_eq_true] at ht
    obtain ⟨i1, i2⟩ := ih ht.2
    obtain ⟨inItem, h1⟩ := h1
    simp only [List.length_cons, List.all_cons, Bool.and_eq_true]
    exact ⟨by omega, cell_kind hc ht.1 h1, i2⟩

theorem row_ok {c : XCfg} (hc : c.table = true) {g : Bool} {env : Env} {src : Bytes} {escs : List Int} {inItem : Bool}
    {hdr : Bool} {cols : Nat} {t : GM.Blocks.Tree} {x : GM.Node} (ht : rowT src hdr cols t = true)
    (h : docTreeX c g env src escs inItem t = .ok x) : rowOK hdr cols x = true := by
  obtain ⟨n, cs⟩ := t
  obtain ⟨bs, kids, is, k, h1, h2, h3, h4, rfl⟩ := docTreeX_parts h
  simp only [rowT, Bool.and_eq_true, beq_iff_eq] at ht
  obtain ⟨⟨hk, hlen⟩, hcells⟩ := ht
  have hrow : GM.TableX.isRowNode src n = true ∧ GM.TableX.isCellNode src n = false ∧
      k = (if hdr then GM.Kind.tableHeader else GM.Kind.tableRow) := by
    rcases kindOf_cases src n with e | e | e | e | ⟨a, e⟩
    · rw [e] at hk; cases hk
    · rw [e] at hk; cases hk
    · rw [e] at hk; simp only at hk; subst hk
      exact ⟨by simp [GM.TableX.isRowNode, e], by simp [GM.TableX.isCellNode, e], blockKindX_of_kindOf hc e h4⟩
    · rw [e] at hk; simp only [Bool.not_eq_true'] at hk; subst hk
      exact ⟨by simp [GM.TableX.isRowNode, e], by simp [GM.TableX.isCellNode, e], blockKindX_of_kindOf hc e h4⟩
    · rw [e] at hk; cases hk
  obtain ⟨r1, r2, r3⟩ := hrow
  -- a row has no inline children
  have hkids : kids = [] := by
    unfold inlinePhaseX at h2
    split at h2
    · cases h2; rfl
    · simp only [hc, r1, Bool.and_self, if_true] at h2
      cases h2; rfl
  subst hkids
  have his : is = [] := by
    simp only [r2, Bool.and_false, Bool.false_eq_true, if_false] at h3
    exact inlineTreesX_nil h3
  subst his
  obtain ⟨l1, l2⟩ := all_cells (g := g) (env := env) (escs := escs) hc (docTreesX_forall c g env src escs _ _ cs bs h1) hcells
  simp only [rowOK, GM.Node.kind, GM.Node.children, List.append_nil, Bool.and_eq_true, beq_iff_eq]
  refine ⟨⟨?_, by omega⟩, l2⟩
  rw [r3]
  cases hdr <;> rfl

theorem rows_ok {c : XCfg} (hc : c.table = true) {g : Bool} {env : Env} {src : Bytes} {escs : List Int}
    {cols : Nat} {ts : List GM.Blocks.Tree} {xs : List GM.Node}
    (hf : All2 (fun t x => ∃ inItem, docTreeX c g env src escs inItem t = .ok x) ts xs)
    (ht : ts.all (rowT src false cols) = true) : xs.all (rowOK false cols) = true := by
  induction hf with
  | nil => rfl
  | cons h1 _ ih =>
    simp only [List.all_cons, Bool.and_eq_true] at ht ⊢
    obtain ⟨inItem, h1⟩ := h1
    exact ⟨row_ok hc ht.1 h1, ih ht.2⟩

theorem rowOK_len {hdr : Bool} {cols : Nat} {x : GM.Node} (h : rowOK hdr cols x = true) : x.children.length = cols := by
  simp only [rowOK, Bool.and_eq_true, beq_iff_eq] at h
  exact h.1.2

theorem table_ok {c : XCfg} (hc : c.table = true) {g : Bool} {env : Env} {src : Bytes} {escs : List Int}
    {ts : List GM.Blocks.Tree} {xs : List GM.Node}
    (hf : All2 (fun t x => ∃ inItem, docTreeX c g env src escs inItem t = .ok x) ts xs)
    (ht : tableT src ts = true) : tableOK xs = true := by
  cases hf with
  | nil => simp [tableT] at ht
  | cons h1 hr =>
    rename_i t x rest xs'
    obtain ⟨hn, hcs⟩ := t
    simp only [tableT, Bool.and_eq_true, decide_eq_true_eq] at ht
    obtain ⟨⟨hpos, hh⟩, hrows⟩ := ht
    obtain ⟨inItem, h1⟩ := h1
    have r1 := row_ok hc hh h1
    have hl := rowOK_len r1
    simp only [tableOK, Bool.and_eq_true, decide_eq_true_eq, hl]
    exact ⟨⟨hpos, r1⟩, rows_ok hc hr hrows⟩

mutual
/-- **the tree half of C17**: a block tree that is rectangular in the store's encoding becomes a rectangular output tree -/
theorem docTreeX_rect (c : XCfg) (hc : c.table = true) (g : Bool) (env : Env) (src : Bytes) (escs : List Int) :
    ∀ (inItem : Bool) (t : GM.Blocks.Tree) (x : GM.Node), rectT src t = true →
    docTreeX c g env src escs inItem t = .ok x → rectB x = true
  | inItem, .node n cs, x, hr, h => by
    obtain ⟨bs, kids, is, k, h1, h2, h3, h4, rfl⟩ := docTreeX_parts h
    simp only [rectT, Bool.and_eq_true] at hr
    obtain ⟨hr1, hr2⟩ := hr
    have hbs := docTreesX_rect c hc g env src escs _ _ cs bs hr2 h1
    have his := rectL_of_notTable is (inlineTreesX_notTable c src _ is h3)
    simp only [rectB, rectL_append, hbs, his, Bool.and_true]
    split
    · rename_i hk
      have hk' : k = GM.Kind.table := by
        cases k <;> first | rfl | (exact Bool.noConfusion hk)
      subst hk'
      obtain ⟨_, hT⟩ := isTableN_of_kind h4
      simp only [hT, if_true, Bool.and_eq_true, List.isEmpty_iff] at hr1
      obtain ⟨hl, htab⟩ := hr1
      -- a Table node has no inline children: it is neither a row nor a cell, and has no lines
      have hnc : GM.TableX.isCellNode src n = false ∧ GM.TableX.isRowNode src n = false := by
        unfold isTableN at hT
        rcases kindOf_cases src n with e | e | e | e | ⟨a, e⟩
        · rw [e] at hT; cases hT
        · exact ⟨by simp [GM.TableX.isCellNode, e], by simp [GM.TableX.isRowNode, e]⟩
        · rw [e] at hT; cases hT
        · rw [e] at hT; cases hT
        · rw [e] at hT; cases hT
      have hkids : kids = [] := by
        unfold inlinePhaseX at h2
        split at h2
        · cases h2; rfl
        · simp only [hnc.1, hnc.2, Bool.and_false, Bool.false_eq_true, if_false, Bool.false_and] at h2
          unfold inlineLines at h2
          simp only [hl, List.isEmpty_nil, if_true] at h2
          cases h2; rfl
      subst hkids
      have : is = [] := by
        simp only [hnc.1, Bool.and_false, Bool.false_eq_true, if_false] at h3
        exact inlineTreesX_nil h3
      subst this
      rw [List.append_nil]
      exact table_ok hc (docTreesX_forall c g env src escs _ _ cs bs h1) htab
    · rfl
theorem docTreesX_rect (c : XCfg) (hc : c.table = true) (g : Bool) (env : Env) (src : Bytes) (escs : List Int) :
    ∀ (pi first : Bool) (ts : List GM.Blocks.Tree) (xs : List GM.Node), rectTs src ts = true →
    docTreesX c g env src escs pi first ts = .ok xs → rectL xs = true
  | _, _, [], xs, _, h => by
    unfold docTreesX at h
    rw [epure_ok h]; rfl
  | pi, first, t :: rest, xs, hr, h => by
    unfold docTreesX at h
    obtain ⟨x, h1, h⟩ := Reader.bind_ok h
    obtain ⟨xs', h2, h⟩ := Reader.bind_ok h
    rw [epure_ok h]
    simp only [rectTs, Bool.and_eq_true] at hr
    simp only [rectL, Bool.and_eq_true]
    exact ⟨docTreeX_rect c hc g env src escs _ t x hr.1 h1, docTreesX_rect c hc g env src escs _ _ rest xs' hr.2 h2⟩
end

/-- what is left of C17 on the output: the block tree read out of the store the block phase (with the table paragraph
    transformer) ends in is rectangular in the store's encoding -/
def StoreTablesRect : Prop :=
  ∀ (c : XCfg) (src : Bytes) (st : GM.Blocks.St), c.table = true → blockPhaseX c true src = .ok st →
    rectT src (GM.Blocks.treeOf st.nodes st.nodes.length 0) = true

theorem parseDocX_rect (H : StoreTablesRect) (c : XCfg) (uc : List (Nat × (Bool × Bool))) (src : Bytes) (t : GM.Node)
    (h : parseDocX c true uc src = .ok t) : rectB t = true := by
  unfold parseDocX at h
  obtain ⟨st, h1, h⟩ := Reader.bind_ok h
  cases hc : c.table with
  | false => exact rectB_of_notTable t (docTreeX_notTable c hc true _ src _ _ _ t h)
  | true =>
    have hst : blockPhaseX c true src = .ok st := by
      cases hb : blockPhaseX c true src with
      | error e => rw [hb] at h1; cases h1
      | ok s => rw [hb] at h1; cases h1; rfl
    exact docTreeX_rect c hc true _ src _ _ _ t (H c src st hc hst) h

end GM.Proof.ConvertXRect
