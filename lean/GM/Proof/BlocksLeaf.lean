/-
  GM.Proof.BlocksLeaf — which block parsers can make `openBlocks` retry. `Ret m Q`: every value `m` returns
  satisfies `Q` (a walk over the `do` block that only looks at the `pure`/`return` leaves). The seven leaf
  parsers never answer `HasChildren`; hence a `goto retry` of `openBlocks` is always caused by the block
  quote, list or list item parser.
-/
import GM.Model.Blocks
import Lean.Elab.Tactic

namespace GM.Blocks
open GM GM.Text

/-- every value returned by `m` satisfies `Q` -/
structure Ret {α : Type} (m : M α) (Q : α → Prop) : Prop where
  h : ∀ s a s', m s = .ok (a, s') → Q a

theorem Ret.pure {α} {Q : α → Prop} {a : α} (h : Q a) : Ret (Pure.pure a : M α) Q :=
  ⟨fun _ _ _ h' => by cases h'; exact h⟩

theorem Ret.bind {α β} {Q : β → Prop} {m : M α} {f : α → M β} (hf : ∀ a, Ret (f a) Q) : Ret (m >>= f) Q := by
  constructor
  intro s b s' h
  simp only [Bind.bind, StateT.bind] at h
  cases hm : m s with
  | error e => rw [hm] at h; simp [Except.bind] at h
  | ok p => rw [hm] at h; simp only [Except.bind] at h; exact (hf p.1).h p.2 b s' h

theorem Ret.ite {α} {Q : α → Prop} {c : Prop} [Decidable c] {a b : M α} (ha : Ret a Q) (hb : Ret b Q) :
    Ret (if c then a else b) Q := by split <;> assumption

theorem Ret.throw {α} {Q : α → Prop} (e : Panic) : Ret (throw e : M α) Q :=
  ⟨fun _ _ _ h => by cases h⟩

macro "ret_step" : tactic =>
  `(tactic| first
    | ((with_reducible apply Ret.pure) <;> (first | rfl | trivial | decide))
    | with_reducible apply Ret.bind
    | with_reducible apply Ret.ite
    | with_reducible apply Ret.throw
    | intro _
    | split)

macro "ret" : tactic => `(tactic| repeat' ret_step)

/-- the parser answered "no children" (NoChildren, possibly with RequireParagraph) -/
def NoKids (a : Option Nat × PState) : Prop := a.2.hasChildren = false

theorem paragraphOpen_leaf (p : Nat) : Ret (paragraphOpen p) NoKids := by unfold paragraphOpen NoKids; ret
theorem thematicOpen_leaf (p : Nat) : Ret (thematicOpen p) NoKids := by unfold thematicOpen NoKids; ret
theorem atxOpen_leaf (p : Nat) : Ret (atxOpen p) NoKids := by unfold atxOpen NoKids; ret
theorem setextOpen_leaf (p : Nat) : Ret (setextOpen p) NoKids := by unfold setextOpen NoKids; ret
theorem codeOpen_leaf (p : Nat) : Ret (codeOpen p) NoKids := by unfold codeOpen NoKids; ret
theorem fencedOpen_leaf (p : Nat) : Ret (fencedOpen p) NoKids := by unfold fencedOpen NoKids; ret
theorem htmlOpen_leaf (p : Nat) : Ret (htmlOpen p) NoKids := by unfold htmlOpen NoKids; ret

/-- the container parsers -/
def BP.isContainer : BP → Bool
  | .blockquote => true | .list => true | .listItem => true | _ => false

/-- only the block quote, list and list item parsers ever answer `HasChildren` -/
theorem hasChildren_only_containers (bp : BP) (p : Nat) (s s' : St) (a : Option Nat × PState)
    (h : bpOpen bp p s = .ok (a, s')) (hc : a.2.hasChildren = true) : bp.isContainer = true := by
  cases bp <;> simp only [BP.isContainer] <;> unfold bpOpen at h
  · have := (setextOpen_leaf p).h s a s' h; unfold NoKids at this; rw [this] at hc; cases hc
  · have := (thematicOpen_leaf p).h s a s' h; unfold NoKids at this; rw [this] at hc; cases hc
  · have := (codeOpen_leaf p).h s a s' h; unfold NoKids at this; rw [this] at hc; cases hc
  · have := (atxOpen_leaf p).h s a s' h; unfold NoKids at this; rw [this] at hc; cases hc
  · have := (fencedOpen_leaf p).h s a s' h; unfold NoKids at this; rw [this] at hc; cases hc
  · have := (htmlOpen_leaf p).h s a s' h; unfold NoKids at this; rw [this] at hc; cases hc
  · have := (paragraphOpen_leaf p).h s a s' h; unfold NoKids at this; rw [this] at hc; cases hc

/-- only `setextHeadingParser.Open` answers `RequireParagraph` -/
theorem requirePara_only_setext (bp : BP) (p : Nat) (s s' : St) (a : Option Nat × PState)
    (h : bpOpen bp p s = .ok (a, s')) (hr : a.2.requirePara = true) : bp = .setext := by
  have no : ∀ {m : M (Option Nat × PState)}, Ret m (fun x => x.2.requirePara = false) → m s = .ok (a, s') → False :=
    fun hm hh => by rw [hm.h s a s' hh] at hr; cases hr
  cases bp <;> unfold bpOpen at h
  · rfl
  · exact (no (by unfold thematicOpen; ret) h).elim
  · exact (no (by unfold listOpen; ret) h).elim
  · exact (no (by unfold listItemOpen; ret) h).elim
  · exact (no (by unfold codeOpen; ret) h).elim
  · exact (no (by unfold atxOpen; ret) h).elim
  · exact (no (by unfold fencedOpen; ret) h).elim
  · exact (no (by unfold blockquoteOpen; ret) h).elim
  · exact (no (by unfold htmlOpen; ret) h).elim
  · exact (no (by unfold paragraphOpen; ret) h).elim

/-- likewise `Continue`: only the block quote, list and list item parsers ever answer `HasChildren` -/
theorem continue_only_containers (bp : BP) (n : Nat) (s s' : St) (st : PState) (h : bpContinue bp n s = .ok (st, s'))
    (hc : st.hasChildren = true) : bp.isContainer = true := by
  have leaf : ∀ {m : M PState}, Ret m (fun st => st.hasChildren = false) → m s = .ok (st, s') → False :=
    fun hm e => by rw [hm.h s st s' e] at hc; cases hc
  cases bp <;> simp only [BP.isContainer] <;> unfold bpContinue at h
  · exact (leaf (.pure rfl) h).elim
  · exact (leaf (.pure rfl) h).elim
  · exact (leaf (by unfold codeContinue; ret) h).elim
  · exact (leaf (.pure rfl) h).elim
  · exact (leaf (by unfold fencedContinue; ret) h).elim
  · exact (leaf (by unfold htmlContinue; ret) h).elim
  · exact (leaf (by unfold paragraphContinue; ret) h).elim

/-- every candidate list `p.blockParsers[c]` ends with the free parsers (parser.go:842-850) -/
theorem triggered_ends_free (c : UInt8) : ∃ pre, (triggered c).getD freeParsers = pre ++ freeParsers := by
  have step : ∀ (b : Bool) (l : List BP) (o : Option (List BP)), (∃ pre, o.getD freeParsers = pre ++ freeParsers) →
      ∃ pre, (if b then some (l ++ freeParsers) else o).getD freeParsers = pre ++ freeParsers := by
    intro b l o h
    cases b
    · exact h
    · exact ⟨l, rfl⟩
  unfold triggered
  iterate 9 refine step _ _ _ ?_
  exact ⟨[], rfl⟩

end GM.Blocks
