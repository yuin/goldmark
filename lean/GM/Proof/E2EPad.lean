/-
  GM.Proof.E2EPad — “No virtual padding” is a closed property of the inline phase: the value-level relation `P0` (segments of padding 0, componentwise on readers,
  nodes, lists) is kept by the block reader and segment arithmetic, by the list surgery (MergeOrAppendTextSegment, ProcessDelimiters, CloseBlock), by the
  five default inline parsers, by the link parser with its reference forms and by the end-of-line step of `parseBlock`'s loop (the loop and the result
  `parseBlock_unpadded`: GM.Proof.E2EPadLoop).
-/
import GM.Model.InlinesLoop
import GM.Proof.InlinesTotal
import GM.Proof.BlocksPres
import GM.Proof.Inlines

section E2EPad
/-
  "no virtual padding" is a CLOSED property of the inline phase: every segment the block reader and the
  inline parsers compute from padding-free segments is padding-free. A value-level logical relation `P0` (segments:
  `padding = 0`; readers: position and lines; nodes: every recorded segment; tuples / lists / options componentwise) and,
  for every function of the reader and of the inline model that handles segments, "padding-free arguments give a
  padding-free answer" (`OKP`: partial correctness — an error satisfies it vacuously, so NO reader refinement is needed).
  Segment arithmetic never creates padding: `withStart` / `withStop` / `trimRightSpace` keep it, `between` subtracts two
  paddings, record literals have padding 0, `advanceLoop` only decrements a NON-zero padding.

  Result (`parseBlock_unpadded`, GM.Proof.E2EPadLoop; `inlineSegsUnpadded`, GM.Proof.E2EStoreDone): the segments of the tree
  `parseBlock` answers on `WF0` lines all have padding 0.
-/

namespace GM.E2E.Pad
open GM GM.Text GM.Inl GM.Proof.InlinesTotal

/-- the logical relation "holds no virtual padding" -/
class P0 (α : Type) where
  p : α → Prop

instance : P0 Segment := ⟨fun s => s.padding = 0⟩
instance : P0 UInt8 := ⟨fun _ => True⟩
instance : P0 Int := ⟨fun _ => True⟩
instance : P0 Nat := ⟨fun _ => True⟩
instance : P0 Bool := ⟨fun _ => True⟩
instance : P0 Unit := ⟨fun _ => True⟩
instance {α} [P0 α] : P0 (List α) := ⟨fun l => ∀ x ∈ l, P0.p x⟩
instance {α} [P0 α] : P0 (Option α) := ⟨fun o => ∀ x, o = some x → P0.p x⟩
instance {α β} [P0 α] [P0 β] : P0 (α × β) := ⟨fun x => P0.p x.1 ∧ P0.p x.2⟩
instance {α β} [P0 α] [P0 β] : P0 (Sum α β) := ⟨fun x => match x with | .inl a => P0.p a | .inr b => P0.p b⟩
instance : P0 BlockReader := ⟨fun r => r.pos.padding = 0 ∧ ∀ s ∈ r.segments, s.padding = 0⟩
instance : P0 Delim := ⟨fun d => d.seg.padding = 0⟩
instance : P0 Node := ⟨fun n => ∀ s ∈ segsOf n, s.padding = 0⟩
instance : P0 Bottom := ⟨fun _ => True⟩

/-- a computation whose answer, if any, is padding-free -/
abbrev OKP {α} [P0 α] (e : Except Panic α) : Prop := GM.Proof.Inlines.Ans e P0.p

open GM.Proof.Inlines (Ans)

theorem p0_seg (s : Segment) : P0.p s ↔ s.padding = 0 := Iff.rfl
theorem p0_nil {α} [P0 α] : P0.p ([] : List α) := fun _ h => by cases h
theorem p0_cons {α} [P0 α] (a : α) (l : List α) : P0.p (a :: l) ↔ P0.p a ∧ P0.p l := by
  constructor
  · intro h; exact ⟨h a (by simp), fun x hx => h x (by simp [hx])⟩
  · intro h x hx
    rcases List.mem_cons.mp hx with rfl | hx
    · exact h.1
    · exact h.2 x hx
theorem p0_append {α} [P0 α] (a b : List α) : P0.p (a ++ b) ↔ P0.p a ∧ P0.p b := by
  constructor
  · intro h; exact ⟨fun x hx => h x (by simp [hx]), fun x hx => h x (by simp [hx])⟩
  · intro h x hx
    rcases List.mem_append.mp hx with hx | hx
    · exact h.1 x hx
    · exact h.2 x hx
theorem p0_dropLast {α} [P0 α] {a : List α} (h : P0.p a) : P0.p a.dropLast :=
  fun x hx => h x ((List.dropLast_sublist a).subset hx)
theorem p0_some {α} [P0 α] (a : α) : P0.p (some a) ↔ P0.p a := by
  constructor
  · intro h; exact h a rfl
  · intro h x hx; cases hx; exact h
theorem p0_none {α} [P0 α] : P0.p (none : Option α) := fun _ h => by cases h
theorem p0_prod {α β} [P0 α] [P0 β] (a : α) (b : β) : P0.p (a, b) ↔ P0.p a ∧ P0.p b := Iff.rfl
theorem p0_getD {α} [P0 α] {o : Option (List α)} (h : P0.p o) : P0.p (o.getD []) := by
  cases o with
  | none => exact p0_nil
  | some l => exact h l rfl
theorem p0_rd (r : BlockReader) : P0.p r ↔ r.pos.padding = 0 ∧ ∀ s ∈ r.segments, s.padding = 0 := Iff.rfl
theorem p0_true_int (a : Int) : P0.p a := trivial
theorem p0_true_nat (a : Nat) : P0.p a := trivial
theorem p0_true_bool (a : Bool) : P0.p a := trivial
theorem p0_true_u8 (a : UInt8) : P0.p a := trivial
theorem p0_bytes (a : Bytes) : P0.p a := fun _ _ => trivial
theorem p0_obytes (a : Option Bytes) : P0.p a := fun _ _ => p0_bytes _

theorem p0_withStop {s : Segment} (h : s.padding = 0) (v : Int) : (s.withStop v).padding = 0 := h
theorem p0_withStart {s : Segment} (h : s.padding = 0) (v : Int) : (s.withStart v).padding = 0 := h

theorem segAt_p0 {l : List Segment} (h : ∀ s ∈ l, s.padding = 0) (i : Int) : OKP (segAt l i) := by
  intro a ha
  unfold segAt at ha
  split at ha
  · cases ha
  · split at ha
    · rename_i s hs
      cases ha
      exact h _ (List.mem_of_getElem? hs)
    · cases ha

theorem setPosition_p0 (l : Int) (pos : Segment) (hp : pos.start = -1 ∨ pos.padding = 0) {r : BlockReader} (hr : P0.p r) :
    OKP (r.setPosition l pos) := by
  intro a ha
  unfold BlockReader.setPosition at ha
  simp only at ha
  split at ha
  · split at ha
    · cases hs : segAt r.segments l with
      | error e => rw [hs] at ha; simp [bind, Except.bind] at ha
      | ok s =>
        rw [hs] at ha
        simp only [bind, Except.bind, pure, Except.pure, Except.ok.injEq] at ha
        subst ha
        exact ⟨segAt_p0 hr.2 l s hs, hr.2⟩
    · cases ha; exact hr
  · rename_i hne
    have hpad : pos.padding = 0 := by
      rcases hp with h | h
      · simp [h] at hne
      · exact h
    split at ha
    · cases hs : segAt r.segments l with
      | error e => rw [hs] at ha; simp [bind, Except.bind] at ha
      | ok s =>
        rw [hs] at ha
        simp only [bind, Except.bind, pure, Except.pure, Except.ok.injEq] at ha
        subst ha
        exact ⟨hpad, hr.2⟩
    · cases ha; exact ⟨hpad, hr.2⟩

theorem advanceLine_p0 {r : BlockReader} (hr : P0.p r) : OKP r.advanceLine := by
  intro a ha
  unfold BlockReader.advanceLine at ha
  cases hs : r.setPosition (r.line + 1) { start := -1, stop := -1 } with
  | error e => rw [hs] at ha; simp [bind, Except.bind] at ha
  | ok r' =>
    rw [hs] at ha
    simp only [bind, Except.bind, pure, Except.pure, Except.ok.injEq] at ha
    subst ha
    exact setPosition_p0 _ _ (.inl rfl) hr r' hs

theorem peekLine_p0 {r : BlockReader} (hr : P0.p r) : OKP r.peekLine := by
  intro a ha
  unfold BlockReader.peekLine at ha
  split at ha
  · cases hv : r.pos.value r.source with
    | error e => rw [hv] at ha; simp [bind, Except.bind] at ha
    | ok v =>
      rw [hv] at ha
      simp only [bind, Except.bind, pure, Except.pure, Except.ok.injEq] at ha
      subst ha
      exact ⟨⟨p0_obytes _, hr.1⟩, hr⟩
  · cases ha
    exact ⟨⟨p0_obytes _, hr.1⟩, hr⟩

theorem advanceLoop_p0 : ∀ (n : Nat) {r : BlockReader}, P0.p r → OKP (r.advanceLoop n)
  | 0, r, hr => by unfold BlockReader.advanceLoop; exact Ans.pure hr
  | n + 1, r, hr => by
    unfold BlockReader.advanceLoop
    have hz : (r.pos.padding != 0) = false := by simp [hr.1]
    simp only [hz, Bool.false_eq_true, if_false]
    split
    · exact Ans.seq (advanceLine_p0 hr) (fun r' hr' => advanceLoop_p0 n hr')
    · exact advanceLoop_p0 n (r := { r with pos := { r.pos with start := r.pos.start + 1 } }) ⟨hr.1, hr.2⟩

theorem advance_p0 (n : Int) {r : BlockReader} (hr : P0.p r) : OKP (r.advance n) := by
  unfold BlockReader.advance
  simp only
  split
  · exact Ans.pure ⟨hr.1, hr.2⟩
  · exact advanceLoop_p0 _ (r := { r with lineOffset := -1 }) ⟨hr.1, hr.2⟩

theorem position_p0 {r : BlockReader} (hr : P0.p r) : r.position.2.padding = 0 := hr.1

theorem skipSpacesLine_p0 (segment : Segment) (hseg : segment.padding = 0) : ∀ (l : Bytes) (i chars : Int)
    {r : BlockReader}, P0.p r → OKP (skipSpacesLine blockOps segment l i chars r)
  | [], i, chars, r, hr => by
    unfold skipSpacesLine
    exact Ans.pure ⟨p0_none, trivial, hr⟩
  | c :: cs, i, chars, r, hr => by
    unfold skipSpacesLine
    split
    · exact Ans.seq (advance_p0 1 hr) (fun r' hr' => skipSpacesLine_p0 segment hseg cs _ _ hr')
    · exact Ans.pure ⟨(p0_some _).mpr ⟨hseg, trivial, trivial⟩, trivial, hr⟩

theorem skipSpaces_p0 : ∀ (fuel : Nat) (chars : Int) {r : BlockReader}, P0.p r → OKP (skipSpaces blockOps fuel chars r)
  | 0, _, _, _ => by unfold skipSpaces; exact Ans.error _
  | fuel + 1, chars, r, hr => by
    unfold skipSpaces
    refine Ans.seq (peekLine_p0 hr) (fun a ha => ?_)
    obtain ⟨⟨line, segment⟩, r1⟩ := a
    obtain ⟨⟨_, hseg⟩, hr1⟩ := ha
    simp only
    split
    · exact Ans.pure ⟨⟨hseg, trivial, trivial⟩, hr1⟩
    · refine Ans.seq (skipSpacesLine_p0 segment hseg _ 0 chars hr1) (fun b hb => ?_)
      obtain ⟨res, chars', r2⟩ := b
      obtain ⟨hres, _, hr2⟩ := hb
      simp only
      split
      · rename_i x hx
        exact Ans.pure ⟨hres x rfl, hr2⟩
      · exact skipSpaces_p0 fuel chars' hr2

theorem findClosureLoop_p0 (opener closer : UInt8) (opts : FindClosureOptions) : ∀ (fuel opened cso : Nat)
    (ret : Option (List Segment)) {r : BlockReader}, P0.p ret → P0.p r →
    OKP (findClosureLoop blockOps opener closer opts fuel opened cso ret r)
  | 0, _, _, _, _, _, _ => by unfold findClosureLoop; exact Ans.error _
  | fuel + 1, opened, cso, ret, r, hret, hr => by
    unfold findClosureLoop
    refine Ans.seq (peekLine_p0 hr) (fun a ha => ?_)
    obtain ⟨⟨bs, seg⟩, r1⟩ := a
    obtain ⟨⟨_, hseg⟩, hr1⟩ := ha
    simp only
    split
    · exact Ans.pure ⟨⟨hret, trivial⟩, hr1⟩
    · split
      · refine Ans.seq (advance_p0 _ hr1) (fun r2 hr2 => ?_)
        refine Ans.pure ⟨⟨(p0_some _).mpr ((p0_append _ _).mpr ⟨p0_getD hret, ?_⟩), trivial⟩, hr2⟩
        exact (p0_cons _ _).mpr ⟨p0_withStop hseg _, p0_nil⟩
      · exact Ans.pure ⟨⟨hret, trivial⟩, hr1⟩
      · split
        · exact Ans.pure ⟨⟨hret, trivial⟩, hr1⟩
        · refine Ans.seq (advanceLine_p0 hr1) (fun r2 hr2 => ?_)
          refine findClosureLoop_p0 opener closer opts fuel _ _ _ ?_ hr2
          exact (p0_some _).mpr ((p0_append _ _).mpr ⟨p0_getD hret, (p0_cons _ _).mpr ⟨hseg, p0_nil⟩⟩)

theorem findClosure_p0 (fuel : Nat) (opener closer : UInt8) (opts : FindClosureOptions) {r : BlockReader} (hr : P0.p r) :
    OKP (findClosure blockOps fuel opener closer opts r) := by
  unfold findClosure
  refine Ans.seq (findClosureLoop_p0 opener closer opts fuel 1 0 none p0_none hr) (fun x hx => ?_)
  obtain ⟨⟨hret, _⟩, hr1⟩ := hx
  have hs : OKP (if !opts.advance then blockOps.setPosition (blockOps.position r).1 (blockOps.position r).2 x.2
      else Pure.pure x.2) := by
    split
    · exact setPosition_p0 _ _ (.inr hr.1) hr1
    · exact Ans.pure hr1
  refine Ans.seq hs (fun s' hs' => ?_)
  split
  · exact Ans.pure ⟨⟨hret, trivial⟩, hs'⟩
  · exact Ans.pure ⟨⟨p0_none, trivial⟩, hs'⟩

end GM.E2E.Pad
end E2EPad

section E2EPadInl
/-
  The padding relation `P0` through the list surgery of the inline phase:
  MergeOrAppendTextSegment and ProcessDelimiters (`P0` is one of the per-node properties of GM.Proof.Inlines that it keeps),
  CloseBlock. None of them creates a segment except by `withStop` on an existing one.
-/

namespace GM.E2E.Pad
open GM GM.Text GM.Inl GM.Proof.InlinesTotal GM.Proof.Inlines GM.Proof.InlinesDelims

theorem p0_text (s : Segment) (a b c : Bool) : P0.p (Node.text s a b c) ↔ s.padding = 0 := by
  show (∀ x ∈ segsOf (Node.text s a b c), x.padding = 0) ↔ _
  simp [segsOf]
theorem p0_textOf (s : Segment) : P0.p (textOf s) ↔ s.padding = 0 := p0_text s _ _ _
theorem p0_rawTextOf (s : Segment) : P0.p (rawTextOf s) ↔ s.padding = 0 := p0_text s _ _ _
theorem p0_autoLink (e : Bool) (s : Segment) : P0.p (Node.autoLink e s) ↔ s.padding = 0 := by
  show (∀ x ∈ segsOf (Node.autoLink e s), x.padding = 0) ↔ _
  simp [segsOf]
theorem p0_rawHTML (ss : List Segment) : P0.p (Node.rawHTML ss) ↔ P0.p ss := Iff.rfl
theorem p0_delim (id : Nat) (d : Delim) : P0.p (Node.delim id d) ↔ d.seg.padding = 0 := by
  show (∀ x ∈ segsOf (Node.delim id d), x.padding = 0) ↔ _
  simp [segsOf]
theorem p0_label (id : Nat) (s : Segment) (im : Bool) : P0.p (Node.label id s im) ↔ s.padding = 0 := by
  show (∀ x ∈ segsOf (Node.label id s im), x.padding = 0) ↔ _
  simp [segsOf]

theorem p0_nodes_iff : ∀ (ks : List Node), P0.p ks ↔ ∀ s ∈ segsOfL ks, s.padding = 0
  | [] => by simp [segsOfL]; exact p0_nil
  | n :: rest => by
    rw [p0_cons, p0_nodes_iff rest]
    simp only [segsOfL, List.mem_append]
    constructor
    · rintro ⟨h1, h2⟩ s (hs | hs)
      · exact h1 s hs
      · exact h2 s hs
    · intro h; exact ⟨fun s hs => h s (.inl hs), fun s hs => h s (.inr hs)⟩

theorem p0_codeSpan (ks : List Node) : P0.p (Node.codeSpan ks) ↔ P0.p ks := by
  rw [p0_nodes_iff]; exact Iff.rfl
theorem p0_emphasis (lv : Int) (ks : List Node) : P0.p (Node.emphasis lv ks) ↔ P0.p ks := by
  rw [p0_nodes_iff]; exact Iff.rfl
theorem p0_link (im : Bool) (d : Bytes) (t : Option Bytes) (ks : List Node) : P0.p (Node.link im d t ks) ↔ P0.p ks := by
  rw [p0_nodes_iff]; exact Iff.rfl

theorem p0_getLast {α} [P0 α] {l : List α} (h : P0.p l) {a : α} (e : l.getLast? = some a) : P0.p a :=
  h a (List.mem_of_getLast? e)

theorem consume_p0 {d : Delim} (h : d.seg.padding = 0) (n : Int) : (d.consume n).seg.padding = 0 := h

theorem p0_kept : NodeKept (P0.p : Node → Prop) where
  text := fun id d h => (p0_textOf _).mpr ((p0_delim id d).mp h)
  merge := fun seg _ _ _ _ _ h _ => (p0_text _ _ _ _).mpr (p0_withStop ((p0_text seg _ _ _).mp h) _)
  cons := fun id d n h => (p0_delim _ _).mpr (consume_p0 ((p0_delim id d).mp h) n)
  emph := fun _ _ _ _ hm => (p0_emphasis _ _).mpr (clearInner_kept
    (fun id d h => (p0_textOf _).mpr ((p0_delim id d).mp h))
    (fun seg _ _ _ _ _ h _ => (p0_text _ _ _ _).mpr (p0_withStop ((p0_text seg _ _ _).mp h) _)) allQ_nil hm)

theorem mergeOrAppend_p0 {kids : List Node} {s : Segment} (hk : P0.p kids) (hs : s.padding = 0) :
    P0.p (mergeOrAppend kids s) :=
  mergeOrAppend_kept (Q := P0.p) ((p0_textOf s).mpr hs)
    (fun seg _ _ _ h => (p0_text _ _ _ _).mpr (p0_withStop ((p0_text seg _ _ _).mp h) _)) hk

theorem processDelimiters_p0 (b : Bottom) {kids : List Node} (hk : P0.p kids) : OKP (processDelimiters b kids) :=
  fun _ h => processDelimiters_kept p0_kept h hk

mutual
theorem closeLabels_p0 : ∀ (n : Node), P0.p n → P0.p (closeLabels n)
  | .label id s im, h => by simp only [closeLabels]; exact (p0_textOf _).mpr ((p0_label _ _ _).mp h)
  | .emphasis lv ks, h => by
    simp only [closeLabels]; exact (p0_emphasis _ _).mpr (closeLabelsL_p0 ks ((p0_emphasis _ _).mp h))
  | .link im d t ks, h => by
    simp only [closeLabels]; exact (p0_link _ _ _ _).mpr (closeLabelsL_p0 ks ((p0_link _ _ _ _).mp h))
  | .codeSpan ks, h => by
    simp only [closeLabels]; exact (p0_codeSpan _).mpr (closeLabelsL_p0 ks ((p0_codeSpan _).mp h))
  | .text .., h => by simpa only [closeLabels] using h
  | .autoLink .., h => by simpa only [closeLabels] using h
  | .rawHTML .., h => by simpa only [closeLabels] using h
  | .delim .., h => by simpa only [closeLabels] using h
theorem closeLabelsL_p0 : ∀ (ks : List Node), P0.p ks → P0.p (closeLabelsL ks)
  | [], _ => by simp only [closeLabelsL]; exact p0_nil
  | n :: rest, h => by
    have h' := (p0_cons _ _).mp h
    simp only [closeLabelsL]
    exact (p0_cons _ _).mpr ⟨closeLabels_p0 n h'.1, closeLabelsL_p0 rest h'.2⟩
end

end GM.E2E.Pad
end E2EPadInl

section E2EPadParsers
/-
  The padding relation `P0` through the five default inline parsers (code span, emphasis, link /
  image incl. reference forms, autolink, raw HTML). Every segment they record is a record literal (padding 0), or
  `withStart` / `withStop` of the reader's position or of a recorded segment.
-/

namespace GM.E2E.Pad
open GM GM.Text GM.Inl GM.Proof.InlinesTotal GM.Proof.Inlines

instance : P0 St := ⟨fun st => P0.p st.rd ∧ P0.p st.kids⟩
instance : P0 LinkInfo := ⟨fun i => P0.p i.kids⟩

theorem csLoop_p0 (opener : Nat) (l : Int) (pos startSegment : Segment) (hpos : pos.padding = 0)
    (hss : startSegment.padding = 0) : ∀ (fuel : Nat) {rd : BlockReader} (kids : List Node), P0.p rd → P0.p kids →
    OKP (csLoop opener l pos startSegment fuel rd kids)
  | 0, _, _, _, _ => by unfold csLoop; exact Ans.error _
  | fuel + 1, rd, kids, hr, hk => by
    unfold csLoop
    refine Ans.seq (peekLine_p0 hr) (fun a ha => ?_)
    obtain ⟨⟨line, segment⟩, rd1⟩ := a
    obtain ⟨⟨_, hseg⟩, hr1⟩ := ha
    try simp only
    split
    · refine Ans.seq (setPosition_p0 l pos (.inr hpos) hr1) (fun rd2 hr2 => ?_)
      exact Ans.pure ⟨(p0_textOf _).mpr (p0_withStop hss _), hr2⟩
    · split
      · refine Ans.seq (advance_p0 _ hr1) (fun rd2 hr2 => ?_)
        refine Ans.pure ⟨?_, hr2⟩
        show P0.p (α := List Node) _
        split
        · exact (p0_append _ _).mpr ⟨hk, (p0_cons _ _).mpr ⟨(p0_rawTextOf _).mpr (p0_withStop hseg _), p0_nil⟩⟩
        · exact hk
      · refine Ans.seq (advanceLine_p0 hr1) (fun rd2 hr2 => ?_)
        exact csLoop_p0 opener l pos startSegment hpos hss fuel _ hr2
          ((p0_append _ _).mpr ⟨hk, (p0_cons _ _).mpr ⟨(p0_rawTextOf _).mpr hseg, p0_nil⟩⟩)

theorem csTrim_p0 (src : Bytes) {kids : List Node} (hk : P0.p kids) : OKP (csTrim src kids) := by
  have hk2 : ∀ ks : List Node, P0.p ks → P0.p (match ks with
      | Node.text seg s h r :: rest => Node.text (seg.withStart (seg.start + 1)) s h r :: rest
      | k => k) := by
    intro ks hks
    split
    · rename_i seg s h r rest
      have := (p0_cons _ _).mp hks
      exact (p0_cons _ _).mpr ⟨(p0_text _ _ _ _).mpr (p0_withStart ((p0_text _ _ _ _).mp this.1) _), this.2⟩
    · exact hks
  unfold csTrim
  refine Ans.bind' (β := List Node) (fun blank => ?_)
  refine Ans.ite (Ans.pure hk) ?_
  dsimp only
  split
  · refine Ans.bind' (β := List Node) (fun first => ?_)
    split
    · refine Ans.bind' (β := List Node) (fun last => ?_)
      refine Ans.bind' (β := List Node) (fun a => ?_)
      refine Ans.bind' (β := List Node) (fun b => ?_)
      refine Ans.ite (Ans.pure hk) ?_
      split
      · rename_i seg s h r hl
        have hseg := (p0_text _ _ _ _).mp (p0_getLast (hk2 kids hk) hl)
        exact Ans.pure ((p0_append _ _).mpr ⟨p0_dropLast (hk2 kids hk),
          (p0_cons _ _).mpr ⟨(p0_text _ _ _ _).mpr (p0_withStop hseg _), p0_nil⟩⟩)
      · exact Ans.pure (hk2 kids hk)
    · exact Ans.throw_bind _ _
    · exact Ans.throw_bind _ _
  · exact Ans.throw_bind _ _
  · exact Ans.throw_bind _ _

theorem parseCodeSpan_p0 {rd : BlockReader} (hr : P0.p rd) : OKP (parseCodeSpan rd) := by
  unfold parseCodeSpan
  refine Ans.seq (peekLine_p0 hr) (fun a ha => ?_)
  obtain ⟨⟨line, startSegment⟩, rd1⟩ := a
  obtain ⟨⟨_, hss⟩, hr1⟩ := ha
  try simp only
  refine Ans.seq (advance_p0 _ hr1) (fun rd2 hr2 => ?_)
  try simp only
  refine Ans.seq (csLoop_p0 _ _ _ startSegment (position_p0 hr2) hss _ [] hr2 p0_nil) (fun x hx => ?_)
  obtain ⟨res, rd3⟩ := x
  obtain ⟨hres, hr3⟩ := hx
  try simp only
  split
  · rename_i t
    exact Ans.pure ⟨(p0_some _).mpr hres, hr3⟩
  · rename_i kids
    refine Ans.seq (csTrim_p0 _ hres) (fun kids' hk' => ?_)
    exact Ans.pure ⟨(p0_some _).mpr ((p0_codeSpan _).mpr hk'), hr3⟩

theorem parseEmphasis_p0 (env : Env) (id : Nat) {rd : BlockReader} (hr : P0.p rd) : OKP (parseEmphasis env id rd) := by
  unfold parseEmphasis
  refine Ans.bind' (fun before => ?_)
  refine Ans.seq (peekLine_p0 hr) (fun a ha => ?_)
  obtain ⟨⟨line, segment⟩, rd1⟩ := a
  obtain ⟨⟨_, hseg⟩, hr1⟩ := ha
  try simp only
  refine Ans.bind' (fun d => ?_)
  split
  · exact Ans.pure ⟨p0_none, hr1⟩
  · rename_i d'
    try simp only
    refine Ans.seq (advance_p0 _ hr1) (fun rd2 hr2 => ?_)
    exact Ans.pure ⟨(p0_some _).mpr ((p0_delim _ _).mpr (p0_withStop hseg _)), hr2⟩

theorem parseAutoLink_p0 {rd : BlockReader} (hr : P0.p rd) : OKP (parseAutoLink rd) := by
  unfold parseAutoLink
  refine Ans.seq (peekLine_p0 hr) (fun a ha => ?_)
  obtain ⟨⟨line, segment⟩, rd1⟩ := a
  obtain ⟨⟨_, hseg⟩, hr1⟩ := ha
  dsimp only
  refine Ans.ite (Ans.throw_bind _ _) (Ans.ite (Ans.pure ⟨p0_none, hr1⟩) (Ans.ite (Ans.pure ⟨p0_none, hr1⟩) ?_))
  refine Ans.seq (advance_p0 _ hr1) (fun rd2 hr2 => ?_)
  exact Ans.pure ⟨(p0_some _).mpr ((p0_autoLink _ _).mpr rfl), hr2⟩

theorem rhSegments_p0 (sline : Int) (ssegment : Segment) (eline : Int) (esegment : Segment) :
    ∀ (fuel : Nat) {rd : BlockReader} (acc : List Segment), P0.p rd → P0.p acc →
    OKP (rhSegments sline ssegment eline esegment fuel rd acc)
  | 0, _, _, _, _ => by unfold rhSegments; exact Ans.error _
  | fuel + 1, rd, acc, hr, ha => by
    unfold rhSegments
    refine Ans.seq (peekLine_p0 hr) (fun a haa => ?_)
    obtain ⟨⟨line, segment⟩, rd1⟩ := a
    obtain ⟨⟨_, hseg⟩, hr1⟩ := haa
    try simp only
    split
    · exact Ans.pure ⟨ha, hr1⟩
    · try simp only
      have hacc : ∀ a b : Int, P0.p (acc ++ [({ start := a, stop := b } : Segment)]) := fun a b =>
        (p0_append _ _).mpr ⟨ha, (p0_cons _ _).mpr ⟨rfl, p0_nil⟩⟩
      split
      · refine Ans.seq (advance_p0 _ hr1) (fun rd2 hr2 => ?_)
        exact Ans.pure ⟨hacc _ _, hr2⟩
      · refine Ans.seq (advanceLine_p0 hr1) (fun rd2 hr2 => ?_)
        exact rhSegments_p0 sline ssegment eline esegment fuel _ hr2 (hacc _ _)

theorem parseTag_p0 (matcher : Bytes → Option Nat) {rd : BlockReader} (hr : P0.p rd) : OKP (parseTag matcher rd) := by
  unfold parseTag
  try simp only
  refine Ans.bind' (fun stream => ?_)
  refine Ans.seq (setPosition_p0 _ _ (.inr (position_p0 hr)) hr) (fun rd1 hr1 => ?_)
  split
  · exact Ans.pure ⟨p0_none, hr1⟩
  · refine Ans.seq (advance_p0 _ hr1) (fun rd2 hr2 => ?_)
    try simp only
    refine Ans.seq (setPosition_p0 _ _ (.inr (position_p0 hr)) hr2) (fun rd3 hr3 => ?_)
    refine Ans.seq (rhSegments_p0 _ _ _ _ _ [] hr3 p0_nil) (fun x hx => ?_)
    obtain ⟨segs, rd4⟩ := x
    exact Ans.pure ⟨(p0_some _).mpr ((p0_rawHTML _).mpr hx.1), hx.2⟩

theorem rhUntil_p0 (closer : Bytes) (savedLine : Int) (savedSegment : Segment) (hs : savedSegment.padding = 0) :
    ∀ (fuel offset : Nat) {rd : BlockReader} (acc : List Segment), P0.p rd → P0.p acc →
    OKP (rhUntil closer savedLine savedSegment fuel offset rd acc)
  | 0, _, _, _, _, _ => by unfold rhUntil; exact Ans.error _
  | fuel + 1, offset, rd, acc, hr, ha => by
    unfold rhUntil
    refine Ans.seq (peekLine_p0 hr) (fun a haa => ?_)
    obtain ⟨⟨line, segment⟩, rd1⟩ := a
    obtain ⟨⟨_, hseg⟩, hr1⟩ := haa
    try simp only
    split
    · refine Ans.seq (setPosition_p0 _ _ (.inr hs) hr1) (fun rd2 hr2 => ?_)
      exact Ans.pure ⟨p0_none, hr2⟩
    · split
      · try simp only
        refine Ans.seq (advance_p0 _ hr1) (fun rd2 hr2 => ?_)
        exact Ans.pure ⟨(p0_some _).mpr ((p0_append _ _).mpr ⟨ha, (p0_cons _ _).mpr ⟨p0_withStop hseg _, p0_nil⟩⟩), hr2⟩
      · refine Ans.seq (advanceLine_p0 hr1) (fun rd2 hr2 => ?_)
        exact rhUntil_p0 closer savedLine savedSegment hs fuel 0 _ hr2
          ((p0_append _ _).mpr ⟨ha, (p0_cons _ _).mpr ⟨hseg, p0_nil⟩⟩)

/-- the continuation behind `rhUntil` in parseComment / parseUntil -/
macro "raw_until" hr:ident : tactic =>
  `(tactic| (refine Ans.seq (rhUntil_p0 _ _ _ (position_p0 $hr) _ _ [] $hr p0_nil) (fun x hx => ?_)
             split
             · exact Ans.pure ⟨(p0_some _).mpr ((p0_rawHTML _).mpr (hx.1 _ (by assumption))), hx.2⟩
             · exact Ans.pure ⟨p0_none, hx.2⟩))

theorem parseRawHTML_p0 {rd : BlockReader} (hr : P0.p rd) : OKP (parseRawHTML rd) := by
  unfold parseRawHTML
  refine Ans.seq (peekLine_p0 hr) (fun a ha => ?_)
  obtain ⟨⟨line, segment⟩, rd1⟩ := a
  obtain ⟨⟨_, hseg⟩, hr1⟩ := ha
  dsimp only
  refine Ans.ite (parseTag_p0 _ hr1) ?_
  refine Ans.ite (parseTag_p0 _ hr1) ?_
  refine Ans.ite ?_ ?_
  · refine Ans.ite ?_ ?_
    · refine Ans.seq (advance_p0 _ hr1) (fun rd2 hr2 => ?_)
      exact Ans.pure ⟨(p0_some _).mpr ((p0_rawHTML _).mpr ((p0_cons _ _).mpr ⟨p0_withStop hseg _, p0_nil⟩)), hr2⟩
    · refine Ans.ite ?_ ?_
      · refine Ans.seq (advance_p0 _ hr1) (fun rd2 hr2 => ?_)
        exact Ans.pure ⟨(p0_some _).mpr ((p0_rawHTML _).mpr ((p0_cons _ _).mpr ⟨p0_withStop hseg _, p0_nil⟩)), hr2⟩
      · raw_until hr1
  · refine Ans.ite ?_ ?_
    · raw_until hr1
    · refine Ans.ite ?_ ?_
      · raw_until hr1
      · refine Ans.ite ?_ ?_
        · raw_until hr1
        · exact Ans.pure ⟨p0_none, hr1⟩

end GM.E2E.Pad
end E2EPadParsers

section E2EPadLink
/-
  The padding relation `P0` through the link parser (link.go: `[` / `![` openers, `]` with inline,
  full / collapsed / shortcut reference forms, every failure path) and through the end-of-line step of parseBlock's loop.
-/

namespace GM.E2E.Pad
open GM GM.Text GM.Inl GM.Proof.InlinesTotal GM.Proof.Inlines

theorem popBottom_p0 {st : St} (h : P0.p st) : P0.p (popBottom st).2 := by
  unfold popBottom
  split
  · exact h
  · exact ⟨h.1, h.2⟩

theorem pushBottom_p0 {st : St} (h : P0.p st) : P0.p (pushBottom st) := ⟨h.1, h.2⟩

theorem labelOpen_p0 {st : St} (h : P0.p st) (pos : Int) (isImage : Bool) : OKP (labelOpen st pos isImage) := by
  unfold labelOpen
  dsimp only
  refine Ans.seq (advance_p0 1 h.1) (fun rd hr => ?_)
  exact Ans.pure ⟨(p0_some _).mpr ((p0_label _ _ _).mpr rfl), hr, h.2⟩

theorem processLinkLabel_p0 {st : St} (h : P0.p st) : OKP (processLinkLabel st) := by
  unfold processLinkLabel
  dsimp only
  have hpop := popBottom_p0 h
  split
  · exact Ans.error _
  · split
    · exact Ans.error _
    · split
      · exact Ans.error _
      · rename_i kids hk
        have hkids : P0.p kids := processDelimiters_p0 _ hpop.2 kids hk
        split
        · exact Ans.error _
        · rename_i pre lid lseg im post hs
          have e := splitLastLabel_eq hs
          rw [e] at hkids
          have h1 := (p0_append _ _).mp hkids
          have h2 := (p0_cons _ _).mp h1.2
          split
          · exact Ans.error _
          · exact Ans.ok ⟨h2.2, hpop.1, (p0_append _ _).mpr ⟨h1.1, (p0_cons _ _).mpr ⟨h2.1, p0_nil⟩⟩⟩

theorem parseLinkDestination_p0 {rd : BlockReader} (hr : P0.p rd) : OKP (parseLinkDestination rd) := by
  unfold parseLinkDestination
  refine Ans.seq (skipSpaces_p0 _ 0 hr) (fun a ha => ?_)
  obtain ⟨x, rd1⟩ := a
  dsimp only
  refine Ans.seq (peekLine_p0 ha.2) (fun b hb => ?_)
  obtain ⟨⟨line, seg⟩, rd2⟩ := b
  dsimp only
  refine Ans.bind' (fun c => ?_)
  refine Ans.ite ?_ ?_
  · split
    · refine Ans.seq (advance_p0 _ hb.2) (fun rd3 hr3 => ?_)
      exact Ans.pure ⟨p0_obytes _, hr3⟩
    · exact Ans.pure ⟨p0_obytes _, hb.2⟩
  · refine Ans.ite (Ans.pure ⟨p0_obytes _, hb.2⟩) ?_   -- an open parenthesis is left (repair ce3b6c4)
    refine Ans.seq (advance_p0 _ hb.2) (fun rd3 hr3 => ?_)
    exact Ans.pure ⟨p0_obytes _, hr3⟩

instance : P0 (Option (Option Bytes)) := ⟨fun _ => True⟩

theorem parseLinkTitle_p0 {rd : BlockReader} (hr : P0.p rd) : OKP (parseLinkTitle rd) := by
  unfold parseLinkTitle
  refine Ans.seq (skipSpaces_p0 _ 0 hr) (fun a ha => ?_)
  obtain ⟨x, rd1⟩ := a
  dsimp only
  refine Ans.bind' (fun opener => ?_)
  refine Ans.ite (Ans.pure ⟨trivial, ha.2⟩) ?_
  refine Ans.seq (advance_p0 1 ha.2) (fun rd2 hr2 => ?_)
  refine Ans.seq (findClosure_p0 _ _ _ _ hr2) (fun b hb => ?_)
  obtain ⟨⟨segs, found⟩, rd3⟩ := b
  dsimp only
  refine Ans.ite ?_ (Ans.pure ⟨trivial, hb.2⟩)
  refine Ans.bind' (fun v => ?_)
  exact Ans.ite (Ans.pure ⟨trivial, hb.2⟩) (Ans.pure ⟨trivial, hb.2⟩)

theorem parseLinkInline_p0 {st : St} (h : P0.p st) : OKP (parseLinkInline st) := by
  unfold parseLinkInline
  refine Ans.seq (advance_p0 1 h.1) (fun rd hr => ?_)
  refine Ans.seq (skipSpaces_p0 _ 0 hr) (fun a ha => ?_)
  obtain ⟨x, rd1⟩ := a
  dsimp only
  have finish : ∀ (rd : BlockReader) (dest : Bytes) (title : Option Bytes), P0.p rd →
      OKP (do
        let (kids, st') ← processLinkLabel { st with rd := rd }
        (Pure.pure (some ({ dest := dest, title := title, kids := kids } : LinkInfo), st') :
          Except Panic (Option LinkInfo × St))) := by
    intro rd dest title hrd
    refine Ans.seq (processLinkLabel_p0 (st := { st with rd := rd }) ⟨hrd, h.2⟩) (fun y hy => ?_)
    obtain ⟨kids, st'⟩ := y
    exact Ans.pure ⟨(p0_some _).mpr hy.1, hy.2⟩
  refine Ans.bind' (fun c => ?_)
  refine Ans.ite ?_ ?_
  · refine Ans.seq (advance_p0 1 ha.2) (fun rd2 hr2 => ?_)
    exact finish rd2 [] none hr2
  · refine Ans.seq (parseLinkDestination_p0 ha.2) (fun b hb => ?_)
    obtain ⟨dest, rd2⟩ := b
    dsimp only
    split
    · exact Ans.pure ⟨p0_none, hb.2, h.2⟩
    · refine Ans.seq (skipSpaces_p0 _ 0 hb.2) (fun a2 ha2 => ?_)
      obtain ⟨⟨x2, spaces2, ok2⟩, rd3⟩ := a2
      dsimp only
      refine Ans.bind' (fun c2 => ?_)
      refine Ans.ite ?_ ?_
      · refine Ans.seq (advance_p0 1 ha2.2) (fun rd4 hr4 => ?_)
        exact finish rd4 _ none hr4
      · refine Ans.ite (Ans.pure ⟨p0_none, ha2.2, h.2⟩) ?_   -- no white space in front of a title (repair 8c83fd9)
        refine Ans.seq (parseLinkTitle_p0 ha2.2) (fun t ht => ?_)
        obtain ⟨title, rd4⟩ := t
        dsimp only
        split
        · exact Ans.pure ⟨p0_none, ht.2, h.2⟩
        · refine Ans.seq (skipSpaces_p0 _ 0 ht.2) (fun a3 ha3 => ?_)
          obtain ⟨x3, rd5⟩ := a3
          dsimp only
          refine Ans.bind' (fun c3 => ?_)
          refine Ans.ite ?_ (Ans.pure ⟨p0_none, ha3.2, h.2⟩)
          refine Ans.seq (advance_p0 1 ha3.2) (fun rd6 hr6 => ?_)
          exact finish rd6 _ _ hr6

theorem parseReferenceLink_p0 (env : Env) {st : St} (h : P0.p st) (lseg : Segment) :
    OKP (parseReferenceLink env st lseg) := by
  unfold parseReferenceLink
  dsimp only
  refine Ans.seq (advance_p0 1 h.1) (fun rd hr => ?_)
  refine Ans.seq (findClosure_p0 _ _ _ _ hr) (fun b hb => ?_)
  obtain ⟨⟨segs, found⟩, rd1⟩ := b
  dsimp only
  have hst : P0.p ({ st with rd := rd1 } : St) := ⟨hb.2, h.2⟩
  refine Ans.ite (Ans.pure ⟨⟨p0_none, trivial⟩, hst⟩) ?_
  refine Ans.bind' (β := (Option LinkInfo × Bool) × St) (fun mr => ?_)
  have tail : ∀ maybeReference : Bytes, OKP (α := (Option LinkInfo × Bool) × St)
      (if List.length maybeReference > 999 then
          Pure.pure ((none, true), ({ st with rd := rd1 } : St))
        else
          match lookupRef env maybeReference with
          | none => Pure.pure ((none, true), ({ st with rd := rd1 } : St))
          | some (dest, title) => do
            let __x ← processLinkLabel ({ st with rd := rd1 } : St)
            Pure.pure ((some { dest := dest, title := title, kids := __x.fst }, true), __x.snd)) := by
    intro maybeReference
    refine Ans.ite (Ans.pure ⟨⟨p0_none, trivial⟩, hst⟩) ?_
    split
    · exact Ans.pure ⟨⟨p0_none, trivial⟩, hst⟩
    · refine Ans.seq (processLinkLabel_p0 hst) (fun y hy => ?_)
      exact Ans.pure ⟨⟨(p0_some _).mpr hy.1, trivial⟩, hy.2⟩
  refine Ans.ite (Ans.pure ⟨⟨p0_none, trivial⟩, hst⟩) ?_   -- brackets with only white space (repair fb85ad2)
  refine Ans.ite ?_ ?_
  · refine Ans.bind' (β := (Option LinkInfo × Bool) × St) (fun mr2 => ?_)
    exact tail mr2
  · refine Ans.bind' (β := (Option LinkInfo × Bool) × St) (fun mr2 => ?_)
    exact tail mr2

theorem linkFail_p0 {pre post : List Node} {lseg : Segment} {st : St} (hp : P0.p pre) (hl : lseg.padding = 0)
    (hq : P0.p post) (hs : P0.p st) : OKP (linkFail pre lseg post st) := by
  unfold linkFail
  exact Ans.ok ⟨p0_none, (popBottom_p0 hs).1, (p0_append _ _).mpr ⟨mergeOrAppend_p0 hp hl, hq⟩⟩

theorem linkDone_p0 (isImage : Bool) {info : LinkInfo} {st : St} (hi : P0.p info) (hs : P0.p st) :
    OKP (linkDone isImage info st) := by
  unfold linkDone
  exact Ans.ok ⟨(p0_some _).mpr ((p0_link _ _ _ _).mpr hi), hs.1, p0_dropLast hs.2⟩

theorem linkShortcut_p0 (env : Env) {st : St} (hs : P0.p st) {lseg : Segment} (hl : lseg.padding = 0)
    (segment : Segment) (l : Int) {pos : Segment} (hpos : pos.padding = 0) (isImage : Bool) {pre post : List Node}
    (hp : P0.p pre) (hq : P0.p post) : OKP (linkShortcut env st lseg segment l pos isImage pre post) := by
  unfold linkShortcut
  refine Ans.seq (setPosition_p0 l pos (.inr hpos) hs.1) (fun rd hr => ?_)
  dsimp only
  have hst : P0.p ({ st with rd := rd } : St) := ⟨hr, hs.2⟩
  refine Ans.bind' (fun mr => ?_)
  refine Ans.ite (linkFail_p0 hp hl hq hst) ?_
  split
  · exact linkFail_p0 hp hl hq hst
  · refine Ans.seq (processLinkLabel_p0 hst) (fun y hy => ?_)
    obtain ⟨kids, st'⟩ := y
    exact linkDone_p0 isImage (info := { dest := _, title := _, kids := kids }) hy.1 hy.2

theorem linkTry_p0 (env : Env) {st : St} (hs : P0.p st) (lseg : Segment) (c : UInt8) : OKP (linkTry env st lseg c) := by
  unfold linkTry
  refine Ans.ite ?_ (Ans.ite ?_ (Ans.ok ⟨p0_none, trivial, hs⟩))
  · split
    · rename_i link st' he
      have := parseLinkInline_p0 hs _ he
      exact Ans.ok ⟨this.1, trivial, this.2⟩
    · exact Ans.error _
  · split
    · rename_i link hv st' he
      have := parseReferenceLink_p0 env hs lseg _ he
      exact Ans.ok ⟨this.1.1, trivial, this.2⟩
    · exact Ans.error _

theorem parseLinkClose_p0 (env : Env) {st : St} (hs : P0.p st) (segment : Segment) :
    OKP (parseLinkClose env st segment) := by
  unfold parseLinkClose
  split
  · exact Ans.ok ⟨p0_none, hs⟩
  · rename_i pre lid lseg isImage post hsp
    have e := splitLastLabel_eq hsp
    have hk := hs.2
    rw [e] at hk
    have h1 := (p0_append _ _).mp hk
    have h2 := (p0_cons _ _).mp h1.2
    have hl : lseg.padding = 0 := (p0_label _ _ _).mp h2.1
    refine Ans.seq (advance_p0 1 hs.1) (fun rd hr => ?_)
    dsimp only
    have hst : P0.p ({ st with rd := rd } : St) := ⟨hr, hs.2⟩
    refine Ans.ite (linkFail_p0 h1.1 hl h2.2 hst) ?_
    refine Ans.ite (linkFail_p0 h1.1 hl h2.2 hst) ?_
    refine Ans.bind' (fun c => ?_)
    refine Ans.seq (linkTry_p0 env hst lseg c) (fun y hy => ?_)
    obtain ⟨link, hasValue, st'⟩ := y
    dsimp only
    split
    · rename_i info
      exact linkDone_p0 isImage (hy.1 info rfl) hy.2.2
    · refine Ans.ite (linkFail_p0 h1.1 hl h2.2 hy.2.2) ?_
      exact linkShortcut_p0 env hy.2.2 hl segment _ (position_p0 hr) isImage h1.1 h2.2

theorem parseLink_p0 (env : Env) {st : St} (hs : P0.p st) : OKP (parseLink env st) := by
  unfold parseLink
  refine Ans.seq (peekLine_p0 hs.1) (fun a ha => ?_)
  obtain ⟨⟨line, segment⟩, rd⟩ := a
  dsimp only
  have hst : P0.p ({ st with rd := rd } : St) := ⟨ha.2, hs.2⟩
  split
  · exact Ans.throw _
  · refine Ans.ite ?_ (Ans.ite ?_ ?_)
    · split
      · refine Ans.seq (advance_p0 1 ha.2) (fun rd2 hr2 => ?_)
        exact labelOpen_p0 (pushBottom_p0 (st := { st with rd := rd2 }) ⟨hr2, hs.2⟩) _ _
      · exact Ans.pure ⟨p0_none, hst⟩
    · exact labelOpen_p0 (pushBottom_p0 hst) _ _
    · exact parseLinkClose_p0 env hst segment

theorem liftR_p0 {st : St} (hs : P0.p st) {r : RRes} (hr : OKP r) : OKP (liftR st r) := by
  unfold liftR
  split
  · rename_i n rd
    have := hr _ rfl
    exact Ans.ok ⟨this.1, this.2, hs.2⟩
  · exact Ans.error _

theorem ipParse_p0 (env : Env) (ip : Ip) {st : St} (hs : P0.p st) : OKP (ip.parse env st) := by
  cases ip <;> unfold Ip.parse
  · exact liftR_p0 hs (parseCodeSpan_p0 hs.1)
  · exact parseLink_p0 env hs
  · exact liftR_p0 hs (parseAutoLink_p0 hs.1)
  · exact liftR_p0 hs (parseRawHTML_p0 hs.1)
  · exact liftR_p0 (st := { st with nextId := st.nextId + 1 }) ⟨hs.1, hs.2⟩ (parseEmphasis_p0 env _ hs.1)

/-- the relation on the scan state of one line -/
instance : P0 Inl.Scan := ⟨fun s => P0.p s.st ∧ s.sp.padding = 0⟩

theorem between_p0 {a b : Segment} (ha : a.padding = 0) (hb : b.padding = 0) : OKP (a.between b) := by
  unfold Segment.between
  split
  · exact Ans.error _
  · refine Ans.ok ?_
    show a.padding - b.padding = 0
    omega

theorem trimRightSpace_p0 {t : Segment} (ht : t.padding = 0) (buf : Bytes) : OKP (t.trimRightSpace buf) := by
  unfold Segment.trimRightSpace
  refine Ans.bind' (fun v => ?_)
  exact Ans.ite (Ans.pure rfl) (Ans.pure ht)

theorem eolText_p0 (src : Bytes) (flags : Nat) {diff : Segment} (hd : diff.padding = 0) {kids : List Node}
    (hk : P0.p kids) : OKP (eolText src flags diff kids) := by
  unfold eolText
  refine Ans.ite (Ans.pure ⟨hd, hk⟩) ?_
  refine Ans.seq (trimRightSpace_p0 hd src) (fun seg hseg => ?_)
  refine Ans.ite ?_ (Ans.pure ⟨hseg, hk⟩)
  split
  · rename_i tseg hl
    have ht : tseg.padding = 0 := (p0_text _ _ _ _).mp (p0_getLast hk hl)
    refine Ans.ite ?_ (Ans.pure ⟨hseg, hk⟩)
    refine Ans.seq (trimRightSpace_p0 ht src) (fun tseg' ht' => ?_)
    exact Ans.pure ⟨hseg, (p0_append _ _).mpr ⟨p0_dropLast hk, (p0_cons _ _).mpr ⟨(p0_text _ _ _ _).mpr ht', p0_nil⟩⟩⟩
  · exact Ans.pure ⟨hseg, hk⟩

theorem endOfLine_p0 (flags : Nat) (l : Int) {s : Inl.Scan} (h : P0.p s) : OKP (endOfLine flags l s) := by
  unfold endOfLine
  have hadv : OKP (if s.n != 0 then s.st.rd.advance s.n else Pure.pure s.st.rd) :=
    Ans.ite (advance_p0 _ h.1.1) (Ans.pure h.1.1)
  refine Ans.seq hadv (fun rd hr => ?_)
  dsimp only
  refine Ans.ite (Ans.pure (show P0.p ({ s.st with rd := rd } : St) from ⟨hr, h.1.2⟩)) ?_
  refine Ans.seq (between_p0 h.2 (position_p0 hr)) (fun diff hd => ?_)
  refine Ans.seq (eolText_p0 _ flags hd h.1.2) (fun tk htk => ?_)
  refine Ans.seq (advanceLine_p0 hr) (fun rd2 hr2 => ?_)
  exact Ans.pure (show P0.p ({ s.st with rd := rd2, kids := tk.2 ++ [Node.text tk.1 _ _ false] } : St) from
    ⟨hr2, (p0_append _ _).mpr ⟨htk.2, (p0_cons _ _).mpr ⟨(p0_text _ _ _ _).mpr htk.1, p0_nil⟩⟩⟩)

end GM.E2E.Pad
end E2EPadLink
