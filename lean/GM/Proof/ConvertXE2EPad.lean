/-
  GM.Proof.ConvertXE2EPad — "no virtual padding" (the relation `P0` of GM.Proof.E2EPad) through the inline loop over an OPEN
  trigger table (GM.Model.InlinesLoopX) and through the members' parsers: Strikethrough, TaskCheckBox, the link parser over a
  generalised ProcessDelimiters (by the relabelling of GM.Proof.ConvertXRelv: a node's segments do not depend on emphasis
  levels), Linkify. Result: the segments of the tree `parseBlockG` answers on padding-free lines have padding 0.
-/
import GM.Proof.E2EPadLoop
import GM.Proof.ConvertXTotal
import GM.Model.ConvertL

namespace GM.Proof.ConvertXE2EPad
open GM GM.Text GM.Inl GM.E2E.Pad GM.Proof.ConvertXRelv GM.Proof.ConvertXTotal GM.Proof.InlinesTotal
open GM.Proof.Inlines (Ans)
open GM.Proof.ExtShape (parseStrike_shape parseTask_shape parseLinkify_shape)

theorem p0_relvL (g : Int → Int) (ks : List Inl.Node) : P0.p (relvL g ks) ↔ P0.p ks := by
  rw [p0_nodes_iff, p0_nodes_iff, segsOfL_relv]

theorem p0_relv (g : Int → Int) (n : Inl.Node) : P0.p (relv g n) ↔ P0.p n := by
  show (∀ s ∈ segsOf (relv g n), s.padding = 0) ↔ (∀ s ∈ segsOf n, s.padding = 0)
  rw [segsOf_relv]

theorem p0_relvSt (g : Int → Int) (st : St) : P0.p (relvSt g st) ↔ P0.p st := by
  show (P0.p (relvSt g st).rd ∧ P0.p (relvSt g st).kids) ↔ (P0.p st.rd ∧ P0.p st.kids)
  simp only [relvSt, p0_relvL]

theorem processDelimitersG_p0 (sk : Bool) (b : Bottom) {kids : List Inl.Node} (hk : P0.p kids) :
    OKP (processDelimitersG sk b kids) := by
  intro r hr
  have e := processDelimitersG_relv (gN_ok sk) b kids
  rw [hr] at e
  have := processDelimiters_p0 b ((p0_relvL gN kids).mpr hk) _ e
  exact (p0_relvL gN r).mp this

theorem pdsim_G (sk : Bool) : PDSim gN (processDelimitersG sk) := fun b k => processDelimitersG_relv (gN_ok sk) b k

theorem parseLinkG_p0 (sk : Bool) (env : Env) {st : St} (hs : P0.p st) : OKP (parseLinkG (processDelimitersG sk) env st) := by
  intro r hr
  have e := parseLinkG_relv (pdsim_G sk) env st
  rw [hr] at e
  have := parseLink_p0 env ((p0_relvSt gN st).mpr hs) _ e
  obtain ⟨h1, h2⟩ := this
  refine ⟨?_, (p0_relvSt gN r.2).mp h2⟩
  intro n hn
  have : (relvPR gN r).1 = some (relv gN n) := by simp [relvPR, hn]
  exact (p0_relv gN n).mp (h1 _ this)

theorem parseStrike_p0 (env : Env) {st : St} (hs : P0.p st) : OKP (parseStrike env st) :=
  (parseStrike_shape env st.rd).ans ⟨p0_none, hs⟩ fun _ seg rd hp => by
    obtain ⟨⟨_, hseg⟩, hr1⟩ := peekLine_p0 hs.1 _ hp
    refine ⟨⟨p0_none, hr1, hs.2⟩, ?_⟩
    rintro _ ⟨d, -, -, -, rfl⟩
    exact Ans.seq (advance_p0 _ hr1) fun rd' hr =>
      Ans.pure ⟨(p0_some _).mpr ((p0_delim _ _).mpr (p0_withStop hseg _)), hr, hs.2⟩

theorem parseTask_p0 (inItem : Bool) (env : Env) {st : St} (hs : P0.p st) : OKP (parseTask inItem env st) :=
  (parseTask_shape inItem env st.rd).ans ⟨p0_none, hs⟩ fun _ seg rd hp => by
    have hr1 := (peekLine_p0 hs.1 _ hp).2
    refine ⟨⟨p0_none, hr1, hs.2⟩, ?_⟩
    rintro _ ⟨n, b, -, -, rfl⟩
    exact Ans.seq (advance_p0 _ hr1) fun rd' hr => Ans.pure ⟨(p0_some _).mpr ((p0_emphasis _ _).mpr p0_nil), hr, hs.2⟩

theorem parseLinkify_p0 (env : Env) {st : St} (hs : P0.p st) : OKP (parseLinkify env st) :=
  (parseLinkify_shape env st.rd).ans ⟨p0_none, hs⟩ fun _ seg rd hp => by
    obtain ⟨⟨_, hseg⟩, hr1⟩ := peekLine_p0 hs.1 _ hp
    refine ⟨⟨p0_none, hr1, hs.2⟩, ?_⟩
    rintro _ ⟨k, i, proto, email, -, -, -, -, rfl⟩
    refine Ans.seq (advance_p0 _ hr1) fun rd' hr => Ans.pure ⟨(p0_some _).mpr ((p0_autoLink _ _).mpr rfl), hr, ?_⟩
    dsimp only
    split
    · exact hs.2
    · exact mergeOrAppend_p0 hs.2 (p0_withStop hseg _)

open GM.ConvertX

theorem pdX_p0 (c : XCfg) (b : Bottom) {kids : List Inl.Node} (hk : P0.p kids) : OKP (pdX c b kids) := by
  unfold pdX
  split
  · exact processDelimitersG_p0 true b hk
  · exact processDelimiters_p0 b hk

theorem linkX_p0 (c : XCfg) (env : Env) (st : St) (hs : P0.p st) : OKP ((linkX c).parse env st) := by
  unfold linkX
  split
  · rename_i hc
    show OKP (parseLinkG (pdX c) env st)
    have : pdX c = processDelimitersG true := by unfold pdX; rw [if_pos hc]
    rw [this]
    exact parseLinkG_p0 true env hs
  · exact ipParse_p0 env .link hs

theorem inlineTbl_p0 (c : XCfg) (inItem : Bool) (env : Env) : TblP0 env (inlineTbl c inItem) := by
  intro b ip hip st hs
  unfold inlineTbl at hip
  split at hip
  · split at hip
    · simp only [List.mem_singleton] at hip; subst hip; exact parseStrike_p0 env hs
    · cases hip
  · split at hip
    · simp only [List.mem_append, List.mem_singleton] at hip
      rcases hip with hip | hip
      · split at hip
        · simp only [List.mem_singleton] at hip; subst hip; exact parseTask_p0 inItem env hs
        · cases hip
      · subst hip; exact linkX_p0 c env st hs
    · split at hip
      · simp only [List.mem_singleton] at hip; subst hip; exact linkX_p0 c env st hs
      · unfold baseTbl at hip
        simp only [List.mem_map] at hip
        obtain ⟨ip', _, rfl⟩ := hip
        exact ipParse_p0 env ip' hs

theorem inlineTblL_p0 (c : GCfg) (inItem : Bool) (env : Env) : TblP0 env (inlineTblL c inItem) := by
  intro b ip hip st hs
  unfold inlineTblL at hip
  simp only [List.mem_append] at hip
  rcases hip with hip | hip
  · exact inlineTbl_p0 c.base inItem env b ip hip st hs
  · split at hip
    · simp only [List.mem_singleton] at hip; subst hip; exact parseLinkify_p0 env hs
    · cases hip

theorem parseBlockG_p0 (c : GCfg) (inItem : Bool) (env : Env) (src : Bytes) {segs : List Segment}
    (hz : ∀ s ∈ segs, s.padding = 0) : OKP (parseBlockG env (inlineTblL c inItem) (pdX c.base) src segs) :=
  parseBlockG_tbl_p0 env (inlineTblL_p0 c inItem env) (fun b _ hk => pdX_p0 c.base b hk) src hz

theorem parseBlockG_unpadded (c : GCfg) (inItem : Bool) (env : Env) (src : Bytes) (segs : List Segment)
    (hz : ∀ s ∈ segs, s.padding = 0) (kids : List Inl.Node)
    (h : parseBlockG env (inlineTblL c inItem) (pdX c.base) src segs = .ok kids) : ∀ s ∈ segsOfL kids, s.padding = 0 :=
  (p0_nodes_iff kids).mp (parseBlockG_p0 c inItem env src hz kids h)

end GM.Proof.ConvertXE2EPad
