/-
  GM.Proof.ShiftSimDriver — the driver of the block phase (`closeBlocks`; the candidate loop, `goto retry` and the contract
  monitor of `openBlocks`, parser.go:928-1024; one pass of the per-line loop `lineLoop`, parser.go:1081-1123) under the shift
  relation for a source `F.p ++ b`, for ANY set `Cov` of block parsers that meet the per-parser contracts (`PSim`): the
  instance `F.toX`, `side Cov = sideK Cov True True` of GM.Proof.ShiftSimXDriver (`Xs.G`). Run A's fuel and run B's fuel are unrelated (`P2`
  only speaks about runs that both end normally).
  Two variants. `…_p2`: the source ends with a line feed, `Continue` gives the full relation. `…_p2W` (contracts `PSimW`):
  no assumption on the end of the source; on a last line without `\n` fencedCodeBlockParser.Continue may call `Advance(-1)`
  (fcode_block.go:104), then only the limbo relation holds afterwards. That is harmless because a block whose `Continue`
  answers "Continue, no children" is a leaf, and a leaf block is always the LAST open block (`Leafy`, an invariant of run A
  taken from the no-panic proof GM.Proof.BlocksDriverL), so the per-line loop ends there. Both are instances of
  `lineLoop_of_coAt`, stated over what the loop needs of `Continue` at each position of the open-block stack (`CoAt`).
-/
import GM.Proof.ShiftSimRel
import GM.Proof.ShiftSimXDriver

namespace GM.Blocks.Sh
open GM GM.Text GM.Spec GM.Proof.Reader GM.Blocks

/-- the parsers in `Cov` meet the contracts -/
structure PSim (F : Frame) (b : Bytes) (Cov : BP → Prop) : Prop where
  op : ∀ bp, Cov bp → OpenSim F b bp
  co : ∀ bp, Cov bp → ContinueSim F b bp
  coEof : ∀ bp, Cov bp → ContinueEofSim F b bp
  cl : ∀ bp, Cov bp → CloseSim F b bp

/-- every open block of run A belongs to a covered parser -/
def AI (Cov : BP → Prop) (s : St) : Prop := ∀ x ∈ s.pc.opened, Cov x.bp

theorem P2.withL {α β} {Q : α → β → St → St → Prop} {R : α → St → Prop} {x y} (h : P2 Q x y)
    (hr : ∀ a sA, x = .ok (a, sA) → R a sA) : P2 (fun a b sA sB => Q a b sA sB ∧ R a sA) x y := Xs.P2.withL h hr

theorem advanceLine_limbo {F b sA sB} (h : SRLim F b sA sB) :
    P2 (fun _ _ sA' sB' => SR F b sA' sB') (advanceLine sA) (advanceLine sB) := by
  unfold GM.Blocks.advanceLine
  exact P2.ok ⟨h.2.1, h.2.2, h.1.n, h.1.c⟩

variable {F : Frame} {b : Bytes} {Cov : BP → Prop}

/-- the unary side: the covered parsers; nothing else is asked of run A -/
abbrev side (Cov : BP → Prop) : Xs.G.Side := Xs.G.sideK Cov (fun _ => True) (fun _ => True)

theorem side_ok : (side Cov).OK b :=
  Xs.G.sideK_ok (fun _ _ _ _ _ _ _ _ => trivial) (fun _ _ _ _ _ _ _ _ => trivial) (fun _ _ _ _ _ _ _ _ => trivial)
    (fun _ _ _ _ => trivial) (fun _ _ _ _ _ => trivial) (fun _ _ _ _ _ _ _ _ _ _ => trivial)

theorem PSim.toG (hP : PSim F b Cov) : Xs.G.Sim F.toX b (side Cov) where
  op := fun bp hb => openSim_toX F ▸ hP.op bp hb
  cl := fun x hx rA rB sA sB h _ =>
    (closeSim_toX F ▸ hP.cl x.bp hx : Xs.CloseSim F.toX b x.bp) x.node rA rB sA sB h

theorem closeBlocks_l2 (hP : PSim F b Cov) (frm to : Int) {rA rB : Reader} {sA sB : St} (hc : AI Cov sA)
    (h : SRL F b rA rB sA sB) :
    P2 (fun _ _ sA' sB' => SRL F b rA rB sA' sB' ∧ AI Cov sA') (closeBlocks frm to sA) (closeBlocks frm to sB) := by
  rw [← srl_toX] at h ⊢
  exact (Xs.G.closeBlocks_l2 side_ok hP.toG frm to ⟨hc, trivial⟩ h).mono fun _ _ _ _ ⟨h1, h2, _⟩ => ⟨h1, h2.1⟩

theorem closeBlocks_l (hP : PSim F b Cov) (frm to : Int) {rA rB : Reader} {sA sB : St} (hc : AI Cov sA)
    (h : SRL F b rA rB sA sB) :
    P2 (fun _ _ sA' sB' => SRL F b rA rB sA' sB') (closeBlocks frm to sA) (closeBlocks frm to sB) :=
  (closeBlocks_l2 hP frm to hc h).mono fun _ _ _ _ h => h.1

/-- the outcome of the candidate loop in run B -/
def shO (F : Frame) : TryOutcome → TryOutcome
  | .retry p => .retry (F.ι p)
  | .done => .done

/-- what one run of the candidate loop establishes (`sA0`: run A's state at its start, `resIn`: the `result` it got) -/
structure TryPost (F : Frame) (b : Bytes) (Cov : BP → Prop) (sA0 : St) (resIn : OpenResult)
    (x : TryOutcome × OpenResult × Option Block) (sA' sB' : St) : Prop where
  lim : SRLim F b sA' sB'
  ai : AI Cov sA'
  lb : ∀ l, x.2.2 = some l → Cov l.bp
  sr : ((∃ p, x.1 = .retry p) ∨ x.2.1 = .noBlocksOpened) → SR F b sA' sB'
  line : sA0.r.line ≤ sA'.r.line
  hasLine : x.2.1 = .noBlocksOpened → HasLine b sA'
  ne : x.2.1 = .newBlocksOpened → (resIn = .newBlocksOpened → sA0.pc.opened ≠ []) → sA'.pc.opened ≠ []

theorem tryParsers_p2 (hP : PSim F b Cov) (hF : F.OK) (parent : Nat) (blankLine continuable : Bool) (w : Int) :
    ∀ (bps : List BP) (result : OpenResult) (lastBlock : Option Block) (sA sB : St),
      (∀ bp ∈ bps, Cov bp) → (∀ l, lastBlock = some l → Cov l.bp) → SR F b sA sB → HasLine b sA → AI Cov sA →
      P2 (fun x y sA' sB' => y = (shO F x.1, x.2.1, x.2.2.map (shB F)) ∧ TryPost F b Cov sA result x sA' sB')
        (tryParsers parent blankLine continuable w bps result lastBlock sA)
        (tryParsers (F.ι parent) blankLine continuable w bps result (lastBlock.map (shB F)) sB) := by
  intro bps result lastBlock sA sB hb hlb h hl hc
  rw [← sr_toX] at h
  refine (Xs.G.tryParsers_p2 side_ok hP.toG (toX_ok hF) (.inl rfl) parent blankLine continuable w bps result lastBlock sA sB
    hb hlb h trivial hl ⟨hc, trivial⟩ trivial).mono fun _ _ _ _ ⟨h1, t⟩ => ⟨h1, ?_⟩
  exact ⟨srLim_toX F ▸ t.lim, t.ai.1, t.lb, fun e => sr_toX F ▸ t.sr e, t.line, fun e => (t.hasLine e).2, t.ne⟩

/-- the interface of `openBlocks` under the relation (`openBlocks_p2W` below): from weakly related states
    (BlockOffset / BlockIndent need not agree) same answer, afterwards at least the limbo relation; run A's open blocks
    stay covered, its line counter does not decrease, and `newBlocksOpened` means a block is open -/
def OpenBlocksSim (F : Frame) (b : Bytes) (Cov : BP → Prop) : Prop :=
  ∀ (parent : Nat) (blank : Bool) (sA sB : St), SRw F b sA sB → AI Cov sA →
    P2 (fun x y sA' sB' => y = x ∧ SRLim F b sA' sB' ∧ AI Cov sA' ∧ sA.r.line ≤ sA'.r.line ∧
        (x = OpenResult.newBlocksOpened → sA'.pc.opened ≠ []))
      (openBlocks parent blank sA) (openBlocks (F.ι parent) blank sB)

end GM.Blocks.Sh

namespace GM.Blocks.Sh
open GM GM.Text GM.Spec GM.Proof.Reader GM.Blocks

/-- `Continue` from related states on a line: same answer; afterwards the full relation — or, when the answer is
    "Continue, no children" (a leaf block that goes on), at least the limbo relation -/
def ContinueSimW (F : Frame) (b : Bytes) (bp : BP) : Prop := ∀ node sA sB, SR F b sA sB → HasLine b sA →
  P2 (fun x y sA' sB' => y = x ∧ SRLim F b sA' sB' ∧ ((x.cont = true ∧ x.hasChildren = false) ∨ SR F b sA' sB'))
    (bpContinue bp node sA) (bpContinue bp (F.ι node) sB)

/-- the parsers in `Cov` meet the contracts (no assumption on the end of the source) -/
structure PSimW (F : Frame) (b : Bytes) (Cov : BP → Prop) : Prop where
  op : ∀ bp, Cov bp → OpenSim F b bp
  co : ∀ bp, Cov bp → ContinueSimW F b bp
  coEof : ∀ bp, Cov bp → ContinueEofSim F b bp
  cl : ∀ bp, Cov bp → CloseSim F b bp

/-- every parser whose `Continue` can answer "Continue, no children" is a leaf parser … -/
def LeafCont (Cov : BP → Prop) : Prop := ∀ bp, Cov bp → bp.isContainer = true →
  ∀ node s s' (st : PState), bpContinue bp node s = .ok (st, s') → st.cont = true → st.hasChildren = true

/-- what is needed of `PSim` by `closeBlocks` / `tryParsers` (they only use `op` and `cl`) -/
theorem PSimW.toPSimOpCl {F : Frame} {b : Bytes} {Cov : BP → Prop} (h : PSimW F b Cov)
    (hco : ∀ bp, Cov bp → ContinueSim F b bp) : PSim F b Cov := ⟨h.op, hco, h.coEof, h.cl⟩

/-- for a source that ends with a line feed the full `Continue` contract gives the weak one -/
theorem PSim.toW {F : Frame} {b : Bytes} {Cov : BP → Prop} (h : PSim F b Cov) (hNL : NL b) : PSimW F b Cov :=
  ⟨h.op, fun bp hc node sA sB hsr hl =>
    (h.co bp hc node sA sB hsr hl hNL).mono (fun _ _ _ _ ⟨h1, h2⟩ => ⟨h1, h2.limbo, .inr h2⟩), h.coEof, h.cl⟩

end GM.Blocks.Sh

namespace GM.Blocks.Sh
open GM GM.Text GM.Spec GM.Proof.Reader GM.Blocks

variable {F : Frame} {b : Bytes} {Cov : BP → Prop}

theorem retryMeasure_eq {sA sB : St} (h : SR F b sA sB) : retryMeasure sB = retryMeasure sA := by
  rw [← sr_toX] at h
  simpa [Frame.toX] using Xs.retryMeasure_eq h

/-- the parsers that the bytes of the source (and a virtual padding space) trigger are covered -/
def Triggers (b : Bytes) (Cov : BP → Prop) : Prop :=
  (∀ bp ∈ freeParsers, Cov bp) ∧ ∀ c : UInt8, (c ∈ b ∨ c = 32) → ∀ bp ∈ (triggered c).getD freeParsers, Cov bp

/-- `Continue` at the exit `continuable:` is asked for the limbo relation only: on a line `ContinueSimW` gives it, at the
    end of the source `ContinueEofSim` -/
theorem PSim.toO (hP : PSim F b Cov) (hW : PSimW F b Cov) (hT : Triggers b Cov) : Xs.G.SimO F.toX b (side Cov) where
  toSim := hP.toG
  coLim := fun x hb _ sA sB h _ _ => by
    rw [sr_toX] at h; rw [srLim_toX]
    obtain ⟨c, hri⟩ := h.ri
    by_cases hp : c.p < b.length
    · exact (hW.co x.bp hb x.node sA sB h ⟨c, hri, hp⟩).mono fun _ _ _ _ ⟨h1, h2, _⟩ => ⟨h1, h2⟩
    · exact hW.coEof x.bp hb x.node sA sB h ⟨c, hri, hp⟩
  jQ := fun _ _ => .inl rfl
  free := hT.1
  trig := fun _ _ _ _ _ ch _ _ _ hv hidx => hT.2 ch (view_byte hv (idx_mem hidx))

theorem openBlocks_p2W (hP : PSim F b Cov) (hW : PSimW F b Cov) (hF : F.OK) (hT : Triggers b Cov) : OpenBlocksSim F b Cov := by
  intro parent blank sA sB h hc
  rw [← srw_toX] at h; rw [← srLim_toX]
  exact (Xs.G.openBlocks_p2 side_ok (hP.toO hW hT) (toX_ok hF) (.inl rfl) parent blank sA sB h ⟨hc, trivial⟩ trivial trivial
    (fun _ _ _ => trivial)).mono fun _ _ _ _ ⟨h1, h2, h3, h4, h5⟩ => ⟨h1, h2, h3.1.1, h4, h5⟩

theorem openBlocks_p2 (hP : PSim F b Cov) (hF : F.OK) (hNL : NL b) (hT : Triggers b Cov) : OpenBlocksSim F b Cov :=
  openBlocks_p2W hP (hP.toW hNL) hF hT

end GM.Blocks.Sh

namespace GM.Blocks.Sh
open GM GM.Text GM.Spec GM.Proof.Reader GM.Blocks

variable {F : Frame} {b : Bytes} {Cov : BP → Prop}

/-- what one pass of the `for i` loop over the opened blocks establishes -/
def LineQ (F : Frame) (b : Bytes) (Cov : BP → Prop) (sA : St) (rest : List Block)
    (x y : LineOutcome × List LineStat) (sA' sB' : St) : Prop :=
  y.1 = x.1 ∧ StatsRel F x.2 y.2 ∧ SRLim F b sA' sB' ∧ AI Cov sA' ∧ sA.r.line ≤ sA'.r.line ∧
    (x.1 = LineOutcome.next → rest ≠ [] → x.2 ≠ [])

/-- what the per-line loop needs of `Continue` of a block with the blocks `rest` behind it on the stack: afterwards the
    full relation, or "Continue, no children" on the last block -/
def CoAt (F : Frame) (b : Bytes) (bp : BP) (rest : List Block) : Prop := ∀ node sA sB, SR F b sA sB → HasLine b sA →
  P2 (fun x y sA' sB' => y = x ∧ SRLim F b sA' sB' ∧
      ((x.cont = true ∧ x.hasChildren = false ∧ rest = []) ∨ SR F b sA' sB'))
    (bpContinue bp node sA) (bpContinue bp (F.ι node) sB)

theorem lineLoop_of_coAt (hP : PSim F b Cov) (hO : OpenBlocksSim F b Cov)
    (parent : Nat) (openedBlocks : List Block) (lastIndex : Int) (Sfx : List Block → Prop)
    (hS : ∀ be rest, Sfx (be :: rest) → Sfx rest ∧ CoAt F b be.bp rest) :
    ∀ (rest : List Block) (i : Int) (sa sb : List LineStat) (sA sB : St),
      Sfx rest → SR F b sA sB → AI Cov sA → StatsRel F sa sb → 1 ≤ sA.r.line → i ≤ (sa.length : Int) →
      P2 (LineQ F b Cov sA rest)
        (lineLoop parent openedBlocks lastIndex rest i sa sA)
        (lineLoop (F.ι parent) (openedBlocks.map (shB F)) lastIndex (rest.map (shB F)) i sb sB) := by
  intro rest i sa sb sA sB hrest h hai hst h1 hi
  have hO' : Xs.G.OpenG F.toX b (side Cov) := by
    intro parent blank sA sB h hai _ _ _
    rw [srw_toX] at h; rw [srLim_toX]
    exact (hO parent blank sA sB h hai.1).mono
      fun _ _ _ _ ⟨h1, h2, h3, h4, h5⟩ => ⟨h1, h2, ⟨⟨h3, trivial⟩, trivial⟩, h4, h5⟩
  have hS' : ∀ be rest, Xs.G.CoAt F.toX b (side Cov) (fun r _ => Sfx r) be rest := by
    intro be rest sA sB h hs hl hi
    rw [sr_toX] at h ⊢; rw [srLim_toX]
    exact (((hS be rest hs).2 be.node sA sB h hl).withL (R := fun _ sA' => sA'.pc.opened = sA.pc.opened)
      (fun a sA' e => bpContinue_opened _ _ _ _ _ e)).mono
      fun _ _ _ _ ⟨⟨e1, e2, e3⟩, ho⟩ => ⟨e1, e2, ⟨⟨fun z hz => hi.1 z (ho ▸ hz), trivial⟩, trivial⟩,
        e3.imp id (fun h => ⟨h, trivial, fun _ _ _ => trivial, fun _ => (hS be rest hs).1⟩)⟩
  rw [← sr_toX] at h
  refine (Xs.G.lineLoop_p2 side_ok hP.toG (.inl rfl) (fun _ _ => .inl rfl) hO' parent openedBlocks lastIndex (fun r _ => Sfx r)
    (fun _ _ _ => ⟨trivial, fun _ _ _ => trivial⟩) (fun _ _ _ _ _ => trivial) (fun _ _ _ _ hm _ _ => hm) hS'
    rest i sa sb sA sB hrest h ⟨hai, trivial⟩ trivial (fun _ _ => trivial) hst h1 hi).mono
    fun _ _ _ _ ⟨q1, q2, q3, q4, q5, q6⟩ => ⟨q1, q2, srLim_toX F ▸ q3, q4.1, q5, q6⟩

theorem lineLoop_p2 (hP : PSim F b Cov) (_hF : F.OK) (hNL : NL b) (hO : OpenBlocksSim F b Cov)
    (parent : Nat) (openedBlocks : List Block) (lastIndex : Int) (hob : ∀ x ∈ openedBlocks, Cov x.bp) :
    ∀ (rest : List Block) (i : Int) (sa sb : List LineStat) (sA sB : St),
      (∀ x ∈ rest, x ∈ openedBlocks) → SR F b sA sB → AI Cov sA → StatsRel F sa sb → 1 ≤ sA.r.line →
      i ≤ (sa.length : Int) →
      P2 (LineQ F b Cov sA rest)
        (lineLoop parent openedBlocks lastIndex rest i sa sA)
        (lineLoop (F.ι parent) (openedBlocks.map (shB F)) lastIndex (rest.map (shB F)) i sb sB) := by
  refine lineLoop_of_coAt hP hO parent openedBlocks lastIndex (fun r => ∀ x ∈ r, x ∈ openedBlocks)
    (fun be rest hr => ⟨fun x hx => hr x (List.mem_cons_of_mem _ hx), fun node sA sB hsr hl => ?_⟩)
  exact (hP.co be.bp (hob be (hr be List.mem_cons_self)) node sA sB hsr hl hNL).mono
    fun _ _ _ _ ⟨e1, e2⟩ => ⟨e1, e2.limbo, .inr e2⟩

theorem lineLoop_p2W (hP : PSim F b Cov) (hW : PSimW F b Cov) (_hF : F.OK) (hO : OpenBlocksSim F b Cov)
    (parent : Nat) (openedBlocks : List Block) (lastIndex : Int) (hob : ∀ x ∈ openedBlocks, Cov x.bp)
    (hleaf : ∀ pre be rest, openedBlocks = pre ++ be :: rest → rest ≠ [] → be.bp.isContainer = true)
    (hcont : ∀ bp, Cov bp → bp.isContainer = true → ∀ node s s' (st : PState),
      bpContinue bp node s = .ok (st, s') → st.cont = true → st.hasChildren = true) :
    ∀ (rest : List Block) (i : Int) (sa sb : List LineStat) (sA sB : St),
      (∃ pre, openedBlocks = pre ++ rest) → SR F b sA sB → AI Cov sA → StatsRel F sa sb → 1 ≤ sA.r.line →
      i ≤ (sa.length : Int) →
      P2 (LineQ F b Cov sA rest)
        (lineLoop parent openedBlocks lastIndex rest i sa sA)
        (lineLoop (F.ι parent) (openedBlocks.map (shB F)) lastIndex (rest.map (shB F)) i sb sB) := by
  refine lineLoop_of_coAt hP hO parent openedBlocks lastIndex (fun r => ∃ pre, openedBlocks = pre ++ r)
    (fun be rest ⟨pre, hpre⟩ => ?_)
  have hmem : be ∈ openedBlocks := by rw [hpre]; simp
  refine ⟨⟨pre ++ [be], by rw [hpre]; simp⟩, fun node sA sB hsr hl => ?_⟩
  refine ((hW.co be.bp (hob be hmem) node sA sB hsr hl).withL (R := fun a sA' => bpContinue be.bp node sA = .ok (a, sA'))
    (fun _ _ e => e)).mono (fun x _ _ _ ⟨⟨e1, e2, e3⟩, heq⟩ => ⟨e1, e2, e3.imp_left (fun ⟨c1, c2⟩ => ⟨c1, c2, ?_⟩)⟩)
  -- a container that continues has children, so this block is a leaf, and a leaf is the last open block
  apply Classical.byContradiction
  intro hne
  have := hcont be.bp (hob be hmem) (hleaf pre be rest hpre hne) node _ _ x heq c1
  rw [c2] at this; cases this

end GM.Blocks.Sh
