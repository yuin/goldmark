/-
  GM.Proof.BlocksTNPTableTotal — the block phase of the extended composition (link reference definitions behind their run-time check, GFM tables) is total or
  answers `.pre`: the table transformer's contract (GM.Proof.BlocksTNPTable) put into `runT_totalX` (GM.Proof.BlocksTNPTotal).
-/
import GM.Proof.BlocksTNPTable
import GM.Proof.BlocksTNPTotal

namespace GM.ConvertX
open GM GM.Text GM.Blocks GM.Convert

/-- **the block phase of the extended composition (link reference definitions behind their run-time check, and GFM tables)
    returns a store** all of whose line segments lie inside the source and whose lists are well-shaped, **or answers `.pre`**
    (a run-time check / domain monitor of a transformer) — no Go panic of the driver, the block parsers or the transformers'
    tree surgery, no fuel exhaustion. With tables the hypothesis `TableNodesOK src` about GM.Table.transform's output is needed
    (see GM.Proof.BlocksTNPTable). -/
theorem blockPhaseX_total_or_pre (c : XCfg) (src : Bytes) (hT : c.table = true → L.G.X.TableNodesOK src) :
    (∃ s, blockPhaseX c true src = .ok s ∧ NodesOK src s ∧ KidsOK s) ∨ blockPhaseX c true src = .error .pre := by
  unfold blockPhaseX paragraphTransformersX
  refine GM.Blocks.T.runT_totalX src .pre _ ?_ ?_
  · refine L.G.X.ptsSpecX_append (L.G.X.ptsSpecX_of_ptsSpec (GM.Proof.LinkRefTot2.paragraphTransformers_spec src)) ?_
    by_cases hc : c.table = true
    · rw [if_pos hc]
      intro pt hpt
      simp only [List.mem_singleton] at hpt
      subst hpt
      exact L.G.X.transformPT_specX src (hT hc)
    · rw [if_neg hc]
      intro pt hpt; cases hpt
  · intro pt hpt
    rcases List.mem_append.1 hpt with h | h
    · exact GM.Proof.LinkRefPres.paragraphTransformers_ok pt h
    · by_cases hc : c.table = true
      · rw [if_pos hc] at h
        simp only [List.mem_singleton] at h
        subst h
        exact transformPT_ptok src
      · rw [if_neg hc] at h; cases h

end GM.ConvertX
