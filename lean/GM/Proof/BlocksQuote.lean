/-
  GM.Proof.BlocksQuote — `blockquote.process` (parser/blockquote.go:20-40): no panic, and PROGRESS — when it
  answers true the cursor has passed at least one byte of the source (its `>`). This is the block quote's share
  of the contract that the model's retry monitor checks (`retryMeasure`), and of C08's "a container consumes
  exactly its marker".
  In front of it, util.IndentWidth and the loop of util.IndentPositionPadding in closed form (`indentWidthGo_eq`,
  `ippLoop_passed`, `ippLoop_reach`): the facts about them in the other modules are read off these.
-/
import GM.Proof.BlocksTotal
import GM.Proof.ReaderFuel

namespace GM.Blocks
open GM GM.Text GM.Spec GM.Proof.Reader

theorem tabWidthI_pos (p : Int) : 1 ≤ tabWidthI p := by
  unfold tabWidthI
  have := Int.tmod_lt_of_pos p (show (0 : Int) < 4 by decide)
  omega

/-- the spaces and tabs a line begins with -/
abbrev indentOf (bs : Bytes) : Bytes := bs.takeWhile fun b => b == 32 || b == 9

/-- `IndentWidth` in closed form: it passes exactly the spaces and tabs in front; each is at least one column, and
    exactly one when there is no tab among them (only a tab's width depends on `cur`). -/
theorem indentWidthGo_eq (cur : Int) (bs : Bytes) (w p : Int) :
    (indentWidthGo cur bs w p).2 = p + (indentOf bs).length ∧
    w + (indentOf bs).length ≤ (indentWidthGo cur bs w p).1 ∧
    ((∀ c ∈ indentOf bs, c ≠ 9) → (indentWidthGo cur bs w p).1 = w + (indentOf bs).length) := by
  induction bs generalizing w p with
  | nil => simp [indentWidthGo]
  | cons b bs ih =>
    unfold indentWidthGo
    by_cases h32 : b = 32
    · subst h32
      obtain ⟨i1, i2, i3⟩ := ih (w + 1) (p + 1)
      simp only [beq_self_eq_true, if_true, indentOf, List.takeWhile_cons, Bool.true_or, List.length_cons, List.mem_cons,
        forall_eq_or_imp] at i1 i2 i3 ⊢
      exact ⟨by omega, by omega, fun h => by have := i3 h.2; omega⟩
    · by_cases h9 : b = 9
      · subst h9
        obtain ⟨i1, i2, _⟩ := ih (w + tabWidthI (cur + w)) (p + 1)
        have := tabWidthI_pos (cur + w)
        simp only [show ((9 : UInt8) == 32) = false by decide, Bool.false_eq_true, if_false, beq_self_eq_true, if_true,
          indentOf, List.takeWhile_cons, Bool.or_true, List.length_cons, List.mem_cons, forall_eq_or_imp] at i1 i2 ⊢
        exact ⟨by omega, by omega, fun h => absurd rfl h.1⟩
      · simp [h32, h9, indentOf]

theorem indentWidthI_eq (bs : Bytes) (cur : Int) :
    (indentWidthI bs cur).2 = (indentOf bs).length ∧ ((indentOf bs).length : Int) ≤ (indentWidthI bs cur).1 ∧
    ((∀ c ∈ indentOf bs, c ≠ 9) → (indentWidthI bs cur).1 = (indentOf bs).length) := by
  simpa [indentWidthI] using indentWidthGo_eq cur bs 0 0

theorem indentWidthI_bounds (bs : Bytes) (cur : Int) :
    0 ≤ (indentWidthI bs cur).2 ∧ (indentWidthI bs cur).2 ≤ bs.length := by
  have := (List.takeWhile_sublist (l := bs) fun b => b == 32 || b == 9).length_le
  rw [(indentWidthI_eq bs cur).1]; unfold indentOf; omega

theorem indentWidthI_nonneg (bs : Bytes) (cur : Int) : 0 ≤ (indentWidthI bs cur).1 := by
  have := (indentWidthI_eq bs cur).2.1; omega

/-- the bytes `IndentWidth` passes are spaces and tabs -/
theorem indentWidthI_passed (bs : Bytes) (cur : Int) (i : Nat) (h : (i : Int) < (indentWidthI bs cur).2) :
    ∃ x, bs[i]? = some x ∧ (x = 32 ∨ x = 9) := by
  rw [(indentWidthI_eq bs cur).1] at h
  have hi : i < (indentOf bs).length := by omega
  have hl := (List.takeWhile_sublist (l := bs) fun b => b == 32 || b == 9).length_le
  refine ⟨bs[i]'(by unfold indentOf at hi; omega), List.getElem?_eq_getElem _, ?_⟩
  have := List.all_eq_true.mp (List.all_takeWhile (l := bs) (p := fun b => b == 32 || b == 9)) _ (List.getElem_mem hi)
  rw [(List.takeWhile_prefix _).getElem hi] at this
  simpa using this

/-- `IndentPosition`'s loop (no padding) adds up the same widths as `IndentWidth`, and stops as soon as `width` is
    reached: whenever the indent of the line is at least `width`, the loop reaches `width` -/
theorem ippLoop_reach (cur width : Int) : ∀ (bs : Bytes) (i p w p0 : Int), p ≤ 0 →
    width ≤ (indentWidthGo cur bs w p0).1 → width ≤ (ippLoop cur width bs i p w).2 := by
  intro bs
  induction bs with
  | nil => intro i p w p0 _ h; simpa [ippLoop, indentWidthGo] using h
  | cons b bs ih =>
    intro i p w p0 hp h
    unfold ippLoop
    unfold indentWidthGo at h
    have hn : ¬ p > 0 := by omega
    rw [if_neg hn]
    by_cases hw : w < width
    · by_cases h9 : (b == 9) = true
      · have e : b = 9 := by simpa using h9
        subst e
        have h1 : ((9 : UInt8) == 32) = false := by decide
        simp only [h1, Bool.false_eq_true, if_false, beq_self_eq_true, if_true] at h
        simp only [beq_self_eq_true, Bool.true_and, decide_eq_true_eq, hw, if_true]
        exact ih _ _ _ _ hp h
      · by_cases h32 : (b == 32) = true
        · have e : b = 32 := by simpa using h32
          subst e
          simp only [beq_self_eq_true, if_true] at h
          have h1 : ((32 : UInt8) == 9) = false := by decide
          simp only [h1, Bool.false_and, Bool.false_eq_true, if_false, beq_self_eq_true, Bool.true_and,
            decide_eq_true_eq, hw, if_true]
          exact ih _ _ _ _ hp h
        · rw [if_neg h32, if_neg h9] at h
          simp only at h; omega
    · have e1 : (b == 9 && decide (w < width)) = false := by simp [hw]
      have e2 : (b == 32 && decide (w < width)) = false := by simp [hw]
      simp only [e1, e2, Bool.false_eq_true, if_false]
      omega

/-- where the loop of `IndentPositionPadding` stops: it passes `n` bytes — those under the virtual padding `p` whatever they
    are, behind them only spaces and tabs — and when it passes none the width is what it was -/
theorem ippLoop_passed (cur width : Int) (bs : Bytes) (i p w : Int) :
    ∃ n : Nat, (ippLoop cur width bs i p w).1 = i + n ∧ n ≤ bs.length ∧
      (∀ k : Nat, p ≤ k → k < n → ∃ x, bs[k]? = some x ∧ (x = 32 ∨ x = 9)) ∧
      (n = 0 → (ippLoop cur width bs i p w).2 = w) ∧ (0 ≤ p → p ≤ bs.length → p ≤ n) := by
  induction bs generalizing i p w with
  | nil => exact ⟨0, by simp [ippLoop], Nat.le_refl _, fun k _ hk => by omega, fun _ => rfl, fun h0 h1 => by simpa using h1⟩
  | cons b bs ih =>
    -- one more byte passed: `b` is under the padding, or a tab or space behind it
    have step (p' w' : Int) (hp : 0 < p ∧ p' = p - 1 ∨ p ≤ 0 ∧ p' = p ∧ (b = 32 ∨ b = 9)) :
        ∃ n : Nat, (ippLoop cur width bs (i + 1) p' w').1 = i + n ∧ n ≤ (b :: bs).length ∧
          (∀ k : Nat, p ≤ k → k < n → ∃ x, (b :: bs)[k]? = some x ∧ (x = 32 ∨ x = 9)) ∧
          (n = 0 → (ippLoop cur width bs (i + 1) p' w').2 = w) ∧ (0 ≤ p → p ≤ (b :: bs).length → p ≤ n) := by
      obtain ⟨n, e, hn, hpass, _, hpad⟩ := ih (i + 1) p' w'
      simp only [List.length_cons]
      refine ⟨n + 1, by omega, by omega, fun k hk hkn => ?_, fun h => by omega, fun h0 h1 => ?_⟩
      · cases k with
        | zero => exact ⟨b, rfl, hp.elim (fun hp => by omega) fun hp => hp.2.2⟩
        | succ k => rw [List.getElem?_cons_succ]; exact hpass k (by rcases hp with hp | hp <;> omega) (by omega)
      · rcases hp with hp | hp
        · have := hpad (by omega) (by omega); omega
        · omega
    unfold ippLoop
    split
    · next h => exact step _ _ (.inl ⟨h, rfl⟩)
    · next h =>
      split
      · next h9 =>
        simp only [Bool.and_eq_true, beq_iff_eq] at h9
        exact step _ _ (.inr ⟨by omega, rfl, .inr h9.1⟩)
      · split
        · next h32 =>
          simp only [Bool.and_eq_true, beq_iff_eq] at h32
          exact step _ _ (.inr ⟨by omega, rfl, .inl h32.1⟩)
        · exact ⟨0, by simp, Nat.zero_le _, fun k _ hk => by omega, fun _ => rfl, fun h0 _ => by omega⟩

theorem idx_ok (l : Bytes) (i : Int) (h0 : 0 ≤ i) (h1 : i < l.length) :
    ∃ b, idx l i = .ok b ∧ l[i.toNat]? = some b := by
  unfold idx getByte
  have hn : ¬ i < 0 := by omega
  rw [if_neg hn]
  have hlt : i.toNat < l.length := by omega
  rw [List.getElem?_eq_getElem hlt]
  exact ⟨_, rfl, rfl⟩

theorem spaces_getElem (k : Nat) (rest : Bytes) (i : Nat) (h : i < k) : (spaces k ++ rest)[i]? = some 32 := by
  unfold spaces
  rw [List.getElem?_append_left (by simpa using h)]
  simp [h]

/-- blockquoteParser.process: total on an `RI` reader; `true` means the cursor moved past a byte -/
theorem blockquoteProcess_okl {src} {s : St} {c : RCur} (h : RI src s.r c) :
    OKL (fun b s' => ∃ r' c', s' = { s with r := r' } ∧ RI src r' c' ∧ c.p ≤ c'.p ∧
        (b = true → c.p < c'.p) ∧ (b = false → c' = c)) (blockquoteProcess s) := by
  unfold blockquoteProcess
  refine OKL.bind (peekLine_okl h) (fun x s1 hx => ?_)
  obtain ⟨hx, r1, hs1, h1⟩ := hx
  subst hx hs1
  simp only
  refine OKL.bind (lineOffset_okl (s := { s with r := r1 }) h1) (fun lo s2 hlo => ?_)
  obtain ⟨_, r2, hs2, h2⟩ := hlo
  subst hs2
  simp only
  generalize hline : (RCur.view src c).getD [] = line
  have hb := indentWidthI_bounds line lo
  generalize hpos : (indentWidthI line lo).2 = pos at hb ⊢
  generalize hw : (indentWidthI line lo).1 = w
  by_cases hc1 : (decide (w > 3) || decide (pos ≥ (line.length : Int))) = true
  · rw [if_pos hc1]
    exact OKL.ok ⟨r2, c, rfl, h2, Nat.le_refl _, (fun hh => by cases hh), fun _ => rfl⟩
  · rw [if_neg hc1]
    have hposlt : pos < line.length := by
      rcases Int.lt_or_le pos line.length with hh | hh
      · exact hh
      · exfalso; apply hc1; simp [hh]
    obtain ⟨b0, hb0, hb0'⟩ := idx_ok line pos hb.1 hposlt
    refine OKL.bind (liftE_okl (P := fun a s' => a = b0 ∧ s' = { s with r := r2 }) hb0 ⟨rfl, rfl⟩) (fun a s3 ha => ?_)
    obtain ⟨ha, hs3⟩ := ha
    subst ha hs3
    by_cases hc2 : (a != 62) = true
    · rw [if_pos hc2]
      exact OKL.ok ⟨r2, c, rfl, h2, Nat.le_refl _, (fun hh => by cases hh), fun _ => rfl⟩
    · rw [if_neg hc2]
      have ha62 : a = 62 := by simpa using hc2
      -- the line is there, and the `>` is behind the padding
      have hp : c.p < src.length := by
        rcases Nat.lt_or_ge c.p src.length with hp | hp
        · exact hp
        · rw [view_none src c (by omega)] at hline
          simp at hline; subst hline; simp at hposlt; omega
      have hpad : (c.pad : Int) ≤ pos := by
        rcases Int.lt_or_le pos c.pad with hlt | hge
        · exfalso
          rw [view_eq src c hp] at hline
          simp only [Option.getD_some] at hline
          subst hline
          have := spaces_getElem c.pad (sub src c.p (lineEnd src c.p)) pos.toNat (by omega)
          rw [this] at hb0'
          cases hb0'
          cases ha62
        · exact hge
      have hadv : 0 ≤ pos + 1 := by omega
      have hprog : c.p < (RCur.advN src (pos + 1).toNat c).p :=
        GM.Proof.Reader.advN_progress src _ c hp (by omega)
      by_cases hc3 : (pos + 1 ≥ (line.length : Int))
      · rw [if_pos (by simpa using hc3)]
        refine OKL.bind (advance_okl (s := { s with r := r2 }) h2 hadv) (fun _ s4 h4 => ?_)
        obtain ⟨r4, hs4, h4⟩ := h4
        subst hs4
        exact OKL.ok ⟨r4, _, rfl, h4, Nat.le_of_lt hprog, fun _ => hprog, (fun hh => by cases hh)⟩
      · rw [if_neg (by simpa using hc3)]
        obtain ⟨b1, hb1, _⟩ := idx_ok line (pos + 1) (by omega) (by omega)
        refine OKL.bind (liftE_okl (P := fun a s' => a = b1 ∧ s' = { s with r := r2 }) hb1 ⟨rfl, rfl⟩) (fun a1 s5 ha1 => ?_)
        obtain ⟨ha1, hs5⟩ := ha1
        subst ha1 hs5
        by_cases hc4 : (a1 == 10) = true
        · rw [if_pos hc4]
          refine OKL.bind (advance_okl (s := { s with r := r2 }) h2 hadv) (fun _ s4 h4 => ?_)
          obtain ⟨r4, hs4, h4⟩ := h4
          subst hs4
          exact OKL.ok ⟨r4, _, rfl, h4, Nat.le_of_lt hprog, fun _ => hprog, (fun hh => by cases hh)⟩
        · rw [if_neg hc4]
          refine OKL.bind (advance_okl (s := { s with r := r2 }) h2 hadv) (fun _ s4 h4 => ?_)
          obtain ⟨r4, hs4, h4⟩ := h4
          subst hs4
          by_cases hc5 : (a1 == 32 || a1 == 9) = true
          · rw [if_pos hc5]
            have hmono : ∀ p : Int, (RCur.advN src (pos + 1).toNat c).p ≤ (advPadCur src 1 p (RCur.advN src (pos + 1).toNat c)).p := by
              intro p
              have := (GM.Proof.Reader.advN_mono src (1 : Int).toNat (RCur.advN src (pos + 1).toNat c) h4.inRange).1
              unfold advPadCur
              simp only
              split <;> simpa using this
            by_cases hc6 : (a1 == 9) = true
            · simp only [hc6, if_true]
              refine OKL.bind (lineOffset_okl (s := { s with r := r4 }) h4) (fun lo2 s6 h6 => ?_)
              obtain ⟨_, r6, hs6, h6⟩ := h6
              subst hs6
              refine OKL.bind (m := Pure.pure (tabWidthI lo2 - 1)) (P := fun a s' => s' = { s with r := r6 }) (OKL.ok rfl) (fun pd s7 h7 => ?_)
              subst h7
              refine OKL.bind (advanceAndSetPadding_okl (s := { s with r := r6 }) h6 (by decide) pd) (fun _ s8 h8 => ?_)
              obtain ⟨r8, hs8, h8⟩ := h8
              subst hs8
              have := hmono pd
              exact OKL.ok ⟨r8, _, rfl, h8, by omega, (fun _ => by omega), (fun hh => by cases hh)⟩
            · simp only [hc6, Bool.false_eq_true, if_false]
              refine OKL.bind (m := Pure.pure (0 : Int)) (P := fun a s' => s' = { s with r := r4 }) (OKL.ok rfl) (fun pd s7 h7 => ?_)
              subst h7
              refine OKL.bind (advanceAndSetPadding_okl (s := { s with r := r4 }) h4 (by decide) pd) (fun _ s8 h8 => ?_)
              obtain ⟨r8, hs8, h8⟩ := h8
              subst hs8
              have := hmono pd
              exact OKL.ok ⟨r8, _, rfl, h8, by omega, (fun _ => by omega), (fun hh => by cases hh)⟩
          · rw [if_neg hc5]
            exact OKL.ok ⟨r4, _, rfl, h4, Nat.le_of_lt hprog, fun _ => hprog, (fun hh => by cases hh)⟩

end GM.Blocks
