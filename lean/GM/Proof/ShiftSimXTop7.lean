/-
  GM.Proof.ShiftSimXTop7 — one pass of `lineLoop` over a stack of attached `Cov6` blocks, for any reader invariant `J`
  with the closure properties listed in section `j`: the first open block stays the Document's last child and every
  open block is attached and `Cov6` again (`top_att_lineLoopJ`). `topLast_lineLoop6`, `att_lineLoop6`,
  `att_openBlocks0`: `Plain6` sources, with `J` = the reader invariant `∃ c, RI src r c`.
-/
import GM.Proof.ShiftSimXTop6
import GM.Proof.IndepEnd
import GM.Proof.ShiftSimListB
import GM.Proof.ShiftSimXOpens

namespace GM.Blocks.Xs
open GM GM.Text GM.Spec GM.Proof.Reader GM.Blocks GM.Blocks.L
open GM.Blocks.Sh (K KS bind_ok_inv liftE_ok_inv a2_getNode_inv a2_getPc_inv a2_modPc_inv a2_lastOpenedBlock_inv llOpen llFall llBody ll_lineLoop_cons)

theorem h7_blockAt_tail {b0 : Block} {l : List Block} {j : Int} {b : Block} (h : blockAt (b0 :: l) j = .ok b)
    (hj : 1 ≤ j) : b ∈ l := by
  unfold blockAt at h
  rw [if_neg (by omega)] at h
  obtain ⟨n, hn⟩ : ∃ n, j.toNat = n + 1 := ⟨j.toNat - 1, by omega⟩
  rw [hn, List.getElem?_cons_succ] at h
  cases hg : l[n]? with
  | none => rw [hg] at h; cases h
  | some y => rw [hg] at h; cases h; exact List.mem_of_getElem? hg

theorem h7_blockAt_get {l : List Block} {j : Int} {b : Block} (h : blockAt l j = .ok b) :
    0 ≤ j ∧ l[j.toNat]? = some b := by
  unfold blockAt at h
  by_cases hj : j < 0
  · rw [if_pos hj] at h; cases h
  · rw [if_neg hj] at h
    cases hg : l[j.toNat]? with
    | none => rw [hg] at h; cases h
    | some y => rw [hg] at h; cases h; exact ⟨by omega, rfl⟩

theorem h7_blockAt_left {l m : List Block} {j : Int} {b : Block} (h : blockAt (l ++ m) j = .ok b)
    (hj : j < l.length) : b ∈ l := by
  obtain ⟨h0, hg⟩ := h7_blockAt_get h
  rw [List.getElem?_append_left (by omega)] at hg
  exact List.mem_of_getElem? hg

/-- every open block is attached and `Cov6` -/
def AttAll (t : St) : Prop := ∀ z ∈ t.pc.opened, (nd t z.node).parent.isSome = true ∧ Cov6 z.bp

theorem a8_sep (l : List Block) (hinc : (l.map (fun z : Block => z.node)).Pairwise (· < ·)) (n : Nat) :
    ∀ z ∈ l.take n, ∀ b ∈ l.drop n, z.node < b.node := by
  intro z hz b hb
  have h := hinc
  rw [← List.take_append_drop n l, List.map_append, List.pairwise_append] at h
  exact h.2.2 z.node (List.mem_map.2 ⟨z, hz, rfl⟩) b.node (List.mem_map.2 ⟨b, hb, rfl⟩)

/-- at the levels of a pass: the stack is still `b0 :: rest`, all of it attached and `Cov6`, and `b0`'s node is the
    Document's last child -/
def M6 (b0 : Block) (rest : List Block) (t : St) : Prop :=
  K t ∧ t.pc.opened = b0 :: rest ∧ (∀ x ∈ b0 :: rest, (nd t x.node).parent.isSome = true ∧ Cov6 x.bp) ∧
    tl_Last b0.node t

theorem M6.links {b0 : Block} {rest : List Block} {t t' : St} (h : M6 b0 rest t) (k : K t') (lk : LinksKept t t')
    (ho : t'.pc.opened = t.pc.opened) : M6 b0 rest t' := by
  obtain ⟨hk, e1, hatt, hl⟩ := h
  refine ⟨k, ho.trans e1, fun x hx => ?_, ?_⟩
  · rw [(lk.2.1 x.node (hk.opened x (e1 ▸ hx)).2).1]
    exact hatt x hx
  · show (nd t' 0).children.getLast? = _
    rw [(lk.2.1 0 hk.doc.1).2]
    exact hl

theorem M6.top {b0 : Block} {rest : List Block} {t : St} (h : M6 b0 rest t) : TopLast t := by
  intro b hb
  rw [h.2.1] at hb
  cases hb
  exact h.2.2.2


theorem M6.att {b0 : Block} {rest : List Block} {t : St} (h : M6 b0 rest t) : AttAll t :=
  fun z hz => h.2.2.1 z (h.2.1 ▸ hz)

theorem h7_hne {b0 : Block} {rest : List Block}
    (hinc : ((b0 :: rest).map (fun z : Block => z.node)).Pairwise (· < ·)) : ∀ z ∈ rest, z.node ≠ b0.node := by
  intro z hz
  have : b0.node < z.node := (List.pairwise_cons.1 hinc).1 z.node (List.mem_map.2 ⟨z, hz, rfl⟩)
  omega

section j
variable {J : St → Prop} (hJr : ∀ t t' : St, J t → t'.r = t.r → J t')
  (hJo : ∀ bp, Cov6 bp → ∀ (p : Nat) (s : St) (x : Option Nat × PState) (s' : St), J s → bpOpen bp p s = .ok (x, s') →
    (x.1 = none ∨ x.2.hasChildren = true) → J s')
  (hJlo : Keeps J lineOffset)
  (hJpk : ∀ (t : St) lp t1, J t → peekLine t = .ok (lp, t1) → J t1)
  (hfree : ∀ bp ∈ freeParsers, Cov6 bp)
  (hJtrig : ∀ (t t1 : St) (lp : Option Bytes × Segment) (l : Bytes) (lo : Int) (ch : UInt8), J t →
    peekLine t = .ok (lp, t1) → lp.1 = some l → idx l (indentWidthI l lo).2 = .ok ch →
    ∀ bp ∈ (triggered ch).getD freeParsers, Cov6 bp)
include hJr hJo hJlo hJpk hfree hJtrig

/-- the step of a pass that opens blocks at level `i` (below the Document, or below the block of level `i - 1`) and closes
    the old blocks from level `i` on -/
theorem h7_llOpen (b0 : Block) (rest : List Block)
    (hinc : ((b0 :: rest).map (fun z : Block => z.node)).Pairwise (· < ·)) (i : Int) (p : Nat)
    (blank : Bool) (bl : List LineStat) (t t' : St) (x : LineOutcome × List LineStat) (hj : J t)
    (hm : M6 b0 rest t)
    (hcase : (i = 0 ∧ p = 0) ∨ (0 < i ∧ ∃ b, blockAt (b0 :: rest) (i - 1) = .ok b ∧ p = b.node))
    (h : llOpen (b0 :: rest) (((b0 :: rest).length : Int) - 1) i blank bl p t = .ok (x, t')) : TopLast t' ∧ AttAll t' := by
  have hne := h7_hne hinc
  obtain ⟨hk, ho, hatt, hl⟩ := hm
  unfold llOpen at h
  obtain ⟨lastNode, u1, g1, gA⟩ := bind_ok_inv h
  obtain ⟨elast, e1⟩ := liftE_ok_inv g1
  rw [e1] at gA
  obtain ⟨r, t1, g2, gB⟩ := bind_ok_inv gA
  have hi0 : 0 ≤ i ∧ i.toNat ≤ (b0 :: rest).length := by
    rcases hcase with ⟨rfl, _⟩ | ⟨hi, b, hb, _⟩
    · exact ⟨Int.le_refl 0, Nat.zero_le _⟩
    · obtain ⟨_, hg⟩ := h7_blockAt_get hb
      have : (i - 1).toNat < (b0 :: rest).length := by
        rcases Nat.lt_or_ge (i - 1).toNat (b0 :: rest).length with hh | hh
        · exact hh
        · rw [List.getElem?_eq_none hh] at hg; cases hg
      exact ⟨by omega, by omega⟩
  have hp0 : p < t.nodes.length := by
    rcases hcase with ⟨_, rfl⟩ | ⟨_, b, hb, rfl⟩
    · exact hk.doc.1
    · exact (hk.opened b (ho ▸ Sh.blockAt_mem hb)).2
  obtain ⟨q, hw⟩ := h6_openBlocks hJr hJo hJlo hJpk hfree hJtrig p blank t t1 r hj hk (fun y hy => hatt y (ho ▸ hy)) hp0 g2
  rw [ho] at hw
  have hb0lt : b0.node < t.nodes.length := (hk.opened b0 (by rw [ho]; exact List.mem_cons_self)).2
  obtain ⟨hk1, hattc, hL, _, new, e1, e2, e3, e4⟩ := id hw
  by_cases hr : (r != OpenResult.paragraphContinuation) = true
  · rw [if_pos hr] at gB
    obtain ⟨pc, u2, g3, gC⟩ := bind_ok_inv gB
    obtain ⟨epc, e3'⟩ := a2_getPc_inv g3
    subst e3'
    subst epc
    obtain ⟨_, t2, g4, gD⟩ := bind_ok_inv gC
    cases gD
    -- the last old block is still in its slot: `closeBlocks` runs from the last old level
    obtain ⟨_, hget⟩ := h7_blockAt_get elast
    have hlt : ((((b0 :: rest).length : Int) - 1)).toNat < (b0 :: rest).length := by
      rcases Nat.lt_or_ge ((((b0 :: rest).length : Int) - 1)).toNat (b0 :: rest).length with hh | hh
      · exact hh
      · rw [List.getElem?_eq_none hh] at hget; cases hget
    have hslot : slotAfter (b0 :: rest) u2.pc.opened ((((b0 :: rest).length : Int) - 1)).toNat = some lastNode := by
      unfold slotAfter
      rw [e1, List.getElem?_append_left hlt, hget]
    rw [hslot] at g4
    have hfrm : ((Option.map (fun x : Block => x.node) (some lastNode) != some lastNode.node) = true) = False := by
      simp
    simp only [hfrm, if_false] at g4
    obtain ⟨_, est⟩ := closeBlocks_opened _ _ _ _ g4
    have hst : t'.pc.opened = (b0 :: rest).take i.toNat ++ new := by
      rw [est, e1, List.take_append_of_le_length hi0.2]
      have : ((((b0 :: rest).length : Int) - 1) + 1).toNat = (b0 :: rest).length := by omega
      rw [this]
      simp
    refine ⟨?_, fun z hz => ?_⟩
    · rcases hcase with ⟨rfl, rfl⟩ | ⟨hi, b, hb, rfl⟩
      · -- level 0: the first new block, if any, has become the Document's last child
        have hst0 : t'.pc.opened = new := by rw [hst]; rfl
        cases new with
        | nil =>
          intro b hb
          rw [hst0] at hb
          cases hb
        | cons n0 more =>
          have hl1 : tl_Last n0.node u2 := by
            show (nd u2 0).children.getLast? = _
            rw [e3]
            simp [w6D]
          have hl2 := h6_closeBlocks (z := n0.node) _ 0 u2 t' _ (fun j b h1 h2 h3 => by
            rw [e1] at h3
            have hbm : b ∈ b0 :: rest := h7_blockAt_left (l := b0 :: rest) h3 (by omega)
            refine ⟨(hatt b hbm).2, ?_⟩
            have := (hk.opened b (ho ▸ hbm)).2
            have := e2 n0 List.mem_cons_self
            omega) hl1 g4
          intro b hb
          rw [hst0] at hb
          cases hb
          exact hl2
      · -- level i > 0: `b0` stays
        have hp : 0 < b.node := (hk.opened b (ho ▸ Sh.blockAt_mem hb)).1
        obtain ⟨_, hl1, hh1⟩ := hw.topLast_pos hp b0 rest rfl hl
        have hl2 := h6_closeBlocks (z := b0.node) _ i u2 t' _ (fun j c h1 _ h3 => by
          refine ⟨(hattc c (Sh.blockAt_mem h3)).2, ?_⟩
          rw [e1] at h3
          have hm : c ∈ rest ++ new := h7_blockAt_tail h3 (by omega)
          rcases List.mem_append.1 hm with hm | hm
          · exact hne c hm
          · have := e2 c hm
            omega) hl1 g4
        intro c hc
        rw [hst] at hc
        obtain ⟨n, hn⟩ : ∃ n, i.toNat = n + 1 := ⟨i.toNat - 1, by omega⟩
        rw [hn] at hc
        have hc' : some b0 = some c := hc
        cases hc'
        exact hl2
    · -- a block that stays is not among the closed ones: older than them, or new
      rw [hst] at hz
      have hz1 : z ∈ u2.pc.opened := by
        rw [e1]
        rcases List.mem_append.1 hz with hz | hz
        · exact List.mem_append_left _ (List.mem_of_mem_take hz)
        · exact List.mem_append_right _ hz
      refine ⟨?_, (hattc z hz1).2⟩
      refine p6_closeBlocks (a := z.node) _ i u2 t' _ (fun j b h1 h2 h3 => ?_) (hattc z hz1).1 g4
      refine ⟨(hattc b (Sh.blockAt_mem h3)).2, ?_⟩
      rw [e1] at h3
      obtain ⟨_, hg⟩ := h7_blockAt_get h3
      have hjl : j.toNat < (b0 :: rest).length := by omega
      rw [List.getElem?_append_left hjl] at hg
      have hbm : b ∈ b0 :: rest := List.mem_of_getElem? hg
      have hbd : b ∈ (b0 :: rest).drop i.toNat := by
        have : ((b0 :: rest).drop i.toNat)[j.toNat - i.toNat]? = some b := by
          rw [List.getElem?_drop]
          have : i.toNat + (j.toNat - i.toNat) = j.toNat := by omega
          rw [this]; exact hg
        exact List.mem_of_getElem? this
      rcases List.mem_append.1 hz with hz | hz
      · have := a8_sep (b0 :: rest) hinc i.toNat z hz b hbd
        omega
      · have := e2 z hz
        have := (hk.opened b (ho ▸ hbm)).2
        omega
  · rw [if_neg hr] at gB
    cases gB
    have hr' : r = OpenResult.paragraphContinuation := by simpa using hr
    have ho1 := openBlocks_opened p blank t r t' g2 (by rw [hr']; intro hh; cases hh)
    have hnew : new = [] := by
      rw [ho1, ho] at e1
      exact List.self_eq_append_right.1 e1
    subst hnew
    refine ⟨fun c hc => ?_, hattc⟩
    rw [ho1, ho] at hc
    cases hc
    show (nd t' 0).children.getLast? = _
    rw [e3]
    exact hl

/-- a pass of `lineLoop` from a stable state whose open blocks are attached and `Cov6`: afterwards the first open block
    is the Document's last child, and every open block is attached and `Cov6`. Only the innermost block may be a leaf
    (`Sh.leaf_of_stable`), so a `Continue` that answers "continue, no children" ends the descent. -/
theorem top_att_lineLoopJ {src : Bytes} (hJc : ∀ bp, Cov6 bp → ∀ (n : Nat) (s : St) (st : PState) (s' : St), J s → bpContinue bp n s = .ok (st, s') →
      (st.cont = false ∨ st.hasChildren = true) → J s') (b0 : Block)
    (rest : List Block) (s s' : St) (bl : List LineStat) (x : LineOutcome × List LineStat) (hk : K s)
    (htop : TopLast s) (hop : s.pc.opened = b0 :: rest) (hcov : ∀ z ∈ b0 :: rest, Cov6 z.bp) (hj : J s)
    (hst : StableL src 0 s) (hatt : ∀ z ∈ b0 :: rest, (nd s z.node).parent.isSome = true)
    (h : lineLoop 0 (b0 :: rest) (((b0 :: rest).length : Int) - 1) (b0 :: rest) 0 bl s = .ok (x, s')) :
    TopLast s' ∧ AttAll s' := by
  have hinc : ((b0 :: rest).map (fun z : Block => z.node)).Pairwise (· < ·) := by
    have := hst.ls.incr
    rw [hop] at this
    exact (List.pairwise_cons.1 this).2
  have hleaf := fun pre be rem e hr => Sh.leaf_of_stable hst pre be rem (hop.trans e) hr
  refine lineLoop_levels (H := fun t => J t ∧ M6 b0 rest t) (Q := fun t => TopLast t ∧ AttAll t) (b0 :: rest)
    (fun _ hh => hh.2.2.1)
    (fun t e => ⟨fun b hb => (by rw [e] at hb; cases hb), fun b hb => (by rw [e] at hb; cases hb)⟩)
    (fun _ hh => ⟨hh.2.top, hh.2.att⟩) (fun t lp t1 hh e => ?_) (fun pre be rem e t st t4 hh h4 => ?_)
    (fun be hbe blank t4 t5 r hh h5 => ?_)
    (fun i p blank bl t t' x hh hc e => h7_llOpen hJr hJo hJlo hJpk hfree hJtrig b0 rest hinc i p blank bl t t' x hh.1 hh.2 hc e)
    (b0 :: rest) 0 bl s s' x ⟨hj, hk, hop, fun z hz => ⟨hatt z hz, hcov z hz⟩, htop b0 (by rw [hop]; rfl)⟩
    (Int.le_refl 0) ⟨[], rfl⟩ h
  · obtain ⟨r', rfl⟩ := tl_peekLine_inv e
    exact ⟨hJpk t lp _ hh.1 e,
      hh.2.links (Sh.a2_KS_same (s' := { t with r := r' }) hh.2.1 ⟨rfl, rfl⟩).1 (LinksKept.of_nodes rfl) rfl⟩
  · have hbe : be ∈ b0 :: rest := by rw [e]; simp
    have hbn := hh.2.1.opened be (hh.2.2.1 ▸ hbe)
    have hm4 : M6 b0 rest t4 := hh.2.links (Sh.a2_bpContinue_KS be.bp be.node hbn.1 _ _ _ hh.2.1 h4).1
      ((bpContinue_frl be.bp be.node).h _ _ _ h4) (bpContinue_opened be.bp be.node _ _ _ h4)
    have hcovbe := (hh.2.2.2.1 be hbe).2
    by_cases hgo : st.cont = false ∨ st.hasChildren = true
    · exact Or.inl ⟨hJc be.bp hcovbe be.node _ _ _ hh.1 h4 hgo, hm4⟩
    · have hcont : st.cont = true := by cases hc : st.cont <;> simp [hc] at hgo ⊢
      have hch : ¬ st.hasChildren = true := fun hc => hgo (Or.inr hc)
      cases rem with
      | nil => exact Or.inr ⟨hcont, Bool.eq_false_iff.2 hch, rfl, hm4.top, hm4.att⟩
      | cons c cs =>
        -- among the `Cov6` containers only a blockquote continues, and it answers `hasChildren`
        exfalso
        have hcn := hleaf pre be (c :: cs) e (List.cons_ne_nil _ _)
        have hbq : be.bp = .blockquote := by
          have h6c := hcovbe
          cases hbp : be.bp <;> rw [hbp] at hcn h6c <;>
            first | rfl | (cases hcn; done) | exact absurd rfl h6c.1 | exact absurd rfl h6c.2.1
        rw [hbq] at h4
        exact hch (Sh.blockquoteContinue_cont be.node _ _ _ h4 hcont)
  · have hbn4 := hh.2.1.opened be (hh.2.2.1 ▸ hbe)
    obtain ⟨q, hw⟩ := h6_openBlocks hJr hJo hJlo hJpk hfree hJtrig be.node _ t4 _ _ hh.1 hh.2.1
      (fun y hy => hh.2.2.2.1 y (hh.2.2.1 ▸ hy)) hbn4.2 h5
    have hatt' := hw.2.1
    rw [hh.2.2.1] at hw
    exact ⟨(hw.topLast_pos hbn4.1 b0 rest rfl hh.2.2.2.2).1, hatt'⟩

end j

theorem h7_ri_r (src : Bytes) : ∀ t t' : St, Sh.lb_RIs src t → t'.r = t.r → Sh.lb_RIs src t' := by
  intro t t' ⟨c, hc⟩ e
  exact ⟨c, by rw [e]; exact hc⟩

theorem h7_ri_peek (src : Bytes) : ∀ (t : St) lp t1, Sh.lb_RIs src t → peekLine t = .ok (lp, t1) →
    Sh.lb_RIs src t1 ∧ ∀ c ∈ lp.1.getD [], c ∈ src ∨ c = 32 := by
  intro t lp t1 ⟨c, hc⟩ h
  obtain ⟨rfl, h2, _, _⟩ := xo_peekLine_ri hc h
  refine ⟨⟨c, h2⟩, fun x hx => ?_⟩
  cases hv : RCur.view src c with
  | none => rw [hv] at hx; cases hx
  | some l => rw [hv] at hx; exact Sh.view_byte hv hx

/-- in a `Plain6` source the byte that selects the candidate parsers selects `Cov6` parsers only -/
theorem h7_ri_trig (src : Bytes) (hpl : Plain6 src) (t t1 : St) (lp : Option Bytes × Segment) (l : Bytes) (lo : Int)
    (ch : UInt8) (hj : Sh.lb_RIs src t) (h : peekLine t = .ok (lp, t1)) (hl : lp.1 = some l)
    (hc : idx l (indentWidthI l lo).2 = .ok ch) : ∀ bp ∈ (triggered ch).getD freeParsers, Cov6 bp :=
  (triggers_cov6 src hpl).2 ch ((h7_ri_peek src t lp t1 hj h).2 ch (by rw [hl]; exact Sh.idx_mem hc))

/-- `hRIo`, `hRIc`: the `Cov6` parsers keep the reader invariant (`ri_open6`, `ri_continue6`, GM.Proof.ShiftSimXRi);
    `hatt`: every open block is attached. -/
theorem topLast_lineLoop6 (src : Bytes) (hpl : Plain6 src)
    (hRIo : ∀ bp, Cov6 bp → ∀ p, Keeps (Sh.lb_RIs src) (bpOpen bp p))
    (hRIc : ∀ bp, Cov6 bp → ∀ n, Keeps (Sh.lb_RIs src) (bpContinue bp n))
    (b0 : Block) (rest : List Block) (s s' : St) (bl : List LineStat) (x : LineOutcome × List LineStat)
    (hk : K s) (htop : TopLast s) (hop : s.pc.opened = b0 :: rest) (hcov : ∀ z ∈ b0 :: rest, Cov6 z.bp)
    (hri : ∃ c, RI src s.r c) (hst : StableL src 0 s)
    (hatt : ∀ z ∈ b0 :: rest, (nd s z.node).parent.isSome = true)
    (h : lineLoop 0 (b0 :: rest) (((b0 :: rest).length : Int) - 1) (b0 :: rest) 0 bl s = .ok (x, s')) :
    TopLast s' :=
  (top_att_lineLoopJ (h7_ri_r src) (fun bp hc p s x s' hj e _ => hRIo bp hc p s x s' hj e) (Sh.lb_lineOffset_keeps src)
    (fun t lp t1 hj e => (h7_ri_peek src t lp t1 hj e).1) (triggers_cov6 src hpl).1 (h7_ri_trig src hpl)
    (fun bp hc n s st s' hj e _ => hRIc bp hc n s st s' hj e) b0 rest s s' bl x hk htop hop hcov hri hst hatt h).1

theorem att_lineLoop6 (src : Bytes) (hpl : Plain6 src)
    (hRIo : ∀ bp, Cov6 bp → ∀ p, Keeps (Sh.lb_RIs src) (bpOpen bp p))
    (hRIc : ∀ bp, Cov6 bp → ∀ n, Keeps (Sh.lb_RIs src) (bpContinue bp n))
    (b0 : Block) (rest : List Block) (s s' : St) (bl : List LineStat) (x : LineOutcome × List LineStat)
    (hk : K s) (htop : TopLast s) (hop : s.pc.opened = b0 :: rest) (hcov : ∀ z ∈ b0 :: rest, Cov6 z.bp)
    (hri : ∃ c, RI src s.r c) (hst : StableL src 0 s)
    (hatt : ∀ z ∈ b0 :: rest, (nd s z.node).parent.isSome = true)
    (h : lineLoop 0 (b0 :: rest) (((b0 :: rest).length : Int) - 1) (b0 :: rest) 0 bl s = .ok (x, s')) :
    ∀ z ∈ s'.pc.opened, (nd s' z.node).parent.isSome = true := fun z hz =>
  ((top_att_lineLoopJ (h7_ri_r src) (fun bp hc p s x s' hj e _ => hRIo bp hc p s x s' hj e) (Sh.lb_lineOffset_keeps src)
    (fun t lp t1 hj e => (h7_ri_peek src t lp t1 hj e).1) (triggers_cov6 src hpl).1 (h7_ri_trig src hpl)
    (fun bp hc n s st s' hj e _ => hRIc bp hc n s st s' hj e) b0 rest s s' bl x hk htop hop hcov hri hst hatt h).2 z hz).1

theorem att_openBlocks0 (src : Bytes) (hpl : Plain6 src)
    (hRIo : ∀ bp, Cov6 bp → ∀ p, Keeps (Sh.lb_RIs src) (bpOpen bp p))
    (blank : Bool) (s s' : St) (r : OpenResult) (hk : K s) (hop : s.pc.opened = []) (hri : ∃ c, RI src s.r c)
    (h : openBlocks 0 blank s = .ok (r, s')) :
    ∀ z ∈ s'.pc.opened, (nd s' z.node).parent.isSome = true ∧ Cov6 z.bp :=
  (top_att_openBlocks0J (h7_ri_r src) (fun bp hc p s x s' hj e _ => hRIo bp hc p s x s' hj e) (Sh.lb_lineOffset_keeps src)
    (fun t lp t1 hj e => (h7_ri_peek src t lp t1 hj e).1) (triggers_cov6 src hpl).1 (h7_ri_trig src hpl)
    blank s s' r hk hop hri h).2

end GM.Blocks.Xs
