/-
  GM.Proof.BlocksInvL — the list part of the block-phase invariant: what the store looks like around List / ListItem
  nodes (`KidsOK`), and the tree-link frame `TF` that every parser call respects.
-/
import GM.Proof.BlocksInv

namespace GM.Blocks
open GM GM.Text GM.Spec GM.Proof.Reader

/-- kinds of container blocks -/
def Kind.isCont : Kind → Bool
  | .blockquote | .list | .listItem => true
  | _ => false

/-- the list invariant of the node store: the children of a List are (existing) ListItems with offset ≥ 0, and a node
    whose parent pointer is a List is a ListItem -/
structure KidsOK (s : St) : Prop where
  kids : ∀ i lc, (nd s i).kind = .list → lc ∈ (nd s i).children → lc < s.nodes.length ∧ (nd s lc).kind = .listItem
  off : ∀ i, (nd s i).kind = .listItem → 0 ≤ (nd s i).offset
  pk : ∀ i p, (nd s i).parent = some p → (nd s p).kind = .list → (nd s i).kind = .listItem

/-- what a parser call (Continue / Close) never changes about tree links -/
structure TF (s s' : St) : Prop where
  parent : ∀ i, i < s.nodes.length → (nd s i).kind.isCont = true → (nd s' i).parent = (nd s i).parent
  kids : ∀ i, i < s.nodes.length → (nd s i).kind = .list → (nd s' i).children = (nd s i).children
  offset : ∀ i, i < s.nodes.length → (nd s' i).offset = (nd s i).offset
  newParent : ∀ i p, (nd s' i).parent = some p → (nd s' p).kind = .list → i < s.nodes.length ∧ (nd s i).parent = some p
  newKind : ∀ i, s.nodes.length ≤ i → (nd s' i).kind ≠ .list ∧ (nd s' i).kind ≠ .listItem

/-- nothing about the tree changed at all (all `Continue`s, most `Close`s) -/
structure TreeSame (s s' : St) : Prop where
  len : s'.nodes.length = s.nodes.length
  same : ∀ i, (nd s' i).kind = (nd s i).kind ∧ (nd s' i).parent = (nd s i).parent ∧
    (nd s' i).children = (nd s i).children ∧ (nd s' i).offset = (nd s i).offset

theorem TreeSame.refl (s : St) : TreeSame s s := ⟨rfl, fun _ => ⟨rfl, rfl, rfl, rfl⟩⟩

theorem TreeSame.trans {s1 s2 s3 : St} (h1 : TreeSame s1 s2) (h2 : TreeSame s2 s3) : TreeSame s1 s3 :=
  ⟨by rw [h2.len, h1.len], fun i => by
    obtain ⟨a, b, c, d⟩ := h1.same i; obtain ⟨a', b', c', d'⟩ := h2.same i
    exact ⟨by rw [a', a], by rw [b', b], by rw [c', c], by rw [d', d]⟩⟩

theorem TreeSame.of_nodes_eq {s s' : St} (h : s'.nodes = s.nodes) : TreeSame s s' :=
  ⟨by rw [h], fun i => by simp only [nd, h]; simp⟩

theorem nd_default_of_ge (s : St) {i : Nat} (h : s.nodes.length ≤ i) : nd s i = default := by
  simp [nd, List.getD_eq_getElem?_getD, List.getElem?_eq_none h]

theorem TreeSame.tf {s s' : St} (h : TreeSame s s') : TF s s' where
  parent := fun i _ _ => (h.same i).2.1
  kids := fun i _ _ => (h.same i).2.2.1
  offset := fun i _ => (h.same i).2.2.2
  newParent := fun i p hp _ => by
    rw [(h.same i).2.1] at hp
    refine ⟨?_, hp⟩
    rcases Nat.lt_or_ge i s.nodes.length with hi | hi
    · exact hi
    · rw [nd_default_of_ge s hi] at hp; cases hp
  newKind := fun i hi => by
    rw [(h.same i).1, nd_default_of_ge s hi]
    exact ⟨by decide, by decide⟩

theorem KidsOK.tf {s s' : St} (h : KidsOK s) (e : Ext s s') (t : TF s s') : KidsOK s' where
  kids := by
    intro i lc hk hm
    rcases Nat.lt_or_ge i s.nodes.length with hi | hi
    · rw [e.kind i hi] at hk
      rw [t.kids i hi hk] at hm
      obtain ⟨a, b⟩ := h.kids i lc hk hm
      exact ⟨Nat.lt_of_lt_of_le a e.len, by rw [e.kind lc a]; exact b⟩
    · exact absurd hk (t.newKind i hi).1
  off := by
    intro i hk
    rcases Nat.lt_or_ge i s.nodes.length with hi | hi
    · rw [t.offset i hi]; rw [e.kind i hi] at hk; exact h.off i hk
    · exact absurd hk (t.newKind i hi).2
  pk := by
    intro i p hp hk
    obtain ⟨hi, hp'⟩ := t.newParent i p hp hk
    have hpl : p < s.nodes.length := by
      rcases Nat.lt_or_ge p s.nodes.length with h' | h'
      · exact h'
      · exact absurd hk (t.newKind p h').1
    rw [e.kind p hpl] at hk
    rw [e.kind i hi]
    exact h.pk i p hp' hk

end GM.Blocks
