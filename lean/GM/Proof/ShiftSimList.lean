/-
  GM.Proof.ShiftSimList — the list parser (parser/list.go) and the list item parser (parser/list_item.go) under the
  shift simulation.
-/
import GM.Proof.ShiftSimDriver
import GM.Proof.ShiftSimEof

namespace GM.Blocks.Sh
open GM GM.Text GM.Spec GM.Proof.Reader GM.Blocks

theorem li_sim_kidsB_getLast (F : Frame) (root : Bool) (ch : List Nat) (h : ch ≠ [] ∨ root = false) :
    (kidsB F root ch).getLast? = ch.getLast?.map F.ι := by
  unfold kidsB
  rcases h with h | h
  · rw [List.getLast?_append, List.getLast?_map]
    cases hch : ch.getLast? with
    | none => exact absurd (List.getLast?_eq_none_iff.mp hch) h
    | some c => rfl
  · subst h; simp [List.getLast?_map]

theorem li_sim_getNode_inv {id : Nat} {s s' : St} {n : Node} (h : getNode id s = .ok (n, s')) :
    n = s.nodes.getD id default ∧ s' = s := by
  unfold getNode at h
  cases h; exact ⟨rfl, rfl⟩

theorem li_sim_lastOffset_st {node : Nat} {s s' : St} {a : Int} (h : lastOffset node s = .ok (a, s')) : s' = s := by
  unfold lastOffset at h
  obtain ⟨n, s1, e1, h⟩ := bind_ok_inv h
  obtain ⟨_, e1⟩ := li_sim_getNode_inv e1
  rw [e1] at h
  cases hl : n.children.getLast? with
  | none => rw [hl] at h; cases h; rfl
  | some lc =>
    rw [hl] at h
    obtain ⟨c, s2, e2, h⟩ := bind_ok_inv h
    obtain ⟨_, e2⟩ := li_sim_getNode_inv e2
    rw [e2] at h
    by_cases hk : (c.kind != .listItem) = true
    · rw [if_pos hk] at h
      cases h
    · rw [if_neg hk] at h
      cases h; rfl

theorem li_sim_lastOffset {F b rA rB sA sB} (h : SRL F b rA rB sA sB) (node : Nat) :
    P2 (fun x y sA' sB' => ((sA.nodes.getD node default).children ≠ [] ∨ node ≠ 0 → y = x) ∧ sA' = sA ∧ sB' = sB)
      (lastOffset node sA) (lastOffset (F.ι node) sB) := by
  intro x sA' y sB' eA eB
  refine ⟨fun hne => ?_, li_sim_lastOffset_st eA, li_sim_lastOffset_st eB⟩
  have hne' : (sA.nodes.getD node default).children ≠ [] ∨ (node == 0) = false := by
    rcases hne with h1 | h1
    · exact .inl h1
    · exact .inr (beq_eq_false_iff_ne.mpr h1)
  have key : P2 (fun x y _ _ => y = x) (lastOffset node sA) (lastOffset (F.ι node) sB) := by
    unfold lastOffset
    refine P2.bind (getNode_l h node) (fun n m sA1 sB1 ⟨hn, hm, e1, e2⟩ => ?_)
    rw [e1, e2, hm, shN_children, li_sim_kidsB_getLast F _ _ (by rw [hn]; exact hne')]
    cases hl : n.children.getLast? with
    | none => exact P2.pure rfl
    | some lc =>
      simp only [Option.map_some]
      refine P2.bind (getNode_l h lc) (fun c d sA2 sB2 ⟨hc, hd, e3, e4⟩ => ?_)
      rw [e3, e4, hd, shN_kind]
      by_cases hk : (c.kind != .listItem) = true
      · rw [if_pos hk, if_pos hk]
        exact P2.bind (P := fun _ _ _ _ => False) P2.throwL (fun _ _ _ _ hh => hh.elim)
      · rw [if_neg hk, if_neg hk]; exact P2.ok rfl
  exact key x sA' y sB' eA eB

/-- the last child of `node` is not the Document (B's Document has `kids0` in front of its children) -/
def li_sim_LastNot0 (s : St) (node : Nat) : Prop := (s.nodes.getD node default).children.getLast? ≠ some 0

theorem li_sim_lastChildCount {F b rA rB sA sB} (h : SRL F b rA rB sA sB) (node : Nat) (h0 : li_sim_LastNot0 sA node) :
    P2 (fun x y sA' sB' => y = x ∧ sA' = sA ∧ sB' = sB ∧ (sA.nodes.getD node default).children ≠ [])
      (lastChildCount node sA) (lastChildCount (F.ι node) sB) := by
  unfold lastChildCount
  refine P2.bind (getNode_l h node) (fun n m sA1 sB1 ⟨hn, hm, e1, e2⟩ => ?_)
  rw [e1, e2, hm, shN_children]
  cases hl : n.children.getLast? with
  | none => exact P2.throwL
  | some lc =>
    have hne : n.children ≠ [] := by
      intro e; rw [e] at hl; cases hl
    have hlc : (lc == 0) = false := by
      apply beq_eq_false_iff_ne.mpr
      intro e; subst e; rw [hn] at hl; exact h0 hl
    rw [li_sim_kidsB_getLast F _ _ (.inl hne), hl]
    simp only [Option.map_some]
    refine P2.bind (getNode_l h lc) (fun c d sA2 sB2 ⟨hc, hd, e3, e4⟩ => ?_)
    rw [e3, e4, hd, shN_children, hlc]
    refine P2.pure ⟨?_, rfl, rfl, by rw [← hn]; exact hne⟩
    simp [kidsB]

theorem li_sim_lastOffset_kind {node : Nat} {s s' : St} {a : Int} (h : lastOffset node s = .ok (a, s')) :
    ∀ lc, (s.nodes.getD node default).children.getLast? = some lc → (s.nodes.getD lc default).kind = .listItem := by
  intro lc hl
  unfold lastOffset at h
  obtain ⟨n, s1, e1, h⟩ := bind_ok_inv h
  obtain ⟨en, e1⟩ := li_sim_getNode_inv e1
  rw [e1, en, hl] at h
  obtain ⟨c, s2, e2, h⟩ := bind_ok_inv h
  obtain ⟨ec, e2⟩ := li_sim_getNode_inv e2
  rw [e2] at h
  by_cases hk : (c.kind != .listItem) = true
  · rw [if_pos hk] at h
    cases h
  · rw [← ec]
    simpa using hk

theorem li_sim_lastNot0_of_lastOffset {F : Frame} {nB : List Node} {node : Nat} {s s' : St} {a : Int}
    (hs : StoreRel F s.nodes nB) (h : lastOffset node s = .ok (a, s')) : li_sim_LastNot0 s node := by
  intro hl
  have := li_sim_lastOffset_kind h 0 hl
  rw [hs.doc] at this
  cases this

/-- `rw [if_pos h]` on both sides (the two sides may be the same term) -/
local macro "ifp " h:ident : tactic => `(tactic| (rw [if_pos $h]; try rw [if_pos $h]))
local macro "ifn " h:ident : tactic => `(tactic| (rw [if_neg $h]; try rw [if_neg $h]))

/-! ### list.go: Open -/

theorem li_sim_ctx_skipList {F : Frame} {x y : Ctx} (v : Bool) (h : CtxRel F x y) :
    CtxRel F { x with skipList := v } { y with skipList := v } :=
  ⟨⟨h.opened, h.tmpPara, h.fence, rfl, h.emptyItemBlank⟩, h.blockOffset, h.blockIndent⟩

theorem li_sim_ctx_flag {F : Frame} {x y : Ctx} (v : Bool) (h : CtxRel F x y) :
    CtxRel F { x with emptyItemBlank := v } { y with emptyItemBlank := v } :=
  ⟨⟨h.opened, h.tmpPara, h.fence, h.skipList, fun _ => rfl⟩, h.blockOffset, h.blockIndent⟩

/-- the post-condition of `OpenSim` for the list parsers -/
def li_sim_OpenQ (F : Frame) (b : Bytes) (x y : Option Nat × PState) (sA' sB' : St) : Prop :=
  y = (x.1.map F.ι, x.2) ∧ SRLim F b sA' sB' ∧ ((x.2.hasChildren = true ∨ x.1 = none) → SR F b sA' sB') ∧
    (x.1.isSome = true → sB'.pc.emptyItemBlank = sA'.pc.emptyItemBlank)

theorem li_sim_OpenQ_none {F : Frame} {b : Bytes} {sA sB : St} (h : SR F b sA sB) :
    P2 (li_sim_OpenQ F b) ((pure (none, stNoChildren) : M (Option Nat × PState)) sA)
      ((pure (none, stNoChildren) : M (Option Nat × PState)) sB) :=
  P2.pure ⟨rfl, h.limbo, fun _ => h, fun hh => by simp at hh⟩

def li_sim_openFin (line : Bytes) (m : M6) (start : Int) : M (Option Nat × PState) := do
  let marker ← liftE (idx line (m.r3 - 1))
  let node ← newNode { kind := .list, marker := marker, start := if start > -1 then start else 0 }
  modPc fun pc => { pc with emptyItemBlank := false }
  return (some node, stHasChildren)

def li_sim_openMid (parent : Nat) (lastNode : Option Node) (line : Bytes) (m : M6) (typ : ListTyp) (start : Int) :
    M (Option Nat × PState) := do
  let lastIsParaOfParent := match lastNode with
    | some n => n.kind == Kind.paragraph && n.parent == some parent
    | none => false
  if lastIsParaOfParent then
    if typ == ListTyp.ordered && start != 1 then return (none, stNoChildren)
    if m.r4 < 0 then return (none, stNoChildren)
    if isBlank (← liftE (slice line m.r4 m.r5)) then return (none, stNoChildren)
  li_sim_openFin line m start

def li_sim_openTail (parent : Nat) (lastNode : Option Node) : M (Option Nat × PState) := do
  let lok := match lastNode with | some n => n.kind == .list | none => false
  if lok || (← getPc).skipList then
    modPc fun pc => { pc with skipList := false }
    return (none, stNoChildren)
  let (line, _) ← peekLine
  let line := line.getD []
  let (m, typ) := matchesListItem line true
  if typ == .notList then return (none, stNoChildren)
  if typ == .ordered then
    let number ← liftE (slice line m.r2 (m.r3 - 1))
    li_sim_openMid parent lastNode line m typ (atoiDigits number)
  else li_sim_openMid parent lastNode line m typ (-1)

theorem li_sim_listOpen_eq (parent : Nat) : listOpen parent = (do
    let last ← lastOpenedBlock
    match last with
    | some lb => do
      let n ← getNode lb.node
      li_sim_openTail parent (some n)
    | none => li_sim_openTail parent none) := by
  unfold listOpen
  rfl

theorem li_sim_modPc_flag {F : Frame} {b : Bytes} {sA sB : St} (h : SR F b sA sB) (v : Bool) :
    P2 (fun _ _ sA' sB' => SR F b sA' sB' ∧ sA'.pc.emptyItemBlank = v ∧ sB'.pc.emptyItemBlank = v)
      (modPc (fun pc => { pc with emptyItemBlank := v }) sA) (modPc (fun pc => { pc with emptyItemBlank := v }) sB) := by
  unfold modPc
  exact P2.ok ⟨⟨h.ri, h.r, h.n, li_sim_ctx_flag v h.c⟩, rfl, rfl⟩

theorem li_sim_openFin_p2 {F : Frame} {b : Bytes} {sA sB : St} (h : SR F b sA sB) (line : Bytes) (m : M6) (start : Int) :
    P2 (li_sim_OpenQ F b) (li_sim_openFin line m start sA) (li_sim_openFin line m start sB) := by
  unfold li_sim_openFin
  refine P2.bind (P := fun s t sA' sB' => t = s ∧ sA' = sA ∧ sB' = sB)
    (P2.liftE_same (fun a _ => ⟨rfl, rfl, rfl⟩)) (fun mk mk' sA1 sB1 ⟨ht, e1, e2⟩ => ?_)
  rw [ht, e1, e2]
  refine P2.bind (newNode_p2 h _ _ (by simp [shN, shClosure])) (fun n n' sA2 sB2 ⟨_, hn', _, h2⟩ => ?_)
  rw [hn']
  refine P2.bind (li_sim_modPc_flag h2 false) (fun _ _ sA3 sB3 ⟨h3, f1, f2⟩ => ?_)
  exact P2.pure ⟨rfl, h3.limbo, fun _ => h3, fun _ => by rw [f1, f2]⟩

theorem li_sim_openMid_p2 {F : Frame} {b : Bytes} {sA sB : St} (h : SR F b sA sB) (parent : Nat) (lastNode : Option Node)
    (r : Bool) (line : Bytes) (m : M6) (typ : ListTyp) (start : Int) :
    P2 (li_sim_OpenQ F b) (li_sim_openMid parent lastNode line m typ start sA)
      (li_sim_openMid (F.ι parent) (lastNode.map (shN F r)) line m typ start sB) := by
  unfold li_sim_openMid
  have e : (match lastNode.map (shN F r) with
      | some n => n.kind == Kind.paragraph && n.parent == some (F.ι parent)
      | none => false) = (match lastNode with
      | some n => n.kind == Kind.paragraph && n.parent == some parent
      | none => false) := by
    cases lastNode with
    | none => rfl
    | some n => simp only [Option.map_some, shN_kind, shN_parent, map_ι_beq]
  simp only [e]
  generalize (match lastNode with
      | some n => n.kind == Kind.paragraph && n.parent == some parent
      | none => false) = lp
  by_cases h1 : lp = true
  · ifp h1
    by_cases h2 : (typ == ListTyp.ordered && start != 1) = true
    · ifp h2; exact li_sim_OpenQ_none h
    · ifn h2
      by_cases h3 : m.r4 < 0
      · ifp h3; exact li_sim_OpenQ_none h
      · ifn h3
        refine P2.bind (P := fun s t sA' sB' => t = s ∧ sA' = sA ∧ sB' = sB)
          (P2.liftE_same (fun a _ => ⟨rfl, rfl, rfl⟩)) (fun l l' sA1 sB1 ⟨ht, e1, e2⟩ => ?_)
        rw [ht, e1, e2]
        by_cases h4 : isBlank l = true
        · ifp h4; exact li_sim_OpenQ_none h
        · ifn h4; exact li_sim_openFin_p2 h line m start
  · ifn h1
    exact li_sim_openFin_p2 h line m start

theorem li_sim_openTail_p2 {F : Frame} {b : Bytes} {sA sB : St} (h : SR F b sA sB) (parent : Nat) (lastNode : Option Node)
    (r : Bool) :
    P2 (li_sim_OpenQ F b) (li_sim_openTail parent lastNode sA)
      (li_sim_openTail (F.ι parent) (lastNode.map (shN F r)) sB) := by
  unfold li_sim_openTail
  have e : (match lastNode.map (shN F r) with
      | some n => n.kind == Kind.list
      | none => false) = (match lastNode with
      | some n => n.kind == Kind.list
      | none => false) := by
    cases lastNode with
    | none => rfl
    | some n => rfl
  simp only [e]
  generalize (match lastNode with
      | some n => n.kind == Kind.list
      | none => false) = lok
  refine P2.bind (getPc_p2 h) (fun x y sA1 sB1 ⟨hx, hy, hxy, e1, e2⟩ => ?_)
  rw [e1, e2, hxy.skipList]
  by_cases h1 : (lok || x.skipList) = true
  · ifp h1
    refine P2.bind (modPc_p2 h _ _ (fun x y hxy => li_sim_ctx_skipList false hxy)) (fun _ _ sA3 sB3 h3 => ?_)
    exact li_sim_OpenQ_none h3
  · ifn h1
    refine P2.bind (peekLine_p2 h) (fun x y sA1 sB1 ⟨⟨c, hc, hx⟩, hy, h1⟩ => ?_)
    rw [hy, hx]
    simp only
    generalize (RCur.view b c).getD [] = line
    generalize matchesListItem line true = mt
    by_cases h2 : (mt.2 == ListTyp.notList) = true
    · ifp h2; exact li_sim_OpenQ_none h1
    · ifn h2
      by_cases h3 : (mt.2 == ListTyp.ordered) = true
      · ifp h3
        refine P2.bind (P := fun s t sA' sB' => t = s ∧ sA' = sA1 ∧ sB' = sB1)
          (P2.liftE_same (fun a _ => ⟨rfl, rfl, rfl⟩)) (fun l l' sA2 sB2 ⟨ht, e1, e2⟩ => ?_)
        rw [ht, e1, e2]
        exact li_sim_openMid_p2 h1 parent lastNode r line mt.1 mt.2 _
      · ifn h3
        exact li_sim_openMid_p2 h1 parent lastNode r line mt.1 mt.2 _

theorem listOpen_sim (F : Frame) (b : Bytes) : OpenSim F b .list := by
  intro parent sA sB h _
  show P2 _ (listOpen parent sA) (listOpen (F.ι parent) sB)
  rw [li_sim_listOpen_eq, li_sim_listOpen_eq]
  refine P2.mono (P := li_sim_OpenQ F b) ?_ (fun x y sA' sB' ⟨q1, q2, q3, q4⟩ => ⟨q1, q2, q3, fun _ => q4⟩)
  refine P2.bind (lastOpenedBlock_p2 h) (fun x y sA1 sB1 ⟨hx, hy, e1, e2⟩ => ?_)
  rw [e1, e2, hy]
  cases x with
  | none => exact li_sim_openTail_p2 h parent none false
  | some lb =>
    simp only [Option.map_some]
    refine P2.bind (getNode_p2 h lb.node) (fun n m sA2 sB2 ⟨hn, hm, e3, e4⟩ => ?_)
    rw [e3, e4, hm]
    exact li_sim_openTail_p2 h parent (some n) _

/-! ### list.go: Close -/

theorem li_sim_node_ne0 {F : Frame} {nA nB : List Node} (h : StoreRel F nA nB) {c : Nat} (hc : c ≠ 0) :
    nB.getD (F.ι c) default = shN F false (nA.getD c default) := by
  rw [h.node c, beq_eq_false_iff_ne.mpr hc]

theorem li_sim_kidsB_false (F : Frame) (ch : List Nat) : kidsB F false ch = ch.map F.ι := by
  simp [kidsB]

theorem li_sim_itemLoose {F : Frame} {nA nB : List Node} (h : StoreRel F nA nB) (first : Bool) (c : Nat) (hc : c ≠ 0) :
    itemLoose nB first (F.ι c) = itemLoose nA first c := by
  unfold itemLoose
  rw [li_sim_node_ne0 h hc]
  simp only [shN_children, li_sim_kidsB_false, shN_blankPrev, ← List.map_drop, List.any_map]
  congr 2
  funext c1
  show (nB.getD (F.ι c1) default).blankPrev = _
  rw [h.node c1]; rfl

theorem li_sim_listTight {F : Frame} {nA nB : List Node} (h : StoreRel F nA nB) :
    ∀ (cs : List Nat) (tight first : Bool), (∀ c ∈ cs, c ≠ 0) →
      listTight nB tight (cs.map F.ι) first = listTight nA tight cs first := by
  intro cs
  induction cs with
  | nil => intro tight first _; rfl
  | cons c cs ih =>
    intro tight first h0
    simp only [List.map_cons, listTight]
    rw [li_sim_itemLoose h first c (h0 c List.mem_cons_self), ih _ _ (fun x hx => h0 x (List.mem_cons_of_mem _ hx))]

theorem li_sim_tightenItem {F : Frame} {b : Bytes} {rA rB : Reader} (hF : F.OK) (child : Nat) :
    ∀ (gcs : List Nat) (sA sB : St), SRL F b rA rB sA sB →
      P2 (fun _ _ sA' sB' => SRL F b rA rB sA' sB') (tightenItem child gcs sA) (tightenItem (F.ι child) (gcs.map F.ι) sB) := by
  intro gcs
  induction gcs with
  | nil => intro sA sB h; exact P2.pure h
  | cons gc gcs ih =>
    intro sA sB h
    simp only [List.map_cons, tightenItem]
    refine P2.bind (getNode_l h gc) (fun g g' sA1 sB1 ⟨hg, hg', e1, e2⟩ => ?_)
    rw [e1, e2, hg', shN_kind]
    by_cases hk : (g.kind == Kind.paragraph) = true
    · ifp hk
      refine P2.bind (newNode_l h { kind := .textBlock, lines := g.lines, linesNil := g.linesNil } _
        (by simp [shN, shClosure])) (fun n n' sA2 sB2 ⟨_, hn', _, h2⟩ => ?_)
      rw [hn']
      refine P2.bind (replaceChild_l hF h2 child gc n) (fun _ _ sA3 sB3 h3 => ih sA3 sB3 h3)
    · ifn hk
      exact ih sA sB h

theorem li_sim_tightenItems {F : Frame} {b : Bytes} {rA rB : Reader} (hF : F.OK) :
    ∀ (cs : List Nat) (sA sB : St), (∀ c ∈ cs, c ≠ 0) → SRL F b rA rB sA sB →
      P2 (fun _ _ sA' sB' => SRL F b rA rB sA' sB') (tightenItems cs sA) (tightenItems (cs.map F.ι) sB) := by
  intro cs
  induction cs with
  | nil => intro sA sB _ h; exact P2.pure h
  | cons c cs ih =>
    intro sA sB h0 h
    simp only [List.map_cons, tightenItems]
    refine P2.bind (getNode_l h c) (fun g g' sA1 sB1 ⟨hg, hg', e1, e2⟩ => ?_)
    rw [e1, e2, hg', shN_children, beq_eq_false_iff_ne.mpr (h0 c List.mem_cons_self), li_sim_kidsB_false]
    refine P2.bind (li_sim_tightenItem hF c g.children sA sB h) (fun _ _ sA2 sB2 h2 => ?_)
    exact ih sA2 sB2 (fun x hx => h0 x (List.mem_cons_of_mem _ hx)) h2

/-- `listParser.Close` for a list node that is not the Document and whose items are not the Document (in a real run no
    node has the Document as a child; the relation `StoreRel` alone does not say so, and B's Document has the extra
    children `kids0`) -/
theorem listClose_simN (F : Frame) (hF : F.OK) (b : Bytes) : ∀ node rA rB sA sB, node ≠ 0 →
    (∀ c ∈ (sA.nodes.getD node default).children, c ≠ 0) → SRL F b rA rB sA sB →
    P2 (fun _ _ sA' sB' => SRL F b rA rB sA' sB') (listClose node sA) (listClose (F.ι node) sB) := by
  intro node rA rB sA sB hnode h0 h
  unfold listClose
  refine P2.bind (getNode_l h node) (fun n m sA1 sB1 ⟨hn, hm, e1, e2⟩ => ?_)
  rw [e1, e2, hm]
  refine P2.bind (P := fun x y sA' sB' => x = sA ∧ y = sB ∧ sA' = sA ∧ sB' = sB) (P2.ok ⟨rfl, rfl, rfl, rfl⟩)
    (fun x y sA2 sB2 ⟨hx, hy, e3, e4⟩ => ?_)
  rw [hx, hy, e3, e4, shN_children, beq_eq_false_iff_ne.mpr hnode, li_sim_kidsB_false]
  have ht : (shN F false n).tight = n.tight := rfl
  rw [ht, li_sim_listTight h.n n.children n.tight true (by rw [hn]; exact h0)]
  refine P2.bind (modNode_l h node _ _ (fun a => ?_) (fun _ => rfl)) (fun _ _ sA3 sB3 h3 => ?_)
  · rw [beq_eq_false_iff_ne.mpr hnode]; simp [shN]
  by_cases hc : listTight sA.nodes n.tight n.children true = true
  · ifp hc
    exact li_sim_tightenItems hF n.children sA3 sB3 (by rw [hn]; exact h0) h3
  · ifn hc
    exact P2.pure h3

/-! ### list.go: Continue -/

def li_sim_contTail (marker : UInt8) (line : Bytes) (offset : Int) (lastIsEmpty : Bool) (lo : Int) : M PState := do
  let (indent, _) := indentWidthI line lo
  if indent < offset || lastIsEmpty then
    if indent < 4 then
      let (m, typ) := matchesListItem line false
      if typ != .notList && m.r1 - offset < 4 then
        let mk ← liftE (idx line (m.r3 - 1))
        if !(mk == marker && (typ == .ordered) == markerOrdered marker) then return stClose
        let tail ← liftE (sliceFrom line (m.r3 - 1))
        if isThematicBreak tail 0 then
          let mut isHeading := false
          let lastIsPara ← match ← lastOpenedBlock with
            | some lb => do pure ((← getNode lb.node).kind == .paragraph)
            | none => pure false
          if lastIsPara then
            let (c, ok) ← liftE (matchesSetextHeadingBar tail)
            if ok && c == 45 then isHeading := true
          if !isHeading then return stClose
        return stContinueHasChildren
    if !lastIsEmpty then return stClose
  if lastIsEmpty && indent < offset then return stClose
  if (← getPc).emptyItemBlank then return stClose
  return stContinueHasChildren

theorem li_sim_listContinue_eq (node : Nat) : listContinue node = (do
    let list ← getNode node
    let (line, _) ← peekLine
    let line := line.getD []
    if isBlank line then
      if (← lastChildCount node) == 0 then
        modPc fun pc => { pc with emptyItemBlank := true }
      return stContinueHasChildren
    let offset ← lastOffset node
    let cnt ← lastChildCount node
    let lo ← lineOffset
    li_sim_contTail list.marker line offset (cnt == 0) lo) := by
  unfold listContinue li_sim_contTail
  rfl

theorem li_sim_contTail_p2 {F : Frame} {b : Bytes} {sA sB : St} (hfl : F.flag = true) (h : SR F b sA sB) (marker : UInt8)
    (line : Bytes) (offset : Int) (le : Bool) (lo : Int) :
    P2 (fun x y sA' sB' => y = x ∧ sA' = sA ∧ sB' = sB) (li_sim_contTail marker line offset le lo sA)
      (li_sim_contTail marker line offset le lo sB) := by
  unfold li_sim_contTail
  generalize indentWidthI line lo = iw
  obtain ⟨indent, _⟩ := iw
  simp only []
  have fin1 : P2 (fun x y sA' sB' => y = x ∧ sA' = sA ∧ sB' = sB)
      ((if (le && decide (indent < offset)) = true then pure stClose
        else do
          let pc ← getPc
          if pc.emptyItemBlank = true then pure stClose else pure stContinueHasChildren : M PState) sA)
      ((if (le && decide (indent < offset)) = true then pure stClose
        else do
          let pc ← getPc
          if pc.emptyItemBlank = true then pure stClose else pure stContinueHasChildren : M PState) sB) := by
    by_cases c : (le && decide (indent < offset)) = true
    · ifp c; exact P2.pure ⟨rfl, rfl, rfl⟩
    · ifn c
      refine P2.bind (getPc_p2 h) (fun x y sA1 sB1 ⟨hx, hy, hxy, e1, e2⟩ => ?_)
      rw [e1, e2, hxy.emptyItemBlank hfl]
      by_cases c2 : x.emptyItemBlank = true
      · ifp c2; exact P2.pure ⟨rfl, rfl, rfl⟩
      · ifn c2; exact P2.pure ⟨rfl, rfl, rfl⟩
  have fin2 : P2 (fun x y sA' sB' => y = x ∧ sA' = sA ∧ sB' = sB)
      ((if (!le) = true then pure stClose
        else if (le && decide (indent < offset)) = true then pure stClose
        else do
          let pc ← getPc
          if pc.emptyItemBlank = true then pure stClose else pure stContinueHasChildren : M PState) sA)
      ((if (!le) = true then pure stClose
        else if (le && decide (indent < offset)) = true then pure stClose
        else do
          let pc ← getPc
          if pc.emptyItemBlank = true then pure stClose else pure stContinueHasChildren : M PState) sB) := by
    by_cases c : (!le) = true
    · ifp c; exact P2.pure ⟨rfl, rfl, rfl⟩
    · ifn c; exact fin1
  have para : ∀ (lp : Bool) (tail : Bytes), P2 (fun x y sA' sB' => y = x ∧ sA' = sA ∧ sB' = sB)
      ((if lp = true then do
          let x ← liftE (matchesSetextHeadingBar tail)
          if (x.snd && x.fst == 45) = true then
            if (!true) = true then pure stClose else pure stContinueHasChildren
          else if (!false) = true then pure stClose else pure stContinueHasChildren
        else if (!false) = true then pure stClose else pure stContinueHasChildren : M PState) sA)
      ((if lp = true then do
          let x ← liftE (matchesSetextHeadingBar tail)
          if (x.snd && x.fst == 45) = true then
            if (!true) = true then pure stClose else pure stContinueHasChildren
          else if (!false) = true then pure stClose else pure stContinueHasChildren
        else if (!false) = true then pure stClose else pure stContinueHasChildren : M PState) sB) := by
    intro lp tail
    by_cases c : lp = true
    · ifp c
      refine P2.bind (P := fun s t sA' sB' => t = s ∧ sA' = sA ∧ sB' = sB)
        (P2.liftE_same (fun a _ => ⟨rfl, rfl, rfl⟩)) (fun l l' sA1 sB1 ⟨ht, e1, e2⟩ => ?_)
      rw [ht, e1, e2]
      by_cases c2 : (l.snd && l.fst == 45) = true
      · ifp c2; exact P2.ok ⟨rfl, rfl, rfl⟩
      · ifn c2; exact P2.ok ⟨rfl, rfl, rfl⟩
    · ifn c; exact P2.ok ⟨rfl, rfl, rfl⟩
  by_cases c1 : (decide (indent < offset) || le) = true
  · ifp c1
    by_cases c2 : indent < 4
    · ifp c2
      by_cases c3 : ((matchesListItem line false).snd != ListTyp.notList &&
          decide ((matchesListItem line false).fst.r1 - offset < 4)) = true
      · ifp c3
        refine P2.bind (P := fun s t sA' sB' => t = s ∧ sA' = sA ∧ sB' = sB)
          (P2.liftE_same (fun a _ => ⟨rfl, rfl, rfl⟩)) (fun mk mk' sA1 sB1 ⟨ht, e1, e2⟩ => ?_)
        rw [ht, e1, e2]
        by_cases c4 : (!(mk == marker && ((matchesListItem line false).snd == ListTyp.ordered) == markerOrdered marker)) = true
        · ifp c4; exact P2.pure ⟨rfl, rfl, rfl⟩
        · ifn c4
          refine P2.bind (P := fun s t sA' sB' => t = s ∧ sA' = sA ∧ sB' = sB)
            (P2.liftE_same (fun a _ => ⟨rfl, rfl, rfl⟩)) (fun tl tl' sA2 sB2 ⟨ht2, e3, e4⟩ => ?_)
          rw [ht2, e3, e4]
          by_cases c5 : isThematicBreak tl 0 = true
          · ifp c5
            refine P2.bind (lastOpenedBlock_p2 h) (fun x y sA3 sB3 ⟨hx, hy, e5, e6⟩ => ?_)
            rw [e5, e6, hy]
            cases x with
            | none =>
              simp only [Option.map_none]
              refine P2.bind (P := fun s t sA' sB' => t = s ∧ sA' = sA ∧ sB' = sB) (P2.pure ⟨rfl, rfl, rfl⟩)
                (fun lp lp' sA4 sB4 ⟨ht3, e7, e8⟩ => ?_)
              rw [ht3, e7, e8]
              exact para lp tl
            | some lb =>
              simp only [Option.map_some]
              refine P2.bind (getNode_p2 h lb.node) (fun n m sA4 sB4 ⟨hn, hm, e7, e8⟩ => ?_)
              rw [e7, e8, hm, shN_kind]
              refine P2.bind (P := fun s t sA' sB' => t = s ∧ sA' = sA ∧ sB' = sB) (P2.pure ⟨rfl, rfl, rfl⟩)
                (fun lp lp' sA4 sB4 ⟨ht3, e7, e8⟩ => ?_)
              rw [ht3, e7, e8]
              exact para lp tl
          · ifn c5; exact P2.pure ⟨rfl, rfl, rfl⟩
      · ifn c3; exact fin2
    · ifn c2; exact fin2
  · ifn c1; exact fin1

/-- `PeekLine` under `SR`, keeping the node store and the context -/
theorem li_sim_peekLine {F b sA sB} (h : SR F b sA sB) :
    P2 (fun x y sA' sB' => (∃ c, RI b sA'.r c ∧ x = (RCur.view b c, RCur.seg b c)) ∧ y = (x.1, moveSeg F.d x.2) ∧
        SR F b sA' sB' ∧ sA'.nodes = sA.nodes ∧ sA'.pc = sA.pc) (peekLine sA) (peekLine sB) :=
  (peekLine_core h.rd).mono fun _ _ _ _ ⟨h1, h2, h3⟩ => ⟨h1, h2, h3.sr h, by
    obtain ⟨rA, c, _, e1, _⟩ := h3; rw [e1], by
    obtain ⟨rA, c, _, e1, _⟩ := h3; rw [e1]⟩

/-- `listParser.Continue` on a line. Added hypothesis: the last child of the list node is not the Document (used on
    blank lines only, where `lastChildCount` is called before anything checked the kind of the last child). -/
theorem listContinue_simW' (F : Frame) (hfl : F.flag = true) (b : Bytes) : ∀ node sA sB, SR F b sA sB →
    li_sim_LastNot0 sA node →
    P2 (fun x y sA' sB' => y = x ∧ SRLim F b sA' sB' ∧ ((x.cont = true ∧ x.hasChildren = false) ∨ SR F b sA' sB'))
      (listContinue node sA) (listContinue (F.ι node) sB) := by
  intro node sA sB h h0
  rw [li_sim_listContinue_eq, li_sim_listContinue_eq]
  refine P2.bind (getNode_p2 h node) (fun n m sA0 sB0 ⟨hn, hm, e1, e2⟩ => ?_)
  rw [e1, e2, hm]
  refine P2.bind (li_sim_peekLine h) (fun x y sA1 sB1 ⟨⟨c, hc, hx⟩, hy, h1, hnodes, _⟩ => ?_)
  rw [hy, hx]
  simp only []
  have h0' : li_sim_LastNot0 sA1 node := by unfold li_sim_LastNot0; rw [hnodes]; exact h0
  generalize (RCur.view b c).getD [] = line
  by_cases hb : isBlank line = true
  · ifp hb
    refine P2.bind (li_sim_lastChildCount h1.l node h0') (fun cnt cnt' sA2 sB2 ⟨hy, e1, e2, _⟩ => ?_)
    rw [hy, e1, e2]
    by_cases c1 : (cnt == 0) = true
    · ifp c1
      refine P2.bind (modPc_p2 h1 _ _ (fun x y hxy => li_sim_ctx_flag true hxy)) (fun _ _ sA3 sB3 h3 => ?_)
      exact P2.pure ⟨rfl, h3.limbo, .inr h3⟩
    · ifn c1
      exact P2.pure ⟨rfl, h1.limbo, .inr h1⟩
  · ifn hb
    refine P2.bind (li_sim_lastOffset h1.l node) (fun off off' sA2 sB2 ⟨hoff, e1, e2⟩ => ?_)
    rw [e1, e2]
    refine P2.bind (li_sim_lastChildCount h1.l node h0') (fun cnt cnt' sA3 sB3 ⟨hc, e3, e4, hne⟩ => ?_)
    rw [hc, e3, e4, hoff (.inl hne)]
    refine P2.bind (lineOffset_p2 h1) (fun lo lo' sA4 sB4 ⟨hlo, _, h4⟩ => ?_)
    rw [hlo]
    have hmk : (shN F (node == 0) n).marker = n.marker := rfl
    rw [hmk]
    exact (li_sim_contTail_p2 hfl h4 n.marker line off (cnt == 0) lo).mono
      (fun x y sA' sB' ⟨q1, q2, q3⟩ => ⟨q1, by rw [q2, q3]; exact h4.limbo, .inr (by rw [q2, q3]; exact h4)⟩)

/-- (with the hypothesis of `listContinue_simW'`) -/
theorem listContinue_eof' (F : Frame) (hfl : F.flag = true) (b : Bytes) : ∀ node sA sB, SR F b sA sB →
    li_sim_LastNot0 sA node →
    P2 (fun x y sA' sB' => y = x ∧ SRLim F b sA' sB') (listContinue node sA) (listContinue (F.ι node) sB) :=
  fun node sA sB h h0 => (listContinue_simW' F hfl b node sA sB h h0).mono fun _ _ _ _ ⟨q1, q2, _⟩ => ⟨q1, q2⟩

theorem listItemContinue_eof (F : Frame) (b : Bytes) : ContinueEofSim F b .listItem := by
  intro node sA sB h ⟨c, hc, hp⟩
  show P2 _ (listItemContinue node sA) (listItemContinue (F.ι node) sB)
  unfold listItemContinue
  refine P2.bind (eof_peekLine_p2c h hc) (fun x y sA1 sB1 ⟨hx, hy, _, h1⟩ => ?_)
  rw [hy, hx]
  simp only []
  have hbl : isBlank ((RCur.view b c).getD []) = true := by rw [view_none b c hp]; exact isBlank_nil
  ifp hbl
  refine P2.bind (advance_limbo h1 _) (fun _ _ sA2 sB2 h2 => ?_)
  exact P2.pure ⟨rfl, h2⟩

/-! ### unary facts: a container's `Continue` never answers "Continue, no children" -/

theorem li_sim_listContinue_ret (node : Nat) :
    Ret (listContinue node) (fun st => st.cont = true → st.hasChildren = true) := by
  unfold listContinue; ret

theorem li_sim_listItemContinue_ret (node : Nat) :
    Ret (listItemContinue node) (fun st => st.cont = true → st.hasChildren = true) := by
  unfold listItemContinue; ret

theorem listContinue_cont (node : Nat) (s s' : St) (st : PState) (h : listContinue node s = .ok (st, s'))
    (hc : st.cont = true) : st.hasChildren = true := (li_sim_listContinue_ret node).h s st s' h hc

theorem listItemContinue_cont (node : Nat) (s s' : St) (st : PState) (h : listItemContinue node s = .ok (st, s'))
    (hc : st.cont = true) : st.hasChildren = true := (li_sim_listItemContinue_ret node).h s st s' h hc

/-! ### list_item.go: Continue -/

/-- the relation without the reader invariant of run A -/
def li_sim_W (F : Frame) (sA sB : St) : Prop :=
  sB.r = shR F sA.r ∧ StoreRel F sA.nodes sB.nodes ∧ CtxRel F sA.pc sB.pc

theorem li_sim_advance_w {F b sA sB} (h : SR F b sA sB) (n : Int) :
    P2 (fun _ _ sA' sB' => li_sim_W F sA' sB') (advance n sA) (advance n sB) := by
  obtain ⟨c, hc⟩ := h.ri
  have hsh := advance_sh F sA.r n (RI.start_nonneg hc) (RI.stop_nonneg hc)
  intro a sA' a' sB' e1 e2
  unfold GM.Blocks.advance at e1 e2
  rw [h.r, hsh] at e2
  cases hA : sA.r.advance n with
  | error e => rw [hA] at e1; cases e1
  | ok r' =>
    rw [hA] at e1 e2
    cases e1; cases e2
    exact ⟨rfl, h.n, h.c⟩

theorem li_sim_advPad_w {F b sA sB} (h : SR F b sA sB) (n pd : Int) :
    P2 (fun _ _ sA' sB' => li_sim_W F sA' sB') (advanceAndSetPadding n pd sA) (advanceAndSetPadding n pd sB) := by
  obtain ⟨c, hc⟩ := h.ri
  have hsh := advanceAndSetPadding_sh F sA.r n pd (RI.start_nonneg hc) (RI.stop_nonneg hc)
  intro a sA' a' sB' e1 e2
  unfold GM.Blocks.advanceAndSetPadding at e1 e2
  rw [h.r, hsh] at e2
  cases hA : sA.r.advanceAndSetPadding n pd with
  | error e => rw [hA] at e1; cases e1
  | ok r' =>
    rw [hA] at e1 e2
    cases e1; cases e2
    exact ⟨rfl, h.n, h.c⟩

theorem SR.li_sim_w {F b sA sB} (h : SR F b sA sB) : li_sim_W F sA sB := ⟨h.r, h.n, h.c⟩

theorem li_sim_listItemContinue_w (F : Frame) (hfl : F.flag = true) (b : Bytes) (node : Nat) (sA sB : St)
    (h : SR F b sA sB) (hnode : node ≠ 0) (hpar : ∀ p, (sA.nodes.getD node default).parent = some p → p ≠ 0) :
    P2 (fun x y sA' sB' => y = x ∧ li_sim_W F sA' sB') (listItemContinue node sA) (listItemContinue (F.ι node) sB) := by
  unfold listItemContinue
  refine P2.bind (li_sim_peekLine h) (fun x y sA1 sB1 ⟨⟨c, hc, hx⟩, hy, h1, hnodes, _⟩ => ?_)
  rw [hy, hx]
  simp only []
  generalize (RCur.view b c).getD [] = line
  by_cases hb : isBlank line = true
  · ifp hb
    refine P2.bind (li_sim_advance_w h1 _) (fun _ _ sA2 sB2 h2 => ?_)
    exact P2.pure ⟨rfl, h2⟩
  · ifn hb
    refine P2.bind (getNode_p2 h1 node) (fun n m sA0 sB0 ⟨hn, hm, e1, e2⟩ => ?_)
    rw [e1, e2, hm, shN_parent, shN_children, beq_eq_false_iff_ne.mpr hnode, li_sim_kidsB_false, List.length_map]
    cases hp : n.parent with
    | none => exact P2.bind (P := fun _ _ _ _ => False) P2.throwL (fun _ _ _ _ hh => hh.elim)
    | some p =>
      simp only [Option.map_some]
      refine P2.bind (li_sim_lastOffset h1.l p) (fun off off' sA2 sB2 ⟨hoff, e3, e4⟩ => ?_)
      have hp0 : p ≠ 0 := hpar p (by rw [← hnodes, ← hn]; exact hp)
      rw [e3, e4, hoff (.inr hp0)]
      refine P2.bind (getPc_p2 h1) (fun pc pc' sA3 sB3 ⟨_, _, hxy, e5, e6⟩ => ?_)
      rw [e5, e6, hxy.emptyItemBlank hfl]
      refine P2.bind (lineOffset_p2 h1) (fun lo lo' sA4 sB4 ⟨hlo, _, h4⟩ => ?_)
      rw [hlo]
      have adv : P2 (fun x y sA' sB' => y = x ∧ li_sim_W F sA' sB')
          ((do advanceAndSetPadding (indentPosition line lo off).fst (indentPosition line lo off).snd
               pure stContinueHasChildren : M PState) sA4)
          ((do advanceAndSetPadding (indentPosition line lo off).fst (indentPosition line lo off).snd
               pure stContinueHasChildren : M PState) sB4) := by
        refine P2.bind (li_sim_advPad_w h4 _ _) (fun _ _ sA5 sB5 h5 => ?_)
        exact P2.pure ⟨rfl, h5⟩
      generalize (n.children.length == 0 && pc.emptyItemBlank) = isEmpty
      by_cases c1 : ((isEmpty || decide ((indentWidthI line lo).fst < off)) &&
          decide ((indentWidthI line lo).fst < 4)) = true
      · ifp c1
        by_cases c2 : ((matchesListItem line true).snd != ListTyp.notList) = true
        · ifp c2
          refine P2.bind (modPc_p2 h4 _ _ (fun x y hxy => li_sim_ctx_skipList true hxy)) (fun _ _ sA5 sB5 h5 => ?_)
          exact P2.pure ⟨rfl, h5.li_sim_w⟩
        · ifn c2
          by_cases c3 : (!isEmpty) = true
          · ifp c3; exact P2.pure ⟨rfl, h4.li_sim_w⟩
          · ifn c3; exact adv
      · ifn c1; exact adv

/-- `listItemParser.Continue` on a line, given that run A's resulting reader satisfies the reader invariant (this replaces
    any proof that the arguments of `Advance` / `AdvanceAndSetPadding` are not negative). Added hypothesis: `node ≠ 0`
    (the children count of the item is read; B's Document has the extra children `kids0`). -/
theorem listItemContinue_simH (F : Frame) (hfl : F.flag = true) (b : Bytes) : ∀ node sA sB, SR F b sA sB →
    HasLine b sA → node ≠ 0 → (∀ p, (sA.nodes.getD node default).parent = some p → p ≠ 0) →
    (∀ a sA', listItemContinue node sA = .ok (a, sA') → ∃ c', RI b sA'.r c') →
    P2 (fun x y sA' sB' => y = x ∧ SR F b sA' sB') (listItemContinue node sA) (listItemContinue (F.ι node) sB) := by
  intro node sA sB h _ hnode hpar hri a sA' a' sB' e1 e2
  obtain ⟨q1, q2, q3, q4⟩ := li_sim_listItemContinue_w F hfl b node sA sB h hnode hpar a sA' a' sB' e1 e2
  exact ⟨q1, hri a sA' e1, q2, q3, q4⟩

/-! ### list_item.go: Open -/

theorem li_sim_P2_with {α β} {Q : α → β → St → St → Prop} {R : α → St → Prop} {R' : β → St → Prop} {x y}
    (h : P2 Q x y) (hr : ∀ a sA, x = .ok (a, sA) → R a sA) (hr' : ∀ a sB, y = .ok (a, sB) → R' a sB) :
    P2 (fun a b sA sB => Q a b sA sB ∧ R a sA ∧ R' b sB) x y :=
  fun a sA b sB e1 e2 => ⟨h a sA b sB e1 e2, hr a sA e1, hr' b sB e2⟩

theorem li_sim_lineOffset_pc {s s' : St} {a : Int} (h : lineOffset s = .ok (a, s')) : s'.pc = s.pc := by
  unfold GM.Blocks.lineOffset at h
  cases hA : s.r.lineOffsetOp with
  | error e => rw [hA] at h; cases h
  | ok r' => rw [hA] at h; cases h; rfl

theorem li_sim_newNode_pc {n : Node} {s s' : St} {a : Nat} (h : newNode n s = .ok (a, s')) : s'.pc = s.pc := by
  unfold newNode at h; cases h; rfl

theorem li_sim_advPad_pc {n pd : Int} {s s' : St} {a : Unit} (h : advanceAndSetPadding n pd s = .ok (a, s')) :
    s'.pc = s.pc := by
  unfold GM.Blocks.advanceAndSetPadding at h
  cases hA : s.r.advanceAndSetPadding n pd with
  | error e => rw [hA] at h; cases h
  | ok r' => rw [hA] at h; cases h; rfl

/-- `listItemParser.Open` on a line, given that run A's resulting reader satisfies the reader invariant (instead of a proof
    that the argument of the final `AdvanceAndSetPadding` is not negative) -/
theorem listItemOpen_simH (F : Frame) (b : Bytes) : ∀ parent sA sB, SR F b sA sB → HasLine b sA →
    (∀ a sA', listItemOpen parent sA = .ok (a, sA') → ∃ c', RI b sA'.r c') →
    P2 (fun x y sA' sB' => y = (x.1.map F.ι, x.2) ∧ SRLim F b sA' sB' ∧
        ((x.2.hasChildren = true ∨ x.1 = none) → SR F b sA' sB') ∧
        ((BP.listItem = .list ∨ BP.listItem = .listItem) → x.1.isSome = true →
          sB'.pc.emptyItemBlank = sA'.pc.emptyItemBlank))
      (listItemOpen parent sA) (listItemOpen (F.ι parent) sB) := by
  intro parent sA sB h _ hri
  suffices hw : P2 (fun x y sA' sB' => y = (x.1.map F.ι, x.2) ∧ li_sim_W F sA' sB' ∧
      (x.1.isSome = true → sB'.pc.emptyItemBlank = sA'.pc.emptyItemBlank))
      (listItemOpen parent sA) (listItemOpen (F.ι parent) sB) by
    intro a sA' a' sB' e1 e2
    obtain ⟨q1, ⟨q2, q3, q4⟩, q5⟩ := hw a sA' a' sB' e1 e2
    have hsr : SR F b sA' sB' := ⟨hri a sA' e1, q2, q3, q4⟩
    exact ⟨q1, hsr.limbo, fun _ => hsr, fun _ => q5⟩
  have none_ : ∀ {sA1 sB1}, SR F b sA1 sB1 → P2 (fun x y sA' sB' => y = (x.1.map F.ι, x.2) ∧ li_sim_W F sA' sB' ∧
      (x.1.isSome = true → sB'.pc.emptyItemBlank = sA'.pc.emptyItemBlank))
      ((pure (none, stNoChildren) : M (Option Nat × PState)) sA1) ((pure (none, stNoChildren) : M (Option Nat × PState)) sB1) :=
    fun h1 => P2.pure ⟨rfl, h1.li_sim_w, fun hh => by simp at hh⟩
  unfold listItemOpen
  refine P2.bind (getNode_p2 h parent) (fun n m sA0 sB0 ⟨hn, hm, e1, e2⟩ => ?_)
  rw [e1, e2, hm, shN_kind]
  by_cases c0 : (n.kind != Kind.list) = true
  · ifp c0; exact none_ h
  · ifn c0
    have hp0 : parent ≠ 0 := by
      intro e; subst e
      rw [hn, h.n.doc] at c0; exact c0 (by decide)
    refine P2.bind (li_sim_lastOffset h.l parent) (fun off off' sA2 sB2 ⟨hoff, e3, e4⟩ => ?_)
    rw [e3, e4, hoff (.inr hp0)]
    refine P2.bind (peekLine_p2 h) (fun x y sA1 sB1 ⟨⟨c, hc, hx⟩, hy, h1⟩ => ?_)
    rw [hy, hx]
    simp only []
    generalize (RCur.view b c).getD [] = line
    generalize matchesListItem line false = mt
    by_cases c1 : (mt.2 == ListTyp.notList) = true
    · ifp c1; exact none_ h1
    · ifn c1
      by_cases c2 : mt.1.r1 - off > 3
      · ifp c2; exact none_ h1
      · ifn c2
        refine P2.bind (li_sim_modPc_flag h1 false) (fun _ _ sA3 sB3 ⟨h3, f1, f2⟩ => ?_)
        refine P2.bind (li_sim_P2_with (lineOffset_p2 h3) (R := fun _ s => s.pc = sA3.pc) (R' := fun _ s => s.pc = sB3.pc)
          (fun _ _ e => li_sim_lineOffset_pc e) (fun _ _ e => li_sim_lineOffset_pc e))
          (fun lo lo' sA4 sB4 ⟨⟨hlo, _, h4⟩, g1, g2⟩ => ?_)
        rw [hlo]
        refine P2.bind (P := fun s t sA' sB' => t = s ∧ sA' = sA4 ∧ sB' = sB4)
          (P2.liftE_same (fun a _ => ⟨rfl, rfl, rfl⟩)) (fun io io' sA5 sB5 ⟨ht, e5, e6⟩ => ?_)
        rw [ht, e5, e6]
        refine P2.bind (li_sim_P2_with (newNode_p2 h4 _ _ (by simp [shN, shClosure])) (R := fun _ s => s.pc = sA4.pc)
          (R' := fun _ s => s.pc = sB4.pc) (fun _ _ e => li_sim_newNode_pc e) (fun _ _ e => li_sim_newNode_pc e))
          (fun nd nd' sA6 sB6 ⟨⟨_, hnd', _, h6⟩, g3, g4⟩ => ?_)
        rw [hnd']
        have hfl6 : sB6.pc.emptyItemBlank = sA6.pc.emptyItemBlank := by rw [g3, g4, g1, g2, f1, f2]
        by_cases c3 : mt.1.r4 < 0
        · ifp c3; exact P2.pure ⟨rfl, h6.li_sim_w, fun _ => hfl6⟩
        · ifn c3
          refine P2.bind (P := fun s t sA' sB' => t = s ∧ sA' = sA6 ∧ sB' = sB6)
            (P2.liftE_same (fun a _ => ⟨rfl, rfl, rfl⟩)) (fun sl sl' sA7 sB7 ⟨ht2, e7, e8⟩ => ?_)
          rw [ht2, e7, e8]
          by_cases c4 : isBlank sl = true
          · ifp c4; exact P2.pure ⟨rfl, h6.li_sim_w, fun _ => hfl6⟩
          · ifn c4
            refine P2.bind (P := fun s t sA' sB' => t = s ∧ sA' = sA6 ∧ sB' = sB6)
              (P2.liftE_same (fun a _ => ⟨rfl, rfl, rfl⟩)) (fun sf sf' sA8 sB8 ⟨ht3, e9, e10⟩ => ?_)
            rw [ht3, e9, e10]
            refine P2.bind (li_sim_P2_with (li_sim_advPad_w h6 _ _) (R := fun _ s => s.pc = sA6.pc)
              (R' := fun _ s => s.pc = sB6.pc) (fun _ _ e => li_sim_advPad_pc e) (fun _ _ e => li_sim_advPad_pc e))
              (fun _ _ sA9 sB9 ⟨h9, g5, g6⟩ => ?_)
            exact P2.pure ⟨rfl, h9, fun _ => by rw [g5, g6]; exact hfl6⟩

end GM.Blocks.Sh
