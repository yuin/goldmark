/-
  GM.Proof.Reader — lemmas for property C18: the reader models refine the cursor specification.
-/
import GM.Model.Reader
import GM.Spec.Cursor

namespace GM.Proof.Reader
open GM GM.Text GM.Spec

theorem lineLen_le (l : Bytes) : lineLen l ≤ l.length := by
  induction l with
  | nil => simp [lineLen]
  | cons c cs ih => simp only [lineLen]; split <;> simp <;> omega

theorem lineLen_pos {l : Bytes} (h : l ≠ []) : 0 < lineLen l := by
  cases l with
  | nil => exact absurd rfl h
  | cons c cs => simp only [lineLen]; split <;> omega

theorem lineLen_nl_before (l : Bytes) (h : lineLen l < l.length) : l[lineLen l - 1]? = some 10 := by
  induction l with
  | nil => simp at h
  | cons c cs ih =>
    by_cases hc : c = 10
    · simp [lineLen, hc]
    · have hc' : (c == 10) = false := by simp [hc]
      simp only [lineLen, hc', Bool.false_eq_true, if_false, List.length_cons] at h ⊢
      have h' : lineLen cs < cs.length := by omega
      have hne : cs ≠ [] := by intro e; subst e; simp at h'
      have hp := lineLen_pos hne
      have := ih h'
      have e : 1 + lineLen cs - 1 = (lineLen cs - 1) + 1 := by omega
      rw [e, List.getElem?_cons_succ]; exact this

theorem lineEnd_le (src : Bytes) (p : Nat) : lineEnd src p ≤ src.length := by
  unfold lineEnd; split
  · have := lineLen_le (src.drop p); simp at this; omega
  · omega

theorem lineEnd_ge (src : Bytes) {p : Nat} (h : p ≤ src.length) : p ≤ lineEnd src p := by
  unfold lineEnd; simp [h]

theorem lt_lineEnd (src : Bytes) {p : Nat} (h : p < src.length) : p < lineEnd src p := by
  unfold lineEnd
  have hne : src.drop p ≠ [] := by
    intro e; have := congrArg List.length e; simp at this; omega
  have := lineLen_pos hne
  simp [Nat.le_of_lt h]; omega

theorem lineEnd_of_ge (src : Bytes) {p : Nat} (h : src.length ≤ p) : lineEnd src p = src.length := by
  unfold lineEnd; split
  · have : p = src.length := by omega
    subst this; simp [lineLen]
  · rfl

theorem lineEnd_nl (src : Bytes) {p : Nat} (h : src[p]? = some 10) : lineEnd src p = p + 1 := by
  have hp : p < src.length := by
    rcases Nat.lt_or_ge p src.length with h' | h'
    · exact h'
    · simp [List.getElem?_eq_none h'] at h
  have hb : src[p] = 10 := by simpa [List.getElem?_eq_getElem hp] using h
  unfold lineEnd
  rw [if_pos (Nat.le_of_lt hp), List.drop_eq_getElem_cons hp]
  simp [lineLen, hb]

theorem lineEnd_succ (src : Bytes) {p : Nat} (hp : p < src.length) (h : src[p]? ≠ some 10) :
    lineEnd src p = lineEnd src (p + 1) := by
  have hb : src[p] ≠ 10 := by simpa [List.getElem?_eq_getElem hp] using h
  unfold lineEnd
  rw [if_pos (Nat.le_of_lt hp), if_pos (by omega : p + 1 ≤ src.length), List.drop_eq_getElem_cons hp]
  simp [lineLen, hb]; omega

theorem lineStart_le (src : Bytes) (p : Nat) : lineStart src p ≤ p := by
  induction p with
  | zero => simp [lineStart]
  | succ p ih => simp only [lineStart]; split <;> omega

/-- the byte before the end of a line that is not the end of the source is the newline -/
theorem lineEnd_nl_before (src : Bytes) {p : Nat} (hp : p ≤ src.length) (h : lineEnd src p < src.length) :
    src[lineEnd src p - 1]? = some 10 := by
  unfold lineEnd at h ⊢
  rw [if_pos hp] at h ⊢
  have h1 : lineLen (src.drop p) < (src.drop p).length := by simp; omega
  have h2 := lineLen_nl_before _ h1
  have hne : src.drop p ≠ [] := by intro e; rw [e] at h1; simp at h1
  have h3 := lineLen_pos hne
  rw [List.getElem?_drop] at h2
  have e : p + lineLen (src.drop p) - 1 = p + (lineLen (List.drop p src) - 1) := by omega
  rw [e]; exact h2

theorem lineStart_lineEnd (src : Bytes) {p : Nat} (hp : p < src.length) (h : lineEnd src p < src.length) :
    lineStart src (lineEnd src p) = lineEnd src p := by
  have h1 := lineEnd_nl_before src (Nat.le_of_lt hp) h
  have h2 := lt_lineEnd src hp
  obtain ⟨q, hq⟩ : ∃ q, lineEnd src p = q + 1 := ⟨lineEnd src p - 1, by omega⟩
  rw [hq] at h1 ⊢
  simp only [lineStart]
  simp at h1
  simp [h1]

theorem sliceB_ok (src : Bytes) {a b : Int} (h0 : 0 ≤ a) (h1 : a ≤ b) (h2 : b ≤ src.length) :
    sliceB src a b = .ok (sub src a.toNat b.toNat) := by
  unfold sliceB; rw [if_pos ⟨h0, h1, h2⟩]

theorem value_spec (src : Bytes) (t : Segment) (h : segInRange src t) :
    t.value src = .ok (segValue src t) := by
  obtain ⟨h0, h1, h2, h3⟩ := h
  unfold Segment.value
  by_cases hp : t.padding = 0
  · have hp' : (t.padding == 0) = true := by simp [hp]
    rw [if_pos hp', sliceB_ok src h0 h1 h2]
    simp only [bind, Except.bind, pure, Except.pure]
    unfold segValue
    simp only [hp, Int.toNat_zero, spaces, List.replicate_zero, List.nil_append]
    by_cases hn : needsNewline t (sub src t.start.toNat t.stop.toNat) = true
    · rw [if_pos hn]
      unfold needsNewline at hn
      simp only [hn, if_true]
    · rw [if_neg hn]
      unfold needsNewline at hn
      simp only [hn]
      simp
  · have hp' : ¬ ((t.padding == 0) = true) := by simp [hp]
    rw [if_neg hp']
    have e1 : ¬ (t.padding + t.stop - t.start + 1 < 0) := by omega
    have e2 : ¬ (t.padding < 0) := by omega
    simp only [bind, Except.bind, pure, Except.pure, e1, e2, if_false, sliceB_ok src h0 h1 h2, throw, throwThe,
      MonadExceptOf.throw]
    unfold segValue needsNewline
    split <;> simp_all

/-- the abstraction relation: which reader states stand for the cursor `c` over `src` -/
structure RAbs (src : Bytes) (r : Reader) (c : RCur) : Prop where
  source : r.source = src
  line : r.line = c.ln
  pos : r.pos = { start := c.p, stop := lineEnd src c.p, padding := c.pad, forceNewline := false }
  inRange : c.p ≤ src.length
  head : c.p < src.length → r.head = lineStart src c.p
  peeked : r.peekedLine = none ∨ r.peekedLine = RCur.view src c
  lo : r.lineOffset < 0 ∨
    (c.p < src.length ∧ r.lineOffset = (colFrom (sub src (lineStart src c.p) c.p) 0 : Int) - c.pad)

theorem sub_cons (src : Bytes) {p e : Nat} (hp : p < src.length) (he : p < e) :
    sub src p e = src[p] :: sub src (p + 1) e := by
  unfold sub
  rw [List.drop_eq_getElem_cons hp]
  obtain ⟨k, hk⟩ : ∃ k, e - p = k + 1 := ⟨e - p - 1, by omega⟩
  rw [hk, List.take_succ_cons]
  have : e - (p + 1) = k := by omega
  rw [this]

theorem getByte_ok (src : Bytes) {p : Nat} (hp : p < src.length) : getByte src (p : Int) = .ok src[p] := by
  unfold getByte
  have : ¬ ((p : Int) < 0) := by omega
  simp [this, List.getElem?_eq_getElem hp]

variable {src : Bytes} {r : Reader} {c : RCur}

theorem pos_wf (h : RAbs src r c) : segInRange src r.pos := by
  rw [h.pos]
  have h1 := lineEnd_le src c.p
  have h2 := lineEnd_ge src h.inRange
  exact ⟨by simp, by simp; omega, by simp; omega, by simp⟩

theorem segValue_pos (c : RCur) : segValue src (RCur.seg src c) = spaces c.pad ++ sub src c.p (lineEnd src c.p) := by
  simp [segValue, RCur.seg]

theorem peek_ref (h : RAbs src r c) : r.peek = .ok (RCur.peek src c) := by
  unfold Reader.peek Reader.sourceLength RCur.peek RCur.view
  rw [h.pos, h.source]
  by_cases hp : c.p < src.length
  · have h1 : ((c.p : Int) ≥ 0 ∧ (c.p : Int) < (src.length : Int)) := by omega
    simp only [h1, and_self, if_true, hp]
    by_cases hz : c.pad = 0
    · have he := lt_lineEnd src hp
      simp [hz, spaces, getByte_ok src hp, sub_cons src hp he, pure, Except.pure]
    · obtain ⟨k, hk⟩ : ∃ k, c.pad = k + 1 := ⟨c.pad - 1, by omega⟩
      have : ((c.pad : Int) != 0) = true := by simp; omega
      rw [if_pos this]
      simp [hk, spaces, List.replicate_succ, pure, Except.pure]
  · have h1 : ¬ ((c.p : Int) ≥ 0 ∧ (c.p : Int) < (src.length : Int)) := by omega
    simp [h1, hp, pure, Except.pure]

theorem peekLine_ref (h : RAbs src r c) :
    ∃ r', r.peekLine = .ok ((RCur.peekLine src c).1, r') ∧ RAbs src r' (RCur.peekLine src c).2 := by
  unfold Reader.peekLine Reader.sourceLength RCur.peekLine
  by_cases hp : c.p < src.length
  · have h1 : (r.pos.start ≥ 0 ∧ r.pos.start < (r.source.length : Int)) := by rw [h.pos, h.source]; simp; omega
    simp only [h1, and_self, if_true, hp]
    have hv : RCur.view src c = some (spaces c.pad ++ sub src c.p (lineEnd src c.p)) := by simp [RCur.view, hp]
    have hseg : RCur.seg src c = r.pos := by rw [h.pos]; rfl
    rcases hpl : r.peekedLine with _ | l
    · have hw := pos_wf h
      have := value_spec src r.pos hw
      have hsv : segValue src r.pos = spaces c.pad ++ sub src c.p (lineEnd src c.p) := by
        rw [← hseg, segValue_pos]
      rw [h.source, this]
      simp only [bind, Except.bind, pure, Except.pure]
      refine ⟨_, by rw [hv, hsv, hseg], ?_⟩
      exact { source := rfl, line := h.line, pos := h.pos, inRange := h.inRange, head := h.head,
              peeked := Or.inr (by simp [RCur.view, hp, hsv]), lo := h.lo }
    · have := h.peeked
      rw [hpl] at this
      simp at this
      simp only [pure, Except.pure]
      refine ⟨r, by rw [this, hseg], ?_⟩
      exact { source := h.source, line := h.line, pos := h.pos, inRange := h.inRange, head := h.head,
              peeked := h.peeked, lo := h.lo }
  · have h1 : ¬ (r.pos.start ≥ 0 ∧ r.pos.start < (r.source.length : Int)) := by rw [h.pos, h.source]; simp; omega
    have hseg : RCur.seg src c = r.pos := by rw [h.pos]; rfl
    simp only [h1, if_false, hp, pure, Except.pure]
    refine ⟨r, by simp [RCur.view, hp, hseg], h⟩

theorem position_ref (h : RAbs src r c) : r.position = RCur.position src c := by
  simp [Reader.position, RCur.position, h.line, h.pos, RCur.seg]

theorem colLoop_ok (src : Bytes) {a b : Nat} (hab : a ≤ b) (hb : b ≤ src.length) :
    colLoop src a b = .ok (colFrom (sub src a b) 0) := by
  unfold colLoop
  by_cases e : a = b
  · subst e; simp [sub, colFrom]
  · have h1 : ¬ ((a : Int) ≥ (b : Int)) := by omega
    have h2 : ¬ ((a : Int) < 0 ∨ (b : Int) > (src.length : Int)) := by omega
    simp [h1, hb]

theorem lineOffset_ref (h : RAbs src r c) {v : Int} {c' : RCur} (hs : RCur.lineOffset src c = .ok (v, c')) :
    ∃ r', r.lineOffsetOp = .ok (v, r') ∧ RAbs src r' c' := by
  unfold RCur.lineOffset at hs
  by_cases hp : c.p < src.length
  · simp only [hp, if_true, Except.ok.injEq, Prod.mk.injEq] at hs
    obtain ⟨hv, hc⟩ := hs
    subst hc
    unfold Reader.lineOffsetOp
    by_cases hlo : r.lineOffset < 0
    · simp only [hlo, if_true]
      rw [h.source, h.head hp, h.pos]
      simp only [colLoop_ok src (lineStart_le src c.p) h.inRange, bind, Except.bind, pure, Except.pure]
      refine ⟨_, by rw [hv], ?_⟩
      exact { source := rfl, line := h.line, pos := by simp, inRange := h.inRange,
              head := fun _ => by simp, peeked := h.peeked, lo := Or.inr ⟨hp, by simp [← hv]⟩ }
    · simp only [hlo, if_false, pure, Except.pure]
      rcases h.lo with h1 | ⟨_, h1⟩
      · exact absurd h1 hlo
      · refine ⟨r, by simp [h1, ← hv], ?_⟩
        exact { source := h.source, line := h.line, pos := h.pos, inRange := h.inRange, head := h.head,
                peeked := h.peeked, lo := h.lo }
  · simp [hp] at hs

theorem advanceLine_ref (h : RAbs src r c) : RAbs src r.advanceLine (RCur.advanceLine src c) := by
  have h1 := lineEnd_le src c.p
  have h2 := lineEnd_ge src h.inRange
  unfold Reader.advanceLine
  have hs : ¬ (r.pos.stop < 0) := by rw [h.pos]; simp
  simp only [hs, if_false]
  exact {
    source := h.source
    line := by simp [RCur.advanceLine, h.line]
    pos := by simp [RCur.advanceLine, h.pos, h.source]
    inRange := by simp [RCur.advanceLine]; omega
    head := by
      intro hlt
      simp only [RCur.advanceLine] at hlt ⊢
      have hp : c.p < src.length := by
        rcases Nat.lt_or_ge c.p src.length with h' | h'
        · exact h'
        · rw [lineEnd_of_ge src h'] at hlt; omega
      rw [lineStart_lineEnd src hp hlt, h.pos]
    peeked := Or.inl rfl
    lo := Or.inl (by simp) }

theorem setPosition_ref (h : RAbs src r c) {line : Int} {s : Segment} {c' : RCur}
    (hs : RCur.setPosition src line s c = .ok c') : RAbs src (r.setPosition line s) c' := by
  unfold RCur.setPosition at hs
  by_cases hw : RCur.WFPos src s
  · simp only [hw, if_true, Except.ok.injEq] at hs
    subst hs
    obtain ⟨w0, w1, w2, w3, w4⟩ := hw
    unfold Reader.setPosition Reader.sourceLength
    exact {
      source := h.source
      line := rfl
      pos := by
        cases s
        simp_all
        omega
      inRange := by simp; omega
      head := by
        intro _
        simp only [h.source]
        by_cases hz : 0 < s.start
        · have : (0 < s.start ∧ s.start ≤ (src.length : Int)) := ⟨hz, w1⟩
          simp [this]
        · have e : s.start = 0 := by omega
          simp [e, lineStart]
      peeked := Or.inl rfl
      lo := Or.inl (by simp) }
  · simp [hw] at hs

theorem setPadding_ref (h : RAbs src r c) {v : Int} {c' : RCur}
    (hs : RCur.setPadding v c = .ok c') : RAbs src (r.setPadding v) c' := by
  unfold RCur.setPadding at hs
  by_cases hw : 0 ≤ v
  · simp only [hw, if_true, Except.ok.injEq] at hs
    subst hs
    have hv : ((v.toNat : Nat) : Int) = v := Int.toNat_of_nonneg hw
    unfold Reader.setPadding
    exact { source := h.source, line := h.line, pos := by simp [h.pos, hv], inRange := h.inRange,
            head := h.head, peeked := Or.inl rfl, lo := Or.inl (by simp) }
  · simp [hw] at hs

theorem value_ref (h : RAbs src r c) {s : Segment} {v : Bytes} {c' : RCur}
    (hs : RCur.value src s c = .ok (v, c')) : r.valueOp s = .ok v ∧ c' = c := by
  unfold RCur.value at hs
  by_cases hw : segInRange src s
  · simp only [hw, if_true, Except.ok.injEq, Prod.mk.injEq] at hs
    obtain ⟨hv, hc⟩ := hs
    unfold Reader.valueOp
    rw [h.source, value_spec src s hw, hv]
    exact ⟨rfl, hc.symm⟩
  · simp [hw] at hs

theorem adv1_eof (src : Bytes) (c : RCur) (h : ¬ c.p < src.length) : RCur.adv1 src c = c := by
  simp [RCur.adv1, h]

theorem advN_eof (src : Bytes) (n : Nat) (c : RCur) (h : ¬ c.p < src.length) : RCur.advN src n c = c := by
  induction n with
  | zero => rfl
  | succ n ih => simp only [RCur.advN, adv1_eof src c h, ih]

theorem RAbs.clear (h : RAbs src r c) :
    RAbs src { r with lineOffset := -1, peekedLine := none } c :=
  { source := h.source, line := h.line, pos := h.pos, inRange := h.inRange, head := h.head,
    peeked := Or.inl rfl, lo := Or.inl (by simp) }

theorem advanceLoop_ref (n : Nat) : ∀ {r : Reader} {c : RCur}, RAbs src r c →
    r.peekedLine = none → r.lineOffset < 0 →
    ∃ r', r.advanceLoop n = .ok r' ∧ RAbs src r' (RCur.advN src n c) := by
  induction n with
  | zero => intro r c h _ _; exact ⟨r, rfl, h⟩
  | succ n ih =>
    intro r c h f1 f2
    simp only [Reader.advanceLoop, RCur.advN, Reader.sourceLength]
    by_cases hp : c.p < src.length
    · have h1 : r.pos.start < (r.source.length : Int) := by rw [h.pos, h.source]; simp; omega
      rw [if_pos h1]
      by_cases hz : c.pad = 0
      · have hz' : ¬ ((r.pos.padding != 0) = true) := by rw [h.pos]; simp [hz]
        rw [if_neg hz', h.source, h.pos]
        simp only [getByte_ok src hp, bind, Except.bind]
        by_cases hb : src[c.p] = 10
        · have hb' : src[c.p]? = some 10 := by simp [List.getElem?_eq_getElem hp, hb]
          have e : RCur.adv1 src c = RCur.advanceLine src c := by
            cases c
            simp_all [RCur.adv1, RCur.advanceLine, lineEnd_nl src hb']
          simp only [hb, beq_self_eq_true, if_true]
          rw [e]
          exact ih (advanceLine_ref h) (by simp [Reader.advanceLine]; split <;> rfl) (by simp [Reader.advanceLine]; split <;> simp)
        · have hb' : src[c.p]? ≠ some 10 := by simp [List.getElem?_eq_getElem hp, hb]
          have hb2 : (src[c.p] == 10) = false := by simp [hb]
          simp only [hb2, Bool.false_eq_true, if_false]
          have e : RCur.adv1 src c = { c with p := c.p + 1 } := by
            simp [RCur.adv1, hp, hz, hb]
          rw [e]
          refine ih ?_ f1 f2
          exact {
            source := rfl, line := h.line
            pos := by simp [lineEnd_succ src hp hb']
            inRange := by simp; omega
            head := by
              intro _
              have := h.head hp
              simp only [lineStart]
              simp [hb', this]
            peeked := Or.inl f1, lo := Or.inl f2 }
      · have hz' : (r.pos.padding != 0) = true := by rw [h.pos]; simp; omega
        rw [if_pos hz']
        have e : RCur.adv1 src c = { c with pad := c.pad - 1 } := by simp [RCur.adv1, hp, hz]
        rw [e]
        refine ih (r := { r with pos := { r.pos with padding := r.pos.padding - 1 } }) ?_ f1 f2
        exact {
          source := h.source, line := h.line
          pos := by simp [h.pos]; omega
          inRange := h.inRange, head := h.head
          peeked := Or.inl f1, lo := Or.inl f2 }
    · have h1 : ¬ (r.pos.start < (r.source.length : Int)) := by rw [h.pos, h.source]; simp; omega
      rw [if_neg h1]
      have e : RCur.adv1 src c = c := by simp [RCur.adv1, hp]
      rw [e, advN_eof src n c hp]
      exact ⟨r, rfl, h⟩

/-- inside a line, with no padding, n steps are n bytes -/
theorem advN_inline (src : Bytes) (n : Nat) : ∀ (c : RCur), c.pad = 0 → c.p + n < lineEnd src c.p →
    RCur.advN src n c = { c with p := c.p + n } ∧ lineEnd src (c.p + n) = lineEnd src c.p ∧
    lineStart src (c.p + n) = lineStart src c.p := by
  induction n with
  | zero => intro c _ _; exact ⟨rfl, rfl, rfl⟩
  | succ n ih =>
    intro c hz hlt
    have hle := lineEnd_le src c.p
    have hp : c.p < src.length := by omega
    have hb' : src[c.p]? ≠ some 10 := by
      intro hb; rw [lineEnd_nl src hb] at hlt; omega
    have hb : ¬ src[c.p] = 10 := by simpa [List.getElem?_eq_getElem hp] using hb'
    have e : RCur.adv1 src c = { c with p := c.p + 1 } := by simp [RCur.adv1, hp, hz, hb]
    have hs := lineEnd_succ src hp hb'
    obtain ⟨i1, i2, i3⟩ := ih { c with p := c.p + 1 } hz (by simp; omega)
    simp only [RCur.advN]
    rw [e, i1]
    simp only at i2 i3
    refine ⟨by simp; omega, ?_, ?_⟩
    · rw [show c.p + (n + 1) = c.p + 1 + n by omega, i2, hs]
    · rw [show c.p + (n + 1) = c.p + 1 + n by omega, i3]
      simp only [lineStart]; simp [hb']

theorem length_sub (src : Bytes) {a b : Nat} (hb : b ≤ src.length) : (sub src a b).length = b - a := by
  simp [sub]; omega

theorem advance_ref (h : RAbs src r c) {n : Int} {c' : RCur} (hs : RCur.advance src n c = .ok c') :
    ∃ r', r.advance n = .ok r' ∧ RAbs src r' c' := by
  unfold RCur.advance at hs
  by_cases hn : 0 ≤ n
  · simp only [hn, if_true, Except.ok.injEq] at hs
    subst hs
    obtain ⟨m, rfl⟩ : ∃ m : Nat, n = m := ⟨n.toNat, (Int.toNat_of_nonneg hn).symm⟩
    simp only [Int.toNat_natCast]
    have slow : ∃ r', Reader.advanceLoop { r with lineOffset := -1, peekedLine := none } m = .ok r' ∧
        RAbs src r' (RCur.advN src m c) :=
      advanceLoop_ref (src := src) m (h.clear) rfl (by simp)
    unfold Reader.advance
    simp only
    rcases hpl : r.peekedLine with _ | l
    · have hnf : ¬ (((m : Int) < 0) ∧ (r.pos.padding == 0) = true) := by omega
      simp only [hnf, if_false, Int.toNat_natCast]
      exact slow
    · simp only
      by_cases hfast : ((m : Int) < (l.length : Int)) ∧ (r.pos.padding == 0) = true
      · rw [if_pos hfast]
        obtain ⟨hf1, hf2⟩ := hfast
        have hz : c.pad = 0 := by rw [h.pos] at hf2; simpa using hf2
        have hv := h.peeked
        rw [hpl] at hv
        simp only [reduceCtorEq, false_or] at hv
        have hp : c.p < src.length := by
          rcases Nat.lt_or_ge c.p src.length with h' | h'
          · exact h'
          · simp [RCur.view, Nat.not_lt.mpr h'] at hv
        simp only [RCur.view, hp, if_true, Option.some.injEq] at hv
        have hl : l.length = lineEnd src c.p - c.p := by
          rw [hv, hz]; simp [spaces, length_sub src (lineEnd_le src c.p)]
        have hlt : c.p + m < lineEnd src c.p := by
          have := lt_lineEnd src hp
          omega
        obtain ⟨i1, i2, i3⟩ := advN_inline src m c hz hlt
        refine ⟨_, rfl, ?_⟩
        rw [i1]
        have hle := lineEnd_le src c.p
        exact {
          source := h.source, line := h.line
          pos := by simp [h.pos, i2]
          inRange := by simp; omega
          head := by intro _; simp [h.head hp, i3]
          peeked := Or.inl rfl, lo := Or.inl (by simp) }
      · rw [if_neg hfast]
        simp only [Int.toNat_natCast]
        exact slow
  · simp [hn] at hs

/-! ### the helpers written against the interface simulate whenever the interface calls do -/

theorem bind_ok {ε α β : Type} {x : Except ε α} {f : α → Except ε β} {y : β} (h : (x >>= f) = .ok y) :
    ∃ a, x = .ok a ∧ f a = .ok y := by
  cases x with
  | error e => simp [bind, Except.bind] at h
  | ok a => exact ⟨a, rfl, h⟩

/-- the interface of an implementation simulates the interface of a specification through `A` -/
structure Sim {σ τ : Type} (A : σ → τ → Prop) (oc : Ops σ) (os : Ops τ) : Prop where
  peekLine : ∀ {r c x c'}, A r c → os.peekLine c = .ok (x, c') → ∃ r', oc.peekLine r = .ok (x, r') ∧ A r' c'
  advance : ∀ {r c n c'}, A r c → os.advance n c = .ok c' → ∃ r', oc.advance n r = .ok r' ∧ A r' c'
  advanceLine : ∀ {r c c'}, A r c → os.advanceLine c = .ok c' → ∃ r', oc.advanceLine r = .ok r' ∧ A r' c'
  position : ∀ {r c}, A r c → oc.position r = os.position c
  setPosition : ∀ {r c l p c'}, A r c → os.setPosition l p c = .ok c' →
    ∃ r', oc.setPosition l p r = .ok r' ∧ A r' c'

section generic
variable {σ τ : Type} {A : σ → τ → Prop} {oc : Ops σ} {os : Ops τ}

theorem skipBlankLines_sim (S : Sim A oc os) (fuel : Nat) : ∀ {lines : Int} {r : σ} {c : τ} {x c'}, A r c →
    skipBlankLines os fuel lines c = .ok (x, c') → ∃ r', skipBlankLines oc fuel lines r = .ok (x, r') ∧ A r' c' := by
  induction fuel with
  | zero => intro lines r c x c' _ h; simp [skipBlankLines] at h
  | succ fuel ih =>
    intro lines r c x c' hA h
    simp only [skipBlankLines] at h ⊢
    obtain ⟨⟨⟨line, seg⟩, c1⟩, h1, h2⟩ := bind_ok h
    obtain ⟨r1, hr1, hA1⟩ := S.peekLine hA h1
    rw [hr1]; simp only [bind, Except.bind]
    cases line with
    | none =>
      simp only [pure, Except.pure, Except.ok.injEq, Prod.mk.injEq] at h2 ⊢
      obtain ⟨e1, e2⟩ := h2; subst e2
      exact ⟨r1, ⟨e1, rfl⟩, hA1⟩
    | some l =>
      by_cases hb : isBlank l = true
      · simp only [hb, if_true] at h2 ⊢
        obtain ⟨c2, h3, h4⟩ := bind_ok h2
        obtain ⟨r2, hr2, hA2⟩ := S.advanceLine hA1 h3
        rw [hr2]
        exact ih hA2 h4
      · simp only [hb] at h2 ⊢
        simp only [pure, Except.pure, Except.ok.injEq, Prod.mk.injEq, Bool.false_eq_true, if_false] at h2 ⊢
        obtain ⟨e1, e2⟩ := h2; subst e2
        exact ⟨r1, ⟨e1, rfl⟩, hA1⟩

theorem skipSpacesLine_sim (S : Sim A oc os) (segment : Segment) (l : Bytes) :
    ∀ {i chars : Int} {r : σ} {c : τ} {res ch c'}, A r c →
    skipSpacesLine os segment l i chars c = .ok (res, ch, c') →
    ∃ r', skipSpacesLine oc segment l i chars r = .ok (res, ch, r') ∧ A r' c' := by
  induction l with
  | nil =>
    intro i chars r c res ch c' hA h
    simp only [skipSpacesLine, pure, Except.pure, Except.ok.injEq, Prod.mk.injEq] at h ⊢
    obtain ⟨e1, e2, e3⟩ := h; subst e3
    exact ⟨r, ⟨e1, e2, rfl⟩, hA⟩
  | cons b bs ih =>
    intro i chars r c res ch c' hA h
    simp only [skipSpacesLine] at h ⊢
    by_cases hb : isSpace b = true
    · simp only [hb, if_true] at h ⊢
      obtain ⟨c1, h1, h2⟩ := bind_ok h
      obtain ⟨r1, hr1, hA1⟩ := S.advance hA h1
      rw [hr1]
      exact ih hA1 h2
    · simp only [hb, Bool.false_eq_true, if_false, pure, Except.pure, Except.ok.injEq, Prod.mk.injEq] at h ⊢
      obtain ⟨e1, e2, e3⟩ := h; subst e3
      exact ⟨r, ⟨e1, e2, rfl⟩, hA⟩

theorem skipSpaces_sim (S : Sim A oc os) (fuel : Nat) : ∀ {chars : Int} {r : σ} {c : τ} {x c'}, A r c →
    skipSpaces os fuel chars c = .ok (x, c') → ∃ r', skipSpaces oc fuel chars r = .ok (x, r') ∧ A r' c' := by
  induction fuel with
  | zero => intro chars r c x c' _ h; simp [skipSpaces] at h
  | succ fuel ih =>
    intro chars r c x c' hA h
    simp only [skipSpaces] at h ⊢
    obtain ⟨⟨⟨line, seg⟩, c1⟩, h1, h2⟩ := bind_ok h
    obtain ⟨r1, hr1, hA1⟩ := S.peekLine hA h1
    rw [hr1]; simp only [bind, Except.bind]
    cases line with
    | none =>
      simp only [pure, Except.pure, Except.ok.injEq, Prod.mk.injEq] at h2 ⊢
      obtain ⟨e1, e2⟩ := h2; subst e2
      exact ⟨r1, ⟨e1, rfl⟩, hA1⟩
    | some l =>
      obtain ⟨⟨res, ch, c2⟩, h3, h4⟩ := bind_ok h2
      obtain ⟨r2, hr2, hA2⟩ := skipSpacesLine_sim S seg l hA1 h3
      have : skipSpacesLine oc seg l 0 chars r1 = .ok (res, ch, r2) := hr2
      simp only [bind, Except.bind] at this ⊢
      rw [this]
      cases res with
      | some v =>
        simp only [pure, Except.pure, Except.ok.injEq, Prod.mk.injEq] at h4 ⊢
        obtain ⟨e1, e2⟩ := h4; subst e2
        exact ⟨r2, ⟨e1, rfl⟩, hA2⟩
      | none => exact ih hA2 h4

theorem readRune_sim (S : Sim A oc os) {r : σ} {c : τ} {x c'} (hA : A r c)
    (h : readRune os c = .ok (x, c')) : ∃ r', readRune oc r = .ok (x, r') ∧ A r' c' := by
  simp only [readRune] at h ⊢
  obtain ⟨⟨⟨line, seg⟩, c1⟩, h1, h2⟩ := bind_ok h
  obtain ⟨r1, hr1, hA1⟩ := S.peekLine hA h1
  rw [hr1]; simp only [bind, Except.bind]
  cases line with
  | none =>
    simp only [pure, Except.pure, Except.ok.injEq, Prod.mk.injEq] at h2 ⊢
    obtain ⟨e1, e2⟩ := h2; subst e2
    exact ⟨r1, ⟨e1, rfl⟩, hA1⟩
  | some l =>
    by_cases hb : ((decodeRune l).1 == runeError) = true
    · simp only [hb, if_true, pure, Except.pure, Except.ok.injEq, Prod.mk.injEq] at h2 ⊢
      obtain ⟨e1, e2⟩ := h2; subst e2
      exact ⟨r1, ⟨e1, rfl⟩, hA1⟩
    · simp only [hb, Bool.false_eq_true, if_false] at h2 ⊢
      obtain ⟨c2, h3, h4⟩ := bind_ok h2
      obtain ⟨r2, hr2, hA2⟩ := S.advance hA1 h3
      try simp only [bind, Except.bind] at hr2 ⊢
      rw [hr2]
      simp only [pure, Except.pure, Except.ok.injEq, Prod.mk.injEq] at h4 ⊢
      obtain ⟨e1, e2⟩ := h4; subst e2
      exact ⟨r2, ⟨e1, rfl⟩, hA2⟩

theorem findClosureLoop_sim (S : Sim A oc os) (opener closer : UInt8) (opts : FindClosureOptions) (fuel : Nat) :
    ∀ {opened cso : Nat} {ret : Option (List Segment)} {r : σ} {c : τ} {x c'}, A r c →
    findClosureLoop os opener closer opts fuel opened cso ret c = .ok (x, c') →
    ∃ r', findClosureLoop oc opener closer opts fuel opened cso ret r = .ok (x, r') ∧ A r' c' := by
  induction fuel with
  | zero => intro opened cso ret r c x c' _ h; simp [findClosureLoop] at h
  | succ fuel ih =>
    intro opened cso ret r c x c' hA h
    simp only [findClosureLoop] at h ⊢
    obtain ⟨⟨⟨line, seg⟩, c1⟩, h1, h2⟩ := bind_ok h
    obtain ⟨r1, hr1, hA1⟩ := S.peekLine hA h1
    rw [hr1]; simp only [bind, Except.bind]
    cases line with
    | none =>
      simp only [pure, Except.pure, Except.ok.injEq, Prod.mk.injEq] at h2 ⊢
      obtain ⟨e1, e2⟩ := h2; subst e2
      exact ⟨r1, ⟨e1, rfl⟩, hA1⟩
    | some bs =>
      cases hsc : scanLine opener closer opts.codeSpan opts.nesting bs 0 opened cso with
      | found i =>
        simp only [hsc] at h2 ⊢
        obtain ⟨c2, h3, h4⟩ := bind_ok h2
        obtain ⟨r2, hr2, hA2⟩ := S.advance hA1 h3
        try simp only [bind, Except.bind] at hr2 ⊢
        rw [hr2]
        simp only [pure, Except.pure, Except.ok.injEq, Prod.mk.injEq] at h4 ⊢
        obtain ⟨e1, e2⟩ := h4; subst e2
        exact ⟨r2, ⟨e1, rfl⟩, hA2⟩
      | stop =>
        simp only [hsc, pure, Except.pure, Except.ok.injEq, Prod.mk.injEq] at h2 ⊢
        obtain ⟨e1, e2⟩ := h2; subst e2
        exact ⟨r1, ⟨e1, rfl⟩, hA1⟩
      | eol o2 c2 =>
        simp only [hsc] at h2 ⊢
        by_cases hn : (!opts.newline) = true
        · simp only [hn, if_true, pure, Except.pure, Except.ok.injEq, Prod.mk.injEq] at h2 ⊢
          obtain ⟨e1, e2⟩ := h2; subst e2
          exact ⟨r1, ⟨e1, rfl⟩, hA1⟩
        · simp only [hn, Bool.false_eq_true, if_false] at h2 ⊢
          obtain ⟨c3, h3, h4⟩ := bind_ok h2
          obtain ⟨r3, hr3, hA3⟩ := S.advanceLine hA1 h3
          try simp only [bind, Except.bind] at hr3 ⊢
          rw [hr3]
          exact ih hA3 h4

theorem findClosure_sim (S : Sim A oc os) (fuel : Nat) (opener closer : UInt8) (opts : FindClosureOptions)
    {r : σ} {c : τ} {x c'} (hA : A r c) (h : findClosure os fuel opener closer opts c = .ok (x, c')) :
    ∃ r', findClosure oc fuel opener closer opts r = .ok (x, r') ∧ A r' c' := by
  unfold findClosure at h ⊢
  simp only at h ⊢
  rw [S.position hA]
  obtain ⟨⟨⟨ret, closed⟩, c1⟩, h1, h2⟩ := bind_ok h
  obtain ⟨r1, hr1, hA1⟩ := findClosureLoop_sim S opener closer opts fuel hA h1
  rw [hr1]; simp only [bind, Except.bind]
  obtain ⟨c2, h3, h4⟩ := bind_ok h2
  by_cases ha : (!opts.advance) = true
  · simp only [ha, if_true] at h3 ⊢
    obtain ⟨r2, hr2, hA2⟩ := S.setPosition hA1 h3
    rw [hr2]
    cases closed <;>
      · simp only [pure, Except.pure, Except.ok.injEq, Prod.mk.injEq, Bool.false_eq_true, if_false, if_true] at h4 ⊢
        obtain ⟨e1, e2⟩ := h4; subst e2
        exact ⟨r2, ⟨e1, rfl⟩, hA2⟩
  · simp only [ha, Bool.false_eq_true, if_false, pure, Except.pure, Except.ok.injEq] at h3 ⊢
    subst h3
    cases closed <;>
      · simp only [pure, Except.pure, Except.ok.injEq, Prod.mk.injEq, Bool.false_eq_true, if_false, if_true] at h4 ⊢
        obtain ⟨e1, e2⟩ := h4; subst e2
        exact ⟨r1, ⟨e1, rfl⟩, hA1⟩

end generic

theorem readerSim (src : Bytes) : Sim (RAbs src) readerOps (RCur.ops src) where
  peekLine := by
    intro r c x c' hA h
    simp only [RCur.ops, Except.ok.injEq] at h
    obtain ⟨r', h1, h2⟩ := peekLine_ref hA
    rw [h] at h1 h2
    exact ⟨r', h1, h2⟩
  advance := fun hA h => advance_ref hA h
  advanceLine := by
    intro r c c' hA h
    simp only [RCur.ops, Except.ok.injEq] at h
    subst h
    exact ⟨_, rfl, advanceLine_ref hA⟩
  position := fun hA => position_ref hA
  setPosition := fun hA h => ⟨_, rfl, setPosition_ref hA h⟩

/-- a call that runs `f` and wraps its answer is refined when `f` is -/
theorem wrap_ref {σ τ α : Type} {A : σ → τ → Prop} {c' : τ} {out : Out} (wrap : α → Out)
    {f : Except Panic (α × τ)} {g : Except Panic (α × σ)}
    (hfg : ∀ {v c1}, f = .ok (v, c1) → ∃ r1, g = .ok (v, r1) ∧ A r1 c1)
    (hs : (do let (v, c) ← f; pure (wrap v, c)) = .ok (out, c')) :
    ∃ r', (do let (v, r) ← g; pure (wrap v, r)) = .ok (out, r') ∧ A r' c' := by
  obtain ⟨⟨v, c1⟩, h1, h2⟩ := bind_ok hs
  simp only [pure, Except.pure, Except.ok.injEq, Prod.mk.injEq] at h2
  obtain ⟨rfl, rfl⟩ := h2
  obtain ⟨r1, e, a⟩ := hfg h1
  exact ⟨r1, by simp [e, bind, Except.bind, pure, Except.pure], a⟩

/-- the same for a call that only moves the reader -/
theorem unit_ref {σ τ : Type} {A : σ → τ → Prop} {c' : τ} {out : Out}
    {f : Except Panic τ} {g : Except Panic σ}
    (hfg : ∀ {c1}, f = .ok c1 → ∃ r1, g = .ok r1 ∧ A r1 c1)
    (hs : (do let c ← f; pure (Out.unit, c)) = .ok (out, c')) :
    ∃ r', (do let r ← g; pure (Out.unit, r)) = .ok (out, r') ∧ A r' c' := by
  obtain ⟨c1, h1, h2⟩ := bind_ok hs
  simp only [pure, Except.pure, Except.ok.injEq, Prod.mk.injEq] at h2
  obtain ⟨rfl, rfl⟩ := h2
  obtain ⟨r1, e, a⟩ := hfg h1
  exact ⟨r1, by simp [e, bind, Except.bind, pure, Except.pure], a⟩

theorem reader_refines {src : Bytes} {r : Reader} {c : RCur} (h : RAbs src r c) {op : Op} {out : Out} {c' : RCur}
    (hs : RCur.step src c op = .ok (out, c')) : ∃ r', r.step op = .ok (out, r') ∧ RAbs src r' c' := by
  cases op with
  | peek =>
    simp only [RCur.step, Except.ok.injEq, Prod.mk.injEq] at hs
    obtain ⟨e1, e2⟩ := hs; subst e1 e2
    exact ⟨r, by simp [Reader.step, peek_ref h, bind, Except.bind, pure, Except.pure], h⟩
  | peekLine =>
    simp only [RCur.step, Except.ok.injEq, Prod.mk.injEq] at hs
    obtain ⟨e1, e2⟩ := hs; subst e1 e2
    obtain ⟨r', h1, h2⟩ := peekLine_ref h
    exact ⟨r', by simp [Reader.step, h1, bind, Except.bind, pure, Except.pure], h2⟩
  | advance n => exact unit_ref (advance_ref h) hs
  | advanceAndSetPadding n pad =>
    simp only [RCur.step] at hs
    obtain ⟨c1, h1, h2⟩ := bind_ok hs
    obtain ⟨r1, h3, h4⟩ := advance_ref h h1
    have hp : r1.pos.padding = c1.pad := by rw [h4.pos]
    by_cases hgt : pad > (c1.pad : Int)
    · simp only [hgt, if_true] at h2
      obtain ⟨c2, h5, h6⟩ := bind_ok h2
      simp only [pure, Except.pure, Except.ok.injEq, Prod.mk.injEq] at h6
      obtain ⟨e1, e2⟩ := h6; subst e1 e2
      refine ⟨r1.setPadding pad, ?_, setPadding_ref h4 h5⟩
      simp [Reader.step, Reader.advanceAndSetPadding, h3, bind, Except.bind, pure, Except.pure, hp, hgt]
    · simp only [hgt, if_false, pure, Except.pure, Except.ok.injEq, Prod.mk.injEq] at h2
      obtain ⟨e1, e2⟩ := h2; subst e1 e2
      refine ⟨r1, ?_, h4⟩
      simp [Reader.step, Reader.advanceAndSetPadding, h3, bind, Except.bind, pure, Except.pure, hp, hgt]
  | advanceLine =>
    simp only [RCur.step, Except.ok.injEq, Prod.mk.injEq] at hs
    obtain ⟨e1, e2⟩ := hs; subst e1 e2
    exact ⟨_, rfl, advanceLine_ref h⟩
  | position =>
    simp only [RCur.step, Except.ok.injEq, Prod.mk.injEq] at hs
    obtain ⟨e1, e2⟩ := hs; subst e1 e2
    exact ⟨r, by simp [Reader.step, position_ref h, pure, Except.pure], h⟩
  | setPosition l s => exact unit_ref (g := .ok (r.setPosition l s)) (fun h1 => ⟨_, rfl, setPosition_ref h h1⟩) hs
  | setPadding v => exact unit_ref (g := .ok (r.setPadding v)) (fun h1 => ⟨_, rfl, setPadding_ref h h1⟩) hs
  | lineOffset => exact wrap_ref Out.int (lineOffset_ref h) hs
  | value s =>
    simp only [RCur.step] at hs
    obtain ⟨⟨v, c1⟩, h1, h2⟩ := bind_ok hs
    simp only [pure, Except.pure, Except.ok.injEq, Prod.mk.injEq] at h2
    obtain ⟨e1, e2⟩ := h2; subst e1 e2
    obtain ⟨h3, h4⟩ := value_ref h h1
    subst h4
    exact ⟨r, by simp [Reader.step, h3, bind, Except.bind, pure, Except.pure], h⟩
  | skipSpaces =>
    simpa [Reader.step, h.source] using wrap_ref (A := RAbs src) Out.skip (skipSpaces_sim (readerSim src) _ h) hs
  | skipBlankLines =>
    simpa [Reader.step, h.source] using wrap_ref (A := RAbs src) Out.skip (skipBlankLines_sim (readerSim src) _ h) hs
  | readRune => exact wrap_ref Out.rune (readRune_sim (readerSim src) h) hs
  | findClosure o cl opts =>
    simpa [Reader.step, h.source] using
      wrap_ref (A := RAbs src) Out.closure (findClosure_sim (readerSim src) _ o cl opts h) hs
  | precendingCharacter => simp [RCur.step] at hs
  | resetPosition => simp [RCur.step] at hs

theorem reader_init (src : Bytes) : RAbs src (Reader.new src) RCur.init := by
  unfold Reader.new Reader.advanceLine
  simp only [show ¬ ((0 : Int) < 0) by omega, if_false]
  exact { source := rfl, line := by simp [RCur.init], pos := by simp [RCur.init], inRange := by simp [RCur.init],
          head := by intro _; simp [RCur.init, lineStart], peeked := Or.inl rfl, lo := Or.inl (by simp) }

theorem runSteps_refines {σ τ : Type} {A : σ → τ → Prop} {stepC : σ → Op → Except Panic (Out × σ)}
    {stepS : τ → Op → Except Panic (Out × τ)}
    (one : ∀ {r c op out c'}, A r c → stepS c op = .ok (out, c') → ∃ r', stepC r op = .ok (out, r') ∧ A r' c')
    (ops : List Op) : ∀ {r c outs c'}, A r c → runSteps stepS c ops = .ok (outs, c') →
    ∃ r', runSteps stepC r ops = .ok (outs, r') ∧ A r' c' := by
  induction ops with
  | nil =>
    intro r c outs c' hA h
    simp only [runSteps, pure, Except.pure, Except.ok.injEq, Prod.mk.injEq] at h ⊢
    obtain ⟨e1, e2⟩ := h; subst e2
    exact ⟨r, ⟨e1, rfl⟩, hA⟩
  | cons op rest ih =>
    intro r c outs c' hA h
    simp only [runSteps] at h ⊢
    obtain ⟨⟨o, c1⟩, h1, h2⟩ := bind_ok h
    obtain ⟨⟨os, c2⟩, h3, h4⟩ := bind_ok h2
    obtain ⟨r1, hr1, hA1⟩ := one hA h1
    obtain ⟨r2, hr2, hA2⟩ := ih hA1 h3
    simp only [pure, Except.pure, Except.ok.injEq, Prod.mk.injEq] at h4
    obtain ⟨e1, e2⟩ := h4; subst e2
    refine ⟨r2, ?_, hA2⟩
    simp only [hr1, bind, Except.bind, hr2, pure, Except.pure, e1]


theorem findClosure_noAdvance_generic {σ : Type} (o : Ops σ) (fuel : Nat) (opener closer : UInt8)
    (opts : FindClosureOptions) (hadv : opts.advance = false) {s s' : σ} {x}
    (h : findClosure o fuel opener closer opts s = .ok (x, s')) :
    ∃ s1, o.setPosition (o.position s).1 (o.position s).2 s1 = .ok s' := by
  unfold findClosure at h
  simp only at h
  obtain ⟨⟨⟨ret, closed⟩, s1⟩, _, h2⟩ := bind_ok h
  obtain ⟨s2, h3, h4⟩ := bind_ok h2
  simp only [hadv, Bool.not_false, if_true] at h3
  refine ⟨s1, ?_⟩
  cases closed <;>
    · simp only [pure, Except.pure, Except.ok.injEq, Prod.mk.injEq, Bool.false_eq_true, if_false, if_true] at h4
      rw [← h4.2]; exact h3

theorem rcur_wfpos_seg (src : Bytes) (c : RCur) (h : c.p ≤ src.length) : RCur.WFPos src (RCur.seg src c) := by
  refine ⟨by simp [RCur.seg], by simp [RCur.seg]; omega, by simp [RCur.seg], by simp [RCur.seg], rfl⟩

theorem rcur_setPosition_seg (src : Bytes) (c c2 : RCur) (h : c.p ≤ src.length) :
    RCur.setPosition src c.ln (RCur.seg src c) c2 = .ok c := by
  unfold RCur.setPosition
  rw [if_pos (rcur_wfpos_seg src c h)]
  cases c; simp [RCur.seg]

/-- SetPosition with what Position returned at `r` leads to a state that stands for the same cursor -/
theorem reader_setPosition_restores {src : Bytes} {r r2 : Reader} {c c2 : RCur} (h : RAbs src r c) (h2 : RAbs src r2 c2) :
    RAbs src (r2.setPosition r.position.1 r.position.2) c := by
  have hp := position_ref h
  rw [hp]
  exact setPosition_ref h2 (rcur_setPosition_seg src c c2 h.inRange)

theorem reader_findClosure_noAdvance {src : Bytes} {c c' : RCur} {o cl : UInt8} {opts : FindClosureOptions} {out : Out}
    (hadv : opts.advance = false) (hc : c.p ≤ src.length)
    (hs : RCur.step src c (.findClosure o cl opts) = .ok (out, c')) : c' = c := by
  simp only [RCur.step] at hs
  obtain ⟨⟨v, c1⟩, h1, h2⟩ := bind_ok hs
  simp only [pure, Except.pure, Except.ok.injEq, Prod.mk.injEq] at h2
  obtain ⟨_, e2⟩ := h2; subst e2
  obtain ⟨s1, h3⟩ := findClosure_noAdvance_generic (RCur.ops src) _ o cl opts hadv h1
  have : (RCur.ops src).setPosition ((RCur.ops src).position c).1 ((RCur.ops src).position c).2 s1 = .ok c :=
    rcur_setPosition_seg src c s1 hc
  rw [this] at h3
  simp only [Except.ok.injEq] at h3
  exact h3.symm

/-- Peek is the first byte of what PeekLine returns, or EOF (0xff) when PeekLine returns nil -/
theorem reader_peek_head {src : Bytes} {r : Reader} {c : RCur} (h : RAbs src r c) :
    ∃ l s r', r.peekLine = .ok ((l, s), r') ∧ r.peek = .ok (match l with | some (b :: _) => b | _ => 255) := by
  obtain ⟨r', h1, _⟩ := peekLine_ref h
  exact ⟨_, _, r', h1, by rw [peek_ref h]; rfl⟩

/-- `AdvanceLine` reads only the source, `pos.Stop`, `pos.ForceNewline` and the line number -/
theorem advanceLine_congr {r r' : Reader} (h0 : 0 ≤ r.pos.stop) (hs : r'.source = r.source)
    (hstop : r'.pos.stop = r.pos.stop) (hf : r'.pos.forceNewline = r.pos.forceNewline) (hl : r'.line = r.line) :
    r'.advanceLine = r.advanceLine := by
  unfold Reader.advanceLine
  have h1 : ¬ r.pos.stop < 0 := by omega
  simp only [if_neg h1, hs, hstop, hf, hl]

theorem advanceLine_peeked (r : Reader) : r.advanceLine.peekedLine = none := by
  unfold Reader.advanceLine; dsimp only; split <;> rfl

end GM.Proof.Reader
