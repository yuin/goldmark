/-
  GM.Proof.E2EPadLoop — "no virtual padding" (`P0`, GM.Proof.E2EPad) through the inline loop over an OPEN trigger table
  (GM.Model.InlinesLoopX) and through the inline phase of a block over any table and any ProcessDelimiters that keep it.
  `parseBlock` is the default table (GM.Proof.ConvertX.parseBlockG_base); the member sets' tables are in GM.Proof.ConvertXE2EPad.
-/
import GM.Proof.E2EPad
import GM.Proof.ConvertX

namespace GM.E2E.Pad
open GM GM.Text GM.Inl GM.Proof.InlinesTotal
open GM.Proof.Inlines (Ans LoopKeeps)

theorem new_p0 (src : Bytes) {segs : List Segment} (hz : ∀ s ∈ segs, s.padding = 0) : OKP (BlockReader.new src segs) := by
  unfold BlockReader.new BlockReader.resetPosition
  dsimp only
  refine Ans.ite ?_ ?_
  · refine Ans.bind' (fun l => ?_)
    refine Ans.seq (Ans.pure ?_) (fun r hr => advanceLine_p0 hr)
    exact ⟨rfl, hz⟩
  · refine Ans.seq (Ans.pure ?_) (fun r hr => advanceLine_p0 hr)
    exact ⟨rfl, hz⟩

/-- every entry of the table keeps `P0` -/
def TblP0 (env : Env) (tbl : UInt8 → List XIp) : Prop := ∀ b, ∀ ip ∈ tbl b, ∀ st : St, P0.p st → OKP (ip.parse env st)

theorem p0_loopKeeps : LoopKeeps (P0.p : St → Prop) (fun s => s.padding = 0) where
  peek := fun hs pl hpl => ⟨⟨(peekLine_p0 hs.1 pl hpl).2, hs.2⟩, position_p0 (peekLine_p0 hs.1 pl hpl).2⟩
  advance := fun n hs rd hrd => ⟨⟨advance_p0 n hs.1 rd hrd, hs.2⟩, position_p0 (advance_p0 n hs.1 rd hrd)⟩
  merge := fun hs ha hb hab => ⟨hs.1, mergeOrAppend_p0 hs.2 (between_p0 ha hb _ hab)⟩
  restore := fun _ _ hs hp rd hrd => ⟨setPosition_p0 _ _ (.inr hp) hs.1 rd hrd, hs.2⟩
  eol := fun flags l _ hs hsp => endOfLine_p0 flags l ⟨hs, hsp⟩

theorem lineLoopX_p0 (env : Env) (tbl : UInt8 → List XIp) (hT : TblP0 env tbl) (fuel : Nat) (escaped : Bool) {st : St}
    (h : P0.p st) : OKP (lineLoopX env tbl fuel escaped st) :=
  p0_loopKeeps.lineLoopX tbl (fun b ip hip st hs r hr =>
    have h := hT b ip hip st hs r hr
    ⟨h.2, fun nd hnd => ⟨h.2.1, (p0_append _ _).mpr ⟨h.2.2, (p0_cons _ _).mpr ⟨h.1 nd hnd, p0_nil⟩⟩⟩⟩) fuel escaped h

theorem parseBlockG_tbl_p0 (env : Env) {tbl : UInt8 → List XIp} (hT : TblP0 env tbl) {pd : PD}
    (hpd : ∀ (b : Bottom) (kids : List Inl.Node), P0.p kids → OKP (pd b kids)) (src : Bytes) {segs : List Segment}
    (hz : ∀ s ∈ segs, s.padding = 0) : OKP (GM.ConvertX.parseBlockG env tbl pd src segs) := by
  unfold GM.ConvertX.parseBlockG
  refine Ans.seq (new_p0 src hz) (fun rd hr => ?_)
  refine Ans.seq (lineLoopX_p0 env _ hT _ false (st := { rd := rd }) ⟨hr, p0_nil⟩) (fun st hst => ?_)
  refine Ans.seq (hpd _ _ hst.2) (fun kids hk => ?_)
  exact Ans.pure (closeLabelsL_p0 kids hk)

theorem parseBlock_p0 (env : Env) (src : Bytes) {segs : List Segment} (hz : ∀ s ∈ segs, s.padding = 0) :
    OKP (parseBlock env src segs) := by
  rw [← GM.Proof.ConvertX.parseBlockG_base]
  refine parseBlockG_tbl_p0 env (fun b ip hip st hs => ?_) (fun b _ hk => processDelimiters_p0 b hk) src hz
  unfold baseTbl at hip
  simp only [List.mem_map] at hip
  obtain ⟨ip', _, rfl⟩ := hip
  exact ipParse_p0 env ip' hs

theorem parseBlock_unpadded (env : Env) (src : Bytes) (segs : List Segment) (hz : ∀ s ∈ segs, s.padding = 0)
    (kids : List Inl.Node) (h : parseBlock env src segs = .ok kids) : ∀ s ∈ segsOfL kids, s.padding = 0 :=
  (p0_nodes_iff kids).mp (parseBlock_p0 env src hz kids h)

end GM.E2E.Pad
