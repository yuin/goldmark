/-
  GM.Proof.ConvertFBr — What the block parsers and the link reference transformer do to nodes of kind Blockquote (the store kind of `*ast.Footnote` and the FootnoteList), as a
  step relation `BR W`: the store grows, kinds and the stack stay, lines of such a node outside `W` are not written, no edge to an existing one is added;
  `BR` of `Open` / `Continue` / `Close`, `toContinuable` and the transformer.
-/
import GM.Proof.ConvertHWFOpen
import GM.Proof.ConvertHWFClose

section ConvertFBr
/-
  `W` = the nodes the function may write lines of (its own node). A function without tree surgery has `BR` as a view of its
  `StepB` run (`BR.of_stepB`; GM.Proof.BlocksStep); for the others the technique of GM.Proof.ConvertHWFClose (`Stp`, `StpX`,
  tactic `stp`) with `BR` for `StepR`; the tree mutators come from GM.Proof.ConvertHWF (`OpR`, `RmR`) plus "they write no
  lines" (`TreeOp.lines` of GM.Proof.BlocksTreeOp).
-/

namespace GM.ConvertF
open GM GM.Text GM.Blocks GM.ConvertH

structure BR (W : Nat → Prop) (s s' : St) : Prop where
  len : s.nodes.length ≤ s'.nodes.length
  kind : ∀ i, i < s.nodes.length → (ndx s' i).kind = (ndx s i).kind
  opened : s'.pc.opened = s.pc.opened
  lines : ∀ i, ¬ W i → (ndx s' i).kind = .blockquote → (ndx s' i).lines = (ndx s i).lines
  edges : ∀ p c, c ∈ (ndx s' p).children → (ndx s' c).kind = .blockquote → c < s.nodes.length → c ∈ (ndx s p).children

theorem ndx_default_lines (s : St) {i : Nat} (h : s.nodes.length ≤ i) : (ndx s i).lines = [] := by rw [ndx_ge s h]; rfl

theorem BR.refl (W : Nat → Prop) (s : St) : BR W s s := ⟨Nat.le_refl _, fun _ _ => rfl, rfl, fun _ _ _ => rfl, fun _ _ h _ _ => h⟩

theorem BR.trans {W : Nat → Prop} {a b c : St} (h1 : BR W a b) (h2 : BR W b c) : BR W a c where
  len := Nat.le_trans h1.len h2.len
  kind := fun i hi => (h2.kind i (Nat.lt_of_lt_of_le hi h1.len)).trans (h1.kind i hi)
  opened := h2.opened.trans h1.opened
  lines := fun i hw hk => by
    have e2 := h2.lines i hw hk
    by_cases hi : i < b.nodes.length
    · have hk1 : (ndx b i).kind = .blockquote := by rw [← h2.kind i hi]; exact hk
      rw [e2, h1.lines i hw hk1]
    · have hi' : b.nodes.length ≤ i := Nat.le_of_not_lt hi
      rw [e2, ndx_default_lines b hi', ndx_default_lines a (Nat.le_trans h1.len hi')]
  edges := fun p x hx hk hv => by
    have hv1 := Nat.lt_of_lt_of_le hv h1.len
    have e2 := h2.edges p x hx hk hv1
    have hk1 : (ndx b x).kind = .blockquote := by rw [← h2.kind x hv1]; exact hk
    exact h1.edges p x e2 hk1 hv

theorem BR.weaken {W W' : Nat → Prop} {s s' : St} (h : BR W s s') (hw : ∀ i, W i → W' i) : BR W' s s' :=
  ⟨h.len, h.kind, h.opened, fun i hn hk => h.lines i (fun x => hn (hw i x)) hk, h.edges⟩

theorem BR.of_same {W : Nat → Prop} {s s' : St} (hn : s'.nodes = s.nodes) (hp : s'.pc.opened = s.pc.opened) : BR W s s' :=
  ⟨by rw [hn]; exact Nat.le_refl _, fun i _ => by simp only [ndx, hn], hp, fun i _ _ => by simp only [ndx, hn],
   fun p c h _ _ => by simpa only [ndx, hn] using h⟩

/-- a step that may write the node `x` created in between, which is not of kind Blockquote -/
theorem BR.trans_new {W : Nat → Prop} {a b c : St} {x : Nat} (h1 : BR W a b) (hx : a.nodes.length ≤ x)
    (hxb : x < b.nodes.length) (hk : (ndx b x).kind ≠ .blockquote) (h2 : BR (fun i => W i ∨ i = x) b c) : BR W a c := by
  have h2' : BR W b c := by
    refine ⟨h2.len, h2.kind, h2.opened, fun i hw hki => ?_, h2.edges⟩
    by_cases hix : i = x
    · subst hix
      rw [h2.kind i hxb] at hki
      exact absurd hki hk
    · exact h2.lines i (fun o => o.elim hw hix) hki
  exact h1.trans h2'

structure Br {α : Type} (W : Nat → Prop) (m : M α) : Prop where
  h : ∀ s a s', m s = .ok (a, s') → BR W s s'

variable {W : Nat → Prop}

theorem Br.pure {α} (a : α) : Br W (Pure.pure a : M α) := ⟨fun s _ _ h => by cases h; exact BR.refl W s⟩
theorem Br.throw {α} (e : Panic) : Br W (throw e : M α) := ⟨fun _ _ _ h => by cases h⟩

theorem Br.bind {α β} {m : M α} {f : α → M β} (hm : Br W m) (hf : ∀ a, Br W (f a)) : Br W (m >>= f) := by
  constructor
  intro s b s'' h
  obtain ⟨a, s', h1, h2⟩ := bind_ok h
  exact (hm.h s a s' h1).trans ((hf a).h s' b s'' h2)

theorem Br.ite {α} {c : Prop} [Decidable c] {a b : M α} (ha : Br W a) (hb : Br W b) : Br W (if c then a else b) := by
  split <;> assumption

theorem Br.weaken {α} {W' : Nat → Prop} {m : M α} (h : Br W m) (hw : ∀ i, W i → W' i) : Br W' m :=
  ⟨fun s a s' e => (h.h s a s' e).weaken hw⟩

theorem Br.of_rd {α} {m : M α} (h : Rd m) : Br W m :=
  ⟨fun s a s' e => BR.of_same (h s a s' e).1 (by rw [(h s a s' e).2])⟩

/-- a run of `StepB` that creates no Blockquote: no lines are written outside `W`, nobody gains a child -/
theorem BR.of_stepB {Kw : Prop} {L : Option Block} {K : Blocks.Kind → Prop} {V : Nat → Prop} {s s' : St}
    (h : StepB Kw L K V s s') (hk : ¬ K .blockquote) (hw : ∀ i, V i → i < s.nodes.length → W i) : BR W s s' :=
  ⟨h.lr.len, h.lr.kind, h.lr.opened, fun i hn hb => by
    by_cases h1 : i < s.nodes.length
    · rw [h.old i (fun v => hn (hw i v h1)) h1]
    · by_cases h2 : i < s'.nodes.length
      · exact absurd (hb ▸ h.kindNew i (Nat.le_of_not_lt h1) h2) hk
      · rw [ndx_ge s' (Nat.le_of_not_lt h2), ndx_ge s (Nat.le_of_not_lt h1)],
    fun p c hc _ _ => by rw [(h.lr.links p).2] at hc; exact hc⟩

theorem Br.of_stepsB {Kw : Prop} {L : Option Block} {V : Nat → Prop} {α} {m : M α}
    (h : StepsB Kw L (fun _ => False) V m) (hw : ∀ i, V i → W i) : Br W m :=
  ⟨fun s a s' e => .of_stepB (h.h s a s' e) id (fun i v _ => hw i v)⟩

theorem modPc_br (f : Ctx → Ctx) (hf : ∀ pc, (f pc).opened = pc.opened) : Br W (modPc f) :=
  ⟨fun s a s' h => by
    have := modPc_ok h; subst this
    exact ⟨Nat.le_refl _, fun _ _ => rfl, hf s.pc, fun _ _ _ => rfl, fun _ _ h _ _ => h⟩⟩

/-- `modNode` that keeps kind, children and lines -/
theorem modNode_br (id : Nat) (f : Blocks.Node → Blocks.Node)
    (hf : ∀ n, (f n).kind = n.kind ∧ (f n).children = n.children ∧ (f n).lines = n.lines) : Br W (modNode id f) :=
  ⟨fun s a s' h => by
    have hn := fun i => modNode_ndx h i
    have hs := modNode_state h
    refine ⟨by rw [hs]; simp, fun i _ => ?_, by rw [hs], fun i _ _ => ?_, fun p c hc _ _ => ?_⟩
    · rw [hn]; split
      · rename_i e; rw [e.1]; exact (hf _).1
      · rfl
    · rw [hn]; split
      · rename_i e; rw [e.1]; exact (hf _).2.2
      · rfl
    · rw [hn] at hc; split at hc
      · rename_i e; rw [(hf _).2.1] at hc; rw [e.1]; exact hc
      · exact hc⟩

/-- `modNode` on a node whose lines may be written: keeps kind and children -/
theorem modNode_brw (id : Nat) (f : Blocks.Node → Blocks.Node) (hw : W id)
    (hf : ∀ n, (f n).kind = n.kind ∧ (f n).children = n.children) : Br W (modNode id f) :=
  ⟨fun s a s' h => by
    have hn := fun i => modNode_ndx h i
    have hs := modNode_state h
    refine ⟨by rw [hs]; simp, fun i _ => ?_, by rw [hs], fun i hnw _ => ?_, fun p c hc _ _ => ?_⟩
    · rw [hn]; split
      · rename_i e; rw [e.1]; exact (hf _).1
      · rfl
    · rw [hn]; split
      · rename_i e; exact absurd (e.1 ▸ hw) hnw
      · rfl
    · rw [hn] at hc; split at hc
      · rename_i e; rw [(hf _).2] at hc; rw [e.1]; exact hc
      · exact hc⟩

theorem appendLine_brw (id : Nat) (seg : Segment) (hw : W id) : Br W (appendLine id seg) :=
  modNode_brw id _ hw (fun _ => ⟨rfl, rfl⟩)

/-- a new node without children; a Blockquote-kind one has no lines -/
theorem newNode_br (n : Blocks.Node) (hc : n.children = []) (hl : n.kind = .blockquote → n.lines = []) : Br W (newNode n) :=
  ⟨fun s a s' h => by
    obtain ⟨_, rfl⟩ := newNode_ok h
    refine ⟨by simp, fun i hi => ?_, rfl, fun i _ hk => ?_, fun p c hcm _ _ => ?_⟩
    · rw [ndx_append]; split
      · rename_i e; omega
      · rfl
    · rw [ndx_append] at hk ⊢; split
      · rename_i e
        rw [if_pos e] at hk
        rw [hl hk, e, ndx_default_lines s (Nat.le_refl _)]
      · rfl
    · rw [ndx_append] at hcm; split at hcm
      · rw [hc] at hcm; cases hcm
      · exact hcm⟩

/-- `x` exists and is not of kind Blockquote (a node the function has just created) -/
def PB (x : Nat) (s : St) : Prop := x < s.nodes.length ∧ (ndx s x).kind ≠ .blockquote ∧ (ndx s x).kind ≠ .document

theorem PB.step {x : Nat} {s s' : St} (h : PB x s) (st : BR W s s') : PB x s' :=
  ⟨Nat.lt_of_lt_of_le h.1 st.len, by rw [st.kind x h.1]; exact h.2.1, by rw [st.kind x h.1]; exact h.2.2⟩

structure BrX (x : Nat) {α : Type} (W : Nat → Prop) (m : M α) : Prop where
  h : ∀ s a s', m s = .ok (a, s') → PB x s → BR W s s'

theorem BrX.of_br {x : Nat} {α} {m : M α} (h : Br W m) : BrX x W m := ⟨fun s a s' e _ => h.h s a s' e⟩

theorem BrX.bind {x : Nat} {α β} {m : M α} {f : α → M β} (hm : BrX x W m) (hf : ∀ a, BrX x W (f a)) :
    BrX x W (m >>= f) := by
  constructor
  intro s b s'' h hp
  obtain ⟨a, s', h1, h2⟩ := bind_ok h
  have st := hm.h s a s' h1 hp
  exact st.trans ((hf a).h s' b s'' h2 (hp.step st))

theorem BrX.ite {x : Nat} {α} {c : Prop} [Decidable c] {a b : M α} (ha : BrX x W a) (hb : BrX x W b) :
    BrX x W (if c then a else b) := by split <;> assumption

/-- creating a node that is not a Blockquote (nor the Document) and going on with a computation that may write and insert it -/
theorem Br.new {α} (n : Blocks.Node) {f : Nat → M α} (hk : n.kind ≠ .blockquote) (hd : n.kind ≠ .document)
    (hc : n.children = []) (hf : ∀ x, BrX x (fun i => W i ∨ i = x) (f x)) : Br W (newNode n >>= f) := by
  constructor
  intro s b s'' h
  obtain ⟨x, s', h1, h2⟩ := bind_ok h
  have l1 := (newNode_br (W := W) n hc (fun e => absurd e hk)).h s x s' h1
  obtain ⟨ex, es⟩ := newNode_ok h1
  have hx : PB x s' := by
    refine ⟨by rw [es, ex]; simp, ?_, ?_⟩ <;> (rw [es, ex, ndx_append]; simpa)
  exact l1.trans_new (by omega) hx.1 hx.2.1 ((hf x).h s' b s'' h2 hx)

theorem BrX.new {y : Nat} {α} (n : Blocks.Node) {f : Nat → M α} (hk : n.kind ≠ .blockquote) (hd : n.kind ≠ .document)
    (hc : n.children = []) (hf : ∀ x, BrX x (fun i => W i ∨ i = x) (f x)) : BrX y W (newNode n >>= f) :=
  .of_br (Br.new n hk hd hc hf)

/-! ### the tree mutators -/

theorem BR.of_rm {s s' : St} (h : RmR s s') (hl : ∀ i, (ndx s' i).lines = (ndx s i).lines) : BR W s s' :=
  ⟨Nat.le_of_eq h.len.symm, fun i _ => h.kind i, by rw [h.pc], fun i _ _ => hl i, fun p c hc _ _ => h.edges p c hc⟩

theorem BR.of_op {p ins : Nat} {s s' : St} (h : OpR p ins s s') (hl : ∀ i, (ndx s' i).lines = (ndx s i).lines)
    (hk : (ndx s ins).kind ≠ .blockquote) : BR W s s' :=
  ⟨Nat.le_of_eq h.len.symm, fun i _ => h.kind i, by rw [h.pc], fun i _ _ => hl i, fun q x hx hkx _ => by
    rcases h.edges q x hx with e | ⟨_, rfl⟩
    · exact e
    · rw [h.kind] at hkx; exact absurd hkx hk⟩

theorem removeChild_br (p c : Nat) : Br W (removeChild p c) :=
  ⟨fun s _ s' h => .of_rm (removeChild_rm p c s s' h).1 (removeChild_treeOps h).lines⟩

theorem nextSibling_br (c : Nat) : Br W (nextSibling c) :=
  .of_rd fun s a s' h => by have := nextSibling_same c s a s' h; subst this; exact ⟨rfl, rfl⟩

theorem insertAfter_brx (p : Nat) (v : Option Nat) (x : Nat) : BrX x W (insertAfter p v x) :=
  ⟨fun s _ s' h hp => .of_op (insertAfter_op p v x s s' h) (insertAfter_treeOps h).lines hp.2.1⟩
theorem replaceChild_brx (p v x : Nat) : BrX x W (replaceChild p v x) :=
  ⟨fun s _ s' h hp => .of_op (replaceChild_op p v x s s' h) (replaceChild_treeOps h).lines hp.2.1⟩

/-- `W id` for the `W`s the lemmas below use -/
macro "wmem" : tactic =>
  `(tactic| first
    | exact rfl
    | exact Or.inr rfl
    | exact Or.inl rfl
    | exact Or.inl (Or.inr rfl)
    | exact Or.inl (Or.inl rfl)
    | exact Or.inl (Or.inl (Or.inr rfl))
    | assumption)

macro "br_leaf" : tactic =>
  `(tactic| first
    | ((with_reducible apply Br.of_rd); rd_leaf)
    | with_reducible apply removeChild_br
    | with_reducible apply nextSibling_br
    | ((with_reducible apply appendLine_brw); wmem)
    | ((with_reducible apply modNode_br); intro _; exact ⟨rfl, rfl, rfl⟩)
    | ((with_reducible apply modNode_brw); (wmem); intro _; exact ⟨rfl, rfl⟩)
    | ((with_reducible apply modPc_br); intro _; rfl)
    | ((with_reducible apply newNode_br) <;> first | rfl | (intro _; rfl)))

macro "br_step" : tactic =>
  `(tactic| first
    | apply_hyp
    | with_reducible exact insertAfter_brx _ _ _
    | with_reducible exact replaceChild_brx _ _ _
    | ((with_reducible refine Br.new _ ?hk ?hd rfl (fun _ => ?_)); (case hk => simp); (case hd => simp))
    | ((with_reducible refine BrX.new _ ?hk ?hd rfl (fun _ => ?_)); (case hk => simp); (case hd => simp))
    | with_reducible apply BrX.bind
    | with_reducible apply BrX.ite
    | with_reducible apply Br.bind
    | with_reducible apply Br.ite
    | with_reducible exact Br.throw _
    | with_reducible exact Br.pure _
    | br_leaf
    | intro _
    | split
    | (with_reducible apply BrX.of_br))

macro "br" : tactic => `(tactic| repeat' br_step)

end GM.ConvertF
end ConvertFBr

section ConvertFBrPar
/-
  `BR` for `Open` / `Continue` / `Close` of the ten block parsers, `toContinuable` and the link
  reference transformer. `Open` writes lines only of the node it creates; `Continue` / `Close` / the transformer only of
  their own node `n` (`W = (· = n)`). `Open` and `Continue` are read off `StepB` (GM.Proof.BlocksStep: `BR.of_stepB`), `Close`
  and the transformer are walked.
-/

namespace GM.ConvertF
open GM GM.Text GM.Blocks GM.ConvertH

variable {W : Nat → Prop}

theorem lastOpenedBlock_br : Br W lastOpenedBlock :=
  ⟨fun s _ _ e => by cases e; exact BR.refl W s⟩

/-- the Blockquote it creates has no lines and is not written -/
theorem blockquoteOpen_br (p : Nat) : Br W (blockquoteOpen p) := by
  have : Br W blockquoteProcess :=
    .of_stepsB (Kw := True) (L := none) (V := fun _ => False)
      ((blockquoteProcess_built (NW := fun _ _ => False) (PW := fun _ => False) (NN := fun _ => False)).stepsF
        (fun _ _ hf => hf.elim) (fun _ h => h.elim) (fun _ h => h.elim)) (fun _ h => h.elim)
  unfold blockquoteOpen; br

theorem bpOpen_br (bp : BP) (p : Nat) : Br W (bpOpen bp p) := by
  by_cases hb : bp = .blockquote
  · subst hb; exact blockquoteOpen_br p
  · exact ⟨fun s a s' e => .of_stepB (bpOpen_stepB e).1 (by cases bp <;> first | exact absurd rfl hb | (intro h; cases h))
      (fun i hi hlt => absurd hlt (Nat.not_lt.2 hi))⟩

theorem bpContinue_br (bp : BP) (n : Nat) : Br (fun i => i = n ∧ bp ≠ .blockquote) (bpContinue bp n) :=
  ⟨fun _ _ _ e => .of_stepB (bpContinue_stepB' e) id (fun _ h _ => h)⟩

theorem toContinuable_br (c : Bool) (r : OpenResult) (lb : Option Block) :
    Br (fun i => ∃ b, lb = some b ∧ i = b.node ∧ b.bp ≠ .blockquote) (toContinuable c r lb) :=
  ⟨fun _ _ _ e => .of_stepB (toContinuable_stepB e) id (fun _ h _ => h)⟩

/-! ### the functions with tree surgery -/

theorem paragraphClose_br (n : Nat) : Br (fun i => i = n) (paragraphClose n) := by unfold paragraphClose; br

theorem tightenItem_br (child : Nat) : ∀ (gcs : List Nat) {W : Nat → Prop}, Br W (tightenItem child gcs)
  | [], W => by unfold tightenItem; br
  | gc :: gcs, W => by
    have ih := @tightenItem_br child gcs
    unfold tightenItem; br

theorem tightenItems_br (cs : List Nat) : Br W (tightenItems cs) := by
  have := @tightenItem_br
  induction cs with
  | nil => unfold tightenItems; br
  | cons c cs ih => unfold tightenItems; br

theorem listClose_br (n : Nat) : Br W (listClose n) := by
  have := @tightenItems_br
  unfold listClose; br

theorem transformFinish_br (node : Nat) (n : Blocks.Node) (removes : List (Int × Int)) (refs : GM.LinkRef.RefMap) :
    Br (fun i => i = node) (GM.LinkRef.transformFinish node n removes refs) := by
  unfold GM.LinkRef.transformFinish; br

theorem transform_br (node : Nat) : Br (fun i => i = node) (GM.LinkRef.transform node) := by
  have := transformFinish_br
  unfold GM.LinkRef.transform; br

theorem guardedTransform_br (node : Nat) : Br (fun i => i = node) (GM.LinkRef.guardedTransform node) := by
  have := transform_br
  unfold GM.LinkRef.guardedTransform; br

/-- a paragraph transformer that writes lines only of its node -/
def PTBr (pt : PT) : Prop := ∀ n, Br (fun i => i = n) (pt n)

theorem transformParagraph_br : ∀ (pts : List PT), (∀ pt ∈ pts, PTBr pt) → ∀ n, Br (fun i => i = n) (transformParagraph pts n)
  | [], _, n => by unfold transformParagraph; br
  | pt :: pts, hp, n => by
    have h1 : ∀ n, Br (fun i => i = n) (pt n) := hp pt (List.mem_cons_self ..)
    have h2 := transformParagraph_br pts (fun q hq => hp q (List.mem_cons_of_mem _ hq))
    unfold transformParagraph; br

theorem paragraphTransformers_br (guard : Bool) : ∀ pt ∈ GM.Convert.paragraphTransformers guard, PTBr pt := by
  intro pt hpt
  unfold GM.Convert.paragraphTransformers at hpt
  rw [List.mem_singleton] at hpt
  subst hpt
  intro n
  split
  · exact guardedTransform_br n
  · exact transform_br n

theorem setextTail2_br (n hp : Nat) (seg : Segment) (next : Option Nat) (b : Bool) :
    Br (fun i => i = n ∨ (next = some i ∧ b = true)) (setextTail2 n hp seg next b) := by
  unfold setextTail2
  cases b with
  | false => simp only [Bool.not_false, ↓reduceIte]; br
  | true =>
    simp only [Bool.not_true, Bool.false_eq_true, ↓reduceIte]
    cases next with
    | none => br
    | some nx =>
      have hw : (fun i => i = n ∨ (some nx = some i ∧ True)) nx := Or.inr ⟨rfl, trivial⟩
      br

theorem setextTail1_br (n hp : Nat) (seg : Segment) (next : Option Nat) : Br (fun i => i = n) (setextTail1 n hp seg next) := by
  constructor
  intro s a s' h
  unfold setextTail1 at h
  have key : ∃ b s1, s1 = s ∧ (b = true → ∃ nx, next = some nx ∧ (ndx s nx).kind = .paragraph) ∧
      setextTail2 n hp seg next b s1 = .ok (a, s') := by
    cases next with
    | none =>
      obtain ⟨b, s1, h1, h2⟩ := bind_ok h
      cases h1
      exact ⟨false, s, rfl, (fun e => by cases e), h2⟩
    | some nx =>
      obtain ⟨nn, s0, g1, g2⟩ := bind_ok h
      obtain ⟨rfl, rfl⟩ := getNode_ok g1
      obtain ⟨b, s1, h1, h2⟩ := bind_ok g2
      cases h1
      exact ⟨_, _, rfl, (fun e => ⟨nx, rfl, by simpa [ndx] using e⟩), h2⟩
  obtain ⟨b, s1, rfl, hb, h2⟩ := key
  have st := (setextTail2_br n hp seg next b).h _ _ _ h2
  refine ⟨st.len, st.kind, st.opened, fun i hn hk => ?_, st.edges⟩
  apply st.lines i _ hk
  intro hw
  rcases hw with hw | ⟨hnx, hbt⟩
  · exact hn hw
  · obtain ⟨nx, e1, e2⟩ := hb hbt
    rw [hnx] at e1
    cases e1
    have hv : i < s1.nodes.length := by
      cases hlt : decide (i < s1.nodes.length) with
      | true => simpa using hlt
      | false =>
        have : s1.nodes.length ≤ i := by simpa using hlt
        rw [ndx_ge s1 this] at e2
        cases e2
    rw [st.kind i hv, e2] at hk
    cases hk

theorem setextClose_br (n : Nat) : Br (fun i => i = n) (setextClose n) := by
  have := setextTail1_br
  rw [setextClose_eq]; br

theorem bpClose_br (bp : BP) (n : Nat) : Br (fun i => i = n ∧ bp ≠ .blockquote) (bpClose bp n) := by
  cases bp <;> unfold bpClose
  · exact (setextClose_br n).weaken (fun i h => ⟨h, by simp⟩)
  · exact Br.pure _
  · exact listClose_br n
  · exact Br.pure _
  · exact .of_stepsB (codeClose_stepsB (Kw := True) (L := none) (W := (· = n)) rfl) (fun i h => ⟨h, by simp⟩)
  · exact Br.pure _
  · exact .of_stepsB (fencedClose_stepsB (Kw := True) (L := none) (W := fun _ => False) trivial n) (fun _ h => h.elim)
  · exact Br.pure _
  · exact Br.pure _
  · exact (paragraphClose_br n).weaken (fun i h => ⟨h, by simp⟩)

end GM.ConvertF
end ConvertFBrPar
