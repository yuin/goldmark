/-
  GM.Proof.E2EShift — C09 first half AT HTML LEVEL for an EMPTY document `A`, on the composed model: from the store
  relation of GM.Proof.ShiftSimRel (`GM.Blocks.Sh.StoreRel F nA nB`: the store of `p ++ b` behind a closed prefix is the store of `b` with node ids mapped by
  `ι` and every segment moved by `|p|`) to

      convertCore uc o ("\n# h\n\n" ++ b) = convertCore uc o ("# h\n") ++ convertCore uc o b

  for sources without `[`. Proved here: kinds / levels / list data of related nodes are equal fields, the VALUES of the moved lines,
  info strings and closures of raw blocks are equal (`value_ok_shift`), the run-time `WF0` check passes on the moved lines
  (block-phase facts of GM.Props.ConvertNP for the joined source), the renderer writes the children of the Document one after the
  other and a Heading does not look at its next sibling. NAMED HYPOTHESIS `InlineMoveStep src src' d L`: the inline phase of ONE block
  answers the same renderer trees when its lines are moved by `d` bytes into another source (the bytes under the lines being the
  same).
-/
import GM.Props.ConvertE2E
import GM.Props.ConvertNP
import GM.Props.C09Shift

namespace GM.E2E.Shift
open GM GM.Text GM.Convert GM.Spec GM.E2E GM.Blocks GM.Blocks.Sh
open GM.Proof.InlinesReader (WF0)

/-- **the key lemma, as a named hypothesis, for ONE block**: the lines `L` of `src`, moved by `d`, in `src'` -/
def InlineMoveStep (src src' : Bytes) (d : Int) (L : List Segment) : Prop :=
  ∀ (env env' : GM.Inl.Env), env'.uc = env.uc → env.escapedSpace = false → env'.escapedSpace = false →
    WF0 src L → WF0 src' (L.map (moveSeg d)) →
    ∀ kids, GM.Inl.parseBlock env src L = .ok kids →
      ∃ kids', GM.Inl.parseBlock env' src' (L.map (moveSeg d)) = .ok kids' ∧ inlineTrees src' kids' = inlineTrees src kids

theorem segValues_shift (F : Sh.Frame) (src : Bytes) : ∀ (L : List Segment) (v : List Bytes), segValues src L = .ok v →
    segValues (F.p ++ src) (L.map (moveSeg F.d)) = .ok v
  | [], v, h => h
  | s :: L, v, h => by
    simp only [segValues, bind, Except.bind, pure, Except.pure, List.map] at h ⊢
    cases h1 : s.value src with
    | error e => rw [h1] at h; cases h
    | ok v1 =>
      rw [h1] at h
      simp only [] at h
      cases h2 : segValues src L with
      | error e => rw [h2] at h; cases h
      | ok v2 =>
        rw [h2] at h
        rw [value_ok_shift F src h1, segValues_shift F src L v2 h2]
        exact h

theorem blockKind_moved (F : Sh.Frame) (src : Bytes) (a b : Blocks.Node) (hkind : b.kind = a.kind)
    (hlines : b.lines = a.lines.map (moveSeg F.d)) (hinfo : b.info = a.info.map (moveSeg F.d))
    (hclos : b.closure = shClosure F.d a.closure) (hlevel : b.level = a.level) (hmarker : b.marker = a.marker)
    (hstart : b.start = a.start) {k : GM.Kind}
    (hk : blockKind src a = .ok k) : blockKind (F.p ++ src) b = .ok k := by
  unfold blockKind at hk ⊢
  rw [hkind]
  cases hka : a.kind <;> rw [hka] at hk <;> simp only [] at hk ⊢
  all_goals first
    | exact hk
    | (rw [hlevel]; exact hk)
    | (rw [hmarker, hstart]; exact hk)
    | skip
  · -- codeBlock
    simp only [bind, Except.bind, pure, Except.pure] at hk ⊢
    rw [hlines]
    cases hv : segValues src a.lines with
    | error e => rw [hv] at hk; cases hk
    | ok v => rw [hv] at hk; rw [segValues_shift F src _ v hv]; exact hk
  · -- fencedCodeBlock
    simp only [bind, Except.bind, pure, Except.pure] at hk ⊢
    rw [hlines, hinfo]
    cases hia : a.info with
    | none =>
      rw [hia] at hk
      simp only [Option.map] at hk ⊢
      cases hv : segValues src a.lines with
      | error e => rw [hv] at hk; cases hk
      | ok v => rw [hv] at hk; rw [segValues_shift F src _ v hv]; exact hk
    | some sg =>
      rw [hia] at hk
      simp only [Option.map] at hk ⊢
      cases hi : sg.value src with
      | error e => rw [hi] at hk; cases hk
      | ok iv =>
        rw [hi] at hk
        rw [value_ok_shift F src hi]
        simp only [] at hk ⊢
        cases hv : segValues src a.lines with
        | error e => rw [hv] at hk; cases hk
        | ok v => rw [hv] at hk; rw [segValues_shift F src _ v hv]; exact hk
  · -- htmlBlock
    simp only [bind, Except.bind, pure, Except.pure] at hk ⊢
    rw [hlines]
    have hd : 0 ≤ F.d := by unfold Sh.Frame.d; omega
    by_cases hc : a.closure.start ≥ 0
    · have e : b.closure = moveSeg F.d a.closure := by
        rw [hclos]; unfold shClosure; rw [if_neg (by omega)]
      have hpos : b.closure.start ≥ 0 := by rw [e]; simp only [moveSeg]; omega
      rw [if_pos hc] at hk
      rw [if_pos hpos, e]
      cases hcv : a.closure.value src with
      | error e => rw [hcv] at hk; cases hk
      | ok cv =>
        rw [hcv] at hk
        rw [value_ok_shift F src hcv]
        simp only [] at hk ⊢
        cases hv : segValues src a.lines with
        | error e => rw [hv] at hk; cases hk
        | ok v => rw [hv] at hk; rw [segValues_shift F src _ v hv]; exact hk
    · have e : b.closure = a.closure := by
        rw [hclos]; unfold shClosure; rw [if_pos (by omega)]
      have hneg : ¬ b.closure.start ≥ 0 := by rw [e]; exact hc
      rw [if_neg hc] at hk
      rw [if_neg hneg]
      cases hv : segValues src a.lines with
      | error e => rw [hv] at hk; cases hk
      | ok v => rw [hv] at hk; rw [segValues_shift F src _ v hv]; exact hk

theorem blockKind_shift (F : Sh.Frame) (src : Bytes) (root : Bool) (a : Blocks.Node) {k : GM.Kind}
    (hk : blockKind src a = .ok k) : blockKind (F.p ++ src) (shN F root a) = .ok k :=
  blockKind_moved F src a (shN F root a) rfl rfl rfl rfl rfl rfl rfl hk

section rel
variable {src src' : Bytes} {d : Int} (env env' : GM.Inl.Env) (huc : env'.uc = env.uc) (hes : env.escapedSpace = false)
  (hes' : env'.escapedSpace = false)
include huc hes hes'

theorem inlinePhase_moved (a b : Blocks.Node) (hkind : b.kind = a.kind) (hlines : b.lines = a.lines.map (moveSeg d))
    (KEY : isRawKind a.kind = false → a.lines ≠ [] → InlineMoveStep src src' d a.lines) (hw : WFB src' b)
    {kids : List GM.Inl.Node} (hk : inlinePhase true env src a = .ok kids) :
    ∃ kids', inlinePhase true env' src' b = .ok kids' ∧ inlineTrees src' kids' = inlineTrees src kids := by
  have hemp : b.lines.isEmpty = a.lines.isEmpty := by
    rw [hlines]; cases a.lines <;> rfl
  unfold inlinePhase at hk ⊢
  rw [hkind]
  split at hk
  · rename_i hr; rw [if_pos hr]; cases hk; exact ⟨[], rfl, rfl⟩
  · rename_i hr
    rw [if_neg hr, hemp]
    split at hk
    · rename_i he; rw [if_pos he]; cases hk; exact ⟨[], rfl, rfl⟩
    · rename_i he
      rw [if_neg he]
      split at hk
      · cases hk
      · rename_i hg
        have hwa : WF0 src a.lines := by
          have : GM.LinkRef.wf0B src a.lines = true := by simpa using hg
          exact GM.Proof.LinkRefTotal.wf0B_sound this
        have hnea : a.lines ≠ [] := by intro e; exact he (by simp [e])
        have hne : b.lines ≠ [] := by
          intro e; rw [e] at hemp; exact he (by simpa using hemp.symm)
        have hwb : WF0 src' b.lines := hw (by rw [hkind]; simpa using hr) hne
        rw [wf0B_complete hwb]
        simp only [Bool.not_true, Bool.and_false, Bool.false_eq_true, if_false]
        obtain ⟨ks, hks⟩ : ∃ ks, GM.Inl.parseBlock env src a.lines = .ok ks := by
          cases hp : GM.Inl.parseBlock env src a.lines with
          | error e => rw [hp] at hk; simp [liftErr] at hk
          | ok ks => exact ⟨ks, rfl⟩
        rw [hks] at hk
        simp only [liftErr] at hk
        cases hk
        rw [hlines] at hwb ⊢
        obtain ⟨kids', h1, h2⟩ := KEY (by simpa using hr) hnea env env' huc hes hes' hwa hwb _ hks
        exact ⟨kids', by rw [h1]; rfl, h2⟩

theorem docTree_node_moved (a b : Blocks.Node) (csA csB : List Blocks.Tree) (hkind : b.kind = a.kind)
    (hlines : b.lines = a.lines.map (moveSeg d))
    (hbk : ∀ k, blockKind src a = .ok k → blockKind src' b = .ok k)
    (KEY : isRawKind a.kind = false → a.lines ≠ [] → InlineMoveStep src src' d a.lines) (hw : WFB src' b)
    (hcs : ∀ xs, docTrees true env src csA = .ok xs → docTrees true env' src' csB = .ok xs) {x : GM.Node}
    (h : docTree true env src (.node a csA) = .ok x) : docTree true env' src' (.node b csB) = .ok x := by
  unfold docTree at h ⊢
  simp only [bind, Except.bind, pure, Except.pure] at h ⊢
  cases hbs : docTrees true env src csA with
  | error e => rw [hbs] at h; cases h
  | ok bs =>
    rw [hbs] at h
    rw [hcs bs hbs]
    simp only [] at h ⊢
    obtain ⟨kids, hk, h⟩ : ∃ kids, inlinePhase true env src a = .ok kids ∧ _ := by
      cases hq : inlinePhase true env src a with
      | error e => rw [hq] at h; cases h
      | ok kids => rw [hq] at h; exact ⟨kids, rfl, h⟩
    obtain ⟨kids', hk', hv⟩ := inlinePhase_moved env env' huc hes hes' a b hkind hlines KEY hw hk
    rw [hk']
    simp only [] at h ⊢
    rw [hv]
    cases hi : liftErr Err.value (inlineTrees src kids) with
    | error e => rw [hi] at h; cases h
    | ok is =>
      rw [hi] at h
      simp only [] at h ⊢
      cases hkk : blockKind src a with
      | error e => rw [hkk] at h; simp [liftErr] at h
      | ok k =>
        rw [hkk] at h
        rw [hbk k hkk]
        exact h

omit huc hes hes' in
theorem docTrees_map (tA tB : Nat → Blocks.Tree) (ι : Nat → Nat) : ∀ (cs : List Nat),
    (∀ c ∈ cs, ∀ x, docTree true env src (tA c) = .ok x → docTree true env' src' (tB (ι c)) = .ok x) →
    ∀ xs, docTrees true env src (cs.map tA) = .ok xs → docTrees true env' src' ((cs.map ι).map tB) = .ok xs
  | [], _, xs, hx => hx
  | c :: rest, H, xs, hx => by
    simp only [List.map] at hx ⊢
    unfold docTrees at hx ⊢
    simp only [bind, Except.bind, pure, Except.pure] at hx ⊢
    cases h1 : docTree true env src (tA c) with
    | error e => rw [h1] at hx; cases hx
    | ok y =>
      rw [h1] at hx
      rw [H c (List.mem_cons_self ..) y h1]
      simp only [] at hx ⊢
      cases h2 : docTrees true env src (rest.map tA) with
      | error e => rw [h2] at hx; cases hx
      | ok ys =>
        rw [h2] at hx
        rw [docTrees_map tA tB ι rest (fun c' hc' => H c' (List.mem_cons_of_mem _ hc')) ys h2]
        exact hx

end rel

section trees
variable (F : Sh.Frame) {src : Bytes} (env env' : GM.Inl.Env) (huc : env'.uc = env.uc) (hes : env.escapedSpace = false)
  (hes' : env'.escapedSpace = false) {nA nB : List Blocks.Node} (hrel : Sh.StoreRel F nA nB)
  (hz : ∀ p c, c ∈ (nA.getD p default).children → c ≠ 0)
  (hW : ∀ p c, c ∈ (nB.getD p default).children → WFB (F.p ++ src) (nB.getD c default))
  (KEY : ∀ j, isRawKind (nA.getD j default).kind = false → (nA.getD j default).lines ≠ [] →
    InlineMoveStep src (F.p ++ src) F.d (nA.getD j default).lines)
include huc hes hes' hrel hz hW KEY

theorem docTree_shift : ∀ (fuel j : Nat) (x : GM.Node), j ≠ 0 → (∃ p, F.ι j ∈ (nB.getD p default).children) →
    docTree true env src (treeOf nA fuel j) = .ok x →
    docTree true env' (F.p ++ src) (treeOf nB fuel (F.ι j)) = .ok x := by
  intro fuel
  induction fuel with
  | zero =>
    intro j x hj hch h
    obtain ⟨p, hp⟩ := hch
    simp only [treeOf] at h ⊢
    have hn := hrel.node j
    have hj0 : (j == 0) = false := by simpa using hj
    rw [hj0] at hn
    exact docTree_node_moved env env' huc hes hes' _ _ [] [] (by rw [hn]; rfl) (by rw [hn]; rfl)
      (fun k hk => by rw [hn]; exact blockKind_shift F src false _ hk) (KEY j) (hW p _ hp) (fun xs hx => hx) h
  | succ fuel ih =>
    intro j x hj hch h
    obtain ⟨p, hp⟩ := hch
    simp only [treeOf] at h ⊢
    have hn := hrel.node j
    have hj0 : (j == 0) = false := by simpa using hj
    rw [hj0] at hn
    have hch : (nB.getD (F.ι j) default).children = (nA.getD j default).children.map F.ι := by
      rw [hn]; simp [shN]
    refine docTree_node_moved env env' huc hes hes' _ _ _ _ (by rw [hn]; rfl) (by rw [hn]; rfl)
      (fun k hk => by rw [hn]; exact blockKind_shift F src false _ hk) (KEY j) (hW p _ hp) ?_ h
    rw [hch]
    refine docTrees_map env env' (treeOf nA fuel) (treeOf nB fuel) F.ι _ (fun c hc x hx => ?_)
    exact ih c x (hz j c hc) ⟨F.ι j, by rw [hch]; exact List.mem_map_of_mem hc⟩ hx

end trees

theorem blockPhase_eq_run {D : Bytes} (hb : NoBracket D) : blockPhase true D = GM.Blocks.run D := by
  rcases GM.Props.ConvertE2E.block_phase_bracket_free true D hb with h | ⟨e, h⟩
  · exact h
  · obtain ⟨s, hs, _⟩ := GM.Props.ConvertNP.block_phase_total D
    rw [hs] at h; cases h

theorem docTrees_cons (g : Bool) (env : GM.Inl.Env) (src : Bytes) (t : Blocks.Tree) (ts : List Blocks.Tree) :
    docTrees g env src (t :: ts) = (do let x ← docTree g env src t; let xs ← docTrees g env src ts; pure (x :: xs)) := by
  conv => lhs; unfold docTrees

theorem docTree_node_cons {env : GM.Inl.Env} {src : Bytes} (b : Blocks.Node) (tH : Blocks.Tree) (cs : List Blocks.Tree)
    (H : GM.Node) (k : GM.Kind) (ys : List GM.Node) (h1 : docTree true env src tH = .ok H)
    (h2 : docTree true env src (.node b cs) = .ok (.mk k none ys)) :
    docTree true env src (.node b (tH :: cs)) = .ok (.mk k none (H :: ys)) := by
  unfold docTree at h2 ⊢
  rw [docTrees_cons, h1]
  simp only [bind, Except.bind, pure, Except.pure] at h2 ⊢
  cases hbs : docTrees true env src cs with
  | error e => rw [hbs] at h2; cases h2
  | ok bs =>
    rw [hbs] at h2
    simp only [] at h2 ⊢
    cases hq : inlinePhase true env src b with
    | error e => rw [hq] at h2; cases h2
    | ok kids =>
      rw [hq] at h2
      simp only [] at h2 ⊢
      cases hi : liftErr Err.value (inlineTrees src kids) with
      | error e => rw [hi] at h2; cases h2
      | ok is =>
        rw [hi] at h2
        simp only [] at h2 ⊢
        cases hkk : liftErr Err.value (blockKind src b) with
        | error e => rw [hkk] at h2; cases h2
        | ok k' =>
          rw [hkk] at h2
          simp only [Except.ok.injEq, GM.Node.mk.injEq] at h2 ⊢
          obtain ⟨e1, _, e3⟩ := h2
          exact ⟨e1, trivial, by rw [← e3]; rfl⟩

theorem noBracket_hlB {h : Bytes} (hb : NoBracket h) : NoBracket (hlB h) := by
  intro c hc
  unfold hlB at hc
  simp only [List.mem_cons, List.mem_append, List.not_mem_nil, or_false] at hc
  rcases hc with rfl | rfl | hc | rfl
  · decide
  · decide
  · exact hb c hc
  · decide

theorem noBracket_docB {h b : Bytes} (hh : NoBracket h) (hb : NoBracket b) : NoBracket (docB h b) := by
  intro c hc
  unfold docB at hc
  simp only [List.mem_cons, List.mem_append] at hc
  rcases hc with rfl | rfl | rfl | hc | rfl | rfl | hc
  · decide
  · decide
  · decide
  · exact hh c hc
  · decide
  · decide
  · exact hb c hc

theorem run_of_noBracket {D : Bytes} (hb : NoBracket D) : ∃ s, GM.Blocks.run D = .ok s ∧ blockPhase true D = .ok s := by
  obtain ⟨s, hs, _⟩ := GM.Props.ConvertNP.block_phase_total D
  exact ⟨s, by rw [← blockPhase_eq_run hb]; exact hs, hs⟩

theorem parseDoc_heading_line (uc : List (Nat × (Bool × Bool))) (h : Bytes) (sh : St) (hp : blockPhase true (hlB h) = .ok sh)
    (n0 : Blocks.Node) (hnh : sh.nodes = headStore n0) (hc0 : n0.children = []) (th : GM.Node)
    (hth : parseDoc true uc (hlB h) = .ok th) :
    ∃ H, docTree true { refs := sh.pc.refs, uc := uc } (hlB h) (.node { n0 with parent := some 0, blankPrev := true } []) = .ok H ∧
      th = .mk .document none [H] := by
  unfold parseDoc at hth
  rw [hp] at hth
  simp only [liftErr, bind, Except.bind] at hth
  rw [hnh] at hth
  have e : treeOf (headStore n0) (headStore n0).length 0 =
      .node { kind := .document, children := [1] } [.node { n0 with parent := some 0, blankPrev := true } []] := by
    simp [treeOf, headStore, hc0]
  rw [e] at hth
  unfold docTree at hth
  rw [docTrees_cons] at hth
  cases hH : docTree true { refs := sh.pc.refs, uc := uc } (hlB h) (.node { n0 with parent := some 0, blankPrev := true } []) with
  | error er =>
    rw [hH] at hth
    simp [bind, Except.bind] at hth
  | ok H =>
    refine ⟨H, rfl, ?_⟩
    rw [hH] at hth
    unfold docTrees at hth
    simp [inlinePhase, isRawKind, blockKind, inlineTrees, liftErr, bind, Except.bind, pure, Except.pure] at hth
    exact hth.symm

/-- the prefix `"\n# h\n\n"` -/
def pre (h : Bytes) : Bytes := 10 :: hlB h ++ [10]

theorem docB_pre (h b : Bytes) : docB h b = pre h ++ b := docB_eq h b

theorem parseDoc_joined (uc : List (Nat × (Bool × Bool))) (h b : Bytes) (hh : ∀ c ∈ h, c ≠ 10) (hbh : NoBracket h)
    (hbb : NoBracket b)
    (KEYh : ∀ sh, GM.Blocks.run (hlB h) = .ok sh → InlineMoveStep (hlB h) (docB h b) 1 (sh.nodes.getD 1 default).lines)
    (KEYb : ∀ sb, GM.Blocks.run b = .ok sb → ∀ j, isRawKind (sb.nodes.getD j default).kind = false →
      (sb.nodes.getD j default).lines ≠ [] →
      InlineMoveStep b (docB h b) ((pre h).length : Int) (sb.nodes.getD j default).lines)
    (th tb : GM.Node) (hth : parseDoc true uc (hlB h) = .ok th) (htb : parseDoc true uc b = .ok tb) :
    ∃ H xs, th = .mk .document none [H] ∧ tb = .mk .document none xs ∧ (∃ l cs, H = .mk (.heading l) none cs) ∧
      parseDoc true uc (docB h b) = .ok (.mk .document none (H :: xs)) := by
  have hbH := noBracket_hlB hbh
  have hbD := noBracket_docB hbh hbb
  obtain ⟨sh, hsh, hpH⟩ := run_of_noBracket hbH
  obtain ⟨sb, hsb, hpB⟩ := run_of_noBracket hbb
  obtain ⟨sd, hsd, hpD⟩ := run_of_noBracket hbD
  obtain ⟨n0, hn0, hnh⟩ := run_heading_line hh sh hsh
  obtain ⟨n1, stats'', s'', fuel'', dl, hn1, hnodes'', hstart, hcont⟩ := run_joined hh b sd hsd
  obtain ⟨sb', hsb', hrel⟩ := shift_invariance_all (frameB h n1 dl) (frameB_ok h n1 dl) (by simp [frameB]) b hstart fuel'' sd hcont
  rw [hsb] at hsb'
  cases hsb'
  have hmove : n1 = { n0 with lines := n0.lines.map (moveSeg 1) } := by
    have := atxNodeOf_move (hlB h) { start := 0, stop := ((h.length + 3 : Nat) : Int) } 0 1
    have e : moveSeg 1 { start := 0, stop := ((h.length + 3 : Nat) : Int) } =
        ({ start := 1, stop := ((h.length + 4 : Nat) : Int) } : Segment) := by
      simp only [moveSeg, Segment.mk.injEq, and_true]
      omega
    rw [e, hn1, hn0] at this
    simp only [Except.map, Option.map_some, Except.ok.injEq, Option.some.injEq] at this
    exact this
  obtain ⟨hk0, hc0, _, _⟩ := atxNodeOf_shape hn0
  have hk1 : n1.kind = n0.kind := by rw [hmove]
  have hl1 : n1.lines = n0.lines.map (moveSeg 1) := by rw [hmove]
  have hlev1 : n1.level = n0.level := by rw [hmove]
  have hch1 : n1.children = [] := by rw [hmove]; exact hc0
  -- the heading alone
  obtain ⟨H, hH, rfl⟩ := parseDoc_heading_line uc h sh hpH n0 hnh hc0 th hth
  obtain ⟨kH, csH, rfl, hkH⟩ := docTree_shape hH
  have hkH' : kH = .heading n0.level.toNat := by
    unfold blockKind at hkH
    simp only [hk0] at hkH
    cases hkH; rfl
  subst hkH'
  -- tree facts of the joined run
  have tA := GM.Props.ConvertNP.block_phase_tree_consistent b sb hpB
  have tB := GM.Props.ConvertNP.block_phase_tree_consistent _ sd hpD
  have hz : ∀ p c, c ∈ (sb.nodes.getD p default).children → c ≠ 0 := fun p c hc => by
    have := (tA.kid_lt hc).1; omega
  have hW : ∀ p c, c ∈ (sd.nodes.getD p default).children → WFB (docB h b) (sd.nodes.getD c default) := by
    intro p c hc hraw hne
    have hlt := (tB.kid_lt hc).2
    have hmem : sd.nodes.getD c default ∈ sd.nodes := by
      rw [List.getD_eq_getElem?_getD, List.getElem?_eq_getElem hlt, Option.getD_some]; exact List.getElem_mem _
    have hr : GM.Proof.BlocksWF0.isRaw (sd.nodes.getD c default).kind = false := by rw [isRaw_eq_isRawKind]; exact hraw
    obtain ⟨_, _, hwf⟩ := (GM.Props.ConvertNP.block_phase_lines_wellformed _ sd hpD).1 _ hmem hr
    exact ⟨hwf hne, (GM.Props.ConvertNP.block_phase_lines_padding_zero _ sd hpD).1 p c hc hr⟩
  have hA0 : (sb.nodes.getD 0 default).lines = [] := (GM.Props.ConvertNP.block_phase_lines_padding_zero b sb hpB).2
  -- the tree of `b`
  unfold parseDoc at htb
  rw [hpB] at htb
  simp only [liftErr, bind, Except.bind] at htb
  obtain ⟨f, hf⟩ : ∃ f, sb.nodes.length = f + 1 := ⟨sb.nodes.length - 1, by have := hrel.pos; omega⟩
  rw [hf] at htb
  simp only [treeOf] at htb
  obtain ⟨kb, xs, rfl, hkb⟩ := docTree_shape htb
  have hkb' : kb = .document := by
    unfold blockKind at hkb
    simp only [hrel.doc] at hkb
    cases hkb; rfl
  subst hkb'
  refine ⟨_, xs, rfl, rfl, ⟨_, _, rfl⟩, ?_⟩
  -- the tree of the joined source
  have hD := docB_pre h b
  have hB0 := hrel.node 0
  rw [ι_zero] at hB0
  have hB1 : sd.nodes.getD 1 default = { n1 with parent := some 0, blankPrev := true } := by
    rw [hrel.old 1 (Nat.le_refl 1) (by simp [frameB])]
    simp [frameB, headStore]
  have hlen : sd.nodes.length = f + 1 + 1 := by rw [hrel.len, hf]; rfl
  unfold parseDoc
  rw [hpD]
  simp only [liftErr, bind, Except.bind]
  rw [hlen]
  simp only [treeOf]
  rw [hB0]
  have hch : (shN (frameB h n1 dl) (0 == 0) (sb.nodes.getD 0 default)).children =
      1 :: (sb.nodes.getD 0 default).children.map (frameB h n1 dl).ι := by
    simp [shN, frameB]
  rw [hch]
  simp only [List.map_cons]
  refine docTree_node_cons _ _ _ _ _ _ ?_ ?_
  · -- the heading
    rw [hB1]
    have hc1 : ({ n1 with parent := some 0, blankPrev := true } : Blocks.Node).children = [] := hch1
    rw [hc1]
    simp only [List.map_nil]
    refine docTree_node_moved (d := 1) { refs := sh.pc.refs, uc := uc } { refs := sd.pc.refs, uc := uc } rfl rfl rfl
      _ _ [] [] hk1 hl1 (fun k hk => ?_) (fun _ _ => ?_) ?_ (fun xs hx => hx) hH
    · unfold blockKind at hk ⊢
      simp only [hk0] at hk
      simp only [hk1, hk0, hlev1]
      exact hk
    · have := KEYh sh hsh
      rw [hnh] at this
      simpa [headStore] using this
    · have := hW 0 1 (by rw [hB0, hch]; exact List.mem_cons_self ..)
      rw [hB1] at this
      exact this
  · -- the blocks of `b`
    rw [hD]
    refine docTree_node_moved (src := b) (src' := pre h ++ b) (d := (frameB h n1 dl).d) { refs := sb.pc.refs, uc := uc }
      { refs := sd.pc.refs, uc := uc } rfl rfl rfl (sb.nodes.getD 0 default)
      (shN (frameB h n1 dl) (0 == 0) (sb.nodes.getD 0 default)) _ _ rfl rfl
      (fun k hk => blockKind_shift (frameB h n1 dl) b _ _ hk) (fun _ hne => absurd hA0 hne)
      (fun _ hne => absurd (by show List.map _ (sb.nodes.getD 0 default).lines = []; rw [hA0]; rfl) hne) ?_ htb
    refine docTrees_map _ _ (treeOf sb.nodes f) (treeOf sd.nodes (f + 1)) (frameB h n1 dl).ι _ (fun c hc x hx => ?_)
    have hc0' : c ≠ 0 := hz 0 c hc
    have hstab : treeOf sb.nodes f c = treeOf sb.nodes (f + 1) c :=
      treeOf_stable (fun j c' hc' => (tA.kid_lt hc').1) f (f + 1) c (by omega) (by omega)
    rw [hstab] at hx
    have hWp : ∀ p c, c ∈ (sd.nodes.getD p default).children → WFB ((frameB h n1 dl).p ++ b) (sd.nodes.getD c default) := by
      intro p c hc; have := hW p c hc; rw [hD] at this; exact this
    exact docTree_shift (frameB h n1 dl) { refs := sb.pc.refs, uc := uc } { refs := sd.pc.refs, uc := uc } rfl rfl rfl hrel hz hWp
      (fun j h1 h2 => by have := KEYb sb hsb j h1 h2; rw [hD] at this; exact this) (f + 1) c x hc0'
      ⟨0, by rw [hB0, hch]; exact List.mem_cons_of_mem _ (List.mem_map_of_mem hc)⟩ hx

theorem renderNode_heading_next (rc : RCfg) (pih : Bool) (next : Option GM.Node) (l : Nat) (a : Option (List Attr))
    (cs : List GM.Node) :
    renderNode rc pih next (.mk (.heading l) a cs) = renderNode rc pih none (.mk (.heading l) a cs) := by
  rw [GM.Proof.RenderWF.renderNode_mk, GM.Proof.RenderWF.renderNode_mk]
  simp [enter, leave]

theorem render_heading_cons (rc : RCfg) (l : Nat) (a : Option (List Attr)) (cs xs : List GM.Node) :
    render rc (.mk .document none (.mk (.heading l) a cs :: xs)) =
      render rc (.mk .document none [.mk (.heading l) a cs]) ++ render rc (.mk .document none xs) := by
  unfold render
  rw [GM.Proof.RenderWF.renderNode_mk, GM.Proof.RenderWF.renderNode_mk, GM.Proof.RenderWF.renderNode_mk]
  simp only [GM.Proof.RenderWF.renderNodes_cons, GM.Proof.RenderWF.renderNodes_nil]
  rw [renderNode_heading_next rc _ xs.head?, renderNode_heading_next rc _ ([] : List GM.Node).head?]
  simp [enter, leave, handled, skipsChildren, Kind.isTableHeader]

theorem convert_joined (uc : List (Nat × (Bool × Bool))) (o : ROpts) (h b : Bytes) (hh : ∀ c ∈ h, c ≠ 10) (hbh : NoBracket h)
    (hbb : NoBracket b)
    (KEYh : ∀ sh, GM.Blocks.run (hlB h) = .ok sh → InlineMoveStep (hlB h) (docB h b) 1 (sh.nodes.getD 1 default).lines)
    (KEYb : ∀ sb, GM.Blocks.run b = .ok sb → ∀ j, isRawKind (sb.nodes.getD j default).kind = false →
      (sb.nodes.getD j default).lines ≠ [] →
      InlineMoveStep b (docB h b) ((pre h).length : Int) (sb.nodes.getD j default).lines)
    (htmlH htmlB : Bytes) (h1 : convertCore uc o (hlB h) = .ok htmlH) (h2 : convertCore uc o b = .ok htmlB) :
    convertCore uc o (docB h b) = .ok (htmlH ++ htmlB) := by
  unfold convertCore at h1 h2 ⊢
  obtain ⟨th, hth, rfl⟩ := convertWith_ok h1
  obtain ⟨tb, htb, rfl⟩ := convertWith_ok h2
  obtain ⟨H, xs, rfl, rfl, ⟨l, cs, rfl⟩, hpD⟩ := parseDoc_joined uc h b hh hbh hbb KEYh KEYb th tb hth htb
  rw [convertWith_of_tree o hpD, render_heading_cons]

end GM.E2E.Shift
