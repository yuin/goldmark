/-
  GM.Proof.BlocksTNOInvW — the line-order / non-blank invariant for the block driver with paragraph transformers, EVERY
  source (setext headings included): `InvW tb D F`, the `Close` functions, the lines of a Paragraph pass the guards (`InvW.linesOKB`,
  `InvW.tblLinesB`), and `InvW` is kept by the link-reference call (`InvW.ptpost`) and by a table-making call (`InvW.tabledata`).

  `InvW` is `InvT` of GM.Proof.BlocksTNOBase with "no open setext block" replaced by
    * `ord`: the nodes of the open blocks increase (so a popped paragraph is no other open block's node), and
    * `tl`: while a setext heading block is open, temporaryParagraphKey (if set) points to a node that HAS lines and is no
      open block's node (so no transformer call empties it before `setextHeadingParser.Close` copies its lines);
  with the bound clause weakened for Heading nodes (`NodeW`: a Heading is never appended to; the node that
  `setextHeadingParser.Open` builds on the underline and that is abandoned when the paragraph is transformed away keeps
  its one line of the current source line), and with
    * `pnl`: every line of a Paragraph that has a successor ends in a newline byte (the table transformer cuts one byte
      off the last line it keeps — a line that had a successor);
    * `pol`: the last line of the node of an OPEN paragraph block ends at a line end (`D` = the blocks whose closing has
      begun: `closeBlocksT` closes them one by one and removes them from the stack afterwards).
  `tb` says that a table transformer may be in the list: then `NodeW` says nothing about `thematicBreak` nodes (the Table /
  TableHeader / TableRow / TableCell records are `thematicBreak` nodes WITH lines: empty cell segments, escaped-pipe
  positions). `InvGFX` (namespace `GM.Blocks.TX`) is `InvW True`; `InvW False` gives `TO.InvGF` of GM.Proof.BlocksTNOBase.
-/
import GM.Proof.BlocksTNOTableData
import GM.Proof.BlocksTNOBase

namespace GM.Blocks.TX
open GM GM.Text GM.Spec GM.Proof.Reader GM.Blocks.TO GM.TableX
open GM.Proof.BlocksWF0 (isRaw)

/-- the byte before the end of the segment is a newline -/
def NLAt (src : Bytes) (t : Segment) : Prop := src[t.stop.toNat - 1]? = some 10
/-- the segment ends at a line end of the source -/
def LEnd (src : Bytes) (t : Segment) : Prop := t.stop = (src.length : Int) ∨ NLAt src t

/-- `TO.NodeG`, without a claim about `thematicBreak` nodes when a table transformer may run (`tb`) -/
def NodeW (tb : Prop) (B : Int) (n : Node) : Prop :=
  isRaw n.kind = false → (tb → n.kind ≠ .thematicBreak) → OrdFrom 0 n.lines ∧ (n.kind ≠ .heading → Below B n.lines) ∧
    ∀ t ∈ n.lines, t.start < t.stop ∧ t.forceNewline = false

variable {tb : Prop}

theorem NodeW.mono {B B' : Int} (h : B ≤ B') {n : Node} (hn : NodeW tb B n) : NodeW tb B' n :=
  fun hr hk => ⟨(hn hr hk).1, fun hh => ((hn hr hk).2.1 hh).mono h, (hn hr hk).2.2⟩

structure InvW (tb : Prop) (D : List Block) (F : Prop) (src : Bytes) (B : Int) (s : St) : Prop where
  nrb : ∀ i, NodeW tb B (nd s i)
  ord : s.pc.opened.Pairwise (fun a b => a.node < b.node)
  pnb : ∀ i, (nd s i).kind = .paragraph → ∀ t ∈ (nd s i).lines, NonBlankSeg src t
  tmpk : ∀ t, s.pc.tmpPara = some t → (nd s t).kind = .paragraph
  kinds : ∀ b ∈ s.pc.opened, (nd s b.node).kind = b.bp.kind ∧ b.node < s.nodes.length
  nodes : NodesOK src s
  tl : ∀ t, s.pc.tmpPara = some t → (F ∨ ∃ b ∈ s.pc.opened, b.bp = .setext) →
    (nd s t).lines ≠ [] ∧ ∀ b' ∈ s.pc.opened, b'.node ≠ t
  raw : ∀ i, isRaw (nd s i).kind = true → OrdFrom 0 (nd s i).lines ∧ Below B (nd s i).lines
  pnl : ∀ i, (nd s i).kind = .paragraph → ∀ t ∈ (nd s i).lines.dropLast, NLAt src t
  pol : ∀ b ∈ s.pc.opened, b ∉ D → b.bp = .paragraph → ∀ t, (nd s b.node).lines.getLast? = some t → LEnd src t

abbrev InvWF (tb : Prop) (F : Prop) := InvW tb [] F
abbrev InvW0 (tb : Prop) := InvWF tb False

variable {F : Prop} {D : List Block}

theorem InvW.mono {src : Bytes} {B B' : Int} {s : St} (h : B ≤ B') (hi : InvW tb D F src B s) : InvW tb D F src B' s :=
  ⟨fun i => (hi.nrb i).mono h, hi.ord, hi.pnb, hi.tmpk, hi.kinds, hi.nodes, hi.tl,
    fun i hr => ⟨(hi.raw i hr).1, (hi.raw i hr).2.mono h⟩, hi.pnl, hi.pol⟩

theorem InvW.congr_r {src : Bytes} {B : Int} {s : St} (hi : InvW tb D F src B s) (r' : Reader) : InvW tb D F src B { s with r := r' } :=
  ⟨hi.nrb, hi.ord, hi.pnb, hi.tmpk, hi.kinds, hi.nodes, hi.tl, hi.raw, hi.pnl, hi.pol⟩

theorem InvW.of_same {src : Bytes} {B : Int} {s s' : St} (hi : InvW tb D F src B s) (hn : s'.nodes = s.nodes)
    (ho : s'.pc.opened = s.pc.opened) (ht : s'.pc.tmpPara = s.pc.tmpPara) : InvW tb D F src B s' :=
  ⟨fun i => by simp only [nd, hn]; exact hi.nrb i, by rw [ho]; exact hi.ord,
    fun i => by simp only [nd, hn]; exact hi.pnb i,
    fun t h => by rw [ht] at h; simp only [nd, hn]; exact hi.tmpk t h,
    fun b hb => by rw [ho] at hb; simp only [nd, hn]; exact hi.kinds b hb,
    fun m hm => hi.nodes m (by rw [← hn]; exact hm),
    fun t h hm => by rw [ht] at h; rw [ho] at hm ⊢; simp only [nd, hn]; exact hi.tl t h hm,
    fun i => by simp only [nd, hn]; exact hi.raw i,
    fun i => by simp only [nd, hn]; exact hi.pnl i,
    fun b hb hd hbp => by rw [ho] at hb; simp only [nd, hn]; exact hi.pol b hb hd hbp⟩

theorem InvW.weaken {src : Bytes} {B : Int} {s : St} (hi : InvW tb D F src B s) : InvW tb D False src B s :=
  ⟨hi.nrb, hi.ord, hi.pnb, hi.tmpk, hi.kinds, hi.nodes, fun t ht hm => hi.tl t ht (.inr (hm.resolve_left id)), hi.raw, hi.pnl, hi.pol⟩

theorem InvW.strengthen {src : Bytes} {B : Int} {s : St} (hi : InvW tb D F src B s)
    (h : ∀ t, s.pc.tmpPara = some t → (nd s t).lines ≠ [] ∧ ∀ b' ∈ s.pc.opened, b'.node ≠ t) : InvW tb D True src B s :=
  ⟨hi.nrb, hi.ord, hi.pnb, hi.tmpk, hi.kinds, hi.nodes, fun t ht _ => h t ht, hi.raw, hi.pnl, hi.pol⟩

theorem InvW.congr_pc {src : Bytes} {B : Int} {s : St} (hi : InvW tb D F src B s) (pc' : Ctx) (ht : pc'.tmpPara = s.pc.tmpPara)
    (ho : pc'.opened.Sublist s.pc.opened) : InvW tb D F src B { s with pc := pc' } :=
  ⟨hi.nrb, hi.ord.sublist ho, hi.pnb, fun t h => hi.tmpk t (by rw [← ht]; exact h),
    fun b hb => hi.kinds b (ho.subset hb), hi.nodes, fun t h hm => by
      obtain ⟨a1, a2⟩ := hi.tl t (by rw [← ht]; exact h) (hm.imp id (fun ⟨b, hb, hs⟩ => ⟨b, ho.subset hb, hs⟩))
      exact ⟨a1, fun b' hb' => a2 b' (ho.subset hb')⟩, hi.raw, hi.pnl, fun b hb hd => hi.pol b (ho.subset hb) hd⟩

theorem InvW.lk {src : Bytes} {B : Int} {s s' : St} (hi : InvW tb D F src B s) (h : LK s s') : InvW tb D F src B s' := by
  refine ⟨fun i hr => ?_, by rw [h.pc]; exact hi.ord, fun i hk => ?_, fun t ht => ?_, fun b hb => ?_, fun n hn => ?_,
    fun t ht hm => ?_, fun i hr => by rw [(h.same i).2.2] at hr; rw [(h.same i).1]; exact hi.raw i hr,
    fun i hk => by rw [(h.same i).2.2] at hk; rw [(h.same i).1]; exact hi.pnl i hk,
    fun b hb hd hp => by rw [h.pc] at hb; rw [(h.same _).1]; exact hi.pol b hb hd hp⟩
  · intro hk; rw [(h.same i).2.2] at hr hk; rw [(h.same i).1, (h.same i).2.2]; exact hi.nrb i hr hk
  · rw [(h.same i).2.2] at hk; rw [(h.same i).1]; exact hi.pnb i hk
  · rw [h.pc] at ht; rw [(h.same t).2.2]; exact hi.tmpk t ht
  · rw [h.pc] at hb; rw [(h.same _).2.2, h.len]; exact hi.kinds b hb
  · obtain ⟨i, _, rfl⟩ := mem_nodes_nd hn
    have := nodeOK_nd hi.nodes i
    exact ⟨by rw [(h.same i).1]; exact this.lines, by rw [(h.same i).1, (h.same i).2.1]; exact this.nil⟩
  · rw [h.pc] at ht hm ⊢; rw [(h.same t).1]; exact hi.tl t ht hm

theorem InvW.linesAt {src : Bytes} {B : Int} {s s' : St} {X : Nat} {ls : List Segment} (hi : InvW tb D F src B s)
    (h : LinesAt X ls s s')
    (hb : isRaw (nd s X).kind = false → (tb → (nd s X).kind ≠ .thematicBreak) → OrdFrom 0 ls ∧ ((nd s X).kind ≠ .heading → Below B ls) ∧
      ∀ t ∈ ls, t.start < t.stop ∧ t.forceNewline = false)
    (hp : (nd s X).kind = .paragraph → ∀ t ∈ ls, NonBlankSeg src t)
    (hne : (nd s X).kind = .paragraph → (nd s X).lines ≠ [] → ls ≠ []) (hok : LinesOK src ls)
    (hrw : isRaw (nd s X).kind = true → OrdFrom 0 ls ∧ Below B ls)
    (hpn : (nd s X).kind = .paragraph → ∀ t ∈ ls.dropLast, NLAt src t)
    (hpo : ∀ b ∈ s.pc.opened, b ∉ D → b.node = X → b.bp = .paragraph → ∀ t, ls.getLast? = some t → LEnd src t) :
    InvW tb D F src B s' := by
  refine ⟨fun i hr hk0 => ?_, by rw [h.opened]; exact hi.ord, fun i hk => ?_, fun t ht => ?_, fun b hbm => ?_, fun n hn => ?_,
    fun t ht hm => ?_, fun i hr => ?_, fun i hk => ?_, fun b hbm hd hbp => ?_⟩
  · rw [h.kind i] at hr hk0
    by_cases hx : i = X
    · subst hx; rw [h.lines, h.kind]; exact hb hr hk0
    · rw [(h.other i hx).1, h.kind]; exact hi.nrb i hr hk0
  · rw [h.kind i] at hk
    by_cases hx : i = X
    · subst hx; rw [h.lines]; exact hp hk
    · rw [(h.other i hx).1]; exact hi.pnb i hk
  · rw [h.kind t]; exact hi.tmpk t (h.tmp t ht)
  · rw [h.opened] at hbm; rw [h.kind, h.len]; exact hi.kinds b hbm
  · obtain ⟨i, _, rfl⟩ := mem_nodes_nd hn
    by_cases hx : i = X
    · subst hx; exact ⟨by rw [h.lines]; exact hok, fun hn => by rw [h.lines]; exact h.nil hn⟩
    · have := nodeOK_nd hi.nodes i
      exact ⟨by rw [(h.other i hx).1]; exact this.lines, by rw [(h.other i hx).1, (h.other i hx).2]; exact this.nil⟩
  · rw [h.opened] at hm ⊢
    obtain ⟨a1, a2⟩ := hi.tl t (h.tmp t ht) hm
    refine ⟨?_, a2⟩
    by_cases hx : t = X
    · subst hx; rw [h.lines]; exact hne (hi.tmpk t (h.tmp t ht)) a1
    · rw [(h.other t hx).1]; exact a1
  · rw [h.kind i] at hr
    by_cases hx : i = X
    · subst hx; rw [h.lines]; exact hrw hr
    · rw [(h.other i hx).1]; exact hi.raw i hr
  · rw [h.kind i] at hk
    by_cases hx : i = X
    · subst hx; rw [h.lines]; exact hpn hk
    · rw [(h.other i hx).1]; exact hi.pnl i hk
  · rw [h.opened] at hbm
    by_cases hx : b.node = X
    · rw [hx, h.lines]; exact hpo b hbm hd hx hbp
    · rw [(h.other b.node hx).1]; exact hi.pol b hbm hd hbp

/-! ### the `Close` functions keep `InvW0` -/

/-- every old node but `node` keeps its lines -/
def LO (node : Nat) (s s' : St) : Prop := ∀ i, i < s.nodes.length → i ≠ node → (nd s' i).lines = (nd s i).lines

theorem LO.refl (node : Nat) (s : St) : LO node s s := fun _ _ _ => rfl

theorem trimLeftAll_stops {src : Bytes} : ∀ (ls ls' : List Segment), trimLeftAll src ls = .ok ls' → LinesOK src ls →
    ∀ k : Nat, (ls'[k]?).map (fun x : Segment => x.stop) = (ls[k]?).map (fun x : Segment => x.stop)
  | [], ls', h, _, k => by
    unfold trimLeftAll at h
    cases h; simp
  | l :: ls, ls', h, hok, k => by
    obtain ⟨t', ht, _, hstop, _⟩ := trimLeftSpace_ok2 (hok l (by simp))
    unfold trimLeftAll at h
    rw [ht] at h
    simp only [bind, Except.bind, pure, Except.pure] at h
    cases hr : trimLeftAll src ls with
    | error e => rw [hr] at h; cases h
    | ok r =>
      rw [hr] at h
      cases h
      cases k with
      | zero => simp [hstop]
      | succ k =>
        simp only [List.getElem?_cons_succ]
        exact trimLeftAll_stops ls r hr (fun t ht => hok t (by simp [ht])) k

/-- paragraphParser.Close leaves the end of every line but the last where it is -/
theorem paragraphClose_inner {src : Bytes} {s s' : St} {node : Nat} (hsrc : s.r.source = src)
    (hl : LinesOK src (nd s node).lines) (hne : (nd s node).lines ≠ []) (hlt : node < s.nodes.length)
    (e : paragraphClose node s = .ok ((), s')) :
    ∀ k, k + 1 < (nd s node).lines.length → ((nd s' node).lines[k]?).map (fun x : Segment => x.stop) = ((nd s node).lines[k]?).map (fun x : Segment => x.stop) := by
  obtain ⟨_, _, ls, _, hsh, _, _, hn⟩ := (paragraphClose_lines node hsrc hl hne).of_ok e
  have hlines' : (nd s' node).lines = ls := by
    simp only [nd, hn, List.getD_eq_getElem?_getD, List.getElem?_set, hlt, if_true]
    rfl
  unfold paragraphClose at e
  obtain ⟨n, s1, h1, k1⟩ := bind_ok e
  obtain ⟨hn1, hs1⟩ := getNode_ok h1
  subst s1
  subst hn1
  obtain ⟨src', s2, h2, k2⟩ := bind_ok k1
  have hs2 : s2 = s ∧ src' = src := by cases h2; exact ⟨rfl, hsrc⟩
  obtain ⟨hs2a, hs2b⟩ := hs2
  subst s2
  subst src'
  dsimp only at k2
  have hne' : ((s.nodes.getD node default).lines.length != 0) = true := by
    have : (s.nodes.getD node default).lines = (nd s node).lines := rfl
    rw [this]
    cases hh : (nd s node).lines with
    | nil => exact absurd hh hne
    | cons a b => simp
  rw [if_pos hne'] at k2
  obtain ⟨ls1, s3, h3, k3⟩ := bind_ok k2
  obtain ⟨e3, hs3⟩ := liftE_ok h3
  subst s3
  obtain ⟨last, s4, h4, k4⟩ := bind_ok k3
  obtain ⟨e4, hs4⟩ := liftE_ok h4
  subst s4
  obtain ⟨last', s5, h5, k5⟩ := bind_ok k4
  obtain ⟨e5, hs5⟩ := liftE_ok h5
  subst s5
  obtain ⟨ls2, s6, h6, k6⟩ := bind_ok k5
  obtain ⟨e6, hs6⟩ := liftE_ok h6
  subst s6
  obtain ⟨_, s7, h7, k7⟩ := bind_ok k6
  have hs7 := modNode_ok h7
  have hl7 : (nd s7 node).lines = ls2 := by
    rw [hs7]
    simp only [nd, List.getD_eq_getElem?_getD, List.getElem?_set, hlt, if_true]
    rfl
  have hls2 : ls2 = ls1.set ((ls1.length : Int) - 1).toNat last' := by
    unfold lineSet at e6
    split at e6
    · cases e6; rfl
    · cases e6
  have hstops := trimLeftAll_stops _ _ e3 hl
  have hlen1 : ls1.length = (nd s node).lines.length := by
    have h0 := hstops ls1.length
    have h1' := hstops (nd s node).lines.length
    rcases Nat.lt_trichotomy ls1.length (nd s node).lines.length with hh | hh | hh
    · rw [List.getElem?_eq_none (Nat.le_refl _)] at h0
      have : ((s.nodes.getD node default).lines[ls1.length]?) = some ((nd s node).lines[ls1.length]) :=
        List.getElem?_eq_getElem hh
      rw [this] at h0; cases h0
    · exact hh
    · have e1 : ((s.nodes.getD node default).lines[(nd s node).lines.length]?) = none :=
        List.getElem?_eq_none (Nat.le_refl _)
      rw [e1, List.getElem?_eq_getElem hh] at h1'; cases h1'
  have hfin : (nd s' node).lines = ls2 := by
    obtain ⟨n8, s8, h8, k8⟩ := bind_ok k7
    obtain ⟨hn8, hs8⟩ := getNode_ok h8
    subst s8
    subst hn8
    have hl8 : (s7.nodes.getD node default).lines = ls2 := hl7
    have hnz : ls2.length ≠ 0 := by
      rw [hls2, List.length_set, hlen1]
      intro h0
      exact hne (List.length_eq_zero_iff.1 h0)
    rw [hl8] at k8
    rw [if_neg (by simpa using hnz)] at k8
    obtain ⟨_, hs9⟩ := pure_ok k8
    subst s'
    exact hl7
  intro k hk
  rw [hfin, hls2, List.getElem?_set]
  have : ¬ ((ls1.length : Int) - 1).toNat = k := by omega
  rw [if_neg this]
  exact hstops k

theorem paragraphClose_invG {src : Bytes} {B : Int} {s s' : St} {node : Nat} (hi : InvW tb D F src B s) (hsrc : s.r.source = src)
    (hk : (nd s node).kind = .paragraph) (hlt : node < s.nodes.length) (hD : ∀ b ∈ s.pc.opened, b.node = node → b ∈ D)
    (e : paragraphClose node s = .ok ((), s')) : InvW tb D F src B s' ∧ s'.r = s.r ∧ s'.pc = s.pc ∧ KG s s' ∧
      ((nd s node).lines ≠ [] → (nd s' node).lines ≠ []) ∧ LO node s s' := by
  by_cases hne : (nd s node).lines = []
  · -- a paragraph a transformer has emptied: `node.Parent().RemoveChild(node.Parent(), node)`
    have hne' : (s.nodes.getD node default).lines = [] := hne
    unfold paragraphClose at e
    obtain ⟨n, s1, h1, k1⟩ := bind_ok e
    obtain ⟨rfl, hs1⟩ := getNode_ok h1
    subst s1
    obtain ⟨src', s2, h2, k2⟩ := bind_ok k1
    have hs2 : s2 = s := by cases h2; rfl
    subst s2
    dsimp only at k2
    have k3 : (do
        let n ← getNode node
        if (n.lines.length == 0) = true then
            match n.parent with
            | none => throw Panic.nil
            | some p => removeChild p node
          else pure () : M Unit) s = .ok ((), s') := by
      split at k2
      · next hc => rw [hne'] at hc; simp at hc
      · exact k2
    obtain ⟨n4, s4, h4, k4⟩ := bind_ok k3
    obtain ⟨rfl, hs4⟩ := getNode_ok h4
    subst s4
    split at k4
    · cases hp : (s.nodes.getD node default).parent with
      | none => rw [hp] at k4; cases k4
      | some p =>
        rw [hp] at k4
        have hlk := removeChild_lk k4
        exact ⟨hi.lk hlk, hlk.r, hlk.pc, hlk.kg, fun h => absurd hne h, fun i _ _ => (hlk.same i).1⟩
    · next hc => rw [hne'] at hc; simp at hc
  · have hl : LinesOK src (nd s node).lines := (nodeOK_nd hi.nodes node).lines
    obtain ⟨hr, hpc, ls, hok, hsh, hpf, hnbl, hn⟩ := (paragraphClose_lines node hsrc hl hne).of_ok e
    have hall := hnbl (hi.pnb node hk)
    have hnb := hi.nrb node (by rw [hk]; rfl) (fun _ => by rw [hk]; decide)
    have hinner := paragraphClose_inner hsrc hl hne hlt e
    have hs' : s' = { s with nodes := s.nodes.set node { (nd s node) with lines := ls } } := by
      cases s'; simp only at hr hpc hn; subst hr hpc hn; rfl
    have hlen := hsh.length
    have hlsne : ls ≠ [] := by
      intro e0; rw [e0] at hlen; exact hne (List.length_eq_zero_iff.1 hlen.symm)
    have hla := linesAt_upd s node ls hlt (fun hn0 => absurd ((nodeOK_nd hi.nodes node).nil hn0) hne)
    rw [← hs'] at hla
    have hpn : ∀ t ∈ ls.dropLast, NLAt src t := by
      intro t ht
      obtain ⟨k, hk1, hk2⟩ := List.getElem_of_mem ht
      rw [List.length_dropLast] at hk1
      rw [List.getElem_dropLast] at hk2
      have h1 := hinner k (by rw [← hlen]; omega)
      rw [hla.lines, List.getElem?_eq_getElem (by omega), hk2] at h1
      have hk' : k < (nd s node).lines.length := by rw [← hlen]; omega
      rw [List.getElem?_eq_getElem hk'] at h1
      simp only [Option.map_some, Option.some.injEq] at h1
      have hm : (nd s node).lines[k] ∈ (nd s node).lines.dropLast := by
        rw [List.mem_iff_getElem]
        exact ⟨k, by rw [List.length_dropLast, ← hlen]; omega, by rw [List.getElem_dropLast]⟩
      have := hi.pnl node hk _ hm
      unfold NLAt at this ⊢
      rw [h1]; exact this
    exact ⟨hi.linesAt hla (fun _ _ => ⟨OrdFrom.shrinks hsh hnb.1, fun hh => Below.shrinks hsh (hnb.2.1 hh),
        fun t ht => ⟨(hall t ht).2, (hpf t ht).2⟩⟩) (fun _ => fun t ht => (hall t ht).1) (fun _ _ => hlsne) hok
        (fun hr' => by rw [hk] at hr'; cases hr') (fun _ => hpn)
        (fun b hb hd hx _ => absurd (hD b hb hx) hd), hr, hpc, hla.kg,
      fun _ => by rw [hla.lines]; exact hlsne, fun i _ hx => (hla.other i hx).1⟩

theorem codeClose_invG {src : Bytes} {B : Int} {s s' : St} {node : Nat} (hi : InvW tb D F src B s)
    (hk : (nd s node).kind = .codeBlock) (hlt : node < s.nodes.length)
    (e : codeClose node s = .ok ((), s')) : InvW tb D F src B s' ∧ s'.r = s.r ∧ s'.pc = s.pc ∧ KG s s' ∧ LO node s s' := by
  unfold codeClose at e
  obtain ⟨n, s1, h1, k1⟩ := bind_ok e
  obtain ⟨rfl, hs1⟩ := getNode_ok h1
  subst s1
  obtain ⟨src', s2, h2, k2⟩ := bind_ok k1
  have hs2 : s2 = s := by cases h2; rfl
  subst s2
  obtain ⟨len, s3, h3, k3⟩ := bind_ok k2
  obtain ⟨_, hs3⟩ := liftE_ok h3
  subst s3
  dsimp only at k3
  split at k3
  · obtain ⟨_, _, ht, _⟩ := bind_ok k3; cases ht
  have e4 := modNode_ok k3
  have hs' : s' = { s with nodes := s.nodes.set node { (nd s node) with lines := (nd s node).lines.take (len + 1).toNat } } := e4
  have hok := (nodeOK_nd hi.nodes node)
  have hla := linesAt_upd s node ((nd s node).lines.take (len + 1).toNat) hlt (fun hn0 => by rw [hok.nil hn0]; simp)
  rw [← hs'] at hla
  exact ⟨hi.linesAt hla (fun hr => by rw [hk] at hr; cases hr) (fun hp => by rw [hk] at hp; cases hp)
    (fun hp => by rw [hk] at hp; cases hp) (fun t ht => hok.lines t (List.mem_of_mem_take ht))
    (fun _ => ⟨OrdFrom.take _ (hi.raw node (by rw [hk]; rfl)).1,
      fun t ht => (hi.raw node (by rw [hk]; rfl)).2 t (List.mem_of_mem_take ht)⟩) (fun hp => by rw [hk] at hp; cases hp)
    (fun b hb _ hx hbp => by have := (hi.kinds b hb).1; rw [hx, hk, hbp] at this; cases this), by rw [hs'], by rw [hs'], hla.kg,
    fun i _ hx => (hla.other i hx).1⟩

theorem fencedClose_invG {src : Bytes} {B : Int} {s s' : St} {node : Nat} (hi : InvW tb D F src B s)
    (e : fencedClose node s = .ok ((), s')) : InvW tb D F src B s' ∧ s'.r = s.r ∧ s'.pc.opened = s.pc.opened ∧ KG s s' ∧
      s'.pc.tmpPara = s.pc.tmpPara ∧ LO node s s' := by
  unfold fencedClose at e
  obtain ⟨pc, s1, h1, k1⟩ := bind_ok e
  obtain ⟨rfl, hs1⟩ := getPc_ok h1
  subst s1
  cases hf : s.pc.fence with
  | none => rw [hf] at k1; cases k1
  | some f =>
    rw [hf] at k1
    dsimp only at k1
    split at k1
    · have := modPc_ok k1
      subst this
      exact ⟨hi.congr_pc _ rfl (List.Sublist.refl _), rfl, rfl, KG.refl _, rfl, fun _ _ _ => rfl⟩
    · obtain ⟨_, hs⟩ := pure_ok k1
      subst s'
      exact ⟨hi, rfl, rfl, KG.refl _, rfl, LO.refl _ _⟩

theorem listClose_invG {src : Bytes} {B : Int} {s s' : St} {node : Nat} (hi : InvW tb D F src B s)
    (e : listClose node s = .ok ((), s')) : InvW tb D F src B s' ∧ s'.r = s.r ∧ s'.pc = s.pc ∧ KG s s' ∧ LO node s s' := by
  have hc := listClose_copies e
  refine ⟨⟨fun i hr hk0 => ?_, by rw [hc.pc]; exact hi.ord, fun i hk => ?_, fun t ht => ?_, fun b hb => ?_, fun n hn => ?_, fun t ht hm => ?_, fun i hr => ?_,
    fun i hk => ?_, fun b hb hd hbp => ?_⟩, hc.r, hc.pc, hc.kg, fun i hi' _ => (hc.old i hi').1⟩
  · rcases Nat.lt_or_ge i s.nodes.length with h | h
    · obtain ⟨x1, _, x3⟩ := hc.old i h
      rw [x3] at hr hk0; rw [x1, x3]; exact hi.nrb i hr hk0
    · rcases Nat.lt_or_ge i s'.nodes.length with h' | h'
      · obtain ⟨_, j, hj, hjk, hl, _⟩ := hc.new i h h'
        rw [hl]
        obtain ⟨q1, q2, q3⟩ := hi.nrb j (by rw [hjk]; rfl) (fun _ => by rw [hjk]; decide)
        exact ⟨q1, fun _ => q2 (by rw [hjk]; decide), q3⟩
      · rw [nd_default_of_ge s' h']; exact ⟨trivial, fun _ => Below.nil B, fun t ht => by cases ht⟩
  · rcases Nat.lt_or_ge i s.nodes.length with h | h
    · obtain ⟨x1, _, x3⟩ := hc.old i h
      rw [x3] at hk; rw [x1]; exact hi.pnb i hk
    · rcases Nat.lt_or_ge i s'.nodes.length with h' | h'
      · obtain ⟨k, _⟩ := hc.new i h h'
        rw [k] at hk; cases hk
      · rw [nd_default_of_ge s' h'] at hk; cases hk
  · rw [hc.pc] at ht
    have hk := hi.tmpk t ht
    have htl : t < s.nodes.length := by
      rcases Nat.lt_or_ge t s.nodes.length with h | h
      · exact h
      · rw [nd_default_of_ge s h] at hk; cases hk
    rw [(hc.old t htl).2.2]; exact hk
  · rw [hc.pc] at hb
    obtain ⟨k1, k2⟩ := hi.kinds b hb
    exact ⟨by rw [(hc.old _ k2).2.2]; exact k1, Nat.lt_of_lt_of_le k2 hc.len⟩
  · obtain ⟨i, hil, rfl⟩ := mem_nodes_nd hn
    rcases Nat.lt_or_ge i s.nodes.length with h | h
    · obtain ⟨x1, x2, _⟩ := hc.old i h
      have := nodeOK_nd hi.nodes i
      exact ⟨by rw [x1]; exact this.lines, by rw [x1, x2]; exact this.nil⟩
    · obtain ⟨_, j, _, _, hl, hln⟩ := hc.new i h hil
      have := nodeOK_nd hi.nodes j
      exact ⟨by rw [hl]; exact this.lines, by rw [hl, hln]; exact this.nil⟩
  · rw [hc.pc] at ht hm ⊢
    obtain ⟨a1, a2⟩ := hi.tl t ht hm
    exact ⟨by rw [(hc.old t (tmp_lt (hi.tmpk t ht))).1]; exact a1, a2⟩
  · rcases Nat.lt_or_ge i s.nodes.length with h | h
    · obtain ⟨x1, _, x3⟩ := hc.old i h
      rw [x3] at hr; rw [x1]; exact hi.raw i hr
    · rcases Nat.lt_or_ge i s'.nodes.length with h' | h'
      · obtain ⟨k, _⟩ := hc.new i h h'
        rw [k] at hr; cases hr
      · rw [nd_default_of_ge s' h'] at hr; cases hr
  · rcases Nat.lt_or_ge i s.nodes.length with h | h
    · obtain ⟨x1, _, x3⟩ := hc.old i h
      rw [x3] at hk; rw [x1]; exact hi.pnl i hk
    · rcases Nat.lt_or_ge i s'.nodes.length with h' | h'
      · obtain ⟨k, _⟩ := hc.new i h h'
        rw [k] at hk; cases hk
      · rw [nd_default_of_ge s' h'] at hk; cases hk
  · rw [hc.pc] at hb
    rw [(hc.old _ (hi.kinds b hb).2).1]; exact hi.pol b hb hd hbp


theorem setextClose_invG {src : Bytes} {B : Int} {s s' : St} {node : Nat} (hi : InvW tb D F src B s)
    (hk : (nd s node).kind = .heading) (hlt : node < s.nodes.length) (hm : ∃ b ∈ s.pc.opened, b.bp = .setext)
    (e : setextClose node s = .ok ((), s')) : InvW tb D F src B s' ∧ s'.r = s.r ∧ s'.pc.opened = s.pc.opened ∧ KG s s' ∧
      s'.pc.tmpPara = none ∧ LO node s s' := by
  cases ht : s.pc.tmpPara with
  | none =>
    exfalso
    unfold setextClose at e
    obtain ⟨hn, s1, h1, k1⟩ := bind_ok e
    obtain ⟨rfl, hs1⟩ := getNode_ok h1
    subst s1
    obtain ⟨seg, s2, h2, k2⟩ := bind_ok k1
    obtain ⟨_, hs2⟩ := liftE_ok h2
    subst s2
    obtain ⟨_, s3, h3, k3⟩ := bind_ok k2
    have e3 := modNode_ok h3
    obtain ⟨pc4, s4, h4, k4⟩ := bind_ok k3
    obtain ⟨rfl, hs4⟩ := getPc_ok h4
    subst s4
    have hpc3 : s3.pc = s.pc := by rw [e3]
    rw [hpc3, ht] at k4
    dsimp only at k4
    obtain ⟨_, _, h5, _⟩ := bind_ok k4
    cases h5
  | some t =>
    have hkt := hi.tmpk t ht
    have hne := (hi.tl t ht (.inr hm)).1
    have hnt : node ≠ t := by intro e0; rw [e0, hkt] at hk; cases hk
    obtain ⟨hlen, ⟨hl, hln⟩, hoth, hkind, hpc, hr⟩ := setextClose_copy ht hne hnt hlt e
    have hla : LinesAt node (nd s t).lines s s' :=
      ⟨hlen, hkind, hoth, hl, fun hn0 => (nodeOK_nd hi.nodes t).nil (by rw [← hln]; exact hn0), hr,
        (fun t' ht' => by rw [hpc] at ht'; cases ht'), (by rw [hpc])⟩
    obtain ⟨q1, _, q3⟩ := hi.nrb t (by rw [hkt]; rfl) (fun _ => by rw [hkt]; decide)
    exact ⟨hi.linesAt hla (fun _ _ => ⟨q1, fun hh => absurd hk hh, q3⟩) (fun hp => by rw [hk] at hp; cases hp)
        (fun hp => by rw [hk] at hp; cases hp) (nodeOK_nd hi.nodes t).lines (fun hr' => by rw [hk] at hr'; cases hr')
        (fun hp => by rw [hk] at hp; cases hp)
        (fun b hb _ hx hbp => by have := (hi.kinds b hb).1; rw [hx, hk, hbp] at this; cases this),
        hr, by rw [hpc], hla.kg, by rw [hpc], fun i _ hx => (hla.other i hx).1⟩

/-- **every `Close` keeps the invariant** (the setext heading parser's: for a block of the stack), does not move the
    reader, does not touch the open-block stack, and sets no temporaryParagraphKey -/
theorem bpClose_invG {src : Bytes} {B : Int} {s s' : St} (bp : BP) (node : Nat) (hi : InvW tb D F src B s) (hsrc : s.r.source = src)
    (hk : (nd s node).kind = bp.kind) (hlt : node < s.nodes.length)
    (hm : bp = .setext → ∃ b ∈ s.pc.opened, b.bp = .setext)
    (hD : bp = .paragraph → ∀ b ∈ s.pc.opened, b.node = node → b ∈ D)
    (e : bpClose bp node s = .ok ((), s')) : InvW tb D F src B s' ∧ s'.r = s.r ∧ s'.pc.opened = s.pc.opened ∧ KG s s' ∧
      (∀ t, s'.pc.tmpPara = some t → s.pc.tmpPara = some t) ∧ LO node s s' := by
  cases bp <;> unfold bpClose at e
  · obtain ⟨a, b, c, d, f, g⟩ := setextClose_invG hi hk hlt (hm rfl) e
    exact ⟨a, b, c, d, fun t ht => (by rw [f] at ht; cases ht), g⟩
  · obtain ⟨_, hs⟩ := pure_ok e; subst s'; exact ⟨hi, rfl, rfl, KG.refl _, fun _ h => h, LO.refl _ _⟩
  · obtain ⟨a, b, c, d, g⟩ := listClose_invG hi e; exact ⟨a, b, by rw [c], d, fun _ h => (by rw [c] at h; exact h), g⟩
  · obtain ⟨_, hs⟩ := pure_ok e; subst s'; exact ⟨hi, rfl, rfl, KG.refl _, fun _ h => h, LO.refl _ _⟩
  · obtain ⟨a, b, c, d, g⟩ := codeClose_invG hi hk hlt e; exact ⟨a, b, by rw [c], d, fun _ h => (by rw [c] at h; exact h), g⟩
  · obtain ⟨_, hs⟩ := pure_ok e; subst s'; exact ⟨hi, rfl, rfl, KG.refl _, fun _ h => h, LO.refl _ _⟩
  · obtain ⟨a, b, c, d, f, g⟩ := fencedClose_invG hi e; exact ⟨a, b, c, d, fun _ h => (by rw [f] at h; exact h), g⟩
  · obtain ⟨_, hs⟩ := pure_ok e; subst s'; exact ⟨hi, rfl, rfl, KG.refl _, fun _ h => h, LO.refl _ _⟩
  · obtain ⟨_, hs⟩ := pure_ok e; subst s'; exact ⟨hi, rfl, rfl, KG.refl _, fun _ h => h, LO.refl _ _⟩
  · obtain ⟨a, b, c, d, _, g⟩ := paragraphClose_invG hi hsrc hk hlt (hD rfl) e; exact ⟨a, b, by rw [c], d, fun _ h => (by rw [c] at h; exact h), g⟩

theorem InvW.linesOKB {src : Bytes} {B : Int} {s : St} (hi : InvW tb D F src B s) {node : Nat}
    (hk : (nd s node).kind = .paragraph) : GM.LinkRef.linesOKB src (nd s node).lines = true :=
  have hnb := hi.nrb node (by rw [hk]; rfl) (fun _ => by rw [hk]; decide)
  linesOKB_of hnb.1 hnb.2.2 (nodeOK_nd hi.nodes node).lines (hi.pnb node hk)

/-- the lines of a Paragraph fit the table transformer's checked twin too -/
theorem InvW.tblLinesB {src : Bytes} {B : Int} {s : St} (hi : InvW tb D F src B s) {node : Nat}
    (hk : (nd s node).kind = .paragraph) : TO.tblLinesB src (nd s node).lines = true := by
  have hnb := hi.nrb node (by rw [hk]; rfl) (fun _ => by rw [hk]; decide)
  have hok := (nodeOK_nd hi.nodes node).lines
  unfold TO.tblLinesB
  rw [List.all_eq_true]
  intro t ht
  obtain ⟨a1, a2, a3, a4⟩ := hok t ht
  obtain ⟨b1, b2⟩ := hnb.2.2 t ht
  simp only [validB, Bool.and_eq_true, decide_eq_true_eq, Bool.not_eq_true']
  exact ⟨⟨⟨⟨⟨a1, a2⟩, a3⟩, a4⟩, b2⟩, b1⟩

theorem mem_dropLast_drop {α} (k : Nat) (l : List α) {x : α} (h : x ∈ (l.drop k).dropLast) : x ∈ l.dropLast := by
  rw [List.dropLast_eq_take, List.length_drop] at h
  rw [List.dropLast_eq_take]
  have : (l.drop k).take (l.length - k - 1) = (l.take (l.length - 1)).drop k := by
    rw [List.drop_take]; congr 1; omega
  rw [this] at h
  exact List.mem_of_mem_drop h

theorem getLast?_drop' {α} (k : Nat) (l : List α) {x : α} (h : (l.drop k).getLast? = some x) : l.getLast? = some x := by
  rw [List.getLast?_drop] at h
  split at h
  · cases h
  · exact h

/-- a transformer call on the node of an open block that ends as `PTPost` says keeps `InvW` -/
theorem InvW.ptpost {src : Bytes} {B : Int} {s s' : St} {node : Nat} (hi : InvW tb D F src B s) (hlt : node < s.nodes.length)
    (hnt : ∀ t, s.pc.tmpPara = some t → (F ∨ ∃ b ∈ s.pc.opened, b.bp = .setext) → t ≠ node)
    (hkp : (nd s node).kind = .paragraph) (h : PTPost node s s') : InvW tb D F src B s' ∧ s'.r = s.r ∧ s'.pc.opened = s.pc.opened ∧ KG s s' ∧
      s'.pc.tmpPara = s.pc.tmpPara ∧ LO node s s' := by
  obtain ⟨g, ht⟩ := T.tstep_of_post hi.nodes hlt h
  have hl := ptpost_lines hlt h
  have hkind : ∀ i, (nd s' i).kind = (nd s i).kind ∨ (nd s i).lines = [] := fun i => by
    rcases Nat.lt_or_ge i s.nodes.length with h1 | h1
    · exact .inl (ht.kind i h1)
    · right; rw [nd_default_of_ge s h1]; rfl
  refine ⟨⟨fun i hr hk0 => ?_, by rw [ht.opened]; exact hi.ord, fun i hk => ?_, fun t htt => ?_, fun b hb => ?_, ht.nodes,
    fun t htt hm => ?_, fun i hr => ?_, fun i hk => ?_, fun b hb hd hbp => ?_⟩, ht.r, ht.opened, ⟨ht.len, ht.kind⟩, ht.tmp,
    fun i hi' hx => ht.other i hi' hx⟩
  · obtain ⟨k, ek⟩ := hl i
    rw [ek]
    rcases hkind i with h1 | h1
    · rw [h1] at hr hk0
      obtain ⟨a1, a2, a3⟩ := hi.nrb i hr hk0
      exact ⟨OrdFrom.drop' k a1 (fun t ht' => (a3 t ht').1),
        fun hh t ht' => a2 (by rw [← h1]; exact hh) t (List.mem_of_mem_drop ht'),
        fun t ht' => a3 t (List.mem_of_mem_drop ht')⟩
    · rw [h1]; simp only [List.drop_nil]
      exact ⟨trivial, fun _ => Below.nil B, fun t ht' => by cases ht'⟩
  · obtain ⟨k, ek⟩ := hl i
    rw [ek]
    rcases hkind i with h1 | h1
    · rw [h1] at hk
      exact fun t ht' => hi.pnb i hk t (List.mem_of_mem_drop ht')
    · rw [h1]; simp
  · rw [ht.tmp] at htt
    have hk := hi.tmpk t htt
    rw [ht.kind t (tmp_lt hk)]; exact hk
  · rw [ht.opened] at hb
    obtain ⟨k1, k2⟩ := hi.kinds b hb
    exact ⟨by rw [ht.kind _ k2]; exact k1, Nat.lt_of_lt_of_le k2 ht.len⟩
  · rw [ht.tmp] at htt
    rw [ht.opened] at hm ⊢
    obtain ⟨a1, a2⟩ := hi.tl t htt hm
    have hne : t ≠ node := hnt t htt hm
    exact ⟨by rw [ht.other t (tmp_lt (hi.tmpk t htt)) hne]; exact a1, a2⟩
  · rcases Nat.lt_or_ge i s.nodes.length with h1 | h1
    · rw [ht.kind i h1] at hr
      have hne : i ≠ node := fun e0 => by rw [e0, hkp] at hr; cases hr
      rw [ht.other i h1 hne]; exact hi.raw i hr
    · obtain ⟨k, ek⟩ := hl i
      rw [ek, nd_default_of_ge s h1]
      have : (List.drop k (default : Node).lines) = [] := by
        show List.drop k [] = []
        simp
      rw [this]
      exact ⟨trivial, Below.nil B⟩
  · obtain ⟨k, ek⟩ := hl i
    rw [ek]
    rcases hkind i with h1 | h1
    · rw [h1] at hk
      exact fun t ht' => hi.pnl i hk t (mem_dropLast_drop k _ ht')
    · rw [h1]; simp
  · rw [ht.opened] at hb
    obtain ⟨k, ek⟩ := hl b.node
    rw [ek]
    exact fun t ht' => hi.pol b hb hd hbp t (getLast?_drop' k _ ht')

/-! ### the table step -/

theorem shrinks_snoc : ∀ (init : List Segment) (u u' : Segment), u.start ≤ u'.start → u'.stop ≤ u.stop →
    Shrinks (init ++ [u]) (init ++ [u'])
  | [], _, _, h1, h2 => ⟨h1, h2, trivial⟩
  | _ :: as, u, u', h1, h2 => ⟨Int.le_refl _, Int.le_refl _, shrinks_snoc as u u' h1 h2⟩

/-- a non-blank line that ends in a newline is still non-blank (and not empty) without it -/
theorem nonblank_cut {src : Bytes} {u : Segment} (h0 : 0 ≤ u.start) (h1 : u.start < u.stop) (h2 : u.stop ≤ src.length)
    (hnb : NonBlankSeg src u) (hnl : NLAt src u) :
    NonBlankSeg src { u with stop := u.stop - 1 } ∧ u.start < u.stop - 1 := by
  unfold NonBlankSeg at hnb ⊢
  unfold NLAt at hnl
  have e1 : (u.stop - 1).toNat = u.stop.toNat - 1 := by omega
  simp only [e1]
  have hsub : sub src u.start.toNat u.stop.toNat = sub src u.start.toNat (u.stop.toNat - 1) ++ [10] := by
    unfold sub
    have e2 : u.stop.toNat - u.start.toNat = (u.stop.toNat - 1 - u.start.toNat) + 1 := by omega
    rw [e2, List.take_succ, List.getElem?_drop]
    have e3 : u.start.toNat + (u.stop.toNat - 1 - u.start.toNat) = u.stop.toNat - 1 := by omega
    rw [e3, hnl]; rfl
  rw [hsub] at hnb
  have hb : isBlank (sub src u.start.toNat (u.stop.toNat - 1)) = false := by
    unfold isBlank at hnb ⊢
    rw [List.all_append] at hnb
    cases hh : (sub src u.start.toNat (u.stop.toNat - 1)).all isSpace
    · rfl
    · rw [hh] at hnb; simp [isSpace] at hnb
  refine ⟨hb, ?_⟩
  by_cases h : u.start < u.stop - 1
  · exact h
  · exfalso
    have : sub src u.start.toNat (u.stop.toNat - 1) = [] := by
      unfold sub
      have : u.stop.toNat - 1 - u.start.toNat = 0 := by omega
      rw [this]; rfl
    rw [this] at hb
    simp [isBlank] at hb

/-- the paragraph's new lines: none, or a proper prefix of the old lines with the last line cut by one byte -/
theorem table_lines {src : Bytes} {ls : List Segment} (hv : TO.tblLinesB src ls = true) {t : GM.Table.Table}
    (ht : (GM.Table.transform src (ls.map toSeg)).table = some t) :
    (GM.Table.transform src (ls.map toSeg)).para.map ofSeg = [] ∨
    ∃ init u rest, ls = init ++ u :: rest ∧ rest ≠ [] ∧
      (GM.Table.transform src (ls.map toSeg)).para.map ofSeg = init ++ [{ u with stop := u.stop - 1 }] := by
  obtain ⟨⟨pre, hdr, dl, tl, hls, hpara⟩, _⟩ := table_facts hv ht
  rw [hpara]
  rcases List.eq_nil_or_concat pre with hp | ⟨init, u, hp⟩
  · left; subst hp; rfl
  · right
    subst hp
    refine ⟨init, u, hdr :: dl :: tl, by rw [hls]; simp, by simp, ?_⟩
    rw [List.concat_eq_append, List.map_append, List.map_cons, List.map_nil, Tab.trimLastNewline_snoc,
      List.map_append, List.map_map, List.map_cons, List.map_nil]
    have hmem : ∀ x ∈ init ++ [u], 0 ≤ x.start ∧ x.start < x.stop ∧ 0 ≤ x.padding ∧ x.forceNewline = false := by
      intro x hx
      obtain ⟨a, b, _, d, e⟩ := tblLinesB_mem hv (t := x) (by rw [hls]; simp at hx ⊢; rcases hx with hx | hx <;> simp [hx])
      exact ⟨a, b, d, e⟩
    congr 1
    · rw [List.map_congr_left (g := id)]
      · simp
      · intro x hx
        obtain ⟨a, b, c, d⟩ := hmem x (by simp [hx])
        exact ofSeg_toSeg a (by omega) c d
    · obtain ⟨a, b, c, d⟩ := hmem u (by simp)
      cases u with
      | mk us ue up uf =>
        simp only at a b c d
        subst d
        simp only [ofSeg, toSeg, List.cons.injEq, Segment.mk.injEq, and_true]
        omega

theorem data_lines {n m : Node} (h : dataOf n = dataOf m) : n.lines = m.lines := by
  have := congrArg Node.lines h; exact this
theorem data_kind {n m : Node} (h : dataOf n = dataOf m) : n.kind = m.kind := by
  have := congrArg Node.kind h; exact this
theorem data_linesNil {n m : Node} (h : dataOf n = dataOf m) : n.linesNil = m.linesNil := by
  have := congrArg Node.linesNil h; exact this

theorem nodeOK_of_data {src : Bytes} {n m : Node} (h : dataOf n = dataOf m) (hm : NodeOK src m) : NodeOK src n := by
  have h1 := data_lines h
  have h2 := data_linesNil h
  exact ⟨by rw [h1]; exact hm.lines, by rw [h1, h2]; exact hm.nil⟩

theorem recD_kind {src : Bytes} {t : GM.Table.Table} {n : Node} (h : RecD src t (dataOf n)) : n.kind = .thematicBreak := by
  rcases h with h | h | ⟨_, _, h⟩ | ⟨_, _, _, _, h⟩
  · have := congrArg Node.kind h; exact this
  · have := congrArg Node.kind h; exact this
  · have := congrArg Node.kind h; exact this
  · have := congrArg Node.kind h; exact this

/-- **a table-making call keeps `InvW`**: the paragraph keeps a prefix of its lines whose last line
    lost its newline byte; the records are `thematicBreak` nodes, about whose lines `InvW` says nothing -/
theorem InvW.tabledata {src : Bytes} {B : Int} {s s' : St} {node : Nat} {t : GM.Table.Table}
    (htab : tb) (hi : InvW tb D F src B s) (hlt : node < s.nodes.length)
    (hnt : ∀ t, s.pc.tmpPara = some t → (F ∨ ∃ b ∈ s.pc.opened, b.bp = .setext) → t ≠ node)
    (hkp : (nd s node).kind = .paragraph) (hD : ∀ b ∈ s.pc.opened, b.node = node → b ∈ D)
    (htb : (GM.Table.transform src ((nd s node).lines.map toSeg)).table = some t)
    (h : TableData (RecD src t) node ((GM.Table.transform src ((nd s node).lines.map toSeg)).para.map ofSeg) s s') :
    InvW tb D F src B s' ∧ s'.r = s.r ∧ s'.pc.opened = s.pc.opened ∧ KG s s' ∧ s'.pc.tmpPara = s.pc.tmpPara ∧ LO node s s' := by
  have hv := hi.tblLinesB hkp
  obtain ⟨hLok, hRows⟩ := tableNodesOK' hv htb
  generalize hL' : (GM.Table.transform src ((nd s node).lines.map toSeg)).para.map ofSeg = L' at h hLok
  have hnb := hi.nrb node (by rw [hkp]; rfl) (fun _ => by rw [hkp]; decide)
  have hL : OrdFrom 0 L' ∧ Below B L' ∧ (∀ x ∈ L', x.start < x.stop ∧ x.forceNewline = false) ∧
      (∀ x ∈ L', NonBlankSeg src x) ∧ ∀ x ∈ L'.dropLast, NLAt src x := by
    rcases table_lines hv htb with h0 | ⟨init, u, rest, hls, hrest, h0⟩
    · rw [hL'] at h0; subst h0
      exact ⟨trivial, Below.nil B, fun x hx => (by cases hx), fun x hx => (by cases hx), fun x hx => (by cases hx)⟩
    · rw [hL'] at h0; subst h0
      have hu : u ∈ (nd s node).lines := by rw [hls]; simp
      have hdl : (init ++ u :: rest).dropLast = init ++ u :: rest.dropLast := by
        rw [List.dropLast_append_of_ne_nil (by simp), List.dropLast_cons_of_ne_nil hrest]
      have hud : u ∈ (nd s node).lines.dropLast := by
        rw [hls, hdl]; simp
      obtain ⟨a0, a1, a2, _, _⟩ := tblLinesB_mem hv hu
      obtain ⟨c1, c2⟩ := nonblank_cut a0 a1 a2 (hi.pnb node hkp u hu) (hi.pnl node hkp u hud)
      have htake : init ++ [u] = (nd s node).lines.take (init.length + 1) := by
        rw [hls, show init ++ u :: rest = (init ++ [u]) ++ rest by simp, List.take_left' (by simp)]
      have hsh := shrinks_snoc init u { u with stop := u.stop - 1 } (Int.le_refl _) (by show u.stop - 1 ≤ u.stop; omega)
      have hO : OrdFrom 0 (init ++ [u]) := by rw [htake]; exact OrdFrom.take _ hnb.1
      have hB : Below B (init ++ [u]) := by
        rw [htake]; exact Below.take _ (hnb.2.1 (by rw [hkp]; decide))
      refine ⟨OrdFrom.shrinks hsh hO, Below.shrinks hsh hB, fun x hx => ?_, fun x hx => ?_, fun x hx => ?_⟩
      · simp only [List.mem_append, List.mem_singleton] at hx
        rcases hx with hx | hx
        · exact hnb.2.2 x (by rw [hls]; simp [hx])
        · subst hx; exact ⟨c2, (hnb.2.2 u hu).2⟩
      · simp only [List.mem_append, List.mem_singleton] at hx
        rcases hx with hx | hx
        · exact hi.pnb node hkp x (by rw [hls]; simp [hx])
        · subst hx; exact c1
      · rw [List.dropLast_concat] at hx
        refine hi.pnl node hkp x ?_
        rw [hls, hdl]
        simp [hx]
  obtain ⟨hO, hB, hS, hNB, hNL⟩ := hL
  have hkind : ∀ i, i < s.nodes.length → (nd s' i).kind = (nd s i).kind := by
    intro i hi'
    by_cases hx : i = node
    · subst hx; have := data_kind h.self; exact this
    · exact data_kind (h.old i hi' hx)
  have hlines : ∀ i, i < s.nodes.length → i ≠ node → (nd s' i).lines = (nd s i).lines :=
    fun i hi' hx => data_lines (h.old i hi' hx)
  have hself : (nd s' node).lines = L' := data_lines h.self
  have hfk : ∀ i, s.nodes.length ≤ i → (nd s' i).kind = .paragraph → False := by
    intro i h1 hk
    rcases Nat.lt_or_ge i s'.nodes.length with h2 | h2
    · rw [recD_kind (h.fresh i h1 h2)] at hk; cases hk
    · rw [nd_default_of_ge s' h2] at hk; cases hk
  have hfr : ∀ i, s.nodes.length ≤ i → isRaw (nd s' i).kind = true → False := by
    intro i h1 hk
    rcases Nat.lt_or_ge i s'.nodes.length with h2 | h2
    · rw [recD_kind (h.fresh i h1 h2)] at hk; cases hk
    · rw [nd_default_of_ge s' h2] at hk; cases hk
  refine ⟨⟨fun i hr hk0 => ?_, by rw [h.pc]; exact hi.ord, fun i hk => ?_, fun x hx => ?_, fun b hb => ?_, fun n hn => ?_,
    fun x hx hm => ?_, fun i hr => ?_, fun i hk => ?_, fun b hb hd hbp => ?_⟩, h.r, by rw [h.pc], ⟨Nat.le_of_lt h.len, hkind⟩,
    by rw [h.pc], hlines⟩
  · rcases Nat.lt_or_ge i s.nodes.length with h1 | h1
    · by_cases hx : i = node
      · subst hx
        rw [hself]
        exact ⟨hO, fun _ => hB, hS⟩
      · rw [hkind i h1] at hr hk0 ⊢
        rw [hlines i h1 hx]; exact hi.nrb i hr hk0
    · rcases Nat.lt_or_ge i s'.nodes.length with h2 | h2
      · exact absurd (recD_kind (h.fresh i h1 h2)) (hk0 htab)
      · rw [nd_default_of_ge s' h2]; exact ⟨trivial, fun _ => Below.nil B, fun x hx => by cases hx⟩
  · rcases Nat.lt_or_ge i s.nodes.length with h1 | h1
    · by_cases hx : i = node
      · subst hx; rw [hself]; exact hNB
      · rw [hkind i h1] at hk; rw [hlines i h1 hx]; exact hi.pnb i hk
    · exact absurd hk (fun hk => hfk i h1 hk)
  · rw [h.pc] at hx
    have hk := hi.tmpk x hx
    rw [hkind x (tmp_lt hk)]; exact hk
  · rw [h.pc] at hb
    obtain ⟨k1, k2⟩ := hi.kinds b hb
    exact ⟨by rw [hkind _ k2]; exact k1, Nat.lt_trans k2 h.len⟩
  · obtain ⟨i, hil, rfl⟩ := mem_nodes_nd hn
    rcases Nat.lt_or_ge i s.nodes.length with h1 | h1
    · by_cases hx : i = node
      · subst hx
        refine ⟨by rw [hself]; exact hLok, fun hnil => ?_⟩
        exfalso
        have h2 : (nd s' i).linesNil = (nd s i).linesNil := by have := data_linesNil h.self; exact this
        rw [h2] at hnil
        have := (nodeOK_nd hi.nodes i).nil hnil
        rw [this] at htb
        simp [GM.Table.transform] at htb
      · exact nodeOK_of_data (h.old i h1 hx) (nodeOK_nd hi.nodes i)
    · rcases h.fresh i h1 hil with hh | hh | ⟨r, hr, hh⟩ | ⟨r, hr, c, hc, hh⟩
      · exact nodeOK_of_data (hh.trans rfl) (m := { kind := .thematicBreak, htmlType := tagTable, offset := dashAt src })
          ⟨fun x hx => (by cases hx), fun _ => rfl⟩
      · exact nodeOK_of_data hh hRows.1.1
      · exact nodeOK_of_data hh (hRows.2 r hr).1
      · simp only [List.mem_cons] at hr
        rcases hr with hr | hr
        · subst hr; exact nodeOK_of_data hh (hRows.1.2 c hc)
        · exact nodeOK_of_data hh ((hRows.2 r hr).2 c hc)
  · rw [h.pc] at hx hm ⊢
    obtain ⟨a1, a2⟩ := hi.tl x hx hm
    have hne : x ≠ node := hnt x hx hm
    exact ⟨by rw [hlines x (tmp_lt (hi.tmpk x hx)) hne]; exact a1, a2⟩
  · rcases Nat.lt_or_ge i s.nodes.length with h1 | h1
    · rw [hkind i h1] at hr
      have hne : i ≠ node := fun e0 => by rw [e0, hkp] at hr; cases hr
      rw [hlines i h1 hne]; exact hi.raw i hr
    · exact absurd hr (fun hr => hfr i h1 hr)
  · rcases Nat.lt_or_ge i s.nodes.length with h1 | h1
    · by_cases hx : i = node
      · subst hx; rw [hself]; exact hNL
      · rw [hkind i h1] at hk; rw [hlines i h1 hx]; exact hi.pnl i hk
    · exact absurd hk (fun hk => hfk i h1 hk)
  · rw [h.pc] at hb
    have hne : b.node ≠ node := fun e0 => hd (hD b hb e0)
    rw [hlines b.node (hi.kinds b hb).2 hne]; exact hi.pol b hb hd hbp

/-! ### the invariant with tables, and the one without, as instances -/

/-- `TO.NodeG` without a claim about `thematicBreak` nodes -/
def NodeG (B : Int) (n : Node) : Prop :=
  isRaw n.kind = false → n.kind ≠ .thematicBreak → OrdFrom 0 n.lines ∧ (n.kind ≠ .heading → Below B n.lines) ∧
    ∀ t ∈ n.lines, t.start < t.stop ∧ t.forceNewline = false

structure InvGFX (D : List Block) (F : Prop) (src : Bytes) (B : Int) (s : St) : Prop where
  nrb : ∀ i, NodeG B (nd s i)
  ord : s.pc.opened.Pairwise (fun a b => a.node < b.node)
  pnb : ∀ i, (nd s i).kind = .paragraph → ∀ t ∈ (nd s i).lines, NonBlankSeg src t
  tmpk : ∀ t, s.pc.tmpPara = some t → (nd s t).kind = .paragraph
  kinds : ∀ b ∈ s.pc.opened, (nd s b.node).kind = b.bp.kind ∧ b.node < s.nodes.length
  nodes : NodesOK src s
  tl : ∀ t, s.pc.tmpPara = some t → (F ∨ ∃ b ∈ s.pc.opened, b.bp = .setext) →
    (nd s t).lines ≠ [] ∧ ∀ b' ∈ s.pc.opened, b'.node ≠ t
  raw : ∀ i, isRaw (nd s i).kind = true → OrdFrom 0 (nd s i).lines ∧ Below B (nd s i).lines
  pnl : ∀ i, (nd s i).kind = .paragraph → ∀ t ∈ (nd s i).lines.dropLast, NLAt src t
  pol : ∀ b ∈ s.pc.opened, b ∉ D → b.bp = .paragraph → ∀ t, (nd s b.node).lines.getLast? = some t → LEnd src t

abbrev InvGF (F : Prop) := InvGFX [] F
abbrev InvG := InvGF False

theorem InvGFX.toW {src : Bytes} {B : Int} {s : St} (hi : InvGFX D F src B s) : InvW True D F src B s :=
  ⟨fun i hr hk => hi.nrb i hr (hk trivial), hi.ord, hi.pnb, hi.tmpk, hi.kinds, hi.nodes, hi.tl, hi.raw, hi.pnl, hi.pol⟩

theorem InvW.toX {src : Bytes} {B : Int} {s : St} (hi : InvW True D F src B s) : InvGFX D F src B s :=
  ⟨fun i hr hk => hi.nrb i hr (fun _ => hk), hi.ord, hi.pnb, hi.tmpk, hi.kinds, hi.nodes, hi.tl, hi.raw, hi.pnl, hi.pol⟩

/-- without tables: `InvW False` gives `TO.InvGF` (which has no `pnl`, `pol`) -/
theorem InvW.toO {src : Bytes} {B : Int} {s : St} (hi : InvW False D F src B s) : TO.InvGF F src B s :=
  ⟨fun i hr => hi.nrb i hr (fun h => h.elim), hi.ord, hi.pnb, hi.tmpk, hi.kinds, hi.nodes, hi.tl, hi.raw⟩

theorem InvGFX.linesOKB {src : Bytes} {B : Int} {s : St} (hi : InvGFX D F src B s) {node : Nat}
    (hk : (nd s node).kind = .paragraph) : GM.LinkRef.linesOKB src (nd s node).lines = true :=
  hi.toW.linesOKB hk

end GM.Blocks.TX
