/-
  GM.Proof.BlocksOrdPar — the per-parser half of the LINE PROTOCOL for the inline-bearing blocks (Paragraph, Heading,
  TextBlock): exactly which segment each parser call puts into the tree, relative to the cursor `c` the reader stands
  for (`RI src s.r c`, GM.Proof.BlocksTotal). `Open` and `Continue` are walked once, in GM.Proof.BlocksPara
  (`paragraphOpen_okl'`, `paragraphContinue_okl'`); their line facts here are readings of those walks.

  * `paragraphOpen_line`     — paragraph.go:24-34: the one line of a new Paragraph is the rest of the current source
                               line without its leading white space: `c.p ≤ start < stop = lineEnd src c.p`,
                               padding 0, no ForceNewline, and it holds a byte that is not white space.
  * `paragraphContinue_line` — paragraph.go:36-44: a continuation line is exactly the reader's segment
                               `[c.p, lineEnd src c.p)` with the reader's padding, and it is not blank.
  * `paragraphClose_lines`   — paragraph.go:46-64: `Close` replaces every line by a sub-segment of itself
                               (`Shrinks`), all with padding 0 and without ForceNewline; lines that held a non-space
                               byte stay non-empty. Hence: lines that increase, lie inside the source and are not
                               blank become `WF0` (`wf0_of_closed`).
  * `trimRightSpace_ok2`, `trimLeftAll_ok2` — the segment arithmetic behind `Close` (`trimLeftSpace_ok2` restates
                               `trimLeftSpace_ok` of GM.Proof.BlocksPara with `NonBlankSeg`).
-/
import GM.Proof.BlocksOrd

namespace GM.Blocks
open GM GM.Text GM.Spec GM.Proof.Reader
open GM.Proof.InlinesReader (WF0)

/-- the segment holds a byte that is not white space (`util.IsBlank` of its bytes is false) -/
def NonBlankSeg (src : Bytes) (t : Segment) : Prop := isBlank (sub src t.start.toNat t.stop.toNat) = false

theorem sub_take (src : Bytes) (a b k : Nat) (hk : k ≤ b - a) : (sub src a b).take (b - a - k) = sub src a (b - k) := by
  unfold sub
  rw [List.take_take]
  congr 1
  omega

theorem all_of_take_append {α} (p : α → Bool) (v : List α) (n : Nat) :
    v.all p = ((v.take n).all p && (v.drop n).all p) := by
  conv => lhs; rw [← List.take_append_drop n v]
  rw [List.all_append]

theorem all_take_of_trailing (v : Bytes) (h : isBlank v = false) :
    trimRightSpaceLength v < v.length ∧ isBlank (v.take (v.length - trimRightSpaceLength v)) = false := by
  unfold trimRightSpaceLength isBlank at *
  have hr : v.reverse.all isSpace = false := by rw [List.all_reverse]; exact h
  obtain ⟨h1, h2⟩ := takeWhile_lt_of_not_all isSpace v.reverse hr
  refine ⟨by simpa using h1, ?_⟩
  rw [List.drop_reverse, List.all_reverse] at h2
  simpa using h2

theorem trimLeftSpace_ok2 {src : Bytes} {t : Segment} (h : SegOK src t) :
    ∃ t', t.trimLeftSpace src = .ok t' ∧ SegOK src t' ∧ t'.stop = t.stop ∧ t.start ≤ t'.start ∧ t'.padding = 0 ∧
      t'.forceNewline = false ∧ (NonBlankSeg src t → NonBlankSeg src t' ∧ t'.start < t'.stop) ∧
      (t'.start < t'.stop → NonBlankSeg src t') := trimLeftSpace_ok h

theorem trimRightSpace_ok2 {src : Bytes} {t : Segment} (h : SegOK src t) :
    ∃ t', t.trimRightSpace src = .ok t' ∧ SegOK src t' ∧ t'.start = t.start ∧ t'.stop ≤ t.stop ∧
      (t.padding = 0 → t'.padding = 0) ∧ t'.forceNewline = false ∧
      (NonBlankSeg src t → NonBlankSeg src t' ∧ t'.start < t'.stop) := by
  obtain ⟨h0, h1, h2, h3⟩ := h
  unfold Segment.trimRightSpace
  rw [sliceB_ok src h0 h1 h2]
  simp only [bind, Except.bind, pure, Except.pure]
  have hlen := length_sub src (a := t.start.toNat) (b := t.stop.toNat) (by omega)
  have hl : trimRightSpaceLength (sub src t.start.toNat t.stop.toNat) ≤ (sub src t.start.toNat t.stop.toNat).length :=
    trimRightSpaceLength_le _
  split
  · next heq =>
    refine ⟨_, rfl, ⟨h0, Int.le_refl _, by simp only; omega, by simp⟩, rfl, h1, fun _ => rfl, rfl, fun hnb => ?_⟩
    exfalso
    have := (all_take_of_trailing _ hnb).1
    have heq' : trimRightSpaceLength (sub src t.start.toNat t.stop.toNat) = (sub src t.start.toNat t.stop.toNat).length := by
      simpa using heq
    omega
  · next hne =>
    have hne' : trimRightSpaceLength (sub src t.start.toNat t.stop.toNat) ≠ (sub src t.start.toNat t.stop.toNat).length := by
      intro e; apply hne; simp [e]
    refine ⟨_, rfl, ⟨h0, ?_, ?_, h3⟩, rfl, ?_, fun hp => hp, rfl, fun hnb => ⟨?_, ?_⟩⟩
    · simp only; omega
    · simp only; omega
    · simp only; omega
    · unfold NonBlankSeg at hnb ⊢
      simp only
      obtain ⟨k1, k2⟩ := all_take_of_trailing _ hnb
      have e : (t.stop - (trimRightSpaceLength (sub src t.start.toNat t.stop.toNat) : Int)).toNat =
          t.stop.toNat - trimRightSpaceLength (sub src t.start.toNat t.stop.toNat) := by omega
      rw [e, ← sub_take src _ _ _ (by omega), ← hlen]
      exact k2
    · simp only; omega

/-- the loop paragraph.go:50-53 -/
theorem trimLeftAll_ok2 {src : Bytes} : ∀ {ls : List Segment}, LinesOK src ls →
    ∃ ls', trimLeftAll src ls = .ok ls' ∧ LinesOK src ls' ∧ Shrinks ls ls' ∧
      (∀ t ∈ ls', t.padding = 0 ∧ t.forceNewline = false) ∧
      ((∀ t ∈ ls, NonBlankSeg src t) → ∀ t ∈ ls', NonBlankSeg src t ∧ t.start < t.stop) := by
  intro ls
  induction ls with
  | nil => intro _; exact ⟨[], rfl, (fun _ h => by cases h), trivial, (fun _ h => by cases h), fun _ _ h => by cases h⟩
  | cons l ls ih =>
    intro h
    obtain ⟨t', ht, hok, hstop, hstart, hpad, hfn, hnb, _⟩ := trimLeftSpace_ok2 (h l (by simp))
    obtain ⟨ls', hls, hok', hsh, hpf, hnb'⟩ := ih (fun t ht => h t (by simp [ht]))
    unfold trimLeftAll
    rw [ht, hls]
    simp only [bind, Except.bind, pure, Except.pure]
    refine ⟨_, rfl, ?_, ⟨hstart, by rw [hstop]; exact Int.le_refl _, hsh⟩, ?_, ?_⟩
    · intro t ht
      simp only [List.mem_cons] at ht
      rcases ht with rfl | ht
      · exact hok
      · exact hok' t ht
    · intro t ht
      simp only [List.mem_cons] at ht
      rcases ht with rfl | ht
      · exact ⟨hpad, hfn⟩
      · exact hpf t ht
    · intro hall t ht
      simp only [List.mem_cons] at ht
      rcases ht with rfl | ht
      · exact hnb (hall l (by simp))
      · exact hnb' (fun u hu => hall u (by simp [hu])) t ht

theorem seg_fields (src : Bytes) (c : RCur) :
    (RCur.seg src c).start = c.p ∧ (RCur.seg src c).stop = lineEnd src c.p ∧ (RCur.seg src c).padding = c.pad ∧
      (RCur.seg src c).forceNewline = false := ⟨rfl, rfl, rfl, rfl⟩

/-- **paragraphParser.Open, the line it takes** (paragraph.go:24-34): on an `RI` reader it either builds nothing and
    leaves the cursor, or appends to the store a parentless Paragraph whose single line `seg` is the rest of the
    current source line behind its leading white space: `c.p ≤ seg.start < seg.stop = lineEnd src c.p`, padding 0,
    no ForceNewline, inside the source, holding a non-space byte. -/
theorem paragraphOpen_line {src} {s : St} {c : RCur} (h : RI src s.r c) (parent : Nat) :
    OKL (fun a s' => ∃ r' c', s'.r = r' ∧ RI src r' c' ∧ c.p ≤ c'.p ∧ s'.pc = s.pc ∧ a.2 = stNoChildren ∧
        ((a.1 = none ∧ s'.nodes = s.nodes ∧ c' = c) ∨
         (a.1 = some s.nodes.length ∧ ∃ nd seg, s'.nodes = s.nodes ++ [nd] ∧ nd.kind = .paragraph ∧
            nd.lines = [seg] ∧ SegOK src seg ∧ nd.parent = none ∧
            (c.p : Int) ≤ seg.start ∧ seg.start < seg.stop ∧ seg.stop = lineEnd src c.p ∧ seg.padding = 0 ∧
            seg.forceNewline = false ∧ NonBlankSeg src seg)))
      (paragraphOpen parent s) :=
  (paragraphOpen_okl' h parent).mono fun _ _ ⟨c', hri, ⟨n, hn⟩, hpc, ha, hc⟩ =>
    ⟨_, c', rfl, hri, by rw [hn]; exact (GM.Proof.Reader.advN_mono src n c h.inRange).1, hpc, ha,
      hc.imp id fun ⟨h0, nd, seg, h1, h2, h3, h4, h5, _, h7⟩ => ⟨h0, nd, seg, h1, h2, h3, h4, h5, h7⟩⟩

/-- **paragraphParser.Continue, the line it takes** (paragraph.go:36-44): `Close` with nothing changed, or the
    reader's own segment `[c.p, lineEnd src c.p)` (with the reader's padding) is appended to `node`; that line is not
    blank: it holds a source byte that is not white space, in particular it is not empty. -/
theorem paragraphContinue_line {src} {s : St} {c : RCur} (h : RI src s.r c) (node : Nat) :
    OKL (fun st s' => ∃ r' c', s'.r = r' ∧ RI src r' c' ∧ c.p ≤ c'.p ∧ s'.pc = s.pc ∧
        ((st = stClose ∧ s'.nodes = s.nodes ∧ c' = c) ∨
         (st = stContinueNoChildren ∧ c.p < src.length ∧ SegOK src (RCur.seg src c) ∧
            NonBlankSeg src (RCur.seg src c) ∧ (c.p : Int) < lineEnd src c.p ∧
            s'.nodes = s.nodes.set node
              { (s.nodes.getD node default) with
                  lines := (s.nodes.getD node default).lines ++ [RCur.seg src c], linesNil := false })))
      (paragraphContinue node s) :=
  (paragraphContinue_okl' h node).mono fun _ _ ⟨c', hri, ⟨n, hn⟩, hpc, hc⟩ =>
    ⟨_, c', rfl, hri, by rw [hn]; exact (GM.Proof.Reader.advN_mono src n c h.inRange).1, hpc,
      hc.imp id fun ⟨h0, hp, hnb, hlt, hn⟩ => ⟨h0, hp, seg_ok src c h.inRange, hnb, hlt, hn⟩⟩

/-- **paragraphParser.Close, what it does to the lines** (paragraph.go:46-64): on a paragraph with ≥ 1 line, all
    inside the source, it touches neither reader nor context and replaces the line list by one of the same length in
    which every line is a sub-segment of the old one (`Shrinks`), inside the source, with padding 0 and without
    ForceNewline; if every old line held a byte that is not white space, every new line is a non-empty segment. -/
theorem paragraphClose_lines {src} {s : St} (node : Nat) (hsrc : s.r.source = src)
    (hl : LinesOK src (s.nodes.getD node default).lines) (hne : (s.nodes.getD node default).lines ≠ []) :
    OKL (fun _ s' => s'.r = s.r ∧ s'.pc = s.pc ∧ ∃ ls, LinesOK src ls ∧
        Shrinks (s.nodes.getD node default).lines ls ∧
        (∀ t ∈ ls, t.padding = 0 ∧ t.forceNewline = false) ∧
        ((∀ t ∈ (s.nodes.getD node default).lines, NonBlankSeg src t) → ∀ t ∈ ls, NonBlankSeg src t ∧ t.start < t.stop) ∧
        s'.nodes = s.nodes.set node { (s.nodes.getD node default) with lines := ls })
      (paragraphClose node s) := by
  have hlen : ((s.nodes.getD node default).lines.length != 0) = true := by
    cases hh : (s.nodes.getD node default).lines with
    | nil => exact absurd hh hne
    | cons a b => simp
  obtain ⟨ls', hls, hok', hsh, hpf, hnb⟩ := trimLeftAll_ok2 hl
  have hlen' := hsh.length
  have hpos : 0 < ls'.length := by
    rw [hlen']; cases hh : (s.nodes.getD node default).lines with
    | nil => exact absurd hh hne
    | cons a b => simp
  have hidx : ((ls'.length : Int) - 1).toNat < ls'.length := by omega
  have hat : lineAt ls' ((ls'.length : Int) - 1) = .ok (ls'[((ls'.length : Int) - 1).toNat]) := by
    unfold lineAt segAt
    have : ¬ ((ls'.length : Int) - 1 < 0) := by omega
    rw [if_neg this, List.getElem?_eq_getElem hidx]
  have hmem := List.getElem_mem hidx
  obtain ⟨t', ht, hokt, hst, hsp, hpd, hfn, hnbt⟩ := trimRightSpace_ok2 (hok' _ hmem)
  have hset : lineSet ls' ((ls'.length : Int) - 1) t' = .ok (ls'.set ((ls'.length : Int) - 1).toNat t') := by
    unfold lineSet
    rw [if_pos ⟨by omega, by omega⟩]
  have hls'' : LinesOK src (ls'.set ((ls'.length : Int) - 1).toNat t') := by
    intro t htm
    rcases List.mem_or_eq_of_mem_set htm with h1 | h1
    · exact hok' t h1
    · rw [h1]; exact hokt
  have hsh2 : Shrinks (s.nodes.getD node default).lines (ls'.set ((ls'.length : Int) - 1).toNat t') :=
    hsh.trans (Shrinks.set ls' _ t' hidx (by rw [hst]; exact Int.le_refl _) hsp)
  have hpf2 : ∀ t ∈ ls'.set ((ls'.length : Int) - 1).toNat t', t.padding = 0 ∧ t.forceNewline = false := by
    intro t htm
    rcases List.mem_or_eq_of_mem_set htm with h1 | h1
    · exact hpf t h1
    · rw [h1]; exact ⟨hpd (hpf _ hmem).1, hfn⟩
  have hnb2 : (∀ t ∈ (s.nodes.getD node default).lines, NonBlankSeg src t) →
      ∀ t ∈ ls'.set ((ls'.length : Int) - 1).toNat t', NonBlankSeg src t ∧ t.start < t.stop := by
    intro hall t htm
    rcases List.mem_or_eq_of_mem_set htm with h1 | h1
    · exact hnb hall t h1
    · rw [h1]; exact hnbt (hnb hall _ hmem).1
  unfold paragraphClose
  simp only [bind, StateT.bind, getNode, source, pure, StateT.pure, Except.bind, Except.pure, liftE, Except.map,
    hlen, if_true, hsrc, hls, hat, ht, hset, modNode]
  by_cases hnode : node < s.nodes.length
  · have hget : (s.nodes.set node { (s.nodes.getD node default) with lines := ls'.set ((ls'.length : Int) - 1).toNat t' }).getD node default
        = { (s.nodes.getD node default) with lines := ls'.set ((ls'.length : Int) - 1).toNat t' } := by
      simp [List.getD, List.getElem?_set, hnode]
    rw [hget]
    have hz : (((ls'.set ((ls'.length : Int) - 1).toNat t').length == 0) = false) := by
      rw [List.length_set]; exact beq_false_of_ne (by omega)
    simp only [hz, Bool.false_eq_true, if_false]
    exact OKL.ok ⟨rfl, rfl, _, hls'', hsh2, hpf2, hnb2, rfl⟩
  · exfalso
    have : s.nodes.getD node default = default := by
      simp [List.getD, List.getElem?_eq_none (Nat.le_of_not_lt hnode)]
    rw [this] at hne
    exact hne rfl

/-- **closed paragraphs are `WF0`**: a line list that increases from `lo ≥ 0`, lies inside the source and whose every
    line holds a non-space byte is, after the trims of `Close` (`Shrinks`, padding 0, no ForceNewline, non-empty
    segments), a `WF0` line list — what the inline phase assumes. -/
theorem wf0_of_closed {src : Bytes} {old new : List Segment} (hne : old ≠ []) (hord : OrdFrom 0 old)
    (hsh : Shrinks old new) (hok : LinesOK src new) (hpf : ∀ t ∈ new, t.padding = 0 ∧ t.forceNewline = false)
    (hlt : ∀ t ∈ new, t.start < t.stop) : WF0 src new := by
  refine (wf0_iff_parts src new).2 ⟨?_, OrdFrom.shrinks hsh hord, fun t ht => ⟨hlt t ht, (hok t ht).2.2.1, hpf t ht⟩⟩
  intro e
  have := hsh.length
  rw [e] at this
  exact hne (List.length_eq_zero_iff.1 this.symm)

end GM.Blocks
