/-
  GM.Proof.BlocksInv — the state invariant of the block phase and the per-parser contracts that the driver proof
  (GM.Proof.BlocksDriver) composes into "no Go panic for whole runs".

  * `NodesOK src s`   — every node of the store: all line segments inside the source (`SegOK`: C05(c) range part), and
                        `lines.values == nil` only when there are no lines.
  * `BlockOK s b`     — an entry of `pc.openedBlocks`: its node exists, has the kind its parser builds, a paragraph /
                        setext heading has a line, the context key of a setext heading / fenced code block is set.
  * `KeysOK s`        — what the two context keys point to (temporaryParagraphKey: a paragraph with lines; fencedCodeBlockInfoKey:
                        fence length ≥ 3, indent ≥ 0).
  * `Ext s s'`        — how ANY parser call may change the store: it grows, kinds of existing nodes stay, a node
                        that is not a code block keeps having lines once it has one.
  * `OpenPost / ContPost / ClosePost` — the contract of Open / Continue / Close of one block parser.
-/
import GM.Proof.BlocksPara
import GM.Proof.BlocksLeaf

namespace GM.Blocks
open GM GM.Text GM.Spec GM.Proof.Reader

/-- the node kind a block parser builds -/
def BP.kind : BP → Kind
  | .setext => .heading | .thematic => .thematicBreak | .list => .list | .listItem => .listItem
  | .code => .codeBlock | .atx => .heading | .fenced => .fencedCodeBlock | .blockquote => .blockquote
  | .html => .htmlBlock | .paragraph => .paragraph

/-- store lookup -/
abbrev nd (s : St) (i : Nat) : Node := s.nodes.getD i default

structure NodeOK (src : Bytes) (n : Node) : Prop where
  lines : LinesOK src n.lines
  nil : n.linesNil = true → n.lines = []

def NodesOK (src : Bytes) (s : St) : Prop := ∀ n ∈ s.nodes, NodeOK src n

theorem nd_parent_lt {s : St} {c q : Nat} (h : (nd s c).parent = some q) : c < s.nodes.length := by
  rcases Nat.lt_or_ge c s.nodes.length with h' | h'
  · exact h'
  · have : nd s c = default := by simp [nd, List.getD_eq_getElem?_getD, List.getElem?_eq_none h']
    rw [this] at h; cases h

theorem nd_mem {s : St} {i : Nat} (h : i < s.nodes.length) : nd s i ∈ s.nodes := by
  simp only [nd, List.getD_eq_getElem?_getD, List.getElem?_eq_getElem h, Option.getD_some]
  exact List.getElem_mem h

theorem nodeOK_default (src : Bytes) : NodeOK src (default : Node) :=
  ⟨fun _ h => (by cases h), fun _ => rfl⟩

theorem nodeOK_nd {src : Bytes} {s : St} (h : NodesOK src s) (i : Nat) : NodeOK src (nd s i) := by
  unfold nd
  rw [List.getD_eq_getElem?_getD]
  cases hi : s.nodes[i]? with
  | none => exact nodeOK_default src
  | some n => exact h n (List.mem_of_getElem? hi)

structure BlockOK (s : St) (b : Block) : Prop where
  lt : b.node < s.nodes.length
  kind : (nd s b.node).kind = b.bp.kind
  para : b.bp = .paragraph → (nd s b.node).lines ≠ []
  setext : b.bp = .setext → (nd s b.node).lines ≠ [] ∧ s.pc.tmpPara.isSome = true
  fenced : b.bp = .fenced → s.pc.fence.isSome = true

structure KeysOK (s : St) : Prop where
  tmp : ∀ t, s.pc.tmpPara = some t → t < s.nodes.length ∧ (nd s t).kind = .paragraph ∧ (nd s t).lines ≠ []
  fence : ∀ f, s.pc.fence = some f → 3 ≤ f.length ∧ 0 ≤ f.indent ∧ f.node < s.nodes.length

/-- how a parser call may change the node store -/
structure Ext (s s' : St) : Prop where
  len : s.nodes.length ≤ s'.nodes.length
  kind : ∀ i, i < s.nodes.length → (nd s' i).kind = (nd s i).kind
  linesNE : ∀ i, i < s.nodes.length → (nd s i).kind ≠ .codeBlock → (nd s i).lines ≠ [] → (nd s' i).lines ≠ []

theorem Ext.refl (s : St) : Ext s s := ⟨Nat.le_refl _, fun _ _ => rfl, fun _ _ _ h => h⟩

theorem Ext.trans {s1 s2 s3 : St} (h1 : Ext s1 s2) (h2 : Ext s2 s3) : Ext s1 s3 where
  len := Nat.le_trans h1.len h2.len
  kind := fun i hi => by rw [h2.kind i (Nat.lt_of_lt_of_le hi h1.len), h1.kind i hi]
  linesNE := fun i hi hk hl =>
    h2.linesNE i (Nat.lt_of_lt_of_le hi h1.len) (by rw [h1.kind i hi]; exact hk) (h1.linesNE i hi hk hl)

theorem Ext.of_nodes_eq {s s' : St} (h : s'.nodes = s.nodes) : Ext s s' :=
  ⟨by rw [h]; exact Nat.le_refl _, fun _ _ => by simp only [nd, h], fun _ _ _ hl => by simpa only [nd, h] using hl⟩

/-- the reader after a leaf parser's `Continue`: good enough for the `AdvanceLine` that follows
    (fcode_block.go:104 may call `Advance(-1)`, which leaves `pos.Start` one byte back) -/
def RIa (src : Bytes) (r : Reader) (c : RCur) : Prop :=
  ∃ r0, RI src r0 c ∧ r.advanceLine = r0.advanceLine

theorem RI.toRIa {src r c} (h : RI src r c) : RIa src r c := ⟨r, h, rfl⟩

/-- virtual padding only exists behind a tab, hence not at byte 0 (needed by `preserveLeadingTabInCodeBlock`, which
    looks one byte back) -/
def PadOK (c : RCur) : Prop := c.pad ≠ 0 → 1 ≤ c.p

theorem adv1_pad_le (src : Bytes) (c : RCur) : (RCur.adv1 src c).pad ≤ c.pad := by
  rcases adv1_cases src c with ⟨e, _⟩ | ⟨_, _, e⟩ | ⟨_, _, _, e⟩ <;> rw [e] <;> simp

theorem advN_pad_le (src : Bytes) (n : Nat) : ∀ c : RCur, (RCur.advN src n c).pad ≤ c.pad := by
  induction n with
  | zero => intro c; exact Nat.le_refl _
  | succ n ih => intro c; simp only [RCur.advN]; exact Nat.le_trans (ih _) (adv1_pad_le src c)

theorem PadOK.advN {src : Bytes} {c : RCur} (h : PadOK c) (hc : c.p ≤ src.length) (n : Nat) :
    PadOK (RCur.advN src n c) := by
  intro hne
  have h1 := advN_pad_le src n c
  have h2 := (advN_mono src n c hc).1
  have : c.pad ≠ 0 := by omega
  have := h this
  omega

/-- the leaf parsers -/
def BP.isLeaf (bp : BP) : Bool := !bp.isContainer

/-- what `bp.Open(parent)` guarantees when started in `s` with cursor `c`; `a` = (node or nil, state) -/
structure OpenPost (src : Bytes) (bp : BP) (parent : Nat) (s : St) (c : RCur) (a : Option Nat × PState) (s' : St) :
    Prop where
  ri : ∃ c', RI src s'.r c' ∧ PadOK c' ∧ c.p ≤ c'.p ∧ (a.1 = none → c' = c) ∧ (a.2.hasChildren = true → c.p < c'.p)
  opened : s'.pc.opened = s.pc.opened
  boff : s'.pc.blockOffset = s.pc.blockOffset
  noNode : a.1 = none → s'.nodes = s.nodes
  newNode : ∀ id, a.1 = some id → id = s.nodes.length ∧ ∃ n, s'.nodes = s.nodes ++ [n] ∧ n.kind = bp.kind ∧
      NodeOK src n ∧ n.parent = none ∧ (bp = .paragraph → n.lines ≠ []) ∧ (bp = .setext → n.lines ≠ [])
  tmp : (bp = .setext ∧ a.1.isSome = true ∧
          ∃ lb, s.pc.opened.getLast? = some lb ∧ (nd s lb.node).kind = .paragraph ∧
            (nd s lb.node).parent = some parent ∧ s'.pc.tmpPara = some lb.node) ∨
        ((bp ≠ .setext ∨ a.1 = none) ∧ s'.pc.tmpPara = s.pc.tmpPara)
  fence : (bp = .fenced ∧ ∃ id f, a.1 = some id ∧ s'.pc.fence = some f ∧ f.node = id ∧ 3 ≤ f.length ∧ 0 ≤ f.indent) ∨
        ((bp ≠ .fenced ∨ a.1 = none) ∧ s'.pc.fence = s.pc.fence)
  req : a.2.requirePara = true → bp = .setext ∧ a.1.isSome = true
  kids : a.2.hasChildren = true → bp.isContainer = true ∧ a.1.isSome = true

/-- the states in which `openBlocks` tries the parsers: a line is there, and `BlockOffset` (when set) is an index
    of the line -/
structure LineCtx (src : Bytes) (s : St) (c : RCur) : Prop where
  ri : RI src s.r c
  lt : c.p < src.length
  pad : PadOK c
  off : s.pc.blockOffset < (((RCur.view src c).getD []).length : Int)
  nodes : NodesOK src s

def OpenSpec (src : Bytes) (bp : BP) : Prop :=
  ∀ (parent : Nat) (s : St) (c : RCur), LineCtx src s c → OKL (fun a s' => OpenPost src bp parent s c a s') (bpOpen bp parent s)

structure ContPost (src : Bytes) (bp : BP) (s : St) (c : RCur) (st : PState) (s' : St) : Prop where
  ria : ∃ c', RIa src s'.r c' ∧ PadOK c' ∧ c.p ≤ c'.p ∧ c'.p ≤ src.length ∧
      ((st.cont = true ∧ st.hasChildren = false) ∨ RI src s'.r c')
  pc : s'.pc = s.pc
  ext : Ext s s'
  nodes : NodesOK src s'
  leaf : bp.isContainer = false → st.hasChildren = false
  cont : bp.isContainer = true → st.cont = true → st.hasChildren = true

def ContSpec (src : Bytes) (bp : BP) : Prop :=
  ∀ (node : Nat) (s : St) (c : RCur), RI src s.r c → PadOK c → c.p < src.length → NodesOK src s → KeysOK s →
    BlockOK s ⟨node, bp⟩ → OKL (fun st s' => ContPost src bp s c st s') (bpContinue bp node s)

structure ClosePost (src : Bytes) (bp : BP) (node : Nat) (s : St) (s' : St) : Prop where
  r : s'.r = s.r
  opened : s'.pc.opened = s.pc.opened
  ext : Ext s s'
  nodes : NodesOK src s'
  tmp : s'.pc.tmpPara = s.pc.tmpPara ∨ (bp = .setext ∧ s'.pc.tmpPara = none)
  fence : s'.pc.fence = s.pc.fence ∨
    (bp = .fenced ∧ s'.pc.fence = none ∧ ∃ f, s.pc.fence = some f ∧ f.node = node)
  /-- closing a paragraph (that has lines) leaves it where it is in the tree -/
  para : bp = .paragraph → (nd s' node).parent = (nd s node).parent

def CloseSpec (src : Bytes) (bp : BP) : Prop :=
  ∀ (node : Nat) (s : St), s.r.source = src → NodesOK src s → KeysOK s →
    BlockOK s ⟨node, bp⟩ → OKL (fun _ s' => ClosePost src bp node s s') (bpClose bp node s)

/-! ### cursor facts shared by the parser proofs -/

/-- `Advance(n)` that stays inside the current line (`n` < length of the view): first the padding is used up, then
    bytes of the line; the line (its end, its start) stays the same and the cursor stays inside the source -/
theorem advN_within (src : Bytes) (n : Nat) : ∀ (c : RCur), c.p < src.length →
    n + 1 ≤ c.pad + (lineEnd src c.p - c.p) →
    (RCur.advN src n c).p = c.p + (n - c.pad) ∧ (RCur.advN src n c).pad = c.pad - n ∧
    (RCur.advN src n c).ln = c.ln ∧
    lineEnd src (RCur.advN src n c).p = lineEnd src c.p ∧ lineStart src (RCur.advN src n c).p = lineStart src c.p ∧
    (RCur.advN src n c).p < src.length := by
  induction n with
  | zero => intro c hp _; simp [RCur.advN, hp]
  | succ n ih =>
    intro c hp hn
    simp only [RCur.advN]
    by_cases hz : c.pad = 0
    · have hlt : c.p + (n + 1) < lineEnd src c.p := by omega
      have hle := lineEnd_le src c.p
      have hb' : src[c.p]? ≠ some 10 := by
        intro hb; rw [lineEnd_nl src hb] at hlt; omega
      have hb : ¬ src[c.p] = 10 := by simpa [List.getElem?_eq_getElem hp] using hb'
      have e : RCur.adv1 src c = { c with p := c.p + 1 } := by simp [RCur.adv1, hp, hz, hb]
      have hs := lineEnd_succ src hp hb'
      have hp1 : c.p + 1 < src.length := by omega
      obtain ⟨i1, i2, i3, i4, i5, i6⟩ := ih { c with p := c.p + 1 } hp1 (by simp only; omega)
      rw [e]
      simp only at i1 i2 i3 i4 i5 i6
      refine ⟨by rw [i1]; omega, by rw [i2]; omega, i3, by rw [i4, hs], ?_, i6⟩
      rw [i5]; simp only [lineStart]; simp [hb']
    · have e : RCur.adv1 src c = { c with pad := c.pad - 1 } := by simp [RCur.adv1, hp, hz]
      obtain ⟨i1, i2, i3, i4, i5, i6⟩ := ih { c with pad := c.pad - 1 } hp (by simp only; omega)
      rw [e]
      simp only at i1 i2 i3 i4 i5 i6
      exact ⟨by rw [i1]; omega, by rw [i2]; omega, i3, i4, i5, i6⟩

/-- the view after such an `Advance(n)` is the old view without its first `n` bytes -/
theorem view_advN_within (src : Bytes) (n : Nat) (c : RCur) (hp : c.p < src.length)
    (hn : n + 1 ≤ c.pad + (lineEnd src c.p - c.p)) :
    RCur.view src (RCur.advN src n c) = some (((RCur.view src c).getD []).drop n) := by
  obtain ⟨i1, i2, _, i4, _, i6⟩ := advN_within src n c hp hn
  have hle := lineEnd_le src c.p
  rw [i1] at i4
  rw [view_eq src _ i6, view_eq src c hp, i1, i2, i4]
  simp only [Option.getD_some, Option.some.injEq]
  unfold spaces sub
  by_cases h : n ≤ c.pad
  · have e : n - c.pad = 0 := by omega
    rw [e, Nat.add_zero, List.drop_append]
    simp only [List.drop_replicate, List.length_replicate]
    have : n - c.pad = 0 := e
    simp [this]
  · have hgt : c.pad < n := by omega
    rw [List.drop_append]
    simp only [List.drop_replicate, List.length_replicate]
    have e1 : c.pad - n = 0 := by omega
    rw [e1]
    simp only [List.replicate_zero, List.nil_append]
    rw [List.drop_take, List.drop_drop]
    congr 1
    · omega

theorem view_getD_length (src : Bytes) (c : RCur) (hp : c.p < src.length) :
    (((RCur.view src c).getD []).length : Int) = c.pad + (lineEnd src c.p - c.p : Nat) := by
  rw [view_eq src c hp]
  have h1 := lineEnd_le src c.p
  simp [spaces, length_sub src h1]

theorem view_getD_length_nat (src : Bytes) (c : RCur) (hp : c.p < src.length) :
    ((RCur.view src c).getD []).length = c.pad + (lineEnd src c.p - c.p) := by
  rw [view_eq src c hp]
  have h1 := lineEnd_le src c.p
  simp [spaces, length_sub src h1]

namespace W

/-- the fence half of `KeysOK` -/
structure KeysOKF (s : St) : Prop where
  fence : ∀ f, s.pc.fence = some f → 3 ≤ f.length ∧ 0 ≤ f.indent ∧ f.node < s.nodes.length

theorem KeysOKF.of {s : St} (h : KeysOK s) : KeysOKF s := ⟨h.fence⟩

def ContSpecW (src : Bytes) (bp : BP) : Prop :=
  ∀ (node : Nat) (s : St) (c : RCur), RI src s.r c → PadOK c → c.p < src.length → NodesOK src s → KeysOKF s →
    BlockOK s ⟨node, bp⟩ → OKL (fun st s' => ContPost src bp s c st s') (bpContinue bp node s)

def CloseSpecW (src : Bytes) (bp : BP) : Prop :=
  ∀ (node : Nat) (s : St), s.r.source = src → NodesOK src s → KeysOKF s →
    BlockOK s ⟨node, bp⟩ → OKL (fun _ s' => ClosePost src bp node s s') (bpClose bp node s)

theorem ContSpecW.toSpec {src : Bytes} {bp : BP} (h : ContSpecW src bp) : ContSpec src bp :=
  fun node s c hri hpad hp hn hk hb => h node s c hri hpad hp hn (.of hk) hb

theorem CloseSpecW.toSpec {src : Bytes} {bp : BP} (h : CloseSpecW src bp) : CloseSpec src bp :=
  fun node s hsrc hn hk hb => h node s hsrc hn (.of hk) hb

end W

end GM.Blocks
