/-
  GM.Proof.BlockReaderFuel — the helpers written against the Reader interface (SkipSpaces, FindClosure) and
  `BlockReader.Value` on the BLOCK reader. The helpers are walked once, over an interface `Meas` of what such a proof uses
  of a reader (an invariant, the bytes in front of the cursor, "not back", the segments handed out): a fuel above the bytes
  in front suffices, every interface call is inside its preconditions (no panic), the invariant is kept. The block cursor
  `BCur` is such an interface for any line paddings (`bcurMeas`, for C18: `blockReader_skipSpaces_defined`,
  `blockReader_findClosure_defined`, the block-reader counterpart of `rcur_helpers_defined`) and, padding-free (`RS`, the
  situation of every inline-bearing block), with offsets that never go back and segments that lie at or behind the old
  cursor and are not inverted (`bcurMeas0`: `skipSpaces_post`, `findClosure_post`, used by the link parser's contract,
  GM.Proof.InlinesLink); the statements about the reader follow through the simulation of GM.Proof.BlockReader.
  `Value` cannot panic on a segment that starts at or behind the first line's start and is not inverted by more than the
  `+1` of its `make`. (GM.Proof.ReaderFuel has the source-reader counterparts.)
-/
import GM.Proof.InlinesReader

namespace GM.Proof.BlockReaderFuel
open GM GM.Text GM.Spec GM.Proof.Reader GM.Proof.InlinesReader

variable {src : Bytes} {segs : List Segment}

theorem scanLine_found_bound (o cl : UInt8) (cs ne : Bool) (l : Bytes) (i op cso j : Nat) :
    scanLine o cl cs ne l i op cso = .found j → i ≤ j ∧ j < i + l.length := by
  fun_induction scanLine o cl cs ne l i op cso with
  | case1 => intro h; simp at h
  | case2 c rest i op cso hc run n ih =>
    intro h
    have hs : run.1.length + run.2.length = rest.length := spanB_fst_len (· == 96) rest
    have := ih h
    simp only [List.length_cons]
    omega
  | case3 c rest i op cso h1 h2 ih =>
    intro h
    have := ih h
    cases rest with
    | nil => simp at h2
    | cons d r' => simp only [List.length_cons, List.drop_succ_cons, List.drop_zero] at *; omega
  | case4 c rest i op cso h1 h2 h3 run ih =>
    intro h
    have hs : run.1.length + run.2.length = rest.length := spanB_fst_len (· == 96) rest
    have := ih h
    simp only [List.length_cons]
    omega
  | case5 => intro h; simp at h; simp only [List.length_cons]; omega
  | case6 c rest i op cso _ _ _ _ _ _ ih => intro h; have := ih h; simp only [List.length_cons]; omega
  | case7 => intro h; simp at h
  | case8 c rest i op cso _ _ _ _ _ _ _ ih => intro h; have := ih h; simp only [List.length_cons]; omega
  | case9 c rest i op cso _ _ _ _ _ _ ih => intro h; have := ih h; simp only [List.length_cons]; omega
  | case10 c rest i op cso _ _ _ _ ih => intro h; have := ih h; simp only [List.length_cons]; omega

theorem getElem?_shift' (pre suf : Bytes) (k m : Nat) (hm : m = pre.length + k) : (pre ++ suf)[m]? = suf[k]? := by
  subst hm
  rw [List.getElem?_append_right (by omega)]
  congr 1; omega

theorem scanLine_found_closer (o cl : UInt8) (cs ne : Bool) (l : Bytes) (i op cso j : Nat) :
    scanLine o cl cs ne l i op cso = .found j → l[j - i]? = some cl := by
  fun_induction scanLine o cl cs ne l i op cso with
  | case1 => intro h; simp at h
  | case2 c rest i op cso hc run n ih =>
    intro h
    have hb := (scanLine_found_bound _ _ _ _ _ _ _ _ _ h).1
    have hs : run.1 ++ run.2 = rest := spanB_append (· == 96) rest
    rw [← ih h, ← hs]
    exact getElem?_shift' (c :: run.1) run.2 _ _ (by simp only [List.length_cons]; omega)
  | case3 c rest i op cso h1 h2 ih =>
    intro h
    have hb := (scanLine_found_bound _ _ _ _ _ _ _ _ _ h).1
    rw [← ih h]
    cases rest with
    | nil => simp at h2
    | cons d r' =>
      exact getElem?_shift' [c, d] r' _ _ (by simp only [List.length_cons, List.length_nil]; omega)
  | case4 c rest i op cso h1 h2 h3 run ih =>
    intro h
    have hb := (scanLine_found_bound _ _ _ _ _ _ _ _ _ h).1
    have hs : run.1 ++ run.2 = rest := spanB_append (· == 96) rest
    rw [← ih h, ← hs]
    exact getElem?_shift' (c :: run.1) run.2 _ _ (by simp only [List.length_cons]; omega)
  | case5 c rest i op cso _ _ _ _ hc _ =>
    intro h
    simp only [Scan.found.injEq] at h
    subst h
    simp at hc ⊢
    exact hc
  | case6 c rest i op cso _ _ _ _ _ _ ih =>
    intro h
    have hb := (scanLine_found_bound _ _ _ _ _ _ _ _ _ h).1
    rw [← ih h]
    exact getElem?_shift' [c] rest _ _ (by simp only [List.length_cons, List.length_nil]; omega)
  | case7 => intro h; simp at h
  | case8 c rest i op cso _ _ _ _ _ _ _ ih =>
    intro h
    have hb := (scanLine_found_bound _ _ _ _ _ _ _ _ _ h).1
    rw [← ih h]
    exact getElem?_shift' [c] rest _ _ (by simp only [List.length_cons, List.length_nil]; omega)
  | case9 c rest i op cso _ _ _ _ _ _ ih =>
    intro h
    have hb := (scanLine_found_bound _ _ _ _ _ _ _ _ _ h).1
    rw [← ih h]
    exact getElem?_shift' [c] rest _ _ (by simp only [List.length_cons, List.length_nil]; omega)
  | case10 c rest i op cso _ _ _ _ ih =>
    intro h
    have hb := (scanLine_found_bound _ _ _ _ _ _ _ _ _ h).1
    rw [← ih h]
    exact getElem?_shift' [c] rest _ _ (by simp only [List.length_cons, List.length_nil]; omega)

/-- a reader interface with an invariant `I`, a measure `μ` (bytes of the view in front of the cursor), a preorder
    `R` ("did not move back") and a predicate `G s₀ b g` on the segments handed out from a state reached from `s₀`
    (`b`: the byte a segment is cut at is one of these) -/
structure Meas {σ : Type} (o : Ops σ) (I : σ → Prop) (μ : σ → Nat) (R : σ → σ → Prop) (G : σ → UInt8 → Segment → Prop) :
    Prop where
  refl : ∀ s, R s s
  trans : ∀ {a b c}, R a b → R b c → R a c
  peekLine : ∀ {s}, I s → ∃ l sg, o.peekLine s = .ok ((l, sg), s) ∧ ∀ bs, l = some bs → 1 ≤ bs.length ∧ bs.length ≤ μ s
  advance : ∀ {s} (n : Int), I s → 0 ≤ n → n ≤ (μ s : Int) →
    ∃ s', o.advance n s = .ok s' ∧ I s' ∧ (μ s' : Int) = μ s - n ∧ R s s'
  advanceLine : ∀ {s bs sg}, I s → o.peekLine s = .ok ((some bs, sg), s) →
    ∃ s', o.advanceLine s = .ok s' ∧ I s' ∧ μ s' < μ s ∧ R s s'
  restore : ∀ {s s1}, I s → I s1 →
    ∃ s', o.setPosition (o.position s).1 (o.position s).2 s1 = .ok s' ∧ I s' ∧ R s s' ∧ μ s' ≤ μ s
  segs : ∀ {s0 s bs sg}, I s → R s0 s → o.peekLine s = .ok ((some bs, sg), s) →
    (∀ b, G s0 b sg) ∧ ∀ (i : Nat) (b : UInt8), bs[i]? = some b → G s0 b (sg.withStop (sg.start + i - sg.padding))

/-- how a reported closure came about: from a state `s1` whose peeked line has the closer at index `i`, by `Advance(i + 1)`
    to `s2`; the last segment handed out is the rest of that line cut at the closer -/
def Found {σ : Type} (o : Ops σ) (I : σ → Prop) (cl : UInt8) (sgs : List Segment) (s2 : σ) : Prop :=
  ∃ s1 bs sg, ∃ i : Nat, I s1 ∧ o.peekLine s1 = .ok ((some bs, sg), s1) ∧ bs[i]? = some cl ∧
    o.advance ((i : Int) + 1) s1 = .ok s2 ∧ sgs.getLast? = some (sg.withStop (sg.start + i - sg.padding))

section generic
variable {σ : Type} {o : Ops σ} {I : σ → Prop} {μ : σ → Nat} {R : σ → σ → Prop} {G : σ → UInt8 → Segment → Prop}

theorem skipSpacesLine_meas (M : Meas o I μ R G) (seg : Segment) : ∀ (l : Bytes) (i chars : Int) {s : σ}, I s →
    l.length ≤ μ s →
    ∃ res ch s', skipSpacesLine o seg l i chars s = .ok (res, ch, s') ∧ I s' ∧ R s s' ∧ μ s' ≤ μ s ∧
      (res = none → μ s' + l.length = μ s) := by
  intro l
  induction l with
  | nil => intro i chars s h _; exact ⟨none, chars, s, rfl, h, M.refl s, Nat.le_refl _, fun _ => by simp⟩
  | cons b bs ih =>
    intro i chars s h hl
    simp only [List.length_cons] at hl
    simp only [skipSpacesLine]
    split
    · obtain ⟨s1, e1, h1, m1, r1⟩ := M.advance 1 h (by omega) (by omega)
      simp only [e1, bind, Except.bind]
      obtain ⟨res, ch, s', g1, g2, g3, g4, g5⟩ := ih (i + 1) (chars + 1) h1 (by omega)
      refine ⟨res, ch, s', g1, g2, M.trans r1 g3, by omega, fun hn => ?_⟩
      have := g5 hn; simp only [List.length_cons]; omega
    · exact ⟨_, _, s, rfl, h, M.refl s, Nat.le_refl _, fun hh => by simp at hh⟩

theorem skipSpaces_meas (M : Meas o I μ R G) : ∀ (fuel : Nat) (chars : Int) {s : σ}, I s → μ s < fuel →
    ∃ x s', skipSpaces o fuel chars s = .ok (x, s') ∧ I s' ∧ R s s' ∧ μ s' ≤ μ s := by
  intro fuel
  induction fuel with
  | zero => intro chars s _ hf; omega
  | succ f ih =>
    intro chars s h hf
    obtain ⟨l, sg, hpl, hlen⟩ := M.peekLine h
    simp only [skipSpaces, hpl, bind, Except.bind]
    cases l with
    | none => exact ⟨_, s, rfl, h, M.refl s, Nat.le_refl _⟩
    | some l =>
      obtain ⟨v1, v2⟩ := hlen l rfl
      simp only
      obtain ⟨res, ch, s1, g1, g2, g3, g4, g5⟩ := skipSpacesLine_meas M sg l 0 chars h v2
      simp only [g1]
      cases res with
      | some v => exact ⟨_, s1, rfl, g2, g3, g4⟩
      | none =>
        have := g5 rfl
        obtain ⟨x, s2, k1, k2, k3, k4⟩ := ih ch g2 (by omega)
        exact ⟨x, s2, k1, k2, M.trans g3 k3, by omega⟩

theorem findClosureLoop_meas (M : Meas o I μ R G) (op cl : UInt8) (opts : FindClosureOptions) (s0 : σ) :
    ∀ (fuel opened cso : Nat) (ret : Option (List Segment)) {s : σ}, I s → μ s < fuel → R s0 s →
    (∀ g ∈ ret.getD [], G s0 cl g) →
    ∃ x s', findClosureLoop o op cl opts fuel opened cso ret s = .ok (x, s') ∧ I s' ∧ R s s' ∧ μ s' ≤ μ s ∧
      (∀ g ∈ x.1.getD [], G s0 cl g) ∧ (x.2 = true → Found o I cl (x.1.getD []) s') := by
  intro fuel
  induction fuel with
  | zero => intro opened cso ret s _ hf; omega
  | succ f ih =>
    intro opened cso ret s h hf h0 hret
    obtain ⟨l, sg, hpl, hlen⟩ := M.peekLine h
    simp only [findClosureLoop, hpl, bind, Except.bind]
    cases l with
    | none => exact ⟨_, s, rfl, h, M.refl s, Nat.le_refl _, hret, nofun⟩
    | some bs =>
      obtain ⟨v1, v2⟩ := hlen bs rfl
      obtain ⟨gs, gw⟩ := M.segs h h0 hpl
      simp only
      cases hsc : scanLine op cl opts.codeSpan opts.nesting bs 0 opened cso with
      | found i =>
        have hb := scanLine_found_bound op cl opts.codeSpan opts.nesting bs 0 opened cso i hsc
        obtain ⟨s1, e1, h1, m1, r1⟩ := M.advance ((i : Int) + 1) h (by omega) (by omega)
        simp only [e1, pure, Except.pure]
        have hc := scanLine_found_closer op cl opts.codeSpan opts.nesting bs 0 opened cso i hsc
        simp only [Nat.sub_zero] at hc
        refine ⟨_, s1, rfl, h1, r1, by omega, ?_, fun _ => ⟨s, bs, sg, i, h, hpl, hc, e1, by simp⟩⟩
        intro g hg
        simp only [Option.getD_some, List.mem_append, List.mem_singleton] at hg
        rcases hg with hg | hg
        · exact hret g hg
        · subst hg; exact gw i cl hc
      | stop => exact ⟨_, s, rfl, h, M.refl s, Nat.le_refl _, hret, nofun⟩
      | eol o2 c2 =>
        simp only
        split
        · exact ⟨_, s, rfl, h, M.refl s, Nat.le_refl _, hret, nofun⟩
        · obtain ⟨s1, e1, h1, m1, r1⟩ := M.advanceLine h hpl
          simp only [e1]
          obtain ⟨x, s2, k1, k2, k3, k4, k5, k6⟩ := ih o2 c2 (some (ret.getD [] ++ [sg])) h1 (by omega) (M.trans h0 r1)
            (by
              intro g hg
              simp only [Option.getD_some, List.mem_append, List.mem_singleton] at hg
              rcases hg with hg | hg
              · exact hret g hg
              · subst hg; exact gs cl)
          exact ⟨x, s2, k1, k2, M.trans r1 k3, by omega, k5, k6⟩

theorem findClosure_meas (M : Meas o I μ R G) (op cl : UInt8) (opts : FindClosureOptions) (fuel : Nat) {s : σ}
    (h : I s) (hf : μ s < fuel) :
    ∃ x s', findClosure o fuel op cl opts s = .ok (x, s') ∧ I s' ∧ R s s' ∧ μ s' ≤ μ s ∧
      (∀ g ∈ x.1.getD [], G s cl g) ∧
      (x.2 = true → ∃ s2, Found o I cl (x.1.getD []) s2 ∧ (opts.advance = true → s' = s2)) := by
  obtain ⟨x, s1, e1, h1, r1, m1, g1, f1⟩ := findClosureLoop_meas M op cl opts s fuel 1 0 none h hf (M.refl s)
    (by intro g hg; simp at hg)
  unfold findClosure
  simp only [e1, bind, Except.bind]
  by_cases ha : (!opts.advance) = true
  · simp only [ha, if_true]
    obtain ⟨s3, e3, h3, r3, m3⟩ := M.restore h h1
    simp only [e3]
    split
    · rename_i hx
      exact ⟨_, s3, rfl, h3, r3, m3, g1, fun _ => ⟨s1, f1 hx, fun hadv => by simp [hadv] at ha⟩⟩
    · exact ⟨_, s3, rfl, h3, r3, m3, by intro g hg; simp at hg, nofun⟩
  · simp only [ha, Bool.false_eq_true, if_false, pure, Except.pure]
    split
    · rename_i hx
      exact ⟨_, s1, rfl, h1, r1, m1, g1, fun _ => ⟨s1, f1 hx, fun _ => rfl⟩⟩
    · exact ⟨_, s1, rfl, h1, r1, m1, by intro g hg; simp at hg, nofun⟩

end generic

theorem bcur_view_len (F : SegFacts src segs) {c : BCur} (w : BWF segs c) {l : Bytes}
    (hv : BCur.view src segs c = some l) :
    1 ≤ l.length ∧ (l.length : Int) ≤ BCur.remaining segs c ∧ BCur.live segs c = true ∧
    BCur.remaining segs c = c.pad + (BCur.stopOf segs c - c.p) + BCur.viewsLen (segs.drop (c.ln.toNat + 1)) ∧
    c.p < BCur.stopOf segs c := by
  unfold BCur.view at hv
  split at hv
  · rename_i hl
    obtain ⟨_, _, l3, l4, l5, _, l7, l8⟩ := w.live F hl
    have v := viewsLen_nonneg F (c.ln.toNat + 1)
    have hp0 := w.pad0
    simp only [Option.some.injEq] at hv
    have hlen : (l.length : Int) = c.pad + (BCur.stopOf segs c - c.p) := by
      rw [← hv]
      simp only [List.length_append, spaces, List.length_replicate, length_sub src (b := (BCur.stopOf segs c).toNat) (by omega)]
      omega
    exact ⟨by omega, by omega, hl, l8, l5⟩
  · simp at hv

theorem bwf_advanceLine (F : SegFacts src segs) {c : BCur} (w : BWF segs c) : BWF segs (BCur.advanceLine segs c) := by
  rcases advanceLine_cases F w with ⟨hn, e, _, _, a5, a6⟩ | ⟨hn, e, _⟩ <;> rw [e]
  · exact { ln0 := by have := w.ln0; simp only; omega, pad0 := a5,
            inLine := fun _ => ⟨Int.le_refl _, Or.inl a6⟩, past := fun h => by simp only at h; omega }
  · refine { ln0 := by have := w.ln0; simp only; omega, pad0 := w.pad0, inLine := fun h => by simp only at h; omega,
             past := fun _ => ?_ }
    simp only
    by_cases hk : c.ln < BCur.k segs
    · have i1 := w.inLine hk
      have e : BCur.k segs - 1 = c.ln := by omega
      rw [e, F.last, e]
      rcases i1.2 with h' | ⟨_, h'⟩ <;> exact ⟨i1.1, by omega⟩
    · exact w.past (by omega)

theorem rem_advanceLine (F : SegFacts src segs) {c : BCur} (w : BWF segs c) {l : Bytes}
    (hv : BCur.view src segs c = some l) :
    BCur.remaining segs (BCur.advanceLine segs c) + 1 ≤ BCur.remaining segs c := by
  obtain ⟨_, _, _, hrem, hplt⟩ := bcur_view_len F w hv
  have hp0 := w.pad0
  have v := viewsLen_nonneg F (c.ln.toNat + 1)
  rcases advanceLine_cases F w with ⟨_, _, a, _⟩ | ⟨_, _, a⟩ <;> omega

theorem bcur_advN_rem (F : SegFacts src segs) (n : Nat) : ∀ {c : BCur}, BWF segs c → (n : Int) ≤ BCur.remaining segs c →
    BWF segs (BCur.advN segs n c) ∧ BCur.remaining segs (BCur.advN segs n c) = BCur.remaining segs c - n := by
  induction n with
  | zero => intro c w _; simp [BCur.advN, w]
  | succ n ih =>
    intro c w hn
    have hl : BCur.live segs c = true := rem_nonneg_live (by omega)
    obtain ⟨r1, r2⟩ := rem_adv1 F w hl
    obtain ⟨b1, b2⟩ := ih r2 (by omega)
    simp only [BCur.advN]
    exact ⟨b1, by omega⟩

/-- the block cursor, any line paddings -/
theorem bcurMeas (F : SegFacts src segs) : Meas (BCur.ops src segs) (BWF segs) (fun c => (BCur.remaining segs c).toNat)
    (fun c c' => BCur.remaining segs c' ≤ BCur.remaining segs c) (fun _ _ _ => True) where
  refl := fun _ => Int.le_refl _
  trans := fun h1 h2 => Int.le_trans h2 h1
  peekLine := fun {c} w => ⟨_, _, rfl, fun bs hv => by
    obtain ⟨v1, v2, _⟩ := bcur_view_len F w hv; omega⟩
  advance := fun {c} n w h0 hn => by
    have := remaining_nonneg F w
    obtain ⟨w1, r1⟩ := bcur_advN_rem F n.toNat w (by omega)
    refine ⟨BCur.advN segs n.toNat c, ?_, w1, by omega, by omega⟩
    simp only [BCur.ops, BCur.advance]; rw [if_pos ⟨h0, by omega⟩]
  advanceLine := fun {c bs sg} w hpl => by
    have hv : BCur.view src segs c = some bs := by
      simp only [BCur.ops, BCur.peekLine, Except.ok.injEq, Prod.mk.injEq] at hpl; exact hpl.1.1
    have := rem_advanceLine F w hv
    have := remaining_nonneg F (bwf_advanceLine F w)
    exact ⟨_, rfl, bwf_advanceLine F w, by omega, by omega⟩
  restore := fun {c c1} w _ => ⟨c, bcur_setPosition_seg F c c1 w, w, Int.le_refl _, Nat.le_refl _⟩
  segs := fun _ _ _ => ⟨fun _ => trivial, fun _ _ _ => trivial⟩

/-- the padding-free block cursor (inline-bearing blocks): offsets and line numbers never go back, the segments handed
    out start at or behind the cursor the call started from and are not inverted -/
theorem bcurMeas0 (F : SegFacts src segs) (Z : ∀ s ∈ segs, s.padding = 0) :
    Meas (BCur.ops src segs) (fun c => BWF segs c ∧ c.pad = 0) (fun c => (BCur.remaining segs c).toNat)
      (fun c c' => c.p ≤ c'.p ∧ c.ln ≤ c'.ln ∧ BCur.remaining segs c' ≤ BCur.remaining segs c)
      (fun c0 _ g => c0.p ≤ g.start ∧ g.start ≤ g.stop) where
  refl := fun _ => ⟨Int.le_refl _, Int.le_refl _, Int.le_refl _⟩
  trans := fun h1 h2 => ⟨Int.le_trans h1.1 h2.1, Int.le_trans h1.2.1 h2.2.1, Int.le_trans h2.2.2 h1.2.2⟩
  peekLine := fun {c} w => ⟨_, _, rfl, fun bs hv => by
    obtain ⟨v1, v2, _⟩ := bcur_view_len F w.1 hv; omega⟩
  advance := fun {c} n w h0 hn => by
    have := remaining_nonneg F w.1
    obtain ⟨b1, b2, b3, b4, b5⟩ := advN_facts F Z n.toNat w.1 w.2 (by omega)
    refine ⟨BCur.advN segs n.toNat c, ?_, ⟨b1, b2⟩, by omega, by omega, b4, by omega⟩
    simp only [BCur.ops, BCur.advance]; rw [if_pos ⟨h0, by omega⟩]
  advanceLine := fun {c bs sg} w hpl => by
    have hv : BCur.view src segs c = some bs := by
      simp only [BCur.ops, BCur.peekLine, Except.ok.injEq, Prod.mk.injEq] at hpl; exact hpl.1.1
    have := rem_advanceLine F w.1 hv
    have := remaining_nonneg F (bwf_advanceLine F w.1)
    obtain ⟨a1, a2, a3, _, _⟩ := advanceLine_facts F w.1 w.2
    refine ⟨_, rfl, ⟨bwf_advanceLine F w.1, ?_⟩, by omega, a2, by omega, a3⟩
    unfold BCur.advanceLine
    split
    · exact segOf_pad F Z _ (by have := w.1.ln0; omega) (by assumption)
    · exact w.2
  restore := fun {c c1} w _ =>
    ⟨c, bcur_setPosition_seg F c c1 w.1, w, ⟨Int.le_refl _, Int.le_refl _, Int.le_refl _⟩, Nat.le_refl _⟩
  segs := fun {c0 c bs sg} w h0 hpl => by
    have hv : BCur.view src segs c = some bs := by
      simp only [BCur.ops, BCur.peekLine, Except.ok.injEq, Prod.mk.injEq] at hpl; exact hpl.1.1
    have hsg : sg = BCur.seg segs c := by
      simp only [BCur.ops, BCur.peekLine, Except.ok.injEq, Prod.mk.injEq] at hpl; exact hpl.1.2.symm
    obtain ⟨_, _, v3, _⟩ := view_some F w.1 w.2 hv
    subst hsg
    simp only [BCur.seg, Segment.withStop, w.2]
    exact ⟨fun _ => ⟨h0.1, by omega⟩, fun i _ _ => ⟨h0.1, by omega⟩⟩

theorem bcur_skipSpaces_ok (F : SegFacts src segs) (fuel : Nat) (chars : Int) {c : BCur} (w : BWF segs c)
    (hf : (BCur.remaining segs c).toNat < fuel) :
    ∃ x c', skipSpaces (BCur.ops src segs) fuel chars c = .ok (x, c') ∧ BWF segs c' ∧
      BCur.remaining segs c' ≤ BCur.remaining segs c := by
  obtain ⟨x, c', e, w', r, _⟩ := skipSpaces_meas (bcurMeas F) fuel chars w hf
  exact ⟨x, c', e, w', r⟩

theorem bcur_findClosure_ok (F : SegFacts src segs) (o cl : UInt8) (opts : FindClosureOptions) (fuel : Nat) {c : BCur}
    (w : BWF segs c) (hf : (BCur.remaining segs c).toNat < fuel) :
    ∃ x c', findClosure (BCur.ops src segs) fuel o cl opts c = .ok (x, c') ∧ BWF segs c' := by
  obtain ⟨x, c', e, w', _⟩ := findClosure_meas (bcurMeas (src := src) F) o cl opts fuel w hf
  exact ⟨x, c', e, w'⟩

theorem skipSpaces_post (F : SegFacts src segs) (Z : ∀ s ∈ segs, s.padding = 0) (fuel : Nat) (chars : Int)
    {r : BlockReader} {c : BCur} (h : RS src segs r c) (hf : (BCur.remaining segs c).toNat < fuel) :
    ∃ x r' c', skipSpaces blockOps fuel chars r = .ok (x, r') ∧ RS src segs r' c' ∧
      c.p ≤ c'.p ∧ c.ln ≤ c'.ln ∧ BCur.remaining segs c' ≤ BCur.remaining segs c := by
  obtain ⟨x, c', e, ⟨w', z'⟩, ⟨r1, r2, r3⟩, _⟩ := skipSpaces_meas (bcurMeas0 (src := src) F Z) fuel chars ⟨h.abs.wf, h.pad⟩ hf
  obtain ⟨r', e', a'⟩ := skipSpaces_sim (blockSim F) fuel h.abs e
  exact ⟨x, r', c', e', ⟨a', z'⟩, r1, r2, r3⟩

theorem findClosure_post (F : SegFacts src segs) (Z : ∀ s ∈ segs, s.padding = 0) (o cl : UInt8)
    (opts : FindClosureOptions) (fuel : Nat) {r : BlockReader} {c : BCur} (h : RS src segs r c)
    (hf : (BCur.remaining segs c).toNat < fuel) :
    ∃ x r' c', findClosure blockOps fuel o cl opts r = .ok (x, r') ∧ RS src segs r' c' ∧
      c.p ≤ c'.p ∧ c.ln ≤ c'.ln ∧ BCur.remaining segs c' ≤ BCur.remaining segs c ∧
      (∀ s ∈ x.1.getD [], c.p ≤ s.start ∧ s.start ≤ s.stop) := by
  obtain ⟨x, c', e, ⟨w', z'⟩, ⟨r1, r2, r3⟩, _, g, _⟩ :=
    findClosure_meas (bcurMeas0 (src := src) F Z) o cl opts fuel ⟨h.abs.wf, h.pad⟩ hf
  obtain ⟨r', e', a'⟩ := findClosure_sim (blockSim F) fuel o cl opts h.abs e
  exact ⟨x, r', c', e', ⟨a', z'⟩, r1, r2, r3, g⟩

/-- fuel_suffices for the block READER (any paddings): SkipSpaces and FindClosure are defined — no `loop`, no panic —
    on a reader that stands for a well-formed cursor, given a fuel above the bytes in front of it -/
theorem blockReader_skipSpaces_defined (F : SegFacts src segs) {r : BlockReader} {c : BCur} (h : BAbs src segs r c)
    (fuel : Nat) (hf : (BCur.remaining segs c).toNat < fuel) :
    ∃ x r' c', skipSpaces blockOps fuel 0 r = .ok (x, r') ∧ BAbs src segs r' c' := by
  obtain ⟨x, c', e, _, _⟩ := bcur_skipSpaces_ok (src := src) F fuel 0 h.wf hf
  obtain ⟨r', e', a'⟩ := skipSpaces_sim (blockSim F) fuel h e
  exact ⟨x, r', c', e', a'⟩

theorem blockReader_findClosure_defined (F : SegFacts src segs) {r : BlockReader} {c : BCur} (h : BAbs src segs r c)
    (o cl : UInt8) (opts : FindClosureOptions) (fuel : Nat) (hf : (BCur.remaining segs c).toNat < fuel) :
    ∃ x r' c', findClosure blockOps fuel o cl opts r = .ok (x, r') ∧ BAbs src segs r' c' := by
  obtain ⟨x, c', e, _⟩ := bcur_findClosure_ok (src := src) F o cl opts fuel h.wf hf
  obtain ⟨r', e', a'⟩ := findClosure_sim (blockSim F) fuel o cl opts h e
  exact ⟨x, r', c', e', a'⟩

theorem valueFindLine_total (_F : SegFacts src segs) {r : BlockReader} {c : BCur} (h : BAbs src segs r c) (s : Segment)
    (h0 : (BCur.segOf segs 0).start ≤ s.start) :
    ∀ m : Nat, 1 ≤ m → (m : Int) ≤ BCur.k segs →
    ∃ j : Int, BlockReader.valueFindLine r s m = .ok j ∧ 0 ≤ j ∧ j < m := by
  intro m
  induction m with
  | zero => intro hm; omega
  | succ m ih =>
    intro _ hk
    simp only [BlockReader.valueFindLine, h.segments, segAt_ok segs (m : Int) (by omega) (by omega), bind, Except.bind]
    split
    · exact ⟨m, rfl, by omega, by omega⟩
    · rename_i hlt
      by_cases hm0 : m = 0
      · subst hm0; exfalso; apply hlt; simpa using h0
      · obtain ⟨j, e1, e2, e3⟩ := ih (by omega) (by omega)
        exact ⟨j, e1, e2, by omega⟩

theorem copyRange_ok (i hi : Int) (h0 : 0 ≤ i) (h1 : hi ≤ src.length) : ∃ v, BlockReader.copyRange src i hi = .ok v := by
  unfold BlockReader.copyRange
  split
  · exact ⟨_, rfl⟩
  · split
    · omega
    · exact ⟨_, rfl⟩

theorem valueLoop_total (F : SegFacts src segs) {r : BlockReader} {c : BCur} (h : BAbs src segs r c) (s : Segment) :
    ∀ (fuel : Nat) (line i : Int) (ret : Bytes), 0 ≤ line → line + fuel ≤ BCur.k segs → (0 ≤ i ∨ i < 0) →
    (0 ≤ i ∨ i = -1) → ∃ v, BlockReader.valueLoop r s fuel line i ret = .ok v := by
  intro fuel
  induction fuel with
  | zero => intro line i ret _ _ _ _; exact ⟨ret, rfl⟩
  | succ f ih =>
    intro line i ret hl hk _ hi
    have rng := F.rng line hl (by omega)
    simp only [BlockReader.valueLoop, h.segments, segAt_ok segs line hl (by omega), bind, Except.bind, h.source]
    obtain ⟨v, hv⟩ := copyRange_ok (src := src)
      (if i < 0 then (BCur.segOf segs line).start else i)
      (if s.stop < (BCur.segOf segs line).stop then s.stop else (BCur.segOf segs line).stop)
      (by split <;> omega) (by split <;> omega)
    simp only [hv]
    -- (the accumulated bytes are left opaque: the proof does not depend on how the line's padding is added)
    by_cases hge : (BCur.segOf segs line).stop ≥ s.stop
    · simp only [hge, if_true]
      exact ⟨_, rfl⟩
    · simp only [hge, if_false]
      exact ih (line + 1) (-1) _ (by omega) (by omega) (Or.inr (by omega)) (Or.inr rfl)

/-- `BlockReader.Value(seg)` cannot panic when `seg` starts at or behind the start of the block's first line
    and `seg.Stop - seg.Start + 1 ≥ 0` (the capacity of its `make`) -/
theorem valueOp_ok (F : SegFacts src segs) {r : BlockReader} {c : BCur} (h : BAbs src segs r c) (s : Segment)
    (h0 : (BCur.segOf segs 0).start ≤ s.start) (h1 : s.start ≤ s.stop + 1) : ∃ v, r.valueOp s = .ok v := by
  unfold BlockReader.valueOp
  have e0 : ¬ (s.stop - s.start + 1 < 0) := by omega
  have hk : (BCur.k segs).toNat = segs.length := by simp [BCur.k]
  have hkpos := F.kpos
  obtain ⟨j, j1, j2, j3⟩ := valueFindLine_total F h s h0 (BCur.k segs).toNat (by omega) (by omega)
  simp only [e0, if_false, bind, Except.bind, h.segLen, j1]
  have r0 := F.rng 0 (Int.le_refl _) hkpos
  exact valueLoop_total F h s _ j s.start [] j2 (by omega) (by omega) (Or.inl (by omega))

/-- the bytes of a list of segments (link.go:264-273, 387-395): no panic -/
theorem segsValue_ok (F : SegFacts src segs) {r : BlockReader} {c : BCur} (h : BAbs src segs r c) :
    ∀ (l : List Segment), (∀ s ∈ l, (BCur.segOf segs 0).start ≤ s.start ∧ s.start ≤ s.stop) →
    ∃ v, GM.Inl.segsValue r l = .ok v
  | [], _ => ⟨[], rfl⟩
  | s :: rest, hl => by
    obtain ⟨v, hv⟩ := valueOp_ok F h s (hl s (by simp)).1 (by have := (hl s (by simp)).2; omega)
    obtain ⟨w, hw⟩ := segsValue_ok F h rest (fun x hx => hl x (by simp [hx]))
    simp only [GM.Inl.segsValue, hv, hw, bind, Except.bind, pure, Except.pure]
    exact ⟨_, rfl⟩

/-- the cursor never stands in front of the first line -/
theorem first_le_p (F : SegFacts src segs) {c : BCur} (w : BWF segs c) : (BCur.segOf segs 0).start ≤ c.p := by
  have hk := F.kpos
  have r0 := F.rng 0 (Int.le_refl _) hk
  by_cases hl : c.ln < BCur.k segs
  · have i1 := (w.inLine hl).1
    by_cases h0 : c.ln = 0
    · rw [h0] at i1; exact i1
    · have := F.mono 0 c.ln (Int.le_refl _) (by have := w.ln0; omega) hl
      have r1 := F.rng c.ln w.ln0 hl
      omega
  · have i1 := (w.past (by omega)).1
    by_cases h0 : BCur.k segs - 1 = 0
    · rw [h0] at i1; exact i1
    · have := F.mono 0 (BCur.k segs - 1) (Int.le_refl _) (by omega) (by omega)
      have r1 := F.rng (BCur.k segs - 1) (by omega) (by omega)
      omega

end GM.Proof.BlockReaderFuel
