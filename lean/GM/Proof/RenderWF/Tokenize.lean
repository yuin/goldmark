/-
  GM.Proof.RenderWF.Tokenize — Appendix E step 2: soundness of the strict tokenizer `Spec.tokenize` for the
  grammar `WFHtml`. A grammar word is the serialisation of a balanced list of good tokens; the tokenizer reads
  such a serialisation back (adjacent text pieces merge into one text token) and the structural predicates
  hold of the result.
-/
import GM.Proof.RenderWF.Grammar

namespace GM.Proof.RenderWF
open GM GM.Spec

theorem lexOne_lt (r : Bytes) : lexOne (60 :: r) =
    (if startsWith placeholder (60 :: r) then some (.comment, (60 :: r).drop placeholder.length)
     else match r with
      | 47 :: r1 =>
        match r1.dropWhile isTagNameB with
        | 62 :: r2 => if (r1.takeWhile isTagNameB).isEmpty then none else some (.endTag (r1.takeWhile isTagNameB), r2)
        | _ => none
      | _ =>
        if (r.takeWhile isTagNameB).isEmpty then none
        else match lexAttrs (60 :: r).length (r.dropWhile isTagNameB) with
          | some (as, sc, rest) => some (.startTag (r.takeWhile isTagNameB) as sc, rest)
          | none => none) := by
  rfl

theorem lexOne_text (c : UInt8) (r : Bytes) (h : c ≠ 60) :
    lexOne (c :: r) = some (.text ((c :: r).takeWhile (· != 60)), (c :: r).dropWhile (· != 60)) := by
  unfold lexOne
  split
  · rename_i heq; cases heq
  · rename_i heq; simp at heq; exact absurd heq.1 h
  · rfl

theorem lexAttrs_gt (fuel : Nat) (r : Bytes) : lexAttrs fuel (62 :: r) = some ([], false, r) := by
  unfold lexAttrs; rfl
theorem lexAttrs_sc (fuel : Nat) (r : Bytes) : lexAttrs fuel (32 :: 47 :: 62 :: r) = some ([], true, r) := by
  unfold lexAttrs; rfl
theorem lexAttrs_attr (fuel : Nat) (c : UInt8) (r : Bytes) (hc : isAttrStartB c = true) :
    lexAttrs (fuel + 1) (32 :: c :: r) =
      (match r.dropWhile isAttrNameB with
      | 61 :: 34 :: r2 =>
        match r2.dropWhile (· != 34) with
        | 34 :: r3 =>
          match lexAttrs fuel r3 with
          | some (as, sc, rest) => some ((c :: r.takeWhile isAttrNameB, r2.takeWhile (· != 34)) :: as, sc, rest)
          | none => none
        | _ => none
      | _ => none) := by
  have h47 : c ≠ 47 := by rintro rfl; simp [isAttrStartB, isAlphaB] at hc
  rw [lexAttrs.eq_def]
  split
  · rename_i heq; simp at heq
  · rename_i heq; simp at heq; exact absurd heq.1.symm (by simpa using h47.symm)
  · rename_i heq1 heq2
    simp at heq1 heq2
    obtain ⟨rfl, rfl⟩ := heq2
    subst heq1
    simp only [hc, ↓reduceIte]
    rfl
  · rename_i h1 h2 h3
    exact (h3 fuel c r rfl rfl).elim

def StopAt (p : UInt8 → Bool) (s : Bytes) : Prop := ∀ d R, s = d :: R → p d = false

theorem stopAt_nil (p : UInt8 → Bool) : StopAt p [] := by intro d R h; cases h
theorem stopAt_cons (p : UInt8 → Bool) (d : UInt8) (R : Bytes) (h : p d = false) : StopAt p (d :: R) := by
  intro d' R' e; cases e; exact h

theorem span_stop (p : UInt8 → Bool) (n s : Bytes) (hall : ∀ c ∈ n, p c = true) (hs : StopAt p s) :
    (n ++ s).takeWhile p = n ∧ (n ++ s).dropWhile p = s := by
  induction n with
  | nil =>
    cases s with
    | nil => simp
    | cons d R => simp [hs d R rfl]
  | cons c n ih =>
    have := ih (fun d hd => hall d (by simp [hd]))
    simp [hall c (by simp), this]

def closeBytes (sc : Bool) : Bytes := if sc then [32, 47, 62] else [62]

def ser : Tok → Bytes
  | .text b => b
  | .comment => placeholder
  | .startTag n as sc => [60] ++ n ++ serAttrs as ++ closeBytes sc
  | .endTag n => [60, 47] ++ n ++ [62]

def serAll : List Tok → Bytes
  | [] => []
  | t :: ts => ser t ++ serAll ts

theorem serAll_append (a b : List Tok) : serAll (a ++ b) = serAll a ++ serAll b := by
  induction a with
  | nil => rfl
  | cons t a ih => simp [serAll, ih]

/-- side conditions of a token of a grammar word -/
def TokGood (x : Bool) : Tok → Prop
  | .text b => inertBytes b = true
  | .comment => True
  | .startTag n as sc => StartOK n as ∧ sc = (if voidTags.contains n then x else false)
  | .endTag n => tagNameOK n = true ∧ (allowedAttrs n).isSome = true

def Balanced (ts : List Tok) : Prop := ∀ st, nestRun st ts = some st

theorem nestRun_append (st : List Bytes) (a b : List Tok) :
    nestRun st (a ++ b) = (match nestRun st a with | some st' => nestRun st' b | none => none) := by
  induction a generalizing st with
  | nil => rfl
  | cons t a ih =>
    simp only [List.cons_append, nestRun]
    cases nestStep st t with
    | none => rfl
    | some st' => exact ih st'

theorem balanced_append {a b : List Tok} (ha : Balanced a) (hb : Balanced b) : Balanced (a ++ b) := by
  intro st; rw [nestRun_append, ha st]; exact hb st

theorem startOK_allowed {n : Bytes} {as : List (Bytes × Bytes)} (h : StartOK n as) :
    (allowedAttrs n).isSome = true := by
  have := h.vocab
  cases hal : allowedAttrs n with
  | none => simp only [vocabTok, hal] at this; cases this
  | some _ => rfl

def SerOf (P : Tok → Prop) (b : Bytes) : Prop := ∃ ts, b = serAll ts ∧ (∀ t ∈ ts, P t) ∧ Balanced ts

theorem serOf_nil {P : Tok → Prop} : SerOf P [] := ⟨[], rfl, by simp, fun _ => rfl⟩

theorem serOf_one {P : Tok → Prop} (t : Tok) (hP : P t) (hbal : Balanced [t]) : SerOf P (ser t) := by
  refine ⟨[t], by simp [serAll], ?_, hbal⟩
  intro t' ht; rw [List.mem_singleton] at ht; subst ht; exact hP

theorem serOf_elem {P : Tok → Prop} {n : Bytes} {as : List (Bytes × Bytes)} {body : Bytes}
    (hv : voidTags.contains n = false) (hs : P (.startTag n as false)) (he : P (.endTag n)) (h : SerOf P body) :
    SerOf P ([60] ++ n ++ serAttrs as ++ [62] ++ body ++ [60, 47] ++ n ++ [62]) := by
  obtain ⟨ts, e, hg, hbal⟩ := h
  refine ⟨[.startTag n as false] ++ ts ++ [.endTag n], ?_, ?_, ?_⟩
  · rw [serAll_append, serAll_append, e]; simp [serAll, ser, closeBytes]
  · intro t ht
    simp only [List.mem_append, List.mem_singleton] at ht
    rcases ht with (rfl | ht) | rfl
    · exact hs
    · exact hg t ht
    · exact he
  · intro st
    rw [nestRun_append, nestRun_append]
    simp only [nestRun, nestStep, hv, Bool.false_eq_true, ↓reduceIte, hbal (n :: st)]
    simp

theorem serOf_append {P : Tok → Prop} {a b : Bytes} (ha : SerOf P a) (hb : SerOf P b) : SerOf P (a ++ b) := by
  obtain ⟨ta, ea, ga, ba⟩ := ha
  obtain ⟨tb, eb, gb, bb⟩ := hb
  refine ⟨ta ++ tb, by rw [serAll_append, ea, eb], ?_, balanced_append ba bb⟩
  intro t ht
  rcases List.mem_append.mp ht with ht | ht
  · exact ga t ht
  · exact gb t ht

theorem balanced_void {n : Bytes} (hv : voidTags.contains n = true) (as : List (Bytes × Bytes)) (sc : Bool) :
    Balanced [.startTag n as sc] := by
  intro st; simp only [nestRun, nestStep, hv, ↓reduceIte]

theorem wf_tokens {x : Bool} {b : Bytes} (h : WFHtml x b) : SerOf (TokGood x) b := by
  induction h with
  | nil => exact serOf_nil
  | text b hb => exact serOf_one (.text b) hb fun _ => rfl
  | comment => exact serOf_one .comment trivial fun _ => rfl
  | void n as hv sok => exact serOf_one (.startTag n as x) ⟨sok, by rw [if_pos hv]⟩ (balanced_void hv as x)
  | elem n as body hv sok _ ih => exact serOf_elem hv ⟨sok, by rw [hv]; rfl⟩ ⟨sok.name, startOK_allowed sok⟩ ih
  | append a b _ _ iha ihb => exact serOf_append iha ihb

theorem placeholder_eq : placeholder = [60, 33, 45, 45, 32, 114, 97, 119, 32, 72, 84, 77, 76, 32, 111, 109, 105,
    116, 116, 101, 100, 32, 45, 45, 62] := by decide +kernel

theorem startsWith_self_append (p R : Bytes) : startsWith p (p ++ R) = true := by
  unfold startsWith
  rw [List.take_left']
  · exact beq_self_eq_true _
  · rfl

theorem startsWith_placeholder_false (c : UInt8) (r : Bytes) (h : c ≠ 33) :
    startsWith placeholder (60 :: c :: r) = false := by
  rw [placeholder_eq]
  unfold startsWith
  simp [List.take, h]

theorem lexOne_comment (R : Bytes) : lexOne (placeholder ++ R) = some (.comment, R) := by
  have h1 : placeholder ++ R = 60 :: (placeholder.tail ++ R) := by rw [placeholder_eq]; rfl
  have h2 := startsWith_self_append placeholder R
  rw [h1] at h2 ⊢
  rw [lexOne_lt, if_pos h2, ← h1, List.drop_left']
  rfl

theorem not_tagName_62 : isTagNameB 62 = false := by decide
theorem not_tagName_32 : isTagNameB 32 = false := by decide

theorem tagName_head {n : Bytes} (h : tagNameOK n = true) :
    ∃ c n', n = c :: n' ∧ isTagNameB c = true ∧ (∀ d ∈ n, isTagNameB d = true) := by
  unfold tagNameOK at h
  rw [Bool.and_eq_true, List.all_eq_true] at h
  cases n with
  | nil => simp at h
  | cons c n' => exact ⟨c, n', rfl, h.2 c (by simp), h.2⟩

theorem lexOne_endTag (n R : Bytes) (hn : tagNameOK n = true) :
    lexOne ([60, 47] ++ n ++ [62] ++ R) = some (.endTag n, R) := by
  obtain ⟨c, n', rfl, hc, hall⟩ := tagName_head hn
  have hs := span_stop isTagNameB (c :: n') (62 :: R) hall (stopAt_cons _ _ _ not_tagName_62)
  have e : [60, 47] ++ (c :: n') ++ [62] ++ R = 60 :: 47 :: ((c :: n') ++ 62 :: R) := by simp
  rw [e, lexOne_lt, if_neg (by rw [startsWith_placeholder_false _ _ (by decide)]; simp)]
  simp only [hs.1, hs.2]
  rfl

theorem attrStart_ne_47 {c : UInt8} (h : isAttrStartB c = true) : c ≠ 47 := by
  rintro rfl; simp [isAttrStartB, isAlphaB] at h

theorem attrName_head {n : Bytes} (h : attrNameOK n = true) :
    ∃ c n', n = c :: n' ∧ isAttrStartB c = true ∧ (∀ d ∈ n', isAttrNameB d = true) := by
  cases n with
  | nil => simp [attrNameOK] at h
  | cons c n' =>
    simp only [attrNameOK, Bool.and_eq_true, List.all_eq_true] at h
    exact ⟨c, n', rfl, h.1, h.2⟩

theorem inert_no34 {v : Bytes} (h : inertBytes v = true) : ∀ d ∈ v, (d != 34) = true := by
  unfold inertBytes at h
  rw [Bool.and_eq_true, List.all_eq_true] at h
  intro d hd
  have := h.2 d hd
  simp only [Bool.and_eq_true] at this
  exact this.2

theorem inert_no60 {v : Bytes} (h : inertBytes v = true) : ∀ d ∈ v, (d != 60) = true := by
  unfold inertBytes at h
  rw [Bool.and_eq_true, List.all_eq_true] at h
  intro d hd
  have := h.2 d hd
  simp only [Bool.and_eq_true] at this
  exact this.1.1

theorem lexAttrs_ser (as : List (Bytes × Bytes)) (hok : as.all attrOK = true) (sc : Bool) (R : Bytes) :
    ∀ fuel, as.length ≤ fuel → lexAttrs fuel (serAttrs as ++ closeBytes sc ++ R) = some (as, sc, R) := by
  induction as with
  | nil =>
    intro fuel _
    cases sc
    · exact lexAttrs_gt fuel R
    · exact lexAttrs_sc fuel R
  | cons a as ih =>
    intro fuel hf
    rw [List.all_cons, Bool.and_eq_true] at hok
    obtain ⟨nm, v⟩ := a
    have ha := hok.1
    unfold attrOK at ha
    rw [Bool.and_eq_true] at ha
    obtain ⟨c, nm', rfl, hc, hall⟩ := attrName_head ha.1
    cases fuel with
    | zero => simp at hf
    | succ f =>
      have e : serAttrs ((c :: nm', v) :: as) ++ closeBytes sc ++ R =
          32 :: c :: (nm' ++ 61 :: 34 :: (v ++ 34 :: (serAttrs as ++ closeBytes sc ++ R))) := by
        simp [serAttrs]
      rw [e, lexAttrs_attr f c _ hc]
      have s1 := span_stop isAttrNameB nm' (61 :: 34 :: (v ++ 34 :: (serAttrs as ++ closeBytes sc ++ R))) hall
        (stopAt_cons _ _ _ (by decide))
      have s2 := span_stop (· != 34) v (34 :: (serAttrs as ++ closeBytes sc ++ R)) (inert_no34 ha.2)
        (stopAt_cons _ _ _ (by decide))
      simp only [s1.1, s1.2, s2.1, s2.2, ih hok.2 f (by simp at hf; omega)]

theorem length_le_serAttrs (as : List (Bytes × Bytes)) : as.length ≤ (serAttrs as).length := by
  induction as with
  | nil => simp
  | cons a as ih => simp [serAttrs]; omega

theorem tail_stop (as : List (Bytes × Bytes)) (sc : Bool) (R : Bytes) :
    StopAt isTagNameB (serAttrs as ++ closeBytes sc ++ R) := by
  cases as with
  | nil => cases sc <;> exact stopAt_cons _ _ _ (by decide)
  | cons a as => exact stopAt_cons _ _ _ (by decide)

theorem lexOne_startTag (n : Bytes) (as : List (Bytes × Bytes)) (sc : Bool) (R : Bytes) (hn : tagNameOK n = true)
    (hok : as.all attrOK = true) :
    lexOne ([60] ++ n ++ serAttrs as ++ closeBytes sc ++ R) = some (.startTag n as sc, R) := by
  obtain ⟨c, n', rfl, hc, hall⟩ := tagName_head hn
  have hs := span_stop isTagNameB (c :: n') (serAttrs as ++ closeBytes sc ++ R) hall (tail_stop as sc R)
  have e : [60] ++ (c :: n') ++ serAttrs as ++ closeBytes sc ++ R =
      60 :: c :: (n' ++ (serAttrs as ++ closeBytes sc ++ R)) := by simp
  have c33 : c ≠ 33 := by rintro rfl; simp [isTagNameB, isDigitB] at hc
  have c47 : c ≠ 47 := by rintro rfl; simp [isTagNameB, isDigitB] at hc
  rw [e, lexOne_lt, if_neg (by rw [startsWith_placeholder_false _ _ c33]; simp)]
  have hs1 : (c :: (n' ++ (serAttrs as ++ closeBytes sc ++ R))).takeWhile isTagNameB = c :: n' := hs.1
  have hs2 : (c :: (n' ++ (serAttrs as ++ closeBytes sc ++ R))).dropWhile isTagNameB =
      serAttrs as ++ closeBytes sc ++ R := hs.2
  split
  · rename_i heq; simp at heq; exact absurd heq.1 c47
  · rw [hs1, hs2, lexAttrs_ser as hok sc R _ (by
      have := length_le_serAttrs as
      simp; omega)]
    simp

def TokFinal (x : Bool) (t : Tok) : Prop :=
  vocabTok allowedAttrs t = true ∧ inertTok t = true ∧ voidsOK x t = true ∧ xmlTok t = true

theorem not_contains_of_all_ne {v : Bytes} {c : UInt8} (h : ∀ d ∈ v, (d != c) = true) : v.contains c = false := by
  cases hc : v.contains c with
  | false => rfl
  | true =>
    have := h c (List.contains_iff_mem.mp hc)
    simp at this

theorem inert_amps {v : Bytes} (h : inertBytes v = true) : ampsOK v = true := by
  unfold inertBytes at h
  rw [Bool.and_eq_true] at h
  exact h.1

theorem tokFinal_text {x : Bool} {b : Bytes} (h : inertBytes b = true) : TokFinal x (.text b) := by
  refine ⟨rfl, ?_, rfl, rfl⟩
  simp only [inertTok, inert_amps h, not_contains_of_all_ne (inert_no60 h), Bool.not_false, Bool.and_self]

theorem tokFinal_of_good {x : Bool} {t : Tok} (h : TokGood x t) : TokFinal x t := by
  cases t with
  | text b => exact tokFinal_text h
  | comment => exact ⟨rfl, rfl, rfl, rfl⟩
  | endTag n => exact ⟨h.2, rfl, rfl, rfl⟩
  | startTag n as sc =>
    obtain ⟨sok, hsc⟩ := h
    have hattrs := sok.attrs
    rw [List.all_eq_true] at hattrs
    have hval : ∀ a ∈ as, inertBytes a.2 = true := by
      intro a ha
      have := hattrs a ha
      unfold attrOK at this
      rw [Bool.and_eq_true] at this
      exact this.2
    refine ⟨sok.vocab, ?_, ?_, ?_⟩
    · simp only [inertTok, List.all_eq_true, Bool.and_eq_true, Bool.not_eq_true']
      intro a ha
      exact ⟨inert_amps (hval a ha), not_contains_of_all_ne (inert_no34 (hval a ha))⟩
    · simp only [voidsOK]
      subst hsc
      cases voidTags.contains n <;> simp
    · simp only [xmlTok, Bool.and_eq_true, List.all_eq_true, Bool.not_eq_true', beq_iff_eq]
      refine ⟨fun a ha => not_contains_of_all_ne (inert_no60 (hval a ha)), ?_⟩
      rw [eraseDups_of_nodup _ sok.nodup, List.length_map]

theorem tokenizeFuel_nil (fuel : Nat) : tokenizeFuel fuel [] = some [] := by cases fuel <;> rfl

theorem tokenizeFuel_step (f : Nat) (c : UInt8) (r : Bytes) : tokenizeFuel (f + 1) (c :: r) =
    (match lexOne (c :: r) with
     | some (t, rest) => if rest.length < (c :: r).length then (tokenizeFuel f rest).map (t :: ·) else none
     | none => none) := rfl

theorem peel_text (f : Nat) (c : UInt8) (p s : Bytes) (hin : inertBytes (c :: p) = true)
    (hs : StopAt (· != 60) s) :
    tokenizeFuel (f + 1) ((c :: p) ++ s) = (tokenizeFuel f s).map (.text (c :: p) :: ·) := by
  have hall := inert_no60 hin
  have hc : c ≠ 60 := by simpa using hall c (by simp)
  have sp := span_stop (· != 60) (c :: p) s hall hs
  rw [List.cons_append, tokenizeFuel_step, lexOne_text c _ hc]
  rw [List.cons_append] at sp
  simp only [sp.1, sp.2]
  rw [if_pos (by simp; omega)]

theorem ser_tag {x : Bool} {t : Tok} (hg : TokGood x t) (hnt : ∀ b, t ≠ .text b) (R : Bytes) :
    lexOne (ser t ++ R) = some (t, R) ∧ ∃ tl, ser t = 60 :: tl := by
  cases t with
  | text b => exact absurd rfl (hnt b)
  | comment => exact ⟨lexOne_comment R, ⟨_, placeholder_eq⟩⟩
  | endTag n =>
    refine ⟨?_, ⟨_, rfl⟩⟩
    have := lexOne_endTag n R hg.1
    simpa [ser] using this
  | startTag n as sc =>
    refine ⟨?_, ⟨_, rfl⟩⟩
    have := lexOne_startTag n as sc R hg.1.name hg.1.attrs
    simpa [ser] using this

theorem tag_step {x : Bool} {t : Tok} (hg : TokGood x t) (hnt : ∀ b, t ≠ .text b) (R : Bytes) (f : Nat) :
    tokenizeFuel (f + 1) (ser t ++ R) = (tokenizeFuel f R).map (t :: ·) := by
  obtain ⟨h1, tl, h2⟩ := ser_tag hg hnt R
  rw [h2] at h1 ⊢
  rw [List.cons_append] at h1 ⊢
  rw [tokenizeFuel_step, h1]
  simp only
  rw [if_pos (by simp; omega)]

theorem nestRun_text (st : List Bytes) (b : Bytes) (ts : List Tok) : nestRun st (.text b :: ts) = nestRun st ts := rfl

/-- the tokenizer result on `pre ++ serAll ts`, where `pre` is a pending piece of inert text: it nests like `ts`, and
    every token read is inert text or one of `ts` (adjacent text merges, tags are read back one by one) -/
def Reads (ts : List Tok) (s : Bytes) (fuel : Nat) : Prop :=
  ∃ ts', tokenizeFuel fuel s = some ts' ∧ (∀ st, nestRun st ts' = nestRun st ts) ∧
    ∀ t ∈ ts', (∃ b, t = .text b ∧ inertBytes b = true) ∨ t ∈ ts

theorem reads_peel {ts : List Tok} {c : UInt8} {p s : Bytes} {f : Nat}
    (hin : inertBytes (c :: p) = true) (hs : StopAt (· != 60) s) (h : Reads ts s f) :
    Reads ts ((c :: p) ++ s) (f + 1) := by
  obtain ⟨ts', h1, h2, h3⟩ := h
  refine ⟨.text (c :: p) :: ts', ?_, ?_, ?_⟩
  · rw [peel_text f c p s hin hs, h1]; rfl
  · intro st; rw [nestRun_text]; exact h2 st
  · intro t ht
    rcases List.mem_cons.mp ht with rfl | ht
    · exact .inl ⟨_, rfl, hin⟩
    · exact h3 t ht

theorem tokenize_sound_aux {x : Bool} (ts : List Tok) (hg : ∀ t ∈ ts, TokGood x t) :
    ∀ (pre : Bytes), inertBytes pre = true → ∀ fuel, (pre ++ serAll ts).length ≤ fuel →
      Reads ts (pre ++ serAll ts) fuel := by
  induction ts with
  | nil =>
    intro pre hpre fuel hf
    cases pre with
    | nil => exact ⟨[], tokenizeFuel_nil fuel, fun _ => rfl, by simp⟩
    | cons c p =>
      cases fuel with
      | zero => simp [serAll] at hf
      | succ f =>
        exact reads_peel hpre (stopAt_nil _) ⟨[], tokenizeFuel_nil f, fun _ => rfl, by simp⟩
  | cons t rest ih =>
    intro pre hpre fuel hf
    have hrest : ∀ t' ∈ rest, TokGood x t' := fun t' h => hg t' (by simp [h])
    by_cases htx : ∃ b, t = .text b
    · obtain ⟨b, rfl⟩ := htx
      have hb : inertBytes b = true := hg (.text b) (by simp)
      have e : pre ++ serAll (.text b :: rest) = (pre ++ b) ++ serAll rest := by simp [serAll, ser]
      rw [e] at hf ⊢
      obtain ⟨ts', h1, h2, h3⟩ := ih hrest (pre ++ b) (inertBytes_append _ _ hpre hb) fuel hf
      exact ⟨ts', h1, fun st => by rw [nestRun_text]; exact h2 st,
        fun t' ht' => (h3 t' ht').imp id (List.mem_cons_of_mem _)⟩
    · have hnt : ∀ b, t ≠ .text b := fun b hb => htx ⟨b, hb⟩
      have hgt := hg t (by simp)
      obtain ⟨_, tl, htl⟩ := ser_tag hgt hnt []
      have A : ∀ f, (ser t ++ serAll rest).length ≤ f → Reads (t :: rest) (ser t ++ serAll rest) f := by
        intro f hf'
        cases f with
        | zero => rw [htl] at hf'; simp at hf'
        | succ f' =>
          obtain ⟨ts', h1, h2, h3⟩ := ih hrest [] rfl f' (by
            rw [htl] at hf'; simp at hf' ⊢; omega)
          simp only [List.nil_append] at h1
          refine ⟨t :: ts', ?_, ?_, ?_⟩
          · rw [tag_step hgt hnt, h1]; rfl
          · intro st
            simp only [nestRun]
            cases nestStep st t with
            | none => rfl
            | some st' => exact h2 st'
          · intro t' ht'
            rcases List.mem_cons.mp ht' with rfl | ht'
            · exact .inr List.mem_cons_self
            · exact (h3 t' ht').imp id (List.mem_cons_of_mem _)
      show Reads (t :: rest) (pre ++ (ser t ++ serAll rest)) fuel
      cases pre with
      | nil => exact A fuel (by simpa [serAll] using hf)
      | cons c p =>
        cases fuel with
        | zero => simp at hf
        | succ f =>
          refine reads_peel hpre ?_ (A f (by simp [serAll] at hf ⊢; omega))
          rw [htl]; exact stopAt_cons _ _ _ (by decide)

/-- Appendix E step 2: the strict tokenizer accepts every grammar word and the structural predicates hold. -/
theorem tokenize_sound {x : Bool} {b : Bytes} (h : WFHtml x b) :
    ∃ ts, tokenize b = some ts ∧ wellNested ts = true ∧ vocabOK ts = true ∧ inert ts = true ∧
      ts.all (voidsOK x) = true ∧ ts.all xmlTok = true := by
  obtain ⟨ts0, e, hg, hbal⟩ := wf_tokens h
  obtain ⟨ts, h1, h2, hmem⟩ := tokenize_sound_aux ts0 hg [] rfl b.length (by simp [e])
  simp only [List.nil_append, ← e] at h1
  have h3 : ∀ t ∈ ts, TokFinal x t := by
    intro t ht
    rcases hmem t ht with ⟨b', rfl, hb'⟩ | hm
    · exact tokFinal_text hb'
    · exact tokFinal_of_good (hg t hm)
  refine ⟨ts, h1, ?_, ?_, ?_, ?_, ?_⟩
  · unfold wellNested; rw [h2, hbal]; rfl
  · unfold vocabOK; rw [List.all_eq_true]; exact fun t ht => (h3 t ht).1
  · unfold inert; rw [List.all_eq_true]; exact fun t ht => (h3 t ht).2.1
  · rw [List.all_eq_true]; exact fun t ht => (h3 t ht).2.2.1
  · rw [List.all_eq_true]; exact fun t ht => (h3 t ht).2.2.2

theorem safeHtmlOK_of_wf {x : Bool} {b : Bytes} (h : WFHtml x b) : safeHtmlOK x b = true := by
  obtain ⟨ts, h1, h2, h3, h4, h5, _⟩ := tokenize_sound h
  unfold safeHtmlOK
  rw [h1]
  simp only [h2, h3, h4, h5, Bool.and_self]

theorem xmlOK_of_wf {x : Bool} {b : Bytes} (h : WFHtml x b) : xmlOK b = true := by
  obtain ⟨ts, h1, _, _, _, _, h6⟩ := tokenize_sound h
  unfold xmlOK
  rw [h1]
  exact h6

end GM.Proof.RenderWF
