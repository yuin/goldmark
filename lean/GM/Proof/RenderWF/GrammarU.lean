/-
  GM.Proof.RenderWF.GrammarU — the grammar of C03 (`GM.Proof.RenderWF.WFHtml`) with ONE more side condition at every start
  tag: the value of an `href` / `src` attribute is not dangerous under `Spec.hrefDangerous` (`UrlAttrs`). `WFHtmlU` is the
  output language of the safe-mode renderer for C04 at token level, and the grammar in which the per-kind lemmas
  (Kinds) and the induction over the tree (Main) are stated; `WFHtmlU.toWF` gives the statements about `WFHtml`.
-/
import GM.Proof.RenderWF.Grammar
import GM.Proof.RenderWF.Tags
import GM.Proof.UrlSafe
import GM.Spec.Url

namespace GM.Proof.RenderWFU
open GM GM.Spec GM.Proof.RenderWF

/-- every `href` / `src` value of the attribute list is harmless (what `Spec.urlsOK` asks of a start tag) -/
def UrlAttrs (as : List (Bytes × Bytes)) : Prop :=
  ∀ a ∈ as, urlAttrNames.contains a.1 = true → hrefDangerous lookupEntity a.2 = false

theorem urlAttrs_nil : UrlAttrs [] := fun _ h => by cases h

theorem urlAttrs_append {a b : List (Bytes × Bytes)} (ha : UrlAttrs a) (hb : UrlAttrs b) : UrlAttrs (a ++ b) := by
  intro x hx
  rcases List.mem_append.mp hx with h | h
  · exact ha x h
  · exact hb x h

theorem urlAttrs_sublist {a b : List (Bytes × Bytes)} (ha : UrlAttrs a) (hs : b.Sublist a) : UrlAttrs b :=
  fun x hx => ha x (hs.subset hx)

theorem urlAttrs_cons_nonurl {n v : Bytes} {rest : List (Bytes × Bytes)} (hn : urlAttrNames.contains n = false)
    (hr : UrlAttrs rest) : UrlAttrs ((n, v) :: rest) := by
  intro x hx hu
  rcases List.mem_cons.mp hx with rfl | h
  · rw [hn] at hu; cases hu
  · exact hr x h hu

theorem urlAttrs_cons_harmless {n v : Bytes} {rest : List (Bytes × Bytes)}
    (hv : hrefDangerous lookupEntity v = false) (hr : UrlAttrs rest) : UrlAttrs ((n, v) :: rest) := by
  intro x hx hu
  rcases List.mem_cons.mp hx with rfl | h
  · exact hv
  · exact hr x h hu

theorem data_not_url (n : Bytes) (h : hasBytesPrefix n Gen.dataPrefix = true) : urlAttrNames.contains n = false := by
  cases hc : urlAttrNames.contains n with
  | false => rfl
  | true =>
    exfalso
    have hm := List.contains_iff_mem.mp hc
    have : n = strBytes "href" ∨ n = strBytes "src" := by simpa [urlAttrNames] using hm
    rcases this with rfl | rfl <;> revert h <;> decide +kernel

theorem urlAttrs_user (filter : List Bytes) (hf : filter.all (fun n => !urlAttrNames.contains n) = true)
    (attrs : Option (List Attr)) : UrlAttrs (userAttrsO filter attrs) := by
  intro p hp hu
  cases attrs with
  | none => simp [userAttrsO] at hp
  | some as =>
    obtain ⟨a, _, hall, rfl⟩ := userAttrs_mem hp
    unfold attrAllowed nameAllowed at hall
    rw [Bool.or_eq_true] at hall
    rcases hall with h | h
    · have := (List.all_eq_true.mp hf) a.name (List.contains_iff_mem.mp h)
      simp only at hu
      rw [hu] at this; cases this
    · rw [data_not_url _ h] at hu; cases hu

theorem hash_append_harmless (rest : Bytes) : hrefDangerous lookupEntity ([35] ++ rest) = false :=
  GM.Proof.hash_not_dangerous rest

/-- discharge `UrlAttrs as` for the attribute lists the renderer writes -/
macro "urlattrs" : tactic =>
  `(tactic| repeat' first
    | exact urlAttrs_nil
    | exact urlAttrs_user _ (by decide +kernel) _
    | apply urlAttrs_append
    | (apply urlAttrs_cons_nonurl (by decide +kernel))
    | (apply urlAttrs_cons_harmless (by first
        | with_reducible exact GM.Proof.safe_href _
        | with_reducible exact GM.Proof.safe_autolink _ _
        | with_reducible exact GM.Proof.hash_not_dangerous _
        | with_reducible exact hash_append_harmless _)))

/-- the output language of the safe-mode renderer, with harmless URL attributes -/
inductive WFHtmlU (x : Bool) : Bytes → Prop
  | nil : WFHtmlU x []
  | text (b : Bytes) : inertBytes b = true → WFHtmlU x b
  | comment : WFHtmlU x placeholder
  | void (n : Bytes) (as : List (Bytes × Bytes)) : voidTags.contains n = true → StartOK n as → UrlAttrs as →
      WFHtmlU x ([60] ++ n ++ serAttrs as ++ (if x then [32, 47, 62] else [62]))
  | elem (n : Bytes) (as : List (Bytes × Bytes)) (body : Bytes) : voidTags.contains n = false → StartOK n as →
      UrlAttrs as → WFHtmlU x body → WFHtmlU x ([60] ++ n ++ serAttrs as ++ [62] ++ body ++ [60, 47] ++ n ++ [62])
  | append (a b : Bytes) : WFHtmlU x a → WFHtmlU x b → WFHtmlU x (a ++ b)

theorem WFHtmlU.of_eq {x : Bool} {a b : Bytes} (h : WFHtmlU x a) (e : b = a) : WFHtmlU x b := e ▸ h

theorem WFHtmlU.append3 {x : Bool} {a b c : Bytes} (ha : WFHtmlU x a) (hb : WFHtmlU x b) (hc : WFHtmlU x c) :
    WFHtmlU x (a ++ b ++ c) := .append _ _ (.append _ _ ha hb) hc

theorem WFHtmlU.toWF {x : Bool} {b : Bytes} (h : WFHtmlU x b) : WFHtml x b := by
  induction h with
  | nil => exact .nil
  | text b hb => exact .text b hb
  | comment => exact .comment
  | void n as hv sok _ => exact .void n as hv sok
  | elem n as body hv sok _ _ ih => exact .elem n as body hv sok ih
  | append a b _ _ iha ihb => exact .append a b iha ihb

end GM.Proof.RenderWFU
