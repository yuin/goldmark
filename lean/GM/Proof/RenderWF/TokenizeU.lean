/-
  GM.Proof.RenderWF.TokenizeU — from the grammar `WFHtmlU` to the strict tokenizer: every word of the grammar is the
  serialisation of good tokens whose start tags carry only harmless `href` / `src` values (`wf_tokensU`), and every
  non-text token the tokenizer reads back from that serialisation IS one of those tokens (`tokenize_sound_aux`)
  — hence `Spec.urlsOK lookupEntity (tokenize b)`, the predicate the run-time oracle `tok urls` evaluates.
-/
import GM.Proof.RenderWF.Tokenize
import GM.Proof.RenderWF.GrammarU

namespace GM.Proof.RenderWFU
open GM GM.Spec GM.Proof.RenderWF

/-- the `href` / `src` values of a start tag are harmless -/
def urlTokOK : Tok → Prop
  | .startTag _ as _ => UrlAttrs as
  | _ => True

theorem wf_tokensU {x : Bool} {b : Bytes} (h : WFHtmlU x b) : SerOf (fun t => TokGood x t ∧ urlTokOK t) b := by
  induction h with
  | nil => exact serOf_nil
  | text b hb => exact serOf_one (.text b) ⟨hb, trivial⟩ fun _ => rfl
  | comment => exact serOf_one .comment ⟨trivial, trivial⟩ fun _ => rfl
  | void n as hv sok hu =>
    exact serOf_one (.startTag n as x) ⟨⟨sok, by rw [if_pos hv]⟩, hu⟩ (balanced_void hv as x)
  | elem n as body hv sok hu _ ih =>
    exact serOf_elem hv ⟨⟨sok, by rw [hv]; rfl⟩, hu⟩ ⟨⟨sok.name, startOK_allowed sok⟩, trivial⟩ ih
  | append a b _ _ iha ihb => exact serOf_append iha ihb

/-- **C04 at token level for the grammar**: the strict tokenizer accepts the word and every `href` / `src` value of
    every start tag it reads is harmless -/
theorem urlsOK_of_wfU {x : Bool} {b : Bytes} (h : WFHtmlU x b) :
    ∃ ts, tokenize b = some ts ∧ urlsOK lookupEntity ts = true := by
  obtain ⟨ts0, e, hg, _⟩ := wf_tokensU h
  obtain ⟨ts, h1, _, h2⟩ := tokenize_sound_aux ts0 (fun t ht => (hg t ht).1) [] rfl b.length (by simp [e])
  simp only [List.nil_append, ← e] at h1
  refine ⟨ts, h1, ?_⟩
  unfold urlsOK
  rw [List.all_eq_true]
  intro t ht
  rcases h2 t ht with ⟨b', rfl, _⟩ | hm
  · rfl
  · have := (hg t hm).2
    cases t with
    | startTag n as sc =>
      simp only [urlTokOK] at this
      simp only [List.all_eq_true, Bool.or_eq_true, Bool.not_eq_true']
      intro a ha
      by_cases hc : urlAttrNames.contains a.1 = true
      · exact .inr (this a ha hc)
      · exact .inl (by simpa using hc)
    | _ => rfl

end GM.Proof.RenderWFU
