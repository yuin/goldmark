/-
  GM.Proof.RenderWF.Inert — closure properties of `Spec.ampsOK` / `Spec.inertBytes` (append, plain bytes)
  and inertness of the leaf writers of the renderer model: escapeHTML, rawWrite, decBytes, escapeRune,
  write, urlOut.
-/
import GM.Model.Render
import GM.Spec.RenderInv
import GM.Proof.Util

namespace GM.Proof.RenderWF
open GM GM.Spec

/-! ### takeWhile / dropWhile with a stopper -/

theorem dropWhile_append_of_ne_nil {α} (p : α → Bool) (s t : List α) (d : α) (tl : List α)
    (h : s.dropWhile p = d :: tl) :
    (s ++ t).dropWhile p = d :: (tl ++ t) ∧ (s ++ t).takeWhile p = s.takeWhile p := by
  induction s with
  | nil => simp at h
  | cons c s ih =>
    by_cases hc : p c = true
    · simp only [List.dropWhile_cons, hc, if_true] at h
      have := ih h
      simp [hc, this]
    · simp only [List.dropWhile_cons, hc] at h
      simp only [Bool.false_eq_true, if_false] at h
      cases h
      simp [hc]

theorem runThenSemi_append (p : UInt8 → Bool) (s t : Bytes) (h : runThenSemi p s = true) :
    runThenSemi p (s ++ t) = true := by
  unfold runThenSemi at h
  split at h
  · rename_i tl heq
    have := dropWhile_append_of_ne_nil p s t 59 tl heq
    unfold runThenSemi
    rw [this.1, this.2]
    exact h
  · cases h

theorem runThenSemi_head (p : UInt8 → Bool) (s : Bytes) (h : runThenSemi p s = true) :
    ∃ c r, s = c :: r ∧ p c = true := by
  cases s with
  | nil => simp [runThenSemi] at h
  | cons c r =>
    refine ⟨c, r, rfl, ?_⟩
    by_cases hc : p c = true
    · exact hc
    · unfold runThenSemi at h
      simp only [List.dropWhile_cons, List.takeWhile_cons, hc] at h
      simp at h
      split at h <;> simp_all

theorem refAfterAmp_append (r t : Bytes) (h : refAfterAmp r = true) : refAfterAmp (r ++ t) = true := by
  unfold refAfterAmp at h
  split at h
  · simp only [List.cons_append]; unfold refAfterAmp; exact runThenSemi_append _ _ _ h
  · simp only [List.cons_append]; unfold refAfterAmp; exact runThenSemi_append _ _ _ h
  · rename_i r' h1 h2
    obtain ⟨c, r'', rfl, hc⟩ := runThenSemi_head _ _ h
    have h' := runThenSemi_append _ _ t h
    simp only [List.cons_append] at h' ⊢
    have c1 : c ≠ 120 := by rintro rfl; simp [isDigitB] at hc
    have c2 : c ≠ 88 := by rintro rfl; simp [isDigitB] at hc
    unfold refAfterAmp
    split
    · rename_i heq; simp at heq; exact absurd heq.1 c1
    · rename_i heq; simp at heq; exact absurd heq.1 c2
    · rename_i heq; simp at heq; rw [← heq]; exact h'
    · rename_i _ _ hne; exact (hne _ rfl).elim
  · rename_i h1 h2 h3
    obtain ⟨c, r'', rfl, hc⟩ := runThenSemi_head _ _ h
    have h' := runThenSemi_append _ _ t h
    have c1 : c ≠ 35 := by rintro rfl; simp [isAlnumB, isAlphaB, isDigitB] at hc
    simp only [List.cons_append] at h' ⊢
    unfold refAfterAmp
    split
    · rename_i heq; simp at heq; exact absurd heq.1 c1
    · rename_i heq; simp at heq; exact absurd heq.1 c1
    · rename_i heq; simp at heq; exact absurd heq.1 c1
    · exact h'

theorem ampsOK_cons (c : UInt8) (r : Bytes) : ampsOK (c :: r) = ((c != 38 || refAfterAmp r) && ampsOK r) := rfl

theorem ampsOK_append (a b : Bytes) (ha : ampsOK a = true) (hb : ampsOK b = true) : ampsOK (a ++ b) = true := by
  induction a with
  | nil => simpa using hb
  | cons c r ih =>
    rw [ampsOK_cons] at ha
    simp only [Bool.and_eq_true, Bool.or_eq_true] at ha
    simp only [List.cons_append, ampsOK_cons, Bool.and_eq_true, Bool.or_eq_true]
    refine ⟨?_, ih ha.2⟩
    rcases ha.1 with h | h
    · exact Or.inl h
    · exact Or.inr (refAfterAmp_append _ _ h)

/-- neither `&` nor one of `<`, `>`, `"` -/
def plain (c : UInt8) : Bool := c != 38 && c != 60 && c != 62 && c != 34

theorem ampsOK_of_plain (l : Bytes) (h : l.all plain = true) : ampsOK l = true := by
  induction l with
  | nil => rfl
  | cons c r ih =>
    simp only [List.all_cons, Bool.and_eq_true] at h
    rw [ampsOK_cons, ih h.2]
    have : (c != 38) = true := by
      have := h.1; unfold plain at this; simp only [Bool.and_eq_true] at this; exact this.1.1.1
    simp [this]

theorem inertBytes_append (a b : Bytes) (ha : inertBytes a = true) (hb : inertBytes b = true) :
    inertBytes (a ++ b) = true := by
  unfold inertBytes at *
  simp only [Bool.and_eq_true] at ha hb ⊢
  exact ⟨ampsOK_append _ _ ha.1 hb.1, by rw [List.all_append, ha.2, hb.2]; rfl⟩

theorem inertBytes_nil : inertBytes [] = true := rfl

theorem inertBytes_of_plain (l : Bytes) (h : l.all plain = true) : inertBytes l = true := by
  unfold inertBytes
  rw [ampsOK_of_plain l h, Bool.true_and]
  rw [List.all_eq_true] at h ⊢
  intro c hc
  have := h c hc
  unfold plain at this
  simp only [Bool.and_eq_true] at this ⊢
  exact ⟨⟨this.1.1.2, this.1.2⟩, this.2⟩

theorem inertBytes_flatMap {α} (f : α → Bytes) (l : List α) (h : ∀ a ∈ l, inertBytes (f a) = true) :
    inertBytes (l.flatMap f) = true := by
  induction l with
  | nil => rfl
  | cons a r ih =>
    rw [List.flatMap_cons]
    exact inertBytes_append _ _ (h a (by simp)) (ih fun b hb => h b (by simp [hb]))

theorem escByte_inert : ∀ c : UInt8, inertBytes (escByte c) = true := by
  apply forall_uint8; decide +kernel

theorem escapeHTML_inert (v : Bytes) : inertBytes (escapeHTML v) = true :=
  inertBytes_flatMap _ _ fun c _ => escByte_inert c

theorem rawWrite_inert (v : Bytes) : inertBytes (rawWrite v) = true := escapeHTML_inert v

theorem replacementChar_inert : inertBytes replacementChar = true := by decide +kernel

theorem urlOut_inert (d : Bytes) : inertBytes (urlOut false d) = true := by
  unfold urlOut
  split
  · exact escapeHTML_inert _
  · rfl

theorem decBytes_plain (n : Nat) : (decBytes n).all plain = true := by
  unfold decBytes
  rw [List.all_eq_true]
  intro b hb
  rw [List.mem_map] at hb
  obtain ⟨c, hc, rfl⟩ := hb
  have hd := Nat.isDigit_of_mem_toDigits (by omega) (by omega) hc
  simp only [Char.isDigit, Bool.and_eq_true, decide_eq_true_eq] at hd
  have h1 : 48 ≤ c.toNat := by
    have := hd.1; rw [ge_iff_le, UInt32.le_iff_toNat_le] at this; exact this
  have h2 : c.toNat ≤ 57 := by
    have := hd.2; rw [UInt32.le_iff_toNat_le] at this; exact this
  have : ∀ n : Nat, 48 ≤ n → n ≤ 57 → plain (UInt8.ofNat n) = true := by
    intro n a b
    have : n = 48 ∨ n = 49 ∨ n = 50 ∨ n = 51 ∨ n = 52 ∨ n = 53 ∨ n = 54 ∨ n = 55 ∨ n = 56 ∨ n = 57 := by omega
    rcases this with h | h | h | h | h | h | h | h | h | h <;> subst h <;> decide
  exact this _ h1 h2

theorem decBytes_inert (n : Nat) : inertBytes (decBytes n) = true := inertBytes_of_plain _ (decBytes_plain n)

end GM.Proof.RenderWF
