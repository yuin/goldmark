/-
  GM.Proof.RenderWF.Kinds — For every node kind: the bytes written when entering the node, a well-formed body, and the bytes written when leaving it make a word of `WFHtmlU`.
  First what the per-kind lemmas share about start tags and fixed attributes, then the kinds of html.go, the extension kinds, the footnote kinds and the
  kinds without a renderer function.
-/
import GM.Proof.RenderWF.Write
import GM.Proof.RenderWF.GrammarU
import GM.Proof.RenderWF.Consts

section CoreKinds

namespace GM.Proof.RenderWF
open GM GM.Spec

/-- the footnote renderer's configurable strings stay inert after template expansion -/
structure FootOK (rc : RCfg) : Prop where
  idPrefix : inertBytes (footIdPrefix rc) = true
  linkClass : ∀ i n, inertBytes (applyFootnoteTemplate rc.footc.linkClass i n) = true
  backlinkClass : ∀ i n, inertBytes (applyFootnoteTemplate rc.footc.backlinkClass i n) = true
  backlinkHTML : ∀ i n, inertBytes (applyFootnoteTemplate rc.footc.backlinkHTML i n) = true

/-- safe mode, and every per-renderer copy of the XHTML flag agrees with `x` -/
structure CfgOK (x : Bool) (rc : RCfg) : Prop where
  safe : rc.core.unsafe_ = false
  core : rc.core.xhtml = x
  task : rc.task.xhtml = x
  foot : rc.foot.xhtml = x
  footc : FootOK rc

theorem sub_self (l : List Bytes) : ∀ f ∈ l, l.contains f = true := fun _ hf => List.contains_iff_mem.mpr hf

theorem sub_append (l m : List Bytes) : ∀ f ∈ l, (l ++ m).contains f = true := fun _ hf =>
  List.contains_iff_mem.mpr (List.mem_append_left _ hf)

/-- start tag with only the node's own attributes -/
theorem sok_user {n : Bytes} {names filter : List Bytes} {v : Bool} (tf : TagFacts n names v)
    (hsub : ∀ f ∈ filter, names.contains f = true) {attrs : Option (List Attr)} (hinv : attrsInv attrs = true) :
    StartOK n (userAttrsO filter attrs) := by
  have := startOK_intro (fixed := []) tf.name tf.allowed hsub (by rfl) (by simp) hinv (by simp)
  simpa using this

/-- start tag with fixed attributes only -/
theorem sok_fixed {n : Bytes} {names : List Bytes} {v : Bool} (tf : TagFacts n names v)
    {fixed : List (Bytes × Bytes)}
    (hfix : fixed.all (fun a => names.contains a.1 && attrOK a) = true)
    (hfixnd : (fixed.map (·.1)).Nodup) : StartOK n fixed := by
  have := startOK_intro (fixed := fixed) (filter := []) (attrs := none) tf.name tf.allowed (by simp) hfix hfixnd rfl
    (by simp)
  simpa [userAttrsO] using this

theorem StartOK.sublist {n : Bytes} {as bs : List (Bytes × Bytes)} (h : StartOK n as) (hs : bs.Sublist as) :
    StartOK n bs where
  name := h.name
  vocab := by
    have hv := h.vocab
    simp only [vocabTok] at hv ⊢
    cases hal : allowedAttrs n with
    | none => rw [hal] at hv; cases hv
    | some names =>
      rw [hal] at hv
      exact List.all_eq_true.mpr fun a ha => List.all_eq_true.mp hv a (hs.subset ha)
  attrs := List.all_eq_true.mpr fun a ha => List.all_eq_true.mp h.attrs a (hs.subset ha)
  nodup := h.nodup.sublist (hs.map _)

theorem sublist_optional {α} (a b c : List α) (p : Prop) [Decidable p] :
    (a ++ (if p then b else []) ++ c).Sublist (a ++ b ++ c) := by
  split
  · exact .refl _
  · exact ((List.Sublist.refl a).append (List.nil_sublist b)).append (.refl c)

macro "unfold_el" : tactic =>
  `(tactic| simp only [enter, leave, handled, Bool.not_true, Bool.false_eq_true, ↓reduceIte])

theorem hfix_nil {names : List Bytes} :
    ([] : List (Bytes × Bytes)).all (fun a => names.contains a.1 && attrOK a) = true := rfl

theorem hfix_cons {names : List Bytes} {n v : Bytes} {rest : List (Bytes × Bytes)}
    (h1 : names.contains n = true) (h2 : attrNameOK n = true) (h3 : inertBytes v = true)
    (hr : rest.all (fun a => names.contains a.1 && attrOK a) = true) :
    ((n, v) :: rest).all (fun a => names.contains a.1 && attrOK a) = true := by
  rw [List.all_cons, hr]; simp only [attrOK, h1, h2, h3, Bool.and_self]

/-- no fixed attribute name can also come from the node's own attributes -/
def HC (filter : List Bytes) (attrs : Option (List Attr)) (fixed : List (Bytes × Bytes)) : Prop :=
  ∀ nm ∈ fixed.map (·.1), nameAllowed filter nm = false ∨ ∀ as, attrs = some as → ∀ a ∈ as, a.name ≠ nm

theorem hc_nil {filter : List Bytes} {attrs : Option (List Attr)} : HC filter attrs [] := by simp [HC]

theorem hc_blocked {filter : List Bytes} {attrs : Option (List Attr)} {n v : Bytes} {rest : List (Bytes × Bytes)}
    (h : nameAllowed filter n = false) (hr : HC filter attrs rest) : HC filter attrs ((n, v) :: rest) := by
  intro nm hnm
  simp only [List.map_cons, List.mem_cons] at hnm
  rcases hnm with rfl | hnm
  · exact Or.inl h
  · exact hr nm hnm

theorem hc_absent {filter : List Bytes} {attrs : Option (List Attr)} {n v : Bytes} {rest : List (Bytes × Bytes)}
    (h : ∀ as, attrs = some as → ∀ a ∈ as, a.name ≠ n) (hr : HC filter attrs rest) :
    HC filter attrs ((n, v) :: rest) := by
  intro nm hnm
  simp only [List.map_cons, List.mem_cons] at hnm
  rcases hnm with rfl | hnm
  · exact Or.inr h
  · exact hr nm hnm

theorem absent_of {k : Kind} {attrs : Option (List Attr)} {n : Bytes} (h : noClash k attrs = true)
    (hn : n ∈ fixedAttrNames k) : ∀ as, attrs = some as → ∀ a ∈ as, a.name ≠ n := by
  intro as e a ha hne
  subst e hne
  unfold noClash at h
  rw [List.all_eq_true] at h
  have := h a ha
  rw [List.contains_iff_mem.mpr hn] at this
  cases this

theorem clash_of {k : Kind} {attrs : Option (List Attr)} (h : noClash k attrs = true) :
    ∀ as, attrs = some as → ∀ a ∈ as, a.name ∉ fixedAttrNames k := by
  intro as e a ha hmem
  subst e
  unfold noClash at h
  rw [List.all_eq_true] at h
  have := h a ha
  rw [List.contains_iff_mem.mpr hmem] at this
  cases this

theorem tag_h (level : Nat) (h1 : 1 ≤ level) (h6 : level ≤ 6) :
    TagFacts [104, UInt8.ofNat (48 + level)] Gen.HeadingAttributeFilter false := by
  have : level = 1 ∨ level = 2 ∨ level = 3 ∨ level = 4 ∨ level = 5 ∨ level = 6 := by omega
  rcases this with h | h | h | h | h | h <;> subst h
  · exact tag_h1
  · exact tag_h2
  · exact tag_h3
  · exact tag_h4
  · exact tag_h5
  · exact tag_h6

theorem codeSpanBody_inert (cs : List Node) : inertBytes (codeSpanBody cs) = true := by
  fun_induction codeSpanBody cs with
  | case1 => rfl
  | case2 v _ _ _ _ _ _ rest ih =>
    apply inertBytes_append _ _ _ ih
    split
    · exact inertBytes_append _ _ (rawWrite_inert _) (rawWrite_inert _)
    · exact rawWrite_inert _
  | case3 _ rest _ ih => exact ih

end GM.Proof.RenderWF

namespace GM.Proof.RenderWFU
open GM GM.Spec GM.Proof.RenderWF

theorem WFHtmlU.txt {x : Bool} {b : Bytes} (h : inertBytes b = true) : WFHtmlU x b := .text b h

/-- `<n as>pre body</n>post` -/
theorem wf_el {x : Bool} {n : Bytes} {names : List Bytes} (tf : TagFacts n names false)
    {as : List (Bytes × Bytes)} (sok : StartOK n as) {pre post body opn cls : Bytes}
    (hopn : opn = [60] ++ n ++ serAttrs as ++ [62] ++ pre) (hcls : cls = [60, 47] ++ n ++ [62] ++ post)
    (hpre : inertBytes pre = true) (hpost : inertBytes post = true) (hbody : WFHtmlU x body)
    (hu : UrlAttrs as := by urlattrs) :
    WFHtmlU x (opn ++ body ++ cls) := by
  have := WFHtmlU.append _ _ (WFHtmlU.elem n as (pre ++ body) tf.void sok hu (.append _ _ (.txt hpre) hbody))
    (WFHtmlU.txt (x := x) hpost)
  refine this.of_eq ?_
  subst hopn hcls
  simp only [List.append_assoc]

/-- `<n as>` or `<n as />` followed by `post` -/
theorem wf_void {x : Bool} {n : Bytes} {names : List Bytes} (tf : TagFacts n names true)
    {as : List (Bytes × Bytes)} (sok : StartOK n as) {post opn : Bytes}
    (hopn : opn = [60] ++ n ++ serAttrs as ++ (if x then [32, 47, 62] else [62]) ++ post)
    (hpost : inertBytes post = true) (hu : UrlAttrs as := by urlattrs) : WFHtmlU x opn := by
  have := WFHtmlU.append _ _ (WFHtmlU.void (x := x) n as tf.void sok hu) (WFHtmlU.txt (x := x) hpost)
  exact this.of_eq hopn

/-- An element whose start tag carries only the node's own attributes, in the shape the renderer functions write it:
    `start` is a literal `<n`, the filtered attributes and a literal `>pre`; `cls` is the literal `</n>post`. The
    equations between literals are closed, so the kernel evaluates them. -/
theorem wf_plain {x : Bool} {n : Bytes} {names filter : List Bytes} (tf : TagFacts n names false)
    (hsub : ∀ f ∈ filter, names.contains f = true) {attrs : Option (List Attr)} (hinv : attrsInv attrs = true)
    {start opn mid cls pre post body : Bytes} (hs : start = opn ++ renderAttrs filter attrs ++ mid)
    (ho : opn = [60] ++ n) (hm : mid = [62] ++ pre) (hc : cls = [60, 47] ++ n ++ [62] ++ post)
    (hpre : inertBytes pre = true) (hpost : inertBytes post = true) (hb : WFHtmlU x body)
    (hf : filter.all (fun n => !urlAttrNames.contains n) = true := by decide +kernel) :
    WFHtmlU x (start ++ body ++ cls) := by
  subst hs ho hm
  exact wf_el tf (sok_user tf hsub hinv) (pre := pre) (post := post)
    (by rw [renderAttrs_eq]; simp only [List.append_assoc]) hc hpre hpost hb (urlAttrs_user _ hf _)

variable {x : Bool} {rc : RCfg}

theorem wf_document (pih next attrs cs) {body : Bytes} (hb : WFHtmlU x body) :
    WFHtmlU x (enter rc pih next .document attrs cs ++ body ++ leave rc pih next .document cs) := by
  rw [enter_document, leave_document]
  exact hb.of_eq (by simp)

theorem wf_paragraph (pih next attrs cs) {body : Bytes} (hb : WFHtmlU x body) (hinv : attrsInv attrs = true) :
    WFHtmlU x (enter rc pih next .paragraph attrs cs ++ body ++ leave rc pih next .paragraph cs) := by
  unfold_el
  exact wf_plain tag_p (sub_self _) hinv (pre := []) (post := [10]) (openTag_same ..) (by decide +kernel) rfl
    (by decide +kernel) rfl (by decide) hb

theorem wf_heading (pih next attrs cs) (level : Nat) (h1 : 1 ≤ level) (h6 : level ≤ 6) {body : Bytes}
    (hb : WFHtmlU x body) (hinv : attrsInv attrs = true) :
    WFHtmlU x (enter rc pih next (.heading level) attrs cs ++ body ++ leave rc pih next (.heading level) cs) := by
  unfold_el
  exact wf_el (tag_h level h1 h6) (sok_user (tag_h level h1 h6) (sub_self _) hinv) (pre := []) (post := [10])
    (by rw [renderAttrs_eq]; bnorm) (by bnorm) rfl (by decide) hb

theorem wf_blockquote (pih next attrs cs) {body : Bytes} (hb : WFHtmlU x body) (hinv : attrsInv attrs = true) :
    WFHtmlU x (enter rc pih next .blockquote attrs cs ++ body ++ leave rc pih next .blockquote cs) := by
  unfold_el
  exact wf_plain tag_blockquote (sub_self _) hinv
    (pre := match (generalizing := false) attrs with | some _ => [] | none => [10]) (post := [10])
    (openTag_render ..) (by decide +kernel) rfl (by decide +kernel) (by cases attrs <;> rfl) (by decide) hb

/-- `<pre><code as>lines body</code></pre>` and a newline -/
theorem wf_pre_code {as : List (Bytes × Bytes)} (sok : StartOK [99, 111, 100, 101] as) (lines : List Bytes)
    {body : Bytes} (hb : WFHtmlU x body) (hu : UrlAttrs as := by urlattrs) :
    WFHtmlU x ([60, 112, 114, 101, 62, 60, 99, 111, 100, 101] ++ serAttrs as ++ [62] ++ lines.flatMap rawWrite ++
      body ++ [60, 47, 99, 111, 100, 101, 62, 60, 47, 112, 114, 101, 62, 10]) := by
  have inner := wf_el (x := x) tag_code sok (pre := lines.flatMap rawWrite) (post := []) rfl rfl
    (inertBytes_flatMap _ _ fun l _ => rawWrite_inert l) rfl hb hu
  have outer := wf_el (x := x) tag_pre (sok_fixed tag_pre (fixed := []) rfl (by simp))
    (pre := []) (post := [10]) rfl rfl rfl (by decide) inner
  exact outer.of_eq (by bnorm)

theorem wf_codeBlock (pih next attrs cs) (lines : List Bytes) {body : Bytes} (hb : WFHtmlU x body) :
    WFHtmlU x (enter rc pih next (.codeBlock lines) attrs cs ++ body ++ leave rc pih next (.codeBlock lines) cs) := by
  unfold_el
  exact (wf_pre_code (sok_fixed tag_code (fixed := []) rfl (by simp)) lines hb).of_eq (by bnorm)

theorem wf_fencedCodeBlock (pih next attrs cs) (info : Option Bytes) (lines : List Bytes) {body : Bytes}
    (hb : WFHtmlU x body) :
    WFHtmlU x (enter rc pih next (.fencedCodeBlock info lines) attrs cs ++ body ++
      leave rc pih next (.fencedCodeBlock info lines) cs) := by
  unfold_el
  cases info with
  | none => exact (wf_pre_code (sok_fixed tag_code (fixed := []) rfl (by simp)) lines hb).of_eq (by bnorm)
  | some i =>
    have hv : inertBytes ([108, 97, 110, 103, 117, 97, 103, 101, 45] ++
        write rc.core.escSpace (i.takeWhile (· != 32))) = true :=
      inertBytes_append _ _ (by decide) (write_inert _ _)
    have sok := sok_fixed tag_code (fixed := [([99, 108, 97, 115, 115], _)])
      (hfix_cons (by decide +kernel) (by decide +kernel) hv hfix_nil) (by simp)
    exact (wf_pre_code sok lines hb).of_eq (by bnorm)

theorem wf_comment_nl : WFHtmlU x (omitted ++ [10]) :=
  .append _ _ (WFHtmlU.comment.of_eq omitted_eq) (.txt (by decide))

theorem wf_htmlBlock (hc : CfgOK x rc) (pih next attrs cs) (lines : List Bytes) (closure : Option Bytes)
    {body : Bytes} (hb : WFHtmlU x body) :
    WFHtmlU x (enter rc pih next (.htmlBlock lines closure) attrs cs ++ body ++
      leave rc pih next (.htmlBlock lines closure) cs) := by
  unfold_el
  simp only [hc.safe, Bool.false_eq_true, ↓reduceIte]
  refine .append3 wf_comment_nl hb ?_
  cases closure with
  | none => exact .nil
  | some c => exact wf_comment_nl

theorem wf_list (pih next attrs cs) (ordered : Bool) (start : Nat) {body : Bytes} (hb : WFHtmlU x body)
    (hinv : attrsInv attrs = true) (hcl : noClash (.list ordered start) attrs = true) :
    WFHtmlU x (enter rc pih next (.list ordered start) attrs cs ++ body ++
      leave rc pih next (.list ordered start) cs) := by
  unfold_el
  cases ordered with
  | false =>
    exact wf_el tag_ul (sok_user tag_ul (sub_self _) hinv) (pre := [10]) (post := [10])
      (by rw [renderAttrs_eq]; simp only [Bool.false_eq_true, Bool.false_and, ↓reduceIte]; bnorm)
      (by simp only [Bool.false_eq_true, ↓reduceIte]; bnorm) (by decide) (by decide) hb
  | true =>
    by_cases hs : start = 1
    · subst hs
      exact wf_el tag_ol (sok_user tag_ol (sub_append _ _) hinv) (pre := [10]) (post := [10])
        (by rw [renderAttrs_eq]; simp only [bne_self_eq_false, Bool.and_false, Bool.false_eq_true, ↓reduceIte]; bnorm)
        (by simp only [↓reduceIte]; bnorm) (by decide) (by decide) hb
    · have hs' : (start != 1) = true := by simpa using hs
      have hcl' := absent_of (n := [115, 116, 97, 114, 116]) hcl
        (by simp only [fixedAttrNames, hs', Bool.and_self, ↓reduceIte]; bnorm; simp)
      have sok : StartOK [111, 108] ([([115, 116, 97, 114, 116], decBytes start)] ++
          userAttrsO Gen.ListAttributeFilter attrs) :=
        startOK_intro tag_ol.name tag_ol.allowed (sub_append _ _)
          (hfix_cons (by decide +kernel) (by decide +kernel) (decBytes_inert _) hfix_nil) (by simp) hinv
          (hc_absent hcl' hc_nil)
      exact wf_el tag_ol sok (pre := [10]) (post := [10])
        (by rw [renderAttrs_eq]; simp only [hs', Bool.and_self, ↓reduceIte]; bnorm)
        (by simp only [↓reduceIte]; bnorm) (by decide) (by decide) hb

theorem wf_listItem (pih next attrs cs) {body : Bytes} (hb : WFHtmlU x body) (hinv : attrsInv attrs = true) :
    WFHtmlU x (enter rc pih next .listItem attrs cs ++ body ++ leave rc pih next .listItem cs) := by
  unfold_el
  exact wf_plain tag_li (sub_append _ _) hinv
    (pre := match cs with | c :: _ => if c.kind.isTextBlock then [] else [10] | [] => []) (post := [10])
    (openTag_same_append ..) (by decide +kernel) rfl (by decide +kernel)
    (by cases cs with
        | nil => rfl
        | cons c _ => simp only; split <;> decide) (by decide) hb

theorem wf_textBlock (pih next attrs cs) {body : Bytes} (hb : WFHtmlU x body) :
    WFHtmlU x (enter rc pih next .textBlock attrs cs ++ body ++ leave rc pih next .textBlock cs) := by
  unfold_el
  refine .append3 .nil hb (.txt ?_)
  split <;> decide

theorem wf_thematicBreak (hc : CfgOK x rc) (pih next attrs cs) {body : Bytes} (hb : WFHtmlU x body)
    (hinv : attrsInv attrs = true) :
    WFHtmlU x (enter rc pih next .thematicBreak attrs cs ++ body ++ leave rc pih next .thematicBreak cs) := by
  unfold_el
  rw [hc.core]
  have v := wf_void (x := x) tag_hr (sok_user tag_hr (sub_self _) hinv) (post := [10]) rfl (by decide)
  exact (WFHtmlU.append _ _ v hb).of_eq (by rw [renderAttrs_eq]; cases x <;> bnorm)

theorem wf_autoLink (hc : CfgOK x rc) (pih next attrs cs) (email : Bool) (url label : Bytes) {body : Bytes}
    (hb : WFHtmlU x body) (hinv : attrsInv attrs = true) :
    WFHtmlU x (enter rc pih next (.autoLink email url label) attrs cs ++ body ++
      leave rc pih next (.autoLink email url label) cs) := by
  unfold_el
  rw [hc.safe]
  have hv : inertBytes ((if (email && !mailtoPrefixed url (strBytes "mailto:")) = true then strBytes "mailto:" else []) ++
      urlOut false (urlEscape url false)) = true := by
    apply inertBytes_append _ _ _ (urlOut_inert _)
    split
    · decide +kernel
    · rfl
  have sok : StartOK [97] ([([104, 114, 101, 102], _)] ++ userAttrsO Gen.LinkAttributeFilter attrs) :=
    startOK_intro tag_a.name tag_a.allowed (sub_append _ _)
      (hfix_cons (by decide +kernel) (by decide +kernel) hv hfix_nil) (by simp) hinv
      (hc_blocked (by decide +kernel) hc_nil)
  have e := wf_el (x := x) tag_a sok (pre := escapeHTML label) (post := []) (body := []) rfl rfl
    (escapeHTML_inert _) rfl .nil
  refine (WFHtmlU.append _ _ e hb).of_eq ?_
  cases attrs <;> simp only [userAttrsO, renderAttrList_eq] <;> bnorm

theorem wf_codeSpan (pih next attrs cs) {body : Bytes} (hb : WFHtmlU x body) (hinv : attrsInv attrs = true) :
    WFHtmlU x (enter rc pih next .codeSpan attrs cs ++ body ++ leave rc pih next .codeSpan cs) := by
  unfold_el
  exact wf_plain tag_code (sub_append _ _) hinv (pre := codeSpanBody cs) (post := [])
    (openTag_same_append ..) (by decide +kernel) rfl (by decide +kernel) (codeSpanBody_inert cs) rfl hb

theorem wf_emphasis (pih next attrs cs) (level : Nat) {body : Bytes} (hb : WFHtmlU x body)
    (hinv : attrsInv attrs = true) :
    WFHtmlU x (enter rc pih next (.emphasis level) attrs cs ++ body ++ leave rc pih next (.emphasis level) cs) := by
  unfold_el
  by_cases hl : (level == 2) = true
  · simp only [hl, ↓reduceIte]
    exact wf_plain tag_strong (sub_self _) hinv (pre := []) (post := []) rfl (by decide +kernel) rfl
      (by decide +kernel) rfl rfl hb
  · simp only [hl, Bool.false_eq_true, ↓reduceIte]
    exact wf_plain tag_em (sub_self _) hinv (pre := []) (post := []) rfl (by decide +kernel) rfl
      (by decide +kernel) rfl rfl hb

end GM.Proof.RenderWFU
end CoreKinds

section LinkTextKinds

namespace GM.Proof.RenderWFU
open GM GM.Spec GM.Proof.RenderWF

variable {x : Bool} {rc : RCfg}

theorem wf_link (hc : CfgOK x rc) (pih next attrs cs) (dest : Bytes) (title : Option Bytes) {body : Bytes}
    (hb : WFHtmlU x body) (hinv : attrsInv attrs = true) (hcl : noClash (.link dest title) attrs = true) :
    WFHtmlU x (enter rc pih next (.link dest title) attrs cs ++ body ++ leave rc pih next (.link dest title) cs) := by
  unfold_el
  rw [hc.safe]
  cases title with
  | none =>
    have sok : StartOK [97] ([([104, 114, 101, 102], urlOut false (urlEscape dest true))] ++
        userAttrsO Gen.LinkAttributeFilter attrs) :=
      startOK_intro tag_a.name tag_a.allowed (sub_append _ _)
        (hfix_cons (by decide +kernel) (by decide +kernel) (urlOut_inert _) hfix_nil) (by simp) hinv
        (hc_blocked (by decide +kernel) hc_nil)
    exact wf_el tag_a sok (pre := []) (post := []) (by rw [renderAttrs_eq]; bnorm) (by bnorm) rfl rfl hb
  | some t =>
    have hcl' := absent_of (n := [116, 105, 116, 108, 101]) hcl (by simp only [fixedAttrNames]; bnorm; simp)
    have sok : StartOK [97] ([([104, 114, 101, 102], urlOut false (urlEscape dest true)),
        ([116, 105, 116, 108, 101], write rc.core.escSpace t)] ++ userAttrsO Gen.LinkAttributeFilter attrs) :=
      startOK_intro tag_a.name tag_a.allowed (sub_append _ _)
        (hfix_cons (by decide +kernel) (by decide +kernel) (urlOut_inert _)
          (hfix_cons (by decide +kernel) (by decide +kernel) (write_inert _ _) hfix_nil)) (by simp only [List.map]; decide) hinv
        (hc_blocked (by decide +kernel) (hc_absent hcl' hc_nil))
    exact wf_el tag_a sok (pre := []) (post := []) (by rw [renderAttrs_eq]; bnorm) (by bnorm) rfl rfl hb

theorem wf_image (hc : CfgOK x rc) (pih next attrs cs) (dest : Bytes) (title : Option Bytes) {body : Bytes}
    (hb : WFHtmlU x body) (hinv : attrsInv attrs = true) (hcl : noClash (.image dest title) attrs = true)
    (halt : inertBytes (altTexts rc.core.escSpace cs) = true) :
    WFHtmlU x (enter rc pih next (.image dest title) attrs cs ++ body ++ leave rc pih next (.image dest title) cs) := by
  unfold_el
  rw [hc.safe, hc.core]
  cases title with
  | none =>
    have sok : StartOK [105, 109, 103] ([([115, 114, 99], urlOut false (urlEscape dest true)),
        ([97, 108, 116], altTexts rc.core.escSpace cs)] ++ userAttrsO Gen.ImageAttributeFilter attrs) :=
      startOK_intro tag_img.name tag_img.allowed (sub_append _ _)
        (hfix_cons (by decide +kernel) (by decide +kernel) (urlOut_inert _)
          (hfix_cons (by decide +kernel) (by decide +kernel) halt hfix_nil)) (by simp only [List.map]; decide) hinv
        (hc_blocked (by decide +kernel) (hc_blocked (by decide +kernel) hc_nil))
    have v := wf_void (x := x) tag_img sok (post := []) rfl rfl
    exact (WFHtmlU.append _ _ v hb).of_eq (by rw [renderAttrs_eq]; bnorm)
  | some t =>
    have hcl' := absent_of (n := [116, 105, 116, 108, 101]) hcl (by simp only [fixedAttrNames]; bnorm; simp)
    have sok : StartOK [105, 109, 103] ([([115, 114, 99], urlOut false (urlEscape dest true)),
        ([97, 108, 116], altTexts rc.core.escSpace cs), ([116, 105, 116, 108, 101], write rc.core.escSpace t)] ++
        userAttrsO Gen.ImageAttributeFilter attrs) :=
      startOK_intro tag_img.name tag_img.allowed (sub_append _ _)
        (hfix_cons (by decide +kernel) (by decide +kernel) (urlOut_inert _)
          (hfix_cons (by decide +kernel) (by decide +kernel) halt
            (hfix_cons (by decide +kernel) (by decide +kernel) (write_inert _ _) hfix_nil))) (by simp only [List.map]; decide) hinv
        (hc_blocked (by decide +kernel) (hc_blocked (by decide +kernel) (hc_absent hcl' hc_nil)))
    have v := wf_void (x := x) tag_img sok (post := []) rfl rfl
    exact (WFHtmlU.append _ _ v hb).of_eq (by rw [renderAttrs_eq]; bnorm)

theorem wf_rawHTML (hc : CfgOK x rc) (pih next attrs cs) (segs : List Bytes) {body : Bytes} (hb : WFHtmlU x body) :
    WFHtmlU x (enter rc pih next (.rawHTML segs) attrs cs ++ body ++ leave rc pih next (.rawHTML segs) cs) := by
  unfold_el
  simp only [hc.safe, Bool.false_eq_true, ↓reduceIte]
  exact (WFHtmlU.append _ _ (WFHtmlU.comment.of_eq omitted_eq) hb).of_eq (by simp)

theorem wf_br : WFHtmlU x (if x then strBytes "<br />\n" else strBytes "<br>\n") :=
  wf_void (x := x) tag_br (sok_fixed tag_br (fixed := []) rfl (by simp)) (post := [10])
    (by cases x <;> bnorm) (by decide)

theorem wf_text (hc : CfgOK x rc) (pih next attrs cs) (v : Bytes) (soft hard raw cjk : Bool) {body : Bytes}
    (hb : WFHtmlU x body) :
    WFHtmlU x (enter rc pih next (.text v soft hard raw cjk) attrs cs ++ body ++
      leave rc pih next (.text v soft hard raw cjk) cs) := by
  unfold_el
  rw [hc.core]
  refine .append3 ?_ hb .nil
  split
  · exact .txt (rawWrite_inert _)
  · refine .append _ _ (.txt (write_inert _ _)) ?_
    split
    · exact wf_br
    · refine .txt ?_
      split
      · split
        · split <;> decide
        · decide
      · rfl

theorem wf_string (pih next attrs cs) (v : Bytes) (raw code : Bool) {body : Bytes}
    (hb : WFHtmlU x body) (hcode : code = true → inertBytes v = true) :
    WFHtmlU x (enter rc pih next (.string v raw code) attrs cs ++ body ++
      leave rc pih next (.string v raw code) cs) := by
  unfold_el
  refine .append3 (.txt ?_) hb .nil
  unfold renderStringOut
  split
  · rename_i h; exact hcode h
  · split
    · exact rawWrite_inert _
    · exact write_inert _ _

end GM.Proof.RenderWFU
end LinkTextKinds

section ExtensionKinds
/-
  The extension kinds (table, strikethrough, task list, definition list). The `<tbody>` that a TableHeader's leave opens and the last TableRow's leave
  closes is split off as `tbodyFix`.
-/

namespace GM.Proof.RenderWF
open GM GM.Spec

/-- the part of a TableHeader's / TableRow's output that belongs to the enclosing `<tbody>` element -/
def tbodyFix (rc : RCfg) (k : Kind) (next : Option Node) : Bytes :=
  if handled rc.exts k then
    match k with
    | .tableHeader => if next.isSome then strBytes "<tbody>\n" else []
    | .tableRow => if next.isSome then [] else strBytes "</tbody>\n"
    | _ => []
  else []

macro "unfold_elx " h:ident : tactic =>
  `(tactic| simp only [enter, leave, handled, $h:ident, Bool.not_true, Bool.false_eq_true, ↓reduceIte])

/-! ### the effective attributes of a table cell -/

theorem attrsInv_intro {as : List Attr} (h1 : ∀ a ∈ as, attrNameOK a.name = true) (h2 : (as.map (·.name)).Nodup) :
    attrsInv (some as) = true := by
  unfold attrsInv
  simp only [Bool.and_eq_true, List.all_eq_true, beq_iff_eq]
  refine ⟨h1, ?_⟩
  rw [eraseDups_of_nodup _ h2, List.length_map]

theorem attrsInv_setAttr (name v : Bytes) (hname : attrNameOK name = true) (attrs : Option (List Attr))
    (hinv : attrsInv attrs = true) : attrsInv (some (setAttr name v attrs)) = true := by
  cases attrs with
  | none =>
    apply attrsInv_intro
    · intro a ha; simp only [setAttr, List.mem_singleton] at ha; subst ha; exact hname
    · simp [setAttr]
  | some as =>
    obtain ⟨h1, h2⟩ := attrsInv_some hinv
    simp only [setAttr]
    split
    · apply attrsInv_intro
      · intro a ha
        rw [List.mem_map] at ha
        obtain ⟨b, hb, rfl⟩ := ha
        split
        · exact hname
        · exact h1 b hb
      · have : (as.map fun a => if (a.name == name) = true then (⟨name, some v⟩ : Attr) else a).map (·.name) =
            as.map (·.name) := by
          rw [List.map_map]
          apply List.map_congr_left
          intro a _
          simp only [Function.comp]
          split
          · rename_i h; exact (beq_iff_eq.mp h).symm
          · rfl
        rw [this]; exact h2
    · rename_i hany
      apply attrsInv_intro
      · intro a ha
        rw [List.mem_append, List.mem_singleton] at ha
        rcases ha with ha | rfl
        · exact h1 a ha
        · exact hname
      · rw [List.map_append, List.nodup_append]
        refine ⟨h2, by simp, ?_⟩
        intro a ha b hb hab
        simp only [List.map_cons, List.map_nil, List.mem_singleton] at hb
        subst hb hab
        rw [List.mem_map] at ha
        obtain ⟨c, hc, hcn⟩ := ha
        apply hany
        rw [List.any_eq_true]
        exact ⟨c, hc, beq_iff_eq.mpr hcn⟩

theorem alignName_inert (a : Nat) : inertBytes (alignName a) = true := by
  unfold alignName
  split <;> decide +kernel

theorem alignAttrName_eq : alignAttrName = [97, 108, 105, 103, 110] := by decide +kernel
theorem styleName_ok : attrNameOK styleName = true := by decide +kernel

/-- what `tableCellHead` produces: an optional fixed `align` attribute (only when the node has none of its
    own) and effective attributes that still satisfy the attribute invariant -/
theorem cellHead_ok (rc : RCfg) (align : Nat) (attrs : Option (List Attr)) (hinv : attrsInv attrs = true) :
    attrsInv (tableCellHead rc align attrs).2 = true ∧
    ((tableCellHead rc align attrs).1 = [] ∨
     ((tableCellHead rc align attrs).1 = serAttrs [([97, 108, 105, 103, 110], alignName align)] ∧
      ∀ as, (tableCellHead rc align attrs).2 = some as → ∀ a ∈ as, a.name ≠ [97, 108, 105, 103, 110])) := by
  unfold tableCellHead
  by_cases h3 : (align == 3) = true
  · simp only [h3, ↓reduceIte]; exact ⟨hinv, Or.inl trivial⟩
  · simp only [h3, Bool.false_eq_true, ↓reduceIte]
    generalize (if (rc.tableAlign == 0) = true then (if rc.table.xhtml = true then 1 else 2) else rc.tableAlign) = m
    by_cases hm1 : (m == 1) = true
    · simp only [hm1, ↓reduceIte]
      refine ⟨hinv, ?_⟩
      by_cases hno : (findAttr alignAttrName attrs).isSome = true
      · simp only [hno, ↓reduceIte]; exact Or.inl trivial
      · simp only [hno, Bool.false_eq_true, ↓reduceIte]
        right
        refine ⟨by bnorm, ?_⟩
        intro as e a ha hne
        apply hno
        subst e
        simp only [findAttr, List.find?_isSome]
        exact ⟨a, ha, by rw [hne, alignAttrName_eq]; simp⟩
    · simp only [hm1, Bool.false_eq_true, ↓reduceIte]
      by_cases hm2 : (m == 2) = true
      · simp only [hm2, ↓reduceIte]
        exact ⟨attrsInv_setAttr _ _ styleName_ok _ hinv, Or.inl trivial⟩
      · simp only [hm2, Bool.false_eq_true, ↓reduceIte]
        exact ⟨hinv, Or.inl trivial⟩

end GM.Proof.RenderWF

namespace GM.Proof.RenderWFU
open GM GM.Spec GM.Proof.RenderWF

variable {x : Bool} {rc : RCfg}

theorem wf_table (hh : rc.exts.table = true) (pih next attrs cs) {body : Bytes} (hb : WFHtmlU x body)
    (hinv : attrsInv attrs = true) :
    WFHtmlU x (enter rc pih next .table attrs cs ++ body ++ leave rc pih next .table cs) := by
  unfold_elx hh
  exact wf_plain tag_table (sub_self _) hinv (pre := [10]) (post := [10]) rfl (by decide +kernel) rfl
    (by decide +kernel) (by decide) (by decide) hb

theorem wf_tableHeader (hh : rc.exts.table = true) (pih next attrs cs) {body : Bytes} (hb : WFHtmlU x body)
    (hinv : attrsInv attrs = true) :
    ∃ core, enter rc pih next .tableHeader attrs cs ++ body ++ leave rc pih next .tableHeader cs =
      core ++ tbodyFix rc .tableHeader next ∧ WFHtmlU x core := by
  have inner := wf_el (x := x) tag_tr (sok_fixed tag_tr (fixed := []) rfl (by simp))
    (pre := [10]) (post := [10]) rfl rfl (by decide) (by decide) hb
  have outer := wf_el (x := x) tag_thead (sok_user tag_thead (sub_self _) hinv) (pre := [10]) (post := [10])
    rfl rfl (by decide) (by decide) inner
  refine ⟨_, ?_, outer⟩
  simp only [tbodyFix]
  unfold_elx hh
  rw [renderAttrs_eq]
  bnorm

theorem wf_tableRow (hh : rc.exts.table = true) (pih next attrs cs) {body : Bytes} (hb : WFHtmlU x body)
    (hinv : attrsInv attrs = true) :
    ∃ core, enter rc pih next .tableRow attrs cs ++ body ++ leave rc pih next .tableRow cs =
      core ++ tbodyFix rc .tableRow next ∧ WFHtmlU x core := by
  have outer := wf_el (x := x) tag_tr (sok_user tag_tr (sub_self _) hinv) (pre := [10]) (post := [10])
    rfl rfl (by decide) (by decide) hb
  refine ⟨_, ?_, outer⟩
  simp only [tbodyFix]
  unfold_elx hh
  rw [renderAttrs_eq]
  bnorm

theorem wf_cell_gen {n : Bytes} {names filter : List Bytes} (tf : TagFacts n names false)
    (hsub : ∀ f ∈ filter, names.contains f = true) (hal : names.contains [97, 108, 105, 103, 110] = true)
    (align : Nat) (attrs : Option (List Attr)) (hinv : attrsInv attrs = true) {body : Bytes} (hb : WFHtmlU x body)
    (hf : filter.all (fun n => !urlAttrNames.contains n) = true := by decide +kernel) :
    WFHtmlU x ([60] ++ n ++ (tableCellHead rc align attrs).1 ++
      renderAttrs filter (tableCellHead rc align attrs).2 ++ [62] ++ body ++ ([60, 47] ++ n ++ [62, 10])) := by
  obtain ⟨h2, h1⟩ := cellHead_ok rc align attrs hinv
  rcases h1 with h1 | ⟨h1, habs⟩
  · rw [h1]
    exact wf_el tf (sok_user tf hsub h2) (pre := []) (post := [10])
      (by rw [renderAttrs_eq]; bnorm) (by bnorm) rfl (by decide) hb (urlAttrs_user _ hf _)
  · rw [h1]
    have sok : StartOK n ([([97, 108, 105, 103, 110], alignName align)] ++
        userAttrsO filter (tableCellHead rc align attrs).2) :=
      startOK_intro tf.name tf.allowed hsub
        (hfix_cons hal (by decide +kernel) (alignName_inert _) hfix_nil) (by simp) h2
        (hc_absent habs hc_nil)
    exact wf_el tf sok (pre := []) (post := [10])
      (by rw [renderAttrs_eq]; bnorm) (by bnorm) rfl (by decide) hb
      (urlAttrs_cons_nonurl (by decide +kernel) (urlAttrs_user _ hf _))

theorem wf_tableCell (hh : rc.exts.table = true) (pih next attrs cs) (align : Nat) {body : Bytes}
    (hb : WFHtmlU x body) (hinv : attrsInv attrs = true) :
    WFHtmlU x (enter rc pih next (.tableCell align) attrs cs ++ body ++ leave rc pih next (.tableCell align) cs) := by
  unfold_elx hh
  cases pih with
  | true =>
    have := wf_cell_gen (x := x) (rc := rc) tag_th (sub_append _ _) (by decide +kernel) align attrs hinv hb
      (filter := Gen.TableThCellAttributeFilter)
    exact this.of_eq (by bnorm)
  | false =>
    have := wf_cell_gen (x := x) (rc := rc) tag_td (sub_append _ _) (by decide +kernel) align attrs hinv hb
      (filter := Gen.TableTdCellAttributeFilter)
    exact this.of_eq (by bnorm)

theorem wf_strikethrough (hh : rc.exts.strike = true) (pih next attrs cs) {body : Bytes} (hb : WFHtmlU x body)
    (hinv : attrsInv attrs = true) :
    WFHtmlU x (enter rc pih next .strikethrough attrs cs ++ body ++ leave rc pih next .strikethrough cs) := by
  unfold_elx hh
  exact wf_plain tag_del (sub_self _) hinv (pre := []) (post := []) (openTag_same ..) (by decide +kernel) rfl
    (by decide +kernel) rfl rfl hb

theorem wf_taskCheckBox (hc : CfgOK x rc) (hh : rc.exts.task = true) (pih next attrs cs) (checked : Bool)
    {body : Bytes} (hb : WFHtmlU x body) :
    WFHtmlU x (enter rc pih next (.taskCheckBox checked) attrs cs ++ body ++
      leave rc pih next (.taskCheckBox checked) cs) := by
  unfold_elx hh
  rw [hc.task]
  refine .append3 ?_ hb .nil
  cases checked with
  | true =>
    exact wf_void (x := x) tag_input
      (sok_fixed tag_input (fixed := [([99, 104, 101, 99, 107, 101, 100], []),
        ([100, 105, 115, 97, 98, 108, 101, 100], []), ([116, 121, 112, 101], [99, 104, 101, 99, 107, 98, 111, 120])])
        (by decide +kernel) (by decide)) (post := [32])
      (by cases x <;> bnorm) (by decide)
  | false =>
    exact wf_void (x := x) tag_input
      (sok_fixed tag_input (fixed := [([100, 105, 115, 97, 98, 108, 101, 100], []),
        ([116, 121, 112, 101], [99, 104, 101, 99, 107, 98, 111, 120])])
        (by decide +kernel) (by decide)) (post := [32])
      (by cases x <;> bnorm) (by decide)

theorem wf_definitionList (hh : rc.exts.dl = true) (pih next attrs cs) {body : Bytes} (hb : WFHtmlU x body)
    (hinv : attrsInv attrs = true) :
    WFHtmlU x (enter rc pih next .definitionList attrs cs ++ body ++ leave rc pih next .definitionList cs) := by
  unfold_elx hh
  exact wf_plain tag_dl (sub_self _) hinv (pre := [10]) (post := [10]) (openTag_same ..) (by decide +kernel) rfl
    (by decide +kernel) (by decide) (by decide) hb

theorem wf_definitionTerm (hh : rc.exts.dl = true) (pih next attrs cs) {body : Bytes} (hb : WFHtmlU x body)
    (hinv : attrsInv attrs = true) :
    WFHtmlU x (enter rc pih next .definitionTerm attrs cs ++ body ++ leave rc pih next .definitionTerm cs) := by
  unfold_elx hh
  exact wf_plain tag_dt (sub_self _) hinv (pre := []) (post := [10]) (openTag_same ..) (by decide +kernel) rfl
    (by decide +kernel) rfl (by decide) hb

theorem wf_definitionDescription (hh : rc.exts.dl = true) (pih next attrs cs) (tight : Bool) {body : Bytes}
    (hb : WFHtmlU x body) (hinv : attrsInv attrs = true) :
    WFHtmlU x (enter rc pih next (.definitionDescription tight) attrs cs ++ body ++
      leave rc pih next (.definitionDescription tight) cs) := by
  unfold_elx hh
  exact wf_plain tag_dd (sub_self _) hinv (pre := if tight then [] else [10]) (post := [10]) rfl (by decide +kernel)
    (by cases tight <;> rfl) (by decide +kernel) (by cases tight <;> decide) (by decide) hb

end GM.Proof.RenderWFU
end ExtensionKinds

section FootnoteKinds

namespace GM.Proof.RenderWF
open GM GM.Spec

variable {x : Bool} {rc : RCfg}

theorem fnrefId_inert (hc : CfgOK x rc) (index refIndex : Nat) : inertBytes (fnrefId rc index refIndex) = true := by
  unfold fnrefId
  refine inertBytes_append _ _ (inertBytes_append _ _ (inertBytes_append _ _ (inertBytes_append _ _
    hc.footc.idPrefix (by decide +kernel)) ?_) (by decide)) (decBytes_inert _)
  split
  · exact decBytes_inert _
  · rfl

theorem fnId_inert (hc : CfgOK x rc) (index : Nat) :
    inertBytes (footIdPrefix rc ++ strBytes "fn:" ++ decBytes index) = true :=
  inertBytes_append _ _ (inertBytes_append _ _ hc.footc.idPrefix (by decide +kernel)) (decBytes_inert _)

end GM.Proof.RenderWF

namespace GM.Proof.RenderWFU
open GM GM.Spec GM.Proof.RenderWF

variable {x : Bool} {rc : RCfg}

theorem wf_footnoteLink (hc : CfgOK x rc) (hh : rc.exts.foot = true) (pih next attrs cs) (index refCount refIndex : Nat)
    {body : Bytes} (hb : WFHtmlU x body) :
    WFHtmlU x (enter rc pih next (.footnoteLink index refCount refIndex) attrs cs ++ body ++
      leave rc pih next (.footnoteLink index refCount refIndex) cs) := by
  unfold_elx hh
  refine .append3 ?_ hb .nil
  have hhref : inertBytes ([35] ++ (footIdPrefix rc ++ strBytes "fn:" ++ decBytes index)) = true :=
    inertBytes_append _ _ (by decide) (fnId_inert hc index)
  have hsup : StartOK [115, 117, 112] [([105, 100], fnrefId rc index refIndex)] :=
    sok_fixed tag_sup (hfix_cons (by decide +kernel) (by decide +kernel) (fnrefId_inert hc _ _) hfix_nil) (by simp)
  -- `title` is written only for a non-empty configured title: the start tag with it is good, hence also the one without
  have sa := sok_fixed tag_a
    (fixed := [([104, 114, 101, 102], [35] ++ (footIdPrefix rc ++ strBytes "fn:" ++ decBytes index)),
      ([99, 108, 97, 115, 115], applyFootnoteTemplate rc.footc.linkClass index refCount),
      ([116, 105, 116, 108, 101], escapeHTML (applyFootnoteTemplate rc.footc.linkTitle index refCount)),
      ([114, 111, 108, 101], [100, 111, 99, 45, 110, 111, 116, 101, 114, 101, 102])])
    (hfix_cons (by decide +kernel) (by decide +kernel) hhref
      (hfix_cons (by decide +kernel) (by decide +kernel) (hc.footc.linkClass _ _)
        (hfix_cons (by decide +kernel) (by decide +kernel) (escapeHTML_inert _)
          (hfix_cons (by decide +kernel) (by decide +kernel) (by decide) hfix_nil))))
    (by simp only [List.map]; decide)
  have hsub := sublist_optional
    [(([104, 114, 101, 102] : Bytes), [35] ++ (footIdPrefix rc ++ strBytes "fn:" ++ decBytes index)),
      ([99, 108, 97, 115, 115], applyFootnoteTemplate rc.footc.linkClass index refCount)]
    [([116, 105, 116, 108, 101], escapeHTML (applyFootnoteTemplate rc.footc.linkTitle index refCount))]
    [([114, 111, 108, 101], [100, 111, 99, 45, 110, 111, 116, 101, 114, 101, 102])] (rc.footc.linkTitle.length > 0)
  have inner := wf_el (x := x) tag_a (sa.sublist hsub) (pre := decBytes index) (post := []) (body := [])
    rfl rfl (decBytes_inert _) rfl .nil (urlAttrs_sublist (by urlattrs) hsub)
  have outer := wf_el (x := x) tag_sup hsup (pre := []) (post := []) rfl rfl rfl rfl inner
  refine outer.of_eq ?_
  split <;> bnorm

theorem wf_footnoteBacklink (hc : CfgOK x rc) (hh : rc.exts.foot = true) (pih next attrs cs)
    (index refCount refIndex : Nat) {body : Bytes} (hb : WFHtmlU x body) :
    WFHtmlU x (enter rc pih next (.footnoteBacklink index refCount refIndex) attrs cs ++ body ++
      leave rc pih next (.footnoteBacklink index refCount refIndex) cs) := by
  unfold_elx hh
  refine .append3 ?_ hb .nil
  have hhref : inertBytes ([35] ++ fnrefId rc index refIndex) = true :=
    inertBytes_append _ _ (by decide) (fnrefId_inert hc _ _)
  have hnbsp : WFHtmlU x [38, 35, 49, 54, 48, 59] := .txt (by decide +kernel)
  -- the optional `title`, as in `wf_footnoteLink`
  have sa := sok_fixed tag_a
    (fixed := [([104, 114, 101, 102], [35] ++ fnrefId rc index refIndex),
      ([99, 108, 97, 115, 115], applyFootnoteTemplate rc.footc.backlinkClass index refCount),
      ([116, 105, 116, 108, 101], escapeHTML (applyFootnoteTemplate rc.footc.backlinkTitle index refCount)),
      ([114, 111, 108, 101], [100, 111, 99, 45, 98, 97, 99, 107, 108, 105, 110, 107])])
    (hfix_cons (by decide +kernel) (by decide +kernel) hhref
      (hfix_cons (by decide +kernel) (by decide +kernel) (hc.footc.backlinkClass _ _)
        (hfix_cons (by decide +kernel) (by decide +kernel) (escapeHTML_inert _)
          (hfix_cons (by decide +kernel) (by decide +kernel) (by decide) hfix_nil))))
    (by simp only [List.map]; decide)
  have hsub := sublist_optional
    [(([104, 114, 101, 102] : Bytes), [35] ++ fnrefId rc index refIndex),
      ([99, 108, 97, 115, 115], applyFootnoteTemplate rc.footc.backlinkClass index refCount)]
    [([116, 105, 116, 108, 101], escapeHTML (applyFootnoteTemplate rc.footc.backlinkTitle index refCount))]
    [([114, 111, 108, 101], [100, 111, 99, 45, 98, 97, 99, 107, 108, 105, 110, 107])]
    (rc.footc.backlinkTitle.length > 0)
  have inner := wf_el (x := x) tag_a (sa.sublist hsub)
    (pre := applyFootnoteTemplate rc.footc.backlinkHTML index refCount) (post := []) (body := [])
    rfl rfl (hc.footc.backlinkHTML _ _) rfl .nil (urlAttrs_sublist (by urlattrs) hsub)
  refine (WFHtmlU.append _ _ hnbsp inner).of_eq ?_
  split <;> bnorm

theorem wf_footnote (hc : CfgOK x rc) (hh : rc.exts.foot = true) (pih next attrs cs) (index : Nat)
    {body : Bytes} (hb : WFHtmlU x body) (hinv : attrsInv attrs = true)
    (hcl : noClash (.footnote index) attrs = true) :
    WFHtmlU x (enter rc pih next (.footnote index) attrs cs ++ body ++ leave rc pih next (.footnote index) cs) := by
  unfold_elx hh
  have hcl' := absent_of (n := [105, 100]) hcl (by simp only [fixedAttrNames]; bnorm; simp)
  have sok : StartOK [108, 105] ([([105, 100], footIdPrefix rc ++ strBytes "fn:" ++ decBytes index)] ++
      userAttrsO Gen.ListItemAttributeFilter attrs) :=
    startOK_intro tag_li.name tag_li.allowed (sub_append _ _)
      (hfix_cons (by decide +kernel) (by decide +kernel) (fnId_inert hc index) hfix_nil) (by simp) hinv
      (hc_absent hcl' hc_nil)
  exact wf_el tag_li sok (pre := [10]) (post := [10])
    (by rw [renderAttrs_eq]; bnorm) (by bnorm) (by decide) (by decide) hb

theorem wf_footnoteList (hc : CfgOK x rc) (hh : rc.exts.foot = true) (pih next attrs cs)
    {body : Bytes} (hb : WFHtmlU x body) (hinv : attrsInv attrs = true)
    (hcl : noClash .footnoteList attrs = true) :
    WFHtmlU x (enter rc pih next .footnoteList attrs cs ++ body ++ leave rc pih next .footnoteList cs) := by
  unfold_elx hh
  rw [hc.foot]
  have hc1 := absent_of (n := [99, 108, 97, 115, 115]) hcl (by simp only [fixedAttrNames]; bnorm; simp)
  have hc2 := absent_of (n := [114, 111, 108, 101]) hcl (by simp only [fixedAttrNames]; bnorm; simp)
  have sok : StartOK [100, 105, 118] ([([99, 108, 97, 115, 115], [102, 111, 111, 116, 110, 111, 116, 101, 115]),
      ([114, 111, 108, 101], [100, 111, 99, 45, 101, 110, 100, 110, 111, 116, 101, 115])] ++
      userAttrsO Gen.GlobalAttributeFilter attrs) :=
    startOK_intro tag_div.name tag_div.allowed (sub_append _ _)
      (hfix_cons (by decide +kernel) (by decide +kernel) (by decide)
        (hfix_cons (by decide +kernel) (by decide +kernel) (by decide) hfix_nil)) (by simp only [List.map]; decide) hinv
      (hc_absent hc1 (hc_absent hc2 hc_nil))
  have ol := wf_el (x := x) tag_ol (sok_fixed tag_ol (fixed := []) rfl (by simp))
    (pre := [10]) (post := [10]) rfl rfl (by decide) (by decide) hb
  have hr := wf_void (x := x) tag_hr (sok_fixed tag_hr (fixed := []) rfl (by simp)) (post := [10]) rfl (by decide)
  have outer := wf_el (x := x) tag_div sok (pre := [10]) (post := [10]) rfl rfl (by decide) (by decide)
    (.append _ _ hr ol)
  exact outer.of_eq (by rw [renderAttrs_eq]; cases x <;> bnorm)

theorem wf_other (pih next attrs cs) {body : Bytes} (hb : WFHtmlU x body) :
    WFHtmlU x (enter rc pih next .other attrs cs ++ body ++ leave rc pih next .other cs) := by
  simp only [enter, leave, handled]
  exact hb.of_eq (by simp)

theorem wf_unhandled (k : Kind) (hh : handled rc.exts k = false) (pih next attrs cs) {body : Bytes}
    (hb : WFHtmlU x body) : WFHtmlU x (enter rc pih next k attrs cs ++ body ++ leave rc pih next k cs) := by
  simp only [enter, leave, hh]
  exact hb.of_eq (by simp)

end GM.Proof.RenderWFU
end FootnoteKinds
