/-
  GM.Proof.RenderWF.Main — Appendix E step 1: under the tree invariant the safe-mode renderer's output is in the grammar `WFHtmlU` (`RenderWFU.render_wf`), hence in `WFHtml`
  (`render_wf`); and under the same invariant no node renderer function panics, option propagation reaching every per-renderer copy of html.Config.
-/
import GM.Proof.RenderWF.Kinds
import GM.Proof.RenderWF.Template

section Main
/-
  Structural induction over Node / List Node; the `<tbody>` element is assembled from the header's and the last row's
  leave output using `tableShape`.
-/

namespace GM.Proof.RenderWF
open GM GM.Spec

/-! ### unfolding lemmas for the mutually recursive definitions -/

theorem Node.ind {P : Node → Prop} (h : ∀ k a cs, (∀ c ∈ cs, P c) → P (.mk k a cs)) : ∀ n, P n := by
  intro n
  refine Node.rec (motive_1 := P) (motive_2 := fun cs => ∀ c ∈ cs, P c) h ?_ ?_ n
  · intro c hc; cases hc
  · intro hd tl h1 h2 c hc
    rw [List.mem_cons] at hc
    rcases hc with rfl | hc
    · exact h1
    · exact h2 c hc

/-- the kind-specific clause of `nodeInv` -/
def kindInv (rc : RCfg) (ctx : Ctx) (k : Kind) (attrs : Option (List Attr)) (cs : List Node) : Bool :=
  match k with
  | .heading level => 1 ≤ level && level ≤ 6
  | .codeSpan => codeSpanChildrenText cs
  | .string v _ code => !code || inertBytes v
  | .table => tableShape cs
  | .tableHeader | .tableRow => ctx == .table && cs.all (fun c => isCellK c.kind)
  | .tableCell align => ctx == .row && (nodePanic rc (.tableCell align) attrs cs).isNone
  | _ => true

def childCtx : Kind → Ctx
  | .table => .table
  | .tableHeader | .tableRow => .row
  | _ => .any

theorem nodeInv_mk (rc ctx k attrs cs) : nodeInv rc ctx (.mk k attrs cs) =
    (attrsInv attrs && noClash k attrs && kindInv rc ctx k attrs cs && nodesInv rc (childCtx k) cs) := by
  cases k <;> rfl

theorem nodesInv_cons (rc ctx c rest) :
    nodesInv rc ctx (c :: rest) = (nodeInv rc ctx c && nodesInv rc ctx rest) := rfl

theorem renderNode_mk (rc pih next k attrs cs) : renderNode rc pih next (.mk k attrs cs) =
    enter rc pih next k attrs cs ++
      (if handled rc.exts k && skipsChildren k then [] else renderNodes rc k.isTableHeader cs) ++
      leave rc pih next k cs := rfl

theorem renderNodes_cons (rc pih c rest) : renderNodes rc pih (c :: rest) =
    renderNode rc pih rest.head? c ++ renderNodes rc pih rest := rfl

theorem renderNodes_nil (rc pih) : renderNodes rc pih [] = [] := rfl

theorem altTexts_cons (e c rest) : altTexts e (c :: rest) = altText e c ++ altTexts e rest := rfl

structure NodeFacts (rc : RCfg) (ctx : Ctx) (k : Kind) (attrs : Option (List Attr)) (cs : List Node) : Prop where
  hattrs : attrsInv attrs = true
  hclash : noClash k attrs = true
  hkind : kindInv rc ctx k attrs cs = true
  hchildren : nodesInv rc (childCtx k) cs = true

theorem nodeFacts {rc ctx k attrs cs} (h : nodeInv rc ctx (.mk k attrs cs) = true) : NodeFacts rc ctx k attrs cs := by
  rw [nodeInv_mk] at h
  simp only [Bool.and_eq_true] at h
  exact ⟨h.1.1.1, h.1.1.2, h.1.2, h.2⟩

theorem nodesInv_mem {rc : RCfg} {ctx : Ctx} {cs : List Node} (h : nodesInv rc ctx cs = true) :
    ∀ c ∈ cs, nodeInv rc ctx c = true := by
  induction cs with
  | nil => intro c hc; cases hc
  | cons d rest ih =>
    rw [nodesInv_cons, Bool.and_eq_true] at h
    intro c hc
    rw [List.mem_cons] at hc
    rcases hc with rfl | hc
    · exact h.1
    · exact ih h.2 c hc

/-- Induction over a tree that satisfies the invariant: at each node its own clauses and the statement for its
    children, each in the context its parent gives it. -/
theorem nodeInv_ind {rc : RCfg} {P : Ctx → Node → Prop}
    (h : ∀ ctx k a cs, NodeFacts rc ctx k a cs → (∀ c ∈ cs, P (childCtx k) c) → P ctx (.mk k a cs)) :
    ∀ n ctx, nodeInv rc ctx n = true → P ctx n := by
  apply Node.ind
  intro k a cs ih ctx hinv
  have nf := nodeFacts hinv
  exact h ctx k a cs nf fun c hc => ih c hc _ (nodesInv_mem nf.hchildren c hc)

theorem altTexts_inert_of (e : Bool) : ∀ l : List Node, (∀ c ∈ l, inertBytes (altText e c) = true) →
    inertBytes (altTexts e l) = true
  | [], _ => rfl
  | c :: rest, h => by
    rw [altTexts_cons]
    exact inertBytes_append _ _ (h c (by simp)) (altTexts_inert_of e rest fun d hd => h d (by simp [hd]))

theorem altText_inert (rc : RCfg) (e : Bool) : ∀ n : Node, ∀ ctx, nodeInv rc ctx n = true →
    inertBytes (altText e n) = true := by
  refine nodeInv_ind (P := fun _ n => inertBytes (altText e n) = true) ?_
  intro ctx k a cs nf ih
  have hcs := altTexts_inert_of e cs ih
  cases k
  case string v raw code =>
    simp only [altText]
    unfold renderStringOut
    have hk := nf.hkind
    simp only [kindInv, Bool.or_eq_true, Bool.not_eq_true'] at hk
    split
    · rename_i hcode; rcases hk with h | h
      · rw [h] at hcode; cases hcode
      · exact h
    · split
      · exact rawWrite_inert _
      · exact write_inert _ _
  case text v soft hard raw cjk =>
    simp only [altText]
    apply inertBytes_append
    · split
      · exact rawWrite_inert _
      · exact write_inert _ _
    · split <;> decide
  all_goals (simp only [altText]; exact hcs)

theorem altTexts_inert (rc : RCfg) (e : Bool) (cs : List Node) (ctx : Ctx) (h : nodesInv rc ctx cs = true) :
    inertBytes (altTexts e cs) = true :=
  altTexts_inert_of e cs fun c hc => altText_inert rc e c ctx (nodesInv_mem h c hc)

/-! ### the share of the `<tbody>` element in a node's output -/

variable {rc : RCfg}

theorem tbodyFix_unhandled {k : Kind} (hh : handled rc.exts k = false) (next) : tbodyFix rc k next = [] := by
  simp [tbodyFix, hh]

theorem fix_nil_of_ctx {ctx : Ctx} (hctx : ctx ≠ .table) (c : Node) (h : nodeInv rc ctx c = true) (next) :
    tbodyFix rc c.kind next = [] := by
  cases c with
  | mk k a cs =>
    have hk := (nodeFacts h).hkind
    show tbodyFix rc k next = []
    cases k
    case tableHeader => simp [kindInv] at hk; exact absurd hk.1 hctx
    case tableRow => simp [kindInv] at hk; exact absurd hk.1 hctx
    all_goals simp only [tbodyFix, ite_self]

theorem fix_nil_of_noTable (h : rc.exts.table = false) (k : Kind) (next) : tbodyFix rc k next = [] := by
  cases k <;> first | (simp only [tbodyFix, ite_self]; done) | simp [tbodyFix, handled, h]

theorem kind_eq_row (k : Kind) (h : (k == .tableRow) = true) : k = .tableRow := by
  cases k <;> first | rfl | (simp at h) | cases h


/-! ### the configurations `mkRCfg` builds -/

theorem replace2_noop (a : UInt8) (rep b : Bytes) (h : a ∉ b) : replace2 a rep b = b := by
  fun_induction replace2 a rep b with
  | case1 x y rest hxy ih =>
    simp only [Bool.and_eq_true, beq_iff_eq] at hxy
    exact absurd (by simp [hxy.1]) h
  | case2 x y rest hxy ih =>
    rw [ih (fun hm => h (List.mem_cons_of_mem _ hm))]
  | case3 l _ => rfl

theorem template_noop (c : Bytes) (i n : Nat) (h1 : 94 ∉ c) (h2 : 37 ∉ c) : applyFootnoteTemplate c i n = c := by
  unfold applyFootnoteTemplate
  rw [replace2_noop 94 _ c h1, replace2_noop 37 _ c h2]

theorem cfgOK_mk (o : Opts) (e : Exts) (hsafe : o.unsafe_ = false) : CfgOK o.xhtml (mkRCfg o e) := by
  refine ⟨?_, ?_, ?_, ?_, ⟨?_, ?_, ?_, ?_⟩⟩
  · simp [mkRCfg, RCfg.propagate, HCfg.setOpts, hsafe]
  · simp [mkRCfg, RCfg.propagate, HCfg.setOpts]
  · simp [mkRCfg, RCfg.propagate, HCfg.setOpts]
  · simp [mkRCfg, RCfg.propagate, HCfg.setOpts]
  · rfl
  · intro i n
    show inertBytes (applyFootnoteTemplate (strBytes "footnote-ref") i n) = true
    rw [template_noop _ i n (by decide +kernel) (by decide +kernel)]
    decide +kernel
  · intro i n
    show inertBytes (applyFootnoteTemplate (strBytes "footnote-backref") i n) = true
    rw [template_noop _ i n (by decide +kernel) (by decide +kernel)]
    decide +kernel
  · intro i n
    show inertBytes (applyFootnoteTemplate (strBytes "&#x21a9;&#xfe0e;") i n) = true
    rw [template_noop _ i n (by decide +kernel) (by decide +kernel)]
    decide +kernel

theorem footOK_of_inv {rc : RCfg} (h : footCfgInv rc.footc = true) : FootOK rc := by
  unfold footCfgInv at h
  simp only [Bool.and_eq_true] at h
  exact ⟨h.1.1.1, fun i n => template_inert _ i n h.1.1.2, fun i n => template_inert _ i n h.1.2,
    fun i n => template_inert _ i n h.2⟩

end GM.Proof.RenderWF

namespace GM.Proof.RenderWFU
open GM GM.Spec GM.Proof.RenderWF

/-! ### one node, given a well-formed body -/

variable {x : Bool} {rc : RCfg}

theorem node_core (hc : CfgOK x rc) (ctx : Ctx) (pih : Bool) (next : Option Node) (k : Kind)
    (attrs : Option (List Attr)) (cs : List Node) (nf : NodeFacts rc ctx k attrs cs)
    {body : Bytes} (hb : WFHtmlU x body) :
    ∃ core, enter rc pih next k attrs cs ++ body ++ leave rc pih next k cs = core ++ tbodyFix rc k next ∧
      WFHtmlU x core := by
  by_cases hh' : handled rc.exts k = false
  · exact ⟨_, by rw [tbodyFix_unhandled hh', List.append_nil], wf_unhandled k hh' pih next attrs cs hb⟩
  have hh : handled rc.exts k = true := by simpa using hh'
  have plain : ∀ {k'}, k' = k → tbodyFix rc k' next = [] →
      WFHtmlU x (enter rc pih next k attrs cs ++ body ++ leave rc pih next k cs) →
      ∃ core, enter rc pih next k attrs cs ++ body ++ leave rc pih next k cs = core ++ tbodyFix rc k next ∧
        WFHtmlU x core := by
    intro k' e h1 h2; subst e
    exact ⟨_, by rw [h1, List.append_nil], h2⟩
  have hk := nf.hkind
  cases k
  case tableHeader => exact wf_tableHeader hh pih next attrs cs hb nf.hattrs
  case tableRow => exact wf_tableRow hh pih next attrs cs hb nf.hattrs
  all_goals refine plain rfl (by simp [tbodyFix]) ?_
  case document => exact wf_document pih next attrs cs hb
  case heading level =>
    simp only [kindInv, Bool.and_eq_true, decide_eq_true_eq] at hk
    exact wf_heading pih next attrs cs level hk.1 hk.2 hb nf.hattrs
  case blockquote => exact wf_blockquote pih next attrs cs hb nf.hattrs
  case codeBlock lines => exact wf_codeBlock pih next attrs cs lines hb
  case fencedCodeBlock info lines => exact wf_fencedCodeBlock pih next attrs cs info lines hb
  case htmlBlock lines closure => exact wf_htmlBlock hc pih next attrs cs lines closure hb
  case list ordered start => exact wf_list pih next attrs cs ordered start hb nf.hattrs nf.hclash
  case listItem => exact wf_listItem pih next attrs cs hb nf.hattrs
  case paragraph => exact wf_paragraph pih next attrs cs hb nf.hattrs
  case textBlock => exact wf_textBlock pih next attrs cs hb
  case thematicBreak => exact wf_thematicBreak hc pih next attrs cs hb nf.hattrs
  case autoLink email url label => exact wf_autoLink hc pih next attrs cs email url label hb nf.hattrs
  case codeSpan => exact wf_codeSpan pih next attrs cs hb nf.hattrs
  case emphasis level => exact wf_emphasis pih next attrs cs level hb nf.hattrs
  case image dest title =>
    exact wf_image hc pih next attrs cs dest title hb nf.hattrs nf.hclash (altTexts_inert rc _ cs _ nf.hchildren)
  case link dest title => exact wf_link hc pih next attrs cs dest title hb nf.hattrs nf.hclash
  case rawHTML segs => exact wf_rawHTML hc pih next attrs cs segs hb
  case text v soft hard raw cjk => exact wf_text hc pih next attrs cs v soft hard raw cjk hb
  case string v raw code =>
    refine wf_string pih next attrs cs v raw code hb ?_
    intro hcode
    simp only [kindInv, hcode, Bool.not_true, Bool.false_or] at hk
    exact hk
  case table => exact wf_table hh pih next attrs cs hb nf.hattrs
  case tableCell align => exact wf_tableCell hh pih next attrs cs align hb nf.hattrs
  case strikethrough => exact wf_strikethrough hh pih next attrs cs hb nf.hattrs
  case taskCheckBox checked => exact wf_taskCheckBox hc hh pih next attrs cs checked hb
  case definitionList => exact wf_definitionList hh pih next attrs cs hb nf.hattrs
  case definitionTerm => exact wf_definitionTerm hh pih next attrs cs hb nf.hattrs
  case definitionDescription tight => exact wf_definitionDescription hh pih next attrs cs tight hb nf.hattrs
  case footnoteLink index refCount refIndex =>
    exact wf_footnoteLink hc hh pih next attrs cs index refCount refIndex hb
  case footnoteBacklink index refCount refIndex =>
    exact wf_footnoteBacklink hc hh pih next attrs cs index refCount refIndex hb
  case footnote index => exact wf_footnote hc hh pih next attrs cs index hb nf.hattrs nf.hclash
  case footnoteList => exact wf_footnoteList hc hh pih next attrs cs hb nf.hattrs nf.hclash
  case other => exact wf_other pih next attrs cs hb

/-- the induction predicate: a node renders to a well-formed core plus its share of the `<tbody>` element -/
def NodeWF (x : Bool) (rc : RCfg) (n : Node) : Prop :=
  ∀ pih next, ∃ core, renderNode rc pih next n = core ++ tbodyFix rc n.kind next ∧ WFHtmlU x core

theorem list_plain (cs : List Node) (hP : ∀ c ∈ cs, NodeWF x rc c)
    (hfix : ∀ c ∈ cs, ∀ next, tbodyFix rc c.kind next = []) (pih : Bool) : WFHtmlU x (renderNodes rc pih cs) := by
  induction cs with
  | nil => exact .nil
  | cons c rest ih =>
    rw [renderNodes_cons]
    obtain ⟨core, e, w⟩ := hP c (by simp) pih rest.head?
    rw [e, hfix c (by simp), List.append_nil]
    exact .append _ _ w (ih (fun d hd => hP d (by simp [hd])) (fun d hd => hfix d (by simp [hd])))

theorem rows_wf (hh : rc.exts.table = true) (rows : List Node) (hP : ∀ c ∈ rows, NodeWF x rc c)
    (hrows : rows.all (fun r => r.kind == .tableRow) = true) (hne : rows ≠ []) (pih : Bool) :
    ∃ B, renderNodes rc pih rows = B ++ strBytes "</tbody>\n" ∧ WFHtmlU x B := by
  induction rows with
  | nil => exact absurd rfl hne
  | cons r rest ih =>
    rw [List.all_cons, Bool.and_eq_true] at hrows
    rw [renderNodes_cons]
    obtain ⟨core, e, w⟩ := hP r (by simp) pih rest.head?
    rw [e, kind_eq_row _ hrows.1]
    cases rest with
    | nil =>
      refine ⟨core, ?_, w⟩
      simp [tbodyFix, handled, hh, renderNodes_nil]
    | cons r' rest' =>
      obtain ⟨B, eB, wB⟩ := ih (fun d hd => hP d (by simp [hd])) hrows.2 (by simp)
      refine ⟨core ++ B, ?_, .append _ _ w wB⟩
      rw [eB]
      simp [tbodyFix, handled, hh]

theorem table_children_wf (hh : rc.exts.table = true) (cs : List Node) (hP : ∀ c ∈ cs, NodeWF x rc c)
    (hshape : tableShape cs = true) (pih : Bool) : WFHtmlU x (renderNodes rc pih cs) := by
  unfold tableShape at hshape
  split at hshape
  · rename_i a hcs rows
    rw [renderNodes_cons]
    obtain ⟨core, e, w⟩ := hP _ (List.mem_cons_self ..) pih rows.head?
    rw [e]
    cases rows with
    | nil =>
      refine (w.of_eq ?_)
      simp [tbodyFix, handled, hh, Node.kind, renderNodes_nil]
    | cons r rest =>
      obtain ⟨B, eB, wB⟩ := rows_wf hh (r :: rest) (fun d hd => hP d (by simp [hd])) hshape (by simp) pih
      rw [eB]
      have tb := wf_el (x := x) tag_tbody (sok_fixed tag_tbody (fixed := []) rfl (by simp))
        (pre := [10]) (post := [10]) (opn := strBytes "<tbody>\n") (cls := strBytes "</tbody>\n")
        (by bnorm) (by bnorm) (by decide) (by decide) wB
      refine (WFHtmlU.append _ _ w tb).of_eq ?_
      simp [tbodyFix, handled, hh, Node.kind]
  · cases hshape

theorem children_wf {ctx : Ctx} {k : Kind} {attrs : Option (List Attr)} {cs : List Node}
    (nf : NodeFacts rc ctx k attrs cs) (hP : ∀ c ∈ cs, NodeWF x rc c) (pih : Bool) :
    WFHtmlU x (renderNodes rc pih cs) := by
  by_cases ht : rc.exts.table = true
  · by_cases hk : k = .table
    · subst hk
      exact table_children_wf ht cs hP nf.hkind pih
    · have hctx : childCtx k ≠ .table := by
        cases k <;> first | (exact absurd rfl hk) | (simp [childCtx])
      exact list_plain cs hP (fun c hc next => fix_nil_of_ctx hctx c (nodesInv_mem nf.hchildren c hc) next) pih
  · have ht' : rc.exts.table = false := by simpa using ht
    exact list_plain cs hP (fun c _ next => fix_nil_of_noTable ht' _ next) pih

theorem node_wf (hc : CfgOK x rc) : ∀ n ctx, nodeInv rc ctx n = true → NodeWF x rc n := by
  refine nodeInv_ind (P := fun _ n => NodeWF x rc n) ?_
  intro ctx k a cs nf ih pih next
  rw [renderNode_mk]
  have hb : WFHtmlU x (if (handled rc.exts k && skipsChildren k) = true then []
      else renderNodes rc k.isTableHeader cs) := by
    split
    · exact .nil
    · exact children_wf nf ih _
  exact node_core hc ctx pih next k a cs nf hb

/-- Appendix E step 1 for an arbitrary renderer state in safe mode with consistent XHTML flags. -/
theorem render_wf_cfg (hc : CfgOK x rc) (t : Node) (hinv : nodeInv rc .any t = true) : WFHtmlU x (render rc t) := by
  obtain ⟨core, e, w⟩ := node_wf hc t .any hinv false none
  unfold render
  rw [e, fix_nil_of_ctx (by decide) t hinv, List.append_nil]
  exact w

/-- Appendix E step 1 for any renderer state in safe mode whose copies of the XHTML flag agree (this covers
    non-default footnote options, as long as the configured strings are inert — part of `Inv`). -/
theorem render_wf_rc (x : Bool) (rc : RCfg) (hsafe : rc.core.unsafe_ = false) (hcore : rc.core.xhtml = x)
    (htask : rc.task.xhtml = x) (hfoot : rc.foot.xhtml = x) (t : Node) (hinv : Spec.Inv rc t = true) :
    WFHtmlU x (render rc t) := by
  unfold Spec.Inv at hinv
  rw [Bool.and_eq_true] at hinv
  exact render_wf_cfg ⟨hsafe, hcore, htask, hfoot, footOK_of_inv hinv.2⟩ t hinv.1

/-- Appendix E step 1: in safe mode, under the tree invariant, the renderer's output is in the grammar. -/
theorem render_wf (o : Opts) (e : Exts) (t : Node) (hsafe : o.unsafe_ = false)
    (hinv : Spec.Inv (mkRCfg o e) t = true) : WFHtmlU o.xhtml (render (mkRCfg o e) t) := by
  unfold Spec.Inv at hinv
  rw [Bool.and_eq_true] at hinv
  exact render_wf_cfg (cfgOK_mk o e hsafe) t hinv.1

end GM.Proof.RenderWFU

namespace GM.Proof.RenderWF
open GM GM.Spec

/-! ### the same in the grammar `WFHtml` -/

theorem render_wf_rc (x : Bool) (rc : RCfg) (hsafe : rc.core.unsafe_ = false) (hcore : rc.core.xhtml = x)
    (htask : rc.task.xhtml = x) (hfoot : rc.foot.xhtml = x) (t : Node) (hinv : Spec.Inv rc t = true) :
    WFHtml x (render rc t) :=
  (RenderWFU.render_wf_rc x rc hsafe hcore htask hfoot t hinv).toWF

theorem render_wf (o : Opts) (e : Exts) (t : Node) (hsafe : o.unsafe_ = false)
    (hinv : Spec.Inv (mkRCfg o e) t = true) : WFHtml o.xhtml (render (mkRCfg o e) t) :=
  (RenderWFU.render_wf o e t hsafe hinv).toWF

end GM.Proof.RenderWF
end Main

section NoPanic

namespace GM.Proof.RenderWF
open GM GM.Spec

theorem renderPanicsNode_mk (rc k attrs cs) : renderPanicsNode rc (.mk k attrs cs) =
    (match nodePanic rc k attrs cs with
     | some p => some p
     | none => if handled rc.exts k && skipsChildren k then none else renderPanicsNodes rc cs) := rfl

theorem renderPanicsNodes_cons (rc c rest) : renderPanicsNodes rc (c :: rest) =
    (match renderPanicsNode rc c with
     | some p => some p
     | none => renderPanicsNodes rc rest) := rfl

theorem nodePanic_none {rc ctx k attrs cs} (nf : NodeFacts rc ctx k attrs cs) : nodePanic rc k attrs cs = none := by
  have hk := nf.hkind
  by_cases hh : handled rc.exts k = true
  · cases k
    case heading level =>
      simp only [kindInv, Bool.and_eq_true, decide_eq_true_eq] at hk
      have : ¬ level > 6 := by omega
      simp [nodePanic, this]
    case codeSpan =>
      simp only [kindInv] at hk
      simp [nodePanic, hk]
    case tableCell align =>
      simp only [kindInv, Bool.and_eq_true] at hk
      have := hk.2
      cases hp : nodePanic rc (.tableCell align) attrs cs with
      | none => rfl
      | some p => rw [hp] at this; cases this
    all_goals simp [nodePanic]
  · unfold nodePanic
    simp [hh]

theorem renderPanicsNodes_none (rc : RCfg) : ∀ l : List Node, (∀ c ∈ l, renderPanicsNode rc c = none) →
    renderPanicsNodes rc l = none
  | [], _ => rfl
  | c :: rest, h => by
    rw [renderPanicsNodes_cons, h c (by simp)]
    exact renderPanicsNodes_none rc rest fun d hd => h d (by simp [hd])

theorem noPanic_node (rc : RCfg) : ∀ n : Node, ∀ ctx, nodeInv rc ctx n = true → renderPanicsNode rc n = none := by
  refine nodeInv_ind (P := fun _ n => renderPanicsNode rc n = none) ?_
  intro ctx k a cs nf ih
  rw [renderPanicsNode_mk, nodePanic_none nf]
  simp only
  split
  · rfl
  · exact renderPanicsNodes_none rc cs ih

theorem inv_noPanic (rc : RCfg) (t : Node) (hinv : Spec.Inv rc t = true) : renderPanics rc t = none := by
  unfold Spec.Inv at hinv
  rw [Bool.and_eq_true] at hinv
  exact noPanic_node rc t .any hinv.1

theorem propagation_complete (o : Opts) (e : Exts) :
    (mkRCfg o e).core = ({} : HCfg).setOpts o ∧ (mkRCfg o e).task = ({} : HCfg).setOpts o ∧
    (mkRCfg o e).strike = ({} : HCfg).setOpts o ∧ (mkRCfg o e).dl = ({} : HCfg).setOpts o ∧
    (mkRCfg o e).foot = ({} : HCfg).setOpts o ∧ (mkRCfg o e).table = ({} : HCfg).setOpts o :=
  ⟨rfl, rfl, rfl, rfl, rfl, rfl⟩

end GM.Proof.RenderWF
end NoPanic
