/-
  GM.Proof.RenderWF.Consts — explicit byte lists of the string constants of the renderer model (the literals of
  GM/Model/Render.lean; each checked by the kernel), and the normalisation tactic `bnorm` used to compare byte expressions.
-/
import GM.Proof.RenderWF.Grammar

namespace GM.Proof.RenderWF
open GM

theorem sb_0 : strBytes " /> " = [32, 47, 62, 32] := by decide +kernel
theorem sb_1 : strBytes " />" = [32, 47, 62] := by decide +kernel
theorem sb_2 : strBytes " />\n" = [32, 47, 62, 10] := by decide +kernel
theorem sb_3 : strBytes " align=\"" = [32, 97, 108, 105, 103, 110, 61, 34] := by decide +kernel
theorem sb_4 : strBytes " class=\"language-" = [32, 99, 108, 97, 115, 115, 61, 34, 108, 97, 110, 103, 117, 97, 103, 101, 45] := by decide +kernel
theorem sb_5 : strBytes " start=\"" = [32, 115, 116, 97, 114, 116, 61, 34] := by decide +kernel
theorem sb_6 : strBytes " title=\"" = [32, 116, 105, 116, 108, 101, 61, 34] := by decide +kernel
theorem sb_7 : strBytes "&#160;<a href=\"#" = [38, 35, 49, 54, 48, 59, 60, 97, 32, 104, 114, 101, 102, 61, 34, 35] := by decide +kernel
theorem sb_8 : strBytes "&#x21a9;&#xfe0e;" = [38, 35, 120, 50, 49, 97, 57, 59, 38, 35, 120, 102, 101, 48, 101, 59] := by decide +kernel
theorem sb_9 : strBytes "<!-- raw HTML omitted -->" = [60, 33, 45, 45, 32, 114, 97, 119, 32, 72, 84, 77, 76, 32, 111, 109, 105, 116, 116, 101, 100, 32, 45, 45, 62] := by decide +kernel
theorem sb_10 : strBytes "</" = [60, 47] := by decide +kernel
theorem sb_11 : strBytes "</a>" = [60, 47, 97, 62] := by decide +kernel
theorem sb_12 : strBytes "</a></sup>" = [60, 47, 97, 62, 60, 47, 115, 117, 112, 62] := by decide +kernel
theorem sb_13 : strBytes "</blockquote>\n" = [60, 47, 98, 108, 111, 99, 107, 113, 117, 111, 116, 101, 62, 10] := by decide +kernel
theorem sb_14 : strBytes "</code>" = [60, 47, 99, 111, 100, 101, 62] := by decide +kernel
theorem sb_15 : strBytes "</code></pre>\n" = [60, 47, 99, 111, 100, 101, 62, 60, 47, 112, 114, 101, 62, 10] := by decide +kernel
theorem sb_16 : strBytes "</dd>\n" = [60, 47, 100, 100, 62, 10] := by decide +kernel
theorem sb_17 : strBytes "</del>" = [60, 47, 100, 101, 108, 62] := by decide +kernel
theorem sb_18 : strBytes "</dl>\n" = [60, 47, 100, 108, 62, 10] := by decide +kernel
theorem sb_19 : strBytes "</dt>\n" = [60, 47, 100, 116, 62, 10] := by decide +kernel
theorem sb_20 : strBytes "</h" = [60, 47, 104] := by decide +kernel
theorem sb_21 : strBytes "</li>\n" = [60, 47, 108, 105, 62, 10] := by decide +kernel
theorem sb_22 : strBytes "</ol>\n</div>\n" = [60, 47, 111, 108, 62, 10, 60, 47, 100, 105, 118, 62, 10] := by decide +kernel
theorem sb_23 : strBytes "</p>\n" = [60, 47, 112, 62, 10] := by decide +kernel
theorem sb_24 : strBytes "</table>\n" = [60, 47, 116, 97, 98, 108, 101, 62, 10] := by decide +kernel
theorem sb_25 : strBytes "</tbody>\n" = [60, 47, 116, 98, 111, 100, 121, 62, 10] := by decide +kernel
theorem sb_26 : strBytes "</tr>\n" = [60, 47, 116, 114, 62, 10] := by decide +kernel
theorem sb_27 : strBytes "</tr>\n</thead>\n" = [60, 47, 116, 114, 62, 10, 60, 47, 116, 104, 101, 97, 100, 62, 10] := by decide +kernel
theorem sb_28 : strBytes "<a href=\"" = [60, 97, 32, 104, 114, 101, 102, 61, 34] := by decide +kernel
theorem sb_29 : strBytes "<br />\n" = [60, 98, 114, 32, 47, 62, 10] := by decide +kernel
theorem sb_30 : strBytes "<br>\n" = [60, 98, 114, 62, 10] := by decide +kernel
theorem sb_31 : strBytes "<dd" = [60, 100, 100] := by decide +kernel
theorem sb_32 : strBytes "<div class=\"footnotes\" role=\"doc-endnotes\"" = [60, 100, 105, 118, 32, 99, 108, 97, 115, 115, 61, 34, 102, 111, 111, 116, 110, 111, 116, 101, 115, 34, 32, 114, 111, 108, 101, 61, 34, 100, 111, 99, 45, 101, 110, 100, 110, 111, 116, 101, 115, 34] := by decide +kernel
theorem sb_33 : strBytes "<h" = [60, 104] := by decide +kernel
theorem sb_34 : strBytes "<hr" = [60, 104, 114] := by decide +kernel
theorem sb_35 : strBytes "<img src=\"" = [60, 105, 109, 103, 32, 115, 114, 99, 61, 34] := by decide +kernel
theorem sb_36 : strBytes "<input checked=\"\" disabled=\"\" type=\"checkbox\"" = [60, 105, 110, 112, 117, 116, 32, 99, 104, 101, 99, 107, 101, 100, 61, 34, 34, 32, 100, 105, 115, 97, 98, 108, 101, 100, 61, 34, 34, 32, 116, 121, 112, 101, 61, 34, 99, 104, 101, 99, 107, 98, 111, 120, 34] := by decide +kernel
theorem sb_37 : strBytes "<input disabled=\"\" type=\"checkbox\"" = [60, 105, 110, 112, 117, 116, 32, 100, 105, 115, 97, 98, 108, 101, 100, 61, 34, 34, 32, 116, 121, 112, 101, 61, 34, 99, 104, 101, 99, 107, 98, 111, 120, 34] := by decide +kernel
theorem sb_38 : strBytes "<li id=\"" = [60, 108, 105, 32, 105, 100, 61, 34] := by decide +kernel
theorem sb_39 : strBytes "<ol>\n" = [60, 111, 108, 62, 10] := by decide +kernel
theorem sb_40 : strBytes "<pre><code" = [60, 112, 114, 101, 62, 60, 99, 111, 100, 101] := by decide +kernel
theorem sb_41 : strBytes "<pre><code>" = [60, 112, 114, 101, 62, 60, 99, 111, 100, 101, 62] := by decide +kernel
theorem sb_42 : strBytes "<sup id=\"" = [60, 115, 117, 112, 32, 105, 100, 61, 34] := by decide +kernel
theorem sb_43 : strBytes "<table" = [60, 116, 97, 98, 108, 101] := by decide +kernel
theorem sb_44 : strBytes "<tbody>\n" = [60, 116, 98, 111, 100, 121, 62, 10] := by decide +kernel
theorem sb_45 : strBytes "<thead" = [60, 116, 104, 101, 97, 100] := by decide +kernel
theorem sb_46 : strBytes "<tr" = [60, 116, 114] := by decide +kernel
theorem sb_47 : strBytes "> " = [62, 32] := by decide +kernel
theorem sb_48 : strBytes ">\n" = [62, 10] := by decide +kernel
theorem sb_49 : strBytes ">\n<tr>\n" = [62, 10, 60, 116, 114, 62, 10] := by decide +kernel
theorem sb_50 : strBytes "\" alt=\"" = [34, 32, 97, 108, 116, 61, 34] := by decide +kernel
theorem sb_51 : strBytes "\" class=\"" = [34, 32, 99, 108, 97, 115, 115, 61, 34] := by decide +kernel
theorem sb_52 : strBytes "\" role=\"doc-backlink\">" = [34, 32, 114, 111, 108, 101, 61, 34, 100, 111, 99, 45, 98, 97, 99, 107, 108, 105, 110, 107, 34, 62] := by decide +kernel
theorem sb_53 : strBytes "\" role=\"doc-noteref\">" = [34, 32, 114, 111, 108, 101, 61, 34, 100, 111, 99, 45, 110, 111, 116, 101, 114, 101, 102, 34, 62] := by decide +kernel
theorem sb_54 : strBytes "\" title=\"" = [34, 32, 116, 105, 116, 108, 101, 61, 34] := by decide +kernel
theorem sb_55 : strBytes "\"><a href=\"#" = [34, 62, 60, 97, 32, 104, 114, 101, 102, 61, 34, 35] := by decide +kernel
theorem sb_56 : strBytes "\n<hr />\n" = [10, 60, 104, 114, 32, 47, 62, 10] := by decide +kernel
theorem sb_57 : strBytes "\n<hr>\n" = [10, 60, 104, 114, 62, 10] := by decide +kernel
theorem sb_58 : strBytes "align" = [97, 108, 105, 103, 110] := by decide +kernel
theorem sb_59 : strBytes "blockquote" = [98, 108, 111, 99, 107, 113, 117, 111, 116, 101] := by decide +kernel
theorem sb_60 : strBytes "center" = [99, 101, 110, 116, 101, 114] := by decide +kernel
theorem sb_61 : strBytes "code" = [99, 111, 100, 101] := by decide +kernel
theorem sb_62 : strBytes "del" = [100, 101, 108] := by decide +kernel
theorem sb_63 : strBytes "dl" = [100, 108] := by decide +kernel
theorem sb_64 : strBytes "dt" = [100, 116] := by decide +kernel
theorem sb_65 : strBytes "em" = [101, 109] := by decide +kernel
theorem sb_66 : strBytes "fn:" = [102, 110, 58] := by decide +kernel
theorem sb_67 : strBytes "fnref" = [102, 110, 114, 101, 102] := by decide +kernel
theorem sb_68 : strBytes "footnote-backref" = [102, 111, 111, 116, 110, 111, 116, 101, 45, 98, 97, 99, 107, 114, 101, 102] := by decide +kernel
theorem sb_69 : strBytes "footnote-ref" = [102, 111, 111, 116, 110, 111, 116, 101, 45, 114, 101, 102] := by decide +kernel
theorem sb_70 : strBytes "left" = [108, 101, 102, 116] := by decide +kernel
theorem sb_71 : strBytes "li" = [108, 105] := by decide +kernel
theorem sb_72 : strBytes "mailto:" = [109, 97, 105, 108, 116, 111, 58] := by decide +kernel
theorem sb_73 : strBytes "none" = [110, 111, 110, 101] := by decide +kernel
theorem sb_74 : strBytes "ol" = [111, 108] := by decide +kernel
theorem sb_75 : strBytes "p" = [112] := by decide +kernel
theorem sb_76 : strBytes "right" = [114, 105, 103, 104, 116] := by decide +kernel
theorem sb_77 : strBytes "strong" = [115, 116, 114, 111, 110, 103] := by decide +kernel
theorem sb_78 : strBytes "style" = [115, 116, 121, 108, 101] := by decide +kernel
theorem sb_79 : strBytes "td" = [116, 100] := by decide +kernel
theorem sb_80 : strBytes "text-align:" = [116, 101, 120, 116, 45, 97, 108, 105, 103, 110, 58] := by decide +kernel
theorem sb_81 : strBytes "th" = [116, 104] := by decide +kernel
theorem sb_82 : strBytes "ul" = [117, 108] := by decide +kernel
theorem sb_83 : strBytes "h1" = [104, 49] := by decide +kernel
theorem sb_84 : strBytes "h2" = [104, 50] := by decide +kernel
theorem sb_85 : strBytes "h3" = [104, 51] := by decide +kernel
theorem sb_86 : strBytes "h4" = [104, 52] := by decide +kernel
theorem sb_87 : strBytes "h5" = [104, 53] := by decide +kernel
theorem sb_88 : strBytes "h6" = [104, 54] := by decide +kernel
theorem sb_89 : strBytes "pre" = [112, 114, 101] := by decide +kernel
theorem sb_90 : strBytes "hr" = [104, 114] := by decide +kernel
theorem sb_91 : strBytes "a" = [97] := by decide +kernel
theorem sb_92 : strBytes "img" = [105, 109, 103] := by decide +kernel
theorem sb_93 : strBytes "br" = [98, 114] := by decide +kernel
theorem sb_94 : strBytes "table" = [116, 97, 98, 108, 101] := by decide +kernel
theorem sb_95 : strBytes "thead" = [116, 104, 101, 97, 100] := by decide +kernel
theorem sb_96 : strBytes "tbody" = [116, 98, 111, 100, 121] := by decide +kernel
theorem sb_97 : strBytes "tr" = [116, 114] := by decide +kernel
theorem sb_98 : strBytes "input" = [105, 110, 112, 117, 116] := by decide +kernel
theorem sb_99 : strBytes "dd" = [100, 100] := by decide +kernel
theorem sb_100 : strBytes "sup" = [115, 117, 112] := by decide +kernel
theorem sb_101 : strBytes "div" = [100, 105, 118] := by decide +kernel
theorem sb_102 : strBytes "class" = [99, 108, 97, 115, 115] := by decide +kernel
theorem sb_103 : strBytes "start" = [115, 116, 97, 114, 116] := by decide +kernel
theorem sb_104 : strBytes "id" = [105, 100] := by decide +kernel
theorem sb_105 : strBytes "href" = [104, 114, 101, 102] := by decide +kernel
theorem sb_106 : strBytes "title" = [116, 105, 116, 108, 101] := by decide +kernel
theorem sb_107 : strBytes "role" = [114, 111, 108, 101] := by decide +kernel
theorem sb_108 : strBytes "src" = [115, 114, 99] := by decide +kernel
theorem sb_109 : strBytes "alt" = [97, 108, 116] := by decide +kernel
theorem sb_110 : strBytes "checked" = [99, 104, 101, 99, 107, 101, 100] := by decide +kernel
theorem sb_111 : strBytes "disabled" = [100, 105, 115, 97, 98, 108, 101, 100] := by decide +kernel
theorem sb_112 : strBytes "type" = [116, 121, 112, 101] := by decide +kernel
theorem sb_113 : strBytes "data-" = [100, 97, 116, 97, 45] := by decide +kernel

theorem omitted_eq : omitted = Spec.placeholder := rfl
theorem sb_eq (s : String) : Spec.sb s = strBytes s := rfl

/-- normalise a byte expression: constants to explicit lists, appends to the right -/
macro "bnorm" : tactic => `(tactic| simp only [sb_eq, serAttrs, serAttrs_append, sb_0, sb_1, sb_2, sb_3, sb_4, sb_5, sb_6, sb_7, sb_8, sb_9, sb_10, sb_11, sb_12, sb_13, sb_14, sb_15, sb_16, sb_17, sb_18, sb_19, sb_20, sb_21, sb_22, sb_23, sb_24, sb_25, sb_26, sb_27, sb_28, sb_29, sb_30, sb_31, sb_32, sb_33, sb_34, sb_35, sb_36, sb_37, sb_38, sb_39, sb_40, sb_41, sb_42, sb_43, sb_44, sb_45, sb_46, sb_47, sb_48, sb_49, sb_50, sb_51, sb_52, sb_53, sb_54, sb_55, sb_56, sb_57, sb_58, sb_59, sb_60, sb_61, sb_62, sb_63, sb_64, sb_65, sb_66, sb_67, sb_68, sb_69, sb_70, sb_71, sb_72, sb_73, sb_74, sb_75, sb_76, sb_77, sb_78, sb_79, sb_80, sb_81, sb_82, sb_83, sb_84, sb_85, sb_86, sb_87, sb_88, sb_89, sb_90, sb_91, sb_92, sb_93, sb_94, sb_95, sb_96, sb_97, sb_98, sb_99, sb_100, sb_101, sb_102, sb_103, sb_104, sb_105, sb_106, sb_107, sb_108, sb_109, sb_110, sb_111, sb_112, sb_113,
  List.append_assoc, List.cons_append, List.nil_append, List.append_nil, Bool.false_eq_true, ↓reduceIte])
macro "bnorm" " at " h:ident : tactic => `(tactic| simp only [sb_eq, serAttrs, serAttrs_append, sb_0, sb_1, sb_2, sb_3, sb_4, sb_5, sb_6, sb_7, sb_8, sb_9, sb_10, sb_11, sb_12, sb_13, sb_14, sb_15, sb_16, sb_17, sb_18, sb_19, sb_20, sb_21, sb_22, sb_23, sb_24, sb_25, sb_26, sb_27, sb_28, sb_29, sb_30, sb_31, sb_32, sb_33, sb_34, sb_35, sb_36, sb_37, sb_38, sb_39, sb_40, sb_41, sb_42, sb_43, sb_44, sb_45, sb_46, sb_47, sb_48, sb_49, sb_50, sb_51, sb_52, sb_53, sb_54, sb_55, sb_56, sb_57, sb_58, sb_59, sb_60, sb_61, sb_62, sb_63, sb_64, sb_65, sb_66, sb_67, sb_68, sb_69, sb_70, sb_71, sb_72, sb_73, sb_74, sb_75, sb_76, sb_77, sb_78, sb_79, sb_80, sb_81, sb_82, sb_83, sb_84, sb_85, sb_86, sb_87, sb_88, sb_89, sb_90, sb_91, sb_92, sb_93, sb_94, sb_95, sb_96, sb_97, sb_98, sb_99, sb_100, sb_101, sb_102, sb_103, sb_104, sb_105, sb_106, sb_107, sb_108, sb_109, sb_110, sb_111, sb_112, sb_113,
  List.append_assoc, List.cons_append, List.nil_append, List.append_nil, Bool.false_eq_true, ↓reduceIte] at $h:ident)

end GM.Proof.RenderWF
