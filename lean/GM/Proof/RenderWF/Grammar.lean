/-
  GM.Proof.RenderWF.Grammar — the inductive grammar `WFHtml` of inert, well-nested, in-vocabulary markup
  (Appendix E, step 1), the side conditions of a start tag (`StartOK`), and how `renderAttrList` produces
  attribute syntax for the allowed subset of a node's attributes.
-/
import GM.Proof.RenderWF.Inert
import GM.Spec.Vocab

namespace GM.Proof.RenderWF
open GM GM.Spec

/-! ### `eraseDups` versus `Nodup` -/

theorem eraseDups_length_le {α} [BEq α] [LawfulBEq α] (l : List α) : l.eraseDups.length ≤ l.length := by
  generalize hn : l.length = n
  induction n using Nat.strongRecOn generalizing l with
  | _ n ih =>
    cases l with
    | nil => simp
    | cons a as =>
      rw [List.eraseDups_cons]
      simp only [List.length_cons] at hn ⊢
      have h1 : (as.filter (fun b => !b == a)).length ≤ as.length := List.length_filter_le _ _
      have := ih (as.filter (fun b => !b == a)).length (by omega) _ rfl
      omega

theorem nodup_of_eraseDups_length {α} [BEq α] [LawfulBEq α] (l : List α) (h : l.eraseDups.length = l.length) :
    l.Nodup := by
  generalize hn : l.length = n
  induction n using Nat.strongRecOn generalizing l with
  | _ n ih =>
    cases l with
    | nil => simp
    | cons a as =>
      rw [List.eraseDups_cons] at h
      simp only [List.length_cons] at hn h
      have h1 : (as.filter (fun b => !b == a)).length ≤ as.length := List.length_filter_le _ _
      have h2 := eraseDups_length_le (as.filter (fun b => !b == a))
      have h3 : (as.filter (fun b => !b == a)).length = as.length := by omega
      have h4 : as.filter (fun b => !b == a) = as := by
        exact List.filter_eq_self.mpr (List.length_filter_eq_length_iff.mp h3)
      rw [h4] at h
      have hnd := ih as.length (by omega) as (by omega) rfl
      rw [List.nodup_cons]
      refine ⟨?_, hnd⟩
      intro hmem
      have := List.length_filter_eq_length_iff.mp h3 a hmem
      simp at this

theorem eraseDups_of_nodup {α} [BEq α] [LawfulBEq α] (l : List α) (h : l.Nodup) : l.eraseDups = l := by
  induction l with
  | nil => simp
  | cons a as ih =>
    rw [List.nodup_cons] at h
    rw [List.eraseDups_cons]
    have : as.filter (fun b => !b == a) = as := by
      rw [List.filter_eq_self]
      intro b hb
      have : b ≠ a := by rintro rfl; exact h.1 hb
      simp [this]
    rw [this, ih h.2]

/-- ` name="value"` for each attribute -/
def serAttrs : List (Bytes × Bytes) → Bytes
  | [] => []
  | a :: as => [32] ++ a.1 ++ [61, 34] ++ a.2 ++ [34] ++ serAttrs as

theorem serAttrs_append (a b : List (Bytes × Bytes)) : serAttrs (a ++ b) = serAttrs a ++ serAttrs b := by
  induction a with
  | nil => rfl
  | cons x a ih => simp [serAttrs, ih]

/-- a tag name the strict tokenizer reads back: `[a-z0-9]+` -/
def tagNameOK (n : Bytes) : Bool := !n.isEmpty && n.all isTagNameB

/-- an attribute: lexically valid name, inert value -/
def attrOK (a : Bytes × Bytes) : Bool := attrNameOK a.1 && inertBytes a.2

/-- side conditions of a start tag `<n as…>`: the tag is in the vocabulary, every attribute name is allowed
    for that tag (or `data-*`) and lexically valid, values are inert, no name occurs twice -/
structure StartOK (n : Bytes) (as : List (Bytes × Bytes)) : Prop where
  name : tagNameOK n = true
  vocab : vocabTok allowedAttrs (.startTag n as false) = true
  attrs : as.all attrOK = true
  nodup : (as.map (·.1)).Nodup

/-- the output language of the safe-mode renderer -/
inductive WFHtml (x : Bool) : Bytes → Prop
  | nil : WFHtml x []
  | text (b : Bytes) : inertBytes b = true → WFHtml x b
  | comment : WFHtml x placeholder
  | void (n : Bytes) (as : List (Bytes × Bytes)) : voidTags.contains n = true → StartOK n as →
      WFHtml x ([60] ++ n ++ serAttrs as ++ (if x then [32, 47, 62] else [62]))
  | elem (n : Bytes) (as : List (Bytes × Bytes)) (body : Bytes) : voidTags.contains n = false → StartOK n as →
      WFHtml x body → WFHtml x ([60] ++ n ++ serAttrs as ++ [62] ++ body ++ [60, 47] ++ n ++ [62])
  | append (a b : Bytes) : WFHtml x a → WFHtml x b → WFHtml x (a ++ b)

/-! ### the node's own attributes -/

def nameAllowed (filter : List Bytes) (n : Bytes) : Bool :=
  filter.contains n || hasBytesPrefix n Gen.dataPrefix

def attrAllowed (filter : List Bytes) (a : Attr) : Bool := nameAllowed filter a.name

/-- the attributes `RenderAttributes` lets through, with their escaped values -/
def userAttrs (filter : List Bytes) (as : List Attr) : List (Bytes × Bytes) :=
  (as.filter (attrAllowed filter)).map fun a => (a.name, escapeHTML (a.value.getD []))

def userAttrsO (filter : List Bytes) : Option (List Attr) → List (Bytes × Bytes)
  | none => []
  | some as => userAttrs filter as

theorem renderAttrList_eq (filter : List Bytes) (as : List Attr) :
    renderAttrList filter as = serAttrs (userAttrs filter as) := by
  induction as with
  | nil => rfl
  | cons a as ih =>
    unfold renderAttrList at ih ⊢
    rw [List.flatMap_cons, ih]
    unfold renderAttr userAttrs
    by_cases h : attrAllowed filter a = true
    · have h' := h; unfold attrAllowed nameAllowed at h'
      rw [if_pos h', List.filter_cons_of_pos h]
      simp [serAttrs]
    · have h' := h; unfold attrAllowed nameAllowed at h'
      rw [if_neg h', List.filter_cons_of_neg h]
      simp

theorem renderAttrs_eq (filter : List Bytes) (attrs : Option (List Attr)) :
    renderAttrs filter attrs = serAttrs (userAttrsO filter attrs) := by
  cases attrs with
  | none => rfl
  | some as => exact renderAttrList_eq filter as

/-- `openTag` with the attributes as `renderAttrs` writes them -/
theorem openTag_render (tag : Bytes) (filter : List Bytes) (attrs : Option (List Attr)) (sa sp : Bytes) :
    openTag tag filter attrs sa sp =
      [60] ++ tag ++ renderAttrs filter attrs ++ ([62] ++ match attrs with | some _ => sa | none => sp) := by
  cases attrs <;> simp [openTag, renderAttrs]

theorem openTag_same (tag : Bytes) (filter : List Bytes) (attrs : Option (List Attr)) (s : Bytes) :
    openTag tag filter attrs s s = [60] ++ tag ++ renderAttrs filter attrs ++ ([62] ++ s) := by
  cases attrs <;> simp [openTag, renderAttrs]

theorem openTag_same_append (tag : Bytes) (filter : List Bytes) (attrs : Option (List Attr)) (s t : Bytes) :
    openTag tag filter attrs s s ++ t = [60] ++ tag ++ renderAttrs filter attrs ++ ([62] ++ (s ++ t)) := by
  rw [openTag_same]; simp only [List.append_assoc]

/-- The document node writes nothing of its own. (Stated in this file, ahead of the per-kind lemmas of Kinds: they all
    unfold `enter` / `leave` at a concrete kind, and the equations Lean generates for that are then made once, here,
    instead of by each of them.) -/
theorem enter_document (rc pih next attrs cs) : enter rc pih next .document attrs cs = [] := by
  simp only [enter, handled, Bool.not_true, Bool.false_eq_true, ↓reduceIte]

theorem leave_document (rc pih next cs) : leave rc pih next .document cs = [] := by
  simp only [leave, handled, Bool.not_true, Bool.false_eq_true, ↓reduceIte]

theorem dataPrefix_eq : strBytes "data-" = Gen.dataPrefix := by decide +kernel

theorem attrsInv_some {as : List Attr} (h : attrsInv (some as) = true) :
    (∀ a ∈ as, attrNameOK a.name = true) ∧ (as.map (·.name)).Nodup := by
  unfold attrsInv at h
  simp only [Bool.and_eq_true, List.all_eq_true, beq_iff_eq] at h
  refine ⟨h.1, nodup_of_eraseDups_length _ ?_⟩
  rw [h.2, List.length_map]

theorem userAttrs_names_sublist (filter : List Bytes) (as : List Attr) :
    ((userAttrs filter as).map (·.1)).Sublist (as.map (·.name)) := by
  unfold userAttrs
  rw [List.map_map]
  exact (List.filter_sublist (l := as)).map _

theorem userAttrs_mem {filter : List Bytes} {as : List Attr} {p : Bytes × Bytes} (h : p ∈ userAttrs filter as) :
    ∃ a ∈ as, attrAllowed filter a = true ∧ p = (a.name, escapeHTML (a.value.getD [])) := by
  unfold userAttrs at h
  rw [List.mem_map] at h
  obtain ⟨a, ha, rfl⟩ := h
  rw [List.mem_filter] at ha
  exact ⟨a, ha.1, ha.2, rfl⟩

/-- A start tag made of fixed attributes followed by the allowed subset of the node's attributes. -/
theorem startOK_intro {n : Bytes} {names filter : List Bytes} {fixed : List (Bytes × Bytes)}
    {attrs : Option (List Attr)}
    (hn : tagNameOK n = true) (hal : allowedAttrs n = some names)
    (hsub : ∀ f ∈ filter, names.contains f = true)
    (hfix : fixed.all (fun a => names.contains a.1 && attrOK a) = true)
    (hfixnd : (fixed.map (·.1)).Nodup)
    (hinv : attrsInv attrs = true)
    (hclash : ∀ nm ∈ fixed.map (·.1),
      nameAllowed filter nm = false ∨ ∀ as, attrs = some as → ∀ a ∈ as, a.name ≠ nm) :
    StartOK n (fixed ++ userAttrsO filter attrs) := by
  have huser : ∀ p ∈ userAttrsO filter attrs,
      (names.contains p.1 || startsWith (strBytes "data-") p.1) = true ∧ attrOK p = true ∧
      p.1 ∉ fixed.map (·.1) := by
    intro p hp
    cases attrs with
    | none => simp [userAttrsO] at hp
    | some as =>
      obtain ⟨a, ha, hall, rfl⟩ := userAttrs_mem hp
      refine ⟨?_, ?_, ?_⟩
      rotate_left 2
      · intro hmem
        rcases hclash _ hmem with h | h
        · unfold attrAllowed at hall; rw [hall] at h; cases h
        · exact h as rfl a ha rfl
      · unfold attrAllowed nameAllowed at hall
        rw [Bool.or_eq_true] at hall ⊢
        rcases hall with h | h
        · exact Or.inl (hsub _ (List.contains_iff_mem.mp h))
        · right; unfold startsWith; rw [dataPrefix_eq]; exact h
      · unfold attrOK
        rw [Bool.and_eq_true]
        exact ⟨(attrsInv_some hinv).1 a ha, escapeHTML_inert _⟩
  rw [List.all_eq_true] at hfix
  constructor
  · exact hn
  · unfold vocabTok
    simp only [hal]
    rw [List.all_eq_true]
    intro p hp
    rw [List.mem_append] at hp
    rcases hp with hp | hp
    · have := hfix p hp
      rw [Bool.and_eq_true] at this
      rw [this.1]; rfl
    · exact (huser p hp).1
  · rw [List.all_eq_true]
    intro p hp
    rw [List.mem_append] at hp
    rcases hp with hp | hp
    · have := hfix p hp
      rw [Bool.and_eq_true] at this
      exact this.2
    · exact (huser p hp).2.1
  · rw [List.map_append, List.nodup_append]
    refine ⟨hfixnd, ?_, ?_⟩
    · cases attrs with
      | none => simp [userAttrsO]
      | some as => exact (attrsInv_some hinv).2.sublist (userAttrs_names_sublist filter as)
    · intro a ha b hb hab
      subst hab
      rw [List.mem_map] at hb
      obtain ⟨p, hp, rfl⟩ := hb
      exact (huser p hp).2.2 ha

end GM.Proof.RenderWF
