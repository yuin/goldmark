/-
  GM.Proof.RenderWF.Template — extension.applyFootnoteTemplate (replace `^^` and `%%` by decimal numbers)
  preserves inertness: the replaced bytes cannot occur inside a character reference and the inserted digits
  cannot start one.
-/
import GM.Proof.RenderWF.Inert

namespace GM.Proof.RenderWF
open GM GM.Spec

/-! ### the shape of a character reference after `&` -/

theorem mem_takeWhile_sat (p : UInt8 → Bool) (s : Bytes) : ∀ c ∈ s.takeWhile p, p c = true := by
  induction s with
  | nil => intro c hc; cases hc
  | cons d s ih =>
    intro c hc
    by_cases hd : p d = true
    · rw [List.takeWhile_cons_of_pos hd, List.mem_cons] at hc
      rcases hc with rfl | hc
      · exact hd
      · exact ih c hc
    · rw [List.takeWhile_cons_of_neg hd] at hc; cases hc

theorem runThenSemi_shape (p : UInt8 → Bool) (s : Bytes) (h : runThenSemi p s = true) :
    ∃ run tl, s = run ++ 59 :: tl ∧ run ≠ [] ∧ ∀ c ∈ run, p c = true := by
  unfold runThenSemi at h
  split at h
  · rename_i tl heq
    refine ⟨s.takeWhile p, tl, ?_, ?_, ?_⟩
    · rw [← heq, List.takeWhile_append_dropWhile]
    · intro he; rw [he] at h; simp at h
    · exact mem_takeWhile_sat p s
  · cases h

theorem runThenSemi_of_shape (p : UInt8 → Bool) (hp : p 59 = false) (run tl : Bytes) (hne : run ≠ [])
    (hall : ∀ c ∈ run, p c = true) : runThenSemi p (run ++ 59 :: tl) = true := by
  have key : ∀ run : Bytes, (∀ c ∈ run, p c = true) →
      (run ++ 59 :: tl).takeWhile p = run ∧ (run ++ 59 :: tl).dropWhile p = 59 :: tl := by
    intro run hall
    induction run with
    | nil => simp [hp]
    | cons c r ih =>
      have := ih (fun d hd => hall d (by simp [hd]))
      simp [hall c (by simp), this]
  obtain ⟨h1, h2⟩ := key run hall
  unfold runThenSemi
  rw [h2, h1]
  cases run with
  | nil => exact absurd rfl hne
  | cons _ _ => rfl

/-- `&` is followed by `#x<hex>+;`, `#X<hex>+;`, `#<digit>+;` or `<alnum>+;` -/
def RefShape (r : Bytes) : Prop :=
  ∃ (pre run tl : Bytes) (p : UInt8 → Bool), r = pre ++ run ++ 59 :: tl ∧ run ≠ [] ∧ (∀ c ∈ run, p c = true) ∧
    ((pre = [35, 120] ∧ p = isHexB) ∨ (pre = [35, 88] ∧ p = isHexB) ∨ (pre = [35] ∧ p = isDigitB) ∨
     (pre = [] ∧ p = isAlnumB))

theorem refShape_of (r : Bytes) (h : refAfterAmp r = true) : RefShape r := by
  unfold refAfterAmp at h
  split at h
  · obtain ⟨run, tl, e, hne, hall⟩ := runThenSemi_shape _ _ h
    exact ⟨[35, 120], run, tl, isHexB, by simp [e], hne, hall, Or.inl ⟨rfl, rfl⟩⟩
  · obtain ⟨run, tl, e, hne, hall⟩ := runThenSemi_shape _ _ h
    exact ⟨[35, 88], run, tl, isHexB, by simp [e], hne, hall, Or.inr (Or.inl ⟨rfl, rfl⟩)⟩
  · obtain ⟨run, tl, e, hne, hall⟩ := runThenSemi_shape _ _ h
    exact ⟨[35], run, tl, isDigitB, by simp [e], hne, hall, Or.inr (Or.inr (Or.inl ⟨rfl, rfl⟩))⟩
  · obtain ⟨run, tl, e, hne, hall⟩ := runThenSemi_shape _ _ h
    exact ⟨[], run, tl, isAlnumB, by simp [e], hne, hall, Or.inr (Or.inr (Or.inr ⟨rfl, rfl⟩))⟩

theorem refAfterAmp_of_shape (r : Bytes) (h : RefShape r) : refAfterAmp r = true := by
  obtain ⟨pre, run, tl, p, e, hne, hall, hcase⟩ := h
  rcases hcase with ⟨rfl, rfl⟩ | ⟨rfl, rfl⟩ | ⟨rfl, rfl⟩ | ⟨rfl, rfl⟩
  · subst e; simp only [List.cons_append, List.nil_append]; unfold refAfterAmp
    exact runThenSemi_of_shape _ (by decide) run tl hne hall
  · subst e; simp only [List.cons_append, List.nil_append]; unfold refAfterAmp
    exact runThenSemi_of_shape _ (by decide) run tl hne hall
  · subst e
    have hr := runThenSemi_of_shape isDigitB (by decide) run tl hne hall
    cases run with
    | nil => exact absurd rfl hne
    | cons d run' =>
      have hd := hall d (by simp)
      have d1 : d ≠ 120 := by rintro rfl; simp [isDigitB] at hd
      have d2 : d ≠ 88 := by rintro rfl; simp [isDigitB] at hd
      simp only [List.cons_append, List.nil_append] at hr ⊢
      unfold refAfterAmp
      split
      · rename_i heq; simp at heq; exact absurd heq.1 d1
      · rename_i heq; simp at heq; exact absurd heq.1 d2
      · rename_i heq; simp at heq; rw [← heq]; exact hr
      · rename_i _ _ hne'; exact (hne' _ rfl).elim
  · subst e
    have hr := runThenSemi_of_shape isAlnumB (by decide) run tl hne hall
    cases run with
    | nil => exact absurd rfl hne
    | cons d run' =>
      have hd := hall d (by simp)
      have d1 : d ≠ 35 := by rintro rfl; simp [isAlnumB, isAlphaB, isDigitB] at hd
      simp only [List.cons_append, List.nil_append] at hr ⊢
      unfold refAfterAmp
      split
      · rename_i heq; simp at heq; exact absurd heq.1 d1
      · rename_i heq; simp at heq; exact absurd heq.1 d1
      · rename_i heq; simp at heq; exact absurd heq.1 d1
      · exact hr

theorem replace2_cons_ne (a : UInt8) (rep : Bytes) (x : UInt8) (l : Bytes) (h : x ≠ a) :
    replace2 a rep (x :: l) = x :: replace2 a rep l := by
  cases l with
  | nil => simp [replace2]
  | cons y rest =>
    rw [replace2]
    have : (x == a) = false := by simpa using h
    simp [this]

theorem replace2_prefix (a : UInt8) (rep l m : Bytes) (h : ∀ c ∈ l, c ≠ a) :
    replace2 a rep (l ++ m) = l ++ replace2 a rep m := by
  induction l with
  | nil => rfl
  | cons c l ih =>
    rw [List.cons_append, replace2_cons_ne a rep c _ (h c (by simp)), ih (fun d hd => h d (by simp [hd]))]
    rfl

/-- the replaced byte is not part of any character reference -/
def notRefByte (a : UInt8) : Prop :=
  a ≠ 38 ∧ a ≠ 35 ∧ a ≠ 120 ∧ a ≠ 88 ∧ a ≠ 59 ∧ isAlnumB a = false ∧ isHexB a = false ∧ isDigitB a = false

theorem refAfterAmp_replace2 (a : UInt8) (ha : notRefByte a) (rep r : Bytes) (h : refAfterAmp r = true) :
    refAfterAmp (replace2 a rep r) = true := by
  obtain ⟨pre, run, tl, p, e, hne, hall, hcase⟩ := refShape_of r h
  apply refAfterAmp_of_shape
  refine ⟨pre, run, replace2 a rep tl, p, ?_, hne, hall, hcase⟩
  obtain ⟨h38, h35, h120, h88, h59, hal, hhex, hdig⟩ := ha
  have hrun : ∀ c ∈ run, c ≠ a := by
    intro c hc hca
    subst hca
    have := hall c hc
    rcases hcase with ⟨_, rfl⟩ | ⟨_, rfl⟩ | ⟨_, rfl⟩ | ⟨_, rfl⟩ <;> simp_all
  have hpre : ∀ c ∈ pre, c ≠ a := by
    intro c hc hca
    subst hca
    rcases hcase with ⟨rfl, _⟩ | ⟨rfl, _⟩ | ⟨rfl, _⟩ | ⟨rfl, _⟩ <;> simp at hc <;> rcases hc with rfl | rfl <;> simp_all
  rw [e, List.append_assoc, replace2_prefix a rep pre _ hpre, replace2_prefix a rep run _ hrun,
    replace2_cons_ne a rep 59 tl (Ne.symm h59), List.append_assoc]

theorem ampsOK_replace2 (a : UInt8) (ha : notRefByte a) (rep : Bytes) (hrep : rep.all plain = true) (b : Bytes) :
    ampsOK b = true → ampsOK (replace2 a rep b) = true := by
  fun_induction replace2 a rep b with
  | case1 x y rest hxy ih =>
    intro h
    rw [ampsOK_cons, Bool.and_eq_true] at h
    have h2 := h.2
    rw [ampsOK_cons, Bool.and_eq_true] at h2
    exact ampsOK_append _ _ (ampsOK_of_plain _ hrep) (ih h2.2)
  | case2 x y rest hxy ih =>
    intro h
    rw [ampsOK_cons, Bool.and_eq_true, Bool.or_eq_true] at h
    rw [ampsOK_cons, Bool.and_eq_true, Bool.or_eq_true]
    refine ⟨?_, ih h.2⟩
    rcases h.1 with h1 | h1
    · exact Or.inl h1
    · exact Or.inr (refAfterAmp_replace2 a ha rep _ h1)
  | case3 l _ => exact id

theorem replace2_mem (a : UInt8) (rep b : Bytes) : ∀ c ∈ replace2 a rep b, c ∈ rep ∨ c ∈ b := by
  fun_induction replace2 a rep b with
  | case1 x y rest hxy ih =>
    intro c hc
    rw [List.mem_append] at hc
    rcases hc with hc | hc
    · exact Or.inl hc
    · rcases ih c hc with h | h
      · exact Or.inl h
      · exact Or.inr (by simp [h])
  | case2 x y rest hxy ih =>
    intro c hc
    rw [List.mem_cons] at hc
    rcases hc with rfl | hc
    · exact Or.inr (by simp)
    · rcases ih c hc with h | h
      · exact Or.inl h
      · exact Or.inr (List.mem_cons_of_mem _ h)
  | case3 l _ => exact fun c hc => Or.inr hc

theorem inertBytes_replace2 (a : UInt8) (ha : notRefByte a) (rep : Bytes) (hrep : rep.all plain = true) (b : Bytes)
    (h : inertBytes b = true) : inertBytes (replace2 a rep b) = true := by
  have hrepI := inertBytes_of_plain rep hrep
  unfold inertBytes at h hrepI ⊢
  rw [Bool.and_eq_true] at h hrepI ⊢
  refine ⟨ampsOK_replace2 a ha rep hrep b h.1, ?_⟩
  rw [List.all_eq_true] at h hrepI ⊢
  intro c hc
  rcases replace2_mem a rep b c hc with hm | hm
  · exact hrepI.2 c hm
  · exact h.2 c hm

theorem template_inert (b : Bytes) (i n : Nat) (h : inertBytes b = true) :
    inertBytes (applyFootnoteTemplate b i n) = true := by
  unfold applyFootnoteTemplate
  exact inertBytes_replace2 37 (by unfold notRefByte; decide) _ (decBytes_plain _) _
    (inertBytes_replace2 94 (by unfold notRefByte; decide) _ (decBytes_plain _) _ h)

end GM.Proof.RenderWF
