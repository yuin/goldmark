/-
  GM.Proof.LinkRefFacts — what the link reference transformer does to the reference map and to the paragraph:
  a definition only ever extends the map and never changes the value of a key that is already there (first wins);
  a paragraph whose first call of `parseLinkReferenceDefinition` declines (e.g. its first byte is neither white space nor
  `[`) is returned untouched; the lines removed are a prefix when the removed ranges are adjacent from line 0.
-/
import GM.Proof.LinkRefPad
import GM.Proof.BlocksPres
import GM.Proof.Refs

namespace GM.Proof.LinkRefFacts
open GM GM.Text GM.Spec GM.Inl GM.LinkRef GM.Blocks GM.Proof.Reader GM.Proof.InlinesReader

/-- `m'` extends `m` without changing what any key of `m` resolves to -/
def Extends (m m' : RefMap) : Prop := ∀ k v, m.lookup k = some v → m'.lookup k = some v

theorem Extends.refl (m : RefMap) : Extends m m := fun _ _ h => h
theorem Extends.trans {a b c : RefMap} (h1 : Extends a b) (h2 : Extends b c) : Extends a c :=
  fun k v h => h2 k v (h1 k v h)

/-- AddReference: first definition wins -/
theorem addReference_extends (m : RefMap) (l d : Bytes) (t : Option Bytes) : Extends m (addReference m l d t) := by
  intro k v h
  unfold addReference GM.Refs.addRef
  split
  · exact h
  · rw [GM.Refs.lookup_append', h]; rfl

/-- AddReference with a label whose normal form is already a key changes nothing -/
theorem addReference_dup (m : RefMap) (l d : Bytes) (t : Option Bytes) (h : (m.lookup (toLinkReference l)).isSome) :
    addReference m l d t = m := by
  unfold addReference GM.Refs.addRef
  simp [h]

/-- a new key resolves to the definition that introduced it -/
theorem addReference_new (m : RefMap) (l d : Bytes) (t : Option Bytes) (h : m.lookup (toLinkReference l) = none) :
    (addReference m l d t).lookup (toLinkReference l) = some (d, t) := by
  unfold addReference GM.Refs.addRef
  simp [h, GM.Refs.lookup_append', List.lookup]

/-- `m'` is `m` after `pc.AddReference` of a list of definitions (label as written, destination, title), in order -/
def Adds (m m' : RefMap) : Prop := ∃ ds : List (Bytes × (Bytes × Option Bytes)), m' = ds.foldl GM.Refs.addRef m

theorem Adds.refl (m : RefMap) : Adds m m := ⟨[], rfl⟩
theorem Adds.one (m : RefMap) (l d : Bytes) (t : Option Bytes) : Adds m (addReference m l d t) := ⟨[(l, (d, t))], rfl⟩
theorem Adds.trans {a b c : RefMap} (h1 : Adds a b) (h2 : Adds b c) : Adds a c := by
  obtain ⟨d1, rfl⟩ := h1
  obtain ⟨d2, rfl⟩ := h2
  exact ⟨d1 ++ d2, by rw [List.foldl_append]⟩

structure StepA (refs : RefMap) (res : DefRes) : Prop where
  h : ∀ x r' refs', res = .ok (x, r', refs') → Adds refs refs'

theorem stepA_noDef (r : BlockReader) (refs : RefMap) : StepA refs (noDef r refs) := by
  constructor; intro x r' refs' h; cases h; exact Adds.refl _
theorem stepA_ok (refs : RefMap) (x : Int × Int) (r : BlockReader) (l d : Bytes) (t : Option Bytes) :
    StepA refs (.ok (x, r, addReference refs l d t)) := by
  constructor; intro x' r' refs' h; cases h; exact Adds.one _ _ _ _
theorem stepA_pure (refs : RefMap) (x : Int × Int) (r : BlockReader) (l d : Bytes) (t : Option Bytes) :
    StepA refs (pure (x, r, addReference refs l d t)) := stepA_ok refs x r l d t
theorem stepA_error (refs : RefMap) (e : Panic) : StepA refs (.error e) := by
  constructor; intro _ _ _ h; cases h
theorem stepA_bind {α} (refs : RefMap) (m : Except Panic α) (f : α → DefRes) (h : ∀ a, StepA refs (f a)) :
    StepA refs (m >>= f) := by
  cases m with
  | error e => exact stepA_error refs e
  | ok a => exact h a

macro "stepA_tac" : tactic =>
  `(tactic| repeat' first
    | apply_hyp
    | with_reducible apply stepA_noDef
    | with_reducible apply stepA_pure
    | with_reducible apply stepA_ok
    | with_reducible apply stepA_error
    | with_reducible apply stepA_bind
    | intro _
    | split
    | dsimp only)

theorem defNoTitle_stepA (r : BlockReader) (refs : RefMap) (sl el : Int) (ep : Segment) (label dest : Bytes) :
    StepA refs (defNoTitle r refs sl el ep label dest) := by
  unfold defNoTitle; stepA_tac
theorem defTitled_stepA (r : BlockReader) (refs : RefMap) (sl el : Int) (ep : Segment) (nl : Bool) (label dest : Bytes)
    (sg : List Segment) : StepA refs (defTitled r refs sl el ep nl label dest sg) := by
  have := defNoTitle_stepA
  unfold defTitled; stepA_tac
theorem defAfterDest_stepA (r : BlockReader) (refs : RefMap) (sl : Int) (label dest : Bytes) :
    StepA refs (defAfterDest r refs sl label dest) := by
  have := defTitled_stepA
  have := defNoTitle_stepA
  unfold defAfterDest; stepA_tac
theorem defAfterLabel_stepA (r : BlockReader) (refs : RefMap) (sl : Int) (label : Bytes) :
    StepA refs (defAfterLabel r refs sl label) := by
  have := defAfterDest_stepA
  unfold defAfterLabel; stepA_tac
theorem defTail_stepA (r : BlockReader) (refs : RefMap) (sl pos : Int) : StepA refs (defTail r refs sl pos) := by
  have := defAfterLabel_stepA
  unfold defTail; stepA_tac
theorem parseLinkReferenceDefinition_stepA (r : BlockReader) (refs : RefMap) :
    StepA refs (parseLinkReferenceDefinition r refs) := by
  have := defTail_stepA
  unfold parseLinkReferenceDefinition; stepA_tac

theorem transformLoop_adds : ∀ (fuel : Nat) (rd : BlockReader) (refs : RefMap) (removes : List (Int × Int))
    (rm : List (Int × Int)) (refs' : RefMap), transformLoop fuel rd refs removes = .ok (rm, refs') → Adds refs refs'
  | 0, _, _, _, _, _, h => by unfold transformLoop at h; cases h
  | fuel + 1, rd, refs, removes, rm, refs', h => by
    unfold transformLoop at h
    cases hd : parseLinkReferenceDefinition rd refs with
    | error e => rw [hd] at h; cases h
    | ok a =>
      obtain ⟨⟨s, e⟩, rd1, refs1⟩ := a
      have h1 := (parseLinkReferenceDefinition_stepA rd refs).h _ _ _ hd
      rw [hd] at h
      simp only [bind, Except.bind, pure, Except.pure] at h
      split at h
      · split at h
        · cases h
        · exact h1.trans (transformLoop_adds fuel rd1 refs1 _ rm refs' h)
      · cases h; exact h1

/-- **the reference map a paragraph leaves is the old map after `AddReference` of a list of definitions, in order**
    (`List.foldl GM.Refs.addRef`): the form the reference-map theorems of C09 / C19 (`GM.Refs.build`,
    `refs_first_wins`, `refs_move_invariant`, `lookup_label_variant`) are stated for -/
theorem transformScan_adds {src : Bytes} {lines : List Segment} {refs refs' : RefMap} {rm : List (Int × Int)}
    (h : transformScan src lines refs = .ok (rm, refs')) : Adds refs refs' := by
  unfold transformScan at h
  cases hn : BlockReader.new src lines with
  | error e => rw [hn] at h; cases h
  | ok b =>
    rw [hn] at h
    exact transformLoop_adds _ _ _ _ _ _ h

theorem Adds.extends {m m' : RefMap} (h : Adds m m') : Extends m m' := by
  obtain ⟨ds, rfl⟩ := h
  induction ds generalizing m with
  | nil => exact Extends.refl _
  | cons d ds ih => exact Extends.trans (addReference_extends m d.1 d.2.1 d.2.2) ih

/-- **first definition wins**: whatever a paragraph defines, a key the map already has keeps its destination and title -/
theorem transformScan_extends {src : Bytes} {lines : List Segment} {refs refs' : RefMap} {rm : List (Int × Int)}
    (h : transformScan src lines refs = .ok (rm, refs')) : Extends refs refs' :=
  (transformScan_adds h).extends

/-! ### paragraphs the transformer does not recognise -/

/-- when the first call declines, nothing is removed and the map is unchanged -/
theorem transformScan_declined {src : Bytes} {lines : List Segment} {refs : RefMap} {b r' : BlockReader}
    (hn : BlockReader.new src lines = .ok b) (hd : defHead b = .ok (none, r')) :
    transformScan src lines refs = .ok ([], refs) := by
  unfold transformScan
  simp only [hn, bind, Except.bind, transformFuel]
  unfold transformLoop parseLinkReferenceDefinition
  simp [hd, noDef, bind, Except.bind, pure, Except.pure]

theorem removeLoop_nil (lines : List Segment) : removeLoop [] 0 lines = .ok lines := by
  unfold removeLoop; rfl

/-- a paragraph (well-formed padding-free lines) whose first byte is neither white space nor `[` : the scanner's
    first `SkipSpaces` consumes nothing, `line[0] != '['`, and the transformer's scan answers "nothing to remove,
    map unchanged" -/
theorem transformScan_not_bracket {src : Bytes} {lines : List Segment} (W : WF0 src lines) (refs : RefMap)
    {b0 : UInt8} {rest : Bytes}
    (hv : BCur.view src lines (BCur.init lines) = some (b0 :: rest))
    (hsp : isSpace b0 = false) (hbr : b0 ≠ 91) :
    transformScan src lines refs = .ok ([], refs) := by
  obtain ⟨Wf, Z⟩ := W
  have F := segFacts Wf
  obtain ⟨r0, e0, a0⟩ := blockReader_init F
  have hz0 : (BCur.init lines).pad = 0 := segOf_pad F Z 0 (Int.le_refl _) F.kpos
  have hrs : RS src lines r0 (BCur.init lines) := ⟨a0, hz0⟩
  obtain ⟨hpl, _⟩ := peekLine_facts F hrs
  have hf : rdFuel r0 = (rdFuel r0 - 1) + 1 := by unfold rdFuel loopFuel; omega
  have hnsp : b0 ≠ 32 ∧ b0 ≠ 9 := by
    constructor <;> (intro e; subst e; revert hsp; decide)
  refine transformScan_declined (r' := r0) e0 ?_
  unfold defHead
  rw [hf]
  unfold skipSpaces
  simp only [blockOps, hpl, hv, bind, Except.bind, pure, Except.pure, skipSpacesLine, hsp, Bool.false_eq_true, if_false]
  simp only [GM.Blocks.indentWidthI, GM.Blocks.indentWidthGo, beq_iff_eq, hnsp.1, hnsp.2, if_false]
  simp [GM.Blocks.idx, getByte, hbr]

/-! ### which lines go -/

/-- removed ranges that start at `off` and are adjacent: `(off, e₁), (e₁, e₂), …`, ends non-decreasing -/
def Adjacent : Int → List (Int × Int) → Prop
  | _, [] => True
  | off, (r0, r1) :: rest => r0 = off ∧ off ≤ r1 ∧ Adjacent r1 rest

/-- the end of the last range -/
def lastEnd : Int → List (Int × Int) → Int
  | off, [] => off
  | _, (_, r1) :: rest => lastEnd r1 rest

/-- for adjacent ranges from `off` on, the second loop of Transform drops a PREFIX of the lines: the first
    `lastEnd − off` of them, nothing else, order kept -/
theorem removeLoop_front : ∀ (rs : List (Int × Int)) (off : Int) (lines : List Segment), Adjacent off rs →
    lastEnd off rs - off ≤ lines.length → removeLoop rs off lines = .ok (lines.drop (lastEnd off rs - off).toNat)
  | [], off, lines, _, _ => by simp [removeLoop, lastEnd, pure, Except.pure]
  | (r0, r1) :: rest, off, lines, ha, hl => by
    obtain ⟨h0, h1, hr⟩ := ha
    subst h0
    have hmono : ∀ (rs : List (Int × Int)) (o : Int), Adjacent o rs → o ≤ lastEnd o rs := by
      intro rs
      induction rs with
      | nil => intro o _; simp [lastEnd]
      | cons x xs ih => intro o h; obtain ⟨_, h2, h3⟩ := h; have := ih x.2 h3; simp only [lastEnd]; omega
    have hm := hmono rest r1 hr
    simp only [lastEnd] at hl ⊢
    unfold removeLoop
    by_cases hz : (lines.length == 0) = true
    · have : lines = [] := List.length_eq_zero_iff.1 (by simpa using hz)
      subst this
      simp [pure, Except.pure]
    · simp only [hz, Bool.false_eq_true, if_false]
      have hs : slicedSegs lines (r1 - r0) lines.length = .ok (lines.drop (r1 - r0).toNat) := by
        unfold slicedSegs
        rw [if_pos (by omega)]
        congr 1
        apply List.take_of_length_le
        simp only [List.length_drop]; omega
      have hk : slicedSegs lines 0 (r0 - r0) = .ok [] := by
        unfold slicedSegs
        rw [if_pos (by omega)]
        simp
      simp only [hs, bind, Except.bind]
      rw [if_neg (by omega)]
      simp only [hk, List.nil_append]
      have ih := removeLoop_front rest r1 (lines.drop (r1 - r0).toNat) hr (by simp only [List.length_drop]; omega)
      rw [ih, List.drop_drop]
      congr 2
      omega


theorem set_getD_self {α : Type} (l : List α) (i : Nat) (d : α) : l.set i (l.getD i d) = l := by
  induction l generalizing i with
  | nil => simp
  | cons a as ih =>
    cases i with
    | zero => simp
    | succ i => simp only [List.set_cons_succ, List.getD_cons_succ]; rw [ih]

theorem finishLines_nil (lines : List Segment) : finishLines [] lines = .ok lines := by
  simp [finishLines, adjacentB, lastEndOf, removeLoop_nil]

/-- **a paragraph the transformer does not recognise is returned untouched** — at the level of the block-phase state:
    when the scan declines (nothing to remove, map unchanged) on a paragraph that has lines, `Transform` ends in exactly
    the state it started from: same node store (lines, parent, children of every node), same parse context, same reader -/
theorem transform_declined_state (node : Nat) (s : GM.Blocks.St)
    (hne : (s.nodes.getD node default).lines ≠ [])
    (hscan : transformScan s.r.source (s.nodes.getD node default).lines s.pc.refs = .ok ([], s.pc.refs)) :
    transform node s = .ok ((), s) := by
  have hlen : ((s.nodes.getD node default).lines.length == 0) = false := by
    cases h : (s.nodes.getD node default).lines with
    | nil => exact absurd h hne
    | cons _ _ => simp
  unfold transform
  simp only [bind, StateT.bind, getNode, source, getPc, pure, Except.pure, Except.bind, liftE, hscan, Except.map,
    transformFinish, modPc, finishLines_nil, modNode, hlen, Bool.false_eq_true, if_false, StateT.pure]
  congr 2
  cases s with
  | mk r nodes pc =>
    simp only
    congr 1
    exact set_getD_self nodes node default


/-- the rest of the line behind the title, as `defTitled` reads it, is empty or blank -/
def RestBlank (r : BlockReader) : Prop :=
  ∃ line seg r1, r.peekLine = .ok ((line, seg), r1) ∧ (match line with | none => True | some l => isBlank l = true)

/-- the exits that end a definition behind the destination's line register it without a title, end it at
    `endLine + 1`, and leave the reader where `SetPosition(endLine, endPos); AdvanceLine()` puts it -/
theorem defNoTitle_result (r : BlockReader) (refs : RefMap) (sl el : Int) (ep : Segment) (label dest : Bytes)
    {x : Int × Int} {r' : BlockReader} {refs' : RefMap} (h : defNoTitle r refs sl el ep label dest = .ok (x, r', refs')) :
    x = (sl, el + 1) ∧ refs' = addReference refs label dest none ∧
      ∃ r1, r.setPosition el ep = .ok r1 ∧ r1.advanceLine = .ok r' := by
  unfold defNoTitle at h
  cases h1 : r.setPosition el ep with
  | error e => rw [h1] at h; cases h
  | ok r2 =>
    rw [h1] at h
    simp only [bind, Except.bind] at h
    cases h2 : r2.advanceLine with
    | error e => rw [h2] at h; cases h
    | ok r3 =>
      rw [h2] at h
      simp only [pure, Except.pure, Except.ok.injEq, Prod.mk.injEq] at h
      exact ⟨h.1.symm, h.2.2.symm, r2, rfl, h.2.1 ▸ h2⟩

/-- **a title is only ever registered when the rest of its line is blank**: whatever `defTitled`
    answers, the map is unchanged, or the definition was registered WITHOUT a title, or it was registered with the
    title and nothing but white space follows the title on its line -/
theorem defTitled_title_needs_blank_rest (r : BlockReader) (refs : RefMap) (sl el : Int) (ep : Segment) (nl : Bool)
    (label dest : Bytes) (sg : List Segment) {x : Int × Int} {r' : BlockReader} {refs' : RefMap}
    (h : defTitled r refs sl el ep nl label dest sg = .ok (x, r', refs')) :
    refs' = refs ∨ refs' = addReference refs label dest none ∨
      (RestBlank r ∧ ∃ t, closureValue r sg = .ok t ∧ refs' = addReference refs label dest t) := by
  unfold defTitled at h
  cases hc : closureValue r sg with
  | error e => rw [hc] at h; cases h
  | ok t =>
    rw [hc] at h
    cases hp : r.peekLine with
    | error e => rw [hp] at h; cases h
    | ok y =>
      obtain ⟨⟨line, seg⟩, r1⟩ := y
      rw [hp] at h
      simp only [bind, Except.bind, pure, Except.pure] at h
      cases line with
      | none =>
        simp only [Bool.false_eq_true, if_false, Except.ok.injEq, Prod.mk.injEq] at h
        exact Or.inr (Or.inr ⟨⟨none, seg, r1, hp, trivial⟩, t, rfl, h.2.2.symm⟩)
      | some l =>
        simp only at h
        by_cases hb : isBlank l = true
        · simp only [hb, Bool.not_true, Bool.false_eq_true, if_false, Except.ok.injEq, Prod.mk.injEq] at h
          exact Or.inr (Or.inr ⟨⟨some l, seg, r1, hp, hb⟩, t, rfl, h.2.2.symm⟩)
        · have hb' : isBlank l = false := by simpa using hb
          simp only [hb', Bool.not_false, if_true] at h
          split at h
          · simp only [noDef, Except.ok.injEq, Prod.mk.injEq] at h
            exact Or.inl h.2.2.symm
          · exact Or.inr (Or.inl (defNoTitle_result _ _ _ _ _ _ _ h).2.1)

/-- **the scan stops at the first call that is not a definition**: when `parseLinkReferenceDefinition` declines, the
    `for` loop of Transform returns at once with the ranges and the map it has -/
theorem transformLoop_stops (fuel : Nat) (rd rd' : BlockReader) (refs refs' : RefMap) (removes : List (Int × Int))
    (s e : Int) (h : parseLinkReferenceDefinition rd refs = .ok ((s, e), rd', refs')) (hs : ¬ s > -1) :
    transformLoop (fuel + 1) rd refs removes = .ok (removes, refs') := by
  unfold transformLoop
  simp only [h, bind, Except.bind, pure, Except.pure, hs, if_false]


theorem adjacentB_sound : ∀ (rs : List (Int × Int)) (off : Int), adjacentB off rs = true → Adjacent off rs
  | [], _, _ => trivial
  | (r0, r1) :: rest, off, h => by
    simp only [adjacentB, Bool.and_eq_true, beq_iff_eq, decide_eq_true_eq] at h
    exact ⟨h.1.1, by omega, adjacentB_sound rest r1 h.2⟩

theorem lastEndOf_eq : ∀ (rs : List (Int × Int)) (off : Int), lastEndOf off rs = lastEnd off rs
  | [], _ => rfl
  | (_, r1) :: rest, _ => by simp only [lastEndOf, lastEnd]; exact lastEndOf_eq rest r1

/-- **the transformer only removes lines from the FRONT of the paragraph** (unconditional, of the model): whatever ranges
    the scan hands over, when the second stage of Transform answers a line list, it is the paragraph's lines without an
    initial segment — the first `lastEnd` lines are gone, the others are kept in order -/
theorem finishLines_front {rs : List (Int × Int)} {lines ls : List Segment} (h : finishLines rs lines = .ok ls) :
    ls = lines.drop (lastEnd 0 rs).toNat := by
  unfold finishLines at h
  split at h
  · cases h
  · rename_i hc
    simp only [Bool.not_eq_true', Bool.and_eq_false_iff, not_or, Bool.not_eq_false, decide_eq_false_iff_not,
      Decidable.not_not] at hc
    have ha := adjacentB_sound rs 0 hc.1
    have hl : lastEnd 0 rs - 0 ≤ lines.length := by rw [← lastEndOf_eq]; have := hc.2; omega
    have := removeLoop_front rs 0 lines ha hl
    rw [this] at h
    simp only [Except.ok.injEq, Int.sub_zero] at h
    exact h.symm

end GM.Proof.LinkRefFacts
