/-
  GM.Proof.CMFragClass — the sources of the quoted stages 15, 22, 23 are in the classes of the block-quote simulation
  (`C08Class`, the wider `C08ClassG`: no rest of a line is a setext underline) at every depth, and contain no `[`.
-/
import GM.Proof.CMFragQuote
import GM.Proof.CMFrag13Inl
import GM.Proof.CMFragRender8
import GM.Proof.CMFragSpec
import GM.Proof.CMFragSpec13
import GM.Proof.QuoteSimTop
import GM.Proof.CMFrag21Bridge

/-
  section CMFragClassUQ — stage 15 of GM.Spec.CMFrag (a stage-13 union document inside one block quote):
  * `uqclean_class`: the source `spellU d` of the contents (`UQFrag d`) is in the class `GM.Blocks.C08Class` of the
    block-quote simulation (GM.Proof.QuoteSimTop): no tab, no carriage return, a final line feed, no byte that could
    start a list item; `uqclean_no_bracket`: it contains no `[`; `uqclean_no_star`: and no `*` (no emphasis atom);
  * `spellUQ_eq`: the spec-side `quoteLines` is the model-side `GM.Blocks.quotePrefix`.
-/
section CMFragClassUQ
namespace GM.Proof.CMFrag
open GM GM.Spec.CM GM.Spec.CMFrag

theorem uqfrag_partsUQ (d : UDocS) (h : UQFrag d) :
    UFrag d ∧ d.items ≠ [] ∧ (∀ c ∈ spellU d, qcleanByte c = true) ∧ ∀ it ∈ d.items, it.block.isIc = false := by
  have := h
  simp only [UQFrag, uqfragB, Bool.and_eq_true, List.all_eq_true, Bool.not_eq_true', List.isEmpty_eq_false_iff] at this
  exact ⟨this.1.1.1, this.1.1.2, this.1.2, this.2⟩

theorem uqfrag_noic {d : UDocS} (h : UQFrag d) : ∀ it ∈ d.items, it.block.isIc = false := (uqfrag_partsUQ d h).2.2.2

theorem uqfrag_ufrag {d : UDocS} (h : UQFrag d) : UFrag d := (uqfrag_partsUQ d h).1

theorem uqfrag_items_ne {d : UDocS} (h : UQFrag d) : d.items ≠ [] := (uqfrag_partsUQ d h).2.1

theorem uqendsNl_spellUBlock (b : UBlockS) (hok : ublockOKS b = true) : EndsNlQ (spellUBlock b) := by
  cases b with
  | para lines =>
    simp only [ublockOKS, Bool.and_eq_true, Bool.not_eq_true', List.isEmpty_eq_false_iff] at hok
    rw [spellUBlock]
    exact endsNl_flatMapQ _ lines hok.1.1 (fun x _ => ⟨spellULine x, rfl⟩)
  | heading level text => exact ⟨_, rfl⟩
  | thematic c n => exact ⟨_, rfl⟩
  | fcode tilde n info lines => exact ⟨_, rfl⟩
  | icode lines =>
    simp only [ublockOKS, Bool.and_eq_true, Bool.not_eq_true', List.isEmpty_eq_false_iff] at hok
    rw [spellUBlock]
    exact endsNl_flatMapQ _ lines hok.1 (fun x _ => ⟨[32, 32, 32, 32] ++ x, rfl⟩)

theorem uqendsNl_spellU (d : UDocS) (hok : ∀ it ∈ d.items, ublockOKS it.block = true) (hne : d.items ≠ []) :
    EndsNlQ (spellU d) := by
  rw [spellU]
  refine EndsNlQ.trailQ ?_ _
  exact endsNl_flatMapQ _ d.items hne (fun it hit => (uqendsNl_spellUBlock it.block (hok it hit)).prepend _)

theorem uqclean_class (d : UDocS) (h : UQFrag d) : GM.Blocks.C08Class (spellU d) := by
  obtain ⟨hu, hne, hc, _⟩ := uqfrag_partsUQ d h
  exact
    { tf := fun c hcm => (qclean_facts c (hc c hcm)).1
      cr := fun c hcm => (qclean_facts c (hc c hcm)).2.1
      nl := (uqendsNl_spellU d (ufrag_parts13 d hu).1 hne).getLast
      nolist := fun c hcm => (qclean_facts c (hc c hcm)).2.2.2 }

/-- no `[` in the contents: no link reference definition, no link -/
theorem uqclean_no_bracket (d : UDocS) (h : UQFrag d) : ∀ c ∈ spellU d, c ≠ 91 :=
  fun c hcm => (qclean_facts c ((uqfrag_partsUQ d h).2.2.1 c hcm)).2.2.1

/-- no `*` in the contents: no emphasis delimiter run at all -/
theorem uqclean_no_star (d : UDocS) (h : UQFrag d) : ∀ c ∈ spellU d, c ≠ 42 :=
  fun c hcm => (qclean_facts c ((uqfrag_partsUQ d h).2.2.1 c hcm)).2.2.2.2.1

theorem spellUQ_eq (d : UDocS) : spellUQ d = GM.Blocks.quotePrefix (spellU d) := quoteLines_eq _

end GM.Proof.CMFrag
end CMFragClassUQ

/-
  section CMFragClassG — stage 22 of GM.Spec.CMFrag: the WIDER class of quoted contents.
  * `noBar_of_noBarEnd`: a source no line of which has `-` or `=` as its last byte that is not white space has no rest
    of a line that `matchesSetextHeadingBar` accepts (`GM.Blocks.NoBar`);
  * `gqclean_classG` / `guqclean_classG`: the contents `spellK d` (`GQFrag d`) / `spellU d` (`GUQFrag d`) are in the class
    `GM.Blocks.C08ClassG` of the block-quote simulation with lists and blank lines (GM.Proof.QuoteSimTop);
  * the class is kept by the prefix, SPEC-LEVEL route: `noBarEnd (quoteLines s true) = noBarEnd s` (`gq_noBarEnd_quoteLines`),
    so `GQClass` (no tab, no CR, final line feed, `noBarEnd`) is kept by `quotePrefix` (`gqClass_prefix`,
    `gqClass_quoteLinesN`) and gives `C08ClassG` at every level (`gqClass_classG`);
  * the converse `noBarEnd_of_noBar` (`-` / `=` followed by white space only IS an underline, `gq_bar_ok`), hence
    `c08ClassG_prefixN`: `C08ClassG S` with a final line feed gives `C08ClassG (quotePrefix S)` with a final line feed.
-/
section CMFragClassG
namespace GM.Proof.CMFrag
open GM GM.Text GM.Blocks GM.Spec.CM GM.Spec.CMFrag

/-- the last byte that is not white space (`isSpace`), `l` if there is none -/
def gqLastNS : Bytes → UInt8 → UInt8
  | [], l => l
  | c :: cs, l => gqLastNS cs (if isSpace c then l else c)

theorem gqLastNS_append (a b : Bytes) (l : UInt8) : gqLastNS (a ++ b) l = gqLastNS b (gqLastNS a l) := by
  induction a generalizing l with
  | nil => rfl
  | cons c cs ih => simp only [List.cons_append, gqLastNS, ih]

theorem gqLastNS_space (a : Bytes) (l : UInt8) (h : ∀ c ∈ a, isSpace c = true) : gqLastNS a l = l := by
  induction a generalizing l with
  | nil => rfl
  | cons c cs ih =>
    rw [gqLastNS, h c (List.mem_cons_self ..), if_pos rfl]
    exact ih l (fun x hx => h x (List.mem_cons_of_mem _ hx))

theorem gqLastNS_run (ch : UInt8) (hch : isSpace ch = false) (a : Bytes) (l : UInt8) (hne : a ≠ [])
    (h : ∀ c ∈ a, c = ch) : gqLastNS a l = ch := by
  induction a generalizing l with
  | nil => exact absurd rfl hne
  | cons c cs ih =>
    have e : c = ch := h c (List.mem_cons_self ..)
    subst e
    rw [gqLastNS, hch]
    cases cs with
    | nil => rfl
    | cons d ds => exact ih _ (by simp) (fun x hx => h x (List.mem_cons_of_mem _ hx))

/-- the state does not matter once a byte that is not white space has been seen -/
theorem gqLastNS_state (a : Bytes) (l l' : UInt8) :
    gqLastNS a l = gqLastNS a l' ∨ (gqLastNS a l = l ∧ gqLastNS a l' = l') := by
  induction a generalizing l l' with
  | nil => exact .inr ⟨rfl, rfl⟩
  | cons c cs ih =>
    rw [gqLastNS, gqLastNS]
    cases isSpace c with
    | true => exact ih l l'
    | false => exact .inl rfl

theorem gq_takeWhile_all {α} (p : α → Bool) : ∀ (A B : List α), A.length ≤ ((A ++ B).takeWhile p).length →
    ∀ x ∈ A, p x = true
  | [], _, _ => fun _ hx => nomatch hx
  | a :: A, B, h => by
    simp only [List.cons_append, List.takeWhile] at h
    cases hp : p a with
    | false => rw [hp] at h; simp at h
    | true =>
      rw [hp] at h
      simp only [List.length_cons] at h
      intro x hx
      rcases List.mem_cons.mp hx with rfl | hx
      · exact hp
      · exact gq_takeWhile_all p A B (by omega) x hx

theorem gq_length_takeWhile_le {α} (p : α → Bool) : ∀ l : List α, (l.takeWhile p).length ≤ l.length
  | [] => Nat.le_refl _
  | a :: l => by
    simp only [List.takeWhile]
    cases p a with
    | true => simp only [List.length_cons]; have := gq_length_takeWhile_le p l; omega
    | false => simp

theorem gq_drop_takeWhile {α} (p : α → Bool) : ∀ l : List α, l.drop (l.takeWhile p).length = l.dropWhile p
  | [] => rfl
  | a :: l => by
    simp only [List.takeWhile, List.dropWhile]
    cases p a with
    | true => simpa using gq_drop_takeWhile p l
    | false => rfl

theorem gq_mem_takeWhile {α} (p : α → Bool) : ∀ (l : List α) (x : α), x ∈ l.takeWhile p → p x = true
  | [], _, h => nomatch h
  | a :: l, x, h => by
    simp only [List.takeWhile] at h
    cases hp : p a with
    | false => rw [hp] at h; cases h
    | true =>
      rw [hp] at h
      rcases List.mem_cons.mp h with rfl | h
      · exact hp
      · exact gq_mem_takeWhile p l x h

/-- the shape of an underline: spaces, a run of one of the two bytes, white space -/
theorem gq_bar_lastNS (line : Bytes) (ch : UInt8) (h : matchesSetextHeadingBar line = .ok (ch, true)) :
    gqLastNS line 0 = 45 ∨ gqLastNS line 0 = 61 := by
  unfold matchesSetextHeadingBar at h
  simp only [bind, Except.bind, pure, Except.pure] at h
  split at h
  · cases h
  · have hsl : slice line (↑(countLeading 32 line)) (↑line.length) = .ok (line.dropWhile (· == 32)) := by
      have hle : countLeading 32 line ≤ line.length := by
        unfold countLeading; exact gq_length_takeWhile_le ..
      unfold slice sliceB
      rw [if_pos ⟨by omega, by omega, Int.le_refl _⟩]
      simp only [sub, Int.toNat_natCast]
      rw [List.take_of_length_le (by simp)]
      unfold countLeading
      rw [gq_drop_takeWhile]
    rw [hsl] at h
    simp only at h
    cases hi : idx line ((line.length : Int) - 1) with
    | error x => rw [hi] at h; cases h
    | ok last =>
      rw [hi] at h
      simp only at h
      -- the decomposition
      have e0 : line = line.takeWhile (· == 32) ++ line.dropWhile (· == 32) := (List.takeWhile_append_dropWhile ..).symm
      generalize hrest : line.dropWhile (· == 32) = rest at h e0
      have hsp : ∀ c ∈ line.takeWhile (· == 32), isSpace c = true := fun c hc => by
        have := gq_mem_takeWhile _ _ c hc
        have e : c = 32 := by simpa using this
        subst e; rfl
      have hlen : line.length = countLeading 32 line + rest.length := by
        have := congrArg List.length e0
        rw [List.length_append] at this
        unfold countLeading
        exact this
      -- a run of `ch'` of length `lv > 0` that ends at `stop`
      have key : ∀ ch' : UInt8, isSpace ch' = false → 0 < countLeading ch' rest →
          ((countLeading 32 line : Int) + (countLeading ch' rest : Int) =
            if isSpace last = true then (line.length : Int) - (trimRightSpaceLength rest : Int) else (line.length : Int)) →
          gqLastNS line 0 = ch' := by
        intro ch' hch' hpos hstop
        have e1 : rest = rest.takeWhile (· == ch') ++ rest.dropWhile (· == ch') :=
          (List.takeWhile_append_dropWhile ..).symm
        have hrun : ∀ c ∈ rest.takeWhile (· == ch'), c = ch' := fun c hc => by
          simpa using gq_mem_takeWhile _ _ c hc
        have hne : rest.takeWhile (· == ch') ≠ [] := by
          intro e; unfold countLeading at hpos; rw [e] at hpos; exact absurd hpos (by simp)
        have hl2 : rest.length = countLeading ch' rest + (rest.dropWhile (· == ch')).length := by
          have := congrArg List.length e1
          rw [List.length_append] at this
          unfold countLeading
          exact this
        have htr : trimRightSpaceLength rest ≤ rest.length := by
          unfold trimRightSpaceLength
          exact Nat.le_trans (gq_length_takeWhile_le ..) (by simp)
        have hws : ∀ c ∈ rest.dropWhile (· == ch'), isSpace c = true := by
          split at hstop
          · have hle : (rest.dropWhile (· == ch')).length ≤ trimRightSpaceLength rest := by omega
            unfold trimRightSpaceLength at hle
            have e2 : rest.reverse = (rest.dropWhile (· == ch')).reverse ++ (rest.takeWhile (· == ch')).reverse := by
              conv => lhs; rw [e1]
              simp
            rw [e2] at hle
            intro c hc
            exact gq_takeWhile_all isSpace _ _ (by simpa using hle) c (List.mem_reverse.mpr hc)
          · have : (rest.dropWhile (· == ch')).length = 0 := by omega
            rw [List.length_eq_zero_iff.mp this]
            exact fun _ hx => nomatch hx
        rw [e0, e1, gqLastNS_append, gqLastNS_append, gqLastNS_space _ _ hsp, gqLastNS_space _ _ hws]
        exact gqLastNS_run ch' hch' _ _ hne hrun
      by_cases h1 : countLeading 61 rest = 0
      · simp only [h1] at h
        by_cases h2 : 0 < countLeading 45 rest
        · left
          refine key 45 (by decide) h2 ?_
          by_cases hc : ((countLeading 32 line : Int) + (countLeading 45 rest : Int) =
              if isSpace last = true then (line.length : Int) - (trimRightSpaceLength rest : Int) else (line.length : Int))
          · exact hc
          · exfalso
            simp [hc] at h
        · exfalso
          have e2 : countLeading 45 rest = 0 := by omega
          simp [e2] at h
      · right
        refine key 61 (by decide) (by omega) ?_
        by_cases hc : ((countLeading 32 line : Int) + (countLeading 61 rest : Int) =
            if isSpace last = true then (line.length : Int) - (trimRightSpaceLength rest : Int) else (line.length : Int))
        · exact hc
        · exfalso
          have hb : (((countLeading 61 rest : Nat) : Int) == 0) = false := by
            rw [beq_eq_false_iff_ne]; omega
          simp only [hb] at h
          simp [hc] at h

theorem gq_space_eq (c : UInt8) (h : (c == 10) = false) : (c == 32 || c == 9 || c == 13) = isSpace c := by
  have h10 : c ≠ 10 := by simpa using h
  revert h10
  revert c
  apply forall_uint8; decide +kernel

/-- the first line of the source (with its line feed) does not end in `-` / `=` -/
theorem gq_noBarEndGo_first : ∀ (s : Bytes) (l : UInt8), noBarEndGo s l = true →
    gqEndOK (gqLastNS (s.take (lineLen s)) l) = true
  | [], l, h => by simpa [noBarEndGo, lineLen, gqLastNS] using h
  | c :: cs, l, h => by
    rw [noBarEndGo] at h
    rw [lineLen]
    cases hc : c == 10 with
    | true =>
      rw [hc] at h
      simp only [if_true, Bool.and_eq_true] at h
      have e : c = 10 := by simpa using hc
      subst e
      simpa [gqLastNS, isSpace] using h.1
    | false =>
      rw [hc] at h
      simp only [Bool.false_eq_true, if_false] at h ⊢
      rw [Nat.add_comm, List.take_succ_cons, gqLastNS, ← gq_space_eq c hc]
      exact gq_noBarEndGo_first cs _ h

/-- every suffix of the source is accepted from some state -/
theorem gq_noBarEndGo_drop : ∀ (p : Nat) (s : Bytes) (l : UInt8), noBarEndGo s l = true →
    ∃ l', noBarEndGo (s.drop p) l' = true
  | 0, s, l, h => ⟨l, h⟩
  | _ + 1, [], l, h => ⟨l, h⟩
  | p + 1, c :: cs, l, h => by
    rw [noBarEndGo] at h
    rw [List.drop_succ_cons]
    split at h
    · simp only [Bool.and_eq_true] at h
      exact gq_noBarEndGo_drop p cs 0 h.2
    · exact gq_noBarEndGo_drop p cs _ h

/-- **the heart**: no line ends (up to white space) in `-` or `=`, so no rest of a line is a setext heading underline -/
theorem noBar_of_noBarEnd (s : Bytes) (h : noBarEnd s = true) : GM.Blocks.NoBar s := by
  intro p hp c hbar
  have e : sub s p (lineEnd s p) = (s.drop p).take (lineLen (s.drop p)) := by
    unfold sub lineEnd
    rw [if_pos (by omega), Nat.add_sub_cancel_left]
  rw [e] at hbar
  obtain ⟨l', hl'⟩ := gq_noBarEndGo_drop p s 0 h
  have h1 := gq_noBarEndGo_first _ _ hl'
  have h2 := gq_bar_lastNS _ c hbar
  rcases gqLastNS_state ((s.drop p).take (lineLen (s.drop p))) 0 l' with e0 | ⟨e0, _⟩
  · rw [← e0] at h1
    rcases h2 with h2 | h2 <;> rw [h2] at h1 <;> exact absurd h1 (by decide)
  · rcases h2 with h2 | h2 <;> rw [h2] at e0 <;> exact absurd e0 (by decide)

/-- the spec-level class of quoted contents: no tab, no carriage return, a final line feed, no line ends in `-` / `=` -/
structure GQClass (S : Bytes) : Prop where
  tf : ∀ c ∈ S, c ≠ 9
  cr : ∀ c ∈ S, c ≠ 13
  nl : S.getLast? = some 10
  nb : noBarEnd S = true

theorem gqClass_classG {S : Bytes} (h : GQClass S) : GM.Blocks.C08ClassG S where
  tf := h.tf
  cr := h.cr
  ne := fun e => by have := h.nl; rw [e] at this; cases this
  last := fun c hc => by
    rw [h.nl] at hc
    cases hc
    decide
  nobar := noBar_of_noBarEnd S h.nb

theorem gq_go_marker (X : Bytes) (l : UInt8) : noBarEndGo (62 :: 32 :: X) l = noBarEndGo X 62 := by
  simp [noBarEndGo]

/-- the marker `> ` never is the end of a line that ends in `-` / `=` -/
theorem gq_noBarEndGo_quote : ∀ (s : Bytes) (b : Bool) (l l' : UInt8), (b = true → gqEndOK l' = true) →
    gqEndOK l = gqEndOK l' → noBarEndGo (quoteLines s b) l = noBarEndGo s l'
  | [], b, l, l', _, h => by
    rw [quoteLines, noBarEndGo]; exact h
  | c :: cs, false, l, l', _, h => by
    show noBarEndGo (c :: quoteLines cs (c == 10)) l = _
    rw [noBarEndGo, noBarEndGo]
    cases hc : c == 10 with
    | true =>
      simp only [if_true]
      rw [h, gq_noBarEndGo_quote cs true 0 0 (fun _ => rfl) rfl]
    | false =>
      simp only [Bool.false_eq_true, if_false]
      refine gq_noBarEndGo_quote cs false _ _ (fun e => by cases e) ?_
      split
      · exact h
      · rfl
  | c :: cs, true, l, l', hb, _ => by
    show noBarEndGo (62 :: 32 :: c :: quoteLines cs (c == 10)) l = _
    rw [gq_go_marker, noBarEndGo, noBarEndGo]
    cases hc : c == 10 with
    | true =>
      simp only [if_true]
      rw [hb rfl, gq_noBarEndGo_quote cs true 0 0 (fun _ => rfl) rfl]
      rfl
    | false =>
      simp only [Bool.false_eq_true, if_false]
      refine gq_noBarEndGo_quote cs false _ _ (fun e => by cases e) ?_
      split
      · rw [hb rfl]; rfl
      · rfl

/-- SPEC-LEVEL route: the prefixed source has the property iff the source has it -/
theorem gq_noBarEnd_quoteLines (s : Bytes) : noBarEnd (quoteLines s true) = noBarEnd s :=
  gq_noBarEndGo_quote s true 0 0 (fun _ => rfl) rfl

theorem gq_noBarEnd_quoteLinesN (k : Nat) (s : Bytes) : noBarEnd (quoteLinesN k s) = noBarEnd s := by
  induction k with
  | zero => rfl
  | succ k ih => rw [quoteLinesN, gq_noBarEnd_quoteLines, ih]

theorem gqClass_prefix {S : Bytes} (h : GQClass S) : GQClass (quotePrefix S) where
  tf := fun c hc => by
    rcases mem_quotePrefixGo S true c hc with rfl | rfl | hm
    · decide
    · decide
    · exact h.tf c hm
  cr := fun c hc => by
    rcases mem_quotePrefixGo S true c hc with rfl | rfl | hm
    · decide
    · decide
    · exact h.cr c hm
  nl := getLast_quotePrefixGoN S true 10 h.nl
  nb := by rw [← quoteLines_eq, gq_noBarEnd_quoteLines]; exact h.nb

theorem gqClass_quoteLinesN {S : Bytes} (h : GQClass S) : ∀ k, GQClass (quoteLinesN k S)
  | 0 => h
  | k + 1 => by
    rw [quoteLinesN, quoteLines_eq]
    exact gqClass_prefix (gqClass_quoteLinesN h k)

/-- the class of the block-quote simulation (lists and blank lines) at EVERY level of nesting -/
theorem gqClass_classG_N {S : Bytes} (h : GQClass S) (k : Nat) :
    GM.Blocks.C08ClassG (quoteLinesN k S) ∧ (quoteLinesN k S).getLast? = some 10 :=
  ⟨gqClass_classG (gqClass_quoteLinesN h k), (gqClass_quoteLinesN h k).nl⟩

theorem gqclean_facts : ∀ c : UInt8, gqcleanByte c = true → c ≠ 9 ∧ c ≠ 13 ∧ c ≠ 91 := by
  apply forall_uint8; decide +kernel

theorem gqfrag_partsG (d : KDoc) (h : GQFrag d) :
    KFrag d ∧ d.items ≠ [] ∧ (∀ c ∈ spellK d, gqcleanByte c = true) ∧ noBarEnd (spellK d) = true := by
  have := h
  simp only [GQFrag, gqfragB, Bool.and_eq_true, List.all_eq_true, Bool.not_eq_true', List.isEmpty_eq_false_iff] at this
  exact ⟨this.1.1.1, this.1.1.2, this.1.2, this.2⟩

theorem gqfrag_kfrag (d : KDoc) (h : GQFrag d) : KFrag d := (gqfrag_partsG d h).1

theorem gqfrag_items_ne (d : KDoc) (h : GQFrag d) : d.items ≠ [] := (gqfrag_partsG d h).2.1

theorem gqclean_no_bracket (d : KDoc) (h : GQFrag d) : ∀ c ∈ spellK d, c ≠ 91 :=
  fun c hcm => (gqclean_facts c ((gqfrag_partsG d h).2.2.1 c hcm)).2.2

theorem gqclean_gqClass (d : KDoc) (h : GQFrag d) : GQClass (spellK d) := by
  obtain ⟨hk, hne, hc, hb⟩ := gqfrag_partsG d h
  exact
    { tf := fun c hcm => (gqclean_facts c (hc c hcm)).1
      cr := fun c hcm => (gqclean_facts c (hc c hcm)).2.1
      nl := (endsNl_spellKQ d (kfrag_okK d hk).1 hne).getLast
      nb := hb }

/-- the contents of a stage-22 document are in the class of the block-quote simulation with lists and blank lines -/
theorem gqclean_classG (d : KDoc) (h : GQFrag d) : GM.Blocks.C08ClassG (spellK d) :=
  gqClass_classG (gqclean_gqClass d h)

/-- … and so is the source at every level of nesting (`spellNQ k d = quoteLinesN (k + 1) (spellK d)`) -/
theorem gqclean_classG_N (d : KDoc) (h : GQFrag d) (k : Nat) :
    GM.Blocks.C08ClassG (quoteLinesN k (spellK d)) ∧ (quoteLinesN k (spellK d)).getLast? = some 10 :=
  gqClass_classG_N (gqclean_gqClass d h) k

theorem guqfrag_partsG (d : UDocS) (h : GUQFrag d) :
    UFrag d ∧ d.items ≠ [] ∧ (∀ it ∈ d.items, it.block.isIc = false) ∧ (∀ c ∈ spellU d, gqcleanByte c = true) ∧
      noBarEnd (spellU d) = true := by
  have := h
  simp only [GUQFrag, guqfragB, Bool.and_eq_true, List.all_eq_true, Bool.not_eq_true', List.isEmpty_eq_false_iff] at this
  exact ⟨this.1.1.1.1, this.1.1.1.2, this.1.1.2, this.1.2, this.2⟩

theorem guqfrag_ufrag {d : UDocS} (h : GUQFrag d) : UFrag d := (guqfrag_partsG d h).1

theorem guqfrag_items_ne {d : UDocS} (h : GUQFrag d) : d.items ≠ [] := (guqfrag_partsG d h).2.1

theorem guqfrag_noic {d : UDocS} (h : GUQFrag d) : ∀ it ∈ d.items, it.block.isIc = false := (guqfrag_partsG d h).2.2.1

theorem guqclean_no_bracket (d : UDocS) (h : GUQFrag d) : ∀ c ∈ spellU d, c ≠ 91 :=
  fun c hcm => (gqclean_facts c ((guqfrag_partsG d h).2.2.2.1 c hcm)).2.2

theorem guqclean_gqClass (d : UDocS) (h : GUQFrag d) : GQClass (spellU d) := by
  obtain ⟨hu, hne, _, hc, hb⟩ := guqfrag_partsG d h
  exact
    { tf := fun c hcm => (gqclean_facts c (hc c hcm)).1
      cr := fun c hcm => (gqclean_facts c (hc c hcm)).2.1
      nl := (uqendsNl_spellU d (ufrag_parts13 d hu).1 hne).getLast
      nb := hb }

theorem guqclean_classG (d : UDocS) (h : GUQFrag d) : GM.Blocks.C08ClassG (spellU d) :=
  gqClass_classG (guqclean_gqClass d h)

theorem guqclean_classG_N (d : UDocS) (h : GUQFrag d) (k : Nat) :
    GM.Blocks.C08ClassG (quoteLinesN k (spellU d)) ∧ (quoteLinesN k (spellU d)).getLast? = some 10 :=
  gqClass_classG_N (guqclean_gqClass d h) k

theorem gq_countLeading_space (ch : UInt8) (hch : isSpace ch = false) (ws : Bytes) (hws : ∀ x ∈ ws, isSpace x = true) :
    countLeading ch ws = 0 := by
  cases ws with
  | nil => rfl
  | cons w ws' =>
    refine det_countLeading_head_ne ch w ws' ?_
    intro e
    have := hws w (List.mem_cons_self ..)
    rw [e, hch] at this
    cases this

theorem gq_takeWhile_stop {α} (p : α → Bool) (y : α) (hy : p y = false) : ∀ (A : List α), (∀ x ∈ A, p x = true) →
    (A ++ [y]).takeWhile p = A
  | [], _ => by simp [List.takeWhile, hy]
  | a :: A, h => by
    simp only [List.cons_append, List.takeWhile, h a (List.mem_cons_self ..)]
    rw [gq_takeWhile_stop p y hy A (fun x hx => h x (List.mem_cons_of_mem _ hx))]

/-- `-` or `=` followed by white space only is an underline -/
theorem gq_bar_ok (ch : UInt8) (hch : ch = 45 ∨ ch = 61) (ws : Bytes) (hws : ∀ x ∈ ws, isSpace x = true) :
    matchesSetextHeadingBar (ch :: ws) = .ok (ch, true) := by
  have hsp : isSpace ch = false := by rcases hch with rfl | rfl <;> rfl
  have h32 : countLeading 32 (ch :: ws) = 0 :=
    det_countLeading_head_ne 32 ch ws (by rcases hch with rfl | rfl <;> decide)
  have hsl : slice (ch :: ws) 0 ((ch :: ws).length : Nat) = .ok (ch :: ws) := by
    unfold slice sliceB
    rw [if_pos ⟨Int.le_refl _, by omega, Int.le_refl _⟩]
    simp [sub]
  obtain ⟨last, hlast, hget⟩ := GM.Blocks.idx_ok (ch :: ws) (((ch :: ws).length : Nat) - 1)
    (by simp only [List.length_cons]; omega) (by omega)
  have htrim : trimRightSpaceLength (ch :: ws) = ws.length := by
    unfold trimRightSpaceLength
    rw [List.reverse_cons, gq_takeWhile_stop isSpace ch hsp _ (fun x hx => hws x (List.mem_reverse.mp hx))]
    simp
  have hrun : countLeading ch (ch :: ws) = 1 := by
    have := gq_countLeading_space ch hsp ws hws
    unfold countLeading at this ⊢
    simp only [List.takeWhile, beq_self_eq_true, List.length_cons, this]
  have hstop : (if isSpace last = true then (((ch :: ws).length : Nat) : Int) - ((trimRightSpaceLength (ch :: ws) : Nat) : Int)
      else (((ch :: ws).length : Nat) : Int)) = 1 := by
    rw [htrim]
    cases ws with
    | nil =>
      have e : last = ch := by simpa using hget.symm
      rw [e, hsp]; rfl
    | cons w ws' =>
      have hm : last ∈ w :: ws' := by
        have e : ((((ch :: w :: ws').length : Nat) : Int) - 1).toNat = ws'.length + 1 := by
          simp only [List.length_cons]; omega
        rw [e, List.getElem?_cons_succ] at hget
        exact List.mem_of_getElem? hget
      rw [hws last hm, if_pos rfl]
      simp only [List.length_cons]; omega
  unfold matchesSetextHeadingBar
  simp only [bind, Except.bind, pure, Except.pure, h32]
  simp only [Int.cast_ofNat_Int]
  rw [if_neg (by omega), hsl]
  simp only [hlast]
  rw [hstop]
  rcases hch with rfl | rfl
  · have h61 : countLeading 61 ((45 : UInt8) :: ws) = 0 := det_countLeading_head_ne 61 45 ws (by decide)
    simp [h61, hrun]
  · simp [hrun]

theorem gq_endOK_false : ∀ c : UInt8, gqEndOK c = false → c = 45 ∨ c = 61 := by
  apply forall_uint8; decide +kernel

/-- no rest of a line of a suffix of the source is an underline -/
def GQNoBarL (t : Bytes) : Prop :=
  ∀ p, p < t.length → ∀ c, matchesSetextHeadingBar ((t.drop p).take (lineLen (t.drop p))) ≠ .ok (c, true)

theorem gqNoBarL_of_noBar (s : Bytes) (h : GM.Blocks.NoBar s) : GQNoBarL s := by
  intro p hp c
  have e : sub s p (lineEnd s p) = (s.drop p).take (lineLen (s.drop p)) := by
    unfold sub lineEnd
    rw [if_pos (by omega), Nat.add_sub_cancel_left]
  rw [← e]
  exact h p hp c

theorem gqNoBarL_tail {c : UInt8} {cs : Bytes} (h : GQNoBarL (c :: cs)) : GQNoBarL cs := by
  intro p hp ch
  have := h (p + 1) (by simp only [List.length_cons]; omega) ch
  rwa [List.drop_succ_cons] at this

theorem gq_noBarEndGo_of : ∀ (s : Bytes) (l : UInt8), GQNoBarL s →
    (gqEndOK l = false → ¬ ∀ x ∈ s.take (lineLen s), isSpace x = true) → noBarEndGo s l = true
  | [], l, _, hl => by
    rw [noBarEndGo]
    cases hg : gqEndOK l with
    | true => rfl
    | false => exact absurd (fun x hx => nomatch hx) (hl hg)
  | c :: cs, l, hP, hl => by
    rw [noBarEndGo]
    rw [lineLen] at hl
    cases hc : c == 10 with
    | true =>
      rw [hc] at hl
      simp only [if_true, Bool.and_eq_true]
      have e : c = 10 := by simpa using hc
      subst e
      refine ⟨?_, gq_noBarEndGo_of cs 0 (gqNoBarL_tail hP) (fun h => by cases h)⟩
      cases hg : gqEndOK l with
      | true => rfl
      | false =>
        refine absurd ?_ (hl hg)
        intro x hx
        have : x = 10 := by simpa using hx
        subst this; rfl
    | false =>
      rw [hc] at hl
      simp only [Bool.false_eq_true, if_false] at hl ⊢
      rw [Nat.add_comm, List.take_succ_cons] at hl
      rw [gq_space_eq c hc]
      refine gq_noBarEndGo_of cs _ (gqNoBarL_tail hP) ?_
      cases hs : isSpace c with
      | true =>
        simp only [if_true]
        intro hg hall
        refine hl hg ?_
        intro x hx
        rcases List.mem_cons.mp hx with rfl | hx
        · exact hs
        · exact hall x hx
      | false =>
        simp only [Bool.false_eq_true, if_false]
        intro hg hall
        have hch : c = 45 ∨ c = 61 := gq_endOK_false c hg
        have h0 := hP 0 (by simp) c
        rw [List.drop_zero, lineLen, hc] at h0
        simp only [Bool.false_eq_true, if_false] at h0
        rw [Nat.add_comm, List.take_succ_cons] at h0
        exact h0 (gq_bar_ok c hch _ hall)

theorem noBarEnd_of_noBar (s : Bytes) (h : GM.Blocks.NoBar s) : noBarEnd s = true :=
  gq_noBarEndGo_of s 0 (gqNoBarL_of_noBar s h) (fun hg => by cases hg)

theorem gqClass_of_classG {S : Bytes} (h : GM.Blocks.C08ClassG S) (hnl : S.getLast? = some 10) : GQClass S :=
  { tf := h.tf, cr := h.cr, nl := hnl, nb := noBarEnd_of_noBar S h.nobar }

/-- the class of the block-quote simulation with lists and blank lines is kept by the prefix (for sources that end with a
    line feed) -/
theorem c08ClassG_prefixN {S : Bytes} (h : GM.Blocks.C08ClassG S) (hnl : S.getLast? = some 10) :
    GM.Blocks.C08ClassG (quotePrefix S) ∧ (quotePrefix S).getLast? = some 10 :=
  ⟨gqClass_classG (gqClass_prefix (gqClass_of_classG h hnl)), (gqClass_prefix (gqClass_of_classG h hnl)).nl⟩

end GM.Proof.CMFrag
end CMFragClassG

/-
  section CMFragClassG21 — stage 23 of GM.Spec.CMFrag (a stage-21 document inside nested block quotes, the wider class
  of stage 22): the source `spellF21 d` of the contents (`GF21QFrag d`) ends with a line feed and is in the spec-level
  class `GQClass`, so `quoteLinesN k (spellF21 d)` is in the class `GM.Blocks.C08ClassG` of the
  block-quote simulation with lists and blank lines at every level `k` (`gf21qclean_classG_N`); it contains no `[`
  (`gf21qclean_no_bracket`) and the document has no indented code block (`gf21qfrag_noic`).
-/
section CMFragClassG21
namespace GM.Proof.CMFrag
open GM GM.Text GM.Blocks GM.Spec.CM GM.Spec.CMFrag

theorem gf21q_parts (d : F21Doc) (h : GF21QFrag d) :
    F21Frag d ∧ d.items ≠ [] ∧ (∀ it ∈ d.items, it.block.isIc = false) ∧ (∀ c ∈ spellF21 d, gqcleanByte c = true) ∧
      noBarEnd (spellF21 d) = true := by
  have := h
  simp only [GF21QFrag, gf21qfragB, Bool.and_eq_true, List.all_eq_true, Bool.not_eq_true', List.isEmpty_eq_false_iff] at this
  exact ⟨this.1.1.1.1, this.1.1.1.2, this.1.1.2, this.1.2, this.2⟩

theorem gf21qfrag_f21frag {d : F21Doc} (h : GF21QFrag d) : F21Frag d := (gf21q_parts d h).1

theorem gf21qfrag_items_ne {d : F21Doc} (h : GF21QFrag d) : d.items ≠ [] := (gf21q_parts d h).2.1

theorem gf21qfrag_noic {d : F21Doc} (h : GF21QFrag d) : ∀ it ∈ d.items, it.block.isIc = false := (gf21q_parts d h).2.2.1

/-- no `[` in the contents: no link reference definition, no link, no image -/
theorem gf21qclean_no_bracket (d : F21Doc) (h : GF21QFrag d) : ∀ c ∈ spellF21 d, c ≠ 91 :=
  fun c hcm => (gqclean_facts c ((gf21q_parts d h).2.2.2.1 c hcm)).2.2

theorem gf21q_endsNl_block (b : FBlockS21) (hok : f21blockOKS b = true) : EndsNlQ (spellFBlock21 b) := by
  cases b with
  | para lines =>
    simp only [f21blockOKS, Bool.and_eq_true, Bool.not_eq_true', List.isEmpty_eq_false_iff] at hok
    rw [spellFBlock21]
    exact endsNl_flatMapQ _ lines hok.1.1.1 (fun x _ => ⟨spellFLine21 x, rfl⟩)
  | heading level text => exact ⟨_, rfl⟩
  | thematic c n => exact ⟨_, rfl⟩
  | fcode tilde n info lines => exact ⟨_, rfl⟩
  | icode lines =>
    simp only [f21blockOKS, Bool.and_eq_true, Bool.not_eq_true', List.isEmpty_eq_false_iff] at hok
    rw [spellFBlock21]
    exact endsNl_flatMapQ _ lines hok.1 (fun x _ => ⟨[32, 32, 32, 32] ++ x, rfl⟩)

theorem gf21q_endsNl_spellF21 (d : F21Doc) (hok : ∀ it ∈ d.items, f21blockOKS it.block = true) (hne : d.items ≠ []) :
    EndsNlQ (spellF21 d) := by
  rw [spellF21]
  refine EndsNlQ.trailQ ?_ _
  exact endsNl_flatMapQ _ d.items hne (fun it hit => (gf21q_endsNl_block it.block (hok it hit)).prepend _)

theorem gf21qclean_gqClass (d : F21Doc) (h : GF21QFrag d) : GQClass (spellF21 d) := by
  obtain ⟨hf, hne, _, hc, hb⟩ := gf21q_parts d h
  exact
    { tf := fun c hcm => (gqclean_facts c (hc c hcm)).1
      cr := fun c hcm => (gqclean_facts c (hc c hcm)).2.1
      nl := (gf21q_endsNl_spellF21 d (f21frag_parts d hf).1 hne).getLast
      nb := hb }

theorem gf21qclean_classG (d : F21Doc) (h : GF21QFrag d) : GM.Blocks.C08ClassG (spellF21 d) :=
  gqClass_classG (gf21qclean_gqClass d h)

/-- the class of the block-quote simulation (lists and blank lines) at every level of nesting -/
theorem gf21qclean_classG_N (d : F21Doc) (h : GF21QFrag d) (k : Nat) :
    GM.Blocks.C08ClassG (quoteLinesN k (spellF21 d)) ∧ (quoteLinesN k (spellF21 d)).getLast? = some 10 :=
  gqClass_classG_N (gf21qclean_gqClass d h) k

end GM.Proof.CMFrag
end CMFragClassG21
