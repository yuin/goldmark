/-
  GM.Proof.ShiftSimContW — the `Continue` contracts of the shift simulation WITHOUT the assumption that the source ends
  with a line feed (`ContinueSimW` of GM.Proof.ShiftSimDriver) for every parser but the two list parsers, and their
  bundle `psimW_notList`. Only fencedCodeBlockParser.Continue can end in the limbo relation (its last
  `AdvanceAndSetPadding` may get -1 on a last line without `\n`); it then answers "Continue, no children".
-/
import GM.Proof.ShiftSimMain
import GM.Proof.BlocksNoPanicAll

namespace GM.Blocks.Sh
open GM GM.Text GM.Spec GM.Proof.Reader GM.Blocks

/-- the full relation afterwards is more than `ContinueSimW` asks for -/
theorem cw_of_post {F : Frame} {b : Bytes} {m n : Except Panic (PState × St)}
    (h : P2 (fun x y sA' sB' => y = x ∧ SR F b sA' sB') m n) :
    P2 (fun x y sA' sB' => y = x ∧ SRLim F b sA' sB' ∧ ((x.cont = true ∧ x.hasChildren = false) ∨ SR F b sA' sB')) m n :=
  h.mono fun _ _ _ _ ⟨e, h1⟩ => ⟨e, h1.limbo, .inr h1⟩

/-! ### the parsers whose `Continue` is `return Close` -/

theorem setextContinue_simW (F : Frame) (b : Bytes) : ContinueSimW F b .setext := by
  intro node sA sB h _
  exact P2.pure ⟨rfl, h.limbo, .inr h⟩

theorem thematicContinue_simW (F : Frame) (b : Bytes) : ContinueSimW F b .thematic := by
  intro node sA sB h _
  exact P2.pure ⟨rfl, h.limbo, .inr h⟩

theorem atxContinue_simW (F : Frame) (b : Bytes) : ContinueSimW F b .atx := by
  intro node sA sB h _
  exact P2.pure ⟨rfl, h.limbo, .inr h⟩

/-! ### the parsers whose `Continue` keeps the full relation whatever the end of the source -/

theorem paragraphContinue_simW (F : Frame) (b : Bytes) : ContinueSimW F b .paragraph :=
  fun node sA sB h _ => cw_of_post (cw_paragraphContinue F b node sA sB h)

theorem codeContinue_simW (F : Frame) (hF : F.OK) (b : Bytes) : ContinueSimW F b .code :=
  fun node sA sB h _ => cw_of_post (cw_codeContinue F hF b node sA sB h)

theorem blockquoteContinue_simW (F : Frame) (b : Bytes) : ContinueSimW F b .blockquote :=
  fun node sA sB h _ => cw_of_post (cw_blockquoteContinue F b node sA sB h)

theorem htmlContinue_simW (F : Frame) (b : Bytes) : ContinueSimW F b .html :=
  fun node sA sB h _ => cw_of_post (cw_htmlContinue F b node sA sB h)

theorem fencedContinue_simW (F : Frame) (hF : F.OK) (b : Bytes) : ContinueSimW F b .fenced :=
  fun node _ _ h ⟨_, hc, hp⟩ =>
    fencedContinue_of_tail b (fun _ _ _ h' => ⟨rfl, h'.limbo, .inr h'⟩) node h hc hp
      (fun _ _ lo fd h3 => cw_fencedTail_p2 hF h3 _ _ node lo fd)

theorem psimW_notList (F : Frame) (hF : F.OK) (b : Bytes) : PSimW F b NotList where
  op := (psim_notList F hF b).op
  co := by
    intro bp h
    cases bp with
    | setext => exact setextContinue_simW F b
    | thematic => exact thematicContinue_simW F b
    | list => exact absurd rfl h.1
    | listItem => exact absurd rfl h.2
    | code => exact codeContinue_simW F hF b
    | atx => exact atxContinue_simW F b
    | fenced => exact fencedContinue_simW F hF b
    | blockquote => exact blockquoteContinue_simW F b
    | html => exact htmlContinue_simW F b
    | paragraph => exact paragraphContinue_simW F b
  coEof := (psim_notList F hF b).coEof
  cl := (psim_notList F hF b).cl

end GM.Blocks.Sh
