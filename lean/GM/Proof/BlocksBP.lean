/-
  GM.Proof.BlocksBP — case lemmas about the ten block parsers `BP`: which of them are containers, that a
  container's node kind is not raw, and the nine parser lists `triggered` can answer (parser.go:842-850).
  Proofs by cases on a `BP` in a large context go through these instead.
-/
import GM.Proof.BlocksInv
import GM.Proof.BlocksWF0

namespace GM.Blocks
open GM.Proof.BlocksWF0 (isRaw)

theorem BP.isContainer_cases (bp : BP) (h : bp.isContainer = true) :
    bp = .list ∨ bp = .listItem ∨ bp = .blockquote := by
  cases bp <;> first | exact .inl rfl | exact .inr (.inl rfl) | exact .inr (.inr rfl) | cases h

theorem BP.isContainer_notRaw (bp : BP) (h : bp.isContainer = true) : isRaw bp.kind = false := by
  rcases BP.isContainer_cases bp h with rfl | rfl | rfl <;> rfl

theorem ite_some_cases {α} {c : Prop} [Decidable c] {a l : α} {r : Option α}
    (h : (if c then some a else r) = some l) : l = a ∨ r = some l := by
  by_cases hc : c
  · rw [if_pos hc] at h; exact .inl (Option.some.inj h).symm
  · rw [if_neg hc] at h; exact .inr h

/-- the rows of the table `triggered`, in its order -/
theorem triggered_cases {c : UInt8} {l : List BP} (h : triggered c = some l) :
    l = [.setext, .thematic, .list, .listItem] ++ freeParsers ∨ l = [.setext] ++ freeParsers ∨
    l = [.thematic, .list, .listItem] ++ freeParsers ∨ l = [.thematic] ++ freeParsers ∨
    l = [.list, .listItem] ++ freeParsers ∨ l = [.atx] ++ freeParsers ∨ l = [.fenced] ++ freeParsers ∨
    l = [.blockquote] ++ freeParsers ∨ l = [.html] ++ freeParsers := by
  unfold triggered at h
  iterate 8 refine (ite_some_cases h).imp_right fun h => ?_
  exact (ite_some_cases h).resolve_right nofun

end GM.Blocks
