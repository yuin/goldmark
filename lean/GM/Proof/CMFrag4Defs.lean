/-
  GM.Proof.CMFrag4Defs — stage 4 of the fragment (ATX headings, thematic breaks): the block-phase nodes.
-/
import GM.Proof.CMFragBlockPhase

namespace GM.Proof.CMFrag
open GM GM.Text GM.Blocks

/-- a Heading node below the Document -/
def headN (level : Nat) (lines : List Segment) (b : Bool) : Blocks.Node :=
  { kind := .heading, parent := some 0, level := (level : Int), lines := lines, linesNil := false, blankPrev := b }

/-- a ThematicBreak node below the Document -/
def hrN (b : Bool) : Blocks.Node := { kind := .thematicBreak, parent := some 0, blankPrev := b }

end GM.Proof.CMFrag
