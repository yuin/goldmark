/-
  GM.Proof.Bufio — invariant of the bufio.Writer model (GM.Model.Bufio) for property C14.
-/
import GM.Model.Bufio

namespace GM.Proof.Bufio
open GM GM.Bufio

theorem under_write_spec (u : Under) (p : Bytes) :
    (u.write p).1 ≤ p.length ∧ (u.write p).2.2.acc = u.acc ++ p.take (u.write p).1 ∧
    (u.write p).2.2.mode = u.mode ∧ (u.write p).2.2.sw = u.sw ∧
    ((u.write p).2.1 = none → (u.write p).1 = p.length ∧ (u.write p).2.2.failed = u.failed) ∧
    (∀ e, (u.write p).2.1 = some e → e = .injected ∧ (u.write p).2.2.failed = true ∧ (p ≠ [] → (u.write p).1 < p.length)) ∧
    (u.mode = .ok → (u.write p).2.1 = none) := by
  unfold Under.write
  cases hm : u.mode with
  | ok => simp [Under.acc]
  | always =>
    simp [Under.acc]
    intro h; exact List.length_pos_iff.2 h
  | short =>
    simp only
    split
    · simp [Under.acc]
    · rename_i hlt
      simp [Under.acc]
      refine ⟨by omega, ?_⟩
      intro _; omega

/-- a property of the destination that every `Write` call preserves. -/
def Closed (P : Under → Prop) : Prop := ∀ u p, P u → P (u.write p).2.2

/-- `total` = all bytes handed to the bufio.Writer so far, of which `rest` is the not yet consumed tail of the
    argument of a `Write`/`WriteString` in progress (`[]` between calls). While no error has occurred, the
    destination has accepted `total` minus what is buffered or pending; after the first error the destination
    holds a strict prefix of `total`, and the sticky error is the destination's error. -/
structure Inv (P : Under → Prop) (w : W) (rest total : Bytes) : Prop where
  np : w.panicked = false
  ns : w.starved = false
  pos : 0 < w.size
  hn : w.n = w.rbuf.length
  hP : P w.u
  hok : w.err = none → w.u.failed = false ∧ w.u.acc ++ w.rbuf.reverse ++ rest = total
  herr : ∀ e, w.err = some e → e = .injected ∧ w.u.failed = true ∧ w.u.acc <+: total ∧ w.u.acc.length < total.length

variable {P : Under → Prop}

/-- handing `x` to the writer: it becomes the pending rest. -/
theorem Inv.push {w : W} {sent : Bytes} (h : Inv P w [] sent) (x : Bytes) : Inv P w x (sent ++ x) := by
  refine { h with hok := ?_, herr := ?_ }
  · intro h0
    obtain ⟨h1, h2⟩ := h.hok h0
    refine ⟨h1, ?_⟩
    rw [← h2]; simp
  · intro e' he'
    obtain ⟨h1, h2, h3, h4⟩ := h.herr e' he'
    refine ⟨h1, h2, ?_, ?_⟩
    · exact List.IsPrefix.trans h3 (List.prefix_append _ _)
    · simp only [List.length_append]; omega

/-- once the sticky error is set the pending rest is irrelevant (it is dropped). -/
theorem Inv.drop_rest {w : W} {rest total : Bytes} (h : Inv P w rest total) (e : Err) (he : w.err = some e) :
    Inv P w [] total := by
  refine { h with hok := ?_ }
  intro h0; rw [he] at h0; cases h0

theorem Inv.acc_prefix {w : W} {rest total : Bytes} (h : Inv P w rest total) : w.u.acc <+: total := by
  cases he : w.err with
  | none =>
    obtain ⟨_, h2⟩ := h.hok he
    exact ⟨w.rbuf.reverse ++ rest, by rw [← h2]; simp⟩
  | some e => exact (h.herr e he).2.2.1

theorem Inv.err_iff_failed {w : W} {rest total : Bytes} (h : Inv P w rest total) :
    (w.u.failed = true → w.err = some .injected) ∧ (w.u.failed = false → w.err = none) := by
  cases he : w.err with
  | none =>
    obtain ⟨h1, _⟩ := h.hok he
    simp [h1]
  | some e =>
    obtain ⟨h1, h2, _⟩ := h.herr e he
    simp [h1, h2]

theorem flush_of_err {w : W} {e : Err} (he : w.err = some e) : w.flush = (w, some e) := by
  unfold W.flush; rw [he]

theorem flush_of_empty {w : W} (he : w.err = none) (hz : w.n = 0) : w.flush = (w, none) := by
  unfold W.flush; rw [he]; simp [hz]

theorem flush_of_ok {w : W} (he : w.err = none) (hz : w.n ≠ 0)
    (hr : (w.u.write w.rbuf.reverse).2.1 = none) (hfull : ¬ (w.u.write w.rbuf.reverse).1 < w.n) :
    w.flush = ({ w with rbuf := [], n := 0, u := (w.u.write w.rbuf.reverse).2.2 }, none) := by
  unfold W.flush; rw [he]; simp [hz, hr, hfull]

theorem flush_of_fail {w : W} {e : Err} (he : w.err = none) (hz : w.n ≠ 0)
    (hr : (w.u.write w.rbuf.reverse).2.1 = some e) :
    w.flush = ({ w with rbuf := (w.rbuf.reverse.drop (w.u.write w.rbuf.reverse).1).reverse,
                        n := w.n - (w.u.write w.rbuf.reverse).1, err := some e,
                        u := (w.u.write w.rbuf.reverse).2.2 }, some e) := by
  unfold W.flush; rw [he]; simp [hz, hr]

theorem flush_spec (hc : Closed P) {w : W} {rest total : Bytes} (h : Inv P w rest total) :
    Inv P w.flush.1 rest total ∧ w.flush.2 = w.flush.1.err ∧ (w.flush.1.err = none → w.flush.1.n = 0) ∧
    w.flush.1.size = w.size := by
  cases he : w.err with
  | some e =>
    rw [flush_of_err he]
    refine ⟨h, he.symm, ?_, rfl⟩
    intro h0
    simp [he] at h0
  | none =>
    by_cases hz : w.n = 0
    · rw [flush_of_empty he hz]
      exact ⟨h, he.symm, fun _ => hz, rfl⟩
    · obtain ⟨hf, hacc⟩ := h.hok he
      obtain ⟨s1, s2, _, _, s5, s6, _⟩ := under_write_spec w.u w.rbuf.reverse
      have hP' := hc w.u w.rbuf.reverse h.hP
      have hlen : w.rbuf.reverse.length = w.n := by simp [h.hn]
      have hne : w.rbuf.reverse ≠ [] := by
        intro h0; rw [h0] at hlen; simp at hlen; omega
      cases hr : (w.u.write w.rbuf.reverse).2.1 with
      | none =>
        obtain ⟨h1, h2⟩ := s5 hr
        rw [flush_of_ok he hz hr (by omega)]
        refine ⟨?_, by simp [he], fun _ => rfl, rfl⟩
        refine { np := h.np, ns := h.ns, pos := h.pos, hn := by simp, hP := hP', hok := ?_, herr := ?_ }
        · intro _
          refine ⟨by simp [h2, hf], ?_⟩
          show (w.u.write w.rbuf.reverse).2.2.acc ++ ([] : Bytes).reverse ++ rest = total
          rw [s2, h1, List.take_length, List.reverse_nil, List.append_nil, hacc]
        · intro e he'; exact absurd he' (by simp [he])
      | some e =>
        obtain ⟨h1, h2, h3⟩ := s6 e hr
        have hlt := h3 hne
        rw [flush_of_fail he hz hr]
        refine ⟨?_, rfl, ?_, rfl⟩
        rotate_left
        · intro h0; simp at h0
        refine { np := h.np, ns := h.ns, pos := h.pos, hn := ?_, hP := hP', hok := ?_, herr := ?_ }
        · simp [h.hn]
        · intro h0; cases h0
        · intro e' he'
          have he' : e = e' := by simpa using he'
          subst he'
          have hpre : w.u.acc ++ List.take (w.u.write w.rbuf.reverse).1 w.rbuf.reverse <+: w.u.acc ++ w.rbuf.reverse :=
            (List.prefix_append_right_inj _).2 (List.take_prefix _ _)
          refine ⟨h1, h2, ?_, ?_⟩
          · show (w.u.write w.rbuf.reverse).2.2.acc <+: total
            rw [s2, ← hacc]
            exact List.IsPrefix.trans hpre (List.prefix_append _ _)
          · show (w.u.write w.rbuf.reverse).2.2.acc.length < total.length
            rw [s2, ← hacc]
            simp only [List.length_append, List.length_take]
            omega

theorem writeLoop_spec (hc : Closed P) (str : Bool) : ∀ (fuel : Nat) (w : W) (p total : Bytes),
    Inv P w p total → (w.err = none → 2 * p.length + (if w.n = 0 then 0 else 1) < fuel) →
    Inv P (W.writeLoop str fuel w p).1 (W.writeLoop str fuel w p).2 total ∧
    (W.writeLoop str fuel w p).1.size = w.size := by
  intro fuel
  induction fuel with
  | zero =>
    intro w p total h hfuel
    unfold W.writeLoop
    split
    · rename_i hcnd
      have : w.err = none := by
        cases he : w.err with
        | none => rfl
        | some e => simp [he] at hcnd
      have := hfuel this
      omega
    · exact ⟨h, rfl⟩
  | succ f ih =>
    intro w p total h hfuel
    unfold W.writeLoop
    split
    · rename_i hcnd
      have he : w.err = none := by
        cases he : w.err with
        | none => rfl
        | some e => simp [he] at hcnd
      have hlt : w.available < p.length := by
        simp [he] at hcnd; exact hcnd
      have hμ := hfuel he
      obtain ⟨hf, hacc⟩ := h.hok he
      split
      · -- large write, empty buffer
        rename_i hdir
        have hz : w.n = 0 := by
          simp [W.buffered] at hdir; exact hdir.1
        have hb : w.rbuf = [] := List.eq_nil_of_length_eq_zero (by rw [← h.hn]; exact hz)
        obtain ⟨s1, s2, _, _, s5, s6, _⟩ := under_write_spec w.u p
        have hP' := hc w.u p h.hP
        have hpne : p ≠ [] := by
          intro h0; rw [h0] at hlt; simp at hlt
        rw [hb] at hacc
        simp only [List.reverse_nil, List.append_nil] at hacc
        have hinv : Inv P { w with err := (w.u.write p).2.1, u := (w.u.write p).2.2 } (p.drop (w.u.write p).1) total := by
          refine { np := h.np, ns := h.ns, pos := h.pos, hn := h.hn, hP := hP', hok := ?_, herr := ?_ }
          · intro h0
            have h0 : (w.u.write p).2.1 = none := h0
            obtain ⟨h1, h2⟩ := s5 h0
            refine ⟨by simp [h2, hf], ?_⟩
            show (w.u.write p).2.2.acc ++ w.rbuf.reverse ++ p.drop (w.u.write p).1 = total
            rw [s2, hb, h1]
            simp [hacc]
          · intro e h0
            have h0 : (w.u.write p).2.1 = some e := h0
            obtain ⟨h1, h2, h3⟩ := s6 e h0
            have h3 := h3 hpne
            refine ⟨h1, h2, ?_, ?_⟩
            · show (w.u.write p).2.2.acc <+: total
              rw [s2, ← hacc]
              exact (List.prefix_append_right_inj _).2 (List.take_prefix _ _)
            · show (w.u.write p).2.2.acc.length < total.length
              rw [s2, ← hacc]
              simp only [List.length_append, List.length_take]
              omega
        have := ih _ _ total hinv (by
          intro h0
          have h0 : (w.u.write p).2.1 = none := h0
          obtain ⟨h1, _⟩ := s5 h0
          have : p.length ≥ 1 := by omega
          simp only [List.length_drop, h1]
          show 2 * (p.length - p.length) + (if w.n = 0 then 0 else 1) < f
          simp only [hz] at hμ ⊢
          simp at hμ ⊢
          omega)
        exact this
      · -- copy what fits, flush
        rename_i hdir
        have hinv1 : Inv P { w with rbuf := (p.take w.available).reverse ++ w.rbuf, n := w.n + w.available }
            (p.drop w.available) total := by
          refine { np := h.np, ns := h.ns, pos := h.pos, hn := ?_, hP := h.hP, hok := ?_, herr := ?_ }
          · show w.n + w.available = ((p.take w.available).reverse ++ w.rbuf).length
            simp only [List.length_append, List.length_reverse, List.length_take, h.hn]
            have := h.hn
            omega
          · intro _
            refine ⟨hf, ?_⟩
            show w.u.acc ++ ((p.take w.available).reverse ++ w.rbuf).reverse ++ p.drop w.available = total
            rw [← hacc]
            simp
          · intro e h0
            have h0 : w.err = some e := h0
            rw [he] at h0; cases h0
        obtain ⟨hi2, _, hz2, hsz⟩ := flush_spec hc hinv1
        have := ih _ _ total hi2 (by
          intro h0
          have hn0 := hz2 h0
          simp only [hn0, List.length_drop]
          by_cases hav : w.available = 0
          · -- the buffer was full, hence non-empty
            have hpos := h.pos
            have : w.n ≠ 0 := by
              unfold W.available at hav; omega
            simp [this] at hμ
            simp [hav]
            omega
          · have : (if w.n = 0 then 0 else 1) ≥ 0 := by omega
            simp
            omega)
        refine ⟨this.1, ?_⟩
        rw [this.2, hsz]
    · exact ⟨h, rfl⟩

theorem writeGen_spec (hc : Closed P) (str : Bool) {w : W} {sent : Bytes} (h : Inv P w [] sent) (p : Bytes) :
    Inv P (w.writeGen str p) [] (sent ++ p) ∧ (w.writeGen str p).size = w.size := by
  unfold W.writeGen
  obtain ⟨hl, hsz⟩ := writeLoop_spec hc str (2 * p.length + 2) w p (sent ++ p) (h.push p) (by
    intro _; split <;> omega)
  simp only
  split
  · rename_i hcnd
    refine ⟨?_, hsz⟩
    cases he : (W.writeLoop str (2 * p.length + 2) w p).1.err with
    | some e => exact hl.drop_rest e he
    | none => simp [he, hl.ns] at hcnd
  · rename_i hcnd
    have he : (W.writeLoop str (2 * p.length + 2) w p).1.err = none := by
      cases he : (W.writeLoop str (2 * p.length + 2) w p).1.err with
      | none => rfl
      | some e => simp [he] at hcnd
    obtain ⟨hf, hacc⟩ := hl.hok he
    refine ⟨?_, hsz⟩
    refine { np := hl.np, ns := hl.ns, pos := hl.pos, hn := ?_, hP := hl.hP, hok := ?_, herr := ?_ }
    · show (W.writeLoop str (2 * p.length + 2) w p).1.n + (W.writeLoop str (2 * p.length + 2) w p).2.length = _
      simp [hl.hn]; omega
    · intro _
      refine ⟨hf, ?_⟩
      show _ ++ ((W.writeLoop str (2 * p.length + 2) w p).2.reverse ++ (W.writeLoop str (2 * p.length + 2) w p).1.rbuf).reverse ++ [] = _
      rw [← hacc]; simp
    · intro e h0
      have h0 : (W.writeLoop str (2 * p.length + 2) w p).1.err = some e := h0
      rw [he] at h0; cases h0

theorem push_inv {w : W} {sent : Bytes} (h : Inv P w [] sent) (he : w.err = none) (x : Bytes) :
    Inv P { w with rbuf := x.reverse ++ w.rbuf, n := w.n + x.length } [] (sent ++ x) := by
  obtain ⟨hf, hacc⟩ := h.hok he
  refine { np := h.np, ns := h.ns, pos := h.pos, hn := ?_, hP := h.hP, hok := ?_, herr := ?_ }
  · show w.n + x.length = (x.reverse ++ w.rbuf).length
    simp [h.hn]; omega
  · intro _
    refine ⟨hf, ?_⟩
    show w.u.acc ++ (x.reverse ++ w.rbuf).reverse ++ [] = sent ++ x
    rw [← hacc]; simp
  · intro e h0
    have h0 : w.err = some e := h0
    rw [he] at h0; cases h0

theorem writeByte_of_err {w : W} {e : Err} (he : w.err = some e) (c : UInt8) : w.writeByte c = w := by
  unfold W.writeByte; simp [he]

theorem writeByte_room {w : W} (he : w.err = none) (hlt : w.n < w.size) (c : UInt8) :
    w.writeByte c = { w with rbuf := c :: w.rbuf, n := w.n + 1 } := by
  have hav : ¬ w.available ≤ 0 := by unfold W.available; omega
  unfold W.writeByte; simp [he, hav, hlt]

theorem writeByte_full_fail {w : W} {e : Err} (he : w.err = none) (hge : ¬ w.n < w.size)
    (he1 : w.flush.1.err = some e) (c : UInt8) : w.writeByte c = w.flush.1 := by
  have hav : w.available ≤ 0 := by unfold W.available; omega
  unfold W.writeByte; simp [he, hav, he1]

theorem writeByte_full_ok {w : W} (he : w.err = none) (hge : ¬ w.n < w.size)
    (he1 : w.flush.1.err = none) (hlt : w.flush.1.n < w.flush.1.size) (c : UInt8) :
    w.writeByte c = { w.flush.1 with rbuf := c :: w.flush.1.rbuf, n := w.flush.1.n + 1 } := by
  have hav : w.available ≤ 0 := by unfold W.available; omega
  unfold W.writeByte; simp [he, hav, he1, hlt]

theorem writeByte_spec (hc : Closed P) {w : W} {sent : Bytes} (h : Inv P w [] sent) (c : UInt8) :
    Inv P (w.writeByte c) [] (sent ++ [c]) ∧ (w.writeByte c).size = w.size := by
  cases he : w.err with
  | some e =>
    rw [writeByte_of_err he]
    exact ⟨(h.push [c]).drop_rest e he, rfl⟩
  | none =>
    by_cases hlt : w.n < w.size
    · rw [writeByte_room he hlt]
      exact ⟨push_inv h he [c], rfl⟩
    · obtain ⟨hi, _, hz, hsz⟩ := flush_spec hc h
      cases he1 : w.flush.1.err with
      | some e =>
        rw [writeByte_full_fail he hlt he1]
        exact ⟨(hi.push [c]).drop_rest e he1, hsz⟩
      | none =>
        have hn0 := hz he1
        have hpos := hi.pos
        rw [writeByte_full_ok he hlt he1 (by omega)]
        exact ⟨push_inv hi he1 [c], hsz⟩

theorem runeBytes_ascii {r : Int} (h0 : 0 ≤ r) (h1 : r < 128) : runeBytes r = [UInt8.ofNat r.toNat] := by
  have h2 : r.toNat < 128 := by omega
  have h3 : ¬ r < 0 := by omega
  have h4 : r.toNat < 0xD800 := by omega
  simp [runeBytes, h3, encodeRune, validRune, h4, h2]

theorem writeRune_ascii {w : W} {r : Int} (h0 : 0 ≤ r) (h1 : r < 128) :
    w.writeRune r = w.writeByte (UInt8.ofNat r.toNat) := by
  unfold W.writeRune; simp [h0, h1]

theorem writeRune_of_err {w : W} {r : Int} {e : Err} (ha : ¬ (0 ≤ r ∧ r < 128)) (he : w.err = some e) :
    w.writeRune r = w := by
  unfold W.writeRune
  have : (decide (0 ≤ r) && decide (r < 128)) = false := by simpa using ha
  simp [this, he]

theorem writeRune_room {w : W} {r : Int} (ha : ¬ (0 ≤ r ∧ r < 128)) (he : w.err = none) (hav : ¬ w.available < 4) :
    w.writeRune r = { w with rbuf := (runeBytes r).reverse ++ w.rbuf, n := w.n + (runeBytes r).length } := by
  unfold W.writeRune
  have : (decide (0 ≤ r) && decide (r < 128)) = false := by simpa using ha
  simp [this, he, hav]

theorem writeRune_flush_fail {w : W} {r : Int} {e : Err} (ha : ¬ (0 ≤ r ∧ r < 128)) (he : w.err = none)
    (hav : w.available < 4) (he1 : w.flush.1.err = some e) : w.writeRune r = w.flush.1 := by
  unfold W.writeRune
  have : (decide (0 ≤ r) && decide (r < 128)) = false := by simpa using ha
  simp [this, he, hav, he1]

theorem writeRune_flush_small {w : W} {r : Int} (ha : ¬ (0 ≤ r ∧ r < 128)) (he : w.err = none)
    (hav : w.available < 4) (he1 : w.flush.1.err = none) (hav1 : w.flush.1.available < 4) :
    w.writeRune r = w.flush.1.writeString (runeBytes r) := by
  unfold W.writeRune
  have : (decide (0 ≤ r) && decide (r < 128)) = false := by simpa using ha
  simp [this, he, hav, he1, hav1]

theorem writeRune_flush_room {w : W} {r : Int} (ha : ¬ (0 ≤ r ∧ r < 128)) (he : w.err = none)
    (hav : w.available < 4) (he1 : w.flush.1.err = none) (hav1 : ¬ w.flush.1.available < 4) :
    w.writeRune r = { w.flush.1 with rbuf := (runeBytes r).reverse ++ w.flush.1.rbuf,
                                     n := w.flush.1.n + (runeBytes r).length } := by
  unfold W.writeRune
  have : (decide (0 ≤ r) && decide (r < 128)) = false := by simpa using ha
  simp [this, he, hav, he1, hav1]

theorem writeRune_spec (hc : Closed P) {w : W} {sent : Bytes} (h : Inv P w [] sent) (r : Int) :
    Inv P (w.writeRune r) [] (sent ++ runeBytes r) ∧ (w.writeRune r).size = w.size := by
  by_cases ha : 0 ≤ r ∧ r < 128
  · rw [writeRune_ascii ha.1 ha.2, runeBytes_ascii ha.1 ha.2]
    exact writeByte_spec hc h _
  · cases he : w.err with
    | some e =>
      rw [writeRune_of_err ha he]
      exact ⟨(h.push _).drop_rest e he, rfl⟩
    | none =>
      by_cases hav : w.available < 4
      · obtain ⟨hi, _, _, hsz⟩ := flush_spec hc h
        cases he1 : w.flush.1.err with
        | some e =>
          rw [writeRune_flush_fail ha he hav he1]
          exact ⟨(hi.push _).drop_rest e he1, hsz⟩
        | none =>
          by_cases hav1 : w.flush.1.available < 4
          · rw [writeRune_flush_small ha he hav he1 hav1]
            obtain ⟨h2, hsz2⟩ := writeGen_spec hc true hi (runeBytes r)
            exact ⟨h2, by rw [W.writeString, hsz2, hsz]⟩
          · rw [writeRune_flush_room ha he hav he1 hav1]
            exact ⟨push_inv hi he1 _, hsz⟩
      · rw [writeRune_room ha he hav]
        exact ⟨push_inv h he _, rfl⟩

theorem step_spec (hc : Closed P) {w : W} {sent : Bytes} (h : Inv P w [] sent) (c : Call) :
    Inv P (w.step c) [] (sent ++ c.bytes) ∧ (w.step c).size = w.size := by
  cases c with
  | write p => simp only [W.step, h.np, Bool.false_eq_true, if_false, Call.bytes]; exact writeGen_spec hc false h p
  | writeString s => simp only [W.step, h.np, Bool.false_eq_true, if_false, Call.bytes]; exact writeGen_spec hc true h s
  | writeByte c => simp only [W.step, h.np, Bool.false_eq_true, if_false, Call.bytes]; exact writeByte_spec hc h c
  | writeRune r => simp only [W.step, h.np, Bool.false_eq_true, if_false, Call.bytes]; exact writeRune_spec hc h r

theorem run_spec (hc : Closed P) : ∀ (cs : List Call) (w : W) (sent : Bytes), Inv P w [] sent →
    Inv P (w.run cs) [] (sent ++ allBytes cs) ∧ (w.run cs).size = w.size := by
  intro cs
  induction cs with
  | nil => intro w sent h; simpa [W.run, allBytes] using h
  | cons c cs ih =>
    intro w sent h
    obtain ⟨h1, hs1⟩ := step_spec hc h c
    obtain ⟨h2, hs2⟩ := ih (w.step c) _ h1
    refine ⟨?_, by rw [← hs1, ← hs2]; rfl⟩
    have e : sent ++ allBytes (c :: cs) = sent ++ c.bytes ++ allBytes cs := by simp [allBytes]
    rw [e]
    exact h2

theorem fresh_inv {size : Nat} (hs : 0 < size) {u : Under} (hu : u.acc = [] ∧ u.failed = false) (hP : P u) :
    Inv P (fresh size u) [] [] := by
  refine { np := rfl, ns := rfl, pos := hs, hn := rfl, hP := hP, hok := ?_, herr := ?_ }
  · intro _; exact ⟨hu.2, by simp [fresh, hu.1]⟩
  · intro e h0; cases h0

theorem allBytes_append (a b : List Call) : allBytes (a ++ b) = allBytes a ++ allBytes b := by
  simp [allBytes]

theorem allBytes_take_prefix (cs : List Call) (j : Nat) : allBytes (cs.take j) <+: allBytes cs := by
  have : allBytes cs = allBytes (cs.take j) ++ allBytes (cs.drop j) := by
    rw [← allBytes_append, List.take_append_drop]
  exact ⟨_, this.symm⟩

/-- everything `Render` guarantees, on a BufWriter satisfying the invariant. -/
theorem renderOn_spec (hc : Closed P) {w : W} {sent : Bytes} (h : Inv P w [] sent) (calls : List Call)
    (nodeErr : Option Nat) :
    let r := renderOn w calls nodeErr
    Inv P r.1 [] (sent ++ allBytes (match nodeErr with | some j => calls.take j | none => calls)) ∧
    (nodeErr = none → r.2 = r.1.err ∧ (r.1.err = none → r.1.n = 0)) ∧
    (∀ j, nodeErr = some j → r.2 = some .node) := by
  cases nodeErr with
  | some j =>
    refine ⟨(run_spec hc _ _ _ h).1, ?_, fun _ _ => rfl⟩
    intro h0; cases h0
  | none =>
    obtain ⟨h1, _⟩ := run_spec hc calls _ _ h
    obtain ⟨h2, h3, h4, _⟩ := flush_spec hc h1
    refine ⟨h2, fun _ => ⟨h3, h4⟩, ?_⟩
    intro j h0; cases h0

def PTrue : Under → Prop := fun _ => True
theorem closed_true : Closed PTrue := fun _ _ _ => trivial

/-- the never-failing destination never fails -/
def POk : Under → Prop := fun u => u.mode = .ok ∧ u.failed = false
theorem closed_ok : Closed POk := by
  intro u p h
  obtain ⟨_, _, s3, _, s5, _, s7⟩ := under_write_spec u p
  exact ⟨by rw [s3]; exact h.1, by rw [(s5 (s7 h.1)).2]; exact h.2⟩

/-- the `short` destination with capacity `k`: accepted + room = k until it fails; accepted = k and no room afterwards -/
def PShort (k : Nat) : Under → Prop := fun u =>
  u.mode = .short ∧ (u.failed = false → u.acc.length + u.room = k) ∧ (u.failed = true → u.acc.length = k ∧ u.room = 0)
theorem closed_short (k : Nat) : Closed (PShort k) := by
  intro u p h
  obtain ⟨hm, h1, h2⟩ := h
  unfold Under.write
  rw [hm]
  simp only
  split
  · rename_i hle
    refine ⟨rfl, ?_, ?_⟩
    · intro hf
      have hf : u.failed = false := hf
      have := h1 hf
      simp [Under.acc] at this ⊢
      omega
    · intro hf
      have hf : u.failed = true := hf
      have := h2 hf
      simp [Under.acc] at this ⊢
      omega
  · rename_i hgt
    refine ⟨rfl, ?_, ?_⟩
    · intro hf; cases hf
    · intro _
      cases hfl : u.failed with
      | false =>
        have := h1 hfl
        simp [Under.acc] at this ⊢
        omega
      | true =>
        have := h2 hfl
        simp [Under.acc] at this ⊢
        omega

theorem new_fresh (m : Mode) (k : Nat) (sw : Bool) : (Under.new m k sw).acc = [] ∧ (Under.new m k sw).failed = false := by
  simp [Under.new, Under.acc]

/-- the calls Render's walk gets to make: all of them, or the first `j` when a node renderer fails. -/
def made (calls : List Call) : Option Nat → List Call
  | some j => calls.take j
  | none => calls

theorem render_spec (hc : Closed P) {u0 : Under} (hu : u0.acc = [] ∧ u0.failed = false) (hP : P u0)
    {d : Dest} {pre : List Call} (hd : Dest.From u0 d pre) (calls : List Call) (nodeErr : Option Nat) :
    Inv P (render d calls nodeErr).1 [] (allBytes pre ++ allBytes (made calls nodeErr)) ∧
    (nodeErr = none → (render d calls nodeErr).2 = (render d calls nodeErr).1.err ∧
      ((render d calls nodeErr).1.err = none → (render d calls nodeErr).1.n = 0)) ∧
    (∀ j, nodeErr = some j → (render d calls nodeErr).2 = some .node) := by
  have key : ∀ (w : W), Inv P w [] (allBytes pre) →
      Inv P (renderOn w calls nodeErr).1 [] (allBytes pre ++ allBytes (made calls nodeErr)) ∧
      (nodeErr = none → (renderOn w calls nodeErr).2 = (renderOn w calls nodeErr).1.err ∧
        ((renderOn w calls nodeErr).1.err = none → (renderOn w calls nodeErr).1.n = 0)) ∧
      (∀ j, nodeErr = some j → (renderOn w calls nodeErr).2 = some .node) := by
    intro w hw
    have := renderOn_spec hc hw calls nodeErr
    cases nodeErr <;> exact this
  cases hd with
  | wrapped =>
    have h0 : Inv P (fresh 4096 u0) [] (allBytes []) := by
      simpa [allBytes] using fresh_inv (P := P) (by omega : 0 < 4096) hu hP
    exact key _ h0
  | supplied size hsize pre =>
    have h0 := (run_spec hc pre _ _ (fresh_inv (P := P) hsize hu hP)).1
    simp only [List.nil_append] at h0
    exact key _ h0

/-- after a successful final Flush nothing is left in the buffer: the destination holds everything. -/
theorem complete_of_no_err {w : W} {total : Bytes} (h : Inv P w [] total) (he : w.err = none) (hn : w.n = 0) :
    w.u.acc = total := by
  obtain ⟨_, h2⟩ := h.hok he
  have : w.rbuf = [] := List.eq_nil_of_length_eq_zero (by rw [← h.hn]; exact hn)
  simpa [this] using h2

theorem prefix_length_eq {a b : Bytes} (h : a <+: b) : a = b.take a.length := by
  obtain ⟨t, rfl⟩ := h
  simp

/-- the destination is in `always` mode and has accepted nothing -/
def PAlways : Under → Prop := fun u => u.mode = .always ∧ u.acc = []
theorem closed_always : Closed PAlways := by
  intro u p h
  obtain ⟨hm, ha⟩ := h
  unfold Under.write
  rw [hm]
  exact ⟨rfl, by simpa [Under.acc] using ha⟩

end GM.Proof.Bufio
