/-
  GM.Proof.InlinesLoopTotal — part 2 of the totality proof of the inline phase: the loop of parseBlock, given
  contracts of the parsers in the trigger table.

  The loop is walked once: over an OPEN trigger table (GM.Model.InlinesLoopX; a contract per table entry) and for the
  invariant `LInvLo lo0` whose segment chain starts at or behind any `lo0 ≥ 0` (theorems `…_lo`). The walk knows where the
  reader stands, so it also shows that two tables whose entries do the same on the states of the run give the same run
  (`lineLoopX_agreeAt`). The default loop is the table `baseTbl` (GM.Proof.InlinesLoopRule); there the contract of the link
  parser is a parameter (`PContract … Ip.link`), the other four are discharged from GM.Proof.InlinesTotal. `LInv`,
  `PContract` and the theorems without the suffix are the case `lo0 = 0`.
  GM.Proof.InlinesLink takes `lo0` = the start of the block's first line.
-/
import GM.Proof.InlinesTotal
import GM.Proof.InlinesLoopRule

namespace GM.Proof.InlinesTotal
open GM GM.Text GM.Spec GM.Inl GM.Proof.Reader GM.Proof.InlinesReader GM.Proof.Inlines

variable {src : Bytes} {segs : List Segment} {lo0 : Int}

/-- an invariant of (children, next id, linkBottom stack) that the loop itself cannot break -/
structure Ctx where
  LK : List Node → Nat → List Bottom → Prop
  appendText : ∀ {k n b} (s : Segment) (so ha ra : Bool), LK k n b → LK (k ++ [.text s so ha ra]) n b
  swapText : ∀ {k n b} (s t : Segment) (so ha ra : Bool), LK (k ++ [.text s so ha ra]) n b → LK (k ++ [.text t so ha ra]) n b
  appendPlain : ∀ {k n b} (nd : Node), LK k n b → wf false nd = true → LK (k ++ [nd]) n b
  appendDelim : ∀ {k n b} (d : Delim), LK k n b → 1 ≤ d.length → d.seg.stop = d.seg.start + d.length →
    LK (k ++ [.delim n d]) (n + 1) b
  bumpId : ∀ {k n b}, LK k n b → LK k (n + 1) b

def Ctx.trivial : Ctx where
  LK := fun _ _ _ => True
  appendText := fun _ _ _ _ _ => True.intro
  swapText := fun _ _ _ _ _ _ => True.intro
  appendPlain := fun _ _ _ => True.intro
  appendDelim := fun _ _ _ _ => True.intro
  bumpId := fun _ => True.intro

theorem Ctx.merge (X : Ctx) {k : List Node} {n : Nat} {b : List Bottom} (s : Segment) (h : X.LK k n b) :
    X.LK (mergeOrAppend k s) n b := by
  rcases mergeOrAppend_cases k s with e | ⟨ys, seg, ha, ra, rfl, _, e⟩ <;> rw [e]
  · exact X.appendText _ _ _ _ h
  · exact X.swapText _ _ _ _ _ h

/-- the loop invariant: the reader stands for `c`, the recorded segments form a chain ending at the cursor -/
structure LInv (X : Ctx) (src : Bytes) (segs : List Segment) (st : St) (c : BCur) : Prop where
  rs : RS src segs st.rd c
  ch : chain 0 c.p (segsOfL st.kids)
  lk : X.LK st.kids st.nextId st.bottoms

/-- what a parser owes the loop when it is consulted at a byte it is triggered by -/
def PContract (X : Ctx) (src : Bytes) (segs : List Segment) (trig : UInt8 → Bool) (parse : St → PRes) : Prop :=
  ∀ (st : St) (c : BCur) (b : UInt8) (l : Bytes), LInv X src segs st c → BCur.view src segs c = some (b :: l) →
    trig b = true →
    ∃ n st' c', parse st = .ok (n, st') ∧ RS src segs st'.rd c' ∧ c.p ≤ c'.p ∧ c.ln ≤ c'.ln ∧
      (match n with
        | none => chain 0 c.p (segsOfL st'.kids) ∧ X.LK st'.kids st'.nextId st'.bottoms
        | some nd => BCur.remaining segs c' + 1 ≤ BCur.remaining segs c ∧
            chain 0 c'.p (segsOfL (st'.kids ++ [nd])) ∧ X.LK (st'.kids ++ [nd]) st'.nextId st'.bottoms)

/-- `LInv` with the lower bound of the chain left open: the recorded segments start at or behind `lo0` -/
structure LInvLo (lo0 : Int) (X : Ctx) (src : Bytes) (segs : List Segment) (st : St) (c : BCur) : Prop where
  rs : RS src segs st.rd c
  ch : chain lo0 c.p (segsOfL st.kids)
  lk : X.LK st.kids st.nextId st.bottoms

theorem linvLo_zero {X : Ctx} {st : St} {c : BCur} : LInvLo 0 X src segs st c ↔ LInv X src segs st c :=
  ⟨fun h => ⟨h.rs, h.ch, h.lk⟩, fun h => ⟨h.rs, h.ch, h.lk⟩⟩

/-- `PContract` over `LInvLo lo0` -/
def PContractLo (lo0 : Int) (X : Ctx) (src : Bytes) (segs : List Segment) (trig : UInt8 → Bool) (parse : St → PRes) :
    Prop :=
  ∀ (st : St) (c : BCur) (b : UInt8) (l : Bytes), LInvLo lo0 X src segs st c → BCur.view src segs c = some (b :: l) →
    trig b = true →
    ∃ n st' c', parse st = .ok (n, st') ∧ RS src segs st'.rd c' ∧ c.p ≤ c'.p ∧ c.ln ≤ c'.ln ∧
      (match n with
        | none => chain lo0 c.p (segsOfL st'.kids) ∧ X.LK st'.kids st'.nextId st'.bottoms
        | some nd => BCur.remaining segs c' + 1 ≤ BCur.remaining segs c ∧
            chain lo0 c'.p (segsOfL (st'.kids ++ [nd])) ∧ X.LK (st'.kids ++ [nd]) st'.nextId st'.bottoms)

theorem pcontractLo_zero {X : Ctx} {trig : UInt8 → Bool} {parse : St → PRes} :
    PContractLo 0 X src segs trig parse ↔ PContract X src segs trig parse :=
  ⟨fun h st c b l hI => h st c b l (linvLo_zero.mpr hI), fun h st c b l hI => h st c b l (linvLo_zero.mp hI)⟩

def trigOf : Ip → UInt8 → Bool
  | .codeSpan, b => b == 96
  | .link, b => b == 33 || b == 91 || b == 93
  | .autoLink, b => b == 60
  | .rawHTML, b => b == 60
  | .emphasis, b => b == 42 || b == 95

theorem parsersFor_trig {pc : UInt8} {ip : Ip} (h : ip ∈ parsersFor pc) : trigOf ip pc = true := by
  unfold parsersFor at h
  split at h
  · rename_i hc; simp at h; subst h; simpa [trigOf] using hc
  · split at h
    · rename_i hc; simp at h; subst h; simpa [trigOf] using hc
    · split at h
      · rename_i hc
        simp at h
        rcases h with rfl | rfl <;> simpa [trigOf] using hc
      · split at h
        · rename_i hc; simp at h; subst h; simpa [trigOf] using hc
        · simp at h

/-- a reader-only parser that meets `RPost` and never returns a delimiter meets the loop's contract -/
theorem plain_contract_lo (X : Ctx) (trig : UInt8 → Bool) (f : BlockReader → RRes)
    (hf : ∀ (r : BlockReader) (c : BCur) (b : UInt8) (l : Bytes), RS src segs r c →
      BCur.view src segs c = some (b :: l) → trig b = true → RPost src segs c (f r))
    (hplain : ∀ (r r' : BlockReader) (id : Nat) (d : Delim), f r ≠ .ok (some (.delim id d), r')) :
    PContractLo lo0 X src segs trig (fun st => liftR st (f st.rd)) := by
  intro st c b l hI hv ht
  obtain ⟨n, r', c', e1, e2, e3, e4, e5⟩ := hf st.rd c b l hI.rs hv ht
  refine ⟨n, { st with rd := r' }, c', by simp only [e1, liftR], e2, e3, e4, ?_⟩
  cases n with
  | none => exact ⟨hI.ch, hI.lk⟩
  | some nd =>
    obtain ⟨g1, g2, g3⟩ := e5 nd rfl
    refine ⟨g1, ?_, ?_⟩
    · rw [segsOfL_append]
      exact chain_append hI.ch (by simpa [segsOfL] using g2)
    · cases nd with
      | delim id d => exact absurd e1 (hplain _ _ _ _)
      | label => exact absurd g3 (by simp)
      | _ => exact X.appendPlain _ hI.lk g3

theorem emphasis_contract_lo (X : Ctx) (W : WFSegs src segs) (Z : ∀ s ∈ segs, s.padding = 0) (env : Env) :
    PContractLo lo0 X src segs (trigOf .emphasis) (Ip.emphasis.parse env) := by
  intro st c b l hI hv ht
  have F := segFacts W
  obtain ⟨n, r', c', e1, e2, e3, e4, e5⟩ := parseEmphasis_post F Z env st.nextId hI.rs hv
  refine ⟨n, { st with nextId := st.nextId + 1, rd := r' }, c', by simp only [Ip.parse, e1, liftR], e2, e3, e4, ?_⟩
  cases n with
  | none => exact ⟨hI.ch, X.bumpId hI.lk⟩
  | some nd =>
    obtain ⟨g1, g2, g3⟩ := e5 nd rfl
    obtain ⟨d, rfl⟩ := (parseEmphasis_shape env st.nextId st.rd).node e1
    refine ⟨g1, ?_, X.appendDelim d hI.lk g3.1 g3.2⟩
    rw [segsOfL_append]
    exact chain_append hI.ch (by simpa [segsOfL] using g2)

theorem parseAutoLink_nd {r r' : BlockReader} {n : Node} (h : parseAutoLink r = .ok (some n, r')) :
    n.isDelim = false := by
  obtain ⟨_, _, rfl⟩ := (parseAutoLink_shape r).node h; rfl

theorem parseRawHTML_nd {r r' : BlockReader} {n : Node} (h : parseRawHTML r = .ok (some n, r')) :
    n.isDelim = false := by
  obtain ⟨_, rfl⟩ := (parseRawHTML_shape r).node h; rfl

theorem parseCodeSpan_nd {r r' : BlockReader} {n : Node} (h : parseCodeSpan r = .ok (some n, r')) :
    n.isDelim = false := by
  rcases (parseCodeSpan_shape r).node h with ⟨_, rfl⟩ | ⟨_, rfl, _⟩
  · rfl
  · rfl

theorem codeSpan_contract_lo (X : Ctx) (W : WFSegs src segs) (Z : ∀ s ∈ segs, s.padding = 0) (env : Env) :
    PContractLo lo0 X src segs (trigOf .codeSpan) (Ip.codeSpan.parse env) := by
  apply plain_contract_lo X (trigOf .codeSpan) parseCodeSpan
  · intro r c b l h hv ht
    simp only [trigOf, beq_iff_eq] at ht; subst ht
    exact parseCodeSpan_post (segFacts W) Z h hv
  · intro r r' id d h
    have := parseCodeSpan_nd h
    simp [Node.isDelim] at this

theorem autoLink_contract_lo (X : Ctx) (W : WFSegs src segs) (Z : ∀ s ∈ segs, s.padding = 0) (env : Env) :
    PContractLo lo0 X src segs (trigOf .autoLink) (Ip.autoLink.parse env) := by
  apply plain_contract_lo X (trigOf .autoLink) parseAutoLink
  · intro r c b l h hv _
    exact parseAutoLink_post (segFacts W) Z h hv
  · intro r r' id d h
    have := parseAutoLink_nd h
    simp [Node.isDelim] at this

theorem rawHTML_contract_lo (X : Ctx) (W : WFSegs src segs) (Z : ∀ s ∈ segs, s.padding = 0) (env : Env) :
    PContractLo lo0 X src segs (trigOf .rawHTML) (Ip.rawHTML.parse env) := by
  apply plain_contract_lo X (trigOf .rawHTML) parseRawHTML
  · intro r c b l h hv _
    exact parseRawHTML_post W Z h hv
  · intro r r' id d h
    have := parseRawHTML_nd h
    simp [Node.isDelim] at this

theorem emphasis_contract (X : Ctx) (W : WFSegs src segs) (Z : ∀ s ∈ segs, s.padding = 0) (env : Env) :
    PContract X src segs (trigOf .emphasis) (Ip.emphasis.parse env) :=
  pcontractLo_zero.mp (emphasis_contract_lo X W Z env)

theorem codeSpan_contract (X : Ctx) (W : WFSegs src segs) (Z : ∀ s ∈ segs, s.padding = 0) (env : Env) :
    PContract X src segs (trigOf .codeSpan) (Ip.codeSpan.parse env) :=
  pcontractLo_zero.mp (codeSpan_contract_lo X W Z env)

theorem autoLink_contract (X : Ctx) (W : WFSegs src segs) (Z : ∀ s ∈ segs, s.padding = 0) (env : Env) :
    PContract X src segs (trigOf .autoLink) (Ip.autoLink.parse env) :=
  pcontractLo_zero.mp (autoLink_contract_lo X W Z env)

theorem rawHTML_contract (X : Ctx) (W : WFSegs src segs) (Z : ∀ s ∈ segs, s.padding = 0) (env : Env) :
    PContract X src segs (trigOf .rawHTML) (Ip.rawHTML.parse env) :=
  pcontractLo_zero.mp (rawHTML_contract_lo X W Z env)

/-- with the link parser's contract, the contracts of all five -/
theorem all_contracts_of (X : Ctx) (W : WFSegs src segs) (Z : ∀ s ∈ segs, s.padding = 0) (env : Env)
    (hlink : PContractLo lo0 X src segs (trigOf .link) (Ip.link.parse env)) :
    ∀ ip, PContractLo lo0 X src segs (trigOf ip) (ip.parse env) := by
  intro ip
  cases ip with
  | codeSpan => exact codeSpan_contract_lo X W Z env
  | link => exact hlink
  | autoLink => exact autoLink_contract_lo X W Z env
  | rawHTML => exact rawHTML_contract_lo X W Z env
  | emphasis => exact emphasis_contract_lo X W Z env

theorem trimRightSpace_ok {t : Segment} (h0 : 0 ≤ t.start) (h1 : t.start ≤ t.stop) (h2 : t.stop ≤ src.length) :
    ∃ t', t.trimRightSpace src = .ok t' ∧ t'.start = t.start ∧ t.start ≤ t'.stop ∧ t'.stop ≤ t.stop := by
  unfold Segment.trimRightSpace
  have hs : sliceB src t.start t.stop = .ok (sub src t.start.toNat t.stop.toNat) := by
    simp [sliceB, h0, h1, h2]
  simp only [hs, bind, Except.bind, pure, Except.pure]
  have hl : (sub src t.start.toNat t.stop.toNat).length = (t.stop - t.start).toNat := by
    simp only [sub, List.length_take, List.length_drop]; omega
  have ht : trimRightSpaceLength (sub src t.start.toNat t.stop.toNat) ≤ (sub src t.start.toNat t.stop.toNat).length := by
    unfold trimRightSpaceLength
    have := takeWhile_len_le isSpace (sub src t.start.toNat t.stop.toNat).reverse
    simpa using this
  split
  · exact ⟨_, rfl, rfl, by simp only; omega, by simp only; omega⟩
  · exact ⟨_, rfl, rfl, by simp only; omega, by simp only; omega⟩

/-- the view from `n` bytes further inside the line -/
theorem view_shift (F : SegFacts src segs) {c : BCur} (w : BWF segs c) (hz : c.pad = 0) {v : Bytes}
    (hv : BCur.view src segs c = some v) {n : Nat} (hn : n < v.length) :
    BCur.view src segs { c with p := c.p + n } = some (v.drop n) ∧
    BCur.stopOf segs { c with p := c.p + n } = BCur.stopOf segs c := by
  obtain ⟨v1, v2, v3, v4, v5, v6, v7, v8⟩ := view_some F w hz hv
  have hst : BCur.stopOf segs { c with p := c.p + n } = BCur.stopOf segs c := by simp [BCur.stopOf]
  refine ⟨?_, hst⟩
  have hlast : BCur.stopOf segs c ≤ BCur.lastStop segs := by
    simp only [BCur.stopOf, v1, if_true]; exact stop_le_last F w.ln0 v1
  have hlive : BCur.live segs { c with p := c.p + n } = true := by
    simp only [BCur.live, v1, decide_true, Bool.true_and, decide_eq_true_eq]; omega
  unfold BCur.view
  rw [if_pos hlive, hst]
  simp only [hz, Int.toNat_zero, spaces, List.replicate_zero, List.nil_append]
  rw [v5]
  simp only [sub, List.drop_take, List.drop_drop]
  have e1 : (c.p + (n : Int)).toNat = c.p.toNat + n := by omega
  rw [e1]
  congr 2
  omega

theorem sub_mem {src : Bytes} {a b : Nat} {x : UInt8} (h : x ∈ sub src a b) : x ∈ src := by
  unfold sub at h
  exact List.mem_of_mem_drop (List.mem_of_mem_take h)

/-- the state of the byte loop: the loop invariant holds of the state and `c`, `startPosition` is the reader's
    position, `n` bytes of the peeked rest `v` of the line are pending, `bs` is what remains to be scanned -/
structure ScanInvLo (lo0 : Int) (X : Ctx) (src : Bytes) (segs : List Segment) (v bs : Bytes) (i : Nat) (s : Inl.Scan)
    (c : BCur) : Prop where
  inv : LInvLo lo0 X src segs s.st c
  view : BCur.view src segs c = some v
  spStart : s.sp.start = c.p
  spStop : s.sp.stop = BCur.stopOf segs c
  spPad : s.sp.padding = 0
  n0 : 0 ≤ s.n
  len : s.n.toNat + bs.length ≤ v.length
  pre : bs <+: v.drop s.n.toNat
  i0 : i = 0 → s.n = 0


theorem tryParsersX_total_lo (X : Ctx) (F : SegFacts src segs) (env : Env)
    {r0 : BlockReader} {c : BCur} {b : UInt8} {l : Bytes}
    (h0 : RS src segs r0 c) (hv : BCur.view src segs c = some (b :: l)) :
    ∀ (ips : List XIp) (st : St), LInvLo lo0 X src segs st c →
    (∀ ip ∈ ips, PContractLo lo0 X src segs (· == b) (ip.parse env)) →
    ∃ n st' c', tryParsersX env r0.position.1 r0.position.2 ips st = .ok (n, st') ∧ RS src segs st'.rd c' ∧
      c.p ≤ c'.p ∧ c.ln ≤ c'.ln ∧
      (match n with
        | none => c' = c ∧ chain lo0 c.p (segsOfL st'.kids) ∧ X.LK st'.kids st'.nextId st'.bottoms
        | some nd => BCur.remaining segs c' + 1 ≤ BCur.remaining segs c ∧
            chain lo0 c'.p (segsOfL (st'.kids ++ [nd])) ∧ X.LK (st'.kids ++ [nd]) st'.nextId st'.bottoms) := by
  intro ips
  induction ips with
  | nil =>
    intro st hI _
    exact ⟨none, st, c, rfl, hI.rs, Int.le_refl _, Int.le_refl _, rfl, hI.ch, hI.lk⟩
  | cons ip rest ih =>
    intro st hI ht
    obtain ⟨n, st1, c1, e1, e2, e3, e4, e5⟩ := ht ip (by simp) st c b l hI hv (by simp)
    simp only [tryParsersX, e1, bind, Except.bind]
    cases n with
    | some nd => exact ⟨some nd, st1, c1, rfl, e2, e3, e4, e5⟩
    | none =>
      obtain ⟨r3, s1, s2⟩ := setPosition_restore F h0 e2
      simp only [s1]
      exact ih { st1 with rd := r3 } ⟨s2, e5.1, e5.2⟩ (fun ip' hip => ht ip' (by simp [hip]))

/-- the byte under the scan is byte `n` of the view -/
theorem scanInv_drop {X : Ctx} {v cs : Bytes} {b : UInt8} {i : Nat} {s : Inl.Scan} {c : BCur}
    (hS : ScanInvLo lo0 X src segs v (b :: cs) i s c) :
    v.drop s.n.toNat = b :: v.drop (s.n.toNat + 1) ∧ cs <+: v.drop (s.n.toNat + 1) := by
  obtain ⟨t, ht⟩ := hS.pre
  have h1 : (v.drop s.n.toNat).head? = some b := by rw [← ht]; rfl
  have h2 : v.drop (s.n.toNat + 1) = (v.drop s.n.toNat).tail := by rw [← List.drop_one, List.drop_drop]
  have hvb : v.drop s.n.toNat = b :: v.drop (s.n.toNat + 1) := by
    rw [h2]
    cases hd : v.drop s.n.toNat with
    | nil => rw [hd] at h1; simp at h1
    | cons x xs => rw [hd] at h1; simp at h1; subst h1; rfl
  refine ⟨hvb, t, ?_⟩
  rw [hvb] at ht
  simpa using ht

/-- going on without a parser -/
theorem scanInv_bump {X : Ctx} {v cs : Bytes} {b : UInt8} {i : Nat} {s : Inl.Scan} {c : BCur}
    (hS : ScanInvLo lo0 X src segs v (b :: cs) i s c) : ScanInvLo lo0 X src segs v cs (i + 1) (bump b s) c := by
  have hlen := hS.len
  simp only [List.length_cons] at hlen
  have hn0 := hS.n0
  have e : (s.n + 1).toNat = s.n.toNat + 1 := by omega
  rw [bump_eq]
  exact { inv := hS.inv, view := hS.view, spStart := hS.spStart, spStop := hS.spStop, spPad := hS.spPad,
          n0 := by show 0 ≤ s.n + 1; omega, len := by show (s.n + 1).toNat + cs.length ≤ v.length; omega,
          pre := by show cs <+: v.drop (s.n + 1).toNat; rw [e]; exact (scanInv_drop hS).2, i0 := fun h => by omega }

/-- A CONSULTATION at byte `b` of the view with `n` bytes pending: the flush leaves a loop state at that byte; what `triggerX`
    answers is read off `tryParsersX` there, whatever the entry list; and from a loop state at the byte the scan goes on behind
    it with nothing pending -/
theorem triggerX_step (X : Ctx) (F : SegFacts src segs) (Z : ∀ s ∈ segs, s.padding = 0) (env : Env) {v cs : Bytes}
    {b : UInt8} {i : Nat} {s : Inl.Scan} {c : BCur} (hS : ScanInvLo lo0 X src segs v (b :: cs) i s c) :
    ∃ (r1 : BlockReader) (ks : List Inl.Node) (sp' : Segment), s.st.rd.advance s.n = .ok r1 ∧
      LInvLo lo0 X src segs { s.st with rd := r1, kids := ks } { c with p := c.p + s.n } ∧
      BCur.view src segs { c with p := c.p + s.n } = some (b :: v.drop (s.n.toNat + 1)) ∧
      BCur.remaining segs { c with p := c.p + s.n } ≤ BCur.remaining segs c ∧
      (∀ (T : List XIp) n st', tryParsersX env r1.position.1 r1.position.2 T { s.st with rd := r1, kids := ks } = .ok (n, st') →
        triggerX env T i s = match n with
          | some nd => .ok (.inl { st' with kids := st'.kids ++ [nd] })
          | none => .ok (.inr { s with st := st', n := 0, sp := sp' })) ∧
      (∀ st', LInvLo lo0 X src segs st' { c with p := c.p + s.n } →
        ScanInvLo lo0 X src segs (b :: v.drop (s.n.toNat + 1)) cs (i + 1) (bump b { s with st := st', n := 0, sp := sp' })
          { c with p := c.p + s.n }) := by
  have hlen := hS.len
  simp only [List.length_cons] at hlen
  obtain ⟨hvb, hcs⟩ := scanInv_drop hS
  -- flush the pending bytes: still inside the line
  have hnlt : s.n.toNat < v.length := by omega
  have w := hS.inv.rs.abs.wf
  have hz := hS.inv.rs.pad
  obtain ⟨v1, v2, v3, v4, v5, v6, v7, v8⟩ := view_some F w hz hS.view
  obtain ⟨r1, a1, a2⟩ := advance_inline F Z hS.inv.rs (n := s.n) hS.n0 (by omega) (by omega)
  have hnn : c.p + s.n = c.p + (s.n.toNat : Int) := by have := hS.n0; omega
  obtain ⟨vs1, vs2⟩ := view_shift F w hz hS.view hnlt
  rw [← hnn] at vs1 vs2
  rw [hvb] at vs1
  have hpos1 := (peekLine_facts F a2).2
  have hbetween : s.sp.between r1.position.2 = .ok { start := c.p, stop := c.p + s.n, padding := 0 } := by
    simp only [Segment.between, BlockReader.position, hpos1, hS.spStop, vs2, bne_self_eq_false, Bool.false_eq_true,
      if_false, hS.spStart, hS.spPad]
    rfl
  -- the children and startPosition after the flush
  have hkids : ∃ ks sp', (if (i != 0) = true then
        (s.sp.between r1.position.2).map (fun seg => (mergeOrAppend s.st.kids seg, r1.position.2))
      else (pure (s.st.kids, s.sp) : Except Panic (List Inl.Node × Segment))) = .ok (ks, sp') ∧
      chain lo0 (c.p + s.n) (segsOfL ks) ∧ X.LK ks s.st.nextId s.st.bottoms ∧ sp'.start = c.p + s.n ∧
      sp'.stop = BCur.stopOf segs c ∧ sp'.padding = 0 := by
    by_cases hi : i = 0
    · have hn := hS.i0 hi
      simp only [hi, bne_self_eq_false, Bool.false_eq_true, if_false, pure, Except.pure]
      refine ⟨_, _, rfl, ?_, hS.inv.lk, ?_, hS.spStop, hS.spPad⟩
      · rw [hn]; simpa using hS.inv.ch
      · rw [hn, hS.spStart]; omega
    · have : (i != 0) = true := by simpa using hi
      simp only [this, if_true, hbetween, Except.map]
      refine ⟨_, _, rfl, ?_, X.merge _ hS.inv.lk, ?_, ?_, ?_⟩
      · exact chain_mergeOrAppend (s := { start := c.p, stop := c.p + s.n, padding := 0 }) hS.inv.ch
          (by simp only; have := hS.n0; omega)
      · simp [BlockReader.position, hpos1]
      · simp [BlockReader.position, hpos1, vs2]
      · simp [BlockReader.position, hpos1]
  obtain ⟨ks, sp', hk1, hk2, hk3, hk4, hk5, hk6⟩ := hkids
  have hrem1 : BCur.remaining segs { c with p := c.p + s.n } ≤ BCur.remaining segs c := by
    obtain ⟨_, c1', f1, f2, f3, _, _, _⟩ := advance_ok F Z hS.inv.rs (n := s.n) hS.n0 (by omega)
    have ec : c1' = { c with p := c.p + s.n } := by
      have h1 := f2.abs.line; have h2 := f2.abs.pos; have h3 := a2.abs.line; have h4 := a2.abs.pos
      rw [a1] at f1; simp at f1; subst f1
      cases c1'; simp only [BCur.mk.injEq]
      rw [h3] at h1; rw [h4] at h2
      simp at h2
      exact ⟨h1.symm, h2.1.symm, h2.2.2.symm⟩
    rw [← ec, f3]; have := hS.n0; omega
  refine ⟨r1, ks, sp', a1, ⟨a2, hk2, hk3⟩, vs1, hrem1, ?_, ?_⟩
  · intro T n st' hT
    unfold triggerX
    simp only [a1, bind, Except.bind, hk1, hT]
    cases n <;> rfl
  · intro st' hI'
    have hl2 : (v.drop (s.n.toNat + 1)).length = v.length - (s.n.toNat + 1) := by simp
    rw [bump_eq]
    exact { inv := hI', view := vs1, spStart := hk4, spStop := by show sp'.stop = _; rw [hk5, vs2], spPad := hk6,
            n0 := by show (0 : Int) ≤ 0 + 1; omega,
            len := by show ((0 : Int) + 1).toNat + cs.length ≤ _; simp only [List.length_cons, hl2]; omega,
            pre := by show cs <+: List.drop ((0 : Int) + 1).toNat _; simpa using hcs, i0 := fun h => by omega }

/-- the table entry consulted: the byte's own, or the entry of ' ' (white space, a non-punctuation line head) -/
theorem contracts_parserChar {X : Ctx} {env : Env} {tbl : UInt8 → List XIp}
    (hC32 : ∀ ip ∈ tbl 32, ∀ b, PContractLo lo0 X src segs (· == b) (ip.parse env))
    (hC : ∀ b, ∀ ip ∈ tbl b, PContractLo lo0 X src segs (· == b) (ip.parse env)) (b : UInt8) (i : Nat) :
    ∀ ip ∈ tbl (parserChar b i), PContractLo lo0 X src segs (· == b) (ip.parse env) := by
  rcases InlinesLoopX.parserChar_cases b i with h | h
  · rw [h]; exact fun ip hip => hC32 ip hip b
  · rw [h]; exact hC b

theorem scanX_total_lo (X : Ctx) (F : SegFacts src segs) (Z : ∀ s ∈ segs, s.padding = 0) (env : Env)
    (tbl : UInt8 → List XIp)
    (hC32 : ∀ ip ∈ tbl 32, ∀ b, PContractLo lo0 X src segs (· == b) (ip.parse env))
    (hC : ∀ b, ∀ ip ∈ tbl b, PContractLo lo0 X src segs (· == b) (ip.parse env)) :
    ∀ (bs : Bytes) (i : Nat) (s : Inl.Scan) (v : Bytes) (c : BCur), ScanInvLo lo0 X src segs v bs i s c →
    ∃ res, scanX env tbl bs i s = .ok res ∧
      (match res with
        | .hit st' _ => ∃ c', LInvLo lo0 X src segs st' c' ∧ BCur.remaining segs c' + 1 ≤ BCur.remaining segs c ∧ c.ln ≤ c'.ln
        | .eol s' => ∃ v' c', ScanInvLo lo0 X src segs v' [] 1 s' c' ∧ BCur.remaining segs c' ≤ BCur.remaining segs c ∧
            c'.ln = c.ln) := by
  intro bs
  induction bs with
  | nil =>
    intro i s v c hS
    refine ⟨.eol s, rfl, v, c, ?_, Int.le_refl _, rfl⟩
    exact { hS with i0 := fun h => by omega, len := by simpa using hS.len, pre := by simp }
  | cons b cs ih =>
    intro i s v c hS
    simp only [scanX]
    split
    · -- a newline ends the loop
      refine ⟨.eol s, rfl, v, c, ?_, Int.le_refl _, rfl⟩
      exact { hS with i0 := fun h => by omega, len := by have := hS.len; simp; omega, pre := by simp }
    · split
      · obtain ⟨r1, ks, sp', _, hI1, vs1, hrem1, htr, hnext⟩ := triggerX_step X F Z env hS
        obtain ⟨n, st', c', t1, t2, t3, t4, t5⟩ := tryParsersX_total_lo X F env hI1.rs vs1 (tbl (parserChar b i)) _ hI1
          (contracts_parserChar hC32 hC b i)
        rw [htr _ _ _ t1]
        cases n with
        | some nd =>
          simp only [pure, Except.pure]
          exact ⟨_, rfl, c', ⟨t2, t5.2.1, t5.2.2⟩, by have := t5.1; omega, t4⟩
        | none =>
          simp only
          obtain ⟨rfl, t6, t7⟩ := t5
          -- the loop goes on behind the trigger byte with nothing pending
          obtain ⟨res, r1', r2'⟩ := ih (i + 1) _ _ _ (hnext st' ⟨t2, t6, t7⟩)
          refine ⟨res, r1', ?_⟩
          cases res with
          | hit st'' e =>
            obtain ⟨c'', q1, q2, q3⟩ := r2'
            exact ⟨c'', q1, by omega, q3⟩
          | eol s'' =>
            obtain ⟨v'', c'', q1, q2, q3⟩ := r2'
            exact ⟨v'', c'', q1, by omega, q3⟩
      · exact ih (i + 1) (bump b s) v c (scanInv_bump hS)

theorem eolText_total (X : Ctx) {flags : Nat} {diff : Segment} {kids : List Node} {n : Nat} {bt : List Bottom}
    (hlo : 0 ≤ lo0) (hc : chain lo0 diff.start (segsOfL kids)) (h1 : diff.start ≤ diff.stop) (h2 : diff.stop ≤ src.length)
    (hlk : X.LK kids n bt) :
    ∃ seg kids', eolText src flags diff kids = .ok (seg, kids') ∧ chain lo0 diff.start (segsOfL kids') ∧
      seg.start = diff.start ∧ diff.start ≤ seg.stop ∧ seg.stop ≤ diff.stop ∧ X.LK kids' n bt := by
  have h0 : 0 ≤ diff.start := by have := chain_le hc; omega
  unfold eolText
  split
  · exact ⟨diff, kids, rfl, hc, rfl, h1, Int.le_refl _, hlk⟩
  · obtain ⟨t', e1, e2, e3, e4⟩ := trimRightSpace_ok (src := src) (t := diff) h0 h1 h2
    simp only [e1, bind, Except.bind, pure, Except.pure]
    split
    · split
      · rename_i tseg hl
        split
        · rename_i hadj
          simp only [beq_iff_eq] at hadj
          obtain ⟨ys, rfl⟩ := List.getLast?_eq_some_iff.mp hl
          rw [segsOfL_append] at hc
          obtain ⟨mid, c1, c2⟩ := chain_split hc
          simp only [segsOfL, segsOf, List.append_nil, chain] at c2
          have hm := chain_le c1
          obtain ⟨t2, f1, f2, f3, f4⟩ := trimRightSpace_ok (src := src) (t := tseg) (by omega) c2.2.1 (by omega)
          simp only [f1, List.dropLast_concat]
          refine ⟨t', _, rfl, ?_, e2, e3, e4, X.swapText _ _ _ _ _ hlk⟩
          rw [segsOfL_append]
          refine chain_append c1 ?_
          simp only [segsOfL, segsOf, List.append_nil]
          exact chain_single (by omega) (by omega) (by omega)
        · exact ⟨t', kids, rfl, hc, e2, e3, e4, hlk⟩
      · exact ⟨t', kids, rfl, hc, e2, e3, e4, hlk⟩
    · exact ⟨t', kids, rfl, hc, e2, e3, e4, hlk⟩

theorem endOfLine_total_lo (X : Ctx) (hlo : 0 ≤ lo0) (F : SegFacts src segs) (Z : ∀ s ∈ segs, s.padding = 0) {flags : Nat} {v : Bytes}
    {i : Nat} {s : Inl.Scan} {c : BCur} (hS : ScanInvLo lo0 X src segs v [] i s c) :
    ∃ st' c', endOfLine flags c.ln s = .ok st' ∧ LInvLo lo0 X src segs st' c' ∧
      BCur.remaining segs c' + 1 ≤ BCur.remaining segs c := by
  have w := hS.inv.rs.abs.wf
  have hz := hS.inv.rs.pad
  obtain ⟨v1, v2, v3, v4, v5, v6, v7, v8⟩ := view_some F w hz hS.view
  have hlen := hS.len
  simp only [List.length_nil, Nat.add_zero] at hlen
  have hn0 := hS.n0
  -- the pending bytes
  have hadv : ∃ r1 c1, (if (s.n != 0) = true then s.st.rd.advance s.n else pure s.st.rd) = .ok r1 ∧ RS src segs r1 c1 ∧
      BCur.remaining segs c1 = BCur.remaining segs c - s.n ∧ c.ln ≤ c1.ln ∧ c.p + s.n ≤ c1.p ∧ (s.n = 0 → c1 = c) := by
    by_cases hn : s.n = 0
    · simp only [hn, bne_self_eq_false, Bool.false_eq_true, if_false, pure, Except.pure]
      exact ⟨_, c, rfl, hS.inv.rs, by omega, Int.le_refl _, by omega, fun _ => rfl⟩
    · have : (s.n != 0) = true := by simpa using hn
      simp only [this, if_true]
      obtain ⟨r1, c1, e1, e2, e3, e4, e5, _⟩ := advance_ok F Z hS.inv.rs (n := s.n) hn0 (by omega)
      exact ⟨r1, c1, e1, e2, e3, e4, e5, fun h => absurd h hn⟩
  obtain ⟨r1, c1, e1, e2, e3, e4, e5, e6⟩ := hadv
  unfold endOfLine
  simp only [e1, bind, Except.bind, BlockReader.position, e2.abs.line]
  have hmono : chain lo0 c1.p (segsOfL s.st.kids) := chain_mono (Int.le_refl _) (by omega) hS.inv.ch
  by_cases hl : c.ln = c1.ln
  · have hne : (c.ln != c1.ln) = false := by simpa using hl
    simp only [hne, Bool.false_eq_true, if_false]
    have hpos1 := (peekLine_facts F e2).2
    have hrng := bpos_wf F e2.abs
    rw [hpos1] at hrng
    have hst1 : BCur.stopOf segs c1 = BCur.stopOf segs c := by simp [BCur.stopOf, hl]
    have hbetween : s.sp.between r1.pos = .ok { start := c.p, stop := c1.p, padding := 0 } := by
      simp only [Segment.between, hpos1, hS.spStop, hst1, bne_self_eq_false, Bool.false_eq_true, if_false, hS.spStart,
        hS.spPad]
      rfl
    simp only [hbetween]
    obtain ⟨seg, kids', g1, g2, g3, g4, g5, g6⟩ := eolText_total (src := src) X (flags := flags) hlo
      (diff := { start := c.p, stop := c1.p, padding := 0 }) hS.inv.ch (by simp only; omega)
      (by have := hrng.2.1; have := hrng.2.2.1; simp only at *; omega) hS.inv.lk
    have hsrc : r1.source = src := e2.abs.source
    simp only [hsrc, g1]
    obtain ⟨r2, a1, a2⟩ := advanceLine_ok F Z e2
    obtain ⟨b1, b2, b3, b4, b5⟩ := advanceLine_facts F e2.abs.wf e2.pad
    simp only [a1, pure, Except.pure]
    refine ⟨_, _, rfl, ⟨a2, ?_, X.appendText _ _ _ _ g6⟩, ?_⟩
    · rw [segsOfL_append]
      refine chain_append g2 ?_
      simp only [segsOfL, segsOf, List.append_nil]
      simp only at g3 g4 g5
      exact chain_single (by omega) (by omega) (by omega)
    · by_cases hl1 : BCur.live segs c1 = true
      · have := b4 hl1
        have hv1 : ∃ v', BCur.view src segs c1 = some v' := by simp [BCur.view, hl1]
        obtain ⟨v', hv'⟩ := hv1
        obtain ⟨_, _, u3, _⟩ := view_some F e2.abs.wf e2.pad hv'
        omega
      · have : BCur.remaining segs c1 = 0 := by simp [BCur.remaining, hl1]
        omega
  · have hne : (c.ln != c1.ln) = true := by simpa using hl
    simp only [hne, if_true, pure, Except.pure]
    refine ⟨_, c1, rfl, ⟨e2, hmono, hS.inv.lk⟩, ?_⟩
    have : s.n ≠ 0 := fun h => hl (by rw [e6 h])
    omega

theorem lineLoopX_total_lo (X : Ctx) (hlo : 0 ≤ lo0) (F : SegFacts src segs) (Z : ∀ s ∈ segs, s.padding = 0) (env : Env)
    (tbl : UInt8 → List XIp)
    (hC32 : ∀ ip ∈ tbl 32, ∀ b, PContractLo lo0 X src segs (· == b) (ip.parse env))
    (hC : ∀ b, ∀ ip ∈ tbl b, PContractLo lo0 X src segs (· == b) (ip.parse env)) :
    ∀ (fuel : Nat) (esc : Bool) (st : St) (c : BCur), LInvLo lo0 X src segs st c →
    (BCur.remaining segs c).toNat < fuel →
    ∃ st' c', lineLoopX env tbl fuel esc st = .ok st' ∧ LInvLo lo0 X src segs st' c' := by
  intro fuel
  induction fuel with
  | zero => intro esc st c _ hf; omega
  | succ f ih =>
    intro esc st c hI hf
    obtain ⟨hpl, hpos⟩ := peekLine_facts F hI.rs
    simp only [lineLoopX, hpl, bind, Except.bind]
    cases hv : BCur.view src segs c with
    | none => exact ⟨st, c, rfl, hI⟩
    | some line =>
      obtain ⟨v1, v2, v3, v4, v5, v6, v7, v8⟩ := view_some F hI.rs.abs.wf hI.rs.pad hv
      have hne : line.isEmpty = false := by
        cases line with
        | nil => simp at v6; omega
        | cons a t => rfl
      simp only [hne, Bool.false_eq_true, if_false]
      have hS : ScanInvLo lo0 X src segs line (line.take (classify line).1) 0
          { st := st, n := 0, sp := st.rd.position.2, escaped := esc } c :=
        { inv := hI, view := hv, spStart := by simp [BlockReader.position, hpos],
          spStop := by simp [BlockReader.position, hpos], spPad := by simp [BlockReader.position, hpos],
          n0 := Int.le_refl _, len := by simp [List.length_take]; omega,
          pre := by simpa using List.take_prefix _ _, i0 := fun _ => rfl }
      obtain ⟨res, r1, r2⟩ := scanX_total_lo X F Z env tbl hC32 hC _ 0 _ line c hS
      simp only [r1]
      cases res with
      | hit st' e' =>
        obtain ⟨c', q1, q2, q3⟩ := r2
        exact ih e' st' c' q1 (by omega)
      | eol s' =>
        obtain ⟨v', c', q1, q2, q3⟩ := r2
        obtain ⟨st2, c2, g1, g2, g3⟩ := endOfLine_total_lo X hlo F Z (flags := (classify line).2) q1
        simp only [BlockReader.position, hI.rs.abs.line, ← q3, g1]
        exact ih _ st2 c2 g2 (by omega)






/-! ### tables that agree along the run -/

/-- two entry lists do the same on every state of a run that is consulted at byte `b` (its reader is one `Advance` answers) -/
def AgreeAt (lo0 : Int) (X : Ctx) (src : Bytes) (segs : List Segment) (env : Env) (b : UInt8) (l1 l2 : List XIp) : Prop :=
  l2.isEmpty = l1.isEmpty ∧
  ∀ (st : St) (c : BCur) (l : Bytes) (r0 : BlockReader) (n : Int), r0.advance n = .ok st.rd → LInvLo lo0 X src segs st c →
    BCur.view src segs c = some (b :: l) →
    tryParsersX env st.rd.position.1 st.rd.position.2 l2 st = tryParsersX env st.rd.position.1 st.rd.position.2 l1 st

theorem scanX_agreeAt (X : Ctx) (F : SegFacts src segs) (Z : ∀ s ∈ segs, s.padding = 0) (env : Env)
    (T1 T2 : UInt8 → List XIp)
    (hC32 : ∀ ip ∈ T1 32, ∀ b, PContractLo lo0 X src segs (· == b) (ip.parse env))
    (hC : ∀ b, ∀ ip ∈ T1 b, PContractLo lo0 X src segs (· == b) (ip.parse env))
    (hA : ∀ b ∈ src, ∀ i, AgreeAt lo0 X src segs env b (T1 (parserChar b i)) (T2 (parserChar b i))) :
    ∀ (bs : Bytes) (i : Nat) (s : Inl.Scan) (v : Bytes) (c : BCur), ScanInvLo lo0 X src segs v bs i s c →
    scanX env T2 bs i s = scanX env T1 bs i s := by
  intro bs
  induction bs with
  | nil => intro i s v c _; rfl
  | cons b cs ih =>
    intro i s v c hS
    have hb : b ∈ src := by
      obtain ⟨_, _, _, _, v5, _, _, _⟩ := view_some F hS.inv.rs.abs.wf hS.inv.rs.pad hS.view
      have : b ∈ v := List.mem_of_mem_drop (by rw [(scanInv_drop hS).1]; exact List.mem_cons_self ..)
      rw [v5] at this
      exact sub_mem this
    have hA := hA b hb
    simp only [scanX, (hA i).1]
    split
    · rfl
    · split
      · have hCpc := contracts_parserChar hC32 hC b i
        obtain ⟨r1, ks, sp', hadv, hI1, vs1, _, htr, hnext⟩ := triggerX_step X F Z env hS
        obtain ⟨n, st', c', t1, t2, t3, t4, t5⟩ := tryParsersX_total_lo X F env hI1.rs vs1 (T1 (parserChar b i)) _ hI1 hCpc
        have t1' := ((hA i).2 { s.st with rd := r1, kids := ks } _ _ _ _ hadv hI1 vs1).trans t1
        rw [htr _ _ _ t1, htr _ _ _ t1']
        cases n with
        | some nd => rfl
        | none =>
          obtain ⟨rfl, t6, t7⟩ := t5
          exact ih (i + 1) _ _ _ (hnext st' ⟨t2, t6, t7⟩)
      · exact ih (i + 1) (bump b s) v c (scanInv_bump hS)

theorem lineLoopX_agreeAt (X : Ctx) (hlo : 0 ≤ lo0) (F : SegFacts src segs) (Z : ∀ s ∈ segs, s.padding = 0) (env : Env)
    (T1 T2 : UInt8 → List XIp)
    (hC32 : ∀ ip ∈ T1 32, ∀ b, PContractLo lo0 X src segs (· == b) (ip.parse env))
    (hC : ∀ b, ∀ ip ∈ T1 b, PContractLo lo0 X src segs (· == b) (ip.parse env))
    (hA : ∀ b ∈ src, ∀ i, AgreeAt lo0 X src segs env b (T1 (parserChar b i)) (T2 (parserChar b i))) :
    ∀ (fuel : Nat) (esc : Bool) (st : St) (c : BCur), LInvLo lo0 X src segs st c →
    (BCur.remaining segs c).toNat < fuel → lineLoopX env T2 fuel esc st = lineLoopX env T1 fuel esc st := by
  intro fuel
  induction fuel with
  | zero => intro esc st c _ hf; omega
  | succ f ih =>
    intro esc st c hI hf
    obtain ⟨hpl, hpos⟩ := peekLine_facts F hI.rs
    simp only [lineLoopX, hpl, bind, Except.bind]
    cases hv : BCur.view src segs c with
    | none => rfl
    | some line =>
      obtain ⟨v1, v2, v3, v4, v5, v6, v7, v8⟩ := view_some F hI.rs.abs.wf hI.rs.pad hv
      have hne : line.isEmpty = false := by
        cases line with
        | nil => simp at v6; omega
        | cons a t => rfl
      simp only [hne, Bool.false_eq_true, if_false]
      have hS : ScanInvLo lo0 X src segs line (line.take (classify line).1) 0
          { st := st, n := 0, sp := st.rd.position.2, escaped := esc } c :=
        { inv := hI, view := hv, spStart := by simp [BlockReader.position, hpos],
          spStop := by simp [BlockReader.position, hpos], spPad := by simp [BlockReader.position, hpos],
          n0 := Int.le_refl _, len := by simp [List.length_take]; omega,
          pre := by simpa using List.take_prefix _ _, i0 := fun _ => rfl }
      rw [scanX_agreeAt X F Z env T1 T2 hC32 hC hA _ 0 _ line c hS]
      obtain ⟨res, r1, r2⟩ := scanX_total_lo X F Z env T1 hC32 hC _ 0 _ line c hS
      simp only [r1]
      cases res with
      | hit st' e' =>
        obtain ⟨c', q1, q2, q3⟩ := r2
        exact ih e' st' c' q1 (by omega)
      | eol s' =>
        obtain ⟨v', c', q1, q2, q3⟩ := r2
        obtain ⟨st2, c2, g1, g2, g3⟩ := endOfLine_total_lo X hlo F Z (flags := (classify line).2) q1
        simp only [BlockReader.position, hI.rs.abs.line, ← q3, g1]
        exact ih _ st2 c2 g2 (by omega)


theorem AgreeAt.refl (X : Ctx) (env : Env) (b : UInt8) (l : List XIp) : AgreeAt lo0 X src segs env b l l :=
  ⟨rfl, fun _ _ _ _ _ _ _ _ => rfl⟩

/-- NEVER CONSULTED: the loop does not look at a table entry whose byte does not occur in the source -/
theorem lineLoopX_eq_lo (X : Ctx) (hlo : 0 ≤ lo0) (F : SegFacts src segs) (Z : ∀ s ∈ segs, s.padding = 0) (env : Env)
    (T1 T2 : UInt8 → List XIp)
    (hC32 : ∀ ip ∈ T1 32, ∀ b, PContractLo lo0 X src segs (· == b) (ip.parse env))
    (hC : ∀ b, ∀ ip ∈ T1 b, PContractLo lo0 X src segs (· == b) (ip.parse env))
    (h32 : T2 32 = T1 32) (hT : ∀ c ∈ src, T2 c = T1 c) :
    ∀ (fuel : Nat) (esc : Bool) (st : St) (c : BCur), LInvLo lo0 X src segs st c →
    (BCur.remaining segs c).toNat < fuel → lineLoopX env T2 fuel esc st = lineLoopX env T1 fuel esc st := by
  refine lineLoopX_agreeAt X hlo F Z env T1 T2 hC32 hC fun b hb i => ?_
  rcases InlinesLoopX.parserChar_cases b i with h | h
  · rw [h, h32]; exact AgreeAt.refl X env b _
  · rw [h, hT b hb]; exact AgreeAt.refl X env b _

theorem base_contracts (X : Ctx) (env : Env) (hC : ∀ ip, PContractLo lo0 X src segs (trigOf ip) (ip.parse env)) :
    ∀ b, ∀ ip ∈ baseTbl b, PContractLo lo0 X src segs (· == b) (ip.parse env) := by
  intro b ip hip st c b' l hI hv hb
  simp only [baseTbl, List.mem_map] at hip
  obtain ⟨ip', hm, rfl⟩ := hip
  have : b' = b := by simpa using hb
  subst this
  exact hC ip' st c b' l hI hv (parsersFor_trig hm)

theorem base32 (X : Ctx) (env : Env) : ∀ ip ∈ baseTbl 32, ∀ b, PContractLo lo0 X src segs (· == b) (ip.parse env) :=
  fun ip hip => by simp [baseTbl, parsersFor] at hip


theorem lineLoop_total_lo (X : Ctx) (hlo : 0 ≤ lo0) (F : SegFacts src segs) (Z : ∀ s ∈ segs, s.padding = 0) (env : Env)
    (hC : ∀ ip, PContractLo lo0 X src segs (trigOf ip) (ip.parse env)) :
    ∀ (fuel : Nat) (esc : Bool) (st : St) (c : BCur), LInvLo lo0 X src segs st c →
    (BCur.remaining segs c).toNat < fuel →
    ∃ st' c', lineLoop env fuel esc st = .ok st' ∧ LInvLo lo0 X src segs st' c' := by
  intro fuel esc st c hI hf
  rw [← InlinesLoopX.lineLoopX_base]
  exact lineLoopX_total_lo X hlo F Z env baseTbl (base32 X env) (base_contracts X env hC) fuel esc st c hI hf

theorem lineLoop_total (X : Ctx) (F : SegFacts src segs) (Z : ∀ s ∈ segs, s.padding = 0) (env : Env)
    (hC : ∀ ip, PContract X src segs (trigOf ip) (ip.parse env)) :
    ∀ (fuel : Nat) (esc : Bool) (st : St) (c : BCur), LInv X src segs st c →
    (BCur.remaining segs c).toNat < fuel →
    ∃ st' c', lineLoop env fuel esc st = .ok st' ∧ LInv X src segs st' c' := by
  simpa only [linvLo_zero] using lineLoop_total_lo X (Int.le_refl 0) F Z env (fun ip => pcontractLo_zero.mpr (hC ip))

/-- the context invariant "every open delimiter still has characters" -/
def Ctx.pos : Ctx where
  LK := fun k _ _ => posL k
  appendText := fun s so ha ra h => posL_append.mpr ⟨h, posL_text s so ha ra⟩
  swapText := fun s t so ha ra h => posL_append.mpr ⟨(posL_append.mp h).1, posL_text t so ha ra⟩
  appendPlain := fun nd h hw => posL_append.mpr ⟨h, posL_nondelim (by cases nd <;> simp_all [wf, Node.isDelim])⟩
  appendDelim := fun d h hd _ => posL_append.mpr ⟨h, posL_delim.mpr hd⟩
  bumpId := fun h => h

/-- without `[` and `]` in the source the link parser is only ever asked about a `!` and declines -/
theorem link_contract_nobracket (X : Ctx) (W : WFSegs src segs) (Z : ∀ s ∈ segs, s.padding = 0) (env : Env)
    (hnb : ∀ x ∈ src, x ≠ 91 ∧ x ≠ 93) : PContract X src segs (trigOf .link) (Ip.link.parse env) := by
  intro st c b l hI hv ht
  have F := segFacts W
  obtain ⟨hpl, hpos⟩ := peekLine_facts F hI.rs
  obtain ⟨v1, v2, v3, v4, v5, v6, v7, v8⟩ := view_some F hI.rs.abs.wf hI.rs.pad hv
  have hmem : ∀ x ∈ (b :: l), x ≠ 91 ∧ x ≠ 93 := fun x hx => hnb x (sub_mem (by rw [← v5]; exact hx))
  have hb := hmem b (by simp)
  simp only [trigOf, Bool.or_eq_true, beq_iff_eq] at ht
  have hb33 : b = 33 := by rcases ht with (h | h) | h <;> simp_all
  subst hb33
  have hst : ({ st with rd := st.rd } : St) = st := rfl
  refine ⟨none, st, c, ?_, hI.rs, Int.le_refl _, Int.le_refl _, hI.ch, hI.lk⟩
  simp only [Ip.parse, parseLink, hpl, hv, bind, Except.bind, Option.getD_some, hst]
  cases l with
  | nil => rfl
  | cons x t =>
    have hx := hmem x (by simp)
    simp only [show ((33 : UInt8) == 33) = true from rfl, if_true]
    split
    · rename_i heq; simp at heq; exact absurd heq.1 hx.1
    · rfl

theorem blockFuel_gt (W : WFSegs src segs) (Z : ∀ s ∈ segs, s.padding = 0) {c : BCur} (w : BWF segs c) (hz : c.pad = 0) :
    (BCur.remaining segs c).toNat < blockFuel src segs := by
  have := remaining_le_len W Z w hz
  unfold blockFuel
  omega

theorem stopOf_le_last (F : SegFacts src segs) {c : BCur} (h0 : 0 ≤ c.ln) :
    BCur.stopOf segs c ≤ BCur.lastStop segs := by
  unfold BCur.stopOf
  split
  · rename_i hl; exact stop_le_last F h0 hl
  · exact Int.le_refl _

theorem lastStop_le_length (F : SegFacts src segs) : BCur.lastStop segs ≤ src.length := by
  rw [F.last]
  exact (F.rng (BCur.k segs - 1) (by have := F.kpos; omega) (by omega)).2.2.1

/-- the `retry:` loop on a fresh reader, with parsers that keep the contract for a bound `lo0` at or in front of the
    first line: it returns, and the recorded segments are a chain from `lo0` to the end of the last line -/
theorem lineLoop_run (X : Ctx) (hbase : X.LK [] 0 []) (W : WFSegs src segs) (Z : ∀ s ∈ segs, s.padding = 0) (env : Env)
    (hlo : 0 ≤ lo0) (hlo1 : lo0 ≤ (BCur.segOf segs 0).start)
    (hC : ∀ ip, PContractLo lo0 X src segs (trigOf ip) (ip.parse env)) :
    ∃ r0 st', BlockReader.new src segs = .ok r0 ∧ lineLoop env (blockFuel src segs) false { rd := r0 } = .ok st' ∧
      chain lo0 (BCur.lastStop segs) (segsOfL st'.kids) ∧ X.LK st'.kids st'.nextId st'.bottoms := by
  have F := segFacts W
  obtain ⟨r0, e0, a0⟩ := blockReader_init F
  have hz0 : (BCur.init segs).pad = 0 := segOf_pad F Z 0 (Int.le_refl _) F.kpos
  have hI : LInvLo lo0 X src segs { rd := r0 } (BCur.init segs) :=
    ⟨⟨a0, hz0⟩, by simp only [segsOfL, chain, BCur.init]; exact hlo1, hbase⟩
  obtain ⟨st', c', l1, l2⟩ := lineLoop_total_lo X hlo F Z env hC (blockFuel src segs) false _ _ hI
    (blockFuel_gt W Z a0.wf hz0)
  refine ⟨r0, st', e0, l1, chain_mono (Int.le_refl _) ?_ l2.ch, l2.lk⟩
  -- the final cursor is not behind the end of its line
  have hr := bpos_wf F l2.rs.abs
  rw [(peekLine_facts F l2.rs).2] at hr
  have := stopOf_le_last F l2.rs.abs.wf.ln0
  have := hr.2.1
  simp only at *; omega

/-- the inline phase of a block finishes whenever the link parser keeps its contract -/
theorem parseBlock_total_of (X : Ctx) (hbase : X.LK [] 0 []) (hposL : ∀ k n b, X.LK k n b → posL k)
    (W : WFSegs src segs) (Z : ∀ s ∈ segs, s.padding = 0) (env : Env)
    (hlink : PContract X src segs (trigOf .link) (Ip.link.parse env)) :
    ∃ kids, parseBlock env src segs = .ok kids := by
  have F := segFacts W
  obtain ⟨r0, st', e0, l1, _, hlk⟩ := lineLoop_run X hbase W Z env (Int.le_refl 0) (F.rng 0 (Int.le_refl _) F.kpos).1
    (all_contracts_of X W Z env (pcontractLo_zero.mpr hlink))
  obtain ⟨res, p1, _⟩ := processDelimiters_ok .nil st'.kids (hposL _ _ _ hlk)
  unfold parseBlock
  simp only [e0, l1, p1, bind, Except.bind, pure, Except.pure]
  exact ⟨_, rfl⟩

/-- the inline phase of a block finishes — no panic, no fuel exhaustion, no broken modelling invariant — for
    every source without square brackets -/
theorem parseBlock_total_nobracket (W : WFSegs src segs) (Z : ∀ s ∈ segs, s.padding = 0) (env : Env)
    (hnb : ∀ x ∈ src, x ≠ 91 ∧ x ≠ 93) : ∃ kids, parseBlock env src segs = .ok kids :=
  parseBlock_total_of Ctx.pos (by intro id d h; simp at h) (fun _ _ _ h => h) W Z env
    (link_contract_nobracket Ctx.pos W Z env hnb)

/-- at the end of the `retry:` loop every recorded segment lies inside the source and they are in document order -/
theorem lineLoop_segments (X : Ctx) (hbase : X.LK [] 0 []) (W : WFSegs src segs) (Z : ∀ s ∈ segs, s.padding = 0)
    (env : Env) (hC : ∀ ip, PContract X src segs (trigOf ip) (ip.parse env)) {r0 : BlockReader} {st' : St}
    (h0 : BlockReader.new src segs = .ok r0)
    (h : lineLoop env (blockFuel src segs) false { rd := r0 } = .ok st') :
    chain 0 src.length (segsOfL st'.kids) := by
  have F := segFacts W
  obtain ⟨r0', st2, e0, l1, hch, _⟩ := lineLoop_run X hbase W Z env (Int.le_refl 0) (F.rng 0 (Int.le_refl _) F.kpos).1
    (fun ip => pcontractLo_zero.mpr (hC ip))
  rw [h0] at e0; simp at e0; subst e0
  rw [h] at l1; simp at l1; subst l1
  exact chain_mono (Int.le_refl _) (lastStop_le_length F) hch

theorem all_contracts_nobracket (X : Ctx) (W : WFSegs src segs) (Z : ∀ s ∈ segs, s.padding = 0) (env : Env)
    (hnb : ∀ x ∈ src, x ≠ 91 ∧ x ≠ 93) : ∀ ip, PContract X src segs (trigOf ip) (ip.parse env) :=
  fun ip => pcontractLo_zero.mp
    (all_contracts_of X W Z env (pcontractLo_zero.mpr (link_contract_nobracket X W Z env hnb)) ip)

end GM.Proof.InlinesTotal
