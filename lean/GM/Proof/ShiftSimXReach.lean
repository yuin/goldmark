/-
  GM.Proof.ShiftSimXReach — `Reach a h b sa sh sd` (GM.Proof.ShiftSimCompose) for a first part `a` that is empty or ends with a
  line feed, from the fact that the run on the joined document stands at the top of `blocksLoop` with nothing open, the
  store of `run a`, and its `skipBlankLines` takes it to the heading line (`AtHeading`). ONE step (`xr_step`): heading line and blank
  line, followed with the exact step lemmas of GM.Proof.ShiftSimHead, lead to a `Start` state (GM.Proof.ShiftSimMain) for the prefix
  `a ++ "\n# h\n\n"`. For the empty `a` the initial state is `AtHeading` (`atHeading_nil`): `run_joined`, `reach_nil`, and with
  GM.Proof.ShiftSimCompose the first half of C09 end to end for an empty document `A` (`independent_blocks_empty_all`).
-/
import GM.Proof.ShiftSimCompose
import GM.Proof.ShiftSimEnd

namespace GM.Blocks.Sh
open GM GM.Text GM.Spec GM.Proof.Reader GM.Blocks

/-- run B (on the joined document) stands at the top of `blocksLoop`: nothing open, keys reset, the store is `N`; the
    `skipBlankLines` at the top of the loop takes it to the heading line -/
structure AtHeading (a h b : Bytes) (N : List Node) (s1 : St) (stats1 : List LineStat) : Prop where
  nodes : s1.nodes = N
  opened : s1.pc.opened = []
  tmpPara : s1.pc.tmpPara = none
  fence : s1.pc.fence = none
  skipList : s1.pc.skipList = false
  eib : s1.pc.emptyItemBlank = false
  skip : ∃ x s1', skipBlankLinesR s1 = .ok (x, s1') ∧ x.2.2 = true ∧ s1'.nodes = s1.nodes ∧ s1'.pc = s1.pc ∧
    AtLine (hlB h) s1'.r ∧ AtLine [10] s1'.r.advanceLine ∧
    s1'.r.source = a ++ 10 :: (hlB h ++ 10 :: b) ∧
    s1'.r.pos = { start := ((a.length + 1 : Nat) : Int), stop := ((a.length + 1 + (h.length + 3) : Nat) : Int), padding := 0, forceNewline := false } ∧
    (x.2.1 = 0 → ∀ e ∈ stats1, e.lineNum ≤ s1'.r.line)

theorem xr_isBlankLine_snoc (ln : Int) (st : List LineStat) :
    isBlankLine ln 0 (st ++ [{ lineNum := ln, level := 0, isBlank := true }]) = true := by
  unfold isBlankLine
  have hn : ((st ++ [({ lineNum := ln, level := 0, isBlank := true } : LineStat)]).length : Int) - 1 - 0 = (st.length : Int) := by
    simp
  simp only [hn]
  rw [if_neg (by omega)]
  have ht : ((st.length : Int) + 1).toNat = (st ++ [({ lineNum := ln, level := 0, isBlank := true } : LineStat)]).length := by
    simp
  rw [ht, List.take_length, List.reverse_append]
  simp [isBlankLoop]

theorem xr_run_pos (src : Bytes) (s : St) (h : run src = .ok s) : 0 < s.nodes.length := by
  rw [a2_run_eq_blocksLoop] at h
  cases hb : blocksLoop 0 (linesFuel src) [] (initSt src) with
  | error e => rw [hb] at h; cases h
  | ok p =>
    rw [hb] at h
    cases h
    have k := a2_blocksLoop 0 _ _ _ p.2 p.1 (a2_K_init src) Nat.zero_lt_one hb
    exact k.1.doc.1

theorem xr_lineEnd_blank (P1 b : Bytes) : lineEnd (P1 ++ 10 :: b) P1.length = P1.length + 1 := by
  unfold lineEnd
  rw [if_pos (by simp)]
  rw [List.drop_left' rfl]
  simp [lineLen]

theorem xr_getD_store0 (N : List Node) (x y : Node) (hN : 0 < N.length) : ((N.set 0 x) ++ [y]).getD 0 default = x := by
  cases N with
  | nil => cases hN
  | cons z zs => rfl

/-- the frame of the prefix `a ++ "\n# h\n\n"`: the old nodes are the nodes of `run a` and the heading -/
def xr_frame (a h : Bytes) (ln : Int) (N M : List Node) : Frame :=
  { p := a ++ 10 :: (hlB h ++ [10]), dl := ln + 2, c := N.length,
    kids0 := (N.getD 0 default).children ++ [N.length], flag := true, oldNodes := M }

theorem xr_last2 (X : Bytes) : (X ++ [10, 10])[(X ++ [10, 10]).length - 1]? = some 10 ∧
    (X ++ [10, 10])[(X ++ [10, 10]).length - 2]? = some 10 := by
  constructor
  · rw [List.getElem?_append_right (by simp)]
    have : (X ++ [10, 10]).length - 1 - X.length = 1 := by simp
    rw [this]; rfl
  · rw [List.getElem?_append_right (by simp)]
    have : (X ++ [10, 10]).length - 2 - X.length = 0 := by simp
    rw [this]; rfl

theorem xr_frame_p (a h : Bytes) : a ++ 10 :: (hlB h ++ [10]) = (a ++ 10 :: 35 :: 32 :: h) ++ [10, 10] := by
  simp [hlB]

/-- the heading line and the blank line behind it, from the top of `blocksLoop`: the heading is appended to the Document, and the run
    stands at the top of `blocksLoop` again, in a `Start` state for the prefix `a ++ "\n# h\n\n"` -/
theorem xr_step (a h b : Bytes) (N : List Node) (hN : 0 < N.length)
    (hdoc : N.getD 0 default = { kind := .document, children := (N.getD 0 default).children })
    (s1 : St) (stats1 : List LineStat) (f1 : Nat) (sd : St)
    (hat : AtHeading a h b N s1 stats1)
    (hloop : blocksLoop 0 f1 stats1 s1 = .ok ((), sd)) :
    ∃ (n : Node) (st : List LineStat) (ln : Int) (s'' : St) (fuel'' : Nat),
      atxNodeOf (hlB h) { start := ((a.length + 1 : Nat) : Int), stop := ((a.length + 1 + (h.length + 3) : Nat) : Int), padding := 0, forceNewline := false } 0 = .ok (some n) ∧
      s''.nodes = (N.set 0 { (N.getD 0 default) with children := (N.getD 0 default).children ++ [N.length] })
        ++ [{ n with parent := some 0, blankPrev := isBlankLine (ln - 1) 0 st }] ∧
      (stats1 = [] → st = []) ∧
      Start (xr_frame a h ln N s''.nodes) b s'' (st ++ [{ lineNum := ln + 1, level := 0, isBlank := true }]) ∧
      blocksLoop 0 fuel'' (st ++ [{ lineNum := ln + 1, level := 0, isBlank := true }]) s'' = .ok ((), sd) := by
  obtain ⟨x0, s1', hsk, hx2, hn1, hp1, hl1, hlb, hsrc1, hpos1, hst1⟩ := hat.skip
  cases f1 with
  | zero => unfold blocksLoop at hloop; cases hloop
  | succ f =>
  unfold blocksLoop at hloop
  obtain ⟨x, s1x, h1, k1⟩ := bind_ok hloop
  rw [hsk] at h1
  cases h1
  obtain ⟨seg, lines, ok⟩ := x0
  simp only at hx2 hst1
  subst hx2
  simp only [Bool.not_true, Bool.false_eq_true, if_false] at k1
  obtain ⟨pos, s2, h2, k2⟩ := bind_ok k1
  obtain ⟨e2, epos⟩ : s2 = s1' ∧ pos = s1'.r.position := by cases h2; exact ⟨rfl, rfl⟩
  rw [e2] at k2
  obtain ⟨pc, s3, h3, k3⟩ := bind_ok k2
  obtain ⟨epc, e3⟩ := getPc_ok h3
  rw [e3] at k3
  have hop1 : s1'.pc.opened = [] := by rw [hp1]; exact hat.opened
  have hnop : pc.opened.length = 0 := by rw [epc, hop1]; rfl
  rw [hnop] at k3
  simp only [blankStats] at k3
  -- the statistics
  generalize hstd : (if (lines != 0) = true then ([] : List LineStat) else stats1) = st at k3
  have hstP : ∀ e ∈ st, e.lineNum ≤ s1'.r.line := by
    intro e he
    by_cases hl0 : lines = 0
    · subst hl0
      simp at hstd
      subst hstd
      exact hst1 rfl e he
    · have : (lines != 0) = true := by simpa using hl0
      rw [this, if_pos rfl] at hstd
      subst hstd
      cases he
  obtain ⟨res, s4, h4, k4⟩ := bind_ok k3
  have hlen1 : 0 < s1'.nodes.length := by rw [hn1, hat.nodes]; exact hN
  obtain ⟨hres, n, hn, hnodes4, hpc4, hsrc4, hpos4, hline4, hat4⟩ :=
    openBlocks_heading_exact (h ++ [10]) _ s1' hl1 hop1 hlen1 res s4 h4
  subst hres
  simp only [bne_self_eq_false, Bool.false_eq_true, if_false] at k4
  obtain ⟨u5, s5, h5, k5⟩ := bind_ok k4
  have e5 : s5 = { s4 with r := s4.r.advanceLine } := by
    unfold GM.Blocks.advanceLine at h5; cases h5; rfl
  obtain ⟨y, s6, h6, k6⟩ := bind_ok k5
  obtain ⟨ret, st6⟩ := y
  have hrc : s4.r.advanceLine = s1'.r.advanceLine := h2_advanceLine_congr ⟨hsrc4, hpos4, hline4⟩
  have hr5 : s5.r = s1'.r.advanceLine := by rw [e5]; exact hrc
  have hat5 : AtLine [10] s5.r := by rw [hr5]; exact hlb
  have hop5 : s5.pc.opened = [⟨s1'.nodes.length, .atx⟩] := by rw [e5]; simp only; rw [hpc4]
  obtain ⟨hret, hnodes6, hr6, hpc6, hstats6⟩ := blank_after_heading_exact s5 _ st f hat5 hop5 ret st6 s6 h6
  subst hret
  simp only [Bool.false_eq_true, if_false] at k6
  -- readers
  have hstop1 : s1'.r.pos.stop = (((a ++ 10 :: hlB h).length : Nat) : Int) := by
    rw [hpos1]; simp [hlB]; omega
  have hforce1 : s1'.r.pos.forceNewline = false := by rw [hpos1]
  have hD1 : a ++ 10 :: (hlB h ++ 10 :: b) = (a ++ 10 :: hlB h) ++ 10 :: b := by simp
  have hD : a ++ 10 :: (hlB h ++ 10 :: b) = (a ++ 10 :: (hlB h ++ [10])) ++ b := by simp
  have hr5' := advanceLine_eq s1'.r (by rw [hstop1]; omega)
  rw [← hr5, hsrc1, hstop1, hforce1, Int.toNat_natCast, hD1, xr_lineEnd_blank, ← hD1] at hr5'
  have hstop5 : s5.r.pos.stop = (((a ++ 10 :: (hlB h ++ [10])).length : Nat) : Int) := by
    rw [hr5']; simp; omega
  have hsrc5 : s5.r.source = a ++ 10 :: (hlB h ++ 10 :: b) := by rw [hr5']
  have hforce5 : s5.r.pos.forceNewline = false := by rw [hr5']
  have hline5 : s5.r.line = s1'.r.line + 1 := by rw [hr5']
  have hle : lineEnd (a ++ 10 :: (hlB h ++ 10 :: b)) (a ++ 10 :: (hlB h ++ [10])).length =
      lineEnd b 0 + (a ++ 10 :: (hlB h ++ [10])).length := by
    have := lineEnd_shift (a ++ 10 :: (hlB h ++ [10])) b 0
    rw [Nat.zero_add, ← hD] at this
    exact this
  have hpc : s6.pc = { s1.pc with blockOffset := 0, blockIndent := 0, opened := [] } := by
    rw [hpc6, e5]; simp only; rw [hpc4, hp1]
  have hnodes : s6.nodes = (N.set 0 { (N.getD 0 default) with children := (N.getD 0 default).children ++ [N.length] })
      ++ [{ n with parent := some 0, blankPrev := isBlankLine (s1'.r.line - 1) 0 st }] := by
    rw [hnodes6, e5]; simp only
    rw [hnodes4, hn1, hat.nodes, epos]
    rfl
  refine ⟨n, st, s1'.r.line, s6, f, ?_, hnodes, ?_, ?_, ?_⟩
  · rw [hpos1] at hn; exact hn
  · intro h0
    rw [← hstd, h0]
    split <;> rfl
  · refine ⟨?_, ?_, ?_, by rw [hpc], by rw [hpc]; exact hat.tmpPara, by rw [hpc]; exact hat.fence, by rw [hpc]; exact hat.skipList,
      fun _ => by rw [hpc]; exact hat.eib, fun i _ _ => rfl, ?_, ?_⟩
    · rw [hr6, advanceLine_eq _ (by rw [hstop5]; omega)]
      unfold Reader.new
      rw [advanceLine_eq { source := b, line := -1, peekedLine := none, pos := { start := 0, stop := 0 }, head := 0, lineOffset := -1 } (by simp)]
      simp only [shR, moveSeg, Frame.d, xr_frame, hsrc5, hstop5, hforce5, hline5, Int.toNat_natCast, hle, Reader.mk.injEq,
        Segment.mk.injEq, Int.toNat_zero]
      refine ⟨hD, ?_, trivial, ⟨by omega, by omega, trivial, trivial⟩, by omega, trivial⟩
      omega
    · rw [hnodes]; simp [xr_frame]; omega
    · rw [hnodes, xr_getD_store0 _ _ _ hN]
      show ({ (N.getD 0 default) with children := (N.getD 0 default).children ++ [N.length] } : Node) =
        { kind := .document, children := (N.getD 0 default).children ++ [N.length] }
      rw [hdoc]
    · intro e he
      show e.lineNum < s1'.r.line + 2
      rw [List.mem_append, List.mem_singleton] at he
      rcases he with he | he
      · have := hstP e he; omega
      · subst he; show s1'.r.line + 1 < s1'.r.line + 2; omega
    · right
      show isBlankLine (s1'.r.line + 2 - 1) 0 _ = true
      have : s1'.r.line + 2 - 1 = s1'.r.line + 1 := by omega
      rw [this]
      exact xr_isBlankLine_snoc _ _
  · rw [hstats6, hline5] at k6
    exact k6

theorem xr_getD_store_old (N : List Node) (x y : Node) (i : Nat) (h1 : 1 ≤ i) (h2 : i < N.length) :
    ((N.set 0 x) ++ [y]).getD i default = N.getD i default := by
  rw [List.getD_eq_getElem?_getD, List.getD_eq_getElem?_getD, List.getElem?_append_left (by simp; exact h2),
    List.getElem?_set_ne (by omega)]

theorem xr_getD_store_new (N : List Node) (x y : Node) : ((N.set 0 x) ++ [y]).getD N.length default = y := by
  rw [List.getD_eq_getElem?_getD, List.getElem?_append_right (by simp)]
  simp

theorem xr_treeOf_old (N M : List Node)
    (hsame : ∀ i, 1 ≤ i → i < N.length → M.getD i default = N.getD i default)
    (hkids : ∀ j c, c ∈ (N.getD j default).children → j < c ∧ c < N.length) :
    ∀ fuel i, 1 ≤ i → i < N.length → treeOf M fuel i = treeOf N fuel i
  | 0, i, h1, h2 => by simp only [treeOf]; rw [hsame i h1 h2]
  | fuel + 1, i, h1, h2 => by
    simp only [treeOf]
    rw [hsame i h1 h2]
    congr 1
    apply fu_map_congr
    intro c hc
    have := hkids i c hc
    exact xr_treeOf_old N M hsame hkids fuel c (by omega) this.2

theorem reach_of_atHeading (a h b : Bytes) (hh : ∀ c ∈ h, c ≠ 10) (hsep : indepSep a = [10])
    (sa sh sd : St) (hsa : run a = .ok sa) (hsh : run (headingLine h) = .ok sh)
    (hdoc : sa.nodes.getD 0 default = { kind := .document, children := (sa.nodes.getD 0 default).children })
    (hkids : ∀ j c, c ∈ (sa.nodes.getD j default).children → c < sa.nodes.length)
    (s1 : St) (stats1 : List LineStat) (f1 : Nat)
    (hat : AtHeading a h b sa.nodes s1 stats1)
    (hloop : blocksLoop 0 f1 stats1 s1 = .ok ((), sd)) : Reach a h b sa sh sd := by
  have hN := xr_run_pos a sa hsa
  obtain ⟨hac, hdla, hdka⟩ := run_acyc a sa hsa
  obtain ⟨n1, st, ln, s'', fuel'', hn1, hnodes, _, hstart, hcont⟩ :=
    xr_step a h b sa.nodes hN hdoc s1 stats1 f1 sd hat hloop
  generalize isBlankLine (ln - 1) 0 st = blank at hnodes
  have hFok : (xr_frame a h ln sa.nodes s''.nodes).OK := by
    obtain ⟨l1, l2⟩ := xr_last2 (a ++ 10 :: 35 :: 32 :: h)
    refine ⟨.inr ?_, .inr ?_, ?_⟩
    · show (a ++ 10 :: (hlB h ++ [10]))[(a ++ 10 :: (hlB h ++ [10])).length - 1]? = some 10
      rw [xr_frame_p]; exact l1
    · show (a ++ 10 :: (hlB h ++ [10]))[(a ++ 10 :: (hlB h ++ [10])).length - 2]? = some 10
      rw [xr_frame_p]; exact l2
    · intro x hx
      show 1 ≤ x ∧ x ≤ sa.nodes.length
      have hx' : x ∈ (sa.nodes.getD 0 default).children ++ [sa.nodes.length] := hx
      rw [List.mem_append, List.mem_singleton] at hx'
      rcases hx' with hx' | hx'
      · have := hac.1 0 x hx'
        have := hkids 0 x hx'
        omega
      · omega
  have hFd : ((xr_frame a h ln sa.nodes s''.nodes).d : Int) = ((a ++ indepSep a ++ headingLine h ++ [10]).length : Int) := by
    simp [Frame.d, xr_frame, hsep, headingLine, hlB]
  refine ⟨xr_frame a h ln sa.nodes s''.nodes, _, s'', fuel'', hFok, rfl, hFd, hstart, hcont, ?_⟩
  obtain ⟨sb, hsb, hrel⟩ := shift_invariance_all _ hFok rfl b hstart fuel'' sd hcont
  have hlen : sd.nodes.length = sb.nodes.length + sa.nodes.length := hrel.len
  have hpos := hrel.pos
  have hold : ∀ i, 1 ≤ i → i ≤ sa.nodes.length → sd.nodes.getD i default = s''.nodes.getD i default :=
    fun i h1 h2 => hrel.old i h1 h2
  have hkids' : ∀ j c, c ∈ (sa.nodes.getD j default).children → j < c ∧ c < sa.nodes.length :=
    fun j c hc => ⟨hac.1 j c hc, hkids j c hc⟩
  have hsame : ∀ i, 1 ≤ i → i < sa.nodes.length → sd.nodes.getD i default = sa.nodes.getD i default := by
    intro i h1 h2
    rw [hold i h1 (by omega), hnodes, xr_getD_store_old _ _ _ i h1 h2]
  -- the heading line alone
  rw [headingLine_eq] at hsh
  obtain ⟨n0, hn0, hnh⟩ := run_heading_line hh sh hsh
  have hmove : n1 = { n0 with lines := n0.lines.map (moveSeg ((a.length + 1 : Nat) : Int)) } :=
    atxNodeOf_moved hn0 (by
      have e : moveSeg ((a.length + 1 : Nat) : Int) { start := 0, stop := ((h.length + 3 : Nat) : Int) } =
          ({ start := ((a.length + 1 : Nat) : Int), stop := ((a.length + 1 + (h.length + 3) : Nat) : Int), padding := 0, forceNewline := false } : Segment) := by
        simp only [moveSeg, Segment.mk.injEq, and_true]
        omega
      rw [e]; exact hn1)
  obtain ⟨hk0, hc0, _, _⟩ := atxNodeOf_shape hn0
  have hk1 : (((a ++ indepSep a).length : Nat) : Int) = ((a.length + 1 : Nat) : Int) := by simp [hsep]
  rw [hk1]
  have hnewD : sd.nodes.getD sa.nodes.length default = { n1 with parent := some 0, blankPrev := blank } := by
    rw [hold _ hN (Nat.le_refl _), hnodes, xr_getD_store_new]
  have hleaf : treeOf sd.nodes (sd.nodes.length - 1) sa.nodes.length = .node { n1 with parent := some 0, blankPrev := blank } [] := by
    have := fu_treeOf_leaf (nodes := sd.nodes) (id := sa.nodes.length) (by rw [hnewD, hmove]; exact hc0) (sd.nodes.length - 1)
    rw [this, hnewD]
  show Tree.strs (Tree.readBlankL false true
      (((sa.nodes.getD 0 default).children ++ [sa.nodes.length]).map (treeOf sd.nodes (sd.nodes.length - 1)))) = _
  rw [List.map_append, to_readBlankL_false_append, to_readBlankL_false_append, to_strs_append, to_strs_append]
  congr 1
  · rw [st_docKids_b sa hN]
    congr 2
    apply fu_map_congr
    intro c hc
    have hc' := hkids' 0 c hc
    rw [xr_treeOf_old sa.nodes sd.nodes hsame hkids' _ c (by omega) hc'.2]
    exact treeOf_child_stable hac.1 _ c (by omega) (by omega)
  · rw [List.map_cons, List.map_nil, hleaf]
    exact st_heading_strs sh { n0 with parent := some 0, blankPrev := true } _ _ (by rw [hnh]; rfl) hc0 hk0
      (by rw [hmove]) (by rw [hmove]) (by rw [hmove])

theorem xr_run_loop {src : Bytes} {sd : St} (h : run src = .ok sd) :
    blocksLoop 0 (linesFuel src) [] (initSt src) = .ok ((), sd) := by
  rw [run_eq_blocksLoop] at h
  cases hb : blocksLoop 0 (linesFuel src) [] (initSt src) with
  | error e => rw [hb] at h; cases h
  | ok v => rw [hb] at h; cases h; rfl

/-- the initial state of the run on `"\n# h\n\n" ++ b` is `AtHeading` for the empty first part -/
theorem atHeading_nil {h : Bytes} (hh : ∀ c ∈ h, c ≠ 10) (b : Bytes) (f : Nat) (sd : St)
    (hloop : blocksLoop 0 f [] (initSt (docB h b)) = .ok ((), sd)) :
    AtHeading [] h b [{ kind := .document }] (initSt (docB h b)) [] := by
  refine ⟨rfl, rfl, rfl, rfl, rfl, rfl, ?_⟩
  have hlen : 0 < (docB h b).length := by simp [docB]
  have hlenD : (docB h b).length = h.length + 5 + b.length := by simp [docB]; omega
  have hat0 : AtLine [10] (initSt (docB h b)).r := by
    have := atLine_new (docB h b) hlen
    rw [doc_sub0 hh] at this
    exact this
  have hnew : (initSt (docB h b)).r = Reader.new (docB h b) := rfl
  have hstop0 : (Reader.new (docB h b)).pos.stop = ((1 : Nat) : Int) := by
    unfold Reader.new
    rw [advanceLine_eq _ (by simp)]
    simp only [Int.toNat_zero]
    rw [doc_lineEnd0 hh]
  have hforce0 : (Reader.new (docB h b)).pos.forceNewline = false := by
    unfold Reader.new
    rw [advanceLine_eq _ (by simp)]
  have hsrc0 : (Reader.new (docB h b)).source = docB h b := by
    unfold Reader.new
    rw [advanceLine_eq _ (by simp)]
  have hat1 : AtLine (hlB h) (initSt (docB h b)).r.advanceLine := by
    have := atLine_advanceLine (r := Reader.new (docB h b)) (src := docB h b) (k := 1) hsrc0 hstop0 hforce0 (by omega)
    rw [doc_sub1 hh] at this
    exact this
  cases f with
  | zero => unfold blocksLoop at hloop; cases hloop
  | succ f =>
  unfold blocksLoop at hloop
  obtain ⟨x, s1, h1, _⟩ := bind_ok hloop
  obtain ⟨hx1, hx2, hn1, hp1, hl1, hsrc1, hpos1, hline1⟩ :=
    skip_one_blank _ (hlB h) hat0 hat1 (isBlank_hl h) x s1 h1
  have hpos1' : s1.r.pos = { start := ((1 : Nat) : Int), stop := ((h.length + 4 : Nat) : Int), padding := 0, forceNewline := false } := by
    rw [hpos1, hnew, advanceLine_eq _ (by rw [hstop0]; omega)]
    simp only [hstop0, hforce0, hsrc0, Int.toNat_natCast]
    rw [doc_lineEnd1 hh]
  have hsrc1' : s1.r.source = docB h b := by rw [hsrc1, hnew, hsrc0]
  refine ⟨x, s1, h1, hx2, hn1, hp1, hl1, ?_, ?_, ?_, fun _ e he => nomatch he⟩
  · have := atLine_advanceLine (r := s1.r) (src := docB h b) (k := h.length + 4) hsrc1' (by rw [hpos1']) (by rw [hpos1']) (by omega)
    rw [doc_sub2 hh] at this
    exact this
  · rw [hsrc1']; simp [docB, hlB]
  · rw [hpos1']; simp only [List.length_nil, Segment.mk.injEq, and_true, true_and]; omega

theorem run_joined {h : Bytes} (hh : ∀ c ∈ h, c ≠ 10) (b : Bytes) (sd : St) (hrun : run (docB h b) = .ok sd) :
    ∃ n stats'' s'' fuel'' dl, atxNodeOf (hlB h) { start := 1, stop := ((h.length + 4 : Nat) : Int) } 0 = .ok (some n) ∧
      s''.nodes = headStore n ∧ Start (frameB h n dl) b s'' stats'' ∧ blocksLoop 0 fuel'' stats'' s'' = .ok ((), sd) := by
  have hloop := xr_run_loop hrun
  obtain ⟨n, st, ln, s'', fuel'', hn, hnodes, hst, hstart, hcont⟩ :=
    xr_step [] h b [{ kind := .document }] Nat.zero_lt_one rfl _ [] _ sd (atHeading_nil hh b _ sd hloop) hloop
  obtain rfl := hst rfl
  rw [isBlankLine_nil _ _ (Int.le_refl 0)] at hnodes
  have hnodes' : s''.nodes = headStore n := hnodes.trans (set0_doc n)
  have hF : xr_frame [] h ln [{ kind := .document }] s''.nodes = frameB h n (ln + 2) := by rw [hnodes']; rfl
  rw [hF] at hstart
  refine ⟨n, _, s'', fuel'', ln + 2, ?_, hnodes', hstart, hcont⟩
  have e : ∀ x y : Int, x = 1 → y = ((h.length + 4 : Nat) : Int) →
      atxNodeOf (hlB h) { start := x, stop := y, padding := 0, forceNewline := false } 0 = .ok (some n) →
      atxNodeOf (hlB h) { start := 1, stop := ((h.length + 4 : Nat) : Int) } 0 = .ok (some n) := by
    intro x y hx hy hxy; subst hx hy; exact hxy
  exact e _ _ (by simp) (by simp only [List.length_nil]; omega) hn

theorem reach_nil {h : Bytes} (hh : ∀ c ∈ h, c ≠ 10) (b : Bytes) (sa sh sd : St) (hsa : run [] = .ok sa)
    (hsh : run (headingLine h) = .ok sh) (hsd : run (indepDoc [] h b) = .ok sd) : Reach [] h b sa sh sd := by
  obtain ⟨sa', hsa', hna⟩ := run_nil
  rw [hsa] at hsa'
  cases hsa'
  rw [indepDoc_nil] at hsd
  have hloop := xr_run_loop hsd
  have hkids : ∀ j c, c ∈ (sa.nodes.getD j default).children → c < sa.nodes.length := by
    rw [hna]
    intro j c hc
    cases j <;> cases hc
  exact reach_of_atHeading [] h b hh rfl sa sh sd hsa hsh (by rw [hna]; rfl) hkids _ [] _
    (by rw [hna]; exact atHeading_nil hh b _ sd hloop) hloop

/-- the two dumps that `indepPair [] h b` compares are equal: EVERY heading text `h`, EVERY `b` (lists included) -/
theorem independent_blocks_empty_all (h b : Bytes) :
    ∀ e g, indepPair [] h b = some (e, g) → e = g := fun e g hp =>
  independent_blocks_of_reach [] h b (reach_nil (noLF_of_indepPair hp) b) e g hp

end GM.Blocks.Sh
