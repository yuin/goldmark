/-
  GM.Proof.BlocksTNOTableCall — one call of the table paragraph transformer `GM.TableX.transformPT src node`, step by step: the records it allocates (`Built`), the three steps on the old store, `buildTable_post`;
  and `TablePost`, what a call that makes a table does to a store with consistent tree links.
-/
import GM.Proof.BlocksTNOTableFn
import GM.Model.ExtTableX
import GM.Proof.BlocksClosedTree

section BlocksTNOTableCall
/-
  One call of the table paragraph transformer `GM.TableX.transformPT src node`, step by step:
  the records it allocates (`Built`: the old store is untouched while Table / TableHeader / TableRow / TableCell records
  are allocated and linked among themselves) and then the three steps on the old store (`SetSliced` of the paragraph,
  `InsertAfter`, `RemoveChild`).  Result: `buildTable_post`, from which `transformPT_post` (GM.Proof.BlocksTNOTableData): either nothing
  happened, or `TablePost`.
-/

namespace GM.Blocks.TO
open GM GM.Text GM.Spec GM.Proof.Reader GM.TableX

/-- a node without its tree links -/
def dataOf (n : Node) : Node := { n with parent := none, children := [] }

/-! ### the tree primitives on a node without parent, as store functions -/

theorem ensureIsolated_none {c : Nat} {s s' : St} {a : Unit} (hc : (nd s c).parent = none)
    (e : ensureIsolated c s = .ok (a, s')) : s' = s := by
  unfold ensureIsolated at e
  obtain ⟨cn, s1, h1, k1⟩ := bind_ok e
  obtain ⟨rfl, rfl⟩ := getNode_ok h1
  have : (s1.nodes.getD c default).parent = none := hc
  rw [this] at k1
  exact (pure_ok k1).2

theorem appendChild_none {p c : Nat} {s s' : St} {a : Unit} (hc : (nd s c).parent = none)
    (e : appendChild p c s = .ok (a, s')) :
    s' = upd (upd s p fun n => { n with children := n.children ++ [c] }) c fun n => { n with parent := some p } := by
  unfold appendChild at e
  obtain ⟨_, s1, h1, k1⟩ := bind_ok e
  have := ensureIsolated_none hc h1
  subst this
  obtain ⟨_, s2, h2, k2⟩ := bind_ok k1
  rw [modNode_eq] at h2 k2
  cases h2; cases k2; rfl

/-- `InsertBefore` of a node without parent: the new child list of `p` -/
theorem insertBefore_none {p : Nat} {v1 : Option Nat} {ins : Nat} {s s' : St} {a : Unit} (hc : (nd s ins).parent = none)
    (e : insertBefore p v1 ins s = .ok (a, s')) :
    ∃ kids, (kids = (nd s p).children ++ [ins] ∨ ∃ v, v1 = some v ∧ kids = insertBeforeIn v ins (nd s p).children) ∧
      s' = upd (upd s p fun n => { n with children := kids }) ins fun n => { n with parent := some p } := by
  unfold insertBefore at e
  cases v1 with
  | none => exact ⟨_, .inl rfl, appendChild_none hc e⟩
  | some v =>
    dsimp only at e
    obtain ⟨vn, s0, h0, k0⟩ := bind_ok e
    obtain ⟨rfl, rfl⟩ := getNode_ok h0
    split at k0
    · exact ⟨_, .inl rfl, appendChild_none hc k0⟩
    · obtain ⟨_, s1, h1, k1⟩ := bind_ok k0
      have := ensureIsolated_none hc h1
      subst this
      obtain ⟨_, s2, h2, k2⟩ := bind_ok k1
      rw [modNode_eq] at h2 k2
      cases h2; cases k2
      exact ⟨_, .inr ⟨v, rfl, rfl⟩, rfl⟩

theorem removeChild_some {p c : Nat} {s s' : St} {a : Unit} (hc : (nd s c).parent = some p)
    (e : removeChild p c s = .ok (a, s')) :
    s' = upd (upd s p fun n => { n with children := n.children.erase c }) c fun n => { n with parent := none } := by
  unfold removeChild at e
  obtain ⟨cn, s1, h1, k1⟩ := bind_ok e
  obtain ⟨rfl, rfl⟩ := getNode_ok h1
  have hc' : (s1.nodes.getD c default).parent = some p := hc
  rw [hc'] at k1
  simp only [bne_self_eq_false, Bool.false_eq_true, if_false] at k1
  obtain ⟨_, s2, h2, k2⟩ := bind_ok k1
  rw [modNode_eq] at h2 k2
  cases h2; cases k2; rfl

theorem upd_len (s : St) (i : Nat) (f : Node → Node) : (upd s i f).nodes.length = s.nodes.length := by
  simp [upd]

theorem upd_r (s : St) (i : Nat) (f : Node → Node) : (upd s i f).r = s.r := rfl
theorem upd_pc (s : St) (i : Nat) (f : Node → Node) : (upd s i f).pc = s.pc := rfl

/-! ### the allocation phase -/

/-- the store while the records are allocated: nothing of `s0` has changed; the fresh nodes satisfy `P` (a property of
    the node without its links) and point to fresh nodes -/
structure Built (P : Node → Prop) (s0 s : St) : Prop where
  r : s.r = s0.r
  pc : s.pc = s0.pc
  len : s0.nodes.length ≤ s.nodes.length
  old : ∀ i, i < s0.nodes.length → nd s i = nd s0 i
  fresh : ∀ i, s0.nodes.length ≤ i → i < s.nodes.length → P (dataOf (nd s i))
  fpar : ∀ i q, s0.nodes.length ≤ i → (nd s i).parent = some q → s0.nodes.length ≤ q
  tree : TreeOK s0 → TreeOK s

variable {P : Node → Prop} {s0 : St}

theorem Built.refl (P : Node → Prop) (s0 : St) : Built P s0 s0 :=
  ⟨rfl, rfl, Nat.le_refl _, fun _ _ => rfl, fun i h1 h2 => absurd h2 (by omega), fun i q h1 h2 => (by
    rw [nd_default_of_ge s0 h1] at h2; cases h2), id⟩

theorem Built.newNode {s s' : St} {n : Node} {id : Nat} (hb : Built P s0 s) (hp : n.parent = none) (hc : n.children = [])
    (hP : P (dataOf n)) (e : newNode n s = .ok (id, s')) :
    Built P s0 s' ∧ id = s.nodes.length ∧ s'.nodes.length = s.nodes.length + 1 ∧ (nd s' id).parent = none ∧
      ∀ i, i < s.nodes.length → nd s' i = nd s i := by
  obtain ⟨rfl, hs'⟩ := newNode_ok e
  have hn : s'.nodes = s.nodes ++ [n] := by rw [hs']
  have hnd := nd_snoc hn
  have hlen : s'.nodes.length = s.nodes.length + 1 := by rw [hn]; simp
  refine ⟨⟨by rw [hs']; exact hb.r, by rw [hs']; exact hb.pc, by have := hb.len; omega, fun i hi => ?_, fun i h1 h2 => ?_,
    fun i q h1 h2 => ?_, fun h0 => (hb.tree h0).snoc hn hp hc⟩, rfl, hlen, ?_, fun i hi => by rw [hnd, if_pos hi]⟩
  · rw [hnd, if_pos (Nat.lt_of_lt_of_le hi hb.len)]; exact hb.old i hi
  · rw [hnd]
    split
    · next h3 => exact hb.fresh i h1 h3
    · rw [if_pos (by omega)]; exact hP
  · rw [hnd] at h2
    split at h2
    · exact hb.fpar i q h1 h2
    · split at h2
      · rw [hp] at h2; cases h2
      · cases h2
  · rw [hnd, if_neg (Nat.lt_irrefl _), if_pos rfl]; exact hp

/-- link a fresh record without parent below an older fresh record -/
theorem Built.appendChild {s s' : St} {p c : Nat} {a : Unit} (hb : Built P s0 s) (h0 : s0.nodes.length ≤ p) (hpc : p < c)
    (hcl : c < s.nodes.length) (hc : (nd s c).parent = none) (e : appendChild p c s = .ok (a, s')) :
    Built P s0 s' ∧ s'.nodes.length = s.nodes.length ∧ (∀ i, i ≠ c → (nd s' i).parent = (nd s i).parent) ∧
      (nd s' c).parent = some p := by
  have hs' := appendChild_none hc e
  have hnd : ∀ i, nd s' i = if c = i then { (if p = i then { (nd s p) with children := (nd s p).children ++ [c] } else nd s i) with parent := some p }
      else if p = i then { (nd s p) with children := (nd s p).children ++ [c] } else nd s i := by
    intro i
    rw [hs', nd_upd, upd_len]
    have hpl : p < s.nodes.length := by omega
    by_cases h1 : c = i
    · subst h1
      rw [if_pos ⟨rfl, hcl⟩, if_pos rfl, nd_upd]
      by_cases h2 : p = c
      · omega
      · rw [if_neg (fun h => h2 h.1), if_neg h2]
    · rw [if_neg (fun h => h1 h.1), if_neg h1, nd_upd]
      by_cases h2 : p = i
      · rw [if_pos ⟨h2, hpl⟩, if_pos h2]
      · rw [if_neg (fun h => h2 h.1), if_neg h2]
  have hlen : s'.nodes.length = s.nodes.length := by rw [hs', upd_len, upd_len]
  have hdata : ∀ i, dataOf (nd s' i) = dataOf (nd s i) := by
    intro i; rw [hnd]
    split
    · next h1 => subst h1; rw [if_neg (by omega)]; rfl
    · split
      · next h2 => subst h2; rfl
      · rfl
  have hpar : ∀ i, i ≠ c → (nd s' i).parent = (nd s i).parent := by
    intro i hi; rw [hnd, if_neg (Ne.symm hi)]
    split
    · next h2 => subst h2; rfl
    · rfl
  have hcp : (nd s' c).parent = some p := by rw [hnd, if_pos rfl]
  refine ⟨⟨by rw [hs']; exact hb.r, by rw [hs']; exact hb.pc, by rw [hlen]; exact hb.len, fun i hi => ?_, fun i h1 h2 => ?_,
    fun i q h1 h2 => ?_, fun ht => (appendChild_tree (hb.tree ht) hpc hcl e).1⟩, hlen, hpar, hcp⟩
  · rw [hnd, if_neg (by omega), if_neg (by omega)]; exact hb.old i hi
  · rw [hdata]; exact hb.fresh i h1 (by rw [← hlen]; exact h2)
  · by_cases hi : i = c
    · subst hi; rw [hcp] at h2; cases h2; exact h0
    · rw [hpar i hi] at h2; exact hb.fpar i q h1 h2

theorem Built.addCells (src : Bytes) (row : Nat) : ∀ (cells : List GM.Table.Cell) {s s' : St} {a : Unit}, Built P s0 s →
    s0.nodes.length ≤ row → row < s.nodes.length → (∀ c ∈ cells, P (dataOf (cellNode src c))) →
    addCells src row cells s = .ok (a, s') →
    Built P s0 s' ∧ s.nodes.length ≤ s'.nodes.length ∧ ∀ i, i < s.nodes.length → (nd s' i).parent = (nd s i).parent
  | [], s, s', a, hb, _, _, _, e => by
    unfold GM.TableX.addCells at e
    obtain ⟨_, rfl⟩ := pure_ok e
    exact ⟨hb, Nat.le_refl _, fun _ _ => rfl⟩
  | c :: rest, s, s', a, hb, h0, hr, hP, e => by
    unfold GM.TableX.addCells at e
    obtain ⟨id, s1, h1, k1⟩ := bind_ok e
    obtain ⟨b1, rfl, l1, p1, o1⟩ := hb.newNode rfl rfl (hP c (List.mem_cons_self ..)) h1
    obtain ⟨_, s2, h2, k2⟩ := bind_ok k1
    obtain ⟨b2, l2, f2, _⟩ := b1.appendChild h0 hr (by omega) p1 h2
    obtain ⟨b3, l3, f3⟩ := Built.addCells src row rest b2 h0 (by omega) (fun c' hc' => hP c' (List.mem_cons_of_mem _ hc')) k2
    refine ⟨b3, by omega, fun i hi => ?_⟩
    rw [f3 i (by omega), f2 i (by omega), o1 i hi]

/-- `addRow`: a TableHeader / TableRow record with its cells below the fresh record `table` -/
theorem Built.addRow (src : Bytes) (table tag : Nat) (cells : List GM.Table.Cell) {s s' : St} {a : Unit} (hb : Built P s0 s)
    (h0 : s0.nodes.length ≤ table) (ht : table < s.nodes.length)
    (hR : P (dataOf { kind := .thematicBreak, htmlType := tag, offset := dashAt src, lines := (cells.flatMap (·.esc)).map escSeg, linesNil := (cells.flatMap (·.esc)).isEmpty }))
    (hP : ∀ c ∈ cells, P (dataOf (cellNode src c)))
    (e : addRow src table tag cells s = .ok (a, s')) :
    Built P s0 s' ∧ s.nodes.length ≤ s'.nodes.length ∧ ∀ i, i < s.nodes.length → (nd s' i).parent = (nd s i).parent := by
  unfold GM.TableX.addRow at e
  obtain ⟨id, s1, h1, k1⟩ := bind_ok e
  obtain ⟨b1, rfl, l1, p1, o1⟩ := hb.newNode rfl rfl hR h1
  obtain ⟨_, s2, h2, k2⟩ := bind_ok k1
  obtain ⟨b2, l2, f2⟩ := Built.addCells src s.nodes.length cells b1 (by have := hb.len; omega) (by omega) hP h2
  obtain ⟨b3, l3, f3, _⟩ := b2.appendChild h0 ht (by omega) (by rw [f2 _ (by omega)]; exact p1) k2
  refine ⟨b3, by omega, fun i hi => ?_⟩
  rw [f3 i (by omega), f2 i (by omega), o1 i hi]

theorem Built.addRows (src : Bytes) (table : Nat) : ∀ (rows : List (List GM.Table.Cell)) {s s' : St} {a : Unit}, Built P s0 s →
    s0.nodes.length ≤ table → table < s.nodes.length →
    (∀ r ∈ rows, P (dataOf { kind := .thematicBreak, htmlType := tagRow, offset := dashAt src, lines := (r.flatMap (·.esc)).map escSeg, linesNil := (r.flatMap (·.esc)).isEmpty })) →
    (∀ r ∈ rows, ∀ c ∈ r, P (dataOf (cellNode src c))) →
    addRows src table rows s = .ok (a, s') →
    Built P s0 s' ∧ s.nodes.length ≤ s'.nodes.length ∧ ∀ i, i < s.nodes.length → (nd s' i).parent = (nd s i).parent
  | [], s, s', a, hb, _, _, _, _, e => by
    unfold GM.TableX.addRows at e
    obtain ⟨_, rfl⟩ := pure_ok e
    exact ⟨hb, Nat.le_refl _, fun _ _ => rfl⟩
  | r :: rest, s, s', a, hb, h0, ht, hR, hP, e => by
    unfold GM.TableX.addRows at e
    obtain ⟨_, s1, h1, k1⟩ := bind_ok e
    obtain ⟨b1, l1, f1⟩ := hb.addRow src table tagRow r h0 ht (hR r (List.mem_cons_self ..)) (hP r (List.mem_cons_self ..)) h1
    obtain ⟨b2, l2, f2⟩ := Built.addRows src table rest b1 h0 (by omega) (fun r' hr' => hR r' (List.mem_cons_of_mem _ hr'))
      (fun r' hr' => hP r' (List.mem_cons_of_mem _ hr')) k1
    exact ⟨b2, by omega, fun i hi => by rw [f2 i (by omega), f1 i hi]⟩

end GM.Blocks.TO
end BlocksTNOTableCall

section BlocksTNOTablePost
/-
  `TablePost`: what one successful call of the table paragraph transformer that makes a table does
  to the store (`buildTable_post`), for a paragraph `node` below `p` in a store with consistent tree links.
-/

namespace GM.Blocks.TO
open GM GM.Text GM.Spec GM.Proof.Reader GM.TableX

/-- the records of the table `t` (without their links) -/
def RecD (src : Bytes) (t : GM.Table.Table) (n : Node) : Prop :=
  n = dataOf { kind := .thematicBreak, htmlType := tagTable, offset := dashAt src } ∨
  n = dataOf { kind := .thematicBreak, htmlType := tagHeader, offset := dashAt src, lines := (t.header.flatMap (·.esc)).map escSeg, linesNil := (t.header.flatMap (·.esc)).isEmpty } ∨
  (∃ r ∈ t.rows, n = dataOf { kind := .thematicBreak, htmlType := tagRow, offset := dashAt src, lines := (r.flatMap (·.esc)).map escSeg, linesNil := (r.flatMap (·.esc)).isEmpty }) ∨
  (∃ r ∈ t.header :: t.rows, ∃ c ∈ r, n = dataOf (cellNode src c))

/-- **the effect of a table-making call** on the paragraph `node` (child of `p`): `lines` = the paragraph's new lines,
    `P` = what holds of the fresh records (links removed) -/
structure TablePost (P : Node → Prop) (node p : Nat) (lines : List Segment) (s s' : St) : Prop where
  r : s'.r = s.r
  pc : s'.pc = s.pc
  len : s.nodes.length < s'.nodes.length
  /-- every other old node keeps everything but (for `p`) its child list -/
  old : ∀ i, i < s.nodes.length → i ≠ node → dataOf (nd s' i) = dataOf (nd s i) ∧ (nd s' i).parent = (nd s i).parent
  kids : ∀ i, i < s.nodes.length → i ≠ p → (nd s' i).children = (nd s i).children
  /-- the paragraph: new lines; detached when none are left -/
  self : nd s' node = { (nd s node) with lines := lines, parent := if lines.isEmpty then none else some p }
  /-- the parent's children: the Table record `s.nodes.length` directly behind the paragraph, the paragraph removed
      when it has no lines left -/
  pkids : ∃ kids, (kids = (nd s p).children ++ [s.nodes.length] ∨
      ∃ v, nextIn node (nd s p).children = some v ∧ kids = insertBeforeIn v s.nodes.length (nd s p).children) ∧
    (nd s' p).children = if lines.isEmpty then kids.erase node else kids
  /-- the fresh records -/
  fresh : ∀ i, s.nodes.length ≤ i → i < s'.nodes.length → P (dataOf (nd s' i))
  tpar : (nd s' s.nodes.length).parent = some p
  fpar : ∀ i q, s.nodes.length < i → (nd s' i).parent = some q → s.nodes.length ≤ q
  tree : TreeOK s'

theorem nd_upd_lt (s : St) {i : Nat} (f : Node → Node) (j : Nat) (h : i < s.nodes.length) :
    nd (upd s i f) j = if i = j then f (nd s i) else nd s j := by
  rw [nd_upd]
  by_cases h1 : i = j
  · rw [if_pos ⟨h1, h⟩, if_pos h1]
  · rw [if_neg (fun hh => h1 hh.1), if_neg h1]

theorem buildTable_post (src : Bytes) {node p : Nat} {para : List GM.Table.Seg} {t : GM.Table.Table} {s s' : St} {a : Unit}
    (htr : TreeOK s) (hp : (nd s node).parent = some p)
    (e : buildTable src node (some p) para t s = .ok (a, s')) :
    TablePost (RecD src t) node p (para.map ofSeg) s s' := by
  have hpn : p < node := htr.par_lt node p hp
  have hnl : node < s.nodes.length := by
    rcases Nat.lt_or_ge node s.nodes.length with h | h
    · exact h
    · rw [nd_default_of_ge s h] at hp; cases hp
  unfold buildTable at e
  obtain ⟨table, s1, h1, k1⟩ := bind_ok e
  obtain ⟨b1, rfl, l1, p1, o1⟩ := (Built.refl (RecD src t) s).newNode rfl rfl (.inl rfl) h1
  obtain ⟨_, s2, h2, k2⟩ := bind_ok k1
  obtain ⟨b2, l2, f2⟩ := b1.addRow src s.nodes.length tagHeader t.header (Nat.le_refl _) (by omega) (.inr (.inl rfl))
    (fun c hc => .inr (.inr (.inr ⟨t.header, List.mem_cons_self .., c, hc, rfl⟩))) h2
  obtain ⟨_, s3, h3, k3⟩ := bind_ok k2
  obtain ⟨b3, l3, f3⟩ := Built.addRows src s.nodes.length t.rows b2 (Nat.le_refl _) (by omega)
    (fun r hr => .inr (.inr (.inl ⟨r, hr, rfl⟩)))
    (fun r hr c hc => .inr (.inr (.inr ⟨r, List.mem_cons_of_mem _ hr, c, hc, rfl⟩))) h3
  have hlen3 : s.nodes.length < s3.nodes.length := by omega
  have htp3 : (nd s3 s.nodes.length).parent = none := by rw [f3 _ (by omega), f2 _ (by omega)]; exact p1
  have ht3 : TreeOK s3 := b3.tree htr
  obtain ⟨_, s4, h4, k4⟩ := bind_ok k3
  have ht4 : TreeOK s4 := ht3.modNode h4 (fun _ => ⟨rfl, rfl⟩)
  rw [modNode_eq] at h4
  cases h4
  dsimp only at k4
  obtain ⟨pn, s5, h5, k5⟩ := bind_ok k4
  obtain ⟨rfl, rfl⟩ := getNode_ok h5
  obtain ⟨_, s6, h6, k6⟩ := bind_ok k5
  -- the store before InsertAfter
  have hnd4 : ∀ i, nd (upd s3 node fun n => { n with lines := para.map ofSeg }) i =
      if node = i then { (nd s node) with lines := para.map ofSeg } else nd s3 i := by
    intro i
    rw [nd_upd_lt _ _ _ (by omega)]
    split
    · rw [b3.old node hnl]
    · rfl
  have hl4 : (upd s3 node fun n => { n with lines := para.map ofSeg }).nodes.length = s3.nodes.length := upd_len ..
  have hc4 : (nd (upd s3 node fun n => { n with lines := para.map ofSeg }) s.nodes.length).parent = none := by
    rw [hnd4, if_neg (by omega)]; exact htp3
  have hkids4 : (nd (upd s3 node fun n => { n with lines := para.map ofSeg }) p).children = (nd s p).children := by
    rw [hnd4, if_neg (by omega), b3.old p (by omega)]
  have hget : ((upd s3 node fun n => { n with lines := para.map ofSeg }).nodes.getD p default) =
      nd (upd s3 node fun n => { n with lines := para.map ofSeg }) p := rfl
  rw [hget, hkids4] at h6
  obtain ⟨t6, l6, _, _⟩ := insertBefore_tree ht4 (by omega) (by rw [hl4]; exact hlen3) h6
  obtain ⟨kids, hk, hs6⟩ := insertBefore_none hc4 h6
  rw [hkids4] at hk
  have hnd6 : ∀ i, nd s6 i = if s.nodes.length = i then { (nd s3 i) with parent := some p }
      else if p = i then { (nd s p) with children := kids }
      else if node = i then { (nd s node) with lines := para.map ofSeg } else nd s3 i := by
    intro i
    rw [hs6, nd_upd_lt _ _ i (by rw [upd_len, hl4]; exact hlen3)]
    by_cases h1 : s.nodes.length = i
    · rw [if_pos h1, if_pos h1, nd_upd_lt _ _ _ (by rw [hl4]; omega), if_neg (by omega), hnd4, if_neg (by omega), h1]
    · rw [if_neg h1, if_neg h1, nd_upd_lt _ _ i (by rw [hl4]; omega)]
      by_cases h2 : p = i
      · rw [if_pos h2, if_pos h2, hnd4, if_neg (by omega), b3.old p (by omega)]
      · rw [if_neg h2, if_neg h2, hnd4]
  have hl6 : s6.nodes.length = s3.nodes.length := by rw [hs6, upd_len, upd_len, hl4]
  have hpk : (kids = (nd s p).children ++ [s.nodes.length] ∨
      ∃ v, nextIn node (nd s p).children = some v ∧ kids = insertBeforeIn v s.nodes.length (nd s p).children) := by
    rcases hk with hk | ⟨v, hv, hk⟩
    · exact .inl hk
    · exact .inr ⟨v, hv, hk⟩
  have hfresh : ∀ (sx : St), (∀ i, s.nodes.length ≤ i → dataOf (nd sx i) = dataOf (nd s3 i)) → sx.nodes.length = s3.nodes.length →
      ∀ i, s.nodes.length ≤ i → i < sx.nodes.length → RecD src t (dataOf (nd sx i)) := fun sx hx hl i h1 h2 => by
    rw [hx i h1]; exact b3.fresh i h1 (by rw [← hl]; exact h2)
  by_cases hemp : (para.map ofSeg).isEmpty = true
  · -- RemoveChild
    have hpe : para.isEmpty = true := by simpa using hemp
    rw [if_pos hpe] at k6
    have hc6 : (nd s6 node).parent = some p := by
      rw [hnd6, if_neg (by omega), if_neg (by omega), if_pos rfl]; exact hp
    obtain ⟨t7, l7, _, _⟩ := removeChild_tree' t6 k6
    have hs7 := removeChild_some hc6 k6
    have hnd7 : ∀ i, nd s' i = if node = i then { (nd s node) with lines := para.map ofSeg, parent := none }
        else if p = i then { (nd s p) with children := kids.erase node }
        else if s.nodes.length = i then { (nd s3 i) with parent := some p } else nd s3 i := by
      intro i
      rw [hs7, nd_upd_lt _ _ i (by rw [upd_len, hl6]; omega)]
      by_cases h1 : node = i
      · rw [if_pos h1, if_pos h1, nd_upd_lt _ _ _ (by rw [hl6]; omega), if_neg (by omega), hnd6, if_neg (by omega),
          if_neg (by omega), if_pos rfl]
      · rw [if_neg h1, if_neg h1, nd_upd_lt _ _ i (by rw [hl6]; omega)]
        by_cases h2 : p = i
        · rw [if_pos h2, if_pos h2, hnd6, if_neg (by omega), if_pos rfl]
        · rw [if_neg h2, if_neg h2, hnd6]
          by_cases h3 : s.nodes.length = i
          · rw [if_pos h3, if_pos h3]
          · rw [if_neg h3, if_neg h3, if_neg h2, if_neg h1]
    have hl7 : s'.nodes.length = s3.nodes.length := by rw [hs7, upd_len, upd_len, hl6]
    refine ⟨by rw [hs7, upd_r, upd_r, hs6, upd_r, upd_r, upd_r]; exact b3.r,
      by rw [hs7, upd_pc, upd_pc, hs6, upd_pc, upd_pc, upd_pc]; exact b3.pc, by omega, fun i hi hne => ?_, fun i hi hne => ?_,
      ?_, ⟨kids, hpk, ?_⟩, ?_, ?_, fun i q hi hq => ?_, t7⟩
    · rw [hnd7, if_neg (Ne.symm hne)]
      split
      · next h2 => subst h2; exact ⟨rfl, rfl⟩
      · rw [if_neg (by omega), b3.old i hi]; exact ⟨rfl, rfl⟩
    · rw [hnd7]
      split
      · next h1 => subst h1; rfl
      · rw [if_neg (Ne.symm hne), if_neg (by omega), b3.old i hi]
    · rw [hnd7, if_pos rfl, hemp]; rfl
    · rw [hnd7, if_neg (by omega), if_pos rfl, hemp]; rfl
    · refine hfresh s' (fun i hi => ?_) hl7
      rw [hnd7, if_neg (by omega), if_neg (by omega)]
      split
      · rfl
      · rfl
    · rw [hnd7, if_neg (by omega), if_neg (by omega), if_pos rfl]
    · rw [hnd7, if_neg (by omega), if_neg (by omega), if_neg (by omega)] at hq
      exact b3.fpar i q (by omega) hq
  · have hpe : para.isEmpty = false := by
      cases hh : para.isEmpty
      · rfl
      · exfalso; apply hemp; simpa using hh
    rw [hpe] at k6
    simp only [Bool.false_eq_true, if_false] at k6
    obtain ⟨_, rfl⟩ := pure_ok k6
    have hemp' : (para.map ofSeg).isEmpty = false := by
      cases hh : (para.map ofSeg).isEmpty
      · rfl
      · exact absurd hh hemp
    refine ⟨by rw [hs6, upd_r, upd_r, upd_r]; exact b3.r, by rw [hs6, upd_pc, upd_pc, upd_pc]; exact b3.pc, by omega,
      fun i hi hne => ?_, fun i hi hne => ?_, ?_, ⟨kids, hpk, ?_⟩, ?_, ?_, fun i q hi hq => ?_, t6⟩
    · rw [hnd6, if_neg (by omega)]
      split
      · next h2 => subst h2; exact ⟨rfl, rfl⟩
      · rw [if_neg (Ne.symm hne), b3.old i hi]; exact ⟨rfl, rfl⟩
    · rw [hnd6, if_neg (by omega), if_neg (Ne.symm hne)]
      split
      · next h1 => subst h1; rfl
      · rw [b3.old i hi]
    · rw [hnd6, if_neg (by omega), if_neg (by omega), if_pos rfl, hemp']
      simp only [Bool.false_eq_true, if_false]
      rw [← hp]
    · rw [hnd6, if_neg (by omega), if_pos rfl, hemp']; rfl
    · refine hfresh s' (fun i hi => ?_) hl6
      rw [hnd6]
      split
      · rfl
      · rw [if_neg (by omega), if_neg (by omega)]
    · rw [hnd6, if_pos rfl]
    · rw [hnd6, if_neg (by omega), if_neg (by omega), if_neg (by omega)] at hq
      exact b3.fpar i q (by omega) hq

end GM.Blocks.TO
end BlocksTNOTablePost
