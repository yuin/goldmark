/-
  GM.Proof.CMFragRender — the renderer half of the conformance proof, stages 1–5: text nodes of quiet lines, paragraphs,
  headings, thematic breaks, fenced and indented code blocks, the Document of such blocks (`renderDoc_hdoc_any`, for any
  options with XHTML and without HardWraps), and the spelled lines of the fragment as what the renderer escapes.
-/
import GM.Proof.CMFragDefs
import GM.Proof.CMSpec
import GM.Proof.CMFragSpec

/-
  section CMFragRender — the renderer half of the conformance proof for the fragment GM.Spec.CMFrag:
  * `renderDoc_paras(_any)`: the renderer model on Document[Paragraph[Text…]…] writes `parasHtml` and never panics;
  * `write_spelled`, `parasHtml_spelled`: on the spelled lines of a fragment document that is the prescribed HTML;
  * `paraBytes_spelled`: the source text of a paragraph;
  * `goodLine_of_lineOK`: the spelled lines are `GoodLine`s (the inline byte loop never consults a parser on them).
-/
section CMFragRender
namespace GM.Proof.CMFrag
open GM GM.Spec.CM GM.Spec.CMFrag

theorem rcfg_exts (o : GM.Convert.ROpts) : o.rcfg.exts = {} := rfl
theorem rcfg_escSpace (o : GM.Convert.ROpts) : o.rcfg.core.escSpace = false := rfl
theorem rcfg_ea (o : GM.Convert.ROpts) : o.rcfg.core.ea = 0 := rfl
theorem rcfg_hardWraps (o : GM.Convert.ROpts) : o.rcfg.core.hardWraps = o.hardWraps := by
  cases o with | mk u x h => cases h <;> rfl

theorem handled_text (e : Exts) (v : Bytes) (s h r c : Bool) : handled e (.text v s h r c) = true := rfl
theorem handled_para (e : Exts) : handled e .paragraph = true := rfl
theorem handled_doc (e : Exts) : handled e .document = true := rfl

theorem renderNode_text (rc : RCfg) (hes : rc.core.escSpace = false) (hhw : rc.core.hardWraps = false)
    (hea : rc.core.ea = 0) (ph : Bool) (next : Option Node) (l : Bytes) (soft : Bool) :
    renderNode rc ph next (.mk (.text l soft false false false) none []) =
      GM.write false l ++ (if soft then [10] else []) := by
  rw [renderNode]
  simp [enter, leave, handled_text, skipsChildren, renderNodes, hes, hhw, hea]

theorem renderNodes_textNodes (rc : RCfg) (hes : rc.core.escSpace = false) (hhw : rc.core.hardWraps = false)
    (hea : rc.core.ea = 0) (ph : Bool) (ls : List Bytes) :
    renderNodes rc ph (textNodes ls) = joinNl (ls.map (GM.write false)) := by
  induction ls with
  | nil => simp [textNodes, renderNodes, joinNl]
  | cons l rest ih =>
    cases rest with
    | nil => simp [textNodes, renderNodes, joinNl, renderNode_text rc hes hhw hea]
    | cons l' rest =>
      rw [textNodes, renderNodes, renderNode_text rc hes hhw hea, ih]
      simp [joinNl]

theorem renderNode_para (rc : RCfg) (hes : rc.core.escSpace = false) (hhw : rc.core.hardWraps = false)
    (hea : rc.core.ea = 0) (ph : Bool) (next : Option Node) (ls : List Bytes) :
    renderNode rc ph next (paraNode ls) =
      strBytes "<p>" ++ joinNl (ls.map (GM.write false)) ++ strBytes "</p>\n" := by
  rw [paraNode, renderNode]
  simp only [enter, leave, handled_para, skipsChildren, openTag, Kind.isTableHeader,
    renderNodes_textNodes rc hes hhw hea]
  have h1 : strBytes "<p>" = [60] ++ strBytes "p" ++ [62] := by decide +kernel
  rw [h1]; simp

theorem renderNodes_paras (rc : RCfg) (hes : rc.core.escSpace = false) (hhw : rc.core.hardWraps = false)
    (hea : rc.core.ea = 0) (ph : Bool) (ps : List (List Bytes)) :
    renderNodes rc ph (ps.map paraNode) = parasHtml ps := by
  induction ps with
  | nil => simp [renderNodes, parasHtml]
  | cons p rest ih =>
    rw [List.map_cons, renderNodes, renderNode_para rc hes hhw hea, ih]
    simp [parasHtml]

theorem render_docNode (rc : RCfg) (hes : rc.core.escSpace = false) (hhw : rc.core.hardWraps = false)
    (hea : rc.core.ea = 0) (ps : List (List Bytes)) :
    render rc (docNode ps) = parasHtml ps := by
  rw [render, docNode, renderNode]
  simp [enter, leave, handled_doc, skipsChildren, Kind.isTableHeader, renderNodes_paras rc hes hhw hea]

theorem nodePanic_text (rc : RCfg) (v : Bytes) (s h r c : Bool) (a : Option (List Attr)) (cs : List Node) :
    nodePanic rc (.text v s h r c) a cs = none := by
  simp [nodePanic]

theorem renderPanicsNodes_textNodes (rc : RCfg) (ls : List Bytes) : renderPanicsNodes rc (textNodes ls) = none := by
  induction ls with
  | nil => simp [textNodes, renderPanicsNodes]
  | cons l rest ih =>
    cases rest with
    | nil => simp [textNodes, renderPanicsNodes, renderPanicsNode, nodePanic]
    | cons l' rest =>
      rw [textNodes, renderPanicsNodes, ih]
      simp [renderPanicsNode, nodePanic, renderPanicsNodes]

theorem renderPanicsNodes_paras (rc : RCfg) (ps : List (List Bytes)) :
    renderPanicsNodes rc (ps.map paraNode) = none := by
  induction ps with
  | nil => simp [renderPanicsNodes]
  | cons p rest ih =>
    rw [List.map_cons, renderPanicsNodes, ih]
    simp [paraNode, renderPanicsNode, nodePanic, renderPanicsNodes_textNodes]

theorem renderPanics_docNode (rc : RCfg) (ps : List (List Bytes)) : renderPanics rc (docNode ps) = none := by
  simp [renderPanics, docNode, renderPanicsNode, nodePanic, renderPanicsNodes_paras]

theorem renderDoc_paras_any (o : GM.Convert.ROpts) (ho : o.hardWraps = false) (ps : List (List Bytes)) :
    GM.Convert.renderDoc o (docNode ps) = .ok (parasHtml ps) := by
  rw [GM.Convert.renderDoc, renderPanics_docNode,
    render_docNode o.rcfg (rcfg_escSpace o) (by rw [rcfg_hardWraps, ho]) (rcfg_ea o)]

theorem renderDoc_paras (ps : List (List Bytes)) :
    GM.Convert.renderDoc cmOpts (docNode ps) = .ok (parasHtml ps) :=
  renderDoc_paras_any cmOpts rfl ps

theorem write_spelled (l : FLine) (hp : ∀ t ∈ l, printable t.c = true) :
    GM.write false (escSpell l) = escHtml (plain l) := by
  rw [GM.Proof.CMSpec.escSpell_decodes false l hp, GM.Proof.CMSpec.escHtml_eq_rawWrite]

theorem joinNl_eq (xs : List Bytes) : GM.Proof.CMFrag.joinNl xs = GM.Spec.CMFrag.joinNl xs := by
  induction xs with
  | nil => rfl
  | cons x rest ih =>
    cases rest with
    | nil => rfl
    | cons y rest => rw [GM.Proof.CMFrag.joinNl, GM.Spec.CMFrag.joinNl, ih]; simp

theorem map_write_spelled (ls : List FLine) (hp : ∀ l ∈ ls, ∀ t ∈ l, printable t.c = true) :
    (ls.map escSpell).map (GM.write false) = ls.map (fun l => escHtml (plain l)) := by
  rw [List.map_map]
  apply List.map_congr_left
  intro l hl
  exact write_spelled l (hp l hl)

theorem parasHtml_spelled (pss : List (List FLine))
    (hp : ∀ ls ∈ pss, ∀ l ∈ ls, ∀ t ∈ l, printable t.c = true) :
    parasHtml (pss.map (·.map escSpell)) = pss.flatMap (fun ls => expBlock (.para ls)) := by
  induction pss with
  | nil => rfl
  | cons ls rest ih =>
    have h1 := map_write_spelled ls (hp ls (by simp))
    have h2 := ih (fun x hx => hp x (by simp [hx]))
    simp only [parasHtml, List.map_cons, List.flatMap_cons] at h2 ⊢
    rw [h2, h1, joinNl_eq, expBlock]

theorem paraBytes_spelled (ls : List FLine) : paraBytes (ls.map escSpell) = spellBlock (.para ls) := by
  simp only [paraBytes, spellBlock, List.flatMap_map]
  rfl

/-- a byte on which the inline byte loop does nothing, whatever its index, when not escaped: no line feed, no
    backslash, no inline parser registered for it -/
def calmB (c : UInt8) : Bool := c != 10 && c != 92 && (GM.Inl.parsersFor c).isEmpty

theorem quiet_calm : ∀ c : UInt8, calmB c = true → ∀ (cs : Bytes) (i : Nat),
    quiet (c :: cs) i false = quiet cs (i + 1) false := by
  intro c hc cs i
  have h : ∀ c : UInt8, calmB c = true →
      c ≠ 10 ∧ c ≠ 92 ∧ (GM.Inl.parsersFor c).isEmpty = true ∧ (GM.Inl.parsersFor 32).isEmpty = true := by
    apply forall_uint8; decide +kernel
  obtain ⟨h10, h92, hp, h32⟩ := h c hc
  have hpc : (GM.Inl.parsersFor (GM.Inl.parserChar c i)).isEmpty = true := by
    simp only [GM.Inl.parserChar]
    split
    · exact h32
    · exact hp
  have e10 : (c != 10) = true := by simpa using h10
  have e92 : (c == 92) = false := by simpa using h92
  rw [quiet, hpc, e10, e92]
  simp

theorem quiet_calm_run (bs : Bytes) (h : ∀ b ∈ bs, calmB b = true) (rest : Bytes) (i : Nat) :
    quiet (bs ++ rest) i false = quiet rest (i + bs.length) false := by
  induction bs generalizing i with
  | nil => simp
  | cons b bs ih =>
    rw [List.cons_append, quiet_calm b (h b (by simp)), ih (fun x hx => h x (by simp [hx]))]
    simp; congr 1; omega

theorem quiet_escaped : ∀ c : UInt8, isPunct c = true → ∀ (cs : Bytes) (i : Nat),
    quiet (92 :: c :: cs) i false = quiet cs (i + 2) false := by
  intro c hc cs i
  have h : ∀ c : UInt8, isPunct c = true → c ≠ 10 ∧ (isSpace c) = false := by
    apply forall_uint8; decide +kernel
  obtain ⟨h10, hsp⟩ := h c hc
  have h92 : (GM.Inl.parsersFor (GM.Inl.parserChar 92 i)).isEmpty = true := by
    simp only [GM.Inl.parserChar]
    split <;> decide
  have e10 : (c != 10) = true := by simpa using h10
  rw [quiet, quiet, h92, e10]
  simp [GM.Inl.isTrigger, hsp]

/-- the two shapes of a character's spelling -/
def calmSpelling (bs : Bytes) : Bool :=
  bs.all calmB || (match bs with | [92, c] => isPunct c | _ => false)

theorem quiet_calmSpelling (bs : Bytes) (h : calmSpelling bs = true) (rest : Bytes) (i : Nat) :
    quiet (bs ++ rest) i false = quiet rest (i + bs.length) false := by
  unfold calmSpelling at h
  rcases Bool.or_eq_true_iff.mp h with h | h
  · exact quiet_calm_run bs (by simpa using h) rest i
  · split at h
    · rename_i c _; exact quiet_escaped c h rest i
    · cases h

theorem calm_lit : ∀ c : UInt8, charOK ⟨c, .lit⟩ = true → calmSpelling (spellChar ⟨c, .lit⟩) = true := by
  apply forall_uint8; decide +kernel
theorem calm_bs : ∀ c : UInt8, charOK ⟨c, .bs⟩ = true → calmSpelling (spellChar ⟨c, .bs⟩) = true := by
  apply forall_uint8; decide +kernel
theorem calm_alnum : ∀ c : UInt8, isAlnumC c = true → calmB c = true := by
  apply forall_uint8; decide +kernel
theorem calm_named (c : UInt8) (h : charOK ⟨c, .named⟩ = true) : calmSpelling (spellChar ⟨c, .named⟩) = true := by
  rcases spellChar_named c with ⟨hnone, e⟩ | ⟨n, e, hn⟩
  · rw [e]
    refine calm_lit c ?_
    have h33 : (c == 33) = false := by
      cases hc : c == 33 with
      | false => rfl
      | true => rw [eq_of_beq hc] at hnone; cases hnone
    simpa [charOK, h33] using h
  · rw [e]
    unfold calmSpelling
    simp only [List.all_cons, List.all_append, List.all_nil, Bool.and_true, Bool.or_eq_true, Bool.and_eq_true,
      List.all_eq_true]
    exact Or.inl ⟨by decide, fun x hx => calm_alnum x (hn x hx), by decide⟩
theorem calm_numeric : ∀ c : UInt8, isNumeric c = true → calmB c = true := by
  apply forall_uint8; decide +kernel
theorem calm_hex : ∀ c : UInt8, isHex c = true → calmB c = true := by
  apply forall_uint8; decide +kernel

theorem calm_spellChar (t : TChar) (h : charOK t = true) : calmSpelling (spellChar t) = true := by
  obtain ⟨c, e⟩ := t
  cases e with
  | lit => exact calm_lit c h
  | bs => exact calm_bs c h
  | named => exact calm_named c h
  | dec pad =>
    unfold calmSpelling
    apply Bool.or_eq_true_iff.mpr; left
    simp only [spellChar, List.all_append, Bool.and_eq_true]
    refine ⟨⟨⟨by decide, ?_⟩, ?_⟩, by decide⟩
    · rw [List.all_eq_true]; exact GM.Proof.CMSpec.zeros_all calmB (by decide) _
    · rw [List.all_eq_true]; intro d hd
      exact calm_numeric d (List.all_eq_true.mp (GM.Proof.CMSpec.decDigits_spec c).2.1 d hd)
  | hex pad upX upD =>
    unfold calmSpelling
    apply Bool.or_eq_true_iff.mpr; left
    simp only [spellChar, List.all_append, Bool.and_eq_true]
    refine ⟨⟨⟨by cases upX <;> decide, ?_⟩, ?_⟩, by decide⟩
    · rw [List.all_eq_true]; exact GM.Proof.CMSpec.zeros_all calmB (by decide) _
    · rw [List.all_eq_true]; intro d hd
      exact calm_hex d (List.all_eq_true.mp (GM.Proof.CMSpec.hexDigits_spec c upD).2.1 d hd)

theorem quiet_escSpell (l : FLine) (h : ∀ t ∈ l, charOK t = true) (i : Nat) :
    quiet (escSpell l) i false = true := by
  induction l generalizing i with
  | nil => simp [escSpell, quiet]
  | cons t ts ih =>
    have := quiet_calmSpelling (spellChar t) (calm_spellChar t (h t (by simp))) (escSpell ts) i
    simp only [escSpell, List.flatMap_cons] at this ⊢
    rw [this]
    exact ih (fun x hx => h x (by simp [hx])) _

theorem spell_first : ∀ c : UInt8, ∀ e, firstOK ⟨c, e⟩ = true → spellChar ⟨c, e⟩ = [c] ∧ isLetter c = true := by
  intro c e h
  simp only [firstOK, Bool.and_eq_true] at h
  obtain ⟨h1, h2⟩ := h
  cases e <;> first | (cases h2; done) | skip
  revert c
  apply forall_uint8; decide +kernel

theorem spell_last : ∀ c : UInt8, ∀ e, lastOK ⟨c, e⟩ = true →
    spellChar ⟨c, e⟩ = [c] ∧ isSpace c = false ∧ c ≠ 92 := by
  intro c e h
  simp only [lastOK, Bool.and_eq_true] at h
  obtain ⟨h1, h2⟩ := h
  cases e <;> first | (cases h2; done) | skip
  revert c
  apply forall_uint8; decide +kernel

theorem lineOK_parts (l : FLine) (h : lineOK l = true) :
    ∃ a rest init z, l = a :: rest ∧ l = init ++ [z] ∧ firstOK a = true ∧ lastOK z = true ∧
      ∀ t ∈ l, charOK t = true := by
  unfold lineOK at h
  split at h
  · rename_i a z ha hz
    simp only [Bool.and_eq_true, List.all_eq_true] at h
    obtain ⟨⟨h1, h2⟩, h3⟩ := h
    cases l with
    | nil => cases ha
    | cons a' rest =>
      simp only [List.head?_cons, Option.some.injEq] at ha
      subst ha
      obtain ⟨ys, hys⟩ := List.getLast?_eq_some_iff.mp hz
      exact ⟨a', rest, ys, z, rfl, hys, h1, h2, h3⟩
  · cases h

theorem goodLine_of_lineOK (l : FLine) (h : lineOK l = true) : GoodLine (escSpell l) := by
  obtain ⟨a, rest, init, z, hl, hl', hf, hz, hall⟩ := lineOK_parts l h
  obtain ⟨ac, ae⟩ := a
  obtain ⟨zc, ze⟩ := z
  obtain ⟨sa, la⟩ := spell_first ac ae hf
  obtain ⟨sz, nsz, nbz⟩ := spell_last zc ze hz
  have e1 : escSpell l = ac :: escSpell rest := by
    rw [hl]; simp [escSpell, sa]
  have e2 : escSpell l = escSpell init ++ [zc] := by
    rw [hl']; simp [escSpell, sz]
  refine ⟨?_, ?_, quiet_escSpell l hall 0, ?_, ?_⟩
  · rw [e1]; simp
  · intro c hc; rw [e1] at hc; simp at hc; subst hc; exact la
  · intro c hc; rw [e2] at hc; simp at hc; subst hc; exact nsz
  · intro c hc; rw [e2] at hc; simp at hc; subst hc; exact nbz

end GM.Proof.CMFrag
end CMFragRender

/-
  section CMFragRender4 — the renderer half of the conformance proof for the stage-4 fragment (paragraphs, ATX
  headings, thematic breaks) of GM.Spec.CMFrag:
  * `renderDoc_gdoc_any`: the renderer model on Document[Paragraph[Text…] | Heading[Text] | ThematicBreak …] writes
    `gdocHtml` and never panics (heading levels ≤ 6);
  * `rawHtml_spelled4`: on a spelled block of a stage-4 document that is the prescribed HTML;
  * `rawOfG_level`: the heading levels of the spelled blocks are 1–6.
-/
section CMFragRender4
namespace GM.Proof.CMFrag
open GM GM.Spec.CM GM.Spec.CMFrag

theorem handled_heading4 (e : Exts) (level : Nat) : handled e (.heading level) = true := rfl
theorem handled_thematic4 (e : Exts) : handled e .thematicBreak = true := rfl

theorem renderNode_atx4 (rc : RCfg) (hes : rc.core.escSpace = false) (hhw : rc.core.hardWraps = false)
    (hea : rc.core.ea = 0) (ph : Bool) (next : Option Node) (level : Nat) (l : Bytes) :
    renderNode rc ph next (rawNode (.atx level l)) = rawHtml (.atx level l) := by
  rw [rawNode, renderNode]
  simp only [enter, leave, handled_heading4, skipsChildren, Kind.isTableHeader, renderAttrs, renderNodes,
    renderNode_text rc hes hhw hea, rawHtml]
  have h1 : strBytes ">\n" = [62, 10] := by decide +kernel
  rw [h1]; simp

theorem renderNode_hr4 (rc : RCfg) (hx : rc.core.xhtml = true) (ph : Bool) (next : Option Node) (l : Bytes) :
    renderNode rc ph next (rawNode (.hr l)) = rawHtml (.hr l) := by
  rw [rawNode, renderNode]
  simp only [enter, leave, handled_thematic4, skipsChildren, renderAttrs, renderNodes, rawHtml, hx]
  have h1 : strBytes "<hr />\n" = strBytes "<hr" ++ strBytes " />\n" := by decide +kernel
  rw [h1]; simp

theorem renderNode_raw4 (rc : RCfg) (hes : rc.core.escSpace = false) (hhw : rc.core.hardWraps = false)
    (hea : rc.core.ea = 0) (hx : rc.core.xhtml = true) (ph : Bool) (next : Option Node) (b : RawBlock) :
    renderNode rc ph next (rawNode b) = rawHtml b := by
  cases b with
  | para ls => rw [rawNode, renderNode_para rc hes hhw hea, rawHtml]
  | atx level l => exact renderNode_atx4 rc hes hhw hea ph next level l
  | hr l => exact renderNode_hr4 rc hx ph next l

theorem renderNodes_raw4 (rc : RCfg) (hes : rc.core.escSpace = false) (hhw : rc.core.hardWraps = false)
    (hea : rc.core.ea = 0) (hx : rc.core.xhtml = true) (ph : Bool) (bs : List RawBlock) :
    renderNodes rc ph (bs.map rawNode) = gdocHtml bs := by
  induction bs with
  | nil => simp [renderNodes, gdocHtml]
  | cons b rest ih =>
    rw [List.map_cons, renderNodes, renderNode_raw4 rc hes hhw hea hx, ih]
    simp [gdocHtml]

theorem render_gdocNode4 (rc : RCfg) (hes : rc.core.escSpace = false) (hhw : rc.core.hardWraps = false)
    (hea : rc.core.ea = 0) (hx : rc.core.xhtml = true) (bs : List RawBlock) :
    render rc (gdocNode bs) = gdocHtml bs := by
  rw [render, gdocNode, renderNode]
  simp [enter, leave, handled_doc, skipsChildren, Kind.isTableHeader, renderNodes_raw4 rc hes hhw hea hx]

theorem renderPanicsNode_raw4 (rc : RCfg) (b : RawBlock) (hlev : ∀ level l, b = .atx level l → level ≤ 6) :
    renderPanicsNode rc (rawNode b) = none := by
  cases b with
  | para ls =>
    simp [rawNode, paraNode, renderPanicsNode, nodePanic, renderPanicsNodes_textNodes]
  | atx level l =>
    have h6 : ¬ level > 6 := by have := hlev level l rfl; omega
    simp [rawNode, renderPanicsNode, nodePanic, renderPanicsNodes, handled_heading4, h6, skipsChildren]
  | hr l => simp [rawNode, renderPanicsNode, nodePanic, renderPanicsNodes]

theorem renderPanicsNodes_raw4 (rc : RCfg) (bs : List RawBlock)
    (hlev : ∀ b ∈ bs, ∀ level l, b = .atx level l → level ≤ 6) :
    renderPanicsNodes rc (bs.map rawNode) = none := by
  induction bs with
  | nil => simp [renderPanicsNodes]
  | cons b rest ih =>
    rw [List.map_cons, renderPanicsNodes, ih (fun x hx => hlev x (by simp [hx])),
      renderPanicsNode_raw4 rc b (hlev b (by simp))]

theorem renderPanics_gdocNode4 (rc : RCfg) (bs : List RawBlock)
    (hlev : ∀ b ∈ bs, ∀ level l, b = .atx level l → level ≤ 6) : renderPanics rc (gdocNode bs) = none := by
  simp [renderPanics, gdocNode, renderPanicsNode, nodePanic, renderPanicsNodes_raw4 rc bs hlev]

theorem rcfg_xhtml4 (o : GM.Convert.ROpts) : o.rcfg.core.xhtml = o.xhtml := by
  cases o with | mk u x h => cases x <;> rfl

theorem renderDoc_gdoc_any (o : GM.Convert.ROpts) (ho : o.hardWraps = false) (hx : o.xhtml = true)
    (bs : List RawBlock) (hlev : ∀ b ∈ bs, ∀ level l, b = .atx level l → level ≤ 6) :
    GM.Convert.renderDoc o (gdocNode bs) = .ok (gdocHtml bs) := by
  rw [GM.Convert.renderDoc, renderPanics_gdocNode4 o.rcfg bs hlev,
    render_gdocNode4 o.rcfg (rcfg_escSpace o) (by rw [rcfg_hardWraps, ho]) (rcfg_ea o) (by rw [rcfg_xhtml4, hx])]

/-- a block of a stage-4 document as the source bytes the renderer sees -/
def rawOfG : GBlock → RawBlock
  | .para lines => .para (lines.map escSpell)
  | .heading level text => .atx level (escSpell text)
  | .thematic c n => .hr (thematicLine c n false)

theorem rawHtml_spelled4 (b : GBlock) (hok : gblockOK b = true) : rawHtml (rawOfG b) = expGBlock b := by
  cases b with
  | para lines =>
    simp only [gblockOK, Bool.and_eq_true, List.all_eq_true] at hok
    rw [rawOfG, rawHtml, expGBlock, map_write_spelled lines (fun l hl => lineOK_printable l (hok.2 l hl)), joinNl_eq]
  | heading level text =>
    simp only [gblockOK, Bool.and_eq_true] at hok
    rw [rawOfG, rawHtml, expGBlock, write_spelled text (lineOK_printable text hok.2)]
  | thematic c n => rfl

theorem rawOfG_level (b : GBlock) (h : gblockOK b = true) :
    ∀ level l, rawOfG b = .atx level l → 1 ≤ level ∧ level ≤ 6 := by
  intro level l he
  cases b with
  | para lines => simp [rawOfG] at he
  | heading lv text =>
    simp only [rawOfG, RawBlock.atx.injEq] at he
    simp only [gblockOK, Bool.and_eq_true, decide_eq_true_eq] at h
    omega
  | thematic c n => simp [rawOfG] at he

end GM.Proof.CMFrag
end CMFragRender4

/-
  section CMFragRender5 — the renderer half of the conformance proof for the stage-5 fragment (stage 4 plus fenced
  code blocks) of GM.Spec.CMFrag:
  * `renderDoc_hdoc_any`: the renderer model on a stage-5 document writes `hdocHtml` and never panics;
  * `hdocHtml_spelled`: on the spelled blocks of a stage-5 document that is the prescribed HTML;
  * `rawOfH_level`: the heading levels of the spelled blocks are 1–6.
-/
section CMFragRender5
namespace GM.Proof.CMFrag
open GM GM.Spec.CM GM.Spec.CMFrag

theorem handled_fenced5 (e : Exts) (info : Option Bytes) (lines : List Bytes) :
    handled e (.fencedCodeBlock info lines) = true := rfl

theorem renderNode_fence5 (rc : RCfg) (hes : rc.core.escSpace = false) (ph : Bool) (next : Option Node)
    (fc : UInt8) (n : Nat) (info : Bytes) (lines : List Bytes) :
    renderNode rc ph next (rawNode5 (.fence fc n info lines)) = rawHtml5 (.fence fc n info lines) := by
  rw [rawNode5, renderNode]
  simp only [enter, leave, handled_fenced5, skipsChildren, renderNodes, rawHtml5, hes]
  cases hi : info.isEmpty <;> simp [List.flatMap_map]

theorem renderNode_raw5 (rc : RCfg) (hes : rc.core.escSpace = false) (hhw : rc.core.hardWraps = false)
    (hea : rc.core.ea = 0) (hx : rc.core.xhtml = true) (ph : Bool) (next : Option Node) (b : Raw5) :
    renderNode rc ph next (rawNode5 b) = rawHtml5 b := by
  cases b with
  | old b => rw [rawNode5, rawHtml5, renderNode_raw4 rc hes hhw hea hx]
  | fence fc n info lines => exact renderNode_fence5 rc hes ph next fc n info lines
  | icode lines =>
    rw [rawNode5, renderNode]
    simp [enter, leave, handled, skipsChildren, renderNodes, rawHtml5, List.flatMap_map]

theorem renderNodes_raw5 (rc : RCfg) (hes : rc.core.escSpace = false) (hhw : rc.core.hardWraps = false)
    (hea : rc.core.ea = 0) (hx : rc.core.xhtml = true) (ph : Bool) (bs : List Raw5) :
    renderNodes rc ph (bs.map rawNode5) = hdocHtml bs := by
  induction bs with
  | nil => simp [renderNodes, hdocHtml]
  | cons b rest ih =>
    rw [List.map_cons, renderNodes, renderNode_raw5 rc hes hhw hea hx, ih]
    simp [hdocHtml]

theorem render_hdocNode5 (rc : RCfg) (hes : rc.core.escSpace = false) (hhw : rc.core.hardWraps = false)
    (hea : rc.core.ea = 0) (hx : rc.core.xhtml = true) (bs : List Raw5) :
    render rc (hdocNode bs) = hdocHtml bs := by
  rw [render, hdocNode, renderNode]
  simp [enter, leave, handled_doc, skipsChildren, Kind.isTableHeader, renderNodes_raw5 rc hes hhw hea hx]

theorem renderPanicsNode_raw5 (rc : RCfg) (b : Raw5) (hlev : ∀ level l, b = .old (.atx level l) → level ≤ 6) :
    renderPanicsNode rc (rawNode5 b) = none := by
  cases b with
  | old b =>
    rw [rawNode5]
    exact renderPanicsNode_raw4 rc b (fun level l he => hlev level l (by rw [he]))
  | fence fc n info lines =>
    simp [rawNode5, renderPanicsNode, nodePanic, renderPanicsNodes, handled_fenced5, skipsChildren]
  | icode lines =>
    simp [rawNode5, renderPanicsNode, nodePanic, renderPanicsNodes, handled, skipsChildren]

theorem renderPanicsNodes_raw5 (rc : RCfg) (bs : List Raw5)
    (hlev : ∀ b ∈ bs, ∀ level l, b = .old (.atx level l) → level ≤ 6) :
    renderPanicsNodes rc (bs.map rawNode5) = none := by
  induction bs with
  | nil => simp [renderPanicsNodes]
  | cons b rest ih =>
    rw [List.map_cons, renderPanicsNodes, ih (fun x hx => hlev x (by simp [hx])),
      renderPanicsNode_raw5 rc b (hlev b (by simp))]

theorem renderPanics_hdocNode5 (rc : RCfg) (bs : List Raw5)
    (hlev : ∀ b ∈ bs, ∀ level l, b = .old (.atx level l) → level ≤ 6) : renderPanics rc (hdocNode bs) = none := by
  simp [renderPanics, hdocNode, renderPanicsNode, nodePanic, renderPanicsNodes_raw5 rc bs hlev]

theorem renderDoc_hdoc_any (o : GM.Convert.ROpts) (ho : o.hardWraps = false) (hx : o.xhtml = true)
    (bs : List Raw5) (hlev : ∀ b ∈ bs, ∀ level l, b = .old (.atx level l) → level ≤ 6) :
    GM.Convert.renderDoc o (hdocNode bs) = .ok (hdocHtml bs) := by
  rw [GM.Convert.renderDoc, renderPanics_hdocNode5 o.rcfg bs hlev,
    render_hdocNode5 o.rcfg (rcfg_escSpace o) (by rw [rcfg_hardWraps, ho]) (rcfg_ea o) (by rw [rcfg_xhtml4, hx])]

/-- a block of a stage-5 document as the source bytes the renderer sees -/
def rawOfH : HBlock → Raw5
  | .base b => .old (rawOfG b)
  | .fcode tilde n info lines => .fence (fenceChar tilde) n info lines

theorem alnum_facts5 (c : UInt8) (h : isAlnumC c = true) :
    (c != 32) = true ∧ printable c = true ∧ spellChar ⟨c, .lit⟩ = [c] ∧ escHtmlByte c = [c] :=
  have f := alnum_facts c h
  ⟨f.2.1, f.1, f.2.2.2.2.2.1, f.2.2.2.2.2.2⟩

theorem takeWhile_alnum5 (info : Bytes) (h : ∀ c ∈ info, isAlnumC c = true) :
    info.takeWhile (· != 32) = info := by
  induction info with
  | nil => rfl
  | cons c rest ih =>
    rw [List.takeWhile_cons, (alnum_facts5 c (h c (by simp))).1, if_pos rfl, ih (fun x hx => h x (by simp [hx]))]

theorem escSpell_alnum5 (info : Bytes) (h : ∀ c ∈ info, isAlnumC c = true) :
    escSpell (info.map (⟨·, .lit⟩)) = info := by
  induction info with
  | nil => rfl
  | cons c rest ih =>
    simp only [escSpell, List.map_cons, List.flatMap_cons] at ih ⊢
    rw [ih (fun x hx => h x (by simp [hx])), (alnum_facts5 c (h c (by simp))).2.2.1]
    rfl

theorem write_alnum5 (info : Bytes) (h : ∀ c ∈ info, isAlnumC c = true) : GM.write false info = info := by
  have hw := write_spelled (info.map (⟨·, .lit⟩)) (by
    intro t ht
    simp only [List.mem_map] at ht
    obtain ⟨c, hc, rfl⟩ := ht
    exact (alnum_facts5 c (h c hc)).2.1)
  rw [escSpell_alnum5 info h] at hw
  rw [hw]
  have : plain (info.map (⟨·, .lit⟩)) = info := by
    rw [plain, List.map_map]
    exact List.map_id' info
  rw [this, escHtml_alnumH info h]

theorem rawWrite_line5 (l : Bytes) : GM.rawWrite (l ++ [10]) = escHtml l ++ [10] := by
  rw [← GM.Proof.CMSpec.escHtml_eq_rawWrite]
  simp only [escHtml, List.flatMap_append, List.flatMap_cons, List.flatMap_nil, List.append_nil]
  rfl

theorem rawHtml_spelled5 (b : HBlock) (hok : hblockOK b = true) : rawHtml5 (rawOfH b) = expHBlock b := by
  cases b with
  | base b => exact rawHtml_spelled4 b hok
  | fcode tilde n info lines =>
    simp only [hblockOK, Bool.and_eq_true, List.all_eq_true] at hok
    rw [rawOfH, rawHtml5, expHBlock, takeWhile_alnum5 info hok.1, write_alnum5 info hok.1]
    have hfm : ∀ ls : List Bytes, ls.flatMap (fun l => GM.rawWrite (l ++ [10])) = ls.flatMap (fun l => escHtml l ++ [10]) := by
      intro ls
      induction ls with
      | nil => rfl
      | cons l rest ih => rw [List.flatMap_cons, List.flatMap_cons, ih, rawWrite_line5]
    rw [hfm]

theorem hdocHtml_spelled (blocks : List HBlock) (hok : ∀ b ∈ blocks, hblockOK b = true) :
    hdocHtml (blocks.map rawOfH) = blocks.flatMap expHBlock := by
  induction blocks with
  | nil => rfl
  | cons b rest ih =>
    have h2 := ih (fun x hx => hok x (by simp [hx]))
    simp only [hdocHtml, List.map_cons, List.flatMap_cons] at h2 ⊢
    rw [h2, rawHtml_spelled5 b (hok b (by simp))]

theorem rawOfH_level (b : HBlock) (h : hblockOK b = true) :
    ∀ level l, rawOfH b = .old (.atx level l) → 1 ≤ level ∧ level ≤ 6 := by
  intro level l he
  cases b with
  | base b =>
    simp only [rawOfH, Raw5.old.injEq] at he
    exact rawOfG_level b h level l he
  | fcode tilde n info lines => simp [rawOfH] at he

end GM.Proof.CMFrag
end CMFragRender5
