/-
  GM.Proof.LinkRefScan — The link reference definition scanner walked once over the invariant `BP` (GM.Proof.LinkRefPad) with "no line is blank" as a parameter `NB`: the landing
  lemma of SkipSpaces and the reader helpers as steps, `parseLinkReferenceDefinition` exit by exit (`DefOK`) and the `for` loop of Transform
  (`transformScan_ok`: total; with `NB` the removed ranges are adjacent from line 0 on); the case `NB := False` is totality on any well-formed lines.
-/
import GM.Proof.LinkRefCursor

section ScanSteps
/-
  The LANDING lemma of SkipSpaces on the block cursor (any paddings), and the reader helpers of
  the link reference definition scanner as steps on a block reader that stands for a well-formed cursor with `PadOK`
  (`BP` of GM.Proof.LinkRefPad), each with what the adjacency / totality proof below needs: the line
  number and the byte offset never go back, a found closer / an `Advance` inside the line leaves the cursor on a line of
  the block, the segments FindClosure hands out are fit for `Value`.

  `NoBlank src segs`: no line of the block is blank (what the paragraph parser guarantees: it never appends a blank
  line). `Bnd c L` ("the cursor is bound for line `L`"): the cursor's line is exhausted, or it stands on line `L` in front
  of something that is not white space, or it stands on line `L - 1` in front of white space only. SkipSpaces from such a
  cursor ends with the block exhausted or ON LINE `L` in front of a byte that is not white space.
-/

namespace GM.Proof.LinkRefAdj
open GM GM.Text GM.Spec GM.Inl GM.LinkRef GM.Proof.Reader GM.Proof.InlinesReader GM.Proof.BlockReaderFuel
open GM.Proof.LinkRefPad

variable {src : Bytes} {segs : List Segment} {NB : Prop}

theorem sub_cons_tail {src : Bytes} {a b : Nat} {x : UInt8} {xs : Bytes} (h : sub src a b = x :: xs) :
    sub src (a + 1) b = xs := by
  unfold sub at h ⊢
  cases hd : src.drop a with
  | nil => rw [hd] at h; simp at h
  | cons y ys =>
    rw [hd] at h
    have e : src.drop (a + 1) = ys := by
      have : src.drop (a + 1) = (src.drop a).drop 1 := by rw [List.drop_drop]
      rw [this, hd]; rfl
    rw [e]
    cases hm : b - a with
    | zero => rw [hm] at h; simp at h
    | succ m =>
      rw [hm] at h
      simp only [List.take_succ_cons, List.cons.injEq] at h
      have : b - (a + 1) = m := by omega
      rw [this]; exact h.2

theorem isBlank_spaces_append (n : Nat) (l : Bytes) : isBlank (spaces n ++ l) = isBlank l := by
  unfold isBlank spaces
  rw [List.all_append]
  have : (List.replicate n (32 : UInt8)).all isSpace = true := by
    rw [List.all_eq_true]; intro x hx; rw [List.mem_replicate] at hx; rw [hx.2]; decide
  rw [this, Bool.true_and]

def NoBlank (src : Bytes) (segs : List Segment) : Prop :=
  ∀ j : Int, 0 ≤ j → j < BCur.k segs →
    isBlank (sub src (BCur.segOf segs j).start.toNat (BCur.segOf segs j).stop.toNat) = false

theorem view_lineCur (F : SegFacts src segs) {j : Int} (h0 : 0 ≤ j) (h1 : j < BCur.k segs) :
    BCur.view src segs (lineCur segs j) = some (spaces (BCur.segOf segs j).padding.toNat ++
      sub src (BCur.segOf segs j).start.toNat (BCur.segOf segs j).stop.toNat) := by
  have r := F.rng j h0 h1
  have hs := stop_le_last F h0 h1
  have hl : BCur.live segs (lineCur segs j) = true := by
    simp only [BCur.live, lineCur]
    rw [Bool.and_eq_true]
    exact ⟨decide_eq_true h1, decide_eq_true (by omega)⟩
  unfold BCur.view
  rw [if_pos hl]
  simp [lineCur, BCur.stopOf, h1]

theorem bwf_lineCur (F : SegFacts src segs) {j : Int} (h0 : 0 ≤ j) (h1 : j < BCur.k segs) : BWF segs (lineCur segs j) := by
  have r := F.rng j h0 h1
  exact { ln0 := h0, pad0 := r.2.2.2.1, inLine := fun _ => ⟨Int.le_refl _, Or.inl r.2.1⟩,
          past := fun h => by simp only [lineCur] at h; omega }

/-- one byte of the view forward: inside the line the view loses its first byte; behind the last byte of a line the cursor
    is at the head of the next line, or the block is exhausted -/
theorem adv1_view (F : SegFacts src segs) {c : BCur} (w : BWF segs c) {b : UInt8} {bs : Bytes}
    (hv : BCur.view src segs c = some (b :: bs)) :
    (bs ≠ [] ∧ BCur.view src segs (BCur.adv1 segs c) = some bs ∧ (BCur.adv1 segs c).ln = c.ln) ∨
    (bs = [] ∧ c.ln + 1 < BCur.k segs ∧ BCur.adv1 segs c = lineCur segs (c.ln + 1)) ∨
    (bs = [] ∧ BCur.k segs ≤ c.ln + 1 ∧ BCur.view src segs (BCur.adv1 segs c) = none) := by
  obtain ⟨_, _, hlive, _, hplt⟩ := bcur_view_len F w hv
  have hl := hlive
  simp only [BCur.live, Bool.and_eq_true, decide_eq_true_eq] at hl
  obtain ⟨l1, l2⟩ := hl
  have i1 := w.inLine l1
  have i2 := F.rng c.ln w.ln0 l1
  have hsl := stop_le_last F w.ln0 l1
  have hst : BCur.stopOf segs c = (BCur.segOf segs c.ln).stop := by simp [BCur.stopOf, l1]
  have hp0 := w.pad0
  simp only [BCur.view, hlive, if_true, Option.some.injEq] at hv
  have hsublen : (sub src c.p.toNat (BCur.stopOf segs c).toNat).length = (BCur.stopOf segs c).toNat - c.p.toNat :=
    length_sub src (b := (BCur.stopOf segs c).toNat) (by omega)
  by_cases hz : c.pad = 0
  · -- no padding left: a real byte
    rw [hz] at hv
    simp only [Int.toNat_zero, spaces, List.replicate_zero, List.nil_append] at hv
    have hlen : (bs.length : Int) + 1 = BCur.stopOf segs c - c.p := by
      have := congrArg List.length hv
      rw [hsublen] at this
      simp only [List.length_cons] at this
      omega
    have htail := sub_cons_tail hv
    by_cases hin : c.p + 1 < BCur.stopOf segs c
    · have e : BCur.adv1 segs c = { c with p := c.p + 1 } := by simp [BCur.adv1, hz, hin]
      left
      refine ⟨by intro hb; rw [hb] at hlen; simp at hlen; omega, ?_, by rw [e]⟩
      rw [e]
      have hl' : BCur.live segs { c with p := c.p + 1 } = true := by
        simp only [BCur.live, Bool.and_eq_true, decide_eq_true_eq]; exact ⟨l1, by omega⟩
      have hst' : BCur.stopOf segs { c with p := c.p + 1 } = BCur.stopOf segs c := by simp [BCur.stopOf]
      have : (c.p + 1).toNat = c.p.toNat + 1 := by omega
      unfold BCur.view
      rw [if_pos hl', hst']
      simp only [hz, Int.toNat_zero, spaces, List.replicate_zero, List.nil_append]
      rw [this, htail]
    · have hbs : bs = [] := by
        have : bs.length = 0 := by omega
        exact List.eq_nil_of_length_eq_zero this
      by_cases hk : BCur.k segs ≤ c.ln + 1
      · have e : BCur.adv1 segs c = { c with p := c.p + 1 } := by simp [BCur.adv1, hz, hk]
        right; right
        refine ⟨hbs, hk, ?_⟩
        rw [e]
        have hlast := F.last
        have ek : BCur.k segs - 1 = c.ln := by omega
        rw [ek] at hlast
        have hl' : BCur.live segs { c with p := c.p + 1 } = false := by
          simp only [BCur.live, Bool.and_eq_false_imp, decide_eq_true_eq, decide_eq_false_iff_not]
          intro _; omega
        simp [BCur.view, hl']
      · have e : BCur.adv1 segs c = lineCur segs (c.ln + 1) := by
          simp only [BCur.adv1, hz, ne_eq, not_true_eq_false, if_false, lineCur]
          rw [if_neg (by omega)]
        right; left
        exact ⟨hbs, by omega, e⟩
  · -- virtual padding: a space of the padding
    have hpos : 0 < c.pad := by omega
    have e : BCur.adv1 segs c = { c with pad := c.pad - 1 } := by simp [BCur.adv1, hz]
    have hsp : spaces c.pad.toNat = 32 :: spaces (c.pad - 1).toNat := by
      have : c.pad.toNat = (c.pad - 1).toNat + 1 := by omega
      rw [this]; simp [spaces, List.replicate_succ]
    rw [hsp] at hv
    simp only [List.cons_append, List.cons.injEq] at hv
    left
    refine ⟨?_, ?_, by rw [e]⟩
    · intro hb
      have := congrArg List.length hv.2
      rw [hb] at this
      simp only [List.length_append, List.length_nil, hsublen] at this
      omega
    · rw [e]
      have hl' : BCur.live segs { c with pad := c.pad - 1 } = true := by
        simp only [BCur.live, Bool.and_eq_true, decide_eq_true_eq]; exact ⟨l1, l2⟩
      have hst' : BCur.stopOf segs { c with pad := c.pad - 1 } = BCur.stopOf segs c := by simp [BCur.stopOf]
      simp only [BCur.view, hl', if_true, hst']
      rw [hv.2]

/-- "the cursor is bound for line `L`" -/
def Bnd (src : Bytes) (segs : List Segment) (c : BCur) (L : Int) : Prop :=
  BCur.view src segs c = none ∨
    ∃ l, BCur.view src segs c = some l ∧ ((c.ln = L ∧ isBlank l = false) ∨ (c.ln + 1 = L ∧ isBlank l = true))

theorem ssl_land (F : SegFacts src segs) (seg : Segment) :
    ∀ (l : Bytes) (i chars : Int) (c : BCur) (L : Int) res ch c', BWF segs c →
    ((l ≠ [] ∧ BCur.view src segs c = some l ∧ c.ln = L) ∨
      (l = [] ∧ ((L + 1 < BCur.k segs ∧ c = lineCur segs (L + 1)) ∨ (BCur.k segs ≤ L + 1 ∧ BCur.view src segs c = none)))) →
    skipSpacesLine (BCur.ops src segs) seg l i chars c = .ok (res, ch, c') →
    BWF segs c' ∧
    (res.isSome = true → ∃ b rest, BCur.view src segs c' = some (b :: rest) ∧ isSpace b = false ∧ c'.ln = L ∧ b ∈ l) ∧
    (res = none → isBlank l = true ∧
      ((L + 1 < BCur.k segs ∧ c' = lineCur segs (L + 1)) ∨ (BCur.k segs ≤ L + 1 ∧ BCur.view src segs c' = none))) := by
  intro l
  induction l with
  | nil =>
    intro i chars c L res ch c' w hyp h
    simp only [skipSpacesLine, pure, Except.pure, Except.ok.injEq, Prod.mk.injEq] at h
    obtain ⟨rfl, _, rfl⟩ := h
    rcases hyp with ⟨hne, _⟩ | ⟨_, hyp⟩
    · exact absurd rfl hne
    · exact ⟨w, by simp, fun _ => ⟨rfl, hyp⟩⟩
  | cons b bs ih =>
    intro i chars c L res ch c' w hyp h
    rcases hyp with ⟨_, hv, hL⟩ | ⟨hnil, _⟩
    · simp only [skipSpacesLine] at h
      split at h
      · rename_i hsp
        obtain ⟨v1, v2, hlive, _, _⟩ := bcur_view_len F w hv
        have ha : (BCur.ops src segs).advance 1 c = .ok (BCur.adv1 segs c) := by
          simp only [BCur.ops, BCur.advance]
          rw [if_pos ⟨by omega, by omega⟩]; rfl
        rw [ha] at h
        simp only [bind, Except.bind] at h
        obtain ⟨_, w1⟩ := rem_adv1 F w hlive
        have hyp1 : (bs ≠ [] ∧ BCur.view src segs (BCur.adv1 segs c) = some bs ∧ (BCur.adv1 segs c).ln = L) ∨
            (bs = [] ∧ ((L + 1 < BCur.k segs ∧ BCur.adv1 segs c = lineCur segs (L + 1)) ∨
              (BCur.k segs ≤ L + 1 ∧ BCur.view src segs (BCur.adv1 segs c) = none))) := by
          rcases adv1_view F w hv with ⟨a1, a2, a3⟩ | ⟨a1, a2, a3⟩ | ⟨a1, a2, a3⟩
          · exact .inl ⟨a1, a2, by omega⟩
          · exact .inr ⟨a1, .inl ⟨by omega, by rw [a3, hL]⟩⟩
          · exact .inr ⟨a1, .inr ⟨by omega, a3⟩⟩
        obtain ⟨g1, g2, g3⟩ := ih (i + 1) (chars + 1) _ L res ch c' w1 hyp1 h
        refine ⟨g1, ?_, ?_⟩
        · intro hs
          obtain ⟨b', rest, k1, k2, k3, k4⟩ := g2 hs
          exact ⟨b', rest, k1, k2, k3, List.mem_cons_of_mem _ k4⟩
        · intro hn
          obtain ⟨k1, k2⟩ := g3 hn
          refine ⟨?_, k2⟩
          simp only [isBlank, List.all_cons, Bool.and_eq_true] at k1 ⊢
          exact ⟨hsp, k1⟩
      · rename_i hsp
        simp only [pure, Except.pure, Except.ok.injEq, Prod.mk.injEq] at h
        obtain ⟨rfl, _, rfl⟩ := h
        exact ⟨w, fun _ => ⟨b, bs, hv, by simpa using hsp, hL, List.mem_cons_self ..⟩, by intro hh; cases hh⟩
    · cases hnil

/-- **the landing lemma of SkipSpaces** -/
theorem skipSpaces_land (F : SegFacts src segs) (hnb : NB → NoBlank src segs) :
    ∀ (fuel : Nat) (chars : Int) (c : BCur) (L : Int) x c', BWF segs c →
    skipSpaces (BCur.ops src segs) fuel chars c = .ok (x, c') →
    BCur.view src segs c' = none ∨
      ∃ b rest, BCur.view src segs c' = some (b :: rest) ∧ isSpace b = false ∧ (NB → Bnd src segs c L → c'.ln = L) := by
  intro fuel
  induction fuel with
  | zero => intro chars c L x c' _ h; simp [skipSpaces] at h
  | succ f ih =>
    intro chars c L x c' w h
    have hpl : (BCur.ops src segs).peekLine c = .ok ((BCur.view src segs c, BCur.seg segs c), c) := rfl
    simp only [skipSpaces, hpl, bind, Except.bind] at h
    cases hv : BCur.view src segs c with
    | none =>
      rw [hv] at h
      simp only [pure, Except.pure, Except.ok.injEq, Prod.mk.injEq] at h
      obtain ⟨_, rfl⟩ := h
      exact .inl hv
    | some l =>
      rw [hv] at h
      simp only at h
      obtain ⟨v1, _, _, _, _⟩ := bcur_view_len F w hv
      have hne : l ≠ [] := by intro e; rw [e] at v1; simp at v1
      cases hs : skipSpacesLine (BCur.ops src segs) (BCur.seg segs c) l 0 chars c with
      | error er => rw [hs] at h; simp at h
      | ok y =>
        obtain ⟨res, ch, c1⟩ := y
        rw [hs] at h
        obtain ⟨g1, g2, g3⟩ := ssl_land F (BCur.seg segs c) l 0 chars c c.ln res ch c1 w (.inl ⟨hne, hv, rfl⟩) hs
        cases res with
        | some v =>
          simp only [pure, Except.pure, Except.ok.injEq, Prod.mk.injEq] at h
          obtain ⟨_, rfl⟩ := h
          obtain ⟨b, rest, k1, k2, k3, k4⟩ := g2 rfl
          refine .inr ⟨b, rest, k1, k2, ?_⟩
          intro _ hb
          rcases hb with hb | ⟨l', hl', hb⟩
          · rw [hb] at hv; cases hv
          · rw [hv] at hl'; cases hl'
            rcases hb with ⟨e, _⟩ | ⟨_, hbl⟩
            · omega
            · have : isSpace b = true := by
                simp only [isBlank, List.all_eq_true] at hbl
                exact hbl b k4
              rw [this] at k2; cases k2
        | none =>
          simp only at h
          obtain ⟨k1, k2⟩ := g3 rfl
          rcases ih ch c1 L x c' g1 h with r | ⟨b, rest, r1, r2, r3⟩
          · exact .inl r
          · refine .inr ⟨b, rest, r1, r2, ?_⟩
            intro hN hb
            apply r3 hN
            rcases hb with hb | ⟨l', hl', hb⟩
            · rw [hb] at hv; cases hv
            · rw [hv] at hl'; cases hl'
              rcases hb with ⟨_, hbl⟩ | ⟨e, _⟩
              · rw [k1] at hbl; cases hbl
              · rcases k2 with ⟨q1, q2⟩ | ⟨_, q2⟩
                · have hq0 : 0 ≤ c.ln + 1 := by have := w.ln0; omega
                  right
                  refine ⟨_, by rw [q2]; exact view_lineCur F hq0 q1, .inl ⟨by rw [q2]; simp only [lineCur]; omega, ?_⟩⟩
                  rw [isBlank_spaces_append]
                  exact hnb hN _ hq0 q1
                · exact .inl q2

theorem skipSpaces_bp (W : WFSegs src segs) (hnb : NB → NoBlank src segs) {r : BlockReader} {c : BCur} (h : BP src segs r c) :
    ∃ x r' c', skipSpaces blockOps (rdFuel r) 0 r = .ok (x, r') ∧ BP src segs r' c' ∧ c.ln ≤ c'.ln ∧ c.p ≤ c'.p ∧
      (BCur.view src segs c' = none ∨
        ∃ b rest, BCur.view src segs c' = some (b :: rest) ∧ isSpace b = false ∧ ∀ L, NB → Bnd src segs c L → c'.ln = L) := by
  have F := segFacts W
  obtain ⟨x, c', e, ⟨w', pd', an'⟩, ⟨j1, j2, _⟩, _⟩ :=
    skipSpaces_meas (bcurMeasP (src := src) F) (rdFuel r) 0 ⟨h.abs.wf, h.pad, h.any⟩ (rdFuel_gt_pad W h)
  obtain ⟨r', e', a'⟩ := skipSpaces_sim (blockSim F) (rdFuel r) h.abs e
  refine ⟨x, r', c', e', ⟨a', pd', an'⟩, j1, j2, ?_⟩
  by_cases hv : BCur.view src segs c' = none
  · exact .inl hv
  · right
    rcases skipSpaces_land F hnb (rdFuel r) 0 c 0 x c' h.abs.wf e with q | ⟨b, rest, q1, q2, _⟩
    · exact absurd q hv
    · refine ⟨b, rest, q1, q2, ?_⟩
      intro L hN hb
      rcases skipSpaces_land F hnb (rdFuel r) 0 c L x c' h.abs.wf e with q | ⟨_, _, _, _, q3⟩
      · exact absurd q hv
      · exact q3 hN hb

theorem findClosure_bp (W : WFSegs src segs) {r : BlockReader} {c : BCur} (h : BP src segs r c) (o cl : UInt8) (hcl : cl ≠ 32) :
    ∃ x r' c', findClosure blockOps (rdFuel r) o cl linkFindClosureOptions r = .ok (x, r') ∧ BP src segs r' c' ∧
      c.ln ≤ c'.ln ∧ c.p ≤ c'.p ∧ (x.2 = true → c'.ln < BCur.k segs) ∧
      (∀ s ∈ x.1.getD [], c.p ≤ s.start ∧ s.start ≤ s.stop) := by
  have F := segFacts W
  obtain ⟨x, c', e, ⟨w', pd', an'⟩, ⟨j1, j2, _⟩, _, f2, f1⟩ :=
    findClosure_meas (bcurMeasP (src := src) F) o cl linkFindClosureOptions (rdFuel r) ⟨h.abs.wf, h.pad, h.any⟩ (rdFuel_gt_pad W h)
  obtain ⟨r', e', a'⟩ := findClosure_sim (blockSim F) (rdFuel r) o cl linkFindClosureOptions h.abs e
  refine ⟨x, r', c', e', ⟨a', pd', an'⟩, j1, j2, fun hx => ?_, fun s hs => f2 s hs hcl⟩
  obtain ⟨c2, hf, hc⟩ := f1 hx
  rw [hc rfl]; exact found_live hf

theorem advance_bp (W : WFSegs src segs) {r : BlockReader} {c : BCur} (h : BP src segs r c) {l : Bytes}
    (hv : BCur.view src segs c = some l) {n : Int} (h0 : 0 ≤ n) (hn : n ≤ l.length) :
    ∃ r' c', r.advance n = .ok r' ∧ BP src segs r' c' ∧ c.ln ≤ c'.ln ∧ c.p ≤ c'.p ∧ c'.ln < BCur.k segs ∧
      (c.pad = 0 → 1 ≤ n → c.p < c'.p) := by
  have F := segFacts W
  have hr := (bcur_view_len F h.abs.wf hv).2.1
  have hs : BCur.advance segs n c = .ok (BCur.advN segs n.toNat c) := by
    simp only [BCur.advance]; rw [if_pos ⟨h0, by omega⟩]
  obtain ⟨r', hr', ha⟩ := badvance_ref F h.abs hs
  have h1 := advN_ln (segs := segs) n.toNat c
  have h2 := advN_p F n.toNat h.abs.wf (by omega)
  exact ⟨r', _, hr', ⟨ha, padOK_advN _ h.pad, padAny_advN _ h.any⟩, h1.1, h2.1, h1.2 (view_live hv), fun hz h1n => h2.2 hz (by omega)⟩

end GM.Proof.LinkRefAdj
end ScanSteps

section ScanDefinition
/-
  `parseLinkReferenceDefinition` (link_ref.go:50-156) and the `for` loop of Transform
  (link_ref.go:20-27) on well-formed lines WITH ANY paddings none of which is blank: TOTAL (no Go panic: `line[pos]`,
  every `Advance`, every `Value`; no fuel exhaustion; the progress monitor never fires) and the ranges handed to the second
  loop are ADJACENT from line 0 on, non-empty, and end inside the paragraph (contract monitor (3) never fires).

  Exit by exit (`DefOK`): a recognised definition starts on the line `L` the cursor was bound for, ends on a line
  `e > L`, `e ≤ number of lines`, and leaves the cursor bound for line `e`:
    * no title opener behind the destination (link_ref.go:99-106): the reader is behind SkipSpaces over the blank rest of
      the destination's line — by the landing lemma on line `endLine + 1`, or the block is exhausted;
    * opener without closer / "title" followed by text (116-127, 139-150): `SetPosition(endLine, endPos); AdvanceLine()` —
      the head of line `endLine + 1`;
    * title (152-155): the reader stands on the line of the closing delimiter in front of white space only.
-/

namespace GM.Proof.LinkRefAdj
open GM GM.Text GM.Spec GM.Inl GM.LinkRef GM.Proof.Reader GM.Proof.InlinesReader GM.Proof.BlockReaderFuel
open GM.Proof.LinkRefPad GM.Proof.InlinesLink GM.Proof.Inlines GM.Proof.InlinesTotal

variable {src : Bytes} {segs : List Segment} {NB : Prop}

theorem closureValue_ok {rd : BlockReader} {l : List Segment} {v : Bytes} (h : segsValue rd l = .ok v) :
    ∃ t, closureValue rd l = .ok t := by
  unfold closureValue
  simp only [h, bind, Except.bind, pure, Except.pure]
  split <;> exact ⟨_, rfl⟩

/-- what a stage answers, for a scan bound for line `L`: a result, a reader that stands for a cursor with `PadOK` at or
    behind `p0`; a recognised definition is `(L, e)` with `L < e ≤ k` and leaves the cursor bound for line `e` -/
def DefOK (NB : Prop) (src : Bytes) (segs : List Segment) (L p0 : Int) (res : DefRes) : Prop :=
  ∃ x r' refs' c', res = .ok (x, r', refs') ∧ BP src segs r' c' ∧ p0 ≤ c'.p ∧
    (NB → x.1 > -1 → x.1 = L ∧ L < x.2 ∧ x.2 ≤ BCur.k segs ∧ Bnd src segs c' x.2)

theorem DefOK.mono {L p0 p1 : Int} {res : DefRes} (h : DefOK NB src segs L p1 res) (hp : p0 ≤ p1) : DefOK NB src segs L p0 res := by
  obtain ⟨x, r', refs', c', e, hr, hc, hx⟩ := h
  exact ⟨x, r', refs', c', e, hr, by omega, hx⟩

theorem noDef_ok {r : BlockReader} {c : BCur} (h : BP src segs r c) (refs : RefMap) (L : Int) :
    DefOK NB src segs L c.p (noDef r refs) :=
  ⟨_, _, _, c, rfl, h, Int.le_refl _, by intro _ hh; simp at hh⟩

theorem view_none_of_ge {c : BCur} (h : BCur.k segs ≤ c.ln) : BCur.view src segs c = none := by
  have : BCur.live segs c = false := by
    simp only [BCur.live, Bool.and_eq_false_imp, decide_eq_true_eq, decide_eq_false_iff_not]
    intro h'; omega
  simp [BCur.view, this]

/-- the cursor behind `AdvanceLine` is bound for the next line -/
theorem bnd_advanceLine (F : SegFacts src segs) (hnb : NoBlank src segs) {c : BCur} (w : BWF segs c) :
    Bnd src segs (BCur.advanceLine segs c) (c.ln + 1) := by
  by_cases hl : c.ln + 1 < BCur.k segs
  · have e : BCur.advanceLine segs c = lineCur segs (c.ln + 1) := by simp [BCur.advanceLine, hl, lineCur]
    have h0 : 0 ≤ c.ln + 1 := by have := w.ln0; omega
    right
    refine ⟨_, by rw [e]; exact view_lineCur F h0 hl, .inl ⟨by rw [e]; rfl, ?_⟩⟩
    rw [isBlank_spaces_append]; exact hnb _ h0 hl
  · left
    apply view_none_of_ge
    have : (BCur.advanceLine segs c).ln = c.ln + 1 := by simp [BCur.advanceLine, hl]
    omega

theorem defNoTitle_ok (W : WFSegs src segs) (hnb : NB → NoBlank src segs) {r0 r : BlockReader} {c0 c : BCur}
    (h0 : BP src segs r0 c0) (h : BP src segs r c) (refs : RefMap) (L : Int) (hL : L ≤ c0.ln) (hk : c0.ln < BCur.k segs)
    (label dest : Bytes) :
    DefOK NB src segs L c0.p (defNoTitle r refs L r0.position.1 r0.position.2 label dest) := by
  have F := segFacts W
  obtain ⟨r1, e1, a1⟩ := blockReader_setPosition_restores F h0.abs h.abs
  obtain ⟨r2, e2, a2, _⟩ := badvanceLine_ref F a1
  have hp := advanceLine_p F h0.abs.wf
  have hpos : r0.position.1 = c0.ln := by rw [bposition_ref h0.abs]; rfl
  unfold defNoTitle
  simp only [e1, e2, bind, Except.bind, pure, Except.pure]
  refine ⟨_, _, _, _, rfl, ⟨a2, padOK_advanceLine h0.pad, padAny_advanceLine h0.any⟩, hp, ?_⟩
  intro hN _
  simp only [hpos]
  exact ⟨trivial, by omega, by omega, bnd_advanceLine F (hnb hN) h0.abs.wf⟩

theorem defTitled_ok (W : WFSegs src segs) (hnb : NB → NoBlank src segs) {r0 r : BlockReader} {c0 c : BCur}
    (h0 : BP src segs r0 c0) (h : BP src segs r c) (hp : c0.p ≤ c.p) (refs : RefMap) (L : Int)
    (hL0 : L ≤ c0.ln) (hk0 : c0.ln < BCur.k segs) (hLc : L ≤ c.ln) (hkc : c.ln < BCur.k segs) (nl : Bool)
    (label dest : Bytes) (sg : List Segment)
    (hsg : ∀ s ∈ sg, (BCur.segOf segs 0).start ≤ s.start ∧ s.start ≤ s.stop) :
    DefOK NB src segs L c0.p (defTitled r refs L r0.position.1 r0.position.2 nl label dest sg) := by
  have F := segFacts W
  obtain ⟨sv, hsv⟩ := segsValue_ok F h.abs sg hsg
  obtain ⟨t, ht⟩ := closureValue_ok hsv
  have hpl := bp_peekLine W h
  have hn := defNoTitle_ok W hnb h0 h refs L hL0 hk0 label dest
  have hline : r.position.1 = c.ln := by rw [bposition_ref h.abs]; rfl
  unfold defTitled
  simp only [ht, hpl, bind, Except.bind, pure, Except.pure]
  cases hv : BCur.view src segs c with
  | none =>
    simp only [Bool.false_eq_true, if_false]
    refine ⟨_, _, _, c, rfl, h, hp, ?_⟩
    intro _ _
    simp only [hline]
    exact ⟨trivial, by omega, by omega, .inl hv⟩
  | some l =>
    simp only
    by_cases hb : isBlank l = true
    · simp only [hb, Bool.not_true, Bool.false_eq_true, if_false]
      refine ⟨_, _, _, c, rfl, h, hp, ?_⟩
      intro _ _
      simp only [hline]
      exact ⟨trivial, by omega, by omega, .inr ⟨l, hv, .inr ⟨rfl, hb⟩⟩⟩
    · have hb' : isBlank l = false := by simpa using hb
      simp only [hb', Bool.not_false, if_true]
      cases nl with
      | false => simp only [Bool.not_false, if_true]; exact (noDef_ok h refs L).mono hp
      | true => simp only [Bool.not_true, Bool.false_eq_true, if_false]; exact hn

/-- `Advance(n)` for `0 ≤ n ≤ remaining` -/
theorem advance_bp_rem (W : WFSegs src segs) {r : BlockReader} {c : BCur} (h : BP src segs r c) {n : Int} (h0 : 0 ≤ n)
    (hn : n ≤ BCur.remaining segs c) :
    ∃ r' c', r.advance n = .ok r' ∧ BP src segs r' c' ∧ c.ln ≤ c'.ln ∧ c.p ≤ c'.p ∧
      (c.ln < BCur.k segs → c'.ln < BCur.k segs) := by
  have F := segFacts W
  have hs : BCur.advance segs n c = .ok (BCur.advN segs n.toNat c) := by
    simp only [BCur.advance]; rw [if_pos ⟨h0, hn⟩]
  obtain ⟨r', hr', ha⟩ := badvance_ref F h.abs hs
  have h1 := advN_ln (segs := segs) n.toNat c
  have h2 := advN_p F n.toNat h.abs.wf (by omega)
  exact ⟨r', _, hr', ⟨ha, padOK_advN _ h.pad, padAny_advN _ h.any⟩, h1.1, h2.1, h1.2⟩

theorem parseLinkDestination_bp (W : WFSegs src segs) (hnb : NB → NoBlank src segs) {r : BlockReader} {c : BCur}
    (h : BP src segs r c) :
    ∃ d r' c', parseLinkDestination r = .ok (d, r') ∧ BP src segs r' c' ∧ c.ln ≤ c'.ln ∧ c.p ≤ c'.p ∧
      (d.isSome = true → c'.ln < BCur.k segs) := by
  have F := segFacts W
  obtain ⟨x, r1, c1, e1, h1, l1, p1, _⟩ := skipSpaces_bp W hnb h
  have hpl := bp_peekLine W h1
  have hpk := bp_peek W h1
  unfold parseLinkDestination
  simp only [e1, hpl, hpk, bind, Except.bind, pure, Except.pure]
  split
  · rename_i h60
    simp only [beq_iff_eq] at h60
    obtain ⟨l, hv⟩ := peek_view h60 (by decide)
    simp only [hv, Option.getD_some, List.drop_succ_cons, List.drop_zero]
    cases hd : destAngle l 1 with
    | none => exact ⟨_, r1, c1, rfl, h1, l1, p1, by simp⟩
    | some i =>
      have hb := destAngle_bound _ l (Nat.le_refl _) 1 i hd
      obtain ⟨r2, c2, g1, g2, g3, g4, g5, _⟩ := advance_bp W h1 hv (n := (i : Int) + 1) (by omega)
        (by simp only [List.length_cons]; omega)
      simp only [g1]
      exact ⟨_, r2, c2, rfl, g2, by omega, by omega, fun _ => g5⟩
  · cases hv : BCur.view src segs c1 with
    | none =>
      have hn := remaining_nonneg F h1.abs.wf
      obtain ⟨r2, c2, g1, g2, g3, g4, _⟩ := advance_bp_rem W h1 (n := 0) (Int.le_refl _) hn
      have g1' : BlockReader.advance ((0 : Nat) : Int) r1 = .ok r2 := by exact_mod_cast g1
      simp only [Option.getD_none]
      split
      · exact ⟨_, r1, c1, rfl, h1, l1, p1, by simp⟩
      simp only [destPlain, g1']
      exact ⟨_, r2, c2, rfl, g2, by omega, by omega, by simp⟩
    | some l =>
      have hb := destPlain_bound _ l (Nat.le_refl _) 0 0
      obtain ⟨r2, c2, g1, g2, g3, g4, g5, _⟩ := advance_bp W h1 hv (n := (destPlain l 0 0 : Int)) (by omega) (by omega)
      simp only [Option.getD_some]
      split
      · exact ⟨_, r1, c1, rfl, h1, l1, p1, by simp⟩   -- an open parenthesis is left (repair ce3b6c4): rejected, reader not advanced
      simp only [g1]
      exact ⟨_, r2, c2, rfl, g2, by omega, by omega, fun _ => g5⟩

/-- link_ref.go:96-155 with `isNewLine` as a parameter -/
def afterDestBody (rd : BlockReader) (refs : RefMap) (startLine : Int) (label destination : Bytes) (isNewLine : Bool) :
    DefRes := do
  let (endLine, endPos) := rd.position
  let ((_, spaces, _), rd) ← skipSpaces blockOps (GM.Inl.rdFuel rd) 0 rd
  let opener ← rd.peek
  if opener != 34 && opener != 39 && opener != 40 then
    if !isNewLine then noDef rd refs
    else pure ((startLine, endLine + 1), rd, addReference refs label destination none)
  else if spaces == 0 then noDef rd refs
  else
    let rd ← rd.advance 1
    let closer : UInt8 := if opener == 40 then 41 else opener
    let ((segs, found), rd) ← findClosure blockOps (GM.Inl.rdFuel rd) opener closer GM.Inl.linkFindClosureOptions rd
    if !found then
      if !isNewLine then noDef rd refs
      else defNoTitle rd refs startLine endLine endPos label destination
    else defTitled rd refs startLine endLine endPos isNewLine label destination (segs.getD [])

theorem defAfterDest_eq (rd : BlockReader) (refs : RefMap) (sl : Int) (label dest : Bytes) :
    defAfterDest rd refs sl label dest =
      (rd.peekLine >>= fun x => afterDestBody x.2 refs sl label dest (match x.1.1 with | none => true | some l => isBlank l)) := by
  unfold defAfterDest afterDestBody
  rfl

theorem afterDestBody_ok (W : WFSegs src segs) (hnb : NB → NoBlank src segs) {r : BlockReader} {c : BCur} (h : BP src segs r c)
    (refs : RefMap) (L : Int) (hL : L ≤ c.ln) (hk : c.ln < BCur.k segs) (label dest : Bytes) (nl : Bool)
    (hnl : NB → nl = true → Bnd src segs c (c.ln + 1)) :
    DefOK NB src segs L c.p (afterDestBody r refs L label dest nl) := by
  have F := segFacts W
  obtain ⟨⟨sg0, spaces, ok0⟩, r1, c1, e1, h1, l1, p1, land⟩ := skipSpaces_bp W hnb h
  have hpk := bp_peek W h1
  have hpos : r.position = (c.ln, r.position.2) := by rw [bposition_ref h.abs]; rfl
  unfold afterDestBody
  rw [hpos]
  simp only [e1, hpk, bind, Except.bind, pure, Except.pure]
  by_cases hop : (BCur.peek src segs c1 != 34 && BCur.peek src segs c1 != 39 && BCur.peek src segs c1 != 40) = true
  · simp only [hop, if_true]
    cases nl with
    | false => simp only [Bool.not_false, if_true]; exact (noDef_ok h1 refs L).mono p1
    | true =>
      simp only [Bool.not_true, Bool.false_eq_true, if_false]
      -- the rest of the destination's line is blank: the reader is behind SkipSpaces over it
      refine ⟨_, _, _, c1, rfl, h1, p1, ?_⟩
      intro hN _
      have hbnd := hnl hN rfl
      refine ⟨rfl, by simp only; omega, by simp only; omega, ?_⟩
      rcases land with q | ⟨b, rest, q1, q2, q3⟩
      · exact .inl q
      · refine .inr ⟨_, q1, .inl ⟨q3 _ hN hbnd, ?_⟩⟩
        simp only [isBlank, List.all_cons, q2, Bool.false_and]
  · simp only [hop, Bool.false_eq_true, if_false]
    by_cases hsp : (spaces == 0) = true
    · simp only [hsp, if_true]
      exact (noDef_ok h1 refs L).mono p1
    · simp only [hsp, Bool.false_eq_true, if_false]
      have hne : BCur.peek src segs c1 ≠ 255 := by
        intro e; rw [e] at hop; simp at hop
      obtain ⟨l, hv⟩ := peek_view (rfl : BCur.peek src segs c1 = _) hne
      obtain ⟨r2, c2, g1, g2, l2, p2, k2, _⟩ := advance_bp W h1 hv (n := 1) (by omega) (by simp only [List.length_cons]; omega)
      obtain ⟨⟨sgs, found⟩, r3, c3, k1, h3, l3, p3, kf, ksg⟩ := findClosure_bp W g2 (BCur.peek src segs c1)
        (if (BCur.peek src segs c1 == 40) = true then 41 else BCur.peek src segs c1)
        (by intro e; split at e
            · cases e
            · rw [e] at hop; simp at hop)
      have hfirst := first_le_p F g2.abs.wf
      have hn := defNoTitle_ok W hnb h h3 refs L hL hk label dest
      have ht : found = true → ∀ nl, DefOK NB src segs L c.p
          (defTitled r3 refs L r.position.1 r.position.2 nl label dest (sgs.getD [])) := fun hf nl =>
        defTitled_ok W hnb h h3 (by omega) refs L hL hk (by omega) (kf hf) nl label dest (sgs.getD [])
          (fun s hs => by have := ksg s hs; exact ⟨by omega, this.2⟩)
      rw [hpos] at hn ht
      simp only at hn ht
      simp only [g1, k1]
      cases found with
      | false =>
        simp only [Bool.not_false, if_true]
        cases nl with
        | false => simp only [Bool.not_false, if_true]; exact (noDef_ok h3 refs L).mono (by omega)
        | true => simp only [Bool.not_true, Bool.false_eq_true, if_false]; exact hn
      | true =>
        simp only [Bool.not_true, Bool.false_eq_true, if_false]
        exact ht rfl _

theorem defAfterDest_ok (W : WFSegs src segs) (hnb : NB → NoBlank src segs) {r : BlockReader} {c : BCur} (h : BP src segs r c)
    (refs : RefMap) (L : Int) (hL : L ≤ c.ln) (hk : c.ln < BCur.k segs) (label dest : Bytes) :
    DefOK NB src segs L c.p (defAfterDest r refs L label dest) := by
  have hpl := bp_peekLine W h
  rw [defAfterDest_eq, hpl]
  simp only [bind, Except.bind]
  apply afterDestBody_ok W hnb h refs L hL hk label dest
  intro _ hnl
  cases hv : BCur.view src segs c with
  | none => exact .inl hv
  | some l =>
    rw [hv] at hnl
    exact .inr ⟨l, hv, .inr ⟨rfl, hnl⟩⟩

theorem defAfterLabel_ok (W : WFSegs src segs) (hnb : NB → NoBlank src segs) {r : BlockReader} {c : BCur} (h : BP src segs r c)
    (refs : RefMap) (L : Int) (hL : L ≤ c.ln) (label : Bytes) :
    DefOK NB src segs L c.p (defAfterLabel r refs L label) := by
  have hpk := bp_peek W h
  unfold defAfterLabel
  simp only [hpk, bind, Except.bind, pure, Except.pure]
  split
  · exact noDef_ok h refs L
  · split
    · exact noDef_ok h refs L
    · rename_i h58
      have hne : BCur.peek src segs c ≠ 255 := by
        intro e; rw [e] at h58; simp at h58
      obtain ⟨l, hv⟩ := peek_view (rfl : BCur.peek src segs c = _) hne
      obtain ⟨r2, c2, g1, g2, l2, p2, _, _⟩ := advance_bp W h hv (n := 1) (by omega) (by simp only [List.length_cons]; omega)
      obtain ⟨x, r3, c3, e3, h3, l3, p3, _⟩ := skipSpaces_bp W hnb g2
      obtain ⟨d, r4, c4, e4, h4, l4, p4, k4⟩ := parseLinkDestination_bp W hnb h3
      simp only [g1, e3, e4]
      cases d with
      | none => exact (noDef_ok h4 refs L).mono (by omega)
      | some dest => exact (defAfterDest_ok W hnb h4 refs L (by omega) (k4 rfl) label dest).mono (by omega)

theorem defTail_ok (W : WFSegs src segs) (hnb : NB → NoBlank src segs) {r : BlockReader} {c : BCur} (h : BP src segs r c)
    (refs : RefMap) (pos : Int) {l : Bytes} (hv : BCur.view src segs c = some l) (hz : c.pad = 0)
    (h0 : 0 ≤ pos) (h1 : pos < l.length) :
    DefOK NB src segs c.ln (c.p + 1) (defTail r refs c.ln pos) := by
  have F := segFacts W
  obtain ⟨r1, c1, g1, g2, l1, _, _, p1⟩ := advance_bp W h hv (n := pos + 1) (by omega) (by omega)
  have p1' := p1 hz (by omega)
  obtain ⟨y, r2, c2, k1, h2, l2, p2, _, ksg⟩ := findClosure_bp W g2 91 93 (by decide)
  have hfirst := first_le_p F g2.abs.wf
  obtain ⟨sv, hsv⟩ := segsValue_ok F h2.abs (y.1.getD []) (fun s hs => by have := ksg s hs; exact ⟨by omega, this.2⟩)
  obtain ⟨lab, hlab⟩ := closureValue_ok hsv
  unfold defTail
  simp only [g1, k1, hlab, bind, Except.bind, pure, Except.pure]
  split
  · exact (noDef_ok h2 refs c.ln).mono (by omega)
  · exact (defAfterLabel_ok W hnb h2 refs c.ln (by omega) _).mono (by omega)

/-- **one call of parseLinkReferenceDefinition** from a cursor bound for line `L`: total; a recognised definition is
    `(L, e)` with `L < e ≤ k`, moves the reader forward by at least a byte and leaves it bound for line `e` -/
theorem parseLinkReferenceDefinition_ok (W : WFSegs src segs) (hnb : NB → NoBlank src segs) {r : BlockReader} {c : BCur}
    (h : BP src segs r c) {L : Int} (hb : NB → Bnd src segs c L) (refs : RefMap) :
    ∃ x r' refs' c', parseLinkReferenceDefinition r refs = .ok (x, r', refs') ∧ BP src segs r' c' ∧ c.p ≤ c'.p ∧
      (x.1 > -1 → c.p < c'.p ∧ c.p < src.length) ∧
      (NB → x.1 > -1 → x.1 = L ∧ L < x.2 ∧ x.2 ≤ BCur.k segs ∧ Bnd src segs c' x.2) := by
  have F := segFacts W
  obtain ⟨x, r1, c1, e1, h1, l1, p1, land⟩ := skipSpaces_bp W hnb h
  have hpl := bp_peekLine W h1
  unfold parseLinkReferenceDefinition defHead
  simp only [e1, hpl, bind, Except.bind, pure, Except.pure]
  rcases land with hv | ⟨b, rest, hv, hsp, hln⟩
  · rw [hv]
    exact ⟨_, r1, refs, c1, rfl, h1, p1, by intro hh; simp [noDef] at hh, by intro _ hh; simp [noDef] at hh⟩
  · rw [hv]
    have hnsp : b ≠ 32 ∧ b ≠ 9 := by
      constructor <;> (intro e; subst e; revert hsp; decide)
    simp only [GM.Blocks.indentWidthI, GM.Blocks.indentWidthGo, beq_iff_eq, hnsp.1, hnsp.2, if_false]
    have hidx : GM.Blocks.idx (b :: rest) 0 = .ok b := by simp [GM.Blocks.idx, getByte]
    simp only [show ¬ ((0 : Int) > 3) by omega, if_false, bne_self_eq_false, Bool.false_eq_true, hidx]
    by_cases hb91 : (b != 91) = true
    · simp only [hb91, if_true]
      exact ⟨_, r1, refs, c1, rfl, h1, p1, by intro hh; simp [noDef] at hh, by intro _ hh; simp [noDef] at hh⟩
    · -- the padding is used up: the first byte of the view is not a space
      simp only [hb91, Bool.false_eq_true, if_false]
      obtain ⟨_, _, hlive, _, hplt⟩ := bcur_view_len F h1.abs.wf hv
      have hz : c1.pad = 0 := by
        have hp0 := h1.abs.wf.pad0
        by_cases hz : c1.pad = 0
        · exact hz
        · exfalso
          simp only [BCur.view, hlive, if_true, Option.some.injEq] at hv
          have : c1.pad.toNat = (c1.pad.toNat - 1) + 1 := by omega
          rw [this] at hv
          simp only [spaces, List.replicate_succ, List.cons_append, List.cons.injEq] at hv
          exact hnsp.1 hv.1.symm
      have hline : r1.position.1 = c1.ln := by rw [bposition_ref h1.abs]; rfl
      have hkk := view_live hv
      have hstop : BCur.stopOf segs c1 ≤ src.length := by
        have := (F.rng c1.ln h1.abs.wf.ln0 hkk).2.2.1
        simp only [BCur.stopOf, hkk, if_true]; exact this
      obtain ⟨y, r', refs', c', e, hr, hm, hx⟩ := defTail_ok W hnb h1 refs 0 hv hz (Int.le_refl _)
        (by simp only [List.length_cons]; omega)
      rw [hline, e]
      refine ⟨y, r', refs', c', rfl, hr, by omega, fun _ => ⟨by omega, by omega⟩, ?_⟩
      intro hN hy
      have hc1 : c1.ln = L := hln L hN (hb hN)
      obtain ⟨q1, q2, q3, q4⟩ := hx hN hy
      exact ⟨by omega, by omega, q3, q4⟩

/-- **the `for` loop of Transform**: total (the progress monitor never fires), and what it appends to the ranges is
    adjacent from line `L` on, non-empty, and ends inside the block -/
theorem transformLoop_ok (W : WFSegs src segs) (hnb : NB → NoBlank src segs) :
    ∀ (fuel : Nat) (rd : BlockReader) (c : BCur) (refs : RefMap) (removes : List (Int × Int)) (L : Int),
      BP src segs rd c → (NB → Bnd src segs c L) → (NB → L ≤ BCur.k segs) → offsetMeasure rd < fuel →
      ∃ rm refs', transformLoop fuel rd refs removes = .ok (removes ++ rm, refs') ∧
        (NB → adjacentB L rm = true ∧ lastEndOf L rm ≤ BCur.k segs) := by
  intro fuel
  induction fuel with
  | zero => intro _ _ _ _ _ _ _ _ h; omega
  | succ fuel ih =>
    intro rd c refs removes L h hb hLk hf
    obtain ⟨⟨s, e⟩, rd', refs', c', hd, h', m, hprog, hx⟩ := parseLinkReferenceDefinition_ok W hnb h hb refs
    unfold transformLoop
    simp only [hd, bind, Except.bind, pure, Except.pure]
    split
    · rename_i hs
      obtain ⟨q5, q6⟩ := hprog hs
      have hm : offsetMeasure rd' < offsetMeasure rd := by
        unfold offsetMeasure
        rw [h'.abs.pos, h.abs.pos, h'.abs.source, h.abs.source]
        simp only
        omega
      simp only [hm, decide_true, Bool.not_true, Bool.false_eq_true, if_false]
      obtain ⟨rm, refs'', g1, g⟩ := ih rd' c' refs' (removes ++ [(s, e)]) e h' (fun hN => (hx hN hs).2.2.2)
        (fun hN => (hx hN hs).2.2.1) (by omega)
      refine ⟨(s, e) :: rm, refs'', by rw [g1]; simp, ?_⟩
      intro hN
      obtain ⟨q1, q2, q3, q4⟩ := hx hN hs
      obtain ⟨g2, g3⟩ := g hN
      simp only at q1 q2 q3 q4
      refine ⟨?_, ?_⟩
      · simp only [adjacentB, Bool.and_eq_true, beq_iff_eq, decide_eq_true_eq]
        exact ⟨⟨q1, q2⟩, g2⟩
      · simpa only [lastEndOf] using g3
    · exact ⟨[], refs', by simp, fun hN => ⟨rfl, by simpa only [lastEndOf] using hLk hN⟩⟩

/-- the initial cursor is bound for line 0 -/
theorem bnd_init (F : SegFacts src segs) (hnb : NoBlank src segs) : Bnd src segs (BCur.init segs) 0 := by
  have e : BCur.init segs = lineCur segs 0 := rfl
  right
  refine ⟨_, by rw [e]; exact view_lineCur F (Int.le_refl _) F.kpos, .inl ⟨rfl, ?_⟩⟩
  rw [isBlank_spaces_append]; exact hnb _ (Int.le_refl _) F.kpos

/-- **the scan of Transform** on well-formed lines with any paddings, none of them blank: total, ranges adjacent from
    line 0 on, non-empty, ending inside the paragraph -/
theorem transformScan_ok {src : Bytes} {lines : List Segment} (W : WFSegs src lines) (hnb : NB → NoBlank src lines)
    (refs : RefMap) :
    ∃ rm refs', transformScan src lines refs = .ok (rm, refs') ∧ (NB → adjacentB 0 rm = true ∧
      lastEndOf 0 rm ≤ lines.length) := by
  have F := segFacts W
  obtain ⟨r0, e0, a0⟩ := blockReader_init F
  have hp : PadOK lines (BCur.init lines) := by intro _; simp only [BCur.init]; exact Int.le_refl _
  unfold transformScan
  simp only [e0, bind, Except.bind]
  obtain ⟨rm, refs', g1, g2⟩ := transformLoop_ok W hnb (transformFuel r0) r0 _ refs [] 0 ⟨a0, hp, 0, Int.le_refl _⟩
    (fun hN => bnd_init F (hnb hN)) (fun _ => by have := F.kpos; omega) (by unfold transformFuel; omega)
  exact ⟨rm, refs', by simpa using g1, g2⟩

end GM.Proof.LinkRefAdj
end ScanDefinition

section ScanTotal
/-
  The scan of the link reference transformer (GM.Model.LinkRef) is TOTAL: what
  `parseLinkReferenceDefinition_ok` / `transformScan_ok` say when nothing is assumed about blank
  lines (`NB := False`). On well-formed lines with any paddings, or on no lines, the scan answers (`transformScan_total_wf`),
  so it never exhausts fuel; over padding-free lines the invariant `BP` is `RS`, so one call of
  `parseLinkReferenceDefinition` takes a reader that stands for a padding-free cursor to such a reader.
-/

namespace GM.Proof.LinkRefTotal
open GM GM.Text GM.Spec GM.Inl GM.LinkRef GM.Proof.Reader GM.Proof.InlinesReader GM.Proof.Inlines GM.Proof.InlinesTotal
open GM.Proof.InlinesLink GM.Proof.BlockReaderFuel GM.Proof.LinkRefPad GM.Proof.LinkRefAdj

variable {src : Bytes} {segs : List Segment}

theorem defHead_dead (r : BlockReader) (h : r.live = false) : defHead r = .ok (none, r) := by
  have hf : rdFuel r = (rdFuel r - 1) + 1 := by unfold rdFuel loopFuel; omega
  unfold defHead
  rw [hf]
  unfold skipSpaces
  simp [blockOps, BlockReader.peekLine, h, bind, Except.bind, pure, Except.pure]

theorem transformLoop_dead (r : BlockReader) (h : r.live = false) (n : Nat) (refs : RefMap) :
    transformLoop (n + 1) r refs [] = .ok ([], refs) := by
  unfold transformLoop parseLinkReferenceDefinition
  simp [defHead_dead r h, noDef, bind, Except.bind, pure, Except.pure]

theorem new_nil (src : Bytes) : ∃ r, BlockReader.new src [] = .ok r ∧ r.live = false := by
  simp [BlockReader.new, BlockReader.resetPosition, BlockReader.advanceLine, BlockReader.setPosition, BlockReader.live,
    bind, Except.bind, pure, Except.pure]

/-- a block reader over no lines: the scan ends at its first `PeekLine` -/
theorem transformScan_nil (src : Bytes) (refs : RefMap) : transformScan src [] refs = .ok ([], refs) := by
  obtain ⟨r, e, hl⟩ := new_nil src
  unfold transformScan
  simp only [e, bind, Except.bind, transformFuel]
  exact transformLoop_dead r hl _ refs

/-- **the scan is total on well-formed lines with any paddings** (or none) — blank lines allowed: no Go panic, no fuel
    exhaustion, the progress monitor does not fire -/
theorem transformScan_total_wf {src : Bytes} {lines : List Segment} (h : lines = [] ∨ WFSegs src lines) (refs : RefMap) :
    ∃ res, transformScan src lines refs = .ok res := by
  rcases h with h | W
  · subst h; exact ⟨_, transformScan_nil src refs⟩
  · obtain ⟨rm, refs', e, _⟩ := transformScan_ok (NB := False) W (fun hN => absurd hN id) refs
    exact ⟨_, e⟩

/-- **parseLinkReferenceDefinition is total** on a reader that stands for a padding-free cursor over well-formed
    lines — no Go panic, no fuel exhaustion — and a recognised definition moves the reader forward by at least a byte -/
theorem parseLinkReferenceDefinition_total (W : WFSegs src segs) (Z : ∀ s ∈ segs, s.padding = 0) {r : BlockReader} {c : BCur}
    (h : RS src segs r c) (refs : RefMap) :
    ∃ x r' refs' c', parseLinkReferenceDefinition r refs = .ok (x, r', refs') ∧ RS src segs r' c' ∧ c.p ≤ c'.p ∧
      (x.1 > -1 → c.p < c'.p ∧ c.p < src.length) := by
  obtain ⟨x, r', refs', c', e, h', m, hprog, _⟩ := parseLinkReferenceDefinition_ok (NB := False) (L := 0) W
    (fun hN => absurd hN id) (bp_of_rs (segFacts W) Z h) (fun hN => absurd hN id) refs
  exact ⟨x, r', refs', c', e, rs_of_bp Z h', m, hprog⟩

/-- **the scan of Transform is total** on `WF0` lines (and on no lines): no Go panic, no fuel exhaustion, no monitor -/
theorem transformScan_total {src : Bytes} {lines : List Segment} (h : lines = [] ∨ WF0 src lines) (refs : RefMap) :
    ∃ res, transformScan src lines refs = .ok res :=
  transformScan_total_wf (h.imp id (·.1)) refs

/-- the scan of Transform never exhausts fuel on `WF0` lines (and on no lines) -/
theorem transformScan_noLoop {src : Bytes} {lines : List Segment} (h : lines = [] ∨ WF0 src lines) (refs : RefMap) :
    transformScan src lines refs ≠ .error .loop := by
  obtain ⟨res, e⟩ := transformScan_total h refs
  rw [e]; intro h'; cases h'

end GM.Proof.LinkRefTotal

namespace GM.Proof.LinkRefPad
open GM GM.Text GM.Spec GM.LinkRef GM.Proof.LinkRefTotal

/-- **the scan of Transform never exhausts fuel on well-formed lines** (`WFSegs`: non-empty, inside the source,
    increasing, paddings ≥ 0 — no restriction on the paddings), nor on a paragraph without lines -/
theorem transformScan_noLoop_pad {src : Bytes} {lines : List Segment} (h : lines = [] ∨ WFSegs src lines) (refs : RefMap) :
    transformScan src lines refs ≠ .error .loop := by
  obtain ⟨res, e⟩ := transformScan_total_wf h refs
  rw [e]; intro h'; cases h'

end GM.Proof.LinkRefPad
end ScanTotal
