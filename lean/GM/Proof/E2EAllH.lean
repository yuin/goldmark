/-
  GM.Proof.E2EAllH — everything BEHIND the block phase of `GM.ConvertH.convertH true` (goldmark with `WithAutoHeadingID()`) is total:
  when the block phase with the option returns a state, the tree phases answer a tree (`docTreeH_total`), that tree satisfies
  `Spec.Inv` (`docTreeH_inv`: the only attributes are `id = v` on nodes whose Close generated one — a legal, clash-free attribute
  list), so no node renderer panics and `convertH true` answers HTML (`convertH_total_of_blockPhaseH`). The block-phase facts come
  from `convertCore`'s block phase, whose final `St` the option does not change (`converth_block_phase_projects`).
-/
import GM.Props.C15E2E
import GM.Props.ConvertE2ENP

namespace GM.E2E.H
open GM GM.Text GM.Convert GM.Spec GM.ConvertH GM.E2E

mutual
def treeAllH (P : GM.Blocks.Node → Prop) : TreeH → Prop
  | .node _ n cs => P n ∧ treesAllH P cs
def treesAllH (P : GM.Blocks.Node → Prop) : List TreeH → Prop
  | [] => True
  | t :: rest => treeAllH P t ∧ treesAllH P rest
end

mutual
theorem treeAllH_erase {P : GM.Blocks.Node → Prop} : ∀ t : TreeH, treeAllH P t ↔ treeAll P t.erase
  | .node _ n cs => by simp only [treeAllH, TreeH.erase, treeAll, treesAllH_erase cs]
theorem treesAllH_erase {P : GM.Blocks.Node → Prop} : ∀ ts : List TreeH, treesAllH P ts ↔ treesAll P (eraseL ts)
  | [] => by simp only [treesAllH, eraseL, treesAll]
  | t :: rest => by simp only [treesAllH, eraseL, treesAll, treeAllH_erase t, treesAllH_erase rest]
end

theorem treeOfH_all_reach {P : GM.Blocks.Node → Prop} (nodes : List GM.Blocks.Node)
    (hk : ∀ p c, c ∈ (nodes.getD p default).children → P (nodes.getD c default)) (fuel id : Nat)
    (h : P (nodes.getD id default)) : treeAllH P (treeOfH nodes fuel id) :=
  (treeAllH_erase _).mpr (treeOfH_erase nodes fuel id ▸ treeOf_all_reach nodes hk fuel id h)

theorem treeOfH_all {P : GM.Blocks.Node → Prop} (nodes : List GM.Blocks.Node) (h : ∀ i, P (nodes.getD i default))
    (fuel id : Nat) : treeAllH P (treeOfH nodes fuel id) :=
  (treeAllH_erase _).mpr (treeOfH_erase nodes fuel id ▸ treeOf_all nodes h fuel id)

mutual
theorem docTreeH_total (hs : HS) (env : GM.Inl.Env) (src : Bytes) : ∀ (t : TreeH), treeAllH (NodeTot src) t →
    ∃ x, docTreeH hs true env src t = .ok x
  | .node id n cs, ha => by
    simp only [treeAllH] at ha
    obtain ⟨bs, hbs⟩ := docTreesH_total hs env src cs ha.2
    obtain ⟨kids, hk⟩ := inlinePhase_total (env := env) ha.1
    obtain ⟨is, his⟩ := inlinePhase_values_total hk
    obtain ⟨k, hkk⟩ := blockKind_total ha.1.raw
    refine ⟨.mk k (treeAttrs hs id) (bs ++ is), ?_⟩
    unfold docTreeH
    simp only [bind, Except.bind, hbs, hk, his, hkk, liftErr, pure, Except.pure]
theorem docTreesH_total (hs : HS) (env : GM.Inl.Env) (src : Bytes) : ∀ (ts : List TreeH), treesAllH (NodeTot src) ts →
    ∃ xs, docTreesH hs true env src ts = .ok xs
  | [], _ => ⟨[], by unfold docTreesH; rfl⟩
  | t :: rest, ha => by
    simp only [treesAllH] at ha
    obtain ⟨x, hx⟩ := docTreeH_total hs env src t ha.1
    obtain ⟨xs, hxs⟩ := docTreesH_total hs env src rest ha.2
    refine ⟨x :: xs, ?_⟩
    unfold docTreesH
    simp only [bind, Except.bind, hx, hxs, pure, Except.pure]
end

/-- the attribute lists the option attaches: none, or exactly `id = v` -/
def AttrOK (a : Option (List GM.Attr)) : Prop := a = none ∨ ∃ v, a = idAttr v

theorem attrOK_inv {a : Option (List GM.Attr)} (h : AttrOK a) : attrsInv a = true := by
  rcases h with rfl | ⟨v, rfl⟩
  · rfl
  · have : attrNameOK Attr.nameId = true := by decide
    have h2 : (List.eraseDups [Attr.nameId]).length = 1 := by decide +kernel
    simp only [attrsInv, idAttr, List.all_cons, List.all_nil, this, List.map, h2]
    rfl

theorem attrOK_noClash {a : Option (List GM.Attr)} (h : AttrOK a) (k : GM.Kind) (hk : blockKindOK k = true) :
    noClash k a = true := by
  rcases h with rfl | ⟨v, rfl⟩
  · rfl
  · have hne : ¬ ([105, 100] : Bytes) = strBytes "start" := by decide +kernel
    cases k <;> simp [blockKindOK] at hk <;> simp [noClash, idAttr, fixedAttrNames, Attr.nameId]
    exact .inr hne

theorem nodeInv_blockA (rc : RCfg) (k : GM.Kind) (a : Option (List GM.Attr)) (cs : List GM.Node) (hk : blockKindOK k = true)
    (ha : AttrOK a) (hc : nodesInv rc .any cs = true) : nodeInv rc .any (.mk k a cs) = true := by
  rw [GM.Proof.RenderWF.nodeInv_mk, attrOK_inv ha, attrOK_noClash ha k hk]
  cases k <;> simp [blockKindOK] at hk <;> simp [GM.Proof.RenderWF.kindInv, GM.Proof.RenderWF.childCtx, hc]
  exact hk

mutual
theorem docTreeH_inv (rc : RCfg) (hs : HS) (hA : ∀ id, AttrOK (treeAttrs hs id)) (guard : Bool) (env : GM.Inl.Env) (src : Bytes) :
    ∀ (t : TreeH), treeAllH HeadP t → ∀ x, docTreeH hs guard env src t = .ok x → nodeInv rc .any x = true
  | .node id n cs, ha, x, h => by
    simp only [treeAllH] at ha
    unfold docTreeH at h
    obtain ⟨bs, hbs, h⟩ := Proof.Reader.bind_ok h
    obtain ⟨kids, hkids, h⟩ := Proof.Reader.bind_ok h
    obtain ⟨is, his, h⟩ := Proof.Reader.bind_ok h
    obtain ⟨k, hk, h⟩ := Proof.Reader.bind_ok h
    cases h
    have h1 := docTreesH_inv rc hs hA guard env src cs ha.2 bs hbs
    have h2 := inlineTrees_inv rc src kids (inlinePhase_wf hkids) is (liftErr_ok his)
    exact nodeInv_blockA rc k _ _ (blockKind_ok ha.1 (liftErr_ok hk)) (hA id) (by rw [nodesInv_append, h1, h2]; rfl)
theorem docTreesH_inv (rc : RCfg) (hs : HS) (hA : ∀ id, AttrOK (treeAttrs hs id)) (guard : Bool) (env : GM.Inl.Env) (src : Bytes) :
    ∀ (ts : List TreeH), treesAllH HeadP ts → ∀ xs, docTreesH hs guard env src ts = .ok xs → nodesInv rc .any xs = true
  | [], _, xs, h => by unfold docTreesH at h; cases h; rfl
  | t :: rest, ha, xs, h => by
    simp only [treesAllH] at ha
    unfold docTreesH at h
    obtain ⟨x, hx, h⟩ := Proof.Reader.bind_ok h
    obtain ⟨ys, hys, h⟩ := Proof.Reader.bind_ok h
    cases h
    rw [GM.Proof.RenderWF.nodesInv_cons, docTreeH_inv rc hs hA guard env src t ha.1 x hx,
      docTreesH_inv rc hs hA guard env src rest ha.2 ys hys]
    rfl
end

/-- the tree nodes of the store `convertCore`'s block phase returns are good for the tree phases (GM.Props.ConvertNP: lines in range,
    non-raw lines `WFSegs`, child nodes' non-raw lines of padding 0, the Document without lines; GM.Proof.E2EXSegs: info / closure segments) -/
theorem blockPhase_nodeTot (src : Bytes) (st : GM.Blocks.St) (hst : blockPhase true src = .ok st) :
    NodeTot src (st.nodes.getD 0 default) ∧
      ∀ p c, c ∈ (st.nodes.getD p default).children → NodeTot src (st.nodes.getD c default) := by
  obtain ⟨s', hs', hN, _⟩ := GM.Props.ConvertNP.block_phase_total src
  rw [hst] at hs'; cases hs'
  have hW := (GM.Props.ConvertNP.block_phase_lines_wellformed src st hst).1
  obtain ⟨hP, h0⟩ := GM.Props.ConvertNP.block_phase_lines_padding_zero src st hst
  have hx := runT_xsegs src (paragraphTransformers_keep true) st hst
  have raw : ∀ i, RawSegsP src (st.nodes.getD i default) := by
    intro i
    by_cases hlt : i < st.nodes.length
    · have e : st.nodes.getD i default = st.nodes[i] := by simp [List.getD, hlt]
      have hm : st.nodes[i] ∈ st.nodes := List.getElem_mem hlt
      rw [e]
      exact ⟨fun _ t ht => (hN _ hm).lines t ht, (hx _ hm).info, (hx _ hm).closure⟩
    · have e : st.nodes.getD i default = default := by
        simp [List.getD, List.getElem?_eq_none (Nat.le_of_not_lt hlt)]
      rw [e]; exact rawSegsP_default src
  have wfs : ∀ i, isRawKind (st.nodes.getD i default).kind = false → (st.nodes.getD i default).lines ≠ [] →
      WFSegs src (st.nodes.getD i default).lines := by
    intro i hr hne
    by_cases hlt : i < st.nodes.length
    · have e : st.nodes.getD i default = st.nodes[i] := by simp [List.getD, hlt]
      have hm : st.nodes[i] ∈ st.nodes := List.getElem_mem hlt
      rw [e] at hr hne ⊢
      exact (hW _ hm (by rw [isRaw_eq_isRawKind]; exact hr)).2.2 hne
    · have e : st.nodes.getD i default = default := by
        simp [List.getD, List.getElem?_eq_none (Nat.le_of_not_lt hlt)]
      rw [e] at hne; exact absurd rfl hne
  exact ⟨⟨raw 0, fun _ hne => absurd h0 hne⟩,
    fun p c hc => ⟨raw c, fun hr hne => ⟨wfs c hr hne, hP p c hc (by rw [isRaw_eq_isRawKind]; exact hr)⟩⟩⟩

theorem treeAttrs_ok (src : Bytes) (hs : HS) (st : GM.Blocks.St) (h : blockPhaseH true true src = .ok (hs, st)) (id : Nat) :
    AttrOK (treeAttrs hs id) := by
  unfold treeAttrs
  cases ha : nodeAttrs hs id with
  | none => exact .inl rfl
  | some as =>
    obtain ⟨g, _, _, he⟩ := GM.Props.C15E2E.attributes_are_generated_ids true src hs st h id as ha
    subst he
    exact .inr ⟨g.id, rfl⟩

theorem convertH_total_of_blockPhaseH (uc : List (Nat × (Bool × Bool))) (o : ROpts) (src : Bytes) (hs : HS) (st : GM.Blocks.St)
    (h : blockPhaseH true true src = .ok (hs, st)) : ∃ html, convertH true uc o src = .ok html := by
  have hproj := GM.Props.C15E2E.converth_block_phase_projects true src
  rw [h] at hproj
  have hst : blockPhase true src = .ok st := hproj
  obtain ⟨h0, hk⟩ := blockPhase_nodeTot src st hst
  obtain ⟨t, ht⟩ := docTreeH_total hs { refs := st.pc.refs, uc := uc } src (finalTree st)
    (treeOfH_all_reach st.nodes hk st.nodes.length 0 h0)
  have hpd : parseDocH true true uc src = .ok t := by
    unfold parseDocH
    simp only [bind, Except.bind, h, liftErr]
    exact ht
  have hhead := blockPhase_headOK true src st hst
  have hinv : Spec.Inv (mkRCfg (ROpts.opts o) {}) t = true := by
    simp only [Spec.Inv, Bool.and_eq_true]
    exact ⟨docTreeH_inv _ hs (treeAttrs_ok src hs st h) true _ src (finalTree st)
      (treeOfH_all st.nodes (headOK_getD hhead) _ _) t ht, footCfgInv_mkRCfg _ _⟩
  have hr : renderPanics o.rcfg t = none := GM.Proof.RenderWF.inv_noPanic o.rcfg t hinv
  refine ⟨render o.rcfg t, ?_⟩
  unfold convertH convertHWith
  simp only [bind, Except.bind, hpd, renderDoc, hr]

/-- **`convertH true` answers HTML, or the block phase with the option ended in the one panic that is not excluded here** — a
    `Segment.Value` panic inside `generateAutoHeadingID` (atx_heading.go:203; excluded by GM.Props.C15Total.converth_total):
    never fuel exhaustion, never a panic of `convertCore`'s block phase (which is total), never an error of a later phase -/
theorem convertH_total_or_value_panic (uc : List (Nat × (Bool × Bool))) (o : ROpts) (src : Bytes) :
    (∃ html, convertH true uc o src = .ok html) ∨
      ∃ p, p ≠ Panic.loop ∧ blockPhaseH true true src = .error p ∧ convertH true uc o src = .error (.blocks p) := by
  cases h : blockPhaseH true true src with
  | ok x =>
    obtain ⟨hs, st⟩ := x
    exact .inl (convertH_total_of_blockPhaseH uc o src hs st h)
  | error p =>
    right
    have hproj := GM.Props.C15E2E.converth_block_phase_projects true src
    rw [h] at hproj
    refine ⟨p, ?_, rfl, ?_⟩
    · rcases hproj with h1 | h1
      · obtain ⟨s, hs, _⟩ := GM.Props.ConvertNP.block_phase_total src
        rw [hs] at h1; cases h1
      · exact h1
    · unfold convertH convertHWith parseDocH
      simp only [bind, Except.bind, h, liftErr]

end GM.E2E.H
