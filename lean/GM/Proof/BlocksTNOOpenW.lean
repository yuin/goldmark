/-
  GM.Proof.BlocksTNOOpenW — `openBlocksT` from a clean state, two transformer lists side by side: the candidate loop
  `tryParsersT` WITH the RequireParagraph path (`requireParaT`: `paragraph.Close`, pop, transformParagraph; KEEP — the setext
  block is pushed with the key naming the popped paragraph, which has lines and is no open block's node; GONE —
  `.retryTransformed`, the Heading node is abandoned, the state is clean again), the `continuable:` exit, the `goto retry`
  loop and `openBlocksT`, for two transformer lists that agree on paragraphs whose lines pass the run-time check
  (`AgreeP` over `PTPostW`: no hypothesis on the parent).
-/
import GM.Proof.BlocksTNOCleanW
import GM.Proof.BlocksTNPXRun

namespace GM.Blocks.TX
open GM GM.Text GM.Spec GM.Proof.Reader GM.LinkRef GM.Blocks.TO GM.TableX
open GM.Proof.BlocksWF0 (isRaw)

variable {tb : Prop}

/-- `Agree` without the hypothesis that the paragraph has a parent -/
def AgreeP (tb : Prop) (src : Bytes) (pts1 pts2 : List PT) : Prop :=
  ∀ (node : Nat) (s : St), s.r.source = src → node < s.nodes.length → (nd s node).kind = .paragraph →
    NodesOK src s → linesOKB src (nd s node).lines = true →
    EQV (fun g s' => PTPostW tb src node s s' ∧ (g = false → (nd s' node).parent.isSome = true))
      (transformParagraph pts1 node) (transformParagraph pts2 node) s

theorem AgreeP.agree {src : Bytes} {pts1 pts2 : List PT} (h : AgreeP tb src pts1 pts2) : Agree tb src pts1 pts2 :=
  fun node s a b c _ d f => (h node s a b c d f).mono (fun _ _ hh => hh.1)

/-! ### "no setext block below a paragraph block" -/

def QQ (s : St) : Prop := s.pc.opened.Pairwise (fun a b => b.bp = .paragraph → a.bp ≠ .setext)

theorem QQ.congr {s s' : St} (h : QQ s) (ho : s'.pc.opened.Sublist s.pc.opened) : QQ s' := TO.QQ.congr h ho

theorem QQ.of_leafy {s : St} (h : Leafy s.pc.opened) : QQ s := TO.QQ.of_leafy h

theorem QQ.sf {s : St} (hq : QQ s) (hk : ∀ b ∈ s.pc.opened, (nd s b.node).kind = b.bp.kind) {lb : Block}
    (hl : s.pc.opened.getLast? = some lb) (hp : (nd s lb.node).kind = .paragraph) : ∀ b ∈ s.pc.opened, b.bp ≠ .setext :=
  TO.QQ.sf hq hk hl hp

theorem isContainer_ne_paragraph {bp : BP} (h : bp.isContainer = true) : bp ≠ .paragraph :=
  TO.isContainer_ne_paragraph h

theorem InvW.push {F : Prop} {src : Bytes} {B : Int} {s : St} (hi : InvWF tb F src B s) (node : Nat) (bp : BP)
    (hk : (nd s node).kind = bp.kind) (hlt : node < s.nodes.length)
    (hgt : ∀ b ∈ s.pc.opened, b.node < node) (hnt : ∀ t, s.pc.tmpPara = some t → t ≠ node) (hsx : bp = .setext → F)
    (hpo : bp = .paragraph → ∀ t, (nd s node).lines.getLast? = some t → LEnd src t) :
    InvW0 tb src B { s with pc := { s.pc with opened := s.pc.opened ++ [{ node := node, bp := bp }] } } := by
  refine ⟨hi.nrb, ?_, hi.pnb, hi.tmpk, fun b hb => ?_, hi.nodes, fun t ht hm => ?_, hi.raw, hi.pnl, fun b hb hd hbp => ?_⟩
  rotate_left 3
  · rcases List.mem_append.1 hb with h | h
    · exact hi.pol b h hd hbp
    · simp only [List.mem_singleton] at h; rw [h] at hbp ⊢; exact hpo hbp
  · exact List.pairwise_append.2 ⟨hi.ord, List.pairwise_singleton _ _, fun a ha b hb => by
      simp only [List.mem_singleton] at hb; rw [hb]; exact hgt a ha⟩
  · rcases List.mem_append.1 hb with h | h
    · exact hi.kinds b h
    · simp only [List.mem_singleton] at h; rw [h]; exact ⟨hk, hlt⟩
  · obtain ⟨b, hb, hs⟩ := hm.resolve_left id
    have hm' : F ∨ ∃ b ∈ s.pc.opened, b.bp = .setext := by
      rcases List.mem_append.1 hb with h | h
      · exact .inr ⟨b, h, hs⟩
      · simp only [List.mem_singleton] at h; rw [h] at hs; exact .inl (hsx hs)
    obtain ⟨a1, a2⟩ := hi.tl t ht hm'
    refine ⟨a1, fun b' hb' => ?_⟩
    rcases List.mem_append.1 hb' with h | h
    · exact a2 b' h
    · simp only [List.mem_singleton] at h; rw [h]; exact fun e0 => hnt t ht e0.symm

section inv
variable {src : Bytes}

/-- the end of one successful attempt of the candidate loop (parser.go:1002-1013): `AppendChild`, push, answer -/
theorem tryTailBG_ord {F : Prop} (parent node : Nat) (bp : BP) (hc : Bool) (lb' : Option Block) (s3 s' : St)
    (x : TryOutcomeT × OpenResult × Option Block)
    (hk : (nd s3 node).kind = bp.kind) (hlt : node < s3.nodes.length)
    (hgt : ∀ b ∈ s3.pc.opened, b.node < node) (hnt : ∀ t, s3.pc.tmpPara = some t → t ≠ node)
    (hpo : bp = .paragraph → ∀ t, (nd s3 node).lines.getLast? = some t → LEnd src t)
    (e : tryPushT parent node bp hc lb' s3 = .ok (x, s')) :
    (∀ B, InvWF tb F src B s3 → (bp = .setext → F) → InvW0 tb src B s') ∧ s'.r = s3.r ∧
      x = (if hc = true then TryOutcomeT.retry node else TryOutcomeT.done, OpenResult.newBlocksOpened, lb') ∧
      s'.pc.opened = s3.pc.opened ++ [{ node := node, bp := bp }] ∧ s'.pc.tmpPara = s3.pc.tmpPara := by
  unfold tryPushT at e
  obtain ⟨_, s4, h4, k4⟩ := bind_ok e
  have hlk := appendChild_lk h4
  obtain ⟨_, s5, h5, k5⟩ := bind_ok k4
  have e5 := modPc_ok h5
  subst s5
  obtain ⟨hk4, hlt4⟩ := nk_kg hlk.kg hk hlt
  have hx : x = (if hc = true then TryOutcomeT.retry node else TryOutcomeT.done, OpenResult.newBlocksOpened, lb') ∧
      s' = { s4 with pc := { s4.pc with opened := s4.pc.opened ++ [{ node := node, bp := bp }] } } := by
    split at k5
    · next h => obtain ⟨a, b⟩ := pure_ok k5; rw [if_pos h]; exact ⟨a, b⟩
    · next h => obtain ⟨a, b⟩ := pure_ok k5; rw [if_neg h]; exact ⟨a, b⟩
  obtain ⟨hx1, hx2⟩ := hx
  subst s'
  exact ⟨fun B hB hF => (hB.lk hlk).push node bp hk4 hlt4 (by rw [hlk.pc]; exact hgt) (by rw [hlk.pc]; exact hnt) hF
      (fun hb t ht => hpo hb t (by rw [← (hlk.same node).1]; exact ht)),
    hlk.r, hx1, by simp only; rw [hlk.pc], by simp only; rw [hlk.pc]⟩

/-- **the `continuable:` exit** (parser.go:1016-1023) from a clean state -/
theorem toContinuableG_ord (L : Int) (cont : Bool) (result : OpenResult) (lbo : Option Block) (s : St) (c : RCur)
    (r' : OpenResult) (s' : St) (hc : CleanW tb src L s c)
    (hres : result = .noBlocksOpened → cont = true → lbo = s.pc.opened.getLast? ∧ ContOK cont s)
    (h : toContinuable cont result lbo s = .ok (r', s')) : DirtyW tb src s' := by
  unfold toContinuable at h
  split at h
  · next hcond =>
    simp only [Bool.and_eq_true, beq_iff_eq] at hcond
    obtain ⟨hlbo, hck⟩ := hres hcond.1 hcond.2
    obtain ⟨lb, hlast, hkind⟩ := hck hcond.2
    rw [hlbo, hlast] at h
    dsimp only at h
    obtain ⟨st, s1, h1, k1⟩ := bind_ok h
    have hs' : s' = s1 := by
      split at k1
      · obtain ⟨_, hs⟩ := pure_ok k1; exact hs
      · obtain ⟨_, hs⟩ := pure_ok k1; exact hs
    subst s'
    have hmem := List.mem_of_getLast? hlast
    obtain ⟨hkb, hltb⟩ := hc.inv.kinds lb hmem
    have hbp : lb.bp = .paragraph := kind_paragraph (by rw [← hkb]; exact hkind)
    rw [hbp] at h1
    have h1' : paragraphContinue lb.node s = .ok (st, s1) := h1
    obtain ⟨r1, c1, hr1, hri1, hle1, hpc1, hcase⟩ := (paragraphContinue_line hc.ri lb.node).of_ok h1'
    have hstop : Stop src (lineEnd src c.p : Int) s1 := by
      have := (paragraphContinue_pres (stop_prims src (lineEnd src c.p : Int)) lb.node).h s hc.ri.stop
      rw [h1'] at this; exact this
    refine ⟨(lineEnd src c.p : Int), ?_, hstop⟩
    rcases hcase with ⟨_, hn, _⟩ | ⟨_, hp, hok, hnbs, hlt', hn⟩
    · exact ⟨fun i => by simp only [nd, hn]; exact hc.invE.nrb i, by rw [hpc1]; exact hc.invE.ord,
        fun i => by simp only [nd, hn]; exact hc.invE.pnb i,
        fun t ht => by rw [hpc1] at ht; simp only [nd, hn]; exact hc.invE.tmpk t ht, fun b hb => by
          rw [hpc1] at hb; simp only [nd, hn]; exact hc.invE.kinds b hb, fun m hm => hc.invE.nodes m (by rw [← hn]; exact hm),
        fun t ht hm => by rw [hpc1] at ht hm ⊢; simp only [nd, hn]; exact hc.invE.tl t ht hm,
        fun i => by simp only [nd, hn]; exact hc.invE.raw i,
        fun i => by simp only [nd, hn]; exact hc.invE.pnl i,
        fun b hb hd hbp => by rw [hpc1] at hb; simp only [nd, hn]; exact hc.invE.pol b hb hd hbp⟩
    · -- the continuation line goes to a block whose lines all end at or before the line start
      have hge := lineEnd_ge src hc.ri.inRange
      have hfresh := hc.inv.nrb lb.node (by rw [hkind]; rfl) (fun _ => by rw [hkind]; decide)
      have hfb : Below L (nd s lb.node).lines := hfresh.2.1 (by rw [hkind]; decide)
      have hs1 : s1 = ⟨r1, s.nodes.set lb.node
          { (nd s lb.node) with lines := (nd s lb.node).lines ++ [RCur.seg src c], linesNil := false }, s.pc⟩ := by
        cases s1; simp only at hr1 hpc1 hn; subst hr1 hpc1 hn; rfl
      have hnd : ∀ i, nd s1 i = if i = lb.node then
          { (nd s lb.node) with lines := (nd s lb.node).lines ++ [RCur.seg src c], linesNil := false } else nd s i := by
        intro i
        have : nd s1 i = nd (upd s lb.node fun n => { n with lines := n.lines ++ [RCur.seg src c], linesNil := false }) i := by
          rw [hs1]; rfl
        rw [this, nd_upd]
        by_cases hi : i = lb.node
        · subst hi; simp [hltb]
        · have : ¬ (lb.node = i ∧ lb.node < s.nodes.length) := fun hh => hi hh.1.symm
          rw [if_neg this, if_neg hi]
      have hord : OrdFrom 0 ((nd s lb.node).lines ++ [RCur.seg src c]) ∧
          Below (lineEnd src c.p : Int) ((nd s lb.node).lines ++ [RCur.seg src c]) ∧
          ∀ t ∈ (nd s lb.node).lines ++ [RCur.seg src c], t.start < t.stop ∧ t.forceNewline = false :=
        ⟨OrdFrom.append_fresh (L := L) (by show L ≤ (c.p : Int); exact hc.le) hfresh.1 hfb
            (by show (0 : Int) ≤ (c.p : Int); omega),
          hfb.append (by have := hc.le; omega) (Int.le_refl _),
          fun t ht => by
            rcases List.mem_append.1 ht with h' | h'
            · exact hfresh.2.2 t h'
            · simp only [List.mem_singleton] at h'; rw [h']; exact ⟨hlt', rfl⟩⟩
      refine ⟨fun i hr => ?_, by rw [hpc1]; exact hc.invE.ord, fun i hk => ?_, fun t ht => ?_, fun b hb => ?_, fun m hm => ?_, fun t ht hm => ?_, fun i hr => ?_,
        fun i hk => ?_, fun b hb hd hbp' => ?_⟩
      · rw [hnd] at hr ⊢
        split
        · exact fun _ => ⟨hord.1, fun _ => hord.2.1, hord.2.2⟩
        · next hne => rw [if_neg hne] at hr; exact hc.invE.nrb i hr
      · rw [hnd] at hk ⊢
        split
        · intro t ht
          rcases List.mem_append.1 ht with h' | h'
          · exact hc.inv.pnb lb.node hkind t h'
          · simp only [List.mem_singleton] at h'; rw [h']; exact hnbs
        · next hne => rw [if_neg hne] at hk; exact hc.invE.pnb i hk
      · rw [hpc1] at ht
        rw [hnd]; split
        · exact hkind
        · exact hc.inv.tmpk t ht
      · rw [hpc1] at hb
        obtain ⟨k1', k2'⟩ := hc.inv.kinds b hb
        refine ⟨?_, by rw [hs1]; simpa using k2'⟩
        rw [hnd]; split
        · next he => simp only; rw [← he]; exact k1'
        · exact k1'
      · obtain ⟨i, hil, rfl⟩ := mem_nodes_nd hm
        rw [hnd]
        split
        · refine ⟨fun u hu => ?_, fun hn0 => by cases hn0⟩
          rcases List.mem_append.1 hu with h' | h'
          · exact (nodeOK_nd hc.inv.nodes lb.node).lines u h'
          · simp only [List.mem_singleton] at h'; rw [h']; exact hok
        · exact nodeOK_nd hc.inv.nodes i
      · rw [hpc1] at ht hm ⊢
        obtain ⟨a1, a2⟩ := hc.invE.tl t ht hm
        refine ⟨?_, a2⟩
        rw [hnd]; split
        · simp
        · exact a1
      · by_cases he : i = lb.node
        · rw [hnd, if_pos he] at hr
          simp only at hr
          rw [hkind] at hr; cases hr
        · rw [hnd, if_neg he] at hr ⊢; exact hc.invE.raw i hr
      · rw [hnd] at hk ⊢
        split
        · simp only [List.dropLast_concat]
          intro t ht
          -- an old line: inner (pnl), or the old last line, which ends at a line end before the current line
          rcases List.eq_nil_or_concat (nd s lb.node).lines with h0 | ⟨init, last, h0⟩
          · rw [h0] at ht; cases ht
          · rw [h0, List.concat_eq_append] at ht
            rcases List.mem_append.1 ht with h' | h'
            · exact hc.inv.pnl lb.node hkind t (by rw [h0, List.concat_eq_append, List.dropLast_concat]; exact h')
            · simp only [List.mem_singleton] at h'
              subst h'
              have hl : (nd s lb.node).lines.getLast? = some t := by rw [h0, List.concat_eq_append]; simp
              rcases hc.inv.pol lb hmem (by simp) hbp t hl with h1 | h1
              · exfalso
                have := hfb t (by rw [h0, List.concat_eq_append]; simp)
                have := hc.le
                omega
              · exact h1
        · next hne => rw [if_neg hne] at hk; exact hc.invE.pnl i hk
      · rw [hpc1] at hb
        rw [hnd]
        split
        · simp only [List.getLast?_append, List.getLast?_singleton, Option.some_or]
          intro t ht
          cases ht
          exact lend_of_lineEnd hc.ri.inRange rfl
        · exact hc.invE.pol b hb hd hbp'
  · have h' : (pure result : M OpenResult) s = .ok (r', s') := h
    obtain ⟨_, hs⟩ := pure_ok h'
    subst s'
    exact hc.dirty

end inv

theorem ptpostX_keep {src : Bytes} {node : Nat} {s s' : St} (hn : NodesOK src s) (hlt : node < s.nodes.length)
    (h : PTPostW tb src node s s') (hp : (nd s' node).parent.isSome = true) : (nd s' node).lines ≠ [] := by
  rcases h with h | ⟨_, s1, t, h1, htb, hT⟩
  · exact ptpost_keep hn hlt h hp
  · intro h0
    have hl := data_lines hT.self
    rw [hl] at h0
    have h1' := hT.selfpar
    have h0' : (List.map ofSeg (GM.Table.transform src (List.map toSeg (nd s1 node).lines)).para) = [] := h0
    rw [h0'] at h1'
    have := h1'
    simp only [List.isEmpty_nil, if_true] at this
    rw [this] at hp; cases hp

section tp
variable {src : Bytes} {pts1 pts2 : List PT} (hag : AgreeP tb src pts1 pts2)
include hag

/-- behind the RequireParagraph part of one successful attempt (parser.go:998-1013): `SetBlankPreviousLines`, the
    `last.Parent() == nil` pop, `AppendChild`, push, answer -/
theorem tailG {F : Prop} (parent node : Nat) (bp : BP) (blank hch : Bool) (lb' : Option Block) (s3 : St)
    (hsrc : s3.r.source = src) (hk : (nd s3 node).kind = bp.kind) (hlt : node < s3.nodes.length)
    (hgt : ∀ b ∈ s3.pc.opened, b.node < node) (hnt : ∀ t, s3.pc.tmpPara = some t → t ≠ node)
    (hpo : bp = .paragraph → ∀ t, (nd s3 node).lines.getLast? = some t → LEnd src t)
    (hex : ∃ B, InvWF tb F src B s3) :
    EQV (fun x s' => (∀ B, InvWF tb F src B s3 → (bp = .setext → F) → InvW0 tb src B s') ∧ s'.r = s3.r ∧
        x = (if hch = true then TryOutcomeT.retry node else TryOutcomeT.done, OpenResult.newBlocksOpened, lb') ∧
        (∃ sub : List Block, sub.Sublist s3.pc.opened ∧ s'.pc.opened = sub ++ [{ node := node, bp := bp }]) ∧
        (∀ t, s'.pc.tmpPara = some t → s3.pc.tmpPara = some t))
      (tryTailT pts1 parent node bp blank hch lb') (tryTailT pts2 parent node bp blank hch lb') s3 := by
  unfold tryTailT
  refine EQV.bind_same (fun _ s4 h4 => ?_)
  have hlk := modNode_lk h4 (fun _ => ⟨rfl, rfl, rfl⟩)
  obtain ⟨hk4, hlt4⟩ := nk_kg hlk.kg hk hlt
  have hsrc4 : s4.r.source = src := by rw [hlk.r]; exact hsrc
  have tail : ∀ s5 : St, (nd s5 node).kind = bp.kind → node < s5.nodes.length →
      (∀ b ∈ s5.pc.opened, b.node < node) → (∀ t, s5.pc.tmpPara = some t → t ≠ node) →
      (bp = .paragraph → ∀ t, (nd s5 node).lines.getLast? = some t → LEnd src t) →
      EQV (fun x s' => (∀ B, InvWF tb F src B s5 → (bp = .setext → F) → InvW0 tb src B s') ∧ s'.r = s5.r ∧
          x = (if hch = true then TryOutcomeT.retry node else TryOutcomeT.done, OpenResult.newBlocksOpened, lb') ∧
          s'.pc.opened = s5.pc.opened ++ [{ node := node, bp := bp }] ∧ s'.pc.tmpPara = s5.pc.tmpPara)
        (tryPushT parent node bp hch lb') (tryPushT parent node bp hch lb') s5 :=
    fun s5 hk5 hlt5 hgt5 hnt5 hpo5 => EQV.refl (fun x s' e =>
      tryTailBG_ord (src := src) (F := F) parent node bp hch lb' s5 s' x hk5 hlt5 hgt5 hnt5 hpo5 e)
  have direct : EQV (fun x s' => (∀ B, InvWF tb F src B s3 → (bp = .setext → F) → InvW0 tb src B s') ∧ s'.r = s3.r ∧
        x = (if hch = true then TryOutcomeT.retry node else TryOutcomeT.done, OpenResult.newBlocksOpened, lb') ∧
        (∃ sub : List Block, sub.Sublist s3.pc.opened ∧ s'.pc.opened = sub ++ [{ node := node, bp := bp }]) ∧
        (∀ t, s'.pc.tmpPara = some t → s3.pc.tmpPara = some t)) _ _ s4 :=
    (tail s4 hk4 hlt4 (by rw [hlk.pc]; exact hgt) (by rw [hlk.pc]; exact hnt)
      (fun hb t ht => hpo hb t (by rw [← (hlk.same node).1]; exact ht))).mono (fun x s' ⟨r1, r2, r3, r4, r5⟩ =>
      ⟨fun B hB hF => r1 B (hB.lk hlk) hF, by rw [r2, hlk.r], r3, ⟨s3.pc.opened, List.Sublist.refl _, by rw [r4, hlk.pc]⟩,
        fun t ht => by rw [r5, hlk.pc] at ht; exact ht⟩)
  cases lb' with
  | none =>
    dsimp only [Option.map]
    exact direct
  | some lb0 =>
    dsimp only [Option.map]
    refine EQV.bind_same (fun ln s6 h6 => ?_)
    obtain ⟨_, hs6⟩ := getNode_ok h6
    subst s6
    refine EQV.ite (fun _ => ?_) (fun _ => direct)
    refine EQV.bind_same (fun pc s7 h7 => ?_)
    obtain ⟨_, hs7⟩ := getPc_ok h7
    subst s7
    obtain ⟨B0, hB0⟩ := hex
    refine EQV.bind (closeBlocksT_eqg_all hag.agree _ _ (by omega) ⟨B0, hB0.lk hlk⟩ hsrc4)
      (fun rr s8 _ ⟨b1, b2, b3, b4, b5, b6⟩ => ?_)
    obtain ⟨hk8, hlt8⟩ := nk_kg b4 hk4 hlt4
    refine (tail s8 hk8 hlt8 (fun b hb => hgt b (by rw [← hlk.pc]; exact b3.subset hb))
      (fun t ht => hnt t (by rw [← hlk.pc]; exact b5 t ht))
      (fun hb t ht => hpo hb t (by
        rw [← (hlk.same node).1, ← b6 node hlt4 (fun b hb' => Nat.ne_of_lt (hgt b (by rw [← hlk.pc]; exact hb')))]
        exact ht))).mono (fun x s' ⟨r1, r2, r3, r4, r5⟩ => ?_)
    exact ⟨fun B hB hF => r1 B (b1 B (hB.lk hlk)) hF, by rw [r2, b2, hlk.r], r3,
      ⟨s8.pc.opened, by rw [← hlk.pc]; exact b3, r4⟩, fun t ht => by rw [r5] at ht; rw [← hlk.pc]; exact b5 t ht⟩

/-- **the candidate loop** (parser.go:960-1014) from a clean state, both transformer lists, RequireParagraph included -/
theorem tryParsersT_eqg (L : Int) (parent : Nat) (blank cont : Bool) (w : Int) (old : List Block) (s0 : St)
    (hent : Ent old s0) :
    ∀ (bps : List BP) (result : OpenResult) (lb : Option Block) (s : St) (c : RCur),
      CleanW tb src L s c → c.p < src.length → BoffOK src s c → NP old s0 s →
      EQV (fun x s' => DirtyW tb src s' ∧
        ((x.1 = .done ∧ x.2.1 = result ∧ CleanW tb src L s' c ∧ s'.nodes = s.nodes ∧ s'.pc.opened = s.pc.opened ∧
            s'.pc.blockOffset = s.pc.blockOffset ∧ (x.2.2 = lb ∨ x.2.2 = s.pc.opened.getLast?)) ∨
         (x.1 = .done ∧ x.2.1 = .newBlocksOpened) ∨
         (∃ p' c', x.1 = .retry p' ∧ x.2.1 = .newBlocksOpened ∧ CleanW tb src L s' c' ∧ c.p ≤ c'.p ∧ NP old s0 s') ∨
         (∃ c', x.1 = .retryTransformed ∧ CleanW tb src L s' c' ∧ c.p ≤ c'.p ∧ NP old s0 s')))
        (tryParsersT pts1 parent blank cont w bps result lb) (tryParsersT pts2 parent blank cont w bps result lb) s := by
  intro bps
  induction bps with
  | nil =>
    intro result lb s c hc _ _ _
    rw [tryParsersT_end, tryParsersT_end]
    exact EQV.pure ⟨hc.dirty, .inl ⟨rfl, rfl, hc, rfl, rfl, rfl, .inl rfl⟩⟩
  | cons bp bps ih =>
    intro result lb s c hc hlt hoff hnp
    rw [tryParsersT_cons, tryParsersT_cons]
    refine EQV.ite (fun _ => ih _ _ _ _ hc hlt hoff hnp) (fun _ => ?_)
    refine EQV.ite (fun _ => ih _ _ _ _ hc hlt hoff hnp) (fun _ => ?_)
    refine EQV.bind_same (fun lb' s1 h1 => ?_)
    obtain ⟨hlb', hs1⟩ := lastOpenedBlock_ok h1
    subst s1
    subst lb'
    dsimp only
    refine EQV.bind_same (fun y s2 h2 => ?_)
    have hkindsS : ∀ b ∈ s.pc.opened, (nd s b.node).kind = b.bp.kind := fun b hb => (hc.inv.kinds b hb).1
    have eff := open_effG bp parent hc hlt hoff
      (fun _ lb0 hl0 hp0 => (hnp.sf hent.leafy hkindsS hl0 hp0).2) h2
    obtain ⟨node, state⟩ := y
    cases node with
    | none =>
      dsimp only
      obtain ⟨hc2, hn2, _⟩ := eff.declined rfl
      have hoff2 : BoffOK src s2 c := by unfold BoffOK; rw [eff.boff]; exact hoff
      refine (ih _ _ s2 c hc2 hlt hoff2 (hnp.congr hn2 eff.opened)).mono (fun x s' ⟨d, hcases⟩ => ⟨d, ?_⟩)
      rcases hcases with ⟨a1, a2, a3, a4, a5, a6, a7⟩ | hb | hcc | hdd
      · refine .inl ⟨a1, a2, a3, a4.trans hn2, a5.trans eff.opened, a6.trans eff.boff, .inr ?_⟩
        rcases a7 with a7 | a7
        · exact a7
        · rw [a7, eff.opened]
      · exact .inr (.inl hb)
      · exact .inr (.inr (.inl hcc))
      · exact .inr (.inr (.inr hdd))
    | some node =>
      dsimp only
      obtain ⟨hid, hltn, hkn⟩ := eff.node node rfl
      have hgt2 : ∀ b ∈ s2.pc.opened, b.node < node := fun b hb => by
        rw [eff.opened] at hb; rw [hid]; exact (hc.inv.kinds b hb).2
      have hnt2 : ∀ t, s2.pc.tmpPara = some t → t ≠ node := fun t ht => by
        have := eff.tmplt t ht; omega
      have h2' : bp = .setext → setextOpen parent s = .ok ((some node, state), s2) := fun hb => by subst hb; exact h2
      by_cases hrq : state.requirePara = true
      · have hbs := eff.noreq hrq
        subst hbs
        obtain ⟨r', hri', hcase⟩ := setextOpen_line hc.ri (h2' rfl)
        rcases hcase with ⟨hnone, _⟩ | ⟨lb, lvl, hlast, hkp, hpar, ha, hs2⟩
        · cases hnone
        obtain ⟨⟨c', hcl', hle'⟩, _⟩ := eff.sxL rfl rfl
        obtain ⟨⟨hn0, hop0⟩, hsf⟩ := hnp.sf hent.leafy hkindsS hlast hkp
        have hnd0 : ∀ i, nd s0 i = nd s i := fun i => by simp only [nd, hn0]
        obtain ⟨hll, hplt⟩ := hent.ll lb (by rw [← hop0]; exact hlast) (by rw [hnd0]; exact hkp) parent
          (by rw [hnd0]; exact hpar)
        have hplt' : parent < s.nodes.length := by rw [hn0]; exact hplt
        have hlbm : lb ∈ s.pc.opened := List.mem_of_getLast? hlast
        have hlbp : lb.bp = .paragraph := kind_paragraph (by rw [← hkindsS lb hlbm]; exact hkp)
        obtain ⟨ys, hys⟩ := List.getLast?_eq_some_iff.1 hlast
        have hdl : s.pc.opened.dropLast = ys := by rw [hys, List.dropLast_concat]
        have hysn : ∀ a ∈ ys, a.node < lb.node := fun a ha' => by
          have := hc.inv.ord
          rw [hys] at this
          exact (List.pairwise_append.1 this).2.2 a ha' lb (by simp)
        have hstf : state.hasChildren = false := by
          have : state = { requirePara := true } := (Prod.mk.inj ha).2
          rw [this]
        have htmp2 : s2.pc.tmpPara = some lb.node := by rw [hs2]
        have hsrc2 : s2.r.source = src := eff.stop.source
        have hlbm2 : lb ∈ s2.pc.opened := by rw [eff.opened]; exact hlbm
        obtain ⟨hkb, hltb⟩ := hcl'.inv.kinds lb hlbm2
        rw [if_pos hrq, if_pos hrq]
        unfold requireParaT
        rw [hlast]
        refine EQV.bind (P := fun tr s8 => s8.r = s2.r ∧ (∀ B, InvW0 tb src B s2 → InvW0 tb src B s8) ∧
          s8.pc.opened = s.pc.opened.dropLast ∧ (∀ t, s8.pc.tmpPara = some t → t = lb.node) ∧ KG s2 s8 ∧
          (tr = false → (nd s8 lb.node).lines ≠ [])) ?_ (fun tr s8 _ ⟨m1, m2, m3, m4, m5, m6⟩ => ?_)
        · refine EQV.bind_same (fun pn s3 h3 => ?_)
          obtain ⟨hpn, hs3⟩ := getNode_ok h3
          subst s3
          refine EQV.ite (fun _ => ?_) (fun hne => ?_)
          · dsimp only
            refine EQV.bind_same (fun _ s5 h5 => ?_)
            have hclose := fun B (hB : InvW0 tb src B s2) =>
              bpClose_invG lb.bp lb.node (hB.dmono (D' := [lb]) (fun _ h => by cases h)) hsrc2 hkb hltb
                (fun hs => by rw [hlbp] at hs; cases hs)
                (fun _ b hb hx => by rw [hB.node_inj hlbm2 hb hx]; exact List.mem_cons_self ..) h5
            obtain ⟨_, c2, c3, c4, c5, _⟩ := hclose L hcl'.inv
            have hys5 : ∀ b ∈ s5.pc.opened.dropLast, b.node < lb.node := fun b hb => by
              rw [c3, eff.opened, hdl] at hb; exact hysn b hb
            refine EQV.bind_same (fun pc6 s6 h6 => ?_)
            obtain ⟨hpc6, hs6⟩ := getPc_ok h6
            subst s6
            subst pc6
            refine EQV.ite (fun _ => EQV.bind (P := fun _ _ => False) EQV.throw (fun _ _ _ h => h.elim)) (fun _ => ?_)
            refine EQV.bind_same (fun _ s7 h7 => ?_)
            have e7 := modPc_ok h7
            subst s7
            refine EQV.bind_same (fun n8 s8 h8 => ?_)
            obtain ⟨_, hs8⟩ := getNode_ok h8
            subst s8
            refine EQV.ite (fun _ => EQV.bind (P := fun _ _ => False) EQV.throw (fun _ _ _ h => h.elim)) (fun _ => ?_)
            have hi7 : ∀ B, InvW0 tb src B s2 → InvW0 tb src B ({ s5 with pc := { s5.pc with opened := s5.pc.opened.dropLast } } : St) :=
              fun B hB => (hclose B hB).1.congr_pcD _ rfl (List.dropLast_sublist _) (fun b hb hd => by
                simp only [List.mem_singleton] at hd
                have := hys5 b hb
                rw [hd] at this; exact Nat.lt_irrefl _ this)
            obtain ⟨hk5, hlt5⟩ := nk_kg c4 (show (nd s2 lb.node).kind = .paragraph by rw [hkb, hlbp]; rfl) hltb
            have hnt7 : ∀ t, ({ s5 with pc := { s5.pc with opened := s5.pc.opened.dropLast } } : St).pc.tmpPara = some t →
                (False ∨ ∃ b ∈ ({ s5 with pc := { s5.pc with opened := s5.pc.opened.dropLast } } : St).pc.opened, b.bp = .setext) →
                t ≠ lb.node := by
              intro t _ hm
              obtain ⟨b, hb, hs⟩ := hm.resolve_left id
              have hb' : b ∈ s.pc.opened := by
                have : b ∈ s5.pc.opened := List.dropLast_subset _ hb
                rw [c3, eff.opened] at this; exact this
              exact absurd hs (hsf b hb')
            refine (hag lb.node ({ s5 with pc := { s5.pc with opened := s5.pc.opened.dropLast } } : St)
              (by show s5.r.source = src; rw [c2]; exact hsrc2) hlt5 hk5 (hi7 L hcl'.inv).nodes
              ((hi7 L hcl'.inv).linesOKB hk5)).mono (fun tr s9 ⟨hp, hpar9⟩ => ?_)
            have hD7 : ∀ b ∈ ({ s5 with pc := { s5.pc with opened := s5.pc.opened.dropLast } } : St).pc.opened,
                b.node = lb.node → b ∈ ([] : List Block) := fun b hb hx => by
              have := hys5 b hb
              rw [hx] at this; exact absurd this (Nat.lt_irrefl _)
            obtain ⟨_, p2, p3, p4, p5, _⟩ := (hi7 L hcl'.inv).ptpostX hlt5 hnt7 hk5 hD7 hp
            refine ⟨by rw [p2]; exact c2, fun B hB => ((hi7 B hB).ptpostX hlt5 hnt7 hk5 hD7 hp).1, ?_, fun t ht => ?_,
              c4.trans p4, fun htr => ptpostX_keep (hi7 L hcl'.inv).nodes hlt5 hp (hpar9 htr)⟩
            · rw [p3]; show s5.pc.opened.dropLast = _; rw [c3, eff.opened]
            · rw [p5] at ht
              have := c5 t ht
              rw [htmp2] at this
              cases this; rfl
          · exfalso
            apply hne
            have : (s2.nodes.getD parent default) = nd s0 parent := by
              rw [hnd0]
              have : s2.nodes = s.nodes ++ [{ kind := .heading, level := lvl, lines := [RCur.seg src c], linesNil := false }] := by
                rw [hs2]
              exact GM.Blocks.L.nd_append_lt this hplt'
            rw [hpn, this, hll]
            simp
        · cases tr with
          | true =>
            simp only [if_true]
            have hcl8 : CleanW tb src L s8 c' := ⟨m2 L hcl'.inv, by rw [m1]; exact hcl'.ri, hcl'.pad, hcl'.le, hcl'.padl⟩
            refine EQV.pure ⟨hcl8.dirty, .inr (.inr (.inr ⟨c', rfl, hcl8, hle', .inr (fun lb1 hl1 => ?_)⟩))⟩
            have hm1 : lb1 ∈ s8.pc.opened := List.mem_of_getLast? hl1
            have hm1' : lb1 ∈ old.dropLast := by rw [← hop0, ← m3]; exact hm1
            rw [(hcl8.inv.kinds lb1 hm1).1]
            exact container_kind_ne_paragraph (hent.leafy lb1 hm1')
          | false =>
            simp only [Bool.false_eq_true, if_false]
            have hstrong : ∀ t, s8.pc.tmpPara = some t → (nd s8 t).lines ≠ [] ∧ ∀ b' ∈ s8.pc.opened, b'.node ≠ t := by
              intro t ht
              have := m4 t ht
              subst this
              refine ⟨m6 rfl, fun b' hb' => ?_⟩
              rw [m3, hdl] at hb'
              exact Nat.ne_of_lt (hysn b' hb')
            obtain ⟨hk8, hlt8⟩ := nk_kg m5 hkn hltn
            have hsub8 : ∀ b ∈ s8.pc.opened, b ∈ s.pc.opened := fun b hb => by
              rw [m3] at hb; exact List.dropLast_subset _ hb
            refine (tailG hag (F := True) parent node .setext blank state.hasChildren (some lb) s8
              (by rw [m1]; exact hsrc2) hk8 hlt8
              (fun b hb => by rw [hid]; exact (hc.inv.kinds b (hsub8 b hb)).2)
              (fun t ht => by
                have := m4 t ht
                rw [this, hid]; exact Nat.ne_of_lt (hc.inv.kinds lb hlbm).2)
              (fun hb => by cases hb)
              ⟨L, (m2 L hcl'.inv).strengthen hstrong⟩).mono (fun x s' ⟨t1, t2, t3, _, _⟩ => ?_)
            have hd : DirtyW tb src s' :=
              ⟨_, t1 _ ((m2 _ eff.invE).strengthen hstrong) (fun _ => trivial), eff.stop.congr (t2.trans m1)⟩
            rw [hstf] at t3
            simp only [Bool.false_eq_true, if_false] at t3
            exact ⟨hd, .inr (.inl ⟨by rw [t3], by rw [t3]⟩)⟩
      · have hbs : bp ≠ .setext := by
          intro hb
          obtain ⟨r', _, hcase⟩ := setextOpen_line hc.ri (h2' hb)
          rcases hcase with ⟨hnone, _⟩ | ⟨lb, lvl, _, _, _, ha, _⟩
          · cases hnone
          · have : state = { requirePara := true } := (Prod.mk.inj ha).2
            rw [this] at hrq
            exact hrq rfl
        rw [if_neg hrq, if_neg hrq]
        simp only [pure_bind, Bool.false_eq_true, if_false]
        refine (tailG hag (F := False) parent node bp blank state.hasChildren _ s2 eff.stop.source hkn hltn hgt2 hnt2
          (fun hb t ht => by
            obtain ⟨seg, hl, hle⟩ := eff.pnew node rfl hb
            rw [hl] at ht
            simp only [List.getLast?_singleton, Option.some.injEq] at ht
            rw [← ht]; exact hle)
          ⟨_, eff.invE⟩).mono (fun x s' ⟨t1, t2, t3, ⟨sub, hsub, hop'⟩, _⟩ => ?_)
        have hd : DirtyW tb src s' := ⟨_, t1 _ eff.invE (fun h => absurd h hbs), eff.stop.congr t2⟩
        refine ⟨hd, ?_⟩
        by_cases hch : state.hasChildren = true
        · obtain ⟨c', hc', hle⟩ := eff.container hch
          rw [if_pos hch] at t3
          have hi' := t1 L hc'.inv (fun h => absurd h hbs)
          refine .inr (.inr (.inl ⟨node, c', by rw [t3], by rw [t3], hc'.congr hi' t2, hle, .inr (fun lb1 hl1 => ?_)⟩))
          rw [hop', List.getLast?_concat] at hl1
          cases hl1
          rw [(hi'.kinds ⟨node, bp⟩ (by rw [hop']; simp)).1]
          exact container_kind_ne_paragraph (eff.cont hch)
        · rw [if_neg hch] at t3
          exact .inr (.inl ⟨by rw [t3], by rw [t3]⟩)

/-- the part of `openBlocksT` from the candidate loop on (`retryStepT`), `again` = `goto retry` -/
theorem retryStepT_eqg (L : Int) (blank tdone cont : Bool) (parent : Nat) (w : Int) (bps : List BP) (result : OpenResult)
    (lbo : Option Block) (again1 again2 : Bool → Bool → Nat → OpenResult → Option Block → M OpenResult) (s3 : St) (c : RCur)
    (old : List Block) (s0 : St) (hent : Ent old s0)
    (hc3 : CleanW tb src L s3 c) (hlt : c.p < src.length) (hboff : BoffOK src s3 c)
    (hres3 : result = .noBlocksOpened → cont = true → lbo = s3.pc.opened.getLast? ∧ ContOK cont s3) (hnp : NP old s0 s3)
    (hagain : ∀ (td ct : Bool) (p' : Nat) (res : OpenResult) (l : Option Block) (s5 : St) (c' : RCur), CleanW tb src L s5 c' →
      (res = .noBlocksOpened → ct = true → l = s5.pc.opened.getLast? ∧ ContOK ct s5) → NP old s0 s5 →
      EQV (fun _ s' => DirtyW tb src s') (again1 td ct p' res l) (again2 td ct p' res l) s5) :
    EQV (fun _ s' => DirtyW tb src s') (retryStepT pts1 blank tdone cont parent w bps result lbo again1)
      (retryStepT pts2 blank tdone cont parent w bps result lbo again2) s3 := by
  unfold retryStepT
  refine EQV.bind_same (fun sb s4 h4 => ?_)
  have e4 : s4 = s3 := by cases h4; rfl
  subst s4
  refine EQV.bind (tryParsersT_eqg hag L parent blank cont w old s0 hent bps result lbo s3 c hc3 hlt hboff hnp)
    (fun x s5 _ ⟨hd5, hcases⟩ => ?_)
  obtain ⟨o, res, l⟩ := x
  rcases hcases with ⟨a1, a2, a3, a4, a5, _, a7⟩ | ⟨b1, b2⟩ | ⟨p', c', c1, c2, c3, _, c5⟩ | ⟨c', d1, d2, _, d4⟩
  · simp only at a1 a2 a7
    subst a1
    dsimp only
    refine EQV.refl (fun r' s' k5 => toContinuableG_ord L cont res l s5 c r' s' a3 (fun hr hct0 => ?_) k5)
    rw [a2] at hr
    obtain ⟨q1, q2⟩ := hres3 hr hct0
    refine ⟨?_, fun hct => ?_⟩
    · rcases a7 with a7 | a7
      · rw [a7, q1, a5]
      · rw [a7, a5]
    · obtain ⟨lb, h1', h2'⟩ := q2 hct
      exact ⟨lb, by rw [a5]; exact h1', by simp only [nd, a4]; exact h2'⟩
  · simp only at b1 b2
    subst b1
    subst b2
    dsimp only
    refine EQV.refl (fun r' s' k5 => ?_)
    rw [toContinuable_new cont _ s5 r' s' k5]
    exact hd5
  · simp only at c1 c2
    subst c1
    subst c2
    dsimp only
    refine EQV.bind_same (fun s6 s7 h7 => ?_)
    have e7 : s7 = s5 := by cases h7; rfl
    subst s7
    refine EQV.ite (fun _ => EQV.bind (P := fun _ _ => False) EQV.throw (fun _ _ _ h => h.elim)) (fun _ => ?_)
    exact hagain tdone cont p' _ l s5 c' c3 (fun hr => by cases hr) c5
  · simp only at d1
    subst d1
    dsimp only
    refine EQV.bind_same (fun s6 s7 h7 => ?_)
    have e7 : s7 = s5 := by cases h7; rfl
    subst s7
    refine EQV.ite (fun _ => EQV.bind (P := fun _ _ => False) EQV.throw (fun _ _ _ h => h.elim)) (fun _ => ?_)
    exact hagain true false parent _ l s5 c' d2 (fun _ hct => by cases hct) d4

theorem openBlocksLoopT_eqg (L : Int) (blank : Bool) (old : List Block) (s0 : St) (hent : Ent old s0) :
    ∀ (fuel : Nat) (tdone cont : Bool) (parent : Nat) (result : OpenResult) (lbo : Option Block) (s : St) (c : RCur),
      CleanW tb src L s c → (result = .noBlocksOpened → cont = true → lbo = s.pc.opened.getLast? ∧ ContOK cont s) →
      NP old s0 s →
      EQV (fun _ s' => DirtyW tb src s') (openBlocksLoopT pts1 blank fuel tdone cont parent result lbo)
        (openBlocksLoopT pts2 blank fuel tdone cont parent result lbo) s := by
  intro fuel
  induction fuel with
  | zero => intro tdone cont parent result lbo s c _ _ _; rw [openBlocksLoopT_zero, openBlocksLoopT_zero]; exact EQV.throw
  | succ fuel ih =>
    intro tdone cont parent result lbo s c hc hres hnp
    rw [openBlocksLoopT_succ, openBlocksLoopT_succ]
    refine EQV.bind_same (fun y s1 h1 => ?_)
    obtain ⟨rfl, r1, hs1, hr1⟩ := peekLine_inv hc.ri h1
    subst s1
    dsimp only
    refine EQV.bind_same (fun lo s2 h2 => ?_)
    obtain ⟨r2, hs2, hr2⟩ := lineOffset_inv (s := { s with r := r1 }) hr1 h2
    subst s2
    refine EQV.bind_same (fun u s3 h3 => ?_)
    have e3 := modPc_ok h3
    -- the state after the three steps: reader caches and BlockOffset / BlockIndent changed
    have hop3 : s3.pc.opened = s.pc.opened := by rw [e3]; dsimp only; split <;> rfl
    have htm3 : s3.pc.tmpPara = s.pc.tmpPara := by rw [e3]; dsimp only; split <;> rfl
    have hn3 : s3.nodes = s.nodes := by rw [e3]
    have hr3 : s3.r = r2 := by rw [e3]
    have hc3 : CleanW tb src L s3 c := by
      refine ⟨?_, by rw [hr3]; exact hr2, hc.pad, hc.le, hc.padl⟩
      have hi := hc.inv
      exact ⟨fun i => by simp only [nd, hn3]; exact hi.nrb i, by rw [hop3]; exact hi.ord,
        fun i => by simp only [nd, hn3]; exact hi.pnb i,
        fun t ht => by rw [htm3] at ht; simp only [nd, hn3]; exact hi.tmpk t ht,
        fun b hb => by rw [hop3] at hb; simp only [nd, hn3]; exact hi.kinds b hb,
        fun m hm => hi.nodes m (by rw [← hn3]; exact hm),
        fun t ht hm => by rw [htm3] at ht; rw [hop3] at hm ⊢; simp only [nd, hn3]; exact hi.tl t ht hm,
        fun i => by simp only [nd, hn3]; exact hi.raw i,
        fun i => by simp only [nd, hn3]; exact hi.pnl i,
        fun b hb hd hbp => by rw [hop3] at hb; simp only [nd, hn3]; exact hi.pol b hb hd hbp⟩
    have hnp3 : NP old s0 s3 := hnp.congr hn3 hop3
    have hres3 : result = .noBlocksOpened → cont = true → lbo = s3.pc.opened.getLast? ∧ ContOK cont s3 := by
      intro hr hct0
      obtain ⟨a, b⟩ := hres hr hct0
      refine ⟨by rw [hop3]; exact a, fun hct => ?_⟩
      obtain ⟨lb, h1', h2'⟩ := b hct
      exact ⟨lb, by rw [hop3]; exact h1', by simp only [nd, hn3]; exact h2'⟩
    have hboff : (RCur.view src c).isSome = true → BoffOK src s3 c := by
      intro hsome
      unfold BoffOK
      rw [e3]
      dsimp only
      split
      · simp only; omega
      · simp only; omega
    have exit : EQV (fun _ s' => DirtyW tb src s') (toContinuable cont result lbo) (toContinuable cont result lbo) s3 :=
      EQV.refl (fun r' s' hk => toContinuableG_ord L cont result lbo s3 c r' s' hc3 hres3 hk)
    have viaTry : ∀ (bps : List BP), (RCur.view src c).isSome = true →
        EQV (fun _ s' => DirtyW tb src s')
          (retryStepT pts1 blank tdone cont parent (indentWidthI ((RCur.view src c).getD []) lo).fst bps result lbo
            (openBlocksLoopT pts1 blank fuel))
          (retryStepT pts2 blank tdone cont parent (indentWidthI ((RCur.view src c).getD []) lo).fst bps result lbo
            (openBlocksLoopT pts2 blank fuel)) s3 := by
      intro bps hsome
      have hlt : c.p < src.length := by
        cases hv : RCur.view src c with
        | none => rw [hv] at hsome; cases hsome
        | some l => exact view_some_lt src c hv
      exact retryStepT_eqg hag L blank tdone cont parent _ bps result lbo _ _ s3 c old s0 hent hc3 hlt (hboff hsome) hres3 hnp3
        (fun td ct p' res l s5 c' h5 hr5 hn5 => ih td ct p' res l s5 c' h5 hr5 hn5)
    refine EQV.ite (fun _ => exit) (fun hsome0 => ?_)
    have hsome : (RCur.view src c).isSome = true := by
      cases hv : RCur.view src c with
      | none => rw [hv] at hsome0; simp at hsome0
      | some l => rfl
    refine EQV.bind_same (fun ch s4 h4 => ?_)
    obtain ⟨_, e4⟩ := liftE_ok h4
    subst s4
    refine EQV.ite (fun _ => exit) (fun _ => ?_)
    refine EQV.ite (fun _ => ?_) (fun _ => ?_)
    · refine EQV.bind_same (fun c' s5 h5 => ?_)
      obtain ⟨_, e5⟩ := liftE_ok h5
      subst s5
      refine EQV.bind_same (fun bps s6 h6 => ?_)
      obtain ⟨_, e6⟩ := pure_ok h6
      subst s6
      exact viaTry bps hsome
    · refine EQV.bind_same (fun bps s6 h6 => ?_)
      obtain ⟨_, e6⟩ := pure_ok h6
      subst s6
      exact viaTry bps hsome

/-- **openBlocksT** (parser.go:928-1024) from a clean state, with both transformer lists: the same answer, and a normal
    end is `DirtyW` -/
theorem openBlocksT_eqg (L : Int) (parent : Nat) (blank : Bool) (s : St) (c : RCur) (hc : CleanW tb src L s c)
    (hent : Ent s.pc.opened s) :
    EQV (fun _ s' => DirtyW tb src s') (openBlocksT pts1 parent blank) (openBlocksT pts2 parent blank) s := by
  unfold openBlocksT
  refine EQV.bind_same (fun lb s1 h1 => ?_)
  obtain ⟨hlb, hs1⟩ := lastOpenedBlock_ok h1
  subst s1
  subst lb
  have fin : ∀ cont, ContOK cont s →
      EQV (fun _ s' => DirtyW tb src s')
        (do let v ← source
            openBlocksLoopT pts1 blank (retryFuel v) false cont parent OpenResult.noBlocksOpened s.pc.opened.getLast?)
        (do let v ← source
            openBlocksLoopT pts2 blank (retryFuel v) false cont parent OpenResult.noBlocksOpened s.pc.opened.getLast?)
        s := by
    intro cont hco
    refine EQV.bind_same (fun v s3 h3 => ?_)
    have e3 : s3 = s := by cases h3; rfl
    subst s3
    exact openBlocksLoopT_eqg hag L blank _ s hent _ false cont parent _ _ s c hc (fun _ _ => ⟨rfl, hco⟩) (.inl ⟨rfl, rfl⟩)
  dsimp only
  cases hl : s.pc.opened.getLast? with
  | none =>
    dsimp only
    simp only [pure_bind]
    rw [← hl]
    exact fin false (fun h => by cases h)
  | some b =>
    dsimp only
    refine EQV.bind_same (fun n s2 h2 => ?_)
    obtain ⟨hn, e2⟩ := getNode_ok h2
    subst s2
    subst n
    simp only [pure_bind]
    rw [← hl]
    exact fin _ (fun hct => ⟨b, hl, by simpa using hct⟩)

end tp

end GM.Blocks.TX
