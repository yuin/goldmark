/-
  GM.Proof.ExtDecline — the early-exit theorems over GM.Model.ExtDecline (C11): on a line that lacks the
  characters the property names, each extension's parser returns nil without effect.
-/
import GM.Model.ExtDecline
import GM.Proof.FindEmailIndex
import GM.Model.Table
import GM.Proof.Table

namespace GM.Ext
open GM

/-- `pat` occurs in `l` as a contiguous subsequence (decidable form of "the document contains `www.`") -/
def hasInfix (pat : Bytes) : Bytes → Bool
  | [] => pat.isPrefixOf []
  | c :: cs => pat.isPrefixOf (c :: cs) || hasInfix pat cs

theorem hasInfix_iff (pat l : Bytes) : hasInfix pat l = true ↔ pat <:+: l := by
  induction l with
  | nil => simp [hasInfix]
  | cons c cs ih => rw [hasInfix, Bool.or_eq_true, ih, List.isPrefixOf_iff_prefix, List.infix_cons_iff]

theorem hasInfix_false_iff {pat l : Bytes} : hasInfix pat l = false ↔ ¬ pat <:+: l := by
  rw [← hasInfix_iff, Bool.not_eq_true]

/-- every slice of `l` (drop, take, suffix) is free of `pat` when `l` is -/
theorem hasInfix_false_of_infix {pat s l : Bytes} (h : hasInfix pat l = false) (hs : s <:+: l) : hasInfix pat s = false :=
  hasInfix_false_iff.mpr fun hp => hasInfix_false_iff.mp h (hp.trans hs)

theorem no_prefix_of_drop {pat l : Bytes} (h : hasInfix pat l = false) (k : Nat) : pat.isPrefixOf (l.drop k) = false :=
  Bool.eq_false_iff.mpr fun hp =>
    hasInfix_false_iff.mp h ((List.isPrefixOf_iff_prefix.mp hp).isInfix.trans (List.drop_suffix k l).isInfix)

theorem mem_of_isPrefixOf {p l : Bytes} (h : p.isPrefixOf l = true) {x : UInt8} (hx : x ∈ p) : x ∈ l :=
  (List.isPrefixOf_iff_prefix.mp h).subset hx

theorem hasInfix_two {l : Bytes} {p : Nat} {a b : UInt8} (h1 : l[p]? = some a) (h2 : l[p + 1]? = some b) :
    hasInfix [a, b] l = true := by
  obtain ⟨hp, rfl⟩ := List.getElem?_eq_some_iff.mp h1
  obtain ⟨hp', rfl⟩ := List.getElem?_eq_some_iff.mp h2
  refine (hasInfix_iff _ _).mpr (List.IsPrefix.isInfix ?_ |>.trans (List.drop_suffix p l).isInfix)
  rw [List.drop_eq_getElem_cons hp, List.drop_eq_getElem_cons hp']
  exact ⟨_, rfl⟩

theorem linkifyGuard_false {l : Bytes} (hcolon : (58 : UInt8) ∉ l) (hwww : domainWWW.isPrefixOf l = false) :
    linkifyGuard l = false := by
  have h {p : Bytes} (hp : 58 ∈ p) : p.isPrefixOf l = false :=
    Bool.eq_false_iff.mpr fun h => hcolon (mem_of_isPrefixOf h hp)
  simp [linkifyGuard, h (p := protoHTTP) (by decide), h (p := protoHTTPS) (by decide), h (p := protoFTP) (by decide), hwww]

theorem linkifyBody_declines (strip : Bool) (L : Bytes)
    (hcolon : (58 : UInt8) ∉ L) (hat : (64 : UInt8) ∉ L) (hw : domainWWW.isPrefixOf L = false) :
    linkifyBody strip L = .nil 0 := by
  unfold linkifyBody
  rw [linkifyGuard_false hcolon hw, GM.Proof.FindEmailIndex.findEmailIndex_no_at hat]
  simp

/-- LINKIFY DECLINES. On every (non-empty) peeked line that contains no ':', no '@' and no `www.`, Parse returns
    nil without having moved the reader or touched the parent — inside or outside a link label. -/
theorem linkifyParse_declines (lbl : Bool) (line : Bytes) (hne : line ≠ [])
    (hcolon : (58 : UInt8) ∉ line) (hat : (64 : UInt8) ∉ line) (hwww : hasInfix domainWWW line = false) :
    linkifyParse lbl line = .nil 0 := by
  unfold linkifyParse
  split
  · rfl
  · cases line with
    | nil => exact absurd rfl hne
    | cons c rest =>
      simp only []
      split
      · exact linkifyBody_declines true rest (fun h => hcolon (by simp [h])) (fun h => hat (by simp [h]))
          (by simpa using no_prefix_of_drop hwww 1)
      · exact linkifyBody_declines false (c :: rest) hcolon hat (by simpa using no_prefix_of_drop hwww 0)

/-- FOOTNOTE INLINE, no list: while no footnote definition has been closed (no FootnoteList in the context) Parse
    returns nil on every line; it may have advanced the reader (the loop puts it back) -/
theorem footnoteParse_noList (line : Bytes) : ∃ m, footnoteParse none line = .nil m := by
  unfold footnoteParse
  simp only []
  repeat' split
  all_goals exact ⟨_, rfl⟩

/-- FOOTNOTE INLINE at a '[' that is not followed by '^': nil at the first test, whatever the context holds -/
theorem footnoteParse_bracket (refs : Option (List Bytes)) (line : Bytes) (hh : line.head? = some 91)
    (h : hasInfix [91, 94] line = false) : footnoteParse refs line = .nil 0 := by
  cases line with
  | nil => simp at hh
  | cons c rest =>
    simp at hh
    subst hh
    unfold footnoteParse
    simp only [List.head?_cons]
    have h33 : (some (91 : UInt8) == some 33) = false := by decide
    simp only [h33]
    cases rest with
    | nil => simp
    | cons d rest' =>
      have hd : d ≠ 94 := fun hd => by cases (hasInfix_two (p := 0) rfl (congrArg some hd)).symm.trans h
      simp [hd]

/-- FOOTNOTE BLOCK: on a line without the two bytes `[^`, Open returns (nil, NoChildren) at once -/
theorem footnoteOpen_declines (line : Bytes) (pos : Int) (hpos : pos < 0 ∨ pos.toNat < line.length)
    (h : hasInfix [91, 94] line = false) : footnoteOpen line pos = .nil := by
  unfold footnoteOpen
  split
  · rfl
  · rename_i hp
    simp only []
    have hlt : pos.toNat < line.length := hpos.resolve_left hp
    rw [List.getElem?_eq_getElem hlt]
    simp only []
    split
    · rfl
    · rename_i hc
      simp at hc
      by_cases hlen : pos.toNat + 1 > line.length - 1
      · simp [hlen]
      · have hlt2 : pos.toNat + 1 < line.length := by omega
        have hd : line[pos.toNat + 1] ≠ 94 := by
          intro hd
          have := hasInfix_two (l := line) (p := pos.toNat) (a := 91) (b := 94)
            (by rw [List.getElem?_eq_getElem hlt, hc]) (by rw [List.getElem?_eq_getElem hlt2, hd])
          rw [this] at h
          cases h
        have : line[pos.toNat + 1]?.getD 0 ≠ 94 := by
          rw [List.getElem?_eq_getElem hlt2]
          simpa using hd
        simp [this]

theorem defListOpen_declines (parentIsDL : Bool) (line : Bytes) (pos indent : Int) (last : LastChild)
    (hpos : pos < 0 ∨ pos.toNat < line.length) (h : (58 : UInt8) ∉ line) :
    defListOpen parentIsDL line pos indent last = .nil := by
  unfold defListOpen
  split
  · rfl
  · split
    · rfl
    · rename_i hp
      have hlt : pos.toNat < line.length := hpos.resolve_left hp
      rw [List.getElem?_eq_getElem hlt]
      simp only []
      have : line[pos.toNat] ≠ 58 := fun hc => h (hc ▸ List.getElem_mem hlt)
      simp [this]

theorem defDescOpen_declines (parentIsDL : Bool) (line : Bytes) (pos indent : Int)
    (hpos : pos < 0 ∨ pos.toNat < line.length) (h : (58 : UInt8) ∉ line) :
    defDescOpen parentIsDL line pos indent = .nil := by
  unfold defDescOpen
  split
  · rfl
  · rename_i hp
    have hlt : pos.toNat < line.length := hpos.resolve_left hp
    rw [List.getElem?_eq_getElem hlt]
    simp only []
    have : line[pos.toNat] ≠ 58 := fun hc => h (hc ▸ List.getElem_mem hlt)
    simp [this]

theorem taskParse_needs_bracket (inItem : Bool) (line : Bytes) (h : line.head? ≠ some 91) :
    taskParse inItem line = .nil 0 := by
  unfold taskParse
  split
  · rfl
  · split
    · simp at h
    · rfl

/-- TYPOGRAPHER DECLINES at every byte other than ' " - . < > (in particular at its triggers , * [) -/
theorem typoParse_declines (c : UInt8) (rest : Bytes)
    (h : c ≠ 39 ∧ c ≠ 34 ∧ c ≠ 45 ∧ c ≠ 46 ∧ c ≠ 60 ∧ c ≠ 62) : typoParse (c :: rest) = .nil 0 := by
  obtain ⟨h1, h2, h3, h4, h5, h6⟩ := h
  unfold typoParse
  simp [h1, h2, h3, h4, h5, h6]

/-- what the Unicode tables say about ASCII: no ASCII rune is East-Asian wide / F / W / H or space-discarding
    (checked exhaustively on util.IsEastAsianWideRune, util.EastAsianWidth, util.IsSpaceDiscardingUnicodeRune by
    component extdecline) -/
def AsciiNarrow (U : RuneClass) : Prop :=
  ∀ r, r < 128 → U.wide r = false ∧ U.fwh r = false ∧ U.spaceDiscarding r = false

theorem softLineBreak_ascii (U : RuneClass) (hU : AsciiNarrow U) (style : Nat) (hs : style = 1 ∨ style = 2)
    (a b : Nat) (ha : a < 128) (hb : b < 128) : softLineBreak U style a b = true := by
  obtain ⟨wa, fa, sa⟩ := hU a ha
  obtain ⟨wb, fb, sb⟩ := hU b hb
  rcases hs with rfl | rfl
  · simp [softLineBreak, wa]
  · have h1 : (a == 0x200B) = false := by simp; omega
    have h2 : (b == 0x200B) = false := by simp; omega
    have h3 : (a == 0x3000) = false := by simp; omega
    have h4 : (b == 0x3000) = false := by simp; omega
    have h5 : decide (a > 127) = false := by simp; omega
    have h6 : decide (b > 127) = false := by simp; omega
    simp [softLineBreak, css3SoftLineBreak, fa, sa, sb, h1, h2, h3, h4, h5, h6]

/-- CJK, ASCII: for a Text whose last rune and whose following rune (if any) are ASCII the `\n` of a soft break is
    written under every East-Asian style, exactly as without the option (style 0) -/
theorem softBreakWritten_ascii (U : RuneClass) (hU : AsciiNarrow U) (style : Nat) (hs : style ≤ 2) (valueEmpty : Bool)
    (last : Nat) (next : Option Nat) (hl : last < 128) (hn : ∀ b, next = some b → b < 128) :
    softBreakWritten U style valueEmpty last next = softBreakWritten U 0 valueEmpty last next := by
  have h0 : softBreakWritten U 0 valueEmpty last next = true := by simp [softBreakWritten]
  rw [h0]
  unfold softBreakWritten
  split
  · rename_i hc
    cases next with
    | none => rfl
    | some b =>
      simp only []
      have hs' : style = 1 ∨ style = 2 := by
        simp at hc
        omega
      exact softLineBreak_ascii U hU style hs' last b hl (hn b rfl)
  · rfl

theorem blockCandidates_insert_off (l1 l2 : List BlockP) (q : BlockP) (t : Bytes) (c : UInt8)
    (hq : q.triggers = some t) (hc : c ∉ t) :
    blockCandidates (l1 ++ q :: l2) c = blockCandidates (l1 ++ l2) c := by
  have hf : t.filter (· == c) = [] := by
    rw [List.filter_eq_nil_iff]
    intro a ha hEq
    have : a = c := by simpa using hEq
    exact hc (this ▸ ha)
  unfold blockCandidates blockTable
  simp [List.flatMap_append, List.filter_append, hq, hf]

open GM.Table in
theorem findTable_no_dash (src : Bytes) (all : List Seg) (rest : List Seg) (before : List Seg) (prev : Seg)
    (h : ∀ l ∈ rest, (45 : UInt8) ∉ l.value src) :
    findTable src all before prev rest = { para := all, table := Option.none } := by
  induction rest generalizing before prev with
  | nil => rfl
  | cons cur rest ih =>
    unfold findTable
    have hnone : parseDelimiter (cur.value src) = Option.none := by
      cases hp : parseDelimiter (cur.value src) with
      | none => rfl
      | some al => exact absurd (GM.Proof.Table.parseDelimiter_some hp).2.1 (h cur (by simp))
    rw [hnone]
    exact ih _ _ (fun l hl => h l (by simp [hl]))

open GM.Table in
/-- TABLE: a paragraph none of whose lines contains '-' is left untouched by the paragraph transformer -/
theorem transform_no_dash (src : Bytes) (lines : List Seg) (h : ∀ l ∈ lines, (45 : UInt8) ∉ l.value src) :
    transform src lines = { para := lines, table := Option.none } := by
  unfold transform
  cases lines with
  | nil => rfl
  | cons first rest => exact findTable_no_dash src _ rest [] first (fun l hl => h l (by simp [hl]))

open GM.Table in
theorem value_no_dash (src : Bytes) (s : Seg) (h : (45 : UInt8) ∉ src) : (45 : UInt8) ∉ s.value src := by
  unfold Seg.value GM.Table.slice
  intro hm
  rcases List.mem_append.mp hm with hm | hm
  · have := List.eq_of_mem_replicate hm
    cases this
  · exact h (List.mem_of_mem_drop (List.mem_of_mem_take hm))

end GM.Ext
