/-
  GM.Proof.ConvertXRel — the block driver GM.Blocks.runT is monotone in its list of paragraph transformers for the relation
  "same answer, or the left run answers the domain monitor's `pre`": if `transformParagraph ptsA` and `transformParagraph ptsB`
  are so related on every state, so are the whole block phases. No invariant of the run is needed: the relation is closed
  under bind from every state, so this is the simulation walk of GM.Proof.BlocksDriverGSim with the transformer hook related. Used for C11 of the table paragraph transformer on the composed model.
-/
import GM.Proof.ConvertX
import GM.Proof.BlocksDriverGSim

namespace GM.Proof.ConvertXRel
open GM GM.Text GM.Blocks

/-- the same answer from every state, or the left computation answers `pre` -/
structure Rel (x : Bool) {α : Type} (m1 m2 : M α) : Prop where
  h : ∀ s, m1 s = m2 s ∨ (x = true ∧ m1 s = .error .pre)

theorem Rel.refl {x : Bool} {α} (m : M α) : Rel x m m := ⟨fun _ => Or.inl rfl⟩

theorem Rel.bind {x : Bool} {α β} {m1 m2 : M α} {f1 f2 : α → M β} (hm : Rel x m1 m2) (hf : ∀ a, Rel x (f1 a) (f2 a)) :
    Rel x (m1 >>= f1) (m2 >>= f2) := by
  constructor
  intro s
  simp only [Bind.bind, StateT.bind]
  rcases hm.h s with h | h
  · rw [h]
    cases m2 s with
    | error e => exact Or.inl rfl
    | ok p => exact (hf p.1).h p.2
  · rw [h.2]; exact Or.inr ⟨h.1, rfl⟩

/-- `Rel x` is closed under the `do` constructs: the walk of GM.Proof.BlocksDriverGSim applies, the left driver read as the
    driver with hooks at `σ = Unit` -/
theorem rel_calc (x : Bool) : SimCalc (σ := Unit) (fun _ _ => True) (fun _ m m0 => Rel x (lower m) m0) :=
  ⟨fun y _ => by rw [lower_up]; exact Rel.refl y, fun a => Rel.refl (pure a), fun e => Rel.refl (throw e),
   fun hm hf => by rw [lower_bind]; exact Rel.bind hm hf⟩

section driver
variable {x : Bool} {ptsA ptsB : List PT} (H : ∀ n, Rel x (transformParagraph ptsA n) (transformParagraph ptsB n))
include H

theorem parseBlocksT_rel (parent : Nat) : Rel x (parseBlocksT ptsA parent) (parseBlocksT ptsB parent) := by
  rw [parseBlocksT_eqC ptsA, parseBlocksT_eqC ptsB, ← lower_parseBlocksG bpClose ptsA]
  exact parseBlocksG_simH (rel_calc x) (hookSimU (rel_calc x) (fun _ _ => by rw [lower_up]; exact Rel.refl _)
    fun n => by rw [lower_up]; exact H n) (fun _ _ => trivial) parent

theorem runT_rel (src : Bytes) : runT ptsA src = runT ptsB src ∨ (x = true ∧ runT ptsA src = .error .pre) := by
  unfold runT
  rcases (parseBlocksT_rel H 0).h (initSt src) with h | h
  · rw [h]; exact Or.inl rfl
  · rw [h.2]; exact Or.inr ⟨h.1, rfl⟩

end driver
theorem transformParagraph_silent (g tp : PT) (htp : ∀ n s, tp n s = .ok ((), s) ∨ tp n s = .error .pre) (n : Nat) :
    Rel true (transformParagraph ([g] ++ [tp]) n) (transformParagraph ([g] ++ []) n) := by
  constructor
  intro s
  simp only [List.append_nil, List.singleton_append, transformParagraph, bind, StateT.bind, getNode, pure, StateT.pure,
    Except.pure, Except.bind]
  cases hg : g n s with
  | error e => exact Or.inl rfl
  | ok r =>
    obtain ⟨u, s1⟩ := r
    simp only []
    split
    · exact Or.inl rfl
    · rename_i hp
      rcases htp n s1 with h | h
      · left
        simp only [StateT.bind, h, getNode, pure, Except.pure]
        show (if (s1.nodes.getD n default).parent.isNone = true then StateT.pure true else StateT.pure false) s1 = _
        rw [if_neg hp]
      · right
        refine ⟨trivial, ?_⟩
        simp only [StateT.bind, h]
        rfl

open GM.ConvertX GM.Convert in
theorem blockPhaseX_table_no_dash (c : XCfg) (guard : Bool) (src : Bytes) (h : (45 : UInt8) ∉ src) :
    blockPhaseX { c with table := true } guard src = blockPhaseX { c with table := false } guard src ∨
    blockPhaseX { c with table := true } guard src = .error .pre := by
  unfold blockPhaseX paragraphTransformersX paragraphTransformers
  rcases runT_rel (fun n => transformParagraph_silent _ _ (GM.Proof.ConvertX.transformPT_no_dash src h) n) src with e | e
  · exact Or.inl e
  · exact Or.inr e.2

section table
open GM.ConvertX GM.Convert GM.Proof.ConvertX GM.Inl GM.Proof.ConvertL GM.Proof.ConvertLDoc

theorem getElem?_ne_dash {src : Bytes} (h : (45 : UInt8) ∉ src) (i : Nat) : (src[i]? == some 45) = false := by
  cases hx : src[i]? with
  | none => rfl
  | some b =>
    have hb : b ∈ src := List.mem_of_getElem? hx
    have : b ≠ 45 := fun e => h (e ▸ hb)
    simp [this]

/-- on a source without '-' no node of any store decodes as a table node (the witness fails) -/
theorem kindOf_no_dash {src : Bytes} (h : (45 : UInt8) ∉ src) (n : GM.Blocks.Node) : GM.TableX.kindOf src n = none := by
  unfold GM.TableX.kindOf GM.TableX.hasWitness
  simp [getElem?_ne_dash h]

theorem isRowNode_no_dash {src : Bytes} (h : (45 : UInt8) ∉ src) (n : GM.Blocks.Node) : GM.TableX.isRowNode src n = false := by
  simp [GM.TableX.isRowNode, kindOf_no_dash h]

theorem isCellNode_no_dash {src : Bytes} (h : (45 : UInt8) ∉ src) (n : GM.Blocks.Node) : GM.TableX.isCellNode src n = false := by
  simp [GM.TableX.isCellNode, kindOf_no_dash h]

mutual
theorem escOfTree_no_dash {src : Bytes} (h : (45 : UInt8) ∉ src) : ∀ t : GM.Blocks.Tree, GM.TableX.escOfTree src t = []
  | .node n cs => by simp [GM.TableX.escOfTree, isRowNode_no_dash h, escOfTrees_no_dash h cs]
theorem escOfTrees_no_dash {src : Bytes} (h : (45 : UInt8) ∉ src) : ∀ ts : List GM.Blocks.Tree, GM.TableX.escOfTrees src ts = []
  | [] => by simp [GM.TableX.escOfTrees]
  | t :: rest => by simp [GM.TableX.escOfTrees, escOfTree_no_dash h t, escOfTrees_no_dash h rest]
end

theorem inlineTreeX_congr (c1 c2 : XCfg) (hs : c1.strikethrough = c2.strikethrough) (ht : c1.tasklist = c2.tasklist)
    (src : Bytes) : ∀ n : Inl.Node, inlineTreeX c1 src n = inlineTreeX c2 src n := by
  intro n
  rw [← inlineTreeL_off, ← inlineTreeL_off]
  exact inlineTreeL_lvAll { base := c1, linkify := false } { base := c2, linkify := false } rfl (.inl hs) (.inl ht) src n
    (lvAll_true n)

theorem blockKindX_table (c : XCfg) (src : Bytes) (h : (45 : UInt8) ∉ src) (n : GM.Blocks.Node) :
    blockKindX { c with table := true } src n = blockKindX { c with table := false } src n := by
  unfold blockKindX
  simp [kindOf_no_dash h]

/-- Table on and off build the same tree over a source without '-': no node decodes as a table node, so the inline phase and
    the block kinds are the same and the escaped-pipe walk is not taken -/
theorem sameTree_table (c : GCfg) (g : Bool) (env : Env) (src : Bytes) (h : (45 : UInt8) ∉ src) (escs1 escs2 : List Int) :
    SameTree (fun _ => true) { c with base := { c.base with table := true } } { c with base := { c.base with table := false } }
      g env src escs1 escs2 where
  kind := blockKindX_table c.base src h
  phase := fun inItem n => by
    unfold inlinePhaseL
    simp only [isRowNode_no_dash h, isCellNode_no_dash h, Bool.and_false, Bool.false_and, Bool.false_eq_true, if_false]
    rfl
  esc := fun n kids => by simp only [isCellNode_no_dash h, Bool.and_false, Bool.false_eq_true, if_false]
  kids := fun _ _ kids _ => lvAllL_true kids
  dec := fun ns h => inlineTreesL_lvAll { c with base := { c.base with table := true } }
    { c with base := { c.base with table := false } } rfl (.inl rfl) (.inl rfl) src ns h

theorem docTreeX_table (c : XCfg) (g : Bool) (env : Env) (src : Bytes) (h : (45 : UInt8) ∉ src) (escs : List Int) :
    ∀ (inItem : Bool) (t : GM.Blocks.Tree),
    docTreeX { c with table := true } g env src escs inItem t = docTreeX { c with table := false } g env src [] inItem t := by
  intro inItem t
  rw [← docTreeL_off, ← docTreeL_off]
  exact docTreeL_congr (sameTree_table { base := c, linkify := false } g env src h escs []) inItem t

theorem docTreesX_table (c : XCfg) (g : Bool) (env : Env) (src : Bytes) (h : (45 : UInt8) ∉ src) (escs : List Int) :
    ∀ (pi first : Bool) (ts : List GM.Blocks.Tree),
    docTreesX { c with table := true } g env src escs pi first ts = docTreesX { c with table := false } g env src [] pi first ts := by
  intro pi first ts
  rw [← docTreesL_off, ← docTreesL_off]
  exact docTreesL_congr (sameTree_table { base := c, linkify := false } g env src h escs []) pi first ts

theorem parseDocX_table (c : XCfg) (g : Bool) (uc : List (Nat × (Bool × Bool))) (src : Bytes) (h : (45 : UInt8) ∉ src) :
    parseDocX { c with table := true } g uc src = parseDocX { c with table := false } g uc src ∨
    parseDocX { c with table := true } g uc src = .error (.blocks .pre) := by
  unfold parseDocX
  rcases blockPhaseX_table_no_dash c g src h with hb | hb
  · left
    rw [hb]
    cases liftErr Err.blocks (blockPhaseX { c with table := false } g src) with
    | error e => rfl
    | ok st =>
      simp only [bind, Except.bind, Bool.false_eq_true, if_false, if_true]
      exact docTreeX_table c g _ src h _ _ _
  · right
    rw [hb]; rfl

/-- **Table is conservative at whole-document level**: a source without '-' converts to the same HTML / outcome with and
    without Table — any other members, any renderer options — unless the transformer's domain monitor answers `pre` -/
theorem convertX_table (c : XCfg) (uc : List (Nat × (Bool × Bool))) (o : ROpts) (src : Bytes) (h : (45 : UInt8) ∉ src) :
    convertX { c with table := true } uc o src = convertX { c with table := false } uc o src ∨
    convertX { c with table := true } uc o src = .error (.blocks .pre) := by
  unfold convertX convertXWith
  rcases parseDocX_table c true uc src h with hp | hp
  · left
    rw [hp]
    cases hq : parseDocX { c with table := false } true uc src with
    | error e => rfl
    | ok t =>
      simp only [bind, Except.bind]
      apply renderDocX_exts
      unfold parseDocX at hq
      obtain ⟨st, _, hq⟩ := Reader.bind_ok hq
      have hk := docTreeX_notTable { c with table := false } rfl true _ src _ _ _ t hq
      exact allKinds_mono (fun k hk => by
        simp only [beq_iff_eq]
        exact handled_table c.exts true false hk) t hk
  · right
    rw [hp]; rfl

end table
end GM.Proof.ConvertXRel
