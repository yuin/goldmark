/-
  GM.Proof.CMFragInl — the inline phase on a paragraph of "good" lines: exact symbolic execution of
  `GM.Inl.parseBlock` (one Text node per line). The end of a line with its last text atom, the reader anywhere in the
  line: `eol_step` for a line that another follows (soft break `line_step8`; hard break: `hard_step13`), `last_step8`
  for the last one.
-/
import GM.Proof.CMFragDefs
import GM.Proof.Inlines

namespace GM.Proof.CMFrag
open GM GM.Text GM.Inl

theorem sub_prefix (src : Bytes) (a n : Nat) (l : Bytes) (c : UInt8) (hl : l.length = n)
    (h : sub src a (a + n + 1) = l ++ [c]) : sub src a (a + n) = l := by
  unfold sub at *
  have h1 : a + n + 1 - a = n + 1 := by omega
  have h2 : a + n - a = n := by omega
  rw [h1] at h; rw [h2]
  have : List.take n (List.take (n + 1) (List.drop a src)) = List.take n (l ++ [c]) := by rw [h]
  rw [List.take_take] at this
  have hm : min n (n + 1) = n := by omega
  rw [hm] at this
  rw [this, ← hl]; simp

theorem sub_mid (pre l post : Bytes) : sub (pre ++ l ++ post) pre.length (pre.length + l.length) = l := by
  unfold sub
  have : pre.length + l.length - pre.length = l.length := by omega
  rw [this, List.append_assoc, List.drop_left, List.take_left]

/-- the lines `ls` sit in `src` from offset `p` on, every one but the last with its line feed; nothing is asked of
    what follows the last line -/
def LinesAtE (src : Bytes) : Nat → List Bytes → Prop
  | _, [] => True
  | p, [l] => sub src p (p + l.length) = l ∧ p + l.length ≤ src.length
  | p, l :: l' :: rest =>
    sub src p (p + l.length + 1) = l ++ [10] ∧ p + l.length + 1 ≤ src.length ∧
      LinesAtE src (p + l.length + 1) (l' :: rest)

theorem linesAtE_para : ∀ (ls : List Bytes) (pre post : Bytes), LinesAtE (pre ++ paraBytes ls ++ post) pre.length ls
  | [], _, _ => trivial
  | [l], pre, post => by
    have e : pre ++ paraBytes [l] ++ post = pre ++ l ++ (10 :: post) := by simp [paraBytes]
    rw [e]
    exact ⟨sub_mid pre l (10 :: post), by simp⟩
  | l :: l' :: rest, pre, post => by
    have e : pre ++ paraBytes (l :: l' :: rest) ++ post = pre ++ (l ++ [10]) ++ (paraBytes (l' :: rest) ++ post) := by
      simp [paraBytes]
    have e2 : pre ++ paraBytes (l :: l' :: rest) ++ post = (pre ++ (l ++ [10])) ++ paraBytes (l' :: rest) ++ post := by
      simp [paraBytes]
    have hl : (pre ++ (l ++ [10])).length = pre.length + l.length + 1 := by simp; omega
    refine ⟨?_, ?_, ?_⟩
    · have := sub_mid pre (l ++ [10]) (paraBytes (l' :: rest) ++ post)
      rw [e]
      simpa [Nat.add_assoc] using this
    · rw [e]; simp; omega
    · have := linesAtE_para (l' :: rest) (pre ++ (l ++ [10])) post
      rw [hl] at this
      rw [e2]
      exact this

/-- the `escaped` flag after the bytes `l` -/
def escAfter : Bytes → Bool → Bool
  | [], e => e
  | c :: cs, e => escAfter cs (!e && c == 92)

theorem escAfter_concat : ∀ (l : Bytes) (c : UInt8) (e : Bool), escAfter (l ++ [c]) e = (!(escAfter l e) && c == 92)
  | [], _, _ => rfl
  | _ :: cs, c, e => by simp only [List.cons_append, escAfter]; exact escAfter_concat cs c _

theorem isTrigger_env (env : Env) (henv : env.escapedSpace = false) (c : UInt8) (i : Nat) (e : Bool) :
    isTrigger env c i e = isTrigger {} c i e := by
  simp [isTrigger, henv]

theorem scan_quiet (env : Env) (henv : env.escapedSpace = false) :
    ∀ (l tail : Bytes) (i : Nat) (s : Inl.Scan), quiet l i s.escaped = true → (tail = [] ∨ tail.head? = some 10) →
      scan env (l ++ tail) i s = .ok (.eol { s with n := s.n + l.length, escaped := escAfter l s.escaped })
  | [], tail, i, s, _, ht => by
    rcases ht with rfl | ht
    · simp [scan, escAfter, pure, Except.pure]
    · cases tail with
      | nil => simp at ht
      | cons c cs =>
        simp at ht; subst ht
        simp [scan, escAfter, pure, Except.pure]
  | c :: cs, tail, i, s, hq, ht => by
    simp only [quiet, Bool.and_eq_true] at hq
    obtain ⟨⟨h10, htr⟩, hq⟩ := hq
    have h10' : (c == 10) = false := by simpa using h10
    simp only [List.cons_append, scan, h10', Bool.false_eq_true, if_false]
    rw [isTrigger_env env henv]
    have htr' : (isTrigger {} c i s.escaped && !(parsersFor (parserChar c i)).isEmpty) = false := by
      revert htr; cases (isTrigger {} c i s.escaped && !(parsersFor (parserChar c i)).isEmpty) <;> simp
    rw [htr']
    simp only [Bool.false_eq_true, if_false]
    have := scan_quiet env henv cs tail (i + 1) (bump c s) (by rw [GM.Proof.Inlines.bump_eq]; exact hq) ht
    rw [this, GM.Proof.Inlines.bump_eq]
    simp only [escAfter, List.length_cons, Int.natCast_add, Int.natCast_one]
    congr 3
    omega

theorem trailingBackslashes_concat (l0 : Bytes) (c : UInt8) (h : c ≠ 92) : trailingBackslashes (l0 ++ [c]) = 0 := by
  simp [trailingBackslashes, h]

theorem trimRight_concat (l0 : Bytes) (c : UInt8) (h : isSpace c = false) : trimRightSpaceLength (l0 ++ [c]) = 0 := by
  simp [trimRightSpaceLength, h]

theorem classify_lf (l0 : Bytes) (c : UInt8) (hs : isSpace c = false) (hb : c ≠ 92) :
    classify (l0 ++ [c] ++ [10]) = (l0.length + 2, 2) := by
  have h13 : c ≠ 13 := by intro h; subst h; simp [isSpace] at hs
  have h32 : c ≠ 32 := by intro h; subst h; simp [isSpace] at hs
  have e1 : (l0 ++ [c] ++ [10])[(l0 ++ [c] ++ [10]).length - 1]? = some 10 := by simp
  have e2 : (l0 ++ [c] ++ [10])[(l0 ++ [c] ++ [10]).length - 2]? = some c := by
    simp
  have e3 : List.take ((l0 ++ [c] ++ [10]).length - 1) (l0 ++ [c] ++ [10]) = l0 ++ [c] := by
    apply List.take_left'
    simp
  unfold classify
  simp only [e1, e2, e3, trailingBackslashes_concat l0 c hb]
  simp [h13, h32]

theorem classify_nolf (l0 : Bytes) (c : UInt8) (h : c ≠ 10) : classify (l0 ++ [c]) = (l0.length + 1, 0) := by
  have e1 : (l0 ++ [c])[(l0 ++ [c]).length - 1]? = some c := by simp
  unfold classify
  simp only [e1]
  simp [h]

/-- the block reader of the paragraph on line `j` at position `pos`, line start `head` -/
def rdAt (src : Bytes) (segs : List Segment) (L : Int) (j : Int) (pos : Segment) (head : Int) : BlockReader :=
  { source := src, segments := segs, segmentsLength := segs.length, line := j, pos := pos, head := head,
    last := L, lineOffset := -1 }

theorem sliceB_nat (src : Bytes) (p n : Nat) (h : p + n ≤ src.length) :
    sliceB src (p : Int) ((p : Int) + (n : Int)) = .ok (sub src p (p + n)) := by
  unfold sliceB
  rw [if_pos (by omega)]
  congr 2 <;> omega

theorem value_plain (src : Bytes) (a b : Int) : Segment.value { start := a, stop := b } src = sliceB src a b := by
  unfold Segment.value
  simp only [beq_self_eq_true, if_true, needsNewline, Bool.false_and, bind, Except.bind, pure, Except.pure]
  cases sliceB src a b <;> simp

example (p : Nat) (l l' : Bytes) (rest : List Bytes) : paraSegs p (l :: l' :: rest) =
  { start := (p:Int), stop := (p:Int) + (l.length:Int) + 1 } :: paraSegs (p + l.length + 1) (l' :: rest) := rfl
example (p : Nat) (l : Bytes) : paraSegs p [l] = [{ start := (p:Int), stop := (p:Int) + (l.length:Int) }] := rfl


theorem lineLoop_eol (env : Env) (fuel : Nat) (esc : Bool) (st st' : St) (line : Bytes) (seg : Segment)
    (s : Inl.Scan) (hp : st.rd.peekLine = .ok ((some line, seg), st.rd)) (hne : line.isEmpty = false)
    (hscan : scan env (line.take (classify line).1) 0 { st := st, n := 0, sp := st.rd.pos, escaped := esc } =
      .ok (.eol s))
    (heol : endOfLine (classify line).2 st.rd.line s = .ok st') (hesc : s.escaped = false) :
    lineLoop env (fuel + 1) esc st = lineLoop env fuel false st' := by
  -- `hesc` makes the statement independent of whether the model passes `s.escaped` or `false` to the next line
  rw [lineLoop]
  simp only [bind, Except.bind, hp, hne, BlockReader.position, hscan, heol]
  first | (simp; done) | (simp [hesc]; done)

theorem lineLoop_none (env : Env) (fuel : Nat) (esc : Bool) (st : St) (seg : Segment)
    (hp : st.rd.peekLine = .ok ((none, seg), st.rd)) :
    lineLoop env (fuel + 1) esc st = .ok st := by
  rw [lineLoop]
  simp only [bind, Except.bind, hp, pure, Except.pure]


theorem eolText_plain (src : Bytes) (flags p : Nat) (l l0 : Bytes) (c : UInt8) (ks : List Inl.Node)
    (hf : flags % 2 = 0) (hl : l = l0 ++ [c]) (hs : isSpace c = false)
    (hv : sliceB src (p : Int) ((p : Int) + l.length) = .ok l) :
    eolText src flags { start := p, stop := (p : Int) + l.length } ks =
      .ok ({ start := p, stop := (p : Int) + l.length }, ks) := by
  have ht : trimRightSpaceLength l = 0 := by rw [hl]; exact trimRight_concat l0 c hs
  have hlen0 : l.length ≠ 0 := by subst hl; simp
  unfold eolText
  simp only [hf, Segment.trimRightSpace, hv, ht, bind, Except.bind, pure, Except.pure]
  have : ((0 : Nat) == l.length) = false := by simp; omega
  simp only [this]
  simp [Segment.isEmpty]
  omega

theorem advanceLine_next (src : Bytes) (segs : List Segment) (L : Int) (j : Nat) (pos seg' : Segment) (hd : Int)
    (hnext : segs[j + 1]? = some seg') :
    (rdAt src segs L j pos hd).advanceLine = .ok (rdAt src segs L (j + 1) seg' seg'.start) := by
  have hj : j + 1 < segs.length := (List.getElem?_eq_some_iff.mp hnext).1
  unfold BlockReader.advanceLine BlockReader.setPosition
  simp only [rdAt, bind, Except.bind, pure, Except.pure]
  have h1 : ((j : Int) + 1 < (segs.length : Int)) := by omega
  have h2 : segAt segs ((j : Int) + 1) = .ok seg' := by
    unfold segAt
    rw [if_neg (by omega)]
    have : ((j : Int) + 1).toNat = j + 1 := by omega
    rw [this, hnext]
  simp [h1, h2]

theorem advance_fast (src : Bytes) (segs : List Segment) (L : Int) (j : Int) (a b hd n : Int) (h : n < b - a) :
    (rdAt src segs L j { start := a, stop := b } hd).advance n =
      .ok (rdAt src segs L j { start := a + n, stop := b } hd) := by
  unfold BlockReader.advance
  simp only [rdAt, beq_self_eq_true, and_true, if_pos h, pure, Except.pure]

/-- the end of a line that another line follows: the text in front of the line ending becomes a child with the break
    flags of `classify`; `het`: nothing is trimmed off it -/
theorem endOfLine_next (src : Bytes) (segs : List Segment) (L hd : Int) (j p n : Nat) (stop : Int) (flags : Nat)
    (seg' : Segment) (ks : List Inl.Node) (nid : Nat) (bs : List Bottom) (e : Bool)
    (hn : n ≠ 0) (hstop : (p : Int) + n < stop)
    (het : eolText src flags { start := p, stop := (p : Int) + n } ks = .ok ({ start := p, stop := (p : Int) + n }, ks))
    (hnext : segs[j + 1]? = some seg') :
    endOfLine flags j
      { st := { rd := rdAt src segs L j { start := p, stop := stop } hd, kids := ks, nextId := nid, bottoms := bs },
        n := n, sp := { start := p, stop := stop }, escaped := e } =
    .ok { rd := rdAt src segs L (j + 1) seg' seg'.start,
          kids := ks ++ [.text { start := p, stop := (p : Int) + n } (flags / 2 % 2 == 1) (flags % 2 == 1) false],
          nextId := nid, bottoms := bs } := by
  have hnn : (((n : Nat) : Int) != 0) = true := by simp; omega
  unfold endOfLine
  simp only [hnn, if_true, bind, Except.bind]
  rw [advance_fast _ _ _ _ _ _ _ _ (by omega)]
  simp only [BlockReader.position, rdAt, bne_self_eq_false, Bool.false_eq_true, if_false, Segment.between]
  simp only [Int.sub_self, pure, Except.pure]
  rw [het]
  have ha := advanceLine_next src segs L j { start := (p : Int) + n, stop := stop } seg' hd hnext
  simp only [rdAt] at ha
  simp only [ha]

theorem escAfter_good (l l0 : Bytes) (c : UInt8) (hl : l = l0 ++ [c]) (hb : c ≠ 92) (e : Bool) :
    escAfter l e = false := by
  subst hl
  rw [escAfter_concat]
  simp [hb]

/-- the last text atom `l` of a line that another line follows, the reader anywhere in the line. `tl` is the line ending
    in the source (`\n`, or `\\\n` for a hard break), `t'` what `classify` leaves of it for the byte loop -/
theorem eol_step (env : Env) (henv : env.escapedSpace = false) (src : Bytes) (segs : List Segment) (L hd : Int)
    (j p : Nat) (l l0 : Bytes) (c : UInt8) (tl t' : Bytes) (n' flags : Nat) (stop : Int) (seg' : Segment)
    (ks : List Inl.Node) (nid : Nat) (bs : List Bottom) (fuel : Nat)
    (hl : l = l0 ++ [c]) (hb : c ≠ 92) (hq : quiet l 0 false = true) (htl : tl ≠ [])
    (hcl : classify (l ++ tl) = (n', flags)) (htk : (l ++ tl).take n' = l ++ t') (ht' : t' = [] ∨ t'.head? = some 10)
    (het : eolText src flags { start := p, stop := (p : Int) + l.length } ks =
      .ok ({ start := p, stop := (p : Int) + l.length }, ks))
    (hstop : stop = ((p + (l.length + tl.length) : Nat) : Int))
    (hsub : sub src p (p + (l.length + tl.length)) = l ++ tl) (hlen : p + (l.length + tl.length) ≤ src.length)
    (hL : (p : Int) < L) (hnext : segs[j + 1]? = some seg') :
    lineLoop env (fuel + 1) false
      { rd := rdAt src segs L j { start := p, stop := stop } hd, kids := ks, nextId := nid, bottoms := bs } =
    lineLoop env fuel false
      { rd := rdAt src segs L (j + 1) seg' seg'.start,
        kids := ks ++ [.text { start := p, stop := (p : Int) + l.length } (flags / 2 % 2 == 1) (flags % 2 == 1) false],
        nextId := nid, bottoms := bs } := by
  subst hstop
  have htll : 0 < tl.length := List.length_pos_iff.mpr htl
  have hv : sliceB src (p : Int) ((p + (l.length + tl.length) : Nat) : Int) = .ok (l ++ tl) := by
    rw [Int.natCast_add, sliceB_nat src p _ hlen, hsub]
  have hlive : (rdAt src segs L j { start := p, stop := ((p + (l.length + tl.length) : Nat) : Int) } hd).live = true := by
    have : j < segs.length := by
      have := (List.getElem?_eq_some_iff.mp hnext).1; omega
    simp [BlockReader.live, rdAt, this, hL]
  have hsc := scan_quiet env henv l t' 0
    { st := { rd := rdAt src segs L j { start := p, stop := ((p + (l.length + tl.length) : Nat) : Int) } hd, kids := ks,
              nextId := nid, bottoms := bs },
      n := 0, sp := { start := p, stop := ((p + (l.length + tl.length) : Nat) : Int) }, escaped := false } hq ht'
  rw [escAfter_good l l0 c hl hb] at hsc
  simp only [Int.zero_add] at hsc
  refine lineLoop_eol env fuel false _ _ (l ++ tl) { start := p, stop := ((p + (l.length + tl.length) : Nat) : Int) }
    { st := { rd := rdAt src segs L j { start := p, stop := ((p + (l.length + tl.length) : Nat) : Int) } hd, kids := ks,
              nextId := nid, bottoms := bs },
      n := l.length, sp := { start := p, stop := ((p + (l.length + tl.length) : Nat) : Int) }, escaped := false }
    ?_ ?_ ?_ ?_ rfl
  · simp only [BlockReader.peekLine, hlive, if_true, bind, Except.bind, pure, Except.pure]
    simp only [rdAt, value_plain, hv]
  · subst hl; simp
  · rw [hcl]
    simp only [htk]
    exact hsc
  · rw [hcl]
    exact endOfLine_next src segs L hd j p l.length _ flags seg' ks nid bs false (by subst hl; simp)
      (by push_cast; omega) het hnext

theorem line_step8 (env : Env) (henv : env.escapedSpace = false) (src : Bytes) (segs : List Segment) (L hd : Int)
    (j p : Nat) (l l0 : Bytes) (c : UInt8) (seg' : Segment) (ks : List Inl.Node) (nid : Nat) (bs : List Bottom)
    (fuel : Nat) (hl : l = l0 ++ [c]) (hs : isSpace c = false) (hb : c ≠ 92) (hq : quiet l 0 false = true)
    (hsub : sub src p (p + l.length + 1) = l ++ [10]) (hlen : p + l.length + 1 ≤ src.length)
    (hL : (p : Int) < L) (hnext : segs[j + 1]? = some seg') :
    lineLoop env (fuel + 1) false
      { rd := rdAt src segs L j { start := p, stop := (p : Int) + l.length + 1 } hd, kids := ks, nextId := nid,
        bottoms := bs } =
    lineLoop env fuel false
      { rd := rdAt src segs L (j + 1) seg' seg'.start,
        kids := ks ++ [.text { start := p, stop := (p : Int) + l.length } true false false], nextId := nid,
        bottoms := bs } := by
  have hv : sliceB src (p : Int) ((p : Int) + l.length) = .ok l := by
    rw [sliceB_nat src p l.length (by omega), sub_prefix src p l.length l 10 rfl hsub]
  exact eol_step env henv src segs L hd j p l l0 c [10] [10] (l.length + 1) 2 _ seg' ks nid bs fuel hl hb hq (by simp)
    (by rw [hl, classify_lf l0 c hs hb]; simp) (List.take_of_length_le (by simp)) (Or.inr rfl)
    (eolText_plain src 2 p l l0 c ks rfl hl hs hv) (by simp; omega) hsub hlen hL hnext

theorem line_step (env : Env) (henv : env.escapedSpace = false) (src : Bytes) (segs : List Segment) (L : Int)
    (j p : Nat) (l l0 : Bytes) (c : UInt8) (seg' : Segment) (ks : List Inl.Node) (nid : Nat) (bs : List Bottom)
    (fuel : Nat) (hl : l = l0 ++ [c]) (hs : isSpace c = false) (hb : c ≠ 92) (hq : quiet l 0 false = true)
    (hsub : sub src p (p + l.length + 1) = l ++ [10]) (hlen : p + l.length + 1 ≤ src.length)
    (hL : (p : Int) < L) (hnext : segs[j + 1]? = some seg') :
    lineLoop env (fuel + 1) false
      { rd := rdAt src segs L j { start := p, stop := (p : Int) + l.length + 1 } p, kids := ks, nextId := nid,
        bottoms := bs } =
    lineLoop env fuel false
      { rd := rdAt src segs L (j + 1) seg' seg'.start,
        kids := ks ++ [.text { start := p, stop := (p : Int) + l.length } true false false], nextId := nid,
        bottoms := bs } :=
  line_step8 env henv src segs L p j p l l0 c seg' ks nid bs fuel hl hs hb hq hsub hlen hL hnext

theorem advanceLoop_last (src : Bytes) (segs : List Segment) (j b hd : Int) :
    ∀ (n : Nat) (a : Int), (rdAt src segs b j { start := a, stop := b } hd).advanceLoop n =
      .ok (rdAt src segs b j { start := a + n, stop := b } hd)
  | 0, a => by simp [BlockReader.advanceLoop, pure, Except.pure]
  | n + 1, a => by
    unfold BlockReader.advanceLoop
    have h := advanceLoop_last src segs j b hd n (a + 1)
    simp only [rdAt] at h ⊢
    simp only [bne_self_eq_false, Bool.false_eq_true, if_false, Int.lt_irrefl, and_false]
    rw [h]
    have : a + 1 + (n : Int) = a + ((n + 1 : Nat) : Int) := by omega
    rw [this]

theorem advanceLine_end (src : Bytes) (segs : List Segment) (L : Int) (j : Nat) (pos : Segment) (hd : Int)
    (hj : j + 1 = segs.length) :
    (rdAt src segs L j pos hd).advanceLine = .ok (rdAt src segs L (j + 1) pos pos.start) := by
  unfold BlockReader.advanceLine BlockReader.setPosition
  simp only [rdAt, bind, Except.bind, pure, Except.pure]
  have h1 : ¬ ((j : Int) + 1 < (segs.length : Int)) := by omega
  simp [h1]

theorem endOfLine_last8 (src : Bytes) (segs : List Segment) (hd : Int)
    (j p : Nat) (l l0 : Bytes) (c : UInt8) (ks : List Inl.Node) (nid : Nat) (bs : List Bottom)
    (e : Bool) (hl : l = l0 ++ [c]) (hs : isSpace c = false)
    (hsub : sub src p (p + l.length) = l) (hlen : p + l.length ≤ src.length)
    (hj : j + 1 = segs.length) :
    endOfLine 0 j
      { st := { rd := rdAt src segs ((p : Int) + l.length) j { start := p, stop := (p : Int) + l.length } hd, kids := ks, nextId := nid, bottoms := bs },
        n := l.length, sp := { start := p, stop := (p : Int) + l.length }, escaped := e } =
    .ok { rd := rdAt src segs ((p : Int) + l.length) (j + 1) { start := (p : Int) + l.length, stop := (p : Int) + l.length } ((p : Int) + l.length),
          kids := ks ++ [.text { start := p, stop := (p : Int) + l.length } false false false], nextId := nid,
          bottoms := bs } := by
  have hlen0 : l.length ≠ 0 := by subst hl; simp
  have hv : sliceB src (p : Int) ((p : Int) + l.length) = .ok l := by
    rw [sliceB_nat src p l.length hlen, hsub]
  have hn : (((l.length : Nat) : Int) != 0) = true := by simp; intro h; simp [h] at hlen0
  have hadv : (rdAt src segs ((p : Int) + l.length) j { start := p, stop := (p : Int) + l.length } hd).advance l.length
      = .ok (rdAt src segs ((p : Int) + l.length) j { start := (p : Int) + l.length, stop := (p : Int) + l.length } hd) := by
    unfold BlockReader.advance
    have hlt : ¬ (((l.length : Nat) : Int) < (p : Int) + l.length - p) := by omega
    simp only [rdAt, hlt, false_and, if_false, Int.toNat_natCast]
    exact advanceLoop_last src segs j _ hd l.length p
  unfold endOfLine
  simp only [hn, if_true, bind, Except.bind, hadv]
  simp only [BlockReader.position, rdAt, bne_self_eq_false, Bool.false_eq_true, if_false, Segment.between]
  simp only [Int.sub_self, pure, Except.pure]
  rw [eolText_plain src 0 p l l0 c ks rfl hl hs hv]
  have ha := advanceLine_end src segs ((p : Int) + l.length) j
    { start := (p : Int) + l.length, stop := (p : Int) + l.length } hd hj
  simp only [rdAt] at ha
  simp only [ha]
  rfl

theorem last_step8 (env : Env) (henv : env.escapedSpace = false) (src : Bytes) (segs : List Segment) (hd : Int)
    (j p : Nat) (l l0 : Bytes) (c : UInt8) (ks : List Inl.Node) (nid : Nat) (bs : List Bottom)
    (fuel : Nat) (hl : l = l0 ++ [c]) (hs : isSpace c = false) (hb : c ≠ 92) (hq : quiet l 0 false = true)
    (hsub : sub src p (p + l.length) = l) (hlen : p + l.length ≤ src.length) (hj : j + 1 = segs.length) :
    lineLoop env (fuel + 2) false
      { rd := rdAt src segs ((p : Int) + l.length) j { start := p, stop := (p : Int) + l.length } hd, kids := ks, nextId := nid, bottoms := bs } =
    .ok { rd := rdAt src segs ((p : Int) + l.length) (j + 1) { start := (p : Int) + l.length, stop := (p : Int) + l.length } ((p : Int) + l.length),
          kids := ks ++ [.text { start := p, stop := (p : Int) + l.length } false false false], nextId := nid, bottoms := bs } := by
  have hlen0 : l.length ≠ 0 := by subst hl; simp
  have hv : sliceB src (p : Int) ((p : Int) + l.length) = .ok l := by
    rw [sliceB_nat src p l.length hlen, hsub]
  have hlive : (rdAt src segs ((p : Int) + l.length) j { start := p, stop := (p : Int) + l.length } hd).live = true := by
    have : j < segs.length := by omega
    simp only [BlockReader.live, rdAt]
    have h2 : (p : Int) < (p : Int) + l.length := by omega
    simp [this, h2]
  have hc10 : c ≠ 10 := by intro h; subst h; simp [isSpace] at hs
  have hcl : classify l = (l.length, 0) := by
    rw [hl, classify_nolf l0 c hc10]; simp
  have hsc := scan_quiet env henv l [] 0
    { st := { rd := rdAt src segs ((p : Int) + l.length) j { start := p, stop := (p : Int) + l.length } hd, kids := ks, nextId := nid, bottoms := bs },
      n := 0, sp := { start := p, stop := (p : Int) + l.length }, escaped := false } hq (Or.inl rfl)
  rw [escAfter_good l l0 c hl hb] at hsc
  simp only [Int.zero_add, List.append_nil] at hsc
  have heol := endOfLine_last8 src segs hd j p l l0 c ks nid bs false hl hs hsub hlen hj
  rw [lineLoop_eol env (fuel + 1) false _ _ l { start := p, stop := (p : Int) + l.length }
    { st := { rd := rdAt src segs ((p : Int) + l.length) j { start := p, stop := (p : Int) + l.length } hd, kids := ks, nextId := nid, bottoms := bs },
      n := l.length, sp := { start := p, stop := (p : Int) + l.length }, escaped := false } ?_ ?_ ?_ ?_ rfl]
  · apply lineLoop_none env fuel false _ { start := (p : Int) + l.length, stop := (p : Int) + l.length }
    have hnl : (rdAt src segs ((p : Int) + l.length) (j + 1) { start := (p : Int) + l.length, stop := (p : Int) + l.length } ((p : Int) + l.length)).live = false := by
      have : ¬ ((j : Int) + 1 < (segs.length : Int)) := by omega
      simp [BlockReader.live, rdAt, this]
    simp only [BlockReader.peekLine, hnl, Bool.false_eq_true, if_false, pure, Except.pure]
    rfl
  · simp only [BlockReader.peekLine, hlive, if_true, bind, Except.bind, pure, Except.pure]
    simp only [rdAt, value_plain, hv]
  · cases l with
    | nil => simp at hlen0
    | cons _ _ => rfl
  · rw [hcl]
    simp only [List.take_length]
    exact hsc
  · rw [hcl]
    exact heol

theorem last_step (env : Env) (henv : env.escapedSpace = false) (src : Bytes) (segs : List Segment)
    (j p : Nat) (l l0 : Bytes) (c : UInt8) (ks : List Inl.Node) (nid : Nat) (bs : List Bottom)
    (fuel : Nat) (hl : l = l0 ++ [c]) (hs : isSpace c = false) (hb : c ≠ 92) (hq : quiet l 0 false = true)
    (hsub : sub src p (p + l.length) = l) (hlen : p + l.length ≤ src.length) (hj : j + 1 = segs.length) :
    lineLoop env (fuel + 2) false
      { rd := rdAt src segs ((p : Int) + l.length) j { start := p, stop := (p : Int) + l.length } p, kids := ks, nextId := nid, bottoms := bs } =
    .ok { rd := rdAt src segs ((p : Int) + l.length) (j + 1) { start := (p : Int) + l.length, stop := (p : Int) + l.length } ((p : Int) + l.length),
          kids := ks ++ [.text { start := p, stop := (p : Int) + l.length } false false false], nextId := nid, bottoms := bs } :=
  last_step8 env henv src segs p j p l l0 c ks nid bs fuel hl hs hb hq hsub hlen hj

theorem good_concat {l : Bytes} (h : GoodLine l) :
    ∃ l0 c, l = l0 ++ [c] ∧ isSpace c = false ∧ c ≠ 92 := by
  rcases List.eq_nil_or_concat l with h0 | ⟨l0, c, hl⟩
  · exact absurd h0 h.ne
  · have hl : l = l0 ++ [c] := by simpa using hl
    exact ⟨l0, c, hl, h.lastNoSpace c (by simp [hl]), h.lastNoBs c (by simp [hl])⟩

theorem new_eq (src : Bytes) (segs : List Segment) (s0 sl : Segment) (h0 : segs[0]? = some s0)
    (hl : segs[segs.length - 1]? = some sl) :
    BlockReader.new src segs = .ok (rdAt src segs sl.stop 0 s0 s0.start) := by
  have hpos : 0 < segs.length := (List.getElem?_eq_some_iff.mp h0).1
  have hlast : segAt segs ((segs.length : Int) - 1) = .ok sl := by
    unfold segAt
    rw [if_neg (by omega)]
    have : ((segs.length : Int) - 1).toNat = segs.length - 1 := by omega
    rw [this, hl]
  have hfirst : segAt segs 0 = .ok s0 := by
    unfold segAt
    simp [h0]
  have hgt : ((segs.length : Int) > 0) := by omega
  unfold BlockReader.new BlockReader.resetPosition BlockReader.advanceLine BlockReader.setPosition
  simp only [hgt, if_true, hlast, bind, Except.bind, pure, Except.pure]
  simp [hfirst, rdAt, hpos]

/-- `P` if the node is a Text, False otherwise -/
def textOr (P : Prop) : Inl.Node → Prop
  | .text .. => P
  | _ => False

/-- every node is a Text -/
def allText : List Inl.Node → Prop
  | [] => True
  | n :: rest => textOr (allText rest) n

theorem textOr_iff (P : Prop) (n : Inl.Node) : textOr P n ↔ (GM.Proof.Inlines.isText n = true ∧ P) := by
  cases n <;> simp [textOr, GM.Proof.Inlines.isText]

theorem allText_iff : ∀ (ks : List Inl.Node), allText ks ↔ ∀ n ∈ ks, GM.Proof.Inlines.isText n = true
  | [] => by simp [allText]
  | n :: rest => by simp [allText, textOr_iff, allText_iff rest]

theorem splitFirstDelim_noDelim : ∀ (l : List Inl.Node), (∀ n ∈ l, n.isDelim = false) → splitFirstDelim l = none
  | [], _ => rfl
  | n :: rest, h => by
    have ih := splitFirstDelim_noDelim rest (fun x hx => h x (by simp [hx]))
    have hn := h n (by simp)
    cases n with
    | delim => cases hn
    | _ => simp only [splitFirstDelim, ih]

theorem processDelimiters_noDelim (ks : List Inl.Node) (h : ∀ n ∈ ks, n.isDelim = false) :
    processDelimiters .nil ks = .ok ks := by
  unfold processDelimiters splitLastDelim
  rw [splitFirstDelim_noDelim _ (fun n hn => h n (by simpa using hn))]

mutual
/-- `CloseBlock` of the link parser changes nothing where no label is left -/
theorem closeLabels_id : ∀ (n : Inl.Node), hasLabel n = false → closeLabels n = n
  | .text .., _ => rfl
  | .codeSpan ks, h => by simp only [hasLabel] at h; simp only [closeLabels, closeLabelsL_id ks h]
  | .emphasis _ ks, h => by simp only [hasLabel] at h; simp only [closeLabels, closeLabelsL_id ks h]
  | .link _ _ _ ks, h => by simp only [hasLabel] at h; simp only [closeLabels, closeLabelsL_id ks h]
  | .autoLink .., _ => rfl
  | .rawHTML .., _ => rfl
  | .delim .., _ => rfl
  | .label .., h => by simp [hasLabel] at h
theorem closeLabelsL_id : ∀ (ks : List Inl.Node), hasLabelL ks = false → closeLabelsL ks = ks
  | [], _ => rfl
  | n :: rest, h => by
    simp only [hasLabelL, Bool.or_eq_false_iff] at h
    simp only [closeLabelsL, closeLabels_id n h.1, closeLabelsL_id rest h.2]
end

theorem hasLabel_of_text {n : Inl.Node} (h : GM.Proof.Inlines.isText n = true) : hasLabel n = false := by
  cases n <;> first | rfl | cases h

theorem hasLabelL_of_text : ∀ (ks : List Inl.Node), (∀ n ∈ ks, GM.Proof.Inlines.isText n = true) → hasLabelL ks = false
  | [], _ => rfl
  | n :: rest, h => by
    simp only [hasLabelL, hasLabel_of_text (h n (by simp)), hasLabelL_of_text rest (fun x hx => h x (by simp [hx])),
      Bool.or_self]

theorem processDelimiters_text (ks : List Inl.Node) (h : allText ks) : processDelimiters .nil ks = .ok ks :=
  processDelimiters_noDelim ks fun n hn => by
    have := (allText_iff ks).mp h n hn
    cases n <;> first | rfl | cases this

theorem closeLabelsL_text (ks : List Inl.Node) (h : allText ks) : closeLabelsL ks = ks :=
  closeLabelsL_id ks (hasLabelL_of_text ks ((allText_iff ks).mp h))

theorem paraBytes_length : ∀ (ls : List Bytes), ls.length ≤ (paraBytes ls).length
  | [] => Nat.le_refl _
  | l :: rest => by
    have := paraBytes_length rest
    simp only [paraBytes, List.flatMap_cons, List.length_append, List.length_cons, List.length_nil] at this ⊢
    omega

end GM.Proof.CMFrag
