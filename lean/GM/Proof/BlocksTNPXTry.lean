/-
  GM.Proof.BlocksTNPXTry — one parser attempt of `tryParsersC cls` INCLUDING the RequireParagraph path (parser.go:985-997), for the
  wide transformer contract `PTsSpecX` and any `cls` with `CloseLike`: `last == parent.LastChild()` holds (the ELSE branch is
  dead: `LK` of the last opened leaf, GM.Proof.BlocksTNPTree), `paragraph.Close`, pop, `transformParagraph`: KEEP goes on as before
  through `MidL.keepStep` (a KEEP call may attach fresh subtrees, so `TreeSame` is not available), GONE answers
  `.retryTransformed` (popped stack, stale key, abandoned heading node). Then `tryParsersC` under a non-List / a List parent.
  Namespace `L.G` holds what does not mention the contract.
-/
import GM.Proof.BlocksTNPXClose
import GM.Proof.BlocksTNPNoBar
import GM.Proof.BlocksOrdPar
import GM.Proof.BlocksBP

namespace GM.Blocks.L.G
open GM GM.Text GM.Spec GM.Proof.Reader GM.Blocks.T GM.Blocks.TR

/-- every row of the trigger table ends in the parsers that need no trigger -/
theorem triggered_getD (ch : UInt8) : ∃ p, (triggered ch).getD freeParsers = p ++ freeParsers := by
  cases h : triggered ch with
  | none => exact ⟨[], rfl⟩
  | some l =>
    rcases triggered_cases h with rfl | rfl | rfl | rfl | rfl | rfl | rfl | rfl | rfl <;> exact ⟨_, rfl⟩

theorem para_mem_triggered (ch : UInt8) : BP.paragraph ∈ (triggered ch).getD freeParsers := by
  obtain ⟨p, hp⟩ := triggered_getD ch
  rw [hp]
  exact List.mem_append_right p (by decide)

theorem dropLast_ne {α} (l : List α) (h : l ≠ []) : l.dropLast ≠ l := by
  intro e
  have := congrArg List.length e
  rw [List.length_dropLast] at this
  have : l.length ≠ 0 := fun h0 => h (List.length_eq_zero_iff.1 h0)
  omega

/-- what `tryParsersC` hands back; `sb` = the state it started in -/
def TPPostG (src : Bytes) (old pre : List Block) (root : Nat) (s0 sb : St) (c : RCur) (PP : Prop) (newb : List Block) (w : Int)
    (x : TryOutcomeT × OpenResult × Option Block) (s' : St) : Prop :=
  ∃ c' new', RI src s'.r c' ∧ PadOK c' ∧ c.p ≤ c'.p ∧ WinL src old pre root s0 s' new' ∧
    ((x.2.1 = .noBlocksOpened ∧ new' = [] ∧ (s'.pc.opened = old → x.2.2 = old.getLast?)) ∨
      (x.2.1 = .newBlocksOpened ∧ new' ≠ [])) ∧
    (∀ k ∈ new', ∀ b ∈ old, CompatT s' k b) ∧ TL s' ∧
    (∀ k ∈ new', k.bp = .setext → s'.pc.opened = old.dropLast ++ new') ∧
    (∀ y, new'.getLast? = some y → y.bp.isContainer = false → LK s' y.node (lastNode root (pre ++ new'.dropLast))) ∧
    (new' = [] → x.1 = .done → s'.pc.opened = sb.pc.opened) ∧
    (PP → s'.pc.opened = old.dropLast ++ new') ∧ (new' = [] → newb = []) ∧
    (PP → x.1 ≠ .retryTransformed → new' ≠ []) ∧
    match x.1 with
    | .retry p => (∀ b ∈ new', b.bp.isContainer = true) ∧ p = lastNode root (pre ++ new') ∧
        ((c.p < c'.p ∧ (nd s' p).kind ≠ .list) ∨ (c' = c ∧ DueNew src sb s' c p)) ∧ new' ≠ []
    | .retryTransformed => new' = [] ∧ old ≠ [] ∧ s'.pc.opened = old.dropLast ∧ sb.pc.opened = old ∧ lastIsList sb = false ∧
        (∃ lb, old.getLast? = some lb ∧ lb.bp = .paragraph) ∧ (nd s' (lastNode root (pre ++ []))).kind ≠ .list ∧ c' = c ∧
        (∃ ch, matchesSetextHeadingBar ((RCur.view src c).getD []) = .ok (ch, true)) ∧ ¬ w > 3
    | .done => Leafy new' ∧ (nd s' (lastNode root (pre ++ new'))).kind ≠ .list

variable {e : Panic} {pts : List PT} {PP : Prop}

theorem tryTailL_okl {newb : List Block} {w : Int} {src : Bytes} {old pre : List Block} {root : Nat} {s0 sb : St} {c c' : RCur} (parent id : Nat) (bp : BP)
    (st : PState) (lb0 : Option Block) (s : St) (new : List Block) (hm : MidL src old pre root s0 id bp s new)
    (hq : parent = lastNode root (pre ++ new))
    (hw0 : ∀ b ∈ old, b.node < s0.nodes.length) (hleafy : Leafy old) (hfresh : ∀ b ∈ new, s0.nodes.length ≤ b.node)
    (hallc : ∀ b ∈ new, b.bp.isContainer = true)
    (hri : RI src s.r c') (hpad : PadOK c') (hle : c.p ≤ c'.p)
    (hprog : st.hasChildren = true → (c.p < c'.p ∧ bp ≠ .list) ∨ (c' = c ∧ bp = .list))
    (hkids : st.hasChildren = true → bp.isContainer = true)
    (hP1 : (nd s parent).kind = .list → bp = .listItem) (hP1' : bp = .listItem → (nd s parent).kind = .list)
    (hlistHC : bp = .list → st.hasChildren = true) (hdue : bp = .list → DueFacts src sb c)
    (htl : TL s) (hsp : bp = .setext → s.pc.opened = old.dropLast ++ new)
    (hpp : PP → s.pc.opened = old.dropLast ++ new) :
    OKE e (TPPostG src old pre root s0 sb c PP newb w)
      ((do
        appendChild parent id
        modPc fun pc => { pc with opened := pc.opened ++ [{ node := id, bp := bp }] }
        if st.hasChildren then return (TryOutcomeT.retry id, OpenResult.newBlocksOpened, lb0)
        return (TryOutcomeT.done, OpenResult.newBlocksOpened, lb0) : M _) s) := by
  obtain ⟨hqid, hqlt⟩ := hm.parent_lt
  rw [← hq] at hqid hqlt
  have hidlt : id < s.nodes.length := hm.nb.lt
  simp only [bind, StateT.bind, appendChild_fresh parent id s hm.idpar, Except.bind, modPc, pure, StateT.pure, Except.pure]
  have hlkt := lk_appendChild_new parent id s _ hm.tree hm.idpar hidlt hqlt (L.appendChild_fresh parent id s hm.idpar)
  generalize hs1 : (upd (upd s parent fun n => { n with children := n.children ++ [id] }) id
      fun n => { n with parent := some parent }) = s1 at hlkt ⊢
  have hf : FrameEq s s1 := by
    rw [← hs1]
    exact (upd_frame s parent (f := fun n => { n with children := n.children ++ [id] }) (fun n => ⟨rfl, rfl, rfl⟩)).trans
      (upd_frame _ id (f := fun n => { n with parent := some parent }) (fun n => ⟨rfl, rfl, rfl⟩))
  have hlen1 : (upd s parent fun n => { n with children := n.children ++ [id] }).nodes.length = s.nodes.length := by
    simp [upd]
  have hnd_id : nd s1 id = { nd s id with parent := some parent } := by
    rw [← hs1, nd_upd, if_pos ⟨rfl, by rw [hlen1]; exact hidlt⟩, nd_upd, if_neg (by intro h; omega)]
  have hnd_q : nd s1 parent = { nd s parent with children := (nd s parent).children ++ [id] } := by
    rw [← hs1, nd_upd, if_neg (by intro h; omega), nd_upd, if_pos ⟨rfl, hqlt⟩]
  have hnd_o : ∀ j, j ≠ id → j ≠ parent → nd s1 j = nd s j := by
    intro j h1 h2
    rw [← hs1, nd_upd, if_neg (by intro h; exact h1 h.1.symm), nd_upd, if_neg (by intro h; exact h2 h.1.symm)]
  have hkind1 : ∀ j, (nd s1 j).kind = (nd s j).kind := fun j => (hf.same j).1
  have hpar1 : ∀ j, j ≠ id → (nd s1 j).parent = (nd s j).parent := by
    intro j hj
    by_cases h2 : j = parent
    · rw [h2, hnd_q]
    · rw [hnd_o j hj h2]
  have hch1 : ∀ j, j ≠ parent → (nd s1 j).children = (nd s j).children := by
    intro j hj
    by_cases h2 : j = id
    · rw [h2, hnd_id]
    · rw [hnd_o j h2 hj]
  have hoff1 : ∀ j, (nd s1 j).offset = (nd s j).offset := by
    intro j
    by_cases h1 : j = id
    · rw [h1, hnd_id]
    · by_cases h2 : j = parent
      · rw [h2, hnd_q]
      · rw [hnd_o j h1 h2]
  -- the final state
  generalize hs2 : ({ r := s1.r, nodes := s1.nodes, pc := { s1.pc with opened := s1.pc.opened ++ [{ node := id, bp := bp }] } } : St) = s2
  have hr2 : s2.r = s.r := by rw [← hs2]; exact hf.r
  have hn2 : s2.nodes = s1.nodes := by rw [← hs2]
  have hop2 : s2.pc.opened = s.pc.opened ++ [{ node := id, bp := bp }] := by rw [← hs2]; simp only; rw [hf.pc]
  have htmp2 : s2.pc.tmpPara = s.pc.tmpPara := by rw [← hs2]; simp only; rw [hf.pc]
  have hfen2 : s2.pc.fence = s.pc.fence := by rw [← hs2]; simp only; rw [hf.pc]
  have hnd2 : ∀ j, nd s2 j = nd s1 j := fun j => by simp only [nd, hn2]
  have hext : Ext s s2 := by
    have := hf.ext
    exact ⟨by rw [hn2]; exact this.len, fun j hj => by rw [hnd2]; exact this.kind j hj,
      fun j hj hk hl => by rw [hnd2]; exact this.linesNE j hj hk hl⟩
  have hnodes2 : NodesOK src s2 := by
    have := hf.nodesOK hm.nodes
    intro n hn; rw [hn2] at hn; exact this n hn
  have hkeys2 : W.KeysOKF s2 := hm.keys.ext hext (.inl htmp2) (.inl hfen2)
  have hbok : ∀ b, BlockOK s b → BlockOK s2 b := fun b hb =>
    hb.ext hext (fun hp => by rw [htmp2]; exact (hb.setext hp).2) (fun hp => by rw [hfen2]; exact hb.fenced hp)
  have hkidq : (nd s parent).kind = .list → (nd s id).kind = .listItem := fun h => by rw [hm.nb.kind, hP1 h]; rfl
  -- the list part of the store
  have hls2 : LStore s2 root := by
    refine ⟨⟨?_, ?_, ?_⟩, ?_, by rw [hnd2, hkind1]; exact hm.ls.rootKind, by rw [hn2, hf.len]; exact hm.ls.rootLt, ?_, ?_⟩
    · intro i lc hk hmem
      rw [hnd2, hkind1] at hk
      rw [hnd2] at hmem
      by_cases hi : i = parent
      · rw [hi, hnd_q] at hmem
        simp only [List.mem_append, List.mem_singleton] at hmem
        rcases hmem with hmem | hmem
        · obtain ⟨a, b⟩ := hm.ls.kids.kids i lc hk (by rw [hi]; exact hmem)
          exact ⟨by rw [hn2, hf.len]; exact a, by rw [hnd2, hkind1]; exact b⟩
        · rw [hmem]
          exact ⟨by rw [hn2, hf.len]; exact hidlt, by rw [hnd2, hkind1]; exact hkidq (hi ▸ hk)⟩
      · rw [hch1 i hi] at hmem
        obtain ⟨a, b⟩ := hm.ls.kids.kids i lc hk hmem
        exact ⟨by rw [hn2, hf.len]; exact a, by rw [hnd2, hkind1]; exact b⟩
    · intro i hk
      rw [hnd2, hkind1] at hk
      rw [hnd2, hoff1]
      exact hm.ls.kids.off i hk
    · intro i p hp hk
      rw [hnd2] at hp
      rw [hnd2, hkind1] at hk ⊢
      by_cases hi : i = id
      · rw [hi, hnd_id] at hp
        simp only [Option.some.injEq] at hp
        rw [← hp] at hk
        rw [hi]; exact hkidq hk
      · rw [hpar1 i hi] at hp
        exact hm.ls.kids.pk i p hp hk
    · intro i p hp
      rw [hnd2] at hp
      rw [hn2, hf.len]
      by_cases hi : i = id
      · rw [hi, hnd_id] at hp
        simp only [Option.some.injEq] at hp
        rw [← hp]; exact hqlt
      · rw [hpar1 i hi] at hp
        exact hm.ls.plt i p hp
    · intro b hb hc
      rw [hop2] at hb
      rw [hnd2]
      rcases List.mem_append.1 hb with hb | hb
      · rw [hpar1 b.node (by have := hm.idgt b hb; omega)]
        exact hm.ls.attached b hb hc
      · simp only [List.mem_singleton] at hb; subst hb
        simp only; rw [hnd_id]; rfl
    · rw [hop2, List.map_append, ← List.cons_append]
      refine List.pairwise_append.2 ⟨hm.ls.incr, by simp, ?_⟩
      intro a ha b hb
      simp only [List.map_cons, List.map_nil, List.mem_singleton] at hb
      subst hb
      simp only [List.mem_cons, List.mem_map] at ha
      rcases ha with rfl | ⟨x, hx, rfl⟩
      · exact hm.rootid
      · exact hm.idgt x hx
  -- the chain
  have hchain2 : ChainedO s2 root (pre ++ (new ++ [{ node := id, bp := bp }])) := by
    rw [← List.append_assoc, chainedO_append]
    constructor
    · have hpw := hm.incr'
      by_cases hne : pre ++ new = []
      · rw [hne]; trivial
      refine chainedO_agree root (pre ++ new) hm.chain (fun a _ => by rw [hnd2, hkind1]) ?_ ?_
      · intro b hb
        rw [hnd2, hpar1 b.node (by have := hm.idgt b (hm.sub b hb); omega)]
      · intro a ha
        rw [hnd2]
        have := pairwise_lt_lastNode root (pre ++ new) hpw hne a ha
        rw [hch1 a (by rw [hq]; omega)]
    · rw [← hq]
      refine ⟨⟨fun hk => ?_, fun hi => ?_⟩, trivial⟩
      · rw [hnd2, hkind1] at hk
        refine ⟨hP1 hk, ?_, ?_⟩
        · simp only; rw [hnd2, hnd_id]
        · rw [hnd2, hnd_q]; simp
      · simp only at hi
        rw [hnd2, hkind1]; exact hP1' hi
  have htree2 : TreeOK s2 := treeOK_tinv.ts (TreeSame.of_nodes_eq hn2) hlkt.2
  have hlk2 : LK s2 id parent :=
    ⟨by rw [hnd2]; exact hlkt.1.par, by rw [hnd2]; exact hlkt.1.last, fun p hp => hlkt.1.only p (by rw [← hnd2]; exact hp)⟩
  have htl2 : TL s2 := by
    intro ⟨b, hb, hs⟩
    rw [hop2] at hb
    rcases List.mem_append.1 hb with hb | hb
    · exact (htl ⟨b, hb, hs⟩).ext hext htmp2
    · simp only [List.mem_singleton] at hb; subst hb
      exact (hm.tmpS hs).ext hext htmp2
  have hsp2 : ∀ k ∈ new ++ [({ node := id, bp := bp } : Block)], k.bp = .setext →
      s2.pc.opened = old.dropLast ++ (new ++ [({ node := id, bp := bp } : Block)]) := by
    intro k hk hs
    rcases List.mem_append.1 hk with hk | hk
    · have := hallc k hk; rw [hs] at this; cases this
    · simp only [List.mem_singleton] at hk; subst hk
      rw [hop2, hsp hs, List.append_assoc]
  have hlkc : ∀ y, (new ++ [({ node := id, bp := bp } : Block)]).getLast? = some y → y.bp.isContainer = false →
      LK s2 y.node (lastNode root (pre ++ (new ++ [({ node := id, bp := bp } : Block)]).dropLast)) := by
    intro y hy _
    rw [List.getLast?_concat] at hy
    cases hy
    rw [List.dropLast_concat, ← hq]
    exact hlk2
  have hnd' : (new ++ [({ node := id, bp := bp } : Block)]) = [] → False := by simp
  have hwin : WinL src old pre root s0 s2 (new ++ [{ node := id, bp := bp }]) := by
    refine ⟨hnodes2, hkeys2, hm.ext.trans (ExtW.of_ext hext), ?_, ?_, hw0, hleafy, ?_, hls2, hchain2, ?_,
      fun h _ => absurd h (by simp), htree2, fun t htt => hm.tmplt t (by rw [← htmp2]; exact htt)⟩
    · rcases hm.shape with h | ⟨h1, h2⟩
      · exact .inl (by rw [hop2, h, List.append_assoc])
      · exact .inr ⟨h1, by rw [hop2, h2, List.append_assoc]⟩
    · intro b hb
      rw [hop2] at hb
      rcases List.mem_append.1 hb with hb | hb
      · exact hbok b (hm.blocks b hb)
      · simp only [List.mem_singleton] at hb; subst hb; exact hbok _ hm.nb
    · intro b hb
      rcases List.mem_append.1 hb with hb | hb
      · exact hfresh b hb
      · simp only [List.mem_singleton] at hb; subst hb; exact hm.idge
    · obtain ⟨suf, e⟩ := hm.stack
      exact ⟨suf, by rw [hop2, e, List.append_assoc]⟩
  have hcompat : ∀ k ∈ new ++ [{ node := id, bp := bp }], ∀ b ∈ old, CompatT s2 k b := by
    intro k hk b hb
    rcases List.mem_append.1 hk with hk | hk
    · exact CompatT.of_container_left (hallc k hk)
    · simp only [List.mem_singleton] at hk; subst hk
      refine ⟨⟨fun hse => hm.setextOld hse b hb, fun hfe _ f hf2 => ?_⟩, fun _ _ => ?_⟩
      · obtain ⟨f', hf', hfn⟩ := hm.fenceNew hfe
        rw [hfen2, hf'] at hf2
        cases hf2
        have := hw0 b hb
        have := hm.idge
        omega
      · have := hw0 b hb
        have := hm.idge
        simp only; omega
  have hne : new ++ [({ node := id, bp := bp } : Block)] ≠ [] := by simp
  have hlast : lastNode root (pre ++ (new ++ [({ node := id, bp := bp } : Block)])) = id := by
    rw [← List.append_assoc, lastNode_concat]
  by_cases hc : st.hasChildren = true
  · rw [if_pos hc]
    refine OKE.ok ⟨c', _, by rw [hr2]; exact hri, hpad, hle, hwin, .inr ⟨rfl, hne⟩, hcompat, htl2, hsp2, hlkc, fun h => (hnd' h).elim, (fun h => by rw [hop2, hpp h, List.append_assoc]), (fun h => (hnd' h).elim), (fun _ _ => hne), ?_, hlast.symm, ?_, hne⟩
    · intro b hb
      rcases List.mem_append.1 hb with hb | hb
      · exact hallc b hb
      · simp only [List.mem_singleton] at hb; subst hb; exact hkids hc
    · rcases hprog hc with ⟨h, hbl⟩ | ⟨h1, h2⟩
      · refine .inl ⟨h, ?_⟩
        rw [hnd2, hkind1, hm.nb.kind]
        exact fun hk => hbl (kind_list hk)
      · refine .inr ⟨h1, ?_⟩
        have hd := hdue h2
        refine ⟨by rw [hnd2, hkind1, hm.nb.kind, h2]; rfl, ?_, ⟨⟨id, bp⟩, by rw [hop2]; simp, rfl⟩, hd.m, hd.th, hd.wasNotList⟩
        rw [hnd2, hch1 id (by omega)]
        exact hm.idkids h2
  · rw [if_neg hc]
    refine OKE.ok ⟨c', _, by rw [hr2]; exact hri, hpad, hle, hwin, .inr ⟨rfl, hne⟩, hcompat, htl2, hsp2, hlkc, fun h => (hnd' h).elim, (fun h => by rw [hop2, hpp h, List.append_assoc]), (fun h => (hnd' h).elim), (fun _ _ => hne), leafy_snoc hallc _, ?_⟩
    rw [hlast, hnd2, hkind1, hm.nb.kind]
    intro hk
    exact hc (hlistHC (kind_list hk))

/-- setextHeadingParser.Open answers RequireParagraph with every node -/
theorem setextOpen_req (src : Bytes) (parent : Nat) (s : St) (c : RCur) (h : RI src s.r c) (hlt : c.p < src.length) :
    OKL (fun a s' => a.1.isSome = true → a.2.requirePara = true ∧ RI src s'.r c ∧
      ∃ ch, matchesSetextHeadingBar ((RCur.view src c).getD []) = .ok (ch, true)) (setextOpen parent s) := by
  unfold setextOpen
  have fin : ∀ r1, OKL (fun (a : Option Nat × PState) (s' : St) => a.1.isSome = true → a.2.requirePara = true ∧ RI src s'.r c ∧
        ∃ ch, matchesSetextHeadingBar ((RCur.view src c).getD []) = .ok (ch, true))
      (.ok ((none, stNoChildren), { s with r := r1 })) := fun r1 => OKL.ok (fun hh => by cases hh)
  refine OKL.bind (m := lastOpenedBlock) (P := fun v s' => s' = s) (OKL.ok rfl) (fun v s1 hs1 => ?_)
  subst hs1
  cases v with
  | none => exact fin s1.r
  | some lb =>
    simp only
    refine OKL.bind (m := getNode lb.node) (P := fun v s' => s' = s1) (OKL.ok rfl) (fun ln s2 hs2 => ?_)
    subst hs2
    by_cases hg : (ln.kind != Kind.paragraph || ln.parent != some parent) = true
    · rw [if_pos hg]; exact fin s2.r
    · rw [if_neg hg]
      refine OKL.bind (peekLine_okl h) (fun x s3 hx => ?_)
      obtain ⟨hx, r1, hs3, h1⟩ := hx
      subst hx hs3
      simp only
      have hv := view_eq src c hlt
      have hl2 := view_length src c hlt hv
      obtain ⟨v, hm⟩ := matchesSetextHeadingBar_total ((RCur.view src c).getD [])
        (by rw [hv]; simp only [Option.getD_some]; intro e; rw [e] at hl2; simp at hl2)
      refine OKL.bind (liftE_okl (P := fun a s' => a = v ∧ s' = { s2 with r := r1 }) hm ⟨rfl, rfl⟩) (fun a s4 ha => ?_)
      obtain ⟨ha, hs4⟩ := ha
      subst ha hs4
      obtain ⟨ch, ok⟩ := a
      simp only
      by_cases hok : (!ok) = true
      · rw [if_pos hok]; exact fin r1
      · rw [if_neg hok]
        simp only [bind, StateT.bind, newNode, appendLine, modNode, modPc, pure, StateT.pure, Except.bind, Except.pure]
        refine OKL.ok (fun _ => ⟨rfl, h1, ch, ?_⟩)
        have : ok = true := by cases ok <;> simp at hok ⊢
        rw [hm, this]

/-- a setext heading underline at the cursor: the rest of the source line is not blank -/
theorem bar_nonblank (src : Bytes) (c : RCur) (hp : c.p < src.length) (ch : UInt8)
    (h : matchesSetextHeadingBar ((RCur.view src c).getD []) = .ok (ch, true)) : NonBlankSeg src (RCur.seg src c) := by
  have hv := view_eq src c hp
  rw [hv] at h
  simp only [Option.getD_some] at h
  have key : ∀ b : UInt8, b ∈ spaces c.pad ++ sub src c.p (lineEnd src c.p) → isSpace b = false →
      isBlank (sub src c.p (lineEnd src c.p)) = false := by
    intro b hb hs
    rcases List.mem_append.1 hb with h1 | h1
    · unfold spaces at h1
      have := (List.mem_replicate.1 h1).2
      subst this
      simp [isSpace] at hs
    · unfold isBlank
      rw [Bool.eq_false_iff]
      intro hall
      have := List.all_eq_true.1 hall b h1
      rw [hs] at this; cases this
  unfold NonBlankSeg RCur.seg
  simp only [Int.toNat_natCast]
  rcases T.bar_has_trigger _ ch h with hx | hx
  · exact key 61 hx (by decide)
  · exact key 45 hx (by decide)

/-- paragraphParser.Open cannot decline a line that is not blank -/
theorem paragraphOpen_some {src} {s : St} {c : RCur} (h : RI src s.r c) (parent : Nat)
    (hnb : NonBlankSeg src (RCur.seg src c)) :
    OKL (fun a _ => a.1.isSome = true) (paragraphOpen parent s) := by
  unfold paragraphOpen
  refine OKL.bind (peekLine_okl h) (fun x s1 hx => ?_)
  obtain ⟨hx, r1, hs1, h1⟩ := hx
  subst hx hs1
  simp only
  obtain ⟨t', ht, hok, hstop, hstart, hpad, hfn, hnb', _⟩ := trimLeftSpace_ok2 (seg_ok src c h.inRange)
  refine OKL.bind (m := source) (P := fun v s' => v = src ∧ s' = { s with r := r1 }) (OKL.ok ⟨h1.source, rfl⟩) (fun v s2 hv => ?_)
  obtain ⟨hv, hs2⟩ := hv
  subst hs2
  rw [hv]
  refine OKL.bind (liftE_okl (P := fun a s' => a = t' ∧ s' = { s with r := r1 }) ht ⟨rfl, rfl⟩) (fun a s3 ha => ?_)
  obtain ⟨ha, hs3⟩ := ha
  subst ha hs3
  have hne : a.start < a.stop := (hnb' hnb).2
  have he : ¬ a.isEmpty = true := by
    unfold Segment.isEmpty
    simp only [hpad]
    simp; omega
  rw [if_neg he]
  have hlen : 0 ≤ a.len - 1 := by
    unfold Segment.len
    simp only [hpad]
    omega
  simp only [bind, StateT.bind, newNode, appendLine, modNode, pure, StateT.pure, Except.bind, Except.pure]
  have hadv := advance_okl (src := src)
    (s := { r := r1, nodes := (s.nodes ++ [({ kind := Kind.paragraph } : Node)]).set s.nodes.length
              ({ ((s.nodes ++ [({ kind := Kind.paragraph } : Node)]).getD s.nodes.length default) with
                  lines := ((s.nodes ++ [({ kind := Kind.paragraph } : Node)]).getD s.nodes.length default).lines ++ [a],
                  linesNil := false }), pc := s.pc }) (c := c) h1 hlen
  rcases hadv with ⟨_, s4, e4, r4, hs4, h4⟩ | e4
  · rw [e4]; exact OKL.ok rfl
  · rw [e4]; exact .inr rfl

end GM.Blocks.L.G

namespace GM.Blocks.L.G.X
open GM GM.Text GM.Spec GM.Proof.Reader GM.Blocks.T GM.Blocks.TR

variable {e : Panic} {pts : List PT} {PP : Prop}

/-- a KEEP transformer call (it may attach fresh subtrees) keeps the facts about the freshly built block -/
theorem MidL.keepStep {src : Bytes} {old pre : List Block} {root : Nat} {s0 : St} {id : Nat} {bp : BP} {s s' : St}
    {new : List Block} {node : Nat} (h : MidL src old pre root s0 id bp s new) (hg : TStep src node s s' false)
    (kf : KeepF node s s') (t : TF s s') (hplt : PLTf s') (htree : TreeOK s') (hne : node ≠ id) :
    MidL src old pre root s0 id bp s' new := by
  have hbok : ∀ b, BlockOK s b → BlockOK s' b := fun b hb =>
    hb.ext kf.ext (fun hp => by rw [hg.tmp]; exact (hb.setext hp).2) (fun hp => by rw [hg.fence]; exact hb.fenced hp)
  refine ⟨hg.nodes, h.keys.ext kf.ext (.inl hg.tmp) (.inl hg.fence), h.ext.trans (ExtW.of_ext kf.ext),
    by rw [hg.opened]; exact h.shape,
    fun b hb => by rw [hg.opened] at hb; exact hbok b (h.blocks b hb), hbok _ h.nb, h.idge,
    fun hp => by rw [hg.fence]; exact h.fenceNew hp, h.setextOld, ?_, ?_, by rw [hg.opened]; exact h.stack,
    fun b hb => by rw [hg.opened] at hb; exact h.idgt b hb, h.rootid,
    by rw [kf.parOld id h.nb.lt (fun e' => hne e'.symm)]; exact h.idpar,
    fun hb => by rw [t.kids id h.nb.lt (by rw [h.nb.kind, hb]; rfl)]; exact h.idkids hb,
    fun hb => by rw [t.offset id h.nb.lt]; exact h.idoff hb, ?_, htree,
    fun hp => TmpOK.ext (h.tmpS hp) kf.ext hg.tmp, fun t' htt => h.tmplt t' (by rw [← hg.tmp]; exact htt)⟩
  · exact h.ls.step kf.ext t hplt hg.opened h.blocks
  · exact chainedO_tf kf.ext t root (pre ++ new) h.chain h.ls.rootLt
      (fun b hb => ⟨(h.blocks b (h.sub b hb)).lt, (h.blocks b (h.sub b hb)).kind⟩)
  · intro i e'
    rcases Nat.lt_or_ge i s.nodes.length with hi | hi
    · by_cases hin : i = node
      · subst hin
        rw [(hg.keep rfl).2] at e'
        exact h.nopt i e'
      · rw [kf.parOld i hi hin] at e'
        exact h.nopt i e'
    · rcases kf.parNew i hi id e' with h1 | h1
      · have : id < s.nodes.length := h.nb.lt
        omega
      · exact h.nopt node h1


section tp
variable {src : Bytes} (lsp : LSp src) (hpts : PTsSpecX src e pts) {cls : BP → Nat → M Unit} (hC : CloseLike src cls)
include lsp hpts hC

theorem tryStepL {old pre : List Block} {root : Nat} {s0 sb : St} (cl : Call old pre)
    (hll : ∀ lb, old.getLast? = some lb → lb.bp.isContainer = false → ∃ q, LK s0 lb.node q) (parent : Nat) (blank cont : Bool) (w : Int)
    (bp : BP) (bps : List BP) (result : OpenResult) (lastBlock : Option Block) (s : St) (c : RCur) (new : List Block)
    (hc : LineCtx src s c) (hw : WinL src old pre root s0 s new) (hallc : ∀ b ∈ new, b.bp.isContainer = true)
    (hq : parent = lastNode root (pre ++ new))
    (hres : (result = .noBlocksOpened ∧ new = [] ∧ (s.pc.opened = old → lastBlock = old.getLast?)) ∨ (result = .newBlocksOpened ∧ new ≠ []))
    (hs1 : ¬ (cont && result == OpenResult.noBlocksOpened && !bp.canInterruptParagraph) = true)
    (hs2 : ¬ (decide (w > 3) && !bp.canAcceptIndentedLine) = true)
    (htl : TL s) (hpp : PP → s.pc.opened = old.dropLast ++ new)
    (hsb : ∀ a s1, OpenPostW src bp parent s c a s1 → a.1.isSome = true → bp = .setext →
      s.pc.opened = sb.pc.opened ∧ s.nodes = sb.nodes)
    (hP1 : ∀ a s1, OpenPostW src bp parent s c a s1 → a.1.isSome = true → (nd s parent).kind = .list → bp = .listItem)
    (hdue : ∀ a s1, OpenPostW src bp parent s c a s1 → a.1.isSome = true → bp = .list → DueFacts src sb c)
    (hK : ∀ st s1, OpenPostW src bp parent s c (none, st) s1 → bpOpen bp parent s = .ok ((none, st), s1) → TL s1 → (PP → s1.pc.opened = old.dropLast ++ new) →
      OKE e (TPPostG src old pre root s0 sb c PP new w) (tryParsersC cls pts parent blank cont w bps result s.pc.opened.getLast? s1)) :
    OKE e (TPPostG src old pre root s0 sb c PP new w) (tryParsersC cls pts parent blank cont w (bp :: bps) result lastBlock s) := by
  unfold tryParsersC
  simp only []
  rw [if_neg hs1, if_neg hs2]
  refine OKE.bind (m := lastOpenedBlock) (P := fun lb s1 => lb = s.pc.opened.getLast? ∧ s1 = s) (OKE.ok ⟨rfl, rfl⟩)
    (fun lb0 sx hlb => ?_)
  obtain ⟨hlb0, hsx⟩ := hlb
  subst sx
  refine OKE.bind (OKE.of_okl (OKL.withEq (openAllW lsp bp parent s c hc hw.ls.kids))) (fun x s1 hO' => ?_)
  obtain ⟨hO, heqO⟩ := hO'
  obtain ⟨nodeopt, st⟩ := x
  cases nodeopt with
  | none =>
    simp only []
    rw [hlb0]
    have htmp1 : s1.pc.tmpPara = s.pc.tmpPara := by
      rcases hO.tmp with ⟨_, h2, _⟩ | ⟨_, h⟩
      · cases h2
      · exact h
    exact hK st s1 hO heqO (htl.ext (Ext.of_nodes_eq (hO.noNode rfl)) htmp1 (fun b hb hs => ⟨b, by rw [← hO.opened]; exact hb, hs⟩))
      (fun h => by rw [hO.opened]; exact hpp h)
  | some id =>
    simp only []
    obtain ⟨hm1, hid, hop1, hnd1, hlen1, hreq⟩ := open_someL hO hw hallc (bpOpen_new_kids bp parent s _ s1 heqO)
    have hreqS : bp = .setext → st.requirePara = true ∧ RI src s1.r c ∧
        ∃ ch, matchesSetextHeadingBar ((RCur.view src c).getD []) = .ok (ch, true) := by
      intro hb
      subst hb
      have := (setextOpen_req src parent s c hc.ri hc.lt)
      rcases this with ⟨a, s', e1, h1⟩ | e1
      · have e2 : bpOpen .setext parent s = setextOpen parent s := rfl
        rw [e2, e1] at heqO
        cases heqO
        exact h1 rfl
      · have e2 : bpOpen .setext parent s = setextOpen parent s := rfl
        rw [e2, e1] at heqO; cases heqO
    have htl1 : TL s1 := by
      intro hex
      by_cases hb : bp = .setext
      · exact hm1.tmpS hb
      · have htmp1 : s1.pc.tmpPara = s.pc.tmpPara := by
          rcases hO.tmp with ⟨h, _⟩ | ⟨_, h⟩
          · exact absurd h hb
          · exact h
        obtain ⟨b, hbm, hs⟩ := hex
        obtain ⟨_, n, hn, _⟩ := hO.newNode id rfl
        exact (htl ⟨b, by rw [← hop1]; exact hbm, hs⟩).ext (Ext.of_append hn) htmp1
    obtain ⟨c', hri, hpad, hle, _, hprog⟩ := hO.ri
    have hkids : st.hasChildren = true → bp.isContainer = true := fun h => (hO.kids h).1
    have hparlt : parent < s.nodes.length := by
      rcases lastNode_mem root (pre ++ new) with e | ⟨b, hb, e⟩
      · rw [hq, e]; exact hw.ls.rootLt
      · rw [hq, e]
        obtain ⟨suf, es⟩ := hw.stack
        refine (hw.blocks b ?_).lt
        rw [es]
        rcases List.mem_append.1 hb with h | h
        · exact List.mem_append_left _ (List.mem_append_left _ h)
        · exact List.mem_append_right _ h
    have hP1s : (nd s parent).kind = .list → bp = .listItem := hP1 _ _ hO rfl
    have hP1s' : bp = .listItem → (nd s parent).kind = .list := fun hb => (hO.itemFacts hb).1 rfl
    have hlistHC : bp = .list → st.hasChildren = true := fun hb => (hO.listFacts hb rfl).1
    have hdue' : bp = .list → DueFacts src sb c := hdue _ _ hO rfl
    have hprog' : st.hasChildren = true → (c.p < c'.p ∧ bp ≠ .list) ∨ (c' = c ∧ bp = .list) := fun h => by
      rcases hprog h with h' | ⟨h1, h2⟩
      · exact .inl h'
      · exact .inr ⟨h2, h1⟩
    -- the tail: AppendChild, push
    have tail : ∀ (sX : St) (newX : List Block), MidL src old pre root s0 id bp sX newX → sX.r = s1.r → TL sX → (bp = .setext → sX.pc.opened = old.dropLast ++ newX) → (PP → sX.pc.opened = old.dropLast ++ newX) →
        (∀ b ∈ newX, s0.nodes.length ≤ b.node) → (∀ b ∈ newX, b.bp.isContainer = true) →
        parent = lastNode root (pre ++ newX) → (nd sX parent).kind = (nd s parent).kind →
        OKE e (TPPostG src old pre root s0 sb c PP new w)
          ((do
            appendChild parent id
            modPc fun pc => { pc with opened := pc.opened ++ [{ node := id, bp := bp }] }
            if st.hasChildren then return (TryOutcomeT.retry id, OpenResult.newBlocksOpened, lb0)
            return (TryOutcomeT.done, OpenResult.newBlocksOpened, lb0) : M _) sX) := by
      intro sX newX hmX hrX htX hspX hppX hfX haX hqX hkX
      exact tryTailL_okl parent id bp st lb0 sX newX hmX hqX hw.oldlt hw.leafyOld hfX haX (by rw [hrX]; exact hri) hpad hle
        hprog' hkids (fun h => hP1s (by rw [← hkX]; exact h)) (fun h => by rw [hkX]; exact hP1s' h) hlistHC hdue' htX hspX hppX
    -- the middle: blank flag, the `last.Parent() == nil` test; `K` = the tail
    have mid : ∀ (K : M (TryOutcomeT × OpenResult × Option Block)),
        (∀ (sX : St) (newX : List Block), MidL src old pre root s0 id bp sX newX → sX.r = s1.r → TL sX → (bp = .setext → sX.pc.opened = old.dropLast ++ newX) → (PP → sX.pc.opened = old.dropLast ++ newX) →
          (∀ b ∈ newX, s0.nodes.length ≤ b.node) → (∀ b ∈ newX, b.bp.isContainer = true) →
          parent = lastNode root (pre ++ newX) → (nd sX parent).kind = (nd s parent).kind →
          OKE e (TPPostG src old pre root s0 sb c PP new w) (K sX)) →
        ∀ (sX : St), MidL src old pre root s0 id bp sX new → sX.r = s1.r → TL sX →
        (bp = .setext → sX.pc.opened = old.dropLast ++ new) → (PP → sX.pc.opened = old.dropLast ++ new) → (nd sX parent).kind = (nd s parent).kind →
        (∀ lb, lb0 = some lb → (nd sX lb.node).parent.isSome = true ∨
            (new = [] ∧ sX.pc.opened = old ∧ old.getLast? = some lb)) →
        OKE e (TPPostG src old pre root s0 sb c PP new w)
          ((modNode id (fun n => { n with blankPrev := blank }) >>= fun _ =>
            match Option.map (fun x => x.node) lb0 with
            | some l => getNode l >>= fun n =>
                if n.parent.isNone = true then
                  getPc >>= fun pc =>
                    closeBlocksC cls pts ((pc.opened.length : Int) - 1) ((pc.opened.length : Int) - 1) >>= fun _ => K
                else K
            | none => K) sX) := by
      intro K hKK sX hmX hrX htX hspX hppX hkX hcase
      have hfr : FrameEq sX (upd sX id fun n => { n with blankPrev := blank }) :=
        upd_frame sX id (f := fun n => { n with blankPrev := blank }) (fun n => ⟨rfl, rfl, rfl⟩)
      have hts : TreeSame sX (upd sX id fun n => { n with blankPrev := blank }) :=
        upd_treeSame sX id (f := fun n => { n with blankPrev := blank }) (fun n => ⟨rfl, rfl, rfl, rfl⟩)
      have hm3 := hmX.same hfr.ext (hfr.nodesOK hmX.nodes) hts (by rw [hfr.pc]) (by rw [hfr.pc]) (by rw [hfr.pc])
      have hpar3 : ∀ j, (nd (upd sX id fun n => { n with blankPrev := blank }) j).parent = (nd sX j).parent :=
        fun j => (hts.same j).2.1
      have hk3 : (nd (upd sX id fun n => { n with blankPrev := blank }) parent).kind = (nd s parent).kind := by
        rw [(hts.same parent).1]; exact hkX
      refine OKE.bind (m := modNode id fun n => { n with blankPrev := blank })
        (P := fun _ s3 => s3 = upd sX id fun n => { n with blankPrev := blank }) (OKE.ok rfl) (fun _ s3 h3 => ?_)
      subst h3
      have htl3 : TL (upd sX id fun n => { n with blankPrev := blank }) :=
        htX.ext hfr.ext (by rw [hfr.pc]) (fun b hb hs => ⟨b, by rw [← hfr.pc]; exact hb, hs⟩)
      have hsp3 : bp = .setext → (upd sX id fun n => { n with blankPrev := blank }).pc.opened = old.dropLast ++ new :=
        fun hb => by rw [hfr.pc]; exact hspX hb
      cases hl : lb0 with
      | none => exact hKK _ new hm3 (by rw [hfr.r, hrX]) htl3 hsp3 (fun h => by rw [hfr.pc]; exact hppX h) hw.fresh hallc hq hk3
      | some lb =>
        simp only [Option.map]
        refine OKE.bind (m := getNode lb.node)
          (P := fun n s4 => n = nd (upd sX id fun n => { n with blankPrev := blank }) lb.node ∧
            s4 = upd sX id fun n => { n with blankPrev := blank }) (OKE.ok ⟨rfl, rfl⟩) (fun n s4 h4 => ?_)
        obtain ⟨h4n, h4s⟩ := h4
        subst h4n h4s
        by_cases hnn : (nd (upd sX id fun n => { n with blankPrev := blank }) lb.node).parent.isNone = true
        · rw [if_pos hnn]
          rcases hcase lb hl with hsome | ⟨hnew, hopX, hlast⟩
          · exfalso
            rw [hpar3] at hnn
            cases hh : (nd sX lb.node).parent with
            | none => rw [hh] at hsome; cases hsome
            | some _ => rw [hh] at hnn; cases hnn
          · refine OKE.bind (m := getPc)
              (P := fun pc s5 => pc = (upd sX id fun n => { n with blankPrev := blank }).pc ∧
                s5 = upd sX id fun n => { n with blankPrev := blank }) (OKE.ok ⟨rfl, rfl⟩) (fun pc s5 h5 => ?_)
            obtain ⟨h5p, h5s⟩ := h5
            subst h5p h5s
            have hop3 : (upd sX id fun n => { n with blankPrev := blank }).pc.opened = old.dropLast ++ [lb] := by
              rw [hfr.pc, hopX]; exact eq_dropLast_append_of_getLast? old lb hlast
            have hp3 : (nd (upd sX id fun n => { n with blankPrev := blank }) lb.node).parent.isSome = false := by
              cases hh : (nd (upd sX id fun n => { n with blankPrev := blank }) lb.node).parent with
              | none => rfl
              | some _ => rw [hh] at hnn; cases hnn
            subst hnew
            have hne : old ≠ [] := by intro h; rw [h] at hlast; cases hlast
            -- the popped block is not a container (it has no parent), so it is not the last block of `pre`
            have hsufne : ∃ suf, old = pre ++ suf ∧ suf ≠ [] := by
              obtain ⟨suf0, e0, h0⟩ := cl.pref
              refine ⟨suf0, e0, fun hs => ?_⟩
              have hcont := h0 hs lb hlast
              have hmem : lb ∈ sX.pc.opened := by rw [hopX]; exact List.mem_of_getLast? hlast
              have := hmX.ls.attached lb hmem hcont
              rw [← hpar3] at this
              rw [this] at hp3; cases hp3
            have hm4 := hm3.pop (by rw [hfr.pc, hopX]) hne hsufne
            refine OKE.bind (P := fun _ s6 => s6 = { (upd sX id fun n => { n with blankPrev := blank }) with
                pc := { (upd sX id fun n => { n with blankPrev := blank }).pc with opened := old.dropLast } })
              (by rw [closeBlocksC_last_skip cls pts old.dropLast lb _ hop3 hp3]; exact OKE.ok rfl) (fun _ s6 h6 => ?_)
            subst h6
            exact hKK _ [] hm4 (by simp only; rw [hfr.r, hrX])
              (fun ⟨b, hb, hs⟩ => by
                have hb' : b ∈ (upd sX id fun n => { n with blankPrev := blank }).pc.opened := by
                  rw [hfr.pc, hopX]; exact List.dropLast_subset _ hb
                intro t ht
                exact htl3 ⟨b, hb', hs⟩ t ht)
              (fun _ => by simp) (fun _ => by simp) (fun _ h => by cases h) (fun _ h => by cases h) hq hk3
        · rw [if_neg hnn]
          exact hKK _ new hm3 (by rw [hfr.r, hrX]) htl3 hsp3 (fun h => by rw [hfr.pc]; exact hppX h) hw.fresh hallc hq hk3
    -- the `last` of the non-RequireParagraph path
    have hcase1 : ∀ lb, lb0 = some lb → (nd s1 lb.node).parent.isSome = true ∨
        (new = [] ∧ s1.pc.opened = old ∧ old.getLast? = some lb) := by
      intro lb hl
      by_cases hnew : new = []
      · rcases hw.shape with h | ⟨_, h⟩
        · right
          have hop : s.pc.opened = old := by rw [h, hnew, List.append_nil]
          exact ⟨hnew, by rw [hop1, hop], by rw [← hop, ← hlb0, hl]⟩
        · left
          have hmem : lb ∈ s.pc.opened := List.mem_of_getLast? (by rw [← hlb0, hl])
          have hmd : lb ∈ old.dropLast := by rw [h, hnew, List.append_nil] at hmem; exact hmem
          rw [hnd1 _ (hw.blocks lb hmem).lt]
          exact hw.ls.attached lb hmem (hw.leafyOld lb hmd)
      · left
        have hlast : new.getLast? = some lb := by
          have : s.pc.opened.getLast? = new.getLast? := by
            cases hne : new.getLast? with
            | none => exact absurd (List.getLast?_eq_none_iff.1 hne) hnew
            | some x => rcases hw.shape with h | ⟨_, h⟩ <;> rw [h, List.getLast?_append, hne] <;> rfl
          rw [← this, ← hlb0, hl]
        have hmem : lb ∈ s.pc.opened := by
          rcases hw.shape with h | ⟨_, h⟩ <;> rw [h] <;> exact List.mem_append_right _ (List.mem_of_getLast? hlast)
        rw [hnd1 _ (hw.blocks lb hmem).lt]
        exact hw.ls.attached lb hmem (hallc lb (List.mem_of_getLast? hlast))
    have hk1 : (nd s1 parent).kind = (nd s parent).kind := by rw [hnd1 _ hparlt]
    by_cases hrq : st.requirePara = true
    · rw [if_pos hrq]
      obtain ⟨lb, hlb1, hlbpar, hlbbp, hnew, hopold⟩ := hreq hrq
      have hbpS : bp = .setext := (hO.req hrq).1
      have hl : lb0 = some lb := by rw [hlb0, hlb1]
      have hmem : lb ∈ s.pc.opened := List.mem_of_getLast? hlb1
      have hlblt := (hw.blocks lb hmem).lt
      have hpar1' : (nd s1 lb.node).parent = some parent := by rw [hnd1 _ hlblt]; exact hlbpar
      -- `last == parent.LastChild()`: the last opened leaf is the last child of its parent
      have hlast0 : old.getLast? = some lb := by rw [← hopold]; exact hlb1
      obtain ⟨q0, hlk0⟩ := hll lb hlast0 (by rw [hlbbp]; rfl)
      have hts0 : TreeSame s0 s := hw.tsame hnew hopold
      have hlk_s : LK s lb.node q0 := (lk_tinv lb.node q0).ts hts0 hlk0
      have hq0 : q0 = parent := by have := hlk_s.par; rw [hlbpar] at this; cases this; rfl
      have hkids1 : (nd s1 parent).children.getLast? = some lb.node := by rw [hnd1 _ hparlt, ← hq0]; exact hlk_s.last
      have hne : old ≠ [] := by rw [← hopold]; intro h; rw [h] at hmem; cases hmem
      have hsbf := hsb _ _ hO rfl hbpS
      subst hnew
      have hres0 : result = .noBlocksOpened := by
        rcases hres with ⟨h, _⟩ | ⟨_, h⟩
        · exact h
        · exact absurd rfl h
      have hsufne : ∃ suf, old = pre ++ suf ∧ suf ≠ [] := by
        obtain ⟨suf0, e0, h0⟩ := cl.pref
        refine ⟨suf0, e0, fun hs => ?_⟩
        have hcont := h0 hs lb hlast0
        rw [hlbbp] at hcont; cases hcont
      have hdl : old.dropLast ≠ old := by
        intro h
        have := congrArg List.length h
        rw [List.length_dropLast] at this
        have : old.length ≠ 0 := fun h0 => hne (List.length_eq_zero_iff.1 h0)
        omega
      refine OKE.bind (m := requireParaC cls pts parent (Option.map (fun x => x.node) lb0) lb0)
        (P := fun tr s3 =>
          (tr = false ∧ MidL src old pre root s0 id bp s3 [] ∧ s3.r = s1.r ∧ TL s3 ∧ s3.pc.opened = old.dropLast ∧
            (nd s3 parent).kind = (nd s parent).kind ∧ (nd s3 lb.node).parent = some parent) ∨
          (tr = true ∧ TPPostG src old pre root s0 sb c PP [] w (TryOutcomeT.retryTransformed, result, lb0) s3)) ?_
        (fun tr s3 h3 => ?_)
      · unfold requireParaC
        refine OKE.bind (m := getNode parent) (P := fun pn sy => pn = nd s1 parent ∧ sy = s1) (OKE.ok ⟨rfl, rfl⟩)
          (fun pn sy hy => ?_)
        obtain ⟨hpn, hsy⟩ := hy
        subst pn sy
        have heq : (Option.map (fun x => x.node) lb0 == (nd s1 parent).children.getLast?) = true := by
          rw [hl, hkids1]; simp
        rw [if_pos heq]
        subst hl
        simp only []
        have hmem1 : lb ∈ s1.pc.opened := by rw [hop1]; exact hmem
        have hb1 := hm1.blocks lb hmem1
        have hcl := closeG lsp lb.bp lb.node s1 hri.source hm1.nodes hm1.keys hb1 hm1.ls.kids hm1.ls.plt
          (fun h => by rw [hlbbp] at h; cases h)
        refine OKE.bind (OKE.of_okl (hC.okl (fun _ s' h => ⟨h.1.nodes, by rw [h.1.r]; exact hri.source⟩) hcl)) (fun _ s2 h2 => ?_)
        obtain ⟨h2, _, _, heq2⟩ := h2
        have hts2 : TreeSame s1 s2 := by
          obtain ⟨lnode, lbp⟩ := lb
          simp only at hlbbp
          subst hlbbp
          exact lsp.paraCloseTS lnode s1 s2 hb1 hm1.nodes heq2
        have htmp2 : s2.pc.tmpPara = s1.pc.tmpPara := by
          rcases h2.tmp with h | ⟨h, _⟩
          · exact h
          · rw [hlbbp] at h; cases h
        have hfen2 : s2.pc.fence = s1.pc.fence := by
          rcases h2.fence with h | ⟨h, _⟩
          · exact h
          · rw [hlbbp] at h; cases h
        have hm2 : MidL src old pre root s0 id bp s2 [] := hm1.same h2.ext h2.nodes hts2 h2.opened htmp2 hfen2
        have hop2 : s2.pc.opened = old := by rw [h2.opened, hop1, hopold]
        refine OKE.bind (m := getPc) (P := fun pc sy => pc = s2.pc ∧ sy = s2) (OKE.ok ⟨rfl, rfl⟩) (fun pc sy hy => ?_)
        obtain ⟨hpc, hsy⟩ := hy
        subst pc sy
        have hlen2 : (s2.pc.opened.length == 0) = false := by
          rw [hop2]; cases old with
          | nil => exact absurd rfl hne
          | cons _ _ => rfl
        rw [if_neg (by rw [hlen2]; simp)]
        refine OKE.bind (m := modPc _) (P := fun _ sy => sy = { s2 with pc := { s2.pc with opened := old.dropLast } })
          (OKE.ok (by rw [hop2])) (fun _ sy hy => ?_)
        subst hy
        refine OKE.bind (m := getNode lb.node)
          (P := fun n sy => n = nd s2 lb.node ∧ sy = { s2 with pc := { s2.pc with opened := old.dropLast } })
          (OKE.ok ⟨rfl, rfl⟩) (fun n sy hy => ?_)
        obtain ⟨hn, hsy⟩ := hy
        subst n sy
        have hb2 := hm2.blocks lb (by rw [hop2, ← hopold]; exact hmem)
        have hkind2 : (nd s2 lb.node).kind = Kind.paragraph := by
          rw [hb2.kind, hlbbp]; rfl
        simp only []
        rw [if_neg (by rw [hkind2]; simp)]
        have hm2' := hm2.pop hop2 hne hsufne
        generalize hsP : ({ s2 with pc := { s2.pc with opened := old.dropLast } } : St) = sP at hm2'
        have hndP : ∀ j, nd sP j = nd s2 j := fun j => by rw [← hsP]
        have hpar2 : (nd s2 lb.node).parent = some parent := by rw [(hts2.same lb.node).2.1]; exact hpar1'
        have htp := transformParagraphG_oke pts hpts lb.node sP (by rw [← hsP]; show s2.r.source = src; rw [h2.r]; exact hri.source)
          (by rw [← hsP]; exact hb2.lt) (by rw [hndP]; exact hkind2) (by rw [hndP, hpar2]; rfl)
          (by rw [hndP]; exact hb2.para hlbbp) hm2'.nodes hm2'.ls.kids hm2'.ls.plt hm2'.tree
        refine OKE.mono htp (fun g s3 hg => ?_)
        obtain ⟨hg, htf3, hplt3, htree3, _, hkeep3⟩ := hg
        have hopP : sP.pc.opened = old.dropLast := by rw [← hsP]
        have hrP : sP.r = s1.r := by rw [← hsP]; exact h2.r
        cases g with
        | false =>
          left
          have kf3 := hkeep3 rfl
          have hm3 : MidL src old pre root s0 id bp s3 [] :=
            MidL.keepStep hm2' hg kf3 htf3 hplt3 htree3 (by rw [hid]; omega)
          refine ⟨rfl, hm3, by rw [hg.r, hrP], fun _ => hm3.tmpS hbpS, by rw [hg.opened, hopP], ?_, ?_⟩
          · rw [hg.kind parent (by rw [← hsP]; show parent < s2.nodes.length; rw [hts2.len, hlen1]; omega), hndP,
              (hts2.same parent).1]
            exact hk1
          · rw [(hg.keep rfl).2, hndP]; exact hpar2
        | true =>
          right
          refine ⟨rfl, c, [], by rw [hg.r, hrP]; exact (hreqS hbpS).2.1, hc.pad, Nat.le_refl _, ?_, .inl ⟨hres0, rfl, fun ho' => ?_⟩,
            (fun k hk => by cases hk), ?_, (fun k hk => by cases hk), (fun y hy => by cases hy), (fun _ h => by cases h),
            (fun _ => by rw [hg.opened, hopP]; simp), (fun _ => rfl), (fun _ h => absurd rfl h), ?_⟩
          · -- the window after the transformed paragraph has been popped
            have hallc2 : ∀ b ∈ old.dropLast, b.bp.isContainer = true := hw.leafyOld
            have hblocks3 : ∀ b ∈ s3.pc.opened, BlockOK s3 b := by
              intro b hb
              rw [hg.opened] at hb
              refine hg.blockOK (by rw [hndP]; exact hkind2) (hm2'.blocks b hb) (fun hp => ?_)
              rw [hopP] at hb
              exact absurd hp (container_kind (hallc2 b hb)).1
            refine ⟨hg.nodes, ⟨fun f hf => by
                rw [hg.fence] at hf
                obtain ⟨a, b, cc⟩ := hm2'.keys.fence f hf
                exact ⟨a, b, Nat.lt_of_lt_of_le cc hg.len⟩⟩, hm2'.ext.trans hg.extW,
              .inr ⟨hne, by rw [hg.opened, hopP]; simp⟩, hblocks3, hw.oldlt, hw.leafyOld, (fun b hb => by cases hb),
              L.T.LStore.stepW hm2'.ls hg.extW htf3 hplt3 hg.opened hm2'.blocks, ?_,
              (by rw [hg.opened]; exact hm2'.stack), (fun _ ho' => absurd (by rw [← hopP, ← hg.opened]; exact ho') hdl), htree3,
              (fun t htt => hm2'.tmplt t (by rw [← hg.tmp]; exact htt))⟩
            refine L.T.chainedO_tfW hg.extW htf3 root (pre ++ []) hm2'.chain hm2'.ls.rootLt (fun b hb => ?_)
            have := hm2'.blocks b (hm2'.sub b hb)
            exact ⟨this.lt, this.kind⟩
          · exact absurd (by rw [← hopP, ← hg.opened]; exact ho') hdl
          · intro ⟨b, hb, hs⟩
            rw [hg.opened, hopP] at hb
            have := hw.leafyOld b hb
            rw [hs] at this; cases this
          · refine ⟨rfl, hne, by rw [hg.opened, hopP], by rw [← hsbf.1, hopold], ?lil, ⟨lb, hlast0, hlbbp⟩, ?knd, rfl,
              (hreqS hbpS).2.2, ?w3⟩
            case w3 =>
              intro hw3
              apply hs2
              rw [hbpS]
              simp [BP.canAcceptIndentedLine]
              exact hw3
            case knd =>
              rw [← hq, hg.kind parent (by rw [← hsP]; show parent < s2.nodes.length; rw [hts2.len, hlen1]; omega), hndP,
                (hts2.same parent).1, hk1]
              intro hkl
              have := hP1s hkl
              rw [hbpS] at this; cases this
            case lil =>
              unfold lastIsList
              rw [← hsbf.1, ← hsbf.2, hlb1]
              simp only
              have hk := (hw.blocks lb hmem).kind
              simp only [nd] at hk
              rw [hk, hlbbp]; rfl
      · rcases h3 with ⟨htr, hm3, hr3, htl3, hop3, hk3, hpar3⟩ | ⟨htr, hpost⟩
        · subst htr
          simp only [Bool.false_eq_true, if_false]
          refine mid _ tail s3 hm3 hr3 htl3 (fun _ => by rw [hop3]; simp) (fun _ => by rw [hop3]; simp) hk3 (fun lb' hl' => ?_)
          rw [hl] at hl'; cases hl'
          left; rw [hpar3]; rfl
        · subst htr
          simp only [if_true]
          exact OKE.ok hpost
    · rw [if_neg hrq]
      simp only [pure_bind, Bool.false_eq_true, if_false]
      exact mid _ tail s1 hm1 rfl htl1 (fun hb => by rw [(hreqS hb).1] at hrq; exact absurd rfl hrq)
        (fun h => by rw [hop1]; exact hpp h) hk1 hcase1

theorem tryParsersL {old pre : List Block} {root : Nat} {s0 sb : St} (cl : Call old pre)
    (hll : ∀ lb, old.getLast? = some lb → lb.bp.isContainer = false → ∃ q, LK s0 lb.node q) (parent : Nat) (blank cont : Bool)
    (w : Int) (c : RCur) (bpsAll : List BP)
    (hstruct : BP.list ∈ bpsAll → ∃ pre0, bpsAll = pre0 ++ [BP.list, BP.listItem] ++ freeParsers ∧
      ∀ q ∈ pre0, q = BP.setext ∨ q = BP.thematic)
    (htrig : ∀ (ch : UInt8) (l : List BP),
      (lineOf src c)[(indentWidthI (lineOf src c) (loVal src c)).2.toNat]? = some ch → triggered ch = some l → BP.list ∈ bpsAll →
      l = bpsAll) :
    ∀ (bps tried : List BP), tried ++ bps = bpsAll → ∀ (result : OpenResult) (lastBlock : Option Block) (s : St)
      (new : List Block), LineCtx src s c → WinL src old pre root s0 s new → TL s → (PP → s.pc.opened = old.dropLast ++ new) →
      (PP → new ≠ [] ∨ (BP.paragraph ∈ bps ∧ cont = false ∧ ¬ w > 3 ∧ NonBlankSeg src (RCur.seg src c))) → (∀ b ∈ new, b.bp.isContainer = true) →
      parent = lastNode root (pre ++ new) →
      ((result = .noBlocksOpened ∧ new = [] ∧ (s.pc.opened = old → lastBlock = old.getLast?)) ∨ (result = .newBlocksOpened ∧ new ≠ [])) →
      (nd s parent).kind ≠ .list → s.nodes = sb.nodes → s.pc.opened = sb.pc.opened →
      (BP.thematic ∈ tried → w > 3 ∨ TH src c) →
      OKE e (TPPostG src old pre root s0 sb c PP new w) (tryParsersC cls pts parent blank cont w bps result lastBlock s) := by
  intro bps
  induction bps with
  | nil =>
    intro tried _ result lastBlock s new hc hw htmp hpp hmust hallc hq hres hpk _ hso _
    unfold tryParsersC
    exact OKE.ok ⟨c, new, hc.ri, hc.pad, Nat.le_refl _, hw, hres, fun k hk b _ => CompatT.of_container_left (hallc k hk),
      htmp, (fun k hk hs => by have := hallc k hk; rw [hs] at this; cases this),
      (fun y hy hl => by have := hallc y (List.mem_of_getLast? hy); rw [hl] at this; cases this), (fun _ _ => hso), hpp, (fun h => h),
      (fun h _ => by rcases hmust h with h1 | ⟨h1, _⟩; exact h1; cases h1),
      leafy_of_all hallc, by rw [← hq]; exact hpk⟩
  | cons bp bps ih =>
    intro tried htr result lastBlock s new hc hw htmp hpp hmust hallc hq hres hpk hsn hso hacc
    have ihn := ih (tried ++ [bp]) (by rw [List.append_assoc]; exact htr)
    by_cases hs1 : (cont && result == OpenResult.noBlocksOpened && !bp.canInterruptParagraph) = true
    · unfold tryParsersC
      simp only []
      rw [if_pos hs1]
      refine ihn result lastBlock s new hc hw htmp hpp (fun h => by
        rcases hmust h with h1 | ⟨_, h2, _⟩
        · exact .inl h1
        · rw [h2] at hs1; simp at hs1) hallc hq hres hpk hsn hso (fun hth => ?_)
      rcases List.mem_append.1 hth with h | h
      · exact hacc h
      · simp only [List.mem_singleton] at h
        rw [← h] at hs1
        simp [BP.canInterruptParagraph] at hs1
    by_cases hs2 : (decide (w > 3) && !bp.canAcceptIndentedLine) = true
    · unfold tryParsersC
      simp only []
      rw [if_neg hs1, if_pos hs2]
      refine ihn result lastBlock s new hc hw htmp hpp (fun h => by
        rcases hmust h with h1 | ⟨_, _, h3, _⟩
        · exact .inl h1
        · simp only [Bool.and_eq_true, decide_eq_true_eq] at hs2; exact absurd hs2.1 h3) hallc hq hres hpk hsn hso (fun hth => ?_)
      rcases List.mem_append.1 hth with h | h
      · exact hacc h
      · left
        simp only [Bool.and_eq_true, decide_eq_true_eq] at hs2
        exact hs2.1
    refine tryStepL lsp hpts hC cl hll parent blank cont w bp bps result lastBlock s c new hc hw hallc hq hres hs1 hs2
      htmp hpp (fun _ _ _ _ _ => ⟨hso, hsn⟩)
      (fun _ _ _ _ hk => absurd hk hpk) ?_ ?_
    · -- a list opened: what the next `goto retry` needs
      intro a s1 hO his hbl
      subst hbl
      obtain ⟨_, _, hm, hnl⟩ := hO.listFacts rfl his
      refine ⟨hm, ?_, ?_⟩
      · intro ch l pre' rest' hch htg hl hpre' hth
        have hlmem : BP.list ∈ bpsAll := by rw [← htr]; simp
        have hlb := htrig ch l hch htg hlmem
        obtain ⟨pre0, hp0, hq0⟩ := hstruct hlmem
        have hn0 : BP.list ∉ pre0 := fun hh => by rcases hq0 _ hh with h | h <;> cases h
        have hn' : BP.list ∉ pre' := fun hh => by rcases hpre' _ hh with h | h <;> cases h
        have e1 : pre' = pre0 := by
          refine append_cons_unique BP.list pre' pre0 rest' ([BP.listItem] ++ freeParsers) ?_ hn' hn0
          rw [← hl, hlb, hp0]; simp
        -- `tried` is that prefix, too
        have hnt : BP.list ∉ tried := by
          intro hh
          have hcount : (tried ++ BP.list :: bps).count BP.list = (pre0 ++ [BP.list, BP.listItem] ++ freeParsers).count BP.list := by
            rw [htr, hp0]
          rw [List.count_append, List.count_cons_self, List.count_append, List.count_append,
            List.count_eq_zero_of_not_mem hn0] at hcount
          have h1 : 0 < tried.count BP.list := List.count_pos_iff.2 hh
          have h2 : ([BP.list, BP.listItem] : List BP).count BP.list = 1 := by decide
          have h3 : freeParsers.count BP.list = 0 := by decide
          omega
        have e2 : tried = pre0 := by
          refine append_cons_unique BP.list tried pre0 bps ([BP.listItem] ++ freeParsers) ?_ hnt hn0
          rw [htr, hp0]; simp
        rw [e1, ← e2] at hth
        rcases hacc hth with h | h
        · exfalso
          apply hs2
          simp [BP.canAcceptIndentedLine, h]
        · exact h
      · unfold lastIsList
        rw [← hsn, ← hso]
        cases hl : s.pc.opened.getLast? with
        | none => rfl
        | some lb =>
          rw [hl] at hnl
          simp only at hnl ⊢
          simpa [nd] using hnl
    · -- the parser declined
      intro st s1 hO heqN htmp1 hpp1
      obtain ⟨hc1, hw1, ho1, hn1⟩ := open_noneL hO hc hw hallc
      refine ihn result _ s1 new hc1 hw1 htmp1 hpp1 (fun h => by
        rcases hmust h with h1 | ⟨h1, h2, h3, h4⟩
        · exact .inl h1
        · rcases List.mem_cons.1 h1 with h5 | h5
          · exfalso
            subst h5
            have e2 : bpOpen .paragraph parent s = paragraphOpen parent s := rfl
            rcases paragraphOpen_some hc.ri parent h4 with ⟨a, s', e1, h6⟩ | e1
            · rw [e2, e1] at heqN; cases heqN; cases h6
            · rw [e2, e1] at heqN; cases heqN
          · exact .inr ⟨h5, h2, h3, h4⟩) hallc hq ?_ (by rw [nd_eq_of_nodes_eq hn1]; exact hpk) (by rw [hn1, hsn])
        (by rw [ho1, hso]) (fun hth => ?_)
      · rcases hres with ⟨h1, h2, _⟩ | h
        · exact .inl ⟨h1, h2, fun ho' => by rw [← ho', ho1]⟩
        · exact .inr h
      · rcases List.mem_append.1 hth with h | h
        · exact hacc h
        · simp only [List.mem_singleton] at h
          right
          have := hO.thematic h.symm
          simpa using this.symm



theorem tryItemL {old pre : List Block} {root : Nat} {s0 sb : St} (cl : Call old pre)
    (hll : ∀ lb, old.getLast? = some lb → lb.bp.isContainer = false → ∃ q, LK s0 lb.node q) (parent : Nat) (blank cont : Bool)
    (w : Int) (c : RCur) (pre0 : List BP) (hpre0 : ∀ q ∈ pre0, q = BP.setext ∨ q = BP.thematic) (ch : UInt8)
    (hch : (lineOf src c)[(indentWidthI (lineOf src c) (loVal src c)).2.toNat]? = some ch)
    (htg : triggered ch = some (pre0 ++ [BP.list, BP.listItem] ++ freeParsers)) (hw3 : ¬ w > 3) :
    ∀ (todo done : List BP), done ++ todo = pre0 → ∀ (result : OpenResult) (lastBlock : Option Block) (s : St)
      (new : List Block), LineCtx src s c → WinL src old pre root s0 s new → TL s → (PP → s.pc.opened = old.dropLast ++ new) → (∀ b ∈ new, b.bp.isContainer = true) →
      parent = lastNode root (pre ++ new) →
      ((result = .noBlocksOpened ∧ new = [] ∧ (s.pc.opened = old → lastBlock = old.getLast?)) ∨ (result = .newBlocksOpened ∧ new ≠ [])) →
      Due src s c parent →
      OKE e (TPPostG src old pre root s0 sb c PP new w)
        (tryParsersC cls pts parent blank cont w (todo ++ [BP.list, BP.listItem] ++ freeParsers) result lastBlock s) := by
  have hns2 : ∀ bp : BP, ¬ (decide (w > 3) && !bp.canAcceptIndentedLine) = true := by
    intro bp h; simp only [Bool.and_eq_true, decide_eq_true_eq] at h; exact hw3 h.1
  have hres' : ∀ (result : OpenResult) (lastBlock : Option Block) (s s' : St) (new : List Block),
      s'.pc.opened = s.pc.opened →
      ((result = .noBlocksOpened ∧ new = [] ∧ (s.pc.opened = old → lastBlock = old.getLast?)) ∨ (result = .newBlocksOpened ∧ new ≠ [])) →
      ((result = .noBlocksOpened ∧ new = [] ∧ (s'.pc.opened = old → s.pc.opened.getLast? = old.getLast?)) ∨
        (result = .newBlocksOpened ∧ new ≠ [])) := by
    intro result lastBlock s s' new ho hres
    rcases hres with ⟨h1, h2, _⟩ | h
    · exact .inl ⟨h1, h2, fun ho' => by rw [← ho', ho]⟩
    · exact .inr h
  intro todo
  induction todo with
  | nil =>
    intro done _ result lastBlock s new hc hw htmp hpp hallc hq hres hdue
    simp only [List.nil_append, List.cons_append]
    -- listParser.Open declines
    refine tryStepL lsp hpts hC cl hll parent blank cont w .list _ result lastBlock s c new hc hw hallc hq hres
      (by simp [BP.canInterruptParagraph]) (hns2 _) htmp hpp (fun _ _ _ _ h => by cases h) ?_ ?_ ?_
    · intro a s1 hO his _
      exfalso
      obtain ⟨_, hsk, _, hnl⟩ := hO.listFacts rfl his
      rcases hdue.nl with h | ⟨lb, h1, h2⟩
      · rw [hsk] at h; cases h
      · rw [h1] at hnl; exact hnl h2
    · intro a s1 hO his _
      exfalso
      obtain ⟨_, hsk, _, hnl⟩ := hO.listFacts rfl his
      rcases hdue.nl with h | ⟨lb, h1, h2⟩
      · rw [hsk] at h; cases h
      · rw [h1] at hnl; exact hnl h2
    · intro st s1 hO _ htmp1 hpp1
      obtain ⟨hc1, hw1, ho1, hn1⟩ := open_noneL hO hc hw hallc
      -- listItemParser.Open opens
      refine tryStepL lsp hpts hC cl hll parent blank cont w .listItem _ result _ s1 c new hc1 hw1 hallc hq
        (hres' result lastBlock s s1 new ho1 hres)
        (by simp [BP.canInterruptParagraph]) (hns2 _) htmp1 hpp1 (fun _ _ _ _ h => by cases h) (fun _ _ _ _ _ => rfl) (fun _ _ _ _ h => by cases h) ?_
      intro st2 s2 hO2 _ _ _
      exfalso
      have hk1 : (nd s1 parent).kind = .list := by rw [nd_eq_of_nodes_eq hn1]; exact hdue.kind
      have := (hO2.itemFacts rfl).2.2 hk1 (fun m typ he => by
        have : li_lastOff s1 parent = li_lastOff s parent := by unfold li_lastOff; simp only [nd_eq_of_nodes_eq hn1]
        rw [this]; exact hdue.m m typ he)
      cases this
  | cons q todo ih =>
    intro done hd result lastBlock s new hc hw htmp hpp hallc hq hres hdue
    have hqm : q ∈ pre0 := by rw [← hd]; simp
    have hcan : q.canInterruptParagraph = true := by rcases hpre0 q hqm with h | h <;> rw [h] <;> rfl
    have hnone : ∀ a s1, OpenPostW src q parent s c a s1 → a.1.isSome = true → False := by
      intro a s1 hO his
      rcases hpre0 q hqm with h | h
      · subst h
        rcases hO.tmp with ⟨_, _, lb, h1, h2, h3, _⟩ | ⟨h', _⟩
        · have := hw.ls.kids.pk lb.node parent h3 hdue.kind
          rw [h2] at this; cases this
        · rcases h' with h' | h'
          · exact h' rfl
          · rw [h'] at his; cases his
      · subst h
        have h1 := hO.thematic rfl
        have h2 := hdue.th ch _ pre0 ([BP.listItem] ++ freeParsers) hch htg (by simp) hpre0 hqm
        rw [h2] at h1; rw [h1] at his; cases his
    simp only [List.cons_append]
    refine tryStepL lsp hpts hC cl hll parent blank cont w q _ result lastBlock s c new hc hw hallc hq hres
      (by simp [hcan]) (hns2 _) htmp hpp (fun a s1 hO his _ => (hnone a s1 hO his).elim) (fun a s1 hO his _ => (hnone a s1 hO his).elim) (fun a s1 hO his _ => (hnone a s1 hO his).elim) ?_
    intro st s1 hO _ htmp1 hpp1
    obtain ⟨hc1, hw1, ho1, hn1⟩ := open_noneL hO hc hw hallc
    have hpc1 : s1.pc = s.pc := hO.keepPc (by rcases hpre0 q hqm with h | h; exact .inl h; exact .inr h) rfl
    have := ih (done ++ [q]) (by rw [List.append_assoc]; exact hd) result s.pc.opened.getLast? s1 new hc1 hw1 htmp1 hpp1 hallc hq
      (hres' result lastBlock s s1 new ho1 hres) (hdue.congr hn1 hpc1)
    simpa only [List.append_assoc] using this


end tp


end GM.Blocks.L.G.X
