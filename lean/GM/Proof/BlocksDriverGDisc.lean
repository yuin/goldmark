/-
  GM.Proof.BlocksDriverGDisc — the CLOSE DISCIPLINE of the block driver, once, for the driver with hooks `G K`
  (GM.Proof.BlocksDriverG): whatever the second layer and the hooks are, the driver hands a block to Close before the block
  leaves the open-block stack, and every node it appends to the tree is on the stack. What a composed model has to supply
  is the interface `Disc`: an invariant `J` of the two-layer state, a two-layer step relation `D` (kept by everything that
  leaves the stack alone) and its weakening `W` (what survives a stack write), validity `V` / `Vn` of a stack slot / of the
  node `Open` has answered, `Done` = "this slot may leave the stack", and the facts about the three hooks, the paragraph
  transformers and the push. The instances: GM.Proof.ConvertHWFDrv (`discH`, `J`: every Heading gets its id), GM.Proof.ConvertFDiscRun
  (`discF`, `FJ`: every Footnote ends below the FootnoteList) and, with a trivial `J`, GM.Proof.IndepEnd (`discU`: the plain run ends
  with an empty stack). The walk up to `tryParsersG` is here, the rest with `runG_disc` in GM.Proof.BlocksDriverGRun.
-/
import GM.Proof.BlocksDriverG
import GM.Proof.IndepFrame
import GM.Proof.BlocksDriver

namespace GM.Blocks
open GM GM.Text

variable {σ P : Type}

theorem mem_of_dropLast {α} : ∀ (l : List α) (x : α), x ∈ l.dropLast → x ∈ l
  | [], _, h => by cases h
  | [_], _, h => by cases h
  | a :: b :: t, x, h => by
    rw [List.dropLast_cons_cons] at h
    rcases List.mem_cons.1 h with h | h
    · exact h ▸ List.mem_cons_self ..
    · exact List.mem_cons_of_mem _ (mem_of_dropLast (b :: t) x h)

/-- `opened'` has nothing new -/
def Shr (s s' : St) : Prop := ∀ b ∈ s'.pc.opened, b ∈ s.pc.opened
theorem Shr.refl (s : St) : Shr s s := fun _ h => h
theorem Shr.trans {a b c : St} (h1 : Shr a b) (h2 : Shr b c) : Shr a c := fun x hx => h1 x (h2 x hx)
theorem Shr.of_eq {s s' : St} (h : s'.pc.opened = s.pc.opened) : Shr s s' := fun x hx => by rw [← h]; exact hx

/-- what the close discipline of a driver with hooks rests on -/
structure Disc (K : Hooks σ P) (J : σ → St → Prop) (D W : σ → St → σ → St → Prop) (V Vn : Block → St → Prop)
    (Done : σ → St → Block → Prop) : Prop where
  refl : ∀ h s, D h s h s
  trans : ∀ {a sa b sb c sc}, D a sa b sb → D b sb c sc → D a sa c sc
  opened : ∀ {h s h' s'}, D h s h' s' → s'.pc.opened = s.pc.opened
  wrefl : ∀ h s, W h s h s
  wtrans : ∀ {a sa b sb c sc}, W a sa b sb → W b sb c sc → W a sa c sc
  dw : ∀ {h s h' s'}, D h s h' s' → W h s h' s'
  /-- a `D`-step followed by a stack write -/
  weak : ∀ {h s h' s'} (bl : List Block), D h s h' s' → W h s h' { s' with pc := { s'.pc with opened := bl } }
  valid : ∀ {h s h' s' b}, W h s h' s' → V b s → V b s'
  valid_pc : ∀ {b s} (pc' : Ctx), V b s → V b { s with pc := pc' }
  ovalid : ∀ {h s}, J h s → ∀ b ∈ s.pc.opened, V b s
  vn : ∀ {h s h' s' b}, W h s h' s' → Vn b s → Vn b s'
  stable : ∀ {h s h' s' b}, J h s → V b s → D h s h' s' → Done h s b → Done h' s' b
  /-- a node without parent is in no child list -/
  orphan : ∀ {h s b}, J h s → ¬ (s.nodes.getD b.node default).parent.isSome = true → Done h s b
  /-- RequireParagraph pops a Paragraph -/
  para_done : ∀ {h s b}, J h s → (s.nodes.getD b.node default).kind = .paragraph → Done h s b
  remove : ∀ {h s}, J h s → ∀ blocks' : List Block, (∀ b ∈ blocks', b ∈ s.pc.opened) →
    (∀ b ∈ s.pc.opened, b ∉ blocks' → Done h s b) → J h { s with pc := { s.pc with opened := blocks' } }
  cls : ∀ {h s h' s' bp node}, J h s → V { node := node, bp := bp } s → K.cls bp node h s = .ok (((), h'), s') →
    J h' s' ∧ D h s h' s' ∧ Done h' s' { node := node, bp := bp }
  tp : ∀ {h s h' s' b a}, J h s → V b s → (s.nodes.getD b.node default).kind = .paragraph →
    K.tp b.node h s = .ok ((a, h'), s') → J h' s' ∧ D h s h' s'
  opn : ∀ {h s h' s' p parent r}, J h s → K.opn p parent h s = .ok ((r, h'), s') →
    J h' s' ∧ W h s h' s' ∧ s'.pc.opened = s.pc.opened ∧ ∀ nd, r.1 = some nd → Vn { node := nd, bp := K.tag p } s'
  blank : ∀ {h s s' node bl}, J h s → modNode node (fun n => { n with blankPrev := bl }) s = .ok ((), s') →
    J h s' ∧ W h s h s' ∧ s'.pc.opened = s.pc.opened
  push : ∀ {h s s1 parent node bp}, J h s → Vn { node := node, bp := bp } s → appendChild parent node s = .ok ((), s1) →
    J h { s1 with pc := { s1.pc with opened := s1.pc.opened ++ [{ node := node, bp := bp }] } } ∧
    W h s h { s1 with pc := { s1.pc with opened := s1.pc.opened ++ [{ node := node, bp := bp }] } }
  /-- `J` speaks of the node store and the stack only -/
  same : ∀ {h s s'}, J h s → s'.nodes = s.nodes → s'.pc.opened = s.pc.opened → J h s' ∧ W h s h s'
  tocont : ∀ {h s c r lb x s'}, J h s → (∀ b, lb = some b → V b s) → toContinuable c r lb s = .ok (x, s') →
    J h s' ∧ W h s h s' ∧ s'.pc.opened = s.pc.opened
  cont : ∀ {h s h' s' bp node a}, J h s → V { node := node, bp := bp } s → K.cont bp node h s = .ok ((a, h'), s') →
    J h' s' ∧ W h s h' s' ∧ s'.pc.opened = s.pc.opened

variable {K : Hooks σ P} {J : σ → St → Prop} {D W : σ → St → σ → St → Prop} {V Vn : Block → St → Prop}
  {Done : σ → St → Block → Prop}

theorem closeLoopG_spec (d : Disc K J D W V Vn Done) (blocks : List Block) (to : Int) :
    ∀ (k : Nat) (h : σ) (s : St) (h' : σ) (s' : St),
    J h s → (∀ b ∈ blocks, V b s) → closeLoopG K blocks to k h s = .ok (((), h'), s') →
    J h' s' ∧ D h s h' s' ∧ ∀ j, j < k → ∀ b, blockAt blocks (to + j) = .ok b → Done h' s' b := by
  intro k
  induction k with
  | zero =>
    intro h s h' s' j _ e
    unfold closeLoopG at e
    cases e
    exact ⟨j, d.refl _ _, fun _ hj => by omega⟩
  | succ k ih =>
    intro h s h' s' j hb e
    unfold closeLoopG at e
    obtain ⟨b, h1, s1, e1, k1⟩ := Hoare.bind_ok₂ e
    obtain ⟨eh1, ex1⟩ := Hoare.lift_ok₂ e1
    have hbk : blockAt blocks (to + k) = .ok b ∧ s1 = s := by
      unfold liftE at ex1
      cases hx : blockAt blocks (to + ↑k) with
      | error y => rw [hx] at ex1; cases ex1
      | ok p => rw [hx] at ex1; cases ex1; exact ⟨rfl, rfl⟩
    obtain ⟨hbk, es1⟩ := hbk
    rw [eh1, es1] at k1
    obtain ⟨n, h2, s2, e2, k2⟩ := Hoare.bind_ok₂ k1
    obtain ⟨eh2, ex2⟩ := Hoare.lift_ok₂ e2
    cases ex2
    rw [eh2] at k2
    have hbm : b ∈ blocks := by
      unfold blockAt at hbk
      split at hbk
      · cases hbk
      · split at hbk
        · rename_i hget
          cases hbk
          exact List.mem_of_getElem? hget
        · cases hbk
    have rest : ∀ (h3 : σ) (s3 : St), J h3 s3 → D h s h3 s3 → (∀ b ∈ blocks, V b s3) →
        (do
          let n5 ← upG (getNode b.node)
          if n5.parent.isSome = true then do
            K.cls b.bp b.node
            closeLoopG K blocks to k
          else closeLoopG K blocks to k : StateT σ M Unit) h3 s3 = .ok (((), h'), s') →
        J h' s' ∧ D h s h' s' ∧ ∀ j, j < k + 1 → ∀ b, blockAt blocks (to + j) = .ok b → Done h' s' b := by
      intro h3 s3 j3 d3 hb3 k3
      obtain ⟨n5, h5, s5, e5, k5⟩ := Hoare.bind_ok₂ k3
      obtain ⟨eh5, ex5⟩ := Hoare.lift_ok₂ e5
      cases ex5
      rw [eh5] at k5
      have c6 : ∃ h6 s6, J h6 s6 ∧ D h3 s3 h6 s6 ∧ Done h6 s6 b ∧
          closeLoopG K blocks to k h6 s6 = .ok (((), h'), s') := by
        split at k5
        · obtain ⟨u6, h6, s6, e6, k6⟩ := Hoare.bind_ok₂ k5
          obtain ⟨j6, d6, dn⟩ := d.cls j3 (hb3 b hbm) e6
          exact ⟨h6, s6, j6, d6, dn, k6⟩
        · rename_i hpar
          exact ⟨h3, s3, j3, d.refl _ _, d.orphan j3 hpar, k5⟩
      obtain ⟨h6, s6, j6, d6, dn6, k6⟩ := c6
      have hb6 : ∀ b ∈ blocks, V b s6 := fun b hb' => d.valid (d.dw d6) (hb3 b hb')
      obtain ⟨j', d', dn'⟩ := ih h6 s6 h' s' j6 hb6 k6
      refine ⟨j', d.trans d3 (d.trans d6 d'), fun jj hjj b' hb' => ?_⟩
      by_cases hjk : jj = k
      · subst hjk
        rw [hbk] at hb'
        cases hb'
        exact d.stable j6 (hb6 _ hbm) d' dn6
      · exact dn' jj (by omega) b' hb'
    dsimp only at k2
    split at k2
    · rename_i hpk
      obtain ⟨_, h4, s4, e4, k4⟩ := Hoare.bind_ok₂ k2
      have hkp : (s.nodes.getD b.node default).kind = .paragraph := by
        simp only [Bool.and_eq_true, beq_iff_eq] at hpk
        exact hpk.1
      obtain ⟨j4, d4⟩ := d.tp j (hb b hbm) hkp e4
      exact rest h4 s4 j4 d4 (fun b hb' => d.valid (d.dw d4) (hb b hb')) k4
    · exact rest h s j (d.refl _ _) hb k2

theorem closeBlocksG_cut (K : Hooks σ P) (frm to : Int) :
    closeBlocksG K frm to = (do
      let l := (← upG getPc).opened
      closeLoopG K l to (frm - to + 1).toNat
      let x ← upG (liftE (cutRange l frm to))
      upG (modPc fun pc => { pc with opened := x })) := by
  funext h s
  unfold closeBlocksG
  simp only [bind, StateT.bind, upG, StateT.lift, getPc, pure, StateT.pure, Except.bind, Except.pure]
  cases closeLoopG K s.pc.opened to (frm - to + 1).toNat h s with
  | error e => rfl
  | ok v =>
    simp only [cutRange_eq]
    split
    · rfl
    · cases closeBlocks.slice' s.pc.opened 0 to with
      | error e => rfl
      | ok a => cases closeBlocks.slice' s.pc.opened (frm + 1) s.pc.opened.length <;> rfl

theorem closeBlocksG_spec (d : Disc K J D W V Vn Done) (frm to : Int) (h : σ) (s : St) (h' : σ) (s' : St) (j : J h s)
    (e : closeBlocksG K frm to h s = .ok (((), h'), s')) :
    J h' s' ∧ W h s h' s' ∧ (∀ b ∈ s'.pc.opened, b ∈ s.pc.opened) ∧
      (frm = (s.pc.opened.length : Int) - 1 → to = 0 → s'.pc.opened = []) := by
  rw [closeBlocksG_cut] at e
  obtain ⟨pc, h1, s1, e1, k1⟩ := Hoare.bind_ok₂ e
  obtain ⟨eh1, ex1⟩ := Hoare.lift_ok₂ e1
  obtain ⟨epc, es1⟩ := getPc_ok ex1
  subst eh1; subst es1; subst epc
  obtain ⟨u2, h2, s2, e2, k2⟩ := Hoare.bind_ok₂ k1
  obtain ⟨j2, st2, d2⟩ := closeLoopG_spec d s1.pc.opened to _ h1 s1 h2 s2 j (d.ovalid j) e2
  obtain ⟨blocks', h3, s3, e3, k3⟩ := Hoare.bind_ok₂ k2
  obtain ⟨eh3, ex3⟩ := Hoare.lift_ok₂ e3
  obtain ⟨hs, es3⟩ := liftE_ok ex3
  subst h3; subst s3
  have hsub := cutRange_mem hs
  obtain ⟨eh4, ex4⟩ := Hoare.lift_ok₂ k3
  have es' := modPc_ok ex4
  subst eh4
  have hop2 : s2.pc.opened = s1.pc.opened := d.opened st2
  -- a block that goes stands in a slot `to ≤ i ≤ frm`: the loop has closed it
  have jr := d.remove j2 blocks' (fun b hb => by rw [hop2]; exact hsub b hb) (fun b hb hn => by
    rw [hop2] at hb
    obtain ⟨i, hi⟩ := List.mem_iff_getElem?.1 hb
    have hil : i < s1.pc.opened.length := (List.getElem?_eq_some_iff.1 hi).1
    have hin : ¬ ((i : Int) < to ∨ frm < (i : Int)) := fun h => hn ((cutRange_mem_iff hs b).2 ⟨i, hi, h⟩)
    have hto := (cutRange_ok hs).1
    refine d2 (i - to.toNat) (by omega) b ?_
    unfold blockAt
    have e1 : ¬ (to + ((i - to.toNat : Nat) : Int) < 0) := by omega
    have e2 : (to + ((i - to.toNat : Nat) : Int)).toNat = i := by omega
    simp only [e1, if_false, e2, hi])
  rw [es']
  refine ⟨jr, d.weak _ st2, hsub, fun hf ht => ?_⟩
  rw [ht, cutRange_all (l := s1.pc.opened) (by omega)] at hs
  cases hs; rfl

theorem requireParaG_spec (d : Disc K J D W V Vn Done) (parent : Nat) (last : Option Nat) (lastBlock : Option Block)
    (h : σ) (s : St) (a : Bool) (h' : σ) (s' : St) (j : J h s) (hl : s.pc.opened.getLast? = lastBlock)
    (e : requireParaG K parent last lastBlock h s = .ok ((a, h'), s')) :
    J h' s' ∧ W h s h' s' ∧ ∀ b ∈ s'.pc.opened, b ∈ s.pc.opened := by
  unfold requireParaG at e
  obtain ⟨pn, h1, s1, e1, k1⟩ := Hoare.bind_ok₂ e
  obtain ⟨eh1, ex1⟩ := Hoare.lift_ok₂ e1
  obtain ⟨_, es1⟩ := getNode_ok ex1
  rw [eh1, es1] at k1
  split at k1
  · cases lastBlock with
    | none => cases k1
    | some lb =>
      simp only at k1
      obtain ⟨u2, h2, s2, e2, k2⟩ := Hoare.bind_ok₂ k1
      have hlb : lb ∈ s.pc.opened := List.mem_of_getLast? hl
      obtain ⟨j2, d2, _⟩ := d.cls j (d.ovalid j lb hlb) e2
      obtain ⟨pc3, h3, s3, e3, k3⟩ := Hoare.bind_ok₂ k2
      obtain ⟨eh3, ex3⟩ := Hoare.lift_ok₂ e3
      obtain ⟨epc, es3⟩ := getPc_ok ex3
      rw [eh3, es3, epc] at k3
      split at k3
      · cases k3
      · obtain ⟨u4, h4, s4, e4, k4⟩ := Hoare.bind_ok₂ k3
        obtain ⟨eh4, ex4⟩ := Hoare.lift_ok₂ e4
        have es4 := modPc_ok ex4
        rw [eh4] at k4
        obtain ⟨n5, h5, s5, e5, k5⟩ := Hoare.bind_ok₂ k4
        obtain ⟨eh5, ex5⟩ := Hoare.lift_ok₂ e5
        obtain ⟨en5, es5⟩ := getNode_ok ex5
        rw [eh5, es5] at k5
        split at k5
        · cases k5
        · rename_i hkind
          have hpk : (s2.nodes.getD lb.node default).kind = .paragraph := by
            rw [en5, es4] at hkind
            simpa using hkind
          have hlast : s2.pc.opened.getLast? = some lb := by rw [d.opened d2]; exact hl
          have j4 := d.remove j2 s2.pc.opened.dropLast (fun b hb => mem_of_dropLast _ _ hb) (fun b hb hn => by
            rcases mem_dropLast_or_last _ b hb with hd | hd
            · exact absurd hd hn
            · rw [hlast] at hd
              cases hd
              exact d.para_done j2 hpk)
          rw [← es4] at j4
          have v4 : V lb s4 := by rw [es4]; exact d.valid_pc _ (d.valid (d.dw d2) (d.ovalid j lb hlb))
          have hpk4 : (s4.nodes.getD lb.node default).kind = .paragraph := by rw [es4]; exact hpk
          obtain ⟨j6, d6⟩ := d.tp j4 v4 hpk4 k5
          refine ⟨j6, d.wtrans (by rw [es4]; exact d.weak _ d2) (d.dw d6), fun b hb => ?_⟩
          rw [d.opened d6, es4] at hb
          rw [← d.opened d2]
          exact mem_of_dropLast _ _ hb
  · cases k1
    exact ⟨j, d.wrefl _ _, fun _ hb => hb⟩

theorem pushTailG_spec (d : Disc K J D W V Vn Done) {α} (Q : α → Prop) (parent node : Nat) (bp : BP) (k : StateT σ M α)
    (hk : ∀ h s x h' s', k h s = .ok ((x, h'), s') → h' = h ∧ s' = s ∧ Q x)
    (h : σ) (s : St) (x : α) (h' : σ) (s' : St) (j : J h s) (pn : Vn { node := node, bp := bp } s)
    (e : (do
      upG (appendChild parent node)
      upG (modPc fun pc => { pc with opened := pc.opened ++ [{ node := node, bp := bp }] })
      k : StateT σ M α) h s = .ok ((x, h'), s')) : J h' s' ∧ W h s h' s' ∧ Q x := by
  obtain ⟨u1, h1, s1, e1, k1⟩ := Hoare.bind_ok₂ e
  obtain ⟨eh1, ex1⟩ := Hoare.lift_ok₂ e1
  obtain ⟨u2, h2, s2, e2, k2⟩ := Hoare.bind_ok₂ k1
  obtain ⟨eh2, ex2⟩ := Hoare.lift_ok₂ e2
  have es2 := modPc_ok ex2
  obtain ⟨eh3, es3, hq⟩ := hk _ _ _ _ _ k2
  obtain ⟨jp, wp⟩ := d.push j pn ex1
  rw [eh3, es3, eh2, eh1, es2]
  exact ⟨jp, wp, hq⟩

theorem afterModG_spec (d : Disc K J D W V Vn Done) {α} (Q : α → Prop) (parent node : Nat) (bp : BP)
    (last : Option Nat) (k : StateT σ M α) (hk : ∀ h s x h' s', k h s = .ok ((x, h'), s') → h' = h ∧ s' = s ∧ Q x)
    (h : σ) (s : St) (x : α) (h' : σ) (s' : St) (j : J h s) (pn : Vn { node := node, bp := bp } s)
    (e : (match last with
      | some l => do
        let n ← upG (getNode l)
        if n.parent.isNone = true then do
          let pc ← upG getPc
          closeBlocksG K ((pc.opened.length : Int) - 1) ((pc.opened.length : Int) - 1)
          upG (appendChild parent node)
          upG (modPc fun pc => { pc with opened := pc.opened ++ [{ node := node, bp := bp }] })
          k
        else do
          upG (appendChild parent node)
          upG (modPc fun pc => { pc with opened := pc.opened ++ [{ node := node, bp := bp }] })
          k
      | none => do
        upG (appendChild parent node)
        upG (modPc fun pc => { pc with opened := pc.opened ++ [{ node := node, bp := bp }] })
        k : StateT σ M α) h s = .ok ((x, h'), s')) : J h' s' ∧ W h s h' s' ∧ Q x := by
  cases last with
  | none => exact pushTailG_spec d Q parent node bp k hk h s x h' s' j pn e
  | some l =>
    simp only at e
    obtain ⟨n, h1, s1, e1, k1⟩ := Hoare.bind_ok₂ e
    obtain ⟨eh1, ex1⟩ := Hoare.lift_ok₂ e1
    obtain ⟨_, es1⟩ := getNode_ok ex1
    rw [eh1, es1] at k1
    split at k1
    · obtain ⟨pc, h2, s2, e2, k2⟩ := Hoare.bind_ok₂ k1
      obtain ⟨eh2, ex2⟩ := Hoare.lift_ok₂ e2
      obtain ⟨_, es2⟩ := getPc_ok ex2
      rw [eh2, es2] at k2
      obtain ⟨u3, h3, s3, e3, k3⟩ := Hoare.bind_ok₂ k2
      obtain ⟨j3, w3, _, _⟩ := closeBlocksG_spec d _ _ _ _ _ _ j e3
      obtain ⟨j4, w4, q4⟩ := pushTailG_spec d Q parent node bp k hk h3 s3 x h' s' j3 (d.vn w3 pn) k3
      exact ⟨j4, d.wtrans w3 w4, q4⟩
    · exact pushTailG_spec d Q parent node bp k hk _ _ x h' s' j pn k1

theorem tryParsersG_spec (d : Disc K J D W V Vn Done) (parent : Nat) (blankLine continuable : Bool) (w : Int) :
    ∀ (bps : List P) (result : OpenResult) (lastBlock : Option Block) (h : σ) (s : St)
      (x : TryOutcomeT × OpenResult × Option Block) (h' : σ) (s' : St), J h s →
      tryParsersG K parent blankLine continuable w bps result lastBlock h s = .ok ((x, h'), s') →
      (J h' s' ∧ W h s h' s') ∧ (x.2.1 ≠ .newBlocksOpened → x.2.1 = result ∧ Shr s s') ∧
        ((∀ b, lastBlock = some b → V b s) → ∀ b, x.2.2 = some b → V b s') := by
  intro bps
  induction bps with
  | nil =>
    intro result lastBlock h s x h' s' j e
    unfold tryParsersG at e
    cases e
    exact ⟨⟨j, d.wrefl _ _⟩, fun _ => ⟨rfl, Shr.refl _⟩, fun hl => hl⟩
  | cons bp bps ih =>
    intro result lastBlock h s x h' s' j e
    unfold tryParsersG at e
    dsimp only at e
    by_cases c1 : (continuable && result == .noBlocksOpened && !K.canInt bp) = true
    · rw [if_pos c1] at e
      exact ih result lastBlock h s x h' s' j e
    · rw [if_neg c1] at e
      by_cases c2 : (decide (w > 3) && !K.canAcc bp) = true
      · rw [if_pos c2] at e
        exact ih result lastBlock h s x h' s' j e
      · rw [if_neg c2] at e
        obtain ⟨lb, h1, s1, e1, k1⟩ := Hoare.bind_ok₂ e
        obtain ⟨eh1, ex1⟩ := Hoare.lift_ok₂ e1
        have elb : lb = s.pc.opened.getLast? ∧ s1 = s := by
          have : lastOpenedBlock s = .ok (s.pc.opened.getLast?, s) := rfl
          rw [this] at ex1
          cases ex1; exact ⟨rfl, rfl⟩
        obtain ⟨elb, es1⟩ := elb
        rw [eh1, es1] at k1
        obtain ⟨r, h2, s2, e2, k2⟩ := Hoare.bind_ok₂ k1
        obtain ⟨j2, w2, op2, vn2⟩ := d.opn j e2
        have hl2 : ∀ b, lb = some b → V b s2 := fun b hb =>
          d.valid w2 (d.ovalid j b (List.mem_of_getLast? (by rw [← elb, hb])))
        cases hr : r.1 with
        | none =>
          simp only [hr] at k2
          obtain ⟨⟨a, b⟩, c, v⟩ := ih result lb h2 s2 x h' s' j2 k2
          exact ⟨⟨a, d.wtrans w2 b⟩, fun hx => ⟨(c hx).1, (Shr.of_eq op2).trans (c hx).2⟩, fun _ => v hl2⟩
        | some node =>
          simp only [hr] at k2
          have pn2 := vn2 node hr
          have hkpure : ∀ (A B : TryOutcomeT × OpenResult × Option Block) (c : Prop) [Decidable c] (h : σ) (s : St) x h' s',
              (if c then (Pure.pure A : StateT σ M _) else Pure.pure B) h s = .ok ((x, h'), s') →
                h' = h ∧ s' = s ∧ (x = A ∨ x = B) := by
            intro A B c _ h s x h' s' e
            split at e
            · cases e; exact ⟨rfl, rfl, Or.inl rfl⟩
            · cases e; exact ⟨rfl, rfl, Or.inr rfl⟩
          have tail : ∀ (h3 : σ) (s3 : St), J h3 s3 → Vn { node := node, bp := K.tag bp } s3 → (∀ b, lb = some b → V b s3) →
              ∀ (transformed : Bool), (if transformed = true then Pure.pure (TryOutcomeT.retryTransformed, result, lb) else do
                upG (modNode node fun n => { n with blankPrev := blankLine })
                match Option.map (fun x => x.node) lb with
                | some l => do
                  let n ← upG (getNode l)
                  if n.parent.isNone = true then do
                    let pc ← upG getPc
                    closeBlocksG K ((pc.opened.length : Int) - 1) ((pc.opened.length : Int) - 1)
                    upG (appendChild parent node)
                    upG (modPc fun pc => { pc with opened := pc.opened ++ [{ node := node, bp := K.tag bp }] })
                    if r.2.hasChildren = true then Pure.pure (TryOutcomeT.retry node, OpenResult.newBlocksOpened, lb)
                    else Pure.pure (TryOutcomeT.done, OpenResult.newBlocksOpened, lb)
                  else do
                    upG (appendChild parent node)
                    upG (modPc fun pc => { pc with opened := pc.opened ++ [{ node := node, bp := K.tag bp }] })
                    if r.2.hasChildren = true then Pure.pure (TryOutcomeT.retry node, OpenResult.newBlocksOpened, lb)
                    else Pure.pure (TryOutcomeT.done, OpenResult.newBlocksOpened, lb)
                | none => do
                  upG (appendChild parent node)
                  upG (modPc fun pc => { pc with opened := pc.opened ++ [{ node := node, bp := K.tag bp }] })
                  if r.2.hasChildren = true then Pure.pure (TryOutcomeT.retry node, OpenResult.newBlocksOpened, lb)
                  else Pure.pure (TryOutcomeT.done, OpenResult.newBlocksOpened, lb) : StateT σ M _) h3 s3 = .ok ((x, h'), s') →
              (J h' s' ∧ W h3 s3 h' s') ∧ (x.2.1 ≠ .newBlocksOpened → x.2.1 = result ∧ Shr s3 s') ∧
                (∀ b, x.2.2 = some b → V b s') := by
            intro h3 s3 j3 pn3 hl3 transformed e3
            cases transformed with
            | true =>
              simp only [if_true] at e3
              cases e3
              exact ⟨⟨j3, d.wrefl _ _⟩, fun _ => ⟨rfl, Shr.refl _⟩, hl3⟩
            | false =>
              simp only [Bool.false_eq_true, if_false] at e3
              obtain ⟨u4, h4, s4, e4, k4⟩ := Hoare.bind_ok₂ e3
              obtain ⟨eh4, ex4⟩ := Hoare.lift_ok₂ e4
              rw [eh4] at k4
              obtain ⟨j4, w4, _⟩ := d.blank j3 ex4
              obtain ⟨a, b, q⟩ := afterModG_spec d (fun x => x = _ ∨ x = _) parent node (K.tag bp) _ _ (hkpure _ _ _)
                h3 s4 x h' s' j4 (d.vn w4 pn3) k4
              refine ⟨⟨a, d.wtrans w4 b⟩, fun hx => ?_, fun b' hb' => ?_⟩
              · exfalso
                rcases q with q | q <;> (rw [q] at hx; exact hx rfl)
              · have : lb = some b' := by rcases q with q | q <;> (rw [q] at hb'; exact hb')
                exact d.valid (d.wtrans w4 b) (hl3 b' this)
          by_cases c3 : r.2.requirePara = true
          · rw [if_pos c3] at k2
            obtain ⟨tr, h3, s3, e3, k3⟩ := Hoare.bind_ok₂ k2
            have hlast : s2.pc.opened.getLast? = lb := by rw [op2]; exact elb.symm
            obtain ⟨j3, w3, sh3⟩ := requireParaG_spec d parent _ lb h2 s2 tr h3 s3 j2 hlast e3
            obtain ⟨⟨a, b⟩, c, v⟩ := tail h3 s3 j3 (d.vn w3 pn2) (fun b hb => d.valid w3 (hl2 b hb)) tr k3
            exact ⟨⟨a, d.wtrans w2 (d.wtrans w3 b)⟩,
              fun hx => ⟨(c hx).1, ((Shr.of_eq op2).trans sh3).trans (c hx).2⟩, fun _ => v⟩
          · rw [if_neg c3] at k2
            obtain ⟨tr, h3, s3, e3, k3⟩ := Hoare.bind_ok₂ k2
            have e3' : tr = false ∧ h2 = h3 ∧ s2 = s3 := by cases e3; exact ⟨rfl, rfl, rfl⟩
            obtain ⟨et, eh3, es3⟩ := e3'
            rw [← eh3, ← es3] at k3
            obtain ⟨⟨a, b⟩, c, v⟩ := tail h2 s2 j2 pn2 hl2 tr k3
            exact ⟨⟨a, d.wtrans w2 b⟩, fun hx => ⟨(c hx).1, (Shr.of_eq op2).trans (c hx).2⟩, fun _ => v⟩

end GM.Blocks
