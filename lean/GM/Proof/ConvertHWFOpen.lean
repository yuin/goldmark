/-
  GM.Proof.ConvertHWFOpen — what `Open` / `Continue` of the block parsers do to the node store, read off the generated step relation `StepB`: links, kinds and
  the open-block stack stay (`StepB.lr`), old nodes outside `W` are untouched (`StepB.old`), created nodes have an allowed kind (`StepB.kindNew`); and the
  contract of `Open` the close disciplines need, free of any precondition: it answers none or a node of its parser's kind that it has just created (`OJ`, `RN`).
-/
import GM.Proof.ConvertHWF
import GM.Proof.BlocksStep

section ConvertHWFPar

namespace GM.ConvertH
open GM GM.Text GM.Blocks

/-- the node kind a block parser builds -/
def BP.kindOf : BP → Blocks.Kind
  | .setext => .heading | .thematic => .thematicBreak | .list => .list | .listItem => .listItem
  | .code => .codeBlock | .atx => .heading | .fenced => .fencedCodeBlock | .blockquote => .blockquote
  | .html => .htmlBlock | .paragraph => .paragraph

abbrev OpenRes := Option Nat × PState

theorem kind_eq_kindOf (bp : BP) : bp.kind = BP.kindOf bp := by cases bp <;> rfl

section views
variable {Kw : Prop} {L : Option Block} {K : Blocks.Kind → Prop} {W : Nat → Prop}

theorem _root_.GM.Blocks.StepB.lr {s s' : St} (h : StepB Kw L K W s s') : LR s s' := by
  induction h with
  | refl s => exact LR.refl s
  | trans _ _ ih1 ih2 => exact ih1.trans ih2
  | rd s r' _ _ => exact LR.of_same rfl rfl
  | key s pc' _ hp => exact ⟨Nat.le_refl _, fun _ => ⟨rfl, rfl⟩, fun _ _ => rfl, hp.keysOnly.opened⟩
  | write s id v _ hu =>
    have e := (modNode_lk id (fun n => { n with lines := v.lines, linesNil := v.linesNil, closure := v.closure })
      (fun _ => ⟨rfl, rfl, rfl⟩)).h s () _ rfl
    dsimp only at e
    rw [← hu] at e
    exact e
  | push s n hn => exact (newNode_lk n hn.1.parent hn.1.children).h s _ _ rfl

theorem _root_.GM.Blocks.StepB.old {s s' : St} (h : StepB Kw L K W s s') :
    ∀ i, ¬ W i → i < s.nodes.length → ndx s' i = ndx s i := by
  induction h with
  | refl s => exact fun _ _ _ => rfl
  | trans h1 _ ih1 ih2 => exact fun i hw hi => (ih2 i hw (Nat.lt_of_lt_of_le hi (StepF.len h1))).trans (ih1 i hw hi)
  | rd s r' _ _ => exact fun _ _ _ => rfl
  | key s pc' _ _ => exact fun _ _ _ => rfl
  | write s id v hw _ =>
    intro i hi _
    show ndx { r := s.r, nodes := s.nodes.set id v, pc := s.pc } i = ndx s i
    rw [ndx_set, if_neg (fun e : i = id ∧ id < s.nodes.length => hi (e.1 ▸ hw))]
  | push s n _ =>
    intro i _ hi
    show ndx { r := s.r, nodes := s.nodes ++ [n], pc := s.pc } i = ndx s i
    rw [ndx_append, if_neg (Nat.ne_of_lt hi)]

/-- the nodes from `n0` on have a kind of `K`, if they had -/
theorem _root_.GM.Blocks.StepB.kindFrom {s s' : St} (h : StepB Kw L K W s s') :
    ∀ n0, n0 ≤ s.nodes.length → (∀ i, n0 ≤ i → i < s.nodes.length → K (ndx s i).kind) →
      ∀ i, n0 ≤ i → i < s'.nodes.length → K (ndx s' i).kind := by
  induction h with
  | refl s => exact fun _ _ h => h
  | trans h1 _ ih1 ih2 => exact fun n0 hn h => ih2 n0 (Nat.le_trans hn (StepF.len h1)) (ih1 n0 hn h)
  | rd s r' _ _ => exact fun _ _ h => h
  | key s pc' _ _ => exact fun _ _ h => h
  | write s id v _ hu =>
    intro n0 _ h i h0 hi
    have hi' : i < s.nodes.length := by simpa using hi
    show K (ndx { r := s.r, nodes := s.nodes.set id v, pc := s.pc } i).kind
    rw [ndx_set]
    split
    · rename_i e
      rw [hu.links.2.2]
      have := h i h0 hi'
      rw [e.1] at this
      exact this
    · exact h i h0 hi'
  | push s n hn =>
    intro n0 _ h i h0 hi
    show K (ndx { r := s.r, nodes := s.nodes ++ [n], pc := s.pc } i).kind
    rw [ndx_append]
    split
    · exact hn.2
    · rename_i e
      have hi' : i < s.nodes.length := by
        have : i < s.nodes.length + 1 := by simpa using hi
        omega
      exact h i h0 hi'

theorem _root_.GM.Blocks.StepB.kindNew {s s' : St} (h : StepB Kw L K W s s') (i : Nat) (h0 : s.nodes.length ≤ i)
    (hi : i < s'.nodes.length) : K (ndx s' i).kind :=
  h.kindFrom s.nodes.length (Nat.le_refl _) (fun i a b => absurd b (Nat.not_lt.2 a)) i h0 hi

end views

/-- `Continue` writes its own node only, and the block quote parser's writes nothing -/
theorem bpContinue_stepB' {bp : BP} {n : Nat} {s s' : St} {a : PState} (h : bpContinue bp n s = .ok (a, s')) :
    StepB (bp.keyed = true) none (fun _ => False) (fun i => i = n ∧ bp ≠ .blockquote) s s' := by
  by_cases hb : bp = .blockquote
  · subst hb
    exact ((blockquoteContinue_built (NW := fun _ _ => False) (PW := fun _ => False) (NN := fun _ => False) n).stepsF
      (fun _ _ hf => hf.elim) (fun _ h => h.elim) (fun _ h => h.elim)).h s a s' h
  · exact (bpContinue_stepB h).mono id (fun _ hi => ⟨hi, hb⟩)

theorem toContinuable_stepB {c : Bool} {r : OpenResult} {lb : Option Block} {s s' : St} {x : OpenResult}
    (h : toContinuable c r lb s = .ok (x, s')) :
    StepB True none (fun _ => False) (fun i => ∃ b, lb = some b ∧ i = b.node ∧ b.bp ≠ .blockquote) s s' := by
  unfold toContinuable at h
  split at h
  · cases lb with
    | none => cases h
    | some b =>
      obtain ⟨st, s1, h1, h2⟩ := bind_ok h
      have e1 := (bpContinue_stepB' h1).mono (Kw' := True) (W' := fun i => ∃ b', some b = some b' ∧ i = b'.node ∧ b'.bp ≠ .blockquote)
        (fun _ => trivial) (fun i hi => ⟨b, rfl, hi.1, hi.2⟩)
      have e2 : s' = s1 := by split at h2 <;> cases h2 <;> rfl
      rw [e2]; exact e1
  · cases h; exact .refl s

theorem Lk.of_stepsB {Kw : Prop} {L : Option Block} {K : Blocks.Kind → Prop} {W : Nat → Prop} {α} {m : M α}
    (h : StepsB Kw L K W m) : Lk m := ⟨fun s a s' e => (h.h s a s' e).lr⟩

theorem lastOpenedBlock_lk : Lk lastOpenedBlock :=
  .of_stepsB (Kw := True) (L := none) (K := fun _ => False) (W := fun _ => False)
    ((lastOpenedBlock_built (RD := False) (NW := fun _ _ => False) (PW := fun _ => False) (NN := fun _ => False)).stepsF
      (fun _ _ hf => hf.elim) (fun _ h => h.elim) (fun _ h => h.elim))
theorem codeClose_lk (n : Nat) : Lk (codeClose n) :=
  .of_stepsB (codeClose_stepsB (Kw := True) (L := none) (K := fun _ => False) (W := (· = n)) rfl)
theorem fencedClose_lk (n : Nat) : Lk (fencedClose n) :=
  .of_stepsB (fencedClose_stepsB (Kw := True) (L := none) (K := fun _ => False) (W := fun _ => False) trivial n)
theorem bpOpen_lk (bp : BP) (p : Nat) : Lk (bpOpen bp p) := ⟨fun _ _ _ e => (bpOpen_stepB e).1.lr⟩
theorem bpContinue_lk (bp : BP) (n : Nat) : Lk (bpContinue bp n) := ⟨fun _ _ _ e => (bpContinue_stepB e).lr⟩
theorem toContinuable_lk (c : Bool) (r : OpenResult) (lb : Option Block) : Lk (toContinuable c r lb) :=
  ⟨fun _ _ _ e => (toContinuable_stepB e).lr⟩

end GM.ConvertH
end ConvertHWFPar

section ConvertHWFOpen
/-
  The contract of `Open` the close discipline needs, without any precondition on the state:
  when `bp.Open` answers a node, that node is FRESH (its index is at least the old store length), EXISTS in the new
  store, and has the kind the parser builds (`BP.kindOf`); and `Open` only reads the tree links.

  `OJ K m`: `m` answers `(none, _)` or a node of kind `K` it has just created — read off `bpOpen_stepB` (GM.Proof.BlocksStep);
  `RN node m`: the part of `Open` behind its `newNode`: answers `(none, _)` or `(some node, _)`.
-/

namespace GM.ConvertH
open GM GM.Text GM.Blocks

structure RN (node : Nat) (m : M OpenRes) : Prop where
  h : ∀ s a s', m s = .ok (a, s') → (a.1 = none ∨ a.1 = some node) ∧ LR s s'

theorem RN.pureNone (node : Nat) (st : PState) : RN node (Pure.pure (none, st) : M OpenRes) :=
  ⟨fun s _ _ h => by cases h; exact ⟨Or.inl rfl, LR.refl s⟩⟩
theorem RN.throw (node : Nat) (e : Panic) : RN node (throw e : M OpenRes) := ⟨fun _ _ _ h => by cases h⟩

structure OJ (K : Blocks.Kind) (m : M OpenRes) : Prop where
  h : ∀ s a s', m s = .ok (a, s') → LR s s' ∧
    ∀ id, a.1 = some id → s.nodes.length ≤ id ∧ id < s'.nodes.length ∧ (ndx s' id).kind = K

theorem OJ.throw (K : Blocks.Kind) (e : Panic) : OJ K (throw e : M OpenRes) := ⟨fun _ _ _ h => by cases h⟩

theorem bpOpen_oj (bp : BP) (p : Nat) : OJ (BP.kindOf bp) (bpOpen bp p) :=
  ⟨fun s a s' e =>
    have h := bpOpen_stepB e
    ⟨h.1.lr, fun id hid =>
      ⟨(h.2 id hid).1, (h.2 id hid).2, (h.1.kindNew id (h.2 id hid).1 (h.2 id hid).2).trans (kind_eq_kindOf bp)⟩⟩⟩

end GM.ConvertH
end ConvertHWFOpen
