/-
  GM.Proof.BlocksTNOBase — what the order and close-discipline walks through the driver WITH paragraph transformers share, and the instance without tables (`TO`): `InvT`, `InvGF`, `CleanG` /
  `OpenEffG`, the entry condition of `openBlocksT` (`Ent`, `NP`, `QQ`), the start state `st0`, and `CInvG`, the close discipline of the final store.
-/
import GM.Proof.BlocksTNPNoBar
import GM.Proof.LinkRefTransform
import GM.Proof.BlocksOpenStep
import GM.Proof.BlocksTStep
import GM.Proof.BlocksLoopRule
import GM.Proof.BlocksClosedInv

section BlocksTNOBase
/-
  What the walks through the block driver WITH paragraph transformers (GM.Model.Blocks.DriverT) share.

  * `InvT src B s`: `Inv` of GM.Proof.BlocksOrdInv WITHOUT "every Paragraph has a line" (false once a transformer has
    emptied a paragraph: the GONE case of `PTPost`) and WITH "no open block belongs to the setext heading parser"; with it
    `CleanT` and `OpenEffT`. `InvT.linesOKB`: the lines of a Paragraph pass the guard of `guardE` (`linesOKB`, hence
    `TLinesOK`); the general form is `linesOKB_of`.
  * `ptpost_lines`: a transformer call (`PTPost`) only drops a prefix of a node's lines.
-/

namespace GM.Blocks.TO
open GM GM.Text GM.Spec GM.Proof.Reader
open GM.Proof.BlocksWF0 (isRaw)

/-- the first clause of `NodeB` of GM.Proof.BlocksOrdInv (the walk with transformers carries the order clause for raw nodes separately): a
    block that is not raw has increasing lines that end at or before `B` -/
def NodeB (B : Int) (n : Node) : Prop :=
  isRaw n.kind = false → OrdFrom 0 n.lines ∧ Below B n.lines ∧ ∀ t ∈ n.lines, t.start < t.stop ∧ t.forceNewline = false

theorem NodeB.mono {B B' : Int} (h : B ≤ B') {n : Node} (hn : NodeB B n) : NodeB B' n :=
  fun hr => ⟨(hn hr).1, (hn hr).2.1.mono h, (hn hr).2.2⟩

structure InvT (src : Bytes) (B : Int) (s : St) : Prop where
  nrb : ∀ i, NodeB B (nd s i)
  nsx : ∀ b ∈ s.pc.opened, b.bp ≠ .setext
  pnb : ∀ i, (nd s i).kind = .paragraph → ∀ t ∈ (nd s i).lines, NonBlankSeg src t
  tmpk : ∀ t, s.pc.tmpPara = some t → (nd s t).kind = .paragraph
  kinds : ∀ b ∈ s.pc.opened, (nd s b.node).kind = b.bp.kind ∧ b.node < s.nodes.length
  nodes : NodesOK src s

theorem wfSegsFromB_complete (src : Bytes) : ∀ (ls : List Segment) (lo : Int), OrdFrom lo ls →
    (∀ t ∈ ls, t.start < t.stop ∧ t.stop ≤ src.length ∧ 0 ≤ t.padding ∧ t.forceNewline = false) →
    GM.LinkRef.wfSegsFromB src lo ls = true
  | [], _, _, _ => rfl
  | a :: rest, lo, ⟨h1, h2⟩, hall => by
    obtain ⟨a1, a2, a3, a4⟩ := hall a (List.mem_cons_self ..)
    have ih := wfSegsFromB_complete src rest a.stop h2 (fun t ht => hall t (List.mem_cons_of_mem _ ht))
    simp only [GM.LinkRef.wfSegsFromB, h1, a1, a2, a3, a4, ih, decide_true, Bool.and_self, Bool.not_false]

/-- ordered, non-empty, in-range segments without ForceNewline that each hold a non-space byte pass the run-time check of
    `guardE` -/
theorem linesOKB_of {src : Bytes} {ls : List Segment} (hord : OrdFrom 0 ls)
    (hseg : ∀ t ∈ ls, t.start < t.stop ∧ t.forceNewline = false) (hok : LinesOK src ls)
    (hnb : ∀ t ∈ ls, NonBlankSeg src t) : GM.LinkRef.linesOKB src ls = true := by
  unfold GM.LinkRef.linesOKB
  cases ls with
  | nil => rfl
  | cons a rest =>
    have h1 : GM.LinkRef.wfSegsFromB src 0 (a :: rest) = true :=
      wfSegsFromB_complete src _ 0 hord (fun t ht => ⟨(hseg t ht).1, (hok t ht).2.2.1, (hok t ht).2.2.2, (hseg t ht).2⟩)
    have h2 : GM.LinkRef.noBlankB src (a :: rest) = true := by
      unfold GM.LinkRef.noBlankB
      rw [List.all_eq_true]
      intro t ht
      have := hnb t ht
      unfold NonBlankSeg at this
      rw [this]; rfl
    simp only [GM.LinkRef.wfSegsB, h1, h2, List.isEmpty_cons, Bool.not_false, Bool.and_self, Bool.or_true]

/-- the lines of a Paragraph node pass the run-time check of `guardE` -/
theorem InvT.linesOKB {src : Bytes} {B : Int} {s : St} (hi : InvT src B s) {node : Nat}
    (hk : (nd s node).kind = .paragraph) : GM.LinkRef.linesOKB src (nd s node).lines = true :=
  have hnb := hi.nrb node (by rw [hk]; rfl)
  linesOKB_of hnb.1 hnb.2.2 (nodeOK_nd hi.nodes node).lines (hi.pnb node hk)

theorem InvT.tlinesOK {src : Bytes} {B : Int} {s : St} (hi : InvT src B s) {node : Nat}
    (hk : (nd s node).kind = .paragraph) : GM.Proof.LinkRefTot2.TLinesOK src (nd s node).lines :=
  GM.Proof.LinkRefTot2.linesOKB_sound (hi.linesOKB hk)

theorem OrdFrom.drop' : ∀ (k : Nat) {lo : Int} {ls : List Segment}, OrdFrom lo ls → (∀ t ∈ ls, t.start < t.stop) →
    OrdFrom lo (ls.drop k)
  | 0, _, _, h, _ => by simpa using h
  | _ + 1, _, [], _, _ => by simp [OrdFrom]
  | k + 1, _, a :: rest, ⟨h1, h2⟩, hall => by
    have := hall a (List.mem_cons_self ..)
    simp only [List.drop_succ_cons]
    exact OrdFrom.drop' k (OrdFrom.mono (by omega) h2) (fun t ht => hall t (List.mem_cons_of_mem _ ht))

/-- after a transformer call every node's lines are a final segment of what they were (new nodes have none) -/
theorem ptpost_lines {node : Nat} {s s' : St} (hlt : node < s.nodes.length) (h : PTPost node s s') :
    ∀ i, ∃ k, (nd s' i).lines = (nd s i).lines.drop k := by
  rcases h.res with ⟨refs, k, _, e⟩ | ⟨refs, p, hp, e⟩
  · have hnodes : s'.nodes = s.nodes.set node { (nd s node) with lines := (nd s node).lines.drop k } := by rw [e]
    intro i
    by_cases hi : i = node
    · subst hi; exact ⟨k, by rw [nd_of_set_self hnodes hlt]⟩
    · exact ⟨0, by rw [nd_of_set_ne hnodes hi]; simp⟩
  · have hEn : (ptEmptied s node refs).nodes = s.nodes.set node { (nd s node) with lines := [] } := rfl
    have hElt : node < (ptEmptied s node refs).nodes.length := by rw [hEn, List.length_set]; exact hlt
    have hElen : (ptEmptied s node refs).nodes.length = s.nodes.length := by rw [hEn, List.length_set]
    have hEp : (nd (ptEmptied s node refs) node).parent = some p := by rw [nd_of_set_self hEn hlt]; exact hp
    obtain ⟨s2, e2, hf, _⟩ := T.ptReplace_eq node p (nd s node).blankPrev (ptEmptied s node refs) hElt hEp
    rw [e2] at e
    cases e
    intro i
    rw [(hf.same i).2.1]
    have hnA : ({ (ptEmptied s node refs) with nodes := (ptEmptied s node refs).nodes ++
        [{ kind := .textBlock, blankPrev := (nd s node).blankPrev }] } : St).nodes =
        (ptEmptied s node refs).nodes ++ [{ kind := .textBlock, blankPrev := (nd s node).blankPrev }] := rfl
    rw [nd_snoc hnA i, hElen]
    by_cases h1 : i < s.nodes.length
    · rw [if_pos h1]
      by_cases hi : i = node
      · subst hi; exact ⟨(nd s i).lines.length, by rw [nd_of_set_self hEn hlt]; simp⟩
      · exact ⟨0, by rw [nd_of_set_ne hEn hi]; simp⟩
    · rw [if_neg h1, nd_default_of_ge s (Nat.le_of_not_lt h1)]
      refine ⟨0, ?_⟩
      split <;> rfl

structure CleanT (src : Bytes) (L : Int) (s : St) (c : RCur) : Prop where
  inv : InvT src L s
  ri : RI src s.r c
  pad : PadOK c
  le : L ≤ c.p

/-- what `Open` of any of the ten parsers does to a clean state (the contract `OpenPost` of GM.Proof.BlocksInv, the list
    parsers' own contracts, and `open_newNode`) -/
structure OpenEffT (src : Bytes) (L : Int) (bp : BP) (s : St) (c : RCur) (a : Option Nat × PState) (s' : St) : Prop where
  invE : InvT src (lineEnd src c.p : Int) s'
  stop : Stop src (lineEnd src c.p : Int) s'
  opened : s'.pc.opened = s.pc.opened
  boff : s'.pc.blockOffset = s.pc.blockOffset
  declined : a.1 = none → CleanT src L s' c ∧ s'.nodes = s.nodes
  container : a.2.hasChildren = true → ∃ c', CleanT src L s' c' ∧ c.p ≤ c'.p
  node : ∀ id, a.1 = some id → id = s.nodes.length ∧ id < s'.nodes.length ∧ (nd s' id).kind = bp.kind
  noreq : a.2.requirePara = true → bp = .setext

section
open GM.Blocks.T GM.LinkRef

theorem oke_of_ok {e : Panic} {α} {P : α → St → Prop} {x : Except Panic (α × St)} {a : α} {s' : St} (h : OKE e P x)
    (h1 : x = .ok (a, s')) : P a s' := by
  rcases h with h | h
  · exact h.of_ok h1
  · rw [h1] at h; cases h

theorem guardedTransform_passes (node : Nat) (s : St) (h : linesOKB s.r.source (nd s node).lines = true) :
    guardedTransform node s = transform node s := by
  have h' : linesOKB s.r.source (s.nodes.getD node default).lines = true := h
  have hg : ((s.nodes.getD node default).lines.length != 0 && !wfSegsB s.r.source (s.nodes.getD node default).lines) = false := by
    simp only [linesOKB, Bool.or_eq_true, beq_iff_eq, Bool.and_eq_true] at h'
    rcases h' with h0 | ⟨h1, _⟩
    · rw [h0]; rfl
    · rw [h1]; simp
  unfold guardedTransform
  simp only [bind, StateT.bind, getNode, source, pure, Except.pure, Except.bind, hg, Bool.false_eq_true, if_false]

end

end GM.Blocks.TO
end BlocksTNOBase

section BlocksTNOInvG
/-
  The line-order / non-blank invariant `InvGF` of the final store of the block driver WITH the
  link-reference paragraph transformer, EVERY source (setext headings included).

  `InvGF F src B s` = `InvT` (above) with "no open setext block" replaced by
    * `ord`: the nodes of the open blocks increase (so a popped paragraph is no other open block's node), and
    * `tl`: while a setext heading block is open, temporaryParagraphKey (if set) points to a node that HAS lines and is no
      open block's node (so no transformer call empties it before `setextHeadingParser.Close` copies its lines);
  and with the bound clause weakened for Heading nodes (`NodeG`: a Heading is never appended to; the node that
  `setextHeadingParser.Open` builds on the underline and that is abandoned when the paragraph is transformed away keeps
  its one line of the current source line). The walk that carries it is that of GM.Proof.BlocksTNO*W (`InvW False`).
-/

namespace GM.Blocks.TO
open GM GM.Text GM.Spec GM.Proof.Reader
open GM.Proof.BlocksWF0 (isRaw)

/-- `NodeB` without the bound for Heading nodes -/
def NodeG (B : Int) (n : Node) : Prop :=
  isRaw n.kind = false → OrdFrom 0 n.lines ∧ (n.kind ≠ .heading → Below B n.lines) ∧
    ∀ t ∈ n.lines, t.start < t.stop ∧ t.forceNewline = false

theorem NodeG.mono {B B' : Int} (h : B ≤ B') {n : Node} (hn : NodeG B n) : NodeG B' n :=
  fun hr => ⟨(hn hr).1, fun hk => ((hn hr).2.1 hk).mono h, (hn hr).2.2⟩

structure InvGF (F : Prop) (src : Bytes) (B : Int) (s : St) : Prop where
  nrb : ∀ i, NodeG B (nd s i)
  ord : s.pc.opened.Pairwise (fun a b => a.node < b.node)
  pnb : ∀ i, (nd s i).kind = .paragraph → ∀ t ∈ (nd s i).lines, NonBlankSeg src t
  tmpk : ∀ t, s.pc.tmpPara = some t → (nd s t).kind = .paragraph
  kinds : ∀ b ∈ s.pc.opened, (nd s b.node).kind = b.bp.kind ∧ b.node < s.nodes.length
  nodes : NodesOK src s
  tl : ∀ t, s.pc.tmpPara = some t → (F ∨ ∃ b ∈ s.pc.opened, b.bp = .setext) →
    (nd s t).lines ≠ [] ∧ ∀ b' ∈ s.pc.opened, b'.node ≠ t
  raw : ∀ i, isRaw (nd s i).kind = true → OrdFrom 0 (nd s i).lines ∧ Below B (nd s i).lines

/-- the invariant proper; `InvGF True` (the key is live whether or not a setext block is open) is used between
    `setextHeadingParser.Open` and the push of its block -/
abbrev InvG := InvGF False

variable {F : Prop}

theorem InvGF.weaken {src : Bytes} {B : Int} {s : St} (hi : InvGF F src B s) : InvG src B s :=
  ⟨hi.nrb, hi.ord, hi.pnb, hi.tmpk, hi.kinds, hi.nodes, fun t ht hm => hi.tl t ht (.inr (hm.resolve_left id)), hi.raw⟩

theorem InvGF.linesOKB {src : Bytes} {B : Int} {s : St} (hi : InvGF F src B s) {node : Nat}
    (hk : (nd s node).kind = .paragraph) : GM.LinkRef.linesOKB src (nd s node).lines = true :=
  have hnb := hi.nrb node (by rw [hk]; rfl)
  linesOKB_of hnb.1 hnb.2.2 (nodeOK_nd hi.nodes node).lines (hi.pnb node hk)

end GM.Blocks.TO
end BlocksTNOInvG

section BlocksTNOCleanG
/-
  A clean state, and what `Open` of a block parser does to it, for the invariant `InvG`: `CleanG`, `OpenEffG`. The setext
  heading parser may answer a node (`OpenEffG.sxL`: the state stays clean — the new Heading node is exempt from the bound —
  and temporaryParagraphKey now names the last opened block, a Paragraph).
-/

namespace GM.Blocks.TO
open GM GM.Text GM.Spec GM.Proof.Reader
open GM.Proof.BlocksWF0 (isRaw)

structure CleanG (src : Bytes) (L : Int) (s : St) (c : RCur) : Prop where
  inv : InvG src L s
  ri : RI src s.r c
  pad : PadOK c
  le : L ≤ c.p
  padl : PadL L c

/-- what `Open` of any of the ten parsers does to a clean state (the contract `OpenPost` of GM.Proof.BlocksInv, the list
    parsers' own contracts, and `open_newNode`) -/
structure OpenEffG (src : Bytes) (L : Int) (bp : BP) (s : St) (c : RCur) (a : Option Nat × PState) (s' : St) : Prop where
  invE : InvG src (lineEnd src c.p : Int) s'
  stop : Stop src (lineEnd src c.p : Int) s'
  opened : s'.pc.opened = s.pc.opened
  boff : s'.pc.blockOffset = s.pc.blockOffset
  declined : a.1 = none → CleanG src L s' c ∧ s'.nodes = s.nodes ∧ s'.pc.tmpPara = s.pc.tmpPara
  container : a.2.hasChildren = true → ∃ c', CleanG src L s' c' ∧ c.p ≤ c'.p
  node : ∀ id, a.1 = some id → id = s.nodes.length ∧ id < s'.nodes.length ∧ (nd s' id).kind = bp.kind
  noreq : a.2.requirePara = true → bp = .setext
  cont : a.2.hasChildren = true → bp.isContainer = true
  tmplt : ∀ t, s'.pc.tmpPara = some t → t < s.nodes.length
  tmpsame : bp ≠ .setext → s'.pc.tmpPara = s.pc.tmpPara
  sxL : bp = .setext → a.1.isSome = true → (∃ c', CleanG src L s' c' ∧ c.p ≤ c'.p) ∧
    ∃ lb, s.pc.opened.getLast? = some lb ∧ (nd s lb.node).kind = .paragraph ∧ s'.pc.tmpPara = some lb.node
  snoc : ∀ id, a.1 = some id → ∃ n, s'.nodes = s.nodes ++ [n] ∧ n.kind = bp.kind

end GM.Blocks.TO
end BlocksTNOCleanG

section BlocksTNOEntry
/-
  Small facts the walks through `openBlocksT` share: `transform_post` (what a normal end of
  `GM.LinkRef.transform` looks like without the parent hypothesis), `QQ` ("no setext block below a paragraph block"),
  what `openBlocksT` knows of its entry state (`Ent`, `NP`), and the state `parseBlocksT` starts its outer loop in.
-/

namespace GM.Blocks.TO
open GM GM.Text GM.Spec GM.Proof.Reader GM.LinkRef
open GM.Proof.BlocksWF0 (isRaw)

/-- Transform on lines fit for it, WITHOUT a parent: if it ends normally then as `PTPost` says (all lines gone and no
    parent is the nil dereference of link_ref.go:46) -/
theorem transform_post (node : Nat) (s s' : St) (hl : GM.Proof.LinkRefTot2.TLinesOK s.r.source (nd s node).lines)
    (e : transform node s = .ok ((), s')) : PTPost node s s' := by
  obtain ⟨rm, refs', e1, a1, a2⟩ := GM.Proof.LinkRefTot2.transformScan_linesOK hl s.pc.refs
  exact (GM.Proof.LinkRefTot2.transform_finish node s e1 (GM.Proof.LinkRefTot2.finishLines_ok a1 a2)).1 s' e

def QQ (s : St) : Prop := s.pc.opened.Pairwise (fun a b => b.bp = .paragraph → a.bp ≠ .setext)

theorem QQ.congr {s s' : St} (h : QQ s) (ho : s'.pc.opened.Sublist s.pc.opened) : QQ s' := List.Pairwise.sublist ho h

theorem QQ.of_leafy {s : St} (h : Leafy s.pc.opened) : QQ s := by
  unfold QQ
  generalize s.pc.opened = l at h
  induction l with
  | nil => exact List.Pairwise.nil
  | cons x xs ih =>
    refine List.Pairwise.cons (fun b hb _ hx => ?_) (ih (fun b hb => h b ?_))
    · have hne : xs ≠ [] := List.ne_nil_of_mem hb
      have : x ∈ (x :: xs).dropLast := by
        cases xs with
        | nil => exact absurd rfl hne
        | cons y ys => simp [List.dropLast]
      have := h x this
      rw [hx] at this; cases this
    · cases xs with
      | nil => simp at hb
      | cons y ys => simp only [List.dropLast_cons₂]; exact List.mem_cons_of_mem _ hb

/-- when the last opened block is a Paragraph node, no setext block is open -/
theorem QQ.sf {s : St} (hq : QQ s) (hk : ∀ b ∈ s.pc.opened, (nd s b.node).kind = b.bp.kind) {lb : Block}
    (hl : s.pc.opened.getLast? = some lb) (hp : (nd s lb.node).kind = .paragraph) : ∀ b ∈ s.pc.opened, b.bp ≠ .setext := by
  have hlbp : lb.bp = .paragraph := kind_paragraph (by rw [← hk lb (List.mem_of_getLast? hl)]; exact hp)
  obtain ⟨ys, hys⟩ := List.getLast?_eq_some_iff.1 hl
  intro b hb
  unfold QQ at hq
  rw [hys] at hb hq
  rcases List.mem_append.1 hb with h | h
  · exact (List.pairwise_append.1 hq).2.2 b h lb (by simp) hlbp
  · simp only [List.mem_singleton] at h; rw [h, hlbp]; decide

theorem isContainer_ne_paragraph {bp : BP} (h : bp.isContainer = true) : bp ≠ .paragraph := by
  intro e; rw [e] at h; cases h

/-- a transformer call that left the paragraph its parent left it a line -/
theorem ptpost_keep {src : Bytes} {node : Nat} {s s' : St} (hn : NodesOK src s) (hlt : node < s.nodes.length)
    (h : PTPost node s s') (hp : (nd s' node).parent.isSome = true) : (nd s' node).lines ≠ [] := by
  obtain ⟨g, ht⟩ := T.tstep_of_post hn hlt h
  cases g with
  | false => exact (ht.keep rfl).1
  | true => rw [ht.goneP rfl] at hp; cases hp

/-- what `openBlocksT` knows of its entry state `s0` (`old` = its stack): all blocks but the last are containers, and a
    last block that is a Paragraph is the last child of its parent -/
structure Ent (old : List Block) (s0 : St) : Prop where
  leafy : Leafy old
  ll : ∀ lb, old.getLast? = some lb → (nd s0 lb.node).kind = .paragraph → ∀ p, (nd s0 lb.node).parent = some p →
    (nd s0 p).children.getLast? = some lb.node ∧ p < s0.nodes.length

/-- nothing has happened since the entry of `openBlocksT`, or the last opened block is not a Paragraph -/
def NP (old : List Block) (s0 s : St) : Prop :=
  (s.nodes = s0.nodes ∧ s.pc.opened = old) ∨ ∀ lb, s.pc.opened.getLast? = some lb → (nd s lb.node).kind ≠ .paragraph

theorem NP.congr {old : List Block} {s0 s s' : St} (h : NP old s0 s) (hn : s'.nodes = s.nodes)
    (ho : s'.pc.opened = s.pc.opened) : NP old s0 s' := by
  rcases h with ⟨a, b⟩ | h
  · exact .inl ⟨hn.trans a, ho.trans b⟩
  · exact .inr (fun lb hl => by rw [ho] at hl; simp only [nd, hn]; exact h lb hl)

/-- when the last opened block is a Paragraph node, the stack is the entry stack, and no setext block is open -/
theorem NP.sf {old : List Block} {s0 s : St} (h : NP old s0 s) (hl : Leafy old)
    (hk : ∀ b ∈ s.pc.opened, (nd s b.node).kind = b.bp.kind) {lb : Block}
    (hlast : s.pc.opened.getLast? = some lb) (hp : (nd s lb.node).kind = .paragraph) :
    (s.nodes = s0.nodes ∧ s.pc.opened = old) ∧ ∀ b ∈ s.pc.opened, b.bp ≠ .setext := by
  rcases h with ⟨a, b⟩ | h
  · refine ⟨⟨a, b⟩, fun x hx => ?_⟩
    have hlbp : lb.bp = .paragraph := kind_paragraph (by rw [← hk lb (List.mem_of_getLast? hlast)]; exact hp)
    obtain ⟨ys, hys⟩ := List.getLast?_eq_some_iff.1 hlast
    rw [hys] at hx
    rcases List.mem_append.1 hx with h1 | h1
    · have : x ∈ old.dropLast := by rw [← b, hys, List.dropLast_concat]; exact h1
      have := hl x this
      intro e0; rw [e0] at this; cases this
    · simp only [List.mem_singleton] at h1; rw [h1, hlbp]; decide
  · exact absurd hp (h lb hlast)

/-- `initSt src` with the stack emptied (parser.go:1052) -/
abbrev st0 (src : Bytes) : St := { (initSt src) with pc := { (initSt src).pc with opened := [] } }

theorem parseBlocksT_eq (pts : List PT) (src : Bytes) :
    parseBlocksT pts 0 (initSt src) = blocksLoopT pts 0 (linesFuel src) [] (st0 src) := rfl

theorem nd_st0 (src : Bytes) (i : Nat) : nd (st0 src) i = if i = 0 then { kind := .document } else default := by
  cases i with
  | zero => rfl
  | succ n => rfl

theorem nodesOK_st0 (src : Bytes) : NodesOK src (st0 src) := by
  intro n hn
  simp only [initSt, List.mem_singleton] at hn
  subst hn
  exact ⟨by intro t ht; simp at ht, fun _ => rfl⟩

end GM.Blocks.TO
end BlocksTNOEntry

section BlocksTNOCInvG
/-
  The CLOSE DISCIPLINE of GM.Proof.BlocksClosedInv for the final store of the driver WITH the
  link-reference transformer: `CInvG F src s U` is `CInv` of GM.Proof.BlocksClosedInv over the invariant `InvGF F` (no
  "every Paragraph has a line"), with "the nodes of `U` are distinct" as a `Nodup` clause. The walk that carries it is that
  of GM.Proof.BlocksTNOCl* (`CInvW False`). Also: `paragraphClose` on a paragraph without lines (`RemoveChild`), and `leaf_unique`.
-/

namespace GM.Blocks.TO
open GM GM.Text GM.Spec GM.Proof.Reader GM.LinkRef
open GM.Proof.BlocksWF0 (isRaw)

structure CInvG (F : Prop) (src : Bytes) (s : St) (U : List Block) : Prop where
  inv : ∃ B, InvGF F src B s
  tree : TreeOK s
  pad : ∀ i, isRaw (nd s i).kind = false → Closed (nd s i) ∨ (∃ b ∈ U, b.node = i ∧ PSb b) ∨
    ((nd s i).kind = .heading ∧ (nd s i).parent = none)
  att : ∀ b ∈ U, (nd s b.node).parent.isSome = true
  nodup : (U.map (·.node)).Nodup
  sub : ∀ b ∈ U, b ∈ s.pc.opened
  nl : ∀ i, noLinesKind (nd s i).kind = true → (nd s i).lines = []

variable {F : Prop}

theorem CInvG.weaken {src : Bytes} {s : St} {U : List Block} (h : CInvG F src s U) : CInvG False src s U := by
  obtain ⟨B, hB⟩ := h.inv
  exact ⟨⟨B, hB.weaken⟩, h.tree, h.pad, h.att, h.nodup, h.sub, h.nl⟩

/-- paragraphParser.Close on a paragraph without lines: `node.Parent().RemoveChild(node.Parent(), node)` -/
theorem paragraphClose_empty {s s' : St} {node : Nat} (hne : (nd s node).lines = [])
    (e : paragraphClose node s = .ok ((), s')) : ∃ p, (nd s node).parent = some p ∧ removeChild p node s = .ok ((), s') := by
  have hne' : (s.nodes.getD node default).lines = [] := hne
  unfold paragraphClose at e
  obtain ⟨n, s1, h1, k1⟩ := bind_ok e
  obtain ⟨rfl, hs1⟩ := getNode_ok h1
  subst s1
  obtain ⟨src', s2, h2, k2⟩ := bind_ok k1
  have hs2 : s2 = s := by cases h2; rfl
  subst s2
  dsimp only at k2
  have k3 : (do
      let n ← getNode node
      if (n.lines.length == 0) = true then
          match n.parent with
          | none => throw Panic.nil
          | some p => removeChild p node
        else pure () : M Unit) s = .ok ((), s') := by
    split at k2
    · next hc => rw [hne'] at hc; simp at hc
    · exact k2
  obtain ⟨n4, s4, h4, k4⟩ := bind_ok k3
  obtain ⟨rfl, hs4⟩ := getNode_ok h4
  subst s4
  split at k4
  · cases hp : (s.nodes.getD node default).parent with
    | none => rw [hp] at k4; cases k4
    | some p => rw [hp] at k4; exact ⟨p, rfl, k4⟩
  · next hc => rw [hne'] at hc; simp at hc

section stack
open GM.Blocks.L GM.Blocks.T

/-- a stack has one leaf at most: a Paragraph block and a setext block cannot both be open -/
theorem leaf_unique {ob : List Block} (h : Leafy ob) {g b : Block} (hg : g ∈ ob) (hb : b ∈ ob)
    (hgp : g.bp = .paragraph) (hbs : b.bp = .setext) : False :=
  _root_.GM.Blocks.leaf_unique h hg hb hgp hbs

end stack

end GM.Blocks.TO
end BlocksTNOCInvG
