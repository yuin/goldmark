/-
  GM.Proof.ShiftSimMainL — shift invariance of the block phase for ALL ten block parsers (lists included), for frames
  that also relate the flag `emptyListItemWithBlankLines` (`F.flag = true`): the line loops of `parseBlocks` over the
  conditional contracts `PSimL`, run A's store invariant `K` threaded through, run A's states at line boundaries carrying
  the invariant `StableL` of the no-panic proof.
-/
import GM.Proof.ShiftSimMainW
import GM.Proof.ShiftSimListB
import GM.Proof.ShiftSimDriverL

namespace GM.Blocks.Sh
open GM GM.Text GM.Spec GM.Proof.Reader GM.Blocks GM.Blocks.L

variable {F : Frame} {b : Bytes}

theorem psimL_all (F : Frame) (hF : F.OK) (hfl : F.flag = true) (b : Bytes) : PSimL F b where
  op := by
    intro bp
    cases bp with
    | list => exact listOpen_sim F b
    | listItem => exact listItemOpen_sim F b
    | setext => exact (psim_notList F hF b).op _ ⟨by decide, by decide⟩
    | thematic => exact (psim_notList F hF b).op _ ⟨by decide, by decide⟩
    | code => exact (psim_notList F hF b).op _ ⟨by decide, by decide⟩
    | atx => exact (psim_notList F hF b).op _ ⟨by decide, by decide⟩
    | fenced => exact (psim_notList F hF b).op _ ⟨by decide, by decide⟩
    | blockquote => exact (psim_notList F hF b).op _ ⟨by decide, by decide⟩
    | html => exact (psim_notList F hF b).op _ ⟨by decide, by decide⟩
    | paragraph => exact (psim_notList F hF b).op _ ⟨by decide, by decide⟩
  cl := by
    intro bp node rA rB sA sB h hk hn
    cases bp with
    | list => exact listClose_simK F hF b node rA rB sA sB h hk hn
    | listItem => exact P2.pure h
    | setext => exact (psim_notList F hF b).cl _ ⟨by decide, by decide⟩ node rA rB sA sB h
    | thematic => exact (psim_notList F hF b).cl _ ⟨by decide, by decide⟩ node rA rB sA sB h
    | code => exact (psim_notList F hF b).cl _ ⟨by decide, by decide⟩ node rA rB sA sB h
    | atx => exact (psim_notList F hF b).cl _ ⟨by decide, by decide⟩ node rA rB sA sB h
    | fenced => exact (psim_notList F hF b).cl _ ⟨by decide, by decide⟩ node rA rB sA sB h
    | blockquote => exact (psim_notList F hF b).cl _ ⟨by decide, by decide⟩ node rA rB sA sB h
    | html => exact (psim_notList F hF b).cl _ ⟨by decide, by decide⟩ node rA rB sA sB h
    | paragraph => exact (psim_notList F hF b).cl _ ⟨by decide, by decide⟩ node rA rB sA sB h
  co := by
    intro bp hne node sA sB h hl hk hn
    cases bp with
    | list => exact listContinue_simK F hfl b node sA sB h hk
    | listItem => exact absurd rfl hne
    | setext => exact (psimW_notList F hF b).co _ ⟨by decide, by decide⟩ node sA sB h hl
    | thematic => exact (psimW_notList F hF b).co _ ⟨by decide, by decide⟩ node sA sB h hl
    | code => exact (psimW_notList F hF b).co _ ⟨by decide, by decide⟩ node sA sB h hl
    | atx => exact (psimW_notList F hF b).co _ ⟨by decide, by decide⟩ node sA sB h hl
    | fenced => exact (psimW_notList F hF b).co _ ⟨by decide, by decide⟩ node sA sB h hl
    | blockquote => exact (psimW_notList F hF b).co _ ⟨by decide, by decide⟩ node sA sB h hl
    | html => exact (psimW_notList F hF b).co _ ⟨by decide, by decide⟩ node sA sB h hl
    | paragraph => exact (psimW_notList F hF b).co _ ⟨by decide, by decide⟩ node sA sB h hl
  coEof := by
    intro bp node sA sB h he hk hn
    cases bp with
    | list => exact listContinue_eofK F hfl b node sA sB h hk
    | listItem => exact listItemContinue_eof F b node sA sB h he
    | setext => exact (psim_notList F hF b).coEof _ ⟨by decide, by decide⟩ node sA sB h he
    | thematic => exact (psim_notList F hF b).coEof _ ⟨by decide, by decide⟩ node sA sB h he
    | code => exact (psim_notList F hF b).coEof _ ⟨by decide, by decide⟩ node sA sB h he
    | atx => exact (psim_notList F hF b).coEof _ ⟨by decide, by decide⟩ node sA sB h he
    | fenced => exact (psim_notList F hF b).coEof _ ⟨by decide, by decide⟩ node sA sB h he
    | blockquote => exact (psim_notList F hF b).coEof _ ⟨by decide, by decide⟩ node sA sB h he
    | html => exact (psim_notList F hF b).coEof _ ⟨by decide, by decide⟩ node sA sB h he
    | paragraph => exact (psim_notList F hF b).coEof _ ⟨by decide, by decide⟩ node sA sB h he
  coLI := by
    intro node sA sB h hl hk hn hp hri
    exact listItemContinue_simK F hfl b node sA sB h hl hk hn hp hri

theorem K.congr_r {s : St} (h : K s) (r' : Reader) : K { s with r := r' } :=
  (a2_KS_same (s' := { s with r := r' }) h ⟨rfl, rfl⟩).1

theorem loopsG_L (hP : PSimL F b) (hC : CloseBlocksSimL F b) (hO : OpenBlocksSimL F b) :
    LoopsG F b 0 K (AStable b) (StableL b 0) where
  aR := fun _ r h => h.congr_r r
  pass := fun sa sb sA sB h hk hst hline hz hne => by
    obtain ⟨c, hri⟩ := h.ri
    have hmid : MidA b sA.pc.opened [] sA.pc.opened 0 sA :=
      ⟨by simp, rfl, rfl, hz.st, c, hri, hz.pad c hri, fun Lb hLb => by simp at hLb⟩
    exact ((lineLoop_L hP hC hO sA.pc.opened _ rfl sA.pc.opened [] 0 sa sb sA sB hmid h hk hst hline (by omega)).withL
      (R := fun _ sA' => StableL b 0 sA') (fun _ _ e => stableL_pass hz h.ri e)).mono
      fun _ _ _ _ ⟨⟨q1, q2, q3, q4, q5, q6⟩, q7⟩ => ⟨q1, q2, q3, q4, q5, fun e => q6 e hne, q7⟩
  adv := fun _ h hs => aStable_adv h hs
  skip := fun _ _ _ h hri e => aStable_skip h hri e
  open0 := fun blank sA sB h hk hz hop =>
    ((hO 0 blank sA sB h hk hk.doc.1 (fun x hx => by rw [hop] at hx; cases hx)).withL (R := fun _ sA' => StableL b 0 sA')
      (fun _ _ e => stableL_open0 hz h.ri hop e)).mono
      fun _ _ _ _ ⟨⟨q1, q2, q3, q4, q5⟩, q6⟩ => ⟨q1, q2, q3, q4, q5, q6⟩

def LinesQL (F : Frame) (b : Bytes) (sA : St) (sa : List LineStat)
    (x y : Bool × List LineStat) (sA' sB' : St) : Prop :=
  y.1 = x.1 ∧ StatsRel F x.2 y.2 ∧ SRLim F b sA' sB' ∧ K sA' ∧ 1 ≤ sA'.r.line ∧
    (x.1 = false → SR F b sA' sB' ∧ sA'.pc.opened = [] ∧ AStable b sA' ∧ (sa ≠ [] ∨ sA.pc.opened ≠ [] → x.2 ≠ []))


theorem linesLoop_L (hP : PSimL F b) (hC : CloseBlocksSimL F b) (hO : OpenBlocksSimL F b) :
    ∀ (fuelA fuelB : Nat) (sa sb : List LineStat) (sA sB : St),
      SR F b sA sB → K sA → StatsRel F sa sb → 1 ≤ sA.r.line → AStable b sA →
      P2 (LinesQL F b sA sa) (linesLoop 0 fuelA sa sA) (linesLoop (F.ι 0) fuelB sb sB) :=
  linesLoop_g (loopsG_L hP hC hO)

theorem blocksLoop_L (hP : PSimL F b) (hC : CloseBlocksSimL F b) (hO : OpenBlocksSimL F b) :
    ∀ (fuelA fuelB : Nat) (sa sb : List LineStat) (sA sB : St),
      SRw F b sA sB → K sA → sA.pc.opened = [] → 0 ≤ sA.r.line → BInv F sa sb sA.r.line → AStable b sA →
      P2 (fun _ _ sA' sB' => StoreRel F sA'.nodes sB'.nodes)
        (blocksLoop 0 fuelA sa sA) (blocksLoop (F.ι 0) fuelB sb sB) :=
  blocksLoop_g (loopsG_L hP hC hO)

/-- **Shift invariance of the block phase, all block parsers** (lists included): for every source `b` and every frame
    whose start state also resets the flag `emptyListItemWithBlankLines`, run B from the start state behind the prefix
    builds the store of `run b` moved by the frame. -/
theorem shift_invariance_all (F : Frame) (hF : F.OK) (hfl : F.flag = true) (b : Bytes)
    {sB : St} {statsB : List LineStat} (hS : Start F b sB statsB) (fuelB : Nat) (sB' : St)
    (hB : blocksLoop 0 fuelB statsB sB = .ok ((), sB')) :
    ∃ sA', run b = .ok sA' ∧ StoreRel F sA'.nodes sB'.nodes :=
  have hP := psimL_all F hF hfl b
  shift_invariance_g (loopsG_L hP (closeBlocks_L hP) (openBlocks_L hP hF (tryParsers_L hP hF))) (a2_K_init b)
    (aStable_init b) hS fuelB sB' hB

end GM.Blocks.Sh
