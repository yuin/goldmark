/-
  GM.Proof.BlocksAtx — atxHeadingParser.Open (atx_heading.go:82-166, the parser DefaultBlockParsers builds) is PeekLine
  followed by a pure reading of the line (`atxScan`: the level and the bounds of the text, or no heading), `atxOpen_eq`;
  the scans and slices of that reading stay inside the line, whatever `BlockOffset` the context holds, `atxScan_ok`.
  The delicate site is the backward loop `for ; line[i] == '#' && i >= start; i-- {}` (line[i] is read before
  `i >= start`): it stops above 0 because `start ≥ 1`.
-/
import GM.Proof.BlocksPara
import GM.Proof.BlocksQuote

namespace GM.Blocks
open GM GM.Text GM.Spec GM.Proof.Reader

theorem countLeading_le (c : UInt8) (l : Bytes) : countLeading c l ≤ l.length :=
  length_takeWhile_le'' _ l

theorem firstNonSpacePosition_bounds : ∀ (bs : Bytes) (i j : Nat), firstNonSpacePosition bs i = some j →
    i ≤ j ∧ j < i + bs.length := by
  intro bs
  induction bs with
  | nil => intro i j h; simp [firstNonSpacePosition] at h
  | cons b bs ih =>
    intro i j h
    unfold firstNonSpacePosition at h
    simp only [List.length_cons]
    split at h
    · have := ih _ _ h; omega
    · split at h
      · cases h
      · cases h; omega

theorem scanWhileEq_bounds (line : Bytes) (c : UInt8) (pos : Int) (h0 : 0 ≤ pos) :
    pos ≤ scanWhileEq line c pos ∧
      (scanWhileEq line c pos ≠ pos → pos < line.length ∧ scanWhileEq line c pos ≤ line.length) := by
  unfold scanWhileEq
  have hn : ¬ pos < 0 := by omega
  rw [if_neg hn]
  have := countLeading_le c (line.drop pos.toNat)
  simp only [List.length_drop] at this
  refine ⟨by omega, fun hne => ?_⟩
  have hpos : 0 < countLeading c (line.drop pos.toNat) := by omega
  omega

theorem sliceFrom_ok (l : Bytes) (a : Int) (h0 : 0 ≤ a) (h1 : a ≤ l.length) :
    sliceFrom l a = .ok (l.drop a.toNat) := by
  unfold sliceFrom; rw [if_pos ⟨h0, h1⟩]

theorem slice_ok' (l : Bytes) (a b : Int) (h0 : 0 ≤ a) (h1 : a ≤ b) (h2 : b ≤ l.length) :
    ∃ v, slice l a b = .ok v := by
  unfold slice sliceB; rw [if_pos ⟨h0, h1, h2⟩]; exact ⟨_, rfl⟩

theorem atxBackLoop_ok (line : Bytes) (start : Int) (hs : 1 ≤ start) : ∀ k : Nat, k ≤ line.length → start ≤ k →
    ∃ r, atxBackLoop line start k = .ok r ∧ start - 1 ≤ r ∧ r ≤ (k : Int) - 1 := by
  intro k
  induction k with
  | zero => intro _ h; omega
  | succ k ih =>
    intro hk hsk
    unfold atxBackLoop
    obtain ⟨b, hb, _⟩ := idx_ok line (k : Int) (by omega) (by omega)
    rw [hb]
    simp only [bind, Except.bind, pure, Except.pure]
    by_cases hc : (b == 35 && decide ((k : Int) ≥ start)) = true
    · rw [if_pos hc]
      have hge : start ≤ (k : Int) := by
        simp only [Bool.and_eq_true, decide_eq_true_eq] at hc; exact hc.2
      obtain ⟨r, hr, h1, h2⟩ := ih (by omega) hge
      exact ⟨r, hr, h1, by omega⟩
    · rw [if_neg hc]
      exact ⟨_, rfl, by omega, by omega⟩

theorem trimRightSpaceLength_le (l : Bytes) : trimRightSpaceLength l ≤ l.length := by
  unfold trimRightSpaceLength
  have := length_takeWhile_le'' isSpace l.reverse
  simpa using this

theorem scanWhileEq_first (line : Bytes) (c : UInt8) (pos : Int) (h0 : 0 ≤ pos) (h : scanWhileEq line c pos ≠ pos) :
    line[pos.toNat]? = some c := by
  unfold scanWhileEq at h
  rw [if_neg (by omega)] at h
  have hc : countLeading c (line.drop pos.toNat) ≠ 0 := by intro e; apply h; rw [e]; simp
  unfold countLeading at hc
  cases hd : line.drop pos.toNat with
  | nil => rw [hd] at hc; simp at hc
  | cons b rest =>
    rw [hd] at hc
    have hb : (b == c) = true := by
      cases hbc : (b == c) with
      | true => rfl
      | false => simp [List.takeWhile, hbc] at hc
    have hbe : b = c := by simpa using hb
    have := congrArg List.head? hd
    rw [List.head?_drop] at this
    rw [this, hbe]; rfl

theorem slice_len {l : Bytes} {a b : Int} {v : Bytes} (h : slice l a b = .ok v) : (v.length : Int) = b - a := by
  unfold slice sliceB at h
  split at h
  · next hc =>
    cases h
    have := length_sub l (a := a.toNat) (b := b.toNat) (by omega)
    omega
  · cases h

/-- the `stop` computation of atxHeadingParser.Open (atx_heading.go:120-139) -/
def atxStop (line : Bytes) (start stop0 : Int) : Except Panic Int :=
  if stop0 ≤ start then .ok start
  else
    match atxBackLoop line start stop0.toNat with
    | .error e => .error e
    | .ok i =>
      match idx line i with
      | .error e => .error e
      | .ok c => .ok ((if (i != stop0 - 1 && !isSpace c) = true then stop0 - 1 else i) + 1)

/-- what atxHeadingParser.Open reads off a line at BlockOffset `bo`: `none` = no heading; else the level and, when the
    heading has text, the bounds `[a, z)` of the text in the line -/
def atxScan (line : Bytes) (bo : Int) : Except Panic (Option (Int × Option (Int × Int))) :=
  if bo < 0 then .ok none
  else if (scanWhileEq line 35 bo == bo || decide (scanWhileEq line 35 bo - bo > 6)) = true then .ok none
  else if (scanWhileEq line 35 bo == (line.length : Int)) = true then .ok (some (scanWhileEq line 35 bo - bo, none))
  else
    match sliceFrom line (scanWhileEq line 35 bo) with
    | .error e => .error e
    | .ok sl =>
      if (((trimLeftSpaceLength sl : Nat) : Int) == 0) = true then .ok none
      else
        match atxStop line
            (if scanWhileEq line 35 bo + (trimLeftSpaceLength sl : Nat) ≥ (line.length : Int) then (line.length : Int) - 1
              else scanWhileEq line 35 bo + (trimLeftSpaceLength sl : Nat))
            ((line.length : Int) - (trimRightSpaceLength line : Nat)) with
        | .error e => .error e
        | .ok stop =>
          match slice line
              (if scanWhileEq line 35 bo + (trimLeftSpaceLength sl : Nat) ≥ (line.length : Int) then (line.length : Int) - 1
                else scanWhileEq line 35 bo + (trimLeftSpaceLength sl : Nat)) stop with
          | .error e => .error e
          | .ok body =>
            if ((body.reverse.dropWhile (· == 35)).length != 0) = true then
              .ok (some (scanWhileEq line 35 bo - bo,
                some ((if scanWhileEq line 35 bo + (trimLeftSpaceLength sl : Nat) ≥ (line.length : Int)
                  then (line.length : Int) - 1 else scanWhileEq line 35 bo + (trimLeftSpaceLength sl : Nat)), stop)))
            else .ok (some (scanWhileEq line 35 bo - bo, none))

/-- the Heading of a reading: the segment of the line enters as the offset of the text -/
def atxMk (seg : Segment) (p : Int × Option (Int × Int)) : Node :=
  match p.snd with
  | none => { kind := .heading, level := p.fst }
  | some (a, z) => { kind := .heading, level := p.fst,
                     lines := [{ start := seg.start + a - seg.padding, stop := seg.start + z - seg.padding }], linesNil := false }

/-- the answer of `Open` for the node it read -/
def atxFinish (s : St) : Option Node → Except Panic ((Option Nat × PState) × St)
  | none => .ok ((none, stNoChildren), s)
  | some n => .ok ((some s.nodes.length, stNoChildren), { s with nodes := s.nodes ++ [n] })

/-- atxHeadingParser.Open, exactly, in any state: the one place where `atxOpen` is unfolded -/
theorem atxOpen_eq (parent : Nat) (s : St) :
    atxOpen parent s = (peekLine s).bind fun xs =>
      (atxScan (xs.1.1.getD []) xs.2.pc.blockOffset).bind fun o => atxFinish xs.2 (o.map (atxMk xs.1.2)) := by
  unfold atxOpen
  show StateT.bind peekLine _ s = _
  unfold StateT.bind
  cases hp : peekLine s with
  | error e => rfl
  | ok xs =>
    obtain ⟨⟨line, seg⟩, s1⟩ := xs
    simp only [Except.bind, bind, StateT.bind, getPc, pure, Except.pure]
    unfold atxScan
    generalize line.getD [] = ln
    by_cases c0 : s1.pc.blockOffset < 0
    · rw [if_pos c0, if_pos c0]; rfl
    rw [if_neg c0, if_neg c0]
    generalize scanWhileEq ln 35 s1.pc.blockOffset = k
    by_cases c1 : (k == s1.pc.blockOffset || decide (k - s1.pc.blockOffset > 6)) = true
    · rw [if_pos c1, if_pos c1]; rfl
    rw [if_neg c1, if_neg c1]
    by_cases c2 : (k == (ln.length : Int)) = true
    · rw [if_pos c2, if_pos c2]; rfl
    rw [if_neg c2, if_neg c2]
    cases hsl : sliceFrom ln k with
    | error e => simp only [bind, StateT.bind, liftE, Except.map, Except.bind]
    | ok sl =>
    simp only [bind, StateT.bind, liftE, Except.map, Except.bind]
    by_cases c3 : (((trimLeftSpaceLength sl : Nat) : Int) == 0) = true
    · rw [if_pos c3, if_pos c3]; rfl
    rw [if_neg c3, if_neg c3]
    generalize (if k + ((trimLeftSpaceLength sl : Nat) : Int) ≥ (ln.length : Int) then (ln.length : Int) - 1
      else k + ((trimLeftSpaceLength sl : Nat) : Int)) = st
    generalize (ln.length : Int) - ((trimRightSpaceLength ln : Nat) : Int) = stop0
    unfold atxStop
    by_cases c4 : stop0 ≤ st
    · simp only [if_pos c4]
      cases hb : slice ln st st with
      | error e => simp only [bind, StateT.bind, liftE, hb, Except.map, Except.bind, StateT.pure, pure, Except.pure, newNode]
      | ok body =>
        by_cases c5 : ((List.dropWhile (fun x => x == 35) (List.reverse body)).length != 0) = true
        · simp only [bind, StateT.bind, liftE, hb, Except.map, Except.bind, StateT.pure, pure, Except.pure, newNode,
            c5, if_true, appendLine, modNode, atxFinish, atxMk, Option.map, getD_length_append, set_length_append,
            List.nil_append]
        · simp only [bind, StateT.bind, liftE, hb, Except.map, Except.bind, StateT.pure, pure, Except.pure, newNode,
            c5, Bool.false_eq_true, if_false, atxFinish, atxMk, Option.map]
    simp only [if_neg c4]
    cases hbl : atxBackLoop ln st stop0.toNat with
    | error e => simp only [bind, StateT.bind, liftE, Except.map, Except.bind, newNode, pure, Except.pure]
    | ok i =>
      cases hix : idx ln i with
      | error e => simp only [bind, StateT.bind, liftE, hix, Except.map, Except.bind, newNode, pure, Except.pure]
      | ok cc =>
        cases hb : slice ln st ((if (i != stop0 - 1 && !isSpace cc) = true then stop0 - 1 else i) + 1) with
        | error e =>
          simp only [bind, StateT.bind, liftE, hix, hb, Except.map, Except.bind, StateT.pure, pure, Except.pure, newNode]
        | ok body =>
          by_cases c5 : ((List.dropWhile (fun x => x == 35) (List.reverse body)).length != 0) = true
          · simp only [bind, StateT.bind, liftE, hix, hb, Except.map, Except.bind, StateT.pure, pure, Except.pure, newNode,
              c5, if_true, appendLine, modNode, atxFinish, atxMk, Option.map, getD_length_append, set_length_append,
              List.nil_append]
          · simp only [bind, StateT.bind, liftE, hix, hb, Except.map, Except.bind, StateT.pure, pure, Except.pure, newNode,
              c5, Bool.false_eq_true, if_false, atxFinish, atxMk, Option.map]

/-- the reading never panics; a heading stands behind a `#` at `bo ≥ 0`, its level is the length of the run of `#`, and
    its text `[a, z)`, if any, is not empty and lies behind the run inside the line -/
theorem atxScan_ok (line : Bytes) (bo : Int) :
    atxScan line bo = .ok none ∨
    ∃ tx, atxScan line bo = .ok (some (scanWhileEq line 35 bo - bo, tx)) ∧ 0 ≤ bo ∧ line[bo.toNat]? = some 35 ∧
      ∀ a z, tx = some (a, z) → bo < a ∧ a < z ∧ z ≤ line.length := by
  unfold atxScan
  by_cases c0 : bo < 0
  · rw [if_pos c0]; exact .inl rfl
  rw [if_neg c0]
  have hpos0 : 0 ≤ bo := by omega
  obtain ⟨hsb1, hsb2⟩ := scanWhileEq_bounds line 35 bo hpos0
  have hfirst := scanWhileEq_first line 35 bo hpos0
  generalize scanWhileEq line 35 bo = i at hsb1 hsb2 hfirst ⊢
  by_cases c1 : (i == bo || decide (i - bo > 6)) = true
  · rw [if_pos c1]; exact .inl rfl
  rw [if_neg c1]
  have hne : i ≠ bo := by intro e; apply c1; simp [e]
  obtain ⟨hplt, hile⟩ := hsb2 hne
  have hhash := hfirst hne
  by_cases c2 : (i == (line.length : Int)) = true
  · rw [if_pos c2]; exact .inr ⟨_, rfl, hpos0, hhash, fun _ _ h => by cases h⟩
  rw [if_neg c2]
  have hilt : i < line.length := by
    have : i ≠ (line.length : Int) := by intro e; apply c2; simp [e]
    omega
  rw [sliceFrom_ok line i (by omega) hile]
  simp only
  generalize trimLeftSpaceLength (List.drop i.toNat line) = ln
  by_cases c3 : (((ln : Int)) == 0) = true
  · rw [if_pos c3]; exact .inl rfl
  rw [if_neg c3]
  generalize hstart : (if i + (ln : Int) ≥ (line.length : Int) then (line.length : Int) - 1 else i + (ln : Int)) = start
  have hst1 : 1 ≤ start := by rw [← hstart]; split <;> omega
  have hst2 : start < line.length := by rw [← hstart]; split <;> omega
  have hst3 : i ≤ start := by rw [← hstart]; split <;> omega
  have htr := trimRightSpaceLength_le line
  generalize hstop0 : ((line.length : Int) - (trimRightSpaceLength line : Int)) = stop0
  have hs0 : stop0 ≤ line.length := by omega
  have hstop : ∃ stop, atxStop line start stop0 = .ok stop ∧ start ≤ stop ∧ stop ≤ line.length := by
    unfold atxStop
    by_cases c4 : stop0 ≤ start
    · rw [if_pos c4]; exact ⟨_, rfl, Int.le_refl _, by omega⟩
    · rw [if_neg c4]
      obtain ⟨r, hr, hr1, hr2⟩ := atxBackLoop_ok line start hst1 stop0.toNat (by omega) (by omega)
      obtain ⟨cc, hcc, _⟩ := idx_ok line r (by omega) (by omega)
      rw [hr]; simp only; rw [hcc]; simp only
      refine ⟨_, rfl, ?_, ?_⟩ <;> split <;> omega
  obtain ⟨stop, hs, hs1, hs2⟩ := hstop
  rw [hs]
  simp only
  obtain ⟨v, hv⟩ := slice_ok' line start stop (by omega) hs1 hs2
  rw [hv]
  simp only
  split
  · next hbody =>
    have hvl := slice_len hv
    have hvne : 0 < v.length := by
      rcases Nat.eq_zero_or_pos v.length with h0 | h0
      · have : v = [] := List.length_eq_zero_iff.1 h0
        rw [this] at hbody; simp at hbody
      · exact h0
    exact .inr ⟨_, rfl, hpos0, hhash, fun a z h => by cases h; exact ⟨by omega, by omega, hs2⟩⟩
  · exact .inr ⟨_, rfl, hpos0, hhash, fun _ _ h => by cases h⟩

/-- a `#` followed by a space at BlockOffset 0 is read as a heading of level 1 -/
theorem atxScan_hash_space (rest : Bytes) : ∃ tx, atxScan (35 :: 32 :: rest) 0 = .ok (some (1, tx)) := by
  have hscan : scanWhileEq (35 :: 32 :: rest) 35 0 = 1 := by simp [scanWhileEq, countLeading]
  rcases atxScan_ok (35 :: 32 :: rest) 0 with h | ⟨tx, h, _⟩
  · exfalso
    unfold atxScan at h
    have hsl : sliceFrom (35 :: 32 :: rest) 1 = .ok (32 :: rest) := by simp [sliceFrom]; omega
    have c1 : ((1 : Int) == 0 || decide ((1 : Int) - 0 > 6)) = false := by decide
    have c2 : ((1 : Int) == ((35 :: 32 :: rest : Bytes).length : Int)) = false := by
      simp only [List.length_cons, beq_eq_false_iff_ne, ne_eq]; omega
    have c3 : (((trimLeftSpaceLength (32 :: rest) : Nat) : Int) == 0) = false := by
      simp [trimLeftSpaceLength, isSpace]; omega
    simp only [hscan, c1, c2, hsl, c3, Bool.false_eq_true, if_false] at h
    rw [if_neg (by omega)] at h
    repeat' split at h
    all_goals cases h
  · exact ⟨tx, by rw [h, hscan]; rfl⟩

end GM.Blocks
