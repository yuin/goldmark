/-
  GM.Proof.ToLinkReference — util.ToLinkReference (model GM.toLinkReference): normal form, idempotence,
  whitespace and case insensitivity.
-/
import GM.Model.Util
import GM.Proof.CaseFold

namespace GM.Proof
open GM

/-- ReplaceSpaces' rewriting loop with a space as the replacement -/
abbrev rsa (l : Bytes) : Bytes := replaceSpacesAll 32 l

theorem space_class : ∀ c : UInt8, isSpace c = true →
    c < 181 ∧ upperByte c = false ∧ isCont c = false ∧ isTrimSpace c = true := by
  apply forall_uint8; decide +kernel

theorem sp32 : isSpace 32 = true ∧ isTrimSpace 32 = true ∧ isCont 32 = false ∧ (32 : UInt8) < 181 ∧ upperByte 32 = false := by
  decide

theorem rsa_nil : rsa [] = [] := by simp [rsa, replaceSpacesAll]

theorem rsa_ns {c : UInt8} (cs : Bytes) (h : isSpace c = false) : rsa (c :: cs) = c :: rsa cs := by
  simp only [rsa]; rw [replaceSpacesAll]; simp [h]

theorem rsa_sp {c : UInt8} (cs : Bytes) (h : isSpace c = true) :
    rsa (c :: cs) = 32 :: rsa (cs.dropWhile isSpace) := by
  simp only [rsa]; rw [replaceSpacesAll]; simp [h]

theorem tw_rsa (l : Bytes) : (rsa l).takeWhile isCont = l.takeWhile isCont := by
  induction l with
  | nil => rw [rsa_nil]
  | cons c cs ih =>
    by_cases hc : isCont c = true
    · have := (cont_class c hc).2.1
      rw [rsa_ns cs this]; simp [List.takeWhile, hc, ih]
    · have hc' : isCont c = false := by simpa using hc
      by_cases hs : isSpace c = true
      · rw [rsa_sp cs hs]; simp [List.takeWhile, hc', sp32.2.2.1]
      · have hs' : isSpace c = false := by simpa using hs
        rw [rsa_ns cs hs']; simp [List.takeWhile, hc']

theorem rsa_drop_conts (k : Nat) : ∀ (cs : Bytes), k ≤ (cs.takeWhile isCont).length →
    (rsa cs).drop k = rsa (cs.drop k) := by
  induction k with
  | zero => intro cs _; rfl
  | succ k ih =>
    intro cs h
    cases cs with
    | nil => simp at h
    | cons c cs =>
      by_cases hc : isCont c = true
      · rw [rsa_ns cs (cont_class c hc).2.1]
        simp only [List.takeWhile, hc, List.length_cons] at h
        simp only [List.drop_succ_cons]
        exact ih cs (by omega)
      · have hc' : isCont c = false := by simpa using hc
        simp [List.takeWhile, hc'] at h

theorem rsa_append_ns (x l : Bytes) (h : x.all (fun b => !isSpace b) = true) : rsa (x ++ l) = x ++ rsa l := by
  induction x with
  | nil => rfl
  | cons c x ih =>
    simp only [List.all_cons, Bool.and_eq_true, Bool.not_eq_true'] at h
    rw [List.cons_append, rsa_ns _ h.1, ih h.2]; rfl

theorem dropWhile_all {p : UInt8 → Bool} (w l : Bytes) (h : w.all p = true) :
    (w ++ l).dropWhile p = l.dropWhile p := by
  induction w with
  | nil => rfl
  | cons c w ih =>
    simp only [List.all_cons, Bool.and_eq_true] at h
    simp [List.dropWhile, h.1, ih h.2]

theorem dropWhile_append_stop {p : UInt8 → Bool} (x : Bytes) (y : UInt8) (ys : Bytes) (h : p y = false) :
    (x ++ y :: ys).dropWhile p = x.dropWhile p ++ y :: ys := by
  induction x with
  | nil => simp [List.dropWhile, h]
  | cons c x ih =>
    by_cases hc : p c = true
    · simp [List.dropWhile, hc, ih]
    · have hc' : p c = false := by simpa using hc
      simp [List.dropWhile, hc']

theorem dw_caseFold (cs : Bytes) : (caseFold cs).dropWhile isSpace = caseFold (cs.dropWhile isSpace) := by
  induction cs with
  | nil => simp [caseFold]
  | cons c cs ih =>
    by_cases hs : isSpace c = true
    · obtain ⟨h1, h2, _, _⟩ := space_class c hs
      rw [cf_lt cs h1, h2]
      simp [List.dropWhile, hs, ih]
    · have hs' : isSpace c = false := by simpa using hs
      obtain ⟨h, t, heq, _, _, h3⟩ := caseFold_head c cs
      have : (c :: cs).dropWhile isSpace = c :: cs := by simp [List.dropWhile, hs']
      rw [this, heq]
      simp [List.dropWhile, h3, hs']

theorem cf_space (cs : Bytes) : caseFold (32 :: cs) = 32 :: caseFold cs := by
  rw [cf_lt cs sp32.2.2.2.1, sp32.2.2.2.2]; rfl

theorem cf_rsa (n : Nat) : ∀ l : Bytes, l.length ≤ n → caseFold (rsa l) = rsa (caseFold l) := by
  induction n with
  | zero =>
    intro l h
    have : l = [] := List.length_eq_zero_iff.mp (by omega)
    subst this; simp [rsa_nil, caseFold]
  | succ n ih =>
    intro l h
    cases l with
    | nil => simp [rsa_nil, caseFold]
    | cons c cs =>
      simp only [List.length_cons] at h
      have hcs : cs.length ≤ n := by omega
      by_cases hs : isSpace c = true
      · obtain ⟨h1, h2, _, _⟩ := space_class c hs
        rw [rsa_sp cs hs, cf_space, cf_lt cs h1, h2]
        simp only [Bool.false_eq_true, if_false]
        rw [rsa_sp _ hs, dw_caseFold, ih _ (by have := length_dropWhile_le isSpace cs; omega)]
      · have hs' : isSpace c = false := by simpa using hs
        rw [rsa_ns cs hs']
        by_cases hlt : c < 181
        · obtain ⟨_, _, k3⟩ := lower_class c hlt
          rw [cf_lt _ hlt, cf_lt _ hlt, rsa_ns _ (by rw [k3]; exact hs'), ih cs hcs]
        · by_cases hc : isCont c = true
          · rw [cf_cont _ hc, cf_cont _ hc, rsa_ns _ hs', ih cs hcs]
          · have hc' : isCont c = false := by simpa using hc
            have hdec : decodeRune (c :: rsa cs) = decodeRune (c :: cs) := decodeRune_congr c (tw_rsa cs)
            by_cases hd : (decodeRune (c :: cs)).1 = runeError
            · rw [cf_keep _ hlt hc' (Or.inl (by rw [hdec]; exact hd)), cf_keep _ hlt hc' (Or.inl hd),
                rsa_ns _ hs', ih cs hcs]
            · cases hf : lookupFold (decodeRune (c :: cs)).1 with
              | none =>
                rw [cf_keep _ hlt hc' (Or.inr (by rw [hdec]; exact hf)), cf_keep _ hlt hc' (Or.inr hf),
                  rsa_ns _ hs', ih cs hcs]
              | some f =>
                rw [cf_fold _ hlt hc' (by rw [hdec]; exact hd) (by rw [hdec]; exact hf), hdec,
                  cf_fold _ hlt hc' hd hf]
                obtain ⟨_, _, _, _, hall⟩ := encs_head hf
                have hns : (f.flatMap encodeRune).all (fun b => !isSpace b) = true := by
                  rw [List.all_eq_true] at hall ⊢
                  intro b hb
                  have := hall b hb
                  simp only [Bool.not_eq_true'] at this ⊢
                  exact trim_space b this
                rw [rsa_append_ns _ _ hns, rsa_drop_conts _ _ (decodeRune_width c cs),
                  ih _ (by simp only [List.length_drop]; omega)]

theorem caseFold_rsa (l : Bytes) : caseFold (rsa l) = rsa (caseFold l) := cf_rsa l.length l (Nat.le_refl _)

/-! ### first / last byte is a trim-space byte -/

def headTS : Bytes → Bool
  | [] => false
  | c :: _ => isTrimSpace c

def lastTS : Bytes → Bool
  | [] => false
  | [c] => isTrimSpace c
  | _ :: d :: r => lastTS (d :: r)

theorem lastTS_cons (c : UInt8) (l : Bytes) : lastTS (c :: l) = if l = [] then isTrimSpace c else lastTS l := by
  cases l <;> simp [lastTS]

theorem lastTS_append (x y : Bytes) : lastTS (x ++ y) = if y = [] then lastTS x else lastTS y := by
  induction x with
  | nil => cases y <;> simp [lastTS]
  | cons c x ih =>
    rw [List.cons_append, lastTS_cons, ih, lastTS_cons]
    by_cases hy : y = []
    · subst hy; simp
    · simp [hy]

theorem lastTS_reverse (l : Bytes) : lastTS l = headTS l.reverse := by
  induction l with
  | nil => rfl
  | cons c l ih =>
    rw [lastTS_cons, List.reverse_cons]
    cases h : l.reverse with
    | nil =>
      have : l = [] := by simpa using h
      subst this; simp [headTS]
    | cons d r =>
      have : l ≠ [] := by intro hl; subst hl; simp at h
      simp only [this, if_false, ih, h, List.cons_append, headTS]

theorem lastTS_all (l : Bytes) (h : l.all (fun b => !isTrimSpace b) = true) : lastTS l = false := by
  induction l with
  | nil => rfl
  | cons c l ih =>
    simp only [List.all_cons, Bool.and_eq_true, Bool.not_eq_true'] at h
    rw [lastTS_cons]; split
    · exact h.1
    · exact ih h.2

theorem lastTS_drop (l : Bytes) (k : Nat) (h : l.drop k ≠ []) : lastTS (l.drop k) = lastTS l := by
  induction k generalizing l with
  | zero => rfl
  | succ k ih =>
    cases l with
    | nil => simp at h
    | cons c l =>
      simp only [List.drop_succ_cons] at h ⊢
      rw [ih l h, lastTS_cons]
      have : l ≠ [] := by intro hl; subst hl; simp at h
      simp [this]

theorem lastTS_dropWhile (p : UInt8 → Bool) (l : Bytes) (h : l.dropWhile p ≠ []) :
    lastTS (l.dropWhile p) = lastTS l := by
  induction l with
  | nil => rfl
  | cons c l ih =>
    by_cases hc : p c = true
    · simp only [List.dropWhile, hc] at h ⊢
      rw [ih h, lastTS_cons]
      have : l ≠ [] := by intro hl; subst hl; simp at h
      simp [this]
    · have hc' : p c = false := by simpa using hc
      simp [List.dropWhile, hc']

theorem headTS_dropWhile (l : Bytes) : headTS (l.dropWhile isTrimSpace) = false := by
  induction l with
  | nil => rfl
  | cons c l ih =>
    by_cases hc : isTrimSpace c = true
    · simp [List.dropWhile, hc, ih]
    · have hc' : isTrimSpace c = false := by simpa using hc
      simp [List.dropWhile, hc', headTS]

theorem dropWhile_headTS (l : Bytes) (h : headTS l = false) : l.dropWhile isTrimSpace = l := by
  cases l with
  | nil => rfl
  | cons c l => simp only [headTS] at h; simp [List.dropWhile, h]

theorem caseFold_ne_nil (c : UInt8) (cs : Bytes) : caseFold (c :: cs) ≠ [] := by
  obtain ⟨h, t, heq, _⟩ := caseFold_head c cs
  rw [heq]; simp

theorem caseFold_eq_nil {l : Bytes} (h : caseFold l = []) : l = [] := by
  cases l with
  | nil => rfl
  | cons c cs => exact absurd h (caseFold_ne_nil c cs)

theorem headTS_caseFold (l : Bytes) : headTS (caseFold l) = headTS l := by
  cases l with
  | nil => simp [caseFold]
  | cons c cs =>
    obtain ⟨h, t, heq, _, h2, _⟩ := caseFold_head c cs
    rw [heq]; exact h2

theorem all_cont_take (cs : Bytes) (k : Nat) (hk : k ≤ (cs.takeWhile isCont).length) (hd : cs.drop k = []) :
    cs.all isCont = true := by
  induction cs generalizing k with
  | nil => rfl
  | cons c cs ih =>
    by_cases hc : isCont c = true
    · cases k with
      | zero => simp at hd
      | succ k =>
        simp only [List.takeWhile, hc, List.length_cons] at hk
        simp only [List.drop_succ_cons] at hd
        simp [hc, ih k (by omega) hd]
    · have hc' : isCont c = false := by simpa using hc
      simp only [List.takeWhile, hc', List.length_nil, Nat.le_zero] at hk
      subst hk; simp at hd

theorem lastTS_conts (c : UInt8) (cs : Bytes) (hc : isTrimSpace c = false) (h : cs.all isCont = true) :
    lastTS (c :: cs) = false := by
  apply lastTS_all
  simp only [List.all_cons, hc, Bool.not_false, Bool.true_and]
  rw [List.all_eq_true] at h ⊢
  intro b hb
  simp [(cont_class b (h b hb)).1]

theorem lastTS_caseFold (n : Nat) : ∀ l : Bytes, l.length ≤ n → lastTS (caseFold l) = lastTS l := by
  induction n with
  | zero =>
    intro l h
    have : l = [] := List.length_eq_zero_iff.mp (by omega)
    subst this; simp [caseFold]
  | succ n ih =>
    intro l h
    cases l with
    | nil => simp [caseFold]
    | cons c cs =>
      simp only [List.length_cons] at h
      have hcs : cs.length ≤ n := by omega
      -- the cases in which one byte is written and folding continues with `cs`
      have keep : ∀ c' : UInt8, isTrimSpace c' = isTrimSpace c → caseFold (c :: cs) = c' :: caseFold cs →
          lastTS (caseFold (c :: cs)) = lastTS (c :: cs) := by
        intro c' hts heq
        rw [heq, lastTS_cons, lastTS_cons, ih cs hcs, hts]
        by_cases hnil : cs = []
        · subst hnil; simp [caseFold]
        · have : caseFold cs ≠ [] := fun h => hnil (caseFold_eq_nil h)
          simp [hnil, this]
      by_cases hlt : c < 181
      · exact keep _ (lower_class c hlt).2.1 (cf_lt cs hlt)
      · by_cases hc : isCont c = true
        · exact keep c rfl (cf_cont cs hc)
        · have hc' : isCont c = false := by simpa using hc
          by_cases hd : (decodeRune (c :: cs)).1 = runeError
          · exact keep c rfl (cf_keep cs hlt hc' (Or.inl hd))
          · cases hf : lookupFold (decodeRune (c :: cs)).1 with
            | none => exact keep c rfl (cf_keep cs hlt hc' (Or.inr hf))
            | some f =>
              rw [cf_fold cs hlt hc' hd hf, lastTS_append]
              obtain ⟨_, _, _, _, hall⟩ := encs_head hf
              by_cases hdrop : cs.drop ((decodeRune (c :: cs)).2 - 1) = []
              · rw [hdrop]
                simp only [caseFold, if_true]
                rw [lastTS_all _ hall]
                exact (lastTS_conts c cs (high_class c hlt).1
                  (all_cont_take cs _ (decodeRune_width c cs) hdrop)).symm
              · have hne : caseFold (cs.drop ((decodeRune (c :: cs)).2 - 1)) ≠ [] :=
                  fun h => hdrop (caseFold_eq_nil h)
                simp only [hne, if_false]
                rw [ih _ (by simp only [List.length_drop]; omega), lastTS_drop _ _ hdrop, lastTS_cons]
                have : cs ≠ [] := by intro hcs'; subst hcs'; simp at hdrop
                simp [this]

theorem lastTS_caseFold' (l : Bytes) : lastTS (caseFold l) = lastTS l := lastTS_caseFold l.length l (Nat.le_refl _)

theorem headTS_rsa (l : Bytes) : headTS (rsa l) = headTS l := by
  cases l with
  | nil => rw [rsa_nil]
  | cons c cs =>
    by_cases hs : isSpace c = true
    · rw [rsa_sp cs hs]; simp [headTS, (space_class c hs).2.2.2, sp32.2.1]
    · have hs' : isSpace c = false := by simpa using hs
      rw [rsa_ns cs hs']; rfl

theorem rsa_ne_nil (c : UInt8) (cs : Bytes) : rsa (c :: cs) ≠ [] := by
  by_cases hs : isSpace c = true
  · rw [rsa_sp cs hs]; simp
  · have hs' : isSpace c = false := by simpa using hs
    rw [rsa_ns cs hs']; simp

theorem rsa_eq_nil {l : Bytes} (h : rsa l = []) : l = [] := by
  cases l with
  | nil => rfl
  | cons c cs => exact absurd h (rsa_ne_nil c cs)

theorem all_space_lastTS (c : UInt8) (cs : Bytes) (hc : isSpace c = true) (h : cs.dropWhile isSpace = []) :
    lastTS (c :: cs) = true := by
  induction cs generalizing c with
  | nil => simp [lastTS, (space_class c hc).2.2.2]
  | cons d cs ih =>
    by_cases hd : isSpace d = true
    · simp only [List.dropWhile, hd] at h
      rw [lastTS_cons]; simp only [List.cons_ne_nil, if_false]
      exact ih d hd h
    · have hd' : isSpace d = false := by simpa using hd
      simp [List.dropWhile, hd'] at h

theorem lastTS_rsa (n : Nat) : ∀ l : Bytes, l.length ≤ n → lastTS (rsa l) = lastTS l := by
  induction n with
  | zero =>
    intro l h
    have : l = [] := List.length_eq_zero_iff.mp (by omega)
    subst this; rw [rsa_nil]
  | succ n ih =>
    intro l h
    cases l with
    | nil => rw [rsa_nil]
    | cons c cs =>
      simp only [List.length_cons] at h
      by_cases hs : isSpace c = true
      · rw [rsa_sp cs hs, lastTS_cons]
        by_cases hd : cs.dropWhile isSpace = []
        · rw [hd, rsa_nil]; simp only [if_true]
          rw [all_space_lastTS c cs hs hd]; exact sp32.2.1
        · have : rsa (cs.dropWhile isSpace) ≠ [] := fun h => hd (rsa_eq_nil h)
          simp only [this, if_false]
          rw [ih _ (by have := length_dropWhile_le isSpace cs; omega), lastTS_dropWhile _ _ hd, lastTS_cons]
          have : cs ≠ [] := by intro hcs; subst hcs; simp at hd
          simp [this]
      · have hs' : isSpace c = false := by simpa using hs
        rw [rsa_ns cs hs', lastTS_cons, lastTS_cons, ih cs (by omega)]
        by_cases hnil : cs = []
        · subst hnil; simp [rsa_nil]
        · have : rsa cs ≠ [] := fun h => hnil (rsa_eq_nil h)
          simp [hnil, this]

theorem lastTS_rsa' (l : Bytes) : lastTS (rsa l) = lastTS l := lastTS_rsa l.length l (Nat.le_refl _)

theorem trimLeft_fix (l : Bytes) (h : headTS l = false) : trimLeftSpace l = l := dropWhile_headTS l h

theorem trimRight_fix (l : Bytes) (h : lastTS l = false) : trimRightSpace l = l := by
  unfold trimRightSpace
  rw [dropWhile_headTS _ (by rw [← lastTS_reverse]; exact h), List.reverse_reverse]

theorem lastTS_trimRight (l : Bytes) : lastTS (trimRightSpace l) = false := by
  unfold trimRightSpace
  rw [lastTS_reverse, List.reverse_reverse]; exact headTS_dropWhile _

theorem trimRight_prefix (l : Bytes) : ∃ w, l = trimRightSpace l ++ w := by
  refine ⟨(l.reverse.takeWhile isTrimSpace).reverse, ?_⟩
  unfold trimRightSpace
  rw [← List.reverse_append, List.takeWhile_append_dropWhile, List.reverse_reverse]

theorem headTS_trimRight (l : Bytes) (h : headTS l = false) : headTS (trimRightSpace l) = false := by
  obtain ⟨w, hw⟩ := trimRight_prefix l
  cases ht : trimRightSpace l with
  | nil => rfl
  | cons c t => rw [hw, ht] at h; exact h

theorem trim_ends (v : Bytes) :
    headTS (trimRightSpace (trimLeftSpace v)) = false ∧ lastTS (trimRightSpace (trimLeftSpace v)) = false :=
  ⟨headTS_trimRight _ (headTS_dropWhile v), lastTS_trimRight _⟩

theorem noInner_noSpace (l : Bytes) (hl : lastTS l = false) (h : hasInnerRun l = false) :
    l.all (fun b => !isSpace b) = true := by
  induction l with
  | nil => rfl
  | cons c l ih =>
    cases l with
    | nil =>
      simp only [lastTS] at hl
      simp [trim_space c hl]
    | cons d r =>
      simp only [hasInnerRun, Bool.or_eq_false_iff, Bool.and_eq_false_iff, Bool.not_eq_false'] at h
      have hl' : lastTS (d :: r) = false := by simpa [lastTS] using hl
      have ih' := ih hl' h.2
      have hd : isSpace d = false := by
        simp only [List.all_cons, Bool.and_eq_true, Bool.not_eq_true'] at ih'; exact ih'.1
      have hc : isSpace c = false := by
        rcases h.1 with h1 | h1
        · exact h1
        · rw [hd] at h1; cases h1
      simp only [List.all_cons, hc, Bool.not_false, Bool.true_and]
      exact ih'

theorem replaceSpaces_eq (l : Bytes) (hl : lastTS l = false) : replaceSpaces l 32 = rsa l := by
  unfold replaceSpaces
  split
  · rfl
  · rename_i h
    have := rsa_append_ns l [] (noInner_noSpace l hl (by simpa using h))
    simpa [rsa_nil] using this.symm

/-- the normal form computed by ToLinkReference: trim, fold, then rewrite every run of white space to one
    space (the "only a trailing run: return unchanged" shortcut of ReplaceSpaces never applies here) -/
theorem toLinkReference_eq (v : Bytes) :
    toLinkReference v = rsa (caseFold (trimRightSpace (trimLeftSpace v))) := by
  unfold toLinkReference
  exact replaceSpaces_eq _ (by rw [lastTS_caseFold']; exact (trim_ends v).2)

theorem dropWhile_head_not (p : UInt8 → Bool) (l : Bytes) {d : UInt8} {r : Bytes}
    (h : l.dropWhile p = d :: r) : p d = false := by
  induction l with
  | nil => simp at h
  | cons c l ih =>
    by_cases hc : p c = true
    · simp only [List.dropWhile, hc] at h; exact ih h
    · have hc' : p c = false := by simpa using hc
      simp only [List.dropWhile, hc'] at h
      cases h; exact hc'

theorem rsa_idem (n : Nat) : ∀ l : Bytes, l.length ≤ n → rsa (rsa l) = rsa l := by
  induction n with
  | zero =>
    intro l h
    have : l = [] := List.length_eq_zero_iff.mp (by omega)
    subst this; simp [rsa_nil]
  | succ n ih =>
    intro l h
    cases l with
    | nil => simp [rsa_nil]
    | cons c cs =>
      simp only [List.length_cons] at h
      by_cases hs : isSpace c = true
      · rw [rsa_sp cs hs, rsa_sp _ sp32.1]
        have hih := ih (cs.dropWhile isSpace) (by have := length_dropWhile_le isSpace cs; omega)
        -- the rewritten rest starts with a non-space byte (or is empty)
        have hhead : (rsa (cs.dropWhile isSpace)).dropWhile isSpace = rsa (cs.dropWhile isSpace) := by
          cases hd : cs.dropWhile isSpace with
          | nil => simp [rsa_nil]
          | cons d r =>
            have hdns : isSpace d = false := dropWhile_head_not isSpace cs hd
            rw [rsa_ns r hdns]; simp [List.dropWhile, hdns]
        rw [hhead, hih]
      · have hs' : isSpace c = false := by simpa using hs
        rw [rsa_ns cs hs', rsa_ns _ hs', ih cs (by omega)]

theorem rsa_idem' (l : Bytes) : rsa (rsa l) = rsa l := rsa_idem l.length l (Nat.le_refl _)

theorem toLinkReference_idem (v : Bytes) : toLinkReference (toLinkReference v) = toLinkReference v := by
  have hT := trim_ends v
  rw [toLinkReference_eq v]
  generalize trimRightSpace (trimLeftSpace v) = T at hT
  rw [toLinkReference_eq]
  have hh : headTS (rsa (caseFold T)) = false := by rw [headTS_rsa, headTS_caseFold]; exact hT.1
  have hl : lastTS (rsa (caseFold T)) = false := by rw [lastTS_rsa', lastTS_caseFold']; exact hT.2
  rw [trimLeft_fix _ hh, trimRight_fix _ hl, caseFold_rsa, caseFold_idem, rsa_idem']

theorem space_trim (w : Bytes) (h : w.all isSpace = true) : w.all isTrimSpace = true := by
  rw [List.all_eq_true] at h ⊢
  intro b hb; exact (space_class b (h b hb)).2.2.2

theorem toLinkReference_ws_lead (w v : Bytes) (h : w.all isTrimSpace = true) :
    toLinkReference (w ++ v) = toLinkReference v := by
  unfold toLinkReference trimLeftSpace
  rw [dropWhile_all w v h]

theorem dropWhile_append_ne {p : UInt8 → Bool} (l w : Bytes) (h : l.dropWhile p ≠ []) :
    (l ++ w).dropWhile p = l.dropWhile p ++ w := by
  induction l with
  | nil => simp at h
  | cons c l ih =>
    by_cases hc : p c = true
    · simp only [List.dropWhile, hc] at h ⊢
      simpa [List.dropWhile, hc] using ih h
    · have hc' : p c = false := by simpa using hc
      simp [List.dropWhile, hc']

theorem dropWhile_eq_nil_all {p : UInt8 → Bool} (l : Bytes) (h : l.dropWhile p = []) : l.all p = true := by
  induction l with
  | nil => rfl
  | cons c l ih =>
    by_cases hc : p c = true
    · simp only [List.dropWhile, hc] at h; simp [hc, ih h]
    · have hc' : p c = false := by simpa using hc
      simp [List.dropWhile, hc'] at h

theorem trimRight_append_all (l w : Bytes) (h : w.all isTrimSpace = true) :
    trimRightSpace (l ++ w) = trimRightSpace l := by
  unfold trimRightSpace
  rw [List.reverse_append, dropWhile_all w.reverse l.reverse (by simpa using h)]

theorem toLinkReference_ws_trail (v w : Bytes) (h : w.all isTrimSpace = true) :
    toLinkReference (v ++ w) = toLinkReference v := by
  unfold toLinkReference trimLeftSpace
  by_cases hv : v.dropWhile isTrimSpace = []
  · have hall : (v ++ w).all isTrimSpace = true := by
      rw [List.all_append, dropWhile_eq_nil_all v hv, h]; rfl
    have : (v ++ w).dropWhile isTrimSpace = [] := by
      have := dropWhile_all (v ++ w) [] hall
      simpa using this
    rw [this, hv]
  · rw [dropWhile_append_ne v w hv, trimRight_append_all _ _ h]

/-- rewriting runs: what lies between `a` and `b` only matters as "some white space" -/
theorem rsa_run (w1 w2 b : Bytes) (h1 : w1 ≠ []) (h2 : w2 ≠ []) (hw1 : w1.all isSpace = true)
    (hw2 : w2.all isSpace = true) (n : Nat) :
    ∀ a : Bytes, a.length ≤ n → rsa (a ++ (w1 ++ b)) = rsa (a ++ (w2 ++ b)) := by
  have base : ∀ w : Bytes, w ≠ [] → w.all isSpace = true → rsa (w ++ b) = 32 :: rsa (b.dropWhile isSpace) := by
    intro w hne hw
    cases w with
    | nil => exact absurd rfl hne
    | cons s w =>
      simp only [List.all_cons, Bool.and_eq_true] at hw
      rw [List.cons_append, rsa_sp _ hw.1, dropWhile_all w b hw.2]
  induction n with
  | zero =>
    intro a ha
    have : a = [] := List.length_eq_zero_iff.mp (by omega)
    subst this
    simp only [List.nil_append]
    rw [base w1 h1 hw1, base w2 h2 hw2]
  | succ n ih =>
    intro a ha
    cases a with
    | nil => exact ih [] (by simp)
    | cons c a =>
      simp only [List.length_cons] at ha
      by_cases hs : isSpace c = true
      · rw [List.cons_append, List.cons_append, rsa_sp _ hs, rsa_sp _ hs]
        by_cases hd : a.dropWhile isSpace = []
        · have hall := dropWhile_eq_nil_all a hd
          rw [dropWhile_all a _ hall, dropWhile_all a _ hall, dropWhile_all w1 b hw1, dropWhile_all w2 b hw2]
        · rw [dropWhile_append_ne a _ hd, dropWhile_append_ne a _ hd]
          rw [ih _ (by have := length_dropWhile_le isSpace a; omega)]
      · have hs' : isSpace c = false := by simpa using hs
        rw [List.cons_append, List.cons_append, rsa_ns _ hs', rsa_ns _ hs', ih a (by omega)]

theorem trimRight_append_ne (x b : Bytes) (h : trimRightSpace b ≠ []) :
    trimRightSpace (x ++ b) = x ++ trimRightSpace b := by
  unfold trimRightSpace at h ⊢
  have h' : b.reverse.dropWhile isTrimSpace ≠ [] := by
    intro hh; rw [hh] at h; exact h rfl
  rw [List.reverse_append, dropWhile_append_ne _ _ h', List.reverse_append, List.reverse_reverse]

theorem trimRight_eq_nil_all (b : Bytes) (h : trimRightSpace b = []) : b.all isTrimSpace = true := by
  unfold trimRightSpace at h
  have : b.reverse.dropWhile isTrimSpace = [] := by simpa using h
  have := dropWhile_eq_nil_all _ this
  simpa using this

theorem toLinkReference_ws_run (a w1 w2 b : Bytes) (h1 : w1 ≠ []) (h2 : w2 ≠ []) (hw1 : w1.all isSpace = true)
    (hw2 : w2.all isSpace = true) :
    toLinkReference (a ++ w1 ++ b) = toLinkReference (a ++ w2 ++ b) := by
  rw [toLinkReference_eq, toLinkReference_eq, ← caseFold_rsa, ← caseFold_rsa]
  congr 1
  simp only [List.append_assoc]
  unfold trimLeftSpace
  by_cases ha : a.dropWhile isTrimSpace = []
  · have hall := dropWhile_eq_nil_all a ha
    rw [dropWhile_all a _ hall, dropWhile_all a _ hall, dropWhile_all w1 b (space_trim w1 hw1),
      dropWhile_all w2 b (space_trim w2 hw2)]
  · rw [dropWhile_append_ne a _ ha, dropWhile_append_ne a _ ha]
    generalize a.dropWhile isTrimSpace = A
    by_cases hb : trimRightSpace b = []
    · have hball := trimRight_eq_nil_all b hb
      have e1 : (w1 ++ b).all isTrimSpace = true := by rw [List.all_append, space_trim w1 hw1, hball]; rfl
      have e2 : (w2 ++ b).all isTrimSpace = true := by rw [List.all_append, space_trim w2 hw2, hball]; rfl
      rw [trimRight_append_all A _ e1, trimRight_append_all A _ e2]
    · rw [← List.append_assoc, ← List.append_assoc, trimRight_append_ne _ b hb, trimRight_append_ne _ b hb,
        List.append_assoc, List.append_assoc]
      exact rsa_run w1 w2 _ h1 h2 hw1 hw2 A.length A (Nat.le_refl _)

theorem takeWhile_append_stop {p : UInt8 → Bool} (x : Bytes) (y : UInt8) (ys : Bytes) (h : p y = false) :
    (x ++ y :: ys).takeWhile p = x.takeWhile p := by
  induction x with
  | nil => simp [List.takeWhile, h]
  | cons c x ih =>
    by_cases hc : p c = true
    · simp [List.takeWhile, hc, ih]
    · have hc' : p c = false := by simpa using hc
      simp [List.takeWhile, hc']

theorem takeWhile_length_le (p : UInt8 → Bool) (l : Bytes) : (l.takeWhile p).length ≤ l.length := by
  induction l with
  | nil => simp
  | cons c l ih => simp only [List.takeWhile]; split <;> simp <;> omega

/-- folding is a congruence for a middle part that starts with a non-continuation byte -/
theorem caseFold_congr_mid (y1 y2 : UInt8) (m1 m2 b : Bytes) (hy1 : isCont y1 = false) (hy2 : isCont y2 = false)
    (hm : caseFold (y1 :: m1 ++ b) = caseFold (y2 :: m2 ++ b)) (n : Nat) :
    ∀ a : Bytes, a.length ≤ n → caseFold (a ++ (y1 :: m1 ++ b)) = caseFold (a ++ (y2 :: m2 ++ b)) := by
  induction n with
  | zero =>
    intro a ha
    have : a = [] := List.length_eq_zero_iff.mp (by omega)
    subst this; exact hm
  | succ n ih =>
    intro a ha
    cases a with
    | nil => exact hm
    | cons c a =>
      simp only [List.length_cons] at ha
      have ha' : a.length ≤ n := by omega
      simp only [List.cons_append] at ih ⊢
      by_cases hlt : c < 181
      · rw [cf_lt _ hlt, cf_lt _ hlt, ih a ha']
      · by_cases hc : isCont c = true
        · rw [cf_cont _ hc, cf_cont _ hc, ih a ha']
        · have hc' : isCont c = false := by simpa using hc
          have htw : (a ++ y1 :: (m1 ++ b)).takeWhile isCont = (a ++ y2 :: (m2 ++ b)).takeWhile isCont := by
            rw [takeWhile_append_stop a y1 _ hy1, takeWhile_append_stop a y2 _ hy2]
          have hdec := decodeRune_congr c htw
          by_cases hd : (decodeRune (c :: (a ++ y1 :: (m1 ++ b)))).1 = runeError
          · rw [cf_keep _ hlt hc' (Or.inl hd), cf_keep _ hlt hc' (Or.inl (by rw [← hdec]; exact hd)), ih a ha']
          · cases hf : lookupFold (decodeRune (c :: (a ++ y1 :: (m1 ++ b)))).1 with
            | none =>
              rw [cf_keep _ hlt hc' (Or.inr hf), cf_keep _ hlt hc' (Or.inr (by rw [← hdec]; exact hf)), ih a ha']
            | some f =>
              rw [cf_fold _ hlt hc' hd hf,
                cf_fold _ hlt hc' (by rw [← hdec]; exact hd) (by rw [← hdec]; exact hf), ← hdec]
              have hw := decodeRune_width c (a ++ y1 :: (m1 ++ b))
              rw [takeWhile_append_stop a y1 _ hy1] at hw
              have hle : (decodeRune (c :: (a ++ y1 :: (m1 ++ b)))).2 - 1 ≤ a.length := by
                have := takeWhile_length_le isCont a; omega
              rw [List.drop_append_of_le_length hle, List.drop_append_of_le_length hle,
                ih _ (by simp only [List.length_drop]; omega)]

theorem dw_append_stop (x : Bytes) (y : UInt8) (ys : Bytes) (h : isTrimSpace y = false) :
    trimLeftSpace (x ++ y :: ys) = trimLeftSpace x ++ y :: ys := dropWhile_append_stop x y ys h

theorem trimRight_append_stop (x m : Bytes) (hne : m ≠ []) (hm : lastTS m = false) (b : Bytes) :
    trimRightSpace (x ++ (m ++ b)) = x ++ (m ++ trimRightSpace b) := by
  unfold trimRightSpace
  have hrev : (x ++ (m ++ b)).reverse = b.reverse ++ (m.reverse ++ x.reverse) := by simp
  rw [hrev]
  cases hmr : m.reverse with
  | nil => exact absurd (by simpa using hmr) hne
  | cons z zs =>
    have hz : isTrimSpace z = false := by
      have := lastTS_reverse m
      rw [hmr, hm] at this; exact this.symm
    rw [List.cons_append, dropWhile_append_stop b.reverse z _ hz]
    have : (List.dropWhile isTrimSpace b.reverse ++ z :: (zs ++ x.reverse)).reverse
        = x ++ ((z :: zs).reverse ++ (List.dropWhile isTrimSpace b.reverse).reverse) := by simp
    rw [this, ← hmr, List.reverse_reverse]

/-- the general form: two middle parts that fold to the same thing, neither starting with a continuation
    byte nor starting/ending with a trim-space byte, are interchangeable inside any label -/
theorem toLinkReference_congr_mid (a b : Bytes) (y1 y2 : UInt8) (m1 m2 : Bytes)
    (hy1 : isCont y1 = false) (hy2 : isCont y2 = false)
    (ht1 : isTrimSpace y1 = false) (ht2 : isTrimSpace y2 = false)
    (hl1 : lastTS (y1 :: m1) = false) (hl2 : lastTS (y2 :: m2) = false)
    (hm : ∀ t, caseFold (y1 :: m1 ++ t) = caseFold (y2 :: m2 ++ t)) :
    toLinkReference (a ++ (y1 :: m1) ++ b) = toLinkReference (a ++ (y2 :: m2) ++ b) := by
  rw [toLinkReference_eq, toLinkReference_eq]
  congr 1
  simp only [List.append_assoc, List.cons_append]
  rw [dw_append_stop a y1 _ ht1, dw_append_stop a y2 _ ht2]
  have e1 := trimRight_append_stop (trimLeftSpace a) (y1 :: m1) (by simp) hl1 b
  have e2 := trimRight_append_stop (trimLeftSpace a) (y2 :: m2) (by simp) hl2 b
  simp only [List.cons_append] at e1 e2
  rw [e1, e2]
  exact caseFold_congr_mid y1 y2 m1 m2 _ hy1 hy2 (hm _) _ _ (Nat.le_refl _)

theorem upper_facts : ∀ c : UInt8, upperByte c = true →
    c < 181 ∧ isCont c = false ∧ isTrimSpace c = false ∧
    (c + 32) < 181 ∧ upperByte (c + 32) = false ∧ isCont (c + 32) = false ∧ isTrimSpace (c + 32) = false := by
  apply forall_uint8; decide +kernel

/-- an upper-case ASCII letter anywhere in a label may be replaced by its lower-case form -/
theorem toLinkReference_case_ascii (a b : Bytes) (c : UInt8) (hc : upperByte c = true) :
    toLinkReference (a ++ [c] ++ b) = toLinkReference (a ++ [c + 32] ++ b) := by
  obtain ⟨k1, k2, k3, k4, k5, k6, k7⟩ := upper_facts c hc
  refine toLinkReference_congr_mid a b c (c + 32) [] [] k2 k6 k3 k7 (by simp [lastTS, k3]) (by simp [lastTS, k7]) ?_
  intro t
  simp only [List.cons_append, List.nil_append]
  rw [cf_lt _ k1, cf_lt _ k4, hc, k5]; rfl

/-- a rune with an entry in the folding table may be replaced, anywhere in a label, by its folded form -/
theorem toLinkReference_case_fold (a b : Bytes) (k : Nat) (f : List Nat) (hf : lookupFold k = some f) :
    toLinkReference (a ++ encodeRune k ++ b) = toLinkReference (a ++ f.flatMap encodeRune ++ b) := by
  have hent := fold_entry_ok hf
  simp only [okEntry, Bool.and_eq_true] at hent
  obtain ⟨⟨⟨henc, _⟩, _⟩, hkey⟩ := hent
  obtain ⟨b0, conts, heq, hb0, hconts, hre, hdec, _⟩ := okEnc_shape henc
  obtain ⟨h2, t2, heq2, hh2, hall2⟩ := encs_head hf
  have hts2 : isTrimSpace h2 = false := by
    rw [heq2] at hall2; simp only [List.all_cons, Bool.and_eq_true, Bool.not_eq_true'] at hall2; exact hall2.1
  have hl2 : lastTS (h2 :: t2) = false := by rw [← heq2]; exact lastTS_all _ hall2
  unfold okKey at hkey
  rw [heq] at hkey
  simp only [Bool.or_eq_true, decide_eq_true_eq, Bool.and_eq_true, List.isEmpty_iff, beq_iff_eq] at hkey
  have hfold2 : ∀ t, caseFold (h2 :: t2 ++ t) = h2 :: t2 ++ caseFold t := by
    intro t; rw [← heq2]; exact caseFold_folded hf t
  rw [heq, heq2]
  rcases hkey with hge | ⟨⟨hnil, hup⟩, hlow⟩
  · have hnlt : ¬ b0 < 181 := by
      rw [UInt8.lt_iff_toNat_lt]; rw [ge_iff_le, UInt8.le_iff_toNat_le] at hge; omega
    refine toLinkReference_congr_mid a b b0 h2 conts t2 hb0 hh2 (high_class b0 hnlt).1 hts2
      (lastTS_conts b0 conts (high_class b0 hnlt).1 hconts) hl2 ?_
    intro t
    rw [hfold2 t]
    have hd := decodeRune_append hdec hre t
    rw [List.cons_append, cf_fold _ hnlt hb0 (by rw [hd]; exact hre) (by rw [hd]; exact hf), hd, heq2]
    simp
  · subst hnil
    obtain ⟨k1, k2, k3, _⟩ := upper_facts b0 hup
    rw [heq2] at hlow
    refine toLinkReference_congr_mid a b b0 h2 [] t2 k2 hh2 k3 hts2 (by simp [lastTS, k3]) hl2 ?_
    intro t
    rw [hfold2 t, List.cons_append, List.nil_append, cf_lt _ k1, hup, hlow]; rfl

end GM.Proof
