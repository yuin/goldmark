/-
  GM.Proof.CMSpec — lemmas for property C02 (GM.Props.C02c): the model of goldmark's text writer
  (GM.Model.Writer, tied to renderer/html/html.go by component `render`) undoes every licensed spelling of
  literal text produced by the specification-side generator (GM.Spec.CMText).
-/
import GM.Model.Writer
import GM.Spec.CMText
import GM.Proof.Util

namespace GM.Proof.CMSpec
open GM GM.Spec.CM

theorem writeGo_plain (es : Bool) (c : UInt8) (rest : Bytes) (h0 : c ≠ 0) (h1 : c ≠ 38) (h2 : c ≠ 92) :
    writeGo es false (c :: rest) = escByte c ++ writeGo es false rest := by
  rw [writeGo]; simp [h0, h1, h2]

theorem writeGo_backslash (es : Bool) (c : UInt8) (rest : Bytes) (hp : isPunct c = true) :
    writeGo es false (92 :: c :: rest) = escByte c ++ writeGo es false rest := by
  rw [writeGo]; simp
  rw [writeGo]; simp [hp]

theorem writeGo_ref (es : Bool) (cs out rest : Bytes) (h : tryRefW cs = some (out, rest)) :
    writeGo es false (38 :: cs) = out ++ writeGo es false rest := by
  rw [writeGo]; simp
  split
  · rename_i o r heq; rw [h] at heq; cases heq; rfl
  · rename_i heq; rw [h] at heq; cases heq

theorem spanB_run (p : UInt8 → Bool) (ds rest : Bytes) (hall : ∀ d ∈ ds, p d = true) (h59 : p 59 = false) :
    spanB p (ds ++ 59 :: rest) = (ds, 59 :: rest) := by
  induction ds with
  | nil => simp [spanB, h59]
  | cons d ds ih =>
    have hd : p d = true := hall d (by simp)
    have := ih (fun x hx => hall x (by simp [hx]))
    simp [spanB, hd, this]

theorem digitsVal_zeros (base : Nat) (k : Nat) (ds : Bytes) : digitsVal base (zeros k ++ ds) = digitsVal base ds := by
  unfold digitsVal zeros
  induction k with
  | zero => simp
  | succ k ih =>
    simp only [List.replicate_succ, List.cons_append, List.foldl_cons]
    have : (0 * base + hexVal 48) = 0 := by simp [hexVal, isNumeric]
    rw [this]; exact ih

theorem zeros_all (p : UInt8 → Bool) (h : p 48 = true) (k : Nat) : ∀ d ∈ zeros k, p d = true := by
  intro d hd; simp [zeros] at hd; rw [hd.2]; exact h

/-! ### finite facts about the 95 printable characters (kernel-evaluated) -/

theorem decDigits_spec : ∀ c : UInt8, digitsVal 10 (decDigits c.toNat) = c.toNat ∧
    (decDigits c.toNat).all isNumeric = true ∧ 1 ≤ (decDigits c.toNat).length ∧ (decDigits c.toNat).length ≤ 3 := by
  apply forall_uint8; decide +kernel
theorem hexDig_spec : ∀ n : Nat, n < 16 → ∀ up : Bool, hexVal (hexDig up n) = n ∧ isHex (hexDig up n) = true := by
  decide +kernel

theorem hexDigits_spec : ∀ c : UInt8, ∀ up : Bool, digitsVal 16 (hexDigits up c.toNat) = c.toNat ∧
    (hexDigits up c.toNat).all isHex = true ∧ 1 ≤ (hexDigits up c.toNat).length ∧ (hexDigits up c.toNat).length ≤ 2 := by
  intro c up
  have hc : c.toNat < 256 := c.toNat_lt
  unfold hexDigits
  split
  · rename_i h
    obtain ⟨a, b⟩ := hexDig_spec c.toNat h up
    simp [digitsVal, a, b]
  · obtain ⟨a1, b1⟩ := hexDig_spec (c.toNat / 16) (by omega) up
    obtain ⟨a2, b2⟩ := hexDig_spec (c.toNat % 16) (by omega) up
    simp [digitsVal, a1, b1, a2, b2]; omega
theorem escapeRune_printable : ∀ c : UInt8, printable c = true → escapeRune c.toNat = escByte c := by
  apply forall_uint8; decide +kernel
theorem punct_eq (c : UInt8) : isAsciiPunct c = isPunct c := rfl

theorem mustEscape_punct (c : UInt8) (h : mustEscape c = true) : isPunct c = true := by
  simp only [mustEscape, Bool.or_eq_true, beq_iff_eq] at h
  rcases h with (((((((rfl | rfl) | rfl) | rfl) | rfl) | rfl) | rfl) | rfl) | rfl <;> rfl

/-- a printable byte that `p` rejects, where `p` holds of `&` and `\`, is plain to the writer (`0` is not printable) -/
theorem safe_of (p : UInt8 → Bool) (h38 : p 38 = true) (h92 : p 92 = true) (c : UInt8) (hp : printable c = true)
    (h : p c = false) : c ≠ 0 ∧ c ≠ 38 ∧ c ≠ 92 :=
  ⟨fun e => absurd (e ▸ hp) (by decide), fun e => absurd (h38.symm.trans (e ▸ h)) (by decide),
    fun e => absurd (h92.symm.trans (e ▸ h)) (by decide)⟩

theorem lit_safe (c : UInt8) : printable c = true → mustEscape c = false → c ≠ 0 ∧ c ≠ 38 ∧ c ≠ 92 :=
  safe_of mustEscape rfl rfl c
theorem nonpunct_safe (c : UInt8) : printable c = true → isAsciiPunct c = false → c ≠ 0 ∧ c ≠ 38 ∧ c ≠ 92 :=
  safe_of isAsciiPunct rfl rfl c

theorem num_not_x : ∀ d : UInt8, isNumeric d = true → (d == 120 || d == 88) = false := by
  apply forall_uint8; decide +kernel

/-- every name of `namedFor` is a non-empty alphanumeric word that does not start with `#` and that the
    regenerated HTML5 entity table maps to exactly that character -/
theorem named_ok (c : UInt8) (n : Bytes) (h : namedFor c = some n) :
    lookupEntity n = some [c] ∧ n.all isAlnum = true ∧ n ≠ [] ∧ n.head? ≠ some 35 :=
  have : ∀ c : UInt8, ∀ n, namedFor c = some n →
      (n, [c]) ∈ asciiEnts ∧ n.all isAlnum = true ∧ n ≠ [] ∧ n.head? ≠ some 35 := by
    apply forall_uint8; decide +kernel
  ⟨lookupEntity_ascii (this c n h).1, (this c n h).2⟩


theorem tryRefW_dec (ds rest : Bytes) (hne : ds ≠ []) (hall : ∀ d ∈ ds, isNumeric d = true) (hlen : ds.length < 8) :
    tryRefW (35 :: (ds ++ 59 :: rest)) = some (escapeRune (parseUintDec ds), rest) := by
  cases ds with
  | nil => exact absurd rfl hne
  | cons d tl =>
    have hd : isNumeric d = true := hall d (by simp)
    have hx : (d == 120 || d == 88) = false := num_not_x d hd
    have hs := spanB_run isNumeric (d :: tl) rest hall (by decide)
    simp only [List.cons_append] at hs
    simp only [tryRefW, List.cons_append, hx, hd, hs]
    simp at hlen ⊢; omega

theorem tryRefW_hex (x : UInt8) (hx : x = 120 ∨ x = 88) (ds rest : Bytes) (hne : ds ≠ [])
    (hall : ∀ d ∈ ds, isHex d = true) (hlen : ds.length < 7) :
    tryRefW (35 :: x :: (ds ++ 59 :: rest)) = some (escapeRune (parseUintHex ds), rest) := by
  have hs := spanB_run isHex ds rest hall (by decide)
  have hx' : (x == 120 || x == 88) = true := by rcases hx with h | h <;> subst h <;> decide
  simp only [tryRefW, hx', hs]
  cases ds with
  | nil => exact absurd rfl hne
  | cons d tl => simp at hlen ⊢; omega

theorem tryRefW_named (n rest cs : Bytes) (hall : n.all isAlnum = true) (hne : n ≠ []) (h35 : n.head? ≠ some 35)
    (hl : lookupEntity n = some cs) :
    tryRefW (n ++ 59 :: rest) = some (rawWrite cs, rest) := by
  have hs := spanB_run isAlnum n rest (by simpa using hall) (by decide)
  cases n with
  | nil => exact absurd rfl hne
  | cons a tl =>
    have ha : a ≠ 35 := by intro h; subst h; simp at h35
    simp only [List.cons_append] at hs ⊢
    unfold tryRefW
    split
    · rename_i r1 heq; cases heq; exact absurd rfl ha
    · simp [hs, hl]

/-- The writer undoes a padded numeric reference `&#` `pre` `0…0` `ds` `;`, in either base: `ds` are digits of
    class `p` that read back as the printable `c`, and `tryRefW` accepts up to `cap` such digits after `#` `pre`. -/
theorem write_numRef (es : Bool) (c : UInt8) (hp : printable c = true) (pre : Bytes) (p : UInt8 → Bool) (base cap : Nat)
    (href : ∀ ds rest, ds ≠ [] → (∀ d ∈ ds, p d = true) → ds.length < cap + 1 →
      tryRefW (35 :: (pre ++ (ds ++ 59 :: rest))) = some (escapeRune (min (digitsVal base ds) 4294967295), rest))
    (h48 : p 48 = true) (ds : Bytes) (hval : digitsVal base ds = c.toNat) (hall : ds.all p = true)
    (h1 : 1 ≤ ds.length) (hcap : ds.length ≤ cap) (pad : Nat) (rest : Bytes) :
    writeGo es false ([38, 35] ++ pre ++ zeros (min pad (cap - ds.length)) ++ ds ++ [59] ++ rest) =
      escByte c ++ writeGo es false rest := by
  have h := href (zeros (min pad (cap - ds.length)) ++ ds) rest
    (by intro h; have := congrArg List.length h; simp only [List.length_append, List.length_nil] at this; omega)
    (fun d hd => (List.mem_append.mp hd).elim (zeros_all p h48 _ d) (List.all_eq_true.mp hall d))
    (by simp [zeros]; omega)
  rw [digitsVal_zeros, hval, Nat.min_eq_left (show c.toNat ≤ 4294967295 by have := c.toNat_lt; omega),
    escapeRune_printable c hp] at h
  simpa [List.append_assoc] using writeGo_ref es _ _ _ h

theorem write_spellChar (es : Bool) (t : TChar) (rest : Bytes) (hp : printable t.c = true) :
    writeGo es false (spellChar t ++ rest) = escByte t.c ++ writeGo es false rest := by
  obtain ⟨c, e⟩ := t
  simp only at hp
  cases e with
  | lit =>
    simp only [spellChar]
    split
    · rename_i hm; exact writeGo_backslash es c rest (mustEscape_punct c hm)
    · rename_i hm
      have := lit_safe c hp (by simpa using hm)
      exact writeGo_plain es c rest this.1 this.2.1 this.2.2
  | bs =>
    simp only [spellChar]
    split
    · rename_i hm; exact writeGo_backslash es c rest (by rw [← punct_eq]; exact hm)
    · rename_i hm
      have := nonpunct_safe c hp (by simpa using hm)
      exact writeGo_plain es c rest this.1 this.2.1 this.2.2
  | dec pad =>
    obtain ⟨hval, hnum, h1, _⟩ := decDigits_spec c
    simpa [spellChar] using write_numRef es c hp [] isNumeric 10 7 (fun ds r => tryRefW_dec ds r) (by decide) _
      hval hnum h1 (by omega) pad rest
  | hex pad upX upD =>
    obtain ⟨hval, hhex, h1, _⟩ := hexDigits_spec c upD
    simpa [spellChar] using write_numRef es c hp [if upX then 88 else 120] isHex 16 6
      (fun ds r => tryRefW_hex _ (by cases upX <;> simp) ds r) (by decide) _ hval hhex h1 (by omega) pad rest
  | named =>
    simp only [spellChar]
    split
    · rename_i n hn
      have hk := named_ok c n hn
      have h := tryRefW_named n rest [c] hk.2.1 hk.2.2.1 hk.2.2.2 hk.1
      have := writeGo_ref es _ _ _ h
      simpa [List.append_assoc, rawWrite, escapeHTML] using this
    · split
      · rename_i hm; exact writeGo_backslash es c rest (mustEscape_punct c hm)
      · rename_i hm
        have := lit_safe c hp (by simpa using hm)
        exact writeGo_plain es c rest this.1 this.2.1 this.2.2

theorem write_escSpell_append (es : Bool) (cs : List TChar) (rest : Bytes) (hp : ∀ t ∈ cs, printable t.c = true) :
    writeGo es false (escSpell cs ++ rest) = rawWrite (plain cs) ++ writeGo es false rest := by
  induction cs with
  | nil => simp [escSpell, plain, rawWrite, escapeHTML]
  | cons t ts ih =>
    have h1 := write_spellChar es t (escSpell ts ++ rest) (hp t (by simp))
    have h2 := ih (fun x hx => hp x (by simp [hx]))
    simp only [escSpell, List.flatMap_cons, List.append_assoc] at h1 h2 ⊢
    rw [h1, h2]
    simp [plain, rawWrite, escapeHTML]

/-- DESIGN's `write_undoes_spelling` -/
theorem escSpell_decodes (es : Bool) (cs : List TChar) (hp : ∀ t ∈ cs, printable t.c = true) :
    write es (escSpell cs) = rawWrite (plain cs) := by
  have := write_escSpell_append es cs [] hp
  simpa [write, writeGo] using this


theorem escHtmlByte_eq (c : UInt8) : escHtmlByte c = escByte c := by
  rcases escByte_cases c with ⟨rfl, e⟩ | ⟨rfl, e⟩ | ⟨rfl, e⟩ | ⟨rfl, e⟩ | ⟨h1, h2, h3, h4, e⟩
  · rw [e]; decide +kernel
  · rw [e]; decide +kernel
  · rw [e]; decide +kernel
  · rw [e]; decide +kernel
  · rw [e]; simp [escHtmlByte, h1, h2, h3, h4]

theorem escHtml_eq_rawWrite (b : Bytes) : escHtml b = rawWrite b := by
  simp only [escHtml, rawWrite, escapeHTML]
  congr 1; funext c; exact escHtmlByte_eq c

end GM.Proof.CMSpec
