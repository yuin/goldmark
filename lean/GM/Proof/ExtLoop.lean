/-
  GM.Proof.ExtLoop — the extensions' inline parsers as parsers of the inline driver model (GM.Model.InlineLoop):
  trigger bytes taken from the REGENERATED facts (GM.Spec.ExtFacts over GM.Gen.ExtFacts), the script given by the
  decline models of GM.Model.ExtDecline applied to the line the reader shows at the consulted position.
  Combines `run_unused` / `run_silent` with the per-extension decline theorems.
-/
import GM.Model.InlineLoop
import GM.Model.ExtLoop
import GM.Proof.InlineLoop
import GM.Proof.InlineLoopUnused
import GM.Proof.ExtDecline
import GM.Spec.ExtFacts

namespace GM.Proof.ExtLoop
open GM GM.InlineLoop GM.ExtLoop GM.Proof.InlineLoop GM.Proof.InlineLoopUnused

theorem peekAt_infix (b : Block) (l p : Nat) : peekAt b l p <:+: b.src := by
  unfold peekAt
  split
  · exact (List.take_prefix _ _).isInfix.trans (List.drop_suffix _ _).isInfix
  · exact List.nil_infix

theorem mem_peekAt {b : Block} {l p : Nat} {c : UInt8} (h : c ∈ peekAt b l p) : c ∈ b.src :=
  (peekAt_infix b l p).subset h

theorem typographer_silent (b : Block) (id : Nat) (trig : Bytes)
    (hsrc : ∀ c ∈ b.src, c ≠ 39 ∧ c ≠ 34 ∧ c ≠ 45 ∧ c ≠ 46 ∧ c ≠ 60 ∧ c ≠ 62) :
    Silent (extParser b id trig fun _ _ => Ext.typoParse) := by
  intro l p
  show ∃ m, toRes id (Ext.typoParse (peekAt b l p)) = .decline m
  cases hl : peekAt b l p with
  | nil => exact ⟨0, rfl⟩
  | cons c rest =>
    have hc : c ∈ b.src := mem_peekAt (l := l) (p := p) (by rw [hl]; simp)
    rw [Ext.typoParse_declines c rest (hsrc c hc)]
    exact ⟨0, rfl⟩

theorem linkify_silent (b : Block) (id : Nat) (trig : Bytes) (inLabel : Nat → Nat → Bool)
    (hcolon : (58 : UInt8) ∉ b.src) (hat : (64 : UInt8) ∉ b.src) (hwww : Ext.hasInfix Ext.domainWWW b.src = false) :
    Silent (extParser b id trig fun l p => Ext.linkifyParse (inLabel l p)) := by
  intro l p
  show ∃ m, toRes id (Ext.linkifyParse (inLabel l p) (peekAt b l p)) = .decline m
  by_cases hl : peekAt b l p = []
  · rw [hl]
    unfold Ext.linkifyParse
    split <;> exact ⟨0, rfl⟩
  · rw [Ext.linkifyParse_declines (inLabel l p) _ hl (fun h => hcolon (mem_peekAt h)) (fun h => hat (mem_peekAt h))
      (Ext.hasInfix_false_of_infix hwww (peekAt_infix b l p))]
    exact ⟨0, rfl⟩

theorem footnote_silent (b : Block) (id : Nat) (trig : Bytes) :
    Silent (extParser b id trig fun _ _ => Ext.footnoteParse none) := by
  intro l p
  show ∃ m, toRes id (Ext.footnoteParse none (peekAt b l p)) = .decline m
  obtain ⟨m, hm⟩ := Ext.footnoteParse_noList (peekAt b l p)
  rw [hm]
  exact ⟨m, rfl⟩

theorem mem_of_subset {xs ys : List UInt8} (h : Spec.Ext.subset xs ys = true) {c : UInt8} (hc : c ∈ xs) : c ∈ ys := by
  unfold Spec.Ext.subset at h
  rw [List.all_eq_true] at h
  simpa using h c hc

theorem strikethrough_triggers : Spec.Ext.subset (Spec.Ext.triggersOf "strikethrough" "inline") [126] = true := by
  decide +kernel
theorem taskList_triggers : Spec.Ext.subset (Spec.Ext.triggersOf "taskList" "inline") [91] = true := by decide +kernel

/-- a parser whose triggers all lie in `allowed` (no ' ' among them) is never consulted on a source without them -/
theorem run_unused_of_subset (b : Block) (l1 l2 : List Parser) (q : Parser) (esc : Bool) (allowed : List UInt8)
    (hsub : Spec.Ext.subset q.triggers allowed = true) (h32 : (32 : UInt8) ∉ allowed) (hsrc : ∀ c ∈ allowed, c ∉ b.src) :
    run ⟨l1 ++ q :: l2, esc⟩ b = run ⟨l1 ++ l2, esc⟩ b :=
  run_unused b l1 l2 q esc (fun h => h32 (mem_of_subset hsub h)) (fun c hc ht => hsrc c (mem_of_subset hsub ht) hc)

end GM.Proof.ExtLoop
