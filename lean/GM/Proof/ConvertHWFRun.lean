/-
  GM.Proof.ConvertHWFRun — Whole runs of the block driver with AutoHeadingID: the final state satisfies the close discipline invariant `J` (`runH_J`: every Heading under a child
  edge has its attribute or is still open; the store is a tree) and the open-block stack is empty (`runH_opened_empty`): `runG_disc` at `discH`.
-/
import GM.Proof.ConvertHWFDrv
import GM.Proof.BlocksDriverGRun

section ConvertHWFRun

namespace GM.ConvertH
open GM GM.Text GM.Blocks

theorem ndx_init (src : Bytes) (i : Nat) : ndx (initSt src) i = if i = 0 then { kind := .document } else default := by
  cases i with
  | zero => rfl
  | succ k => simp [ndx, initSt]

theorem J_init (src : Bytes) : J {} (initSt src) := by
  refine ⟨⟨fun p c hc => ?_, fun p => ?_, ?_, ?_, ?_⟩, fun p c hc => ?_, fun b hb => ?_, fun b hb => ?_⟩
  · rw [ndx_init] at hc; split at hc <;> cases hc
  · rw [ndx_init]; split <;> exact List.nodup_nil
  · rw [ndx_init]; rfl
  · simp [initSt]
  · rw [ndx_init]; rfl
  · rw [ndx_init] at hc; split at hc <;> cases hc
  · cases hb
  · cases hb

theorem runH_disc (pts : List PT) (hpts : ∀ pt ∈ pts, PTStp pt) (src : Bytes) (hs : HS) (st : St)
    (e : runH true pts src = .ok (hs, st)) : J hs st ∧ st.pc.opened = [] := by
  rw [runH_eqG] at e
  exact runG_disc (discH pts hpts) {} src (J_init src) hs st e

theorem runH_J (pts : List PT) (hpts : ∀ pt ∈ pts, PTStp pt) (src : Bytes) (hs : HS) (st : St)
    (e : runH true pts src = .ok (hs, st)) : J hs st := (runH_disc pts hpts src hs st e).1

/-- a Heading id of `treeOfH nodes fuel i` is `i` itself or the target of a child edge of the store; its node is a Heading -/
theorem headingIds_treeOfH (nodes : List Blocks.Node) : ∀ (fuel i x : Nat), x ∈ headingIds (treeOfH nodes fuel i) →
    (nodes.getD x default).kind = .heading ∧ (x = i ∨ ∃ p, x ∈ (nodes.getD p default).children)
  | 0, i, x, h => by
    simp only [treeOfH, headingIds, headingIdsL, List.append_nil] at h
    split at h
    · rename_i hk
      rw [List.mem_singleton] at h; subst h
      exact ⟨by simpa using hk, Or.inl rfl⟩
    · cases h
  | fuel + 1, i, x, h => by
    simp only [treeOfH, headingIds] at h
    rcases List.mem_append.1 h with h | h
    · split at h
      · rename_i hk
        rw [List.mem_singleton] at h; subst h
        exact ⟨by simpa using hk, Or.inl rfl⟩
      · cases h
    · -- in the subtree of a child
      have key : ∀ (l : List Nat), (∀ c ∈ l, c ∈ (nodes.getD i default).children) →
          x ∈ headingIdsL (l.map (treeOfH nodes fuel)) →
          (nodes.getD x default).kind = .heading ∧ ∃ p, x ∈ (nodes.getD p default).children := by
        intro l
        induction l with
        | nil => intro _ hx; simp [headingIdsL] at hx
        | cons c rest ih =>
          intro hl hx
          simp only [List.map, headingIdsL] at hx
          rcases List.mem_append.1 hx with hx | hx
          · obtain ⟨a, b⟩ := headingIds_treeOfH nodes fuel c x hx
            refine ⟨a, ?_⟩
            rcases b with rfl | b
            · exact ⟨i, hl _ (List.mem_cons_self ..)⟩
            · exact b
          · exact ih (fun c hc => hl c (List.mem_cons_of_mem _ hc)) hx
      obtain ⟨a, b⟩ := key _ (fun _ hc => hc) h
      exact ⟨a, Or.inr b⟩

/-- **the close discipline for Headings**: when the block phase ends with an empty open-block stack, every Heading node of
    the final tree has its attribute -/
theorem headingsClosed_of_J (hs : HS) (st : St) (j : J hs st) (ho : st.pc.opened = []) :
    headingsClosedB hs (finalTree st) = true := by
  unfold headingsClosedB finalTree
  rw [List.all_eq_true]
  intro x hx
  obtain ⟨hk, he⟩ := headingIds_treeOfH st.nodes _ 0 x hx
  have hk' : (ndx st x).kind = .heading := hk
  rcases he with rfl | ⟨p, hp⟩
  · rw [j.wf.rootKind] at hk'; cases hk'
  · rcases j.j1 p x hp hk' with a | ⟨b, hb, _⟩
    · simpa [hasA] using a
    · rw [ho] at hb; cases hb

end GM.ConvertH
end ConvertHWFRun

section ConvertHWFEnd

namespace GM.ConvertH
open GM GM.Text GM.Blocks

/-- can only answer `.next` -/
structure NX (m : MH (LineOutcome × List LineStat)) : Prop where
  h : ∀ h s x h' s', m h s = .ok ((x, h'), s') → x.1 = .next

theorem NX.throw (e : Panic) : NX (throw e) := ⟨fun _ _ _ _ _ e => by cases e⟩

theorem runH_opened_empty (pts : List PT) (hpts : ∀ pt ∈ pts, PTStp pt) (src : Bytes) (hs : HS) (st : St)
    (e : runH true pts src = .ok (hs, st)) : st.pc.opened = [] := (runH_disc pts hpts src hs st e).2

end GM.ConvertH
end ConvertHWFEnd
