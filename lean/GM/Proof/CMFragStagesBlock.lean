/-
  GM.Proof.CMFragStagesBlock — the block-level stages as members of the union fragment (stage 21): a stage-6 document
  (`KDoc`), a stage-12 document (`IDoc`) and a stage-13 document (`UDocS`) are stage-21 documents with the same blocks (a text
  line is the one-atom line `[.txt l]`; the atoms of stage 13 are mapped by `emToF`). Per embedding: spelling, prescribed
  HTML, membership, the embedded spec-model document. The conformance theorems of stages 7, 12, 13, their spec relations,
  and the quoted stages 10 / 14 / 15 / 22 are then instances of stage 21 (`fragment21_conforms`, `fragment21E_conforms`,
  `expectedF21_eq_expected`, `spellF21_eq_spell`) and of stage 21 inside `k` nested block quotes over ANY class on which
  the block-quote simulation holds (`fragment23S_conforms`).
-/
import GM.Proof.CMFragStagesText
import GM.Proof.CMFragSpec21
import GM.Proof.CMFragSpec
import GM.Proof.CMFragMain

namespace GM.Proof.CMFrag
open GM GM.Text GM.Blocks GM.Spec GM.Spec.CM GM.Spec.CMFrag

/-! ### stage 6 in stage 21 -/

/-- a text line as a stage-21 line: one text atom, no hard break -/
def txtLine (l : FLine) : FLineS21 := { atoms := [.txt l], hard := false }

def hbToF : HBlock → FBlockS21
  | .base (.para lines) => .para (lines.map txtLine)
  | .base (.heading level text) => .heading level [.txt text]
  | .base (.thematic c n) => .thematic c n
  | .fcode tilde n info lines => .fcode tilde n info lines

def kToF21 (d : KDoc) : F21Doc :=
  { items := d.items.map fun it => { sep := it.sep, block := hbToF it.block }, trail := d.trail }

theorem spellFBlock21_hbToF (b : HBlock) : spellFBlock21 (hbToF b) = spellHBlock b := by
  rcases b with (ls | _ | _) | _
  · simp [hbToF, spellFBlock21, spellHBlock, spellGBlock, txtLine, spellFLine21, spellFLineA, spellFAtom,
      List.flatMap_map]
    rfl
  · simp [hbToF, spellFBlock21, spellHBlock, spellGBlock, spellFLineA, spellFAtom]
  · rfl
  · rfl

theorem spellF21_kToF21 (d : KDoc) : spellF21 (kToF21 d) = spellK d := by
  simp [spellF21, spellK, kToF21, List.flatMap_map, spellFBlock21_hbToF]

theorem expFLines21_txt : ∀ ls : List FLine,
    expFLines21 (ls.map txtLine) = GM.Spec.CMFrag.joinNl (ls.map fun l => escHtml (plain l))
  | [] => rfl
  | [l] => by simp [expFLines21, GM.Spec.CMFrag.joinNl, txtLine, expFLineA, expFAtom]
  | l :: l' :: rest => by
    have := expFLines21_txt (l' :: rest)
    simp only [List.map_cons] at this ⊢
    rw [expFLines21, this]
    · simp [GM.Spec.CMFrag.joinNl, txtLine, expFLineA, expFAtom]
    · simp

theorem expFBlock21_hbToF (b : HBlock) : expFBlock21 (hbToF b) = expHBlock b := by
  rcases b with (ls | _ | _) | _
  · simp [hbToF, expFBlock21, expHBlock, expGBlock, expFLines21_txt]
  · simp [hbToF, expFBlock21, expHBlock, expGBlock, expFLineA, expFAtom]
  · rfl
  · rfl

theorem expectedF21_kToF21 (d : KDoc) : expectedF21 (kToF21 d) = expectedK d := by
  simp [expectedF21, expectedK, kToF21, List.flatMap_map, expFBlock21_hbToF]

theorem f21blockOKS_hbToF (b : HBlock) (h : hblockOK b = true) : f21blockOKS (hbToF b) = true := by
  rcases b with (ls | ⟨level, text⟩ | _) | _
  · simp only [hblockOK, gblockOK, Bool.and_eq_true, List.all_eq_true] at h
    have hne : ls ≠ [] := by intro e; simp [e] at h
    have hlast : f21lastSoftS (ls.map txtLine) = true := by
      unfold f21lastSoftS
      cases hg : (ls.map txtLine).getLast? with
      | none => simp [hne] at hg
      | some z =>
        obtain ⟨l, _, rfl⟩ := List.mem_map.mp (List.mem_of_getLast? hg)
        rfl
    simp only [hbToF, f21blockOKS, f21restrS, hlast, Bool.and_true, Bool.and_eq_true, List.all_eq_true]
    refine ⟨by simpa using hne, ?_⟩
    intro x hx
    obtain ⟨l, hl, rfl⟩ := List.mem_map.mp hx
    exact f21lineOKS_txt l (h.2 l hl)
  · simp only [hblockOK, gblockOK, Bool.and_eq_true] at h
    simp [hbToF, f21blockOKS, f21restrS, f21lineOKS_txt text h.2, h.1.1, h.1.2]
  · rfl
  · simpa [hbToF, f21blockOKS, hblockOK] using h

theorem isIc_hbToF (b : HBlock) : (hbToF b).isIc = false := by rcases b with (_ | _ | _) | _ <;> rfl

theorem f21abutOK_hbToF (a b : HBlock) : f21abutOK (hbToF a) (hbToF b) = kabutOK a b := by
  rcases a with (_ | _ | _) | _ <;> rcases b with (_ | _ | _) | _ <;> rfl

theorem f21sepsOK_hbToF : ∀ (prev : Option HBlock) (items : List KItem), ksepsOK prev items = true →
    f21sepsOK (prev.map hbToF) (items.map fun it => { sep := it.sep, block := hbToF it.block }) = true
  | _, [], _ => by cases ‹Option HBlock› <;> rfl
  | none, it :: rest, h => by
    simp only [ksepsOK] at h
    simpa [f21sepsOK] using f21sepsOK_hbToF (some it.block) rest h
  | some a, it :: rest, h => by
    simp only [ksepsOK, Bool.and_eq_true] at h
    have := f21sepsOK_hbToF (some it.block) rest h.2
    simp only [Option.map_some] at this
    simp only [Option.map_some, List.map_cons, f21sepsOK, f21abutOK_hbToF, isIc_hbToF, this, h.1,
      Bool.not_false, Bool.and_self]

theorem f21frag_kToF21 {d : KDoc} (h : KFrag d) : F21Frag (kToF21 d) := by
  unfold KFrag kfragB at h
  simp only [Bool.and_eq_true, List.all_eq_true] at h
  unfold F21Frag f21fragB
  simp only [Bool.and_eq_true, List.all_eq_true]
  refine ⟨?_, by simpa [kToF21] using f21sepsOK_hbToF none d.items h.2⟩
  intro x hx
  obtain ⟨it, hit, rfl⟩ := List.mem_map.mp hx
  exact f21blockOKS_hbToF it.block (h.1 it hit)

theorem noic_kToF21 (d : KDoc) : ∀ it ∈ (kToF21 d).items, it.block.isIc = false := by
  intro x hx
  obtain ⟨it, _, rfl⟩ := List.mem_map.mp hx
  exact isIc_hbToF it.block

theorem f21fragE_kToF21 {d : KDoc} (h : KFragE d) : F21FragE (kToF21 d) := by
  unfold KFragE kfragEB at h
  simp only [Bool.and_eq_true] at h
  unfold F21FragE f21fragEB
  have hl : f21lastNotIc (kToF21 d) = true := by
    unfold f21lastNotIc
    cases hg : (kToF21 d).items.getLast? with
    | none => rfl
    | some z => simp [noic_kToF21 d z (List.mem_of_getLast? hg)]
  have hf : f21fragB (kToF21 d) = true := f21frag_kToF21 h.1.1
  simp only [hf, hl, Bool.and_true, Bool.true_and, Bool.and_eq_true]
  exact ⟨by simpa [kToF21] using h.1.2, by simpa [kToF21] using h.2⟩

theorem f21embedLines_txt : ∀ ls : List FLine, f21embedLines (ls.map txtLine) = embedLines ls
  | [] => rfl
  | [l] => rfl
  | l :: l' :: rest => by
    have := f21embedLines_txt (l' :: rest)
    simp only [List.map_cons] at this ⊢
    rw [f21embedLines, this]
    · simp [embedLines, txtLine, f21embedAtom]
    · simp

theorem f21embedBlock_hbToF (a : Bool) (b : HBlock) : f21embedBlock a (hbToF b) = kembedBlock a b := by
  rcases b with (ls | _ | _) | _
  · simp [hbToF, f21embedBlock, kembedBlock, f21embedLines_txt]
  · rfl
  · rfl
  · rfl

theorem f21embed_kToF21 (d : KDoc) : f21embed (kToF21 d) = kembed d := by
  simp [f21embed, kembed, kToF21, List.map_map, Function.comp_def, f21embedBlock_hbToF]

theorem f21noExtraBlanksFrom_hbToF : ∀ (prev : Option HBlock) (items : List KItem),
    (items.all fun x => x.sep ≤ 1) = true → (prev = none → ∀ it, items.head? = some it → it.sep = 0) →
    f21noExtraBlanksFrom (prev.map hbToF) (items.map fun it => { sep := it.sep, block := hbToF it.block }) = true
  | _, [], _, _ => by cases ‹Option HBlock› <;> rfl
  | none, it :: rest, h, h0 => by
    simp only [List.all_cons, Bool.and_eq_true] at h
    have := f21noExtraBlanksFrom_hbToF (some it.block) rest h.2 (by intro e; cases e)
    simp only [Option.map_some] at this
    simp [f21noExtraBlanksFrom, this, h0 rfl it rfl]
  | some a, it :: rest, h, _ => by
    simp only [List.all_cons, Bool.and_eq_true] at h
    have := f21noExtraBlanksFrom_hbToF (some it.block) rest h.2 (by intro e; cases e)
    simp only [Option.map_some] at this
    simp [f21noExtraBlanksFrom, this, isIc_hbToF, h.1]

theorem f21noExtraBlanks_kToF21 (d : KDoc) (hb : knoExtraBlanks d = true) : f21noExtraBlanks (kToF21 d) = true := by
  unfold knoExtraBlanks at hb
  simp only [Bool.and_eq_true] at hb
  unfold f21noExtraBlanks
  simp only [kToF21, hb.1, Bool.true_and]
  cases hd : d.items with
  | nil => rfl
  | cons it rest =>
    rw [hd] at hb
    simp only [Bool.and_eq_true, beq_iff_eq] at hb
    have := f21noExtraBlanksFrom_hbToF none (it :: rest)
      (by simp only [List.all_cons, Bool.and_eq_true]; exact ⟨by simp [hb.2.1], hb.2.2⟩)
      (by intro _ x hx; simp only [List.head?_cons, Option.some.injEq] at hx; rw [← hx]; exact hb.2.1)
    simpa using this

/-- **the conformance theorem of stage 7**: a stage-6 document without its final line feed -/
theorem fragment7_conforms (d : KDoc) (h : KFragE d) (uc : List (Nat × (Bool × Bool))) :
    GM.Convert.convertCore uc cmOpts (spellKE d) = .ok (expectedK d) := by
  have := fragment21E_conforms (kToF21 d) (f21fragE_kToF21 h) uc
  rwa [spellF21E, spellF21_kToF21, expectedF21_kToF21] at this

/-- K1: the prescribed HTML of a stage-6 document is `expected` of the embedded document -/
theorem expectedK_eq_expected (d : KDoc) (h : KFrag d) : expectedK d = expected (kembed d) := by
  rw [← expectedF21_kToF21, expectedF21_eq_expected _ (f21frag_kToF21 h), f21embed_kToF21]

/-- K2: a stage-6 document without extra blank lines is spelled byte for byte like the embedded one -/
theorem spellK_eq_spell (d : KDoc) (h : KFrag d) (hb : knoExtraBlanks d = true) (hne : d.items ≠ []) :
    spellK d = spell (kembed d) := by
  rw [← spellF21_kToF21, spellF21_eq_spell _ (f21frag_kToF21 h) (f21noExtraBlanks_kToF21 d hb)
    (by simpa [kToF21] using hne), f21embed_kToF21]

theorem f21embedE_kToF21 (d : KDoc) : f21embedE (kToF21 d) = kembedE d := by
  rw [f21embedE, f21embed_kToF21]; rfl

/-- E1: the same without the final line feed (the spec-model document with the choice "no final line ending") -/
theorem expectedKE_eq_expected (d : KDoc) (h : KFragE d) : expectedK d = expected (kembedE d) := by
  rw [← expectedF21_kToF21, expectedF21E_eq_expected _ (f21fragE_kToF21 h), f21embedE_kToF21]

theorem spellKE_eq_spell (d : KDoc) (h : KFragE d) (hb : knoExtraBlanks d = true) : spellKE d = spell (kembedE d) := by
  rw [spellKE, ← spellF21_kToF21, ← spellF21E, spellF21E_eq_spell _ (f21fragE_kToF21 h) (f21noExtraBlanks_kToF21 d hb),
    f21embedE_kToF21]

/-- N1: the prescribed HTML of a stage-6 document inside `k + 1` nested block quotes -/
theorem expectedNQ_eq_expected (k : Nat) (d : KDoc) (h : KFrag d) : expectedNQ k d = expected (nqembed k d) := by
  rw [expectedNQ, expectedK_eq_expected d h]
  exact (expected_nestN (kembed d) (k + 1)).symm

/-- Q1: one block quote -/
theorem expectedQ_eq_expected (d : KDoc) (h : KFrag d) : expectedQ d = expected (qembed d) :=
  expectedNQ_eq_expected 0 d h

/-! ### stages 4 and 5 in stage 6: the spec model's "no blank line in front" choice of a first block is never looked at -/

theorem kembedBlock_false (b : HBlock) : kembedBlock false b = hembedBlock b := by
  rcases b with (_ | _ | _) | _ <;> rfl

theorem kembed_sepItems_tail : ∀ items : List HItem,
    ((sepItems false items).map fun it => kembedBlock (it.sep == 0) it.block) = items.map fun it => hembedBlock it.block
  | [] => rfl
  | it :: rest => by
    simp only [sepItems, List.map_cons, Bool.false_eq_true, if_false, kembed_sepItems_tail rest]
    rw [show (it.gap + 1 == 0) = false by simp, kembedBlock_false]

theorem expected_kembed_hToK (d : HDoc) : expected (kembed (hToK d)) = expected (hembed d) := by
  cases hd : d.items with
  | nil => simp [expected, expectedPieces, kembed, hembed, hToK, hd, sepItems]
  | cons it rest =>
    simp only [expected, expectedPieces, kembed, hembed, hToK, hd, sepItems, List.map_cons, kembed_sepItems_tail, expBs,
      Bool.false_and, expB_kembedK]

theorem spell_kembed_hToK (d : HDoc) : spell (kembed (hToK d)) = spell (hembed d) := by
  cases hd : d.items with
  | nil => simp [spell, kembed, hembed, hToK, hd, sepItems]
  | cons it rest =>
    simp only [spell, kembed, hembed, hToK, hd, sepItems, List.map_cons, kembed_sepItems_tail]
    obtain ⟨g, b⟩ := it
    rcases b with (_ | _ | _) | _ <;> simp [spellBs, kindOf, bch, spellB, kembedBlock, hembedBlock, gembedBlock]

theorem knoExtraBlanks_hToK (d : HDoc) (hb : hnoExtraBlanks d = true) : knoExtraBlanks (hToK d) = true := by
  simp only [hnoExtraBlanks, Bool.and_eq_true, beq_iff_eq, List.all_eq_true] at hb
  cases hd : d.items with
  | nil => simpa [knoExtraBlanks, hToK, hd, sepItems] using hb.1
  | cons it rest =>
    have h0 := hb.2 it (by simp [hd])
    have hr : ∀ (items : List HItem), (∀ x ∈ items, x.gap = 0) → ((sepItems false items).all fun x => decide (x.sep ≤ 1)) = true := by
      intro items
      induction items with
      | nil => intro _; rfl
      | cons x xs ih =>
        intro h
        simp only [sepItems, List.all_cons, Bool.false_eq_true, if_false, Bool.and_eq_true, decide_eq_true_eq]
        exact ⟨by rw [h x (by simp)]; omega, ih fun y hy => h y (by simp [hy])⟩
    simp only [knoExtraBlanks, hToK, hd, sepItems, if_true, hb.1, h0, beq_self_eq_true, Bool.true_and]
    exact hr rest fun x hx => hb.2 x (by simp [hd, hx])

/-- H1: the prescribed HTML of a stage-5 document is `expected` of the embedded document -/
theorem expectedH_eq_expected (d : HDoc) (h : HFrag d) : expectedH d = expected (hembed d) := by
  rw [← expectedK_hToK, expectedK_eq_expected _ (kfrag_hToK h), expected_kembed_hToK]

/-- H2: a non-empty stage-5 document without extra blank lines is spelled byte for byte like the embedded one -/
theorem spellH_eq_spell (d : HDoc) (h : HFrag d) (hb : hnoExtraBlanks d = true) (hne : d.items ≠ []) :
    spellH d = spell (hembed d) := by
  rw [← spellK_hToK, spellK_eq_spell _ (kfrag_hToK h) (knoExtraBlanks_hToK d hb)
    (by cases hd : d.items with
      | nil => exact absurd hd hne
      | cons it rest => simp [hToK, hd, sepItems]), spell_kembed_hToK]

theorem hembed_gToH (d : GDoc) : hembed (gToH d) = gembed d := by
  simp only [hembed, gembed, gToH, List.map_map, Function.comp_def, hembedBlock]

/-- G1: the prescribed HTML of a stage-4 document is `expected` of the embedded document -/
theorem expectedG_eq_expected (d : GDoc) (h : GFrag d) : expectedG d = expected (gembed d) := by
  rw [← expectedH_gToH, expectedH_eq_expected _ (hfrag_gToH h), hembed_gToH]

/-- G2: a non-empty stage-4 document without extra blank lines is spelled byte for byte like the embedded one -/
theorem spellG_eq_spell (d : GDoc) (h : GFrag d) (hb : gnoExtraBlanks d = true) (hne : d.items ≠ []) :
    spellG d = spell (gembed d) := by
  rw [← spellH_gToH, spellH_eq_spell _ (hfrag_gToH h) (by simpa [hnoExtraBlanks, gnoExtraBlanks, gToH, List.all_map] using hb)
    (by simpa [gToH] using hne), hembed_gToH]

/-! ### stages 1–3 in stage 4 -/

theorem spellGItems_toG : ∀ (first : Bool) (items : List FItem),
    spellGItems first (items.map fun it => { gap := it.gap, block := match it.block with | .para ls => .para ls }) =
      GM.Spec.CMFrag.spellItems first items
  | _, [] => rfl
  | first, ⟨g, .para ls⟩ :: rest => by
    simp only [List.map_cons, spellGItems, GM.Spec.CMFrag.spellItems, spellGBlock, GM.Spec.CMFrag.spellBlock,
      spellGItems_toG false rest]

theorem spellG_toG (d : FDoc) : spellG d.toG = spellF d := by
  simp only [spellG, spellF, FDoc.toG, spellGItems_toG]

theorem gembed_toG (d : FDoc) : gembed d.toG = embed d := by
  simp only [gembed, embed, FDoc.toG, List.map_map]
  congr 1 <;> (apply List.map_congr_left; rintro ⟨g, ⟨ls⟩⟩ _; rfl)

theorem gfrag_toG {d : FDoc} (h : Frag d) : GFrag d.toG := by
  simp only [Frag, fragB, List.all_eq_true] at h
  simp only [GFrag, gfragB, FDoc.toG, List.all_map, List.all_eq_true]
  rintro ⟨g, ⟨ls⟩⟩ hx
  exact h _ hx

/-- S2: a non-empty fragment document without extra blank lines is spelled byte for byte like the embedded one -/
theorem spellF_eq_spell (d : FDoc) (h : Frag d) (hb : noExtraBlanks d = true) (hne : d.items ≠ []) :
    spellF d = spell (embed d) := by
  rw [← spellG_toG, spellG_eq_spell _ (gfrag_toG h)
    (by simpa [gnoExtraBlanks, noExtraBlanks, FDoc.toG, List.all_map] using hb) (by simpa [FDoc.toG] using hne), gembed_toG]

/-! ### stage 12 in stage 21 -/

def ibToF : IBlock → FBlockS21
  | .h b => hbToF b
  | .icode lines => .icode lines

def iToF21 (d : IDoc) : F21Doc :=
  { items := d.items.map fun it => { sep := it.sep, block := ibToF it.block }, trail := d.trail }

theorem spellFBlock21_ibToF (b : IBlock) : spellFBlock21 (ibToF b) = spellIBlock b := by
  cases b with
  | h b => exact spellFBlock21_hbToF b
  | icode ls => rfl

theorem spellF21_iToF21 (d : IDoc) : spellF21 (iToF21 d) = spellIc d := by
  simp [spellF21, spellIc, iToF21, List.flatMap_map, spellFBlock21_ibToF]

theorem expFBlock21_ibToF (b : IBlock) : expFBlock21 (ibToF b) = expIBlock b := by
  cases b with
  | h b => exact expFBlock21_hbToF b
  | icode ls => rfl

theorem expectedF21_iToF21 (d : IDoc) : expectedF21 (iToF21 d) = expectedI d := by
  simp [expectedF21, expectedI, iToF21, List.flatMap_map, expFBlock21_ibToF]

theorem isIc_ibToF (b : IBlock) : (ibToF b).isIc = b.isIc := by
  cases b with
  | h b => exact isIc_hbToF b
  | icode _ => rfl

theorem f21abutOK_ibToF (a b : IBlock) : f21abutOK (ibToF a) (ibToF b) = iabutOK a b := by
  rcases a with ((_ | _ | _) | _) | _ <;> rcases b with ((_ | _ | _) | _) | _ <;> rfl

theorem f21blockOKS_ibToF (b : IBlock) (h : iblockOK b = true) : f21blockOKS (ibToF b) = true := by
  cases b with
  | h b => exact f21blockOKS_hbToF b h
  | icode ls => simpa [ibToF, f21blockOKS, iblockOK] using h

theorem f21sepsOK_ibToF : ∀ (prev : Option IBlock) (items : List IItem), isepsOK prev items = true →
    f21sepsOK (prev.map ibToF) (items.map fun it => { sep := it.sep, block := ibToF it.block }) = true
  | _, [], _ => by cases ‹Option IBlock› <;> rfl
  | none, it :: rest, h => by
    simp only [isepsOK] at h
    simpa [f21sepsOK] using f21sepsOK_ibToF (some it.block) rest h
  | some a, it :: rest, h => by
    simp only [isepsOK, Bool.and_eq_true] at h
    have := f21sepsOK_ibToF (some it.block) rest h.2
    simp only [Option.map_some] at this
    simp only [Option.map_some, List.map_cons, f21sepsOK, f21abutOK_ibToF, isIc_ibToF, this, h.1.1, h.1.2, Bool.and_self]

theorem f21frag_iToF21 {d : IDoc} (h : IFrag d) : F21Frag (iToF21 d) := by
  unfold IFrag ifragB at h
  simp only [Bool.and_eq_true, List.all_eq_true] at h
  unfold F21Frag f21fragB
  simp only [Bool.and_eq_true, List.all_eq_true]
  refine ⟨?_, by simpa [iToF21] using f21sepsOK_ibToF none d.items h.2⟩
  intro x hx
  obtain ⟨it, hit, rfl⟩ := List.mem_map.mp hx
  exact f21blockOKS_ibToF it.block (h.1 it hit)

theorem f21embedBlock_ibToF (a : Bool) (b : IBlock) : f21embedBlock a (ibToF b) = iembedBlock a b := by
  cases b with
  | h b => exact f21embedBlock_hbToF a b
  | icode ls => rfl

theorem f21embed_iToF21 (d : IDoc) : f21embed (iToF21 d) = iembed d := by
  simp [f21embed, iembed, iToF21, List.map_map, Function.comp_def, f21embedBlock_ibToF]

theorem f21noExtraBlanksFrom_ibToF : ∀ (prev : Option IBlock) (items : List IItem),
    f21noExtraBlanksFrom (prev.map ibToF) (items.map fun it => { sep := it.sep, block := ibToF it.block }) =
      inoExtraBlanksFrom prev items
  | _, [] => by cases ‹Option IBlock› <;> rfl
  | none, it :: rest => by
    have := f21noExtraBlanksFrom_ibToF (some it.block) rest
    simp only [Option.map_some] at this
    simp [f21noExtraBlanksFrom, inoExtraBlanksFrom, this]
  | some a, it :: rest => by
    have := f21noExtraBlanksFrom_ibToF (some it.block) rest
    simp only [Option.map_some] at this
    simp [f21noExtraBlanksFrom, inoExtraBlanksFrom, this, isIc_ibToF]

theorem f21noExtraBlanks_iToF21 (d : IDoc) : f21noExtraBlanks (iToF21 d) = inoExtraBlanks d := by
  have hm := f21noExtraBlanksFrom_ibToF none d.items
  simp only [Option.map_none] at hm
  simp [f21noExtraBlanks, inoExtraBlanks, iToF21, hm]

/-- **the conformance theorem of the stage-12 fragment** -/
theorem fragment12_conforms (d : IDoc) (h : IFrag d) (uc : List (Nat × (Bool × Bool))) :
    GM.Convert.convertCore uc cmOpts (spellIc d) = .ok (expectedI d) := by
  rw [← spellF21_iToF21, ← expectedF21_iToF21]
  exact fragment21_conforms (iToF21 d) (f21frag_iToF21 h) uc

/-- **stage 12 without the final line feed** (the last block may be an indented code block whose last line ends the
    source) -/
theorem fragment12_conforms_no_final_newline (d : IDoc) (h : IFragE d) (uc : List (Nat × (Bool × Bool))) :
    GM.Convert.convertCore uc cmOpts (spellIcE d) = .ok (expectedI d) := by
  unfold IFragE ifragEB at h
  simp only [Bool.and_eq_true, beq_iff_eq, Bool.not_eq_true', List.isEmpty_eq_false_iff] at h
  have := fragment21E_conforms_of f21InlG_holds (iToF21 d) (f21frag_iToF21 h.1.1) h.1.2 (by simpa [iToF21] using h.2) uc
  rwa [spellF21E, spellF21_iToF21, expectedF21_iToF21] at this

/-- I1: the stage-12 prescribed HTML is `expected` of the spec model on the embedded document -/
theorem expectedI_eq_expected (d : IDoc) (h : IFrag d) : expectedI d = expected (iembed d) := by
  rw [← expectedF21_iToF21, expectedF21_eq_expected _ (f21frag_iToF21 h), f21embed_iToF21]

/-- I2: a non-empty stage-12 document without extra blank lines — exactly one blank line in front of and behind every
    indented code block — is spelled byte for byte like the embedded one -/
theorem spellIc_eq_spell (d : IDoc) (h : IFrag d) (hb : inoExtraBlanks d = true) (hne : d.items ≠ []) :
    spellIc d = spell (iembed d) := by
  rw [← spellF21_iToF21, spellF21_eq_spell _ (f21frag_iToF21 h) (by rw [f21noExtraBlanks_iToF21]; exact hb)
    (by simpa [iToF21] using hne), f21embed_iToF21]

/-! ### stage 13 in stage 21 -/

def ulToF (x : ULineS) : FLineS21 := { atoms := x.atoms.map emToF, hard := x.hard }

def ubToF : UBlockS → FBlockS21
  | .para lines => .para (lines.map ulToF)
  | .heading level text => .heading level (text.map emToF)
  | .thematic c n => .thematic c n
  | .fcode tilde n info lines => .fcode tilde n info lines
  | .icode lines => .icode lines

def uToF21 (d : UDocS) : F21Doc :=
  { items := d.items.map fun it => { sep := it.sep, block := ubToF it.block }, trail := d.trail }

theorem spellFBlock21_ubToF (b : UBlockS) : spellFBlock21 (ubToF b) = spellUBlock b := by
  cases b <;> simp [ubToF, spellFBlock21, spellUBlock, ulToF, spellFLine21, spellULine, spellFLineA_emToF,
    List.flatMap_map]

theorem spellF21_uToF21 (d : UDocS) : spellF21 (uToF21 d) = spellU d := by
  simp [spellF21, spellU, uToF21, List.flatMap_map, spellFBlock21_ubToF]

theorem expFLines21_ulToF : ∀ ls : List ULineS, expFLines21 (ls.map ulToF) = expULines ls
  | [] => rfl
  | [x] => by simp [expFLines21, expULines, ulToF, expFLineA_emToF]
  | x :: y :: rest => by
    have := expFLines21_ulToF (y :: rest)
    simp only [List.map_cons] at this ⊢
    have e : expULines (x :: y :: rest) =
        expELine x.atoms ++ (if x.hard then strBytes "<br />\n" else [10]) ++ expULines (y :: rest) := by
      rw [expULines]; simp
    rw [expFLines21, this, e]
    · simp [ulToF, expFLineA_emToF]
      obtain ⟨xa, xh⟩ := x; cases xh <;> rfl
    · simp

theorem expFBlock21_ubToF (b : UBlockS) : expFBlock21 (ubToF b) = expUBlock b := by
  cases b <;> simp [ubToF, expFBlock21, expUBlock, expFLines21_ulToF, expFLineA_emToF]

theorem expectedF21_uToF21 (d : UDocS) : expectedF21 (uToF21 d) = expectedU d := by
  simp [expectedF21, expectedU, uToF21, List.flatMap_map, expFBlock21_ubToF]

theorem isIc_ubToF (b : UBlockS) : (ubToF b).isIc = b.isIc := by cases b <;> rfl

theorem f21abutOK_ubToF (a b : UBlockS) : f21abutOK (ubToF a) (ubToF b) = uabutOK a b := by
  cases a <;> cases b <;> rfl

theorem f21blockOKS_ubToF (b : UBlockS) (h : ublockOKS b = true) : f21blockOKS (ubToF b) = true := by
  cases b with
  | para ls =>
    simp only [ublockOKS, Bool.and_eq_true, List.all_eq_true] at h
    have hlast : f21lastSoftS (ls.map ulToF) = true := by
      have := h.2
      unfold ulastSoftS at this
      unfold f21lastSoftS
      rw [List.getLast?_map]
      cases hg : ls.getLast? with
      | none => simp [hg] at this
      | some z => simpa [hg, ulToF] using this
    simp only [ubToF, f21blockOKS, f21restrS, hlast, Bool.and_true, Bool.and_eq_true, List.all_eq_true]
    refine ⟨by simpa using h.1.1, ?_⟩
    intro x hx
    obtain ⟨l, hl, rfl⟩ := List.mem_map.mp hx
    exact f21lineOKS_emToF l.atoms (h.1.2 l hl)
  | heading level text =>
    simp only [ublockOKS, Bool.and_eq_true] at h
    simp [ubToF, f21blockOKS, f21restrS, f21lineOKS_emToF text h.2, h.1.1, h.1.2]
  | thematic _ _ => rfl
  | fcode _ _ _ _ => simpa [ubToF, f21blockOKS, ublockOKS] using h
  | icode _ => simpa [ubToF, f21blockOKS, ublockOKS] using h

theorem f21sepsOK_ubToF : ∀ (prev : Option UBlockS) (items : List UItem), usepsOK prev items = true →
    f21sepsOK (prev.map ubToF) (items.map fun it => { sep := it.sep, block := ubToF it.block }) = true
  | _, [], _ => by cases ‹Option UBlockS› <;> rfl
  | none, it :: rest, h => by
    simp only [usepsOK] at h
    simpa [f21sepsOK] using f21sepsOK_ubToF (some it.block) rest h
  | some a, it :: rest, h => by
    simp only [usepsOK, Bool.and_eq_true] at h
    have := f21sepsOK_ubToF (some it.block) rest h.2
    simp only [Option.map_some] at this
    simp only [Option.map_some, List.map_cons, f21sepsOK, f21abutOK_ubToF, isIc_ubToF, this, h.1.1, h.1.2, Bool.and_self]

theorem f21frag_uToF21 {d : UDocS} (h : UFrag d) : F21Frag (uToF21 d) := by
  unfold UFrag ufragB at h
  simp only [Bool.and_eq_true, List.all_eq_true] at h
  unfold F21Frag f21fragB
  simp only [Bool.and_eq_true, List.all_eq_true]
  refine ⟨?_, by simpa [uToF21] using f21sepsOK_ubToF none d.items h.2⟩
  intro x hx
  obtain ⟨it, hit, rfl⟩ := List.mem_map.mp hx
  exact f21blockOKS_ubToF it.block (h.1 it hit)

theorem f21fragE_uToF21 {d : UDocS} (h : UFragE d) : F21FragE (uToF21 d) := by
  unfold UFragE ufragEB at h
  simp only [Bool.and_eq_true] at h
  unfold F21FragE f21fragEB
  have hl : f21lastNotIc (uToF21 d) = true := by
    have := h.2
    unfold ulastNotIc at this
    unfold f21lastNotIc
    simp only [uToF21, List.getLast?_map]
    cases hg : d.items.getLast? with
    | none => rfl
    | some z => simpa [hg, isIc_ubToF] using this
  have hf : f21fragB (uToF21 d) = true := f21frag_uToF21 h.1.1.1
  simp only [hf, hl, Bool.and_true, Bool.true_and, Bool.and_eq_true]
  exact ⟨by simpa [uToF21] using h.1.1.2, by simpa [uToF21] using h.1.2⟩

theorem noic_uToF21 {d : UDocS} (h : ∀ it ∈ d.items, it.block.isIc = false) :
    ∀ it ∈ (uToF21 d).items, it.block.isIc = false := by
  intro x hx
  obtain ⟨it, hit, rfl⟩ := List.mem_map.mp hx
  rw [isIc_ubToF]; exact h it hit

theorem f21embedAtom_emToF (a : EAtomS) : f21embedAtom (emToF a) = eembedAtom a := by cases a <;> rfl

theorem f21embedLines_ulToF : ∀ ls : List ULineS, f21embedLines (ls.map ulToF) = uembedLines ls
  | [] => rfl
  | [x] => by simp [f21embedLines, uembedLines, ulToF, List.map_map, Function.comp_def, f21embedAtom_emToF]
  | x :: y :: rest => by
    have := f21embedLines_ulToF (y :: rest)
    simp only [List.map_cons] at this ⊢
    have e : uembedLines (x :: y :: rest) =
        x.atoms.map eembedAtom ++ (if x.hard then .hardBreak true 0 else .softBreak) :: uembedLines (y :: rest) := by
      rw [uembedLines]; simp
    rw [f21embedLines, this, e]
    · simp [ulToF, List.map_map, Function.comp_def, f21embedAtom_emToF]
      obtain ⟨xa, xh⟩ := x; cases xh <;> rfl
    · simp

theorem f21embedBlock_ubToF (a : Bool) (b : UBlockS) : f21embedBlock a (ubToF b) = uembedBlock a b := by
  cases b <;> simp [ubToF, f21embedBlock, uembedBlock, f21embedLines_ulToF, List.map_map, Function.comp_def,
    f21embedAtom_emToF]

theorem f21embed_uToF21 (d : UDocS) : f21embed (uToF21 d) = uembed d := by
  simp [f21embed, uembed, uToF21, List.map_map, Function.comp_def, f21embedBlock_ubToF]

theorem f21embedE_uToF21 (d : UDocS) : f21embedE (uToF21 d) = uembedE d := by
  rw [f21embedE, f21embed_uToF21]; rfl

theorem f21noExtraBlanksFrom_ubToF : ∀ (prev : Option UBlockS) (items : List UItem),
    f21noExtraBlanksFrom (prev.map ubToF) (items.map fun it => { sep := it.sep, block := ubToF it.block }) =
      unoExtraBlanksFrom prev items
  | _, [] => by cases ‹Option UBlockS› <;> rfl
  | none, it :: rest => by
    have := f21noExtraBlanksFrom_ubToF (some it.block) rest
    simp only [Option.map_some] at this
    simp [f21noExtraBlanksFrom, unoExtraBlanksFrom, this]
  | some a, it :: rest => by
    have := f21noExtraBlanksFrom_ubToF (some it.block) rest
    simp only [Option.map_some] at this
    simp [f21noExtraBlanksFrom, unoExtraBlanksFrom, this, isIc_ubToF]

theorem f21noExtraBlanks_uToF21 (d : UDocS) : f21noExtraBlanks (uToF21 d) = unoExtraBlanks d := by
  have hm := f21noExtraBlanksFrom_ubToF none d.items
  simp only [Option.map_none] at hm
  simp [f21noExtraBlanks, unoExtraBlanks, uToF21, hm]

/-- **the conformance theorem of the union fragment (stage 13)** -/
theorem fragment13_conforms (d : UDocS) (h : UFrag d) (uc : List (Nat × (Bool × Bool))) :
    GM.Convert.convertCore uc cmOpts (spellU d) = .ok (expectedU d) := by
  rw [← spellF21_uToF21, ← expectedF21_uToF21]
  exact fragment21_conforms (uToF21 d) (f21frag_uToF21 h) uc

/-- … without the final line feed (the last block is not an indented code block) -/
theorem fragment13E_conforms (d : UDocS) (h : UFragE d) (uc : List (Nat × (Bool × Bool))) :
    GM.Convert.convertCore uc cmOpts (spellUE d) = .ok (expectedU d) := by
  have := fragment21E_conforms (uToF21 d) (f21fragE_uToF21 h) uc
  rwa [spellF21E, spellF21_uToF21, expectedF21_uToF21] at this

/-- U1: the prescribed HTML of a union document is `expected` of the embedded document -/
theorem expectedU_eq_expected (d : UDocS) (h : UFrag d) : expectedU d = expected (uembed d) := by
  rw [← expectedF21_uToF21, expectedF21_eq_expected _ (f21frag_uToF21 h), f21embed_uToF21]

/-- U2: a union document without extra blank lines is spelled byte for byte like the embedded one -/
theorem spellU_eq_spell (d : UDocS) (h : UFrag d) (hb : unoExtraBlanks d = true) (hne : d.items ≠ []) :
    spellU d = spell (uembed d) := by
  rw [← spellF21_uToF21, spellF21_eq_spell _ (f21frag_uToF21 h) (by rw [f21noExtraBlanks_uToF21]; exact hb)
    (by simpa [uToF21] using hne), f21embed_uToF21]

theorem expectedUE_eq_expected (d : UDocS) (h : UFragE d) : expectedU d = expected (uembedE d) := by
  rw [← expectedF21_uToF21, expectedF21E_eq_expected _ (f21fragE_uToF21 h), f21embedE_uToF21]

theorem spellUE_eq_spell (d : UDocS) (h : UFragE d) (hb : unoExtraBlanks d = true) : spellUE d = spell (uembedE d) := by
  rw [spellUE, ← spellF21_uToF21, ← spellF21E, spellF21E_eq_spell _ (f21fragE_uToF21 h)
    (by rw [f21noExtraBlanks_uToF21]; exact hb), f21embedE_uToF21]

/-- UQ1: the prescribed HTML of a union document inside one block quote -/
theorem expectedUQ_eq_expected (d : UDocS) (h : UFrag d) : expectedUQ d = expected (uqembed d) := by
  rw [show expectedUQ d = wrapQ 1 (expectedU d) from rfl, expectedU_eq_expected d h]
  exact (expected_nestN (uembed d) 1).symm

/-! ### the quoted stages: instances of stage 21 inside nested block quotes (`fragment23S_conforms`) -/

/-- **the conformance theorem of stage 14**: a stage-6 document inside `k + 1` nested block quotes (`k = 0`: stage 10) -/
theorem fragmentNQ_conforms (H : BPFree) (k : Nat) (d : KDoc) (h : QFrag d) (uc : List (Nat × (Bool × Bool))) :
    GM.Convert.convertCore uc cmOpts (spellNQ k d) = .ok (expectedNQ k d) := by
  have := fragment23S_conforms H (k + 1) (kToF21 d) (f21frag_kToF21 (qfrag_kfrag d h)) (noic_kToF21 d)
    (fun j _ => by rw [spellF21_kToF21]; exact simOK_levelsL (qclean_class d h) j)
    (by rw [spellF21_kToF21]; exact qclean_no_bracket d h) uc
  rwa [spellF21_kToF21, expectedF21_kToF21, ← spellNQ_eq] at this

/-- **stage 22 for stage-6 documents**: the wider class `C08ClassG` (lists and blank lines allowed, no setext underline) -/
theorem fragment22_conforms_of (H : BPFree) (k : Nat) (d : KDoc) (h : GQFrag d) (uc : List (Nat × (Bool × Bool))) :
    GM.Convert.convertCore uc cmOpts (spellNQ k d) = .ok (expectedNQ k d) := by
  have := fragment23S_conforms H (k + 1) (kToF21 d) (f21frag_kToF21 (gqfrag_kfrag d h)) (noic_kToF21 d)
    (fun j _ => by rw [spellF21_kToF21]; exact simOK_quoteLinesN (fun k => (gqclean_classG_N d h k).1) j)
    (by rw [spellF21_kToF21]; exact gqclean_no_bracket d h) uc
  rwa [spellF21_kToF21, expectedF21_kToF21, ← spellNQ_eq] at this

/-- **the union fragment inside `k + 1` nested block quotes** (`k = 0`: one quote, stage 15) -/
theorem fragment13NQ_conforms (HB : BPFree) (k : Nat) (d : UDocS) (h : UQFrag d) (uc : List (Nat × (Bool × Bool))) :
    GM.Convert.convertCore uc cmOpts (quoteLinesN (k + 1) (spellU d)) = .ok (wrapQ (k + 1) (expectedU d)) := by
  have := fragment23S_conforms HB (k + 1) (uToF21 d) (f21frag_uToF21 (uqfrag_ufrag h)) (noic_uToF21 (uqfrag_noic h))
    (fun j _ => by rw [spellF21_uToF21]; exact simOK_levelsL (uqclean_class d h) j)
    (by rw [spellF21_uToF21]; exact uqclean_no_bracket d h) uc
  rwa [spellF21_uToF21, expectedF21_uToF21, ← quoteLinesN_eq] at this

/-- **stage 22 for the union fragment** (with `*` emphasis inside the quotes) -/
theorem fragment22U_conforms (HB : BPFree) (k : Nat) (d : UDocS) (h : GUQFrag d) (uc : List (Nat × (Bool × Bool))) :
    GM.Convert.convertCore uc cmOpts (quoteLinesN (k + 1) (spellU d)) = .ok (wrapQ (k + 1) (expectedU d)) := by
  have := fragment23S_conforms HB (k + 1) (uToF21 d) (f21frag_uToF21 (guqfrag_ufrag h)) (noic_uToF21 (guqfrag_noic h))
    (fun j _ => by rw [spellF21_uToF21]; exact simOK_quoteLinesN (fun k => (guqclean_classG_N d h k).1) j)
    (by rw [spellF21_uToF21]; exact guqclean_no_bracket d h) uc
  rwa [spellF21_uToF21, expectedF21_uToF21, ← quoteLinesN_eq] at this

/-- the union fragment inside a block quote: `"> "` in front of every line of `spellU d`, for a document without indented code blocks
    whose source is in the class `C08ClassL` and without `[` -/
theorem fragment13Q_conforms_of (HB : BPFree) (H : U13InlG) (d : UDocS) (h : UFrag d)
    (hnoic : ∀ it ∈ d.items, it.block.isIc = false)
    (hclass : C08ClassL (spellU d)) (hnb : ∀ b ∈ spellU d, b ≠ 91) (uc : List (Nat × (Bool × Bool))) :
    GM.Convert.convertCore uc cmOpts (quotePrefix (spellU d)) =
      .ok (strBytes "<blockquote>\n" ++ expectedU d ++ strBytes "</blockquote>\n") := by
  have := fragment23S_conforms HB 1 (uToF21 d) (f21frag_uToF21 h) (noic_uToF21 hnoic)
    (fun j hj => by
      obtain rfl : j = 0 := by omega
      rw [spellF21_uToF21]; exact simOK_L hclass)
    (by rw [spellF21_uToF21]; exact hnb) uc
  rwa [spellF21_uToF21, expectedF21_uToF21] at this

end GM.Proof.CMFrag
