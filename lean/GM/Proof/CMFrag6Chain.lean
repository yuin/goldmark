/-
  GM.Proof.CMFrag6Chain — stages 6 and 12: a block that directly follows the previous block (opened while its predecessor
  is still open), indented code blocks line by line (an open indented code block absorbs the blank lines behind it), and
  the loops of parseBlocks over a run of such blocks (`OpenPrev`, `try_first`, `abut_any`, `open_any`).
-/
import GM.Proof.CMFrag5

section CMFrag6Abut
namespace GM.Proof.CMFrag
open GM GM.Text GM.Blocks GM.Spec

theorem getD_pen (d : Blocks.Node) (rest : List Blocks.Node) (x : Blocks.Node) :
    ∀ d' tail, (d' :: ((rest ++ [x]) ++ tail)).getD (rest.length + 1) default = x := by
  intro d' tail; simp [List.getD]




/-- closeBlocks(0, 0) with two opened blocks, the first a leaf that closes without effect -/
theorem closeBlocks6_leaf (pbp : BP) (hbp : closingBP pbp) (r : Reader) (nodes : List Blocks.Node) (pi : Nat)
    (x : Blocks.Node) (hx : nodes.getD pi default = x) (hk : x.kind ≠ .paragraph) (hpar : x.parent = some 0)
    (nblk : Block) (pc : Ctx) (hop : pc.opened = [{ node := pi, bp := pbp }, nblk]) :
    closeBlocksT pts 0 0 ⟨r, nodes, pc⟩ = .ok ((), ⟨r, nodes, { pc with opened := [nblk] }⟩) := by
  have hc : bpClose pbp pi ⟨r, nodes, pc⟩ = .ok ((), ⟨r, nodes, pc⟩) := by
    rcases hbp with h | h <;> subst h <;> rfl
  exact closeBlocks_first r nodes pc { node := pi, bp := pbp } [nblk] hop 0 (by rw [hx]; exact hpar)
    (fun h => absurd (by rw [hx] at h; exact h) hk) _ hc

section closePara
variable {src : Bytes} {p : Nat} {ls : List Bytes}

/-- closeBlocks(0, 0) with two opened blocks, the first the fragment paragraph -/
theorem closeBlocks6_para (hne : ls ≠ []) (h : ParaAt src p ls) (hb : ∀ l ∈ ls, BlkLine l)
    (r : Reader) (hr : r.source = src) (nodes : List Blocks.Node) (pi : Nat) (b : Bool) (hpi : pi < nodes.length)
    (hx : nodes.getD pi default = paraN (openSegs p ls) b) (nblk : Block) (pc : Ctx)
    (hop : pc.opened = [{ node := pi, bp := .paragraph }, nblk]) :
    closeBlocksT pts 0 0 ⟨r, nodes, pc⟩ =
      .ok ((), ⟨r, nodes.set pi (paraN (paraSegs p ls) b), { pc with opened := [nblk] }⟩) := by
  obtain ⟨init, q, l, hmem, h1, h2, h3⟩ := segs_snoc ls p hne h
  have hcl := paragraphClose_segs init _ _ (h1 ▸ trimLeftAll_open ls p h hb) (trimRight_line [10] (Or.inl rfl) h3 (hb l hmem)) r hr nodes pi b
    hpi (h1 ▸ hx) pc
  rw [← h2] at hcl
  exact closeBlocks_first r nodes pc { node := pi, bp := .paragraph } [nblk] hop 0 (by rw [hx]; rfl)
    (fun _ => guardedTransform_decl _ (wf0B_open ls p hne h) (by rw [h1]; simp) (transformScan_open ls p hne h hb) r hr
      nodes pi b hx pc) _ hcl
end closePara

section abut
variable {src : Bytes} {p e : Nat} {v : Bytes}

/-- the first line of a block directly behind the open block `x` (parser `pbp`): unless `x` is a paragraph `Continue` of
    `pbp` answers Close, the parser loop opens the new block, then `closeBlocks` closes `x`. The line is indented by `w`
    columns / `posN` bytes; `S' bk` = the state the parser loop leaves (`bk` = the blank-line flag of the new node),
    `N' bk` = the nodes once `x` is closed -/
theorem lineLoop6 (hl : Ln src p e v) (w : Int) (posN : Nat) (hposlt : posN < v.length)
    (c00 c0 : UInt8) (hidx0 : idx v 0 = .ok c00) (h10 : (c00 == 10) = false) (hidx : idx v (posN : Int) = .ok c0)
    (hiw : indentWidthI v 0 = (w, (posN : Int))) (pbp : BP) (k : Int) (d : Blocks.Node)
    (rest : List Blocks.Node) (x : Blocks.Node) (pc : Ctx)
    (hop : pc.opened = [{ node := rest.length + 1, bp := pbp }]) (bl : List LineStat) (lo : Int) (hlo : lo = -1 ∨ lo = 0)
    (hcont : x.kind ≠ .paragraph →
      bpContinue pbp (rest.length + 1) ⟨rdr src k p p e (some v) (-1), d :: (rest ++ [x]), pc⟩ =
        .ok (stClose, ⟨rdr src k p p e (some v) lo, d :: (rest ++ [x]), pc⟩))
    (hpara : x.kind = .paragraph → lo = -1)
    (nblk : Block) (S' : Bool → St) (N' : Bool → List Blocks.Node)
    (hS'o : ∀ bk, (S' bk).pc.opened = [{ node := rest.length + 1, bp := pbp }, nblk])
    (hclose : ∀ bk, closeBlocksT pts 0 0 (S' bk) = .ok ((), ⟨(S' bk).r, N' bk, { (S' bk).pc with opened := [nblk] }⟩))
    (htry : ∀ bk, tryParsersT pts 0 bk (x.kind == .paragraph) w ((triggered c0).getD freeParsers) .noBlocksOpened
        pc.opened.getLast?
        ⟨rdr src k p p e (some v) 0, d :: (rest ++ [x]), { pc with blockOffset := (posN : Int), blockIndent := w }⟩ =
      .ok ((.done, .newBlocksOpened, pc.opened.getLast?), S' bk)) :
    ∃ bk, lineLoopT pts 0 [{ node := rest.length + 1, bp := pbp }] 0 [{ node := rest.length + 1, bp := pbp }] 0 bl
        ⟨rdr src k p p e none (-1), d :: (rest ++ [x]), pc⟩ =
      .ok ((.next, bl ++ [{ lineNum := k, level := 0, isBlank := isBlank v }]),
        ⟨(S' bk).r, N' bk, { (S' bk).pc with opened := [nblk] }⟩) := by
  have hp : p < src.length := by have := hl.le; have := hl.lt; omega
  refine ⟨isBlankLine (k - 1) 0 (bl ++ [{ lineNum := k, level := 0, isBlank := isBlank v }]), ?_⟩
  generalize hbk : isBlankLine (k - 1) 0 (bl ++ [{ lineNum := k, level := 0, isBlank := isBlank v }]) = bk
  have hob := openBlocks_of_try hl w posN hposlt c00 c0 hidx0 h10 hidx hiw pts k (d :: (rest ++ [x])) pc bk (some v)
    (Or.inr rfl) lo hlo (x.kind == .paragraph) (by rw [hop, List.getLast?_singleton]; simp only [getD_last]) (S' bk) (htry bk)
  have hsl : slotAfter [{ node := rest.length + 1, bp := pbp }] (S' bk).pc.opened 0 =
      some { node := rest.length + 1, bp := pbp } := by
    rw [hS'o bk]; rfl
  rw [lineLoopT]
  simp only [bind_apply, peekLine_fresh hl.sub hp (Nat.le_of_lt hl.lt) hl.le, position_run, getNode_run, getD_last]
  by_cases hk : x.kind = .paragraph
  · have hk' : (x.kind != .paragraph) = false := by simp [hk]
    rw [hpara hk] at hob
    simp only [hk', Bool.false_eq_true, if_false, liftE_ok, rdr_line, pure_apply, bind_apply, blockAt, Bool.not_true,
      bne_self_eq_false, hbk]
    simp [liftE_ok, hob, getPc_run, bind_apply, map_apply, hsl, hclose bk, pure_apply]
  · have hk' : (x.kind != .paragraph) = true := by simp [hk]
    simp only [hk', if_true, hcont hk, stClose, liftE_ok, rdr_line, pure_apply, bind_apply, blockAt, Bool.false_eq_true,
      if_false, Bool.not_true, bne_self_eq_false, hbk]
    simp [liftE_ok, hob, getPc_run, bind_apply, map_apply, hsl, hclose bk, pure_apply]
end abut

end GM.Proof.CMFrag
end CMFrag6Abut

/-
  section CMFrag12Code — stage 12 (indented code blocks): code_block.go on the lines of a fragment document, as
  equations on explicit states: `codeOpen` on a line indented by four spaces (nothing open, or a leaf block open that
  closes on this line), `codeContinue` on a further indented line / on a blank line (appended) / on an unindented text
  line (declines: the block will be closed), `codeClose` (the trailing blank lines are removed again).
-/
section CMFrag12Code
namespace GM.Proof.CMFrag
open GM GM.Text GM.Blocks GM.Spec

theorem space_facts : ∀ c : UInt8, isSpace c = false → (c == 32) = false ∧ (c == 9) = false ∧ (c == 10) = false :=
  GM.forall_uint8 _ (by decide +kernel)

/-- behind four columns of indentation only the code block parser is asked -/
def skipInd (bps : List BP) : List BP := bps.dropWhile fun bp => !bp.canAcceptIndentedLine

theorem skipInd_triggered : ∀ c : UInt8, skipInd ((triggered c).getD freeParsers) = [.code, .paragraph] :=
  GM.forall_uint8 _ (by decide +kernel)

theorem try_skipInd (parent : Nat) (blank cont : Bool) (result : OpenResult) (lastBlock : Option Block) (s : St) :
    ∀ bps : List BP, tryParsersT pts parent blank cont 4 bps result lastBlock s =
      tryParsersT pts parent blank cont 4 (skipInd bps) result lastBlock s := by
  intro bps
  induction bps with
  | nil => rfl
  | cons bp bps ih =>
    cases h : bp.canAcceptIndentedLine with
    | true => simp [skipInd, List.dropWhile, h]
    | false =>
      have e : skipInd (bp :: bps) = skipInd bps := by simp [skipInd, List.dropWhile, h]
      rw [e, ← ih, tryParsersT]
      by_cases hc : (cont && result == .noBlocksOpened && !bp.canInterruptParagraph) = true
      · simp [hc]
      · simp [hc, h]

theorem sub_shift {src : Bytes} {p e : Nat} {a w : Bytes} (h : sub src p e = a ++ w) :
    sub src (p + a.length) e = w := by
  unfold sub at *
  have e1 : List.drop (p + a.length) src = List.drop a.length (List.drop p src) := by
    rw [List.drop_drop]
  have e2 : e - (p + a.length) = (e - p) - a.length := by omega
  rw [e1, e2, ← List.drop_take, h]
  simp

section code
variable {src : Bytes} {p e : Nat} {v : Bytes} {c : UInt8} {t : Bytes}

theorem ic_indent (hc : isSpace c = false) : indentPosition (ind4 ++ c :: t) 0 4 = (4, 0) := by
  obtain ⟨h32, h9, _⟩ := space_facts c hc
  simp [indentPosition, indentPositionPadding, ippLoop, ind4, h32, h9]

theorem ic_width (hc : isSpace c = false) : indentWidthI (ind4 ++ c :: t) 0 = (4, 4) := by
  obtain ⟨h32, h9, _⟩ := space_facts c hc
  unfold GM.Blocks.indentWidthI
  simp [GM.Blocks.indentWidthGo, ind4, h32, h9]

theorem ic_notBlank (hc : isSpace c = false) : isBlank (ind4 ++ c :: t) = false := by
  simp [isBlank, ind4, hc]

/-- the common tail of Open / Continue on a line indented by four spaces: the rest of the line is appended -/
theorem codeTake_ic (hl : Ln src p e v) (hv : v = ind4 ++ c :: t) (k : Int) (lo : Int) (d : Blocks.Node)
    (rest : List Blocks.Node) (x : Blocks.Node) (pc : Ctx) :
    codeTakeLine (rest.length + 1) 4 0 ⟨rdr src k p p e (some v) lo, d :: (rest ++ [x]), pc⟩ =
      .ok ((), ⟨rdr src k p (e - 1) e none (-1),
        d :: (rest ++ [{ x with lines := x.lines ++ [csg (p + 4) e], linesNil := false }]), pc⟩) := by
  have hlen := hl.len
  have hlt := hl.lt
  have hle := hl.le
  have hvl : v.length = t.length + 5 := by rw [hv]; simp [ind4]
  have hsub : sub src (p + 4) e = c :: t := by
    have := sub_shift (src := src) (p := p) (e := e) (a := ind4) (w := c :: t) (by rw [hl.sub, hv])
    simpa [ind4] using this
  unfold codeTakeLine
  simp only [bind_apply]
  rw [stAdvancePad_fast (m := 4) (by rfl) (by omega)]
  simp only [peekLine_fresh hsub (by omega) (by omega) hle]
  have hpad : ((sg (p + 4) e).padding != 0) = false := rfl
  simp only [hpad, Bool.false_eq_true, if_false, pure_apply, bind_apply, appendLine, modNode_run, getD_last, set_last]
  rw [stAdvance_fast (m := e - p - 5) (by simp [Segment.len, sg]; omega) (by simp; omega)]
  have e3 : p + 4 + (e - p - 5) = e - 1 := by omega
  simp [sg, csg, e3]

/-- codeBlockParser.Open on a line indented by four spaces (already peeked) -/
theorem codeOpen_ic (hl : Ln src p e v) (hv : v = ind4 ++ c :: t) (hc : isSpace c = false) (k : Int) (d : Blocks.Node)
    (rest' : List Blocks.Node) (pc : Ctx) (parent : Nat) :
    codeOpen parent ⟨rdr src k p p e (some v) 0, d :: rest', pc⟩ =
      .ok ((some (rest'.length + 1), stNoChildren),
        ⟨rdr src k p (e - 1) e none (-1),
          d :: (rest' ++ [{ kind := .codeBlock, lines := [csg (p + 4) e], linesNil := false }]), pc⟩) := by
  have hp : p < src.length := by have := hl.le; have := hl.lt; omega
  have hi : indentPosition v 0 4 = (4, 0) := by rw [hv]; exact ic_indent hc
  have hb : isBlank v = false := by rw [hv]; exact ic_notBlank hc
  unfold codeOpen
  simp only [bind_apply, peekLine_cached hp, lineOffset_cached, Option.getD_some, hi, hb, newNode_run]
  simp only [show ¬ ((4 : Int) < 0) from by decide, decide_false, Bool.or_self, Bool.false_eq_true, if_false, bind_apply,
    newNode_run, List.cons_append, List.length_cons]
  rw [codeTake_ic hl hv k 0 d rest' { kind := .codeBlock } pc]
  simp [pure_apply]

/-- the parser loop on a line indented by four spaces, whatever is open: a CodeBlock is opened -/
theorem try_ic (hl : Ln src p e v) (hv : v = ind4 ++ c :: t) (hc : isSpace c = false)
    (k : Int) (d : Blocks.Node) (rest : List Blocks.Node) (pc : Ctx) (hprev : PrevKept (d :: rest) pc) (blank : Bool)
    (lb : Option Block) :
    tryParsersT pts 0 blank false 4 ((triggered c).getD freeParsers) .noBlocksOpened lb
        ⟨rdr src k p p e (some v) 0, d :: rest, pc⟩ =
      .ok ((.done, .newBlocksOpened, pc.opened.getLast?),
        ⟨rdr src k p (e - 1) e none (-1),
          { d with children := d.children ++ [rest.length + 1] } :: (rest ++ [codeN [csg (p + 4) e] blank]),
          { pc with opened := pc.opened ++ [{ node := rest.length + 1, bp := .code }] }⟩) := by
  rw [try_skipInd, skipInd_triggered]
  exact tryParsersT_hit (bp := .code) (Or.inl rfl) (Or.inr rfl) (codeOpen_ic hl hv hc k d rest pc 0) rfl rfl rfl hprev

/-- codeBlockParser.Continue on a further line indented by four spaces (already peeked) -/
theorem codeContinue_ic (hl : Ln src p e v) (hv : v = ind4 ++ c :: t) (hc : isSpace c = false) (k : Int) (d : Blocks.Node)
    (rest : List Blocks.Node) (lines : List Segment) (b : Bool) (pc : Ctx) :
    codeContinue (rest.length + 1) ⟨rdr src k p p e (some v) (-1), d :: (rest ++ [codeN lines b]), pc⟩ =
      .ok (stContinueNoChildren,
        ⟨rdr src k p (e - 1) e none (-1), d :: (rest ++ [codeN (lines ++ [csg (p + 4) e]) b]), pc⟩) := by
  have hp : p < src.length := by have := hl.le; have := hl.lt; omega
  have hi : indentPosition v 0 4 = (4, 0) := by rw [hv]; exact ic_indent hc
  have hb : isBlank v = false := by rw [hv]; exact ic_notBlank hc
  unfold codeContinue
  simp only [bind_apply, peekLine_cached hp, Option.getD_some, hb, Bool.false_eq_true, if_false, lineOffset_fresh, hi]
  simp only [show ¬ ((4 : Int) < 0) from by decide, if_false, bind_apply]
  rw [codeTake_ic hl hv k 0 d rest (codeN lines b) pc]
  simp [pure_apply, codeN]

/-- codeBlockParser.Continue on a text line that is not indented: the block ends -/
theorem codeContinue_other (hl : Ln src p e v) (hv : v = c :: t) (hc : isSpace c = false) (k : Int)
    (nodes : List Blocks.Node) (pc : Ctx) (node : Nat) :
    codeContinue node ⟨rdr src k p p e (some v) (-1), nodes, pc⟩ =
      .ok (stClose, ⟨rdr src k p p e (some v) 0, nodes, pc⟩) := by
  obtain ⟨h32, h9, _⟩ := space_facts c hc
  have hp : p < src.length := by have := hl.le; have := hl.lt; omega
  have hi : indentPosition v 0 4 = (-1, -1) := by
    subst hv
    simp [indentPosition, indentPositionPadding, ippLoop, h9, h32]
  have hb : isBlank v = false := by subst hv; simp [isBlank, hc]
  unfold codeContinue
  simp only [bind_apply, peekLine_cached hp, Option.getD_some, hb, Bool.false_eq_true, if_false, lineOffset_fresh, hi]
  simp [pure_apply]

/-- codeBlockParser.Continue on a blank line: the line is appended -/
theorem codeContinue_blank {q : Nat} (hl : Ln src q (q + 1) [10]) (k : Int) (d : Blocks.Node)
    (rest : List Blocks.Node) (lines : List Segment) (b : Bool) (pc : Ctx) :
    codeContinue (rest.length + 1) ⟨rdr src k q q (q + 1) (some [10]) (-1), d :: (rest ++ [codeN lines b]), pc⟩ =
      .ok (stContinueNoChildren,
        ⟨rdr src k q q (q + 1) (some [10]) (-1), d :: (rest ++ [codeN (lines ++ [sg q (q + 1)]) b]), pc⟩) := by
  have hp : q < src.length := by have := hl.le; omega
  have hle := hl.le
  have hb : isBlank [10] = true := by decide
  have c2 : (0 ≤ (q : Int) ∧ (q : Int) ≤ ((q : Int) + 1) ∧ ((q : Int) + 1) ≤ (src.length : Int)) := by omega
  have hsub : sub src q (q + 1) = [10] := hl.sub
  have htl : (sg q (q + 1)).trimLeftSpaceWidth 4 src = .ok (sg q (q + 1)) := by
    simp [Segment.trimLeftSpaceWidth, tlswPad, sg, sliceB, c2, hsub, tlswLoop, bind, Except.bind, pure, Except.pure]
  unfold codeContinue
  simp only [bind_apply, peekLine_cached hp, Option.getD_some, hb, if_true, source_run, rdr_source, htl, liftE_ok,
    appendLine, modNode_run, getD_last, set_last]
  simp [pure_apply, codeN]

end code

/-- the value of the segment is a blank / a non-blank line -/
def BlankSeg (src : Bytes) (s : Segment) : Prop := ∃ v, s.value src = .ok v ∧ isBlank v = true
def FullSeg (src : Bytes) (s : Segment) : Prop := ∃ v, s.value src = .ok v ∧ isBlank v = false

theorem lineAt_mid (A : List Segment) (s : Segment) (B : List Segment) :
    lineAt (A ++ [s] ++ B) (A.length : Int) = .ok s := by
  have c : ¬ ((A.length : Int) < 0) := by omega
  simp [lineAt, segAt, c]

theorem codeTrim_blanks (src : Bytes) (A : List Segment) (s : Segment) (hs : FullSeg src s) :
    ∀ (n : Nat) (B : List Segment), B.length = n → (∀ t ∈ B, BlankSeg src t) →
      codeTrimLoop src (A ++ [s] ++ B) (A.length + 1 + n) = .ok (A.length : Int) := by
  intro n
  induction n with
  | zero =>
    intro B hB _
    have : B = [] := List.eq_nil_of_length_eq_zero hB
    subst this
    obtain ⟨v, hv, hb⟩ := hs
    have := lineAt_mid A s []
    simp only [List.append_nil] at this ⊢
    simp only [codeTrimLoop, Nat.add_zero, this, hv, hb, bind, Except.bind, pure, Except.pure]
    simp
  | succ n ih =>
    intro B hB hall
    obtain ⟨B', t, rfl⟩ : ∃ B' t, B = B' ++ [t] := by
      cases h : B.reverse with
      | nil => simp at h; subst h; simp at hB
      | cons t r => exact ⟨r.reverse, t, by rw [← List.reverse_reverse B, h]; simp⟩
    have hB' : B'.length = n := by simp at hB; omega
    obtain ⟨v, hv, hb⟩ := hall t (by simp)
    have e1 : A.length + 1 + (n + 1) = (A.length + 1 + n) + 1 := by omega
    have hat : lineAt (A ++ [s] ++ (B' ++ [t])) ((A.length + 1 + n : Nat) : Int) = .ok t := by
      have c : ¬ (((A.length + 1 + n : Nat) : Int) < 0) := by omega
      have e2 : A ++ [s] ++ (B' ++ [t]) = (A ++ [s] ++ B') ++ [t] := by simp
      have e3 : (A ++ [s] ++ B').length = A.length + 1 + n := by simp [hB']; omega
      simp only [lineAt, segAt, c, if_false, Int.toNat_natCast, e2]
      rw [List.getElem?_append_right (by omega), e3]
      simp
    rw [e1, codeTrimLoop]
    simp only [hat, hv, hb, bind, Except.bind, if_true]
    have e4 : A ++ [s] ++ (B' ++ [t]) = (A ++ [s] ++ B') ++ [t] := by simp
    have := ih B' hB' (fun u hu => hall u (by simp [hu]))
    -- the loop below index `A.length + 1 + n` never looks at the last segment
    have hmono : ∀ (m : Nat), m ≤ A.length + 1 + n →
        codeTrimLoop src ((A ++ [s] ++ B') ++ [t]) m = codeTrimLoop src (A ++ [s] ++ B') m := by
      intro m
      induction m with
      | zero => intro _; rfl
      | succ m ihm =>
        intro hm
        have e3 : (A ++ [s] ++ B').length = A.length + 1 + n := by simp [hB']; omega
        have c : ¬ (((m : Nat) : Int) < 0) := by omega
        have hl : lineAt ((A ++ [s] ++ B') ++ [t]) (m : Int) = lineAt (A ++ [s] ++ B') (m : Int) := by
          simp only [lineAt, segAt, c, if_false, Int.toNat_natCast]
          rw [List.getElem?_append_left (by omega)]
        simp only [codeTrimLoop, hl, ihm (by omega)]
    rw [e4, hmono _ (Nat.le_refl _)]
    exact this

/-- codeBlockParser.Close on a CodeBlock whose last lines `B` are blank -/
theorem codeClose_at {src : Bytes} (r : Reader) (hr : r.source = src) (nodes : List Blocks.Node) (pi : Nat)
    (A : List Segment) (s : Segment) (B : List Segment) (b : Bool)
    (hx : nodes.getD pi default = codeN (A ++ [s] ++ B) b) (hs : FullSeg src s) (hB : ∀ t ∈ B, BlankSeg src t) (pc : Ctx) :
    codeClose pi ⟨r, nodes, pc⟩ = .ok ((), ⟨r, nodes.set pi (codeN (A ++ [s]) b), pc⟩) := by
  have ht := codeTrim_blanks src A s hs B.length B rfl hB
  have el : (A ++ [s] ++ B).length = A.length + 1 + B.length := by simp; omega
  unfold codeClose
  simp only [bind_apply, getNode_run, hx, source_run, hr, codeN, el, ht, liftE_ok, Bool.false_and, Bool.false_eq_true,
    if_false, modNode_run, pure_apply]
  have e1 : ((A.length : Int) + 1).toNat = A.length + 1 := by omega
  have e2 : List.take (A.length + 1) (A ++ s :: B) = A ++ [s] := by
    have : A ++ s :: B = (A ++ [s]) ++ B := by simp
    rw [this, List.take_left' (by simp)]
  simp [e1, e2]

/-- closeBlocks(0, 0) with the CodeBlock the only opened block -/
theorem closeBlocks_code {src : Bytes} (r : Reader) (hr : r.source = src) (d : Blocks.Node) (rest : List Blocks.Node)
    (A : List Segment) (s : Segment) (B : List Segment) (b : Bool) (hs : FullSeg src s) (hB : ∀ t ∈ B, BlankSeg src t)
    (pc : Ctx) (hop : pc.opened = [{ node := rest.length + 1, bp := .code }]) :
    closeBlocksT pts 0 0 ⟨r, d :: (rest ++ [codeN (A ++ [s] ++ B) b]), pc⟩ =
      .ok ((), ⟨r, d :: (rest ++ [codeN (A ++ [s]) b]), { pc with opened := [] }⟩) := by
  exact closeBlocks_first r _ pc { node := rest.length + 1, bp := .code } [] hop 0 (by rw [getD_last]; rfl)
    (fun h => by rw [getD_last] at h; cases h) _
    (codeClose_at r hr (d :: (rest ++ [codeN (A ++ [s] ++ B) b])) (rest.length + 1) A s B b (getD_last ..) hs hB pc) |>.trans
      (by rw [set_last])

/-- closeBlocks(0, 0) with two opened blocks, the first the CodeBlock -/
theorem closeBlocks6_code {src : Bytes} (r : Reader) (hr : r.source = src) (nodes : List Blocks.Node) (pi : Nat)
    (A : List Segment) (s : Segment) (B : List Segment) (b : Bool)
    (hx : nodes.getD pi default = codeN (A ++ [s] ++ B) b) (hs : FullSeg src s) (hB : ∀ t ∈ B, BlankSeg src t)
    (nblk : Block) (pc : Ctx) (hop : pc.opened = [{ node := pi, bp := .code }, nblk]) :
    closeBlocksT pts 0 0 ⟨r, nodes, pc⟩ =
      .ok ((), ⟨r, nodes.set pi (codeN (A ++ [s]) b), { pc with opened := [nblk] }⟩) := by
  exact closeBlocks_first r nodes pc { node := pi, bp := .code } [nblk] hop 0 (by rw [hx]; rfl)
    (fun h => by rw [hx] at h; cases h) _ (codeClose_at r hr nodes pi A s B b hx hs hB pc)

section segs
variable {src : Bytes}

theorem blankSeg_of {q : Nat} (hl : Ln src q (q + 1) [10]) : BlankSeg src (sg q (q + 1)) := by
  have hle := hl.le
  have c2 : (0 ≤ (q : Int) ∧ (q : Int) ≤ ((q : Int) + 1) ∧ ((q : Int) + 1) ≤ (src.length : Int)) := by omega
  have hsub : sub src q (q + 1) = [10] := hl.sub
  refine ⟨[10], ?_, by decide⟩
  simp [Segment.value, sg, sliceB, c2, hsub, needsNewline, bind, Except.bind, pure, Except.pure]

theorem blankSegs_blank : ∀ (j q : Nat), BlanksAt src q j → ∀ t ∈ blankSegs q j, BlankSeg src t
  | 0, _, _, t, ht => by simp [blankSegs] at ht
  | j + 1, q, h, t, ht => by
    simp only [blankSegs, List.mem_cons] at ht
    rcases ht with rfl | ht
    · exact blankSeg_of h.1
    · exact blankSegs_blank j (q + 1) h.2 t ht

theorem blankSegs_snoc : ∀ (j q : Nat), blankSegs q (j + 1) = blankSegs q j ++ [sg (q + j) (q + j + 1)]
  | 0, q => by simp [blankSegs]
  | j + 1, q => by
    have ih := blankSegs_snoc j (q + 1)
    have e : q + 1 + j = q + (j + 1) := by omega
    rw [blankSegs, ih, e]; rfl

theorem blanksAt_snoc : ∀ (j q : Nat), BlanksAt src q j → Ln src (q + j) (q + j + 1) [10] → BlanksAt src q (j + 1)
  | 0, q, _, h => ⟨by simpa using h, trivial⟩
  | j + 1, q, hb, h => by
    have e : q + 1 + j = q + (j + 1) := by omega
    exact ⟨hb.1, blanksAt_snoc j (q + 1) hb.2 (by rw [e]; exact h)⟩

theorem fullSeg_ic {p : Nat} {l : Bytes} (hl : Ln src p (p + (ind4 ++ l).length + 1) ((ind4 ++ l) ++ [10])) (hg : IcLine l) :
    FullSeg src (csg (p + 4) (p + 4 + l.length + 1)) := by
  obtain ⟨c, t, rfl, hc⟩ := hg.first
  have hle := hl.le
  have hlen : (ind4 ++ c :: t).length = t.length + 5 := by simp [ind4]
  rw [hlen] at hl hle
  have hsub : sub src (p + 4) (p + (t.length + 5) + 1) = c :: (t ++ [10]) := by
    have := sub_shift (src := src) (p := p) (e := p + (t.length + 5) + 1) (a := ind4) (w := c :: (t ++ [10]))
      (by rw [hl.sub]; simp)
    simpa [ind4] using this
  have e : p + 4 + (c :: t).length + 1 = p + (t.length + 5) + 1 := by simp; omega
  rw [e]
  refine ⟨c :: (t ++ [10]), ?_, by simp [isBlank, hc]⟩
  exact seg_value_nat src (p + 4) (p + (t.length + 5) + 1) true (c :: (t ++ [10])) hsub (by omega) hle
    (fun _ => by
      have : c :: (t ++ [10]) = (c :: t) ++ [10] := rfl
      rw [this, List.getLast?_append]; rfl)

theorem icsegs_split : ∀ (ls : List Bytes) (P : Nat), ls ≠ [] → ParaAt src P (icLines ls) → (∀ l ∈ ls, IcLine l) →
    ∃ A s, icsegs P ls = A ++ [s] ∧ FullSeg src s
  | [], _, h, _, _ => absurd rfl h
  | [l], P, _, hpa, hg => ⟨[], _, rfl, fullSeg_ic hpa.1 (hg l (by simp))⟩
  | l :: l' :: rest, P, _, hpa, hg => by
    have e : P + (ind4 ++ l).length + 1 = P + 4 + l.length + 1 := by simp [ind4]; omega
    obtain ⟨A, s, h1, h2⟩ := icsegs_split (l' :: rest) (P + 4 + l.length + 1) (by simp)
      (by have := hpa.2; rw [e] at this; exact this) (fun x hx => hg x (by simp [hx]))
    exact ⟨csg (P + 4) (P + 4 + l.length + 1) :: A, s, by rw [icsegs, h1]; rfl, h2⟩

theorem icLines_snoc_len (ls : List Bytes) (l : Bytes) :
    (paraBytes (icLines (ls ++ [l]))).length = (paraBytes (icLines ls)).length + 4 + l.length + 1 := by
  simp [icLines, paraBytes, ind4]; omega

theorem icsegs_append (p : Nat) (ls : List Bytes) (l : Bytes) :
    icsegs p (ls ++ [l]) = icsegs p ls ++
      [csg (p + (paraBytes (icLines ls)).length + 4) (p + (paraBytes (icLines ls)).length + 4 + l.length + 1)] := by
  induction ls generalizing p with
  | nil => simp [icsegs, paraBytes, icLines]
  | cons a rest ih =>
    have e : p + 4 + a.length + 1 + (paraBytes (icLines rest)).length = p + (paraBytes (icLines (a :: rest))).length := by
      simp [icLines, paraBytes, ind4]; omega
    simp only [List.cons_append, icsegs, ih, e]
end segs

section codeLoop
variable {src : Bytes} {p e : Nat} {v : Bytes} {c : UInt8} {t : Bytes}

theorem lineLoop_code_cont (hl : Ln src p e v) (hv : v = ind4 ++ c :: t) (hc : isSpace c = false) (k : Int)
    (d : Blocks.Node) (rest : List Blocks.Node) (lines : List Segment) (b : Bool) (pc : Ctx)
    (bl : List LineStat) :
    lineLoopT pts 0 [{ node := rest.length + 1, bp := .code }] 0 [{ node := rest.length + 1, bp := .code }] 0 bl
        ⟨rdr src k p p e none (-1), d :: (rest ++ [codeN lines b]), pc⟩ =
      .ok ((.next, bl ++ [{ lineNum := k, level := 0, isBlank := isBlank v }]),
        ⟨rdr src k p (e - 1) e none (-1), d :: (rest ++ [codeN (lines ++ [csg (p + 4) e]) b]), pc⟩) := by
  have hp : p < src.length := by have := hl.le; have := hl.lt; omega
  have hk : ((codeN lines b).kind != .paragraph) = true := rfl
  rw [lineLoopT]
  simp only [bind_apply, peekLine_fresh hl.sub hp (Nat.le_of_lt hl.lt) hl.le, position_run, getNode_run, getD_last, hk,
    if_true, bpContinue, codeContinue_ic hl hv hc k d rest lines b pc]
  simp [stContinueNoChildren, lineLoopT, pure_apply]

/-- a blank line: it is appended, the block stays open -/
theorem lineLoop_code_blank {q : Nat} (hl : Ln src q (q + 1) [10]) (k : Int)
    (d : Blocks.Node) (rest : List Blocks.Node) (lines : List Segment) (b : Bool) (pc : Ctx) (bl : List LineStat) :
    lineLoopT pts 0 [{ node := rest.length + 1, bp := .code }] 0 [{ node := rest.length + 1, bp := .code }] 0 bl
        ⟨rdr src k q q (q + 1) none (-1), d :: (rest ++ [codeN lines b]), pc⟩ =
      .ok ((.next, bl ++ [{ lineNum := k, level := 0, isBlank := true }]),
        ⟨rdr src k q q (q + 1) (some [10]) (-1), d :: (rest ++ [codeN (lines ++ [sg q (q + 1)]) b]), pc⟩) := by
  have hp : q < src.length := by have := hl.le; omega
  have hk : ((codeN lines b).kind != .paragraph) = true := rfl
  have hib : isBlank [10] = true := by decide
  rw [lineLoopT]
  simp only [bind_apply, peekLine_fresh hl.sub hp (Nat.le_succ _) hl.le, position_run, getNode_run, getD_last, hk,
    if_true, bpContinue, codeContinue_blank hl k d rest lines b pc]
  simp [stContinueNoChildren, lineLoopT, pure_apply, hib]

/-- the end of the source: the block is closed, the blank lines behind it are removed -/
theorem lineLoop_code_eof (k : Int) (e : Nat) (d : Blocks.Node) (rest : List Blocks.Node)
    (A : List Segment) (s : Segment) (B : List Segment) (b : Bool) (hs : FullSeg src s) (hB : ∀ t ∈ B, BlankSeg src t)
    (pc : Ctx) (hop : pc.opened = [{ node := rest.length + 1, bp := .code }]) (bl : List LineStat) :
    lineLoopT pts 0 [{ node := rest.length + 1, bp := .code }] 0 [{ node := rest.length + 1, bp := .code }] 0 bl
        ⟨rdr src k src.length src.length e none (-1), d :: (rest ++ [codeN (A ++ [s] ++ B) b]), pc⟩ =
      .ok ((.eof, bl),
        ⟨rdr src (k + 1) e e (lineEnd src e) none (-1), d :: (rest ++ [codeN (A ++ [s]) b]),
          { pc with opened := [] }⟩) := by
  rw [lineLoopT]
  simp only [bind_apply, peekLine_eof (Nat.le_refl _),
    closeBlocks_code _ (rdr_source ..) d rest A s B b hs hB pc hop, advanceLine_run, pure_apply]

theorem cons_of_idx0 {v : Bytes} {c0 : UInt8} (h : idx v 0 = .ok c0) : ∃ t, v = c0 :: t := by
  cases v with
  | nil => simp [idx, getByte] at h
  | cons a t =>
    have : a = c0 := by simpa [idx, getByte] using h
    exact ⟨t, by rw [this]⟩
end codeLoop

end GM.Proof.CMFrag
end CMFrag12Code

/-
  section CMFrag6Chain — stage 6: the loops of parseBlocks over a document whose blocks may follow each other without a
  blank line. `blocksLoopT` opens the first block of a run of blocks; `linesLoopT` then runs through the whole run
  (every further block is opened while its predecessor is still open) until a blank line, the end of the source, or
  the closing fence of a fenced code block.
-/
section CMFrag6Chain
namespace GM.Proof.CMFrag
open GM GM.Text GM.Blocks GM.Spec

/-- the tail of one iteration of `blocksLoopT`: the per-line loop, then the next iteration -/
def tailT (fl fb : Nat) (bl : List LineStat) : M Unit := do
  let (ret, bl') ← linesLoopT pts 0 fl bl
  if ret then pure () else blocksLoopT pts 0 fb bl'

theorem tailT_of_lines {fl fb : Nat} {bl : List LineStat} {s : St} {ret : Bool} {bl' : List LineStat} {s1 : St}
    (h : linesLoopT pts 0 fl bl s = .ok ((ret, bl'), s1)) :
    tailT fl fb bl s = (if ret = true then pure () else blocksLoopT pts 0 fb bl') s1 := by
  unfold tailT
  simp only [bind_apply, h]

section chain
variable {src : Bytes}

/-- the per-line loop over the continuation lines `more` of the open paragraph, up to the line behind the paragraph -/
theorem para_body (d : Blocks.Node) (rest : List Blocks.Node) (b : Bool) (P : Nat) :
    ∀ (more done : List Bytes) (k : Int) (fl : Nat) (bl : List LineStat) (pc : Ctx),
      ParaAt src (P + (paraBytes done).length) more → (∀ l ∈ more, BlkLine l) →
      pc.opened = [{ node := rest.length + 1, bp := .paragraph }] →
      ∃ bl' k' pc', pc'.opened = pc.opened ∧ pc'.refs = pc.refs ∧
        linesLoopT pts 0 (fl + more.length) bl
            ⟨rdr src k (P + (paraBytes done).length) (P + (paraBytes done).length)
              (lineEnd src (P + (paraBytes done).length)) none (-1),
              d :: (rest ++ [paraN (openSegs P done) b]), pc⟩ =
          linesLoopT pts 0 fl bl'
            ⟨rdr src k' (P + (paraBytes (done ++ more)).length) (P + (paraBytes (done ++ more)).length)
              (lineEnd src (P + (paraBytes (done ++ more)).length)) none (-1),
              d :: (rest ++ [paraN (openSegs P (done ++ more)) b]), pc'⟩ := by
  intro more
  induction more with
  | nil =>
    intro done k fl bl pc _ _ _
    exact ⟨bl, k, pc, rfl, rfl, by simp⟩
  | cons l more ih =>
    intro done k fl bl pc hm hb hop
    obtain ⟨hl, hm'⟩ := hm
    obtain ⟨c, t, hlc, hc⟩ := (hb l (by simp)).first
    have eq1 : P + (paraBytes (done ++ [l])).length = P + (paraBytes done).length + l.length + 1 := by
      rw [paraBytes_snoc_len]; omega
    have eapp : done ++ l :: more = (done ++ [l]) ++ more := by simp
    obtain ⟨bl', k', pc', ho', hr', h1⟩ :=
      ih (done ++ [l]) (k + 1) fl (bl ++ [{ lineNum := k, level := 0, isBlank := isBlank (l ++ [10]) }])
        { pc with blockOffset := 0, blockIndent := 0 } (by rw [eq1]; exact hm') (fun x hx => hb x (by simp [hx])) hop
    refine ⟨bl', k', pc', ho', hr', ?_⟩
    have efl : fl + (l :: more).length = (fl + more.length) + 1 := by simp; omega
    rw [efl, pass_next hl k _ _ pc _ _ hop bl _ _ _ _
      (lineLoop_cont hl (c := c) (t := t ++ [10]) (by rw [hlc]; rfl) hc k d rest (openSegs P done) b pc hop bl)]
    rw [openSegs_append, eq1] at h1
    rw [eapp]
    exact h1

/-- the per-line loop over the further lines `more` of the open indented code block -/
theorem code_body (d : Blocks.Node) (rest : List Blocks.Node) (b : Bool) (P : Nat) :
    ∀ (more done : List Bytes) (k : Int) (fl : Nat) (bl : List LineStat) (pc : Ctx),
      ParaAt src (P + (paraBytes (icLines done)).length) (icLines more) → (∀ l ∈ more, IcLine l) →
      pc.opened = [{ node := rest.length + 1, bp := .code }] →
      ∃ bl' k',
        linesLoopT pts 0 (fl + more.length) bl
            ⟨rdr src k (P + (paraBytes (icLines done)).length) (P + (paraBytes (icLines done)).length)
              (lineEnd src (P + (paraBytes (icLines done)).length)) none (-1),
              d :: (rest ++ [codeN (icsegs P done) b]), pc⟩ =
          linesLoopT pts 0 fl bl'
            ⟨rdr src k' (P + (paraBytes (icLines (done ++ more))).length) (P + (paraBytes (icLines (done ++ more))).length)
              (lineEnd src (P + (paraBytes (icLines (done ++ more))).length)) none (-1),
              d :: (rest ++ [codeN (icsegs P (done ++ more)) b]), pc⟩ := by
  intro more
  induction more with
  | nil =>
    intro done k fl bl pc _ _ _
    exact ⟨bl, k, by simp⟩
  | cons l more ih =>
    intro done k fl bl pc hm hb hop
    obtain ⟨hl, hm'⟩ := hm
    obtain ⟨c, t, hlc, hc⟩ := (hb l (by simp)).first
    have eq1 : P + (paraBytes (icLines (done ++ [l]))).length = P + (paraBytes (icLines done)).length + 4 + l.length + 1 := by
      rw [icLines_snoc_len]; omega
    have elen : (ind4 ++ l).length = 4 + l.length := by simp [ind4]; omega
    rw [elen] at hl hm'
    have eapp : done ++ l :: more = (done ++ [l]) ++ more := by simp
    obtain ⟨bl', k', h1⟩ :=
      ih (done ++ [l]) (k + 1) fl (bl ++ [{ lineNum := k, level := 0, isBlank := isBlank ((ind4 ++ l) ++ [10]) }])
        pc (by rw [eq1]; have e : P + (paraBytes (icLines done)).length + (4 + l.length) + 1 =
                 P + (paraBytes (icLines done)).length + 4 + l.length + 1 := by omega
               rw [← e]; exact hm') (fun x hx => hb x (by simp [hx])) hop
    refine ⟨bl', k', ?_⟩
    have efl : fl + (l :: more).length = (fl + more.length) + 1 := by simp; omega
    rw [efl, pass_next hl k _ _ pc _ _ hop bl _ _ _ _
      (lineLoop_code_cont hl (c := c) (t := t ++ [10]) (by rw [hlc]; simp) hc k d rest (icsegs P done) b pc bl)]
    rw [icsegs_append, eq1] at h1
    rw [eapp]
    have e2 : P + (paraBytes (icLines done)).length + (4 + l.length) + 1 =
        P + (paraBytes (icLines done)).length + 4 + l.length + 1 := by omega
    rw [e2]
    exact h1

/-- the previous block — all of its lines have been read, the reader stands at `q`, the line behind it — is still
    open: `x` its node now, `xc` its node once closed, `pbp` its parser -/
inductive OpenPrev (src : Bytes) : Nat → Blocks.Node → Blocks.Node → BP → Prop
  | leaf (q : Nat) (pbp : BP) (x : Blocks.Node) (hbp : closingBP pbp) (hk : x.kind ≠ .paragraph) (hpar : x.parent = some 0) :
      OpenPrev src q x x pbp
  | para (P : Nat) (ls : List Bytes) (b : Bool) (hne : ls ≠ []) (hpa : ParaAt src P ls) (hb : ∀ l ∈ ls, BlkLine l) :
      OpenPrev src (P + (paraBytes ls).length) (paraN (openSegs P ls) b) (paraN (paraSegs P ls) b) .paragraph
  /-- an indented code block that has absorbed the `j` blank lines behind it -/
  | code (P : Nat) (ls : List Bytes) (j : Nat) (b : Bool) (hne : ls ≠ []) (hpa : ParaAt src P (icLines ls))
      (hg : ∀ l ∈ ls, IcLine l) (hbl : BlanksAt src (P + (paraBytes (icLines ls)).length) j) :
      OpenPrev src (P + (paraBytes (icLines ls)).length + j)
        (codeN (icsegs P ls ++ blankSegs (P + (paraBytes (icLines ls)).length) j) b) (codeN (icsegs P ls) b) .code

theorem OpenPrev.parent {q x xc pbp} (h : OpenPrev src q x xc pbp) : x.parent = some 0 := by
  cases h with
  | leaf _ _ _ _ _ hpar => exact hpar
  | para _ _ _ _ _ _ => rfl
  | code _ _ _ _ _ _ _ _ => rfl

theorem OpenPrev.kind_eq {q x xc pbp} (h : OpenPrev src q x xc pbp) : xc.kind = x.kind := by
  cases h <;> rfl

theorem OpenPrev.code_kind {q x xc} (h : OpenPrev src q x xc .code) : (x.kind == .paragraph) = false := by
  cases h with
  | leaf _ _ _ hbp _ _ => rcases hbp with h | h <;> cases h
  | code _ _ _ _ _ _ _ _ => rfl

/-- a blank line behind the open indented code block is appended to it: the block stays open -/
theorem code_absorb {q : Nat} {x xc : Blocks.Node} (hprev : OpenPrev src q x xc .code) (hl : Ln src q (q + 1) [10])
    (d : Blocks.Node) (rest : List Blocks.Node) (k : Int) (fl : Nat) (bl : List LineStat) (pc : Ctx)
    (hop : pc.opened = [{ node := rest.length + 1, bp := .code }]) :
    ∃ x' bl', OpenPrev src (q + 1) x' xc .code ∧
      linesLoopT pts 0 (fl + 1) bl ⟨rdr src k q q (lineEnd src q) none (-1), d :: (rest ++ [x]), pc⟩ =
        linesLoopT pts 0 fl bl'
          ⟨rdr src (k + 1) (q + 1) (q + 1) (lineEnd src (q + 1)) none (-1), d :: (rest ++ [x']), pc⟩ := by
  cases hprev with
  | leaf _ _ _ hbp _ _ => rcases hbp with h | h <;> cases h
  | code P ls j b hne hpa hg hbl =>
    have hnew := OpenPrev.code (src := src) P ls (j + 1) b hne hpa hg (blanksAt_snoc j _ hbl hl)
    rw [show P + (paraBytes (icLines ls)).length + (j + 1) = P + (paraBytes (icLines ls)).length + j + 1 from by omega]
      at hnew
    refine ⟨codeN (icsegs P ls ++ blankSegs (P + (paraBytes (icLines ls)).length) (j + 1)) b,
      bl ++ [{ lineNum := k, level := 0, isBlank := true }], hnew, ?_⟩
    rw [pass_next hl k _ _ pc _ _ hop bl _ _ _ fl (lineLoop_code_blank hl k d rest _ b pc bl)]
    simp only [blankSegs_snoc, List.append_assoc]

/-- the end of the source closes the open indented code block; the blank lines it has absorbed are removed -/
theorem code_eof {q : Nat} {x xc : Blocks.Node} (hprev : OpenPrev src q x xc .code) (hq : q = src.length)
    (d : Blocks.Node) (rest : List Blocks.Node) (k : Int) (fuel : Nat) (bl : List LineStat) (pc : Ctx) (hf : 1 ≤ fuel)
    (hop : pc.opened = [{ node := rest.length + 1, bp := .code }]) :
    ∃ s', linesLoopT pts 0 fuel bl ⟨rdr src k q q (lineEnd src q) none (-1), d :: (rest ++ [x]), pc⟩ =
        .ok ((true, bl), s') ∧
      s'.nodes = d :: (rest ++ [xc]) ∧ s'.pc.opened = [] ∧ s'.pc.refs = pc.refs := by
  obtain ⟨f, rfl⟩ : ∃ f, fuel = f + 1 := ⟨fuel - 1, by omega⟩
  cases hprev with
  | leaf _ _ _ hbp _ _ => rcases hbp with h | h <;> cases h
  | code P ls j b hne hpa hg hbl =>
    obtain ⟨A, s, hA, hs⟩ := icsegs_split ls P hne hpa hg
    have hB := blankSegs_blank j _ hbl
    rw [hA, hq]
    refine ⟨⟨rdr src (k + 1) (lineEnd src src.length) (lineEnd src src.length)
      (lineEnd src (lineEnd src src.length)) none (-1), d :: (rest ++ [codeN (A ++ [s]) b]),
      { pc with opened := [] }⟩, ?_, rfl, rfl, rfl⟩
    exact pass_eof k _ pc _ hop bl bl f _ (lineLoop_code_eof k _ d rest A s _ b hs hB pc hop bl)

/-- the previous block is closed by a blank line or by the end of the source -/
theorem prev_end {q : Nat} {x xc : Blocks.Node} {pbp : BP} (hprev : OpenPrev src q x xc pbp) (d : Blocks.Node)
    (rest : List Blocks.Node) (k : Int) (fuel : Nat) (bl : List LineStat) (pc : Ctx) (haft : After src q) (hf : 2 ≤ fuel)
    (hop : pc.opened = [{ node := rest.length + 1, bp := pbp }]) (hnc : pbp ≠ .code) :
    ∃ ret bl' s',
      linesLoopT pts 0 fuel bl ⟨rdr src k q q (lineEnd src q) none (-1), d :: (rest ++ [x]), pc⟩ = .ok ((ret, bl'), s') ∧
        s'.nodes = d :: (rest ++ [xc]) ∧ s'.pc.opened = [] ∧ s'.pc.refs = pc.refs ∧
        ((ret = true ∧ q = src.length) ∨
         (ret = false ∧ Ln src q (q + 1) [10] ∧
            ∃ k', s'.r = rdr src k' (q + 1) (q + 1) (lineEnd src (q + 1)) none (-1))) := by
  cases hprev with
  | leaf _ _ _ hbp hk hpar => exact linesLoop_leaf pbp hbp d rest x hk hpar q k fuel bl pc haft hf hop
  | para P ls b hne hpa hb =>
    exact linesLoop_para (src := src) d rest b P ls k fuel bl pc hne hpa hb haft hf hop
  | code _ _ _ _ _ _ _ _ => exact absurd rfl hnc

theorem set_pen (d : Blocks.Node) (rest : List Blocks.Node) (x y n : Blocks.Node) :
    (d :: ((rest ++ [x]) ++ [n])).set (rest.length + 1) y = d :: ((rest ++ [y]) ++ [n]) := by
  simp [List.set_append_left, List.set_append_right]

/-- the first line of a block directly behind the previous block: the block is opened, the previous one closed. The line
    is indented by `w` columns / `posN` bytes -/
theorem abut_generic {q e : Nat} {v : Bytes} {x xc : Blocks.Node} {pbp : BP} (hprev : OpenPrev src q x xc pbp)
    (hl : Ln src q e v) (w : Int) (posN : Nat) (hposlt : posN < v.length) (c00 c0 : UInt8) (hidx0 : idx v 0 = .ok c00)
    (h10 : (c00 == 10) = false) (hsp : pbp = .code → isSpace c00 = false) (hidx : idx v (posN : Int) = .ok c0)
    (hiw : indentWidthI v 0 = (w, (posN : Int))) (k : Int) (d : Blocks.Node) (rest : List Blocks.Node) (pc : Ctx)
    (hop : pc.opened = [{ node := rest.length + 1, bp := pbp }]) (bl : List LineStat)
    (r' : Reader) (hr' : r'.source = src) (nn : Bool → Blocks.Node) (nbp : BP) (pcS : Ctx)
    (hpcS : pcS.opened = pc.opened ++ [{ node := (rest ++ [x]).length + 1, bp := nbp }])
    (htry : ∀ bk, tryParsersT pts 0 bk (x.kind == .paragraph) w ((triggered c0).getD freeParsers) .noBlocksOpened
        pc.opened.getLast?
        ⟨rdr src k q q e (some v) 0, d :: (rest ++ [x]), { pc with blockOffset := (posN : Int), blockIndent := w }⟩ =
      .ok ((.done, .newBlocksOpened, pc.opened.getLast?),
        ⟨r', { d with children := d.children ++ [(rest ++ [x]).length + 1] } :: ((rest ++ [x]) ++ [nn bk]), pcS⟩)) :
    ∃ bk, lineLoopT pts 0 [{ node := rest.length + 1, bp := pbp }] 0 [{ node := rest.length + 1, bp := pbp }] 0 bl
        ⟨rdr src k q q e none (-1), d :: (rest ++ [x]), pc⟩ =
      .ok ((.next, bl ++ [{ lineNum := k, level := 0, isBlank := isBlank v }]),
        ⟨r', { d with children := d.children ++ [(rest ++ [x]).length + 1] } :: ((rest ++ [xc]) ++ [nn bk]),
          { pcS with opened := [{ node := (rest ++ [x]).length + 1, bp := nbp }] }⟩) := by
  have hgx : ∀ (bk : Bool), ({ d with children := d.children ++ [(rest ++ [x]).length + 1] } ::
      ((rest ++ [x]) ++ [nn bk])).getD (rest.length + 1) default = x := fun bk => getD_pen d rest x _ _
  have hpcS' : pcS.opened = [{ node := rest.length + 1, bp := pbp }, { node := (rest ++ [x]).length + 1, bp := nbp }] := by
    rw [hpcS, hop]; rfl
  -- what `closeBlocks` makes of the nodes is the same with `xc` for `x`
  have hN : ∀ (bk : Bool) (N : List Blocks.Node),
      N = ({ d with children := d.children ++ [(rest ++ [x]).length + 1] } :: ((rest ++ [x]) ++ [nn bk])).set
        (rest.length + 1) xc →
      N = { d with children := d.children ++ [(rest ++ [x]).length + 1] } :: ((rest ++ [xc]) ++ [nn bk]) := by
    intro bk N h; rw [h, set_pen]
  cases hprev with
  | leaf _ _ _ hbp hk hpar =>
    exact lineLoop6 hl w posN hposlt c00 c0 hidx0 h10 hidx hiw pbp k d rest x pc hop bl (-1) (Or.inl rfl)
      (fun _ => by rcases hbp with h | h <;> subst h <;> rfl) (fun _ => rfl) _ _ _ (fun _ => hpcS')
      (fun bk => closeBlocks6_leaf pbp hbp r' _ (rest.length + 1) x (hgx bk) hk hpar _ pcS hpcS') htry
  | para P ls b hne hpa hb =>
    obtain ⟨bk, h⟩ := lineLoop6 hl w posN hposlt c00 c0 hidx0 h10 hidx hiw .paragraph k d rest _ pc hop bl (-1)
      (Or.inl rfl) (fun h => absurd rfl h) (fun _ => rfl) _ _ _ (fun _ => hpcS')
      (fun bk => closeBlocks6_para hne hpa hb r' hr' _ (rest.length + 1) b (by simp) (hgx bk) _ pcS hpcS') htry
    exact ⟨bk, by rw [h, set_pen]⟩
  | code P ls j b hne hpa hg hbl =>
    obtain ⟨A, s, hA, hs⟩ := icsegs_split ls P hne hpa hg
    have hB := blankSegs_blank j _ hbl
    obtain ⟨t, hv⟩ := cons_of_idx0 hidx0
    rw [hA] at htry hgx hpcS hpcS' ⊢
    obtain ⟨bk, h⟩ := lineLoop6 hl w posN hposlt c00 c0 hidx0 h10 hidx hiw .code k d rest _ pc hop bl 0
      (Or.inr rfl) (fun _ => codeContinue_other hl hv (hsp rfl) k _ pc _) (fun h => by cases h) _ _ _ (fun _ => hpcS')
      (fun bk => closeBlocks6_code r' hr' _ (rest.length + 1) A s _ b (hgx bk) hs hB _ pcS hpcS') htry
    exact ⟨bk, by rw [h, set_pen]⟩

/-- the parser of a block -/
def bp5 : Raw5 → BP
  | .old (.para _) => .paragraph
  | .old (.atx _ _) => .atx
  | .old (.hr _) => .thematic
  | .fence _ _ _ _ => .fenced
  | .icode _ => .code

/-- the node of a block right after `Open` (first line from `p` to `e`, ended by `tl`) -/
def first5 (tl : Bytes) (p e : Nat) : Raw5 → Bool → Blocks.Node
  | .old (.para _), bk => paraN [sg p e] bk
  | .old (.atx level _), bk => headN level [sg (p + level + 1) (e - tl.length)] bk
  | .old (.hr _), bk => hrN bk
  | .fence _ n info _, bk => fenceN (if info.isEmpty then none else some (sg (p + n + 3) (e - 1))) [] bk
  | .icode _, bk => codeN [csg (p + 4) e] bk

/-- the parse context right after `Open` of a block whose node is `m + 1` -/
def pcAF (b : Raw5) (m : Nat) (pc : Ctx) : Ctx :=
  match b with
  | .fence fc n _ _ =>
    { pc with blockOffset := 0, blockIndent := 0, opened := [{ node := m + 1, bp := .fenced }],
              fence := some (fdOf fc n (m + 1)) }
  | .icode _ => { pc with blockOffset := 4, blockIndent := 4, opened := [{ node := m + 1, bp := .code }] }
  | b => { pc with blockOffset := 0, blockIndent := 0, opened := [{ node := m + 1, bp := bp5 b }] }

/-- the first line of a block, ended by `tl` -/
def firstLineT (tl : Bytes) (b : Raw5) : Bytes := (lines5 b).headD [] ++ tl

/-- the first line of a block (with its line feed) -/
def firstLine : Raw5 → Bytes
  | b => (lines5 b).headD [] ++ [10]

/-- may block `b` directly follow the previous block (`isPara`: the previous block is a paragraph)? -/
def AbutOK5 (isPara : Bool) : Raw5 → Prop
  | .old (.para _) => isPara = false
  | .old (.hr h) => isPara = true → h.head? ≠ some 45
  | .icode _ => isPara = false
  | _ => True

theorem abutOK5_false : ∀ b : Raw5, AbutOK5 false b
  | .old (.para _) => rfl
  | .old (.atx _ _) => trivial
  | .old (.hr _) => fun h => by cases h
  | .fence _ _ _ _ => trivial
  | .icode _ => rfl

/-- the state at the start of the line behind the first line of block `b` (which went from `p` to `e`, ended by `tl`) -/
def AF (src : Bytes) (tl : Bytes) (k : Int) (e : Nat) (d : Blocks.Node) (cs : List Blocks.Node) (b : Raw5) (p : Nat)
    (bk : Bool) (pc : Ctx) : St :=
  ⟨rdr src k e e (lineEnd src e) none (-1),
    { d with children := d.children ++ [cs.length + 1] } :: (cs ++ [first5 tl p e b bk]), pcAF b cs.length pc⟩

theorem paraKind_of {q x xc pbp} (h : OpenPrev src q x xc pbp) : ∃ isPara : Bool, (x.kind == .paragraph) = isPara ∧
    (isPara = true → pbp = .paragraph) := by
  cases h with
  | leaf _ _ _ _ hk _ => exact ⟨false, by simp [hk], fun h => by cases h⟩
  | para _ _ _ _ _ _ => exact ⟨true, rfl, fun _ => rfl⟩
  | code _ _ _ _ _ _ _ _ => exact ⟨false, rfl, fun h => by cases h⟩


/-- the indentation of the first line of a block, in bytes and in columns -/
def ind5 : Raw5 → Nat
  | .icode _ => 4
  | _ => 0

/-- what `openBlocks` looks at on the first line of block `b` before it asks the parsers: the first byte `c00` and the
    first byte `c0` behind the indentation -/
structure FirstFacts (v : Bytes) (b : Raw5) (c00 c0 : UInt8) : Prop where
  lt : ind5 b < v.length
  idx0 : idx v 0 = .ok c00
  nl : (c00 == 10) = false
  sp : isIcB b = false → isSpace c00 = false
  idx : idx v ((ind5 b : Nat) : Int) = .ok c0
  iw : indentWidthI v 0 = (((ind5 b : Nat) : Int), ((ind5 b : Nat) : Int))
  notBlank : isBlank v = false

theorem firstFacts_of {v : Bytes} {b : Raw5} {c : UInt8} {t : Bytes} (hv : v = c :: t) (hi : ind5 b = 0)
    (h32 : (c == 32) = false) (h9 : (c == 9) = false) (h10 : (c == 10) = false) (hsp : isSpace c = false) :
    FirstFacts v b c c := by
  refine ⟨by rw [hi, hv]; simp, by rw [hv]; rfl, h10, fun _ => hsp, by rw [hi, hv]; rfl, ?_, by rw [hv]; simp [isBlank, hsp]⟩
  rw [hi, hv]; unfold GM.Blocks.indentWidthI GM.Blocks.indentWidthGo; simp [h32, h9]

/-- the parser loop on the first line of block `b`, whatever is open (`cont`: it is a paragraph): the block is opened.
    The line ends with a line feed, or — a single-line block at the end of a source without final line feed — with
    nothing -/
theorem try_first (b : Raw5) (hg : Good5 b) (tl : Bytes) (htl : LineTail tl) (hone : tl = [] → (lines5 b).length = 1)
    {q e : Nat} (hl : Ln src q e (firstLineT tl b)) (k : Int) (d : Blocks.Node)
    (rest : List Blocks.Node) (pc : Ctx) (hprev : PrevKept (d :: rest) pc) (cont : Bool)
    (hcont : ∀ l, pc.opened.getLast? = some l → (((d :: rest).getD l.node default).kind == .paragraph) = cont)
    (hab : AbutOK5 cont b) :
    ∃ c00 c0 p' pk lo, FirstFacts (firstLineT tl b) b c00 c0 ∧ ∀ bk lb,
      tryParsersT pts 0 bk cont ((ind5 b : Nat) : Int) ((triggered c0).getD freeParsers) .noBlocksOpened lb
          ⟨rdr src k q q e (some (firstLineT tl b)) 0, d :: rest,
            { pc with blockOffset := ((ind5 b : Nat) : Int), blockIndent := ((ind5 b : Nat) : Int) }⟩ =
        .ok ((.done, .newBlocksOpened, pc.opened.getLast?),
          ⟨rdr src k q p' e pk lo,
            { d with children := d.children ++ [rest.length + 1] } :: (rest ++ [first5 tl q e b bk]),
            { pcAF b rest.length pc with opened := pc.opened ++ [{ node := rest.length + 1, bp := bp5 b }] }⟩) := by
  cases b with
  | old b' =>
    cases b' with
    | para ls =>
      obtain ⟨hne, hbk⟩ := hg
      cases ls with
      | nil => exact absurd rfl hne
      | cons l0 more =>
        obtain ⟨c, t, hlc, hc⟩ := (hbk l0 (by simp)).first
        obtain ⟨h32, h9, h10, hsp, htr, hbr⟩ := letter_facts c hc
        have hv : firstLineT tl (.old (.para (l0 :: more))) = c :: (t ++ tl) := by simp [firstLineT, lines5, lines4, hlc]
        have hkf : cont = false := hab
        refine ⟨c, c, e - 1, none, -1, firstFacts_of hv rfl h32 h9 h10 hsp, fun bk lb => ?_⟩
        rw [htr, hkf]
        exact try_line hl hv hc pts k d rest { pc with blockOffset := 0, blockIndent := 0 } hprev bk _ lb
    | atx level l =>
      obtain ⟨h1l, h6l, hbl', hlast⟩ := hg
      obtain ⟨m, rfl⟩ : ∃ m, level = m + 1 := ⟨level - 1, by omega⟩
      have hv : firstLineT tl (.old (.atx (m + 1) l)) = List.replicate (m + 1) 35 ++ 32 :: (l ++ tl) := by
        simp [firstLineT, lines5, lines4]
      have htr : (triggered 35).getD freeParsers = [.atx, .code, .paragraph] := by decide
      refine ⟨35, 35, q, some (firstLineT tl (.old (.atx (m + 1) l))), 0,
        firstFacts_of (t := List.replicate m 35 ++ 32 :: (l ++ tl)) (by rw [hv]; rfl) rfl
          (by decide) (by decide) (by decide) (by decide), fun bk lb => ?_⟩
      rw [htr]
      exact try_atx hl (m + 1) l tl htl hv h1l h6l hbl' hlast pts k d rest
        { pc with blockOffset := 0, blockIndent := 0 } hprev rfl cont bk lb
    | hr h =>
      obtain ⟨ch, n, hch, hh⟩ := hg
      have hv : firstLineT tl (.old (.hr h)) = List.replicate (n + 3) ch ++ tl := by simp [firstLineT, lines5, lines4, hh]
      obtain ⟨h32, h9, h10, _, hsp, _⟩ := hrChar_facts hch
      have hset : ch = 45 → ∀ l, pc.opened.getLast? = some l →
          (((d :: rest).getD l.node default).kind == .paragraph) = false := by
        intro h45 l hl'
        rw [hcont l hl']
        cases hk : cont with
        | false => rfl
        | true =>
          have := hab hk
          rw [hh, List.replicate_succ] at this
          simp [h45] at this
      refine ⟨ch, ch, e - 1, none, -1,
        firstFacts_of (t := List.replicate (n + 2) ch ++ tl) (by rw [hv]; rfl) rfl h32 h9 h10 hsp, fun bk lb => ?_⟩
      exact try_hr hl ch hch n tl htl hv pts k d rest { pc with blockOffset := 0, blockIndent := 0 } hprev cont
        hset bk lb
  | fence fc n info ls =>
    obtain ⟨hfc, hinfo, hcode⟩ := hg
    have htl10 : tl = [10] := by
      rcases htl with h | h
      · have := hone h; simp [lines5] at this
      · exact h
    subst htl10
    have hv : firstLineT [10] (.fence fc n info ls) = List.replicate (n + 3) fc ++ (info ++ [10]) := by
      simp [firstLineT, lines5]
    obtain ⟨h32, h9, h10, hsp, htr⟩ := fence_facts hfc
    refine ⟨fc, fc, q, some (firstLineT [10] (.fence fc n info ls)), 0,
      firstFacts_of (t := List.replicate (n + 2) fc ++ (info ++ [10])) (by rw [hv]; rfl) rfl h32 h9 h10 hsp,
      fun bk lb => ?_⟩
    rw [htr]
    exact try_fence hl fc hfc n info hinfo hv pts k d rest { pc with blockOffset := 0, blockIndent := 0 } hprev rfl cont
      bk lb
  | icode ls =>
    obtain ⟨hne, hg'⟩ := hg
    cases ls with
    | nil => exact absurd rfl hne
    | cons l0 more =>
      obtain ⟨c, t, hlc, hc⟩ := (hg' l0 (by simp)).first
      have hv : firstLineT tl (.icode (l0 :: more)) = ind4 ++ c :: (t ++ tl) := by
        simp [firstLineT, lines5, icLines, hlc]
      have hkf : cont = false := hab
      have hf : FirstFacts (firstLineT tl (.icode (l0 :: more))) (.icode (l0 :: more)) 32 c := by
        refine ⟨?_, ?_, by decide, (fun h => by cases h), ?_, ?_, ?_⟩ <;> rw [hv]
        · simp [ind5, ind4]
        · rfl
        · rfl
        · exact ic_width hc
        · exact ic_notBlank hc
      refine ⟨32, c, e - 1, none, -1, hf, fun bk lb => ?_⟩
      rw [hkf]
      exact try_ic hl hv hc k d rest { pc with blockOffset := 4, blockIndent := 4 } hprev bk lb

/-- one pass of the per-line loop on the first line of block `b` directly behind the open previous block -/
theorem abut_any {q e : Nat} {x xc : Blocks.Node} {pbp : BP} (hprev : OpenPrev src q x xc pbp) (b : Raw5) (hg : Good5 b)
    (tl : Bytes) (htl : LineTail tl) (hone : tl = [] → (lines5 b).length = 1)
    (hl : Ln src q e (firstLineT tl b)) (hab : AbutOK5 (x.kind == .paragraph) b) (hic : pbp = .code → isIcB b = false)
    (k : Int) (d : Blocks.Node)
    (rest : List Blocks.Node) (pc : Ctx) (hop : pc.opened = [{ node := rest.length + 1, bp := pbp }]) (bl : List LineStat)
    (fl : Nat) :
    ∃ BL bk, linesLoopT pts 0 (fl + 1) bl ⟨rdr src k q q (lineEnd src q) none (-1), d :: (rest ++ [x]), pc⟩ =
      linesLoopT pts 0 fl BL (AF src tl (k + 1) e d (rest ++ [xc]) b q bk pc) := by
  have hx : (d :: (rest ++ [x])).getD (rest.length + 1) default = x := getD_last d rest x
  obtain ⟨c00, c0, p', pk, lo, hf, htry⟩ := try_first b hg tl htl hone hl k d (rest ++ [x]) pc
    (PrevKept.single hop (by rw [hx]; exact hprev.parent)) (x.kind == .paragraph)
    (fun l h => by rw [hop, List.getLast?_singleton, Option.some.injEq] at h; subst h; rw [hx]) hab
  obtain ⟨bk, hp⟩ := abut_generic hprev hl _ _ hf.lt c00 c0 hf.idx0 hf.nl (fun h => hf.sp (hic h)) hf.idx hf.iw k d rest pc
    hop bl _ rfl (fun bk => first5 tl q e b bk) (bp5 b) _ rfl (fun bk => htry bk _)
  refine ⟨bl ++ [{ lineNum := k, level := 0, isBlank := isBlank (firstLineT tl b) }], bk, ?_⟩
  rw [pass_next hl k _ _ pc _ _ hop bl _ _ _ fl hp]
  cases b with
  | old b' => cases b' <;> simp [AF, pcAF, bp5]
  | fence fc n info ls => simp [AF, pcAF, bp5]
  | icode ls => simp [AF, pcAF, bp5]

/-- one iteration of the outer loop up to behind the first line of block `b`, which is opened with nothing open -/
theorem open_any {q s e : Nat} (hbl : BlanksAt src q s) (b : Raw5) (hg : Good5 b)
    (tl : Bytes) (htl : LineTail tl) (hone : tl = [] → (lines5 b).length = 1) (hl : Ln src (q + s) e (firstLineT tl b))
    (k : Int) (d : Blocks.Node) (cs : List Blocks.Node) (pc : Ctx) (hop : pc.opened = []) (bl : List LineStat) (f : Nat) :
    ∃ BL bk, blocksLoopT pts 0 (f + 1) bl ⟨rdr src k q q (lineEnd src q) none (-1), d :: cs, pc⟩ =
      tailT f f BL (AF src tl (k + s + 1) e d cs b (q + s) bk pc) := by
  obtain ⟨c00, c0, p', pk, lo, hf, htry⟩ := try_first b hg tl htl hone hl (k + s) d cs pc (PrevKept.nil hop) false
    (fun l h => by rw [hop] at h; cases h) (abutOK5_false b)
  have hob := fun bk => openBlocks_of_try hl _ _ hf.lt c00 c0 hf.idx0 hf.nl hf.idx hf.iw pts (k + s) (d :: cs) pc bk
    (some (firstLineT tl b)) (Or.inr rfl) (-1) (Or.inl rfl) false (by rw [hop]; rfl) _ (htry bk _)
  refine ⟨if ((s : Int) != 0) = true then [] else bl,
    isBlankLine (k + (s : Int) - 1) 0 (if ((s : Int) != 0) = true then [] else bl), ?_⟩
  rw [blocksLoopT]
  simp only [bind_apply, skipR_text k hbl hl hf.notBlank, Bool.not_true, Bool.false_eq_true, if_false, position_run,
    getPc_run, hop, List.length_nil, rdr_line, blankStats, hob]
  simp only [bne_self_eq_false, Bool.false_eq_true, if_false, bind_apply, advanceLine_run, tailT, AF]
  cases b with
  | old b' => cases b' <;> simp [pcAF, hop, bp5]
  | fence fc n info ls => simp [pcAF, hop, bp5]
  | icode ls => simp [pcAF, hop, bp5]
end chain

end GM.Proof.CMFrag
end CMFrag6Chain
