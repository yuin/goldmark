/-
  GM.Proof.ConvertHWFDrv — the CLOSE DISCIPLINE of the block driver with AutoHeadingID (`MH`, GM.Model.ConvertH):
  invariant `J h s` of the two-layer state
    * the node store is a well-formed tree (`TreeWF`);
    * every child edge to a Heading node leads to a node that HAS ITS ATTRIBUTE (its parser's Close ran with the option)
      or is still on the open-block stack;
    * a Heading node on the stack was put there by a heading parser; the nodes on the stack exist.
  The driver meets the interface `Disc` of GM.Proof.BlocksDriverGDisc (`discH`: a step never loses an attribute (`AM`), never
  shrinks the store or changes a kind (`KS`); a slot is `Done` when its Heading has its attribute or hangs nowhere), so the
  discipline itself is `runG_disc` of GM.Proof.BlocksDriverGRun (`runH_disc` in GM.Proof.ConvertHWFRun).
-/
import GM.Proof.ConvertHWFClose
import GM.Proof.ConvertHSim
import GM.Proof.BlocksDriverGDisc

namespace GM.ConvertH
open GM GM.Text GM.Blocks

def hasA (h : HS) (c : Nat) : Prop := (nodeAttrs h c).isSome = true

def AM (h h' : HS) : Prop := ∀ c, hasA h c → hasA h' c

theorem AM.refl (h : HS) : AM h h := fun _ x => x
theorem AM.trans {a b c : HS} (h1 : AM a b) (h2 : AM b c) : AM a c := fun x hx => h2 x (h1 x hx)

structure KS (s s' : St) : Prop where
  len : s.nodes.length ≤ s'.nodes.length
  kind : ∀ i, i < s.nodes.length → (ndx s' i).kind = (ndx s i).kind

theorem KS.refl (s : St) : KS s s := ⟨Nat.le_refl _, fun _ _ => rfl⟩
theorem KS.trans {a b c : St} (h1 : KS a b) (h2 : KS b c) : KS a c :=
  ⟨Nat.le_trans h1.len h2.len, fun i hi => (h2.kind i (Nat.lt_of_lt_of_le hi h1.len)).trans (h1.kind i hi)⟩
theorem StepR.ks {s s' : St} (h : StepR s s') : KS s s' := ⟨h.len, h.kind⟩

structure J (h : HS) (s : St) : Prop where
  wf : TreeWF s
  j1 : ∀ p c, c ∈ (ndx s p).children → (ndx s c).kind = .heading → hasA h c ∨ ∃ b ∈ s.pc.opened, b.node = c
  j5 : ∀ b ∈ s.pc.opened, (ndx s b.node).kind = .heading → BP.isHeadingParser b.bp = true
  ov : ∀ b ∈ s.pc.opened, b.node < s.nodes.length

theorem J.step {h : HS} {s s' : St} (j : J h s) (st : StepR s s') : J h s' := by
  obtain ⟨w', e⟩ := st.wf j.wf
  refine ⟨w', fun p c hc hk => ?_, fun b hb hk => ?_, fun b hb => ?_⟩
  · have hc0 := e p c hc hk
    have hv := (j.wf.edge p c hc0).1
    rw [st.kind c hv] at hk
    rw [st.opened]
    exact j.j1 p c hc0 hk
  · rw [st.opened] at hb
    rw [st.kind _ (j.ov b hb)] at hk
    exact j.j5 b hb hk
  · rw [st.opened] at hb
    exact Nat.lt_of_lt_of_le (j.ov b hb) st.len

theorem J.mono {h h' : HS} {s : St} (j : J h s) (a : AM h h') : J h' s :=
  ⟨j.wf, fun p c hc hk => (j.j1 p c hc hk).imp (a c) id, j.j5, j.ov⟩

structure HJ {α : Type} (m : MH α) : Prop where
  h : ∀ h s a h' s', J h s → m h s = .ok ((a, h'), s') → J h' s' ∧ AM h h' ∧ KS s s'

/-! ### the option's code in Close never loses an attribute and attaches one to its node -/

theorem lookup_setNodeAttr : ∀ (l : List (Nat × List Attr.PAttr)) (node : Nat) (a : Attr.PAttr) (c : Nat),
    (c = node ∨ (l.lookup c).isSome = true) → ((setNodeAttr l node a).lookup c).isSome = true
  | [], node, a, c, h => by
    rcases h with rfl | h
    · simp [setNodeAttr, List.lookup]
    · simp [List.lookup] at h
  | (n, as) :: rest, node, a, c, h => by
    unfold setNodeAttr
    by_cases hn : (n == node) = true
    · have e : n = node := by simpa using hn
      simp only [hn, if_true, List.lookup]
      by_cases hc : (c == n) = true
      · simp [hc]
      · have hc' : (c == n) = false := by simpa using hc
        simp only [hc']
        rcases h with rfl | h
        · exact absurd (by simpa using e.symm) hc
        · simpa [List.lookup, hc'] using h
    · have hn' : (n == node) = false := by simpa using hn
      simp only [hn', Bool.false_eq_true, if_false, List.lookup]
      by_cases hc : (c == n) = true
      · simp [hc]
      · have hc' : (c == n) = false := by simpa using hc
        simp only [hc']
        apply lookup_setNodeAttr rest node a c
        rcases h with rfl | h
        · exact Or.inl rfl
        · right; simpa [List.lookup, hc'] using h

theorem genTail_am (node : Nat) (line : Bytes) (h : HS) (s : St) (h' : HS) (s' : St)
    (e : (do
      let h ← getH
      match Ids.generate h.ids line true with
      | none => throw Panic.loop
      | some (id, tbl) =>
        setH { ids := tbl, attrs := setNodeAttr h.attrs node (Attr.nameId, .bytes id),
               ops := h.ops ++ [.gen line true], gens := h.gens ++ [{ node := node, text := line, id := id }] } : MH Unit) h s
        = .ok (((), h'), s')) : s' = s ∧ AM h h' ∧ hasA h' node := by
  obtain ⟨hh, h3, s3, e3, k3⟩ := Hoare.bind_ok₂ e
  have e3' : h = hh ∧ h = h3 ∧ s = s3 := by cases e3; exact ⟨rfl, rfl, rfl⟩
  obtain ⟨a1, a2, a3⟩ := e3'
  subst a1; subst a2; subst a3
  cases hg : Ids.generate h.ids line true with
  | none => simp only [hg] at k3; cases k3
  | some r =>
    obtain ⟨id, tbl⟩ := r
    simp only [hg] at k3
    cases k3
    refine ⟨rfl, fun c hc => ?_, ?_⟩
    · exact lookup_setNodeAttr _ _ _ c (Or.inr hc)
    · exact lookup_setNodeAttr _ _ _ node (Or.inl rfl)

theorem generateAutoHeadingID_am (node : Nat) (h : HS) (s : St) (h' : HS) (s' : St)
    (e : generateAutoHeadingID node h s = .ok (((), h'), s')) : s' = s ∧ AM h h' ∧ hasA h' node := by
  unfold generateAutoHeadingID at e
  obtain ⟨n, h1, s1, e1, k1⟩ := Hoare.bind_ok₂ e
  obtain ⟨eh1, ex1⟩ := Hoare.lift_ok₂ e1
  obtain ⟨_, es1⟩ := getNode_ok ex1
  subst eh1; subst es1
  dsimp only at k1
  cases hl : n.lines.getLast? with
  | none =>
    simp only [hl] at k1
    obtain ⟨line, h2, s2, e2, k2⟩ := Hoare.bind_ok₂ k1
    cases e2
    exact genTail_am node _ _ _ h' s' k2
  | some seg =>
    simp only [hl] at k1
    obtain ⟨src, h3, s3, e3, k3⟩ := Hoare.bind_ok₂ k1
    obtain ⟨eh3, ex3⟩ := Hoare.lift_ok₂ e3
    cases ex3
    subst eh3
    obtain ⟨line, h4, s4, e4, k4⟩ := Hoare.bind_ok₂ k3
    obtain ⟨eh4, ex4⟩ := Hoare.lift_ok₂ e4
    obtain ⟨_, es4⟩ := liftE_ok ex4
    subst eh4; subst es4
    exact genTail_am node _ _ _ h' s' k4

theorem autoIdClose_am (node : Nat) (h : HS) (s : St) (h' : HS) (s' : St)
    (e : autoIdClose node h s = .ok (((), h'), s')) : s' = s ∧ AM h h' ∧ hasA h' node := by
  unfold autoIdClose at e
  obtain ⟨hh, h1, s1, e1, k1⟩ := Hoare.bind_ok₂ e
  have e1' : h = hh ∧ h = h1 ∧ s = s1 := by cases e1; exact ⟨rfl, rfl, rfl⟩
  obtain ⟨a1, a2, a3⟩ := e1'
  subst a1; subst a2; subst a3
  cases hn : nodeAttrs h node with
  | none =>
    have : attrLookup ((nodeAttrs h node).getD []) Attr.nameId = none := by rw [hn]; rfl
    rw [this] at k1
    exact generateAutoHeadingID_am node h s h' s' k1
  | some as =>
    have hA : hasA h node := by unfold hasA; rw [hn]; rfl
    cases hl : attrLookup ((nodeAttrs h node).getD []) Attr.nameId with
    | none => rw [hl] at k1; exact generateAutoHeadingID_am node h s h' s' k1
    | some v =>
      rw [hl] at k1
      cases v <;> (simp only at k1; cases k1; exact ⟨rfl, fun c hc => hc, hA⟩)

theorem bpCloseH_spec (bp : BP) (node : Nat) (h : HS) (s : St) (h' : HS) (s' : St)
    (e : bpCloseH true bp node h s = .ok (((), h'), s')) :
    StepR s s' ∧ AM h h' ∧ (BP.isHeadingParser bp = true → hasA h' node) := by
  unfold bpCloseH at e
  obtain ⟨u, h1, s1, e1, k1⟩ := Hoare.bind_ok₂ e
  obtain ⟨eh1, ex1⟩ := Hoare.lift_ok₂ e1
  subst eh1
  have st := (bpClose_stp bp node).h s u s1 ex1
  cases hp : BP.isHeadingParser bp with
  | false =>
    simp only [hp, Bool.and_false, Bool.false_eq_true, if_false] at k1
    cases k1
    exact ⟨st, AM.refl _, fun x => by cases x⟩
  | true =>
    simp only [hp, Bool.and_self, if_true] at k1
    obtain ⟨es, a, b⟩ := autoIdClose_am node h1 s1 h' s' k1
    subst es
    exact ⟨st, a, fun _ => b⟩

theorem bpCloseH_hj (bp : BP) (node : Nat) : HJ (bpCloseH true bp node) := by
  constructor
  intro h s a h' s' j e
  obtain ⟨st, am, _⟩ := bpCloseH_spec bp node h s h' s' e
  exact ⟨(j.step st).mono am, am, st.ks⟩

/-- a block of the stack is done: if its node is a Heading built by a heading parser, the node has its attribute or is in
    no child list -/
def Done (h : HS) (s : St) (b : Block) : Prop :=
  (ndx s b.node).kind = .heading → BP.isHeadingParser b.bp = true →
    hasA h b.node ∨ ∀ p, b.node ∉ (ndx s p).children

theorem Done.stable {h h' : HS} {s s' : St} {b : Block} (d : Done h s b) (w : TreeWF s) (hv : b.node < s.nodes.length)
    (a : AM h h') (st : StepR s s') : Done h' s' b := by
  intro hk hp
  rw [st.kind _ hv] at hk
  rcases d hk hp with d | d
  · exact Or.inl (a _ d)
  · right
    intro p hc
    have := (st.wf w).2 p b.node hc (by rw [st.kind _ hv]; exact hk)
    exact d p this

/-- removing closed slots from the stack keeps the invariant -/
theorem J.remove {h : HS} {s : St} (j : J h s) (blocks' : List Block) (hsub : ∀ b ∈ blocks', b ∈ s.pc.opened)
    (hdone : ∀ b ∈ s.pc.opened, b ∉ blocks' → Done h s b) :
    J h { s with pc := { s.pc with opened := blocks' } } := by
  refine ⟨⟨j.wf.edge, j.wf.nodup, j.wf.root, j.wf.ne, j.wf.rootKind⟩, fun p c hc hk => ?_, fun b hb hk => j.j5 b (hsub b hb) hk,
    fun b hb => j.ov b (hsub b hb)⟩
  rcases j.j1 p c hc hk with ha | ⟨b, hb, rfl⟩
  · exact Or.inl ha
  · by_cases hin : b ∈ blocks'
    · exact Or.inr ⟨b, hin, rfl⟩
    · rcases hdone b hb hin hk (j.j5 b hb hk) with d | d
      · exact Or.inl d
      · exact absurd hc (d p)

theorem kindOf_ne_document (bp : BP) : BP.kindOf bp ≠ .document := by cases bp <;> simp [BP.kindOf]

theorem kindOf_heading (bp : BP) (h : BP.kindOf bp = .heading) : BP.isHeadingParser bp = true := by
  cases bp <;> simp [BP.kindOf] at h <;> rfl

/-- parser.go:1004-1008: `parent.AppendChild(parent, node)` and the push on the open-block stack, for a node `Open` has
    just answered -/
theorem push_spec (parent node : Nat) (bp : BP) (h : HS) (s s1 : St) (j : J h s) (hv : node < s.nodes.length)
    (hk : (ndx s node).kind = BP.kindOf bp) (e : appendChild parent node s = .ok ((), s1)) :
    J h { s1 with pc := { s1.pc with opened := s1.pc.opened ++ [{ node := node, bp := bp }] } } ∧ KS s s1 := by
  have op := appendChild_op parent node s s1 e
  have hn0 : node ≠ 0 := by
    intro e0; subst e0
    rw [j.wf.rootKind] at hk
    exact kindOf_ne_document bp hk.symm
  have w1 := op.wf j.wf hv hn0
  refine ⟨⟨⟨w1.edge, w1.nodup, w1.root, w1.ne, w1.rootKind⟩, fun p c hc hkc => ?_, fun b hb hkb => ?_, fun b hb => ?_⟩,
    ⟨Nat.le_of_eq op.len.symm, fun i _ => op.kind i⟩⟩
  · rcases op.edges p c hc with e1 | ⟨_, rfl⟩
    · have hkc' : (ndx s c).kind = .heading := by rw [← op.kind c]; exact hkc
      rcases j.j1 p c e1 hkc' with a | ⟨b, hb, rfl⟩
      · exact Or.inl a
      · exact Or.inr ⟨b, by simp only [op.pc]; exact List.mem_append_left _ hb, rfl⟩
    · exact Or.inr ⟨_, List.mem_append_right _ (List.mem_singleton.2 rfl), rfl⟩
  · simp only [op.pc] at hb
    have hkb' : (ndx s b.node).kind = .heading := by rw [← op.kind b.node]; exact hkb
    rcases List.mem_append.1 hb with hb | hb
    · exact j.j5 b hb hkb'
    · rw [List.mem_singleton] at hb
      subst hb
      exact kindOf_heading bp (by rw [← hk]; exact hkb')
  · simp only [op.pc] at hb
    show b.node < s1.nodes.length
    rw [op.len]
    rcases List.mem_append.1 hb with hb | hb
    · exact j.ov b hb
    · rw [List.mem_singleton] at hb
      subst hb
      exact hv

/-- the node `Open` has answered exists and has the kind its parser builds -/
def PN (node : Nat) (bp : BP) (s : St) : Prop := node < s.nodes.length ∧ (ndx s node).kind = BP.kindOf bp

theorem PN.ks {node : Nat} {bp : BP} {s s' : St} (p : PN node bp s) (k : KS s s') : PN node bp s' :=
  ⟨Nat.lt_of_lt_of_le p.1 k.len, by rw [k.kind node p.1]; exact p.2⟩

section
variable (pts : List PT) (hpts : ∀ pt ∈ pts, PTStp pt)
include hpts

/-- the interface of GM.Proof.BlocksDriverGDisc for the driver with AutoHeadingID: a step keeps kinds and the stack and
    never loses an attribute; a slot is done when its Heading has its attribute or hangs nowhere -/
theorem discH : Disc (hooksH true pts) J (fun h s h' s' => AM h h' ∧ StepR s s') (fun h s h' s' => AM h h' ∧ KS s s')
    (fun b s => b.node < s.nodes.length) (fun b s => PN b.node b.bp s) Done where
  refl := fun _ _ => ⟨AM.refl _, StepR.refl _⟩
  trans := fun a b => ⟨a.1.trans b.1, a.2.trans b.2⟩
  opened := fun d => d.2.opened
  wrefl := fun _ _ => ⟨AM.refl _, KS.refl _⟩
  wtrans := fun a b => ⟨a.1.trans b.1, a.2.trans b.2⟩
  dw := fun d => ⟨d.1, d.2.ks⟩
  weak := fun _ d => ⟨d.1, d.2.len, d.2.kind⟩
  valid := fun w v => Nat.lt_of_lt_of_le v w.2.len
  valid_pc := fun _ v => v
  ovalid := fun j => j.ov
  vn := fun w v => v.ks w.2
  stable := fun j v d dn => dn.stable j.wf v d.1 d.2
  orphan := fun {h s b} j hpar => fun _ _ => Or.inr fun p hc => hpar (by
    have := (j.wf.edge p b.node hc).2
    simp only [ndx] at this
    rw [this]; rfl)
  para_done := fun _ hk => fun hh _ => by simp only [ndx] at hh; rw [hk] at hh; cases hh
  remove := fun j => j.remove
  cls := fun {h s h' s' bp node} j _ e => by
    obtain ⟨st, am, ha⟩ := bpCloseH_spec bp node h s h' s' e
    exact ⟨(j.step st).mono am, ⟨am, st⟩, fun _ hp => Or.inl (ha hp)⟩
  tp := fun {h s h' s' b a} j _ _ e => by
    obtain ⟨rfl, ex⟩ := Hoare.lift_ok₂ (x := transformParagraph pts b.node) e
    have st := (transformParagraph_stp pts hpts b.node).h _ _ _ ex
    exact ⟨j.step st, AM.refl _, st⟩
  opn := fun {h s h' s' p parent r} j e => by
    obtain ⟨rfl, ex⟩ := Hoare.lift_ok₂ (x := bpOpen p parent) e
    obtain ⟨lr, oj⟩ := (bpOpen_oj p parent).h s r s' ex
    exact ⟨j.step (StepR.of_lr lr), ⟨AM.refl _, (StepR.of_lr lr).ks⟩, lr.opened, fun nd hnd => ⟨(oj nd hnd).2.1, (oj nd hnd).2.2⟩⟩
  blank := fun {h s s' node bl} j e => by
    have st := StepR.of_lr ((modNode_lk node (fun n => { n with blankPrev := bl }) (fun _ => ⟨rfl, rfl, rfl⟩)).h _ _ _ e)
    exact ⟨j.step st, ⟨AM.refl _, st.ks⟩, st.opened⟩
  push := fun {h s s1 parent node bp} j v e => by
    obtain ⟨jp, kp⟩ := push_spec parent node bp h s s1 j v.1 v.2 e
    exact ⟨jp, AM.refl _, ⟨kp.len, kp.kind⟩⟩
  same := fun {h s s'} j hn ho => by
    have st := StepR.of_lr (s := s) (s' := s')
      ⟨by rw [hn]; exact Nat.le_refl _, fun i => by simp [ndx, hn], fun i _ => by simp only [ndx, hn], ho⟩
    exact ⟨j.step st, AM.refl _, st.ks⟩
  tocont := fun {h s c r lb x s'} j _ e => by
    have st := (toContinuable_stp c r lb).h s x s' e
    exact ⟨j.step st, ⟨AM.refl _, st.ks⟩, st.opened⟩
  cont := fun {h s h' s' bp node a} j _ e => by
    obtain ⟨rfl, ex⟩ := Hoare.lift_ok₂ (x := bpContinue bp node) e
    have st := (bpContinue_stp bp node).h s a s' ex
    exact ⟨j.step st, ⟨AM.refl _, st.ks⟩, st.opened⟩

end

end GM.ConvertH
