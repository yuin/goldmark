/-
  GM.Proof.E2EKeeps — invariants of the block-phase state that are carried through the whole block phase with paragraph
  transformers (`GM.Blocks.runT`, `GM.Convert.blockPhase`) without any precondition on the run. The first of them:

    `HeadOK s` : every node of the store whose kind is Heading has `1 ≤ Level ≤ 6`.

  A Heading's level is fixed when the node is created — by the ATX parser (atx_heading.go:93-99: `level = i - pos`,
  declined when `i == pos || level > 6`) or the setext parser (setext_headings.go:66-69: 1 or 2) — and no later step of
  the block phase writes a node's kind or level: every `modNode` of the model changes other fields only.

  `Keeps I m` ("when `m` answers normally from a state with `I`, the new state has `I`") is closed under `bind` / `pure` /
  `if` / `match`, so the proof for a model function is a syntactic walk over its `do` block (tactic `keeps`, after
  GM.Proof.BlocksPres's `pres`). Partial correctness: a Go panic / fuel error satisfies it vacuously. The walk is done
  once, for every invariant that the primitive steps keep (class `Walk`): what it asks of a node write and of an
  allocation is what ALL the invariants in use need (kind, level, info segment, closure line kept; no child added; a
  Paragraph keeps a line), and the few writes that break this are named: the two edge-adding writes, the line edits of
  the three `Close`, `fencedCodeBlockParser.Open` and `htmlBlockParser.Continue`. Heading levels, "node 0 is the Document"
  (here), the info / closure segments (GM.Proof.E2EXSegs), "a ListItem only below a List" (GM.Proof.E2EDriver) and "a
  Paragraph has a line" (GM.Proof.E2EDriver) are instances.
-/
import GM.Proof.BlocksPres
import GM.Proof.BlocksDriverKeeps
import GM.Model.Blocks.DriverT
import GM.Model.LinkRef

namespace GM.E2E
open GM GM.Text GM.Blocks

/-- a Heading node has a level the renderer can index `"0123456"` with (and `Spec.Inv` asks for) -/
def HeadP (n : Node) : Prop := n.kind = .heading → 1 ≤ n.level ∧ n.level ≤ 6

/-- the invariant of the block-phase store -/
def HeadOK (s : St) : Prop := ∀ n ∈ s.nodes, HeadP n

/-- `HeadOK` as a Boolean (what a driver / monitor can evaluate on a dumped store) -/
def headOKB (s : St) : Bool :=
  s.nodes.all fun n => n.kind != .heading || (decide (1 ≤ n.level) && decide (n.level ≤ 6))

theorem headOKB_iff (s : St) : headOKB s = true ↔ HeadOK s := by
  unfold headOKB HeadOK HeadP
  rw [List.all_eq_true]
  constructor
  · intro h n hn hk
    have := h n hn
    simp only [hk, bne_self_eq_false, Bool.false_or, Bool.and_eq_true, decide_eq_true_eq] at this
    exact this
  · intro h n hn
    by_cases hk : n.kind = .heading
    · have := h n hn hk
      simp [hk, this.1, this.2]
    · simp [hk]

theorem headP_default : HeadP (default : Node) := by
  intro h; cases h

/-- `m` keeps the invariant `I` whenever it answers normally -/
structure Keeps (I : St → Prop) {α : Type} (m : M α) : Prop where
  h : ∀ s a s', I s → m s = .ok (a, s') → I s'

variable {I : St → Prop}

theorem Keeps.pure {α} (a : α) : Keeps I (pure a : M α) :=
  ⟨fun s a' s' hs h => by cases h; exact hs⟩

theorem Keeps.bind {α β} {m : M α} {f : α → M β} (hm : Keeps I m) (hf : ∀ a, Keeps I (f a)) : Keeps I (m >>= f) := by
  constructor
  intro s b s'' hs h
  simp only [Bind.bind, StateT.bind] at h
  cases hms : m s with
  | error e => rw [hms] at h; simp [Except.bind] at h
  | ok p =>
    rw [hms] at h
    simp only [Except.bind] at h
    exact (hf p.1).h p.2 b s'' (hm.h s p.1 p.2 hs hms) h

theorem Keeps.ite {α} {c : Prop} [Decidable c] {a b : M α} (ha : c → Keeps I a) (hb : ¬ c → Keeps I b) :
    Keeps I (if c then a else b) := by
  split
  · exact ha ‹_›
  · exact hb ‹_›

theorem Keeps.throw {α} (e : Panic) : Keeps I (throw e : M α) :=
  ⟨fun _ _ _ _ h => by cases h⟩

theorem Keeps.and {A : St → Prop} {α} {m : M α} (h1 : Keeps I m) (h2 : Keeps A m) : Keeps (fun s => I s ∧ A s) m :=
  ⟨fun s a s' hs h => ⟨h1.h s a s' hs.1 h, h2.h s a s' hs.2 h⟩⟩

theorem getNode_keeps (id : Nat) : Keeps I (getNode id) := ⟨fun _ _ _ hs h => by cases h; exact hs⟩
theorem getPc_keeps : Keeps I getPc := ⟨fun _ _ _ hs h => by cases h; exact hs⟩
theorem source_keeps : Keeps I source := ⟨fun _ _ _ hs h => by cases h; exact hs⟩
theorem position_keeps : Keeps I position := ⟨fun _ _ _ hs h => by cases h; exact hs⟩
theorem get_keeps : Keeps I (get : M St) := ⟨fun _ _ _ hs h => by cases h; exact hs⟩

theorem liftE_ok {α} {e : Except Panic α} {s s' : St} {a : α} (h : liftE e s = .ok (a, s')) : e = .ok a ∧ s' = s := by
  unfold liftE at h
  cases e with
  | error x => simp [Except.map] at h
  | ok v => simp only [Except.map, Except.ok.injEq, Prod.mk.injEq] at h; exact ⟨by rw [h.1], h.2.symm⟩

theorem liftE_keeps {α} (e : Except Panic α) : Keeps I (liftE e) :=
  ⟨fun _ _ _ hs h => by rw [(liftE_ok h).2]; exact hs⟩

/-- a value computed without the state carries its equation -/
theorem liftE_bind {α β : Type} (e : Except Panic α) (k : α → M β) (h : ∀ a, e = .ok a → Keeps I (k a)) :
    Keeps I (liftE e >>= k) := by
  constructor
  intro s b s'' hs hm
  simp only [bind, StateT.bind] at hm
  cases hl : liftE e s with
  | error x => rw [hl] at hm; simp [Except.bind] at hm
  | ok p =>
    obtain ⟨a, s1⟩ := p
    rw [hl] at hm
    obtain ⟨h1, h2⟩ := liftE_ok hl
    subst h2
    exact (h a h1).h s1 b s'' hs hm

theorem getD_set (l : List Node) (id j : Nat) (x : Node) :
    (l.set id x).getD j default = if j = id ∧ id < l.length then x else l.getD j default := by
  simp only [List.getD_eq_getElem?_getD, List.getElem?_set]
  by_cases h : id = j
  · subst h
    by_cases h2 : id < l.length
    · simp [h2]
    · simp [h2]
  · have h' : ¬ j = id := fun e => h e.symm
    simp [h, h']

theorem getD_append (l : List Node) (n : Node) (j : Nat) :
    (l ++ [n]).getD j default = if j < l.length then l.getD j default else if j = l.length then n else default := by
  simp only [List.getD_eq_getElem?_getD]
  by_cases h : j < l.length
  · simp [h, List.getElem?_append_left h]
  · by_cases h2 : j = l.length
    · subst h2; simp
    · have : l.length + 1 ≤ j := by omega
      simp [h, h2, List.getElem?_eq_none (l := l ++ [n]) (by simp; omega)]

theorem default_children : (default : Node).children = [] := rfl
theorem default_kind : (default : Node).kind = .document := rfl

theorem kind_set (s : St) (id : Nat) (f : Node → Node) (hf : ∀ n, (f n).kind = n.kind) (j : Nat) :
    ((s.nodes.set id (f (s.nodes.getD id default))).getD j default).kind = (s.nodes.getD j default).kind := by
  rw [getD_set]
  split
  · rename_i hj; rw [hj.1]; exact hf _
  · rfl

theorem kind_append (s : St) (n : Node) (j : Nat) (hj : j < s.nodes.length) :
    ((s.nodes ++ [n]).getD j default).kind = (s.nodes.getD j default).kind := by
  rw [getD_append, if_pos hj]

/-- a side fact that every step keeps: blind to reader and context, kept by kind-preserving writes and by allocation -/
class Stable (A : St → Prop) : Prop where
  ronly : ∀ (s : St) (r : Reader) (pc : Ctx), A s → A { s with r := r, pc := pc }
  mod : ∀ (s : St) (id : Nat) (f : Node → Node), (∀ n, (f n).kind = n.kind) → A s →
    A { s with nodes := s.nodes.set id (f (s.nodes.getD id default)) }
  new : ∀ (s : St) (n : Node), A s → A { s with nodes := s.nodes ++ [n] }

instance stableTrue : Stable (fun _ => True) := ⟨fun _ _ _ _ => trivial, fun _ _ _ _ _ => trivial, fun _ _ _ => trivial⟩

instance stableAnd {A B : St → Prop} [Stable A] [Stable B] : Stable (fun s => A s ∧ B s) where
  ronly := fun s r pc h => ⟨Stable.ronly s r pc h.1, Stable.ronly s r pc h.2⟩
  mod := fun s id f hf h => ⟨Stable.mod s id f hf h.1, Stable.mod s id f hf h.2⟩
  new := fun s n h => ⟨Stable.new s n h.1, Stable.new s n h.2⟩

instance stableImp (P : Prop) {A : St → Prop} [Stable A] : Stable (fun s => P → A s) where
  ronly := fun s r pc h hp => Stable.ronly s r pc (h hp)
  mod := fun s id f hf h hp => Stable.mod s id f hf (h hp)
  new := fun s n h hp => Stable.new s n (h hp)

instance stableForall {ι : Type} {A : ι → St → Prop} [∀ i, Stable (A i)] : Stable (fun s => ∀ i, A i s) where
  ronly := fun s r pc h i => Stable.ronly s r pc (h i)
  mod := fun s id f hf h i => Stable.mod s id f hf (h i)
  new := fun s n h i => Stable.new s n (h i)

/-- node `id` exists and has kind `k` -/
def KindAt (id : Nat) (k : Kind) (s : St) : Prop := id < s.nodes.length ∧ (s.nodes.getD id default).kind = k

instance stableKindAt (id : Nat) (k : Kind) : Stable (KindAt id k) where
  ronly := fun _ _ _ h => h
  mod := fun s i f hf h => ⟨by simpa using h.1, by rw [kind_set s i f hf]; exact h.2⟩
  new := fun s n h => ⟨by have := h.1; simp; omega, by rw [kind_append s n id h.1]; exact h.2⟩

/-- the edge `c → p` may be added: a ListItem only below a List -/
def EdgeGood (c p : Nat) (s : St) : Prop :=
  c < s.nodes.length ∧ ((s.nodes.getD c default).kind = .listItem → (s.nodes.getD p default).kind = .list)

theorem edgeGood_of_kind {c p : Nat} {k : Kind} {s : St} (h : KindAt c k s) (hk : k ≠ .listItem) : EdgeGood c p s :=
  ⟨h.1, fun e => absurd (h.2.symm.trans e) hk⟩

theorem edgeGood_of_list {c p : Nat} {s : St} (hc : c < s.nodes.length) (h : KindAt p .list s) : EdgeGood c p s :=
  ⟨hc, fun _ => h.2⟩

/-- the write `f` does not take the last line of a Paragraph `n` -/
def LinesKept (f : Node → Node) (n : Node) : Prop := n.kind = .paragraph → n.lines ≠ [] → (f n).lines ≠ []

/-! ### frame invariants

  `Walk J E L` is what the walk over the block phase asks of an invariant `J`. The two flags say what `J` reads beyond a
  node's kind, heading level, info segment and closure line: `E` — the child lists, so that an edge may only be added when
  it is known to be good (`EdgeGood`); `L` — the lines of a Paragraph, so that a write that may empty them needs a
  reason. `Walk0` is the same for an invariant that is blind to the reader, the info segment and the closure line; `Frame0`
  and `Frame` are the cases `E = L = False`. -/

/-- a BLIND frame invariant: it does not look at the reader or the parse context, survives every write to a node that
    leaves kind and level alone, and survives the allocation of a node with `HeadP`. (Heading levels, "node 0 is the
    Document", "kinds never change" are of this form.) -/
class Frame0 (I : St → Prop) : Prop where
  ronly : ∀ (s : St) (r : Reader) (pc : Ctx), I s → I { s with r := r, pc := pc }
  mod : ∀ (s : St) (id : Nat) (f : Node → Node), (∀ n, (f n).kind = n.kind ∧ (f n).level = n.level) → I s →
    I { s with nodes := s.nodes.set id (f (s.nodes.getD id default)) }
  new : ∀ (s : St) (n : Node), HeadP n → I s → I { s with nodes := s.nodes ++ [n] }

/-- a FRAME invariant of the block-phase state (general form): it may look at the reader — then the seven reader
    primitives are obligations — survives a change of the parse context, every write to a node that leaves kind, level,
    info segment and closure line alone (in the model: EVERY `modNode` but the one in htmlBlockParser.Continue that sets the
    closure line), the allocation of a node with `HeadP`, no info segment and no closure line (EVERY `newNode` but the one
    of fencedCodeBlockParser.Open) — and the two exceptional parser functions are obligations of their own. -/
class Frame (I : St → Prop) : Prop where
  pcK : ∀ (s : St) (pc : Ctx), I s → I { s with pc := pc }
  peekLineK : Keeps I peekLine
  lineOffsetK : Keeps I lineOffset
  advanceK : ∀ n, Keeps I (advance n)
  advanceAndSetPaddingK : ∀ n p, Keeps I (advanceAndSetPadding n p)
  advanceLineK : Keeps I advanceLine
  setPositionK : ∀ l p, Keeps I (setPosition l p)
  skipBlankLinesRK : Keeps I skipBlankLinesR
  mod : ∀ (s : St) (id : Nat) (f : Node → Node),
    (∀ n, (f n).kind = n.kind ∧ (f n).level = n.level ∧ (f n).info = n.info ∧ (f n).closure = n.closure) → I s →
    I { s with nodes := s.nodes.set id (f (s.nodes.getD id default)) }
  new : ∀ (s : St) (n : Node), HeadP n → n.info = none → n.closure.start = -1 → I s → I { s with nodes := s.nodes ++ [n] }
  fencedOpenK : ∀ p, Keeps I (fencedOpen p)
  htmlContinueK : ∀ n, Keeps I (htmlContinue n)

/-- an invariant blind to the reader, the info segment and the closure line: kept by a change of the parse context that
    leaves the open-block stack alone, by a write to a node that keeps kind and level, adds no child and (`L`) does not
    take a Paragraph's last line, by the allocation of a childless node with `HeadP` that is no Paragraph without lines,
    and by the two edge-adding writes of ast.go (`AppendChild`, `InsertBefore`) when (`E`) the edge is good.
    `E` and `L` are `outParam`s: `J` determines them, so instance search finds them from `J` alone (the conclusions of the
    `…_keeps` lemmas mention only `J`) -/
class Walk0 (J : St → Prop) (E L : outParam Prop) : Prop where
  rd : ∀ (s : St) (r : Reader), J s → J { s with r := r }
  pc : ∀ (s : St) (pc : Ctx), pc.opened = s.pc.opened → J s → J { s with pc := pc }
  mod : ∀ (s : St) (id : Nat) (f : Node → Node),
    (∀ n, (f n).kind = n.kind ∧ (f n).level = n.level ∧ ∀ x ∈ (f n).children, x ∈ n.children) →
    (L → LinesKept f (s.nodes.getD id default)) → J s →
    J { s with nodes := s.nodes.set id (f (s.nodes.getD id default)) }
  new : ∀ (s : St) (n : Node), HeadP n → n.children = [] → (n.kind = .paragraph → n.lines ≠ []) → J s →
    J { s with nodes := s.nodes ++ [n] }
  edge : ∀ (s : St) (p c : Nat) (g : List Nat → List Nat), (∀ l x, x ∈ g l → x ∈ l ∨ x = c) → (E → EdgeGood c p s) → J s →
    J { s with nodes := s.nodes.set p ((fun n : Node => { n with children := g n.children }) (s.nodes.getD p default)) }

/-- the write `f` keeps what a frame invariant reads of a node, the lines apart -/
def NodeKept (f : Node → Node) : Prop :=
  ∀ n, (f n).kind = n.kind ∧ (f n).level = n.level ∧ (f n).info = n.info ∧ (f n).closure = n.closure ∧
    ∀ x ∈ (f n).children, x ∈ n.children

/-- the general form: the invariant may look at the reader, the info segment and the closure line, so the seven reader
    primitives, fencedCodeBlockParser.Open (which allocates a node with an info segment) and htmlBlockParser.Continue (which
    sets the closure line) are obligations of their own -/
class Walk (J : St → Prop) (E L : outParam Prop) : Prop where
  pc : ∀ (s : St) (pc : Ctx), pc.opened = s.pc.opened → J s → J { s with pc := pc }
  peekLine : Keeps J peekLine
  lineOffset : Keeps J lineOffset
  advance : ∀ n, Keeps J (advance n)
  advanceAndSetPadding : ∀ n p, Keeps J (advanceAndSetPadding n p)
  advanceLine : Keeps J advanceLine
  setPosition : ∀ l p, Keeps J (setPosition l p)
  skipBlankLinesR : Keeps J skipBlankLinesR
  mod : ∀ (s : St) (id : Nat) (f : Node → Node), NodeKept f → (L → LinesKept f (s.nodes.getD id default)) → J s →
    J { s with nodes := s.nodes.set id (f (s.nodes.getD id default)) }
  new : ∀ (s : St) (n : Node), HeadP n → n.info = none → n.closure.start = -1 → n.children = [] →
    (n.kind = .paragraph → n.lines ≠ []) → J s → J { s with nodes := s.nodes ++ [n] }
  edge : ∀ (s : St) (p c : Nat) (g : List Nat → List Nat), (∀ l x, x ∈ g l → x ∈ l ∨ x = c) → (E → EdgeGood c p s) → J s →
    J { s with nodes := s.nodes.set p ((fun n : Node => { n with children := g n.children }) (s.nodes.getD p default)) }
  fencedOpen : ∀ p, Keeps J (fencedOpen p)
  htmlContinue : ∀ n, Keeps J (htmlContinue n)

instance walk0OfFrame0 [Frame0 I] : Walk0 I False False where
  rd := fun s r hs => Frame0.ronly s r s.pc hs
  pc := fun s pc _ hs => Frame0.ronly s s.r pc hs
  mod := fun s id f hf _ hs => Frame0.mod s id f (fun n => ⟨(hf n).1, (hf n).2.1⟩) hs
  new := fun s n hn _ _ hs => Frame0.new s n hn hs
  edge := fun s p _ g _ _ hs => Frame0.mod s p (fun n => { n with children := g n.children }) (fun _ => ⟨rfl, rfl⟩) hs

instance frame0OfStable {A : St → Prop} [Stable A] : Frame0 A where
  ronly := Stable.ronly
  mod := fun s id f hf hs => Stable.mod s id f (fun n => (hf n).1) hs
  new := fun s n _ hs => Stable.new s n hs

namespace F0
variable {J : St → Prop} {E L : Prop}

theorem Keeps.of_rd [Walk0 J E L] {α} {m : M α} (h : ∀ s a s', m s = .ok (a, s') → s' = { s with r := s'.r }) : Keeps J m :=
  ⟨fun s a s' hs hm => by rw [h s a s' hm]; exact Walk0.rd s _ hs⟩

theorem modPc_keeps [Walk0 J E L] (f : Ctx → Ctx) (hf : ∀ pc, (f pc).opened = pc.opened) : Keeps J (modPc f) :=
  ⟨fun s _ _ hs h => by cases h; exact Walk0.pc s _ (hf _) hs⟩
theorem advanceLine_keeps [Walk0 J E L] : Keeps J advanceLine := Keeps.of_rd fun _ _ _ h => by cases h; rfl
theorem setPosition_keeps [Walk0 J E L] (l : Int) (p : Segment) : Keeps J (setPosition l p) :=
  Keeps.of_rd fun _ _ _ h => by cases h; rfl

theorem peekLine_keeps [Walk0 J E L] : Keeps J peekLine :=
  Keeps.of_rd fun s a s' h => by
    unfold peekLine at h
    cases hr : s.r.peekLine with
    | error x => simp [hr, bind, Except.bind] at h
    | ok v => simp only [hr, bind, Except.bind, pure, Except.pure, Except.ok.injEq, Prod.mk.injEq] at h; rw [← h.2]

theorem lineOffset_keeps [Walk0 J E L] : Keeps J lineOffset :=
  Keeps.of_rd fun s a s' h => by
    unfold lineOffset at h
    cases hr : s.r.lineOffsetOp with
    | error x => simp [hr, bind, Except.bind] at h
    | ok v => simp only [hr, bind, Except.bind, pure, Except.pure, Except.ok.injEq, Prod.mk.injEq] at h; rw [← h.2]

theorem advance_keeps [Walk0 J E L] (n : Int) : Keeps J (advance n) :=
  Keeps.of_rd fun s a s' h => by
    unfold advance at h
    cases hr : s.r.advance n with
    | error x => simp [hr, bind, Except.bind] at h
    | ok v => simp only [hr, bind, Except.bind, pure, Except.pure, Except.ok.injEq, Prod.mk.injEq] at h; rw [← h.2]

theorem advanceAndSetPadding_keeps [Walk0 J E L] (n p : Int) : Keeps J (advanceAndSetPadding n p) :=
  Keeps.of_rd fun s a s' h => by
    unfold advanceAndSetPadding at h
    cases hr : s.r.advanceAndSetPadding n p with
    | error x => simp [hr, bind, Except.bind] at h
    | ok v => simp only [hr, bind, Except.bind, pure, Except.pure, Except.ok.injEq, Prod.mk.injEq] at h; rw [← h.2]

theorem skipBlankLinesR_keeps [Walk0 J E L] : Keeps J skipBlankLinesR :=
  Keeps.of_rd fun s a s' h => by
    unfold skipBlankLinesR at h
    cases hr : skipBlankLines readerOps (loopFuel s.r.source) 0 s.r with
    | error x => simp [hr, bind, Except.bind] at h
    | ok v => simp only [hr, bind, Except.bind, pure, Except.pure, Except.ok.injEq, Prod.mk.injEq] at h; rw [← h.2]

theorem modNode_keeps [Walk0 J E L] (id : Nat) (f : Node → Node)
    (hf : ∀ n, (f n).kind = n.kind ∧ (f n).level = n.level ∧ (f n).children = n.children ∧ (f n).lines = n.lines) :
    Keeps J (modNode id f) := by
  constructor
  intro s a s' hs h
  cases h
  exact Walk0.mod s id f (fun n => ⟨(hf n).1, (hf n).2.1, fun x hx => (hf n).2.2.1 ▸ hx⟩)
    (fun _ _ hl => by rw [(hf _).2.2.2]; exact hl) hs

theorem newNode_keeps [Walk0 J E L] (n : Node) (hn : HeadP n) (hc : n.children = []) (hp : n.kind ≠ .paragraph) :
    Keeps J (newNode n) := by
  constructor
  intro s a s' hs h
  cases h
  exact Walk0.new s n hn hc (fun e => absurd e hp) hs

theorem appendLine_keeps [Walk0 J E L] (id : Nat) (seg : Segment) : Keeps J (appendLine id seg) := by
  constructor
  intro s a s' hs h
  cases h
  exact Walk0.mod s id (fun n => { n with lines := n.lines ++ [seg], linesNil := false })
    (fun _ => ⟨rfl, rfl, fun _ hx => hx⟩) (fun _ _ _ => List.append_ne_nil_of_right_ne_nil _ (List.cons_ne_nil _ _)) hs

macro "keeps0_step" : tactic =>
  `(tactic| first
    | intro _
    | with_reducible apply Keeps.bind
    | with_reducible apply Keeps.pure
    | with_reducible apply Keeps.ite
    | with_reducible apply Keeps.throw
    | with_reducible apply getNode_keeps
    | with_reducible apply getPc_keeps
    | with_reducible apply source_keeps
    | with_reducible apply liftE_keeps
    | with_reducible apply peekLine_keeps
    | with_reducible apply advance_keeps
    | with_reducible apply appendLine_keeps
    | ((with_reducible apply modPc_keeps); exact fun _ => rfl)
    | ((with_reducible apply modNode_keeps); exact fun _ => ⟨rfl, rfl, rfl, rfl⟩)
    | ((with_reducible apply newNode_keeps) <;> first | rfl | (intro h; cases h; done))
    | split)

/-- walk over the two parser functions that are obligations of `Walk` -/
macro "keeps0" : tactic => `(tactic| repeat' keeps0_step)

theorem fencedOpen_keeps [Walk0 J E L] (p : Nat) : Keeps J (fencedOpen p) := by
  unfold fencedOpen; keeps0

theorem htmlContinue_keeps [Walk0 J E L] (n : Nat) : Keeps J (htmlContinue n) := by
  unfold htmlContinue; keeps0

theorem get_keeps [Frame0 I] : Keeps I (get : M St) := E2E.get_keeps
theorem position_keeps [Frame0 I] : Keeps I position := E2E.position_keeps

end F0

variable {J : St → Prop} {E L : Prop}

instance (priority := low) walkOfWalk0 [Walk0 J E L] : Walk J E L where
  pc := Walk0.pc
  peekLine := F0.peekLine_keeps
  lineOffset := F0.lineOffset_keeps
  advance := F0.advance_keeps
  advanceAndSetPadding := F0.advanceAndSetPadding_keeps
  advanceLine := F0.advanceLine_keeps
  setPosition := F0.setPosition_keeps
  skipBlankLinesR := F0.skipBlankLinesR_keeps
  mod := fun s id f hf hl hs => Walk0.mod s id f (fun n => ⟨(hf n).1, (hf n).2.1, (hf n).2.2.2.2⟩) hl hs
  new := fun s n hn _ _ hc hl hs => Walk0.new s n hn hc hl hs
  edge := Walk0.edge
  fencedOpen := F0.fencedOpen_keeps
  htmlContinue := F0.htmlContinue_keeps

instance walkOfFrame [Frame I] : Walk I False False where
  pc := fun s pc _ hs => Frame.pcK s pc hs
  peekLine := Frame.peekLineK
  lineOffset := Frame.lineOffsetK
  advance := Frame.advanceK
  advanceAndSetPadding := Frame.advanceAndSetPaddingK
  advanceLine := Frame.advanceLineK
  setPosition := Frame.setPositionK
  skipBlankLinesR := Frame.skipBlankLinesRK
  mod := fun s id f hf _ hs => Frame.mod s id f (fun n => ⟨(hf n).1, (hf n).2.1, (hf n).2.2.1, (hf n).2.2.2.1⟩) hs
  new := fun s n hn hi hc _ _ hs => Frame.new s n hn hi hc hs
  edge := fun s p _ g _ _ hs =>
    Frame.mod s p (fun n => { n with children := g n.children }) (fun _ => ⟨rfl, rfl, rfl, rfl⟩) hs
  fencedOpen := Frame.fencedOpenK
  htmlContinue := Frame.htmlContinueK

instance (priority := low) frameOfBlind [Frame0 I] : Frame I where
  pcK := fun s pc hs => Frame0.ronly s s.r pc hs
  peekLineK := F0.peekLine_keeps
  lineOffsetK := F0.lineOffset_keeps
  advanceK := F0.advance_keeps
  advanceAndSetPaddingK := F0.advanceAndSetPadding_keeps
  advanceLineK := F0.advanceLine_keeps
  setPositionK := F0.setPosition_keeps
  skipBlankLinesRK := F0.skipBlankLinesR_keeps
  mod := fun s id f hf hs => Frame0.mod s id f (fun n => ⟨(hf n).1, (hf n).2.1⟩) hs
  new := fun s n hn _ _ hs => Frame0.new s n hn hs
  fencedOpenK := F0.fencedOpen_keeps
  htmlContinueK := F0.htmlContinue_keeps

instance walkAnd {A : St → Prop} [Walk J E L] [Stable A] : Walk (fun s => J s ∧ A s) E L where
  pc := fun s pc h hs => ⟨Walk.pc s pc h hs.1, Stable.ronly s s.r pc hs.2⟩
  peekLine := Keeps.and Walk.peekLine F0.peekLine_keeps
  lineOffset := Keeps.and Walk.lineOffset F0.lineOffset_keeps
  advance := fun n => Keeps.and (Walk.advance n) (F0.advance_keeps n)
  advanceAndSetPadding := fun n p => Keeps.and (Walk.advanceAndSetPadding n p) (F0.advanceAndSetPadding_keeps n p)
  advanceLine := Keeps.and Walk.advanceLine F0.advanceLine_keeps
  setPosition := fun l p => Keeps.and (Walk.setPosition l p) (F0.setPosition_keeps l p)
  skipBlankLinesR := Keeps.and Walk.skipBlankLinesR F0.skipBlankLinesR_keeps
  mod := fun s id f hf hl hs => ⟨Walk.mod s id f hf hl hs.1, Stable.mod s id f (fun n => (hf n).1) hs.2⟩
  new := fun s n hn hi hc hch hl hs => ⟨Walk.new s n hn hi hc hch hl hs.1, Stable.new s n hs.2⟩
  edge := fun s p c g hg he hs => ⟨Walk.edge s p c g hg he hs.1, Stable.mod s p (fun n : Node => { n with children := g n.children }) (fun _ => rfl) hs.2⟩
  fencedOpen := fun p => Keeps.and (Walk.fencedOpen p) (F0.fencedOpen_keeps p)
  htmlContinue := fun n => Keeps.and (Walk.htmlContinue n) (F0.htmlContinue_keeps n)

theorem modPc_keeps [Walk J E L] (f : Ctx → Ctx) (hf : ∀ pc, (f pc).opened = pc.opened) : Keeps J (modPc f) :=
  ⟨fun s _ _ hs h => by cases h; exact Walk.pc s _ (hf _) hs⟩
theorem advanceLine_keeps [Walk J E L] : Keeps J advanceLine := Walk.advanceLine
theorem setPosition_keeps [Walk J E L] (l : Int) (p : Segment) : Keeps J (setPosition l p) := Walk.setPosition l p
theorem peekLine_keeps [Walk J E L] : Keeps J peekLine := Walk.peekLine
theorem lineOffset_keeps [Walk J E L] : Keeps J lineOffset := Walk.lineOffset
theorem advance_keeps [Walk J E L] (n : Int) : Keeps J (advance n) := Walk.advance n
theorem advanceAndSetPadding_keeps [Walk J E L] (n p : Int) : Keeps J (advanceAndSetPadding n p) :=
  Walk.advanceAndSetPadding n p
theorem skipBlankLinesR_keeps [Walk J E L] : Keeps J skipBlankLinesR := Walk.skipBlankLinesR

theorem modNodeAt_keeps [Walk J E L] (id : Nat) (f : Node → Node) (hf : NodeKept f)
    (hl : ∀ s, J s → L → LinesKept f (s.nodes.getD id default)) : Keeps J (modNode id f) := by
  constructor
  intro s a s' hs h
  cases h
  exact Walk.mod s id f hf (hl s hs) hs

/-- a write that leaves lines where there were lines (in the model: every write but the line edits of the three `Close`) -/
theorem modNode_keeps [Walk J E L] (id : Nat) (f : Node → Node) (hf : NodeKept f)
    (hl : ∀ n, n.lines ≠ [] → (f n).lines ≠ []) : Keeps J (modNode id f) :=
  modNodeAt_keeps id f hf fun _ _ _ _ => hl _

theorem newNode_keeps [Walk J E L] (n : Node) (hn : HeadP n) (hi : n.info = none) (hc : n.closure.start = -1)
    (hch : n.children = []) (hl : n.kind = .paragraph → n.lines ≠ []) : Keeps J (newNode n) := by
  constructor
  intro s a s' hs h
  cases h
  exact Walk.new s n hn hi hc hch hl hs

theorem edge_keeps [Walk J E L] (p c : Nat) (g : List Nat → List Nat) (hg : ∀ l x, x ∈ g l → x ∈ l ∨ x = c)
    (he : ∀ s, J s → E → EdgeGood c p s) : Keeps J (modNode p fun n => { n with children := g n.children }) := by
  constructor
  intro s a s' hs h
  cases h
  exact Walk.edge s p c g hg (he s hs) hs

theorem appendLine_keeps [Walk J E L] (id : Nat) (seg : Segment) : Keeps J (appendLine id seg) :=
  modNode_keeps _ _ (fun _ => ⟨rfl, rfl, rfl, rfl, fun _ h => h⟩)
    (fun _ _ => List.append_ne_nil_of_right_ne_nil _ (List.cons_ne_nil _ _))

/-- **allocation with its post-condition**: behind `newNode n` the new node `id` exists and has the kind of `n` -/
theorem newNode_bind [Walk J E L] {β : Type} (n : Node) (k : Nat → M β) (hn : HeadP n) (hi : n.info = none)
    (hc : n.closure.start = -1) (hch : n.children = []) (hl : n.kind = .paragraph → n.lines ≠ [])
    (h : ∀ id, Keeps (fun s => J s ∧ KindAt id n.kind s) (k id)) : Keeps J (newNode n >>= k) := by
  constructor
  intro s b s'' hs hm
  simp only [bind, StateT.bind, newNode, pure, Except.pure, Except.bind] at hm
  have h1 : KindAt s.nodes.length n.kind ({ s with nodes := s.nodes ++ [n] } : St) := by
    refine ⟨by simp, ?_⟩
    show ((s.nodes ++ [n]).getD s.nodes.length default).kind = n.kind
    rw [getD_append, if_neg (Nat.lt_irrefl _), if_pos rfl]
  exact ((h s.nodes.length).h _ b s'' ⟨Walk.new s n hn hi hc hch hl hs, h1⟩ hm).1

/-- paragraph.go:29-30 / setext_headings.go:101-102: a new Paragraph gets its first line at once -/
theorem newPara_bind [Walk J E L] {β : Type} (seg : Segment) (k : Nat → M β)
    (h : ∀ id, Keeps (fun s => J s ∧ KindAt id .paragraph s) (k id)) :
    Keeps J (newNode ({ kind := .paragraph } : Node) >>= fun id => appendLine id seg >>= fun _ => k id) := by
  constructor
  intro s b s'' hs hm
  simp only [bind, StateT.bind, newNode, appendLine, modNode, pure, Except.pure, Except.bind] at hm
  have e : ((s.nodes ++ [({ kind := .paragraph } : Node)]).set s.nodes.length
      ((fun n : Node => { n with lines := n.lines ++ [seg], linesNil := false })
        ((s.nodes ++ [({ kind := .paragraph } : Node)]).getD s.nodes.length default))) =
      s.nodes ++ [({ kind := .paragraph, lines := [seg], linesNil := false } : Node)] := by
    rw [getD_append, if_neg (Nat.lt_irrefl _), if_pos rfl]
    simp
  simp only [e] at hm
  have h1 : KindAt s.nodes.length .paragraph
      ({ s with nodes := s.nodes ++ [({ kind := .paragraph, lines := [seg], linesNil := false } : Node)] } : St) := by
    refine ⟨by simp, ?_⟩
    show ((s.nodes ++ [_]).getD s.nodes.length default).kind = _
    rw [getD_append, if_neg (Nat.lt_irrefl _), if_pos rfl]
  exact ((h s.nodes.length).h _ b s'' ⟨Walk.new s _ (fun h => by cases h) rfl rfl rfl (fun _ => by simp) hs, h1⟩ hm).1

/-- one step of the walk over an `M` do block: the rule of the calculus or the primitive that fits; the three shapes of
    `modNode` it knows are: lines and children untouched, a child erased, a line put in front -/
macro "keeps_step" : tactic =>
  `(tactic| first
    | intro _
    | with_reducible apply Keeps.bind
    | with_reducible apply Keeps.pure
    | with_reducible apply Keeps.ite
    | with_reducible apply Keeps.throw
    | with_reducible apply getNode_keeps
    | with_reducible apply getPc_keeps
    | with_reducible apply liftE_keeps
    | with_reducible apply peekLine_keeps
    | with_reducible apply source_keeps
    | with_reducible apply position_keeps
    | with_reducible apply get_keeps
    | with_reducible apply lineOffset_keeps
    | with_reducible apply advance_keeps
    | with_reducible apply appendLine_keeps
    | with_reducible apply advanceAndSetPadding_keeps
    | with_reducible apply advanceLine_keeps
    | with_reducible apply setPosition_keeps
    | with_reducible apply skipBlankLinesR_keeps
    | ((with_reducible apply modPc_keeps); exact fun _ => rfl)
    | ((with_reducible apply modNode_keeps) <;>
        first | exact fun _ => ⟨rfl, rfl, rfl, rfl, fun _ h => h⟩ | exact fun _ h => h
              | exact fun _ => ⟨rfl, rfl, rfl, rfl, fun _ h => List.mem_of_mem_erase h⟩
              | exact fun _ _ => List.cons_ne_nil _ _)
    | ((with_reducible apply newNode_keeps) <;> first | rfl | (intro h; cases h; done))
    | apply_hyp
    | split)

/-- walk over an `M` do block -/
macro "keeps" : tactic => `(tactic| repeat' keeps_step)

/-- the walk for the functions that allocate a node and link it: behind the allocation the node's kind is known -/
macro "keepsN_step" : tactic =>
  `(tactic| first
    | (with_reducible refine newPara_bind _ _ ?_)
    | ((with_reducible apply newNode_bind) <;> first | rfl | (intro h; cases h; done) | skip)
    | keeps_step)

macro "keepsN" : tactic => `(tactic| repeat' keepsN_step)

theorem lastOpenedBlock_keeps : Keeps I lastOpenedBlock := by
  unfold lastOpenedBlock; keeps

theorem nextSibling_keeps (c : Nat) : Keeps I (nextSibling c) := by
  unfold nextSibling; keeps

theorem lastOffset_keeps (n : Nat) : Keeps I (lastOffset n) := by
  unfold lastOffset; keeps

theorem lastChildCount_keeps (n : Nat) : Keeps I (lastChildCount n) := by
  unfold lastChildCount; keeps

theorem mem_insertBeforeIn (v ins : Nat) (l : List Nat) (x : Nat) (h : x ∈ insertBeforeIn v ins l) : x ∈ l ∨ x = ins :=
  (qs_mem_insertBeforeIn h).symm

theorem scanWhileEq_ge (line : Bytes) (c : UInt8) (i : Int) (hi : 0 ≤ i) : i ≤ scanWhileEq line c i := by
  unfold scanWhileEq
  split
  · omega
  · omega

theorem atx_level (line : Bytes) (c : UInt8) (pos : Int) (h0 : ¬ pos < 0)
    (h : ¬ ((scanWhileEq line c pos == pos || decide (scanWhileEq line c pos - pos > 6)) = true)) :
    1 ≤ scanWhileEq line c pos - pos ∧ scanWhileEq line c pos - pos ≤ 6 := by
  have hge := scanWhileEq_ge line c pos (by omega)
  simp only [Bool.or_eq_true, beq_iff_eq, decide_eq_true_eq, not_or] at h
  omega

section walk
variable [iw : Walk J E L]
include iw

theorem removeChild_keeps (p c : Nat) : Keeps J (removeChild p c) := by
  unfold removeChild; keeps

theorem ensureIsolated_keeps (c : Nat) : Keeps J (ensureIsolated c) := by
  have := removeChild_keeps (J := J)
  unfold ensureIsolated; keeps

theorem appendChild_keeps (p c : Nat) (he : ∀ s, J s → E → EdgeGood c p s := by exact fun _ _ h => False.elim h) :
    Keeps J (appendChild p c) := by
  have := ensureIsolated_keeps (J := J)
  have := edge_keeps (J := J) p c (fun l => l ++ [c]) (fun l x hx => by
    rcases List.mem_append.1 hx with h | h
    · exact .inl h
    · exact .inr (by simpa using h)) he
  unfold appendChild; keeps

theorem insertBefore_keeps (p : Nat) (v1 : Option Nat) (ins : Nat)
    (he : ∀ s, J s → E → EdgeGood ins p s := by exact fun _ _ h => False.elim h) : Keeps J (insertBefore p v1 ins) := by
  have := ensureIsolated_keeps (J := J)
  have := appendChild_keeps (J := J) p ins he
  have := fun v => edge_keeps (J := J) p ins (insertBeforeIn v ins) (mem_insertBeforeIn v ins) he
  unfold insertBefore; keeps

theorem insertAfter_keeps (p : Nat) (v1 : Option Nat) (ins : Nat)
    (he : ∀ s, J s → E → EdgeGood ins p s := by exact fun _ _ h => False.elim h) : Keeps J (insertAfter p v1 ins) := by
  have := appendChild_keeps (J := J) p ins he
  have := nextSibling_keeps (I := J)
  have := fun v => insertBefore_keeps (J := J) p v ins he
  unfold insertAfter; keeps

theorem replaceChild_keeps (p v1 ins : Nat)
    (he : ∀ s, J s → E → EdgeGood ins p s := by exact fun _ _ h => False.elim h) : Keeps J (replaceChild p v1 ins) := by
  have := fun v => insertBefore_keeps (J := J) p v ins he
  have := removeChild_keeps (J := J)
  unfold replaceChild; keeps

end walk

section walk
variable [iw : Walk J E L]
include iw

theorem paragraphOpen_keeps (p : Nat) : Keeps J (paragraphOpen p) := by
  unfold paragraphOpen; keepsN

theorem paragraphContinue_keeps (n : Nat) : Keeps J (paragraphContinue n) := by
  unfold paragraphContinue; keeps

/-- paragraph.go:49-58: trimming the lines leaves as many as there were -/
theorem paragraphClose_keeps (n : Nat) : Keeps J (paragraphClose n) := by
  have := removeChild_keeps (J := J)
  unfold paragraphClose
  refine Keeps.bind (getNode_keeps n) (fun nd => ?_)
  refine Keeps.bind source_keeps (fun src => ?_)
  refine Keeps.ite (fun hne => ?_) (fun _ => by keeps)
  refine liftE_bind _ _ (fun ls h1 => ?_)
  refine liftE_bind _ _ (fun l1 _ => ?_)
  refine liftE_bind _ _ (fun l2 _ => ?_)
  refine liftE_bind _ _ (fun ls' h4 => ?_)
  refine Keeps.bind (modNodeAt_keeps _ _ (fun _ => ⟨rfl, rfl, rfl, rfl, fun _ h => h⟩) (fun _ _ _ _ _ e => ?_))
    (fun _ => by keeps)
  have e1 := lineSet_length h4
  have e2 := trimLeftAll_length _ _ _ h1
  have e' : ls' = [] := e
  rw [e'] at e1
  simp only [List.length_nil] at e1
  simp only [bne_iff_ne, ne_eq] at hne
  omega

theorem thematicOpen_keeps (p : Nat) : Keeps J (thematicOpen p) := by
  unfold thematicOpen; keeps

/-- atx_heading.go:93-99: the level is the length of the `#` run, and the parser declines unless it is 1..6 -/
theorem atxOpen_keeps (p : Nat) : Keeps J (atxOpen p) := by
  unfold atxOpen
  keeps
  all_goals
    refine newNode_keeps _ ?_ rfl rfl rfl (fun h => by cases h)
    intro _
    exact atx_level _ _ _ (by assumption) (by assumption)

/-- setext_headings.go:66-69: level 1 (`=`) or 2 (`-`) -/
theorem setextOpen_keeps (p : Nat) : Keeps J (setextOpen p) := by
  have := lastOpenedBlock_keeps (I := J)
  have hnew : ∀ c : UInt8, Keeps J (newNode { kind := .heading, level := if c == 45 then 2 else 1 }) := by
    intro c
    refine newNode_keeps _ ?_ rfl rfl rfl (fun h => by cases h)
    intro _
    simp only
    split <;> omega
  unfold setextOpen; keeps

/-- setext_headings.go:82-118: the lines of the heading `n` are taken away and given back, which (`L`) needs `n` to be no
    Paragraph; the Paragraph put behind the heading (100-104) is fresh -/
theorem setextClose_keeps (n : Nat)
    (hk : ∀ s, J s → L → (s.nodes.getD n default).kind ≠ .paragraph := by exact fun _ _ h => False.elim h) :
    Keeps J (setextClose n) := by
  have h1 := @removeChild_keeps
  have h2 := @nextSibling_keeps
  have hcut : ∀ f, NodeKept f → Keeps J (modNode n f) :=
    fun f hf => modNodeAt_keeps n f hf (fun s hs hl hp => absurd hp (hk s hs hl))
  have hins : ∀ (J' : St → Prop) [Walk J' E L] (hp para : Nat),
      Keeps (fun s => J' s ∧ KindAt para .paragraph s) (insertAfter hp (some n) para) :=
    fun J' _ hp para => insertAfter_keeps hp (some n) para (fun _ h _ => edgeGood_of_kind h.2 (fun h => by cases h))
  unfold setextClose; keepsN
  all_goals exact ⟨rfl, rfl, rfl, rfl, fun _ h => h⟩

theorem preserveLeadingTab_keeps (seg : Segment) (ind : Int) : Keeps J (preserveLeadingTab seg ind) := by
  unfold preserveLeadingTab; keeps

theorem codeTakeLine_keeps (n : Nat) (pos padding : Int) : Keeps J (codeTakeLine n pos padding) := by
  have := preserveLeadingTab_keeps (J := J)
  unfold codeTakeLine; keeps

theorem codeOpen_keeps (p : Nat) : Keeps J (codeOpen p) := by
  have := codeTakeLine_keeps (J := J)
  unfold codeOpen; keeps

theorem codeContinue_keeps (n : Nat) : Keeps J (codeContinue n) := by
  have := codeTakeLine_keeps (J := J)
  unfold codeContinue; keeps

/-- code_block.go:73-87 cuts the trailing blank lines of `n`, which (`L`) needs `n` to be no Paragraph -/
theorem codeClose_keeps (n : Nat)
    (hk : ∀ s, J s → L → (s.nodes.getD n default).kind ≠ .paragraph := by exact fun _ _ h => False.elim h) :
    Keeps J (codeClose n) := by
  have hcut : ∀ f, NodeKept f → Keeps J (modNode n f) :=
    fun f hf => modNodeAt_keeps n f hf (fun s hs hl hp => absurd hp (hk s hs hl))
  unfold codeClose; keeps
  all_goals exact ⟨rfl, rfl, rfl, rfl, fun _ h => h⟩

theorem fencedOpen_keeps (p : Nat) : Keeps J (fencedOpen p) := Walk.fencedOpen p

theorem fencedContinue_keeps (n : Nat) : Keeps J (fencedContinue n) := by
  have := preserveLeadingTab_keeps (J := J)
  unfold fencedContinue; keeps

theorem fencedClose_keeps (n : Nat) : Keeps J (fencedClose n) := by
  unfold fencedClose; keeps

theorem blockquoteProcess_keeps : Keeps J blockquoteProcess := by
  unfold blockquoteProcess; keeps

theorem blockquoteOpen_keeps (p : Nat) : Keeps J (blockquoteOpen p) := by
  have := blockquoteProcess_keeps (J := J)
  unfold blockquoteOpen; keeps

theorem blockquoteContinue_keeps (n : Nat) : Keeps J (blockquoteContinue n) := by
  have := blockquoteProcess_keeps (J := J)
  unfold blockquoteContinue; keeps

theorem listOpen_keeps (p : Nat) : Keeps J (listOpen p) := by
  have := lastOpenedBlock_keeps (I := J)
  unfold listOpen; keeps

theorem listContinue_keeps (n : Nat) : Keeps J (listContinue n) := by
  have := lastOpenedBlock_keeps (I := J)
  have := lastOffset_keeps (I := J)
  have := lastChildCount_keeps (I := J)
  unfold listContinue; keeps

end walk

/-- list.go:268-276: the TextBlock that replaces a Paragraph is fresh -/
theorem tightenItem_keeps : ∀ (gcs : List Nat) (J : St → Prop) {E L : Prop} [Walk J E L] (child : Nat),
    Keeps J (tightenItem child gcs)
  | [], J, _, _, _, child => by unfold tightenItem; keeps
  | gc :: gcs, J, E, L, _, child => by
    have ih := tightenItem_keeps gcs
    have hrep : ∀ (J' : St → Prop) [Walk J' E L] (tb : Nat),
        Keeps (fun s => J' s ∧ KindAt tb .textBlock s) (replaceChild child gc tb) :=
      fun J' _ tb => replaceChild_keeps child gc tb (fun _ h _ => edgeGood_of_kind h.2 (fun h => by cases h))
    unfold tightenItem; keepsN

section walk
variable [iw : Walk J E L]
include iw

theorem tightenItems_keeps (cs : List Nat) : Keeps J (tightenItems cs) := by
  have := fun c g => tightenItem_keeps g J c
  induction cs with
  | nil => unfold tightenItems; keeps
  | cons c cs ih => unfold tightenItems; keeps

theorem listClose_keeps (n : Nat) : Keeps J (listClose n) := by
  have := tightenItems_keeps (J := J)
  unfold listClose; keeps

theorem listItemOpen_keeps (p : Nat) : Keeps J (listItemOpen p) := by
  have := lastOffset_keeps (I := J)
  unfold listItemOpen; keeps

theorem listItemContinue_keeps (n : Nat) : Keeps J (listItemContinue n) := by
  have := lastOffset_keeps (I := J)
  unfold listItemContinue; keeps

theorem htmlOpen_keeps (p : Nat) : Keeps J (htmlOpen p) := by
  have := lastOpenedBlock_keeps (I := J)
  unfold htmlOpen; keeps

theorem htmlContinue_keeps (n : Nat) : Keeps J (htmlContinue n) := Walk.htmlContinue n

theorem bpOpen_keeps (bp : BP) (p : Nat) : Keeps J (bpOpen bp p) := by
  cases bp <;> unfold bpOpen
  · exact setextOpen_keeps p
  · exact thematicOpen_keeps p
  · exact listOpen_keeps p
  · exact listItemOpen_keeps p
  · exact codeOpen_keeps p
  · exact atxOpen_keeps p
  · exact fencedOpen_keeps p
  · exact blockquoteOpen_keeps p
  · exact htmlOpen_keeps p
  · exact paragraphOpen_keeps p

theorem bpContinue_keeps (bp : BP) (n : Nat) : Keeps J (bpContinue bp n) := by
  cases bp <;> unfold bpContinue
  · exact Keeps.pure _
  · exact Keeps.pure _
  · exact listContinue_keeps n
  · exact listItemContinue_keeps n
  · exact codeContinue_keeps n
  · exact Keeps.pure _
  · exact fencedContinue_keeps n
  · exact blockquoteContinue_keeps n
  · exact htmlContinue_keeps n
  · exact paragraphContinue_keeps n

/-- `Close` of a parser other than the paragraph parser (`L`) needs its node to be no Paragraph -/
theorem bpClose_keeps (bp : BP) (n : Nat)
    (hk : ∀ s, J s → L → bp ≠ .paragraph → (s.nodes.getD n default).kind ≠ .paragraph := by
      exact fun _ _ h => False.elim h) : Keeps J (bpClose bp n) := by
  cases bp <;> unfold bpClose
  · exact setextClose_keeps n (fun s hs hl => hk s hs hl (fun h => by cases h))
  · exact Keeps.pure _
  · exact listClose_keeps n
  · exact Keeps.pure _
  · exact codeClose_keeps n (fun s hs hl => hk s hs hl (fun h => by cases h))
  · exact Keeps.pure _
  · exact fencedClose_keeps n
  · exact Keeps.pure _
  · exact Keeps.pure _
  · exact paragraphClose_keeps n

/-- every transformer of the list keeps the invariant -/
def PTsKeep (I : St → Prop) (pts : List PT) : Prop := ∀ pt ∈ pts, ∀ n, Keeps I (pt n)

end walk

theorem transformParagraph_keeps : ∀ (pts : List PT), PTsKeep I pts → ∀ n, Keeps I (transformParagraph pts n)
  | [], _, n => by unfold transformParagraph; keeps
  | pt :: pts, hp, n => by
    have h1 : ∀ n, Keeps I (pt n) := hp pt (List.mem_cons_self ..)
    have h2 := transformParagraph_keeps pts (fun q hq => hp q (List.mem_cons_of_mem _ hq))
    unfold transformParagraph; keeps

theorem keeps_iff {α : Type} {m : M α} : Keeps I m ↔ GM.Hoare.Inv GM.Hoare.Top I m :=
  ⟨fun h => GM.Hoare.Tri.top_iff.2 h.h, fun h => ⟨GM.Hoare.Tri.top_iff.1 h⟩⟩

theorem Keeps.of_side {α : Type} {m : M α} (h : GM.Hoare.Inv GM.Hoare.Top (fun s => I s ∧ True) m) : Keeps I m :=
  ⟨fun s a s' hs e => (GM.Hoare.Tri.top_iff.1 h s a s' ⟨hs, trivial⟩ e).1⟩

/-- any change of the parse context, the open-block stack included -/
theorem setOpened_keeps [Frame I] (f : Ctx → Ctx) : Keeps I (modPc f) :=
  ⟨fun s _ _ hs h => by cases h; exact Frame.pcK s _ hs⟩

/-- a `Frame` invariant at the driver rule (GM.Proof.BlocksDriverKeeps): it asks nothing of a block, a parent or an edge, so
    any `Close` function and any transformers that keep it will do -/
theorem driverOps_frame [Frame I] {pts : List PT} (hp : PTsKeep I pts) (cls : BP → Nat → M Unit)
    (hcls : ∀ bp n, Keeps I (cls bp n)) :
    DriverOps I (fun A => ∀ s s' : St, True → A s → A s') (fun _ _ => True) (fun _ _ => True) (fun _ _ _ _ => True) cls
      (transformParagraph pts) :=
  DriverOps.ofRel (R := fun _ _ => True) (hB := fun _ _ _ _ h => h) (hP := fun _ _ _ _ h => h)
    (hAtt := fun _ _ _ _ _ _ h => h) (stack := fun _ _ _ _ => trivial)
    (hpeek := fun s a s' hs e => ⟨peekLine_keeps.h s a s' hs e, trivial⟩)
    (hoff := fun s a s' hs e => ⟨lineOffset_keeps.h s a s' hs e, trivial⟩)
    (hadv := fun s a s' hs e => ⟨advanceLine_keeps.h s a s' hs e, trivial⟩)
    (hskip := fun s a s' hs e => ⟨skipBlankLinesR_keeps.h s a s' hs e, trivial⟩)
    (hpcw := fun s pc hs _ => ⟨Frame.pcK s pc hs, trivial⟩) (hopened := fun s _ hs _ => ⟨Frame.pcK s _ hs, trivial⟩)
    (hblank := fun _ c _ bl s a s' hs _ e =>
      ⟨(by keeps : Keeps I (modNode c fun n => { n with blankPrev := bl })).h s a s' hs e, trivial⟩)
    (happend := fun _ c p s a s' hs _ e => ⟨(appendChild_keeps p c).h s a s' hs e, trivial⟩)
    (hopn := fun bp p s a s' hs _ e =>
      ⟨⟨(bpOpen_keeps bp p).h s a s' hs e, trivial⟩, fun _ _ => ⟨trivial, trivial, fun _ => trivial⟩⟩)
    (hcont := fun b s a s' hs _ e => ⟨(bpContinue_keeps b.bp b.node).h s a s' hs e, trivial⟩)
    (hclose := fun b s a s' hs _ e => ⟨(hcls b.bp b.node).h s a s' hs e, trivial⟩)
    (htp := fun b s a s' hs _ e => ⟨(transformParagraph_keeps pts hp b.node).h s a s' hs e, trivial⟩)

theorem runT_keeps [Frame I] {pts : List PT} (hp : PTsKeep I pts) (src : Bytes) (h0 : I (initSt src)) (st : St)
    (h : runT pts src = .ok st) : I st :=
  ((driverOps_frame hp bpClose bpClose_keeps).runT_keeps (A := fun _ => True) (fun _ _ _ _ _ => trivial) (fun _ _ _ _ => trivial)
    (fun _ _ => trivial) src ⟨h0, trivial⟩ st h).1

/-! ### the link-reference paragraph transformer (it may take all lines of its Paragraph: not for `L`) -/

section walk
variable [iw : Walk J E False]
include iw

/-- link_ref.go:47-52: the TextBlock that replaces the emptied Paragraph is fresh -/
theorem transformFinish_keeps (node : Nat) (n : Node) (removes : List (Int × Int)) (refs : GM.LinkRef.RefMap) :
    Keeps J (GM.LinkRef.transformFinish node n removes refs) := by
  have hrep : ∀ (J' : St → Prop) [Walk J' E False] (p t : Nat),
      Keeps (fun s => J' s ∧ KindAt t .textBlock s) (replaceChild p node t) :=
    fun J' _ p t => replaceChild_keeps p node t (fun _ h _ => edgeGood_of_kind h.2 (fun h => by cases h))
  have hcut : ∀ f, NodeKept f → Keeps J (modNode node f) :=
    fun f hf => modNodeAt_keeps node f hf (fun _ _ h => False.elim h)
  unfold GM.LinkRef.transformFinish; keepsN
  exact ⟨rfl, rfl, rfl, rfl, fun _ h => h⟩

theorem transform_keeps (node : Nat) : Keeps J (GM.LinkRef.transform node) := by
  have := transformFinish_keeps (J := J)
  unfold GM.LinkRef.transform; keeps

theorem guardedTransform_keeps (node : Nat) : Keeps J (GM.LinkRef.guardedTransform node) := by
  have := transform_keeps (J := J)
  unfold GM.LinkRef.guardedTransform; keeps

end walk

instance : Frame0 HeadOK where
  ronly := fun _ _ _ h => h
  mod := fun s id f hf hs => by
    intro n hn
    simp only at hn
    rcases List.mem_or_eq_of_mem_set hn with h1 | h1
    · exact hs n h1
    · subst h1
      have hk := hf (s.nodes.getD id default)
      have hold : HeadP (s.nodes.getD id default) := by
        by_cases hlt : id < s.nodes.length
        · have : s.nodes.getD id default = s.nodes[id] := by simp [List.getD, hlt]
          rw [this]; exact hs _ (List.getElem_mem hlt)
        · have : s.nodes.getD id default = default := by
            simp [List.getD, List.getElem?_eq_none (Nat.le_of_not_lt hlt)]
          rw [this]; exact headP_default
      intro h
      rw [hk.1] at h
      rw [hk.2]
      exact hold h
  new := fun s n hn hs => by
    intro m hm
    simp only [List.mem_append, List.mem_singleton] at hm
    rcases hm with h1 | h1
    · exact hs m h1
    · subst h1; exact hn

theorem headOK_init (src : Bytes) : HeadOK (initSt src) := by
  intro n hn
  simp only [initSt, List.mem_singleton] at hn
  subst hn
  intro h; cases h

theorem runT_headOK {pts : List PT} (hp : PTsKeep HeadOK pts) (src : Bytes) (st : St) (h : runT pts src = .ok st) :
    HeadOK st :=
  runT_keeps hp src (headOK_init src) st h

/-- the store is not empty and its first node is the Document -/
def RootDoc (s : St) : Prop := ∃ d rest, s.nodes = d :: rest ∧ d.kind = .document

instance : Frame0 RootDoc where
  ronly := fun _ _ _ h => h
  mod := fun s id f hf hs => by
    obtain ⟨d, rest, e, hd⟩ := hs
    cases id with
    | zero => exact ⟨f d, rest, by simp [e], by rw [(hf d).1]; exact hd⟩
    | succ k => exact ⟨d, rest.set k (f (s.nodes.getD (k + 1) default)), by simp [e], hd⟩
  new := fun s n _ hs => by
    obtain ⟨d, rest, e, hd⟩ := hs
    exact ⟨d, rest ++ [n], by simp [e], hd⟩

theorem rootDoc_init (src : Bytes) : RootDoc (initSt src) := ⟨_, [], rfl, rfl⟩

theorem runT_rootDoc {pts : List PT} (hp : PTsKeep RootDoc pts) (src : Bytes) (st : St) (h : runT pts src = .ok st) :
    RootDoc st :=
  runT_keeps hp src (rootDoc_init src) st h

end GM.E2E
