import GM.Proof.QuoteSimOpen
import GM.Proof.QuoteSimStats
import GM.Proof.QuoteSimMid
import GM.Proof.QuoteSimStatsG

/-
  part Lines — the pass over the opened blocks for one line (parser.go:1081-1123) preserves the
  simulation relation: A at level `i`, B at level `i+1`.
-/
section Lines
namespace GM.Blocks
open GM GM.Text GM.Spec GM.Proof.Reader

/-! ### closing everything at the end of the source (B closes its Blockquote too) -/

theorem blockAt_q0 (l : List Block) : blockAt (bqBlock :: l.map shB) 0 = .ok bqBlock := rfl

theorem closeLoop_shift (blocks : List Block) (to : Int) : ∀ k,
    closeLoop blocks to (k + 1) = closeLoop blocks (to + 1) k >>= fun _ => closeLoop blocks to 1
  | 0 => by rw [show closeLoop blocks (to + 1) 0 = pure () from rfl, pure_bind]
  | k + 1 => by
    rw [closeLoop.eq_2 blocks to (k + 1), closeLoop_shift blocks to k, closeLoop.eq_2 blocks (to + 1) k,
      show to + ((k + 1 : Nat) : Int) = to + 1 + (k : Int) by omega]
    simp only [bind_assoc]
    congr 1; funext b; congr 1; funext n
    split <;> simp only [bind_assoc]

theorem closeLoopAll_sim {src al} (ps : PS src al) (fr : Frames al) (l : List Block) (hl : OKB al l)
    (n : Nat) {k ls p} {sA sB : St} (h : SR src k ls p sA sB) (ha : AInv al sA.pc sA.nodes) (hpk : PKL l sA.nodes)
    (hfe : FEc al sA.nodes sB.nodes) :
    S2 (fun _ _ sA' sB' => SR src k ls p sA' sB' ∧ AInv al sA'.pc sA'.nodes ∧ FEc al sA'.nodes sB'.nodes)
      (closeLoop l 0 n sA) (closeLoop (bqBlock :: l.map shB) 0 (n + 1) sB) := by
  intro u sA' e
  obtain ⟨_, sB', eB, h', ha', _, hfe', _⟩ := closeLoop_sim ps fr l hl 0 n h ha hpk hfe u sA' e
  refine ⟨(), sB', ?_, h', ha', hfe'⟩
  rw [closeLoop_shift, bind_run eB]
  -- B closes its Blockquote (node 1, whose parent is the Document): nothing happens
  have hp := (h'.n.node 0).parent
  simp only [beq_self_eq_true, if_true] at hp
  have hp1 : (sB'.nodes.getD 1 default).parent = some 0 := by
    have : (sB'.nodes.getD (0 + 1) default).parent = some 0 := hp.1
    simpa using this
  unfold closeLoop
  have e1 : liftE (blockAt (bqBlock :: l.map shB) (0 + ((0 : Nat) : Int))) sB' = .ok (bqBlock, sB') := rfl
  rw [bind_run e1]
  have e2 : getNode bqBlock.node sB' = .ok (sB'.nodes.getD 1 default, sB') := rfl
  rw [bind_run e2, hp1]
  simp only [Option.isSome_some, if_true]
  have e3 : bpClose bqBlock.bp bqBlock.node sB' = .ok ((), sB') := rfl
  rw [bind_run e3]
  unfold closeLoop
  rfl

/-- the relation between the two FINAL node stores, with the unary invariant of A's store -/
def FRel (src : Bytes) (al : BP → Bool) (nA nB : List Node) : Prop :=
  StoreRel src nA nB ∧ UStoreL nA ∧ NK al nA ∧ FEc al nA nB

/-- closeBlocks(lastIndex, 0) at the end of the source: afterwards nothing is open on either side -/
theorem closeBlocksAll_sim {src al} (ps : PS src al) (fr : Frames al) {k ls p} {sA sB : St} (h : DR src al k ls p sA sB)
    (L : Int) (hL : L = (sA.pc.opened.length : Int) - 1) :
    S2 (fun _ _ sA' sB' => FRel src al sA'.nodes sB'.nodes) (closeBlocks L 0 sA) (closeBlocks (L + 1) 0 sB) := by
  rw [closeBlocks_cut, closeBlocks_cut]
  refine S2.bind (getPc_s2 h.s) (fun a b sA1 sB1 hq => ?_)
  obtain ⟨ha, hb, hc, e1, e2⟩ := hq
  subst ha hb
  rw [e1, e2]
  rw [hc.opened]
  have en : (L + 1 - 0 + 1).toNat = (L - 0 + 1).toNat + 1 := by omega
  rw [en]
  refine S2.bind (closeLoopAll_sim ps fr sA.pc.opened h.a.opened _ h.s h.a h.a.pk h.f) (fun _ _ sA2 sB2 hq => ?_)
  obtain ⟨h2, ha2, hfe2⟩ := hq
  rw [cutRange_all (l := sA.pc.opened) (by omega),
    cutRange_all (l := bqBlock :: sA.pc.opened.map shB) (by simp only [List.length_cons, List.length_map]; omega)]
  have l1 : liftE (.ok [] : Except Panic (List Block)) sA2 = .ok ([], sA2) := rfl
  have l2 : liftE (.ok [] : Except Panic (List Block)) sB2 = .ok ([], sB2) := rfl
  rw [bind_run l1, bind_run l2]
  unfold modPc
  exact S2.ok ⟨h2.n, ha2.u, ha2.nk, hfe2⟩

/-! ### the fall-through of the per-line loop: openBlocks below block `i`, then close what is left over -/

def llOpen (ob : List Block) (L i : Int) (blank : Bool) (blankLines : List LineStat) (thisParent : Nat) :
    M (LineOutcome × List LineStat) := do
  let lastNode ← liftE (blockAt ob L)
  let result ← openBlocks thisParent blank
  if (result != OpenResult.paragraphContinuation) = true then do
    let pc ← getPc
    let r ← closeBlocks (if (Option.map (fun x => x.node) (slotAfter ob pc.opened L.toNat) != some lastNode.node) = true
      then L - 1 else L) i
    (fun _ => pure (LineOutcome.next, blankLines)) r
  else pure (LineOutcome.next, blankLines)

theorem slotAfter_q (old new : List Block) (L : Int) (hL : 0 ≤ L) :
    slotAfter (bqBlock :: old.map shB) (bqBlock :: new.map shB) (L + 1).toNat = (slotAfter old new L.toNat).map shB := by
  have e : (L + 1).toNat = L.toNat + 1 := by omega
  unfold slotAfter
  rw [e]
  simp only [List.getElem?_cons_succ, List.getElem?_map]
  cases new[L.toNat]? with
  | some b => rfl
  | none => simp only [Option.map_none]

/-- the result relation of the per-line loop -/
def LLRel (src : Bytes) (al : BP → Bool) (k ls : Nat) (lo : Int) (a b : LineOutcome × List LineStat) (sA sB : St) : Prop :=
  b.1 = a.1 ∧ match a.1 with
    | .next => (∃ p', DR src al k ls p' sA sB) ∧ (FL src → ∃ j, lo ≤ j ∧ CUR (k : Int) j a.2 b.2) ∧
        (∃ j, lo ≤ j ∧ CURG (k : Int) j a.2 b.2)
    | .eof => FRel src al sA.nodes sB.nodes

theorem LLRel.mono {src al k ls} {lo lo' : Int} (hle : lo ≤ lo') {a b sA sB} (h : LLRel src al k ls lo' a b sA sB) :
    LLRel src al k ls lo a b sA sB := by
  obtain ⟨h1, h2⟩ := h
  refine ⟨h1, ?_⟩
  cases ha : a.1 with
  | eof => rw [ha] at h2; exact h2
  | next =>
    rw [ha] at h2
    exact ⟨h2.1, (fun hfl => by obtain ⟨j, hj, hc⟩ := h2.2.1 hfl; exact ⟨j, by omega, hc⟩),
      (by obtain ⟨j, hj, hc⟩ := h2.2.2; exact ⟨j, by omega, hc⟩)⟩

/-- the least level the statistics have reached when the per-line loop ends: one more than the start when there is a block to visit -/
def loOf (i : Int) : List Block → Int
  | [] => i
  | _ :: _ => i + 1

theorem loOf_ge (i : Int) (l : List Block) : i ≤ loOf i l := by cases l <;> simp only [loOf] <;> omega

theorem llOpen_sim {src al} (ps : PS src al) (fr : Frames al) (ot : OT src) (ns : NS src) (tr : TrigOK src al)
    (ob : List Block) (L i : Int) (bA bB : Bool) (stA stB : List LineStat) (t : Nat) {k ls p} {sA sB : St}
    (h : DRL src al k ls p sA sB) (hb : FL src → bB = bA) (lo : Int) (hst : FL src → ∃ j, lo ≤ j ∧ CUR (k : Int) j stA stB)
    (hstg : ∃ j, lo ≤ j ∧ CURG (k : Int) j stA stB) (hq : t < sA.nodes.length)
    (hbq : al .setext = false → (bB = bA ∨ t = 0)) :
    S2 (LLRel src al k ls lo) (llOpen ob L i bA stA t sA)
      (llOpen (bqBlock :: ob.map shB) (L + 1) (i + 1) bB stB (t + 1) sB) := by
  unfold llOpen
  refine S2.bind (P := fun a b sA' sB' => b = shB a ∧ 0 ≤ L ∧ sA' = sA ∧ sB' = sB) (S2.liftE (fun a ha => ?_))
    (fun a b sA1 sB1 hq => ?_)
  · obtain ⟨e, _, h0⟩ := blockAt_q ob _ a ha
    exact ⟨shB a, e, rfl, h0, rfl, rfl⟩
  obtain ⟨hb, hL, e1, e2⟩ := hq
  subst hb
  rw [e1, e2]
  refine S2.bind (openBlocks_sim ps fr ot ns tr bA bB hb t h hq hbq) (fun ra rb sA2 sB2 hq => ?_)
  obtain ⟨hr, ⟨p', h2⟩, _⟩ := hq
  rw [hr]
  by_cases hc : (ra != OpenResult.paragraphContinuation) = true
  · rw [if_pos hc, if_pos hc]
    refine S2.bind (getPc_s2 h2.s) (fun pa pb sA3 sB3 hq => ?_)
    obtain ⟨ea, eb, hcr, e1, e2⟩ := hq
    subst ea eb
    rw [e1, e2, hcr.opened, slotAfter_q ob _ L hL]
    have hcond : (Option.map (fun x => x.node) (Option.map shB (slotAfter ob sA2.pc.opened L.toNat)) != some (shB a).node) =
        (Option.map (fun x => x.node) (slotAfter ob sA2.pc.opened L.toNat) != some a.node) := by
      cases slotAfter ob sA2.pc.opened L.toNat with
      | none => rfl
      | some y => exact opt_succ_bne (some y.node) a.node
    rw [hcond]
    have hidx : (if (Option.map (fun x => x.node) (slotAfter ob sA2.pc.opened L.toNat) != some a.node) = true
        then L + 1 - 1 else L + 1) =
        (if (Option.map (fun x => x.node) (slotAfter ob sA2.pc.opened L.toNat) != some a.node) = true
        then L - 1 else L) + 1 := by
      split <;> omega
    rw [hidx]
    refine S2.bind (closeBlocks_sim ps fr h2 _ i) (fun _ _ sA4 sB4 h4 => ?_)
    exact S2.pure ⟨rfl, ⟨p', h4.1⟩, hst, hstg⟩
  · rw [if_neg hc, if_neg hc]
    exact S2.pure ⟨rfl, ⟨p', h2⟩, hst, hstg⟩

def llFall (q : Nat) (ob : List Block) (L i : Int) (blank : Bool) (blankLines : List LineStat) :
    M (LineOutcome × List LineStat) :=
  if (i != 0) = true then do
    let b ← liftE (blockAt ob (i - 1))
    let thisParent ← pure b.node
    llOpen ob L i blank blankLines thisParent
  else do
    let thisParent ← pure q
    llOpen ob L i blank blankLines thisParent

theorem llFall_sim {src al} (ps : PS src al) (fr : Frames al) (ot : OT src) (ns : NS src) (tr : TrigOK src al)
    (ob : List Block) (L i : Int) (hi : 0 ≤ i) (bA bB : Bool) (stA stB : List LineStat) {k ls p} {sA sB : St}
    (h : DRL src al k ls p sA sB) (hb : FL src → bB = bA) (lo : Int) (hst : FL src → ∃ j, lo ≤ j ∧ CUR (k : Int) j stA stB)
    (hstg : ∃ j, lo ≤ j ∧ CURG (k : Int) j stA stB) (hob : ∀ b ∈ ob, b.node < sA.nodes.length)
    (hbe : al .setext = false → bB = bA) :
    S2 (LLRel src al k ls lo) (llFall 0 ob L i bA stA sA)
      (llFall 0 (bqBlock :: ob.map shB) (L + 1) (i + 1) bB stB sB) := by
  unfold llFall
  have hB : (i + 1 != 0) = true := by
    have : i + 1 ≠ 0 := by omega
    simpa using this
  rw [if_pos hB]
  by_cases hA : (i != 0) = true
  · rw [if_pos hA]
    refine S2.bind (P := fun a b sA' sB' => b = shB a ∧ a ∈ ob ∧ sA' = sA ∧ sB' = sB) (S2.liftE (fun a ha => ?_))
      (fun a b sA1 sB1 hq => ?_)
    · obtain ⟨e, hmem, _⟩ := blockAt_q ob _ a ha
      refine ⟨shB a, ?_, rfl, hmem, rfl, rfl⟩
      rw [show i + 1 - 1 = i - 1 + 1 by omega]; exact e
    obtain ⟨hb, hmem, e1, e2⟩ := hq
    subst hb
    rw [e1, e2]
    simp only [pure_bind, shB]
    exact llOpen_sim ps fr ot ns tr ob L i bA bB stA stB a.node h hb lo hst hstg (hob a hmem) (fun hns => .inl (hbe hns))
  · rw [if_neg hA]
    have hi0 : i = 0 := by
      simp only [bne_iff_ne, ne_eq, Decidable.not_not] at hA; exact hA
    subst hi0
    have e : liftE (blockAt (bqBlock :: ob.map shB) ((0 : Int) + 1 - 1)) sB = .ok (bqBlock, sB) := rfl
    rw [bind_run e]
    simp only [pure_bind, bqBlock]
    exact llOpen_sim ps fr ot ns tr ob L 0 bA bB stA stB 0 h hb lo hst hstg h.n.pos (fun _ => .inr rfl)

/-! ### the loop over the opened blocks of A (levels `i`, `i+1`, …) against B's levels `i+1`, … -/

theorem advanceLine_nodes (sA sB : St) {src : Bytes} {al : BP → Bool} (h : FRel src al sA.nodes sB.nodes) :
    S2 (fun _ _ sA' sB' => FRel src al sA'.nodes sB'.nodes) (advanceLine sA) (advanceLine sB) :=
  S2.ok h

theorem viewA_some_lt {src : Bytes} {ls p : Nat} {line : Bytes} (h : viewA src ls p = some line) : p < lineEnd src ls := by
  unfold viewA at h
  split at h
  · assumption
  · cases h

theorem lineLoop_sim {src al} (ps : PS src al) (fr : Frames al) (ot : OT src) (ns : NS src) (tr : TrigOK src al)
    (ob : List Block) (L : Int) :
    ∀ (rest : List Block), (∀ b ∈ rest, b ∈ ob) → ∀ (i : Int), 0 ≤ i → ∀ (stA stB : List LineStat) {k ls p : Nat}
      {sA sB : St}, DR src al k ls p sA sB → sA.pc.opened = ob → L = (ob.length : Int) - 1 →
      (FL src → CUR (k : Int) i stA stB) → (i = 0 → p = ls) → ∀ (pre : List Block), Sh.MidA src ob pre rest i sA →
      CURG (k : Int) i stA stB →
      S2 (LLRel src al k ls (loOf i rest)) (lineLoop 0 ob L rest i stA sA)
        (lineLoop 0 (bqBlock :: ob.map shB) (L + 1) (rest.map shB) (i + 1) stB sB) := by
  intro rest
  induction rest with
  | nil =>
    intro _ i _ stA stB k ls p sA sB h _ _ hcur _ _ _ hcg
    simp only [List.map_nil]
    unfold lineLoop
    exact S2.pure ⟨rfl, ⟨p, h⟩, (fun hfl => ⟨i, Int.le_refl _, hcur hfl⟩), ⟨i, Int.le_refl _, hcg⟩⟩
  | cons be rest ih =>
    intro hsub i hi stA stB k ls p sA sB h hop hL hcur hi0 pre hm hcg
    have hbe : be ∈ ob := hsub be (by simp)
    have ih' := ih (fun b hb => hsub b (by simp [hb])) (i + 1) (by omega)
    obtain ⟨hal, hn0⟩ : al be.bp = true ∧ be.node ≠ 0 := by
      have := h.a.opened be (hop ▸ hbe); exact this
    simp only [List.map_cons]
    unfold lineLoop
    refine S2.bind (S2.andR (S2.andL (peekLine_s2 h.s) (F := fun _ sA' => sA'.pc = sA.pc ∧ sA'.nodes = sA.nodes) (fun a sA' e => ?_))
      (G := fun _ sB' => sB'.nodes = sB.nodes) (fun b sB' e => ?_))
      (fun a b sA1 sB1 hq => ?_)
    · unfold GM.Blocks.peekLine at e
      cases hp : sA.r.peekLine with
      | error x => rw [hp] at e; cases e
      | ok y => rw [hp] at e; cases e; exact ⟨rfl, rfl⟩
    · unfold GM.Blocks.peekLine at e
      cases hp : sB.r.peekLine with
      | error x => rw [hp] at e; cases e
      | ok y => rw [hp] at e; cases e; rfl
    obtain ⟨⟨⟨ea, eb, h1⟩, hpc1, hnd1⟩, hndB1⟩ := hq
    subst ea eb
    simp only
    have hfe1 : FEc al sA1.nodes sB1.nodes := by
      rw [hnd1, hndB1]; exact h.f
    have hd1 : DR src al k ls p sA1 sB1 := ⟨h1, by rw [hpc1, hnd1]; exact h.a, hfe1⟩
    have hm1 : Sh.MidA src ob pre (be :: rest) i sA1 := by
      have e : sA1 = { sA with r := sA1.r } := by
        cases sA1; cases sA; simp only at hpc1 hnd1; subst hpc1 hnd1; rfl
      rw [e]; exact hm.congr_r h.s.r.a h1.r.a
    have hop1 : sA1.pc.opened = ob := by rw [hpc1]; exact hop
    cases hv : viewA src ls p with
    | none =>
      simp only
      refine S2.bind (closeBlocksAll_sim ps fr hd1 L (by rw [hop1]; exact hL)) (fun _ _ sA2 sB2 h2 => ?_)
      refine S2.bind (advanceLine_nodes sA2 sB2 h2) (fun _ _ sA3 sB3 h3 => ?_)
      exact S2.pure ⟨rfl, h3⟩
    | some line =>
      simp only
      have hplt := viewA_some_lt hv
      refine S2.bind (S2.andR (S2.andL (position_s2 h1) (F := fun _ sA' => sA' = sA1) (fun a sA' e => ?_))
        (G := fun _ sB' => sB' = sB1) (fun b sB' e => ?_))
        (fun a b sA2 sB2 hq => ?_)
      · unfold GM.Blocks.position at e; cases e; rfl
      · unfold GM.Blocks.position at e; cases e; rfl
      obtain ⟨⟨⟨ea, eb, h2⟩, e2⟩, e2B⟩ := hq
      subst ea eb
      subst e2
      subst e2B
      simp only
      refine S2.bind (getNode_s2' h2 be.node) (fun na nb sA3 sB3 hq => ?_)
      obtain ⟨hab, e1, e2⟩ := hq
      rw [e1, e2]
      rw [beq_eq_false_iff_ne.mpr hn0] at hab
      have hk := hab.kind
      simp only [Bool.false_eq_true, if_false] at hk
      simp only [shB]
      rw [hk]
      have hd2 : DR src al k ls p sA2 sB2 := ⟨h2, hd1.a, hd1.f⟩
      have hbl : FL src → i = 0 → isBlank line = false := by
        intro hfl h0
        have hpl := hi0 h0
        have := hfl k ls h.s.r.inl.line
        rw [hpl] at hv
        unfold viewA at hv
        split at hv
        · cases hv; exact this
        · cases hv
      have hqq := fun hfl => cur_query hi (hcur hfl) (isBlank line) (hbl hfl)
      have fall : ∀ {p'} {sA' sB' : St} (stA' stB' : List LineStat), DR src al k ls p' sA' sB' →
          (FL src → isBlankLine ((k : Int) - 1) (i + 1) stB' = isBlankLine ((k : Int) - 1) i stA') →
          (FL src → ∃ j, i + 1 ≤ j ∧ CUR (k : Int) j stA' stB') →
          (∃ j, i + 1 ≤ j ∧ CURG (k : Int) j stA' stB') → sA'.pc.opened = ob →
          (isBlankLine ((k : Int) - 1) (i + 1) stB' = isBlankLine ((k : Int) - 1) i stA') →
          S2 (LLRel src al k ls (i + 1)) (llFall 0 ob L i (isBlankLine ((k : Int) - 1) i stA') stA' sA')
            (llFall 0 (bqBlock :: ob.map shB) (L + 1) (i + 1) (isBlankLine ((k : Int) - 1) (i + 1) stB') stB' sB') :=
        fun stA' stB' hd hb hst hstg hopd hbe => llFall_sim ps fr ot ns tr ob L i hi _ _ stA' stB' hd.loose hb (i + 1) hst hstg
          (fun b hb' => (hd.a.pk b (hopd ▸ hb')).1) (fun _ => hbe)
      have hqg := curG_query hi hcg (isBlank line)
      by_cases hkp : (na.kind != Kind.paragraph) = true
      · rw [if_pos hkp, if_pos hkp]
        have hp : p < src.length := h.s.r.inl.lt_iff.mpr hplt
        have hnsp := ns k ls p h.s.r.inl hp
        refine S2.bind (S2.andL (S2.withFE h2 hd2.f (ps.cont be.bp hal k ls p be.node sA2 sB2 h2 hn0 hd2.a hp hnsp
            (fun hbi hnb => listItemContPre_of_mid_sr h2 hm1 hbi hp hnb))
            (fun _ _ _ e => ⟨bpn_of_bpContinue be.bp be.node e, chn_of_bpContinue be.bp be.node e⟩)
            (fun _ _ _ e => bpn_of_bpContinue be.bp (be.node + 1) e))
          (F := fun st' sA' => AInv al sA'.pc sA'.nodes ∧ sA'.pc.opened = sA2.pc.opened ∧
            (st'.cont = true → st'.hasChildren = true → Sh.MidA src ob (pre ++ [be]) rest (i + 1) sA') ∧
            (st'.cont = true → st'.hasChildren = false → rest = []))
          (fun _ sA' e => ⟨fr.cont _ _ _ _ _ e hal hn0 hd2.a, fr.contOpened _ _ _ _ _ e,
            (fun hc hch => mid_step hm1 h2.r.a hp e hc hch), (fun hc hch => mid_leaf_last hm1 e hc hch)⟩))
          (fun sa sb sA4 sB4 hq => ?_)
        obtain ⟨⟨⟨hs, p', h4⟩, hfe4⟩, ha4, hop4, hmid4, hleaf4⟩ := hq
        rw [hs]
        have hd4 : DR src al k ls p' sA4 sB4 := ⟨h4, ha4, hfe4⟩
        have hopd4 : sA4.pc.opened = ob := by rw [hop4, hop1]
        by_cases hcont : sa.cont = true
        · rw [if_pos hcont, if_pos hcont]
          have hcond : (sa.hasChildren && i + 1 == L + 1) = (sa.hasChildren && i == L) := by
            rw [int_beq_congr (x := i + 1) (y := L + 1) (x' := i) (y' := L) (by constructor <;> intro _ <;> omega)]
          rw [hcond]
          by_cases hch : (sa.hasChildren && i == L) = true
          · rw [if_pos hch, if_pos hch]
            refine S2.bind (openBlocks_sim ps fr ot ns tr _ _ (fun hfl => (hqq hfl).1) be.node hd4.loose
              ((hd4.a.pk be (hopd4 ▸ hbe)).1) (fun _ => .inl hqg.1))
              (fun ra rb sA5 sB5 hq => ?_)
            obtain ⟨_, ⟨p'', h5⟩, _⟩ := hq
            exact S2.pure ⟨rfl, ⟨p'', h5⟩, (fun hfl => ⟨i + 1, Int.le_refl _, (hqq hfl).2⟩), ⟨i + 1, Int.le_refl _, hqg.2⟩⟩
          · rw [if_neg hch, if_neg hch]
            simp only [Bool.not_false, if_true]
            cases hhc : sa.hasChildren with
            | true =>
              exact S2.mono (ih' _ _ hd4 (by rw [hop4, hop1]) hL (fun hfl => (hqq hfl).2) (fun h0 => by omega) _
                (hmid4 hcont hhc) hqg.2) (fun _ _ _ _ hh => LLRel.mono (loOf_ge _ _) hh)
            | false =>
              have hnil := hleaf4 hcont hhc
              subst hnil
              simp only [List.map_nil]
              unfold lineLoop
              exact S2.pure ⟨rfl, ⟨p', hd4⟩, (fun hfl => ⟨i + 1, Int.le_refl _, (hqq hfl).2⟩), ⟨i + 1, Int.le_refl _, hqg.2⟩⟩
        · rw [if_neg hcont, if_neg hcont]
          simp only [Bool.not_true, Bool.false_eq_true, if_false]
          exact fall _ _ hd4 (fun hfl => (hqq hfl).1) (fun hfl => ⟨i + 1, Int.le_refl _, (hqq hfl).2⟩)
            ⟨i + 1, Int.le_refl _, hqg.2⟩ hopd4 hqg.1
      · rw [if_neg hkp, if_neg hkp]
        simp only [Bool.not_true, Bool.false_eq_true, if_false]
        exact fall _ _ hd2 (fun hfl => (hqq hfl).1) (fun hfl => ⟨i + 1, Int.le_refl _, (hqq hfl).2⟩)
          ⟨i + 1, Int.le_refl _, hqg.2⟩ hop1 hqg.1

end GM.Blocks
end Lines

/-
  part Run — whole runs: `parseBlocks` on `src` (run A) against `parseBlocks` on `quotePrefix src`
  (run B), line by line. B opens its Blockquote on the first line and then stays in the per-line loop with the
  Blockquote at the bottom of its stack; A alternates between the outer loop (nothing open: blank lines are
  skipped) and the per-line loop.
-/
section Run
namespace GM.Blocks
open GM GM.Text GM.Spec GM.Proof.Reader

/-! ### run B alone: the Blockquote consumes its marker at the start of a line -/

theorem indentWidthI_gt (t : Bytes) (v : Int) : indentWidthI (62 :: t) v = (0, 0) := by
  simp [indentWidthI, indentWidthGo]

theorem view_marker {src k ls} (h : LineAt src k ls) :
    RCur.view (quotePrefix src) ⟨k, ls + 2 * k, 0⟩ = some (62 :: 32 :: sub src ls (lineEnd src ls)) ∧
    RCur.seg (quotePrefix src) ⟨k, ls + 2 * k, 0⟩ =
      { start := ((ls + 2 * k : Nat) : Int), stop := ((lineEnd src ls + 2 * (k + 1) : Nat) : Int), padding := 0 } := by
  have hge := qp_length_ge h
  have hlt := lt_lineEnd src h.lt
  constructor
  · simp only [RCur.view, spaces, List.replicate_zero, List.nil_append]
    rw [if_pos (by omega), qp_lineEnd_marker h, qp_sub_line h]
  · simp only [RCur.seg, qp_lineEnd_marker h]
    rfl

/-- blockquoteParser.process on B at the start of line `k`: it answers true and stands behind `"> "` -/
theorem bqProcess_marker {src k ls} (hl : LineAt src k ls) {sB : St}
    (hb : RI (quotePrefix src) sB.r ⟨k, ls + 2 * k, 0⟩) :
    ∃ r', blockquoteProcess sB = .ok (true, { sB with r := r' }) ∧
      RI (quotePrefix src) r' ⟨k, ls + 2 * (k + 1), 0⟩ := by
  have hge := qp_length_ge hl
  have hlt := lt_lineEnd src hl.lt
  obtain ⟨hview, _⟩ := view_marker hl
  obtain ⟨m1, m2⟩ := qp_marker hl
  have hrest : (sub src ls (lineEnd src ls)).length = lineEnd src ls - ls := length_sub src (lineEnd_le src ls)
  -- peekLine
  obtain ⟨r1, e1, h1⟩ := ri_peekLine hb
  have p1 : peekLine sB = .ok ((some (62 :: 32 :: sub src ls (lineEnd src ls)), RCur.seg (quotePrefix src) ⟨k, ls + 2 * k, 0⟩),
      { sB with r := r1 }) := by
    unfold GM.Blocks.peekLine; rw [e1, hview]; rfl
  -- lineOffset
  obtain ⟨v, r2, e2, h2, _⟩ := ri_lineOffset h1
  have p2 : lineOffset { sB with r := r1 } = .ok (v, { sB with r := r2 }) := by
    unfold GM.Blocks.lineOffset; simp only; rw [e2]; rfl
  -- Advance(1): over the `>`
  obtain ⟨r3, e3, h3⟩ := ri_advance h2 (n := 1) (by decide)
  have c3 : RCur.advN (quotePrefix src) (1 : Int).toNat ⟨k, ls + 2 * k, 0⟩ = ⟨k, ls + 2 * k + 1, 0⟩ := by
    have := advN_bytes (quotePrefix src) 1 ⟨k, ls + 2 * k, 0⟩ rfl (fun j hj => by
      have : j = 0 := by omega
      subst this
      simp only [Nat.add_zero]
      exact ⟨by omega, by rw [m1]; decide⟩)
    simpa using this
  rw [c3] at h3
  have p3 : advance 1 { sB with r := r2 } = .ok ((), { sB with r := r3 }) := by
    unfold GM.Blocks.advance; simp only; rw [e3]; rfl
  -- AdvanceAndSetPadding(1, 0): over the space
  obtain ⟨r4, e4, h4⟩ := ri_advanceAndSetPadding h3 (n := 1) (by decide) 0
  have c4 : advPadCur (quotePrefix src) 1 0 ⟨k, ls + 2 * k + 1, 0⟩ = ⟨k, ls + 2 * (k + 1), 0⟩ := by
    rw [advPadCur_zero _ _ _ _ (by decide)]
    have := advN_bytes (quotePrefix src) 1 ⟨k, ls + 2 * k + 1, 0⟩ rfl (fun j hj => by
      have : j = 0 := by omega
      subst this
      simp only [Nat.add_zero]
      exact ⟨by omega, by rw [m2]; decide⟩)
    simp only [Int.toNat_one] at this ⊢
    rw [this]; simp; omega
  rw [c4] at h4
  have p4 : advanceAndSetPadding 1 0 { sB with r := r3 } = .ok ((), { sB with r := r4 }) := by
    unfold GM.Blocks.advanceAndSetPadding; simp only; rw [e4]; rfl
  refine ⟨r4, ?_, h4⟩
  unfold blockquoteProcess
  rw [bind_run p1]
  simp only [Option.getD_some]
  rw [bind_run p2]
  simp only [indentWidthI_gt]
  have hlen : ¬ ((0 : Int) ≥ ((62 :: 32 :: sub src ls (lineEnd src ls)).length : Int)) := by
    simp only [List.length_cons]; omega
  have hlen1 : ¬ ((0 : Int) + 1 ≥ ((62 :: 32 :: sub src ls (lineEnd src ls)).length : Int)) := by
    simp only [List.length_cons, hrest]; omega
  have c0 : (decide ((0 : Int) > 3) || decide ((0 : Int) ≥ ((62 :: 32 :: sub src ls (lineEnd src ls)).length : Int))) = false := by
    rw [decide_eq_false hlen]; rfl
  simp only [c0, Bool.false_eq_true, if_false]
  have i0 : liftE (idx (62 :: 32 :: sub src ls (lineEnd src ls)) 0) { sB with r := r2 } = .ok ((62 : UInt8), { sB with r := r2 }) := rfl
  rw [bind_run i0]
  simp only [bne_self_eq_false, Bool.false_eq_true, if_false]
  rw [if_neg (by simpa using hlen1)]
  have i1 : liftE (idx (62 :: 32 :: sub src ls (lineEnd src ls)) (0 + 1)) { sB with r := r2 } = .ok ((32 : UInt8), { sB with r := r2 }) := rfl
  rw [bind_run i1]
  have c10 : ((32 : UInt8) == 10) = false := by decide
  have c32 : ((32 : UInt8) == 32 || (32 : UInt8) == 9) = true := by decide
  have c9 : ((32 : UInt8) == 9) = false := by decide
  simp only [c10, c32, c9, Bool.false_eq_true, if_false, if_true]
  rw [show ((0 : Int) + 1) = 1 by rfl, bind_run p3]
  simp only [pure_bind, beq_self_eq_true, Bool.true_or, if_true]
  rw [bind_run p4]
  rfl

/-! ### the state relation at the start of line `k` -/

structure LS (src : Bytes) (al : BP → Bool) (k ls : Nat) (sA sB : St) : Prop where
  tf : ∀ c ∈ src, c ≠ 9
  ra : RI src sA.r ⟨k, ls, 0⟩
  rb : RI (quotePrefix src) sB.r ⟨k, ls + 2 * k, 0⟩
  n : StoreRel src sA.nodes sB.nodes
  c : CtxRelL sA.pc sB.pc
  a : AInv al sA.pc sA.nodes
  strict : sA.pc.opened ≠ [] → sB.pc.blockOffset = sA.pc.blockOffset ∧ sB.pc.blockIndent = sA.pc.blockIndent
  f : FEc al sA.nodes sB.nodes

theorem blockquoteContinue_marker {src k ls} (hl : LineAt src k ls) {sB : St}
    (hb : RI (quotePrefix src) sB.r ⟨k, ls + 2 * k, 0⟩) :
    ∃ r', bpContinue .blockquote 1 sB = .ok (stContinueHasChildren, { sB with r := r' }) ∧
      RI (quotePrefix src) r' ⟨k, ls + 2 * (k + 1), 0⟩ := by
  obtain ⟨r', e, h'⟩ := bqProcess_marker hl hb
  refine ⟨r', ?_, h'⟩
  show blockquoteContinue 1 sB = _
  unfold blockquoteContinue
  rw [bind_run e]
  rfl

/-- the blank-line statistics entry B records for its Blockquote on line `k` -/
def bqStat (src : Bytes) (k ls : Nat) : LineStat :=
  { lineNum := k, level := 0, isBlank := isBlank (62 :: 32 :: sub src ls (lineEnd src ls)) }

/-- B's per-line loop at its Blockquote (level 0), at the start of a line that exists: the marker is consumed;
    then either the Blockquote is the last opened block (openBlocks below it) or the loop goes on at level 1 -/
theorem bHead {src al k ls} {sA sB : St} (h : LS src al k ls sA sB) (hl : LineAt src k ls) (LB : Int)
    (obB restB : List Block) (stB : List LineStat) :
    ∃ r', R3 src k ls ls sA.r r' ∧
      lineLoop 0 obB LB (bqBlock :: restB) 0 stB sB =
        (if ((0 : Int) == LB) = true then do
            let _ ← openBlocks 1 (isBlankLine ((k : Int) - 1) 0 (stB ++ [bqStat src k ls]))
            pure (LineOutcome.next, stB ++ [bqStat src k ls])
          else lineLoop 0 obB LB restB (0 + 1) (stB ++ [bqStat src k ls])) { sB with r := r' } := by
  obtain ⟨hview, _⟩ := view_marker hl
  obtain ⟨r1, e1, h1⟩ := ri_peekLine h.rb
  have p1 : peekLine sB = .ok ((some (62 :: 32 :: sub src ls (lineEnd src ls)), RCur.seg (quotePrefix src) ⟨k, ls + 2 * k, 0⟩),
      { sB with r := r1 }) := by
    unfold GM.Blocks.peekLine; rw [e1, hview]; rfl
  have hline : r1.line = k := by
    have := h1.abs.line; simpa [clearLo] using this
  have p2 : position { sB with r := r1 } = .ok (((k : Int), r1.pos), { sB with r := r1 }) := by
    unfold GM.Blocks.position Reader.position; rw [hline]; rfl
  obtain ⟨r', e3, h3⟩ := blockquoteContinue_marker (sB := { sB with r := r1 }) hl h1
  have hroot := h.n.node 0
  have hk := hroot.kind
  simp only [beq_self_eq_true, if_true] at hk
  have hk1 : (sB.nodes.getD 1 default).kind = .blockquote := by
    have : (sB.nodes.getD (0 + 1) default).kind = .blockquote := hk.1
    simpa using this
  have p3 : getNode bqBlock.node { sB with r := r1 } = .ok (sB.nodes.getD 1 default, { sB with r := r1 }) := rfl
  refine ⟨r', ⟨h.tf, InL.start hl, h.ra, h3⟩, ?_⟩
  conv => lhs; unfold lineLoop
  rw [bind_run p1]
  simp only
  rw [bind_run p2]
  simp only
  rw [bind_run p3, hk1]
  simp only [bqBlock] at e3 ⊢
  have hne : (Kind.blockquote != Kind.paragraph) = true := by decide
  rw [if_pos hne, bind_run e3]
  simp only [stContinueHasChildren, Bool.true_and, bqStat, ↓reduceIte, Bool.not_false]

end GM.Blocks
end Run
