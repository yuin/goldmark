/-
  GM.Proof.BlocksDriverGRun — the close discipline of the driver with hooks, second part: AT THE END OF THE BLOCK PHASE THE
  OPEN-BLOCK STACK IS EMPTY and the invariant of the interface `Disc` (GM.Proof.BlocksDriverGDisc) holds (`runG_disc`).
  `openBlocks` pushes only when it answers `newBlocksOpened`; a pass of the line loop that hits the end of the source closes
  the whole stack; the outer loop is (re-)entered with an empty stack.
  One judgement `Kp J W P Q m`: from `J` and the facts `P` about the store, `m` keeps `J`, makes a `W`-step, and its answer, the
  stack it started from and the state it leaves meet `Q` (every postcondition needed sees the start state through its stack only).
-/
import GM.Proof.BlocksDriverGDisc
import GM.Proof.Hoare

namespace GM.Blocks
open GM GM.Text

variable {σ Pr : Type}

/-- the `M` operations of the driver that leave store and stack alone -/
inductive DrvKeep : {α : Type} → M α → Prop
  | peek : DrvKeep peekLine
  | offset : DrvKeep lineOffset
  | setPc (f : Ctx → Ctx) (hf : ∀ pc, (f pc).opened = pc.opened) : DrvKeep (modPc f)
  | lift {α} (e : Except Panic α) : DrvKeep (liftE e)
  | state : DrvKeep (get : M St)
  | node (n) : DrvKeep (getNode n)
  | src : DrvKeep source
  | pos : DrvKeep position
  | advance : DrvKeep advanceLine
  | skipBlank : DrvKeep skipBlankLinesR
  | pc : DrvKeep getPc
  | lastOpened : DrvKeep lastOpenedBlock

theorem DrvKeep.same {α} {x : M α} (hx : DrvKeep x) {s : St} {a : α} {s' : St} (e : x s = .ok (a, s')) :
    s'.nodes = s.nodes ∧ s'.pc.opened = s.pc.opened := by
  have rd : ∀ {β} (y : Except Panic (β × Reader)) (g : β × Reader → α × St), (∀ p, (g p).2.nodes = s.nodes ∧ (g p).2.pc = s.pc) →
      y.map g = .ok (a, s') → s'.nodes = s.nodes ∧ s'.pc.opened = s.pc.opened := by
    intro β y g hg e
    cases y with
    | error _ => cases e
    | ok p =>
      have e' : g p = (a, s') := by simpa [Except.map] using e
      have := hg p
      rw [e'] at this
      exact ⟨this.1, by rw [this.2]⟩
  cases hx with
  | peek => rw [peekLine_run] at e; exact rd _ _ (fun _ => ⟨rfl, rfl⟩) e
  | offset => rw [lineOffset_run] at e; exact rd _ _ (fun _ => ⟨rfl, rfl⟩) e
  | skipBlank => rw [skipBlankLinesR_run] at e; exact rd _ _ (fun _ => ⟨rfl, rfl⟩) e
  | setPc f hf => cases e; exact ⟨rfl, hf _⟩
  | lift y => cases y with
    | error _ => cases e
    | ok v => cases e; exact ⟨rfl, rfl⟩
  | state => cases e; exact ⟨rfl, rfl⟩
  | node n => cases e; exact ⟨rfl, rfl⟩
  | src => cases e; exact ⟨rfl, rfl⟩
  | pos => cases e; exact ⟨rfl, rfl⟩
  | advance => cases e; exact ⟨rfl, rfl⟩
  | pc => cases e; exact ⟨rfl, rfl⟩
  | lastOpened => cases e; exact ⟨rfl, rfl⟩


/-- from `J` and `P`, `m` keeps `J`, makes a `W`-step, and answer, start stack and end state meet `Q` -/
structure Kp (J : σ → St → Prop) (W : σ → St → σ → St → Prop) (P : St → Prop) {α : Type} (Q : α → List Block → St → Prop)
    (m : StateT σ M α) : Prop where
  h : ∀ h s a h' s', J h s → P s → m h s = .ok ((a, h'), s') → J h' s' ∧ W h s h' s' ∧ Q a s.pc.opened s'

/-- the stack is the one `m` started from -/
abbrev QS {α : Type} : α → List Block → St → Prop := fun _ ob s' => s'.pc.opened = ob
abbrev QA {α : Type} : α → List Block → St → Prop := fun _ _ _ => True
abbrev PA : St → Prop := fun _ => True

/-- `P` survives a step that keeps the stack -/
def StbW (W : σ → St → σ → St → Prop) (P : St → Prop) : Prop :=
  ∀ h s h' s', W h s h' s' → s'.pc.opened = s.pc.opened → P s → P s'

section rules
variable {K : Hooks σ Pr} {J : σ → St → Prop} {D W : σ → St → σ → St → Prop} {V Vn : Block → St → Prop}
  {Done : σ → St → Block → Prop} (d : Disc K J D W V Vn Done) {P : St → Prop}
include d

theorem Kp.pure {α} {Q : α → List Block → St → Prop} (a : α) (hq : ∀ s, P s → Q a s.pc.opened s) :
    Kp J W P Q (Pure.pure a : StateT σ M α) :=
  ⟨fun h s _ _ _ j hp e => by cases e; exact ⟨j, d.wrefl _ _, hq s hp⟩⟩

omit d in
theorem Kp.throw {α} {Q : α → List Block → St → Prop} (e : Panic) : Kp J W P Q (throw e : StateT σ M α) :=
  ⟨fun _ _ _ _ _ _ _ e' => by cases e'⟩

theorem Kp.up {α} {x : M α} (hx : DrvKeep x) : Kp J W P QS (upG x : StateT σ M α) :=
  ⟨fun h s a h' s' j _ e => by
    obtain ⟨rfl, ex⟩ := Hoare.lift_ok₂ e
    obtain ⟨hn, ho⟩ := hx.same ex
    obtain ⟨j', w⟩ := d.same j hn ho
    exact ⟨j', w, ho⟩⟩

/-- behind a part that keeps the stack -/
theorem Kp.bind {α β} {Q : β → List Block → St → Prop} {m : StateT σ M α} {k : α → StateT σ M β} (hP : StbW W P)
    (hm : Kp J W P QS m) (hk : ∀ a, Kp J W P Q (k a)) : Kp J W P Q (m >>= k) :=
  ⟨fun h s b h'' s'' j hp e => by
    obtain ⟨a, h', s', e1, e2⟩ := Hoare.bind_ok₂ e
    obtain ⟨j1, w1, o1⟩ := hm.h h s a h' s' j hp e1
    obtain ⟨j2, w2, q⟩ := (hk a).h h' s' b h'' s'' j1 (hP _ _ _ _ w1 o1 hp) e2
    exact ⟨j2, d.wtrans w1 w2, by rw [← o1]; exact q⟩⟩

/-- behind any part, for a postcondition that does not look at the start stack -/
theorem Kp.bind_any {α β} {Q : β → List Block → St → Prop} {R : α → List Block → St → Prop} {m : StateT σ M α}
    {k : α → StateT σ M β} (hQ : ∀ b ob ob' s, Q b ob s → Q b ob' s) (hm : Kp J W P R m) (hk : ∀ a, Kp J W PA Q (k a)) :
    Kp J W P Q (m >>= k) :=
  ⟨fun h s b h'' s'' j hp e => by
    obtain ⟨a, h', s', e1, e2⟩ := Hoare.bind_ok₂ e
    obtain ⟨j1, w1, _⟩ := hm.h h s a h' s' j hp e1
    obtain ⟨j2, w2, q⟩ := (hk a).h h' s' b h'' s'' j1 trivial e2
    exact ⟨j2, d.wtrans w1 w2, hQ _ _ _ _ q⟩⟩

omit d in
theorem Kp.ite {α} {Q : α → List Block → St → Prop} {c : Prop} [Decidable c] {a b : StateT σ M α} (ha : Kp J W P Q a)
    (hb : Kp J W P Q b) : Kp J W P Q (if c then a else b) := by split <;> assumption

omit d in
theorem Kp.conseq {α} {P' : St → Prop} {Q Q' : α → List Block → St → Prop} {m : StateT σ M α} (h : Kp J W P Q m)
    (hp : ∀ s, P' s → P s) (hq : ∀ a ob s, Q a ob s → Q' a ob s) : Kp J W P' Q' m :=
  ⟨fun h0 s a h' s' j hp' e => by
    obtain ⟨a1, a2, a3⟩ := h.h h0 s a h' s' j (hp s hp') e
    exact ⟨a1, a2, hq _ _ _ a3⟩⟩

end rules


theorem toContinuable_newAns (c : Bool) (lb : Option Block) (s : St) (x : OpenResult) (s' : St)
    (e : toContinuable c .newBlocksOpened lb s = .ok (x, s')) : x = .newBlocksOpened := by
  unfold toContinuable at e
  simp only [show (OpenResult.newBlocksOpened == OpenResult.noBlocksOpened) = false from rfl, Bool.false_and,
    Bool.false_eq_true, if_false] at e
  cases e; rfl

/-- answers `newBlocksOpened`, or the flag `r` it was given was not `newBlocksOpened` and it pushed nothing -/
abbrev Qob (r : OpenResult) : OpenResult → List Block → St → Prop :=
  fun x ob s' => x ≠ .newBlocksOpened → r ≠ .newBlocksOpened ∧ ∀ b ∈ s'.pc.opened, b ∈ ob

section open_
variable {K : Hooks σ Pr} {J : σ → St → Prop} {D W : σ → St → σ → St → Prop} {V Vn : Block → St → Prop}
  {Done : σ → St → Block → Prop} (d : Disc K J D W V Vn Done)
include d

/-- the last opened block a function was handed is valid -/
def Plb (_ : Disc K J D W V Vn Done) (lb : Option Block) (s : St) : Prop := ∀ b, lb = some b → V b s

theorem stbW_plb (lb : Option Block) : StbW W (Plb d lb) := fun _ _ _ _ w _ h b hb => d.valid w (h b hb)

theorem toContinuable_ob (c : Bool) (r : OpenResult) (lb : Option Block) :
    Kp J W (Plb d lb) (Qob r) (upG (toContinuable c r lb) : StateT σ M _) :=
  ⟨fun h s x h' s' j hp e => by
    obtain ⟨rfl, ex⟩ := Hoare.lift_ok₂ e
    obtain ⟨j', w, o⟩ := d.tocont j hp ex
    refine ⟨j', w, fun hx => ⟨fun hr => ?_, fun b hb => by rw [o] at hb; exact hb⟩⟩
    subst hr
    exact hx (toContinuable_newAns c lb s x s' ex)⟩

theorem Kp.try {r : OpenResult} (parent : Nat) (bl c : Bool) (w : Int) (bps : List Pr) (lb : Option Block)
    {k : TryOutcomeT × OpenResult × Option Block → StateT σ M OpenResult} (hk : ∀ x, Kp J W (Plb d x.2.2) (Qob x.2.1) (k x)) :
    Kp J W (Plb d lb) (Qob r) (tryParsersG K parent bl c w bps r lb >>= k) :=
  ⟨fun h s x h'' s'' j hp e => by
    obtain ⟨a, h', s', e1, e2⟩ := Hoare.bind_ok₂ e
    obtain ⟨⟨j1, w1⟩, ob, hl⟩ := tryParsersG_spec d parent bl c w bps r lb h s a h' s' j e1
    obtain ⟨j2, w2, q⟩ := (hk a).h h' s' x h'' s'' j1 (hl hp) e2
    refine ⟨j2, d.wtrans w1 w2, fun hx => ?_⟩
    obtain ⟨r1, sh2⟩ := q hx
    obtain ⟨er, sh1⟩ := ob r1
    exact ⟨by rw [← er]; exact r1, fun b hb => sh1 b (sh2 b hb)⟩⟩

end open_

/-- a leaf that keeps the stack: `pure`, `throw`, a lifted operation of `DrvKeep` -/
macro "kp_leaf " d:ident : tactic =>
  `(tactic| with_reducible first
    | exact Kp.pure $d _ (fun _ _ => rfl)
    | exact Kp.throw _
    | exact Kp.up $d (by first | (constructor; done) | exact DrvKeep.setPc _ (fun _ => by split <;> rfl)))

/-- one step of the walk for `openBlocks` (`P = Plb d lb`, `Q = Qob r`) -/
macro "kp_ob_step " d:ident : tactic =>
  `(tactic| first
    | apply_hyp
    | with_reducible exact toContinuable_ob $d _ _ _
    | with_reducible exact Kp.throw _
    | with_reducible refine Kp.try $d _ _ _ _ _ _ (fun _ => ?_)
    | ((with_reducible refine Kp.bind $d (stbW_plb $d _) ?_ (fun _ => ?_)); kp_leaf $d)
    | with_reducible apply Kp.ite
    | intro _
    | split)

section open2
variable {K : Hooks σ Pr} {J : σ → St → Prop} {D W : σ → St → σ → St → Prop} {V Vn : Block → St → Prop}
  {Done : σ → St → Block → Prop} (d : Disc K J D W V Vn Done)
include d

theorem retryStepG_ob (blankLine tdone continuable : Bool) (parent : Nat) (w : Int) (bps : List Pr)
    (result : OpenResult) (lastBlock : Option Block)
    (again : Bool → Bool → Nat → OpenResult → Option Block → StateT σ M OpenResult)
    (ha : ∀ a b c r lb, Kp J W (Plb d lb) (Qob r) (again a b c r lb)) :
    Kp J W (Plb d lastBlock) (Qob result) (retryStepG K blankLine tdone continuable parent w bps result lastBlock again) := by
  unfold retryStepG; repeat' kp_ob_step d

theorem openBlocksLoopG_ob (blankLine : Bool) (fuel : Nat) (tdone continuable : Bool) (parent : Nat)
    (result : OpenResult) (lastBlock : Option Block) :
    Kp J W (Plb d lastBlock) (Qob result) (openBlocksLoopG K blankLine fuel tdone continuable parent result lastBlock) := by
  induction fuel generalizing tdone continuable parent result lastBlock with
  | zero => unfold openBlocksLoopG; repeat' kp_ob_step d
  | succ fuel ih =>
    have := retryStepG_ob d
    unfold openBlocksLoopG; repeat' kp_ob_step d

/-- `openBlocks`: the invariant, and it pushes only when it answers `newBlocksOpened` -/
theorem openBlocksG_spec (parent : Nat) (blankLine : Bool) (h : σ) (s : St) (x : OpenResult) (h' : σ) (s' : St)
    (j : J h s) (e : openBlocksG K parent blankLine h s = .ok ((x, h'), s')) :
    J h' s' ∧ W h s h' s' ∧ (x ≠ .newBlocksOpened → Shr s s') := by
  unfold openBlocksG at e
  obtain ⟨lb, h1, s1, e1, k1⟩ := Hoare.bind_ok₂ e
  obtain ⟨eh1, ex1⟩ := Hoare.lift_ok₂ e1
  have elb : lb = s.pc.opened.getLast? ∧ s1 = s := by
    rw [lastOpenedBlock_run] at ex1
    cases ex1; exact ⟨rfl, rfl⟩
  obtain ⟨elb, es1⟩ := elb
  rw [eh1, es1] at k1
  have hlb : Plb d lb s := fun b hb => d.ovalid j b (List.mem_of_getLast? (by rw [← elb]; exact hb))
  have hob : Kp J W (Plb d lb) (Qob .noBlocksOpened) (do
      let continuable ← match lb with
        | some lb => do pure ((← upG (getNode lb.node)).kind == .paragraph)
        | none => pure false
      openBlocksLoopG K blankLine (retryFuel (← upG source)) false continuable parent .noBlocksOpened lb) := by
    have := openBlocksLoopG_ob d
    repeat' kp_ob_step d
  obtain ⟨a1, a2, a3⟩ := hob.h h s x h' s' j hlb k1
  exact ⟨a1, a2, fun hx => (a3 hx).2⟩

end open2


abbrev Qnext : LineOutcome × List LineStat → List Block → St → Prop := fun x _ _ => x.1 = .next
abbrev Qeof : LineOutcome × List LineStat → List Block → St → Prop := fun x _ s' => x.1 = .eof → s'.pc.opened = []

section lines
variable {K : Hooks σ Pr} {J : σ → St → Prop} {D W : σ → St → σ → St → Prop} {V Vn : Block → St → Prop}
  {Done : σ → St → Block → Prop} (d : Disc K J D W V Vn Done)
include d

/-- started with the stack `ob`, whose blocks `R` are still to be continued -/
def Plj (_ : Disc K J D W V Vn Done) (R ob : List Block) (s : St) : Prop := (∀ b ∈ R, V b s) ∧ s.pc.opened = ob

theorem stbW_plj (R ob : List Block) : StbW W (Plj d R ob) :=
  fun _ _ _ _ w o h => ⟨fun b hb => d.valid w (h.1 b hb), o.trans h.2⟩

theorem openBlocksG_kp (parent : Nat) (blankLine : Bool) : Kp J W PA QA (openBlocksG K parent blankLine) :=
  ⟨fun h s x h' s' j _ e => by
    obtain ⟨a1, a2, _⟩ := openBlocksG_spec d parent blankLine h s x h' s' j e
    exact ⟨a1, a2, trivial⟩⟩

theorem closeBlocksG_kp (frm to : Int) : Kp J W PA QA (closeBlocksG K frm to) :=
  ⟨fun h s x h' s' j _ e => by
    obtain ⟨a1, a2, _⟩ := closeBlocksG_spec d frm to h s h' s' j e
    exact ⟨a1, a2, trivial⟩⟩

/-- parser.go:1083-1087: at the end of the source the whole stack is closed -/
theorem Kp.eofBranch (ob : List Block) (li : Int) (hli : li = (ob.length : Int) - 1) (R : List Block) (bl : List LineStat) :
    Kp J W (Plj d R ob) Qeof (do closeBlocksG K li 0; upG advanceLine; Pure.pure (LineOutcome.eof, bl)) :=
  ⟨fun h s x h'' s'' j hp e => by
    obtain ⟨u1, h1, s1, e1, k1⟩ := Hoare.bind_ok₂ e
    obtain ⟨j1, w1, _, hemp⟩ := closeBlocksG_spec d li 0 h s h1 s1 j e1
    obtain ⟨u2, h2, s2, e2, k2⟩ := Hoare.bind_ok₂ k1
    obtain ⟨j2, w2, o2⟩ := (Kp.up (P := PA) d DrvKeep.advance).h h1 s1 u2 h2 s2 j1 trivial e2
    cases k2
    refine ⟨j2, d.wtrans w1 w2, fun _ => ?_⟩
    rw [o2]
    exact hemp (by rw [hp.2]; exact hli) rfl⟩

end lines

theorem Kp.bind_next {K : Hooks σ Pr} {J : σ → St → Prop} {D W : σ → St → σ → St → Prop} {V Vn : Block → St → Prop}
    {Done : σ → St → Block → Prop} (d : Disc K J D W V Vn Done) {P : St → Prop} {α} {R : α → List Block → St → Prop}
    {m : StateT σ M α} {k : α → StateT σ M (LineOutcome × List LineStat)} (hm : Kp J W P R m) (hk : ∀ a, Kp J W PA Qnext (k a)) :
    Kp J W P Qnext (m >>= k) := Kp.bind_any d (fun _ _ _ _ q => q) hm hk

theorem Kp.of_next {J : σ → St → Prop} {W : σ → St → σ → St → Prop} {P : St → Prop} {m : StateT σ M (LineOutcome × List LineStat)}
    (h : Kp J W PA Qnext m) : Kp J W P Qeof m :=
  h.conseq (fun _ _ => trivial) (fun _ _ _ hn he => by rw [hn] at he; cases he)

/-- one step of the walk for a stretch of the line loop that can only answer `.next` (`P = PA`, `Q = Qnext`) -/
macro "kp_nx_step " d:ident : tactic =>
  `(tactic| first
    | kp_leaf $d
    | ((with_reducible apply Kp.bind_next $d); first | apply_hyp | kp_leaf $d)
    | with_reducible apply Kp.ite
    | intro _
    | split)

/-- one step of the walk for the line loop (`P = Plj d R ob`, `Q = Qeof`) -/
macro "kp_lj_step " d:ident : tactic =>
  `(tactic| first
    | apply_hyp
    | ((with_reducible refine Kp.bind $d (stbW_plj $d _ _) ?_ (fun _ => ?_)); first | kp_leaf $d | apply_hyp)
    | with_reducible apply Kp.ite
    | ((with_reducible apply Kp.of_next); (repeat' kp_nx_step $d); done)
    | intro _
    | split)

section lines2
variable {K : Hooks σ Pr} {J : σ → St → Prop} {D W : σ → St → σ → St → Prop} {V Vn : Block → St → Prop}
  {Done : σ → St → Block → Prop} (d : Disc K J D W V Vn Done)
include d

theorem lineLoopG_lj (parent : Nat) (ob : List Block) (li : Int) (hli : li = (ob.length : Int) - 1) :
    ∀ (rest : List Block) (i : Int) (bl : List LineStat), Kp J W (Plj d rest ob) Qeof (lineLoopG K parent ob li rest i bl)
  | [], i, bl => by unfold lineLoopG; repeat' kp_lj_step d
  | be :: rest, i, bl => by
    have h0 := Kp.eofBranch d ob li hli (be :: rest)
    have h1 := openBlocksG_kp d
    have h2 := closeBlocksG_kp d
    have ih := fun i bl => (lineLoopG_lj parent ob li hli rest i bl).conseq (P' := Plj d (be :: rest) ob)
      (fun _ hs => ⟨fun b hb => hs.1 b (List.mem_cons_of_mem _ hb), hs.2⟩) (fun _ _ _ q => q)
    have h3 : Kp J W (Plj d (be :: rest) ob) QS (K.cont be.bp be.node) :=
      ⟨fun h s a h' s' j hp e => by
        obtain ⟨j', w, o⟩ := d.cont j (hp.1 be (List.mem_cons_self ..)) e
        exact ⟨j', w, o⟩⟩
    unfold lineLoopG
    refine Kp.bind d (stbW_plj d _ _) (by kp_leaf d) (fun x => ?_)
    obtain ⟨line, seg⟩ := x
    cases line with
    | none => exact h0 _
    | some line => repeat' kp_lj_step d

theorem linesLoopG_empty (parent : Nat) : ∀ (fuel : Nat) (bl : List LineStat) (h : σ) (s : St)
    (x : Bool × List LineStat) (h' : σ) (s' : St), J h s →
    linesLoopG K parent fuel bl h s = .ok ((x, h'), s') → J h' s' ∧ s'.pc.opened = [] := by
  intro fuel
  induction fuel with
  | zero => intro bl h s x h' s' _ e; unfold linesLoopG at e; cases e
  | succ fuel ih =>
    intro bl h s x h' s' j e
    unfold linesLoopG at e
    dsimp only at e
    obtain ⟨pc, h1, s1, e1, k1⟩ := Hoare.bind_ok₂ e
    obtain ⟨eh1, ex1⟩ := Hoare.lift_ok₂ e1
    cases ex1
    rw [eh1] at k1
    split at k1
    · rename_i hl
      cases k1
      exact ⟨j, List.eq_nil_of_length_eq_zero (by simpa using hl)⟩
    · obtain ⟨r, h2, s2, e2, k2⟩ := Hoare.bind_ok₂ k1
      obtain ⟨j2, _, lj⟩ := (lineLoopG_lj d parent s.pc.opened ((s.pc.opened.length : Int) - 1) rfl s.pc.opened 0 bl).h
        _ _ _ _ _ j ⟨d.ovalid j, rfl⟩ e2
      cases hr : r.1 with
      | eof =>
        simp only [hr] at k2
        cases k2
        exact ⟨j2, lj hr⟩
      | next =>
        simp only [hr] at k2
        obtain ⟨u3, h3, s3, e3, k3⟩ := Hoare.bind_ok₂ k2
        obtain ⟨j3, _, _⟩ := (Kp.up (P := PA) d DrvKeep.advance).h h2 s2 u3 h3 s3 j2 trivial e3
        exact ih r.2 _ _ x h' s' j3 k3

theorem blocksLoopG_empty (parent : Nat) : ∀ (fuel : Nat) (bl : List LineStat) (h : σ) (s : St)
    (x : Unit) (h' : σ) (s' : St), J h s → s.pc.opened = [] →
    blocksLoopG K parent fuel bl h s = .ok ((x, h'), s') → J h' s' ∧ s'.pc.opened = [] := by
  intro fuel
  induction fuel with
  | zero => intro bl h s x h' s' _ _ e; unfold blocksLoopG at e; cases e
  | succ fuel ih =>
    intro bl h s x h' s' j ho e
    unfold blocksLoopG at e
    dsimp only at e
    obtain ⟨r1, h1, s1, e1, k1⟩ := Hoare.bind_ok₂ e
    obtain ⟨j1, _, op1⟩ := (Kp.up (P := PA) d DrvKeep.skipBlank).h h s r1 h1 s1 j trivial e1
    have o1 : s1.pc.opened = [] := by rw [op1]; exact ho
    split at k1
    · cases k1
      exact ⟨j1, o1⟩
    · obtain ⟨r2, h2, s2, e2, k2⟩ := Hoare.bind_ok₂ k1
      obtain ⟨eh2, ex2⟩ := Hoare.lift_ok₂ e2
      cases ex2
      rw [eh2] at k2
      obtain ⟨pc3, h3, s3, e3, k3⟩ := Hoare.bind_ok₂ k2
      obtain ⟨eh3, ex3⟩ := Hoare.lift_ok₂ e3
      cases ex3
      rw [eh3] at k3
      obtain ⟨r4, h4, s4, e4, k4⟩ := Hoare.bind_ok₂ k3
      obtain ⟨j4, _, sh⟩ := openBlocksG_spec d parent _ _ _ _ _ _ j1 e4
      split at k4
      · rename_i hne
        have hk : h' = h4 ∧ s' = s4 := by cases k4; exact ⟨rfl, rfl⟩
        rw [hk.1, hk.2]
        have hne' : r4 ≠ .newBlocksOpened := by simpa using hne
        refine ⟨j4, ?_⟩
        cases hop : s4.pc.opened with
        | nil => rfl
        | cons b rest =>
          have := sh hne' b (by rw [hop]; exact List.mem_cons_self ..)
          rw [o1] at this; cases this
      · obtain ⟨u5, h5, s5, e5, k5⟩ := Hoare.bind_ok₂ k4
        obtain ⟨j5, _, _⟩ := (Kp.up (P := PA) d DrvKeep.advance).h h4 s4 u5 h5 s5 j4 trivial e5
        obtain ⟨r6, h6, s6, e6, k6⟩ := Hoare.bind_ok₂ k5
        obtain ⟨j6, o6⟩ := linesLoopG_empty d parent fuel _ _ _ _ _ _ j5 e6
        split at k6
        · cases k6
          exact ⟨j6, o6⟩
        · exact ih r6.2 _ _ x h' s' j6 o6 k6

/-- **the close discipline of the block phase of a driver with hooks**: in the final state the invariant holds and the
    open-block stack is empty -/
theorem runG_disc (h0 : σ) (src : Bytes) (j0 : J h0 (initSt src)) (h : σ) (st : St) (e : runG K h0 src = .ok (h, st)) :
    J h st ∧ st.pc.opened = [] := by
  unfold runG at e
  cases hx : parseBlocksG K 0 h0 (initSt src) with
  | error x => rw [hx] at e; cases e
  | ok r =>
    rw [hx] at e
    obtain ⟨⟨u, h'⟩, s'⟩ := r
    simp only [Except.map] at e
    cases e
    unfold parseBlocksG at hx
    obtain ⟨u1, h1, s1, e1, k1⟩ := Hoare.bind_ok₂ hx
    obtain ⟨eh1, ex1⟩ := Hoare.lift_ok₂ e1
    have es1 := modPc_ok ex1
    rw [eh1] at k1
    have j1 : J h0 s1 := by
      rw [es1]
      exact d.remove j0 [] (fun _ hb => by cases hb) (fun b hb => by cases hb)
    have o1 : s1.pc.opened = [] := by rw [es1]
    obtain ⟨v, h2, s2, e2, k2⟩ := Hoare.bind_ok₂ k1
    obtain ⟨eh2, ex2⟩ := Hoare.lift_ok₂ e2
    cases ex2
    rw [eh2] at k2
    exact blocksLoopG_empty d 0 _ [] _ _ _ _ _ j1 o1 k2

end lines2

end GM.Blocks
