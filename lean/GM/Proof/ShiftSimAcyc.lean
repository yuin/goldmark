/-
  GM.Proof.ShiftSimAcyc — the node store the block parsers build is acyclic: ids grow downwards (`Acyc`).
  Invariants over the node store:
  * `NodeInv I`: `I` ignores the reader and the parse context, is kept by a `List.set` that keeps `parent` and
    `children`, and by the push of an isolated node: kept by the primitive steps of GM.Proof.BlocksStep, hence by
    every `Open` / `Continue` (`NodeInv.step`);
  * `TreeInv I`: also kept by a `List.set` whose new links point downwards: the tree operations (`TreeInv.link` for the
    link writes of GM.Proof.BlocksStep) and `Close` (calculus `Keeps I` of GM.Proof.QuoteSimFoot, tactic `ac`).
  Instances: `Acyc`, `AcycLt k` (`Acyc` and `k` in range), `LenGe k`, `IsFresh k n`, `IsoFrom k`.
-/
import GM.Proof.QuoteSimInvNE
import GM.Proof.BlocksStep
import GM.Proof.IndepFrame

namespace GM.Blocks.Sh
open GM GM.Text GM.Blocks
open GM.ConvertH (setextTail1 setextTail2 setextClose_eq)

/-- links point downwards: every child has a larger id than its parent, and a parent pointer is smaller than
    the node's id -/
def Acyc (s : St) : Prop :=
  (∀ j c, c ∈ (s.nodes.getD j default).children → j < c) ∧
  (∀ i p, (s.nodes.getD i default).parent = some p → p < i)

def AcycLt (k : Nat) (s : St) : Prop := Acyc s ∧ k < s.nodes.length

def LenGe (k : Nat) (s : St) : Prop := k ≤ s.nodes.length

/-- `n` is a node of the store created after the store had `k` nodes, without links -/
def IsFresh (k n : Nat) (s : St) : Prop :=
  k ≤ n ∧ n < s.nodes.length ∧ (s.nodes.getD n default).parent = none ∧ (s.nodes.getD n default).children = []

theorem ac_getD_set (l : List Node) (i j : Nat) (v : Node) :
    (l.set i v).getD j default = if i = j ∧ i < l.length then v else l.getD j default := by
  simp only [List.getD_eq_getElem?_getD, List.getElem?_set]
  by_cases h : i = j
  · subst h
    by_cases h2 : i < l.length
    · simp [h2]
    · simp [h2]
  · simp [h]

theorem ac_getD_push (l : List Node) (n : Node) (j : Nat) :
    (l ++ [n]).getD j default =
      if j < l.length then l.getD j default else if j = l.length then n else default := by
  simp only [List.getD_eq_getElem?_getD]
  by_cases h : j < l.length
  · simp [h, List.getElem?_append_left]
  · by_cases h2 : j = l.length
    · subst h2; simp
    · have : l.length + 1 ≤ j := by omega
      simp [h, h2, List.getElem?_eq_none, this]

theorem ac_getD_default (l : List Node) (j : Nat) (h : l.length ≤ j) : l.getD j default = default := by
  simp [List.getD_eq_getElem?_getD, List.getElem?_eq_none, h]

/-- an invariant over the node store that the parsers' own writes keep -/
structure NodeInv (I : St → Prop) : Prop where
  noR : NoR I
  pc : ∀ s pc, I s → I { s with pc := pc }
  setSame : ∀ s id v, I s → v.parent = (s.nodes.getD id default).parent →
    v.children = (s.nodes.getD id default).children → I { s with nodes := s.nodes.set id v }
  push : ∀ s n, I s → n.parent = none → n.children = [] → I { s with nodes := s.nodes ++ [n] }

/-- an invariant over the node store that new links pointing downwards keep -/
structure TreeInv (I : St → Prop) : Prop where
  base : NodeInv I
  set : ∀ s id v, I s → (∀ x, x ∈ v.children → x ∈ (s.nodes.getD id default).children ∨ id < x) →
    (∀ q, v.parent = some q → (s.nodes.getD id default).parent = some q ∨ q < id) →
    I { s with nodes := s.nodes.set id v }

theorem ac_set (s : St) (id : Nat) (v : Node) (hs : Acyc s)
    (hc : ∀ x, x ∈ v.children → x ∈ (s.nodes.getD id default).children ∨ id < x)
    (hp : ∀ q, v.parent = some q → (s.nodes.getD id default).parent = some q ∨ q < id) :
    Acyc { s with nodes := s.nodes.set id v } := by
  obtain ⟨hA, hB⟩ := hs
  constructor
  · intro j c hm
    simp only [ac_getD_set] at hm
    split at hm
    · rename_i h
      obtain ⟨rfl, _⟩ := h
      rcases hc c hm with h1 | h1
      · exact hA _ _ h1
      · exact h1
    · exact hA _ _ hm
  · intro i p hm
    simp only [ac_getD_set] at hm
    split at hm
    · rename_i h
      obtain ⟨rfl, _⟩ := h
      rcases hp p hm with h1 | h1
      · exact hB _ _ h1
      · exact h1
    · exact hB _ _ hm

theorem ac_push (s : St) (n : Node) (hs : Acyc s) (hp : n.parent = none) (hc : n.children = []) :
    Acyc { s with nodes := s.nodes ++ [n] } := by
  obtain ⟨hA, hB⟩ := hs
  constructor
  · intro j c hm
    simp only [ac_getD_push] at hm
    split at hm
    · exact hA _ _ hm
    · split at hm
      · rw [hc] at hm; cases hm
      · cases hm
  · intro i p hm
    simp only [ac_getD_push] at hm
    split at hm
    · exact hB _ _ hm
    · split at hm
      · rw [hp] at hm; cases hm
      · cases hm

theorem ac_acyc_tree : TreeInv Acyc where
  base :=
    { noR := ⟨fun _ _ hs => hs⟩
      pc := fun _ _ hs => hs
      setSame := fun s id v hs hp hc =>
        ac_set s id v hs (fun x hx => Or.inl (hc ▸ hx)) (fun q hq => Or.inl (hp ▸ hq))
      push := ac_push }
  set := ac_set

theorem TreeInv.lt {I : St → Prop} (hI : TreeInv I) (k : Nat) :
    TreeInv (fun s => I s ∧ k < s.nodes.length) where
  base :=
    { noR := ⟨fun s r hs => ⟨hI.base.noR.h s r hs.1, hs.2⟩⟩
      pc := fun s pc hs => ⟨hI.base.pc s pc hs.1, hs.2⟩
      setSame := fun s id v hs hp hc => ⟨hI.base.setSame s id v hs.1 hp hc, by
        show k < (s.nodes.set id v).length
        rw [List.length_set]; exact hs.2⟩
      push := fun s n hs hp hc => ⟨hI.base.push s n hs.1 hp hc, by
        show k < (s.nodes ++ [n]).length
        rw [List.length_append]; exact Nat.lt_of_lt_of_le hs.2 (Nat.le_add_right _ _)⟩ }
  set := fun s id v hs hc hp => ⟨hI.set s id v hs.1 hc hp, by
    show k < (s.nodes.set id v).length
    rw [List.length_set]; exact hs.2⟩

theorem ac_acycLt_tree (k : Nat) : TreeInv (AcycLt k) := ac_acyc_tree.lt k

section prims
variable {I : St → Prop}

theorem ac_modPc (hI : NodeInv I) (f : Ctx → Ctx) : Keeps I (modPc f) :=
  modPc_keeps f fun s hs => hI.pc s _ hs

theorem ac_modNode (hI : NodeInv I) (id : Nat) (f : Node → Node)
    (h : ∀ n, (f n).parent = n.parent ∧ (f n).children = n.children) : Keeps I (modNode id f) := by
  intro s a s' hs hm
  cases hm
  exact hI.setSame s id _ hs (h _).1 (h _).2

theorem ac_newNode (hI : NodeInv I) (n : Node) (h : n.parent = none ∧ n.children = []) :
    Keeps I (newNode n) := by
  intro s a s' hs hm
  cases hm
  exact hI.push s n hs h.1 h.2

theorem ac_appendLine (hI : NodeInv I) (id : Nat) (seg : Segment) : Keeps I (appendLine id seg) :=
  ac_modNode hI id _ fun _ => ⟨rfl, rfl⟩

theorem ac_bind_new {β} (hI : NodeInv I) (n : Node) (f : Nat → M β) (hp : n.parent = none)
    (hc : n.children = []) (hf : ∀ s, I s → Keeps I (f s.nodes.length)) : Keeps I (newNode n >>= f) := by
  intro s b s' hs h
  have h' : f s.nodes.length { s with nodes := s.nodes ++ [n] } = .ok (b, s') := h
  exact hf s hs _ b s' (hI.push s n hs hp hc) h'

end prims

theorem ac_pure_bind {I : St → Prop} {α β} (a : α) (f : α → M β) (h : Keeps I (f a)) :
    Keeps I (pure a >>= f) :=
  fun s b s' hs hm => h s b s' hs hm

theorem ac_throw_bind {I : St → Prop} {α β} (e : Panic) (f : α → M β) :
    Keeps I ((throw e : M α) >>= f) := by
  intro s b s' _ hm
  have hm' : (Except.error e : Except Panic (β × St)) = .ok (b, s') := hm
  cases hm'

macro "ac_step" : tactic =>
  `(tactic| first
    | with_reducible apply Keeps.pure
    | with_reducible apply ac_pure_bind
    | with_reducible apply ac_throw_bind
    | with_reducible apply Keeps.bind
    | with_reducible apply Keeps.ite
    | with_reducible apply Keeps.throw
    | with_reducible apply getNode_keeps
    | with_reducible apply getPc_keeps
    | with_reducible apply source_keeps
    | with_reducible apply get_keeps
    | with_reducible apply liftE_keeps
    | (with_reducible apply ac_modPc; first | assumption | apply_hyp)
    | (with_reducible apply ac_appendLine; first | assumption | apply_hyp)
    | ((with_reducible apply ac_modNode); (first | assumption | apply_hyp); (intro n; exact ⟨rfl, rfl⟩))
    | ((with_reducible apply ac_newNode); (first | assumption | apply_hyp); (exact ⟨rfl, rfl⟩))
    | apply_hyp
    | intro_pi
    | split)

/-- walk over the `do` block of a tree operation or a `Close` that keeps an invariant of the node store -/
macro "ac" : tactic => `(tactic| repeat' ac_step)

theorem ac_acyc : NodeInv Acyc := ac_acyc_tree.base

theorem ac_peekLine : Keeps Acyc peekLine := peekLine_keeps ac_acyc.noR
theorem ac_lineOffset : Keeps Acyc lineOffset := lineOffset_keeps ac_acyc.noR
theorem ac_advance (n : Int) : Keeps Acyc (advance n) := advance_keeps ac_acyc.noR n
theorem ac_advanceAndSetPadding (n p : Int) : Keeps Acyc (advanceAndSetPadding n p) :=
  advanceAndSetPadding_keeps ac_acyc.noR n p
theorem ac_advanceLine : Keeps Acyc advanceLine := advanceLine_keeps ac_acyc.noR
theorem ac_position : Keeps Acyc position := position_keeps
theorem ac_setPosition (l : Int) (p : Segment) : Keeps Acyc (setPosition l p) := setPosition_keeps ac_acyc.noR l p
theorem ac_source : Keeps Acyc source := source_keeps
theorem ac_getPc : Keeps Acyc getPc := getPc_keeps
theorem ac_modPc_acyc (f : Ctx → Ctx) : Keeps Acyc (modPc f) := ac_modPc ac_acyc f
theorem ac_getNode (id : Nat) : Keeps Acyc (getNode id) := getNode_keeps id
theorem ac_liftE {α} (e : Except Panic α) : Keeps Acyc (liftE e) := liftE_keeps e
theorem ac_skipBlankLinesR : Keeps Acyc skipBlankLinesR := skipBlankLinesR_keeps ac_acyc.noR
theorem ac_newNode_acyc (n : Node) (h : n.parent = none ∧ n.children = []) : Keeps Acyc (newNode n) :=
  ac_newNode ac_acyc n h
theorem ac_modNode_acyc (id : Nat) (f : Node → Node)
    (h : ∀ n, (f n).parent = n.parent ∧ (f n).children = n.children) : Keeps Acyc (modNode id f) :=
  ac_modNode ac_acyc id f h
theorem ac_appendLine_acyc (id : Nat) (seg : Segment) : Keeps Acyc (appendLine id seg) :=
  ac_appendLine ac_acyc id seg

theorem NodeInv.step {I : St → Prop} (hI : NodeInv I) {Kw : Prop} {W : Nat → Prop} {s s' : St}
    (h : Step Kw W s s') (hs : I s) : I s' := by
  induction h with
  | refl => exact hs
  | trans _ _ ih1 ih2 => exact ih2 (ih1 hs)
  | rd s r' _ _ => exact hI.noR.h s r' hs
  | key s pc' _ _ => exact hI.pc s pc' hs
  | write s id v _ hv => exact hI.setSame s id v hs hv.links.1 hv.links.2.1
  | push s n hp hc => exact hI.push s n hs hp hc

section tree
variable {I : St → Prop} (hI : TreeInv I)
include hI

theorem TreeInv.link {Kw : Prop} {W : Nat → Prop} {s s' : St} (h : Link (· < ·) Kw W s s') (hs : I s) : I s' := by
  induction h with
  | step h => exact hI.base.step h hs
  | trans _ _ ih1 ih2 => exact ih2 (ih1 hs)
  | kids s p cs hc => exact hI.set s p _ hs hc fun q hq => Or.inl hq
  | orphan s c => exact hI.set s c _ hs (fun x hx => Or.inl hx) fun q hq => nomatch hq
  | adopt s c p h => exact hI.set s c _ hs (fun x hx => Or.inl hx) fun q hq => by cases hq; exact Or.inr h

theorem TreeInv.links {α} {m : M α} (h : Links (· < ·) True (fun _ => True) m) : Keeps I m :=
  fun s a s' hs e => hI.link (h.h s a s' e) hs

theorem ac_removeChild_gen (p c : Nat) : Keeps I (removeChild p c) := hI.links (removeChild_links p c)

theorem ac_ensureIsolated_gen (c : Nat) : Keeps I (ensureIsolated c) := hI.links (ensureIsolated_links c)

theorem ac_appendChild_gen (p c : Nat) (h : p < c) : Keeps I (appendChild p c) := hI.links (appendChild_links h)

theorem ac_insertBefore_gen (p : Nat) (v1 : Option Nat) (ins : Nat) (h : p < ins) :
    Keeps I (insertBefore p v1 ins) := hI.links (insertBefore_links v1 h)

theorem ac_insertAfter_gen (p : Nat) (v1 : Option Nat) (ins : Nat) (h : p < ins) :
    Keeps I (insertAfter p v1 ins) := hI.links (insertAfter_links v1 h)

theorem ac_replaceChild_gen (p v1 ins : Nat) (h : p < ins) : Keeps I (replaceChild p v1 ins) :=
  hI.links (replaceChild_links v1 h)

theorem ac_paragraphClose_gen (n : Nat) : Keeps I (paragraphClose n) := hI.links (paragraphClose_links trivial)

end tree

theorem ac_removeChild (p c : Nat) : Keeps Acyc (removeChild p c) := ac_removeChild_gen ac_acyc_tree p c
theorem ac_ensureIsolated (c : Nat) : Keeps Acyc (ensureIsolated c) := ac_ensureIsolated_gen ac_acyc_tree c
theorem ac_appendChild (p c : Nat) (h : p < c) : Keeps Acyc (appendChild p c) :=
  ac_appendChild_gen ac_acyc_tree p c h
theorem ac_insertBefore (p : Nat) (v1 : Option Nat) (ins : Nat) (h : p < ins) :
    Keeps Acyc (insertBefore p v1 ins) := ac_insertBefore_gen ac_acyc_tree p v1 ins h
theorem ac_insertAfter (p : Nat) (v1 : Option Nat) (ins : Nat) (h : p < ins) :
    Keeps Acyc (insertAfter p v1 ins) := ac_insertAfter_gen ac_acyc_tree p v1 ins h
theorem ac_replaceChild (p v1 ins : Nat) (h : p < ins) : Keeps Acyc (replaceChild p v1 ins) :=
  ac_replaceChild_gen ac_acyc_tree p v1 ins h

section parsers
variable {I : St → Prop} (hI : NodeInv I)
include hI

theorem ac_codeClose (n : Nat) : Keeps I (codeClose n) :=
  fun s a s' hs h => hI.step ((codeClose_steps (Kw := True) (W := fun _ => True) trivial).h s a s' h) hs

theorem ac_fencedClose (n : Nat) : Keeps I (fencedClose n) :=
  fun s a s' hs h => hI.step ((fencedClose_steps (W := fun _ => True) trivial n).h s a s' h) hs

theorem ac_bpOpen (bp : BP) (p : Nat) : Keeps I (bpOpen bp p) :=
  fun _ _ _ hs h => hI.step (bpOpen_step h).1 hs

theorem ac_bpContinue (bp : BP) (n : Nat) : Keeps I (bpContinue bp n) :=
  fun _ _ _ hs h => hI.step (bpContinue_step h) hs

end parsers

/-! ### `setextClose`: the ids it links are read from the store while it runs

Its `Link` is therefore stated over the state it starts in. One write falls outside `Link`: with text left, the heading takes lines AND
the `blankPrev` flag of the temporary paragraph. -/

theorem _root_.GM.Blocks.Link.mono {L L' : Nat → Nat → Prop} {Kw Kw' : Prop} {W W' : Nat → Prop} (hl : ∀ p c, L p c → L' p c) (hk : Kw → Kw')
    (hw : ∀ id, W id → W' id) {s s' : St} (h : Link L Kw W s s') : Link L' Kw' W' s s' := by
  induction h with
  | step h => exact .step (h.mono hk hw)
  | trans _ _ ih1 ih2 => exact .trans ih1 ih2
  | kids s p cs hg => exact .kids s p cs fun x hx => (hg x hx).imp id (hl p x)
  | orphan s c => exact .orphan s c
  | adopt s c p h => exact .adopt s c p (hl p c h)

theorem a2_nextIn_mem (c : Nat) : ∀ (l : List Nat) (b : Nat), nextIn c l = some b → b ∈ l
  | [], b, h => by unfold nextIn at h; cases h
  | [_], b, h => by unfold nextIn at h; cases h
  | a :: x :: rest, b, h => by
    unfold nextIn at h
    split at h
    · cases h; exact List.mem_cons_of_mem _ List.mem_cons_self
    · exact List.mem_cons_of_mem _ (a2_nextIn_mem c (x :: rest) b h)

theorem a2_nextSibling_val (c : Nat) (s s' : St) (a : Option Nat) (h : nextSibling c s = .ok (a, s')) :
    s' = s ∧ ∀ nx, a = some nx → ∃ j, nx ∈ (s.nodes.getD j default).children := by
  unfold nextSibling at h
  have h' : (match (s.nodes.getD c default).parent with
      | none => (pure none : M (Option Nat))
      | some p => do
        let pn ← getNode p
        pure (nextIn c pn.children)) s = .ok (a, s') := h
  cases hp : (s.nodes.getD c default).parent with
  | none =>
    rw [hp] at h'
    cases h'
    exact ⟨rfl, fun nx e => nomatch e⟩
  | some p =>
    rw [hp] at h'
    have h'' : (Except.ok (nextIn c (s.nodes.getD p default).children, s) : Except Panic _) = .ok (a, s') := h'
    cases h''
    exact ⟨rfl, fun nx e => ⟨p, a2_nextIn_mem c _ nx e⟩⟩

/-- what `setextClose n`, started in `s`, links: the one node it creates, under the parent of `n` -/
def SetextL (s : St) (n : Nat) (p c : Nat) : Prop := (s.nodes.getD n default).parent = some p ∧ c = s.nodes.length

def SameLinks (s t : St) : Prop :=
  t.nodes.length = s.nodes.length ∧ ∀ q, (t.nodes.getD q default).parent = (s.nodes.getD q default).parent ∧
    (t.nodes.getD q default).children = (s.nodes.getD q default).children

section
variable {L : Nat → Nat → Prop} {Kw : Prop} {W : Nat → Prop}

theorem link_modNode {id : Nat} {f : Node → Node} {s s' : St} {a : Unit} (h : modNode id f s = .ok (a, s')) (hW : W id)
    (hf : ∀ o, LinesOnly (f o) o) : Link L Kw W s s' ∧ SameLinks s s' := by
  rw [modNode_ok h]
  refine ⟨.step (.write s id _ hW (hf _)), by simp, fun q => ?_⟩
  simp only [ac_getD_set]
  split
  · rename_i e; rw [e.1]; exact ⟨(hf _).links.1, (hf _).links.2.1⟩
  · exact ⟨rfl, rfl⟩

/-- the end of `setextClose` for a heading without text: the Paragraph it makes comes under `hp`; only it and the next sibling are written -/
theorem setextTail2_link {n hp : Nat} {seg : Segment} {next : Option Nat} {b : Bool} {t s' : St} {a : Unit}
    (hL : L hp t.nodes.length) (hnew : W t.nodes.length) (hnext : ∀ nx, next = some nx → W nx)
    (h : setextTail2 n hp seg next b t = .ok (a, s')) : Link L True W t s' := by
  unfold setextTail2 at h
  have lp := @Link.pre L True W
  split at h
  · obtain ⟨para, t1, h1, k1⟩ := bind_ok h
    obtain ⟨rfl, e1⟩ := newNode_ok h1
    obtain ⟨_, t2, h2, k2⟩ := bind_ok k1
    obtain ⟨_, t3, h3, k3⟩ := bind_ok k2
    have l1 : Link L True W t t1 := by rw [e1]; exact .step (.push t _ rfl rfl)
    have l2 : Link L True W t1 t2 := (link_modNode h2 hnew (fun _ => rfl)).1
    exact lp.trans (lp.trans (lp.trans l1 l2) ((insertAfter_links (some n) hL).h _ _ _ h3)) ((removeChild_links hp n).h _ _ _ k3)
  · cases next with
    | none => exact (removeChild_links hp n).h _ _ _ h
    | some nx =>
      obtain ⟨nn, t1, h1, k1⟩ := bind_ok h
      obtain ⟨_, e1⟩ := getNode_ok h1; subst t1
      dsimp only at k1
      split at k1
      · obtain ⟨_, _, h2, _⟩ := bind_ok k1
        exact (throw_ok h2).elim
      · obtain ⟨_, t2, h2, k2⟩ := bind_ok k1
        exact lp.trans (link_modNode h2 (hnext nx rfl) (fun _ => rfl)).1 ((removeChild_links hp n).h _ _ _ k2)

end

theorem setextClose_link {n : Nat} {s s' : St} {a : Unit} (h : setextClose n s = .ok (a, s')) :
    ∃ s1 s2, Link (SetextL s n) True (May n s.nodes) s s1 ∧
      (s2 = s1 ∨ ∃ v : Node, v.parent = (s1.nodes.getD n default).parent ∧
        v.children = (s1.nodes.getD n default).children ∧ v.kind = (s1.nodes.getD n default).kind ∧
        s2 = { s1 with nodes := s1.nodes.set n v }) ∧
      Link (SetextL s n) True (May n s.nodes) s2 s' := by
  rw [setextClose_eq] at h
  obtain ⟨hn, t1, h1, k1⟩ := bind_ok h
  obtain ⟨rfl, e1⟩ := getNode_ok h1; subst t1
  obtain ⟨seg, t2, h2, k2⟩ := bind_ok k1
  obtain ⟨_, e2⟩ := liftE_ok h2; subst t2
  obtain ⟨_, t3, h3, k3⟩ := bind_ok k2
  obtain ⟨l3, sl3⟩ := link_modNode (L := SetextL s n) (Kw := True) (W := May n s.nodes) h3 (.inl rfl) (fun _ => rfl)
  obtain ⟨pc, t4, h4, k4⟩ := bind_ok k3
  obtain ⟨rfl, e4⟩ := getPc_ok h4; subst t4
  clear h h1 k1 h2 k2 h3 k3 h4
  dsimp only at k4
  cases ht : t3.pc.tmpPara with
  | none =>
    rw [ht] at k4
    obtain ⟨_, _, h5, _⟩ := bind_ok k4
    exact (throw_ok h5).elim
  | some tmp =>
    rw [ht] at k4
    obtain ⟨tmp', t5, h5, k5⟩ := bind_ok k4
    obtain ⟨e5', e5⟩ := pure_ok h5; subst t5; subst tmp' 
    obtain ⟨_, t6, h6, k6⟩ := bind_ok k5
    have e6 := modPc_ok h6
    obtain ⟨tn, t7, h7, k7⟩ := bind_ok k6
    obtain ⟨rfl, e7⟩ := getNode_ok h7; subst t7
    clear k4 h5 k5 h6 k6 h7
    have lp := @Link.pre (SetextL s n) True (May n s.nodes)
    have l6 : Link (SetextL s n) True (May n s.nodes) s t6 := by
      rw [e6]; exact lp.trans l3 (.step (.key t3 _ trivial rfl))
    have sl6 : SameLinks s t6 := by rw [e6]; exact sl3
    clear e6 l3 sl3
    split at k7
    · obtain ⟨next, t8, h8, k8⟩ := bind_ok k7
      obtain ⟨e8, hnx⟩ := a2_nextSibling_val n t6 t8 next h8; subst t8
      obtain ⟨src, t9, h9, k9⟩ := bind_ok k8
      cases h9
      obtain ⟨seg', t10, h10, k10⟩ := bind_ok k9
      obtain ⟨_, e10⟩ := liftE_ok h10; subst t10
      obtain ⟨x, t11, h11, k11⟩ := bind_ok k10
      obtain ⟨rfl, e11⟩ := getNode_ok h11; subst t11
      cases hpar : (t6.nodes.getD n default).parent with
      | none =>
        rw [hpar] at k11
        obtain ⟨_, _, h12, _⟩ := bind_ok k11
        exact (throw_ok h12).elim
      | some hp =>
        rw [hpar] at k11
        obtain ⟨hp', t12, h12, k12⟩ := bind_ok k11
        obtain ⟨e12', e12⟩ := pure_ok h12; subst t12; subst hp' 
        unfold setextTail1 at k12
        have key : ∀ b, setextTail2 n hp seg' next b t6 = .ok (a, s') → ∃ s1 s2, Link (SetextL s n) True (May n s.nodes) s s1 ∧
            (s2 = s1 ∨ ∃ v : Node, v.parent = (s1.nodes.getD n default).parent ∧
              v.children = (s1.nodes.getD n default).children ∧ v.kind = (s1.nodes.getD n default).kind ∧
              s2 = { s1 with nodes := s1.nodes.set n v }) ∧
            Link (SetextL s n) True (May n s.nodes) s2 s' := by
          intro b k13
          refine ⟨s', s', lp.trans l6 (setextTail2_link ?_ ?_ ?_ k13), .inl rfl, lp.refl s'⟩
          · exact ⟨by rw [← (sl6.2 n).1]; exact hpar, sl6.1⟩
          · exact .inr (.inl (Nat.le_of_eq sl6.1.symm))
          · intro nx e
            obtain ⟨j, hj⟩ := hnx nx e
            exact .inr (.inr ⟨j, by rw [← (sl6.2 j).2]; exact hj⟩)
        cases next with
        | none =>
          obtain ⟨b, t13, h13, k13⟩ := bind_ok k12
          obtain ⟨_, e13⟩ := pure_ok h13; subst t13
          exact key _ k13
        | some nx =>
          obtain ⟨y, t13, h13, k13⟩ := bind_ok k12
          obtain ⟨_, e13⟩ := getNode_ok h13; subst t13
          obtain ⟨b, t14, h14, k14⟩ := bind_ok k13
          obtain ⟨_, e14⟩ := pure_ok h14; subst t14
          exact key _ k14
    · obtain ⟨_, t8, h8, k8⟩ := bind_ok k7
      have e8 := modNode_ok h8
      refine ⟨t6, t8, l6, Or.inr ⟨_, ?_, ?_, ?_, e8⟩, ?_⟩
      · rfl
      · rfl
      · rfl
      cases htp : (t6.nodes.getD tmp default).parent with
      | some tp => rw [htp] at k8; exact (removeChild_links _ _).h _ _ _ k8
      | none => rw [htp] at k8; obtain ⟨_, e9⟩ := pure_ok k8; subst e9; exact lp.refl _

def AcycBs (bs : List Nat) (s : St) : Prop := Acyc s ∧ ∀ p, p ∈ bs → p < s.nodes.length

theorem ac_acycBs_tree (bs : List Nat) : TreeInv (AcycBs bs) where
  base :=
    { noR := ⟨fun _ _ hs => hs⟩
      pc := fun _ _ hs => hs
      setSame := fun s id v hs hp hc => ⟨ac_acyc.setSame s id v hs.1 hp hc, fun p hm => by
        show p < (s.nodes.set id v).length
        rw [List.length_set]; exact hs.2 p hm⟩
      push := fun s n hs hp hc => ⟨ac_push s n hs.1 hp hc, fun p hm => by
        show p < (s.nodes ++ [n]).length
        rw [List.length_append]; exact Nat.lt_of_lt_of_le (hs.2 p hm) (Nat.le_add_right _ _)⟩ }
  set := fun s id v hs hc hp => ⟨ac_set s id v hs.1 hc hp, fun p hm => by
    show p < (s.nodes.set id v).length
    rw [List.length_set]; exact hs.2 p hm⟩

theorem ac_parent_lt (s : St) (hs : Acyc s) (node p : Nat) (h : (s.nodes.getD node default).parent = some p) :
    p < s.nodes.length := by
  have h1 := hs.2 node p h
  have h2 : node < s.nodes.length := by
    apply Nat.lt_of_not_le
    intro hle
    rw [ac_getD_default _ _ hle] at h
    cases h
  omega

/-- after `getNode`, the parent pointer read is known to be in range -/
theorem ac_bind_getNode {β} (bs : List Nat) (node : Nat) (f : Node → M β)
    (hf : ∀ n, Keeps (AcycBs (n.parent.toList ++ bs)) (f n)) : Keeps (AcycBs bs) (getNode node >>= f) := by
  intro s b s' hs h
  have h' : f (s.nodes.getD node default) s = .ok (b, s') := h
  have := hf _ s b s' ⟨hs.1, fun p hm => by
    rcases List.mem_append.1 hm with h1 | h1
    · apply ac_parent_lt s hs.1 node p
      cases hpar : (s.nodes.getD node default).parent with
      | none => rw [hpar] at h1; cases h1
      | some q =>
        rw [hpar] at h1
        rw [List.mem_singleton.1 h1]
    · exact hs.2 p h1⟩ h'
  exact ⟨this.1, fun p hm => this.2 p (List.mem_append_right _ hm)⟩

macro "ac_inv" : tactic => `(tactic| first | assumption | exact (ac_acycBs_tree _).base)

macro "acn_step" : tactic =>
  `(tactic| first
    | ((with_reducible apply ac_bind_new) <;> first | rfl | ac_inv | skip)
    | ((with_reducible apply ac_insertAfter_gen (ac_acycBs_tree _));
        (exact (And.right ‹AcycBs _ _›) _ (by simp [*])))
    | ((with_reducible apply ac_replaceChild_gen (ac_acycBs_tree _));
        (exact (And.right ‹AcycBs _ _›) _ (by simp [*])))
    | ac_step)

macro "acn" : tactic => `(tactic| repeat' acn_step)

macro "acb" : tactic => `(tactic| repeat' first | with_reducible apply ac_bind_getNode | acn_step)

theorem ac_of_bs {α} {m : M α} (h : Keeps (AcycBs []) m) : Keeps Acyc m :=
  fun s a s' hs hm => (h s a s' ⟨hs, fun _ hp => nomatch hp⟩ hm).1

theorem ac_setextClose (n : Nat) : Keeps Acyc (setextClose n) := by
  intro s a s' hs h
  obtain ⟨s1, s2, l1, hmid, l2⟩ := setextClose_link h
  have hL : ∀ p c, SetextL s n p c → p < c := fun p c hl => hl.2 ▸ ac_parent_lt s hs n p hl.1
  have h1 : Acyc s1 := ac_acyc_tree.link (l1.mono hL id fun _ h => h) hs
  have h2 : Acyc s2 := by
    rcases hmid with rfl | ⟨v, hp, hc, _, rfl⟩
    · exact h1
    · exact ac_acyc.setSame s1 n v h1 hp hc
  exact ac_acyc_tree.link (l2.mono hL id fun _ h => h) h2

theorem ac_tightenItem (child : Nat) (bs : List Nat) (hc : child ∈ bs) :
    ∀ gcs, Keeps (AcycBs bs) (tightenItem child gcs)
  | [] => by unfold tightenItem; exact Keeps.pure _
  | gc :: gcs => by
    have ih := ac_tightenItem child bs hc gcs
    have hb := (ac_acycBs_tree bs).base
    unfold tightenItem; acn

theorem ac_tightenItems : ∀ (cs : List Nat) (bs : List Nat), Keeps (AcycBs bs) (tightenItems cs)
  | [], bs => by unfold tightenItems; exact Keeps.pure _
  | child :: rest, bs => by
    unfold tightenItems
    intro s b s' hs h
    have h' : (tightenItem child (s.nodes.getD child default).children >>= fun _ => tightenItems rest) s
        = .ok (b, s') := h
    by_cases hlt : child < s.nodes.length
    · have hk : Keeps (AcycBs (child :: bs))
          (tightenItem child (s.nodes.getD child default).children >>= fun _ => tightenItems rest) :=
        Keeps.bind (ac_tightenItem child _ List.mem_cons_self _) fun _ => ac_tightenItems rest _
      have := hk s b s' ⟨hs.1, fun p hm => by
        rcases List.mem_cons.1 hm with h1 | h1
        · rw [h1]; exact hlt
        · exact hs.2 p h1⟩ h'
      exact ⟨this.1, fun p hm => this.2 p (List.mem_cons_of_mem _ hm)⟩
    · rw [ac_getD_default _ _ (Nat.le_of_not_lt hlt)] at h'
      have h'' : tightenItems rest s = .ok (b, s') := h'
      exact ac_tightenItems rest bs s b s' hs h''

theorem ac_listClose_bs (n : Nat) : Keeps (AcycBs []) (listClose n) := by
  have hb := (ac_acycBs_tree []).base
  have := fun cs => ac_tightenItems cs []
  unfold listClose; ac

theorem ac_listClose (n : Nat) : Keeps Acyc (listClose n) := ac_of_bs (ac_listClose_bs n)

theorem ac_paragraphClose (n : Nat) : Keeps Acyc (paragraphClose n) := ac_paragraphClose_gen ac_acyc_tree n

theorem bpContinue_acyc (bp : BP) (node : Nat) : Keeps Acyc (bpContinue bp node) := ac_bpContinue ac_acyc bp node

theorem bpOpen_acyc (bp : BP) (parent : Nat) : Keeps Acyc (bpOpen bp parent) := ac_bpOpen ac_acyc bp parent

theorem bpClose_acyc (bp : BP) (node : Nat) : Keeps Acyc (bpClose bp node) := by
  cases bp <;> unfold bpClose
  · exact ac_setextClose node
  · exact Keeps.pure _
  · exact ac_listClose node
  · exact Keeps.pure _
  · exact ac_codeClose ac_acyc node
  · exact Keeps.pure _
  · exact ac_fencedClose ac_acyc node
  · exact Keeps.pure _
  · exact Keeps.pure _
  · exact ac_paragraphClose node

theorem ac_modNode_len (k : Nat) (id : Nat) (f : Node → Node) : Keeps (LenGe k) (modNode id f) := by
  intro s a s' hs hm
  cases hm
  show k ≤ (s.nodes.set id _).length
  rw [List.length_set]; exact hs

theorem ac_appendChild_len (k : Nat) (p c : Nat) : Keeps (LenGe k) (appendChild p c) :=
  fun s a s' hs h => Nat.le_trans hs ((appendChild_frI nodesGrow_prims p c).h s a s' h)

theorem bpOpen_len (bp : BP) (parent : Nat) (s s' : St) (a : Option Nat × PState)
    (h : bpOpen bp parent s = .ok (a, s')) : s.nodes.length ≤ s'.nodes.length :=
  (bpOpen_step h).1.len

theorem bpContinue_len (bp : BP) (node : Nat) (s s' : St) (a : PState)
    (h : bpContinue bp node s = .ok (a, s')) : s.nodes.length ≤ s'.nodes.length :=
  (bpContinue_step h).len

theorem bpClose_len (bp : BP) (node : Nat) (s s' : St) (a : Unit)
    (h : bpClose bp node s = .ok (a, s')) : s.nodes.length ≤ s'.nodes.length :=
  (bpClose_fr nodesGrow_prims (fun _ => Nat.le_refl _) (fun _ => Nat.le_refl _) bp node).h s a s' h

/-- an answer `some n` is a node created during the run, without links -/
def FreshT (k : Nat) (m : M (Option Nat × PState)) : Prop :=
  ∀ s a s', LenGe k s → m s = .ok (a, s') → ∀ n, a.1 = some n → IsFresh k n s'

/-- after `node` was created: the answer is `node` or nil, and `node` stays without links -/
def FreshTail (k node : Nat) (m : M (Option Nat × PState)) : Prop :=
  ∀ s a s', IsFresh k node s → m s = .ok (a, s') → ∀ n, a.1 = some n → IsFresh k n s'

section
variable {k : Nat}

theorem FreshT.throw (e : Panic) : FreshT k (throw e) := by
  intro s a s' _ h
  cases h

theorem FreshTail.pure_none (node : Nat) (st : PState) : FreshTail k node (pure (none, st)) := by
  intro s a s' _ h n hn
  cases h
  cases hn

theorem FreshTail.throw (node : Nat) (e : Panic) : FreshTail k node (throw e) := by
  intro s a s' _ h
  cases h

end

def IsoFrom (k : Nat) (s : St) : Prop :=
  ∀ n, k ≤ n → n < s.nodes.length → (s.nodes.getD n default).parent = none ∧ (s.nodes.getD n default).children = []

theorem ac_isoFrom_node (k : Nat) : NodeInv (IsoFrom k) where
  noR := ⟨fun _ _ hs => hs⟩
  pc := fun _ _ hs => hs
  setSame := fun s id v hs hp hc n h1 h2 => by
    have h3 : n < s.nodes.length := by rw [← List.length_set (i := id) (a := v)]; exact h2
    show ((s.nodes.set id v).getD n default).parent = none ∧ ((s.nodes.set id v).getD n default).children = []
    rw [ac_getD_set]
    split
    · rename_i h; obtain ⟨rfl, _⟩ := h; rw [hp, hc]; exact hs _ h1 h3
    · exact hs n h1 h3
  push := fun s m hs hp hc n h1 h2 => by
    show ((s.nodes ++ [m]).getD n default).parent = none ∧ ((s.nodes ++ [m]).getD n default).children = []
    rw [ac_getD_push]
    split
    · rename_i h; exact hs n h1 h
    · split
      · exact ⟨hp, hc⟩
      · exact ⟨rfl, rfl⟩

theorem ac_bpOpen_fresh (k : Nat) (bp : BP) (p : Nat) : FreshT k (bpOpen bp p) := by
  intro s a s' hs h n hn
  obtain ⟨h1, h2⟩ := bpOpen_step h
  obtain ⟨h3, h4⟩ := h2 n hn
  obtain ⟨h5, h6⟩ := (ac_isoFrom_node s.nodes.length).step h1 (fun m a b => absurd b (Nat.not_lt.2 a)) n h3 h4
  exact ⟨Nat.le_trans hs h3, h4, h5, h6⟩

theorem bpOpen_fresh (bp : BP) (parent : Nat) (s s' : St) (n : Nat) (st : PState)
    (h : bpOpen bp parent s = .ok ((some n, st), s')) :
    s.nodes.length ≤ n ∧ n < s'.nodes.length ∧ (s'.nodes.getD n default).parent = none ∧
      (s'.nodes.getD n default).children = [] :=
  ac_bpOpen_fresh s.nodes.length bp parent s _ s' (Nat.le_refl _) h n rfl

end GM.Blocks.Sh
