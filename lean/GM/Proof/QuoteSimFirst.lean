import GM.Proof.QuoteSimLines

/-
  part Blank — `openBlocks` on a line whose rest is blank, the last opened block not being a
  paragraph: nothing is opened; only reader caches and the published block offset change.
-/
section Blank
namespace GM.Blocks
open GM GM.Text GM.Spec GM.Proof.Reader

/-! ### pure facts about the line `replicate n 32 ++ [10]` -/

def blankL (n : Nat) : Bytes := List.replicate n 32 ++ [10]

theorem blankL_zero : blankL 0 = [10] := rfl
theorem blankL_succ (n : Nat) : blankL (n + 1) = 32 :: blankL n := by
  simp [blankL, List.replicate_succ]

theorem blankL_length (n : Nat) : (blankL n).length = n + 1 := by simp [blankL]

theorem indentWidthI_blankL (n : Nat) (lo : Int) : indentWidthI (blankL n) lo = ((n : Int), (n : Int)) := by
  have e : indentOf (blankL n) = List.replicate n 32 := by
    unfold indentOf blankL
    rw [List.takeWhile_append_of_pos (by simp)]; simp [List.takeWhile_cons]
  obtain ⟨a1, _, a3⟩ := indentWidthI_eq (blankL n) lo
  rw [e, List.length_replicate] at a1 a3
  exact Prod.ext (a3 (by simp)) a1

theorem blankL_all (n : Nat) : (blankL n).all isSpace = true := by
  induction n with
  | zero => rfl
  | succ n ih => rw [blankL_succ, List.all_cons, ih]; rfl

theorem isBlank_blankL (n : Nat) : isBlank (blankL n) = true := blankL_all n

theorem takeWhile_all_bk {α} (p : α → Bool) : ∀ (l : List α), l.all p = true → l.takeWhile p = l
  | [], _ => rfl
  | a :: l, h => by
    simp only [List.all_cons, Bool.and_eq_true] at h
    simp only [List.takeWhile_cons, h.1, if_true, takeWhile_all_bk p l h.2]

theorem trimLeft_blankL (n : Nat) : trimLeftSpaceLength (blankL n) = n + 1 := by
  unfold trimLeftSpaceLength
  rw [takeWhile_all_bk _ _ (blankL_all n), blankL_length]

theorem idx_blankL_last (n : Nat) : idx (blankL n) (n : Int) = .ok 10 := by
  unfold idx getByte
  rw [if_neg (by omega)]
  simp [blankL]

/-! ### the reader calls, executed exactly -/

theorem peekLine_run_bk {src} {s : St} {c : RCur} (h : RI src s.r c) :
    ∃ r', peekLine s = .ok ((RCur.view src c, RCur.seg src c), { s with r := r' }) ∧ RI src r' c := by
  obtain ⟨r', h1, h2⟩ := ri_peekLine h
  refine ⟨r', ?_, h2⟩
  unfold GM.Blocks.peekLine; rw [h1]; rfl

theorem lineOffset_run_bk {src} {s : St} {c : RCur} (h : RI src s.r c) :
    ∃ v r', lineOffset s = .ok (v, { s with r := r' }) ∧ RI src r' c := by
  obtain ⟨v, r', h1, h2, _⟩ := ri_lineOffset h
  refine ⟨v, r', ?_, h2⟩
  unfold GM.Blocks.lineOffset; rw [h1]; rfl

/-- the cursor stands in front of `n` spaces and a newline -/
structure BlankAt (src : Bytes) (c : RCur) (n : Nat) : Prop where
  lt : c.p < src.length
  pad : c.pad = 0
  line : sub src c.p (lineEnd src c.p) = blankL n

theorem BlankAt.view {src c n} (h : BlankAt src c n) : RCur.view src c = some (blankL n) := by
  rw [view_eq src c h.lt, h.pad, h.line]; rfl

theorem BlankAt.stop {src c n} (h : BlankAt src c n) : lineEnd src c.p = c.p + (n + 1) := by
  have h1 := length_sub src (a := c.p) (lineEnd_le src c.p)
  rw [h.line, blankL_length] at h1
  omega

/-! ### the two free parsers on a blank line -/

theorem codeOpen_blank {src} {s : St} {c : RCur} {n : Nat} (h : RI src s.r c) (hb : BlankAt src c n)
    (parent : Nat) :
    ∃ r', codeOpen parent s = .ok ((none, stNoChildren), { s with r := r' }) ∧ RI src r' c := by
  obtain ⟨r1, p1, h1⟩ := peekLine_run_bk h
  obtain ⟨v, r2, p2, h2⟩ := lineOffset_run_bk (s := { s with r := r1 }) h1
  refine ⟨r2, ?_, h2⟩
  unfold codeOpen
  rw [bind_run p1]
  simp only [hb.view, Option.getD_some]
  rw [bind_run p2]
  rw [isBlank_blankL, Bool.or_true, if_pos rfl]
  rfl

theorem trimLeftSpace_blank {src c n} (hb : BlankAt src c n) :
    (RCur.seg src c).trimLeftSpace src =
      .ok { start := (lineEnd src c.p : Int), stop := (lineEnd src c.p : Int) } := by
  have hle := lineEnd_le src c.p
  have hstop := hb.stop
  unfold Segment.trimLeftSpace RCur.seg
  simp only
  rw [sliceB_ok src (by omega) (by omega) (by omega)]
  simp only [Int.toNat_natCast, hb.line, trimLeft_blankL, bind, Except.bind, pure, Except.pure]
  rw [hstop]
  congr 2 <;> omega

theorem paragraphOpen_blank {src} {s : St} {c : RCur} {n : Nat} (h : RI src s.r c) (hb : BlankAt src c n)
    (parent : Nat) :
    ∃ r', paragraphOpen parent s = .ok ((none, stNoChildren), { s with r := r' }) ∧ RI src r' c := by
  obtain ⟨r1, p1, h1⟩ := peekLine_run_bk h
  refine ⟨r1, ?_, h1⟩
  unfold paragraphOpen
  rw [bind_run p1]
  simp only
  have p2 : source { s with r := r1 } = .ok (src, { s with r := r1 }) := by
    unfold source; simp only [h1.source]; rfl
  rw [bind_run p2]
  have p3 : liftE ((RCur.seg src c).trimLeftSpace src) { s with r := r1 } =
      .ok (({ start := (lineEnd src c.p : Int), stop := (lineEnd src c.p : Int) } : Segment), { s with r := r1 }) := by
    rw [trimLeftSpace_blank hb]; rfl
  rw [bind_run p3]
  rw [if_pos (by simp [Segment.isEmpty])]
  rfl

theorem tryParsers_decline_bk {parent : Nat} {blank : Bool} {w : Int} {bp : BP} {bps : List BP} {lb : Option Block}
    {res : OpenResult} {s : St} {r' : Reader} {st : PState}
    (hw : (decide (w > 3) && !bp.canAcceptIndentedLine) = false)
    (ho : bpOpen bp parent s = .ok ((none, st), { s with r := r' })) :
    tryParsers parent blank false w (bp :: bps) res lb s =
      tryParsers parent blank false w bps res s.pc.opened.getLast? { s with r := r' } := by
  rw [tryParsers]
  simp only [Bool.false_and, Bool.false_eq_true, if_false, hw]
  rw [bind_run (lastOpenedBlock_run s), bind_run ho]

theorem tryParsers_skip_bk {parent : Nat} {blank : Bool} {w : Int} {bp : BP} {bps : List BP} {lb : Option Block}
    {res : OpenResult} {s : St} (hw : (decide (w > 3) && !bp.canAcceptIndentedLine) = true) :
    tryParsers parent blank false w (bp :: bps) res lb s =
      tryParsers parent blank false w bps res lb s := by
  rw [tryParsers]
  simp only [Bool.false_and, Bool.false_eq_true, if_false, hw, if_true]

theorem tryParsers_nil_bk (parent : Nat) (blank cont : Bool) (w : Int) (res : OpenResult) (lb : Option Block) (s : St) :
    tryParsers parent blank cont w [] res lb s = .ok ((.done, res, lb), s) := by
  rw [tryParsers]; rfl

/-- the free parsers on a blank line: both decline (or the paragraph parser is not asked); the incoming result
    is passed through -/
theorem tryParsers_blank_res {src} {s : St} {c : RCur} {n : Nat} (h : RI src s.r c) (hb : BlankAt src c n)
    (parent : Nat) (blank : Bool) (res : OpenResult) (lb : Option Block) :
    ∃ r' lb', tryParsers parent blank false (n : Int) freeParsers res lb s =
        .ok ((.done, res, lb'), { s with r := r' }) ∧ RI src r' c := by
  obtain ⟨r1, o1, h1⟩ := codeOpen_blank h hb parent
  have hw1 : (decide ((n : Int) > 3) && !BP.code.canAcceptIndentedLine) = false := by
    simp [BP.canAcceptIndentedLine]
  rw [show freeParsers = [.code, .paragraph] from rfl, tryParsers_decline_bk (bp := .code) hw1 o1]
  by_cases hn : (n : Int) > 3
  · have hw2 : (decide ((n : Int) > 3) && !BP.paragraph.canAcceptIndentedLine) = true := by
      simp [BP.canAcceptIndentedLine, hn]
    rw [tryParsers_skip_bk hw2, tryParsers_nil_bk]
    exact ⟨r1, _, rfl, h1⟩
  · have hw2 : (decide ((n : Int) > 3) && !BP.paragraph.canAcceptIndentedLine) = false := by
      simp [hn]
    obtain ⟨r2, o2, h2⟩ := paragraphOpen_blank (s := { s with r := r1 }) h1 hb parent
    rw [tryParsers_decline_bk (bp := .paragraph) hw2 o2, tryParsers_nil_bk]
    exact ⟨r2, _, rfl, h2⟩

theorem tryParsers_blank {src} {s : St} {c : RCur} {n : Nat} (h : RI src s.r c) (hb : BlankAt src c n)
    (parent : Nat) (blank : Bool) (lb : Option Block) :
    ∃ r' lb', tryParsers parent blank false (n : Int) freeParsers .noBlocksOpened lb s =
        .ok ((.done, .noBlocksOpened, lb'), { s with r := r' }) ∧ RI src r' c :=
  tryParsers_blank_res h hb parent blank .noBlocksOpened lb

theorem liftE_run_bk {α} {e : Except Panic α} {a : α} (he : e = .ok a) (s : St) : liftE e s = .ok (a, s) := by
  subst he; rfl

theorem idx_blankL_zero (n : Nat) : idx (blankL n) 0 = .ok (if n = 0 then 10 else 32) := by
  cases n with
  | zero => rfl
  | succ m => rw [blankL_succ]; rfl

/-- one round of the `retry:` loop of `openBlocks` on a blank rest of line, not continuable: the incoming
    result is passed through -/
theorem openBlocksLoop_blank_res {src} {s : St} {c : RCur} {n : Nat} (h : RI src s.r c) (hb : BlankAt src c n)
    (parent : Nat) (blank : Bool) (res : OpenResult) (lb : Option Block) (fuel : Nat) :
    ∃ r', openBlocksLoop blank false (fuel + 1) parent res lb s =
        .ok (res, { s with r := r', pc := { s.pc with blockOffset := (n : Int), blockIndent := (n : Int) } }) ∧
      RI src r' c := by
  obtain ⟨r1, p1, h1⟩ := peekLine_run_bk h
  obtain ⟨v, r2, p2, h2⟩ := lineOffset_run_bk (s := { s with r := r1 }) h1
  rw [openBlocksLoop]
  rw [bind_run p1]
  simp only [hb.view, Option.getD_some]
  rw [bind_run p2]
  simp only [indentWidthI_blankL, blankL_length]
  have hlen : ¬ ((n : Int) ≥ ((n + 1 : Nat) : Int)) := by omega
  have hlen' : (n : Int) < ((n + 1 : Nat) : Int) := by omega
  simp only [if_neg hlen, if_pos hlen', Option.isNone_some, Bool.false_eq_true, if_false]
  have p3 : modPc (fun pc => { pc with blockOffset := (n : Int), blockIndent := (n : Int) }) { s with r := r2 } =
      .ok ((), { s with r := r2, pc := { s.pc with blockOffset := (n : Int), blockIndent := (n : Int) } }) := rfl
  rw [bind_run p3]
  rw [bind_run (liftE_run_bk (idx_blankL_zero n) _)]
  by_cases hn : n = 0
  · rw [if_pos hn, if_pos (by decide), toContinuable_false]
    exact ⟨r2, rfl, h2⟩
  · rw [if_neg hn, if_neg (by decide)]
    rw [bind_run (liftE_run_bk (idx_blankL_last n) _)]
    simp only [pure_bind, L.triggered_nl, Option.getD_none]
    obtain ⟨r3, lb', t3, h3⟩ := tryParsers_blank_res
      (s := { s with r := r2, pc := { s.pc with blockOffset := (n : Int), blockIndent := (n : Int) } })
      h2 hb parent blank res lb
    rw [bind_run (m := get) rfl, bind_run t3]
    simp only
    rw [toContinuable_false]
    exact ⟨r3, rfl, h3⟩

theorem openBlocksLoop_blank {src} {s : St} {c : RCur} {n : Nat} (h : RI src s.r c) (hb : BlankAt src c n)
    (parent : Nat) (blank : Bool) (lb : Option Block) (fuel : Nat) :
    ∃ r', openBlocksLoop blank false (fuel + 1) parent .noBlocksOpened lb s =
        .ok (OpenResult.noBlocksOpened,
          { s with r := r', pc := { s.pc with blockOffset := (n : Int), blockIndent := (n : Int) } }) ∧
      RI src r' c :=
  openBlocksLoop_blank_res h hb parent blank .noBlocksOpened lb fuel

theorem openBlocks_blank_qs {src : Bytes} {s : St} {c : RCur} (h : RI src s.r c) (hp : c.p < src.length)
    (hpad : c.pad = 0)
    (hline : ∃ n, sub src c.p (lineEnd src c.p) = List.replicate n 32 ++ [10])
    (hlast : ∃ lb, s.pc.opened.getLast? = some lb ∧ (s.nodes.getD lb.node default).kind ≠ .paragraph)
    (parent : Nat) (blank : Bool) :
    ∃ r' bo bi, openBlocks parent blank s =
        .ok (OpenResult.noBlocksOpened, { s with r := r', pc := { s.pc with blockOffset := bo, blockIndent := bi } }) ∧
      RI src r' c := by
  obtain ⟨n, hn⟩ := hline
  obtain ⟨lb, hlb, hk⟩ := hlast
  have hb : BlankAt src c n := ⟨hp, hpad, hn⟩
  obtain ⟨r', e, h'⟩ := openBlocksLoop_blank h hb parent blank (some lb) (2 * src.length + 7)
  refine ⟨r', (n : Int), (n : Int), ?_, h'⟩
  unfold openBlocks
  rw [bind_run (lastOpenedBlock_run s), hlb]
  simp only
  rw [bind_run (m := getNode lb.node) (s1 := s) (a := s.nodes.getD lb.node default) rfl]
  have hk' : ((s.nodes.getD lb.node default).kind == Kind.paragraph) = false := beq_eq_false_iff_ne.mpr hk
  simp only [hk', pure_bind]
  rw [bind_run (m := source) (s1 := s) (a := s.r.source) rfl, h.source]
  exact e

end GM.Blocks
end Blank

/-
  part First — the first line of run B (`parseBlocks` on `quotePrefix src`): `openBlocks` opens the
  Blockquote below the Document, consumes exactly `"> "` and retries with the Blockquote as parent (exact
  execution; the contract monitor of the retry loop does not fire).
-/
section First
namespace GM.Blocks
open GM GM.Text GM.Spec GM.Proof.Reader

/-- blockquoteParser.Open on B at the start of line `k` -/
theorem bqOpen_marker {src k ls} (hl : LineAt src k ls) {sB : St}
    (hb : RI (quotePrefix src) sB.r ⟨k, ls + 2 * k, 0⟩) (p : Nat) :
    ∃ r', blockquoteOpen p sB = .ok ((some sB.nodes.length, stHasChildren),
        { sB with r := r', nodes := sB.nodes ++ [{ kind := .blockquote }] }) ∧
      RI (quotePrefix src) r' ⟨k, ls + 2 * (k + 1), 0⟩ := by
  obtain ⟨r', e, h'⟩ := bqProcess_marker hl hb
  refine ⟨r', ?_, h'⟩
  unfold blockquoteOpen
  rw [bind_run e]
  rfl

theorem tryParsers_first {src : Bytes} (hl : LineAt src 0 0) {s : St} (h : RI (quotePrefix src) s.r ⟨0, 0, 0⟩)
    (hn : s.nodes = [{ kind := .document }]) (ho : s.pc.opened = []) (blank : Bool) (res : OpenResult) (lb : Option Block) :
    ∃ r', RI (quotePrefix src) r' ⟨0, 2, 0⟩ ∧
      tryParsers 0 blank false 0 [.blockquote, .code, .paragraph] res lb s =
        .ok ((.retry 1, .newBlocksOpened, none),
          { r := r',
            nodes := [{ kind := .document, children := [1] }, { kind := .blockquote, parent := some 0, blankPrev := blank }],
            pc := { s.pc with opened := [{ node := 1, bp := .blockquote }] } }) := by
  obtain ⟨r, nodes, pc⟩ := s
  obtain ⟨bo, bi, op, tp, fe, sl, eb, rf⟩ := pc
  simp only at h hn ho
  subst hn ho
  obtain ⟨r', e, h'⟩ := bqOpen_marker (sB := ⟨r, [{ kind := .document }], ⟨bo, bi, [], tp, fe, sl, eb, rf⟩⟩) hl h 0
  refine ⟨r', h', ?_⟩
  have e' : bpOpen .blockquote 0 ⟨r, [{ kind := .document }], ⟨bo, bi, [], tp, fe, sl, eb, rf⟩⟩ =
      .ok ((some 1, stHasChildren), ⟨r', [{ kind := .document }, { kind := .blockquote }], ⟨bo, bi, [], tp, fe, sl, eb, rf⟩⟩) := e
  have pl : lastOpenedBlock ⟨r, [{ kind := .document }], ⟨bo, bi, [], tp, fe, sl, eb, rf⟩⟩ =
      .ok (none, ⟨r, [{ kind := .document }], ⟨bo, bi, [], tp, fe, sl, eb, rf⟩⟩) := rfl
  unfold tryParsers
  simp only [Bool.false_and, Bool.false_eq_true, if_false]
  rw [if_neg (by decide), bind_run pl, bind_run e']
  simp only [stHasChildren, Bool.false_eq_true, ↓reduceIte]
  rfl

theorem openBlocksLoop_first {src : Bytes} (hl : LineAt src 0 0) {s : St} (h : RI (quotePrefix src) s.r ⟨0, 0, 0⟩)
    (hn : s.nodes = [{ kind := .document }]) (ho : s.pc.opened = []) (blank : Bool) (fuel : Nat) :
    ∃ r', RI (quotePrefix src) r' ⟨0, 2, 0⟩ ∧
      openBlocksLoop blank false (fuel + 1) 0 .noBlocksOpened none s =
        openBlocksLoop blank false fuel 1 OpenResult.newBlocksOpened none
          { r := r',
            nodes := [{ kind := .document, children := [1] }, { kind := .blockquote, parent := some 0, blankPrev := blank }],
            pc := { s.pc with blockOffset := 0, blockIndent := 0, opened := [{ node := 1, bp := .blockquote }] } } := by
  obtain ⟨r, nodes, pc⟩ := s
  obtain ⟨bo, bi, op, tp, fe, sl, eb, rf⟩ := pc
  simp only at h hn ho
  subst hn ho
  have hge := qp_length_ge hl
  have hlt := lt_lineEnd src hl.lt
  have hview : RCur.view (quotePrefix src) ⟨0, 0, 0⟩ = some (62 :: 32 :: sub src 0 (lineEnd src 0)) := (view_marker hl).1
  obtain ⟨r1, e1, h1⟩ := ri_peekLine h
  have p1 : peekLine ⟨r, [{ kind := .document }], ⟨bo, bi, [], tp, fe, sl, eb, rf⟩⟩ =
      .ok ((some (62 :: 32 :: sub src 0 (lineEnd src 0)), RCur.seg (quotePrefix src) ⟨0, 0, 0⟩),
        ⟨r1, [{ kind := .document }], ⟨bo, bi, [], tp, fe, sl, eb, rf⟩⟩) := by
    unfold GM.Blocks.peekLine; simp only; rw [e1, hview]; rfl
  obtain ⟨v, r2, e2, h2, _⟩ := ri_lineOffset h1
  have p2 : lineOffset ⟨r1, [{ kind := .document }], ⟨bo, bi, [], tp, fe, sl, eb, rf⟩⟩ =
      .ok (v, ⟨r2, [{ kind := .document }], ⟨bo, bi, [], tp, fe, sl, eb, rf⟩⟩) := by
    unfold GM.Blocks.lineOffset; simp only; rw [e2]; rfl
  obtain ⟨r', h', e3⟩ := tryParsers_first (s := ⟨r2, [{ kind := .document }], ⟨0, 0, [], tp, fe, sl, eb, rf⟩⟩) hl h2 rfl rfl
    blank .noBlocksOpened none
  refine ⟨r', h', ?_⟩
  rw [openBlocksLoop]
  rw [bind_run p1]
  simp only [Option.getD_some]
  rw [bind_run p2]
  simp only [indentWidthI_gt]
  have hlen : ¬ ((0 : Int) ≥ ((62 :: 32 :: sub src 0 (lineEnd src 0)).length : Int)) := by
    simp only [List.length_cons]; omega
  simp only [hlen, ↓reduceIte]
  have pm : (modPc fun pc => { pc with blockOffset := 0, blockIndent := 0 })
      ⟨r2, [{ kind := .document }], ⟨bo, bi, [], tp, fe, sl, eb, rf⟩⟩ =
      .ok ((), ⟨r2, [{ kind := .document }], ⟨0, 0, [], tp, fe, sl, eb, rf⟩⟩) := rfl
  rw [bind_run pm]
  simp only [Option.isNone_some, Bool.false_eq_true, ↓reduceIte]
  have i0 : liftE (idx (62 :: 32 :: sub src 0 (lineEnd src 0)) 0) ⟨r2, [{ kind := .document }], ⟨0, 0, [], tp, fe, sl, eb, rf⟩⟩ =
      .ok ((62 : UInt8), ⟨r2, [{ kind := .document }], ⟨0, 0, [], tp, fe, sl, eb, rf⟩⟩) := rfl
  rw [bind_run i0]
  have c10 : ((62 : UInt8) == 10) = false := by decide
  have hlen' : (0 : Int) < ((62 :: 32 :: sub src 0 (lineEnd src 0)).length : Int) := by
    simp only [List.length_cons]; omega
  simp only [c10, Bool.false_eq_true, ↓reduceIte]
  rw [if_pos hlen', bind_run i0]
  have ht : (triggered 62).getD freeParsers = [.blockquote, .code, .paragraph] := by decide
  simp only [pure_bind, ht]
  have pg : (get : M St) ⟨r2, [{ kind := .document }], ⟨0, 0, [], tp, fe, sl, eb, rf⟩⟩ =
      .ok (⟨r2, [{ kind := .document }], ⟨0, 0, [], tp, fe, sl, eb, rf⟩⟩, ⟨r2, [{ kind := .document }], ⟨0, 0, [], tp, fe, sl, eb, rf⟩⟩) := rfl
  rw [bind_run pg, bind_run e3]
  simp only
  have hb : retryMeasure ⟨r2, [{ kind := .document }], ⟨0, 0, [], tp, fe, sl, eb, rf⟩⟩ = 2 * ((quotePrefix src).length - 0) + 1 := by
    simp only [retryMeasure, lastIsList, h2.source, h2.pos]
    rfl
  have ha : retryMeasure ⟨r', [{ kind := .document, children := [1] }, { kind := .blockquote, parent := some 0, blankPrev := blank }],
      ⟨0, 0, [{ node := 1, bp := .blockquote }], tp, fe, sl, eb, rf⟩⟩ = 2 * ((quotePrefix src).length - 2) + 1 := by
    simp only [retryMeasure, lastIsList, h'.source, h'.pos]
    rfl
  have pg' : (get : M St) ⟨r', [{ kind := .document, children := [1] }, { kind := .blockquote, parent := some 0, blankPrev := blank }],
      ⟨0, 0, [{ node := 1, bp := .blockquote }], tp, fe, sl, eb, rf⟩⟩ =
      .ok (⟨r', [{ kind := .document, children := [1] }, { kind := .blockquote, parent := some 0, blankPrev := blank }],
        ⟨0, 0, [{ node := 1, bp := .blockquote }], tp, fe, sl, eb, rf⟩⟩,
        ⟨r', [{ kind := .document, children := [1] }, { kind := .blockquote, parent := some 0, blankPrev := blank }],
        ⟨0, 0, [{ node := 1, bp := .blockquote }], tp, fe, sl, eb, rf⟩⟩) := rfl
  rw [bind_run pg', ha, hb]
  have hmon : (!decide (2 * ((quotePrefix src).length - 2) + 1 < 2 * ((quotePrefix src).length - 0) + 1)) = false := by
    have : 2 * ((quotePrefix src).length - 2) + 1 < 2 * ((quotePrefix src).length - 0) + 1 := by omega
    simp only [this, decide_true, Bool.not_true]
  rw [hmon]
  rfl

theorem openBlocks_first {src : Bytes} (hl : LineAt src 0 0) {s : St} (h : RI (quotePrefix src) s.r ⟨0, 0, 0⟩)
    (hn : s.nodes = [{ kind := .document }]) (ho : s.pc.opened = []) (blank : Bool) :
    ∃ r', RI (quotePrefix src) r' ⟨0, 2, 0⟩ ∧
      openBlocks 0 blank s =
        openBlocksLoop blank false (2 * (quotePrefix src).length + 7) 1 OpenResult.newBlocksOpened none
          { r := r',
            nodes := [{ kind := .document, children := [1] }, { kind := .blockquote, parent := some 0, blankPrev := blank }],
            pc := { s.pc with blockOffset := 0, blockIndent := 0, opened := [{ node := 1, bp := .blockquote }] } } := by
  obtain ⟨r', h', e⟩ := openBlocksLoop_first hl h hn ho blank (2 * (quotePrefix src).length + 7)
  refine ⟨r', h', ?_⟩
  rw [← e]
  have pl : lastOpenedBlock s = .ok (none, s) := by
    unfold lastOpenedBlock getPc
    show Except.ok (s.pc.opened.getLast?, s) = _
    rw [ho]; rfl
  have ps : source s = .ok (quotePrefix src, s) := by
    unfold source
    rw [h.source]; rfl
  unfold openBlocks
  rw [bind_run pl]
  simp only [pure_bind]
  rw [bind_run ps]
  rfl

end GM.Blocks
end First
