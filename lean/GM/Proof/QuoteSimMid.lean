/-
  GM.Proof.QuoteSimMid — run A alone, for the simulation with ALL ten parsers: the invariant `StableL` of the no-panic
  proof (GM.Proof.BlocksDriverL) at line boundaries, re-established after a pass of the per-line loop (`lineLoopL`) and
  after `openBlocks` below the Document (`openBlocksL`) by applying the no-panic theorems to run A's own equations
  (the way GM.Proof.ShiftSimMainL does it); the start of a pass (`Sh.MidA`); a leaf block that continues is the last
  opened block.
-/
import GM.Proof.QuoteSimInvLI
import GM.Proof.BlocksNoPanicAll
import GM.Proof.ShiftSimMainW

namespace GM.Blocks
open GM GM.Text GM.Spec GM.Proof.Reader GM.Blocks.L

theorem padOK_zero (k : Int) (p : Nat) : PadOK ⟨k, p, 0⟩ := fun h => absurd rfl h

theorem stable_lineLoop {src : Bytes} {ob : List Block} {stA : List LineStat} {sA sA2 : St}
    {y : LineOutcome × List LineStat} {c : RCur} (hst : StableL src 0 sA) (hop : sA.pc.opened = ob)
    (hri : RI src sA.r c) (hpad : PadOK c)
    (e : lineLoop 0 ob ((ob.length : Int) - 1) ob 0 stA sA = .ok (y, sA2)) : StableL src 0 sA2 := by
  have := lineLoopL (lsp_all src) 0 rfl ob ((ob.length : Int) - 1) rfl ob [] 0 stA sA c rfl rfl hop hri hpad hst
    (fun Lb hLb => by simp at hLb)
  obtain ⟨_, _, hst'⟩ := Sh.okl_ok this e
  exact hst'

theorem stable_openBlocks0 {src : Bytes} {s s' : St} {blank : Bool} {d : OpenResult} {c : RCur}
    (hst : StableL src 0 s) (hop : s.pc.opened = []) (hri : RI src s.r c) (hpad : PadOK c)
    (e : openBlocks 0 blank s = .ok (d, s')) : StableL src 0 s' := by
  obtain ⟨_, _, h⟩ := stableL_top (lsp_all src) rfl hri hpad hst hop e
  exact h

theorem mid_start {src : Bytes} {ob : List Block} {sA : St} {c : RCur} (hst : StableL src 0 sA) (hop : sA.pc.opened = ob)
    (hri : RI src sA.r c) (hpad : PadOK c) : Sh.MidA src ob [] ob 0 sA :=
  ⟨by simp, rfl, hop, hst, c, hri, hpad, fun Lb hLb => by simp at hLb⟩

/-- a block whose `Continue` answers "continue, no children" is the last opened block -/
theorem mid_leaf_last {src : Bytes} {ob pre rest : List Block} {be : Block} {i : Int} {s s' : St} {st : PState}
    (hm : Sh.MidA src ob pre (be :: rest) i s) (e : bpContinue be.bp be.node s = .ok (st, s')) (hc : st.cont = true)
    (hch : st.hasChildren = false) : rest = [] := by
  apply Classical.byContradiction
  intro hne
  have hcn := Sh.leaf_of_stable hm.st pre be rest (by rw [hm.opened, hm.split]) hne
  have := Sh.lL_cont be.bp hcn be.node s s' st e hc
  rw [hch] at this
  cases this

end GM.Blocks
