/-
  GM.Proof.InlinesDelims — more about ProcessDelimiters (GM.Model.Inlines), for the link parser's contract and for
  the segment-order theorem: (a) it creates no link-label node; (d) prefix locality: a prefix `P` whose last node is not
  a Text and whose last delimiter is `bottom` (or which has none) is not touched,
  `processDelimiters b (P ++ y) = (processDelimiters b y).map (P ++ ·)`; (e) the chain of recorded segments stays a chain
  (ConsumeCharacters shrinks a delimiter from its end, used-up delimiters are dropped, cleared delimiters become Text or
  merge into the Text in front, runs of siblings are wrapped). The per-node properties ProcessDelimiters keeps (`NodeKept`,
  `allQ`) and "a `bottom` that is not among the children's delimiters leaves no delimiter" are in GM.Proof.Inlines.
-/
import GM.Proof.InlinesTotal

namespace GM.Proof.InlinesDelims
open GM GM.Text GM.Inl GM.Proof.Inlines GM.Proof.InlinesTotal

/-! ### (a) no link-label node is created -/

mutual
theorem hasLabel_flat_eq : ∀ (n : Node), hasLabel n = (flat n).any hasLabel
  | .text .. => by simp [hasLabel, flat]
  | .codeSpan ks => by simp [flat]
  | .emphasis _ ks => by simp only [hasLabel, flat]; exact hasLabelL_flat_eq ks
  | .link _ _ _ ks => by simp [flat]
  | .autoLink .. => by simp [hasLabel, flat]
  | .rawHTML .. => by simp [hasLabel, flat]
  | .delim .. => by simp [hasLabel, flat]
  | .label .. => by simp [hasLabel, flat]
theorem hasLabelL_flat_eq : ∀ (l : List Node), hasLabelL l = (flatL l).any hasLabel
  | [] => by simp [hasLabelL, flatL]
  | n :: rest => by
    simp only [hasLabelL, flatL, List.any_append]
    rw [hasLabel_flat_eq n, hasLabelL_flat_eq rest]
end

theorem processDelimiters_hasLabelL {b : Bottom} {kids res : List Node} (h : processDelimiters b kids = .ok res) :
    hasLabelL res = hasLabelL kids := by
  rw [hasLabelL_flat_eq, hasLabelL_flat_eq, processDelimiters_flat h]

theorem hasLabelL_append (a b : List Node) : hasLabelL (a ++ b) = (hasLabelL a || hasLabelL b) := by
  induction a with
  | nil => simp [hasLabelL]
  | cons x r ih => simp [hasLabelL, ih, Bool.or_assoc]

theorem hasLabelL_false_iff {l : List Node} : hasLabelL l = false ↔ ∀ n ∈ l, hasLabel n = false := by
  induction l with
  | nil => simp [hasLabelL]
  | cons a r ih => simp [hasLabelL, ih]

/-! ### (d) prefix locality -/

theorem closerLoop_done {b : Bottom} {pre post k : List Node} {cid : Nat} {cd : Delim}
    (h : closerStep b pre cid cd post = .done k) : closerLoop b pre cid cd post = .ok k := by
  rw [closerLoop]
  split
  · rename_i k' h'; rw [h] at h'; simp at h'; rw [h']
  · rename_i h'; rw [h] at h'; simp at h'
  · rename_i h'; rw [h] at h'; simp at h'

theorem closerLoop_bad {b : Bottom} {pre post : List Node} {cid : Nat} {cd : Delim}
    (h : closerStep b pre cid cd post = .bad) : closerLoop b pre cid cd post = .error .pre := by
  rw [closerLoop]
  split
  · rename_i k' h'; rw [h] at h'; simp at h'
  · rfl
  · rename_i h'; rw [h] at h'; simp at h'

theorem closerLoop_next {b : Bottom} {pre post pre' post' : List Node} {cid cid' : Nat} {cd cd' : Delim}
    (h : closerStep b pre cid cd post = .next pre' cid' cd' post') :
    closerLoop b pre cid cd post = closerLoop b pre' cid' cd' post' := by
  rw [closerLoop]
  split
  · rename_i k' h'; rw [h] at h'; simp at h'
  · rename_i h'; rw [h] at h'; simp at h'
  · rename_i a1 a2 a3 a4 h'; rw [h] at h'; simp at h'; obtain ⟨rfl, rfl, rfl, rfl⟩ := h'; rfl

/-- every right-to-left walk over the (reversed) list that stops at `bottom` stops before it has seen another
    delimiter: the first delimiter of the list is `bottom`, or the list has none -/
def stopsAt (b : Bottom) : List Node → Prop
  | [] => True
  | .delim id _ :: _ => b = .id id
  | _ :: rest => stopsAt b rest

def isTextNode : Node → Bool
  | .text .. => true
  | _ => false

/-- a prefix (given reversed) that ProcessDelimiters(bottom) cannot touch: it ends with a node that is neither a
    Text nor a delimiter (a link label), and walks stop at `bottom` inside it -/
structure Closed (b : Bottom) (PR : List Node) : Prop where
  ne : ∃ n rest, PR = n :: rest ∧ isTextNode n = false ∧ n.isDelim = false
  stops : stopsAt b PR

theorem findOpener_stops (b : Bottom) (cd : Delim) : ∀ (PR mid : List Node) (m : Bool), stopsAt b PR →
    findOpener b cd PR mid m = (none, m) := by
  intro PR
  induction PR with
  | nil => intro mid m _; rfl
  | cons n rest ih =>
    intro mid m hs
    cases n with
    | delim id d =>
      simp only [stopsAt] at hs
      simp [findOpener, hs]
    | _ => simp only [stopsAt] at hs; simp only [findOpener]; exact ih _ _ hs

/-- lift a result of the opener search over a suffix to the whole list -/
def liftOpener (P : List Node) :
    Option (List Node × Nat × Delim × List Node × Int) × Bool → Option (List Node × Nat × Delim × List Node × Int) × Bool
  | (some (p1, oid, od, mid, c), m) => (some (P ++ p1, oid, od, mid, c), m)
  | (none, m) => (none, m)

theorem findOpener_prefix (b : Bottom) (cd : Delim) (PR : List Node) (hs : stopsAt b PR) :
    ∀ (yR mid : List Node) (m : Bool),
    findOpener b cd (yR ++ PR) mid m = liftOpener PR.reverse (findOpener b cd yR mid m) := by
  intro yR
  induction yR with
  | nil => intro mid m; simp [findOpener_stops b cd PR mid m hs, findOpener, liftOpener]
  | cons n rest ih =>
    intro mid m
    cases n with
    | delim id d =>
      simp only [List.cons_append, findOpener]
      split
      · rfl
      · split
        · split
          · simp [liftOpener]
          · exact ih _ _
        · exact ih _ _
    | _ => simp only [List.cons_append, findOpener]; exact ih _ _

theorem firstCloserAfter_prefix (b : Bottom) (PR : List Node) (hs : stopsAt b PR) :
    ∀ (yR : List Node) (acc : Option Nat), firstCloserAfter b (yR ++ PR) acc = firstCloserAfter b yR acc := by
  intro yR
  induction yR with
  | nil =>
    intro acc
    simp only [List.nil_append, firstCloserAfter]
    induction PR generalizing acc with
    | nil => rfl
    | cons n rest ih =>
      cases n with
      | delim id d => simp only [stopsAt] at hs; simp [firstCloserAfter, hs]
      | _ => simp only [stopsAt] at hs; simp only [firstCloserAfter]; exact ih hs _
  | cons n rest ih =>
    intro acc
    cases n with
    | delim id d =>
      simp only [List.cons_append, firstCloserAfter]
      split
      · rfl
      · exact ih _
    | _ => simp only [List.cons_append, firstCloserAfter]; exact ih _

theorem clearRev_stops (b : Bottom) : ∀ (PR : List Node), stopsAt b PR → clearRev b PR = PR := by
  intro PR
  induction PR with
  | nil => intro _; rfl
  | cons n rest ih =>
    intro hs
    cases n with
    | delim id d => simp only [stopsAt] at hs; simp [clearRev, hs]
    | _ => simp only [stopsAt] at hs; simp only [clearRev]; rw [ih hs]

theorem clearRev_text (b : Bottom) (s : Segment) (x y z : Bool) (l : List Node) :
    clearRev b (.text s x y z :: l) = .text s x y z :: clearRev b l := by simp [clearRev]

theorem clearRev_prefix (b : Bottom) (PR : List Node) (hc : Closed b PR) :
    ∀ (yR : List Node), clearRev b (yR ++ PR) = clearRev b yR ++ PR := by
  obtain ⟨n0, PR', rfl, hn1, hn2⟩ := hc.ne
  intro yR
  induction yR with
  | nil => simp [clearRev_stops b _ hc.stops, clearRev]
  | cons n rest ih =>
    cases n with
    | delim id d =>
      simp only [List.cons_append, clearRev]
      split
      · rfl
      · split
        · rw [ih]
          cases rest with
          | nil =>
            simp only [List.nil_append, clearRev]
            cases n0 <;> simp_all [isTextNode]
          | cons t rest' =>
            cases t with
            | text s x y z =>
              simp only [List.cons_append, clearRev_text]
              split <;> rfl
            | _ => rfl
        · exact ih
    | _ => simp only [List.cons_append, clearRev]; rw [ih]


theorem splitFirstDelim_append (a b : List Node) :
    splitFirstDelim (a ++ b) = match splitFirstDelim a with
      | some (pre, id, d, post) => some (pre, id, d, post ++ b)
      | none => (splitFirstDelim b).map (fun x => (a ++ x.1, x.2.1, x.2.2.1, x.2.2.2)) := by
  induction a with
  | nil => simp [splitFirstDelim]
  | cons n rest ih =>
    cases n with
    | delim id d => simp [splitFirstDelim]
    | _ =>
      simp only [List.cons_append, splitFirstDelim, ih]
      cases splitFirstDelim rest with
      | some x => simp
      | none => simp only []; cases splitFirstDelim b <;> simp

theorem splitLastDelim_prefix_some {P y pre post : List Node} {id : Nat} {d : Delim}
    (h : splitLastDelim y = some (pre, id, d, post)) : splitLastDelim (P ++ y) = some (P ++ pre, id, d, post) := by
  unfold splitLastDelim at h ⊢
  rw [List.reverse_append, splitFirstDelim_append]
  split at h
  · rename_i postR i dd preR heq
    simp at h; obtain ⟨rfl, rfl, rfl, rfl⟩ := h
    simp [heq]
  · simp at h

theorem splitLastDelim_prefix_none {P y : List Node} (h : splitLastDelim y = none) :
    splitLastDelim (P ++ y) = (splitLastDelim P).map (fun x => (x.1, x.2.1, x.2.2.1, x.2.2.2 ++ y)) := by
  unfold splitLastDelim at h ⊢
  rw [List.reverse_append, splitFirstDelim_append]
  split at h
  · simp at h
  · rename_i hn
    simp only [hn]
    cases splitFirstDelim P.reverse <;> simp

/-- the first delimiter of a reversed list at which walks stop is `bottom` -/
theorem stopsAt_split {b : Bottom} {PR pre post : List Node} {id : Nat} {d : Delim} (hs : stopsAt b PR)
    (h : splitFirstDelim PR = some (pre, id, d, post)) : b = .id id := by
  induction PR generalizing pre with
  | nil => simp [splitFirstDelim] at h
  | cons n rest ih =>
    cases n with
    | delim i dd => simp [splitFirstDelim] at h; simp only [stopsAt] at hs; rw [hs, h.2.1]
    | _ =>
      simp only [splitFirstDelim] at h
      simp only [stopsAt] at hs
      split at h
      · rename_i heq
        simp at h; obtain ⟨_, rfl, rfl, rfl⟩ := h
        exact ih hs heq
      · simp at h

theorem mergeOrAppend_prefix {P : List Node} {n0 : Node} {P0 : List Node} (hP : P = P0 ++ [n0])
    (hn : isTextNode n0 = false) (y : List Node) (s : Segment) :
    mergeOrAppend (P ++ y) s = P ++ mergeOrAppend y s := by
  by_cases hy : y = []
  · subst hy hP
    rw [List.append_nil, mergeOrAppend_concat]
    cases n0 <;> simp_all [isTextNode, mergeOrAppend]
  · exact mergeOrAppend_append P hy s

theorem removeDelim_prefix {P : List Node} {n0 : Node} {P0 : List Node} (hP : P = P0 ++ [n0])
    (hn : isTextNode n0 = false) (y : List Node) (d : Delim) :
    removeDelim (P ++ y) d = P ++ removeDelim y d := by
  unfold removeDelim
  split
  · exact mergeOrAppend_prefix hP hn y _
  · rfl

/-- a round's answer with the untouched prefix put in front -/
def prefixC (P : List Node) : CStep → CStep
  | .done k => .done (P ++ k)
  | .next pre cid cd post => .next (P ++ pre) cid cd post
  | .bad => .bad

theorem advanceCloser_prefix (P pre post : List Node) :
    advanceCloser (P ++ pre) post = prefixC P (advanceCloser pre post) := by
  unfold advanceCloser
  split <;> simp [prefixC]

theorem closed_last {b : Bottom} {P : List Node} (hc : Closed b P.reverse) :
    ∃ P0 n0, P = P0 ++ [n0] ∧ isTextNode n0 = false ∧ n0.isDelim = false := by
  obtain ⟨n, rest, e, h1, h2⟩ := hc.ne
  refine ⟨rest.reverse, n, ?_, h1, h2⟩
  have := congrArg List.reverse e
  simpa using this

theorem closerStep_prefix {b : Bottom} {P : List Node} (hc : Closed b P.reverse) (y1 : List Node) (cid : Nat)
    (cd : Delim) (post : List Node) :
    closerStep b (P ++ y1) cid cd post = prefixC P (closerStep b y1 cid cd post) := by
  obtain ⟨P0, n0, hP, hn, _⟩ := closed_last hc
  unfold closerStep
  split
  · rfl
  · split
    · rw [List.append_assoc]; exact advanceCloser_prefix _ _ _
    · rw [List.reverse_append, findOpener_prefix b cd P.reverse hc.stops]
      simp only [List.reverse_reverse]
      cases hf : findOpener b cd y1.reverse [] false with
      | mk o m =>
        cases o with
        | none =>
          simp only [liftOpener]
          split
          · rw [removeDelim_prefix hP hn]; exact advanceCloser_prefix _ _ _
          · rw [List.append_assoc]; exact advanceCloser_prefix _ _ _
        | some x =>
          obtain ⟨p1, oid, od, mid, consume⟩ := x
          simp only [liftOpener]
          split
          · rfl
          · -- the prefix stays in front of what the match builds
            have hpre : (if (od.consume consume).length == 0 then P ++ p1
                  else P ++ p1 ++ [Node.delim oid (od.consume consume)]) ++ [Node.emphasis consume (clearInner [] mid)] =
                P ++ ((if (od.consume consume).length == 0 then p1 else p1 ++ [Node.delim oid (od.consume consume)]) ++
                  [Node.emphasis consume (clearInner [] mid)]) := by
              split <;> simp only [List.append_assoc]
            simp only [hpre]
            split
            · exact advanceCloser_prefix _ _ _
            · rfl

theorem closerLoop_prefix {b : Bottom} {P : List Node} (hc : Closed b P.reverse) (y1 : List Node) (cid : Nat)
    (cd : Delim) (post : List Node) :
    closerLoop b (P ++ y1) cid cd post = (closerLoop b y1 cid cd post).map (P ++ ·) := by
  fun_induction closerLoop b y1 cid cd post with
  | case1 pre cid cd post kids hs =>
    have := closerStep_prefix hc pre cid cd post
    rw [hs] at this
    rw [closerLoop_done this]; rfl
  | case2 pre cid cd post hs =>
    have := closerStep_prefix hc pre cid cd post
    rw [hs] at this
    rw [closerLoop_bad this]; rfl
  | case3 pre cid cd post pre' cid' cd' post' hs ih =>
    have := closerStep_prefix hc pre cid cd post
    rw [hs] at this
    rw [closerLoop_next this]; exact ih

theorem clearDelimiters_prefix {b : Bottom} {P : List Node} (hc : Closed b P.reverse) (y : List Node) :
    clearDelimiters b (P ++ y) = P ++ clearDelimiters b y := by
  unfold clearDelimiters
  cases hy : splitLastDelim y with
  | some x =>
    obtain ⟨pre, id, d, post⟩ := x
    rw [splitLastDelim_prefix_some hy]
    simp only
    have : Node.delim id d :: (P ++ pre).reverse = (Node.delim id d :: pre.reverse) ++ P.reverse := by simp
    rw [this, clearRev_prefix b P.reverse hc]
    simp
  | none =>
    rw [splitLastDelim_prefix_none hy]
    simp only
    cases hp : splitLastDelim P with
    | none => simp
    | some x =>
      obtain ⟨pre, id, d, post⟩ := x
      simp only [Option.map_some]
      have e := splitLastDelim_eq hp
      have hb : b = .id id := by
        unfold splitLastDelim at hp
        split at hp
        · rename_i postR i dd preR heq
          simp at hp; obtain ⟨_, rfl, _, _⟩ := hp
          exact stopsAt_split hc.stops heq
        · simp at hp
      simp only [clearRev, hb, beq_self_eq_true, if_true]
      rw [e]; simp

theorem splitAtDelim_prefix {cid : Nat} {P y pre post : List Node} {cd : Delim}
    (hP : ∀ d, Node.delim cid d ∉ P) (h : splitAtDelim cid y = some (pre, cd, post)) :
    splitAtDelim cid (P ++ y) = some (P ++ pre, cd, post) := by
  induction P with
  | nil => simpa using h
  | cons n rest ih =>
    have ih' := ih (fun d hd => hP d (by simp [hd]))
    cases n with
    | delim i dd =>
      have : (i == cid) = false := by
        simp only [beq_eq_false_iff_ne, ne_eq]
        intro e; subst e; exact hP dd (by simp)
      simp [splitAtDelim, this, ih']
    | _ => simp [splitAtDelim, ih']

/-- prefix locality of ProcessDelimiters(bottom) for a non-nil `bottom` -/
theorem processDelimiters_prefix {b : Bottom} (hb : b ≠ .nil) {P : List Node} (hc : Closed b P.reverse)
    (y : List Node) (hd : ∀ id d d', Node.delim id d ∈ P → Node.delim id d' ∈ y → False) :
    processDelimiters b (P ++ y) = (processDelimiters b y).map (P ++ ·) := by
  cases hy : splitLastDelim y with
  | none =>
    have hyy : processDelimiters b y = .ok y := by simp [processDelimiters, hy]
    rw [hyy]
    have hcl := clearDelimiters_prefix hc y
    have hcy : clearDelimiters b y = y := by simp [clearDelimiters, hy]
    rw [hcy] at hcl
    unfold processDelimiters
    rw [splitLastDelim_prefix_none hy]
    cases hp : splitLastDelim P with
    | none => simp [Except.map]
    | some x =>
      obtain ⟨pre, id, d, post⟩ := x
      have hbid : b = .id id := by
        unfold splitLastDelim at hp
        split at hp
        · rename_i postR i dd preR heq
          simp at hp; obtain ⟨_, rfl, _, _⟩ := hp
          exact stopsAt_split hc.stops heq
        · simp at hp
      subst hbid
      simp [hcl, Except.map]
  | some x =>
    obtain ⟨preL, lastId, ld, lpost⟩ := x
    unfold processDelimiters
    rw [splitLastDelim_prefix_some hy, hy]
    simp only
    have hcl : ∀ z, clearDelimiters b (P ++ z) = P ++ clearDelimiters b z := clearDelimiters_prefix hc
    cases b with
    | nil => exact absurd rfl hb
    | tnil =>
      simp only [List.reverse_append, firstCloserAfter_prefix _ _ hc.stops]
      split
      · simp [hcl, Except.map]
      · rename_i cid hcid
        cases hs : splitAtDelim cid y with
        | none =>
          exfalso
          simp at hcid
          rcases firstCloserAfter_mem _ _ _ hcid with e | ⟨d, hd'⟩
          · simp at e
          · obtain ⟨r, hr⟩ := splitAtDelim_some (id := cid) (l := y) (d := d)
              (by rw [splitLastDelim_eq hy]; simp at hd'; simp [hd'])
            rw [hr] at hs; simp at hs
        | some r =>
          obtain ⟨pre, cd, post⟩ := r
          have hmem : Node.delim cid cd ∈ y := by rw [splitAtDelim_eq hs]; simp
          rw [splitAtDelim_prefix (fun d hdP => hd cid d cd hdP hmem) hs]
          simp only
          rw [closerLoop_prefix hc]
          cases closerLoop Bottom.tnil pre cid cd post with
          | ok k => simp [Except.map, hcl]
          | error e => simp [Except.map]
    | id n =>
      simp only [List.reverse_append, firstCloserAfter_prefix _ _ hc.stops]
      split
      · simp [hcl, Except.map]
      · rename_i cid hcid
        cases hs : splitAtDelim cid y with
        | none =>
          exfalso
          split at hcid
          · simp at hcid
          · rcases firstCloserAfter_mem _ _ _ hcid with e | ⟨d, hd'⟩
            · simp at e
            · obtain ⟨r, hr⟩ := splitAtDelim_some (id := cid) (l := y) (d := d)
                (by rw [splitLastDelim_eq hy]; simp at hd'; simp [hd'])
              rw [hr] at hs; simp at hs
        | some r =>
          obtain ⟨pre, cd, post⟩ := r
          have hmem : Node.delim cid cd ∈ y := by rw [splitAtDelim_eq hs]; simp
          rw [splitAtDelim_prefix (fun d hdP => hd cid d cd hdP hmem) hs]
          simp only
          rw [closerLoop_prefix hc]
          cases closerLoop (Bottom.id n) pre cid cd post with
          | ok k => simp [Except.map, hcl]
          | error e => simp [Except.map]

/-! ### (e) the chain of recorded segments -/

/-- a delimiter's segment is exactly its characters: `Segment = [Start, Start + Length)` -/
def DSeg (n : Node) : Prop := ∀ id d, n = Node.delim id d → d.seg.stop = d.seg.start + d.length

theorem dseg_inv : NodeInv DSeg where
  text := by intro s a b c id d h; simp at h
  emph := by intro c ks _ id d h; simp at h
  cons := by
    intro id d n _ id' d' e
    simp at e
    rw [← e.2]
    simp [Delim.consume, Segment.withStop]

theorem chain_removeDelim {lo : Int} {pre : List Node} {d : Delim} (h : chain lo d.seg.start (segsOfL pre))
    (hs : d.seg.start ≤ d.seg.stop) : chain lo d.seg.stop (segsOfL (removeDelim pre d)) := by
  unfold removeDelim
  split
  · exact chain_mergeOrAppend h hs
  · exact chain_mono (Int.le_refl _) hs h

theorem chain_clearInner {lo hi : Int} : ∀ (mid acc : List Node) (m : Int), chain lo m (segsOfL acc) →
    chain m hi (segsOfL mid) → chain lo hi (segsOfL (clearInner acc mid)) := by
  intro mid
  induction mid with
  | nil =>
    intro acc m ha hm
    simp only [segsOfL, chain] at hm
    exact chain_mono (Int.le_refl _) hm ha
  | cons n rest ih =>
    intro acc m ha hm
    cases n with
    | delim id d =>
      simp only [segsOfL, segsOf, List.singleton_append, chain] at hm
      simp only [clearInner]
      exact ih _ _ (chain_removeDelim (chain_mono (Int.le_refl _) hm.1 ha) hm.2.1) hm.2.2
    | _ =>
      simp only [segsOfL] at hm
      obtain ⟨m', h1, h2⟩ := chain_split hm
      simp only [clearInner]
      refine ih _ m' ?_ h2
      rw [segsOfL_append]
      exact chain_append ha (by simpa [segsOfL] using h1)

theorem segsOfL_reverse_cons (n : Node) (l : List Node) :
    segsOfL (n :: l).reverse = segsOfL l.reverse ++ segsOf n := by
  simp [segsOfL_append, segsOfL]

theorem chain_clearRev (b : Bottom) {lo : Int} : ∀ (l : List Node) (hi : Int), chain lo hi (segsOfL l.reverse) →
    chain lo hi (segsOfL (clearRev b l).reverse) := by
  intro l
  induction l with
  | nil => intro hi h; simpa [clearRev] using h
  | cons n rest ih =>
    intro hi h
    rw [segsOfL_reverse_cons] at h
    obtain ⟨m, h1, h2⟩ := chain_split h
    have ihr := ih m h1
    cases n with
    | delim id d =>
      simp only [segsOf, chain] at h2
      simp only [clearRev]
      split
      · rw [segsOfL_reverse_cons]; exact chain_append h1 (by simpa [segsOf, chain] using h2)
      · split
        · have hdef : chain lo hi (segsOfL (textOf d.seg :: clearRev b rest).reverse) := by
            rw [segsOfL_reverse_cons]
            exact chain_append ihr (by simpa [segsOf, textOf, chain] using h2)
          split
          · rename_i seg so ha ra tl x r' heq
            split
            · rename_i hadj
              simp only [Bool.and_eq_true, beq_iff_eq] at hadj
              rw [heq, segsOfL_reverse_cons] at ihr
              rw [segsOfL_reverse_cons]
              have hx : x = Node.text seg so ha ra := by
                have := clearRev_text b seg so ha ra tl
                rw [this] at heq
                simp at heq
                exact heq.1.symm
              subst hx
              obtain ⟨m2, g1, g2⟩ := chain_split ihr
              simp only [segsOf, chain] at g2
              refine chain_append g1 ?_
              simp only [segsOf, Segment.withStop, chain]
              exact ⟨by omega, by omega, by omega⟩
            · exact hdef
          · exact hdef
        · exact chain_mono (Int.le_refl _) (by omega) ihr
    | _ =>
      simp only [clearRev]
      rw [segsOfL_reverse_cons]
      exact chain_append ihr h2

theorem chain_clearDelimiters (b : Bottom) {lo hi : Int} {kids : List Node} (h : chain lo hi (segsOfL kids)) :
    chain lo hi (segsOfL (clearDelimiters b kids)) := by
  unfold clearDelimiters
  split
  · exact h
  · rename_i pre id d post heq
    rw [splitLastDelim_eq heq, segsOfL_append] at h
    obtain ⟨m, h1, h2⟩ := chain_split h
    simp only [segsOfL] at h2
    obtain ⟨m2, h3, h4⟩ := chain_split h2
    rw [segsOfL_append]
    refine chain_append (chain_clearRev b _ m2 ?_) h4
    rw [segsOfL_reverse_cons]
    simp only [List.reverse_reverse]
    exact chain_append h1 h3

theorem closerStep_chain {b : Bottom} {lo hi : Int} {pre post : List Node} {cid : Nat} {cd : Delim}
    (hp : posL pre) (hcd : 1 ≤ cd.length) (hD : allQ DSeg pre) (hDc : cd.seg.stop = cd.seg.start + cd.length)
    (h : chain lo hi (segsOfL (pre ++ .delim cid cd :: post))) :
    chain lo hi (segsOfL (wholeOf (closerStep b pre cid cd post))) := by
  rcases closerStep_cases b pre cid cd post with ⟨e, _⟩ | ⟨_, pre', hpre, e⟩ | ⟨_, p1, oid, od, mid, c, m, pre', hf, _, rfl, e⟩
  · exact absurd e (closerStep_ne_bad hp hcd)
  · rw [e, advanceCloser_whole]
    rcases hpre with rfl | rfl
    · simpa using h
    · rw [segsOfL_append] at h ⊢
      obtain ⟨m, h1, h2⟩ := chain_split h
      simp only [segsOfL, segsOf, List.singleton_append, chain] at h2
      exact chain_append (chain_removeDelim (chain_mono (Int.le_refl _) h2.1 h1) h2.2.1) h2.2.2
  · obtain ⟨f1, f2, f3, f4, f5⟩ := findOpener_pos b cd hcd _ _ _ hf (posL_reverse.mpr hp) posL_nil
    have e0 := findOpener_eq b cd _ _ _ hf
    simp only [List.reverse_reverse, List.append_nil] at e0
    have hDo : od.seg.stop = od.seg.start + od.length := hD _ (by rw [e0]; simp) oid od rfl
    -- the pieces: p1 | od | mid | cd | post
    rw [e0] at h
    simp only [List.append_assoc, List.cons_append, List.nil_append, segsOfL_append, segsOfL, segsOf] at h
    obtain ⟨a, c1, c2⟩ := chain_split h
    simp only [chain] at c2
    obtain ⟨c2a, c2b, c2c⟩ := c2
    obtain ⟨a2, c3, c4⟩ := chain_split c2c
    simp only [chain] at c4
    obtain ⟨c4a, c4b, c4c⟩ := c4
    have hemph : chain od.seg.stop cd.seg.start (segsOfL [Node.emphasis c (clearInner [] mid)]) := by
      simp only [segsOfL, segsOf, List.append_nil]
      exact chain_clearInner mid [] od.seg.stop (by simp [segsOfL, chain])
        (chain_mono (Int.le_refl _) c4a c3)
    have hpre' : chain lo cd.seg.start (segsOfL ((if (od.consume c).length == 0 then p1
        else p1 ++ [Node.delim oid (od.consume c)]) ++ [Node.emphasis c (clearInner [] mid)])) := by
      rw [segsOfL_append]
      refine chain_append (mid := od.seg.stop) ?_ hemph
      split
      · exact chain_mono (Int.le_refl _) (by omega) c1
      · rw [segsOfL_append]
        refine chain_append c1 ?_
        simp only [segsOfL, segsOf, List.append_nil, Delim.consume, Segment.withStop, chain]
        exact ⟨by omega, by omega, by omega⟩
    rw [e]
    split
    · rw [advanceCloser_whole, segsOfL_append]
      exact chain_append hpre' (chain_mono (by omega) (Int.le_refl _) c4c)
    · simp only [wholeOf]
      rw [segsOfL_append]
      refine chain_append hpre' ?_
      simp only [segsOfL, segsOf, List.singleton_append, Delim.consume, Segment.withStop, chain]
      exact ⟨by omega, by omega, chain_mono (by omega) (Int.le_refl _) c4c⟩

theorem closerLoop_chain (b : Bottom) {lo hi : Int} (pre : List Node) (cid : Nat) (cd : Delim) (post : List Node) :
    ∀ {res : List Node}, closerLoop b pre cid cd post = .ok res → posL pre → 1 ≤ cd.length → posL post →
    allQ DSeg pre → DSeg (.delim cid cd) → allQ DSeg post →
    chain lo hi (segsOfL (pre ++ .delim cid cd :: post)) → chain lo hi (segsOfL res) := by
  fun_induction closerLoop b pre cid cd post with
  | case1 pre cid cd post kids hs =>
    intro res h hp hcd hq d1 d2 d3 hc
    simp at h; subst h
    have := closerStep_chain (b := b) (post := post) (cid := cid) hp hcd d1 (d2 cid cd rfl) hc
    rw [hs] at this
    exact this
  | case2 => intro res h; simp at h
  | case3 pre cid cd post pre' cid' cd' post' hs ih =>
    intro res h hp hcd hq d1 d2 d3 hc
    have k1 := closerStep_chain (b := b) (post := post) (cid := cid) hp hcd d1 (d2 cid cd rfl) hc
    have k2 := (closerStep_pos (b := b) (cid := cid) hp hcd hq).2
    have k3 := closerStep_allQ dseg_inv (b := b) d1 d2 d3
    rw [hs] at k1 k2 k3
    simp only [wholeOf] at k1 k2 k3
    have p1 := posL_append.mp k2
    have p2 := posL_cons.mp p1.2
    have q1 := allQ_append.mp k3
    have q2 := allQ_cons.mp q1.2
    exact ih h p1.1 (posL_delim.mp p2.1) p2.2 q1.1 q2.1 q2.2 k1

/-- ProcessDelimiters keeps the chain of recorded segments (for every `bottom`) -/
theorem processDelimiters_chain {b : Bottom} {lo hi : Int} {kids res : List Node}
    (h : processDelimiters b kids = .ok res) (hp : posL kids) (hD : allQ DSeg kids)
    (hc : chain lo hi (segsOfL kids)) : chain lo hi (segsOfL res) := by
  unfold processDelimiters at h
  split at h
  · simp at h; subst h; exact hc
  · simp only at h
    split at h
    · simp at h; subst h; exact chain_clearDelimiters b hc
    · split at h
      · simp at h
      · rename_i pre cd post hs
        split at h
        · rename_i kids' hl
          simp at h; subst h
          have e := splitAtDelim_eq hs
          rw [e] at hp hD hc
          have p1 := posL_append.mp hp
          have p2 := posL_cons.mp p1.2
          have q1 := allQ_append.mp hD
          have q2 := allQ_cons.mp q1.2
          exact chain_clearDelimiters b
            (closerLoop_chain b _ _ _ _ hl p1.1 (posL_delim.mp p2.1) p2.2 q1.1 q2.1 q2.2 hc)
        · simp at h

end GM.Proof.InlinesDelims
