/-
  GM.Proof.ShiftSimXDoc0 — for every source, node 0 of the store the block-phase model builds is the Document
  the initial store has, up to its `children` (`run_doc0`).
  * `Doc0`: node 0 is `{ kind := .document, children := cs }` for some `cs`; `D := DocInv ∧ Doc0` is a `DocTree`, so it
    is kept by every `Open` / `Continue` / `Close` that is given a node id `≠ 0`.
  * `K'`: `K` of GM.Proof.ShiftSimAcyc2 with `D` in place of `DocInv`, i.e. `KI D`; kept by the driver, since `D` meets
    what the driver asks of its store invariant (`d0_step`).
-/
import GM.Proof.ShiftSimAcyc2

namespace GM.Blocks.Sh
open GM GM.Text GM.Blocks

/-- node 0 is the initial Document up to `children` -/
def Doc0 (s : St) : Prop := ∃ cs, s.nodes.getD 0 default = { kind := .document, children := cs }

def D (s : St) : Prop := DocInv s ∧ Doc0 s

theorem d0_set (s : St) (id : Nat) (v : Node) (hs : Doc0 s)
    (h : id ≠ 0 ∨ ∃ cs, v = { kind := .document, children := cs }) :
    Doc0 { s with nodes := s.nodes.set id v } := by
  show ∃ cs, (s.nodes.set id v).getD 0 default = { kind := .document, children := cs }
  rw [ac_getD_set]
  split
  · rename_i h1
    rcases h with h | h
    · exact absurd h1.1 h
    · exact h
  · exact hs

theorem d0_push (s : St) (n : Node) (hs : Doc0 s) (h1 : 0 < s.nodes.length) :
    Doc0 { s with nodes := s.nodes ++ [n] } := by
  show ∃ cs, (s.nodes ++ [n]).getD 0 default = { kind := .document, children := cs }
  rw [ac_getD_push, if_pos h1]
  exact hs

theorem d0_docTree : DocTree D where
  doc := fun _ hs => hs.1
  noR := ⟨fun _ _ hs => hs⟩
  pc := fun _ _ hs => hs
  setNe := fun s id v hs hid hc => ⟨a2_docTree.setNe s id v hs.1 hid hc, d0_set s id v hs.2 (Or.inl hid)⟩
  setCh := fun s id v hs hv hc => ⟨a2_docTree.setCh s id v hs.1 hv hc, by
    by_cases hid : id = 0
    · subst hid
      obtain ⟨cs, e⟩ := hs.2
      refine d0_set s 0 v hs.2 (Or.inr ?_)
      rw [e] at hv
      rcases hv with h | h
      · exact ⟨_, h⟩
      · exact ⟨_, h⟩
    · exact d0_set s id v hs.2 (Or.inl hid)⟩
  push := fun s n hs hc => ⟨a2_push s n hs.1 hc, d0_push s n hs.2 hs.1.1⟩

theorem d0_modNode_ne (id : Nat) (hid : id ≠ 0) (f : Node → Node) (h : ∀ n, (f n).children = n.children) :
    Keeps D (modNode id f) := dt_modNode_ne d0_docTree id hid f h

theorem d0_newNode (n : Node) (hc : n.children = []) : Keeps D (newNode n) := dt_newNode d0_docTree n hc

theorem d0_appendChild (p c : Nat) (h : c ≠ 0) : Keeps D (appendChild p c) := dt_appendChild d0_docTree p c h

theorem bpOpen_doc0 (bp : BP) (parent : Nat) : Keeps D (bpOpen bp parent) := dt_bpOpen d0_docTree bp parent

theorem bpContinue_doc0 (n : Nat) (hn : n ≠ 0) (bp : BP) : Keeps D (bpContinue bp n) :=
  dt_bpContinue d0_docTree n hn bp

theorem bpClose_doc0 (bp : BP) (n : Nat) (hn : n ≠ 0) : Keeps D (bpClose bp n) := dt_bpClose d0_docTree bp n hn

/-- `K` with `D` in place of `DocInv` -/
structure K' (s : St) : Prop where
  acyc : Acyc s
  doc : D s
  opened : ∀ x ∈ s.pc.opened, 0 < x.node ∧ x.node < s.nodes.length

theorem K'.toK {s : St} (h : K' s) : K s := ⟨h.acyc, h.doc.1, h.opened⟩

theorem K'.toI {s : St} (h : K' s) : KI D s := ⟨h.acyc, h.doc, h.opened⟩

theorem d0_step : DocStep D where
  same := fun hn h => by unfold D DocInv DocOK Doc0 at *; rw [hn]; exact h
  op := bpOpen_doc0
  co := fun n hn bp => bpContinue_doc0 n hn bp
  cl := bpClose_doc0
  append := d0_appendChild
  blank := fun id hid v => d0_modNode_ne id hid _ (fun _ => rfl)

theorem d0_K_init (src : Bytes) : K' (initSt src) :=
  ⟨(a2_K_init src).acyc, ⟨(a2_K_init src).doc, ⟨[], rfl⟩⟩, (a2_K_init src).opened⟩

/-- for every source, node 0 of the store the block phase builds is the initial Document up to `children` -/
theorem run_doc0 (src : Bytes) (s : St) (h : run src = .ok s) :
    s.nodes.getD 0 default = { kind := .document, children := (s.nodes.getD 0 default).children } := by
  rw [a2_run_eq_blocksLoop] at h
  cases hb : blocksLoop 0 (linesFuel src) [] (initSt src) with
  | error e => rw [hb] at h; cases h
  | ok p =>
    rw [hb] at h
    cases h
    have k := ki_blocksLoop d0_step 0 _ _ _ p.2 p.1 (d0_K_init src).toI Nat.zero_lt_one hb
    obtain ⟨cs, hc⟩ := k.1.doc.2
    rw [hc]

end GM.Blocks.Sh
