/-
  GM.Proof.CMEmph — Lemmas about the spec-side emphasis reference GM.Spec.CMEmph (delimiter stack), and the `openers_bottom` table of the spec's appendix as a variant of the
  closing loop parametrised by the key under which a failed search is remembered: keyed as the appendix says it never changes the result, keyed by
  (character, can-open) only it does (witness).
-/
import GM.Spec.CMEmph
section CMEmph
namespace GM.Proof.CMEmph
open GM GM.Spec.CMEmph

theorem respellL_append (a b : List Inl) : respellL (a ++ b) = respellL a ++ respellL b := by
  induction a with
  | nil => simp [respellL]
  | cons n ns ih => simp [respellL, ih]

theorem allEmphL_append (p) (a b : List Inl) : allEmphL p (a ++ b) = (allEmphL p a && allEmphL p b) := by
  induction a with
  | nil => simp [allEmphL]
  | cons n ns ih => simp [allEmphL, ih, Bool.and_assoc]

theorem respell_delimText (ch : UInt8) (n : Nat) : respell (delimText ch n) = List.replicate n ch := by
  simp [delimText, respell]

theorem allEmph_delimText (p) (ch : UInt8) (n : Nat) : allEmph p (delimText ch n) = true := by
  simp [delimText, allEmph]

theorem push_flatten (st : Stack) (n : Inl) : (st.push n).flatten = st.flatten ++ [n] := by
  unfold Stack.push Stack.flatten
  split
  · next h => simp [h, flattenEnts]
  · next e es h => simp [h, flattenEnts]

/-! ### the delimiters on the stack: `push` leaves them alone, a match shortens the opener or removes it -/

theorem push_ents_d (st : Stack) (n : Inl) : (st.push n).ents.map (·.d) = st.ents.map (·.d) := by
  unfold Stack.push
  split
  · rfl
  · next h => rw [h]; rfl

theorem forall_push {P : Delim → Prop} (st : Stack) (n : Inl) :
    (∀ e ∈ (st.push n).ents, P e.d) ↔ ∀ e ∈ st.ents, P e.d := by
  simpa only [List.forall_mem_map] using iff_of_eq (congrArg (fun l : List Delim => ∀ d ∈ l, P d) (push_ents_d st n))

theorem forall_applyMatch {P : Delim → Prop} {bot : List Inl} {e : Ent} {below : List Ent} {kids : List Inl} {use : Nat}
    {ch : UInt8} {ci : Nat} (hb : ∀ x ∈ below, P x.d) (he : use < e.d.cur → P { e.d with cur := e.d.cur - use }) :
    ∀ x ∈ (applyMatch bot e below kids use ch ci).ents, P x.d := by
  unfold applyMatch
  split
  · exact (forall_push _ _).mpr hb
  · exact List.forall_mem_cons.mpr ⟨he (by omega), hb⟩

theorem findOpener_spec (c : Run) : ∀ (ents : List Ent) (inner : List Inl) (e : Ent) (below : List Ent) (kids : List Inl),
    findOpener c ents inner = some (e, below, kids) →
      flattenEnts ents ++ inner = flattenEnts below ++ delimText e.d.r.ch e.d.cur :: kids
      ∧ matchesRun e.d.r c = true ∧ ∃ pre, ents = pre ++ e :: below := by
  intro ents
  induction ents with
  | nil => intro inner e below kids h; simp [findOpener] at h
  | cons x xs ih =>
    intro inner e below kids h
    unfold findOpener at h
    split at h
    · next hm =>
      simp only [Option.some.injEq, Prod.mk.injEq] at h
      obtain ⟨rfl, rfl, rfl⟩ := h
      exact ⟨by simp [flattenEnts], hm, [], rfl⟩
    · next hm =>
      obtain ⟨h1, h2, pre, h3⟩ := ih _ e below kids h
      exact ⟨by rw [← h1]; simp [flattenEnts], h2, x :: pre, by rw [h3]; rfl⟩

/-- one rule for the closing loop: what holds of (characters left, stack) and survives a match of one or two
    characters (two only with an opener that has two) holds of what the loop returns -/
theorem closeLoop_induct (c : Run) (ci : Nat) {I : Nat → Stack → Prop}
    (hstep : ∀ cur st e below kids use, findOpener c st.ents [] = some (e, below, kids) → (use = 1 ∨ use = 2) →
      (use = 2 → 2 ≤ e.d.cur) → I (cur + use) st → I cur (applyMatch st.bot e below kids use c.ch ci)) :
    ∀ cur st, I cur st → I (closeLoop c ci cur st).2 (closeLoop c ci cur st).1 := by
  intro cur st
  fun_induction closeLoop c ci cur st with
  | case1 st => exact id
  | case2 st hf => exact id
  | case3 st e below kids hf => exact hstep 0 st e below kids 1 hf (.inl rfl) (fun h => by cases h)
  | case4 cur st hf => exact id
  | case5 cur st e below kids hf h2le ih => exact fun h => ih (hstep cur st e below kids 2 hf (.inr rfl) (fun _ => h2le) h)
  | case6 cur st e below kids hf h2le ih =>
    exact fun h => ih (hstep (cur + 1) st e below kids 1 hf (.inl rfl) (fun h => by cases h) h)


/-- every stack entry still has characters left -/
def entsPos (ents : List Ent) : Prop := ∀ e ∈ ents, 1 ≤ e.d.cur

theorem replicate_split (ch : UInt8) (cur use : Nat) (h : use ≤ cur) :
    List.replicate (cur - use) ch ++ List.replicate use ch = List.replicate cur ch := by
  rw [List.replicate_append_replicate]; congr 1; omega

theorem applyMatch_respell (bot : List Inl) (e : Ent) (below : List Ent) (kids : List Inl) (use : Nat) (ch : UInt8) (ci : Nat)
    (hu : use = 1 ∨ use = 2) (hle : use ≤ e.d.cur) (hch : e.d.r.ch = ch) :
    respellL (applyMatch bot e below kids use ch ci).flatten
      = respellL (bot ++ flattenEnts below) ++ (List.replicate e.d.cur ch ++ respellL kids ++ List.replicate use ch) := by
  have hs : (if (use == 2) = true then 2 else 1) = use := by
    rcases hu with rfl | rfl <;> simp
  have hs' : (if use = 2 then 2 else 1) = use := by
    rcases hu with rfl | rfl <;> simp
  unfold applyMatch
  split
  · next hc =>
    have : e.d.cur = use := by omega
    rw [push_flatten, respellL_append]
    simp [Stack.flatten, respellL, respell, hs', this]
  · next hc =>
    simp only [Stack.flatten, flattenEnts, respellL_append, respellL, respell, delimText, hs, hch]
    rw [← replicate_split ch e.d.cur use hle]
    simp only [List.append_assoc, List.append_nil]

theorem applyMatch_pos {bot : List Inl} {e : Ent} {below : List Ent} {kids : List Inl} {use : Nat} {ch : UInt8} {ci : Nat}
    (hb : entsPos below) : entsPos (applyMatch bot e below kids use ch ci).ents :=
  forall_applyMatch (P := fun d => 1 ≤ d.cur) hb fun _ => by show 1 ≤ e.d.cur - use; omega

theorem push_pos (st : Stack) (n : Inl) (h : entsPos st.ents) : entsPos (st.push n).ents :=
  (forall_push (P := fun d => 1 ≤ d.cur) st n).mpr h

/-- the closer's characters that were used are exactly the ones spelled by the new nodes -/
theorem closeLoop_respell (c : Run) (ci : Nat) : ∀ (cur : Nat) (st : Stack), entsPos st.ents →
    respellL (closeLoop c ci cur st).1.flatten ++ List.replicate (closeLoop c ci cur st).2 c.ch
      = respellL st.flatten ++ List.replicate cur c.ch
    ∧ entsPos (closeLoop c ci cur st).1.ents := by
  intro cur st h
  refine closeLoop_induct c ci (I := fun cur' st' => respellL st'.flatten ++ List.replicate cur' c.ch
    = respellL st.flatten ++ List.replicate cur c.ch ∧ entsPos st'.ents) ?_ cur st ⟨rfl, h⟩
  intro cur' st' e below kids use hf hu h2 ⟨hI, hpos⟩
  obtain ⟨h1, hm, pre, hp⟩ := findOpener_spec c _ _ _ _ _ hf
  simp only [matchesRun, Bool.and_eq_true, beq_iff_eq] at hm
  have hle : use ≤ e.d.cur := by
    rcases hu with rfl | rfl
    · exact hpos e (by simp [hp])
    · exact h2 rfl
  refine ⟨?_, applyMatch_pos fun x hx => hpos x (by simp [hp, hx])⟩
  rw [← hI, applyMatch_respell _ _ _ _ _ _ _ hu hle hm.1.2, Nat.add_comm, ← List.replicate_append_replicate]
  simp only [List.append_nil] at h1
  simp [Stack.flatten, h1, respellL_append, respellL, respell_delimText, hm.1.2, List.append_assoc]

/-- a delimiter run: the closing loop if it can close; then what is left of it opens, or is text -/
theorem step_run_rule (i : Nat) (r : Run) (st : Stack) {I : Nat → Stack → Prop} {Q : Stack → Prop}
    (h0 : r.canClose = false → I r.len st)
    (hloop : r.canClose = true → I (closeLoop r i r.len st).2 (closeLoop r i r.len st).1)
    (hdone : ∀ st', I 0 st' → Q st')
    (hopen : ∀ st' left, left ≠ 0 → r.canOpen = true → I left st' → Q { st' with ents := ⟨⟨r, i, left⟩, []⟩ :: st'.ents })
    (htext : ∀ st' left, left ≠ 0 → r.canOpen = false → I left st' → Q (st'.push (delimText r.ch left))) :
    Q (step i (.run r) st) := by
  have hp : I (if r.canClose then closeLoop r i r.len st else (st, r.len)).2
      (if r.canClose then closeLoop r i r.len st else (st, r.len)).1 := by
    split
    · next hc => exact hloop hc
    · next hc => exact h0 (Bool.not_eq_true _ ▸ hc)
  simp only [step]
  generalize (if r.canClose then closeLoop r i r.len st else (st, r.len)) = p at hp ⊢
  obtain ⟨st', left⟩ := p
  simp only at hp ⊢
  split
  · next hl => exact hdone _ (eq_of_beq hl ▸ hp)
  · next hl =>
    split
    · next ho => exact hopen _ _ (fun h => hl (beq_iff_eq.mpr h)) ho hp
    · next ho => exact htext _ _ (fun h => hl (beq_iff_eq.mpr h)) (Bool.not_eq_true _ ▸ ho) hp

theorem step_respell (i : Nat) (t : Tok) (st : Stack) (h : entsPos st.ents) :
    respellL (step i t st).flatten = respellL st.flatten ++ tokChars [t] ∧ entsPos (step i t st).ents := by
  cases t with
  | run r =>
    refine step_run_rule i r st (I := fun left st' => respellL st'.flatten ++ List.replicate left r.ch
      = respellL st.flatten ++ List.replicate r.len r.ch ∧ entsPos st'.ents)
      (Q := fun s => respellL s.flatten = respellL st.flatten ++ tokChars [.run r] ∧ entsPos s.ents)
      (fun _ => ⟨rfl, h⟩) (fun _ => closeLoop_respell r i r.len st h) ?_ ?_ ?_
    · intro st' ⟨h1, h2⟩
      exact ⟨by simpa [tokChars] using h1, h2⟩
    · intro st' left hl _ ⟨h1, h2⟩
      refine ⟨?_, List.forall_mem_cons.mpr ⟨Nat.pos_of_ne_zero hl, h2⟩⟩
      rw [tokChars, tokChars, List.append_nil, ← h1]
      simp [Stack.flatten, flattenEnts, respellL_append, respellL, respell_delimText]
    · intro st' left _ _ ⟨h1, h2⟩
      refine ⟨?_, push_pos _ _ h2⟩
      rw [tokChars, tokChars, List.append_nil, push_flatten, respellL_append, ← h1]
      simp [respellL, respell_delimText]
  | _ => exact ⟨by simp [step, push_flatten, respellL_append, respellL, respell, tokChars], push_pos _ _ h⟩

theorem parseGo_respell : ∀ (toks : List Tok) (i : Nat) (st : Stack), entsPos st.ents →
    respellL (parseGo i toks st).flatten = respellL st.flatten ++ tokChars toks := by
  intro toks
  induction toks with
  | nil => intro i st _; simp [parseGo, tokChars]
  | cons t ts ih =>
    intro i st h
    obtain ⟨h1, h2⟩ := step_respell i t st h
    rw [parseGo, ih _ _ h2, h1]
    cases t <;> simp [tokChars, List.append_assoc]

theorem parse_respell (toks : List Tok) : respellL (parse toks) = tokChars toks := by
  unfold parse
  rw [parseGo_respell toks 0 ⟨[], []⟩ (by intro e he; simp at he)]
  simp [Stack.flatten, flattenEnts, respellL]

/-! ### soundness: every node comes from an opener that can open and a closer that can close -/

/-- every stack entry is the run at its token index, and that index is before position `i` -/
def entsSound (toks : List Tok) (i : Nat) (ents : List Ent) : Prop :=
  ∀ e ∈ ents, toks[e.d.idx]? = some (.run e.d.r) ∧ e.d.idx < i

theorem allEmphL_flattenEnts_cons (p) (e : Ent) (es : List Ent) :
    allEmphL p (flattenEnts (e :: es)) = (allEmphL p (flattenEnts es) && allEmphL p e.after) := by
  simp [flattenEnts, allEmphL_append, allEmphL, allEmph_delimText]

theorem applyMatch_sound (p) (bot : List Inl) (e : Ent) (below : List Ent) (kids : List Inl) (use : Nat) (ch : UInt8) (ci : Nat)
    (hb : allEmphL p (bot ++ flattenEnts below) = true) (hk : allEmphL p kids = true)
    (hp : p (use == 2) ch e.d.idx ci = true) :
    allEmphL p (applyMatch bot e below kids use ch ci).flatten = true := by
  unfold applyMatch
  split
  · rw [push_flatten, allEmphL_append]
    simp [Stack.flatten, allEmphL, allEmph, hb, hk, hp]
  · simp only [Stack.flatten, allEmphL_append] at hb ⊢
    simp [flattenEnts, allEmphL_append, allEmphL, allEmph, allEmph_delimText, hb, hk, hp]

theorem applyMatch_entsSound {toks : List Tok} {i : Nat} {bot : List Inl} {e : Ent} {below : List Ent} {kids : List Inl}
    {use : Nat} {ch : UInt8} {ci : Nat} (he : toks[e.d.idx]? = some (.run e.d.r) ∧ e.d.idx < i) (hb : entsSound toks i below) :
    entsSound toks i (applyMatch bot e below kids use ch ci).ents :=
  forall_applyMatch (P := fun d => toks[d.idx]? = some (.run d.r) ∧ d.idx < i) hb fun _ => he

theorem push_entsSound (toks : List Tok) (i : Nat) (st : Stack) (n : Inl) (h : entsSound toks i st.ents) :
    entsSound toks i (st.push n).ents :=
  (forall_push (P := fun d => toks[d.idx]? = some (.run d.r) ∧ d.idx < i) st n).mpr h

theorem closeLoop_sound (toks : List Tok) (c : Run) (ci : Nat) (hc : toks[ci]? = some (.run c)) :
    ∀ (cur : Nat) (st : Stack), entsSound toks ci st.ents → allEmphL (soundAt toks) st.flatten = true →
      entsSound toks ci (closeLoop c ci cur st).1.ents ∧ allEmphL (soundAt toks) (closeLoop c ci cur st).1.flatten = true := by
  intro cur st h1 h2
  refine closeLoop_induct c ci (I := fun _ st' => entsSound toks ci st'.ents ∧ allEmphL (soundAt toks) st'.flatten = true)
    ?_ cur st ⟨h1, h2⟩
  intro _ st' e below kids use hf _ _ ⟨hs, ha⟩
  obtain ⟨h1, hm, pre, hp⟩ := findOpener_spec c _ _ _ _ _ hf
  simp only [List.append_nil] at h1
  simp only [Stack.flatten, h1, allEmphL_append, allEmphL, allEmph_delimText, Bool.and_eq_true, Bool.true_and] at ha
  obtain ⟨he1, he2⟩ := hs e (by simp [hp])
  exact ⟨applyMatch_entsSound ⟨he1, he2⟩ fun x hx => hs x (by simp [hp, hx]),
    applyMatch_sound _ _ _ _ _ _ _ _ (by simp [allEmphL_append, ha.1, ha.2.1]) ha.2.2 (by simp [soundAt, he1, hc, hm, he2])⟩

theorem entsSound_mono (toks : List Tok) (i : Nat) (ents : List Ent) (h : entsSound toks i ents) : entsSound toks (i + 1) ents :=
  fun e he => ⟨(h e he).1, Nat.lt_succ_of_lt (h e he).2⟩

theorem step_sound (toks : List Tok) (i : Nat) (t : Tok) (st : Stack) (ht : toks[i]? = some t)
    (h1 : entsSound toks i st.ents) (h2 : allEmphL (soundAt toks) st.flatten = true) :
    entsSound toks (i + 1) (step i t st).ents ∧ allEmphL (soundAt toks) (step i t st).flatten = true := by
  cases t with
  | run r =>
    refine step_run_rule i r st (I := fun _ st' => entsSound toks i st'.ents ∧ allEmphL (soundAt toks) st'.flatten = true)
      (Q := fun s => entsSound toks (i + 1) s.ents ∧ allEmphL (soundAt toks) s.flatten = true)
      (fun _ => ⟨h1, h2⟩) (fun _ => closeLoop_sound toks r i ht r.len st h1 h2) ?_ ?_ ?_
    · exact fun st' ⟨g1, g2⟩ => ⟨entsSound_mono _ _ _ g1, g2⟩
    · intro st' left _ _ ⟨g1, g2⟩
      refine ⟨List.forall_mem_cons.mpr ⟨⟨ht, Nat.lt_succ_self _⟩, entsSound_mono _ _ _ g1⟩, ?_⟩
      simp only [Stack.flatten, allEmphL_append] at g2 ⊢
      simp [flattenEnts, allEmphL_append, allEmphL, allEmph_delimText]
      simpa using g2
    · exact fun st' left _ _ ⟨g1, g2⟩ => ⟨entsSound_mono _ _ _ (push_entsSound _ _ _ _ g1),
        by rw [push_flatten, allEmphL_append]; simp [g2, allEmphL, allEmph_delimText]⟩
  | _ => exact ⟨entsSound_mono _ _ _ (push_entsSound _ _ _ _ h1), by simp [step, push_flatten, allEmphL_append, allEmphL, allEmph, h2]⟩
theorem parseGo_sound (toks : List Tok) : ∀ (rest : List Tok) (i : Nat) (st : Stack), toks.drop i = rest →
    entsSound toks i st.ents → allEmphL (soundAt toks) st.flatten = true →
    allEmphL (soundAt toks) (parseGo i rest st).flatten = true := by
  intro rest
  induction rest with
  | nil => intro i st _ _ h; simpa [parseGo] using h
  | cons t ts ih =>
    intro i st hd h1 h2
    have ht : toks[i]? = some t := by
      have := congrArg (fun l => l[0]?) hd
      simpa using this
    have hd' : toks.drop (i + 1) = ts := by
      have := congrArg List.tail hd
      simpa using this
    obtain ⟨g1, g2⟩ := step_sound toks i t st ht h1 h2
    rw [parseGo]
    exact ih (i + 1) _ hd' g1 g2

theorem parse_sound (toks : List Tok) : allEmphL (soundAt toks) (parse toks) = true := by
  unfold parse
  exact parseGo_sound toks toks 0 ⟨[], []⟩ (by simp) (by intro e he; simp at he) (by simp [Stack.flatten, flattenEnts, allEmphL])

mutual
theorem render_events : ∀ n : Inl, render n = (events n).flatMap Ev.bytes
  | .text b => by simp [render, events, Ev.bytes]
  | .soft => by simp [render, events, Ev.bytes]
  | .hard => by simp [render, events, Ev.bytes]
  | .code b => by simp [render, events, Ev.bytes]
  | .emph s _ _ _ kids => by
    simp only [render, events, List.flatMap_cons, List.flatMap_append, List.flatMap_nil, List.append_nil, Ev.bytes,
      renderL_events kids, List.append_assoc]
theorem renderL_events : ∀ ns : List Inl, renderL ns = (eventsL ns).flatMap Ev.bytes
  | [] => by simp [renderL, eventsL]
  | n :: ns => by simp [renderL, eventsL, render_events n, renderL_events ns]
end

mutual
theorem events_neutral : ∀ (n : Inl) (st : List Bool) (rest : List Ev), balGo st (events n ++ rest) = balGo st rest
  | .text b, st, rest => by simp [events, balGo]
  | .soft, st, rest => by simp [events, balGo]
  | .hard, st, rest => by simp [events, balGo]
  | .code b, st, rest => by simp [events, balGo]
  | .emph s _ _ _ kids, st, rest => by
    simp only [events, List.cons_append, List.append_assoc, balGo, eventsL_neutral kids, List.nil_append, beq_self_eq_true,
      Bool.true_and]
theorem eventsL_neutral : ∀ (ns : List Inl) (st : List Bool) (rest : List Ev), balGo st (eventsL ns ++ rest) = balGo st rest
  | [], st, rest => by simp [eventsL]
  | n :: ns, st, rest => by simp [eventsL, List.append_assoc, events_neutral n, eventsL_neutral ns]
end

theorem eventsL_balanced (ns : List Inl) : balGo [] (eventsL ns) = true := by
  have := eventsL_neutral ns [] []
  simpa [balGo] using this

theorem strip_escByte (c : UInt8) (rest : Bytes) :
    stripTags false (escByte c ++ rest) = escByte c ++ stripTags false rest := by
  unfold escByte
  split
  · simp [stripTags]
  · split
    · simp [stripTags]
    · split
      · simp [stripTags]
      · split
        · simp [stripTags]
        · next h60 _ _ => simp [stripTags, h60]

theorem strip_esc (b rest : Bytes) : stripTags false (esc b ++ rest) = esc b ++ stripTags false rest := by
  induction b with
  | nil => simp [esc]
  | cons c t ih =>
    have : esc (c :: t) = escByte c ++ esc t := by simp [esc]
    rw [this, List.append_assoc, strip_escByte, ih, List.append_assoc]

mutual
theorem strip_render : ∀ (n : Inl) (rest : Bytes),
    stripTags false (render n ++ rest) = esc (textOf n) ++ stripTags false rest
  | .text b, rest => by simp [render, textOf, strip_esc]
  | .soft, rest => by simp [render, textOf, stripTags, esc, escByte]
  | .hard, rest => by simp [render, textOf, stripTags, esc, escByte, tagBr]
  | .code b, rest => by simp [render, textOf, stripTags, tagCoO, tagCoC, List.append_assoc, strip_esc]
  | .emph s _ _ _ kids, rest => by
    cases s <;>
      simp [render, textOf, tagEmO, tagEmC, tagStO, tagStC, stripTags, List.append_assoc, strip_renderL kids]
theorem strip_renderL : ∀ (ns : List Inl) (rest : Bytes),
    stripTags false (renderL ns ++ rest) = esc (textOfL ns) ++ stripTags false rest
  | [], rest => by simp [renderL, textOfL, esc]
  | n :: ns, rest => by
    have : esc (textOf n ++ textOfL ns) = esc (textOf n) ++ esc (textOfL ns) := by simp [esc]
    simp [renderL, textOfL, List.append_assoc, strip_render n, strip_renderL ns, this]
end

end GM.Proof.CMEmph
end CMEmph

section CMEmphMemo
/-
  The `openers_bottom` table of the spec's appendix ("lower bound for future searches") as a
  variant of the reference's closing loop, parametrised by the KEY under which a failed search is remembered.
  Theorem: keyed by anything that determines `matchesRun · c` (in particular the appendix's key: delimiter character,
  whether the closer can open, closer length mod 3) the table never changes the result; keyed by (character, can-open)
  only — the seeded change C02-7 / cmark issue 383 — it does (witness).
  Semantics of the table here: per key, the NUMBER of bottom-most stack entries known not to match (clamped when the
  stack shrinks) — a count instead of the appendix's pointer into the stack.
-/
namespace GM.Proof.CMEmphMemo
open GM GM.Spec.CMEmph GM.Proof.CMEmph

abbrev Memo (K : Type) := List (K × Nat)

section
variable {K : Type} [DecidableEq K]

def mget : Memo K → K → Nat
  | [], _ => 0
  | (k', n) :: t, k => if k' = k then n else mget t k

def mclamp (m : Memo K) (len : Nat) : Memo K := m.map fun p => (p.1, min p.2 len)

theorem mget_mclamp (m : Memo K) (len : Nat) (k : K) : mget (mclamp m len) k = min (mget m k) len := by
  induction m with
  | nil => simp [mclamp, mget]
  | cons p t ih =>
    obtain ⟨k', n⟩ := p
    simp only [mclamp, List.map_cons, mget] at ih ⊢
    split
    · rfl
    · exact ih

/-- search only above the `skip` bottom-most entries -/
def findOpenerM (c : Run) (skip : Nat) : List Ent → List Inl → Option (Ent × List Ent × List Inl)
  | [], _ => none
  | e :: below, inner =>
    if below.length + 1 ≤ skip then none
    else if matchesRun e.d.r c then some (e, below, e.after ++ inner)
    else findOpenerM c skip below (delimText e.d.r.ch e.d.cur :: (e.after ++ inner))

variable (key : Run → K)

/-- `closeLoop` with the table: a failed search for closer `c` records that none of the entries now on the stack
    matches closers with `key c`; a successful match clamps the table to the new stack height -/
def closeLoopM (c : Run) (ci : Nat) : Nat → Stack → Memo K → Stack × Nat × Memo K
  | 0, st, m => (st, 0, m)
  | 1, st, m =>
    match findOpenerM c (mget m (key c)) st.ents [] with
    | none => (st, 1, (key c, st.ents.length) :: m)
    | some (e, below, kids) =>
      (applyMatch st.bot e below kids 1 c.ch ci, 0, mclamp m (applyMatch st.bot e below kids 1 c.ch ci).ents.length)
  | cur + 2, st, m =>
    match findOpenerM c (mget m (key c)) st.ents [] with
    | none => (st, cur + 2, (key c, st.ents.length) :: m)
    | some (e, below, kids) =>
      if 2 ≤ e.d.cur then
        closeLoopM c ci cur (applyMatch st.bot e below kids 2 c.ch ci)
          (mclamp m (applyMatch st.bot e below kids 2 c.ch ci).ents.length)
      else
        closeLoopM c ci (cur + 1) (applyMatch st.bot e below kids 1 c.ch ci)
          (mclamp m (applyMatch st.bot e below kids 1 c.ch ci).ents.length)

def stepM (i : Nat) (t : Tok) (st : Stack) (m : Memo K) : Stack × Memo K :=
  match t with
  | .chr b => (st.push (.text b), m)
  | .soft => (st.push .soft, m)
  | .hard => (st.push .hard, m)
  | .code b => (st.push (.code b), m)
  | .run r =>
    let (st', left, m') := if r.canClose then closeLoopM key r i r.len st m else (st, r.len, m)
    if left == 0 then (st', m')
    else if r.canOpen then ({ st' with ents := ⟨⟨r, i, left⟩, []⟩ :: st'.ents }, m')
    else (st'.push (delimText r.ch left), m')

def parseGoM : Nat → List Tok → Stack → Memo K → Stack
  | _, [], st, _ => st
  | i, t :: rest, st, m => parseGoM (i + 1) rest (stepM key i t st m).1 (stepM key i t st m).2

def parseM (toks : List Tok) : List Inl := (parseGoM key 0 toks ⟨[], []⟩ []).flatten

/-- the runs on the stack, oldest first -/
def runsOld (ents : List Ent) : List Run := (ents.map (·.d.r)).reverse

theorem runsOld_cons (e : Ent) (es : List Ent) : runsOld (e :: es) = runsOld es ++ [e.d.r] := by
  simp [runsOld]

theorem runsOld_length (ents : List Ent) : (runsOld ents).length = ents.length := by simp [runsOld]

theorem findOpener_none (c : Run) : ∀ (ents : List Ent) (inner : List Inl),
    (∀ e ∈ ents, matchesRun e.d.r c = false) → findOpener c ents inner = none := by
  intro ents
  induction ents with
  | nil => intro inner _; rfl
  | cons e es ih =>
    intro inner h
    unfold findOpener
    rw [if_neg (by simp [h e (by simp)])]
    exact ih _ (fun x hx => h x (by simp [hx]))

theorem none_findOpener (c : Run) : ∀ (ents : List Ent) (inner : List Inl),
    findOpener c ents inner = none → ∀ e ∈ ents, matchesRun e.d.r c = false := by
  intro ents
  induction ents with
  | nil => intro inner _ e he; simp at he
  | cons x xs ih =>
    intro inner h e he
    unfold findOpener at h
    split at h
    · simp at h
    · next hm =>
      simp only [List.mem_cons] at he
      rcases he with rfl | he
      · simpa using hm
      · exact ih _ h e he

/-- the table's search equals the full search when the skipped entries do not match -/
theorem findOpenerM_eq (c : Run) (skip : Nat) : ∀ (ents : List Ent) (inner : List Inl),
    (∀ r ∈ (runsOld ents).take skip, matchesRun r c = false) →
    findOpenerM c skip ents inner = findOpener c ents inner := by
  intro ents
  induction ents with
  | nil => intro inner _; rfl
  | cons e es ih =>
    intro inner h
    unfold findOpenerM
    split
    · next hle =>
      symm
      apply findOpener_none
      intro x hx
      apply h
      have hlen : (runsOld (e :: es)).length ≤ skip := by rw [runsOld_length]; simpa using hle
      rw [List.take_of_length_le hlen]
      simp only [runsOld, List.mem_reverse, List.mem_map]
      exact ⟨x, hx, rfl⟩
    · next hgt =>
      have hs : skip ≤ (runsOld es).length := by rw [runsOld_length]; omega
      have ht : (runsOld (e :: es)).take skip = (runsOld es).take skip := by
        rw [runsOld_cons, List.take_append_of_le_length hs]
      rw [ht] at h
      unfold findOpener
      split
      · rfl
      · exact ih _ h

/-- the key determines which openers a closer can take -/
def KeyOK : Prop :=
  ∀ (o c c' : Run), key c = key c' → c.canClose = true → c'.canClose = true → matchesRun o c = matchesRun o c'

/-- the table is sound for the stack: no count exceeds the height, and for every closer none of the counted
    bottom-most entries matches -/
def MS (m : Memo K) (ents : List Ent) : Prop :=
  (∀ k, mget m k ≤ ents.length) ∧
  ∀ c : Run, c.canClose = true → ∀ r ∈ (runsOld ents).take (mget m (key c)), matchesRun r c = false

theorem runsOld_push (st : Stack) (n : Inl) : runsOld (st.push n).ents = runsOld st.ents := by
  have := congrArg (fun l => (l.map (·.r)).reverse) (push_ents_d st n)
  simpa only [runsOld, List.map_map, Function.comp_def] using this

theorem length_push (st : Stack) (n : Inl) : (st.push n).ents.length = st.ents.length := by
  simpa only [List.length_map] using congrArg List.length (push_ents_d st n)

theorem applyMatch_prefix (bot : List Inl) (e : Ent) (below pre : List Ent) (kids : List Inl) (use : Nat) (ch : UInt8) (ci : Nat) :
    ∃ suf, runsOld (pre ++ e :: below) = runsOld (applyMatch bot e below kids use ch ci).ents ++ suf := by
  have h0 : runsOld (pre ++ e :: below) = runsOld below ++ ([e.d.r] ++ runsOld pre) := by
    simp [runsOld]
  unfold applyMatch
  split
  · rw [runsOld_push]; exact ⟨_, h0⟩
  · refine ⟨runsOld pre, ?_⟩
    rw [h0]; simp [runsOld]

theorem MS_shrink (m : Memo K) (ents new : List Ent) (suf : List Run) (h : MS key m ents)
    (hp : runsOld ents = runsOld new ++ suf) : MS key (mclamp m new.length) new := by
  refine ⟨fun k => by rw [mget_mclamp]; exact Nat.min_le_right _ _, ?_⟩
  intro c hc r hr
  rw [mget_mclamp] at hr
  apply h.2 c hc r
  have hle : min (mget m (key c)) new.length ≤ (runsOld new).length := by
    rw [runsOld_length]; exact Nat.min_le_right _ _
  have h1 : r ∈ (runsOld ents).take (min (mget m (key c)) new.length) := by
    rw [hp, List.take_append_of_le_length hle]; exact hr
  have h2 : (runsOld ents).take (min (mget m (key c)) new.length)
      = ((runsOld ents).take (mget m (key c))).take (min (mget m (key c)) new.length) := by
    rw [List.take_take]; congr 1; omega
  rw [h2] at h1
  exact List.mem_of_mem_take h1

/-- a match keeps the table sound once it is clamped to the new height -/
theorem MS_match (m : Memo K) (c : Run) (ci use : Nat) (st : Stack) (e : Ent) (below : List Ent) (kids : List Inl)
    (h : MS key m st.ents) (hf : findOpener c st.ents [] = some (e, below, kids)) :
    MS key (mclamp m (applyMatch st.bot e below kids use c.ch ci).ents.length) (applyMatch st.bot e below kids use c.ch ci).ents := by
  obtain ⟨-, -, pre, hp⟩ := findOpener_spec c _ _ _ _ _ hf
  obtain ⟨suf, hs⟩ := applyMatch_prefix st.bot e below pre kids use c.ch ci
  exact MS_shrink key m _ _ suf h (by rw [hp]; exact hs)

theorem MS_failed (hk : KeyOK key) (m : Memo K) (ents : List Ent) (c : Run) (hc : c.canClose = true) (h : MS key m ents)
    (hf : findOpener c ents [] = none) : MS key ((key c, ents.length) :: m) ents := by
  refine ⟨?_, ?_⟩
  · intro k
    simp only [mget]
    split
    · exact Nat.le_refl _
    · exact h.1 k
  · intro c' hc' r hr
    simp only [mget] at hr
    split at hr
    · next hkk =>
      have hr' : r ∈ runsOld ents := List.mem_of_mem_take hr
      simp only [runsOld, List.mem_reverse, List.mem_map] at hr'
      obtain ⟨e, he, rfl⟩ := hr'
      rw [← hk e.d.r c c' hkk hc hc']
      exact none_findOpener c ents [] hf e he
    · exact h.2 c' hc' r hr

theorem MS_same (m : Memo K) (ents new : List Ent) (h : MS key m ents) (hr : runsOld new = runsOld ents) : MS key m new := by
  have hl : new.length = ents.length := by
    have := congrArg List.length hr; simpa [runsOld_length] using this
  exact ⟨fun k => by rw [hl]; exact h.1 k, fun c hc r hrr => h.2 c hc r (by rw [← hr]; exact hrr)⟩

theorem MS_cons (m : Memo K) (ents : List Ent) (e : Ent) (h : MS key m ents) : MS key m (e :: ents) := by
  refine ⟨fun k => Nat.le_succ_of_le (h.1 k), ?_⟩
  intro c hc r hr
  apply h.2 c hc r
  have hle : mget m (key c) ≤ (runsOld ents).length := by rw [runsOld_length]; exact h.1 _
  rw [runsOld_cons, List.take_append_of_le_length hle] at hr
  exact hr

/-- the closing loop with a soundly keyed table computes what the reference computes -/
theorem closeLoopM_eq (hk : KeyOK key) (c : Run) (hc : c.canClose = true) (ci : Nat) :
    ∀ (cur : Nat) (st : Stack) (m : Memo K), MS key m st.ents →
      (closeLoopM key c ci cur st m).1 = (closeLoop c ci cur st).1
      ∧ (closeLoopM key c ci cur st m).2.1 = (closeLoop c ci cur st).2
      ∧ MS key (closeLoopM key c ci cur st m).2.2 (closeLoop c ci cur st).1.ents := by
  intro cur st m
  fun_induction closeLoopM key c ci cur st m with
  | case1 st m => intro h; simp [closeLoop, h]
  | case2 st m hf =>
    intro h
    rw [findOpenerM_eq c _ _ _ (h.2 c hc)] at hf
    simp only [closeLoop, hf]
    exact ⟨trivial, trivial, MS_failed key hk m _ c hc h hf⟩
  | case3 st m e below kids hf =>
    intro h
    rw [findOpenerM_eq c _ _ _ (h.2 c hc)] at hf
    simp only [closeLoop, hf]
    exact ⟨trivial, trivial, MS_match key m c ci 1 st e below kids h hf⟩
  | case4 cur st m hf =>
    intro h
    rw [findOpenerM_eq c _ _ _ (h.2 c hc)] at hf
    simp only [closeLoop, hf]
    exact ⟨trivial, trivial, MS_failed key hk m _ c hc h hf⟩
  | case5 cur st m e below kids hf h2 ih =>
    intro h
    rw [findOpenerM_eq c _ _ _ (h.2 c hc)] at hf
    simpa only [closeLoop, hf, h2, if_true] using ih (MS_match key m c ci 2 st e below kids h hf)
  | case6 cur st m e below kids hf h2 ih =>
    intro h
    rw [findOpenerM_eq c _ _ _ (h.2 c hc)] at hf
    simpa only [closeLoop, hf, h2, if_false] using ih (MS_match key m c ci 1 st e below kids h hf)

theorem stepM_eq (hk : KeyOK key) (i : Nat) (t : Tok) (st : Stack) (m : Memo K) (h : MS key m st.ents) :
    (stepM key i t st m).1 = step i t st ∧ MS key (stepM key i t st m).2 (step i t st).ents := by
  cases t with
  | run r =>
    refine step_run_rule i r st
      (I := fun left st' => ∃ m', (if r.canClose then closeLoopM key r i r.len st m else (st, r.len, m)) = (st', left, m')
        ∧ MS key m' st'.ents)
      (Q := fun s => (stepM key i (.run r) st m).1 = s ∧ MS key (stepM key i (.run r) st m).2 s.ents) ?_ ?_ ?_ ?_ ?_
    · exact fun hc => ⟨m, by rw [hc]; rfl, h⟩
    · intro hc
      obtain ⟨h1, h2, h3⟩ := closeLoopM_eq key hk r hc i r.len st m h
      exact ⟨_, by rw [if_pos hc, ← h1, ← h2], h3⟩
    · rintro st' ⟨m', he, hm⟩
      simp only [stepM, he]
      exact ⟨rfl, hm⟩
    · rintro st' left hl ho ⟨m', he, hm⟩
      simp only [stepM, he, beq_iff_eq, hl, if_false, ho, if_true]
      exact ⟨trivial, MS_cons key m' _ _ hm⟩
    · rintro st' left hl ho ⟨m', he, hm⟩
      simp only [stepM, he, beq_iff_eq, hl, if_false, ho, Bool.false_eq_true]
      exact ⟨trivial, MS_same key m' _ _ hm (runsOld_push _ _)⟩
  | _ => exact ⟨rfl, MS_same key m _ _ h (runsOld_push _ _)⟩

theorem parseGoM_eq (hk : KeyOK key) : ∀ (toks : List Tok) (i : Nat) (st : Stack) (m : Memo K), MS key m st.ents →
    parseGoM key i toks st m = parseGo i toks st := by
  intro toks
  induction toks with
  | nil => intro i st m _; rfl
  | cons t ts ih =>
    intro i st m h
    obtain ⟨h1, h2⟩ := stepM_eq key hk i t st m h
    rw [parseGoM, parseGo, ← h1]
    exact ih _ _ _ (by rw [h1]; exact h2)

/-- the table never changes the result when its key determines the matching -/
theorem parseM_eq (hk : KeyOK key) (toks : List Tok) : parseM key toks = parse toks := by
  unfold parseM parse
  rw [parseGoM_eq key hk toks 0 ⟨[], []⟩ [] ⟨fun _ => by simp [mget], fun _ _ r hr => by simp [mget] at hr⟩]

end

/-- "indexed by the type of delimiter, … the length of the closing delimiter run (modulo 3) and whether the closing
    delimiter can also be an opener" -/
def specKey (c : Run) : UInt8 × Bool × Nat := (c.ch, c.canOpen, c.len % 3)

/-- the key of the seeded change C02-7 / cmark issue 383: the length of the closer is missing -/
def seededKey (c : Run) : UInt8 × Bool := (c.ch, c.canOpen)

theorem specKey_ok : KeyOK specKey := by
  intro o c c' hkey hc hc'
  simp only [specKey, Prod.mk.injEq] at hkey
  obtain ⟨h1, h2, h3⟩ := hkey
  have e1 : (o.len + c.len) % 3 = (o.len + c'.len) % 3 := by omega
  simp only [matchesRun, ruleOf3, hc, hc', h1, h2, h3, e1]

/-- the appendix's table, keyed as the appendix says, is a pure optimisation of the reference -/
theorem parseM_specKey (toks : List Tok) : parseM specKey toks = parse toks := parseM_eq specKey specKey_ok toks

/-- `*a**b**c*y` (cmark issue 383): with the closer's length missing from the key the failed search of `**` (refused by
    the multiple-of-3 rule) wrongly hides the opener from the final `*` -/
def witness383 : List Tok := tokens ucls0 [42, 97, 42, 42, 98, 42, 42, 99, 42, 121]

theorem seededKey_differs :
    renderL (parseM seededKey witness383) = [42, 97] ++ tagStO ++ [98] ++ tagStC ++ [99, 42, 121]
    ∧ renderL (parse witness383) = tagEmO ++ [97] ++ tagStO ++ [98] ++ tagStC ++ [99] ++ tagEmC ++ [121] := by
  decide

end GM.Proof.CMEmphMemo
end CMEmphMemo
