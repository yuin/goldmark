/-
  GM.Proof.BlocksTNOPhaseXGood — `GM.Props.ConvertXE2E.BlockPhaseXGood` reduced to its two open parts:
    * `RecClassAt src st` — every `thematicBreak` entry of a child list of the final store that HAS lines is a
      TableHeader / TableRow record, or a TableCell record with exactly one line without ForceNewline (the DATA FRAME: the
      driver never changes kind / htmlType / offset / level / lines of a `thematicBreak` node; not proved here — the frames of
      the walks track lines, linesNil and kinds only);
    * the escaped-pipe positions are ascending.
  `blockPhaseX_good_but_esc_of`: the body of `BlockPhaseXGood` without its last conjunct, for one member set and source, from
  `RecClassAt` (Table on; nothing is assumed with Table off); `convertL_total_of_class_esc : ConvertLTotal`.
-/
import GM.Proof.BlocksTNOPhaseXEnd
import GM.Props.ConvertXE2E

namespace GM.Blocks.TX
open GM GM.Text GM.Spec GM.Proof.Reader GM.Blocks.TO GM.TableX GM.ConvertX GM.Convert
open GM.Proof.BlocksWF0 (isRaw)

/-- the classification of the table records that carry lines (see the header) -/
def RecClassAt (src : Bytes) (st : St) : Prop :=
  ∀ p ch, ch ∈ (st.nodes.getD p default).children → (st.nodes.getD ch default).kind = .thematicBreak →
    (st.nodes.getD ch default).lines ≠ [] →
    isRowNode src (st.nodes.getD ch default) = true ∨
      (isCellNode src (st.nodes.getD ch default) = true ∧
        ∃ sg, (st.nodes.getD ch default).lines = [sg] ∧ sg.forceNewline = false)

/-- **the body of `BlockPhaseXGood` without the escaped-pipe clause**, for one member set and one source -/
theorem blockPhaseX_good_but_esc_of (c : GCfg) (src : Bytes)
    (hR : c.base.table = true → ∀ st, blockPhaseX c.base true src = .ok st → RecClassAt src st) :
    ∃ st, blockPhaseX c.base true src = .ok st ∧
      (∀ n ∈ st.nodes, isRawKind n.kind = true → ∀ t ∈ n.lines, segInRange src t) ∧
      (∀ p ch, ch ∈ (st.nodes.getD p default).children → isRawKind (st.nodes.getD ch default).kind = false →
        (c.base.table && isRowNode src (st.nodes.getD ch default)) = false →
        (c.base.table && isCellNode src (st.nodes.getD ch default) &&
          (st.nodes.getD ch default).lines.all (fun s => s.start == s.stop && s.padding == 0)) = false →
        (st.nodes.getD ch default).lines ≠ [] → GM.Proof.InlinesReader.WF0 src (st.nodes.getD ch default).lines) ∧
      (st.nodes.getD 0 default).lines = [] := by
  obtain ⟨st, hst, hok⟩ := blockPhaseX_total c.base src
  refine ⟨st, hst, fun n hn _ t ht => (hok n hn).lines t ht, ?_, ?_⟩
  · cases htab : c.base.table with
    | false =>
      rw [blockPhaseX_noTable src true c.base htab] at hst
      intro p ch hc hr _ _ hne
      have hr' : isRaw (nd st ch).kind = false := by rw [E2E.isRaw_eq_isRawKind]; exact hr
      have hlt : ch < st.nodes.length := by
        rcases Nat.lt_or_ge ch st.nodes.length with hh | hh
        · exact hh
        · exfalso; apply hne; show (nd st ch).lines = []; rw [nd_default_of_ge st hh]; rfl
      have hm : nd st ch ∈ st.nodes := by
        have e : nd st ch = st.nodes[ch] := by simp [nd, List.getD, hlt]
        rw [e]; exact List.getElem_mem hlt
      exact ⟨((TO.blockPhase_wfsegs src st hst).1 _ hm hr').2.2 hne, (TO.blockPhase_pad_facts src st hst).1 p ch hc hr'⟩
    | true =>
      obtain ⟨f1, f2, f3, _⟩ := blockPhaseX_line_facts c.base src htab st hst
      intro p ch hc hr h1 h2 hne
      by_cases hk : (st.nodes.getD ch default).kind = .thematicBreak
      · rcases hR htab st hst p ch hc hk hne with hrow | ⟨hcell, sg, hl, hfn⟩
        · rw [hrow] at h1; cases h1
        · have hlt : ch < st.nodes.length := by
            rcases Nat.lt_or_ge ch st.nodes.length with hh | hh
            · exact hh
            · exfalso; apply hne; show (nd st ch).lines = []; rw [nd_default_of_ge st hh]; rfl
          have hm : st.nodes.getD ch default ∈ st.nodes := by
            have e : st.nodes.getD ch default = st.nodes[ch] := by simp [List.getD, hlt]
            rw [e]; exact List.getElem_mem hlt
          have hpad : sg.padding = 0 := f3 p ch hc hk sg (by rw [hl]; simp)
          obtain ⟨r1, r2, r3, r4⟩ := f1 _ hm sg (by rw [hl]; simp)
          rw [hcell, hl] at h2
          simp only [Bool.true_and, List.all_cons, List.all_nil, Bool.and_true, hpad, beq_self_eq_true,
            Bool.and_eq_false_imp, beq_iff_eq] at h2
          rw [hl]
          refine ⟨⟨by simp, ?_⟩, fun s hs => by simp only [List.mem_singleton] at hs; rw [hs]; exact hpad⟩
          have hne' : sg.start ≠ sg.stop := fun e0 => by simp [e0] at h2
          exact ⟨r1, by omega, r3, r4, hfn, trivial⟩
      · exact f2 p ch hc hr hk hne
  · cases htab : c.base.table with
    | false =>
      rw [blockPhaseX_noTable src true c.base htab] at hst
      exact (TO.blockPhase_pad_facts src st hst).2
    | true => exact (blockPhaseX_line_facts c.base src htab st hst).2.2.2

open GM.Props.ConvertXE2E in
/-- **`convertL` answers HTML for all 16 member sets and every source**, from the classification of the table records and
    the ascending escaped-pipe positions -/
theorem convertL_total_of_class_esc
    (hR : ∀ (c : GCfg) (src : Bytes) st, c.base.table = true → blockPhaseX c.base true src = .ok st → RecClassAt src st)
    (hE : ∀ (c : GCfg) (src : Bytes) st, blockPhaseX c.base true src = .ok st →
      (if c.base.table then escOfTree src (treeOf st.nodes st.nodes.length 0) else []).Pairwise (· < ·)) :
    ConvertLTotal := by
  intro c uc o src
  obtain ⟨st, hst, hL, hW, h0⟩ := blockPhaseX_good_but_esc_of c src (fun ht st hst => hR c src st ht hst)
  exact GM.Proof.ConvertXE2E.convertL_total_of_lines_facts c uc o st hst hL hW h0 (hE c src st hst)

end GM.Blocks.TX
