/-
  GM.Proof.CMFrag7Inl — the inline phase on a paragraph of "good" lines stated positionally: for a paragraph whose
  last line ends the source WITHOUT a final line feed (`parseBlock_quietE`), and for a line-feed-terminated one
  (`parseBlock_quietP`).
-/
import GM.Proof.CMFragQInl
import GM.Proof.CMFrag7Defs

namespace GM.Proof.CMFrag
open GM GM.Text GM.Inl

theorem linesAtE_of_paraAtE {src : Bytes} : ∀ (ls : List Bytes) (p : Nat), ParaAtE src p ls → LinesAtE src p ls
  | [], _, h => h.elim
  | [_], _, h => ⟨h.1.sub, h.1.le⟩
  | _ :: l' :: rest, _, h => ⟨h.1.sub, h.1.le, linesAtE_of_paraAtE (l' :: rest) _ h.2⟩

theorem linesAtE_of_paraAtLfE {src : Bytes} : ∀ (ls : List Bytes) (p : Nat), ParaAt src p ls → LinesAtE src p ls
  | [], _, _ => trivial
  | [l], p, h => ⟨sub_prefix src p l.length l 10 rfl h.1.sub, by have := h.1.le; omega⟩
  | _ :: l' :: rest, _, h => ⟨h.1.sub, h.1.le, linesAtE_of_paraAtLfE (l' :: rest) _ h.2⟩

theorem paraAtE_neE {src : Bytes} {p : Nat} {ls : List Bytes} (h : ParaAtE src p ls) : ls ≠ [] := by
  intro e; subst e; exact h

theorem parseBlock_quietE (env : GM.Inl.Env) (henv : env.escapedSpace = false) (src : Bytes) (p : Nat) (ls : List Bytes)
    (hg : ∀ l ∈ ls, GoodLine l) (h : ParaAtE src p ls) :
    GM.Inl.parseBlock env src (paraSegs p ls) = .ok (paraKids p ls) :=
  parseBlock_linesE env henv src p ls (paraAtE_neE h) hg (linesAtE_of_paraAtE ls p h)

theorem parseBlock_quietP (env : GM.Inl.Env) (henv : env.escapedSpace = false) (src : Bytes) (p : Nat) (ls : List Bytes)
    (hne : ls ≠ []) (hg : ∀ l ∈ ls, GoodLine l) (h : ParaAt src p ls) (hp : p ≤ src.length) :
    GM.Inl.parseBlock env src (paraSegs p ls) = .ok (paraKids p ls) := by
  exact parseBlock_linesE env henv src p ls hne hg (linesAtE_of_paraAtLfE ls p h)

example : GM.Inl.parseBlock {} [120, 10, 97, 98, 10, 99, 100] (paraSegs 2 [[97, 98], [99, 100]]) =
    .ok [.text { start := 2, stop := 4 } true false false, .text { start := 5, stop := 7 } false false false] := by
  have hg : ∀ l ∈ [[97, 98], [99, 100]], GoodLine l := by
    intro l hl
    simp only [List.mem_cons, List.not_mem_nil, or_false] at hl
    rcases hl with rfl | rfl
    · exact ⟨by simp, by intro c h; simp at h; subst h; decide, by decide, by intro c h; simp at h; subst h; decide,
        by intro c h; simp at h; subst h; decide⟩
    · exact ⟨by simp, by intro c h; simp at h; subst h; decide, by decide, by intro c h; simp at h; subst h; decide,
        by intro c h; simp at h; subst h; decide⟩
  exact parseBlock_linesE {} rfl _ 2 [[97, 98], [99, 100]] (by simp) hg ⟨by decide, by decide, by decide, by decide⟩

end GM.Proof.CMFrag
