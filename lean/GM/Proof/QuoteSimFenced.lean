/-
  GM.Proof.QuoteSimFenced — one-line-step simulation of the fenced code block parser (parser/fcode_block.go).

  * `fencedOpen_sim : OpenSim src .fenced`, `fencedClose_sim : CloseSim src .fenced` — for all related states.
  * `fencedContinue_sim'` — `ContinueSim src .fenced` under two named hypotheses; the unrestricted statement is
    not true:
      - `FenceOK sA` (`0 ≤ fdata.indent`): with a negative remembered indent IndentPositionPadding answers a positive
        padding (`0 - width`), so the reader gets a padding and leaves `R3`;
      - `hns` (the peeked line has a byte that is no space; implied by "a line is there and it ends with `\n`",
        `fencedContinue_sim_nl`): on a last line without `\n` that consists of exactly `fdata.indent` spaces the
        Go code calls `AdvanceAndSetPadding(-1, 0)`, which moves the reader one byte BACK; and without a line
        (`p = src.length`) the same call is made with an empty peeked line.
    The closing-fence branch needs neither (it may end exactly at the end of a source without final `\n`).
  * `FenceOK` is kept by `fencedOpen` (which stores `blockOffset ≥ 0`), `fencedContinue` (does not write the
    context: `fencedContinue_pcPres`) and `fencedClose`.
-/
import GM.Proof.QuoteSimLeaf
import GM.Proof.QuoteSimEdit

namespace GM.Blocks
open GM GM.Text GM.Spec GM.Proof.Reader

theorem fencedClose_sim (src : Bytes) : CloseSim src .fenced := by
  intro k ls p node sA sB h
  show S2 _ (fencedClose node sA) (fencedClose (node + 1) sB)
  unfold fencedClose
  refine S2.bind (getPc_s2 h) (fun a b sA1 sB1 hq => ?_)
  obtain ⟨ha, hb, hc, h1, h2⟩ := hq
  subst h1 h2
  have hf := hc.fence
  cases hfa : a.fence with
  | none =>
    exact S2.throwL
  | some f =>
    rw [hfa] at hf
    rw [hf]
    simp only [Option.map, shF]
    have e : (f.node + 1 == node + 1) = (f.node == node) := by
      simp
    rw [e]
    by_cases hc' : (f.node == node) = true
    · rw [if_pos hc']
      exact modPc_s2 h _ _ (fun a b hab => { hab with fence := rfl })
    · rw [if_neg hc']
      exact S2.pure h

theorem idx_ok_bounds {l : Bytes} {i : Int} {c : UInt8} (h : idx l i = .ok c) : 0 ≤ i ∧ i < l.length := by
  unfold idx getByte at h
  split at h
  · cases h
  · next h0 =>
    split at h
    · next b hb =>
      have := (List.getElem?_eq_some_iff.mp hb).1
      omega
    · cases h

theorem scanWhileEq_bounds_fc (line : Bytes) (c : UInt8) (i : Int) (h0 : 0 ≤ i) (h1 : i ≤ line.length) :
    i ≤ scanWhileEq line c i ∧ scanWhileEq line c i ≤ line.length := by
  unfold scanWhileEq
  rw [if_neg (by omega)]
  have := countLeading_le c (line.drop i.toNat)
  simp only [List.length_drop] at this
  omega

theorem nodeRel_fenced (src : Bytes) (iA iB : Option Segment) (hi : InfoRel src iA iB)
    (hne : ∀ i, iA = some i → i.start < i.stop) :
    NodeRel src false { kind := .fencedCodeBlock, info := iA } { kind := .fencedCodeBlock, info := iB } :=
  ⟨rfl, rfl, rfl, trivial, rfl, rfl, rfl, rfl, rfl, rfl, rfl, hi, .inl ⟨by show (-1 : Int) < 0; decide, rfl⟩,
    (fun _ l hl => by cases hl), hne, (fun h => absurd h (by show ¬ (0 : Int) ≤ -1; decide)), (fun _ _ => rfl)⟩

/-- the common tail of `fencedOpen`: allocate the node, remember the fence -/
theorem fencedOpen_tail {src k ls p} {sA sB : St} (h : SR src k ls p sA sB) (iA iB : Option Segment)
    (hi : InfoRel src iA iB) (hne : ∀ i, iA = some i → i.start < i.stop) (c : UInt8) (ind len : Int) :
    S2 (fun a b sA' sB' => OpenRel a b ∧ ∃ p', p ≤ p' ∧ SR src k ls p' sA' sB')
      ((do
        let node ← newNode { kind := .fencedCodeBlock, info := iA }
        modPc fun pc => { pc with fence := some { char := c, indent := ind, length := len, node := node } }
        pure (some node, stNoChildren) : M (Option Nat × PState)) sA)
      ((do
        let node ← newNode { kind := .fencedCodeBlock, info := iB }
        modPc fun pc => { pc with fence := some { char := c, indent := ind, length := len, node := node } }
        pure (some node, stNoChildren) : M (Option Nat × PState)) sB) := by
  refine S2.bind (newNode_s2 h _ _ (nodeRel_fenced src iA iB hi hne)) (fun n m sA1 sB1 hq => ?_)
  obtain ⟨_, hm, hn0, h1⟩ := hq
  subst hm
  refine S2.bind (modPc_s2 h1 _ _ (fun a b hab => ?_)) (fun _ _ sA2 sB2 h2 => ?_)
  · exact { hab with fence := by simp [shF] }
  · exact S2.pure ⟨⟨rfl, .inr ⟨n, hn0, rfl, rfl⟩⟩, p, Nat.le_refl _, h2⟩

theorem fencedOpen_sim (src : Bytes) : OpenSim src .fenced := by
  intro k ls p parent sA sB h
  show S2 _ (fencedOpen parent sA) (fencedOpen (parent + 1) sB)
  unfold fencedOpen
  refine S2.bind (peekLine_s2 h) (fun a b sA1 sB1 hq => ?_)
  obtain ⟨ha, hb, h1⟩ := hq
  subst ha hb
  simp only
  refine S2.bind (getPc_s2 h1) (fun a b sA2 sB2 hq => ?_)
  obtain ⟨ha, hb, hc, e1, e2⟩ := hq
  subst e1 e2
  rw [hc.blockOffset]
  generalize a.blockOffset = pos
  by_cases hp0 : pos < 0
  · rw [if_pos hp0, if_pos hp0]
    exact S2.pure ⟨⟨rfl, .inl ⟨rfl, rfl⟩⟩, p, Nat.le_refl _, h1⟩
  rw [if_neg hp0, if_neg hp0]
  refine S2.bind_liftE (fun c' hidx => ?_)
  have hret : ∀ (sA sB : St), SR src k ls p sA sB →
      S2 (fun a b sA' sB' => OpenRel a b ∧ ∃ p', p ≤ p' ∧ SR src k ls p' sA' sB')
        ((pure (none, stNoChildren) : M (Option Nat × PState)) sA)
        ((pure (none, stNoChildren) : M (Option Nat × PState)) sB) :=
    fun sA sB hh => S2.pure ⟨⟨rfl, .inl ⟨rfl, rfl⟩⟩, p, Nat.le_refl _, hh⟩
  have hi := h.r.inl
  obtain ⟨hpos0, hposlt⟩ := idx_ok_bounds hidx
  have hlen := viewA_length (src := src) ls p
  have hplt : p < lineEnd src ls := by omega
  generalize (viewA src ls p).getD [] = line at *
  obtain ⟨hi1, hi2⟩ := scanWhileEq_bounds_fc line c' pos hpos0 (by omega)
  generalize scanWhileEq line c' pos = i at *
  by_cases hc1 : (c' != 96 && c' != 126) = true
  · rw [if_pos hc1, if_pos hc1]; exact hret _ _ h1
  rw [if_neg hc1, if_neg hc1]
  by_cases hc2 : i - pos < 3
  · rw [if_pos hc2, if_pos hc2]; exact hret _ _ h1
  rw [if_neg hc2, if_neg hc2]
  by_cases hc3 : i < (line.length : Int) - 1
  rotate_left
  · rw [if_neg hc3, if_neg hc3]
    exact fencedOpen_tail h1 none none trivial (fun i hi => by cases hi) _ _ _
  rw [if_pos hc3, if_pos hc3]
  refine S2.bind_liftE (fun rest hrest => ?_)
  obtain ⟨_, _, hrest⟩ := sliceFrom_ok_eq hrest
  have hrl : (rest.length : Int) = line.length - i := by
    rw [hrest, List.length_drop]; omega
  have hleft := trimLeftSpaceLength_le rest
  have hright := trimRightSpaceLength_le rest
  generalize trimLeftSpaceLength rest = left at *
  generalize trimRightSpaceLength rest = right at *
  by_cases hc4 : (left : Int) < (rest.length : Int) - right
  rotate_left
  · rw [if_neg hc4, if_neg hc4]
    exact fencedOpen_tail h1 none none trivial (fun i hi => by cases hi) _ _ _
  rw [if_pos hc4, if_pos hc4]
  refine S2.bind_liftE (fun value _ => ?_)
  by_cases hc5 : (c' == 96 && List.contains value 96) = true
  · rw [if_pos hc5, if_pos hc5]; exact hret _ _ h1
  rw [if_neg hc5, if_neg hc5]
  have hneA : ((segA src ls p).start - (segA src ls p).padding + i + (left : Int) !=
      (segA src ls p).stop - (right : Int)) = true := by
    simp only [segA, bne_iff_ne, ne_eq]; omega
  have hneB : ((shK k (segA src ls p)).start - (shK k (segA src ls p)).padding + i + (left : Int) !=
      (shK k (segA src ls p)).stop - (right : Int)) = true := by
    simp only [segA, shK, bne_iff_ne, ne_eq]; omega
  rw [if_pos hneA, if_pos hneB]
  have hge := hi.ge
  refine fencedOpen_tail h1 _ _ ?_ (fun j hj => ?_) _ _ _
  rotate_left
  · cases hj
    simp only [segA]; omega
  show SegRel src _ _
  refine ⟨k, ls, hi.line, ?_, ?_, ?_, ?_⟩
  · simp only [segA]; omega
  · simp only [segA]; omega
  · simp only [segA]; omega
  · simp only [shK, segA, Segment.mk.injEq, and_true]; omega

/-- the continuing branch of `fencedContinue` (fcode_block.go:90-107) -/
def fencedRest (node : Nat) (line : Bytes) (segment : Segment) (fdata : FenceData) (lo : Int) : M PState := do
  let (pos, padding) := indentPositionPadding line lo segment.padding fdata.indent
  let (pos, padding) :=
    if pos < 0 then
      let p := firstNonSpacePos line - segment.padding
      ((if p < 0 then 0 else p), (0 : Int))
    else (pos, padding)
  let seg : Segment := { start := segment.start + pos, stop := segment.stop, padding := padding }
  let seg ← if padding != 0 then preserveLeadingTab seg fdata.indent else pure seg
  let seg := { seg with forceNewline := true }
  appendLine node seg
  advanceAndSetPadding (segment.stop - segment.start - pos - 1) padding
  return stContinueNoChildren

/-- the position and the padding the continuing branch works with (fcode_block.go:90-98) -/
def fencedPos (line : Bytes) (lo pad indent : Int) : Int × Int :=
  let r := indentPositionPadding line lo pad indent
  if r.1 < 0 then
    let p := firstNonSpacePos line - pad
    ((if p < 0 then 0 else p), (0 : Int))
  else r

/-- fcode_block.go:99-107 -/
def fencedRest2 (node : Nat) (segment : Segment) (fdata : FenceData) (x : Int × Int) : M PState := do
  let seg : Segment := { start := segment.start + x.1, stop := segment.stop, padding := x.2 }
  let seg ← if x.2 != 0 then preserveLeadingTab seg fdata.indent else pure seg
  let seg := { seg with forceNewline := true }
  appendLine node seg
  advanceAndSetPadding (segment.stop - segment.start - x.1 - 1) x.2
  return stContinueNoChildren

theorem fencedRest_eq (node : Nat) (line : Bytes) (segment : Segment) (fdata : FenceData) (lo : Int) :
    fencedRest node line segment fdata lo =
      fencedRest2 node segment fdata (fencedPos line lo segment.padding fdata.indent) := by
  rfl

/-- `fencedContinue` with its join point named -/
theorem fencedContinue_eq_qs (node : Nat) : fencedContinue node = (do
    let (line, segment) ← peekLine
    let line := line.getD []
    let len : Int := line.length
    let fdata ← match (← getPc).fence with
      | some f => pure f
      | none => throw .assert
    let lo ← lineOffset
    let (w, pos) := indentWidthI line lo
    if w < 4 then
      let i := scanWhileEq line fdata.char pos
      let length := i - pos
      if length ≥ fdata.length then
        if isBlank (← liftE (sliceFrom line i)) then
          let last ← liftE (idx line (len - 1))
          let newline : Int := if last != 10 then 0 else 1
          advance (segment.stop - segment.start - newline + segment.padding)
          return stClose
        else fencedRest node line segment fdata lo
      else fencedRest node line segment fdata lo
    else fencedRest node line segment fdata lo) := by
  rfl

theorem firstNonSpacePos_bounds (bs : Bytes) : -1 ≤ firstNonSpacePos bs ∧ (0 ≤ firstNonSpacePos bs → firstNonSpacePos bs < bs.length) := by
  unfold firstNonSpacePos
  split
  · next i hi =>
    have := firstNonSpacePosition_bounds bs 0 i hi
    omega
  · omega

/-- on a tab-free line with a byte that is no space the loop of IndentPositionPadding stops inside the line -/
theorem ippLoop_tf_lt (cur width : Int) (bs : Bytes) (i w : Int) (h : ∀ c ∈ bs, c ≠ 9) (hns : ∃ c ∈ bs, c ≠ 32) :
    (ippLoop cur width bs i 0 w).1 < i + bs.length := by
  obtain ⟨n, e, hn, hpass, _⟩ := ippLoop_passed cur width bs i 0 w
  obtain ⟨c, hc, hc32⟩ := hns
  obtain ⟨k, hk, rfl⟩ := List.getElem_of_mem hc
  by_cases hkn : k < n
  · obtain ⟨x, hx, hq⟩ := hpass k (by omega) hkn
    rw [List.getElem?_eq_getElem hk] at hx; cases hx
    exact (hq.elim hc32 (h _ hc)).elim
  · omega

/-- the position and padding `fencedContinue` continues with: inside the line, no padding -/
theorem fencedPos_tf (line : Bytes) (htf : ∀ c ∈ line, c ≠ 9) (hns : ∃ c ∈ line, c ≠ 32) (cur width : Int)
    (hw : 0 ≤ width) :
    (fencedPos line cur 0 width).2 = 0 ∧ 0 ≤ (fencedPos line cur 0 width).1 ∧
      (fencedPos line cur 0 width).1 < line.length := by
  have hlen : 0 < line.length := by
    obtain ⟨c, hc, _⟩ := hns
    exact List.length_pos_of_mem hc
  have hf := firstNonSpacePos_bounds line
  unfold fencedPos
  simp only
  split
  · simp only
    split <;> refine ⟨?_, ?_, ?_⟩ <;> first | trivial | omega
  · next hge =>
    revert hge
    unfold indentPositionPadding
    split
    · intro _; simp only; refine ⟨?_, ?_, ?_⟩ <;> first | trivial | omega
    · have h1 := ippLoop_tf_le cur width line 0 0 htf hw
      have h2 := ippLoop_tf_lt cur width line 0 0 htf hns
      simp only
      split
      · intro _; simp only; refine ⟨?_, ?_, ?_⟩ <;> first | trivial | omega
      · intro hge; simp only at hge; omega

theorem fencedPos_col (line : Bytes) (htf : ∀ c ∈ line, c ≠ 9) (cur cur' pad width : Int) :
    fencedPos line cur pad width = fencedPos line cur' pad width := by
  unfold fencedPos
  rw [indentPositionPadding_tf line htf cur cur']

/-- the continuing branch: `hind` — the fence is not indented negatively (it is the `blockOffset` of the opening
    line); `hns` — the rest of the line has a byte that is no space (e.g. its `\n`) -/
theorem fencedRest_s2 {src k ls p} {sA sB : St} (h : SR src k ls p sA sB) (node : Nat) (f : FenceData)
    (loA loB : Int) (hind : 0 ≤ f.indent) (hns : ∃ c ∈ (viewA src ls p).getD [], c ≠ 32) :
    S2 (fun a b sA' sB' => b = a ∧ ∃ p', p ≤ p' ∧ SR src k ls p' sA' sB')
      (fencedRest node ((viewA src ls p).getD []) (segA src ls p) f loA sA)
      (fencedRest (node + 1) ((viewA src ls p).getD []) (shK k (segA src ls p)) (shF f) loB sB) := by
  have hi := h.r.inl
  have htf := viewA_tf h.r.tf ls p
  have hlen := viewA_length (src := src) ls p
  have hplt : p < lineEnd src ls := lt_of_viewA_ne fun e => by obtain ⟨c, hc, _⟩ := hns; simp [e] at hc
  rw [fencedRest_eq, fencedRest_eq]
  have e0 : (shK k (segA src ls p)).padding = 0 := rfl
  have e1 : (segA src ls p).padding = 0 := rfl
  have e2 : (shF f).indent = f.indent := rfl
  rw [e0, e1, e2, fencedPos_col _ htf loB loA]
  obtain ⟨x2, x0, x1⟩ := fencedPos_tf _ htf hns loA f.indent hind
  generalize fencedPos ((viewA src ls p).getD []) loA 0 f.indent = x at *
  obtain ⟨pos, pad⟩ := x
  simp only at x2 x0 x1
  subst x2
  unfold fencedRest2
  simp only [shK, segA]
  rw [if_neg (by decide), if_neg (by decide)]
  simp only [pure_bind]
  have hge := hi.ge
  have hseg : SegRel src { start := (p : Int) + pos, stop := (lineEnd src ls : Int), padding := 0, forceNewline := true }
      { start := (p : Int) + 2 * ((k : Int) + 1) + pos, stop := (lineEnd src ls : Int) + 2 * ((k : Int) + 1),
        padding := 0, forceNewline := true } := by
    refine ⟨k, ls, hi.line, ?_, ?_, ?_, ?_⟩
    · simp only; omega
    · simp only; omega
    · simp only; omega
    · simp only [shK, Segment.mk.injEq, and_true]; omega
  refine S2.bind (appendLine_s2 h node hseg (.inl (by simp only; omega))) (fun _ _ sA1 sB1 h1 => ?_)
  refine S2.bind (advanceAndSetPadding_lt_s2 h1 (by omega) rfl (by omega) (Int.le_refl _) (by omega)) (fun _ _ sA2 sB2 h2 => ?_)
  exact S2.pure ⟨rfl, _, Nat.le_add_right _ _, h2⟩

theorem idx_last_viewA {src : Bytes} {ls p : Nat} {last : UInt8}
    (h : idx ((viewA src ls p).getD []) ((((viewA src ls p).getD []).length : Int) - 1) = .ok last) :
    p < lineEnd src ls ∧ src[lineEnd src ls - 1]? = some last := by
  obtain ⟨h0, _⟩ := idx_ok_bounds h
  have hlen := viewA_length (src := src) ls p
  have hplt : p < lineEnd src ls := by omega
  refine ⟨hplt, ?_⟩
  unfold idx getByte at h
  rw [if_neg (by omega)] at h
  split at h
  · next b hb =>
    cases h
    have hv : (viewA src ls p).getD [] = sub src p (lineEnd src ls) := by simp [viewA, hplt]
    rw [hv] at hb hlen
    rw [sub_getElem?, if_pos (by omega)] at hb
    rw [← hb]
    congr 1
    omega
  · cases h

theorem S2.throwBindL {α α' β} {Q : α' → β → St → St → Prop} {e : Panic} {f : α → M α'} {sA : St}
    {y : Except Panic (β × St)} : S2 Q (((throw e : M α) >>= f) sA) y := by
  show S2 Q (Except.error e) y
  exact S2.err

theorem peekLine_pc {s s' : St} {x : Option Bytes × Segment} (h : peekLine s = .ok (x, s')) : s'.pc = s.pc := by
  unfold GM.Blocks.peekLine at h
  cases hr : s.r.peekLine with
  | error e => rw [hr] at h; cases h
  | ok v =>
    rw [hr] at h
    cases h
    rfl

theorem lineOffset_pc {s s' : St} {x : Int} (h : lineOffset s = .ok (x, s')) : s'.pc = s.pc := by
  unfold GM.Blocks.lineOffset at h
  cases hr : s.r.lineOffsetOp with
  | error e => rw [hr] at h; cases h
  | ok v =>
    rw [hr] at h
    cases h
    rfl

/-- the remembered fence is not indented negatively -/
def FenceOK (s : St) : Prop := ∀ f, s.pc.fence = some f → 0 ≤ f.indent

/-- `fencedContinue` is simulated, under two named hypotheses:
    `hind : FenceOK sA` — the remembered fence is not indented negatively (`fdata.indent` is the `blockOffset` of the opening
    line, which `fencedOpen` only stores when it is `≥ 0`; with a negative value IndentPositionPadding would ask for
    a positive padding);
    `hns` — the rest of the current line has a byte that is no space (for instance its `\n`): on a last line
    without `\n` that consists of exactly `fdata.indent` spaces the Go code calls `AdvanceAndSetPadding(-1, 0)`. -/
theorem fencedContinue_sim' (src : Bytes) : ∀ k ls p node sA sB, SR src k ls p sA sB →
    FenceOK sA →
    (∃ c ∈ (viewA src ls p).getD [], c ≠ 32) →
    S2 (fun a b sA' sB' => b = a ∧ ∃ p', p ≤ p' ∧ SR src k ls p' sA' sB')
      (bpContinue .fenced node sA) (bpContinue .fenced (node + 1) sB) := by
  intro k ls p node sA sB h hind hns
  show S2 _ (fencedContinue node sA) (fencedContinue (node + 1) sB)
  rw [fencedContinue_eq_qs, fencedContinue_eq_qs]
  refine S2.bind ((peekLine_s2 h).andL (F := fun _ sA' => sA'.pc = sA.pc) (fun a sA' e => peekLine_pc e))
    (fun a b sA1 sB1 hq => ?_)
  obtain ⟨⟨ha, hb, h1⟩, hpc1⟩ := hq
  subst ha hb
  simp only
  refine S2.bind (getPc_s2 h1) (fun a b sA2 sB2 hq => ?_)
  obtain ⟨ha, hb, hc, e1, e2⟩ := hq
  subst e1 e2
  have hf := hc.fence
  cases hfa : a.fence with
  | none =>
    simp only
    exact S2.throwBindL
  | some f =>
    rw [hfa] at hf
    rw [hf]
    simp only [Option.map, pure_bind]
    have hind' : 0 ≤ f.indent := hind f (by rw [← hpc1, ← ha]; exact hfa)
    refine S2.bind (lineOffset_s2 h1) (fun loA loB sA3 sB3 hq => ?_)
    obtain ⟨_, h3⟩ := hq
    have htf := viewA_tf h.r.tf ls p
    have ec : (shF f).char = f.char := rfl
    have el : (shF f).length = f.length := rfl
    rw [ec, el, indentWidthI_tf _ htf loB loA]
    have hrest := fun (sA' sB' : St) (hh : SR src k ls p sA' sB') =>
      fencedRest_s2 hh node f loA loB hind' hns
    generalize indentWidthI ((viewA src ls p).getD []) loA = wp
    generalize scanWhileEq ((viewA src ls p).getD []) f.char wp.snd = i
    by_cases hc1 : wp.fst < 4
    rotate_left
    · rw [if_neg hc1, if_neg hc1]; exact hrest _ _ h3
    rw [if_pos hc1, if_pos hc1]
    by_cases hc2 : i - wp.snd ≥ f.length
    rotate_left
    · rw [if_neg hc2, if_neg hc2]; exact hrest _ _ h3
    rw [if_pos hc2, if_pos hc2]
    refine S2.bind_liftE (fun r _ => ?_)
    by_cases hc3 : isBlank r = true
    rotate_left
    · rw [if_neg hc3, if_neg hc3]; exact hrest _ _ h3
    rw [if_pos hc3, if_pos hc3]
    refine S2.bind_liftE (fun last hlast => ?_)
    obtain ⟨hplt, hlb⟩ := idx_last_viewA hlast
    have hi := h.r.inl
    have hge := hi.ge
    have hle := lineEnd_le src ls
    have hnl : ((if (last != 10) = true then 0 else 1 : Int) = 0 ∧ last ≠ 10) ∨
        ((if (last != 10) = true then 0 else 1 : Int) = 1 ∧ last = 10) := by
      by_cases h10 : last = 10
      · right; subst h10; exact ⟨rfl, rfl⟩
      · left; rw [if_pos (by simpa using h10)]; exact ⟨rfl, h10⟩
    generalize (if (last != 10) = true then 0 else 1 : Int) = nl at *
    refine S2.bind (advance_s2 h3 (n := (lineEnd src ls : Int) - p - nl + 0) (by simp only [shK, segA]; omega)
      (by omega) ?_) (fun _ _ sA6 sB6 h6 => ?_)
    · refine ⟨hi.line, by omega, by omega, fun e => ?_⟩
      rcases hnl with ⟨e0, hne⟩ | ⟨e1, _⟩
      · rw [hlb]
        refine ⟨?_, by simpa using hne⟩
        rcases Nat.lt_or_ge (lineEnd src ls) src.length with hlt | hge'
        · have := line_ends_nl hi.line.lt hlt
          rw [hlb] at this
          exact absurd (Option.some.inj this) hne
        · omega
      · exfalso; omega
    · exact S2.pure ⟨rfl, _, Nat.le_add_right _ _, h6⟩

/-- a line that ends with `\n` has a byte that is no space behind every position in it -/
theorem hns_of_nl {src : Bytes} {k ls p : Nat} (hi : InL src k ls p) (hline : p < src.length)
    (hnl : src[lineEnd src ls - 1]? = some 10) : ∃ c ∈ (viewA src ls p).getD [], c ≠ 32 := by
  have hplt := hi.lt_iff.mp hline
  have hle := lineEnd_le src ls
  refine ⟨10, ?_, by decide⟩
  have hv : (viewA src ls p).getD [] = sub src p (lineEnd src ls) := by simp [viewA, hplt]
  rw [hv]
  have : (sub src p (lineEnd src ls))[lineEnd src ls - 1 - p]? = some 10 := by
    rw [sub_getElem?, if_pos (by omega), ← hnl]
    congr 1
    omega
  exact List.mem_of_getElem? this

/-- `fencedContinue_sim'` with the hypotheses in the form the driver has them: a line is there (`hline`) and it
    ends with `\n` (`hnl`) -/
theorem fencedContinue_sim_nl (src : Bytes) : ∀ k ls p node sA sB, SR src k ls p sA sB →
    FenceOK sA →
    p < src.length → src[lineEnd src ls - 1]? = some 10 →
    S2 (fun a b sA' sB' => b = a ∧ ∃ p', p ≤ p' ∧ SR src k ls p' sA' sB')
      (bpContinue .fenced node sA) (bpContinue .fenced (node + 1) sB) :=
  fun k ls p node sA sB h hind hline hnl =>
    fencedContinue_sim' src k ls p node sA sB h hind (hns_of_nl h.r.inl hline hnl)

/-! ### the parse context under the fenced parser: `FenceOK` is an invariant -/

/-- `m` does not write the parse context -/
def PcPres {α} (m : M α) : Prop := ∀ s a s', m s = .ok (a, s') → s'.pc = s.pc

theorem pcPres_bind {α β} {m : M α} {f : α → M β} (hm : PcPres m) (hf : ∀ a, PcPres (f a)) : PcPres (m >>= f) := by
  intro s b s' e
  change StateT.bind m f s = _ at e
  unfold StateT.bind at e
  cases hA : m s with
  | error e1 => rw [hA] at e; cases e
  | ok x =>
    obtain ⟨a, s1⟩ := x
    rw [hA] at e
    exact (hf a s1 b s' e).trans (hm s a s1 hA)

theorem pcPres_pure {α} (a : α) : PcPres (Pure.pure a : M α) := by
  intro s b s' e; cases e; rfl

theorem pcPres_throwBind {α β} (e : Panic) (f : α → M β) : PcPres ((throw e : M α) >>= f) := by
  intro s b s' h
  change Except.error e = _ at h
  cases h

theorem pcPres_ite {α} {c : Prop} [Decidable c] {x y : M α} (hx : PcPres x) (hy : PcPres y) :
    PcPres (if c then x else y) := by
  split
  · exact hx
  · exact hy

theorem pcPres_liftE {α} (e : Except Panic α) : PcPres (liftE e) := by
  intro s a s' h
  unfold GM.Blocks.liftE at h
  cases e with
  | error x => cases h
  | ok v => cases h; rfl

theorem pcPres_peekLine : PcPres peekLine := fun _ _ _ h => peekLine_pc h
theorem pcPres_lineOffset : PcPres lineOffset := fun _ _ _ h => lineOffset_pc h
theorem pcPres_getPc : PcPres getPc := by intro s a s' h; cases h; rfl
theorem pcPres_getNode (id : Nat) : PcPres (getNode id) := by intro s a s' h; cases h; rfl
theorem pcPres_position : PcPres position := by intro s a s' h; cases h; rfl
theorem pcPres_setPosition (l : Int) (p : Segment) : PcPres (setPosition l p) := by intro s a s' h; cases h; rfl
theorem pcPres_modNode (id : Nat) (f : Node → Node) : PcPres (modNode id f) := by intro s a s' h; cases h; rfl
theorem pcPres_newNode (n : Node) : PcPres (newNode n) := by intro s a s' h; cases h; rfl

theorem pcPres_advance (n : Int) : PcPres (advance n) := by
  intro s a s' h
  unfold GM.Blocks.advance at h
  cases hr : s.r.advance n with
  | error e => rw [hr] at h; cases h
  | ok v => rw [hr] at h; cases h; rfl

theorem pcPres_advanceAndSetPadding (n p : Int) : PcPres (advanceAndSetPadding n p) := by
  intro s a s' h
  unfold GM.Blocks.advanceAndSetPadding at h
  cases hr : s.r.advanceAndSetPadding n p with
  | error e => rw [hr] at h; cases h
  | ok v => rw [hr] at h; cases h; rfl

theorem pcPres_preserveLeadingTab (seg : Segment) (indent : Int) : PcPres (preserveLeadingTab seg indent) := by
  unfold GM.Blocks.preserveLeadingTab
  refine pcPres_bind pcPres_lineOffset (fun _ => ?_)
  refine pcPres_bind pcPres_position (fun x => ?_)
  obtain ⟨sl, ss⟩ := x
  simp only
  refine pcPres_bind (pcPres_setPosition _ _) (fun _ => ?_)
  refine pcPres_bind pcPres_lineOffset (fun _ => ?_)
  refine pcPres_bind (pcPres_setPosition _ _) (fun _ => ?_)
  exact pcPres_pure _

theorem pcPres_fencedRest2 (node : Nat) (segment : Segment) (f : FenceData) (x : Int × Int) :
    PcPres (fencedRest2 node segment f x) := by
  unfold GM.Blocks.fencedRest2
  have htail : ∀ seg : Segment, PcPres (do
      appendLine node { start := seg.start, stop := seg.stop, padding := seg.padding, forceNewline := true }
      advanceAndSetPadding (segment.stop - segment.start - x.fst - 1) x.snd
      Pure.pure stContinueNoChildren : M PState) := by
    intro seg
    refine pcPres_bind (pcPres_modNode _ _) (fun _ => ?_)
    refine pcPres_bind (pcPres_advanceAndSetPadding _ _) (fun _ => ?_)
    exact pcPres_pure _
  simp only
  split
  · exact pcPres_bind (pcPres_preserveLeadingTab _ _) (fun _ => htail _)
  · exact pcPres_bind (pcPres_pure _) (fun _ => htail _)

theorem fencedContinue_pcPres (node : Nat) : PcPres (fencedContinue node) := by
  rw [fencedContinue_eq_qs]
  refine pcPres_bind pcPres_peekLine (fun x => ?_)
  obtain ⟨line, segment⟩ := x
  simp only
  refine pcPres_bind pcPres_getPc (fun pc => ?_)
  have hrest : ∀ f lo, PcPres (fencedRest node (line.getD []) segment f lo) := by
    intro f lo; rw [fencedRest_eq]; exact pcPres_fencedRest2 _ _ _ _
  cases pc.fence with
  | none => exact pcPres_throwBind _ _
  | some f =>
    simp only [pure_bind]
    refine pcPres_bind pcPres_lineOffset (fun lo => ?_)
    refine pcPres_ite (pcPres_ite ?_ (hrest _ _)) (hrest _ _)
    refine pcPres_bind (pcPres_liftE _) (fun r => ?_)
    refine pcPres_ite ?_ (hrest _ _)
    refine pcPres_bind (pcPres_liftE _) (fun r => ?_)
    refine pcPres_bind (pcPres_advance _) (fun _ => ?_)
    exact pcPres_pure _

/-! ### the invariant `hind` of `fencedContinue_sim'` asks for -/

/-- `fencedOpen` keeps (in fact establishes) `FenceOK` -/
theorem fencedOpen_fenceOK {parent : Nat} {s s' : St} {r : Option Nat × PState}
    (h : fencedOpen parent s = .ok (r, s')) (h0 : FenceOK s) : FenceOK s' :=
  bpOpen_fence .fenced parent s s' r h h0

theorem fencedClose_fenceOK {node : Nat} {s s' : St} {u : Unit}
    (h : fencedClose node s = .ok (u, s')) (h0 : FenceOK s) : FenceOK s' :=
  bpClose_fence .fenced node s s' u h h0

theorem fencedContinue_fenceOK {node : Nat} {s s' : St} {r : PState}
    (h : fencedContinue node s = .ok (r, s')) (h0 : FenceOK s) : FenceOK s' :=
  fun f hf => h0 f (by rw [← fencedContinue_pcPres node s r s' h]; exact hf)

end GM.Blocks
