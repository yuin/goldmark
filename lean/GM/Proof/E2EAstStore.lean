/-
  GM.Proof.E2EAstStore — From the block store and the inline phase to `AOK` of the annotated tree, i.e. to C05's `wfAst` of the dump of `parseAst`, under named hypotheses
  on store and inline phase; before it the upper bound of C05(c): the inline segments of a block end at or before the end of its last line (`hiOf`).
-/
import GM.Proof.InlinesLink
import GM.Proof.E2EAst

section E2EInlineHi
/-
  The UPPER bound of C05(c)'s "inline segments lie inside the block's lines": the segments the
  inline phase records for a block end at or before the end of the block's LAST line (`hiOf`); a weakening of
  GM.Proof.InlinesLink.parseBlock_segments_lo.
-/

namespace GM.E2E
open GM GM.Text GM.Spec GM.Inl GM.Proof.Reader GM.Proof.InlinesReader GM.Proof.Inlines GM.Proof.InlinesTotal
open GM.Proof.InlinesDelims GM.Proof.BlockReaderFuel GM.Proof.InlinesLink

theorem hiOf_lastStop (segs : List Segment) : hiOf segs = BCur.lastStop segs := by
  unfold hiOf BCur.lastStop
  cases segs.getLast? <;> rfl

theorem parseBlock_segments_hi {src : Bytes} {segs : List Segment} (W : WFSegs src segs) (Z : ∀ s ∈ segs, s.padding = 0)
    (env : Env) {kids : List Inl.Node} (h : parseBlock env src segs = .ok kids) : chain 0 (hiOf segs) (segsOfL kids) := by
  have F := segFacts W
  rw [hiOf_lastStop]
  exact chain_mono (F.rng 0 (Int.le_refl _) F.kpos).1 (Int.le_refl _) (parseBlock_segments_lo W Z env h)

end GM.E2E
end E2EInlineHi

section E2EAstStore
/-
  From the block store and the inline phase to `AOK` of the annotated tree (GM.Proof.E2EAst), i.e. to
  C05's `wfAst` of the dump of `parseAst`.

  PROVED of every store the block phase returns (frame invariants, GM.Proof.E2EKeeps): heading levels 1..6 (`HeadOK`), node 0
  is the Document (`RootDoc`). NAMED HYPOTHESES on the store (`StoreHyps`): lines in range (`GM.Blocks.NodesOK` shape),
  info / closure in range, lines increasing (`GM.Blocks.OrdFrom` shape), Document and List nodes have no lines, ListItem
  exactly below List. NAMED HYPOTHESES on the inline phase: `InlineSegsUnpadded` (GM.Proof.E2EValue) and `InlineSegsAfterLineStart`,
  both discharged in GM.Proof.E2EStoreDone.
-/

namespace GM.E2E
open GM GM.Text GM.Convert GM.Spec GM.Inl GM.Proof.Inlines GM.Proof.InlinesTotal GM.Proof.InlinesReader

/-- the segments the inline phase records for a block start at or behind the start of the block's FIRST line.
    A theorem: `inlineSegsAfterLineStart` (GM.Proof.E2EStoreDone, from `GM.Proof.InlinesLink.parseBlock_segments_lo`); a
    hypothesis here. The upper bound — the end of the last line — is `parseBlock_segments_hi`. -/
def InlineSegsAfterLineStart : Prop :=
  ∀ (env : Env) (src : Bytes) (lines : List Segment) (kids : List Inl.Node), WF0 src lines →
    parseBlock env src lines = .ok kids → ∀ s ∈ segsOfL kids, loOf lines ≤ s.start

theorem chain_raise {lo0 lo hi : Int} : ∀ {l : List Segment}, chain lo0 hi l → (∀ s ∈ l, lo ≤ s.start) → l ≠ [] →
    chain lo hi l
  | [], _, _, hne => absurd rfl hne
  | s :: rest, h, hs, _ => ⟨hs s (by simp), h.2.1, h.2.2⟩

theorem kidsP_nil (src : Bytes) (n : GM.Blocks.Node) : KidsP src n [] :=
  ⟨rfl, fun s h => by simp [segsOfL] at h, fun h => absurd (by simp [segsOfL]) h, fun h => absurd rfl h⟩

theorem inlinePhase_kidsP (hI1 : InlineSegsUnpadded) (hI2 : InlineSegsAfterLineStart) {env : Env} {src : Bytes}
    {n : GM.Blocks.Node} {kids : List Inl.Node} (h : inlinePhase true env src n = .ok kids) : KidsP src n kids := by
  unfold inlinePhase at h
  split at h
  · cases h; exact kidsP_nil src n
  · split at h
    · cases h; exact kidsP_nil src n
    · rename_i hne
      split at h
      · cases h
      · rename_i hg
        have hw : GM.LinkRef.wf0B src n.lines = true := by simpa using hg
        have hwf := GM.Proof.LinkRefTotal.wf0B_sound hw
        have hk := liftErr_ok h
        have hc := GM.Proof.InlinesLink.parseBlock_segments hwf.1 hwf.2 env hk
        refine ⟨GM.Proof.Inlines.parseBlock_wf hk, ?_, fun hkn => ?_, fun _ => ?_⟩
        · intro s hs
          have := chain_mem hc s hs
          exact ⟨this.1, this.2.1, this.2.2, hI1 env src n.lines kids hwf hk s hs⟩
        · exact chain_raise (parseBlock_segments_hi hwf.1 hwf.2 env hk) (hI2 env src n.lines kids hwf hk) hkn
        · intro e
          rw [e] at hne
          simp at hne

mutual
theorem annot_AOK (hI1 : InlineSegsUnpadded) (hI2 : InlineSegsAfterLineStart) (env : Env) (src : Bytes) :
    ∀ (t : GM.Blocks.Tree) (pk : Option GM.Blocks.Kind) (a : ATree),
    treeRel (BlockP src) (fun p c => ListRel (some p.kind) c.kind) t → ListRel pk (troot t).kind →
    annot true env src t = .ok a → AOK src pk a
  | .node n cs, pk, a, ht, hr, h => by
    simp only [treeRel] at ht
    unfold annot at h
    obtain ⟨bs, hbs, h⟩ := Proof.Reader.bind_ok h
    obtain ⟨kids, hkids, h⟩ := Proof.Reader.bind_ok h
    cases h
    simp only [AOK]
    exact ⟨ht.1, inlinePhase_kidsP hI1 hI2 hkids, hr, annots_AOK hI1 hI2 env src cs n bs ht.2 hbs⟩
theorem annots_AOK (hI1 : InlineSegsUnpadded) (hI2 : InlineSegsAfterLineStart) (env : Env) (src : Bytes) :
    ∀ (ts : List GM.Blocks.Tree) (p : GM.Blocks.Node) (as : List ATree),
    treesRel (BlockP src) (fun p c => ListRel (some p.kind) c.kind) p ts →
    annots true env src ts = .ok as → AOKs src p.kind as
  | [], _, as, _, h => by unfold annots at h; cases h; simp [AOKs]
  | t :: rest, p, as, ht, h => by
    simp only [treesRel] at ht
    unfold annots at h
    obtain ⟨x, hx, h⟩ := Proof.Reader.bind_ok h
    obtain ⟨xs, hxs, h⟩ := Proof.Reader.bind_ok h
    cases h
    simp only [AOKs]
    exact ⟨annot_AOK hI1 hI2 env src t (some p.kind) x ht.2.1 ht.1 hx, annots_AOK hI1 hI2 env src rest p xs ht.2.2 hxs⟩
end

/-- the NAMED HYPOTHESES on the store the block phase returns -/
structure StoreHyps (src : Bytes) (st : GM.Blocks.St) : Prop where
  /-- `LinesInRange`: C05(c) range clause (shape of `GM.Blocks.NodesOK` / `GM.Props.Blocks.lines_in_range`) -/
  lines : ∀ n ∈ st.nodes, ∀ t ∈ n.lines, 0 ≤ t.start ∧ t.start ≤ t.stop ∧ t.stop ≤ src.length ∧ 0 ≤ t.padding
  /-- `XSegsInRange`: a fenced block's info segment and an HTML block's closure line -/
  info : ∀ n ∈ st.nodes, n.kind = .fencedCodeBlock → ∀ s, n.info = some s → segInRange src s
  closure : ∀ n ∈ st.nodes, n.kind = .htmlBlock → n.closure.start ≥ 0 → segInRange src n.closure
  /-- `LinesOrdered`: a block's lines increase (shape of `GM.Blocks.OrdFrom 0`) -/
  ord : ∀ n ∈ st.nodes, ordFrom 0 n.lines
  /-- `ContainersHaveNoLines`: the Document and List nodes never receive a line -/
  noLines : ∀ n ∈ st.nodes, (n.kind = .document ∨ n.kind = .list) → n.lines = []
  /-- `ListShape`: a child is a ListItem exactly when its parent is a List (one direction is `GM.Blocks.KidsOK.kids`) -/
  listShape : ∀ i, ∀ c ∈ (st.nodes.getD i default).children,
    ((st.nodes.getD c default).kind = .listItem ↔ (st.nodes.getD i default).kind = .list)

theorem blockP_default (src : Bytes) : BlockP src (default : GM.Blocks.Node) where
  head := headP_default
  lines := fun t h => by cases h
  info := fun h => by cases h
  closure := fun h => by cases h
  ord := trivial
  noLines := fun _ => rfl

theorem blockP_getD {src : Bytes} {st : GM.Blocks.St} (hh : HeadOK st) (hs : StoreHyps src st) (i : Nat) :
    BlockP src (st.nodes.getD i default) := by
  by_cases hlt : i < st.nodes.length
  · have e : st.nodes.getD i default = st.nodes[i] := by simp [List.getD, hlt]
    have hm : st.nodes[i] ∈ st.nodes := List.getElem_mem hlt
    rw [e]
    exact ⟨hh _ hm, hs.lines _ hm, hs.info _ hm, hs.closure _ hm, hs.ord _ hm, hs.noLines _ hm⟩
  · have e : st.nodes.getD i default = default := by
      simp [List.getD, List.getElem?_eq_none (Nat.le_of_not_lt hlt)]
    rw [e]; exact blockP_default src

/-- **C05 end to end, partial**: the dump of the tree `parseAst` answers passes `wfAst`, given the named hypotheses -/
theorem parseAst_wfAst (hI1 : InlineSegsUnpadded) (hI2 : InlineSegsAfterLineStart) (uc : List (Nat × (Bool × Bool)))
    (src : Bytes) (a : ATree) (h : parseAst true uc src = .ok a)
    (hS : ∀ st, blockPhase true src = .ok st → StoreHyps src st) : wfAst src.length (dumpAst a) = none := by
  unfold parseAst at h
  obtain ⟨st, hst, h⟩ := Proof.Reader.bind_ok h
  have hb := liftErr_ok hst
  have hs := hS st hb
  have hh := blockPhase_headOK true src st hb
  obtain ⟨d, rest, e, hd⟩ := blockPhase_rootDoc true src st hb
  apply wfAst_dumpAst
  refine annot_AOK hI1 hI2 _ src _ none a (treeOf_rel st.nodes (blockP_getD hh hs) ?_ _ _) ?_ h
  · intro i c hc
    exact hs.listShape i c hc
  · rw [treeOf_root]
    simp only [ListRel, e, List.getD_cons_zero]
    exact hd

end GM.E2E
end E2EAstStore
