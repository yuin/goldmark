/-
  GM.Proof.ConvertXE2E — C01 end to end with extensions, the member sets without Table: the inline phase over the members' trigger table answers in-range, padding-free
  segments (`parseBlockL_total_segs`), every CodeSpan of its tree holds Text nodes only (`csH`, all 16 member sets), the tree phases answer an `okN` tree no
  node renderer panics on (`docTreeL_renders`), so `convertL` answers HTML from the block-phase facts of GM.Props.ConvertNP (`convertL_total_of_tree_facts`).
-/
import GM.Proof.ConvertXE2EPad
import GM.Proof.ConvertLTotal
import GM.Proof.E2EValue
import GM.Proof.E2EXSegs
import GM.Proof.ConvertXSim

section ConvertXE2E
/-
    * `parseBlockL_total_segs`: on `WF0` lines the inline phase over the members' trigger table answers, and the segments of
      its tree are in range (the chain of the loop invariant, through ProcessDelimiters with both processors by the
      relabelling) and padding-free (GM.Proof.ConvertXE2EPad);
    * `renderPanics_none_of_okN`: no node renderer panics on a tree without attributes whose Headings have level ≤ 6 and whose
      CodeSpans hold Text (`okN`); `docTreeL_okN`: the tree `docTreeL` answers is such a tree whenever the inline trees are
      (`csH`: every CodeSpan of the inline phase's answer holds Text nodes).
-/

namespace GM.Proof.ConvertXE2E
open GM GM.Text GM.Spec GM.Inl GM.Proof.Reader GM.Proof.InlinesReader GM.Proof.Inlines GM.Proof.InlinesTotal
open GM.Proof.InlinesLink GM.Proof.ConvertXRelv GM.Proof.ConvertXTotal GM.Proof.ConvertLTotal
open GM.ConvertX GM.Convert GM.Proof.ConvertX GM.E2E

variable {src : Bytes} {segs : List Segment}

theorem pdX_eq_G (c : XCfg) : pdX c = processDelimitersG c.strikethrough := by
  unfold pdX
  cases c.strikethrough with
  | true => rfl
  | false => simp [processDelimitersG_false]

theorem parseBlockL_total_chain (c : GCfg) (inItem : Bool) (W : WFSegs src segs) (Z : ∀ s ∈ segs, s.padding = 0) (env : Env) :
    ∃ kids, parseBlockG env (inlineTblL c inItem) (pdX c.base) src segs = .ok kids ∧ chain 0 src.length (segsOfL kids) := by
  have F := segFacts W
  obtain ⟨r0, e0, hI, hfuel⟩ := block_start W Z
  obtain ⟨st', c', l1, l2⟩ := lineLoopX_total _ F Z env (inlineTblL c inItem) (inlineTblL_32 c inItem W Z env)
    (inlineTblL_contracts c inItem W Z env) (blockFuel src segs) false _ _ hI hfuel
  have hlk : LK (BCur.segOf segs 0).start (relvL gN st'.kids) st'.nextId st'.bottoms := l2.lk
  obtain ⟨res, p1, _⟩ := processDelimiters_ok .nil (relvL gN st'.kids) hlk.pos
  have e := processDelimitersG_relv (gN_ok c.base.strikethrough) .nil st'.kids
  rw [p1] at e
  cases hpd : processDelimitersG c.base.strikethrough .nil st'.kids with
  | error x => rw [hpd] at e; cases e
  | ok res' =>
    rw [hpd] at e
    simp only [Except.map, Except.ok.injEq] at e
    refine ⟨closeLabelsL res', ?_, ?_⟩
    · unfold parseBlockG
      simp only [e0, l1, pdX_eq_G, hpd, bind, Except.bind, pure, Except.pure]
    · rw [segsOfL_closeLabelsL]
      have hr := bpos_wf F l2.rs.abs
      rw [(peekLine_facts F l2.rs).2] at hr
      have hch : chain 0 src.length (segsOfL (relvL gN st'.kids)) := by
        rw [segsOfL_relv]
        exact chain_mono (Int.le_refl _) (by have := hr.2.1; have := hr.2.2.1; simp only at *; omega) l2.ch
      have := GM.Proof.InlinesDelims.processDelimiters_chain p1 hlk.pos hlk.dseg hch
      rw [e, segsOfL_relv] at this
      exact this

theorem parseBlockL_total_segs (c : GCfg) (inItem : Bool) (W : WFSegs src segs) (Z : ∀ s ∈ segs, s.padding = 0) (env : Env) :
    ∃ kids, parseBlockG env (inlineTblL c inItem) (pdX c.base) src segs = .ok kids ∧ ∀ s ∈ segsOfL kids, segInRange src s := by
  obtain ⟨kids, h, hc⟩ := parseBlockL_total_chain c inItem W Z env
  refine ⟨kids, h, fun s hs => ?_⟩
  have := chain_mem hc s hs
  have hp := GM.Proof.ConvertXE2EPad.parseBlockG_unpadded c inItem env src segs Z kids h s hs
  exact ⟨this.1, this.2.1, this.2.2, by rw [hp]; exact Int.le_refl _⟩

theorem inlinePhaseL_total (c : GCfg) (ht : c.base.table = false) {env : Env} {inItem : Bool} {n : GM.Blocks.Node}
    (h : NodeTot src n) :
    ∃ kids, inlinePhaseL c true env src inItem n = .ok kids ∧ ∀ s ∈ segsOfL kids, segInRange src s := by
  unfold inlinePhaseL
  split
  · exact ⟨[], rfl, fun s hs => by simp [segsOfL] at hs⟩
  · rename_i hr
    simp only [ht, Bool.false_and, Bool.false_eq_true, if_false]
    unfold inlineLinesL
    split
    · exact ⟨[], rfl, fun s hs => by simp [segsOfL] at hs⟩
    · rename_i he
      have hw : GM.Proof.InlinesReader.WF0 src n.lines :=
        h.wf0 (by simpa using hr) (by intro e; rw [e] at he; simp at he)
      have hb : GM.LinkRef.wf0B src n.lines = true := wf0B_complete hw
      rw [hb]
      simp only [Bool.not_true, Bool.and_false, Bool.false_eq_true, if_false]
      obtain ⟨kids, hk, hs⟩ := parseBlockL_total_segs c inItem hw.1 hw.2 env
      exact ⟨kids, by rw [hk]; rfl, hs⟩

theorem blockKindX_noTable (c : XCfg) (ht : c.table = false) (n : GM.Blocks.Node) : blockKindX c src n = blockKind src n := by
  unfold blockKindX
  simp [ht]

mutual
theorem docTreeL_total (c : GCfg) (ht : c.base.table = false) (env : Env) (escs : List Int) :
    ∀ (inItem : Bool) (t : GM.Blocks.Tree), treeAll (NodeTot src) t → ∃ x, docTreeL c true env src escs inItem t = .ok x
  | inItem, .node n cs, ha => by
    simp only [treeAll] at ha
    obtain ⟨bs, hbs⟩ := docTreesL_total c ht env escs (n.kind == .listItem) true cs ha.2
    obtain ⟨kids, hk, hsegs⟩ := inlinePhaseL_total c ht (env := env) (inItem := inItem) ha.1
    obtain ⟨is, his⟩ := inlineTreesL_total (src := src) c kids hsegs
    obtain ⟨k, hkk⟩ := blockKind_total ha.1.raw
    refine ⟨.mk k none (bs ++ is), ?_⟩
    unfold docTreeL
    simp only [bind, Except.bind, hbs, hk, ht, Bool.false_and, Bool.false_eq_true, if_false, his, blockKindX_noTable _ ht,
      hkk, liftErr, pure, Except.pure]
theorem docTreesL_total (c : GCfg) (ht : c.base.table = false) (env : Env) (escs : List Int) :
    ∀ (pi first : Bool) (ts : List GM.Blocks.Tree), treesAll (NodeTot src) ts →
    ∃ xs, docTreesL c true env src escs pi first ts = .ok xs
  | _, _, [], _ => ⟨[], by unfold docTreesL; rfl⟩
  | pi, first, t :: rest, ha => by
    simp only [treesAll] at ha
    obtain ⟨x, hx⟩ := docTreeL_total c ht env escs (pi && first) t ha.1
    obtain ⟨xs, hxs⟩ := docTreesL_total c ht env escs pi false rest ha.2
    refine ⟨x :: xs, ?_⟩
    unfold docTreesL
    simp only [bind, Except.bind, hx, hxs, pure, Except.pure]
end

mutual
/-- no attributes anywhere, Headings of level ≤ 6, CodeSpans hold Text -/
def okN : GM.Node → Bool
  | .mk k a cs =>
    a.isNone && (match k with
      | .heading l => decide (l ≤ 6)
      | .codeSpan => codeSpanChildrenText cs
      | _ => true) && okL cs
def okL : List GM.Node → Bool
  | [] => true
  | t :: rest => okN t && okL rest
end

theorem okL_append : ∀ (a b : List GM.Node), okL (a ++ b) = (okL a && okL b)
  | [], b => by simp [okL]
  | x :: a, b => by simp [okL, okL_append a b, Bool.and_assoc]

theorem nodePanic_okN (rc : RCfg) (k : Kind) (cs : List GM.Node)
    (h : (match k with | .heading l => decide (l ≤ 6) | .codeSpan => codeSpanChildrenText cs | _ => true) = true) :
    nodePanic rc k none cs = none := by
  unfold nodePanic
  split
  · rfl
  · cases k <;> simp_all [findAttr]

mutual
theorem renderPanicsNode_okN (rc : RCfg) : ∀ t : GM.Node, okN t = true → renderPanicsNode rc t = none
  | .mk k a cs, h => by
    simp only [okN, Bool.and_eq_true, Option.isNone_iff_eq_none] at h
    obtain ⟨⟨ha, hk⟩, hc⟩ := h
    subst ha
    unfold renderPanicsNode
    rw [nodePanic_okN rc k cs hk]
    simp only
    split
    · rfl
    · exact renderPanicsNodes_okL rc cs hc
theorem renderPanicsNodes_okL (rc : RCfg) : ∀ ts : List GM.Node, okL ts = true → renderPanicsNodes rc ts = none
  | [], _ => by unfold renderPanicsNodes; rfl
  | t :: rest, h => by
    simp only [okL, Bool.and_eq_true] at h
    unfold renderPanicsNodes
    rw [renderPanicsNode_okN rc t h.1]
    exact renderPanicsNodes_okL rc rest h.2
end

theorem renderPanics_none_of_okN (rc : RCfg) (t : GM.Node) (h : okN t = true) : renderPanics rc t = none :=
  renderPanicsNode_okN rc t h

mutual
/-- every CodeSpan of the subtree holds Text nodes only -/
def csH : Inl.Node → Bool
  | .codeSpan ks => ks.all isText
  | .emphasis _ ks => csHL ks
  | .link _ _ _ ks => csHL ks
  | _ => true
def csHL : List Inl.Node → Bool
  | [] => true
  | n :: rest => csH n && csHL rest
end

theorem inlineTreesL_text (c : GCfg) : ∀ (ks : List Inl.Node), ks.all isText = true → ∀ ts, inlineTreesL c src ks = .ok ts →
    codeSpanChildrenText ts = true ∧ okL ts = true
  | [], _, ts, h => by
    unfold inlineTreesL at h; cases h; simp [codeSpanChildrenText, okL]
  | k :: rest, ha, ts, h => by
    simp only [List.all_cons, Bool.and_eq_true] at ha
    unfold inlineTreesL at h
    obtain ⟨t, ht, h⟩ := Reader.bind_ok h
    obtain ⟨ts', hts, h⟩ := Reader.bind_ok h
    rw [epure_ok h]
    have ih := inlineTreesL_text c rest ha.2 ts' hts
    cases k <;> simp [isText] at ha
    unfold inlineTreeL at ht
    obtain ⟨v, _, ht⟩ := Reader.bind_ok ht
    rw [epure_ok ht]
    simp [codeSpanChildrenText, okL, okN, Kind.isText, Node.kind, ih.1, ih.2]

mutual
theorem inlineTreeL_okN (c : GCfg) : ∀ (n : Inl.Node), csH n = true → ∀ t, inlineTreeL c src n = .ok t → okN t = true
  | .text .., _, t, h => by
    unfold inlineTreeL at h
    obtain ⟨v, _, h⟩ := Reader.bind_ok h
    rw [epure_ok h]; simp [okN, okL]
  | .codeSpan ks, hw, t, h => by
    simp only [csH] at hw
    unfold inlineTreeL at h
    obtain ⟨ts, hts, h⟩ := Reader.bind_ok h
    rw [epure_ok h]
    have := inlineTreesL_text c ks hw ts hts
    simp [okN, this.1, this.2]
  | .emphasis lv ks, hw, t, h => by
    simp only [csH] at hw
    unfold inlineTreeL at h
    obtain ⟨ts, hts, h⟩ := Reader.bind_ok h
    have := inlineTreesL_okL c ks hw ts hts
    split at h
    · rw [epure_ok h]; simp [okN, this]
    · split at h
      · rw [epure_ok h]; simp [okN, this]
      · split at h <;> (rw [epure_ok h]; simp [okN, this])
  | .link im d ti ks, hw, t, h => by
    simp only [csH] at hw
    unfold inlineTreeL at h
    obtain ⟨ts, hts, h⟩ := Reader.bind_ok h
    have := inlineTreesL_okL c ks hw ts hts
    rw [epure_ok h]
    cases im <;> simp [okN, this]
  | .autoLink .., _, t, h => by
    unfold inlineTreeL at h
    split at h
    · obtain ⟨v, _, h⟩ := Reader.bind_ok h
      rw [epure_ok h]; simp [okN, okL]
    · obtain ⟨v, _, h⟩ := Reader.bind_ok h
      rw [epure_ok h]; simp [okN, okL]
  | .rawHTML .., _, t, h => by
    unfold inlineTreeL at h
    obtain ⟨v, _, h⟩ := Reader.bind_ok h
    rw [epure_ok h]; simp [okN, okL]
  | .delim .., _, t, h => by
    unfold inlineTreeL at h
    rw [epure_ok h]; simp [okN, okL]
  | .label .., _, t, h => by
    unfold inlineTreeL at h
    rw [epure_ok h]; simp [okN, okL]
theorem inlineTreesL_okL (c : GCfg) : ∀ (ks : List Inl.Node), csHL ks = true → ∀ ts, inlineTreesL c src ks = .ok ts →
    okL ts = true
  | [], _, ts, h => by unfold inlineTreesL at h; rw [epure_ok h]; rfl
  | k :: rest, hw, ts, h => by
    simp only [csHL, Bool.and_eq_true] at hw
    unfold inlineTreesL at h
    obtain ⟨t, ht, h⟩ := Reader.bind_ok h
    obtain ⟨ts', hts, h⟩ := Reader.bind_ok h
    rw [epure_ok h]
    simp [okL, inlineTreeL_okN c k hw.1 t ht, inlineTreesL_okL c rest hw.2 ts' hts]
end

end GM.Proof.ConvertXE2E
end ConvertXE2E

section ConvertXE2ECS
/-
  "every CodeSpan holds Text nodes only" (`csH`, hereditary) of the tree the inline phase over the
  members' trigger table answers, all 16 member sets: the one shape fact the node renderers need of the inline children
  (`c.(*ast.Text)` in renderCodeSpan). It is a property of nodes that ProcessDelimiters keeps (with both processors, by the
  relabelling), so the link parser keeps it (GM.Proof.InlinesLinkG); every other parser of the table appends a node that has
  it, so the byte loop keeps it (GM.Proof.ConvertXSim.lineLoopX_keeps); CloseBlock keeps it.
-/

namespace GM.Proof.ConvertXE2ECS
open GM GM.Text GM.Inl GM.Proof.Inlines GM.Proof.InlinesTotal GM.Proof.InlinesDelims GM.Proof.InlinesLinkG
open GM.Proof.ConvertXE2E GM.Proof.ConvertXRelv GM.Proof.ConvertXTotal GM.Proof.ConvertXSim

/-- (`n` is a dummy index: it keeps the statements in the shape of GM.Proof.ConvertFLinks) -/
def CS (_n : Nat) (x : Inl.Node) : Prop := csH x = true

theorem csHL_iff (n : Nat) : ∀ l : List Inl.Node, csHL l = true ↔ allQ (CS n) l
  | [] => by simp [csHL, allQ]
  | x :: rest => by
    simp only [csHL, Bool.and_eq_true, csHL_iff n rest]
    exact (allQ_cons (Q := CS n)).symm

theorem cs_text (n : Nat) (s : Segment) (a b c : Bool) : CS n (.text s a b c) := by simp [CS, csH]
theorem cs_delim (n : Nat) (id : Nat) (d : Delim) : CS n (.delim id d) := by simp [CS, csH]
theorem cs_label (n : Nat) (id : Nat) (s : Segment) (im : Bool) : CS n (.label id s im) := by simp [CS, csH]
theorem cs_autoLink (n : Nat) (e : Bool) (s : Segment) : CS n (.autoLink e s) := by simp [CS, csH]
theorem cs_rawHTML (n : Nat) (s : List Segment) : CS n (.rawHTML s) := by simp [CS, csH]
theorem cs_link (n : Nat) (im : Bool) (d : Bytes) (t : Option Bytes) {ks : List Inl.Node} (h : allQ (CS n) ks) :
    CS n (.link im d t ks) := by
  simp only [CS, csH]; exact (csHL_iff n ks).2 h
theorem cs_emph (n : Nat) (c : Int) {ks : List Inl.Node} (h : allQ (CS n) ks) : CS n (.emphasis c ks) := by
  simp only [CS, csH]; exact (csHL_iff n ks).2 h

theorem cs_inv (n : Nat) : NodeInv (CS n) where
  text := cs_text n
  emph := fun c ks h => cs_emph n c h
  cons := fun id d _ _ => cs_delim n id _

theorem cs_link_inv (n : Nat) : LinkInv (CS n) where
  text := cs_text n
  label := cs_label n
  link := fun im d t _ h => cs_link n im d t h

mutual
theorem wf_cs (n : Nat) (lab : Bool) : ∀ x : Inl.Node, wf lab x = true → CS n x
  | .text .., _ => cs_text n ..
  | .codeSpan ks, h => by simpa [CS, csH, wf] using h
  | .emphasis lv ks, h => by
    simp only [wf, Bool.and_eq_true] at h
    exact cs_emph n lv (wfL_cs n lab ks h.2)
  | .link _ _ _ ks, h => by
    simp only [wf, Bool.and_eq_true] at h
    exact cs_link n _ _ _ (wfL_cs n lab ks h.1)
  | .autoLink .., _ => cs_autoLink n ..
  | .rawHTML .., _ => cs_rawHTML n ..
  | .delim .., _ => cs_delim n ..
  | .label .., _ => cs_label n ..
theorem wfL_cs (n : Nat) (lab : Bool) : ∀ l : List Inl.Node, wfL lab l = true → allQ (CS n) l
  | [], _ => allQ_nil
  | x :: rest, h => by
    simp only [wfL, Bool.and_eq_true] at h
    exact allQ_cons.mpr ⟨wf_cs n lab x h.1, wfL_cs n lab rest h.2⟩
end

theorem top_cs (n : Nat) {x : Inl.Node} (h : top x = true) : CS n x := by
  unfold top at h
  cases x with
  | delim id d => exact cs_delim n id d
  | _ => exact wf_cs n true _ (by simpa [Node.isDelim] using h)

variable {n : Nat}

mutual
theorem csH_relv (g : Int → Int) : ∀ x : Inl.Node, csH (relv g x) = csH x
  | .text .. => rfl
  | .codeSpan ks => by simp only [relv_codeSpan, csH, all_isText_relv]
  | .emphasis lv ks => by simp only [relv_emphasis, csH, csHL_relv g ks]
  | .link im d t ks => by simp only [relv_link, csH, csHL_relv g ks]
  | .autoLink .. => rfl
  | .rawHTML .. => rfl
  | .delim .. => rfl
  | .label .. => rfl
theorem csHL_relv (g : Int → Int) : ∀ l : List Inl.Node, csHL (relvL g l) = csHL l
  | [] => rfl
  | x :: rest => by simp [relvL, csHL, csH_relv g x, csHL_relv g rest]
end

theorem allQ_cs_relvL (g : Int → Int) (l : List Inl.Node) : allQ (CS n) (relvL g l) ↔ allQ (CS n) l := by
  rw [← csHL_iff, ← csHL_iff, csHL_relv]

theorem processDelimitersG_cs (sk : Bool) : PDKeeps (CS n) (processDelimitersG sk) := by
  intro b kids res h hk
  have e := processDelimitersG_relv (gN_ok sk) b kids
  rw [h] at e
  have := processDelimiters_allQ (cs_inv n) e ((allQ_cs_relvL gN kids).mpr hk)
  exact (allQ_cs_relvL gN res).mp this

theorem ipParse_cs {env : Env} {ip : Ip} {st : St} {r : Option Inl.Node × St}
    (h : ip.parse env st = .ok r) (hk : allQ (CS n) st.kids) : POKQ (CS n) r :=
  ipParse_allQ (cs_link_inv n) (fun _ _ _ h hk => processDelimiters_allQ (cs_inv n) h hk) (fun _ => top_cs n) h hk

open GM.ConvertX in
theorem inlineTblL_cs (c : GCfg) (inItem : Bool) (env : Env) (b : UInt8) :
    ∀ ip ∈ inlineTblL c inItem b, Keeps (allQ (CS n)) env ip := by
  intro ip hip
  refine keeps_allQ fun st r h hk => ?_
  have hlink : ∀ st r, (linkX c.base).parse env st = .ok r → allQ (CS n) st.kids → POKQ (CS n) r := by
    intro st r h hk
    unfold linkX at h
    split at h
    · rw [show (XIp.ext _).parse env st = parseLinkG (pdX c.base) env st from rfl, pdX_eq_G] at h
      exact parseLinkG_allQ (cs_link_inv n) (processDelimitersG_cs _) h hk
    · exact ipParse_cs (ip := .link) h hk
  unfold inlineTblL at hip
  simp only [List.mem_append] at hip
  rcases hip with hip | hip
  · unfold inlineTbl at hip
    split at hip
    · split at hip
      · simp only [List.mem_singleton] at hip; subst hip; exact parseStrike_allQ (cs_delim n) h hk
      · cases hip
    · split at hip
      · simp only [List.mem_append, List.mem_singleton] at hip
        rcases hip with hip | hip
        · split at hip
          · simp only [List.mem_singleton] at hip; subst hip; exact parseTask_allQ (env := env) (fun _ => cs_emph n _ allQ_nil) h hk
          · cases hip
        · subst hip; exact hlink st r h hk
      · split at hip
        · simp only [List.mem_singleton] at hip; subst hip; exact hlink st r h hk
        · unfold baseTbl at hip
          obtain ⟨ip0, _, rfl⟩ := List.mem_map.1 hip
          exact ipParse_cs (ip := ip0) h hk
  · split at hip
    · simp only [List.mem_singleton] at hip; subst hip; exact parseLinkify_allQ (env := env) (cs_text n) (cs_autoLink n) h hk
    · cases hip

mutual
theorem closeLabels_cs (n : Nat) : ∀ x : Inl.Node, CS n x → CS n (closeLabels x)
  | .text .., h => by simpa [closeLabels] using h
  | .codeSpan ks, h => by
    -- the children of a code span are Text nodes: CloseBlock leaves them alone
    simp only [CS, csH] at h
    simp only [closeLabels, CS, csH]
    have : closeLabelsL ks = ks := all_isText_closeLabelsL ks h
    rw [this]; exact h
  | .emphasis lv ks, h => by
    simp only [closeLabels]
    exact cs_emph n _ (closeLabelsL_cs n ks ((csHL_iff n ks).1 (by simpa [CS, csH] using h)))
  | .link _ _ _ ks, h => by
    simp only [closeLabels]
    exact cs_link n _ _ _ (closeLabelsL_cs n ks ((csHL_iff n ks).1 (by simpa [CS, csH] using h)))
  | .autoLink .., h => by simpa [closeLabels] using h
  | .rawHTML .., h => by simpa [closeLabels] using h
  | .delim .., h => by simpa [closeLabels] using h
  | .label .., _ => by simp only [closeLabels]; exact cs_text n ..
theorem closeLabelsL_cs (n : Nat) : ∀ l : List Inl.Node, allQ (CS n) l → allQ (CS n) (closeLabelsL l)
  | [], _ => by simpa [closeLabelsL] using (allQ_nil (Q := CS n))
  | x :: rest, h => by
    simp only [closeLabelsL]
    exact allQ_cons.mpr ⟨closeLabels_cs n x (allQ_cons.mp h).1, closeLabelsL_cs n rest (allQ_cons.mp h).2⟩
end

open GM.ConvertX in
theorem parseBlockG_csHL (c : GCfg) (inItem : Bool) (env : Env) (src : Bytes) (lines : List Segment) (kids : List Inl.Node)
    (h : parseBlockG env (inlineTblL c inItem) (pdX c.base) src lines = .ok kids) : csHL kids = true := by
  unfold parseBlockG at h
  obtain ⟨rd, _, h⟩ := bind_ok h
  obtain ⟨st, hst, h⟩ := bind_ok h
  obtain ⟨ks, hks, h⟩ := bind_ok h
  simp [pure, Except.pure] at h; subst h
  have h1 := lineLoopX_keeps (iclosed_allQ (cs_text 0)) (fun b => inlineTblL_cs c inItem env b) _ _ (st := { rd := rd })
    allQ_nil hst
  rw [pdX_eq_G] at hks
  exact (csHL_iff 0 _).2 (closeLabelsL_cs 0 _ (processDelimitersG_cs _ _ _ _ hks h1))

end GM.Proof.ConvertXE2ECS
end ConvertXE2ECS

section ConvertXE2EMain
/-
  C01 END TO END WITH EXTENSIONS, composition for the member sets without Table: the tree phases of
  `convertL` answer an `okN` tree from every store of the default block phase whose tree nodes have `NodeTot`; no node renderer
  panics on it; so `convertL` answers HTML. The block-phase facts enter in the shapes GM.Props.ConvertNP states them,
  exactly as in `GM.E2E.convertCore_total_of_tree_facts` (GM.Proof.E2ENT).
-/

namespace GM.Proof.ConvertXE2E
open GM GM.Text GM.Spec GM.Inl GM.ConvertX GM.Convert GM.Proof.ConvertX GM.E2E GM.Proof.ConvertXE2ECS

variable {src : Bytes}

theorem okN_block (k : Kind) (cs : List GM.Node) (hk : blockKindOK k = true) (hc : okL cs = true) :
    okN (.mk k none cs) = true := by
  cases k <;> simp [blockKindOK] at hk <;> simp [okN, hc]
  omega

theorem inlinePhaseL_csHL (c : GCfg) (ht : c.base.table = false) {env : Env} {inItem : Bool} {n : GM.Blocks.Node}
    {kids : List Inl.Node} (h : inlinePhaseL c true env src inItem n = .ok kids) : csHL kids = true := by
  unfold inlinePhaseL at h
  split at h
  · cases h; rfl
  · simp only [ht, Bool.false_and, Bool.false_eq_true, if_false] at h
    unfold inlineLinesL at h
    split at h
    · cases h; rfl
    · split at h
      · cases h
      · exact parseBlockG_csHL c inItem env src _ kids (liftErr_ok' h)

mutual
theorem docTreeL_okN (c : GCfg) (ht : c.base.table = false) (env : Env) (escs : List Int) :
    ∀ (inItem : Bool) (t : GM.Blocks.Tree), treeAll HeadP t → ∀ x, docTreeL c true env src escs inItem t = .ok x →
    okN x = true
  | inItem, .node n cs, ha, x, h => by
    simp only [treeAll] at ha
    unfold docTreeL at h
    obtain ⟨bs, hbs, h⟩ := Reader.bind_ok h
    obtain ⟨kids, hkids, h⟩ := Reader.bind_ok h
    simp only [ht, Bool.false_and, Bool.false_eq_true, if_false] at h
    obtain ⟨is, his, h⟩ := Reader.bind_ok h
    obtain ⟨k, hk, h⟩ := Reader.bind_ok h
    rw [epure_ok h]
    have h1 := docTreesL_okL c ht env escs _ _ cs ha.2 bs hbs
    have h2 := inlineTreesL_okL c kids (inlinePhaseL_csHL c ht hkids) is (liftErr_ok' his)
    have hk' : blockKind src n = .ok k := by
      have := liftErr_ok' hk
      rwa [blockKindX_noTable _ ht] at this
    exact okN_block k _ (blockKind_ok ha.1 hk') (by rw [okL_append, h1, h2]; rfl)
theorem docTreesL_okL (c : GCfg) (ht : c.base.table = false) (env : Env) (escs : List Int) :
    ∀ (pi first : Bool) (ts : List GM.Blocks.Tree), treesAll HeadP ts → ∀ xs,
    docTreesL c true env src escs pi first ts = .ok xs → okL xs = true
  | _, _, [], _, xs, h => by unfold docTreesL at h; rw [epure_ok h]; rfl
  | pi, first, t :: rest, ha, xs, h => by
    simp only [treesAll] at ha
    unfold docTreesL at h
    obtain ⟨x, hx, h⟩ := Reader.bind_ok h
    obtain ⟨xs', hxs, h⟩ := Reader.bind_ok h
    rw [epure_ok h]
    simp [okL, docTreeL_okN c ht env escs _ t ha.1 x hx, docTreesL_okL c ht env escs _ _ rest ha.2 xs' hxs]
end

/-- **the tree phases on a good store**, for every member set without Table and ANY store (so: any paragraph transformers):
    when the tree nodes have `NodeTot` and Headings have levels 1–6, the tree is built and no node renderer panics on it -/
theorem docTreeL_renders (c : GCfg) (ht : c.base.table = false) (env : Env) (st : GM.Blocks.St) (hH : HeadOK st)
    (h0 : NodeTot src (st.nodes.getD 0 default))
    (hk : ∀ p c, c ∈ (st.nodes.getD p default).children → NodeTot src (st.nodes.getD c default)) :
    ∃ t, docTreeL c true env src [] false (GM.Blocks.treeOf st.nodes st.nodes.length 0) = .ok t ∧
      ∀ rc, renderPanics rc t = none := by
  obtain ⟨t, htree⟩ := docTreeL_total (src := src) c ht env [] false _ (treeOf_all_reach st.nodes hk st.nodes.length 0 h0)
  exact ⟨t, htree, fun rc => renderPanics_none_of_okN rc t
    (docTreeL_okN (src := src) c ht env [] false _ (treeOf_all st.nodes (headOK_getD hH) st.nodes.length 0) t htree)⟩

theorem convertL_total_of_tree (c : GCfg) (ht : c.base.table = false) (uc : List (Nat × (Bool × Bool))) (o : ROpts)
    (st : GM.Blocks.St) (hst : blockPhase true src = .ok st)
    (h0 : NodeTot src (st.nodes.getD 0 default))
    (hk : ∀ p c, c ∈ (st.nodes.getD p default).children → NodeTot src (st.nodes.getD c default)) :
    ∃ html, convertL c uc o src = .ok html := by
  have hb : blockPhaseX c.base true src = .ok st := by rw [blockPhaseX_noTable c.base ht]; exact hst
  obtain ⟨t, htree, hr⟩ := docTreeL_renders c ht { refs := st.pc.refs, uc := uc } st (blockPhase_headOK true src st hst) h0 hk
  refine ⟨render (rcfgX c.base o) t, ?_⟩
  simp only [convertL, convertLWith, parseDocL, renderDocX, bind, Except.bind, hb, liftErr, ht, Bool.false_eq_true, if_false,
    htree, hr]

theorem convertL_total_of_tree_facts (c : GCfg) (ht : c.base.table = false) (uc : List (Nat × (Bool × Bool))) (o : ROpts)
    (st : GM.Blocks.St) (hst : blockPhase true src = .ok st)
    (hL : ∀ n ∈ st.nodes, ∀ t ∈ n.lines, 0 ≤ t.start ∧ t.start ≤ t.stop ∧ t.stop ≤ src.length ∧ 0 ≤ t.padding)
    (hW : ∀ n ∈ st.nodes, GM.Proof.BlocksWF0.isRaw n.kind = false → n.lines ≠ [] → WFSegs src n.lines)
    (hP : ∀ p c, c ∈ (st.nodes.getD p default).children → GM.Proof.BlocksWF0.isRaw (st.nodes.getD c default).kind = false →
      ∀ t ∈ (st.nodes.getD c default).lines, t.padding = 0)
    (h0 : (st.nodes.getD 0 default).lines = []) :
    ∃ html, convertL c uc o src = .ok html := by
  have hx := runT_xsegs src (paragraphTransformers_keep true) st hst
  have raw : ∀ i, RawSegsP src (st.nodes.getD i default) := by
    intro i
    by_cases hlt : i < st.nodes.length
    · have e : st.nodes.getD i default = st.nodes[i] := by simp [List.getD, hlt]
      have hm : st.nodes[i] ∈ st.nodes := List.getElem_mem hlt
      rw [e]
      exact ⟨fun _ t ht => hL _ hm t ht, (hx _ hm).info, (hx _ hm).closure⟩
    · have e : st.nodes.getD i default = default := by
        simp [List.getD, List.getElem?_eq_none (Nat.le_of_not_lt hlt)]
      rw [e]; exact rawSegsP_default src
  have wfs : ∀ i, isRawKind (st.nodes.getD i default).kind = false → (st.nodes.getD i default).lines ≠ [] →
      WFSegs src (st.nodes.getD i default).lines := by
    intro i hr hne
    by_cases hlt : i < st.nodes.length
    · have e : st.nodes.getD i default = st.nodes[i] := by simp [List.getD, hlt]
      have hm : st.nodes[i] ∈ st.nodes := List.getElem_mem hlt
      rw [e] at hr hne ⊢
      exact hW _ hm (by rw [isRaw_eq_isRawKind]; exact hr) hne
    · have e : st.nodes.getD i default = default := by
        simp [List.getD, List.getElem?_eq_none (Nat.le_of_not_lt hlt)]
      rw [e] at hne; exact absurd rfl hne
  refine convertL_total_of_tree c ht uc o st hst
    ⟨raw 0, fun _ hne => absurd h0 hne⟩ (fun p c' hc => ⟨raw c', fun hr hne => ⟨wfs c' hr hne, ?_⟩⟩)
  exact hP p c' hc (by rw [isRaw_eq_isRawKind]; exact hr)

end GM.Proof.ConvertXE2E
end ConvertXE2EMain
