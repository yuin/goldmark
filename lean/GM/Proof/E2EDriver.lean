/-
  GM.Proof.E2EDriver — The block driver at a frame invariant that needs side facts (`Walk J E L` with `E` or `L`, GM.Proof.E2EKeeps), as an instance of the driver rule
  of GM.Proof.BlocksDriverKeeps (`driverOps_walk`), and the invariants that need it: `LC` (a ListItem is only ever a child of a List), `J2` (the open-block
  stack is consistent with the store), `PNE` (every Paragraph has a line).
-/
import GM.Proof.E2EKeeps
import GM.Proof.ConvertHWFOpen

section E2EDriver
/-
  The driver of the block phase at a frame invariant that NEEDS side facts (`Walk J E L` with `E` or
  `L`, GM.Proof.E2EKeeps): the edge `openBlocks` adds (parser.go:1006 `parent.AppendChild(parent, node)`) must be good, and
  the node a parser's `Close` is called on must have the kind that parser builds. Both are known where they are needed,
  but from values read earlier — the node `Open` has just answered, the block `pc.LastOpenedBlock()` returned, the stack
  `closeBlocks` copied before its loop. That is what the driver rule of GM.Proof.BlocksDriverKeeps threads: here its side
  facts are the STABLE ones (kept by every step: they speak of node kinds only), a block `b` of the stack is consistent
  (`OKB b`), and `listItemParser.Open` has seen that its parent is a List (`driverOps_walk`). The paragraph transformers
  have to keep `J` together with every stable side fact.
-/

namespace GM.E2E
open GM GM.Text GM.Blocks

namespace PJ

/-- the block `b` of the open-block stack is consistent: its node exists and has the kind its parser builds -/
def OKB (b : Block) (s : St) : Prop := b.node < s.nodes.length ∧ (s.nodes.getD b.node default).kind = GM.ConvertH.BP.kindOf b.bp

def J2 (s : St) : Prop := ∀ b ∈ s.pc.opened, OKB b s

end PJ
open PJ

instance stableOKB (b : Block) : Stable (OKB b) := stableKindAt b.node (GM.ConvertH.BP.kindOf b.bp)

instance walk0J2 {J : St → Prop} {E L : Prop} [Walk0 J E L] : Walk0 (fun s => J s ∧ J2 s) E L where
  rd := fun s r h => ⟨Walk0.rd s r h.1, h.2⟩
  pc := fun s pc e h => ⟨Walk0.pc s pc e h.1, fun b hb => h.2 b (e ▸ hb)⟩
  mod := fun s id f hf hl h =>
    ⟨Walk0.mod s id f hf hl h.1, fun b hb => Stable.mod (A := OKB b) s id f (fun n => (hf n).1) (h.2 b hb)⟩
  new := fun s n hn hc hl h => ⟨Walk0.new s n hn hc hl h.1, fun b hb => Stable.new (A := OKB b) s n (h.2 b hb)⟩
  edge := fun s p c g hg he h => ⟨Walk0.edge s p c g hg he h.1, fun b hb =>
    Stable.mod (A := OKB b) s p (fun n : Blocks.Node => { n with children := g n.children }) (fun _ => rfl) (h.2 b hb)⟩

/-- an invariant that survives a change of the open-block stack to blocks that are on it already or are consistent -/
class Stack (J : St → Prop) : Prop where
  opened : ∀ (s : St) (l : List Block), (∀ b ∈ l, b ∈ s.pc.opened ∨ OKB b s) → J s →
    J { s with pc := { s.pc with opened := l } }

theorem stackWithJ2 {J : St → Prop} (h : ∀ (s : St) (pc : Ctx), J s → J { s with pc := pc }) :
    Stack (fun s => J s ∧ J2 s) :=
  ⟨fun s _ hl hs => ⟨h s _ hs.1, fun b hb => (hl b hb).elim (hs.2 b) id⟩⟩

/-! ### facts carried by values -/

def AllOKB (l : List Block) (s : St) : Prop := ∀ b ∈ l, OKB b s

instance stableAllOKB (l : List Block) : Stable (AllOKB l) := by
  unfold AllOKB
  have : ∀ b, Stable (fun s => b ∈ l → OKB b s) := fun b => inferInstance
  exact inferInstance

/-- the block read by `pc.LastOpenedBlock()` is consistent -/
def LastOK (lb : Option Block) (s : St) : Prop := ∀ b, lb = some b → OKB b s

instance stableLastOK (lb : Option Block) : Stable (LastOK lb) := by
  unfold LastOK
  have : ∀ b, Stable (fun s => lb = some b → OKB b s) := fun b => inferInstance
  exact inferInstance

/-- what `Open` says of the node it answers: it exists and has the kind its parser builds; and behind
    `listItemParser.Open`, which has checked `parent.(*ast.List)`, the parent is a List -/
def OpenPost (bp : BP) (parent : Nat) (a : Option Nat × PState) (s : St) : Prop :=
  ∀ id, a.1 = some id → OKB { node := id, bp := bp } s ∧ (bp = .listItem → KindAt parent .list s)

/-- the first half: the node `Open` answers exists and has the kind its parser builds -/
def OpenKind (bp : BP) (a : Option Nat × PState) (s : St) : Prop := ∀ id, a.1 = some id → OKB { node := id, bp := bp } s

instance stableOpenKind (bp : BP) (a : Option Nat × PState) : Stable (OpenKind bp a) := by
  unfold OpenKind
  have : ∀ id, Stable (fun s => a.1 = some id → OKB { node := id, bp := bp } s) := fun id => inferInstance
  exact inferInstance

theorem listItemOpen_list {parent : Nat} {s s' : St} {a : Option Nat × PState} (h : listItemOpen parent s = .ok (a, s'))
    {id : Nat} (ha : a.1 = some id) : (s.nodes.getD parent default).kind = .list := by
  by_cases hk : (s.nodes.getD parent default).kind = .list
  · exact hk
  · exfalso
    unfold listItemOpen at h
    simp only [bind, StateT.bind, getNode, pure, Except.pure, Except.bind] at h
    rw [if_pos (by simpa using hk)] at h
    cases h
    cases ha

theorem bpOpen_post (bp : BP) (parent : Nat) (s s' : St) (a : Option Nat × PState) (h : bpOpen bp parent s = .ok (a, s')) :
    OpenPost bp parent a s' := by
  obtain ⟨lr, hid⟩ := (GM.ConvertH.bpOpen_oj bp parent).h s a s' h
  intro id ha
  obtain ⟨_, h2, h3⟩ := hid id ha
  refine ⟨⟨h2, h3⟩, fun hb => ?_⟩
  subst hb
  have hl : (s.nodes.getD parent default).kind = .list := listItemOpen_list (by simpa [bpOpen] using h) ha
  have hp : parent < s.nodes.length := by
    rcases Nat.lt_or_ge parent s.nodes.length with h' | h'
    · exact h'
    · rw [List.getD_eq_getElem?_getD, List.getElem?_eq_none h'] at hl; cases hl
  refine ⟨Nat.lt_of_lt_of_le hp lr.len, ?_⟩
  have := lr.kind parent hp
  simp only [GM.ConvertH.ndx] at this
  rw [this]; exact hl

theorem bpOpen_kind (bp : BP) (parent : Nat) (s s' : St) (a : Option Nat × PState) (h : bpOpen bp parent s = .ok (a, s')) :
    OpenKind bp a s' :=
  fun id ha => (bpOpen_post bp parent s s' a h id ha).1

theorem kindOf_ne_item {bp : BP} (h : bp ≠ .listItem) : GM.ConvertH.BP.kindOf bp ≠ .listItem := by
  cases bp <;> simp [GM.ConvertH.BP.kindOf] at h ⊢

theorem kindOf_ne_para {bp : BP} (h : bp ≠ .paragraph) : GM.ConvertH.BP.kindOf bp ≠ .paragraph := by
  cases bp <;> simp [GM.ConvertH.BP.kindOf] at h ⊢

theorem edgeGood_of_open {bp : BP} {parent id : Nat} {s : St}
    (h : OKB { node := id, bp := bp } s ∧ (bp = .listItem → KindAt parent .list s)) : EdgeGood id parent s := by
  by_cases hb : bp = .listItem
  · exact edgeGood_of_list h.1.1 (h.2 hb)
  · exact edgeGood_of_kind (k := GM.ConvertH.BP.kindOf bp) h.1 (kindOf_ne_item hb)

instance stackAnd {J A : St → Prop} [Stack J] [Stable A] : Stack (fun s => J s ∧ A s) where
  opened := fun s l h hs => ⟨Stack.opened s l h hs.1, Stable.ronly s s.r _ hs.2⟩

theorem modOpened_keeps {J : St → Prop} [Stack J] (g : Ctx → List Block)
    (h : ∀ s, J s → ∀ b ∈ g s.pc, b ∈ s.pc.opened ∨ OKB b s) : Keeps J (modPc fun pc => { pc with opened := g pc }) :=
  ⟨fun s _ _ hs hm => by cases hm; exact Stack.opened s _ (h s hs) hs⟩

theorem setOpenedOK_keeps {J : St → Prop} [Stack J] (l : List Block) (h : ∀ s, J s → ∀ b ∈ l, OKB b s) :
    Keeps J (modPc fun pc => { pc with opened := l }) :=
  modOpened_keeps (fun _ => l) (fun s hs b hb => .inr (h s hs b hb))

theorem pushOpened_keeps {J : St → Prop} [Stack J] (b : Block) (h : ∀ s, J s → OKB b s) :
    Keeps J (modPc fun pc => { pc with opened := pc.opened ++ [b] }) :=
  modOpened_keeps (fun pc => pc.opened ++ [b]) (fun s hs x hx => by
    rcases List.mem_append.1 hx with h1 | h1
    · exact .inl h1
    · simp only [List.mem_singleton] at h1; subst h1; exact .inr (h s hs))

theorem driverOps_walk {J : St → Prop} {E L : Prop} [Walk J E L] [Stack J] (hj : ∀ s, J s → AllOKB s.pc.opened s)
    {pts : List PT} (hp : ∀ (B : St → Prop) [Stable B], PTsKeep (fun s => J s ∧ B s) pts) :
    DriverOps J (fun A => Stable A) OKB (fun _ _ => True) (fun bp _ p s => bp = .listItem → KindAt p .list s) bpClose
      (transformParagraph pts) where
  sAnd := fun hA hA' => @stableAnd _ _ hA hA'
  sImp := fun c _ hA => @stableImp c _ hA
  sAll := fun hA => @stableForall _ _ hA
  sB := stableOKB
  sP := fun _ => stableTrue
  sAtt := fun _ _ _ => inferInstance
  stack := hj
  peekLine := fun hA => by haveI := hA; exact keeps_iff.1 peekLine_keeps
  lineOffset := fun hA => by haveI := hA; exact keeps_iff.1 lineOffset_keeps
  advanceLine := fun hA => by haveI := hA; exact keeps_iff.1 advanceLine_keeps
  skipBlank := fun hA => by haveI := hA; exact keeps_iff.1 skipBlankLinesR_keeps
  pcw := fun hA f hf => by haveI := hA; exact keeps_iff.1 (modPc_keeps f hf)
  opened := fun hA g hg => by
    haveI := hA; exact keeps_iff.1 (modOpened_keeps g fun s hs b hb => .inr (hg s hs b hb))
  blank := fun hA _ _ _ _ _ => by haveI := hA; exact keeps_iff.1 (by keeps)
  append := fun hA bp c p hc => by
    haveI := hA
    exact keeps_iff.1 (appendChild_keeps p c fun s hs _ => edgeGood_of_open (hc s hs))
  opn := fun hA bp p _ => by
    haveI := hA
    exact GM.Hoare.Tri.top_iff.2 fun s a s' hs ho =>
      have h1 := (bpOpen_keeps (J := fun s => J s ∧ _) bp p).h s a s' hs ho
      ⟨h1.1, h1.2, fun id hid => ⟨(bpOpen_post bp p s s' a ho id hid).1, (bpOpen_post bp p s s' a ho id hid).2, fun _ => trivial⟩⟩
  cont := fun hA b _ => by haveI := hA; exact keeps_iff.1 (bpContinue_keeps b.bp b.node)
  close := fun hA b hb => by
    haveI := hA
    exact keeps_iff.1 (bpClose_keeps b.bp b.node fun s hs _ hne => by rw [(hb s hs).2]; exact kindOf_ne_para hne)
  tp := fun hA b _ => by haveI := hA; exact keeps_iff.1 (transformParagraph_keeps pts (hp _) b.node)

namespace Side
variable {J : St → Prop} {E L : Prop} [iw : Walk J E L] [ik : Stack J] (hj : ∀ s, J s → AllOKB s.pc.opened s)
  {pts : List PT} (hp : ∀ (B : St → Prop) [Stable B], PTsKeep (fun s => J s ∧ B s) pts)
include iw ik hj hp

theorem runT_keeps (src : Bytes) (h0 : J (initSt src)) (st : St) (h : runT pts src = .ok st) : J st :=
  ((driverOps_walk hj hp).runT_keeps (fun _ _ _ _ _ => trivial) stableTrue (fun _ _ => trivial) src ⟨h0, trivial⟩ st h).1

end Side

end GM.E2E
end E2EDriver

section E2EList
/-
  "a ListItem is only ever a child of a List" (`LC`) as an invariant of the block phase WITH paragraph
  transformers, for every source: a frame invariant (GM.Proof.E2EKeeps) that is NOT blind to child lists. Every write to a
  node either leaves the child list alone / shrinks it, or is one of the two edge-adding writes of ast.go (`AppendChild`,
  `InsertBefore`), where the new edge `c → p` must be good (`EdgeGood`: `c` is no ListItem, or `p` is a List). The four places
  that add an edge — `openBlocks` (parser.go:1006 `parent.AppendChild(parent, node)`), `setextHeadingParser.Close`,
  `listParser.Close` (tight lists) and `linkReferenceParagraphTransformer.Transform` — know it: the node is fresh and of
  another kind, or `listItemParser.Open` has just checked `parent.(*ast.List)` (`driverOps_walk` above).
-/

namespace GM.E2E.LI
open GM GM.Text GM.Blocks GM.E2E GM.E2E.PJ

/-- a ListItem child only below a List -/
def LC (s : St) : Prop :=
  ∀ i c, c ∈ (s.nodes.getD i default).children → c < s.nodes.length ∧
    ((s.nodes.getD c default).kind = .listItem → (s.nodes.getD i default).kind = .list)

theorem LC.mod {s : St} (h : LC s) (id : Nat) (f : Blocks.Node → Blocks.Node)
    (hf : ∀ n, (f n).kind = n.kind ∧ ∀ x ∈ (f n).children, x ∈ n.children) :
    LC { s with nodes := s.nodes.set id (f (s.nodes.getD id default)) } := by
  have hk : ∀ j, (({ s with nodes := s.nodes.set id (f (s.nodes.getD id default)) } : St).nodes.getD j default).kind =
      (s.nodes.getD j default).kind := by
    intro j
    show ((s.nodes.set id (f (s.nodes.getD id default))).getD j default).kind = _
    rw [getD_set]
    split
    · rename_i hj; rw [hj.1]; exact (hf _).1
    · rfl
  intro i c hc
  have hc0 : c ∈ (s.nodes.getD i default).children := by
    have : (({ s with nodes := s.nodes.set id (f (s.nodes.getD id default)) } : St).nodes.getD i default) =
        if i = id ∧ id < s.nodes.length then f (s.nodes.getD id default) else s.nodes.getD i default := getD_set _ _ _ _
    rw [this] at hc
    split at hc
    · rename_i hi; rw [hi.1]; exact (hf _).2 c hc
    · exact hc
  obtain ⟨h1, h2⟩ := h i c hc0
  refine ⟨by simpa using h1, ?_⟩
  rw [hk c, hk i]
  exact h2

theorem LC.new {s : St} (h : LC s) (n : Blocks.Node) (hn : n.children = []) : LC { s with nodes := s.nodes ++ [n] } := by
  intro i c hc
  have e : ∀ j, (({ s with nodes := s.nodes ++ [n] } : St).nodes.getD j default) =
      if j < s.nodes.length then s.nodes.getD j default else if j = s.nodes.length then n else default :=
    fun j => getD_append _ _ _
  rw [e i] at hc
  by_cases hi : i < s.nodes.length
  · rw [if_pos hi] at hc
    obtain ⟨h1, h2⟩ := h i c hc
    refine ⟨by simp; omega, ?_⟩
    rw [e c, e i, if_pos hi, if_pos h1]
    exact h2
  · rw [if_neg hi] at hc
    split at hc
    · rw [hn] at hc; cases hc
    · rw [default_children] at hc; cases hc

theorem LC.edge {s : St} (h : LC s) (p c : Nat) (g : List Nat → List Nat) (hg : ∀ l x, x ∈ g l → x ∈ l ∨ x = c)
    (he : EdgeGood c p s) :
    LC { s with nodes := s.nodes.set p ((fun n : Blocks.Node => { n with children := g n.children }) (s.nodes.getD p default)) } := by
  have hk : ∀ j, (({ s with nodes := s.nodes.set p ((fun n : Blocks.Node => { n with children := g n.children })
      (s.nodes.getD p default)) } : St).nodes.getD j default).kind = (s.nodes.getD j default).kind := by
    intro j
    show ((s.nodes.set p _).getD j default).kind = _
    rw [getD_set]
    split
    · rename_i hj; rw [hj.1]
    · rfl
  intro i x hx
  have e : (({ s with nodes := s.nodes.set p ((fun n : Blocks.Node => { n with children := g n.children })
      (s.nodes.getD p default)) } : St).nodes.getD i default) =
      if i = p ∧ p < s.nodes.length then (fun n : Blocks.Node => { n with children := g n.children }) (s.nodes.getD p default)
      else s.nodes.getD i default := getD_set _ _ _ _
  rw [e] at hx
  rw [hk x, hk i]
  have hlen : (({ s with nodes := s.nodes.set p ((fun n : Blocks.Node => { n with children := g n.children })
      (s.nodes.getD p default)) } : St).nodes.length) = s.nodes.length := by simp
  rw [hlen]
  split at hx
  · rename_i hi
    rcases hg _ x hx with h1 | h1
    · rw [hi.1]; exact h p x h1
    · rw [h1, hi.1]; exact he
  · exact h i x hx

instance : Walk0 LC True False where
  rd := fun _ _ h => h
  pc := fun _ _ _ h => h
  mod := fun _ id f hf _ h => h.mod id f (fun n => ⟨(hf n).1, (hf n).2.2⟩)
  new := fun _ n _ hc _ h => h.new n hc
  edge := fun _ p c g hg he h => h.edge p c g hg (he trivial)

theorem lc_init (src : Bytes) : LC (initSt src) := by
  intro i c hc
  exfalso
  cases i with
  | zero => simp [initSt] at hc
  | succ k =>
    simp only [initSt, List.getD_eq_getElem?_getD, List.getElem?_cons_succ, List.getElem?_nil, Option.getD_none] at hc
    rw [default_children] at hc
    cases hc

instance : Stack (fun s => LC s ∧ J2 s) := stackWithJ2 fun _ _ h => h

theorem paragraphTransformers_keep (guard : Bool) :
    ∀ (B : St → Prop) [Stable B], PTsKeep (fun s => (LC s ∧ J2 s) ∧ B s) (GM.Convert.paragraphTransformers guard) := by
  intro B _ pt hpt n
  simp only [GM.Convert.paragraphTransformers, List.mem_singleton] at hpt
  subst hpt
  split
  · exact guardedTransform_keeps n
  · exact transform_keeps n

theorem runT_lc {pts : List PT} (hp : ∀ (B : St → Prop) [Stable B], PTsKeep (fun s => (LC s ∧ J2 s) ∧ B s) pts) (src : Bytes)
    (st : St) (h : runT pts src = .ok st) : LC st :=
  (Side.runT_keeps (J := fun s => LC s ∧ J2 s) (fun _ h => h.2) hp src
    ⟨lc_init src, fun b hb => by simp [initSt] at hb⟩ st h).1

theorem blockPhase_lc (guard : Bool) (src : Bytes) (st : St) (h : GM.Convert.blockPhase guard src = .ok st) : LC st :=
  runT_lc (paragraphTransformers_keep guard) src st h

theorem run_lc (src : Bytes) (st : St) (h : runT [] src = .ok st) : LC st :=
  runT_lc (fun _ _ _ hq => by cases hq) src st h

end GM.E2E.LI
end E2EList

section E2EPara
/-
  Two invariants of the block phase that are NOT blind to the parse context / the lines, for every source:
    * `J2`: every open block's node exists and has the kind its parser builds (`pc.openedBlocks` is consistent);
    * `PNE`: every Paragraph node has at least one line.
  `PNE` needs `J2`: `setextHeadingParser.Close` empties the lines of ITS node and `codeBlockParser.Close` cuts them — harmless
  because those nodes are a Heading / a CodeBlock, which only the open-block stack knows. `PNE` is a frame invariant that
  reads the lines (`L`, GM.Proof.E2EKeeps); the facts about the stack are threaded by `driverOps_walk` above.
-/

namespace GM.E2E.PJ
open GM GM.Text GM.Blocks GM.E2E

/-- every Paragraph node has a line -/
def PNE (s : St) : Prop := ∀ i, (s.nodes.getD i default).kind = .paragraph → (s.nodes.getD i default).lines ≠ []

/-- the invariant family: `PNE`, `J2` and a stable side fact -/
def PJ (A : St → Prop) (s : St) : Prop := PNE s ∧ J2 s ∧ A s

/-- node `id` exists and is no Paragraph -/
def NotPara (id : Nat) (s : St) : Prop := id < s.nodes.length ∧ (s.nodes.getD id default).kind ≠ .paragraph

instance stableNotPara (id : Nat) : Stable (NotPara id) where
  ronly := fun _ _ _ h => h
  mod := fun s i f hf h => ⟨by simpa using h.1, by rw [kind_set s i f hf]; exact h.2⟩
  new := fun s n h => ⟨by have := h.1; simp; omega, by rw [kind_append s n id h.1]; exact h.2⟩

theorem PNE.mod {s : St} (h : PNE s) (id : Nat) (f : Blocks.Node → Blocks.Node)
    (hf : ∀ n, (f n).kind = n.kind) (hl : LinesKept f (s.nodes.getD id default)) :
    PNE { s with nodes := s.nodes.set id (f (s.nodes.getD id default)) } := by
  intro i hk
  show ((s.nodes.set id (f (s.nodes.getD id default))).getD i default).lines ≠ []
  have hk' : ((s.nodes.set id (f (s.nodes.getD id default))).getD i default).kind = .paragraph := hk
  rw [getD_set] at hk' ⊢
  split
  · rename_i hi
    rw [if_pos hi] at hk'
    rw [hf] at hk'
    exact hl hk' (h id hk')
  · rename_i hi
    rw [if_neg hi] at hk'
    exact h i hk'

theorem PNE.new {s : St} (h : PNE s) (n : Blocks.Node) (hn : n.kind = .paragraph → n.lines ≠ []) :
    PNE { s with nodes := s.nodes ++ [n] } := by
  intro i hk
  show ((s.nodes ++ [n]).getD i default).lines ≠ []
  have hk' : ((s.nodes ++ [n]).getD i default).kind = .paragraph := hk
  rw [getD_append] at hk' ⊢
  split
  · rename_i hi; rw [if_pos hi] at hk'; exact h i hk'
  · rename_i hi
    rw [if_neg hi] at hk'
    split
    · rename_i h2; rw [if_pos h2] at hk'; exact hn hk'
    · rename_i h2; rw [if_neg h2] at hk'; cases hk'

instance : Walk0 PNE False True where
  rd := fun _ _ h => h
  pc := fun _ _ _ h => h
  mod := fun _ id f hf hl h => h.mod id f (fun n => (hf n).1) (hl trivial)
  new := fun _ n _ _ hl h => h.new n hl
  edge := fun _ p _ g _ _ h =>
    h.mod p (fun n : Blocks.Node => { n with children := g n.children }) (fun _ => rfl) (fun _ hl => hl)

instance : Stack (fun s => PNE s ∧ J2 s) := stackWithJ2 fun _ _ h => h

theorem pj_iff (A : St → Prop) : (fun s => (PNE s ∧ J2 s) ∧ A s) = PJ A :=
  funext fun _ => propext ⟨fun h => ⟨h.1.1, h.1.2, h.2⟩, fun h => ⟨⟨h.1, h.2.1⟩, h.2.2⟩⟩

instance {A : St → Prop} [Stable A] : Walk (PJ A) False True := pj_iff A ▸ inferInstance

instance {A : St → Prop} [Stable A] : Stack (PJ A) := pj_iff A ▸ inferInstance

theorem pj_init (src : Bytes) : PJ (fun _ => True) (initSt src) := by
  refine ⟨fun i hk => ?_, fun b hb => by simp [initSt] at hb, trivial⟩
  exfalso
  cases i with
  | zero => simp [initSt] at hk
  | succ k =>
    simp only [initSt, List.getD_eq_getElem?_getD, List.getElem?_cons_succ, List.getElem?_nil, Option.getD_none] at hk
    rw [default_kind] at hk
    cases hk

theorem runT_pj {pts : List PT} (hp : ∀ (B : St → Prop) [Stable B], PTsKeep (PJ B) pts) (src : Bytes) (st : St)
    (h : runT pts src = .ok st) : PNE st ∧ J2 st :=
  Side.runT_keeps (J := fun s => PNE s ∧ J2 s) (fun _ h => h.2) (fun B _ => pj_iff B ▸ hp B) src
    ⟨(pj_init src).1, (pj_init src).2.1⟩ st h

end GM.E2E.PJ
end E2EPara
