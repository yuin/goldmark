import GM.Proof.QuoteSimDriver
import GM.Proof.QuoteSimList
import GM.Proof.BlocksSpecList

/-
  part Opens — "a line that is not blank always opens a block" (unary facts about run A, `OT`):
  from a state related by `SR` (only A's half is used: the reader stands at position `p` of line `k`, no padding,
  tab-free source) with a rest of line that is not blank,
  * `paragraphParser.Open` builds a paragraph (the left-trimmed segment is not empty);
  * `codeBlockParser.Open` builds a code block when the line is indented by more than three columns
    (`IndentPosition(line, offset, 4)` finds its position).
  With `tryParsers_sim` / `openBlocksLoop_sim` (every candidate list ends with code block, paragraph; a declining
  `Open` leaves the reader where it was) this is what makes run A read every line (`ReadToEnd` of GM.Proof.QuoteSimMain).
-/
section Opens
namespace GM.Blocks
open GM GM.Text GM.Spec GM.Proof.Reader

theorem ite_run_inv {α} {c : Prop} [Decidable c] {x y : M α} {s : St} {r : Except Panic (α × St)}
    (h : (if c then x else y) s = r) : x s = r ∨ y s = r := by
  split at h
  · exact .inl h
  · exact .inr h

theorem qs_takeWhile_lt_of_not_all {α} (q : α → Bool) : ∀ (l : List α), l.all q = false → (l.takeWhile q).length < l.length
  | [], h => by simp at h
  | a :: l, h => by
    simp only [List.takeWhile]
    by_cases ha : q a = true
    · rw [ha]
      have : l.all q = false := by simpa [List.all_cons, ha] using h
      have := qs_takeWhile_lt_of_not_all q l this
      simp only [List.length_cons]; omega
    · have : q a = false := by simpa using ha
      rw [this]; simp

/-- a rest of line that is not blank: there is a rest of line, and its leading white space is shorter than it -/
theorem nbv_facts {src : Bytes} {ls p : Nat} (h : NBV src ls p) :
    p < lineEnd src ls ∧ isBlank (sub src p (lineEnd src ls)) = false ∧
      trimLeftSpaceLength (sub src p (lineEnd src ls)) < lineEnd src ls - p := by
  unfold NBV viewA at h
  by_cases hp : p < lineEnd src ls
  · rw [if_pos hp] at h
    simp only [Option.getD_some] at h
    refine ⟨hp, h, ?_⟩
    have := qs_takeWhile_lt_of_not_all isSpace _ (by unfold isBlank at h; exact h)
    rw [length_sub src (lineEnd_le src ls)] at this
    exact this
  · rw [if_neg hp] at h
    simp [isBlank] at h

/-- on a rest of line that is not blank `paragraphParser.Open` builds a paragraph -/
theorem paragraphOpen_opens {src k ls p} (q : Nat) {sA sB : St} {a : Option Nat × PState} {sA' : St}
    (h : SR src k ls p sA sB) (hnb : NBV src ls p) (e : paragraphOpen q sA = .ok (a, sA')) : a.1 ≠ none := by
  obtain ⟨hp, _, hlen⟩ := nbv_facts hnb
  unfold paragraphOpen at e
  obtain ⟨x1, s1, e1, e⟩ := bind_inv_u e
  obtain ⟨y1, t1, _, hx1, _, h1⟩ := peekLine_s2 h x1 s1 e1
  subst hx1
  simp only at e
  obtain ⟨x2, s2, e2, e⟩ := bind_inv_u e
  obtain ⟨y2, t2, _, hx2, _, h2⟩ := source_s2 h1 x2 s2 e2
  rw [hx2] at e
  obtain ⟨t, et, _, ht1, ht2, ht3, ht4⟩ := trimLeftSpace_q (segA_in h.r.inl)
  obtain ⟨x3, s3, e3, e⟩ := bind_inv_u e
  rw [et] at e3
  cases e3
  have hne : t.isEmpty = false := by
    have hs : (segA src ls p).start = (p : Int) := rfl
    have hst : (segA src ls p).stop = (lineEnd src ls : Int) := rfl
    rw [hs, hst] at ht4
    rw [hst] at ht1
    simp only [Int.toNat_natCast] at ht4
    simp only [Segment.isEmpty, Bool.and_eq_false_iff, decide_eq_false_iff_not]
    left
    omega
  rw [hne] at e
  simp only [Bool.false_eq_true, if_false] at e
  obtain ⟨n, s4, _, e⟩ := bind_inv_u e
  obtain ⟨_, s5, _, e⟩ := bind_inv_u e
  obtain ⟨_, s6, _, e⟩ := bind_inv_u e
  cases e
  simp

theorem indentPosition_of_width (bs : Bytes) (htf : ∀ c ∈ bs, c ≠ 9) (lo lo' : Int)
    (h : 3 < (indentWidthI bs lo).1) : 0 ≤ (indentPosition bs lo' 4).1 :=
  indentPosition_tf_nonneg_ls bs htf lo' lo 4 (by omega) (by omega)

/-- on a rest of line that is not blank and is indented by more than three columns `codeBlockParser.Open` builds a
    code block -/
theorem codeOpen_opens {src k ls p} (q : Nat) {sA sB : St} {a : Option Nat × PState} {sA' : St} (lo : Int)
    (h : SR src k ls p sA sB) (hnb : NBV src ls p) (hw : 3 < (indentWidthI ((viewA src ls p).getD []) lo).1)
    (e : codeOpen q sA = .ok (a, sA')) : a.1 ≠ none := by
  unfold codeOpen at e
  obtain ⟨x1, s1, e1, e⟩ := bind_inv_u e
  obtain ⟨y1, t1, _, hx1, _, h1⟩ := peekLine_s2 h x1 s1 e1
  subst hx1
  simp only at e
  obtain ⟨lo', s2, e2, e⟩ := bind_inv_u e
  have htf := viewA_tf_la h.r.tf ls p
  have hpos := indentPosition_of_width _ htf lo lo' hw
  generalize indentPosition ((viewA src ls p).getD []) lo' 4 = pp at e hpos
  obtain ⟨pos, padding⟩ := pp
  simp only at e hpos
  have hc : (decide (pos < 0) || isBlank ((viewA src ls p).getD [])) = false := by
    rw [hnb]; simp; omega
  rw [hc] at e
  simp only [Bool.false_eq_true, if_false] at e
  obtain ⟨n, s4, _, e⟩ := bind_inv_u e
  obtain ⟨_, s5, _, e⟩ := bind_inv_u e
  cases e
  simp

/-! ### the list parsers decline on sources in which no position starts a list item -/

theorem noItem_def (src : Bytes) : NoItem src ↔
    ∀ p, p < src.length → (matchesListItem (sub src p (lineEnd src p)) true).2 = ListTyp.notList := Iff.rfl

instance (src : Bytes) : Decidable (NoItem src) := by unfold NoItem; exact Nat.decidableBallLT _ _

theorem noItem_view {src k ls p} (hno : NoItem src) (hi : InL src k ls p) :
    (matchesListItem ((viewA src ls p).getD []) true).2 = ListTyp.notList := by
  unfold viewA
  by_cases hp : p < lineEnd src ls
  · rw [if_pos hp]
    have := hno p (hi.lt_iff.mpr hp)
    rw [hi.lineEnd_eq] at this
    exact this
  · rw [if_neg hp]; rfl

/-- on a line that is no list item `listParser.Open` is done after the match -/
theorem listOpenLine_notList (parent : Nat) (lastNode : Option Node) (line : Bytes)
    (h : (matchesListItem line true).2 = ListTyp.notList) :
    listOpenLine parent lastNode line = pure (none, stNoChildren) := by
  unfold listOpenLine
  generalize matchesListItem line true = mt at h
  obtain ⟨m, typ⟩ := mt
  subst h
  rfl

/-- `listParser.Open` behind the lookup of the last opened block's node -/
theorem listOpenRest_declines {src k ls p} (hno : NoItem src) (q : Nat) (lastNode : Option Node) {sA sB : St}
    {a : Option Nat × PState} {sA' : St} (h : SR src k ls p sA sB) (e : listOpenRest q lastNode sA = .ok (a, sA')) :
    a.1 = none ∧ sA'.nodes = sA.nodes := by
  unfold listOpenRest at e
  obtain ⟨pc, s2, e2, e⟩ := bind_inv_u e
  cases e2
  rcases ite_run_inv e with e | e
  · cases e
    exact ⟨rfl, rfl⟩
  · obtain ⟨x1, s3, e3, e⟩ := bind_inv_u e
    have hn3 : s3.nodes = sA.nodes := (peekLine_keeps_ls e3).1
    obtain ⟨y1, t1, _, hx1, _, _⟩ := peekLine_s2 h x1 s3 e3
    subst hx1
    change listOpenLine q lastNode ((viewA src ls p).getD []) s3 = _ at e
    rw [listOpenLine_notList q lastNode _ (noItem_view hno h.r.inl)] at e
    cases e
    exact ⟨rfl, hn3⟩

/-- `listParser.Open` declines, leaving the node store alone -/
theorem listOpen_declines {src k ls p} (hno : NoItem src) (q : Nat) {sA sB : St} {a : Option Nat × PState} {sA' : St}
    (h : SR src k ls p sA sB) (e : listOpen q sA = .ok (a, sA')) : a.1 = none ∧ sA'.nodes = sA.nodes := by
  rw [listOpen_eq] at e
  obtain ⟨last, s0, e0, e⟩ := bind_inv_u e
  cases e0
  split at e
  · obtain ⟨n, s1, e1, e⟩ := bind_inv_u e
    cases e1
    exact listOpenRest_declines hno q (some _) h e
  · exact listOpenRest_declines hno q none h e

/-- `listItemParser.Open` declines when its parent is no List -/
theorem listItemOpen_declines (q : Nat) {sA : St} {a : Option Nat × PState} {sA' : St} (hu : UStore sA.nodes)
    (e : listItemOpen q sA = .ok (a, sA')) : a.1 = none ∧ sA'.nodes = sA.nodes := by
  unfold listItemOpen at e
  obtain ⟨pn, s0, e0, e⟩ := bind_inv_u e
  cases e0
  have hk : ((sA.nodes.getD q default).kind != Kind.list) = true := by
    have := (hu.getD q).kind.1
    simpa using this
  rw [if_pos hk] at e
  cases e
  exact ⟨rfl, rfl⟩

/-! ### the setext heading parser declines on sources in which no position starts a setext heading bar -/

/-- the peeked line of run A is no bar (or the matcher panics on it) -/
theorem noBar_view {src k ls p} (hnb : NoBar src) (hi : InL src k ls p) (c : UInt8) :
    matchesSetextHeadingBar ((viewA src ls p).getD []) ≠ .ok (c, true) := by
  unfold viewA
  by_cases hp : p < lineEnd src ls
  · rw [if_pos hp]
    have := hnb p (hi.lt_iff.mpr hp) c
    rw [hi.lineEnd_eq] at this
    exact this
  · rw [if_neg hp]
    simp only [Option.getD_none, matchesSetextHeadingBar_nil]
    intro h; cases h

/-- `setextHeadingParser.Open` declines, leaving the node store and the context alone -/
theorem setextOpen_declines {src k ls p} (hnb : NoBar src) (q : Nat) {sA sB : St} {a : Option Nat × PState} {sA' : St}
    (h : SR src k ls p sA sB) (e : bpOpen .setext q sA = .ok (a, sA')) :
    a.1 = none ∧ sA'.nodes = sA.nodes ∧ sA'.pc = sA.pc := by
  change setextOpen q sA = .ok (a, sA') at e
  unfold setextOpen at e
  obtain ⟨last, s0, e0, e⟩ := bind_inv_u e
  rw [lastOpenedBlock_eq] at e0
  cases e0
  cases hl : sA.pc.opened.getLast? with
  | none =>
    rw [hl] at e
    cases e
    exact ⟨rfl, rfl, rfl⟩
  | some lb =>
    rw [hl] at e
    dsimp only at e
    obtain ⟨ln, s1, e1, e⟩ := bind_inv_u e
    cases e1
    split at e
    · cases e
      exact ⟨rfl, rfl, rfl⟩
    · obtain ⟨x1, s3, e3, e⟩ := bind_inv_u e
      obtain ⟨hn3, hp3⟩ := peekLine_keeps_ls e3
      obtain ⟨y1, t1, _, hx1, _, _⟩ := peekLine_s2 h x1 s3 e3
      subst hx1
      simp only at e
      obtain ⟨x2, s4, e4, e⟩ := bind_inv_u e
      have hbar := noBar_view hnb h.r.inl
      cases hm : matchesSetextHeadingBar ((viewA src ls p).getD []) with
      | error x => rw [hm] at e4; cases e4
      | ok v =>
        obtain ⟨c, ok⟩ := v
        rw [hm] at e4
        cases e4
        cases ok with
        | true => exact absurd hm (hbar c)
        | false =>
          simp only [Bool.not_false, if_true] at e
          cases e
          exact ⟨rfl, hn3, hp3⟩

/-- the unary facts `OT`, for every source: the paragraph / code block parsers open on a rest of line that is not blank;
    the clauses about declining parsers are only asked for sources in which no position starts a list item / a setext
    heading bar -/
theorem ot_lists (src : Bytes) : OT src where
  para := fun _ _ _ q _ _ _ _ h hnb e => paragraphOpen_opens q h hnb e
  code := fun _ _ _ q _ _ _ _ lo h hnb hw e => codeOpen_opens q lo h hnb hw e
  lsim := by
    intro bp hbp
    cases bp <;> first | exact listOpen_sim src | exact listItemOpen_sim src | cases hbp
  ldecl := by
    intro bp hbp hno k ls p q sA sB a sA' h hu e
    cases bp <;> first | exact listOpen_declines hno q h e | exact listItemOpen_declines q hu e | cases hbp
  sdecl := fun hnb _ _ _ q _ _ _ _ h e =>
    ⟨(setextOpen_declines hnb q h e).1, (setextOpen_declines hnb q h e).2.1⟩

/-- `ot_lists`, as it is asked for the class of sources without a list item position; `hno` is not needed -/
theorem ot_all (src : Bytes) (hno : NoItem src) : OT src := ot_lists src

end GM.Blocks
end Opens

/-
  part Bar — `NoBar src` (no position of the source starts a setext heading bar; defined in QuoteSimDriver) is
  decidable. The setext heading parser declines on such sources (`setextOpen_declines` above).
  At the end of the source the peeked line is `none`, read as `[]`, on which `matchesSetextHeadingBar` panics
  (`line[len-1]`), so a successful run never is at the end of the source behind a paragraph.
-/
section Bar
namespace GM.Blocks
open GM GM.Text GM.Spec GM.Proof.Reader

/-- `matchesSetextHeadingBar` accepts the line -/
def isBar (line : Bytes) : Bool :=
  match matchesSetextHeadingBar line with
  | .ok (_, true) => true
  | _ => false

theorem isBar_false_iff (line : Bytes) :
    isBar line = false ↔ ∀ c, matchesSetextHeadingBar line ≠ .ok (c, true) := by
  unfold isBar
  constructor
  · intro h c hc
    rw [hc] at h
    cases h
  · intro h
    split
    · next c hc => exact absurd hc (h c)
    · rfl

theorem noBar_iff (src : Bytes) :
    NoBar src ↔ ∀ p, p < src.length → isBar (sub src p (lineEnd src p)) = false := by
  unfold NoBar
  constructor
  · intro h p hp; exact (isBar_false_iff _).mpr (h p hp)
  · intro h p hp; exact (isBar_false_iff _).mp (h p hp)

instance (src : Bytes) : Decidable (NoBar src) :=
  decidable_of_iff _ (noBar_iff src).symm

example : NoBar (strBytes "a\n\n- b\n***\n") := by decide +kernel
example : ¬ NoBar (strBytes "a\n===\n") := by decide +kernel
example : ¬ NoBar (strBytes "a\n - \n") := by decide +kernel

end GM.Blocks
end Bar
