/-
  GM.Proof.Resolve — util.ResolveNumericReferences / ResolveEntityNames / UnescapePunctuations and the single-pass
  resolver `unescapeAndResolve` used by URLEscape keep valid UTF-8 valid.
-/
import GM.Model.Util
import GM.Spec.UrlEsc
import GM.Proof.Utf8

section Resolve

namespace GM.Proof
open GM

theorem u8run_isAscii (l : Bytes) (h : Spec.isAscii l = true) (st : U8St) :
    u8run st l = if l = [] then st else if st = .s0 then .s0 else .bad := by
  induction l generalizing st with
  | nil => rfl
  | cons c l ih =>
    simp only [Spec.isAscii, List.all_cons, Bool.and_eq_true] at h
    rw [u8run_cons, u8step_ascii st c (of_decide_eq_true h.1), ih h.2]
    by_cases hst : st = .s0
    · subst hst; simp
    · simp [hst]

/-- an ASCII byte in front of a string accepted from `st`: `st` was the start state -/
theorem u8run_ascii_head {st : U8St} {c : UInt8} {l : Bytes} (hc : c < 128)
    (h : u8run st (c :: l) = .s0) : st = .s0 ∧ u8run .s0 l = .s0 := by
  rw [u8run_cons, u8step_ascii st c hc] at h
  by_cases hst : st = .s0
  · subst hst; exact ⟨rfl, by simpa using h⟩
  · simp only [hst, if_false] at h; rw [u8run_bad] at h; cases h

theorem u8run_ascii_mid {mid rest : Bytes} (hm : Spec.isAscii mid = true) (h : u8run .s0 (mid ++ rest) = .s0) :
    u8run .s0 rest = .s0 := by
  rw [u8run_append, u8run_isAscii mid hm] at h
  by_cases hmid : mid = []
  · simpa [hmid] using h
  · simpa [hmid] using h

theorem isPunct_ascii : ∀ c : UInt8, isPunct c = true → c < 128 := by
  apply forall_uint8; decide +kernel

theorem unescapePunct_valid_st (v : Bytes) : ∀ st, u8run st v = .s0 → u8run st (unescapePunct v) = .s0 := by
  fun_induction unescapePunct v with
  | case1 => intro st h; exact h
  | case2 c => intro st h; exact h
  | case3 c d rest hcd ih =>
    intro st h
    simp only [Bool.and_eq_true, beq_iff_eq] at hcd
    obtain ⟨hc, hd⟩ := hcd
    subst hc
    obtain ⟨hst, h1⟩ := u8run_ascii_head (by decide) h
    subst hst
    have hd' := isPunct_ascii d hd
    obtain ⟨_, h2⟩ := u8run_ascii_head hd' h1
    rw [u8run_cons, u8step_ascii _ d hd']
    exact ih _ h2
  | case4 c d rest hcd ih =>
    intro st h
    rw [u8run_cons] at h ⊢
    exact ih _ h

theorem unescapePunct_valid (v : Bytes) (h : validUtf8 v = true) : validUtf8 (unescapePunct v) = true := by
  simp only [validUtf8, beq_iff_eq] at *
  exact unescapePunct_valid_st v _ h

theorem spanB_all (p : UInt8 → Bool) (l : Bytes) : (spanB p l).1.all p = true := by
  induction l with
  | nil => rfl
  | cons c cs ih =>
    simp only [spanB]; split
    · rename_i h; simp [h, ih]
    · rfl

theorem all_imp {p q : UInt8 → Bool} (hpq : ∀ c, p c = true → q c = true) (l : Bytes)
    (h : l.all p = true) : l.all q = true := by
  induction l with
  | nil => rfl
  | cons c cs ih =>
    simp only [List.all_cons, Bool.and_eq_true] at h ⊢
    exact ⟨hpq c h.1, ih h.2⟩

theorem isNumeric_ascii : ∀ c : UInt8, isNumeric c = true → c < 128 := by
  apply forall_uint8; decide +kernel
theorem isAlnum_ascii : ∀ c : UInt8, isAlnum c = true → c < 128 := by
  apply forall_uint8; decide +kernel

/-- whenever a numeric reference is recognised, the consumed text is ASCII and the replacement is the
    encoding of a rune produced by `runeOfUint32` -/
theorem tryNumRef_shape {cs out rest : Bytes} (h : tryNumRef cs = some (out, rest)) :
    ∃ mid n, cs = mid ++ rest ∧ Spec.isAscii mid = true ∧ out = encodeRune (runeOfUint32 n) := by
  unfold tryNumRef at h
  split at h
  · rename_i nc r2
    split at h
    · rename_i hx
      split at h
      · rename_i r4 heq
        split at h
        · cases h
        · cases h
          have happ := spanB_append isHex r2
          rw [heq] at happ
          refine ⟨35 :: nc :: ((spanB isHex r2).1 ++ [59]), _, ?_, ?_, rfl⟩
          · simp only [List.cons_append, List.append_assoc, List.nil_append]; rw [happ]
          · have h1 := all_imp (q := fun c => decide (c < 128)) (fun c h => decide_eq_true (isHex_ascii c h)) _ (spanB_all isHex r2)
            have hnc : nc < 128 := by
              simp only [Bool.or_eq_true, beq_iff_eq] at hx
              rcases hx with hx | hx <;> subst hx <;> decide
            simp only [Spec.isAscii, List.all_cons, List.all_append, h1, hnc, List.all_nil]
            decide
      · cases h
    · split at h
      · split at h
        · rename_i r4 heq
          split at h
          · cases h
            have happ := spanB_append isNumeric (nc :: r2)
            rw [heq] at happ
            refine ⟨35 :: ((spanB isNumeric (nc :: r2)).1 ++ [59]), _, ?_, ?_, rfl⟩
            · simp only [List.cons_append, List.append_assoc, List.nil_append]; rw [happ]
            · have h1 := all_imp (q := fun c => decide (c < 128)) (fun c h => decide_eq_true (isNumeric_ascii c h)) _ (spanB_all isNumeric (nc :: r2))
              simp only [Spec.isAscii, List.all_cons, List.all_append, h1, List.all_nil]
              decide
          · cases h
        · cases h
      · cases h
  · cases h

theorem resolveNumeric_valid_st (v : Bytes) : ∀ st, u8run st v = .s0 → u8run st (resolveNumeric v) = .s0 := by
  fun_induction resolveNumeric v with
  | case1 => intro st h; exact h
  | case2 c cs hc out rest ht ih =>
    intro st h
    have hc' : c = 38 := by simpa using hc
    subst hc'
    obtain ⟨mid, n, hcs, hmid, hout⟩ := tryNumRef_shape ht
    obtain ⟨hst, h1⟩ := u8run_ascii_head (by decide) h
    subst hst
    rw [hcs] at h1
    have h2 := u8run_ascii_mid hmid h1
    rw [u8run_append, hout, encodeRune_valid]
    exact ih _ h2
  | case3 c cs hc ht ih =>
    intro st h
    rw [u8run_cons] at h ⊢
    exact ih _ h
  | case4 c cs hc ih =>
    intro st h
    rw [u8run_cons] at h ⊢
    exact ih _ h

theorem resolveNumeric_valid (v : Bytes) (h : validUtf8 v = true) : validUtf8 (resolveNumeric v) = true := by
  simp only [validUtf8, beq_iff_eq] at *
  exact resolveNumeric_valid_st v _ h

/-- what `ToValidRune(rune(parsed value))` yields: always a valid, non-zero rune; zero, surrogates and
    everything above U+10FFFF (including values ≥ 2^31, which wrap to negative `rune`s) become U+FFFD -/
theorem runeOfUint32_spec (n : Nat) :
    validRune (runeOfUint32 n) = true ∧ runeOfUint32 n ≠ 0 ∧
    ((n = 0 ∨ 0x10FFFF < n ∨ (0xD800 ≤ n ∧ n ≤ 0xDFFF)) → runeOfUint32 n = 0xFFFD) ∧
    (¬(n = 0 ∨ 0x10FFFF < n ∨ (0xD800 ≤ n ∧ n ≤ 0xDFFF)) → runeOfUint32 n = n) := by
  unfold runeOfUint32 toValidRune validRune
  by_cases h1 : n ≥ 2147483648
  · rw [if_pos h1]
    exact ⟨by decide, by decide, fun _ => rfl, fun h => absurd (Or.inr (Or.inl (by omega))) h⟩
  · rw [if_neg h1]
    by_cases hv : n < 0xD800 ∨ (0xDFFF < n ∧ n ≤ 0x10FFFF)
    · have hb : (decide (n < 55296) || decide (57343 < n) && decide (n ≤ 1114111)) = true := by
        simpa using hv
      by_cases h0 : n = 0
      · subst h0; exact ⟨by decide, by decide, fun _ => rfl, fun h => absurd (Or.inl rfl) h⟩
      · have e : (if (n == 0 || !(decide (n < 55296) || decide (57343 < n) && decide (n ≤ 1114111))) = true
            then 65533 else n) = n := by
          rw [hb]; simp [h0]
        rw [e]
        exact ⟨hb, h0, fun h => by omega, fun _ => rfl⟩
    · have hb : (decide (n < 55296) || decide (57343 < n) && decide (n ≤ 1114111)) = false := by
        simp only [Bool.or_eq_false_iff, Bool.and_eq_false_iff, decide_eq_false_iff_not]
        omega
      have e : (if (n == 0 || !(decide (n < 55296) || decide (57343 < n) && decide (n ≤ 1114111))) = true
          then 65533 else n) = 65533 := by
        rw [hb]; simp
      rw [e]
      exact ⟨by decide, by decide, fun _ => rfl, fun h => by omega⟩

theorem lookup_mem {α β} [BEq α] [LawfulBEq α] (l : List (α × β)) (k : α) (v : β) (h : l.lookup k = some v) :
    (k, v) ∈ l := by
  induction l with
  | nil => cases h
  | cons e l ih =>
    obtain ⟨k', v'⟩ := e
    simp only [List.lookup] at h
    split at h
    · rename_i heq
      have : k = k' := by simpa using heq
      cases h; subst this; exact List.mem_cons_self
    · exact List.mem_cons_of_mem _ (ih h)

/-- every expansion in the regenerated HTML5 entity table is valid UTF-8 (all 2,124 entries, by kernel
    evaluation) -/
theorem entities_valid : entityTable.all (fun e => validUtf8 e.2) = true := by decide +kernel

theorem lookupEntity_valid {name out : Bytes} (h : lookupEntity name = some out) : u8run .s0 out = .s0 := by
  have hm := lookup_mem _ _ _ h
  have := List.all_eq_true.mp entities_valid _ hm
  simpa [validUtf8] using this

theorem tryEntity_shape {cs out rest : Bytes} (h : tryEntity cs = some (out, rest)) :
    ∃ mid name, cs = mid ++ rest ∧ Spec.isAscii mid = true ∧ lookupEntity name = some out := by
  unfold tryEntity at h
  split at h
  · cases h
  · split at h
    · rename_i r4 heq
      split at h
      · cases h
      · simp only [Option.map_eq_some_iff] at h
        obtain ⟨e, he, hpair⟩ := h
        cases hpair
        have happ := spanB_append isAlnum cs
        rw [heq] at happ
        refine ⟨(spanB isAlnum cs).1 ++ [59], _, ?_, ?_, he⟩
        · simp only [List.append_assoc, List.cons_append, List.nil_append]; rw [happ]
        · have h1 := all_imp (q := fun c => decide (c < 128)) (fun c h => decide_eq_true (isAlnum_ascii c h)) _ (spanB_all isAlnum cs)
          simp only [Spec.isAscii, List.all_append, h1, List.all_cons, List.all_nil]
          decide
    · cases h

theorem resolveEntities_valid_st (v : Bytes) : ∀ st, u8run st v = .s0 → u8run st (resolveEntities v) = .s0 := by
  fun_induction resolveEntities v with
  | case1 => intro st h; exact h
  | case2 c cs hc out rest ht ih =>
    intro st h
    have hc' : c = 38 := by simpa using hc
    subst hc'
    obtain ⟨mid, name, hcs, hmid, hout⟩ := tryEntity_shape ht
    obtain ⟨hst, h1⟩ := u8run_ascii_head (by decide) h
    subst hst
    rw [hcs] at h1
    have h2 := u8run_ascii_mid hmid h1
    rw [u8run_append, lookupEntity_valid hout]
    exact ih _ h2
  | case3 c cs hc ht ih =>
    intro st h
    rw [u8run_cons] at h ⊢
    exact ih _ h
  | case4 c cs hc ih =>
    intro st h
    rw [u8run_cons] at h ⊢
    exact ih _ h

theorem resolveEntities_valid (v : Bytes) (h : validUtf8 v = true) : validUtf8 (resolveEntities v) = true := by
  simp only [validUtf8, beq_iff_eq] at *
  exact resolveEntities_valid_st v _ h

end GM.Proof
end Resolve

section ResolveAll

namespace GM.Proof
open GM

theorem isRefBodyByte_ascii (c : UInt8) (h : isRefBodyByte c = true) : c < 128 := by
  unfold isRefBodyByte at h
  rcases Bool.or_eq_true _ _ |>.mp h with h | h
  · exact isAlnum_ascii c h
  · have : c = 35 := by simpa using h
    subst this; decide

theorem takeWhile_ascii (l : Bytes) : Spec.isAscii (l.takeWhile isRefBodyByte) = true := by
  induction l with
  | nil => rfl
  | cons c cs ih =>
    simp only [List.takeWhile]
    split
    · rename_i hc
      unfold Spec.isAscii at ih ⊢
      rw [List.all_cons, ih]
      simp [isRefBodyByte_ascii c hc]
    · rfl

theorem isAscii_append {a b : Bytes} (ha : Spec.isAscii a = true) (hb : Spec.isAscii b = true) :
    Spec.isAscii (a ++ b) = true := by
  unfold Spec.isAscii at *; rw [List.all_append, ha, hb]; rfl

theorem unescapeAndResolve_valid_st (v : Bytes) :
    ∀ st, u8run st v = .s0 → u8run st (unescapeAndResolve v) = .s0 := by
  fun_induction unescapeAndResolve v with
  | case1 => intro st h; exact h
  | case2 c => intro st h; exact h
  | case3 c d rest0 hcd ih =>
    intro st h
    simp only [Bool.and_eq_true, beq_iff_eq] at hcd
    obtain ⟨hc, hd⟩ := hcd
    subst hc
    obtain ⟨hst, h1⟩ := u8run_ascii_head (by decide) h
    subst hst
    have hd' := isPunct_ascii d hd
    obtain ⟨_, h2⟩ := u8run_ascii_head hd' h1
    rw [u8run_cons, u8step_ascii _ d hd']
    exact ih _ h2
  | case4 c d rest0 hcd hc rest hdrop ref r hr ih =>
    -- `&` + body + `;`: the candidate was resolved
    intro st h
    have hc' : c = 38 := by simpa using hc
    subst hc'
    obtain ⟨hst, h1⟩ := u8run_ascii_head (by decide) h
    subst hst
    have hsplit : d :: rest0 = (d :: rest0).takeWhile isRefBodyByte ++ 59 :: rest := by
      have := List.takeWhile_append_dropWhile (p := isRefBodyByte) (l := d :: rest0)
      rw [hdrop] at this; exact this.symm
    have hbody := takeWhile_ascii (d :: rest0)
    rw [hsplit] at h1
    have h2 := u8run_ascii_mid hbody h1
    obtain ⟨_, h3⟩ := u8run_ascii_head (c := 59) (by decide) h2
    -- the candidate itself is ASCII, hence valid from the start state
    have href : u8run .s0 ref = .s0 := by
      have hasc : Spec.isAscii ref = true := by
        show Spec.isAscii (38 :: ((d :: rest0).takeWhile isRefBodyByte ++ [59])) = true
        have : Spec.isAscii ((d :: rest0).takeWhile isRefBodyByte ++ [59]) = true :=
          isAscii_append hbody (by decide)
        unfold Spec.isAscii at this ⊢
        rw [List.all_cons, this]; decide
      rw [u8run_isAscii ref hasc]; simp [ref]
    have hrv : u8run .s0 r = .s0 := by
      show u8run .s0 (if resolveNumeric ref != ref then resolveNumeric ref else resolveEntities ref) = .s0
      split
      · exact resolveNumeric_valid_st ref _ href
      · exact resolveEntities_valid_st ref _ href
    rw [u8run_append, hrv]
    exact ih _ h3
  | case5 c d rest0 hcd hc rest hdrop ref r hr ih =>
    intro st h
    rw [u8run_cons] at h ⊢
    exact ih _ h
  | case6 c d rest0 hcd hc hno ih =>
    intro st h
    rw [u8run_cons] at h ⊢
    exact ih _ h
  | case7 c d rest0 hcd hc ih =>
    intro st h
    rw [u8run_cons] at h ⊢
    exact ih _ h

theorem unescapeAndResolve_valid (v : Bytes) (h : validUtf8 v = true) : validUtf8 (unescapeAndResolve v) = true := by
  simp only [validUtf8, beq_iff_eq] at *
  exact unescapeAndResolve_valid_st v _ h

end GM.Proof
end ResolveAll
