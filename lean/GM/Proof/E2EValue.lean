/-
  GM.Proof.E2EValue — the outcome `Err.value p` of `convertCore` (a `Segment.Value` slice / makeslice panic while the
  tree is handed to the node renderers) reduced to two explicit facts about the parse phases:

    * `RawSegsInRange src st` — in the block store: the lines of the raw blocks (CodeBlock / FencedCodeBlock / HTMLBlock, the
      only lines the renderer reads itself), a fenced block's info segment and an HTML block's closure line satisfy
      `0 ≤ start ≤ stop ≤ len(source)`, `padding ≥ 0` (`Spec.segInRange`; for lines this is C05(c)'s range clause,
      proved for the driver without transformers as GM.Props.Blocks.lines_in_range);
    * `InlineSegsUnpadded` — the segments the inline phase records never carry a negative padding (their RANGE is
      proved: GM.Props.Inlines.text_segments_in_range_and_ordered, under the `WF0` check `convertCore` makes).

  Given both, `Err.value p` is unreachable. Neither is proved in this file: `InlineSegsUnpadded` and the info / closure half of
  `RawSegsInRange` are theorems of GM.Proof.E2EStoreDone (which imports this file).
-/
import GM.Proof.E2ERender
import GM.Proof.InlinesLink
import GM.Proof.LinkRefScan
import GM.Proof.BlocksWF0
import GM.Proof.ConvertX

namespace GM.E2E
open GM GM.Text GM.Convert GM.Spec GM.Inl GM.Proof.InlinesTotal GM.Proof.InlinesReader

theorem value_total {src : Bytes} {s : Segment} (h : segInRange src s) : ∃ v, s.value src = .ok v :=
  ⟨_, GM.Proof.Reader.value_spec src s h⟩

theorem segValues_total {src : Bytes} : ∀ (l : List Segment), (∀ s ∈ l, segInRange src s) → ∃ vs, segValues src l = .ok vs
  | [], _ => ⟨[], by unfold segValues; rfl⟩
  | s :: rest, h => by
    obtain ⟨v, hv⟩ := value_total (h s (by simp))
    obtain ⟨vs, hvs⟩ := segValues_total rest (fun t ht => h t (by simp [ht]))
    exact ⟨v :: vs, by unfold segValues; rw [hv, hvs]; rfl⟩

/-! ### inline nodes: the decoding of every member set resolves; `inlineTree` is the member set `core` -/

end GM.E2E

namespace GM.Proof.ConvertXE2E
open GM GM.Text GM.Spec GM.Inl GM.Proof.InlinesTotal GM.ConvertX GM.Convert GM.E2E

variable {src : Bytes}

mutual
theorem inlineTreeL_total (c : GCfg) : ∀ (n : Inl.Node), (∀ s ∈ segsOf n, segInRange src s) → ∃ t, inlineTreeL c src n = .ok t
  | .text seg soft hard raw, h => by
    obtain ⟨v, hv⟩ := value_total (h seg (by simp [segsOf]))
    exact ⟨_, by unfold inlineTreeL; rw [hv]; rfl⟩
  | .codeSpan ks, h => by
    obtain ⟨ts, hts⟩ := inlineTreesL_total c ks (fun s hs => h s (by simpa [segsOf] using hs))
    exact ⟨_, by unfold inlineTreeL; rw [hts]; rfl⟩
  | .emphasis lv ks, h => by
    obtain ⟨ts, hts⟩ := inlineTreesL_total c ks (fun s hs => h s (by simpa [segsOf] using hs))
    unfold inlineTreeL
    simp only [hts, bind, Except.bind]
    split
    · exact ⟨_, rfl⟩
    · split
      · exact ⟨_, rfl⟩
      · split <;> exact ⟨_, rfl⟩
  | .link im d ti ks, h => by
    obtain ⟨ts, hts⟩ := inlineTreesL_total c ks (fun s hs => h s (by simpa [segsOf] using hs))
    exact ⟨_, by unfold inlineTreeL; rw [hts]; rfl⟩
  | .autoLink email seg, h => by
    have hr := h seg (by simp [segsOf])
    unfold inlineTreeL
    split
    · have hr' : segInRange src ({ seg with forceNewline := false } : Segment) := hr
      obtain ⟨v, hv⟩ := value_total hr'
      exact ⟨_, by rw [hv]; rfl⟩
    · obtain ⟨v, hv⟩ := value_total hr
      exact ⟨_, by rw [hv]; rfl⟩
  | .rawHTML segs, h => by
    obtain ⟨vs, hvs⟩ := segValues_total segs (fun s hs => h s (by simpa [segsOf] using hs))
    exact ⟨_, by unfold inlineTreeL; rw [hvs]; rfl⟩
  | .delim .., _ => ⟨_, by unfold inlineTreeL; rfl⟩
  | .label .., _ => ⟨_, by unfold inlineTreeL; rfl⟩
theorem inlineTreesL_total (c : GCfg) : ∀ (ks : List Inl.Node), (∀ s ∈ segsOfL ks, segInRange src s) →
    ∃ ts, inlineTreesL c src ks = .ok ts
  | [], _ => ⟨[], by unfold inlineTreesL; rfl⟩
  | k :: rest, h => by
    obtain ⟨t, ht⟩ := inlineTreeL_total c k (fun s hs => h s (by simp [segsOfL, hs]))
    obtain ⟨ts, hts⟩ := inlineTreesL_total c rest (fun s hs => h s (by simp [segsOfL, hs]))
    exact ⟨t :: ts, by unfold inlineTreesL; rw [ht, hts]; rfl⟩
end

end GM.Proof.ConvertXE2E

namespace GM.E2E
open GM GM.Text GM.Convert GM.Spec GM.Inl GM.Proof.InlinesTotal GM.Proof.InlinesReader

theorem inlineTree_total {src : Bytes} : ∀ (n : Inl.Node), (∀ s ∈ segsOf n, segInRange src s) → ∃ t, inlineTree src n = .ok t := by
  intro n h
  rw [GM.Proof.ConvertCoreL.inlineTree_eqL]; exact GM.Proof.ConvertXE2E.inlineTreeL_total _ n h

theorem inlineTrees_total {src : Bytes} : ∀ (ks : List Inl.Node), (∀ s ∈ segsOfL ks, segInRange src s) →
    ∃ ts, inlineTrees src ks = .ok ts := by
  intro ks h
  rw [GM.Proof.ConvertCoreL.inlineTrees_eqL]; exact GM.Proof.ConvertXE2E.inlineTreesL_total _ ks h

theorem chain_mem {lo hi : Int} : ∀ {l : List Segment}, chain lo hi l → ∀ s ∈ l, lo ≤ s.start ∧ s.start ≤ s.stop ∧ s.stop ≤ hi
  | [], _, s, hs => by cases hs
  | t :: rest, h, s, hs => by
    simp only [chain] at h
    rcases List.mem_cons.mp hs with rfl | hs'
    · have := chain_le h.2.2
      exact ⟨h.1, h.2.1, this⟩
    · have := chain_mem h.2.2 s hs'
      exact ⟨by omega, this.2.1, this.2.2⟩

/-- the segments the inline phase records never carry a negative padding (with `WF0` lines they are all 0).
    A theorem: `inlineSegsUnpadded` (GM.Proof.E2EStoreDone, which imports this file); a hypothesis here. The range half is
    `GM.Props.Inlines.text_segments_in_range_and_ordered`. -/
def InlineSegsUnpadded : Prop :=
  ∀ (env : Env) (src : Bytes) (lines : List Segment) (kids : List Inl.Node), WF0 src lines →
    parseBlock env src lines = .ok kids → ∀ s ∈ segsOfL kids, 0 ≤ s.padding

theorem inlinePhase_values (hI : InlineSegsUnpadded) {env : Env} {src : Bytes} {n : GM.Blocks.Node} {kids : List Inl.Node}
    (h : inlinePhase true env src n = .ok kids) : ∃ ts, inlineTrees src kids = .ok ts := by
  unfold inlinePhase at h
  split at h
  · cases h; exact ⟨[], by unfold inlineTrees; rfl⟩
  · split at h
    · cases h; exact ⟨[], by unfold inlineTrees; rfl⟩
    · split at h
      · cases h
      · rename_i hg
        have hw : GM.LinkRef.wf0B src n.lines = true := by simpa using hg
        have hwf := GM.Proof.LinkRefTotal.wf0B_sound hw
        have hk := liftErr_ok h
        have hc := GM.Proof.InlinesLink.parseBlock_segments hwf.1 hwf.2 env hk
        apply inlineTrees_total
        intro s hs
        have := chain_mem hc s hs
        exact ⟨this.1, this.2.1, this.2.2, hI env src n.lines kids hwf hk s hs⟩

/-- the segments of a block node the renderer resolves itself are in range -/
structure RawSegsP (src : Bytes) (n : GM.Blocks.Node) : Prop where
  lines : isRawKind n.kind = true → ∀ s ∈ n.lines, segInRange src s
  info : n.kind = .fencedCodeBlock → ∀ s, n.info = some s → segInRange src s
  closure : n.kind = .htmlBlock → n.closure.start ≥ 0 → segInRange src n.closure

def RawSegsInRange (src : Bytes) (st : GM.Blocks.St) : Prop := ∀ n ∈ st.nodes, RawSegsP src n

theorem rawSegsP_default (src : Bytes) : RawSegsP src (default : GM.Blocks.Node) :=
  ⟨fun h => (by cases h), fun h => (by cases h), fun h => (by cases h)⟩

theorem rawSegs_getD {src : Bytes} {s : GM.Blocks.St} (h : RawSegsInRange src s) (i : Nat) :
    RawSegsP src (s.nodes.getD i default) := by
  by_cases hlt : i < s.nodes.length
  · have : s.nodes.getD i default = s.nodes[i] := by simp [List.getD, hlt]
    rw [this]; exact h _ (List.getElem_mem hlt)
  · have : s.nodes.getD i default = default := by
      simp [List.getD, List.getElem?_eq_none (Nat.le_of_not_lt hlt)]
    rw [this]; exact rawSegsP_default src

theorem blockKind_total {src : Bytes} {n : GM.Blocks.Node} (h : RawSegsP src n) : ∃ k, blockKind src n = .ok k := by
  unfold blockKind
  split
  all_goals first
    | exact ⟨_, rfl⟩
    | skip
  · rename_i hk
    obtain ⟨vs, hvs⟩ := segValues_total n.lines (h.lines (by rw [hk]; rfl))
    exact ⟨_, by simp [bind, Except.bind, hvs, pure, Except.pure] <;> rfl⟩
  · rename_i hk
    obtain ⟨vs, hvs⟩ := segValues_total n.lines (h.lines (by rw [hk]; rfl))
    cases hi : n.info with
    | none => exact ⟨_, by simp [bind, Except.bind, hvs, pure, Except.pure] <;> rfl⟩
    | some s =>
      obtain ⟨v, hv⟩ := value_total (h.info hk s hi)
      exact ⟨_, by simp [bind, Except.bind, hvs, hv, pure, Except.pure] <;> rfl⟩
  · rename_i hk
    obtain ⟨vs, hvs⟩ := segValues_total n.lines (h.lines (by rw [hk]; rfl))
    by_cases hc : n.closure.start ≥ 0
    · obtain ⟨v, hv⟩ := value_total (h.closure hk hc)
      exact ⟨_, by simp [bind, Except.bind, hvs, hv, hc, pure, Except.pure] <;> rfl⟩
    · exact ⟨_, by simp [bind, Except.bind, hvs, hc, pure, Except.pure] <;> rfl⟩

/-- the error is a `Segment.Value` panic -/
def Err.isValue : Err → Bool
  | .value _ => true
  | _ => false

mutual
theorem docTree_noValue (hI : InlineSegsUnpadded) (env : Env) (src : Bytes) : ∀ (t : GM.Blocks.Tree) (e : Err),
    treeAll (RawSegsP src) t → docTree true env src t = .error e → Err.isValue e = false
  | .node n cs, e, ha, h => by
    simp only [treeAll] at ha
    unfold docTree at h
    simp only [bind, Except.bind] at h
    cases h1 : docTrees true env src cs with
    | error e1 => rw [h1] at h; cases h; exact docTrees_noValue hI env src cs _ ha.2 h1
    | ok bs =>
      rw [h1] at h
      simp only at h
      cases h2 : inlinePhase true env src n with
      | error e2 =>
        rw [h2] at h; cases h
        unfold inlinePhase at h2
        split at h2
        · cases h2
        · split at h2
          · cases h2
          · split at h2
            · cases h2; rfl
            · obtain ⟨p, rfl⟩ := liftErr_err h2; rfl
      | ok kids =>
        rw [h2] at h
        simp only at h
        obtain ⟨is, his⟩ := inlinePhase_values hI h2
        rw [his] at h
        simp only [liftErr] at h
        obtain ⟨k, hk⟩ := blockKind_total ha.1
        rw [hk] at h
        cases h
theorem docTrees_noValue (hI : InlineSegsUnpadded) (env : Env) (src : Bytes) : ∀ (ts : List GM.Blocks.Tree) (e : Err),
    treesAll (RawSegsP src) ts → docTrees true env src ts = .error e → Err.isValue e = false
  | [], e, _, h => by unfold docTrees at h; cases h
  | t :: rest, e, ha, h => by
    simp only [treesAll] at ha
    unfold docTrees at h
    simp only [bind, Except.bind] at h
    cases h1 : docTree true env src t with
    | error e1 => rw [h1] at h; cases h; exact docTree_noValue hI env src t _ ha.1 h1
    | ok x =>
      rw [h1] at h
      simp only at h
      cases h2 : docTrees true env src rest with
      | error e2 => rw [h2] at h; cases h; exact docTrees_noValue hI env src rest _ ha.2 h2
      | ok xs => rw [h2] at h; cases h
end

theorem convertCore_noValue (hI : InlineSegsUnpadded) (uc : List (Nat × (Bool × Bool))) (o : ROpts) (src : Bytes)
    (hB : ∀ st, blockPhase true src = .ok st → RawSegsInRange src st) (p : Panic) :
    convertCore uc o src ≠ .error (.value p) := by
  intro h
  unfold convertCore at h
  cases hp : parseDoc true uc src with
  | ok t => rw [convertWith_of_tree o hp] at h; cases h
  | error e =>
    rw [convertWith_of_err o hp] at h
    cases h
    unfold parseDoc at hp
    simp only [bind, Except.bind] at hp
    cases hb : blockPhase true src with
    | error q => rw [hb] at hp; simp only [liftErr] at hp; cases hp
    | ok st =>
      rw [hb] at hp
      simp only [liftErr] at hp
      have := docTree_noValue hI _ src _ _ (treeOf_all st.nodes (rawSegs_getD (hB st hb)) _ _) hp
      simp [Err.isValue] at this

/-- what `docTree` needs of a block node -/
structure NodeTot (src : Bytes) (n : GM.Blocks.Node) : Prop where
  raw : RawSegsP src n
  wf0 : isRawKind n.kind = false → n.lines ≠ [] → WF0 src n.lines

theorem wfSegsFromB_complete (src : Bytes) : ∀ (segs : List Segment) (lo : Int),
    WFSegsFrom src lo segs → GM.LinkRef.wfSegsFromB src lo segs = true
  | [], _, _ => rfl
  | s :: rest, lo, h => by
    obtain ⟨h1, h2, h3, h4, h5, h6⟩ := h
    simp only [GM.LinkRef.wfSegsFromB, Bool.and_eq_true, decide_eq_true_eq, Bool.not_eq_true']
    exact ⟨⟨⟨⟨⟨h1, h2⟩, h3⟩, h4⟩, h5⟩, wfSegsFromB_complete src rest s.stop h6⟩

theorem wf0B_complete {src : Bytes} {segs : List Segment} (h : WF0 src segs) : GM.LinkRef.wf0B src segs = true := by
  obtain ⟨⟨hne, hw⟩, hp⟩ := h
  simp only [GM.LinkRef.wf0B, GM.LinkRef.wfSegsB, GM.LinkRef.pad0B, Bool.and_eq_true, Bool.not_eq_true',
    List.all_eq_true, beq_iff_eq]
  refine ⟨⟨?_, wfSegsFromB_complete src segs 0 hw⟩, hp⟩
  cases segs with
  | nil => exact absurd rfl hne
  | cons a b => rfl

/-- what the tree phases need of a node of the store (`NodeTot.wf0` as a predicate) -/
def WFB (Q : Bytes) (b : GM.Blocks.Node) : Prop := isRawKind b.kind = false → b.lines ≠ [] → WF0 Q b.lines

theorem nodeTot_default (src : Bytes) : NodeTot src (default : GM.Blocks.Node) :=
  ⟨rawSegsP_default src, fun _ h => absurd rfl h⟩

theorem isRaw_eq_isRawKind (k : GM.Blocks.Kind) : GM.Proof.BlocksWF0.isRaw k = isRawKind k := by cases k <;> rfl

end GM.E2E
