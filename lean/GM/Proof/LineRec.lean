/-
  GM.Proof.LineRec — lemmas about the line recognisers of GM.Model.LineRec (core Lean only).
-/
import GM.Model.LineRec

namespace GM.Proof.LineRec
open GM GM.LineRec

/-- the line contains no tab byte (decidable) -/
def tabFree (l : Bytes) : Prop := (9 : UInt8) ∉ l
instance (l : Bytes) : Decidable (tabFree l) := by unfold tabFree; infer_instance

/-- number of leading space bytes -/
def leadSp (l : Bytes) : Nat := (l.takeWhile (· == 32)).length

theorem tabFree_cons {b : UInt8} {l : Bytes} : tabFree (b :: l) ↔ b ≠ 9 ∧ tabFree l := by
  simp only [tabFree, List.mem_cons, not_or, ne_eq]
  constructor
  · rintro ⟨h1, h2⟩; exact ⟨fun h => h1 h.symm, h2⟩
  · rintro ⟨h1, h2⟩; exact ⟨fun h => h1 h.symm, h2⟩

theorem tabFree_append {a b : Bytes} : tabFree (a ++ b) ↔ tabFree a ∧ tabFree b := by
  simp [tabFree]

theorem tabFree_nil : tabFree [] := by simp [tabFree]

theorem leadSp_cons_sp (l : Bytes) : leadSp (32 :: l) = leadSp l + 1 := by simp [leadSp]
theorem leadSp_cons_ne {b : UInt8} (h : b ≠ 32) (l : Bytes) : leadSp (b :: l) = 0 := by simp [leadSp, h]

theorem ippLoop_tabfree (c width : Nat) (bs : Bytes) (h : tabFree bs) (i w : Nat) (hw : w ≤ width) :
    ippLoop c width bs i 0 w = (i + min (leadSp bs) (width - w), w + min (leadSp bs) (width - w)) := by
  induction bs generalizing i w with
  | nil => simp [ippLoop, leadSp]
  | cons b bs ih =>
    obtain ⟨hb, hbs⟩ := tabFree_cons.mp h
    unfold ippLoop
    by_cases h32 : b = 32
    · subst h32
      by_cases hlt : w < width
      · simp [hlt, ih hbs (i + 1) (w + 1) (by omega), leadSp_cons_sp]; omega
      · have : width - w = 0 := by omega
        simp [hlt, this]
    · simp [h32, hb, leadSp_cons_ne h32]

theorem indentPosition_tabfree (bs : Bytes) (c width : Nat) (h : tabFree bs) :
    indentPosition bs c width = if width ≤ leadSp bs then ((width : Int), 0) else (-1, -1) := by
  unfold indentPosition indentPositionPadding
  by_cases h0 : width = 0
  · subst h0; simp
  · simp only [beq_iff_eq, h0, if_false, ippLoop_tabfree c width bs h 0 0 (Nat.zero_le _)]
    by_cases hle : width ≤ leadSp bs
    · have : min (leadSp bs) (width - 0) = width := by omega
      simp [hle, this]
    · have : min (leadSp bs) (width - 0) = leadSp bs := by omega
      simp [hle, this]; omega

theorem take_len_takeWhile {α} (p : α → Bool) (l : List α) : l.take (l.takeWhile p).length = l.takeWhile p := by
  induction l with
  | nil => rfl
  | cons a l ih => by_cases h : p a <;> simp [List.takeWhile_cons, h, ih]

theorem drop_len_takeWhile {α} (p : α → Bool) (l : List α) : l.drop (l.takeWhile p).length = l.dropWhile p := by
  induction l with
  | nil => rfl
  | cons a l ih => by_cases h : p a <;> simp [List.takeWhile_cons, List.dropWhile_cons, h, ih]

theorem mem_takeWhile_imp {α} {p : α → Bool} {l : List α} {x : α} (h : x ∈ l.takeWhile p) : p x = true := by
  induction l with
  | nil => simp at h
  | cons a l ih =>
    by_cases ha : p a = true
    · simp only [List.takeWhile_cons, ha, if_true, List.mem_cons] at h
      rcases h with h | h
      · subst h; exact ha
      · exact ih h
    · simp [List.takeWhile_cons, ha] at h

theorem mem_of_mem_dropWhile {α} {p : α → Bool} {l : List α} {x : α} (h : x ∈ l.dropWhile p) : x ∈ l := by
  have := List.takeWhile_append_dropWhile (p := p) (l := l)
  rw [← this]; exact List.mem_append_right _ h

/-- leading indentation bytes -/
def isIndent (b : UInt8) : Bool := b == 32 || b == 9

theorem takeWhile_all {α} (p : α → Bool) (l : List α) (h : l.all p = true) : l.takeWhile p = l := by
  induction l with
  | nil => rfl
  | cons a l ih =>
    simp only [List.all_cons, Bool.and_eq_true] at h
    simp [List.takeWhile_cons, h.1, ih h.2]

theorem takeWhile_head_fails {α} (p : α → Bool) (l : List α) (h : ∀ x ∈ l.head?, p x = false) : l.takeWhile p = [] := by
  cases l with
  | nil => rfl
  | cons a l => have := h a (by simp); simp [List.takeWhile_cons, this]

/-! ### IndentWidth

`IndentWidth` is the column reached over the indent prefix, minus the column it started from (`indentWidthGo_eq`); what
follows about it is read off that. -/

theorem colsFrom_append (v : Nat) (a b : Bytes) : colsFrom v (a ++ b) = colsFrom (colsFrom v a) b := by
  induction a generalizing v with
  | nil => rfl
  | cons c a ih => simp [colsFrom, ih]

theorem colsFrom_tabfree (v : Nat) (a : Bytes) (h : tabFree a) : colsFrom v a = v + a.length := by
  induction a generalizing v with
  | nil => rfl
  | cons c a ih =>
    obtain ⟨hc, ha⟩ := tabFree_cons.mp h
    simp [colsFrom, hc, ih _ ha]; omega

theorem colsFrom_ge (v : Nat) (a : Bytes) : v ≤ colsFrom v a := by
  induction a generalizing v with
  | nil => exact Nat.le_refl _
  | cons c a ih => simp only [colsFrom]; split <;> exact Nat.le_trans (by omega) (ih _)

theorem indentWidthGo_eq (c : Nat) (bs : Bytes) (w p : Nat) :
    indentWidthGo c bs w p =
      (colsFrom (c + w) (bs.takeWhile isIndent) - c, p + (bs.takeWhile isIndent).length) := by
  induction bs generalizing w p with
  | nil => simp [indentWidthGo, colsFrom]
  | cons b bs ih =>
    unfold indentWidthGo
    by_cases h32 : b = 32
    · subst h32
      simp only [beq_self_eq_true, if_true, ih, isIndent, List.takeWhile_cons, Bool.true_or, colsFrom, List.length_cons]
      simp [Nat.add_assoc, Nat.add_comm 1]
    · by_cases h9 : b = 9
      · subst h9
        simp only [show ((9 : UInt8) == 32) = false by decide, Bool.false_eq_true, if_false, beq_self_eq_true, if_true, ih,
          isIndent, List.takeWhile_cons, Bool.or_true, colsFrom, List.length_cons]
        simp [Nat.add_assoc, Nat.add_comm 1]
      · simp [h32, h9, isIndent, colsFrom]

theorem indentWidthGo_pos (c : Nat) (bs : Bytes) (w p : Nat) :
    (indentWidthGo c bs w p).2 = p + (bs.takeWhile isIndent).length := by rw [indentWidthGo_eq]

theorem takeWhile_isIndent_tabfree (bs : Bytes) (h : tabFree bs) :
    bs.takeWhile isIndent = bs.takeWhile (· == 32) ∧ tabFree (bs.takeWhile (· == 32)) := by
  induction bs with
  | nil => exact ⟨rfl, tabFree_nil⟩
  | cons b bs ih =>
    obtain ⟨hb, hbs⟩ := tabFree_cons.mp h
    obtain ⟨i1, i2⟩ := ih hbs
    by_cases h32 : b = 32
    · subst h32; simp only [List.takeWhile_cons, isIndent, beq_self_eq_true, Bool.true_or, if_true, i1]
      exact ⟨trivial, tabFree_cons.mpr ⟨by decide, i2⟩⟩
    · simp [List.takeWhile_cons, isIndent, h32, hb, tabFree_nil]

theorem indentWidthGo_tabfree (c : Nat) (bs : Bytes) (h : tabFree bs) (w p : Nat) :
    indentWidthGo c bs w p = (w + leadSp bs, p + leadSp bs) := by
  obtain ⟨e, t⟩ := takeWhile_isIndent_tabfree bs h
  rw [indentWidthGo_eq, e, colsFrom_tabfree _ _ t, leadSp]
  congr 1; omega

theorem indentWidth_tabfree (bs : Bytes) (c : Nat) (h : tabFree bs) :
    indentWidth bs c = (leadSp bs, leadSp bs) := by
  simp [indentWidth, indentWidthGo_tabfree c bs h]

theorem indentWidth_pos (bs : Bytes) (c : Nat) : (indentWidth bs c).2 = (bs.takeWhile isIndent).length := by
  simp [indentWidth, indentWidthGo_pos]

theorem isIndent_isSpace {b : UInt8} (h : isIndent b = true) : isSpace b = true := by
  simp [isIndent] at h; rcases h with h | h <;> subst h <;> decide

/-- the three thematic-break characters `*`, `-`, `_` -/
def isTBMark (m : UInt8) : Prop := m = 42 ∨ m = 45 ∨ m = 95

theorem tbMark_facts {m : UInt8} (h : isTBMark m) : m ≠ 0 ∧ isSpace m = false := by
  rcases h with h | h | h <;> subst h <;> decide

theorem tbLoop_marked (m : UInt8) (hm0 : m ≠ 0) (hms : isSpace m = false) (cs : Bytes) (n : Nat) :
    tbLoop cs m n = true ↔ (∀ c ∈ cs, c = m ∨ isSpace c = true) ∧ n + cs.count m > 2 := by
  induction cs generalizing n with
  | nil => simp [tbLoop]
  | cons c cs ih =>
    unfold tbLoop
    by_cases hs : isSpace c = true
    · have hcm : c ≠ m := by intro h; subst h; simp [hs] at hms
      simp [hs, ih, List.count_cons, hcm]
    · have hs' : isSpace c = false := by simpa using hs
      by_cases hcm : c = m
      · subst hcm
        simp [hs', hm0, ih, List.count_cons]; omega
      · simp [hs', hm0, hcm]

theorem tbLoop_start (cs : Bytes) :
    tbLoop cs 0 0 = true ↔ ∃ m, isTBMark m ∧ (∀ c ∈ cs, c = m ∨ isSpace c = true) ∧ 3 ≤ cs.count m := by
  induction cs with
  | nil => simp [tbLoop]
  | cons c cs ih =>
    unfold tbLoop
    by_cases hs : isSpace c = true
    · simp only [hs, if_true, ih]
      constructor
      · rintro ⟨m, hm, hall, hc⟩
        have hcm : c ≠ m := by intro h; subst h; simp [(tbMark_facts hm).2] at hs
        exact ⟨m, hm, by simpa [hs] using hall, by simpa [List.count_cons, hcm] using hc⟩
      · rintro ⟨m, hm, hall, hc⟩
        have hcm : c ≠ m := by intro h; subst h; simp [(tbMark_facts hm).2] at hs
        exact ⟨m, hm, fun x hx => hall x (List.mem_cons_of_mem _ hx), by simpa [List.count_cons, hcm] using hc⟩
    · have hs' : isSpace c = false := by simpa using hs
      by_cases hmark : isTBMark c
      · have hcond : (c == 42 || c == 45 || c == 95) = true := by
          rcases hmark with h | h | h <;> subst h <;> decide
        simp only [hs', Bool.false_eq_true, if_false, beq_self_eq_true, if_true, hcond]
        rw [tbLoop_marked c (tbMark_facts hmark).1 (tbMark_facts hmark).2]
        constructor
        · rintro ⟨hall, hc⟩
          exact ⟨c, hmark, by simpa using hall, by simp [List.count_cons]; omega⟩
        · rintro ⟨m, hm, hall, hc⟩
          have hcm : c = m := by
            rcases hall c (List.mem_cons_self) with h | h
            · exact h
            · simp [hs'] at h
          subst hcm
          exact ⟨fun x hx => hall x (List.mem_cons_of_mem _ hx), by simp [List.count_cons] at hc; omega⟩
      · have hcond : (c == 42 || c == 45 || c == 95) = false := by
          simp only [isTBMark] at hmark
          simp only [Bool.or_eq_false_iff, beq_eq_false_iff_ne]
          exact ⟨⟨fun h => hmark (Or.inl h), fun h => hmark (Or.inr (Or.inl h))⟩, fun h => hmark (Or.inr (Or.inr h))⟩
        simp only [hs', Bool.false_eq_true, if_false, beq_self_eq_true, if_true, hcond]
        constructor
        · intro h; cases h
        · rintro ⟨m, hm, hall, _⟩
          rcases hall c (List.mem_cons_self) with h | h
          · subst h; exact absurd hm hmark
          · simp [hs'] at h

theorem isThematicBreak_iff (line : Bytes) (off : Nat) :
    isThematicBreak line off = true ↔
      (indentWidth line off).1 ≤ 3 ∧
      ∃ m, isTBMark m ∧ (∀ c ∈ line, c = m ∨ isSpace c = true) ∧ 3 ≤ line.count m := by
  unfold isThematicBreak
  by_cases hw : (indentWidth line off).1 > 3
  · simp [hw]; omega
  · simp only [hw, if_false, indentWidth_pos, drop_len_takeWhile, tbLoop_start]
    have hsplit : line = line.takeWhile isIndent ++ line.dropWhile isIndent := (List.takeWhile_append_dropWhile).symm
    have hpre : ∀ x ∈ line.takeWhile isIndent, isSpace x = true := fun x hx => isIndent_isSpace (mem_takeWhile_imp hx)
    constructor
    · rintro ⟨m, hm, hall, hc⟩
      refine ⟨by omega, m, hm, ?_, ?_⟩
      · intro x hx
        rw [hsplit, List.mem_append] at hx
        rcases hx with hx | hx
        · exact Or.inr (hpre x hx)
        · exact hall x hx
      · rw [hsplit, List.count_append]; omega
    · rintro ⟨_, m, hm, hall, hc⟩
      refine ⟨m, hm, fun x hx => hall x (mem_of_mem_dropWhile hx), ?_⟩
      have h0 : (line.takeWhile isIndent).count m = 0 := by
        rw [List.count_eq_zero]
        intro hmem
        have := hpre m hmem
        simp [(tbMark_facts hm).2] at this
      rw [hsplit, List.count_append, h0] at hc
      omega

theorem advLoop_prefix (src a b : Bytes) (start : Nat) (hs : src.drop start = a ++ b) (ha : (10 : UInt8) ∉ a) :
    advLoop src a.length start 0 = some (start + a.length, 0) := by
  induction a generalizing start with
  | nil => simp [advLoop]
  | cons c a ih =>
    have hlt : start < src.length := by
      have := congrArg List.length hs
      simp at this; omega
    have hget : src[start]? = some c := by
      have := congrArg (·[0]?) hs
      simpa [List.getElem?_drop] using this
    have hc : c ≠ 10 := by intro h; subst h; simp at ha
    have hnext : src.drop (start + 1) = a ++ b := by
      have := congrArg (List.drop 1) hs
      simpa [List.drop_drop, Nat.add_comm] using this
    have ha' : (10 : UInt8) ∉ a := fun h => ha (List.mem_cons_of_mem _ h)
    simp only [List.length_cons, advLoop, hlt, if_true, hget]
    simp [hc, ih (start + 1) hnext ha']
    omega

theorem advance_prefix (r : LR) (a b : Bytes) (hp : r.padding = 0) (hs : r.src.drop r.start = a ++ b)
    (ha : (10 : UInt8) ∉ a) : r.advance a.length = some { r with start := r.start + a.length } := by
  unfold LR.advance
  by_cases hfast : (a.length < r.peek.length && r.padding == 0) = true
  · simp [hfast]
  · simp only [hfast, Bool.false_eq_true, if_false, hp, advLoop_prefix r.src a b r.start hs ha]
    cases r; simp_all

/-- reader positioned at the start of `line`, which is preceded on its source line by `pre` -/
def rd (pre line : Bytes) : LR := { src := pre ++ line, start := pre.length, padding := 0 }

/-- `line` is one line: a newline, if any, is its last byte -/
def oneLine (line : Bytes) : Prop := lineOf line = line
instance (line : Bytes) : Decidable (oneLine line) := by unfold oneLine; infer_instance

theorem peek_rd (pre line : Bytes) (hne : line ≠ []) (h1 : oneLine line) : (rd pre line).peek = line := by
  have : pre.length < (pre ++ line).length := by
    cases line with
    | nil => exact absurd rfl hne
    | cons c cs => simp
  have hpos : 0 < line.length := by cases line with
    | nil => exact absurd rfl hne
    | cons c cs => simp
  simp [rd, LR.peek, hpos]
  exact h1

theorem leadSp_replicate (k : Nat) (t : Bytes) (ht : t.head? ≠ some 32) : leadSp (List.replicate k 32 ++ t) = k := by
  induction k with
  | zero =>
    cases t with
    | nil => simp [leadSp]
    | cons c t => simp at ht; simp [leadSp, List.takeWhile_cons, ht]
  | succ k ih => simp [List.replicate_succ, leadSp_cons_sp, ih]

theorem drop_replicate_append (k : Nat) (t : Bytes) : (List.replicate k (32 : UInt8) ++ t).drop k = t := by
  simp [List.drop_append]

theorem notMem10_replicate (k : Nat) : (10 : UInt8) ∉ List.replicate k (32 : UInt8) ++ [62] := by
  simp [List.mem_replicate]

theorem quote_space (pre rest : Bytes) (k : Nat) (hk : k ≤ 3)
    (htf : tabFree rest) (h1 : oneLine (List.replicate k 32 ++ 62 :: 32 :: rest)) :
    quoteProcess (rd pre (List.replicate k 32 ++ 62 :: 32 :: rest)) =
      some (true, { src := pre ++ (List.replicate k 32 ++ 62 :: 32 :: rest), start := pre.length + k + 2, padding := 0 }) := by
  have hline_tf : tabFree (List.replicate k 32 ++ 62 :: 32 :: rest) := by
    rw [tabFree_append]; refine ⟨?_, ?_⟩
    · simp [tabFree, List.mem_replicate]
    · rw [tabFree_cons]; refine ⟨by decide, ?_⟩; rw [tabFree_cons]; exact ⟨by decide, htf⟩
  have hpeek := peek_rd pre _ (by simp) h1
  have hlead : leadSp (List.replicate k 32 ++ 62 :: 32 :: rest) = k := leadSp_replicate k _ (by simp)
  have hadv1 : (rd pre (List.replicate k 32 ++ 62 :: 32 :: rest)).advance (k + 1) =
      some { src := pre ++ (List.replicate k 32 ++ 62 :: 32 :: rest), start := pre.length + (k + 1), padding := 0 } := by
    have := advance_prefix (rd pre (List.replicate k 32 ++ 62 :: 32 :: rest)) (List.replicate k 32 ++ [62]) (32 :: rest) rfl
      (by simp [rd]) (notMem10_replicate k)
    simpa [rd] using this
  have hadv2 : ({ src := pre ++ (List.replicate k 32 ++ 62 :: 32 :: rest), start := pre.length + (k + 1), padding := 0 } : LR).advance 1 =
      some { src := pre ++ (List.replicate k 32 ++ 62 :: 32 :: rest), start := pre.length + (k + 1) + 1, padding := 0 } := by
    have := advance_prefix { src := pre ++ (List.replicate k 32 ++ 62 :: 32 :: rest), start := pre.length + (k + 1), padding := 0 }
      [32] rest rfl (by simp [List.drop_append]) (by decide)
    simpa using this
  unfold quoteProcess
  simp only [hpeek, indentWidth_tabfree _ _ hline_tf, hlead, drop_replicate_append]
  simp [show ¬ k > 3 by omega, hadv1, LR.advanceAndSetPadding, hadv2]
  omega

theorem tabFree_replicate_sp (k : Nat) : tabFree (List.replicate k (32 : UInt8)) := by
  simp [tabFree, List.mem_replicate]

theorem quote_nospace (pre rest : Bytes) (k : Nat) (hk : k ≤ 3)
    (htf : tabFree rest) (hns : rest.head? ≠ some 32) (h1 : oneLine (List.replicate k 32 ++ 62 :: rest)) :
    quoteProcess (rd pre (List.replicate k 32 ++ 62 :: rest)) =
      some (true, { src := pre ++ (List.replicate k 32 ++ 62 :: rest), start := pre.length + k + 1, padding := 0 }) := by
  have hline_tf : tabFree (List.replicate k 32 ++ 62 :: rest) := by
    rw [tabFree_append]; exact ⟨tabFree_replicate_sp k, tabFree_cons.mpr ⟨by decide, htf⟩⟩
  have hpeek := peek_rd pre _ (by simp) h1
  have hlead : leadSp (List.replicate k 32 ++ 62 :: rest) = k := leadSp_replicate k _ (by simp)
  have hadv1 : (rd pre (List.replicate k 32 ++ 62 :: rest)).advance (k + 1) =
      some { src := pre ++ (List.replicate k 32 ++ 62 :: rest), start := pre.length + (k + 1), padding := 0 } := by
    have := advance_prefix (rd pre (List.replicate k 32 ++ 62 :: rest)) (List.replicate k 32 ++ [62]) rest rfl
      (by simp [rd]) (notMem10_replicate k)
    simpa [rd] using this
  unfold quoteProcess
  simp only [hpeek, indentWidth_tabfree _ _ hline_tf, hlead, drop_replicate_append]
  cases rest with
  | nil => simp [show ¬ k > 3 by omega, hadv1]; omega
  | cons d t =>
    have hd32 : d ≠ 32 := by simpa using hns
    have hd9 : d ≠ 9 := (tabFree_cons.mp htf).1
    by_cases hd10 : d = 10
    · subst hd10; simp [show ¬ k > 3 by omega, hadv1]; omega
    · simp [show ¬ k > 3 by omega, hadv1, hd10, hd32, hd9]; omega

theorem quote_declines (pre tail : Bytes) (k : Nat) (htf : tabFree tail) (hns : tail.head? ≠ some 32)
    (h1 : oneLine (List.replicate k 32 ++ tail)) (hno : 3 < k ∨ tail.head? ≠ some 62) :
    quoteProcess (rd pre (List.replicate k 32 ++ tail)) = some (false, rd pre (List.replicate k 32 ++ tail)) := by
  have hline_tf : tabFree (List.replicate k 32 ++ tail) := tabFree_append.mpr ⟨tabFree_replicate_sp k, htf⟩
  have hlead : leadSp (List.replicate k 32 ++ tail) = k := leadSp_replicate k _ hns
  unfold quoteProcess
  by_cases hne : List.replicate k 32 ++ tail = []
  · have hk0 : k = 0 := by
      cases k with
      | zero => rfl
      | succ k => simp [List.replicate_succ] at hne
    have ht : tail = [] := by subst hk0; simpa using hne
    subst hk0; subst ht
    simp [rd, LR.peek, indentWidth, indentWidthGo]
  · have hpeek := peek_rd pre _ hne h1
    simp only [hpeek, indentWidth_tabfree _ _ hline_tf, hlead, drop_replicate_append]
    by_cases hk : k > 3
    · simp [hk]
    · have h62 : tail.head? ≠ some 62 := by
        rcases hno with h | h
        · omega
        · exact h
      cases tail with
      | nil => simp [hk]
      | cons c t =>
        have : c ≠ 62 := by simpa using h62
        simp [hk, this]

theorem exists_lead_decomp (line : Bytes) :
    ∃ k tail, line = List.replicate k 32 ++ tail ∧ tail.head? ≠ some 32 := by
  induction line with
  | nil => exact ⟨0, [], rfl, by simp⟩
  | cons c l ih =>
    by_cases hc : c = 32
    · obtain ⟨k, tail, hl, ht⟩ := ih
      exact ⟨k + 1, tail, by subst hc; simp [List.replicate_succ, hl], ht⟩
    · exact ⟨0, c :: l, rfl, by simpa using hc⟩

/-- what `process` does to a tab-free line, as a function of the line alone: (accepted, bytes consumed) -/
def quoteRel (line : Bytes) : Bool × Nat :=
  if leadSp line > 3 then (false, 0)
  else
    match line.drop (leadSp line) with
    | 62 :: 32 :: _ => (true, leadSp line + 2)
    | 62 :: _ => (true, leadSp line + 1)
    | _ => (false, 0)

theorem quoteProcess_tabfree (pre line : Bytes) (htf : tabFree line) (h1 : oneLine line) :
    quoteProcess (rd pre line) =
      some ((quoteRel line).1, { src := pre ++ line, start := pre.length + (quoteRel line).2, padding := 0 }) := by
  obtain ⟨k, tail, hline, hns⟩ := exists_lead_decomp line
  subst hline
  have htail_tf : tabFree tail := (tabFree_append.mp htf).2
  have hlead : leadSp (List.replicate k 32 ++ tail) = k := leadSp_replicate k _ hns
  unfold quoteRel
  rw [hlead, drop_replicate_append]
  by_cases hk : k > 3
  · rw [quote_declines pre tail k htail_tf hns h1 (Or.inl hk)]
    simp [hk, rd]
  · simp only [hk, if_false]
    cases tail with
    | nil =>
      rw [quote_declines pre [] k tabFree_nil (by simp) h1 (Or.inr (by simp))]; simp [rd]
    | cons c rest =>
      by_cases hc : c = 62
      · subst hc
        cases rest with
        | nil => rw [quote_nospace pre [] k (by omega) tabFree_nil (by simp) h1]; simp [Nat.add_assoc]
        | cons d rest =>
          by_cases hd : d = 32
          · subst hd
            rw [quote_space pre rest k (by omega) (tabFree_cons.mp (tabFree_cons.mp htail_tf).2).2 h1]
            simp [Nat.add_assoc]
          · rw [quote_nospace pre (d :: rest) k (by omega) (tabFree_cons.mp htail_tf).2 (by simpa using hd) h1]
            simp [hd, Nat.add_assoc]
      · rw [quote_declines pre (c :: rest) k htail_tf hns h1 (Or.inr (by simpa using hc))]
        simp [rd, hc]

theorem lineOf_append_noNL (a b : Bytes) (ha : (10 : UInt8) ∉ a) : lineOf (a ++ b) = a ++ lineOf b := by
  induction a with
  | nil => rfl
  | cons c a ih =>
    have hc : c ≠ 10 := by intro h; subst h; simp at ha
    have ha' : (10 : UInt8) ∉ a := fun h => ha (List.mem_cons_of_mem _ h)
    simp [lineOf, hc, ih ha']

theorem oneLine_suffix (a b : Bytes) (ha : (10 : UInt8) ∉ a) (h : oneLine (a ++ b)) : oneLine b := by
  unfold oneLine at *
  rw [lineOf_append_noNL a b ha] at h
  exact List.append_cancel_left h

theorem peek_at (pre a b : Bytes) (hb : b ≠ []) (h1 : oneLine b) :
    ({ src := pre ++ (a ++ b), start := pre.length + a.length, padding := 0 } : LR).peek = b := by
  have hpos : 0 < b.length := by cases b with
    | nil => exact absurd rfl hb
    | cons c cs => simp
  have hlt : pre.length + a.length < (pre ++ (a ++ b)).length := by simp; omega
  have hdrop : (pre ++ (a ++ b)).drop (pre.length + a.length) = b := by
    rw [← List.append_assoc, ← List.length_append, List.drop_left]
  simp only [LR.peek, hlt, if_true, hdrop, List.replicate_zero, List.nil_append]
  exact h1

theorem lineOffset_at (pre a b : Bytes) (ha : tabFree a) :
    ({ src := pre ++ (a ++ b), start := pre.length + a.length, padding := 0 } : LR).lineOffset
      = (rd pre (a ++ b)).lineOffset + a.length := by
  have h1 : (pre ++ (a ++ b)).take (pre.length + a.length) = pre ++ a := by
    rw [← List.append_assoc, ← List.length_append, List.take_left]
  have h2 : (pre ++ (a ++ b)).take pre.length = pre := List.take_left
  simp [LR.lineOffset, rd, h1, h2, colsFrom_append, colsFrom_tabfree _ a ha]

theorem tb_offset (line : Bytes) (h : tabFree line) (c c' : Nat) : isThematicBreak line c = isThematicBreak line c' := by
  simp only [isThematicBreak, indentWidth_tabfree _ _ h]

theorem fenceClose_offset (line : Bytes) (h : tabFree line) (c c' : Nat) (ch : UInt8) (n : Nat) :
    fenceClose line c ch n = fenceClose line c' ch n := by
  simp only [fenceClose, indentWidth_tabfree _ _ h]

theorem code_offset (line : Bytes) (h : tabFree line) (c c' : Nat) :
    codeOpen line c = codeOpen line c' ∧ codeContinue line c = codeContinue line c' := by
  simp only [codeOpen, codeContinue, indentPosition_tabfree _ _ _ h, and_self]

theorem blockOffset_offset (line : Bytes) (h : tabFree line) (c c' : Nat) : blockOffset line c = blockOffset line c' := by
  simp only [blockOffset, indentWidth_tabfree _ _ h]

theorem openLine_offset (wh : Which) (line : Bytes) (h : tabFree line) (c c' : Nat) :
    openLine wh line c = openLine wh line c' := by
  simp only [openLine, indentWidth_tabfree _ _ h, blockOffset_offset line h c c', tb_offset line h c c',
    (code_offset line h c c').1]

/-! ### assembled C08 statements -/

theorem oneLine_prefix (a b : Bytes) (ha : (10 : UInt8) ∉ a) (h : oneLine b) : oneLine (a ++ b) := by
  unfold oneLine at *
  rw [lineOf_append_noNL a b ha, h]

theorem peek_at' (pre a b : Bytes) (h1 : oneLine b) :
    ({ src := pre ++ (a ++ b), start := pre.length + a.length, padding := 0 } : LR).peek = b := by
  by_cases hb : b = []
  · subst hb; simp [LR.peek]
  · exact peek_at pre a b hb h1

theorem quote_consumes_space (pre r : Bytes) (k : Nat) (hk : k ≤ 3) (htf : tabFree r) (h1 : oneLine r) :
    ∃ r', quoteProcess (rd pre (List.replicate k 32 ++ 62 :: 32 :: r)) = some (true, r') ∧
      r'.start = (rd pre (List.replicate k 32 ++ 62 :: 32 :: r)).start + (k + 2) ∧ r'.padding = 0 ∧ r'.peek = r ∧
      r'.lineOffset = (rd pre (List.replicate k 32 ++ 62 :: 32 :: r)).lineOffset + (k + 2) := by
  have hsplit : List.replicate k 32 ++ 62 :: 32 :: r = (List.replicate k 32 ++ [62, 32]) ++ r := by simp
  have hno : (10 : UInt8) ∉ List.replicate k 32 ++ [62, 32] := by simp [List.mem_replicate]
  have hlen : (List.replicate k (32 : UInt8) ++ [62, 32]).length = k + 2 := by simp
  have h1' : oneLine (List.replicate k 32 ++ 62 :: 32 :: r) := by rw [hsplit]; exact oneLine_prefix _ _ hno h1
  have hatf : tabFree (List.replicate k 32 ++ [62, 32]) := by simp [tabFree, List.mem_replicate]
  refine ⟨_, quote_space pre r k hk htf h1', ?_, rfl, ?_, ?_⟩
  · simp [rd]; omega
  · have := peek_at' pre (List.replicate k 32 ++ [62, 32]) r h1
    rw [hlen, ← hsplit, ← Nat.add_assoc] at this
    exact this
  · have := lineOffset_at pre (List.replicate k 32 ++ [62, 32]) r hatf
    rw [hlen, ← hsplit, ← Nat.add_assoc] at this
    exact this

theorem quote_consumes_nospace (pre r : Bytes) (k : Nat) (hk : k ≤ 3) (htf : tabFree r) (h1 : oneLine r)
    (hns : r.head? ≠ some 32) :
    ∃ r', quoteProcess (rd pre (List.replicate k 32 ++ 62 :: r)) = some (true, r') ∧
      r'.start = (rd pre (List.replicate k 32 ++ 62 :: r)).start + (k + 1) ∧ r'.padding = 0 ∧ r'.peek = r ∧
      r'.lineOffset = (rd pre (List.replicate k 32 ++ 62 :: r)).lineOffset + (k + 1) := by
  have hsplit : List.replicate k 32 ++ 62 :: r = (List.replicate k 32 ++ [62]) ++ r := by simp
  have hno : (10 : UInt8) ∉ List.replicate k 32 ++ [62] := notMem10_replicate k
  have hlen : (List.replicate k (32 : UInt8) ++ [62]).length = k + 1 := by simp
  have h1' : oneLine (List.replicate k 32 ++ 62 :: r) := by rw [hsplit]; exact oneLine_prefix _ _ hno h1
  have hatf : tabFree (List.replicate k 32 ++ [62]) := by simp [tabFree, List.mem_replicate]
  refine ⟨_, quote_nospace pre r k hk htf hns h1', ?_, rfl, ?_, ?_⟩
  · simp [rd]; omega
  · have := peek_at' pre (List.replicate k 32 ++ [62]) r h1
    rw [hlen, ← hsplit, ← Nat.add_assoc] at this
    exact this
  · have := lineOffset_at pre (List.replicate k 32 ++ [62]) r hatf
    rw [hlen, ← hsplit, ← Nat.add_assoc] at this
    exact this

theorem run_length (c : UInt8) (n : Nat) (t : Bytes) (ht : t.head? ≠ some c) :
    ((List.replicate n c ++ t).takeWhile (· == c)).length = n := by
  induction n with
  | zero =>
    cases t with
    | nil => simp
    | cons d t => simp at ht; simp [List.takeWhile_cons, ht]
  | succ n ih =>
    simp only [List.replicate_succ, List.cons_append, List.takeWhile_cons, beq_self_eq_true, if_true, List.length_cons, ih]

theorem run_split (c : UInt8) (l : Bytes) :
    l = List.replicate (l.takeWhile (· == c)).length c ++ l.dropWhile (· == c) ∧
    (l.dropWhile (· == c)).head? ≠ some c := by
  induction l with
  | nil => simp
  | cons d l ih =>
    by_cases hd : d = c
    · subst hd
      simp only [List.takeWhile_cons, beq_self_eq_true, if_true, List.length_cons, List.replicate_succ,
        List.dropWhile_cons, List.cons_append]
      exact ⟨by rw [← ih.1], ih.2⟩
    · simp [List.takeWhile_cons, List.dropWhile_cons, hd]

theorem tabWidth_le' (n : Nat) : tabWidth n ≤ 4 := by unfold tabWidth; omega


theorem indentWidthGo_replicate (cur n : Nat) (t : Bytes) (w p : Nat) :
    indentWidthGo cur (List.replicate n 32 ++ t) w p = indentWidthGo cur t (w + n) (p + n) := by
  induction n generalizing w p with
  | zero => simp
  | succ n ih =>
    simp only [List.replicate_succ, List.cons_append, indentWidthGo, beq_self_eq_true, if_true, ih]
    congr 1 <;> omega

theorem indentWidthGo_stop (cur : Nat) (c : UInt8) (t : Bytes) (w p : Nat) (h32 : c ≠ 32) (h9 : c ≠ 9) :
    indentWidthGo cur (c :: t) w p = (w, p) := by
  simp [indentWidthGo, h32, h9]

theorem isSpace_not_indent {c : UInt8} (h : isSpace c = false) : c ≠ 32 ∧ c ≠ 9 := by
  constructor <;> (intro hc; subst hc; simp [isSpace] at h)

theorem calcListOffset_noContent (source : Bytes) (lo : Nat) : calcListOffset source (-1) lo = .ok 1 := by
  simp [calcListOffset]

theorem calcListOffset_blank (source : Bytes) (k lo : Nat) (hk : k ≤ source.length) (hb : isBlank (source.drop k) = true) :
    calcListOffset source k lo = .ok 1 := by
  have hk0 : ¬ ((k : Int) < 0) := by omega
  have hk1 : ¬ k > source.length := by omega
  simp [calcListOffset, hb, hk0, hk1]

theorem calcListOffset_spaces (source : Bytes) (k lo n : Nat) (c : UInt8) (t : Bytes) (hc : isSpace c = false)
    (hs : source.drop k = List.replicate n 32 ++ c :: t) :
    calcListOffset source k lo = .ok (if n > 4 then 1 else n) := by
  have hk : ¬ k > source.length := by
    intro h
    have : source.drop k = [] := List.drop_eq_nil_of_le (by omega)
    rw [this] at hs; simp at hs
  have hnb : isBlank (List.replicate n 32 ++ c :: t) = false := by
    simp [isBlank, hc]
  obtain ⟨h32, h9⟩ := isSpace_not_indent hc
  have hk0 : ¬ ((k : Int) < 0) := by omega
  simp [calcListOffset, hk, hk0, hs, hnb, indentWidth, indentWidthGo_replicate, indentWidthGo_stop _ c t _ _ h32 h9]

/-- one tab after the marker, then content: the offset is the tab's width measured from the marker's end column
    `lo + k` in the line (1–4 columns, never "more than 4") -/
theorem calcListOffset_tab (source : Bytes) (k lo : Nat) (c : UInt8) (t : Bytes) (hc : isSpace c = false)
    (hs : source.drop k = 9 :: c :: t) :
    calcListOffset source k lo = .ok (4 - (lo + k) % 4) := by
  have hk : ¬ k > source.length := by
    intro h
    have : source.drop k = [] := List.drop_eq_nil_of_le (by omega)
    rw [this] at hs; simp at hs
  have hnb : isBlank (9 :: c :: t) = false := by simp [isBlank, hc]
  obtain ⟨h32, h9⟩ := isSpace_not_indent hc
  have hk0 : ¬ ((k : Int) < 0) := by omega
  have hle : ¬ (tabWidth (lo + k) > 4) := by have := tabWidth_le' (lo + k); omega
  have e : ((9 : UInt8) == 32) = false := by decide
  simp [calcListOffset, hk, hk0, hs, hnb, indentWidth, indentWidthGo, e, h32, h9, hle]
  rfl

theorem isBlank_eq (ws : Bytes) : isBlank ws = ws.all isSpace := rfl

theorem fenceClose_iff (line : Bytes) (off : Nat) (ch : UInt8) (len : Nat) (hch : isSpace ch = false) (hlen : 1 ≤ len) :
    fenceClose line off ch len = .ok true ↔
      (indentWidth line off).1 ≤ 3 ∧
      ∃ n ws, len ≤ n ∧ ws.all isSpace = true ∧ line.dropWhile isIndent = List.replicate n ch ++ ws := by
  simp only [fenceClose, indentWidth_pos, drop_len_takeWhile]
  by_cases hw : (indentWidth line off).1 < 4
  · simp only [hw, if_true]
    obtain ⟨hsplit, hhead⟩ := run_split ch (line.dropWhile isIndent)
    have hdrop : line.drop ((line.takeWhile isIndent).length + ((line.dropWhile isIndent).takeWhile (· == ch)).length)
        = (line.dropWhile isIndent).dropWhile (· == ch) := by
      rw [← List.drop_drop, drop_len_takeWhile, drop_len_takeWhile]
    rw [hdrop]
    constructor
    · intro h
      by_cases hc : (((line.dropWhile isIndent).takeWhile (· == ch)).length ≥ len
          && isBlank ((line.dropWhile isIndent).dropWhile (· == ch))) = true
      · simp only [Bool.and_eq_true, decide_eq_true_eq] at hc
        exact ⟨by omega, _, _, hc.1, hc.2, hsplit⟩
      · simp [hc] at h
    · rintro ⟨_, n, ws, hn, hws, heq⟩
      have hwsh : ws.head? ≠ some ch := by
        cases ws with
        | nil => simp
        | cons d ws => simp at hws ⊢; intro h; subst h; simp [hch] at hws
      have hrun : ((line.dropWhile isIndent).takeWhile (· == ch)).length = n := by
        rw [heq]; exact run_length ch n ws hwsh
      have hrest : (line.dropWhile isIndent).dropWhile (· == ch) = ws := by
        rw [← drop_len_takeWhile, hrun, heq]; simp [List.drop_append]
      have hne : line.length ≠ 0 := by
        intro h0
        have : line = [] := List.eq_nil_of_length_eq_zero h0
        subst this
        simp at heq
        omega
      simp [hrun, hrest, hn, isBlank_eq, hws, hne]
  · simp [hw]; omega

theorem fenceClose_noPanic (line : Bytes) (off : Nat) (ch : UInt8) (len : Nat) (hlen : 1 ≤ len) :
    ∃ b, fenceClose line off ch len = .ok b := by
  unfold fenceClose
  by_cases hw : (indentWidth line off).1 < 4
  · simp only [hw, if_true]
    by_cases hc : (((line.drop (indentWidth line off).2).takeWhile (· == ch)).length ≥ len
        && isBlank (line.drop ((indentWidth line off).2 + ((line.drop (indentWidth line off).2).takeWhile (· == ch)).length))) = true
    · have hne : line.length ≠ 0 := by
        intro h0
        have : line = [] := List.eq_nil_of_length_eq_zero h0
        subst this
        simp at hc; omega
      simp [hc, hne]
    · simp [hc]
  · simp [hw]

theorem atxScanBack_ok (line : Bytes) (start : Nat) (hs : 1 ≤ start) (j : Nat) (hj : j < line.length)
    (hjs : start ≤ j + 1) : ∃ k, atxScanBack line start j = .ok k ∧ k ≤ j ∧ start ≤ k + 1 := by
  induction j with
  | zero =>
    have : line[0]? = some line[0] := List.getElem?_eq_getElem hj
    have h0 : ¬ (0 ≥ start) := by omega
    exact ⟨0, by simp [atxScanBack, this, h0], Nat.le_refl _, hjs⟩
  | succ i ih =>
    have hget : line[i + 1]? = some line[i + 1] := List.getElem?_eq_getElem hj
    by_cases hc : (line[i + 1] == 35 && decide (i + 1 ≥ start)) = true
    · have hge : i + 1 ≥ start := by simp at hc; exact hc.2
      obtain ⟨k, hk, hki, hks⟩ := ih (by omega) hge
      exact ⟨k, by simp only [atxScanBack, hget, hc, if_true, hk], by omega, hks⟩
    · exact ⟨i + 1, by simp only [atxScanBack, hget, hc]; rfl, Nat.le_refl _, hjs⟩

theorem atxContent_ok (line : Bytes) (start stop0 : Nat) (hs : 1 ≤ start) (hstop : stop0 ≤ line.length) :
    ∃ c, atxContent line start stop0 = .ok c := by
  unfold atxContent
  by_cases h : stop0 ≤ start
  · exact ⟨none, by simp [h]⟩
  · obtain ⟨k, hk, hkj, hks⟩ := atxScanBack_ok line start hs (stop0 - 1) (by omega) (by omega)
    have hget : line[k]? = some line[k] := List.getElem?_eq_getElem (by omega)
    simp only [h, if_false, hk, hget]
    have hns : ¬ ((if (k != stop0 - 1 && !isSpace line[k]) = true then stop0 - 1 else k) + 1 < start) := by
      split <;> omega
    simp only [hns, if_false]
    split <;> split <;> exact ⟨_, rfl⟩

theorem run_le (c : UInt8) (l : Bytes) : (l.takeWhile (· == c)).length ≤ l.length :=
  (List.takeWhile_sublist _).length_le

/-- closed form of the last branch of `atxOpen` -/
theorem atxOpen_tail (line : Bytes) (pos : Nat)
    (hn : 1 ≤ ((line.drop pos).takeWhile (· == 35)).length) (hn6 : ((line.drop pos).takeWhile (· == 35)).length ≤ 6)
    (hi : pos + ((line.drop pos).takeWhile (· == 35)).length ≠ line.length)
    (hl : trimLeftSpaceLength (line.drop (pos + ((line.drop pos).takeWhile (· == 35)).length)) ≠ 0) :
    ∃ c, atxOpen line pos = .ok (some { level := ((line.drop pos).takeWhile (· == 35)).length, content := c }) := by
  have hle := run_le 35 (line.drop pos)
  simp only [List.length_drop] at hle
  generalize hn0 : ((line.drop pos).takeWhile (· == 35)).length = n at *
  have hc1 : (n == 0 || decide (n > 6)) = false := by simp; omega
  obtain ⟨c, hc⟩ := atxContent_ok line
    (if pos + n + trimLeftSpaceLength (line.drop (pos + n)) ≥ line.length then line.length - 1
      else pos + n + trimLeftSpaceLength (line.drop (pos + n)))
    (line.length - trimRightSpaceLength line) (by split <;> omega) (by omega)
  refine ⟨c, ?_⟩
  simp only [atxOpen, hn0, hc1, Bool.false_eq_true, if_false, beq_iff_eq, hi, hl, hc]
  rfl

theorem lvl_bounds (n : Nat) (h : ¬ (n == 0 || decide (n > 6)) = true) : 1 ≤ n ∧ n ≤ 6 := by
  simp at h; omega

theorem atxOpen_noPanic (line : Bytes) (pos : Nat) : ∃ r, atxOpen line pos = .ok r := by
  by_cases hc1 : (((line.drop pos).takeWhile (· == 35)).length == 0 || decide (((line.drop pos).takeWhile (· == 35)).length > 6)) = true
  · exact ⟨none, by simp only [atxOpen, hc1, if_true]⟩
  · by_cases hi : pos + ((line.drop pos).takeWhile (· == 35)).length = line.length
    · exact ⟨_, by simp only [atxOpen, hc1, Bool.false_eq_true, if_false, beq_iff_eq, hi, if_true]; rfl⟩
    · by_cases hl : trimLeftSpaceLength (line.drop (pos + ((line.drop pos).takeWhile (· == 35)).length)) = 0
      · exact ⟨none, by simp only [atxOpen, hc1, Bool.false_eq_true, if_false, beq_iff_eq, hi, hl, if_true]⟩
      · have := lvl_bounds _ hc1
        obtain ⟨c, hc⟩ := atxOpen_tail line pos this.1 this.2 hi hl
        exact ⟨_, hc⟩

theorem trimLeft_pos_iff (l : Bytes) : trimLeftSpaceLength l ≠ 0 ↔ ∃ c t, l = c :: t ∧ isSpace c = true := by
  cases l with
  | nil => simp [trimLeftSpaceLength]
  | cons c t =>
    by_cases hc : isSpace c = true <;> simp [trimLeftSpaceLength, List.takeWhile_cons, hc]

theorem atxOpen_iff (line : Bytes) (pos n : Nat) :
    (∃ c, atxOpen line pos = .ok (some { level := n, content := c })) ↔
      1 ≤ n ∧ n ≤ 6 ∧ ∃ rest, line.drop pos = List.replicate n 35 ++ rest ∧
        (rest = [] ∨ ∃ d t, rest = d :: t ∧ isSpace d = true) := by
  obtain ⟨hsplit, hhead⟩ := run_split 35 (line.drop pos)
  have hle := run_le 35 (line.drop pos)
  simp only [List.length_drop] at hle
  have hdrop : line.drop (pos + ((line.drop pos).takeWhile (· == 35)).length) = (line.drop pos).dropWhile (· == 35) := by
    rw [← List.drop_drop, drop_len_takeWhile]
  constructor
  · rintro ⟨c, hc⟩
    by_cases hc1 : (((line.drop pos).takeWhile (· == 35)).length == 0 || decide (((line.drop pos).takeWhile (· == 35)).length > 6)) = true
    · simp only [atxOpen, hc1, if_true] at hc; cases hc
    · have hn16 := lvl_bounds _ hc1
      by_cases hi : pos + ((line.drop pos).takeWhile (· == 35)).length = line.length
      · simp only [atxOpen, hc1, Bool.false_eq_true, if_false, beq_iff_eq, hi, if_true] at hc
        injection hc with hc; injection hc with hc; injection hc with hn _
        subst hn
        have hnil : (line.drop pos).dropWhile (· == 35) = [] := by
          rw [← hdrop]; exact List.drop_eq_nil_of_le (by omega)
        exact ⟨hn16.1, hn16.2, [], by rw [hnil] at hsplit; exact hsplit, Or.inl rfl⟩
      · by_cases hl : trimLeftSpaceLength (line.drop (pos + ((line.drop pos).takeWhile (· == 35)).length)) = 0
        · simp only [atxOpen, hc1, Bool.false_eq_true, if_false, beq_iff_eq, hi, hl, if_true] at hc; cases hc
        · obtain ⟨c', hc'⟩ := atxOpen_tail line pos hn16.1 hn16.2 hi hl
          rw [hc'] at hc
          injection hc with hc; injection hc with hc; injection hc with hn _
          subst hn
          rw [hdrop] at hl
          exact ⟨hn16.1, hn16.2, _, hsplit, Or.inr ((trimLeft_pos_iff _).mp hl)⟩
  · rintro ⟨h1, h6, rest, hrest, hshape⟩
    have hrh : rest.head? ≠ some 35 := by
      rcases hshape with h | ⟨d, t, h, hd⟩
      · subst h; simp
      · subst h; simp; intro h; subst h; simp [isSpace] at hd
    have hrun : ((line.drop pos).takeWhile (· == 35)).length = n := by rw [hrest]; exact run_length 35 n rest hrh
    have hrest' : (line.drop pos).dropWhile (· == 35) = rest := by
      rw [← drop_len_takeWhile, hrun, hrest]; simp
    have hlen : line.length - pos = n + rest.length := by
      have := congrArg List.length hrest; simpa using this
    rcases hshape with h | ⟨d, t, h, hd⟩
    · subst h
      have hi : pos + n = line.length := by simp at hlen; omega
      have hc1 : (n == 0 || decide (n > 6)) = false := by simp; omega
      exact ⟨none, by simp only [atxOpen, hrun, hc1, Bool.false_eq_true, if_false, beq_iff_eq, hi, if_true]⟩
    · have hi : pos + ((line.drop pos).takeWhile (· == 35)).length ≠ line.length := by
        rw [hrun]; subst h; simp at hlen; omega
      have hl : trimLeftSpaceLength (line.drop (pos + ((line.drop pos).takeWhile (· == 35)).length)) ≠ 0 := by
        rw [hdrop, hrest']; exact (trimLeft_pos_iff _).mpr ⟨d, t, h, hd⟩
      obtain ⟨c, hc⟩ := atxOpen_tail line pos (by omega) (by omega) hi hl
      rw [hrun] at hc
      exact ⟨c, hc⟩

theorem indentWidthGo_append (c : Nat) (p r : Bytes) (hp : p.all isIndent = true) (w i : Nat) :
    indentWidthGo c (p ++ r) w i = indentWidthGo c r (indentWidthGo c p w i).1 (indentWidthGo c p w i).2 := by
  have e : (p ++ r).takeWhile isIndent = p ++ r.takeWhile isIndent := by
    induction p with
    | nil => rfl
    | cons b p ih =>
      simp only [List.all_cons, Bool.and_eq_true] at hp
      simp [List.takeWhile_cons, hp.1, ih hp.2]
  have := colsFrom_ge (c + w) p
  simp only [indentWidthGo_eq, e, takeWhile_all _ _ hp, colsFrom_append, List.length_append]
  rw [show c + (colsFrom (c + w) p - c) = colsFrom (c + w) p by omega, Nat.add_assoc]

theorem indentWidthGo_nonindent (c : Nat) (r : Bytes) (hr : ∀ b ∈ r.head?, isIndent b = false) (w i : Nat) :
    indentWidthGo c r w i = (w, i) := by
  rw [indentWidthGo_eq, takeWhile_head_fails _ _ hr]; simp [colsFrom]

theorem indentWidthGo_mono (c : Nat) (bs : Bytes) (w i : Nat) : w ≤ (indentWidthGo c bs w i).1 := by
  rw [indentWidthGo_eq]; have := colsFrom_ge (c + w) (bs.takeWhile isIndent); simp only; omega

theorem indentWidthGo_fst_indep (c : Nat) (bs : Bytes) (w i j : Nat) :
    (indentWidthGo c bs w i).1 = (indentWidthGo c bs w j).1 := by rw [indentWidthGo_eq, indentWidthGo_eq]

theorem ippLoop_reaches (c width : Nat) (bs : Bytes) (i w : Nat) :
    width ≤ (ippLoop c width bs i 0 w).2 ↔ width ≤ (indentWidthGo c bs w 0).1 := by
  induction bs generalizing i w with
  | nil => simp [ippLoop, indentWidthGo]
  | cons b bs ih =>
    unfold ippLoop indentWidthGo
    by_cases hlt : w < width
    · by_cases h9 : b = 9
      · subst h9
        simp only [Nat.lt_irrefl, if_false, beq_self_eq_true, hlt, decide_true, Bool.and_self, if_true]
        rw [ih, indentWidthGo_fst_indep c bs _ 0 1]
        simp
      · by_cases h32 : b = 32
        · subst h32
          have e : ((32 : UInt8) == 9) = false := by decide
          simp only [Nat.lt_irrefl, if_false, beq_self_eq_true, hlt, decide_true, Bool.and_self, if_true, e,
            Bool.false_and, Bool.false_eq_true]
          rw [ih, indentWidthGo_fst_indep c bs _ 0 1]
        · simp [h9, h32]
    · have hge : width ≤ w := by omega
      simp only [Nat.lt_irrefl, if_false, hlt, decide_false, Bool.and_false, Bool.false_eq_true]
      constructor
      · intro _
        split
        · exact Nat.le_trans (by omega) (indentWidthGo_mono _ _ _ _)
        · split
          · exact Nat.le_trans (by omega) (indentWidthGo_mono _ _ _ _)
          · exact hge
      · intro _; exact hge

/-- `IndentPosition` fails exactly when the line is indented by less than `width` columns -/
theorem indentPosition_fails_iff (bs : Bytes) (c width : Nat) :
    (indentPosition bs c width).1 < 0 ↔ (indentWidth bs c).1 < width := by
  unfold indentPosition indentPositionPadding indentWidth
  by_cases h0 : width = 0
  · subst h0; simp
  · have := ippLoop_reaches c width bs 0 0
    by_cases hr : width ≤ (ippLoop c width bs 0 0 0).2
    · simp only [beq_iff_eq, h0, if_false, ge_iff_le, hr, if_true]
      have h2 := this.mp hr
      constructor
      · intro h; simp at h; omega
      · intro h; omega
    · simp only [beq_iff_eq, h0, if_false, ge_iff_le, hr]
      have h2 : ¬ width ≤ (indentWidthGo c bs 0 0).1 := fun h => hr (this.mpr h)
      constructor
      · intro _; omega
      · intro _; decide

theorem tabs_eq_spaces (c : Nat) (p q r : Bytes) (hp : p.all isIndent = true) (hq : q.all isIndent = true)
    (hr : ∀ b ∈ r.head?, isIndent b = false) (hw : (indentWidth p c).1 = (indentWidth q c).1) :
    indentWidth (p ++ r) c = ((indentWidth p c).1, p.length) ∧
    indentWidth (q ++ r) c = ((indentWidth p c).1, q.length) ∧
    ∀ width, ((indentPosition (p ++ r) c width).1 < 0 ↔ (indentPosition (q ++ r) c width).1 < 0) := by
  have hposp : (indentWidth p c).2 = p.length := by
    rw [indentWidth_pos]; rw [takeWhile_all _ _ hp]
  have hposq : (indentWidth q c).2 = q.length := by
    rw [indentWidth_pos]; rw [takeWhile_all _ _ hq]
  have e1 : indentWidth (p ++ r) c = ((indentWidth p c).1, p.length) := by
    unfold indentWidth at *
    rw [indentWidthGo_append c p r hp, indentWidthGo_nonindent c r hr, hposp]
  have e2 : indentWidth (q ++ r) c = ((indentWidth p c).1, q.length) := by
    unfold indentWidth at *
    rw [indentWidthGo_append c q r hq, indentWidthGo_nonindent c r hr, hposq, hw]
  refine ⟨e1, e2, fun width => ?_⟩
  rw [indentPosition_fails_iff, indentPosition_fails_iff, e1, e2]

theorem takeWhile_all_of {α} (p : α → Bool) (l : List α) : ∀ x ∈ l.takeWhile p, p x = true :=
  fun _ hx => mem_takeWhile_imp hx

theorem drop_trailing_space (l : Bytes) : ∀ y ∈ l.drop (l.length - trimRightSpaceLength l), isSpace y = true := by
  intro y hy
  have h1 : (l.drop (l.length - trimRightSpaceLength l)).reverse = l.reverse.takeWhile isSpace := by
    rw [← List.take_reverse]; exact take_len_takeWhile isSpace l.reverse
  have : y ∈ l.reverse.takeWhile isSpace := by rw [← h1]; simpa using hy
  exact mem_takeWhile_imp this

theorem trimRight_le (l : Bytes) : trimRightSpaceLength l ≤ l.length := by
  have := (List.takeWhile_sublist (p := isSpace) (l := l.reverse)).length_le
  simpa [trimRightSpaceLength] using this

theorem trimLeft_le (l : Bytes) : trimLeftSpaceLength l ≤ l.length :=
  (List.takeWhile_sublist _).length_le

theorem take_leading_space (l : Bytes) : ∀ y ∈ l.take (trimLeftSpaceLength l), isSpace y = true := by
  intro y hy
  rw [trimLeftSpaceLength, take_len_takeWhile] at hy
  exact mem_takeWhile_imp hy

/-- a non-space byte is in `l` iff it is in the trimmed middle of `l` -/
theorem mem_trimmed (l : Bytes) (x : UInt8) (hx : isSpace x = false) :
    x ∈ (l.drop (trimLeftSpaceLength l)).take (l.length - trimRightSpaceLength l - trimLeftSpaceLength l) ↔ x ∈ l := by
  constructor
  · intro h; exact List.mem_of_mem_drop (List.mem_of_mem_take h)
  · intro h
    rw [← List.take_append_drop (trimLeftSpaceLength l) l, List.mem_append] at h
    rcases h with h | h
    · have := take_leading_space l x h; simp [hx] at this
    · rw [← List.take_append_drop (l.length - trimRightSpaceLength l - trimLeftSpaceLength l)
        (l.drop (trimLeftSpaceLength l)), List.mem_append] at h
      rcases h with h | h
      · exact h
      · rw [List.drop_drop] at h
        have hsub : (l.drop (trimLeftSpaceLength l + (l.length - trimRightSpaceLength l - trimLeftSpaceLength l))).Sublist
            (l.drop (l.length - trimRightSpaceLength l)) := List.drop_sublist_drop_left l (by omega)
        have := drop_trailing_space l x (hsub.subset h)
        simp [hx] at this

/-- when the two trims cover the whole string, it is all white space -/
theorem all_space_of_trims (l : Bytes) (h : l.length ≤ trimLeftSpaceLength l + trimRightSpaceLength l) :
    ∀ y ∈ l, isSpace y = true := by
  intro y hy
  rw [← List.take_append_drop (trimLeftSpaceLength l) l, List.mem_append] at hy
  rcases hy with hy | hy
  · exact take_leading_space l y hy
  · have hsub : (l.drop (trimLeftSpaceLength l)).Sublist (l.drop (l.length - trimRightSpaceLength l)) :=
      List.drop_sublist_drop_left l (by omega)
    exact drop_trailing_space l y (hsub.subset hy)

/-- for a backtick fence whose run ended at `i`: the `return nil` fires iff the rest of the line has a backtick -/
theorem fenceInfoBad_backtick (line : Bytes) (i : Nat) (hh : (line.drop i).head? ≠ some 96) :
    fenceInfoBad 96 line i = true ↔ (96 : UInt8) ∈ line.drop i := by
  have hns : isSpace (96 : UInt8) = false := by decide
  unfold fenceInfoBad
  simp only [beq_self_eq_true, Bool.and_true, Bool.and_eq_true, decide_eq_true_eq, List.contains_eq_mem,
    decide_eq_true_eq]
  constructor
  · rintro ⟨_, hmem⟩
    exact (mem_trimmed _ 96 hns).mp hmem
  · intro hmem
    have hlen : (line.drop i).length = line.length - i := List.length_drop
    by_cases h1 : i + 1 < line.length
    · by_cases h2 : trimLeftSpaceLength (line.drop i) + trimRightSpaceLength (line.drop i) < (line.drop i).length
      · exact ⟨⟨h1, h2⟩, (mem_trimmed _ 96 hns).mpr hmem⟩
      · have := all_space_of_trims (line.drop i) (by omega) 96 hmem
        simp [hns] at this
    · -- at most one byte is left, and it is not a backtick
      exfalso
      cases hd : line.drop i with
      | nil => rw [hd] at hmem; simp at hmem
      | cons d t =>
        rw [hd] at hmem hh hlen
        have : t = [] := by
          cases t with
          | nil => rfl
          | cons _ _ => simp at hlen; omega
        subst this
        simp at hmem hh
        exact hh hmem.symm

theorem fenceInfoBad_tilde (c : UInt8) (line : Bytes) (i : Nat) (hc : c ≠ 96) : fenceInfoBad c line i = false := by
  simp [fenceInfoBad, hc]

theorem fenceOpen_iff (line : Bytes) (pos : Nat) (c : UInt8) (n : Nat) :
    (∃ info, fenceOpen line pos = .ok (some { char := c, indent := pos, length := n, info := info })) ↔
      (c = 96 ∨ c = 126) ∧ 3 ≤ n ∧
      ∃ rest, line.drop pos = List.replicate n c ++ rest ∧ rest.head? ≠ some c ∧ (c = 96 → (96 : UInt8) ∉ rest) := by
  constructor
  · rintro ⟨info, h⟩
    unfold fenceOpen at h
    cases hget : line[pos]? with
    | none => simp [hget] at h
    | some c0 =>
      simp only [hget] at h
      by_cases hc0 : (c0 != 96 && c0 != 126) = true
      · simp [hc0] at h
      · simp only [hc0, Bool.false_eq_true, if_false] at h
        by_cases hn : ((line.drop pos).takeWhile (· == c0)).length < 3
        · simp [hn] at h
        · simp only [hn, if_false] at h
          by_cases hbad : fenceInfoBad c0 line (pos + ((line.drop pos).takeWhile (· == c0)).length) = true
          · simp [hbad] at h
          · simp only [hbad, Bool.false_eq_true, if_false] at h
            injection h with h; injection h with h; injection h with hc _ hlen _
            subst hc; subst hlen
            obtain ⟨hsplit, hhead⟩ := run_split c0 (line.drop pos)
            have hc' : c0 = 96 ∨ c0 = 126 := by
              simp only [Bool.and_eq_true, bne_iff_ne, ne_eq] at hc0
              by_cases h96 : c0 = 96
              · exact Or.inl h96
              · by_cases h126 : c0 = 126
                · exact Or.inr h126
                · exact absurd ⟨h96, h126⟩ hc0
            refine ⟨hc', by omega, _, hsplit, hhead, ?_⟩
            intro h96; subst h96
            have hdrop : line.drop (pos + ((line.drop pos).takeWhile (· == 96)).length) = (line.drop pos).dropWhile (· == 96) := by
              rw [← List.drop_drop, drop_len_takeWhile]
            have := fenceInfoBad_backtick line (pos + ((line.drop pos).takeWhile (· == 96)).length) (by rw [hdrop]; exact hhead)
            rw [hdrop] at this
            intro hmem
            exact hbad (this.mpr hmem)
  · rintro ⟨hc, hn, rest, hrest, hhead, h96⟩
    have hrun : ((line.drop pos).takeWhile (· == c)).length = n := by rw [hrest]; exact run_length c n rest hhead
    have hget : line[pos]? = some c := by
      have := congrArg (·[0]?) hrest
      cases n with
      | zero => omega
      | succ n => simpa [List.getElem?_drop, List.replicate_succ] using this
    have hc0 : (c != 96 && c != 126) = false := by
      rcases hc with h | h <;> subst h <;> decide
    have hdrop : line.drop (pos + n) = rest := by
      rw [← List.drop_drop, hrest]; simp
    have hbad : fenceInfoBad c line (pos + n) = false := by
      by_cases hc96 : c = 96
      · subst hc96
        have := fenceInfoBad_backtick line (pos + n) (by rw [hdrop]; exact hhead)
        rw [hdrop] at this
        cases hb : fenceInfoBad 96 line (pos + n) with
        | false => rfl
        | true => exact absurd (this.mp hb) (h96 rfl)
      · exact fenceInfoBad_tilde c line _ hc96
    refine ⟨fenceInfo line (pos + n), ?_⟩
    unfold fenceOpen
    simp only [hget, hc0, Bool.false_eq_true, if_false, hrun, hbad]
    have : ¬ n < 3 := by omega
    simp [this]

theorem trimRight_append_spaces (a ws : Bytes) (hws : ws.all isSpace = true)
    (ha : ∀ x ∈ a.getLast?, isSpace x = false) : trimRightSpaceLength (a ++ ws) = ws.length := by
  unfold trimRightSpaceLength
  rw [List.reverse_append, List.takeWhile_append]
  have h1 : ws.reverse.takeWhile isSpace = ws.reverse := takeWhile_all _ _ (by simpa using hws)
  have h2 : a.reverse.takeWhile isSpace = [] := takeWhile_head_fails _ _ (by simpa [List.head?_reverse] using ha)
  simp [h1, h2]

theorem isSpace_setext {c : UInt8} (h : c = 61 ∨ c = 45) : isSpace c = false ∧ c ≠ 32 := by
  rcases h with h | h <;> subst h <;> decide

theorem setextBar_iff (line : Bytes) (c : UInt8) :
    setextBar line = .ok (some c) ↔
      ∃ k n ws, k ≤ 3 ∧ 1 ≤ n ∧ (c = 61 ∨ c = 45) ∧ ws.all isSpace = true ∧
        line = List.replicate k 32 ++ (List.replicate n c ++ ws) := by
  constructor
  · intro h
    unfold setextBar at h
    by_cases hk : (line.takeWhile (· == 32)).length > 3
    · simp [hk] at h
    · simp only [hk, if_false, drop_len_takeWhile] at h
      obtain ⟨hline, _⟩ := run_split 32 line
      cases hlast : line.getLast? with
      | none => simp [hlast] at h
      | some last =>
        simp only [hlast] at h
        -- which character, which level
        have key : ∀ (ch : UInt8) (lvl : Nat), (ch = 61 ∨ ch = 45) →
            lvl = ((line.dropWhile (· == 32)).takeWhile (· == ch)).length → 0 < lvl →
            (line.takeWhile (· == 32)).length + lvl =
              (if isSpace last = true then line.length - trimRightSpaceLength (line.dropWhile (· == 32)) else line.length) →
            ∃ k n ws, k ≤ 3 ∧ 1 ≤ n ∧ (ch = 61 ∨ ch = 45) ∧ ws.all isSpace = true ∧
              line = List.replicate k 32 ++ (List.replicate n ch ++ ws) := by
          intro ch lvl hch hlvl hpos he
          obtain ⟨hrest, _⟩ := run_split ch (line.dropWhile (· == 32))
          refine ⟨(line.takeWhile (· == 32)).length, lvl, (line.dropWhile (· == 32)).dropWhile (· == ch), Nat.le_of_not_gt hk, hpos, hch, ?_, ?_⟩
          · -- the remainder is exactly the trailing white space
            have hlen1 : line.length = (line.takeWhile (· == 32)).length + (line.dropWhile (· == 32)).length := by
              have h := congrArg List.length (List.takeWhile_append_dropWhile (p := (· == 32)) (l := line))
              rw [List.length_append] at h; exact h.symm
            have hlen2 : (line.dropWhile (· == 32)).length = lvl + ((line.dropWhile (· == 32)).dropWhile (· == ch)).length := by
              have := congrArg List.length hrest; simp at this; omega
            have htr := trimRight_le (line.dropWhile (· == 32))
            by_cases hsp : isSpace last = true
            · simp only [hsp, if_true] at he
              have hd : (line.dropWhile (· == 32)).dropWhile (· == ch) =
                  (line.dropWhile (· == 32)).drop ((line.dropWhile (· == 32)).length - trimRightSpaceLength (line.dropWhile (· == 32))) := by
                rw [← drop_len_takeWhile]; congr 1; omega
              rw [hd, List.all_eq_true]
              exact drop_trailing_space _
            · have hsp' : isSpace last = false := by simpa using hsp
              rw [hsp'] at he
              simp only [Bool.false_eq_true, if_false] at he
              have : ((line.dropWhile (· == 32)).dropWhile (· == ch)).length = 0 := by omega
              rw [List.eq_nil_of_length_eq_zero this]; rfl
          · rw [hlvl, ← hrest]; exact hline
        by_cases h1 : ((line.dropWhile (· == 32)).takeWhile (· == 61)).length = 0
        · simp only [h1, beq_self_eq_true, if_true, Nat.lt_irrefl, decide_false, Bool.false_and, Bool.false_or] at h
          by_cases hc2 : (decide (0 < ((line.dropWhile (· == 32)).takeWhile (· == 45)).length) &&
              (line.takeWhile (· == 32)).length + ((line.dropWhile (· == 32)).takeWhile (· == 45)).length ==
                (if isSpace last = true then line.length - trimRightSpaceLength (line.dropWhile (· == 32)) else line.length)) = true
          · simp only [hc2, if_true] at h
            injection h with h; injection h with h; subst h
            simp only [Bool.and_eq_true, decide_eq_true_eq, beq_iff_eq] at hc2
            exact key 45 _ (Or.inr rfl) rfl hc2.1 hc2.2
          · simp [hc2] at h
        · have h1' : (((line.dropWhile (· == 32)).takeWhile (· == 61)).length == 0) = false := by simpa using h1
          simp only [h1', Bool.false_eq_true, if_false, Nat.lt_irrefl, decide_false, Bool.false_and, Bool.or_false] at h
          by_cases hc2 : (decide (0 < ((line.dropWhile (· == 32)).takeWhile (· == 61)).length) &&
              (line.takeWhile (· == 32)).length + ((line.dropWhile (· == 32)).takeWhile (· == 61)).length ==
                (if isSpace last = true then line.length - trimRightSpaceLength (line.dropWhile (· == 32)) else line.length)) = true
          · simp only [hc2, if_true] at h
            injection h with h; injection h with h; subst h
            simp only [Bool.and_eq_true, decide_eq_true_eq, beq_iff_eq] at hc2
            exact key 61 _ (Or.inl rfl) rfl hc2.1 hc2.2
          · simp [hc2] at h
  · rintro ⟨k, n, ws, hk, hn, hc, hws, hline⟩
    obtain ⟨hcs, hc32⟩ := isSpace_setext hc
    have hwsh : ∀ (d : UInt8), d ≠ 32 → isSpace d = false → ws.head? ≠ some d := by
      intro d _ hd
      cases ws with
      | nil => simp
      | cons e ws => simp at hws ⊢; intro h; subst h; simp [hd] at hws
    have hnh : (List.replicate n c ++ ws).head? ≠ some 32 := by
      cases n with
      | zero => omega
      | succ n => simp [List.replicate_succ]; exact hc32
    have hlead : (line.takeWhile (· == 32)).length = k := by rw [hline]; exact run_length 32 k _ hnh
    have hrest : line.dropWhile (· == 32) = List.replicate n c ++ ws := by
      rw [← drop_len_takeWhile, hlead, hline]; simp
    have hlen : line.length = k + (n + ws.length) := by rw [hline]; simp
    have hrunc : ((List.replicate n c ++ ws).takeWhile (· == c)).length = n := run_length c n ws (hwsh c hc32 hcs)
    -- the last byte and the trailing white space
    have hlastrep : (List.replicate n c).getLast? = some c := by
      rw [List.getLast?_replicate]; simp; omega
    have htrim : trimRightSpaceLength (List.replicate n c ++ ws) = ws.length :=
      trimRight_append_spaces _ ws hws (by rw [hlastrep]; simpa using hcs)
    have hlast : ∃ last, line.getLast? = some last ∧
        (if isSpace last = true then line.length - trimRightSpaceLength (List.replicate n c ++ ws) else line.length) = k + n := by
      cases hw : ws.getLast? with
      | none =>
        have : ws = [] := by simpa using hw
        subst this
        refine ⟨c, by rw [hline]; simp [List.getLast?_append, hlastrep], ?_⟩
        simp [hcs, hlen]
      | some l =>
        have hl : isSpace l = true := by
          have := List.mem_of_getLast? hw
          exact (List.all_eq_true.mp hws) l this
        refine ⟨l, by rw [hline]; simp [List.getLast?_append, hw], ?_⟩
        simp [hl, htrim, hlen]; omega
    obtain ⟨last, hl1, hl2⟩ := hlast
    unfold setextBar
    have hk' : ¬ (line.takeWhile (· == 32)).length > 3 := by omega
    have hdropk : line.drop k = List.replicate n c ++ ws := by rw [hline]; simp
    have hk3 : ¬ k > 3 := by omega
    simp only [hlead, hdropk, hl1, hk3, if_false]
    rw [hl2]
    have hn0 : (n == 0) = false := by simp; omega
    have hpos : decide (n > 0) = true := by simp; omega
    rcases hc with hc | hc
    · subst hc
      simp only [hrunc, hn0, hpos, beq_self_eq_true, Bool.and_self, Bool.true_or, if_true, Bool.false_eq_true, if_false]
    · subst hc
      have h61 : ((List.replicate n 45 ++ ws).takeWhile (· == 61)).length = 0 := by
        cases n with
        | zero => omega
        | succ n => simp [List.replicate_succ]
      simp only [h61, hrunc, hpos, beq_self_eq_true, Bool.and_self, Bool.or_true, if_true]

/-- what may follow a list marker: end of line (nothing, or the line's LF) or a space / tab -/
def restOK : Bytes → Bool
  | [] => true
  | d :: _ => d == 10 || d == 32 || d == 9

/-- bullet list marker characters `-`, `*`, `+` -/
def isBullet (c : UInt8) : Bool := c == 45 || c == 42 || c == 43

theorem iw_zero_iff (c : UInt8) (cs : Bytes) : ((indentWidth (c :: cs) 0).1 == 0) = !(c == 32 || c == 9) := by
  unfold indentWidth indentWidthGo
  by_cases h32 : c = 32
  · subst h32
    have := indentWidthGo_mono 0 cs (0 + 1) (0 + 1)
    simp only [beq_self_eq_true, if_true, Bool.true_or, Bool.not_true, beq_eq_false_iff_ne, ne_eq]
    omega
  · by_cases h9 : c = 9
    · subst h9
      have := indentWidthGo_mono 0 cs (0 + tabWidth (0 + 0)) (0 + 1)
      simp [tabWidth] at this ⊢; omega
    · simp [h32, h9]

theorem pliFinish_typ (line : Bytes) (k i : Nat) (typ : ListTyp) :
    (pliFinish line k i typ).2 = if restOK (line.drop i) then typ else .notList := by
  unfold pliFinish
  cases h : line.drop i with
  | nil => simp [restOK]
  | cons c cs =>
    simp only [iw_zero_iff, restOK]
    by_cases h10 : c = 10
    · subst h10; simp
    · by_cases h32 : c = 32
      · subst h32; simp
      · by_cases h9 : c = 9
        · subst h9; simp
        · simp [h10, h32, h9]

/-- the list type decided on the line after its leading spaces -/
def tailTyp : Bytes → ListTyp
  | [] => .notList
  | c :: cs =>
    if isBullet c then (if restOK cs then .bullet else .notList)
    else
      let nd := ((c :: cs).takeWhile isNumeric).length
      if nd == 0 || nd > 9 then .notList
      else
        match (c :: cs).drop nd with
        | d :: rest => if d == 46 || d == 41 then (if restOK rest then .ordered else .notList) else .notList
        | [] => .notList

theorem pli_typ (k : Nat) (tail : Bytes) (hns : tail.head? ≠ some 32) :
    (parseListItem (List.replicate k 32 ++ tail)).2 = if k > 3 then .notList else tailTyp tail := by
  unfold parseListItem
  simp only [run_length 32 k tail hns, drop_replicate_append]
  by_cases hk : k > 3
  · simp [hk]
  · simp only [hk, if_false]
    cases tail with
    | nil => simp [tailTyp]
    | cons c cs =>
      simp only [tailTyp, isBullet]
      by_cases hb : (c == 45 || c == 42 || c == 43) = true
      · simp only [hb, if_true, pliFinish_typ]
        have : (List.replicate k (32 : UInt8) ++ c :: cs).drop (k + 1) = cs := by
          rw [← List.drop_drop, drop_replicate_append]; rfl
        rw [this]
      · simp only [hb, Bool.false_eq_true, if_false]
        by_cases hnd : (((c :: cs).takeWhile isNumeric).length == 0 || decide (((c :: cs).takeWhile isNumeric).length > 9)) = true
        · simp only [hnd, if_true]
        · simp only [hnd, Bool.false_eq_true, if_false]
          cases hd : (c :: cs).drop ((c :: cs).takeWhile isNumeric).length with
          | nil => rfl
          | cons d rest =>
            simp only []
            by_cases hdel : (d == 46 || d == 41) = true
            · simp only [hdel, if_true, pliFinish_typ]
              have : (List.replicate k (32 : UInt8) ++ c :: cs).drop (k + ((c :: cs).takeWhile isNumeric).length + 1) = rest := by
                rw [Nat.add_assoc, ← List.drop_drop, drop_replicate_append, ← List.drop_drop, hd]; rfl
              rw [this]
            · simp only [hdel, Bool.false_eq_true, if_false]

theorem isBullet_not32 {c : UInt8} (h : isBullet c = true) : c ≠ 32 := by
  intro h32; subst h32; simp [isBullet] at h

theorem numeric_facts : ∀ c : UInt8, isNumeric c = true → isBullet c = false ∧ c ≠ 32 ∧ c ≠ 46 ∧ c ≠ 41 := by
  apply forall_uint8; decide +kernel

theorem takeWhile_append_stop {α} (p : α → Bool) (ds t : List α) (hds : ds.all p = true)
    (ht : ∀ x ∈ t.head?, p x = false) : (ds ++ t).takeWhile p = ds := by
  rw [List.takeWhile_append, takeWhile_all p ds hds, takeWhile_head_fails p t ht]; simp

theorem parseListItem_bullet_iff (line : Bytes) :
    (parseListItem line).2 = .bullet ↔
      ∃ k c rest, k ≤ 3 ∧ isBullet c = true ∧ line = List.replicate k 32 ++ c :: rest ∧ restOK rest = true := by
  constructor
  · intro h
    obtain ⟨k, tail, hline, hns⟩ := exists_lead_decomp line
    subst hline
    rw [pli_typ k tail hns] at h
    by_cases hk : k > 3
    · simp [hk] at h
    · simp only [hk, if_false] at h
      cases tail with
      | nil => simp [tailTyp] at h
      | cons c cs =>
        simp only [tailTyp] at h
        by_cases hb : isBullet c = true
        · simp only [hb, if_true] at h
          by_cases hr : restOK cs = true
          · exact ⟨k, c, cs, by omega, hb, rfl, hr⟩
          · simp [hr] at h
        · simp only [hb, Bool.false_eq_true, if_false] at h
          split at h
          · cases h
          · split at h
            · split at h
              · split at h <;> cases h
              · cases h
            · cases h
  · rintro ⟨k, c, rest, hk, hb, hline, hr⟩
    subst hline
    rw [pli_typ k (c :: rest) (by simpa using isBullet_not32 hb)]
    have : ¬ k > 3 := by omega
    simp [this, tailTyp, hb, hr]

theorem parseListItem_ordered_iff (line : Bytes) :
    (parseListItem line).2 = .ordered ↔
      ∃ k ds d rest, k ≤ 3 ∧ 1 ≤ ds.length ∧ ds.length ≤ 9 ∧ ds.all isNumeric = true ∧ (d = 46 ∨ d = 41) ∧
        line = List.replicate k 32 ++ (ds ++ d :: rest) ∧ restOK rest = true := by
  constructor
  · intro h
    obtain ⟨k, tail, hline, hns⟩ := exists_lead_decomp line
    subst hline
    rw [pli_typ k tail hns] at h
    by_cases hk : k > 3
    · simp [hk] at h
    · simp only [hk, if_false] at h
      cases tail with
      | nil => simp [tailTyp] at h
      | cons c cs =>
        simp only [tailTyp] at h
        by_cases hb : isBullet c = true
        · simp only [hb, if_true] at h
          split at h <;> cases h
        · simp only [hb, Bool.false_eq_true, if_false] at h
          by_cases hnd : (((c :: cs).takeWhile isNumeric).length == 0 || decide (((c :: cs).takeWhile isNumeric).length > 9)) = true
          · simp [hnd] at h
          · simp only [hnd, Bool.false_eq_true, if_false] at h
            cases hd : (c :: cs).drop ((c :: cs).takeWhile isNumeric).length with
            | nil => simp [hd] at h
            | cons d rest =>
              simp only [hd] at h
              by_cases hdel : (d == 46 || d == 41) = true
              · simp only [hdel, if_true] at h
                by_cases hr : restOK rest = true
                · have hsplit : c :: cs = (c :: cs).takeWhile isNumeric ++ d :: rest := by
                    rw [← hd, drop_len_takeWhile]; exact (List.takeWhile_append_dropWhile).symm
                  have hbounds : 1 ≤ ((c :: cs).takeWhile isNumeric).length ∧ ((c :: cs).takeWhile isNumeric).length ≤ 9 := by
                    generalize ((c :: cs).takeWhile isNumeric).length = m at hnd
                    simp at hnd; omega
                  refine ⟨k, (c :: cs).takeWhile isNumeric, d, rest, by omega, hbounds.1, hbounds.2, ?_, ?_, ?_, hr⟩
                  · rw [List.all_eq_true]; exact takeWhile_all_of _ _
                  · simpa using hdel
                  · rw [← hsplit]
                · simp [hr] at h
              · simp [hdel] at h
  · rintro ⟨k, ds, d, rest, hk, h1, h9, hds, hd, hline, hr⟩
    subst hline
    cases ds with
    | nil => simp at h1
    | cons c cs =>
      have hc := numeric_facts c (by simp only [List.all_cons, Bool.and_eq_true] at hds; exact hds.1)
      have hdn : isNumeric d = false := by rcases hd with h | h <;> subst h <;> decide
      rw [pli_typ k (c :: cs ++ d :: rest) (by simpa using hc.2.1)]
      have hk' : ¬ k > 3 := by omega
      have htw : ((c :: (cs ++ d :: rest)).takeWhile isNumeric) = c :: cs := by
        have := takeWhile_append_stop isNumeric (c :: cs) (d :: rest) hds (by simpa using hdn)
        simpa using this
      have hdrop : (c :: (cs ++ d :: rest)).drop (cs.length + 1) = d :: rest := by
        have : c :: (cs ++ d :: rest) = (c :: cs) ++ d :: rest := rfl
        rw [this, ← List.length_cons (a := c), List.drop_left]
      have hdel : (d == 46 || d == 41) = true := by rcases hd with h | h <;> subst h <;> decide
      have hlen : ¬ ((cs.length + 1 == 0) || decide (cs.length + 1 > 9)) = true := by
        simp at h9 ⊢; omega
      simp only [hk', if_false, List.cons_append, tailTyp, hc.1, Bool.false_eq_true, htw, List.length_cons, hlen, hdrop, hdel,
        if_true, hr]

theorem pliFinish_match (line : Bytes) (k i : Nat) (typ : ListTyp) (hr : restOK (line.drop i) = true) :
    let m := (pliFinish line k i typ).1
    m.r0 = 0 ∧ m.r1 = k ∧ m.r2 = k ∧ m.r3 = i ∧ m.r4 = (if line.drop i = [] then -1 else (i : Int)) ∧
    (line.drop i = [] → m.r5 = -1) ∧
    (line.drop i ≠ [] → m.r5 = line.length ∨ m.r5 = (line.length - 1 : Nat)) := by
  have ht := pliFinish_typ line k i typ
  unfold pliFinish at *
  cases h : line.drop i with
  | nil => simp
  | cons c cs =>
    rw [h] at hr
    have hcond : (c != 10 && (indentWidth (c :: cs) 0).1 == 0) = false := by
      rw [iw_zero_iff]
      simp only [restOK, Bool.or_eq_true, beq_iff_eq] at hr
      rcases hr with (h | h) | h <;> subst h <;> decide
    simp only [hcond, Bool.false_eq_true, if_false]
    refine ⟨?_, ?_, ?_, ?_, ?_, ?_, ?_⟩
    all_goals try simp
    split
    · exact Or.inr rfl
    · exact Or.inl rfl

/-- the match array of an accepted bullet item -/
theorem parseListItem_bullet_match (k : Nat) (c : UInt8) (rest : Bytes) (hk : k ≤ 3) (hb : isBullet c = true)
    (hr : restOK rest = true) :
    let m := (parseListItem (List.replicate k 32 ++ c :: rest)).1
    m.r0 = 0 ∧ m.r1 = k ∧ m.r2 = k ∧ m.r3 = (k + 1 : Nat) ∧ m.r4 = (if rest = [] then -1 else ((k + 1 : Nat) : Int)) := by
  have hns : (c :: rest).head? ≠ some 32 := by simpa using isBullet_not32 hb
  have hdrop : (List.replicate k (32 : UInt8) ++ c :: rest).drop (k + 1) = rest := by
    rw [← List.drop_drop, drop_replicate_append]; rfl
  have hfin := pliFinish_match (List.replicate k 32 ++ c :: rest) k (k + 1) .bullet (by rw [hdrop]; exact hr)
  rw [hdrop] at hfin
  unfold parseListItem
  simp only [run_length 32 k (c :: rest) hns, drop_replicate_append]
  have hk' : ¬ k > 3 := by omega
  have hb' : (c == 45 || c == 42 || c == 43) = true := hb
  simp only [hk', if_false, hb', if_true]
  exact ⟨hfin.1, hfin.2.1, hfin.2.2.1, hfin.2.2.2.1, hfin.2.2.2.2.1⟩

/-- the match array of an accepted ordered item -/
theorem parseListItem_ordered_match (k : Nat) (ds : Bytes) (d : UInt8) (rest : Bytes) (hk : k ≤ 3)
    (h1 : 1 ≤ ds.length) (h9 : ds.length ≤ 9) (hds : ds.all isNumeric = true) (hd : d = 46 ∨ d = 41)
    (hr : restOK rest = true) :
    let m := (parseListItem (List.replicate k 32 ++ (ds ++ d :: rest))).1
    m.r0 = 0 ∧ m.r1 = k ∧ m.r2 = k ∧ m.r3 = (k + ds.length + 1 : Nat) ∧
      m.r4 = (if rest = [] then -1 else ((k + ds.length + 1 : Nat) : Int)) := by
  cases ds with
  | nil => simp at h1
  | cons c cs =>
    have hc := numeric_facts c (by simp only [List.all_cons, Bool.and_eq_true] at hds; exact hds.1)
    have hdn : isNumeric d = false := by rcases hd with h | h <;> subst h <;> decide
    have hns : (c :: cs ++ d :: rest).head? ≠ some 32 := by simpa using hc.2.1
    have htw : ((c :: (cs ++ d :: rest)).takeWhile isNumeric) = c :: cs := by
      have := takeWhile_append_stop isNumeric (c :: cs) (d :: rest) hds (by simpa using hdn)
      simpa using this
    have hdrop1 : (c :: (cs ++ d :: rest)).drop (cs.length + 1) = d :: rest := by
      have : c :: (cs ++ d :: rest) = (c :: cs) ++ d :: rest := rfl
      rw [this, ← List.length_cons (a := c), List.drop_left]
    have hdrop : (List.replicate k (32 : UInt8) ++ (c :: cs ++ d :: rest)).drop (k + (cs.length + 1) + 1) = rest := by
      rw [Nat.add_assoc, ← List.drop_drop, drop_replicate_append, ← List.drop_drop]
      show ((c :: (cs ++ d :: rest)).drop (cs.length + 1)).drop 1 = rest
      rw [hdrop1]; rfl
    have hfin := pliFinish_match (List.replicate k 32 ++ (c :: cs ++ d :: rest)) k (k + (cs.length + 1) + 1) .ordered
      (by rw [hdrop]; exact hr)
    rw [hdrop] at hfin
    have hdel : (d == 46 || d == 41) = true := by rcases hd with h | h <;> subst h <;> decide
    have hlen : ¬ ((cs.length + 1 == 0) || decide (cs.length + 1 > 9)) = true := by
      simp at h9 ⊢; omega
    have hb' : (c == 45 || c == 42 || c == 43) = false := hc.1
    have hk' : ¬ k > 3 := by omega
    unfold parseListItem
    simp only [List.cons_append, run_length 32 k (c :: (cs ++ d :: rest)) hns, drop_replicate_append, hk', if_false, hb', Bool.false_eq_true, htw,
      List.length_cons, hlen, hdrop1, hdel, if_true]
    simp only [List.cons_append, List.length_cons] at hfin
    exact ⟨hfin.1, hfin.2.1, hfin.2.2.1, hfin.2.2.2.1, hfin.2.2.2.2.1⟩

theorem tabWidth_le (n : Nat) : tabWidth n ≤ 4 ∧ 1 ≤ tabWidth n := by
  unfold tabWidth; omega

/-- the loop consumes `m` indentation bytes whose width (from column `c`, starting at width `w`) is the returned width -/
theorem ippLoop_spec (c width : Nat) (bs : Bytes) (i w : Nat) (hw : w < width + 4) :
    ∃ m, (ippLoop c width bs i 0 w).1 = i + m ∧ m ≤ bs.length ∧ (bs.take m).all isIndent = true ∧
      (ippLoop c width bs i 0 w).2 = (indentWidthGo c (bs.take m) w 0).1 ∧ (ippLoop c width bs i 0 w).2 < width + 4 := by
  induction bs generalizing i w with
  | nil => exact ⟨0, by simp [ippLoop, indentWidthGo, hw]⟩
  | cons b bs ih =>
    unfold ippLoop
    by_cases h9 : (b == 9 && decide (w < width)) = true
    · simp only [Nat.lt_irrefl, if_false, h9, if_true]
      have hb : b = 9 := by simp at h9; exact h9.1
      have hlt : w < width := by simp at h9; exact h9.2
      obtain ⟨m, h1, h2, h3, h4, h5⟩ := ih (i + 1) (w + tabWidth (c + w)) (by have := tabWidth_le (c + w); omega)
      refine ⟨m + 1, by rw [h1]; omega, by simp; omega, ?_, ?_, h5⟩
      · subst hb; simp [List.take_succ_cons, h3, isIndent]
      · subst hb
        rw [h4, List.take_succ_cons]
        simp only [indentWidthGo, beq_self_eq_true, if_true]
        have e : ((9 : UInt8) == 32) = false := by decide
        simp only [e, Bool.false_eq_true, if_false]
        exact indentWidthGo_fst_indep _ _ _ _ _
    · simp only [Nat.lt_irrefl, if_false, h9, Bool.false_eq_true]
      by_cases h32 : (b == 32 && decide (w < width)) = true
      · simp only [h32, if_true]
        have hb : b = 32 := by simp at h32; exact h32.1
        have hlt : w < width := by simp at h32; exact h32.2
        obtain ⟨m, h1, h2, h3, h4, h5⟩ := ih (i + 1) (w + 1) (by omega)
        refine ⟨m + 1, by rw [h1]; omega, by simp; omega, ?_, ?_, h5⟩
        · subst hb; simp [List.take_succ_cons, h3, isIndent]
        · subst hb
          rw [h4, List.take_succ_cons]
          simp only [indentWidthGo, beq_self_eq_true, if_true]
          exact indentWidthGo_fst_indep _ _ _ _ _
      · simp only [h32, Bool.false_eq_true, if_false]
        exact ⟨0, by simp [indentWidthGo, hw]⟩

/-- When `IndentPosition(bs, c, width)` succeeds with `(pos, padding)`: the first `pos` bytes
    are spaces/tabs, their width from column `c` is exactly `width + padding`, and `padding ≤ 3` — i.e. position minus
    padding denotes exactly column `c + width`. -/
theorem indentPosition_column (bs : Bytes) (c width : Nat) (hw : 0 < width)
    (hok : width ≤ (indentWidth bs c).1) :
    ∃ m pad : Nat, indentPosition bs c width = ((m : Int), (pad : Int)) ∧ m ≤ bs.length ∧
      (bs.take m).all isIndent = true ∧ (indentWidth (bs.take m) c).1 = width + pad ∧ pad ≤ 3 := by
  obtain ⟨m, h1, h2, h3, h4, h5⟩ := ippLoop_spec c width bs 0 0 (by omega)
  have hreach : width ≤ (ippLoop c width bs 0 0 0).2 := (ippLoop_reaches c width bs 0 0).mpr hok
  refine ⟨m, (ippLoop c width bs 0 0 0).2 - width, ?_, h2, h3, ?_, by omega⟩
  · unfold indentPosition indentPositionPadding
    have h0 : (width == 0) = false := by simp; omega
    simp only [h0, Bool.false_eq_true, if_false, ge_iff_le, hreach, if_true, h1]
    simp
  · unfold indentWidth; rw [← h4]; omega

theorem tabs_eq_spaces_padding (c : Nat) (p q r : Bytes) (hp : p.all isIndent = true) (hq : q.all isIndent = true)
    (hr : ∀ b ∈ r.head?, isIndent b = false) (hw : (indentWidth p c).1 = (indentWidth q c).1)
    (width : Nat) (hpos : 0 < width) (hle : width ≤ (indentWidth p c).1) :
    ∃ m₁ pad₁ m₂ pad₂ : Nat,
      indentPosition (p ++ r) c width = ((m₁ : Int), (pad₁ : Int)) ∧
      indentPosition (q ++ r) c width = ((m₂ : Int), (pad₂ : Int)) ∧
      (indentWidth ((p ++ r).take m₁) c).1 = width + pad₁ ∧ (indentWidth ((q ++ r).take m₂) c).1 = width + pad₂ ∧
      pad₁ ≤ 3 ∧ pad₂ ≤ 3 := by
  obtain ⟨e1, e2, _⟩ := tabs_eq_spaces c p q r hp hq hr hw
  obtain ⟨m₁, pad₁, h1, _, _, h1w, h1p⟩ := indentPosition_column (p ++ r) c width hpos (by rw [e1]; exact hle)
  obtain ⟨m₂, pad₂, h2, _, _, h2w, h2p⟩ := indentPosition_column (q ++ r) c width hpos (by rw [e2]; exact hle)
  exact ⟨m₁, pad₁, m₂, pad₂, h1, h2, h1w, h2w, h1p, h2p⟩

theorem atxScanBack_stop (line : Bytes) (start j : Nat) (d : UInt8) (hj : line[j]? = some d) (hd : d ≠ 35) :
    atxScanBack line start j = .ok j := by
  cases j with
  | zero => simp [atxScanBack, hj, hd]
  | succ j => simp [atxScanBack, hj, hd]

theorem getElem?_mid (P T : Bytes) (d : UInt8) : (P ++ d :: T)[P.length]? = some d := by
  simp [List.getElem?_append_right]

theorem atxScan_run (P T : Bytes) (d : UInt8) (h start : Nat) (hd : d ≠ 35) (hs : start ≤ P.length + 1) :
    atxScanBack (P ++ d :: (List.replicate h 35 ++ T)) start (P.length + h) = .ok P.length := by
  induction h generalizing T with
  | zero => exact atxScanBack_stop _ _ _ d (by simpa using getElem?_mid P T d) hd
  | succ h ih =>
    have hre : List.replicate (h + 1) (35 : UInt8) ++ T = List.replicate h 35 ++ (35 :: T) := by
      rw [List.replicate_succ', List.append_assoc]; rfl
    rw [hre]
    have hget : (P ++ d :: (List.replicate h 35 ++ 35 :: T))[P.length + h + 1]? = some 35 := by
      have : P ++ d :: (List.replicate h 35 ++ 35 :: T) = (P ++ d :: List.replicate h 35) ++ 35 :: T := by simp
      rw [this]
      have hl : (P ++ d :: List.replicate h (35 : UInt8)).length = P.length + h + 1 := by simp; omega
      rw [← hl]; exact getElem?_mid _ _ _
    have hge : P.length + h + 1 ≥ start := by omega
    show atxScanBack _ start (P.length + h + 1) = _
    simp only [atxScanBack, hget, beq_self_eq_true, hge, decide_true, Bool.and_self, if_true]
    exact ih (35 :: T)

theorem atxContent_core (P T : Bytes) (d : UInt8) (h start : Nat) (hd : d ≠ 35) (hs : start ≤ P.length) :
    atxContent (P ++ d :: (List.replicate h 35 ++ T)) start (P.length + 1 + h) =
      .ok (some (start, P.length + 1 + (if isSpace d = true then 0 else h))) := by
  unfold atxContent
  have h1 : ¬ (P.length + 1 + h ≤ start) := by omega
  have h2 : P.length + 1 + h - 1 = P.length + h := by omega
  have hgetd : (P ++ d :: (List.replicate h 35 ++ T))[P.length]? = some d := getElem?_mid _ _ _
  simp only [h1, if_false, h2, atxScan_run P T d h start hd (by omega), hgetd]
  -- the stop position
  have hstop : (if (P.length != P.length + h && !isSpace d) = true then P.length + h else P.length) + 1
      = P.length + 1 + (if isSpace d = true then 0 else h) := by
    by_cases hsp : isSpace d = true
    · simp [hsp]
    · have hsp' : isSpace d = false := by simpa using hsp
      by_cases h0 : h = 0
      · subst h0; simp [hsp']
      · have : (P.length != P.length + h) = true := by simp; omega
        simp [hsp', this]; omega
  rw [hstop]
  have h3 : ¬ (P.length + 1 + (if isSpace d = true then 0 else h) < start) := by omega
  have hany : (((P ++ d :: (List.replicate h 35 ++ T)).drop start).take
      (P.length + 1 + (if isSpace d = true then 0 else h) - start)).any (· != 35) = true := by
    rw [List.any_eq_true]
    refine ⟨d, ?_, by simpa using hd⟩
    rw [List.mem_iff_getElem?]
    refine ⟨P.length - start, ?_⟩
    rw [List.getElem?_take]
    have hlt : P.length - start < P.length + 1 + (if isSpace d = true then 0 else h) - start := by omega
    simp only [hlt, if_true, List.getElem?_drop]
    have : start + (P.length - start) = P.length := by omega
    rw [this]; exact hgetd
  simp only [h3, if_false, hany, if_true]

theorem atx_content_range (pre s1 text trail : Bytes) (d : UInt8) (n h : Nat)
    (hn1 : 1 ≤ n) (hn6 : n ≤ 6) (hs1 : s1 ≠ []) (hs1s : s1.all isSpace = true)
    (hhead : ∀ x ∈ (text ++ [d]).head?, isSpace x = false)
    (hd35 : d ≠ 35) (hdh : isSpace d = true → 1 ≤ h) (htrail : trail.all isSpace = true) :
    atxOpen (pre ++ (List.replicate n 35 ++ (s1 ++ (text ++ d :: (List.replicate h 35 ++ trail))))) pre.length =
      .ok (some { level := n,
                  content := some (pre.length + n + s1.length,
                    pre.length + n + s1.length + text.length + 1 + (if isSpace d = true then 0 else h)) }) := by
  have hB : ∀ x ∈ (text ++ d :: (List.replicate h 35 ++ trail)).head?, isSpace x = false := by
    cases text with
    | nil => simpa using hhead
    | cons t ts => simpa using hhead
  have hs1h : (s1 ++ (text ++ d :: (List.replicate h 35 ++ trail))).head? ≠ some 35 := by
    cases s1 with
    | nil => exact absurd rfl hs1
    | cons a s1 =>
      simp only [List.all_cons, Bool.and_eq_true] at hs1s
      simp; intro h35; subst h35; simp [isSpace] at hs1s
  -- the opening run
  have hdrop0 : (pre ++ (List.replicate n 35 ++ (s1 ++ (text ++ d :: (List.replicate h 35 ++ trail))))).drop pre.length
      = List.replicate n 35 ++ (s1 ++ (text ++ d :: (List.replicate h 35 ++ trail))) := List.drop_left
  have hrun := run_length 35 n _ hs1h
  have hdropi : (pre ++ (List.replicate n 35 ++ (s1 ++ (text ++ d :: (List.replicate h 35 ++ trail))))).drop (pre.length + n)
      = s1 ++ (text ++ d :: (List.replicate h 35 ++ trail)) := by
    rw [← List.drop_drop, hdrop0]; simp
  have hl : trimLeftSpaceLength (s1 ++ (text ++ d :: (List.replicate h 35 ++ trail))) = s1.length := by
    unfold trimLeftSpaceLength
    rw [takeWhile_append_stop isSpace s1 _ hs1s hB]
  have hs1pos : 0 < s1.length := by
    cases s1 with
    | nil => exact absurd rfl hs1
    | cons _ _ => simp
  -- the end of the text: trailing white space
  have hX : pre ++ (List.replicate n 35 ++ (s1 ++ (text ++ d :: (List.replicate h 35 ++ trail))))
      = (pre ++ (List.replicate n 35 ++ (s1 ++ (text ++ d :: List.replicate h 35)))) ++ trail := by simp
  have hXlast : ∀ x ∈ (pre ++ (List.replicate n 35 ++ (s1 ++ (text ++ d :: List.replicate h (35 : UInt8))))).getLast?, isSpace x = false := by
    intro x hx
    have e : pre ++ (List.replicate n 35 ++ (s1 ++ (text ++ d :: List.replicate h (35 : UInt8))))
        = (pre ++ (List.replicate n 35 ++ (s1 ++ text))) ++ (d :: List.replicate h 35) := by simp
    rw [e, List.getLast?_append] at hx
    cases h with
    | zero =>
      have hxd : x = d := by
        simp at hx
        first | exact hx.symm | exact hx
      rw [hxd]
      cases hsp : isSpace d with
      | false => rfl
      | true => have := hdh hsp; omega
    | succ h =>
      have hl35 : (d :: List.replicate (h + 1) (35 : UInt8)).getLast? = some 35 := by
        rw [List.replicate_succ', ← List.cons_append, List.getLast?_append]; simp
      rw [hl35] at hx
      have hx35 : x = 35 := by
        simp at hx
        first | exact hx.symm | exact hx
      rw [hx35]; decide
  have htr : trimRightSpaceLength (pre ++ (List.replicate n 35 ++ (s1 ++ (text ++ d :: (List.replicate h 35 ++ trail)))))
      = trail.length := by rw [hX]; exact trimRight_append_spaces _ trail htrail hXlast
  have hlen : (pre ++ (List.replicate n 35 ++ (s1 ++ (text ++ d :: (List.replicate h 35 ++ trail))))).length
      = pre.length + n + s1.length + text.length + 1 + h + trail.length := by simp; omega
  have hP : pre ++ (List.replicate n 35 ++ (s1 ++ (text ++ d :: (List.replicate h 35 ++ trail))))
      = (pre ++ (List.replicate n 35 ++ (s1 ++ text))) ++ d :: (List.replicate h 35 ++ trail) := by simp
  have hPlen : (pre ++ (List.replicate n (35 : UInt8) ++ (s1 ++ text))).length = pre.length + n + s1.length + text.length := by
    simp; omega
  have hcore := atxContent_core (pre ++ (List.replicate n 35 ++ (s1 ++ text))) trail d h (pre.length + n + s1.length) hd35
    (by rw [hPlen]; omega)
  rw [hPlen, ← hP] at hcore
  unfold atxOpen
  simp only [hdrop0, hrun, hdropi, hl, hlen, htr]
  have c1 : (n == 0 || decide (n > 6)) = false := by simp; omega
  have c2 : ¬ (pre.length + n = pre.length + n + s1.length + text.length + 1 + h + trail.length) := by omega
  have c3 : (s1.length == 0) = false := by simp; omega
  have c4 : ¬ (pre.length + n + s1.length ≥ pre.length + n + s1.length + text.length + 1 + h + trail.length) := by omega
  have c5 : pre.length + n + s1.length + text.length + 1 + h + trail.length - trail.length
      = pre.length + n + s1.length + text.length + 1 + h := by omega
  simp only [c1, Bool.false_eq_true, if_false, beq_iff_eq, c2, c3, c4, c5, hcore]
  rfl

/-! ### list content offset: column independence on tab-free lines (/repo 3fb40b2 made the column a parameter) -/

theorem tabFree_drop (l : Bytes) (k : Nat) (h : tabFree l) : tabFree (l.drop k) :=
  fun hm => h (List.mem_of_mem_drop hm)

theorem calcListOffset_offset (source : Bytes) (m4 : Int) (h : tabFree source) (c c' : Nat) :
    calcListOffset source m4 c = calcListOffset source m4 c' := by
  simp only [calcListOffset, indentWidth_tabfree _ _ (tabFree_drop source m4.toNat h)]

theorem listItemOpen_offset (line : Bytes) (lastOff : Nat) (h : tabFree line) (c c' : Nat) :
    listItemOpen line lastOff c = listItemOpen line lastOff c' := by
  simp only [listItemOpen, calcListOffset_offset line _ h c c',
    indentPosition_tabfree _ _ _ (tabFree_drop line _ h)]

end GM.Proof.LineRec
