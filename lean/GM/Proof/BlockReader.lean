/-
  GM.Proof.BlockReader — lemmas for property C18: the block reader model refines the cursor `BCur`.
-/
import GM.Proof.Reader

namespace GM.Proof.Reader
open GM GM.Text GM.Spec

theorem wfFrom_idx {src : Bytes} : ∀ {l : List Segment} {lo : Int} {i : Nat} {s : Segment},
    WFSegsFrom src lo l → l[i]? = some s →
    lo ≤ s.start ∧ s.start < s.stop ∧ s.stop ≤ src.length ∧ 0 ≤ s.padding ∧ s.forceNewline = false := by
  intro l
  induction l with
  | nil => intro lo i s _ h; simp at h
  | cons a rest ih =>
    intro lo i s hw h
    obtain ⟨w1, w2, w3, w4, w5, w6⟩ := hw
    cases i with
    | zero => simp at h; subst h; exact ⟨w1, w2, w3, w4, w5⟩
    | succ i =>
      simp at h
      obtain ⟨i1, i2, i3, i4, i5⟩ := ih w6 h
      exact ⟨by omega, i2, i3, i4, i5⟩

theorem wfFrom_mono {src : Bytes} : ∀ {l : List Segment} {lo : Int} {i j : Nat} {a b : Segment},
    WFSegsFrom src lo l → l[i]? = some a → l[j]? = some b → i < j → a.stop ≤ b.start := by
  intro l
  induction l with
  | nil => intro lo i j a b _ h; simp at h
  | cons x rest ih =>
    intro lo i j a b hw ha hb hij
    obtain ⟨w1, w2, w3, w4, w5, w6⟩ := hw
    cases j with
    | zero => omega
    | succ j =>
      simp at hb
      cases i with
      | zero => simp at ha; subst ha; exact (wfFrom_idx w6 hb).1
      | succ i => simp at ha; exact ih w6 ha hb (by omega)

/-- what the proofs use of `WFSegs` -/
structure SegFacts (src : Bytes) (segs : List Segment) : Prop where
  kpos : 0 < BCur.k segs
  get : ∀ ln : Int, 0 ≤ ln → ln < BCur.k segs → segs[ln.toNat]? = some (BCur.segOf segs ln)
  rng : ∀ ln : Int, 0 ≤ ln → ln < BCur.k segs →
    0 ≤ (BCur.segOf segs ln).start ∧ (BCur.segOf segs ln).start < (BCur.segOf segs ln).stop ∧
    (BCur.segOf segs ln).stop ≤ src.length ∧ 0 ≤ (BCur.segOf segs ln).padding ∧
    (BCur.segOf segs ln).forceNewline = false
  mono : ∀ i j : Int, 0 ≤ i → i < j → j < BCur.k segs → (BCur.segOf segs i).stop ≤ (BCur.segOf segs j).start
  last : BCur.lastStop segs = (BCur.segOf segs (BCur.k segs - 1)).stop

theorem segOf_get (segs : List Segment) (ln : Int) (h0 : 0 ≤ ln) (h1 : ln < BCur.k segs) :
    segs[ln.toNat]? = some (BCur.segOf segs ln) := by
  have hlt : ln.toNat < segs.length := by simp [BCur.k] at h1; omega
  simp [BCur.segOf, h0, List.getElem?_eq_getElem hlt]

theorem segFacts {src : Bytes} {segs : List Segment} (h : WFSegs src segs) : SegFacts src segs := by
  obtain ⟨hne, hw⟩ := h
  have hk : 0 < BCur.k segs := by
    cases segs with
    | nil => exact absurd rfl hne
    | cons a r => simp [BCur.k] <;> omega
  refine ⟨hk, segOf_get segs, ?_, ?_, ?_⟩
  · intro ln h0 h1
    have := wfFrom_idx hw (segOf_get segs ln h0 h1)
    exact ⟨by omega, this.2.1, this.2.2.1, this.2.2.2.1, this.2.2.2.2⟩
  · intro i j h0 hij hj
    exact wfFrom_mono hw (segOf_get segs i h0 (by omega)) (segOf_get segs j (by omega) hj) (by omega)
  · unfold BCur.lastStop
    rw [List.getLast?_eq_getElem?]
    have := segOf_get segs (BCur.k segs - 1) (by omega) (by omega)
    have e : (BCur.k segs - 1).toNat = segs.length - 1 := by simp [BCur.k] <;> omega
    rw [e] at this
    rw [this]

theorem segAt_ok (segs : List Segment) (ln : Int) (h0 : 0 ≤ ln) (h1 : ln < BCur.k segs) :
    segAt segs ln = .ok (BCur.segOf segs ln) := by
  unfold segAt
  have : ¬ ln < 0 := by omega
  simp [this, segOf_get segs ln h0 h1]

/-- well-formed cursors: inside a line, at the very end of the last line, or (after AdvanceLine on the
    last line) past the end with the byte position still inside the last line -/
structure BWF (segs : List Segment) (c : BCur) : Prop where
  ln0 : 0 ≤ c.ln
  pad0 : 0 ≤ c.pad
  inLine : c.ln < BCur.k segs → (BCur.segOf segs c.ln).start ≤ c.p ∧
    (c.p < (BCur.segOf segs c.ln).stop ∨ (c.ln + 1 = BCur.k segs ∧ c.p = (BCur.segOf segs c.ln).stop))
  past : BCur.k segs ≤ c.ln → (BCur.segOf segs (BCur.k segs - 1)).start ≤ c.p ∧ c.p ≤ BCur.lastStop segs

structure BAbs (src : Bytes) (segs : List Segment) (r : BlockReader) (c : BCur) : Prop where
  source : r.source = src
  segments : r.segments = segs
  segLen : r.segmentsLength = BCur.k segs
  line : r.line = c.ln
  pos : r.pos = { start := c.p, stop := BCur.stopOf segs c, padding := c.pad, forceNewline := false }
  last : r.last = BCur.lastStop segs
  head : c.ln < BCur.k segs → r.head = (BCur.segOf segs c.ln).start
  lo : r.lineOffset < 0 ∨ (c.ln < BCur.k segs ∧
    r.lineOffset = (colFrom (sub src (BCur.segOf segs c.ln).start.toNat c.p.toNat) 0 : Int) - c.pad)
  wf : BWF segs c

variable {src : Bytes} {segs : List Segment} {r : BlockReader} {c : BCur}

/-- pos_in_range for the block reader -/
theorem bpos_wf (F : SegFacts src segs) (h : BAbs src segs r c) : segInRange src r.pos := by
  rw [h.pos]
  have w := h.wf
  unfold BCur.stopOf
  by_cases hl : c.ln < BCur.k segs
  · have := F.rng c.ln w.ln0 hl
    have := w.inLine hl
    simp only [hl, if_true]
    exact ⟨by simp; omega, by simp; omega, by simp; omega, by simp; exact w.pad0⟩
  · have := F.rng (BCur.k segs - 1) (by have := F.kpos; omega) (by omega)
    have := w.past (by omega)
    have := F.last
    simp only [hl, if_false]
    exact ⟨by simp; omega, by simp; omega, by simp; omega, by simp; exact w.pad0⟩

theorem live_iff (F : SegFacts src segs) (h : BAbs src segs r c) : r.live = BCur.live segs c := by
  unfold BlockReader.live BCur.live
  rw [h.line, h.segLen, h.pos, h.last]
  have := (bpos_wf F h).1
  rw [h.pos] at this
  simp only at this
  simp [this]

theorem stop_le_last (F : SegFacts src segs) {i : Int} (h0 : 0 ≤ i) (h1 : i < BCur.k segs) :
    (BCur.segOf segs i).stop ≤ BCur.lastStop segs := by
  rw [F.last]
  by_cases e : i = BCur.k segs - 1
  · rw [e]; omega
  · have := F.mono i (BCur.k segs - 1) h0 (by omega) (by omega)
    have := F.rng (BCur.k segs - 1) (by omega) (by omega)
    omega

theorem stop_lt_last (F : SegFacts src segs) {i : Int} (h0 : 0 ≤ i) (h1 : i + 1 < BCur.k segs) :
    (BCur.segOf segs i).stop < BCur.lastStop segs := by
  have := F.mono i (i + 1) h0 (by omega) h1
  have := F.rng (i + 1) (by omega) h1
  have := stop_le_last F (i := i + 1) (by omega) h1
  omega

theorem viewsLen_drop (segs : List Segment) (i : Int) (h0 : 0 ≤ i) (h1 : i < BCur.k segs) :
    BCur.viewsLen (segs.drop i.toNat) = (BCur.segOf segs i).padding +
      ((BCur.segOf segs i).stop - (BCur.segOf segs i).start) + BCur.viewsLen (segs.drop (i.toNat + 1)) := by
  have hlt : i.toNat < segs.length := by simp [BCur.k] at h1; omega
  have hg := segOf_get segs i h0 h1
  rw [List.getElem?_eq_getElem hlt] at hg
  simp only [Option.some.injEq] at hg
  rw [List.drop_eq_getElem_cons hlt, hg]
  simp [BCur.viewsLen]

theorem viewsLen_drop_ge (segs : List Segment) (n : Nat) (h : segs.length ≤ n) :
    BCur.viewsLen (segs.drop n) = 0 := by
  rw [List.drop_eq_nil_of_le h]; rfl

theorem BWF.live (F : SegFacts src segs) (w : BWF segs c) (hl : BCur.live segs c = true) :
    c.ln < BCur.k segs ∧ BCur.stopOf segs c = (BCur.segOf segs c.ln).stop ∧
    0 ≤ (BCur.segOf segs c.ln).start ∧ (BCur.segOf segs c.ln).start ≤ c.p ∧ c.p < BCur.stopOf segs c ∧
    BCur.stopOf segs c ≤ BCur.lastStop segs ∧ BCur.stopOf segs c ≤ src.length ∧
    BCur.remaining segs c = c.pad + (BCur.stopOf segs c - c.p) + BCur.viewsLen (segs.drop (c.ln.toNat + 1)) := by
  have hlive := hl
  simp only [BCur.live, Bool.and_eq_true, decide_eq_true_eq] at hl
  obtain ⟨l1, l2⟩ := hl
  have i1 := w.inLine l1
  have i2 := F.rng c.ln w.ln0 l1
  have hst : BCur.stopOf segs c = (BCur.segOf segs c.ln).stop := by simp [BCur.stopOf, l1]
  have hle := stop_le_last F w.ln0 l1
  refine ⟨l1, hst, i2.1, i1.1, ?_, by omega, by omega, by simp [BCur.remaining, hlive]⟩
  rw [hst]
  rcases i1.2 with h' | ⟨h1, h2⟩
  · exact h'
  · have := F.last
    have e : BCur.k segs - 1 = c.ln := by omega
    rw [e] at this
    omega

/-- the two things `AdvanceLine` does: to the head of the next line view, or past the last line -/
theorem advanceLine_cases (F : SegFacts src segs) (w : BWF segs c) :
    (c.ln + 1 < BCur.k segs ∧
      BCur.advanceLine segs c = ⟨c.ln + 1, (BCur.segOf segs (c.ln + 1)).start, (BCur.segOf segs (c.ln + 1)).padding⟩ ∧
      BCur.remaining segs (BCur.advanceLine segs c) = BCur.viewsLen (segs.drop (c.ln.toNat + 1)) ∧
      (BCur.segOf segs c.ln).stop ≤ (BCur.advanceLine segs c).p ∧ 0 ≤ (BCur.segOf segs (c.ln + 1)).padding ∧
      (BCur.segOf segs (c.ln + 1)).start < (BCur.segOf segs (c.ln + 1)).stop) ∨
    (BCur.k segs ≤ c.ln + 1 ∧ BCur.advanceLine segs c = { c with ln := c.ln + 1 } ∧
      BCur.remaining segs (BCur.advanceLine segs c) = 0) := by
  by_cases hn : c.ln + 1 < BCur.k segs
  · left
    have e : BCur.advanceLine segs c = ⟨c.ln + 1, (BCur.segOf segs (c.ln + 1)).start,
        (BCur.segOf segs (c.ln + 1)).padding⟩ := by simp [BCur.advanceLine, hn]
    have i2 := F.rng (c.ln + 1) (by have := w.ln0; omega) hn
    have hsl := stop_le_last F (i := c.ln + 1) (by have := w.ln0; omega) hn
    have hm := F.mono c.ln (c.ln + 1) w.ln0 (by omega) hn
    have hlive' : BCur.live segs ⟨c.ln + 1, (BCur.segOf segs (c.ln + 1)).start, (BCur.segOf segs (c.ln + 1)).padding⟩ = true := by
      simp [BCur.live, hn]; omega
    have hvd := viewsLen_drop segs (c.ln + 1) (by have := w.ln0; omega) hn
    have et : (c.ln + 1).toNat = c.ln.toNat + 1 := by have := w.ln0; omega
    refine ⟨hn, e, ?_, by rw [e]; exact hm, i2.2.2.2.1, i2.2.1⟩
    rw [e]
    simp only [BCur.remaining, hlive', if_true, BCur.stopOf, hn]
    rw [et] at hvd ⊢
    rw [hvd]
  · right
    have e : BCur.advanceLine segs c = { c with ln := c.ln + 1 } := by simp [BCur.advanceLine, hn]
    refine ⟨by omega, e, ?_⟩
    have : BCur.live segs { c with ln := c.ln + 1 } = false := by simp [BCur.live]; intro h; omega
    rw [e]; simp [BCur.remaining, this]

theorem bpeekLine_ref (F : SegFacts src segs) (h : BAbs src segs r c) :
    r.peekLine = .ok ((BCur.peekLine src segs c).1, r) := by
  unfold BlockReader.peekLine BCur.peekLine BCur.view
  rw [live_iff F h]
  by_cases hl : BCur.live segs c = true
  · simp only [hl, if_true]
    rw [h.source, value_spec src r.pos (bpos_wf F h)]
    simp only [bind, Except.bind, pure, Except.pure]
    have : BCur.seg segs c = r.pos := by rw [h.pos]; rfl
    rw [this]
    congr
    rw [h.pos]
    simp [segValue]
  · simp only [hl, Bool.false_eq_true, if_false, pure, Except.pure]
    have : BCur.seg segs c = r.pos := by rw [h.pos]; rfl
    rw [this]

theorem bpeek_ref (F : SegFacts src segs) (h : BAbs src segs r c) : r.peek = .ok (BCur.peek src segs c) := by
  unfold BlockReader.peek BCur.peek BCur.view
  rw [live_iff F h]
  by_cases hl : BCur.live segs c = true
  · simp only [hl, if_true]
    rw [h.pos, h.source]
    have w := h.wf
    obtain ⟨_, _, l3, l4, hplt, _, l7, _⟩ := w.live F hl
    have hp0 : 0 ≤ c.p := by omega
    by_cases hz : c.pad = 0
    · obtain ⟨p, hp⟩ : ∃ p : Nat, c.p = p := ⟨c.p.toNat, (Int.toNat_of_nonneg hp0).symm⟩
      obtain ⟨e, he⟩ : ∃ e : Nat, BCur.stopOf segs c = e := ⟨(BCur.stopOf segs c).toNat, (Int.toNat_of_nonneg (by omega)).symm⟩
      have hpl : p < src.length := by omega
      have hpe : p < e := by omega
      simp [hz, spaces, hp, he, getByte_ok src hpl, sub_cons src hpl hpe]
    · have hpos : 0 < c.pad := by have := w.pad0; omega
      obtain ⟨k, hk⟩ : ∃ k : Nat, c.pad = ((k + 1 : Nat) : Int) := ⟨c.pad.toNat - 1, by omega⟩
      have : (c.pad != 0) = true := by simp; omega
      rw [if_pos this]
      simp [hk, spaces, List.replicate_succ, pure, Except.pure]
  · simp [hl, pure, Except.pure]

theorem bposition_ref (h : BAbs src segs r c) : r.position = BCur.position segs c := by
  simp [BlockReader.position, BCur.position, h.line, h.pos, BCur.seg]

theorem blineOffset_ref (F : SegFacts src segs) (h : BAbs src segs r c) {v : Int} {c' : BCur}
    (hs : BCur.lineOffset src segs c = .ok (v, c')) :
    ∃ r', r.lineOffsetOp = .ok (v, r') ∧ BAbs src segs r' c' := by
  unfold BCur.lineOffset at hs
  by_cases hl : c.ln < BCur.k segs
  · simp only [hl, if_true, Except.ok.injEq, Prod.mk.injEq] at hs
    obtain ⟨hv, hc⟩ := hs
    subst hc
    have w := h.wf
    have i1 := w.inLine hl
    have i2 := F.rng c.ln w.ln0 hl
    unfold BlockReader.lineOffsetOp
    by_cases hlo : r.lineOffset < 0
    · simp only [hlo, if_true]
      rw [h.source, h.head hl, h.pos]
      obtain ⟨a, ha⟩ : ∃ a : Nat, (BCur.segOf segs c.ln).start = a := ⟨_, (Int.toNat_of_nonneg i2.1).symm⟩
      obtain ⟨p, hp⟩ : ∃ p : Nat, c.p = p := ⟨c.p.toNat, (Int.toNat_of_nonneg (by omega)).symm⟩
      have hple : p ≤ src.length := by
        rcases i1.2 with h' | ⟨_, h'⟩ <;> omega
      simp only [ha, hp, colLoop_ok src (show a ≤ p by omega) hple, bind, Except.bind, pure, Except.pure]
      have hv' : (colFrom (sub src a p) 0 : Int) - c.pad = v := by rw [← hv, ha, hp]; simp
      refine ⟨_, by rw [hv'], ?_⟩
      exact { source := rfl, segments := h.segments, segLen := h.segLen, line := h.line,
              pos := by simp [hp], last := h.last,
              head := fun _ => by simp [ha], lo := Or.inr ⟨hl, by simp [ha, hp, hv']⟩, wf := h.wf }
    · simp only [hlo, if_false, pure, Except.pure]
      rcases h.lo with h1 | ⟨_, h1⟩
      · exact absurd h1 hlo
      · exact ⟨r, by simp [h1, ← hv], h⟩
  · simp [hl] at hs

theorem bsetPadding_ref (h : BAbs src segs r c) {v : Int} {c' : BCur}
    (hs : BCur.setPadding v c = .ok c') : BAbs src segs (r.setPadding v) c' := by
  unfold BCur.setPadding at hs
  by_cases hv : 0 ≤ v
  · simp only [hv, if_true, Except.ok.injEq] at hs
    subst hs
    have w := h.wf
    exact { source := h.source, segments := h.segments, segLen := h.segLen, line := h.line,
            pos := by simp [BlockReader.setPadding, h.pos, BCur.stopOf], last := h.last, head := h.head,
            lo := Or.inl (by simp [BlockReader.setPadding]),
            wf := { ln0 := w.ln0, pad0 := hv, inLine := w.inLine, past := w.past } }
  · simp [hv] at hs

theorem bsetPosition_ref (F : SegFacts src segs) (h : BAbs src segs r c) {line : Int} {s : Segment} {c' : BCur}
    (hs : BCur.setPosition segs line s c = .ok c') :
    ∃ r', r.setPosition line s = .ok r' ∧ BAbs src segs r' c' := by
  unfold BCur.setPosition at hs
  by_cases hw : BCur.WFPos segs line s
  · simp only [hw, if_true, Except.ok.injEq] at hs
    subst hs
    obtain ⟨w0, w1, w2, w3⟩ := hw
    unfold BlockReader.setPosition
    by_cases hl : line < BCur.k segs
    · simp only [hl, if_true] at w3
      have i2 := F.rng line w0 hl
      have hne : ¬ ((s.start == -1) = true) := by simp; omega
      simp only [hne, Bool.false_eq_true, if_false, h.segLen, hl, if_true, h.segments, segAt_ok segs line w0 hl, bind,
        Except.bind, pure, Except.pure]
      have e : BCur.stopOf segs { ln := line, p := s.start, pad := s.padding } = s.stop := by
        simp only [BCur.stopOf, hl, if_true]; exact w3.1.symm
      refine ⟨_, rfl, ?_⟩
      exact { source := h.source, segments := rfl, segLen := rfl, line := rfl,
              pos := by rw [e]; cases s; simp at w2 ⊢; exact w2, last := h.last,
              head := fun _ => rfl, lo := Or.inl (by simp),
              wf := { ln0 := w0, pad0 := w1, inLine := fun _ => ⟨w3.2.1, by rcases w3.2.2 with h' | ⟨h1, h2⟩ <;> simp_all <;> omega⟩,
                      past := fun hh => by simp at hh; omega } }
    · simp only [hl, if_false] at w3
      have hk := F.kpos
      have i2 := F.rng (BCur.k segs - 1) (by omega) (by omega)
      have hne : ¬ ((s.start == -1) = true) := by simp; omega
      simp only [hne, Bool.false_eq_true, if_false, h.segLen, hl, pure, Except.pure]
      have e : BCur.stopOf segs { ln := line, p := s.start, pad := s.padding } = s.stop := by
        simp only [BCur.stopOf, hl, if_false]; exact w3.1.symm
      refine ⟨_, rfl, ?_⟩
      exact { source := h.source, segments := h.segments, segLen := rfl, line := rfl,
              pos := by rw [e]; cases s; simp at w2 ⊢; exact w2, last := h.last,
              head := fun hh => by simp at hh; omega, lo := Or.inl (by simp),
              wf := { ln0 := w0, pad0 := w1, inLine := fun hh => by simp at hh; omega,
                      past := fun _ => ⟨w3.2.1, by simp; omega⟩ } }
  · simp [hw] at hs

theorem seg_eta (s : Segment) (h : s.forceNewline = false) :
    s = { start := s.start, stop := s.stop, padding := s.padding, forceNewline := false } := by
  cases s; simp at h ⊢; exact h

theorem stopOf_last (F : SegFacts src segs) (w : BWF segs c) (hl : BCur.k segs ≤ c.ln + 1) :
    BCur.stopOf segs c = BCur.lastStop segs := by
  unfold BCur.stopOf
  by_cases h : c.ln < BCur.k segs
  · have e : BCur.k segs - 1 = c.ln := by omega
    rw [if_pos h, F.last, e]
  · rw [if_neg h]

theorem badvanceLine_ref (F : SegFacts src segs) (h : BAbs src segs r c) :
    ∃ r', r.advanceLine = .ok r' ∧ BAbs src segs r' (BCur.advanceLine segs c) ∧ r'.lineOffset < 0 := by
  have w := h.wf
  unfold BlockReader.advanceLine BlockReader.setPosition BCur.advanceLine
  simp only [beq_self_eq_true, if_true, h.line, h.segLen, h.segments]
  by_cases hl : c.ln + 1 < BCur.k segs
  · have i2 := F.rng (c.ln + 1) (by have := w.ln0; omega) hl
    simp only [hl, if_true, segAt_ok segs (c.ln + 1) (by have := w.ln0; omega) hl, bind, Except.bind, pure, Except.pure]
    refine ⟨_, rfl, ?_, by simp⟩
    exact { source := h.source, segments := rfl, segLen := rfl, line := rfl
            pos := by
              simp only [BCur.stopOf, hl, if_true]
              exact seg_eta _ i2.2.2.2.2
            last := h.last, head := fun _ => rfl, lo := Or.inl (by simp)
            wf := { ln0 := by have := w.ln0; simp; omega, pad0 := i2.2.2.2.1,
                    inLine := fun _ => ⟨by simp, Or.inl (by simp; exact i2.2.1)⟩,
                    past := fun hh => by simp at hh; omega } }
  · simp only [hl, if_false, pure, Except.pure, bind, Except.bind]
    refine ⟨_, rfl, ?_, by simp⟩
    have hst := stopOf_last F w (by omega)
    have hk := F.kpos
    exact { source := h.source, segments := rfl, segLen := rfl, line := rfl
            pos := by
              rw [h.pos, hst]
              simp only [BCur.stopOf, show ¬ (c.ln + 1 < BCur.k segs) from hl, if_false]
            last := h.last, head := fun hh => by simp at hh; omega, lo := Or.inl (by simp)
            wf := { ln0 := by have := w.ln0; simp; omega, pad0 := w.pad0,
                    inLine := fun hh => by simp at hh; omega,
                    past := fun _ => by
                      simp only
                      by_cases h' : c.ln < BCur.k segs
                      · have e : BCur.k segs - 1 = c.ln := by omega
                        have i1 := w.inLine h'
                        rw [e, F.last, e]
                        exact ⟨i1.1, by rcases i1.2 with a | ⟨_, a⟩ <;> omega⟩
                      · exact w.past (by omega) } }

/-- one byte forward uses up exactly one byte of what remains -/
theorem rem_adv1 (F : SegFacts src segs) (w : BWF segs c) (hl : BCur.live segs c = true) :
    BCur.remaining segs (BCur.adv1 segs c) = BCur.remaining segs c - 1 ∧ BWF segs (BCur.adv1 segs c) := by
  have hlive := hl
  simp only [BCur.live, Bool.and_eq_true, decide_eq_true_eq] at hl
  obtain ⟨l1, l2⟩ := hl
  have i1 := w.inLine l1
  have i2 := F.rng c.ln w.ln0 l1
  have hst : BCur.stopOf segs c = (BCur.segOf segs c.ln).stop := by simp [BCur.stopOf, l1]
  have hrem : BCur.remaining segs c = c.pad + (BCur.stopOf segs c - c.p) + BCur.viewsLen (segs.drop (c.ln.toNat + 1)) := by
    simp [BCur.remaining, hlive]
  by_cases hz : c.pad = 0
  · by_cases hin : c.p + 1 < BCur.stopOf segs c ∨ BCur.k segs ≤ c.ln + 1
    · have e : BCur.adv1 segs c = { c with p := c.p + 1 } := by simp [BCur.adv1, hz, hin]
      rw [e]
      have hst' : BCur.stopOf segs { c with p := c.p + 1 } = BCur.stopOf segs c := rfl
      have hw' : BWF segs { c with p := c.p + 1 } :=
        { ln0 := w.ln0, pad0 := w.pad0
          inLine := fun _ => by
            simp only
            refine ⟨by omega, ?_⟩
            rcases hin with a | a
            · left; omega
            · have := F.last
              have e : BCur.k segs - 1 = c.ln := by omega
              rw [e] at this
              by_cases hh : c.p + 1 < (BCur.segOf segs c.ln).stop
              · left; exact hh
              · right; omega
          past := fun hh => by simp at hh; omega }
      refine ⟨?_, hw'⟩
      by_cases hl2 : c.p + 1 < BCur.lastStop segs
      · have hl3 : BCur.live segs { c with p := c.p + 1 } = true := by simp [BCur.live, l1, hl2]
        have : BCur.remaining segs { c with p := c.p + 1 } =
            c.pad + (BCur.stopOf segs c - (c.p + 1)) + BCur.viewsLen (segs.drop (c.ln.toNat + 1)) := by
          simp [BCur.remaining, hl3, hst']
        rw [this, hrem]; omega
      · have hl3 : BCur.live segs { c with p := c.p + 1 } = false := by simp [BCur.live, hl2]
        have : BCur.remaining segs { c with p := c.p + 1 } = 0 := by simp [BCur.remaining, hl3]
        rw [this, hrem]
        have hle := stop_le_last F w.ln0 l1
        have hk : BCur.k segs ≤ c.ln + 1 := by
          rcases hin with a | a
          · omega
          · exact a
        have hlen : segs.length ≤ c.ln.toNat + 1 := by simp [BCur.k] at hk; omega
        rw [viewsLen_drop_ge segs _ hlen]
        have := F.last
        have e : BCur.k segs - 1 = c.ln := by omega
        rw [e] at this
        omega
    · have hl' : c.ln + 1 < BCur.k segs := by omega
      obtain ⟨c1, hc1⟩ : ∃ c1 : BCur, c1 = ⟨c.ln + 1, (BCur.segOf segs (c.ln + 1)).start, (BCur.segOf segs (c.ln + 1)).padding⟩ := ⟨_, rfl⟩
      have e : BCur.adv1 segs c = c1 := by rw [hc1]; simp [BCur.adv1, hz, hin]
      rw [e]
      have j2 := F.rng (c.ln + 1) (by have := w.ln0; omega) hl'
      have hplt : c.p < (BCur.segOf segs c.ln).stop := by
        rcases i1.2 with a | ⟨a, _⟩ <;> omega
      have hlt := stop_le_last F (i := c.ln + 1) (by have := w.ln0; omega) hl'
      have hlive' : BCur.live segs c1 = true := by rw [hc1]; simp [BCur.live, hl']; omega
      have hst2 : BCur.stopOf segs c1 = (BCur.segOf segs (c.ln + 1)).stop := by rw [hc1]; simp [BCur.stopOf, hl']
      have hw1 : BWF segs c1 := by
        rw [hc1]
        exact { ln0 := by have := w.ln0; simp; omega, pad0 := j2.2.2.2.1,
                inLine := fun _ => ⟨by simp, Or.inl (by simp; exact j2.2.1)⟩,
                past := fun hh => by simp at hh; omega }
      refine ⟨?_, hw1⟩
      have hr1 : BCur.remaining segs c1 = c1.pad + (BCur.stopOf segs c1 - c1.p) + BCur.viewsLen (segs.drop (c1.ln.toNat + 1)) := by
        simp [BCur.remaining, hlive']
      rw [hr1, hrem, hst2, hst]
      have e1 : c.ln.toNat + 1 = (c.ln + 1).toNat := by have := w.ln0; omega
      rw [e1, viewsLen_drop segs (c.ln + 1) (by have := w.ln0; omega) hl']
      rw [hc1]
      simp only
      omega
  · have e : BCur.adv1 segs c = { c with pad := c.pad - 1 } := by simp [BCur.adv1, hz]
    rw [e]
    have hpos : 0 < c.pad := by have := w.pad0; omega
    have hl3 : BCur.live segs { c with pad := c.pad - 1 } = true := hlive
    have : BCur.remaining segs { c with pad := c.pad - 1 } =
        (c.pad - 1) + (BCur.stopOf segs c - c.p) + BCur.viewsLen (segs.drop (c.ln.toNat + 1)) := by
      simp [BCur.remaining, hl3, BCur.stopOf]
    refine ⟨by rw [this, hrem]; omega, { ln0 := w.ln0, pad0 := by simp; omega, inLine := w.inLine, past := w.past }⟩

theorem rem_nonneg_live (h : 1 ≤ BCur.remaining segs c) : BCur.live segs c = true := by
  unfold BCur.remaining at h
  by_cases hl : BCur.live segs c = true
  · exact hl
  · simp [hl] at h

theorem badvanceLoop_ref (F : SegFacts src segs) (n : Nat) : ∀ {r : BlockReader} {c : BCur},
    BAbs src segs r c → r.lineOffset < 0 → (n : Int) ≤ BCur.remaining segs c →
    ∃ r', r.advanceLoop n = .ok r' ∧ BAbs src segs r' (BCur.advN segs n c) := by
  induction n with
  | zero => intro r c h _ _; exact ⟨r, rfl, h⟩
  | succ n ih =>
    intro r c h f2 hrem
    have w := h.wf
    have hlive := rem_nonneg_live (c := c) (segs := segs) (by omega)
    obtain ⟨hr1, hw1⟩ := rem_adv1 F w hlive
    have hrem1 : (n : Int) ≤ BCur.remaining segs (BCur.adv1 segs c) := by rw [hr1]; omega
    simp only [BCur.live, Bool.and_eq_true, decide_eq_true_eq] at hlive
    obtain ⟨l1, l2⟩ := hlive
    have i1 := w.inLine l1
    have hst : BCur.stopOf segs c = (BCur.segOf segs c.ln).stop := by simp [BCur.stopOf, l1]
    simp only [BlockReader.advanceLoop, BCur.advN]
    by_cases hz : c.pad = 0
    · have hz' : ¬ ((r.pos.padding != 0) = true) := by rw [h.pos]; simp [hz]
      rw [if_neg hz']
      by_cases hcond : r.pos.start ≥ r.pos.stop - 1 ∧ r.pos.stop < r.last
      · rw [if_pos hcond]
        rw [h.pos, h.last, hst] at hcond
        simp only at hcond
        have hl' : c.ln + 1 < BCur.k segs := by
          rcases Int.lt_or_le (c.ln + 1) (BCur.k segs) with a | a
          · exact a
          · have := F.last
            have e : BCur.k segs - 1 = c.ln := by omega
            rw [e] at this
            omega
        obtain ⟨r1, e1, hA1, f1⟩ := badvanceLine_ref F h
        rw [e1]
        simp only [bind, Except.bind]
        have e : BCur.adv1 segs c = BCur.advanceLine segs c := by
          have hin : ¬ (c.p + 1 < BCur.stopOf segs c ∨ BCur.k segs ≤ c.ln + 1) := by rw [hst]; omega
          simp [BCur.adv1, BCur.advanceLine, hz, hin, hl']
        rw [e] at hrem1 ⊢
        exact ih hA1 f1 hrem1
      · rw [if_neg hcond]
        rw [h.pos, h.last, hst] at hcond
        simp only at hcond
        have hin : c.p + 1 < BCur.stopOf segs c ∨ BCur.k segs ≤ c.ln + 1 := by
          rw [hst]
          by_cases a : c.p + 1 < (BCur.segOf segs c.ln).stop
          · left; exact a
          · right
            rcases Int.lt_or_le (c.ln + 1) (BCur.k segs) with b | b
            · have := stop_lt_last F w.ln0 b
              omega
            · exact b
        have e : BCur.adv1 segs c = { c with p := c.p + 1 } := by simp [BCur.adv1, hz, hin]
        rw [e] at hrem1 hw1 ⊢
        refine ih ?_ f2 hrem1
        exact { source := h.source, segments := h.segments, segLen := h.segLen, line := h.line
                pos := by simp [h.pos, BCur.stopOf], last := h.last, head := h.head, lo := Or.inl f2, wf := hw1 }
    · have hz' : (r.pos.padding != 0) = true := by rw [h.pos]; simp [hz]
      rw [if_pos hz']
      have e : BCur.adv1 segs c = { c with pad := c.pad - 1 } := by simp [BCur.adv1, hz]
      rw [e] at hrem1 hw1 ⊢
      refine ih ?_ f2 hrem1
      exact { source := h.source, segments := h.segments, segLen := h.segLen, line := h.line
              pos := by simp [h.pos, BCur.stopOf], last := h.last, head := h.head, lo := Or.inl f2, wf := hw1 }

theorem badvN_inline (segs : List Segment) (n : Nat) : ∀ (c : BCur), c.pad = 0 → c.p + n < BCur.stopOf segs c →
    BCur.advN segs n c = { c with p := c.p + n } := by
  induction n with
  | zero => intro c _ _; simp [BCur.advN]
  | succ n ih =>
    intro c hz hlt
    have hin : c.p + 1 < BCur.stopOf segs c ∨ BCur.k segs ≤ c.ln + 1 := Or.inl (by omega)
    have e : BCur.adv1 segs c = { c with p := c.p + 1 } := by simp [BCur.adv1, hz, hin]
    simp only [BCur.advN]
    rw [e, ih { c with p := c.p + 1 } hz (by simp [BCur.stopOf] at hlt ⊢; omega)]
    simp; omega

theorem badvance_ref (F : SegFacts src segs) (h : BAbs src segs r c) {n : Int} {c' : BCur}
    (hs : BCur.advance segs n c = .ok c') : ∃ r', r.advance n = .ok r' ∧ BAbs src segs r' c' := by
  unfold BCur.advance at hs
  by_cases hn : 0 ≤ n ∧ n ≤ BCur.remaining segs c
  · simp only [hn, and_self, if_true, Except.ok.injEq] at hs
    subst hs
    obtain ⟨hn0, hn1⟩ := hn
    obtain ⟨m, rfl⟩ : ∃ m : Nat, n = m := ⟨n.toNat, (Int.toNat_of_nonneg hn0).symm⟩
    simp only [Int.toNat_natCast]
    have w := h.wf
    have hclear : BAbs src segs { r with lineOffset := -1 } c :=
      { source := h.source, segments := h.segments, segLen := h.segLen, line := h.line, pos := h.pos,
        last := h.last, head := h.head, lo := Or.inl (by simp), wf := h.wf }
    unfold BlockReader.advance
    simp only
    by_cases hfast : ((m : Int) < r.pos.stop - r.pos.start) ∧ (r.pos.padding == 0) = true
    · rw [if_pos hfast]
      obtain ⟨hf1, hf2⟩ := hfast
      rw [h.pos] at hf1 hf2
      simp only at hf1 hf2
      have hz : c.pad = 0 := by simpa using hf2
      rw [badvN_inline segs m c hz (by omega)]
      refine ⟨_, rfl, ?_⟩
      by_cases hm : m = 0
      · subst hm
        simp only [Int.natCast_zero, Int.add_zero]
        exact hclear
      · have hlive := rem_nonneg_live (c := c) (segs := segs) (by omega)
        simp only [BCur.live, Bool.and_eq_true, decide_eq_true_eq] at hlive
        obtain ⟨l1, l2⟩ := hlive
        have i1 := w.inLine l1
        have hst : BCur.stopOf segs c = (BCur.segOf segs c.ln).stop := by simp [BCur.stopOf, l1]
        exact { source := h.source, segments := h.segments, segLen := h.segLen, line := h.line
                pos := by simp [h.pos, BCur.stopOf], last := h.last, head := h.head, lo := Or.inl (by simp)
                wf := { ln0 := w.ln0, pad0 := w.pad0,
                        inLine := fun _ => ⟨by simp; omega, Or.inl (by simp; omega)⟩,
                        past := fun hh => by simp at hh; omega } }
    · rw [if_neg hfast]
      simp only [Int.toNat_natCast]
      exact badvanceLoop_ref F m hclear (by simp) hn1
  · simp [hn] at hs


theorem blockSim (F : SegFacts src segs) : Sim (BAbs src segs) blockOps (BCur.ops src segs) where
  peekLine := by
    intro r c x c' hA h
    simp only [BCur.ops, Except.ok.injEq] at h
    have h1 := bpeekLine_ref F hA
    have e2 : c' = c := by have := congrArg Prod.snd h; simpa [BCur.peekLine] using this.symm
    have e1 : x = (BCur.peekLine src segs c).1 := by rw [h]
    subst e2 e1
    exact ⟨r, h1, hA⟩
  advance := fun hA h => badvance_ref F hA h
  advanceLine := by
    intro r c c' hA h
    simp only [BCur.ops, Except.ok.injEq] at h
    subst h
    obtain ⟨r', h1, h2, _⟩ := badvanceLine_ref F hA
    exact ⟨r', h1, h2⟩
  position := fun hA => bposition_ref hA
  setPosition := fun hA h => bsetPosition_ref F hA h

theorem binit_ref (F : SegFacts src segs) (r : BlockReader) (hs : r.source = src) (hg : r.segments = segs)
    (hk : r.segmentsLength = BCur.k segs) :
    ∃ r', r.resetPosition = .ok r' ∧ BAbs src segs r' (BCur.init segs) := by
  have hk0 := F.kpos
  have i2 := F.rng 0 (by omega) hk0
  unfold BlockReader.resetPosition
  simp only [hk, hg, hk0, if_true, gt_iff_lt, segAt_ok segs (BCur.k segs - 1) (by omega) (by omega), bind, Except.bind,
    pure, Except.pure]
  unfold BlockReader.advanceLine BlockReader.setPosition
  simp only [beq_self_eq_true, if_true, hk, hg, show (-1 : Int) + 1 = 0 by omega, hk0, segAt_ok segs 0 (by omega) hk0,
    bind, Except.bind, pure, Except.pure]
  refine ⟨_, rfl, ?_⟩
  exact { source := hs, segments := rfl, segLen := rfl, line := rfl
          pos := by
            simp only [BCur.init, BCur.stopOf, hk0, if_true]
            exact seg_eta _ i2.2.2.2.2
          last := F.last.symm, head := fun _ => rfl, lo := Or.inl (by simp)
          wf := { ln0 := by simp [BCur.init], pad0 := i2.2.2.2.1,
                  inLine := fun _ => ⟨by simp [BCur.init], Or.inl (by simp [BCur.init]; exact i2.2.1)⟩,
                  past := fun hh => by simp [BCur.init] at hh; omega } }

theorem blockReader_refines (F : SegFacts src segs) {r : BlockReader} {c : BCur} (h : BAbs src segs r c) {op : Op}
    {out : Out} {c' : BCur} (hs : BCur.step src segs c op = .ok (out, c')) :
    ∃ r', r.step op = .ok (out, r') ∧ BAbs src segs r' c' := by
  cases op with
  | peek =>
    simp only [BCur.step, Except.ok.injEq, Prod.mk.injEq] at hs
    obtain ⟨e1, e2⟩ := hs; subst e1 e2
    exact ⟨r, by simp [BlockReader.step, bpeek_ref F h, bind, Except.bind, pure, Except.pure], h⟩
  | peekLine =>
    simp only [BCur.step, Except.ok.injEq, Prod.mk.injEq] at hs
    obtain ⟨e1, e2⟩ := hs; subst e1 e2
    exact ⟨r, by simp [BlockReader.step, bpeekLine_ref F h, bind, Except.bind, pure, Except.pure], h⟩
  | advance n => exact unit_ref (badvance_ref F h) hs
  | advanceAndSetPadding n pad =>
    simp only [BCur.step] at hs
    obtain ⟨c1, h1, h2⟩ := bind_ok hs
    obtain ⟨r1, h3, h4⟩ := badvance_ref F h h1
    have hp : r1.pos.padding = c1.pad := by rw [h4.pos]
    by_cases hgt : pad > c1.pad
    · simp only [hgt, if_true] at h2
      obtain ⟨c2, h5, h6⟩ := bind_ok h2
      simp only [pure, Except.pure, Except.ok.injEq, Prod.mk.injEq] at h6
      obtain ⟨e1, e2⟩ := h6; subst e1 e2
      refine ⟨r1.setPadding pad, ?_, bsetPadding_ref h4 h5⟩
      simp [BlockReader.step, BlockReader.advanceAndSetPadding, h3, bind, Except.bind, pure, Except.pure, hp, hgt]
    · simp only [hgt, if_false, pure, Except.pure, Except.ok.injEq, Prod.mk.injEq] at h2
      obtain ⟨e1, e2⟩ := h2; subst e1 e2
      refine ⟨r1, ?_, h4⟩
      simp [BlockReader.step, BlockReader.advanceAndSetPadding, h3, bind, Except.bind, pure, Except.pure, hp, hgt]
  | advanceLine =>
    simp only [BCur.step, Except.ok.injEq, Prod.mk.injEq] at hs
    obtain ⟨e1, e2⟩ := hs; subst e1 e2
    obtain ⟨r', h1, h2, _⟩ := badvanceLine_ref F h
    exact ⟨r', by simp [BlockReader.step, h1, bind, Except.bind, pure, Except.pure], h2⟩
  | position =>
    simp only [BCur.step, Except.ok.injEq, Prod.mk.injEq] at hs
    obtain ⟨e1, e2⟩ := hs; subst e1 e2
    exact ⟨r, by simp [BlockReader.step, bposition_ref h, pure, Except.pure], h⟩
  | setPosition l s => exact unit_ref (bsetPosition_ref F h) hs
  | setPadding v => exact unit_ref (g := .ok (r.setPadding v)) (fun h1 => ⟨_, rfl, bsetPadding_ref h h1⟩) hs
  | lineOffset => exact wrap_ref Out.int (blineOffset_ref F h) hs
  | value s => simp [BCur.step] at hs
  | skipSpaces =>
    simpa [BlockReader.step, h.source] using
      wrap_ref (A := BAbs src segs) Out.skip (skipSpaces_sim (blockSim F) _ h) hs
  | skipBlankLines =>
    simpa [BlockReader.step, h.source] using
      wrap_ref (A := BAbs src segs) Out.skip (skipBlankLines_sim (blockSim F) _ h) hs
  | readRune => exact wrap_ref Out.rune (readRune_sim (blockSim F) h) hs
  | findClosure o cl opts =>
    simpa [BlockReader.step, h.source] using
      wrap_ref (A := BAbs src segs) Out.closure (findClosure_sim (blockSim F) _ o cl opts h) hs
  | precendingCharacter => simp [BCur.step] at hs
  | resetPosition =>
    simp only [BCur.step, Except.ok.injEq, Prod.mk.injEq] at hs
    obtain ⟨e1, e2⟩ := hs; subst e1 e2
    obtain ⟨r', h1, h2⟩ := binit_ref F r h.source h.segments h.segLen
    exact ⟨r', by simp [BlockReader.step, h1, bind, Except.bind, pure, Except.pure], h2⟩

/-- NewBlockReader stands for the cursor at the head of the first line view -/
theorem blockReader_init (F : SegFacts src segs) :
    ∃ r, BlockReader.new src segs = .ok r ∧ BAbs src segs r (BCur.init segs) := by
  unfold BlockReader.new
  exact binit_ref F _ rfl rfl rfl


theorem bcur_wfpos_seg (F : SegFacts src segs) (c : BCur) (w : BWF segs c) :
    BCur.WFPos segs c.ln (BCur.seg segs c) := by
  refine ⟨w.ln0, w.pad0, rfl, ?_⟩
  by_cases hl : c.ln < BCur.k segs
  · have i1 := w.inLine hl
    simp only [hl, if_true, BCur.seg, BCur.stopOf]
    exact ⟨trivial, i1.1, i1.2⟩
  · have i1 := w.past (by omega)
    simp only [hl, if_false, BCur.seg, BCur.stopOf]
    exact ⟨trivial, i1.1, i1.2⟩

theorem bcur_setPosition_seg (F : SegFacts src segs) (c c2 : BCur) (w : BWF segs c) :
    BCur.setPosition segs c.ln (BCur.seg segs c) c2 = .ok c := by
  unfold BCur.setPosition
  rw [if_pos (bcur_wfpos_seg F c w)]
  cases c; simp [BCur.seg]

theorem blockReader_setPosition_restores (F : SegFacts src segs) {r r2 : BlockReader} {c c2 : BCur}
    (h : BAbs src segs r c) (h2 : BAbs src segs r2 c2) :
    ∃ r3, r2.setPosition r.position.1 r.position.2 = .ok r3 ∧ BAbs src segs r3 c := by
  rw [bposition_ref h]
  exact bsetPosition_ref F h2 (bcur_setPosition_seg F c c2 h.wf)

theorem blockReader_findClosure_noAdvance (F : SegFacts src segs) {c c' : BCur} {o cl : UInt8}
    {opts : FindClosureOptions} {out : Out} (hadv : opts.advance = false) (w : BWF segs c)
    (hs : BCur.step src segs c (.findClosure o cl opts) = .ok (out, c')) : c' = c := by
  simp only [BCur.step] at hs
  obtain ⟨⟨v, c1⟩, h1, h2⟩ := bind_ok hs
  simp only [pure, Except.pure, Except.ok.injEq, Prod.mk.injEq] at h2
  obtain ⟨_, e2⟩ := h2; subst e2
  obtain ⟨s1, h3⟩ := findClosure_noAdvance_generic (BCur.ops src segs) _ o cl opts hadv h1
  have : (BCur.ops src segs).setPosition ((BCur.ops src segs).position c).1 ((BCur.ops src segs).position c).2 s1 = .ok c :=
    bcur_setPosition_seg F c s1 w
  rw [this] at h3
  simp only [Except.ok.injEq] at h3
  exact h3.symm

theorem blockReader_peek_head (F : SegFacts src segs) {r : BlockReader} {c : BCur} (h : BAbs src segs r c) :
    ∃ l s r', r.peekLine = .ok ((l, s), r') ∧ r.peek = .ok (match l with | some (b :: _) => b | _ => 255) :=
  ⟨_, _, r, bpeekLine_ref F h, by rw [bpeek_ref F h]; rfl⟩


theorem valueFindLine_ok (F : SegFacts src segs) (h : BAbs src segs r c) (s : Segment) (j : Nat)
    (hj : (j : Int) < BCur.k segs) (h1 : (BCur.segOf segs j).start ≤ s.start)
    (h2 : ∀ i : Nat, j < i → (i : Int) < BCur.k segs → s.start < (BCur.segOf segs i).start) :
    ∀ m : Nat, j + 1 ≤ m → (m : Int) ≤ BCur.k segs → BlockReader.valueFindLine r s m = .ok (j : Int) := by
  intro m
  induction m with
  | zero => intro h; omega
  | succ m ih =>
    intro hm hk
    simp only [BlockReader.valueFindLine, h.segments, segAt_ok segs (m : Int) (by omega) (by omega), bind, Except.bind]
    by_cases e : m = j
    · subst e
      simp [h1, pure, Except.pure]
    · have := h2 m (by omega) (by omega)
      have hn : ¬ (s.start ≥ (BCur.segOf segs (m : Int)).start) := by omega
      simp only [hn, if_false]
      exact ih (by omega) (by omega)

theorem copyRange_ok (src : Bytes) {a b : Int} (ha : 0 ≤ a) (hb : a ≥ b ∨ b ≤ src.length) :
    BlockReader.copyRange src a b = .ok (sub src a.toNat b.toNat) := by
  unfold BlockReader.copyRange
  by_cases e : a ≥ b
  · have : b.toNat - a.toNat = 0 := by omega
    simp [e, sub, this]
  · have e2 : ¬ (a < 0 ∨ b > (src.length : Int)) := by omega
    simp [e, e2]

/-- the loop of Value from the head of line `line` on (`i = -1`): every line contributes its view up to the stop -/
theorem valueLoop_rest (F : SegFacts src segs) (h : BAbs src segs r c) (s : Segment) (fuel : Nat) :
    ∀ (line : Int) (ret : Bytes), 0 ≤ line → line ≤ BCur.k segs → fuel = (BCur.k segs - line).toNat →
    BlockReader.valueLoop r s fuel line (-1) ret = .ok (ret ++ BCur.valueRest src s.stop (segs.drop line.toNat)) := by
  induction fuel with
  | zero =>
    intro line ret h0 h1 hf
    have : segs.length ≤ line.toNat := by simp [BCur.k] at h1 hf ⊢; omega
    simp [BlockReader.valueLoop, List.drop_eq_nil_of_le this, BCur.valueRest, pure, Except.pure]
  | succ fuel ih =>
    intro line ret h0 h1 hf
    have hlt : line < BCur.k segs := by omega
    have rng := F.rng line h0 hlt
    have hltn : line.toNat < segs.length := by simp [BCur.k] at hlt; omega
    have hg := segOf_get segs line h0 hlt
    rw [List.getElem?_eq_getElem hltn] at hg
    simp only [Option.some.injEq] at hg
    simp only [BlockReader.valueLoop, h.segments, segAt_ok segs line h0 hlt, bind, Except.bind, h.source,
      show ((-1 : Int) < 0) by omega, if_true, beq_self_eq_true]
    have hcopy := copyRange_ok src (a := (BCur.segOf segs line).start)
      (b := if s.stop < (BCur.segOf segs line).stop then s.stop else (BCur.segOf segs line).stop) rng.1
      (by split <;> omega)
    rw [hcopy]
    simp only
    rw [List.drop_eq_getElem_cons hltn, hg]
    simp only [BCur.valueRest]
    by_cases hge : (BCur.segOf segs line).stop ≥ s.stop
    · simp only [hge, if_true, pure, Except.pure]
      simp [Segment.concatPadding]
      split <;> simp
    · simp only [hge, if_false]
      rw [ih (line + 1) _ (by omega) (by omega) (by omega)]
      have e : (line + 1).toNat = line.toNat + 1 := by omega
      rw [e]
      simp [Segment.concatPadding]
      split <;> simp

/-- Value(seg) for a segment that starts in line `j` and may run on over later lines -/
theorem bvalue_multi (F : SegFacts src segs) (h : BAbs src segs r c) (j : Nat) (s : Segment)
    (hp : BCur.valueLineAt segs j s) : r.valueOp s = .ok (BCur.blockValue src segs j s) := by
  obtain ⟨l, hl, p1, p2, p6⟩ := hp
  have hjlt : j < segs.length := by
    rcases Nat.lt_or_ge j segs.length with a | a
    · exact a
    · simp [List.getElem?_eq_none a] at hl
  have hjk : (j : Int) < BCur.k segs := by simp [BCur.k]; omega
  have hseg : BCur.segOf segs (j : Int) = l := by
    have := segOf_get segs (j : Int) (by omega) hjk
    simp only [Int.toNat_natCast] at this
    rw [hl] at this
    simp at this
    exact this.symm
  have rng := F.rng (j : Int) (by omega) hjk
  rw [hseg] at rng
  have hlater : ∀ i : Nat, j < i → (i : Int) < BCur.k segs → s.start < (BCur.segOf segs i).start := by
    intro i hi hik
    have hj1 : ((j + 1 : Nat) : Int) < BCur.k segs := by omega
    have g := segOf_get segs ((j + 1 : Nat) : Int) (by omega) hj1
    simp only [Int.toNat_natCast] at g
    have := p6 _ g
    by_cases e : i = j + 1
    · subst e; exact this
    · have m := F.mono ((j + 1 : Nat) : Int) (i : Int) (by omega) (by omega) hik
      have r1 := F.rng ((j + 1 : Nat) : Int) (by omega) hj1
      omega
  unfold BlockReader.valueOp
  have e0 : ¬ (s.stop - s.start + 1 < 0) := by omega
  simp only [e0, if_false, bind, Except.bind, pure, Except.pure, h.segLen]
  have hk : (BCur.k segs).toNat = segs.length := by simp [BCur.k]
  rw [hk, valueFindLine_ok F h s j hjk (by rw [hseg]; exact p1) hlater segs.length (by omega) (by simp [BCur.k])]
  simp only
  obtain ⟨f, hf⟩ : ∃ f, (BCur.k segs - (j : Int)).toNat = f + 1 := ⟨(BCur.k segs - (j : Int)).toNat - 1, by omega⟩
  rw [hf]
  simp only [BlockReader.valueLoop, h.segments, segAt_ok segs (j : Int) (by omega) hjk, hseg, bind, Except.bind, h.source]
  have hi : ¬ (s.start < 0) := by omega
  simp only [hi, if_false]
  have hcopy := copyRange_ok src (a := s.start) (b := if s.stop < l.stop then s.stop else l.stop) (by omega)
    (by split <;> omega)
  rw [hcopy]
  simp only [BCur.blockValue, hl]
  by_cases hge : l.stop ≥ s.stop
  · simp only [hge, if_true, pure, Except.pure]
    by_cases he : s.start = l.start
    · simp [he]
    · simp [he]
  · simp only [hge, if_false]
    rw [valueLoop_rest F h s f ((j : Int) + 1) _ (by omega) (by omega) (by omega)]
    have e : ((j : Int) + 1).toNat = j + 1 := by omega
    rw [e]
    by_cases he : s.start = l.start
    · simp [he]
    · simp [he]

/-- inside one line the meaning is the segment's own value -/
theorem blockValue_single (src : Bytes) (segs : List Segment) (j : Nat) (s : Segment) (hp : BCur.valuePreAt segs j s) :
    BCur.blockValue src segs j s = segValue src s := by
  obtain ⟨l, hl, p1, p2, p3, p4, p5, p6⟩ := hp
  have hhi : (if s.stop < l.stop then s.stop else l.stop) = s.stop := by split <;> omega
  have hge : l.stop ≥ s.stop := by omega
  simp only [BCur.blockValue, hl, hhi, hge, if_true, List.append_nil]
  unfold segValue Segment.concatPadding
  simp only [p5, Bool.false_and, Bool.false_eq_true, if_false]
  rcases p4 with ⟨a, b⟩ | ⟨a, b⟩
  · simp only [a, if_true, b]
    by_cases hpad : l.padding > 0
    · simp [hpad]
    · have : l.padding.toNat = 0 := by omega
      simp [hpad, this, spaces]
  · have : ¬ s.start = l.start := by omega
    simp [this, b, spaces]

/-- Value(seg) of the block reader is the segment's own value when `valuePreAt j seg` holds for some line j -/
theorem bvalue_ref (F : SegFacts src segs) (h : BAbs src segs r c) (j : Nat) (s : Segment)
    (hp : BCur.valuePreAt segs j s) : r.valueOp s = .ok (segValue src s) := by
  have hp' : BCur.valueLineAt segs j s := by
    obtain ⟨l, hl, p1, p2, _, _, _, p6⟩ := hp
    exact ⟨l, hl, p1, p2, p6⟩
  rw [bvalue_multi F h j s hp', blockValue_single src segs j s hp]

end GM.Proof.Reader
