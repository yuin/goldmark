/-
  GM.Proof.Filter — util.bytesFilter over the slice-with-capacity heap (GM.Model.Filter): the frame lemma for Go's `append`, the global invariant of the heap model over all
  programs, and from it: `Contains` decides membership in the plain key set of GM.Spec.FilterSet.
-/
import GM.Model.Filter
import GM.Spec.FilterSet
section Filter
namespace GM.Proof.Filter
open GM GM.Filter

/-- a slice header is well-formed in a heap: its array exists and it sees all cells written so far
    (so an in-place append lands directly behind what it sees) -/
def slotWF (h : Heap) : Slice → Prop
  | none => True
  | some (a, n) => a < h.arrs.length ∧ (h.arrs.getD a ⟨0, []⟩).cells.length = n

def arrOf : Slice → Option Nat
  | none => none
  | some (a, _) => some a

theorem getD_set_eq {α} (l : List α) (i : Nat) (v d : α) (h : i < l.length) : (l.set i v).getD i d = v := by
  simp [List.getD_eq_getElem?_getD, List.getElem?_set, h]

theorem getD_set_ne {α} (l : List α) (i j : Nat) (v d : α) (h : i ≠ j) : (l.set i v).getD j d = l.getD j d := by
  simp [List.getD_eq_getElem?_getD, List.getElem?_set, h]

theorem getD_append_lt {α} (l : List α) (x : α) (j : Nat) (d : α) (h : j < l.length) :
    (l ++ [x]).getD j d = l.getD j d := by
  simp [List.getD_eq_getElem?_getD, List.getElem?_append_left h]

theorem getD_append_eq {α} (l : List α) (x : α) (d : α) : (l ++ [x]).getD l.length d = x := by
  simp [List.getD_eq_getElem?_getD]

/-- `append(slot, b)` in the heap model: the result sees the old elements followed by `b`; no filter is
    touched; and every other well-formed header on a different backing array sees exactly what it saw. The
    result lives on the same array (in-place write, `len < cap`) or on a fresh one. -/
theorem appendSlice_spec (h : Heap) (s : Slice) (b : Bytes) (wf : slotWF h s) :
    (appendSlice h s b).1.filts = h.filts ∧
    h.arrs.length ≤ (appendSlice h s b).1.arrs.length ∧
    slotWF (appendSlice h s b).1 (appendSlice h s b).2 ∧
    sliceElems (appendSlice h s b).1 (appendSlice h s b).2 = sliceElems h s ++ [b] ∧
    ((arrOf (appendSlice h s b).2 = arrOf s ∧ s ≠ none) ∨ arrOf (appendSlice h s b).2 = some h.arrs.length) ∧
    ∀ t, slotWF h t → arrOf t ≠ arrOf s ∨ t = none →
      slotWF (appendSlice h s b).1 t ∧ sliceElems (appendSlice h s b).1 t = sliceElems h t := by
  cases s with
  | none =>
    simp only [appendSlice, Nat.lt_irrefl, if_false]
    refine ⟨by trivial, by simp, ?_, ?_, Or.inr rfl, ?_⟩
    · simp [slotWF]
    · simp [sliceElems]
    · intro t wft _
      cases t with
      | none => exact ⟨trivial, rfl⟩
      | some p =>
        obtain ⟨a', n'⟩ := p
        simp only [slotWF] at wft ⊢
        simp only [sliceElems, List.length_append, List.length_cons, List.length_nil]
        rw [getD_append_lt _ _ _ _ wft.1]
        exact ⟨⟨by omega, wft.2⟩, rfl⟩
  | some p =>
    obtain ⟨a, n⟩ := p
    simp only [slotWF] at wf
    obtain ⟨ha, hn⟩ := wf
    simp only [appendSlice]
    split
    · rename_i hlt
      have hnl : ¬ n < (h.arrs.getD a ⟨0, []⟩).cells.length := by omega
      simp only [hnl, if_false]
      refine ⟨by trivial, by simp, ?_, ?_, Or.inl ⟨rfl, by simp⟩, ?_⟩
      · simp only [slotWF, List.length_set]
        rw [getD_set_eq _ _ _ _ ha]
        exact ⟨ha, by rw [List.length_append, hn]; rfl⟩
      · simp only [sliceElems]
        rw [getD_set_eq _ _ _ _ ha]
        subst hn
        rw [List.take_of_length_le (by simp), List.take_length]
      · intro t wft hne
        cases t with
        | none => exact ⟨trivial, rfl⟩
        | some q =>
          obtain ⟨a', n'⟩ := q
          have haa : a ≠ a' := by
            rcases hne with hne | hne
            · intro e; subst e; exact hne rfl
            · cases hne
          simp only [slotWF, sliceElems, List.length_set] at wft ⊢
          rw [getD_set_ne _ _ _ _ _ haa]
          exact ⟨wft, rfl⟩
    · refine ⟨by trivial, by simp, ?_, ?_, Or.inr rfl, ?_⟩
      · simp only [slotWF, List.length_append, List.length_cons, List.length_nil]
        rw [getD_append_eq]
        refine ⟨by omega, ?_⟩
        subst hn
        simp
      · simp only [sliceElems]
        rw [getD_append_eq]
        subst hn
        rw [List.take_of_length_le (by simp), List.take_length]
      · intro t wft _
        cases t with
        | none => exact ⟨trivial, rfl⟩
        | some q =>
          obtain ⟨a', n'⟩ := q
          simp only [slotWF, sliceElems, List.length_append, List.length_cons, List.length_nil] at wft ⊢
          rw [getD_append_lt _ _ _ _ wft.1]
          exact ⟨⟨by omega, wft.2⟩, rfl⟩

theorem sliceElems_ext (h h' : Heap) (s : Slice) (wf : slotWF h s) (X : List Arr) (he : h'.arrs = h.arrs ++ X) :
    sliceElems h' s = sliceElems h s ∧ slotWF h' s := by
  cases s with
  | none => exact ⟨rfl, trivial⟩
  | some p =>
    obtain ⟨a, n⟩ := p
    simp only [slotWF] at wf ⊢
    simp only [sliceElems, he]
    have : (h.arrs ++ X).getD a ⟨0, []⟩ = h.arrs.getD a ⟨0, []⟩ := by
      simp [List.getD_eq_getElem?_getD, List.getElem?_append_left wf.1]
    rw [this]
    exact ⟨rfl, by simp; omega, wf.2⟩

/-- the fold inside copySlots, from an arbitrary accumulator -/
def copyGo (slots : List Slice) (acc : Heap × List Slice) : Heap × List Slice :=
  slots.foldl (fun (acc : Heap × List Slice) s =>
    let (h, out) := acc
    let elems := sliceElems h s
    let n := elems.length
    let id := h.arrs.length
    ({ h with arrs := h.arrs ++ [⟨n, elems⟩] }, out ++ [some (id, n)])) acc

theorem copySlots_eq (h : Heap) (slots : List Slice) : copySlots h slots = copyGo slots (h, []) := rfl

/-- Extend's slot copy: every new slot lives on an array allocated by the copy itself (so it is shared with
    nothing that existed before, and the new slots are pairwise on different arrays), is well-formed, and
    sees exactly what the parent's slot saw; the old arrays and all filters are untouched. -/
theorem copyGo_spec (slots : List Slice) : ∀ (h : Heap) (out : List Slice),
    (∀ s ∈ slots, slotWF h s) →
    ∃ X news, (copyGo slots (h, out)).1.arrs = h.arrs ++ X ∧ (copyGo slots (h, out)).1.filts = h.filts ∧
      (copyGo slots (h, out)).2 = out ++ news ∧ news.length = slots.length ∧ X.length = slots.length ∧
      ∀ j, j < slots.length →
        arrOf (news.getD j none) = some (h.arrs.length + j) ∧
        slotWF (copyGo slots (h, out)).1 (news.getD j none) ∧
        sliceElems (copyGo slots (h, out)).1 (news.getD j none) = sliceElems h (slots.getD j none) := by
  induction slots with
  | nil => intro h out _; exact ⟨[], [], by simp [copyGo], rfl, by simp [copyGo], rfl, rfl, fun j hj => by simp at hj⟩
  | cons s slots ih =>
    intro h out hwf
    let h1 : Heap := { h with arrs := h.arrs ++ [⟨(sliceElems h s).length, sliceElems h s⟩] }
    have hstep : copyGo (s :: slots) (h, out) = copyGo slots (h1, out ++ [some (h.arrs.length, (sliceElems h s).length)]) := rfl
    have hwf1 : ∀ t ∈ slots, slotWF h1 t := fun t ht =>
      (sliceElems_ext h h1 t (hwf t (List.mem_cons_of_mem _ ht)) _ rfl).2
    obtain ⟨X, news, e1, e2, e3, e4, e5, e6⟩ := ih h1 (out ++ [some (h.arrs.length, (sliceElems h s).length)]) hwf1
    rw [hstep]
    refine ⟨⟨(sliceElems h s).length, sliceElems h s⟩ :: X, some (h.arrs.length, (sliceElems h s).length) :: news,
      by rw [e1]; simp [h1], by rw [e2], by rw [e3]; simp, by simp [e4], by simp [e5], ?_⟩
    intro j hj
    cases j with
    | zero =>
      simp only [List.getD_cons_zero, arrOf, Nat.add_zero, true_and]
      have hx : (copyGo slots (h1, out ++ [some (h.arrs.length, (sliceElems h s).length)])).1.arrs
          = h1.arrs ++ X := e1
      have wf0 : slotWF h1 (some (h.arrs.length, (sliceElems h s).length)) := by
        simp [slotWF, h1, List.getD_eq_getElem?_getD]
      have v0 : sliceElems h1 (some (h.arrs.length, (sliceElems h s).length)) = sliceElems h s := by
        simp [sliceElems, h1, List.getD_eq_getElem?_getD]
      obtain ⟨k1, k2⟩ := sliceElems_ext h1 _ _ wf0 X hx
      exact ⟨k2, by rw [k1, v0]⟩
    | succ j =>
      simp only [List.length_cons] at hj
      obtain ⟨a1, a2, a3⟩ := e6 j (by omega)
      simp only [List.getD_cons_succ]
      refine ⟨by rw [a1]; simp [h1]; omega, a2, ?_⟩
      rw [a3]
      exact (sliceElems_ext h h1 _ (by
        by_cases hjl : j < slots.length
        · have : slots.getD j none ∈ slots := by
            simp [List.getD_eq_getElem?_getD, List.getElem?_eq_getElem hjl]
          exact hwf _ (List.mem_cons_of_mem _ this)
        · omega) _ rfl).1

end GM.Proof.Filter
end Filter

section FilterInv
namespace GM.Proof.Filter
open GM GM.Filter GM.Spec GM.Spec.FilterSet

theorem and_or_ne_zero {x m : Nat} (y : Nat) (h : x &&& m ≠ 0) : (x ||| y) &&& m ≠ 0 := by
  intro h0
  apply h
  apply Nat.eq_of_testBit_eq
  intro i
  have := congrArg (fun n => Nat.testBit n i) h0
  simp only [Nat.testBit_and, Nat.testBit_or, Nat.zero_testBit] at this ⊢
  cases hx : x.testBit i <;> cases hm : m.testBit i <;> simp_all

theorem or_bit_and_bit (x i : Nat) : (x ||| (1 <<< i)) &&& (1 <<< i) ≠ 0 := by
  intro h0
  have := congrArg (fun n => Nat.testBit n i) h0
  simp [Nat.testBit_and, Nat.testBit_or, Nat.testBit_shiftLeft] at this

/-- bit `j` of the mask of byte `c` is set -/
def bitOn (chars : List Nat) (c : UInt8) (j : Nat) : Prop := chars.getD c.toNat 0 &&& (1 <<< j) ≠ 0

theorem orBit_length (cs : List Nat) (c : UInt8) (i : Nat) : (orBit cs c i).length = cs.length := by
  simp [orBit]

theorem orBit_mono {cs : List Nat} {c : UInt8} {j : Nat} (c' : UInt8) (i : Nat) (h : bitOn cs c j) :
    bitOn (orBit cs c' i) c j := by
  unfold bitOn orBit at *
  by_cases hc : c'.toNat = c.toNat
  · by_cases hl : c'.toNat < cs.length
    · rw [← hc, getD_set_eq _ _ _ _ hl]; rw [← hc] at h; exact and_or_ne_zero _ h
    · rw [List.set_eq_of_length_le (by omega)]; exact h
  · rw [getD_set_ne _ _ _ _ _ hc]; exact h

theorem orBit_self (cs : List Nat) (c : UInt8) (i : Nat) (hl : cs.length = 256) : bitOn (orBit cs c i) c i := by
  unfold bitOn orBit
  rw [getD_set_eq _ _ _ _ (by rw [hl]; exact c.toNat_lt)]
  exact or_bit_and_bit _ _

/-- the mask update of `Add` -/
def addBits (b : Bytes) (m : Nat) (cs : List Nat) : List Nat :=
  (List.range m).foldl (fun cs i => orBit cs (b.getD i 0) i) cs

theorem addBits_spec (b : Bytes) (cs : List Nat) (m : Nat) :
    (addBits b m cs).length = cs.length ∧
    (∀ c j, bitOn cs c j → bitOn (addBits b m cs) c j) ∧
    (cs.length = 256 → ∀ j, j < m → bitOn (addBits b m cs) (b.getD j 0) j) := by
  induction m with
  | zero => exact ⟨rfl, fun _ _ h => h, fun _ j hj => by omega⟩
  | succ m ih =>
    obtain ⟨i1, i2, i3⟩ := ih
    have e : addBits b (m + 1) cs = orBit (addBits b m cs) (b.getD m 0) m := by
      simp [addBits, List.range_succ, List.foldl_append]
    rw [e]
    refine ⟨by rw [orBit_length, i1], fun c j h => orBit_mono _ _ (i2 c j h), fun hl j hj => ?_⟩
    by_cases hjm : j = m
    · subst hjm; exact orBit_self _ _ _ (by rw [i1, hl])
    · exact orBit_mono _ _ (i3 hl j (by omega))

/-- slot `k` of filter `i` (nil when there is no such filter) -/
def slotAt (h : Heap) (i k : Nat) : Slice :=
  match h.filts[i]? with
  | some flt => flt.slots.getD k none
  | none => none

structure Inv (h : Heap) (S : List (List Bytes)) : Prop where
  len : h.filts.length = S.length
  shape : ∀ (i : Nat) (flt : Filt), h.filts[i]? = some flt → flt.chars.length = 256 ∧ flt.slots.length = 64
  wf : ∀ i k, k < 64 → slotWF h (slotAt h i k)
  view : ∀ i k b, k < 64 → (b ∈ sliceElems h (slotAt h i k) ↔ b ∈ S.getD i [] ∧ bytesHash b % 64 = k)
  bits : ∀ (i : Nat) (flt : Filt) (b : Bytes) (j : Nat), h.filts[i]? = some flt → b ∈ S.getD i [] → j < min b.length flt.threshold →
    bitOn flt.chars (b.getD j 0) j
  own : ∀ i i' k k' a, k < 64 → k' < 64 → arrOf (slotAt h i k) = some a → arrOf (slotAt h i' k') = some a →
    i = i' ∧ k = k'

theorem inv_empty : Inv empty [] := by
  refine ⟨rfl, ?_, ?_, ?_, ?_, ?_⟩
  · intro i flt h; simp [empty] at h
  · intro i k _; simp [slotAt, empty, slotWF]
  · intro i k b _; simp [slotAt, empty, sliceElems]
  · intro i flt b j h; simp [empty] at h
  · intro i i' k k' a _ _ h; simp [slotAt, empty, arrOf] at h

theorem contains_iff {h : Heap} {S : List (List Bytes)} (inv : Inv h S) (f : Nat) (b : Bytes) :
    contains h f b = true ↔ b ∈ S.getD f [] := by
  unfold contains
  cases hf : h.filts[f]? with
  | none =>
    have : S.getD f [] = [] := by
      have : S.length ≤ f := by
        rw [← inv.len]; exact List.getElem?_eq_none_iff.mp hf
      simp [List.getD_eq_getElem?_getD, List.getElem?_eq_none this]
    rw [this]; simp
  | some flt =>
    simp only
    split
    · rename_i hany
      simp only [Bool.false_eq_true, false_iff]
      intro hb
      rw [List.any_eq_true] at hany
      obtain ⟨j, hj, hz⟩ := hany
      have := inv.bits f flt b j hf hb (by simpa using hj)
      exact this (by simpa using hz)
    · have hk : bytesHash b % 64 < 64 := Nat.mod_lt _ (by decide)
      have hv := inv.view f (bytesHash b % 64) b hk
      simp only [slotAt, hf] at hv
      rw [List.any_eq_true]
      constructor
      · rintro ⟨x, hx, hxb⟩
        have : x = b := by simpa using hxb
        subst this
        exact (hv.mp hx).1
      · intro hb
        exact ⟨b, hv.mpr ⟨hb, trivial⟩, by simp⟩

theorem appendSlice_filts (h : Heap) (s : Slice) (b : Bytes) : (appendSlice h s b).1.filts = h.filts := by
  cases s with
  | none => simp [appendSlice]
  | some p => obtain ⟨a, n⟩ := p; simp only [appendSlice]; split <;> rfl

theorem add_eq {h : Heap} {f : Nat} {flt : Filt} (hf : h.filts[f]? = some flt) (b : Bytes) :
    add h f b =
      ⟨(appendSlice h (flt.slots.getD (bytesHash b % 64) none) b).1.arrs,
       h.filts.set f ⟨addBits b (min b.length flt.threshold) flt.chars, flt.threshold,
         flt.slots.set (bytesHash b % 64) (appendSlice h (flt.slots.getD (bytesHash b % 64) none) b).2⟩⟩ := by
  unfold add
  rw [hf]
  simp only [appendSlice_filts, addBits]

theorem getElem?_set_self' {α} {l : List α} {f : Nat} {x : α} (y : α) (h : l[f]? = some x) :
    (l.set f y)[f]? = some y := by
  have : f < l.length := by
    rcases Nat.lt_or_ge f l.length with h1 | h1
    · exact h1
    · rw [List.getElem?_eq_none h1] at h; cases h
  simp [List.getElem?_set, this]

theorem getElem?_set_ne' {α} (l : List α) {f i : Nat} (y : α) (h : f ≠ i) : (l.set f y)[i]? = l[i]? := by
  simp [List.getElem?_set, h]

theorem slotWF_arrs {h h' : Heap} (e : h'.arrs = h.arrs) (t : Slice) : slotWF h' t ↔ slotWF h t := by
  cases t with
  | none => exact Iff.rfl
  | some p => obtain ⟨a, n⟩ := p; simp only [slotWF, e]

theorem sliceElems_arrs {h h' : Heap} (e : h'.arrs = h.arrs) (t : Slice) : sliceElems h' t = sliceElems h t := by
  cases t with
  | none => rfl
  | some p => obtain ⟨a, n⟩ := p; simp only [sliceElems, e]

theorem getD_set_self_list {S : List (List Bytes)} {f : Nat} (X : List Bytes) (hf : f < S.length) :
    (S.set f X).getD f [] = X := getD_set_eq _ _ _ _ hf

/-- `Add` keeps the invariant, with the key appended to that filter's spec set -/
theorem add_inv {h : Heap} {S : List (List Bytes)} (inv : Inv h S) {f : Nat} {flt : Filt}
    (hf : h.filts[f]? = some flt) (b : Bytes) :
    Inv (add h f b) (S.set f (S.getD f [] ++ [b])) := by
  have hfl : f < S.length := by
    rw [← inv.len]
    rcases Nat.lt_or_ge f h.filts.length with h1 | h1
    · exact h1
    · rw [List.getElem?_eq_none h1] at hf; cases hf
  have hk0 : bytesHash b % 64 < 64 := Nat.mod_lt _ (by decide)
  obtain ⟨hcl, hsl⟩ := inv.shape f flt hf
  have hs_eq : slotAt h f (bytesHash b % 64) = flt.slots.getD (bytesHash b % 64) none := by simp [slotAt, hf]
  have swf : slotWF h (flt.slots.getD (bytesHash b % 64) none) := by rw [← hs_eq]; exact inv.wf f _ hk0
  obtain ⟨_, alen, awf, aview, aarr, aframe⟩ := appendSlice_spec h _ b swf
  obtain ⟨bl, bmono, bself⟩ := addBits_spec b flt.chars (min b.length flt.threshold)
  rw [add_eq hf b]
  generalize hA : appendSlice h (flt.slots.getD (bytesHash b % 64) none) b = A at *
  generalize hk : bytesHash b % 64 = k0 at *
  generalize hs : flt.slots.getD k0 none = s at *
  -- the new heap
  generalize hH : (⟨A.1.arrs, h.filts.set f ⟨addBits b (min b.length flt.threshold) flt.chars, flt.threshold,
      flt.slots.set k0 A.2⟩⟩ : Heap) = H
  have Harrs : H.arrs = A.1.arrs := by rw [← hH]
  have Hf : H.filts[f]? = some ⟨addBits b (min b.length flt.threshold) flt.chars, flt.threshold,
      flt.slots.set k0 A.2⟩ := by rw [← hH]; exact getElem?_set_self' _ hf
  have Hne : ∀ i, f ≠ i → H.filts[i]? = h.filts[i]? := by
    intro i hi; rw [← hH]; exact getElem?_set_ne' _ _ hi
  -- slots of the new heap
  have slot_new : slotAt H f k0 = A.2 := by
    simp only [slotAt, Hf]; exact getD_set_eq _ _ _ _ (by rw [hsl]; exact hk0)
  have slot_old : ∀ i k, ¬(i = f ∧ k = k0) → slotAt H i k = slotAt h i k := by
    intro i k hik
    by_cases hi : i = f
    · subst hi
      have hkk : k0 ≠ k := fun e => hik ⟨rfl, e.symm⟩
      simp only [slotAt, Hf, hf]; exact getD_set_ne _ _ _ _ _ hkk
    · simp only [slotAt, Hne i (fun e => hi e.symm)]
  -- an old slot other than (f, k0) is on another array than s
  have other : ∀ i k, k < 64 → ¬(i = f ∧ k = k0) →
      arrOf (slotAt h i k) ≠ arrOf s ∨ slotAt h i k = none := by
    intro i k hk64 hik
    cases ht : slotAt h i k with
    | none => exact Or.inr rfl
    | some p =>
      left
      intro e
      have h1 : arrOf (slotAt h i k) = some p.1 := by rw [ht]; rfl
      have h2 : arrOf (slotAt h f k0) = some p.1 := by rw [hs_eq, ← e, ← ht]; exact h1
      exact hik (inv.own i f k k0 p.1 hk64 hk0 h1 h2)
  have frame : ∀ i k, k < 64 → ¬(i = f ∧ k = k0) →
      slotWF H (slotAt h i k) ∧ sliceElems H (slotAt h i k) = sliceElems h (slotAt h i k) := by
    intro i k hk64 hik
    obtain ⟨w, v⟩ := aframe _ (inv.wf i k hk64) (other i k hk64 hik)
    exact ⟨(slotWF_arrs Harrs _).mpr w, by rw [sliceElems_arrs Harrs]; exact v⟩
  have Sget_f : (S.set f (S.getD f [] ++ [b])).getD f [] = S.getD f [] ++ [b] := getD_set_eq _ _ _ _ hfl
  have Sget_ne : ∀ i, i ≠ f → (S.set f (S.getD f [] ++ [b])).getD i [] = S.getD i [] :=
    fun i hi => getD_set_ne _ _ _ _ _ (fun e => hi e.symm)
  refine ⟨?_, ?_, ?_, ?_, ?_, ?_⟩
  · rw [← hH]; simp [inv.len]
  · intro i flt' hi
    by_cases hif : i = f
    · subst hif; rw [Hf] at hi; cases hi
      exact ⟨by rw [bl, hcl], by rw [List.length_set, hsl]⟩
    · rw [Hne i (fun e => hif e.symm)] at hi; exact inv.shape i flt' hi
  · intro i k hk64
    by_cases hik : i = f ∧ k = k0
    · obtain ⟨rfl, rfl⟩ := hik
      rw [slot_new]; exact (slotWF_arrs Harrs _).mpr awf
    · rw [slot_old i k hik]; exact (frame i k hk64 hik).1
  · intro i k b' hk64
    by_cases hik : i = f ∧ k = k0
    · obtain ⟨rfl, rfl⟩ := hik
      rw [slot_new, sliceElems_arrs Harrs, aview, Sget_f]
      have hv := inv.view i k b' hk64
      rw [hs_eq] at hv
      simp only [List.mem_append, List.mem_singleton, hv]
      constructor
      · rintro (⟨h1, h2⟩ | rfl)
        · exact ⟨Or.inl h1, h2⟩
        · exact ⟨Or.inr rfl, hk⟩
      · rintro ⟨h1 | h1, h2⟩
        · exact Or.inl ⟨h1, h2⟩
        · exact Or.inr h1
    · rw [slot_old i k hik, (frame i k hk64 hik).2, inv.view i k b' hk64]
      by_cases hif : i = f
      · subst hif
        rw [Sget_f]
        have hkk : k ≠ k0 := fun e => hik ⟨rfl, e⟩
        simp only [List.mem_append, List.mem_singleton]
        constructor
        · rintro ⟨h1, h2⟩; exact ⟨Or.inl h1, h2⟩
        · rintro ⟨h1 | h1, h2⟩
          · exact ⟨h1, h2⟩
          · rw [h1] at h2; exact absurd (h2.symm.trans hk) hkk
      · rw [Sget_ne i hif]
  · intro i flt' b' j hi hb' hj
    by_cases hif : i = f
    · subst hif; rw [Hf] at hi; cases hi
      rw [Sget_f] at hb'
      simp only at hj ⊢
      rcases List.mem_append.mp hb' with hb' | hb'
      · exact bmono _ _ (inv.bits i flt b' j hf hb' hj)
      · have : b' = b := by simpa using hb'
        subst this
        exact bself hcl j hj
    · rw [Hne i (fun e => hif e.symm)] at hi
      rw [Sget_ne i hif] at hb'
      exact inv.bits i flt' b' j hi hb' hj
  · intro i i' k k' a hk64 hk64' h1 h2
    -- arrays of old slots are old
    have oldlt : ∀ i k a, k < 64 → arrOf (slotAt h i k) = some a → a < h.arrs.length := by
      intro i k a hk64 ha
      have w := inv.wf i k hk64
      cases ht : slotAt h i k with
      | none => rw [ht] at ha; cases ha
      | some p =>
        obtain ⟨a', n'⟩ := p
        rw [ht] at ha w
        simp only [arrOf, Option.some.injEq] at ha
        subst ha; exact w.1
    -- the new slot's array is s's (then s is the old slot (f,k0)) or fresh
    have newcase : ∀ i k a, k < 64 → ¬(i = f ∧ k = k0) → arrOf A.2 = some a → arrOf (slotAt h i k) = some a → False := by
      intro i k a hk64 hik hA2 hold
      rcases aarr with ⟨e, _⟩ | e
      · have : arrOf (slotAt h f k0) = some a := by rw [hs_eq, ← e]; exact hA2
        exact hik (inv.own i f k k0 a hk64 hk0 hold this)
      · rw [e] at hA2
        have := oldlt i k a hk64 hold
        simp only [Option.some.injEq] at hA2
        omega
    by_cases hik : i = f ∧ k = k0
    · by_cases hik' : i' = f ∧ k' = k0
      · exact ⟨hik.1.trans hik'.1.symm, hik.2.trans hik'.2.symm⟩
      · obtain ⟨rfl, rfl⟩ := hik
        rw [slot_new] at h1; rw [slot_old i' k' hik'] at h2
        exact (newcase i' k' a hk64' hik' h1 h2).elim
    · by_cases hik' : i' = f ∧ k' = k0
      · obtain ⟨rfl, rfl⟩ := hik'
        rw [slot_new] at h2; rw [slot_old i k hik] at h1
        exact (newcase i k a hk64 hik h2 h1).elim
      · rw [slot_old i k hik] at h1; rw [slot_old i' k' hik'] at h2
        exact inv.own i i' k k' a hk64 hk64' h1 h2

theorem getElem?_of_lt_filts {h : Heap} {f : Nat} (hf : f < h.filts.length) : ∃ flt, h.filts[f]? = some flt :=
  ⟨h.filts[f], List.getElem?_eq_getElem hf⟩

theorem set_getD_self (S : List (List Bytes)) (f : Nat) : S.set f (S.getD f []) = S := by
  induction S generalizing f with
  | nil => rfl
  | cons x S ih =>
    cases f with
    | zero => rfl
    | succ f => simp only [List.set_cons_succ, List.getD_cons_succ, ih]

theorem foldl_add_inv (es : List Bytes) : ∀ {h : Heap} {S : List (List Bytes)}, Inv h S → ∀ {f : Nat}, f < S.length →
    Inv (es.foldl (fun h e => add h f e) h) (S.set f (S.getD f [] ++ es)) := by
  induction es with
  | nil => intro h S inv f hf; rw [List.foldl_nil, List.append_nil, set_getD_self]; exact inv
  | cons e es ih =>
    intro h S inv f hf
    obtain ⟨flt, hflt⟩ := getElem?_of_lt_filts (h := h) (by rw [inv.len]; exact hf)
    have i1 := add_inv inv hflt e
    have i2 := ih i1 (f := f) (by simpa using hf)
    rw [getD_set_eq _ _ _ _ hf, List.set_set, List.append_assoc] at i2
    exact i2

theorem getD_append_left' {α} (S : List α) (x d : α) (i : Nat) (h : i ≠ S.length) :
    (S ++ [x]).getD i d = S.getD i d := by
  rcases Nat.lt_or_ge i S.length with h1 | h1
  · exact getD_append_lt _ _ _ _ h1
  · have h2 : S.length < i := by omega
    simp [List.getD_eq_getElem?_getD, List.getElem?_eq_none h1,
      List.getElem?_eq_none (show (S ++ [x]).length ≤ i by simp; omega)]

theorem getElem?_append_ne {α} (S : List α) (x : α) (i : Nat) (h : i ≠ S.length) : (S ++ [x])[i]? = S[i]? := by
  rcases Nat.lt_or_ge i S.length with h1 | h1
  · exact List.getElem?_append_left h1
  · rw [List.getElem?_eq_none h1, List.getElem?_eq_none (by simp; omega)]

theorem getElem?_append_self {α} (S : List α) (x : α) : (S ++ [x])[S.length]? = some x := by simp

theorem set_append_last (S : List (List Bytes)) (x y : List Bytes) : (S ++ [x]).set S.length y = S ++ [y] := by
  induction S with
  | nil => rfl
  | cons a S ih => simp only [List.cons_append, List.length_cons, List.set_cons_succ, ih]

theorem getD_replicate_none (n k : Nat) : (List.replicate n (none : Slice)).getD k none = none := by
  induction n generalizing k with
  | zero => rfl
  | succ n ih =>
    cases k with
    | zero => rfl
    | succ k => simp only [List.replicate_succ, List.getD_cons_succ]; exact ih k

theorem slotAt_none_of_ge {h : Heap} {i : Nat} (hi : h.filts.length ≤ i) (k : Nat) : slotAt h i k = none := by
  simp [slotAt, List.getElem?_eq_none hi]

theorem oldlt {h : Heap} {S : List (List Bytes)} (inv : Inv h S) (i k a : Nat) (hk : k < 64)
    (ha : arrOf (slotAt h i k) = some a) : a < h.arrs.length := by
  have w := inv.wf i k hk
  cases ht : slotAt h i k with
  | none => rw [ht] at ha; cases ha
  | some p =>
    obtain ⟨a', n'⟩ := p
    rw [ht] at ha w
    simp only [arrOf, Option.some.injEq] at ha
    subst ha; exact w.1

theorem new_empty_inv {h : Heap} {S : List (List Bytes)} (inv : Inv h S) :
    Inv { h with filts := h.filts ++ [newFilt] } (S ++ [[]]) := by
  have sl : ∀ i k, slotAt { h with filts := h.filts ++ [newFilt] } i k = slotAt h i k := by
    intro i k
    by_cases hi : i = h.filts.length
    · subst hi
      rw [slotAt_none_of_ge (Nat.le_refl _)]
      simp only [slotAt, getElem?_append_self]
      exact getD_replicate_none 64 k
    · simp only [slotAt, getElem?_append_ne _ _ _ hi]
  have sg : ∀ i, (S ++ [[]]).getD i [] = S.getD i [] := by
    intro i
    by_cases hi : i = S.length
    · subst hi; simp [List.getD_eq_getElem?_getD]
    · exact getD_append_left' _ _ _ _ hi
  refine ⟨by simp [inv.len], ?_, ?_, ?_, ?_, ?_⟩
  · intro i flt hi
    by_cases hil : i = h.filts.length
    · subst hil
      simp only [getElem?_append_self, Option.some.injEq] at hi
      subst hi; exact ⟨List.length_replicate, List.length_replicate⟩
    · rw [getElem?_append_ne _ _ _ hil] at hi; exact inv.shape i flt hi
  · intro i k hk; rw [sl]; exact inv.wf i k hk
  · intro i k b hk; rw [sl, sg]; exact inv.view i k b hk
  · intro i flt b j hi hb hj
    rw [sg] at hb
    by_cases hil : i = h.filts.length
    · subst hil
      rw [inv.len] at hb
      simp [List.getD_eq_getElem?_getD] at hb
    · rw [getElem?_append_ne _ _ _ hil] at hi; exact inv.bits i flt b j hi hb hj
  · intro i i' k k' a hk hk' h1 h2
    rw [sl] at h1 h2; exact inv.own i i' k k' a hk hk' h1 h2

theorem new_inv {h : Heap} {S : List (List Bytes)} (inv : Inv h S) (es : List Bytes) :
    Inv (new h es) (S ++ [es]) := by
  have i1 := foldl_add_inv es (new_empty_inv inv) (f := S.length) (by simp)
  have e : (S ++ [[]]).getD S.length [] = [] := by simp [List.getD_eq_getElem?_getD]
  rw [e, List.nil_append, set_append_last] at i1
  unfold new
  rw [inv.len]; exact i1

theorem extend_base_inv {h : Heap} {S : List (List Bytes)} (inv : Inv h S) {f : Nat} {flt : Filt}
    (hf : h.filts[f]? = some flt) :
    Inv ⟨(copySlots h flt.slots).1.arrs,
        (copySlots h flt.slots).1.filts ++ [⟨flt.chars, flt.threshold, (copySlots h flt.slots).2⟩]⟩
      (S ++ [S.getD f []]) := by
  obtain ⟨hcl, hsl⟩ := inv.shape f flt hf
  have hwf : ∀ s ∈ flt.slots, slotWF h s := by
    intro s hs
    obtain ⟨k, hk, rfl⟩ := List.getElem_of_mem hs
    have := inv.wf f k (by rw [← hsl]; exact hk)
    simpa [slotAt, hf, List.getD_eq_getElem?_getD, List.getElem?_eq_getElem hk] using this
  obtain ⟨X, news, e1, e2, e3, e4, e5, e6⟩ := copyGo_spec flt.slots h [] hwf
  rw [← copySlots_eq] at e1 e2 e3 e6
  rw [List.nil_append] at e3
  rw [e2, e3]
  generalize hC : copySlots h flt.slots = C at *
  rw [hsl] at e4 e5 e6
  generalize hH : (⟨C.1.arrs, h.filts ++ [⟨flt.chars, flt.threshold, news⟩]⟩ : Heap) = H
  have Harrs : H.arrs = h.arrs ++ X := by rw [← hH]; exact e1
  have HarrsC : H.arrs = C.1.arrs := by rw [← hH]
  have sl_new : ∀ k, slotAt H h.filts.length k = news.getD k none := by
    intro k; rw [← hH]; simp [slotAt]
  have sl_old : ∀ i k, i ≠ h.filts.length → slotAt H i k = slotAt h i k := by
    intro i k hi; rw [← hH]; simp only [slotAt, getElem?_append_ne _ _ _ hi]
  have sg_new : (S ++ [S.getD f []]).getD h.filts.length [] = S.getD f [] := by
    rw [inv.len]; simp [List.getD_eq_getElem?_getD]
  have sg_old : ∀ i, i ≠ h.filts.length → (S ++ [S.getD f []]).getD i [] = S.getD i [] := by
    intro i hi; exact getD_append_left' _ _ _ _ (by rw [← inv.len]; exact hi)
  have hfs : ∀ k, slotAt h f k = flt.slots.getD k none := by intro k; simp [slotAt, hf]
  refine ⟨by rw [← hH]; simp [inv.len], ?_, ?_, ?_, ?_, ?_⟩
  · intro i flt' hi
    rw [← hH] at hi
    by_cases hil : i = h.filts.length
    · subst hil
      simp only [getElem?_append_self, Option.some.injEq] at hi
      subst hi; exact ⟨hcl, e4⟩
    · simp only [getElem?_append_ne _ _ _ hil] at hi; exact inv.shape i flt' hi
  · intro i k hk
    by_cases hil : i = h.filts.length
    · subst hil; rw [sl_new]; exact (slotWF_arrs HarrsC _).mpr (e6 k hk).2.1
    · rw [sl_old i k hil]; exact (sliceElems_ext h H _ (inv.wf i k hk) X Harrs).2
  · intro i k b hk
    by_cases hil : i = h.filts.length
    · subst hil
      rw [sl_new, sg_new, sliceElems_arrs HarrsC, (e6 k hk).2.2, ← hfs]
      exact inv.view f k b hk
    · rw [sl_old i k hil, sg_old i hil, (sliceElems_ext h H _ (inv.wf i k hk) X Harrs).1]
      exact inv.view i k b hk
  · intro i flt' b j hi hb hj
    rw [← hH] at hi
    by_cases hil : i = h.filts.length
    · subst hil
      simp only [getElem?_append_self, Option.some.injEq] at hi
      subst hi
      rw [sg_new] at hb
      exact inv.bits f flt b j hf hb hj
    · simp only [getElem?_append_ne _ _ _ hil] at hi
      rw [sg_old i hil] at hb
      exact inv.bits i flt' b j hi hb hj
  · intro i i' k k' a hk hk' h1 h2
    by_cases hil : i = h.filts.length
    · by_cases hil' : i' = h.filts.length
      · subst hil; subst hil'
        rw [sl_new, (e6 k hk).1] at h1; rw [sl_new, (e6 k' hk').1] at h2
        simp only [Option.some.injEq] at h1 h2
        exact ⟨rfl, by omega⟩
      · subst hil
        rw [sl_new, (e6 k hk).1] at h1; rw [sl_old i' k' hil'] at h2
        have := oldlt inv i' k' a hk' h2
        simp only [Option.some.injEq] at h1; omega
    · by_cases hil' : i' = h.filts.length
      · subst hil'
        rw [sl_new, (e6 k' hk').1] at h2; rw [sl_old i k hil] at h1
        have := oldlt inv i k a hk h1
        simp only [Option.some.injEq] at h2; omega
      · rw [sl_old i k hil] at h1; rw [sl_old i' k' hil'] at h2
        exact inv.own i i' k k' a hk hk' h1 h2

theorem extend_inv {h : Heap} {S : List (List Bytes)} (inv : Inv h S) {f : Nat} {flt : Filt}
    (hf : h.filts[f]? = some flt) (bs : List Bytes) :
    Inv (extend h f bs) (S ++ [S.getD f [] ++ bs]) := by
  have i0 := extend_base_inv inv hf
  have i1 := foldl_add_inv bs i0 (f := S.length) (by simp)
  have e : (S ++ [S.getD f []]).getD S.length [] = S.getD f [] := by simp [List.getD_eq_getElem?_getD]
  rw [e, set_append_last] at i1
  have hlen : (copySlots h flt.slots).1.filts.length = S.length := by
    obtain ⟨X, news, e1, e2, _⟩ := copyGo_spec flt.slots h [] (by
      intro s hs
      obtain ⟨k, hk, rfl⟩ := List.getElem_of_mem hs
      have := inv.wf f k (by rw [← (inv.shape f flt hf).2]; exact hk)
      simpa [slotAt, hf, List.getD_eq_getElem?_getD, List.getElem?_eq_getElem hk] using this)
    rw [copySlots_eq, e2, inv.len]
  unfold extend
  rw [hf]
  simp only [hlen]
  exact i1

theorem step_inv {h : Heap} {S : List (List Bytes)} (inv : Inv h S) (op : Op) : Inv (step h op) (specStep S op) := by
  have noF : ∀ f, ¬ f < S.length → h.filts[f]? = none := by
    intro f hf; exact List.getElem?_eq_none (by rw [inv.len]; omega)
  cases op with
  | new es => exact new_inv inv es
  | newString s => exact new_inv inv _
  | add f b =>
    simp only [step, specStep]
    split
    · rename_i hf
      obtain ⟨flt, hflt⟩ := getElem?_of_lt_filts (h := h) (by rw [inv.len]; exact hf)
      exact add_inv inv hflt b
    · rename_i hf; simp only [add, noF f hf]; exact inv
  | extend f bs =>
    simp only [step, specStep]
    split
    · rename_i hf
      obtain ⟨flt, hflt⟩ := getElem?_of_lt_filts (h := h) (by rw [inv.len]; exact hf)
      exact extend_inv inv hflt bs
    · rename_i hf; simp only [extend, noF f hf]; exact inv
  | extendString f s =>
    simp only [step, specStep]
    split
    · rename_i hf
      obtain ⟨flt, hflt⟩ := getElem?_of_lt_filts (h := h) (by rw [inv.len]; exact hf)
      exact extend_inv inv hflt _
    · rename_i hf; simp only [extend, noF f hf]; exact inv

theorem foldl_inv (ops : List Op) : ∀ {h : Heap} {S : List (List Bytes)}, Inv h S →
    Inv (ops.foldl step h) (ops.foldl specStep S) := by
  induction ops with
  | nil => intro h S inv; exact inv
  | cons op ops ih => intro h S inv; exact ih (step_inv inv op)

theorem run_inv (ops : List Op) : Inv (run ops) (specRun ops) := foldl_inv ops inv_empty

/-- **filter_is_set**: after any program, Contains answers membership in the plain key list of the spec -/
theorem filter_is_set (ops : List Op) (f : Nat) (b : Bytes) :
    contains (run ops) f b = true ↔ b ∈ (specRun ops).getD f [] := contains_iff (run_inv ops) f b

theorem specStep_other (S : List (List Bytes)) (op : Op) (g : Nat) (hg : g < S.length)
    (hop : ∀ b, op ≠ .add g b) :
    (specStep S op).getD g [] = S.getD g [] ∧ g < (specStep S op).length := by
  cases op with
  | new es => exact ⟨getD_append_lt _ _ _ _ hg, by simp [specStep]; omega⟩
  | newString s => exact ⟨getD_append_lt _ _ _ _ hg, by simp [specStep]; omega⟩
  | add f b =>
    simp only [specStep]
    split
    · have : f ≠ g := by intro e; subst e; exact hop b rfl
      exact ⟨getD_set_ne _ _ _ _ _ this, by simpa using hg⟩
    · exact ⟨rfl, hg⟩
  | extend f bs =>
    simp only [specStep]
    split
    · exact ⟨getD_append_lt _ _ _ _ hg, by simp; omega⟩
    · exact ⟨rfl, hg⟩
  | extendString f s =>
    simp only [specStep]
    split
    · exact ⟨getD_append_lt _ _ _ _ hg, by simp; omega⟩
    · exact ⟨rfl, hg⟩

theorem specFold_other (more : List Op) : ∀ (S : List (List Bytes)) (g : Nat), g < S.length →
    (∀ op ∈ more, ∀ b, op ≠ .add g b) → (more.foldl specStep S).getD g [] = S.getD g [] := by
  induction more with
  | nil => intro S g _ _; rfl
  | cons op more ih =>
    intro S g hg hop
    obtain ⟨e1, e2⟩ := specStep_other S op g hg (hop op List.mem_cons_self)
    rw [List.foldl_cons, ih _ g e2 (fun o ho => hop o (List.mem_cons_of_mem _ ho)), e1]

/-- **extend_isolated** (in its general form): what filter `g` contains is changed only by `Add`s to `g`
    itself — not by anything done later to its parent, its children or its siblings -/
theorem filter_isolated (ops more : List Op) (g : Nat) (hg : g < (specRun ops).length)
    (hop : ∀ op ∈ more, ∀ b, op ≠ .add g b) (b : Bytes) :
    contains (run (ops ++ more)) g b = contains (run ops) g b := by
  rw [Bool.eq_iff_iff, filter_is_set, filter_is_set]
  have : specRun (ops ++ more) = more.foldl specStep (specRun ops) := by simp [specRun, List.foldl_append]
  rw [this, specFold_other more _ g hg hop]


/-- a filter made by `Extend f bs` contains exactly the parent's keys at that moment plus `bs`, whatever is
    done afterwards to any other filter (including the parent) -/
theorem extend_snapshot (ops more : List Op) (f : Nat) (bs : List Bytes) (hf : f < (specRun ops).length)
    (hop : ∀ op ∈ more, ∀ b, op ≠ .add (specRun ops).length b) (b : Bytes) :
    contains (run (ops ++ [.extend f bs] ++ more)) (specRun ops).length b = true ↔
      b ∈ (specRun ops).getD f [] ++ bs := by
  have e : specRun (ops ++ [.extend f bs]) = specRun ops ++ [(specRun ops).getD f [] ++ bs] := by
    have hf' : f < (List.foldl specStep [] ops).length := hf
    simp [specRun, List.foldl_append, specStep, hf']
  have hg : (specRun ops).length < (specRun (ops ++ [.extend f bs])).length := by rw [e]; simp
  have hi := filter_isolated (ops ++ [.extend f bs]) more _ hg hop b
  rw [hi, filter_is_set, e]
  simp [List.getD_eq_getElem?_getD]

end GM.Proof.Filter
end FilterInv
