import GM.Proof.QuoteSimMain
import GM.Proof.QuoteSimFirst
import GM.Proof.QuoteSimBytes
import GM.Proof.QuoteSimCode
import GM.Proof.QuoteSimFenced
import GM.Proof.QuoteSimSetext
import GM.Proof.QuoteSimList
import GM.Proof.QuoteSimInvNE
import GM.Proof.QuoteSimFinal
import GM.Proof.QuoteSimBar
import GM.Proof.QuoteSimInv
import GM.Proof.BlocksOrdRun
import GM.Spec.QuoteHyp
import GM.Proof.QuoteSimFE4

/-
  part Top — assembling the simulation: the parser lemmas (`ps_any`), the unary facts about run A
  (`frames_of`), the line-by-line induction (`run_simG`) and the conclusion on the two final block trees
  (`quoteSim_of_cls`), for any covered parser set; the class without list items (`alC08`) as first instance.
-/
section Top
namespace GM.Blocks
open GM GM.Text GM.Spec GM.Proof.Reader

/-- the block parsers covered by the whole-run argument: all but the two list parsers (`listParser.Close` reads
    the `HasBlankPreviousLines` flags, which the relation covers only for sources without a blank line) -/
def alC08 : BP → Bool
  | .list => false
  | .listItem => false
  | _ => true

/-- the unary facts about run A, for a set of parsers that covers the List parser or neither of the two list parsers:
    the store invariant is the one without the kind clause (`UStoreL`); without the List parser no covered parser
    builds a List / ListItem node (`NK`, from the invariant `UStore` with the kind clause) -/
theorem frames_of (al : BP → Bool) (hnl : al .list = false → ∀ bp, al bp = true → bp.notList = true) : Frames al where
  open_ := fun bp parent s a s' h hal ha =>
    ⟨by rw [bpOpen_opened bp parent s s' a h]; exact ha.opened,
     bpOpen_tmp bp parent s s' a h (fun b hb => (ha.opened b hb).2) ha.tmp,
     bpOpen_fence bp parent s s' a h ha.fence,
     ustoreL_bpOpen bp parent s a s' ha.u h,
     (fun hl n hn => ((us_bpOpen bp (hnl hl bp hal) parent s a s' (ha.us hl) h).node n hn).kind),
     by rw [bpOpen_opened bp parent s s' a h]; exact ha.pk.kg (kgn_bpOpen bp parent h),
     rstore_bpOpen bp parent ha.rg h⟩
  cont := fun bp node s a s' h hal hn0 ha =>
    ⟨by rw [bpContinue_opened bp node s s' a h]; exact ha.opened,
     bpContinue_tmp bp node s s' a h ha.tmp,
     bpContinue_fence bp node s s' a h ha.fence,
     ustoreL_bpContinue bp node hn0 s a s' ha.u h,
     (fun hl n hn => ((us_bpContinue bp (hnl hl bp hal) node hn0 s a s' (ha.us hl) h).node n hn).kind),
     by rw [bpContinue_opened bp node s s' a h]; exact ha.pk.kg (kgn_bpContinue bp node h),
     rstore_bpContinue bp node ha.rg h⟩
  close := fun bp node s a s' h hal hn0 ha =>
    ⟨by rw [bpClose_opened bp node s s' a h]; exact ha.opened,
     bpClose_tmp bp node s s' a h ha.tmp,
     bpClose_fence bp node s s' a h ha.fence,
     ustoreL_bpClose bp node hn0 s a s' ha.u h,
     (fun hl n hn => ((us_bpClose bp (hnl hl bp hal) node hn0 s a s' (ha.us hl) h).node n hn).kind),
     by rw [bpClose_opened bp node s s' a h]; exact ha.pk.kg (kgn_bpClose bp node h),
     rstore_bpClose bp node ha.rg h⟩
  openKG := fun bp parent s a s' h _ => kgn_bpOpen bp parent h
  contKG := fun bp node s a s' h _ => kgn_bpContinue bp node h
  closeKG := fun bp node s a s' h _ => kgn_bpClose bp node h
  openNR := fun bp parent s a s' id h hid _ => bpOpen_kind' bp parent h id hid
  req := fun bp parent s a s' h hr => (requirePara_setext bp parent s s' a h hr).2
  nonePos := fun bp parent s a s' h hn => bpOpen_none_pos bp parent s s' a h hn
  contOpened := fun bp node s a s' h => bpContinue_opened bp node s s' a h

theorem frames_all (al : BP → Bool) (hnl : ∀ bp, al bp = true → bp.notList = true) (hl : al .list = false) : Frames al :=
  frames_of al (fun _ => hnl)

/-- the unary facts for a set of parsers with the List parser: `NK` is vacuous -/
theorem frames_any (al : BP → Bool) (hlt : al .list = true) : Frames al :=
  frames_of al (fun hl => by rw [hlt] at hl; cases hl)

theorem frames_lists : Frames (fun _ => true) := frames_any _ rfl

theorem alC08_notList : ∀ bp, alC08 bp = true → bp.notList = true := by
  intro bp h; cases bp <;> first | rfl | cases h

theorem ustore_init : UStore [({ kind := .document } : Node)] := by
  refine ⟨by decide, rfl, ?_⟩
  intro n hn
  simp only [List.mem_singleton] at hn
  subst hn
  exact ⟨⟨by decide, by decide⟩, by intro h; cases h⟩

theorem ustoreL_init : UStoreL [({ kind := .document } : Node)] := ustore_init.toL

theorem nk_init (al : BP → Bool) : NK al [({ kind := .document } : Node)] :=
  fun _ => fun n hn => (ustore_init.node n hn).kind

theorem contW {src bp} (h : ContinueSim src bp) : ∀ k ls p node sA sB, SR src k ls p sA sB →
    S2 (fun a b sA' sB' => b = a ∧ ∃ p', SR src k ls p' sA' sB') (bpContinue bp node sA) (bpContinue bp (node + 1) sB) :=
  fun k ls p node sA sB hs => S2.mono (h k ls p node sA sB hs) (fun _ _ _ _ hh => ⟨hh.1, hh.2.choose, hh.2.choose_spec.2⟩)

/-- every `Open` / `Continue` / `Close` is simulated; only `listParser.Close` asks for something, the flags it reads
    (`FlagsOK`): from `NodeRel.blank` in a source without blank line, from `FE` when the setext heading parser is not
    covered -/
theorem ps_any (src : Bytes) (al : BP → Bool) (h : al .list = false ∨ FL src ∨ al .setext = false) : PS src al where
  open_ := by
    intro bp _
    cases bp with
    | setext => exact setextOpen_sim src
    | thematic => exact thematicOpen_sim src
    | list => exact listOpen_sim src
    | listItem => exact listItemOpen_sim src
    | code => exact codeOpen_sim src
    | atx => exact atxOpen_sim src
    | fenced => exact fencedOpen_sim src
    | blockquote => exact blockquoteOpen_sim src
    | html => exact htmlOpen_sim src
    | paragraph => exact paragraphOpen_sim src
  cont := by
    intro bp _ k ls p node sA sB hs hn0 ha hp hns hpre
    cases bp with
    | setext => exact contW (setextContinue_sim src) k ls p node sA sB hs
    | thematic => exact contW (thematicContinue_sim src) k ls p node sA sB hs
    | list => exact contW (listContinue_sim src) k ls p node sA sB hs
    | listItem =>
      exact S2.mono (listItemContinue_sim' src k ls p node sA sB hs hp (hpre rfl))
        (fun _ _ _ _ hh => ⟨hh.1, hh.2.choose, hh.2.choose_spec.2⟩)
    | code =>
      exact S2.mono (codeContinue_sim' src k ls p node sA sB hs hp)
        (fun _ _ _ _ hh => ⟨hh.1, hh.2.choose, hh.2.choose_spec.2⟩)
    | atx => exact contW (atxContinue_sim src) k ls p node sA sB hs
    | fenced =>
      exact S2.mono (fencedContinue_sim' src k ls p node sA sB hs ha.fence hns)
        (fun _ _ _ _ hh => ⟨hh.1, hh.2.choose, hh.2.choose_spec.2⟩)
    | blockquote => exact contW (blockquoteContinue_sim src) k ls p node sA sB hs
    | html =>
      exact S2.mono (htmlContinue_sim' src k ls p node sA sB hs hp)
        (fun _ _ _ _ hh => ⟨hh.1, hh.2.choose, hh.2.choose_spec.2⟩)
    | paragraph => exact contW (paragraphContinue_sim src) k ls p node sA sB hs
  close := by
    intro bp hal k ls p node sA sB hs hn0 ha hnr hfe
    cases bp with
    | setext => exact setextClose_sim' src k ls p node sA sB hs hn0 ha.tmp (hnr (.inr rfl))
    | thematic => exact thematicClose_sim src k ls p node sA sB hs
    | list =>
      refine listClose_sim' src k ls p node sA sB hs ?_
      rcases h with hl | hfl | hns
      · rw [hal] at hl; cases hl
      · exact flagsOK_node hfl hs.n ha.u node
      · exact flagsOK_of_fe (hfe hns) ha.u node hn0
    | listItem => exact listItemClose_sim src k ls p node sA sB hs
    | code => exact codeClose_sim src k ls p node sA sB hs
    | atx => exact atxClose_sim src k ls p node sA sB hs
    | fenced => exact fencedClose_sim src k ls p node sA sB hs
    | blockquote => exact blockquoteClose_sim src k ls p node sA sB hs
    | html => exact htmlClose_sim src k ls p node sA sB hs
    | paragraph => exact paragraphClose_sim' src k ls p node sA sB hs (hnr (.inl rfl))

/-- no byte of the source can start a list item: no `-`, `*`, `+`, no digit -/
def NoListTrigger (src : Bytes) : Prop := ∀ c ∈ src, c ≠ 45 ∧ c ≠ 42 ∧ c ≠ 43 ∧ isNumeric c = false

theorem matchesListItem_notList_of_parse {v : Bytes} {b : Bool} (h : (parseListItem v).2 = ListTyp.notList) :
    (matchesListItem v b).2 = ListTyp.notList := by
  unfold matchesListItem
  simp only
  split
  · next hc => rw [h] at hc; simp at hc
  · rfl

theorem noItem_of_noTrigger {src : Bytes} (h : NoListTrigger src) : NoItem src := by
  intro p _
  apply matchesListItem_notList_of_parse
  have hv : ∀ c ∈ sub src p (lineEnd src p), c ∈ src := by
    intro c hc
    unfold sub at hc
    exact List.mem_of_mem_drop (List.mem_of_mem_take hc)
  generalize sub src p (lineEnd src p) = v at hv
  unfold parseListItem
  simp only
  split
  · rfl
  · split
    · rfl
    · next c cs hd =>
      have hc : c ∈ v := List.mem_of_mem_drop (by rw [hd]; exact List.mem_cons_self ..)
      obtain ⟨h1, h2, h3, h4⟩ := h c (hv c hc)
      have e1 : (c == 45) = false := beq_eq_false_iff_ne.mpr h1
      have e2 : (c == 42) = false := beq_eq_false_iff_ne.mpr h2
      have e3 : (c == 43) = false := beq_eq_false_iff_ne.mpr h3
      simp only [e1, e2, e3, Bool.or_self, Bool.false_eq_true, if_false, List.takeWhile, h4, List.length_nil,
        beq_self_eq_true, Bool.true_or, if_true]

/-! ### the class of sources, and the start of the two runs -/

/-- the sources the whole-run theorem covers: no tab, no carriage return, ending with a line feed, and without any
    byte that could start a list item -/
structure C08Class (src : Bytes) : Prop where
  tf : ∀ c ∈ src, c ≠ 9
  cr : ∀ c ∈ src, c ≠ 13
  nl : src.getLast? = some 10
  nolist : NoListTrigger src

theorem C08Class.ne {src} (h : C08Class src) : src ≠ [] := by
  intro e; have := h.nl; rw [e] at this; cases this

/-- the wider class: the source need not end with a line feed; it is not empty and does not end with a space (a last
    line without `\n` that ends with spaces is where `fencedCodeBlockParser.Continue` calls `Advance(-1)`) -/
structure C08ClassW (src : Bytes) : Prop where
  tf : ∀ c ∈ src, c ≠ 9
  cr : ∀ c ∈ src, c ≠ 13
  ne : src ≠ []
  last : ∀ c, src.getLast? = some c → c ≠ 32
  nolist : NoListTrigger src

/-- the widest class: no position of the source starts a list item (`NoItem`: bullets and numbers are allowed where no
    space, tab or line end follows the marker) -/
structure C08ClassL (src : Bytes) : Prop where
  tf : ∀ c ∈ src, c ≠ 9
  cr : ∀ c ∈ src, c ≠ 13
  ne : src ≠ []
  last : ∀ c, src.getLast? = some c → c ≠ 32
  noitem : NoItem src

theorem C08ClassW.wider {src} (h : C08ClassW src) : C08ClassL src :=
  ⟨h.tf, h.cr, h.ne, h.last, noItem_of_noTrigger h.nolist⟩

theorem C08Class.wide {src} (h : C08Class src) : C08ClassW src :=
  ⟨h.tf, h.cr, h.ne, fun c hc => by rw [h.nl] at hc; cases hc; decide, h.nolist⟩

theorem qpg_length_ge (l : Bytes) (b : Bool) : l.length ≤ (quotePrefixGo l b).length := by
  induction l generalizing b with
  | nil => simp [quotePrefixGo]
  | cons c cs ih =>
    have := ih (c == 10)
    simp only [quotePrefixGo, List.length_append, List.length_cons]
    omega

theorem qp_length_ne {src : Bytes} (h : src ≠ []) : src.length + 2 ≤ (quotePrefix src).length := by
  cases src with
  | nil => exact absurd rfl h
  | cons c cs =>
    have := qpg_length_ge cs (c == 10)
    simp only [quotePrefix, quotePrefixGo, if_true, List.length_append, List.length_cons, List.length_nil]
    omega

theorem cls_of {src} (h : C08ClassL src) : Cls src alC08 where
  ps := ps_any src alC08 (.inl rfl)
  fr := frames_all _ alC08_notList rfl
  ot := ot_all src h.noitem
  ns := ns_of_last_ne h.last
  tr := TrigOK.of_all fun bp => by cases bp <;> first | exact .inl rfl | exact .inr (.inl ⟨rfl, rfl, h.noitem⟩)
  tf := h.tf
  h0 := lineAt_zero_qs src h.ne
  shape := fun _ _ hl hb => blank_shape_w h.tf h.cr h.last hl hb

theorem fe_init (al : BP → Bool) (b : Node) (c : Node) : FEc al [({ kind := .document } : Node)] [b, c] := by
  intro _ q hq x hx
  have : ([({ kind := .document } : Node)]).getD q default = default := by
    cases q with
    | zero => exact absurd rfl hq
    | succ n => rfl
  rw [this] at hx
  cases hx

theorem storeRel_init (src : Bytes) (blank : Bool) :
    StoreRel src [{ kind := .document }]
      [{ kind := .document, children := [1] }, { kind := .blockquote, parent := some 0, blankPrev := blank }] where
  len := rfl
  pos := by decide
  doc := ⟨rfl, rfl⟩
  doc0 := rfl
  node := by
    intro i
    cases i with
    | zero =>
      exact ⟨⟨rfl, rfl⟩, ⟨rfl, rfl⟩, rfl, trivial, rfl, rfl, rfl, rfl, rfl, rfl, rfl, trivial, .inl ⟨by decide, rfl⟩,
        (fun _ l hl => by cases hl), (fun i hi => by cases hi), (fun h => absurd h (by decide)),
        (fun _ h => absurd h (by decide))⟩
    | succ j => exact nodeRel_default src

theorem parseBlocks_eq (src : Bytes) :
    parseBlocks 0 (initSt src) = blocksLoop 0 (linesFuel src) [] (initSt src) := by
  unfold parseBlocks
  have e1 : (modPc fun pc => { pc with opened := [] }) (initSt src) = .ok ((), initSt src) := rfl
  have e2 : source (initSt src) = .ok (src, initSt src) := by
    have hs : (initSt src).r.source = src := (ri_init src).source
    unfold source; rw [hs]; rfl
  rw [bind_run e1, bind_run e2]

theorem nlCount_pos_of_last {src : Bytes} (h : src.getLast? = some 10) : 1 ≤ nlCount src := by
  have hm : (10 : UInt8) ∈ src := List.mem_of_getLast? h
  unfold nlCount
  exact List.length_pos_iff.mpr (List.ne_nil_of_mem (List.mem_filter.mpr ⟨hm, rfl⟩))

theorem qp_length_nl (src : Bytes) : src.length + 2 * nlCount src ≤ (quotePrefix src).length := by
  have := qpg_length src true
  unfold quotePrefix
  split at this <;> simp only [if_true] at this <;> omega

/-- B's first line up to the point where its Blockquote is open and its marker consumed -/
theorem bStart {src : Bytes} (h0 : LineAt src 0 0) (fo : Nat) :
    ∃ r' blank, blank = true ∧ RI (quotePrefix src) r' ⟨0, 2, 0⟩ ∧
      blocksLoop 0 (fo + 1) [] (initSt (quotePrefix src)) =
        ((openBlocksLoop blank false (2 * (quotePrefix src).length + 7) 1 OpenResult.newBlocksOpened none) >>= fun d =>
          if (d != OpenResult.newBlocksOpened) = true then pure ()
          else do
            advanceLine
            let z ← linesLoop 0 fo []
            match z with
            | (ret, bl) => if ret = true then pure () else blocksLoop 0 fo bl)
          { r := r',
            nodes := [{ kind := .document, children := [1] }, { kind := .blockquote, parent := some 0, blankPrev := blank }],
            pc := { ({} : Ctx) with blockOffset := 0, blockIndent := 0, opened := [{ node := 1, bp := .blockquote }] } } := by
  have hq0 : LineAt (quotePrefix src) 0 0 := lineAt_zero_qs _ (by
    intro e; exact (List.ne_nil_of_length_pos (by have := h0.lt; omega)) ((qp_nil_iff src).mp e))
  have hri : RI (quotePrefix src) (initSt (quotePrefix src)).r ⟨((0 : Nat) : Int), 0, 0⟩ := ri_init _
  -- the first line of the prefixed source is not blank
  have hline : sub (quotePrefix src) 0 (lineEnd (quotePrefix src) 0) = 62 :: 32 :: sub src 0 (lineEnd src 0) := by
    have e1 := view_lineA hq0
    have e2 := (view_marker h0).1
    simp only [Nat.mul_zero, Nat.add_zero] at e2
    rw [e1] at e2
    exact Option.some.inj e2
  have hnb : isBlank (sub (quotePrefix src) 0 (lineEnd (quotePrefix src) 0)) = false := by
    rw [hline]; rfl
  obtain ⟨r1, e1, hr1⟩ := skipFrom_line hq0 hri hnb (4 * (initSt (quotePrefix src)).r.source.length + 63) 0
  obtain ⟨r', hr', eO⟩ := openBlocks_first h0 (s := { initSt (quotePrefix src) with r := r1 }) hr1 rfl rfl
    (isBlankLine (r1.line - 1) 0 [])
  refine ⟨r', isBlankLine (r1.line - 1) 0 [], isBlankLine_nil _, hr', ?_⟩
  rw [blocksLoop_eq, show loopFuel (initSt (quotePrefix src)).r.source = 4 * (initSt (quotePrefix src)).r.source.length + 63 + 1 from rfl,
    bind_run e1]
  unfold blocksBody
  simp only [Bool.not_true, Bool.false_eq_true, if_false]
  have ep : position { initSt (quotePrefix src) with r := r1 } = .ok ((r1.line, r1.pos), { initSt (quotePrefix src) with r := r1 }) := rfl
  have eg : getPc { initSt (quotePrefix src) with r := r1 } = .ok (({} : Ctx), { initSt (quotePrefix src) with r := r1 }) := rfl
  rw [bind_run ep]
  simp only
  rw [bind_run eg]
  show StateT.bind _ _ _ = StateT.bind _ _ _
  unfold StateT.bind
  have : ((0 : Int) != 0) = false := rfl
  simp only [this, Bool.false_eq_true, if_false]
  rw [eO]
  rfl

theorem openBlocks_nil (q : Nat) (b : Bool) (s : St) (ho : s.pc.opened = []) :
    openBlocks q b s = openBlocksLoop b false (retryFuel s.r.source) q OpenResult.noBlocksOpened none s := by
  unfold openBlocks
  have e1 : lastOpenedBlock s = .ok (none, s) := by
    show (getPc >>= fun pc => pure pc.opened.getLast?) s = _
    have e0 : getPc s = .ok (s.pc, s) := rfl
    rw [bind_run e0, ho]; rfl
  rw [bind_run e1]
  rfl

/-- **The whole-run simulation**, for any set `al` of simulated parsers (`Cls src al`). If the block phase on `src` ends normally having read all lines, the block phase
    on `quotePrefix src` ends normally, and the two final node stores are related. -/
theorem run_simG {src : Bytes} {al : BP → Bool} (cl : Cls src al) (hne : src ≠ []) {sA' : St} (hA : run src = .ok sA') :
    ∃ sB', run (quotePrefix src) = .ok sB' ∧ FRel src al sA'.nodes sB'.nodes := by
  have h0 := cl.h0
  have hlt0 := lt_lineEnd src h0.lt
  -- run A
  unfold run at hA
  cases hpa : parseBlocks 0 (initSt src) with
  | error e => rw [hpa] at hA; cases hA
  | ok x =>
    obtain ⟨u, sAf⟩ := x
    rw [hpa] at hA
    simp only [Except.map, Except.ok.injEq] at hA
    subst hA
    rw [parseBlocks_eq, show linesFuel src = lineCount src + 1 + 1 from rfl, blocksLoop_eq] at hpa
    have hsrcA : (initSt src).r.source = src := (ri_init src).source
    rw [hsrcA, show loopFuel src = 4 * src.length + 63 + 1 from rfl] at hpa
    -- run B up to its open Blockquote
    obtain ⟨r', blankB, hblankB, hr', eB⟩ := bStart h0 (lineCount (quotePrefix src) + 1)
    have hfuelB : nlCount src + 2 ≤ lineCount (quotePrefix src) + 1 + 1 := by
      have := qp_nlCount src
      unfold lineCount nlCount at *
      omega
    have hriA : RI src (initSt src).r ⟨((0 : Nat) : Int), 0, 0⟩ := ri_init src
    suffices hgoal : ∃ sB', parseBlocks 0 (initSt (quotePrefix src)) = .ok ((), sB') ∧
        FRel src al sAf.nodes sB'.nodes by
      obtain ⟨sB', e, hrel⟩ := hgoal
      exact ⟨sB', by unfold run; rw [e]; rfl, hrel⟩
    rw [parseBlocks_eq, show linesFuel (quotePrefix src) = lineCount (quotePrefix src) + 1 + 1 from rfl, eB]
    have hai : AInv al (initSt src).pc (initSt src).nodes := ⟨fun _ hb => (by cases hb), (by intro e; cases e), fun _ hf => (by cases hf), ustoreL_init, nk_init al, PKL.nil _, rstore_init⟩
    by_cases hb : isBlank (sub src 0 (lineEnd src 0)) = true
    · -- A skips its first line
      obtain ⟨r1, e1, hr1⟩ := skipFrom_blank h0 hriA hb (4 * src.length + 63) 0
      rw [rebind e1] at hpa
      obtain ⟨n, hn⟩ := cl.shape 0 0 h0 hb
      have hge := qp_length_ge h0
      have hBA : BlankAt (quotePrefix src) ⟨((0 : Nat) : Int), 2, 0⟩ n := by
        refine ⟨by simp only; omega, rfl, ?_⟩
        simp only
        have e := (qp_lineEnd h0 (Nat.le_refl _) hlt0).1
        simp only [Nat.zero_add, Nat.mul_one] at e
        rw [e]
        have e2 := qp_sub h0 (Nat.le_refl 0) (Nat.le_of_lt hlt0) (Nat.le_refl _)
        simp only [Nat.zero_add, Nat.mul_one] at e2
        rw [e2, hn]; rfl
      obtain ⟨r3, e3, hr3⟩ := openBlocksLoop_blank_res (s := { r := r', nodes := _, pc := _ }) hr' hBA 1 blankB
        OpenResult.newBlocksOpened none (2 * (quotePrefix src).length + 6)
      rw [bind_run e3]
      have hnn : (OpenResult.newBlocksOpened != OpenResult.newBlocksOpened) = false := rfl
      rw [hnn]
      simp only [Bool.false_eq_true, if_false]
      rw [bind_run (advanceLine_run _)]
      have hadv := ri_advanceLine hr3
      simp only [RCur.advanceLine] at hadv
      have e := (qp_lineEnd h0 (Nat.le_refl _) hlt0).1
      simp only [Nat.zero_add, Nat.mul_one] at e
      rw [e] at hadv
      have hls : LS src al (0 + 1) (lineEnd src 0) { initSt src with r := r1 }
          { r := r3.advanceLine,
            nodes := [{ kind := .document, children := [1] }, { kind := .blockquote, parent := some 0, blankPrev := blankB }],
            pc := { ({} : Ctx) with blockOffset := (n : Int), blockIndent := (n : Int), opened := [{ node := 1, bp := .blockquote }] } } :=
        ⟨cl.tf, hr1, by simpa using hadv, storeRel_init src blankB, ⟨rfl, rfl, rfl, rfl, rfl⟩, hai, (fun hne => absurd rfl hne),
          fe_init al _ _⟩
      obtain ⟨h1, _⟩ := mainP_all cl (lineCount (quotePrefix src) + 1) (0 + 1) (lineEnd src 0) _ _ hls
        ((Sh.stable_init src).congr_r r1) (pos_next h0)
        (by omega) sAf
      have hnfl : ¬ FL src := fun hfl => by rw [hfl 0 0 h0] at hb; cases hb
      obtain ⟨x, sB', eL, hrel⟩ := h1 rfl _ _ _ _ (fun hfl => absurd hfl hnfl) (by omega) hpa [] (fun hfl => absurd hfl hnfl)
        (by rw [if_pos (by decide)]; exact lstG_nil _)
      refine ⟨sB', ?_, hrel⟩
      rw [bind_run eL]
      rfl
    · -- both runs call openBlocks on the first line
      have hb' : isBlank (sub src 0 (lineEnd src 0)) = false := by simpa using hb
      obtain ⟨r1, e1, hr1⟩ := skipFrom_line h0 hriA hb' (4 * src.length + 63) 0
      rw [bind_run e1] at hpa
      unfold blocksBody at hpa
      simp only [Bool.not_true, Bool.false_eq_true, if_false] at hpa
      have ep : position { initSt src with r := r1 } = .ok ((r1.line, r1.pos), { initSt src with r := r1 }) := rfl
      have eg : getPc { initSt src with r := r1 } = .ok (({} : Ctx), { initSt src with r := r1 }) := rfl
      rw [bind_run ep] at hpa
      simp only at hpa
      rw [bind_run eg] at hpa
      obtain ⟨d, sA2, hd, hA2⟩ := bind_inv_u hpa
      have hd0 := hd
      rw [openBlocks_nil _ _ _ rfl] at hd
      have hsrc1 : r1.source = src := hr1.source
      simp only at hd
      rw [hsrc1] at hd
      have hdrl : DRL src al 0 0 0 { initSt src with r := r1 }
          { r := r',
            nodes := [{ kind := .document, children := [1] }, { kind := .blockquote, parent := some 0, blankPrev := blankB }],
            pc := { ({} : Ctx) with blockOffset := 0, blockIndent := 0, opened := [{ node := 1, bp := .blockquote }] } } :=
        ⟨⟨cl.tf, InL.start h0, hr1, hr'⟩, storeRel_init src blankB, ⟨rfl, rfl, rfl, rfl, rfl⟩, hai, fe_init al _ _⟩
      have hfuel : retryFuel src ≤ 2 * (quotePrefix src).length + 7 := by
        have := qp_length_ne hne
        unfold retryFuel; omega
      obtain ⟨db, sB2, eOB, hrr, _, ⟨p', hDR⟩, hopens⟩ := openBlocksLoop_sim cl.ps cl.fr cl.ot cl.ns cl.tr _ blankB false _ _ hfuel
        (fun _ => by rw [hblankB]; rfl) 0
        OpenResult.noBlocksOpened OpenResult.newBlocksOpened none none hdrl (.inl rfl) (.inr ⟨rfl, rfl⟩) (fun hc => by cases hc) (Nat.zero_lt_one)
        (fun _ => .inl (by rw [hblankB]; rfl)) d sA2 hd
      rw [bind_run eOB]
      have hdn0 : d = OpenResult.newBlocksOpened := by
        refine hopens rfl (.inr ⟨rfl, ?_⟩)
        unfold NBV viewA
        rw [if_pos hlt0]
        exact hb'
      by_cases hnew : (d != OpenResult.newBlocksOpened) = true
      · rw [hdn0] at hnew; cases hnew
      · rw [if_neg hnew] at hA2
        have hdn : d = OpenResult.newBlocksOpened := by
          simpa using hnew
        have hdb : db = OpenResult.newBlocksOpened := by
          rcases hrr with e | ⟨_, e⟩
          · rw [e, hdn]
          · exact e
        rw [hdb]
        have hnn : (OpenResult.newBlocksOpened != OpenResult.newBlocksOpened) = false := rfl
        rw [hnn]
        simp only [Bool.false_eq_true, if_false]
        obtain ⟨x, sB', eL, hrel⟩ := afterLine cl.ns (mainP_all cl (lineCount (quotePrefix src) + 1)) hDR (by omega)
          _ _ _ hA2 [] (fun _ => ⟨lst_nil _, fun e => absurd e (openBlocks_new_ne _ _ _ _ _ hd0 hdn)⟩)
          (stable_openBlocks0 (s := { initSt src with r := r1 }) ((Sh.stable_init src).congr_r r1) rfl hr1 (padOK_zero _ _) hd0)
          (lstG_nil _)
        refine ⟨sB', ?_, hrel⟩
        obtain ⟨u2, sB3, ea, eL2⟩ := bind_inv_u eL
        rw [bind_run ea, bind_run eL2]
        rfl

/-- **The whole-run simulation** for the class `C08ClassL` (all parsers but the two list parsers, which are tried and
    decline). -/
theorem run_sim {src : Bytes} (hc : C08ClassL src) {sA' : St} (hA : run src = .ok sA') :
    ∃ sB', run (quotePrefix src) = .ok sB' ∧ FRel src alC08 sA'.nodes sB'.nodes :=
  run_simG (cls_of hc) hc.ne hA

instance (src : Bytes) (k ls : Nat) : Decidable (LineAt src k ls) :=
  decidable_of_iff (ls < src.length ∧ (ls = 0 ∨ src[ls - 1]? = some 10) ∧ lineNo src ls = k)
    ⟨fun h => ⟨h.1, h.2.1, h.2.2⟩, fun h => ⟨h.lt, h.start, h.count⟩⟩

theorem readToEnd_iff (src : Bytes) (s : St) :
    ReadToEnd src s ↔ ∀ ls, ls < src.length → ¬ LineAt src s.r.line.toNat ls :=
  ⟨fun h ls _ => h ls, fun h ls hl => h ls hl.lt hl⟩

instance (src : Bytes) (s : St) : Decidable (ReadToEnd src s) :=
  decidable_of_iff _ (readToEnd_iff src s).symm

/-- no stored segment of the final store is empty: the one clause of `WellShaped` that `UStore` does not give (`segsNE_of_rel`) -/
def SegsNE (s : St) : Prop :=
  ∀ n ∈ s.nodes, (∀ l ∈ n.lines, l.start < l.stop) ∧ (∀ i, n.info = some i → i.start < i.stop) ∧
    (0 ≤ n.closure.start → n.closure.start < n.closure.stop)

instance (s : St) : Decidable (SegsNE s) := by unfold SegsNE; infer_instance

theorem wellShaped_of {s : St} (hu : UStore s.nodes) (hne : SegsNE s) : WellShaped s :=
  ⟨hu.doc, fun n hn => ⟨(hu.node n hn).kind, (hne n hn).1, (hne n hn).2.1, (hne n hn).2.2, (hu.node n hn).kids⟩⟩

theorem WellShaped.segsNE {s : St} (h : WellShaped s) : SegsNE s :=
  fun n hn => ⟨(h.2 n hn).2.1, (h.2 n hn).2.2.1, (h.2 n hn).2.2.2.1⟩

theorem rawK_eq (k : Kind) : rawK k = GM.Proof.BlocksWF0.isRaw k := by cases k <;> rfl

/-- **no stored segment of the original run is empty**, from the relation between the two final stores (raw blocks'
    lines, info and closure segments: `NodeRel.rawNE / infoNE / closNE`, kept by the simulation for sources in which
    every position inside a line has a rest of line) and `GM.Blocks.run_segs_nonempty` (the lines of every
    block that is not raw, for every byte string) -/
theorem segsNE_of_rel {src : Bytes} {sA : St} {nB : List Node} (hA : run src = .ok sA)
    (hn : StoreRel src sA.nodes nB) : SegsNE sA := by
  intro n hmem
  obtain ⟨i, hi, rfl⟩ := List.getElem_of_mem hmem
  have hnr := hn.node i
  have e : sA.nodes.getD i default = sA.nodes[i] := by simp [List.getD_eq_getElem?_getD, hi]
  rw [e] at hnr
  refine ⟨fun l hl => ?_, hnr.infoNE, hnr.closNE⟩
  cases hr : rawK sA.nodes[i].kind with
  | true => exact hnr.rawNE hr l hl
  | false => exact (run_segs_nonempty src sA hA _ hmem (by rw [← rawK_eq]; exact hr) l hl).1

theorem wellShapedL_of {s : St} (hu : UStoreL s.nodes) (hne : SegsNE s) : WellShapedL s :=
  ⟨hu.doc, fun n hn => ⟨(hne n hn).1, (hne n hn).2.1, (hne n hn).2.2, (hu.node n hn).kids⟩⟩

/-- the conclusion on the dumps, for every class of sources: the flags agree where the dump prints them because there
    is no List node, or by `NodeRel.blank` in a source without blank line, or by `FE` -/
theorem quoteSim_of_cls {src : Bytes} {al : BP → Bool} (cl : Cls src al) (h : al .list = false ∨ FL src ∨ al .setext = false)
    (hne : src ≠ []) {sA : St} (hA : run src = .ok sA) : ∀ e g, quoteSimPair src = some (e, g) → e = g := by
  obtain ⟨sB, hB, hn, hu, hk, hfe⟩ := run_simG cl hne hA
  have hw := wellShapedL_of hu (segsNE_of_rel hA hn)
  refine quoteSimPair_eqK src sA sB hA hB hn hw ?_
  rcases h with hl | hfl | hns
  · exact fel_of_noList (wellShaped_of (ustore_of_L hu (hk hl)) (segsNE_of_rel hA hn)).getD
  · exact (flagsEq_of_rel hfl hn).toL hw.getD
  · exact (hfe hns).toL

/-- the conclusion on the dumps, UNCONDITIONALLY for a source of the class: the two canonical dumps compared by
    `quoteSimPair` are equal -/
theorem quoteSim_of_class {src : Bytes} (hc : C08ClassL src) {sA : St} (hA : run src = .ok sA) :
    ∀ e g, quoteSimPair src = some (e, g) → e = g :=
  quoteSim_of_cls (cls_of hc) (.inl rfl) hc.ne hA

/-- the unary facts about the original run of a source of the class that are PROVED: its final store satisfies
    `UStore` (Document without lines and nobody's child, no List / ListItem node) -/
theorem ustore_of_class {src : Bytes} (hc : C08ClassL src) {sA : St} (hA : run src = .ok sA) : UStore sA.nodes := by
  obtain ⟨_, _, _, hu, hk, _⟩ := run_sim hc hA
  exact ustore_of_L hu (hk rfl)

instance (src : Bytes) : Decidable (NoListTrigger src) := by unfold NoListTrigger; infer_instance

instance (src : Bytes) : Decidable (C08ClassL src) :=
  decidable_of_iff ((∀ c ∈ src, c ≠ 9) ∧ (∀ c ∈ src, c ≠ 13) ∧ src ≠ [] ∧ (∀ c, src.getLast? = some c → c ≠ 32) ∧
      NoItem src)
    ⟨fun h => ⟨h.1, h.2.1, h.2.2.1, h.2.2.2.1, h.2.2.2.2⟩, fun h => ⟨h.tf, h.cr, h.ne, h.last, h.noitem⟩⟩

instance (src : Bytes) : Decidable (C08ClassW src) :=
  decidable_of_iff ((∀ c ∈ src, c ≠ 9) ∧ (∀ c ∈ src, c ≠ 13) ∧ src ≠ [] ∧ (∀ c, src.getLast? = some c → c ≠ 32) ∧
      NoListTrigger src)
    ⟨fun h => ⟨h.1, h.2.1, h.2.2.1, h.2.2.2.1, h.2.2.2.2⟩, fun h => ⟨h.tf, h.cr, h.ne, h.last, h.nolist⟩⟩

instance (src : Bytes) : Decidable (C08Class src) :=
  decidable_of_iff ((∀ c ∈ src, c ≠ 9) ∧ (∀ c ∈ src, c ≠ 13) ∧ src.getLast? = some 10 ∧ NoListTrigger src)
    ⟨fun h => ⟨h.1, h.2.1, h.2.2.1, h.2.2.2⟩, fun h => ⟨h.tf, h.cr, h.nl, h.nolist⟩⟩

/-- everything the whole-run theorem assumes, as one executable test on the source: the class, and — evaluated on
    the ORIGINAL run of the model — normal termination, all lines read, well-shaped store -/
def quoteHyp (src : Bytes) : Bool :=
  decide (C08Class src) &&
    match run src with
    | .ok s => decide (ReadToEnd src s) && decide (WellShaped s)
    | .error _ => false

theorem quoteSim_of_hyp {src : Bytes} (h : quoteHyp src = true) : ∀ e g, quoteSimPair src = some (e, g) → e = g := by
  unfold quoteHyp at h
  simp only [Bool.and_eq_true, decide_eq_true_eq] at h
  obtain ⟨hc, hm⟩ := h
  cases hr : run src with
  | error e => rw [hr] at hm; cases hm
  | ok s =>
    rw [hr] at hm
    simp only [Bool.and_eq_true, decide_eq_true_eq] at hm
    exact quoteSim_of_class hc.wide.wider hr

end GM.Blocks
end Top

/-
  part HypB — the executable test `quoteHypB` (GM.Spec.QuoteHyp, plain Bool functions, what the driver
  runs) implies the hypotheses of the whole-run C08 theorem: `classB` the class `C08Class`, `readToEndB` the
  proposition `ReadToEnd`, `wellShapedB` the proposition `WellShaped`; hence `quoteHypB src = true` gives
  `quoteHyp src = true` and the equality of the two dumps compared by `quoteSimPair`.
-/
section HypB
namespace GM.Blocks
open GM GM.Text

theorem classB_sound (src : Bytes) : classB src = true → C08Class src := by
  intro h
  unfold classB at h
  simp only [Bool.and_eq_true, List.all_eq_true, bne_iff_ne, ne_eq, beq_iff_eq, Bool.not_eq_true'] at h
  obtain ⟨ha, hl⟩ := h
  exact ⟨fun c hc => (ha c hc).1.1.1.1.1, fun c hc => (ha c hc).1.1.1.1.2, hl,
    fun c hc => ⟨(ha c hc).1.1.1.2, (ha c hc).1.1.2, (ha c hc).1.2, (ha c hc).2⟩⟩

theorem lineAtB_complete {src : Bytes} {k ls : Nat} (h : LineAt src k ls) : lineAtB src k ls = true := by
  unfold lineAtB
  simp only [Bool.and_eq_true, Bool.or_eq_true, decide_eq_true_eq, beq_iff_eq]
  exact ⟨⟨h.lt, h.start⟩, h.count⟩

theorem readToEndB_sound (src : Bytes) (s : St) : readToEndB src s = true → ReadToEnd src s := by
  intro h ls hl
  unfold readToEndB at h
  have := (List.all_eq_true.mp h) ls (List.mem_range.mpr hl.lt)
  rw [lineAtB_complete hl] at this
  cases this

theorem wellShapedB_sound (s : St) : wellShapedB s = true → WellShaped s := by
  intro h
  unfold wellShapedB at h
  rw [Bool.and_eq_true] at h
  obtain ⟨h0, hall⟩ := h
  refine ⟨List.isEmpty_iff.mp h0, ?_⟩
  intro n hn
  have hn' := (List.all_eq_true.mp hall) n hn
  simp only [Bool.and_eq_true, Bool.or_eq_true, bne_iff_ne, ne_eq, decide_eq_true_eq, List.all_eq_true,
    Bool.not_eq_true', List.contains_eq_mem, decide_eq_false_iff_not] at hn'
  obtain ⟨⟨⟨⟨⟨hk1, hk2⟩, hlines⟩, hinfo⟩, hclo⟩, hch⟩ := hn'
  refine ⟨⟨hk1, hk2⟩, hlines, ?_, ?_, hch⟩
  · intro i hi
    rw [hi] at hinfo
    simpa using hinfo
  · intro hge
    rcases hclo with hc | hc
    · omega
    · exact hc

theorem quoteHyp_of_B (src : Bytes) (h : quoteHypB src = true) : quoteHyp src = true := by
  unfold quoteHypB at h
  unfold quoteHyp
  rw [Bool.and_eq_true] at h ⊢
  obtain ⟨hc, hm⟩ := h
  refine ⟨decide_eq_true (classB_sound src hc), ?_⟩
  cases hr : run src with
  | error e => rw [hr] at hm; cases hm
  | ok s =>
    rw [hr] at hm
    simp only [Bool.and_eq_true] at hm ⊢
    exact ⟨decide_eq_true (readToEndB_sound src s hm.1), decide_eq_true (wellShapedB_sound s hm.2)⟩

theorem quoteSim_of_hypB (src : Bytes) (h : quoteHypB src = true) : ∀ e g, quoteSimPair src = some (e, g) → e = g :=
  quoteSim_of_hyp (quoteHyp_of_B src h)

end GM.Blocks
end HypB

/-
  part Lists — C08 with LISTS in whole runs: the simulation with ALL TEN block parsers (`alAll`), for every
  source without tab and CR, not ending with a space, and WITHOUT A BLANK LINE (`FL`; class `C08ClassF`).

  What the three list-specific obligations come from:
    * the `HasBlankPreviousLines` flags `listParser.Close` reads (`FlagsOK`, hypothesis of `listClose_sim'`) and the
      ones the dump prints (`FEL`, hypothesis of `quoteSimPair_eqK`): `NodeRel.blank` — in a source without a blank
      line every `openBlocks` call gets the same flag in both runs (GM.Proof.QuoteSimStats / QuoteSimFE4);
    * `ListItemContPre` (hypothesis of `listItemContinue_sim'`): run A's invariant in the middle of a pass, `Sh.MidA`,
      threaded through `lineLoop_sim`, from the invariant `StableL` of the no-panic proof at line boundaries
      (GM.Proof.QuoteSimMid, QuoteSimInvLI);
    * the unary invariants of the driver for the list parsers: `frames_lists` (from the invariants of GM.Proof.QuoteSimInv).
  No list parser is "tried and declining" here: `TrigOK` holds by its first alternative.
  Sources WITH blank lines (class `C08ClassG`): all parsers but the setext heading parser (`alNS`), which is tried and
  declines (`NoBar`); the flags come from `FE`.
-/
section Lists
namespace GM.Blocks
open GM GM.Text GM.Spec GM.Proof.Reader

/-- all ten block parsers -/
def alAll : BP → Bool := fun _ => true

/-- the class of the lists theorem: no tab, no CR, not empty, the last byte is not a space (e.g. a final line feed),
    and NO BLANK LINE -/
structure C08ClassF (src : Bytes) : Prop where
  tf : ∀ c ∈ src, c ≠ 9
  cr : ∀ c ∈ src, c ≠ 13
  ne : src ≠ []
  last : ∀ c, src.getLast? = some c → c ≠ 32
  noblank : FL src

theorem cls_lists {src} (h : C08ClassF src) : Cls src alAll where
  ps := ps_any src alAll (.inr (.inl h.noblank))
  fr := frames_lists
  ot := ot_lists src
  ns := ns_of_last_ne h.last
  tr := TrigOK.of_all fun _ => .inl rfl
  tf := h.tf
  h0 := lineAt_zero_qs src h.ne
  shape := fun _ _ hl hb => blank_shape_w h.tf h.cr h.last hl hb

/-- **whole runs with lists**: the block phase on the prefixed source ends normally in a related store -/
theorem run_sim_lists {src : Bytes} (hc : C08ClassF src) {sA : St} (hA : run src = .ok sA) :
    ∃ sB, run (quotePrefix src) = .ok sB ∧ FRel src alAll sA.nodes sB.nodes :=
  run_simG (cls_lists hc) hc.ne hA

/-- the conclusion on the dumps for the class with lists -/
theorem quoteSim_of_classF {src : Bytes} (hc : C08ClassF src) {sA : St} (hA : run src = .ok sA) :
    ∀ e g, quoteSimPair src = some (e, g) → e = g :=
  quoteSim_of_cls (cls_lists hc) (.inr (.inl hc.noblank)) hc.ne hA

/-! ### sources WITH blank lines: all parsers but the setext heading parser, which is tried and declines -/

/-- every block parser but the setext heading parser -/
def alNS : BP → Bool
  | .setext => false
  | _ => true

/-- the class of the lists theorem for sources WITH blank lines: no tab, no CR, not empty, the last byte is not a space,
    and no position starts a setext heading underline (`NoBar`: no rest of a line consists of `=` or of `-` only, up
    to trailing spaces) -/
structure C08ClassG (src : Bytes) : Prop where
  tf : ∀ c ∈ src, c ≠ 9
  cr : ∀ c ∈ src, c ≠ 13
  ne : src ≠ []
  last : ∀ c, src.getLast? = some c → c ≠ 32
  nobar : NoBar src

theorem cls_listsG {src} (h : C08ClassG src) : Cls src alNS where
  ps := ps_any src alNS (.inr (.inr rfl))
  fr := frames_any alNS rfl
  ot := ot_lists src
  ns := ns_of_last_ne h.last
  tr := TrigOK.of_all fun bp => by cases bp <;> first | exact .inl rfl | exact .inr (.inr ⟨rfl, rfl, h.nobar⟩)
  tf := h.tf
  h0 := lineAt_zero_qs src h.ne
  shape := fun _ _ hl hb => blank_shape_w h.tf h.cr h.last hl hb

theorem run_sim_listsG {src : Bytes} (hc : C08ClassG src) {sA : St} (hA : run src = .ok sA) :
    ∃ sB, run (quotePrefix src) = .ok sB ∧ FRel src alNS sA.nodes sB.nodes :=
  run_simG (cls_listsG hc) hc.ne hA

/-- the conclusion on the dumps: lists AND blank lines -/
theorem quoteSim_of_classG {src : Bytes} (hc : C08ClassG src) {sA : St} (hA : run src = .ok sA) :
    ∀ e g, quoteSimPair src = some (e, g) → e = g :=
  quoteSim_of_cls (cls_listsG hc) (.inr (.inr rfl)) hc.ne hA

instance (src : Bytes) : Decidable (C08ClassG src) :=
  decidable_of_iff ((∀ c ∈ src, c ≠ 9) ∧ (∀ c ∈ src, c ≠ 13) ∧ src ≠ [] ∧ (∀ c, src.getLast? = some c → c ≠ 32) ∧ NoBar src)
    ⟨fun h => ⟨h.1, h.2.1, h.2.2.1, h.2.2.2.1, h.2.2.2.2⟩, fun h => ⟨h.tf, h.cr, h.ne, h.last, h.nobar⟩⟩

/-- `FL` is decidable: only line starts inside the source matter -/
theorem fl_iff (src : Bytes) : FL src ↔
    ∀ ls, ls < src.length → (ls = 0 ∨ src[ls - 1]? = some 10) → isBlank (sub src ls (lineEnd src ls)) = false :=
  ⟨fun h ls hlt hs => h (lineNo src ls) ls ⟨hlt, hs, rfl⟩, fun h _ ls hl => h ls hl.lt hl.start⟩

instance (src : Bytes) : Decidable (FL src) :=
  decidable_of_iff _ (fl_iff src).symm

instance (src : Bytes) : Decidable (C08ClassF src) :=
  decidable_of_iff ((∀ c ∈ src, c ≠ 9) ∧ (∀ c ∈ src, c ≠ 13) ∧ src ≠ [] ∧ (∀ c, src.getLast? = some c → c ≠ 32) ∧ FL src)
    ⟨fun h => ⟨h.1, h.2.1, h.2.2.1, h.2.2.2.1, h.2.2.2.2⟩, fun h => ⟨h.tf, h.cr, h.ne, h.last, h.noblank⟩⟩

/-! ### the documents of the tests in GM.Props.C08: the hypotheses evaluated once -/

/-- an ATX and a setext heading, paragraphs, nested quotes, fenced and indented code, an HTML block, a thematic break -/
theorem quoteHypB_doc : quoteHypB (strBytes "a\n===\n\n~~~x\n  \ncode\n~~~\n> q\n> > r\n\n<div>\nh\n</div>\n\n    ind\n___\n# t\n") = true := by
  decide +kernel

theorem c08Class_doc : C08Class (strBytes "a\n===\n\n~~~x\n  \ncode\n~~~\n> q\n> > r\n\n<div>\nh\n</div>\n\n    ind\n___\n# t\n") :=
  classB_sound _ (Bool.and_eq_true_iff.mp quoteHypB_doc).1

/-- lists without a blank line -/
theorem c08ClassF_doc : C08ClassF (strBytes "- a\n  b\n- c\n  1. d\n  2. e\n> * q\n>   r\n***\n+ x\ny - z\n---\n") := by decide +kernel

/-- lists and blank lines -/
theorem c08ClassG_doc : C08ClassG (strBytes "a\n\n- b\n\n  c\n- d\n  1. e\n\n  2. f\n\n> * q\n>\n> * r\n\n***\n# h\n\ng") := by decide +kernel

end GM.Blocks
end Lists
