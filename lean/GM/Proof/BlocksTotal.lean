/-
  GM.Proof.BlocksTotal — The reader as the block phase uses it is total under the invariant `RI` (the reader stands for a cursor of GM.Spec.Cursor, caches right), and from `RI`
  the block-parser entry points are totally correct one at a time (no Go panic), with what they append to the tree; `OKL` is the judgement.
-/
import GM.Proof.BlocksTerm
import GM.Proof.Reader
import GM.Proof.ReaderFuel

section BlocksReader
/-
  `RI src r c`: the reader `r` stands for the cursor `c` of GM.Spec.Cursor (C18's abstraction `RAbs`, taken
  modulo the cached `lineOffset`), its `head` is not negative, and the cached `lineOffset`, when there is one
  and the cursor is not at the end of the source, is the right one. (C18 leaves `LineOffset()` at the end of
  the source unspecified; `openBlocks` calls it there, so the cache may hold a stale value that nobody reads.)
  Every reader call of the block parsers is defined on an `RI` reader and ends in one — `Advance(n)` for
  `n ≥ 0`. Built on GM.Proof.Reader / GM.Proof.ReaderFuel (C18).
-/

namespace GM.Blocks
open GM GM.Text GM.Spec GM.Proof.Reader

def clearLo (r : Reader) : Reader := { r with lineOffset := -1 }

/-- the value `LineOffset()` has at the cursor -/
def loVal (src : Bytes) (c : RCur) : Int := (colFrom (sub src (lineStart src c.p) c.p) 0 : Int) - c.pad

structure RI (src : Bytes) (r : Reader) (c : RCur) : Prop where
  abs : RAbs src (clearLo r) c
  head : 0 ≤ r.head
  lo : r.lineOffset < 0 ∨ src.length ≤ c.p ∨ r.lineOffset = loVal src c

theorem RAbs.toClearLo {src r c} (h : RAbs src r c) : RAbs src (clearLo r) c :=
  { source := h.source, line := h.line, pos := h.pos, inRange := h.inRange, head := h.head,
    peeked := h.peeked, lo := Or.inl (by simp [clearLo]) }

theorem RI.of_abs {src r c} (h : RAbs src r c) (hh : 0 ≤ r.head) : RI src r c :=
  ⟨RAbs.toClearLo h, hh, by
    rcases h.lo with h1 | ⟨h1, h2⟩
    · exact .inl h1
    · exact .inr (.inr h2)⟩

theorem RI.pos {src r c} (h : RI src r c) :
    r.pos = { start := c.p, stop := lineEnd src c.p, padding := c.pad, forceNewline := false } := h.abs.pos
theorem RI.source {src r c} (h : RI src r c) : r.source = src := h.abs.source
theorem RI.inRange {src r c} (h : RI src r c) : c.p ≤ src.length := h.abs.inRange
theorem RI.stop_nonneg {src r c} (h : RI src r c) : 0 ≤ r.pos.stop := by rw [h.pos]; simp

theorem peekLine_clearLo (r : Reader) :
    (clearLo r).peekLine = r.peekLine.map (fun x => (x.1, clearLo x.2)) := by
  unfold Reader.peekLine clearLo Reader.sourceLength
  simp only
  split
  · rcases hp : r.peekedLine with _ | l
    · simp only
      cases r.pos.value r.source with
      | error e => rfl
      | ok v => rfl
    · simp [Except.map, pure, Except.pure, hp]
  · rfl

theorem peekLine_lineOffset (r : Reader) {x r'} (h : r.peekLine = .ok (x, r')) :
    r'.lineOffset = r.lineOffset ∧ r'.head = r.head := by
  unfold Reader.peekLine at h
  split at h
  · cases hp : r.peekedLine with
    | some l => rw [hp] at h; cases h; exact ⟨rfl, rfl⟩
    | none =>
      rw [hp] at h
      simp only [bind, Except.bind] at h
      cases hv : r.pos.value r.source with
      | error e => rw [hv] at h; cases h
      | ok v => rw [hv] at h; cases h; exact ⟨rfl, rfl⟩
  · cases h; exact ⟨rfl, rfl⟩

theorem ri_peekLine {src r c} (h : RI src r c) :
    ∃ r', r.peekLine = .ok ((RCur.view src c, RCur.seg src c), r') ∧ RI src r' c := by
  obtain ⟨r0, h1, h2⟩ := peekLine_ref h.abs
  rw [peekLine_clearLo] at h1
  cases hp : r.peekLine with
  | error e => rw [hp] at h1; cases h1
  | ok y =>
    rw [hp] at h1
    simp only [Except.map, Except.ok.injEq, Prod.mk.injEq] at h1
    obtain ⟨hx, hr⟩ := h1
    obtain ⟨hlo, hhd⟩ := peekLine_lineOffset r hp
    refine ⟨y.2, ?_, ?_⟩
    · have : y = (y.1, y.2) := rfl
      rw [this, hx]; rfl
    · refine ⟨by rw [hr]; exact h2, by rw [hhd]; exact h.head, by rw [hlo]; exact h.lo⟩

theorem ri_lineOffset {src r c} (h : RI src r c) :
    ∃ v r', r.lineOffsetOp = .ok (v, r') ∧ RI src r' c ∧ (c.p < src.length → v = loVal src c) := by
  unfold Reader.lineOffsetOp
  by_cases hneg : r.lineOffset < 0
  · rw [if_pos hneg]
    have hpos : r.pos = _ := h.pos
    have hstart : r.pos.start = (c.p : Int) := by rw [hpos]
    have hpad : r.pos.padding = (c.pad : Int) := by rw [hpos]
    have hsrc := h.source
    by_cases hp : c.p < src.length
    · have hhead : r.head = (lineStart src c.p : Int) := h.abs.head hp
      have hcol := colLoop_ok src (lineStart_le src c.p) (Nat.le_of_lt hp)
      have hcol' : colLoop r.source r.head r.pos.start = .ok (colFrom (sub src (lineStart src c.p) c.p) 0) := by
        rw [hsrc, hhead, hstart]; exact hcol
      rw [hcol']
      simp only [bind, Except.bind, pure, Except.pure]
      refine ⟨_, _, rfl, ⟨h.abs, h.head, .inr (.inr ?_)⟩, fun _ => ?_⟩
      · simp only [loVal, hpad]
      · simp only [loVal, hpad]
    · have hge : src.length ≤ c.p := Nat.le_of_not_lt hp
      have hcl : ∃ v, colLoop r.source r.head r.pos.start = .ok v := by
        unfold colLoop
        by_cases hc : r.head ≥ r.pos.start
        · exact ⟨0, by rw [if_pos hc]⟩
        · rw [if_neg hc]
          have : ¬ (r.head < 0 ∨ r.pos.start > (r.source.length : Int)) := by
            have := h.head; have := h.inRange; rw [hstart, hsrc]; omega
          rw [if_neg this]; exact ⟨_, rfl⟩
      obtain ⟨v, hv⟩ := hcl
      rw [hv]
      simp only [bind, Except.bind, pure, Except.pure]
      exact ⟨_, _, rfl, ⟨h.abs, h.head, .inr (.inl hge)⟩, fun hlt => absurd hlt hp⟩
  · rw [if_neg hneg]
    refine ⟨_, _, rfl, h, fun hlt => ?_⟩
    rcases h.lo with h1 | h1 | h1
    · exact absurd h1 hneg
    · omega
    · exact h1

/-- `head` and `pos.Stop` stay non-negative -/
structure HeadR (r : Reader) : Prop where
  head : 0 ≤ r.head
  stop : 0 ≤ r.pos.stop

theorem HeadR.advanceLine {r} (h : HeadR r) : HeadR r.advanceLine := by
  unfold Reader.advanceLine
  simp only
  have hn : ¬ (r.pos.stop < 0) := by have := h.stop; omega
  rw [if_neg hn]
  exact ⟨h.stop, by simp only; omega⟩

theorem HeadR.advanceLoop (n : Nat) : ∀ {r : Reader}, HeadR r → GoodE HeadR (r.advanceLoop n) := by
  induction n with
  | zero => intro r h; unfold Reader.advanceLoop; exact GoodE.pure h
  | succ n ih =>
    intro r h
    unfold Reader.advanceLoop
    refine GoodE.ite (fun _ => ?_) (fun _ => GoodE.pure h)
    refine GoodE.ite (fun _ => ih ⟨h.head, h.stop⟩) (fun _ => ?_)
    refine GoodE.bind (GoodE.of_noLoop (getByte_noLoop _ _)) (fun c _ => ?_)
    exact GoodE.ite (fun _ => ih h.advanceLine) (fun _ => ih ⟨h.head, h.stop⟩)

theorem HeadR.advance {r} (n : Int) (h : HeadR r) : GoodE HeadR (r.advance n) := by
  unfold Reader.advance
  simp only
  exact GoodE.ite (fun _ => GoodE.pure ⟨h.head, h.stop⟩) (fun _ => HeadR.advanceLoop _ ⟨h.head, h.stop⟩)

theorem RI.headR {src r c} (h : RI src r c) : HeadR r :=
  ⟨h.head, by rw [h.pos]; simp⟩

theorem advance_clearLo (r : Reader) (n : Int) : (clearLo r).advance n = r.advance n := rfl

theorem ri_advance {src r c} (h : RI src r c) {n : Int} (hn : 0 ≤ n) :
    ∃ r', r.advance n = .ok r' ∧ RI src r' (RCur.advN src n.toNat c) := by
  have hs : RCur.advance src n c = .ok (RCur.advN src n.toNat c) := by simp [RCur.advance, hn]
  obtain ⟨r', h1, h2⟩ := advance_ref h.abs hs
  rw [advance_clearLo] at h1
  exact ⟨r', h1, RI.of_abs h2 ((h.headR.advance n).ok r' h1).head⟩

theorem ri_advanceLine {src r c} (h : RI src r c) : RI src r.advanceLine (RCur.advanceLine src c) := by
  have h2 := advanceLine_ref h.abs
  have e : (clearLo r).advanceLine = r.advanceLine := rfl
  rw [e] at h2
  exact RI.of_abs h2 h.headR.advanceLine.head

theorem ri_setPadding {src r c} (h : RI src r c) {v : Int} (hv : 0 ≤ v) :
    RI src (r.setPadding v) { c with pad := v.toNat } := by
  have hs : RCur.setPadding v c = .ok { c with pad := v.toNat } := by simp [RCur.setPadding, hv]
  have h2 := setPadding_ref h.abs hs
  have e : (clearLo r).setPadding v = r.setPadding v := rfl
  rw [e] at h2
  exact RI.of_abs h2 h.head

/-- the cursor after `AdvanceAndSetPadding(n, p)` -/
def advPadCur (src : Bytes) (n p : Int) (c : RCur) : RCur :=
  let c1 := RCur.advN src n.toNat c
  if p > c1.pad then { c1 with pad := p.toNat } else c1

theorem ri_advanceAndSetPadding {src r c} (h : RI src r c) {n : Int} (hn : 0 ≤ n) (p : Int) :
    ∃ r', r.advanceAndSetPadding n p = .ok r' ∧ RI src r' (advPadCur src n p c) := by
  obtain ⟨r1, h1, h2⟩ := ri_advance h hn
  unfold Reader.advanceAndSetPadding advPadCur
  rw [h1]
  simp only [bind, Except.bind, pure, Except.pure]
  have hpad : r1.pos.padding = ((RCur.advN src n.toNat c).pad : Int) := by rw [h2.pos]
  by_cases hc : p > r1.pos.padding
  · have hc' : p > ((RCur.advN src n.toNat c).pad : Int) := by rw [← hpad]; exact hc
    rw [if_pos hc, if_pos hc']
    exact ⟨_, rfl, ri_setPadding h2 (by omega)⟩
  · have hc' : ¬ p > ((RCur.advN src n.toNat c).pad : Int) := by rw [← hpad]; exact hc
    rw [if_neg hc, if_neg hc']
    exact ⟨_, rfl, h2⟩

theorem ri_init (src : Bytes) : RI src (Reader.new src) RCur.init :=
  RI.of_abs (reader_init src) (by
    have := (stopR_zero src)
    show 0 ≤ (Reader.new src).head
    rw [reader_new_eq]; unfold Reader.advanceLine readerZero; simp)

end GM.Blocks
end BlocksReader

section BlocksTotal
/-
  `OKL P x`: the run `x : Except Panic (α × St)` ended normally in a value and state satisfying `P`, or it is
  the fuel error (which `run_noLoop` of GM.Proof.BlocksNoPanicAll excludes for whole runs). Forward symbolic execution:
  `OKL.bind` hands the intermediate value and state, with their facts, to the rest of the `do` block.
-/

namespace GM.Blocks
open GM GM.Text GM.Spec GM.Proof.Reader

def OKL {α : Type} (P : α → St → Prop) (x : Except Panic (α × St)) : Prop :=
  (∃ a s', x = .ok (a, s') ∧ P a s') ∨ x = .error .loop

theorem OKL.ok {α} {P : α → St → Prop} {a : α} {s' : St} (h : P a s') : OKL P (.ok (a, s')) :=
  .inl ⟨a, s', rfl, h⟩

theorem OKL.bind {α β} {P : α → St → Prop} {Q : β → St → Prop} {m : M α} {f : α → M β} {s : St}
    (hm : OKL P (m s)) (hf : ∀ a s', P a s' → OKL Q (f a s')) : OKL Q ((m >>= f) s) := by
  show OKL Q (StateT.bind m f s)
  unfold StateT.bind
  rcases hm with ⟨a, s', h1, h2⟩ | h1
  · rw [h1]; exact hf a s' h2
  · rw [h1]; exact .inr rfl

theorem OKL.mono {α} {P Q : α → St → Prop} {x : Except Panic (α × St)} (h : OKL P x)
    (hpq : ∀ a s, P a s → Q a s) : OKL Q x := by
  rcases h with ⟨a, s', h1, h2⟩ | h1
  · exact .inl ⟨a, s', h1, hpq a s' h2⟩
  · exact .inr h1

theorem OKL.get {α} {P : α → St → Prop} {x : Except Panic (α × St)} (h : OKL P x) (hl : x ≠ .error .loop) :
    ∃ a s', x = .ok (a, s') ∧ P a s' := by
  rcases h with h | h
  · exact h
  · exact absurd h hl

theorem peekLine_okl {src} {s : St} {c : RCur} (h : RI src s.r c) :
    OKL (fun x s' => x = (RCur.view src c, RCur.seg src c) ∧ ∃ r', s' = { s with r := r' } ∧ RI src r' c)
      (peekLine s) := by
  obtain ⟨r', h1, h2⟩ := ri_peekLine h
  unfold GM.Blocks.peekLine
  rw [h1]
  exact OKL.ok ⟨rfl, r', rfl, h2⟩

theorem lineOffset_okl {src} {s : St} {c : RCur} (h : RI src s.r c) :
    OKL (fun v s' => (c.p < src.length → v = loVal src c) ∧ ∃ r', s' = { s with r := r' } ∧ RI src r' c)
      (lineOffset s) := by
  obtain ⟨v, r', h1, h2, h3⟩ := ri_lineOffset h
  unfold GM.Blocks.lineOffset
  rw [h1]
  exact OKL.ok ⟨h3, r', rfl, h2⟩

theorem advance_okl {src} {s : St} {c : RCur} (h : RI src s.r c) {n : Int} (hn : 0 ≤ n) :
    OKL (fun _ s' => ∃ r', s' = { s with r := r' } ∧ RI src r' (RCur.advN src n.toNat c)) (advance n s) := by
  obtain ⟨r', h1, h2⟩ := ri_advance h hn
  unfold GM.Blocks.advance
  rw [h1]
  exact OKL.ok ⟨r', rfl, h2⟩

theorem advanceAndSetPadding_okl {src} {s : St} {c : RCur} (h : RI src s.r c) {n : Int} (hn : 0 ≤ n) (p : Int) :
    OKL (fun _ s' => ∃ r', s' = { s with r := r' } ∧ RI src r' (advPadCur src n p c))
      (advanceAndSetPadding n p s) := by
  obtain ⟨r', h1, h2⟩ := ri_advanceAndSetPadding h hn p
  unfold GM.Blocks.advanceAndSetPadding
  rw [h1]
  exact OKL.ok ⟨r', rfl, h2⟩

theorem liftE_okl {α} {P : α → St → Prop} {e : Except Panic α} {a : α} {s : St} (he : e = .ok a) (h : P a s) :
    OKL P (liftE e s) := by
  subst he; exact OKL.ok h

/-- a segment inside the source, as C05(c) wants it -/
def SegOK (src : Bytes) (t : Segment) : Prop :=
  0 ≤ t.start ∧ t.start ≤ t.stop ∧ t.stop ≤ src.length ∧ 0 ≤ t.padding

theorem seg_ok (src : Bytes) (c : RCur) (h : c.p ≤ src.length) : SegOK src (RCur.seg src c) := by
  have h1 := lineEnd_le src c.p
  have h2 := lineEnd_ge src h
  unfold RCur.seg SegOK
  simp only
  omega

theorem view_eq (src : Bytes) (c : RCur) (hp : c.p < src.length) :
    RCur.view src c = some (spaces c.pad ++ sub src c.p (lineEnd src c.p)) := by
  simp [RCur.view, hp]

theorem view_none (src : Bytes) (c : RCur) (hp : ¬ c.p < src.length) : RCur.view src c = none := by
  simp [RCur.view, hp]

/-- the length of the view is `Segment.Len()` of its segment -/
theorem view_len (src : Bytes) (c : RCur) (hp : c.p < src.length) {l : Bytes} (h : RCur.view src c = some l) :
    (l.length : Int) = (RCur.seg src c).len := by
  rw [view_eq src c hp] at h
  cases h
  have h1 := lineEnd_le src c.p
  have h2 := lt_lineEnd src hp
  simp [spaces, length_sub src h1, RCur.seg, Segment.len]
  omega

end GM.Blocks
end BlocksTotal
