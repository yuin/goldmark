/-
  GM.Proof.QuoteSimFE2 — unary store facts for GM.Proof.QuoteSimFinal.
  * `Benign I`: `I` is kept by the reader / context writes, by every `modNode` that keeps `children` and `parent`, and by
    `newNode` of a node without children and parent (tactic `bn`). Instances: `QE q`, `RU U X`.
  * `RU U X`: `RStore`, every `id` with `U id` is `Unref`, every `x` with `X x` is in range and is no `U` id.
    Kept along `Step` and, when a node comes under a parent only if both are `X` ids, along `Link` (GM.Proof.BlocksStep):
    hence by `Open` / `Continue` and the tree operations; by a walk for `Close` of the setext and the list parser (the ids
    they link are read from the store), hence by `Close` of all ten parsers, `closeLoop`, `closeBlocks`.
  * `OPU`: the node an `Open` returns is `Unref`.
-/
import GM.Proof.QuoteSimFinal
import GM.Proof.QuoteSimEdit

namespace GM.Blocks
open GM GM.Text

structure Benign (I : St → Prop) : Prop where
  noR : NoR I
  pc : ∀ s (f : Ctx → Ctx), I s → I { s with pc := f s.pc }
  mn : ∀ (i : Nat) (f : Node → Node), (∀ n, (f n).children = n.children ∧ (f n).parent = n.parent) → Keeps I (modNode i f)
  nn : ∀ n : Node, n.children = [] → n.parent = none → Keeps I (newNode n)

theorem bn_modPc {I : St → Prop} (hI : Benign I) (f : Ctx → Ctx) : Keeps I (modPc f) := by
  intro s a s' hs h; cases h; exact hI.pc s f hs

theorem bn_modNode {I : St → Prop} (hI : Benign I) (i : Nat) (f : Node → Node)
    (hf : ∀ n, (f n).children = n.children ∧ (f n).parent = n.parent) : Keeps I (modNode i f) := hI.mn i f hf

theorem bn_newNode {I : St → Prop} (hI : Benign I) (n : Node) (hc : n.children = []) (hp : n.parent = none) :
    Keeps I (newNode n) := hI.nn n hc hp

theorem bn_appendLine {I : St → Prop} (hI : Benign I) (id : Nat) (seg : Segment) : Keeps I (appendLine id seg) :=
  hI.mn id _ (fun _ => ⟨rfl, rfl⟩)

/-- the ids stored in `n` are `< L` and are no `U` ids -/
def NOK (U : Nat → Prop) (L : Nat) (n : Node) : Prop :=
  (∀ c ∈ n.children, c < L ∧ ∀ id, U id → c ≠ id) ∧ (∀ p, n.parent = some p → p < L ∧ ∀ id, U id → p ≠ id)

def RUn (U X : Nat → Prop) (nodes : List Node) : Prop :=
  (∀ n ∈ nodes, NOK U nodes.length n) ∧
  (∀ id, U id → id < nodes.length ∧ (nodes.getD id default).children = []) ∧
  (∀ x, X x → x < nodes.length ∧ ∀ id, U id → x ≠ id)

def RU (U X : Nat → Prop) : St → Prop := fun s => RUn U X s.nodes

theorem nok_default (U : Nat → Prop) (L : Nat) : NOK U L (default : Node) :=
  ⟨fun c hc => (by cases hc), fun p hp => (by cases hp)⟩

theorem nok_mono {U : Nat → Prop} {L L' : Nat} {n : Node} (hl : L ≤ L') (h : NOK U L n) : NOK U L' n :=
  ⟨fun c hc => ⟨Nat.lt_of_lt_of_le (h.1 c hc).1 hl, (h.1 c hc).2⟩,
   fun p hp => ⟨Nat.lt_of_lt_of_le (h.2 p hp).1 hl, (h.2 p hp).2⟩⟩

theorem RUn.getD {U X : Nat → Prop} {nodes : List Node} (h : RUn U X nodes) (i : Nat) :
    NOK U nodes.length (nodes.getD i default) := by
  rw [List.getD_eq_getElem?_getD]
  cases hg : nodes[i]? with
  | none => exact nok_default U _
  | some n => exact h.1 n (List.mem_of_getElem? hg)

theorem RUn.set {U X : Nat → Prop} {nodes : List Node} (h : RUn U X nodes) (i : Nat) (v : Node) (hv : NOK U nodes.length v)
    (hu : U i → v.children = []) : RUn U X (nodes.set i v) := by
  obtain ⟨h1, h2, h3⟩ := h
  refine ⟨fun n hn => ?_, fun id hU => ?_, by rw [List.length_set]; exact h3⟩
  · rw [List.length_set]
    rcases List.mem_or_eq_of_mem_set hn with h | h
    · exact h1 n h
    · rw [h]; exact hv
  · rw [List.length_set]
    refine ⟨(h2 id hU).1, ?_⟩
    rw [node_getD_set]
    split
    · next hc => exact hu (hc.1 ▸ hU)
    · exact (h2 id hU).2

/-- `modNode i f`: `f` keeps `NOK` (it may use the `X` facts) and keeps "no children" when `i` is a `U` id -/
theorem ru_modNode {U X : Nat → Prop} (i : Nat) (f : Node → Node)
    (hf : ∀ L n, (∀ x, X x → x < L ∧ ∀ id, U id → x ≠ id) → NOK U L n →
      NOK U L (f n) ∧ (U i → n.children = [] → (f n).children = [])) : Keeps (RU U X) (modNode i f) := by
  intro s a s' hs h
  cases h
  have hfn := hf _ _ hs.2.2 (hs.getD i)
  exact RUn.set hs i _ hfn.1 (fun hU => hfn.2 hU (hs.2.1 i hU).2)

theorem run_append {U X : Nat → Prop} {nodes : List Node} (n : Node) (hc : n.children = []) (hp : n.parent = none)
    (h : RUn U X nodes) : RUn U X (nodes ++ [n]) := by
  obtain ⟨h1, h2, h3⟩ := h
  have hl : (nodes ++ [n]).length = nodes.length + 1 := by simp
  refine ⟨?_, ?_, ?_⟩
  · intro m hm
    rw [hl]
    rcases List.mem_append.mp hm with h | h
    · exact nok_mono (Nat.le_succ _) (h1 m h)
    · simp only [List.mem_singleton] at h
      rw [h]
      exact ⟨fun c hc' => (by rw [hc] at hc'; cases hc'), fun p hp' => (by rw [hp] at hp'; cases hp')⟩
  · intro id hU
    rw [hl]
    refine ⟨Nat.lt_succ_of_lt (h2 id hU).1, ?_⟩
    rw [getD_append_node, if_pos (h2 id hU).1]
    exact (h2 id hU).2
  · intro x hx
    rw [hl]
    exact ⟨Nat.lt_succ_of_lt (h3 x hx).1, (h3 x hx).2⟩

theorem ru_benign {U X : Nat → Prop} : Benign (RU U X) where
  noR := ⟨fun _ _ hs => hs⟩
  pc := fun _ _ hs => hs
  mn := fun i f hf => ru_modNode i f (fun L n _ hn =>
    ⟨by unfold NOK; rw [(hf n).1, (hf n).2]; exact hn, fun _ h => by rw [(hf n).1]; exact h⟩)
  nn := fun n hc hp => by
    intro s a s' hs h
    cases h
    exact run_append n hc hp hs

/-- `bind` where the continuation may use more `X` facts -/
theorem ru_bind_grow {U X : Nat → Prop} {α β} {m : M α} {f : α → M β} (Y : α → Nat → Prop) (hm : Keeps (RU U X) m)
    (hY : ∀ s a s', RU U X s → m s = .ok (a, s') → ∀ x, Y a x → x < s'.nodes.length ∧ ∀ id, U id → x ≠ id)
    (hf : ∀ a, Keeps (RU U (fun x => X x ∨ Y a x)) (f a)) : Keeps (RU U X) (m >>= f) := by
  intro s b s' hs h
  obtain ⟨a, s1, e1, e2⟩ := bind_inv_u h
  have h1 := hm s a s1 hs e1
  have h2 := hf a s1 b s' ⟨h1.1, h1.2.1, fun x hx => hx.elim (h1.2.2 x) (hY s a s1 hs e1 x)⟩ e2
  exact ⟨h2.1, h2.2.1, fun x hx => h2.2.2 x (.inl hx)⟩

/-- the fresh id is in range and is no `U` id -/
theorem ru_newNode_bind {U X : Nat → Prop} {β} (n : Node) (f : Nat → M β) (hc : n.children = []) (hp : n.parent = none)
    (hf : ∀ id, Keeps (RU U (fun x => X x ∨ x = id)) (f id)) : Keeps (RU U X) (newNode n >>= f) := by
  refine ru_bind_grow (fun id x => x = id) (ru_benign.nn n hc hp) ?_ hf
  intro s a s' hs h x hx
  cases h
  subst hx
  refine ⟨by simp, fun id hU e => ?_⟩
  have := (hs.2.1 id hU).1
  omega

/-- the ids stored in a node that was read are in range and are no `U` ids -/
theorem ru_getNode_bind {U X : Nat → Prop} {β} (i : Nat) (f : Node → M β)
    (hf : ∀ n, Keeps (RU U (fun x => X x ∨ (n.parent = some x ∨ x ∈ n.children))) (f n)) :
    Keeps (RU U X) (getNode i >>= f) := by
  refine ru_bind_grow (fun n x => n.parent = some x ∨ x ∈ n.children) (getNode_keeps i) ?_ hf
  intro s a s' hs h x hx
  cases h
  have hg := hs.getD i
  rcases hx with hx | hx
  · exact hg.2 x hx
  · exact hg.1 x hx

theorem keeps_pure_bind {I : St → Prop} {α β} (a : α) (f : α → M β) (hf : Keeps I (f a)) :
    Keeps I (pure a >>= f) := by
  intro s b s' hs h
  obtain ⟨a', s1, e1, e2⟩ := bind_inv_u h
  cases e1
  exact hf s b s' hs e2

theorem keeps_throw_bind {I : St → Prop} {α β} (e : Panic) (f : α → M β) :
    Keeps I ((throw e : M α) >>= f) := by
  intro s b s' _ h
  obtain ⟨a', s1, e1, _⟩ := bind_inv_u h
  cases e1

/-! ### the walk over a `do` block -/

syntax "xside" : tactic
macro_rules
  | `(tactic| xside) => `(tactic| first
      | assumption
      | rfl
      | (apply Or.inr; xside)
      | (apply Or.inl; xside))

macro "bn_ben" : tactic => `(tactic| first | assumption | exact ru_benign)

macro_rules | `(tactic| nor_side) => `(tactic| exact Benign.noR (by bn_ben))

macro "bn_step" : tactic =>
  `(tactic| first
    | walk_step
    | ((with_reducible apply bn_modPc); bn_ben)
    | ((with_reducible apply bn_appendLine); bn_ben)
    | ((with_reducible apply bn_modNode) <;> (first | bn_ben | (intro n; exact ⟨rfl, rfl⟩)))
    | ((with_reducible apply bn_newNode) <;> (first | bn_ben | rfl))
    | apply_hyp
    | bn_ben)

macro "bn" : tactic => `(tactic| repeat' bn_step)

section benign
variable {I : St → Prop} (hI : Benign I)
include hI

theorem Benign.step {Kw : Prop} {W : Nat → Prop} {a b : St} (h : Step Kw W a b) : I a → I b := by
  induction h with
  | refl s => exact id
  | trans _ _ ih1 ih2 => exact fun h => ih2 (ih1 h)
  | rd s r' _ _ => exact hI.noR.h s r'
  | key s pc' _ _ => exact hI.pc s (fun _ => pc')
  | write s id v _ h2 =>
    intro hs
    -- `v` is the value at the old node of a function that keeps `children` and `parent` of every node
    have e := hI.mn id (fun n => { n with lines := v.lines, linesNil := v.linesNil, closure := v.closure })
      (fun _ => ⟨rfl, rfl⟩) s () _ hs rfl
    have h2 : v = { s.nodes.getD id default with lines := v.lines, linesNil := v.linesNil, closure := v.closure } := h2
    rw [h2]
    exact e
  | push s n h1 h2 => exact fun hs => hI.nn n h2 h1 s _ _ hs rfl

theorem bn_codeClose (n : Nat) : Keeps I (codeClose n) :=
  fun s a s' hs e => hI.step ((codeClose_steps (Kw := False) (W := (· = n)) rfl).h s a s' e) hs
theorem bn_fencedClose (n : Nat) : Keeps I (fencedClose n) :=
  fun s a s' hs e => hI.step ((fencedClose_steps (W := fun _ => False) trivial n).h s a s' e) hs
theorem bn_nextSibling (c : Nat) : Keeps I (nextSibling c) := nextSibling_keeps c

end benign

/-! ### `RU` along the generated relations of GM.Proof.BlocksStep -/

section
variable {U X : Nat → Prop}

theorem Step.ru {Kw : Prop} {W : Nat → Prop} {a b : St} (h : Step Kw W a b) : RU U X a → RU U X b := by
  induction h with
  | refl s => exact id
  | trans _ _ ih1 ih2 => exact fun h => ih2 (ih1 h)
  | rd s r' _ _ => exact id
  | key s pc' _ _ => exact id
  | write s id v _ h2 =>
    intro h
    have hg := h.getD id
    obtain ⟨ep, ec, _⟩ := h2.links
    exact RUn.set h id v (by unfold NOK; rw [ep, ec]; exact hg) (fun hU => by rw [ec]; exact (h.2.1 id hU).2)
  | push s n h1 h2 => exact fun h => run_append n h2 h1 h

/-- `RU` along `Link`: ShiftSim's relation, QuoteSim's invariant -/
theorem Link.ru {L : Nat → Nat → Prop} {Kw : Prop} {W : Nat → Prop} (hL : ∀ p c, L p c → X p ∧ X c) {a b : St}
    (h : Link L Kw W a b) : RU U X a → RU U X b := by
  induction h with
  | step h => exact h.ru
  | trans _ _ ih1 ih2 => exact fun h => ih2 (ih1 h)
  | kids s p cs hg =>
    intro h
    have hold := h.getD p
    refine RUn.set h p _ ⟨fun x hx => ?_, hold.2⟩ (fun hU => ?_)
    · rcases hg x hx with hx | hx
      · exact hold.1 x hx
      · exact h.2.2 x (hL p x hx).2
    · refine List.eq_nil_iff_forall_not_mem.mpr fun x hx => ?_
      rcases hg x hx with hx | hx
      · rw [(h.2.1 p hU).2] at hx; cases hx
      · exact (h.2.2 p (hL p x hx).1).2 p hU rfl
  | orphan s c =>
    intro h
    exact RUn.set h c _ ⟨(h.getD c).1, fun q hq => nomatch hq⟩ (fun hU => (h.2.1 c hU).2)
  | adopt s c p hl =>
    intro h
    refine RUn.set h c _ ⟨(h.getD c).1, fun q hq => ?_⟩ (fun hU => (h.2.1 c hU).2)
    cases hq
    exact h.2.2 p (hL p c hl).1

theorem Links.keeps_ru {L : Nat → Nat → Prop} {Kw : Prop} {W : Nat → Prop} {α} {m : M α} (hm : Links L Kw W m)
    (hL : ∀ p c, L p c → X p ∧ X c) : Keeps (RU U X) m :=
  fun s a s' hs e => Link.ru hL (hm.h s a s' e) hs

end

theorem ru_bpOpen {U X : Nat → Prop} (bp : BP) (p : Nat) : Keeps (RU U X) (bpOpen bp p) :=
  fun _ _ _ hs e => (bpOpen_step e).1.ru hs

theorem ru_bpContinue {U X : Nat → Prop} (bp : BP) (n : Nat) : Keeps (RU U X) (bpContinue bp n) :=
  fun _ _ _ hs e => (bpContinue_step e).ru hs

section ru
variable {U X : Nat → Prop}

theorem ru_removeChild (p c : Nat) : Keeps (RU U X) (removeChild p c) :=
  (removeChild_links (L := fun p c => X p ∧ X c) (Kw := False) (W := fun _ => False) p c).keeps_ru fun _ _ h => h

theorem ru_insertAfter (p : Nat) (v1 : Option Nat) (ins : Nat) (hp : X p) (hi : X ins) :
    Keeps (RU U X) (insertAfter p v1 ins) :=
  (insertAfter_links (L := fun p c => X p ∧ X c) (Kw := False) (W := fun _ => False) v1 ⟨hp, hi⟩).keeps_ru fun _ _ h => h

theorem ru_replaceChild (p v1 ins : Nat) (hp : X p) (hi : X ins) : Keeps (RU U X) (replaceChild p v1 ins) :=
  (replaceChild_links (L := fun p c => X p ∧ X c) (Kw := False) (W := fun _ => False) v1 ⟨hp, hi⟩).keeps_ru fun _ _ h => h

theorem ru_appendChild (p c : Nat) (hp : X p) (hc : X c) : Keeps (RU U X) (appendChild p c) :=
  (appendChild_links (L := fun p c => X p ∧ X c) (Kw := False) (W := fun _ => False) ⟨hp, hc⟩).keeps_ru fun _ _ h => h

end ru

/-- the walk with the rules that add `X` facts -/
macro "ru_step" : tactic =>
  `(tactic| first
    | ((with_reducible apply ru_newNode_bind) <;> (first | rfl | intro_pi))
    | ((with_reducible apply ru_getNode_bind); intro_pi)
    | with_reducible apply keeps_pure_bind
    | with_reducible apply keeps_throw_bind
    | ((with_reducible apply ru_insertAfter) <;> xside)
    | ((with_reducible apply ru_replaceChild) <;> xside)
    | with_reducible apply ru_removeChild
    | ((with_reducible apply bn_nextSibling); exact ru_benign)
    | bn_step
    | xside)

macro "ruw" : tactic => `(tactic| repeat' ru_step)

section ruclose
variable {U : Nat → Prop}

theorem ru_paragraphClose {X : Nat → Prop} (n : Nat) : Keeps (RU U X) (paragraphClose n) :=
  (paragraphClose_links (L := fun p c => X p ∧ X c) (Kw := False) (W := (· = n)) rfl).keeps_ru fun _ _ h => h

theorem ru_setextClose {X : Nat → Prop} (n : Nat) : Keeps (RU U X) (setextClose n) := by
  unfold setextClose; ruw

theorem ru_tightenItem (child : Nat) :
    ∀ (gcs : List Nat) {X : Nat → Prop}, X child → Keeps (RU U X) (tightenItem child gcs) := by
  intro gcs
  induction gcs with
  | nil => intro X _; unfold tightenItem; exact Keeps.pure _
  | cons gc gcs ih =>
    intro X hc
    unfold tightenItem
    refine Keeps.bind (getNode_keeps _) (fun g => ?_)
    ruw

theorem ru_tightenItems {X : Nat → Prop} : ∀ cs : List Nat, (∀ c ∈ cs, X c) → Keeps (RU U X) (tightenItems cs) := by
  intro cs
  induction cs with
  | nil => intro _; unfold tightenItems; exact Keeps.pure _
  | cons c cs ih =>
    intro h
    unfold tightenItems
    exact Keeps.bind (getNode_keeps _) (fun n => Keeps.bind (ru_tightenItem c _ (h c (List.mem_cons_self ..)))
      (fun _ => ih (fun c' hc' => h c' (List.mem_cons_of_mem _ hc'))))

theorem ru_listClose {X : Nat → Prop} (n : Nat) : Keeps (RU U X) (listClose n) := by
  have ht := @ru_tightenItems U
  unfold listClose; ruw

theorem ru_bpClose {X : Nat → Prop} (bp : BP) (n : Nat) : Keeps (RU U X) (bpClose bp n) := by
  cases bp <;> unfold bpClose
  · exact ru_setextClose n
  · exact Keeps.pure _
  · exact ru_listClose n
  · exact Keeps.pure _
  · exact bn_codeClose ru_benign n
  · exact Keeps.pure _
  · exact bn_fencedClose ru_benign n
  · exact Keeps.pure _
  · exact Keeps.pure _
  · exact ru_paragraphClose n

theorem ru_closeLoop {X : Nat → Prop} (blocks : List Block) (to : Int) :
    ∀ k, Keeps (RU U X) (closeLoop blocks to k) := by
  have := @ru_bpClose U X
  intro k
  induction k with
  | zero => unfold closeLoop; exact Keeps.pure _
  | succ k ih => unfold closeLoop; bn

theorem ru_closeBlocks {X : Nat → Prop} (frm to : Int) : Keeps (RU U X) (closeBlocks frm to) := by
  have := @ru_closeLoop U X
  unfold closeBlocks; bn

end ruclose

/-! ### `RStore`, `Unref` in terms of `RU` -/

abbrev NoId : Nat → Prop := fun _ => False

theorem ru_of_rstore {nodes : List Node} (h : RStore nodes) : RUn NoId NoId nodes :=
  ⟨fun n hn => ⟨fun c hc => ⟨(h n hn).1 c hc, fun _ hU => hU.elim⟩, fun p hp => ⟨(h n hn).2 p hp, fun _ hU => hU.elim⟩⟩,
   fun _ hU => hU.elim, fun _ hX => hX.elim⟩

theorem rstore_of_ru {U X : Nat → Prop} {nodes : List Node} (h : RUn U X nodes) : RStore nodes :=
  fun n hn => ⟨fun c hc => ((h.1 n hn).1 c hc).1, fun p hp => ((h.1 n hn).2 p hp).1⟩

theorem unref_of_ru {U X : Nat → Prop} {nodes : List Node} (h : RUn U X nodes) {id : Nat} (hU : U id) : Unref id nodes :=
  ⟨(h.2.1 id hU).1, (h.2.1 id hU).2, fun n hn =>
    ⟨fun e => ((h.1 n hn).2 id e).2 id hU rfl, fun hc => ((h.1 n hn).1 id hc).2 id hU rfl⟩⟩

theorem ru_of_unref {nodes : List Node} {id : Nat} (hr : RStore nodes) (hu : Unref id nodes) :
    RUn (fun x => x = id) NoId nodes := by
  refine ⟨fun n hn => ⟨fun c hc => ⟨(hr n hn).1 c hc, ?_⟩, fun p hp => ⟨(hr n hn).2 p hp, ?_⟩⟩, ?_, fun _ hX => hX.elim⟩
  · intro i hi e
    subst hi; subst e
    exact (hu.2.2 n hn).2 hc
  · intro i hi e
    subst hi; subst e
    exact (hu.2.2 n hn).1 hp
  · intro i hi
    subst hi
    exact ⟨hu.1, hu.2.1⟩

def RS : St → Prop := fun s => RStore s.nodes

def RSU (id : Nat) : St → Prop := fun s => RStore s.nodes ∧ Unref id s.nodes

theorem keeps_rs_of {α} {m : M α} (h : Keeps (RU NoId NoId) m) : Keeps RS m :=
  fun s a s' hs e => rstore_of_ru (h s a s' (ru_of_rstore hs) e)

theorem keeps_rsu_of {α} {m : M α} {id : Nat} (h : Keeps (RU (fun x => x = id) NoId) m) : Keeps (RSU id) m :=
  fun s a s' hs e =>
    have h' := h s a s' (ru_of_unref hs.1 hs.2) e
    ⟨rstore_of_ru h', unref_of_ru h' rfl⟩

theorem rstore_init : RStore [{ kind := .document }] := by
  intro n hn
  simp only [List.mem_singleton] at hn
  subst hn
  exact ⟨fun c hc => (by cases hc), fun p hp => (by cases hp)⟩

/-! #### `RStore` is kept by all parsers (no hypothesis on the argument ids) -/

theorem rs_bpOpen (bp : BP) (p : Nat) : Keeps RS (bpOpen bp p) := keeps_rs_of (ru_bpOpen bp p)
theorem rs_bpContinue (bp : BP) (n : Nat) : Keeps RS (bpContinue bp n) := keeps_rs_of (ru_bpContinue bp n)
theorem rs_bpClose (bp : BP) (n : Nat) : Keeps RS (bpClose bp n) := keeps_rs_of (ru_bpClose bp n)
theorem rs_closeLoop (blocks : List Block) (to : Int) (k : Nat) : Keeps RS (closeLoop blocks to k) :=
  keeps_rs_of (ru_closeLoop blocks to k)
theorem rs_closeBlocks (frm to : Int) : Keeps RS (closeBlocks frm to) := keeps_rs_of (ru_closeBlocks frm to)

theorem rs_appendChild (p c : Nat) {s s' : St} {a : Unit} (hr : RStore s.nodes) (hp : p < s.nodes.length)
    (hc : c < s.nodes.length) (e : appendChild p c s = .ok (a, s')) : RStore s'.nodes := by
  have h0 := ru_of_rstore hr
  have h1 : RU NoId (fun x => x = p ∨ x = c) s :=
    ⟨h0.1, h0.2.1, fun x hx => ⟨by rcases hx with h | h <;> rw [h] <;> assumption, fun _ hU => hU.elim⟩⟩
  exact rstore_of_ru (ru_appendChild p c (Or.inl rfl) (Or.inr rfl) s a s' h1 e)

theorem rstore_bpOpen (bp : BP) (p : Nat) {s s' : St} {a : Option Nat × PState} (hr : RStore s.nodes)
    (e : bpOpen bp p s = .ok (a, s')) : RStore s'.nodes := rs_bpOpen bp p s a s' hr e
theorem rstore_bpContinue (bp : BP) (n : Nat) {s s' : St} {a : PState} (hr : RStore s.nodes)
    (e : bpContinue bp n s = .ok (a, s')) : RStore s'.nodes := rs_bpContinue bp n s a s' hr e
theorem rstore_bpClose (bp : BP) (n : Nat) {s s' : St} {a : Unit} (hr : RStore s.nodes)
    (e : bpClose bp n s = .ok (a, s')) : RStore s'.nodes := rs_bpClose bp n s a s' hr e

/-! #### `Unref id` (with `RStore`) is kept by `Continue`, `Close`, `closeLoop`, `closeBlocks`, by `Open`, and by every
    `modNode` that keeps `children` and `parent` -/

theorem rsu_modNode (id i : Nat) (f : Node → Node) (hf : ∀ n, (f n).children = n.children ∧ (f n).parent = n.parent) :
    Keeps (RSU id) (modNode i f) := keeps_rsu_of (ru_benign.mn i f hf)
theorem rsu_bpOpen (id : Nat) (bp : BP) (p : Nat) : Keeps (RSU id) (bpOpen bp p) := keeps_rsu_of (ru_bpOpen bp p)
theorem rsu_bpContinue (id : Nat) (bp : BP) (n : Nat) : Keeps (RSU id) (bpContinue bp n) :=
  keeps_rsu_of (ru_bpContinue bp n)
theorem rsu_bpClose (id : Nat) (bp : BP) (n : Nat) : Keeps (RSU id) (bpClose bp n) := keeps_rsu_of (ru_bpClose bp n)
theorem rsu_closeLoop (id : Nat) (blocks : List Block) (to : Int) (k : Nat) : Keeps (RSU id) (closeLoop blocks to k) :=
  keeps_rsu_of (ru_closeLoop blocks to k)
theorem rsu_closeBlocks (id : Nat) (frm to : Int) : Keeps (RSU id) (closeBlocks frm to) :=
  keeps_rsu_of (ru_closeBlocks frm to)

theorem unref_bpClose (bp : BP) (node id : Nat) {s s' : St} {a : Unit} (hr : RStore s.nodes) (hu : Unref id s.nodes)
    (e : bpClose bp node s = .ok (a, s')) : Unref id s'.nodes := (rsu_bpClose id bp node s a s' ⟨hr, hu⟩ e).2

theorem unref_modNode (id i : Nat) (f : Node → Node) (hf : ∀ n, (f n).children = n.children ∧ (f n).parent = n.parent) :
    Keeps (fun s => Unref id s.nodes) (modNode i f) := by
  intro s a s' hs h
  cases h
  show Unref id (s.nodes.set i (f (s.nodes.getD i default)))
  obtain ⟨h1, h2, h3⟩ := hs
  refine ⟨by rw [List.length_set]; exact h1, ?_, ?_⟩
  · rw [node_getD_set]
    split
    · next hc =>
      obtain ⟨e, _⟩ := hc
      subst e
      rw [(hf _).1]; exact h2
    · exact h2
  · intro n hn
    rcases List.mem_or_eq_of_mem_set hn with h | h
    · exact h3 n h
    · rw [h, (hf _).1, (hf _).2]
      rw [List.getD_eq_getElem?_getD]
      cases hg : s.nodes[i]? with
      | none => exact ⟨fun e => (by cases e), fun e => (by cases e)⟩
      | some m => exact h3 m (List.mem_of_getElem? hg)

theorem qe_benign (q : Nat) : Benign (QE q) where
  noR := ⟨fun _ _ hs => hs⟩
  pc := fun _ _ hs => hs
  mn := fun i f hf => by
    intro s a s' hs h
    cases h
    show ((s.nodes.set i (f (s.nodes.getD i default))).getD q default).children = []
    rw [node_getD_set]
    split
    · next hc =>
      obtain ⟨e, _⟩ := hc
      subst e
      rw [(hf _).1]; exact hs
    · exact hs
  nn := fun n hc _ => by
    intro s a s' hs h
    cases h
    show ((s.nodes ++ [n]).getD q default).children = []
    rw [getD_append_node]
    split
    · exact hs
    · split
      · exact hc
      · rfl

theorem qe_grow {W : Nat → Prop} {K : Kind → Prop} {q : Nat} {s s' : St} (h : QE q s) (hg : Grow W K s.nodes s'.nodes) :
    QE q s' := by
  show (s'.nodes.getD q default).children = []
  by_cases h0 : q < s.nodes.length
  · rw [hg.children h0]; exact h
  · by_cases h1 : q < s'.nodes.length
    · exact (hg.new q (Nat.le_of_not_lt h0) h1).1.children
    · rw [node_getD_ge _ q (Nat.le_of_not_lt h1)]; rfl

theorem qe_bpOpen (q : Nat) (bp : BP) (p : Nat) : Keeps (QE q) (bpOpen bp p) :=
  fun _ _ _ hs e => qe_grow hs (bpOpen_foot bp p e).1.nodes
theorem qe_bpContinue (q : Nat) (bp : BP) (n : Nat) : Keeps (QE q) (bpContinue bp n) :=
  fun _ _ _ hs e => qe_grow hs (bpContinue_foot bp n e).nodes

theorem qe_of_unref {id : Nat} {s : St} (h : Unref id s.nodes) : QE id s := h.2.1

theorem qe_modNode (q i : Nat) (f : Node → Node) (hf : i = q → ∀ n, n.children = [] → (f n).children = []) :
    Keeps (QE q) (modNode i f) := by
  intro s a s' hs h
  cases h
  show ((s.nodes.set i (f (s.nodes.getD i default))).getD q default).children = []
  rw [node_getD_set]
  split
  · next hc =>
    obtain ⟨e, _⟩ := hc
    subst e
    exact hf rfl _ hs
  · exact hs

theorem qe_removeChild (q p c : Nat) : Keeps (QE q) (removeChild p c) := by
  unfold removeChild
  refine Keeps.bind (getNode_keeps _) (fun cn => Keeps.ite (fun _ => Keeps.pure _) (fun _ => ?_))
  refine Keeps.bind (qe_modNode q p _ (fun _ n h => ?_)) (fun _ => qe_modNode q c _ (fun _ n h => h))
  show n.children.erase c = []
  rw [h]; rfl

theorem qe_ensureIsolated (q c : Nat) : Keeps (QE q) (ensureIsolated c) := by
  have := qe_removeChild q
  have hb := qe_benign q
  unfold ensureIsolated; bn

theorem qe_appendChild (q p c : Nat) (hne : p ≠ q) : Keeps (QE q) (appendChild p c) := by
  unfold appendChild
  refine Keeps.bind (qe_ensureIsolated q c) (fun _ => ?_)
  exact Keeps.bind (qe_modNode q p _ (fun e => absurd e hne)) (fun _ => qe_modNode q c _ (fun _ n h => h))

/-! #### the node an `Open` returns is unreferenced -/

structure OPU (m : M (Option Nat × PState)) : Prop where
  h : ∀ s a s', RStore s.nodes → m s = .ok (a, s') → ∀ id, a.1 = some id → Unref id s'.nodes

theorem OPU.throw (e : Panic) : OPU (throw e) := ⟨fun _ _ _ _ h => by cases h⟩

theorem unref_new {W : Nat → Prop} {K : Kind → Prop} {n n' : List Node} (hr : RStore n) (hg : Grow W K n n') {id : Nat}
    (h0 : n.length ≤ id) (h1 : id < n'.length) : Unref id n' := by
  refine ⟨h1, (hg.new id h0 h1).1.children, fun m hm => ?_⟩
  rcases hg.mem hm with ⟨y, hy, e⟩ | ⟨hl, _⟩
  · rw [show m.parent = y.parent from (congrArg Node.parent e :), show m.children = y.children from (congrArg Node.children e :)]
    exact ⟨fun hp => Nat.not_lt.mpr h0 ((hr y hy).2 id hp), fun hc => Nat.not_lt.mpr h0 ((hr y hy).1 id hc)⟩
  · rw [hl.parent, hl.children]
    exact ⟨fun e => (by cases e), fun e => (by cases e)⟩

theorem unref_bpOpen (bp : BP) (p : Nat) {s s' : St} {a : Option Nat × PState} (hr : RStore s.nodes)
    (e : bpOpen bp p s = .ok (a, s')) (id : Nat) (hid : a.1 = some id) : Unref id s'.nodes :=
  have hf := bpOpen_foot bp p e
  unref_new hr hf.1.nodes (hf.2 id hid).1 (hf.2 id hid).2

end GM.Blocks
