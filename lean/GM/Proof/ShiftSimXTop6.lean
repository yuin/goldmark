/-
  GM.Proof.ShiftSimXTop6 — closing `Cov6` blocks keeps the Document's last child and the parent pointer of every other
  node (two readings of `la_closeBlocks`); `openBlocks` over an attached stack of `Cov6` blocks only pushes blocks
  (`h6_openBlocks`), for any reader invariant `J` under which the candidate parsers of `openBlocksLoop` are `Cov6` (`hfree`,
  `hJtrig`); on an empty stack the first block it pushes becomes the Document's last child (`top_att_openBlocks0J`).
-/
import GM.Proof.ShiftSimXTop4
import GM.Proof.ShiftSimXTop5
import GM.Proof.ShiftSimXHcl

namespace GM.Blocks.Xs
open GM GM.Text GM.Spec GM.Proof.Reader GM.Blocks GM.Blocks.L
open GM.Blocks.Sh (K KS bind_ok_inv liftE_ok_inv a2_getNode_inv a2_getPc_inv a2_modPc_inv a2_lastOpenedBlock_inv ac_getD_set ac_pure_bind ac_throw_bind llOpen llFall llBody ll_lineLoop_cons tpJp1 tpJp2 tpSome tryParsers_cons oblTry openBlocksLoop_succ)

/-! ### closing `Cov6` blocks: a fact about the links of one node

Of the links, `Close` of a `Cov6` block writes only through `removeChild p n` of the closed node `n` (a Paragraph left without
lines): the children list of `p` loses `n`, `n` loses its parent. -/

/-- a fact about the parent pointer and the children list of node `i` -/
def LinksOf (i : Nat) (R : Option Nat → List Nat → Prop) (s : St) : Prop := R (nd s i).parent (nd s i).children

section linkAt
variable {i : Nat} {R : Option Nat → List Nat → Prop}

theorem la_modPc (f : Ctx → Ctx) : Keeps (LinksOf i R) (modPc f) := modPc_keeps f fun _ hs => hs

theorem la_modNode (id : Nat) (f : Node → Node)
    (h : id = i → ∀ n : Node, R n.parent n.children → R (f n).parent (f n).children) :
    Keeps (LinksOf i R) (modNode id f) := by
  intro s u s' hs hm
  cases hm
  have e : nd ({ s with nodes := s.nodes.set id (f (s.nodes.getD id default)) } : St) i =
      if id = i ∧ id < s.nodes.length then f (s.nodes.getD id default) else nd s i := ac_getD_set ..
  show R (nd _ i).parent (nd _ i).children
  rw [e]
  split
  · next hc => exact h hc.1 _ (hc.1 ▸ hs)
  · exact hs

macro "la_step" : tactic =>
  `(tactic| first
    | with_reducible apply Keeps.pure
    | with_reducible apply ac_pure_bind
    | with_reducible apply ac_throw_bind
    | with_reducible apply Keeps.bind
    | with_reducible apply Keeps.ite
    | with_reducible apply Keeps.throw
    | with_reducible apply getNode_keeps
    | with_reducible apply source_keeps
    | with_reducible apply liftE_keeps
    | ((with_reducible apply la_modNode); (intro _ n hn; exact hn))
    | apply_hyp
    | intro_pi
    | split)

macro "la" : tactic => `(tactic| repeat' la_step)

theorem la_removeChild (p c : Nat) (hO : c = i → ∀ q l, R q l → R none l)
    (hE : p = i → ∀ q l, R q l → R q (l.erase c)) : Keeps (LinksOf i R) (removeChild p c) := by
  unfold removeChild
  refine Keeps.bind (getNode_keeps _) fun cn => ?_
  split
  · exact Keeps.pure _
  · exact Keeps.bind (la_modNode p _ fun e n hn => hE e _ _ hn) fun _ => la_modNode c _ fun e n hn => hO e _ _ hn

theorem la_paragraphClose (n : Nat) (hO : n = i → ∀ q l, R q l → R none l) (hE : ∀ q l, R q l → R q (l.erase n)) :
    Keeps (LinksOf i R) (paragraphClose n) := by
  have := fun p => la_removeChild (i := i) (R := R) p n hO fun _ => hE
  unfold paragraphClose; la

theorem la_codeClose (n : Nat) : Keeps (LinksOf i R) (codeClose n) := by
  unfold codeClose; la

theorem la_bpClose (bp : BP) (h : Cov6 bp) (n : Nat) (hO : n = i → ∀ q l, R q l → R none l)
    (hE : ∀ q l, R q l → R q (l.erase n)) : Keeps (LinksOf i R) (bpClose bp n) := by
  cases bp <;> unfold bpClose
  · exact absurd rfl h.2.2.1
  · exact Keeps.pure _
  · exact absurd rfl h.1
  · exact Keeps.pure _
  · exact la_codeClose n
  · exact Keeps.pure _
  · exact absurd rfl h.2.2.2
  · exact Keeps.pure _
  · exact Keeps.pure _
  · exact la_paragraphClose n hO hE

/-- `closeBlocks frm to` over `Cov6` blocks keeps a fact about the links of node `i` that survives the loss of a closed node
    from the children list and, if `i` is closed itself, the loss of the parent -/
theorem la_closeBlocks (frm to : Int) (s s' : St) (u : Unit)
    (hb : ∀ (j : Int) b, to ≤ j → j ≤ frm → blockAt s.pc.opened j = .ok b →
      Cov6 b.bp ∧ (b.node = i → ∀ q l, R q l → R none l) ∧ ∀ q l, R q l → R q (l.erase b.node))
    (hs : LinksOf i R s) (h : closeBlocks frm to s = .ok (u, s')) : LinksOf i R s' :=
  closeBlocks_range (fun _ => la_modPc _) frm to s s' u
    (fun j b h1 h2 h3 => la_bpClose b.bp (hb j b h1 h2 h3).1 b.node (hb j b h1 h2 h3).2.1 (hb j b h1 h2 h3).2.2) hs h

end linkAt

section last
variable {z : Nat}

theorem h6_noR : NoR (tl_Last z) := ⟨fun _ _ hs => hs⟩

/-- the Document's last child stays when no closed block (indices `to ≤ j ≤ frm`) has its node -/
theorem h6_closeBlocks (frm to : Int) (s s' : St) (a : Unit)
    (hb : ∀ (j : Int) b, to ≤ j → j ≤ frm → blockAt s.pc.opened j = .ok b → Cov6 b.bp ∧ b.node ≠ z)
    (hs : tl_Last z s) (h : closeBlocks frm to s = .ok (a, s')) : tl_Last z s' :=
  la_closeBlocks (i := 0) (R := fun _ l => l.getLast? = some z) frm to s s' a
    (fun j b h1 h2 h3 => ⟨(hb j b h1 h2 h3).1, fun _ _ _ h => h,
      fun _ l h => tl_getLast_erase b.node z (hb j b h1 h2 h3).2 l h⟩) hs h

end last

/-- node `a` stays attached when no closed block (indices `to ≤ j ≤ frm`) has node `a` -/
theorem p6_closeBlocks {a : Nat} (frm to : Int) (s s' : St) (u : Unit)
    (hb : ∀ (j : Int) b, to ≤ j → j ≤ frm → blockAt s.pc.opened j = .ok b → Cov6 b.bp ∧ b.node ≠ a)
    (hs : (nd s a).parent.isSome = true) (h : closeBlocks frm to s = .ok (u, s')) : (nd s' a).parent.isSome = true :=
  la_closeBlocks (i := a) (R := fun q _ => q.isSome = true) frm to s s' u
    (fun j b h1 h2 h3 => ⟨(hb j b h1 h2 h3).1, fun e => absurd e (hb j b h1 h2 h3).2, fun _ _ h => h⟩) hs h

/-! ### no `Cov6` parser asks for a paragraph -/

theorem h6_open_norp (bp : BP) (h : Cov6 bp) (p : Nat) : Ret (bpOpen bp p) (fun x => x.2.requirePara = false) :=
  ⟨fun s a s' e => by
    cases hr : a.2.requirePara with
    | false => rfl
    | true => exact absurd (requirePara_setext bp p s s' a e hr).1 h.2.2.1⟩

/-- the Document's children while `openBlocks p0` runs: the first new block is appended iff `p0 = 0` -/
def w6D (p0 : Nat) (d0 : List Nat) : List Block → List Nat
  | [] => d0
  | n0 :: _ => if p0 = 0 then d0 ++ [n0.node] else d0

/-- the current parent: `p0` until a block is pushed, then a node other than the Document -/
def w6P (p0 p : Nat) : List Block → Prop
  | [] => p = p0
  | _ :: _ => 0 < p

def W6 (ob : List Block) (p0 : Nat) (d0 : List Nat) (L0 : Nat) (p : Nat) (t : St) : Prop :=
  K t ∧ (∀ x ∈ t.pc.opened, (nd t x.node).parent.isSome = true ∧ Cov6 x.bp) ∧ L0 ≤ t.nodes.length ∧
  p < t.nodes.length ∧
  ∃ new, t.pc.opened = ob ++ new ∧ (∀ x ∈ new, L0 ≤ x.node) ∧ (nd t 0).children = w6D p0 d0 new ∧ w6P p0 p new

variable {ob : List Block} {p0 : Nat} {d0 : List Nat} {L0 : Nat}

theorem W6.links {p : Nat} {t t' : St} (h : W6 ob p0 d0 L0 p t) (k : K t') (lk : LinksKept t t')
    (ho : t'.pc.opened = t.pc.opened) : W6 ob p0 d0 L0 p t' := by
  obtain ⟨hk, hatt, hl, hp, new, e1, e2, e3, e4⟩ := h
  refine ⟨k, fun x hx => ?_, Nat.le_trans hl lk.1, Nat.lt_of_lt_of_le hp lk.1, new, ho.trans e1, e2, ?_, e4⟩
  · rw [ho] at hx
    rw [(lk.2.1 x.node (hk.opened x hx).2).1]
    exact hatt x hx
  · rw [(lk.2.1 0 hk.doc.1).2]; exact e3

theorem W6.topLast_zero {q : Nat} {t : St} (h : W6 [] 0 d0 L0 q t) : TopLast t := by
  obtain ⟨_, _, _, _, new, e1, _, e3, _⟩ := h
  intro b0 hb
  rw [List.nil_append] at e1
  rw [e1] at hb
  cases new with
  | nil => cases hb
  | cons n0 more =>
    cases hb
    show (nd t 0).children.getLast? = _
    rw [e3]; simp [w6D]

theorem tl_modNode_inv {id : Nat} {f : Node → Node} {s s' : St} {a : Unit} (h : modNode id f s = .ok (a, s')) :
    s' = { s with nodes := s.nodes.set id (f (s.nodes.getD id default)) } := by
  cases h; rfl

theorem tl_appendChild (p c : Nat) (s s' : St) (a : Unit) (hc : (nd s c).parent = none) (hcl : c < s.nodes.length)
    (h : appendChild p c s = .ok (a, s')) :
    s'.pc = s.pc ∧ s'.r = s.r ∧
    (∀ i, (nd s' i).children = if p = i ∧ p < s.nodes.length then (nd s p).children ++ [c] else (nd s i).children) ∧
    (nd s' c).parent = some p ∧ (∀ i, i ≠ c → (nd s' i).parent = (nd s i).parent) := by
  unfold appendChild at h
  obtain ⟨_, t1, g1, gA⟩ := bind_ok_inv h
  have e1 : t1 = s := by
    unfold ensureIsolated at g1
    obtain ⟨cn, t0, g0, gB⟩ := bind_ok_inv g1
    obtain ⟨ecn, e0⟩ := a2_getNode_inv g0
    subst e0
    have : cn.parent = none := by rw [ecn]; exact hc
    rw [this] at gB
    cases gB
    rfl
  subst e1
  obtain ⟨_, t2, g2, g3⟩ := bind_ok_inv gA
  have e2 := tl_modNode_inv g2
  subst e2
  have e3 := tl_modNode_inv g3
  subst e3
  refine ⟨rfl, rfl, fun i => ?_, ?_, fun i hi => ?_⟩
  · rw [nd_mod _ c (fun n => { n with parent := some p }) i]
    split
    · next hci =>
      obtain ⟨rfl, _⟩ := hci
      show (nd _ c).children = _
      rw [nd_mod t1 p (fun n => { n with children := n.children ++ [c] }) c]
      split <;> rfl
    · rw [nd_mod t1 p (fun n => { n with children := n.children ++ [c] }) i]
      split <;> rfl
  · rw [nd_mod _ c (fun n => { n with parent := some p }) c]
    rw [if_pos ⟨rfl, by show c < (t1.nodes.set _ _).length; rw [List.length_set]; exact hcl⟩]
  · rw [nd_mod _ c (fun n => { n with parent := some p }) i]
    rw [if_neg (fun hh => hi hh.1.symm)]
    rw [nd_mod t1 p (fun n => { n with children := n.children ++ [c] }) i]
    split
    · next hpi => obtain ⟨rfl, _⟩ := hpi; rfl
    · rfl

section chain
variable {J : St → Prop} (hJr : ∀ t t' : St, J t → t'.r = t.r → J t')
include hJr

theorem h6_tpJp2 (parent node : Nat) (bp : BP) (hbp : Cov6 bp) (state : PState) (lastBlock : Option Block)
    (s s' : St) (x : TryOutcome × OpenResult × Option Block) (hj : J s) (hw : W6 ob p0 d0 L0 parent s)
    (hpn : parent < node) (hn : node < s.nodes.length) (hfr : (nd s node).parent = none) (hL : L0 ≤ node)
    (hnew : ∀ y ∈ s.pc.opened, y.node ≠ node)
    (h : tpJp2 parent node bp state lastBlock s = .ok (x, s')) :
    J s' ∧ W6 ob p0 d0 L0 node s' ∧ ∀ q, x.1 = .retry q → q = node := by
  have hks := (Sh.a2_tpJp2 parent node bp state lastBlock s s' x hw.1 hpn hn h).1
  obtain ⟨hk, hatt, hl, hp, new, e1, e2, e3, e4⟩ := hw
  unfold tpJp2 at h
  obtain ⟨_, s1, h1, hA⟩ := bind_ok_inv h
  obtain ⟨epc, er, hch, hpar, hpo⟩ := tl_appendChild parent node s s1 _ hfr hn h1
  obtain ⟨_, s2, h2, hB⟩ := bind_ok_inv hA
  have e2' := a2_modPc_inv h2
  subst e2'
  have hfin : ∀ t : St, t = { s1 with pc := { s1.pc with opened := s1.pc.opened ++ [(⟨node, bp⟩ : Block)] } } →
      K t → s.nodes.length ≤ t.nodes.length → J t ∧ W6 ob p0 d0 L0 node t := by
    intro t et kt hlen
    subst et
    refine ⟨hJr _ _ hj er, kt, ?_, Nat.le_trans hl hlen, Nat.lt_of_lt_of_le hn hlen, new ++ [⟨node, bp⟩], ?_, ?_, ?_, ?_⟩
    · intro y hy
      have hy' : y ∈ s1.pc.opened ++ [(⟨node, bp⟩ : Block)] := hy
      rcases List.mem_append.1 hy' with hy1 | hy1
      · rw [epc] at hy1
        show (nd s1 y.node).parent.isSome = true ∧ _
        rw [hpo y.node (hnew y hy1)]
        exact hatt y hy1
      · rw [List.mem_singleton.1 hy1]
        show (nd s1 node).parent.isSome = true ∧ _
        rw [hpar]; exact ⟨rfl, hbp⟩
    · show s1.pc.opened ++ [(⟨node, bp⟩ : Block)] = ob ++ (new ++ [⟨node, bp⟩])
      rw [epc, e1, List.append_assoc]
    · intro y hy
      rcases List.mem_append.1 hy with hy1 | hy1
      · exact e2 y hy1
      · rw [List.mem_singleton.1 hy1]; exact hL
    · show (nd s1 0).children = _
      rw [hch 0]
      cases new with
      | nil =>
        have e4' : parent = p0 := e4
        subst e4'
        show _ = (if parent = 0 then d0 ++ [node] else d0)
        by_cases hz : parent = 0
        · subst hz
          rw [if_pos ⟨rfl, hk.doc.1⟩, if_pos rfl, e3]; rfl
        · rw [if_neg (fun hh => hz hh.1), if_neg hz, e3]; rfl
      | cons n0 more =>
        have e4' : 0 < parent := e4
        rw [if_neg (fun hh => by omega), e3]; rfl
    · cases new with
      | nil => show 0 < node; omega
      | cons n0 more => show 0 < node; omega
  by_cases hc : state.hasChildren = true
  · rw [if_pos hc] at hB
    cases hB
    have := hfin _ rfl hks.1 hks.2
    exact ⟨this.1, this.2, fun q e => by cases e; rfl⟩
  · rw [if_neg hc] at hB
    cases hB
    have := hfin _ rfl hks.1 hks.2
    exact ⟨this.1, this.2, fun q e => by cases e⟩

theorem h6_tpSome (parent node : Nat) (bp : BP) (hbp : Cov6 bp) (state : PState) (hrp : state.requirePara = false)
    (lastBlock : Option Block) (blankLine : Bool) (last : Option Nat)
    (s s' : St) (x : TryOutcome × OpenResult × Option Block) (hj : J s) (hw : W6 ob p0 d0 L0 parent s)
    (hpn : parent < node) (hn : node < s.nodes.length) (hfr : (nd s node).parent = none) (hL : L0 ≤ node)
    (hnew : ∀ y ∈ s.pc.opened, y.node ≠ node)
    (hlast : last = s.pc.opened.getLast?.map (fun z : Block => z.node))
    (h : tpSome parent node bp state lastBlock blankLine last s = .ok (x, s')) :
    J s' ∧ W6 ob p0 d0 L0 node s' ∧ ∀ q, x.1 = .retry q → q = node := by
  unfold tpSome at h
  rw [if_neg (by rw [hrp]; decide)] at h
  have hs := hw.1
  unfold tpJp1 at h
  obtain ⟨_, s1, h1, hA⟩ := bind_ok_inv h
  have a1 := Sh.ac_modNode_acyc node (fun n => { n with blankPrev := blankLine }) (fun _ => ⟨rfl, rfl⟩) s _ s1 hs.acyc h1
  have d1 := Sh.a2_modNode_ch node (fun n => { n with blankPrev := blankLine })
    (fun _ => ⟨rfl, rfl, fun x hx => Or.inl hx⟩) s _ s1 hs.doc h1
  have o1 := Sh.modNode_opened _ _ _ _ _ h1
  have l1 : s.nodes.length ≤ s1.nodes.length :=
    Sh.ac_modNode_len s.nodes.length node _ s _ s1 (Nat.le_refl _) h1
  have k1 : KS s s1 := Sh.a2_KS_mk hs a1 d1 o1 l1
  have lk := (modNode_frl node (fun n => { n with blankPrev := blankLine }) (fun _ => ⟨rfl, rfl⟩)).h _ _ _ h1
  have hw1 := hw.links k1.1 lk o1
  have e1 := tl_modNode_inv h1
  have hj1 : J s1 := hJr _ _ hj (by rw [e1])
  have hn1 : node < s1.nodes.length := Nat.lt_of_lt_of_le hn l1
  have hfr1 : (nd s1 node).parent = none := by rw [(lk.2.1 node hn).1]; exact hfr
  have hnew1 : ∀ y ∈ s1.pc.opened, y.node ≠ node := by rw [o1]; exact hnew
  cases last with
  | none => exact h6_tpJp2 hJr parent node bp hbp state lastBlock s1 s' x hj1 hw1 hpn hn1 hfr1 hL hnew1 hA
  | some l =>
    obtain ⟨ln, s2, h2, hB⟩ := bind_ok_inv hA
    obtain ⟨eln, e2⟩ := a2_getNode_inv h2
    subst e2
    have hnot : ¬ (ln.parent.isNone = true) := by
      cases hg : s.pc.opened.getLast? with
      | none => rw [hg] at hlast; cases hlast
      | some lb =>
        rw [hg] at hlast
        have hl' : some l = some lb.node := hlast
        cases hl'
        have hm : lb ∈ s2.pc.opened := by rw [o1]; exact List.mem_of_getLast? hg
        have := (hw1.2.1 lb hm).1
        rw [eln]
        cases hq : (nd s2 lb.node).parent with
        | none => rw [hq] at this; cases this
        | some q => intro hh; cases hh
    rw [if_neg hnot] at hB
    exact h6_tpJp2 hJr parent node bp hbp state lastBlock s2 s' x hj1 hw1 hpn hn1 hfr1 hL hnew1 hB

end chain

section j
variable {J : St → Prop} (hJr : ∀ t t' : St, J t → t'.r = t.r → J t')
  (hJo : ∀ bp, Cov6 bp → ∀ (p : Nat) (s : St) (x : Option Nat × PState) (s' : St), J s → bpOpen bp p s = .ok (x, s') →
    (x.1 = none ∨ x.2.hasChildren = true) → J s')
  (hJlo : Keeps J lineOffset)
  (hJpk : ∀ (t : St) lp t1, J t → peekLine t = .ok (lp, t1) → J t1)
  (hfree : ∀ bp ∈ freeParsers, Cov6 bp)
  (hJtrig : ∀ (t t1 : St) (lp : Option Bytes × Segment) (l : Bytes) (lo : Int) (ch : UInt8), J t →
    peekLine t = .ok (lp, t1) → lp.1 = some l → idx l (indentWidthI l lo).2 = .ok ch →
    ∀ bp ∈ (triggered ch).getD freeParsers, Cov6 bp)
include hJr hJo hJlo hJpk hfree hJtrig

omit hJlo hJpk hfree hJtrig in
theorem h6_tryParsers (parent : Nat) (blankLine continuable : Bool) (w : Int) :
    ∀ (bps : List BP), (∀ bp ∈ bps, Cov6 bp) → ∀ (result : OpenResult) (lastBlock : Option Block) (s s' : St)
      (x : TryOutcome × OpenResult × Option Block), J s → W6 ob p0 d0 L0 parent s →
      tryParsers parent blankLine continuable w bps result lastBlock s = .ok (x, s') →
      ∃ q, (∀ p', x.1 = .retry p' → J s') ∧ W6 ob p0 d0 L0 q s' ∧ ∀ p', x.1 = .retry p' → p' = q := by
  intro bps
  induction bps with
  | nil =>
    intro _ result lastBlock s s' x hj hw h
    unfold tryParsers at h
    cases h
    exact ⟨parent, (fun p' e => by cases e), hw, fun p' e => by cases e⟩
  | cons bp bps ih =>
    intro hb result lastBlock s s' x hj hw h
    have ih' := ih (fun b hb' => hb b (List.mem_cons_of_mem _ hb'))
    have hcov := hb bp List.mem_cons_self
    rw [tryParsers_cons] at h
    by_cases c1 : (continuable && result == OpenResult.noBlocksOpened && !bp.canInterruptParagraph) = true
    · rw [if_pos c1] at h; exact ih' result lastBlock s s' x hj hw h
    rw [if_neg c1] at h
    by_cases c2 : (decide (w > 3) && !bp.canAcceptIndentedLine) = true
    · rw [if_pos c2] at h; exact ih' result lastBlock s s' x hj hw h
    rw [if_neg c2] at h
    obtain ⟨x0, s1, h1, hA⟩ := bind_ok_inv h
    obtain ⟨ex0, e1⟩ := a2_lastOpenedBlock_inv h1
    subst e1
    obtain ⟨y, s2, h2, hB⟩ := bind_ok_inv hA
    have k2 := Sh.a2_bpOpen_KS bp parent _ _ _ hw.1 h2
    have lk := (bpOpen_frl bp parent).h _ _ _ h2
    have o2 := bpOpen_opened bp parent _ _ _ h2
    have hw2 := hw.links k2.1 lk o2
    have hj2' : y.2.hasChildren = true → J s2 := fun hc => hJo bp hcov parent _ _ _ hj h2 (Or.inr hc)
    have hjn : y.1 = none → J s2 := fun hn => hJo bp hcov parent _ _ _ hj h2 (Or.inl hn)
    have hrp := (h6_open_norp bp hcov parent).h _ _ _ h2
    cases hy : y.1 with
    | none =>
      rw [hy] at hB
      exact ih' result x0 s2 s' x (hjn hy) hw2 hB
    | some node =>
      rw [hy] at hB
      have hy' : y = (some node, y.2) := by rw [← hy]
      rw [hy'] at h2
      obtain ⟨f1, f2, f3, _⟩ := Sh.bpOpen_fresh bp parent _ _ node y.2 h2
      have hp := hw.2.2.2.1
      have hl := hw.2.2.1
      obtain ⟨a, b, c⟩ := h6_tpSome (J := fun t => y.2.hasChildren = true → J t)
        (fun t t' ht e hc => hJr t t' (ht hc) e) parent node bp hcov y.2 hrp x0 blankLine _ s2 s' x hj2' hw2 (by omega) f2 f3
        (by omega) (fun z hz => by
          rw [o2] at hz
          have := (hw.1.opened z hz).2
          omega) (by rw [o2]; exact congrArg _ ex0) hB
      exact ⟨node, fun p' e => a ((gp_tpSome_ret parent node bp y.2 x0 blankLine _).h _ _ _ hB p' e).2, b, c⟩

omit hJr hJo hJlo hJpk hfree hJtrig in
theorem h6_toContinuable (continuable : Bool) (result : OpenResult) (lastBlock : Option Block) (p : Nat) (s s' : St)
    (x : OpenResult) (hw : W6 ob p0 d0 L0 p s) (hlb : ∀ l, lastBlock = some l → 0 < l.node)
    (h : toContinuable continuable result lastBlock s = .ok (x, s')) : W6 ob p0 d0 L0 p s' := by
  unfold toContinuable at h
  by_cases hc : (result == OpenResult.noBlocksOpened && continuable) = true
  · rw [if_pos hc] at h
    cases lastBlock with
    | none =>
      obtain ⟨_, _, h3, _⟩ := bind_ok_inv h
      cases h3
    | some lb =>
      obtain ⟨st, s1, h1, hA⟩ := bind_ok_inv h
      have k1 := Sh.a2_bpContinue_KS lb.bp lb.node (hlb lb rfl) _ _ _ hw.1 h1
      have lk := (bpContinue_frl lb.bp lb.node).h _ _ _ h1
      have o1 := bpContinue_opened lb.bp lb.node _ _ _ h1
      have hw1 := hw.links k1.1 lk o1
      by_cases hcont : st.cont = true
      · rw [if_pos hcont] at hA; cases hA; exact hw1
      · rw [if_neg hcont] at hA; cases hA; exact hw1
  · rw [if_neg hc] at h
    cases h
    exact hw

theorem h6_openBlocksLoop (blankLine continuable : Bool) :
    ∀ (fuel parent : Nat) (result : OpenResult) (lastBlock : Option Block) (s s' : St) (x : OpenResult),
      J s → W6 ob p0 d0 L0 parent s → (∀ l, lastBlock = some l → 0 < l.node) →
      openBlocksLoop blankLine continuable fuel parent result lastBlock s = .ok (x, s') →
      ∃ q, W6 ob p0 d0 L0 q s' := by
  intro fuel
  induction fuel with
  | zero =>
    intro parent result lastBlock s s' x _ _ _ h
    unfold openBlocksLoop at h
    cases h
  | succ fuel ih =>
    intro parent result lastBlock s s' x hj hw hlb h
    rw [openBlocksLoop_succ] at h
    obtain ⟨lp, s1, h1, hA⟩ := bind_ok_inv h
    have hj1 := hJpk s lp s1 hj h1
    have m1 : Sh.Same s s1 := peekLine_keeps (Sh.a2_same_noR s) s _ s1 ⟨rfl, rfl⟩ h1
    obtain ⟨lo, s2, h2, hB⟩ := bind_ok_inv hA
    have hj2 : J s2 := hJlo _ _ _ hj1 h2
    have m2 : Sh.Same s s2 := lineOffset_keeps (Sh.a2_same_noR s) s1 _ s2 m1 h2
    obtain ⟨_, s3, h3, hC⟩ := bind_ok_inv hB
    have e3 := a2_modPc_inv h3
    have hj3 : J s3 := hJr _ _ hj2 (by rw [e3])
    have m3 : Sh.Same s s3 := by
      subst e3
      refine ⟨m2.1, ?_⟩
      show (ite _ _ _ : Ctx).opened = _
      split
      · exact m2.2
      · exact m2.2
    have hw3 : W6 ob p0 d0 L0 parent s3 :=
      hw.links (Sh.a2_KS_same hw.1 m3).1 (LinksKept.of_nodes m3.1) m3.2
    have try6 : ∀ (w : Int) (bps : List BP), (∀ bp ∈ bps, Cov6 bp) →
        oblTry blankLine continuable fuel parent w result lastBlock bps s3 = .ok (x, s') →
        ∃ q, W6 ob p0 d0 L0 q s' := by
      intro w bps hb e
      unfold oblTry at e
      obtain ⟨s0, t1, g1, gA⟩ := bind_ok_inv e
      cases g1
      obtain ⟨y, t2, g2, gB⟩ := bind_ok_inv gA
      obtain ⟨q, hjq, hwq, hr⟩ := h6_tryParsers hJr hJo parent blankLine continuable w bps hb result lastBlock _ _ _ hj3 hw3 g2
      obtain ⟨_, _, hl2⟩ := Sh.a2_tryParsers parent blankLine continuable w bps result lastBlock _ _ _ hw3.1
        hw3.2.2.2.1 hlb g2
      cases hy : y.1 with
      | done =>
        rw [hy] at gB
        exact ⟨q, h6_toContinuable continuable y.2.1 y.2.2 q _ _ _ hwq hl2 gB⟩
      | retry p' =>
        rw [hy] at gB
        obtain ⟨t3, t4, g3, gC⟩ := bind_ok_inv gB
        cases g3
        have := hr p' hy
        subst this
        split at gC
        · obtain ⟨_, _, g4, _⟩ := bind_ok_inv gC
          cases g4
        · exact ih p' y.2.1 y.2.2 _ _ _ (hjq p' hy) hwq hl2 gC
    by_cases c1 : lp.1.isNone = true
    · rw [if_pos c1] at hC
      exact ⟨parent, h6_toContinuable _ _ _ _ _ _ _ hw3 hlb hC⟩
    rw [if_neg c1] at hC
    obtain ⟨c0, s4, h4, hD⟩ := bind_ok_inv hC
    obtain ⟨_, e4⟩ := liftE_ok_inv h4
    subst e4
    by_cases c2 : (c0 == 10) = true
    · rw [if_pos c2] at hD
      exact ⟨parent, h6_toContinuable _ _ _ _ _ _ _ hw3 hlb hD⟩
    rw [if_neg c2] at hD
    split at hD
    · obtain ⟨c, s5, h5, hE⟩ := bind_ok_inv hD
      obtain ⟨ec, e5⟩ := liftE_ok_inv h5
      subst e5
      obtain ⟨l, hl⟩ : ∃ l, lp.1 = some l := by
        cases hq : lp.1 with
        | none => rw [hq] at c1; exact absurd rfl c1
        | some l => exact ⟨l, rfl⟩
      have ec' : idx l (indentWidthI l lo).2 = .ok c := by rw [hl] at ec; exact ec
      exact try6 _ _ (hJtrig s s1 lp l lo c hj h1 hl ec') hE
    · exact try6 _ _ hfree hD

/-- `openBlocks` over an attached stack of `Cov6` blocks only pushes blocks -/
theorem h6_openBlocks (p0 : Nat) (blank : Bool) (s s' : St) (r : OpenResult) (hj : J s) (hk : K s)
    (hatt : ∀ x ∈ s.pc.opened, (nd s x.node).parent.isSome = true ∧ Cov6 x.bp) (hp0 : p0 < s.nodes.length)
    (h : openBlocks p0 blank s = .ok (r, s')) :
    ∃ q, W6 s.pc.opened p0 (nd s 0).children s.nodes.length q s' := by
  have hw : W6 s.pc.opened p0 (nd s 0).children s.nodes.length p0 s :=
    ⟨hk, hatt, Nat.le_refl _, hp0, ⟨[], (List.append_nil _).symm, (fun x hx => by cases hx), rfl, rfl⟩⟩
  unfold openBlocks at h
  obtain ⟨x0, s1, h1, hA⟩ := bind_ok_inv h
  obtain ⟨ex0, e1⟩ := a2_lastOpenedBlock_inv h1
  subst e1
  have hlb0 : ∀ l, x0 = some l → 0 < l.node := by
    intro l hl
    rw [ex0] at hl
    exact (hk.opened l (List.mem_of_getLast? hl)).1
  have fin : ∀ c, (do
        let src ← source
        openBlocksLoop blank c (retryFuel src) p0 OpenResult.noBlocksOpened x0) s1 = .ok (r, s') →
      ∃ q, W6 s1.pc.opened p0 (nd s1 0).children s1.nodes.length q s' := by
    intro c hB
    obtain ⟨src', s3, h3, hC⟩ := bind_ok_inv hB
    cases h3
    exact h6_openBlocksLoop hJr hJo hJlo hJpk hfree hJtrig blank c _ p0 _ x0 _ _ _ hj hw hlb0 hC
  cases x0 with
  | none => exact fin false hA
  | some lb =>
    obtain ⟨n, s3, h3, hC⟩ := bind_ok_inv hA
    obtain ⟨_, e3⟩ := a2_getNode_inv h3
    subst e3
    exact fin _ hC

/-- `openBlocks 0` on an empty stack: the first block it opens is the Document's last child, every open block is attached and
    `Cov6` -/
theorem top_att_openBlocks0J (blank : Bool) (s s' : St) (r : OpenResult) (hk : K s) (hop : s.pc.opened = []) (hj : J s)
    (h : openBlocks 0 blank s = .ok (r, s')) :
    TopLast s' ∧ ∀ z ∈ s'.pc.opened, (nd s' z.node).parent.isSome = true ∧ Cov6 z.bp := by
  obtain ⟨q, hw⟩ := h6_openBlocks hJr hJo hJlo hJpk hfree hJtrig 0 blank s s' r hj hk
    (fun y hy => by rw [hop] at hy; cases hy) hk.doc.1 h
  rw [hop] at hw
  exact ⟨hw.topLast_zero, hw.2.1⟩

end j

theorem w6D_pos {p0 : Nat} (h : 0 < p0) (d0 : List Nat) (new : List Block) : w6D p0 d0 new = d0 := by
  cases new with
  | nil => rfl
  | cons n0 more => show (if p0 = 0 then _ else _) = _; rw [if_neg (by omega)]

/-- after `openBlocks p0` with `p0 ≠ 0` the stack is the old one plus pushed blocks, the Document's children are the same -/
theorem W6.topLast_pos {ob : List Block} {p0 L0 q : Nat} {d0 : List Nat} {t : St} (h : W6 ob p0 d0 L0 q t)
    (hp0 : 0 < p0) (b0 : Block) (rest : List Block) (hob : ob = b0 :: rest) (hd0 : d0.getLast? = some b0.node) :
    TopLast t ∧ tl_Last b0.node t ∧ t.pc.opened.head? = some b0 := by
  obtain ⟨_, _, _, _, new, e1, _, e3, _⟩ := h
  rw [w6D_pos hp0] at e3
  have hl : tl_Last b0.node t := by
    show (nd t 0).children.getLast? = _
    rw [e3]; exact hd0
  have hh : t.pc.opened.head? = some b0 := by rw [e1, hob]; rfl
  refine ⟨fun b hb => ?_, hl, hh⟩
  rw [hh] at hb
  cases hb
  exact hl

end GM.Blocks.Xs
