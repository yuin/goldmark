/-
  GM.Proof.BlocksSpecCode — the indented code block parser (code_block.go) meets the block-parser contracts of
  GM.Proof.BlocksInv: `codeOpen_spec : OpenSpec src .code`, `codeContinue_spec : ContSpec src .code`,
  `codeClose_spec : CloseSpec src .code`.
-/
import GM.Proof.BlocksInv
import GM.Proof.BlocksQuote
namespace GM.Blocks
open GM GM.Text GM.Spec GM.Proof.Reader

/-! ### util.IndentPosition -/

theorem ippLoop_ge (cur width : Int) (bs : Bytes) (i p w : Int) :
    i ≤ (ippLoop cur width bs i p w).1 ∧ (ippLoop cur width bs i p w).1 ≤ i + bs.length := by
  obtain ⟨n, e, hn, _⟩ := ippLoop_passed cur width bs i p w
  omega

theorem ippLoop_eq (cur width : Int) (bs : Bytes) (i p w : Int)
    (h : (ippLoop cur width bs i p w).1 = i) : (ippLoop cur width bs i p w).2 = w := by
  obtain ⟨n, e, _, _, h0, _⟩ := ippLoop_passed cur width bs i p w
  exact h0 (by omega)

theorem isBlank_cons (b : UInt8) (bs : Bytes) : isBlank (b :: bs) = (isSpace b && isBlank bs) := by
  simp [isBlank]

/-- without padding the loop only walks over spaces and tabs: it stops in front of the first other byte -/
theorem ippLoop_lt (cur width : Int) (bs : Bytes) (i p w : Int) (hp : p ≤ 0) (hb : isBlank bs = false) :
    (ippLoop cur width bs i p w).1 < i + bs.length := by
  obtain ⟨n, e, hn, hpass, _⟩ := ippLoop_passed cur width bs i p w
  obtain ⟨x, hx, hsp⟩ := List.all_eq_false.mp hb
  obtain ⟨k, hk, rfl⟩ := List.getElem_of_mem hx
  by_cases hkn : k < n
  · obtain ⟨y, hy, h⟩ := hpass k (by omega) hkn
    rw [List.getElem?_eq_getElem hk] at hy; cases hy
    rcases h with h | h <;> rw [h] at hsp <;> exact absurd rfl hsp
  · omega

/-- util.IndentPosition(line, lo, 4) when it answers a position -/
theorem indentPosition_bounds (line : Bytes) (lo : Int) (h : 0 ≤ (indentPosition line lo 4).1) :
    (indentPosition line lo 4).1 ≤ line.length ∧ 0 ≤ (indentPosition line lo 4).2 ∧
    (isBlank line = false → (indentPosition line lo 4).1 < line.length) ∧
    (0 < (indentPosition line lo 4).2 → 1 ≤ (indentPosition line lo 4).1) := by
  unfold indentPosition indentPositionPadding at h ⊢
  have hw : ((4 : Int) == 0) = false := by decide
  simp only [hw, Bool.false_eq_true, if_false] at h ⊢
  have hge := ippLoop_ge lo 4 line 0 0 0
  by_cases hc : (ippLoop lo 4 line 0 0 0).2 ≥ 4
  · rw [if_pos hc]
    simp only
    refine ⟨by omega, by omega, fun hb => ?_, fun hp => ?_⟩
    · have := ippLoop_lt lo 4 line 0 0 0 (Int.le_refl _) hb; omega
    · rcases Int.lt_or_le 0 (ippLoop lo 4 line 0 0 0).1 with h1 | h1
      · omega
      · have := ippLoop_eq lo 4 line 0 0 0 (by omega); omega
  · rw [if_neg hc] at h; simp at h

/-! ### Segment.TrimLeftSpaceWidth -/

theorem tlswLoop_bounds (stop : Int) : ∀ (bs : Bytes) (start width : Int), start ≤ stop →
    start ≤ (tlswLoop stop bs start width).1 ∧ (tlswLoop stop bs start width).1 ≤ stop := by
  intro bs
  induction bs with
  | nil => intro start width h; simp [tlswLoop]; exact h
  | cons c cs ih =>
    intro start width h
    unfold tlswLoop
    split
    · exact ⟨Int.le_refl _, h⟩
    · rename_i h1
      have hlt : start < stop - 1 := by
        simp only [Bool.or_eq_true, decide_eq_true_eq, not_or] at h1; omega
      split
      · have := ih (start + 1) (width - 1) (by omega); omega
      · split
        · have := ih (start + 1) (width - 4) (by omega); omega
        · exact ⟨Int.le_refl _, h⟩

theorem trimLeftSpaceWidth_ok {src : Bytes} {t : Segment} (h : SegOK src t) (width : Int) :
    ∃ t', t.trimLeftSpaceWidth width src = .ok t' ∧ SegOK src t' := by
  obtain ⟨h0, h1, h2, h3⟩ := h
  unfold Segment.trimLeftSpaceWidth
  have hp : 0 ≤ (tlswPad width t.padding).2 := by
    unfold tlswPad
    split
    · exact h3
    · split
      · omega
      · split <;> simp only <;> omega
  generalize tlswPad width t.padding = wp at hp
  obtain ⟨w, p⟩ := wp
  simp only at hp ⊢
  by_cases hw : (w == 0) = true
  · rw [if_pos hw]
    exact ⟨_, rfl, h0, h1, h2, hp⟩
  · rw [if_neg hw, sliceB_ok src h0 h1 h2]
    simp only [bind, Except.bind, pure, Except.pure]
    have hb := tlswLoop_bounds t.stop (sub src t.start.toNat t.stop.toNat) t.start w h1
    generalize tlswLoop t.stop (sub src t.start.toNat t.stop.toNat) t.start w = sw at hb
    obtain ⟨st, w'⟩ := sw
    simp only at hb ⊢
    refine ⟨_, rfl, by simp only; omega, by simp only; omega, h2, ?_⟩
    simp only
    split <;> omega

theorem nd_set (l : List Node) (i j : Nat) (x : Node) (hi : i < l.length) :
    (l.set i x).getD j default = if i = j then x else l.getD j default := by
  simp only [List.getD_eq_getElem?_getD, List.getElem?_set, hi, if_true]
  split <;> rfl

/-- `node.Lines().Append(seg)` on an existing node -/
theorem ext_appendLine (s : St) (node : Nat) (seg : Segment) (r' : Reader) (pc' : Ctx) (hlt : node < s.nodes.length) :
    Ext s { r := r', nodes := s.nodes.set node { (s.nodes.getD node default) with
              lines := (s.nodes.getD node default).lines ++ [seg], linesNil := false }, pc := pc' } where
  len := by simp
  kind := fun i _ => by
    simp only [nd, nd_set _ _ _ _ hlt]
    split
    · rename_i e; subst e; rfl
    · rfl
  linesNE := fun i _ _ hl => by
    simp only [nd, nd_set _ _ _ _ hlt] at hl ⊢
    split
    · simp
    · exact hl

theorem nodesOK_appendLine {src : Bytes} {s : St} (h : NodesOK src s) (node : Nat) {seg : Segment}
    (hseg : SegOK src seg) (r' : Reader) (pc' : Ctx) :
    NodesOK src { r := r', nodes := s.nodes.set node { (s.nodes.getD node default) with
              lines := (s.nodes.getD node default).lines ++ [seg], linesNil := false }, pc := pc' } := by
  intro n hn
  rcases List.mem_or_eq_of_mem_set hn with h1 | h1
  · exact h n h1
  · subst h1
    have hnd := nodeOK_nd h node
    refine ⟨?_, fun hh => by simp at hh⟩
    intro t ht
    simp only [List.mem_append, List.mem_singleton] at ht
    rcases ht with ht | ht
    · exact hnd.lines t ht
    · subst ht; exact hseg

/-! ### preserveLeadingTabInCodeBlock -/

theorem colLoop_total (src : Bytes) (head start : Int) (h0 : 0 ≤ head) (h1 : start ≤ src.length) :
    ∃ v, colLoop src head start = .ok v := by
  unfold colLoop
  by_cases hc : head ≥ start
  · exact ⟨0, by rw [if_pos hc]⟩
  · rw [if_neg hc, if_neg (by omega)]; exact ⟨_, rfl⟩

/-- `SetPosition` with what `Position` returned at an `RI` reader, on any reader over the same source -/
theorem ri_setPosition_restore {src : Bytes} {r : Reader} {c : RCur} (h : RI src r c) (r3 : Reader)
    (hs : r3.source = src) : RI src (r3.setPosition r.line r.pos) c := by
  have h0 := setPosition_ref h.abs (rcur_setPosition_seg src c c h.inRange)
  have hl : r.line = c.ln := h.abs.line
  have hp : r.pos = RCur.seg src c := h.pos
  have hsrc : r.source = src := h.source
  have e : r3.setPosition r.line r.pos = (clearLo r).setPosition c.ln (RCur.seg src c) := by
    unfold Reader.setPosition Reader.sourceLength clearLo
    simp only [hl, hp, hs, hsrc]
  rw [e]
  refine RI.of_abs h0 ?_
  unfold Reader.setPosition
  simp only
  split
  · omega
  · simp [RCur.seg]

theorem lineOffset_raw (s : St) (v : Nat) (hlo : s.r.lineOffset < 0)
    (hv : colLoop s.r.source s.r.head s.r.pos.start = .ok v) :
    lineOffset s = .ok ((v : Int) - s.r.pos.padding,
      { s with r := { s.r with lineOffset := (v : Int) - s.r.pos.padding } }) := by
  unfold GM.Blocks.lineOffset Reader.lineOffsetOp
  rw [if_pos hlo, hv]
  rfl

theorem preserveLeadingTab_okl {src} {s : St} {c : RCur} (h : RI src s.r c) (hp1 : 1 ≤ c.p) (segment : Segment)
    (indent : Int) :
    OKL (fun seg s' => (seg = segment ∨ seg = { segment with padding := 0, start := segment.start - 1 }) ∧
        ∃ r', s' = { s with r := r' } ∧ RI src r' c)
      (preserveLeadingTab segment indent s) := by
  unfold preserveLeadingTab
  refine OKL.bind (lineOffset_okl h) (fun v s1 hv => ?_)
  obtain ⟨_, r1, hs1, h1⟩ := hv
  subst hs1
  refine OKL.bind (m := position) (P := fun x s' => x = (r1.line, r1.pos) ∧ s' = { s with r := r1 })
    (OKL.ok ⟨rfl, rfl⟩) (fun x s2 hx => ?_)
  obtain ⟨hx, hs2⟩ := hx
  subst hx hs2
  simp only
  have hpos := h1.pos
  have hle := lineEnd_le src c.p
  have hge := lineEnd_ge src h1.inRange
  have hin := h1.inRange
  -- the reader one byte back
  generalize hr2 : r1.setPosition r1.line { start := r1.pos.start - 1, stop := r1.pos.stop } = r2
  have hr2s : r2.source = src := by rw [← hr2]; exact h1.source
  have hr2lo : r2.lineOffset < 0 := by rw [← hr2]; simp [Reader.setPosition]
  have hr2st : r2.pos.start = (c.p : Int) - 1 := by rw [← hr2]; simp [Reader.setPosition, hpos]
  have hr2hd : 0 ≤ r2.head := by
    rw [← hr2]; unfold Reader.setPosition; simp only [hpos]; split <;> omega
  obtain ⟨cv, hcv⟩ := colLoop_total src r2.head r2.pos.start hr2hd (by rw [hr2st]; omega)
  refine OKL.bind (m := setPosition r1.line { start := r1.pos.start - 1, stop := r1.pos.stop })
    (P := fun _ s' => s' = { s with r := r2 }) (OKL.ok (by rw [← hr2])) (fun _ s3 hs3 => ?_)
  subst hs3
  have hlo := lineOffset_raw { s with r := r2 } cv hr2lo (by simp only [hr2s]; exact hcv)
  refine OKL.bind (P := fun _ s' => ∃ r3, s' = { s with r := r3 } ∧ r3.source = src)
    (by rw [hlo]; exact OKL.ok ⟨_, rfl, hr2s⟩) (fun lo s4 hs4 => ?_)
  obtain ⟨r3, hs4, hr3⟩ := hs4
  subst hs4
  simp only [bind, StateT.bind, setPosition, pure, StateT.pure, Except.bind, Except.pure]
  refine OKL.ok ⟨?_, _, rfl, ri_setPosition_restore h1 r3 hr3⟩
  split
  · exact .inr rfl
  · exact .inl rfl

/-! ### codeBlockParser -/

/-- the cursor after `AdvanceAndSetPadding(pos, padding)` inside the line -/
theorem advPadCur_within {src : Bytes} {c : RCur} (hp : c.p < src.length) (hpad : PadOK c) {pos padding : Int}
    (hlt : pos.toNat + 1 ≤ c.pad + (lineEnd src c.p - c.p)) (hpp : 0 < padding → 1 ≤ pos) :
    (advPadCur src pos padding c).p < src.length ∧ c.p ≤ (advPadCur src pos padding c).p ∧
      PadOK (advPadCur src pos padding c) := by
  obtain ⟨i1, i2, _, _, _, i6⟩ := advN_within src pos.toNat c hp hlt
  unfold advPadCur PadOK
  simp only
  split
  · rename_i hgt
    simp only
    refine ⟨i6, by omega, fun _ => ?_⟩
    by_cases hz : c.pad = 0
    · have := hpp (by omega); omega
    · have := hpad hz; omega
  · refine ⟨i6, by omega, fun hne => ?_⟩
    have : c.pad ≠ 0 := by omega
    have := hpad this; omega

theorem codeTakeLine_okl {src} {s : St} {c : RCur} (h : RI src s.r c) (hp : c.p < src.length) (hpad : PadOK c)
    (node : Nat) {pos padding : Int} (h0 : 0 ≤ pos) (hlt : pos.toNat + 1 ≤ c.pad + (lineEnd src c.p - c.p))
    (hpp : 0 < padding → 1 ≤ pos) :
    OKL (fun _ s' => ∃ r' c' seg, s' = { s with r := r', nodes := (s.nodes.set node
            { (s.nodes.getD node default) with
                lines := (s.nodes.getD node default).lines ++ [seg], linesNil := false }) } ∧
          RI src r' c' ∧ PadOK c' ∧ c.p ≤ c'.p ∧ SegOK src seg)
      (codeTakeLine node pos padding s) := by
  unfold codeTakeLine
  refine OKL.bind (advanceAndSetPadding_okl h h0 padding) (fun _ s1 hs1 => ?_)
  obtain ⟨r1, hs1, h1⟩ := hs1
  subst hs1
  obtain ⟨hc1, hmono, hpad1⟩ := advPadCur_within hp hpad hlt hpp
  generalize advPadCur src pos padding c = c1 at h1 hc1 hmono hpad1
  refine OKL.bind (peekLine_okl (s := { s with r := r1 }) h1) (fun x s2 hx => ?_)
  obtain ⟨hx, r2, hs2, h2⟩ := hx
  subst hx hs2
  simp only
  have hle := lineEnd_le src c1.p
  have hlte := lt_lineEnd src hc1
  have tail : ∀ (seg : Segment) (r3 : Reader), SegOK src seg → 1 ≤ seg.len → RI src r3 c1 →
      OKL (fun _ s' => ∃ r' c' seg, s' = { s with r := r', nodes := (s.nodes.set node
            { (s.nodes.getD node default) with
                lines := (s.nodes.getD node default).lines ++ [seg], linesNil := false }) } ∧
          RI src r' c' ∧ PadOK c' ∧ c.p ≤ c'.p ∧ SegOK src seg)
        ((appendLine node { seg with forceNewline := true } >>= fun _ =>
            advance (({ seg with forceNewline := true } : Segment).len - 1)) { s with r := r3 }) := by
    intro seg r3 hok hlen h3
    refine OKL.bind (m := appendLine node { seg with forceNewline := true })
      (P := fun _ s' => s' = { s with r := r3, nodes := (s.nodes.set node
            { (s.nodes.getD node default) with
                lines := (s.nodes.getD node default).lines ++ [{ seg with forceNewline := true }],
                linesNil := false }) })
      (OKL.ok rfl) (fun _ s4 hs4 => ?_)
    subst hs4
    have hlen' : 0 ≤ ({ seg with forceNewline := true } : Segment).len - 1 := by
      unfold Segment.len at hlen ⊢; simp only; omega
    refine (advance_okl (s := { s with r := r3, nodes := (s.nodes.set node
            { (s.nodes.getD node default) with
                lines := (s.nodes.getD node default).lines ++ [{ seg with forceNewline := true }],
                linesNil := false }) }) h3 hlen').mono (fun _ s5 hs5 => ?_)
    obtain ⟨r5, hs5, h5⟩ := hs5
    refine ⟨r5, _, { seg with forceNewline := true }, hs5, h5, hpad1.advN h3.inRange _, ?_, hok⟩
    have := (advN_mono src (({ seg with forceNewline := true } : Segment).len - 1).toNat c1 h3.inRange).1
    omega
  by_cases hpd : ((RCur.seg src c1).padding != 0) = true
  · rw [if_pos hpd]
    have hne : c1.pad ≠ 0 := by
      intro e; simp [RCur.seg, e] at hpd
    have hp1 := hpad1 hne
    refine OKL.bind (preserveLeadingTab_okl (s := { s with r := r2 }) h2 hp1 (RCur.seg src c1) 0)
      (fun seg s3 hq => ?_)
    obtain ⟨hseg, r3, hs3, h3⟩ := hq
    subst hs3
    refine tail seg r3 ?_ ?_ h3
    · rcases hseg with e | e <;> rw [e] <;> unfold SegOK RCur.seg <;> simp only <;> omega
    · rcases hseg with e | e <;> rw [e] <;> unfold Segment.len RCur.seg <;> simp only <;> omega
  · rw [if_neg hpd]
    refine tail (RCur.seg src c1) r2 (seg_ok src c1 h1.inRange) ?_ h2
    unfold Segment.len RCur.seg; simp only; omega

theorem codeOpen_spec (src : Bytes) : OpenSpec src .code := by
  intro parent s c hctx
  show OKL _ (codeOpen parent s)
  obtain ⟨h, hp, hpad, _, hnodes⟩ := hctx
  unfold codeOpen
  refine OKL.bind (peekLine_okl h) (fun x s1 hx => ?_)
  obtain ⟨hx, r1, hs1, h1⟩ := hx
  subst hx hs1
  simp only
  refine OKL.bind (lineOffset_okl (s := { s with r := r1 }) h1) (fun lo s2 hlo => ?_)
  obtain ⟨_, r2, hs2, h2⟩ := hlo
  subst hs2
  simp only
  have hvl := view_getD_length_nat src c hp
  generalize hline : (RCur.view src c).getD [] = line at hvl ⊢
  have hb := indentPosition_bounds line lo
  generalize indentPosition line lo 4 = pp at hb ⊢
  obtain ⟨pos, padding⟩ := pp
  simp only at hb ⊢
  by_cases hc : (decide (pos < 0) || isBlank line) = true
  · rw [if_pos hc]
    refine OKL.ok ?_
    exact { ri := ⟨c, h2, hpad, Nat.le_refl _, fun _ => rfl, fun hh => (by cases hh)⟩,
            opened := rfl, boff := rfl, noNode := fun _ => rfl, newNode := fun id hid => (by cases hid),
            tmp := .inr ⟨.inl (by decide), rfl⟩, fence := .inr ⟨.inl (by decide), rfl⟩,
            req := fun hh => (by cases hh), kids := fun hh => (by cases hh) }
  · rw [if_neg hc]
    have hpos0 : 0 ≤ pos := by
      rcases Int.lt_or_le pos 0 with hh | hh
      · exfalso; apply hc; simp [hh]
      · exact hh
    have hnb : isBlank line = false := by
      cases hbl : isBlank line with
      | true => exfalso; apply hc; simp [hbl]
      | false => rfl
    obtain ⟨hb1, hb2, hb3, hb4⟩ := hb hpos0
    have hlt := hb3 hnb
    refine OKL.bind (m := newNode { kind := Kind.codeBlock })
      (P := fun id s' => id = s.nodes.length ∧
        s' = { s with r := r2, nodes := s.nodes ++ [({ kind := Kind.codeBlock } : Node)] })
      (OKL.ok ⟨rfl, rfl⟩) (fun id s3 hs3 => ?_)
    obtain ⟨hid, hs3⟩ := hs3
    subst hid hs3
    refine OKL.bind (codeTakeLine_okl (src := src) (c := c)
      (s := { s with r := r2, nodes := s.nodes ++ [({ kind := Kind.codeBlock } : Node)] }) h2 hp hpad
      s.nodes.length hpos0 (by omega) hb4) (fun _ s4 hs4 => ?_)
    obtain ⟨r4, c4, seg, hs4, h4, hpad4, hmono, hseg⟩ := hs4
    subst hs4
    refine OKL.ok ?_
    simp only [getD_length_append, set_length_append]
    exact { ri := ⟨c4, h4, hpad4, hmono, fun hh => (by cases hh), fun hh => (by cases hh)⟩,
            opened := rfl, boff := rfl, noNode := fun hh => (by cases hh),
            newNode := fun id hid => by
              cases hid
              refine ⟨rfl, _, rfl, rfl, ⟨?_, fun hh => (by cases hh)⟩, rfl, fun hh => (by cases hh), fun hh => (by cases hh)⟩
              intro t ht
              simp only [List.nil_append, List.mem_singleton] at ht
              subst ht; exact hseg
            tmp := .inr ⟨.inl (by decide), rfl⟩, fence := .inr ⟨.inl (by decide), rfl⟩,
            req := fun hh => (by cases hh), kids := fun hh => (by cases hh) }

theorem W.codeContinue_spec (src : Bytes) : W.ContSpecW src .code := by
  intro node s c h hpad hp hnodes _ hblock
  show OKL _ (codeContinue node s)
  have hnlt : node < s.nodes.length := hblock.lt
  unfold codeContinue
  refine OKL.bind (peekLine_okl h) (fun x s1 hx => ?_)
  obtain ⟨hx, r1, hs1, h1⟩ := hx
  subst hx hs1
  simp only
  have hvl := view_getD_length_nat src c hp
  generalize hline : (RCur.view src c).getD [] = line at hvl ⊢
  by_cases hbl : isBlank line = true
  · rw [if_pos hbl]
    obtain ⟨t', ht, hok⟩ := trimLeftSpaceWidth_ok (seg_ok src c h.inRange) 4
    refine OKL.bind (m := source) (P := fun v s' => v = src ∧ s' = { s with r := r1 })
      (OKL.ok ⟨h1.source, rfl⟩) (fun v s2 hv => ?_)
    obtain ⟨hv, hs2⟩ := hv
    subst hs2
    rw [hv]
    refine OKL.bind (liftE_okl (P := fun a s' => a = t' ∧ s' = { s with r := r1 }) ht ⟨rfl, rfl⟩)
      (fun a s3 ha => ?_)
    obtain ⟨ha, hs3⟩ := ha
    subst ha hs3
    simp only [bind, StateT.bind, appendLine, modNode, pure, StateT.pure, Except.bind, Except.pure]
    refine OKL.ok ?_
    exact { ria := ⟨c, h1.toRIa, hpad, Nat.le_refl _, Nat.le_of_lt hp, .inr h1⟩,
            pc := rfl, ext := ext_appendLine s node a r1 s.pc hnlt,
            nodes := nodesOK_appendLine hnodes node hok r1 s.pc,
            leaf := fun _ => rfl, cont := fun hh => (by cases hh) }
  · rw [if_neg hbl]
    have hnb : isBlank line = false := by
      cases hh : isBlank line with
      | true => exact absurd hh hbl
      | false => rfl
    refine OKL.bind (lineOffset_okl (s := { s with r := r1 }) h1) (fun lo s2 hlo => ?_)
    obtain ⟨_, r2, hs2, h2⟩ := hlo
    subst hs2
    simp only
    have hb := indentPosition_bounds line lo
    generalize indentPosition line lo 4 = pp at hb ⊢
    obtain ⟨pos, padding⟩ := pp
    simp only at hb ⊢
    by_cases hc : pos < 0
    · rw [if_pos hc]
      refine OKL.ok ?_
      exact { ria := ⟨c, h2.toRIa, hpad, Nat.le_refl _, Nat.le_of_lt hp, .inr h2⟩,
              pc := rfl, ext := Ext.of_nodes_eq rfl, nodes := hnodes,
              leaf := fun _ => rfl, cont := fun hh => (by cases hh) }
    · rw [if_neg hc]
      obtain ⟨hb1, hb2, hb3, hb4⟩ := hb (by omega)
      have hlt := hb3 hnb
      refine OKL.bind (codeTakeLine_okl (src := src) (c := c) (s := { s with r := r2 }) h2 hp hpad
        node (by omega) (by omega) hb4) (fun _ s4 hs4 => ?_)
      obtain ⟨r4, c4, seg, hs4, h4, hpad4, hmono, hseg⟩ := hs4
      subst hs4
      refine OKL.ok ?_
      exact { ria := ⟨c4, h4.toRIa, hpad4, hmono, h4.inRange, .inr h4⟩,
              pc := rfl, ext := ext_appendLine s node seg r4 s.pc hnlt,
              nodes := nodesOK_appendLine hnodes node hseg r4 s.pc,
              leaf := fun _ => rfl, cont := fun hh => (by cases hh) }

theorem codeContinue_spec (src : Bytes) : ContSpec src .code := (W.codeContinue_spec src).toSpec

/-- the loop of codeBlockParser.Close over lines inside the source -/
theorem codeTrimLoop_ok {src : Bytes} {ls : List Segment} (h : LinesOK src ls) : ∀ k : Nat, k ≤ ls.length →
    ∃ r, codeTrimLoop src ls k = .ok r ∧ -1 ≤ r ∧ r < k := by
  intro k
  induction k with
  | zero => intro _; exact ⟨-1, rfl, by omega, by omega⟩
  | succ k ih =>
    intro hk
    unfold codeTrimLoop
    have hlt : k < ls.length := by omega
    have hat : lineAt ls (k : Int) = .ok ls[k] := by
      unfold lineAt segAt
      have : ¬ ((k : Int) < 0) := by omega
      rw [if_neg this]; simp [List.getElem?_eq_getElem hlt]
    have hv := value_spec src ls[k] (h _ (List.getElem_mem hlt))
    simp only [bind, Except.bind, hat, hv, pure, Except.pure]
    split
    · obtain ⟨r, hr, h1, h2⟩ := ih (by omega); exact ⟨r, hr, h1, by omega⟩
    · exact ⟨k, rfl, by omega, by omega⟩

theorem W.codeClose_spec (src : Bytes) : W.CloseSpecW src .code := by
  intro node s hsrc hnodes _ hblock
  show OKL _ (codeClose node s)
  have hnlt : node < s.nodes.length := hblock.lt
  have hkind : (nd s node).kind = .codeBlock := hblock.kind
  have hnd := nodeOK_nd hnodes node
  obtain ⟨len, hlen, hl1, hl2⟩ := codeTrimLoop_ok hnd.lines (nd s node).lines.length (Nat.le_refl _)
  have hcond : ((nd s node).linesNil && (len + 1 != 0)) = false := by
    cases hn : (nd s node).linesNil with
    | false => rfl
    | true =>
      have := hnd.nil hn
      rw [this] at hl2
      have : len = -1 := by simp at hl2; omega
      subst this; rfl
  unfold codeClose
  simp only [nd] at hlen hcond
  simp only [bind, StateT.bind, getNode, source, pure, Except.bind, Except.pure, liftE, Except.map,
    hsrc, hlen, hcond, modNode, Bool.false_eq_true, if_false]
  refine OKL.ok ?_
  exact {
    r := rfl
    opened := rfl
    ext := {
      len := by simp
      kind := fun i _ => by
        simp only [nd, nd_set _ _ _ _ hnlt]
        split
        · rename_i e; subst e; rfl
        · rfl
      linesNE := fun i _ hk hl => by
        simp only [nd, nd_set _ _ _ _ hnlt] at hl hk ⊢
        split
        · rename_i e; subst e; exact absurd hkind hk
        · exact hl }
    nodes := by
      intro n hn
      rcases List.mem_or_eq_of_mem_set hn with h1 | h1
      · exact hnodes n h1
      · subst h1
        refine ⟨fun t ht => hnd.lines t (List.mem_of_mem_take ht), fun hh => ?_⟩
        have : (nd s node).lines = [] := hnd.nil hh
        simp only [nd] at this
        show List.take _ (s.nodes.getD node default).lines = []
        rw [this, List.take_nil]
    tmp := .inl rfl
    fence := .inl rfl
    para := fun hh => (by cases hh) }

theorem codeClose_spec (src : Bytes) : CloseSpec src .code := (W.codeClose_spec src).toSpec

end GM.Blocks
