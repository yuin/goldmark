import GM.Model.Once

namespace GM.Once

def isInit : Pc → Bool | .init _ => true | _ => false
/-- has not yet returned from `Do` and is not the initialiser -/
def quiet : Pc → Bool | .start => true | .blocked => true | _ => false

def partialTable (cfg : List Nat) (k : Nat) : List (Option Nat) :=
  (cfg.take k).map some ++ List.replicate (cfg.length - k) none

theorem partialTable_zero (cfg : List Nat) : partialTable cfg 0 = List.replicate cfg.length none := by
  simp [partialTable]

theorem partialTable_full (cfg : List Nat) : partialTable cfg cfg.length = cfg.map some := by
  simp [partialTable]

theorem partialTable_length (cfg : List Nat) (k : Nat) (h : k ≤ cfg.length) :
    (partialTable cfg k).length = cfg.length := by
  simp [partialTable]; omega

theorem partialTable_set (cfg : List Nat) (k : Nat) (h : k < cfg.length) :
    (partialTable cfg k).set k (some (cfg.getD k 0)) = partialTable cfg (k + 1) := by
  induction cfg generalizing k with
  | nil => simp at h
  | cons c cs ih =>
    cases k with
    | zero => simp [partialTable, List.replicate_succ]
    | succ k =>
      have hk : k < cs.length := by simpa using h
      have := ih k hk
      simp only [partialTable, List.take_succ_cons, List.map_cons, List.cons_append, List.set_cons_succ,
        List.length_cons, Nat.add_sub_add_right, List.getD_cons_succ] at this ⊢
      rw [this]

structure Inv (p : Params) (s : Sys) : Prop where
  ns : s.once = .notStarted → (∀ (i : Nat) (a : Pc), s.pcs[i]? = some a → a = Pc.start) ∧ s.table = partialTable p.cfg 0
  rn : s.once = .running → ∃ (o k : Nat), s.pcs[o]? = some (Pc.init k) ∧ k ≤ p.cfg.length ∧
        (∀ (j : Nat) (a : Pc), j ≠ o → s.pcs[j]? = some a → quiet a = true) ∧ s.table = partialTable p.cfg k
  fn : s.once = .finished → (∀ (i : Nat) (a : Pc), s.pcs[i]? = some a → isInit a = false) ∧ s.table = built p

theorem inv_initial (p : Params) (n : Nat) : Inv p (initial p n) := by
  refine ⟨?_, ?_, ?_⟩
  · intro _
    refine ⟨?_, by simp [initial, partialTable_zero]⟩
    intro i a h
    simp only [initial] at h
    rw [List.getElem?_replicate] at h
    split at h <;> simp_all
  · intro h; simp [initial] at h
  · intro h; simp [initial] at h

theorem getElem?_set_cases {α} (l : List α) (i j : Nat) (v a : α) (h : (l.set i v)[j]? = some a) :
    (j = i ∧ a = v) ∨ (j ≠ i ∧ l[j]? = some a) := by
  by_cases hji : j = i
  · subst hji
    left
    rw [List.getElem?_set_self'] at h
    cases hl : l[j]? with
    | none => simp [hl] at h
    | some x => simp [hl] at h; exact ⟨rfl, h.symm⟩
  · right
    rw [List.getElem?_set_ne (Ne.symm hji)] at h
    exact ⟨hji, h⟩

/-- a caller that has returned from `Do` (neither waiting nor initialising) forces the finished phase -/
theorem Inv.finished_of {p : Params} {s : Sys} {i : Nat} (hinv : Inv p s) {a : Pc} (hpc : s.pcs[i]? = some a) (hq : quiet a = false)
    (hi : isInit a = false) : s.once = .finished := by
  cases h : s.once with
  | notStarted => have := (hinv.ns h).1 i _ hpc; subst this; simp [quiet] at hq
  | running =>
    obtain ⟨o, k, hok, _, hqo, _⟩ := hinv.rn h
    by_cases hio : i = o
    · subst hio; rw [hpc] at hok; cases hok; simp [isInit] at hi
    · have := hqo i _ hio hpc; rw [this] at hq; cases hq
  | finished => rfl

/-- a caller at `init k` is the one initialiser of the running phase -/
theorem Inv.owner_of_init {p : Params} {s : Sys} {i : Nat} (hinv : Inv p s) {k : Nat} (hpc : s.pcs[i]? = some (.init k)) :
    s.once = .running ∧ k ≤ p.cfg.length ∧ (∀ (j : Nat) (a : Pc), j ≠ i → s.pcs[j]? = some a → quiet a = true) ∧
    s.table = partialTable p.cfg k := by
  have ho : s.once = .running := by
    cases h : s.once with
    | notStarted => have := (hinv.ns h).1 i _ hpc; cases this
    | running => rfl
    | finished => have := (hinv.fn h).1 i _ hpc; simp [isInit] at this
  obtain ⟨o, k', hok, hk, hq, htab⟩ := hinv.rn ho
  have hio : i = o := by
    by_cases h : i = o
    · exact h
    · have := hq i _ h hpc; simp [quiet] at this
  subst hio
  rw [hpc] at hok; cases hok
  exact ⟨ho, hk, hq, htab⟩

/-- in the finished phase any caller may move to any pc but `init` -/
theorem Inv.set_finished {p : Params} {s : Sys} (hinv : Inv p s) (ho : s.once = .finished) (i : Nat) (v : Pc) (hv : isInit v = false) :
    Inv p { s with pcs := s.pcs.set i v } := by
  obtain ⟨hall, htab⟩ := hinv.fn ho
  refine ⟨by simp [ho], by simp [ho], fun _ => ⟨?_, htab⟩⟩
  intro j a hget
  rcases getElem?_set_cases _ _ _ _ _ hget with ⟨_, h1⟩ | ⟨_, h2⟩
  · subst h1; exact hv
  · exact hall j a h2

theorem inv_step (p : Params) (x : Nat → Nat) (s s' : Sys) (i : Nat) (hinv : Inv p s)
    (hs : step p x s i = some s') : Inv p s' := by
  unfold step at hs
  cases hpc : s.pcs[i]? with
  | none => simp [hpc] at hs
  | some pc =>
    simp only [hpc] at hs
    have hlt : i < s.pcs.length := by
      rcases Nat.lt_or_ge i s.pcs.length with h | h
      · exact h
      · rw [List.getElem?_eq_none h] at hpc; cases hpc
    cases pc with
    | start =>
      simp only [stepPc] at hs
      cases ho : s.once with
      | notStarted =>
        simp only [ho] at hs; cases hs
        obtain ⟨hall, htab⟩ := hinv.ns ho
        refine ⟨by simp, fun _ => ⟨i, 0, by simp [List.getElem?_set_self hlt], Nat.zero_le _, ?_, htab⟩, by simp⟩
        intro j a hj hget
        rcases getElem?_set_cases _ _ _ _ _ hget with ⟨h1, _⟩ | ⟨_, h2⟩
        · exact absurd h1 hj
        · rw [hall j a h2]; rfl
      | running =>
        simp only [ho] at hs; cases hs
        obtain ⟨o, k, hok, hk, hq, htab⟩ := hinv.rn ho
        have hio : i ≠ o := by intro h; subst h; rw [hpc] at hok; cases hok
        refine ⟨by simp [ho], fun _ => ⟨o, k, by rw [List.getElem?_set_ne hio]; exact hok, hk, ?_, htab⟩, by simp [ho]⟩
        intro j a hj hget
        rcases getElem?_set_cases _ _ _ _ _ hget with ⟨_, h1⟩ | ⟨_, h2⟩
        · subst h1; rfl
        · exact hq j a hj h2
      | finished => simp only [ho] at hs; cases hs; simpa only [ho] using hinv.set_finished ho i .ready rfl
    | blocked =>
      simp only [stepPc] at hs
      split at hs
      · rename_i ho; cases hs; exact hinv.set_finished ho i .ready rfl
      · cases hs
    | init k =>
      simp only [stepPc] at hs
      obtain ⟨ho, hk, hq, htab⟩ := hinv.owner_of_init hpc
      split at hs
      · rename_i hlt'; cases hs
        refine ⟨by simp [ho], fun _ => ⟨i, k + 1, by simp [List.getElem?_set_self hlt], hlt', ?_, ?_⟩, by simp [ho]⟩
        · intro j a hj hget
          rcases getElem?_set_cases _ _ _ _ _ hget with ⟨h1, _⟩ | ⟨_, h2⟩
          · exact absurd h1 hj
          · exact hq j a hj h2
        · show s.table.set k _ = _
          rw [htab]; exact partialTable_set p.cfg k hlt'
      · rename_i hge; cases hs
        have hkeq : k = p.cfg.length := by omega
        refine ⟨by simp, by simp, fun _ => ⟨?_, ?_⟩⟩
        · intro j a hget
          rcases getElem?_set_cases _ _ _ _ _ hget with ⟨_, h1⟩ | ⟨hj, h2⟩
          · subst h1; rfl
          · have := hq j a hj h2
            cases a <;> simp_all [quiet, isInit]
        · show s.table = built p
          rw [htab, hkeq, partialTable_full]; rfl
    | ready => simp only [stepPc] at hs; cases hs; exact hinv.set_finished (hinv.finished_of hpc rfl rfl) i (.reading 0) rfl
    | reading k =>
      simp only [stepPc] at hs
      have ho := hinv.finished_of hpc rfl rfl
      split at hs <;> cases hs
      · exact hinv.set_finished ho i (.reading (k + 1)) rfl
      · exact hinv.set_finished ho i (.done _) rfl
    | done r => simp only [stepPc] at hs; cases hs

theorem inv_run (p : Params) (x : Nat → Nat) (s : Sys) (sched : List Nat) (hinv : Inv p s) :
    Inv p (run p x s sched) := by
  induction sched generalizing s with
  | nil => exact hinv
  | cons i rest ih =>
    simp only [run]
    cases h : step p x s i with
    | none => simpa using ih s hinv
    | some s' => simpa using ih s' (inv_step p x s s' i hinv h)

theorem inv_no_conflict (p : Params) (s : Sys) (hinv : Inv p s) : ¬ conflict p s := by
  rintro ⟨i, j, a, b, hij, hi, hj, hw, hrest⟩
  -- a writer is an `init k` with k < length: once must be running and `i` the owner
  have ha : ∃ k, a = .init k := by cases a <;> simp [writesNext] at hw; exact ⟨_, rfl⟩
  obtain ⟨k, rfl⟩ := ha
  obtain ⟨_, _, hq, _⟩ := hinv.owner_of_init hi
  have hqb := hq j b (Ne.symm hij) hj
  cases b <;> simp [quiet, writesNext, readsNext] at hqb hrest

/-- every finished call computed its result from the fully built table -/
def resultsOK (p : Params) (x : Nat → Nat) (s : Sys) : Prop :=
  ∀ i r, s.pcs[i]? = some (.done r) → r = p.compute (built p) (x i)

theorem resultsOK_step (p : Params) (x : Nat → Nat) (s s' : Sys) (i : Nat) (hinv : Inv p s)
    (hr : resultsOK p x s) (hs : step p x s i = some s') : resultsOK p x s' := by
  intro j r hget
  unfold step at hs
  cases hpc : s.pcs[i]? with
  | none => simp [hpc] at hs
  | some pc =>
    simp only [hpc] at hs
    have key : ∀ (v : Pc) (tbl : List (Option Nat)) (o : OnceSt),
        s' = { once := o, table := tbl, pcs := s.pcs.set i v } → (∀ r', v ≠ .done r') → r = p.compute (built p) (x j) := by
      intro v tbl o hs' hv
      subst hs'
      rcases getElem?_set_cases _ _ _ _ _ hget with ⟨_, h1⟩ | ⟨_, h2⟩
      · exact absurd h1.symm (hv r)
      · exact hr j r h2
    cases pc with
    | start =>
      simp only [stepPc] at hs
      cases ho : s.once <;> simp only [ho] at hs <;> cases hs
      · exact key _ _ _ rfl (by intro r' h; cases h)
      · exact key _ _ _ rfl (by intro r' h; cases h)
      · exact key _ _ _ rfl (by intro r' h; cases h)
    | blocked =>
      simp only [stepPc] at hs
      split at hs
      · cases hs; exact key _ _ _ rfl (by intro r' h; cases h)
      · cases hs
    | init k =>
      simp only [stepPc] at hs
      split at hs <;> cases hs
      · exact key _ _ _ rfl (by intro r' h; cases h)
      · exact key _ _ _ rfl (by intro r' h; cases h)
    | ready => cases hs; exact key _ _ _ rfl (by intro r' h; cases h)
    | reading k =>
      simp only [stepPc] at hs
      split at hs
      · cases hs; exact key _ _ _ rfl (by intro r' h; cases h)
      · cases hs
        have htab := (hinv.fn (hinv.finished_of hpc rfl rfl)).2
        rcases getElem?_set_cases _ _ _ _ _ hget with ⟨h0, h1⟩ | ⟨_, h2⟩
        · cases h1; subst h0; rw [htab]
        · exact hr j r h2
    | done r' => simp only [stepPc] at hs; cases hs

theorem resultsOK_run (p : Params) (x : Nat → Nat) (s : Sys) (sched : List Nat) (hinv : Inv p s)
    (hr : resultsOK p x s) : resultsOK p x (run p x s sched) := by
  induction sched generalizing s with
  | nil => exact hr
  | cons i rest ih =>
    simp only [run]
    cases h : step p x s i with
    | none => simpa using ih s hinv hr
    | some s' => simpa using ih s' (inv_step p x s s' i hinv h) (resultsOK_step p x s s' i hinv hr h)

theorem resultsOK_initial (p : Params) (x : Nat → Nat) (n : Nat) : resultsOK p x (initial p n) := by
  intro i r h
  simp only [initial] at h
  rw [List.getElem?_replicate] at h
  split at h <;> simp_all

end GM.Once
