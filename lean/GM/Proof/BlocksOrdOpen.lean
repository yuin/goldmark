/-
  GM.Proof.BlocksOrdOpen — the ORDER invariant through `Open` of the ten parsers, as `openBlocks` (parser.go:928-1024) calls it.

  `Clean src L s c`: nothing has been appended on the current source line yet — `Inv src L s` (every non-raw block's
  lines end at or before the line start `L`), the reader stands for a cursor `c` with `L ≤ c.p`.
  `Dirty src s`: `Inv src E s` for some `E ≤ pos.Stop` — after the (single) append of the line.
  * `open_eff`      — `Open` of each of the ten parsers from a clean state: declined → clean with the same cursor;
                      a container → clean with a cursor further on; always `Inv` up to the end of the line.
  * the driver functions (`tryParsers_ord`, `toContinuable_ord`, `openBlocksLoop_ord`, `openBlocks_ord`) are in
                      GM.Proof.BlocksOrdDrv.
-/
import GM.Proof.BlocksOrdInv
import GM.Proof.BlocksOrdRaw
import GM.Proof.BlocksBP
import GM.Proof.BlocksDriverLInv

namespace GM.Blocks
open GM GM.Text GM.Spec GM.Proof.Reader
open GM.Proof.BlocksWF0 (isRaw)

structure Clean (src : Bytes) (L : Int) (s : St) (c : RCur) : Prop where
  inv : Inv src L s
  ri : RI src s.r c
  pad : PadOK c
  le : L ≤ c.p
  padl : PadL L c

/-- `Inv` up to some `E` that the reader's line end has reached -/
def Dirty (src : Bytes) (s : St) : Prop := ∃ E : Int, Inv src E s ∧ Stop src E s

theorem Clean.dirty {src : Bytes} {L : Int} {s : St} {c : RCur} (h : Clean src L s c) : Dirty src s := by
  have h2 := lineEnd_ge src h.ri.inRange
  exact ⟨(lineEnd src c.p : Int), h.inv.mono (by have := h.le; omega), h.ri.stop⟩

theorem Clean.invE {src : Bytes} {L : Int} {s : St} {c : RCur} (h : Clean src L s c) :
    Inv src (lineEnd src c.p : Int) s := by
  have h2 := lineEnd_ge src h.ri.inRange
  exact h.inv.mono (by have := h.le; omega)

theorem Stop.congr {src : Bytes} {E : Int} {s s' : St} (h : Stop src E s) (hr : s'.r = s.r) : Stop src E s' :=
  ⟨by rw [hr]; exact h.source, by rw [hr]; exact h.stop0, by rw [hr]; exact h.stop_le, by rw [hr]; exact h.lb⟩

theorem Clean.congr {src : Bytes} {L : Int} {s s' : St} {c : RCur} (h : Clean src L s c) (hi : Inv src L s')
    (hr : s'.r = s.r) : Clean src L s' c := ⟨hi, by rw [hr]; exact h.ri, h.pad, h.le, h.padl⟩

theorem nd_snoc {s s' : St} {n : Node} (h : s'.nodes = s.nodes ++ [n]) (i : Nat) :
    nd s' i = if i < s.nodes.length then nd s i else if i = s.nodes.length then n else default := by
  by_cases h1 : i < s.nodes.length
  · rw [if_pos h1]; exact GM.Blocks.L.nd_append_lt h h1
  · rw [if_neg h1]
    by_cases h2 : i = s.nodes.length
    · rw [if_pos h2, h2]; exact GM.Blocks.L.nd_append_self h
    · rw [if_neg h2]; exact GM.Blocks.L.nd_append_gt h (by omega)

theorem Inv.snoc {src : Bytes} {B : Int} {s s' : St} {n : Node} (hi : Inv src B s) (h : s'.nodes = s.nodes ++ [n])
    (ho : s'.pc.opened = s.pc.opened)
    (ht : ∀ t, s'.pc.tmpPara = some t → t < s.nodes.length ∧ (nd s t).kind = .paragraph)
    (hb : NodeB B n) (hp : n.kind = .paragraph → n.lines ≠ [] ∧ ∀ t ∈ n.lines, NonBlankSeg src t)
    (hok : NodeOK src n) : Inv src B s' := by
  refine ⟨fun i => ?_, fun i hk => ?_, fun i hk => ?_, fun t htt => ?_, fun b hbm => ?_, fun m hm => ?_⟩
  · rw [nd_snoc h]; split
    · exact hi.nrb i
    · split
      · exact hb
      · exact NodeB.nil B rfl
  · rw [nd_snoc h] at hk ⊢; split
    · next h1 => rw [if_pos h1] at hk; exact hi.pne i hk
    · next h1 =>
      rw [if_neg h1] at hk
      split
      · next h2 => rw [if_pos h2] at hk; exact (hp hk).1
      · next h2 => rw [if_neg h2] at hk; cases hk
  · rw [nd_snoc h] at hk ⊢; split
    · next h1 => rw [if_pos h1] at hk; exact hi.pnb i hk
    · next h1 =>
      rw [if_neg h1] at hk
      split
      · next h2 => rw [if_pos h2] at hk; exact (hp hk).2
      · next h2 => rw [if_neg h2] at hk; cases hk
  · obtain ⟨h1, h2⟩ := ht t htt
    rw [nd_snoc h, if_pos h1]; exact h2
  · rw [ho] at hbm
    obtain ⟨h1, h2⟩ := hi.kinds b hbm
    rw [nd_snoc h, if_pos h2, h]
    exact ⟨h1, by simp; omega⟩
  · rw [h] at hm
    rcases List.mem_append.1 hm with h1 | h1
    · exact hi.nodes m h1
    · simp only [List.mem_singleton] at h1; rw [h1]; exact hok

theorem tmp_lt {s : St} {t : Nat} (h : (nd s t).kind = .paragraph) : t < s.nodes.length := by
  rcases Nat.lt_or_ge t s.nodes.length with h' | h'
  · exact h'
  · rw [nd_default_of_ge s h'] at h; cases h

theorem lastOffset_inv {s s' : St} {p : Nat} {v : Int} (e : lastOffset p s = .ok (v, s')) : li_ListKidsOK s p := by
  unfold lastOffset at e
  obtain ⟨n, s1, h1, k1⟩ := bind_ok e
  obtain ⟨rfl, hs1⟩ := getNode_ok h1
  subst s1
  intro lc hlc
  have hlc' : (s.nodes.getD p default).children.getLast? = some lc := hlc
  rw [hlc'] at k1
  dsimp only at k1
  obtain ⟨c, s2, h2, k2⟩ := bind_ok k1
  obtain ⟨rfl, hs2⟩ := getNode_ok h2
  subst s2
  split at k2
  · obtain ⟨_, _, ht, _⟩ := bind_ok k2; cases ht
  · next hk => simpa using hk

theorem listItemOpen_kids {s s' : St} {parent : Nat} {a : Option Nat × PState}
    (e : listItemOpen parent s = .ok (a, s')) (hk : (nd s parent).kind = .list) : li_ListKidsOK s parent := by
  unfold listItemOpen at e
  obtain ⟨n, s1, h1, k1⟩ := bind_ok e
  obtain ⟨rfl, hs1⟩ := getNode_ok h1
  subst s1
  split at k1
  · next hne => exfalso; simp only [nd] at hk; rw [hk] at hne; simp at hne
  · obtain ⟨off, s2, h2, _⟩ := bind_ok k1
    exact lastOffset_inv h2

/-- the node a successful `Open` appends: not raw ⇒ its lines (none, or one inside the rest of the current source
    line) increase and end at or before the end of the line; a Paragraph has its line -/
theorem open_newNode {src : Bytes} {L : Int} {s s' : St} {c : RCur} (bp : BP) (parent : Nat) {a : Option Nat × PState}
    (hctx : LineCtx src s c) (hL : L ≤ c.p) (hpl : PadL L c)
    (e : bpOpen bp parent s = .ok (a, s')) {n : Node} (hn : s'.nodes = s.nodes ++ [n])
    (hk : n.kind = bp.kind) (hid : a.1.isSome = true) (h0 : ∀ t ∈ n.lines, 0 ≤ t.start) :
    NodeB (lineEnd src c.p : Int) n ∧
      (n.kind = .paragraph → n.lines ≠ [] ∧ ∀ t ∈ n.lines, NonBlankSeg src t) := by
  have hge := lineEnd_ge src hctx.ri.inRange
  have hltE := lt_lineEnd src hctx.lt
  have one : ∀ t : Segment, (c.p : Int) ≤ t.start → t.stop ≤ (lineEnd src c.p : Int) → t.start < t.stop →
      t.forceNewline = false →
      OrdFrom 0 [t] ∧ Below (lineEnd src c.p : Int) [t] ∧ ∀ u ∈ [t], u.start < u.stop ∧ u.forceNewline = false :=
    fun t h1 h2 h3 h4 =>
    ⟨⟨by omega, trivial⟩, (fun u hu => by simp only [List.mem_singleton] at hu; rw [hu]; exact h2),
      fun u hu => by simp only [List.mem_singleton] at hu; rw [hu]; exact ⟨h3, h4⟩⟩
  have none' : OrdFrom 0 ([] : List Segment) ∧ Below (lineEnd src c.p : Int) [] ∧
      ∀ u ∈ ([] : List Segment), u.start < u.stop ∧ u.forceNewline = false :=
    ⟨trivial, Below.nil _, fun u hu => by cases hu⟩
  have raw : isRaw n.kind = true → NodeB (lineEnd src c.p : Int) n ∧
      (n.kind = .paragraph → n.lines ≠ [] ∧ ∀ t ∈ n.lines, NonBlankSeg src t) :=
    fun hr => ⟨⟨(fun h => by rw [hr] at h; cases h), fun _ =>
      bpOpen_raw_new bp parent (by rw [← hk]; exact hr) hctx.ri hctx.lt hL hpl e hn hid h0,
      (fun h => by rw [noLinesKind_of_raw hr] at h; cases h)⟩,
      (fun hp => by rw [hp] at hr; cases hr)⟩
  have nonraw : isRaw n.kind = false →
      (OrdFrom 0 n.lines ∧ Below (lineEnd src c.p : Int) n.lines ∧ ∀ u ∈ n.lines, u.start < u.stop ∧ u.forceNewline = false) →
      (noLinesKind n.kind = true → n.lines = []) →
      NodeB (lineEnd src c.p : Int) n := fun hnr h hnl => ⟨fun _ => h, (fun hr => by rw [hnr] at hr; cases hr), hnl⟩
  cases bp
  case setext =>
    have e' : setextOpen parent s = .ok (a, s') := e
    obtain ⟨r', _, h1 | ⟨lb, lvl, _, _, _, _, hs'⟩⟩ := setextOpen_line hctx.ri e'
    · exfalso; rw [h1.2] at hn; simp at hn
    · rw [hs'] at hn
      have : n = { kind := .heading, level := lvl, lines := [RCur.seg src c], linesNil := false } := by
        simpa using hn.symm
      subst this
      exact ⟨nonraw rfl
        (one _ (Int.le_refl _) (Int.le_refl _) (by show (c.p : Int) < (lineEnd src c.p : Int); omega) rfl)
        (fun h => by cases h),
        (fun h => by cases h)⟩
  case thematic =>
    have e' : thematicOpen parent s = .ok (a, s') := e
    obtain ⟨_, _, _, _, _, _, _, h1 | h1⟩ := (thematicOpen_okl hctx.ri parent).of_ok e'
    · exfalso; rw [h1.2.1] at hn; simp at hn
    · rw [h1.2] at hn
      have : n = { kind := .thematicBreak } := by simpa using hn.symm
      subst this
      exact ⟨nonraw rfl none' (fun _ => rfl), (fun h => by cases h)⟩
  case list =>
    have e' : listOpen parent s = .ok (a, s') := e
    obtain ⟨_, _, _, _, _, _, _, _, _, hnone, hsome⟩ := (listOpen_okl_ri src parent s c hctx.ri).of_ok e'
    cases ha : a.1 with
    | none => exfalso; rw [(hnone ha).1] at hn; simp at hn
    | some id =>
      obtain ⟨_, _, _, _, ⟨m, hm, _, _, hl, _⟩, _⟩ := hsome id ha
      rw [hm] at hn
      have : n = m := by simpa using hn.symm
      subst this
      exact ⟨nonraw (by rw [hk]; rfl) (by rw [hl]; exact none') (fun _ => hl), (fun h => by rw [hk] at h; cases h)⟩
  case listItem =>
    have e' : listItemOpen parent s = .ok (a, s') := e
    by_cases hkl : (nd s parent).kind = .list
    · obtain ⟨_, _, _, _, _, _, _, _, _, _, hnone, hsome⟩ :=
        (listItemOpen_okl src parent s c hctx (listItemOpen_kids e' hkl)).of_ok e'
      cases ha : a.1 with
      | none => exfalso; rw [hnone ha] at hn; simp at hn
      | some id =>
        obtain ⟨_, _, m, hm, _, _, hl, _⟩ := hsome id ha
        rw [hm] at hn
        have : n = m := by simpa using hn.symm
        subst this
        exact ⟨nonraw (by rw [hk]; rfl) (by rw [hl]; exact none') (fun _ => hl), (fun h => by rw [hk] at h; cases h)⟩
    · exfalso
      rw [GM.Blocks.L.listItemOpen_notList parent s hkl] at e'
      cases e'
      simp at hn
  case code => exact raw (by rw [hk]; rfl)
  case atx =>
    have e' : atxOpen parent s = .ok (a, s') := e
    obtain ⟨_, _, _, _, _, h1 | ⟨_, m, hm, _, _, hl⟩⟩ := (atxOpen_line hctx.ri parent).of_ok e'
    · exfalso; rw [h1.2] at hn; simp at hn
    · rw [hm] at hn
      have : n = m := by simpa using hn.symm
      subst this
      refine ⟨nonraw (by rw [hk]; rfl) ?_ (fun h => by rw [hk] at h; cases h), (fun h => by rw [hk] at h; cases h)⟩
      rcases hl with hl | ⟨t, hl, h1, h2, h3, _, h5⟩
      · rw [hl]; exact none'
      · rw [hl]; exact one t (by omega) h3 h2 h5
  case fenced => exact raw (by rw [hk]; rfl)
  case blockquote =>
    have e' : blockquoteOpen parent s = .ok (a, s') := e
    unfold blockquoteOpen at e'
    obtain ⟨b, s1, h1, k1⟩ := bind_ok e'
    obtain ⟨r1, c1, hs1, _⟩ := (blockquoteProcess_okl hctx.ri).of_ok h1
    subst s1
    split at k1
    · obtain ⟨id, s2, h2, k2⟩ := bind_ok k1
      obtain ⟨_, hs2⟩ := newNode_ok h2
      subst s2
      obtain ⟨_, hs⟩ := pure_ok k2
      subst s'
      have : n = { kind := .blockquote } := by simpa using hn.symm
      subst this
      exact ⟨nonraw rfl none' (fun _ => rfl), (fun h => by cases h)⟩
    · obtain ⟨_, hs⟩ := pure_ok k1
      subst s'
      exfalso; simp at hn
  case html => exact raw (by rw [hk]; rfl)
  case paragraph =>
    have e' : paragraphOpen parent s = .ok (a, s') := e
    obtain ⟨_, _, _, _, _, _, _, h1 | ⟨_, m, seg, hm, _, hl, _, _, h2, h3, h4, _, h6, h7⟩⟩ :=
      (paragraphOpen_line hctx.ri parent).of_ok e'
    · exfalso; rw [h1.2.1] at hn; simp at hn
    · rw [hm] at hn
      have : n = m := by simpa using hn.symm
      subst this
      exact ⟨nonraw (by rw [hk]; rfl) (by rw [hl]; exact one seg h2 (by rw [h4]; exact Int.le_refl _) h3 h6)
          (fun h => by rw [hk] at h; cases h),
        (fun _ => by rw [hl]; exact ⟨by simp, fun u hu => by simp only [List.mem_singleton] at hu; rw [hu]; exact h7⟩)⟩

/-- what `Open` of any of the ten parsers does to a clean state (the contract `OpenPost` of GM.Proof.BlocksInv, the list
    parsers' own contracts, and `open_newNode`) -/
structure OpenEff (src : Bytes) (L : Int) (bp : BP) (s : St) (c : RCur) (a : Option Nat × PState) (s' : St) : Prop where
  invE : Inv src (lineEnd src c.p : Int) s'
  stop : Stop src (lineEnd src c.p : Int) s'
  opened : s'.pc.opened = s.pc.opened
  boff : s'.pc.blockOffset = s.pc.blockOffset
  declined : a.1 = none → Clean src L s' c ∧ s'.nodes = s.nodes
  container : a.2.hasChildren = true → ∃ c', Clean src L s' c' ∧ c.p ≤ c'.p
  node : ∀ id, a.1 = some id → id = s.nodes.length ∧ id < s'.nodes.length ∧ (nd s' id).kind = bp.kind
  tmp : ∀ t, s'.pc.tmpPara = some t → t < s.nodes.length ∧ (nd s t).kind = .paragraph
  req : a.2.requirePara = true → bp = .setext
  snoc : ∀ id, a.1 = some id → ∃ n, s'.nodes = s.nodes ++ [n] ∧ n.kind = bp.kind

theorem open_eff {src : Bytes} {L : Int} {s s' : St} {c : RCur} (bp : BP) (parent : Nat) {a : Option Nat × PState}
    (hc : Clean src L s c) (hlt : c.p < src.length)
    (hoff : s.pc.blockOffset < (((RCur.view src c).getD []).length : Int))
    (e : bpOpen bp parent s = .ok (a, s')) : OpenEff src L bp s c a s' := by
  have hctx : LineCtx src s c := ⟨hc.ri, hlt, hc.pad, hoff, hc.inv.nodes⟩
  -- the reader never moves its line end back
  have hstop : Stop src (lineEnd src c.p : Int) s' := by
    have := (bpOpen_pres (stop_prims src (lineEnd src c.p : Int)) bp parent).h s hc.ri.stop
    rw [e] at this; exact this
  -- the common part, from: reader, stack, new node / no node, `tmpPara`
  have common : ∀ (c' : RCur), RI src s'.r c' → PadOK c' → c.p ≤ c'.p → (a.1 = none → c' = c) →
      (a.2.hasChildren = true → c' = c ∨ c.p < c'.p) →
      s'.pc.opened = s.pc.opened → s'.pc.blockOffset = s.pc.blockOffset →
      (a.1 = none → s'.nodes = s.nodes) →
      (∀ id, a.1 = some id → id = s.nodes.length ∧ ∃ n, s'.nodes = s.nodes ++ [n] ∧ n.kind = bp.kind ∧ NodeOK src n ∧
        (isRaw bp.kind = false → a.2.hasChildren = true → n.lines = [])) →
      (∀ t, s'.pc.tmpPara = some t → t < s.nodes.length ∧ (nd s t).kind = .paragraph) →
      (a.2.hasChildren = true → a.1.isSome = true ∧ isRaw bp.kind = false) →
      (a.2.requirePara = true → bp = .setext) →
      OpenEff src L bp s c a s' := by
    intro c' hri hpad hle hsame hprg ho hbo hnone hsome htmp hkids hreq
    have hnewOK : ∀ id, a.1 = some id → ∀ n, s'.nodes = s.nodes ++ [n] → ∀ t ∈ n.lines, 0 ≤ t.start := by
      intro id ha n hn t ht
      obtain ⟨_, m, hm, _, hok, _⟩ := hsome id ha
      rw [hm] at hn
      have : n = m := by simpa using hn.symm
      subst this
      exact (hok.lines t ht).1
    -- `Inv` for every bound `B` that the new node (if any) respects
    have hinv : ∀ B : Int, Inv src B s → (∀ n, s'.nodes = s.nodes ++ [n] → NodeB B n) → Inv src B s' := by
      intro B hiB hnB
      cases ha : a.1 with
      | none =>
        have hn := hnone ha
        exact ⟨fun i => by simp only [nd, hn]; exact hiB.nrb i, fun i => by simp only [nd, hn]; exact hiB.pne i,
          fun i => by simp only [nd, hn]; exact hiB.pnb i,
          fun t ht => by simp only [nd, hn]; exact (htmp t ht).2, fun b hb => by
            rw [ho] at hb; simp only [nd, hn]; exact hiB.kinds b hb, fun m hm => hiB.nodes m (by rw [← hn]; exact hm)⟩
      | some id =>
        obtain ⟨_, n, hn, hk, hok, _⟩ := hsome id ha
        exact hiB.snoc hn ho htmp (hnB n hn)
          (open_newNode bp parent hctx hc.le hc.padl e hn hk (by rw [ha]; rfl) (hnewOK id ha n hn)).2 hok
    refine ⟨hinv _ hc.invE (fun n hn => ?_), hstop, ho, hbo, fun ha => ?_, fun hch => ?_, fun id ha => ?_, htmp, hreq,
      fun id ha => by obtain ⟨_, n, hn, hk, _⟩ := hsome id ha; exact ⟨n, hn, hk⟩⟩
    · cases ha : a.1 with
      | none => exfalso; rw [hnone ha] at hn; simp at hn
      | some id =>
        obtain ⟨_, m, hm, hk, _, _⟩ := hsome id ha
        rw [hm] at hn
        have : n = m := by simpa using hn.symm
        subst this
        exact (open_newNode bp parent hctx hc.le hc.padl e hm hk (by rw [ha]; rfl) (hnewOK id ha n hm)).1
    · have hcc := hsame ha
      subst hcc
      refine ⟨⟨hinv L hc.inv (fun n hn => ?_), hri, hpad, hc.le, hc.padl⟩, hnone ha⟩
      exfalso; rw [hnone ha] at hn; simp at hn
    · obtain ⟨hsm, hnr⟩ := hkids hch
      have hpl' : PadL L c' := by
        rcases hprg hch with h1 | h1
        · rw [h1]; exact hc.padl
        · intro _; have := hc.le; omega
      refine ⟨c', ⟨hinv L hc.inv (fun n hn => ?_), hri, hpad, by have := hc.le; omega, hpl'⟩, hle⟩
      cases ha : a.1 with
      | none => rw [ha] at hsm; cases hsm
      | some id =>
        obtain ⟨_, m, hm, hk, _, hl⟩ := hsome id ha
        rw [hm] at hn
        have : n = m := by simpa using hn.symm
        subst this
        exact NodeB.nil L (hl hnr hch)
    · obtain ⟨hid, n, hn, hk, _, _⟩ := hsome id ha
      subst hid
      exact ⟨rfl, by rw [hn]; simp, by rw [GM.Blocks.L.nd_append_self hn]; exact hk⟩
  by_cases hl1 : bp = .list
  · subst hl1
    have e' : listOpen parent s = .ok (a, s') := e
    obtain ⟨r', hr', hri, ho, hbo, _, htm, _, _, hnone, hsome⟩ := (listOpen_okl_ri src parent s c hc.ri).of_ok e'
    subst hr'
    refine common c hri hc.pad (Nat.le_refl _) (fun _ => rfl) (fun _ => .inl rfl) ho hbo (fun ha => (hnone ha).1) (fun id ha => ?_)
      (fun t ht => by rw [htm] at ht; exact ⟨tmp_lt (hc.inv.tmpk t ht), hc.inv.tmpk t ht⟩) (fun hch => ?_)
      (fun hrq => by
        have := (Ret.h (m := listOpen parent) (Q := fun x => x.2.requirePara = false) (by unfold listOpen; ret)) s a s' e'
        rw [this] at hrq; cases hrq)
    · obtain ⟨h1, _, _, _, ⟨n, hn, hk, _, hl, _, _, hok⟩, _⟩ := hsome id ha
      exact ⟨h1, n, hn, hk, hok, fun _ _ => hl⟩
    · cases ha : a.1 with
      | none => rw [(hnone ha).2.1] at hch; cases hch
      | some id => exact ⟨rfl, rfl⟩
  by_cases hl2 : bp = .listItem
  · subst hl2
    have e' : listItemOpen parent s = .ok (a, s') := e
    by_cases hkl : (nd s parent).kind = .list
    · obtain ⟨c', hri, hpad, hle, hsame, hprog, ho, hbo, htm, _, hnone, hsome⟩ :=
        (listItemOpen_okl src parent s c hctx (listItemOpen_kids e' hkl)).of_ok e'
      refine common c' hri hpad hle hsame (fun hch => .inr (hprog hch)) ho hbo hnone (fun id ha => ?_)
        (fun t ht => by rw [htm] at ht; exact ⟨tmp_lt (hc.inv.tmpk t ht), hc.inv.tmpk t ht⟩) (fun hch => ?_)
        (fun hrq => by
          have := (Ret.h (m := listItemOpen parent) (Q := fun x => x.2.requirePara = false)
            (by unfold listItemOpen; ret)) s a s' e'
          rw [this] at hrq; cases hrq)
      · obtain ⟨h1, _, n, hn, hk, _, hl, hln, _⟩ := hsome id ha
        exact ⟨h1, n, hn, hk, ⟨(by rw [hl]; exact fun t ht => by cases ht), fun _ => hl⟩, fun _ _ => hl⟩
      · refine ⟨?_, rfl⟩
        cases ha : a.1 with
        | some id => rfl
        | none =>
          exfalso
          have h1 := hsame ha
          have h2 := hprog hch
          rw [h1] at h2
          omega
    · rw [GM.Blocks.L.listItemOpen_notList parent s hkl] at e'
      cases e'
      exact common c hc.ri hc.pad (Nat.le_refl _) (fun _ => rfl) (fun _ => .inl rfl) rfl rfl (fun _ => rfl) (fun id ha => by cases ha)
        (fun t ht => ⟨tmp_lt (hc.inv.tmpk t ht), hc.inv.tmpk t ht⟩) (fun hch => by cases hch) (fun hrq => by cases hrq)
  · have hO := ((specs_notList src).opn bp ⟨hl1, hl2⟩ parent s c hctx).of_ok e
    obtain ⟨c', hri, hpad, hle, hsame, hprog⟩ := hO.ri
    refine common c' hri hpad hle hsame (fun hch => .inr (hprog hch)) hO.opened hO.boff hO.noNode (fun id ha => ?_)
      (fun t ht => ?_) (fun hch => ?_)
      (fun hrq => (hO.req hrq).1)
    · obtain ⟨h1, n, hn, hk, hok, _⟩ := hO.newNode id ha
      refine ⟨h1, n, hn, hk, hok, fun hnr hch => ?_⟩
      -- a non-raw container other than list / list item is the block quote
      have hbq : bp = .blockquote := by
        rcases BP.isContainer_cases bp (hO.kids hch).1 with h | h | h
        · exact absurd h hl1
        · exact absurd h hl2
        · exact h
      subst hbq
      have e' : blockquoteOpen parent s = .ok (a, s') := e
      unfold blockquoteOpen at e'
      obtain ⟨b, s1, h1', k1⟩ := bind_ok e'
      obtain ⟨r1, c1, hs1, _⟩ := (blockquoteProcess_okl hc.ri).of_ok h1'
      subst s1
      split at k1
      · obtain ⟨id', s2, h2, k2⟩ := bind_ok k1
        obtain ⟨_, hs2⟩ := newNode_ok h2
        subst s2
        obtain ⟨_, hs⟩ := pure_ok k2
        subst s'
        have : n = { kind := .blockquote } := by simpa using hn.symm
        subst this
        rfl
      · obtain ⟨hx, hs⟩ := pure_ok k1
        subst s'
        exfalso; simp at hn
    · rcases hO.tmp with ⟨_, _, lb, _, hk, _, htm⟩ | ⟨_, htm⟩
      · rw [htm] at ht; cases ht; exact ⟨tmp_lt hk, hk⟩
      · rw [htm] at ht; exact ⟨tmp_lt (hc.inv.tmpk t ht), hc.inv.tmpk t ht⟩
    · obtain ⟨h1, h2⟩ := hO.kids hch
      exact ⟨h2, BP.isContainer_notRaw bp h1⟩

end GM.Blocks
