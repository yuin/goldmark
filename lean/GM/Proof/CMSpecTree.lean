/-
  GM.Proof.CMSpecTree — lemmas about the spec-side document model of C02 (GM.Spec.CommonMark): the expected
  HTML of every tree is tag-balanced, and it does not depend on any surface-syntax choice.
-/
import GM.Spec.CommonMark

namespace GM.Proof.CMSpecTree
open GM GM.Spec.CM

/-- stack discipline on pieces: an opening tag pushes its name, a closing tag must match the top; void
    elements, text and raw HTML (opaque: html.WithUnsafe passes it through) leave the stack alone -/
def balStep (st : List Bytes) : Piece → Option (List Bytes)
  | .openT t _ => some (t :: st)
  | .closeT t =>
    match st with
    | top :: rest => if top == t then some rest else none
    | [] => none
  | _ => some st

def balRun : List Bytes → List Piece → Option (List Bytes)
  | st, [] => some st
  | st, p :: ps =>
    match balStep st p with
    | some st' => balRun st' ps
    | none => none

def balanced (ps : List Piece) : Bool := balRun [] ps == some []

/-- from any stack, running the pieces returns to the same stack -/
def Neutral (ps : List Piece) : Prop := ∀ st, balRun st ps = some st

theorem neutral_nil : Neutral [] := fun _ => rfl

theorem balRun_append (st : List Bytes) (a b : List Piece) :
    balRun st (a ++ b) = (balRun st a).bind fun st' => balRun st' b := by
  induction a generalizing st with
  | nil => simp [balRun]
  | cons p ps ih =>
    simp only [List.cons_append, balRun]
    cases balStep st p with
    | none => simp
    | some st' => simpa using ih st'

theorem neutral_append {a b : List Piece} (ha : Neutral a) (hb : Neutral b) : Neutral (a ++ b) := by
  intro st; rw [balRun_append, ha st]; simpa using hb st

theorem neutral_cons_txt (b : Bytes) {ps : List Piece} (h : Neutral ps) : Neutral (.txt b :: ps) := by
  intro st; simpa [balRun, balStep] using h st

theorem neutral_single_txt (b : Bytes) : Neutral [.txt b] := neutral_cons_txt b neutral_nil
theorem neutral_single_raw (b : Bytes) : Neutral [.raw b] := by intro st; simp [balRun, balStep]
theorem neutral_single_void (t a : Bytes) : Neutral [.voidT t a] := by intro st; simp [balRun, balStep]
theorem neutral_nl : Neutral [nl] := neutral_single_txt _

theorem neutral_wrap (t a : Bytes) {ps : List Piece} (h : Neutral ps) : Neutral (wrap t a ps) := by
  intro st
  show balRun st (.openT t a :: (ps ++ [.closeT t])) = some st
  rw [balRun]
  simp only [balStep]
  rw [balRun_append, h (t :: st)]
  simp [balRun, balStep]

mutual
theorem expI_neutral : ∀ x : Inline, Neutral (expI x)
  | .text cs => by simp only [expI]; exact neutral_single_txt _
  | .emph _ kids => by simp only [expI]; exact neutral_wrap _ _ (expIs_neutral kids)
  | .strong _ kids => by simp only [expI]; exact neutral_wrap _ _ (expIs_neutral kids)
  | .code .. => by simp only [expI]; exact neutral_wrap _ _ (neutral_single_txt _)
  | .link kids .. => by simp only [expI]; exact neutral_wrap _ _ (expIs_neutral kids)
  | .image .. => by simp only [expI]; exact neutral_single_void _ _
  | .autolink .. => by simp only [expI]; exact neutral_wrap _ _ (neutral_single_txt _)
  | .rawHtml _ => by simp only [expI]; exact neutral_single_raw _
  | .hardBreak .. => by simp only [expI]; exact neutral_append (a := [_]) (neutral_single_void _ _) neutral_nl
  | .softBreak => by simp only [expI]; exact neutral_nl
theorem expIs_neutral : ∀ xs : List Inline, Neutral (expIs xs)
  | [] => by simp only [expIs]; exact neutral_nil
  | x :: rest => by simp only [expIs]; exact neutral_append (expI_neutral x) (expIs_neutral rest)
end

mutual
theorem expB_neutral : ∀ (tight last : Bool) (b : Block), Neutral (expB tight last b)
  | tight, last, .para _ kids _ => by
    simp only [expB]; split
    · split
      · simpa using expIs_neutral kids
      · exact neutral_append (expIs_neutral kids) neutral_nl
    · exact neutral_append (neutral_wrap _ _ (expIs_neutral kids)) neutral_nl
  | _, _, .heading _ _ _ _ _ kids => by simp only [expB]; exact neutral_append (neutral_wrap _ _ (expIs_neutral kids)) neutral_nl
  | _, _, .thematic .. => by simp only [expB]; exact neutral_append (a := [_]) (neutral_single_void _ _) neutral_nl
  | _, _, .icode _ => by
    simp only [expB]; exact neutral_append (neutral_wrap _ _ (neutral_wrap _ _ (neutral_single_txt _))) neutral_nl
  | _, _, .fcode .. => by
    simp only [expB]; exact neutral_append (neutral_wrap _ _ (neutral_wrap _ _ (neutral_single_txt _))) neutral_nl
  | _, _, .quote _ _ kids => by
    simp only [expB]; exact neutral_append (neutral_wrap _ _ (neutral_cons_txt _ (expBs_neutral false false kids))) neutral_nl
  | _, _, .blist _ _ _ t items => by
    simp only [expB]; exact neutral_append (neutral_wrap _ _ (neutral_cons_txt _ (expBs_neutral t false items))) neutral_nl
  | _, _, .olist _ _ _ _ _ t items => by
    simp only [expB]; exact neutral_append (neutral_wrap _ _ (neutral_cons_txt _ (expBs_neutral t false items))) neutral_nl
  | tight, _, .item kids => by
    simp only [expB]
    refine neutral_append (neutral_wrap _ _ ?_) neutral_nl
    split
    · refine neutral_append ?_ (expBs_neutral true true kids)
      split
      · exact neutral_nil
      · exact neutral_nl
    · exact neutral_cons_txt _ (expBs_neutral false false kids)
  | _, _, .refdefs _ => by simp only [expB]; exact neutral_nil
  | _, _, .html _ => by simp only [expB]; exact neutral_single_raw _
theorem expBs_neutral : ∀ (tight inItem : Bool) (bs : List Block), Neutral (expBs tight inItem bs)
  | _, _, [] => by simp only [expBs]; exact neutral_nil
  | tight, inItem, b :: rest => by
    simp only [expBs]; exact neutral_append (expB_neutral tight _ b) (expBs_neutral tight inItem rest)
end

theorem expected_balanced (d : Doc) : balanced (expectedPieces d) = true := by
  have := expBs_neutral false false d.blocks []
  simp [balanced, expectedPieces, this]


theorem plain_erase (cs : List TChar) : plain (eraseChars cs) = plain cs := by
  simp [plain, eraseChars, List.map_map, Function.comp_def]

mutual
theorem plainI_erase : ∀ x : Inline, plainI (eraseI x) = plainI x
  | .text cs => by simp only [eraseI, plainI, plain_erase]
  | .emph _ kids => by simp only [eraseI, plainI, plainIs_erase kids]
  | .strong _ kids => by simp only [eraseI, plainI, plainIs_erase kids]
  | .code .. => by simp only [eraseI, plainI]
  | .link kids .. => by simp only [eraseI, plainI, plainIs_erase kids]
  | .image kids .. => by simp only [eraseI, plainI, plainIs_erase kids]
  | .autolink .. => by simp only [eraseI, plainI]
  | .rawHtml _ => by simp only [eraseI, plainI]
  | .hardBreak .. => by simp only [eraseI, plainI]
  | .softBreak => by simp only [eraseI, plainI]
theorem plainIs_erase : ∀ xs : List Inline, plainIs (eraseIs xs) = plainIs xs
  | [] => by simp only [eraseIs, plainIs]
  | x :: rest => by simp only [eraseIs, plainIs, plainI_erase x, plainIs_erase rest]
end

mutual
theorem expI_erase : ∀ x : Inline, expI (eraseI x) = expI x
  | .text cs => by simp only [eraseI, expI, plain_erase]
  | .emph _ kids => by simp only [eraseI, expI, expIs_erase kids]
  | .strong _ kids => by simp only [eraseI, expI, expIs_erase kids]
  | .code .. => by simp only [eraseI, expI]
  | .link kids .. => by simp only [eraseI, expI, expIs_erase kids]
  | .image kids .. => by simp only [eraseI, expI, plainIs_erase kids]
  | .autolink .. => by simp only [eraseI, expI]
  | .rawHtml _ => by simp only [eraseI, expI]
  | .hardBreak .. => by simp only [eraseI, expI]
  | .softBreak => by simp only [eraseI, expI]
theorem expIs_erase : ∀ xs : List Inline, expIs (eraseIs xs) = expIs xs
  | [] => by simp only [eraseIs, expIs]
  | x :: rest => by simp only [eraseIs, expIs, expI_erase x, expIs_erase rest]
end

theorem eraseBs_isEmpty (bs : List Block) : (eraseBs bs).isEmpty = bs.isEmpty := by
  cases bs <;> simp [eraseBs]

theorem startsWithPara_erase (bs : List Block) : startsWithPara (eraseBs bs) = startsWithPara bs := by
  cases bs with
  | nil => simp [eraseBs]
  | cons b rest => cases b <;> simp [eraseBs, eraseB, startsWithPara]

mutual
theorem expB_erase : ∀ (tight last : Bool) (b : Block), expB tight last (eraseB b) = expB tight last b
  | _, _, .para _ kids _ => by simp only [eraseB, expB, expIs_erase kids]
  | _, _, .heading _ _ _ _ _ kids => by simp only [eraseB, expB, expIs_erase kids]
  | _, _, .thematic .. => by simp only [eraseB, expB]
  | _, _, .icode _ => by simp only [eraseB, expB]
  | _, _, .fcode .. => by simp only [eraseB, expB]
  | _, _, .quote _ _ kids => by simp only [eraseB, expB, expBs_erase false false kids]
  | _, _, .blist _ _ _ t items => by simp only [eraseB, expB, expBs_erase t false items]
  | _, _, .olist _ _ _ _ _ t items => by simp only [eraseB, expB, expBs_erase t false items]
  | _, _, .item kids => by
    simp only [eraseB, expB, expBs_erase true true kids, expBs_erase false false kids, startsWithPara_erase]
  | _, _, .refdefs _ => by simp only [eraseB, expB]
  | _, _, .html _ => by simp only [eraseB, expB]
theorem expBs_erase : ∀ (tight inItem : Bool) (bs : List Block), expBs tight inItem (eraseBs bs) = expBs tight inItem bs
  | _, _, [] => by simp only [eraseBs, expBs]
  | tight, inItem, b :: rest => by
    simp only [eraseBs, expBs, expB_erase tight _ b, expBs_erase tight inItem rest, eraseBs_isEmpty]
end

/-- two annotated documents with the same structure (equal after erasing every choice) have the same
    expected HTML: `expected` is a function of the structure alone -/
theorem expected_erase (d : Doc) : expected (eraseDoc d) = expected d := by
  simp only [expected, expectedPieces, eraseDoc, expBs_erase]

end GM.Proof.CMSpecTree
