import GM.Proof.QuoteSimEdit
import GM.Proof.BlocksComm

/-
  part NonePos — an `Open` that answers nil leaves the cursor where it was.

  Every block parser calls `advance` / `advanceAndSetPadding` only on the path that returns `some node`;
  `blockquoteProcess` answers `false` only before any advance; `peekLine` and `lineOffset` change only the
  caches `peekedLine` / `lineOffset` of the reader, never `pos`. Two judgments over the `do` blocks:
  * `Keeps (PosIs P0) m` (calculus of GM.Proof.QuoteSimFoot): `m` keeps `r.pos = P0` (tactic `kp`);
  * `NoneP P0 m Q`: a successful run of `m` from `r.pos = P0` whose answer satisfies `Q` ends with
    `r.pos = P0` (tactic `np`). After the first statement that is not known to keep `pos` the rest of the
    block must always answer outside `Q` (`Ret` calculus of GM.Proof.BlocksLeaf; `NoneP.bind_some`,
    `NoneP.bind_true`, `NoneP.bind_np`).
  Neither is a fold of `Built` (GM.Proof.BlocksBuilt): its policy for the reader allows all reader calls or none, while here
  `peekLine` / `lineOffset` keep `pos` and `advance` does not; and `NoneP` speaks of the value answered.
  Results: `bpOpen_none_pos`, `blockquoteProcess_false_pos`, `peekLine_pos`, `lineOffset_pos`.
-/
section NonePos
namespace GM.Blocks
open GM GM.Text

def PosIs (P0 : Segment) : St → Prop := fun s => s.r.pos = P0

/-! ### the reader caches -/

theorem Reader.peekLine_pos (r r' : Reader) (x : Option Bytes × Segment)
    (h : r.peekLine = .ok (x, r')) : r'.pos = r.pos := by
  unfold Reader.peekLine at h
  split at h
  · split at h
    · cases h; rfl
    · cases hv : r.pos.value r.source with
      | error e => rw [hv] at h; cases h
      | ok v => rw [hv] at h; cases h; rfl
  · cases h; rfl

theorem Reader.lineOffsetOp_pos (r r' : Reader) (x : Int)
    (h : r.lineOffsetOp = .ok (x, r')) : r'.pos = r.pos := by
  unfold Reader.lineOffsetOp at h
  split at h
  · cases hv : colLoop r.source r.head r.pos.start with
    | error e => rw [hv] at h; cases h
    | ok v => rw [hv] at h; cases h; rfl
  · cases h; rfl

section prims
variable {P0 : Segment}

theorem peekLine_kp : Keeps (PosIs P0) peekLine := by
  intro s a s' hs h
  unfold peekLine at h
  cases hp : s.r.peekLine with
  | error e => rw [hp] at h; cases h
  | ok p =>
    rw [hp] at h; cases h
    exact (Reader.peekLine_pos _ _ _ hp).trans hs

theorem lineOffset_kp : Keeps (PosIs P0) lineOffset := by
  intro s a s' hs h
  unfold lineOffset at h
  cases hp : s.r.lineOffsetOp with
  | error e => rw [hp] at h; cases h
  | ok p =>
    rw [hp] at h; cases h
    exact (Reader.lineOffsetOp_pos _ _ _ hp).trans hs

theorem posIs_noNodes : NoNodes (PosIs P0) := ⟨fun _ _ hs => hs⟩

theorem modNode_kp (id : Nat) (f : Node → Node) : Keeps (PosIs P0) (modNode id f) :=
  modNode_keeps posIs_noNodes id f

theorem newNode_kp (n : Node) : Keeps (PosIs P0) (newNode n) := newNode_keeps posIs_noNodes n

theorem appendLine_kp (id : Nat) (seg : Segment) : Keeps (PosIs P0) (appendLine id seg) :=
  appendLine_keeps posIs_noNodes id seg

theorem modPc_kp (f : Ctx → Ctx) : Keeps (PosIs P0) (modPc f) := modPc_keeps f fun _ hs => hs

end prims

macro "kp_step" : tactic =>
  `(tactic| first
    | with_reducible apply Keeps.pure
    | intro_pi
    | with_reducible apply Keeps.bind
    | with_reducible apply Keeps.ite
    | with_reducible apply peekLine_kp
    | with_reducible apply lineOffset_kp
    | split
    | with_reducible apply Keeps.throw
    | with_reducible apply getNode_keeps
    | with_reducible apply liftE_keeps
    | with_reducible apply getPc_keeps
    | with_reducible apply source_keeps
    | with_reducible apply lastOpenedBlock_keeps
    | with_reducible apply modNode_kp
    | with_reducible apply newNode_kp
    | with_reducible apply appendLine_kp
    | with_reducible apply modPc_kp
    | apply_hyp)

/-- walk over an `M` do block that keeps `r.pos` -/
macro "kp" : tactic => `(tactic| repeat' kp_step)

theorem lastOffset_kp {P0 : Segment} (n : Nat) : Keeps (PosIs P0) (lastOffset n) := by
  unfold lastOffset; kp

/-- a successful run of `m` from `r.pos = P0` whose answer satisfies `Q` ends with `r.pos = P0` -/
def NoneP (P0 : Segment) {α : Type} (m : M α) (Q : α → Prop) : Prop :=
  ∀ s a s', s.r.pos = P0 → m s = .ok (a, s') → Q a → s'.r.pos = P0

section calculus
variable {P0 : Segment}

open GM.Hoare in
/-- a triple whose postcondition depends on the answer -/
theorem noneP_iff {α} {m : M α} {Q : α → Prop} :
    NoneP P0 m Q ↔ Tri Top (PosIs P0) m (fun a s' => Q a → PosIs P0 s') :=
  ⟨fun h => Tri.top_iff.2 h, fun h => Tri.top_iff.1 h⟩

open GM.Hoare in
theorem ret_tri {α} {m : M α} {R : α → Prop} (hr : Ret m R) {P : St → Prop} : Tri Top P m (fun a _ => R a) :=
  Tri.top_iff.2 fun s a s' _ e => hr.h s a s' e

theorem NoneP.pure {α} {Q : α → Prop} (a : α) : NoneP P0 (Pure.pure a : M α) Q :=
  noneP_iff.2 (GM.Hoare.Tri.pure a fun _ hs _ => hs)

theorem NoneP.throw {α} {Q : α → Prop} (e : Panic) : NoneP P0 (throw e : M α) Q :=
  noneP_iff.2 (GM.Hoare.Tri.throw e trivial)

theorem NoneP.bind {α β} {Q : β → Prop} {m : M α} {f : α → M β} (hm : Keeps (PosIs P0) m)
    (hf : ∀ a, NoneP P0 (f a) Q) : NoneP P0 (m >>= f) Q :=
  noneP_iff.2 (GM.Hoare.Tri.bind (keeps_iff.1 hm) fun a => noneP_iff.1 (hf a))

/-- a first statement whose answers in `Q1` keep `pos`; after an answer outside `Q1` the rest never
    answers in `Q` -/
theorem NoneP.bind_np {α β} {Q1 : α → Prop} {Q : β → Prop} {m : M α} {f : α → M β}
    (hm : NoneP P0 m Q1) (hf : ∀ a, Q1 a → NoneP P0 (f a) Q)
    (hg : ∀ a, ¬ Q1 a → Ret (f a) (fun b => ¬ Q b)) : NoneP P0 (m >>= f) Q :=
  noneP_iff.2 (GM.Hoare.Tri.bind (noneP_iff.1 hm) fun a =>
    Classical.byCases
      (fun h1 : Q1 a => (noneP_iff.1 (hf a h1)).conseq (fun _ h => h) (fun _ hs => hs h1) fun _ _ h => h)
      (fun h1 => (ret_tri (hg a h1)).conseq (fun _ h => h) (fun _ h => h) fun _ _ hn hq => absurd hq hn))

theorem NoneP.ite {α} {Q : α → Prop} {c : Prop} [Decidable c] {a b : M α}
    (ha : c → NoneP P0 a Q) (hb : ¬c → NoneP P0 b Q) : NoneP P0 (if c then a else b) Q :=
  noneP_iff.2 (GM.Hoare.Tri.ite (fun h => noneP_iff.1 (ha h)) fun h => noneP_iff.1 (hb h))

theorem NoneP.of_ret {α} {Q R : α → Prop} {m : M α} (hr : Ret m R) (hqr : ∀ a, R a → ¬ Q a) :
    NoneP P0 m Q :=
  noneP_iff.2 ((ret_tri hr).conseq (fun _ h => h) (fun _ h => h) fun a _ hR hq => absurd hq (hqr a hR))

theorem NoneP.of_keeps {α} {Q : α → Prop} {m : M α} (hm : Keeps (PosIs P0) m) : NoneP P0 m Q :=
  noneP_iff.2 ((keeps_iff.1 hm).conseq (fun _ h => h) (fun _ h => h) fun _ _ h _ => h)

end calculus

/-- the parser answered nil -/
def IsNone (a : Option Nat × PState) : Prop := a.1 = none

/-- the parser answered a node -/
def IsSome (a : Option Nat × PState) : Prop := a.1.isSome = true

theorem isSome_not_isNone (a : Option Nat × PState) (h : IsSome a) : ¬ IsNone a := by
  intro hn
  unfold IsNone at hn
  unfold IsSome at h
  rw [hn] at h
  cases h

theorem Ret.mono {α} {m : M α} {R Q : α → Prop} (hr : Ret m R) (h : ∀ a, R a → Q a) : Ret m Q :=
  ⟨fun s a s' hm => h a (hr.h s a s' hm)⟩

theorem NoneP.of_some {P0 : Segment} {m : M (Option Nat × PState)} (hr : Ret m IsSome) :
    NoneP P0 m IsNone := NoneP.of_ret hr isSome_not_isNone

/-- after a first statement that may move the cursor every answer is a node -/
theorem NoneP.bind_some {P0 : Segment} {α} {m : M α} {f : α → M (Option Nat × PState)}
    (hr : ∀ a, Ret (f a) IsSome) : NoneP P0 (m >>= f) IsNone := NoneP.of_some (Ret.bind hr)

/-- after a first statement that may move the cursor every answer is `true` -/
theorem NoneP.bind_true {P0 : Segment} {α} {m : M α} {f : α → M Bool}
    (hr : ∀ a, Ret (f a) (fun b => b = true)) : NoneP P0 (m >>= f) (fun b => b = false) :=
  NoneP.of_ret (Ret.bind hr) fun b hb hf => by rw [hb] at hf; cases hf

/-- walk over a `do` block all of whose answers are closed by `rfl` -/
macro "rs" : tactic =>
  `(tactic| repeat' first
    | ((with_reducible apply Ret.pure); rfl)
    | intro_pi
    | with_reducible apply Ret.bind
    | with_reducible apply Ret.ite
    | split
    | with_reducible apply Ret.throw)

macro "np_step" : tactic =>
  `(tactic| first
    | with_reducible apply NoneP.pure
    | intro_pi
    | ((with_reducible apply NoneP.bind); focus (kp; done))
    | ((with_reducible apply NoneP.bind_some); unfold IsSome; rs; done)
    | ((with_reducible apply NoneP.bind_true); rs; done)
    | with_reducible apply NoneP.ite
    | split
    | with_reducible apply NoneP.throw)

/-- walk over the `do` block of an `Open` -/
macro "np" : tactic => `(tactic| repeat' np_step)

section parsers
variable (P0 : Segment)

theorem paragraphOpen_np (p : Nat) : NoneP P0 (paragraphOpen p) IsNone := by
  unfold paragraphOpen; np

theorem thematicOpen_np (p : Nat) : NoneP P0 (thematicOpen p) IsNone := by
  unfold thematicOpen; np

theorem atxOpen_np (p : Nat) : NoneP P0 (atxOpen p) IsNone := by
  unfold atxOpen; np

theorem setextOpen_np (p : Nat) : NoneP P0 (setextOpen p) IsNone := by
  unfold setextOpen; np

theorem codeOpen_np (p : Nat) : NoneP P0 (codeOpen p) IsNone := by
  unfold codeOpen; np

theorem fencedOpen_np (p : Nat) : NoneP P0 (fencedOpen p) IsNone := by
  unfold fencedOpen; np

theorem htmlOpen_np (p : Nat) : NoneP P0 (htmlOpen p) IsNone := by
  unfold htmlOpen; np

theorem listOpen_np (p : Nat) : NoneP P0 (listOpen p) IsNone := by
  unfold listOpen; np

theorem listItemOpen_np (p : Nat) : NoneP P0 (listItemOpen p) IsNone := by
  have := @lastOffset_kp P0
  unfold listItemOpen; np

/-- `blockquoteProcess` answers `false` only before any advance -/
theorem blockquoteProcess_np : NoneP P0 blockquoteProcess (fun b => b = false) := by
  unfold blockquoteProcess; np

theorem blockquoteOpen_np (p : Nat) : NoneP P0 (blockquoteOpen p) IsNone := by
  unfold blockquoteOpen
  refine NoneP.bind_np (blockquoteProcess_np P0) ?_ ?_
  · intro a ha
    np
  · intro a ha
    have : a = true := by cases a <;> simp_all
    subst this
    refine Ret.mono (R := IsSome) ?_ isSome_not_isNone
    simp only [↓reduceIte]
    unfold IsSome; rs

theorem bpOpen_np (bp : BP) (p : Nat) : NoneP P0 (bpOpen bp p) IsNone := by
  cases bp <;> unfold bpOpen
  · exact setextOpen_np P0 p
  · exact thematicOpen_np P0 p
  · exact listOpen_np P0 p
  · exact listItemOpen_np P0 p
  · exact codeOpen_np P0 p
  · exact atxOpen_np P0 p
  · exact fencedOpen_np P0 p
  · exact blockquoteOpen_np P0 p
  · exact htmlOpen_np P0 p
  · exact paragraphOpen_np P0 p

end parsers

theorem peekLine_pos (s s' : St) (a : Option Bytes × Segment) (h : peekLine s = .ok (a, s')) :
    s'.r.pos = s.r.pos := peekLine_kp (P0 := s.r.pos) s a s' rfl h

theorem lineOffset_pos (s s' : St) (a : Int) (h : lineOffset s = .ok (a, s')) :
    s'.r.pos = s.r.pos := lineOffset_kp (P0 := s.r.pos) s a s' rfl h

theorem blockquoteProcess_false_pos (s s' : St) (h : blockquoteProcess s = .ok (false, s')) :
    s'.r.pos = s.r.pos := blockquoteProcess_np s.r.pos s false s' rfl h rfl

theorem bpOpen_none_pos (bp : BP) (parent : Nat) (s s' : St) (a : Option Nat × PState)
    (h : bpOpen bp parent s = .ok (a, s')) (hn : a.1 = none) : s'.r.pos = s.r.pos :=
  bpOpen_np s.r.pos bp parent s a s' rfl h hn

end GM.Blocks
end NonePos

/-
  part InvNE — `openBlocks` answers `newBlocksOpened` only with a non-empty `pc.opened`.
  The result becomes `newBlocksOpened` only where `tryParsers` pushes a block onto `pc.opened`
  (parser.go:1005-1007); every `closeBlocks` / truncation inside `tryParsers` runs before that push.
-/
section InvNE
namespace GM.Blocks
open GM GM.Text

namespace InvNE

/-- every successful run of `m` ends with `Q` -/
def Ends {α : Type} (Q : α → St → Prop) (m : M α) : Prop :=
  ∀ s a s', m s = .ok (a, s') → Q a s'

open GM.Hoare in
theorem ends_iff {α} {Q : α → St → Prop} {m : M α} : Ends Q m ↔ Tri Top (fun _ => True) m Q :=
  ⟨fun h => Tri.top_iff.2 fun s a s' _ e => h s a s' e, fun h s a s' e => Tri.top_iff.1 h s a s' trivial e⟩

theorem Ends.bind_right {α β} {Q : β → St → Prop} {m : M α} {f : α → M β} (hf : ∀ a, Ends Q (f a)) :
    Ends Q (m >>= f) := by
  intro s b s' h
  obtain ⟨a, s1, _, h2⟩ := bind_ok h
  exact hf a s1 b s' h2

theorem Ends.throw {α} {Q : α → St → Prop} (e : Panic) : Ends Q (throw e : M α) :=
  ends_iff.2 (GM.Hoare.Tri.throw e trivial)

theorem Ends.ite {α} {Q : α → St → Prop} {c : Prop} [Decidable c] {a b : M α} (ha : Ends Q a) (hb : Ends Q b) :
    Ends Q (if c then a else b) :=
  ends_iff.2 (GM.Hoare.Tri.ite (fun _ => ends_iff.1 ha) fun _ => ends_iff.1 hb)

theorem Ends.app {α} {Q : α → St → Prop} {m : M α} (hm : Ends Q m) {s s' : St} {a : α}
    (h : m s = .ok (a, s')) : Q a s' := hm s a s' h

/-- the push parser.go:1006-1007 and what follows it (1008-1013) -/
theorem push_tail (b : Block) (c : Bool) (x y : TryOutcome × OpenResult × Option Block) :
    Ends (fun _ s' => s'.pc.opened ≠ [])
      (modPc (fun pc => { pc with opened := pc.opened ++ [b] }) >>= fun _ =>
        if c = true then (pure x : M _) else pure y) := by
  intro s a s' h
  obtain ⟨u, s1, h1, h2⟩ := bind_ok h
  cases h1
  split at h2 <;> cases h2 <;> simp

macro "ends_step" : tactic =>
  `(tactic| first
    | with_reducible apply push_tail
    | (with_reducible apply Ends.bind_right; intro _)
    | with_reducible apply Ends.ite
    | split
    | with_reducible apply Ends.throw)

macro "ends" : tactic => `(tactic| repeat' ends_step)

theorem tryParsers_new_ne (parent : Nat) (blank cont : Bool) (w : Int) (bps : List BP) :
    ∀ (result : OpenResult) (lb : Option Block) (s : St) (o : TryOutcome) (r : OpenResult)
      (lb' : Option Block) (s' : St),
      tryParsers parent blank cont w bps result lb s = .ok ((o, r, lb'), s') → r = .newBlocksOpened →
      (result = .newBlocksOpened → s.pc.opened ≠ []) → s'.pc.opened ≠ [] := by
  induction bps with
  | nil =>
    intro result lb s o r lb' s' h hr hs
    unfold tryParsers at h
    cases h
    exact hs hr
  | cons bp bps ih =>
    intro result lb s o r lb' s' h hr hs
    unfold tryParsers at h
    dsimp only at h
    by_cases hc1 : (cont && result == OpenResult.noBlocksOpened && !bp.canInterruptParagraph) = true
    · rw [if_pos hc1] at h
      exact ih _ _ _ _ _ _ _ h hr hs
    rw [if_neg hc1] at h
    by_cases hc2 : (decide (w > 3) && !bp.canAcceptIndentedLine) = true
    · rw [if_pos hc2] at h
      exact ih _ _ _ _ _ _ _ h hr hs
    rw [if_neg hc2] at h
    obtain ⟨lastBlock, s1, h1, h⟩ := bind_ok h
    cases h1
    obtain ⟨x, s2, h2, h⟩ := bind_ok h
    have ho := bpOpen_opened _ _ _ _ _ h2
    obtain ⟨node, state⟩ := x
    cases node with
    | none =>
      dsimp only at h
      exact ih _ _ _ _ _ _ _ h hr (fun hh => by rw [ho]; exact hs hh)
    | some node =>
      dsimp only at h
      refine Ends.app (Q := fun _ s' => s'.pc.opened ≠ []) ?_ h
      ends

open GM.Hoare

theorem tri_throw_bind {α β} {P : St → Prop} {Q : β → St → Prop} (e : Panic) (f : α → M β) :
    Tri Top P ((throw e : M α) >>= f) Q :=
  Tri.bind (R := fun _ _ => False) (Tri.throw e trivial) fun _ _ hs => hs.elim

/-- a result `newBlocksOpened` comes with a non-empty `pc.opened` -/
def NewNE (result : OpenResult) (s : St) : Prop := result = .newBlocksOpened → s.pc.opened ≠ []

theorem newNE_noR (result : OpenResult) : NoR (NewNE result) := ⟨fun _ _ hs => hs⟩

theorem tryParsers_tri (parent : Nat) (blank cont : Bool) (w : Int) (bps : List BP) (result : OpenResult)
    (lb : Option Block) :
    Tri Top (NewNE result) (tryParsers parent blank cont w bps result lb) (fun x => NewNE x.2.1) := by
  refine Tri.top_iff.2 ?_
  intro s x s' hs h hr
  obtain ⟨o, r, lb'⟩ := x
  exact tryParsers_new_ne parent blank cont w bps result lb s o r lb' s' h hr hs

theorem toContinuable_tri (cont : Bool) (result : OpenResult) (lb : Option Block) :
    Tri Top (NewNE result) (toContinuable cont result lb) NewNE := by
  refine Tri.top_iff.2 ?_
  intro s r s' hs h hr
  unfold toContinuable at h
  dsimp only at h
  split at h
  · rename_i hc
    exfalso
    split at h
    · obtain ⟨_, _, h1, _⟩ := bind_ok h
      cases h1
    · obtain ⟨st, s1, _, h2⟩ := bind_ok h
      split at h2
      · cases h2; cases hr
      · cases h2
        subst hr
        simp at hc
  · cases h
    exact hs hr

theorem openBlocksLoop_tri (blank cont : Bool) (fuel : Nat) :
    ∀ (parent : Nat) (result : OpenResult) (lb : Option Block),
      Tri Top (NewNE result) (openBlocksLoop blank cont fuel parent result lb) NewNE := by
  induction fuel with
  | zero =>
    intro parent result lb
    exact Tri.top_iff.2 fun s r s' _ h => by cases h
  | succ fuel ih =>
    intro parent result lb
    unfold openBlocksLoop
    dsimp only
    refine Tri.bind (keeps_iff.1 (peekLine_keeps (newNE_noR result))) (fun x => ?_)
    refine Tri.bind (keeps_iff.1 (lineOffset_keeps (newNE_noR result))) (fun lo => ?_)
    refine Tri.bind (keeps_iff.1 (modPc_keeps _ ?_)) (fun _ => ?_)
    · intro s hs hr
      have := hs hr
      dsimp only
      split <;> exact this
    refine Tri.ite (fun _ => toContinuable_tri cont result lb) fun _ => ?_
    refine Tri.bind (keeps_iff.1 (liftE_keeps _)) (fun c0 => ?_)
    refine Tri.ite (fun _ => toContinuable_tri cont result lb) fun _ => ?_
    have tail : ∀ (w : Int) (bps : List BP) (before : St),
        Tri Top (NewNE result)
          (tryParsers parent blank cont w bps result lb >>= fun x =>
            match x.fst with
            | TryOutcome.retry parent' => do
              let after ← get
              if (!decide (retryMeasure after < retryMeasure before)) = true then do
                  throw Panic.pre
                  openBlocksLoop blank cont fuel parent' x.2.fst x.2.snd
                else openBlocksLoop blank cont fuel parent' x.2.fst x.2.snd
            | TryOutcome.done => toContinuable cont x.2.fst x.2.snd) NewNE := by
      intro w bps before
      refine Tri.bind (tryParsers_tri parent blank cont w bps result lb) (fun x => ?_)
      split
      · refine Tri.bind (keeps_iff.1 get_keeps) (fun after => ?_)
        exact Tri.ite (fun _ => tri_throw_bind _ _) fun _ => ih _ _ _
      · exact toContinuable_tri _ _ _
    refine Tri.ite (fun _ => ?_) fun _ => ?_
    · refine Tri.bind (keeps_iff.1 (liftE_keeps _)) (fun c => ?_)
      refine Tri.bind (keeps_iff.1 (Keeps.pure _)) (fun bps => ?_)
      refine Tri.bind (keeps_iff.1 get_keeps) (fun before => ?_)
      exact tail _ _ _
    · refine Tri.bind (keeps_iff.1 (Keeps.pure _)) (fun bps => ?_)
      refine Tri.bind (keeps_iff.1 get_keeps) (fun before => ?_)
      exact tail _ _ _

end InvNE

theorem openBlocks_new_ne (q : Nat) (blank : Bool) (s : St) (r : OpenResult) (s' : St)
    (h : openBlocks q blank s = .ok (r, s')) (hr : r = .newBlocksOpened) : s'.pc.opened ≠ [] := by
  unfold openBlocks at h
  obtain ⟨lb, s1, h1, h⟩ := bind_ok h
  have key : ∀ (c : Bool) (s2 : St), (do
        let src ← source
        openBlocksLoop blank c (retryFuel src) q OpenResult.noBlocksOpened lb) s2 = .ok (r, s') →
      s'.pc.opened ≠ [] := by
    intro c s2 h
    obtain ⟨src, s3, h3, h⟩ := bind_ok h
    exact GM.Hoare.Tri.top_iff.1 (InvNE.openBlocksLoop_tri blank c _ q .noBlocksOpened lb) s3 r s' (fun hh => by cases hh) h hr
  dsimp only at h
  cases lb with
  | some b =>
    dsimp only at h
    obtain ⟨n, s2, h2, h⟩ := bind_ok h
    obtain ⟨c, s3, h3, h⟩ := bind_ok h
    exact key _ _ h
  | none =>
    dsimp only at h
    obtain ⟨c, s2, h2, h⟩ := bind_ok h
    exact key _ _ h

end GM.Blocks
end InvNE

/-
  part RInd — the Close functions of the block parsers and `closeBlocks` are independent of
  the reader: they never move it and read nothing of it except its `source`.
  `RInd m`: running `m` from a state whose reader is replaced by any reader `r'` with the same `source`
  gives the same answer (same value / same panic) and the same final state up to the reader, which stays
  `r'`; and a successful run of `m` leaves the reader alone. Both halves are read off GM.Proof.BlocksComm (`Close`
  commutes with overwriting BlockOffset / BlockIndent and the reader) and the frames of GM.Proof.IndepFrame (`Close`
  writes neither).
-/
section RInd
namespace GM.Blocks
open GM GM.Text

/-- `m` reads nothing of the reader except its `source` and does not move it -/
def RInd {α : Type} (m : M α) : Prop :=
  ∀ (s : St) (r' : Reader), r'.source = s.r.source →
    (m { s with r := r' } = (m s).map (fun x => (x.1, { x.2 with r := r' }))) ∧
    (∀ a s1, m s = .ok (a, s1) → s1.r = s.r)

theorem rind_of_comm {α} {m : M α} (hc : ∀ o i rm, CommBO o i rm m) (hr : IFr SameReader m) (hb : IFr SameBO m) :
    RInd m :=
  fun s r' hs => ⟨commBO_self hc hb s r' hs, fun a s1 e => hr.h s a s1 e⟩

theorem RInd.eq {α} {m : M α} (hm : RInd m) (s : St) (r' : Reader) (hr : r'.source = s.r.source) :
    m { s with r := r' } = (m s).map (fun x => (x.1, { x.2 with r := r' })) := (hm s r' hr).1

theorem RInd.keeps_r {α} {m : M α} (hm : RInd m) {s : St} {a : α} {s1 : St} (h : m s = .ok (a, s1)) :
    s1.r = s.r := (hm s s.r rfl).2 a s1 h

theorem lastOpenedBlock_rind : RInd lastOpenedBlock := by
  intro s r' _
  refine ⟨rfl, ?_⟩
  intro a s1 h; cases h; rfl

theorem bpClose_rind (bp : BP) (n : Nat) : RInd (bpClose bp n) :=
  rind_of_comm (fun _ _ _ => CommBO.bpClose bp n) (bpClose_fr sameReader_prims (fun _ => rfl) (fun _ => rfl) bp n)
    (bpClose_fr sameBO_prims (fun _ => ⟨rfl, rfl⟩) (fun _ => ⟨rfl, rfl⟩) bp n)

theorem closeLoop_rind (blocks : List Block) (to : Int) (k : Nat) : RInd (closeLoop blocks to k) :=
  rind_of_comm (fun _ _ _ => CommBO.closeLoop blocks to k) (closeLoop_sameReader blocks to k)
    (closeLoop_fr sameBO_prims (fun _ => ⟨rfl, rfl⟩) (fun _ => ⟨rfl, rfl⟩) blocks to k)

theorem closeBlocks_isRInd (frm to : Int) : RInd (closeBlocks frm to) := by
  refine rind_of_comm (fun _ _ _ => CommBO.closeBlocks frm to) (closeBlocks_sameReader frm to) ?_
  have hR := sameBO_prims
  have := closeLoop_fr sameBO_prims (fun _ => ⟨rfl, rfl⟩) (fun _ => ⟨rfl, rfl⟩)
  unfold closeBlocks; frame
  all_goals exact modPc_fr _ (fun _ => ⟨rfl, rfl⟩)

theorem bpClose_rind_eq (bp : BP) (n : Nat) (s : St) (r' : Reader) (hr : r'.source = s.r.source) :
    bpClose bp n { s with r := r' } = (bpClose bp n s).map (fun x => (x.1, { x.2 with r := r' })) :=
  (bpClose_rind bp n).eq s r' hr

theorem bpClose_keeps_r (bp : BP) (n : Nat) (s s' : St) (a : Unit) (h : bpClose bp n s = .ok (a, s')) :
    s'.r = s.r := (bpClose_rind bp n).keeps_r h

theorem closeLoop_rind_eq (blocks : List Block) (to : Int) (k : Nat) (s : St) (r' : Reader)
    (hr : r'.source = s.r.source) :
    closeLoop blocks to k { s with r := r' } =
      (closeLoop blocks to k s).map (fun x => (x.1, { x.2 with r := r' })) :=
  (closeLoop_rind blocks to k).eq s r' hr

theorem closeLoop_keeps_r (blocks : List Block) (to : Int) (k : Nat) (s s' : St) (a : Unit)
    (h : closeLoop blocks to k s = .ok (a, s')) : s'.r = s.r := (closeLoop_rind blocks to k).keeps_r h

theorem closeBlocks_rind (frm to : Int) (s : St) (r' : Reader) (hr : r'.source = s.r.source) :
    closeBlocks frm to { s with r := r' } =
      (closeBlocks frm to s).map (fun x => (x.1, { x.2 with r := r' })) :=
  (closeBlocks_isRInd frm to).eq s r' hr

theorem closeBlocks_keeps_r (frm to : Int) (s s' : St) (a : Unit)
    (h : closeBlocks frm to s = .ok (a, s')) : s'.r = s.r := (closeBlocks_isRInd frm to).keeps_r h

end GM.Blocks
end RInd
