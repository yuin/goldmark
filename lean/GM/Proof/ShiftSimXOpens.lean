/-
  GM.Proof.ShiftSimXOpens — at the top of the outer loop of `parseBlocks` (nothing open) on a line that is not
  blank, `openBlocks` answers `newBlocksOpened` (`openBlocks0_new`); `skipBlankLinesR` stops with `true` exactly on
  a line that is not blank (`skipBlankLinesR_nonblank`).
-/
import GM.Proof.ShiftSimMainL
import GM.Proof.IndepEnd

namespace GM.Blocks.Xs
open GM GM.Text GM.Spec GM.Proof.Reader GM.Blocks GM.Blocks.L
open GM.Blocks.Sh (oblTry)

/-! ### the source of the reader never changes -/

def xo_SrcIs (src : Bytes) : St → Prop := fun s => s.r.source = src

section prims
variable {src : Bytes}

theorem xo_advanceLine_ks : Keeps (xo_SrcIs src) advanceLine := by
  intro s a s' hs h; cases h
  exact (rd_advanceLine _).1.trans hs

theorem xo_modNode_ks (id : Nat) (f : Node → Node) : Keeps (xo_SrcIs src) (modNode id f) :=
  modNode_keeps ⟨fun _ _ hs => hs⟩ id f

end prims

theorem xo_bpOpen_ks (src : Bytes) (bp : BP) (p : Nat) : Keeps (xo_SrcIs src) (bpOpen bp p) :=
  fun _ _ _ hs h => (bpOpen_step h).1.source.trans hs

theorem xo_skip (src : Bytes) : ∀ (fuel : Nat) (lines : Int) (r r' : Reader) (c : RCur) (x : Segment × Int × Bool),
    RI src r c → PadOK c → skipBlankLines readerOps fuel lines r = .ok (x, r') → x.2.2 = true →
    ∃ c', RI src r' c' ∧ PadOK c' ∧ c'.p < src.length ∧ isBlank ((RCur.view src c').getD []) = false := by
  intro fuel
  induction fuel with
  | zero => intro _ _ _ _ _ _ _ h; unfold skipBlankLines at h; cases h
  | succ fuel ih =>
    intro lines r r' c x hri hpad h hok
    obtain ⟨r1, e1, h1⟩ := ri_peekLine hri
    unfold skipBlankLines at h
    simp only [readerOps, e1, bind, Except.bind, pure, Except.pure] at h
    cases hv : RCur.view src c with
    | none => rw [hv] at h; simp only [] at h; cases h; cases hok
    | some l =>
      rw [hv] at h
      simp only [] at h
      by_cases hb : isBlank l = true
      · rw [if_pos hb] at h
        have hp2 : PadOK (RCur.advanceLine src c) := by intro hh; simp [RCur.advanceLine] at hh
        exact ih (lines + 1) r1.advanceLine r' _ x (ri_advanceLine h1) hp2 h hok
      · rw [if_neg hb] at h
        cases h
        refine ⟨c, h1, hpad, ?_, ?_⟩
        · by_cases hp : c.p < src.length
          · exact hp
          · rw [view_none src c hp] at hv; cases hv
        · rw [hv]; simpa using hb

theorem skipBlankLinesR_nonblank (src : Bytes) (s s' : St) (x : Segment × Int × Bool) (c : RCur)
    (hri : RI src s.r c) (hpad : PadOK c) (h : skipBlankLinesR s = .ok (x, s')) (hok : x.2.2 = true) :
    ∃ c', RI src s'.r c' ∧ PadOK c' ∧ c'.p < src.length ∧ isBlank ((RCur.view src c').getD []) = false ∧
      s'.nodes = s.nodes ∧ s'.pc = s.pc := by
  unfold skipBlankLinesR at h
  cases hp : skipBlankLines readerOps (loopFuel s.r.source) 0 s.r with
  | error e => rw [hp] at h; cases h
  | ok q =>
    rw [hp] at h; cases h
    obtain ⟨c', a1, a2, a3, a4⟩ := xo_skip src _ _ _ _ c q.1 hri hpad hp hok
    exact ⟨c', a1, a2, a3, a4, rfl, rfl⟩

/-! ### `newBlocksOpened` is never taken back -/

theorem xo_tpSome_ret (parent node : Nat) (bp : BP) (state : PState) (lastBlock : Option Block) (blankLine : Bool)
    (last : Option Nat) :
    Ret (Sh.tpSome parent node bp state lastBlock blankLine last) (fun x => x.2.1 = OpenResult.newBlocksOpened) := by
  unfold Sh.tpSome Sh.tpJp3 Sh.tpJp1 Sh.tpJp2
  ret

theorem xo_toContinuable_new (cont : Bool) (lb : Option Block) (s s' : St) (x : OpenResult)
    (h : toContinuable cont .newBlocksOpened lb s = .ok (x, s')) : x = .newBlocksOpened := by
  rcases (toContinuable_opened cont _ lb s x s' h).2 with h1 | ⟨h1, _⟩
  · exact h1
  · cases h1

theorem xo_tryParsers_new (parent : Nat) (blank cont : Bool) (w : Int) (bps : List BP) (lb : Option Block) (s s' : St)
    (x : TryOutcome × OpenResult × Option Block)
    (h : tryParsers parent blank cont w bps .newBlocksOpened lb s = .ok (x, s')) : x.2.1 = .newBlocksOpened := by
  rcases tryParsers_opened parent blank cont w bps _ lb s x s' h with h1 | ⟨_, h1, _⟩
  · exact h1
  · exact h1

/-- the rest of `oblTry` after a candidate loop that answered `newBlocksOpened` -/
theorem xo_oblTry_of (blank cont : Bool) (fuel : Nat)
    (ih : ∀ (parent : Nat) (lb : Option Block) (s s' : St) (x : OpenResult),
      openBlocksLoop blank cont fuel parent .newBlocksOpened lb s = .ok (x, s') → x = .newBlocksOpened)
    (parent : Nat) (w : Int) (result : OpenResult) (lb : Option Block) (bps : List BP) (s s' : St) (x : OpenResult)
    (htp : ∀ y s2, tryParsers parent blank cont w bps result lb s = .ok (y, s2) → y.2.1 = .newBlocksOpened)
    (h : Sh.oblTry blank cont fuel parent w result lb bps s = .ok (x, s')) : x = .newBlocksOpened := by
  unfold Sh.oblTry at h
  obtain ⟨s0, s1, h1, hA⟩ := Sh.bind_ok_inv h
  cases h1
  obtain ⟨y, s2, h2, hB⟩ := Sh.bind_ok_inv hA
  have hy1 := htp y s2 h2
  cases hy : y.1 with
  | done =>
    rw [hy, hy1] at hB
    exact xo_toContinuable_new _ _ _ _ _ hB
  | retry p' =>
    rw [hy, hy1] at hB
    obtain ⟨s3, s4, h3, hC⟩ := Sh.bind_ok_inv hB
    cases h3
    split at hC
    · obtain ⟨_, _, h4, _⟩ := Sh.bind_ok_inv hC
      cases h4
    · exact ih p' _ _ _ _ hC

theorem xo_openBlocksLoop_new (blank cont : Bool) :
    ∀ (fuel parent : Nat) (lb : Option Block) (s s' : St) (x : OpenResult),
      openBlocksLoop blank cont fuel parent .newBlocksOpened lb s = .ok (x, s') → x = .newBlocksOpened := by
  intro fuel
  induction fuel with
  | zero =>
    intro parent lb s s' x h
    unfold openBlocksLoop at h
    cases h
  | succ fuel ih =>
    intro parent lb s s' x h
    rw [Sh.openBlocksLoop_succ] at h
    obtain ⟨lp, s1, h1, hA⟩ := Sh.bind_ok_inv h
    obtain ⟨lo, s2, h2, hB⟩ := Sh.bind_ok_inv hA
    obtain ⟨_, s3, h3, hC⟩ := Sh.bind_ok_inv hB
    by_cases c1 : lp.1.isNone = true
    · rw [if_pos c1] at hC
      exact xo_toContinuable_new _ _ _ _ _ hC
    rw [if_neg c1] at hC
    obtain ⟨c0, s4, h4, hD⟩ := Sh.bind_ok_inv hC
    by_cases c2 : (c0 == 10) = true
    · rw [if_pos c2] at hD
      exact xo_toContinuable_new _ _ _ _ _ hD
    rw [if_neg c2] at hD
    split at hD
    · obtain ⟨c, s5, h5, hE⟩ := Sh.bind_ok_inv hD
      exact xo_oblTry_of blank cont fuel ih parent _ _ lb _ _ _ _
        (fun y s2 e => xo_tryParsers_new _ _ _ _ _ _ _ _ _ e) hE
    · exact xo_oblTry_of blank cont fuel ih parent _ _ lb _ _ _ _
        (fun y s2 e => xo_tryParsers_new _ _ _ _ _ _ _ _ _ e) hD

/-! ### the paragraph parser opens on a line that is not blank -/

theorem xo_takeWhile_lt (p : UInt8 → Bool) : ∀ (v : Bytes), v.all p = false → (v.takeWhile p).length < v.length := by
  intro v
  induction v with
  | nil => intro h; simp at h
  | cons a v ih =>
    intro h
    by_cases ha : p a = true
    · rw [List.takeWhile_cons_of_pos ha]
      have : v.all p = false := by
        simp only [List.all_cons, ha, Bool.true_and] at h; exact h
      have := ih this
      simp only [List.length_cons]; omega
    · rw [List.takeWhile_cons_of_neg ha]
      simp

theorem xo_all_spaces (n : Nat) : (spaces n).all isSpace = true := by
  unfold spaces
  simp only [List.all_replicate]
  have : isSpace 32 = true := by decide
  simp [this]

theorem xo_peekLine_seg (r r' : Reader) (x : Option Bytes × Segment) (h : r.peekLine = .ok (x, r')) : x.2 = r.pos := by
  unfold Reader.peekLine at h
  split at h
  · split at h
    · cases h; rfl
    · cases hv : r.pos.value r.source with
      | error e => rw [hv] at h; cases h
      | ok v => rw [hv] at h; cases h; rfl
  · cases h; rfl

theorem xo_peekLineM_inv {s s' : St} {x : Option Bytes × Segment} (h : peekLine s = .ok (x, s')) :
    ∃ r', s.r.peekLine = .ok (x, r') ∧ s' = { s with r := r' } := by
  unfold peekLine at h
  cases hp : s.r.peekLine with
  | error e => rw [hp] at h; cases h
  | ok p => rw [hp] at h; cases h; exact ⟨_, rfl, rfl⟩

theorem xo_lineOffsetM_inv {s s' : St} {x : Int} (h : lineOffset s = .ok (x, s')) :
    ∃ r', s.r.lineOffsetOp = .ok (x, r') ∧ s' = { s with r := r' } := by
  unfold lineOffset at h
  cases hp : s.r.lineOffsetOp with
  | error e => rw [hp] at h; cases h
  | ok p => rw [hp] at h; cases h; exact ⟨_, rfl, rfl⟩

theorem xo_paragraphOpen_some (src : Bytes) (c : RCur) (hlt : c.p < src.length)
    (hnb : isBlank ((RCur.view src c).getD []) = false) (parent : Nat) (s s' : St) (y : Option Nat × PState)
    (hpos : s.r.pos = RCur.seg src c) (hsrc : s.r.source = src) (h : paragraphOpen parent s = .ok (y, s')) :
    y.1.isSome = true := by
  rw [view_eq src c hlt] at hnb
  simp only [Option.getD_some] at hnb
  have hv : (sub src c.p (lineEnd src c.p)).all isSpace = false := by
    unfold isBlank at hnb
    rw [List.all_append, xo_all_spaces, Bool.true_and] at hnb
    exact hnb
  have hle := lineEnd_le src c.p
  have hge := lineEnd_ge src (Nat.le_of_lt hlt)
  have hlen : (sub src c.p (lineEnd src c.p)).length = lineEnd src c.p - c.p := by
    unfold sub
    simp only [List.length_take, List.length_drop]
    omega
  have htl := xo_takeWhile_lt isSpace _ hv
  unfold paragraphOpen at h
  obtain ⟨lp, s1, h1, hA⟩ := Sh.bind_ok_inv h
  obtain ⟨r1, e1, rfl⟩ := xo_peekLineM_inv h1
  have hseg := xo_peekLine_seg _ _ _ e1
  have hsrc1 := (rd_peekLine e1).1
  obtain ⟨l, seg⟩ := lp
  simp only at hseg
  subst hseg
  dsimp only at hA
  obtain ⟨b, s2, h2, hB⟩ := Sh.bind_ok_inv hA
  cases h2
  obtain ⟨seg2, s3, h3, hC⟩ := Sh.bind_ok_inv hB
  obtain ⟨e3, rfl⟩ := Sh.liftE_ok_inv h3
  have hne : seg2.isEmpty = false := by
    simp only [hsrc1, hsrc, hpos] at e3
    unfold Segment.trimLeftSpace sliceB RCur.seg at e3
    simp only at e3
    rw [if_pos ⟨by omega, by omega, by omega⟩] at e3
    simp only [bind, Except.bind, pure, Except.pure, Int.toNat_natCast] at e3
    cases e3
    unfold Segment.isEmpty
    simp only [trimLeftSpaceLength]
    have : ¬ ((c.p : Int) + ((List.takeWhile isSpace (sub src c.p (lineEnd src c.p))).length : Int) ≥ (lineEnd src c.p : Int)) := by
      omega
    simp [this]
  rw [hne] at hC
  simp only [Bool.false_eq_true, if_false] at hC
  obtain ⟨node, s4, h4, hD⟩ := Sh.bind_ok_inv hC
  obtain ⟨_, s5, h5, hE⟩ := Sh.bind_ok_inv hD
  obtain ⟨_, s6, h6, hF⟩ := Sh.bind_ok_inv hE
  cases hF
  rfl

/-! ### the code block parser opens on an indented line that is not blank -/

theorem xo_peekLine_ri {src : Bytes} {s s' : St} {c : RCur} {x : Option Bytes × Segment} (hri : RI src s.r c)
    (h : peekLine s = .ok (x, s')) :
    x = (RCur.view src c, RCur.seg src c) ∧ RI src s'.r c ∧ s'.nodes = s.nodes ∧ s'.pc = s.pc := by
  obtain ⟨r', e1, rfl⟩ := xo_peekLineM_inv h
  obtain ⟨r1, e2, h2⟩ := ri_peekLine hri
  rw [e1] at e2
  cases e2
  exact ⟨rfl, h2, rfl, rfl⟩

theorem xo_lineOffset_ri {src : Bytes} {s s' : St} {c : RCur} {x : Int} (hri : RI src s.r c) (hlt : c.p < src.length)
    (h : lineOffset s = .ok (x, s')) :
    x = loVal src c ∧ RI src s'.r c ∧ s'.nodes = s.nodes ∧ s'.pc = s.pc := by
  obtain ⟨r', e1, rfl⟩ := xo_lineOffsetM_inv h
  obtain ⟨v, r1, e2, h2, h3⟩ := ri_lineOffset hri
  rw [e1] at e2
  cases e2
  exact ⟨h3 hlt, h2, rfl, rfl⟩

theorem xo_codeOpen_some (src : Bytes) (c : RCur) (hlt : c.p < src.length)
    (hnb : isBlank ((RCur.view src c).getD []) = false)
    (hw : 3 < (indentWidthI ((RCur.view src c).getD []) (loVal src c)).1)
    (parent : Nat) (s s' : St) (y : Option Nat × PState)
    (hri : RI src s.r c) (h : codeOpen parent s = .ok (y, s')) : y.1.isSome = true := by
  unfold codeOpen at h
  obtain ⟨lp, s1, h1, hA⟩ := Sh.bind_ok_inv h
  obtain ⟨rfl, hri1, _, _⟩ := xo_peekLine_ri hri h1
  dsimp only at hA
  obtain ⟨lo, s2, h2, hB⟩ := Sh.bind_ok_inv hA
  obtain ⟨rfl, hri2, _, _⟩ := xo_lineOffset_ri hri1 hlt h2
  have hip := (li_indentPosition_ok ((RCur.view src c).getD []) (loVal src c) 4 (by omega) (by omega)).1
  have hcond : (decide ((indentPosition ((RCur.view src c).getD []) (loVal src c) 4).1 < 0) ||
      isBlank ((RCur.view src c).getD [])) = false := by
    rw [hnb]; simp; omega
  generalize hq : indentPosition ((RCur.view src c).getD []) (loVal src c) 4 = q at hB hcond
  obtain ⟨pos, padding⟩ := q
  dsimp only at hB hcond
  rw [hcond] at hB
  simp only [Bool.false_eq_true, if_false] at hB
  obtain ⟨node, s4, h4, hD⟩ := Sh.bind_ok_inv hB
  obtain ⟨_, s5, h5, hE⟩ := Sh.bind_ok_inv hD
  cases hE
  rfl

theorem xo_tryParsers_para (src : Bytes) (P : Segment)
    (hP : ∀ parent s y s', s.r.pos = P → s.r.source = src → paragraphOpen parent s = .ok (y, s') → y.1.isSome = true)
    (parent : Nat) (blank : Bool) (w : Int) (hw : ¬ w > 3) :
    ∀ (bps : List BP) (result : OpenResult) (lb : Option Block) (s s' : St) (x : TryOutcome × OpenResult × Option Block),
      BP.paragraph ∈ bps → s.r.pos = P → s.r.source = src →
      tryParsers parent blank false w bps result lb s = .ok (x, s') → x.2.1 = .newBlocksOpened := by
  intro bps
  induction bps with
  | nil => intro _ _ _ _ _ hm; cases hm
  | cons bp bps ih =>
    intro result lb s s' x hm hpos hsrc h
    rw [Sh.tryParsers_cons] at h
    rw [if_neg (by simp)] at h
    rw [if_neg (by simp [hw])] at h
    obtain ⟨x0, s1, h1, hA⟩ := Sh.bind_ok_inv h
    obtain ⟨_, rfl⟩ := Sh.a2_lastOpenedBlock_inv h1
    obtain ⟨y, s2, h2, hB⟩ := Sh.bind_ok_inv hA
    cases hy : y.1 with
    | none =>
      rw [hy] at hB
      have hpos2 : s2.r.pos = P := (bpOpen_none_pos bp parent _ _ y h2 hy).trans hpos
      have hsrc2 : s2.r.source = src := xo_bpOpen_ks src bp parent _ _ _ hsrc h2
      rcases List.mem_cons.1 hm with e | hm'
      · subst e
        have := hP parent _ y s2 hpos hsrc h2
        rw [hy] at this; cases this
      · exact ih result x0 s2 s' x hm' hpos2 hsrc2 hB
    | some node =>
      rw [hy] at hB
      exact (xo_tpSome_ret parent node bp y.2 x0 blank _).h _ _ _ hB

theorem xo_tryParsers_code (parent : Nat) (blank : Bool) (w : Int) (hw : w > 3) (s : St)
    (hC : ∀ y s', codeOpen parent s = .ok (y, s') → y.1.isSome = true) :
    ∀ (bps : List BP) (result : OpenResult) (lb : Option Block) (s' : St) (x : TryOutcome × OpenResult × Option Block),
      BP.code ∈ bps →
      tryParsers parent blank false w bps result lb s = .ok (x, s') → x.2.1 = .newBlocksOpened := by
  intro bps
  induction bps with
  | nil => intro _ _ _ _ hm; cases hm
  | cons bp bps ih =>
    intro result lb s' x hm h
    rw [Sh.tryParsers_cons] at h
    rw [if_neg (by simp)] at h
    by_cases hbp : bp = .code
    · subst hbp
      rw [if_neg (by simp [BP.canAcceptIndentedLine])] at h
      obtain ⟨x0, s1, h1, hA⟩ := Sh.bind_ok_inv h
      obtain ⟨_, rfl⟩ := Sh.a2_lastOpenedBlock_inv h1
      obtain ⟨y, s2, h2, hB⟩ := Sh.bind_ok_inv hA
      have hs := hC y s2 h2
      cases hy : y.1 with
      | none => rw [hy] at hs; cases hs
      | some node =>
        rw [hy] at hB
        exact (xo_tpSome_ret parent node _ y.2 x0 blank _).h _ _ _ hB
    · have hna : bp.canAcceptIndentedLine = false := by
        cases bp <;> first | rfl | exact absurd rfl hbp
      rw [if_pos (by simp [hw, hna])] at h
      rcases List.mem_cons.1 hm with e | hm'
      · exact absurd e.symm hbp
      · exact ih result lb s' x hm' h

theorem xo_getD_ite_suffix {c : Prop} [Decidable c] {a fp : List BP} {x : Option (List BP)}
    (hx : ∃ pre, x.getD fp = pre ++ fp) : ∃ pre, (if c then some (a ++ fp) else x).getD fp = pre ++ fp := by
  split
  · exact ⟨a, rfl⟩
  · exact hx

/-- the candidates for a byte end with the free parsers -/
theorem xo_triggered_suffix (ch : UInt8) : ∃ pre, (triggered ch).getD freeParsers = pre ++ freeParsers := by
  unfold triggered
  iterate 9 apply xo_getD_ite_suffix
  exact ⟨[], rfl⟩

theorem xo_triggered_mem (ch : UInt8) :
    BP.code ∈ (triggered ch).getD freeParsers ∧ BP.paragraph ∈ (triggered ch).getD freeParsers := by
  obtain ⟨pre, e⟩ := xo_triggered_suffix ch
  rw [e]
  exact ⟨List.mem_append_right _ (by decide), List.mem_append_right _ (by decide)⟩

theorem xo_idx0 {l : Bytes} {c : UInt8} (h : idx l 0 = .ok c) : l[0]? = some c := by
  unfold idx getByte at h
  rw [if_neg (by omega)] at h
  have e : (0 : Int).toNat = 0 := rfl
  rw [e] at h
  cases hg : l[0]? with
  | none => rw [hg] at h; cases h
  | some y => rw [hg] at h; cases h; rfl

/-- a line of the source whose first byte is a line feed is blank -/
theorem xo_first10_blank (src : Bytes) (c : RCur) (hlt : c.p < src.length)
    (h : ((RCur.view src c).getD [])[0]? = some 10) : isBlank ((RCur.view src c).getD []) = true := by
  rw [view_eq src c hlt] at h ⊢
  simp only [Option.getD_some] at h ⊢
  have hpad : c.pad = 0 := by
    cases hc : c.pad with
    | zero => rfl
    | succ n =>
      rw [hc] at h
      simp [spaces, List.replicate_succ] at h
  rw [hpad] at h ⊢
  have e0 : spaces 0 = [] := rfl
  rw [e0, List.nil_append] at h ⊢
  have hl := lt_lineEnd src hlt
  have h10 : src[c.p]? = some 10 := by
    unfold sub at h
    rw [List.getElem?_take, if_pos (by omega), List.getElem?_drop] at h
    simpa using h
  rw [lineEnd_nl src h10]
  unfold sub
  have e1 : c.p + 1 - c.p = 1 := by omega
  rw [e1, List.take_one, List.head?_drop, h10]
  decide

theorem xo_openBlocksLoop0 (src : Bytes) (blank : Bool) (fuel parent : Nat) (lb : Option Block) (s s' : St)
    (x : OpenResult) (c : RCur) (hri : RI src s.r c) (hlt : c.p < src.length)
    (hnb : isBlank ((RCur.view src c).getD []) = false)
    (h : openBlocksLoop blank false (fuel + 1) parent .noBlocksOpened lb s = .ok (x, s')) :
    x = .newBlocksOpened := by
  rw [Sh.openBlocksLoop_succ] at h
  obtain ⟨lp, s1, h1, hA⟩ := Sh.bind_ok_inv h
  obtain ⟨rfl, hri1, _, _⟩ := xo_peekLine_ri hri h1
  obtain ⟨lo, s2, h2, hB⟩ := Sh.bind_ok_inv hA
  obtain ⟨rfl, hri2, _, _⟩ := xo_lineOffset_ri hri1 hlt h2
  obtain ⟨_, s3, h3, hC⟩ := Sh.bind_ok_inv hB
  have e3 := Sh.a2_modPc_inv h3
  have hr3 : s3.r = s2.r := by rw [e3]
  have hri3 : RI src s3.r c := by rw [hr3]; exact hri2
  dsimp only at hC
  have c1 : ¬ ((RCur.view src c).isNone = true) := by rw [view_eq src c hlt]; simp
  rw [if_neg c1] at hC
  obtain ⟨c0, s4, h4, hD⟩ := Sh.bind_ok_inv hC
  obtain ⟨e4, e4s⟩ := Sh.liftE_ok_inv h4
  rw [e4s] at hD
  have c2 : ¬ ((c0 == 10) = true) := by
    intro hc
    have : c0 = 10 := by simpa using hc
    subst this
    have := xo_first10_blank src c hlt (xo_idx0 e4)
    rw [this] at hnb; cases hnb
  rw [if_neg c2] at hD
  have ih := xo_openBlocksLoop_new blank false fuel
  have key : ∀ (bps : List BP), BP.code ∈ bps → BP.paragraph ∈ bps →
      Sh.oblTry blank false fuel parent (indentWidthI ((RCur.view src c).getD []) (loVal src c)).1
        .noBlocksOpened lb bps s3 = .ok (x, s') → x = .newBlocksOpened := by
    intro bps hcode hpara hE
    refine xo_oblTry_of blank false fuel ih parent _ _ lb bps _ _ _ (fun y s5 e => ?_) hE
    by_cases hw : (indentWidthI ((RCur.view src c).getD []) (loVal src c)).1 > 3
    · exact xo_tryParsers_code parent blank _ hw s3
        (fun y s' e => xo_codeOpen_some src c hlt hnb (by omega) parent s3 s' y hri3 e) bps _ lb _ _ hcode e
    · refine xo_tryParsers_para src (RCur.seg src c)
        (fun parent s y s' a1 a2 a3 => xo_paragraphOpen_some src c hlt hnb parent s s' y a1 a2 a3)
        parent blank _ hw bps _ lb s3 _ _ hpara ?_ hri3.source e
      rw [hri3.pos]; rfl
  split at hD
  · obtain ⟨ch, s5, h5, hE⟩ := Sh.bind_ok_inv hD
    obtain ⟨_, e5s⟩ := Sh.liftE_ok_inv h5
    rw [e5s] at hE
    exact key _ (xo_triggered_mem ch).1 (xo_triggered_mem ch).2 hE
  · exact key freeParsers (by simp [freeParsers]) (by simp [freeParsers]) hD

/-- at the top of the outer loop (nothing open) on a line that is not blank, `openBlocks` opens a block -/
theorem openBlocks0_new (src : Bytes) (s s' : St) (blank : Bool) (r : OpenResult) (c : RCur)
    (hop : s.pc.opened = []) (hri : RI src s.r c) (hlt : c.p < src.length)
    (hnb : isBlank ((RCur.view src c).getD []) = false)
    (h : openBlocks 0 blank s = .ok (r, s')) : r = .newBlocksOpened := by
  unfold openBlocks at h
  obtain ⟨x0, s1, h1, hA⟩ := Sh.bind_ok_inv h
  obtain ⟨ex0, e1s⟩ := Sh.a2_lastOpenedBlock_inv h1
  rw [hop] at ex0
  rw [e1s, ex0] at hA
  simp only [List.getLast?_nil] at hA
  obtain ⟨cont, s2, h2, hB⟩ := Sh.bind_ok_inv hA
  cases h2
  obtain ⟨b, s3, h3, hC⟩ := Sh.bind_ok_inv hB
  cases h3
  have hf : retryFuel s.r.source = (2 * s.r.source.length + 7) + 1 := rfl
  rw [hf] at hC
  exact xo_openBlocksLoop0 src blank _ 0 none s s' r c hri hlt hnb hC

end GM.Blocks.Xs
