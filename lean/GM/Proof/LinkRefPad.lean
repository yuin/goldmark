/-
  GM.Proof.LinkRefPad — the invariant of the link reference definition scanner (GM.Model.LinkRef) on well-formed lines WITH
  virtual padding (continuation lines behind a partly consumed tab inside a container), `BP`: the block reader stands for a
  well-formed cursor (`BAbs` of C18) whose padding is what is left of its line's padding (`PadOK`) — what bounds the bytes in
  front of the cursor by `rdFuel` (`rdFuel_gt_pad`) — and, also past the last line, of SOME line's padding (`PadAny`: when all
  paddings are 0 the cursor is padding-free). A property of the reader that `Advance` and `PeekLine` keep is kept by
  SkipSpaces (`skipSpaces_inv`). The hypotheses `WFSegs` / `WF0` are what the run-time
  checks `wfSegsB` / `wf0B` of the model decide.
-/
import GM.Model.LinkRef
import GM.Proof.InlinesLink

namespace GM.Proof.LinkRefTotal
open GM GM.Text GM.Spec GM.LinkRef GM.Proof.InlinesReader

theorem wfSegsFromB_sound (src : Bytes) : ∀ (lo : Int) (l : List Segment), wfSegsFromB src lo l = true → WFSegsFrom src lo l
  | _, [], _ => trivial
  | lo, s :: rest, h => by
    simp only [wfSegsFromB, Bool.and_eq_true, decide_eq_true_eq, Bool.not_eq_true'] at h
    exact ⟨h.1.1.1.1.1, h.1.1.1.1.2, h.1.1.1.2, h.1.1.2, h.1.2, wfSegsFromB_sound src _ rest h.2⟩

/-- the run-time check decides `WF0` -/
theorem wf0B_sound {src : Bytes} {l : List Segment} (h : wf0B src l = true) : WF0 src l := by
  simp only [wf0B, wfSegsB, pad0B, Bool.and_eq_true, Bool.not_eq_true', List.all_eq_true, beq_iff_eq] at h
  refine ⟨⟨?_, wfSegsFromB_sound src 0 l h.1.2⟩, h.2⟩
  intro e; rw [e] at h; simp at h

end GM.Proof.LinkRefTotal

namespace GM.Proof.LinkRefPad
open GM GM.Text GM.Spec GM.Inl GM.LinkRef GM.Proof.Reader GM.Proof.InlinesReader GM.Proof.Inlines GM.Proof.InlinesTotal
open GM.Proof.InlinesLink GM.Proof.BlockReaderFuel GM.Blocks GM.Proof.LinkRefTotal

variable {src : Bytes} {segs : List Segment}

theorem wfSegsB_sound {src : Bytes} {l : List Segment} (h : wfSegsB src l = true) : WFSegs src l := by
  simp only [wfSegsB, Bool.and_eq_true, Bool.not_eq_true'] at h
  refine ⟨?_, wfSegsFromB_sound src 0 l h.2⟩
  intro e; rw [e] at h; simp at h

/-- the cursor's padding is what is left of its line's padding -/
def PadOK (segs : List Segment) (c : BCur) : Prop := c.ln < BCur.k segs → c.pad ≤ (BCur.segOf segs c.ln).padding

/-- the cursor's padding is what is left of some line's padding (`AdvanceLine` past the last line keeps the padding) -/
def PadAny (segs : List Segment) (c : BCur) : Prop := ∃ j, c.pad ≤ (BCur.segOf segs j).padding

/-- the reader stands for a well-formed cursor with `PadOK` and `PadAny` -/
structure BP (src : Bytes) (segs : List Segment) (r : BlockReader) (c : BCur) : Prop where
  abs : BAbs src segs r c
  pad : PadOK segs c
  any : PadAny segs c

/-! ### an invariant of the cursor kept by the reader helpers -/

section generic
variable {σ : Type} (o : Ops σ) (J : σ → Prop)

theorem skipSpacesLine_inv (hadv : ∀ n s s', J s → o.advance n s = .ok s' → J s') (seg : Segment) :
    ∀ (l : Bytes) (i chars : Int) (s : σ) res ch s', J s → skipSpacesLine o seg l i chars s = .ok (res, ch, s') → J s' := by
  intro l
  induction l with
  | nil => intro i chars s res ch s' hj h; simp only [skipSpacesLine, pure, Except.pure, Except.ok.injEq, Prod.mk.injEq] at h; obtain ⟨_, _, rfl⟩ := h; exact hj
  | cons b bs ih =>
    intro i chars s res ch s' hj h
    simp only [skipSpacesLine] at h
    split at h
    · cases ha : o.advance 1 s with
      | error e => rw [ha] at h; simp [bind, Except.bind] at h
      | ok s1 =>
        rw [ha] at h
        simp only [bind, Except.bind] at h
        exact ih _ _ s1 res ch s' (hadv 1 s s1 hj ha) h
    · simp only [pure, Except.pure, Except.ok.injEq, Prod.mk.injEq] at h
      obtain ⟨_, _, rfl⟩ := h; exact hj

theorem skipSpaces_inv (hadv : ∀ n s s', J s → o.advance n s = .ok s' → J s')
    (hpl : ∀ s x s', J s → o.peekLine s = .ok (x, s') → J s') :
    ∀ (fuel : Nat) (chars : Int) (s : σ) x s', J s → skipSpaces o fuel chars s = .ok (x, s') → J s' := by
  intro fuel
  induction fuel with
  | zero => intro chars s x s' _ h; simp [skipSpaces] at h
  | succ f ih =>
    intro chars s x s' hj h
    simp only [skipSpaces] at h
    cases hp : o.peekLine s with
    | error e => rw [hp] at h; simp [bind, Except.bind] at h
    | ok y =>
      obtain ⟨⟨line, seg⟩, s1⟩ := y
      have hj1 := hpl s _ s1 hj hp
      rw [hp] at h
      simp only [bind, Except.bind] at h
      cases line with
      | none =>
        simp only [pure, Except.pure, Except.ok.injEq, Prod.mk.injEq] at h
        obtain ⟨_, rfl⟩ := h; exact hj1
      | some l =>
        simp only at h
        cases hl : skipSpacesLine o seg l 0 chars s1 with
        | error e => rw [hl] at h; simp at h
        | ok z =>
          obtain ⟨res, ch, s2⟩ := z
          have hj2 := skipSpacesLine_inv o J hadv seg l 0 chars s1 res ch s2 hj1 hl
          rw [hl] at h
          simp only at h
          cases res with
          | some v =>
            simp only [pure, Except.pure, Except.ok.injEq, Prod.mk.injEq] at h
            obtain ⟨_, rfl⟩ := h; exact hj2
          | none => exact ih ch s2 x s' hj2 h

end generic

theorem padOK_adv1 {c : BCur} (h : PadOK segs c) : PadOK segs (BCur.adv1 segs c) := by
  unfold BCur.adv1
  split
  · intro hl; have := h hl; simp only at hl ⊢; omega
  · split
    · intro hl; exact h hl
    · intro _; simp only; exact Int.le_refl _

theorem padOK_advN (n : Nat) : ∀ {c : BCur}, PadOK segs c → PadOK segs (BCur.advN segs n c) := by
  induction n with
  | zero => intro c h; exact h
  | succ n ih => intro c h; exact ih (padOK_adv1 h)

theorem padOK_advanceLine {c : BCur} (_h : PadOK segs c) : PadOK segs (BCur.advanceLine segs c) := by
  unfold BCur.advanceLine
  split
  · intro _; simp only; exact Int.le_refl _
  · rename_i hk; intro hl; simp only at hl; omega

theorem padAny_adv1 {c : BCur} (h : PadAny segs c) : PadAny segs (BCur.adv1 segs c) := by
  obtain ⟨j, hj⟩ := h
  unfold BCur.adv1
  split
  · exact ⟨j, by simp only; omega⟩
  · split
    · exact ⟨j, hj⟩
    · exact ⟨c.ln + 1, Int.le_refl _⟩

theorem padAny_advN (n : Nat) : ∀ {c : BCur}, PadAny segs c → PadAny segs (BCur.advN segs n c) := by
  induction n with
  | zero => intro c h; exact h
  | succ n ih => intro c h; exact ih (padAny_adv1 h)

theorem padAny_advanceLine {c : BCur} (h : PadAny segs c) : PadAny segs (BCur.advanceLine segs c) := by
  unfold BCur.advanceLine
  split
  · exact ⟨c.ln + 1, Int.le_refl _⟩
  · exact h

/-- over padding-free lines a cursor with `PadAny` is padding-free -/
theorem padAny_zero (Z : ∀ s ∈ segs, s.padding = 0) {c : BCur} (w : BWF segs c) (h : PadAny segs c) : c.pad = 0 := by
  obtain ⟨j, hj⟩ := h
  have hz : (BCur.segOf segs j).padding = 0 := by
    unfold BCur.segOf
    split
    · cases hg : segs[j.toNat]? with
      | none => rfl
      | some s => exact Z s (List.mem_of_getElem? hg)
    · rfl
  have := w.pad0
  omega

def padSum : List Segment → Int
  | [] => 0
  | s :: rest => s.padding + padSum rest

theorem viewsLen_le_pad (src : Bytes) : ∀ (l : List Segment) (lo : Int), lo ≤ src.length → WFSegsFrom src lo l →
    BCur.viewsLen l ≤ (src.length - lo) + padSum l
  | [], lo, hlo, _ => by
    simp only [BCur.viewsLen, padSum]
    omega
  | s :: rest, lo, _, h => by
    obtain ⟨h1, h2, h3, h4, _, h6⟩ := h
    have := viewsLen_le_pad src rest s.stop h3 h6
    simp only [BCur.viewsLen, padSum]
    omega

theorem padSum_le_foldl : ∀ (l : List Segment) (a : Nat), (∀ s ∈ l, 0 ≤ s.padding) →
    (a : Int) + padSum l ≤ (l.foldl (fun a s => a + s.padding.toNat + 1) a : Nat)
  | [], a, _ => by simp [padSum]
  | s :: rest, a, h => by
    have h0 := h s (by simp)
    have := padSum_le_foldl rest (a + s.padding.toNat + 1) (fun x hx => h x (by simp [hx]))
    simp only [List.foldl_cons, padSum]
    have e : ((a + s.padding.toNat + 1 : Nat) : Int) = a + s.padding + 1 := by omega
    rw [e] at this
    omega

theorem wfFrom_pad_nonneg (src : Bytes) : ∀ (l : List Segment) (lo : Int), WFSegsFrom src lo l → ∀ s ∈ l, 0 ≤ s.padding
  | [], _, _ => by intro s hs; cases hs
  | x :: rest, lo, h => by
    obtain ⟨_, _, _, h4, _, h6⟩ := h
    intro s hs
    rcases List.mem_cons.1 hs with rfl | hs
    · exact h4
    · exact wfFrom_pad_nonneg src rest _ h6 s hs

/-- the helpers' fuel covers what is in front of a cursor with `PadOK`, whatever the paddings -/
theorem rdFuel_gt_pad (W : WFSegs src segs) {r : BlockReader} {c : BCur} (h : BP src segs r c) :
    (BCur.remaining segs c).toNat < rdFuel r := by
  have F := segFacts W
  have hv := viewsLen_le_pad src segs 0 (by omega) W.2
  have hf := padSum_le_foldl segs 0 (wfFrom_pad_nonneg src segs 0 W.2)
  have hb : BCur.remaining segs c ≤ BCur.viewsLen segs := by
    unfold BCur.remaining
    split
    · rename_i hl
      simp only [BCur.live, Bool.and_eq_true, decide_eq_true_eq] at hl
      have i1 := h.abs.wf.inLine hl.1
      have hp := h.pad hl.1
      have hst : BCur.stopOf segs c = (BCur.segOf segs c.ln).stop := by simp [BCur.stopOf, hl.1]
      have hd := viewsLen_drop segs c.ln h.abs.wf.ln0 hl.1
      have h1 := viewsLen_drop_le F c.ln.toNat
      omega
    · exact viewsLen_nonneg F 0 |> fun x => by simpa using x
  unfold rdFuel loopFuel
  rw [h.abs.source, h.abs.segments]
  simp only [Int.ofNat_zero, Int.zero_add] at hf
  omega

/-! ### over padding-free lines `BP` is `RS` -/

theorem bp_of_rs (F : SegFacts src segs) (Z : ∀ s ∈ segs, s.padding = 0) {r : BlockReader} {c : BCur} (h : RS src segs r c) :
    BP src segs r c :=
  ⟨h.abs, fun hl => by rw [h.pad, segOf_pad F Z c.ln h.abs.wf.ln0 hl]; exact Int.le_refl _,
    0, by rw [h.pad, segOf_pad F Z 0 (Int.le_refl _) F.kpos]; exact Int.le_refl _⟩

theorem rs_of_bp (Z : ∀ s ∈ segs, s.padding = 0) {r : BlockReader} {c : BCur} (h : BP src segs r c) : RS src segs r c :=
  ⟨h.abs, padAny_zero Z h.abs.wf h.any⟩

theorem bp_peekLine (W : WFSegs src segs) {r : BlockReader} {c : BCur} (h : BP src segs r c) :
    r.peekLine = .ok ((BCur.view src segs c, BCur.seg segs c), r) := by
  rw [bpeekLine_ref (segFacts W) h.abs]; rfl

theorem bp_peek (W : WFSegs src segs) {r : BlockReader} {c : BCur} (h : BP src segs r c) :
    r.peek = .ok (BCur.peek src segs c) := bpeek_ref (segFacts W) h.abs

end GM.Proof.LinkRefPad
