/-
  GM.Proof.BlocksDriverG — the block driver with paragraph transformers (GM.Model.Blocks.DriverT) written ONCE over a second
  state layer: `closeLoopG K … runG K` in `StateT σ M`, where every `M` operation is lifted (`upG`) and the places where the
  two composed models differ from DriverT are the hooks `K : Hooks σ P` (the parser type `P` with its two capability flags
  and the `BP` it leaves on the open-block stack, Open / Continue / Close, the trigger table, the transformer call). The driver of
  GM.Model.ConvertH is `G (hooksH autoId pts)`, that of GM.Model.ConvertF is `G (hooksF on pts)` (`…H_eqG`, `…F_eqG`, as `…T_eqC`
  in GM.Proof.BlocksDriverC), so a fact about `G K` from hypotheses on the hooks is a fact about both. At `σ = Unit` with the
  plain parser operations lifted (`hooksU cls pts`), `G` read back in `M` (`lower`) is the driver `runC cls pts` of BlocksDriverC
  (`lower_parseBlocksG` of GM.Proof.BlocksDriverGSim).
-/
import GM.Model.ConvertH
import GM.Model.ConvertF
import GM.Proof.Hoare

namespace GM.Blocks
open GM GM.Text

/-- an `M` computation in `StateT σ M` (`GM.ConvertH.up`, `GM.ConvertF.up` are this) -/
abbrev upG {σ α} (x : M α) : StateT σ M α := StateT.lift x

/-- where a driver copy differs from DriverT; `P` = the block parsers of the configuration -/
structure Hooks (σ : Type) (P : Type) where
  /-- `CanInterruptParagraph`, `CanAcceptIndentedLine` -/
  canInt : P → Bool
  canAcc : P → Bool
  /-- the `Parser` field of the `parser.Block` pushed for a node the parser opened -/
  tag : P → BP
  opn : P → Nat → StateT σ M (Option Nat × PState)
  /-- Continue and Close are dispatched on the pushed `Block` -/
  cont : BP → Nat → StateT σ M PState
  cls : BP → Nat → StateT σ M Unit
  /-- `p.blockParsers[c]`, `p.freeBlockParsers` -/
  trig : UInt8 → Option (List P)
  free : List P
  /-- `p.transformParagraph` -/
  tp : Nat → StateT σ M Bool

variable {σ P : Type}

def closeLoopG (K : Hooks σ P) (blocks : List Block) (to : Int) : Nat → StateT σ M Unit
  | 0 => pure ()
  | k + 1 => do
    let b ← upG (liftE (blockAt blocks (to + k)))
    let n ← upG (getNode b.node)
    if n.kind == .paragraph && n.parent.isSome then
      let _ ← K.tp b.node
    if (← upG (getNode b.node)).parent.isSome then K.cls b.bp b.node
    closeLoopG K blocks to k

def closeBlocksG (K : Hooks σ P) (frm to : Int) : StateT σ M Unit := do
  let blocks := (← upG getPc).opened
  closeLoopG K blocks to (frm - to + 1).toNat
  let len : Int := blocks.length
  let blocks' ←
    if frm == len - 1 then upG (liftE (closeBlocks.slice' blocks 0 to))
    else do
      let a ← upG (liftE (closeBlocks.slice' blocks 0 to))
      let b ← upG (liftE (closeBlocks.slice' blocks (frm + 1) len))
      pure (a ++ b)
  upG (modPc fun pc => { pc with opened := blocks' })

def requireParaG (K : Hooks σ P) (parent : Nat) (last : Option Nat) (lastBlock : Option Block) : StateT σ M Bool := do
  if last == (← upG (getNode parent)).children.getLast? then
    match lastBlock with
    | none => throw .nil
    | some lb =>
      K.cls lb.bp lb.node
      let blocks := (← upG getPc).opened
      if blocks.length == 0 then throw .slice
      upG (modPc fun pc => { pc with opened := blocks.dropLast })
      if (← upG (getNode lb.node)).kind != .paragraph then throw .assert
      K.tp lb.node
  else pure false

def tryParsersG (K : Hooks σ P) (parent : Nat) (blankLine : Bool) (continuable : Bool) (w : Int) :
    List P → OpenResult → Option Block → StateT σ M (TryOutcomeT × OpenResult × Option Block)
  | [], result, lastBlock => pure (.done, result, lastBlock)
  | bp :: bps, result, lastBlock => do
    if continuable && result == .noBlocksOpened && !K.canInt bp then
      return ← tryParsersG K parent blankLine continuable w bps result lastBlock
    if w > 3 && !K.canAcc bp then
      return ← tryParsersG K parent blankLine continuable w bps result lastBlock
    let lastBlock ← upG lastOpenedBlock
    let last := lastBlock.map (·.node)
    let (node, state) ← K.opn bp parent
    match node with
    | none => tryParsersG K parent blankLine continuable w bps result lastBlock
    | some node =>
      let transformed ← if state.requirePara then requireParaG K parent last lastBlock else pure false
      if transformed then return (.retryTransformed, result, lastBlock)
      upG (modNode node fun n => { n with blankPrev := blankLine })
      match last with
      | some l =>
        if (← upG (getNode l)).parent.isNone then
          let lastPos : Int := ((← upG getPc).opened.length : Int) - 1
          closeBlocksG K lastPos lastPos
      | none => pure ()
      upG (appendChild parent node)
      upG (modPc fun pc => { pc with opened := pc.opened ++ [{ node := node, bp := K.tag bp }] })
      if state.hasChildren then return (.retry node, .newBlocksOpened, lastBlock)
      return (.done, .newBlocksOpened, lastBlock)

def retryStepG (K : Hooks σ P) (blankLine tdone continuable : Bool) (parent : Nat) (w : Int)
    (bps : List P) (result : OpenResult) (lastBlock : Option Block)
    (again : Bool → Bool → Nat → OpenResult → Option Block → StateT σ M OpenResult) : StateT σ M OpenResult := do
  let before := retryMeasure (← upG get)
  let (outcome, result, lastBlock) ← tryParsersG K parent blankLine continuable w bps result lastBlock
  match outcome with
  | .retry parent' =>
    let after := retryMeasure (← upG get)
    if !(after < before) then throw .pre
    again tdone continuable parent' result lastBlock
  | .retryTransformed =>
    let after := retryMeasure (← upG get)
    if tdone || !(after ≤ before) then throw .pre
    again true false parent result lastBlock
  | .done => upG (toContinuable continuable result lastBlock)

def openBlocksLoopG (K : Hooks σ P) (blankLine : Bool) :
    Nat → Bool → Bool → Nat → OpenResult → Option Block → StateT σ M OpenResult
  | 0, _, _, _, _, _ => throw .loop
  | fuel + 1, tdone, continuable, parent, result, lastBlock => do
    let (line, _) ← upG peekLine
    let lineB := line.getD []
    let len : Int := lineB.length
    let (w, pos) := indentWidthI lineB (← upG lineOffset)
    upG (modPc fun pc =>
      if pos ≥ len then { pc with blockOffset := -1, blockIndent := -1 }
      else { pc with blockOffset := pos, blockIndent := w })
    if line.isNone then return ← upG (toContinuable continuable result lastBlock)
    if (← upG (liftE (idx lineB 0))) == 10 then return ← upG (toContinuable continuable result lastBlock)
    let bps ←
      if pos < len then do
        let c ← upG (liftE (idx lineB pos))
        pure ((K.trig c).getD K.free)
      else pure K.free
    retryStepG K blankLine tdone continuable parent w bps result lastBlock
      (openBlocksLoopG K blankLine fuel)

def openBlocksG (K : Hooks σ P) (parent : Nat) (blankLine : Bool) : StateT σ M OpenResult := do
  let lastBlock ← upG lastOpenedBlock
  let continuable ← match lastBlock with
    | some lb => do pure ((← upG (getNode lb.node)).kind == .paragraph)
    | none => pure false
  openBlocksLoopG K blankLine (retryFuel (← upG source)) false continuable parent .noBlocksOpened lastBlock

def lineLoopG (K : Hooks σ P) (parent : Nat) (openedBlocks : List Block) (lastIndex : Int) :
    List Block → Int → List LineStat → StateT σ M (LineOutcome × List LineStat)
  | [], _, blankLines => pure (.next, blankLines)
  | be :: rest, i, blankLines => do
    let (line, _) ← upG peekLine
    match line with
    | none =>
      closeBlocksG K lastIndex 0
      upG advanceLine
      return (.eof, blankLines)
    | some line =>
      let (lineNum, _) ← upG position
      let blankLines := blankLines ++ [{ lineNum := lineNum, level := i, isBlank := isBlank line }]
      let beNode ← upG (getNode be.node)
      let mut fallThrough := true
      if beNode.kind != .paragraph then
        let state ← K.cont be.bp be.node
        if state.cont then
          if state.hasChildren && i == lastIndex then
            let blank := isBlankLine (lineNum - 1) i blankLines
            let _ ← openBlocksG K be.node blank
            return (.next, blankLines)
          fallThrough := false
      if !fallThrough then
        lineLoopG K parent openedBlocks lastIndex rest (i + 1) blankLines
      else
        let blank := isBlankLine (lineNum - 1) i blankLines
        let thisParent ←
          if i != 0 then do
            let b ← upG (liftE (blockAt openedBlocks (i - 1)))
            pure b.node
          else pure parent
        let lastNode ← upG (liftE (blockAt openedBlocks lastIndex))
        let result ← openBlocksG K thisParent blank
        if result != .paragraphContinuation then
          let now := slotAfter openedBlocks (← upG getPc).opened lastIndex.toNat
          let lastIndex := if now.map (·.node) != some lastNode.node then lastIndex - 1 else lastIndex
          closeBlocksG K lastIndex i
        return (.next, blankLines)

def linesLoopG (K : Hooks σ P) (parent : Nat) : Nat → List LineStat → StateT σ M (Bool × List LineStat)
  | 0, _ => throw .loop
  | fuel + 1, blankLines => do
    let openedBlocks := (← upG getPc).opened
    let l := openedBlocks.length
    if l == 0 then return (false, blankLines)
    let (outcome, blankLines) ← lineLoopG K parent openedBlocks ((l : Int) - 1) openedBlocks 0 blankLines
    match outcome with
    | .eof => return (true, blankLines)
    | .next =>
      upG advanceLine
      linesLoopG K parent fuel blankLines

def blocksLoopG (K : Hooks σ P) (parent : Nat) : Nat → List LineStat → StateT σ M Unit
  | 0, _ => throw .loop
  | fuel + 1, blankLines => do
    let (_, lines, ok) ← upG skipBlankLinesR
    if !ok then return
    let (lineNum, _) ← upG position
    let nOpened := (← upG getPc).opened.length
    let blankLines := if lines != 0 then blankStats lineNum lines nOpened else blankLines
    let blank := isBlankLine (lineNum - 1) 0 blankLines
    if (← openBlocksG K parent blank) != .newBlocksOpened then return
    upG advanceLine
    let (ret, blankLines) ← linesLoopG K parent fuel blankLines
    if ret then return
    blocksLoopG K parent fuel blankLines

def parseBlocksG (K : Hooks σ P) (parent : Nat) : StateT σ M Unit := do
  upG (modPc fun pc => { pc with opened := [] })
  blocksLoopG K parent (linesFuel (← upG source)) []

def runG (K : Hooks σ P) (h0 : σ) (src : Bytes) : Except Panic (σ × St) :=
  (parseBlocksG K 0 h0 (initSt src)).map fun r => (r.1.2, r.2)

/-! ### `σ = Unit`: a plain driver -/

/-- a program over the empty second layer, read in `M` -/
def lower {α} (m : StateT Unit M α) : M α := fun s => (m () s).map fun r => (r.1.1, r.2)

theorem lower_up {α} (x : M α) : lower (upG x) = x := by
  funext s
  simp only [lower, upG, StateT.lift, bind, StateT.bind, Except.bind, pure, StateT.pure, Except.pure]
  cases x s <;> rfl

theorem lower_bind {α β} (m : StateT Unit M α) (f : α → StateT Unit M β) : lower (m >>= f) = lower m >>= fun a => lower (f a) := by
  funext s
  simp only [lower, bind, StateT.bind, Except.bind]
  cases m () s with
  | error e => rfl
  | ok p => obtain ⟨⟨a, u⟩, s'⟩ := p; rfl

/-- the plain parser operations, and `cls`, as hooks over the empty second layer -/
@[reducible] def hooksU (cls : BP → Nat → M Unit) (pts : List PT) : Hooks Unit BP where
  canInt := BP.canInterruptParagraph
  canAcc := BP.canAcceptIndentedLine
  tag := fun bp => bp
  opn := fun bp p => upG (bpOpen bp p)
  cont := fun bp n => upG (bpContinue bp n)
  cls := fun bp n => upG (cls bp n)
  trig := triggered
  free := freeParsers
  tp := fun n => upG (transformParagraph pts n)

end GM.Blocks

namespace GM.ConvertH
open GM GM.Text GM.Blocks GM.Convert

@[reducible] def hooksH (autoId : Bool) (pts : List PT) : Hooks HS BP where
  canInt := BP.canInterruptParagraph
  canAcc := BP.canAcceptIndentedLine
  tag := fun bp => bp
  opn := fun bp p => up (bpOpen bp p)
  cont := fun bp n => up (bpContinue bp n)
  cls := bpCloseH autoId
  trig := triggered
  free := freeParsers
  tp := fun n => upG (transformParagraph pts n)

section eqs
variable (autoId : Bool) (pts : List PT)

theorem closeLoopH_eqG (blocks : List Block) (to : Int) (k : Nat) :
    closeLoopH autoId pts blocks to k = closeLoopG (hooksH autoId pts) blocks to k := by
  induction k with
  | zero => rfl
  | succ k ih => simp only [closeLoopH, closeLoopG, ih]

theorem closeBlocksH_eqG (frm to : Int) : closeBlocksH autoId pts frm to = closeBlocksG (hooksH autoId pts) frm to := by
  simp only [closeBlocksH, closeBlocksG, closeLoopH_eqG]

theorem requireParaH_eqG (parent : Nat) (last : Option Nat) (lastBlock : Option Block) :
    requireParaH autoId pts parent last lastBlock = requireParaG (hooksH autoId pts) parent last lastBlock := rfl

theorem tryParsersH_eqG (parent : Nat) (blankLine continuable : Bool) (w : Int) (bps : List BP) (result : OpenResult)
    (lastBlock : Option Block) :
    tryParsersH autoId pts parent blankLine continuable w bps result lastBlock =
      tryParsersG (hooksH autoId pts) parent blankLine continuable w bps result lastBlock := by
  induction bps generalizing result lastBlock with
  | nil => rfl
  | cons bp bps ih =>
    simp only [tryParsersH, tryParsersG, ih, requireParaH_eqG, closeBlocksH_eqG]
    rfl

theorem retryStepH_eqG (blankLine tdone continuable : Bool) (parent : Nat) (w : Int) (bps : List BP) (result : OpenResult)
    (lastBlock : Option Block) (again : Bool → Bool → Nat → OpenResult → Option Block → MH OpenResult) :
    retryStepH autoId pts blankLine tdone continuable parent w bps result lastBlock again =
      retryStepG (hooksH autoId pts) blankLine tdone continuable parent w bps result lastBlock again := by
  simp only [retryStepH, retryStepG, tryParsersH_eqG]
  rfl

theorem openBlocksLoopH_eqG (blankLine : Bool) (fuel : Nat) :
    openBlocksLoopH autoId pts blankLine fuel = openBlocksLoopG (hooksH autoId pts) blankLine fuel := by
  induction fuel with
  | zero => rfl
  | succ fuel ih =>
    funext tdone continuable parent result lastBlock
    simp only [openBlocksLoopH, openBlocksLoopG, retryStepH_eqG, ih]

theorem openBlocksH_eqG (parent : Nat) (blankLine : Bool) :
    openBlocksH autoId pts parent blankLine = openBlocksG (hooksH autoId pts) parent blankLine := by
  simp only [openBlocksH, openBlocksG, openBlocksLoopH_eqG]
  rfl

theorem lineLoopH_eqG (parent : Nat) (openedBlocks : List Block) (lastIndex : Int) (rest : List Block) (i : Int)
    (blankLines : List LineStat) :
    lineLoopH autoId pts parent openedBlocks lastIndex rest i blankLines =
      lineLoopG (hooksH autoId pts) parent openedBlocks lastIndex rest i blankLines := by
  induction rest generalizing i blankLines with
  | nil => rfl
  | cons be rest ih =>
    simp only [lineLoopH, lineLoopG, ih, openBlocksH_eqG, closeBlocksH_eqG]
    rfl

theorem linesLoopH_eqG (parent fuel : Nat) (blankLines : List LineStat) :
    linesLoopH autoId pts parent fuel blankLines = linesLoopG (hooksH autoId pts) parent fuel blankLines := by
  induction fuel generalizing blankLines with
  | zero => rfl
  | succ fuel ih =>
    simp only [linesLoopH, linesLoopG, ih, lineLoopH_eqG]
    rfl

theorem blocksLoopH_eqG (parent fuel : Nat) (blankLines : List LineStat) :
    blocksLoopH autoId pts parent fuel blankLines = blocksLoopG (hooksH autoId pts) parent fuel blankLines := by
  induction fuel generalizing blankLines with
  | zero => rfl
  | succ fuel ih => simp only [blocksLoopH, blocksLoopG, ih, linesLoopH_eqG, openBlocksH_eqG]

theorem parseBlocksH_eqG (parent : Nat) : parseBlocksH autoId pts parent = parseBlocksG (hooksH autoId pts) parent := by
  simp only [parseBlocksH, parseBlocksG, blocksLoopH_eqG]

theorem runH_eqG (src : Bytes) : runH autoId pts src = runG (hooksH autoId pts) {} src := by
  simp only [runH, runG, parseBlocksH_eqG]

end eqs
end GM.ConvertH

namespace GM.ConvertF
open GM GM.Text GM.Blocks GM.Convert

@[reducible] def hooksF (on : Bool) (pts : List PT) : Hooks FS BPF where
  canInt := BPF.canInterruptParagraph
  canAcc := BPF.canAcceptIndentedLine
  tag := BPF.tag
  opn := bpOpenF
  cont := bpContinueF
  cls := bpCloseF
  trig := triggeredF on
  free := freeParsersF
  tp := fun n => up (transformParagraph pts n)

section eqs
variable (on : Bool) (pts : List PT)

theorem closeLoopF_eqG (blocks : List Block) (to : Int) (k : Nat) :
    closeLoopF pts blocks to k = closeLoopG (hooksF on pts) blocks to k := by
  induction k with
  | zero => rfl
  | succ k ih => simp only [closeLoopF, closeLoopG, ih]

theorem closeBlocksF_eqG (frm to : Int) : closeBlocksF pts frm to = closeBlocksG (hooksF on pts) frm to := by
  simp only [closeBlocksF, closeBlocksG, closeLoopF_eqG on]

theorem requireParaF_eqG (parent : Nat) (last : Option Nat) (lastBlock : Option Block) :
    requireParaF pts parent last lastBlock = requireParaG (hooksF on pts) parent last lastBlock := rfl

theorem tryParsersF_eqG (parent : Nat) (blankLine continuable : Bool) (w : Int) (bps : List BPF) (result : OpenResult)
    (lastBlock : Option Block) :
    tryParsersF pts parent blankLine continuable w bps result lastBlock =
      tryParsersG (hooksF on pts) parent blankLine continuable w bps result lastBlock := by
  induction bps generalizing result lastBlock with
  | nil => rfl
  | cons bp bps ih =>
    simp only [tryParsersF, tryParsersG, ih, requireParaF_eqG on, closeBlocksF_eqG on]
    rfl

theorem retryStepF_eqG (blankLine tdone continuable : Bool) (parent : Nat) (w : Int) (bps : List BPF) (result : OpenResult)
    (lastBlock : Option Block) (again : Bool → Bool → Nat → OpenResult → Option Block → MF OpenResult) :
    retryStepF pts blankLine tdone continuable parent w bps result lastBlock again =
      retryStepG (hooksF on pts) blankLine tdone continuable parent w bps result lastBlock again := by
  simp only [retryStepF, retryStepG, tryParsersF_eqG on]
  rfl

theorem openBlocksLoopF_eqG (blankLine : Bool) (fuel : Nat) :
    openBlocksLoopF on pts blankLine fuel = openBlocksLoopG (hooksF on pts) blankLine fuel := by
  induction fuel with
  | zero => rfl
  | succ fuel ih =>
    funext tdone continuable parent result lastBlock
    simp only [openBlocksLoopF, openBlocksLoopG, retryStepF_eqG on, ih]

theorem openBlocksF_eqG (parent : Nat) (blankLine : Bool) :
    openBlocksF on pts parent blankLine = openBlocksG (hooksF on pts) parent blankLine := by
  simp only [openBlocksF, openBlocksG, openBlocksLoopF_eqG]
  rfl

theorem lineLoopF_eqG (parent : Nat) (openedBlocks : List Block) (lastIndex : Int) (rest : List Block) (i : Int)
    (blankLines : List LineStat) :
    lineLoopF on pts parent openedBlocks lastIndex rest i blankLines =
      lineLoopG (hooksF on pts) parent openedBlocks lastIndex rest i blankLines := by
  induction rest generalizing i blankLines with
  | nil => rfl
  | cons be rest ih =>
    simp only [lineLoopF, lineLoopG, ih, openBlocksF_eqG, closeBlocksF_eqG on]
    rfl

theorem linesLoopF_eqG (parent fuel : Nat) (blankLines : List LineStat) :
    linesLoopF on pts parent fuel blankLines = linesLoopG (hooksF on pts) parent fuel blankLines := by
  induction fuel generalizing blankLines with
  | zero => rfl
  | succ fuel ih =>
    simp only [linesLoopF, linesLoopG, ih, lineLoopF_eqG]
    rfl

theorem blocksLoopF_eqG (parent fuel : Nat) (blankLines : List LineStat) :
    blocksLoopF on pts parent fuel blankLines = blocksLoopG (hooksF on pts) parent fuel blankLines := by
  induction fuel generalizing blankLines with
  | zero => rfl
  | succ fuel ih => simp only [blocksLoopF, blocksLoopG, ih, linesLoopF_eqG, openBlocksF_eqG]

theorem parseBlocksF_eqG (parent : Nat) : parseBlocksF on pts parent = parseBlocksG (hooksF on pts) parent := by
  simp only [parseBlocksF, parseBlocksG, blocksLoopF_eqG]

theorem runF_eqG (src : Bytes) : runF on pts src = runG (hooksF on pts) {} src := by
  simp only [runF, runG, parseBlocksF_eqG]

end eqs
end GM.ConvertF
