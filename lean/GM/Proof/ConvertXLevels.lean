/-
  GM.Proof.ConvertXLevels — the inline phase of a member set simulates itself under every relabelling that fixes the levels
  its members build (GM.Proof.ConvertXSim), so its result is a fixed point of such a relabelling (`parseBlockG_fixS`). In
  particular a member set WITHOUT Strikethrough never builds the representation of a Strikethrough node (emphasis level
  −3 / −4): take the relabelling `g0` that sends those two levels to 1 and fixes every other level (`parseBlockG_fix`).
-/
import GM.Proof.ConvertXSim
import GM.Proof.ConvertXTotal

namespace GM.Proof.ConvertXLevels
open GM GM.Text GM.Inl GM.Proof.Inlines GM.Proof.ConvertXRelv GM.Proof.ConvertXSim GM.ConvertX GM.Convert GM.Proof.ExtShape

/-- the representation of a Strikethrough goes to level 1, every other level stays -/
def g0 (lv : Int) : Int := if lv == -3 || lv == -4 then 1 else lv

theorem g0_ok : GOK false g0 := ⟨by decide, by decide, fun h => absurd h (by decide), fun h => absurd h (by decide)⟩

theorem relvL_allText (g : Int → Int) (ks : List Inl.Node) (h : ks.all isText = true) : relvL g ks = ks := by
  rw [relvL_map]
  exact (List.map_congr_left fun n hn => relv_of_isText g (List.all_eq_true.mp h n hn)).trans (List.map_id _)

variable (g : Int → Int)

theorem parseAutoLink_fix {rd rd' : BlockReader} {n : Inl.Node} (h : parseAutoLink rd = .ok (some n, rd')) :
    relv g n = n := by
  obtain ⟨_, _, rfl⟩ := (parseAutoLink_shape rd).node h; rfl

theorem parseRawHTML_fix {rd rd' : BlockReader} {n : Inl.Node} (h : parseRawHTML rd = .ok (some n, rd')) :
    relv g n = n := by
  obtain ⟨_, rfl⟩ := (parseRawHTML_shape rd).node h; rfl

theorem parseEmphasis_fix {env : Env} {id : Nat} {rd rd' : BlockReader} {n : Inl.Node}
    (h : parseEmphasis env id rd = .ok (some n, rd')) : relv g n = n := by
  obtain ⟨_, rfl⟩ := (parseEmphasis_shape env id rd).node h; rfl

theorem parseCodeSpan_fix {rd rd' : BlockReader} {n : Inl.Node} (h : parseCodeSpan rd = .ok (some n, rd')) :
    relv g n = n := by
  rcases (parseCodeSpan_shape rd).node h with ⟨_, rfl⟩ | ⟨ks, rfl, hk⟩
  · rfl
  · simp [relvL_allText g ks hk]

theorem liftR_selfsim {f : BlockReader → RRes} (hf : ∀ r r' n, f r = .ok (some n, r') → relv g n = n) (st : St) :
    liftR (relvSt g st) (f st.rd) = (liftR st (f st.rd)).map (relvPR g) := by
  unfold liftR
  cases hfr : f st.rd with
  | error e => rfl
  | ok r =>
    obtain ⟨n, rd⟩ := r
    cases n with
    | none => rfl
    | some nd => simp [Except.map, relvPR, relvSt, hf _ _ _ hfr]

def Tr : List Inl.Node → Prop := fun _ => True

theorem tr_closed : IClosed Tr := ⟨fun _ _ _ => trivial, fun _ _ _ _ _ _ => trivial, fun _ _ _ _ _ _ => trivial⟩

variable {g}

theorem entry_selfsim_of (env : Env) (ip : XIp)
    (h : ∀ st, ip.parse env (relvSt g st) = (ip.parse env st).map (relvPR g)) : EntrySim g Tr env ip ip :=
  fun st _ => ⟨h st, fun _ _ _ => ⟨trivial, fun _ _ => trivial⟩⟩

theorem builtin_selfsim (G : GOK false g) (env : Env) (ip : Ip) : EntrySim g Tr env (.builtin ip) (.builtin ip) := by
  apply entry_selfsim_of
  intro st
  cases ip with
  | codeSpan => exact liftR_selfsim g (fun _ _ _ h => parseCodeSpan_fix g h) st
  | autoLink => exact liftR_selfsim g (fun _ _ _ h => parseAutoLink_fix g h) st
  | rawHTML => exact liftR_selfsim g (fun _ _ _ h => parseRawHTML_fix g h) st
  | emphasis =>
    have := liftR_selfsim g (f := parseEmphasis env st.nextId) (fun _ _ _ h => parseEmphasis_fix g h)
      { st with nextId := st.nextId + 1 }
    exact this
  | link =>
    have hpd : PDSim g processDelimiters := by
      have := fun b k => processDelimitersG_relv G b k
      rw [processDelimitersG_false] at this
      exact this
    have := parseLinkG_relv hpd env st
    rw [parseLinkG_default] at this
    exact this

/-- a parser of a known shape (GM.Proof.ExtShape) commutes with a relabelling its guard does not see and its accepting
    answers commute with: skipping, the panic and the decline do not look at the children -/
theorem shape_selfsim {p : St → PRes} {skip : St → Bool} {Acc : Bytes → Segment → BlockReader → (St → PRes) → Prop}
    (H : ∀ rd0, Shape p skip Acc rd0) (hs : ∀ st, skip (relvSt g st) = skip st)
    (ha : ∀ line seg rd f, Acc line seg rd f → ∀ st, f (relvSt g st) = (f st).map (relvPR g)) (st : St) :
    p (relvSt g st) = (p st).map (relvPR g) := by
  obtain ⟨f, hf, hc⟩ := H st.rd
  rw [hf st rfl, hf (relvSt g st) rfl, hs]
  split
  · rfl
  rcases hc with ⟨e, rfl, -⟩ | ⟨_, seg, rd, -, rfl | h⟩
  · rfl
  · rfl
  · exact ha _ _ _ _ h st

theorem task_selfsim (hg1 : g (-1) = -1) (hg2 : g (-2) = -2) (inItem : Bool) (env : Env) :
    EntrySim g Tr env (.ext (taskParser inItem)) (.ext (taskParser inItem)) :=
  entry_selfsim_of env _ <| shape_selfsim (parseTask_shape inItem env)
    (fun st => by simp only [relvSt_kids]; cases st.kids <;> rfl) fun _ _ rd _ ⟨n, b, _, _, hf⟩ st => by
      subst hf
      simp only [bind, Except.bind]
      cases rd.advance _ with
      | error e => rfl
      | ok rd' => cases b <;> simp [pure, Except.pure, Except.map, relvPR, taskNode, hg1, hg2, relvSt]

theorem listSim_builtin (G : GOK false g) (env : Env) : ∀ ips : List Ip, ListSim g Tr env (ips.map .builtin) (ips.map .builtin)
  | [] => .nil
  | ip :: rest => .cons (builtin_selfsim G env ip) (listSim_builtin G env rest)

mutual
theorem closeLabels_relv (g : Int → Int) : ∀ n : Inl.Node, closeLabels (relv g n) = relv g (closeLabels n)
  | .label .. => rfl
  | .emphasis lv ks => by simp [closeLabels, closeLabelsL_relv g ks]
  | .link im d t ks => by simp [closeLabels, closeLabelsL_relv g ks]
  | .codeSpan ks => by simp [closeLabels, closeLabelsL_relv g ks]
  | .text .. => rfl
  | .autoLink .. => rfl
  | .rawHTML .. => rfl
  | .delim .. => rfl
theorem closeLabelsL_relv (g : Int → Int) : ∀ l : List Inl.Node, closeLabelsL (relvL g l) = relvL g (closeLabelsL l)
  | [] => rfl
  | n :: rest => by simp [closeLabelsL, closeLabels_relv g n, closeLabelsL_relv g rest]
end

theorem strike_selfsim (g : Int → Int) (env : Env) : EntrySim g Tr env (.ext strikeParser) (.ext strikeParser) :=
  entry_selfsim_of env _ <| shape_selfsim (parseStrike_shape env) (fun _ => rfl) fun _ _ rd _ ⟨d, _, _, _, hf⟩ st => by
    subst hf
    simp only [bind, Except.bind]
    cases rd.advance _ <;> rfl

theorem linkX_selfsim {g : Int → Int} (c : XCfg) (GS : GOKS c.strikethrough g) (G0 : GOK false g) (env : Env) :
    EntrySim g Tr env (linkX c) (linkX c) := by
  unfold linkX
  split
  · rename_i hs
    apply entry_selfsim_of
    intro st
    have hpd : PDSim2 g (pdX c) (pdX c) := by
      simp only [pdX, hs, if_true]
      exact fun b k => processDelimitersG_relvS (hs ▸ GS) b k
    exact parseLinkG_relv2 hpd env st
  · exact builtin_selfsim G0 env .link

theorem tbl_selfsim {g : Int → Int} (c : XCfg) (GS : GOKS c.strikethrough g) (G0 : GOK false g)
    (ht : c.tasklist = true → g (-1) = -1 ∧ g (-2) = -2) (inItem : Bool) (env : Env) (b : UInt8) :
    ListSim g Tr env (inlineTbl c inItem b) (inlineTbl c inItem b) := by
  unfold inlineTbl
  split
  · split
    · exact .cons (strike_selfsim g env) .nil
    · exact .nil
  · split
    · split
      · rename_i htl
        exact .cons (task_selfsim (ht htl).1 (ht htl).2 inItem env) (.cons (linkX_selfsim c GS G0 env) .nil)
      · exact .cons (linkX_selfsim c GS G0 env) .nil
    · split
      · exact .cons (linkX_selfsim c GS G0 env) .nil
      · exact listSim_builtin G0 env _

theorem pdX_selfsim {g : Int → Int} (c : XCfg) (GS : GOKS c.strikethrough g) (G0 : GOK false g) (b : Bottom)
    (k : List Inl.Node) : pdX c b (relvL g k) = (pdX c b k).map (relvL g) := by
  unfold pdX
  split
  · rename_i hs
    exact processDelimitersG_relvS (hs ▸ GS) b k
  · have := processDelimitersG_relv G0 b k
    rw [processDelimitersG_false] at this
    exact this

theorem parseBlockG_fix_of {g : Int → Int} {env : Env} {tbl : UInt8 → List XIp} {pd : PD}
    (htbl : ∀ b, ListSim g Tr env (tbl b) (tbl b)) (hpd : ∀ k, pd Bottom.nil (relvL g k) = (pd Bottom.nil k).map (relvL g))
    {src : Bytes} {segs : List Segment} {kids : List Inl.Node} (h : parseBlockG env tbl pd src segs = .ok kids) :
    relvL g kids = kids := by
  unfold parseBlockG at h
  simp only [bind, Except.bind] at h
  cases hr : BlockReader.new src segs with
  | error e => rw [hr] at h; cases h
  | ok rd =>
    rw [hr] at h
    simp only [] at h
    obtain ⟨s1, _⟩ := lineLoopX_sim (g := g) tr_closed htbl (blockFuel src segs) false ({ rd := rd } : St) trivial
    have e0 : relvSt g ({ rd := rd } : St) = { rd := rd } := rfl
    rw [e0] at s1
    cases hl : lineLoopX env tbl (blockFuel src segs) false { rd := rd } with
    | error e => rw [hl] at h; cases h
    | ok st' =>
      rw [hl] at h s1
      simp only [Except.map, Except.ok.injEq] at s1
      simp only [] at h
      have hpd := hpd st'.kids
      have hk : relvL g st'.kids = st'.kids := by
        have := congrArg St.kids s1
        simpa using this.symm
      rw [hk] at hpd
      cases hq : pd Bottom.nil st'.kids with
      | error e => rw [hq] at h; cases h
      | ok k =>
        rw [hq] at h hpd
        simp only [pure, Except.pure, Except.ok.injEq] at h
        simp only [Except.map, Except.ok.injEq] at hpd
        rw [← h, ← closeLabelsL_relv, ← hpd]

theorem parseBlockG_fixS {g : Int → Int} (c : XCfg) (GS : GOKS c.strikethrough g) (G0 : GOK false g)
    (ht : c.tasklist = true → g (-1) = -1 ∧ g (-2) = -2)
    (inItem : Bool) (env : Env) (src : Bytes) (segs : List Segment) (kids : List Inl.Node)
    (h : parseBlockG env (inlineTbl c inItem) (pdX c) src segs = .ok kids) : relvL g kids = kids :=
  parseBlockG_fix_of (tbl_selfsim c GS G0 ht inItem env) (pdX_selfsim c GS G0 Bottom.nil) h

theorem parseBlockG_fix (G : GOK false g) (hg1 : g (-1) = -1) (hg2 : g (-2) = -2) (c : XCfg) (hs : c.strikethrough = false)
    (inItem : Bool) (env : Env) (src : Bytes) (segs : List Segment) (kids : List Inl.Node)
    (h : parseBlockG env (inlineTbl c inItem) (pdX c) src segs = .ok kids) : relvL g kids = kids :=
  parseBlockG_fixS c (hs ▸ ⟨G.g1, G.g2, nofun, nofun⟩) G (fun _ => ⟨hg1, hg2⟩) inItem env src segs kids h

/-- the representation of a TaskCheckBox goes to level 1, every other level stays -/
def g1 (lv : Int) : Int := if lv == -1 || lv == -2 then 1 else lv

theorem g1_ok0 : GOK false g1 := ⟨by decide, by decide, fun h => absurd h (by decide), fun h => absurd h (by decide)⟩
theorem g1_okS (sk : Bool) : GOKS sk g1 := ⟨by decide, by decide, fun _ => by decide, fun _ => by decide⟩

end GM.Proof.ConvertXLevels
