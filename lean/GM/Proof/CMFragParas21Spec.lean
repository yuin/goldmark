/-
  GM.Proof.CMFragParas21Spec — a document made of paragraphs only inside the spec model GM.Spec.CommonMark: read as a
  document of the union fragment (`paraItems21`; `parasF21` when no line ends in a hard break) it is embedded like every
  stage-21 document, the "no blank line in front" choice `abut` set on the first paragraph when nothing stands in front of
  it. Neither `expected` nor the spelling of a first block looks at that choice, so the embedded document may be replaced
  by the one with `abut` unset everywhere (`parasDocH`, `parasDoc21`), which is what the paragraph stages embed their
  documents as.
-/
import GM.Proof.CMFragParas21
import GM.Proof.CMFragSpec21

namespace GM.Proof.CMFrag
open GM GM.Spec.CM GM.Spec.CMFrag

/-- the inlines of a paragraph of union-fragment lines, soft breaks between the lines -/
def paraInl21 (ls : List (List FAtomS)) : List Inline := f21embedLines (ls.map fun l => { atoms := l, hard := false })

/-- paragraphs of union-fragment lines as a document of the spec model, every choice left at its default -/
def parasDoc21 (its : List (Nat × List (List FAtomS))) : Doc := { blocks := its.map fun it => .para {} (paraInl21 it.2) 0 }

/-- a stage whose atoms `g` reads as atoms of the union fragment, embedded alike (`e`), joins the lines of a paragraph
    (`join`) as the union fragment does -/
theorem paraInl21_map {α : Type} (g : α → FAtomS) (e : α → Inline) (he : ∀ a, f21embedAtom (g a) = e a)
    (join : List (List α) → List Inline) (h0 : join [] = []) (h1 : ∀ l, join [l] = l.map e)
    (h2 : ∀ l l' rest, join (l :: l' :: rest) = l.map e ++ .softBreak :: join (l' :: rest)) :
    ∀ (ls : List (List α)), paraInl21 (ls.map (·.map g)) = join ls
  | [] => h0.symm
  | [l] => by
    rw [h1]
    exact (List.map_map ..).trans (List.map_congr_left fun a _ => he a)
  | l :: l' :: rest => by
    have e1 : paraInl21 ((l :: l' :: rest).map (·.map g)) =
        (l.map g).map f21embedAtom ++ .softBreak :: paraInl21 ((l' :: rest).map (·.map g)) := rfl
    rw [e1, paraInl21_map g e he join h0 h1 h2 (l' :: rest), h2, List.map_map]
    exact congrArg (· ++ _) (List.map_congr_left fun a _ => he a)

theorem f21embedBlock_para (a : Bool) (ls : List FLineS21) :
    f21embedBlock a (.para ls) = .para { abut := a } (f21embedLines ls) 0 := rfl

/-- paragraphs of union-fragment lines (hard breaks allowed) as a document of the spec model, every choice at its default -/
def parasDocH (its : List (Nat × List FLineS21)) : Doc := { blocks := its.map fun p => .para {} (f21embedLines p.2) 0 }

theorem expBs_paraItems21 : ∀ (first : Bool) (its : List (Nat × List FLineS21)),
    expBs false false ((paraItems21 first its).map fun it => f21embedBlock (it.sep == 0) it.block) =
      expBs false false (its.map fun p => .para {} (f21embedLines p.2) 0)
  | _, [] => rfl
  | first, (g, ls) :: rest => by
    simp only [paraItems21, List.map_cons, f21embedBlock_para, expBs, expB, expBs_paraItems21 false rest,
      Bool.false_eq_true, if_false]

theorem expected_paraItems21 (its : List (Nat × List FLineS21)) (trail : Nat) :
    expected (f21embed { items := paraItems21 true its, trail := trail }) = expected (parasDocH its) := by
  simp only [expected, expectedPieces, f21embed, parasDocH, expBs_paraItems21]

/-- behind a paragraph, with one blank line in front, `abut` is unset -/
theorem f21embed_paraItems21_tail : ∀ (its : List (Nat × List FLineS21)), (∀ p ∈ its, p.1 = 0) →
    ((paraItems21 false its).map fun it => f21embedBlock (it.sep == 0) it.block) =
      its.map fun p => .para {} (f21embedLines p.2) 0
  | [], _ => rfl
  | (g, ls) :: rest, h => by
    have hg : g = 0 := h (g, ls) (by simp)
    subst hg
    simp only [paraItems21, List.map_cons, f21embedBlock_para, Bool.false_eq_true, if_false,
      f21embed_paraItems21_tail rest (fun x hx => h x (by simp [hx]))]
    rfl

theorem spell_f21embed_paraItems21 (its : List (Nat × List FLineS21)) (h : ∀ p ∈ its, p.1 = 0) (trail : Nat) :
    spell (f21embed { items := paraItems21 true its, trail := trail }) = spell (parasDocH its) := by
  cases its with
  | nil => rfl
  | cons it rest =>
    obtain ⟨g, ls⟩ := it
    simp only [spell, f21embed, parasDocH, paraItems21, List.map_cons, f21embedBlock_para,
      f21embed_paraItems21_tail rest (fun x hx => h x (by simp [hx]))]
    simp only [spellBs, kindOf, bch, spellB]
    simp

theorem f21noExtraBlanksFrom_paraItems21 : ∀ (ls0 : List FLineS21) (its : List (Nat × List FLineS21)),
    (∀ p ∈ its, p.1 = 0) → f21noExtraBlanksFrom (some (.para ls0)) (paraItems21 false its) = true
  | _, [], _ => rfl
  | ls0, (g, ls) :: rest, h => by
    have hg : g = 0 := h (g, ls) (by simp)
    subst hg
    simp only [paraItems21, f21noExtraBlanksFrom, Bool.false_eq_true, if_false, FBlockS21.isIc,
      f21noExtraBlanksFrom_paraItems21 _ rest (fun x hx => h x (by simp [hx]))]
    rfl

theorem f21noExtraBlanks_paraItems21 (its : List (Nat × List FLineS21)) (h : ∀ p ∈ its, p.1 = 0) :
    f21noExtraBlanks { items := paraItems21 true its, trail := 0 } = true := by
  cases its with
  | nil => rfl
  | cons it rest =>
    obtain ⟨g, ls⟩ := it
    have hg : g = 0 := h (g, ls) (by simp)
    subst hg
    simp only [f21noExtraBlanks, paraItems21, f21noExtraBlanksFrom, if_true,
      f21noExtraBlanksFrom_paraItems21 _ rest (fun x hx => h x (by simp [hx]))]
    rfl

/-- the prescribed HTML of paragraphs of union-fragment lines is `expected` of the spec model -/
theorem paras21_expected (its : List (Nat × List FLineS21)) (h : ∀ p ∈ its, f21blockOKS (.para p.2) = true) :
    (its.flatMap fun p => strBytes "<p>" ++ expFLines21 p.2 ++ strBytes "</p>\n") = expected (parasDocH its) := by
  rw [← paraItems21_exp true its, ← expected_paraItems21 its 0]
  exact expectedF21_eq_expected _ (paraItems21_frag its h 0)

/-- their source, when there are no extra blank lines, is `spell` of the spec model, byte for byte -/
theorem paras21_spell (its : List (Nat × List FLineS21)) (h : ∀ p ∈ its, f21blockOKS (.para p.2) = true)
    (hg : ∀ p ∈ its, p.1 = 0) (hne : its ≠ []) :
    rawDoc6 (paraItems true (its.map fun p => (p.1, p.2.map spellFLine21))) 0 = spell (parasDocH its) := by
  have := spellF21_raw { items := paraItems21 true its, trail := 0 }
  rw [← paraItems21_conv, ← this, spellF21_eq_spell _ (paraItems21_frag its h 0) (f21noExtraBlanks_paraItems21 its hg)
    (by cases its with | nil => exact absurd rfl hne | cons a t => exact List.cons_ne_nil _ _), spell_f21embed_paraItems21 its hg]

theorem parasDoc21_eq (its : List (Nat × List (List FAtomS))) :
    parasDoc21 its = parasDocH (its.map fun p => (p.1, p.2.map fun l => { atoms := l, hard := false })) := by
  simp only [parasDoc21, parasDocH, paraInl21, List.map_map, Function.comp_def]

theorem soft_gap0 {its : List (Nat × List (List FAtomS))} (h : ∀ it ∈ its, it.1 = 0) :
    ∀ p ∈ its.map fun p => (p.1, p.2.map fun l => ({ atoms := l, hard := false } : FLineS21)), p.1 = 0 := by
  intro p hp
  obtain ⟨q, hq, rfl⟩ := List.mem_map.mp hp
  exact h q hq

theorem expected_parasF21 (its : List (Nat × List (List FAtomS))) (trail : Nat) :
    expected (f21embed { items := parasF21 true its, trail := trail }) = expected (parasDoc21 its) := by
  rw [parasF21_eq, expected_paraItems21, parasDoc21_eq]

theorem spell_f21embed_parasF21 (its : List (Nat × List (List FAtomS))) (h : ∀ it ∈ its, it.1 = 0) (trail : Nat) :
    spell (f21embed { items := parasF21 true its, trail := trail }) = spell (parasDoc21 its) := by
  rw [parasF21_eq, spell_f21embed_paraItems21 _ (soft_gap0 h), parasDoc21_eq]

theorem f21noExtraBlanks_parasF21 (its : List (Nat × List (List FAtomS))) (h : ∀ it ∈ its, it.1 = 0) :
    f21noExtraBlanks { items := parasF21 true its, trail := 0 } = true := by
  rw [parasF21_eq]; exact f21noExtraBlanks_paraItems21 _ (soft_gap0 h)

/-- the prescribed HTML of paragraphs of union-fragment lines is `expected` of the spec model -/
theorem expectedF21_paras_eq_expected (its : List (Nat × List (List FAtomS))) (trail : Nat) (h : ParasOK21 its) :
    expectedF21 { items := parasF21 true its, trail := trail } = expected (parasDoc21 its) := by
  rw [expectedF21_eq_expected _ (f21frag_parasF21 its trail h), expected_parasF21]

/-- their source, when there are no extra blank lines, is `spell` of the spec model, byte for byte -/
theorem spellF21_paras_eq_spell (its : List (Nat × List (List FAtomS))) (h : ParasOK21 its)
    (hg : ∀ it ∈ its, it.1 = 0) (hne : its ≠ []) :
    spellF21 { items := parasF21 true its, trail := 0 } = spell (parasDoc21 its) := by
  rw [spellF21_eq_spell _ (f21frag_parasF21 its 0 h) (f21noExtraBlanks_parasF21 its hg)
    (by cases its with | nil => exact absurd rfl hne | cons a t => exact List.cons_ne_nil _ _), spell_f21embed_parasF21 its hg]

end GM.Proof.CMFrag
