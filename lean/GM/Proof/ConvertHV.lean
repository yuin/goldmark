/-
  GM.Proof.ConvertHV — the block driver with paragraph transformers and a READ-ONLY MONITOR behind the Close of the two
  heading parsers, in the plain block monad `M` (no second state layer):

    `valueCheck node`  evaluates `Lines().At(Len()-1).Value(source)` of the node — the one call of generateAutoHeadingID
                       (atx_heading.go:203) that can panic — and throws the result away;
    `bpCloseV`         = `bpClose`, then `valueCheck` when the parser is a heading parser;
    `closeLoopV … runV` = GM.Model.Blocks.DriverT (`closeLoopT … runT`) with `bpCloseV` where it calls `bpClose`
                       (DriverT's functions with `bpCloseV` for `bpClose`; nothing else differs).

  `runV` is `runH true` with the id table, the attributes and the ghost logs erased but the `Value` call kept: GM.Proof.ConvertHVMain
  proves `runV pts src = .ok st → ∃ hs, runH true pts src = .ok (hs, st)`. So "the block phase with AutoHeadingID is total" is
  the totality of a pure `M` driver that differs from `runT` by a check that succeeds in every state with `NodesOK`.
-/
import GM.Model.Blocks.DriverT
import GM.Model.ConvertH

namespace GM.Blocks
open GM GM.Text

/-- the `Value` call of generateAutoHeadingID (atx_heading.go:200-205), result dropped -/
def valueCheck (node : Nat) : M Unit := do
  let n ← getNode node
  match n.lines.getLast? with
  | some seg => do
    let src ← source
    let _ ← liftE (seg.value src)
    pure ()
  | none => pure ()

/-- `bp.Close` followed by the monitor for the two heading parsers -/
def bpCloseV (bp : BP) (node : Nat) : M Unit := do
  bpClose bp node
  if GM.ConvertH.BP.isHeadingParser bp then valueCheck node

/-- the loop parser.go:902-911 for `i = to + k - 1` down to `to` -/
def closeLoopV (pts : List PT) (blocks : List Block) (to : Int) : Nat → M Unit
  | 0 => pure ()
  | k + 1 => do
    let b ← liftE (blockAt blocks (to + k))
    let n ← getNode b.node
    if n.kind == .paragraph && n.parent.isSome then
      let _ ← transformParagraph pts b.node
    if (← getNode b.node).parent.isSome then bpCloseV b.bp b.node    -- closes only if node has not been transformed
    closeLoopV pts blocks to k

/-- parser.closeBlocks (parser.go:900-918) -/
def closeBlocksV (pts : List PT) (frm to : Int) : M Unit := do
  let blocks := (← getPc).opened
  closeLoopV pts blocks to (frm - to + 1).toNat
  let len : Int := blocks.length
  let blocks' ←
    if frm == len - 1 then liftE (closeBlocks.slice' blocks 0 to)
    else do
      let a ← liftE (closeBlocks.slice' blocks 0 to)
      let b ← liftE (closeBlocks.slice' blocks (frm + 1) len)
      pure (a ++ b)
  modPc fun pc => { pc with opened := blocks' }

/-- parser.go:985-997, the body of `if state&RequireParagraph != 0`: true = the paragraph has been transformed away -/
def requireParaV (pts : List PT) (parent : Nat) (last : Option Nat) (lastBlock : Option Block) : M Bool := do
  if last == (← getNode parent).children.getLast? then
    match lastBlock with
    | none => throw .nil                         -- lastBlock.Parser.Close on the zero Block
    | some lb =>
      bpCloseV lb.bp lb.node
      let blocks := (← getPc).opened
      if blocks.length == 0 then throw .slice    -- blocks[0 : len(blocks)-1]
      modPc fun pc => { pc with opened := blocks.dropLast }
      if (← getNode lb.node).kind != .paragraph then throw .assert   -- last.(*ast.Paragraph)
      transformParagraph pts lb.node
  else pure false

/-- parser.go:960-1014 -/
def tryParsersV (pts : List PT) (parent : Nat) (blankLine : Bool) (continuable : Bool) (w : Int) :
    List BP → OpenResult → Option Block → M (TryOutcomeT × OpenResult × Option Block)
  | [], result, lastBlock => pure (.done, result, lastBlock)
  | bp :: bps, result, lastBlock => do
    if continuable && result == .noBlocksOpened && !bp.canInterruptParagraph then
      return ← tryParsersV pts parent blankLine continuable w bps result lastBlock
    if w > 3 && !bp.canAcceptIndentedLine then
      return ← tryParsersV pts parent blankLine continuable w bps result lastBlock
    let lastBlock ← lastOpenedBlock
    let last := lastBlock.map (·.node)
    let (node, state) ← bpOpen bp parent
    match node with
    | none => tryParsersV pts parent blankLine continuable w bps result lastBlock
    | some node =>
      let transformed ← if state.requirePara then requireParaV pts parent last lastBlock else pure false
      if transformed then return (.retryTransformed, result, lastBlock)
      modNode node fun n => { n with blankPrev := blankLine }
      match last with
      | some l =>
        if (← getNode l).parent.isNone then
          let lastPos : Int := ((← getPc).opened.length : Int) - 1
          closeBlocksV pts lastPos lastPos
      | none => pure ()
      appendChild parent node
      modPc fun pc => { pc with opened := pc.opened ++ [{ node := node, bp := bp }] }
      if state.hasChildren then return (.retry node, .newBlocksOpened, lastBlock)
      return (.done, .newBlocksOpened, lastBlock)

/-- parser.openBlocks from the label `retry:` on (parser.go:935-1023); `fuel` bounds the number of `goto retry`.

    CONTRACT MONITORS (not Go code). (1) As in GM.Blocks.openBlocksLoop: a retry behind a freshly opened container
    must have decreased `retryMeasure`. (2) The retry behind a transformed paragraph (`tdone` = it has happened in this
    call): it does not consume input, so it must not increase `retryMeasure` and may happen once per `openBlocks` call —
    the only parser with RequireParagraph (setext heading) needs the last opened block to be a Paragraph child of
    `parent`; the paragraph is gone, what is opened afterwards are containers, and a leaf ends the loop. `pre` otherwise
    (the Go code would spin). The tie shows that neither fires. -/
def retryStepV (pts : List PT) (blankLine tdone continuable : Bool) (parent : Nat) (w : Int) (bps : List BP)
    (result : OpenResult) (lastBlock : Option Block)
    (again : Bool → Bool → Nat → OpenResult → Option Block → M OpenResult) : M OpenResult := do
  let before := retryMeasure (← get)
  let (outcome, result, lastBlock) ← tryParsersV pts parent blankLine continuable w bps result lastBlock
  match outcome with
  | .retry parent' =>
    let after := retryMeasure (← get)
    if !(after < before) then throw .pre            -- contract monitor (1)
    again tdone continuable parent' result lastBlock
  | .retryTransformed =>
    let after := retryMeasure (← get)
    if tdone || !(after ≤ before) then throw .pre   -- contract monitor (2)
    again true false parent result lastBlock
  | .done => toContinuable continuable result lastBlock

/-- `openBlocks` from `retry:` on; `retryStepV` is the part from the parser loop on, `again` = `goto retry` -/
def openBlocksLoopV (pts : List PT) (blankLine : Bool) :
    Nat → Bool → Bool → Nat → OpenResult → Option Block → M OpenResult
  | 0, _, _, _, _, _ => throw .loop
  | fuel + 1, tdone, continuable, parent, result, lastBlock => do
    let (line, _) ← peekLine
    let lineB := line.getD []
    let len : Int := lineB.length
    let (w, pos) := indentWidthI lineB (← lineOffset)
    modPc fun pc =>
      if pos ≥ len then { pc with blockOffset := -1, blockIndent := -1 }
      else { pc with blockOffset := pos, blockIndent := w }
    if line.isNone then return ← toContinuable continuable result lastBlock
    if (← liftE (idx lineB 0)) == 10 then return ← toContinuable continuable result lastBlock
    let bps ←
      if pos < len then do
        let c ← liftE (idx lineB pos)
        pure ((triggered c).getD freeParsers)
      else pure freeParsers
    retryStepV pts blankLine tdone continuable parent w bps result lastBlock (openBlocksLoopV pts blankLine fuel)

/-- parser.openBlocks (parser.go:928-1024) -/
def openBlocksV (pts : List PT) (parent : Nat) (blankLine : Bool) : M OpenResult := do
  let lastBlock ← lastOpenedBlock
  let continuable ← match lastBlock with
    | some lb => do pure ((← getNode lb.node).kind == .paragraph)
    | none => pure false
  openBlocksLoopV pts blankLine (retryFuel (← source)) false continuable parent .noBlocksOpened lastBlock

/-- parser.go:1081-1123: the `for i := 0; i < l; i++` loop; `rest` = openedBlocks[i:] -/
def lineLoopV (pts : List PT) (parent : Nat) (openedBlocks : List Block) (lastIndex : Int) :
    List Block → Int → List LineStat → M (LineOutcome × List LineStat)
  | [], _, blankLines => pure (.next, blankLines)
  | be :: rest, i, blankLines => do
    let (line, _) ← peekLine
    match line with
    | none =>
      closeBlocksV pts lastIndex 0
      advanceLine
      return (.eof, blankLines)
    | some line =>
      let (lineNum, _) ← position
      let blankLines := blankLines ++ [{ lineNum := lineNum, level := i, isBlank := isBlank line }]
      let beNode ← getNode be.node
      let mut fallThrough := true
      if beNode.kind != .paragraph then
        let state ← bpContinue be.bp be.node
        if state.cont then
          if state.hasChildren && i == lastIndex then
            let blank := isBlankLine (lineNum - 1) i blankLines
            let _ ← openBlocksV pts be.node blank
            return (.next, blankLines)
          fallThrough := false
      if !fallThrough then
        lineLoopV pts parent openedBlocks lastIndex rest (i + 1) blankLines
      else
        let blank := isBlankLine (lineNum - 1) i blankLines
        let thisParent ←
          if i != 0 then do
            let b ← liftE (blockAt openedBlocks (i - 1))
            pure b.node
          else pure parent
        let lastNode ← liftE (blockAt openedBlocks lastIndex)
        let result ← openBlocksV pts thisParent blank
        if result != .paragraphContinuation then
          let now := slotAfter openedBlocks (← getPc).opened lastIndex.toNat
          let lastIndex := if now.map (·.node) != some lastNode.node then lastIndex - 1 else lastIndex
          closeBlocksV pts lastIndex i
        return (.next, blankLines)

/-- parser.go:1074-1126: the `for {}` over lines; `fuel` bounds the number of lines -/
def linesLoopV (pts : List PT) (parent : Nat) : Nat → List LineStat → M (Bool × List LineStat)
  | 0, _ => throw .loop
  | fuel + 1, blankLines => do
    let openedBlocks := (← getPc).opened
    let l := openedBlocks.length
    if l == 0 then return (false, blankLines)             -- `break`
    let (outcome, blankLines) ← lineLoopV pts parent openedBlocks ((l : Int) - 1) openedBlocks 0 blankLines
    match outcome with
    | .eof => return (true, blankLines)                   -- `return` from parseBlocks
    | .next =>
      advanceLine
      linesLoopV pts parent fuel blankLines

/-- parser.go:1055-1127: the outer `for {}`; `fuel` bounds the number of iterations -/
def blocksLoopV (pts : List PT) (parent : Nat) : Nat → List LineStat → M Unit
  | 0, _ => throw .loop
  | fuel + 1, blankLines => do
    let (_, lines, ok) ← skipBlankLinesR
    if !ok then return
    let (lineNum, _) ← position
    let nOpened := (← getPc).opened.length
    let blankLines := if lines != 0 then blankStats lineNum lines nOpened else blankLines
    let blank := isBlankLine (lineNum - 1) 0 blankLines
    if (← openBlocksV pts parent blank) != .newBlocksOpened then return
    advanceLine
    let (ret, blankLines) ← linesLoopV pts parent fuel blankLines
    if ret then return
    blocksLoopV pts parent fuel blankLines

/-- parser.parseBlocks (parser.go:1051-1128) -/
def parseBlocksV (pts : List PT) (parent : Nat) : M Unit := do
  modPc fun pc => { pc with opened := [] }
  blocksLoopV pts parent (linesFuel (← source)) []

/-- the block phase of `parser.Parse` on `src` with the paragraph transformers `pts`: the final state -/
def runV (pts : List PT) (src : Bytes) : Except Panic St :=
  (parseBlocksV pts 0 (initSt src)).map (·.2)

end GM.Blocks
