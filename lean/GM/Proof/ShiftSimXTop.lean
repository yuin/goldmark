/-
  GM.Proof.ShiftSimXTop — "the first open block is the last child of the Document" (`TopLast`); `first_open_not_raw`: a run
  whose first open block is a code / fenced code / HTML block at the end of the source ends in a raw block. (`openBlocks 0`
  on an empty stack establishes `TopLast`: `top_att_openBlocks0J`, GM.Proof.ShiftSimXTop6.)
-/
import GM.Proof.ShiftSimMainL
import GM.Proof.BlocksClosedTree
import GM.Proof.BlocksClosedClose
import GM.Model.Blocks.Indep

namespace GM.Blocks.Xs
open GM GM.Text GM.Spec GM.Proof.Reader GM.Blocks GM.Blocks.L
open GM.Blocks.Sh (K KS bind_ok_inv liftE_ok_inv a2_getNode_inv a2_getPc_inv a2_modPc_inv a2_lastOpenedBlock_inv)

/-- the first (outermost) open block is the last child of the Document -/
def TopLast (s : St) : Prop :=
  ∀ b0, s.pc.opened.head? = some b0 → (s.nodes.getD 0 default).children.getLast? = some b0.node

theorem TopLast.congr_r {s : St} (h : TopLast s) (r' : Reader) : TopLast { s with r := r' } := h

def tl_SameKC (s s' : St) : Prop :=
  ∀ i, (nd s' i).kind = (nd s i).kind ∧ (nd s' i).children = (nd s i).children

theorem tl_SameKC.refl (s : St) : tl_SameKC s s := fun _ => ⟨rfl, rfl⟩

theorem tl_SameKC.trans {a b c : St} (h1 : tl_SameKC a b) (h2 : tl_SameKC b c) : tl_SameKC a c :=
  fun i => ⟨(h2 i).1.trans (h1 i).1, (h2 i).2.trans (h1 i).2⟩

theorem tl_SameKC.of_nodes {s s' : St} (h : s'.nodes = s.nodes) : tl_SameKC s s' := by
  have : ∀ i, nd s' i = nd s i := fun i => by simp only [nd, h]
  intro i
  rw [this]
  exact ⟨rfl, rfl⟩

theorem tl_lastLeaf_congr (n n' : List Node)
    (h : ∀ i, (n'.getD i default).kind = (n.getD i default).kind ∧
      (n'.getD i default).children = (n.getD i default).children) :
    ∀ fuel id, lastLeafKindOf n' fuel id = lastLeafKindOf n fuel id := by
  intro fuel
  induction fuel with
  | zero => intro id; exact (h id).1
  | succ f ih =>
    intro id
    unfold lastLeafKindOf
    simp only
    rw [(h id).2, (h id).1]
    cases (n.getD id default).children.getLast? with
    | none => rfl
    | some c => exact ih c

theorem tl_lastLeaf_one (n : List Node) (c : Nat) (h : (n.getD 0 default).children.getLast? = some c)
    (hc : (n.getD c default).children = []) : ∀ fuel, 0 < fuel → lastLeafKindOf n fuel 0 = (n.getD c default).kind := by
  intro fuel hf
  match fuel, hf with
  | f + 1, _ =>
    unfold lastLeafKindOf
    simp only [h]
    cases f with
    | zero => rfl
    | succ g =>
      unfold lastLeafKindOf
      simp only [hc, List.getLast?_nil]

theorem tl_fencedClose_nodes (node : Nat) (s s' : St) (a : Unit) (h : fencedClose node s = .ok (a, s')) :
    s'.nodes = s.nodes := by
  unfold fencedClose at h
  obtain ⟨pc, s1, h1, hA⟩ := bind_ok_inv h
  obtain ⟨_, e1⟩ := a2_getPc_inv h1
  subst e1
  cases hf : pc.fence with
  | none => rw [hf] at hA; cases hA
  | some f =>
    rw [hf] at hA
    dsimp only at hA
    by_cases c : (f.node == node) = true
    · rw [if_pos c] at hA; cases hA; rfl
    · rw [if_neg c] at hA; cases hA; rfl

theorem tl_rawClose (bp : BP) (hbp : bp = .code ∨ bp = .fenced ∨ bp = .html) (node : Nat) (s s' : St) (a : Unit)
    (h : bpClose bp node s = .ok (a, s')) : tl_SameKC s s' ∧ s'.nodes.length = s.nodes.length := by
  rcases hbp with rfl | rfl | rfl
  · have h' : codeClose node s = .ok ((), s') := h
    obtain ⟨k, e⟩ := codeClose_eff h'
    subst e
    refine ⟨fun i => ?_, ?_⟩
    · rw [setLines_nd]
      split
      · next hc => rw [hc.1]; exact ⟨rfl, rfl⟩
      · exact ⟨rfl, rfl⟩
    · show (s.nodes.set _ _).length = _
      rw [List.length_set]
  · have h' : fencedClose node s = .ok (a, s') := h
    have := tl_fencedClose_nodes node s s' a h'
    exact ⟨tl_SameKC.of_nodes this, by rw [this]⟩
  · have h' : (pure () : M Unit) s = .ok (a, s') := h
    cases h'
    exact ⟨tl_SameKC.refl s, rfl⟩

/-- `closeLoop blocks to k` calls the `Close` of the blocks at `to ≤ j < to + k` only -/
theorem closeLoop_range {P : St → Prop} (blocks : List Block) (to : Int) :
    ∀ k : Nat, (∀ (j : Int) b, to ≤ j → j < to + k → blockAt blocks j = .ok b → Keeps P (bpClose b.bp b.node)) →
      Keeps P (closeLoop blocks to k)
  | 0, _ => by unfold closeLoop; exact Keeps.pure _
  | k + 1, hb => by
    have ih := closeLoop_range (P := P) blocks to k fun j b h1 h2 => hb j b h1 (by omega)
    unfold closeLoop
    refine Keeps.bind_of (liftE_keeps _) fun b ⟨_, _, _, e⟩ => ?_
    have := hb (to + k) b (by omega) (by omega) (liftE_ok_inv e).1
    refine Keeps.bind (getNode_keeps _) fun n => ?_
    split
    · exact Keeps.bind this fun _ => ih
    · exact ih

/-- `closeBlocks frm to` keeps what the `Close` of each block at `to ≤ j ≤ frm` keeps and the write of the stack keeps -/
theorem closeBlocks_range {P : St → Prop} (hpc : ∀ l, Keeps P (modPc fun pc => { pc with opened := l })) (frm to : Int)
    (s s' : St) (a : Unit)
    (hb : ∀ (j : Int) b, to ≤ j → j ≤ frm → blockAt s.pc.opened j = .ok b → Keeps P (bpClose b.bp b.node))
    (hs : P s) (h : closeBlocks frm to s = .ok (a, s')) : P s' := by
  rw [closeBlocks_cut] at h
  obtain ⟨pc, s1, h1, hA⟩ := bind_ok_inv h
  cases h1
  obtain ⟨_, s2, h2, hB⟩ := bind_ok_inv hA
  have k2 := closeLoop_range s.pc.opened to (frm - to + 1).toNat (fun j b h1 h2 h3 => hb j b h1 (by omega) h3) _ _ _ hs h2
  obtain ⟨bl, s3, h3, hC⟩ := bind_ok_inv hB
  obtain ⟨_, e3⟩ := liftE_ok_inv h3
  subst s3
  exact hpc bl _ _ _ k2 hC

theorem tl_closeBlocks_raw (frm to : Int) (s s' : St) (a : Unit)
    (hb : ∀ x ∈ s.pc.opened, x.bp = .code ∨ x.bp = .fenced ∨ x.bp = .html)
    (h : closeBlocks frm to s = .ok (a, s')) : tl_SameKC s s' ∧ s'.nodes.length = s.nodes.length :=
  closeBlocks_range (P := fun t => tl_SameKC s t ∧ t.nodes.length = s.nodes.length)
    (fun _ => modPc_keeps _ fun _ ht => ht) frm to s s' a
    (fun _ b _ _ hj t _ t' ht e =>
      have k := tl_rawClose b.bp (hb b (Sh.blockAt_mem hj)) b.node t t' _ e
      ⟨ht.1.trans k.1, k.2.trans ht.2⟩) ⟨tl_SameKC.refl s, rfl⟩ h

/-- `hleaf`: the node of the (leaf) block has no children — not a clause of `StableL`. -/
theorem tl_first_open_raw {src : Bytes} (s s' : St) (hst : StableL src 0 s) (htop : TopLast s) (b0 : Block)
    (rest : List Block) (hop : s.pc.opened = b0 :: rest) (hleaf : (nd s b0.node).children = []) (frm to : Int)
    (hcl : closeBlocks frm to s = .ok ((), s'))
    (hbp : b0.bp = .code ∨ b0.bp = .fenced ∨ b0.bp = .html) : endsInRawBlock s' = true := by
  have hrest : rest = [] := by
    cases rest with
    | nil => rfl
    | cons c cs =>
      exfalso
      have hl := hst.leafy
      rw [hop] at hl
      have : b0.bp.isContainer = true := hl b0 (by simp [List.dropLast])
      rcases hbp with e | e | e <;> rw [e] at this <;> cases this
  subst hrest
  have hb : ∀ x ∈ s.pc.opened, x.bp = .code ∨ x.bp = .fenced ∨ x.bp = .html := by
    intro x hx
    rw [hop] at hx
    rw [List.mem_singleton.1 hx]
    exact hbp
  obtain ⟨kc, hlen⟩ := tl_closeBlocks_raw frm to s s' () hb hcl
  have hbk := hst.blocks b0 (by rw [hop]; exact List.mem_cons_self)
  have hlast := htop b0 (by rw [hop]; rfl)
  have hpos : 0 < s.nodes.length := Nat.lt_of_le_of_lt (Nat.zero_le _) hbk.lt
  have e1 : lastLeafKindOf s'.nodes s'.nodes.length 0 = (nd s b0.node).kind := by
    rw [tl_lastLeaf_congr s.nodes s'.nodes kc, hlen]
    exact tl_lastLeaf_one s.nodes b0.node hlast hleaf _ hpos
  unfold endsInRawBlock
  simp only [e1, hbk.kind]
  rcases hbp with e | e | e <;> rw [e] <;> rfl

/-- `hleaf`: the first open block's node has no children; needed for the leaf parsers only. -/
theorem first_open_not_raw {src : Bytes} (s s' : St) (hst : StableL src 0 s) (htop : TopLast s) (b0 : Block)
    (rest : List Block) (hop : s.pc.opened = b0 :: rest)
    (hleaf : b0.bp.isContainer = false → (nd s b0.node).children = [])
    (hcl : closeBlocks ((s.pc.opened.length : Int) - 1) 0 s = .ok ((), s'))
    (hraw : endsInRawBlock s' = false) : b0.bp ≠ .code ∧ b0.bp ≠ .fenced ∧ b0.bp ≠ .html := by
  have key : ∀ (hbp : b0.bp = .code ∨ b0.bp = .fenced ∨ b0.bp = .html), False := by
    intro hbp
    have hl : (nd s b0.node).children = [] := hleaf (by rcases hbp with e | e | e <;> rw [e] <;> rfl)
    have := tl_first_open_raw s s' hst htop b0 rest hop hl _ _ hcl hbp
    rw [hraw] at this
    cases this
  exact ⟨fun e => key (Or.inl e), fun e => key (Or.inr (Or.inl e)), fun e => key (Or.inr (Or.inr e))⟩

end GM.Blocks.Xs
