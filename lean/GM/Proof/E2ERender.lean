/-
  GM.Proof.E2ERender — the renderer half of the end-to-end theorems about `GM.Convert.convertCore`:

    * `convertWith_ok`: an HTML answer is `render o.rcfg t` of the tree `parseDoc` answered — ONE tree for every option set;
    * `parseDoc_err_not_render`, `convertWith_not_render`: the outcome `Err.render k` (a panic of a node renderer:
      `"0123456"[n.Level]`, `c.(*ast.Text)` in renderCodeSpan) is unreachable on parser output (from `Spec.Inv`);
    * `renderNode_tableAlign`, `render_pinned`: without the table extension the output does not depend on the table alignment method, so the
      factorisation of C10 (stated for a pinned method) applies to the default configuration.
-/
import GM.Proof.E2ETree
import GM.Proof.ConvertX
import GM.Proof.RenderWF.Main
import GM.Proof.RenderIR

namespace GM.E2E
open GM GM.Text GM.Convert GM.Spec

/-- the global options of `convertCore`'s Markdown object -/
def ROpts.opts (o : ROpts) : Opts := { unsafe_ := o.unsafe_, xhtml := o.xhtml, hardWraps := o.hardWraps }

/-- the same with the table alignment method pinned (the form C10's factorisation is stated for) -/
def ROpts.optsPinned (o : ROpts) : Opts :=
  { unsafe_ := o.unsafe_, xhtml := o.xhtml, hardWraps := o.hardWraps, tableAlign := some 1 }

theorem rcfg_eq (o : ROpts) : o.rcfg = mkRCfg (ROpts.opts o) {} := rfl

theorem rcfg_pinned (o : ROpts) : mkRCfg (ROpts.optsPinned o) {} = { o.rcfg with tableAlign := 1 } := rfl

theorem enter_tableAlign (rc : RCfg) (a : Nat) (ht : rc.exts.table = false) (ph : Bool) (next : Option GM.Node)
    (k : GM.Kind) (attrs : Option (List Attr)) (cs : List GM.Node) :
    enter { rc with tableAlign := a } ph next k attrs cs = enter rc ph next k attrs cs := by
  cases k <;> first | rfl | simp [enter, handled, ht]

theorem leave_tableAlign (rc : RCfg) (a : Nat) (ph : Bool) (next : Option GM.Node) (k : GM.Kind) (cs : List GM.Node) :
    leave { rc with tableAlign := a } ph next k cs = leave rc ph next k cs := by
  cases k <;> rfl

mutual
theorem renderNode_tableAlign (rc : RCfg) (a : Nat) (ht : rc.exts.table = false) (ph : Bool) (next : Option GM.Node) :
    (t : GM.Node) → renderNode { rc with tableAlign := a } ph next t = renderNode rc ph next t
  | .mk k attrs cs => by
    simp only [renderNode, enter_tableAlign rc a ht, leave_tableAlign, renderNodes_tableAlign rc a ht k.isTableHeader cs]
theorem renderNodes_tableAlign (rc : RCfg) (a : Nat) (ht : rc.exts.table = false) (ph : Bool) :
    (cs : List GM.Node) → renderNodes { rc with tableAlign := a } ph cs = renderNodes rc ph cs
  | [] => by simp [renderNodes]
  | c :: rest => by
    simp only [renderNodes, renderNode_tableAlign rc a ht ph rest.head? c, renderNodes_tableAlign rc a ht ph rest]
end

theorem render_pinned (o : ROpts) (t : GM.Node) : render o.rcfg t = render (mkRCfg (ROpts.optsPinned o) {}) t := by
  rw [rcfg_pinned]
  exact (renderNode_tableAlign o.rcfg 1 rfl false none t).symm

theorem liftErr_err {α} {f : Panic → Err} {x : Except Panic α} {e : Err} (h : liftErr f x = .error e) :
    ∃ p, e = f p := by
  cases x with
  | error p => simp only [liftErr, Except.error.injEq] at h; exact ⟨p, h.symm⟩
  | ok v => simp [liftErr] at h

/-- the outcome is a panic of a node renderer (the errors of the parse phases are the others) -/
def Err.isRender : Err → Bool
  | .render _ => true
  | _ => false

theorem inlinePhase_err {guard : Bool} {env : GM.Inl.Env} {src : Bytes} {n : GM.Blocks.Node} {e : Err}
    (h : inlinePhase guard env src n = .error e) : Err.isRender e = false := by
  unfold inlinePhase at h
  split at h
  · cases h
  · split at h
    · cases h
    · split at h
      · cases h; rfl
      · obtain ⟨p, rfl⟩ := liftErr_err h; rfl

theorem docTree_err (guard : Bool) (env : GM.Inl.Env) (src : Bytes) : ∀ (t : GM.Blocks.Tree) (e : Err),
    docTree guard env src t = .error e → Err.isRender e = false := by
  intro t e h
  rw [GM.Proof.ConvertCoreL.docTree_eqL guard env src [] false] at h
  exact GM.Proof.ConvertLDoc.docTreeL_error (E := fun e => Err.isRender e = false)
    (fun i n _ h => inlinePhase_err (by rw [GM.Proof.ConvertCoreL.inlinePhase_eqL guard env src i]; exact h)) (fun _ => rfl)
    [] false t e h

theorem docTrees_err (guard : Bool) (env : GM.Inl.Env) (src : Bytes) : ∀ (ts : List GM.Blocks.Tree) (e : Err),
    docTrees guard env src ts = .error e → Err.isRender e = false := by
  intro ts e h
  rw [GM.Proof.ConvertCoreL.docTrees_eqL guard env src [] false false] at h
  exact GM.Proof.ConvertLDoc.docTreesL_error (E := fun e => Err.isRender e = false)
    (fun i n _ h => inlinePhase_err (by rw [GM.Proof.ConvertCoreL.inlinePhase_eqL guard env src i]; exact h)) (fun _ => rfl)
    [] false false ts e h

theorem parseDoc_err_not_render {guard : Bool} {uc : List (Nat × (Bool × Bool))} {src : Bytes} {e : Err}
    (h : parseDoc guard uc src = .error e) : Err.isRender e = false := by
  unfold parseDoc at h
  simp only [bind, Except.bind] at h
  cases hb : liftErr Err.blocks (blockPhase guard src) with
  | error p => rw [hb] at h; cases h; obtain ⟨q, rfl⟩ := liftErr_err hb; rfl
  | ok st => rw [hb] at h; exact docTree_err guard _ src _ _ h

theorem parseDoc_noRenderPanic (o : ROpts) {guard : Bool} {uc : List (Nat × (Bool × Bool))} {src : Bytes} {t : GM.Node}
    (h : parseDoc guard uc src = .ok t) : renderPanics o.rcfg t = none :=
  GM.Proof.RenderWF.inv_noPanic o.rcfg t (parseDoc_inv (ROpts.opts o) {} guard uc src t h)

theorem convertWith_of_tree (o : ROpts) {guard : Bool} {uc : List (Nat × (Bool × Bool))} {src : Bytes} {t : GM.Node}
    (h : parseDoc guard uc src = .ok t) : convertWith guard uc o src = .ok (render o.rcfg t) := by
  unfold convertWith
  simp only [bind, Except.bind, h, renderDoc, parseDoc_noRenderPanic o h]

theorem convertWith_of_err (o : ROpts) {guard : Bool} {uc : List (Nat × (Bool × Bool))} {src : Bytes} {e : Err}
    (h : parseDoc guard uc src = .error e) : convertWith guard uc o src = .error e := by
  unfold convertWith
  simp only [bind, Except.bind, h]

theorem convertWith_ok {o : ROpts} {guard : Bool} {uc : List (Nat × (Bool × Bool))} {src : Bytes} {html : Bytes}
    (h : convertWith guard uc o src = .ok html) :
    ∃ t, parseDoc guard uc src = .ok t ∧ html = render o.rcfg t := by
  cases hp : parseDoc guard uc src with
  | error e => rw [convertWith_of_err o hp] at h; cases h
  | ok t => rw [convertWith_of_tree o hp] at h; cases h; exact ⟨t, rfl, rfl⟩

theorem convertWith_not_render (o : ROpts) (guard : Bool) (uc : List (Nat × (Bool × Bool))) (src : Bytes) (k : PanicKind) :
    convertWith guard uc o src ≠ .error (.render k) := by
  intro h
  cases hp : parseDoc guard uc src with
  | error e =>
    rw [convertWith_of_err o hp] at h
    cases h
    have := parseDoc_err_not_render hp
    simp [Err.isRender] at this
  | ok t => rw [convertWith_of_tree o hp] at h; cases h

end GM.E2E
