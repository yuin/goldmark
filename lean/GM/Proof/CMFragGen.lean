/-
  GM.Proof.CMFragGen — documents WITHOUT their final line feed: the source, the block phase on it (`runT_doc7`), the block
  phase as a `NestRun` of GM.Proof.CMFrag6Main (`nestRun_doc7`, the last block closed as `node5E` whatever its kind), what
  `docTree` reads from the closed nodes (`BlockDTE` for such a last block); paragraphs as stage-6 items (`paraItems`).
-/
import GM.Proof.CMFrag7Run
import GM.Proof.CMFrag7Inl
import GM.Proof.CMFrag6Main
import GM.Proof.CMFragNTree
import GM.Proof.CMFragNDefs

section CMFrag7Main
namespace GM.Proof.CMFrag
open GM GM.Text GM.Blocks GM.Spec

theorem lineLen_noNl (l : Bytes) (h : ∀ c ∈ l, c ≠ 10) : lineLen l = l.length := by
  induction l with
  | nil => rfl
  | cons c t ih =>
    have hc : (c == 10) = false := by simp [h c (by simp)]
    simp only [lineLen, hc, Bool.false_eq_true, if_false, List.length_cons, ih (fun x hx => h x (by simp [hx]))]
    omega

theorem lastLn_src (pre l : Bytes) (hne : l ≠ []) (h : ∀ c ∈ l, c ≠ 10) : LastLn (pre ++ l) pre.length l := by
  have hl : 0 < l.length := List.length_pos_iff.mpr hne
  refine ⟨⟨?_, by omega, by simp, ?_, by omega⟩, by simp⟩
  · have := sub_body pre l []
    simpa using this
  · unfold lineEnd
    rw [if_pos (by simp), List.drop_left, lineLen_noNl l h]

theorem paraAtE_src : ∀ (ls : List Bytes) (pre : Bytes), ls ≠ [] → (∀ l, ls.getLast? = some l → l ≠ []) →
    (∀ l ∈ ls, ∀ c ∈ l, c ≠ 10) → ParaAtE (pre ++ paraBytesE ls) pre.length ls
  | [], _, h, _, _ => absurd rfl h
  | [l], pre, _, hl, h => by
    have := lastLn_src pre l (hl l rfl) (h l (by simp))
    exact ⟨this.ln, this.eof⟩
  | l :: l' :: rest, pre, _, hl, h => by
    have e : pre ++ paraBytesE (l :: l' :: rest) = pre ++ (l ++ 10 :: paraBytesE (l' :: rest)) := by simp [paraBytesE]
    have e2 : pre ++ paraBytesE (l :: l' :: rest) = (pre ++ (l ++ [10])) ++ paraBytesE (l' :: rest) := by simp [paraBytesE]
    have h1 := Ln.of_append pre l (paraBytesE (l' :: rest)) (h l (by simp))
    have h2 := paraAtE_src (l' :: rest) (pre ++ (l ++ [10])) (by simp)
      (fun x hx => hl x (by rw [List.getLast?_cons_cons]; exact hx)) (fun x hx => h x (by simp [hx]))
    refine ⟨by rw [e]; exact h1, ?_⟩
    rw [e2]
    have : (pre ++ (l ++ [10])).length = pre.length + l.length + 1 := by simp; omega
    rw [this] at h2; exact h2

/-- the source of a stage-6 document without the final line feed (no trailing blank lines) -/
def rawDoc6E : List (Nat × Raw5) → Bytes
  | [] => []
  | [(s, b)] => blanks s ++ paraBytesE (lines5 b)
  | (s, b) :: it :: rest => blanks s ++ (paraBytes (lines5 b) ++ rawDoc6E (it :: rest))

theorem docAt6E_raw : ∀ (items : List (Nat × Raw5)) (pre : Bytes), items ≠ [] →
    (∀ it ∈ items, lines5 it.2 ≠ [] ∧ (∀ l, (lines5 it.2).getLast? = some l → l ≠ []) ∧ ∀ l ∈ lines5 it.2, ∀ c ∈ l, c ≠ 10) →
    DocAt6E (pre ++ rawDoc6E items) pre.length items 0
  | [], _, h, _ => absurd rfl h
  | [(s, b)], pre, _, hno => by
    have hb := blanksAt_append s pre (paraBytesE (lines5 b))
    have e1 : pre ++ rawDoc6E [(s, b)] = (pre ++ blanks s) ++ paraBytesE (lines5 b) := by simp [rawDoc6E]
    have l1 : (pre ++ blanks s).length = pre.length + s := by simp [blanks]
    have hp := paraAtE_src (lines5 b) (pre ++ blanks s) (hno (s, b) (by simp)).1 (hno (s, b) (by simp)).2.1
      (hno (s, b) (by simp)).2.2
    rw [l1] at hp
    exact ⟨rfl, by rw [show rawDoc6E [(s, b)] = blanks s ++ paraBytesE (lines5 b) from rfl]; exact hb, by rw [e1]; exact hp⟩
  | (s, b) :: it :: rest, pre, _, hno => by
    have hb := blanksAt_append s pre (paraBytes (lines5 b) ++ rawDoc6E (it :: rest))
    have e1 : pre ++ rawDoc6E ((s, b) :: it :: rest) =
        (pre ++ blanks s) ++ (paraBytes (lines5 b) ++ rawDoc6E (it :: rest)) := by simp [rawDoc6E]
    have l1 : (pre ++ blanks s).length = pre.length + s := by simp [blanks]
    have hp := paraAt_src (lines5 b) (pre ++ blanks s) (rawDoc6E (it :: rest))
      (hno (s, b) (by simp)).2.2
    rw [l1] at hp
    have e2 : pre ++ rawDoc6E ((s, b) :: it :: rest) =
        (pre ++ blanks s ++ paraBytes (lines5 b)) ++ rawDoc6E (it :: rest) := by simp [rawDoc6E]
    have l2 : (pre ++ blanks s ++ paraBytes (lines5 b)).length = pre.length + s + (paraBytes (lines5 b)).length := by
      simp [blanks]; omega
    have ih := docAt6E_raw (it :: rest) (pre ++ blanks s ++ paraBytes (lines5 b)) (by simp)
      (fun x hx => hno x (by simp [hx]))
    rw [l2] at ih
    exact ⟨by rw [show rawDoc6E ((s, b) :: it :: rest) = blanks s ++ (paraBytes (lines5 b) ++ rawDoc6E (it :: rest)) from rfl]; exact hb,
      by rw [e1]; exact hp, by rw [e2]; exact ih⟩

theorem nl_paraE : ∀ (ls : List Bytes), ls ≠ [] → (∀ l ∈ ls, ∀ c ∈ l, c ≠ 10) → nlCount (paraBytesE ls) + 1 = ls.length
  | [], h, _ => absurd rfl h
  | [l], _, h => by simp [paraBytesE, nl_line l (h l (by simp))]
  | l :: l' :: rest, _, h => by
    have ih := nl_paraE (l' :: rest) (by simp) (fun x hx => h x (by simp [hx]))
    have e : paraBytesE (l :: l' :: rest) = l ++ (10 :: paraBytesE (l' :: rest)) := by simp [paraBytesE]
    rw [e, nl_append, nl_cons10, nl_line l (h l (by simp))]
    simp only [List.length_cons] at ih ⊢
    omega

theorem left6E_nl : ∀ (items : List (Nat × Raw5)), items ≠ [] →
    (∀ it ∈ items, lines5 it.2 ≠ [] ∧ (∀ l, (lines5 it.2).getLast? = some l → l ≠ []) ∧ ∀ l ∈ lines5 it.2, ∀ c ∈ l, c ≠ 10) →
    left6 items 0 = nlCount (rawDoc6E items) + 1
  | [], h, _ => absurd rfl h
  | [(s, b)], _, hno => by
    have hp := nl_paraE (lines5 b) (hno (s, b) (by simp)).1 (hno (s, b) (by simp)).2.2
    simp only [left6, rawDoc6E, nl_append, nl_blanks]
    omega
  | (s, b) :: it :: rest, _, hno => by
    have ih := left6E_nl (it :: rest) (by simp) (fun x hx => hno x (by simp [hx]))
    have hp := nl_para (lines5 b) (hno (s, b) (by simp)).2.2
    simp only [left6] at ih ⊢
    simp only [rawDoc6E, nl_append, nl_blanks, hp]
    omega

theorem runT_doc7 (items : List (Nat × Raw5)) (hne : items ≠ [])
    (hgood : ∀ it ∈ items, Good5 it.2) (hseps : SepsOK6 none items) (hic : IcOK6 false items)
    (hno : ∀ it ∈ items, lines5 it.2 ≠ [] ∧ (∀ l, (lines5 it.2).getLast? = some l → l ≠ []) ∧
      ∀ l ∈ lines5 it.2, ∀ c ∈ l, c ≠ 10) :
    ∃ s' bs, runT pts (rawDoc6E items) = .ok s' ∧ bs.length = items.length ∧
      s'.nodes = addKids { kind := .document } 0 items.length ::
        mkNodes5L node5E (closedOf6 0 items) (items.map (·.2)) bs ∧ s'.pc.refs = [] := by
  have hd := docAt6E_raw items [] hne hno
  simp only [List.nil_append, List.length_nil] at hd
  have hl := left6E_nl items hne hno
  have hf : left6 items 0 + 2 ≤ linesFuel (rawDoc6E items) := by
    simp only [linesFuel, lineCount]
    have : nlCount (rawDoc6E items) = (List.filter (fun x => x == 10) (rawDoc6E items)).length := rfl
    omega
  obtain ⟨s', bs, h1, h2, h3, h4⟩ :=
    (claim7_all (src := rawDoc6E items) items hne).1 0 0 0 (linesFuel (rawDoc6E items)) []
      { kind := .document } [] ({ } : Ctx) hd hgood hseps hic hf rfl
  refine ⟨s', bs, ?_, h2, by simpa using h3, h4⟩
  unfold runT parseBlocksT
  simp only [bind_apply, modPc_run, source_run, initSt, reader_new, rdr_source]
  simp only [h1]
  rfl

/-- every block's closed node is read by `docTree` as the block -/
def AllDT (src : Bytes) (env : GM.Inl.Env) : List (Nat × List Bytes) → List Raw5 → Prop
  | (p, _) :: cl, b :: blks =>
    (∀ bk, GM.Convert.docTree true env src (.node (node5 p b bk) []) = .ok (rawNode5 b)) ∧ AllDT src env cl blks
  | [], [] => True
  | _, _ => False

theorem docTrees_nodes7 {src : Bytes} (env : GM.Inl.Env) :
    ∀ (cl : List (Nat × List Bytes)) (blks : List Raw5) (bs : List Bool), AllDT src env cl blks → bs.length = cl.length →
      GM.Convert.docTrees true env src ((mkNodes5 cl blks bs).map (fun n => Tree.node n [])) = .ok (blks.map rawNode5)
  | [], [], _, _, _ => by simp [mkNodes5, GM.Convert.docTrees, pure, Except.pure]
  | [], _ :: _, _, h, _ => by simp [AllDT] at h
  | _ :: _, [], _, h, _ => by simp [AllDT] at h
  | _ :: _, _ :: _, [], _, h => by simp at h
  | (p, ls) :: cl, b :: blks, bk :: bs, h, hl => by
    obtain ⟨hdt, hrest⟩ := h
    have ih := docTrees_nodes7 env cl blks bs hrest (by simpa using hl)
    simp only [mkNodes5, List.map_cons, GM.Convert.docTrees, hdt bk, ih, bind, Except.bind, pure, Except.pure]

theorem docAt6E_le {src : Bytes} : ∀ (items : List (Nat × Raw5)) (trail q : Nat), DocAt6E src q items trail →
    q ≤ src.length
  | [], _, _, h => h.elim
  | [(s, b)], trail, q, h => by
    obtain ⟨_, hb, hE⟩ := h
    rcases blanks_le s q hb with h' | h'
    · omega
    · subst h'
      cases hl : lines5 b with
      | nil => rw [hl] at hE; exact hE.elim
      | cons l rest =>
        rw [hl] at hE
        cases rest with
        | nil => have := hE.1.le; omega
        | cons l' r => have := hE.1.le; omega
  | (s, b) :: it :: rest, trail, q, h => by
    have := docAt6E_le (it :: rest) trail _ h.2.2; omega

theorem allDT_closedE {src : Bytes} (env : GM.Inl.Env) (henv : env.escapedSpace = false) :
    ∀ (items : List (Nat × Raw5)) (trail q : Nat), DocAt6E src q items trail →
    (∀ it ∈ items, Good5' it.2) → LastNotIc items → AllDT src env (closedOf6 q items) (items.map (·.2))
  | [], _, _, h, _, _ => h.elim
  | [(s, b)], trail, q, h, hg, hl => by
    obtain ⟨_, _, hE⟩ := h
    exact ⟨fun bk => docTree_block7 env henv b (q + s) bk (hg (s, b) (by simp)) hl hE, trivial⟩
  | (s, b) :: it :: rest, trail, q, h, hg, hl => by
    obtain ⟨_, hpa, hdr⟩ := h
    have hle := docAt6E_le (it :: rest) trail _ hdr
    exact ⟨fun bk => docTree_block5 env henv b (q + s) bk (hg (s, b) (by simp)) hpa,
      allDT_closedE env henv (it :: rest) trail _ hdr (fun x hx => hg x (by simp [hx])) hl⟩

theorem lastLine_ne (b : Raw5) (h : Good5' b) : ∀ l, (lines5 b).getLast? = some l → l ≠ [] := by
  cases b with
  | old b' =>
    cases b' with
    | para ls =>
      intro l hl
      exact (h.2 l (List.mem_of_getLast? hl)).ne
    | atx level l =>
      intro x hx
      simp only [lines5, lines4, List.getLast?_singleton, Option.some.injEq] at hx
      subst hx
      simp
    | hr x =>
      obtain ⟨ch, n, _, rfl⟩ := h
      intro l hl
      simp only [lines5, lines4, List.getLast?_singleton, Option.some.injEq] at hl
      subst hl
      simp [List.replicate_succ]
  | fence fc n info ls =>
    intro l hl
    have : (lines5 (.fence fc n info ls)).getLast? = some (List.replicate (n + 3) fc) := by
      simp only [lines5]
      rw [List.getLast?_cons, List.getLast?_append]
      simp
    rw [this] at hl
    cases hl
    simp [List.replicate_succ]
  | icode ls =>
    intro l hl
    have hm := List.mem_of_getLast? hl
    simp only [lines5, icLines, List.mem_map] at hm
    obtain ⟨l', _, rfl⟩ := hm
    simp [ind4]

open GM.Spec.CM GM.Spec.CMFrag

theorem paraBytes_dropLast : ∀ (ls : List Bytes), ls ≠ [] → (paraBytes ls).dropLast = paraBytesE ls
  | [], h => absurd rfl h
  | [l], _ => by simp [paraBytes, paraBytesE]
  | l :: l' :: rest, _ => by
    have ih := paraBytes_dropLast (l' :: rest) (by simp)
    have e : paraBytes (l :: l' :: rest) = (l ++ [10]) ++ paraBytes (l' :: rest) := by simp [paraBytes]
    have hne : paraBytes (l' :: rest) ≠ [] := by simp [paraBytes]
    rw [e, List.dropLast_append_of_ne_nil hne, ih]
    simp [paraBytesE]

theorem rawDoc6_dropLast : ∀ (items : List (Nat × Raw5)), items ≠ [] → (∀ it ∈ items, lines5 it.2 ≠ []) →
    (rawDoc6 items 0).dropLast = rawDoc6E items
  | [], h, _ => absurd rfl h
  | [(s, b)], _, hl => by
    have hne : paraBytes (lines5 b) ≠ [] := by
      cases h : lines5 b with
      | nil => exact absurd h (hl (s, b) (by simp))
      | cons a t => simp [paraBytes]
    simp only [rawDoc6, rawDoc6E, blanks, List.replicate_zero, List.append_nil]
    rw [List.dropLast_append_of_ne_nil hne, paraBytes_dropLast _ (hl (s, b) (by simp))]
  | (s, b) :: it :: rest, _, hl => by
    have ih := rawDoc6_dropLast (it :: rest) (by simp) (fun x hx => hl x (by simp [hx]))
    have hne : rawDoc6 (it :: rest) 0 ≠ [] := by
      obtain ⟨s', b'⟩ := it
      cases h : lines5 b' with
      | nil => exact absurd h (hl (s', b') (by simp))
      | cons a t => simp [rawDoc6, paraBytes, h]
    have hne2 : paraBytes (lines5 b) ++ rawDoc6 (it :: rest) 0 ≠ [] := by simp [hne]
    have e1 : rawDoc6 ((s, b) :: it :: rest) 0 = blanks s ++ (paraBytes (lines5 b) ++ rawDoc6 (it :: rest) 0) := rfl
    have e2 : rawDoc6E ((s, b) :: it :: rest) = blanks s ++ (paraBytes (lines5 b) ++ rawDoc6E (it :: rest)) := rfl
    rw [e1, e2, List.dropLast_append_of_ne_nil hne2, List.dropLast_append_of_ne_nil hne, ih]

end GM.Proof.CMFrag
end CMFrag7Main

section CMFragGen
namespace GM.Proof.CMFrag
open GM GM.Text GM.Blocks GM.Spec

/-- `BlockDT` (GM.Proof.CMFrag6Main) for a block whose last line ends the source without a line feed -/
def BlockDTE (env : GM.Inl.Env) (b : Raw5) (n : GM.Node) : Prop :=
  ∀ (src : Bytes) (p : Nat) (bk : Bool), ParaAtE src p (lines5 b) →
    GM.Convert.docTree true env src (.node (node5 p b bk) []) = .ok n

theorem allDTN_closedE {src : Bytes} (env : GM.Inl.Env) :
    ∀ (items : List (Nat × Raw5)) (ns : List GM.Node) (trail q : Nat), DocAt6E src q items trail →
      AllBlk (fun b n => BlockDT env b n ∧ BlockDTE env b n) items ns →
      AllDTN src env (closedOf6 q items) (items.map (·.2)) ns
  | [], _, _, _, h, _ => h.elim
  | _ :: _, [], _, _, _, h => h.elim
  | [(s, b)], [n], trail, q, h, hb => by
    obtain ⟨_, _, hE⟩ := h
    exact ⟨fun bk => hb.1.2 _ (q + s) bk hE, trivial⟩
  | [(s, b)], n :: n' :: ns, _, _, _, hb => hb.2.elim
  | (s, b) :: it :: rest, n :: ns, trail, q, h, hb => by
    obtain ⟨_, hpa, hdr⟩ := h
    have hle := docAt6E_le (it :: rest) trail _ hdr
    exact ⟨fun bk => hb.1.1 _ (q + s) bk hpa (by omega), allDTN_closedE env (it :: rest) ns trail _ hdr hb.2⟩

theorem allBlk_length {P : Raw5 → GM.Node → Prop} : ∀ (items : List (Nat × Raw5)) (ns : List GM.Node),
    AllBlk P items ns → ns.length = items.length
  | [], [], _ => rfl
  | [], _ :: _, h => h.elim
  | _ :: _, [], h => h.elim
  | _ :: items, _ :: ns, h => by simp [allBlk_length items ns h.2]

/-- `BlockDTE` is `RepDT` at the closed node, as `BlockDT` is (`blockDT_of_rep`) -/
theorem blockDTE_of_rep {env : GM.Inl.Env} {b : Raw5} {n : GM.Node} (hnic : isIcB b = false) (H : RepDT env b n) :
    BlockDTE env b n :=
  fun src p bk hpa => H src _ (rep_baseE b p bk hnic hpa) (node5_children p b bk)

theorem repL_baseE {S : Bytes} : ∀ (items : List (Nat × Raw5)) (trail q : Nat) (bs : List Bool),
    DocAt6E S q items trail → (∀ it ∈ items, Good5 it.2) → bs.length = items.length →
    RelL (Rep S) (items.map (·.2)) (mkNodes5L node5E (closedOf6 q items) (items.map (·.2)) bs)
  | [], _, _, _, hd, _, _ => hd.elim
  | _ :: _, _, _, [], _, _, hl => by simp at hl
  | [(s, b)], trail, q, [bk], hd, hg, _ => by
    simp only [List.map_cons, List.map_nil, closedOf6, mkNodes5L, RelL]
    exact ⟨rep_baseL b (q + s) bk (hg (s, b) (by simp)) hd.2.2, trivial⟩
  | [(s, b)], trail, q, _ :: _ :: _, _, _, hl => by simp at hl
  | (s, b) :: it :: rest, trail, q, [_], _, _, hl => by simp at hl
  | (s, b) :: (s2, b2) :: rest, trail, q, bk :: k2 :: bs, hd, hg, hl => by
    have ih := repL_baseE ((s2, b2) :: rest) trail _ (k2 :: bs) hd.2.2 (fun x hx => hg x (by simp [hx]))
      (by simpa using hl)
    simp only [List.map_cons, closedOf6] at ih ⊢
    rw [mkNodes5L_cons]
    exact ⟨rep_base b (q + s) bk hd.2.1, ih⟩

theorem nestRun_doc7 (items : List (Nat × Raw5)) (hne : items ≠ [])
    (hgood : ∀ it ∈ items, Good5 it.2) (hseps : SepsOK6 none items) (hic : IcOK6 false items)
    (hno : ∀ it ∈ items, lines5 it.2 ≠ [] ∧ (∀ l, (lines5 it.2).getLast? = some l → l ≠ []) ∧
      ∀ l ∈ lines5 it.2, ∀ c ∈ l, c ≠ 10) :
    NestRun (rawDoc6E items) (items.map (·.2)) items.length 0 := by
  obtain ⟨s', bs, h1, h2, h3, _⟩ := runT_doc7 items hne hgood hseps hic hno
  have hd := docAt6E_raw items [] hne hno
  simp only [List.nil_append, List.length_nil] at hd
  have hlen : (closedOf6 0 items).length = items.length := closedOf6_length items 0
  have hml := mkNodes5L_length node5E (closedOf6 0 items) (items.map (·.2)) bs (by simp [hlen]) (by rw [hlen]; exact h2)
  rw [hlen] at hml
  have := nestRun_zero h1 (items.map (·.2)) _ (by rw [hml]; exact h3)
    (mkNodes5L_children node5E node5E_children _ _ _) (repL_baseE items 0 0 bs hd hgood h2)
  rwa [hml] at this

end GM.Proof.CMFrag
end CMFragGen

section CMFragParas
namespace GM.Proof.CMFrag
open GM GM.Text GM.Blocks GM.Spec

/-- paragraphs with the number of EXTRA blank lines in front (the first: all blank lines in front) as stage-6 items -/
def paraItems (first : Bool) : List (Nat × List Bytes) → List (Nat × Raw5)
  | [] => []
  | (g, ls) :: rest => ((if first then g else g + 1), .old (.para ls)) :: paraItems false rest

theorem paraItems_good : ∀ (first : Bool) (its : List (Nat × List Bytes)),
    (∀ it ∈ its, it.2 ≠ [] ∧ ∀ l ∈ it.2, BlkLine l) → ∀ x ∈ paraItems first its, Good5 x.2
  | _, [], _, x, hx => by simp [paraItems] at hx
  | first, (g, ls) :: its, hb, x, hx => by
    simp only [paraItems, List.mem_cons] at hx
    rcases hx with rfl | hx
    · exact hb (g, ls) (by simp)
    · exact paraItems_good false its (fun it hit => hb it (by simp [hit])) x hx

theorem paraItems_lines : ∀ (first : Bool) (its : List (Nat × List Bytes)) (P : List Bytes → Prop),
    (∀ it ∈ its, P it.2) → ∀ x ∈ paraItems first its, P (lines5 x.2)
  | _, [], _, _, x, hx => by simp [paraItems] at hx
  | first, (g, ls) :: its, P, hb, x, hx => by
    simp only [paraItems, List.mem_cons] at hx
    rcases hx with rfl | hx
    · exact hb (g, ls) (by simp)
    · exact paraItems_lines false its P (fun it hit => hb it (by simp [hit])) x hx

theorem paraItems_seps : ∀ (its : List (Nat × List Bytes)) (ip : Bool), SepsOK6 (some ip) (paraItems false its)
  | [], _ => trivial
  | (g, ls) :: its, ip => ⟨fun h => by simp at h, paraItems_seps its _⟩

theorem paraItems_noic : ∀ (first : Bool) (its : List (Nat × List Bytes)), ∀ x ∈ paraItems first its, isIcB x.2 = false
  | _, [], x, hx => by simp [paraItems] at hx
  | first, (g, ls) :: its, x, hx => by
    simp only [paraItems, List.mem_cons] at hx
    rcases hx with rfl | hx
    · rfl
    · exact paraItems_noic false its x hx

theorem paraItems_ne (first : Bool) (its : List (Nat × List Bytes)) (h : its ≠ []) : paraItems first its ≠ [] := by
  cases its with
  | nil => exact absurd rfl h
  | cons it rest => obtain ⟨g, ls⟩ := it; simp [paraItems]

theorem blkLine_noNl {l : Bytes} (h : BlkLine l) : ∀ c ∈ l, c ≠ 10 := h.noNl

end GM.Proof.CMFrag
end CMFragParas
