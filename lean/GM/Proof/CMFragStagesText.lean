/-
  GM.Proof.CMFragStagesText — the paragraph fragments whose atoms are text, code spans, hard breaks and emphasis (stages 8, 9,
  11, 20): a document of such a stage is a document of the union fragment (`F21Doc`) made of paragraphs only, so it conforms
  because the union fragment does. A stage supplies the embedding of its atoms (`rToF`, `emToF`, `unToF`; stage 9: of its
  lines, `bToF`) and three facts: source, prescribed HTML and line condition agree along it (`softParas_conform`).
-/
import GM.Proof.CMFragParas21
import GM.Proof.CMFragParas21Spec
import GM.Proof.CMFragRender8
import GM.Proof.CMFragRender16

namespace GM.Proof.CMFrag
open GM GM.Text GM.Blocks GM.Spec GM.Spec.CM GM.Spec.CMFrag

/-- the source of a document of paragraphs, spelt item by item as the stages' `spell…Items` do, is `rawDoc6` of the paragraphs -/
theorem spellItems_raw {ι α : Type} (sp : Bool → List ι → Bytes) (gap : ι → Nat) (lines : ι → List α) (src : α → Bytes)
    (h0 : ∀ f, sp f [] = [])
    (h1 : ∀ f it rest, sp f (it :: rest) =
      GM.Spec.CMFrag.blanks (if f then gap it else gap it + 1) ++ (lines it).flatMap (fun l => src l ++ [10]) ++ sp false rest) :
    ∀ (first : Bool) (its : List ι) (trail : Nat),
      sp first its ++ GM.Spec.CMFrag.blanks trail =
        rawDoc6 (paraItems first (its.map fun it => (gap it, (lines it).map src))) trail
  | _, [], _ => by rw [h0]; rfl
  | first, it :: rest, trail => by
    simp only [h1, List.map_cons, paraItems, rawDoc6, lines5, lines4, paraBytes, List.flatMap_map, List.append_assoc,
      blanks_eq, spellItems_raw sp gap lines src h0 h1 false rest trail]

/-! ### lines without hard breaks, their atoms embedded by `toF` -/

section soft
variable {ι α : Type} (toF : α → FAtomS) (src exp : List α → Bytes) (ok : List α → Bool)
  (hsrc : ∀ l, spellFLineA (l.map toF) = src l) (hexp : ∀ l, expFLineA (l.map toF) = exp l)
  (hok : ∀ l, ok l = true → f21lineOKS (l.map toF) = true)
  (gap : ι → Nat) (lines : ι → List (List α)) (its : List ι)
  (h : (its.all fun it => !(lines it).isEmpty && (lines it).all ok) = true)

include hok h in
theorem softParas_ok : ParasOK21 (its.map fun it => (gap it, (lines it).map (·.map toF))) := by
  intro p hp
  obtain ⟨it, hit, rfl⟩ := List.mem_map.mp hp
  have hi := List.all_eq_true.mp h it hit
  simp only [Bool.and_eq_true, Bool.not_eq_true', List.isEmpty_eq_false_iff, List.all_eq_true] at hi
  refine ⟨by simpa using hi.1, fun l hl => ?_⟩
  obtain ⟨r, hr, rfl⟩ := List.mem_map.mp hl
  exact hok r (hi.2 r hr)

include hsrc hexp hok h in
theorem softParas_conform (trail : Nat) (uc : List (Nat × (Bool × Bool))) :
    GM.Convert.convertCore uc cmOpts (rawDoc6 (paraItems true (its.map fun it => (gap it, (lines it).map src))) trail) =
      .ok (its.flatMap fun it =>
        strBytes "<p>" ++ GM.Spec.CMFrag.joinNl ((lines it).map exp) ++ strBytes "</p>\n") := by
  have := fragment21_conforms _ (f21frag_parasF21 _ trail (softParas_ok toF ok hok gap lines its h)) uc
  simpa only [spell_parasF21, expectedF21_parasF21, List.map_map, List.flatMap_map, Function.comp_def, hsrc, hexp] using this

include hsrc hexp hok h in
theorem softParas_conformE (hne : its ≠ []) (uc : List (Nat × (Bool × Bool))) :
    GM.Convert.convertCore uc cmOpts (rawDoc6E (paraItems true (its.map fun it => (gap it, (lines it).map src)))) =
      .ok (its.flatMap fun it =>
        strBytes "<p>" ++ GM.Spec.CMFrag.joinNl ((lines it).map exp) ++ strBytes "</p>\n") := by
  have := parasF21_conformE _ (by simpa using hne) (softParas_ok toF ok hok gap lines its h) uc
  simpa only [expectedF21_parasF21, List.map_map, List.flatMap_map, Function.comp_def, hsrc, hexp] using this

/-! the same documents in the spec model: atoms embedded by `e` as the union fragment embeds their images, lines joined
    (`join`) by soft breaks -/

variable (e : α → Inline) (he : ∀ a, f21embedAtom (toF a) = e a) (join : List (List α) → List Inline)
  (h0 : join [] = []) (h1 : ∀ l, join [l] = l.map e)
  (h2 : ∀ l l' rest, join (l :: l' :: rest) = l.map e ++ .softBreak :: join (l' :: rest))

include hexp hok h he h0 h1 h2 in
theorem softParas_expected :
    (its.flatMap fun it => strBytes "<p>" ++ GM.Spec.CMFrag.joinNl ((lines it).map exp) ++ strBytes "</p>\n") =
      expected { blocks := its.map fun it => .para {} (join (lines it)) 0 } := by
  have := expectedF21_paras_eq_expected _ 0 (softParas_ok toF ok hok (fun _ => 0) lines its h)
  simpa only [expectedF21_parasF21, parasDoc21, List.map_map, List.flatMap_map, Function.comp_def, hexp,
    paraInl21_map toF e he join h0 h1 h2] using this

include hsrc hok h he h0 h1 h2 in
theorem softParas_spell (hg : ∀ it ∈ its, gap it = 0) (hne : its ≠ []) :
    rawDoc6 (paraItems true (its.map fun it => (gap it, (lines it).map src))) 0 =
      spell { blocks := its.map fun it => .para {} (join (lines it)) 0 } := by
  have := spellF21_paras_eq_spell _ (softParas_ok toF ok hok gap lines its h) (by simpa using hg) (by simpa using hne)
  simpa only [spell_parasF21, parasDoc21, List.map_map, Function.comp_def, hsrc,
    paraInl21_map toF e he join h0 h1 h2] using this

end soft

/-! ### stage 8 -/

def rToF : RAtom → FAtomS
  | .txt cs => .txt cs
  | .code c => .code c

theorem spellFLineA_rToF (l : RLine) : spellFLineA (l.map rToF) = spellRLine l := by
  simp only [spellFLineA, spellRLine, List.flatMap_map]
  congr 1; funext a; cases a <;> rfl

theorem expFLineA_rToF (l : RLine) : expFLineA (l.map rToF) = expRLine l := by
  simp only [expFLineA, expRLine, List.flatMap_map]
  congr 1; funext a; cases a <;> rfl

theorem f21alternatingS_rToF : ∀ l : RLine, f21alternatingS (l.map rToF) = ralternating l
  | [] => rfl
  | [_] => rfl
  | a :: b :: rest => by
    have ih := f21alternatingS_rToF (b :: rest)
    simp only [List.map_cons, f21alternatingS, ralternating] at ih ⊢
    rw [ih]; cases a <;> cases b <;> rfl

theorem f21lineOKS_rToF (l : RLine) (h : rlineOK l = true) : f21lineOKS (l.map rToF) = true := by
  have hfirst : f21firstOKS (l.map rToF) = rfirstOK l := by
    cases l with
    | nil => rfl
    | cons a t => cases a with
      | txt cs => cases cs <;> rfl
      | _ => rfl
  have hlast : f21lastOKS (l.map rToF) = rlastOK l := by
    simp only [f21lastOKS, rlastOK, List.getLast?_map]
    cases l.getLast? with
    | none => rfl
    | some a => cases a <;> rfl
  have hall : (l.map rToF).all f21atomOKS = l.all ratomOK := by
    rw [List.all_map]; congr 1; funext a; cases a <;> rfl
  have hn : f21neighOK (l.map rToF) = true :=
    f21neighOK_of_noUnder _ fun a ha => by obtain ⟨x, _, rfl⟩ := List.mem_map.mp ha; cases x <;> rfl
  rw [f21lineOKS, f21alternatingS_rToF, hfirst, hlast, hall, hn, Bool.and_true]
  exact h

/-- the paragraphs of a stage-8 document as byte lines with the extra blank lines in front -/
def itemsOfR (d : RDoc) : List (Nat × List Bytes) :=
  d.items.map fun it => (it.gap, (it.lines.map (·.map atomOfR)).map lineSrc)

theorem itemsOfR_eq (d : RDoc) : itemsOfR d = d.items.map fun it => (it.gap, it.lines.map spellRLine) := by
  simp only [itemsOfR, List.map_map, Function.comp_def, lineSrc_atomOfR8]

theorem spellR_raw (d : RDoc) : spellR d = rawDoc6 (paraItems true (itemsOfR d)) d.trail := by
  rw [itemsOfR_eq]
  exact spellItems_raw spellRItems RItem.gap RItem.lines spellRLine (fun _ => rfl) (fun _ _ _ => rfl) true d.items d.trail

/-- **the conformance theorem of the stage-8 fragment** -/
theorem fragment8_conforms (d : RDoc) (h : RFrag d) (uc : List (Nat × (Bool × Bool))) :
    GM.Convert.convertCore uc cmOpts (spellR d) = .ok (expectedR d) := by
  rw [spellR_raw, itemsOfR_eq]
  exact softParas_conform rToF spellRLine expRLine rlineOK spellFLineA_rToF expFLineA_rToF f21lineOKS_rToF
    RItem.gap RItem.lines d.items h d.trail uc

/-- the stage-8 document without its final line feed -/
theorem fragment8_conforms_nofinal (d : RDoc) (h : RFrag d) (hne : d.items ≠ []) (uc : List (Nat × (Bool × Bool))) :
    GM.Convert.convertCore uc cmOpts (rawDoc6E (paraItems true (itemsOfR d))) = .ok (expectedR d) := by
  rw [itemsOfR_eq]
  exact softParas_conformE rToF spellRLine expRLine rlineOK spellFLineA_rToF expFLineA_rToF f21lineOKS_rToF
    RItem.gap RItem.lines d.items h hne uc

/-! ### stage 9: the line is one run of text, with or without a hard break behind it -/

def bToF (x : BLine) : FLineS21 := { atoms := [.txt x.cs], hard := x.hard }

theorem spellFLine21_bToF (x : BLine) : spellFLine21 (bToF x) = spellBLine x := by
  simp only [spellFLine21, bToF, spellFLineA, List.flatMap_cons, List.flatMap_nil, List.append_nil, spellFAtom, spellBLine]

theorem expFLines21_bToF : ∀ ls : List BLine, expFLines21 (ls.map bToF) = expBLines ls
  | [] => rfl
  | [x] => by simp [expFLines21, expBLines, bToF, expFLineA, expFAtom]
  | x :: y :: rest => by
    have ih := expFLines21_bToF (y :: rest)
    simp only [List.map_cons] at ih
    simp only [List.map_cons, expFLines21, expBLines, ih]
    cases x with | mk cs hard => cases hard <;> simp [bToF, expFLineA, expFAtom]

/-- one run of text is a line of the union fragment when it is a line of stages 1–3 -/
theorem f21lineOKS_txt (cs : List TChar) (h : lineOK cs = true) : f21lineOKS [.txt cs] = true := by
  unfold lineOK at h
  cases cs with
  | nil => cases h
  | cons t ts =>
    cases hl : (t :: ts).getLast? with
    | none => simp [hl] at h
    | some z =>
      simp only [List.head?_cons, hl, Bool.and_eq_true] at h
      simp [f21lineOKS, f21alternatingS, f21firstOKS, f21lastOKS, f21atomOKS, f21neighOK, hl, h.1.1, h.1.2, h.2]

/-- the paragraphs of a stage-9 document as byte lines with the extra blank lines in front -/
def itemsOfB (d : BDoc) : List (Nat × List Bytes) := d.items.map fun it => (it.gap, (it.lines.map hlineOfB).map hlineSrc)

theorem itemsOfB_eq (d : BDoc) :
    itemsOfB d = (d.items.map fun it => (it.gap, it.lines.map bToF)).map fun p => (p.1, p.2.map spellFLine21) := by
  simp only [itemsOfB, List.map_map, Function.comp_def, hlineSrc_ofB9, spellFLine21_bToF]

theorem spellBD_raw (d : BDoc) : spellBD d = rawDoc6 (paraItems true (itemsOfB d)) d.trail := by
  simp only [itemsOfB, List.map_map, Function.comp_def, hlineSrc_ofB9]
  exact spellItems_raw spellBItems BItem.gap BItem.lines spellBLine (fun _ => rfl) (fun _ _ _ => rfl) true d.items d.trail

theorem expectedBD_eq (d : BDoc) :
    expectedBD d =
      (d.items.map fun it => (it.gap, it.lines.map bToF)).flatMap fun p =>
        strBytes "<p>" ++ expFLines21 p.2 ++ strBytes "</p>\n" := by
  simp only [expectedBD, List.flatMap_map, expFLines21_bToF]
  rfl

theorem bfrag_blocks (d : BDoc) (h : BFrag d) :
    ∀ p ∈ d.items.map fun it => (it.gap, it.lines.map bToF), f21blockOKS (.para p.2) = true := by
  intro p hp
  obtain ⟨it, hit, rfl⟩ := List.mem_map.mp hp
  have hi := List.all_eq_true.mp h it hit
  simp only [bitemOK, Bool.and_eq_true, Bool.not_eq_true', List.isEmpty_eq_false_iff, List.all_eq_true] at hi
  simp only [f21blockOKS, f21restrS, Bool.and_true, Bool.and_eq_true, List.all_map, List.all_eq_true, Bool.not_eq_true',
    List.isEmpty_eq_false_iff, ne_eq, List.map_eq_nil_iff]
  refine ⟨⟨hi.1.1, fun x hx => f21lineOKS_txt x.cs (hi.1.2 x hx)⟩, ?_⟩
  have hs := hi.2
  simp only [blastSoft, f21lastSoftS, List.getLast?_map] at hs ⊢
  cases hl : it.lines.getLast? with
  | none => simp [hl] at hs
  | some z => simpa [hl, bToF] using hs

/-- **the conformance theorem of the stage-9 fragment** -/
theorem fragment9_conforms (d : BDoc) (h : BFrag d) (uc : List (Nat × (Bool × Bool))) :
    GM.Convert.convertCore uc cmOpts (spellBD d) = .ok (expectedBD d) := by
  rw [spellBD_raw, itemsOfB_eq, expectedBD_eq]
  exact paras21_conform _ (bfrag_blocks d h) d.trail uc

/-- the stage-9 document without its final line feed -/
theorem fragment9_conforms_nofinal (d : BDoc) (h : BFrag d) (hne : d.items ≠ []) (uc : List (Nat × (Bool × Bool))) :
    GM.Convert.convertCore uc cmOpts (rawDoc6E (paraItems true (itemsOfB d))) = .ok (expectedBD d) := by
  rw [itemsOfB_eq, expectedBD_eq]
  exact paras21_conformE _ (bfrag_blocks d h) (by simpa using hne) uc

theorem f21embedLines_bToF : ∀ ls : List BLine, f21embedLines (ls.map bToF) = bembedLines ls
  | [] => rfl
  | [_] => rfl
  | x :: y :: rest => by
    have := f21embedLines_bToF (y :: rest)
    simp only [List.map_cons] at this ⊢
    rw [f21embedLines, this]
    · obtain ⟨cs, hd⟩ := x
      cases hd <;> simp [bembedLines, bToF, f21embedAtom]
    · simp

theorem parasDocH_bembed (d : BDoc) : parasDocH (d.items.map fun it => (it.gap, it.lines.map bToF)) = bembed d := by
  simp only [parasDocH, bembed, List.map_map, Function.comp_def, f21embedLines_bToF]

/-- the prescribed HTML of a stage-9 document is `expected` of the embedded document -/
theorem expectedBD_eq_expected (d : BDoc) (h : BFrag d) : expectedBD d = expected (bembed d) := by
  rw [expectedBD_eq, paras21_expected _ (bfrag_blocks d h), parasDocH_bembed]

/-- a non-empty stage-9 document without extra blank lines is spelled byte for byte like the embedded one -/
theorem spellBD_eq_spell (d : BDoc) (h : BFrag d) (hb : bnoExtraBlanks d = true) (hne : d.items ≠ []) :
    spellBD d = spell (bembed d) := by
  simp only [bnoExtraBlanks, Bool.and_eq_true, beq_iff_eq, List.all_eq_true] at hb
  have := paras21_spell _ (bfrag_blocks d h)
    (by intro p hp; obtain ⟨it, hit, rfl⟩ := List.mem_map.mp hp; exact hb.2 it hit) (by simpa using hne)
  rw [spellBD_raw, itemsOfB_eq, hb.1]
  simpa only [List.map_map, Function.comp_def, spellFLine21_bToF, parasDocH_bembed] using this

/-- … and the empty document is the exception, as in stages 1–3 -/
theorem spellBD_empty_ne_spell9 : spellBD { items := [] } ≠ spell (bembed { items := [] }) := by decide +kernel

/-- the inline phase on the paragraph `ab\` / `cd` / `ef`: the first Text node carries the hard break -/
example : GM.Inl.parseBlock {} [97, 98, 92, 10, 99, 100, 10, 101, 102, 10]
    (paraSegs 0 ([⟨[97, 98], true⟩, ⟨[99, 100], false⟩, ⟨[101, 102], false⟩].map hlineSrc)) =
    .ok [.text { start := 0, stop := 2 } false true false, .text { start := 4, stop := 6 } true false false,
      .text { start := 7, stop := 9 } false false false] := by
  have hr : ∀ a b : UInt8, f21lineOKS [.txt [⟨a, .lit⟩, ⟨b, .lit⟩]] = true → escSpell [⟨a, .lit⟩, ⟨b, .lit⟩] = [a, b] →
      FRichLine [.txt [a, b]] := fun a b h e => by
    have := frichLine_fatomOfS21 _ h
    simpa only [List.map_cons, List.map_nil, fatomOfS, e] using this
  have hok : FLinesOK [⟨[.txt [97, 98]], true⟩, ⟨[.txt [99, 100]], false⟩, ⟨[.txt [101, 102]], false⟩] := by
    refine ⟨?_, ?_⟩
    · intro x hx
      simp only [List.mem_cons, List.not_mem_nil, or_false] at hx
      rcases hx with rfl | rfl | rfl
      · exact hr _ _ (by decide) (by decide)
      · exact hr _ _ (by decide) (by decide)
      · exact hr _ _ (by decide) (by decide)
    · intro x hx
      simp at hx
      subst hx
      rfl
  have hla : LinesAtG [97, 98, 92, 10, 99, 100, 10, 101, 102, 10] [0, 4, 7] [[97, 98, 92], [99, 100], [101, 102]] :=
    ⟨by decide, by decide, by decide, by decide, by decide, by decide⟩
  exact parseBlock_f21 {} rfl _ [0, 4, 7] _ (by simp) hok hla

/-! ### stage 11 -/

def emToF : EAtomS → FAtomS
  | .txt cs => .txt cs
  | .code c => .code c
  | .em c => .em c
  | .strong c => .strong c

theorem spellFLineA_emToF (l : ELine) : spellFLineA (l.map emToF) = spellELine l := by
  simp only [spellFLineA, spellELine, List.flatMap_map]
  congr 1; funext a; cases a <;> rfl

theorem expFLineA_emToF (l : ELine) : expFLineA (l.map emToF) = expELine l := by
  simp only [expFLineA, expELine, List.flatMap_map]
  congr 1; funext a; cases a <;> rfl

theorem f21alternatingS_emToF : ∀ l : ELine, f21alternatingS (l.map emToF) = ealternatingS l
  | [] => rfl
  | [_] => rfl
  | a :: b :: rest => by
    have ih := f21alternatingS_emToF (b :: rest)
    simp only [List.map_cons, f21alternatingS, ealternatingS] at ih ⊢
    rw [ih]; cases a <;> cases b <;> rfl

theorem f21lineOKS_emToF (l : ELine) (h : elineOKS l = true) : f21lineOKS (l.map emToF) = true := by
  have hfirst : f21firstOKS (l.map emToF) = efirstOKS l := by
    cases l with
    | nil => rfl
    | cons a t => cases a with
      | txt cs => cases cs <;> rfl
      | _ => rfl
  have hlast : f21lastOKS (l.map emToF) = elastOKS l := by
    simp only [f21lastOKS, elastOKS, List.getLast?_map]
    cases l.getLast? with
    | none => rfl
    | some a => cases a <;> rfl
  have hall : (l.map emToF).all f21atomOKS = l.all eatomOKS := by
    rw [List.all_map]; congr 1; funext a; cases a <;> rfl
  have hn : f21neighOK (l.map emToF) = true :=
    f21neighOK_of_noUnder _ fun a ha => by obtain ⟨x, _, rfl⟩ := List.mem_map.mp ha; cases x <;> rfl
  rw [f21lineOKS, f21alternatingS_emToF, hfirst, hlast, hall, hn, Bool.and_true]
  exact h

/-- the paragraphs of a stage-11 document as byte lines with the extra blank lines in front -/
def itemsOfE (d : EDoc) : List (Nat × List Bytes) :=
  d.items.map fun it => (it.gap, (it.lines.map (·.map eatomOfS)).map elineSrc)

theorem itemsOfE_eq (d : EDoc) : itemsOfE d = d.items.map fun it => (it.gap, it.lines.map spellELine) := by
  simp only [itemsOfE, List.map_map, Function.comp_def, elineSrc_eatomOfS11]

theorem spellE_raw (d : EDoc) : spellE d = rawDoc6 (paraItems true (itemsOfE d)) d.trail := by
  rw [itemsOfE_eq]
  exact spellItems_raw spellEItems EItem.gap EItem.lines spellELine (fun _ => rfl) (fun _ _ _ => rfl) true d.items d.trail

/-- **the conformance theorem of the stage-11 fragment** -/
theorem fragment11_conforms (d : EDoc) (h : EFrag d) (uc : List (Nat × (Bool × Bool))) :
    GM.Convert.convertCore uc cmOpts (spellE d) = .ok (expectedE d) := by
  rw [spellE_raw, itemsOfE_eq]
  exact softParas_conform emToF spellELine expELine elineOKS spellFLineA_emToF expFLineA_emToF f21lineOKS_emToF
    EItem.gap EItem.lines d.items h d.trail uc

/-- the stage-11 document without its final line feed -/
theorem fragment11_conforms_nofinal (d : EDoc) (h : EFrag d) (hne : d.items ≠ []) (uc : List (Nat × (Bool × Bool))) :
    GM.Convert.convertCore uc cmOpts (rawDoc6E (paraItems true (itemsOfE d))) = .ok (expectedE d) := by
  rw [itemsOfE_eq]
  exact softParas_conformE emToF spellELine expELine elineOKS spellFLineA_emToF expFLineA_emToF f21lineOKS_emToF
    EItem.gap EItem.lines d.items h hne uc

/-! ### stage 20 -/

def unToF : UnAtomS → FAtomS
  | .txt cs => .txt cs
  | .em c => .uem c
  | .strong c => .ustrong c

theorem spellFLineA_unToF (l : UnLine) : spellFLineA (l.map unToF) = spellUnLine l := by
  simp only [spellFLineA, spellUnLine, List.flatMap_map]
  congr 1; funext a; cases a <;> rfl

theorem expFLineA_unToF (l : UnLine) : expFLineA (l.map unToF) = expUnLine l := by
  simp only [expFLineA, expUnLine, List.flatMap_map]
  congr 1; funext a; cases a <;> rfl

theorem f21alternatingS_unToF : ∀ l : UnLine, f21alternatingS (l.map unToF) = unalternatingS l
  | [] => rfl
  | [_] => rfl
  | a :: b :: rest => by
    have ih := f21alternatingS_unToF (b :: rest)
    simp only [List.map_cons, f21alternatingS, unalternatingS] at ih ⊢
    rw [ih]; cases a <;> cases b <;> rfl

/-- the condition on the neighbours of `_` emphasis is that of the union fragment on `uem` / `ustrong` -/
theorem f21neighOK_unToF : ∀ l : UnLine, f21neighOK (l.map unToF) = unneighOK l
  | [] => rfl
  | [_] => rfl
  | a :: b :: rest => by
    have ih := f21neighOK_unToF (b :: rest)
    simp only [List.map_cons, f21neighOK, unneighOK] at ih ⊢
    rw [ih]; cases a <;> cases b <;> simp [unToF, f21pairOK, unpairOK, FAtomS.isUnder]

theorem f21lineOKS_unToF (l : UnLine) (h : unlineOKS l = true) : f21lineOKS (l.map unToF) = true := by
  have hfirst : f21firstOKS (l.map unToF) = unfirstOKS l := by
    cases l with
    | nil => rfl
    | cons a t => cases a with
      | txt cs => cases cs <;> rfl
      | _ => rfl
  have hlast : f21lastOKS (l.map unToF) = unlastOKS l := by
    simp only [f21lastOKS, unlastOKS, List.getLast?_map]
    cases l.getLast? with
    | none => rfl
    | some a => cases a <;> rfl
  have hall : (l.map unToF).all f21atomOKS = l.all unatomOKS := by
    rw [List.all_map]; congr 1; funext a; cases a <;> rfl
  rw [f21lineOKS, f21alternatingS_unToF, hfirst, hlast, hall, f21neighOK_unToF]
  exact h

/-- the paragraphs of a stage-20 document as byte lines with the extra blank lines in front -/
def itemsOfUn (d : UnDoc) : List (Nat × List Bytes) :=
  d.items.map fun it => (it.gap, (it.lines.map (·.map unatomOfS)).map unlineSrc)

theorem itemsOfUn_eq (d : UnDoc) : itemsOfUn d = d.items.map fun it => (it.gap, it.lines.map spellUnLine) := by
  simp only [itemsOfUn, List.map_map, Function.comp_def, unlineSrc_unatomOfS20]

theorem spellUn_raw (d : UnDoc) : spellUn d = rawDoc6 (paraItems true (itemsOfUn d)) d.trail := by
  rw [itemsOfUn_eq]
  exact spellItems_raw spellUnItems UnItem.gap UnItem.lines spellUnLine (fun _ => rfl) (fun _ _ _ => rfl) true d.items d.trail

/-- **the conformance theorem of the stage-20 fragment** -/
theorem fragment20_conforms (d : UnDoc) (h : UnFrag d) (uc : List (Nat × (Bool × Bool))) :
    GM.Convert.convertCore uc cmOpts (spellUn d) = .ok (expectedUn d) := by
  rw [spellUn_raw, itemsOfUn_eq]
  exact softParas_conform unToF spellUnLine expUnLine unlineOKS spellFLineA_unToF expFLineA_unToF f21lineOKS_unToF
    UnItem.gap UnItem.lines d.items h d.trail uc

/-- the stage-20 document without its final line feed -/
theorem fragment20_conforms_nofinal (d : UnDoc) (h : UnFrag d) (hne : d.items ≠ []) (uc : List (Nat × (Bool × Bool))) :
    GM.Convert.convertCore uc cmOpts (rawDoc6E (paraItems true (itemsOfUn d))) = .ok (expectedUn d) := by
  rw [itemsOfUn_eq]
  exact softParas_conformE unToF spellUnLine expUnLine unlineOKS spellFLineA_unToF expFLineA_unToF f21lineOKS_unToF
    UnItem.gap UnItem.lines d.items h hne uc

/-! ### the paragraph stages 8, 11, 20 in the spec model -/

/-- the prescribed HTML of a stage-8 document is `expected` of the embedded document -/
theorem expectedR_eq_expected (d : RDoc) (h : RFrag d) : expectedR d = expected (rembed d) :=
  softParas_expected rToF expRLine rlineOK expFLineA_rToF f21lineOKS_rToF RItem.lines d.items h rembedAtom
    (fun a => by cases a <;> rfl) rembedLines rfl (fun _ => rfl) (fun _ _ _ => rfl)

/-- a non-empty stage-8 document without extra blank lines is spelled byte for byte like the embedded one -/
theorem spellR_eq_spell (d : RDoc) (h : RFrag d) (hb : rnoExtraBlanks d = true) (hne : d.items ≠ []) :
    spellR d = spell (rembed d) := by
  simp only [rnoExtraBlanks, Bool.and_eq_true, beq_iff_eq, List.all_eq_true] at hb
  rw [spellR_raw, itemsOfR_eq, hb.1]
  exact softParas_spell rToF spellRLine rlineOK spellFLineA_rToF f21lineOKS_rToF RItem.gap RItem.lines d.items h
    rembedAtom (fun a => by cases a <;> rfl) rembedLines rfl (fun _ => rfl) (fun _ _ _ => rfl) hb.2 hne

/-- the prescribed HTML of a stage-11 document is `expected` of the embedded document -/
theorem expectedE_eq_expected (d : EDoc) (h : EFrag d) : expectedE d = expected (eembed d) :=
  softParas_expected emToF expELine elineOKS expFLineA_emToF f21lineOKS_emToF EItem.lines d.items h eembedAtom
    (fun a => by cases a <;> rfl) eembedLines rfl (fun _ => rfl) (fun _ _ _ => rfl)

/-- a non-empty stage-11 document without extra blank lines is spelled byte for byte like the embedded one -/
theorem spellE_eq_spell (d : EDoc) (h : EFrag d) (hb : enoExtraBlanks d = true) (hne : d.items ≠ []) :
    spellE d = spell (eembed d) := by
  simp only [enoExtraBlanks, Bool.and_eq_true, beq_iff_eq, List.all_eq_true] at hb
  rw [spellE_raw, itemsOfE_eq, hb.1]
  exact softParas_spell emToF spellELine elineOKS spellFLineA_emToF f21lineOKS_emToF EItem.gap EItem.lines d.items h
    eembedAtom (fun a => by cases a <;> rfl) eembedLines rfl (fun _ => rfl) (fun _ _ _ => rfl) hb.2 hne

/-- the prescribed HTML of a stage-20 document is `expected` of the embedded document -/
theorem expectedUn_eq_expected (d : UnDoc) (h : UnFrag d) : expectedUn d = expected (unembed d) :=
  softParas_expected unToF expUnLine unlineOKS expFLineA_unToF f21lineOKS_unToF UnItem.lines d.items h unembedAtom
    (fun a => by cases a <;> rfl) unembedLines rfl (fun _ => rfl) (fun _ _ _ => rfl)

/-- a non-empty stage-20 document without extra blank lines is spelled byte for byte like the embedded one -/
theorem spellUn_eq_spell (d : UnDoc) (h : UnFrag d) (hb : unnoExtraBlanks d = true) (hne : d.items ≠ []) :
    spellUn d = spell (unembed d) := by
  simp only [unnoExtraBlanks, Bool.and_eq_true, beq_iff_eq, List.all_eq_true] at hb
  rw [spellUn_raw, itemsOfUn_eq, hb.1]
  exact softParas_spell unToF spellUnLine unlineOKS spellFLineA_unToF f21lineOKS_unToF UnItem.gap UnItem.lines d.items h
    unembedAtom (fun a => by cases a <;> rfl) unembedLines rfl (fun _ => rfl) (fun _ _ _ => rfl) hb.2 hne

end GM.Proof.CMFrag
