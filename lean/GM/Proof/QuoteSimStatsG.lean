/-
  GM.Proof.QuoteSimStatsG — the general versions `CURG`, `LStG` of the invariants of GM.Proof.QuoteSimStats, without
  the clauses "level-0 entries are not blank" (`NB0`), which only hold for sources without blank lines; in their place
  `lstG_reset`: when run A, with nothing open, skips blank lines, its list becomes `blankStats lineNum lines 0 = []`
  while run B appended one Blockquote entry for the line.
-/
import GM.Proof.QuoteSimStats

namespace GM.Blocks
open GM GM.Text

/-- the invariant while both runs are in the per-line loop at line `k`, run A at index `i` (general sources) -/
def CURG (k i : Int) (stA stB : List LineStat) : Prop :=
  ∃ oA oB cA, stA = oA ++ cA ∧ stB = oB ++ bqE k :: cA.map shSt ∧ cA.length = i.toNat ∧ (∀ e ∈ cA, e.lineNum = k) ∧
    SRelOld k oA oB ∧ BelowL k oA ∧ BelowL k oB

/-- the invariant at the start of line `k` (general sources) -/
structure LStG (k : Int) (stA stB : List LineStat) : Prop where
  rel : SRelOld k stA stB
  bA : BelowL k stA
  bB : BelowL k stB

/-- with nothing open, the statistics after skipped blank lines are empty (parser.go:1062-1069) -/
theorem blankStats_zero (lineNum lines : Int) : blankStats lineNum lines 0 = [] := rfl

/-- the flags the two runs compute below an opened container agree, and the invariant goes on -/
theorem curG_query {k i : Int} (hi : 0 ≤ i) {stA stB : List LineStat} (h : CURG k i stA stB) (bl : Bool) :
    isBlankLine (k - 1) (i + 1) (stB ++ [{ lineNum := k, level := i + 1, isBlank := bl }]) =
      isBlankLine (k - 1) i (stA ++ [{ lineNum := k, level := i, isBlank := bl }]) ∧
    CURG k (i + 1) (stA ++ [{ lineNum := k, level := i, isBlank := bl }])
      (stB ++ [{ lineNum := k, level := i + 1, isBlank := bl }]) := by
  obtain ⟨oA, oB, cA, hA, hB, hlen, hk, hrel, hbA, hbB⟩ := h
  have eA : stA ++ [({ lineNum := k, level := i, isBlank := bl } : LineStat)] =
      oA ++ (cA ++ [{ lineNum := k, level := i, isBlank := bl }]) := by rw [hA, List.append_assoc]
  have eB : stB ++ [({ lineNum := k, level := i + 1, isBlank := bl } : LineStat)] =
      oB ++ (bqE k :: (cA ++ [({ lineNum := k, level := i, isBlank := bl } : LineStat)]).map shSt) := by
    rw [hB]; simp [shSt]
  refine ⟨?_, oA, oB, cA ++ [{ lineNum := k, level := i, isBlank := bl }], eA, eB, ?_, ?_, hrel, hbA, hbB⟩
  · rw [eA, eB]
    rw [isBlankLine_cur k i hi oA _ (by simp [hlen]) (fun e he => by
      rcases List.mem_append.mp he with h | h
      · exact hk e h
      · simp only [List.mem_singleton] at h; rw [h])]
    rw [isBlankLine_cur k (i + 1) (by omega) oB _ (by simp [hlen]; omega) (fun e he => by
      rcases List.mem_cons.mp he with h | h
      · rw [h]; rfl
      · obtain ⟨x, hx, rfl⟩ := List.mem_map.mp h
        rcases List.mem_append.mp hx with h' | h'
        · exact hk x h'
        · simp only [List.mem_singleton] at h'; rw [h']; rfl)]
    exact hrel i hi
  · simp [hlen]; omega
  · intro e he
    rcases List.mem_append.mp he with h | h
    · exact hk e h
    · simp only [List.mem_singleton] at h; rw [h]

theorem lstG_nil (k : Int) : LStG k [] [] :=
  ⟨(fun _ _ => rfl), (fun _ h => by cases h), (fun _ h => by cases h)⟩

/-- entering the per-line loop at line `k`: B has visited its Blockquote -/
theorem curG_start {k : Int} {stA stB : List LineStat} (h : LStG k stA stB) : CURG k 0 stA (stB ++ [bqE k]) :=
  ⟨stA, stB, [], (by simp), (by simp), rfl, (fun _ he => by cases he), h.rel, h.bA, h.bB⟩

/-- after the pass (or after a line that A handled in its outer loop: `cA = []`): the invariant for line `k + 1` -/
theorem lstG_next {k i : Int} {stA stB : List LineStat} (h : CURG k i stA stB) : LStG (k + 1) stA stB := by
  obtain ⟨oA, oB, cA, hA, hB, _, hk, _, hbA, hbB⟩ := h
  subst hA hB
  refine ⟨fun j hj => ?_, ?_, ?_⟩
  · have e1 : k + 1 - 1 = k := by omega
    rw [e1]
    rw [List.reverse_append, List.reverse_append, List.reverse_cons, ← List.map_reverse, List.append_assoc]
    refine isBlankLoop_shift k j cA.reverse oA.reverse _ ?_
    rw [isBlankLoop_below k j oA.reverse (belowL_reverse hbA)]
    simp only [List.singleton_append]
    rw [isBlankLoop_skip' k (j + 1) (bqE k) oB.reverse rfl (by simp only [bqE]; omega) (by simp only [bqE]; omega)]
    exact isBlankLoop_below k (j + 1) oB.reverse (belowL_reverse hbB)
  · intro e he
    rcases List.mem_append.mp he with h | h
    · have := hbA e h; omega
    · have := hk e h; omega
  · intro e he
    rcases List.mem_append.mp he with h | h
    · have := hbB e h; omega
    · rcases List.mem_cons.mp h with h | h
      · rw [h]; simp only [bqE]; omega
      · obtain ⟨x, hx, rfl⟩ := List.mem_map.mp h
        have := hk x hx
        show x.lineNum < k + 1
        omega

/-- the blank-line reset: run A (nothing open) skipped blank lines before line `k + 1` and its list is replaced by
    `blankStats _ _ 0 = []`; run B appended its Blockquote entry for line `k`. A question about line `k` at level
    `j + 1` skips that entry and finds only older lines. -/
theorem lstG_reset {k : Int} {stB : List LineStat} (hbB : BelowL k stB) : LStG (k + 1) [] (stB ++ [bqE k]) := by
  refine ⟨fun j hj => ?_, (fun _ h => by cases h), ?_⟩
  · have e1 : k + 1 - 1 = k := by omega
    rw [e1, List.reverse_append]
    simp only [List.reverse_cons, List.reverse_nil, List.nil_append, List.singleton_append]
    rw [isBlankLoop_skip' k (j + 1) (bqE k) stB.reverse rfl (by simp only [bqE]; omega) (by simp only [bqE]; omega)]
    rw [isBlankLoop_below k (j + 1) stB.reverse (belowL_reverse hbB)]
    rfl
  · intro e he
    rcases List.mem_append.mp he with h | h
    · have := hbB e h; omega
    · simp only [List.mem_singleton] at h; rw [h]; simp only [bqE]; omega

/-- the same with A's list written as in `blocksLoop` -/
theorem lstG_reset' {k : Int} {stB : List LineStat} (lineNum lines : Int) (hbB : BelowL k stB) :
    LStG (k + 1) (blankStats lineNum lines 0) (stB ++ [bqE k]) := lstG_reset hbB

theorem curG_of_cur {k i : Int} {a b : List LineStat} (h : CUR k i a b) : CURG k i a b := by
  obtain ⟨oA, oB, cA, hA, hB, hlen, hk, hrel, hbA, hbB, _⟩ := h
  exact ⟨oA, oB, cA, hA, hB, hlen, hk, hrel, hbA, hbB⟩

theorem lstG_of_lst {k : Int} {a b : List LineStat} (h : LSt k a b) : LStG k a b := ⟨h.rel, h.bA, h.bB⟩

theorem curG_ne {k j : Int} {stA stB : List LineStat} (h : CURG k j stA stB) (hj : 1 ≤ j) : stA ≠ [] := by
  obtain ⟨oA, oB, cA, hA, _, hlen, _⟩ := h
  intro e
  rw [e] at hA
  have : cA = [] := (List.append_eq_nil_iff.mp hA.symm).2
  rw [this] at hlen
  simp only [List.length_nil] at hlen
  omega

end GM.Blocks
