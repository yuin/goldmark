/-
  GM.Proof.CMFrag21Inl — stage 21: the inline phase on a paragraph whose lines mix all inline atoms (text, code spans,
  `*` / `_` emphasis, inline links, images, autolinks, raw tags), lines at arbitrary positions (`LinesAtG`).
-/
import GM.Proof.CMFrag21Defs
import GM.Proof.CMFrag13Inl
import GM.Proof.CMFrag16Inl
import GM.Proof.CMFrag21Link

namespace GM.Proof.CMFrag
open GM GM.Text GM.Inl
open GM.Spec (BCur WFSegs WFSegsFrom)

/-! ### one text atom and the atom behind it, uniformly -/

/-- what is fixed while the line loop works on one line -/
structure Ctx21 where
  env : Env
  henv : env.escapedSpace = false
  src : Bytes
  segs : List Segment
  L : Int
  j : Nat
  hd : Int
  e : Int
  s0 : Segment
  h0 : segs[0]? = some s0
  hs0 : (j : Int) = 0 → s0.start ≤ hd
  hj : (j : Int) < segs.length
  bts : List Bottom

def Ctx21.st (C : Ctx21) (q : Nat) (ks : List Inl.Node) (nid : Nat) : St :=
  { rd := rdAt C.src C.segs C.L C.j { start := q, stop := C.e } C.hd, kids := ks, nextId := nid, bottoms := C.bts }

/-- what the raw-tag parsers need to know about the block's segments -/
def TagCtx21 (C : Ctx21) : Prop :=
  WFSegs C.src C.segs ∧ (∀ s ∈ C.segs, s.padding = 0) ∧ C.L = BCur.lastStop C.segs ∧
    C.segs[C.j]? = some { start := C.hd, stop := C.e }

def FAtom.isTag : FAtom → Bool
  | .otag _ => true
  | .ctag _ => true
  | _ => false

/-- the inline node of a non-text atom that starts at byte `p` -/
def atomKid21 (p : Int) : FAtom → Inl.Node
  | .txt _ => .text { start := p, stop := p } false false false
  | .code cs => .codeSpan [.text { start := p + 1, stop := p + 1 + cs.length } false false true]
  | .em cs => .emphasis 1 [.text { start := p + 1, stop := p + 1 + cs.length } false false false]
  | .strong cs => .emphasis 2 [.text { start := p + 2, stop := p + 2 + cs.length } false false false]
  | .uem cs => .emphasis 1 [.text { start := p + 1, stop := p + 1 + cs.length } false false false]
  | .ustrong cs => .emphasis 2 [.text { start := p + 2, stop := p + 2 + cs.length } false false false]
  | .link t d => .link false d none [.text { start := p + 1, stop := p + 1 + t.length } false false false]
  | .img t d => .link true d none [.text { start := p + 1 + 1, stop := p + 1 + 1 + t.length } false false false]
  | .auto s r => .autoLink false { start := p + 1, stop := p + 1 + s.length + 1 + r.length }
  | .otag n => .rawHTML [{ start := p, stop := p + ((fatomSrc (.otag n)).length : Nat) }]
  | .ctag n => .rawHTML [{ start := p, stop := p + ((fatomSrc (.ctag n)).length : Nat) }]

def cost21 : FAtom → Nat
  | .txt _ => 0
  | .code _ => 1
  | .auto _ _ => 1
  | .otag _ => 1
  | .ctag _ => 1
  | _ => 2

def BsOK21 (a : FAtom) (bs : Bytes) : Prop :=
  bs ≠ [] ∧ quiet bs 0 false = true ∧ escAfter bs false = false ∧
    (a.isUnder = true → ∀ c, bs.getLast? = some c → unNbOK c = true)

def RestOK21 (a : FAtom) (rest : Bytes) : Prop :=
  rest ≠ [] ∧ rest.head? ≠ some 96 ∧ rest.head? ≠ some 42 ∧ rest.head? ≠ some 95 ∧
    (a.isUnder = true → ∀ c, rest.head? = some c → unNbOK c = true)

/-- the conclusion of a step: the segments it appends, and the line loop afterwards -/
def StepRes21 (C : Ctx21) (bs : Bytes) (a : FAtom) (q : Nat) (ks : List Inl.Node) (nid fuel : Nat) : Prop :=
  ∃ (sg : List Seg21) (nid' : Nat), (∀ s ∈ sg, SegOK21 s) ∧ NoLab21 (rawS21 sg) ∧ NoMerge8 (ks ++ rawS21 sg) ∧
    finS21 sg = [.text { start := q, stop := (q : Int) + bs.length } false false false,
      atomKid21 ((q : Int) + bs.length) a] ∧
    lineLoop C.env (fuel + cost21 a) false (C.st q ks nid) =
      lineLoop C.env fuel false (C.st (q + bs.length + (fatomSrc a).length) (ks ++ rawS21 sg) nid')

theorem at_parts21 {src : Bytes} {L : Int} {q : Nat} {e : Int} {line : Bytes} (h : At16 src L q e line) :
    sub src q (q + line.length) = line ∧ q + line.length ≤ src.length ∧ e = (q : Int) + line.length ∧ e ≤ L := by
  obtain ⟨h1, h2, h3, h4⟩ := h
  exact ⟨h1, h2, by rw [h3]; push_cast; rfl, h4⟩

theorem plainOK_text21 (sg : Segment) (s h r : Bool) : SegOK21 (.plain (.text sg s h r)) := ⟨rfl, by simp [closeLabels]⟩


theorem stepRes_plain21 (C : Ctx21) (bs : Bytes) (a : FAtom) (q : Nat) (ks : List Inl.Node) (nid fuel : Nat)
    (nd : Inl.Node) (nid' : Nat) (hnd1 : nd.isDelim = false) (hnd2 : closeLabels nd = nd) (hnd3 : nd.isLabel = false)
    (hnm : ∀ ks', NoMerge8 (ks' ++ [nd])) (hkid : nd = atomKid21 ((q : Int) + bs.length) a)
    (hstep : lineLoop C.env (fuel + cost21 a) false (C.st q ks nid) =
      lineLoop C.env fuel false (C.st (q + bs.length + (fatomSrc a).length)
        (ks ++ [.text { start := q, stop := (q : Int) + bs.length } false false false, nd]) nid')) :
    StepRes21 C bs a q ks nid fuel := by
  refine ⟨[.plain (.text { start := q, stop := (q : Int) + bs.length } false false false), .plain nd], nid', ?_, ?_, ?_,
    ?_, ?_⟩
  · intro s hs
    simp at hs
    rcases hs with rfl | rfl
    · exact plainOK_text21 _ _ _ _
    · exact ⟨hnd1, hnd2⟩
  · intro n hn
    simp [rawS21, Seg21.raw] at hn
    rcases hn with rfl | rfl
    · rfl
    · exact hnd3
  · simp only [rawS21, Seg21.raw, List.flatMap_cons, List.flatMap_nil, List.append_nil]
    rw [show ∀ (a b : Inl.Node), ks ++ ([a] ++ [b]) = (ks ++ [a]) ++ [b] by simp]
    exact hnm _
  · simp [finS21, Seg21.fin, hkid]
  · rw [hstep]
    simp [rawS21, Seg21.raw]

/-- an atom that one pass of the line loop consumes: its first byte `c` triggers the parsers `ips`, which give the node
    `nd` and leave the reader behind the atom (`hparse`: the parsers' contract, with the Text in front among the children) -/
theorem step_pass21 (C : Ctx21) (bs : Bytes) (a : FAtom) (c : UInt8) (tl : Bytes) (ips : List Ip) (nd : Inl.Node)
    (hsrc : fatomSrc a = c :: tl) (hcost : cost21 a = 1)
    (hpun : isPunct c = true) (hsp : isSpace c = false) (hF : parsersFor c = ips) (hips : ips.isEmpty = false)
    (hbs : BsOK21 a bs) (q : Nat) (rest : Bytes) (ks : List Inl.Node) (nid fuel : Nat)
    (h : At16 C.src C.L q C.e (bs ++ (fatomSrc a ++ rest))) (hend : CutOK13 rest) (hnm : NoMergeAt13 ks q)
    (hnd1 : nd.isDelim = false) (hnd2 : closeLabels nd = nd) (hnd3 : nd.isLabel = false)
    (hnd4 : ∀ ks', NoMerge8 (ks' ++ [nd])) (hkid : nd = atomKid21 ((q : Int) + bs.length) a)
    (hparse : ∀ ks', tryParsers C.env C.j { start := ((q + bs.length : Nat) : Int), stop := C.e } ips
        { rd := rdAt C.src C.segs C.L C.j { start := ((q + bs.length : Nat) : Int), stop := C.e } C.hd, kids := ks',
          nextId := nid, bottoms := C.bts } =
      .ok (some nd, (C.st (q + bs.length + (fatomSrc a).length) ks' nid))) :
    StepRes21 C bs a q ks nid fuel := by
  obtain ⟨hb0, hbq, hbe, _⟩ := hbs
  refine stepRes_plain21 C bs a q ks nid fuel nd nid hnd1 hnd2 hnd3 hnd4 hkid ?_
  have hend1 : CutOK13 (tl ++ rest) := cutOK_app13 tl rest hend
  simp only [Ctx21.st, hcost]
  rw [passX21 C.env C.henv C.src C.segs C.L C.j C.hd q bs c (tl ++ rest) C.e ks nid C.bts fuel ips
    (by rw [hsrc] at h; simpa using h) C.hj hend1 hb0 hbq hbe hpun hsp hF hips hnm _ _ (hparse _)]
  simp [Ctx21.st, Int.natCast_add]

theorem step_code21 (C : Ctx21) (bs cs : Bytes) (hbs : BsOK21 (.code cs) bs) (hok : FAtomOK (.code cs))
    (q : Nat) (rest : Bytes) (ks : List Inl.Node) (nid fuel : Nat)
    (h : At16 C.src C.L q C.e (bs ++ (fatomSrc (.code cs) ++ rest))) (hend : CutOK13 rest)
    (hrest : RestOK21 (.code cs) rest) (hnm : NoMergeAt13 ks q) :
    StepRes21 C bs (.code cs) q ks nid fuel := by
  obtain ⟨hr0, hr96, _, _, _⟩ := hrest
  obtain ⟨hc0, hcal⟩ := hok
  have hsrc : fatomSrc (.code cs) = 96 :: (cs ++ [96]) := by simp [fatomSrc]
  have hd := h.drop bs _
  rw [show fatomSrc (.code cs) ++ rest = 96 :: (cs ++ 96 :: rest) by simp [fatomSrc]] at hd
  obtain ⟨h1, h2, h3, h4⟩ := hd
  simp only [List.length_cons, List.length_append] at h1 h2 h3
  have hpc := parseCodeSpan_alnum8' C.src C.segs C.L C.j C.hd (q + bs.length) cs rest ((q + bs.length : Nat) : Int) C.e
    ((q + bs.length + (fatomSrc (.code cs)).length : Nat) : Int) rfl (by omega) (by simp [fatomSrc]; omega) C.hj
    (by omega) h4 (by rw [← h1]; congr 1; omega) hc0 hcal hr0 hr96
  refine step_pass21 C bs _ 96 (cs ++ [96]) [.codeSpan]
    (.codeSpan [.text { start := (q : Int) + bs.length + 1, stop := (q : Int) + bs.length + 1 + cs.length } false false true])
    hsrc rfl (by decide) (by decide) (by decide) rfl hbs q rest ks nid fuel h hend hnm rfl
    (by simp [closeLabels, closeLabelsL]) rfl (fun ks' => noMerge_code8 ks' _) (by simp [atomKid21]) fun ks' => ?_
  simp only [tryParsers, Ip.parse, liftR, bind, Except.bind, hpc, pure, Except.pure]
  simp [Ctx21.st, Int.natCast_add]

theorem step_emph21 (C : Ctx21) (ch : UInt8) (hch : (ch == 42 || ch == 95) = true) (two : Bool) (a : FAtom) (bs cs : Bytes)
    (hsrc : fatomSrc a = List.replicate (elen11 two) ch ++ (cs ++ List.replicate (elen11 two) ch))
    (hkid : ∀ p : Int, atomKid21 p a = .emphasis ((elen11 two : Nat) : Int)
      [.text { start := p + ((elen11 two : Nat) : Int), stop := p + ((elen11 two : Nat) : Int) + cs.length } false false false])
    (hcost : cost21 a = 2) (hbs : BsOK21 a bs) (hok : AlnumNE cs)
    (q : Nat) (rest : Bytes) (ks : List Inl.Node) (nid fuel : Nat)
    (h : At16 C.src C.L q C.e (bs ++ (fatomSrc a ++ rest))) (hend : CutOK13 rest)
    (hrest : RestOK21 a rest) (hnm : NoMergeAt13 ks q) (hq0 : C.hd ≤ q) (hu : ch = 95 → a.isUnder = true) :
    StepRes21 C bs a q ks nid fuel := by
  obtain ⟨hb0, hbq, hbe, hnb1⟩ := hbs
  obtain ⟨hr0, _, hr42, hr95, hnb2⟩ := hrest
  obtain ⟨hc0, hcal⟩ := hok
  have hrch : rest.head? ≠ some ch := by
    rcases (by simpa using hch : ch = 42 ∨ ch = 95) with rfl | rfl
    · exact hr42
    · exact hr95
  have hline : bs ++ (fatomSrc a ++ rest) =
      bs ++ (List.replicate (elen11 two) ch ++ (cs ++ (List.replicate (elen11 two) ch ++ rest))) := by
    rw [hsrc]; simp
  rw [hline] at h
  obtain ⟨oc, cc, hstep⟩ := em_stepC ch hch C.env C.henv C.src C.segs C.L C.j C.hd C.s0 C.h0 C.hs0 q two bs cs rest C.e ks
    nid C.bts fuel h C.hj hq0 hend hb0 hbq hbe hc0 hcal hr0 hrch hnm (fun h95 => hnb1 (hu h95)) (fun h95 => hnb2 (hu h95))
  refine ⟨[.run ch [.text { start := q, stop := (q : Int) + bs.length } false,
      .emph nid (nid + 1)
        { start := (q : Int) + bs.length, stop := (q : Int) + bs.length + elen11 two }
        { start := (q : Int) + bs.length + elen11 two + cs.length,
          stop := (q : Int) + bs.length + elen11 two + cs.length + elen11 two }
        { start := (q : Int) + bs.length + elen11 two, stop := (q : Int) + bs.length + elen11 two + cs.length }
        two oc cc]], nid + 2, ?_, ?_, ?_, ?_, ?_⟩
  · intro s hs
    simp at hs
    subst hs
    trivial
  · intro n hn
    simp [rawS21, Seg21.raw, rawC, RItem11.rawC] at hn
    rcases hn with rfl | rfl | rfl | rfl <;> rfl
  · simp only [rawS21, Seg21.raw, List.flatMap_cons, List.flatMap_nil, List.append_nil, rawC, RItem11.rawC]
    rw [show ∀ (a b c d : Inl.Node), ks ++ ([a] ++ [b, c, d]) = (ks ++ [a, b, c]) ++ [d] by simp]
    exact noMerge_delim11 _ _ _
  · simp [finS21, Seg21.fin, fin11, RItem11.fin, hkid]
  · have e1 : ((q + bs.length + (fatomSrc a).length : Nat) : Int) =
        (q : Int) + bs.length + elen11 two + cs.length + elen11 two := by
      rw [hsrc]; simp; omega
    simp only [Ctx21.st, hcost, e1]
    rw [hstep]
    simp [rawS21, Seg21.raw, rawC, RItem11.rawC]

theorem step_link21 (C : Ctx21) (bs t d : Bytes) (hbs : BsOK21 (.link t d) bs) (hok : FAtomOK (.link t d))
    (q : Nat) (rest : Bytes) (ks : List Inl.Node) (nid fuel : Nat)
    (h : At16 C.src C.L q C.e (bs ++ (fatomSrc (.link t d) ++ rest))) (hend : CutOK13 rest)
    (hrest : RestOK21 (.link t d) rest) (hnm : NoMergeAt13 ks q) (hks : NoLab21 ks) :
    StepRes21 C bs (.link t d) q ks nid fuel := by
  obtain ⟨hb0, hbq, hbe, _⟩ := hbs
  obtain ⟨⟨ht0, htc⟩, hd0, hdc⟩ := hok
  have hline : bs ++ (fatomSrc (.link t d) ++ rest) = bs ++ 91 :: (t ++ 93 :: 40 :: (d ++ 41 :: rest)) := by
    simp [fatomSrc]
  rw [hline] at h
  have hstep := link_stepX21 C.env C.henv C.src C.segs C.L C.j C.hd q bs t d rest C.e ks nid C.bts fuel h C.hj hend
    hb0 hbq hbe ht0 htc hd0 hdc hrest.1 hnm hks
  have ec : ((q + bs.length : Nat) : Int) = (q : Int) + bs.length := by push_cast; rfl
  rw [ec] at hstep
  refine stepRes_plain21 C bs _ q ks nid fuel
    (.link false d none [.text ⟨((q + bs.length + 1 : Nat) : Int), ((q + bs.length + 1 + t.length : Nat) : Int), 0, false⟩ false false false])
    (nid + 1) rfl (by simp [closeLabels, closeLabelsL]) rfl
    (fun ks' => noMerge_link16 ks' _ _ _ _) (by simp [atomKid21]) ?_
  have e1 : q + bs.length + (fatomSrc (.link t d)).length = q + bs.length + 1 + t.length + 1 + 1 + d.length + 1 := by
    simp [fatomSrc]; omega
  simp only [Ctx21.st, cost21, e1]
  exact hstep

theorem step_img21 (C : Ctx21) (bs t d : Bytes) (hbs : BsOK21 (.img t d) bs) (hok : FAtomOK (.img t d))
    (q : Nat) (rest : Bytes) (ks : List Inl.Node) (nid fuel : Nat)
    (h : At16 C.src C.L q C.e (bs ++ (fatomSrc (.img t d) ++ rest))) (hend : CutOK13 rest)
    (hrest : RestOK21 (.img t d) rest) (hnm : NoMergeAt13 ks q) (hks : NoLab21 ks) :
    StepRes21 C bs (.img t d) q ks nid fuel := by
  obtain ⟨hb0, hbq, hbe, _⟩ := hbs
  obtain ⟨⟨ht0, htc⟩, hd0, hdc⟩ := hok
  have hline : bs ++ (fatomSrc (.img t d) ++ rest) = bs ++ 33 :: 91 :: (t ++ 93 :: 40 :: (d ++ 41 :: rest)) := by
    simp [fatomSrc]
  rw [hline] at h
  have hstep := img_stepX21 C.env C.henv C.src C.segs C.L C.j C.hd q bs t d rest C.e ks nid C.bts fuel h C.hj hend
    hb0 hbq hbe ht0 htc hd0 hdc hrest.1 hnm hks
  have ec : ((q + bs.length : Nat) : Int) = (q : Int) + bs.length := by push_cast; rfl
  rw [ec] at hstep
  refine stepRes_plain21 C bs _ q ks nid fuel
    (.link true d none [.text ⟨((q + bs.length + 1 + 1 : Nat) : Int), ((q + bs.length + 1 + 1 + t.length : Nat) : Int), 0, false⟩ false false false])
    (nid + 1) rfl (by simp [closeLabels, closeLabelsL]) rfl
    (fun ks' => noMerge_link16 ks' _ _ _ _) (by simp [atomKid21]) ?_
  have e1 : q + bs.length + (fatomSrc (.img t d)).length = q + bs.length + 1 + 1 + t.length + 1 + 1 + d.length + 1 := by
    simp [fatomSrc]; omega
  simp only [Ctx21.st, cost21, e1]
  exact hstep

theorem step_auto21 (C : Ctx21) (bs s r : Bytes) (hbs : BsOK21 (.auto s r) bs) (hok : FAtomOK (.auto s r))
    (q : Nat) (rest : Bytes) (ks : List Inl.Node) (nid fuel : Nat)
    (h : At16 C.src C.L q C.e (bs ++ (fatomSrc (.auto s r) ++ rest))) (hend : CutOK13 rest)
    (hrest : RestOK21 (.auto s r) rest) (hnm : NoMergeAt13 ks q) :
    StepRes21 C bs (.auto s r) q ks nid fuel := by
  obtain ⟨⟨hs2, hs32, hsl⟩, _, hrc⟩ := hok
  have hsrc : fatomSrc (.auto s r) = 60 :: (s ++ 58 :: (r ++ [62])) := by simp [fatomSrc]
  have hpa := parseAutoLink18 C.src C.segs C.L C.j C.hd (q + bs.length) s r rest C.e
    (by simpa [hsrc] using h.drop bs _) C.hj hs2 hs32 hsl hrc hrest.1
  refine step_pass21 C bs _ 60 (s ++ 58 :: (r ++ [62])) [.autoLink, .rawHTML]
    (.autoLink false ⟨((q + bs.length + 1 : Nat) : Int), ((q + bs.length + 1 + s.length + 1 + r.length : Nat) : Int), 0, false⟩)
    hsrc rfl (by decide) (by decide) (by decide) rfl hbs q rest ks nid fuel h hend hnm rfl
    (by simp [closeLabels]) rfl (fun ks' => noMerge_auto18 ks' _ _) (by simp [atomKid21]) fun ks' => ?_
  have e1 : q + bs.length + (fatomSrc (.auto s r)).length = q + bs.length + 1 + s.length + 1 + r.length + 1 := by
    simp [fatomSrc]; omega
  simp only [tryParsers, Ip.parse, liftR, bind, Except.bind, hpa, pure, Except.pure, Ctx21.st, e1]

theorem step_tag21 (C : Ctx21) (bs : Bytes) (a : FAtom) (hcost : cost21 a = 1)
    (hkid : ∀ p : Int, atomKid21 p a = .rawHTML [{ start := p, stop := p + ((fatomSrc a).length : Nat) }])
    (htag : IsTag19 (fatomSrc a)) (hbs : BsOK21 a bs) (hT : TagCtx21 C)
    (q : Nat) (rest : Bytes) (ks : List Inl.Node) (nid fuel : Nat)
    (h : At16 C.src C.L q C.e (bs ++ (fatomSrc a ++ rest))) (hend : CutOK13 rest)
    (hrest : RestOK21 a rest) (hnm : NoMergeAt13 ks q) (hq0 : C.hd ≤ q) :
    StepRes21 C bs a q ks nid fuel := by
  obtain ⟨W, Z, hLs, hseg⟩ := hT
  obtain ⟨tl, hsrc⟩ : ∃ tl, fatomSrc a = 60 :: tl := by
    obtain ⟨c, n', _, _, ht⟩ := htag
    rcases ht with ht | ht <;> exact ⟨_, ht⟩
  refine step_pass21 C bs a 60 tl [.autoLink, .rawHTML]
    (.rawHTML [{ start := ((q + bs.length : Nat) : Int), stop := ((q + bs.length + (fatomSrc a).length : Nat) : Int) }])
    hsrc hcost (by decide) (by decide) (by decide) rfl hbs q rest ks nid fuel h hend hnm rfl
    (by simp [closeLabels]) rfl (fun ks' => noMerge_raw19 ks' _) (by rw [hkid]; simp) fun ks' => ?_
  exact tag_parsers19 C.env C.src C.segs C.L C.j (q + bs.length) C.e C.hd (fatomSrc a) rest ks' nid C.bts W Z hLs hseg
    (by omega) (h.drop bs _) htag hrest.1

theorem isTag_otag21 (n : Bytes) (hok : TagNameOK19 n) : IsTag19 (fatomSrc (.otag n)) ∧ IsTag19 (fatomSrc (.ctag n)) := by
  obtain ⟨hne, hh, hal⟩ := hok
  cases n with
  | nil => exact absurd rfl hne
  | cons c n' =>
    exact ⟨⟨c, n', hh c rfl, fun x hx => hal x (by simp [hx]), Or.inl (by simp [fatomSrc])⟩,
      ⟨c, n', hh c rfl, fun x hx => hal x (by simp [hx]), Or.inr (by simp [fatomSrc])⟩⟩

theorem step21 (C : Ctx21) (bs : Bytes) (a : FAtom) (hnt : a.isTxt = false) (hbs : BsOK21 a bs) (hok : FAtomOK a)
    (hT : a.isTag = true → TagCtx21 C)
    (q : Nat) (rest : Bytes) (ks : List Inl.Node) (nid fuel : Nat)
    (h : At16 C.src C.L q C.e (bs ++ (fatomSrc a ++ rest))) (hend : CutOK13 rest)
    (hrest : RestOK21 a rest) (hnm : NoMergeAt13 ks q) (hks : NoLab21 ks) (hq0 : C.hd ≤ q) :
    StepRes21 C bs a q ks nid fuel := by
  cases a with
  | txt _ => simp [FAtom.isTxt] at hnt
  | code cs => exact step_code21 C bs cs hbs hok q rest ks nid fuel h hend hrest hnm
  | em cs =>
    exact step_emph21 C 42 rfl false _ bs cs (by simp [fatomSrc, elen11]) (by intro p; simp [atomKid21, elen11])
      rfl hbs hok q rest ks nid fuel h hend hrest hnm hq0 (fun h => absurd h (by decide))
  | strong cs =>
    exact step_emph21 C 42 rfl true _ bs cs (by simp [fatomSrc, elen11]) (by intro p; simp [atomKid21, elen11])
      rfl hbs hok q rest ks nid fuel h hend hrest hnm hq0 (fun h => absurd h (by decide))
  | uem cs =>
    exact step_emph21 C 95 rfl false _ bs cs (by simp [fatomSrc, elen11]) (by intro p; simp [atomKid21, elen11])
      rfl hbs hok q rest ks nid fuel h hend hrest hnm hq0 (fun _ => rfl)
  | ustrong cs =>
    exact step_emph21 C 95 rfl true _ bs cs (by simp [fatomSrc, elen11]) (by intro p; simp [atomKid21, elen11])
      rfl hbs hok q rest ks nid fuel h hend hrest hnm hq0 (fun _ => rfl)
  | link t d => exact step_link21 C bs t d hbs hok q rest ks nid fuel h hend hrest hnm hks
  | img t d => exact step_img21 C bs t d hbs hok q rest ks nid fuel h hend hrest hnm hks
  | auto s r => exact step_auto21 C bs s r hbs hok q rest ks nid fuel h hend hrest hnm
  | otag n =>
    exact step_tag21 C bs _ rfl (by intro p; rfl) (isTag_otag21 n hok).1 hbs (hT rfl) q rest ks nid fuel h hend hrest hnm hq0
  | ctag n =>
    exact step_tag21 C bs _ rfl (by intro p; rfl) (isTag_otag21 n hok).2 hbs (hT rfl) q rest ks nid fuel h hend hrest hnm hq0

inductive FT21 : List FAtom → Prop
  | last (bs l0 : Bytes) (c : UInt8) : bs = l0 ++ [c] → isSpace c = false → c ≠ 92 → quiet bs 0 false = true →
      FT21 [.txt bs]
  | cons (bs : Bytes) (a : FAtom) (rest : List FAtom) : a.isTxt = false → BsOK21 a bs → FAtomOK a →
      (a.isUnder = true → ∀ c, (flineSrc rest).head? = some c → unNbOK c = true) → FT21 rest →
      FT21 (.txt bs :: a :: rest)

def atomKids21 (soft hard : Bool) : Nat → List FAtom → List Inl.Node
  | q, [.txt bs] => [.text { start := q, stop := (q : Int) + bs.length } soft hard false]
  | q, .txt bs :: a :: rest =>
    .text { start := q, stop := (q : Int) + bs.length } false false false :: atomKid21 ((q : Int) + bs.length) a ::
      atomKids21 soft hard (q + bs.length + (fatomSrc a).length) rest
  | _, _ => []

def pre21 : List FAtom → Nat
  | .txt _ :: a :: rest => cost21 a + pre21 rest
  | _ => 0

theorem flineSrc_single21 (bs : Bytes) : flineSrc [.txt bs] = bs := by simp [flineSrc, fatomSrc]

theorem flineSrc_cons21 (bs : Bytes) (a : FAtom) (rest : List FAtom) :
    flineSrc (.txt bs :: a :: rest) = bs ++ (fatomSrc a ++ flineSrc rest) := by simp [flineSrc, fatomSrc]

theorem ft_head21 {as : List FAtom} (h : FT21 as) :
    flineSrc as ≠ [] ∧ (flineSrc as).head? ≠ some 96 ∧ (flineSrc as).head? ≠ some 42 ∧ (flineSrc as).head? ≠ some 95 := by
  have key : ∀ (bs : Bytes) (t : Bytes), bs ≠ [] → quiet bs 0 false = true →
      bs ++ t ≠ [] ∧ (bs ++ t).head? ≠ some 96 ∧ (bs ++ t).head? ≠ some 42 ∧ (bs ++ t).head? ≠ some 95 := by
    intro bs t hne hq
    cases bs with
    | nil => exact absurd rfl hne
    | cons x xs =>
      exact ⟨by simp, by simpa using quiet_head8 _ _ hq, by simpa using quiet_headC 42 rfl _ _ hq,
        by simpa using quiet_headC 95 rfl _ _ hq⟩
  cases h with
  | last bs l0 c hl hs hb hq =>
    rw [flineSrc_single21]
    have := key bs [] (by subst hl; simp) hq
    simpa using this
  | cons bs a rest _ hbs _ _ _ => rw [flineSrc_cons21]; exact key bs _ hbs.1 hbs.2.1

theorem ft_concat21 {as : List FAtom} (h : FT21 as) :
    ∃ l0 c, flineSrc as = l0 ++ [c] ∧ isSpace c = false ∧ c ≠ 92 := by
  induction h with
  | last bs l0 c hl hs hb hq => exact ⟨l0, c, by rw [flineSrc_single21, hl], hs, hb⟩
  | cons bs a rest _ _ _ _ _ ih =>
    obtain ⟨l0, c, hl, hs, hb⟩ := ih
    exact ⟨bs ++ (fatomSrc a ++ l0), c, by rw [flineSrc_cons21, hl]; simp, hs, hb⟩

theorem atoms21 (C : Ctx21) (hTag : TagCtx21 C) (tl : Bytes) (soft hard : Bool) (F : Nat)
    (K : List Inl.Node → Nat → Except Panic St)
    (hendtl : ∀ l0 c, isSpace c = false → c ≠ 92 → CutOK13 (l0 ++ [c] ++ tl))
    (hfin : ∀ (q : Nat) (bs l0 : Bytes) (c : UInt8) (ks : List Inl.Node) (nid : Nat), bs = l0 ++ [c] →
      isSpace c = false → c ≠ 92 → quiet bs 0 false = true → At16 C.src C.L q C.e (bs ++ tl) →
      lineLoop C.env F false (C.st q ks nid) =
        K (ks ++ [.text { start := q, stop := (q : Int) + bs.length } soft hard false]) nid) :
    ∀ (as : List FAtom), FT21 as → ∀ (q : Nat) (ks : List Inl.Node) (nid : Nat),
      At16 C.src C.L q C.e (flineSrc as ++ tl) → NoMergeAt13 ks q → NoLab21 ks → C.hd ≤ q →
      ∃ (sg : List Seg21) (sgl : Segment) (nid' : Nat), (∀ s ∈ sg, SegOK21 s) ∧ sgl.stop + tl.length = C.e ∧
        finS21 sg ++ [.text sgl soft hard false] = atomKids21 soft hard q as ∧ NoLab21 (rawS21 sg) ∧
        lineLoop C.env (F + pre21 as) false (C.st q ks nid) =
          K (ks ++ (rawS21 sg ++ [.text sgl soft hard false])) nid' := by
  intro as h
  induction h with
  | last bs l0 c hl hs hb hq =>
    intro q ks nid hat hnm hks hq0
    rw [flineSrc_single21] at hat
    refine ⟨[], { start := q, stop := (q : Int) + bs.length }, nid, by simp, ?_, by simp [finS21, atomKids21],
      by intro n hn; simp [rawS21] at hn, ?_⟩
    · obtain ⟨_, _, h3, _⟩ := at_parts21 hat
      simp only [] at h3 ⊢
      rw [h3]; simp; omega
    · have := hfin q bs l0 c ks nid hl hs hb hq hat
      simpa [pre21, rawS21] using this
  | cons bs a rest hnt hbs hok hnb hrt ih =>
    intro q ks nid hat hnm hks hq0
    obtain ⟨hrne, hr96, hr42, hr95⟩ := ft_head21 hrt
    obtain ⟨l0, c, hl0, hs, hb⟩ := ft_concat21 hrt
    have hline : flineSrc (.txt bs :: a :: rest) ++ tl = bs ++ (fatomSrc a ++ (flineSrc rest ++ tl)) := by
      rw [flineSrc_cons21]; simp
    rw [hline] at hat
    have hend : CutOK13 (flineSrc rest ++ tl) := by rw [hl0]; exact hendtl l0 c hs hb
    have hhead : (flineSrc rest ++ tl).head? = (flineSrc rest).head? := by
      cases hx : flineSrc rest with
      | nil => exact absurd hx hrne
      | cons x xs => rfl
    have hrestOK : RestOK21 a (flineSrc rest ++ tl) := by
      refine ⟨by simp [hrne], ?_, ?_, ?_, ?_⟩
      · rw [hhead]; exact hr96
      · rw [hhead]; exact hr42
      · rw [hhead]; exact hr95
      · intro hu c hc; rw [hhead] at hc; exact hnb hu c hc
    obtain ⟨sg1, nid1, hok1, hlab1, hnm1, hfin1, hrun1⟩ := step21 C bs a hnt hbs hok (fun _ => hTag) q
      (flineSrc rest ++ tl) ks nid (F + pre21 rest) hat hend hrestOK hnm hks hq0
    have hat' : At16 C.src C.L (q + bs.length + (fatomSrc a).length) C.e (flineSrc rest ++ tl) :=
      (hat.drop bs _).drop (fatomSrc a) _
    obtain ⟨sg2, sgl, nid2, hok2, hstop, hfin2, hlab2, hrun2⟩ := ih (q + bs.length + (fatomSrc a).length)
      (ks ++ rawS21 sg1) nid1 hat' (noMergeAt_of8_13 hnm1 _)
      (by intro n hn; simp only [List.mem_append] at hn; rcases hn with hn | hn
          · exact hks n hn
          · exact hlab1 n hn)
      (by omega)
    refine ⟨sg1 ++ sg2, sgl, nid2, ?_, hstop, ?_, ?_, ?_⟩
    · intro s hs'
      simp only [List.mem_append] at hs'
      rcases hs' with h' | h'
      · exact hok1 s h'
      · exact hok2 s h'
    · rw [finS_append21, List.append_assoc, hfin2, hfin1]
      simp [atomKids21]
    · intro n hn
      rw [rawS_append21] at hn
      simp only [List.mem_append] at hn
      rcases hn with hn | hn
      · exact hlab1 n hn
      · exact hlab2 n hn
    · have e0 : F + pre21 (.txt bs :: a :: rest) = F + pre21 rest + cost21 a := by simp only [pre21]; omega
      rw [e0, hrun1, hrun2, rawS_append21]
      simp [List.append_assoc]

def richKids21 : List Nat → List FLine21 → List Inl.Node
  | [p], [x] => atomKids21 false false p x.atoms
  | p :: ps, x :: ls => atomKids21 (!x.hard) x.hard p x.atoms ++ richKids21 ps ls
  | _, _ => []

def need21 : List FLine21 → Nat
  | [] => 1
  | x :: rest => pre21 x.atoms + 1 + need21 rest

theorem at_of_parts21 {src : Bytes} {L : Int} {q : Nat} {e : Int} {line : Bytes}
    (h1 : sub src q (q + line.length) = line) (h2 : q + line.length ≤ src.length)
    (h3 : e = (q : Int) + line.length) (h4 : e ≤ L) : At16 src L q e line :=
  ⟨h1, h2, by rw [h3]; push_cast; rfl, h4⟩

/-- one line that is not the last of its paragraph: the atoms, then the text in front of the line ending, a soft or a
    hard break; the reader moves on to the next segment `nx` -/
theorem line21 (C : Ctx21) (hTag : TagCtx21 C) (x : FLine21) (hrt : FT21 x.atoms) (p : Nat) (hhd : C.hd ≤ (p : Int))
    (hat : At16 C.src C.L p C.e (flineSrc21 x ++ [10])) (nx : Segment) (hnext : C.segs[C.j + 1]? = some nx)
    (ks : List Inl.Node) (nid F : Nat) (hnm : NoMergeAt13 ks p) (hks : NoLab21 ks) :
    ∃ (sg : List Seg21) (sgl : Segment) (nid1 : Nat), (∀ s ∈ sg, SegOK21 s) ∧ sgl.stop < C.e ∧
      finS21 sg ++ [.text sgl (!x.hard) x.hard false] = atomKids21 (!x.hard) x.hard p x.atoms ∧ NoLab21 (rawS21 sg) ∧
      lineLoop C.env (F + 1 + pre21 x.atoms) false (C.st p ks nid) =
        lineLoop C.env F false (St.mk (rdAt C.src C.segs C.L (C.j + 1) nx nx.start)
          (ks ++ (rawS21 sg ++ [.text sgl (!x.hard) x.hard false])) nid1 C.bts) := by
  cases hx : x.hard
  · have hsrc : flineSrc21 x = flineSrc x.atoms := by simp [flineSrc21, hx]
    rw [hsrc] at hat
    obtain ⟨sg, sgl, nid1, hok, hsg, hfin, hlab, hrun⟩ := atoms21 C hTag [10] true false (F + 1)
      (fun kids n => lineLoop C.env F false (St.mk (rdAt C.src C.segs C.L (C.j + 1) nx nx.start) kids n C.bts))
      (fun l0 c hs hb => cutOK_of_end13 (endOK_lf11 l0 c hs hb))
      (by
        intro q bs l0 c ks nid hl hs hb hq hat
        obtain ⟨h1, h2, h3, h4⟩ := at_parts21 hat
        simp only [List.length_append, List.length_cons, List.length_nil] at h1 h2 h3
        have he : C.e = (q : Int) + bs.length + 1 := by rw [h3]; push_cast; omega
        simp only [Ctx21.st, he]
        exact line_step8 C.env C.henv C.src C.segs C.L C.hd C.j q bs l0 c nx ks nid C.bts F hl hs hb hq
          (by simpa [Nat.add_assoc] using h1) (by omega) (by omega) hnext)
      x.atoms hrt p ks nid hat hnm hks hhd
    refine ⟨sg, sgl, nid1, hok, ?_, hfin, hlab, hrun⟩
    simp only [List.length_cons, List.length_nil] at hsg
    omega
  · have hsrc : flineSrc21 x ++ [10] = flineSrc x.atoms ++ [92, 10] := by simp [flineSrc21, hx]
    rw [hsrc] at hat
    obtain ⟨sg, sgl, nid1, hok, hsg, hfin, hlab, hrun⟩ := atoms21 C hTag [92, 10] false true (F + 1)
      (fun kids n => lineLoop C.env F false (St.mk (rdAt C.src C.segs C.L (C.j + 1) nx nx.start) kids n C.bts))
      (fun l0 c _ hb => cutOK_bs13 l0 c hb)
      (by
        intro q bs l0 c ks nid hl hs hb hq hat
        obtain ⟨h1, h2, h3, h4⟩ := at_parts21 hat
        simp only [List.length_append, List.length_cons, List.length_nil] at h1 h2 h3
        have he : C.e = (q : Int) + (bs.length + 1 : Nat) + 1 := by rw [h3]; push_cast; omega
        simp only [Ctx21.st, he]
        exact hard_step13 C.env C.henv C.src C.segs C.L C.hd C.j q (bs.length + 1) bs l0 c nx ks nid C.bts F hl hb hq rfl
          (by simpa [Nat.add_assoc] using h1) (by omega) (by omega) hnext)
      x.atoms hrt p ks nid hat hnm hks hhd
    refine ⟨sg, sgl, nid1, hok, ?_, hfin, hlab, hrun⟩
    simp only [List.length_cons, List.length_nil] at hsg
    omega

/-- the last line of a paragraph: the atoms, then the text up to the end of the block -/
theorem lastLine21 (C : Ctx21) (hTag : TagCtx21 C) (as : List FAtom) (hrt : FT21 as) (p : Nat) (hhd : C.hd ≤ (p : Int))
    (hat : At16 C.src C.L p C.e (flineSrc as)) (heL : C.e = C.L) (hjl : C.j + 1 = C.segs.length)
    (ks : List Inl.Node) (nid F : Nat) (hnm : NoMergeAt13 ks p) (hks : NoLab21 ks) :
    ∃ (sg : List Seg21) (sgl : Segment) (nid1 : Nat), (∀ s ∈ sg, SegOK21 s) ∧
      finS21 sg ++ [.text sgl false false false] = atomKids21 false false p as ∧
      lineLoop C.env (F + 2 + pre21 as) false (C.st p ks nid) =
        .ok (St.mk (rdAt C.src C.segs C.L (C.j + 1) { start := C.L, stop := C.L } C.L)
          (ks ++ (rawS21 sg ++ [.text sgl false false false])) nid1 C.bts) := by
  obtain ⟨sg, sgl, nid1, hok, _, hfin, _, hrun⟩ := atoms21 C hTag [] false false (F + 2)
    (fun kids n => .ok (St.mk (rdAt C.src C.segs C.L (C.j + 1) { start := C.L, stop := C.L } C.L) kids n C.bts))
    (by intro l0 c hs hb; exact cutOK_of_end13 (by simpa using endOK_nolf11 l0 c hs))
    (by
      intro q bs l0 c ks nid hl hs hb hq hat
      obtain ⟨h1, h2, h3, _⟩ := at_parts21 hat
      simp only [List.append_nil] at h1 h2 h3
      have he : C.L = (q : Int) + bs.length := by rw [← heL, h3]
      simp only [Ctx21.st, heL, he]
      exact last_step8 C.env C.henv C.src C.segs C.hd C.j q bs l0 c ks nid C.bts F hl hs hb hq h1 h2 hjl)
    as hrt p ks nid (by simpa using hat) hnm hks hhd
  exact ⟨sg, sgl, nid1, hok, hfin, hrun⟩

theorem loop21 (env : Env) (henv : env.escapedSpace = false) (src : Bytes) (segs : List Segment) (L : Int)
    (bts : List Bottom) (s0 : Segment) (h0 : segs[0]? = some s0)
    (W : WFSegs src segs) (Z : ∀ s ∈ segs, s.padding = 0) (hLs : L = BCur.lastStop segs) :
    ∀ (ls : List FLine21) (ps : List Nat) (done : List Segment) (ks : List Inl.Node) (f nid : Nat), ls ≠ [] →
      (∀ x ∈ ls, FT21 x.atoms) → (∀ x, ls.getLast? = some x → x.hard = false) →
      LinesAtG src ps (ls.map flineSrc21) → segs = done ++ paraSegsG ps (ls.map flineSrc21) →
      L = (paraEndG ps (ls.map flineSrc21) : Nat) → (∀ p, ps.head? = some p → NoMergeAt13 ks p) → NoLab21 ks →
      ∃ (sg : List Seg21) (rd' : BlockReader) (nid' : Nat), (∀ s ∈ sg, SegOK21 s) ∧ finS21 sg = richKids21 ps ls ∧
        lineLoop env (f + need21 ls) false
        { rd := rdAt src segs L done.length ((paraSegsG ps (ls.map flineSrc21)).headD default)
            ((paraSegsG ps (ls.map flineSrc21)).headD default).start, kids := ks, nextId := nid, bottoms := bts } =
        .ok { rd := rd', kids := ks ++ rawS21 sg, nextId := nid', bottoms := bts }
  | [], _, _, _, _, _, h, _, _, _, _, _, _, _ => absurd rfl h
  | [x], [p], done, ks, f, nid, _, hg, hlast, hla, hsegs, hL, hnm, hks => by
    have hx : x.hard = false := hlast x rfl
    have hsrc : flineSrc21 x = flineSrc x.atoms := by simp [flineSrc21, hx]
    simp only [List.map_cons, List.map_nil, hsrc] at hla hsegs hL ⊢
    obtain ⟨hsub, hlen⟩ := hla
    have hL' : L = (p : Int) + (flineSrc x.atoms).length := by simp [hL, paraEndG]
    have hjl : done.length + 1 = segs.length := by simp [hsegs, paraSegsG]
    have hs0 : ((done.length : Nat) : Int) = 0 → s0.start ≤ (p : Int) := by
      intro hz
      have hd0 : done = [] := List.eq_nil_of_length_eq_zero (by omega)
      subst hd0
      rw [hsegs] at h0
      simp [paraSegsG] at h0
      rw [← h0]; simp
    have hseg : segs[done.length]? = some { start := (p : Int), stop := L } := by
      rw [hsegs, List.getElem?_append_right (Nat.le_refl _)]
      simp [paraSegsG, hL']
    obtain ⟨sg, sgl, nid', hok, hfin, hrun⟩ := lastLine21
      ⟨env, henv, src, segs, L, done.length, p, L, s0, h0, hs0, by omega, bts⟩ ⟨W, Z, hLs, hseg⟩ x.atoms (hg x (by simp)) p
      (Int.le_refl _)
      (at_of_parts21 (by simpa using hsub) (by simpa using hlen) (by simpa using hL') (Int.le_refl _)) rfl hjl
      ks nid f (hnm p rfl) hks
    simp only [Ctx21.st] at hrun
    refine ⟨sg ++ [.plain (.text sgl false false false)], rdAt src segs L (done.length + 1) { start := L, stop := L } L,
      nid', ?_, ?_, ?_⟩
    · intro s hs
      simp only [List.mem_append, List.mem_cons, List.not_mem_nil, or_false] at hs
      rcases hs with hs | rfl
      · exact hok s hs
      · exact plainOK_text21 _ _ _ _
    · rw [finS_append21]
      simpa [richKids21, finS21, Seg21.fin] using hfin
    · have e1 : (paraSegsG [p] [flineSrc x.atoms]).headD default = { start := (p : Int), stop := L } := by
        rw [hL']; rfl
      rw [e1]
      have e2 : f + need21 [x] = f + 2 + pre21 x.atoms := by simp [need21]; omega
      rw [e2, rawS_append21]
      simpa [rawS21, Seg21.raw] using hrun
  | x :: y :: rest, p :: p' :: ps, done, ks, f, nid, _, hg, hlast, hla, hsegs, hL, hnm, hks => by
    have hrt := hg x (by simp)
    simp only [List.map_cons] at hla hsegs hL ⊢
    have hbd := paraEndG_boundsG (rest.map flineSrc21) ps p' (flineSrc21 y) hla.2.2
    obtain ⟨hsub, hpp, hla'⟩ := hla
    have hL2 : L = (paraEndG (p' :: ps) (flineSrc21 y :: rest.map flineSrc21) : Nat) := by rw [hL]; rfl
    have hpL : (p : Int) + (flineSrc21 x).length + 1 ≤ L := by omega
    have hlen : p + (flineSrc21 x).length + 1 ≤ src.length := by omega
    have hsegs' : segs = (done ++ [{ start := (p : Int), stop := (p : Int) + (flineSrc21 x).length + 1 }]) ++
        paraSegsG (p' :: ps) (flineSrc21 y :: rest.map flineSrc21) := by
      rw [hsegs]; simp [paraSegsG]
    have hnext : segs[done.length + 1]? =
        some ((paraSegsG (p' :: ps) (flineSrc21 y :: rest.map flineSrc21)).headD default) := by
      rw [hsegs']
      rw [List.getElem?_append_right (by simp)]
      simp only [List.length_append, List.length_cons, List.length_nil, Nat.zero_add, Nat.sub_self]
      cases rest <;> cases ps <;> rfl
    have hjlt : done.length + 1 < segs.length := (List.getElem?_eq_some_iff.mp hnext).1
    have hs0 : ((done.length : Nat) : Int) = 0 → s0.start ≤ (p : Int) := by
      intro hz
      have hd0 : done = [] := List.eq_nil_of_length_eq_zero (by omega)
      subst hd0
      rw [hsegs] at h0
      simp [paraSegsG] at h0
      rw [← h0]; simp
    have hseg : segs[done.length]? = some { start := (p : Int), stop := (p : Int) + (flineSrc21 x).length + 1 } := by
      rw [hsegs, List.getElem?_append_right (Nat.le_refl _)]
      simp [paraSegsG]
    obtain ⟨sg1, sgl, nid1, hok1, hsg, hfin1, hlab1, hrun1⟩ := line21
      ⟨env, henv, src, segs, L, done.length, p, (p : Int) + (flineSrc21 x).length + 1, s0, h0, hs0, by omega, bts⟩
      ⟨W, Z, hLs, hseg⟩ x hrt p (Int.le_refl _)
      (at_of_parts21 (by simpa [Nat.add_assoc] using hsub) (by simp; omega) (by simp; omega) hpL)
      _ hnext ks nid (f + need21 (y :: rest)) (hnm p rfl) hks
    simp only [Ctx21.st] at hsg hrun1
    have hsg : sgl.stop < (p' : Int) := by omega
    obtain ⟨sg2, rd', nid', hok2, hfin2, ih⟩ := loop21 env henv src segs L bts s0 h0 W Z hLs (y :: rest) (p' :: ps)
      (done ++ [{ start := (p : Int), stop := (p : Int) + (flineSrc21 x).length + 1 }])
      (ks ++ (rawS21 sg1 ++ [.text sgl (!x.hard) x.hard false])) f nid1 (by simp)
      (fun z hz => hg z (by simp at hz ⊢; right; exact hz)) (fun z hz => hlast z (by simpa using hz)) hla' hsegs' hL2
      (by
        intro q hq
        simp at hq; subst hq
        rw [← List.append_assoc]
        exact noMergeAt_text13 _ _ _ _ _ _ hsg)
      (by
        intro n hn
        simp only [List.mem_append, List.mem_cons, List.not_mem_nil, or_false] at hn
        rcases hn with hn | hn | rfl
        · exact hks n hn
        · exact hlab1 n hn
        · rfl)
    refine ⟨sg1 ++ [.plain (.text sgl (!x.hard) x.hard false)] ++ sg2, rd', nid', ?_, ?_, ?_⟩
    · intro s hs
      simp only [List.mem_append, List.mem_cons, List.not_mem_nil, or_false] at hs
      rcases hs with (hs | rfl) | hs
      · exact hok1 s hs
      · exact plainOK_text21 _ _ _ _
      · exact hok2 s hs
    · rw [finS_append21, finS_append21, hfin2]
      have : finS21 [Seg21.plain (.text sgl (!x.hard) x.hard false)] = [.text sgl (!x.hard) x.hard false] := by
        simp [finS21, Seg21.fin]
      rw [this, hfin1]; rfl
    · have e1 : (paraSegsG (p :: p' :: ps) (flineSrc21 x :: flineSrc21 y :: rest.map flineSrc21)).headD default =
          { start := (p : Int), stop := (p : Int) + (flineSrc21 x).length + 1 } := rfl
      have e0 : f + need21 (x :: y :: rest) = f + need21 (y :: rest) + 1 + pre21 x.atoms := by
        simp only [need21]; omega
      rw [e1, e0]
      show lineLoop env _ false
        { rd := rdAt src segs L done.length { start := (p : Int), stop := (p : Int) + (flineSrc21 x).length + 1 } p,
          kids := ks, nextId := nid, bottoms := bts } = _
      rw [hrun1]
      have e2 : ((done ++ [({ start := (p : Int), stop := (p : Int) + (flineSrc21 x).length + 1 } : Segment)]).length : Int) =
          (done.length : Int) + 1 := by
        simp
      simp only [List.map_cons] at ih
      rw [e2] at ih
      rw [ih, rawS_append21, rawS_append21]
      simp [rawS21, Seg21.raw, List.append_assoc]
  | [_], [], _, _, _, _, _, _, _, h, _, _, _, _ => h.elim
  | [_], _ :: _ :: _, _, _, _, _, _, _, _, h, _, _, _, _ => h.elim
  | _ :: _ :: _, [], _, _, _, _, _, _, _, h, _, _, _, _ => h.elim
  | _ :: _ :: _, [_], _, _, _, _, _, _, _, h, _, _, _, _ => h.elim

theorem isTxt_txt21 (a : FAtom) (h : a.isTxt = true) : ∃ bs, a = .txt bs := by
  cases a <;> simp [FAtom.isTxt] at h
  exact ⟨_, rfl⟩

theorem ft_of_rich_aux21 : ∀ (n : Nat) (as : List FAtom), as.length ≤ n → falternating as = true →
    (∃ bs rest, as = .txt bs :: rest) →
    (∃ bs, as.getLast? = some (.txt bs) ∧ ∀ c, bs.getLast? = some c → isSpace c = false ∧ c ≠ 92) →
    (∀ a ∈ as, FAtomOK a) →
    (∀ init a x b rest, as = init ++ [.txt a, x, .txt b] ++ rest → x.isUnder = true →
      (∀ c, a.getLast? = some c → unNbOK c = true) ∧ (∀ c, b.head? = some c → unNbOK c = true)) →
    FT21 as
  | _, [], _, _, hf, _, _, _ => by obtain ⟨_, _, h⟩ := hf; simp at h
  | _, [a], _, _, hf, hl, hok, _ => by
    obtain ⟨bs, r, he⟩ := hf
    cases he
    obtain ⟨bs', hb', hc⟩ := hl
    simp at hb'; subst hb'
    obtain ⟨hne, hq, _⟩ := hok (.txt bs) (by simp)
    rcases List.eq_nil_or_concat bs with h0 | ⟨l0, c, hl⟩
    · exact absurd h0 hne
    · have hl' : bs = l0 ++ [c] := by simpa using hl
      have := hc c (by simp [hl'])
      exact .last bs l0 c hl' this.1 this.2 (hq 0)
  | _, [a, b], _, ha, hf, hl, _, _ => by
    obtain ⟨bs, r, he⟩ := hf
    cases he
    obtain ⟨x, hx, _⟩ := hl
    simp at hx; subst hx
    simp [falternating, FAtom.isTxt] at ha
  | n + 1, a :: b :: c :: rest, hn, ha, hf, hl, hok, hnb => by
    obtain ⟨bs, r, he⟩ := hf
    cases he
    simp only [falternating, Bool.and_eq_true] at ha
    obtain ⟨h1, h2, h3⟩ := ha
    have hbt : b.isTxt = false := by simpa [FAtom.isTxt] using h1
    have hct : c.isTxt = true := by rw [hbt] at h2; simpa using h2
    obtain ⟨b', rfl⟩ := isTxt_txt21 c hct
    obtain ⟨hne, hq, hesc⟩ := hok (.txt bs) (by simp)
    obtain ⟨hb'ne, _, _⟩ := hok (.txt b') (by simp)
    have hrec := ft_of_rich_aux21 n (.txt b' :: rest) (by simp at hn ⊢; omega) h3 ⟨b', rest, rfl⟩
      (by obtain ⟨x, hx, hc⟩ := hl; exact ⟨x, by simpa [List.getLast?_cons_cons] using hx, hc⟩)
      (fun a h => hok a (by simp at h ⊢; right; right; exact h))
      (fun init a x b0 rest' h hx => hnb (.txt bs :: b :: init) a x b0 rest' (by rw [h]; simp) hx)
    refine FT21.cons bs b _ hbt ⟨hne, hq 0, hesc, fun hu => (hnb [] bs b b' rest (by simp) hu).1⟩ (hok b (by simp)) ?_ hrec
    intro hu ch hc
    apply (hnb [] bs b b' rest (by simp) hu).2 ch
    cases b' with
    | nil => exact absurd rfl hb'ne
    | cons y ys => simpa [flineSrc, fatomSrc] using hc

theorem ft_of_rich21 {as : List FAtom} (h : FRichLine as) : FT21 as := by
  refine ft_of_rich_aux21 as.length as (Nat.le_refl _) h.alt
    (by obtain ⟨bs, rest, he, _⟩ := h.first; exact ⟨bs, rest, he⟩) ?_ h.ok h.nb
  obtain ⟨init, bs, he, hc⟩ := h.last
  exact ⟨bs, by rw [he]; simp, hc⟩

theorem flineSrc21_ne21 (x : FLine21) (h : FT21 x.atoms) : flineSrc21 x ≠ [] := by
  have := (ft_head21 h).1
  unfold flineSrc21
  simp [this]

theorem wfFrom_linesG21 (src : Bytes) : ∀ (ls : List Bytes) (ps : List Nat) (lo : Int),
    (∀ p, ps.head? = some p → lo ≤ p) → (∀ l ∈ ls, l ≠ []) → LinesAtG src ps ls →
    WFSegsFrom src lo (paraSegsG ps ls)
  | [], [], _, _, _, _ => trivial
  | [l], [p], lo, hlo, hne, h => by
    obtain ⟨_, hlen⟩ := h
    have : 0 < l.length := List.length_pos_iff.mpr (hne l (by simp))
    refine ⟨hlo p rfl, ?_, ?_, Int.le_refl _, rfl, trivial⟩
    · show (p : Int) < (p : Int) + l.length; omega
    · show (p : Int) + l.length ≤ src.length; omega
  | l :: l' :: rest, p :: p' :: ps, lo, hlo, hne, h => by
    have hbd := paraEndG_boundsG rest ps p' l' h.2.2
    obtain ⟨_, hpp, h'⟩ := h
    refine ⟨hlo p rfl, ?_, ?_, Int.le_refl _, rfl, ?_⟩
    · show (p : Int) < (p : Int) + l.length + 1; omega
    · show (p : Int) + l.length + 1 ≤ src.length; omega
    · exact wfFrom_linesG21 src (l' :: rest) (p' :: ps) _
        (by intro q hq; simp at hq; subst hq; show (p : Int) + l.length + 1 ≤ _; omega)
        (fun x hx => hne x (by simp at hx ⊢; right; exact hx)) h'
  | [], [_], _, _, _, h => h.elim
  | [], _ :: _ :: _, _, _, _, h => h.elim
  | [_], [], _, _, _, h => h.elim
  | [_], _ :: _ :: _, _, _, _, h => h.elim
  | _ :: _ :: _, [], _, _, _, h => h.elim
  | _ :: _ :: _, [_], _, _, _, h => h.elim

theorem pad_linesG21 : ∀ (ls : List Bytes) (ps : List Nat), ∀ s ∈ paraSegsG ps ls, s.padding = 0 := by
  intro ls ps s hs
  have := pad0_paraG ls ps
  simp only [GM.LinkRef.pad0B, List.all_eq_true] at this
  have h := this s hs
  simpa using h

theorem atom_len21 (a : FAtom) (h : a.isTxt = false) : cost21 a ≤ 1 + (fatomSrc a).length := by
  cases a <;> simp [FAtom.isTxt] at h <;> simp [cost21, fatomSrc] <;> omega

theorem pre_le21 {as : List FAtom} (h : FT21 as) : pre21 as + 1 ≤ (flineSrc as).length := by
  induction h with
  | last bs l0 c hl _ _ _ => rw [flineSrc_single21, hl]; simp [pre21]
  | cons bs a rest hnt hbs _ _ _ ih =>
    have := atom_len21 a hnt
    have hb : 0 < bs.length := List.length_pos_iff.mpr hbs.1
    rw [flineSrc_cons21]
    simp only [pre21, List.length_append]
    omega

theorem flineSrc21_len21 (x : FLine21) : (flineSrc x.atoms).length ≤ (flineSrc21 x).length := by
  unfold flineSrc21; simp

theorem need_le21 (src : Bytes) : ∀ (ls : List FLine21) (ps : List Nat) (p : Nat), (∀ x ∈ ls, FT21 x.atoms) →
    LinesAtG src (p :: ps) (ls.map flineSrc21) → p + need21 ls ≤ src.length + 1
  | [], _, _, _, h => by simp [LinesAtG] at h
  | [x], [], p, hg, hla => by
    have := pre_le21 (hg x (by simp))
    have := flineSrc21_len21 x
    obtain ⟨_, hlen⟩ := hla
    simp only [need21]; omega
  | x :: y :: rest, p' :: ps, p, hg, hla => by
    have := pre_le21 (hg x (by simp))
    have := flineSrc21_len21 x
    obtain ⟨_, hpp, hla'⟩ := hla
    have ih := need_le21 src (y :: rest) ps p' (fun z hz => hg z (by simp at hz ⊢; right; exact hz)) hla'
    simp only [need21] at ih ⊢; omega
  | [_], _ :: _, _, _, h => h.elim
  | _ :: _ :: _, [], _, _, h => h.elim

theorem parseBlock_f21 (env : GM.Inl.Env) (henv : env.escapedSpace = false) (src : Bytes) (ps : List Nat)
    (ls : List FLine21) (hne : ls ≠ []) (hok : FLinesOK ls) (h : LinesAtG src ps (ls.map flineSrc21)) :
    GM.Inl.parseBlock env src (paraSegsG ps (ls.map flineSrc21)) = .ok (richKids21 ps ls) := by
  have hrt : ∀ x ∈ ls, FT21 x.atoms := fun x hx => ft_of_rich21 (hok.1 x hx)
  have hne' : ls.map flineSrc21 ≠ [] := by simpa using hne
  obtain ⟨p, ps', rfl⟩ : ∃ p ps', ps = p :: ps' := by
    cases ps with
    | nil =>
      cases ls with
      | nil => exact absurd rfl hne
      | cons _ _ => exact h.elim
    | cons p ps' => exact ⟨p, ps', rfl⟩
  have hfuel : need21 ls ≤ blockFuel src (paraSegsG (p :: ps') (ls.map flineSrc21)) := by
    have := need_le21 src ls ps' p hrt h
    unfold blockFuel
    omega
  obtain ⟨f, hf⟩ : ∃ f, blockFuel src (paraSegsG (p :: ps') (ls.map flineSrc21)) = f + need21 ls :=
    ⟨_, (Nat.sub_add_cancel hfuel).symm⟩
  have hh0 := paraSegsG_headG (ls.map flineSrc21) (p :: ps') hne' h
  have hnel : ∀ l ∈ ls.map flineSrc21, l ≠ [] := by
    intro l hl
    obtain ⟨x, hx, rfl⟩ := List.mem_map.mp hl
    exact flineSrc21_ne21 x (hrt x hx)
  have W : WFSegs src (paraSegsG (p :: ps') (ls.map flineSrc21)) := by
    refine ⟨?_, wfFrom_linesG21 src _ _ 0 (by intro q _; omega) hnel h⟩
    intro he
    rw [he] at hh0
    simp at hh0
  have hLs : ((paraEndG (p :: ps') (ls.map flineSrc21) : Nat) : Int) =
      BCur.lastStop (paraSegsG (p :: ps') (ls.map flineSrc21)) := by
    obtain ⟨sl, h1, h2⟩ := paraSegsG_lastG (ls.map flineSrc21) (p :: ps') hne' h
    unfold BCur.lastStop
    rw [List.getLast?_eq_getElem?, h1]
    exact h2.symm
  obtain ⟨sg, rd', nid', hsok, hfin, h2⟩ := loop21 env henv src (paraSegsG (p :: ps') (ls.map flineSrc21))
    (paraEndG (p :: ps') (ls.map flineSrc21) : Nat) [] _ hh0 W (pad_linesG21 _ _) hLs ls (p :: ps') [] [] f 0 hne hrt
    hok.2 h rfl rfl (fun q _ => noMergeAt_of8_13 noMerge_nil8 q) (by intro n hn; simp at hn)
  unfold parseBlock
  simp only [bind, Except.bind, new_paraG (ls.map flineSrc21) (p :: ps') hne' h]
  have h' : lineLoop env (blockFuel src (paraSegsG (p :: ps') (ls.map flineSrc21))) false
      { rd := rdAt src (paraSegsG (p :: ps') (ls.map flineSrc21)) (paraEndG (p :: ps') (ls.map flineSrc21) : Nat) 0
          ((paraSegsG (p :: ps') (ls.map flineSrc21)).headD default)
          ((paraSegsG (p :: ps') (ls.map flineSrc21)).headD default).start } =
      .ok { rd := rd', kids := rawS21 sg, nextId := nid', bottoms := [] } := by
    rw [hf]
    simpa using h2
  rw [h']
  simp only [processDelimiters_rawS21 sg hsok, pure, Except.pure]
  rw [closeLabelsL_finS21 sg hsok, hfin]

theorem value_mid21 (src : Bytes) (P : Nat) (a b c : Bytes) (h : sub src P (P + (a ++ b ++ c).length) = a ++ b ++ c)
    (hlen : P + (a ++ b ++ c).length ≤ src.length) (x y : Int) (hx : x = (P : Int) + a.length)
    (hy : y = (P : Int) + a.length + b.length) :
    Segment.value { start := x, stop := y } src = .ok b := by
  have h1 := sub_mid8 src P a b c h
  have h2 : P + a.length + b.length ≤ src.length := by simp at hlen; omega
  exact value_at8 src (P + a.length) b h1 h2 x y (by rw [hx]; push_cast; rfl) (by rw [hy]; push_cast; rfl)

theorem tree_kid21 (src : Bytes) (P : Nat) (a : FAtom) (hnt : a.isTxt = false)
    (h : sub src P (P + (fatomSrc a).length) = fatomSrc a) (hlen : P + (fatomSrc a).length ≤ src.length) :
    GM.Convert.inlineTree src (atomKid21 (P : Int) a) = .ok (fatomNode a) := by
  cases a with
  | txt _ => simp [FAtom.isTxt] at hnt
  | code cs =>
    have hv := value_mid21 src P [96] cs [96] (by simpa [fatomSrc] using h) (by simpa [fatomSrc] using hlen)
      ((P : Int) + 1) ((P : Int) + 1 + cs.length) (by simp) (by simp)
    simp [atomKid21, fatomNode, GM.Convert.inlineTree, GM.Convert.inlineTrees, hv, bind, Except.bind, pure, Except.pure]
  | em cs =>
    have hv := value_mid21 src P [42] cs [42] (by simpa [fatomSrc] using h) (by simpa [fatomSrc] using hlen)
      ((P : Int) + 1) ((P : Int) + 1 + cs.length) (by simp) (by simp)
    simp [atomKid21, fatomNode, GM.Convert.inlineTree, GM.Convert.inlineTrees, hv, bind, Except.bind, pure, Except.pure]
  | strong cs =>
    have hv := value_mid21 src P [42, 42] cs [42, 42] (by simpa [fatomSrc] using h) (by simpa [fatomSrc] using hlen)
      ((P : Int) + 2) ((P : Int) + 2 + cs.length) (by simp) (by simp)
    simp [atomKid21, fatomNode, GM.Convert.inlineTree, GM.Convert.inlineTrees, hv, bind, Except.bind, pure, Except.pure]
  | uem cs =>
    have hv := value_mid21 src P [95] cs [95] (by simpa [fatomSrc] using h) (by simpa [fatomSrc] using hlen)
      ((P : Int) + 1) ((P : Int) + 1 + cs.length) (by simp) (by simp)
    simp [atomKid21, fatomNode, GM.Convert.inlineTree, GM.Convert.inlineTrees, hv, bind, Except.bind, pure, Except.pure]
  | ustrong cs =>
    have hv := value_mid21 src P [95, 95] cs [95, 95] (by simpa [fatomSrc] using h) (by simpa [fatomSrc] using hlen)
      ((P : Int) + 2) ((P : Int) + 2 + cs.length) (by simp) (by simp)
    simp [atomKid21, fatomNode, GM.Convert.inlineTree, GM.Convert.inlineTrees, hv, bind, Except.bind, pure, Except.pure]
  | link t d =>
    have hv := value_mid21 src P [91] t (93 :: 40 :: (d ++ [41])) (by simpa [fatomSrc] using h)
      (by simpa [fatomSrc] using hlen) ((P : Int) + 1) ((P : Int) + 1 + t.length) (by simp) (by simp)
    simp [atomKid21, fatomNode, GM.Convert.inlineTree, GM.Convert.inlineTrees, hv, bind, Except.bind, pure, Except.pure]
  | img t d =>
    have hv := value_mid21 src P [33, 91] t (93 :: 40 :: (d ++ [41])) (by simpa [fatomSrc] using h)
      (by simpa [fatomSrc] using hlen) ((P : Int) + 1 + 1) ((P : Int) + 1 + 1 + t.length) (by simp; omega) (by simp; omega)
    simp [atomKid21, fatomNode, GM.Convert.inlineTree, GM.Convert.inlineTrees, hv, bind, Except.bind, pure, Except.pure]
  | auto s r =>
    have hv := value_mid21 src P [60] (s ++ 58 :: r) [62] (by simpa [fatomSrc] using h)
      (by simpa [fatomSrc] using hlen) ((P : Int) + 1) ((P : Int) + 1 + s.length + 1 + r.length) (by simp)
      (by simp; omega)
    simp [atomKid21, fatomNode, GM.Convert.inlineTree, hv, bind, Except.bind, pure, Except.pure, autoUri18]
  | otag n =>
    have hv := value_mid21 src P [] (fatomSrc (.otag n)) [] (by simpa using h) (by simpa using hlen)
      (P : Int) ((P : Int) + ((fatomSrc (.otag n)).length : Nat)) (by simp) (by simp)
    simp only [atomKid21, fatomNode, GM.Convert.inlineTree, GM.Convert.segValues, hv, bind, Except.bind, pure, Except.pure]
  | ctag n =>
    have hv := value_mid21 src P [] (fatomSrc (.ctag n)) [] (by simpa using h) (by simpa using hlen)
      (P : Int) ((P : Int) + ((fatomSrc (.ctag n)).length : Nat)) (by simp) (by simp)
    simp only [atomKid21, fatomNode, GM.Convert.inlineTree, GM.Convert.segValues, hv, bind, Except.bind, pure, Except.pure]

theorem fatomNodes_cons21 (soft hard : Bool) (bs : Bytes) (a : FAtom) (rest : List FAtom) :
    fatomNodes soft hard (.txt bs :: a :: rest) =
      .mk (.text bs false false false false) none [] :: fatomNodes soft hard (a :: rest) := by
  simp [fatomNodes, fatomNode]

theorem fatomNodes_nt21 (soft hard : Bool) (a : FAtom) (rest : List FAtom) (h : a.isTxt = false) :
    fatomNodes soft hard (a :: rest) = fatomNode a :: fatomNodes soft hard rest := by
  cases a <;> simp [FAtom.isTxt] at h <;> simp [fatomNodes]

theorem atomTrees21 (src : Bytes) (soft hard : Bool) : ∀ (as : List FAtom), FT21 as → ∀ (q : Nat),
    sub src q (q + (flineSrc as).length) = flineSrc as → q + (flineSrc as).length ≤ src.length →
    GM.Convert.inlineTrees src (atomKids21 soft hard q as) = .ok (fatomNodes soft hard as) := by
  intro as h
  induction h with
  | last bs l0 c hl hs hb hq =>
    intro q h hlen
    rw [flineSrc_single21] at h hlen
    simp [atomKids21, fatomNodes, GM.Convert.inlineTrees, GM.Convert.inlineTree, bind, Except.bind, pure, Except.pure,
      value_at8 src q bs h hlen _ _ rfl rfl]
  | cons bs a rest hnt hbs hok hnb hrt ih =>
    intro q h hlen
    rw [flineSrc_cons21] at h hlen
    have hA : sub src q (q + ([] ++ bs ++ (fatomSrc a ++ flineSrc rest)).length) = [] ++ bs ++ (fatomSrc a ++ flineSrc rest) := by
      simpa using h
    have h1 := sub_mid8 src q [] bs (fatomSrc a ++ flineSrc rest) hA
    have hB : sub src q (q + (bs ++ fatomSrc a ++ flineSrc rest).length) = bs ++ fatomSrc a ++ flineSrc rest := by
      simpa [List.append_assoc] using h
    have h2 := sub_mid8 src q bs (fatomSrc a) (flineSrc rest) hB
    have hC : sub src q (q + ((bs ++ fatomSrc a) ++ flineSrc rest ++ []).length) = (bs ++ fatomSrc a) ++ flineSrc rest ++ [] := by
      simpa [List.append_assoc] using h
    have h3 := sub_mid8 src q (bs ++ fatomSrc a) (flineSrc rest) [] hC
    simp only [List.length_append, List.length_nil, Nat.add_zero] at h1 h2 h3 hlen
    have hk := tree_kid21 src (q + bs.length) a hnt h2 (by omega)
    rw [Int.natCast_add] at hk
    have ih' := ih (q + bs.length + (fatomSrc a).length) (by rw [← Nat.add_assoc] at h3; exact h3) (by omega)
    rw [fatomNodes_cons21, fatomNodes_nt21 _ _ _ _ hnt]
    simp only [atomKids21, GM.Convert.inlineTrees, GM.Convert.inlineTree, bind, Except.bind, pure, Except.pure,
      value_at8 src q bs h1 (by omega) _ _ rfl rfl, hk, ih']

theorem inlineTrees_f21 (src : Bytes) : ∀ (ps : List Nat) (ls : List FLine21), (∀ x ∈ ls, FT21 x.atoms) →
    (∀ x, ls.getLast? = some x → x.hard = false) → LinesAtG src ps (ls.map flineSrc21) →
    GM.Convert.inlineTrees src (richKids21 ps ls) = .ok (fNodes ls)
  | [], [], _, _, _ => by simp [richKids21, fNodes, GM.Convert.inlineTrees, pure, Except.pure]
  | [p], [x], hg, hlast, h => by
    have hx : x.hard = false := hlast x rfl
    have hsrc : flineSrc21 x = flineSrc x.atoms := by simp [flineSrc21, hx]
    simp only [List.map_cons, List.map_nil, hsrc] at h
    exact atomTrees21 src false false x.atoms (hg x (by simp)) p h.1 h.2
  | p :: p' :: ps, x :: y :: rest, hg, hlast, h => by
    simp only [List.map_cons] at h
    have hbd := paraEndG_boundsG (rest.map flineSrc21) ps p' (flineSrc21 y) h.2.2
    have ih := inlineTrees_f21 src (p' :: ps) (y :: rest) (fun z hz => hg z (by simp at hz ⊢; right; exact hz))
      (fun z hz => hlast z (by simpa using hz)) h.2.2
    have h1 := h.1
    have h2 := h.2.1
    have hsub : sub src p (p + (flineSrc x.atoms).length) = flineSrc x.atoms ∧
        p + (flineSrc x.atoms).length ≤ src.length := by
      cases hx : x.hard
      · have hsrc : flineSrc21 x = flineSrc x.atoms := by simp [flineSrc21, hx]
        rw [hsrc] at h1 h2
        exact ⟨sub_prefix src p _ _ 10 rfl h1, by omega⟩
      · have hsrc : flineSrc21 x = flineSrc x.atoms ++ [92] := by simp [flineSrc21, hx]
        rw [hsrc] at h1 h2
        simp only [List.length_append, List.length_cons, List.length_nil] at h1 h2
        have h3 : sub src p (p + ((flineSrc x.atoms).length + 1)) = flineSrc x.atoms ++ [92] :=
          sub_prefix src p ((flineSrc x.atoms).length + 1) (flineSrc x.atoms ++ [92]) 10 (by simp) h1
        exact ⟨sub_prefix src p _ _ 92 rfl h3, by omega⟩
    exact inlineTrees_append8 src _ _ _ _
      (atomTrees21 src (!x.hard) x.hard x.atoms (hg x (by simp)) p hsub.1 hsub.2) ih
  | [_], [], _, _, h => h.elim
  | _ :: _ :: _, [], _, _, h => h.elim
  | [], [_], _, _, h => h.elim
  | [], _ :: _ :: _, _, _, h => h.elim
  | [_], _ :: _ :: _, _, _, h => h.elim
  | _ :: _ :: _, [_], _, _, h => h.elim

/-- the inline facts of stage 21 in position-list form (`F21Restr` is not used) -/
theorem f21InlG_holds : F21InlG := by
  intro env henv ls hne hok _
  exact ⟨fun ps => richKids21 ps ls, fun src ps h => parseBlock_f21 env henv src ps ls hne hok h,
    fun src ps h => inlineTrees_f21 src ps ls (fun x hx => ft_of_rich21 (hok.1 x hx)) hok.2 h⟩

end GM.Proof.CMFrag
