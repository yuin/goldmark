import GM.Proof.QuoteSimEdit
import GM.Proof.QuoteSimRel
import GM.Proof.BlocksInv

/-
  part Inv — a unary invariant of the node store of ONE run (the original run A of the C08 simulation):
  `UStore nodes`: the store is not empty, node 0 (the Document) has no lines, no node is a List / ListItem, and
  node 0 is nobody's child. Three of the four clauses of `WellShaped` (GM.Proof.QuoteSimFinal); the fourth ("no stored
  segment is empty") is `segsNE_of_rel` (GM.Proof.QuoteSimTop). `UStoreL`: the same without the clause on kinds; it
  also holds when the list parsers run.

  Both are instances of `StoreInv P` for a condition `P` on the kind of a node and on 0 not being its child (`NodeCond P`);
  the store primitives and the tree operations keep `StoreInv P` under side conditions on the node ids (`… ≠ 0`).
  That the block parsers keep them is in section `InvP` below.
-/
section Inv
namespace GM.Blocks
open GM GM.Text

/-- the parsers that are not list parsers -/
def BP.notList : BP → Bool
  | .list => false
  | .listItem => false
  | _ => true

structure UNode (n : Node) : Prop where
  kind : n.kind ≠ .list ∧ n.kind ≠ .listItem
  kids : 0 ∉ n.children

structure UStore (nodes : List Node) : Prop where
  pos : 0 < nodes.length
  doc : (nodes.getD 0 default).lines = []
  node : ∀ n ∈ nodes, UNode n

def US : St → Prop := fun s => UStore s.nodes

structure UNodeL (n : Node) : Prop where
  kids : 0 ∉ n.children

structure UStoreL (nodes : List Node) : Prop where
  pos : 0 < nodes.length
  doc : (nodes.getD 0 default).lines = []
  node : ∀ n ∈ nodes, UNodeL n

def USL : St → Prop := fun s => UStoreL s.nodes

theorem UNode.toL {n : Node} (h : UNode n) : UNodeL n := ⟨h.kids⟩

theorem UStore.toL {nodes : List Node} (h : UStore nodes) : UStoreL nodes :=
  ⟨h.pos, h.doc, fun n hn => (h.node n hn).toL⟩

theorem ustore_of_L {nodes : List Node} (h : UStoreL nodes)
    (hk : ∀ n ∈ nodes, n.kind ≠ .list ∧ n.kind ≠ .listItem) : UStore nodes :=
  ⟨h.pos, h.doc, fun n hn => ⟨hk n hn, (h.node n hn).kids⟩⟩

/-- `P` is a condition on the kind of a node and on 0 not being its child -/
structure NodeCond (P : Node → Prop) : Prop where
  dflt : P default
  kids : ∀ n, P n → 0 ∉ n.children
  of : ∀ n m, P n → m.kind = n.kind → (∀ c ∈ m.children, c ∈ n.children ∨ c ≠ 0) → P m

/-- the store is not empty, the Document has no lines, every node has `P` -/
structure StoreInv (P : Node → Prop) (nodes : List Node) : Prop where
  pos : 0 < nodes.length
  doc : (nodes.getD 0 default).lines = []
  node : ∀ n ∈ nodes, P n

theorem unode_inv : NodeCond UNode where
  dflt := ⟨⟨by decide, by decide⟩, by intro h; cases h⟩
  kids := fun _ h => h.kids
  of := fun _ _ h hk hc => ⟨hk ▸ h.kind, fun h0 => (hc 0 h0).elim h.kids (fun e => e rfl)⟩

theorem unodeL_inv : NodeCond UNodeL where
  dflt := ⟨by intro h; cases h⟩
  kids := fun _ h => h.kids
  of := fun _ _ h _ hc => ⟨fun h0 => (hc 0 h0).elim h.kids (fun e => e rfl)⟩

theorem ustore_iff (nodes : List Node) : UStore nodes ↔ StoreInv UNode nodes :=
  ⟨fun h => ⟨h.pos, h.doc, h.node⟩, fun h => ⟨h.pos, h.doc, h.node⟩⟩

theorem ustoreL_iff (nodes : List Node) : UStoreL nodes ↔ StoreInv UNodeL nodes :=
  ⟨fun h => ⟨h.pos, h.doc, h.node⟩, fun h => ⟨h.pos, h.doc, h.node⟩⟩

theorem us_of {α} {m : M α} (h : Keeps (fun s => StoreInv UNode s.nodes) m) : Keeps US m :=
  fun s a s' hs e => (ustore_iff _).mpr (h s a s' ((ustore_iff _).mp hs) e)

theorem usL_of {α} {m : M α} (h : Keeps (fun s => StoreInv UNodeL s.nodes) m) : Keeps USL m :=
  fun s a s' hs e => (ustoreL_iff _).mpr (h s a s' ((ustoreL_iff _).mp hs) e)

section sinv
variable {P : Node → Prop} (hP : NodeCond P)
include hP

theorem StoreInv.getD {nodes : List Node} (h : StoreInv P nodes) (i : Nat) : P (nodes.getD i default) := by
  by_cases hi : i < nodes.length
  · exact h.node _ (node_getD_mem hi)
  · rw [node_getD_ge _ i (Nat.le_of_not_lt hi)]; exact hP.dflt

theorem sinv_modNode (id : Nat) (f : Node → Node) (hf : ∀ n, P n → P (f n))
    (h0 : id = 0 → ∀ n, (f n).lines = n.lines) : Keeps (fun s => StoreInv P s.nodes) (modNode id f) := by
  intro s a s' hs h
  cases h
  refine ⟨by rw [List.length_set]; exact hs.pos, ?_, fun n hn => ?_⟩
  · show ((s.nodes.set id _).getD 0 default).lines = []
    rw [node_getD_set]
    split
    · rename_i e; rw [h0 e.1, e.1]; exact hs.doc
    · exact hs.doc
  · rcases List.mem_or_eq_of_mem_set hn with h | h
    · exact hs.node n h
    · rw [h]; exact hf _ (hs.getD hP id)

omit hP in
theorem sinv_newNode (n : Node) (hn : P n) : Keeps (fun s => StoreInv P s.nodes) (newNode n) := by
  intro s a s' hs h
  cases h
  refine ⟨by rw [List.length_append]; exact Nat.lt_of_lt_of_le hs.pos (Nat.le_add_right _ _), ?_, fun m hm => ?_⟩
  · show ((s.nodes ++ [n]).getD 0 default).lines = []
    rw [getD_append_node, if_pos hs.pos]; exact hs.doc
  · rcases List.mem_append.mp hm with h | h
    · exact hs.node m h
    · rw [List.mem_singleton.mp h]; exact hn

theorem sinv_relink (id : Nat) (f : Node → Node) (hk : ∀ n, (f n).kind = n.kind) (hl : ∀ n, (f n).lines = n.lines)
    (hc : ∀ n c, c ∈ (f n).children → c ∈ n.children ∨ c ≠ 0) : Keeps (fun s => StoreInv P s.nodes) (modNode id f) :=
  sinv_modNode hP id f (fun n hn => hP.of n _ hn (hk n) (hc n)) (fun _ => hl)

theorem sinv_removeChild (p c : Nat) : Keeps (fun s => StoreInv P s.nodes) (removeChild p c) := by
  unfold removeChild
  refine Keeps.bind (getNode_keeps _) (fun cn => Keeps.ite (fun _ => Keeps.pure _) (fun _ => ?_))
  exact Keeps.bind (sinv_relink hP p _ (fun _ => rfl) (fun _ => rfl) (fun _ _ h => .inl (List.mem_of_mem_erase h)))
    (fun _ => sinv_relink hP c _ (fun _ => rfl) (fun _ => rfl) (fun _ _ h => .inl h))

theorem sinv_ensureIsolated (c : Nat) : Keeps (fun s => StoreInv P s.nodes) (ensureIsolated c) := by
  unfold ensureIsolated
  refine Keeps.bind (getNode_keeps _) (fun cn => ?_)
  split
  · exact sinv_removeChild hP _ c
  · exact Keeps.pure _

theorem sinv_appendChild (p c : Nat) (hc : c ≠ 0) : Keeps (fun s => StoreInv P s.nodes) (appendChild p c) := by
  unfold appendChild
  refine Keeps.bind (sinv_ensureIsolated hP c) (fun _ => Keeps.bind
    (sinv_relink hP p _ (fun _ => rfl) (fun _ => rfl) (fun _ x h => ?_))
    (fun _ => sinv_relink hP c _ (fun _ => rfl) (fun _ => rfl) (fun _ _ h => .inl h)))
  rcases List.mem_append.mp h with h | h
  · exact .inl h
  · rw [List.mem_singleton.mp h]; exact .inr hc

theorem sinv_insertBefore (p : Nat) (v1 : Option Nat) (ins : Nat) (hi : ins ≠ 0) :
    Keeps (fun s => StoreInv P s.nodes) (insertBefore p v1 ins) := by
  unfold insertBefore
  split
  · exact sinv_appendChild hP p ins hi
  · refine Keeps.bind (getNode_keeps _) (fun vn => Keeps.ite (fun _ => sinv_appendChild hP p ins hi) (fun _ => ?_))
    refine Keeps.bind (sinv_ensureIsolated hP ins) (fun _ => Keeps.bind
      (sinv_relink hP p _ (fun _ => rfl) (fun _ => rfl) (fun _ x h => ?_))
      (fun _ => sinv_relink hP ins _ (fun _ => rfl) (fun _ => rfl) (fun _ _ h => .inl h)))
    rcases qs_mem_insertBeforeIn h with h | h
    · rw [h]; exact .inr hi
    · exact .inl h

theorem sinv_replaceChild (p v1 ins : Nat) (hi : ins ≠ 0) : Keeps (fun s => StoreInv P s.nodes) (replaceChild p v1 ins) := by
  unfold replaceChild
  exact Keeps.bind (sinv_insertBefore hP p (some v1) ins hi) (fun _ => sinv_removeChild hP p v1)

/-- across `Close` of a node that is not the Document (GM.Proof.QuoteSimEdit): the Document is nobody's child, so its
    lines are not written; a new child is a new node, hence not node 0 -/
theorem StoreInv.edit {w : Nat} {B : Nat → Prop} {K : Kind → Prop} {n n' : List Node} (h : StoreInv P n)
    (he : Edit w B K n n') (hw : w ≠ 0) (hnew : ∀ m : Node, K m.kind → 0 ∉ m.children → P m) : StoreInv P n' := by
  have hc0 : ∀ q, 0 ∉ (n'.getD q default).children := fun q hq =>
    (he.kids q 0 hq).elim (hP.kids _ (h.getD hP q)) (fun h0 => Nat.not_lt.mpr h0 h.pos)
  refine ⟨Nat.lt_of_lt_of_le h.pos he.len, ?_, fun m hm => ?_⟩
  · rcases he.lines 0 h.pos with e | e | ⟨q, hq⟩
    · rw [e]; exact h.doc
    · exact absurd e.symm hw
    · exact absurd hq (hP.kids _ (h.getD hP q))
  · obtain ⟨i, hi, e⟩ := node_mem_getD hm
    subst e
    by_cases h0 : i < n.length
    · exact hP.of _ _ (h.getD hP i) (he.kind i h0) (fun c hc => .inr (fun e => hc0 i (e ▸ hc)))
    · exact hnew _ (he.new i (Nat.le_of_not_lt h0) hi).1 (hc0 i)

end sinv

theorem UStore.getD {nodes : List Node} (h : UStore nodes) (i : Nat) : UNode (nodes.getD i default) :=
  ((ustore_iff _).mp h).getD unode_inv i

theorem UStoreL.getD {nodes : List Node} (h : UStoreL nodes) (i : Nat) : UNodeL (nodes.getD i default) :=
  ((ustoreL_iff _).mp h).getD unodeL_inv i

theorem us_noR : NoR US := ⟨fun _ _ hs => hs⟩

theorem us_modPc (f : Ctx → Ctx) : Keeps US (modPc f) := modPc_keeps f fun _ hs => hs

theorem us_modNode (id : Nat) (f : Node → Node) (hf : ∀ n, UNode n → UNode (f n))
    (h0 : id = 0 → ∀ n, (f n).lines = n.lines) : Keeps US (modNode id f) := us_of (sinv_modNode unode_inv id f hf h0)

theorem us_appendLine (id : Nat) (seg : Segment) (h : id ≠ 0) : Keeps US (appendLine id seg) :=
  us_modNode id _ (fun _ hn => ⟨hn.kind, hn.kids⟩) (fun e => absurd e h)

theorem usL_modNode (id : Nat) (f : Node → Node) (hf : ∀ n, UNodeL n → UNodeL (f n))
    (h0 : id = 0 → ∀ n, (f n).lines = n.lines) : Keeps USL (modNode id f) :=
  usL_of (sinv_modNode unodeL_inv id f hf h0)

theorem us_newNode (n : Node) (hn : UNode n) : Keeps US (newNode n) := us_of (sinv_newNode n hn)

/-- `newNode n >>= f`: the fresh id is not 0 -/
theorem us_newNode_bind {β} (n : Node) (f : Nat → M β) (hn : UNode n) (hf : ∀ id, id ≠ 0 → Keeps US (f id)) :
    Keeps US (newNode n >>= f) :=
  Keeps.bind_of (us_newNode n hn) fun id ⟨s, _, hs, e⟩ => hf id (by cases e; exact Nat.ne_of_gt hs.pos)

theorem unode_new (n : Node) (h1 : n.kind ≠ .list) (h2 : n.kind ≠ .listItem) (h3 : n.children = []) : UNode n :=
  ⟨⟨h1, h2⟩, h3 ▸ List.not_mem_nil⟩

theorem us_removeChild (p c : Nat) : Keeps US (removeChild p c) := us_of (sinv_removeChild unode_inv p c)

theorem usL_newNode (n : Node) (hn : UNodeL n) : Keeps USL (newNode n) := usL_of (sinv_newNode n hn)

theorem us_appendChild (p c : Nat) (hc : c ≠ 0) : Keeps US (appendChild p c) :=
  us_of (sinv_appendChild unode_inv p c hc)

theorem usL_appendChild (p c : Nat) (hc : c ≠ 0) : Keeps USL (appendChild p c) :=
  usL_of (sinv_appendChild unodeL_inv p c hc)

theorem us_replaceChild (p v1 ins : Nat) (hi : ins ≠ 0) : Keeps US (replaceChild p v1 ins) :=
  us_of (sinv_replaceChild unode_inv p v1 ins hi)

theorem us_nextSibling (c : Nat) : Keeps US (nextSibling c) := nextSibling_keeps c

theorem us_insertAfter (p : Nat) (v1 : Option Nat) (ins : Nat) (hi : ins ≠ 0) : Keeps US (insertAfter p v1 ins) := by
  have hb := fun v => us_of (sinv_insertBefore unode_inv p v ins hi)
  unfold insertAfter
  split
  · exact us_appendChild p ins hi
  · exact Keeps.bind (nextSibling_keeps _) fun _ =>
      Keeps.ite (fun _ => Keeps.bind (nextSibling_keeps _) fun _ => hb _) (fun _ => hb _)

/-- the next sibling of a node is a child of some node, hence not node 0 -/
theorem nextSibling_ne0 {c : Nat} {s s' : St} {nx : Nat} (hs : US s) (h : nextSibling c s = .ok (some nx, s')) :
    nx ≠ 0 := by
  obtain ⟨q, hq⟩ := nextSibling_child h
  exact fun e => (hs.getD q).kids (e ▸ hq)

end GM.Blocks
end Inv

/-
  part InvK — kinds never change (unary facts about ONE run, for the original run of the C08 simulation).
  * `KGn n n'`: the store did not shrink and every existing node kept its kind. Holds across `Open` / `Continue` /
    `Close` of all ten block parsers (read off their footprint `Edit`, GM.Proof.QuoteSimEdit) and across `appendChild`.
  * `PKL l nodes`: every block of `l` has a node of the kind its parser builds, so that one whose parser is the paragraph
    or the setext parser has a node that is not raw (not CodeBlock / FencedCodeBlock / HTMLBlock; `PKL.nr`). The driver
    carries it for `pc.openedBlocks` (`AInv.pk`): it is what
    `paragraphParser.Close` (which trims lines) and `setextHeadingParser.Close` (which replaces lines) need, because the
    relation keeps "no empty line segment" for raw nodes only (`NodeRel.rawNE`).
  * `OPK`, `bpOpen_kind'`: the node an `Open` returns is a new node, of the kind the parser builds.
-/
section InvK
namespace GM.Blocks
open GM GM.Text

def KGn (n n' : List Node) : Prop :=
  n.length ≤ n'.length ∧ ∀ i, i < n.length → (n'.getD i default).kind = (n.getD i default).kind

theorem KGn.refl (n : List Node) : KGn n n := ⟨Nat.le_refl _, fun _ _ => rfl⟩

theorem KGn.trans {a b c : List Node} (h1 : KGn a b) (h2 : KGn b c) : KGn a c :=
  ⟨Nat.le_trans h1.1 h2.1, fun i hi => (h2.2 i (Nat.lt_of_lt_of_le hi h1.1)).trans (h1.2 i hi)⟩

theorem KGn.of_eq {a b : List Node} (h : b = a) : KGn a b := by rw [h]; exact KGn.refl a

/-- parser/kind consistency: every block of the list has a node of the store, of the kind its parser builds -/
def PKL (l : List Block) (nodes : List Node) : Prop :=
  ∀ b ∈ l, b.node < nodes.length ∧ (nodes.getD b.node default).kind = b.bp.kind

theorem PKL.kg {l : List Block} {n n' : List Node} (h : PKL l n) (hk : KGn n n') : PKL l n' :=
  fun b hb => ⟨Nat.lt_of_lt_of_le (h b hb).1 hk.1, by rw [hk.2 _ (h b hb).1]; exact (h b hb).2⟩

theorem PKL.nr {l : List Block} {n : List Node} (h : PKL l n) {b : Block} (hb : b ∈ l)
    (hbp : b.bp = .paragraph ∨ b.bp = .setext) : rawK (n.getD b.node default).kind = false := by
  rw [(h b hb).2]
  rcases hbp with e | e <;> rw [e] <;> rfl

theorem PKL.sub {l l' : List Block} {n : List Node} (h : PKL l n) (hs : ∀ b ∈ l', b ∈ l) : PKL l' n :=
  fun b hb => h b (hs b hb)

theorem PKL.nil (n : List Node) : PKL [] n := fun _ hb => by cases hb

def KGI (n0 : List Node) : St → Prop := fun s => KGn n0 s.nodes

theorem kgi_noR (n0 : List Node) : NoR (KGI n0) := ⟨fun _ _ hs => hs⟩

theorem kgi_modPc (n0 : List Node) (f : Ctx → Ctx) : Keeps (KGI n0) (modPc f) := modPc_keeps f fun _ hs => hs

theorem kgn_set (n : List Node) (id : Nat) (x : Node) (hx : x.kind = (n.getD id default).kind) : KGn n (n.set id x) := by
  refine ⟨by simp, fun i _ => ?_⟩
  simp only [List.getD_eq_getElem?_getD, List.getElem?_set]
  by_cases hi : id = i
  · subst hi
    by_cases hl : id < n.length
    · simp only [hl, if_true, Option.getD_some]
      rw [hx]; simp [List.getD_eq_getElem?_getD]
    · simp [hl]
  · simp [hi]

theorem kgi_modNode (n0 : List Node) (id : Nat) (f : Node → Node) (hf : ∀ n, (f n).kind = n.kind) :
    Keeps (KGI n0) (modNode id f) := by
  intro s a s' hs h
  cases h
  exact KGn.trans hs (kgn_set _ _ _ (hf _))

theorem kgi_newNode (n0 : List Node) (n : Node) : Keeps (KGI n0) (newNode n) := by
  intro s a s' hs h
  cases h
  exact KGn.trans hs ⟨by simp, fun i hi => by rw [getD_append_node, if_pos hi]⟩

theorem kgi_of_foot {W : Nat → Prop} {K : Kind → Prop} {L : Option Block} {α} {m : M α}
    (h : ∀ s0, Keeps (Foot W K L s0) m) (n0 : List Node) : Keeps (KGI n0) m := fun s a s' hs e =>
  have g := (h s s a s' (Foot.refl s) e).nodes
  KGn.trans hs ⟨g.len, fun _ hi => g.kind hi⟩

theorem Edit.kgn {w : Nat} {B : Nat → Prop} {K : Kind → Prop} {n n' : List Node} (h : Edit w B K n n') : KGn n n' :=
  ⟨h.len, h.kind⟩

theorem kgn_bpOpen (bp : BP) (p : Nat) {s s' : St} {a : Option Nat × PState} (e : bpOpen bp p s = .ok (a, s')) :
    KGn s.nodes s'.nodes := (bpOpen_edit bp p e 0).kgn

theorem kgn_bpContinue (bp : BP) (n : Nat) {s s' : St} {a : PState} (e : bpContinue bp n s = .ok (a, s')) :
    KGn s.nodes s'.nodes := (bpContinue_edit bp n e).kgn

theorem kgn_bpClose (bp : BP) (n : Nat) {s s' : St} {a : Unit} (e : bpClose bp n s = .ok (a, s')) :
    KGn s.nodes s'.nodes := (bpClose_foot bp n e).nodes.kgn

section
variable (n0 : List Node)

theorem kg_removeChild (p c : Nat) : Keeps (KGI n0) (removeChild p c) := by
  unfold removeChild
  exact Keeps.bind (getNode_keeps _) fun _ => Keeps.ite (fun _ => Keeps.pure _) fun _ =>
    Keeps.bind (kgi_modNode n0 _ _ fun _ => rfl) fun _ => kgi_modNode n0 _ _ fun _ => rfl

theorem kg_ensureIsolated (c : Nat) : Keeps (KGI n0) (ensureIsolated c) := by
  unfold ensureIsolated
  refine Keeps.bind (getNode_keeps _) (fun cn => ?_)
  split
  · exact kg_removeChild n0 _ c
  · exact Keeps.pure _

theorem kg_appendChild (p c : Nat) : Keeps (KGI n0) (appendChild p c) := by
  unfold appendChild
  exact Keeps.bind (kg_ensureIsolated n0 c) fun _ =>
    Keeps.bind (kgi_modNode n0 _ _ fun _ => rfl) fun _ => kgi_modNode n0 _ _ fun _ => rfl

theorem kg_insertBefore (p : Nat) (v1 : Option Nat) (ins : Nat) : Keeps (KGI n0) (insertBefore p v1 ins) := by
  unfold insertBefore
  split
  · exact kg_appendChild n0 p ins
  · exact Keeps.bind (getNode_keeps _) fun _ => Keeps.ite (fun _ => kg_appendChild n0 p ins) fun _ =>
      Keeps.bind (kg_ensureIsolated n0 ins) fun _ =>
        Keeps.bind (kgi_modNode n0 _ _ fun _ => rfl) fun _ => kgi_modNode n0 _ _ fun _ => rfl

theorem kg_lastOffset (n : Nat) : Keeps (KGI n0) (lastOffset n) :=
  kgi_of_foot (W := fun _ => False) (K := fun _ => False) (L := none) (fun _ => lastOffset_foot n) n0

theorem kg_bpOpen (bp : BP) (_ : bp.notList = true) (p : Nat) : Keeps (KGI n0) (bpOpen bp p) :=
  fun _ _ _ hs e => KGn.trans hs (kgn_bpOpen bp p e)

theorem kg_bpContinue (bp : BP) (_ : bp.notList = true) (n : Nat) : Keeps (KGI n0) (bpContinue bp n) :=
  fun _ _ _ hs e => KGn.trans hs (kgn_bpContinue bp n e)

theorem kg_bpClose (bp : BP) (_ : bp.notList = true) (n : Nat) : Keeps (KGI n0) (bpClose bp n) :=
  fun _ _ _ hs e => KGn.trans hs (kgn_bpClose bp n e)

end

/-- from the invariant form to the relation between the two states -/
theorem kgn_of_keeps {α} {m : M α} (h : ∀ n0, Keeps (KGI n0) m) {s s' : St} {a : α} (e : m s = .ok (a, s')) :
    KGn s.nodes s'.nodes := h s.nodes s a s' (KGn.refl _) e

theorem nr_of_kg {n : Nat} {n4 n' : List Node} (h1 : n < n4.length) (h2 : rawK (n4.getD n default).kind = false)
    (hk : KGn n4 n') : n < n'.length ∧ rawK (n'.getD n default).kind = false :=
  ⟨Nat.lt_of_lt_of_le h1 hk.1, by rw [hk.2 n h1]; exact h2⟩

/-- the node of a block about to be pushed is a node of the store, of the kind its parser builds -/
def NRn (bp : BP) (node : Nat) (nodes : List Node) : Prop :=
  node < nodes.length ∧ (nodes.getD node default).kind = bp.kind

theorem NRn.kg {bp : BP} {node : Nat} {n n' : List Node} (h : NRn bp node n) (hk : KGn n n') : NRn bp node n' :=
  ⟨Nat.lt_of_lt_of_le h.1 hk.1, by rw [hk.2 _ h.1]; exact h.2⟩

theorem PKL.push {l : List Block} {n : List Node} (h : PKL l n) {bp : BP} {node : Nat} (hn : NRn bp node n) :
    PKL (l ++ [{ node := node, bp := bp }]) n := by
  intro b hb
  rcases List.mem_append.mp hb with hb | hb
  · exact h b hb
  · simp only [List.mem_singleton] at hb; subst hb; exact hn

/-- whatever node id `m` returns is a node of the final store, of kind `k` -/
structure OPK (k : Kind) (m : M (Option Nat × PState)) : Prop where
  h : ∀ s a s', m s = .ok (a, s') → ∀ id, a.1 = some id → id < s'.nodes.length ∧ (s'.nodes.getD id default).kind = k

theorem OPK.throw {k : Kind} (e : Panic) : OPK k (throw e) := ⟨fun _ _ _ h => by cases h⟩

theorem OPK.pure_none {k : Kind} (st : PState) : OPK k (pure (none, st)) :=
  ⟨fun _ _ _ h _ hid => by cases h; cases hid⟩

theorem OPK.bind {k : Kind} {α} {m0 : M α} {f : α → M (Option Nat × PState)} (hf : ∀ x, OPK k (f x)) : OPK k (m0 >>= f) :=
  ⟨fun s a s' h => by obtain ⟨x, s1, _, e⟩ := bind_inv_u h; exact (hf x).h s1 a s' e⟩

theorem OPK.ite {k : Kind} {c : Prop} [Decidable c] {a b : M (Option Nat × PState)} (ha : OPK k a) (hb : OPK k b) :
    OPK k (if c then a else b) := by split <;> assumption

/-- `Open` of any of the ten block parsers: the node it returns is a node of the store of the kind the parser builds
    (`BP.kind`) -/
theorem bpOpen_kind' (bp : BP) (p : Nat) {s s' : St} {a : Option Nat × PState}
    (e : bpOpen bp p s = .ok (a, s')) (id : Nat) (hid : a.1 = some id) : NRn bp id s'.nodes :=
  have hf := bpOpen_foot bp p e
  ⟨(hf.2 id hid).2, (hf.1.nodes.new id (hf.2 id hid).1 (hf.2 id hid).2).2⟩

theorem bpOpen_kind (bp : BP) (_ : bp.notList = true) (p : Nat) {s s' : St} {a : Option Nat × PState}
    (e : bpOpen bp p s = .ok (a, s')) (id : Nat) (hid : a.1 = some id) : NRn bp id s'.nodes :=
  bpOpen_kind' bp p e id hid

end GM.Blocks
end InvK

/-
  part InvP — the block parsers keep the store invariants of section `Inv` above. Read off the footprint
  `Edit` (GM.Proof.QuoteSimEdit): `Open` writes to new nodes only; `Continue` and `Close` of a node that is not node 0
  write the lines of that node, of new nodes and of children (never node 0); children lists gain new nodes only. New
  nodes are no List / ListItem unless a list parser's `Open` made them.
-/
section InvP
namespace GM.Blocks
open GM GM.Text

theorem UStoreL.edit {w : Nat} {B : Nat → Prop} {K : Kind → Prop} {n n' : List Node} (h : UStoreL n)
    (he : Edit w B K n n') (hw : w ≠ 0) : UStoreL n' :=
  (ustoreL_iff _).mpr (((ustoreL_iff _).mp h).edit unodeL_inv he hw (fun _ _ hc => ⟨hc⟩))

theorem UStore.edit {w : Nat} {B : Nat → Prop} {K : Kind → Prop} {n n' : List Node} (h : UStore n)
    (he : Edit w B K n n') (hw : w ≠ 0) (hK : ∀ k, K k → k ≠ .list ∧ k ≠ .listItem) : UStore n' :=
  (ustore_iff _).mpr (((ustore_iff _).mp h).edit unode_inv he hw (fun _ hk hc => ⟨hK _ hk, hc⟩))

theorem notList_kind {bp : BP} (h : bp.notList = true) (k : Kind) (hk : k = bp.kind) : k ≠ .list ∧ k ≠ .listItem := by
  subst hk
  cases bp <;> first | exact ⟨by decide, by decide⟩ | cases h

theorem closeK_notList (k : Kind) (hk : CloseK k) : k ≠ .list ∧ k ≠ .listItem := by
  rcases hk with e | e <;> subst e <;> exact ⟨by decide, by decide⟩

theorem ustoreL_bpOpen (bp : BP) (parent : Nat) (s : St) (a : Option Nat × PState) (s' : St)
    (hu : UStoreL s.nodes) (e : bpOpen bp parent s = .ok (a, s')) : UStoreL s'.nodes :=
  hu.edit (bpOpen_edit bp parent e 1) (by decide)

theorem ustoreL_bpContinue (bp : BP) (node : Nat) (hn0 : node ≠ 0) (s : St) (a : PState) (s' : St)
    (hu : UStoreL s.nodes) (e : bpContinue bp node s = .ok (a, s')) : UStoreL s'.nodes :=
  hu.edit (bpContinue_edit bp node e) hn0

theorem ustoreL_bpClose (bp : BP) (node : Nat) (hn0 : node ≠ 0) (s : St) (a : Unit) (s' : St)
    (hu : UStoreL s.nodes) (e : bpClose bp node s = .ok (a, s')) : UStoreL s'.nodes :=
  hu.edit (bpClose_foot bp node e).nodes hn0

theorem us_bpOpen (bp : BP) (h : bp.notList = true) (p : Nat) : Keeps US (bpOpen bp p) :=
  fun _ _ _ hs e => hs.edit (bpOpen_edit bp p e 1) (by decide) (notList_kind h)

theorem us_bpContinue (bp : BP) (_ : bp.notList = true) (n : Nat) (hn0 : n ≠ 0) : Keeps US (bpContinue bp n) :=
  fun _ _ _ hs e => hs.edit (bpContinue_edit bp n e) hn0 (fun _ h => h.elim)

theorem us_bpClose (bp : BP) (_ : bp.notList = true) (n : Nat) (hn0 : n ≠ 0) : Keeps US (bpClose bp n) :=
  fun _ _ _ hs e => hs.edit (bpClose_foot bp n e).nodes hn0 closeK_notList

end GM.Blocks
end InvP
