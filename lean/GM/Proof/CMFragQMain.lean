/-
  GM.Proof.CMFragQMain — stage 10: a stage-6 document inside one block quote (`"> "` in front of every line). With the
  final line feed it is stage 14 at depth 1 (`fragmentNQ_conforms`, GM.Proof.CMFragStagesBlock); without it, the nested
  composition (`convert_nest_genSE`, GM.Proof.CMFragQuote) at depth 1 with the class facts of such a source.
-/
import GM.Proof.CMFragQuote
import GM.Proof.CMFragRender8
import GM.Proof.CMFragClass

namespace GM.Proof.CMFrag
open GM GM.Text GM.Blocks GM.Spec

open GM.Spec.CM GM.Spec.CMFrag

theorem getLast_appendQE {α : Type} (a b : List α) (c : α) (h : b.getLast? = some c) :
    (a ++ b).getLast? = some c := by
  rw [List.getLast?_append, h]; rfl

theorem getLast_someQE {α : Type} (l : List α) (h : l ≠ []) : ∃ z, l.getLast? = some z := by
  cases hl : l.getLast? with
  | none => exact absurd (List.getLast?_eq_none_iff.mp hl) h
  | some z => exact ⟨z, rfl⟩

theorem not32_of_noSpaceQE : ∀ c : UInt8, isSpace c = false → c ≠ 32 := GM.forall_uint8 _ (by decide +kernel)

/-- the last byte of the last line of a good block is not a space -/
theorem lastLine_noSpaceQE (b : Raw5) (h : Good5' b) (hnic : isIcB b = false) :
    ∀ l, (lines5 b).getLast? = some l → ∀ c, l.getLast? = some c → c ≠ 32 := by
  cases b with
  | icode ls => exact absurd hnic (by simp [isIcB])
  | old b' =>
    cases b' with
    | para ls =>
      intro l hl c hc
      exact not32_of_noSpaceQE c ((h.2 l (List.mem_of_getLast? hl)).lastNoSpace c hc)
    | atx level l =>
      obtain ⟨_, _, hgl, _⟩ := h
      intro x hx c hc
      simp only [lines5, lines4, List.getLast?_singleton, Option.some.injEq] at hx
      subst hx
      obtain ⟨z, hz⟩ := getLast_someQE l hgl.ne
      have e : List.replicate level 35 ++ 32 :: l = (List.replicate level 35 ++ [32]) ++ l := by simp
      rw [e, getLast_appendQE _ _ z hz] at hc
      rw [← Option.some.inj hc]
      exact not32_of_noSpaceQE z (hgl.lastNoSpace z hz)
    | hr x =>
      obtain ⟨ch, n, hch, rfl⟩ := h
      intro l hl c hc
      simp only [lines5, lines4, List.getLast?_singleton, Option.some.injEq] at hl
      subst hl
      rw [List.getLast?_replicate, if_neg (by omega)] at hc
      rw [← Option.some.inj hc]
      rcases hch with rfl | rfl | rfl <;> decide
  | fence fc n info ls =>
    intro l hl c hc
    have : (lines5 (.fence fc n info ls)).getLast? = some (List.replicate (n + 3) fc) := by
      simp only [lines5]
      rw [List.getLast?_cons, List.getLast?_append]
      simp
    rw [this] at hl
    cases hl
    rw [List.getLast?_replicate, if_neg (by omega)] at hc
    rw [← Option.some.inj hc]
    rcases h.1 with rfl | rfl <;> decide

theorem paraBytesE_lastQE : ∀ (ls : List Bytes) (l : Bytes) (c : UInt8), ls.getLast? = some l → l.getLast? = some c →
    (paraBytesE ls).getLast? = some c
  | [], _, _, h, _ => by simp at h
  | [x], l, c, h, hc => by
    simp only [List.getLast?_singleton, Option.some.injEq] at h
    subst h
    exact hc
  | x :: y :: rest, l, c, h, hc => by
    have ih := paraBytesE_lastQE (y :: rest) l c (by rwa [List.getLast?_cons_cons] at h) hc
    show (x ++ [10] ++ paraBytesE (y :: rest)).getLast? = some c
    exact getLast_appendQE _ _ c ih

/-- the last byte of the source of a stage-7 document of good blocks: not a space -/
theorem rawDoc6E_lastQE : ∀ (items : List (Nat × Raw5)), items ≠ [] → (∀ it ∈ items, Good5' it.2) →
    (∀ it ∈ items, isIcB it.2 = false) → ∃ c, (rawDoc6E items).getLast? = some c ∧ c ≠ 32
  | [], h, _, _ => absurd rfl h
  | [(s, b)], _, hg, hni => by
    have hgb := hg (s, b) (by simp)
    obtain ⟨l, hl⟩ := getLast_someQE (lines5 b) (lines5_ne b (good5_of b hgb))
    obtain ⟨c, hc⟩ := getLast_someQE l (lastLine_ne b hgb l hl)
    refine ⟨c, ?_, lastLine_noSpaceQE b hgb (hni (s, b) (by simp)) l hl c hc⟩
    show (blanks s ++ paraBytesE (lines5 b)).getLast? = some c
    exact getLast_appendQE _ _ c (paraBytesE_lastQE (lines5 b) l c hl hc)
  | (s, b) :: it :: rest, _, hg, hni => by
    obtain ⟨c, hc, h32⟩ := rawDoc6E_lastQE (it :: rest) (by simp) (fun x hx => hg x (by simp [hx]))
      (fun x hx => hni x (by simp [hx]))
    refine ⟨c, ?_, h32⟩
    show (blanks s ++ (paraBytes (lines5 b) ++ rawDoc6E (it :: rest))).getLast? = some c
    exact getLast_appendQE _ _ c (getLast_appendQE _ _ c hc)

theorem qfragE_partsQE (d : KDoc) (h : QFragE d) : KFragE d ∧ ∀ c ∈ spellK d, qcleanByte c = true := by
  have := h
  simp only [QFragE, qfragEB, Bool.and_eq_true, List.all_eq_true] at this
  exact ⟨this.1, this.2⟩

theorem kfragE_partsQE (d : KDoc) (h : KFragE d) :
    (∀ it ∈ d.items, hblockOK it.block = true) ∧ ksepsOK none d.items = true ∧ d.trail = 0 ∧ d.items ≠ [] := by
  have := h
  simp only [KFragE, kfragEB, kfragB, Bool.and_eq_true, List.all_eq_true, beq_iff_eq, Bool.not_eq_true',
    List.isEmpty_eq_false_iff] at this
  exact ⟨this.1.1.1, this.1.1.2, this.1.2, this.2⟩

theorem spellKE_rawQE (d : KDoc) (h : KFragE d) : spellKE d = rawDoc6E (d.items.map convK) := by
  obtain ⟨hok, _, ht, hne⟩ := kfragE_partsQE d h
  have hgood : ∀ it ∈ d.items.map convK, Good5' it.2 := by
    intro x hx
    obtain ⟨it, hit, rfl⟩ := List.mem_map.mp hx
    exact good5_rawOfH it.block (hok it hit)
  unfold spellKE
  rw [spellK_raw, ht, rawDoc6_dropLast _ (by simpa using hne)
    (fun it hit => lines5_ne it.2 (good5_of it.2 (hgood it hit)))]

theorem mem_spellKE_QE (d : KDoc) : ∀ c ∈ spellKE d, c ∈ spellK d := by
  intro c hc
  unfold spellKE at hc
  rw [List.dropLast_eq_take] at hc
  exact List.mem_of_mem_take hc

/-- the contents of a stage-10 document without final line feed are in the class `C08ClassL` of the simulation -/
theorem qcleanE_classQE (d : KDoc) (h : QFragE d) : GM.Blocks.C08ClassL (spellKE d) := by
  obtain ⟨hk, hc⟩ := qfragE_partsQE d h
  obtain ⟨hok, _, _, hne⟩ := kfragE_partsQE d hk
  have hgood : ∀ it ∈ d.items.map convK, Good5' it.2 := by
    intro x hx
    obtain ⟨it, hit, rfl⟩ := List.mem_map.mp hx
    exact good5_rawOfH it.block (hok it hit)
  obtain ⟨z, hz, h32⟩ := rawDoc6E_lastQE (d.items.map convK) (by simpa using hne) hgood (by
    intro x hx
    obtain ⟨it, _, rfl⟩ := List.mem_map.mp hx
    exact isIcB_rawOfH it.block)
  rw [← spellKE_rawQE d hk] at hz
  have hnl : GM.Blocks.NoListTrigger (spellKE d) :=
    fun c hcm => (qclean_facts c (hc c (mem_spellKE_QE d c hcm))).2.2.2
  exact
    { tf := fun c hcm => (qclean_facts c (hc c (mem_spellKE_QE d c hcm))).1
      cr := fun c hcm => (qclean_facts c (hc c (mem_spellKE_QE d c hcm))).2.1
      ne := by intro e; rw [e] at hz; cases hz
      last := fun c hl => by rw [hz] at hl; cases hl; exact h32
      noitem := GM.Blocks.noItem_of_noTrigger hnl }

theorem spellQE_eq (d : KDoc) : spellQE d = GM.Blocks.quotePrefix (spellKE d) := quoteLines_eq _

/-- **the conformance theorem of the stage-10 fragment without final line feed** (a stage-7 document inside one block
    quote), given `BPFree` -/
theorem fragmentQE_conforms (H : BPFree) (d : KDoc) (h : QFragE d) (uc : List (Nat × (Bool × Bool))) :
    GM.Convert.convertCore uc cmOpts (spellQE d) = .ok (expectedQ d) := by
  obtain ⟨hk, hc⟩ := qfragE_partsQE d h
  obtain ⟨hok, hseps, _, hne⟩ := kfragE_partsQE d hk
  have hcl := qcleanE_classQE d h
  have hnb : ∀ c ∈ spellKE d, c ≠ 91 :=
    fun c hcm => (qclean_facts c (hc c (mem_spellKE_QE d c hcm))).2.2.1
  have hgood : ∀ it ∈ d.items.map convK, Good5' it.2 := by
    intro x hx
    obtain ⟨it, hit, rfl⟩ := List.mem_map.mp hx
    exact good5_rawOfH it.block (hok it hit)
  rw [spellKE_rawQE d hk] at hcl hnb
  have hlev : ∀ b ∈ (d.items.map convK).map (·.2), ∀ level l, b = Raw5.old (RawBlock.atx level l) → level ≤ 6 := by
    intro b hb level l he
    obtain ⟨it, hit, rfl⟩ := List.mem_map.mp hb
    have := hgood it hit
    rw [he] at this
    exact this.2.1
  have hq := convert_nest_genSE H uc (d.items.map convK) (by simpa using hne)
    (fun it hit => good5_of it.2 (hgood it hit)) (sepsOK_of none d.items hseps) (by
      intro x hx
      obtain ⟨it, _, rfl⟩ := List.mem_map.mp hx
      exact isIcB_rawOfH it.block)
    (fun it hit => ⟨lines5_ne it.2 (good5_of it.2 (hgood it hit)), lastLine_ne it.2 (hgood it hit),
      lines5_no_nl it.2 (hgood it hit)⟩) 1 (simOK_one hcl) hnb _ _
    (fun env henv => repL_good env henv _ (fun b hb => by
      obtain ⟨it, hit, rfl⟩ := List.mem_map.mp hb
      exact hgood it hit))
    (renderDoc_quoteQ _ hlev)
  rw [spellQE_eq, spellKE_rawQE d hk]
  refine hq.trans ?_
  have he : expectedK d = hdocHtml ((d.items.map (·.block)).map rawOfH) := by
    rw [hdocHtml_spelled _ (by
      intro b hb
      obtain ⟨it, hit, rfl⟩ := List.mem_map.mp hb
      exact hok it hit)]
    simp [expectedK, List.flatMap_map]
  rw [expectedQ, he]
  simp [convK, List.map_map, Function.comp_def]

end GM.Proof.CMFrag
