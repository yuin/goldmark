/-
  GM.Proof.BlocksTNPSpec — the CONTRACT of one paragraph transformer call, as the no-panic proof of the block driver with
  transformers (GM.Model.Blocks.DriverT) consumes it, and as GM.Proof.LinkRefTransform establishes it for the link reference
  definition transformer (parser/link_ref.go:16-54, GM.LinkRef.transform behind a run-time guard).

  What `Transform(node, reader, pc)` may do to the block-phase state when `node` is a Paragraph that has a parent:
    * the main reader is untouched; of the parse context only the reference map changes;
    * KEEP: the paragraph loses an initial segment of its lines and keeps at least one (`node.SetLines`), nothing else
      in the store changes; or
    * GONE: the paragraph loses ALL its lines, a fresh TextBlock (no lines, no children, the paragraph's
      HasBlankPreviousLines) is appended to the store and takes the paragraph's place among its parent's children
      (`node.Parent().ReplaceChild(parent, node, NewTextBlock())`, link_ref.go:41-47); the paragraph is parentless
      afterwards. The final state is given EXACTLY, as the result of the model's own tree operations.
  `e` is the outcome of the transformer's run-time guard (a parameter: see GM.Props.ConvertNP): the only error allowed.
-/
import GM.Proof.BlocksInv
import GM.Model.Blocks.DriverT

namespace GM.Blocks
open GM GM.Text

/-- the state in which the tree surgery of the GONE case starts: reference map replaced, the paragraph's lines emptied -/
def ptEmptied (s : St) (node : Nat) (refs : List (Bytes × (Bytes × Option Bytes))) : St :=
  { s with pc := { s.pc with refs := refs },
           nodes := s.nodes.set node { (nd s node) with lines := [] } }

/-- the tree surgery of the GONE case (link_ref.go:42-47) -/
def ptReplace (node p : Nat) (blankPrev : Bool) : M Unit := do
  let t ← newNode { kind := .textBlock, blankPrev := blankPrev }
  replaceChild p node t

structure PTPost (node : Nat) (s s' : St) : Prop where
  r : s'.r = s.r
  res :
    (∃ refs k, 0 < ((nd s node).lines.drop k).length ∧
      s' = { s with pc := { s.pc with refs := refs },
                    nodes := s.nodes.set node { (nd s node) with lines := (nd s node).lines.drop k } }) ∨
    (∃ refs p, (nd s node).parent = some p ∧
      ptReplace node p (nd s node).blankPrev (ptEmptied s node refs) = .ok ((), s'))

/-- the contract of a paragraph transformer whose guard answers `e`: on a Paragraph node with a parent it ends as
    `PTPost` says, or the guard fired -/
def PTSpec (src : Bytes) (e : Panic) (pt : PT) : Prop :=
  ∀ (node : Nat) (s : St), s.r.source = src → node < s.nodes.length → (nd s node).kind = .paragraph →
    (nd s node).parent.isSome = true → NodesOK src s →
    (∃ s', pt node s = .ok ((), s') ∧ PTPost node s s') ∨ pt node s = .error e

def PTsSpec (src : Bytes) (e : Panic) (pts : List PT) : Prop := ∀ pt ∈ pts, PTSpec src e pt

theorem ptsSpec_nil (src : Bytes) (e : Panic) : PTsSpec src e [] := fun _ h => by cases h

end GM.Blocks
