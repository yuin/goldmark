/-
  GM.Proof.BlocksTNPClose — no-panic proof of the block driver WITH paragraph transformers (GM.Model.Blocks.DriverT), part 1:
  the three-outcome calculus `OKE`, what one `transformParagraph` call does to the state (`TStep`, from the contract
  `PTsSpec` of GM.Proof.BlocksTNPSpec), and `closeLoopT` / `closeBlocksT` total. The proofs are for `closeLoopC cls` / `closeBlocksC cls` of
  GM.Proof.BlocksDriverC with any `cls` that meets `CloseLike`; `closeBlocksT` is the instance `bpClose`.

  WHICH INVARIANTS CHANGE, AND WHY
  * `Ext s s'` (BlocksInv) is FALSE across a transformer call: `Ext.linesNE` says "a non-code node keeps having lines",
    and the GONE case empties the paragraph. `Ext` is used by the driver proof only (a) for `len` / `kind` and (b) through
    `BlockOK.ext` / `KeysOK.ext` to carry `BlockOK` of the blocks that stay open and `KeysOK` over a call. So the
    post-condition of `closeBlocksT` states `ExtW` (= `len` + `kind`) and hands over `BlockOK` of the kept blocks and
    `KeysOK` directly; inside the loop they are carried over the transformer step by `TStep` (exact frame: only the
    transformed node's lines change, its parent in the GONE case) and over the parser's `Close` by `Ext` itself.
  * the kept blocks must not be the transformed node: `Compat` gets the clause "a kept PARAGRAPH block is another node
    than the block closed first" (`CompatT`); callers have it from freshness of new node ids.
  * `KeysOK.tmp` (temporaryParagraphKey points to a paragraph WITH lines) survives a transformer call only if the key does
    not point to the transformed paragraph: hypothesis `s.pc.tmpPara ≠ some top.node` for the (only possible) paragraph
    `top` of the closed range. It holds whenever the key is unset, and in general because `setextOpen` sets the key to the
    last opened paragraph, which `requireParaT` pops at once.
  * a transformed (GONE) paragraph's block stays in the stale `blocks` slice until the end of `closeBlocksT`; its `Close`
    is skipped (`parent = none`); in the KEEP case `paragraphClose` finds `lines ≠ []`.
-/
import GM.Proof.BlocksDriver
import GM.Proof.BlocksTNPSpec
import GM.Proof.BlocksDriverC
import GM.Proof.BlocksCloseRange

namespace GM.Blocks.T
open GM GM.Text GM.Spec GM.Proof.Reader

/-! ### the three-outcome calculus -/

/-- ended normally with `P`, or the fuel error, or the transformers' guard error `e` -/
def OKE (e : Panic) {α : Type} (P : α → St → Prop) (x : Except Panic (α × St)) : Prop :=
  OKL P x ∨ x = .error e

theorem OKE.ok {e : Panic} {α} {P : α → St → Prop} {a : α} {s' : St} (h : P a s') : OKE e P (.ok (a, s')) :=
  .inl (OKL.ok h)

theorem OKE.of_okl {e : Panic} {α} {P : α → St → Prop} {x : Except Panic (α × St)} (h : OKL P x) : OKE e P x := .inl h

theorem _root_.GM.Blocks.OKL.withEq {α} {P : α → St → Prop} {x : Except Panic (α × St)} (h : OKL P x) :
    OKL (fun a s' => P a s' ∧ x = .ok (a, s')) x := by
  rcases h with ⟨a, s', e, hp⟩ | e
  · exact .inl ⟨a, s', e, hp, e⟩
  · exact .inr e

theorem OKE.bind {e : Panic} {α β} {P : α → St → Prop} {Q : β → St → Prop} {m : M α} {f : α → M β} {s : St}
    (hm : OKE e P (m s)) (hf : ∀ a s', P a s' → OKE e Q (f a s')) : OKE e Q ((m >>= f) s) := by
  show OKE e Q (StateT.bind m f s)
  unfold StateT.bind
  rcases hm with (⟨a, s', h1, h2⟩ | h1) | h1
  · rw [h1]; exact hf a s' h2
  · rw [h1]; exact .inl (.inr rfl)
  · rw [h1]; exact .inr rfl

theorem OKE.mono {e : Panic} {α} {P Q : α → St → Prop} {x : Except Panic (α × St)} (h : OKE e P x)
    (hpq : ∀ a s, P a s → Q a s) : OKE e Q x := by
  rcases h with h | h
  · exact .inl (h.mono hpq)
  · exact .inr h

theorem OKE.get {e : Panic} {α} {P : α → St → Prop} {x : Except Panic (α × St)} (h : OKE e P x)
    (hl : x ≠ .error .loop) (he : x ≠ .error e) : ∃ a s', x = .ok (a, s') ∧ P a s' := by
  rcases h with h | h
  · exact h.get hl
  · exact absurd h he

/-! ### the tree surgery of the GONE case -/

theorem insertBefore_eq (p v ins : Nat) (s : St) (hv : (nd s v).parent = some p) (hi : (nd s ins).parent = none) :
    insertBefore p (some v) ins s = .ok ((), upd (upd s p fun n => { n with children := insertBeforeIn v ins n.children })
      ins fun n => { n with parent := some p }) := by
  have hv' : (s.nodes.getD v default).parent = some p := hv
  have hi' : (s.nodes.getD ins default).parent = none := hi
  unfold insertBefore ensureIsolated
  simp only [bind, StateT.bind, getNode, Except.bind, pure, StateT.pure, Except.pure, hv', hi', bne_self_eq_false,
    Bool.false_eq_true, if_false]
  rfl

theorem removeChild_eq (p c : Nat) (s : St) (hc : (nd s c).parent = some p) :
    removeChild p c s = .ok ((), upd (upd s p fun n => { n with children := n.children.erase c })
      c fun n => { n with parent := none }) := by
  have hc' : (s.nodes.getD c default).parent = some p := hc
  unfold removeChild
  simp only [bind, StateT.bind, getNode, Except.bind, pure, StateT.pure, Except.pure, hc', bne_self_eq_false,
    Bool.false_eq_true, if_false]
  rfl

theorem parent_upd_children (s : St) (i : Nat) (g : List Nat → List Nat) (j : Nat) :
    (nd (upd s i fun n => { n with children := g n.children }) j).parent = (nd s j).parent := by
  rw [nd_upd]; split
  · rename_i h; obtain ⟨rfl, _⟩ := h; rfl
  · rfl

/-- the state after `ptReplace` (link_ref.go:42-47): the store with the fresh TextBlock appended, up to tree links;
    the paragraph is parentless -/
theorem ptReplace_eq (node p : Nat) (bp : Bool) (sE : St) (hlt : node < sE.nodes.length)
    (hp : (nd sE node).parent = some p) :
    ∃ s', ptReplace node p bp sE = .ok ((), s') ∧
      FrameEq { sE with nodes := sE.nodes ++ [{ kind := .textBlock, blankPrev := bp }] } s' ∧
      (nd s' node).parent = none := by
  generalize hsA : ({ sE with nodes := sE.nodes ++ [{ kind := .textBlock, blankPrev := bp }] } : St) = sA
  have hnA : sA.nodes = sE.nodes ++ [{ kind := .textBlock, blankPrev := bp }] := by rw [← hsA]
  have hA1 : (nd sA node).parent = some p := by rw [nd_of_append_lt hnA hlt]; exact hp
  have hA2 : (nd sA sE.nodes.length).parent = none := by
    simp only [nd, hnA]; rw [getD_length_append]
  have e1 := insertBefore_eq p node sE.nodes.length sA hA1 hA2
  generalize hsB : (upd (upd sA p fun n => { n with children := insertBeforeIn node sE.nodes.length n.children })
      sE.nodes.length fun n => { n with parent := some p }) = sB at e1
  have hfB : FrameEq sA sB := by
    rw [← hsB]
    exact (upd_frame sA p (f := fun n => { n with children := insertBeforeIn node sE.nodes.length n.children })
      (fun n => ⟨rfl, rfl, rfl⟩)).trans (upd_frame _ _ (f := fun n => { n with parent := some p }) (fun n => ⟨rfl, rfl, rfl⟩))
  have hB1 : (nd sB node).parent = some p := by
    rw [← hsB, nd_upd]
    have hne : ¬ (sE.nodes.length = node ∧ sE.nodes.length <
        (upd sA p fun n => { n with children := insertBeforeIn node sE.nodes.length n.children }).nodes.length) := by
      intro h; omega
    rw [if_neg hne, parent_upd_children sA p (fun l => insertBeforeIn node sE.nodes.length l)]
    exact hA1
  have e2 := removeChild_eq p node sB hB1
  refine ⟨upd (upd sB p fun n => { n with children := n.children.erase node }) node fun n => { n with parent := none },
    ?_, ?_, ?_⟩
  · unfold ptReplace newNode replaceChild
    simp only [bind, StateT.bind, pure, Except.pure, Except.bind]
    rw [hsA, e1]
    simp only [Except.bind]
    exact e2
  · exact hfB.trans ((upd_frame sB p (f := fun n => { n with children := n.children.erase node })
      (fun n => ⟨rfl, rfl, rfl⟩)).trans (upd_frame _ _ (f := fun n => { n with parent := none }) (fun n => ⟨rfl, rfl, rfl⟩)))
  · rw [nd_upd]
    have hlen : node < (upd sB p fun n => { n with children := n.children.erase node }).nodes.length := by
      simp only [upd, List.length_set]; rw [hfB.len, hnA]; simp; omega
    rw [if_pos ⟨rfl, hlen⟩]

/-- the effect of `transformParagraph pts node` on a Paragraph with a parent and lines; `gone` = its answer -/
structure TStep (src : Bytes) (node : Nat) (s s' : St) (gone : Bool) : Prop where
  r : s'.r = s.r
  pc : ∃ refs, s'.pc = { s.pc with refs := refs }
  len : s.nodes.length ≤ s'.nodes.length
  kind : ∀ i, i < s.nodes.length → (nd s' i).kind = (nd s i).kind
  other : ∀ i, i < s.nodes.length → i ≠ node → (nd s' i).lines = (nd s i).lines
  nodes : NodesOK src s'
  keep : gone = false → (nd s' node).lines ≠ [] ∧ (nd s' node).parent = (nd s node).parent
  goneP : gone = true → (nd s' node).parent = none

theorem TStep.refl {src : Bytes} {node : Nat} {s : St} (hn : NodesOK src s) (hl : (nd s node).lines ≠ []) :
    TStep src node s s false :=
  ⟨rfl, ⟨s.pc.refs, rfl⟩, Nat.le_refl _, fun _ _ => rfl, fun _ _ _ => rfl, hn, fun _ => ⟨hl, rfl⟩, fun h => by cases h⟩

theorem TStep.trans {src : Bytes} {node : Nat} {s s1 s2 : St} {g : Bool} (h1 : TStep src node s s1 false)
    (h2 : TStep src node s1 s2 g) : TStep src node s s2 g where
  r := by rw [h2.r, h1.r]
  pc := by
    obtain ⟨r1, e1⟩ := h1.pc; obtain ⟨r2, e2⟩ := h2.pc
    exact ⟨r2, by rw [e2, e1]⟩
  len := Nat.le_trans h1.len h2.len
  kind := fun i hi => by rw [h2.kind i (Nat.lt_of_lt_of_le hi h1.len), h1.kind i hi]
  other := fun i hi hne => by rw [h2.other i (Nat.lt_of_lt_of_le hi h1.len) hne, h1.other i hi hne]
  nodes := h2.nodes
  keep := fun hg => ⟨(h2.keep hg).1, by rw [(h2.keep hg).2, (h1.keep rfl).2]⟩
  goneP := h2.goneP

theorem nodeOK_drop {src : Bytes} {n : Node} (h : NodeOK src n) (k : Nat) : NodeOK src { n with lines := n.lines.drop k } :=
  ⟨fun t ht => h.lines t (List.mem_of_mem_drop ht), fun hnil => by
    have := h.nil hnil
    show n.lines.drop k = []
    rw [this]; simp⟩

theorem tstep_of_post {src : Bytes} {node : Nat} {s s' : St} (hn : NodesOK src s) (hlt : node < s.nodes.length)
    (h : PTPost node s s') : ∃ g, TStep src node s s' g := by
  rcases h.res with ⟨refs, k, hk, e⟩ | ⟨refs, p, hp, e⟩
  · refine ⟨false, ?_⟩
    have hnodes : s'.nodes = s.nodes.set node { (nd s node) with lines := (nd s node).lines.drop k } := by rw [e]
    refine ⟨h.r, ⟨refs, by rw [e]⟩, by rw [hnodes, List.length_set]; exact Nat.le_refl _, fun i hi => ?_, fun i hi hne => ?_,
      hn.of_set hnodes (nodeOK_drop (hn.nd hlt) k), fun _ => ?_, fun hg => by cases hg⟩
    · by_cases hi' : i = node
      · subst hi'; rw [nd_of_set_self hnodes hlt]
      · rw [nd_of_set_ne hnodes hi']
    · rw [nd_of_set_ne hnodes hne]
    · rw [nd_of_set_self hnodes hlt]
      exact ⟨fun h0 => by simp only at h0; rw [h0] at hk; simp at hk, rfl⟩
  · refine ⟨true, ?_⟩
    have hEn : (ptEmptied s node refs).nodes = s.nodes.set node { (nd s node) with lines := [] } := rfl
    have hElt : node < (ptEmptied s node refs).nodes.length := by rw [hEn, List.length_set]; exact hlt
    have hEp : (nd (ptEmptied s node refs) node).parent = some p := by rw [nd_of_set_self hEn hlt]; exact hp
    obtain ⟨s2, e2, hf, hpar⟩ := ptReplace_eq node p (nd s node).blankPrev (ptEmptied s node refs) hElt hEp
    rw [e2] at e
    cases e
    generalize hsA : ({ (ptEmptied s node refs) with nodes := (ptEmptied s node refs).nodes ++
      [{ kind := .textBlock, blankPrev := (nd s node).blankPrev }] } : St) = sA at hf
    have hnA : sA.nodes = (ptEmptied s node refs).nodes ++ [{ kind := .textBlock, blankPrev := (nd s node).blankPrev }] := by
      rw [← hsA]
    have hElen : (ptEmptied s node refs).nodes.length = s.nodes.length := by rw [hEn, List.length_set]
    have hnE : NodesOK src (ptEmptied s node refs) :=
      hn.of_set hEn (nodeOK_noLines src _ rfl)
    have hnAok : NodesOK src sA := hnE.of_append hnA (nodeOK_noLines src _ rfl)
    have hAnd : ∀ i, i < s.nodes.length → nd sA i = nd (ptEmptied s node refs) i := fun i hi =>
      nd_of_append_lt hnA (by rw [hElen]; exact hi)
    refine ⟨h.r, ⟨refs, by rw [hf.pc, ← hsA]; rfl⟩, by rw [hf.len, hnA]; simp [hElen], fun i hi => ?_, fun i hi hne => ?_,
      hf.nodesOK hnAok, (fun hg => by cases hg), fun _ => hpar⟩
    · rw [(hf.same i).1, hAnd i hi]
      by_cases hi' : i = node
      · subst hi'; rw [nd_of_set_self hEn hlt]
      · rw [nd_of_set_ne hEn hi']
    · rw [(hf.same i).2.1, hAnd i hi, nd_of_set_ne hEn hne]

theorem transformParagraph_oke {src : Bytes} {e : Panic} : ∀ (pts : List PT), PTsSpec src e pts →
    ∀ (node : Nat) (s : St), s.r.source = src → node < s.nodes.length → (nd s node).kind = .paragraph →
      (nd s node).parent.isSome = true → (nd s node).lines ≠ [] → NodesOK src s →
      OKE e (fun g s' => TStep src node s s' g) (transformParagraph pts node s) := by
  intro pts
  induction pts with
  | nil =>
    intro _ node s _ _ _ _ hl hn
    unfold transformParagraph
    exact OKE.ok (TStep.refl hn hl)
  | cons pt pts ih =>
    intro hs node s hsrc hlt hk hp hl hn
    unfold transformParagraph
    have h1 : OKE e (fun (_ : Unit) s1 => ∃ g, TStep src node s s1 g) (pt node s) := by
      rcases hs pt (List.mem_cons_self ..) node s hsrc hlt hk hp hn with ⟨s1, e1, hpost⟩ | e1
      · rw [e1]; exact OKE.ok (tstep_of_post hn hlt hpost)
      · exact .inr e1
    refine OKE.bind h1 (fun _ s1 hg => ?_)
    obtain ⟨g, hg⟩ := hg
    refine OKE.bind (m := getNode node) (P := fun n sy => n = nd s1 node ∧ sy = s1) (OKE.ok ⟨rfl, rfl⟩) (fun n sy hy => ?_)
    obtain ⟨hn1, hsy⟩ := hy
    subst n sy
    cases g with
    | true =>
      have : (nd s1 node).parent.isNone = true := by rw [hg.goneP rfl]; rfl
      rw [if_pos this]
      exact OKE.ok hg
    | false =>
      obtain ⟨hl1, hp1⟩ := hg.keep rfl
      have : ¬ (nd s1 node).parent.isNone = true := by
        rw [hp1]; cases hh : (nd s node).parent with
        | none => rw [hh] at hp; cases hp
        | some _ => simp
      rw [if_neg this]
      have := ih (fun q hq => hs q (List.mem_cons_of_mem _ hq)) node s1 (by rw [hg.r]; exact hsrc)
        (Nat.lt_of_lt_of_le hlt hg.len) (by rw [hg.kind node hlt]; exact hk) (by rw [hp1]; exact hp) hl1 hg.nodes
      exact this.mono (fun g2 s2 h2 => hg.trans h2)

/-! ### carrying the invariant pieces over a transformer step -/

/-- `len` + `kind` of `Ext` (what is left of it across a transformer call) -/
structure ExtW (s s' : St) : Prop where
  len : s.nodes.length ≤ s'.nodes.length
  kind : ∀ i, i < s.nodes.length → (nd s' i).kind = (nd s i).kind

theorem ExtW.refl (s : St) : ExtW s s := ⟨Nat.le_refl _, fun _ _ => rfl⟩

theorem ExtW.trans {s1 s2 s3 : St} (h1 : ExtW s1 s2) (h2 : ExtW s2 s3) : ExtW s1 s3 :=
  ⟨Nat.le_trans h1.len h2.len, fun i hi => by rw [h2.kind i (Nat.lt_of_lt_of_le hi h1.len), h1.kind i hi]⟩

theorem ExtW.of_ext {s s' : St} (h : Ext s s') : ExtW s s' := ⟨h.len, h.kind⟩

theorem TStep.extW {src node s s' g} (h : TStep src node s s' g) : ExtW s s' := ⟨h.len, h.kind⟩

theorem TStep.tmp {src node s s' g} (h : TStep src node s s' g) : s'.pc.tmpPara = s.pc.tmpPara := by
  obtain ⟨r, e⟩ := h.pc; rw [e]

theorem TStep.fence {src node s s' g} (h : TStep src node s s' g) : s'.pc.fence = s.pc.fence := by
  obtain ⟨r, e⟩ := h.pc; rw [e]

theorem TStep.opened {src node s s' g} (h : TStep src node s s' g) : s'.pc.opened = s.pc.opened := by
  obtain ⟨r, e⟩ := h.pc; rw [e]

theorem TStep.blockOK {src node s s' g} (h : TStep src node s s' g) (hk : (nd s node).kind = .paragraph) {b : Block}
    (hb : BlockOK s b) (hne : b.bp = .paragraph → b.node ≠ node) : BlockOK s' b where
  lt := Nat.lt_of_lt_of_le hb.lt h.len
  kind := by rw [h.kind _ hb.lt]; exact hb.kind
  para := fun hp => by rw [h.other _ hb.lt (hne hp)]; exact hb.para hp
  setext := fun hp => by
    have hne' : b.node ≠ node := by
      intro e; have := hb.kind; rw [e, hk, hp] at this; cases this
    rw [h.other _ hb.lt hne', h.tmp]; exact hb.setext hp
  fenced := fun hp => by rw [h.fence]; exact hb.fenced hp

theorem TStep.keysOK {src node s s' g} (h : TStep src node s s' g) (hk : KeysOK s) (ht : s.pc.tmpPara ≠ some node) :
    KeysOK s' where
  tmp := fun t htt => by
    rw [h.tmp] at htt
    obtain ⟨a, b, c⟩ := hk.tmp t htt
    have hne : t ≠ node := fun e => ht (by rw [htt, e])
    exact ⟨Nat.lt_of_lt_of_le a h.len, by rw [h.kind t a]; exact b, by rw [h.other t a hne]; exact c⟩
  fence := fun f hf => by
    rw [h.fence] at hf
    obtain ⟨a, b, c⟩ := hk.fence f hf
    exact ⟨a, b, Nat.lt_of_lt_of_le c h.len⟩

/-- closing `c` (with its transformation when it is a paragraph) does not invalidate the kept block `k` -/
def CompatT (s : St) (k c : Block) : Prop :=
  Compat s k c ∧ (c.bp = .paragraph → k.bp = .paragraph → k.node ≠ c.node)

theorem CompatT.of_container {s : St} {k c : Block} (h : c.bp.isContainer = true) : CompatT s k c :=
  ⟨Compat.of_container h, fun hc => absurd hc (container_kind h).1⟩

theorem CompatT.of_container_left {s : St} {k c : Block} (h : k.bp.isContainer = true) : CompatT s k c :=
  ⟨Compat.of_container_left h, fun _ hk => absurd hk (container_kind h).1⟩

/-! ### `closeListC` once -/

/-- what every `Close` contract gives for a block that stays open -/
theorem _root_.GM.Blocks.ClosePost.keeps_block {src : Bytes} {top k : Block} {s s' : St} (h : ClosePost src top.bp top.node s s')
    (kok : BlockOK s k) (kc : Compat s k top) : BlockOK s' k := by
  refine kok.ext h.ext ?_ ?_
  · intro hse
    rcases h.tmp with h' | h'
    · rw [h']; exact (kok.setext hse).2
    · exact absurd h'.1 (kc.1 hse)
  · intro hfe
    rcases h.fence with h' | h'
    · rw [h']; exact kok.fenced hfe
    · obtain ⟨h1', _, f, hf, hfn⟩ := h'
      exact absurd hfn (kc.2 hfe h1' f hf)

theorem _root_.GM.Blocks.ClosePost.tmp' {src : Bytes} {bp : BP} {node : Nat} {s s' : St} (h : ClosePost src bp node s s') :
    s'.pc.tmpPara = s.pc.tmpPara ∨ s'.pc.tmpPara = none := h.tmp.imp_right (·.2)

theorem _root_.GM.Blocks.ClosePost.fence' {src : Bytes} {bp : BP} {node : Nat} {s s' : St} (h : ClosePost src bp node s s') :
    s'.pc.fence = s.pc.fence ∨ s'.pc.fence = none := h.fence.imp_right (·.2.1)

section rule
variable {e : Panic} {pts : List PT} {cls : BP → Nat → M Unit} {Q : St → Prop} {V Hd Hc : St → Block → Prop}

/-- The loop of `closeBlocksC`, for any transformer list and `Close`: `Q` is the invariant of the running state (it may speak of the
    start), `V s b` says that `b` can be closed in `s` and is kept for container blocks, `Hd` / `Hc` is what is known of the block closed
    FIRST before / behind its transformer phase; every later block is a container, for which `Hd` costs nothing (`hdc`). The plain,
    the contract-generic and the list-aware walk with transformers are instances (`L.closeListL_okl`, `closeListC_oke`,
    `L.G.X.closeListG_oke`). -/
theorem closeListC_rule
    (hdc : ∀ {s b}, Q s → V s b → b.bp.isContainer = true → Hd s b)
    (hskip : ∀ {s top}, V s top → Hd s top →
      ¬ ((nd s top.node).kind = .paragraph ∧ (nd s top.node).parent.isSome = true) → Hc s top)
    (htr : ∀ top s, Q s → V s top → Hd s top → (nd s top.node).kind = .paragraph → (nd s top.node).parent.isSome = true →
      OKE e (fun _ s1 => Q s1 ∧ (∀ b, b.bp.isContainer = true → V s b → V s1 b) ∧
        ((nd s1 top.node).parent.isSome = true → V s1 top ∧ Hc s1 top)) (transformParagraph pts top.node s))
    (hcl : ∀ top s, Q s → V s top → Hc s top → (nd s top.node).parent.isSome = true →
      OKE e (fun _ s2 => Q s2 ∧ ∀ b, b.bp.isContainer = true → V s b → V s2 b) (cls top.bp top.node s)) :
    ∀ (l : List Block) (s : St), Q s → (∀ b ∈ l, V s b) → (∀ b ∈ l.tail, b.bp.isContainer = true) →
      (∀ top, l.head? = some top → Hd s top) → OKE e (fun _ s' => Q s') (closeListC cls pts l s) := by
  intro l
  induction l with
  | nil => intro s hq _ _ _; exact OKE.ok hq
  | cons top cs ih =>
    intro s hq hl hcs hhd
    unfold closeListC
    refine OKE.bind (m := getNode top.node) (P := fun n s1 => n = nd s top.node ∧ s1 = s)
      (OKE.ok ⟨rfl, rfl⟩) (fun n s0 hn0 => ?_)
    obtain ⟨hn0, hs0⟩ := hn0
    subst n s0
    have rest : ∀ s1, Q s1 → (∀ b, b.bp.isContainer = true → V s b → V s1 b) →
        OKE e (fun _ s' => Q s') (closeListC cls pts cs s1) := fun s1 h1 hv =>
      have hv1 : ∀ b ∈ cs, V s1 b := fun b hb => hv b (hcs b hb) (hl b (by simp [hb]))
      ih s1 h1 hv1 (fun b hb => hcs b (List.mem_of_mem_tail hb))
        (fun top' ht => hdc h1 (hv1 top' (List.mem_of_head? ht)) (hcs top' (List.mem_of_head? ht)))
    have close : ∀ s1, Q s1 → (∀ b, b.bp.isContainer = true → V s b → V s1 b) →
        ((nd s1 top.node).parent.isSome = true → V s1 top ∧ Hc s1 top) →
        OKE e (fun _ s' => Q s')
          ((do
            if (← getNode top.node).parent.isSome then cls top.bp top.node
            closeListC cls pts cs : M Unit) s1) := by
      intro s1 h1 hv hvc
      refine OKE.bind (m := getNode top.node) (P := fun n sy => n = nd s1 top.node ∧ sy = s1)
        (OKE.ok ⟨rfl, rfl⟩) (fun n sy hy => ?_)
      obtain ⟨hn0, hsy⟩ := hy
      subst n sy
      by_cases hp : (nd s1 top.node).parent.isSome = true
      · rw [if_pos hp]
        obtain ⟨hv1, hc1⟩ := hvc hp
        exact OKE.bind (hcl top s1 h1 hv1 hc1 hp) (fun _ s2 h2 => rest s2 h2.1 (fun b hb hvb => h2.2 b hb (hv b hb hvb)))
      · rw [if_neg hp]
        exact rest s1 h1 hv
    by_cases hpar : ((nd s top.node).kind == Kind.paragraph && (nd s top.node).parent.isSome) = true
    · rw [if_pos hpar]
      simp only [Bool.and_eq_true, beq_iff_eq] at hpar
      exact OKE.bind (htr top s hq (hl top (by simp)) (hhd top rfl) hpar.1 hpar.2)
        (fun _ s1 hg => close s1 hg.1 hg.2.1 hg.2.2)
    · rw [if_neg hpar]
      exact close s hq (fun _ _ h => h) (fun _ => ⟨hl top (by simp), hskip (hl top (by simp)) (hhd top rfl)
        (by simpa only [Bool.and_eq_true, beq_iff_eq] using hpar)⟩)

end rule

section close
variable {src : Bytes} {A : BP → Prop} (sp : Specs src A) {e : Panic} {pts : List PT} (hpts : PTsSpec src e pts)
  {cls : BP → Nat → M Unit} (hC : CloseLike src cls)
include sp hpts hC

/-- what `closeListC` / `closeBlocksC` guarantee about the state -/
def ClosedT (src : Bytes) (K : List Block) (s s' : St) : Prop :=
  s'.r = s.r ∧ NodesOK src s' ∧ KeysOK s' ∧ ExtW s s' ∧ (s'.pc.tmpPara = s.pc.tmpPara ∨ s'.pc.tmpPara = none) ∧
    ∀ k ∈ K, BlockOK s' k

/-- closing a list of blocks of which only the first may be a leaf (and, when it is a paragraph, is transformed first);
    the blocks `K` stay valid -/
theorem closeListC_oke (K : List Block) : ∀ (l : List Block) (s : St), s.r.source = src → NodesOK src s → KeysOK s →
    (∀ b ∈ l, BlockOK s b ∧ A b.bp) → (∀ b ∈ l.tail, b.bp.isContainer = true) →
    (∀ top, l.head? = some top → top.bp = .paragraph → s.pc.tmpPara ≠ some top.node) →
    (∀ k ∈ K, BlockOK s k ∧ ∀ top, l.head? = some top → CompatT s k top) →
    OKE e (fun _ s' => s'.pc.opened = s.pc.opened ∧ ClosedT src K s s') (closeListC cls pts l s) := by
  intro l s hsrc hn hk hl hcs htmp hK
  refine closeListC_rule (V := fun s1 b => BlockOK s1 b ∧ A b.bp)
    (Hd := fun s1 top => (∀ k ∈ K, CompatT s1 k top) ∧ (top.bp = .paragraph → s1.pc.tmpPara ≠ some top.node))
    (Hc := fun s1 top => ∀ k ∈ K, Compat s1 k top)
    (Q := fun s' => s'.pc.opened = s.pc.opened ∧ ClosedT src K s s')
    (fun _ _ hc => ⟨fun k _ => CompatT.of_container hc, fun hp => absurd hp (container_kind hc).1⟩)
    (fun _ hd _ k hk => (hd.1 k hk).1) ?_ ?_ l s
    ⟨rfl, rfl, hn, hk, ExtW.refl s, .inl rfl, fun k hk' => (hK k hk').1⟩ hl hcs
    (fun top ht => ⟨fun k hk' => (hK k hk').2 top ht, htmp top ht⟩)
  · intro top s1 ⟨hop, hr, hn1, hk1, he1, ht1, hK1⟩ ⟨htop, hA⟩ hd hkind hpp
    have hbp : top.bp = .paragraph := kind_paragraph (by rw [← htop.kind]; exact hkind)
    refine (transformParagraph_oke pts hpts top.node s1 (by rw [hr]; exact hsrc) htop.lt hkind hpp (htop.para hbp) hn1).mono
      (fun g s2 hg => ⟨⟨by rw [hg.opened, hop], by rw [hg.r, hr], hg.nodes, hg.keysOK hk1 (hd.2 hbp), he1.trans hg.extW,
        by rw [hg.tmp]; exact ht1, fun k hk' => hg.blockOK hkind (hK1 k hk') (fun hkp => (hd.1 k hk').2 hbp hkp)⟩,
        fun b hb hvb => ⟨hg.blockOK hkind hvb.1 (fun hkp => absurd hkp (container_kind hb).1), hvb.2⟩, fun hp2 => ?_⟩)
    cases g with
    | true => rw [hg.goneP rfl] at hp2; cases hp2
    | false =>
      obtain ⟨hl1, _⟩ := hg.keep rfl
      exact ⟨⟨⟨Nat.lt_of_lt_of_le htop.lt hg.len, by rw [hg.kind _ htop.lt]; exact htop.kind, fun _ => hl1,
        (fun h => by rw [hbp] at h; cases h), (fun h => by rw [hbp] at h; cases h)⟩, hA⟩,
        fun k hk' => ⟨(hd.1 k hk').1.1, fun _ hc => by rw [hbp] at hc; cases hc⟩⟩
  · intro top s1 ⟨hop, hr, hn1, hk1, he1, ht1, hK1⟩ ⟨htop1, hAtop⟩ hcomp1 _
    have hc := hC.okl (fun _ s' h => ⟨h.nodes, by rw [h.r, hr]; exact hsrc⟩)
      (sp.close top.bp hAtop top.node s1 (by rw [hr]; exact hsrc) hn1 hk1 htop1)
    refine (OKE.of_okl hc).mono (fun _ s2 h2 => ⟨⟨by rw [h2.opened, hop], by rw [h2.r, hr], h2.nodes,
      hk1.ext h2.ext h2.tmp' h2.fence', he1.trans (ExtW.of_ext h2.ext), ?_,
      fun k hk' => h2.keeps_block (hK1 k hk') (hcomp1 k hk')⟩, fun b hb hvb => ⟨hvb.1.ext_container h2.ext hb, hvb.2⟩⟩)
    rcases h2.tmp' with h | h
    · rw [h]; exact ht1
    · exact .inr h

/-- `closeBlocksC(from, to)` on `openedBlocks = pre ++ mid ++ post` with `to = |pre|`, `from = |pre| + |mid| - 1`: the blocks
    of `mid` are closed (last first; a paragraph is transformed first and closed only if it is still there),
    `pre ++ post` stays -/
theorem closeBlocksC_oke (pre mid post : List Block) (s : St) (hop : s.pc.opened = pre ++ mid ++ post)
    (hsrc : s.r.source = src) (hn : NodesOK src s) (hk : KeysOK s)
    (hmid : ∀ b ∈ mid, BlockOK s b ∧ A b.bp) (hleafy : Leafy mid)
    (htmp : ∀ top, mid.getLast? = some top → top.bp = .paragraph → s.pc.tmpPara ≠ some top.node)
    (hK : ∀ k ∈ pre ++ post, BlockOK s k ∧ ∀ top, mid.getLast? = some top → CompatT s k top) :
    OKE e (fun _ s' => s'.pc.opened = pre ++ post ∧ ClosedT src (pre ++ post) s s')
      (closeBlocksC cls pts ((pre.length : Int) + (mid.length : Int) - 1) (pre.length : Int) s) := by
  rw [closeBlocksC_mid cls pts pre mid post s hop]
  have hcl := closeListC_oke sp hpts hC (pre ++ post) mid.reverse s hsrc hn hk
    (fun b hb => hmid b (by simpa using hb))
    (fun b hb => hleafy b (by
      have : mid.reverse.tail = mid.dropLast.reverse := by
        rw [List.tail_reverse]
      rw [this] at hb; simpa using hb))
    (fun top ht => htmp top (by rw [List.head?_reverse] at ht; exact ht))
    (fun k hk' => ⟨(hK k hk').1, fun top ht => (hK k hk').2 top (by
      rw [List.head?_reverse] at ht; exact ht)⟩)
  refine OKE.bind hcl (fun _ s1 h1 => ?_)
  obtain ⟨hop1, hr, hn1, hk1, he1, ht1, hK1⟩ := h1
  refine OKE.ok ⟨rfl, hr, hn1, ⟨hk1.tmp, hk1.fence⟩, ⟨he1.len, he1.kind⟩, ht1, fun k hk' => ?_⟩
  have := hK1 k hk'
  exact ⟨this.lt, this.kind, this.para, this.setext, this.fenced⟩

end close

end GM.Blocks.T
