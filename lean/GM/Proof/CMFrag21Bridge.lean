/-
  GM.Proof.CMFrag21Bridge — stage 21 (the union fragment with ALL inline atoms): the bridge from the spec-side documents
  `F21Doc` of GM.Spec.CMFrag to the proof-side blocks `FBlock21` of GM.Proof.CMFrag21Defs: a spec-side atom / line / block as
  its proof-side counterpart, an item as a pair (blank lines in front, byte lines); the source of a document is `rawDoc6` /
  `rawDoc6E` of its converted items; a block of the fragment is `FGood`, `f21sepsOK` gives `SepsOK6` and `IcOK6`; the
  proof-side HTML of the converted blocks is the prescribed HTML `expectedF21`.
-/
import GM.Proof.CMFrag21Defs
import GM.Proof.CMFrag13Inl
import GM.Proof.CMFragRender16

namespace GM.Proof.CMFrag
open GM GM.Text GM.Blocks GM.Spec GM.Spec.CM GM.Spec.CMFrag

/-- a spec-side atom as source bytes -/
def fatomOfS : FAtomS → FAtom
  | .txt cs => .txt (escSpell cs)
  | .code c => .code c
  | .em c => .em c
  | .strong c => .strong c
  | .uem c => .uem c
  | .ustrong c => .ustrong c
  | .link t d => .link t d
  | .img t d => .img t d
  | .auto s r => .auto s r
  | .otag n => .otag n
  | .ctag n => .ctag n

def flineOfS21 (x : FLineS21) : FLine21 := ⟨x.atoms.map fatomOfS, x.hard⟩

def fblockOfS21 : FBlockS21 → FBlock21
  | .para lines => .para (lines.map flineOfS21)
  | .heading level text => .atx level (text.map fatomOfS)
  | .thematic c n => .hr (thematicLine c n false)
  | .fcode tilde n info lines => .fence (fenceChar tilde) n info lines
  | .icode lines => .icode lines

def convF21 (it : F21Item) : Nat × Raw5 := (it.sep, fraw (fblockOfS21 it.block))

theorem fatomSrc_fatomOfS21 (a : FAtomS) : fatomSrc (fatomOfS a) = spellFAtom a := by
  cases a <;> simp [fatomOfS, fatomSrc, spellFAtom, autoUri]

theorem flineSrc_fatomOfS21 (l : List FAtomS) : flineSrc (l.map fatomOfS) = spellFLineA l := by
  simp only [flineSrc, spellFLineA, List.flatMap_map]
  congr 1; funext a; exact fatomSrc_fatomOfS21 a

theorem flineSrc21_ofS21 (x : FLineS21) : flineSrc21 (flineOfS21 x) = spellFLine21 x := by
  obtain ⟨atoms, hard⟩ := x
  cases hard <;> simp [flineSrc21, flineOfS21, spellFLine21, flineSrc_fatomOfS21]

theorem paraBytes_fraw21 (b : FBlockS21) : paraBytes (lines5 (fraw (fblockOfS21 b))) = spellFBlock21 b := by
  cases b with
  | para lines =>
    simp only [fblockOfS21, fraw, lines5, lines4, paraBytes, spellFBlock21, List.flatMap_map, flineSrc21_ofS21]
  | heading level text =>
    simp [fblockOfS21, fraw, lines5, lines4, paraBytes, spellFBlock21, flineSrc_fatomOfS21]
  | thematic c n => exact paraBytes_rawOfH (.base (.thematic c n))
  | fcode tilde n info lines => exact paraBytes_rawOfH (.fcode tilde n info lines)
  | icode lines => exact paraBytes_rawOfI (.icode lines)

theorem spellF21_raw (d : F21Doc) : spellF21 d = rawDoc6 (d.items.map convF21) d.trail := by
  obtain ⟨items, trail⟩ := d
  simp only [spellF21]
  induction items with
  | nil => rfl
  | cons it rest ih =>
    simp only [List.flatMap_cons, List.map_cons, convF21, rawDoc6, paraBytes_fraw21, blanks_eq] at ih ⊢
    rw [← ih]
    simp

theorem lines5_fraw_ne21 (b : FBlockS21) (h : f21blockOKS b = true) : lines5 (fraw (fblockOfS21 b)) ≠ [] := by
  cases b with
  | para lines =>
    simp only [f21blockOKS, Bool.and_eq_true, Bool.not_eq_true', List.isEmpty_eq_false_iff] at h
    simpa [fblockOfS21, fraw, lines5, lines4] using h.1.1.1
  | heading level text => simp [fblockOfS21, fraw, lines5, lines4]
  | thematic c n => simp [fblockOfS21, fraw, lines5, lines4]
  | fcode tilde n info lines => simp [fblockOfS21, fraw, lines5]
  | icode lines =>
    simp only [f21blockOKS, Bool.and_eq_true, Bool.not_eq_true', List.isEmpty_eq_false_iff] at h
    simpa [fblockOfS21, fraw, lines5, icLines] using h.1

theorem f21frag_parts (d : F21Doc) (h : F21Frag d) :
    (∀ it ∈ d.items, f21blockOKS it.block = true) ∧ f21sepsOK none d.items = true := by
  unfold F21Frag f21fragB at h
  simp only [Bool.and_eq_true, List.all_eq_true] at h
  exact h

theorem f21fragE_parts (d : F21Doc) (h : F21FragE d) :
    F21Frag d ∧ d.trail = 0 ∧ d.items ≠ [] ∧ f21lastNotIc d = true := by
  unfold F21FragE f21fragEB at h
  simp only [Bool.and_eq_true, beq_iff_eq, Bool.not_eq_true', List.isEmpty_eq_false_iff] at h
  obtain ⟨⟨⟨hk, ht⟩, hne⟩, hl⟩ := h
  exact ⟨hk, ht, hne, hl⟩

theorem spellF21E_rawOf (d : F21Doc) (hf : F21Frag d) (ht : d.trail = 0) (hne : d.items ≠ []) :
    spellF21E d = rawDoc6E (d.items.map convF21) := by
  obtain ⟨hok, _⟩ := f21frag_parts d hf
  have hne' : d.items.map convF21 ≠ [] := by simpa using hne
  unfold spellF21E
  rw [spellF21_raw, ht, rawDoc6_dropLast _ hne' (by
    intro x hx
    obtain ⟨it, hit, rfl⟩ := List.mem_map.mp hx
    exact lines5_fraw_ne21 it.block (hok it hit))]

theorem spellF21E_raw (d : F21Doc) (h : F21FragE d) : spellF21E d = rawDoc6E (d.items.map convF21) :=
  spellF21E_rawOf d (f21fragE_parts d h).1 (f21fragE_parts d h).2.1 (f21fragE_parts d h).2.2.1

theorem f21atomOKS_txt21 (cs : List TChar) (h : f21atomOKS (.txt cs) = true) : cs ≠ [] ∧ ∀ t ∈ cs, charOK t = true := by
  simp only [f21atomOKS, Bool.and_eq_true, Bool.not_eq_true', List.isEmpty_eq_false_iff, List.all_eq_true] at h
  exact h

theorem fatomOK_fatomOfS21 (a : FAtomS) (h : f21atomOKS a = true) : FAtomOK (fatomOfS a) := by
  cases a with
  | txt cs =>
    obtain ⟨hne, hall⟩ := f21atomOKS_txt21 cs h
    exact ⟨escSpell_ne_nil8 cs hne, fun i => quiet_escSpell cs hall i, escAfter_escSpell8 cs⟩
  | code c => exact alnumOK11 c h
  | em c => exact alnumOK11 c h
  | strong c => exact alnumOK11 c h
  | uem c => exact alnumOK11 c h
  | ustrong c => exact alnumOK11 c h
  | link t d => exact latomOKS_link16 t d h
  | img t d => exact imgatomOKS_img17 t d h
  | auto s r => exact aatomOKS_auto18 s r h
  | otag n => exact tagNameOK_of19 n h
  | ctag n => exact tagNameOK_of19 n h

theorem isTxt_fatomOfS21 (a : FAtomS) : (fatomOfS a).isTxt = a.isTxt := by cases a <;> rfl

theorem isUnder_fatomOfS21 (a : FAtomS) : (fatomOfS a).isUnder = a.isUnder := by cases a <;> rfl

theorem isEmph_fatomOfS21 (a : FAtomS) : (fatomOfS a).isEmph = a.isEmph := by cases a <;> rfl

theorem isLinkImg_fatomOfS21 (a : FAtomS) : (fatomOfS a).isLinkImg = a.isLinkImg := by cases a <;> rfl

theorem falternating_fatomOfS21 (l : List FAtomS) : falternating (l.map fatomOfS) = f21alternatingS l := by
  induction l with
  | nil => rfl
  | cons a rest ih =>
    cases rest with
    | nil => rfl
    | cons b rest =>
      simp only [List.map_cons, falternating, f21alternatingS, isTxt_fatomOfS21] at ih ⊢
      rw [ih]

/-- text in front of an underscore atom: its last byte -/
def NbL21 (p q : FAtom) : Prop := ∀ a, p = .txt a → q.isUnder = true → ∀ c, a.getLast? = some c → unNbOK c = true
/-- text behind an underscore atom: its first byte -/
def NbR21 (p q : FAtom) : Prop := ∀ b, q = .txt b → p.isUnder = true → ∀ c, b.head? = some c → unNbOK c = true

def NbPairs21 : List FAtom → Prop
  | p :: q :: rest => NbL21 p q ∧ NbR21 p q ∧ NbPairs21 (q :: rest)
  | _ => True

theorem nbPairs_tail21 (p : FAtom) (l : List FAtom) (h : NbPairs21 (p :: l)) : NbPairs21 l := by
  cases l with
  | nil => trivial
  | cons q rest => exact h.2.2

theorem nb_of_pairs21 (as init : List FAtom) (a : Bytes) (x : FAtom) (b : Bytes) (rest : List FAtom)
    (h : NbPairs21 as) (hl : as = init ++ [.txt a, x, .txt b] ++ rest) (hx : x.isUnder = true) :
    (∀ c, a.getLast? = some c → unNbOK c = true) ∧ (∀ c, b.head? = some c → unNbOK c = true) := by
  subst hl
  induction init with
  | nil =>
    have h' : NbPairs21 (.txt a :: x :: .txt b :: rest) := by simpa using h
    exact ⟨h'.1 a rfl hx, h'.2.2.2.1 b rfl hx⟩
  | cons p init ih =>
    apply ih
    have h' : NbPairs21 (p :: (init ++ [.txt a, x, .txt b] ++ rest)) := by simpa using h
    exact nbPairs_tail21 p _ h'

theorem nbL_fatomOfS21 (p q : FAtomS) (hp : f21atomOKS p = true) (h : f21pairOK p q = true) :
    NbL21 (fatomOfS p) (fatomOfS q) := by
  intro a ha hq c hc
  rw [isUnder_fatomOfS21] at hq
  cases p with
  | txt cs =>
    simp only [fatomOfS, FAtom.txt.injEq] at ha
    subst ha
    have hall := (f21atomOKS_txt21 cs hp).2
    have hbefore : ∃ t, cs.getLast? = some t ∧ unbeforeOK t = true := by
      simp only [f21pairOK, hq, Bool.not_true, Bool.false_or, Bool.and_eq_true] at h
      cases hg : cs.getLast? with
      | none => rw [hg] at h; exact absurd h.1 (by simp)
      | some t => rw [hg] at h; exact ⟨t, rfl, h.1⟩
    obtain ⟨t, hg, ht⟩ := hbefore
    obtain ⟨cinit, hcs⟩ := List.getLast?_eq_some_iff.mp hg
    have hsl : srcLast t = c := getLast_escSpell20 cinit t c (by rw [← hcs]; exact hc)
    have hmem : c ∈ escSpell cs := List.mem_of_getLast? hc
    simp only [unbeforeOK, Bool.not_eq_true', hsl] at ht
    exact nb_byte20 c (mem_printable20 cs hall c hmem) ht
  | _ => cases ha

theorem nbR_fatomOfS21 (p q : FAtomS) (hq : f21atomOKS q = true) (h : f21pairOK p q = true) :
    NbR21 (fatomOfS p) (fatomOfS q) := by
  intro b hb hp c hc
  rw [isUnder_fatomOfS21] at hp
  cases q with
  | txt cs =>
    simp only [fatomOfS, FAtom.txt.injEq] at hb
    subst hb
    have hall := (f21atomOKS_txt21 cs hq).2
    have hafter : ∃ t, cs.head? = some t ∧ unafterOK t = true := by
      simp only [f21pairOK, hp, Bool.not_true, Bool.false_or, Bool.and_eq_true] at h
      cases hg : cs.head? with
      | none => rw [hg] at h; exact absurd h.2 (by simp)
      | some t => rw [hg] at h; exact ⟨t, rfl, h.2⟩
    obtain ⟨t, hg, ht⟩ := hafter
    cases cs with
    | nil => cases hg
    | cons t' ts =>
      simp only [List.head?_cons, Option.some.injEq] at hg
      subst hg
      have hsf : srcFirst t' = c := head_escSpell20 t' ts c hc
      have hmem : c ∈ escSpell (t' :: ts) := List.mem_of_head? hc
      simp only [unafterOK, Bool.not_eq_true', hsf] at ht
      exact nb_byte20 c (mem_printable20 _ hall c hmem) ht
  | _ => cases hb

theorem nbPairs_fatomOfS21 (l : List FAtomS) (hok : ∀ a ∈ l, f21atomOKS a = true) (h : f21neighOK l = true) :
    NbPairs21 (l.map fatomOfS) := by
  induction l with
  | nil => trivial
  | cons p rest ih =>
    cases rest with
    | nil => trivial
    | cons q rest =>
      simp only [f21neighOK, Bool.and_eq_true] at h
      exact ⟨nbL_fatomOfS21 p q (hok p (by simp)) h.1, nbR_fatomOfS21 p q (hok q (by simp)) h.1,
        ih (fun a ha => hok a (by simp [ha])) h.2⟩

theorem f21lineOKS_atoms21 (l : List FAtomS) (h : f21lineOKS l = true) : ∀ a ∈ l, f21atomOKS a = true := by
  simp only [f21lineOKS, Bool.and_eq_true, List.all_eq_true] at h
  exact h.1.2

theorem frichLine_fatomOfS21 (l : List FAtomS) (h : f21lineOKS l = true) : FRichLine (l.map fatomOfS) := by
  have hok := f21lineOKS_atoms21 l h
  simp only [f21lineOKS, Bool.and_eq_true] at h
  obtain ⟨⟨⟨⟨halt, hfirst⟩, hlast⟩, hall'⟩, hnb⟩ := h
  clear hall'
  refine ⟨by rw [falternating_fatomOfS21]; exact halt, ?_, ?_, ?_, ?_⟩
  · -- first
    unfold f21firstOKS at hfirst
    split at hfirst
    · rename_i t ts rest
      obtain ⟨tc, te⟩ := t
      obtain ⟨sp, lt⟩ := spell_first tc te hfirst
      refine ⟨escSpell (⟨tc, te⟩ :: ts), rest.map fatomOfS, rfl, ?_⟩
      intro c hc
      simp only [escSpell, List.flatMap_cons, sp, List.cons_append, List.nil_append, List.head?_cons,
        Option.some.injEq] at hc
      subst hc; exact lt
    · cases hfirst
  · -- last
    unfold f21lastOKS at hlast
    split at hlast
    · rename_i cs hl
      split at hlast
      · rename_i z hz
        obtain ⟨zc, ze⟩ := z
        obtain ⟨sp, nsp, nbs⟩ := spell_last zc ze hlast
        obtain ⟨init, hinit⟩ := List.getLast?_eq_some_iff.mp hl
        obtain ⟨cinit, hcs⟩ := List.getLast?_eq_some_iff.mp hz
        refine ⟨init.map fatomOfS, escSpell cs, by rw [hinit]; simp [fatomOfS], ?_⟩
        intro c hc
        have e : escSpell cs = escSpell cinit ++ [zc] := by rw [hcs]; simp [escSpell, sp]
        rw [e] at hc
        simp at hc
        subst hc; exact ⟨nsp, nbs⟩
      · cases hlast
    · cases hlast
  · intro a ha
    obtain ⟨r, hr, rfl⟩ := List.mem_map.mp ha
    exact fatomOK_fatomOfS21 r (hok r hr)
  · intro init a x b rest hl hx
    exact nb_of_pairs21 _ init a x b rest (nbPairs_fatomOfS21 l hok hnb) hl hx

theorem spellFLineA_last_not_hash21 (l : List FAtomS) (h : f21lineOKS l = true) :
    ∀ c, (spellFLineA l).getLast? = some c → c ≠ 35 := by
  simp only [f21lineOKS, Bool.and_eq_true] at h
  have hlast := h.1.1.2
  unfold f21lastOKS at hlast
  split at hlast
  · rename_i cs hl
    split at hlast
    · rename_i z hz
      obtain ⟨zc, ze⟩ := z
      obtain ⟨sp, _, _⟩ := spell_last zc ze hlast
      obtain ⟨init, hinit⟩ := List.getLast?_eq_some_iff.mp hl
      obtain ⟨cinit, hcs⟩ := List.getLast?_eq_some_iff.mp hz
      have e : spellFLineA l = (spellFLineA init ++ escSpell cinit) ++ [zc] := by
        rw [hinit, hcs]; simp [spellFLineA, spellFAtom, escSpell, sp]
      intro c hc
      rw [e] at hc
      simp at hc
      subst hc
      simp only [lastOK, Bool.and_eq_true] at hlast
      exact alnum_not_hash zc hlast.1
    · cases hlast
  · cases hlast

theorem f21restr_ofS21 (lines : List FLineS21) (_h : f21restrS lines = true) : F21Restr (lines.map flineOfS21) :=
  trivial

theorem fgood_ofS21 (b : FBlockS21) (h : f21blockOKS b = true) : FGood (fblockOfS21 b) := by
  cases b with
  | para lines =>
    simp only [f21blockOKS, Bool.and_eq_true, Bool.not_eq_true', List.isEmpty_eq_false_iff, List.all_eq_true] at h
    obtain ⟨⟨⟨hne, hl⟩, hlast⟩, hre⟩ := h
    show lines.map flineOfS21 ≠ [] ∧
      ((∀ x ∈ lines.map flineOfS21, FRichLine x.atoms) ∧ ∀ x, (lines.map flineOfS21).getLast? = some x → x.hard = false) ∧
      F21Restr (lines.map flineOfS21)
    refine ⟨by simpa using hne, ⟨?_, ?_⟩, f21restr_ofS21 lines hre⟩
    · intro x hx
      obtain ⟨y, hy, rfl⟩ := List.mem_map.mp hx
      exact frichLine_fatomOfS21 y.atoms (hl y hy)
    · intro x hx
      rw [List.getLast?_map] at hx
      unfold f21lastSoftS at hlast
      cases hg : lines.getLast? with
      | none => rw [hg] at hx; cases hx
      | some z =>
        rw [hg] at hx hlast
        simp only [Option.map_some, Option.some.injEq] at hx
        subst hx
        simpa [flineOfS21] using hlast
  | heading level text =>
    simp only [f21blockOKS, Bool.and_eq_true, decide_eq_true_eq] at h
    obtain ⟨⟨⟨h1, h6⟩, hl⟩, hre⟩ := h
    show 1 ≤ level ∧ level ≤ 6 ∧ FRichLine (text.map fatomOfS) ∧
      (∀ c, (flineSrc (text.map fatomOfS)).getLast? = some c → c ≠ 35) ∧ F21Restr [⟨text.map fatomOfS, false⟩]
    refine ⟨h1, h6, frichLine_fatomOfS21 text hl, ?_, ?_⟩
    · rw [flineSrc_fatomOfS21]
      exact spellFLineA_last_not_hash21 text hl
    · exact f21restr_ofS21 [{ atoms := text, hard := false }] hre
  | thematic c n => exact good5_rawOfH (.base (.thematic c n)) rfl
  | fcode tilde n info lines => exact good5_rawOfH (.fcode tilde n info lines) h
  | icode lines => exact good5_rawOfI (.icode lines) h

theorem isParaB_fblockOfS21 (a : FBlockS21) :
    isParaB (fraw (fblockOfS21 a)) = (match a with | .para _ => true | _ => false) := by
  cases a <;> rfl

theorem f21abutOK_of (a b : FBlockS21) (h : f21abutOK a b = true) :
    AbutOK5 (isParaB (fraw (fblockOfS21 a))) (fraw (fblockOfS21 b)) := by
  cases b with
  | para lines =>
    cases a <;> simp [f21abutOK] at h <;> simp [fblockOfS21, fraw, AbutOK5, isParaB]
  | heading level text => simp [fblockOfS21, fraw, AbutOK5]
  | thematic c n =>
    simp only [fblockOfS21, fraw, AbutOK5]
    intro hp
    cases a with
    | para lines =>
      simp only [f21abutOK, bne_iff_ne, ne_eq] at h
      simp only [thematicLine, Bool.false_eq_true, if_false, List.replicate_succ, List.head?_cons]
      intro he
      simp only [Option.some.injEq] at he
      split at he
      · cases he
      · rename_i h0
        split at he
        · rename_i h1; simp at h1; exact h h1
        · cases he
    | heading _ _ => simp [isParaB] at hp
    | thematic _ _ => simp [isParaB] at hp
    | fcode _ _ _ _ => simp [isParaB] at hp
    | icode _ => simp [isParaB] at hp
  | fcode tilde n info lines => simp [fblockOfS21, fraw, AbutOK5]
  | icode lines =>
    cases a <;> simp [f21abutOK] at h <;> simp [fblockOfS21, fraw, AbutOK5, isParaB]

theorem f21sepsOK_of : ∀ (prev : Option FBlockS21) (items : List F21Item), f21sepsOK prev items = true →
    SepsOK6 (prev.map fun b => isParaB (fraw (fblockOfS21 b))) (items.map convF21)
  | _, [], _ => by cases ‹Option FBlockS21› <;> trivial
  | none, it :: rest, h => by
    simp only [f21sepsOK] at h
    exact f21sepsOK_of (some it.block) rest h
  | some a, it :: rest, h => by
    simp only [f21sepsOK, Bool.and_eq_true, Bool.or_eq_true, bne_iff_ne, ne_eq] at h
    refine ⟨?_, f21sepsOK_of (some it.block) rest h.2⟩
    intro hs
    rcases h.1.1 with h1 | h1
    · exact absurd hs h1
    · exact f21abutOK_of a it.block h1

theorem isIcB_fblockOfS21 (a : FBlockS21) : isIcB (fraw (fblockOfS21 a)) = a.isIc := by cases a <;> rfl

theorem isIc_fblockOfS21 (a : FBlockS21) : (fblockOfS21 a).isIc = a.isIc := by cases a <;> rfl

/-- `f21sepsOK` gives `IcOK6`: no indented code block follows an indented code block -/
theorem f21icOK_of : ∀ (prev : Option FBlockS21) (items : List F21Item), f21sepsOK prev items = true →
    IcOK6 (match prev with | some a => a.isIc | none => false) (items.map convF21)
  | _, [], _ => trivial
  | none, it :: rest, h => by
    simp only [f21sepsOK] at h
    refine ⟨fun hf => Bool.noConfusion hf, ?_⟩
    have := f21icOK_of (some it.block) rest h
    simpa [convF21, isIcB_fblockOfS21] using this
  | some a, it :: rest, h => by
    simp only [f21sepsOK, Bool.and_eq_true, Bool.not_eq_true', Bool.and_eq_false_iff] at h
    refine ⟨?_, ?_⟩
    · intro ha
      simp only [isIcB_fblockOfS21]
      rcases h.1.2 with h1 | h1
      · have ha' : a.isIc = true := ha
        rw [h1] at ha'; exact Bool.noConfusion ha'
      · exact h1
    · have := f21icOK_of (some it.block) rest h.2
      simpa [convF21, isIcB_fblockOfS21] using this

theorem fatomHtml_fatomOfS21 (a : FAtomS) (h : f21atomOKS a = true) : fatomHtml (fatomOfS a) = expFAtom a := by
  cases a with
  | txt cs =>
    exact write_spelled cs (fun t ht => charOK_printable t ((f21atomOKS_txt21 cs h).2 t ht))
  | code c =>
    simp only [fatomOfS, fatomHtml, expFAtom, GM.Proof.CMSpec.escHtml_eq_rawWrite]
  | em c => simp only [fatomOfS, fatomHtml, expFAtom, write_alnum11 c (alnumOK11 c h).2]
  | strong c => simp only [fatomOfS, fatomHtml, expFAtom, write_alnum11 c (alnumOK11 c h).2]
  | uem c => simp only [fatomOfS, fatomHtml, expFAtom, write_alnum11 c (alnumOK11 c h).2]
  | ustrong c => simp only [fatomOfS, fatomHtml, expFAtom, write_alnum11 c (alnumOK11 c h).2]
  | link t d =>
    have ht := (latomOKS_link16 t d h).1.2
    simp only [fatomOfS, fatomHtml, expFAtom, write_alnum11 t ht, escHtml_alnumH t ht]
  | img t d =>
    have ht := (imgatomOKS_img17 t d h).1.2
    simp only [fatomOfS, fatomHtml, expFAtom, write_alnum11 t ht, escHtml_alnumH t ht]
  | auto s r => rfl
  | otag n => rfl
  | ctag n => rfl

theorem frichLineHtml_fatomOfS21 (l : List FAtomS) (h : ∀ a ∈ l, f21atomOKS a = true) :
    frichLineHtml (l.map fatomOfS) = expFLineA l := by
  simp only [frichLineHtml, expFLineA, List.flatMap_map]
  induction l with
  | nil => rfl
  | cons a rest ih =>
    simp only [List.flatMap_cons]
    rw [fatomHtml_fatomOfS21 a (h a (by simp)), ih (fun x hx => h x (by simp [hx]))]

theorem fHtml_ofS21 (ls : List FLineS21) (h : ∀ x ∈ ls, ∀ a ∈ x.atoms, f21atomOKS a = true) :
    fHtml (ls.map flineOfS21) = expFLines21 ls := by
  induction ls with
  | nil => rfl
  | cons x rest ih =>
    have hx := frichLineHtml_fatomOfS21 x.atoms (h x (by simp))
    cases rest with
    | nil => simpa [fHtml, expFLines21, flineOfS21] using hx
    | cons y rest =>
      have ih' := ih (fun z hz => h z (by simp [hz]))
      have e1 : fHtml ((x :: y :: rest).map flineOfS21) =
          frichLineHtml (flineOfS21 x).atoms ++ (if (flineOfS21 x).hard then strBytes "<br />\n" else [10]) ++
            fHtml ((y :: rest).map flineOfS21) := rfl
      have e2 : expFLines21 (x :: y :: rest) =
          expFLineA x.atoms ++ (if x.hard then strBytes "<br />\n" else [10]) ++ expFLines21 (y :: rest) := rfl
      rw [e1, e2, ih']
      show frichLineHtml (x.atoms.map fatomOfS) ++ (if x.hard then strBytes "<br />\n" else [10]) ++ _ = _
      rw [hx]

theorem fBlockHtml_ofS21 (b : FBlockS21) (h : f21blockOKS b = true) : fBlockHtml (fblockOfS21 b) = expFBlock21 b := by
  cases b with
  | para lines =>
    simp only [f21blockOKS, Bool.and_eq_true, List.all_eq_true] at h
    simp only [fblockOfS21, fBlockHtml, expFBlock21,
      fHtml_ofS21 lines (fun x hx => f21lineOKS_atoms21 x.atoms (h.1.1.2 x hx))]
  | heading level text =>
    simp only [f21blockOKS, Bool.and_eq_true] at h
    simp only [fblockOfS21, fBlockHtml, expFBlock21,
      frichLineHtml_fatomOfS21 text (f21lineOKS_atoms21 text h.1.2)]
  | thematic c n => rfl
  | fcode tilde n info lines => exact rawHtml_spelled5 (.fcode tilde n info lines) h
  | icode lines => exact rawHtml_spelledI (.icode lines) h

theorem fDocHtml_ofS21 (d : F21Doc) (h : F21Frag d) :
    fDocHtml (d.items.map fun it => fblockOfS21 it.block) = expectedF21 d := by
  obtain ⟨hok, _⟩ := f21frag_parts d h
  simp only [fDocHtml, expectedF21, List.flatMap_map]
  apply flatMap_congr8
  intro it hit
  exact fBlockHtml_ofS21 it.block (hok it hit)

end GM.Proof.CMFrag
