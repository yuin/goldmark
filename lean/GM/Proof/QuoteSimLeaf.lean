import GM.Proof.QuoteSimRel
import GM.Proof.BlocksAtx

/-
  part Para — one-line-step simulation of the paragraph parser (parser/paragraph.go) and the
  shape every per-parser lemma has: `OpenSim` / `ContinueSim` / `CloseSim`.
-/
section Para
namespace GM.Blocks
open GM GM.Text GM.Spec GM.Proof.Reader

/-- the answers of `Open` in run A and run B: same state bits, no node or the same node (shifted id) -/
def OpenRel (a b : Option Nat × PState) : Prop :=
  b.2 = a.2 ∧ ((a.1 = none ∧ b.1 = none) ∨ ∃ n, n ≠ 0 ∧ a.1 = some n ∧ b.1 = some (n + 1))

/-- `Open` of a block parser is simulated: from related states inside line `k`, with parents `parent` /
    `parent + 1`, if it ends normally in A it does in B, with related answers, in related states further right
    on the same line. -/
def OpenSim (src : Bytes) (bp : BP) : Prop := ∀ k ls p parent sA sB, SR src k ls p sA sB →
  S2 (fun a b sA' sB' => OpenRel a b ∧ ∃ p', p ≤ p' ∧ SR src k ls p' sA' sB')
    (bpOpen bp parent sA) (bpOpen bp (parent + 1) sB)

def ContinueSim (src : Bytes) (bp : BP) : Prop := ∀ k ls p node sA sB, SR src k ls p sA sB →
  S2 (fun a b sA' sB' => b = a ∧ ∃ p', p ≤ p' ∧ SR src k ls p' sA' sB')
    (bpContinue bp node sA) (bpContinue bp (node + 1) sB)

def CloseSim (src : Bytes) (bp : BP) : Prop := ∀ k ls p node sA sB, SR src k ls p sA sB →
  S2 (fun _ _ sA' sB' => SR src k ls p sA' sB') (bpClose bp node sA) (bpClose bp (node + 1) sB)

theorem appendLine_s2 {src k ls p} {sA sB : St} (h : SR src k ls p sA sB) (id : Nat) {s t : Segment}
    (hst : SegRel src s t) (hne : s.start < s.stop ∨ rawK (sA.nodes.getD id default).kind = false) :
    S2 (fun _ _ sA' sB' => SR src k ls p sA' sB') (appendLine id s sA) (appendLine (id + 1) t sB) := by
  unfold appendLine
  refine modNode_s2' h id _ _ (fun hab => ?_)
  refine { hab with lines := SegsRel.append hab.lines hst, linesNil := rfl, rawNE := fun hr l hl => ?_ }
  rcases List.mem_append.mp hl with hl | hl
  · exact hab.rawNE hr l hl
  · simp only [List.mem_singleton] at hl
    rcases hne with hne | hne
    · rw [hl]; exact hne
    · rw [hne] at hr; cases hr

/-- `Lines().Append` of a segment of the current line that is not empty -/
theorem appendLine_in_s2 {src k ls p} {sA sB : St} (h : SR src k ls p sA sB) (id : Nat) {s : Segment}
    (hs : (p : Int) ≤ s.start) (hne : s.start < s.stop) (hst : s.stop ≤ lineEnd src ls) :
    S2 (fun _ _ sA' sB' => SR src k ls p sA' sB') (appendLine id s sA) (appendLine (id + 1) (shK k s) sB) :=
  appendLine_s2 h id
    (segRel_of_in ⟨h.r.inl.line, by have := h.r.inl.ge; omega, Int.le_of_lt hne, hst⟩ (by omega)) (.inl hne)

theorem paragraphOpen_sim (src : Bytes) : OpenSim src .paragraph := by
  intro k ls p parent sA sB h
  show S2 _ (paragraphOpen parent sA) (paragraphOpen (parent + 1) sB)
  unfold paragraphOpen
  refine S2.bind (peekLine_s2 h) (fun a b sA1 sB1 hq => ?_)
  obtain ⟨ha, hb, h1⟩ := hq
  subst ha hb
  refine S2.bind (source_s2 h1) (fun a b sA2 sB2 hq => ?_)
  obtain ⟨ha, hb, h2⟩ := hq
  rw [ha, hb]
  obtain ⟨t, e1, e2, t1, t2, t3, t4⟩ := trimLeftSpace_q (segA_in h.r.inl)
  refine S2.bind (P := fun a b sA' sB' => a = t ∧ b = shK k t ∧ SR src k ls p sA' sB')
    (S2.liftE (fun a ha => ⟨shK k t, e2, by rw [e1] at ha; cases ha; exact ⟨rfl, rfl, h2⟩⟩)) (fun a b sA3 sB3 hq => ?_)
  obtain ⟨ha, hb, h3⟩ := hq
  subst ha hb
  rw [shK_isEmpty]
  by_cases hc : a.isEmpty = true
  · rw [if_pos hc, if_pos hc]
    exact S2.pure ⟨⟨rfl, .inl ⟨rfl, rfl⟩⟩, p, Nat.le_refl _, h3⟩
  · rw [if_neg hc, if_neg hc]
    have hlt : a.start < a.stop := by
      simp only [Segment.isEmpty, t3, Bool.and_eq_true, decide_eq_true_eq, beq_self_eq_true, and_true] at hc
      omega
    have hst : a.stop = lineEnd src ls := by rw [t1]; rfl
    have hsa : (p : Int) ≤ a.start := by have : (segA src ls p).start = p := rfl; omega
    refine S2.bind (newNode_s2 h3 _ _ (nodeRel_new src { kind := .paragraph } rfl rfl rfl rfl (by decide)))
      (fun n m sA4 sB4 hq => ?_)
    obtain ⟨_, hm, hn0, h4⟩ := hq
    subst hm
    refine S2.bind (appendLine_in_s2 h4 n hsa hlt (Int.le_of_eq hst)) (fun _ _ sA5 sB5 h5 => ?_)
    refine S2.bind (advance_eol_s2 h5 hsa hlt hst t3) (fun _ _ sA6 sB6 h6 => ?_)
    exact S2.pure ⟨⟨rfl, .inr ⟨n, hn0, rfl, rfl⟩⟩, h6⟩

theorem paragraphContinue_sim (src : Bytes) : ContinueSim src .paragraph := by
  intro k ls p node sA sB h
  show S2 _ (paragraphContinue node sA) (paragraphContinue (node + 1) sB)
  unfold paragraphContinue
  refine S2.bind (peekLine_s2 h) (fun a b sA1 sB1 hq => ?_)
  obtain ⟨ha, hb, h1⟩ := hq
  subst ha hb
  simp only
  by_cases hc : isBlank ((viewA src ls p).getD []) = true
  · rw [if_pos hc, if_pos hc]
    exact S2.pure ⟨rfl, p, Nat.le_refl _, h1⟩
  · rw [if_neg hc, if_neg hc]
    have hplt : (p : Int) < lineEnd src ls :=
      Int.ofNat_lt.mpr (lt_of_viewA_ne fun e => hc (by rw [e]; rfl))
    refine S2.bind (appendLine_in_s2 h1 node (Int.le_refl _) hplt (Int.le_refl _)) (fun _ _ sA5 sB5 h5 => ?_)
    refine S2.bind (advance_eol_s2 h5 (Int.le_refl _) hplt rfl rfl) (fun _ _ sA6 sB6 h6 => ?_)
    exact S2.pure ⟨rfl, h6⟩

end GM.Blocks
end Para

/-
  part Tree — the tree operations of ast.go (RemoveChild, AppendChild, …) under the simulation
  relation, and paragraphParser.Close.
-/
section Tree
namespace GM.Blocks
open GM GM.Text GM.Spec GM.Proof.Reader

theorem map_succ_erase (l : List Nat) (c : Nat) : (l.map (· + 1)).erase (c + 1) = (l.erase c).map (· + 1) := by
  induction l with
  | nil => rfl
  | cons a l ih =>
    simp only [List.map_cons, List.erase_cons]
    by_cases h : a = c
    · subst h; simp
    · have h' : ¬ (a + 1 = c + 1) := by omega
      simp [h, h', ih]

theorem opt_succ_bne (o : Option Nat) (p : Nat) : (o.map (· + 1) != some (p + 1)) = (o != some p) := by
  cases o with
  | none => rfl
  | some q =>
    simp only [Option.map_some, bne, Option.some_beq_some]
    congr 1
    exact decide_eq_decide.mpr (by constructor <;> intro _ <;> omega)

theorem removeChild_s2 {src k ls p} {sA sB : St} (h : SR src k ls p sA sB) (q c : Nat) :
    S2 (fun _ _ sA' sB' => SR src k ls p sA' sB') (removeChild q c sA) (removeChild (q + 1) (c + 1) sB) := by
  unfold removeChild
  refine S2.bind (getNode_s2 h c) (fun a b sA1 sB1 hq => ?_)
  obtain ⟨hab, h1⟩ := hq
  by_cases hc0 : c = 0
  · subst hc0
    have hp := hab.parent
    simp only [beq_self_eq_true, if_true] at hp
    have e1 : (a.parent != some q) = true := by rw [hp.2]; rfl
    have e2 : (b.parent != some (q + 1)) = true := by rw [hp.1]; simp
    rw [if_pos e1, if_pos e2]
    exact S2.pure h1
  · have hc : (c == 0) = false := beq_eq_false_iff_ne.mpr hc0
    rw [hc] at hab
    have hp := hab.parent
    simp only [Bool.false_eq_true, if_false] at hp
    rw [hp, opt_succ_bne]
    by_cases hcond : (a.parent != some q) = true
    · rw [if_pos hcond, if_pos hcond]; exact S2.pure h1
    · rw [if_neg hcond, if_neg hcond]
      refine S2.bind (modNode_s2 h1 q _ _ (fun a b hab => ?_)) (fun _ _ sA2 sB2 h2 => ?_)
      · exact { hab with children := by simp only [hab.children, map_succ_erase] }
      · refine modNode_s2 h2 c _ _ (fun a b hab => ?_)
        rw [hc] at hab ⊢
        exact { hab with parent := by simp }

theorem ensureIsolated_s2 {src k ls p} {sA sB : St} (h : SR src k ls p sA sB) (c : Nat) (hc0 : c ≠ 0) :
    S2 (fun _ _ sA' sB' => SR src k ls p sA' sB') (ensureIsolated c sA) (ensureIsolated (c + 1) sB) := by
  unfold ensureIsolated
  refine S2.bind (getNode_s2 h c) (fun a b sA1 sB1 hq => ?_)
  obtain ⟨hab, h1⟩ := hq
  have hc : (c == 0) = false := beq_eq_false_iff_ne.mpr hc0
  rw [hc] at hab
  have hp := hab.parent
  simp only [Bool.false_eq_true, if_false] at hp
  rw [hp]
  cases a.parent with
  | none => exact S2.pure h1
  | some q => exact removeChild_s2 h1 q c

theorem appendChild_s2 {src k ls p} {sA sB : St} (h : SR src k ls p sA sB) (q c : Nat) (hc0 : c ≠ 0) :
    S2 (fun _ _ sA' sB' => SR src k ls p sA' sB') (appendChild q c sA) (appendChild (q + 1) (c + 1) sB) := by
  unfold appendChild
  refine S2.bind (ensureIsolated_s2 h c hc0) (fun _ _ sA1 sB1 h1 => ?_)
  refine S2.bind (modNode_s2 h1 q _ _ (fun a b hab => ?_)) (fun _ _ sA2 sB2 h2 => ?_)
  · exact { hab with children := by simp [hab.children] }
  · refine modNode_s2 h2 c _ _ (fun a b hab => ?_)
    have hc : (c == 0) = false := beq_eq_false_iff_ne.mpr hc0
    rw [hc] at hab ⊢
    exact { hab with parent := by simp }

theorem trimLeftAll_q {src} : ∀ {as bs : List Segment}, SegsRel src as bs → ∀ as', trimLeftAll src as = .ok as' →
    ∃ bs', trimLeftAll (quotePrefix src) bs = .ok bs' ∧ SegsRel src as' bs'
  | [], [], _, as', e => by
    simp only [trimLeftAll, pure, Except.pure] at e
    cases e
    exact ⟨[], rfl, trivial⟩
  | a :: as, b :: bs, ⟨h1, h2⟩, as', e => by
    obtain ⟨k, ls, hl, g1, g2, g3, hb⟩ := h1
    subst hb
    obtain ⟨t, e1, e2, t1, t2, t3, t4⟩ := trimLeftSpace_q (s := a) ⟨hl, g1, g2, g3⟩
    simp only [trimLeftAll, e1, bind, Except.bind] at e
    cases hrec : trimLeftAll src as with
    | error x => rw [hrec] at e; cases e
    | ok as1 =>
      rw [hrec] at e
      simp only [pure, Except.pure] at e
      cases e
      obtain ⟨bs1, e3, h3⟩ := trimLeftAll_q h2 as1 hrec
      refine ⟨shK k t :: bs1, ?_, ?_, h3⟩
      · simp only [trimLeftAll, e2, e3, bind, Except.bind, pure, Except.pure]
      · have hle : t.start ≤ t.stop := by
          have := trimLeftSpaceLength_le (sub src a.start.toNat a.stop.toNat)
          have hlen := length_sub src (a := a.start.toNat) (b := a.stop.toNat)
            (by have := lineEnd_le src ls; omega)
          omega
        exact ⟨k, ls, hl, by omega, hle, by omega, rfl⟩
  | [], _ :: _, h, _, _ => h.elim
  | _ :: _, [], h, _, _ => h.elim

theorem SegsRel.getElem {src} : ∀ {as bs : List Segment}, SegsRel src as bs → ∀ (i : Nat) a, as[i]? = some a →
    ∃ b, bs[i]? = some b ∧ SegRel src a b
  | [], [], _, i, a, e => by simp at e
  | a0 :: as, b0 :: bs, ⟨h1, h2⟩, i, a, e => by
    cases i with
    | zero => simp at e; subst e; exact ⟨b0, by simp, h1⟩
    | succ i => simp at e; simpa using SegsRel.getElem h2 i a e
  | [], _ :: _, h, _, _, _ => h.elim
  | _ :: _, [], h, _, _, _ => h.elim

theorem SegsRel.set {src} : ∀ {as bs : List Segment}, SegsRel src as bs → ∀ (i : Nat) {a b}, SegRel src a b →
    SegsRel src (as.set i a) (bs.set i b)
  | [], [], _, _, _, _, _ => trivial
  | a0 :: as, b0 :: bs, ⟨h1, h2⟩, i, a, b, hab => by
    cases i with
    | zero => exact ⟨hab, h2⟩
    | succ i => exact ⟨h1, SegsRel.set h2 i hab⟩
  | [], _ :: _, h, _, _, _, _ => h.elim
  | _ :: _, [], h, _, _, _, _ => h.elim

theorem lineAt_q {src} {as bs : List Segment} (h : SegsRel src as bs) (i : Int) (a : Segment)
    (e : lineAt as i = .ok a) : ∃ b, lineAt bs i = .ok b ∧ SegRel src a b := by
  unfold lineAt segAt at e ⊢
  by_cases hi : i < 0
  · rw [if_pos hi] at e; cases e
  · rw [if_neg hi] at e ⊢
    cases hg : as[i.toNat]? with
    | none => rw [hg] at e; cases e
    | some a0 =>
      rw [hg] at e; cases e
      obtain ⟨b, hb, hab⟩ := SegsRel.getElem h _ _ hg
      exact ⟨b, by rw [hb], hab⟩

theorem lineSet_q {src} {as bs : List Segment} (h : SegsRel src as bs) (i : Int) {a b : Segment} (hab : SegRel src a b)
    (as' : List Segment) (e : lineSet as i a = .ok as') :
    ∃ bs', lineSet bs i b = .ok bs' ∧ SegsRel src as' bs' := by
  unfold lineSet at e ⊢
  rw [SegsRel.length h]
  split at e
  · next hc => cases e; rw [if_pos hc]; exact ⟨_, rfl, SegsRel.set h _ hab⟩
  · cases e

theorem paragraphClose_tail {src k ls p} {sA sB : St} (h3 : SR src k ls p sA sB) (node : Nat) :
    S2 (fun _ _ sA' sB' => SR src k ls p sA' sB')
      ((do
        let n ← getNode node
        if (n.lines.length == 0) = true then
          match n.parent with
          | none => throw Panic.nil
          | some p => removeChild p node
        else pure () : M Unit) sA)
      ((do
        let n ← getNode (node + 1)
        if (n.lines.length == 0) = true then
          match n.parent with
          | none => throw Panic.nil
          | some p => removeChild p (node + 1)
        else pure () : M Unit) sB) := by
  refine S2.bind (getNode_s2 h3 node) (fun a' b' sA4 sB4 hq => ?_)
  obtain ⟨hab', h4⟩ := hq
  rw [SegsRel.length hab'.lines]
  by_cases hc : (a'.lines.length == 0) = true
  · rw [if_pos hc, if_pos hc]
    by_cases hn0 : node = 0
    · subst hn0
      have hp := hab'.parent
      simp only [beq_self_eq_true, if_true] at hp
      rw [hp.2]
      exact S2.throwL
    · have hcn : (node == 0) = false := beq_eq_false_iff_ne.mpr hn0
      rw [hcn] at hab'
      have hp := hab'.parent
      simp only [Bool.false_eq_true, if_false] at hp
      rw [hp]
      cases a'.parent with
      | none => exact S2.throwL
      | some q => exact removeChild_s2 h4 q node
  · rw [if_neg hc, if_neg hc]
    exact S2.pure h4

/-- `paragraphParser.Close` on a node that is not raw (the driver calls it on Paragraph nodes only: `AInv.pk`). On a raw
    node the trimming could empty a line, which the relation does not allow for raw nodes (`NodeRel.rawNE`). -/
theorem paragraphClose_sim' (src : Bytes) : ∀ k ls p node sA sB, SR src k ls p sA sB →
    rawK (sA.nodes.getD node default).kind = false →
    S2 (fun _ _ sA' sB' => SR src k ls p sA' sB') (bpClose .paragraph node sA) (bpClose .paragraph (node + 1) sB) := by
  intro k ls p node sA sB h hnr
  show S2 _ (paragraphClose node sA) (paragraphClose (node + 1) sB)
  unfold paragraphClose
  have eA : getNode node sA = .ok (sA.nodes.getD node default, sA) := rfl
  have eB : getNode (node + 1) sB = .ok (sB.nodes.getD (node + 1) default, sB) := rfl
  rw [bind_run eA, bind_run eB]
  have hab := h.n.node node
  have esA : source sA = .ok (sA.r.source, sA) := rfl
  have esB : source sB = .ok (sB.r.source, sB) := rfl
  rw [bind_run esA, bind_run esB, h.r.a.source, h.r.b.source]
  rw [SegsRel.length hab.lines]
  by_cases hc : ((sA.nodes.getD node default).lines.length != 0) = true
  · rw [if_pos hc, if_pos hc]
    refine S2.bind (P := fun x y sA' sB' => SegsRel src x y ∧ sA' = sA ∧ sB' = sB)
      (S2.liftE (fun x hx => ?_)) (fun x y sA4 sB4 hq => ?_)
    · obtain ⟨y, hy, hxy⟩ := trimLeftAll_q hab.lines x hx
      exact ⟨y, hy, hxy, rfl, rfl⟩
    · obtain ⟨hxy, e1, e2⟩ := hq
      subst e1 e2
      rw [SegsRel.length hxy]
      refine S2.bind (P := fun x' y' sA' sB' => SegRel src x' y' ∧ sA' = sA4 ∧ sB' = sB4)
        (S2.liftE (fun x' hx' => ?_)) (fun x' y' sA5 sB5 hq => ?_)
      · obtain ⟨y', hy', hxy'⟩ := lineAt_q hxy _ x' hx'
        exact ⟨y', hy', hxy', rfl, rfl⟩
      · obtain ⟨hxy', e1, e2⟩ := hq
        subst e1 e2
        obtain ⟨k1, ls1, hl, g1, g2, g3, hb1⟩ := hxy'
        subst hb1
        obtain ⟨t, e1, e2, t1, t2, t3⟩ := trimRightSpace_q (s := x') ⟨hl, g1, g2, g3⟩
        refine S2.bind (P := fun x'' y'' sA' sB' => SegRel src x'' y'' ∧ sA' = sA5 ∧ sB' = sB5)
          (S2.liftE (fun x'' hx'' => ?_)) (fun x'' y'' sA6 sB6 hq => ?_)
        · rw [e1] at hx''; cases hx''
          exact ⟨shK k1 t, e2, ⟨k1, ls1, hl, by omega, t3, by omega, rfl⟩, rfl, rfl⟩
        · obtain ⟨hxy'', e1, e2⟩ := hq
          subst e1 e2
          refine S2.bind (P := fun x3 y3 sA' sB' => SegsRel src x3 y3 ∧ sA' = sA6 ∧ sB' = sB6)
            (S2.liftE (fun x3 hx3 => ?_)) (fun x3 y3 sA7 sB7 hq => ?_)
          · obtain ⟨y3, hy3, hxy3⟩ := lineSet_q hxy _ hxy'' x3 hx3
            exact ⟨y3, hy3, hxy3, rfl, rfl⟩
          · obtain ⟨hxy3, e1, e2⟩ := hq
            subst e1 e2
            refine S2.bind (modNode_s2' h node _ _ (fun hab' => ?_)) (fun _ _ sA8 sB8 h8 => ?_)
            · exact { hab' with lines := hxy3, rawNE := fun hr => by rw [hnr] at hr; cases hr }
            · exact paragraphClose_tail h8 node
  · rw [if_neg hc, if_neg hc]
    exact paragraphClose_tail h node

end GM.Blocks
end Tree

/-
  part LeafA — one-line-step simulation of the thematic-break, blockquote and ATX-heading parsers,
  and of the `pure` Continue / Close functions.
-/
section LeafA
namespace GM.Blocks
open GM GM.Text GM.Spec GM.Proof.Reader

/-! ### parsers whose Continue / Close do nothing -/

theorem thematicContinue_sim (src : Bytes) : ContinueSim src .thematic := by
  intro k ls p node sA sB h
  exact S2.pure ⟨rfl, p, Nat.le_refl _, h⟩

theorem atxContinue_sim (src : Bytes) : ContinueSim src .atx := by
  intro k ls p node sA sB h
  exact S2.pure ⟨rfl, p, Nat.le_refl _, h⟩

theorem setextContinue_sim (src : Bytes) : ContinueSim src .setext := by
  intro k ls p node sA sB h
  exact S2.pure ⟨rfl, p, Nat.le_refl _, h⟩

theorem thematicClose_sim (src : Bytes) : CloseSim src .thematic := by
  intro k ls p node sA sB h
  exact S2.pure h

theorem atxClose_sim (src : Bytes) : CloseSim src .atx := by
  intro k ls p node sA sB h
  exact S2.pure h

theorem blockquoteClose_sim (src : Bytes) : CloseSim src .blockquote := by
  intro k ls p node sA sB h
  exact S2.pure h

theorem listItemClose_sim (src : Bytes) : CloseSim src .listItem := by
  intro k ls p node sA sB h
  exact S2.pure h

theorem htmlClose_sim (src : Bytes) : CloseSim src .html := by
  intro k ls p node sA sB h
  exact S2.pure h

/-! ### thematic_break.go -/

theorem viewA_tf_la {src : Bytes} (tf : ∀ c ∈ src, c ≠ 9) (ls p : Nat) : ∀ c ∈ (viewA src ls p).getD [], c ≠ 9 :=
  viewA_tf tf ls p

theorem thematicOpen_sim (src : Bytes) : OpenSim src .thematic := by
  intro k ls p parent sA sB h
  show S2 _ (thematicOpen parent sA) (thematicOpen (parent + 1) sB)
  unfold thematicOpen
  refine S2.bind (peekLine_s2 h) (fun a b sA1 sB1 hq => ?_)
  obtain ⟨ha, hb, h1⟩ := hq
  subst ha hb
  refine S2.bind (lineOffset_s2 h1) (fun oa ob sA2 sB2 hq => ?_)
  obtain ⟨ho, h2⟩ := hq
  rw [isThematicBreak_tf _ (viewA_tf_la h.r.tf ls p) ob oa]
  by_cases hc : isThematicBreak ((viewA src ls p).getD []) oa = true
  · rw [if_pos hc, if_pos hc]
    have hplt : (p : Int) < lineEnd src ls := Int.ofNat_lt.mpr (lt_of_viewA_ne fun e => by
      simp [e, isThematicBreak, indentWidthI, indentWidthGo, tbLoop] at hc)
    refine S2.bind (advance_eol_s2 h2 (Int.le_refl _) hplt rfl rfl) (fun _ _ sA3 sB3 ⟨p', hp', h3⟩ => ?_)
    refine S2.bind (newNode_s2 h3 _ _ (nodeRel_new src { kind := .thematicBreak } rfl rfl rfl rfl (by decide)))
      (fun n m sA4 sB4 hq => ?_)
    obtain ⟨_, hm, hn0, h4⟩ := hq
    subst hm
    exact S2.pure ⟨⟨rfl, .inr ⟨n, hn0, rfl, rfl⟩⟩, p', hp', h4⟩
  · rw [if_neg hc, if_neg hc]
    exact S2.pure ⟨⟨rfl, .inl ⟨rfl, rfl⟩⟩, p, Nat.le_refl _, h2⟩

theorem idx_ok_la {l : Bytes} {i : Int} {c : UInt8} (h : idx l i = .ok c) : 0 ≤ i ∧ l[i.toNat]? = some c := by
  unfold idx getByte at h
  split at h
  · cases h
  · split at h
    · next hb => cases h; exact ⟨by omega, hb⟩
    · cases h

/-- the byte read at index `i` of the peeked line is byte `p + i` of the source, inside line `k` -/
theorem idx_view_la {src : Bytes} {ls p : Nat} {i : Int} {c : UInt8} (h : idx ((viewA src ls p).getD []) i = .ok c) :
    0 ≤ i ∧ p + i.toNat < lineEnd src ls ∧ src[p + i.toNat]? = some c := by
  obtain ⟨h0, hb⟩ := idx_ok_la h
  rw [viewA_getElem?] at hb
  by_cases hlt : p + i.toNat < lineEnd src ls
  · rw [if_pos hlt] at hb; exact ⟨h0, hlt, hb⟩
  · rw [if_neg hlt] at hb; cases hb

/-! ### blockquote.go -/

theorem blockquoteProcess_sim {src k ls p} {sA sB : St} (h : SR src k ls p sA sB) :
    S2 (fun a b sA' sB' => b = a ∧ ∃ p', p ≤ p' ∧ SR src k ls p' sA' sB') (blockquoteProcess sA) (blockquoteProcess sB) := by
  unfold blockquoteProcess
  refine S2.bind (peekLine_s2 h) (fun a b sA1 sB1 hq => ?_)
  obtain ⟨ha, hb, h1⟩ := hq
  subst ha hb
  refine S2.bind (lineOffset_s2 h1) (fun oa ob sA2 sB2 hq => ?_)
  obtain ⟨ho, h2⟩ := hq
  simp only
  rw [indentWidthI_tf _ (viewA_tf_la h.r.tf ls p) ob oa]
  generalize hr : indentWidthI ((viewA src ls p).getD []) oa = r
  obtain ⟨w, pos⟩ := r
  simp only
  have hlen := viewA_length (src := src) ls p
  have hi := h.r.inl
  by_cases hc : (decide (w > 3) || decide (pos ≥ ↑(List.length ((viewA src ls p).getD [])))) = true
  · simp only [if_pos hc]
    exact S2.pure ⟨rfl, p, Nat.le_refl _, h2⟩
  simp only [if_neg hc]
  refine S2.bind_liftE (fun c hc1 => ?_)
  by_cases hc2 : (c != 62) = true
  · simp only [if_pos hc2]
    exact S2.pure ⟨rfl, p, Nat.le_refl _, h2⟩
  simp only [if_neg hc2]
  have hc62 : c = 62 := by simpa using hc2
  obtain ⟨hp0, hplt, hpb⟩ := idx_view_la hc1
  have hpn : (pos + 1).toNat = pos.toNat + 1 := by omega
  by_cases hc3 : pos + 1 ≥ ↑(List.length ((viewA src ls p).getD []))
  · simp only [if_pos hc3]
    refine S2.bind (advance_s2 h2 rfl (by omega) ?_) (fun _ _ sA4 sB4 h2 => ?_)
    · refine hi.adv_la (by omega) (by omega) (fun _ => ?_)
      rw [hpn, show p + (pos.toNat + 1) - 1 = p + pos.toNat by omega, hpb, hc62]; decide
    · exact S2.pure ⟨rfl, _, Nat.le_add_right _ _, h2⟩
  simp only [if_neg hc3]
  refine S2.bind_liftE (fun d hd1 => ?_)
  obtain ⟨_, hdlt, hdb⟩ := idx_view_la hd1
  rw [hpn] at hdlt hdb
  have hin1 : InL src k ls (p + (pos + 1).toNat) := by
    refine hi.adv_la (by omega) (by omega) (fun e => ?_)
    exfalso; omega
  by_cases hc4 : (d == 10) = true
  · simp only [if_pos hc4]
    refine S2.bind (advance_s2 h2 rfl (by omega) hin1) (fun _ _ sA5 sB5 h5 => ?_)
    exact S2.pure ⟨rfl, _, Nat.le_add_right _ _, h5⟩
  simp only [if_neg hc4]
  have hd10 : d ≠ 10 := by simpa using hc4
  refine S2.bind (advance_s2 h2 rfl (by omega) hin1) (fun _ _ sA5 sB5 h5 => ?_)
  have hd9 : (d == 9) = false := by
    have := h.r.tf d (List.mem_of_getElem? hdb)
    simpa using this
  rw [hd9]
  simp only [Bool.or_false, Bool.false_eq_true, if_false, pure_bind]
  by_cases hc5 : (d == 32) = true
  · simp only [if_pos hc5]
    refine S2.bind (advanceAndSetPadding_s2 h5 rfl rfl (by decide) (Int.le_refl _) ?_) (fun _ _ sA6 sB6 h6 => ?_)
    · refine hin1.adv_la (Nat.le_add_right _ _) ?_ (fun _ => ?_)
      · rw [hpn]; show p + (pos.toNat + 1) + 1 ≤ _; omega
      · rw [hpn]; show src[p + (pos.toNat + 1) + 1 - 1]? ≠ _
        rw [show p + (pos.toNat + 1) + 1 - 1 = p + (pos.toNat + 1) by omega, hdb]
        simpa using hd10
    · exact S2.pure ⟨rfl, _, by omega, h6⟩
  · simp only [if_neg hc5]
    exact S2.pure ⟨rfl, _, Nat.le_add_right _ _, h5⟩

theorem blockquoteOpen_sim (src : Bytes) : OpenSim src .blockquote := by
  intro k ls p parent sA sB h
  show S2 _ (blockquoteOpen parent sA) (blockquoteOpen (parent + 1) sB)
  unfold blockquoteOpen
  refine S2.bind (blockquoteProcess_sim h) (fun a b sA1 sB1 hq => ?_)
  obtain ⟨hb, p1, hp1, h1⟩ := hq
  subst hb
  by_cases hc : b = true
  · simp only [if_pos hc]
    refine S2.bind (newNode_s2 h1 _ _ (nodeRel_new src { kind := .blockquote } rfl rfl rfl rfl (by decide)))
      (fun n m sA2 sB2 hq => ?_)
    obtain ⟨_, hm, hn0, h2⟩ := hq
    subst hm
    exact S2.pure ⟨⟨rfl, .inr ⟨n, hn0, rfl, rfl⟩⟩, p1, hp1, h2⟩
  · simp only [if_neg hc]
    exact S2.pure ⟨⟨rfl, .inl ⟨rfl, rfl⟩⟩, p1, hp1, h1⟩

theorem blockquoteContinue_sim (src : Bytes) : ContinueSim src .blockquote := by
  intro k ls p node sA sB h
  show S2 _ (blockquoteContinue node sA) (blockquoteContinue (node + 1) sB)
  unfold blockquoteContinue
  refine S2.bind (blockquoteProcess_sim h) (fun a b sA1 sB1 hq => ?_)
  obtain ⟨hb, p1, hp1, h1⟩ := hq
  subst hb
  by_cases hc : b = true
  · simp only [if_pos hc]
    exact S2.pure ⟨rfl, p1, hp1, h1⟩
  · simp only [if_neg hc]
    exact S2.pure ⟨rfl, p1, hp1, h1⟩

/-! ### atx_heading.go -/

theorem sliceB_ok_inv_la {l : Bytes} {a b : Int} {v : Bytes} (h : sliceB l a b = .ok v) :
    0 ≤ a ∧ a ≤ b ∧ b ≤ l.length ∧ v = sub l a.toNat b.toNat := by
  unfold sliceB at h
  split at h
  · next hc => cases h; exact ⟨hc.1, hc.2.1, hc.2.2, rfl⟩
  · cases h

theorem sliceFrom_ok_eq {l : Bytes} {a : Int} {r : Bytes} (h : sliceFrom l a = .ok r) :
    0 ≤ a ∧ a ≤ l.length ∧ r = l.drop a.toNat := by
  unfold sliceFrom at h
  split at h
  · next hc => cases h; exact ⟨hc.1, hc.2, rfl⟩
  · cases h

/-- the Heading read off line `k` and the one read off the prefixed line: the text `[a, z)` of the view, when there is one, is
    stored as a segment of line `k` -/
theorem atxMk_rel {src k ls p} (hi : InL src k ls p) (pr : Int × Option (Int × Int))
    (hb : ∀ a z, pr.2 = some (a, z) → 0 ≤ a ∧ a < z ∧ z ≤ ((viewA src ls p).getD []).length) :
    NodeRel src false (atxMk (segA src ls p) pr) (atxMk (shK k (segA src ls p)) pr) := by
  obtain ⟨l, _ | ⟨a, z⟩⟩ := pr
  · exact nodeRel_new src _ rfl rfl rfl rfl (by show (-1 : Int) < 0; decide)
  · obtain ⟨h0, hlt, hz⟩ := hb a z rfl
    rw [viewA_length (src := src) ls p] at hz
    have hge := hi.ge
    have hle := hi.le
    have hin : SegIn src k ls ⟨(segA src ls p).start + a - (segA src ls p).padding,
                               (segA src ls p).start + z - (segA src ls p).padding, 0, false⟩ := by
      refine ⟨hi.line, ?_, ?_, ?_⟩ <;> simp only [segA] <;> omega
    have hseg := segRel_of_in hin (by simp only [segA]; omega)
    have e : (⟨(shK k (segA src ls p)).start + a - (shK k (segA src ls p)).padding,
               (shK k (segA src ls p)).start + z - (shK k (segA src ls p)).padding, 0, false⟩ : Segment) =
        shK k ⟨(segA src ls p).start + a - (segA src ls p).padding,
               (segA src ls p).start + z - (segA src ls p).padding, 0, false⟩ := by
      simp only [shK, segA, Segment.mk.injEq, and_true]
      omega
    refine ⟨rfl, rfl, rfl, ⟨by rw [e]; exact hseg, trivial⟩, rfl, rfl, rfl, rfl, rfl, rfl, rfl, trivial,
      .inl ⟨by show (-1 : Int) < 0; decide, rfl⟩, (fun hr => by cases hr), (fun i hi => by cases hi),
      (fun h => absurd h (by show ¬ (0 : Int) ≤ -1; decide)),
      (fun _ _ => rfl)⟩

/-- both runs read the same line at the same BlockOffset (`atxOpen_eq`): the same reading `atxScan`; no node in both, or the
    related Headings `atxMk_rel` -/
theorem atxOpen_sim (src : Bytes) : OpenSim src .atx := by
  intro k ls p parent sA sB h
  show S2 _ (atxOpen parent sA) (atxOpen (parent + 1) sB)
  intro x sA' eA
  rw [atxOpen_eq] at eA ⊢
  cases hpA : peekLine sA with
  | error e => rw [hpA] at eA; cases eA
  | ok xa =>
  obtain ⟨xA, sA1⟩ := xa
  obtain ⟨xB, sB1, hpB, hx, hy, h1⟩ := peekLine_s2 h _ _ hpA
  subst hx hy
  rw [hpA] at eA
  rw [hpB]
  simp only [Except.bind, h1.c.blockOffset] at eA ⊢
  rcases atxScan_ok ((viewA src ls p).getD []) sA1.pc.blockOffset with ho | ⟨tx, ho, hbo, _, htx⟩
  · rw [ho] at eA ⊢
    cases eA
    exact ⟨_, _, rfl, ⟨rfl, .inl ⟨rfl, rfl⟩⟩, p, Nat.le_refl _, h1⟩
  · rw [ho] at eA ⊢
    cases eA
    obtain ⟨_, _, e2, _, hm, hn0, h2⟩ := newNode_s2 h1 _ _
      (atxMk_rel (k := k) h1.r.inl (scanWhileEq ((viewA src ls p).getD []) 35 sA1.pc.blockOffset - sA1.pc.blockOffset, tx)
        (fun a z e => by obtain ⟨h1, h2, h3⟩ := htx a z e; exact ⟨by omega, h2, h3⟩)) _ _ rfl
    cases e2
    exact ⟨_, _, rfl, ⟨rfl, .inr ⟨_, hn0, rfl, by rw [hm]⟩⟩, p, Nat.le_refl _, h2⟩

end GM.Blocks
end LeafA
