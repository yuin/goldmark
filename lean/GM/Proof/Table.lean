import GM.Model.Table
import GM.Spec.Table

namespace GM.Proof.Table
open GM GM.Table

/-- the cells written in the source, counted from column `i`: each has a line and its column's alignment -/
def Written (aligns : List Align) (i : Nat) (w : List Cell) : Prop :=
  ∀ k c, w[k]? = some c → c.seg.isSome = true ∧ c.align = aligns.getD (i + k) Align.none

/-- the padding that follows `n` cells: none for a header, up to the column count for a body row -/
def padding (aligns : List Align) (isHeader : Bool) (n : Nat) : List Cell :=
  if isHeader then [] else List.replicate (aligns.length - n) padCell

theorem written_cons {aligns : List Align} {i : Nat} {c : Cell} {w : List Cell}
    (hc : c.seg.isSome = true ∧ c.align = aligns.getD i Align.none) (hw : Written aligns (i + 1) w) :
    Written aligns i (c :: w) := by
  intro k c' h
  cases k with
  | zero => simp at h; subst h; simpa using hc
  | succ k =>
    simp at h
    have := hw k c' h
    rw [show i + (k + 1) = i + 1 + k by omega]; exact this

/-- Shape of what the two loops of parseRow build from cell index `i` on: written cells, then padding. -/
theorem rowLoop_shape (src line : Bytes) (limit segStart : Nat) (aligns : List Align) (isHeader : Bool)
    (pos i : Nat) :
    ∃ w : List Cell,
      rowLoop src line limit segStart aligns isHeader pos i = w ++ padding aligns isHeader (i + w.length) ∧
      Written aligns i w ∧
      (isHeader = false → i ≤ aligns.length → i + w.length ≤ aligns.length) := by
  fun_induction rowLoop src line limit segStart aligns isHeader pos i with
  | case1 pos i h hret =>
    refine ⟨[], ?_, ?_, ?_⟩
    · simp at hret
      simp [padding, hret.2]; omega
    · intro k c h; simp at h
    · intro _ h; simpa using h
  | case2 pos i h hret alignment r ih =>
    obtain ⟨w, h1, h2, h3⟩ := ih
    refine ⟨{ align := alignment, seg := some (cellSeg src segStart pos r.fst), esc := r.snd } :: w, ?_, ?_, ?_⟩
    · rw [h1]; simp [show i + 1 + w.length = i + (w.length + 1) by omega]
    · exact written_cons ⟨rfl, rfl⟩ h2
    · intro hh hi
      simp [hh] at hret
      have := h3 hh (by omega)
      simp; omega
  | case3 pos i h hh =>
    exact ⟨[], by simp [padding, hh], by intro k c h; simp at h, by intro h; simp [hh] at h⟩
  | case4 pos i h hh =>
    refine ⟨[], ?_, by intro k c h; simp at h, by intro _ h; simpa using h⟩
    simp at hh
    simp [padding, hh]

theorem parseRow_shape (src : Bytes) (seg : Seg) (aligns : List Align) (isHeader : Bool) :
    ∃ w : List Cell,
      parseRow src seg aligns isHeader = w ++ padding aligns isHeader w.length ∧
      Written aligns 0 w ∧ (isHeader = false → w.length ≤ aligns.length) := by
  unfold parseRow
  obtain ⟨w, h1, h2, h3⟩ := rowLoop_shape src
    (Seg.value src ((seg.trimLeft src).trimRight src))
    (if (Seg.value src ((seg.trimLeft src).trimRight src)).getLast? = some 124
      then (Seg.value src ((seg.trimLeft src).trimRight src)).length - 1
      else (Seg.value src ((seg.trimLeft src).trimRight src)).length)
    ((seg.trimLeft src).trimRight src).start aligns isHeader
    (if (Seg.value src ((seg.trimLeft src).trimRight src)).head? = some 124 then 1 else 0) 0
  refine ⟨w, ?_, h2, ?_⟩
  · simpa using h1
  · intro hh; simpa using h3 hh (Nat.zero_le _)

/-- body rows: padded / truncated to the number of columns -/
theorem parseRow_len (src : Bytes) (seg : Seg) (aligns : List Align) :
    (parseRow src seg aligns false).length = aligns.length := by
  obtain ⟨w, h1, _, h3⟩ := parseRow_shape src seg aligns false
  have := h3 rfl
  rw [h1]; simp [padding]; omega

/-- header rows are never padded: all their cells are written in the source -/
theorem parseRow_header_written (src : Bytes) (seg : Seg) (aligns : List Align) :
    ∀ c ∈ parseRow src seg aligns true, c.seg.isSome = true := by
  obtain ⟨w, h1, h2, _⟩ := parseRow_shape src seg aligns true
  intro c hc
  rw [h1] at hc
  simp [padding] at hc
  obtain ⟨k, hk, rfl⟩ := List.getElem_of_mem hc
  exact (h2 k _ (by simp [hk])).1

/-- every cell of a row is a written cell carrying its column's alignment, or a padding cell -/
theorem parseRow_cell (src : Bytes) (seg : Seg) (aligns : List Align) (isHeader : Bool) (k : Nat) (c : Cell)
    (h : (parseRow src seg aligns isHeader)[k]? = some c) :
    (c.seg.isSome = true ∧ c.align = aligns.getD k Align.none) ∨ (c = padCell ∧ isHeader = false) := by
  obtain ⟨w, h1, h2, _⟩ := parseRow_shape src seg aligns isHeader
  rw [h1] at h
  by_cases hk : k < w.length
  · rw [List.getElem?_append_left hk] at h
    left; simpa using h2 k c h
  · rw [List.getElem?_append_right (by omega)] at h
    right
    cases isHeader with
    | true => simp [padding] at h
    | false =>
      simp only [padding, Bool.false_eq_true, if_false] at h
      have := List.mem_of_getElem? h
      simp at this
      exact ⟨this.2, rfl⟩

/-- cell `k` written in the source carries the alignment of column `k` -/
theorem parseRow_align (src : Bytes) (seg : Seg) (aligns : List Align) (isHeader : Bool) (k : Nat) (c : Cell)
    (h : (parseRow src seg aligns isHeader)[k]? = some c) (hw : c.seg.isSome = true) :
    c.align = aligns.getD k Align.none := by
  rcases parseRow_cell src seg aligns isHeader k c h with h | ⟨h, _⟩
  · exact h.2
  · subst h; simp [padCell] at hw

/-- padding cells only follow written cells: the cells written in the source form a prefix of the row -/
theorem parseRow_written_prefix (src : Bytes) (seg : Seg) (aligns : List Align) (isHeader : Bool) :
    ∃ n : Nat, ∀ (k : Nat) (c : Cell), (parseRow src seg aligns isHeader)[k]? = some c → (c.seg.isSome = true ↔ k < n) := by
  obtain ⟨w, h1, h2, _⟩ := parseRow_shape src seg aligns isHeader
  refine ⟨w.length, ?_⟩
  intro k c h
  rw [h1] at h
  by_cases hk : k < w.length
  · rw [List.getElem?_append_left hk] at h
    simp [hk, (h2 k c h).1]
  · rw [List.getElem?_append_right (by omega)] at h
    cases isHeader with
    | true => simp [padding] at h
    | false =>
      simp only [padding, Bool.false_eq_true, if_false] at h
      have := List.mem_of_getElem? h
      simp at this
      simp [hk, this.2, padCell]


theorem dashes1_head {s r : Bytes} (h : dashes1 s = some r) : (45 : UInt8) ∈ s := by
  cases s with
  | nil => simp [dashes1] at h
  | cons x xs =>
    simp only [dashes1] at h
    split at h
    · rename_i hx; simp at hx; simp [hx]
    · simp at h

theorem eat_tail {c : UInt8} {s r : Bytes} (h : eat c s = some r) : ∀ x ∈ r, x ∈ s := by
  cases s with
  | nil => simp [eat] at h
  | cons y ys =>
    simp only [eat] at h
    split at h
    · simp at h; subst h; intro x hx; simp [hx]
    · simp at h

theorem mem_skipWs {x : UInt8} {s : Bytes} (h : x ∈ skipWs s) : x ∈ s :=
  (List.dropWhile_suffix reSpace).subset h

theorem classify_dash {col : Bytes} {a : Align} (h : classify col = some a) : (45 : UInt8) ∈ col := by
  unfold classify at h
  have left : tableDelimLeft col = true → (45 : UInt8) ∈ col := by
    unfold tableDelimLeft
    split
    · rename_i r hr
      split
      · rename_i r2 hr2; intro _; exact mem_skipWs (eat_tail hr _ (dashes1_head hr2))
      · simp
    · simp
  have right : tableDelimRight col = true → (45 : UInt8) ∈ col := by
    unfold tableDelimRight
    split
    · rename_i r hr; intro _; exact mem_skipWs (dashes1_head hr)
    · simp
  have center : tableDelimCenter col = true → (45 : UInt8) ∈ col := by
    unfold tableDelimCenter
    split
    · rename_i r hr
      split
      · rename_i r2 hr2; intro _; exact mem_skipWs (eat_tail hr _ (dashes1_head hr2))
      · simp
    · simp
  have nonee : tableDelimNone col = true → (45 : UInt8) ∈ col := by
    unfold tableDelimNone
    split
    · rename_i r hr; intro _; exact mem_skipWs (dashes1_head hr)
    · simp
  split at h
  · exact left ‹_›
  · split at h
    · exact right ‹_›
    · split at h
      · exact center ‹_›
      · split at h
        · exact nonee ‹_›
        · simp at h

theorem splitPipe_ne_nil (l : Bytes) : splitPipe l ≠ [] := by
  cases l with
  | nil => simp [splitPipe]
  | cons c cs =>
    simp only [splitPipe]
    split
    · simp
    · split <;> simp

theorem splitPipe_mem (l : Bytes) : ∀ col ∈ splitPipe l, ∀ x ∈ col, x ∈ l := by
  induction l with
  | nil => intro col h x hx; simp [splitPipe] at h; subst h; simp at hx
  | cons c cs ih =>
    intro col h x hx
    simp only [splitPipe] at h
    split at h
    · simp at h
      rcases h with rfl | h
      · simp at hx
      · exact List.mem_cons_of_mem _ (ih col h x hx)
    · split at h
      · rename_i hd tl heq
        simp at h
        rcases h with rfl | h
        · simp at hx
          rcases hx with rfl | hx
          · simp
          · exact List.mem_cons_of_mem _ (ih hd (by simp [heq]) x hx)
        · exact List.mem_cons_of_mem _ (ih col (by simp [heq, h]) x hx)
      · rename_i heq
        exact absurd heq (splitPipe_ne_nil cs)

theorem classifyAll_some {cols : List Bytes} {al : List Align} (h : classifyAll cols = some al) :
    al.length = cols.length ∧ ∀ col ∈ cols, (45 : UInt8) ∈ col := by
  induction cols generalizing al with
  | nil => simp [classifyAll] at h; subst h; simp
  | cons c cs ih =>
    simp only [classifyAll] at h
    split at h
    · simp at h
    · rename_i a ha
      split at h
      · simp at h
      · rename_i as has
        simp at h; subst h
        obtain ⟨h1, h2⟩ := ih has
        refine ⟨by simp [h1], ?_⟩
        intro col hcol
        simp at hcol
        rcases hcol with rfl | hcol
        · exact classify_dash ha
        · exact h2 col hcol

/-- A delimiter row yields at least one column and contains a `-`. -/
theorem parseDelimiter_some {line : Bytes} {al : List Align} (h : parseDelimiter line = some al) :
    al ≠ [] ∧ (45 : UInt8) ∈ line ∧ isTableDelim line = true := by
  unfold parseDelimiter at h
  split at h
  · simp at h
  · rename_i hd
    simp at hd
    simp only at h
    split at h
    · simp at h
    · simp at h
    · rename_i al' hne hcls
      simp at h; subst h
      refine ⟨by simpa using hne, ?_, hd⟩
      obtain ⟨hlen, hmem⟩ := classifyAll_some hcls
      -- the surviving columns are columns of the split
      generalize hc1 : (if isBlank ((splitPipe line).headD []) = true then (splitPipe line).tail else splitPipe line) = c1 at hcls hlen hmem
      have sub1 : ∀ col ∈ c1, col ∈ splitPipe line := by
        intro col hcol; rw [← hc1] at hcol
        split at hcol
        · exact List.mem_of_mem_tail hcol
        · exact hcol
      generalize hc2 : (if (!c1.isEmpty && isBlank (c1.getLastD [])) = true then c1.dropLast else c1) = c2 at hcls hlen hmem
      have sub2 : ∀ col ∈ c2, col ∈ c1 := by
        intro col hcol; rw [← hc2] at hcol
        split at hcol
        · exact (List.dropLast_subset c1) hcol
        · exact hcol
      cases c2 with
      | nil => simp at hlen; exact absurd hlen (by simpa using hne)
      | cons col rest =>
        have hd45 := hmem col (by simp)
        exact splitPipe_mem line col (sub1 col (sub2 col (by simp))) 45 hd45


/-- the shape invariant of a table built by Transform -/
structure WellShaped (t : GM.Table.Table) : Prop where
  cols : t.aligns ≠ []
  header_len : t.header.length = t.aligns.length
  header_cells : ∀ k c, t.header[k]? = some c → c.seg.isSome = true ∧ c.align = t.aligns.getD k Align.none
  row_len : ∀ r ∈ t.rows, r.length = t.aligns.length
  row_cells : ∀ r ∈ t.rows, ∀ k c, r[k]? = some c →
    (c.seg.isSome = true ∧ c.align = t.aligns.getD k Align.none) ∨ c = padCell

theorem findTable_wellShaped (src : Bytes) (all before : List Seg) (prev : Seg) (rest : List Seg)
    (t : GM.Table.Table) (h : (findTable src all before prev rest).table = some t) : WellShaped t := by
  induction rest generalizing before prev with
  | nil => simp [findTable] at h
  | cons cur rest ih =>
    simp only [findTable] at h
    split at h
    · exact ih _ _ h
    · rename_i aligns hd
      split at h
      · simp at h
      · rename_i hlen
        simp at hlen
        simp at h; subst h
        refine ⟨(parseDelimiter_some hd).1, hlen.symm, ?_, ?_, ?_⟩
        · intro k c hk
          rcases parseRow_cell src prev aligns true k c hk with h | ⟨_, h⟩
          · exact h
          · simp at h
        · intro r hr
          simp at hr
          obtain ⟨l, _, rfl⟩ := hr
          exact parseRow_len src l aligns
        · intro r hr k c hk
          simp at hr
          obtain ⟨l, _, rfl⟩ := hr
          rcases parseRow_cell src l aligns false k c hk with h | ⟨h, _⟩
          · exact Or.inl h
          · exact Or.inr h

theorem transform_wellShaped (src : Bytes) (lines : List Seg) (t : GM.Table.Table)
    (h : (transform src lines).table = some t) : WellShaped t := by
  unfold transform at h
  split at h
  · simp at h
  · exact findTable_wellShaped _ _ _ _ _ _ h

/-- lines that are not delimiter rows are skipped -/
theorem findTable_skip (src : Bytes) (all : List Seg) (mid : List Seg) (before : List Seg) (prev hdr : Seg)
    (tail : List Seg) (hmid : ∀ l ∈ mid, parseDelimiter (l.value src) = Option.none)
    (hhdr : parseDelimiter (hdr.value src) = Option.none) :
    findTable src all before prev (mid ++ hdr :: tail) = findTable src all (before ++ prev :: mid) hdr tail := by
  induction mid generalizing before prev with
  | nil => simp [findTable, hhdr]
  | cons m ms ih =>
    have hm := hmid m (by simp)
    simp only [List.cons_append, findTable, hm]
    rw [ih _ _ (fun l hl => hmid l (by simp [hl]))]
    simp

/-- Transform on a paragraph whose first delimiter row (looking at lines 1, 2, …) is `dl`, preceded by `hdr`. -/
theorem transform_first_delim (src : Bytes) (pre : List Seg) (hdr dl : Seg) (rest : List Seg) (al : List Align)
    (hpre : ∀ l ∈ (pre ++ [hdr]).tail, parseDelimiter (l.value src) = Option.none)
    (hdl : parseDelimiter (dl.value src) = some al) :
    transform src (pre ++ hdr :: dl :: rest) =
      if al.length != (parseRow src hdr al true).length then
        { para := pre ++ hdr :: dl :: rest, table := Option.none }
      else
        { para := trimLastNewline pre,
          table := some { aligns := al, header := parseRow src hdr al true,
                          rows := rest.map fun l => parseRow src l al false } } := by
  cases pre with
  | nil => simp [transform, findTable, hdl]
  | cons first mid =>
    simp only [List.cons_append, transform]
    rw [findTable_skip src _ mid [] first hdr (dl :: rest)
      (fun l hl => hpre l (by simp [hl])) (hpre hdr (by simp))]
    simp [findTable, hdl]

/-- the alignment a cell shows under the configured method -/
def vis (m : AlignMethod) (a : Align) : Align := if m == .nothing then Align.none else a

def toS (m : AlignMethod) (c : Cell) : Spec.Table.SCell := { a := vis m c.align, content := c.seg }

theorem renderCell_eq (m : AlignMethod) (th : Bool) (c : Cell) :
    renderCell m th c = Spec.Table.cellToks th (toS m c) := by
  simp [renderCell, Spec.Table.cellToks, toS, vis]

theorem cells_flatMap (m : AlignMethod) (th : Bool) (cs : List Cell) :
    cs.flatMap (renderCell m th) = (cs.map (toS m)).flatMap (Spec.Table.cellToks th) := by
  induction cs with
  | nil => rfl
  | cons c cs ih => simp [renderCell_eq, ih]

/-- body rows: each is `<tr>…</tr>`, the last one also closes `<tbody>` -/
theorem renderChildren_rows (m : AlignMethod) (rows : List (List Cell)) (hne : rows ≠ []) :
    renderChildren m (rows.map fun r => ({ isHeader := false, cells := r } : RowNode)) =
      (rows.map (List.map (toS m))).flatMap Spec.Table.rowToks ++ [Tok.tbodyClose] := by
  induction rows with
  | nil => exact absurd rfl hne
  | cons r rs ih =>
    cases rs with
    | nil => simp [renderChildren, renderRowNode, Spec.Table.rowToks, cells_flatMap]
    | cons r2 rs =>
      have := ih (by simp)
      simp only [List.map_cons] at this ⊢
      simp only [renderChildren] at this ⊢
      rw [this]
      simp [renderRowNode, Spec.Table.rowToks, cells_flatMap]

theorem renderSkeleton_eq (m : AlignMethod) (t : GM.Table.Table) :
    renderSkeleton m t =
      [Tok.tableOpen, Tok.theadOpen, Tok.trOpen] ++ (t.header.map (toS m)).flatMap (Spec.Table.cellToks true)
        ++ [Tok.trClose, Tok.theadClose] ++ Spec.Table.bodyToks (t.rows.map (List.map (toS m))) ++ [Tok.tableClose] := by
  unfold renderSkeleton renderNodes GM.Table.Table.children
  cases hr : t.rows with
  | nil => simp [renderChildren, renderRowNode, Spec.Table.bodyToks, cells_flatMap]
  | cons r rs =>
    simp only [renderChildren]
    rw [renderChildren_rows m (r :: rs) (by simp)]
    simp [renderRowNode, Spec.Table.bodyToks, cells_flatMap]

theorem rowFits_of_pointwise (r : List Spec.Table.SCell) (cols : List Align) (hlen : r.length = cols.length)
    (h : ∀ k c, r[k]? = some c → Spec.Table.cellFits c (cols.getD k Align.none)) : Spec.Table.rowFits r cols := by
  induction r generalizing cols with
  | nil => cases cols <;> simp_all [Spec.Table.rowFits]
  | cons c r ih =>
    cases cols with
    | nil => simp at hlen
    | cons col cols =>
      refine ⟨by simpa using h 0 c (by simp), ih cols (by simpa using hlen) ?_⟩
      intro k c' hk
      simpa using h (k + 1) c' (by simpa using hk)

theorem rendered_rectangular_of_wellShaped (m : AlignMethod) (t : GM.Table.Table) (h : WellShaped t) :
    Spec.Table.Rectangular (t.aligns.map (vis m)) (renderSkeleton m t) := by
  refine ⟨t.header.map (toS m), t.rows.map (List.map (toS m)), ?_, ?_, ?_, renderSkeleton_eq m t⟩
  · apply List.ext_getElem?
    intro k
    simp only [List.getElem?_map]
    cases hk : t.header[k]? with
    | none =>
      have : t.aligns[k]? = Option.none := by
        rw [List.getElem?_eq_none_iff] at hk ⊢; rw [← h.header_len]; exact hk
      simp [this]
    | some c =>
      have hlt : k < t.aligns.length := by
        rw [← h.header_len]; exact (List.getElem?_eq_some_iff.mp hk).1
      have := (h.header_cells k c hk).2
      simp [toS, this, List.getD_eq_getElem?_getD, List.getElem?_eq_getElem hlt]
  · intro c hc
    simp at hc
    obtain ⟨c', hc', rfl⟩ := hc
    obtain ⟨k, hk, rfl⟩ := List.getElem_of_mem hc'
    have := (h.header_cells k t.header[k] (by simp [hk])).1
    intro hnone
    simp [toS] at hnone
    simp [hnone] at this
  · intro r hr
    simp at hr
    obtain ⟨r', hr', rfl⟩ := hr
    apply rowFits_of_pointwise
    · simp [h.row_len r' hr']
    · intro k c hk
      simp only [List.getElem?_map] at hk
      cases hk' : r'[k]? with
      | none => simp [hk'] at hk
      | some c' =>
        simp [hk'] at hk; subst hk
        have hlt : k < t.aligns.length := by
          rw [← h.row_len r' hr']; exact (List.getElem?_eq_some_iff.mp hk').1
        rcases h.row_cells r' hr' k c' hk' with ⟨_, ha⟩ | hp
        · left
          simp [toS, ha, List.getD_eq_getElem?_getD, List.getElem?_eq_getElem hlt]
        · right
          subst hp
          simp [toS, padCell, vis]


section counts
open GM.Spec.Table

/-- predicates that do not look at a cell's alignment or content -/
structure Uniform (p : Tok → Bool) : Prop where
  cell : ∀ th a, p (Tok.cellOpen th a) = p (Tok.cellOpen th Align.none)
  content : ∀ s, p (Tok.content s) = p (Tok.content Option.none)

def b (p : Tok → Bool) (t : Tok) : Nat := if p t then 1 else 0

def cellCount (p : Tok → Bool) (th : Bool) : Nat :=
  b p (Tok.cellOpen th Align.none) + b p (Tok.content Option.none) + b p (Tok.cellClose th)

theorem countP_cell (p : Tok → Bool) (hp : Uniform p) (th : Bool) (c : SCell) :
    (cellToks th c).countP p = cellCount p th := by
  simp [cellToks, List.countP_cons, cellCount, b, hp.cell th c.a, hp.content c.content]; omega

theorem countP_cells (p : Tok → Bool) (hp : Uniform p) (th : Bool) (cs : List SCell) :
    (cs.flatMap (cellToks th)).countP p = cellCount p th * cs.length := by
  induction cs with
  | nil => simp
  | cons c cs ih =>
    simp only [List.flatMap_cons, List.countP_append, ih, countP_cell p hp, List.length_cons, Nat.mul_succ]; omega

def rowCount (p : Tok → Bool) (n : Nat) : Nat := b p Tok.trOpen + cellCount p false * n + b p Tok.trClose

theorem countP_row (p : Tok → Bool) (hp : Uniform p) (r : List SCell) :
    (rowToks r).countP p = rowCount p r.length := by
  simp [rowToks, List.countP_cons, List.countP_append, countP_cells p hp, rowCount, b]; omega

theorem countP_rows (p : Tok → Bool) (hp : Uniform p) (rows : List (List SCell)) (n : Nat)
    (hlen : ∀ r ∈ rows, r.length = n) :
    (rows.flatMap rowToks).countP p = rowCount p n * rows.length := by
  induction rows with
  | nil => simp
  | cons r rs ih =>
    simp only [List.flatMap_cons, List.countP_append, List.length_cons]
    rw [ih (fun r hr => hlen r (by simp [hr])), countP_row p hp, hlen r (by simp), Nat.mul_succ]; omega

theorem countP_rect (cols : List Align) (toks : List Tok) (h : Rectangular cols toks) :
    ∃ nrows : Nat, ∀ (p : Tok → Bool), Uniform p → toks.countP p =
      b p Tok.tableOpen + b p Tok.theadOpen + b p Tok.trOpen + cellCount p true * cols.length + b p Tok.trClose + b p Tok.theadClose
      + (if nrows = 0 then 0 else b p Tok.tbodyOpen + rowCount p cols.length * nrows + b p Tok.tbodyClose) + b p Tok.tableClose := by
  obtain ⟨hdr, body, h1, _, h3, rfl⟩ := h
  have hl : hdr.length = cols.length := by rw [← h1]; simp
  have rl : ∀ r ∈ body, r.length = cols.length := fun r hr => rowFits_length (h3 r hr)
  refine ⟨body.length, ?_⟩
  intro p hp
  cases body with
  | nil => simp [bodyToks, List.countP_cons, List.countP_append, countP_cells p hp, hl, b]; omega
  | cons r rs =>
    simp only [bodyToks, List.countP_append, countP_rows p hp (r :: rs) cols.length rl, countP_cells p hp, hl]
    simp [List.countP_cons, b]; omega


/-- The grammar in counting terms: one `<table>`, one `<thead>`, at most one `<tbody>` (present iff there is a
    body row), `1 + nrows` rows, `n` header cells and `nrows * n` body cells. -/
theorem rectangular_counts (cols : List Align) (toks : List Tok) (h : Rectangular cols toks) :
    ∃ nrows : Nat,
      toks.count Tok.tableOpen = 1 ∧ toks.count Tok.theadOpen = 1 ∧
      toks.count Tok.tbodyOpen = (if nrows = 0 then 0 else 1) ∧ toks.count Tok.tbodyClose = (if nrows = 0 then 0 else 1) ∧
      toks.count Tok.trOpen = 1 + nrows ∧
      toks.countP (isCell true) = cols.length ∧ toks.countP (isCell false) = nrows * cols.length := by
  obtain ⟨nrows, hc⟩ := countP_rect cols toks h
  have u : ∀ t : Tok, (∀ th a, t ≠ Tok.cellOpen th a) → (∀ s, t ≠ Tok.content s) → Uniform (· == t) := by
    intro t h1 h2
    constructor
    · intro th a
      have e1 : (Tok.cellOpen th a == t) = false := by simpa using fun h => h1 th a h.symm
      have e2 : (Tok.cellOpen th Align.none == t) = false := by simpa using fun h => h1 th Align.none h.symm
      rw [e1, e2]
    · intro s
      have e1 : (Tok.content s == t) = false := by simpa using fun h => h2 s h.symm
      have e2 : (Tok.content Option.none == t) = false := by simpa using fun h => h2 Option.none h.symm
      rw [e1, e2]
  have ucell : ∀ th, Uniform (isCell th) := fun th => ⟨fun _ _ => rfl, fun _ => rfl⟩
  refine ⟨nrows, ?_, ?_, ?_, ?_, ?_, ?_, ?_⟩
  · rw [List.count_eq_countP, hc _ (u _ (by simp) (by simp))]
    by_cases hn : nrows = 0 <;> simp [hn, b, cellCount, rowCount]
  · rw [List.count_eq_countP, hc _ (u _ (by simp) (by simp))]
    by_cases hn : nrows = 0 <;> simp [hn, b, cellCount, rowCount]
  · rw [List.count_eq_countP, hc _ (u _ (by simp) (by simp))]
    by_cases hn : nrows = 0 <;> simp [hn, b, cellCount, rowCount]
  · rw [List.count_eq_countP, hc _ (u _ (by simp) (by simp))]
    by_cases hn : nrows = 0 <;> simp [hn, b, cellCount, rowCount]
  · rw [List.count_eq_countP, hc _ (u _ (by simp) (by simp))]
    by_cases hn : nrows = 0 <;> simp [hn, b, cellCount, rowCount]
  · rw [hc _ (ucell true)]
    by_cases hn : nrows = 0 <;> simp [hn, b, cellCount, rowCount, isCell]
  · rw [hc _ (ucell false)]
    by_cases hn : nrows = 0 <;> simp [hn, b, cellCount, rowCount, isCell, Nat.mul_comm]


end counts

end GM.Proof.Table
