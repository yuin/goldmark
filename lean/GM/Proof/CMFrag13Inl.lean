/-
  GM.Proof.CMFrag13Inl — the inline phase of stages 9, 11, 13, 20 on a line that lies anywhere in the source and that `classify`
  may shorten: a backslash hard break, `processDelimiters` on the items of one delimiter byte (`runC_itemsC`), text and
  delimiter runs of `*` and `_` (`star_stepC`, `em_stepC`); the inline facts `U13InlG` and the spec-side blocks of stage 13
  as proof-side blocks (`ublockOfS`).
-/
import GM.Proof.CMFrag13Defs
import GM.Proof.CMFragGen
import GM.Proof.CMFragRender8
import GM.Proof.CMFragRep
import GM.Proof.CMFrag6Main
import GM.Proof.CMFragMain
import GM.Proof.CMFrag9Defs
import GM.Proof.CMFrag11Inl
import GM.Proof.CMFrag20Defs

/-
  section CMFrag13Main — stage 13, the union of the stages up to 12: the inline facts `U13InlG` its theorems inside one block
  quote are stated over. They hold (`u13InlG_holds`), and the lines and blocks of stage 13 are lines and blocks of stage 21
  (GM.Proof.CMFragStagesRaw).
-/
section CMFrag13Main
namespace GM.Proof.CMFrag
open GM GM.Text GM.Blocks GM.Spec

/-- the inline facts of the union fragment, position-list form -/
def U13InlG : Prop :=
  ∀ (env : GM.Inl.Env), env.escapedSpace = false → ∀ (ls : List ULine), ls ≠ [] → ULinesOK ls →
    ParaDTG env (ls.map ulineSrc) (uNodes ls)

end GM.Proof.CMFrag
end CMFrag13Main

/-
  section CMFrag13Bridge — stage 13: a spec-side block of `UDocS` (GM.Spec.CMFrag) as a proof-side block `UBlock`
  (GM.Proof.CMFrag13Defs): `ublockOfS`. (The conformance of stage 13 does not go through these blocks: a stage-13 document
  is a stage-21 document, GM.Proof.CMFragStagesBlock.)
-/
section CMFrag13Bridge
namespace GM.Proof.CMFrag
open GM GM.Text GM.Blocks GM.Spec GM.Spec.CM GM.Spec.CMFrag

def ulineOfS (x : ULineS) : ULine := ⟨x.atoms.map eatomOfS, x.hard⟩

def ublockOfS : UBlockS → UBlock
  | .para lines => .para (lines.map ulineOfS)
  | .heading level text => .atx level (text.map eatomOfS)
  | .thematic c n => .hr (thematicLine c n false)
  | .fcode tilde n info lines => .fence (fenceChar tilde) n info lines
  | .icode lines => .icode lines

theorem ufrag_parts13 (d : UDocS) (h : UFrag d) :
    (∀ it ∈ d.items, ublockOKS it.block = true) ∧ usepsOK none d.items = true := by
  unfold UFrag ufragB at h
  simp only [Bool.and_eq_true, List.all_eq_true] at h
  exact h

theorem isParaB_ublockOfS13 (a : UBlockS) :
    isParaB (uraw (ublockOfS a)) = (match a with | .para _ => true | _ => false) := by
  cases a <;> rfl

end GM.Proof.CMFrag
end CMFrag13Bridge

/-
  section CMFrag9Inl — a line that ends in a HARD LINE BREAK written with a backslash: `classify` shortens such a line by
  the backslash and the line feed and sets the hard + visible flags (`classify_bs9`).
-/
section CMFrag9Inl
namespace GM.Proof.CMFrag
open GM GM.Text GM.Inl

/-! ### the block phase's view of a line -/

theorem hlineSrc_ne9 (x : HLine) (h : GoodLine x.l) : hlineSrc x ≠ [] := by
  unfold hlineSrc
  cases x.hard
  · simpa using h.ne
  · simp

/-! ### classify on a line that ends in one backslash and the line feed -/

theorem trailingBackslashes_bs9 (l0 : Bytes) (c : UInt8) (h : c ≠ 92) :
    trailingBackslashes (l0 ++ [c] ++ [92]) = 1 := by
  simp [trailingBackslashes, h]

theorem classify_bs9 (l0 : Bytes) (c : UInt8) (hb : c ≠ 92) :
    classify (l0 ++ [c] ++ [92] ++ [10]) = (l0.length + 1, 5) := by
  have e1 : (l0 ++ [c] ++ [92] ++ [10])[(l0 ++ [c] ++ [92] ++ [10]).length - 1]? = some 10 := by simp
  have e3 : List.take ((l0 ++ [c] ++ [92] ++ [10]).length - 1) (l0 ++ [c] ++ [92] ++ [10]) = l0 ++ [c] ++ [92] := by
    apply List.take_left'
    simp
  unfold classify
  simp only [e1, e3, trailingBackslashes_bs9 l0 c hb]
  simp

end GM.Proof.CMFrag
end CMFrag9Inl

/-
  section CMFrag13Inl — stage 13: a rich line that lies at an arbitrary position of the source and may end in a
  backslash hard break, so that `classify` shortens it (`cutOK_bs13`); the last text atom of a hard line (`hard_step13`). `processDelimiters` on the items of
  one delimiter byte (`runC_itemsC`), on segments of such items and plain nodes (`Seg21`, `processDelimiters_rawS21`:
  runs of different bytes never meet), and so on the children of the lines of a stage-13 paragraph.
-/
section CMFrag13Inl
namespace GM.Proof.CMFrag
open GM GM.Text GM.Inl

theorem cutOK_of_end13 {R : Bytes} (h : EndOK11 R) : CutOK13 R := by
  intro x
  exact ⟨R, by rw [h x, List.take_length]⟩

theorem cutOK_bs13 (l0 : Bytes) (c : UInt8) (hb : c ≠ 92) : CutOK13 (l0 ++ [c] ++ [92, 10]) := by
  intro x
  refine ⟨l0 ++ [c], ?_⟩
  have e : x ++ (l0 ++ [c] ++ [92, 10]) = (x ++ l0) ++ [c] ++ [92] ++ [10] := by simp
  rw [e, classify_bs9 _ c hb]
  have e2 : x ++ l0 ++ [c] ++ [92] ++ [10] = (x ++ (l0 ++ [c])) ++ [92, 10] := by simp
  rw [e2]
  apply List.take_left'
  simp; omega

/-! ### the last text atom of a hard line -/

theorem hard_step13 (env : Env) (henv : env.escapedSpace = false) (src : Bytes) (segs : List Segment) (L hd : Int)
    (j p m : Nat) (l l0 : Bytes) (c : UInt8) (seg' : Segment) (ks : List Inl.Node) (nid : Nat) (bs : List Bottom)
    (fuel : Nat) (hl : l = l0 ++ [c]) (hb : c ≠ 92) (hq : quiet l 0 false = true) (hm : m = l.length + 1)
    (hsub : sub src p (p + m + 1) = l ++ [92] ++ [10]) (hlen : p + m + 1 ≤ src.length)
    (hL : (p : Int) < L) (hnext : segs[j + 1]? = some seg') :
    lineLoop env (fuel + 1) false
      { rd := rdAt src segs L j { start := p, stop := (p : Int) + m + 1 } hd, kids := ks, nextId := nid,
        bottoms := bs } =
    lineLoop env fuel false
      { rd := rdAt src segs L (j + 1) seg' seg'.start,
        kids := ks ++ [.text { start := p, stop := (p : Int) + l.length } false true false], nextId := nid,
        bottoms := bs } := by
  subst hm
  exact eol_step env henv src segs L hd j p l l0 c [92, 10] [] l.length 5 _ seg' ks nid bs fuel hl hb hq (by simp)
    (by rw [hl, show l0 ++ [c] ++ [92, 10] = l0 ++ [c] ++ [92] ++ [10] by simp, classify_bs9 l0 c hb]; simp)
    (by simp) (Or.inl rfl) (by simp [eolText, pure, Except.pure]) (by simp; omega)
    (by simpa [Nat.add_assoc] using hsub) (by simpa [Nat.add_assoc] using hlen) hL hnext

/-! ### `processDelimiters` on the children of several lines -/

theorem runC_itemsC (ch : UInt8) (X : List Inl.Node) : ∀ (its : List RItem11) (pre : List Inl.Node), (∀ n ∈ pre, n.isDelim = false) →
    runC11 (advanceCloser pre (rawC ch its ++ X)) = runC11 (advanceCloser (pre ++ fin11 its) X)
  | [], pre, _ => by simp [rawC, fin11]
  | .text seg soft :: rest, pre, hp => by
    have ih := runC_itemsC ch X rest (pre ++ [.text seg soft false false]) (by
      intro n hn; simp at hn; rcases hn with hn | rfl
      · exact hp n hn
      · rfl)
    have e : rawC ch (.text seg soft :: rest) ++ X = .text seg soft false false :: (rawC ch rest ++ X) := by simp [rawC, RItem11.rawC]
    rw [e, advanceCloser_cons11 _ _ _ rfl, ih]
    simp [fin11, RItem11.fin]
  | .code seg :: rest, pre, hp => by
    have ih := runC_itemsC ch X rest (pre ++ [.codeSpan [.text seg false false true]]) (by
      intro n hn; simp at hn; rcases hn with hn | rfl
      · exact hp n hn
      · rfl)
    have e : rawC ch (.code seg :: rest) ++ X = .codeSpan [.text seg false false true] :: (rawC ch rest ++ X) := by
      simp [rawC, RItem11.rawC]
    rw [e, advanceCloser_cons11 _ _ _ rfl, ih]
    simp [fin11, RItem11.fin]
  | .emph oid cid so sc content two oc cc :: rest, pre, hp => by
    have ih := runC_itemsC ch X rest (pre ++ [.emphasis (elen11 two : Nat) [.text content false false false]]) (by
      intro n hn; simp at hn; rcases hn with hn | rfl
      · exact hp n hn
      · rfl)
    have e : rawC ch (.emph oid cid so sc content two oc cc :: rest) ++ X =
        .delim oid (mkDelimC ch so two true oc) :: .text content false false false ::
          .delim cid (mkDelimC ch sc two cc true) :: (rawC ch rest ++ X) := by
      simp [rawC, RItem11.rawC]
    have hpr : ∀ n ∈ pre.reverse, n.isDelim = false := fun n hn => hp n (by simpa using hn)
    -- the opening run as a closer: nothing in front of it
    have s1 : closerStep .nil pre oid (mkDelimC ch so two true oc)
        (.text content false false false :: .delim cid (mkDelimC ch sc two cc true) :: (rawC ch rest ++ X)) =
        .next (pre ++ [.delim oid (mkDelimC ch so two true oc), .text content false false false]) cid
          (mkDelimC ch sc two cc true) ((rawC ch rest ++ X)) := by
      unfold closerStep
      have hl : ¬ ((mkDelimC ch so two true oc).length < 1) := by cases two <;> simp [mkDelimC, elen11]
      rw [if_neg hl, findOpener_noDelim11 _ _ _ _ hpr]
      cases oc <;> simp [mkDelimC, advanceCloser, splitFirstDelim]
    -- the closing run finds it
    have s2 : closerStep .nil (pre ++ [.delim oid (mkDelimC ch so two true oc), .text content false false false]) cid
          (mkDelimC ch sc two cc true) ((rawC ch rest ++ X)) =
        advanceCloser (pre ++ [.emphasis (elen11 two : Nat) [.text content false false false]]) ((rawC ch rest ++ X)) := by
      unfold closerStep
      have hl : ¬ ((mkDelimC ch sc two cc true).length < 1) := by cases two <;> simp [mkDelimC, elen11]
      rw [if_neg hl]
      have hrev : (pre ++ [Node.delim oid (mkDelimC ch so two true oc), Node.text content false false false]).reverse =
          Node.text content false false false :: Node.delim oid (mkDelimC ch so two true oc) :: pre.reverse := by simp
      rw [hrev]
      cases two <;> cases oc <;> cases cc <;>
        simp [mkDelimC, elen11, findOpener, Delim.calcConsumption, Delim.consume, clearInner, Int.tmod]
    rw [e]
    show runC11 (advanceCloser pre (.delim oid (mkDelimC ch so two true oc) :: _)) = _
    have e0 : advanceCloser pre (.delim oid (mkDelimC ch so two true oc) :: .text content false false false ::
          .delim cid (mkDelimC ch sc two cc true) :: (rawC ch rest ++ X)) =
        .next pre oid (mkDelimC ch so two true oc)
          (.text content false false false :: .delim cid (mkDelimC ch sc two cc true) :: (rawC ch rest ++ X)) := by
      simp [advanceCloser, splitFirstDelim]
    rw [e0]
    simp only [runC11]
    rw [closerLoop_run11, s1]
    simp only [runC11]
    rw [closerLoop_run11, s2, ih]
    simp [fin11, RItem11.fin, runC11]

theorem processDelimiters_of_runC13 (kids fin : List Inl.Node) (hA : runC11 (advanceCloser [] kids) = .ok fin)
    (hnd : ∀ n ∈ fin, n.isDelim = false) : processDelimiters .nil kids = .ok fin := by
  have hfin : clearDelimiters .nil (fin) = fin := by
    unfold clearDelimiters
    rw [splitLastDelim_noDelim11 _ (hnd)]
  cases hf : splitFirstDelim (kids) with
  | none =>
    have hnd := GM.Proof.Inlines.splitFirstDelim_none hf
    simp only [advanceCloser, hf, runC11, List.nil_append] at hA
    unfold processDelimiters
    rw [splitLastDelim_noDelim11 _ hnd]
    exact hA
  | some x =>
    obtain ⟨pre, id, d, post⟩ := x
    simp only [advanceCloser, hf, runC11, List.nil_append] at hA
    unfold processDelimiters
    cases hl : splitLastDelim (kids) with
    | none =>
      have hnd := GM.Proof.InlinesDelims.splitLastDelim_none hl
      have := GM.Proof.Inlines.splitFirstDelim_eq hf
      have := hnd (.delim id d) (by rw [this]; simp)
      simp [Node.isDelim] at this
    | some y =>
      obtain ⟨preL, lastId, dl, postL⟩ := y
      simp only [hf, Option.map_some, splitAt_of_first11 _ _ _ _ _ hf, hA, hfin]

theorem closeLabelsL_append13 : ∀ (a b : List Inl.Node), closeLabelsL (a ++ b) = closeLabelsL a ++ closeLabelsL b
  | [], b => by simp [closeLabelsL]
  | n :: a, b => by simp [closeLabelsL, closeLabelsL_append13 a b]

/-! ### `processDelimiters` over segments of items with one delimiter byte and plain nodes -/

inductive Seg21 where
  | run (ch : UInt8) (its : List RItem11)
  | plain (n : Inl.Node)

def Seg21.raw : Seg21 → List Inl.Node
  | .run ch its => rawC ch its
  | .plain n => [n]

def Seg21.fin : Seg21 → List Inl.Node
  | .run _ its => fin11 its
  | .plain n => [n]

def rawS21 (l : List Seg21) : List Inl.Node := l.flatMap Seg21.raw
def finS21 (l : List Seg21) : List Inl.Node := l.flatMap Seg21.fin

theorem rawS_append21 (a b : List Seg21) : rawS21 (a ++ b) = rawS21 a ++ rawS21 b := by simp [rawS21]
theorem finS_append21 (a b : List Seg21) : finS21 (a ++ b) = finS21 a ++ finS21 b := by simp [finS21]

def SegOK21 : Seg21 → Prop
  | .plain n => n.isDelim = false ∧ closeLabels n = n
  | _ => True

theorem fin_noDelim21 (s : Seg21) (h : SegOK21 s) : ∀ n ∈ s.fin, n.isDelim = false := by
  cases s with
  | run _ its => exact fin_noDelim11 its
  | plain n => intro m hm; simp [Seg21.fin] at hm; subst hm; exact h.1

theorem finS_noDelim21 (l : List Seg21) (h : ∀ s ∈ l, SegOK21 s) : ∀ n ∈ finS21 l, n.isDelim = false := by
  intro n hn
  simp only [finS21, List.mem_flatMap] at hn
  obtain ⟨s, hs, hn⟩ := hn
  exact fin_noDelim21 s (h s hs) n hn

theorem runC_segs21 : ∀ (l : List Seg21) (pre : List Inl.Node), (∀ n ∈ pre, n.isDelim = false) →
    (∀ s ∈ l, SegOK21 s) → runC11 (advanceCloser pre (rawS21 l)) = .ok (pre ++ finS21 l)
  | [], pre, _, _ => by simp [rawS21, finS21, advanceCloser, splitFirstDelim, runC11]
  | s :: rest, pre, hp, hok => by
    have hp' : ∀ n ∈ pre ++ s.fin, n.isDelim = false := by
      intro n hn
      simp only [List.mem_append] at hn
      rcases hn with hn | hn
      · exact hp n hn
      · exact fin_noDelim21 s (hok s (by simp)) n hn
    have ih := runC_segs21 rest (pre ++ s.fin) hp' (fun x hx => hok x (by simp [hx]))
    have e : rawS21 (s :: rest) = s.raw ++ rawS21 rest := by simp [rawS21]
    have e2 : finS21 (s :: rest) = s.fin ++ finS21 rest := by simp [finS21]
    rw [e, e2, ← List.append_assoc, ← ih]
    cases s with
    | run ch its => exact runC_itemsC ch _ its pre hp
    | plain n =>
      have hn : SegOK21 (.plain n) := hok (.plain n) (by simp)
      exact congrArg runC11 (advanceCloser_cons11 _ _ _ hn.1)

theorem processDelimiters_rawS21 (l : List Seg21) (h : ∀ s ∈ l, SegOK21 s) :
    processDelimiters .nil (rawS21 l) = .ok (finS21 l) :=
  processDelimiters_of_runC13 _ _ (by simpa using runC_segs21 l [] (by simp) h) (finS_noDelim21 l h)

theorem closeLabelsL_finS21 : ∀ (l : List Seg21), (∀ s ∈ l, SegOK21 s) → closeLabelsL (finS21 l) = finS21 l
  | [], _ => by simp [finS21, closeLabelsL]
  | s :: rest, h => by
    have e2 : finS21 (s :: rest) = s.fin ++ finS21 rest := by simp [finS21]
    rw [e2, closeLabelsL_append13, closeLabelsL_finS21 rest (fun x hx => h x (by simp [hx]))]
    congr 1
    cases s with
    | run _ its => exact closeLabelsL_fin11 its
    | plain n =>
      have hn : SegOK21 (.plain n) := h (.plain n) (by simp)
      simp [Seg21.fin, closeLabelsL, hn.2]

/-! ### the children of the lines of a stage-13 paragraph -/

/-- the children one line leaves: the items in front of its last Text, and that Text -/
abbrev LBlock13 := List RItem11 × Segment × Bool × Bool

def LBlock13.t (b : LBlock13) : Inl.Node := .text b.2.1 b.2.2.1 b.2.2.2 false

def rawL13 (bs : List LBlock13) : List Inl.Node := bs.flatMap fun b => raw11 b.1 ++ [b.t]
def finL13 (bs : List LBlock13) : List Inl.Node := bs.flatMap fun b => fin11 b.1 ++ [b.t]

/-- a line's children as segments: its `*` items, then its last Text -/
def LBlock13.segs (b : LBlock13) : List Seg21 := [.run 42 b.1, .plain b.t]

theorem rawL_segs13 (bs : List LBlock13) : rawL13 bs = rawS21 (bs.flatMap LBlock13.segs) := by
  simp [rawL13, rawS21, List.flatMap_assoc, LBlock13.segs, Seg21.raw, raw11_eq]

theorem finL_segs13 (bs : List LBlock13) : finL13 bs = finS21 (bs.flatMap LBlock13.segs) := by
  simp [finL13, finS21, List.flatMap_assoc, LBlock13.segs, Seg21.fin]

theorem segsOK13 (bs : List LBlock13) : ∀ s ∈ bs.flatMap LBlock13.segs, SegOK21 s := by
  intro s hs
  simp only [List.mem_flatMap, LBlock13.segs, List.mem_cons, List.not_mem_nil, or_false] at hs
  obtain ⟨b, _, rfl | rfl⟩ := hs
  · trivial
  · exact ⟨rfl, by simp [LBlock13.t, closeLabels]⟩

theorem rawL_append13 (a b : List LBlock13) : rawL13 (a ++ b) = rawL13 a ++ rawL13 b := by simp [rawL13]
theorem finL_append13 (a b : List LBlock13) : finL13 (a ++ b) = finL13 a ++ finL13 b := by simp [finL13]

end GM.Proof.CMFrag
end CMFrag13Inl

/-
  section CMFrag20Inl — `*em*` / `**strong**` / `_em_` / `__strong__` on a line that `classify` may shorten: text and a
  run of delimiters as one pass (`star_stepC`, an instance of `passX21`); text, the opening run, letters and digits, the
  closing run (`em_stepC`), both for either delimiter byte. A run of `_` opens / closes only with white space or
  punctuation outside (`unNbOK`); a run of `*` next to a letter or digit always does.
-/
section CMFrag20Inl
namespace GM.Proof.CMFrag
open GM GM.Text GM.Inl

theorem prec_total20 (src : Bytes) (segs : List Segment) (L j hd q e : Int) (s0 : Segment) (h0 : segs[0]? = some s0) :
    ∃ b, (rdAt src segs L j { start := q, stop := e } hd).precendingCharacter = .ok b :=
  prec_total11 src segs L j hd q e s0 h0

theorem nb_facts20 : ∀ c : UInt8, unNbOK c = true →
    (c < 0x80) ∧ isCont c = false ∧ c.toNat < 128 ∧
    ((c.toNat == 9 || c.toNat == 10 || c.toNat == 11 || c.toNat == 12 || c.toNat == 13 || c.toNat == 32) ||
      isPunct c) = true :=
  GM.forall_uint8 _ (by decide +kernel)

theorem rune_nb20 (env : Env) (c : UInt8) (h : unNbOK c = true) :
    (isSpaceRune env c.toNat || isPunctRune env c.toNat) = true := by
  obtain ⟨_, _, hlt, hsp⟩ := nb_facts20 c h
  unfold isSpaceRune isPunctRune
  rw [if_pos hlt, if_pos hlt]
  simpa using hsp

/-! ### one pass of the line loop: text, then a run of delimiters -/

theorem star_stepC (ch : UInt8) (hch : (ch == 42 || ch == 95) = true) (env : Env) (henv : env.escapedSpace = false)
    (src : Bytes) (segs : List Segment) (L j hd : Int)
    (q n : Nat) (bs tail : Bytes) (e : Int) (ks : List Inl.Node) (nid b : Nat) (bts : List Bottom) (fuel : Nat)
    (hn : 1 ≤ n) (h : At16 src L q e (bs ++ (List.replicate n ch ++ tail))) (hj : j < segs.length)
    (hend : CutOK13 tail)
    (hbs : bs ≠ []) (hq : quiet bs 0 false = true) (hesc : escAfter bs false = false)
    (htail : tail ≠ []) (htch : tail.head? ≠ some ch) (hnm : NoMergeAt13 ks q)
    (hb : (rdAt src segs L j { start := ((q + bs.length : Nat) : Int), stop := e } hd).precendingCharacter = .ok b) :
    lineLoop env (fuel + 1) false
      { rd := rdAt src segs L j { start := q, stop := e } hd, kids := ks, nextId := nid, bottoms := bts } =
    lineLoop env fuel false
      { rd := rdAt src segs L j { start := ((q + bs.length + n : Nat) : Int), stop := e } hd,
        kids := ks ++ [.text { start := q, stop := ((q + bs.length : Nat) : Int) } false false false,
          .delim nid { seg := { start := ((q + bs.length : Nat) : Int), stop := ((q + bs.length + n : Nat) : Int) },
                       canOpen := (flank11 env ch b (toRune (List.replicate n ch ++ tail) n)).1,
                       canClose := (flank11 env ch b (toRune (List.replicate n ch ++ tail) n)).2,
                       length := (n : Nat), origLength := (n : Nat), char := ch }],
        nextId := nid + 1, bottoms := bts } := by
  obtain ⟨h1, h2, h3, h4⟩ := h.drop bs _
  simp only [List.length_append, List.length_replicate] at h1 h2 h3
  have hpe := parseEmphasis_run env ch hch src segs L j hd (q + bs.length) n tail e nid b hn (by omega) hj (by omega) h4 h1
    htail htch hb
  obtain ⟨hsp, hpun, hF, _⟩ := emphC_facts ch hch
  obtain ⟨m, rfl⟩ : ∃ m, n = m + 1 := ⟨n - 1, by omega⟩
  rw [passX21 env henv src segs L j hd q bs ch (List.replicate m ch ++ tail) e ks nid bts fuel [.emphasis]
    (by simpa [List.replicate_succ] using h) hj (cutOK_app13 _ _ hend) hbs hq hesc hpun hsp hF rfl hnm _ _
    (by simp only [tryParsers, Ip.parse, liftR, bind, Except.bind, hpe, pure, Except.pure]; rfl)]
  simp [Int.natCast_add]

/-! ### text, opening run, content, closing run -/

theorem em_stepC (ch : UInt8) (hch : (ch == 42 || ch == 95) = true) (env : Env) (henv : env.escapedSpace = false)
    (src : Bytes) (segs : List Segment) (L : Int) (j : Nat)
    (hd : Int) (s0 : Segment) (h0 : segs[0]? = some s0) (hs0 : (j : Int) = 0 → s0.start ≤ hd)
    (q : Nat) (two : Bool) (bs cs rest : Bytes) (e : Int) (ks : List Inl.Node) (nid : Nat) (bts : List Bottom)
    (fuel : Nat)
    (h : At16 src L q e (bs ++ (List.replicate (elen11 two) ch ++ (cs ++ (List.replicate (elen11 two) ch ++ rest)))))
    (hj : (j : Int) < segs.length) (hq0 : hd ≤ q) (hend : CutOK13 rest)
    (hbs : bs ≠ []) (hq : quiet bs 0 false = true) (hesc : escAfter bs false = false)
    (hcs : cs ≠ []) (hal : ∀ c ∈ cs, GM.Spec.CM.isAlnumC c = true) (hrest : rest ≠ [])
    (hrch : rest.head? ≠ some ch) (hnm : NoMergeAt13 ks q)
    (hnb1 : ch = 95 → ∀ c, bs.getLast? = some c → unNbOK c = true)
    (hnb2 : ch = 95 → ∀ c, rest.head? = some c → unNbOK c = true) :
    ∃ oc cc, lineLoop env (fuel + 2) false
      { rd := rdAt src segs L j { start := q, stop := e } hd, kids := ks, nextId := nid, bottoms := bts } =
    lineLoop env fuel false
      { rd := rdAt src segs L j { start := (q : Int) + bs.length + elen11 two + cs.length + elen11 two, stop := e } hd,
        kids := ks ++ ([.text { start := q, stop := (q : Int) + bs.length } false false false] ++
          RItem11.rawC ch (.emph nid (nid + 1)
            { start := (q : Int) + bs.length, stop := (q : Int) + bs.length + elen11 two }
            { start := (q : Int) + bs.length + elen11 two + cs.length,
              stop := (q : Int) + bs.length + elen11 two + cs.length + elen11 two }
            { start := (q : Int) + bs.length + elen11 two, stop := (q : Int) + bs.length + elen11 two + cs.length }
            two oc cc)),
        nextId := nid + 2, bottoms := bts } := by
  have hn : 1 ≤ elen11 two := by cases two <;> simp [elen11]
  have hbl : 0 < bs.length := List.length_pos_iff.mpr hbs
  have hcl : 0 < cs.length := List.length_pos_iff.mpr hcs
  obtain ⟨c0, cs', hcs0⟩ : ∃ c0 cs', cs = c0 :: cs' := by
    cases cs with
    | nil => exact absurd rfl hcs
    | cons c0 cs' => exact ⟨c0, cs', rfl⟩
  have hc0 : GM.Spec.CM.isAlnumC c0 = true := hal c0 (by simp [hcs0])
  obtain ⟨hqc, hescc⟩ := alnum_quiet11 cs 0 hal
  -- first pass: the opening run, whatever stands in front of it for `*`
  obtain ⟨b1, hb1⟩ := prec_total11 src segs L j hd ((q + bs.length : Nat) : Int) e s0 h0
  have step1 := star_stepC ch hch env henv src segs L j hd q (elen11 two) bs (cs ++ (List.replicate (elen11 two) ch ++ rest))
    e ks nid b1 bts (fuel + 1) hn h hj (cutOK_app13 _ _ (cutOK_app13 _ _ hend)) hbs hq hesc (by simp [hcs])
    (by rw [hcs0]; simpa using alnum_neC ch hch c0 hc0) hnm hb1
  have hopen : (flank11 env ch b1 (toRune (List.replicate (elen11 two) ch ++ (cs ++ (List.replicate (elen11 two) ch ++ rest)))
      (elen11 two))).1 = true := by
    rw [toRune_alnum11 _ (elen11 two) c0 (cs' ++ (List.replicate (elen11 two) ch ++ rest))
      (by rw [List.drop_left' (by simp), hcs0]; rfl) hc0]
    refine flank_open11 env ch b1 c0 hc0 fun h95 => ?_
    -- `_`: the character in front is the last byte of `bs`
    obtain ⟨cb, hcb⟩ : ∃ c, bs[bs.length - 1]? = some c := ⟨bs[bs.length - 1], by rw [List.getElem?_eq_getElem]⟩
    have hcbn : unNbOK cb = true := hnb1 h95 cb (by rw [List.getLast?_eq_getElem?]; exact hcb)
    have hb := prec_ascii11 src segs L j hd e (q + (bs.length - 1)) cb s0 h0
      (by intro hj0; have := hs0 hj0; omega) (h.get bs _ _ cb hcb) (nb_facts20 cb hcbn).1 (nb_facts20 cb hcbn).2.1
    rw [show ((q + (bs.length - 1) : Nat) : Int) + 1 = ((q + bs.length : Nat) : Int) by push_cast; omega, hb1] at hb
    rw [Except.ok.inj hb]
    exact rune_nb20 env cb hcbn
  -- second pass: the closing run behind the last byte of `cs`
  have h2 : At16 src L (q + bs.length + elen11 two) e (cs ++ (List.replicate (elen11 two) ch ++ rest)) := by
    simpa using (h.drop bs _).drop (List.replicate (elen11 two) ch) _
  obtain ⟨c1, hc1⟩ : ∃ c, cs[cs.length - 1]? = some c := ⟨cs[cs.length - 1], by rw [List.getElem?_eq_getElem]⟩
  have hc1a : GM.Spec.CM.isAlnumC c1 = true := hal c1 (List.mem_of_getElem? hc1)
  have hb2 := prec_alnum11 src segs L j hd e (q + bs.length + elen11 two + (cs.length - 1)) c1 s0 h0
    (by intro hj0; have := hs0 hj0; omega) (h2.get cs _ _ c1 hc1) hc1a
  rw [show ((q + bs.length + elen11 two + (cs.length - 1) : Nat) : Int) + 1 =
      ((q + bs.length + elen11 two + cs.length : Nat) : Int) by push_cast; omega] at hb2
  have hclose : (flank11 env ch c1.toNat (toRune (List.replicate (elen11 two) ch ++ rest) (elen11 two))).2 = true := by
    refine flank_close11 env ch c1 _ hc1a fun h95 => ?_
    -- `_`: the character behind is the first byte of `rest`
    obtain ⟨r0, rest', hr0⟩ : ∃ r0 rest', rest = r0 :: rest' := by
      cases rest with
      | nil => exact absurd rfl hrest
      | cons r0 rest' => exact ⟨r0, rest', rfl⟩
    have hr0n : unNbOK r0 = true := hnb2 h95 r0 (by simp [hr0])
    rw [toRune_ascii11 _ (elen11 two) r0 rest' (by rw [List.drop_left' (by simp), hr0])
      (nb_facts20 r0 hr0n).1 (nb_facts20 r0 hr0n).2.1]
    exact rune_nb20 env r0 hr0n
  refine ⟨(flank11 env ch b1 (toRune (List.replicate (elen11 two) ch ++
      (cs ++ (List.replicate (elen11 two) ch ++ rest))) (elen11 two))).2,
    (flank11 env ch c1.toNat (toRune (List.replicate (elen11 two) ch ++ rest) (elen11 two))).1, ?_⟩
  rw [show fuel + 2 = fuel + 1 + 1 from rfl, step1, hopen]
  refine (star_stepC ch hch env henv src segs L j hd (q + bs.length + elen11 two) (elen11 two) cs rest e _ (nid + 1)
    c1.toNat bts fuel hn h2 hj hend hcs hqc hescc hrest hrch ?_ hb2).trans ?_
  · rw [show ∀ (a b : Inl.Node), ks ++ [a, b] = (ks ++ [a]) ++ [b] by simp]
    exact noMergeAt_of8_13 (noMerge_delim11 _ _ _) _
  · rw [hclose]
    simp [RItem11.rawC, mkDelimC, Int.natCast_add]

end GM.Proof.CMFrag
end CMFrag20Inl
