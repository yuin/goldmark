/-
  GM.Proof.BlocksFrames — What `Continue` / `Close` of the block parsers do to the tree links of the node store: all `Continue`s and the code / fenced `Close` change nothing about
  kind / parent / children (`TSame`), the three `Close`s with tree surgery respect the tree-link frame `TF`, and parent pointers always point to existing
  nodes (`PLT`).
-/
import GM.Proof.BlocksInvL
import GM.Proof.BlocksSpecHtml
import GM.Proof.BlocksSpecCode
import GM.Proof.BlocksSpecFenced
import GM.Proof.BlocksFrameSteps

section BlocksFrames
/-
  (A) `TSame m`: "if `m` ends normally, then nothing about kind / parent / children / offset / store length changed"
      (`IFr TreeSame`, GM.Proof.BlocksFrameSteps). All ten `Continue`s, `codeClose`, `fencedClose` are `TSame`.
  (B) the three `Close`s that do tree surgery (paragraph, setext heading, list) respect the tree-link frame `TF`.
-/

namespace GM.Blocks
open GM GM.Text GM.Spec GM.Proof.Reader

/-! ### (A) the `TreeSame` calculus -/

/-- if `m` ends normally, the tree links are what they were -/
structure TSame {α : Type} (m : M α) : Prop where
  h : ∀ s a s', m s = .ok (a, s') → TreeSame s s'

theorem treeSameFrame : FrameRel TreeSame := ⟨TreeSame.trans, TreeSame.of_nodes_eq⟩

theorem TSame.of_stepsR {α} {m : M α} (h : IFr TreeSame m) : TSame m := ⟨h.h⟩

theorem get_tsame : TSame (get : M St) := .of_stepsR (get_ns.stepsR treeSameFrame)
theorem advanceLine_tsame : TSame advanceLine := .of_stepsR (advanceLine_ns.stepsR treeSameFrame)
theorem peekLine_tsame : TSame peekLine := .of_stepsR (peekLine_ns.stepsR treeSameFrame)

/-- overwriting node `i` by a node with the same tree links -/
theorem fr_treeSame_set (s : St) (i : Nat) (m : Node) (r : Reader) (pc : Ctx)
    (hm : m.kind = (nd s i).kind ∧ m.parent = (nd s i).parent ∧ m.children = (nd s i).children ∧
      m.offset = (nd s i).offset) : TreeSame s { r := r, nodes := s.nodes.set i m, pc := pc } := by
  refine ⟨by simp, fun j => ?_⟩
  by_cases hi : i < s.nodes.length
  · simp only [nd, nd_set _ _ _ _ hi]
    split
    · rename_i e; subst e; exact hm
    · exact ⟨rfl, rfl, rfl, rfl⟩
  · simp only [nd]
    rw [List.set_eq_of_length_le (Nat.le_of_not_lt hi)]
    exact ⟨rfl, rfl, rfl, rfl⟩

theorem modNode_tsame (i : Nat) (f : Node → Node)
    (hf : ∀ n, (f n).kind = n.kind ∧ (f n).parent = n.parent ∧ (f n).children = n.children ∧ (f n).offset = n.offset) :
    TSame (modNode i f) :=
  ⟨fun s _ _ h => by cases h; exact fr_treeSame_set s i _ s.r s.pc (hf _)⟩

theorem modNode_ts (i : Nat) (f : Node → Node) (hk : ∀ n, (f n).kind = n.kind) (hp : ∀ n, (f n).parent = n.parent)
    (hc : ∀ n, (f n).children = n.children) (ho : ∀ n, (f n).offset = n.offset) : IFr TreeSame (modNode i f) :=
  ⟨(modNode_tsame i f fun n => ⟨hk n, hp n, hc n, ho n⟩).h⟩

theorem bpContinue_tsame (bp : BP) (n : Nat) : TSame (bpContinue bp n) :=
  .of_stepsR (bpContinue_stepsR treeSameFrame bp n fun f hf => modNode_ts _ f (fun n => (hf.data.links n).1)
    (fun n => (hf.data.links n).2.1) (fun n => (hf.data.links n).2.2) fun n => by rw [hf n])

theorem codeClose_tsame (n : Nat) : TSame (codeClose n) := by
  have := treeSameFrame
  have := modNode_ts
  unfold codeClose; exact .of_stepsR (by stepsR)

theorem fencedClose_tsame (n : Nat) : TSame (fencedClose n) := by
  have := treeSameFrame
  unfold fencedClose; exact .of_stepsR (by stepsR)

/-- no `Continue` of a default block parser changes a tree link -/
theorem bpContinue_treeSame (bp : BP) (node : Nat) (s : St) (st : PState) (s' : St)
    (h : bpContinue bp node s = .ok (st, s')) : TreeSame s s' :=
  (bpContinue_tsame bp node).h s st s' h

theorem codeClose_treeSame (node : Nat) (s s' : St) (h : bpClose .code node s = .ok ((), s')) : TreeSame s s' :=
  (codeClose_tsame node).h s () s' h

theorem fencedClose_treeSame (node : Nat) (s s' : St) (h : bpClose .fenced node s = .ok ((), s')) : TreeSame s s' :=
  (fencedClose_tsame node).h s () s' h

/-! ### (B) the `Close`s that do tree surgery

`TFK s s'`: the frame `TF` for a step that does not grow the store (all kinds stay); `TFX s s'`: the frame for a step
that may grow it. Both are transitive (`TF` alone is not: it does not say that kinds stay). -/

theorem fr_tf_trans {s1 s2 s3 : St} (h1 : TF s1 s2) (l1 : s1.nodes.length ≤ s2.nodes.length)
    (k1 : ∀ i, i < s1.nodes.length → (nd s2 i).kind = (nd s1 i).kind)
    (h2 : TF s2 s3) (k2 : ∀ i, i < s2.nodes.length → (nd s3 i).kind = (nd s2 i).kind) : TF s1 s3 where
  parent := fun i hi hc => by
    rw [h2.parent i (Nat.lt_of_lt_of_le hi l1) (by rw [k1 i hi]; exact hc), h1.parent i hi hc]
  kids := fun i hi hc => by
    rw [h2.kids i (Nat.lt_of_lt_of_le hi l1) (by rw [k1 i hi]; exact hc), h1.kids i hi hc]
  offset := fun i hi => by rw [h2.offset i (Nat.lt_of_lt_of_le hi l1), h1.offset i hi]
  newParent := fun i p hp hk => by
    obtain ⟨_, hp2⟩ := h2.newParent i p hp hk
    have hpl : p < s2.nodes.length := by
      rcases Nat.lt_or_ge p s2.nodes.length with h | h
      · exact h
      · exact absurd hk (h2.newKind p h).1
    rw [k2 p hpl] at hk
    exact h1.newParent i p hp2 hk
  newKind := fun i hi => by
    rcases Nat.lt_or_ge i s2.nodes.length with h | h
    · rw [k2 i h]; exact h1.newKind i hi
    · exact h2.newKind i h

structure TFX (s s' : St) : Prop where
  tf : TF s s'
  len : s.nodes.length ≤ s'.nodes.length
  kind : ∀ i, i < s.nodes.length → (nd s' i).kind = (nd s i).kind

structure TFK (s s' : St) : Prop where
  tf : TF s s'
  len : s'.nodes.length = s.nodes.length
  kind : ∀ i, (nd s' i).kind = (nd s i).kind

theorem TFK.tfx {s s' : St} (h : TFK s s') : TFX s s' := ⟨h.tf, Nat.le_of_eq h.len.symm, fun i _ => h.kind i⟩

theorem TreeSame.tfk {s s' : St} (h : TreeSame s s') : TFK s s' := ⟨h.tf, h.len, fun i => (h.same i).1⟩

theorem TFX.refl (s : St) : TFX s s := (TreeSame.refl s).tfk.tfx

theorem TFX.trans {s1 s2 s3 : St} (h1 : TFX s1 s2) (h2 : TFX s2 s3) : TFX s1 s3 :=
  ⟨fr_tf_trans h1.tf h1.len h1.kind h2.tf h2.kind, Nat.le_trans h1.len h2.len,
    fun i hi => by rw [h2.kind i (Nat.lt_of_lt_of_le hi h1.len), h1.kind i hi]⟩

theorem TFK.trans {s1 s2 s3 : St} (h1 : TFK s1 s2) (h2 : TFK s2 s3) : TFK s1 s3 :=
  ⟨(h1.tfx.trans h2.tfx).tf, by rw [h2.len, h1.len], fun i => by rw [h2.kind i, h1.kind i]⟩

theorem fr_lt_of_kind (s : St) (i : Nat) (h : (nd s i).kind ≠ .document) : i < s.nodes.length := by
  rcases Nat.lt_or_ge i s.nodes.length with hi | hi
  · exact hi
  · rw [nd_default_of_ge s hi] at h; exact absurd rfl h

theorem TFX.kind' {s s' : St} (h : TFX s s') (i : Nat) (hk : (nd s i).kind ≠ .document) :
    (nd s' i).kind = (nd s i).kind := h.kind i (fr_lt_of_kind s i hk)

/-- overwriting node `i`: the kind and the offset stay; the parent pointer may only change when `i` is not a container,
    and not to a List; the child list may only change when `i` is not a List -/
theorem fr_set_tfk (s : St) (i : Nat) (m : Node) (r : Reader) (pc : Ctx)
    (hk : m.kind = (nd s i).kind) (ho : m.offset = (nd s i).offset)
    (hp : m.parent = (nd s i).parent ∨
      ((nd s i).kind.isCont = false ∧ ∀ p, m.parent = some p → (nd s p).kind ≠ .list))
    (hc : m.children = (nd s i).children ∨ (nd s i).kind ≠ .list) :
    TFK s { r := r, nodes := s.nodes.set i m, pc := pc } := by
  by_cases hi : i < s.nodes.length
  · have key : ∀ j, nd { r := r, nodes := s.nodes.set i m, pc := pc } j = if i = j then m else nd s j :=
      fun j => nd_set _ _ _ _ hi
    have hkind : ∀ j, (nd { r := r, nodes := s.nodes.set i m, pc := pc } j).kind = (nd s j).kind := by
      intro j; rw [key]; split
      · rename_i e; subst e; exact hk
      · rfl
    refine ⟨⟨?_, ?_, ?_, ?_, ?_⟩, by simp, hkind⟩
    · intro j _ hcj; rw [key]; split
      · rename_i e; subst e
        rcases hp with h | ⟨h, _⟩
        · exact h
        · rw [h] at hcj; cases hcj
      · rfl
    · intro j _ hcj; rw [key]; split
      · rename_i e; subst e
        rcases hc with h | h
        · exact h
        · exact absurd hcj h
      · rfl
    · intro j _; rw [key]; split
      · rename_i e; subst e; exact ho
      · rfl
    · intro j p hpj hkp
      rw [hkind] at hkp
      rw [key] at hpj
      by_cases e : i = j
      · subst e
        rw [if_pos rfl] at hpj
        rcases hp with h | ⟨_, h⟩
        · exact ⟨hi, by rw [← h]; exact hpj⟩
        · exact absurd hkp (h p hpj)
      · rw [if_neg e] at hpj
        exact ⟨nd_parent_lt hpj, hpj⟩
    · intro j hj
      rw [hkind, nd_default_of_ge s hj]
      exact ⟨by decide, by decide⟩
  · rw [List.set_eq_of_length_le (Nat.le_of_not_lt hi)]
    exact (TreeSame.of_nodes_eq (s := s) (s' := { r := r, nodes := s.nodes, pc := pc }) rfl).tfk

theorem fr_nd_append (s : St) (n : Node) (r : Reader) (pc : Ctx) (j : Nat) :
    nd { r := r, nodes := s.nodes ++ [n], pc := pc } j =
      if j < s.nodes.length then nd s j else if j = s.nodes.length then n else default := by
  simp only [nd, List.getD_eq_getElem?_getD]
  split
  · rename_i h; rw [List.getElem?_append_left h]
  · rename_i h
    rw [List.getElem?_append_right (Nat.le_of_not_lt h)]
    split
    · rename_i e; simp [e]
    · rename_i e
      have : j - s.nodes.length ≠ 0 := by omega
      cases hh : j - s.nodes.length with
      | zero => exact absurd hh this
      | succ k => simp

theorem fr_newNode_tfx (s : St) (n : Node) (hk : n.kind ≠ .list ∧ n.kind ≠ .listItem) (hp : n.parent = none) :
    TFX s { s with nodes := s.nodes ++ [n] } := by
  have key := fr_nd_append s n s.r s.pc
  refine ⟨⟨?_, ?_, ?_, ?_, ?_⟩, by simp, ?_⟩
  · intro j hj _; rw [key, if_pos hj]
  · intro j hj _; rw [key, if_pos hj]
  · intro j hj; rw [key, if_pos hj]
  · intro j p hpj _
    rw [key] at hpj
    split at hpj
    · rename_i h; exact ⟨h, hpj⟩
    · split at hpj
      · rw [hp] at hpj; cases hpj
      · cases hpj
  · intro j hj
    rw [key, if_neg (Nat.not_lt_of_ge hj)]
    split
    · exact hk
    · exact ⟨by decide, by decide⟩
  · intro j hj; rw [key, if_pos hj]

theorem fr_modNode_treeSame {i : Nat} {f : Node → Node} {s : St} {a : Unit} {s' : St} (h : modNode i f s = .ok (a, s'))
    (hf : ∀ n, (f n).kind = n.kind ∧ (f n).parent = n.parent ∧ (f n).children = n.children ∧ (f n).offset = n.offset) :
    TreeSame s s' := (modNode_tsame i f hf).h _ _ _ h

theorem fr_removeChild_tfk (p c : Nat) (s s' : St) (hp : (nd s p).kind ≠ .list) (hc : (nd s c).kind.isCont = false)
    (h : removeChild p c s = .ok ((), s')) : TFK s s' := by
  unfold removeChild at h
  obtain ⟨cn, s1, h1, h⟩ := bind_ok h
  cases h1
  split at h
  · cases h; exact (TreeSame.refl s).tfk
  · obtain ⟨_, s1, h1, h⟩ := bind_ok h
    have e1 := modNode_ok h1
    have e2 := modNode_ok h
    have t1 : TFK s s1 := by
      rw [e1]; exact fr_set_tfk s p _ _ _ rfl rfl (.inl rfl) (.inr hp)
    refine t1.trans ?_
    rw [e2]
    exact fr_set_tfk s1 c _ _ _ rfl rfl (.inr ⟨by rw [t1.kind c]; exact hc, fun q hq => by cases hq⟩) (.inl rfl)

theorem fr_ensureIsolated_none (c : Nat) (s s' : St) (hp : (nd s c).parent = none)
    (h : ensureIsolated c s = .ok ((), s')) : s' = s := by
  unfold ensureIsolated at h
  obtain ⟨cn, s1, h1, h⟩ := bind_ok h
  cases h1
  simp only [hp] at h
  cases h; rfl

/-- the common part of `AppendChild` / `InsertBefore`: `ins` (not a container, without parent) becomes a child of `p`
    (not a List) -/
theorem fr_attach_tfk (g : List Nat → List Nat) (p c : Nat) (s s' : St) (hp : (nd s p).kind ≠ .list)
    (hc : (nd s c).kind.isCont = false) (hcp : (nd s c).parent = none)
    (h : (do
      ensureIsolated c
      modNode p fun n => { n with children := g n.children }
      modNode c fun n => { n with parent := some p } : M Unit) s = .ok ((), s')) : TFK s s' := by
  obtain ⟨_, s0, h0, h2⟩ := bind_ok h
  have e0 := fr_ensureIsolated_none c s s0 hcp h0
  rw [e0] at h2
  obtain ⟨_, s1, h1, h3⟩ := bind_ok h2
  have e1 := modNode_ok h1
  have e2 := modNode_ok h3
  have t1 : TFK s s1 := by
    rw [e1]; exact fr_set_tfk s p _ _ _ rfl rfl (.inl rfl) (.inr hp)
  refine t1.trans ?_
  rw [e2]
  refine fr_set_tfk s1 c _ _ _ rfl rfl (.inr ⟨by rw [t1.kind c]; exact hc, fun q hq => ?_⟩) (.inl rfl)
  cases hq
  rw [t1.kind p]; exact hp

theorem fr_appendChild_tfk (p c : Nat) (s s' : St) (hp : (nd s p).kind ≠ .list)
    (hc : (nd s c).kind.isCont = false) (hcp : (nd s c).parent = none)
    (h : appendChild p c s = .ok ((), s')) : TFK s s' := by
  unfold appendChild at h
  exact fr_attach_tfk (fun l => l ++ [c]) p c s s' hp hc hcp h

theorem fr_insertBefore_tfk (p v ins : Nat) (s s' : St) (hp : (nd s p).kind ≠ .list)
    (hc : (nd s ins).kind.isCont = false) (hcp : (nd s ins).parent = none)
    (h : insertBefore p (some v) ins s = .ok ((), s')) : TFK s s' := by
  unfold insertBefore at h
  simp only at h
  obtain ⟨vn, s1, h1, h⟩ := bind_ok h
  cases h1
  split at h
  · exact fr_appendChild_tfk p ins s s' hp hc hcp h
  · exact fr_attach_tfk (fun l => insertBeforeIn v ins l) p ins s s' hp hc hcp h

theorem fr_replaceChild_tfk (p v ins : Nat) (s s' : St) (hp : (nd s p).kind ≠ .list)
    (hv : (nd s v).kind.isCont = false) (hc : (nd s ins).kind.isCont = false) (hcp : (nd s ins).parent = none)
    (h : replaceChild p v ins s = .ok ((), s')) : TFK s s' := by
  unfold replaceChild at h
  obtain ⟨_, s1, h1, h⟩ := bind_ok h
  have t1 := fr_insertBefore_tfk p v ins s s1 hp hc hcp h1
  exact t1.trans (fr_removeChild_tfk p v s1 s' (by rw [t1.kind p]; exact hp) (by rw [t1.kind v]; exact hv) h)

theorem fr_tightenItem_tfx (child : Nat) : ∀ (gcs : List Nat) (s s' : St), (nd s child).kind = .listItem →
    tightenItem child gcs s = .ok ((), s') → TFX s s' := by
  intro gcs
  induction gcs with
  | nil => intro s s' _ h; unfold tightenItem at h; cases h; exact TFX.refl s
  | cons gc gcs ih =>
    intro s s' hk h
    unfold tightenItem at h
    obtain ⟨g, s0, h0, h1⟩ := bind_ok h
    cases h0
    simp only at h1
    split at h1
    · rename_i hpar
      have hgk : (nd s gc).kind = .paragraph := eq_of_beq hpar
      obtain ⟨tb, s1, h2, h3⟩ := bind_ok h1
      cases h2
      obtain ⟨_, s2, h4, h5⟩ := bind_ok h3
      have t1 := fr_newNode_tfx s { kind := .textBlock, lines := (nd s gc).lines, linesNil := (nd s gc).linesNil }
        ⟨(by intro e; cases e), (by intro e; cases e)⟩ rfl
      have k1 := t1.kind' child (by rw [hk]; decide)
      have k2 := t1.kind' gc (by rw [hgk]; decide)
      have k3 := fr_nd_append s { kind := .textBlock, lines := (nd s gc).lines, linesNil := (nd s gc).linesNil }
        s.r s.pc s.nodes.length
      rw [if_neg (Nat.lt_irrefl _), if_pos rfl] at k3
      have t2 := fr_replaceChild_tfk child gc s.nodes.length _ s2 (by rw [k1, hk]; decide) (by rw [k2, hgk]; rfl)
        (by rw [k3]; rfl) (by rw [k3]) h4
      have t3 := ih s2 s' (by rw [t2.kind, k1, hk]) h5
      exact t1.trans (t2.tfx.trans t3)
    · exact ih s s' hk h1

theorem fr_tightenItems_tfx : ∀ (cs : List Nat) (s s' : St), (∀ c ∈ cs, (nd s c).kind = .listItem) →
    tightenItems cs s = .ok ((), s') → TFX s s' := by
  intro cs
  induction cs with
  | nil => intro s s' _ h; unfold tightenItems at h; cases h; exact TFX.refl s
  | cons child rest ih =>
    intro s s' hk h
    unfold tightenItems at h
    obtain ⟨cn, s0, h0, h1⟩ := bind_ok h
    cases h0
    obtain ⟨_, s1, h2, h3⟩ := bind_ok h1
    have t1 := fr_tightenItem_tfx child _ s s1 (hk child (by simp)) h2
    refine t1.trans (ih s1 s' (fun c hc => ?_) h3)
    have := hk c (by simp [hc])
    rw [t1.kind' c (by rw [this]; decide), this]

/-- closing a List (making the items of a tight list TextBlocks) respects the tree-link frame -/
theorem listClose_tf (node : Nat) (s s' : St) (hkids : KidsOK s) (hkind : (nd s node).kind = .list)
    (h : listClose node s = .ok ((), s')) : TF s s' := by
  unfold listClose at h
  obtain ⟨list, s0, h0, h1⟩ := bind_ok h
  cases h0
  obtain ⟨st, s0, h0, h2⟩ := bind_ok h1
  cases h0
  simp only at h2
  obtain ⟨_, s1, h3, h4⟩ := bind_ok h2
  have t1 : TreeSame s s1 := fr_modNode_treeSame h3 (fun _ => ⟨rfl, rfl, rfl, rfl⟩)
  split at h4
  · have t2 := fr_tightenItems_tfx _ s1 s' (fun c hc => by
      rw [(t1.same c).1]; exact (hkids.kids node c hkind hc).2) h4
    exact (t1.tfk.tfx.trans t2).tf
  · cases h4; exact t1.tf

theorem setextClose_tf (node : Nat) (s s' : St) (hk : KeysOK s) (hb : BlockOK s ⟨node, .setext⟩) (hkids : KidsOK s)
    (h : setextClose node s = .ok ((), s')) : TF s s' := by
  unfold setextClose at h
  obtain ⟨_, htmp⟩ := hb.setext rfl
  have hkind : (nd s node).kind = .heading := hb.kind
  obtain ⟨t, ht⟩ := Option.isSome_iff_exists.mp htmp
  obtain ⟨_, htkind, htlines⟩ := hk.tmp t ht
  have hne : node ≠ t := by
    intro e; rw [e, htkind] at hkind; cases hkind
  obtain ⟨hn, s0, h0, h1⟩ := bind_ok h
  cases h0
  obtain ⟨seg, s0, h0, h2⟩ := bind_ok h1
  obtain ⟨_, e0⟩ := liftE_ok h0
  rw [e0] at h2
  obtain ⟨_, s1, h3, h4⟩ := bind_ok h2
  have e1 := modNode_ok h3
  have t1 : TreeSame s s1 := fr_modNode_treeSame h3 (fun _ => ⟨rfl, rfl, rfl, rfl⟩)
  have epc : s1.pc.tmpPara = some t := by rw [e1]; exact ht
  obtain ⟨pc, s2, h5, h6⟩ := bind_ok h4
  cases h5
  simp only [epc] at h6
  obtain ⟨tmp, s2, h7, h8⟩ := bind_ok h6
  cases h7
  clear h6
  have h6 := h8
  obtain ⟨_, s2, h9, h10⟩ := bind_ok h6
  have e2 : s2.nodes = s1.nodes := by cases h9; rfl
  obtain ⟨tn, s3, h11, h12⟩ := bind_ok h10
  cases h11
  have etn : s2.nodes.getD t default = s.nodes.getD t default := by
    simp only [e2, e1]
    exact getD_set_ne _ _ _ _ _ hne
  rw [etn] at h12
  have t2 : TreeSame s s2 := t1.trans (TreeSame.of_nodes_eq e2)
  rcases ite_ok h12 with ⟨hc, _⟩ | ⟨_, h12⟩
  · exfalso
    cases hh : (nd s t).lines with
    | nil => exact htlines hh
    | cons a b => rw [hh] at hc; simp at hc
  · obtain ⟨_, s3, h13, h14⟩ := bind_ok h12
    have t3 : TreeSame s2 s3 := fr_modNode_treeSame h13 (fun _ => ⟨rfl, rfl, rfl, rfl⟩)
    have t4 : TreeSame s s3 := t2.trans t3
    cases htp : (s.nodes.getD t default).parent with
    | none => simp only [htp] at h14; cases h14; exact t4.tf
    | some tp =>
      simp only [htp] at h14
      have hntl : (nd s tp).kind ≠ .list := by
        intro hl
        have := hkids.pk t tp htp hl
        rw [htkind] at this; cases this
      have t5 := fr_removeChild_tfk tp t s3 s' (by rw [(t4.same tp).1]; exact hntl)
        (by rw [(t4.same t).1, htkind]; rfl) h14
      exact (t4.tfk.trans t5).tf

theorem paragraphClose_tf {src : Bytes} (node : Nat) (s s' : St) (hb : BlockOK s ⟨node, .paragraph⟩)
    (_hn : NodesOK src s) (h : paragraphClose node s = .ok ((), s')) : TreeSame s s' := by
  have hlines : (nd s node).lines ≠ [] := hb.para rfl
  unfold paragraphClose at h
  obtain ⟨n, s0, h0, h1⟩ := bind_ok h
  cases h0
  obtain ⟨sr, s0, h0, h2⟩ := bind_ok h1
  cases h0
  simp only at h2
  have hlen : (nd s node).lines.length ≠ 0 := fun e => hlines (List.length_eq_zero_iff.mp e)
  split at h2
  · obtain ⟨ls, s1, a1, h3⟩ := bind_ok h2
    obtain ⟨el1, e1⟩ := liftE_ok a1
    rw [e1] at h3
    obtain ⟨ll, s2, a2, h4⟩ := bind_ok h3
    obtain ⟨_, e2⟩ := liftE_ok a2
    rw [e2] at h4
    obtain ⟨ll2, s3, a3, h5⟩ := bind_ok h4
    obtain ⟨_, e3⟩ := liftE_ok a3
    rw [e3] at h5
    obtain ⟨ls2, s4, a4, h6⟩ := bind_ok h5
    obtain ⟨el4, e4⟩ := liftE_ok a4
    rw [e4] at h6
    obtain ⟨_, s5, a5, h7⟩ := bind_ok h6
    have t1 : TreeSame s s5 := fr_modNode_treeSame a5 (fun _ => ⟨rfl, rfl, rfl, rfl⟩)
    have e5 := modNode_ok a5
    have hl2 : ls2.length ≠ 0 := by
      rw [lineSet_length el4, trimLeftAll_length _ _ _ el1]; exact hlen
    obtain ⟨n2, s6, a6, h8⟩ := bind_ok h7
    cases a6
    have en : (s5.nodes.getD node default).lines = ls2 := by
      rw [e5]; simp only
      rw [getD_set_eq _ _ _ _ hb.lt]
    rw [en] at h8
    split at h8
    · rename_i hc
      exfalso
      apply hl2
      simpa using hc
    · cases h8; exact t1
  · rename_i hc
    exfalso
    apply hlen
    simpa using hc

theorem bpClose_tf (src : Bytes) (bp : BP) (node : Nat) (s s' : St) (hn : NodesOK src s) (hk : KeysOK s)
    (hb : BlockOK s ⟨node, bp⟩) (hkids : KidsOK s) (h : bpClose bp node s = .ok ((), s')) : TF s s' := by
  cases bp <;> unfold bpClose at h
  · exact setextClose_tf node s s' hk hb hkids h
  · cases h; exact (TreeSame.refl s).tf
  · exact listClose_tf node s s' hkids hb.kind h
  · cases h; exact (TreeSame.refl s).tf
  · exact ((codeClose_tsame node).h s () s' h).tf
  · cases h; exact (TreeSame.refl s).tf
  · exact ((fencedClose_tsame node).h s () s' h).tf
  · cases h; exact (TreeSame.refl s).tf
  · cases h; exact (TreeSame.refl s).tf
  · exact (paragraphClose_tf node s s' hb hn h).tf

end GM.Blocks
end BlocksFrames

section BlocksPlt
/-
  One more frame fact of the block parsers' `Close`: parent pointers always point to existing
  nodes (`PLT`). The tree operations only ever write `parent := none` or `parent := some p` with `p` in the store, and
  the store only grows.
-/

namespace GM.Blocks
open GM GM.Text GM.Spec GM.Proof.Reader

/-- every parent pointer points into the store -/
def PLT (s : St) : Prop := ∀ i p, (nd s i).parent = some p → p < s.nodes.length

theorem PLT.treeSame {s s' : St} (h : PLT s) (t : TreeSame s s') : PLT s' := by
  intro i p hi
  rw [(t.same i).2.1] at hi
  rw [t.len]
  exact h i p hi

theorem plt_set (s : St) (i : Nat) (m : Node) (r : Reader) (pc : Ctx) (hp : PLT s)
    (hm : ∀ p, m.parent = some p → p < s.nodes.length) :
    PLT { r := r, nodes := s.nodes.set i m, pc := pc } := by
  intro j p hj
  show p < (s.nodes.set i m).length
  rw [List.length_set]
  by_cases hi : i < s.nodes.length
  · simp only [nd, nd_set _ _ _ _ hi] at hj
    split at hj
    · exact hm p hj
    · exact hp j p hj
  · simp only [nd] at hj
    rw [List.set_eq_of_length_le (Nat.le_of_not_lt hi)] at hj
    exact hp j p hj

/-- `modNode i f` keeps `PLT` if the new parent pointer of `i` (if any) is in range; this covers
    `(f n).parent = n.parent`, `(f n).parent = none` and `(f n).parent = some p` with `p` in the store -/
theorem plt_modNode {i : Nat} {f : Node → Node} {s : St} {a : Unit} {s' : St} (h : modNode i f s = .ok (a, s'))
    (hp : PLT s) (hf : ∀ p, (f (nd s i)).parent = some p → p < s.nodes.length) :
    PLT s' ∧ s'.nodes.length = s.nodes.length := by
  have e := modNode_ok h
  subst e
  exact ⟨plt_set s i _ s.r s.pc hp hf, by simp⟩

/-- the three-way form of the `modNode` lemma -/
theorem plt_modNode' {i : Nat} {f : Node → Node} {s : St} {a : Unit} {s' : St} (h : modNode i f s = .ok (a, s'))
    (hp : PLT s)
    (hf : ∀ n, (f n).parent = n.parent ∨ (f n).parent = none ∨ ∃ p, p < s.nodes.length ∧ (f n).parent = some p) :
    PLT s' ∧ s'.nodes.length = s.nodes.length := by
  refine plt_modNode h hp fun p hq => ?_
  rcases hf (nd s i) with e | e | ⟨q, hq1, e⟩
  · rw [e] at hq; exact hp i p hq
  · rw [e] at hq; cases hq
  · rw [e] at hq; cases hq; exact hq1

theorem plt_append (s : St) (n : Node) (hp : PLT s) (hn : n.parent = none) :
    PLT { s with nodes := s.nodes ++ [n] } := by
  intro j p hj
  rw [fr_nd_append s n s.r s.pc] at hj
  show p < (s.nodes ++ [n]).length
  rw [List.length_append]
  split at hj
  · have := hp j p hj; omega
  · split at hj
    · rw [hn] at hj; cases hj
    · cases hj

theorem plt_newNode (n : Node) (s : St) (id : Nat) (s' : St) (hp : PLT s) (hn : n.parent = none)
    (h : newNode n s = .ok (id, s')) : PLT s' ∧ s'.nodes.length = s.nodes.length + 1 ∧ id = s.nodes.length := by
  cases h
  exact ⟨plt_append s n hp hn, by simp, rfl⟩

theorem plt_removeChild (p c : Nat) (s s' : St) (hp : PLT s) (h : removeChild p c s = .ok ((), s')) :
    PLT s' ∧ s'.nodes.length = s.nodes.length := by
  unfold removeChild at h
  obtain ⟨cn, s1, h1, h⟩ := bind_ok h
  cases h1
  split at h
  · cases h; exact ⟨hp, rfl⟩
  · obtain ⟨_, s1, h1, h⟩ := bind_ok h
    obtain ⟨p1, l1⟩ := plt_modNode h1 hp (fun q hq => hp p q hq)
    obtain ⟨p2, l2⟩ := plt_modNode h p1 (fun q hq => by cases hq)
    exact ⟨p2, by rw [l2, l1]⟩

theorem plt_ensureIsolated (c : Nat) (s s' : St) (hp : PLT s) (h : ensureIsolated c s = .ok ((), s')) :
    PLT s' ∧ s'.nodes.length = s.nodes.length := by
  unfold ensureIsolated at h
  obtain ⟨cn, s1, h1, h⟩ := bind_ok h
  cases h1
  cases hq : (s.nodes.getD c default).parent with
  | some q => simp only [hq] at h; exact plt_removeChild q c s s' hp h
  | none => simp only [hq] at h; cases h; exact ⟨hp, rfl⟩

/-- the common part of `AppendChild` / `InsertBefore`: `c` becomes a child of the existing node `p` -/
theorem plt_attach (g : List Nat → List Nat) (p c : Nat) (s s' : St) (hp : PLT s) (hpl : p < s.nodes.length)
    (h : (do
      ensureIsolated c
      modNode p fun n => { n with children := g n.children }
      modNode c fun n => { n with parent := some p } : M Unit) s = .ok ((), s')) :
    PLT s' ∧ s'.nodes.length = s.nodes.length := by
  obtain ⟨_, s0, h0, h2⟩ := bind_ok h
  obtain ⟨p0, l0⟩ := plt_ensureIsolated c s s0 hp h0
  obtain ⟨_, s1, h1, h3⟩ := bind_ok h2
  obtain ⟨p1, l1⟩ := plt_modNode h1 p0 (fun q hq => p0 p q hq)
  obtain ⟨p2, l2⟩ := plt_modNode h3 p1 (fun q hq => by cases hq; rw [l1, l0]; exact hpl)
  exact ⟨p2, by rw [l2, l1, l0]⟩

theorem plt_appendChild (p c : Nat) (s s' : St) (hp : PLT s) (hpl : p < s.nodes.length)
    (h : appendChild p c s = .ok ((), s')) : PLT s' ∧ s'.nodes.length = s.nodes.length := by
  unfold appendChild at h
  exact plt_attach (fun l => l ++ [c]) p c s s' hp hpl h

theorem plt_insertBefore (p : Nat) (v1 : Option Nat) (ins : Nat) (s s' : St) (hp : PLT s) (hpl : p < s.nodes.length)
    (h : insertBefore p v1 ins s = .ok ((), s')) : PLT s' ∧ s'.nodes.length = s.nodes.length := by
  unfold insertBefore at h
  cases v1 with
  | none => exact plt_appendChild p ins s s' hp hpl h
  | some v =>
    simp only at h
    obtain ⟨vn, s1, h1, h⟩ := bind_ok h
    cases h1
    split at h
    · exact plt_appendChild p ins s s' hp hpl h
    · exact plt_attach (fun l => insertBeforeIn v ins l) p ins s s' hp hpl h

theorem plt_replaceChild (p v ins : Nat) (s s' : St) (hp : PLT s) (hpl : p < s.nodes.length)
    (h : replaceChild p v ins s = .ok ((), s')) : PLT s' ∧ s'.nodes.length = s.nodes.length := by
  unfold replaceChild at h
  obtain ⟨_, s1, h1, h⟩ := bind_ok h
  obtain ⟨p1, l1⟩ := plt_insertBefore p (some v) ins s s1 hp hpl h1
  obtain ⟨p2, l2⟩ := plt_removeChild p v s1 s' p1 h
  exact ⟨p2, by rw [l2, l1]⟩

theorem plt_tightenItem (child : Nat) : ∀ (gcs : List Nat) (s s' : St), child < s.nodes.length → PLT s →
    tightenItem child gcs s = .ok ((), s') → PLT s' ∧ s.nodes.length ≤ s'.nodes.length := by
  intro gcs
  induction gcs with
  | nil => intro s s' _ hp h; unfold tightenItem at h; cases h; exact ⟨hp, Nat.le_refl _⟩
  | cons gc gcs ih =>
    intro s s' hc hp h
    unfold tightenItem at h
    obtain ⟨g, s0, h0, h1⟩ := bind_ok h
    cases h0
    simp only at h1
    split at h1
    · obtain ⟨tb, s1, h2, h3⟩ := bind_ok h1
      obtain ⟨p1, l1, etb⟩ := plt_newNode _ s tb s1 hp rfl h2
      obtain ⟨_, s2, h4, h5⟩ := bind_ok h3
      obtain ⟨p2, l2⟩ := plt_replaceChild child gc tb s1 s2 p1 (by omega) h4
      obtain ⟨p3, l3⟩ := ih s2 s' (by omega) p2 h5
      exact ⟨p3, by omega⟩
    · exact ih s s' hc hp h1

theorem plt_tightenItems : ∀ (cs : List Nat) (s s' : St), (∀ c ∈ cs, c < s.nodes.length) → PLT s →
    tightenItems cs s = .ok ((), s') → PLT s' ∧ s.nodes.length ≤ s'.nodes.length := by
  intro cs
  induction cs with
  | nil => intro s s' _ hp h; unfold tightenItems at h; cases h; exact ⟨hp, Nat.le_refl _⟩
  | cons child rest ih =>
    intro s s' hc hp h
    unfold tightenItems at h
    obtain ⟨cn, s0, h0, h1⟩ := bind_ok h
    cases h0
    obtain ⟨_, s1, h2, h3⟩ := bind_ok h1
    obtain ⟨p1, l1⟩ := plt_tightenItem child _ s s1 (hc child (by simp)) hp h2
    obtain ⟨p2, l2⟩ := ih s1 s' (fun c hm => Nat.lt_of_lt_of_le (hc c (by simp [hm])) l1) p1 h3
    exact ⟨p2, Nat.le_trans l1 l2⟩

/-- closing a List keeps all parent pointers in range (the store may grow) -/
theorem listClose_plt (node : Nat) (s s' : St) (hkids : KidsOK s) (hkind : (nd s node).kind = .list) (hp : PLT s)
    (h : listClose node s = .ok ((), s')) : PLT s' ∧ s.nodes.length ≤ s'.nodes.length := by
  unfold listClose at h
  obtain ⟨list, s0, h0, h1⟩ := bind_ok h
  cases h0
  obtain ⟨st, s0, h0, h2⟩ := bind_ok h1
  cases h0
  simp only at h2
  obtain ⟨_, s1, h3, h4⟩ := bind_ok h2
  have t1 : TreeSame s s1 := fr_modNode_treeSame h3 (fun _ => ⟨rfl, rfl, rfl, rfl⟩)
  have p1 : PLT s1 := hp.treeSame t1
  split at h4
  · obtain ⟨p2, l2⟩ := plt_tightenItems _ s1 s' (fun c hc => by
      rw [t1.len]; exact (hkids.kids node c hkind hc).1) p1 h4
    exact ⟨p2, by rw [← t1.len]; exact l2⟩
  · cases h4; exact ⟨p1, Nat.le_of_eq t1.len.symm⟩

theorem setextClose_plt (node : Nat) (s s' : St) (hk : KeysOK s) (hb : BlockOK s ⟨node, .setext⟩) (hp : PLT s)
    (h : setextClose node s = .ok ((), s')) : PLT s' ∧ s'.nodes.length = s.nodes.length := by
  unfold setextClose at h
  obtain ⟨_, htmp⟩ := hb.setext rfl
  have hkind : (nd s node).kind = .heading := hb.kind
  obtain ⟨t, ht⟩ := Option.isSome_iff_exists.mp htmp
  obtain ⟨_, htkind, htlines⟩ := hk.tmp t ht
  have hne : node ≠ t := by
    intro e; rw [e, htkind] at hkind; cases hkind
  obtain ⟨hn, s0, h0, h1⟩ := bind_ok h
  cases h0
  obtain ⟨seg, s0, h0, h2⟩ := bind_ok h1
  obtain ⟨_, e0⟩ := liftE_ok h0
  rw [e0] at h2
  obtain ⟨_, s1, h3, h4⟩ := bind_ok h2
  have e1 := modNode_ok h3
  have t1 : TreeSame s s1 := fr_modNode_treeSame h3 (fun _ => ⟨rfl, rfl, rfl, rfl⟩)
  have epc : s1.pc.tmpPara = some t := by rw [e1]; exact ht
  obtain ⟨pc, s2, h5, h6⟩ := bind_ok h4
  cases h5
  simp only [epc] at h6
  obtain ⟨tmp, s2, h7, h8⟩ := bind_ok h6
  cases h7
  clear h6
  have h6 := h8
  obtain ⟨_, s2, h9, h10⟩ := bind_ok h6
  have e2 : s2.nodes = s1.nodes := by cases h9; rfl
  obtain ⟨tn, s3, h11, h12⟩ := bind_ok h10
  cases h11
  have etn : s2.nodes.getD t default = s.nodes.getD t default := by
    simp only [e2, e1]
    exact getD_set_ne _ _ _ _ _ hne
  rw [etn] at h12
  have t2 : TreeSame s s2 := t1.trans (TreeSame.of_nodes_eq e2)
  rcases ite_ok h12 with ⟨hc, _⟩ | ⟨_, h12⟩
  · exfalso
    cases hh : (nd s t).lines with
    | nil => exact htlines hh
    | cons a b => rw [hh] at hc; simp at hc
  · obtain ⟨_, s3, h13, h14⟩ := bind_ok h12
    have t3 : TreeSame s2 s3 := fr_modNode_treeSame h13 (fun _ => ⟨rfl, rfl, rfl, rfl⟩)
    have t4 : TreeSame s s3 := t2.trans t3
    have p4 : PLT s3 := hp.treeSame t4
    cases htp : (s.nodes.getD t default).parent with
    | none => simp only [htp] at h14; cases h14; exact ⟨p4, t4.len⟩
    | some tp =>
      simp only [htp] at h14
      obtain ⟨p5, l5⟩ := plt_removeChild tp t s3 s' p4 h14
      exact ⟨p5, by rw [l5, t4.len]⟩

theorem bpClose_plt_len (src : Bytes) (bp : BP) (node : Nat) (s s' : St) (hn : NodesOK src s) (hk : KeysOK s)
    (hb : BlockOK s ⟨node, bp⟩) (hkids : KidsOK s) (hp : PLT s) (h : bpClose bp node s = .ok ((), s')) :
    PLT s' ∧ s.nodes.length ≤ s'.nodes.length := by
  cases bp <;> unfold bpClose at h
  · obtain ⟨a, b⟩ := setextClose_plt node s s' hk hb hp h
    exact ⟨a, Nat.le_of_eq b.symm⟩
  · cases h; exact ⟨hp, Nat.le_refl _⟩
  · exact listClose_plt node s s' hkids hb.kind hp h
  · cases h; exact ⟨hp, Nat.le_refl _⟩
  · have t := (codeClose_tsame node).h s () s' h
    exact ⟨hp.treeSame t, Nat.le_of_eq t.len.symm⟩
  · cases h; exact ⟨hp, Nat.le_refl _⟩
  · have t := (fencedClose_tsame node).h s () s' h
    exact ⟨hp.treeSame t, Nat.le_of_eq t.len.symm⟩
  · cases h; exact ⟨hp, Nat.le_refl _⟩
  · cases h; exact ⟨hp, Nat.le_refl _⟩
  · have t := paragraphClose_tf node s s' hb hn h
    exact ⟨hp.treeSame t, Nat.le_of_eq t.len.symm⟩

theorem bpClose_plt (src : Bytes) (bp : BP) (node : Nat) (s s' : St) (hn : NodesOK src s) (hk : KeysOK s)
    (hb : BlockOK s ⟨node, bp⟩) (hkids : KidsOK s) (hp : PLT s) (h : bpClose bp node s = .ok ((), s')) : PLT s' :=
  (bpClose_plt_len src bp node s s' hn hk hb hkids hp h).1

/-- no `Continue` changes a parent pointer or the store length -/
theorem bpContinue_plt (bp : BP) (node : Nat) (s : St) (st : PState) (s' : St) (hp : PLT s)
    (h : bpContinue bp node s = .ok (st, s')) : PLT s' :=
  hp.treeSame (bpContinue_treeSame bp node s st s' h)

end GM.Blocks
end BlocksPlt
