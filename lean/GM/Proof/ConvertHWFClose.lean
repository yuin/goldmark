/-
  GM.Proof.ConvertHWFClose — `StepR`: what the close discipline needs from ANY step of a block parser or paragraph
  transformer, and `Stp m` ("whenever `m` ends normally, `StepR`") for everything the driver calls: `bpOpen`, `bpContinue`,
  `bpClose` (incl. the tree surgery of paragraph / setext heading / list Close) and the link reference transformer.
  The surgery inserts only nodes it has just created (Paragraph / TextBlock): never a Heading.
-/
import GM.Proof.ConvertHWF
import GM.Proof.ConvertHWFOpen
import GM.Model.LinkRef
import GM.Model.Convert

namespace GM.ConvertH
open GM GM.Text GM.Blocks

structure StepR (s s' : St) : Prop where
  len : s.nodes.length ≤ s'.nodes.length
  kind : ∀ i, i < s.nodes.length → (ndx s' i).kind = (ndx s i).kind
  opened : s'.pc.opened = s.pc.opened
  wf : TreeWF s → TreeWF s' ∧
    ∀ p c, c ∈ (ndx s' p).children → (ndx s' c).kind = .heading → c ∈ (ndx s p).children

theorem StepR.refl (s : St) : StepR s s := ⟨Nat.le_refl _, fun _ _ => rfl, rfl, fun w => ⟨w, fun _ _ h _ => h⟩⟩

theorem StepR.trans {a b c : St} (h1 : StepR a b) (h2 : StepR b c) : StepR a c where
  len := Nat.le_trans h1.len h2.len
  kind := fun i hi => (h2.kind i (Nat.lt_of_lt_of_le hi h1.len)).trans (h1.kind i hi)
  opened := h2.opened.trans h1.opened
  wf := fun w => by
    obtain ⟨w1, e1⟩ := h1.wf w
    obtain ⟨w2, e2⟩ := h2.wf w1
    refine ⟨w2, fun p x hx hk => ?_⟩
    have hb := e2 p x hx hk
    have hv := (w1.edge p x hb).1
    exact e1 p x hb (by rw [← h2.kind x hv]; exact hk)

theorem StepR.of_lr {s s' : St} (h : LR s s') : StepR s s' where
  len := h.len
  kind := h.kind
  opened := h.opened
  wf := fun w => ⟨h.wf w, fun p c hc _ => by rw [(h.links p).2] at hc; exact hc⟩

theorem StepR.of_rm {s s' : St} (h : RmR s s') : StepR s s' where
  len := Nat.le_of_eq h.len.symm
  kind := fun i _ => h.kind i
  opened := by rw [h.pc]
  wf := fun w => ⟨h.wf w, fun p c hc _ => h.edges p c hc⟩

theorem StepR.of_op {p ins : Nat} {s s' : St} (h : OpR p ins s s') (hk : (ndx s ins).kind ≠ .heading)
    (hv : TreeWF s → ins < s.nodes.length ∧ ins ≠ 0) : StepR s s' where
  len := Nat.le_of_eq h.len.symm
  kind := fun i _ => h.kind i
  opened := by rw [h.pc]
  wf := fun w => ⟨h.wf w (hv w).1 (hv w).2, fun q x hx hkx => by
    rcases h.edges q x hx with e | ⟨_, rfl⟩
    · exact e
    · rw [h.kind] at hkx; exact absurd hkx hk⟩

structure Stp {α : Type} (m : M α) : Prop where
  h : ∀ s a s', m s = .ok (a, s') → StepR s s'

theorem Stp.of_lk {α} {m : M α} (h : Lk m) : Stp m := ⟨fun s a s' e => StepR.of_lr (h.h s a s' e)⟩

theorem Stp.bind {α β} {m : M α} {f : α → M β} (hm : Stp m) (hf : ∀ a, Stp (f a)) : Stp (m >>= f) := by
  constructor
  intro s b s'' h
  obtain ⟨a, s', h1, h2⟩ := bind_ok h
  exact (hm.h s a s' h1).trans ((hf a).h s' b s'' h2)

theorem Stp.ite {α} {c : Prop} [Decidable c] {a b : M α} (ha : Stp a) (hb : Stp b) : Stp (if c then a else b) := by
  split <;> assumption

theorem Stp.pure {α} (a : α) : Stp (Pure.pure a : M α) := .of_lk (Lk.pure a)
theorem Stp.throw {α} (e : Panic) : Stp (throw e : M α) := .of_lk (Lk.throw e)

theorem removeChild_stp (p c : Nat) : Stp (removeChild p c) :=
  ⟨fun s _ s' h => StepR.of_rm (removeChild_rm p c s s' h).1⟩

/-- `x` exists and is neither a Heading nor the Document -/
def PX (x : Nat) (s : St) : Prop :=
  x < s.nodes.length ∧ (ndx s x).kind ≠ .heading ∧ (ndx s x).kind ≠ .document

theorem PX.step {x : Nat} {s s' : St} (h : PX x s) (st : StepR s s') : PX x s' :=
  ⟨Nat.lt_of_lt_of_le h.1 st.len, by rw [st.kind x h.1]; exact h.2.1, by rw [st.kind x h.1]; exact h.2.2⟩

/-- a step, given that `x` is such a node (the node the surgery has just created) -/
structure StpX (x : Nat) {α : Type} (m : M α) : Prop where
  h : ∀ s a s', m s = .ok (a, s') → PX x s → StepR s s'

theorem StpX.of_stp {x : Nat} {α} {m : M α} (h : Stp m) : StpX x m := ⟨fun s a s' e _ => h.h s a s' e⟩

theorem StpX.bind {x : Nat} {α β} {m : M α} {f : α → M β} (hm : StpX x m) (hf : ∀ a, StpX x (f a)) :
    StpX x (m >>= f) := by
  constructor
  intro s b s'' h hp
  obtain ⟨a, s', h1, h2⟩ := bind_ok h
  have st := hm.h s a s' h1 hp
  exact st.trans ((hf a).h s' b s'' h2 (hp.step st))

theorem StpX.ite {x : Nat} {α} {c : Prop} [Decidable c] {a b : M α} (ha : StpX x a) (hb : StpX x b) :
    StpX x (if c then a else b) := by split <;> assumption

theorem StpX.of_op {x : Nat} {m : M Unit} (h : ∀ s s', m s = .ok ((), s') → ∃ p, OpR p x s s') : StpX x m := by
  constructor
  intro s a s' e hp
  obtain ⟨p, hop⟩ := h s s' e
  exact StepR.of_op hop hp.2.1 (fun w => ⟨hp.1, fun e0 => hp.2.2 (by rw [e0]; exact w.rootKind)⟩)

theorem insertAfter_stpx (p : Nat) (v : Option Nat) (x : Nat) : StpX x (insertAfter p v x) :=
  .of_op fun s s' h => ⟨p, insertAfter_op p v x s s' h⟩
theorem replaceChild_stpx (p v x : Nat) : StpX x (replaceChild p v x) :=
  .of_op fun s s' h => ⟨p, replaceChild_op p v x s s' h⟩

/-- creating a node (not a Heading, not a Document, unlinked) and going on with a computation that may insert it -/
theorem Stp.new {α} (n : Blocks.Node) {f : Nat → M α} (hk : n.kind ≠ .heading) (hd : n.kind ≠ .document)
    (hp : n.parent = none) (hc : n.children = []) (hf : ∀ x, StpX x (f x)) : Stp (newNode n >>= f) := by
  constructor
  intro s b s'' h
  obtain ⟨x, s', h1, h2⟩ := bind_ok h
  have l1 := (newNode_lk n hp hc).h s x s' h1
  obtain ⟨ex, es⟩ := newNode_ok h1
  have hx : PX x s' := by
    refine ⟨by rw [es, ex]; simp, ?_, ?_⟩ <;> (rw [es, ex, ndx_append]; simpa)
  exact (StepR.of_lr l1).trans ((hf x).h s' b s'' h2 hx)

macro "stp_step" : tactic =>
  `(tactic| first
    | apply_hyp
    | with_reducible exact insertAfter_stpx _ _ _
    | with_reducible exact replaceChild_stpx _ _ _
    | with_reducible refine Stp.new _ (by simp) (by simp) rfl rfl (fun _ => ?_)
    | with_reducible apply StpX.bind
    | with_reducible apply StpX.ite
    | with_reducible apply Stp.bind
    | with_reducible apply Stp.ite
    | with_reducible exact Stp.throw _
    | with_reducible exact Stp.pure _
    | ((with_reducible apply Stp.of_lk); lk_leaf)
    | intro _
    | split
    | with_reducible apply StpX.of_stp)

macro "stp" : tactic => `(tactic| repeat' stp_step)

/-! ### the four functions with tree surgery -/

theorem paragraphClose_stp (n : Nat) : Stp (paragraphClose n) := by
  have := removeChild_stp
  unfold paragraphClose; stp

theorem nextSibling_stp (c : Nat) : Stp (nextSibling c) := by unfold nextSibling; stp

theorem setextTail2_stp (n hp : Nat) (seg : Segment) (next : Option Nat) (b : Bool) : Stp (setextTail2 n hp seg next b) := by
  have := removeChild_stp
  unfold setextTail2; stp

theorem setextTail1_stp (n hp : Nat) (seg : Segment) (next : Option Nat) : Stp (setextTail1 n hp seg next) := by
  have := setextTail2_stp
  unfold setextTail1; stp

theorem setextClose_stp (n : Nat) : Stp (setextClose n) := by
  have := removeChild_stp
  have := nextSibling_stp
  have := setextTail1_stp
  rw [setextClose_eq]; stp

theorem tightenItem_stp (child : Nat) (gcs : List Nat) : Stp (tightenItem child gcs) := by
  induction gcs with
  | nil => unfold tightenItem; stp
  | cons gc gcs ih => unfold tightenItem; stp

theorem tightenItems_stp (cs : List Nat) : Stp (tightenItems cs) := by
  have := tightenItem_stp
  induction cs with
  | nil => unfold tightenItems; stp
  | cons c cs ih => unfold tightenItems; stp

theorem listClose_stp (n : Nat) : Stp (listClose n) := by
  have := tightenItems_stp
  unfold listClose; stp

theorem bpClose_stp (bp : BP) (n : Nat) : Stp (bpClose bp n) := by
  cases bp <;> unfold bpClose
  · exact setextClose_stp n
  · exact Stp.pure _
  · exact listClose_stp n
  · exact Stp.pure _
  · exact Stp.of_lk (codeClose_lk n)
  · exact Stp.pure _
  · exact Stp.of_lk (fencedClose_lk n)
  · exact Stp.pure _
  · exact Stp.pure _
  · exact paragraphClose_stp n

theorem bpOpen_stp (bp : BP) (p : Nat) : Stp (bpOpen bp p) := .of_lk (bpOpen_lk bp p)
theorem bpContinue_stp (bp : BP) (n : Nat) : Stp (bpContinue bp n) := .of_lk (bpContinue_lk bp n)
theorem toContinuable_stp (c : Bool) (r : OpenResult) (lb : Option Block) : Stp (toContinuable c r lb) :=
  .of_lk (toContinuable_lk c r lb)

/-! ### the link reference paragraph transformer -/

theorem transformFinish_stp (node : Nat) (n : Blocks.Node) (removes : List (Int × Int)) (refs : GM.LinkRef.RefMap) :
    Stp (GM.LinkRef.transformFinish node n removes refs) := by
  unfold GM.LinkRef.transformFinish; stp

theorem transform_stp (node : Nat) : Stp (GM.LinkRef.transform node) := by
  have := transformFinish_stp
  unfold GM.LinkRef.transform; stp

theorem guardedTransform_stp (node : Nat) : Stp (GM.LinkRef.guardedTransform node) := by
  have := transform_stp
  unfold GM.LinkRef.guardedTransform; stp

/-- a paragraph transformer the discipline can live with -/
def PTStp (pt : PT) : Prop := ∀ n, Stp (pt n)

theorem transformParagraph_stp : ∀ (pts : List PT), (∀ pt ∈ pts, PTStp pt) → ∀ n, Stp (transformParagraph pts n)
  | [], _, n => by unfold transformParagraph; stp
  | pt :: pts, hp, n => by
    have h1 : ∀ n, Stp (pt n) := hp pt (List.mem_cons_self ..)
    have h2 := transformParagraph_stp pts (fun q hq => hp q (List.mem_cons_of_mem _ hq))
    unfold transformParagraph; stp

theorem paragraphTransformers_stp (guard : Bool) : ∀ pt ∈ GM.Convert.paragraphTransformers guard, PTStp pt := by
  intro pt hpt
  unfold GM.Convert.paragraphTransformers at hpt
  rw [List.mem_singleton] at hpt
  subst hpt
  intro n
  split
  · exact guardedTransform_stp n
  · exact transform_stp n

end GM.ConvertH
