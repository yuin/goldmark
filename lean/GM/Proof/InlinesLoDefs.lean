/-
  GM.Proof.InlinesLoDefs — the context invariant `LK lo` of the link parser and the functions it is stated with (`dids`,
  `bots`) under the namespace GM.Proof.InlinesLoLink, and the trivial context invariant under GM.Proof.InlinesLo: the
  same definitions as in GM.Proof.InlinesLink and GM.Proof.InlinesLoopTotal, where they are proved about and used.
-/
import GM.Proof.InlinesLink

namespace GM.Proof.InlinesLo
open GM.Inl GM.Proof.InlinesTotal

/-- the trivial context invariant -/
def Ctx.trivial : Ctx where
  LK := fun _ _ _ => True
  appendText := fun _ _ _ _ _ => True.intro
  swapText := fun _ _ _ _ _ _ => True.intro
  appendPlain := fun _ _ _ => True.intro
  appendDelim := fun _ _ _ _ => True.intro
  bumpId := fun _ => True.intro

end GM.Proof.InlinesLo

namespace GM.Proof.InlinesLoLink
open GM GM.Text GM.Spec GM.Inl GM.Proof.Reader GM.Proof.InlinesReader GM.Proof.Inlines GM.Proof.InlinesTotal
open GM.Proof.InlinesDelims GM.Proof.BlockReaderFuel

/-- the ids of the top-level delimiters, in order -/
def dids : List Node → List Nat
  | [] => []
  | .delim id _ :: r => id :: dids r
  | _ :: r => dids r

/-- `pc.LastDelimiter()` as pushLinkBottom stores it, read off the reversed child list -/
def lastBR (l : List Node) : Bottom :=
  match splitFirstDelim l with
  | some (_, id, _, _) => .id id
  | none => .tnil

/-- the `linkBottom` stack that belongs to the (reversed) child list: one entry per top-level label -/
def botsR : List Node → List Bottom
  | [] => []
  | .label _ _ _ :: rest => lastBR rest :: botsR rest
  | _ :: rest => botsR rest

def bots (k : List Node) : List Bottom := botsR k.reverse

/-- the context invariant of the link parser; `lo` = the start of the block's first line -/
structure LK (lo : Int) (k : List Node) (n : Nat) (b : List Bottom) : Prop where
  pos : posL k
  dseg : allQ DSeg k
  sorted : (dids k).Pairwise (· < ·)
  lt : ∀ i ∈ dids k, i < n
  nest : ∀ nd ∈ k, nd.isLabel = false → hasLabel nd = false
  lablo : ∀ id s im, Node.label id s im ∈ k → lo ≤ s.start
  stack : b = bots k

theorem segsOf_closeLabels : ∀ (n : Node), segsOf (closeLabels n) = segsOf n :=
  GM.Proof.InlinesLink.segsOf_closeLabels

end GM.Proof.InlinesLoLink
