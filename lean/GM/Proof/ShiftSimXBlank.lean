/-
  GM.Proof.ShiftSimXBlank — the pass of the line loop of parseBlocks over a blank line `\n` closes the whole stack of
  open blocks (when the first open block is a leaf that never continues, a block quote or a paragraph), and
  `closeBlocks` does not look at BlockOffset / BlockIndent nor at the reader's caches (`CommBO` of GM.Proof.BlocksComm).
-/
import GM.Proof.ShiftSimEnd
import GM.Proof.BlocksComm

namespace GM.Blocks.Xs
open GM GM.Text GM.Blocks GM.Blocks.Sh
open GM.Blocks.Sh (llOpen llFall llBody ll_lineLoop_cons)

/-- `s` with BlockOffset / BlockIndent overwritten -/
def SetBO (o i : Int) (s : St) : St := { s with pc := { s.pc with blockOffset := o, blockIndent := i } }

theorem xb_kind_paragraph {bp : BP} (h : bp.kind = .paragraph) : bp = .paragraph := by
  cases bp <;> first | rfl | cases h

theorem xb_paragraphContinue_blank (node : Nat) (s : St) (hl : AtLine [10] s.r) (st : PState) (s' : St)
    (h : paragraphContinue node s = .ok (st, s')) :
    st.cont = false ∧ AtLine [10] s'.r ∧ s'.nodes = s.nodes ∧ s'.pc = s.pc ∧ h2_RC s.r s'.r := by
  unfold paragraphContinue at h
  obtain ⟨y, s1, h1, k1⟩ := bind_ok h
  obtain ⟨rfl, hl1, hn1, hp1, rc1⟩ := h2_peekLine hl h1
  simp only [Option.getD, h2_isBlank_nl, if_true] at k1
  obtain ⟨rfl, rfl⟩ := pure_ok k1
  exact ⟨rfl, hl1, hn1, hp1, rc1⟩

theorem xb_blockquoteContinue_blank (node : Nat) (s : St) (hl : AtLine [10] s.r) (st : PState) (s' : St)
    (h : blockquoteContinue node s = .ok (st, s')) :
    st.cont = false ∧ AtLine [10] s'.r ∧ s'.nodes = s.nodes ∧ s'.pc = s.pc ∧ h2_RC s.r s'.r := by
  unfold blockquoteContinue at h
  obtain ⟨b, s3, hb, h⟩ := bind_ok h
  unfold blockquoteProcess at hb
  obtain ⟨x, s4, h4, hb⟩ := bind_ok hb
  obtain ⟨rfl, hl4, hn4, hp4, c4⟩ := h2_peekLine hl h4
  dsimp only at hb
  obtain ⟨lo, s5, h5, hb⟩ := bind_ok hb
  obtain ⟨hl5, hn5, hp5, c5⟩ := h2_lineOffset hl4 h5
  simp only [Option.getD, indentWidthI_nl] at hb
  have c1 : (decide ((0:Int) > 3) || decide ((0:Int) ≥ (([10] : Bytes).length : Int))) = false := by
    decide
  rw [c1] at hb
  simp only [Bool.false_eq_true, if_false] at hb
  obtain ⟨c, s6, h6, hb⟩ := bind_ok hb
  obtain ⟨hc, rfl⟩ := liftE_ok h6
  have hc' : idx [10] 0 = .ok 10 := rfl
  rw [hc'] at hc
  cases hc
  simp only [show ((10 : UInt8) != 62) = true from rfl, if_true] at hb
  obtain ⟨rfl, rfl⟩ := pure_ok hb
  simp only [Bool.false_eq_true, if_false] at h
  obtain ⟨rfl, rfl⟩ := pure_ok h
  exact ⟨rfl, hl5, hn5.trans hn4, hp5.trans hp4, h2_RC_trans c4 c5⟩

/-- the exit of `openBlocks` on a blank line when nothing was opened -/
theorem xb_toContinuable_blank (cont : Bool) (lb : Option Block) (s : St) (hl : AtLine [10] s.r)
    (hc : cont = true → ∃ b, lb = some b ∧ b.bp = .paragraph) (res : OpenResult) (s' : St)
    (h : toContinuable cont .noBlocksOpened lb s = .ok (res, s')) :
    res = .noBlocksOpened ∧ AtLine [10] s'.r ∧ s'.nodes = s.nodes ∧ s'.pc = s.pc ∧ h2_RC s.r s'.r := by
  unfold toContinuable at h
  cases cont with
  | false =>
    simp only [Bool.and_false, Bool.false_eq_true, if_false] at h
    obtain ⟨rfl, rfl⟩ := pure_ok h
    exact ⟨rfl, hl, rfl, rfl, h2_RC_refl _⟩
  | true =>
    obtain ⟨b, rfl, hb⟩ := hc rfl
    simp only [beq_self_eq_true, Bool.and_true, if_true] at h
    rw [hb] at h
    simp only [bpContinue] at h
    obtain ⟨st, s8, h8, k8⟩ := bind_ok h
    obtain ⟨hc8, hl8, hn8, hp8, rc8⟩ := xb_paragraphContinue_blank _ _ hl _ _ h8
    rw [hc8] at k8
    simp only [Bool.false_eq_true, if_false] at k8
    obtain ⟨rfl, rfl⟩ := pure_ok k8
    exact ⟨rfl, hl8, hn8, hp8, rc8⟩

/-- `openBlocks` on the blank line, any stack: nothing is opened, the store is unchanged, the context changes in
    BlockOffset / BlockIndent only, the reader in its caches only -/
theorem xb_openBlocks_blank (parent : Nat) (blank : Bool) (s : St)
    (hl : AtLine [10] s.r)
    (hkind : ∀ x ∈ s.pc.opened, (s.nodes.getD x.node default).kind = x.bp.kind)
    (res : OpenResult) (s' : St)
    (h : openBlocks parent blank s = .ok (res, s')) :
    res = .noBlocksOpened ∧ s'.nodes = s.nodes ∧ s'.pc = { s.pc with blockOffset := 0, blockIndent := 0 } ∧
      AtLine [10] s'.r ∧ h2_RC s.r s'.r := by
  unfold openBlocks at h
  obtain ⟨lb, s1, h1, k1⟩ := bind_ok h
  obtain ⟨elb, e1⟩ := lastOpenedBlock_ok h1
  rw [e1] at k1
  have fin : ∀ cont, (cont = true → ∃ b, lb = some b ∧ b.bp = .paragraph) →
      (do let v ← source; openBlocksLoop blank cont (retryFuel v) parent OpenResult.noBlocksOpened lb : M OpenResult) s
      = .ok (res, s') → res = .noBlocksOpened ∧ s'.nodes = s.nodes ∧
        s'.pc = { s.pc with blockOffset := 0, blockIndent := 0 } ∧ AtLine [10] s'.r ∧ h2_RC s.r s'.r := by
    intro cont hcont k2
    obtain ⟨v, s3, h3, k3⟩ := bind_ok k2
    have e3 : s3 = s := by cases h3; rfl
    rw [e3] at k3
    have hf : retryFuel v = (2 * v.length + 7) + 1 := rfl
    rw [hf] at k3
    unfold openBlocksLoop at k3
    obtain ⟨y, s4, h4, k4⟩ := bind_ok k3
    obtain ⟨rfl, hl4, hn4, hp4, cu4⟩ := h2_peekLine hl h4
    dsimp only at k4
    obtain ⟨lo, s5, h5, k5⟩ := bind_ok k4
    obtain ⟨hl5, hn5, hp5, cu5⟩ := h2_lineOffset hl4 h5
    simp only [Option.getD, indentWidthI_nl] at k5
    obtain ⟨u, s6, h6, k6⟩ := bind_ok k5
    have e6 := modPc_ok h6
    have hlen : ¬ ((0 : Int) ≥ (([10] : Bytes).length : Int)) := by decide
    rw [if_neg hlen] at e6
    have hidx : idx [10] 0 = .ok 10 := rfl
    simp only [Option.isNone, Bool.false_eq_true, if_false, hidx] at k6
    obtain ⟨c, s7, h7, k7⟩ := bind_ok k6
    obtain ⟨ec, e7⟩ := liftE_ok h7
    cases ec
    simp only [beq_self_eq_true, if_true] at k7
    rw [e7] at k7
    have hl6 : AtLine [10] s6.r := by rw [e6]; exact hl5
    obtain ⟨hr, hl', hn', hp', rc'⟩ := xb_toContinuable_blank cont lb s6 hl6 hcont res s' k7
    have hp : s5.pc = s.pc := hp5.trans hp4
    have rc6 : h2_RC s.r s6.r := by rw [e6]; exact h2_RC_trans cu4 cu5
    refine ⟨hr, by rw [hn', e6]; exact hn5.trans hn4, by rw [hp', e6]; show _ = _; rw [hp], hl',
      h2_RC_trans rc6 rc'⟩
  dsimp only at k1
  cases lb with
  | none =>
    dsimp only at k1
    obtain ⟨cont, s2, h2, k2⟩ := bind_ok k1
    obtain ⟨ec, e2⟩ := pure_ok h2
    rw [e2] at k2
    exact fin cont (fun hc => by rw [ec] at hc; cases hc) k2
  | some b =>
    dsimp only at k1
    obtain ⟨n, s2, h2, k2⟩ := bind_ok k1
    obtain ⟨en, e2⟩ := getNode_ok h2
    rw [e2] at k2
    obtain ⟨cont, s3, h3, k3⟩ := bind_ok k2
    obtain ⟨ec, e3⟩ := pure_ok h3
    rw [e3] at k3
    refine fin cont (fun hc => ⟨b, rfl, ?_⟩) k3
    have hmem : b ∈ s.pc.opened := List.mem_of_getLast? elb.symm
    have hk := hkind b hmem
    rw [ec, en] at hc
    have : (s.nodes.getD b.node default).kind = .paragraph := by
      simpa using hc
    exact xb_kind_paragraph (hk.symm.trans this)

theorem xb_slotAfter_self {l : List Block} {i : Int} {b : Block} (h : blockAt l i = .ok b) :
    slotAfter l l i.toNat = some b := by
  unfold blockAt at h
  unfold slotAfter
  split at h
  · cases h
  · cases hg : l[i.toNat]? with
    | none => rw [hg] at h; cases h
    | some c => rw [hg] at h; cases h; rfl

/-- `llFall` at level 0 on the blank line: `openBlocks` opens nothing, the whole stack is closed -/
theorem xb_llFall_blank (s : St) (ob : List Block) (lineNum : Int) (bl : List LineStat)
    (hl : AtLine [10] s.r) (hop : s.pc.opened = ob)
    (hkind : ∀ x ∈ ob, (s.nodes.getD x.node default).kind = x.bp.kind)
    (x : LineOutcome × List LineStat) (s' : St)
    (h : llFall 0 ob ((ob.length : Int) - 1) 0 lineNum bl s = .ok (x, s')) :
    x = (.next, bl) ∧ ∃ rm : Reader, h2_RC s.r rm ∧
      closeBlocks ((ob.length : Int) - 1) 0 { SetBO 0 0 s with r := rm } = .ok ((), s') := by
  unfold llFall at h
  simp only [bne_self_eq_false, Bool.false_eq_true, if_false] at h
  unfold llOpen at h
  obtain ⟨lastNode, sC, hC, kC⟩ := bind_ok h
  obtain ⟨hln, eC⟩ := liftE_ok hC
  rw [eC] at kC
  obtain ⟨res, sD, hD, kD⟩ := bind_ok kC
  obtain ⟨hres, hnD, hpD, hlD, rcD⟩ := xb_openBlocks_blank 0 _ s hl (by rw [hop]; exact hkind) res sD hD
  rw [hres] at kD
  simp only [show (OpenResult.noBlocksOpened != OpenResult.paragraphContinuation) = true from rfl, if_true] at kD
  obtain ⟨pc, sE, hE, kE⟩ := bind_ok kD
  obtain ⟨epc, eE⟩ := getPc_ok hE
  rw [eE, epc] at kE
  obtain ⟨u, sF, hF, kF⟩ := bind_ok kE
  obtain ⟨eo, eF⟩ := pure_ok kF
  have hoD' : sD.pc.opened = ob := by rw [hpD]; exact hop
  rw [hoD', xb_slotAfter_self hln] at hF
  simp only [Option.map, bne_self_eq_false, Bool.false_eq_true, if_false] at hF
  refine ⟨eo, sD.r, rcD, ?_⟩
  have hsD : sD = { SetBO 0 0 s with r := sD.r } := by
    cases sD
    simp only at hnD hpD
    subst hnD hpD
    rfl
  rw [← hsD, eF] at *
  cases u
  exact hF

theorem blank_pass_closes (s : St) (b0 : Block) (rest : List Block) (stats : List LineStat)
    (hl : AtLine [10] s.r) (hop : s.pc.opened = b0 :: rest)
    (_hids : ∀ x ∈ b0 :: rest, x.node < s.nodes.length)
    (hkind : ∀ x ∈ b0 :: rest, (s.nodes.getD x.node default).kind = x.bp.kind)
    (hb0 : b0.bp = .thematic ∨ b0.bp = .atx ∨ b0.bp = .blockquote ∨ b0.bp = .paragraph ∨ b0.bp = .setext)
    (x : LineOutcome × List LineStat) (s' : St)
    (h : lineLoop 0 (b0 :: rest) (((b0 :: rest).length : Int) - 1) (b0 :: rest) 0 stats s = .ok (x, s')) :
    x.1 = .next ∧ x.2 = stats ++ [{ lineNum := s.r.line, level := 0, isBlank := true }] ∧
    ∃ (o i : Int) (rm : Reader), h2_RC s.r rm ∧
      closeBlocks (((b0 :: rest).length : Int) - 1) 0 { SetBO o i s with r := rm } = .ok ((), s') := by
  rw [ll_lineLoop_cons] at h
  obtain ⟨y, s1, h1, k1⟩ := bind_ok h
  obtain ⟨rfl, hl1, hn1, hp1, rc1⟩ := h2_peekLine hl h1
  dsimp only at k1
  obtain ⟨pos, s2, h2, k2⟩ := bind_ok k1
  have e2 : pos = (s1.r.line, s1.r.pos) ∧ s2 = s1 := by cases h2; exact ⟨rfl, rfl⟩
  obtain ⟨rfl, rfl⟩ := e2
  dsimp only at k2
  rw [h2_isBlank_nl] at k2
  have hop1 : s2.pc.opened = b0 :: rest := by rw [hp1]; exact hop
  have hkind1 : ∀ x ∈ b0 :: rest, (s2.nodes.getD x.node default).kind = x.bp.kind := by rw [hn1]; exact hkind
  -- the state before `llFall` differs from `s` in the reader's caches only
  have fin : ∀ sA : St, AtLine [10] sA.r → sA.nodes = s.nodes → sA.pc = s.pc → h2_RC s.r sA.r →
      llFall 0 (b0 :: rest) (((b0 :: rest).length : Int) - 1) 0 s2.r.line
        (stats ++ [{ lineNum := s2.r.line, level := 0, isBlank := true }]) sA = .ok (x, s') →
      x.1 = .next ∧ x.2 = stats ++ [{ lineNum := s.r.line, level := 0, isBlank := true }] ∧
      ∃ (o i : Int) (rm : Reader), h2_RC s.r rm ∧
        closeBlocks (((b0 :: rest).length : Int) - 1) 0 { SetBO o i s with r := rm } = .ok ((), s') := by
    intro sA hlA hnA hpA rcA k
    obtain ⟨ex, rm, rcm, hcl⟩ := xb_llFall_blank sA (b0 :: rest) _ _ hlA (by rw [hpA]; exact hop)
      (by rw [hnA]; exact hkind) x s' k
    refine ⟨by rw [ex], by rw [ex, rc1.2.2], 0, 0, rm, h2_RC_trans rcA rcm, ?_⟩
    have : ({ SetBO 0 0 sA with r := rm } : St) = { SetBO 0 0 s with r := rm } := by
      unfold SetBO
      rw [hnA, hpA]
    rw [← this]
    exact hcl
  unfold llBody at k2
  obtain ⟨beNode, s3, h3, k3⟩ := bind_ok k2
  obtain ⟨en3, e3⟩ := getNode_ok h3
  by_cases hk : (beNode.kind != Kind.paragraph) = true
  · rw [if_pos hk] at k3
    obtain ⟨st, s4, h4, k4⟩ := bind_ok k3
    have hl3 : AtLine [10] s3.r := by rw [e3]; exact hl1
    have hcl : st.cont = false ∧ AtLine [10] s4.r ∧ s4.nodes = s3.nodes ∧ s4.pc = s3.pc ∧ h2_RC s3.r s4.r := by
      rcases hb0 with hb | hb | hb | hb | hb
      · rw [hb] at h4; simp only [bpContinue] at h4
        obtain ⟨rfl, rfl⟩ := pure_ok h4
        exact ⟨rfl, hl3, rfl, rfl, h2_RC_refl _⟩
      · rw [hb] at h4; simp only [bpContinue] at h4
        obtain ⟨rfl, rfl⟩ := pure_ok h4
        exact ⟨rfl, hl3, rfl, rfl, h2_RC_refl _⟩
      · rw [hb] at h4; simp only [bpContinue] at h4
        exact xb_blockquoteContinue_blank _ _ hl3 _ _ h4
      · exfalso
        have := hkind1 b0 List.mem_cons_self
        rw [hb] at this
        rw [en3, this] at hk
        exact absurd hk (by decide)
      · rw [hb] at h4; simp only [bpContinue] at h4
        obtain ⟨rfl, rfl⟩ := pure_ok h4
        exact ⟨rfl, hl3, rfl, rfl, h2_RC_refl _⟩
    obtain ⟨hc4, hl4, hn4, hp4, rc4⟩ := hcl
    rw [hc4] at k4
    simp only [Bool.false_eq_true, if_false] at k4
    rw [e3] at hn4 hp4 rc4
    exact fin s4 hl4 (hn4.trans hn1) (hp4.trans hp1) (h2_RC_trans rc1 rc4) k4
  · rw [if_neg hk] at k3
    rw [e3] at k3
    exact fin s2 hl1 hn1 hp1 rc1 k3

section comm
variable (o i : Int) (rm : Reader)

/-- overwrite BlockOffset / BlockIndent and the reader -/
abbrev xb_T (s : St) : St := { SetBO o i s with r := rm }

/-- `f` commutes with `xb_T` on the states whose reader has the source of `rm`, and keeps the source -/
def xb_Comm {α} (f : M α) : Prop :=
  ∀ s, s.r.source = rm.source →
    f (xb_T o i rm s) = (f s).map (fun p => (p.1, xb_T o i rm p.2)) ∧
      ∀ a s', f s = .ok (a, s') → s'.r.source = rm.source

variable {o i rm}

/-- `xb_Comm` is `CommBO` of GM.Proof.BlocksComm, where the `Close` functions, the tree operations and `closeBlocks` are
    shown to have it -/
theorem xb_comm_iff {α} {f : M α} : xb_Comm o i rm f ↔ CommBO o i rm f := Iff.rfl

theorem xb_Comm.source : xb_Comm o i rm source := CommBO.source

theorem xb_Comm.removeChild (p c : Nat) : xb_Comm o i rm (removeChild p c) := CommBO.removeChild p c

theorem xb_Comm.ensureIsolated (c : Nat) : xb_Comm o i rm (ensureIsolated c) := CommBO.ensureIsolated c

theorem xb_Comm.appendChild (p c : Nat) : xb_Comm o i rm (appendChild p c) := CommBO.appendChild p c

theorem xb_Comm.insertBefore (p : Nat) (v1 : Option Nat) (ins : Nat) : xb_Comm o i rm (insertBefore p v1 ins) :=
  CommBO.insertBefore p v1 ins

theorem xb_Comm.insertAfter (p : Nat) (v1 : Option Nat) (ins : Nat) : xb_Comm o i rm (insertAfter p v1 ins) :=
  CommBO.insertAfter p v1 ins

theorem xb_Comm.replaceChild (p v1 ins : Nat) : xb_Comm o i rm (replaceChild p v1 ins) := CommBO.replaceChild p v1 ins

theorem xb_Comm.closeBlocks (frm to : Int) : xb_Comm o i rm (closeBlocks frm to) := CommBO.closeBlocks frm to

end comm

/-- `closeBlocks` does not look at BlockOffset / BlockIndent nor at the reader's caches (all ten parsers) -/
theorem closeBlocks_setBO (frm to : Int) (o i : Int) (s : St) (rm : Reader) (hrc : rm.source = s.r.source) :
    closeBlocks frm to { SetBO o i s with r := rm } =
      (closeBlocks frm to s).map (fun p => (p.1, { SetBO o i p.2 with r := rm })) :=
  (xb_Comm.closeBlocks frm to s hrc.symm).1

end GM.Blocks.Xs
