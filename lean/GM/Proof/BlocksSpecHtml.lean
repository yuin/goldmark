/-
  GM.Proof.BlocksSpecHtml — the contracts (GM.Proof.BlocksInv) of the HTML block parser (html_block.go) and of the
  setext heading parser (setext_headings.go).
-/
import GM.Proof.BlocksInv
import GM.Proof.BlocksAtx
namespace GM.Blocks
open GM GM.Text GM.Spec GM.Proof.Reader

/-! ### the trivial entry points -/

theorem W.htmlClose_spec (src : Bytes) : W.CloseSpecW src .html := by
  intro node s hsrc hn hk hb
  show OKL _ (Except.ok ((), s))
  exact OKL.ok ⟨rfl, rfl, Ext.refl s, hn, .inl rfl, .inl rfl, fun h => by cases h⟩

theorem htmlClose_spec (src : Bytes) : CloseSpec src .html := (W.htmlClose_spec src).toSpec

theorem W.setextContinue_spec (src : Bytes) : W.ContSpecW src .setext := by
  intro node s c h hpad hp hn hk hb
  show OKL _ (Except.ok (stClose, s))
  exact OKL.ok ⟨⟨c, h.toRIa, hpad, Nat.le_refl _, Nat.le_of_lt hp, .inr h⟩, rfl, Ext.refl s, hn,
    fun _ => rfl, fun hc => by cases hc⟩

theorem setextContinue_spec (src : Bytes) : ContSpec src .setext := (W.setextContinue_spec src).toSpec

/-! ### setextHeadingParser.Open -/

namespace SpecHtml
theorem matchesSetextHeadingBar_ok (line : Bytes) (h : 1 ≤ line.length) :
    ∃ v, matchesSetextHeadingBar line = .ok v := by
  unfold matchesSetextHeadingBar
  simp only [bind, Except.bind, pure, Except.pure]
  split
  · exact ⟨_, rfl⟩
  · rename_i hsp
    have hcl := countLeading_le 32 line
    obtain ⟨rest, hrest⟩ := slice_ok' line (countLeading 32 line) line.length (by omega) (by omega) (Int.le_refl _)
    rw [hrest]
    simp only
    obtain ⟨b, hb, _⟩ := idx_ok line ((line.length : Int) - 1) (by omega) (by omega)
    rw [hb]
    simp only
    repeat' split
    all_goals exact ⟨_, rfl⟩

end SpecHtml
open SpecHtml

theorem setextOpen_spec (src : Bytes) : OpenSpec src .setext := by
  intro parent s c hctx
  obtain ⟨h, hp, hpad, hoff, hn⟩ := hctx
  show OKL _ (setextOpen parent s)
  unfold setextOpen
  -- every "no" answer: nothing changed but the reader cache
  have fin : ∀ r1, RI src r1 c →
      OKL (fun a s' => OpenPost src .setext parent s c a s')
        (.ok ((none, stNoChildren), { s with r := r1 })) := fun r1 h1 =>
    OKL.ok ⟨⟨c, h1, hpad, Nat.le_refl _, fun _ => rfl, fun hc => by cases hc⟩, rfl, rfl, fun _ => rfl,
      fun id hid => (by cases hid), .inr ⟨.inr rfl, rfl⟩, .inr ⟨.inr rfl, rfl⟩, fun hc => (by cases hc),
      fun hc => (by cases hc)⟩
  refine OKL.bind (m := lastOpenedBlock) (P := fun v s' => v = s.pc.opened.getLast? ∧ s' = s) (OKL.ok ⟨rfl, rfl⟩)
    (fun v s1 hv => ?_)
  obtain ⟨hv, hs1⟩ := hv
  rw [hs1]; clear hs1 s1
  cases v with
  | none => exact fin s.r h
  | some lb =>
    have hlb := hv.symm
    simp only
    refine OKL.bind (m := getNode lb.node) (P := fun v s' => v = nd s lb.node ∧ s' = s) (OKL.ok ⟨rfl, rfl⟩)
      (fun ln s2 hv => ?_)
    obtain ⟨hv, hs2⟩ := hv
    rw [hs2, hv]; clear hs2 hv s2 ln
    by_cases hg : ((nd s lb.node).kind != Kind.paragraph || (nd s lb.node).parent != some parent) = true
    · rw [if_pos hg]; exact fin s.r h
    · rw [if_neg hg]
      have hg' : (nd s lb.node).kind = .paragraph ∧ (nd s lb.node).parent = some parent := by
        simp only [Bool.or_eq_true, not_or, bne_iff_ne, ne_eq, Decidable.not_not] at hg
        exact hg
      obtain ⟨hkind, hpar⟩ := hg'
      refine OKL.bind (peekLine_okl h) (fun x s3 hx => ?_)
      obtain ⟨hx, r1, hs3, h1⟩ := hx
      subst hx hs3
      simp only
      have hv := view_eq src c hp
      have hl2 := view_length src c hp hv
      obtain ⟨v, hm⟩ := matchesSetextHeadingBar_ok ((RCur.view src c).getD []) (by rw [hv]; simp only [Option.getD_some]; omega)
      refine OKL.bind (liftE_okl (P := fun a s' => a = v ∧ s' = { s with r := r1 }) hm ⟨rfl, rfl⟩) (fun a s4 ha => ?_)
      obtain ⟨ha, hs4⟩ := ha
      subst ha hs4
      obtain ⟨ch, ok⟩ := a
      simp only
      by_cases hok : (!ok) = true
      · rw [if_pos hok]; exact fin r1 h1
      · rw [if_neg hok]
        simp only [bind, StateT.bind, newNode, appendLine, modNode, modPc, pure, StateT.pure, Except.bind, Except.pure]
        simp only [getD_length_append, set_length_append]
        refine OKL.ok ⟨⟨c, h1, hpad, Nat.le_refl _, fun hc => (by cases hc), fun hc => (by cases hc)⟩, rfl, rfl,
          fun hc => (by cases hc), ?_, .inl ⟨rfl, rfl, lb, hlb, hkind, hpar, rfl⟩, .inr ⟨.inl (by decide), rfl⟩,
          fun _ => ⟨rfl, rfl⟩, fun hc => (by cases hc)⟩
        intro id hid
        simp only [Option.some.injEq] at hid
        refine ⟨hid.symm, _, rfl, rfl, ⟨?_, fun hc => (by cases hc)⟩, rfl, fun _ => (by simp), fun _ => (by simp)⟩
        intro t ht
        simp only [List.nil_append, List.mem_singleton] at ht
        rw [ht]; exact seg_ok src c h.inRange

/-! ### htmlBlockParser.Open -/

namespace SpecHtml
/-- `Advance(segment.Len() - util.TrimRightSpaceLength(line))` is never a backward move -/
theorem html_adv_nonneg (src : Bytes) (c : RCur) (hp : c.p < src.length) :
    0 ≤ (RCur.seg src c).len - (trimRightSpaceLength ((RCur.view src c).getD []) : Int) := by
  have hv := view_eq src c hp
  have hl := view_len src c hp hv
  have := trimRightSpaceLength_le ((RCur.view src c).getD [])
  rw [hv] at this ⊢
  simp only [Option.getD_some] at this ⊢
  omega

end SpecHtml
open SpecHtml

theorem htmlOpen_spec (src : Bytes) : OpenSpec src .html := by
  intro parent s c hctx
  obtain ⟨h, hp, hpad, hoff, hn⟩ := hctx
  show OKL _ (htmlOpen parent s)
  unfold htmlOpen
  have fin : ∀ r1, RI src r1 c →
      OKL (fun a s' => OpenPost src .html parent s c a s')
        (.ok ((none, stNoChildren), { s with r := r1 })) := fun r1 h1 =>
    OKL.ok ⟨⟨c, h1, hpad, Nat.le_refl _, fun _ => rfl, fun hc => by cases hc⟩, rfl, rfl, fun _ => rfl,
      fun id hid => (by cases hid), .inr ⟨.inr rfl, rfl⟩, .inr ⟨.inr rfl, rfl⟩, fun hc => (by cases hc),
      fun hc => (by cases hc)⟩
  refine OKL.bind (peekLine_okl h) (fun x s1 hx => ?_)
  obtain ⟨hx, r1, hs1, h1⟩ := hx
  subst hx hs1
  simp only
  refine OKL.bind (m := lastOpenedBlock) (s := { s with r := r1 }) (P := fun _ s' => s' = { s with r := r1 })
    (OKL.ok rfl) (fun v s2 hs2 => ?_)
  subst hs2
  cases v
  case' none =>
    refine OKL.bind (m := pure false) (s := { s with r := r1 }) (P := fun _ s' => s' = { s with r := r1 })
      (OKL.ok rfl) (fun lastIsPara s2 hs2 => ?_)
  case' some lb =>
    refine OKL.bind (m := getNode lb.node) (s := { s with r := r1 }) (P := fun _ s' => s' = { s with r := r1 })
      (OKL.ok rfl) (fun ln s2 hs2 => ?_)
    subst hs2
    refine OKL.bind (m := pure (ln.kind == Kind.paragraph)) (s := { s with r := r1 })
      (P := fun _ s' => s' = { s with r := r1 }) (OKL.ok rfl) (fun lastIsPara s2 hs2 => ?_)
  all_goals
    subst hs2
    refine OKL.bind (m := getPc) (s := { s with r := r1 }) (P := fun v s' => v = s.pc ∧ s' = { s with r := r1 })
      (OKL.ok ⟨rfl, rfl⟩) (fun pc s3 hv => ?_)
    obtain ⟨hv, hs3⟩ := hv
    subst hv hs3
    by_cases hc0 : s.pc.blockOffset < 0
    · rw [if_pos hc0]; exact fin r1 h1
    · rw [if_neg hc0]
      obtain ⟨b0, hb0, _⟩ := idx_ok ((RCur.view src c).getD []) s.pc.blockOffset (by omega) hoff
      refine OKL.bind (liftE_okl (P := fun a s' => a = b0 ∧ s' = { s with r := r1 }) hb0 ⟨rfl, rfl⟩) (fun a s4 ha => ?_)
      obtain ⟨ha, hs4⟩ := ha
      subst ha hs4
      by_cases hc1 : (a != 60) = true
      · rw [if_pos hc1]; exact fin r1 h1
      · rw [if_neg hc1]
        cases ht : htmlOpenType ((RCur.view src c).getD []) lastIsPara with
        | none => exact fin r1 h1
        | some t =>
          simp only
          have hlen := html_adv_nonneg src c hp
          simp only [bind, StateT.bind, newNode, pure, StateT.pure, Except.bind, Except.pure]
          have hadv := advance_okl (src := src)
            (s := { r := r1, nodes := s.nodes ++ [({ kind := Kind.htmlBlock, htmlType := t } : Node)], pc := s.pc })
            (c := c) h1 hlen
          rcases hadv with ⟨_, s5, e5, r5, hs5, h5⟩ | e5
          · rw [e5]
            simp only [appendLine, modNode, pure, Except.pure]
            rw [hs5]
            simp only [getD_length_append, set_length_append]
            refine OKL.ok ⟨⟨_, h5, hpad.advN h.inRange _, (advN_mono src _ c h.inRange).1, fun hc => (by cases hc),
              fun hc => (by cases hc)⟩, rfl, rfl, fun hc => (by cases hc), ?_, .inr ⟨.inl (by decide), rfl⟩,
              .inr ⟨.inl (by decide), rfl⟩, fun hc => (by cases hc), fun hc => (by cases hc)⟩
            intro id hid
            simp only [Option.some.injEq] at hid
            refine ⟨hid.symm, _, rfl, rfl, ⟨?_, fun hc => (by cases hc)⟩, rfl, fun hc => (by cases hc),
              fun hc => (by cases hc)⟩
            intro t ht
            simp only [List.nil_append, List.mem_singleton] at ht
            rw [ht]; exact seg_ok src c h.inRange
          · rw [e5]; exact .inr rfl

namespace SpecHtml
theorem okl_ite {α} {P : α → St → Prop} {c : Prop} [Decidable c] {a b : M α} {s : St}
    (ha : c → OKL P (a s)) (hb : ¬ c → OKL P (b s)) : OKL P ((if c then a else b) s) := by
  by_cases hc : c
  · rw [if_pos hc]; exact ha hc
  · rw [if_neg hc]; exact hb hc

theorem ext_set (s : St) (i : Nat) (m : Node) (r : Reader) (pc : Ctx) (hk : m.kind = (nd s i).kind)
    (hne : (nd s i).lines ≠ [] → m.lines ≠ []) : Ext s { r := r, nodes := s.nodes.set i m, pc := pc } := by
  refine ⟨by simp, fun j hj => ?_, fun j hj _ hl => ?_⟩
  · by_cases e : i = j
    · subst e; simp only [nd]; rw [getD_set_eq _ _ _ _ hj]; exact hk
    · simp only [nd]; rw [getD_set_ne _ _ _ _ _ e]
  · by_cases e : i = j
    · subst e; simp only [nd]; rw [getD_set_eq _ _ _ _ hj]; exact hne hl
    · simp only [nd]; rw [getD_set_ne _ _ _ _ _ e]; exact hl

theorem nodesOK_set {src : Bytes} {s : St} (hn : NodesOK src s) (i : Nat) (m : Node) (r : Reader) (pc : Ctx)
    (hm : NodeOK src m) : NodesOK src { r := r, nodes := s.nodes.set i m, pc := pc } := by
  intro n hmem
  rcases List.mem_or_eq_of_mem_set hmem with h1 | h1
  · exact hn n h1
  · rw [h1]; exact hm

end SpecHtml
open SpecHtml

/-! ### htmlBlockParser.Continue -/

namespace SpecHtml
/-- the two tails of `Continue`: a write to the node, then `Advance` to the end of the line -/
theorem html_tail_okl {src : Bytes} {s : St} {c : RCur} {r1 : Reader} (h1 : RI src r1 c) (hpad : PadOK c)
    (hp : c.p < src.length) (hn : NodesOK src s) (node : Nat) (f : Node → Node) (st : PState)
    (hst : st.hasChildren = false) (hk : (f (nd s node)).kind = (nd s node).kind)
    (hne : (nd s node).lines ≠ [] → (f (nd s node)).lines ≠ []) (hok : NodeOK src (f (nd s node))) :
    OKL (fun st' s' => ContPost src .html s c st' s')
      ((modNode node f >>= fun _ =>
          advance ((RCur.seg src c).len - (trimRightSpaceLength ((RCur.view src c).getD []) : Int)) >>=
            fun _ => (pure st : M PState)) { s with r := r1 }) := by
  have hlen := html_adv_nonneg src c hp
  simp only [bind, StateT.bind, modNode, pure, Except.pure, Except.bind]
  have hadv := advance_okl (src := src)
    (s := { r := r1, nodes := s.nodes.set node (f (s.nodes.getD node default)), pc := s.pc }) (c := c) h1 hlen
  rcases hadv with ⟨_, s5, e5, r5, hs5, h5⟩ | e5
  · rw [e5]
    simp only [StateT.pure, pure, Except.pure]
    rw [hs5]
    have hm := advN_mono src ((RCur.seg src c).len - (trimRightSpaceLength ((RCur.view src c).getD []) : Int)).toNat c
      (Nat.le_of_lt hp)
    exact OKL.ok ⟨⟨_, h5.toRIa, hpad.advN (Nat.le_of_lt hp) _, hm.1, hm.2, .inr h5⟩, rfl,
      ext_set s node _ r5 s.pc hk hne, nodesOK_set hn node _ r5 s.pc hok, fun _ => hst, fun hc => (by cases hc)⟩
  · rw [e5]; exact .inr rfl

theorem lineAt_one {ls : List Segment} (h : (ls.length == 1) = true) :
    ∃ x, lineAt ls 0 = .ok x ∧ x ∈ ls := by
  cases ls with
  | nil => simp at h
  | cons a l => exact ⟨a, rfl, by simp⟩

end SpecHtml
open SpecHtml

theorem W.htmlContinue_spec (src : Bytes) : W.ContSpecW src .html := by
  intro node s c h hpad hp hn hk hb
  show OKL _ (htmlContinue node s)
  unfold htmlContinue
  refine OKL.bind (m := getNode node) (s := s) (P := fun v s' => v = nd s node ∧ s' = s) (OKL.ok ⟨rfl, rfl⟩)
    (fun n s0 hv => ?_)
  obtain ⟨hv, hs0⟩ := hv
  rw [hs0, hv]; clear hs0 hv s0 n
  refine OKL.bind (peekLine_okl h) (fun x s1 hx => ?_)
  obtain ⟨hx, r1, hs1, h1⟩ := hx
  subst hx hs1
  simp only
  have hnode : NodeOK src (nd s node) := hn _ (nd_mem hb.lt)
  have hClose : OKL (fun st s' => ContPost src .html s c st s') ((pure stClose : M PState) { s with r := r1 }) :=
    OKL.ok ⟨⟨c, h1.toRIa, hpad, Nat.le_refl _, Nat.le_of_lt hp, .inr h1⟩, rfl, Ext.of_nodes_eq rfl, hn,
      fun _ => rfl, fun hc => (by cases hc)⟩
  have hCloseAdv := html_tail_okl (s := s) h1 hpad hp hn node
    (fun n => { n with closure := RCur.seg src c }) stClose rfl rfl (fun hl => hl) ⟨hnode.lines, hnode.nil⟩
  have hCont := html_tail_okl (s := s) h1 hpad hp hn node
    (fun n => { n with lines := n.lines ++ [RCur.seg src c], linesNil := false }) stContinueNoChildren rfl rfl
    (fun _ => by simp)
    ⟨fun t ht => by
        simp only [List.mem_append, List.mem_singleton] at ht
        rcases ht with ht | ht
        · exact hnode.lines t ht
        · rw [ht]; exact seg_ok src c h.inRange,
      fun hc => (by cases hc)⟩
  refine okl_ite (fun hc1 => ?_) (fun hc1 => ?_)
  · refine okl_ite (fun hc2 => ?_) (fun hc2 => ?_)
    · obtain ⟨x, hx, hxm⟩ := lineAt_one hc2
      have hxok : SegOK src x := hnode.lines x hxm
      have hval := value_spec src x hxok
      refine OKL.bind (liftE_okl (P := fun a s' => a = x ∧ s' = { s with r := r1 }) hx ⟨rfl, rfl⟩) (fun a s4 ha => ?_)
      obtain ⟨ha, hs4⟩ := ha
      subst ha hs4
      refine OKL.bind (m := source) (s := { s with r := r1 }) (P := fun v s' => v = src ∧ s' = { s with r := r1 })
        (OKL.ok ⟨h1.source, rfl⟩) (fun v s5 hv => ?_)
      obtain ⟨hv, hs5⟩ := hv
      subst hs5
      rw [hv]
      refine OKL.bind (liftE_okl (P := fun a s' => s' = { s with r := r1 }) hval rfl) (fun a s4 ha => ?_)
      subst ha
      exact okl_ite (fun _ => hClose) (fun _ => okl_ite (fun _ => hCloseAdv) (fun _ => hCont))
    · exact okl_ite (fun _ => hCloseAdv) (fun _ => hCont)
  · exact okl_ite (fun _ => okl_ite (fun _ => hClose) (fun _ => hCont)) (fun _ => hCont)

theorem htmlContinue_spec (src : Bytes) : ContSpec src .html := (W.htmlContinue_spec src).toSpec

/-! ### setextHeadingParser.Close -/

namespace SpecHtml
theorem nodesOK_modKeep {src : Bytes} {s : St} (hn : NodesOK src s) (i : Nat) (f : Node → Node) (r : Reader) (pc : Ctx)
    (hl : ∀ n, (f n).lines = n.lines) (hnil : ∀ n, (f n).linesNil = n.linesNil) :
    NodesOK src { r := r, nodes := s.nodes.set i (f (s.nodes.getD i default)), pc := pc } := by
  by_cases hi : i < s.nodes.length
  · have hnode : NodeOK src (nd s i) := hn _ (nd_mem hi)
    refine nodesOK_set hn i _ r pc ⟨?_, ?_⟩
    · rw [hl]; exact hnode.lines
    · rw [hl, hnil]; exact hnode.nil
  · rw [List.set_eq_of_length_le (Nat.le_of_not_lt hi)]; exact hn

theorem ext_modKeep (s : St) (i : Nat) (f : Node → Node) (r : Reader) (pc : Ctx)
    (hk : ∀ n, (f n).kind = n.kind) (hl : ∀ n, (f n).lines = n.lines) :
    Ext s { r := r, nodes := s.nodes.set i (f (s.nodes.getD i default)), pc := pc } :=
  ext_set s i _ r pc (hk _) (fun h => by rw [hl]; exact h)

theorem modNode_keep {src : Bytes} {s : St} (hn : NodesOK src s) (i : Nat) (f : Node → Node)
    (hk : ∀ n, (f n).kind = n.kind) (hl : ∀ n, (f n).lines = n.lines) (hnil : ∀ n, (f n).linesNil = n.linesNil) :
    ∃ s', modNode i f s = .ok ((), s') ∧ s'.r = s.r ∧ s'.pc = s.pc ∧ NodesOK src s' ∧ Ext s s' :=
  ⟨_, rfl, rfl, rfl, nodesOK_modKeep hn i f s.r s.pc hl hnil, ext_modKeep s i f s.r s.pc hk hl⟩

theorem removeChild_ok {src : Bytes} {s : St} (hn : NodesOK src s) (p c : Nat) :
    ∃ s', removeChild p c s = .ok ((), s') ∧ s'.r = s.r ∧ s'.pc = s.pc ∧ NodesOK src s' ∧ Ext s s' := by
  unfold removeChild
  simp only [bind, StateT.bind, getNode, pure, Except.bind, Except.pure]
  split
  · exact ⟨s, rfl, rfl, rfl, hn, Ext.refl s⟩
  · obtain ⟨s1, e1, hr1, hpc1, hn1, hx1⟩ := modNode_keep hn p (fun n => { n with children := n.children.erase c })
      (fun _ => rfl) (fun _ => rfl) (fun _ => rfl)
    obtain ⟨s2, e2, hr2, hpc2, hn2, hx2⟩ := modNode_keep hn1 c (fun n => { n with parent := none })
      (fun _ => rfl) (fun _ => rfl) (fun _ => rfl)
    simp only [StateT.bind, bind, Except.bind, e1, e2]
    exact ⟨s2, rfl, by rw [hr2, hr1], by rw [hpc2, hpc1], hn2, hx1.trans hx2⟩

theorem lineAt_zero {ls : List Segment} (h : ls ≠ []) : ∃ x, lineAt ls 0 = .ok x := by
  cases ls with
  | nil => exact absurd rfl h
  | cons a l => exact ⟨a, rfl⟩

end SpecHtml
open SpecHtml

theorem setextClose_spec (src : Bytes) : CloseSpec src .setext := by
  intro node s hsrc hn hk hb
  show OKL _ (setextClose node s)
  unfold setextClose
  obtain ⟨hlines, htmp⟩ := hb.setext rfl
  have hlt : node < s.nodes.length := hb.lt
  have hkind : (nd s node).kind = .heading := hb.kind
  obtain ⟨t, ht⟩ := Option.isSome_iff_exists.mp htmp
  obtain ⟨htlt, htkind, htlines⟩ := hk.tmp t ht
  have hne : node ≠ t := by
    intro e; rw [e, htkind] at hkind; cases hkind
  refine OKL.bind (m := getNode node) (s := s) (P := fun v s' => v = nd s node ∧ s' = s) (OKL.ok ⟨rfl, rfl⟩)
    (fun hnode s0 hv => ?_)
  obtain ⟨hv, hs0⟩ := hv
  rw [hs0, hv]; clear hs0 hv s0 hnode
  obtain ⟨x, hx⟩ := lineAt_zero hlines
  refine OKL.bind (liftE_okl (P := fun _ s' => s' = s) hx rfl) (fun seg s1 hs1 => ?_)
  rw [hs1]; clear hs1 s1
  refine OKL.bind (m := modNode node _) (s := s)
    (P := fun _ s' => s' = { s with nodes := s.nodes.set node { (nd s node) with lines := [], linesNil := true } })
    (OKL.ok rfl) (fun _ s1 hs1 => ?_)
  rw [hs1]; clear hs1 s1
  refine OKL.bind (m := getPc) (s := { s with nodes := s.nodes.set node { (nd s node) with lines := [], linesNil := true } })
    (P := fun v s' => v = s.pc ∧ s' = { s with nodes := s.nodes.set node { (nd s node) with lines := [], linesNil := true } })
    (OKL.ok ⟨rfl, rfl⟩) (fun pc s1 hs1 => ?_)
  obtain ⟨hpc, hs1⟩ := hs1
  rw [hs1, hpc]; clear hs1 hpc s1 pc
  simp only [ht]
  refine OKL.bind (m := pure t) (s := { s with nodes := s.nodes.set node { (nd s node) with lines := [], linesNil := true } })
    (P := fun v s' => v = t ∧ s' = { s with nodes := s.nodes.set node { (nd s node) with lines := [], linesNil := true } })
    (OKL.ok ⟨rfl, rfl⟩) (fun tmp s1 hs1 => ?_)
  obtain ⟨htmp', hs1⟩ := hs1
  rw [hs1, htmp']; clear hs1 htmp' s1 tmp
  refine OKL.bind (m := modPc _) (s := { s with nodes := s.nodes.set node { (nd s node) with lines := [], linesNil := true } })
    (P := fun _ s' => s' = { r := s.r, nodes := s.nodes.set node { (nd s node) with lines := [], linesNil := true }, pc := { s.pc with tmpPara := none } })
    (OKL.ok rfl) (fun _ s1 hs1 => ?_)
  rw [hs1]; clear hs1 s1
  refine OKL.bind (m := getNode t)
    (s := { r := s.r, nodes := s.nodes.set node { (nd s node) with lines := [], linesNil := true }, pc := { s.pc with tmpPara := none } })
    (P := fun v s' => v = nd s t ∧ s' = { r := s.r, nodes := s.nodes.set node { (nd s node) with lines := [], linesNil := true }, pc := { s.pc with tmpPara := none } })
    (OKL.ok ⟨getD_set_ne _ _ _ _ _ hne, rfl⟩) (fun tn s1 hs1 => ?_)
  obtain ⟨htn, hs1⟩ := hs1
  rw [hs1]; clear hs1 s1
  refine okl_ite (fun hc => ?_) (fun _ => ?_)
  · exfalso
    rw [htn] at hc
    cases hh : (nd s t).lines with
    | nil => exact htlines hh
    | cons a b => rw [hh] at hc; simp at hc
  rw [htn]
  have htok : NodeOK src (nd s t) := hn _ (nd_mem htlt)
  have hext : Ext s { r := s.r, nodes := s.nodes.set node { (nd s node) with lines := (nd s t).lines, linesNil := (nd s t).linesNil, blankPrev := (nd s t).blankPrev }, pc := { s.pc with tmpPara := none } } :=
    ext_set s node _ _ _ rfl (fun _ => htlines)
  have hnodes : NodesOK src { r := s.r, nodes := s.nodes.set node { (nd s node) with lines := (nd s t).lines, linesNil := (nd s t).linesNil, blankPrev := (nd s t).blankPrev }, pc := { s.pc with tmpPara := none } } :=
    nodesOK_set hn node _ _ _ ⟨htok.lines, htok.nil⟩
  refine OKL.bind (m := modNode node _)
    (s := { r := s.r, nodes := s.nodes.set node { (nd s node) with lines := [], linesNil := true }, pc := { s.pc with tmpPara := none } })
    (P := fun _ s' => s' = { r := s.r, nodes := s.nodes.set node { (nd s node) with lines := (nd s t).lines, linesNil := (nd s t).linesNil, blankPrev := (nd s t).blankPrev }, pc := { s.pc with tmpPara := none } })
    (OKL.ok (by simp only [getD_set_eq _ _ _ _ hlt, List.set_set])) (fun _ s1 hs1 => ?_)
  rw [hs1]; clear hs1 s1
  cases (nd s t).parent with
  | some tp =>
    obtain ⟨s3, e3, hr3, hpc3, hn3, hx3⟩ := removeChild_ok hnodes tp t
    simp only
    rw [e3]
    exact OKL.ok ⟨by rw [hr3], by rw [hpc3], hext.trans hx3, hn3, .inr ⟨rfl, by rw [hpc3]⟩, .inl (by rw [hpc3]),
      fun h => (by cases h)⟩
  | none => exact OKL.ok ⟨rfl, rfl, hext, hnodes, .inr ⟨rfl, rfl⟩, .inl rfl, fun h => (by cases h)⟩

end GM.Blocks
