/-
  GM.Proof.ConvertFConsDoc — C11 at whole-document level for sources that contain neither trigger byte of the footnote inline
  parser (`!`, `[`): `convertF true none = convertCore`. Block phase: GM.Proof.ConvertFCons (`[^`-free suffices there);
  inline phase: the parser is never consulted (GM.Proof.InlinesLoopX.parseBlockX_eq); the default parsers build no
  FootnoteLink representation (`parseBlock_wf`); a tree without footnote kinds renders alike with and without the footnote
  node renderers (GM.Proof.ConvertX.renderNode_exts).
-/
import GM.Proof.ConvertFCons
import GM.Proof.ConvertFOff
import GM.Proof.ConvertFInl

namespace GM.ConvertF
open GM GM.Text GM.Blocks GM.Convert GM.Proof.ConvertX

theorem noBracket_noCaret {src : Bytes} (h : (91 : UInt8) ∉ src) : GM.Ext.hasInfix [91, 94] src = false := by
  rw [hasInfix2_false_iff]
  intro i hi
  exact h (List.mem_of_getElem? hi.1)

/-- the footnote inline parser is never consulted on a block of a source without `!` and `[` -/
theorem inlinePhaseF_unused (refs : Option (List Bytes)) (env : GM.Inl.Env) (src : Bytes) (h91 : (91 : UInt8) ∉ src)
    (h33 : (33 : UInt8) ∉ src) (n : Blocks.Node) :
    inlinePhaseF true true refs env src n = inlinePhase true env src n := by
  unfold inlinePhaseF inlinePhase
  split
  · rfl
  · split
    · rfl
    · split
      · rfl
      · rename_i hw
        have hw' : GM.LinkRef.wf0B src n.lines = true := by simpa using hw
        obtain ⟨W, Z⟩ := GM.Proof.LinkRefTotal.wf0B_sound hw'
        rw [GM.Proof.InlinesLoopX.parseBlockX_eq W Z env (inlineTblF true refs)
          (by simp [inlineTblF])
          (fun c hc => by
            have h1 : c ≠ 33 := fun e => h33 (e ▸ hc)
            have h2 : c ≠ 91 := fun e => h91 (e ▸ hc)
            simp [inlineTblF, h1, h2])]

mutual
/-- on nodes without the representation (every emphasis level ≥ 1) nothing is decoded -/
theorem inlineTreeF_lvOK (m : Nat) (src : Bytes) : ∀ n : GM.Inl.Node, lvOK n = true → inlineTreeF true m src n = inlineTree src n
  | .text .., _ => by simp [inlineTreeF, inlineTree]
  | .codeSpan ks, h => by
    simp only [lvOK] at h
    simp only [inlineTreeF, inlineTree, inlineTreesF_lvOK m src ks h]
  | .emphasis lv ks, h => by
    simp only [lvOK, Bool.and_eq_true, decide_eq_true_eq] at h
    have h0 : fnLinkPos? lv = none := by
      unfold fnLinkPos?
      have : ¬ lv ≤ -3 := by omega
      simp [this]
    simp only [inlineTreeF, inlineTree, if_true, h0, inlineTreesF_lvOK m src ks h.2]
  | .link _ _ _ ks, h => by
    simp only [lvOK] at h
    simp only [inlineTreeF, inlineTree, inlineTreesF_lvOK m src ks h]
  | .autoLink .., _ => by simp [inlineTreeF, inlineTree]
  | .rawHTML .., _ => by simp [inlineTreeF, inlineTree]
  | .delim .., _ => by simp [inlineTreeF, inlineTree]
  | .label .., _ => by simp [inlineTreeF, inlineTree]
theorem inlineTreesF_lvOK (m : Nat) (src : Bytes) : ∀ ns : List GM.Inl.Node, lvOKL ns = true → inlineTreesF true m src ns = inlineTrees src ns
  | [], _ => by simp [inlineTreesF, inlineTrees]
  | n :: rest, h => by
    simp only [lvOKL, Bool.and_eq_true] at h
    simp only [inlineTreesF, inlineTrees, inlineTreeF_lvOK m src n h.1, inlineTreesF_lvOK m src rest h.2]
end

theorem inlinePhase_lvOK (env : GM.Inl.Env) (src : Bytes) (n : Blocks.Node) (kids : List GM.Inl.Node)
    (h : inlinePhase true env src n = .ok kids) : lvOKL kids = true := by
  unfold inlinePhase at h
  split at h
  · cases h; rfl
  · split at h
    · cases h; rfl
    · split at h
      · cases h
      · exact wfL_lvOKL false kids (GM.Proof.Inlines.parseBlock_wf (liftErr_ok' h))

mutual
theorem docTreeF_unused (refs : Option (List Bytes)) (env : GM.Inl.Env) (src : Bytes) (h91 : (91 : UInt8) ∉ src)
    (h33 : (33 : UInt8) ∉ src) : ∀ t : Tree, docTreeF true true refs env src (plainTree t) = docTree true env src t
  | .node n cs => by
    unfold plainTree docTreeF docTree
    rw [docTreesF_unused refs env src h91 h33 cs, inlinePhaseF_unused refs env src h91 h33]
    cases hd : docTrees true env src cs with
    | error e => rfl
    | ok bs =>
      cases hk : inlinePhase true env src n with
      | error e => rfl
      | ok kids =>
        simp only [bind, Except.bind]
        rw [inlineTreesF_lvOK _ src kids (inlinePhase_lvOK env src n kids hk)]
        rfl
theorem docTreesF_unused (refs : Option (List Bytes)) (env : GM.Inl.Env) (src : Bytes) (h91 : (91 : UInt8) ∉ src)
    (h33 : (33 : UInt8) ∉ src) : ∀ ts : List Tree, docTreesF true true refs env src (plainTrees ts) = docTrees true env src ts
  | [] => by unfold plainTrees docTreesF docTrees; rfl
  | t :: rest => by
    unfold plainTrees docTreesF docTrees
    rw [docTreeF_unused refs env src h91 h33 t, docTreesF_unused refs env src h91 h33 rest]
end

theorem parseDocF_unused (uc : List (Nat × (Bool × Bool))) (src : Bytes) (h91 : (91 : UInt8) ∉ src) (h33 : (33 : UInt8) ∉ src) :
    parseDocF true true uc src = parseDoc true uc src := by
  unfold parseDocF parsePhases parseDoc
  rw [blockPhaseF_cons (noBracket_noCaret h91)]
  cases blockPhase true src with
  | error e => rfl
  | ok st =>
    simp only [Except.map, liftErr, bind, Except.bind, listKids, treeOfF_empty, monitor_empty, docTreeF_unused _ _ src h91 h33,
      Bool.false_eq_true, if_false]
    cases docTree true { refs := st.pc.refs, uc := uc } src (treeOf st.nodes st.nodes.length 0) with
    | error e => rfl
    | ok t => simp [finishDoc, pure, Except.pure]

/-! ### a tree without footnote kinds renders alike with and without the footnote node renderers -/

def notFoot : GM.Kind → Bool
  | .footnoteLink .. | .footnoteBacklink .. | .footnote _ | .footnoteList => false
  | _ => true

theorem handled_foot (e : Exts) (x y : Bool) {k : GM.Kind} (h : notFoot k = true) :
    handled { e with foot := x } k = handled { e with foot := y } k := by
  cases k <;> simp_all [handled, notFoot]

theorem blockKind_notFoot {src : Bytes} {n : GM.Blocks.Node} {k : GM.Kind} (h : blockKind src n = .ok k) : notFoot k = true := by
  unfold blockKind at h
  split at h
  case h_8 =>
    dsimp only at h
    split at h
    · obtain ⟨a, _, h⟩ := Proof.Reader.bind_ok h
      obtain ⟨b, hb, h⟩ := Proof.Reader.bind_ok h
      obtain ⟨c, _, h⟩ := Proof.Reader.bind_ok h
      rw [epure_ok h]; rfl
    · obtain ⟨b, hb, h⟩ := Proof.Reader.bind_ok h
      obtain ⟨c, _, h⟩ := Proof.Reader.bind_ok h
      rw [epure_ok h]; rfl
  case h_9 =>
    dsimp only at h
    split at h
    · obtain ⟨a, _, h⟩ := Proof.Reader.bind_ok h
      obtain ⟨b, hb, h⟩ := Proof.Reader.bind_ok h
      obtain ⟨c, _, h⟩ := Proof.Reader.bind_ok h
      rw [epure_ok h]; rfl
    · obtain ⟨b, hb, h⟩ := Proof.Reader.bind_ok h
      obtain ⟨c, _, h⟩ := Proof.Reader.bind_ok h
      rw [epure_ok h]; rfl
  all_goals first
    | (rw [epure_ok h]; rfl)
    | (obtain ⟨a, _, h⟩ := Proof.Reader.bind_ok h; rw [epure_ok h]; rfl)

mutual
theorem inlineTree_notFoot (src : Bytes) : ∀ (n : GM.Inl.Node) (t : GM.Node), inlineTree src n = .ok t → allKinds notFoot t = true
  | .text .., t, h => by
    unfold inlineTree at h
    obtain ⟨v, _, h⟩ := Proof.Reader.bind_ok h
    rw [epure_ok h]; rfl
  | .codeSpan ks, t, h => by
    unfold inlineTree at h
    obtain ⟨cs, hc, h⟩ := Proof.Reader.bind_ok h
    rw [epure_ok h]
    simp only [allKinds, notFoot, Bool.true_and]
    exact inlineTrees_notFoot src ks cs hc
  | .emphasis lv ks, t, h => by
    unfold inlineTree at h
    obtain ⟨cs, hc, h⟩ := Proof.Reader.bind_ok h
    rw [epure_ok h]
    simp only [allKinds, notFoot, Bool.true_and]
    exact inlineTrees_notFoot src ks cs hc
  | .link im d ti ks, t, h => by
    unfold inlineTree at h
    obtain ⟨cs, hc, h⟩ := Proof.Reader.bind_ok h
    rw [epure_ok h]
    cases im <;> simp only [allKinds, notFoot, Bool.true_and, Bool.false_eq_true, if_false, if_true] <;>
      exact inlineTrees_notFoot src ks cs hc
  | .autoLink .., t, h => by
    unfold inlineTree at h
    obtain ⟨v, _, h⟩ := Proof.Reader.bind_ok h
    rw [epure_ok h]; rfl
  | .rawHTML .., t, h => by
    unfold inlineTree at h
    obtain ⟨v, _, h⟩ := Proof.Reader.bind_ok h
    rw [epure_ok h]; rfl
  | .delim .., t, h => by
    unfold inlineTree at h
    rw [epure_ok h]; rfl
  | .label .., t, h => by
    unfold inlineTree at h
    rw [epure_ok h]; rfl
theorem inlineTrees_notFoot (src : Bytes) : ∀ (ns : List GM.Inl.Node) (ts : List GM.Node),
    inlineTrees src ns = .ok ts → allKindsL notFoot ts = true
  | [], ts, h => by
    unfold inlineTrees at h
    rw [epure_ok h]; rfl
  | n :: rest, ts, h => by
    unfold inlineTrees at h
    obtain ⟨t, h1, h⟩ := Proof.Reader.bind_ok h
    obtain ⟨ts', h2, h⟩ := Proof.Reader.bind_ok h
    rw [epure_ok h]
    simp only [allKindsL, Bool.and_eq_true]
    exact ⟨inlineTree_notFoot src n t h1, inlineTrees_notFoot src rest ts' h2⟩
end

mutual
theorem docTree_notFoot (g : Bool) (env : GM.Inl.Env) (src : Bytes) : ∀ (t : Tree) (x : GM.Node),
    docTree g env src t = .ok x → allKinds notFoot x = true
  | .node n cs, x, h => by
    unfold docTree at h
    obtain ⟨bs, h1, h⟩ := Proof.Reader.bind_ok h
    obtain ⟨kids, _, h⟩ := Proof.Reader.bind_ok h
    obtain ⟨is, h3, h⟩ := Proof.Reader.bind_ok h
    obtain ⟨k, h4, h⟩ := Proof.Reader.bind_ok h
    rw [epure_ok h]
    simp only [allKinds, allKindsL_append, Bool.and_eq_true]
    exact ⟨blockKind_notFoot (liftErr_ok' h4), docTrees_notFoot g env src cs bs h1, inlineTrees_notFoot src _ is (liftErr_ok' h3)⟩
theorem docTrees_notFoot (g : Bool) (env : GM.Inl.Env) (src : Bytes) : ∀ (ts : List Tree) (xs : List GM.Node),
    docTrees g env src ts = .ok xs → allKindsL notFoot xs = true
  | [], xs, h => by
    unfold docTrees at h
    rw [epure_ok h]; rfl
  | t :: rest, xs, h => by
    unfold docTrees at h
    obtain ⟨x, h1, h⟩ := Proof.Reader.bind_ok h
    obtain ⟨xs', h2, h⟩ := Proof.Reader.bind_ok h
    rw [epure_ok h]
    simp only [allKindsL, Bool.and_eq_true]
    exact ⟨docTree_notFoot g env src t x h1, docTrees_notFoot g env src rest xs' h2⟩
end

theorem renderDocF_notFoot (o : ROpts) (t : GM.Node) (h : allKinds notFoot t = true) :
    renderDocF true none o t = renderDoc o t := by
  have hr : rcfgF true none o = { o.rcfg with exts := { foot := true } } := rfl
  have hk : allKinds (fun k => handled ({ foot := true } : Exts) k == handled o.rcfg.exts k) t = true :=
    allKinds_mono (fun k hk => by
      simp only [beq_iff_eq]
      exact handled_foot {} true false hk) t h
  unfold renderDocF renderDoc
  rw [hr, render, render, renderPanics, renderPanics, renderNode_exts _ _ _ _ _ hk, renderPanicsNode_exts _ _ _ hk]
  rfl

/-- **C11 at whole-document level** for sources without the inline parser's trigger bytes -/
theorem convertF_unused (uc : List (Nat × (Bool × Bool))) (o : ROpts) (src : Bytes) (h91 : (91 : UInt8) ∉ src)
    (h33 : (33 : UInt8) ∉ src) : convertF true none uc o src = convertCore uc o src := by
  unfold convertF convertFWith convertCore convertWith
  rw [parseDocF_unused uc src h91 h33]
  cases hp : parseDoc true uc src with
  | error e => rfl
  | ok t =>
    simp only [bind, Except.bind]
    apply renderDocF_notFoot
    unfold parseDoc at hp
    obtain ⟨st, _, hp⟩ := Proof.Reader.bind_ok hp
    exact docTree_notFoot true _ src _ t hp

/-! ### every source without `[^` -/

/-- while the context holds no FootnoteList the inline phase of a block is the default one — whatever the source -/
theorem inlinePhaseF_nolist (env : GM.Inl.Env) (src : Bytes) (n : Blocks.Node) :
    inlinePhaseF true true none env src n = inlinePhase true env src n := by
  unfold inlinePhaseF inlinePhase
  split
  · rfl
  · split
    · rfl
    · split
      · rfl
      · rename_i hw
        have hw' : GM.LinkRef.wf0B src n.lines = true := by simpa using hw
        obtain ⟨W, Z⟩ := GM.Proof.LinkRefTotal.wf0B_sound hw'
        rw [parseBlockX_fn W Z env]

mutual
theorem docTreeF_nolist (env : GM.Inl.Env) (src : Bytes) : ∀ t : Tree,
    docTreeF true true none env src (plainTree t) = docTree true env src t
  | .node n cs => by
    unfold plainTree docTreeF docTree
    rw [docTreesF_nolist env src cs, inlinePhaseF_nolist env src]
    cases hd : docTrees true env src cs with
    | error e => rfl
    | ok bs =>
      cases hk : inlinePhase true env src n with
      | error e => rfl
      | ok kids =>
        simp only [bind, Except.bind]
        rw [inlineTreesF_lvOK _ src kids (inlinePhase_lvOK env src n kids hk)]
        rfl
theorem docTreesF_nolist (env : GM.Inl.Env) (src : Bytes) : ∀ ts : List Tree,
    docTreesF true true none env src (plainTrees ts) = docTrees true env src ts
  | [] => by unfold plainTrees docTreesF docTrees; rfl
  | t :: rest => by
    unfold plainTrees docTreesF docTrees
    rw [docTreeF_nolist env src t, docTreesF_nolist env src rest]
end

theorem parseDocF_cons (uc : List (Nat × (Bool × Bool))) (src : Bytes) (h : GM.Ext.hasInfix [91, 94] src = false) :
    parseDocF true true uc src = parseDoc true uc src := by
  unfold parseDocF parsePhases parseDoc
  rw [blockPhaseF_cons h]
  cases blockPhase true src with
  | error e => rfl
  | ok st =>
    simp only [Except.map, liftErr, bind, Except.bind, listKids, treeOfF_empty, monitor_empty, Bool.false_eq_true, if_false]
    have hnone : (if (({} : FS).list.isSome) = true then some (labelsOf {} st) else none) = none := rfl
    rw [hnone, docTreeF_nolist]
    cases docTree true { refs := st.pc.refs, uc := uc } src (treeOf st.nodes st.nodes.length 0) with
    | error e => rfl
    | ok t => simp [finishDoc, pure, Except.pure]

/-- **C11 at whole-document level**: a source without the two bytes `[^` converts to the same HTML / outcome with and
    without the Footnote extension -/
theorem convertF_cons (uc : List (Nat × (Bool × Bool))) (o : ROpts) (src : Bytes) (h : GM.Ext.hasInfix [91, 94] src = false) :
    convertF true none uc o src = convertCore uc o src := by
  unfold convertF convertFWith convertCore convertWith
  rw [parseDocF_cons uc src h]
  cases hp : parseDoc true uc src with
  | error e => rfl
  | ok t =>
    simp only [bind, Except.bind]
    apply renderDocF_notFoot
    unfold parseDoc at hp
    obtain ⟨st, _, hp⟩ := Proof.Reader.bind_ok hp
    exact docTree_notFoot true _ src _ t hp

end GM.ConvertF
