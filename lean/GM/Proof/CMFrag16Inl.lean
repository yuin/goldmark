/-
  GM.Proof.CMFrag16Inl — the inline phase around the atoms of stages 16, 18, 19: the destination scanner of an inline link,
  the autolink parser on a URI autolink `<s:r>`, the parsers of the table entry of `<` on a raw inline tag `<n>`, `</n>`.
-/
import GM.Proof.CMFrag16Defs
import GM.Proof.CMFrag11Inl
import GM.Proof.CMFrag18Defs
import GM.Proof.CMFrag19Defs
import GM.Proof.InlinesTotal
import GM.Proof.FindEmailIndex

/-
  section CMFrag16Inl — the inline phase around an inline link `[t](d)`: the destination scanner on a destination of
  letters, digits and `/` (`parseLinkDestination_at16`), the last label among the children. The link parser itself at `[`, `![` and `](d)`: CMFrag21Link.
-/
section CMFrag16Inl
namespace GM.Proof.CMFrag
open GM GM.Text GM.Inl

theorem dest_ne16 {c : UInt8} (h : isDestC16 c = true) (k : UInt8) (hk : isDestC16 k = false) : c ≠ k := by
  rintro rfl
  rw [h] at hk
  cases hk

theorem dest_facts16 (c : UInt8) (h : isDestC16 c = true) :
    (c == 92) = false ∧ (c == 40) = false ∧ (c == 41) = false ∧ (c == 60) = false ∧ isSpace c = false := by
  have ne : ∀ k : UInt8, isDestC16 k = false → (c == k) = false := fun k hk => beq_eq_false_iff_ne.mpr (dest_ne16 h k hk)
  exact ⟨ne 92 (by decide), ne 40 (by decide), ne 41 (by decide), ne 60 (by decide),
    by simp [isSpace, ne 9 (by decide), ne 10 (by decide), ne 13 (by decide), ne 32 (by decide)]⟩

theorem dest_ne_lf16 (c : UInt8) (h : isDestC16 c = true) : c ≠ 10 := dest_ne16 h 10 (by decide)

theorem destPlain_dest16 (rest : Bytes) : ∀ (d : Bytes) (i : Nat), (∀ c ∈ d, isDestC16 c = true) →
    destPlain (d ++ 41 :: rest) i 0 = i + d.length
  | [], i, _ => by
    rw [List.nil_append]; unfold destPlain
    simp
  | c :: d, i, h => by
    obtain ⟨h92, h40, h41, _, hs⟩ := dest_facts16 c (h c (by simp))
    rw [List.cons_append]; unfold destPlain
    simp only [h92, h40, h41, hs, Bool.false_eq_true, if_false]
    rw [destPlain_dest16 rest d (i + 1) (fun x hx => h x (by simp [hx]))]
    simp only [List.length_cons]; omega

theorem destOpened_dest16 (rest : Bytes) : ∀ (d : Bytes), (∀ c ∈ d, isDestC16 c = true) →
    destOpened (d ++ 41 :: rest) 0 = -1
  | [], _ => by
    rw [List.nil_append]; unfold destOpened
    simp
  | c :: d, h => by
    obtain ⟨h92, h40, h41, _, hs⟩ := dest_facts16 c (h c (by simp))
    rw [List.cons_append]; unfold destOpened
    simp only [h92, h40, h41, hs, Bool.false_eq_true, if_false]
    exact destOpened_dest16 rest d (fun x hx => h x (by simp [hx]))

theorem skipSpaces_none16 (rd : BlockReader) (c : UInt8) (l : Bytes) (seg : Segment) (chars : Int)
    (hp : rd.peekLine = .ok ((some (c :: l), seg), rd)) (hs : isSpace c = false) :
    ∃ r, skipSpaces blockOps (rdFuel rd) chars rd = .ok (r, rd) := by
  have : rdFuel rd = (rdFuel rd - 1) + 1 := by unfold rdFuel loopFuel; omega
  rw [this, skipSpaces]
  simp only [blockOps, hp, bind, Except.bind, skipSpacesLine, hs, Bool.false_eq_true, if_false, pure, Except.pure]
  exact ⟨_, rfl⟩


theorem peek_at16 (src : Bytes) (segs : List Segment) (L j a b hd : Int) (c : UInt8) (hj : j < segs.length)
    (h0 : 0 ≤ a) (haL : a < L) (hg : getByte src a = .ok c) :
    (rdAt src segs L j { start := a, stop := b } hd).peek = .ok c := by
  have hlive : (rdAt src segs L j { start := a, stop := b } hd).live = true := by
    simp [BlockReader.live, rdAt, hj, h0, haL]
  unfold BlockReader.peek
  rw [hlive]
  simp only [rdAt, if_true, hg]
  rfl

theorem parseLinkDestination16 (src : Bytes) (segs : List Segment) (L j hd : Int) (a : Nat) (d rest : Bytes) (e : Int)
    (he : e = (a : Int) + d.length + 1 + rest.length) (hj : j < segs.length)
    (hlen : a + d.length + 1 + rest.length ≤ src.length) (hL : e ≤ L)
    (hsub : sub src a (a + (d.length + 1 + rest.length)) = d ++ 41 :: rest)
    (hd0 : d ≠ []) (hdc : ∀ c ∈ d, isDestC16 c = true) :
    parseLinkDestination (rdAt src segs L j { start := a, stop := e } hd) =
      .ok (some d, rdAt src segs L j { start := (a : Int) + d.length, stop := e } hd) := by
  have hdl : 0 < d.length := List.length_pos_iff.mpr hd0
  obtain ⟨c0, d', rfl⟩ : ∃ c0 d', d = c0 :: d' := by
    cases d with
    | nil => exact absurd rfl hd0
    | cons x xs => exact ⟨x, xs, rfl⟩
  obtain ⟨_, _, _, h60, hs0⟩ := dest_facts16 c0 (hdc c0 (by simp))
  have hp := peekLine_at8 src segs L j a e hd hj (by omega) (by omega) (by omega) (by omega)
  have t1 : ((a : Int)).toNat = a := by omega
  have t2 : e.toNat = a + ((c0 :: d').length + 1 + rest.length) := by omega
  rw [t1, t2, hsub] at hp
  obtain ⟨r, hsk⟩ := skipSpaces_none16 _ c0 (d' ++ 41 :: rest) _ 0 hp hs0
  have hpk := peek_at16 src segs L j a e hd c0 hj (by omega) (by omega)
    (getByte8 src a a ((c0 :: d').length + 1 + rest.length) 0 _ c0 hsub (by omega) (by simp) (by omega))
  unfold parseLinkDestination
  simp only [hsk, bind, Except.bind, hp, Option.getD_some, hpk, h60, Bool.false_eq_true, if_false]
  have hdp := destPlain_dest16 rest (c0 :: d') 0 hdc
  have hdo := destOpened_dest16 rest (c0 :: d') hdc
  have hdo' : ¬ (destOpened (c0 :: d' ++ 41 :: rest) 0 > 0) := by rw [hdo]; decide
  rw [if_neg hdo']
  rw [hdp, advance_fast _ _ _ _ _ _ _ _ (by omega)]
  simp [pure, Except.pure]


def NoDL16 (ks : List Inl.Node) : Prop := ∀ n ∈ ks, n.isDelim = false ∧ n.isLabel = false

theorem splitFirstLabel_none16 : ∀ (l : List Inl.Node), (∀ n ∈ l, n.isLabel = false) → splitFirstLabel l = none
  | [], _ => rfl
  | n :: rest, h => by
    have ih := splitFirstLabel_none16 rest (fun x hx => h x (by simp [hx]))
    have hn := h n (by simp)
    cases n <;> simp [Node.isLabel] at hn <;> simp [splitFirstLabel, ih]

theorem splitLastLabel_tail16 (pre : List Inl.Node) (id : Nat) (seg : Segment) (im : Bool) (t : Inl.Node)
    (ht : t.isLabel = false) :
    splitLastLabel (pre ++ [.label id seg im, t]) = some (pre, (id, seg, im), [t]) := by
  unfold splitLastLabel
  cases t <;> simp [Node.isLabel] at ht <;> simp [List.reverse_append, splitFirstLabel]

theorem peekByte_at16 (src : Bytes) (segs : List Segment) (L j hd : Int) (a : Nat) (e : Int) (c : UInt8) (l : Bytes)
    (h : At16 src L a e (c :: l)) (hj : j < segs.length) :
    (rdAt src segs L j { start := a, stop := e } hd).peek = .ok c := by
  obtain ⟨h1, h2, h3, h4⟩ := h
  simp only [List.length_cons] at h2 h3
  exact peek_at16 src segs L j a e hd c hj (by omega) (by omega)
    (getByte8 src a a (c :: l).length 0 _ c h1 (by simp) (by simp) (by omega))

theorem skipSpaces_at16 (src : Bytes) (segs : List Segment) (L j hd : Int) (a : Nat) (e : Int) (c : UInt8) (l : Bytes)
    (h : At16 src L a e (c :: l)) (hj : j < segs.length) (hs : isSpace c = false) (chars : Int) :
    ∃ r, skipSpaces blockOps (rdFuel (rdAt src segs L j { start := a, stop := e } hd)) chars
      (rdAt src segs L j { start := a, stop := e } hd) = .ok (r, rdAt src segs L j { start := a, stop := e } hd) :=
  skipSpaces_none16 _ c l _ chars (peekLine_at16 src segs L j hd a e c l h hj) hs


theorem parseLinkDestination_at16 (src : Bytes) (segs : List Segment) (L j hd : Int) (a : Nat) (d rest : Bytes) (e : Int)
    (h : At16 src L a e (d ++ 41 :: rest)) (hj : j < segs.length)
    (hd0 : d ≠ []) (hdc : ∀ c ∈ d, isDestC16 c = true) :
    parseLinkDestination (rdAt src segs L j { start := a, stop := e } hd) =
      .ok (some d, rdAt src segs L j { start := ((a + d.length : Nat) : Int), stop := e } hd) := by
  obtain ⟨h1, h2, h3, h4⟩ := h
  simp only [List.length_append, List.length_cons] at h1 h2 h3
  rw [Int.natCast_add]
  exact parseLinkDestination16 src segs L j hd a d rest e (by omega) hj (by omega) h4
    (by rw [← h1]; congr 2; omega) hd0 hdc

theorem noMerge_label16 (ks : List Inl.Node) (id : Nat) (seg : Segment) (im : Bool) :
    NoMerge8 (ks ++ [.label id seg im]) := by
  intro seg' h r; simp

theorem noMerge_link16 (ks : List Inl.Node) (im : Bool) (d : Bytes) (t : Option Bytes) (kids : List Inl.Node) :
    NoMerge8 (ks ++ [.link im d t kids]) := by
  intro seg' h r; simp

end GM.Proof.CMFrag
end CMFrag16Inl

/-
  section CMFrag18Inl — stage 18: the autolink parser (first in the table entry of `<`, so the raw-HTML parser is never
  consulted) on a URI autolink `<s:r>`.
-/
section CMFrag18Inl
namespace GM.Proof.CMFrag
open GM GM.Text GM.Inl

theorem letter_facts18 : ∀ c : UInt8, GM.Spec.CM.isLetter c = true →
    (emailTbl c % 2 == 1) = true ∧ (urlTbl c % 8 != 7) = false ∧ (urlTbl c / 4 % 2 == 1) = true ∧ c ≠ 10 ∧
      isAlpha c = true :=
  GM.forall_uint8 _ (by decide +kernel)

theorem auto_facts18 : ∀ c : UInt8, isAutoC18 c = true → (urlTbl c % 2 == 1) = true ∧ c ≠ 10 :=
  GM.forall_uint8 _ (by decide +kernel)

theorem letter_ne_lf18 (c : UInt8) (h : GM.Spec.CM.isLetter c = true) : c ≠ 10 := (letter_facts18 c h).2.2.2.1

theorem auto_ne_lf18 (c : UInt8) (h : isAutoC18 c = true) : c ≠ 10 := (auto_facts18 c h).2

theorem takeWhile_run18 (p : UInt8 → Bool) (x : UInt8) (t : Bytes) (hx : p x = false) :
    ∀ (l : Bytes), (∀ c ∈ l, p c = true) → (l ++ x :: t).takeWhile p = l
  | [], _ => by simp [hx]
  | c :: l, h => by
    simp only [List.cons_append, List.takeWhile, h c (by simp)]
    rw [takeWhile_run18 p x t hx l (fun y hy => h y (by simp [hy]))]

theorem findEmailIndex_scheme18 (s x : Bytes) (hsl : ∀ c ∈ s, GM.Spec.CM.isLetter c = true) :
    findEmailIndex (s ++ 58 :: x) = -1 :=
  GM.Proof.FindEmailIndex.findEmailIndex_run (fun c hc => (letter_facts18 c (hsl c hc)).1) (by decide) (by decide)

theorem findURLIndex_scheme18 (s r rest : Bytes) (hs2 : 2 ≤ s.length) (hs32 : s.length ≤ 32)
    (hsl : ∀ c ∈ s, GM.Spec.CM.isLetter c = true) (hrc : ∀ c ∈ r, isAutoC18 c = true) :
    findURLIndex (s ++ 58 :: (r ++ 62 :: rest)) = ((s.length + 1 + r.length : Nat) : Int) := by
  obtain ⟨c, s', rfl⟩ : ∃ c s', s = c :: s' := by
    cases s with
    | nil => simp at hs2
    | cons c s' => exact ⟨c, s', rfl⟩
  obtain ⟨_, h7, _⟩ := letter_facts18 c (hsl c (by simp))
  have htw := takeWhile_run18 (fun c => urlTbl c / 4 % 2 == 1) 58 (r ++ 62 :: rest) (by decide) s'
    (fun x hx => (letter_facts18 x (hsl x (by simp [hx]))).2.2.1)
  have htw2 := takeWhile_run18 (fun c => urlTbl c % 2 == 1) 62 rest (by decide) r (fun x hx => (auto_facts18 x (hrc x hx)).1)
  simp only [List.length_cons] at hs2 hs32
  rw [List.cons_append]
  unfold findURLIndex
  simp only [h7, Bool.false_eq_true, if_false, htw]
  have e1 : (1 + s'.length == 1) = false := by rw [beq_eq_false_iff_ne]; omega
  have e2 : ¬ (1 + s'.length > 32) := by omega
  have e3 : ¬ (1 + s'.length ≥ (c :: (s' ++ 58 :: (r ++ 62 :: rest))).length) := by simp; omega
  have e4 : (c :: (s' ++ 58 :: (r ++ 62 :: rest)))[1 + s'.length]? = some 58 := by
    rw [Nat.add_comm, List.getElem?_cons_succ]; simp
  have e5 : (c :: (s' ++ 58 :: (r ++ 62 :: rest))).drop (1 + s'.length + 1) = r ++ 62 :: rest := by
    rw [show 1 + s'.length + 1 = (s'.length + 1) + 1 by omega, List.drop_succ_cons,
      show s' ++ 58 :: (r ++ 62 :: rest) = (s' ++ [58]) ++ (r ++ 62 :: rest) by simp]
    exact List.drop_left' (by simp)
  simp only [e1, e2, e3, e4, e5, htw2, Bool.false_or, decide_false, Bool.false_eq_true, if_false, bne_self_eq_false]
  simp only [List.length_cons]
  congr 1; omega


theorem parseAutoLink18 (src : Bytes) (segs : List Segment) (L j hd : Int) (a : Nat) (s r rest : Bytes) (e : Int)
    (h : At16 src L a e (60 :: (s ++ 58 :: (r ++ 62 :: rest)))) (hj : j < segs.length)
    (hs2 : 2 ≤ s.length) (hs32 : s.length ≤ 32) (hsl : ∀ c ∈ s, GM.Spec.CM.isLetter c = true)
    (hrc : ∀ c ∈ r, isAutoC18 c = true) (hrest : rest ≠ []) :
    parseAutoLink (rdAt src segs L j { start := a, stop := e } hd) =
      .ok (some (.autoLink false { start := ((a + 1 : Nat) : Int), stop := ((a + 1 + s.length + 1 + r.length : Nat) : Int) }),
        rdAt src segs L j { start := ((a + 1 + s.length + 1 + r.length + 1 : Nat) : Int), stop := e } hd) := by
  have hrl : 0 < rest.length := List.length_pos_iff.mpr hrest
  unfold parseAutoLink
  simp only [bind, Except.bind, peekLine_at16 src segs L j hd a e 60 _ h hj, Option.getD_some, List.isEmpty_cons,
    Bool.false_eq_true, if_false, List.drop_succ_cons, List.drop_zero, findEmailIndex_scheme18 s _ hsl,
    findURLIndex_scheme18 s r rest hs2 hs32 hsl hrc, show ((-1 : Int) < 0) = True by decide, if_true]
  have e1 : ¬ (((s.length + 1 + r.length : Nat) : Int) < 0) := by omega
  have e2 : ¬ (((s.length + 1 + r.length : Nat) : Int) + 1 ≥ ((60 :: (s ++ 58 :: (r ++ 62 :: rest))).length : Nat)) := by
    simp only [List.length_cons, List.length_append]; push_cast; omega
  have e3 : (60 :: (s ++ 58 :: (r ++ 62 :: rest)))[(((s.length + 1 + r.length : Nat) : Int) + 1).toNat]? = some 62 := by
    have : (((s.length + 1 + r.length : Nat) : Int) + 1).toNat = (s.length + 1 + r.length) + 1 := by omega
    rw [this, List.getElem?_cons_succ,
      show s ++ 58 :: (r ++ 62 :: rest) = (s ++ 58 :: r) ++ 62 :: rest by simp]
    have h2 : s.length + 1 + r.length = (s ++ 58 :: r).length := by simp only [List.length_cons, List.length_append]; omega
    rw [h2]
    simp
  have e4 := advance_at16 src segs L j hd a e _ h (s.length + 1 + r.length + 1 + 1)
    (by simp only [List.length_cons, List.length_append]; omega)
  have e5 : (((s.length + 1 + r.length : Nat) : Int) + 1 + 1) = ((s.length + 1 + r.length + 1 + 1 : Nat) : Int) := by
    omega
  simp only [e1, e2, e3, e5, e4, if_false, bne_self_eq_false, Bool.false_eq_true, or_self, pure, Except.pure]
  have e6 : (a : Int) + 1 = ((a + 1 : Nat) : Int) := by omega
  have e7 : (a : Int) + (((s.length + 1 + r.length : Nat) : Int) + 1) = ((a + 1 + s.length + 1 + r.length : Nat) : Int) := by
    omega
  have e8 : a + (s.length + 1 + r.length + 1 + 1) = a + 1 + s.length + 1 + r.length + 1 := by omega
  simp only [decide_false, Bool.or_self, Bool.false_eq_true, if_false, e6, e7, e8]


theorem noMerge_auto18 (ks : List Inl.Node) (em : Bool) (seg : Segment) : NoMerge8 (ks ++ [.autoLink em seg]) := by
  intro seg' h r; simp

end GM.Proof.CMFrag
end CMFrag18Inl

/-
  section CMFrag19Inl — stage 19: the parsers of the table entry of `<` on a raw inline HTML tag `<n>`, `</n>`.
  The autolink parser declines a tag (no `@`, no `:`), the raw-HTML parser takes it: its tag matcher reads the rest of
  the block as a rune stream (termination from `InlinesTotal.runeStream_post`, the content from the ASCII bytes of the
  tag).
-/
section CMFrag19Inl
namespace GM.Proof.CMFrag
open GM GM.Text GM.Inl
open GM.Spec (BCur WFSegs WFSegsFrom)
open GM.Proof.Reader (segFacts)
open GM.Proof.InlinesReader (RS rdFuel_gt)
open GM.Proof.InlinesTotal (runeStream_post)

theorem runeStream_acc19 : ∀ (fuel : Nat) (rd : BlockReader) (acc st : Bytes),
    runeStream fuel rd acc = .ok st → ∃ y, st = acc.reverse ++ y
  | 0, _, _, _, h => by simp [runeStream] at h
  | fuel + 1, rd, acc, st, h => by
    rw [runeStream] at h
    simp only [bind, Except.bind] at h
    split at h
    · cases h
    · rename_i v hv
      split at h
      · simp only [pure, Except.pure] at h
        cases h; exact ⟨[], by simp⟩
      · rename_i l _
        split at h
        · simp only [pure, Except.pure] at h
          cases h; exact ⟨[], by simp⟩
        · split at h
          · cases h
          · rename_i rd' _
            obtain ⟨y, hy⟩ := runeStream_acc19 fuel rd' _ st h
            exact ⟨l.take (decodeRune l).2 ++ y, by rw [hy]; simp⟩

theorem runeStream_ascii19 (src : Bytes) (segs : List Segment) (L j hd : Int) (e : Int) (tail : Bytes)
    (hj : j < segs.length) (htail : tail ≠ []) :
    ∀ (x : Bytes) (a : Nat) (f : Nat) (acc : Bytes), (∀ c ∈ x, c < 128) → At16 src L a e (x ++ tail) →
      runeStream (f + x.length) (rdAt src segs L j { start := a, stop := e } hd) acc =
        runeStream f (rdAt src segs L j { start := ((a + x.length : Nat) : Int), stop := e } hd) (x.reverse ++ acc)
  | [], a, f, acc, _, _ => by simp
  | c :: x, a, f, acc, hx, h => by
    have htl : 0 < tail.length := List.length_pos_iff.mpr htail
    have hc : c < 128 := hx c (by simp)
    have hne : ((decodeRune (c :: (x ++ tail))).1 == runeError) = false := by
      have : c.toNat < 128 := hc
      simp only [decodeRune, show (c < 0x80) = True from eq_true hc, if_true, runeError]
      rw [beq_eq_false_iff_ne]; omega
    have hsz : (decodeRune (c :: (x ++ tail))).2 = 1 := by
      simp only [decodeRune, show (c < 0x80) = True from eq_true hc, if_true]
    rw [show f + (c :: x).length = (f + x.length) + 1 by simp only [List.length_cons]; omega, runeStream]
    simp only [bind, Except.bind, peekLine_at16 src segs L j hd a e c (x ++ tail) h hj, hne, Bool.false_eq_true, if_false,
      hsz]
    rw [advance_at16 src segs L j hd a e _ h 1 (by simp; omega)]
    have ih := runeStream_ascii19 src segs L j hd e tail hj htail x (a + 1) f ([c] ++ acc)
      (fun y hy => hx y (by simp [hy])) (h.drop [c] _)
    simp only [List.take_succ_cons, List.take_zero, List.reverse_cons, List.reverse_nil, List.nil_append]
    rw [ih]
    simp only [List.length_cons, List.reverse_cons, List.append_assoc, List.singleton_append]
    congr 3; omega


theorem alnum_facts19 : ∀ c : UInt8, GM.Spec.CM.isAlnumC c = true →
    isAlnum c = true ∧ isTagNameChar c = true ∧ c < 128 ∧ (emailTbl c % 2 == 1) = true ∧
      (urlTbl c / 4 % 2 == 1) = true :=
  GM.forall_uint8 _ (by decide +kernel)

theorem dropWhile_run19 (p : UInt8 → Bool) (x : UInt8) (t : Bytes) (hx : p x = false) :
    ∀ (l : Bytes), (∀ c ∈ l, p c = true) → (l ++ x :: t).dropWhile p = x :: t
  | [], _ => by simp [List.dropWhile, hx]
  | c :: l, h => by
    simp only [List.cons_append, List.dropWhile, h c (by simp)]
    exact dropWhile_run19 p x t hx l (fun y hy => h y (by simp [hy]))

theorem tagAttrs_gt19 (y : Bytes) : tagAttrs (62 :: y) = some y := by
  unfold tagAttrs
  have h : spanB isTagWS (62 :: y) = ([], 62 :: y) := by
    simp [spanB, show isTagWS 62 = false by decide]
  split
  · rename_i hr; rw [h] at hr; simp at hr
  · rename_i c r' hr
    rw [h] at hr
    simp only [List.cons.injEq] at hr
    obtain ⟨rfl, rfl⟩ := hr
    simp [h, show isAttrNameStart 62 = false by decide, spOK]

theorem matchOpenTag19 (c : UInt8) (n' y : Bytes) (hc : GM.Spec.CM.isLetter c = true)
    (hn : ∀ x ∈ n', GM.Spec.CM.isAlnumC x = true) :
    matchOpenTag (60 :: c :: (n' ++ 62 :: y)) = some (n'.length + 3) := by
  have hd := dropWhile_run19 isTagNameChar 62 y (by decide) n' (fun x hx => (alnum_facts19 x (hn x hx)).2.1)
  simp only [matchOpenTag, (letter_facts18 c hc).2.2.2.2, if_true, hd, tagAttrs_gt19]
  simp only [List.length_cons, List.length_append]
  congr 1; omega

theorem matchCloseTag19 (c : UInt8) (n' y : Bytes) (hc : GM.Spec.CM.isLetter c = true)
    (hn : ∀ x ∈ n', GM.Spec.CM.isAlnumC x = true) :
    matchCloseTag (60 :: 47 :: c :: (n' ++ 62 :: y)) = some (n'.length + 4) := by
  have hd := dropWhile_run19 isTagNameChar 62 y (by decide) n' (fun x hx => (alnum_facts19 x (hn x hx)).2.1)
  have h : spanB isTagWS (62 :: y) = ([], 62 :: y) := by
    simp [spanB, show isTagWS 62 = false by decide]
  simp only [matchCloseTag, (letter_facts18 c hc).2.2.2.2, if_true, hd, h, spOK]
  simp only [List.length_cons, List.length_append]
  congr 1; omega


theorem rs_at19 (src : Bytes) (segs : List Segment) (L : Int) (j a : Nat) (e hd : Int)
    (hLs : L = BCur.lastStop segs) (hseg : segs[j]? = some { start := hd, stop := e }) (hhd : hd ≤ a) (hae : (a : Int) < e) :
    RS src segs (rdAt src segs L j { start := a, stop := e } hd) { ln := j, p := a, pad := 0 } := by
  have hjl : j < segs.length := (List.getElem?_eq_some_iff.mp hseg).1
  have hk : ((j : Nat) : Int) < BCur.k segs := by simp only [BCur.k]; omega
  have hso : BCur.segOf segs (j : Int) = { start := hd, stop := e } := by
    simp [BCur.segOf, hseg]
  refine ⟨⟨rfl, rfl, rfl, rfl, ?_, hLs, ?_, Or.inl (by simp [rdAt]), ⟨by simp, by simp, ?_, ?_⟩⟩, rfl⟩
  · simp [rdAt, BCur.stopOf, hk, hso]
  · intro _; simp [rdAt, hso]
  · intro _; simp only [hso]; exact ⟨hhd, Or.inl hae⟩
  · intro h; simp only at h; omega

theorem setPosition_at19 (src : Bytes) (segs : List Segment) (L : Int) (j : Nat) (pos : Segment) (a e hd hd' : Int)
    (hseg : segs[j]? = some { start := hd, stop := e }) (h0 : 0 ≤ a) :
    (rdAt src segs L j pos hd').setPosition j { start := a, stop := e } =
      .ok (rdAt src segs L j { start := a, stop := e } hd) := by
  have hjl : j < segs.length := (List.getElem?_eq_some_iff.mp hseg).1
  have h1 : (a == -1) = false := by rw [beq_eq_false_iff_ne]; omega
  have h2 : ((j : Nat) : Int) < (segs.length : Int) := by omega
  unfold BlockReader.setPosition
  simp only [rdAt, h1, Bool.false_eq_true, if_false, h2, if_true, segAt, show ¬ ((j : Int) < 0) by omega,
    Int.toNat_natCast, hseg, bind, Except.bind, pure, Except.pure]

theorem parseTag19 (src : Bytes) (segs : List Segment) (L : Int) (j a : Nat) (e hd : Int) (tag tail : Bytes)
    (matcher : Bytes → Option Nat)
    (W : WFSegs src segs) (Z : ∀ s ∈ segs, s.padding = 0) (hLs : L = BCur.lastStop segs)
    (hseg : segs[j]? = some { start := hd, stop := e }) (hhd : hd ≤ a)
    (h : At16 src L a e (tag ++ tail)) (htag : tag ≠ []) (htail : tail ≠ []) (hasc : ∀ c ∈ tag, c < 128)
    (hm : ∀ y, matcher (tag ++ y) = some tag.length) :
    parseTag matcher (rdAt src segs L j { start := a, stop := e } hd) =
      .ok (some (.rawHTML [{ start := a, stop := ((a + tag.length : Nat) : Int) }]),
        rdAt src segs L j { start := ((a + tag.length : Nat) : Int), stop := e } hd) := by
  have hjl : j < segs.length := (List.getElem?_eq_some_iff.mp hseg).1
  have hj : ((j : Nat) : Int) < segs.length := by omega
  have htl : 0 < tail.length := List.length_pos_iff.mpr htail
  have htg : 0 < tag.length := List.length_pos_iff.mpr htag
  obtain ⟨h1, h2, h3, h4⟩ := h
  have h := (⟨h1, h2, h3, h4⟩ : At16 src L a e (tag ++ tail))
  simp only [List.length_append] at h2 h3
  have hrs := rs_at19 src segs L j a e hd hLs hseg hhd (by omega)
  obtain ⟨st, hst, _⟩ := runeStream_post (segFacts W) Z (rdFuel (rdAt src segs L j { start := a, stop := e } hd)) (acc := [])
    hrs (rdFuel_gt W Z hrs)
  have hfuel : rdFuel (rdAt src segs L j { start := a, stop := e } hd) =
      (rdFuel (rdAt src segs L j { start := a, stop := e } hd) - tag.length) + tag.length := by
    have : tag.length ≤ rdFuel (rdAt src segs L j { start := a, stop := e } hd) := by
      unfold rdFuel loopFuel; simp only [rdAt]; omega
    omega
  have hst2 := hst
  rw [hfuel, runeStream_ascii19 src segs L j hd e tail hj htail tag a _ [] hasc h] at hst2
  obtain ⟨y, hy⟩ := runeStream_acc19 _ _ _ _ hst2
  simp only [List.append_nil, List.reverse_reverse] at hy
  obtain ⟨t0, tag', htt⟩ : ∃ t0 tag', tag = t0 :: tag' := by
    cases tag with
    | nil => exact absurd rfl htag
    | cons x xs => exact ⟨x, xs, rfl⟩
  have hp := peekLine_at16 src segs L j hd a e t0 (tag' ++ tail) (by rw [← List.cons_append, ← htt]; exact h) hj
  unfold parseTag
  simp only [BlockReader.position, bind, Except.bind, hst, hy, hm y]
  simp only [show (rdAt src segs L j { start := (a : Int), stop := e } hd).line = (j : Int) from rfl,
    show (rdAt src segs L j { start := (a : Int), stop := e } hd).pos = { start := (a : Int), stop := e } from rfl,
    setPosition_at19 src segs L j _ a e hd hd hseg (by omega),
    advance_at16 src segs L j hd a e _ h tag.length (by simp; omega)]
  simp only [show (rdAt src segs L j { start := ((a + tag.length : Nat) : Int), stop := e } hd).line = (j : Int) from rfl,
    show (rdAt src segs L j { start := ((a + tag.length : Nat) : Int), stop := e } hd).pos =
      { start := ((a + tag.length : Nat) : Int), stop := e } from rfl]
  rw [show (rdAt src segs L j { start := (a : Int), stop := e } hd).segments.length + 2 = (segs.length + 1) + 1 from rfl,
    rhSegments]
  simp only [bind, Except.bind, hp, BlockReader.position,
    show (rdAt src segs L j { start := (a : Int), stop := e } hd).line = (j : Int) from rfl, beq_self_eq_true, if_true,
    List.nil_append]
  have hadv : ((a + tag.length : Nat) : Int) - (a : Int) = ((tag.length : Nat) : Int) := by omega
  rw [hadv, advance_at16 src segs L j hd a e _ h tag.length (by simp; omega)]
  rfl


theorem findEmailIndex_gt19 (x rest : Bytes) (hx : ∀ c ∈ x, (emailTbl c % 2 == 1) = true) :
    findEmailIndex (x ++ 62 :: rest) = -1 :=
  GM.Proof.FindEmailIndex.findEmailIndex_run hx (by decide) (by decide)

theorem findURLIndex_gt19 (c : UInt8) (n' rest : Bytes) (hn : ∀ x ∈ n', (urlTbl x / 4 % 2 == 1) = true) :
    findURLIndex (c :: (n' ++ 62 :: rest)) = -1 := by
  have htw := takeWhile_run18 (fun c => urlTbl c / 4 % 2 == 1) 62 rest (by decide) n' hn
  unfold findURLIndex
  simp only [htw]
  split
  · rfl
  · split
    · rfl
    · have e4 : (c :: (n' ++ 62 :: rest))[1 + n'.length]? = some 62 := by
        rw [Nat.add_comm, List.getElem?_cons_succ]; simp
      simp [e4]

theorem parseAutoLink_tag19 (src : Bytes) (segs : List Segment) (L j hd : Int) (a : Nat) (e : Int) (b : Bytes)
    (h : At16 src L a e (60 :: b)) (hj : j < segs.length)
    (he : findEmailIndex b = -1) (hu : findURLIndex b = -1) :
    parseAutoLink (rdAt src segs L j { start := a, stop := e } hd) =
      .ok (none, rdAt src segs L j { start := a, stop := e } hd) := by
  unfold parseAutoLink
  simp only [bind, Except.bind, peekLine_at16 src segs L j hd a e 60 _ h hj, Option.getD_some, List.isEmpty_cons,
    Bool.false_eq_true, if_false, List.drop_succ_cons, List.drop_zero, he, hu,
    show ((-1 : Int) < 0) = True by decide, if_true]
  rfl


/-- the bytes of a tag atom -/
def IsTag19 (tag : Bytes) : Prop :=
  ∃ c n', GM.Spec.CM.isLetter c = true ∧ (∀ x ∈ n', GM.Spec.CM.isAlnumC x = true) ∧
    (tag = 60 :: c :: (n' ++ [62]) ∨ tag = 60 :: 47 :: c :: (n' ++ [62]))

theorem isTag_ascii19 {tag : Bytes} (h : IsTag19 tag) : tag ≠ [] ∧ ∀ x ∈ tag, x < 128 := by
  obtain ⟨c, n', hc, hn, ht⟩ := h
  have hcA : GM.Spec.CM.isAlnumC c = true := by simp [GM.Spec.CM.isAlnumC, hc]
  have hc128 := (alnum_facts19 c hcA).2.2.1
  rcases ht with rfl | rfl
  · refine ⟨by simp, ?_⟩
    intro x hx
    simp only [List.mem_cons, List.mem_append, List.not_mem_nil, or_false] at hx
    rcases hx with rfl | rfl | hx | rfl
    · decide
    · exact hc128
    · exact (alnum_facts19 x (hn x hx)).2.2.1
    · decide
  · refine ⟨by simp, ?_⟩
    intro x hx
    simp only [List.mem_cons, List.mem_append, List.not_mem_nil, or_false] at hx
    rcases hx with rfl | rfl | rfl | hx | rfl
    · decide
    · decide
    · exact hc128
    · exact (alnum_facts19 x (hn x hx)).2.2.1
    · decide

theorem tag_parsers19 (env : Env) (src : Bytes) (segs : List Segment) (L : Int) (j a : Nat) (e hd : Int)
    (tag tail : Bytes) (ks : List Inl.Node) (nid : Nat) (bts : List Bottom)
    (W : WFSegs src segs) (Z : ∀ s ∈ segs, s.padding = 0) (hLs : L = BCur.lastStop segs)
    (hseg : segs[j]? = some { start := hd, stop := e }) (hhd : hd ≤ a)
    (h : At16 src L a e (tag ++ tail)) (htag : IsTag19 tag) (htail : tail ≠ []) :
    tryParsers env j { start := a, stop := e } [.autoLink, .rawHTML]
      { rd := rdAt src segs L j { start := a, stop := e } hd, kids := ks, nextId := nid, bottoms := bts } =
    .ok (some (.rawHTML [{ start := a, stop := ((a + tag.length : Nat) : Int) }]),
      { rd := rdAt src segs L j { start := ((a + tag.length : Nat) : Int), stop := e } hd, kids := ks, nextId := nid,
        bottoms := bts }) := by
  have hjl : j < segs.length := (List.getElem?_eq_some_iff.mp hseg).1
  have hj : ((j : Nat) : Int) < segs.length := by omega
  obtain ⟨htne, hasc⟩ := isTag_ascii19 htag
  obtain ⟨c, n', hc, hn, ht⟩ := htag
  have hcA : GM.Spec.CM.isAlnumC c = true := by simp [GM.Spec.CM.isAlnumC, hc]
  obtain ⟨hc1, _, _, hce, hcu⟩ := alnum_facts19 c hcA
  rcases ht with rfl | rfl
  · -- open tag
    have hline : (60 :: c :: (n' ++ [62])) ++ tail = 60 :: ((c :: n') ++ 62 :: tail) := by simp
    have hat : At16 src L a e (60 :: ((c :: n') ++ 62 :: tail)) := by rw [← hline]; exact h
    have hauto := parseAutoLink_tag19 src segs L j hd a e _ hat hj
      (findEmailIndex_gt19 (c :: n') tail (by
        intro x hx; rcases List.mem_cons.mp hx with rfl | hx
        · exact hce
        · exact (alnum_facts19 x (hn x hx)).2.2.2.1))
      (findURLIndex_gt19 c n' tail (fun x hx => (alnum_facts19 x (hn x hx)).2.2.2.2))
    have hraw : parseRawHTML (rdAt src segs L j { start := a, stop := e } hd) =
        parseTag matchOpenTag (rdAt src segs L j { start := a, stop := e } hd) := by
      unfold parseRawHTML
      simp only [bind, Except.bind, peekLine_at16 src segs L j hd a e 60 _ hat hj, Option.getD_some]
      simp [hc1]
    have hpt := parseTag19 src segs L j a e hd (60 :: c :: (n' ++ [62])) tail matchOpenTag W Z hLs hseg hhd h htne htail
      hasc (by
        intro y
        have := matchOpenTag19 c n' y hc hn
        simp only [List.cons_append, List.append_assoc, List.nil_append, List.length_cons,
          List.length_append, List.length_nil, this])
    simp only [tryParsers, Ip.parse, liftR, bind, Except.bind, hauto,
      show (rdAt src segs L j { start := (a : Int), stop := e } hd).setPosition j { start := a, stop := e } =
        .ok (rdAt src segs L j { start := a, stop := e } hd) from setPosition_at19 src segs L j _ a e hd hd hseg (by omega),
      hraw, hpt, pure, Except.pure]
  · -- closing tag
    have hline : (60 :: 47 :: c :: (n' ++ [62])) ++ tail = 60 :: ((47 :: c :: n') ++ 62 :: tail) := by simp
    have hat : At16 src L a e (60 :: ((47 :: c :: n') ++ 62 :: tail)) := by rw [← hline]; exact h
    have hauto := parseAutoLink_tag19 src segs L j hd a e _ hat hj
      (findEmailIndex_gt19 (47 :: c :: n') tail (by
        intro x hx
        simp only [List.mem_cons] at hx
        rcases hx with rfl | rfl | hx
        · decide
        · exact hce
        · exact (alnum_facts19 x (hn x hx)).2.2.2.1))
      (by unfold findURLIndex; simp [show (urlTbl 47 % 8 != 7) = true by decide])
    have hraw : parseRawHTML (rdAt src segs L j { start := a, stop := e } hd) =
        parseTag matchCloseTag (rdAt src segs L j { start := a, stop := e } hd) := by
      unfold parseRawHTML
      simp only [bind, Except.bind, peekLine_at16 src segs L j hd a e 60 _ hat hj, Option.getD_some]
      simp [hc1, show isAlnum 47 = false by decide]
    have hpt := parseTag19 src segs L j a e hd (60 :: 47 :: c :: (n' ++ [62])) tail matchCloseTag W Z hLs hseg hhd h htne
      htail hasc (by
        intro y
        have := matchCloseTag19 c n' y hc hn
        simp only [List.cons_append, List.append_assoc, List.nil_append, List.length_cons,
          List.length_append, List.length_nil, this])
    simp only [tryParsers, Ip.parse, liftR, bind, Except.bind, hauto,
      show (rdAt src segs L j { start := (a : Int), stop := e } hd).setPosition j { start := a, stop := e } =
        .ok (rdAt src segs L j { start := a, stop := e } hd) from setPosition_at19 src segs L j _ a e hd hd hseg (by omega),
      hraw, hpt, pure, Except.pure]


theorem noMerge_raw19 (ks : List Inl.Node) (sg : List Segment) : NoMerge8 (ks ++ [.rawHTML sg]) := by
  intro seg' h r; simp

end GM.Proof.CMFrag
end CMFrag19Inl
