/-
  GM.Proof.ConvertXE2EEsc — the escaped-pipe positions parseRow records (table.go:215-235, `escapedPipeCell.Pos`), on the table
  model GM.Table: along one row they are strictly ascending and lie inside the row's (trimmed) line; so the positions of one
  Table — header, then the body rows, whose lines follow each other in the source — are strictly ascending. The part of
  "the recorded escaped-pipe positions ascend" (GM.Props.ConvertXE2E.BlockPhaseXGood) that does not need the block driver.
-/
import GM.Model.Table

namespace GM.Proof.ConvertXE2EEsc
open GM GM.Table

theorem scanCell_spec (line : Bytes) (limit segStart closure : Nat) (hb : Bool) (esc : List Nat) (lo : Nat) :
    esc.Pairwise (· < ·) → (∀ p ∈ esc, lo ≤ p ∧ p + 1 < segStart + closure) → lo ≤ segStart + max closure 1 - 1 →
    (scanCell line limit segStart closure hb esc).2.Pairwise (· < ·) ∧
      ∀ p ∈ (scanCell line limit segStart closure hb esc).2,
        lo ≤ p ∧ p + 1 < segStart + (scanCell line limit segStart closure hb esc).1 + 1 := by
  fun_induction scanCell line limit segStart closure hb esc with
  | case1 closure hb esc hlt c hc hstop =>
    intro hs hbd hlo
    exact ⟨hs, fun p hp => ⟨(hbd p hp).1, by have := (hbd p hp).2; omega⟩⟩
  | case2 closure hb esc hlt c hb' hc hstop ih =>
    intro hs hbd hlo
    have hc1 : 1 ≤ closure := by
      rcases Nat.eq_zero_or_pos closure with h0 | h0
      · subst h0; simp at hstop
      · exact h0
    by_cases hbt : hb' = true
    · rw [dif_pos hbt] at ih
      rw [if_pos hbt]
      have := ih (by
          rw [List.pairwise_append]
          refine ⟨hs, by simp, ?_⟩
          intro a ha b hb2
          simp only [List.mem_singleton] at hb2; subst hb2
          have := (hbd a ha).2; omega)
        (by
          intro p hp
          simp only [List.mem_append, List.mem_singleton] at hp
          rcases hp with hp | hp
          · exact ⟨(hbd p hp).1, by have := (hbd p hp).2; omega⟩
          · subst hp; exact ⟨by omega, by omega⟩)
        (by omega)
      exact this
    · rw [dif_neg hbt] at ih
      rw [if_neg hbt]
      exact ih hs (fun p hp => ⟨(hbd p hp).1, by have := (hbd p hp).2; omega⟩) (by omega)
  | case3 closure hb esc hlt c hb' hc ih =>
    intro hs hbd hlo
    apply ih hs
    · intro p hp
      exact ⟨(hbd p hp).1, by have := (hbd p hp).2; omega⟩
    · omega
  | case4 closure hb esc hlt =>
    intro hs hbd hlo
    exact ⟨hs, fun p hp => ⟨(hbd p hp).1, by have := (hbd p hp).2; omega⟩⟩

theorem scanCell_le (line : Bytes) (limit segStart closure : Nat) (hb : Bool) (esc : List Nat) (h : closure ≤ limit) :
    (scanCell line limit segStart closure hb esc).1 ≤ limit := by
  fun_induction scanCell line limit segStart closure hb esc <;> simp_all <;> omega

/-- the positions of all cells of a row, in order -/
def rowEsc (cells : List Cell) : List Nat := cells.flatMap (·.esc)

theorem rowEsc_cons (c : Cell) (rest : List Cell) : rowEsc (c :: rest) = c.esc ++ rowEsc rest := by
  simp [rowEsc]

theorem rowEsc_replicate_pad (n : Nat) : rowEsc (List.replicate n padCell) = [] := by
  induction n with
  | zero => rfl
  | succ k ih => rw [List.replicate_succ, rowEsc_cons, ih]; rfl

theorem rowLoop_spec (src line : Bytes) (limit segStart : Nat) (aligns : List Align) (isHeader : Bool) (pos i : Nat) :
    (rowEsc (rowLoop src line limit segStart aligns isHeader pos i)).Pairwise (· < ·) ∧
      ∀ p ∈ rowEsc (rowLoop src line limit segStart aligns isHeader pos i), segStart + max pos 1 - 1 ≤ p ∧ p < segStart + limit := by
  fun_induction rowLoop src line limit segStart aligns isHeader pos i with
  | case1 pos i hlt hex => simp [rowEsc]
  | case2 pos i hlt hex alignment r ih =>
    have hsc := scanCell_spec line limit segStart pos false [] (segStart + max pos 1 - 1) (by simp) (by simp) (Nat.le_refl _)
    have hge := scanCell_ge line limit segStart pos false []
    have hle := scanCell_le line limit segStart pos false [] (Nat.le_of_lt hlt)
    obtain ⟨i1, i2⟩ := ih
    rw [rowEsc_cons]
    refine ⟨?_, ?_⟩
    · rw [List.pairwise_append]
      refine ⟨hsc.1, i1, ?_⟩
      intro a ha b hb
      have h1 := (hsc.2 a ha).2
      have h2 := (i2 b hb).1
      show a < b
      simp only [r] at h2 ⊢
      omega
    · intro p hp
      simp only [List.mem_append] at hp
      rcases hp with hp | hp
      · have := hsc.2 p hp
        simp only [r] at *
        exact ⟨this.1, by omega⟩
      · have := i2 p hp
        simp only [r] at *
        exact ⟨by omega, this.2⟩
  | case3 pos i hlt hh => simp [rowEsc]
  | case4 pos i hlt hh => rw [rowEsc_replicate_pad]; simp

/-- the row's trimmed segment and its bytes -/
def rowSeg (src : Bytes) (segment : Seg) : Seg := (segment.trimLeft src).trimRight src
def rowLine (src : Bytes) (segment : Seg) : Bytes := (rowSeg src segment).value src

theorem parseRow_eq (src : Bytes) (segment : Seg) (aligns : List Align) (isHeader : Bool) :
    parseRow src segment aligns isHeader =
      rowLoop src (rowLine src segment)
        (if (rowLine src segment).getLast? == some 124 then (rowLine src segment).length - 1 else (rowLine src segment).length)
        (rowSeg src segment).start aligns isHeader (if (rowLine src segment).head? == some 124 then 1 else 0) 0 := rfl

theorem parseRow_esc (src : Bytes) (segment : Seg) (aligns : List Align) (isHeader : Bool) :
    (rowEsc (parseRow src segment aligns isHeader)).Pairwise (· < ·) ∧
      ∀ p ∈ rowEsc (parseRow src segment aligns isHeader),
        (rowSeg src segment).start ≤ p ∧ p < (rowSeg src segment).start + (rowLine src segment).length := by
  rw [parseRow_eq]
  generalize rowLine src segment = line
  generalize (rowSeg src segment).start = st
  have h := rowLoop_spec src line (if line.getLast? == some 124 then line.length - 1 else line.length) st aligns isHeader
    (if line.head? == some 124 then 1 else 0) 0
  refine ⟨h.1, fun p hp => ?_⟩
  have := h.2 p hp
  have hl : (if line.getLast? == some 124 then line.length - 1 else line.length) ≤ line.length := by split <;> omega
  refine ⟨?_, by omega⟩
  have h1 := this.1
  split at h1 <;> omega

theorem slice_length_le (src : Bytes) (a b : Nat) : (slice src a b).length ≤ b - a := by
  unfold slice; exact List.length_take_le _ _

theorem takeWhile_len_le (q : UInt8 → Bool) : ∀ l : Bytes, (l.takeWhile q).length ≤ l.length
  | [] => by simp
  | a :: l => by simp only [List.takeWhile]; split <;> simp <;> have := takeWhile_len_le q l <;> omega

theorem rowSeg_bounds (src : Bytes) (seg : Seg) (h : seg.start ≤ seg.stop) :
    seg.start ≤ (rowSeg src seg).start ∧ (rowSeg src seg).start + (rowLine src seg).length ≤ seg.stop := by
  have htl : trimLeftSpaceLength (slice src seg.start seg.stop) ≤ seg.stop - seg.start := by
    unfold trimLeftSpaceLength
    exact Nat.le_trans (takeWhile_len_le _ _) (slice_length_le src _ _)
  generalize htv : trimLeftSpaceLength (slice src seg.start seg.stop) = tl at htl
  have e1 : seg.trimLeft src = { start := seg.start + tl, stop := seg.stop, padding := 0 } := by
    unfold Seg.trimLeft; rw [htv]
  unfold rowLine rowSeg
  rw [e1]
  unfold Seg.trimRight
  dsimp only
  generalize trimRightSpaceLength (slice src (seg.start + tl) seg.stop) = tr
  by_cases hc : (tr == (slice src (seg.start + tl) seg.stop).length) = true
  · rw [if_pos hc]
    simp only [Seg.value, List.replicate_zero, List.nil_append]
    have := slice_length_le src (seg.start + tl) (seg.start + tl)
    omega
  · rw [if_neg hc]
    simp only [Seg.value, List.replicate_zero, List.nil_append]
    have := slice_length_le src (seg.start + tl) (seg.stop - tr)
    omega

theorem parseRow_esc_in (src : Bytes) (seg : Seg) (aligns : List Align) (isHeader : Bool) (h : seg.start ≤ seg.stop) :
    (rowEsc (parseRow src seg aligns isHeader)).Pairwise (· < ·) ∧
      ∀ p ∈ rowEsc (parseRow src seg aligns isHeader), seg.start ≤ p ∧ p < seg.stop := by
  obtain ⟨h1, h2⟩ := parseRow_esc src seg aligns isHeader
  obtain ⟨b1, b2⟩ := rowSeg_bounds src seg h
  exact ⟨h1, fun p hp => ⟨by have := (h2 p hp).1; omega, by have := (h2 p hp).2; omega⟩⟩

/-- lines that follow each other in the source, none inverted -/
def OrdLines (l : List Seg) : Prop := l.Pairwise (fun a b => a.stop ≤ b.start) ∧ ∀ s ∈ l, s.start ≤ s.stop

theorem OrdLines.tail {a : Seg} {l : List Seg} (h : OrdLines (a :: l)) : OrdLines l :=
  ⟨(List.pairwise_cons.mp h.1).2, fun s hs => h.2 s (by simp [hs])⟩

/-- the positions of the body rows -/
def rowsEsc (rows : List (List Cell)) : List Nat := rows.flatMap rowEsc

theorem rows_esc (src : Bytes) (aligns : List Align) : ∀ (ls : List Seg) (lo : Nat), OrdLines ls → (∀ s ∈ ls, lo ≤ s.start) →
    (rowsEsc (ls.map fun l => parseRow src l aligns false)).Pairwise (· < ·) ∧
      ∀ p ∈ rowsEsc (ls.map fun l => parseRow src l aligns false), lo ≤ p ∧ ∃ s ∈ ls, s.start ≤ p ∧ p < s.stop
  | [], _, _, _ => by simp [rowsEsc]
  | a :: rest, lo, ho, hlo => by
    obtain ⟨r1, r2⟩ := parseRow_esc_in src a aligns false (ho.2 a (by simp))
    have hpw := List.pairwise_cons.mp ho.1
    obtain ⟨i1, i2⟩ := rows_esc src aligns rest a.stop ho.tail (fun s hs => hpw.1 s hs)
    simp only [rowsEsc, List.map_cons, List.flatMap_cons] at *
    refine ⟨?_, ?_⟩
    · rw [List.pairwise_append]
      refine ⟨r1, i1, fun x hx y hy => ?_⟩
      have := (r2 x hx).2; have := (i2 y hy).1; omega
    · intro p hp
      simp only [List.mem_append] at hp
      rcases hp with hp | hp
      · have := r2 p hp
        exact ⟨by have := hlo a (by simp); omega, a, by simp, this.1, this.2⟩
      · obtain ⟨q1, s, hs, q2⟩ := i2 p hp
        have := ho.2 a (by simp)
        exact ⟨by have := hlo a (by simp); omega, s, by simp [hs], q2⟩

/-- the positions a Table records: its header's, then its body rows' -/
def tableEsc (t : Table) : List Nat := rowEsc t.header ++ rowsEsc t.rows

theorem findTable_esc (src : Bytes) (all : List Seg) : ∀ (rest before : List Seg) (prev : Seg) (t : Table),
    OrdLines (prev :: rest) → (findTable src all before prev rest).table = some t →
    (tableEsc t).Pairwise (· < ·) ∧ ∀ p ∈ tableEsc t, ∃ s ∈ prev :: rest, s.start ≤ p ∧ p < s.stop
  | [], _, _, _, _, h => by simp [findTable] at h
  | cur :: rest, before, prev, t, ho, h => by
    unfold findTable at h
    split at h
    · obtain ⟨i1, i2⟩ := findTable_esc src all rest (before ++ [prev]) cur t ho.tail h
      exact ⟨i1, fun p hp => by
        obtain ⟨s, hs, q⟩ := i2 p hp
        exact ⟨s, by simp only [List.mem_cons] at hs ⊢; rcases hs with hs | hs <;> simp [hs], q⟩⟩
    · rename_i aligns _
      dsimp only at h
      split at h
      · cases h
      · simp only [Option.some.injEq] at h
        subst h
        obtain ⟨r1, r2⟩ := parseRow_esc_in src prev aligns true (ho.2 prev (by simp))
        have hpw := List.pairwise_cons.mp ho.1
        have hpw2 := List.pairwise_cons.mp hpw.2
        obtain ⟨i1, i2⟩ := rows_esc src aligns rest prev.stop ho.tail.tail
          (fun s hs => hpw.1 s (by simp [hs]))
        simp only [tableEsc]
        refine ⟨?_, ?_⟩
        · rw [List.pairwise_append]
          refine ⟨r1, i1, fun x hx y hy => ?_⟩
          have := (r2 x hx).2; have := (i2 y hy).1; omega
        · intro p hp
          simp only [List.mem_append] at hp
          rcases hp with hp | hp
          · exact ⟨prev, by simp, r2 p hp⟩
          · obtain ⟨_, s, hs, q⟩ := i2 p hp
            exact ⟨s, by simp [hs], q⟩

/-- **one Table**: whenever tableParagraphTransformer.Transform builds a table from lines that follow each other in the source,
    the escaped-pipe positions it records — header first, then the body rows — are strictly ascending, and each lies inside
    one of the paragraph's lines -/
theorem transform_esc (src : Bytes) (lines : List Seg) (t : Table) (ho : OrdLines lines)
    (h : (transform src lines).table = some t) :
    (tableEsc t).Pairwise (· < ·) ∧ ∀ p ∈ tableEsc t, ∃ s ∈ lines, s.start ≤ p ∧ p < s.stop := by
  unfold transform at h
  split at h
  · cases h
  · rename_i first rest
    exact findTable_esc src _ rest [] first t ho h

end GM.Proof.ConvertXE2EEsc
