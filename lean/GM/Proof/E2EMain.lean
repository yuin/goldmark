/-
  GM.Proof.E2EMain — The end-to-end statements of GM.Props.ConvertE2E over `convertCore`, with their proofs: C03 / C10 from `parseDoc_inv`, `convertWith_ok` and the
  factorisation of GM.Proof.RenderIR, C04 from `ir_urlOK` and, at token level, from "the safe-mode HTML is a word of `WFHtmlU`".
-/
import GM.Proof.E2ERender
import GM.Proof.RenderWF.TokenizeU
import GM.Proof.RenderWF.Main
import GM.Proof.E2EUrl
import GM.Proof.RenderWF.Tokenize

section TokenLevel
/-
  C04 at token level over `convertCore`: the safe-mode HTML is a word of the grammar `WFHtmlU`
  (`GM.Proof.RenderWFU.render_wf` + `parseDoc_inv`), hence the strict tokenizer accepts it and `Spec.urlsOK` holds of its
  tokens (GM.Proof.RenderWF.TokenizeU).
-/

namespace GM.E2E
open GM GM.Text GM.Convert GM.Spec

theorem render_urlsOK (o : Opts) (e : Exts) (t : GM.Node) (hsafe : o.unsafe_ = false)
    (hinv : Spec.Inv (mkRCfg o e) t = true) :
    ∃ ts, tokenize (render (mkRCfg o e) t) = some ts ∧ urlsOK lookupEntity ts = true :=
  GM.Proof.RenderWFU.urlsOK_of_wfU (GM.Proof.RenderWFU.render_wf o e t hsafe hinv)

theorem safe_urls_harmless_tokens (uc : List (Nat × (Bool × Bool))) (o : ROpts) (src : Bytes) (html : Bytes)
    (h : convertCore uc o src = .ok html) (hsafe : o.unsafe_ = false) :
    ∃ ts, tokenize html = some ts ∧ urlsOK lookupEntity ts = true := by
  obtain ⟨t, ht, rfl⟩ := convertWith_ok h
  exact render_urlsOK (ROpts.opts o) {} t hsafe (parseDoc_inv (ROpts.opts o) {} true uc src t ht)

end GM.E2E
end TokenLevel

section Statements
/-
  The composed end-to-end statements of GM.Props.ConvertE2E with their proofs (the Props file only
  restates them): C03 / C04 / C10 over `convertCore`, from `parseDoc_inv` (GM.Proof.E2ETree), `convertWith_ok`
  (GM.Proof.E2ERender), `ir_urlOK` (GM.Proof.E2EUrl) and the factorisation of GM.Proof.RenderIR.
-/

namespace GM.E2E
open GM GM.Text GM.Convert GM.Spec

theorem safe_wellformed (uc : List (Nat × (Bool × Bool))) (o : ROpts) (src : Bytes) (html : Bytes)
    (h : convertCore uc o src = .ok html) (hsafe : o.unsafe_ = false) :
    Spec.safeHtmlOK o.xhtml html = true ∧ Spec.xmlOK html = true := by
  obtain ⟨t, ht, rfl⟩ := convertWith_ok h
  have hinv := parseDoc_inv (ROpts.opts o) {} true uc src t ht
  exact ⟨GM.Proof.RenderWF.safeHtmlOK_of_wf (GM.Proof.RenderWF.render_wf (ROpts.opts o) {} t hsafe hinv),
    GM.Proof.RenderWF.xmlOK_of_wf (GM.Proof.RenderWF.render_wf (ROpts.opts o) {} t hsafe hinv)⟩

theorem safe_urls_harmless (uc : List (Nat × (Bool × Bool))) (o : ROpts) (src : Bytes) (html : Bytes)
    (h : convertCore uc o src = .ok html) (hsafe : o.unsafe_ = false) :
    ∃ ps : List Piece, html = ps.flatMap (emit o.xhtml o.hardWraps false) ∧
      ∀ pre d post, ps = pre ++ Piece.url d :: post →
        ∃ pre' tag m c post', pre = pre' ++ [Piece.lit (tag ++ m)] ∧ post = Piece.lit (34 :: c) :: post' ∧
          (tag = strBytes "<a href=\"" ∨ tag = strBytes "<img src=\"") ∧
          html = pre'.flatMap (emit o.xhtml o.hardWraps false) ++ tag ++ (m ++ urlOut false d) ++
                  34 :: (c ++ post'.flatMap (emit o.xhtml o.hardWraps false)) ∧
          (∀ b ∈ m ++ urlOut false d, b ≠ 34) ∧
          hrefDangerous lookupEntity (m ++ urlOut false d) = false := by
  obtain ⟨t, ht, rfl⟩ := convertWith_ok h
  have hf : render o.rcfg t = (ir {} 1 false t).flatMap (emit o.xhtml o.hardWraps false) := by
    rw [render_pinned, GM.Proof.render_factor (ROpts.optsPinned o) {} 1 rfl rfl (by decide) t]
    show (ir {} 1 false t).flatMap (emit o.xhtml o.hardWraps o.unsafe_) = _
    rw [hsafe]
  refine ⟨ir {} 1 false t, hf, ?_⟩
  intro pre d post e
  obtain ⟨pre', a, c, post', h1, h2, m, htag, hq, hd⟩ := ir_urlOK {} 1 false t pre d post e
  have key : ∀ tag, a = tag ++ m →
      render o.rcfg t = pre'.flatMap (emit o.xhtml o.hardWraps false) ++ tag ++ (m ++ urlOut false d) ++
        34 :: (c ++ post'.flatMap (emit o.xhtml o.hardWraps false)) := by
    intro tag ha
    rw [hf, e, h1, h2, ha]
    simp [emit_lit, emit_url]
  rcases htag with ha | ha
  · exact ⟨pre', _, m, c, post', by rw [h1, ha], h2, .inl rfl, key _ ha, hq, hd⟩
  · exact ⟨pre', _, m, c, post', by rw [h1, ha], h2, .inr rfl, key _ ha, hq, hd⟩

theorem tree_independent_of_options (uc : List (Nat × (Bool × Bool))) (src : Bytes) :
    (∃ t, parseDoc true uc src = .ok t ∧ ∀ o : ROpts, convertCore uc o src = .ok (render o.rcfg t)) ∨
    (∃ e, parseDoc true uc src = .error e ∧ ∀ o : ROpts, convertCore uc o src = .error e) := by
  cases hp : parseDoc true uc src with
  | error e => exact .inr ⟨e, rfl, fun o => convertWith_of_err o hp⟩
  | ok t => exact .inl ⟨t, rfl, fun o => convertWith_of_tree o hp⟩

theorem options_orthogonal (uc : List (Nat × (Bool × Bool))) (src : Bytes) :
    (∃ ps : List Piece, ∀ o : ROpts, ∃ html, convertCore uc o src = .ok html ∧
        html = ps.flatMap (emit o.xhtml o.hardWraps o.unsafe_) ∧
        html = (ps.flatMap (hardWrap o.hardWraps)).flatMap
          (fun p => if p.isVoidEnd then voidEndBytes o.xhtml else emitBase false o.unsafe_ p) ∧
        html = ps.flatMap (fun p => (if p.isSoftBreak && o.hardWraps then strBytes "<br" ++ voidEndBytes o.xhtml else []) ++
                              emit o.xhtml false o.unsafe_ p) ∧
        html = ps.flatMap (fun p => if p.unsafeSensitive then emit o.xhtml o.hardWraps o.unsafe_ p
                                    else emit o.xhtml o.hardWraps false p)) ∨
    (∃ e, ∀ o : ROpts, convertCore uc o src = .error e) := by
  rcases tree_independent_of_options uc src with ⟨t, _, ht⟩ | ⟨e, _, he⟩
  · refine .inl ⟨ir {} 1 false t, fun o => ⟨_, ht o, ?_, ?_, ?_, ?_⟩⟩
    · rw [render_pinned]; exact GM.Proof.render_factor (ROpts.optsPinned o) {} 1 rfl rfl (by decide) t
    · rw [render_pinned, GM.Proof.render_factor (ROpts.optsPinned o) {} 1 rfl rfl (by decide) t, GM.Proof.flatMap_emit,
        GM.Proof.emitBase_xhtml_fun]
      rfl
    · rw [render_pinned, GM.Proof.render_factor (ROpts.optsPinned o) {} 1 rfl rfl (by decide) t]
      show (ir {} 1 false t).flatMap (emit o.xhtml o.hardWraps o.unsafe_) = _
      cases o.hardWraps with
      | false => simp
      | true => rw [GM.Proof.emit_hardWraps_fun]; simp
    · rw [render_pinned, GM.Proof.render_factor (ROpts.optsPinned o) {} 1 rfl rfl (by decide) t, ← GM.Proof.emit_unsafe_fun]
      rfl
  · exact .inr ⟨e, he⟩

theorem unsafe_only_changes_raw (uc : List (Nat × (Bool × Bool))) (o : ROpts) (src : Bytes) (html html' : Bytes)
    (h : convertCore uc { o with unsafe_ := false } src = .ok html)
    (h' : convertCore uc { o with unsafe_ := true } src = .ok html') :
    ∃ ps : List Piece, html = ps.flatMap (emit o.xhtml o.hardWraps false) ∧
      html' = ps.flatMap (emit o.xhtml o.hardWraps true) ∧
      ∀ p ∈ ps, p.unsafeSensitive = false → emit o.xhtml o.hardWraps true p = emit o.xhtml o.hardWraps false p := by
  rcases options_orthogonal uc src with ⟨ps, hps⟩ | ⟨e, he⟩
  · obtain ⟨x, hx, e1, _⟩ := hps { o with unsafe_ := false }
    obtain ⟨y, hy, e2, _⟩ := hps { o with unsafe_ := true }
    rw [hx] at h; cases h
    rw [hy] at h'; cases h'
    exact ⟨ps, e1, e2, fun p _ hp => GM.Proof.emit_unsafeOff o.xhtml o.hardWraps true p hp⟩
  · rw [he] at h; cases h

end GM.E2E
end Statements
