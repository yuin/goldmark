/-
  GM.Proof.ShiftSimXRel — the state relation of the C09 shift simulation for a source with a suffix, and the model's
  primitives under it.

  Run A works on the source `b`, run B on `F.p ++ b ++ F.q`. B's state is (almost) a FUNCTION of A's:
  * reader: `sB.r = shR F sA.r` (GM.Proof.ShiftSimXCalc), A's reader satisfies the reader invariant `RI`;
  * node store: A's node `j` is B's node `F.ι j` (`ι 0 = 0`, `ι j = j + c`), and is `shN F (j == 0)` of it: ids
    inside the node mapped by `ι`, every segment moved by `|p|`, B's Document has the children `kids0` in front.
    The relation is total over ids (beyond the stores both sides read `default`); B's nodes `1..c` are never looked at;
  * context: same keys (ids mapped), same open-block stack; `emptyItemBlank` is related only while a list is open
    (it survives the closing of its list: `GM.Props.C09.close_keeps_list_flags`); `BlockOffset/BlockIndent` are related
    in `SR` and not in the weak relation `SRw` that holds between lines (openBlocks writes them before anything reads them).
  `SRLim` ("limbo"): what is left of `SR` after a leaf parser's `Open` advanced to the end of its line with an
  `Advance(n)` whose `n` is not known to be ≥ 0: stores and contexts related, readers related after the next
  `AdvanceLine` (nothing reads the reader in between) — or, when run A stands at the end of `b`, run B on the first line
  of the suffix (`AtEndR`).
  Then, under these relations:
  * the segment operations the block parsers call with the source (`TrimLeftSpace`, `TrimRightSpace`,
    `TrimLeftSpaceWidth`, `Value`, and the loops over `Lines()` built from them) commute with the shift: if the call on
    `(t, src)` ends normally, the call on the moved segment and run B's source ends normally with the moved result (the
    same result for `Value`). No sign condition: a negative start makes the A-side call panic;
  * the AST mutators the block phase uses (`RemoveChild`, `AppendChild`, `InsertBefore`, `InsertAfter`, `ReplaceChild`,
    `NextSibling`) under `SRL`: called with ids mapped by `ι`, they end in related stores. The children `kids0` that B's
    Document has in front are old nodes, never the image of an id under `ι`, so list surgery on the children commutes
    with `kids0 ++ map ι _`;
  * the blank-line statistics: B's are stale entries of the prefix followed by A's with line numbers `+ dl` (`StatsRel`).
-/
import GM.Proof.ShiftSimXCalc

namespace GM.Blocks.Xs
open GM GM.Text GM.Spec GM.Proof.Reader GM.Blocks

def Frame.ι (F : Frame) (j : Nat) : Nat := if j = 0 then 0 else j + F.c

@[simp] theorem ι_zero (F : Frame) : F.ι 0 = 0 := rfl

theorem ι_pos (F : Frame) {j : Nat} (h : j ≠ 0) : F.ι j = j + F.c := by simp [Frame.ι, h]

theorem ι_inj (F : Frame) {i j : Nat} (h : F.ι i = F.ι j) : i = j := by
  unfold Frame.ι at h
  split at h <;> split at h <;> omega

theorem ι_eq_zero (F : Frame) {j : Nat} : F.ι j = 0 ↔ j = 0 := by
  unfold Frame.ι; split <;> omega

theorem ι_not_kid (F : Frame) (hF : F.OK) (j : Nat) : F.ι j ∉ F.kids0 := by
  intro hm
  have := hF.kids _ hm
  unfold Frame.ι at this
  split at this <;> omega

theorem ι_beq (F : Frame) (i j : Nat) : (F.ι i == F.ι j) = (i == j) := by
  by_cases h : i = j
  · subst h; simp
  · have : F.ι i ≠ F.ι j := fun e => h (ι_inj F e)
    rw [beq_eq_false_iff_ne.mpr this, beq_eq_false_iff_ne.mpr h]

/-- an HTML block's closure line: `{-1,-1}` (none) stays, a real segment is moved -/
def shClosure (d : Int) (s : Segment) : Segment := if s.start < 0 then s else moveSeg d s

/-- B's node as a function of A's (`root`: the Document) -/
def shN (F : Frame) (root : Bool) (n : Node) : Node :=
  { n with parent := n.parent.map F.ι,
           children := (if root then F.kids0 else []) ++ n.children.map F.ι,
           lines := n.lines.map (moveSeg F.d),
           info := n.info.map (moveSeg F.d),
           closure := shClosure F.d n.closure }

theorem shN_default (F : Frame) : shN F false (default : Node) = default := by
  simp [shN, shClosure, default, instInhabitedNode.default]

structure StoreRel (F : Frame) (nA nB : List Node) : Prop where
  pos : 0 < nA.length
  len : nB.length = nA.length + F.c
  node : ∀ j, nB.getD (F.ι j) default = shN F (j == 0) (nA.getD j default)
  doc : (nA.getD 0 default).kind = .document
  /-- B's old nodes `1..c` are never touched -/
  old : ∀ i, 1 ≤ i → i ≤ F.c → nB.getD i default = F.oldNodes.getD i default

def shB (F : Frame) (b : Block) : Block := { b with node := F.ι b.node }
def shF (F : Frame) (f : FenceData) : FenceData := { f with node := F.ι f.node }

def ListOpen (a : Ctx) : Prop := ∃ x ∈ a.opened, x.bp = .list ∨ x.bp = .listItem

/-- the relation of the flag `emptyListItemWithBlankLines`. The flag survives the closing of its list
    (`GM.Props.C09.close_keeps_list_flags`), so after a prefix it may differ from a fresh run; it is read only by
    `listParser.Continue` / `listItemParser.Continue`. It is related (equal) only for frames with `flag = true`; the
    theorems that do not cover the list parsers hold for every frame. -/
def ListFlagRel (F : Frame) (a b : Ctx) : Prop := F.flag = true → b.emptyItemBlank = a.emptyItemBlank

/-- everything but `BlockOffset` / `BlockIndent` -/
structure CtxRelW (F : Frame) (a b : Ctx) : Prop where
  opened : b.opened = a.opened.map (shB F)
  tmpPara : b.tmpPara = a.tmpPara.map F.ι
  fence : b.fence = a.fence.map (shF F)
  skipList : b.skipList = a.skipList
  emptyItemBlank : ListFlagRel F a b

structure CtxRel (F : Frame) (a b : Ctx) : Prop extends CtxRelW F a b where
  blockOffset : b.blockOffset = a.blockOffset
  blockIndent : b.blockIndent = a.blockIndent

theorem CtxRelW.last {F : Frame} {a b : Ctx} (h : CtxRelW F a b) :
    b.opened.getLast? = a.opened.getLast?.map (shB F) := by
  rw [h.opened, List.getLast?_map]

/-- between lines: `BlockOffset` / `BlockIndent` not related -/
structure SRw (F : Frame) (b : Bytes) (sA sB : St) : Prop where
  ri : ∃ c, RI b sA.r c
  r : sB.r = shR F sA.r
  n : StoreRel F sA.nodes sB.nodes
  c : CtxRelW F sA.pc sB.pc

structure SR (F : Frame) (b : Bytes) (sA sB : St) : Prop where
  ri : ∃ c, RI b sA.r c
  r : sB.r = shR F sA.r
  n : StoreRel F sA.nodes sB.nodes
  c : CtxRel F sA.pc sB.pc

theorem SR.w {F b sA sB} (h : SR F b sA sB) : SRw F b sA sB := ⟨h.ri, h.r, h.n, h.c.toCtxRelW⟩

/-- stores and contexts related, the readers are `rA` / `rB` (not looked at, except for their sources): the relation
    under which `Close` functions and tree operations work -/
structure SRL (F : Frame) (b : Bytes) (rA rB : Reader) (sA sB : St) : Prop where
  ra : sA.r = rA
  rb : sB.r = rB
  srcA : rA.source = b
  srcB : rB.source = F.p ++ b ++ F.q
  n : StoreRel F sA.nodes sB.nodes
  c : CtxRel F sA.pc sB.pc

def QNL (F : Frame) (b : Bytes) : Prop := F.q = [] ∨ b.getLast? = some 10

/-- run A's reader stands at the end of `b` after AdvanceLine, run B's at the first line of the suffix -/
def AtEndR (F : Frame) (b : Bytes) (rA rB : Reader) : Prop :=
  F.q ≠ [] ∧ rA.source = b ∧ rA.pos.stop = (b.length : Int) ∧ rB.source = F.p ++ b ++ F.q ∧
  rB.pos.stop = rA.pos.stop + F.d ∧ rB.pos.forceNewline = rA.pos.forceNewline ∧ rB.line = rA.line + F.dl

/-- "limbo": the readers are related after the next `AdvanceLine` (nothing reads them before) -/
def Limbo (F : Frame) (b : Bytes) (rA rB : Reader) : Prop :=
  (∃ c, RI b rA.advanceLine c) ∧
    ((rB.advanceLine = shR F rA.advanceLine ∧ (F.q = [] ∨ rA.pos.stop < (b.length : Int))) ∨ AtEndR F b rA rB)

/-- after a leaf parser consumed its line with `Advance(n)`, `n` not known to be ≥ 0 -/
def SRLim (F : Frame) (b : Bytes) (sA sB : St) : Prop := SRL F b sA.r sB.r sA sB ∧ Limbo F b sA.r sB.r

theorem RI.start_nonneg {src r c} (h : RI src r c) : 0 ≤ r.pos.start := by rw [h.pos]; simp
theorem SR.l {F b sA sB} (h : SR F b sA sB) : SRL F b sA.r sB.r sA sB := by
  obtain ⟨c, hc⟩ := h.ri
  exact ⟨rfl, rfl, hc.source, by rw [h.r]; simp [shR, hc.source], h.n, h.c⟩

theorem SR.limbo {F b sA sB} (h : SR F b sA sB) (hq : QNL F b) : SRLim F b sA sB := by
  obtain ⟨c, hc⟩ := h.ri
  refine ⟨h.l, ⟨_, ri_advanceLine hc⟩, ?_⟩
  by_cases hlt : F.q = [] ∨ sA.r.pos.stop < (b.length : Int)
  · left
    refine ⟨?_, hlt⟩
    rw [h.r, advanceLine_sh F _ (RI.stop_nonneg hc)]
    rw [hc.source]
    rcases hlt with h1 | h1
    · exact .inl h1
    · rcases hq with h2 | h2
      · exact .inl h2
      · exact .inr ⟨h1, h2⟩
  · right
    have hle := GM.Blocks.lineEnd_le b c.p
    have hst : sA.r.pos.stop = (b.length : Int) := by
      have : ¬ sA.r.pos.stop < (b.length : Int) := fun x => hlt (.inr x)
      rw [hc.pos] at this ⊢; simp only at this ⊢; omega
    refine ⟨fun x => hlt (.inl x), hc.source, hst, by rw [h.r]; simp [shR, hc.source], by rw [h.r]; rfl,
      by rw [h.r]; rfl, by rw [h.r]; rfl⟩

/-- back from `SRL` when the readers are still the related ones -/
theorem SRL.sr {F b sA sB sA' sB'} (h0 : SR F b sA sB) (h : SRL F b sA.r sB.r sA' sB') : SR F b sA' sB' :=
  ⟨by rw [h.ra]; exact h0.ri, by rw [h.ra, h.rb]; exact h0.r, h.n, h.c⟩

theorem SR.withR {F b sA sB} (h : SR F b sA sB) {rA : Reader} {c : RCur} (hc : RI b rA c) :
    SR F b { sA with r := rA } { sB with r := shR F rA } := ⟨⟨c, hc⟩, rfl, h.n, h.c⟩

theorem SRw.withR {F b sA sB} (h : SRw F b sA sB) {rA : Reader} {c : RCur} (hc : RI b rA c) :
    SRw F b { sA with r := rA } { sB with r := shR F rA } := ⟨⟨c, hc⟩, rfl, h.n, h.c⟩

/-! The reader primitives: each comes in a core form (readers only: `RD`), from which the `SR` and `SRw` forms follow. -/

/-- the reader part of the relation -/
def RD (F : Frame) (b : Bytes) (sA sB : St) : Prop := (∃ c, RI b sA.r c) ∧ sB.r = shR F sA.r

/-- only the readers changed, and they are related again -/
def RDstep (F : Frame) (b : Bytes) (sA sB sA' sB' : St) : Prop :=
  ∃ rA c, RI b rA c ∧ sA' = { sA with r := rA } ∧ sB' = { sB with r := shR F rA }

theorem RDstep.sr {F b sA sB sA' sB'} (h : SR F b sA sB) (hs : RDstep F b sA sB sA' sB') : SR F b sA' sB' := by
  obtain ⟨rA, c, hc, e1, e2⟩ := hs; subst e1 e2; exact h.withR hc

theorem RDstep.srw {F b sA sB sA' sB'} (h : SRw F b sA sB) (hs : RDstep F b sA sB sA' sB') : SRw F b sA' sB' := by
  obtain ⟨rA, c, hc, e1, e2⟩ := hs; subst e1 e2; exact h.withR hc

theorem RI.peek_hq {F : Frame} {b : Bytes} {r : Reader} {c : RCur} (hc : RI b r c)
    (hq : F.q = [] ∨ ∃ c, RI b r c ∧ c.p < b.length) :
    F.q = [] ∨ (r.pos.start < r.source.length ∧ r.pos.stop ≤ r.source.length) := by
  refine hq.imp id ?_
  rintro ⟨c', hc', hlt⟩
  have := GM.Blocks.lineEnd_le b c'.p
  rw [hc'.source, hc'.pos]; simp only; omega

theorem peekLine_core {F : Frame} {b : Bytes} {sA sB : St} (h : RD F b sA sB)
    (hq : F.q = [] ∨ ∃ c, RI b sA.r c ∧ c.p < b.length) :
    P2 (fun x y sA' sB' => (∃ c, RI b sA'.r c ∧ x = (RCur.view b c, RCur.seg b c)) ∧ y = (x.1, moveSeg F.d x.2) ∧
        RDstep F b sA sB sA' sB') (peekLine sA) (peekLine sB) := by
  obtain ⟨⟨c, hc⟩, hr⟩ := h
  obtain ⟨r', h1, h2⟩ := ri_peekLine hc
  have hB : sB.r.peekLine = .ok ((RCur.view b c, moveSeg F.d (RCur.seg b c)), shR F r') := by
    rw [hr, peekLine_sh F _ (RI.start_nonneg hc) (RI.peek_hq hc hq), h1]; rfl
  unfold GM.Blocks.peekLine
  rw [h1, hB]
  exact P2.ok ⟨⟨c, h2, rfl⟩, rfl, r', c, h2, rfl, rfl⟩

theorem lineOffset_core {F : Frame} {b : Bytes} {sA sB : St} (h : RD F b sA sB) :
    P2 (fun x y sA' sB' => y = x ∧ (∃ c, RI b sA'.r c ∧ (c.p < b.length → x = loVal b c)) ∧
        RDstep F b sA sB sA' sB') (lineOffset sA) (lineOffset sB) := by
  obtain ⟨⟨c, hc⟩, hr⟩ := h
  obtain ⟨v, r', h1, h2, h3⟩ := ri_lineOffset hc
  have hB : sB.r.lineOffsetOp = .ok (v, shR F r') := by
    rw [hr, lineOffsetOp_sh F _ hc.head (.inr (by have := hc.inRange; rw [hc.source, hc.pos]; simp only; omega)), h1]; rfl
  unfold GM.Blocks.lineOffset
  rw [h1, hB]
  exact P2.ok ⟨rfl, ⟨c, h2, h3⟩, r', c, h2, rfl, rfl⟩

/-- the simple sufficient condition for the suffix hypothesis of `advance_*`: the advance ends in front of the
    line's last byte -/
theorem RI.adv_hq {b : Bytes} {r : Reader} {c : RCur} (hc : RI b r c) {n : Int} (hn : 0 ≤ n)
    (h : r.pos.start + n < r.pos.stop) : r.pos.start < r.pos.stop ∧ r.pos.start + n < r.pos.stop + r.pos.padding := by
  rw [hc.pos] at h ⊢; simp only at h ⊢; omega

theorem advance_core {F : Frame} {b : Bytes} {sA sB : St} (h : RD F b sA sB) {n : Int} (hn : 0 ≤ n)
    (hq : F.q = [] ∨ (sA.r.pos.start < sA.r.pos.stop ∧ sA.r.pos.start + n < sA.r.pos.stop + sA.r.pos.padding)) :
    P2 (fun _ _ sA' sB' => RDstep F b sA sB sA' sB') (advance n sA) (advance n sB) := by
  obtain ⟨⟨c, hc⟩, hr⟩ := h
  obtain ⟨r', h1, h2⟩ := ri_advance hc hn
  have hB : sB.r.advance n = .ok (shR F r') := by
    rw [hr, advance_sh F _ n (RI.start_nonneg hc) (RI.stop_nonneg hc) (hq.imp id (RI.noLF hc)), h1]; rfl
  unfold GM.Blocks.advance
  rw [h1, hB]
  exact P2.ok ⟨r', _, h2, rfl, rfl⟩

theorem advanceAndSetPadding_core {F : Frame} {b : Bytes} {sA sB : St} (h : RD F b sA sB) {n : Int} (hn : 0 ≤ n)
    (pd : Int) (hq : F.q = [] ∨ (sA.r.pos.start < sA.r.pos.stop ∧ sA.r.pos.start + n < sA.r.pos.stop + sA.r.pos.padding)) :
    P2 (fun _ _ sA' sB' => RDstep F b sA sB sA' sB') (advanceAndSetPadding n pd sA) (advanceAndSetPadding n pd sB) := by
  obtain ⟨⟨c, hc⟩, hr⟩ := h
  obtain ⟨r', h1, h2⟩ := ri_advanceAndSetPadding hc hn pd
  have hB : sB.r.advanceAndSetPadding n pd = .ok (shR F r') := by
    rw [hr, advanceAndSetPadding_sh F _ n pd (RI.start_nonneg hc) (RI.stop_nonneg hc) (hq.imp id (RI.noLF hc)), h1]; rfl
  unfold GM.Blocks.advanceAndSetPadding
  rw [h1, hB]
  exact P2.ok ⟨r', _, h2, rfl, rfl⟩

theorem advanceLine_core {F : Frame} {b : Bytes} {sA sB : St} (h : RD F b sA sB)
    (hq : F.q = [] ∨ (sA.r.pos.stop < (b.length : Int) ∧ b.getLast? = some 10)) :
    P2 (fun _ _ sA' sB' => RDstep F b sA sB sA' sB') (advanceLine sA) (advanceLine sB) := by
  obtain ⟨⟨c, hc⟩, hr⟩ := h
  unfold GM.Blocks.advanceLine
  refine P2.ok ⟨_, _, ri_advanceLine hc, rfl, ?_⟩
  rw [hr, advanceLine_sh F _ (RI.stop_nonneg hc) (by rw [hc.source]; exact hq)]

theorem skipBlankLinesR_core {F : Frame} {b : Bytes} {sA sB : St} (h : RD F b sA sB) (hq : F.q = []) :
    P2 (fun x y sA' sB' => y = (moveSeg F.d x.1, x.2.1, x.2.2) ∧ RDstep F b sA sB sA' sB')
      (skipBlankLinesR sA) (skipBlankLinesR sB) := by
  obtain ⟨⟨c, hc⟩, hr⟩ := h
  intro x sA' y sB' e1 e2
  unfold skipBlankLinesR at e1 e2
  cases h1 : skipBlankLines readerOps (loopFuel sA.r.source) 0 sA.r with
  | error e => rw [h1] at e1; cases e1
  | ok v1 =>
    cases h2 : skipBlankLines readerOps (loopFuel sB.r.source) 0 sB.r with
    | error e => rw [h2] at e2; cases e2
    | ok v2 =>
      rw [h1] at e1; rw [h2] at e2
      cases e1; cases e2
      rw [hr] at h2
      obtain ⟨q1, q2, c', q3⟩ := skipBlankLines_sh F hq _ _ 0 sA.r c b hc v1.1 v1.2 v2.1 v2.2 h1 h2
      exact ⟨q1, v1.2, c', q3, rfl, by rw [q2]⟩

theorem SR.rd {F b sA sB} (h : SR F b sA sB) : RD F b sA sB := ⟨h.ri, h.r⟩
theorem SRw.rd {F b sA sB} (h : SRw F b sA sB) : RD F b sA sB := ⟨h.ri, h.r⟩

/-- `PeekLine`: the same line on both sides, B's segment moved. `x = (view, seg)` of A's cursor `c`: use
    `view_eq`, `view_none`, `view_len`, `seg_ok` (GM.Proof.BlocksTotal) for facts about them. -/
theorem peekLine_p2 {F b sA sB} (h : SR F b sA sB) (hq : F.q = [] ∨ ∃ c, RI b sA.r c ∧ c.p < b.length) :
    P2 (fun x y sA' sB' => (∃ c, RI b sA'.r c ∧ x = (RCur.view b c, RCur.seg b c)) ∧ y = (x.1, moveSeg F.d x.2) ∧
        SR F b sA' sB') (peekLine sA) (peekLine sB) :=
  (peekLine_core h.rd hq).mono fun _ _ _ _ ⟨h1, h2, h3⟩ => ⟨h1, h2, h3.sr h⟩

theorem lineOffset_p2 {F b sA sB} (h : SR F b sA sB) :
    P2 (fun x y sA' sB' => y = x ∧ (∃ c, RI b sA'.r c ∧ (c.p < b.length → x = loVal b c)) ∧ SR F b sA' sB')
      (lineOffset sA) (lineOffset sB) :=
  (lineOffset_core h.rd).mono fun _ _ _ _ ⟨h1, h2, h3⟩ => ⟨h1, h2, h3.sr h⟩

theorem advance_p2 {F b sA sB} (h : SR F b sA sB) {n m : Int} (hm : m = n) (hn : 0 ≤ n)
    (hq : F.q = [] ∨ (sA.r.pos.start < sA.r.pos.stop ∧ sA.r.pos.start + n < sA.r.pos.stop + sA.r.pos.padding)) :
    P2 (fun _ _ sA' sB' => SR F b sA' sB') (advance n sA) (advance m sB) := by
  subst hm; exact (advance_core h.rd hn hq).mono fun _ _ _ _ h3 => h3.sr h

theorem advanceAndSetPadding_p2 {F b sA sB} (h : SR F b sA sB) {n m pd pd' : Int} (hm : m = n) (hpd : pd' = pd)
    (hn : 0 ≤ n) (hq : F.q = [] ∨ (sA.r.pos.start < sA.r.pos.stop ∧ sA.r.pos.start + n < sA.r.pos.stop + sA.r.pos.padding)) :
    P2 (fun _ _ sA' sB' => SR F b sA' sB') (advanceAndSetPadding n pd sA) (advanceAndSetPadding m pd' sB) := by
  subst hm hpd; exact (advanceAndSetPadding_core h.rd hn _ hq).mono fun _ _ _ _ h3 => h3.sr h

theorem position_p2 {F b sA sB} (h : SR F b sA sB) :
    P2 (fun x y sA' sB' => x = sA.r.position ∧ y = (x.1 + F.dl, moveSeg F.d x.2) ∧ sA' = sA ∧ sB' = sB)
      (position sA) (position sB) := by
  unfold GM.Blocks.position
  refine P2.ok ⟨rfl, ?_, rfl, rfl⟩
  rw [h.r]; rfl

theorem source_p2 {F b sA sB} (h : SR F b sA sB) :
    P2 (fun x y sA' sB' => x = b ∧ y = F.p ++ b ++ F.q ∧ sA' = sA ∧ sB' = sB) (source sA) (source sB) := by
  unfold GM.Blocks.source
  obtain ⟨c, hc⟩ := h.ri
  refine P2.ok ⟨hc.source, ?_, rfl, rfl⟩
  rw [h.r]; simp [shR, hc.source]

/-- the last `Advance(n)` of a leaf parser's `Open`, any `n` (fcode_block.go / code_block.go advance by
    `segment.Len() - 1`): afterwards only `SRLim` -/
theorem advance_limbo {F b sA sB} (h : SR F b sA sB) (n : Int) (hq : QNL F b)
    (hr : F.q = [] ∨ n < 0 ∨
      (sA.r.pos.start < sA.r.pos.stop ∧ sA.r.pos.start + n < sA.r.pos.stop + sA.r.pos.padding)) :
    P2 (fun _ _ sA' sB' => SRLim F b sA' sB') (advance n sA) (advance n sB) := by
  by_cases hn : 0 ≤ n
  · exact (advance_p2 h rfl hn (hr.imp id (fun x => x.resolve_left (by omega)))).mono fun _ _ _ _ h3 => h3.limbo hq
  · obtain ⟨c, hc⟩ := h.ri
    obtain ⟨r', e1, e2, e3, e4, e5⟩ := advance_neg_one_like sA.r n (by omega)
    obtain ⟨r'', f1, f2, f3, f4, f5⟩ := advance_neg_one_like sB.r n (by omega)
    unfold GM.Blocks.advance
    rw [e1, f1]
    have hl := h.limbo hq
    have hA : r'.advanceLine = sA.r.advanceLine :=
      advanceLine_congr (RI.stop_nonneg hc) e2 e3 e4 e5
    have hB : r''.advanceLine = sB.r.advanceLine :=
      advanceLine_congr (by rw [h.r]; have := RI.stop_nonneg hc; simp only [shR, moveSeg, Frame.d]; omega) f2 f3 f4 f5
    refine P2.ok ⟨⟨rfl, rfl, by simp only; rw [e2]; exact hl.1.srcA, by simp only; rw [f2]; exact hl.1.srcB, h.n, h.c⟩, ?_, ?_⟩
    · simp only; rw [hA]; exact hl.2.1
    · simp only
      rcases hl.2.2 with ⟨h2, h2'⟩ | ⟨a1, a2, a3, a4, a5, a6, a7⟩
      · left; rw [hA, hB, e3]; exact ⟨h2, h2'⟩
      · right
        exact ⟨a1, by rw [e2]; exact a2, by rw [e3]; exact a3, by rw [f2]; exact a4, by rw [f3, e3]; exact a5,
          by rw [f4, e4]; exact a6, by rw [f5, e5]; exact a7⟩
where
  advance_neg_one_like (r : Reader) (n : Int) (hn : n < 0) : ∃ r', r.advance n = .ok r' ∧ r'.source = r.source ∧
      r'.pos.stop = r.pos.stop ∧ r'.pos.forceNewline = r.pos.forceNewline ∧ r'.line = r.line := by
    unfold Reader.advance
    simp only
    have : n.toNat = 0 := by omega
    rw [this]
    split <;> split <;> exact ⟨_, rfl, rfl, rfl, rfl, rfl⟩

theorem set_ge {α} (l : List α) (i : Nat) (a : α) (h : l.length ≤ i) : l.set i a = l := by
  apply List.ext_getElem?
  intro j
  rw [List.getElem?_set]
  split
  · next e => subst e; rw [if_neg (by omega)]; simp [List.getElem?_eq_none h]
  · rfl

theorem ι_lt {F : Frame} {nA nB : List Node} (h : StoreRel F nA nB) (i : Nat) : F.ι i < nB.length ↔ i < nA.length := by
  have := h.len; have := h.pos
  unfold Frame.ι; split <;> omega

theorem StoreRel.set {F : Frame} {nA nB : List Node} (h : StoreRel F nA nB) (id : Nat) {a b : Node}
    (hab : b = shN F (id == 0) a) (hk : id = 0 → a.kind = .document) :
    StoreRel F (nA.set id a) (nB.set (F.ι id) b) := by
  refine ⟨by simp [h.pos], by simp [h.len], fun i => ?_, ?_, fun i h1 h2 => ?_⟩
  rotate_left 2
  · rw [getD_set_ne _ _ _ _ _ (by unfold Frame.ι; split <;> omega)]; exact h.old i h1 h2
  · by_cases hi : i = id
    · subst hi
      by_cases hlt : i < nA.length
      · rw [getD_set_eq _ _ _ _ hlt, getD_set_eq _ _ _ _ ((ι_lt h i).mpr hlt)]; exact hab
      · rw [set_ge nA i a (by omega), set_ge nB (F.ι i) b (Nat.le_of_not_lt (fun hh => hlt ((ι_lt h i).mp hh)))]; exact h.node i
    · rw [getD_set_ne _ _ _ _ _ (Ne.symm hi), getD_set_ne _ _ _ _ _ (fun e => hi (ι_inj F e).symm)]; exact h.node i
  · by_cases hi : id = 0
    · subst hi
      rw [getD_set_eq _ _ _ _ h.pos]; exact hk rfl
    · rw [getD_set_ne _ _ _ _ _ hi]; exact h.doc

theorem getD_append_eq {α} (l : List α) (x d : α) : (l ++ [x]).getD l.length d = x := by
  simp [List.getD_eq_getElem?_getD]

theorem getNode_l {F b rA rB sA sB} (h : SRL F b rA rB sA sB) (id : Nat) :
    P2 (fun x y sA' sB' => x = sA.nodes.getD id default ∧ y = shN F (id == 0) x ∧ sA' = sA ∧ sB' = sB)
      (getNode id sA) (getNode (F.ι id) sB) := by
  unfold getNode
  exact P2.ok ⟨rfl, h.n.node id, rfl, rfl⟩

theorem modNode_l {F b rA rB sA sB} (h : SRL F b rA rB sA sB) (id : Nat) (fA fB : Node → Node)
    (hf : ∀ a, fB (shN F (id == 0) a) = shN F (id == 0) (fA a)) (hk : ∀ a, (fA a).kind = a.kind) :
    P2 (fun _ _ sA' sB' => SRL F b rA rB sA' sB') (modNode id fA sA) (modNode (F.ι id) fB sB) := by
  unfold modNode
  refine P2.ok ⟨h.ra, h.rb, h.srcA, h.srcB, ?_, h.c⟩
  refine h.n.set id ?_ (fun e => ?_)
  · rw [h.n.node id]; exact hf _
  · subst e; rw [hk]; exact h.n.doc

theorem newNode_l {F b rA rB sA sB} (h : SRL F b rA rB sA sB) (nA nB : Node) (hn : nB = shN F false nA) :
    P2 (fun x y sA' sB' => x = sA.nodes.length ∧ y = F.ι x ∧ x ≠ 0 ∧ SRL F b rA rB sA' sB')
      (newNode nA sA) (newNode nB sB) := by
  unfold newNode
  have hpos := h.n.pos
  have hl : sB.nodes.length = F.ι sA.nodes.length := by rw [h.n.len, ι_pos F (by omega)]
  refine P2.ok ⟨rfl, hl, by omega, h.ra, h.rb, h.srcA, h.srcB, ⟨by simp, by simp [h.n.len]; omega, fun i => ?_, ?_, fun i h1 h2 => ?_⟩, h.c⟩
  rotate_left 2
  · rw [getD_append_lt _ _ _ _ (by rw [h.n.len]; omega)]; exact h.n.old i h1 h2
  · by_cases hi : i = sA.nodes.length
    · subst hi
      rw [getD_append_eq, ← hl, getD_append_eq]
      have : (sA.nodes.length == 0) = false := beq_eq_false_iff_ne.mpr (by omega)
      rw [this]; exact hn
    · rw [getD_append_lt _ _ _ _ hi, getD_append_lt _ _ _ _ (by rw [hl]; exact fun e => hi (ι_inj F e))]
      exact h.n.node i
  · rw [getD_append_lt _ _ _ _ (by omega)]; exact h.n.doc

theorem getPc_l {F b rA rB sA sB} (h : SRL F b rA rB sA sB) :
    P2 (fun x y sA' sB' => x = sA.pc ∧ y = sB.pc ∧ CtxRel F x y ∧ sA' = sA ∧ sB' = sB) (getPc sA) (getPc sB) := by
  unfold getPc
  exact P2.ok ⟨rfl, rfl, h.c, rfl, rfl⟩

theorem modPc_l {F b rA rB sA sB} (h : SRL F b rA rB sA sB) (fA fB : Ctx → Ctx)
    (hf : ∀ x y, CtxRel F x y → CtxRel F (fA x) (fB y)) :
    P2 (fun _ _ sA' sB' => SRL F b rA rB sA' sB') (modPc fA sA) (modPc fB sB) := by
  unfold modPc
  exact P2.ok ⟨h.ra, h.rb, h.srcA, h.srcB, h.n, hf _ _ h.c⟩

theorem source_l {F b rA rB sA sB} (h : SRL F b rA rB sA sB) :
    P2 (fun x y sA' sB' => x = b ∧ y = F.p ++ b ++ F.q ∧ sA' = sA ∧ sB' = sB) (source sA) (source sB) := by
  unfold GM.Blocks.source
  exact P2.ok ⟨by rw [h.ra]; exact h.srcA, by rw [h.rb]; exact h.srcB, rfl, rfl⟩

theorem lastOpenedBlock_l {F b rA rB sA sB} (h : SRL F b rA rB sA sB) :
    P2 (fun x y sA' sB' => x = sA.pc.opened.getLast? ∧ y = x.map (shB F) ∧ sA' = sA ∧ sB' = sB)
      (lastOpenedBlock sA) (lastOpenedBlock sB) := by
  unfold lastOpenedBlock
  refine P2.bind (getPc_l h) (fun x y sA' sB' hq => ?_)
  obtain ⟨hx, hy, hc, h1, h2⟩ := hq
  subst hx hy h1 h2
  exact P2.pure ⟨rfl, hc.toCtxRelW.last, rfl, rfl⟩

/-- `node.Lines().Append(seg)` -/
theorem appendLine_l {F b rA rB sA sB} (h : SRL F b rA rB sA sB) (id : Nat) {s t : Segment} (hst : t = moveSeg F.d s) :
    P2 (fun _ _ sA' sB' => SRL F b rA rB sA' sB') (appendLine id s sA) (appendLine (F.ι id) t sB) := by
  unfold appendLine
  refine modNode_l h id _ _ (fun a => ?_) (fun _ => rfl)
  subst hst
  simp [shN]

theorem getNode_p2 {F b sA sB} (h : SR F b sA sB) (id : Nat) :
    P2 (fun x y sA' sB' => x = sA.nodes.getD id default ∧ y = shN F (id == 0) x ∧ sA' = sA ∧ sB' = sB)
      (getNode id sA) (getNode (F.ι id) sB) := getNode_l h.l id

theorem modNode_p2 {F b sA sB} (h : SR F b sA sB) (id : Nat) (fA fB : Node → Node)
    (hf : ∀ a, fB (shN F (id == 0) a) = shN F (id == 0) (fA a)) (hk : ∀ a, (fA a).kind = a.kind) :
    P2 (fun _ _ sA' sB' => SR F b sA' sB') (modNode id fA sA) (modNode (F.ι id) fB sB) :=
  (modNode_l h.l id fA fB hf hk).mono fun _ _ _ _ h1 => h1.sr h

theorem newNode_p2 {F b sA sB} (h : SR F b sA sB) (nA nB : Node) (hn : nB = shN F false nA) :
    P2 (fun x y sA' sB' => x = sA.nodes.length ∧ y = F.ι x ∧ x ≠ 0 ∧ SR F b sA' sB')
      (newNode nA sA) (newNode nB sB) :=
  (newNode_l h.l nA nB hn).mono fun _ _ _ _ ⟨h1, h2, h3, h4⟩ => ⟨h1, h2, h3, h4.sr h⟩

theorem getPc_p2 {F b sA sB} (h : SR F b sA sB) :
    P2 (fun x y sA' sB' => x = sA.pc ∧ y = sB.pc ∧ CtxRel F x y ∧ sA' = sA ∧ sB' = sB) (getPc sA) (getPc sB) :=
  getPc_l h.l

theorem modPc_p2 {F b sA sB} (h : SR F b sA sB) (fA fB : Ctx → Ctx)
    (hf : ∀ x y, CtxRel F x y → CtxRel F (fA x) (fB y)) :
    P2 (fun _ _ sA' sB' => SR F b sA' sB') (modPc fA sA) (modPc fB sB) :=
  (modPc_l h.l fA fB hf).mono fun _ _ _ _ h1 => h1.sr h

theorem lastOpenedBlock_p2 {F b sA sB} (h : SR F b sA sB) :
    P2 (fun x y sA' sB' => x = sA.pc.opened.getLast? ∧ y = x.map (shB F) ∧ sA' = sA ∧ sB' = sB)
      (lastOpenedBlock sA) (lastOpenedBlock sB) := lastOpenedBlock_l h.l

theorem appendLine_p2 {F b sA sB} (h : SR F b sA sB) (id : Nat) {s t : Segment} (hst : t = moveSeg F.d s) :
    P2 (fun _ _ sA' sB' => SR F b sA' sB') (appendLine id s sA) (appendLine (F.ι id) t sB) :=
  (appendLine_l h.l id hst).mono fun _ _ _ _ h1 => h1.sr h

end GM.Blocks.Xs

namespace GM.Blocks.Xs
open GM GM.Text GM.Spec GM.Proof.Reader GM.Blocks

theorem sliceB_ok_range {s : Bytes} {a b : Int} {v : Bytes} (h : sliceB s a b = .ok v) :
    0 ≤ a ∧ a ≤ b ∧ b ≤ (s.length : Int) := by
  unfold sliceB at h
  split at h
  · assumption
  · cases h

theorem sliceB_ok_shift (p s q : Bytes) {a b : Int} {v : Bytes} (h : sliceB s a b = .ok v) :
    sliceB (p ++ s ++ q) (a + p.length) (b + p.length) = .ok v := by
  have hr := sliceB_ok_range h
  rw [sliceB_shift p s q a b hr.1 (.inr hr.2.2)]; exact h

theorem moveSeg_len (d : Int) (t : Segment) : (moveSeg d t).len = t.len := by
  simp only [Segment.len, moveSeg]; omega

theorem moveSeg_isEmpty (d : Int) (t : Segment) : (moveSeg d t).isEmpty = t.isEmpty := by
  simp only [Segment.isEmpty, moveSeg]
  congr 1
  exact decide_eq_decide.mpr (by constructor <;> intro _ <;> omega)

theorem moveSeg_padding (d : Int) (t : Segment) : (moveSeg d t).padding = t.padding := rfl
theorem moveSeg_start (d : Int) (t : Segment) : (moveSeg d t).start = t.start + d := rfl
theorem moveSeg_stop (d : Int) (t : Segment) : (moveSeg d t).stop = t.stop + d := rfl
theorem moveSeg_forceNewline (d : Int) (t : Segment) : (moveSeg d t).forceNewline = t.forceNewline := rfl

theorem trimLeftSpace_sh (F : Frame) (src : Bytes) {t r : Segment} (h : t.trimLeftSpace src = .ok r) :
    (moveSeg F.d t).trimLeftSpace (F.p ++ src ++ F.q) = .ok (moveSeg F.d r) := by
  unfold Segment.trimLeftSpace at h ⊢
  cases hv : sliceB src t.start t.stop with
  | error e => rw [hv] at h; cases h
  | ok v =>
    rw [hv] at h
    have := sliceB_ok_shift F.p src F.q hv
    simp only [moveSeg, Frame.d, this, bind, Except.bind, pure, Except.pure] at h ⊢
    cases h
    simp only [Except.ok.injEq, Segment.mk.injEq, and_true]
    omega

theorem trimRightSpace_sh (F : Frame) (src : Bytes) {t r : Segment} (h : t.trimRightSpace src = .ok r) :
    (moveSeg F.d t).trimRightSpace (F.p ++ src ++ F.q) = .ok (moveSeg F.d r) := by
  unfold Segment.trimRightSpace at h ⊢
  cases hv : sliceB src t.start t.stop with
  | error e => rw [hv] at h; cases h
  | ok v =>
    rw [hv] at h
    have := sliceB_ok_shift F.p src F.q hv
    simp only [moveSeg, Frame.d, this, bind, Except.bind, pure, Except.pure] at h ⊢
    split at h
    · rename_i hc
      rw [if_pos hc]
      cases h
      simp only [Except.ok.injEq, Segment.mk.injEq, and_true]
    · rename_i hc
      rw [if_neg hc]
      cases h
      simp only [Except.ok.injEq, Segment.mk.injEq, and_true, true_and]
      omega

theorem tlswLoop_sh (d stop : Int) : ∀ (text : Bytes) (start width : Int),
    tlswLoop (stop + d) text (start + d) width = ((tlswLoop stop text start width).1 + d, (tlswLoop stop text start width).2) := by
  intro text
  induction text with
  | nil => intro start width; rfl
  | cons c cs ih =>
    intro start width
    unfold tlswLoop
    have e : (start + d ≥ stop + d - 1 || width ≤ 0) = (start ≥ stop - 1 || width ≤ 0) := by
      congr 1
      exact decide_eq_decide.mpr (by constructor <;> intro _ <;> omega)
    rw [e]
    split
    · rfl
    · split
      · have := ih (start + 1) (width - 1)
        rw [show start + d + 1 = start + 1 + d by omega]; exact this
      · split
        · have := ih (start + 1) (width - 4)
          rw [show start + d + 1 = start + 1 + d by omega]; exact this
        · rfl

theorem trimLeftSpaceWidth_sh (F : Frame) (src : Bytes) (w : Int) {t r : Segment}
    (h : t.trimLeftSpaceWidth w src = .ok r) :
    (moveSeg F.d t).trimLeftSpaceWidth w (F.p ++ src ++ F.q) = .ok (moveSeg F.d r) := by
  obtain ⟨st, sp, pd, fn⟩ := t
  unfold Segment.trimLeftSpaceWidth at h ⊢
  dsimp only [moveSeg] at h ⊢
  split at h
  · rename_i hc
    rw [if_pos hc]
    simp only [pure, Except.pure, Except.ok.injEq] at h ⊢
    subst h
    rfl
  · rename_i hc
    rw [if_neg hc]
    cases hv : sliceB src st sp with
    | error e => rw [hv] at h; cases h
    | ok v =>
      rw [hv] at h
      have := sliceB_ok_shift F.p src F.q hv
      change sliceB (F.p ++ src ++ F.q) (st + F.d) (sp + F.d) = _ at this
      rw [this]
      simp only [bind, Except.bind, pure, Except.pure, Except.ok.injEq] at h ⊢
      simp only [tlswLoop_sh]
      subst h
      rfl

theorem value_ok_shift (F : Frame) (src : Bytes) {t : Segment} {v : Bytes} (h : t.value src = .ok v) :
    (moveSeg F.d t).value (F.p ++ src ++ F.q) = .ok v := by
  have h0 : 0 ≤ t.start ∧ t.stop ≤ (src.length : Int) := by
    unfold Segment.value at h
    split at h
    · cases hv : sliceB src t.start t.stop with
      | error e => rw [hv] at h; cases h
      | ok x =>
        have := sliceB_ok_range hv
        omega
    · simp only [bind, Except.bind] at h
      split at h
      · cases h
      · split at h
        · cases h
        · cases hv : sliceB src t.start t.stop with
          | error e => rw [hv] at h; cases h
          | ok x =>
            have := sliceB_ok_range hv
            omega
  rw [value_shift F t src h0.1 (.inr h0.2)]; exact h

/-- the loop of paragraphParser.Close -/
theorem trimLeftAll_sh (F : Frame) (src : Bytes) : ∀ {ls rs : List Segment}, trimLeftAll src ls = .ok rs →
    trimLeftAll (F.p ++ src ++ F.q) (ls.map (moveSeg F.d)) = .ok (rs.map (moveSeg F.d)) := by
  intro ls
  induction ls with
  | nil => intro rs h; cases h; rfl
  | cons l ls ih =>
    intro rs h
    unfold trimLeftAll at h
    simp only [List.map_cons, trimLeftAll]
    cases h1 : l.trimLeftSpace src with
    | error e => rw [h1] at h; cases h
    | ok l' =>
      rw [h1] at h
      cases h2 : trimLeftAll src ls with
      | error e => rw [h2] at h; cases h
      | ok ls' =>
        rw [h2] at h
        simp only [bind, Except.bind, pure, Except.pure] at h
        cases h
        rw [trimLeftSpace_sh F src h1, ih h2]
        rfl

theorem lineAt_sh (d : Int) {ls : List Segment} {i : Int} {r : Segment} (h : lineAt ls i = .ok r) :
    lineAt (ls.map (moveSeg d)) i = .ok (moveSeg d r) := by
  unfold lineAt segAt at h ⊢
  split at h
  · cases h
  · rename_i hc
    rw [if_neg hc, List.getElem?_map]
    cases hg : ls[i.toNat]? with
    | none => rw [hg] at h; cases h
    | some x => rw [hg] at h; cases h; rfl

theorem lineSet_sh (d : Int) {ls rs : List Segment} {i : Int} {v : Segment} (h : lineSet ls i v = .ok rs) :
    lineSet (ls.map (moveSeg d)) i (moveSeg d v) = .ok (rs.map (moveSeg d)) := by
  unfold lineSet at h ⊢
  split at h
  · rename_i hc
    rw [if_pos (by simpa using hc)]
    cases h
    simp [List.map_set]
  · cases h

/-- the loop of codeBlockParser.Close -/
theorem codeTrimLoop_sh (F : Frame) (src : Bytes) (ls : List Segment) : ∀ (k : Nat) {r : Int},
    codeTrimLoop src ls k = .ok r → codeTrimLoop (F.p ++ src ++ F.q) (ls.map (moveSeg F.d)) k = .ok r := by
  intro k
  induction k with
  | zero => intro r h; exact h
  | succ k ih =>
    intro r h
    unfold codeTrimLoop at h ⊢
    cases h1 : lineAt ls (k : Int) with
    | error e => rw [h1] at h; cases h
    | ok line =>
      rw [h1] at h
      rw [lineAt_sh F.d h1]
      simp only [bind, Except.bind] at h ⊢
      cases h2 : line.value src with
      | error e => rw [h2] at h; cases h
      | ok v =>
        rw [h2] at h
        rw [value_ok_shift F src h2]
        simp only at h ⊢
        split
        · rename_i hc; rw [if_pos hc] at h; exact ih h
        · rename_i hc; rw [if_neg hc] at h; exact h

end GM.Blocks.Xs

namespace GM.Blocks.Xs
open GM GM.Text GM.Spec GM.Proof.Reader GM.Blocks

theorem map_erase_ι (F : Frame) (c : Nat) : ∀ l : List Nat, (l.erase c).map F.ι = (l.map F.ι).erase (F.ι c) := by
  intro l
  induction l with
  | nil => rfl
  | cons a l ih =>
    simp only [List.map_cons, List.erase_cons, ι_beq]
    split
    · rfl
    · simp only [List.map_cons, ih]

theorem nextIn_map_ι (F : Frame) (c : Nat) : ∀ l : List Nat, nextIn (F.ι c) (l.map F.ι) = (nextIn c l).map F.ι := by
  intro l
  induction l with
  | nil => rfl
  | cons a l ih =>
    cases l with
    | nil => rfl
    | cons b rest =>
      simp only [List.map_cons, nextIn, ι_beq] at ih ⊢
      split
      · rfl
      · exact ih

theorem nextIn_kids (F : Frame) (hF : F.OK) (c : Nat) (l : List Nat) : ∀ (k : List Nat), (∀ x ∈ k, x ∈ F.kids0) →
    nextIn (F.ι c) (k ++ l.map F.ι) = (nextIn c l).map F.ι := by
  intro k
  induction k with
  | nil => intro _; exact nextIn_map_ι F c l
  | cons a k ih =>
    intro hk
    have ha : (a == F.ι c) = false := by
      apply beq_eq_false_iff_ne.mpr
      intro e
      exact ι_not_kid F hF c (e ▸ hk a (List.mem_cons_self))
    have ih' := ih (fun x hx => hk x (List.mem_cons_of_mem _ hx))
    cases hkl : k ++ l.map F.ι with
    | nil =>
      have hk0 : k = [] := (List.append_eq_nil_iff.mp hkl).1
      have hl0 : l = [] := by simpa using (List.append_eq_nil_iff.mp hkl).2
      subst hk0 hl0
      rfl
    | cons b rest =>
      rw [hkl] at ih'
      simp only [List.cons_append, hkl, nextIn, ha]
      exact ih'

theorem insertBeforeIn_map_ι (F : Frame) (v ins : Nat) : ∀ l : List Nat,
    insertBeforeIn (F.ι v) (F.ι ins) (l.map F.ι) = (insertBeforeIn v ins l).map F.ι := by
  intro l
  induction l with
  | nil => rfl
  | cons a l ih =>
    simp only [List.map_cons, insertBeforeIn, ι_beq]
    split
    · rfl
    · simp only [List.map_cons, ih]

theorem insertBeforeIn_kids (F : Frame) (hF : F.OK) (v ins : Nat) (l : List Nat) : ∀ (k : List Nat),
    (∀ x ∈ k, x ∈ F.kids0) →
    insertBeforeIn (F.ι v) (F.ι ins) (k ++ l.map F.ι) = k ++ (insertBeforeIn v ins l).map F.ι := by
  intro k
  induction k with
  | nil => intro _; exact insertBeforeIn_map_ι F v ins l
  | cons a k ih =>
    intro hk
    have ha : (a == F.ι v) = false := by
      apply beq_eq_false_iff_ne.mpr
      intro e
      exact ι_not_kid F hF v (e ▸ hk a (List.mem_cons_self))
    simp only [List.cons_append, insertBeforeIn, ha]
    rw [ih (fun x hx => hk x (List.mem_cons_of_mem _ hx))]
    rfl

/-- the children of B's node -/
def kidsB (F : Frame) (root : Bool) (ch : List Nat) : List Nat := (if root then F.kids0 else []) ++ ch.map F.ι

theorem kidsB_pre (F : Frame) (root : Bool) : ∀ x ∈ (if root then F.kids0 else []), x ∈ F.kids0 := by
  intro x hx; cases root <;> simp at hx ⊢; exact hx

theorem kidsB_erase (F : Frame) (hF : F.OK) (root : Bool) (ch : List Nat) (c : Nat) :
    (kidsB F root ch).erase (F.ι c) = kidsB F root (ch.erase c) := by
  unfold kidsB
  rw [List.erase_append_right _ (fun hm => ι_not_kid F hF c (kidsB_pre F root _ hm)), map_erase_ι]

theorem kidsB_append (F : Frame) (root : Bool) (ch : List Nat) (c : Nat) :
    kidsB F root ch ++ [F.ι c] = kidsB F root (ch ++ [c]) := by
  unfold kidsB; simp

theorem kidsB_nextIn (F : Frame) (hF : F.OK) (root : Bool) (ch : List Nat) (c : Nat) :
    nextIn (F.ι c) (kidsB F root ch) = (nextIn c ch).map F.ι :=
  nextIn_kids F hF c ch _ (kidsB_pre F root)

theorem kidsB_insertBefore (F : Frame) (hF : F.OK) (root : Bool) (ch : List Nat) (v ins : Nat) :
    insertBeforeIn (F.ι v) (F.ι ins) (kidsB F root ch) = kidsB F root (insertBeforeIn v ins ch) :=
  insertBeforeIn_kids F hF v ins ch _ (kidsB_pre F root)

theorem shN_children (F : Frame) (root : Bool) (n : Node) : (shN F root n).children = kidsB F root n.children := rfl
theorem shN_parent (F : Frame) (root : Bool) (n : Node) : (shN F root n).parent = n.parent.map F.ι := rfl
theorem shN_kind (F : Frame) (root : Bool) (n : Node) : (shN F root n).kind = n.kind := rfl
theorem shN_lines (F : Frame) (root : Bool) (n : Node) : (shN F root n).lines = n.lines.map (moveSeg F.d) := rfl
theorem shN_linesNil (F : Frame) (root : Bool) (n : Node) : (shN F root n).linesNil = n.linesNil := rfl
theorem shN_blankPrev (F : Frame) (root : Bool) (n : Node) : (shN F root n).blankPrev = n.blankPrev := rfl

theorem map_ι_ne (F : Frame) (o : Option Nat) (p : Nat) : (o.map F.ι != some (F.ι p)) = (o != some p) := by
  cases o with
  | none => rfl
  | some q =>
    simp only [Option.map_some, bne, Option.some_beq_some, ι_beq]

theorem map_ι_beq (F : Frame) (o : Option Nat) (p : Nat) : (o.map F.ι == some (F.ι p)) = (o == some p) := by
  cases o with
  | none => rfl
  | some q => simp only [Option.map_some, Option.some_beq_some, ι_beq]

theorem removeChild_l {F b rA rB sA sB} (hF : F.OK) (h : SRL F b rA rB sA sB) (p c : Nat) :
    P2 (fun _ _ sA' sB' => SRL F b rA rB sA' sB') (removeChild p c sA) (removeChild (F.ι p) (F.ι c) sB) := by
  unfold removeChild
  refine P2.bind (getNode_l h c) (fun x y sA1 sB1 ⟨hx, hy, e1, e2⟩ => ?_)
  subst e1 e2 hy
  rw [shN_parent, map_ι_ne]
  by_cases hc : (x.parent != some p) = true
  · rw [if_pos hc, if_pos hc]; exact P2.pure h
  · rw [if_neg hc, if_neg hc]
    refine P2.bind (modNode_l h p _ _ (fun a => ?_) (fun _ => rfl)) (fun _ _ sA2 sB2 h2 => ?_)
    · show { shN F (p == 0) a with children := (shN F (p == 0) a).children.erase (F.ι c) } = _
      rw [shN_children, kidsB_erase F hF]; rfl
    · refine modNode_l h2 c _ _ (fun a => ?_) (fun _ => rfl)
      simp [shN]

theorem ensureIsolated_l {F b rA rB sA sB} (hF : F.OK) (h : SRL F b rA rB sA sB) (c : Nat) :
    P2 (fun _ _ sA' sB' => SRL F b rA rB sA' sB') (ensureIsolated c sA) (ensureIsolated (F.ι c) sB) := by
  unfold ensureIsolated
  refine P2.bind (getNode_l h c) (fun x y sA1 sB1 ⟨hx, hy, e1, e2⟩ => ?_)
  subst e1 e2 hy
  rw [shN_parent]
  cases x.parent with
  | none => exact P2.pure h
  | some q => exact removeChild_l hF h q c

theorem appendChild_l {F b rA rB sA sB} (hF : F.OK) (h : SRL F b rA rB sA sB) (p c : Nat) :
    P2 (fun _ _ sA' sB' => SRL F b rA rB sA' sB') (appendChild p c sA) (appendChild (F.ι p) (F.ι c) sB) := by
  unfold appendChild
  refine P2.bind (ensureIsolated_l hF h c) (fun _ _ sA1 sB1 h1 => ?_)
  refine P2.bind (modNode_l h1 p _ _ (fun a => ?_) (fun _ => rfl)) (fun _ _ sA2 sB2 h2 => ?_)
  · show { shN F (p == 0) a with children := (shN F (p == 0) a).children ++ [F.ι c] } = _
    rw [shN_children, kidsB_append]; rfl
  · refine modNode_l h2 c _ _ (fun a => ?_) (fun _ => rfl)
    simp [shN]

theorem insertBefore_l {F b rA rB sA sB} (hF : F.OK) (h : SRL F b rA rB sA sB) (p : Nat) (v1 : Option Nat) (ins : Nat) :
    P2 (fun _ _ sA' sB' => SRL F b rA rB sA' sB') (insertBefore p v1 ins sA)
      (insertBefore (F.ι p) (v1.map F.ι) (F.ι ins) sB) := by
  unfold insertBefore
  cases v1 with
  | none => exact appendChild_l hF h p ins
  | some v =>
    simp only [Option.map_some]
    refine P2.bind (getNode_l h v) (fun x y sA1 sB1 ⟨hx, hy, e1, e2⟩ => ?_)
    subst e1 e2 hy
    rw [shN_parent, map_ι_ne]
    by_cases hc : (x.parent != some p) = true
    · rw [if_pos hc, if_pos hc]; exact appendChild_l hF h p ins
    · rw [if_neg hc, if_neg hc]
      refine P2.bind (ensureIsolated_l hF h ins) (fun _ _ sA1 sB1 h1 => ?_)
      refine P2.bind (modNode_l h1 p _ _ (fun a => ?_) (fun _ => rfl)) (fun _ _ sA2 sB2 h2 => ?_)
      · show { shN F (p == 0) a with children := insertBeforeIn (F.ι v) (F.ι ins) (shN F (p == 0) a).children } = _
        rw [shN_children, kidsB_insertBefore F hF]; rfl
      · refine modNode_l h2 ins _ _ (fun a => ?_) (fun _ => rfl)
        simp [shN]

theorem nextSibling_l {F b rA rB sA sB} (hF : F.OK) (h : SRL F b rA rB sA sB) (c : Nat) :
    P2 (fun x y sA' sB' => y = x.map F.ι ∧ sA' = sA ∧ sB' = sB) (nextSibling c sA) (nextSibling (F.ι c) sB) := by
  unfold nextSibling
  refine P2.bind (getNode_l h c) (fun x y sA1 sB1 ⟨hx, hy, e1, e2⟩ => ?_)
  subst e1 e2 hy
  rw [shN_parent]
  cases x.parent with
  | none => exact P2.pure ⟨rfl, rfl, rfl⟩
  | some q =>
    simp only [Option.map_some]
    refine P2.bind (getNode_l h q) (fun x2 y2 sA2 sB2 ⟨hx2, hy2, e1, e2⟩ => ?_)
    subst e1 e2 hy2
    rw [shN_children, kidsB_nextIn F hF]
    exact P2.pure ⟨rfl, rfl, rfl⟩

theorem insertAfter_l {F b rA rB sA sB} (hF : F.OK) (h : SRL F b rA rB sA sB) (p : Nat) (v1 : Option Nat) (ins : Nat) :
    P2 (fun _ _ sA' sB' => SRL F b rA rB sA' sB') (insertAfter p v1 ins sA)
      (insertAfter (F.ι p) (v1.map F.ι) (F.ι ins) sB) := by
  unfold insertAfter
  cases v1 with
  | none => exact appendChild_l hF h p ins
  | some v =>
    simp only [Option.map_some]
    refine P2.bind (nextSibling_l hF h v) (fun x y sA1 sB1 ⟨hy, e1, e2⟩ => ?_)
    subst e1 e2 hy
    rw [map_ι_beq]
    by_cases hc : (x == some ins) = true
    · rw [if_pos hc, if_pos hc]
      refine P2.bind (nextSibling_l hF h ins) (fun x2 y2 sA2 sB2 ⟨hy2, e1, e2⟩ => ?_)
      subst e1 e2 hy2
      exact insertBefore_l hF h p x2 ins
    · rw [if_neg hc, if_neg hc]
      exact insertBefore_l hF h p x ins

theorem replaceChild_l {F b rA rB sA sB} (hF : F.OK) (h : SRL F b rA rB sA sB) (p v1 ins : Nat) :
    P2 (fun _ _ sA' sB' => SRL F b rA rB sA' sB') (replaceChild p v1 ins sA)
      (replaceChild (F.ι p) (F.ι v1) (F.ι ins) sB) := by
  unfold replaceChild
  refine P2.bind (insertBefore_l hF h p (some v1) ins) (fun _ _ sA1 sB1 h1 => ?_)
  exact removeChild_l hF h1 p v1

end GM.Blocks.Xs

namespace GM.Blocks.Xs
open GM GM.Text GM.Blocks

/-- a statistics entry of run A as run B records it: line number shifted -/
def shS (F : Frame) (e : LineStat) : LineStat := { e with lineNum := e.lineNum + F.dl }

/-- B's statistics are stale entries (all from lines before `F.dl`) followed by A's, shifted -/
def StatsRel (F : Frame) (sa sb : List LineStat) : Prop :=
  ∃ stale, sb = stale ++ sa.map (shS F) ∧ ∀ e ∈ stale, e.lineNum < F.dl

theorem StatsRel.map (F : Frame) (sa : List LineStat) : StatsRel F sa (sa.map (shS F)) :=
  ⟨[], by simp, by simp⟩

theorem StatsRel.append {F : Frame} {sa sb : List LineStat} (h : StatsRel F sa sb) (e : LineStat) :
    StatsRel F (sa ++ [e]) (sb ++ [shS F e]) := by
  obtain ⟨stale, h1, h2⟩ := h
  exact ⟨stale, by simp [h1], h2⟩

theorem blankStats_shift (F : Frame) (ln lines : Int) (k : Nat) :
    blankStats (ln + F.dl) lines k = (blankStats ln lines k).map (shS F) := by
  induction k with
  | zero => simp [blankStats]
  | succ k ih =>
    simp only [blankStats, ih, List.map_append, List.map_cons, List.map_nil, shS]
    congr 3
    omega

theorem int_beq_add (a b d : Int) : (a + d == b + d) = (a == b) := by
  rw [Bool.eq_iff_iff]; simp only [beq_iff_eq]; omega

theorem int_lt_add (a b d : Int) : (a + d < b + d) = (a < b) := by
  apply propext; omega

theorem isBlankLoop_shift (F : Frame) (ln level : Int) (ys : List LineStat)
    (hy : ∀ e ∈ ys, e.lineNum < ln + F.dl) :
    ∀ xs : List LineStat,
      isBlankLoop (ln + F.dl) level (xs.map (shS F) ++ ys) = isBlankLoop ln level xs := by
  intro xs
  induction xs with
  | nil =>
    cases ys with
    | nil => simp [isBlankLoop]
    | cons e rest =>
      have h := hy e (by simp)
      have hne : (e.lineNum == ln + F.dl) = false := by
        rw [beq_eq_false_iff_ne]; omega
      simp [isBlankLoop, hne, h]
  | cons x xs ih =>
    simp only [List.map_cons, List.cons_append, isBlankLoop, ih, shS, int_beq_add, int_lt_add]

theorem isBlankLine_shift {F : Frame} {sa sb : List LineStat} (h : StatsRel F sa sb) (ln level : Int)
    (h0 : 0 ≤ ln) (hl : level < sa.length) :
    isBlankLine (ln + F.dl) level sb = isBlankLine ln level sa := by
  obtain ⟨stale, h1, h2⟩ := h
  subst h1
  unfold isBlankLine
  have hA : ¬ ((sa.length : Int) - 1 - level < 0) := by omega
  have hB : ¬ (((stale ++ sa.map (shS F)).length : Int) - 1 - level < 0) := by
    simp only [List.length_append, List.length_map]; omega
  simp only [hA, hB, if_false]
  have hn : (((stale ++ sa.map (shS F)).length : Int) - 1 - level + 1).toNat
      = stale.length + ((sa.length : Int) - 1 - level + 1).toNat := by
    simp only [List.length_append, List.length_map]; omega
  rw [hn, List.take_length_add_append, List.reverse_append, ← List.map_take, ← List.map_reverse]
  apply isBlankLoop_shift
  intro e he
  have := h2 e (List.mem_reverse.mp he)
  omega

theorem isBlankLine_nil (ln level : Int) (h : 0 ≤ level) : isBlankLine ln level [] = true := by
  unfold isBlankLine
  have : ((([] : List LineStat).length : Int) - 1 - level < 0) := by simp; omega
  simp only [this, if_true]

end GM.Blocks.Xs
