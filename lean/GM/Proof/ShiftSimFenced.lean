/-
  GM.Proof.ShiftSimFenced — the fenced code block parser (parser/fcode_block.go) under the shift simulation.
-/
import GM.Proof.ShiftSimRel
import GM.Proof.BlocksSpecFenced

namespace GM.Blocks.Sh
open GM GM.Text GM.Spec GM.Proof.Reader GM.Blocks

theorem fencedClose_sim (F : Frame) (b : Bytes) : CloseSim F b .fenced := by
  intro node rA rB sA sB h
  show P2 _ (fencedClose node sA) (fencedClose (F.ι node) sB)
  unfold fencedClose
  refine P2.bind (getPc_l h) (fun x y sA1 sB1 ⟨hx, hy, hc, e1, e2⟩ => ?_)
  subst e1 e2
  rw [hc.fence]
  cases x.fence with
  | none => exact P2.throwL
  | some f =>
    simp only [Option.map, shF, ι_beq]
    by_cases hn : (f.node == node) = true
    · rw [if_pos hn]
      exact modPc_l h _ _ (fun x y hxy =>
        ⟨⟨hxy.opened, hxy.tmpPara, by simp, hxy.skipList, hxy.emptyItemBlank⟩, hxy.blockOffset, hxy.blockIndent⟩)
    · rw [if_neg hn]
      exact P2.pure h

theorem fc_fencedOpen_tail {F : Frame} {b : Bytes} {sA sB : St} (h : SR F b sA sB) (iA iB : Option Segment)
    (hi : iB = iA.map (moveSeg F.d)) (ch : UInt8) (ind len : Int) :
    P2 (fun x y sA' sB' => y = (x.1.map F.ι, x.2) ∧ SRLim F b sA' sB' ∧
      ((x.2.hasChildren = true ∨ x.1 = none) → SR F b sA' sB') ∧
      ((BP.fenced = .list ∨ BP.fenced = .listItem) → x.1.isSome = true → sB'.pc.emptyItemBlank = sA'.pc.emptyItemBlank))
      ((do let node ← newNode { kind := .fencedCodeBlock, info := iA }
           modPc fun pc => { pc with fence := some { char := ch, indent := ind, length := len, node := node } }
           pure (some node, stNoChildren) : M (Option Nat × PState)) sA)
      ((do let node ← newNode { kind := .fencedCodeBlock, info := iB }
           modPc fun pc => { pc with fence := some { char := ch, indent := ind, length := len, node := node } }
           pure (some node, stNoChildren) : M (Option Nat × PState)) sB) := by
  subst hi
  refine P2.bind (newNode_p2 h _ _ (by simp [shN, shClosure])) (fun n m sA1 sB1 ⟨_, hm, _, h1⟩ => ?_)
  subst hm
  refine P2.bind (modPc_p2 h1 _ _ (fun x y hxy =>
    ⟨⟨hxy.opened, hxy.tmpPara, by simp [shF], hxy.skipList, hxy.emptyItemBlank⟩, hxy.blockOffset, hxy.blockIndent⟩))
    (fun _ _ sA2 sB2 h2 => ?_)
  exact P2.pure ⟨rfl, h2.limbo, fun _ => h2, fun hh => by cases hh <;> contradiction⟩

theorem fencedOpen_sim (F : Frame) (b : Bytes) : OpenSim F b .fenced := by
  intro parent sA sB h _
  show P2 _ (fencedOpen parent sA) (fencedOpen (F.ι parent) sB)
  unfold fencedOpen
  refine P2.bind (peekLine_p2 h) (fun x y sA1 sB1 ⟨⟨c, hc, hx⟩, hy, h1⟩ => ?_)
  subst hx hy
  simp only
  refine P2.bind (getPc_p2 h1) (fun x y sA2 sB2 ⟨hx, hy, hxy, e1, e2⟩ => ?_)
  subst e1 e2
  rw [hxy.blockOffset]
  have none_ : P2 (fun (x y : Option Nat × PState) sA' sB' => y = (x.1.map F.ι, x.2) ∧ SRLim F b sA' sB' ∧
      ((x.2.hasChildren = true ∨ x.1 = none) → SR F b sA' sB') ∧
      ((BP.fenced = .list ∨ BP.fenced = .listItem) → x.1.isSome = true → sB'.pc.emptyItemBlank = sA'.pc.emptyItemBlank))
      ((pure (none, stNoChildren) : M (Option Nat × PState)) sA2) ((pure (none, stNoChildren) : M (Option Nat × PState)) sB2) :=
    P2.pure ⟨rfl, h1.limbo, fun _ => h1, fun hh => by cases hh <;> contradiction⟩
  by_cases hc0 : x.blockOffset < 0
  · rw [if_pos hc0, if_pos hc0]; exact none_
  · rw [if_neg hc0, if_neg hc0]
    refine P2.bind (P := fun s t sA' sB' => t = s ∧ sA' = sA2 ∧ sB' = sB2)
      (P2.liftE_same (fun a _ => ⟨rfl, rfl, rfl⟩)) (fun fc0 fc sA3 sB3 ⟨ht, e1, e2⟩ => ?_)
    subst ht e1 e2
    by_cases hc1 : (fc != 96 && fc != 126) = true
    · rw [if_pos hc1, if_pos hc1]; exact none_
    · rw [if_neg hc1, if_neg hc1]
      generalize scanWhileEq ((RCur.view b c).getD []) fc x.blockOffset = i
      by_cases hc2 : i - x.blockOffset < 3
      · rw [if_pos hc2, if_pos hc2]; exact none_
      · rw [if_neg hc2, if_neg hc2]
        by_cases hc3 : i < ((List.length ((RCur.view b c).getD []) : Nat) : Int) - 1
        · rw [if_pos hc3, if_pos hc3]
          refine P2.bind (P := fun s t sA' sB' => t = s ∧ sA' = sA3 ∧ sB' = sB3)
            (P2.liftE_same (fun a _ => ⟨rfl, rfl, rfl⟩)) (fun rest0 rest sA4 sB4 ⟨ht, e1, e2⟩ => ?_)
          subst ht e1 e2
          by_cases hc4 : (trimLeftSpaceLength rest : Int) < (rest.length : Int) - (trimRightSpaceLength rest : Int)
          · rw [if_pos hc4, if_pos hc4]
            refine P2.bind (P := fun s t sA' sB' => t = s ∧ sA' = sA4 ∧ sB' = sB4)
              (P2.liftE_same (fun a _ => ⟨rfl, rfl, rfl⟩)) (fun v0 v sA5 sB5 ⟨ht, e1, e2⟩ => ?_)
            subst ht e1 e2
            by_cases hc5 : (fc == 96 && v.contains 96) = true
            · rw [if_pos hc5, if_pos hc5]; exact none_
            · rw [if_neg hc5, if_neg hc5]
              have e : (((moveSeg F.d (RCur.seg b c)).start - (moveSeg F.d (RCur.seg b c)).padding + i +
                    (trimLeftSpaceLength rest : Int) != (moveSeg F.d (RCur.seg b c)).stop - (trimRightSpaceLength rest : Int))) =
                  (((RCur.seg b c).start - (RCur.seg b c).padding + i +
                    (trimLeftSpaceLength rest : Int) != (RCur.seg b c).stop - (trimRightSpaceLength rest : Int))) := by
                rw [Bool.eq_iff_iff]
                simp only [bne_iff_ne, ne_eq, moveSeg]
                omega
              rw [e]
              by_cases hc6 : (((RCur.seg b c).start - (RCur.seg b c).padding + i +
                    (trimLeftSpaceLength rest : Int) != (RCur.seg b c).stop - (trimRightSpaceLength rest : Int))) = true
              · rw [if_pos hc6, if_pos hc6]
                exact fc_fencedOpen_tail h1 _ _ (by simp [moveSeg]; omega) _ _ _
              · rw [if_neg hc6, if_neg hc6]
                exact fc_fencedOpen_tail h1 _ _ rfl _ _ _
          · rw [if_neg hc4, if_neg hc4]
            exact fc_fencedOpen_tail h1 _ _ rfl _ _ _
        · rw [if_neg hc3, if_neg hc3]
          exact fc_fencedOpen_tail h1 _ _ rfl _ _ _

/-! ### preserveLeadingTabInCodeBlock -/

/-- `LineOffset()` commutes with the shift also when `head` is the (possibly negative) start -/
theorem fc_lineOffsetOp_sh (F : Frame) (r : Reader) (hh : 0 ≤ r.head ∨ r.head ≥ r.pos.start) :
    (shR F r).lineOffsetOp = r.lineOffsetOp.map (fun x => (x.1, shR F x.2)) := by
  rcases hh with hh | hh
  · exact lineOffsetOp_sh F r hh
  · unfold Reader.lineOffsetOp
    have e0 : (shR F r).lineOffset = r.lineOffset := rfl
    rw [e0]
    by_cases hc : r.lineOffset < 0
    · rw [if_pos hc, if_pos hc]
      have h1 : colLoop r.source r.head r.pos.start = .ok 0 := by
        unfold colLoop; rw [if_pos hh]
      have h2 : colLoop (shR F r).source (shR F r).head (shR F r).pos.start = .ok 0 := by
        unfold colLoop; rw [if_pos (by simp only [shR, moveSeg]; omega)]
      rw [h1, h2]; rfl
    · rw [if_neg hc, if_neg hc]; rfl

theorem fc_lineOffsetOp_source {r r' : Reader} {v : Int} (h : r.lineOffsetOp = .ok (v, r')) : r'.source = r.source := by
  unfold Reader.lineOffsetOp at h
  split at h
  · cases hc : colLoop r.source r.head r.pos.start with
    | error e => rw [hc] at h; cases h
    | ok x => rw [hc] at h; cases h; rfl
  · cases h; rfl

theorem fc_preserveLeadingTab_p2 {F : Frame} {b : Bytes} {sA sB : St} (hF : F.OK) (h : SR F b sA sB) (seg : Segment)
    (ind : Int) :
    P2 (fun x y sA' sB' => y = moveSeg F.d x ∧ SR F b sA' sB')
      (preserveLeadingTab seg ind sA) (preserveLeadingTab (moveSeg F.d seg) ind sB) := by
  unfold preserveLeadingTab
  refine P2.bind (lineOffset_p2 h) (fun lo lo' sA1 sB1 ⟨hlo, _, h1⟩ => ?_)
  subst hlo
  obtain ⟨c, hc⟩ := h1.ri
  refine P2.bind (position_p2 h1) (fun x y sA2 sB2 ⟨hx, hy, e1, e2⟩ => ?_)
  subst e1 e2 hy hx
  simp only [Reader.position]
  have hst := RI.start_nonneg hc
  -- the reader one byte back
  have hq : ({ start := (moveSeg F.d sA2.r.pos).start - 1, stop := (moveSeg F.d sA2.r.pos).stop } : Segment) =
      moveSeg F.d { start := sA2.r.pos.start - 1, stop := sA2.r.pos.stop } := by
    simp only [moveSeg, Segment.mk.injEq, and_true, true_and]; omega
  rw [hq]
  refine P2.bind (mA := setPosition _ _) (mB := setPosition _ _)
    (P := fun _ _ sA' sB' => sA' = { sA2 with r := sA2.r.setPosition sA2.r.line { start := sA2.r.pos.start - 1, stop := sA2.r.pos.stop } } ∧
      sB' = { sB2 with r := shR F (sA2.r.setPosition sA2.r.line { start := sA2.r.pos.start - 1, stop := sA2.r.pos.stop }) })
    (P2.ok ⟨rfl, ?_⟩) (fun _ _ sA3 sB3 ⟨e1, e2⟩ => ?_)
  · rw [h1.r, setPosition_sh F hF _ _ _ (by simp only; omega)]
  subst e1 e2
  generalize hr2 : sA2.r.setPosition sA2.r.line { start := sA2.r.pos.start - 1, stop := sA2.r.pos.stop } = r2
  have hsrc2 : r2.source = b := by rw [← hr2]; simp only [Reader.setPosition]; exact hc.source
  have hhead : 0 ≤ r2.head ∨ r2.head ≥ r2.pos.start := by
    rw [← hr2]
    unfold Reader.setPosition
    simp only
    split
    · left; exact Int.natCast_nonneg _
    · right; omega
  refine P2.bind (mA := lineOffset) (mB := lineOffset)
    (P := fun x y sA' sB' => y = x ∧ ∃ r3, r3.source = b ∧ sA' = { sA2 with r := r3 } ∧ sB' = { sB2 with r := shR F r3 })
    ?_ (fun lo2 lo2' sA4 sB4 ⟨e0, r3, hsrc3, e1, e2⟩ => ?_)
  · unfold GM.Blocks.lineOffset
    simp only
    rw [fc_lineOffsetOp_sh F r2 hhead]
    cases hl : r2.lineOffsetOp with
    | error e => exact P2.errL
    | ok v =>
      obtain ⟨v1, r3⟩ := v
      exact P2.ok ⟨rfl, r3, by rw [fc_lineOffsetOp_source hl, hsrc2], rfl, rfl⟩
  subst e0 e1 e2
  refine P2.bind (mA := setPosition _ _) (mB := setPosition _ _)
    (P := fun _ _ sA' sB' => SR F b sA' sB') (P2.ok ?_) (fun _ _ sA5 sB5 h5 => ?_)
  · refine ⟨⟨c, ri_setPosition_back hc hsrc3⟩, ?_, h1.n, h1.c⟩
    simp only
    rw [setPosition_sh F hF _ _ _ (by omega)]
  refine P2.pure ⟨?_, h5⟩
  split
  · simp only [moveSeg, Segment.mk.injEq, and_true, true_and]; omega
  · rfl

/-- the loop of `IndentPositionPadding` stops in front of a line feed (the virtual padding lies in front of it) -/
theorem fc_ippLoop_nl (cur width : Int) (bs : Bytes) (i p w : Int) (n : Nat) (h : bs[n]? = some 10) (hp : p ≤ n) :
    (ippLoop cur width bs i p w).1 ≤ i + n := by
  obtain ⟨m, e, _, hpass, _⟩ := ippLoop_passed cur width bs i p w
  by_cases hnm : n < m
  · obtain ⟨x, hx, hq⟩ := hpass n hp hnm
    rw [h] at hx; cases hx
    rcases hq with hq | hq <;> cases hq
  · omega

theorem fc_firstNonSpacePos_lt (bs : Bytes) : firstNonSpacePos bs < bs.length := by
  unfold firstNonSpacePos
  split
  · rename_i j hj
    have := firstNonSpacePosition_bounds bs 0 j hj
    omega
  · omega

/-- the last byte of a line of a source that ends with a line feed -/
theorem fc_line_last (b : Bytes) (hnl : NL b) {p : Nat} (hp : p < b.length) : b[lineEnd b p - 1]? = some 10 := by
  have hle := lineEnd_le b p
  rcases Nat.lt_or_ge (lineEnd b p) b.length with h | h
  · exact lineEnd_nl_before b (Nat.le_of_lt hp) h
  · have e : lineEnd b p = b.length := by omega
    rcases hnl with h0 | h0
    · subst h0; simp at hp
    · rw [e, ← List.getLast?_eq_getElem?]; exact h0

/-- fcode_block.go:88-99: the position is in front of the line feed -/
theorem fc_pos_lt (b : Bytes) (hnl : NL b) (c : RCur) (hp : c.p < b.length) (lo ind : Int) :
    (fencedPP ((RCur.view b c).getD []) (RCur.seg b c) lo ind).1 < (RCur.seg b c).stop - (RCur.seg b c).start := by
  have hle := lineEnd_le b c.p
  have hlt := lt_lineEnd b hp
  have hlast := fc_line_last b hnl hp
  rw [view_eq b c hp]
  simp only [Option.getD_some, RCur.seg]
  have hlen : (spaces c.pad ++ sub b c.p (lineEnd b c.p)).length = c.pad + (lineEnd b c.p - c.p) := by
    simp [spaces, length_sub b hle]
  have hline : (spaces c.pad ++ sub b c.p (lineEnd b c.p))[c.pad + (lineEnd b c.p - c.p) - 1]? = some 10 := by
    rw [List.getElem?_append_right (by simp [spaces]; omega)]
    simp only [spaces, List.length_replicate, sub]
    rw [List.getElem?_take_of_lt (by omega), List.getElem?_drop]
    have e : c.p + (c.pad + (lineEnd b c.p - c.p) - 1 - c.pad) = lineEnd b c.p - 1 := by omega
    rw [e]; exact hlast
  have hfn := fc_firstNonSpacePos_lt (spaces c.pad ++ sub b c.p (lineEnd b c.p))
  generalize spaces c.pad ++ sub b c.p (lineEnd b c.p) = line at hlen hline hfn ⊢
  unfold fencedPP indentPositionPadding
  simp only
  by_cases hw : (ind == 0) = true
  · rw [if_pos hw]
    simp only
    rw [if_neg (by omega)]
    simp only
    omega
  · rw [if_neg hw]
    have key := fc_ippLoop_nl lo ind line 0 c.pad 0 (c.pad + (lineEnd b c.p - c.p) - 1) hline (by omega)
    generalize ippLoop lo ind line 0 c.pad 0 = r at key ⊢
    by_cases hr : r.2 ≥ ind
    · rw [if_pos hr]
      simp only
      split
      · simp only; split <;> omega
      · simp only; omega
    · rw [if_neg hr]
      simp only
      rw [if_pos (by decide)]
      simp only
      split <;> omega

theorem fc_tail_p2 {F : Frame} {b : Bytes} {sA sB : St} (hF : F.OK) (h : SR F b sA sB) (hnl : NL b) (c : RCur)
    (hp : c.p < b.length) (node : Nat) (lo : Int) (fd : FenceData) :
    P2 (fun x y sA' sB' => y = x ∧ SR F b sA' sB')
      (fencedTail node ((RCur.view b c).getD []) (RCur.seg b c) lo fd sA)
      (fencedTail (F.ι node) ((RCur.view b c).getD []) (moveSeg F.d (RCur.seg b c)) lo (shF F fd) sB) := by
  unfold fencedTail
  have e1 : fencedPP ((RCur.view b c).getD []) (moveSeg F.d (RCur.seg b c)) lo (shF F fd).indent =
      fencedPP ((RCur.view b c).getD []) (RCur.seg b c) lo fd.indent := rfl
  have e2 : (shF F fd).indent = fd.indent := rfl
  rw [e1, e2]
  have hb := fc_pos_lt b hnl c hp lo fd.indent
  generalize fencedPP ((RCur.view b c).getD []) (RCur.seg b c) lo fd.indent = pp at hb ⊢
  generalize RCur.seg b c = seg at hb ⊢
  unfold fencedStore
  simp only
  have hseg : ({ start := (moveSeg F.d seg).start + pp.1, stop := (moveSeg F.d seg).stop, padding := pp.2 } : Segment) =
      moveSeg F.d { start := seg.start + pp.1, stop := seg.stop, padding := pp.2 } := by
    simp only [moveSeg, Segment.mk.injEq, and_true, true_and]; omega
  rw [hseg]
  have rest : ∀ (sg : Segment) (sA1 sB1 : St), SR F b sA1 sB1 → P2 (fun x y sA' sB' => y = x ∧ SR F b sA' sB')
      ((appendLine node { sg with forceNewline := true } >>= fun _ =>
        advanceAndSetPadding (seg.stop - seg.start - pp.1 - 1) pp.2 >>= fun _ => pure stContinueNoChildren) sA1)
      ((appendLine (F.ι node) { moveSeg F.d sg with forceNewline := true } >>= fun _ =>
        advanceAndSetPadding ((moveSeg F.d seg).stop - (moveSeg F.d seg).start - pp.1 - 1) pp.2 >>= fun _ =>
          pure stContinueNoChildren) sB1) := by
    intro sg sA1 sB1 h1
    refine P2.bind (appendLine_p2 h1 node rfl) (fun _ _ sA2 sB2 h2 => ?_)
    refine P2.bind (advanceAndSetPadding_p2 h2 (by simp only [moveSeg]; omega) rfl (by omega)) (fun _ _ sA3 sB3 h3 => ?_)
    exact P2.pure ⟨rfl, h3⟩
  by_cases hc : (pp.2 != 0) = true
  · rw [if_pos hc, if_pos hc]
    refine P2.bind (fc_preserveLeadingTab_p2 hF h _ _) (fun sg sg' sA1 sB1 ⟨e, h1⟩ => ?_)
    subst e
    exact rest sg sA1 sB1 h1
  · rw [if_neg hc, if_neg hc]
    refine P2.bind (P := fun x y sA' sB' => y = moveSeg F.d x ∧ SR F b sA' sB') (P2.pure ⟨rfl, h⟩)
      (fun sg sg' sA1 sB1 ⟨e, h1⟩ => ?_)
    subst e
    exact rest sg sA1 sB1 h1

/-- `fencedCodeBlockParser.Continue` on a line, given what the content branch `fencedTail` establishes; the closing-fence
    branch keeps the full relation -/
theorem fencedContinue_of_tail {F : Frame} (b : Bytes) {Q : PState → PState → St → St → Prop}
    (hQ : ∀ x sA' sB', SR F b sA' sB' → Q x x sA' sB') (node : Nat) {sA sB : St} (h : SR F b sA sB) {c : RCur}
    (hc : RI b sA.r c) (hp : c.p < b.length)
    (tail : ∀ sA3 sB3 lo fd, SR F b sA3 sB3 →
      P2 Q (fencedTail node ((RCur.view b c).getD []) (RCur.seg b c) lo fd sA3)
        (fencedTail (F.ι node) ((RCur.view b c).getD []) (moveSeg F.d (RCur.seg b c)) lo (shF F fd) sB3)) :
    P2 Q (fencedContinue' node sA) (fencedContinue' (F.ι node) sB) := by
  unfold fencedContinue'
  have hpk : P2 (fun x y sA' sB' => x = (RCur.view b c, RCur.seg b c) ∧ y = (x.1, moveSeg F.d x.2) ∧ SR F b sA' sB')
      (peekLine sA) (peekLine sB) := by
    obtain ⟨r', e1, e2⟩ := ri_peekLine hc
    have hB : sB.r.peekLine = .ok ((RCur.view b c, moveSeg F.d (RCur.seg b c)), shR F r') := by
      rw [h.r, peekLine_sh F _ (RI.start_nonneg hc), e1]; rfl
    unfold GM.Blocks.peekLine
    rw [e1, hB]
    exact P2.ok ⟨rfl, rfl, h.withR e2⟩
  refine P2.bind hpk (fun x y sA1 sB1 ⟨hx, hy, h1⟩ => ?_)
  subst hy hx
  simp only
  refine P2.bind (getPc_p2 h1) (fun x y sA2 sB2 ⟨hx, hy, hxy, e1, e2⟩ => ?_)
  subst e1 e2
  rw [hxy.fence]
  cases x.fence with
  | none => exact P2.bind (P := fun _ _ _ _ => False) P2.throwL (fun _ _ _ _ hh => hh.elim)
  | some f =>
    simp only [Option.map]
    refine P2.bind (P := fun s t sA' sB' => s = f ∧ t = shF F f ∧ sA' = sA2 ∧ sB' = sB2) (P2.pure ⟨rfl, rfl, rfl, rfl⟩)
      (fun fd fd' sA3 sB3 ⟨e0, e0', e1, e2⟩ => ?_)
    subst e0 e0' e1 e2
    refine P2.bind (lineOffset_p2 h1) (fun lo lo' sA3 sB3 ⟨hlo, _, h3⟩ => ?_)
    subst hlo
    have tail := tail sA3 sB3 lo' fd h3
    have ec : (shF F fd).char = fd.char := rfl
    have el : (shF F fd).length = fd.length := rfl
    rw [ec, el]
    obtain ⟨l, hv, hlen, hlpos, hss, hpad⟩ := view_some_facts (b := b) (c := c) hp
    generalize hline : (RCur.view b c).getD [] = line at tail ⊢
    have hll : (line.length : Int) = (RCur.seg b c).len := by rw [← hline, hv]; exact hlen
    generalize (indentWidthI line lo').2 = pos
    generalize (indentWidthI line lo').1 = w
    generalize scanWhileEq line fd.char pos = i
    by_cases hc1 : w < 4
    · rw [if_pos hc1, if_pos hc1]
      by_cases hc2 : i - pos ≥ fd.length
      · rw [if_pos hc2, if_pos hc2]
        refine P2.bind (P := fun s t sA' sB' => t = s ∧ sA' = sA3 ∧ sB' = sB3)
          (P2.liftE_same (fun a _ => ⟨rfl, rfl, rfl⟩)) (fun rest0 rest sA4 sB4 ⟨ht, e1, e2⟩ => ?_)
        subst ht e1 e2
        by_cases hc3 : isBlank rest = true
        · rw [if_pos hc3, if_pos hc3]
          refine P2.bind (P := fun s t sA' sB' => t = s ∧ sA' = sA4 ∧ sB' = sB4)
            (P2.liftE_same (fun a _ => ⟨rfl, rfl, rfl⟩)) (fun last0 last sA5 sB5 ⟨ht, e1, e2⟩ => ?_)
          subst ht e1 e2
          refine P2.bind (advance_p2 h3 (by simp only [moveSeg]; omega) ?_) (fun _ _ sA6 sB6 h5 => ?_)
          · simp only [Segment.len] at hll
            split <;> omega
          exact P2.pure (hQ _ _ _ h5)
        · rw [if_neg hc3, if_neg hc3]; exact tail
      · rw [if_neg hc2, if_neg hc2]; exact tail
    · rw [if_neg hc1, if_neg hc1]; exact tail

theorem fencedContinue_sim (F : Frame) (hF : F.OK) (b : Bytes) : ContinueSim F b .fenced :=
  fun node _ _ h ⟨c, hc, hp⟩ hnl =>
    fencedContinue_of_tail b (fun _ _ _ h' => ⟨rfl, h'⟩) node h hc hp
      (fun _ _ lo fd h3 => fc_tail_p2 hF h3 hnl c hp node lo fd)

end GM.Blocks.Sh
