/-
  GM.Proof.BlocksPara — paragraph.go and thematic_break.go entry points: no panic from an `RI` reader, and the
  line segments they put into the tree lie inside the source (the local half of C05(c) for these parsers). `Open` and
  `Continue` are walked once each, with everything later files read off them in the post (`paragraphOpen_okl'`,
  `paragraphContinue_okl'`, `thematicOpen_okl'`): where the cursor goes, which segment is stored and where it lies on the line.
-/
import GM.Proof.BlocksTotal

namespace GM.Blocks
open GM GM.Text GM.Spec GM.Proof.Reader

theorem set_length_append {α} (l : List α) (x y : α) : (l ++ [x]).set l.length y = l ++ [y] := by
  induction l with
  | nil => rfl
  | cons a l ih => simp [List.set, ih]

theorem getD_length_append {α} (l : List α) (x d : α) : (l ++ [x]).getD l.length d = x := by
  induction l with
  | nil => rfl
  | cons a l ih => simpa using ih

theorem length_takeWhile_le'' {α} (p : α → Bool) (l : List α) : (l.takeWhile p).length ≤ l.length := by
  induction l with
  | nil => simp
  | cons c cs ih => simp only [List.takeWhile]; split <;> simp <;> omega

theorem takeWhile_lt_of_not_all {α} (p : α → Bool) : ∀ (v : List α), v.all p = false →
    (v.takeWhile p).length < v.length ∧ (v.drop (v.takeWhile p).length).all p = false
  | [], h => by simp at h
  | a :: v, h => by
    by_cases ha : p a = true
    · have hv : v.all p = false := by simpa [List.all_cons, ha] using h
      obtain ⟨h1, h2⟩ := takeWhile_lt_of_not_all p v hv
      simp only [List.takeWhile_cons, ha, if_true, List.length_cons, List.drop_succ_cons]
      exact ⟨by omega, h2⟩
    · simp only [List.takeWhile_cons, ha, Bool.false_eq_true, if_false, List.length_nil, List.length_cons, List.drop_zero]
      exact ⟨by omega, h⟩

/-- behind the longest prefix of `p`-elements the rest, if there is one, starts with an element that fails `p` -/
theorem drop_takeWhile_not_all {α} (p : α → Bool) : ∀ (v : List α), v.drop (v.takeWhile p).length ≠ [] →
    (v.drop (v.takeWhile p).length).all p = false
  | [], h => by simp at h
  | a :: v, h => by
    by_cases ha : p a = true
    · simp only [List.takeWhile_cons, ha, if_true, List.length_cons, List.drop_succ_cons] at h ⊢
      exact drop_takeWhile_not_all p v h
    · simp only [List.takeWhile_cons, ha, Bool.false_eq_true, if_false, List.length_nil, List.drop_zero, List.all_cons]
      simp [ha]

theorem sub_drop (src : Bytes) (a b k : Nat) : (sub src a b).drop k = sub src (a + k) b := by
  unfold sub
  rw [List.drop_take, List.drop_drop]
  congr 1
  omega

/-- Segment.TrimLeftSpace on a segment inside the source, with what it keeps: a segment that holds a byte that is not white
    space still holds it, and is not empty; what is left, if not empty, starts with such a byte -/
theorem trimLeftSpace_ok {src : Bytes} {t : Segment} (h : SegOK src t) :
    ∃ t', t.trimLeftSpace src = .ok t' ∧ SegOK src t' ∧ t'.stop = t.stop ∧ t.start ≤ t'.start ∧ t'.padding = 0 ∧
      t'.forceNewline = false ∧ (isBlank (sub src t.start.toNat t.stop.toNat) = false →
        isBlank (sub src t'.start.toNat t'.stop.toNat) = false ∧ t'.start < t'.stop) ∧
      (t'.start < t'.stop → isBlank (sub src t'.start.toNat t'.stop.toNat) = false) := by
  obtain ⟨h0, h1, h2, h3⟩ := h
  unfold Segment.trimLeftSpace
  rw [sliceB_ok src h0 h1 h2]
  simp only [bind, Except.bind, pure, Except.pure]
  have hlen := length_sub src (a := t.start.toNat) (b := t.stop.toNat) (by omega)
  have hl : (trimLeftSpaceLength (sub src t.start.toNat t.stop.toNat) : Int) ≤ t.stop - t.start := by
    have a := length_takeWhile_le'' isSpace (sub src t.start.toNat t.stop.toNat)
    unfold trimLeftSpaceLength
    omega
  refine ⟨_, rfl, ⟨?_, ?_, h2, ?_⟩, rfl, ?_, rfl, rfl, ?_, ?_⟩ <;> simp only
  · omega
  · omega
  · omega
  · omega
  · intro hnb
    obtain ⟨k1, k2⟩ := takeWhile_lt_of_not_all isSpace _ hnb
    have e : (t.start + (trimLeftSpaceLength (sub src t.start.toNat t.stop.toNat) : Int)).toNat =
        t.start.toNat + trimLeftSpaceLength (sub src t.start.toNat t.stop.toNat) := by omega
    refine ⟨?_, ?_⟩
    · rw [e, ← sub_drop]; exact k2
    · unfold trimLeftSpaceLength; omega
  · intro hlt
    unfold isBlank
    have e : (t.start + (trimLeftSpaceLength (sub src t.start.toNat t.stop.toNat) : Int)).toNat =
        t.start.toNat + trimLeftSpaceLength (sub src t.start.toNat t.stop.toNat) := by omega
    rw [e, ← sub_drop]
    unfold trimLeftSpaceLength
    refine drop_takeWhile_not_all isSpace _ (fun he => ?_)
    have hl := congrArg List.length he
    simp only [List.length_drop, List.length_nil] at hl
    unfold trimLeftSpaceLength at hlt
    omega

/-- Segment.TrimRightSpace on a segment inside the source -/
theorem trimRightSpace_ok {src : Bytes} {t : Segment} (h : SegOK src t) :
    ∃ t', t.trimRightSpace src = .ok t' ∧ SegOK src t' ∧ t'.start = t.start ∧ t'.stop ≤ t.stop := by
  obtain ⟨h0, h1, h2, h3⟩ := h
  unfold Segment.trimRightSpace
  rw [sliceB_ok src h0 h1 h2]
  simp only [bind, Except.bind, pure, Except.pure]
  have hl : (trimRightSpaceLength (sub src t.start.toNat t.stop.toNat) : Int) ≤ t.stop - t.start := by
    have a := length_takeWhile_le'' isSpace (sub src t.start.toNat t.stop.toNat).reverse
    have b := length_sub src (a := t.start.toNat) (b := t.stop.toNat) (by omega)
    unfold trimRightSpaceLength
    simp only [List.length_reverse] at a
    omega
  split
  · exact ⟨_, rfl, ⟨h0, Int.le_refl _, by simp only; omega, by simp⟩, rfl, h1⟩
  · refine ⟨_, rfl, ⟨h0, ?_, ?_, h3⟩, rfl, ?_⟩ <;> simp only <;> omega

/-- paragraphParser.Open (paragraph.go:24-34): total on an `RI` reader; it either builds nothing and leaves the cursor, or
    appends to the store a parentless Paragraph whose single line `seg` is the rest of the current source line behind its
    leading white space — `c.p ≤ seg.start < seg.stop = lineEnd src c.p`, padding 0, no ForceNewline, inside the source,
    holding a byte that is not white space — and moves the cursor on; nothing else of the store or context changes -/
theorem paragraphOpen_okl' {src} {s : St} {c : RCur} (h : RI src s.r c) (parent : Nat) :
    OKL (fun a s' => ∃ c', RI src s'.r c' ∧ (∃ n, c' = RCur.advN src n c) ∧ s'.pc = s.pc ∧ a.2 = stNoChildren ∧
        ((a.1 = none ∧ s'.nodes = s.nodes ∧ c' = c) ∨
         (a.1 = some s.nodes.length ∧ ∃ nd seg, s'.nodes = s.nodes ++ [nd] ∧ nd.kind = .paragraph ∧
            nd.lines = [seg] ∧ SegOK src seg ∧ nd.parent = none ∧ nd.linesNil = false ∧
            (c.p : Int) ≤ seg.start ∧ seg.start < seg.stop ∧ seg.stop = lineEnd src c.p ∧ seg.padding = 0 ∧
            seg.forceNewline = false ∧ isBlank (sub src seg.start.toNat seg.stop.toNat) = false)))
      (paragraphOpen parent s) := by
  unfold paragraphOpen
  refine OKL.bind (peekLine_okl h) (fun x s1 hx => ?_)
  obtain ⟨hx, r1, hs1, h1⟩ := hx
  subst hx hs1
  simp only
  obtain ⟨t', ht, hok, hstop, hstart, hpad, hfn, _, hnbl⟩ := trimLeftSpace_ok (seg_ok src c h.inRange)
  refine OKL.bind (m := source) (P := fun v s' => v = src ∧ s' = { s with r := r1 }) (OKL.ok ⟨h1.source, rfl⟩) (fun v s2 hv => ?_)
  obtain ⟨hv, hs2⟩ := hv
  subst hs2
  rw [hv]
  refine OKL.bind (liftE_okl (P := fun a s' => a = t' ∧ s' = { s with r := r1 }) ht ⟨rfl, rfl⟩) (fun a s3 ha => ?_)
  obtain ⟨ha, hs3⟩ := ha
  subst ha hs3
  by_cases he : a.isEmpty = true
  · rw [if_pos he]
    exact OKL.ok ⟨c, h1, ⟨0, rfl⟩, rfl, rfl, .inl ⟨rfl, rfl, rfl⟩⟩
  · rw [if_neg he]
    have hne : a.start < a.stop := by
      unfold Segment.isEmpty at he
      simp only [hpad] at he
      have : ¬ (a.start ≥ a.stop) := by intro hh; apply he; simp [hh]
      omega
    have hlen : 0 ≤ a.len - 1 := by
      unfold Segment.len
      simp only [hpad]
      omega
    simp only [bind, StateT.bind, newNode, appendLine, modNode, pure, StateT.pure, Except.bind, Except.pure]
    have hadv := advance_okl (src := src)
      (s := { r := r1, nodes := (s.nodes ++ [({ kind := Kind.paragraph } : Node)]).set s.nodes.length
                ({ ((s.nodes ++ [({ kind := Kind.paragraph } : Node)]).getD s.nodes.length default) with
                    lines := ((s.nodes ++ [({ kind := Kind.paragraph } : Node)]).getD s.nodes.length default).lines ++ [a],
                    linesNil := false }), pc := s.pc }) (c := c) h1 hlen
    rcases hadv with ⟨_, s4, e4, r4, hs4, h4⟩ | e4
    · rw [e4]
      simp only
      refine OKL.ok ⟨_, by rw [hs4]; exact h4, ⟨_, rfl⟩, by rw [hs4], rfl, .inr ⟨rfl, ?_⟩⟩
      rw [hs4]
      simp only [getD_length_append, set_length_append]
      exact ⟨_, a, rfl, rfl, rfl, hok, rfl, rfl, hstart, hne, by rw [hstop]; rfl, hpad, hfn, hnbl hne⟩
    · rw [e4]; exact .inr rfl

theorem paragraphOpen_okl {src} {s : St} {c : RCur} (h : RI src s.r c) (parent : Nat) :
    OKL (fun a s' => ∃ r' c', s'.r = r' ∧ RI src r' c' ∧ c.p ≤ c'.p ∧ s'.pc = s.pc ∧ a.2 = stNoChildren ∧
        ((a.1 = none ∧ s'.nodes = s.nodes ∧ c' = c) ∨
         (a.1 = some s.nodes.length ∧ ∃ nd seg, s'.nodes = s.nodes ++ [nd] ∧ nd.kind = .paragraph ∧
            nd.lines = [seg] ∧ SegOK src seg ∧ nd.parent = none)))
      (paragraphOpen parent s) :=
  (paragraphOpen_okl' h parent).mono fun _ _ ⟨c', hri, ⟨n, hn⟩, hpc, ha, hc⟩ =>
    ⟨_, c', rfl, hri, by rw [hn]; exact (GM.Proof.Reader.advN_mono src n c h.inRange).1, hpc, ha,
      hc.imp id fun ⟨h0, nd, seg, h1, h2, h3, h4, h5, _⟩ => ⟨h0, nd, seg, h1, h2, h3, h4, h5⟩⟩

/-- the bytes of the reader's segment are the view without the virtual padding; a view that is not blank holds a
    source byte that is not white space -/
theorem seg_nonBlank_of_view (src : Bytes) (c : RCur) (hp : c.p < src.length)
    (hb : isBlank ((RCur.view src c).getD []) = false) :
    isBlank (sub src (RCur.seg src c).start.toNat (RCur.seg src c).stop.toNat) = false := by
  rw [view_eq src c hp] at hb
  simp only [Option.getD_some, isBlank, List.all_append] at hb
  unfold isBlank
  have hs : (spaces c.pad).all isSpace = true := by
    simp only [spaces, List.all_eq_true, List.mem_replicate]
    rintro x ⟨_, rfl⟩
    decide
  rw [hs, Bool.true_and] at hb
  simpa [RCur.seg] using hb

/-- paragraphParser.Continue (paragraph.go:36-44): total on an `RI` reader; `Close` with nothing changed, or the reader's own
    segment `[c.p, lineEnd src c.p)` (with the reader's padding) is appended to `node` and the cursor moves on in the line;
    that line holds a source byte that is not white space, in particular it is not empty -/
theorem paragraphContinue_okl' {src} {s : St} {c : RCur} (h : RI src s.r c) (node : Nat) :
    OKL (fun st s' => ∃ c', RI src s'.r c' ∧ (∃ n, c' = RCur.advN src n c) ∧ s'.pc = s.pc ∧
        ((st = stClose ∧ s'.nodes = s.nodes ∧ c' = c) ∨
         (st = stContinueNoChildren ∧ c.p < src.length ∧
            isBlank (sub src (RCur.seg src c).start.toNat (RCur.seg src c).stop.toNat) = false ∧
            (c.p : Int) < lineEnd src c.p ∧
            s'.nodes = s.nodes.set node
              { (s.nodes.getD node default) with
                  lines := (s.nodes.getD node default).lines ++ [RCur.seg src c], linesNil := false })))
      (paragraphContinue node s) := by
  unfold paragraphContinue
  refine OKL.bind (peekLine_okl h) (fun x s1 hx => ?_)
  obtain ⟨hx, r1, hs1, h1⟩ := hx
  subst hx hs1
  simp only
  by_cases hb : isBlank ((RCur.view src c).getD []) = true
  · rw [if_pos hb]
    exact OKL.ok ⟨c, h1, ⟨0, rfl⟩, rfl, .inl ⟨rfl, rfl, rfl⟩⟩
  · rw [if_neg hb]
    have hp : c.p < src.length := by
      rcases Nat.lt_or_ge c.p src.length with hp | hp
      · exact hp
      · rw [view_none src c (by omega)] at hb; simp [isBlank] at hb
    have hv := view_eq src c hp
    have hl := view_len src c hp hv
    have hl2 := view_length src c hp hv
    have hlen : 0 ≤ (RCur.seg src c).len - 1 := by omega
    have hnb := seg_nonBlank_of_view src c hp (by simpa using hb)
    have hlt : (c.p : Int) < lineEnd src c.p := by have := lt_lineEnd src hp; omega
    simp only [bind, StateT.bind, appendLine, modNode, pure, StateT.pure, Except.bind, Except.pure]
    have hadv := advance_okl (src := src)
      (s := { r := r1, nodes := s.nodes.set node
                { (s.nodes.getD node default) with
                    lines := (s.nodes.getD node default).lines ++ [RCur.seg src c], linesNil := false }, pc := s.pc })
      (c := c) h1 hlen
    rcases hadv with ⟨_, s4, e4, r4, hs4, h4⟩ | e4
    · rw [e4]
      simp only
      exact OKL.ok ⟨_, by rw [hs4]; exact h4, ⟨_, rfl⟩, by rw [hs4], .inr ⟨rfl, hp, hnb, hlt, by rw [hs4]⟩⟩
    · rw [e4]; exact .inr rfl

theorem paragraphContinue_okl {src} {s : St} {c : RCur} (h : RI src s.r c) (node : Nat) :
    OKL (fun st s' => ∃ r' c', s'.r = r' ∧ RI src r' c' ∧ c.p ≤ c'.p ∧ s'.pc = s.pc ∧
        ((st = stClose ∧ s'.nodes = s.nodes ∧ c' = c) ∨
         (st = stContinueNoChildren ∧ c.p < src.length ∧ SegOK src (RCur.seg src c) ∧
            s'.nodes = s.nodes.set node
              { (s.nodes.getD node default) with
                  lines := (s.nodes.getD node default).lines ++ [RCur.seg src c], linesNil := false })))
      (paragraphContinue node s) :=
  (paragraphContinue_okl' h node).mono fun _ _ ⟨c', hri, ⟨n, hn⟩, hpc, hc⟩ =>
    ⟨_, c', rfl, hri, by rw [hn]; exact (GM.Proof.Reader.advN_mono src n c h.inRange).1, hpc,
      hc.imp id fun ⟨h0, hp, _, _, hn⟩ => ⟨h0, hp, seg_ok src c h.inRange, hn⟩⟩

theorem tbLoop_nil : isThematicBreak [] 0 = false ∧ ∀ off, isThematicBreak [] off = false := by
  constructor
  · simp [isThematicBreak, indentWidthI, indentWidthGo, tbLoop]
  · intro off; simp [isThematicBreak, indentWidthI, indentWidthGo, tbLoop]

/-- thematicBreakParser.Open: total on an `RI` reader; a new ThematicBreak node without lines, or nothing; the cursor only
    advances -/
theorem thematicOpen_okl' {src} {s : St} {c : RCur} (h : RI src s.r c) (parent : Nat) :
    OKL (fun a s' => ∃ c', RI src s'.r c' ∧ (∃ n, c' = RCur.advN src n c) ∧ s'.pc = s.pc ∧ a.2 = stNoChildren ∧
        ((a.1 = none ∧ s'.nodes = s.nodes ∧ c' = c) ∨
         (a.1 = some s.nodes.length ∧ s'.nodes = s.nodes ++ [{ kind := .thematicBreak }])))
      (thematicOpen parent s) := by
  unfold thematicOpen
  refine OKL.bind (peekLine_okl h) (fun x s1 hx => ?_)
  obtain ⟨hx, r1, hs1, h1⟩ := hx
  subst hx hs1
  simp only
  refine OKL.bind (lineOffset_okl (s := { s with r := r1 }) h1) (fun lo s2 hlo => ?_)
  obtain ⟨_, r2, hs2, h2⟩ := hlo
  subst hs2
  by_cases hb : isThematicBreak ((RCur.view src c).getD []) lo = true
  · rw [if_pos hb]
    have hp : c.p < src.length := by
      rcases Nat.lt_or_ge c.p src.length with hp | hp
      · exact hp
      · rw [view_none src c (by omega)] at hb; simp [tbLoop_nil.2] at hb
    have hv := view_eq src c hp
    have hl := view_len src c hp hv
    have hl2 := view_length src c hp hv
    have hlen : 0 ≤ (RCur.seg src c).len - 1 := by omega
    refine OKL.bind (advance_okl (s := { s with r := r2 }) h2 hlen) (fun _ s4 h4 => ?_)
    obtain ⟨r4, hs4, h4⟩ := h4
    subst hs4
    simp only [bind, StateT.bind, newNode, pure, StateT.pure, Except.bind, Except.pure]
    exact OKL.ok ⟨_, h4, ⟨_, rfl⟩, rfl, rfl, .inr ⟨rfl, rfl⟩⟩
  · rw [if_neg hb]
    exact OKL.ok ⟨c, h2, ⟨0, rfl⟩, rfl, rfl, .inl ⟨rfl, rfl, rfl⟩⟩

theorem thematicOpen_okl {src} {s : St} {c : RCur} (h : RI src s.r c) (parent : Nat) :
    OKL (fun a s' => ∃ r' c', s'.r = r' ∧ RI src r' c' ∧ c.p ≤ c'.p ∧ s'.pc = s.pc ∧ a.2 = stNoChildren ∧
        ((a.1 = none ∧ s'.nodes = s.nodes ∧ c' = c) ∨
         (a.1 = some s.nodes.length ∧ s'.nodes = s.nodes ++ [{ kind := .thematicBreak }])))
      (thematicOpen parent s) :=
  (thematicOpen_okl' h parent).mono fun _ _ ⟨c', hri, ⟨n, hn⟩, hpc, ha, hc⟩ =>
    ⟨_, c', rfl, hri, by rw [hn]; exact (GM.Proof.Reader.advN_mono src n c h.inRange).1, hpc, ha, hc⟩

/-- every line of a block inside the source -/
def LinesOK (src : Bytes) (ls : List Segment) : Prop := ∀ t ∈ ls, SegOK src t

theorem trimLeftAll_length (src : Bytes) : ∀ (l l' : List Segment), trimLeftAll src l = .ok l' → l'.length = l.length
  | [], l', h => by simp only [trimLeftAll, pure, Except.pure] at h; cases h; rfl
  | a :: rest, l', h => by
    simp only [trimLeftAll, bind, Except.bind] at h
    cases h1 : a.trimLeftSpace src with
    | error e => rw [h1] at h; cases h
    | ok a' =>
      rw [h1] at h
      simp only at h
      cases h2 : trimLeftAll src rest with
      | error e => rw [h2] at h; cases h
      | ok r' =>
        rw [h2] at h
        simp only [pure, Except.pure] at h
        cases h
        simp [trimLeftAll_length src rest r' h2]

theorem lineSet_length {ls ls' : List Segment} {i : Int} {v : Segment} (h : lineSet ls i v = .ok ls') : ls'.length = ls.length := by
  unfold lineSet at h
  split at h
  · cases h; simp
  · cases h

theorem trimLeftAll_ok {src : Bytes} : ∀ {ls : List Segment}, LinesOK src ls →
    ∃ ls', trimLeftAll src ls = .ok ls' ∧ LinesOK src ls' ∧ ls'.length = ls.length := by
  intro ls
  induction ls with
  | nil => intro _; exact ⟨[], rfl, (fun _ h => by cases h), rfl⟩
  | cons l ls ih =>
    intro h
    obtain ⟨t', ht, hok, _⟩ := trimLeftSpace_ok (h l (by simp))
    obtain ⟨ls', hls, hok', hlen⟩ := ih (fun t ht => h t (by simp [ht]))
    unfold trimLeftAll
    rw [ht, hls]
    simp only [bind, Except.bind, pure, Except.pure]
    refine ⟨_, rfl, ?_, by simp [hlen]⟩
    intro t ht
    simp only [List.mem_cons] at ht
    rcases ht with rfl | ht
    · exact hok
    · exact hok' t ht

/-- paragraphParser.Close on a paragraph whose lines lie in the source and that has a line: no panic, the
    reader and the context are untouched, the node keeps as many lines, all still inside the source, and
    stays where it is in the tree -/
theorem paragraphClose_okl {src} {s : St} (node : Nat) (hsrc : s.r.source = src)
    (hl : LinesOK src (s.nodes.getD node default).lines) (hne : (s.nodes.getD node default).lines ≠ []) :
    OKL (fun _ s' => s'.r = s.r ∧ s'.pc = s.pc ∧ ∃ ls, LinesOK src ls ∧
        ls.length = (s.nodes.getD node default).lines.length ∧
        s'.nodes = s.nodes.set node { (s.nodes.getD node default) with lines := ls })
      (paragraphClose node s) := by
  have hlen : ((s.nodes.getD node default).lines.length != 0) = true := by
    cases hh : (s.nodes.getD node default).lines with
    | nil => exact absurd hh hne
    | cons a b => simp
  obtain ⟨ls', hls, hok', hlen'⟩ := trimLeftAll_ok hl
  have hpos : 0 < ls'.length := by
    rw [hlen']; cases hh : (s.nodes.getD node default).lines with
    | nil => exact absurd hh hne
    | cons a b => simp
  -- lines.At(length-1)
  have hidx : ((ls'.length : Int) - 1).toNat < ls'.length := by omega
  have hat : lineAt ls' ((ls'.length : Int) - 1) = .ok (ls'[((ls'.length : Int) - 1).toNat]) := by
    unfold lineAt segAt
    have : ¬ ((ls'.length : Int) - 1 < 0) := by omega
    rw [if_neg this, List.getElem?_eq_getElem hidx]
  obtain ⟨t', ht, hokt, _, _⟩ := trimRightSpace_ok (hok' _ (List.getElem_mem hidx))
  have hset : lineSet ls' ((ls'.length : Int) - 1) t' = .ok (ls'.set ((ls'.length : Int) - 1).toNat t') := by
    unfold lineSet
    rw [if_pos ⟨by omega, by omega⟩]
  have hls'' : LinesOK src (ls'.set ((ls'.length : Int) - 1).toNat t') := by
    intro t htm
    rcases List.mem_or_eq_of_mem_set htm with h1 | h1
    · exact hok' t h1
    · rw [h1]; exact hokt
  unfold paragraphClose
  simp only [bind, StateT.bind, getNode, source, pure, StateT.pure, Except.bind, Except.pure, liftE, Except.map,
    hlen, if_true, hsrc, hls, hat, ht, hset, modNode]
  -- the paragraph still has lines: it is not removed
  by_cases hnode : node < s.nodes.length
  · have hget : (s.nodes.set node { (s.nodes.getD node default) with lines := ls'.set ((ls'.length : Int) - 1).toNat t' }).getD node default
        = { (s.nodes.getD node default) with lines := ls'.set ((ls'.length : Int) - 1).toNat t' } := by
      simp [List.getD, List.getElem?_set, hnode]
    rw [hget]
    have hz : (((ls'.set ((ls'.length : Int) - 1).toNat t').length == 0) = false) := by
      rw [List.length_set]; exact beq_false_of_ne (by omega)
    simp only [hz, Bool.false_eq_true, if_false]
    exact OKL.ok ⟨rfl, rfl, _, hls'', by simp [hlen'], rfl⟩
  · exfalso
    have : s.nodes.getD node default = default := by
      simp [List.getD, List.getElem?_eq_none (Nat.le_of_not_lt hnode)]
    rw [this] at hne
    exact hne rfl

end GM.Blocks
