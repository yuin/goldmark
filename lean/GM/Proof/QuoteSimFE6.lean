/-
  GM.Proof.QuoteSimFE6 — `FE` (equal flags on every child but the first of every node but the Document) across
  `setextHeadingParser.Close`, the one `Close` that copies a `HasBlankPreviousLines` flag and moves children:
    * `SXP node t n n'`   : what `setextClose node` does to the flags and the children lists (unary, any run);
    * `ADJ n t h`         : the heading `h` is the next sibling of the temporary paragraph `t` and occurs nowhere else;
    * `adj_list`          : the list fact behind it;
    * `fe_setextClose`    : `FE` survives a pair of `setextClose` with `SXP` in both runs and `ADJ` in run A;
    * `sx_setextClose`    : `SXP` for a normal end of `bpClose .setext node`.
-/
import GM.Proof.QuoteSimFE4

namespace GM.Blocks
open GM GM.Text

/-- what `setextClose node` (temporary paragraph `t`) does to flags and children lists -/
def SXP (node t : Nat) (n n' : List Node) : Prop :=
  n.length ≤ n'.length ∧
  (∀ i, i < n.length → i ≠ node → (n'.getD i default).blankPrev = (n.getD i default).blankPrev) ∧
  (∀ i, n.length ≤ i → (n'.getD i default).blankPrev = false) ∧
  (((n.getD t default).lines.length == 0) = true →
    (n'.getD node default).blankPrev = (n.getD node default).blankPrev ∧ CHn n n') ∧
  (((n.getD t default).lines.length == 0) = false →
    (n'.getD node default).blankPrev = (n.getD t default).blankPrev ∧
    ∀ q, (n'.getD q default).children =
      if (n.getD t default).parent = some q then (n.getD q default).children.erase t
      else (n.getD q default).children)

/-- the heading `h` is the next sibling of the paragraph `t`, and occurs nowhere else -/
def ADJ (n : List Node) (t h : Nat) : Prop :=
  ∃ q pre suf, (n.getD t default).parent = some q ∧ (n.getD q default).children = pre ++ t :: h :: suf ∧
    t ∉ pre ∧ h ∉ pre ∧ h ∉ suf ∧ ∀ q', q' ≠ q → h ∉ (n.getD q' default).children

theorem adj_list {L pre suf : List Nat} {t h : Nat} (hL : L = pre ++ t :: h :: suf) (ht : t ∉ pre) (hh : h ∉ pre)
    (hs : h ∉ suf) (hm : h ∈ (L.erase t).drop 1) : t ∈ L.drop 1 := by
  subst hL
  rw [List.erase_append_right _ ht, List.erase_cons_head] at hm
  cases pre with
  | nil => exact absurd hm hs
  | cons p pre' =>
    show t ∈ pre' ++ t :: h :: suf
    exact List.mem_append_right _ (List.mem_cons_self ..)

theorem fe_setextClose {nA nB nA' nB' : List Node} {node t : Nat} (hfe : FE nA nB)
    (hlen : nB.length = nA.length + 1) (hA : SXP node t nA nA') (hB : SXP (node + 1) (t + 1) nB nB')
    (hlines : ((nB.getD (t + 1) default).lines.length == 0) = ((nA.getD t default).lines.length == 0))
    (hnode : node < nA.length) (hadj : ADJ nA t node) : FE nA' nB' := by
  obtain ⟨hA1, hA2, hA3, hA4, hA5⟩ := hA
  obtain ⟨hB1, hB2, hB3, hB4, hB5⟩ := hB
  cases hz : ((nA.getD t default).lines.length == 0) with
  | true =>
    obtain ⟨hfa, hch⟩ := hA4 hz
    obtain ⟨hfb, _⟩ := hB4 (hlines.trans hz)
    have hbA : BPn nA nA' := by
      refine ⟨hA1, fun i hi => ?_, hA3⟩
      by_cases hin : i = node
      · rw [hin]; exact hfa
      · exact hA2 i hi hin
    have hbB : BPn nB nB' := by
      refine ⟨hB1, fun i hi => ?_, hB3⟩
      by_cases hin : i = node + 1
      · rw [hin]; exact hfb
      · exact hB2 i hi hin
    exact fe_step hfe hbA hbB hch hlen
  | false =>
    obtain ⟨hfa, hca⟩ := hA5 hz
    obtain ⟨hfb, _⟩ := hB5 (hlines.trans hz)
    intro q hq c hcm
    show (nB'.getD (c + 1) default).blankPrev = (nA'.getD c default).blankPrev
    rw [hca q] at hcm
    by_cases hlt : c < nA.length
    · by_cases hcn : c = node
      · subst hcn
        rw [hfa, hfb]
        obtain ⟨p, pre, suf, hp, hL, h1, h2, h3, h4⟩ := hadj
        rw [hp] at hcm
        by_cases hpq : q = p
        · subst hpq
          rw [if_pos rfl] at hcm
          exact hfe q hq t (adj_list hL h1 h2 h3 hcm)
        · rw [if_neg (fun e => hpq (Option.some.inj e).symm)] at hcm
          exact absurd (List.mem_of_mem_drop hcm) (h4 q hpq)
      · rw [hA2 c hlt hcn, hB2 (c + 1) (by omega) (by omega)]
        refine hfe q hq c ?_
        split at hcm
        · exact mem_drop_erase hcm
        · exact hcm
    · rw [hA3 c (by omega), hB3 (c + 1) (by omega)]

theorem sx_liftE {α} {x : Except Panic α} {s s' : St} {a : α} (h : liftE x s = .ok (a, s')) : x = .ok a ∧ s = s' := by
  unfold liftE at h
  cases x with
  | error e => cases h
  | ok v => cases h; exact ⟨rfl, rfl⟩

theorem sx_getNode {id : Nat} {s s' : St} {a : Node} (h : getNode id s = .ok (a, s')) :
    a = s.nodes.getD id default ∧ s = s' := by cases h; exact ⟨rfl, rfl⟩

theorem sx_getPc {s s' : St} {a : Ctx} (h : getPc s = .ok (a, s')) : a = s.pc ∧ s = s' := by
  cases h; exact ⟨rfl, rfl⟩

theorem sx_source {s s' : St} {a : Bytes} (h : source s = .ok (a, s')) : s = s' := by
  cases h; rfl

theorem sx_pure {α} {x a : α} {s s' : St} (h : (pure x : M α) s = .ok (a, s')) : x = a ∧ s = s' := by
  cases h; exact ⟨rfl, rfl⟩

theorem sx_nextSibling {c p : Nat} {s s' : St} {a : Option Nat} (e : nextSibling c s = .ok (a, s')) :
    s = s' ∧ ((s.nodes.getD c default).parent = some p → a = nextIn c (s.nodes.getD p default).children) ∧
      ((s.nodes.getD c default).parent = none → a = none) := by
  unfold nextSibling at e
  obtain ⟨cn, s1, h1, k1⟩ := bind_inv_u e
  obtain ⟨hcn, rfl⟩ := sx_getNode h1
  rw [← hcn]
  cases heq : cn.parent with
  | none =>
    rw [heq] at k1
    dsimp only at k1
    obtain ⟨rfl, rfl⟩ := sx_pure k1
    exact ⟨rfl, fun h => (by cases h), fun _ => rfl⟩
  | some p' =>
    rw [heq] at k1
    dsimp only at k1
    obtain ⟨pn, s2, h2, k2⟩ := bind_inv_u k1
    obtain ⟨rfl, rfl⟩ := sx_getNode h2
    obtain ⟨rfl, rfl⟩ := sx_pure k2
    refine ⟨rfl, fun h => ?_, fun h => ?_⟩
    · cases h; rfl
    · cases h

theorem sx_nextIn_mem {c v : Nat} : ∀ (a : Nat) (rest : List Nat), nextIn c (a :: rest) = some v → v ∈ rest
  | _, [], h => by simp [nextIn] at h
  | a, b :: r, h => by
    unfold nextIn at h
    split at h
    · cases h; exact List.mem_cons_self ..
    · exact List.mem_cons_of_mem _ (sx_nextIn_mem b r h)

/-- inserting in front of the NEXT SIBLING of some element: nobody but the new element stops being the first -/
theorem sx_mem_drop_insBefore {l : List Nat} {c v ins x : Nat} (hn : nextIn c l = some v)
    (h : x ∈ (insertBeforeIn v ins l).drop 1) : x ∈ l.drop 1 ∨ x = ins := by
  cases l with
  | nil => simp [nextIn] at hn
  | cons a rest =>
    unfold insertBeforeIn at h
    split at h
    · rename_i hav
      have hav : a = v := by simpa using hav
      simp only [List.drop_succ_cons, List.drop_zero] at h ⊢
      rcases List.mem_cons.mp h with h | h
      · left; rw [h, hav]; exact sx_nextIn_mem a rest hn
      · exact Or.inl h
    · simp only [List.drop_succ_cons, List.drop_zero] at h ⊢
      rcases qs_mem_insertBeforeIn h with h | h
      · exact Or.inr h
      · exact Or.inl h

theorem sx_removeChild {p c : Nat} {s s' : St} {u : Unit} (hpar : (s.nodes.getD c default).parent = some p)
    (e : removeChild p c s = .ok (u, s')) :
    ∀ q, (s'.nodes.getD q default).children =
      if p = q then (s.nodes.getD q default).children.erase c else (s.nodes.getD q default).children := by
  unfold removeChild at e
  obtain ⟨cn, s1, h1, k1⟩ := bind_inv_u e
  obtain ⟨rfl, rfl⟩ := sx_getNode h1
  rw [hpar] at k1
  simp only [bne_self_eq_false, Bool.false_eq_true, if_false] at k1
  obtain ⟨_, s2, h2, k2⟩ := bind_inv_u k1
  intro q
  rw [modNode_proj (·.children) k2 (fun _ => rfl) q, modNode_getD h2 q]
  by_cases hpq : p = q
  · subst hpq
    rw [if_pos rfl]
    by_cases hl : p < s.nodes.length
    · rw [if_pos ⟨rfl, hl⟩]
    · rw [if_neg (fun h => hl h.2), node_getD_ge _ _ (Nat.le_of_not_lt hl)]; rfl
  · rw [if_neg hpq, if_neg (fun h => hpq h.1)]

theorem sx_insertBefore (P : Nat → Prop) {hp node ins : Nat} {next : Option Nat} {s s' : St} {u : Unit}
    (hpar : (s.nodes.getD ins default).parent = none)
    (hnx : ∀ v, next = some v → nextIn node (s.nodes.getD hp default).children = some v)
    (hP : P ins) (k2 : insertBefore hp next ins s = .ok (u, s')) : Gn P s.nodes s'.nodes := by
  have hap : ∀ {s'' : St}, appendChild hp ins s = .ok (u, s'') → Gn P s.nodes s''.nodes :=
    fun k => ch_appendChild P s.nodes hp ins hP s u _ (Gn.refl _ _) k
  unfold insertBefore at k2
  cases next with
  | none => exact hap k2
  | some v =>
    have hnx := hnx v rfl
    dsimp only at k2
    obtain ⟨vn, s3, h3, k3⟩ := bind_inv_u k2
    obtain ⟨rfl, rfl⟩ := sx_getNode h3
    split at k3
    · exact hap k3
    · obtain ⟨_, s4, h4, k4⟩ := bind_inv_u k3
      have hs4 : s = s4 := by
        unfold ensureIsolated at h4
        obtain ⟨cn, s5, h5, k5⟩ := bind_inv_u h4
        obtain ⟨rfl, rfl⟩ := sx_getNode h5
        rw [hpar] at k5
        exact (sx_pure k5).2
      subst hs4
      obtain ⟨_, s5, h5, k5⟩ := bind_inv_u k4
      cases h5
      cases k5
      refine Gn.trans (gn_set P _ _ _ (fun c hc => ?_)) (gn_set P _ _ _ (fun c hc => Or.inl hc))
      rcases sx_mem_drop_insBefore hnx hc with h | h
      · exact Or.inl h
      · exact Or.inr (h ▸ hP)

theorem sx_insertAfter (P : Nat → Prop) {hp node ins : Nat} {s s' : St} {u : Unit}
    (hpar : (s.nodes.getD ins default).parent = none) (hnp : (s.nodes.getD node default).parent = some hp)
    (hP : P ins) (e : insertAfter hp (some node) ins s = .ok (u, s')) : Gn P s.nodes s'.nodes := by
  unfold insertAfter at e
  dsimp only at e
  obtain ⟨next, s1, h1, k1⟩ := bind_inv_u e
  obtain ⟨rfl, hv, _⟩ := sx_nextSibling (p := hp) h1
  have hv := hv hnp
  split at k1
  · obtain ⟨next2, s2, h2, k2⟩ := bind_inv_u k1
    obtain ⟨rfl, _, hn⟩ := sx_nextSibling (p := 0) h2
    exact sx_insertBefore P (node := node) hpar (fun v h => by rw [hn hpar] at h; cases h) hP k2
  · obtain ⟨next2, s2, h2, k2⟩ := bind_inv_u k1
    obtain ⟨rfl, rfl⟩ := sx_pure h2
    exact sx_insertBefore P (node := node) hpar (fun v h => by rw [← hv, h]) hP k2

/-- the new Paragraph after the heading (setext_headings.go:90-92), then the heading removed (96) -/
theorem sx_leafA (seg : Segment) {hp node : Nat} {s s' : St} {u : Unit}
    (hnp : (s.nodes.getD node default).parent = some hp)
    (k : (do let para ← newNode { kind := Kind.paragraph }
             appendLine para seg
             insertAfter hp (some node) para
             removeChild hp node : M Unit) s = .ok (u, s')) : CHn s.nodes s'.nodes := by
  obtain ⟨para, s1, h1, k1⟩ := bind_inv_u k
  obtain ⟨_, s2, h2, k2⟩ := bind_inv_u k1
  obtain ⟨_, s3, h3, k3⟩ := bind_inv_u k2
  have hpara : para = s.nodes.length ∧ s1.nodes = s.nodes ++ [{ kind := Kind.paragraph }] := by
    cases h1; exact ⟨rfl, rfl⟩
  obtain ⟨rfl, hs1⟩ := hpara
  have hnl : node < s.nodes.length := by
    apply Nat.lt_of_not_le
    intro hge
    rw [node_getD_ge _ _ hge] at hnp
    cases hnp
  have g1 : Gn (fun c => s.nodes.length ≤ c) s.nodes s1.nodes := by
    rw [hs1]; exact gn_append _ _ _ rfl
  have g2 : Gn (fun c => s.nodes.length ≤ c) s1.nodes s2.nodes :=
    ch_appendLine _ s1.nodes _ seg s1 _ s2 (Gn.refl _ _) h2
  unfold appendLine at h2
  have hp2 : ∀ i, (s2.nodes.getD i default).parent = (s1.nodes.getD i default).parent :=
    fun i => modNode_proj (·.parent) h2 (fun _ => rfl) i
  have hpar : (s2.nodes.getD s.nodes.length default).parent = none := by
    rw [hp2, hs1, getD_append_node, if_neg (Nat.lt_irrefl _), if_pos rfl]
  have hnp2 : (s2.nodes.getD node default).parent = some hp := by
    rw [hp2, hs1, getD_append_node, if_pos hnl]; exact hnp
  have g3 : Gn (fun c => s.nodes.length ≤ c) s2.nodes s3.nodes :=
    sx_insertAfter _ hpar hnp2 (Nat.le_refl _) h3
  have g4 : Gn (fun c => s.nodes.length ≤ c) s3.nodes s'.nodes :=
    ch_removeChild _ s3.nodes hp node s3 u s' (Gn.refl _ _) k3
  exact Gn.trans (Gn.trans (Gn.trans g1 g2) g3) g4

theorem sx_setextClose {node t : Nat} {s s' : St} {u : Unit} (ht : s.pc.tmpPara = some t) (hne : node ≠ t)
    (hnode : node < s.nodes.length) (e : bpClose .setext node s = .ok (u, s')) : SXP node t s.nodes s'.nodes := by
  have e : setextClose node s = .ok (u, s') := e
  unfold setextClose at e
  obtain ⟨hn, s1, h1, k1⟩ := bind_inv_u e
  obtain ⟨rfl, rfl⟩ := sx_getNode h1
  obtain ⟨seg, s2, h2, k2⟩ := bind_inv_u k1
  obtain ⟨_, rfl⟩ := sx_liftE h2
  obtain ⟨_, s3, h3, k3⟩ := bind_inv_u k2
  obtain ⟨pc4, s4, h4, k4⟩ := bind_inv_u k3
  obtain ⟨rfl, rfl⟩ := sx_getPc h4
  have hpc3 : s3.pc = s.pc := by cases h3; rfl
  rw [hpc3, ht] at k4
  dsimp only at k4
  obtain ⟨tmp, s4, h4', k4'⟩ := bind_inv_u k4
  obtain ⟨rfl, rfl⟩ := sx_pure h4'
  obtain ⟨_, s5, h5, k5⟩ := bind_inv_u k4'
  obtain ⟨tn, s6, h6, k6⟩ := bind_inv_u k5
  obtain ⟨rfl, rfl⟩ := sx_getNode h6
  have hn5 : s5.nodes = s3.nodes := by cases h5; rfl
  have ht5 : s5.nodes.getD t default = s.nodes.getD t default := by
    rw [hn5, modNode_getD h3, if_neg (fun h => hne h.1)]
  rw [ht5] at k6
  have hl3 : s3.nodes.length = s.nodes.length := modNode_len h3
  have hf3 : ∀ i, (s3.nodes.getD i default).blankPrev = (s.nodes.getD i default).blankPrev :=
    fun i => modNode_proj (·.blankPrev) h3 (fun _ => rfl) i
  have hb3 : BPn s.nodes s3.nodes :=
    ⟨by rw [hl3]; exact Nat.le_refl _, fun i _ => hf3 i,
      fun i hi => by rw [hf3 i]; exact getD_default_blankPrev _ i hi⟩
  cases hz : ((s.nodes.getD t default).lines.length == 0) with
  | true =>
    rw [hz, if_pos rfl] at k6
    have hbA : BPn s5.nodes s'.nodes := by
      refine Keeps.ok (I := BPI s5.nodes) ?_ (BPn.refl _) k6
      have := bp_nextSibling s5.nodes
      have := bp_appendLine s5.nodes
      have := bp_insertAfter s5.nodes
      have := bp_removeChild s5.nodes
      bpk
    have hcA : CHn s5.nodes s'.nodes := by
      obtain ⟨next, s6, h6, k6⟩ := bind_inv_u k6
      obtain ⟨rfl, _, _⟩ := sx_nextSibling (p := 0) h6
      obtain ⟨src, s7, h7, k7⟩ := bind_inv_u k6
      obtain rfl := sx_source h7
      obtain ⟨seg2, s8, h8, k8⟩ := bind_inv_u k7
      obtain ⟨_, rfl⟩ := sx_liftE h8
      obtain ⟨nn, s9, h9, k9⟩ := bind_inv_u k8
      obtain ⟨rfl, rfl⟩ := sx_getNode h9
      cases hpp : (s5.nodes.getD node default).parent with
      | none =>
        rw [hpp] at k9
        dsimp only at k9
        obtain ⟨_, _, h, _⟩ := bind_inv_u k9
        cases h
      | some hp =>
        rw [hpp] at k9
        dsimp only at k9
        obtain ⟨hp', s10, h10, k10⟩ := bind_inv_u k9
        obtain ⟨rfl, rfl⟩ := sx_pure h10
        cases next with
        | none =>
          dsimp only at k10
          obtain ⟨nip, s11, h11, k11⟩ := bind_inv_u k10
          obtain ⟨rfl, rfl⟩ := sx_pure h11
          rw [if_pos (show (!false) = true from by decide)] at k11
          exact sx_leafA seg2 hpp k11
        | some nx =>
          dsimp only at k10
          obtain ⟨nxn, s11, h11, k11⟩ := bind_inv_u k10
          obtain ⟨rfl, rfl⟩ := sx_getNode h11
          obtain ⟨nip, s12, h12, k12⟩ := bind_inv_u k11
          obtain ⟨rfl, rfl⟩ := sx_pure h12
          cases hk : ((s5.nodes.getD nx default).kind == Kind.paragraph) with
          | false =>
            rw [hk, if_pos (show (!false) = true from by decide)] at k12
            exact sx_leafA seg2 hpp k12
          | true =>
            rw [hk, if_neg (by decide : ¬ ((!true) = true))] at k12
            refine Keeps.ok (I := GI (fun c => s5.nodes.length ≤ c) s5.nodes) ?_ (Gn.refl _ _) k12
            have := ch_removeChild (fun c => s5.nodes.length ≤ c) s5.nodes
            chk
    have hc3 : CHn s.nodes s3.nodes :=
      ⟨by rw [hl3]; exact Nat.le_refl _, fun q _ c hc =>
        Or.inl (by rw [modNode_proj (·.children) h3 (fun _ => rfl) q] at hc; exact hc)⟩
    rw [hn5] at hbA hcA
    have hb : BPn s.nodes s'.nodes := BPn.trans hb3 hbA
    exact ⟨hb.1, fun i hi _ => hb.2.1 i hi, hb.2.2, fun _ => ⟨hb.2.1 node hnode, CHn.trans hc3 hcA⟩,
      fun h => (by rw [hz] at h; cases h)⟩
  | false =>
    rw [hz, if_neg Bool.false_ne_true] at k6
    obtain ⟨_, s7, h7, k7⟩ := bind_inv_u k6
    have hl7 : s7.nodes.length = s.nodes.length := by rw [modNode_len h7, hn5, hl3]
    have hf7 : ∀ i, (s7.nodes.getD i default).blankPrev =
        if i = node then (s.nodes.getD t default).blankPrev else (s.nodes.getD i default).blankPrev := by
      intro i
      rw [modNode_getD h7 i]
      by_cases hi : i = node
      · subst hi
        rw [if_pos ⟨rfl, by rw [hn5, hl3]; exact hnode⟩, if_pos rfl]
      · rw [if_neg (fun h => hi h.1.symm), if_neg hi, hn5]
        exact hf3 i
    have hc7 : ∀ q, (s7.nodes.getD q default).children = (s.nodes.getD q default).children := by
      intro q
      rw [modNode_proj (·.children) h7 (fun _ => rfl) q, hn5, modNode_proj (·.children) h3 (fun _ => rfl) q]
    have hp7 : (s7.nodes.getD t default).parent = (s.nodes.getD t default).parent := by
      rw [modNode_proj (·.parent) h7 (fun _ => rfl) t, hn5, modNode_proj (·.parent) h3 (fun _ => rfl) t]
    have hB7 : BPn s7.nodes s'.nodes ∧ ∀ q, (s'.nodes.getD q default).children =
        if (s.nodes.getD t default).parent = some q then (s7.nodes.getD q default).children.erase t
        else (s7.nodes.getD q default).children := by
      cases hp : (s.nodes.getD t default).parent with
      | none =>
        rw [hp] at k7
        obtain ⟨_, rfl⟩ := sx_pure k7
        exact ⟨BPn.refl _, fun q => by rw [if_neg (by simp)]⟩
      | some tp =>
        rw [hp] at k7
        dsimp only at k7
        refine ⟨bpn_of_keeps (fun n0 => bp_removeChild n0 tp t) k7, fun q => ?_⟩
        rw [sx_removeChild (hp7.trans hp) k7 q]
        by_cases hq : tp = q
        · rw [if_pos hq, if_pos (by rw [hq])]
        · rw [if_neg hq, if_neg (fun h => hq (Option.some.inj h))]
    refine ⟨by rw [← hl7]; exact hB7.1.1, fun i hi hin => ?_, fun i hi => hB7.1.2.2 i (by rw [hl7]; exact hi),
      fun h => (by rw [hz] at h; cases h), fun _ => ⟨?_, fun q => ?_⟩⟩
    · rw [hB7.1.2.1 i (by rw [hl7]; exact hi), hf7 i, if_neg hin]
    · rw [hB7.1.2.1 node (by rw [hl7]; exact hnode), hf7 node, if_pos rfl]
    · rw [hB7.2 q, hc7 q]

/-- the pair of calls: `FE` across `setextHeadingParser.Close` in both runs -/
theorem fe_bpClose_setext {sA sA' sB sB' : St} {node t : Nat} {uA uB : Unit} (hfe : FE sA.nodes sB.nodes)
    (hlen : sB.nodes.length = sA.nodes.length + 1) (htA : sA.pc.tmpPara = some t)
    (htB : sB.pc.tmpPara = some (t + 1)) (hne : node ≠ t) (hnode : node < sA.nodes.length)
    (hlines : ((sB.nodes.getD (t + 1) default).lines.length == 0) = ((sA.nodes.getD t default).lines.length == 0))
    (hadj : ADJ sA.nodes t node) (eA : bpClose .setext node sA = .ok (uA, sA'))
    (eB : bpClose .setext (node + 1) sB = .ok (uB, sB')) : FE sA'.nodes sB'.nodes :=
  fe_setextClose hfe hlen (sx_setextClose htA hne hnode eA)
    (sx_setextClose htB (fun h => hne (Nat.succ.inj h)) (by rw [hlen]; exact Nat.succ_lt_succ hnode) eB)
    hlines hnode hadj

end GM.Blocks
