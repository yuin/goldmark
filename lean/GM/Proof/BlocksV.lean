/-
  GM.Proof.BlocksV — the monitored driver `runV` of GM.Proof.ConvertHV is the block driver `runC` of GM.Proof.BlocksDriverC with
  `bpCloseV` for the parsers' `Close` (`closeLoopV_eqC … runV_eqC`, GM.Proof.BlocksVT), and `bpCloseV` meets `CloseLike` (`bpCloseV_okl` of
  GM.Proof.BlocksVT: behind a `Close` that gives `NodesOK` the monitor is a no-op). So every theorem of the walk for `runC`
  holds of `runV`: `TV.runV_total` is GM.Proof.BlocksTNPXRun `L.G.X.runG` at `bpCloseV` with `runV_noLoop` (GM.Proof.BlocksVT);
  `TV.closeBlocksV_oke`, `TV.openBlocksV_oke` are GM.Proof.BlocksTNPClose / BlocksTNPOpenA at `bpCloseV`.
  The namespaces `TV`, `TRV`, `L.TV`, `L.BV`, `L.GV` hold the invariants of `T`, `TR`, `L.T`, `L.B`, `L.G` with `bpCloseV` for
  `bpClose`.
-/
import GM.Proof.BlocksTNPTotal
import GM.Proof.BlocksTNPOpenA
import GM.Proof.BlocksVT

namespace GM.Blocks
open GM GM.Text

theorem closeLike_bpCloseV (src : Bytes) : CloseLike src bpCloseV := ⟨bpCloseV_okl⟩

end GM.Blocks


namespace GM.Blocks.TV
open GM GM.Text GM.Spec GM.Proof.Reader

/-- ended normally with `P`, or the fuel error, or the transformers' guard error `e` -/
def OKE (e : Panic) {α : Type} (P : α → St → Prop) (x : Except Panic (α × St)) : Prop :=
  OKL P x ∨ x = .error e

/-- a run that is neither the fuel error nor the guard error ended normally -/
theorem OKE.get {e : Panic} {α} {P : α → St → Prop} {x : Except Panic (α × St)} (h : OKE e P x)
    (hl : x ≠ .error .loop) (he : x ≠ .error e) : ∃ a s', x = .ok (a, s') ∧ P a s' :=
  T.OKE.get (e := e) h hl he

/-- the effect of `transformParagraph pts node` on a Paragraph with a parent and lines; `gone` = its answer -/
structure TStep (src : Bytes) (node : Nat) (s s' : St) (gone : Bool) : Prop where
  r : s'.r = s.r
  pc : ∃ refs, s'.pc = { s.pc with refs := refs }
  len : s.nodes.length ≤ s'.nodes.length
  kind : ∀ i, i < s.nodes.length → (nd s' i).kind = (nd s i).kind
  other : ∀ i, i < s.nodes.length → i ≠ node → (nd s' i).lines = (nd s i).lines
  nodes : NodesOK src s'
  keep : gone = false → (nd s' node).lines ≠ [] ∧ (nd s' node).parent = (nd s node).parent
  goneP : gone = true → (nd s' node).parent = none

/-- `len` + `kind` of `Ext` (what is left of it across a transformer call) -/
structure ExtW (s s' : St) : Prop where
  len : s.nodes.length ≤ s'.nodes.length
  kind : ∀ i, i < s.nodes.length → (nd s' i).kind = (nd s i).kind

theorem TStep.opened {src node s s' g} (h : TStep src node s s' g) : s'.pc.opened = s.pc.opened := by
  obtain ⟨r, e⟩ := h.pc; rw [e]

/-- closing `c` (with its transformation when it is a paragraph) does not invalidate the kept block `k` -/
def CompatT (s : St) (k c : Block) : Prop :=
  Compat s k c ∧ (c.bp = .paragraph → k.bp = .paragraph → k.node ≠ c.node)

section close
variable {src : Bytes} {A : BP → Prop} (sp : Specs src A) {e : Panic} {pts : List PT} (hpts : PTsSpec src e pts)
include sp hpts

/-- what `closeBlocksV` guarantees about the state -/
def ClosedT (src : Bytes) (K : List Block) (s s' : St) : Prop :=
  s'.r = s.r ∧ NodesOK src s' ∧ KeysOK s' ∧ ExtW s s' ∧ (s'.pc.tmpPara = s.pc.tmpPara ∨ s'.pc.tmpPara = none) ∧
    ∀ k ∈ K, BlockOK s' k

/-- `closeBlocksV(from, to)` on `openedBlocks = pre ++ mid ++ post` with `to = |pre|`, `from = |pre| + |mid| - 1`: the blocks
    of `mid` are closed (last first; a paragraph is transformed first and closed only if it is still there),
    `pre ++ post` stays -/
theorem closeBlocksV_oke (pre mid post : List Block) (s : St) (hop : s.pc.opened = pre ++ mid ++ post)
    (hsrc : s.r.source = src) (hn : NodesOK src s) (hk : KeysOK s)
    (hmid : ∀ b ∈ mid, BlockOK s b ∧ A b.bp) (hleafy : Leafy mid)
    (htmp : ∀ top, mid.getLast? = some top → top.bp = .paragraph → s.pc.tmpPara ≠ some top.node)
    (hK : ∀ k ∈ pre ++ post, BlockOK s k ∧ ∀ top, mid.getLast? = some top → CompatT s k top) :
    OKE e (fun _ s' => s'.pc.opened = pre ++ post ∧ ClosedT src (pre ++ post) s s')
      (closeBlocksV pts ((pre.length : Int) + (mid.length : Int) - 1) (pre.length : Int) s) := by
  rw [closeBlocksV_eqC]
  exact (T.closeBlocksC_oke sp hpts (closeLike_bpCloseV src) pre mid post s hop hsrc hn hk hmid hleafy htmp hK).mono
    (fun _ _ ⟨ho, hr, hn', hk', he', ht', hK'⟩ => ⟨ho, hr, hn', hk', ⟨he'.len, he'.kind⟩, ht', hK'⟩)

end close

/-- what `openBlocksV` hands back: `new'` = the blocks it appended; the temporary paragraph key is unset -/
def OBPostT (src : Bytes) (A : BP → Prop) (old : List Block) (s0 : St) (c : RCur) (res : OpenResult) (s' : St) : Prop :=
  ∃ c' new', RIa src s'.r c' ∧ c.p ≤ c'.p ∧ Win src A old s0 s' new' ∧ Leafy new' ∧
    (∀ k ∈ new', ∀ b ∈ old, CompatT s' k b) ∧ (res = .paragraphContinuation → new' = []) ∧ s'.pc.tmpPara = none

/-- the state invariant at line boundaries (no setext parser: the temporary paragraph key is unset) -/
structure Stable (src : Bytes) (A : BP → Prop) (s : St) : Prop where
  nodes : NodesOK src s
  keys : KeysOK s
  blocks : ∀ b ∈ s.pc.opened, BlockOK s b ∧ A b.bp
  leafy : Leafy s.pc.opened
  tmp : s.pc.tmpPara = none

section tp
variable {src : Bytes} {A : BP → Prop} (sp : Specs src A) {e : Panic} {pts : List PT} (hpts : PTsSpec src e pts)
  (hNS : ¬ A .setext)
include sp hpts hNS

theorem openBlocksV_oke (hT : ∀ ch ∈ src, ∀ bps, triggered ch = some bps → ∀ bp ∈ bps, A bp) (hFree : ∀ bp ∈ freeParsers, A bp)
    (parent : Nat) (blank : Bool) (s : St) (c : RCur) (hri : RI src s.r c) (hpad : PadOK c) (hst : Stable src A s) :
    OKE e (OBPostT src A s.pc.opened s c) (openBlocksV pts parent blank s) := by
  rw [openBlocksV_eqC]
  exact T.openBlocksC_oke sp hpts hNS hT hFree parent blank s c hri hpad ⟨hst.nodes, hst.keys, hst.blocks, hst.leafy, hst.tmp⟩

end tp

/-- no byte of the source triggers `setextHeadingParser`: no `-`, no `=` -/
def SetextFree (src : Bytes) : Prop := ∀ b ∈ src, b ≠ 45 ∧ b ≠ 61

instance (src : Bytes) : Decidable (SetextFree src) := by unfold SetextFree; infer_instance

end GM.Blocks.TV

namespace GM.Blocks.L.TV
open GM GM.Text GM.Spec GM.Proof.Reader GM.Blocks.TV

/-- the state invariant at line boundaries (cf. `L.StableL`); the temporary paragraph key is unset -/
structure StableLT (src : Bytes) (root : Nat) (s : St) : Prop where
  nodes : NodesOK src s
  keys : KeysOK s
  blocks : ∀ b ∈ s.pc.opened, BlockOK s b
  leafy : Leafy s.pc.opened
  ls : LStore s root
  chain : ChainedO s root s.pc.opened
  endOK : (nd s (lastNode root s.pc.opened)).kind ≠ .list
  tmp : s.pc.tmpPara = none

end GM.Blocks.L.TV

namespace GM.Blocks.L.BV
open GM GM.Text GM.Spec GM.Proof.Reader GM.Blocks.TV

/-- no view of (the rest of) a line of the source is a setext heading underline -/
def NoSetextBar (src : Bytes) : Prop :=
  ∀ (c : RCur) (ch : UInt8), matchesSetextHeadingBar ((RCur.view src c).getD []) ≠ .ok (ch, true)

/-- the state invariant at line boundaries (cf. `L.StableL`); the temporary paragraph key is unset -/
structure StableLT (src : Bytes) (root : Nat) (s : St) : Prop where
  nodes : NodesOK src s
  keys : KeysOK s
  blocks : ∀ b ∈ s.pc.opened, BlockOK s b
  leafy : Leafy s.pc.opened
  ls : LStore s root
  chain : ChainedO s root s.pc.opened
  endOK : (nd s (lastNode root s.pc.opened)).kind ≠ .list
  tmp : s.pc.tmpPara = none

end GM.Blocks.L.BV

namespace GM.Blocks.TRV
open GM GM.Text GM.Spec GM.Proof.Reader GM.Blocks.TV

structure TreeOK (s : St) : Prop where
  pc : ∀ i p, (nd s i).parent = some p → i ∈ (nd s p).children
  cp : ∀ p i, i ∈ (nd s p).children → (nd s i).parent = some p
  nodup : ∀ p, (nd s p).children.Nodup

/-- `x` is the last child of `q` and nowhere else -/
structure LK (s : St) (x q : Nat) : Prop where
  par : (nd s x).parent = some q
  last : (nd s q).children.getLast? = some x
  only : ∀ p, x ∈ (nd s p).children → p = q

end GM.Blocks.TRV

namespace GM.Blocks.L.GV
open GM GM.Text GM.Spec GM.Proof.Reader GM.Blocks.TV GM.Blocks.TRV

/-- temporaryParagraphKey, when set, points to a paragraph that has lines -/
def TmpOK (s : St) : Prop :=
  ∀ t, s.pc.tmpPara = some t → t < s.nodes.length ∧ (nd s t).kind = .paragraph ∧ (nd s t).lines ≠ []

/-- the key is live while a setext heading block is open -/
def TL (s : St) : Prop := (∃ b ∈ s.pc.opened, b.bp = .setext) → TmpOK s

/-- nodes with index ≥ `N` have no children -/
def KQ (N : Nat) (s : St) : Prop := ∀ j, N ≤ j → (nd s j).children = []

structure KN {α : Type} (N : Nat) (m : M α) : Prop where
  h : ∀ s a s', m s = .ok (a, s') → KQ N s → KQ N s'

theorem get_kn {N} : KN N (get : M St) := ⟨(L.G.get_kn (N := N)).h⟩
theorem advanceLine_kn {N} : KN N advanceLine := ⟨(L.G.advanceLine_kn (N := N)).h⟩

structure Win (src : Bytes) (A : BP → Prop) (old : List Block) (s0 s : St) (new : List Block) : Prop where
  nodes : NodesOK src s
  keys : W.KeysOKF s
  ext : ExtW s0 s
  shape : s.pc.opened = old ++ new ∨ (old ≠ [] ∧ s.pc.opened = old.dropLast ++ new)
  blocks : ∀ b ∈ s.pc.opened, BlockOK s b ∧ A b.bp
  oldlt : ∀ b ∈ old, b.node < s0.nodes.length
  leafyOld : Leafy old
  fresh : ∀ b ∈ new, s0.nodes.length ≤ b.node
  lastParent : ∀ lb, new.getLast? = some lb → (nd s lb.node).parent.isSome = true

structure Mid (src : Bytes) (A : BP → Prop) (old : List Block) (s0 : St) (id : Nat) (bp : BP) (s : St)
    (new : List Block) : Prop where
  nodes : NodesOK src s
  keys : W.KeysOKF s
  ext : ExtW s0 s
  shape : s.pc.opened = old ++ new ∨ (old ≠ [] ∧ s.pc.opened = old.dropLast ++ new)
  blocks : ∀ b ∈ s.pc.opened, BlockOK s b ∧ A b.bp
  nb : BlockOK s ⟨id, bp⟩
  abp : A bp
  idge : s0.nodes.length ≤ id
  fenceNew : bp = .fenced → ∃ f, s.pc.fence = some f ∧ f.node = id
  setextOld : bp = .setext → ∀ b ∈ old, b.bp ≠ .setext
  tmpS : bp = .setext → TmpOK s

structure WinL (src : Bytes) (old pre : List Block) (root : Nat) (s0 s : St) (new : List Block) : Prop where
  nodes : NodesOK src s
  keys : W.KeysOKF s
  ext : ExtW s0 s
  shape : s.pc.opened = old ++ new ∨ (old ≠ [] ∧ s.pc.opened = old.dropLast ++ new)
  blocks : ∀ b ∈ s.pc.opened, BlockOK s b
  oldlt : ∀ b ∈ old, b.node < s0.nodes.length
  leafyOld : Leafy old
  fresh : ∀ b ∈ new, s0.nodes.length ≤ b.node
  ls : LStore s root
  chain : ChainedO s root (pre ++ new)
  stack : ∃ suf, s.pc.opened = pre ++ suf ++ new
  tsame : new = [] → s.pc.opened = old → TreeSame s0 s
  tree : TreeOK s
  tmplt : ∀ t, s.pc.tmpPara = some t → t < s0.nodes.length

structure MidL (src : Bytes) (old pre : List Block) (root : Nat) (s0 : St) (id : Nat) (bp : BP) (s : St)
    (new : List Block) : Prop where
  nodes : NodesOK src s
  keys : W.KeysOKF s
  ext : ExtW s0 s
  shape : s.pc.opened = old ++ new ∨ (old ≠ [] ∧ s.pc.opened = old.dropLast ++ new)
  blocks : ∀ b ∈ s.pc.opened, BlockOK s b
  nb : BlockOK s ⟨id, bp⟩
  idge : s0.nodes.length ≤ id
  fenceNew : bp = .fenced → ∃ f, s.pc.fence = some f ∧ f.node = id
  setextOld : bp = .setext → ∀ b ∈ old, b.bp ≠ .setext
  -- list part
  ls : LStore s root
  chain : ChainedO s root (pre ++ new)
  stack : ∃ suf, s.pc.opened = pre ++ suf ++ new
  idgt : ∀ b ∈ s.pc.opened, b.node < id
  rootid : root < id
  idpar : (nd s id).parent = none
  idkids : bp = .list → (nd s id).children = []
  idoff : bp = .listItem → 0 ≤ (nd s id).offset
  nopt : ∀ i, (nd s i).parent ≠ some id          -- nobody points to the new node yet
  tree : TreeOK s
  tmpS : bp = .setext → TmpOK s
  tmplt : ∀ t, s.pc.tmpPara = some t → t < s0.nodes.length

/-- the store-level invariants at every point of the driver -/
structure CInv (src : Bytes) (s : St) : Prop where
  nodes : NodesOK src s
  keys : W.KeysOKF s
  kids : KidsOK s
  plt : PLTf s
  tree : TreeOK s

/-- what `closeBlocksV` guarantees; `K` = the blocks that stay open -/
structure CRel (src : Bytes) (K : List Block) (s s' : St) : Prop where
  r : s'.r = s.r
  inv : CInv src s'
  extw : ExtW s s'
  tmp : s'.pc.tmpPara = s.pc.tmpPara ∨ s'.pc.tmpPara = none
  tf : TF s s'
  blocks : ∀ k ∈ K, BlockOK s' k
  tmpok : (∃ k ∈ K, k.bp = .setext) → TmpOK s → TmpOK s'

/-- the state invariant at line boundaries -/
structure StableG (src : Bytes) (root : Nat) (s : St) : Prop where
  nodes : NodesOK src s
  keys : W.KeysOKF s
  blocks : ∀ b ∈ s.pc.opened, BlockOK s b
  leafy : Leafy s.pc.opened
  ls : LStore s root
  chain : ChainedO s root s.pc.opened
  endOK : (nd s (lastNode root s.pc.opened)).kind ≠ .list
  tl : TL s
  tree : TreeOK s
  leafLast : ∀ lb, s.pc.opened.getLast? = some lb → lb.bp.isContainer = false → ∃ q, LK s lb.node q
  tmplt : ∀ t, s.pc.tmpPara = some t → t < s.nodes.length

end GM.Blocks.L.GV

namespace GM.Blocks.TV
open GM GM.Text GM.Spec GM.Proof.Reader

theorem noBar_of_setextFree (src : Bytes) (h : SetextFree src) : L.BV.NoSetextBar src :=
  T.noBar_of_setextFree src h

/-- **the monitored block driver ends normally for EVERY source**, or with the transformers' run-time guard error `e`; the final
    state satisfies `NodesOK` (all line segments inside the source) and `KidsOK` -/
theorem runV_total (src : Bytes) (e : Panic) (pts : List PT) (hs : PTsSpec src e pts) (hl : PTsOK pts) :
    (∃ s, runV pts src = .ok s ∧ NodesOK src s ∧ KidsOK s) ∨ runV pts src = .error e := by
  have := L.G.X.runG (lsp_all src) (L.G.X.ptsSpecX_of_ptsSpec hs) (closeLike_bpCloseV src)
  rw [← runV_eqC] at this
  rcases this with h | h | h
  · exact .inl h
  · exact absurd h (runV_noLoop hl src)
  · exact .inr h

theorem runV_total_noBar (src : Bytes) (e : Panic) (pts : List PT) (hs : PTsSpec src e pts) (hl : PTsOK pts)
    (hsrc : L.BV.NoSetextBar src) :
    (∃ s, runV pts src = .ok s ∧ NodesOK src s) ∨ runV pts src = .error e :=
  (runV_total src e pts hs hl).imp_left fun ⟨s, h, hn, _⟩ => ⟨s, h, hn⟩

/-- the same with the list shape of the final store: children of a List are ListItems (with offset ≥ 0), a node whose
    parent is a List is a ListItem -/
theorem runV_total_noBar_kids (src : Bytes) (e : Panic) (pts : List PT) (hs : PTsSpec src e pts) (hl : PTsOK pts)
    (hsrc : L.BV.NoSetextBar src) :
    (∃ s, runV pts src = .ok s ∧ NodesOK src s ∧ KidsOK s) ∨ runV pts src = .error e :=
  runV_total src e pts hs hl

theorem runV_total_noSetext (src : Bytes) (e : Panic) (pts : List PT) (hs : PTsSpec src e pts) (hl : PTsOK pts)
    (hsrc : SetextFree src) :
    (∃ s, runV pts src = .ok s ∧ NodesOK src s) ∨ runV pts src = .error e :=
  (runV_total src e pts hs hl).imp_left fun ⟨s, h, hn, _⟩ => ⟨s, h, hn⟩

end GM.Blocks.TV
