import GM.Model.Util
import GM.Spec.Html

namespace GM.Proof
open GM GM.Spec

theorem escByte_cases (c : UInt8) :
    (c = 34 ∧ escByte c = [38, 113, 117, 111, 116, 59]) ∨ (c = 38 ∧ escByte c = [38, 97, 109, 112, 59]) ∨
    (c = 60 ∧ escByte c = [38, 108, 116, 59]) ∨ (c = 62 ∧ escByte c = [38, 103, 116, 59]) ∨
    (c ≠ 34 ∧ c ≠ 38 ∧ c ≠ 60 ∧ c ≠ 62 ∧ escByte c = [c]) := by
  revert c; apply forall_uint8; decide +kernel

theorem escapeHTML_cons (c : UInt8) (v : Bytes) : escapeHTML (c :: v) = escByte c ++ escapeHTML v := by
  simp [escapeHTML]

theorem escapeHTML_noRaw (v : Bytes) : noRawSpecial (escapeHTML v) = true := by
  induction v with
  | nil => rfl
  | cons c v ih =>
    rw [escapeHTML_cons]
    unfold noRawSpecial at *
    rw [List.all_append, ih]
    rcases escByte_cases c with ⟨_, h⟩ | ⟨_, h⟩ | ⟨_, h⟩ | ⟨_, h⟩ | ⟨h1, h2, h3, h4, h⟩ <;> rw [h]
    all_goals try decide
    simp [h1, h3, h4]

theorem decode_escapeHTML (v : Bytes) : htmlDecode4 (escapeHTML v) = v := by
  induction v with
  | nil => rfl
  | cons c v ih =>
    rw [escapeHTML_cons]
    rcases escByte_cases c with ⟨hc, h⟩ | ⟨hc, h⟩ | ⟨hc, h⟩ | ⟨hc, h⟩ | ⟨h1, h2, h3, h4, h⟩ <;> rw [h]
    · simp [htmlDecode4, ih, hc]
    · simp [htmlDecode4, ih, hc]
    · simp [htmlDecode4, ih, hc]
    · simp [htmlDecode4, ih, hc]
    · show htmlDecode4 (c :: escapeHTML v) = c :: v
      rw [htmlDecode4.eq_def]
      split <;> simp_all

theorem escapeHTML_amps (v : Bytes) : ampsOK4 (escapeHTML v) = true := by
  induction v with
  | nil => rfl
  | cons c v ih =>
    rw [escapeHTML_cons]
    rcases escByte_cases c with ⟨hc, h⟩ | ⟨hc, h⟩ | ⟨hc, h⟩ | ⟨hc, h⟩ | ⟨h1, h2, h3, h4, h⟩ <;> rw [h]
    · simp [ampsOK4, startsWith, ih]
    · simp [ampsOK4, startsWith, ih]
    · simp [ampsOK4, startsWith, ih]
    · simp [ampsOK4, startsWith, ih]
    · simp [ampsOK4, ih, h2]

/-! ### the entity table

  gmgen writes Go's entity map out in key order, so the keys of `entityTable` are strictly increasing and
  `List.lookup` (first match) finds THE entry of a name. With that, the rows for the ASCII punctuation
  characters cost two passes over the 2,124 entries (order; sublist) instead of one scan per name. -/

def keysAsc {β : Type} : List (Bytes × β) → Bool
  | a :: b :: r => decide (a.1 < b.1) && keysAsc (b :: r)
  | _ => true

theorem keysAsc_lt {β : Type} : ∀ (a : Bytes × β) (r : List (Bytes × β)), keysAsc (a :: r) = true →
    ∀ e ∈ r, a.1 < e.1
  | _, [], _, _, he => by cases he
  | a, b :: r, h, e, he => by
    simp only [keysAsc, Bool.and_eq_true, decide_eq_true_eq] at h
    rcases List.mem_cons.mp he with rfl | he
    · exact h.1
    · exact List.lt_trans h.1 (keysAsc_lt b r h.2 e he)

theorem lookup_of_mem_asc {β : Type} : ∀ (tbl : List (Bytes × β)), keysAsc tbl = true →
    ∀ {k v}, (k, v) ∈ tbl → tbl.lookup k = some v
  | [], _, _, _, h => by cases h
  | a :: r, hs, k, v, h => by
    rcases List.mem_cons.mp h with rfl | h'
    · simp [List.lookup]
    · have hlt : a.1 < k := keysAsc_lt a r hs _ h'
      have hne : (k == a.1) = false := by
        simp only [beq_eq_false_iff_ne, ne_eq]; rintro rfl; exact List.lt_irrefl _ hlt
      have hr : keysAsc r = true := by
        cases r with
        | nil => rfl
        | cons b r => simp only [keysAsc, Bool.and_eq_true] at hs; exact hs.2
      obtain ⟨a1, a2⟩ := a
      simp only [List.lookup, hne]
      exact lookup_of_mem_asc r hr h'

theorem entityTable_asc : keysAsc entityTable = true := by decide +kernel

/-- the HTML5 names of ASCII punctuation that the development relies on (`Spec.CM.namedFor`, and the four that
    EscapeHTML writes), in table order -/
def asciiEnts : List (Bytes × Bytes) :=
  [("Hat", 94), ("amp", 38), ("apos", 39), ("ast", 42), ("bsol", 92), ("colon", 58), ("comma", 44), ("commat", 64),
   ("dollar", 36), ("equals", 61), ("excl", 33), ("grave", 96), ("gt", 62), ("lbrace", 123), ("lowbar", 95),
   ("lpar", 40), ("lsqb", 91), ("lt", 60), ("num", 35), ("percnt", 37), ("period", 46), ("plus", 43),
   ("quest", 63), ("quot", 34), ("rbrace", 125), ("rpar", 41), ("rsqb", 93), ("semi", 59), ("sol", 47),
   ("vert", 124)].map fun e => (strBytes e.1, [e.2])

theorem asciiEnts_sub : asciiEnts.isSublist entityTable = true := by decide +kernel

theorem lookupEntity_ascii {n v : Bytes} (h : (n, v) ∈ asciiEnts) : lookupEntity n = some v :=
  lookup_of_mem_asc _ entityTable_asc ((List.isSublist_iff_sublist.mp asciiEnts_sub).subset h)

end GM.Proof
