/-
  GM.Proof.ConvertLDoc — the tree conversion of a member set (GM.ConvertX.docTreeL; docTreeX is the case without Linkify:
  `docTreeL_off`), once for all members:
    * the renderer reads the member flags only through `handled`, so two sets render alike a tree on whose kinds they agree
      (`renderDocX_exts`);
    * `lvAll p`: every emphasis level of an inline tree satisfies `p` (the representations of Strikethrough and TaskCheckBox are
      emphasis levels), kept by the escaped-pipe walk;
    * the decoding of inline children reads a member's flag only at the levels that represent the member
      (`inlineTreeL_lvAll`), and makes a member's node kind only with the member (`inlineTreeL_kinds`, `docTreeL_kinds`);
    * two member sets with the same block kinds and the same inline phase, which decode alike what that phase returns, give
      the same tree (`docTreeL_congr`); conversion inherits it (`convertL_congr`);
    * no fuel exhaustion (`docTreeL_noLoop`).
-/
import GM.Model.ConvertL
import GM.Proof.ConvertTotal

namespace GM.Proof.ConvertX
open GM GM.Text GM.Convert GM.ConvertX GM.Inl

theorem epure_ok {ε α : Type} {a b : α} (h : (pure a : Except ε α) = .ok b) : b = a := by
  simp only [pure, Except.pure, Except.ok.injEq] at h; exact h.symm

theorem liftErr_ok' {α : Type} {f : Panic → Err} {x : Except Panic α} {a : α} (h : liftErr f x = .ok a) : x = .ok a := by
  cases x with
  | ok b => simp only [liftErr, Except.ok.injEq] at h; rw [h]
  | error e => cases h

mutual
/-- every node kind of the tree satisfies `P` -/
def allKinds (P : Kind → Bool) : GM.Node → Bool
  | .mk k _ cs => P k && allKindsL P cs
def allKindsL (P : Kind → Bool) : List GM.Node → Bool
  | [] => true
  | n :: rest => allKinds P n && allKindsL P rest
end

theorem allKindsL_append (P : Kind → Bool) (a b : List GM.Node) :
    allKindsL P (a ++ b) = (allKindsL P a && allKindsL P b) := by
  induction a with
  | nil => simp [allKindsL]
  | cons x r ih => simp [allKindsL, ih, Bool.and_assoc]

mutual
theorem allKinds_mono {P Q : Kind → Bool} (hPQ : ∀ k, P k = true → Q k = true) :
    ∀ t : GM.Node, allKinds P t = true → allKinds Q t = true
  | .mk k _ cs, h => by
    simp only [allKinds, Bool.and_eq_true] at h ⊢
    exact ⟨hPQ k h.1, allKindsL_mono hPQ cs h.2⟩
theorem allKindsL_mono {P Q : Kind → Bool} (hPQ : ∀ k, P k = true → Q k = true) :
    ∀ ts : List GM.Node, allKindsL P ts = true → allKindsL Q ts = true
  | [], _ => rfl
  | t :: rest, h => by
    simp only [allKindsL, Bool.and_eq_true] at h ⊢
    exact ⟨allKinds_mono hPQ t h.1, allKindsL_mono hPQ rest h.2⟩
end

theorem enter_exts (rc : RCfg) (e : Exts) (p : Bool) (nx : Option GM.Node) (k : Kind) (a : Option (List Attr))
    (cs : List GM.Node) (h : handled e k = handled rc.exts k) :
    enter { rc with exts := e } p nx k a cs = enter rc p nx k a cs := by
  unfold enter
  simp only [h]
  rfl

theorem leave_exts (rc : RCfg) (e : Exts) (p : Bool) (nx : Option GM.Node) (k : Kind) (cs : List GM.Node)
    (h : handled e k = handled rc.exts k) : leave { rc with exts := e } p nx k cs = leave rc p nx k cs := by
  unfold leave
  simp only [h]

theorem nodePanic_exts (rc : RCfg) (e : Exts) (k : Kind) (a : Option (List Attr)) (cs : List GM.Node)
    (h : handled e k = handled rc.exts k) : nodePanic { rc with exts := e } k a cs = nodePanic rc k a cs := by
  unfold nodePanic
  simp only [h]

mutual
theorem renderNode_exts (rc : RCfg) (e : Exts) : ∀ (p : Bool) (nx : Option GM.Node) (t : GM.Node),
    allKinds (fun k => handled e k == handled rc.exts k) t = true →
    renderNode { rc with exts := e } p nx t = renderNode rc p nx t
  | p, nx, .mk k a cs, h => by
    simp only [allKinds, Bool.and_eq_true, beq_iff_eq] at h
    unfold renderNode
    rw [enter_exts rc e p nx k a cs h.1, leave_exts rc e p nx k cs h.1, renderNodes_exts rc e _ cs h.2]
    simp only [h.1]
theorem renderNodes_exts (rc : RCfg) (e : Exts) : ∀ (p : Bool) (ts : List GM.Node),
    allKindsL (fun k => handled e k == handled rc.exts k) ts = true →
    renderNodes { rc with exts := e } p ts = renderNodes rc p ts
  | _, [], _ => by unfold renderNodes; rfl
  | p, t :: rest, h => by
    simp only [allKindsL, Bool.and_eq_true] at h
    unfold renderNodes
    rw [renderNode_exts rc e p _ t h.1, renderNodes_exts rc e p rest h.2]
end

mutual
theorem renderPanicsNode_exts (rc : RCfg) (e : Exts) : ∀ (t : GM.Node),
    allKinds (fun k => handled e k == handled rc.exts k) t = true →
    renderPanicsNode { rc with exts := e } t = renderPanicsNode rc t
  | .mk k a cs, h => by
    simp only [allKinds, Bool.and_eq_true, beq_iff_eq] at h
    unfold renderPanicsNode
    rw [nodePanic_exts rc e k a cs h.1, renderPanicsNodes_exts rc e cs h.2]
    simp only [h.1]
theorem renderPanicsNodes_exts (rc : RCfg) (e : Exts) : ∀ (ts : List GM.Node),
    allKindsL (fun k => handled e k == handled rc.exts k) ts = true →
    renderPanicsNodes { rc with exts := e } ts = renderPanicsNodes rc ts
  | [], _ => by unfold renderPanicsNodes; rfl
  | t :: rest, h => by
    simp only [allKindsL, Bool.and_eq_true] at h
    unfold renderPanicsNodes
    rw [renderPanicsNode_exts rc e t h.1, renderPanicsNodes_exts rc e rest h.2]
end

theorem renderDocX_exts (c1 c2 : XCfg) (o : ROpts) (t : GM.Node)
    (h : allKinds (fun k => handled c1.exts k == handled c2.exts k) t = true) : renderDocX c1 o t = renderDocX c2 o t := by
  have hr : rcfgX c1 o = { rcfgX c2 o with exts := c1.exts } := rfl
  have he : (rcfgX c2 o).exts = c2.exts := rfl
  unfold renderDocX
  rw [hr, render, render, renderPanics, renderPanics, renderNode_exts _ _ _ _ _ (by rw [he]; exact h),
    renderPanicsNode_exts _ _ _ (by rw [he]; exact h)]

end GM.Proof.ConvertX

namespace GM.Proof.ConvertL
open GM GM.Text GM.Convert GM.ConvertX GM.Inl

theorem inlineTblL_off (c : XCfg) (inItem : Bool) : inlineTblL { base := c, linkify := false } inItem = inlineTbl c inItem := by
  funext b; simp [inlineTblL]

theorem inlineLinesL_off (c : XCfg) (g : Bool) (env : Env) (src : Bytes) (inItem : Bool) (lines : List Segment) :
    inlineLinesL { base := c, linkify := false } g env src inItem lines = inlineLines c g env src inItem lines := by
  simp only [inlineLinesL, inlineLines, inlineTblL_off]

theorem inlinePhaseL_off (c : XCfg) (g : Bool) (env : Env) (src : Bytes) (inItem : Bool) (n : GM.Blocks.Node) :
    inlinePhaseL { base := c, linkify := false } g env src inItem n = inlinePhaseX c g env src inItem n := by
  simp only [inlinePhaseL, inlinePhaseX, inlineLinesL_off]

mutual
theorem inlineTreeL_off (c : XCfg) (src : Bytes) : ∀ n : Inl.Node,
    inlineTreeL { base := c, linkify := false } src n = inlineTreeX c src n
  | .text .. => by simp [inlineTreeL, inlineTreeX]
  | .codeSpan ks => by simp [inlineTreeL, inlineTreeX, inlineTreesL_off c src ks]
  | .emphasis lv ks => by simp [inlineTreeL, inlineTreeX, inlineTreesL_off c src ks]
  | .link im d t ks => by simp [inlineTreeL, inlineTreeX, inlineTreesL_off c src ks]
  | .autoLink .. => by simp [inlineTreeL, inlineTreeX]
  | .rawHTML .. => by simp [inlineTreeL, inlineTreeX]
  | .delim .. => by simp [inlineTreeL, inlineTreeX]
  | .label .. => by simp [inlineTreeL, inlineTreeX]
theorem inlineTreesL_off (c : XCfg) (src : Bytes) : ∀ ns : List Inl.Node,
    inlineTreesL { base := c, linkify := false } src ns = inlineTreesX c src ns
  | [] => by simp [inlineTreesL, inlineTreesX]
  | n :: rest => by simp [inlineTreesL, inlineTreesX, inlineTreeL_off c src n, inlineTreesL_off c src rest]
end

mutual
theorem docTreeL_off (c : XCfg) (g : Bool) (env : Env) (src : Bytes) (escs : List Int) (inItem : Bool) :
    ∀ t : GM.Blocks.Tree, docTreeL { base := c, linkify := false } g env src escs inItem t = docTreeX c g env src escs inItem t
  | .node n cs => by
    unfold docTreeL docTreeX
    rw [docTreesL_off c g env src escs _ _ cs, inlinePhaseL_off]
    simp only [inlineTreesL_off]
theorem docTreesL_off (c : XCfg) (g : Bool) (env : Env) (src : Bytes) (escs : List Int) (pi first : Bool) :
    ∀ ts : List GM.Blocks.Tree,
    docTreesL { base := c, linkify := false } g env src escs pi first ts = docTreesX c g env src escs pi first ts
  | [] => by unfold docTreesL docTreesX; rfl
  | t :: rest => by
    unfold docTreesL docTreesX
    rw [docTreeL_off c g env src escs _ t, docTreesL_off c g env src escs _ _ rest]
end

theorem convertLWith_off (c : XCfg) (g : Bool) (uc : List (Nat × (Bool × Bool))) (o : ROpts) (src : Bytes) :
    convertLWith { base := c, linkify := false } g uc o src = convertXWith c g uc o src := by
  unfold convertLWith convertXWith parseDocL parseDocX
  simp only [docTreeL_off]

end GM.Proof.ConvertL

namespace GM.Proof.ConvertLDoc
open GM GM.Text GM.Convert GM.ConvertX GM.Inl GM.Proof.ConvertX

mutual
/-- every emphasis node, at any depth, has a level that satisfies `p` -/
def lvAll (p : Int → Bool) : Inl.Node → Bool
  | .emphasis lv ks => p lv && lvAllL p ks
  | .codeSpan ks => lvAllL p ks
  | .link _ _ _ ks => lvAllL p ks
  | _ => true
def lvAllL (p : Int → Bool) : List Inl.Node → Bool
  | [] => true
  | n :: rest => lvAll p n && lvAllL p rest
end

variable {p : Int → Bool}

theorem lvAllL_append (a b : List Inl.Node) : lvAllL p (a ++ b) = (lvAllL p a && lvAllL p b) := by
  induction a with
  | nil => simp [lvAllL]
  | cons x r ih => simp [lvAllL, ih, Bool.and_assoc]

theorem lvAllL_allText : ∀ (ks : List Inl.Node), ks.all GM.Proof.Inlines.isText = true → lvAllL p ks = true
  | [], _ => rfl
  | n :: rest, h => by
    simp only [List.all_cons, Bool.and_eq_true] at h
    cases n with
    | text s a b c => simp only [lvAllL, lvAll, Bool.true_and]; exact lvAllL_allText rest h.2
    | _ => cases h.1

mutual
theorem lvAll_true : ∀ n : Inl.Node, lvAll (fun _ => true) n = true
  | .emphasis lv ks => by simp only [lvAll, Bool.true_and]; exact lvAllL_true ks
  | .codeSpan ks => by simp only [lvAll]; exact lvAllL_true ks
  | .link _ _ _ ks => by simp only [lvAll]; exact lvAllL_true ks
  | .text .. => rfl
  | .autoLink .. => rfl
  | .rawHTML .. => rfl
  | .delim .. => rfl
  | .label .. => rfl
theorem lvAllL_true : ∀ l : List Inl.Node, lvAllL (fun _ => true) l = true
  | [] => rfl
  | n :: rest => by simp only [lvAllL, Bool.and_eq_true]; exact ⟨lvAll_true n, lvAllL_true rest⟩
end

/-! the escaped-pipe walk below a table cell only cuts Text nodes of code spans -/

theorem escCut_lvAll (a b : Int) : ∀ (ps : List Int) (done : List Inl.Node) (cur : Segment) (cut : Bool),
    lvAllL p done = true → lvAllL p (GM.TableX.escCut a b ps done cur cut).1 = true
  | [], _, _, _, h => by simpa [GM.TableX.escCut] using h
  | pos :: rest, done, cur, cut, h => by
    unfold GM.TableX.escCut
    split
    · exact escCut_lvAll a b rest _ _ _ (by simp [lvAllL_append, h, lvAllL, lvAll, rawTextOf])
    · exact escCut_lvAll a b rest _ _ _ h

mutual
theorem escNode_lvAll (ps : List Int) : ∀ n : Inl.Node, lvAll p n = true → lvAll p (GM.TableX.escNode ps n) = true
  | .codeSpan ks, h => by
    simp only [lvAll] at h
    simp only [GM.TableX.escNode, lvAll]; exact escSpanKids_lvAll ps ks h
  | .emphasis lv ks, h => by
    simp only [lvAll, Bool.and_eq_true] at h
    simp only [GM.TableX.escNode, lvAll, Bool.and_eq_true]; exact ⟨h.1, escNodes_lvAll ps ks h.2⟩
  | .link _ _ _ ks, h => by
    simp only [lvAll] at h
    simp only [GM.TableX.escNode, lvAll]; exact escNodes_lvAll ps ks h
  | .text .., _ => rfl
  | .autoLink .., _ => rfl
  | .rawHTML .., _ => rfl
  | .delim .., _ => rfl
  | .label .., _ => rfl
theorem escNodes_lvAll (ps : List Int) : ∀ ns : List Inl.Node, lvAllL p ns = true → lvAllL p (GM.TableX.escNodes ps ns) = true
  | [], _ => rfl
  | n :: rest, h => by
    simp only [lvAllL, Bool.and_eq_true] at h
    simp only [GM.TableX.escNodes, lvAllL, Bool.and_eq_true]
    exact ⟨escNode_lvAll ps n h.1, escNodes_lvAll ps rest h.2⟩
theorem escSpanKids_lvAll (ps : List Int) : ∀ ns : List Inl.Node, lvAllL p ns = true → lvAllL p (GM.TableX.escSpanKids ps ns) = true
  | [], _ => rfl
  | n :: rest, h => by
    simp only [lvAllL, Bool.and_eq_true] at h
    cases n with
    | text seg so ha ra =>
      simp only [GM.TableX.escSpanKids, lvAllL_append, Bool.and_eq_true]
      refine ⟨?_, escSpanKids_lvAll ps rest h.2⟩
      split
      · simp only [lvAllL_append, Bool.and_eq_true]
        exact ⟨escCut_lvAll _ _ ps [] seg false rfl, by simp [lvAllL, lvAll, rawTextOf]⟩
      · simp [lvAllL, lvAll]
    | _ =>
      simp only [GM.TableX.escSpanKids, lvAllL, Bool.and_eq_true]
      exact ⟨escNode_lvAll ps _ h.1, escSpanKids_lvAll ps rest h.2⟩
end

mutual
theorem inlineTreeL_lvAll (c1 c2 : GCfg) (hl : c1.linkify = c2.linkify)
    (hs : c1.base.strikethrough = c2.base.strikethrough ∨ ∀ lv, p lv = true → lv ≠ -3 ∧ lv ≠ -4)
    (ht : c1.base.tasklist = c2.base.tasklist ∨ ∀ lv, p lv = true → lv ≠ -1 ∧ lv ≠ -2) (src : Bytes) :
    ∀ n : Inl.Node, lvAll p n = true → inlineTreeL c1 src n = inlineTreeL c2 src n
  | .text .., _ => by simp [inlineTreeL]
  | .codeSpan ks, h => by
    simp only [lvAll] at h
    simp only [inlineTreeL, inlineTreesL_lvAll c1 c2 hl hs ht src ks h]
  | .emphasis lv ks, h => by
    simp only [lvAll, Bool.and_eq_true] at h
    have e1 : (c1.base.strikethrough && (lv == -3 || lv == -4)) = (c2.base.strikethrough && (lv == -3 || lv == -4)) := by
      rcases hs with hs | hs
      · rw [hs]
      · have := hs lv h.1
        have h0 : (lv == -3 || lv == -4) = false := by
          simp only [Bool.or_eq_false_iff, beq_eq_false_iff_ne, ne_eq]; exact this
        rw [h0, Bool.and_false, Bool.and_false]
    have e2 : (c1.base.tasklist && lv == -1) = (c2.base.tasklist && lv == -1) ∧
        (c1.base.tasklist && lv == -2) = (c2.base.tasklist && lv == -2) := by
      rcases ht with ht | ht
      · rw [ht]; exact ⟨rfl, rfl⟩
      · have := ht lv h.1
        have h1 : (lv == -1) = false := by simp only [beq_eq_false_iff_ne, ne_eq]; exact this.1
        have h2 : (lv == -2) = false := by simp only [beq_eq_false_iff_ne, ne_eq]; exact this.2
        simp only [h1, h2, Bool.and_false, and_self]
    simp only [inlineTreeL, inlineTreesL_lvAll c1 c2 hl hs ht src ks h.2, e1, e2.1, e2.2]
  | .link _ _ _ ks, h => by
    simp only [lvAll] at h
    simp only [inlineTreeL, inlineTreesL_lvAll c1 c2 hl hs ht src ks h]
  | .autoLink .., _ => by simp [inlineTreeL, hl]
  | .rawHTML .., _ => by simp [inlineTreeL]
  | .delim .., _ => by simp [inlineTreeL]
  | .label .., _ => by simp [inlineTreeL]
theorem inlineTreesL_lvAll (c1 c2 : GCfg) (hl : c1.linkify = c2.linkify)
    (hs : c1.base.strikethrough = c2.base.strikethrough ∨ ∀ lv, p lv = true → lv ≠ -3 ∧ lv ≠ -4)
    (ht : c1.base.tasklist = c2.base.tasklist ∨ ∀ lv, p lv = true → lv ≠ -1 ∧ lv ≠ -2) (src : Bytes) :
    ∀ ns : List Inl.Node, lvAllL p ns = true → inlineTreesL c1 src ns = inlineTreesL c2 src ns
  | [], _ => by simp [inlineTreesL]
  | n :: rest, h => by
    simp only [lvAllL, Bool.and_eq_true] at h
    simp only [inlineTreesL, inlineTreeL_lvAll c1 c2 hl hs ht src n h.1, inlineTreesL_lvAll c1 c2 hl hs ht src rest h.2]
end

/-- the kinds of a tree without the kinds of the members that are off: `s`, `t`, `tb` = Strikethrough, TaskList, Table are on -/
def memberKind (s t tb : Bool) : Kind → Bool
  | .strikethrough => s
  | .taskCheckBox _ => t
  | .table | .tableHeader | .tableRow | .tableCell _ => tb
  | _ => true

theorem memberKind_mono {s t tb s' t' tb' : Bool} (hs : s = true → s' = true) (ht : t = true → t' = true)
    (hb : tb = true → tb' = true) : ∀ k, memberKind s t tb k = true → memberKind s' t' tb' k = true := by
  intro k h
  cases k <;> first | rfl | exact hs h | exact ht h | exact hb h

mutual
theorem inlineTreeL_kinds (c : GCfg) (src : Bytes) : ∀ (n : Inl.Node) (t : GM.Node),
    inlineTreeL c src n = .ok t → allKinds (memberKind c.base.strikethrough c.base.tasklist false) t = true
  | .text .., t, h => by
    unfold inlineTreeL at h
    obtain ⟨v, _, h⟩ := Reader.bind_ok h
    rw [epure_ok h]; rfl
  | .codeSpan ks, t, h => by
    unfold inlineTreeL at h
    obtain ⟨cs, hcs, h⟩ := Reader.bind_ok h
    rw [epure_ok h]
    simp only [allKinds, memberKind, Bool.true_and]
    exact inlineTreesL_kinds c src ks cs hcs
  | .emphasis lv ks, t, h => by
    unfold inlineTreeL at h
    obtain ⟨cs, hcs, h⟩ := Reader.bind_ok h
    have hk := inlineTreesL_kinds c src ks cs hcs
    split at h
    · rename_i hc
      rw [epure_ok h]; simp only [allKinds, memberKind, Bool.and_eq_true]
      exact ⟨(Bool.and_eq_true _ _ ▸ hc).1, hk⟩
    · split at h
      · rename_i hc
        rw [epure_ok h]; simp only [allKinds, memberKind, Bool.and_eq_true]
        exact ⟨(Bool.and_eq_true _ _ ▸ hc).1, hk⟩
      · split at h
        · rename_i hc
          rw [epure_ok h]; simp only [allKinds, memberKind, Bool.and_eq_true]
          exact ⟨(Bool.and_eq_true _ _ ▸ hc).1, hk⟩
        · rw [epure_ok h]; simp only [allKinds, memberKind, Bool.true_and]; exact hk
  | .link im d tt ks, t, h => by
    unfold inlineTreeL at h
    obtain ⟨cs, hcs, h⟩ := Reader.bind_ok h
    have hk := inlineTreesL_kinds c src ks cs hcs
    rw [epure_ok h]
    simp only [allKinds, Bool.and_eq_true]
    refine ⟨?_, hk⟩
    split <;> rfl
  | .autoLink .., t, h => by
    unfold inlineTreeL at h
    split at h
    · obtain ⟨v, _, h⟩ := Reader.bind_ok h
      rw [epure_ok h]; rfl
    · obtain ⟨v, _, h⟩ := Reader.bind_ok h
      rw [epure_ok h]; rfl
  | .rawHTML .., t, h => by
    unfold inlineTreeL at h
    obtain ⟨v, _, h⟩ := Reader.bind_ok h
    rw [epure_ok h]; rfl
  | .delim .., t, h => by
    unfold inlineTreeL at h
    rw [epure_ok h]; rfl
  | .label .., t, h => by
    unfold inlineTreeL at h
    rw [epure_ok h]; rfl
theorem inlineTreesL_kinds (c : GCfg) (src : Bytes) : ∀ (ns : List Inl.Node) (ts : List GM.Node),
    inlineTreesL c src ns = .ok ts → allKindsL (memberKind c.base.strikethrough c.base.tasklist false) ts = true
  | [], ts, h => by
    unfold inlineTreesL at h
    rw [epure_ok h]; rfl
  | n :: rest, ts, h => by
    unfold inlineTreesL at h
    obtain ⟨t, h1, h⟩ := Reader.bind_ok h
    obtain ⟨ts', h2, h⟩ := Reader.bind_ok h
    rw [epure_ok h]
    simp only [allKindsL, Bool.and_eq_true]
    exact ⟨inlineTreeL_kinds c src n t h1, inlineTreesL_kinds c src rest ts' h2⟩
end

theorem blockKind_kinds {src : Bytes} {n : GM.Blocks.Node} {k : Kind} (h : blockKind src n = .ok k) :
    memberKind false false false k = true := by
  unfold blockKind at h
  split at h
  case h_8 =>
    dsimp only at h
    split at h
    · obtain ⟨a, _, h⟩ := Reader.bind_ok h
      obtain ⟨b, hb, h⟩ := Reader.bind_ok h
      obtain ⟨c, _, h⟩ := Reader.bind_ok h
      rw [epure_ok h]; rfl
    · obtain ⟨b, hb, h⟩ := Reader.bind_ok h
      obtain ⟨c, _, h⟩ := Reader.bind_ok h
      rw [epure_ok h]; rfl
  case h_9 =>
    dsimp only at h
    split at h
    · obtain ⟨a, _, h⟩ := Reader.bind_ok h
      obtain ⟨b, hb, h⟩ := Reader.bind_ok h
      obtain ⟨c, _, h⟩ := Reader.bind_ok h
      rw [epure_ok h]; rfl
    · obtain ⟨b, hb, h⟩ := Reader.bind_ok h
      obtain ⟨c, _, h⟩ := Reader.bind_ok h
      rw [epure_ok h]; rfl
  all_goals first
    | (rw [epure_ok h]; rfl)
    | (obtain ⟨a, _, h⟩ := Reader.bind_ok h; rw [epure_ok h]; rfl)

theorem kindOf_cases (src : Bytes) (n : GM.Blocks.Node) :
    GM.TableX.kindOf src n = none ∨ GM.TableX.kindOf src n = some .table ∨ GM.TableX.kindOf src n = some .tableHeader ∨
      GM.TableX.kindOf src n = some .tableRow ∨ ∃ a, GM.TableX.kindOf src n = some (.tableCell a) := by
  unfold GM.TableX.kindOf
  split
  · split
    · exact Or.inr (Or.inl rfl)
    · split
      · exact Or.inr (Or.inr (Or.inl rfl))
      · split
        · exact Or.inr (Or.inr (Or.inr (Or.inl rfl)))
        · split
          · exact Or.inr (Or.inr (Or.inr (Or.inr ⟨_, rfl⟩)))
          · exact Or.inl rfl
  · exact Or.inl rfl

theorem blockKindX_kinds {c : XCfg} {src : Bytes} {n : GM.Blocks.Node} {k : Kind} (h : blockKindX c src n = .ok k) :
    memberKind false false c.table k = true := by
  unfold blockKindX at h
  split at h
  · rename_i hc
    rw [hc]
    rcases kindOf_cases src n with e | e | e | e | ⟨a, e⟩
    · rw [e] at h
      exact memberKind_mono (fun h => h) (fun h => h) (fun _ => rfl) k (blockKind_kinds h)
    all_goals (rw [e] at h; rw [epure_ok h]; rfl)
  · exact memberKind_mono (fun h => h) (fun h => h) (fun h => by cases h) k (blockKind_kinds h)

mutual
theorem docTreeL_kinds (c : GCfg) (g : Bool) (env : Env) (src : Bytes) (escs : List Int) :
    ∀ (inItem : Bool) (t : GM.Blocks.Tree) (x : GM.Node), docTreeL c g env src escs inItem t = .ok x →
    allKinds (memberKind c.base.strikethrough c.base.tasklist c.base.table) x = true
  | inItem, .node n cs, x, h => by
    unfold docTreeL at h
    obtain ⟨bs, h1, h⟩ := Reader.bind_ok h
    obtain ⟨kids, _, h⟩ := Reader.bind_ok h
    obtain ⟨is, h3, h⟩ := Reader.bind_ok h
    obtain ⟨k, h4, h⟩ := Reader.bind_ok h
    rw [epure_ok h]
    simp only [allKinds, allKindsL_append, Bool.and_eq_true]
    exact ⟨memberKind_mono (fun h => by cases h) (fun h => by cases h) (fun h => h) k (blockKindX_kinds (liftErr_ok' h4)),
      docTreesL_kinds c g env src escs _ _ cs bs h1,
      allKindsL_mono (memberKind_mono (fun h => h) (fun h => h) (fun h => by cases h)) is
        (inlineTreesL_kinds c src _ is (liftErr_ok' h3))⟩
theorem docTreesL_kinds (c : GCfg) (g : Bool) (env : Env) (src : Bytes) (escs : List Int) :
    ∀ (pi first : Bool) (ts : List GM.Blocks.Tree) (xs : List GM.Node), docTreesL c g env src escs pi first ts = .ok xs →
    allKindsL (memberKind c.base.strikethrough c.base.tasklist c.base.table) xs = true
  | _, _, [], xs, h => by
    unfold docTreesL at h
    rw [epure_ok h]; rfl
  | pi, first, t :: rest, xs, h => by
    unfold docTreesL at h
    obtain ⟨x, h1, h⟩ := Reader.bind_ok h
    obtain ⟨xs', h2, h⟩ := Reader.bind_ok h
    rw [epure_ok h]
    simp only [allKindsL, Bool.and_eq_true]
    exact ⟨docTreeL_kinds c g env src escs _ t x h1, docTreesL_kinds c g env src escs _ _ rest xs' h2⟩
end

/-- what makes two member sets build the same tree: the same block kinds, the same inline phase, whose children (every level
    satisfies `p`) both decode alike; the escaped-pipe walk is the same or not taken -/
structure SameTree (p : Int → Bool) (c1 c2 : GCfg) (g : Bool) (env : Env) (src : Bytes) (escs1 escs2 : List Int) : Prop where
  kind : ∀ n, blockKindX c1.base src n = blockKindX c2.base src n
  phase : ∀ inItem n, inlinePhaseL c1 g env src inItem n = inlinePhaseL c2 g env src inItem n
  esc : ∀ n kids, (if c1.base.table && GM.TableX.isCellNode src n then GM.TableX.escNodes escs1 kids else kids) =
    (if c2.base.table && GM.TableX.isCellNode src n then GM.TableX.escNodes escs2 kids else kids)
  kids : ∀ inItem n kids, inlinePhaseL c2 g env src inItem n = .ok kids → lvAllL p kids = true
  dec : ∀ ns, lvAllL p ns = true → inlineTreesL c1 src ns = inlineTreesL c2 src ns

mutual
theorem docTreeL_congr {c1 c2 : GCfg} {g : Bool} {env : Env} {src : Bytes} {escs1 escs2 : List Int}
    (H : SameTree p c1 c2 g env src escs1 escs2) : ∀ (inItem : Bool) (t : GM.Blocks.Tree),
    docTreeL c1 g env src escs1 inItem t = docTreeL c2 g env src escs2 inItem t
  | inItem, .node n cs => by
    unfold docTreeL
    rw [docTreesL_congr H _ _ cs, H.phase, H.kind]
    refine bind_congr fun bs => ?_
    cases hq : inlinePhaseL c2 g env src inItem n with
    | error e => rfl
    | ok kids =>
      have hl := H.kids inItem n kids hq
      simp only [bind, Except.bind, H.esc]
      rw [H.dec]
      split
      · exact escNodes_lvAll escs2 kids hl
      · exact hl
theorem docTreesL_congr {c1 c2 : GCfg} {g : Bool} {env : Env} {src : Bytes} {escs1 escs2 : List Int}
    (H : SameTree p c1 c2 g env src escs1 escs2) : ∀ (pi first : Bool) (ts : List GM.Blocks.Tree),
    docTreesL c1 g env src escs1 pi first ts = docTreesL c2 g env src escs2 pi first ts
  | _, _, [] => by unfold docTreesL; rfl
  | pi, first, t :: rest => by
    unfold docTreesL
    rw [docTreeL_congr H _ t, docTreesL_congr H _ _ rest]
end

theorem parseDocL_congr {c1 c2 : GCfg} {g : Bool} {src : Bytes} (hb : blockPhaseX c1.base g src = blockPhaseX c2.base g src)
    (H : ∀ env t, SameTree p c1 c2 g env src (if c1.base.table then GM.TableX.escOfTree src t else [])
      (if c2.base.table then GM.TableX.escOfTree src t else [])) (uc : List (Nat × (Bool × Bool))) :
    parseDocL c1 g uc src = parseDocL c2 g uc src := by
  unfold parseDocL
  rw [hb]
  exact bind_congr fun st => docTreeL_congr (H _ _) _ _

theorem convertL_congr {c1 c2 : GCfg} {uc : List (Nat × (Bool × Bool))} {src : Bytes}
    (hp : parseDocL c1 true uc src = parseDocL c2 true uc src)
    (hr : ∀ k, memberKind c2.base.strikethrough c2.base.tasklist c2.base.table k = true →
      handled c1.base.exts k = handled c2.base.exts k) (o : ROpts) :
    convertL c1 uc o src = convertL c2 uc o src := by
  unfold convertL convertLWith
  rw [hp]
  cases hq : parseDocL c2 true uc src with
  | error e => rfl
  | ok t =>
    simp only [bind, Except.bind]
    apply renderDocX_exts
    unfold parseDocL at hq
    obtain ⟨st, _, hq⟩ := Reader.bind_ok hq
    exact allKinds_mono (fun k hk => by simp only [beq_iff_eq]; exact hr k hk) t (docTreeL_kinds c2 true _ src _ _ _ t hq)

theorem inlinePhaseL_noLoop {c : GCfg} {env : Env} {src : Bytes}
    (H : ∀ inItem lines e, inlineLinesL c true env src inItem lines = .error e → e.isLoop = false) (inItem : Bool)
    (n : GM.Blocks.Node) {e : Err} (h : inlinePhaseL c true env src inItem n = .error e) : e.isLoop = false := by
  unfold inlinePhaseL at h
  split at h
  · cases h
  · split at h
    · cases h
    · split at h
      · cases h
      · exact H _ _ _ h

theorem liftErr_value_err {α : Type} {x : Except Panic α} {e : Err} (h : liftErr .value x = .error e) : ∃ p, e = .value p := by
  cases x with
  | ok a => cases h
  | error p => exact ⟨p, by cases h; rfl⟩

mutual
/-- **the errors of the tree conversion**: an error of the inline phase of a block, or a `Segment.Value` panic -/
theorem docTreeL_error {c : GCfg} {g : Bool} {env : Env} {src : Bytes} {E : Err → Prop}
    (hp : ∀ inItem n e, inlinePhaseL c g env src inItem n = .error e → E e) (hv : ∀ p, E (.value p)) (escs : List Int) :
    ∀ (inItem : Bool) (t : GM.Blocks.Tree) (e : Err), docTreeL c g env src escs inItem t = .error e → E e
  | inItem, .node n cs, e, h => by
    unfold docTreeL at h
    simp only [bind, Except.bind] at h
    cases h1 : docTreesL c g env src escs (n.kind == .listItem) true cs with
    | error e1 => rw [h1] at h; cases h; exact docTreesL_error hp hv escs _ _ cs _ h1
    | ok bs =>
      rw [h1] at h
      simp only at h
      cases h2 : inlinePhaseL c g env src inItem n with
      | error e2 => rw [h2] at h; cases h; exact hp inItem n _ h2
      | ok kids =>
        rw [h2] at h
        simp only at h
        cases h3 : liftErr Err.value
            (inlineTreesL c src (if (c.base.table && GM.TableX.isCellNode src n) = true then GM.TableX.escNodes escs kids else kids)) with
        | error e3 => rw [h3] at h; cases h; obtain ⟨p, rfl⟩ := liftErr_value_err h3; exact hv p
        | ok is =>
          rw [h3] at h
          simp only at h
          cases h4 : liftErr Err.value (blockKindX c.base src n) with
          | error e4 => rw [h4] at h; cases h; obtain ⟨p, rfl⟩ := liftErr_value_err h4; exact hv p
          | ok k => rw [h4] at h; cases h
theorem docTreesL_error {c : GCfg} {g : Bool} {env : Env} {src : Bytes} {E : Err → Prop}
    (hp : ∀ inItem n e, inlinePhaseL c g env src inItem n = .error e → E e) (hv : ∀ p, E (.value p)) (escs : List Int) :
    ∀ (pi first : Bool) (ts : List GM.Blocks.Tree) (e : Err), docTreesL c g env src escs pi first ts = .error e → E e
  | _, _, [], e, h => by unfold docTreesL at h; cases h
  | pi, first, t :: rest, e, h => by
    unfold docTreesL at h
    simp only [bind, Except.bind] at h
    cases h1 : docTreeL c g env src escs (pi && first) t with
    | error e1 => rw [h1] at h; cases h; exact docTreeL_error hp hv escs _ t _ h1
    | ok x =>
      rw [h1] at h
      simp only at h
      cases h2 : docTreesL c g env src escs pi false rest with
      | error e2 => rw [h2] at h; cases h; exact docTreesL_error hp hv escs _ _ rest _ h2
      | ok xs => rw [h2] at h; cases h
end

theorem docTreeL_noLoop {c : GCfg} {env : Env} {src : Bytes}
    (H : ∀ inItem lines e, inlineLinesL c true env src inItem lines = .error e → e.isLoop = false) (escs : List Int) :
    ∀ (inItem : Bool) (t : GM.Blocks.Tree) (e : Err),
    docTreeL c true env src escs inItem t = .error e → e.isLoop = false :=
  docTreeL_error (E := fun e => e.isLoop = false) (fun i n _ => inlinePhaseL_noLoop H i n) (fun _ => rfl) escs

theorem docTreesL_noLoop {c : GCfg} {env : Env} {src : Bytes}
    (H : ∀ inItem lines e, inlineLinesL c true env src inItem lines = .error e → e.isLoop = false) (escs : List Int) :
    ∀ (pi first : Bool) (ts : List GM.Blocks.Tree) (e : Err),
    docTreesL c true env src escs pi first ts = .error e → e.isLoop = false :=
  docTreesL_error (E := fun e => e.isLoop = false) (fun i n _ => inlinePhaseL_noLoop H i n) (fun _ => rfl) escs

end GM.Proof.ConvertLDoc
