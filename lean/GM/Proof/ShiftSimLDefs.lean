/-
  GM.Proof.ShiftSimLDefs — the shift simulation WITH the two list parsers: the interfaces between the pieces.
  The list parsers read children lists (`LastChild`, the walk of `listParser.Close`), which differ between the runs for
  the Document (node 0: run B's Document also has the children of the prefix). So their contracts need facts about run
  A's store: the node is not the Document and no children list mentions node 0 — the unary invariant `K` of
  GM.Proof.ShiftSimAcyc2, which every driver function keeps. The driver lemmas of this family (GM.Proof.ShiftSimDriverL) are
  the instance of the one driver proof `Xs.G` with `K` as run A's invariant (all ten parsers are candidates).
-/
import GM.Proof.ShiftSimDriver
import GM.Proof.ShiftSimAcyc2

namespace GM.Blocks.Sh
open GM GM.Text GM.Spec GM.Proof.Reader GM.Blocks

/-- the per-parser contracts, all ten parsers; `Continue` of `listItemParser` on a line is separate (`coLI`): it needs
    the facts the no-panic proof has about the list the item belongs to -/
structure PSimL (F : Frame) (b : Bytes) : Prop where
  op : ∀ bp, OpenSim F b bp
  cl : ∀ bp node rA rB sA sB, SRL F b rA rB sA sB → K sA → 0 < node →
    P2 (fun _ _ sA' sB' => SRL F b rA rB sA' sB') (bpClose bp node sA) (bpClose bp (F.ι node) sB)
  co : ∀ bp, bp ≠ .listItem → ∀ node sA sB, SR F b sA sB → HasLine b sA → K sA → 0 < node →
    P2 (fun x y sA' sB' => y = x ∧ SRLim F b sA' sB' ∧ ((x.cont = true ∧ x.hasChildren = false) ∨ SR F b sA' sB'))
      (bpContinue bp node sA) (bpContinue bp (F.ι node) sB)
  coEof : ∀ bp node sA sB, SR F b sA sB → (∃ c, RI b sA.r c ∧ ¬ c.p < b.length) → K sA → 0 < node →
    P2 (fun x y sA' sB' => y = x ∧ SRLim F b sA' sB') (bpContinue bp node sA) (bpContinue bp (F.ι node) sB)
  coLI : ∀ node sA sB, SR F b sA sB → HasLine b sA → K sA → 0 < node →
    (∀ p, (sA.nodes.getD node default).parent = some p → p ≠ 0) →
    (∀ a sA', listItemContinue node sA = .ok (a, sA') → ∃ c', RI b sA'.r c') →
    P2 (fun x y sA' sB' => y = x ∧ SR F b sA' sB') (bpContinue .listItem node sA) (bpContinue .listItem (F.ι node) sB)

/-- `closeBlocks` under the relation (proved in GM.Proof.ShiftSimDriverL) -/
def CloseBlocksSimL (F : Frame) (b : Bytes) : Prop :=
  ∀ (frm to : Int) (rA rB : Reader) (sA sB : St), SRL F b rA rB sA sB → K sA →
    P2 (fun _ _ sA' sB' => SRL F b rA rB sA' sB' ∧ K sA') (closeBlocks frm to sA) (closeBlocks frm to sB)

/-- what one run of the candidate loop establishes (`sA0`: run A's state at its start, `resIn` / `lbIn`: the `result` and
    `lastBlock` it got) -/
structure TryPostL (F : Frame) (b : Bytes) (sA0 : St) (resIn : OpenResult) (lbIn : Option Block)
    (x : TryOutcome × OpenResult × Option Block) (sA' sB' : St) : Prop where
  lim : SRLim F b sA' sB'
  k : K sA'
  lb : ∀ l, x.2.2 = some l → 0 < l.node
  par : ∀ p, x.1 = .retry p → p < sA'.nodes.length
  sr : ((∃ p, x.1 = .retry p) ∨ x.2.1 = .noBlocksOpened) → SR F b sA' sB'
  line : sA0.r.line ≤ sA'.r.line
  hasLine : x.2.1 = .noBlocksOpened → HasLine b sA'
  ne : x.2.1 = .newBlocksOpened → (resIn = .newBlocksOpened → sA0.pc.opened ≠ []) → sA'.pc.opened ≠ []
  /-- nothing opened: the stack of open blocks is the old one, `lastBlock` is the one handed in or the last open block -/
  same : x.2.1 = .noBlocksOpened → resIn = .noBlocksOpened ∧ sA'.pc.opened = sA0.pc.opened ∧
    (x.2.2 = lbIn ∨ x.2.2 = sA0.pc.opened.getLast?)
  retryNew : ∀ p, x.1 = .retry p → x.2.1 = .newBlocksOpened

/-- the candidate loop of `openBlocks` under the relation (proved in GM.Proof.ShiftSimDriverL) -/
def TryParsersSimL (F : Frame) (b : Bytes) : Prop :=
  ∀ (parent : Nat) (blankLine continuable : Bool) (w : Int) (bps : List BP) (result : OpenResult)
    (lastBlock : Option Block) (sA sB : St),
    (∀ l, lastBlock = some l → 0 < l.node) → SR F b sA sB → HasLine b sA → K sA → parent < sA.nodes.length →
    P2 (fun x y sA' sB' => y = (shO F x.1, x.2.1, x.2.2.map (shB F)) ∧ TryPostL F b sA result lastBlock x sA' sB')
      (tryParsers parent blankLine continuable w bps result lastBlock sA)
      (tryParsers (F.ι parent) blankLine continuable w bps result (lastBlock.map (shB F)) sB)

/-- a block whose node is a Paragraph does not belong to `listItemParser` (so `openBlocks` never asks
    `listItemParser.Continue` about a "continuable" last block); follows from `BlockOK` -/
def NoLI (continuable : Bool) (o : Option Block) : Prop := continuable = true → ∀ x, o = some x → x.bp ≠ .listItem

/-- `openBlocks` under the relation (proved in GM.Proof.ShiftSimDriverL) -/
def OpenBlocksSimL (F : Frame) (b : Bytes) : Prop :=
  ∀ (parent : Nat) (blank : Bool) (sA sB : St), SRw F b sA sB → K sA → parent < sA.nodes.length →
    (∀ x, sA.pc.opened.getLast? = some x → (sA.nodes.getD x.node default).kind = .paragraph → x.bp ≠ .listItem) →
    P2 (fun x y sA' sB' => y = x ∧ SRLim F b sA' sB' ∧ K sA' ∧ sA.r.line ≤ sA'.r.line ∧
        (x = OpenResult.newBlocksOpened → sA'.pc.opened ≠ []))
      (openBlocks parent blank sA) (openBlocks (F.ι parent) blank sB)

end GM.Blocks.Sh
