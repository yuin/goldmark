/-
  GM.Proof.E2EAstLabel — clause (a) of C05 ("the result is a tree: sibling links both ways, ChildCount, parent links, no
  node twice") for ANY tree that is built as nested lists and then numbered: `relabel` fills the identity / link fields
  of a position dump (`GM.Spec.PNode`, the format of the harness dumper `DumpPositions`) from the nesting itself —
  id = preorder number, `parent` = the id of the node it hangs below, `fwd` = `bwd` = the ids of the children in order,
  `count` = their number. For such a dump the five link clauses of `Spec.nodeClause` and `node-occurs-twice` of
  `Spec.wfAst` hold BY CONSTRUCTION, and `wfAst` reduces to the clauses that speak about kinds, places, levels and
  segments (`SemNode`), which do not look at the identity fields.

  (The model `GM.Convert` builds the parsed document as nested lists — `Blocks.Tree` read off the node store, inline
  children as `List Inl.Node` — so clause (a) cannot fail for it; that the REAL parser's intrusive doubly linked lists
  agree with the nested-list view is C13 / C05's `parser_traces_refine`.)
-/
import GM.Spec.AstWF
import GM.Proof.RenderWF.Grammar

namespace GM.E2E
open GM GM.Spec

mutual
def psize : PNode → Nat
  | .mk _ cs => 1 + psizeL cs
def psizeL : List PNode → Nat
  | [] => 0
  | c :: r => psize c + psizeL r
end

mutual
/-- number the nodes in preorder from `next` on and fill the link fields; `par` = the id reported as `Parent()` -/
def relabel (next : Nat) (par : Int) : PNode → PNode
  | .mk i cs =>
    .mk { i with id := next, parent := par, count := cs.length, hasChildren := !cs.isEmpty,
                 fwd := (relabelL (next + 1) next cs).map (·.info.id),
                 bwd := (relabelL (next + 1) next cs).map (·.info.id) }
      (relabelL (next + 1) next cs)
def relabelL (next : Nat) (par : Nat) : List PNode → List PNode
  | [] => []
  | c :: r => relabel next par c :: relabelL (next + psize c) par r
end

theorem relabel_info (next : Nat) (par : Int) (i : PInfo) (cs : List PNode) :
    (relabel next par (.mk i cs)).info =
      { i with id := next, parent := par, count := cs.length, hasChildren := !cs.isEmpty,
               fwd := (relabelL (next + 1) next cs).map (·.info.id),
               bwd := (relabelL (next + 1) next cs).map (·.info.id) } := by
  simp [relabel, PNode.info]

theorem relabelL_length (next par : Nat) : ∀ cs, (relabelL next par cs).length = cs.length
  | [] => by simp [relabelL]
  | c :: r => by simp [relabelL, relabelL_length (next + psize c) par r]

theorem relabelL_parent (par : Nat) : ∀ (next : Nat) (cs : List PNode), ∀ c ∈ relabelL next par cs, c.info.parent = (par : Int)
  | _, [], c, h => by simp [relabelL] at h
  | next, d :: r, c, h => by
    simp only [relabelL, List.mem_cons] at h
    rcases h with rfl | h
    · cases d with
      | mk i cs => rw [relabel_info]
    · exact relabelL_parent par _ r c h

mutual
theorem allIds_relabel (next : Nat) (par : Int) : ∀ t, allIds (relabel next par t) = List.range' next (psize t)
  | .mk i cs => by
    simp only [relabel, allIds, psize, allIdsL_relabelL (next + 1) next cs]
    rw [Nat.add_comm 1, List.range'_succ]
theorem allIdsL_relabelL (next par : Nat) : ∀ cs, allIdsL (relabelL next par cs) = List.range' next (psizeL cs)
  | [] => by simp [relabelL, allIdsL, psizeL]
  | c :: r => by
    simp only [relabelL, allIdsL, psizeL, allIds_relabel next par c, allIdsL_relabelL (next + psize c) par r]
    rw [List.range'_append_1]
end

theorem allIds_nodup (next : Nat) (par : Int) (t : PNode) :
    ((allIds (relabel next par t)).eraseDups.length != (allIds (relabel next par t)).length) = false := by
  rw [allIds_relabel, GM.Proof.RenderWF.eraseDups_of_nodup _ (List.nodup_range' (step := 1) (by decide))]
  simp

mutual
theorem inlineSegs_relabel (next : Nat) (par : Int) : ∀ t, inlineSegs (relabel next par t) = inlineSegs t
  | .mk i cs => by
    simp only [relabel, inlineSegs, inlineSegsL_relabelL (next + 1) next cs]
theorem inlineSegsL_relabelL (next par : Nat) : ∀ cs, inlineSegsL (relabelL next par cs) = inlineSegsL cs
  | [] => by simp [relabelL]
  | c :: r => by
    simp only [relabelL, inlineSegsL, inlineSegs_relabel next par c, inlineSegsL_relabelL (next + psize c) par r]
end

/-- the clauses of `Spec.nodeClause` behind the five link clauses, for a node with info `i`, children `cs`, below a node
    of kind / node type `pk` (`none` = root), `inLink` = inside a Link -/
structure SemNode (len : Nat) (pk : Option (String × NType)) (inLink : Bool) (i : PInfo) (cs : List PNode) : Prop where
  pub : publicKinds.contains i.kind = true
  root : pk = none → i.kind = "Document"
  blockBelowInline : ∀ p, pk = some p → (i.ntype == NType.block && p.2 == NType.inline) = false
  inlineBelowDoc : ∀ p, pk = some p → (i.ntype == NType.inline && p.2 == NType.document) = false
  itemOutside : (match pk with | some p => (i.kind == "ListItem" && p.1 != "List") | none => i.kind == "ListItem") = false
  listChild : ∀ p, pk = some p → (p.1 == "List" && i.kind != "ListItem") = false
  codeSpan : ∀ p, pk = some p → (p.1 == "CodeSpan" && i.kind != "Text") = false
  heading : (i.kind == "Heading" && !(decide (1 ≤ i.level) && decide (i.level ≤ 6))) = false
  emphasis : (i.kind == "Emphasis" && !(decide (1 ≤ i.level) && decide (i.level ≤ 2))) = false
  link : (i.kind == "Link" && inLink) = false
  segs : (!i.segs.all (segOK len) || !i.xsegs.all (segOK len)) = false
  lines : (i.isLines && !linesIncreasing 0 i.segs) = false
  inl : (i.isLines && !i.segs.isEmpty && !rawBlockKinds.contains i.kind) = true →
    ((inlineSegsL cs).filter (segOK len)).all (fun s =>
        decide ((i.segs.head?.map (fun (s : Seg) => s.start)).getD 0 ≤ s.start) &&
        decide (s.stop ≤ (i.segs.getLast?.map (fun (s : Seg) => s.stop)).getD 0)) = true ∧
    linesIncreasing 0 ((inlineSegsL cs).filter (segOK len)) = true

mutual
/-- `SemNode` everywhere in the tree -/
def semWf (len : Nat) (pk : Option (String × NType)) (inLink : Bool) : PNode → Prop
  | .mk i cs => SemNode len pk inLink i cs ∧ semWfL len (i.kind, i.ntype) (inLink || i.kind == "Link") cs
def semWfL (len : Nat) (pk : String × NType) (inLink : Bool) : List PNode → Prop
  | [] => True
  | c :: r => semWf len (some pk) inLink c ∧ semWfL len pk inLink r
end

theorem nodeClause_relabel (len : Nat) (parent : Option PInfo) (inLink : Bool) (next : Nat) (par : Int) (i : PInfo)
    (cs : List PNode) (hroot : parent = none → par = -1)
    (h : SemNode len (parent.map fun p => (p.kind, p.ntype)) inLink i cs) :
    nodeClause len parent inLink (relabel next par (.mk i cs)).info (relabelL (next + 1) next cs) = none := by
  rw [relabel_info]
  have hpar : (relabelL (next + 1) next cs).any (fun c => c.info.parent != ((next : Nat) : Int)) = false := by
    rw [List.any_eq_false]
    intro c hc
    simp [relabelL_parent next _ cs c hc]
  have hlen : (List.map (fun x => x.info.id) (relabelL (next + 1) next cs)).length = cs.length := by
    simp [relabelL_length]
  have hemp : (List.map (fun x => x.info.id) (relabelL (next + 1) next cs)).isEmpty = cs.isEmpty := by
    cases cs <;> simp [relabelL]
  unfold nodeClause
  simp only [bne_self_eq_false, Bool.false_eq_true, if_false, hlen, hemp, hpar, h.pub, Bool.not_true, h.heading,
    h.emphasis, h.link, h.segs, h.lines, inlineSegsL_relabelL]
  cases parent with
  | none =>
    have h1 : (i.kind != "Document") = false := by rw [h.root rfl]; rfl
    have h5 := h.itemOutside
    simp only [Option.map] at h5
    simp only [h1, hroot rfl, h5, bne_self_eq_false, Bool.or_self, Bool.false_eq_true, if_false]
    split
    · rename_i hc
      have := h.inl hc
      simp only [this.1, this.2, Bool.not_true, Bool.false_eq_true, if_false]
    · rfl
  | some p =>
    have h3 := h.blockBelowInline _ rfl
    have h4 := h.inlineBelowDoc _ rfl
    have h5 := h.itemOutside
    have h6 := h.listChild _ rfl
    have h7 := h.codeSpan _ rfl
    simp only [Option.map] at h5
    simp only at h3 h4 h6 h7
    simp only [h3, h4, h5, h6, h7, Bool.false_eq_true, if_false]
    split
    · rename_i hc
      have := h.inl hc
      simp only [this.1, this.2, Bool.not_true, Bool.false_eq_true, if_false]
    · rfl

mutual
theorem wfNode_relabel (len : Nat) (parent : Option PInfo) (inLink : Bool) (next : Nat) (par : Int)
    (hroot : parent = none → par = -1) : ∀ t, semWf len (parent.map fun p => (p.kind, p.ntype)) inLink t →
    wfNode len parent inLink (relabel next par t) = none
  | .mk i cs, h => by
    simp only [semWf] at h
    have h1 := nodeClause_relabel len parent inLink next par i cs hroot h.1
    rw [relabel_info] at h1
    simp only [relabel, wfNode, h1]
    exact wfNodes_relabelL len _ _ (next + 1) next cs h.2
theorem wfNodes_relabelL (len : Nat) (parent : PInfo) (inLink : Bool) (next par : Nat) : ∀ cs,
    semWfL len (parent.kind, parent.ntype) inLink cs → wfNodes len parent inLink (relabelL next par cs) = none
  | [], _ => by simp [relabelL, wfNodes]
  | c :: r, h => by
    simp only [semWfL] at h
    have h1 := wfNode_relabel len (some parent) inLink next par (fun e => by cases e) c h.1
    simp only [relabelL, wfNodes, h1]
    exact wfNodes_relabelL len parent inLink (next + psize c) par r h.2
end

/-- **C05 for a numbered nested-list tree**: `wfAst` answers "well formed" as soon as the identity-free clauses hold -/
theorem wfAst_relabel (len : Nat) (t : PNode) (h : semWf len none false t) : wfAst len (relabel 0 (-1) t) = none := by
  unfold wfAst
  rw [allIds_nodup]
  simp only [Bool.false_eq_true, if_false]
  exact wfNode_relabel len none false 0 (-1) (fun _ => rfl) t h

end GM.E2E
