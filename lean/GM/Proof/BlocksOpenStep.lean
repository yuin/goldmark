/-
  GM.Proof.BlocksOpenStep — what `Open` of any of the ten block parsers does, stated without any invariant of the walk
  that calls it: `bpOpen_openStep`. From a reader at cursor `c` on a line (`LineCtx`) and a bound `L ≤ c.p`: where the reader
  stands afterwards, that the stack and `blockOffset` stay, that at most one node is appended and what its lines are
  (`open_newNode`), what the answer says, and what happens to temporaryParagraphKey. The invariants of the walks
  (`Inv`, `InvG`, …) are carried over this step by their `snoc` lemmas.
-/
import GM.Proof.BlocksOrdOpen
import GM.Proof.BlocksBP

namespace GM.Blocks
open GM GM.Text GM.Spec GM.Proof.Reader
open GM.Proof.BlocksWF0 (isRaw)

/-- `bpOpen bp parent` took `s` with cursor `c` to `s'` with cursor `c'` and answered `a`. `L` is a lower bound of `c.p` (the
    callers take the start of the current source line); it enters only through `PadL` of GM.Proof.BlocksOrdRaw (virtual padding
    only behind position `L`). `sxpadl`: setextHeadingParser.Open leaves a cursor with `PadL L`; `stop`: the reader's line end
    (`Stop` of GM.Proof.BlocksTerm) is not in front of the end of the line `c` stands on; `pnew`: a new Paragraph has exactly
    one line, and it ends where that source line ends -/
structure OpenStep (src : Bytes) (L : Int) (bp : BP) (s : St) (c c' : RCur) (a : Option Nat × PState) (s' : St) : Prop where
  ri : RI src s'.r c'
  pad : PadOK c'
  le : c.p ≤ c'.p
  same : a.1 = none → c' = c
  prog : a.2.hasChildren = true → c' = c ∨ c.p < c'.p
  sxpadl : bp = .setext → PadL L c'
  stop : Stop src (lineEnd src c.p : Int) s'
  opened : s'.pc.opened = s.pc.opened
  boff : s'.pc.blockOffset = s.pc.blockOffset
  declined : a.1 = none → s'.nodes = s.nodes
  node : ∀ id, a.1 = some id → id = s.nodes.length ∧ ∃ n, s'.nodes = s.nodes ++ [n] ∧ n.kind = bp.kind ∧ NodeOK src n ∧
    NodeB (lineEnd src c.p : Int) n ∧ (n.kind = .paragraph → n.lines ≠ [] ∧ ∀ t ∈ n.lines, NonBlankSeg src t)
  kids : a.2.hasChildren = true → a.1.isSome = true ∧ bp.isContainer = true
  req : a.2.requirePara = true → bp = .setext
  tmp : (bp = .setext ∧ a.1.isSome = true ∧
      ∃ lb, s.pc.opened.getLast? = some lb ∧ (nd s lb.node).kind = .paragraph ∧ s'.pc.tmpPara = some lb.node) ∨
    ((bp ≠ .setext ∨ a.1 = none) ∧ s'.pc.tmpPara = s.pc.tmpPara)
  pnew : ∀ id, a.1 = some id → bp = .paragraph → ∃ seg, (nd s' id).lines = [seg] ∧ seg.stop = (lineEnd src c.p : Int)

section
variable {src : Bytes} {L : Int} {bp : BP} {s s' : St} {c c' : RCur} {a : Option Nat × PState}

/-- a node that has been appended is the one the answer names -/
theorem OpenStep.new (h : OpenStep src L bp s c c' a s') {n : Node} (hn : s'.nodes = s.nodes ++ [n]) :
    a.1 = some s.nodes.length ∧ n.kind = bp.kind ∧ NodeOK src n ∧ NodeB (lineEnd src c.p : Int) n ∧
      (n.kind = .paragraph → n.lines ≠ [] ∧ ∀ t ∈ n.lines, NonBlankSeg src t) := by
  cases ha : a.1 with
  | none => exfalso; rw [h.declined ha] at hn; simp at hn
  | some id =>
    obtain ⟨hid, m, hm, hk, hok, hb, hp⟩ := h.node id ha
    rw [hm] at hn
    have : n = m := by simpa using hn.symm
    subst this
    exact ⟨by rw [hid], hk, hok, hb, hp⟩

/-- the node of a container has no lines -/
theorem OpenStep.kidsNoLines (h : OpenStep src L bp s c c' a s') (hch : a.2.hasChildren = true) {n : Node}
    (hn : s'.nodes = s.nodes ++ [n]) : n.lines = [] := by
  obtain ⟨_, hk, _, hb, _⟩ := h.new hn
  refine hb.2.2 ?_
  rw [hk]
  rcases BP.isContainer_cases bp (h.kids hch).2 with rfl | rfl | rfl <;> rfl

end

theorem bpOpen_openStep {src : Bytes} {L : Int} {s s' : St} {c : RCur} (bp : BP) (parent : Nat) {a : Option Nat × PState}
    (hctx : LineCtx src s c) (hL : L ≤ c.p) (hpl : PadL L c) (e : bpOpen bp parent s = .ok (a, s')) :
    ∃ c', OpenStep src L bp s c c' a s' := by
  -- the reader never moves its line end back
  have hstop : Stop src (lineEnd src c.p : Int) s' := by
    have := (bpOpen_pres (stop_prims src (lineEnd src c.p : Int)) bp parent).h s hctx.ri.stop
    rw [e] at this; exact this
  -- the lines of the new node come from `open_newNode`
  have mk : ∀ (c' : RCur), RI src s'.r c' → PadOK c' → c.p ≤ c'.p → (a.1 = none → c' = c) →
      (a.2.hasChildren = true → c' = c ∨ c.p < c'.p) → (bp = .setext → PadL L c') →
      s'.pc.opened = s.pc.opened → s'.pc.blockOffset = s.pc.blockOffset → (a.1 = none → s'.nodes = s.nodes) →
      (∀ id, a.1 = some id → id = s.nodes.length ∧ ∃ n, s'.nodes = s.nodes ++ [n] ∧ n.kind = bp.kind ∧ NodeOK src n) →
      (a.2.hasChildren = true → a.1.isSome = true ∧ bp.isContainer = true) → (a.2.requirePara = true → bp = .setext) →
      ((bp = .setext ∧ a.1.isSome = true ∧
          ∃ lb, s.pc.opened.getLast? = some lb ∧ (nd s lb.node).kind = .paragraph ∧ s'.pc.tmpPara = some lb.node) ∨
        ((bp ≠ .setext ∨ a.1 = none) ∧ s'.pc.tmpPara = s.pc.tmpPara)) →
      (∀ id, a.1 = some id → bp = .paragraph → ∃ seg, (nd s' id).lines = [seg] ∧ seg.stop = (lineEnd src c.p : Int)) →
      ∃ c', OpenStep src L bp s c c' a s' := by
    intro c' hri hpad hle hsame hprog hsx ho hbo hnone hsome hkids hreq htmp hpn
    refine ⟨c', hri, hpad, hle, hsame, hprog, hsx, hstop, ho, hbo, hnone, fun id ha => ?_, hkids, hreq, htmp, hpn⟩
    obtain ⟨hid, n, hn, hk, hok⟩ := hsome id ha
    obtain ⟨hb, hp⟩ := open_newNode bp parent hctx hL hpl e hn hk (by rw [ha]; rfl) (fun t ht => (hok.lines t ht).1)
    exact ⟨hid, n, hn, hk, hok, hb, hp⟩
  by_cases hl1 : bp = .list
  · subst hl1
    have e' : listOpen parent s = .ok (a, s') := e
    obtain ⟨r', hr', hri, ho, hbo, _, htm, _, _, hnone, hsome⟩ := (listOpen_okl_ri src parent s c hctx.ri).of_ok e'
    subst hr'
    refine mk c hri hctx.pad (Nat.le_refl _) (fun _ => rfl) (fun _ => .inl rfl) (fun hb => by cases hb) ho hbo
      (fun ha => (hnone ha).1) (fun id ha => ?_) (fun hch => ?_) (fun hrq => ?_) (.inr ⟨.inl (by decide), htm⟩) (fun _ _ hb => by cases hb)
    · obtain ⟨h1, _, _, _, ⟨n, hn, hk, _, _, _, _, hok⟩, _⟩ := hsome id ha
      exact ⟨h1, n, hn, hk, hok⟩
    · cases ha : a.1 with
      | none => rw [(hnone ha).2.1] at hch; cases hch
      | some id => exact ⟨rfl, rfl⟩
    · cases ha : a.1 with
      | none => rw [(hnone ha).2.1] at hrq; cases hrq
      | some id => rw [(hsome id ha).2.1] at hrq; cases hrq
  by_cases hl2 : bp = .listItem
  · subst hl2
    have e' : listItemOpen parent s = .ok (a, s') := e
    by_cases hkl : (nd s parent).kind = .list
    · obtain ⟨c', hri, hpad, hle, hsame, hprog, ho, hbo, htm, _, hnone, hsome⟩ :=
        (listItemOpen_okl src parent s c hctx (listItemOpen_kids e' hkl)).of_ok e'
      refine mk c' hri hpad hle hsame (fun hch => .inr (hprog hch)) (fun hb => by cases hb) ho hbo hnone (fun id ha => ?_)
        (fun hch => ⟨?_, rfl⟩) (fun hrq => ?_) (.inr ⟨.inl (by decide), htm⟩) (fun _ _ hb => by cases hb)
      · obtain ⟨h1, _, n, hn, hk, _, hl, _⟩ := hsome id ha
        exact ⟨h1, n, hn, hk, ⟨(by rw [hl]; exact fun t ht => by cases ht), fun _ => hl⟩⟩
      · cases ha : a.1 with
        | some id => rfl
        | none =>
          exfalso
          have h1 := hsame ha
          have h2 := hprog hch
          rw [h1] at h2
          omega
      · have := (Ret.h (m := listItemOpen parent) (Q := fun x => x.2.requirePara = false)
          (by unfold listItemOpen; ret)) s a s' e'
        rw [this] at hrq; cases hrq
    · rw [GM.Blocks.L.listItemOpen_notList parent s hkl] at e'
      cases e'
      exact mk c hctx.ri hctx.pad (Nat.le_refl _) (fun _ => rfl) (fun _ => .inl rfl) (fun hb => by cases hb) rfl rfl
        (fun _ => rfl) (fun id ha => by cases ha) (fun hch => by cases hch) (fun hrq => by cases hrq) (.inr ⟨.inl (by decide), rfl⟩)
        (fun _ ha => by cases ha)
  · have hO := ((specs_notList src).opn bp ⟨hl1, hl2⟩ parent s c hctx).of_ok e
    obtain ⟨c', hri, hpad, hle, hsame, hprog⟩ := hO.ri
    refine mk c' hri hpad hle hsame (fun hch => .inr (hprog hch)) (fun hb => ?_) hO.opened hO.boff hO.noNode
      (fun id ha => ?_) (fun hch => ⟨(hO.kids hch).2, (hO.kids hch).1⟩) (fun hrq => (hO.req hrq).1) ?_ (fun id ha hb => ?_)
    · subst hb
      have e' : setextOpen parent s = .ok (a, s') := e
      obtain ⟨r', hri', hcase⟩ := setextOpen_line hctx.ri e'
      have hr' : s'.r = r' := by
        rcases hcase with ⟨_, hs⟩ | ⟨_, _, _, _, _, _, hs⟩ <;> rw [hs]
      exact padl_of_ri_ri (by rw [hr']; exact hri') hri hpl
    · obtain ⟨h1, n, hn, hk, hok, _⟩ := hO.newNode id ha
      exact ⟨h1, n, hn, hk, hok⟩
    · rcases hO.tmp with ⟨hb, hs, lb, h1, h2, _, h4⟩ | h
      · exact .inl ⟨hb, hs, lb, h1, h2, h4⟩
      · exact .inr h
    · subst hb
      have e' : paragraphOpen parent s = .ok (a, s') := e
      obtain ⟨_, _, _, _, _, _, _, h1 | ⟨h0, m, seg, hm, _, hl, _, _, _, _, h4, _⟩⟩ :=
        (paragraphOpen_line hctx.ri parent).of_ok e'
      · rw [h1.1] at ha; cases ha
      · rw [h0] at ha
        cases ha
        exact ⟨seg, by rw [GM.Blocks.L.nd_append_self hm]; exact hl, h4⟩

end GM.Blocks
