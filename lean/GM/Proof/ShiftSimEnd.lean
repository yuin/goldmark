/-
  GM.Proof.ShiftSimEnd — the joined document `"\n# h\n\n" ++ b` of an empty first part, and the heading line alone:
  1. bytes and reader of `"\n" ++ "# " ++ h ++ "\n" ++ "\n" ++ b`: where its lines start and end, what the reader looks like
     after `AdvanceLine`;
  2. `run "# h\n"`, followed with the exact step lemmas of GM.Proof.ShiftSimHead, ends with the store `[Document[1], Heading]`
     (`run_heading_line`); `frameB`, the frame of the prefix `"\n# h\n\n"`.
  The run on the joined document itself is the heading step of GM.Proof.ShiftSimXReach taken from the initial state (`run_joined`, `reach_nil` there).
-/
import GM.Proof.IndepReset
import GM.Proof.ShiftSimMainW
import GM.Proof.ShiftSimHead
import GM.Proof.ShiftSimCompose

namespace GM.Blocks.Sh
open GM GM.Text GM.Spec GM.Proof.Reader GM.Blocks

theorem lineLen_noLF (h t : Bytes) (hh : ∀ c ∈ h, c ≠ 10) : lineLen (h ++ 10 :: t) = h.length + 1 := by
  induction h with
  | nil => simp [lineLen]
  | cons c cs ih =>
    have hc : c ≠ 10 := hh c List.mem_cons_self
    have := ih (fun x hx => hh x (List.mem_cons_of_mem _ hx))
    simp only [List.cons_append, lineLen, List.length_cons]
    rw [if_neg (by simpa using hc), this]; omega

/-- the reader after `AdvanceLine` depends on source, `pos.stop`, `forceNewline`, `line` only -/
theorem advanceLine_eq (r : Reader) (h0 : 0 ≤ r.pos.stop) :
    r.advanceLine = { source := r.source, line := r.line + 1, peekedLine := none,
                      pos := { start := r.pos.stop, stop := lineEnd r.source r.pos.stop.toNat, padding := 0,
                               forceNewline := r.pos.forceNewline },
                      head := r.pos.stop, lineOffset := -1 } := by
  unfold Reader.advanceLine
  simp only
  rw [if_neg (by omega)]

theorem atLine_advanceLine {r : Reader} {src : Bytes} {k : Nat} (hs : r.source = src) (hstop : r.pos.stop = (k : Int))
    (hf : r.pos.forceNewline = false) (hk : k < src.length) :
    AtLine (sub src k (lineEnd src k)) r.advanceLine := by
  rw [advanceLine_eq r (by omega)]
  have hle := lineEnd_le src k
  have hge := lineEnd_ge src (Nat.le_of_lt hk)
  refine ⟨by simp only; omega, by simp only [Reader.sourceLength, hs]; omega, ?_, .inl rfl⟩
  simp only [hs, hstop, hf, Int.toNat_natCast]
  unfold Segment.value
  simp only [beq_self_eq_true, if_true, sliceB]
  rw [if_pos ⟨by omega, by omega, by omega⟩]
  simp [needsNewline, bind, Except.bind, pure, Except.pure]

theorem atLine_new (src : Bytes) (h : 0 < src.length) : AtLine (sub src 0 (lineEnd src 0)) (Reader.new src) := by
  unfold Reader.new
  exact atLine_advanceLine (src := src) (k := 0) rfl rfl rfl h

/-- the heading line `# h\n` as `35 :: 32 :: …` -/
def hlB (h : Bytes) : Bytes := 35 :: 32 :: (h ++ [10])

/-- the joined document for an empty `A` -/
def docB (h b : Bytes) : Bytes := 10 :: 35 :: 32 :: (h ++ 10 :: 10 :: b)

theorem headingLine_eq (h : Bytes) : headingLine h = hlB h := by simp [headingLine, hlB]

theorem indepDoc_nil (h b : Bytes) : indepDoc [] h b = docB h b := by
  simp [indepDoc, indepSep, headingLine, docB]

theorem docB_eq (h b : Bytes) : docB h b = (10 :: hlB h ++ [10]) ++ b := by simp [docB, hlB]

variable {h : Bytes} (hh : ∀ c ∈ h, c ≠ 10)
include hh

theorem hl_lineEnd : lineEnd (hlB h) 0 = h.length + 3 := by
  unfold lineEnd hlB
  rw [if_pos (Nat.zero_le _)]
  simp only [List.drop_zero, Nat.zero_add]
  have := lineLen_noLF (35 :: 32 :: h) [] (by
    intro c hc
    simp only [List.mem_cons] at hc
    rcases hc with rfl | rfl | hc
    · decide
    · decide
    · exact hh c hc)
  simpa using this

theorem hl_length : (hlB h).length = h.length + 3 := by simp [hlB]

theorem hl_sub : sub (hlB h) 0 (lineEnd (hlB h) 0) = hlB h := by
  rw [hl_lineEnd hh]
  unfold sub
  simp only [List.drop_zero, Nat.sub_zero]
  exact List.take_of_length_le (by rw [hl_length hh]; exact Nat.le_refl _)

theorem doc_lineEnd0 (b : Bytes) : lineEnd (docB h b) 0 = 1 := by
  simp [lineEnd, docB, lineLen]

theorem doc_sub0 (b : Bytes) : sub (docB h b) 0 (lineEnd (docB h b) 0) = [10] := by
  rw [doc_lineEnd0 hh]; simp [sub, docB]

theorem doc_lineEnd1 (b : Bytes) : lineEnd (docB h b) 1 = h.length + 4 := by
  unfold lineEnd docB
  rw [if_pos (by simp)]
  simp only [List.drop_succ_cons, List.drop_zero]
  have := lineLen_noLF (35 :: 32 :: h) (10 :: b) (by
    intro c hc
    simp only [List.mem_cons] at hc
    rcases hc with rfl | rfl | hc
    · decide
    · decide
    · exact hh c hc)
  simp only [List.cons_append] at this
  rw [this]; simp; omega

theorem doc_sub1 (b : Bytes) : sub (docB h b) 1 (lineEnd (docB h b) 1) = hlB h := by
  rw [doc_lineEnd1 hh]
  unfold sub docB hlB
  simp only [List.drop_succ_cons, List.drop_zero]
  have e : h.length + 4 - 1 = (35 :: 32 :: (h ++ [10])).length := by simp
  rw [e]
  have : 35 :: 32 :: (h ++ 10 :: 10 :: b) = (35 :: 32 :: (h ++ [10])) ++ 10 :: b := by simp
  rw [this, List.take_left']
  rfl

theorem doc_lineEnd2 (b : Bytes) : lineEnd (docB h b) (h.length + 4) = h.length + 5 := by
  unfold lineEnd
  have hlen : (docB h b).length = h.length + 5 + b.length := by simp [docB]; omega
  rw [if_pos (by omega)]
  have : (docB h b).drop (h.length + 4) = 10 :: b := by
    have e : docB h b = (10 :: 35 :: 32 :: (h ++ [10])) ++ 10 :: b := by simp [docB]
    rw [e, List.drop_left' (by simp)]
  rw [this]; simp [lineLen]

theorem doc_sub2 (b : Bytes) : sub (docB h b) (h.length + 4) (lineEnd (docB h b) (h.length + 4)) = [10] := by
  rw [doc_lineEnd2 hh]
  unfold sub
  have e : docB h b = (10 :: 35 :: 32 :: (h ++ [10])) ++ 10 :: b := by simp [docB]
  rw [e, List.drop_left' (by simp)]
  simp

end GM.Blocks.Sh

namespace GM.Blocks.Sh
open GM GM.Text GM.Spec GM.Proof.Reader GM.Blocks

theorem isBlank_hl (h : Bytes) : isBlank (hlB h) = false := isBlank_hash _

theorem linesFuel_succ (src : Bytes) : ∃ f, linesFuel src = f + 3 := ⟨(src.filter (· == 10)).length, by simp [linesFuel, lineCount]⟩

/-- the store after the heading line: Document with the one child, and the heading -/
def headStore (n : Node) : List Node :=
  [{ kind := .document, children := [1] }, { n with parent := some 0, blankPrev := true }]

theorem set0_doc (n : Node) :
    (([{ kind := .document }] : List Node).set 0
        { (([{ kind := .document }] : List Node).getD 0 default) with
          children := (([{ kind := .document }] : List Node).getD 0 default).children ++ [([{ kind := .document }] : List Node).length] })
      ++ [{ n with parent := some 0, blankPrev := true }] = headStore n := by
  simp [headStore]

theorem run_heading_line {h : Bytes} (hh : ∀ c ∈ h, c ≠ 10) (s : St) (hrun : run (hlB h) = .ok s) :
    ∃ n, atxNodeOf (hlB h) { start := 0, stop := ((h.length + 3 : Nat) : Int) } 0 = .ok (some n) ∧ s.nodes = headStore n := by
  rw [run_eq_blocksLoop] at hrun
  obtain ⟨f, hf⟩ := linesFuel_succ (hlB h)
  rw [hf] at hrun
  cases hb : blocksLoop 0 (f + 3) [] (initSt (hlB h)) with
  | error e => rw [hb] at hrun; cases hrun
  | ok v =>
    rw [hb] at hrun
    obtain ⟨u, sf⟩ := v
    simp only [Except.map, Except.ok.injEq] at hrun
    subst hrun
    -- the reader stands on the heading line
    have hlen : 0 < (hlB h).length := by simp [hlB]
    have hat : AtLine (hlB h) (initSt (hlB h)).r := by
      have := atLine_new (hlB h) hlen
      rw [hl_sub hh] at this
      exact this
    have hpos0 : (initSt (hlB h)).r.pos = { start := 0, stop := ((h.length + 3 : Nat) : Int) } := by
      show (Reader.new (hlB h)).pos = _
      unfold Reader.new
      rw [advanceLine_eq _ (by simp)]
      simp only [Int.toNat_zero]
      rw [hl_lineEnd hh]
    unfold blocksLoop at hb
    obtain ⟨x, s1, h1, k1⟩ := bind_ok hb
    obtain ⟨hx1, hx2, hl1, hn1, hp1, cu1⟩ := skipBlankLinesR_heading (h ++ [10]) _ hat x s1 h1
    obtain ⟨seg, lines, ok⟩ := x
    simp only at hx1 hx2
    subst hx1 hx2
    simp only [Bool.not_true, Bool.false_eq_true, if_false] at k1
    obtain ⟨pos, s2, h2, k2⟩ := bind_ok k1
    have e2 : s2 = s1 := by cases h2; rfl
    rw [e2] at k2
    obtain ⟨pc, s3, h3, k3⟩ := bind_ok k2
    obtain ⟨epc, e3⟩ := getPc_ok h3
    rw [e3] at k3
    simp only [bne_self_eq_false, Bool.false_eq_true, if_false] at k3
    rw [isBlankLine_nil _ _ (Int.le_refl 0)] at k3
    obtain ⟨res, s4, h4, k4⟩ := bind_ok k3
    have hop1 : s1.pc.opened = [] := by rw [hp1]; rfl
    have hlen1 : 0 < s1.nodes.length := by rw [hn1]; simp [initSt]
    obtain ⟨hres, n, hn, hnodes4, hpc4, hsrc4, hpos4, hline4, hat4⟩ :=
      openBlocks_heading_exact (h ++ [10]) _ s1 hl1 hop1 hlen1 res s4 h4
    subst hres
    simp only [bne_self_eq_false, Bool.false_eq_true, if_false] at k4
    obtain ⟨u5, s5, h5, k5⟩ := bind_ok k4
    have e5 : s5 = { s4 with r := s4.r.advanceLine } := by
      unfold GM.Blocks.advanceLine at h5; cases h5; rfl
    obtain ⟨y, s6, h6, k6⟩ := bind_ok k5
    obtain ⟨ret, st6⟩ := y
    -- the reader is at the end of the source
    have hsrc : s4.r.source = hlB h := by rw [hsrc4, cu1.2]; rfl
    have hstop4 : s4.r.pos.stop = ((h.length + 3 : Nat) : Int) := by rw [hpos4, cu1.1, hpos0]
    have heof : ¬ (s5.r.pos.start ≥ 0 ∧ s5.r.pos.start < s5.r.sourceLength) := by
      rw [e5]
      simp only
      rw [advanceLine_eq _ (by rw [hstop4]; omega)]
      simp only [Reader.sourceLength, hsrc, hstop4, hl_length hh]
      omega
    have hop5 : s5.pc.opened = [⟨s1.nodes.length, .atx⟩] := by rw [e5]; simp only; rw [hpc4]
    obtain ⟨hret, hnodes6, _⟩ := eof_after_heading_exact s5 _ _ (f + 1) heof hop5 ret st6 s6 h6
    subst hret
    simp only [if_true] at k6
    cases k6
    refine ⟨n, ?_, ?_⟩
    · have hn' := hn
      rw [cu1.1, hpos0] at hn'
      exact hn'
    · rw [hnodes6, e5]
      simp only
      rw [hnodes4, hn1]
      exact set0_doc n

/-- the frame of the prefix `"\n# h\n\n"`: one old node (the heading) under the Document -/
def frameB (h : Bytes) (n : Node) (dl : Int) : Frame :=
  { p := 10 :: hlB h ++ [10], dl := dl, c := 1, kids0 := [1], flag := true, oldNodes := headStore n }

theorem frameB_ok (h : Bytes) (n : Node) (dl : Int) : (frameB h n dl).OK := by
  refine ⟨.inr ?_, .inr ?_, ?_⟩
  · simp [frameB, hlB]
  · simp [frameB, hlB]
  · intro x hx; simp [frameB] at hx; subst hx; simp [frameB]

theorem frameB_len (h : Bytes) (n : Node) (dl : Int) : (frameB h n dl).p.length = h.length + 5 := by
  simp [frameB, hlB]

end GM.Blocks.Sh


namespace GM.Blocks.Sh
open GM GM.Text GM.Spec GM.Proof.Reader GM.Blocks

theorem run_nil : ∃ s, run [] = .ok s ∧ s.nodes = [{ kind := .document }] := ⟨_, rfl, rfl⟩

theorem noLF_of_bytesOK {a h b : Bytes} (hok : indepBytesOK a h b = true) : ∀ c ∈ h, c ≠ 10 := by
  intro c hc e
  subst e
  unfold indepBytesOK at hok
  simp only [Bool.and_eq_true, Bool.not_eq_true', List.any_eq_false] at hok
  have := hok.2 10 hc
  simp at this

theorem noLF_of_indepPair {a h b : Bytes} {e g : String} (hp : indepPair a h b = some (e, g)) : ∀ c ∈ h, c ≠ 10 := by
  refine noLF_of_bytesOK (a := a) (b := b) ?_
  unfold indepPair at hp
  cases hq : indepBytesOK a h b with
  | true => rfl
  | false => rw [hq] at hp; simp at hp

end GM.Blocks.Sh
