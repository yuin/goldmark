import GM.Proof.QuoteSimLeaf

/-
  part Code — one-line-step simulation of the indented code block parser (parser/code_block.go):
  `codeOpen_sim`, `codeContinue_sim'`, `codeClose_sim`.
-/
section Code
namespace GM.Blocks
open GM GM.Text GM.Spec GM.Proof.Reader

/-! ### `IndentPosition` on a tab-free line only passes over spaces -/

theorem ippLoop_tf_spaces (cur width : Int) (bs : Bytes) (i w : Int) (h : ∀ c ∈ bs, c ≠ 9) :
    ∃ n : Nat, (ippLoop cur width bs i 0 w).1 = i + n ∧ n ≤ bs.length ∧ ∀ c ∈ bs.take n, c = 32 := by
  obtain ⟨n, e, hn, hpass, _⟩ := ippLoop_passed cur width bs i 0 w
  refine ⟨n, e, hn, fun c hc => ?_⟩
  obtain ⟨k, hk, rfl⟩ := List.getElem_of_mem hc
  rw [List.length_take] at hk
  obtain ⟨x, hx, hq⟩ := hpass k (by omega) (by omega)
  rw [List.getElem_take, ← Option.some_inj, ← List.getElem?_eq_getElem, hx]
  exact congrArg some (hq.resolve_right fun e => h x (List.mem_of_getElem? hx) e)

theorem indentPosition_tf_spaces (bs : Bytes) (h : ∀ c ∈ bs, c ≠ 9) (cur width : Int)
    (hp : 0 ≤ (indentPosition bs cur width).1) :
    ∃ n : Nat, (indentPosition bs cur width).1 = n ∧ n ≤ bs.length ∧ ∀ c ∈ bs.take n, c = 32 := by
  unfold indentPosition indentPositionPadding at hp ⊢
  split
  · exact ⟨0, by simp, by simp, by simp⟩
  · next hw =>
    rw [if_neg hw] at hp
    obtain ⟨n, h1, h2, h3⟩ := ippLoop_tf_spaces cur width bs 0 0 h
    simp only at hp ⊢
    split
    · exact ⟨n, by simp only; rw [h1]; omega, h2, h3⟩
    · next hh => rw [if_neg hh] at hp; simp at hp

theorem isBlank_of_spaces (bs : Bytes) (h : ∀ c ∈ bs, c = 32) : isBlank bs = true := by
  unfold isBlank
  rw [List.all_eq_true]
  intro c hc
  rw [h c hc]; rfl

/-- on a tab-free, non-blank line a non-negative `IndentPosition` is a position before the end of the line -/
theorem indentPosition_tf_lt (bs : Bytes) (h : ∀ c ∈ bs, c ≠ 9) (cur width : Int)
    (hp : 0 ≤ (indentPosition bs cur width).1) (hb : isBlank bs ≠ true) :
    (indentPosition bs cur width).1 < bs.length := by
  obtain ⟨n, h1, h2, h3⟩ := indentPosition_tf_spaces bs h cur width hp
  rw [h1]
  rcases Nat.lt_or_ge n bs.length with h4 | h4
  · omega
  · exfalso; apply hb
    rw [List.take_of_length_le h4] at h3
    exact isBlank_of_spaces bs h3

/-! ### `Segment.TrimLeftSpaceWidth` -/

theorem tlswLoop_shift (d : Int) : ∀ (text : Bytes) (stop start w : Int),
    tlswLoop (stop + d) text (start + d) w = ((tlswLoop stop text start w).1 + d, (tlswLoop stop text start w).2) := by
  intro text
  induction text with
  | nil => intro stop start w; rfl
  | cons c cs ih =>
    intro stop start w
    unfold tlswLoop
    have e : (decide (start + d ≥ stop + d - 1)) = decide (start ≥ stop - 1) :=
      decide_eq_decide.mpr (by constructor <;> intro _ <;> omega)
    rw [e]
    split
    · rfl
    · split
      · rw [show start + d + 1 = start + 1 + d by omega]; exact ih _ _ _
      · split
        · rw [show start + d + 1 = start + 1 + d by omega]; exact ih _ _ _
        · rfl

theorem tlswLoop_bounds_qs : ∀ (text : Bytes) (stop start w : Int),
    start ≤ (tlswLoop stop text start w).1 ∧
      ((tlswLoop stop text start w).1 ≤ start ∨ (tlswLoop stop text start w).1 ≤ stop - 1) := by
  intro text
  induction text with
  | nil => intro stop start w; simp [tlswLoop]
  | cons c cs ih =>
    intro stop start w
    unfold tlswLoop
    split
    · simp
    · next hc =>
      simp only [Bool.or_eq_true, decide_eq_true_eq, not_or] at hc
      split
      · have := ih stop (start + 1) (w - 1); omega
      · split
        · have := ih stop (start + 1) (w - 4); omega
        · simp

theorem trimLeftSpaceWidth_q {src k ls s} (h : SegIn src k ls s) (w : Int) :
    ∃ t, s.trimLeftSpaceWidth w src = .ok t ∧ (shK k s).trimLeftSpaceWidth w (quotePrefix src) = .ok (shK k t) ∧
      t.stop = s.stop ∧ s.start ≤ t.start ∧ (t.start ≤ s.start ∨ t.start ≤ s.stop - 1) := by
  obtain ⟨e1, e2⟩ := sliceB_q h.line h.ge h.le h.stop
  unfold Segment.trimLeftSpaceWidth
  simp only [shK, e1, e2, bind, Except.bind, pure, Except.pure]
  split
  · exact ⟨_, rfl, rfl, rfl, by simp, by simp⟩
  · simp only [tlswLoop_shift]
    have hb := tlswLoop_bounds_qs (sub src s.start.toNat s.stop.toNat) s.stop s.start (tlswPad w s.padding).1
    exact ⟨_, rfl, rfl, rfl, hb.1, hb.2⟩

/-! ### the common tail of Open / Continue -/

theorem codeTakeLine_s2 {src k ls p} {sA sB : St} (h : SR src k ls p sA sB) (node : Nat) {pos padding : Int}
    (hn : 0 ≤ pos) (hpd : padding ≤ 0) (hlt : p + pos.toNat < lineEnd src ls) :
    S2 (fun _ _ sA' sB' => ∃ p', p ≤ p' ∧ SR src k ls p' sA' sB')
      (codeTakeLine node pos padding sA) (codeTakeLine (node + 1) pos padding sB) := by
  unfold codeTakeLine
  refine S2.bind (advanceAndSetPadding_lt_s2 h rfl rfl hn hpd (by omega)) (fun _ _ sA1 sB1 h1 => ?_)
  refine S2.bind (peekLine_s2 h1) (fun a b sA2 sB2 hq => ?_)
  obtain ⟨ha, hb, h2⟩ := hq
  subst ha hb
  simp only
  have e1 : ¬ ((segA src ls (p + pos.toNat)).padding != 0) = true := by simp [segA]
  have e2 : ¬ ((shK k (segA src ls (p + pos.toNat))).padding != 0) = true := by simp [segA, shK]
  rw [if_neg e1, if_neg e2]
  refine S2.bind (P := fun a b sA' sB' => a = segA src ls (p + pos.toNat) ∧ b = shK k a ∧
    SR src k ls (p + pos.toNat) sA' sB') (S2.pure ⟨rfl, rfl, h2⟩) (fun a b sA3 sB3 hq => ?_)
  obtain ⟨ha, hb, h3⟩ := hq
  subst hb; subst ha
  have hplt : ((p + pos.toNat : Nat) : Int) < ((lineEnd src ls : Nat) : Int) := by omega
  refine S2.bind (appendLine_in_s2 h3 node (s := { segA src ls (p + pos.toNat) with forceNewline := true })
    (Int.le_refl _) hplt (Int.le_refl _)) (fun _ _ sA5 sB5 h5 => ?_)
  exact (advance_eol_s2 h5 (s := segA src ls (p + pos.toNat)) (Int.le_refl _) hplt rfl rfl).mono
    fun _ _ _ _ ⟨p', hp', h6⟩ => ⟨p', by omega, h6⟩

theorem codeOpen_sim (src : Bytes) : OpenSim src .code := by
  intro k ls p parent sA sB h
  show S2 _ (codeOpen parent sA) (codeOpen (parent + 1) sB)
  unfold codeOpen
  refine S2.bind (peekLine_s2 h) (fun a b sA1 sB1 hq => ?_)
  obtain ⟨ha, hb, h1⟩ := hq
  subst ha hb
  simp only
  refine S2.bind (lineOffset_s2 h1) (fun a b sA2 sB2 hq => ?_)
  obtain ⟨_, h2⟩ := hq
  have htf := viewA_tf h.r.tf ls p
  rw [indentPosition_tf _ htf b a 4]
  by_cases hc : (decide ((indentPosition ((viewA src ls p).getD []) a 4).fst < 0) ||
      isBlank ((viewA src ls p).getD [])) = true
  · rw [if_pos hc]
    exact S2.pure ⟨⟨rfl, .inl ⟨rfl, rfl⟩⟩, p, Nat.le_refl _, h2⟩
  · rw [if_neg hc]
    simp only [Bool.or_eq_true, decide_eq_true_eq, not_or, Int.not_lt] at hc
    obtain ⟨hpos, hnb⟩ := hc
    have hlt := indentPosition_tf_lt _ htf a 4 hpos hnb
    rw [viewA_length] at hlt
    have hpad := (indentPosition_tf_pad _ htf a 4 (by decide)).1
    refine S2.bind (newNode_s2 h2 _ _ (nodeRel_new src { kind := .codeBlock } rfl rfl rfl rfl (by decide)))
      (fun n m sA3 sB3 hq => ?_)
    obtain ⟨_, hm, hn0, h3⟩ := hq
    subst hm
    refine S2.bind (codeTakeLine_s2 h3 n hpos hpad (by omega)) (fun _ _ sA4 sB4 hq => ?_)
    obtain ⟨p', hp', h4⟩ := hq
    exact S2.pure ⟨⟨rfl, .inr ⟨n, hn0, rfl, rfl⟩⟩, p', hp', h4⟩

/-- `Continue` of the code block parser when there is a current line (on an exhausted reader the "blank line" it would
    append is empty, which the relation does not allow in a raw block: `NodeRel.rawNE`) -/
theorem codeContinue_sim' (src : Bytes) : ∀ k ls p node sA sB, SR src k ls p sA sB → p < src.length →
    S2 (fun a b sA' sB' => b = a ∧ ∃ p', p ≤ p' ∧ SR src k ls p' sA' sB')
      (bpContinue .code node sA) (bpContinue .code (node + 1) sB) := by
  intro k ls p node sA sB h hp
  show S2 _ (codeContinue node sA) (codeContinue (node + 1) sB)
  unfold codeContinue
  refine S2.bind (peekLine_s2 h) (fun a b sA1 sB1 hq => ?_)
  obtain ⟨ha, hb, h1⟩ := hq
  subst ha hb
  simp only
  have htf := viewA_tf h.r.tf ls p
  have hi := h.r.inl
  by_cases hc : isBlank ((viewA src ls p).getD []) = true
  · rw [if_pos hc, if_pos hc]
    refine S2.bind (source_s2 h1) (fun a b sA2 sB2 hq => ?_)
    obtain ⟨ha, hb, h2⟩ := hq
    rw [ha, hb]
    obtain ⟨t, e1, e2, t1, t2, t3⟩ := trimLeftSpaceWidth_q (segA_in hi) 4
    refine S2.bind (P := fun a b sA' sB' => a = t ∧ b = shK k t ∧ SR src k ls p sA' sB')
      (S2.liftE (fun a ha => ⟨shK k t, e2, by rw [e1] at ha; cases ha; exact ⟨rfl, rfl, h2⟩⟩))
      (fun a b sA3 sB3 hq => ?_)
    obtain ⟨ha, hb, h3⟩ := hq
    subst hb; subst ha
    have hs1 : (segA src ls p).start = p := rfl
    have hs2 : (segA src ls p).stop = lineEnd src ls := rfl
    rw [hs1] at t2 t3
    rw [hs2] at t1 t3
    have hplt := hi.lt_iff.mp hp
    refine S2.bind (appendLine_in_s2 h3 node (by omega) (by rcases t3 with t3 | t3 <;> omega) (by omega))
      (fun _ _ sA4 sB4 h4 => ?_)
    exact S2.pure ⟨rfl, p, Nat.le_refl _, h4⟩
  · rw [if_neg hc, if_neg hc]
    refine S2.bind (lineOffset_s2 h1) (fun a b sA2 sB2 hq => ?_)
    obtain ⟨_, h2⟩ := hq
    rw [indentPosition_tf _ htf b a 4]
    by_cases hneg : (indentPosition ((viewA src ls p).getD []) a 4).fst < 0
    · rw [if_pos hneg, if_pos hneg]
      exact S2.pure ⟨rfl, p, Nat.le_refl _, h2⟩
    · rw [if_neg hneg, if_neg hneg]
      have hpos := Int.not_lt.mp hneg
      have hlt := indentPosition_tf_lt _ htf a 4 hpos hc
      rw [viewA_length] at hlt
      have hpad := (indentPosition_tf_pad _ htf a 4 (by decide)).1
      refine S2.bind (codeTakeLine_s2 h2 node hpos hpad (by omega)) (fun _ _ sA4 sB4 hq => ?_)
      obtain ⟨p', hp', h4⟩ := hq
      exact S2.pure ⟨rfl, p', hp', h4⟩

/-! ### codeBlockParser.Close -/

theorem SegRel.segIn {src s t} (h : SegRel src s t) : ∃ k ls, SegIn src k ls s ∧ t = shK k s := by
  obtain ⟨k, ls, hl, h1, h2, h3, e⟩ := h
  exact ⟨k, ls, ⟨hl, h1, h2, h3⟩, e⟩

/-- `Segment.Value` of a segment of line `k` and of the moved segment on the prefixed source (any padding) -/
theorem value_q {src k ls s} (h : SegIn src k ls s) : (shK k s).value (quotePrefix src) = s.value src := by
  obtain ⟨e1, e2⟩ := sliceB_q h.line h.ge h.le h.stop
  have hn : ∀ r, needsNewline (shK k s) r = needsNewline s r := fun _ => rfl
  unfold Segment.value
  simp only [hn]
  simp only [shK, e1, e2]
  have e : s.padding + (s.stop + 2 * ((k : Int) + 1)) - (s.start + 2 * ((k : Int) + 1)) + 1 =
      s.padding + s.stop - s.start + 1 := by omega
  rw [e]
  rfl

theorem SegsRel.getElem? {src} : ∀ {as bs : List Segment} (i : Nat) {s : Segment}, SegsRel src as bs →
    as[i]? = some s → ∃ t, bs[i]? = some t ∧ SegRel src s t := by
  intro as
  induction as with
  | nil => intro bs i s _ e; simp at e
  | cons a as ih =>
    intro bs i s h e
    cases bs with
    | nil => exact h.elim
    | cons b bs =>
      obtain ⟨h1, h2⟩ := h
      cases i with
      | zero => simp at e; subst e; exact ⟨b, by simp, h1⟩
      | succ i => simp at e ⊢; exact ih i h2 e

theorem SegsRel.take {src} : ∀ {as bs : List Segment} (n : Nat), SegsRel src as bs →
    SegsRel src (as.take n) (bs.take n) := by
  intro as
  induction as with
  | nil =>
    intro bs n h
    cases bs with
    | nil => simp; trivial
    | cons b bs => exact h.elim
  | cons a as ih =>
    intro bs n h
    cases bs with
    | nil => exact h.elim
    | cons b bs =>
      obtain ⟨h1, h2⟩ := h
      cases n with
      | zero => simp; trivial
      | succ n => simp only [List.take_succ_cons]; exact ⟨h1, ih n h2⟩

theorem codeTrimLoop_q {src} {as bs : List Segment} (h : SegsRel src as bs) : ∀ (j : Nat) (v : Int),
    codeTrimLoop src as j = .ok v → codeTrimLoop (quotePrefix src) bs j = .ok v := by
  intro j
  induction j with
  | zero => intro v hv; exact hv
  | succ j ih =>
    intro v hv
    unfold codeTrimLoop at hv ⊢
    unfold lineAt segAt at hv ⊢
    have hneg : ¬ ((j : Int) < 0) := by omega
    simp only [if_neg hneg, Int.toNat_natCast] at hv ⊢
    cases ha : as[j]? with
    | none => rw [ha] at hv; cases hv
    | some s =>
      obtain ⟨t, hb, hst⟩ := SegsRel.getElem? j h ha
      obtain ⟨k, ls, hin, et⟩ := hst.segIn
      rw [ha] at hv
      rw [hb, et]
      simp only [bind, Except.bind] at hv ⊢
      rw [value_q hin]
      cases hval : s.value src with
      | error e => rw [hval] at hv; cases hv
      | ok x =>
        rw [hval] at hv
        simp only at hv ⊢
        split
        · next hbk => rw [if_pos hbk] at hv; exact ih v hv
        · next hbk => rw [if_neg hbk] at hv; exact hv

theorem codeClose_sim (src : Bytes) : CloseSim src .code := by
  intro k ls p node sA sB h
  show S2 _ (codeClose node sA) (codeClose (node + 1) sB)
  unfold codeClose
  refine S2.bind (getNode_s2 h node) (fun a b sA1 sB1 hq => ?_)
  obtain ⟨hab, h1⟩ := hq
  refine S2.bind (source_s2 h1) (fun x y sA2 sB2 hq => ?_)
  obtain ⟨hx, hy, h2⟩ := hq
  rw [hx, hy]
  have hlen : b.lines.length = a.lines.length := SegsRel.length hab.lines
  rw [hlen, hab.linesNil]
  refine S2.bind (P := fun x y sA' sB' => y = x ∧ SR src k ls p sA' sB')
    (S2.liftE (fun v hv => ⟨v, codeTrimLoop_q hab.lines _ v hv, rfl, h2⟩)) (fun len len' sA3 sB3 hq => ?_)
  obtain ⟨hl, h3⟩ := hq
  rw [hl]
  simp only
  by_cases hc : (a.linesNil && len + 1 != 0) = true
  · rw [if_pos hc, if_pos hc]
    exact S2.bind (P := fun _ _ _ _ => False) S2.throwL (fun _ _ _ _ hf => hf.elim)
  · rw [if_neg hc, if_neg hc]
    refine modNode_s2 h3 node _ _ (fun a b hab => ?_)
    exact { hab with lines := SegsRel.take _ hab.lines, rawNE := fun hr l hl => hab.rawNE hr l (List.mem_of_mem_take hl) }

end GM.Blocks
end Code

/-
  part Html — one-line-step simulation of the HTML block parser (parser/html_block.go).
-/
section Html
namespace GM.Blocks
open GM GM.Text GM.Spec GM.Proof.Reader

/-! ### the line the parser sees, and how far `advance (segment.Len() - TrimRightSpaceLength(line))` goes -/


/-- a line that ends with `\n` has trailing white space -/
theorem html_trimRight_pos (v : Bytes) (h : v[v.length - 1]? = some 10) : 1 ≤ trimRightSpaceLength v := by
  unfold trimRightSpaceLength
  have hne : v ≠ [] := by
    intro e; subst e; simp at h
  have hl : v.getLast? = some 10 := by
    rw [List.getLast?_eq_getElem?]; exact h
  obtain ⟨w, hw⟩ : ∃ w, v = w ++ [10] := by
    refine ⟨v.dropLast, ?_⟩
    have h1 := List.dropLast_concat_getLast hne
    have h2 : v.getLast hne = 10 := by
      have := List.getLast?_eq_some_getLast hne
      rw [hl] at this; exact (Option.some.inj this).symm
    rw [h2] at h1; exact h1.symm
  rw [hw, List.reverse_append]
  simp [isSpace]

/-- the target of `advance (segment.Len() - TrimRightSpaceLength(line))` is inside the line -/
theorem html_adv_inl {src k ls p} (h : InL src k ls p) :
    0 ≤ (segA src ls p).len - (trimRightSpaceLength ((viewA src ls p).getD []) : Int) ∧
    InL src k ls (p + ((segA src ls p).len - (trimRightSpaceLength ((viewA src ls p).getD []) : Int)).toNat) := by
  have hT := trimRightSpaceLength_le ((viewA src ls p).getD [])
  rw [viewA_length] at hT
  have hle := h.le
  have hge := h.ge
  have hlen : (segA src ls p).len = (lineEnd src ls : Int) - p := by simp [segA, Segment.len]
  rw [hlen]
  refine ⟨by omega, h.line, by omega, by omega, fun e => ?_⟩
  have hT0 : trimRightSpaceLength ((viewA src ls p).getD []) = 0 := by omega
  rcases Nat.lt_or_ge p (lineEnd src ls) with hp | hp
  · have key : src[lineEnd src ls - 1]? ≠ some 10 := by
      intro h10
      have := html_trimRight_pos ((viewA src ls p).getD []) (by
        rw [viewA_length]
        unfold viewA
        rw [if_pos hp]
        simp only [Option.getD_some]
        rw [sub_getElem?, if_pos (by omega)]
        rw [show p + (lineEnd src ls - p - 1) = lineEnd src ls - 1 by omega]
        exact h10)
      omega
    refine ⟨?_, key⟩
    rcases Nat.lt_or_ge (lineEnd src ls) src.length with h2 | h2
    · exact absurd (line_ends_nl h.line.lt h2) key
    · have := lineEnd_le src ls; omega
  · exact h.eof (by omega)

theorem html_advance_s2 {src k ls p} {sA sB : St} (h : SR src k ls p sA sB) :
    S2 (fun _ _ sA' sB' => ∃ p', p ≤ p' ∧ SR src k ls p' sA' sB')
      (advance ((segA src ls p).len - (trimRightSpaceLength ((viewA src ls p).getD []) : Int)) sA)
      (advance ((shK k (segA src ls p)).len - (trimRightSpaceLength ((viewA src ls p).getD []) : Int)) sB) := by
  obtain ⟨h0, hi⟩ := html_adv_inl h.r.inl
  exact S2.mono (advance_s2 h (by rw [shK_len]) h0 hi) (fun _ _ _ _ hq => ⟨_, Nat.le_add_right _ _, hq⟩)

theorem html_segRel {src k ls p} (h : InL src k ls p) : SegRel src (segA src ls p) (shK k (segA src ls p)) :=
  let hs := segA_in h
  ⟨k, ls, hs.line, hs.ge, hs.le, hs.stop, rfl⟩

/-- htmlBlockParser.Open behind the look at the last opened block -/
def htmlOpenTail (line : Bytes) (segment : Segment) (lastIsPara : Bool) : M (Option Nat × PState) := do
  let pos := (← getPc).blockOffset
  if pos < 0 then return (none, stNoChildren)
  if (← liftE (idx line pos)) != 60 then return (none, stNoChildren)
  match htmlOpenType line lastIsPara with
  | some t =>
    let node ← newNode { kind := .htmlBlock, htmlType := t }
    advance (segment.len - trimRightSpaceLength line)
    appendLine node segment
    return (some node, stNoChildren)
  | none => return (none, stNoChildren)

theorem htmlOpenTail_s2 {src k ls p} {sA sB : St} (h : SR src k ls p sA sB) (lp : Bool) :
    S2 (fun a b sA' sB' => OpenRel a b ∧ ∃ p', p ≤ p' ∧ SR src k ls p' sA' sB')
      (htmlOpenTail ((viewA src ls p).getD []) (segA src ls p) lp sA)
      (htmlOpenTail ((viewA src ls p).getD []) (shK k (segA src ls p)) lp sB) := by
  unfold htmlOpenTail
  refine S2.bind (getPc_s2 h) (fun a b sA1 sB1 hq => ?_)
  obtain ⟨ha, hb, hc, e1, e2⟩ := hq
  subst e1 e2
  rw [hc.blockOffset]
  by_cases hc0 : a.blockOffset < 0
  · rw [if_pos hc0, if_pos hc0]
    exact S2.pure ⟨⟨rfl, .inl ⟨rfl, rfl⟩⟩, p, Nat.le_refl _, h⟩
  · rw [if_neg hc0, if_neg hc0]
    refine S2.bind (P := fun x y sA' sB' => y = x ∧ p < lineEnd src ls ∧ SR src k ls p sA' sB')
      (S2.liftE (fun x hx => ⟨x, hx, rfl, by have := (idx_view_la hx).2.1; omega, h⟩)) (fun x y sA2 sB2 hq => ?_)
    obtain ⟨hy, hplt, h2⟩ := hq
    subst hy
    by_cases hc1 : (y != 60) = true
    · rw [if_pos hc1, if_pos hc1]
      exact S2.pure ⟨⟨rfl, .inl ⟨rfl, rfl⟩⟩, p, Nat.le_refl _, h2⟩
    · rw [if_neg hc1, if_neg hc1]
      cases htmlOpenType ((viewA src ls p).getD []) lp with
      | none => exact S2.pure ⟨⟨rfl, .inl ⟨rfl, rfl⟩⟩, p, Nat.le_refl _, h2⟩
      | some t =>
        simp only
        refine S2.bind (newNode_s2 h2 _ _ (nodeRel_new src { kind := .htmlBlock, htmlType := t } rfl rfl rfl rfl
          (by show (-1 : Int) < 0; decide))) (fun n m sA3 sB3 hq => ?_)
        obtain ⟨_, hm, hn0, h3⟩ := hq
        subst hm
        refine S2.bind (html_advance_s2 h3) (fun _ _ sA4 sB4 hq => ?_)
        obtain ⟨p', hp', h4⟩ := hq
        refine S2.bind (appendLine_s2 h4 n (html_segRel h.r.inl) (.inl (by simp only [segA]; omega))) (fun _ _ sA5 sB5 h5 => ?_)
        exact S2.pure ⟨⟨rfl, .inr ⟨n, hn0, rfl, rfl⟩⟩, p', hp', h5⟩

theorem htmlOpen_sim (src : Bytes) : OpenSim src .html := by
  intro k ls p parent sA sB h
  show S2 _ (htmlOpen parent sA) (htmlOpen (parent + 1) sB)
  unfold htmlOpen
  refine S2.bind (peekLine_s2 h) (fun a b sA1 sB1 hq => ?_)
  obtain ⟨ha, hb, h1⟩ := hq
  subst ha hb
  simp only
  refine S2.bind (lastOpenedBlock_s2 h1) (fun a b sA2 sB2 hq => ?_)
  obtain ⟨hl, _, e1, e2⟩ := hq
  subst e1 e2
  rcases hl with ⟨ha, hb⟩ | ⟨x, ha, hb⟩
  · subst ha hb
    simp only
    have hk := (h1.n.node 0).kind
    simp only [beq_self_eq_true, if_true] at hk
    refine S2.bindR (b := sB2.nodes.getD 1 default) (sB1 := sB2) rfl ?_
    have e : ((sB2.nodes.getD 1 default).kind == Kind.paragraph) = false := by
      show ((sB2.nodes.getD (0 + 1) default).kind == Kind.paragraph) = false
      rw [hk.1]; rfl
    rw [e]
    exact htmlOpenTail_s2 h1 false
  · subst ha hb
    simp only
    refine S2.bind (getNode_s2 h1 x.node) (fun na nb sA3 sB3 hq => ?_)
    obtain ⟨hab, h3⟩ := hq
    have e : (nb.kind == Kind.paragraph) = (na.kind == Kind.paragraph) := by
      have hk := hab.kind
      by_cases hx : x.node = 0
      · rw [hx] at hk
        simp only [beq_self_eq_true, if_true] at hk
        rw [hk.1, hk.2]; rfl
      · have : (x.node == 0) = false := beq_eq_false_iff_ne.mpr hx
        rw [this] at hk
        simp only [Bool.false_eq_true, if_false] at hk
        rw [hk]
    rw [e]
    exact htmlOpenTail_s2 h3 _

/-! ### Continue -/

theorem html_s2_ite {α β} {Q : α → β → St → St → Prop} {c : Prop} [Decidable c] {x x' : M α} {y y' : M β} {sA sB : St}
    (h1 : c → S2 Q (x sA) (y sB)) (h2 : ¬ c → S2 Q (x' sA) (y' sB)) :
    S2 Q ((if c then x else x') sA) ((if c then y else y') sB) := by
  by_cases hc : c
  · rw [if_pos hc, if_pos hc]; exact h1 hc
  · rw [if_neg hc, if_neg hc]; exact h2 hc

/-- `Segment.Value` of a stored segment: the same bytes in both runs -/
theorem html_value_q {src : Bytes} {s t : Segment} (h : SegRel src s t) :
    t.value (quotePrefix src) = s.value src := by
  obtain ⟨k, ls, hl, g1, g2, g3, rfl⟩ := h
  obtain ⟨e1, e2⟩ := sliceB_q hl g1 g2 g3
  have e3 : s.padding + (s.stop + 2 * ((k : Int) + 1)) - (s.start + 2 * ((k : Int) + 1)) + 1 =
      s.padding + s.stop - s.start + 1 := by omega
  unfold Segment.value
  simp only [shK, e2, e3]
  rw [e1]
  rfl

theorem html_appendTail_s2 {src k ls p} {sA sB : St} (h : SR src k ls p sA sB) (node : Nat) (hplt : p < lineEnd src ls) :
    S2 (fun a b sA' sB' => b = a ∧ ∃ p', p ≤ p' ∧ SR src k ls p' sA' sB')
      ((do
        appendLine node (segA src ls p)
        advance ((segA src ls p).len - (trimRightSpaceLength ((viewA src ls p).getD []) : Int))
        pure stContinueNoChildren : M PState) sA)
      ((do
        appendLine (node + 1) (shK k (segA src ls p))
        advance ((shK k (segA src ls p)).len - (trimRightSpaceLength ((viewA src ls p).getD []) : Int))
        pure stContinueNoChildren : M PState) sB) := by
  refine S2.bind (appendLine_s2 h node (html_segRel h.r.inl) (.inl (by simp only [segA]; omega))) (fun _ _ sA1 sB1 h1 => ?_)
  refine S2.bind (html_advance_s2 h1) (fun _ _ sA2 sB2 hq => ?_)
  obtain ⟨p', hp', h2⟩ := hq
  exact S2.pure ⟨rfl, p', hp', h2⟩

theorem html_closeTail_s2 {src k ls p} {sA sB : St} (h : SR src k ls p sA sB) (node : Nat) (c : Bool)
    (hplt : p < lineEnd src ls) :
    S2 (fun a b sA' sB' => b = a ∧ ∃ p', p ≤ p' ∧ SR src k ls p' sA' sB')
      ((if c = true then do
          modNode node fun n => { n with closure := segA src ls p }
          advance ((segA src ls p).len - (trimRightSpaceLength ((viewA src ls p).getD []) : Int))
          pure stClose
        else do
          appendLine node (segA src ls p)
          advance ((segA src ls p).len - (trimRightSpaceLength ((viewA src ls p).getD []) : Int))
          pure stContinueNoChildren : M PState) sA)
      ((if c = true then do
          modNode (node + 1) fun n => { n with closure := shK k (segA src ls p) }
          advance ((shK k (segA src ls p)).len - (trimRightSpaceLength ((viewA src ls p).getD []) : Int))
          pure stClose
        else do
          appendLine (node + 1) (shK k (segA src ls p))
          advance ((shK k (segA src ls p)).len - (trimRightSpaceLength ((viewA src ls p).getD []) : Int))
          pure stContinueNoChildren : M PState) sB) := by
  refine html_s2_ite (fun _ => ?_) (fun _ => html_appendTail_s2 h node hplt)
  refine S2.bind (modNode_s2 h node _ _ (fun a b hab => ?_)) (fun _ _ sA1 sB1 h1 => ?_)
  · exact { hab with closure := .inr (html_segRel h.r.inl), closNE := fun _ => by simp only [segA]; omega }
  · refine S2.bind (html_advance_s2 h1) (fun _ _ sA2 sB2 hq => ?_)
    obtain ⟨p', hp', h2⟩ := hq
    exact S2.pure ⟨rfl, p', hp', h2⟩

/-- `Continue` of the HTML block parser when there is a current line (on an exhausted reader the segment it would
    store is empty, which the relation does not allow in a raw block / as a closure segment) -/
theorem htmlContinue_sim' (src : Bytes) : ∀ k ls p node sA sB, SR src k ls p sA sB → p < src.length →
    S2 (fun a b sA' sB' => b = a ∧ ∃ p', p ≤ p' ∧ SR src k ls p' sA' sB')
      (bpContinue .html node sA) (bpContinue .html (node + 1) sB) := by
  intro k ls p node sA sB h hp
  have hplt : p < lineEnd src ls := h.r.inl.lt_iff.mp hp
  show S2 _ (htmlContinue node sA) (htmlContinue (node + 1) sB)
  unfold htmlContinue
  refine S2.bind (getNode_s2 h node) (fun na nb sA0 sB0 hq => ?_)
  obtain ⟨hab, h0⟩ := hq
  refine S2.bind (peekLine_s2 h0) (fun a b sA1 sB1 hq => ?_)
  obtain ⟨ha, hb, h1⟩ := hq
  subst ha hb
  simp only
  rw [hab.htmlType, SegsRel.length hab.lines]
  refine html_s2_ite (fun _ => ?_) (fun _ => ?_)
  · refine html_s2_ite (fun _ => ?_) (fun _ => html_closeTail_s2 h1 node _ hplt)
    refine S2.bind (P := fun x y sA' sB' => SegRel src x y ∧ SR src k ls p sA' sB')
      (S2.liftE (fun x hx => ?_)) (fun x y sA2 sB2 hq => ?_)
    · obtain ⟨y, hy, hxy⟩ := lineAt_q hab.lines _ x hx
      exact ⟨y, hy, hxy, h1⟩
    · obtain ⟨hxy, h2⟩ := hq
      refine S2.bind (source_s2 h2) (fun sa sb sA3 sB3 hq => ?_)
      obtain ⟨ha, hb, h3⟩ := hq
      rw [ha, hb]
      refine S2.bind (P := fun v w sA' sB' => w = v ∧ SR src k ls p sA' sB')
        (S2.liftE (fun v hv => ⟨v, by rw [html_value_q hxy]; exact hv, rfl, h3⟩)) (fun v w sA4 sB4 hq => ?_)
      obtain ⟨hw, h4⟩ := hq
      rw [hw]
      refine html_s2_ite (fun _ => S2.pure ⟨rfl, p, Nat.le_refl _, h4⟩) (fun _ => html_closeTail_s2 h4 node _ hplt)
  · refine html_s2_ite (fun _ => ?_) (fun _ => html_appendTail_s2 h1 node hplt)
    refine html_s2_ite (fun _ => S2.pure ⟨rfl, p, Nat.le_refl _, h1⟩) (fun _ => html_appendTail_s2 h1 node hplt)

/-! ### the statements with the (unneeded) hypothesis that there is a current line -/

theorem htmlOpen_sim' (src : Bytes) : ∀ k ls p parent sA sB, SR src k ls p sA sB → p < src.length →
    S2 (fun a b sA' sB' => OpenRel a b ∧ ∃ p', p ≤ p' ∧ SR src k ls p' sA' sB')
      (bpOpen .html parent sA) (bpOpen .html (parent + 1) sB) :=
  fun k ls p parent sA sB h _ => htmlOpen_sim src k ls p parent sA sB h

end GM.Blocks
end Html
