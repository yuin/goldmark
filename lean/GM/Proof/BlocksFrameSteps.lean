/-
  GM.Proof.BlocksFrameSteps — frame facts of the block parsers, from the walks of GM.Proof.BlocksBuilt.

  `IFr R m` (GM.Proof.IndepFrame): every normal end of `m` is an `R`-step of the state. A relation `R` that is
  transitive and holds between states with the same node store (`FrameRel R`) is a preorder, so `IFr R` is closed
  under `pure` / `bind` / `if` / `throw`, and every program that leaves the store alone (`StoreSame`: the reader
  primitives, the reads, `modPc`) is an `R`-step. So what `R` has to be told about a function is which nodes it writes
  and how (`Built.stepsR`). For `Open` and `Continue` of the ten parsers, for every such `R` at once:
    * `bpOpen bp p` overwrites `lines` / `closure` of nodes, and adds nodes of kind `bp.kind` without parent and children;
    * `bpContinue bp n` overwrites `lines` / `closure` of node `n`, nothing else.
  The frame relations of the later files (`LinksKept`, `KindsNew`, `OnlyN`, `TreeSame`, …) are instances.
-/
import GM.Proof.BlocksInvL
import GM.Proof.IndepFrame

namespace GM.Blocks
open GM GM.Text

structure FrameRel (R : St → St → Prop) : Prop where
  trans : ∀ {a b c}, R a b → R b c → R a c
  of_nodes : ∀ {s s'}, s'.nodes = s.nodes → R s s'

variable {R : St → St → Prop}

theorem FrameRel.toFrPre (hR : FrameRel R) : FrPre R := ⟨fun _ => hR.of_nodes rfl, hR.trans⟩

theorem IFr.mono {R' : St → St → Prop} {α} {m : M α} (hm : IFr R m) (h : ∀ s s', R s s' → R' s s') : IFr R' m :=
  ⟨fun s a s' e => h s s' (hm.h s a s' e)⟩

/-- the two ways an `if` in front of a run can have gone -/
theorem ite_ok {α} {c : Prop} [Decidable c] {a b : M α} {s : St} {r : Except Panic (α × St)}
    (h : (if c then a else b) s = r) : (c ∧ a s = r) ∨ (¬ c ∧ b s = r) := by
  by_cases hc : c
  · rw [if_pos hc] at h; exact .inl ⟨hc, h⟩
  · rw [if_neg hc] at h; exact .inr ⟨hc, h⟩

/-! ### programs that leave the node store alone -/

abbrev StoreSame {α : Type} (m : M α) : Prop := IFr (fun s s' => s'.nodes = s.nodes) m

theorem nsFrame : FrameRel (fun s s' : St => s'.nodes = s.nodes) := ⟨fun h1 h2 => h2.trans h1, fun h => h⟩

theorem nsReader : IgnoresReader (fun s s' : St => s'.nodes = s.nodes) := fun _ _ => rfl

theorem StoreSame.stepsR (hR : FrameRel R) {α} {m : M α} (h : StoreSame m) : IFr R m := ⟨fun s a s' e => hR.of_nodes (h.h s a s' e)⟩

theorem getNode_ns (id : Nat) : StoreSame (getNode id) := getNode_fr nsFrame.toFrPre id
theorem getPc_ns : StoreSame getPc := getPc_fr nsFrame.toFrPre
theorem get_ns : StoreSame (get : M St) := get_fr nsFrame.toFrPre
theorem source_ns : StoreSame source := source_fr nsFrame.toFrPre
theorem position_ns : StoreSame position := position_fr nsFrame.toFrPre
theorem modPc_ns (f : Ctx → Ctx) : StoreSame (modPc f) := modPc_fr f fun _ => rfl
theorem setPosition_ns (l : Int) (p : Segment) : StoreSame (setPosition l p) := setPosition_fr nsReader l p
theorem advanceLine_ns : StoreSame advanceLine := advanceLine_fr nsReader
theorem lastOpenedBlock_ns : StoreSame lastOpenedBlock := ⟨fun _ _ _ h => by cases h; rfl⟩
theorem liftE_ns {α} (e : Except Panic α) : StoreSame (liftE e) := liftE_fr nsFrame.toFrPre e
theorem peekLine_ns : StoreSame peekLine := peekLine_fr nsReader
theorem lineOffset_ns : StoreSame lineOffset := lineOffset_fr nsReader
theorem skipBlankLinesR_ns : StoreSame skipBlankLinesR :=
  reader_fr nsReader (fun r => skipBlankLines readerOps (loopFuel r.source) 0 r) id
theorem advance_ns (n : Int) : StoreSame (advance n) := advance_fr nsReader n
theorem advanceAndSetPadding_ns (n p : Int) : StoreSame (advanceAndSetPadding n p) := advanceAndSetPadding_fr nsReader n p

macro "ns_prim" : tactic =>
  `(tactic| with_reducible first
    | exact getNode_ns _ | exact getPc_ns | exact peekLine_ns | exact liftE_ns _ | exact lineOffset_ns
    | exact advance_ns _ | exact advanceAndSetPadding_ns _ _ | exact modPc_ns _ | exact position_ns
    | exact lastOpenedBlock_ns | exact setPosition_ns _ _ | exact source_ns | exact get_ns | exact advanceLine_ns
    | exact skipBlankLinesR_ns)

/-- one step of the walk over a `do` block towards `IFr R _`, for the `FrameRel R` among the hypotheses: the
    structure rules, then a store-free primitive, then whatever hypothesis applies (the node writes `R` allows, and
    lemmas about sub-blocks) -/
macro "stepsR_step" : tactic =>
  `(tactic| first
    | intro _
    | with_reducible apply IFr.bind (FrameRel.toFrPre (by assumption))
    | with_reducible apply IFr.pure (FrameRel.toFrPre (by assumption))
    | with_reducible apply IFr.ite
    | (with_reducible apply StoreSame.stepsR (by assumption); ns_prim)
    | with_reducible apply IFr.throw
    | apply_hyp
    | exact rfl
    | split)

macro "stepsR" : tactic => `(tactic| repeat' stepsR_step)

/-- like `stepsR`, but the hypotheses (lemmas about whole sub-blocks) are tried before a `bind` is taken apart -/
macro "stepsR'" : tactic => `(tactic| repeat' (first | apply_hyp | stepsR_step))

theorem preserveLeadingTab_ns (seg : Segment) (ind : Int) : StoreSame (preserveLeadingTab seg ind) := by
  have := nsFrame
  unfold preserveLeadingTab; stepsR

theorem rdPrim_ns {α : Type} {m : M α} (hr : RdPrim m) : StoreSame m := by
  cases hr with
  | peekLine => exact peekLine_ns
  | lineOffset => exact lineOffset_ns
  | advance n => exact advance_ns n
  | advanceAndSetPadding n p => exact advanceAndSetPadding_ns n p
  | preserveLeadingTab s i => exact preserveLeadingTab_ns s i

/-- a program over the primitives is an `R`-step as soon as the node writes and creations it may do are -/
theorem Built.stepsR {RD NW PW NN} (hR : FrameRel R) (hnw : ∀ id f, NW id f → IFr R (GM.Blocks.modNode id f))
    (hnn : ∀ n, NN n → IFr R (GM.Blocks.newNode n)) {α : Type} {m : M α} (h : Built RD NW PW NN m) : IFr R m :=
  h.ifr hR.toFrPre (fun _ hr => StoreSame.stepsR hR (rdPrim_ns hr)) hnw hnn fun f _ => StoreSame.stepsR hR (modPc_ns f)

/-- **what `Open` writes**: `lines` / `closure` of nodes (those it has created), and every node it adds has the kind
    the parser builds and neither parent nor children -/
theorem bpOpen_stepsR (hR : FrameRel R) (bp : BP) (hw : ∀ id f, OwnW f → IFr R (modNode id f))
    (hnew : ∀ n : Node, n.kind = bp.kind → n.parent = none → n.children = [] → IFr R (newNode n))
    (p : Nat) : IFr R (bpOpen bp p) := by
  have key : ∀ {K : Kind} {PW} {m : M (Option Nat × PState)}, bp.kind = K → OpenBuilt PW (LitOf K) m → IFr R m :=
    fun e h => h.built.stepsR hR (fun i f hf => hw i f (hf.elim (·.elim) fun h => h))
      fun n hn => hnew n (hn.2.trans e.symm) hn.1.parent hn.1.children
  cases bp <;> unfold bpOpen
  · exact key rfl (setextOpen_built p)
  · exact key rfl (thematicOpen_built (PW := fun _ => False) p)
  · exact key rfl (listOpen_built (L := none) p)
  · exact key rfl (listItemOpen_built (L := none) p)
  · exact key rfl (codeOpen_built (PW := fun _ => False) p)
  · exact key rfl (atxOpen_built (PW := fun _ => False) p)
  · exact key rfl (fencedOpen_built (L := none) p)
  · exact key rfl (blockquoteOpen_built (PW := fun _ => False) p)
  · exact key rfl (htmlOpen_built (PW := fun _ => False) p)
  · exact key rfl (paragraphOpen_built (PW := fun _ => False) p)

/-- **what `Continue` writes**: `lines` / `closure` of its own node -/
theorem bpContinue_stepsR (hR : FrameRel R) (bp : BP) (n : Nat) (hw : ∀ f, OwnW f → IFr R (modNode n f)) :
    IFr R (bpContinue bp n) :=
  (bpContinue_built (L := none) (NN := fun _ => False) bp n).stepsR hR (fun i f (hf : i = n ∧ OwnW f) => hf.1 ▸ hw f hf.2)
    fun _ h => h.elim

end GM.Blocks
