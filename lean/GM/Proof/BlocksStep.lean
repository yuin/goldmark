/-
  GM.Proof.BlocksStep — what an `Open` / `Continue` of a block parser may do to the state, as one relation.
  `StepF Kw L N U W s s'` is the least preorder that contains: a move of the reader within the same source that does not
  lower the line counter; a write to the parse context that is a `PcW L` (only when `Kw`); an overwrite of a node whose id
  is in `W`, by `v` with `U old v`; the push of a node `n` with `N n`. `U` and `N` are parameters, so that another cluster can
  state a finer footprint over the same relation. `StepB Kw L K W` is the block parsers' instance (overwrites change `lines` /
  `linesNil` / `closure` only; new nodes are unlinked, unflagged and of a kind in `K`).
  No function is walked for the relation: the parser functions are programs over the primitives (`Built`, `BuiltO` of
  GM.Proof.BlocksBuilt), and a program whose writes fit the parameters runs along `StepF` (`Built.stepsF`, `BuiltO.stepF`: the
  folds). Results: `bpOpen_stepB`, `bpContinue_stepB`. An `Open` overwrites only nodes it has created itself, and answers one
  of them.
  `Step Kw W` is the coarse view (`StepF.step`: which keys, which kinds and flags forgotten), `Foot W K L` of
  GM.Proof.QuoteSimFoot the extensional one. An invariant is kept by `Open` / `Continue` as soon as the primitive steps keep it:
  induction over `Step` (`Step.len`, `Step.opened`, `Step.line`, `Step.source` here; `NodeInv.step`, `DocTree.step`, `tl_g_step`,
  `xk_step` in the ShiftSim files).
  `LinkF L …` / `Link L Kw W` add the writes of the tree operations (ast.go): a child list is replaced, a parent pointer is
  reset, or `c` is put under `p`, and then `L p c` (`LinkWr L`, the policy of `Built.linksF`); `TreeInv.link` (`L p c := p < c`),
  `DocTree.link` (`c ≠ 0`) and `tl_g_link` (`p ∈ ps`) are inductions over `Link`; `Edit`, `BPn`, `RU` of the QuoteSim files over
  `LinkB` / `Link`.
  At the end (namespace `GM.ConvertH`): `setextClose_eq`, `setextClose` with the two ends of its first branch under names
  (`setextTail1`, `setextTail2`), for the walks of it that need the parent read in between as a parameter.
-/
import GM.Proof.IndepFrame
import GM.Proof.BlocksInv

namespace GM.Blocks
open GM GM.Text

/-! ### the reader: the source stays, the line counter does not decrease -/

theorem rd_peekLine {r r' : Reader} {x : Option Bytes × Segment} (h : r.peekLine = .ok (x, r')) :
    r'.source = r.source ∧ r'.line = r.line := by
  unfold Reader.peekLine at h
  split at h
  · split at h
    · cases h; exact ⟨rfl, rfl⟩
    · cases hv : r.pos.value r.source with
      | error e => rw [hv] at h; cases h
      | ok v => rw [hv] at h; cases h; exact ⟨rfl, rfl⟩
  · cases h; exact ⟨rfl, rfl⟩

theorem rd_lineOffsetOp {r r' : Reader} {x : Int} (h : r.lineOffsetOp = .ok (x, r')) :
    r'.source = r.source ∧ r'.line = r.line := by
  unfold Reader.lineOffsetOp at h
  split at h
  · cases hv : colLoop r.source r.head r.pos.start with
    | error e => rw [hv] at h; cases h
    | ok v => rw [hv] at h; cases h; exact ⟨rfl, rfl⟩
  · cases h; exact ⟨rfl, rfl⟩

theorem rd_advanceLine (r : Reader) :
    r.advanceLine.source = r.source ∧ (r.advanceLine.line = r.line ∨ r.advanceLine.line = r.line + 1) := by
  unfold Reader.advanceLine
  simp only
  split
  · exact ⟨rfl, Or.inl rfl⟩
  · exact ⟨rfl, Or.inr rfl⟩

theorem rd_advanceLine_le (r : Reader) : r.line ≤ r.advanceLine.line := by
  rcases (rd_advanceLine r).2 with h | h <;> omega

theorem rd_advanceLoop (n : Nat) : ∀ {r r' : Reader}, r.advanceLoop n = .ok r' →
    r'.source = r.source ∧ r.line ≤ r'.line := by
  induction n with
  | zero => intro r r' h; unfold Reader.advanceLoop at h; cases h; exact ⟨rfl, Int.le_refl _⟩
  | succ n ih =>
    intro r r' h
    unfold Reader.advanceLoop at h
    split at h
    · split at h
      · have := ih h; exact this
      · cases hv : getByte r.source r.pos.start with
        | error e => rw [hv] at h; cases h
        | ok c =>
          rw [hv] at h
          simp only [bind, Except.bind] at h
          split at h
          · obtain ⟨h1, h2⟩ := ih h
            exact ⟨h1.trans (rd_advanceLine r).1, Int.le_trans (rd_advanceLine_le r) h2⟩
          · have := ih h; exact this
    · cases h; exact ⟨rfl, Int.le_refl _⟩

theorem rd_advance {n : Int} {r r' : Reader} (h : r.advance n = .ok r') :
    r'.source = r.source ∧ r.line ≤ r'.line := by
  unfold Reader.advance at h
  simp only at h
  split at h
  all_goals
    split at h
    · cases h; exact ⟨rfl, Int.le_refl _⟩
    · have := rd_advanceLoop _ h; exact this

theorem rd_advanceAndSetPadding {n p : Int} {r r' : Reader} (h : r.advanceAndSetPadding n p = .ok r') :
    r'.source = r.source ∧ r.line ≤ r'.line := by
  unfold Reader.advanceAndSetPadding at h
  cases ha : r.advance n with
  | error e => rw [ha] at h; cases h
  | ok r1 =>
    rw [ha] at h
    simp only [bind, Except.bind] at h
    have := rd_advance ha
    split at h <;> cases h <;> exact this

/-- `v` is `old` up to `lines`, `linesNil` and `closure` -/
def LinesOnly (v old : Node) : Prop :=
  v = { old with lines := v.lines, linesNil := v.linesNil, closure := v.closure }

theorem LinesOnly.links {v old : Node} (h : LinesOnly v old) :
    v.parent = old.parent ∧ v.children = old.children ∧ v.kind = old.kind := by
  rw [h]; exact ⟨rfl, rfl, rfl⟩

/-- `pc'` is `pc` up to the four context keys of the block parsers -/
def KeysOnly (pc' pc : Ctx) : Prop :=
  pc' = { pc with tmpPara := pc'.tmpPara, fence := pc'.fence, skipList := pc'.skipList,
                  emptyItemBlank := pc'.emptyItemBlank }

theorem KeysOnly.opened {pc' pc : Ctx} (h : KeysOnly pc' pc) : pc'.opened = pc.opened := by
  rw [h]

/-- a run of primitive steps of the block parsers: the context keys are written only when `Kw`, only the nodes of `W`
    are overwritten -/
inductive Step (Kw : Prop) (W : Nat → Prop) : St → St → Prop
  | refl (s : St) : Step Kw W s s
  | trans {a b c : St} : Step Kw W a b → Step Kw W b c → Step Kw W a c
  | rd (s : St) (r' : Reader) : r'.source = s.r.source → s.r.line ≤ r'.line → Step Kw W s { s with r := r' }
  | key (s : St) (pc' : Ctx) : Kw → KeysOnly pc' s.pc → Step Kw W s { s with pc := pc' }
  | write (s : St) (id : Nat) (v : Node) : W id → LinesOnly v (s.nodes.getD id default) →
      Step Kw W s { s with nodes := s.nodes.set id v }
  | push (s : St) (n : Node) : n.parent = none → n.children = [] → Step Kw W s { s with nodes := s.nodes ++ [n] }

section step
variable {Kw Kw' : Prop} {W W' : Nat → Prop}

theorem Step.mono (hk : Kw → Kw') (hw : ∀ id, W id → W' id) {s s' : St} (h : Step Kw W s s') : Step Kw' W' s s' := by
  induction h with
  | refl s => exact .refl s
  | trans _ _ ih1 ih2 => exact .trans ih1 ih2
  | rd s r' h1 h2 => exact .rd s r' h1 h2
  | key s pc' h1 h2 => exact .key s pc' (hk h1) h2
  | write s id v h1 h2 => exact .write s id v (hw id h1) h2
  | push s n h1 h2 => exact .push s n h1 h2

theorem Step.len {s s' : St} (h : Step Kw W s s') : s.nodes.length ≤ s'.nodes.length := by
  induction h with
  | refl s => exact Nat.le_refl _
  | trans _ _ ih1 ih2 => exact Nat.le_trans ih1 ih2
  | rd s r' _ _ => exact Nat.le_refl _
  | key s pc' _ _ => exact Nat.le_refl _
  | write s id v _ _ =>
    show _ ≤ (s.nodes.set id v).length
    rw [List.length_set]; exact Nat.le_refl _
  | push s n _ _ =>
    show _ ≤ (s.nodes ++ [n]).length
    rw [List.length_append]; exact Nat.le_add_right _ _

theorem Step.opened {s s' : St} (h : Step Kw W s s') : s'.pc.opened = s.pc.opened := by
  induction h with
  | refl s => rfl
  | trans _ _ ih1 ih2 => exact ih2.trans ih1
  | rd s r' _ _ => rfl
  | key s pc' _ h2 => exact h2.opened
  | write s id v _ _ => rfl
  | push s n _ _ => rfl

theorem Step.line {s s' : St} (h : Step Kw W s s') : s.r.line ≤ s'.r.line := by
  induction h with
  | refl s => exact Int.le_refl _
  | trans _ _ ih1 ih2 => exact Int.le_trans ih1 ih2
  | rd s r' _ h2 => exact h2
  | key s pc' _ _ => exact Int.le_refl _
  | write s id v _ _ => exact Int.le_refl _
  | push s n _ _ => exact Int.le_refl _

theorem Step.source {s s' : St} (h : Step Kw W s s') : s'.r.source = s.r.source := by
  induction h with
  | refl s => rfl
  | trans _ _ ih1 ih2 => exact ih2.trans ih1
  | rd s r' h1 _ => exact h1
  | key s pc' _ _ => rfl
  | write s id v _ _ => rfl
  | push s n _ _ => rfl

theorem Step.pre : FrPre (Step Kw W) := ⟨.refl, .trans⟩

end step

theorem PcW.keysOnly {L : Option Block} {pc pc' : Ctx} (h : PcW L pc pc') : KeysOnly pc' pc := by
  cases h <;> rfl

/-- `Step` refined, for every cluster that needs a footprint of the block parsers: a context key is written only when `Kw`,
    and then by a `PcW L`; a node of `W` is overwritten by `v` only when `U old v`; a node `n` is pushed only when `N n`.
    The block parsers' own instance is `StepB` below; a finer `U` / `N` needs its own walk. -/
inductive StepF (Kw : Prop) (L : Option Block) (N : Node → Prop) (U : Node → Node → Prop) (W : Nat → Prop) : St → St → Prop
  | refl (s : St) : StepF Kw L N U W s s
  | trans {a b c : St} : StepF Kw L N U W a b → StepF Kw L N U W b c → StepF Kw L N U W a c
  | rd (s : St) (r' : Reader) : r'.source = s.r.source → s.r.line ≤ r'.line → StepF Kw L N U W s { s with r := r' }
  | key (s : St) (pc' : Ctx) : Kw → PcW L s.pc pc' → StepF Kw L N U W s { s with pc := pc' }
  | write (s : St) (id : Nat) (v : Node) : W id → U (s.nodes.getD id default) v →
      StepF Kw L N U W s { s with nodes := s.nodes.set id v }
  | push (s : St) (n : Node) : N n → StepF Kw L N U W s { s with nodes := s.nodes ++ [n] }

section stepf
variable {Kw : Prop} {L : Option Block} {N : Node → Prop} {U : Node → Node → Prop} {W : Nat → Prop}

theorem StepF.pre : FrPre (StepF Kw L N U W) := ⟨.refl, .trans⟩

theorem StepF.mono {Kw' : Prop} {W' : Nat → Prop} (hk : Kw → Kw') (hw : ∀ id, W id → W' id) {s s' : St}
    (h : StepF Kw L N U W s s') : StepF Kw' L N U W' s s' := by
  induction h with
  | refl s => exact .refl s
  | trans _ _ ih1 ih2 => exact .trans ih1 ih2
  | rd s r' h1 h2 => exact .rd s r' h1 h2
  | key s pc' h1 h2 => exact .key s pc' (hk h1) h2
  | write s id v h1 h2 => exact .write s id v (hw id h1) h2
  | push s n h1 => exact .push s n h1

/-- `Step` is the coarse view -/
theorem StepF.step (hn : ∀ n, N n → n.parent = none ∧ n.children = []) (hu : ∀ o v, U o v → LinesOnly v o) {s s' : St}
    (h : StepF Kw L N U W s s') : Step Kw W s s' := by
  induction h with
  | refl s => exact .refl s
  | trans _ _ ih1 ih2 => exact .trans ih1 ih2
  | rd s r' h1 h2 => exact .rd s r' h1 h2
  | key s pc' h1 h2 => exact .key s pc' h1 h2.keysOnly
  | write s id v h1 h2 => exact .write s id v h1 (hu _ v h2)
  | push s n h1 => exact .push s n (hn n h1).1 (hn n h1).2

end stepf

/-- the instance of the block parsers: a new node is unlinked and of a kind in `K`, an overwrite keeps everything but
    `lines`, `linesNil` and `closure` -/
abbrev StepB (Kw : Prop) (L : Option Block) (K : Kind → Prop) (W : Nat → Prop) : St → St → Prop :=
  StepF Kw L (fun n => Lit n ∧ K n.kind) (fun o v => LinesOnly v o) W

theorem StepB.step {Kw : Prop} {L : Option Block} {K : Kind → Prop} {W : Nat → Prop} {s s' : St} (h : StepB Kw L K W s s') :
    Step Kw W s s' :=
  StepF.step (fun _ hn => ⟨hn.1.parent, hn.1.children⟩) (fun _ _ hu => hu) h

abbrev StepsF (Kw : Prop) (L : Option Block) (N : Node → Prop) (U : Node → Node → Prop) (W : Nat → Prop) {α : Type}
    (m : M α) : Prop := IFr (StepF Kw L N U W) m

abbrev StepsB (Kw : Prop) (L : Option Block) (K : Kind → Prop) (W : Nat → Prop) {α : Type} (m : M α) : Prop :=
  IFr (StepB Kw L K W) m

/-- every successful run of `m` is a `Step` -/
abbrev Steps (Kw : Prop) (W : Nat → Prop) {α : Type} (m : M α) : Prop := IFr (Step Kw W) m

section calculus
variable {Kw : Prop} {L : Option Block} {N : Node → Prop} {U : Node → Node → Prop} {W : Nat → Prop}

/-- a program that only moves the reader, within the source and not to an earlier line -/
theorem StepsF.of_reader {α} {m : M α}
    (h : ∀ s a s', m s = .ok (a, s') → ∃ r', s' = { s with r := r' } ∧ r'.source = s.r.source ∧ s.r.line ≤ r'.line) :
    StepsF Kw L N U W m :=
  ⟨fun s a s' e => by
    obtain ⟨r', rfl, h1, h2⟩ := h s a s' e
    exact .rd s r' h1 h2⟩

theorem StepsF.peekLine : StepsF Kw L N U W peekLine := .of_reader fun s a s' h => by
  unfold GM.Blocks.peekLine at h
  cases hp : s.r.peekLine with
  | error e => rw [hp] at h; cases h
  | ok p =>
    rw [hp] at h; cases h
    exact ⟨p.2, rfl, (rd_peekLine hp).1, Int.le_of_eq (rd_peekLine hp).2.symm⟩

theorem StepsF.lineOffset : StepsF Kw L N U W lineOffset := .of_reader fun s a s' h => by
  unfold GM.Blocks.lineOffset at h
  cases hp : s.r.lineOffsetOp with
  | error e => rw [hp] at h; cases h
  | ok p =>
    rw [hp] at h; cases h
    exact ⟨p.2, rfl, (rd_lineOffsetOp hp).1, Int.le_of_eq (rd_lineOffsetOp hp).2.symm⟩

theorem StepsF.advance (n : Int) : StepsF Kw L N U W (advance n) := .of_reader fun s a s' h => by
  unfold GM.Blocks.advance at h
  cases hp : s.r.advance n with
  | error e => rw [hp] at h; cases h
  | ok p => rw [hp] at h; cases h; exact ⟨p, rfl, rd_advance hp⟩

theorem StepsF.advanceAndSetPadding (n p : Int) : StepsF Kw L N U W (advanceAndSetPadding n p) :=
  .of_reader fun s a s' h => by
    unfold GM.Blocks.advanceAndSetPadding at h
    cases hp : s.r.advanceAndSetPadding n p with
    | error e => rw [hp] at h; cases h
    | ok q => rw [hp] at h; cases h; exact ⟨q, rfl, rd_advanceAndSetPadding hp⟩

/-- `preserveLeadingTabInCodeBlock` restores the position it read, line counter included -/
theorem StepsF.preserveLeadingTab (seg : Segment) (ind : Int) : StepsF Kw L N U W (preserveLeadingTab seg ind) :=
  .of_reader fun s a s' h => by
    unfold GM.Blocks.preserveLeadingTab at h
    simp only [Bind.bind, StateT.bind, GM.Blocks.lineOffset, GM.Blocks.position, GM.Blocks.setPosition,
      Reader.position] at h
    cases hp : s.r.lineOffsetOp with
    | error e => rw [hp] at h; simp [Except.bind] at h
    | ok x =>
      rw [hp] at h
      simp only [Except.bind, Pure.pure, Except.pure, StateT.pure] at h
      cases hp2 : (x.2.setPosition x.2.line { start := x.2.pos.start - 1, stop := x.2.pos.stop }).lineOffsetOp with
      | error e => rw [hp2] at h; simp at h
      | ok y =>
        rw [hp2] at h
        simp only at h
        cases h
        exact ⟨_, rfl, ((rd_lineOffsetOp hp2).1.trans (rd_lineOffsetOp hp).1 :),
          Int.le_of_eq (rd_lineOffsetOp hp).2.symm⟩

theorem RdPrim.stepsF {α : Type} {m : M α} (h : RdPrim m) : StepsF Kw L N U W m := by
  cases h with
  | peekLine => exact .peekLine
  | lineOffset => exact .lineOffset
  | advance n => exact .advance n
  | advanceAndSetPadding n p => exact .advanceAndSetPadding n p
  | preserveLeadingTab seg ind => exact .preserveLeadingTab seg ind

/-- the fold of GM.Proof.BlocksBuilt: a program whose node writes are `U`-overwrites of nodes in `W`, whose context writes
    are `PcW L` (and need `Kw`), and whose new nodes are `N`, runs along `StepF` -/
theorem Built.stepsF {RD : Prop} {NW : Nat → (Node → Node) → Prop} {PW : (Ctx → Ctx) → Prop} {NN : Node → Prop}
    (hnw : ∀ id f, NW id f → W id ∧ ∀ n, U n (f n)) (hnn : ∀ n, NN n → N n) (hpw : ∀ f, PW f → Kw ∧ PcWs L f)
    {α : Type} {m : M α} (h : Built RD NW PW NN m) : StepsF Kw L N U W m :=
  h.ifr StepF.pre (fun _ hr => hr.stepsF)
    (fun id f hf => ⟨fun s _ _ e => by cases e; exact .write s id _ (hnw id f hf).1 ((hnw id f hf).2 _)⟩)
    (fun n hn => ⟨fun s _ _ e => by cases e; exact .push s n (hnn n hn)⟩)
    (fun f hf => modPc_fr f fun s => .key s _ (hpw f hf).1 ((hpw f hf).2 s.pc))

theorem StepF.len {s s' : St} (h : StepF Kw L N U W s s') : s.nodes.length ≤ s'.nodes.length := by
  induction h with
  | refl s => exact Nat.le_refl _
  | trans _ _ ih1 ih2 => exact Nat.le_trans ih1 ih2
  | rd s r' _ _ => exact Nat.le_refl _
  | key s pc' _ _ => exact Nat.le_refl _
  | write s id v _ _ =>
    show _ ≤ (s.nodes.set id v).length
    rw [List.length_set]; exact Nat.le_refl _
  | push s n _ =>
    show _ ≤ (s.nodes ++ [n]).length
    rw [List.length_append]; exact Nat.le_add_right _ _

/-- the fold for an `Open`: the nodes overwritten (`OwnW`) were created during the run, and so was the node answered -/
theorem BuiltO.stepF {PW : (Ctx → Ctx) → Prop} {NN : Node → Prop} (hpw : ∀ f, PW f → Kw ∧ PcWs L f)
    (hnn : ∀ n, NN n → N n) (hown : ∀ f, OwnW f → ∀ n, U n (f n)) {NW : Nat → (Node → Node) → Prop} {own : Option Nat}
    {m : M (Option Nat × PState)}
    (h : BuiltO True PW NN (fun own (a : Option Nat × PState) => ∀ n, a.1 = some n → own = some n) NW own m) :
    ∀ (W : Nat → Prop) (N0 : Nat), (∀ id g, NW id g → W id ∧ ∀ n, U n (g n)) → ∀ s a s',
      (∀ i, s.nodes.length ≤ i → W i) → N0 ≤ s.nodes.length → (∀ k, own = some k → N0 ≤ k ∧ k < s.nodes.length) →
      m s = .ok (a, s') → StepF Kw L N U W s s' ∧ ∀ n, a.1 = some n → N0 ≤ n ∧ n < s'.nodes.length := by
  induction h with
  | pure b hb =>
    intro W N0 _ s a s' _ _ ho e
    cases e
    exact ⟨.refl s, fun n hn => ho n (hb n hn)⟩
  | throw e _ => intro W N0 _ s a s' _ _ _ e'; cases e'
  | bind hm _ ih =>
    intro W N0 hW s b s' hs hN ho e
    obtain ⟨a, s1, e1, e2⟩ := bind_ok e
    have k1 := (hm.stepsF (Kw := Kw) (L := L) (N := N) hW (fun _ hf => hf.elim) hpw).h s a s1 e1
    have hl := k1.len
    obtain ⟨k2, k3⟩ := ih a W N0 hW s1 b s' (fun i hi => hs i (Nat.le_trans hl hi)) (Nat.le_trans hN hl)
      (fun k hk' => ⟨(ho k hk').1, Nat.lt_of_lt_of_le (ho k hk').2 hl⟩) e2
    exact ⟨.trans k1 k2, k3⟩
  | bindNew n f hn _ ih =>
    intro W N0 hW s b s' hs hN _ e
    have e' : f s.nodes.length { s with nodes := s.nodes ++ [n] } = .ok (b, s') := e
    have hl : ({ s with nodes := s.nodes ++ [n] } : St).nodes.length = s.nodes.length + 1 := List.length_append
    obtain ⟨k2, k3⟩ := ih _ W N0 (by
        rintro id g (hg | ⟨rfl, hg⟩)
        · exact hW id g hg
        · exact ⟨hs _ (Nat.le_refl _), hown g hg⟩) _ b s' (fun i hi => hs i (by omega)) (by omega)
      (fun k hk' => by cases hk'; exact ⟨hN, by omega⟩) e'
    exact ⟨.trans (.push s n (hnn n hn)) k2, k3⟩

end calculus

theorem StepsB.steps {Kw : Prop} {L : Option Block} {K : Kind → Prop} {W : Nat → Prop} {α} {m : M α} (h : StepsB Kw L K W m) :
    Steps Kw W m := ⟨fun s a s' e => StepB.step (h.h s a s' e)⟩

theorem bpContinue_stepB {bp : BP} {n : Nat} {s s' : St} {a : PState} (h : bpContinue bp n s = .ok (a, s')) :
    StepB (bp.keyed = true) none (fun _ => False) (· = n) s s' :=
  ((bpContinue_built (NN := fun _ => False) bp n).stepsF (fun _ _ hf => ⟨hf.1, hf.2⟩) (fun _ hn => hn.elim)
    (fun _ hf => hf)).h s a s' h

/-- an `Open` (walked in GM.Proof.BlocksBuilt) runs along `StepB`, overwrites only nodes it has created,
    and answers one of them -/
theorem OpenBuilt.stepB {Kw : Prop} {L : Option Block} {K : Kind} {PW : (Ctx → Ctx) → Prop} (hpw : ∀ f, PW f → Kw ∧ PcWs L f)
    {m : M (Option Nat × PState)} (h : OpenBuilt PW (LitOf K) m) {s s' : St} {a : Option Nat × PState}
    (e : m s = .ok (a, s')) :
    StepB Kw L (· = K) (s.nodes.length ≤ ·) s s' ∧ ∀ n, a.1 = some n → s.nodes.length ≤ n ∧ n < s'.nodes.length :=
  BuiltO.stepF hpw (fun _ hn => hn) (fun _ hf n => hf n) h _ s.nodes.length (fun _ _ hf => hf.elim) s a s' (fun _ hi => hi)
    (Nat.le_refl _) (fun _ hk => nomatch hk) e

theorem bpOpen_stepB {bp : BP} {p : Nat} {s s' : St} {a : Option Nat × PState} (e : bpOpen bp p s = .ok (a, s')) :
    StepB (bp.keyed = true) s.pc.opened.getLast? (· = bp.kind) (s.nodes.length ≤ ·) s s' ∧
      ∀ n, a.1 = some n → s.nodes.length ≤ n ∧ n < s'.nodes.length := by
  cases bp <;> unfold bpOpen at e
  · -- `setextOpen` first reads the last opened block `o`; what follows is walked with `L := o`
    unfold setextOpen at e
    obtain ⟨o, s1, e1, e2⟩ := bind_ok e
    cases e1
    refine OpenBuilt.stepB (PW := PcWs s.pc.opened.getLast?) (fun _ h => ⟨rfl, h⟩) ?_ e2
    generalize s.pc.opened.getLast? = o
    obuilt
  · exact (thematicOpen_built (PW := fun _ => False) p).stepB (fun _ h => h.elim) e
  · exact (listOpen_built p).stepB (fun _ h => ⟨rfl, h⟩) e
  · exact (listItemOpen_built p).stepB (fun _ h => ⟨rfl, h⟩) e
  · exact (codeOpen_built (PW := fun _ => False) p).stepB (fun _ h => h.elim) e
  · exact (atxOpen_built (PW := fun _ => False) p).stepB (fun _ h => h.elim) e
  · exact (fencedOpen_built p).stepB (fun _ h => ⟨rfl, h⟩) e
  · exact (blockquoteOpen_built (PW := fun _ => False) p).stepB (fun _ h => h.elim) e
  · exact (htmlOpen_built (PW := fun _ => False) p).stepB (fun _ h => h.elim) e
  · exact (paragraphOpen_built (PW := fun _ => False) p).stepB (fun _ h => h.elim) e

section
variable {Kw : Prop} {W : Nat → Prop}
theorem Steps.peekLine : Steps Kw W peekLine := StepsB.steps (L := none) (K := fun _ => False) StepsF.peekLine
theorem Steps.lineOffset : Steps Kw W lineOffset := StepsB.steps (L := none) (K := fun _ => False) StepsF.lineOffset
theorem Steps.advance (n : Int) : Steps Kw W (advance n) := StepsB.steps (L := none) (K := fun _ => False) (StepsF.advance n)
theorem Steps.advanceAndSetPadding (n p : Int) : Steps Kw W (advanceAndSetPadding n p) :=
  StepsB.steps (L := none) (K := fun _ => False) (StepsF.advanceAndSetPadding n p)
theorem Steps.preserveLeadingTab (seg : Segment) (ind : Int) : Steps Kw W (preserveLeadingTab seg ind) :=
  StepsB.steps (L := none) (K := fun _ => False) (StepsF.preserveLeadingTab seg ind)

theorem codeClose_stepsB {L : Option Block} {K : Kind → Prop} {n : Nat} (hn : W n) : StepsB Kw L K W (codeClose n) :=
  (codeClose_built (RD := False) (PW := fun _ => False) (NN := fun _ => False) n).stepsF (fun _ _ hf => ⟨hf.1 ▸ hn, hf.2⟩)
    (fun _ h => h.elim) (fun _ h => h.elim)

theorem fencedClose_stepsB {L : Option Block} {K : Kind → Prop} (hk : Kw) (n : Nat) : StepsB Kw L K W (fencedClose n) :=
  (fencedClose_built (RD := False) (NW := fun _ _ => False) (NN := fun _ => False) n).stepsF (fun _ _ hf => hf.elim)
    (fun _ h => h.elim) (fun _ hf => ⟨hk, fun pc => hf ▸ .fenceNone pc⟩)

theorem codeClose_steps {n : Nat} (hn : W n) : Steps Kw W (codeClose n) :=
  StepsB.steps (codeClose_stepsB (L := none) (K := fun _ => False) hn)

theorem fencedClose_steps (hk : Kw) (n : Nat) : Steps Kw W (fencedClose n) :=
  StepsB.steps (fencedClose_stepsB (L := none) (K := fun _ => False) hk n)
end

/-- an `Open` moves the reader, writes the context keys (`setext`, `fenced`, `list`, `listItem` only), and creates at
    most one node, which it may overwrite and which it answers -/
theorem bpOpen_step {bp : BP} {p : Nat} {s s' : St} {a : Option Nat × PState} (h : bpOpen bp p s = .ok (a, s')) :
    Step (bp.keyed = true) (s.nodes.length ≤ ·) s s' ∧
      ∀ n, a.1 = some n → s.nodes.length ≤ n ∧ n < s'.nodes.length :=
  ⟨StepB.step (bpOpen_stepB h).1, (bpOpen_stepB h).2⟩

/-- a `Continue` moves the reader, writes the context keys (`list`, `listItem` only) and overwrites its own node -/
theorem bpContinue_step {bp : BP} {n : Nat} {s s' : St} {a : PState} (h : bpContinue bp n s = .ok (a, s')) :
    Step (bp.keyed = true) (· = n) s s' :=
  StepB.step (bpContinue_stepB h)

/-- a run of primitive steps of the tree operations: a `Step`, the replacement of a child list, the reset of a parent
    pointer, or the adoption of `c` by `p`; a node `c` comes under `p` only when `L p c` -/
inductive Link (L : Nat → Nat → Prop) (Kw : Prop) (W : Nat → Prop) : St → St → Prop
  | step {s s' : St} : Step Kw W s s' → Link L Kw W s s'
  | trans {a b c : St} : Link L Kw W a b → Link L Kw W b c → Link L Kw W a c
  | kids (s : St) (p : Nat) (cs : List Nat) : (∀ x, x ∈ cs → x ∈ (s.nodes.getD p default).children ∨ L p x) →
      Link L Kw W s { s with nodes := s.nodes.set p { s.nodes.getD p default with children := cs } }
  | orphan (s : St) (c : Nat) :
      Link L Kw W s { s with nodes := s.nodes.set c { s.nodes.getD c default with parent := none } }
  | adopt (s : St) (c p : Nat) : L p c →
      Link L Kw W s { s with nodes := s.nodes.set c { s.nodes.getD c default with parent := some p } }

/-- every successful run of `m` is a `Link` -/
abbrev Links (L : Nat → Nat → Prop) (Kw : Prop) (W : Nat → Prop) {α : Type} (m : M α) : Prop := IFr (Link L Kw W) m

theorem Link.pre {L : Nat → Nat → Prop} {Kw : Prop} {W : Nat → Prop} : FrPre (Link L Kw W) :=
  ⟨fun s => .step (.refl s), .trans⟩

/-- `Link` over the refined `StepF`; `Link` is the coarse view (`LinkF.link`) -/
inductive LinkF (L : Nat → Nat → Prop) (Kw : Prop) (Lb : Option Block) (N : Node → Prop) (U : Node → Node → Prop)
    (W : Nat → Prop) : St → St → Prop
  | step {s s' : St} : StepF Kw Lb N U W s s' → LinkF L Kw Lb N U W s s'
  | trans {a b c : St} : LinkF L Kw Lb N U W a b → LinkF L Kw Lb N U W b c → LinkF L Kw Lb N U W a c
  | kids (s : St) (p : Nat) (cs : List Nat) : (∀ x, x ∈ cs → x ∈ (s.nodes.getD p default).children ∨ L p x) →
      LinkF L Kw Lb N U W s { s with nodes := s.nodes.set p { s.nodes.getD p default with children := cs } }
  | orphan (s : St) (c : Nat) :
      LinkF L Kw Lb N U W s { s with nodes := s.nodes.set c { s.nodes.getD c default with parent := none } }
  | adopt (s : St) (c p : Nat) : L p c →
      LinkF L Kw Lb N U W s { s with nodes := s.nodes.set c { s.nodes.getD c default with parent := some p } }

abbrev LinksF (L : Nat → Nat → Prop) (Kw : Prop) (Lb : Option Block) (N : Node → Prop) (U : Node → Node → Prop)
    (W : Nat → Prop) {α : Type} (m : M α) : Prop := IFr (LinkF L Kw Lb N U W) m

/-- the instance of the block parsers (see `StepB`) -/
abbrev LinkB (L : Nat → Nat → Prop) (Kw : Prop) (Lb : Option Block) (K : Kind → Prop) (W : Nat → Prop) : St → St → Prop :=
  LinkF L Kw Lb (fun n => Lit n ∧ K n.kind) (fun o v => LinesOnly v o) W

abbrev LinksB (L : Nat → Nat → Prop) (Kw : Prop) (Lb : Option Block) (K : Kind → Prop) (W : Nat → Prop) {α : Type}
    (m : M α) : Prop := IFr (LinkB L Kw Lb K W) m

section links
variable {L : Nat → Nat → Prop} {Kw : Prop} {Lb : Option Block} {N : Node → Prop} {U : Node → Node → Prop} {W : Nat → Prop}

theorem LinkF.pre : FrPre (LinkF L Kw Lb N U W) := ⟨fun s => .step (.refl s), .trans⟩

theorem LinkF.link (hn : ∀ n, N n → n.parent = none ∧ n.children = []) (hu : ∀ o v, U o v → LinesOnly v o) {a b : St}
    (h : LinkF L Kw Lb N U W a b) : Link L Kw W a b := by
  induction h with
  | step h => exact .step (h.step hn hu)
  | trans _ _ ih1 ih2 => exact .trans ih1 ih2
  | kids s p cs hg => exact .kids s p cs hg
  | orphan s c => exact .orphan s c
  | adopt s c p hl => exact .adopt s c p hl

theorem LinksF.of_steps {α} {m : M α} (hm : StepsF Kw Lb N U W m) : LinksF L Kw Lb N U W m :=
  ⟨fun s a s' h => .step (hm.h s a s' h)⟩

end links

section links
variable {L : Nat → Nat → Prop} {Kw : Prop} {Lb : Option Block} {N : Node → Prop} {U : Node → Node → Prop} {W : Nat → Prop}

theorem LinkWr.linksF {id : Nat} {f : Node → Node} (h : LinkWr L id f) : LinksF L Kw Lb N U W (modNode id f) := by
  constructor
  intro s a s' e
  cases e
  cases h with
  | erase c => exact .kids s id _ fun x hx => Or.inl (List.mem_of_mem_erase hx)
  | append c hl =>
    refine .kids s id _ fun x hx => ?_
    rcases List.mem_append.1 hx with h1 | h1
    · exact Or.inl h1
    · rw [List.mem_singleton.1 h1]; exact Or.inr hl
  | insertBeforeIn v ins hl =>
    refine .kids s id _ fun x hx => ?_
    rcases qs_mem_insertBeforeIn hx with h1 | h1
    · rw [h1]; exact Or.inr hl
    · exact Or.inl h1
  | orphan => exact .orphan s id
  | adopt p hl => exact .adopt s id p hl

/-- the fold of GM.Proof.BlocksBuilt for the tree operations and `Close`: node writes are relinkings or as in `Built.stepsF` -/
theorem Built.linksF {RD : Prop} {NW : Nat → (Node → Node) → Prop} {PW : (Ctx → Ctx) → Prop} {NN : Node → Prop}
    (hnw : ∀ id f, NW id f → LinkWr L id f ∨ (W id ∧ ∀ n, U n (f n))) (hnn : ∀ n, NN n → N n)
    (hpw : ∀ f, PW f → Kw ∧ PcWs Lb f) {α : Type} {m : M α} (h : Built RD NW PW NN m) : LinksF L Kw Lb N U W m :=
  h.ifr LinkF.pre (fun _ hr => LinksF.of_steps hr.stepsF)
    (fun id f hf => (hnw id f hf).elim (fun h => h.linksF) fun h =>
      ⟨fun s _ _ e => by cases e; exact .step (.write s id _ h.1 (h.2 _))⟩)
    (fun n hn => ⟨fun s _ _ e => by cases e; exact .step (.push s n (hnn n hn))⟩)
    (fun f hf => modPc_fr f fun s => .step (.key s _ (hpw f hf).1 ((hpw f hf).2 s.pc)))

end links

theorem LinkB.link {L : Nat → Nat → Prop} {Kw : Prop} {Lb : Option Block} {K : Kind → Prop} {W : Nat → Prop} {a b : St}
    (h : LinkB L Kw Lb K W a b) : Link L Kw W a b :=
  LinkF.link (fun _ hn => ⟨hn.1.parent, hn.1.children⟩) (fun _ _ hu => hu) h

theorem LinksB.links {L : Nat → Nat → Prop} {Kw : Prop} {Lb : Option Block} {K : Kind → Prop} {W : Nat → Prop} {α} {m : M α}
    (h : LinksB L Kw Lb K W m) : Links L Kw W m := ⟨fun s a s' e => LinkB.link (h.h s a s' e)⟩

section links
variable {L : Nat → Nat → Prop} {Kw : Prop} {Lb : Option Block} {N : Node → Prop} {U : Node → Node → Prop} {W : Nat → Prop}

/-- a tree operation relinks only -/
theorem Built.relinks {α : Type} {m : M α} (h : Built False (LinkAt L fun _ _ => False) (fun _ => False) (fun _ => False) m) :
    LinksF L Kw Lb N U W m :=
  h.linksF (fun _ _ hf => hf.elim .inl fun h => h.elim) (fun _ h => h.elim) (fun _ h => h.elim)

theorem removeChild_linksF (p c : Nat) : LinksF L Kw Lb N U W (removeChild p c) := (removeChild_built p c).relinks
theorem ensureIsolated_linksF (c : Nat) : LinksF L Kw Lb N U W (ensureIsolated c) := (ensureIsolated_built c).relinks
theorem appendChild_linksF {p c : Nat} (h : L p c) : LinksF L Kw Lb N U W (appendChild p c) := (appendChild_built h).relinks
theorem insertBefore_linksF {p : Nat} (v1 : Option Nat) {ins : Nat} (h : L p ins) :
    LinksF L Kw Lb N U W (insertBefore p v1 ins) := (insertBefore_built v1 h).relinks
theorem nextSibling_linksF (c : Nat) : LinksF L Kw Lb N U W (nextSibling c) :=
  (nextSibling_built (NW := LinkAt L fun _ _ => False) c).relinks
theorem insertAfter_linksF {p : Nat} (v1 : Option Nat) {ins : Nat} (h : L p ins) :
    LinksF L Kw Lb N U W (insertAfter p v1 ins) := (insertAfter_built v1 h).relinks
theorem replaceChild_linksF {p : Nat} (v1 : Nat) {ins : Nat} (h : L p ins) :
    LinksF L Kw Lb N U W (replaceChild p v1 ins) := (replaceChild_built v1 h).relinks

end links

theorem paragraphClose_linksB {L : Nat → Nat → Prop} {Kw : Prop} {Lb : Option Block} {K : Kind → Prop} {W : Nat → Prop}
    {n : Nat} (hn : W n) : LinksB L Kw Lb K W (paragraphClose n) :=
  (paragraphClose_built (RD := False) (PW := fun _ => False) (NN := fun _ => False) n).linksF
    (fun _ _ hf => hf.elim .inl fun h => .inr ⟨h.1 ▸ hn, h.2⟩) (fun _ h => h.elim) (fun _ h => h.elim)

/-! the coarse view, for the inductions over `Link` -/

section links
variable {L : Nat → Nat → Prop} {Kw : Prop} {W : Nat → Prop}

theorem removeChild_links (p c : Nat) : Links L Kw W (removeChild p c) :=
  LinksB.links (Lb := none) (K := fun _ => False) (removeChild_linksF p c)

theorem ensureIsolated_links (c : Nat) : Links L Kw W (ensureIsolated c) :=
  LinksB.links (Lb := none) (K := fun _ => False) (ensureIsolated_linksF c)

theorem appendChild_links {p c : Nat} (h : L p c) : Links L Kw W (appendChild p c) :=
  LinksB.links (Lb := none) (K := fun _ => False) (appendChild_linksF h)

theorem insertBefore_links {p : Nat} (v1 : Option Nat) {ins : Nat} (h : L p ins) :
    Links L Kw W (insertBefore p v1 ins) :=
  LinksB.links (Lb := none) (K := fun _ => False) (insertBefore_linksF v1 h)

theorem nextSibling_links (c : Nat) : Links L Kw W (nextSibling c) :=
  LinksB.links (Lb := none) (K := fun _ => False) (nextSibling_linksF c)

theorem insertAfter_links {p : Nat} (v1 : Option Nat) {ins : Nat} (h : L p ins) :
    Links L Kw W (insertAfter p v1 ins) :=
  LinksB.links (Lb := none) (K := fun _ => False) (insertAfter_linksF v1 h)

theorem replaceChild_links {p : Nat} (v1 : Nat) {ins : Nat} (h : L p ins) : Links L Kw W (replaceChild p v1 ins) :=
  LinksB.links (Lb := none) (K := fun _ => False) (replaceChild_linksF v1 h)

theorem paragraphClose_links {n : Nat} (hn : W n) : Links L Kw W (paragraphClose n) :=
  LinksB.links (Lb := none) (K := fun _ => False) (paragraphClose_linksB hn)

end links

end GM.Blocks

/-! ### `setextClose` as a program: the two ends of its first branch by name, so that the parent read in between is a parameter -/

namespace GM.ConvertH
open GM GM.Text GM.Blocks

/-- the end of setextHeadingParser.Close when the paragraph has lost all its lines, from the test of the next sibling on -/
def setextTail2 (node hp : Nat) (segment : Segment) (next : Option Nat) (nextIsPara : Bool) : M Unit := do
  if !nextIsPara then
    let para ← newNode { kind := .paragraph }
    appendLine para segment
    insertAfter hp (some node) para
  else
    match next with
    | none => pure ()
    | some nx =>
      let nn ← getNode nx
      if nn.linesNil then throw .slice
      modNode nx fun n => { n with lines := segment :: n.lines }
  removeChild hp node

def setextTail1 (node hp : Nat) (segment : Segment) (next : Option Nat) : M Unit := do
  let nextIsPara ← match next with
    | none => pure false
    | some nx => do pure ((← getNode nx).kind == .paragraph)
  setextTail2 node hp segment next nextIsPara

theorem setextClose_eq (node : Nat) : setextClose node = (do
    let hn ← getNode node
    let segment ← liftE (lineAt hn.lines 0)
    modNode node fun n => { n with lines := [], linesNil := true }
    let tmp ← match (← getPc).tmpPara with
      | some t => pure t
      | none => throw .assert
    modPc fun pc => { pc with tmpPara := none }
    let tn ← getNode tmp
    if tn.lines.length == 0 then
      let next ← nextSibling node
      let segment ← liftE (segment.trimLeftSpace (← source))
      let hp ← match (← getNode node).parent with
        | some p => pure p
        | none => throw .nil
      setextTail1 node hp segment next
    else
      modNode node fun n => { n with lines := tn.lines, linesNil := tn.linesNil, blankPrev := tn.blankPrev }
      match tn.parent with
      | some tp => removeChild tp tmp
      | none => pure ()) := by
  unfold setextClose setextTail1 setextTail2
  rfl

end GM.ConvertH
