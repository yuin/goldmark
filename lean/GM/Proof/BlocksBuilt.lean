/-
  GM.Proof.BlocksBuilt — the block parsers as programs over the primitives of the state monad.

  `Built RD NW PW NN m`: `m` is put together from `pure`, `>>=`, `throw`, `liftE`, the reader calls (`RdPrim`), the reads of
  the state, and the three writes `modNode id f` / `modPc f` / `newNode n` — under the policies `RD` (the reader may be called), `NW id f`,
  `PW f`, `NN n`, which say what a write may be (`if` and `match` are split by the walk, so they need no constructor). Every parser function
  is walked ONCE (`X_built`, tactic `built`), at the finest policy that is true of it. A judgement on programs that is closed
  under `pure` / `>>=` / `throw` and holds of the primitives (`BuiltCalc`) then holds of every parser function by
  `Built.fold`, with no walk of its own; `Built.mono` weakens a policy, so one walk serves judgements that look at less.
  `BuiltO` is the same for an `Open`: the allowed node writes grow at `newNode` by the node just created, and what is
  answered at the end is related to that node (`RA`).
  In front of it: `NoLoop e`, what the constructor `liftE` asks of a pure helper `e : Except Panic α` (it does not end in the fuel
  error), for the helpers the parsers call (`idx_noLoop … calcListOffset_noLoop`, tactic `noloop`).
-/
import GM.Model.Blocks
import Lean.Elab.Tactic

namespace GM.Blocks
open GM GM.Text

/-- an `Except` value that is not the fuel error -/
structure NoLoop {α : Type} (e : Except Panic α) : Prop where
  h : ∀ x, e = .error x → x ≠ .loop

theorem NoLoop.ok {α} (a : α) : NoLoop (.ok a : Except Panic α) := ⟨fun _ h => by cases h⟩
theorem NoLoop.pure {α} (a : α) : NoLoop (Pure.pure a : Except Panic α) := ⟨fun _ h => by cases h⟩
theorem NoLoop.err {α} (e : Panic) (h : e ≠ .loop) : NoLoop (.error e : Except Panic α) :=
  ⟨fun _ h' => by cases h'; exact h⟩
theorem NoLoop.throw {α} (e : Panic) (h : e ≠ .loop) : NoLoop (throw e : Except Panic α) :=
  ⟨fun _ h' => by cases h'; exact h⟩
theorem NoLoop.bind {α β} {m : Except Panic α} {f : α → Except Panic β} (hm : NoLoop m)
    (hf : ∀ a, NoLoop (f a)) : NoLoop (m >>= f) := by
  cases m with
  | error e =>
    constructor
    intro x hx
    simp only [Bind.bind, Except.bind] at hx
    cases hx
    exact hm.h _ rfl
  | ok a => exact hf a
theorem NoLoop.ite {α} {c : Prop} [Decidable c] {a b : Except Panic α} (ha : NoLoop a) (hb : NoLoop b) :
    NoLoop (if c then a else b) := by split <;> assumption

open Lean Elab Tactic Meta in
/-- close / reduce the goal with the first local hypothesis that applies (reducible unification) -/
elab "apply_hyp" : tactic => do
  let g ← getMainGoal
  g.withContext do
    let lctx ← getLCtx
    for d in lctx do
      if d.isImplementationDetail then continue
      let s ← saveState
      try
        let gs ← withReducible (g.apply d.toExpr)
        replaceMainGoal gs
        return
      catch _ => s.restore
    throwError "no hypothesis applies"

macro "noloop_step" : tactic =>
  `(tactic| first
    | intro _
    | with_reducible apply NoLoop.ok
    | with_reducible apply NoLoop.pure
    | (with_reducible apply NoLoop.err; decide)
    | (with_reducible apply NoLoop.throw; decide)
    | with_reducible apply NoLoop.bind
    | with_reducible apply NoLoop.ite
    | apply_hyp
    | split)

/-- walk over an `Except Panic` do block -/
macro "noloop" : tactic => `(tactic| repeat' noloop_step)

theorem getByte_noLoop (l : Bytes) (i : Int) : NoLoop (getByte l i) := by unfold getByte; noloop
theorem idx_noLoop (l : Bytes) (i : Int) : NoLoop (idx l i) := getByte_noLoop l i
theorem sliceB_noLoop (l : Bytes) (a b : Int) : NoLoop (sliceB l a b) := by unfold sliceB; noloop
theorem slice_noLoop (l : Bytes) (a b : Int) : NoLoop (slice l a b) := sliceB_noLoop l a b
theorem sliceFrom_noLoop (l : Bytes) (a : Int) : NoLoop (sliceFrom l a) := by unfold sliceFrom; noloop
theorem segAt_noLoop (l : List Segment) (i : Int) : NoLoop (segAt l i) := by unfold segAt; noloop
theorem lineAt_noLoop (l : List Segment) (i : Int) : NoLoop (lineAt l i) := segAt_noLoop l i
theorem lineSet_noLoop (l : List Segment) (i : Int) (v) : NoLoop (lineSet l i v) := by unfold lineSet; noloop
theorem blockAt_noLoop (l : List Block) (i : Int) : NoLoop (blockAt l i) := by unfold blockAt; noloop
theorem closeSlice_noLoop (l : List Block) (a b : Int) : NoLoop (closeBlocks.slice' l a b) := by
  unfold closeBlocks.slice'; noloop

theorem value_noLoop (t : Segment) (buf : Bytes) : NoLoop (t.value buf) := by
  have := sliceB_noLoop buf t.start t.stop
  unfold Segment.value; noloop
theorem trimLeftSpace_noLoop (t : Segment) (buf : Bytes) : NoLoop (t.trimLeftSpace buf) := by
  have := sliceB_noLoop buf t.start t.stop
  unfold Segment.trimLeftSpace; noloop
theorem trimRightSpace_noLoop (t : Segment) (buf : Bytes) : NoLoop (t.trimRightSpace buf) := by
  have := sliceB_noLoop buf t.start t.stop
  unfold Segment.trimRightSpace; noloop
theorem trimLeftSpaceWidth_noLoop (t : Segment) (w : Int) (buf : Bytes) : NoLoop (t.trimLeftSpaceWidth w buf) := by
  have := sliceB_noLoop buf t.start t.stop
  unfold Segment.trimLeftSpaceWidth; noloop

theorem trimLeftAll_noLoop (src : Bytes) (ls : List Segment) : NoLoop (trimLeftAll src ls) := by
  induction ls with
  | nil => unfold trimLeftAll; noloop
  | cons l ls ih =>
    have := trimLeftSpace_noLoop l src
    unfold trimLeftAll; noloop

theorem atxBackLoop_noLoop (line : Bytes) (start : Int) (k : Nat) : NoLoop (atxBackLoop line start k) := by
  induction k with
  | zero => unfold atxBackLoop; noloop
  | succ k ih =>
    have := idx_noLoop line (k : Int)
    unfold atxBackLoop; noloop

theorem codeTrimLoop_noLoop (src : Bytes) (ls : List Segment) (k : Nat) : NoLoop (codeTrimLoop src ls k) := by
  induction k with
  | zero => unfold codeTrimLoop; noloop
  | succ k ih =>
    have := lineAt_noLoop ls (k : Int)
    have := fun t => value_noLoop t src
    unfold codeTrimLoop; noloop

theorem matchesSetextHeadingBar_noLoop (line : Bytes) : NoLoop (matchesSetextHeadingBar line) := by
  have := fun a b => slice_noLoop line a b
  have := fun a => idx_noLoop line a
  unfold matchesSetextHeadingBar; noloop

theorem calcListOffset_noLoop (source : Bytes) (m : M6) (lo : Int) : NoLoop (calcListOffset source m lo) := by
  have := fun a => sliceFrom_noLoop source a
  unfold calcListOffset; noloop

macro "noloop_prim" : tactic =>
  `(tactic| first
    | with_reducible apply idx_noLoop | with_reducible apply slice_noLoop | with_reducible apply sliceFrom_noLoop
    | with_reducible apply lineAt_noLoop | with_reducible apply lineSet_noLoop | with_reducible apply blockAt_noLoop
    | with_reducible apply value_noLoop | with_reducible apply trimLeftSpace_noLoop
    | with_reducible apply trimRightSpace_noLoop | with_reducible apply trimLeftSpaceWidth_noLoop
    | with_reducible apply trimLeftAll_noLoop | with_reducible apply atxBackLoop_noLoop
    | with_reducible apply codeTrimLoop_noLoop | with_reducible apply matchesSetextHeadingBar_noLoop
    | with_reducible apply calcListOffset_noLoop | with_reducible apply closeSlice_noLoop)

/-! ### policies: what a write may be -/

/-- `f` changes `lines`, `linesNil`, `closure` only -/
def OwnW (f : Node → Node) : Prop :=
  ∀ n, f n = { n with lines := (f n).lines, linesNil := (f n).linesNil, closure := (f n).closure }

/-- `f` changes the tree links only -/
def LinkW (f : Node → Node) : Prop := ∀ n, f n = { n with children := (f n).children, parent := (f n).parent }

/-- `f` changes `lines`, `linesNil`, `closure`, `blankPrev`, `tight` only: in particular not the kind, the tree links and
    the fields fixed at creation -/
def DataW (f : Node → Node) : Prop :=
  ∀ n, f n = { n with lines := (f n).lines, linesNil := (f n).linesNil, closure := (f n).closure,
                      blankPrev := (f n).blankPrev, tight := (f n).tight }

/-- one write of a block parser to the parse context; `L` is the last opened block, whose node `setextOpen` stores -/
inductive PcW (L : Option Block) : Ctx → Ctx → Prop
  | skipList (pc : Ctx) (b : Bool) : PcW L pc { pc with skipList := b }
  | emptyItemBlank (pc : Ctx) (b : Bool) : PcW L pc { pc with emptyItemBlank := b }
  | tmpSome (pc : Ctx) (lb : Block) : L = some lb → PcW L pc { pc with tmpPara := some lb.node }
  | fenceSome (pc : Ctx) (f : FenceData) : 0 ≤ f.indent → PcW L pc { pc with fence := some f }
  | tmpNone (pc : Ctx) : PcW L pc { pc with tmpPara := none }
  | fenceNone (pc : Ctx) : PcW L pc { pc with fence := none }

def PcWs (L : Option Block) (f : Ctx → Ctx) : Prop := ∀ pc, PcW L pc (f pc)

/-- the two context writes of the `Close` functions -/
def CloseKeyW (f : Ctx → Ctx) : Prop :=
  f = (fun pc => { pc with tmpPara := none }) ∨ f = (fun pc => { pc with fence := none })

def Isolated (n : Node) : Prop := n.parent = none ∧ n.children = []

/-- nobody is linked to the node, and it carries no flag -/
structure Lit (n : Node) : Prop where
  parent : n.parent = none
  children : n.children = []
  blankPrev : n.blankPrev = false

/-- what an `Open` creates: an unlinked, unflagged node of kind `K` -/
def LitOf (K : Kind) (n : Node) : Prop := Lit n ∧ n.kind = K

theorem LitOf.isolated {K : Kind} {n : Node} (h : LitOf K n) : Isolated n := ⟨h.1.parent, h.1.children⟩

/-- the parsers that write a context key -/
def BP.keyed : BP → Bool
  | .setext | .fenced | .list | .listItem => true
  | _ => false

/-- one relinking write of the tree operations of ast.go: a child is erased; `c` is appended or inserted below `p`, and
    then `L p c`; a parent pointer is reset, or set to `p`, and then `L p c` -/
inductive LinkWr (L : Nat → Nat → Prop) : Nat → (Node → Node) → Prop
  | erase (p c : Nat) : LinkWr L p fun n => { n with children := n.children.erase c }
  | append (p c : Nat) : L p c → LinkWr L p fun n => { n with children := n.children ++ [c] }
  | insertBeforeIn (p v ins : Nat) : L p ins →
      LinkWr L p fun n => { n with children := GM.Blocks.insertBeforeIn v ins n.children }
  | orphan (c : Nat) : LinkWr L c fun n => { n with parent := none }
  | adopt (c p : Nat) : L p c → LinkWr L c fun n => { n with parent := some p }

theorem LinkWr.link {L : Nat → Nat → Prop} {id : Nat} {f : Node → Node} (h : LinkWr L id f) : LinkW f := by
  cases h <;> exact fun _ => rfl

abbrev LinkAt (L : Nat → Nat → Prop) (NW : Nat → (Node → Node) → Prop) : Nat → (Node → Node) → Prop :=
  fun id f => LinkWr L id f ∨ NW id f

theorem OwnW.data {f : Node → Node} (h : OwnW f) : DataW f := fun n => by
  have hb : (f n).blankPrev = n.blankPrev := by rw [h n]
  have ht : (f n).tight = n.tight := by rw [h n]
  rw [hb, ht]; exact h n

theorem DataW.links {f : Node → Node} (h : DataW f) (n : Node) :
    (f n).kind = n.kind ∧ (f n).parent = n.parent ∧ (f n).children = n.children := by
  rw [h n]; exact ⟨rfl, rfl, rfl⟩

/-- the writes allowed before, and `OwnW` writes of `k` -/
abbrev OwnAt (NW : Nat → (Node → Node) → Prop) (k : Nat) : Nat → (Node → Node) → Prop :=
  fun id f => NW id f ∨ (id = k ∧ OwnW f)

/-! ### programs over the primitives -/

/-- the reader calls of the block parsers -/
inductive RdPrim : {α : Type} → M α → Prop
  | peekLine : RdPrim peekLine
  | lineOffset : RdPrim lineOffset
  | advance (n : Int) : RdPrim (advance n)
  | advanceAndSetPadding (n p : Int) : RdPrim (advanceAndSetPadding n p)
  | preserveLeadingTab (seg : Segment) (ind : Int) : RdPrim (preserveLeadingTab seg ind)

inductive Built (RD : Prop) (NW : Nat → (Node → Node) → Prop) (PW : (Ctx → Ctx) → Prop) (NN : Node → Prop) :
    {α : Type} → M α → Prop
  | pure {α : Type} (a : α) : Built RD NW PW NN (Pure.pure a : M α)
  | bind {α β : Type} {m : M α} {f : α → M β} : Built RD NW PW NN m → (∀ a, Built RD NW PW NN (f a)) → Built RD NW PW NN (m >>= f)
  | throw {α : Type} (e : Panic) : e ≠ .loop → Built RD NW PW NN (MonadExcept.throw e : M α)
  | liftE {α : Type} (e : Except Panic α) : NoLoop e → Built RD NW PW NN (liftE e)
  | rd {α : Type} {m : M α} : RD → RdPrim m → Built RD NW PW NN m
  | getNode (id : Nat) : Built RD NW PW NN (getNode id)
  | getPc : Built RD NW PW NN getPc
  | source : Built RD NW PW NN source
  | position : Built RD NW PW NN position
  | get : Built RD NW PW NN (MonadState.get : M St)
  | modNode (id : Nat) (f : Node → Node) : NW id f → Built RD NW PW NN (modNode id f)
  | newNode (n : Node) : NN n → Built RD NW PW NN (newNode n)
  | modPc (f : Ctx → Ctx) : PW f → Built RD NW PW NN (modPc f)

/-- what a judgement `J` on programs has to satisfy for every `Built` program to have it -/
structure BuiltCalc (RD : Prop) (NW : Nat → (Node → Node) → Prop) (PW : (Ctx → Ctx) → Prop) (NN : Node → Prop)
    (J : {α : Type} → M α → Prop) : Prop where
  pure : ∀ {α : Type} (a : α), J (Pure.pure a : M α)
  bind : ∀ {α β : Type} {m : M α} {f : α → M β}, J m → (∀ a, J (f a)) → J (m >>= f)
  throw : ∀ {α : Type} (e : Panic), e ≠ .loop → J (MonadExcept.throw e : M α)
  liftE : ∀ {α : Type} (e : Except Panic α), NoLoop e → J (GM.Blocks.liftE e)
  rd : ∀ {α : Type} {m : M α}, RD → RdPrim m → J m
  getNode : ∀ id, J (GM.Blocks.getNode id)
  getPc : J GM.Blocks.getPc
  source : J GM.Blocks.source
  position : J GM.Blocks.position
  get : J (MonadState.get : M St)
  modNode : ∀ id f, NW id f → J (GM.Blocks.modNode id f)
  newNode : ∀ n, NN n → J (GM.Blocks.newNode n)
  modPc : ∀ f, PW f → J (GM.Blocks.modPc f)

section
variable {RD RD' : Prop} {NW NW' : Nat → (Node → Node) → Prop} {PW PW' : (Ctx → Ctx) → Prop} {NN NN' : Node → Prop}

theorem Built.fold {J : {α : Type} → M α → Prop} (C : BuiltCalc RD NW PW NN @J) {α : Type} {m : M α}
    (h : Built RD NW PW NN m) : J m := by
  induction h with
  | pure a => exact C.pure a
  | bind _ _ ih1 ih2 => exact C.bind ih1 ih2
  | throw e he => exact C.throw e he
  | liftE e he => exact C.liftE e he
  | rd h0 hr => exact C.rd h0 hr
  | getNode id => exact C.getNode id
  | getPc => exact C.getPc
  | source => exact C.source
  | position => exact C.position
  | get => exact C.get
  | modNode id f hf => exact C.modNode id f hf
  | newNode n hn => exact C.newNode n hn
  | modPc f hf => exact C.modPc f hf

/-- `Built` itself, at a weaker policy, is such a judgement -/
theorem Built.mono (h0 : RD → RD') (h1 : ∀ id f, NW id f → NW' id f) (h2 : ∀ f, PW f → PW' f) (h3 : ∀ n, NN n → NN' n) {α : Type}
    {m : M α} (h : Built RD NW PW NN m) : Built RD' NW' PW' NN' m :=
  h.fold (J := fun m => Built RD' NW' PW' NN' m)
    { pure := .pure, bind := .bind, throw := .throw, liftE := .liftE, rd := fun h hr => .rd (h0 h) hr, getNode := .getNode, getPc := .getPc,
      source := .source, position := .position, get := .get, modNode := fun id f hf => .modNode id f (h1 id f hf),
      newNode := fun n hn => .newNode n (h3 n hn), modPc := fun f hf => .modPc f (h2 f hf) }

theorem Built.ite {α : Type} {c : Prop} [Decidable c] {a b : M α} (ha : Built RD NW PW NN a) (hb : Built RD NW PW NN b) :
    Built RD NW PW NN (if c then a else b) := by
  split <;> assumption

theorem Built.appendLine (id : Nat) (seg : Segment)
    (h : NW id fun n => { n with lines := n.lines ++ [seg], linesNil := false }) :
    Built RD NW PW NN (GM.Blocks.appendLine id seg) :=
  .modNode id _ h

end

/-! ### `Open`: the node created may be written, and is what is answered -/

inductive BuiltO (RD : Prop) (PW : (Ctx → Ctx) → Prop) (NN : Node → Prop) {β : Type} (RA : Option Nat → β → Prop) :
    (Nat → (Node → Node) → Prop) → Option Nat → M β → Prop
  | pure {NW own} (b : β) : RA own b → BuiltO RD PW NN RA NW own (Pure.pure b)
  | throw {NW own} (e : Panic) : e ≠ .loop → BuiltO RD PW NN RA NW own (MonadExcept.throw e)
  | bind {NW own} {α : Type} {m : M α} {f : α → M β} : Built RD NW PW (fun _ => False) m →
      (∀ a, BuiltO RD PW NN RA NW own (f a)) → BuiltO RD PW NN RA NW own (m >>= f)
  | bindNew {NW own} (n : Node) (f : Nat → M β) : NN n → (∀ k, BuiltO RD PW NN RA (OwnAt NW k) (some k) (f k)) →
      BuiltO RD PW NN RA NW own (newNode n >>= f)

section
variable {RD : Prop} {PW : (Ctx → Ctx) → Prop} {NN : Node → Prop} {β : Type} {RA : Option Nat → β → Prop}
  {NW : Nat → (Node → Node) → Prop} {o : Option Nat}

/-- the branches see the condition: `fencedOpen` stores an indent it has tested -/
theorem BuiltO.iteC {c : Prop} [Decidable c] {a b : M β} (ha : c → BuiltO RD PW NN RA NW o a)
    (hb : ¬ c → BuiltO RD PW NN RA NW o b) : BuiltO RD PW NN RA NW o (if c then a else b) := by
  split
  · exact ha ‹_›
  · exact hb ‹_›

/-- an `Open` is a `Built` program that may also do `OwnW` writes -/
theorem BuiltO.built {m : M β} (h : BuiltO RD PW NN RA NW o m) : Built RD (fun id f => NW id f ∨ OwnW f) PW NN m := by
  induction h with
  | pure b _ => exact .pure b
  | throw e he => exact .throw e he
  | bind hm _ ih => exact .bind (hm.mono id (fun _ _ h => .inl h) (fun _ h => h) (fun _ h => h.elim)) ih
  | bindNew n f hn _ ih =>
    exact .bind (.newNode n hn) fun k => (ih k).mono id
      (fun _ _ h => h.elim (fun h => h.elim .inl fun h => .inr h.2) .inr) (fun _ h => h) (fun _ h => h)

theorem BuiltO.mono {PW' : (Ctx → Ctx) → Prop} {NN' : Node → Prop} (h2 : ∀ f, PW f → PW' f) (h3 : ∀ n, NN n → NN' n)
    {m : M β} (h : BuiltO RD PW NN RA NW o m) : BuiltO RD PW' NN' RA NW o m := by
  induction h with
  | pure b hb => exact .pure b hb
  | throw e he => exact .throw e he
  | bind hm _ ih => exact .bind (hm.mono id (fun _ _ h => h) h2 (fun _ h => h)) ih
  | bindNew n f hn _ ih => exact .bindNew n f (h3 n hn) ih

theorem Built.own {RD PW NN} {NW : Nat → (Node → Node) → Prop} {k : Nat} {α : Type} {m : M α}
    (h : Built RD (fun id f => id = k ∧ OwnW f) PW NN m) : Built RD (OwnAt NW k) PW NN m :=
  h.mono id (fun _ _ hf => .inr hf) (fun _ h => h) (fun _ h => h)

end

/-- the policy side conditions of the writes in the model: each is the literal write, or holds by unfolding -/
macro "built_side" : tactic =>
  `(tactic| first
    | exact ⟨rfl, fun _ => rfl⟩
    | exact fun _ => rfl
    | exact Or.inr ⟨rfl, fun _ => rfl⟩
    | exact Or.inl (fun _ => rfl)
    | exact Or.inr (fun _ => rfl)
    | exact rfl
    | exact ⟨⟨rfl, rfl, rfl⟩, rfl⟩
    | exact ⟨rfl, rfl⟩
    | exact .inl (.erase _ _)
    | exact .inl (.orphan _)
    | exact .inl (.append _ _ (by assumption))
    | exact .inl (.insertBeforeIn _ _ _ (by assumption))
    | exact .inl (.adopt _ _ (by assumption))
    | exact .inl (.inl (.erase _ _))
    | assumption)

/-- which `PcW` a context write of the model is -/
macro "pcw_side" : tactic =>
  `(tactic| (intro pc; first
    | exact .skipList pc _
    | exact .emptyItemBlank pc _
    | exact .tmpSome pc _ rfl
    | exact .fenceSome pc _ (by first | assumption | omega | (dsimp only; omega))))

/-- one step of the walk over the `do` block of a parser function -/
macro "built_step" : tactic =>
  `(tactic| first
    | intro _
    | with_reducible apply Built.bind
    | with_reducible apply Built.pure
    | with_reducible apply Built.ite
    | with_reducible apply Built.getNode
    | ((with_reducible apply Built.liftE) <;> noloop_prim)
    | with_reducible apply Built.getPc
    | ((with_reducible apply Built.rd) <;> with_reducible constructor)
    | ((with_reducible apply Built.appendLine); built_side)
    | ((with_reducible apply Built.modNode); built_side)
    | ((with_reducible apply Built.modPc); first | built_side | pcw_side | exact ⟨_, by pcw_side⟩)
    | ((with_reducible apply Built.newNode); built_side)
    | ((with_reducible apply Built.throw); decide)
    | with_reducible apply Built.source
    | with_reducible apply Built.position
    | with_reducible apply Built.get
    | apply_hyp
    | split)

macro "built" : tactic => `(tactic| repeat' built_step)

/-- one step of the walk over an `Open`: the tail is `BuiltO`, the statements in front of it are `Built` -/
macro "obuilt_step" : tactic =>
  `(tactic| first
    | intro _
    | (((with_reducible apply BuiltO.bindNew) <;> first | built_side | skip))
    | with_reducible apply BuiltO.bind
    | ((with_reducible apply BuiltO.pure); intro _ e; first | exact e | cases e)
    | with_reducible apply BuiltO.iteC
    | ((with_reducible apply BuiltO.throw); decide)
    | built_step)

macro "obuilt" : tactic => `(tactic| repeat' obuilt_step)

/-! ### the parser functions, each walked once, at the finest policy

  A policy left a variable means that the function does no such write. -/

/-- `OwnW` writes of `n` -/
abbrev OwnOnly (n : Nat) : Nat → (Node → Node) → Prop := fun id f => id = n ∧ OwnW f

section
variable {RD : Prop} {NW : Nat → (Node → Node) → Prop} {PW : (Ctx → Ctx) → Prop} {NN : Node → Prop} {L : Option Block}

theorem lastOpenedBlock_built : Built RD NW PW NN lastOpenedBlock := by unfold lastOpenedBlock; built
theorem lastOffset_built (n : Nat) : Built RD NW PW NN (lastOffset n) := by unfold lastOffset; built
theorem lastChildCount_built (n : Nat) : Built RD NW PW NN (lastChildCount n) := by unfold lastChildCount; built
theorem nextSibling_built (c : Nat) : Built RD NW PW NN (nextSibling c) := by unfold nextSibling; built
theorem blockquoteProcess_built : Built True NW PW NN blockquoteProcess := by unfold blockquoteProcess; built

theorem codeTakeLine_built (n : Nat) (pos padding : Int) : Built True (OwnOnly n) PW NN (codeTakeLine n pos padding) := by
  unfold codeTakeLine; built

theorem codeTakeLine_own (k : Nat) (pos padding : Int) : Built True (OwnAt NW k) PW NN (codeTakeLine k pos padding) :=
  (codeTakeLine_built k pos padding).own

theorem paragraphContinue_built (n : Nat) : Built True (OwnOnly n) PW NN (paragraphContinue n) := by
  unfold paragraphContinue; built

theorem codeContinue_built (n : Nat) : Built True (OwnOnly n) PW NN (codeContinue n) := by
  have := @codeTakeLine_built PW NN n
  unfold codeContinue; built

theorem fencedContinue_built (n : Nat) : Built True (OwnOnly n) PW NN (fencedContinue n) := by unfold fencedContinue; built

theorem htmlContinue_built (n : Nat) : Built True (OwnOnly n) PW NN (htmlContinue n) := by unfold htmlContinue; built

theorem blockquoteContinue_built (n : Nat) : Built True NW PW NN (blockquoteContinue n) := by
  have := @blockquoteProcess_built
  unfold blockquoteContinue; built

theorem listContinue_built (n : Nat) : Built True NW (PcWs L) NN (listContinue n) := by
  have := @lastOpenedBlock_built; have := @lastOffset_built; have := @lastChildCount_built
  unfold listContinue; built

theorem listItemContinue_built (n : Nat) : Built True NW (PcWs L) NN (listItemContinue n) := by
  have := @lastOffset_built
  unfold listItemContinue; built

/-- a `Continue` writes `lines` / `closure` of its own node, the context keys if its parser is `keyed`, and creates
    nothing -/
theorem bpContinue_built (bp : BP) (n : Nat) :
    Built True (OwnOnly n) (fun f => bp.keyed = true ∧ PcWs L f) NN (bpContinue bp n) := by
  cases bp <;> unfold bpContinue
  · exact .pure _
  · exact .pure _
  · exact (listContinue_built n).mono id (fun _ _ h => h) (fun _ h => ⟨rfl, h⟩) (fun _ h => h)
  · exact (listItemContinue_built n).mono id (fun _ _ h => h) (fun _ h => ⟨rfl, h⟩) (fun _ h => h)
  · exact codeContinue_built n
  · exact .pure _
  · exact fencedContinue_built n
  · exact blockquoteContinue_built n
  · exact htmlContinue_built n
  · exact paragraphContinue_built n

/-- an `Open` writes the context under `PW`, creates `NN` nodes, overwrites (`OwnW`) only a node it has created, and
    answers no other node -/
abbrev OpenBuilt (PW : (Ctx → Ctx) → Prop) (NN : Node → Prop) (m : M (Option Nat × PState)) : Prop :=
  BuiltO True PW NN (fun own (a : Option Nat × PState) => ∀ n, a.1 = some n → own = some n) (fun _ _ => False) none m

theorem paragraphOpen_built (p : Nat) : OpenBuilt PW (LitOf .paragraph) (paragraphOpen p) := by unfold paragraphOpen; obuilt
theorem thematicOpen_built (p : Nat) : OpenBuilt PW (LitOf .thematicBreak) (thematicOpen p) := by unfold thematicOpen; obuilt
theorem atxOpen_built (p : Nat) : OpenBuilt PW (LitOf .heading) (atxOpen p) := by unfold atxOpen; obuilt

/-- the key `setextOpen` writes is the node of the last opened block it has read itself: `L` is not known in advance -/
theorem setextOpen_built (p : Nat) : OpenBuilt (fun f => ∃ L, PcWs L f) (LitOf .heading) (setextOpen p) := by
  have := @lastOpenedBlock_built
  unfold setextOpen; obuilt

theorem codeOpen_built (p : Nat) : OpenBuilt PW (LitOf .codeBlock) (codeOpen p) := by
  have := @codeTakeLine_own
  unfold codeOpen; obuilt

theorem fencedOpen_built (p : Nat) : OpenBuilt (PcWs L) (LitOf .fencedCodeBlock) (fencedOpen p) := by unfold fencedOpen; obuilt

theorem blockquoteOpen_built (p : Nat) : OpenBuilt PW (LitOf .blockquote) (blockquoteOpen p) := by
  have := @blockquoteProcess_built
  unfold blockquoteOpen; obuilt

theorem listOpen_built (p : Nat) : OpenBuilt (PcWs L) (LitOf .list) (listOpen p) := by
  have := @lastOpenedBlock_built
  unfold listOpen; obuilt

theorem listItemOpen_built (p : Nat) : OpenBuilt (PcWs L) (LitOf .listItem) (listItemOpen p) := by
  have := @lastOffset_built
  unfold listItemOpen; obuilt

theorem htmlOpen_built (p : Nat) : OpenBuilt PW (LitOf .htmlBlock) (htmlOpen p) := by
  have := @lastOpenedBlock_built
  unfold htmlOpen; obuilt

/-- all ten at once, the kind of the node and the last opened block forgotten -/
theorem bpOpen_built (bp : BP) (p : Nat) :
    OpenBuilt (fun f => bp.keyed = true ∧ ∃ L, PcWs L f) Isolated (bpOpen bp p) := by
  cases bp <;> unfold bpOpen
  · exact (setextOpen_built p).mono (fun _ h => ⟨rfl, h⟩) fun _ h => h.isolated
  · exact (thematicOpen_built p).mono (fun _ h => h) fun _ h => h.isolated
  · exact (listOpen_built (L := none) p).mono (fun _ h => ⟨rfl, _, h⟩) fun _ h => h.isolated
  · exact (listItemOpen_built (L := none) p).mono (fun _ h => ⟨rfl, _, h⟩) fun _ h => h.isolated
  · exact (codeOpen_built p).mono (fun _ h => h) fun _ h => h.isolated
  · exact (atxOpen_built p).mono (fun _ h => h) fun _ h => h.isolated
  · exact (fencedOpen_built (L := none) p).mono (fun _ h => ⟨rfl, _, h⟩) fun _ h => h.isolated
  · exact (blockquoteOpen_built p).mono (fun _ h => h) fun _ h => h.isolated
  · exact (htmlOpen_built p).mono (fun _ h => h) fun _ h => h.isolated
  · exact (paragraphOpen_built p).mono (fun _ h => h) fun _ h => h.isolated

end

/-! the tree operations of ast.go: relinking writes, each with its reason `L p c` where it makes `c` a child of `p` -/

section
variable {L : Nat → Nat → Prop} {RD : Prop} {NW : Nat → (Node → Node) → Prop} {PW : (Ctx → Ctx) → Prop} {NN : Node → Prop}

theorem removeChild_built (p c : Nat) : Built RD (LinkAt L NW) PW NN (removeChild p c) := by unfold removeChild; built

theorem ensureIsolated_built (c : Nat) : Built RD (LinkAt L NW) PW NN (ensureIsolated c) := by
  have := @removeChild_built L RD NW PW NN
  unfold ensureIsolated; built

theorem appendChild_built {p c : Nat} (h : L p c) : Built RD (LinkAt L NW) PW NN (appendChild p c) := by
  have := @ensureIsolated_built L RD NW PW NN
  unfold appendChild; built

theorem insertBefore_built {p : Nat} (v1 : Option Nat) {ins : Nat} (h : L p ins) :
    Built RD (LinkAt L NW) PW NN (insertBefore p v1 ins) := by
  have := @ensureIsolated_built L RD NW PW NN
  have := @appendChild_built L RD NW PW NN p ins h
  unfold insertBefore; built

theorem insertAfter_built {p : Nat} (v1 : Option Nat) {ins : Nat} (h : L p ins) :
    Built RD (LinkAt L NW) PW NN (insertAfter p v1 ins) := by
  have := @appendChild_built L RD NW PW NN p ins h
  have := @nextSibling_built RD (LinkAt L NW) PW NN
  have := fun v1 => @insertBefore_built L RD NW PW NN p v1 ins h
  unfold insertAfter; built

theorem replaceChild_built {p : Nat} (v1 : Nat) {ins : Nat} (h : L p ins) :
    Built RD (LinkAt L NW) PW NN (replaceChild p v1 ins) := by
  have := @insertBefore_built L RD NW PW NN p (some v1) ins h
  have := @removeChild_built L RD NW PW NN
  unfold replaceChild; built

theorem paragraphClose_built (n : Nat) : Built RD (LinkAt L (OwnOnly n)) PW NN (paragraphClose n) := by
  have := @removeChild_built L RD (OwnOnly n) PW NN
  unfold paragraphClose; built

theorem codeClose_built (n : Nat) : Built RD (OwnOnly n) PW NN (codeClose n) := by unfold codeClose; built

theorem fencedClose_built (n : Nat) : Built RD NW (· = fun pc => { pc with fence := none }) NN (fencedClose n) := by
  unfold fencedClose; built

/-- relinking without a reason asked, and overwrites that keep kind and links: what `setextClose` and `listClose` do to
    nodes (the reasons for their edges are facts about the state) -/
abbrev CloseW : Nat → (Node → Node) → Prop := LinkAt (fun _ _ => True) fun _ f => DataW f

theorem setextClose_built (n : Nat) :
    Built RD CloseW (· = fun pc => { pc with tmpPara := none }) Isolated (setextClose n) := by
  have := @removeChild_built (fun _ _ => True) RD (fun _ f => DataW f) (· = fun pc : Ctx => { pc with tmpPara := none }) Isolated
  have := fun p v i => @insertAfter_built (fun _ _ => True) RD (fun _ f => DataW f)
    (· = fun pc : Ctx => { pc with tmpPara := none }) Isolated p v i trivial
  have := @nextSibling_built
  unfold setextClose; built

theorem tightenItem_built (child : Nat) (gcs : List Nat) : Built RD CloseW PW Isolated (tightenItem child gcs) := by
  have := fun p v i => @replaceChild_built (fun _ _ => True) RD (fun _ f => DataW f) PW Isolated p v i trivial
  induction gcs with
  | nil => unfold tightenItem; built
  | cons gc gcs ih => unfold tightenItem; built

theorem tightenItems_built (cs : List Nat) : Built RD CloseW PW Isolated (tightenItems cs) := by
  have := @tightenItem_built RD PW
  induction cs with
  | nil => unfold tightenItems; built
  | cons c cs ih => unfold tightenItems; built

theorem listClose_built (n : Nat) : Built RD CloseW PW Isolated (listClose n) := by
  have := @tightenItems_built RD PW
  unfold listClose; built

/-- a `Close` relinks, overwrites data of nodes, creates isolated nodes and resets a context key -/
theorem bpClose_built (bp : BP) (n : Nat) : Built RD CloseW CloseKeyW Isolated (bpClose bp n) := by
  cases bp <;> unfold bpClose
  · exact (setextClose_built n).mono id (fun _ _ h => h) (fun _ h => .inl h) (fun _ h => h)
  · exact .pure _
  · exact listClose_built n
  · exact .pure _
  · exact (codeClose_built n).mono id (fun _ _ h => .inr h.2.data) (fun _ h => h) (fun _ h => h)
  · exact .pure _
  · exact (fencedClose_built n).mono id (fun _ _ h => h) (fun _ h => .inr h) (fun _ h => h)
  · exact .pure _
  · exact .pure _
  · exact (paragraphClose_built (L := fun _ _ => True) n).mono id (fun _ _ h => h.imp_right fun h => h.2.data) (fun _ h => h)
      (fun _ h => h)

end

end GM.Blocks
