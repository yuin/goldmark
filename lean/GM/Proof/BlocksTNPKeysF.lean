/-
  GM.Proof.BlocksTNPKeysF — after `.retryTransformed` the temporaryParagraphKey points to a paragraph without lines and `KeysOK.tmp` is
  false. Here: the contracts of every `Continue` and of every `Close` except the setext heading parser's from the FENCE half of
  `KeysOK` alone (`KeysOKF`; `ContSpecW`, `CloseSpecW` of GM.Proof.BlocksInv), collected over the parsers (`contW_all`, `closeW_all`:
  the lemmas of GM.Proof.BlocksSpec*, none of which uses `KeysOK.tmp`), and the tree-link / `PLT` frames `bpClose_tfW`, `bpClose_pltW`
  (from GM.Proof.BlocksFrames); `setextClose` needs the key (`setextClose_specW`: from `KeysOKF` plus the `tmp` clause). Used from
  GM.Proof.BlocksTNPWin on.
-/
import GM.Proof.BlocksDriverL
import GM.Proof.BlocksFrames

namespace GM.Blocks.W
open GM GM.Text GM.Spec GM.Proof.Reader GM.Blocks.SpecHtml

/-- setextHeadingParser.Close still needs the key -/
theorem setextClose_specW (src : Bytes) (node : Nat) (s : St) (hsrc : s.r.source = src) (hn : NodesOK src s)
    (hk : KeysOKF s)
    (ht : ∀ t, s.pc.tmpPara = some t → t < s.nodes.length ∧ (nd s t).kind = .paragraph ∧ (nd s t).lines ≠ [])
    (hb : BlockOK s ⟨node, .setext⟩) : OKL (fun _ s' => ClosePost src .setext node s s') (bpClose .setext node s) :=
  setextClose_spec src node s hsrc hn ⟨ht, hk.fence⟩ hb

/-- every `Continue` but the list parsers' (those have their own lemmas `listContinue_okl2` / `listItemContinue_okl2`,
    which do not mention `KeysOK`) from the fence half alone -/
theorem contW_all (src : Bytes) (bp : BP) (hl : bp ≠ .list) (hi : bp ≠ .listItem) : ContSpecW src bp := by
  cases bp
  · exact setextContinue_spec src
  · exact thematicContinue_spec src
  · exact absurd rfl hl
  · exact absurd rfl hi
  · exact codeContinue_spec src
  · exact atxContinue_spec src
  · exact fencedContinue_spec src
  · exact blockquoteContinue_spec src
  · exact htmlContinue_spec src
  · exact paragraphContinue_spec src

/-- every `Close` but the setext heading parser's from the fence half alone -/
theorem closeW_all (src : Bytes) (bp : BP) (hs : bp ≠ .setext) : CloseSpecW src bp := by
  cases bp
  · exact absurd rfl hs
  · exact thematicClose_spec src
  · exact listClose_spec src
  · intro node s _ hn _ _
    exact OKL.ok ⟨rfl, rfl, Ext.refl s, hn, .inl rfl, .inl rfl, fun _ => rfl⟩
  · exact codeClose_spec src
  · exact atxClose_spec src
  · exact fencedClose_spec src
  · exact blockquoteClose_spec src
  · exact htmlClose_spec src
  · exact paragraphClose_spec src

/-- the tree-link frame of every `Close` but setext's, without `KeysOK` -/
theorem bpClose_tfW (src : Bytes) (bp : BP) (hs : bp ≠ .setext) (node : Nat) (s s' : St) (hn : NodesOK src s)
    (hb : BlockOK s ⟨node, bp⟩) (hkids : KidsOK s) (h : bpClose bp node s = .ok ((), s')) : TF s s' := by
  cases bp <;> unfold bpClose at h
  · exact absurd rfl hs
  · cases h; exact (TreeSame.refl s).tf
  · exact listClose_tf node s s' hkids hb.kind h
  · cases h; exact (TreeSame.refl s).tf
  · exact ((codeClose_tsame node).h s () s' h).tf
  · cases h; exact (TreeSame.refl s).tf
  · exact ((fencedClose_tsame node).h s () s' h).tf
  · cases h; exact (TreeSame.refl s).tf
  · cases h; exact (TreeSame.refl s).tf
  · exact (paragraphClose_tf node s s' hb hn h).tf

/-- parent pointers stay in range over every `Close` but setext's, without `KeysOK` -/
theorem bpClose_pltW (src : Bytes) (bp : BP) (hs : bp ≠ .setext) (node : Nat) (s s' : St) (hn : NodesOK src s)
    (hb : BlockOK s ⟨node, bp⟩) (hkids : KidsOK s) (hp : PLT s) (h : bpClose bp node s = .ok ((), s')) :
    PLT s' ∧ s.nodes.length ≤ s'.nodes.length := by
  cases bp <;> unfold bpClose at h
  · exact absurd rfl hs
  · cases h; exact ⟨hp, Nat.le_refl _⟩
  · exact listClose_plt node s s' hkids hb.kind hp h
  · cases h; exact ⟨hp, Nat.le_refl _⟩
  · have t := (codeClose_tsame node).h s () s' h
    exact ⟨hp.treeSame t, Nat.le_of_eq t.len.symm⟩
  · cases h; exact ⟨hp, Nat.le_refl _⟩
  · have t := (fencedClose_tsame node).h s () s' h
    exact ⟨hp.treeSame t, Nat.le_of_eq t.len.symm⟩
  · cases h; exact ⟨hp, Nat.le_refl _⟩
  · cases h; exact ⟨hp, Nat.le_refl _⟩
  · have t := paragraphClose_tf node s s' hb hn h
    exact ⟨hp.treeSame t, Nat.le_of_eq t.len.symm⟩

end GM.Blocks.W
