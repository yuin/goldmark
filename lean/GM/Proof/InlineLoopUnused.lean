/-
  GM.Proof.InlineLoopUnused — "never consulted" for the inline driver model GM.Model.InlineLoop:
  a parser none of whose trigger bytes occurs in the source (and which is not registered for ' ', the table
  index of white space and of a line head) changes NOTHING: the run with it is equal to the run without it —
  same children, same reader, same call log. (C11, item "never consulted".)
  Also: `WithEscapedSpace` is irrelevant when no parser is registered for ' '.
-/
import GM.Model.InlineLoop
import GM.Proof.InlineLoop

namespace GM.Proof.InlineLoopUnused
open GM GM.InlineLoop GM.Proof.InlineLoop

theorem table_single_off (q : Parser) (pc : UInt8) (h : pc ∉ q.triggers) : table [q] pc = [] := by
  have : q.triggers.filter (· == pc) = [] := by
    rw [List.filter_eq_nil_iff]
    intro a ha hEq
    have : a = pc := by simpa using hEq
    exact h (this ▸ ha)
  simp [table, this]

theorem table_insert_off (l1 l2 : List Parser) (q : Parser) (pc : UInt8) (h : pc ∉ q.triggers) :
    table (l1 ++ q :: l2) pc = table (l1 ++ l2) pc := by
  have : l1 ++ q :: l2 = l1 ++ ([q] ++ l2) := by simp
  rw [this, table_append, table_append, table_append, table_single_off q pc h]
  simp

/-- the table index the loop computes for a byte is the byte itself (punctuation) or ' '; a byte that is neither
    punctuation nor white space passes the trigger test only at `i = 0`, with index ' ' -/
theorem step_insert_off (l1 l2 : List Parser) (q : Parser) (esc : Bool) (b : Block) (c : UInt8) (i n sp : Nat) (st : St)
    (h32 : (32 : UInt8) ∉ q.triggers) (hc : isPunct c = true → c ∉ q.triggers) :
    step ⟨l1 ++ q :: l2, esc⟩ b c i n sp st = step ⟨l1 ++ l2, esc⟩ b c i n sp st := by
  by_cases hp : isPunct c = true
  · unfold step
    simp only []
    have hpc : (if (isSpace c && c != 13 && c != 10) || (i == 0 && !isPunct c) then (32 : UInt8) else c) ∉ q.triggers := by
      split
      · exact h32
      · exact hc hp
    rw [table_insert_off l1 l2 q _ hpc]
  · by_cases hs : ((isSpace c && c != 13 && c != 10) || (i == 0 && !isPunct c)) = true
    · unfold step
      simp only [hs, if_true]
      rw [table_insert_off l1 l2 q 32 h32]
    · have hp' : isPunct c = false := by simpa using hp
      have hs' : ((isSpace c && c != 13 && c != 10) || (i == 0 && !isPunct c)) = false := by simpa using hs
      rw [hp'] at hs'
      simp only [Bool.not_false, Bool.and_true, Bool.or_eq_false_iff] at hs'
      unfold step
      simp [hp', hs'.1, hs'.2]

/-! ### the loop reads the parameters only in `step`, at bytes of the source -/

theorem scan_congr (P Q : Params) (b : Block) (cs : List UInt8)
    (h : ∀ c ∈ cs, ∀ i n sp st, step P b c i n sp st = step Q b c i n sp st) (i n sp : Nat) (st : St) :
    scan P b cs i n sp st = scan Q b cs i n sp st := by
  induction cs generalizing i n sp st with
  | nil => rfl
  | cons c cs ih =>
    unfold scan
    rw [h c (by simp)]
    split
    · rfl
    · split
      · rfl
      · exact ih (fun x hx => h x (by simp [hx])) _ _ _ _

theorem mem_slice {src : Bytes} {a z : Nat} {c : UInt8} (h : c ∈ slice src a z) : c ∈ src := by
  unfold slice at h
  exact List.mem_of_mem_drop (List.mem_of_mem_take h)

theorem pass_congr (P Q : Params) (b : Block)
    (h : ∀ c ∈ b.src, ∀ i n sp st, step P b c i n sp st = step Q b c i n sp st) (st : St) : pass P b st = pass Q b st := by
  unfold pass
  cases hp : peekLine b st.rd with
  | none => rfl
  | panic => rfl
  | line line =>
    simp only []
    have hline : ∀ c ∈ line, c ∈ b.src := by
      intro c hc
      unfold peekLine at hp
      split at hp
      · split at hp
        · cases hp; exact mem_slice hc
        · cases hp
      · cases hp
    rw [scan_congr P Q b (line.take (classify line).1) (fun c hc => h c (hline c (List.mem_of_mem_take hc)))]

theorem loop_congr (P Q : Params) (b : Block)
    (h : ∀ c ∈ b.src, ∀ i n sp st, step P b c i n sp st = step Q b c i n sp st) (fuel : Nat) (st : St) :
    loop P b fuel st = loop Q b fuel st := by
  induction fuel generalizing st with
  | zero => rfl
  | succ f ih =>
    unfold loop
    rw [pass_congr P Q b h st]
    split
    · rfl
    · rfl
    · exact ih _

/-- NEVER CONSULTED. If no PUNCTUATION byte of the source is a trigger byte of `q` (other bytes are never table
    indices) and `q` is not registered for ' ', the run with `q` inserted anywhere in the priority order EQUALS the
    run without it (children, reader, log, outcome). -/
theorem run_unused_punct (b : Block) (l1 l2 : List Parser) (q : Parser) (esc : Bool)
    (h32 : (32 : UInt8) ∉ q.triggers) (hsrc : ∀ c ∈ b.src, isPunct c = true → c ∉ q.triggers) :
    run ⟨l1 ++ q :: l2, esc⟩ b = run ⟨l1 ++ l2, esc⟩ b :=
  loop_congr _ _ b (fun c hc i n sp st => step_insert_off l1 l2 q esc b c i n sp st h32 (hsrc c hc)) (fuelFor b) (initSt b)

theorem run_unused (b : Block) (l1 l2 : List Parser) (q : Parser) (esc : Bool)
    (h32 : (32 : UInt8) ∉ q.triggers) (hsrc : ∀ c ∈ b.src, c ∉ q.triggers) :
    run ⟨l1 ++ q :: l2, esc⟩ b = run ⟨l1 ++ l2, esc⟩ b :=
  run_unused_punct b l1 l2 q esc h32 (fun c hc _ => hsrc c hc)

theorem step_escSpace (ps : List Parser) (b : Block) (h : table ps 32 = []) (c : UInt8) (i n sp : Nat) (st : St) :
    step ⟨ps, true⟩ b c i n sp st = step ⟨ps, false⟩ b c i n sp st := by
  unfold step
  simp only []
  by_cases hs : (isSpace c && c != 13 && c != 10) = true
  · simp [hs, h]
  · simp [hs]

/-- parser.WithEscapedSpace (CJK) changes nothing in the inline loop when no inline parser is registered for ' '
    (true of every built-in configuration without Linkify): the flag is read only in the trigger test of a
    space/tab, whose table entry is then empty. -/
theorem run_escSpace (ps : List Parser) (b : Block) (h : table ps 32 = []) :
    run ⟨ps, true⟩ b = run ⟨ps, false⟩ b :=
  loop_congr _ _ b (fun c _ => step_escSpace ps b h c) (fuelFor b) (initSt b)

end GM.Proof.InlineLoopUnused
