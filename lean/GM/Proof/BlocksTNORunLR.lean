/-
  GM.Proof.BlocksTNORunLR — whole runs of the block phase WITH the link-reference paragraph transformer, EVERY source: the
  run-time check of `guardE` / `guardedTransform` never fires, so the run with the bare `GM.LinkRef.transform` ends
  normally; in the final store the lines of every non-raw block are ordered / `WFSegs` and every line of a Paragraph holds
  a non-space byte.
-/
import GM.Proof.BlocksTNORunW
import GM.Proof.BlocksTNPTotal

namespace GM.Blocks.TO
open GM GM.Text GM.Spec GM.Proof.Reader GM.Blocks.L GM.Blocks.T GM.LinkRef
open GM.Proof.BlocksWF0 (isRaw)

theorem agreeP_guardE (src : Bytes) (e : Panic) : TX.AgreeP False src [guardE e] [transform] :=
  TX.agreeP_of_passes src _ (fun node s h => GM.Proof.LinkRefTot2.guardE_passes e node s h)

theorem agreeP_guarded (src : Bytes) : TX.AgreeP False src [guardedTransform] [transform] :=
  TX.agreeP_of_passes src _ guardedTransform_passes

section run
variable {src : Bytes} {e : Panic} {pts1 pts2 : List PT}

theorem runT_eqg (hag : TX.AgreeP False src pts1 pts2) (hsp : PTsSpec src e pts1) :
    runT pts1 src = runT pts2 src ∧ ∀ s, runT pts1 src = .ok s → ∃ E, InvG src E s := by
  obtain ⟨h1, h2⟩ := TX.runT_eqg hag (GM.Blocks.L.G.X.ptsSpecX_of_ptsSpec hsp)
  exact ⟨h1, fun s hs => (h2 s hs).imp fun _ hE => hE.toO⟩

end run

/-- **the run-time check never fires**, for every source: the block phase with `guardE e` and the block phase with the
    bare transformer are the same run -/
theorem guard_never_fires (src : Bytes) (e : Panic) : runT [guardE e] src = runT [transform] src :=
  (runT_eqg (agreeP_guardE src e) (GM.Proof.LinkRefTot2.guardE_ptsSpec src e)).1

/-- **the block phase with the bare link-reference transformer ends normally for every source**
    (= `GM.Convert.blockPhase false src`) -/
theorem runT_transform_total (src : Bytes) : ∃ s, runT [transform] src = .ok s ∧ NodesOK src s := by
  have h1 := GM.Blocks.T.runT_total src .nil [guardE .nil] (GM.Proof.LinkRefTot2.guardE_ptsSpec src .nil)
    (GM.Proof.LinkRefTot2.guardE_ptsOK .nil (by decide))
  have h2 := GM.Blocks.T.runT_total src .slice [guardE .slice] (GM.Proof.LinkRefTot2.guardE_ptsSpec src .slice)
    (GM.Proof.LinkRefTot2.guardE_ptsOK .slice (by decide))
  rw [guard_never_fires src] at h1 h2
  rcases h1 with ⟨s, a, b, _⟩ | h1
  · exact ⟨s, a, b⟩
  · rcases h2 with ⟨s, a, b, _⟩ | h2
    · exact ⟨s, a, b⟩
    · rw [h1] at h2; cases h2

/-- the check of the default transformer list of `GM.Convert.blockPhase true` (`guardedTransform`) never fires -/
theorem blockPhase_guard_irrelevant (src : Bytes) : GM.Convert.blockPhase true src = GM.Convert.blockPhase false src := by
  have hsp : PTsSpec src .pre [guardedTransform] := by
    have := GM.Proof.LinkRefTot2.paragraphTransformers_spec src
    simpa [GM.Convert.paragraphTransformers] using this
  have := (runT_eqg (agreeP_guarded src) hsp).1
  simpa [GM.Convert.blockPhase, GM.Convert.paragraphTransformers] using this

theorem blockPhase_total (src : Bytes) : ∃ s, GM.Convert.blockPhase true src = .ok s ∧ NodesOK src s := by
  rw [blockPhase_guard_irrelevant src]
  have := runT_transform_total src
  simpa [GM.Convert.blockPhase, GM.Convert.paragraphTransformers] using this

/-- the order invariant of the final store of the block phase with the transformer -/
theorem runT_transform_inv (src : Bytes) (s : St) (hr : runT [transform] src = .ok s) : ∃ E, InvG src E s := by
  rw [← guard_never_fires src .nil] at hr
  exact (runT_eqg (agreeP_guardE src .nil) (GM.Proof.LinkRefTot2.guardE_ptsSpec src .nil)).2 s hr

/-- **order clause / `WFSegs` for the final store of the run WITH the transformer, every source** (the analogue of
    `run_ordered`, `run_segs_nonempty`, `run_wfsegs` of GM.Proof.BlocksOrdRun): every non-raw block's lines increase, every segment is non-empty
    without ForceNewline; a non-raw block that has lines has `WFSegs` lines; every line of a Paragraph holds a non-space
    byte -/
theorem runT_transform_wfsegs (src : Bytes) (s : St) (hr : runT [transform] src = .ok s) :
    (∀ n ∈ s.nodes, isRaw n.kind = false → OrdFrom 0 n.lines ∧ (∀ t ∈ n.lines, t.start < t.stop ∧ t.forceNewline = false) ∧
      (n.lines ≠ [] → WFSegs src n.lines)) ∧
    (∀ n ∈ s.nodes, n.kind = .paragraph → ∀ t ∈ n.lines, NonBlankSeg src t) := by
  obtain ⟨E, hE⟩ := runT_transform_inv src s hr
  refine ⟨fun n hn hraw => ?_, fun n hn hk => ?_⟩
  · obtain ⟨i, _, rfl⟩ := mem_nodes_nd hn
    obtain ⟨a1, _, a3⟩ := hE.nrb i hraw
    have hok := (nodeOK_nd hE.nodes i).lines
    exact ⟨a1, a3, fun hne => ⟨hne, (wfSegsFrom_iff src _ 0).2 ⟨a1, fun t ht =>
      ⟨(a3 t ht).1, (hok t ht).2.2.1, (hok t ht).2.2.2, (a3 t ht).2⟩⟩⟩⟩
  · obtain ⟨i, _, rfl⟩ := mem_nodes_nd hn
    exact hE.pnb i hk

/-- **order clause for the three raw kinds** in the final store of the run with the transformer (the analogue of
    `run_ordered_raw` of GM.Proof.BlocksOrdRun): the line segments of every CodeBlock, FencedCodeBlock and HTMLBlock increase as well -/
theorem runT_transform_ordered_raw (src : Bytes) (s : St) (hr : runT [transform] src = .ok s) :
    ∀ n ∈ s.nodes, isRaw n.kind = true → OrdFrom 0 n.lines := by
  obtain ⟨E, hE⟩ := runT_transform_inv src s hr
  intro n hn hraw
  obtain ⟨i, _, rfl⟩ := mem_nodes_nd hn
  exact (hE.raw i hraw).1

/-! ### witnesses (kernel-evaluated) -/

/-- `[a]: /u⏎` — the paragraph is transformed away (GONE) -/
def exGone : Bytes := [91, 97, 93, 58, 32, 47, 117, 10]
/-- `> [a]: /u⏎> b⏎- x⏎` — a definition in front of text inside a block quote (KEEP), then a bullet list -/
def exKeep : Bytes := [62, 32, 91, 97, 93, 58, 32, 47, 117, 10, 62, 32, 98, 10, 45, 32, 120, 10]

example : ∃ s, runT [transform] exGone = .ok s ∧ NodesOK exGone s := runT_transform_total _
example : ∃ s, runT [transform] exKeep = .ok s ∧ NodesOK exKeep s := runT_transform_total _

/-- why `InvG` has no clause "every Paragraph has a line" (`Inv` of GM.Proof.BlocksOrdInv has one): after the run on `[a]: /u⏎` node 1 is a
    parentless Paragraph without lines (and node 2 the TextBlock that took its place) -/
example : (runT [transform] exGone).toOption.map (fun s =>
    decide ((nd s 1).kind = .paragraph) && (nd s 1).lines.isEmpty && (nd s 1).parent.isNone &&
      decide ((nd s 2).kind = .textBlock)) = some true := by decide +kernel

/-- `a⏎[b]: /u⏎===⏎` — RequireParagraph, KEEP: the definition goes, `a` becomes the setext heading -/
def exSetextKeep : Bytes := [97, 10, 91, 98, 93, 58, 32, 47, 117, 10, 61, 61, 61, 10]
/-- `[a]: /u⏎===⏎x⏎` — RequireParagraph, GONE (`.retryTransformed`): the Heading node is abandoned, `===` starts a paragraph -/
def exSetextGone : Bytes := [91, 97, 93, 58, 32, 47, 117, 10, 61, 61, 61, 10, 120, 10]

example : ∃ s, runT [transform] exSetextKeep = .ok s ∧ NodesOK exSetextKeep s := runT_transform_total _
example : ∃ s, runT [transform] exSetextGone = .ok s ∧ NodesOK exSetextGone s := runT_transform_total _

end GM.Blocks.TO
