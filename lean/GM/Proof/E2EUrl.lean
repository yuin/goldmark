/-
  GM.Proof.E2EUrl — where URL values stand in the output, for EVERY tree: in the option-independent piece list of C10
  (`ir e a esc t`, whose `emit`-concatenation IS the rendered output) every URL piece `.url d` stands directly between a
  literal piece that consists of `<a href="` (+ `mailto:` for e-mail autolinks) or `<img src="` and a literal piece
  that starts with the closing quote; and what safe mode writes from the opening quote to the closing quote —
  `pre ++ urlOut false d` — contains no quote and is harmless under `Spec.hrefDangerous` (C04 `safe_href`,
  `safe_autolink`). No other piece kind carries a destination.
-/
import GM.Model.RenderIR
import GM.Proof.UrlSafe
import GM.Proof.Util

namespace GM.E2E
open GM GM.Spec

/-- the literal in front of a URL piece opens an `href` / `src` attribute (`pre` = what the renderer itself puts in
    front of the destination: nothing, or `mailto:`), and the attribute value safe mode writes is quote-free and harmless -/
def UrlSite (a d : Bytes) : Prop :=
  ∃ pre : Bytes, (a = strBytes "<a href=\"" ++ pre ∨ a = strBytes "<img src=\"" ++ pre) ∧
    (∀ c ∈ pre ++ urlOut false d, c ≠ 34) ∧
    hrefDangerous lookupEntity (pre ++ urlOut false d) = false

/-- every URL piece of the list stands between its opening literal and a literal that starts with `"` -/
def UrlPiecesOK (ps : List Piece) : Prop :=
  ∀ pre d post, ps = pre ++ Piece.url d :: post →
    ∃ pre' a c post', pre = pre' ++ [Piece.lit a] ∧ post = Piece.lit (34 :: c) :: post' ∧ UrlSite a d

theorem urlPiecesOK_of_noUrl {ps : List Piece} (h : ∀ d, Piece.url d ∉ ps) : UrlPiecesOK ps := by
  intro pre d post e
  exact absurd (by rw [e]; simp) (h d)

theorem urlPiecesOK_nil : UrlPiecesOK [] := urlPiecesOK_of_noUrl (by simp)

theorem urlPiecesOK_append {x y : List Piece} (hx : UrlPiecesOK x) (hy : UrlPiecesOK y) : UrlPiecesOK (x ++ y) := by
  intro pre d post e
  rcases List.append_eq_append_iff.mp e with ⟨m, e1, e2⟩ | ⟨m, e1, e2⟩
  · -- pre = x ++ m, y = m ++ url :: post
    obtain ⟨pre', a, c, post', h1, h2, h3⟩ := hy m d post e2
    exact ⟨x ++ pre', a, c, post', by rw [e1, h1, List.append_assoc], h2, h3⟩
  · -- x = pre ++ m, url :: post = m ++ y
    cases m with
    | nil =>
      simp only [List.nil_append] at e2
      simp only [List.append_nil] at e1
      obtain ⟨pre', a, c, post', h1, h2, h3⟩ := hy [] d post (by simpa using e2.symm)
      simp at h1
    | cons p m =>
      simp only [List.cons_append, List.cons.injEq] at e2
      obtain ⟨rfl, rfl⟩ := e2
      obtain ⟨pre', a, c, post', h1, h2, h3⟩ := hx pre d m e1
      exact ⟨pre', a, c, post' ++ y, h1, by rw [h2]; rfl, h3⟩

theorem no34_escapeHTML (v : Bytes) : ∀ c ∈ escapeHTML v, c ≠ 34 := by
  have h := GM.Proof.escapeHTML_noRaw v
  unfold noRawSpecial at h
  rw [List.all_eq_true] at h
  intro c hc
  have := h c hc
  simp only [Bool.and_eq_true, bne_iff_ne, ne_eq] at this
  exact this.2

theorem no34_urlOut (d : Bytes) : ∀ c ∈ urlOut false d, c ≠ 34 := by
  unfold urlOut
  split
  · exact no34_escapeHTML d
  · simp

theorem urlSite_link (dest : Bytes) : UrlSite (strBytes "<a href=\"") (urlEscape dest true) :=
  ⟨[], .inl (by simp), by simpa using no34_urlOut _, by simpa using GM.Proof.safe_href dest⟩

theorem urlSite_image (dest : Bytes) : UrlSite (strBytes "<img src=\"") (urlEscape dest true) :=
  ⟨[], .inr (by simp), by simpa using no34_urlOut _, by simpa using GM.Proof.safe_href dest⟩

theorem urlSite_autoLink (email : Bool) (url : Bytes) :
    UrlSite (strBytes "<a href=\"" ++ (if email && !mailtoPrefixed url (strBytes "mailto:") then strBytes "mailto:" else []))
      (urlEscape url false) := by
  refine ⟨_, .inl rfl, ?_, GM.Proof.safe_autolink email url⟩
  intro c hc
  rw [List.mem_append] at hc
  rcases hc with hc | hc
  · split at hc
    · have hm : ∀ c ∈ strBytes "mailto:", c ≠ 34 := by decide +kernel
      exact hm c hc
    · simp at hc
  · exact no34_urlOut _ c hc

theorem urlPiecesOK_site {a d c : Bytes} (rest : List Piece) (h : UrlSite a d) (hr : ∀ d', Piece.url d' ∉ rest) :
    UrlPiecesOK (Piece.lit a :: Piece.url d :: Piece.lit (34 :: c) :: rest) := by
  intro pre d' post e
  cases pre with
  | nil => simp at e
  | cons p pre =>
    simp only [List.cons_append, List.cons.injEq] at e
    obtain ⟨rfl, e⟩ := e
    cases pre with
    | nil =>
      simp only [List.nil_append, List.cons.injEq, Piece.url.injEq] at e
      obtain ⟨rfl, rfl⟩ := e
      exact ⟨[], a, c, rest, rfl, rfl, h⟩
    | cons q pre =>
      simp only [List.cons_append, List.cons.injEq] at e
      obtain ⟨rfl, e⟩ := e
      cases pre with
      | nil => simp at e
      | cons r pre =>
        simp only [List.cons_append, List.cons.injEq] at e
        exact absurd (by rw [e.2]; simp) (hr d')

theorem enterIR_urlOK (e : Exts) (a : Nat) (esc ph : Bool) (next : Option Node) (k : Kind)
    (attrs : Option (List Attr)) (cs : List Node) : UrlPiecesOK (enterIR e a esc ph next k attrs cs) := by
  unfold enterIR
  split
  · exact urlPiecesOK_nil
  · cases k
    case autoLink email url label _ =>
      cases attrs with
      | none => exact urlPiecesOK_site [] (urlSite_autoLink email url) (by simp)
      | some as => exact urlPiecesOK_site [] (urlSite_autoLink email url) (by simp)
    case link dest title _ => exact urlPiecesOK_site [] (urlSite_link dest) (by simp)
    case image dest title _ =>
      have : strBytes "\" alt=\"" = 34 :: strBytes " alt=\"" := by decide +kernel
      simp only [this, List.cons_append]
      exact urlPiecesOK_site [.voidEnd] (urlSite_image dest) (by simp)
    case text v soft hard raw cjk _ =>
      apply urlPiecesOK_of_noUrl
      intro d
      simp only
      split
      · simp
      · split
        · simp
        · split <;> simp
    all_goals (apply urlPiecesOK_of_noUrl; intro d; simp)

theorem leaveIR_urlOK (e : Exts) (a : Nat) (esc ph : Bool) (next : Option Node) (k : Kind) (cs : List Node) :
    UrlPiecesOK (leaveIR e a esc ph next k cs) := by
  apply urlPiecesOK_of_noUrl
  intro d
  unfold leaveIR
  split
  · simp
  · cases k
    case htmlBlock lines closure _ => cases closure <;> simp
    all_goals simp

mutual
theorem irNode_urlOK (e : Exts) (a : Nat) (esc ph : Bool) (next : Option Node) :
    (t : Node) → UrlPiecesOK (irNode e a esc ph next t)
  | .mk k attrs cs => by
    unfold irNode
    refine urlPiecesOK_append (urlPiecesOK_append (enterIR_urlOK e a esc ph next k attrs cs) ?_)
      (leaveIR_urlOK e a esc ph next k cs)
    split
    · exact urlPiecesOK_nil
    · exact irNodes_urlOK e a esc k.isTableHeader cs
theorem irNodes_urlOK (e : Exts) (a : Nat) (esc ph : Bool) : (cs : List Node) → UrlPiecesOK (irNodes e a esc ph cs)
  | [] => by unfold irNodes; exact urlPiecesOK_nil
  | c :: rest => by
    unfold irNodes
    exact urlPiecesOK_append (irNode_urlOK e a esc ph rest.head? c) (irNodes_urlOK e a esc ph rest)
end

theorem ir_urlOK (e : Exts) (a : Nat) (esc : Bool) (t : Node) : UrlPiecesOK (ir e a esc t) :=
  irNode_urlOK e a esc false none t

theorem emit_lit (x h u : Bool) (b : Bytes) : emit x h u (.lit b) = b := by simp [emit, hardWrap, emitBase]
theorem emit_url (x h u : Bool) (d : Bytes) : emit x h u (.url d) = urlOut u d := by simp [emit, hardWrap, emitBase]

end GM.E2E
