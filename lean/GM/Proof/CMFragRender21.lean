/-
  GM.Proof.CMFragRender21 — the renderer half of the conformance proof for stage 21 (the union fragment with all inline
  atoms):
  * `renderNode_fatom21`: the node of one atom (`AtomShape21`: a code atom does not end with a line feed, the
    destination of a link / an image and the URI of an autolink need no escaping; from `FAtomOK`: `atomShape_of_ok21`);
  * `renderNodes_fline21`: the nodes of one line (`fatomNodes soft hard`) for a line that ends with a text atom
    (`LineShape21`, from `FRichLine`: `lineShape_of_frichLine21`);
  * `renderNodes_fNodes21`: the children of a paragraph; `renderNode_fblock21`: one block; `renderPanicsNode_fblock21`;
  * `renderDoc_f21`, `renderDoc_nest_f21`: the document, and the document inside `k` nested block quotes.
-/
import GM.Proof.CMFrag21Defs
import GM.Proof.CMFragRender8
import GM.Proof.CMFragRender16
namespace GM.Proof.CMFrag
open GM GM.Spec.CM GM.Spec.CMFrag

/-- what the renderer needs of an atom -/
def AtomShape21 : FAtom → Prop
  | .code bs => bs.getLast? ≠ some 10
  | .link _ d => ∀ c ∈ d, isDestC16 c = true
  | .img _ d => ∀ c ∈ d, isDestC16 c = true
  | .auto s r => ∀ c ∈ autoUri18 s r, isUriC18 c = true
  | _ => True

theorem atomShape_of_ok21 (a : FAtom) (h : FAtomOK a) : AtomShape21 a := by
  cases a with
  | code bs =>
    intro hlast
    obtain ⟨ys, hys⟩ := List.getLast?_eq_some_iff.mp hlast
    exact alnum_ne_lf8 10 (h.2 10 (by rw [hys]; simp)) rfl
  | link t d => exact h.2.2
  | img t d => exact h.2.2
  | auto s r =>
    intro c hc
    obtain ⟨⟨_, _, hs⟩, ⟨_, hr⟩⟩ := h
    simp only [autoUri18, List.mem_append, List.mem_singleton] at hc
    rcases hc with (hc | hc) | hc
    · exact uriC_of_letter18 c (hs c hc)
    · subst hc; rfl
    · exact uriC_of_auto18 c (hr c hc)
  | txt bs => trivial
  | em bs => trivial
  | strong bs => trivial
  | uem bs => trivial
  | ustrong bs => trivial
  | otag n => trivial
  | ctag n => trivial

theorem renderNode_fatom21 (rc : RCfg) (hes : rc.core.escSpace = false) (hhw : rc.core.hardWraps = false)
    (hea : rc.core.ea = 0) (hx : rc.core.xhtml = true) (hu : rc.core.unsafe_ = true) (ph : Bool)
    (next : Option Node) (a : FAtom) (ha : AtomShape21 a) :
    renderNode rc ph next (fatomNode a) = fatomHtml a := by
  cases a with
  | txt bs => rw [fatomNode, fatomHtml, renderNode_text rc hes hhw hea]; simp
  | code bs => rw [fatomNode, fatomHtml, renderNode_code8 rc ph next bs ha]
  | em bs => rw [fatomNode, fatomHtml, renderNode_em13 rc hes hhw hea]
  | strong bs => rw [fatomNode, fatomHtml, renderNode_strong13 rc hes hhw hea]
  | uem bs => rw [fatomNode, fatomHtml, renderNode_em13 rc hes hhw hea]
  | ustrong bs => rw [fatomNode, fatomHtml, renderNode_strong13 rc hes hhw hea]
  | link t d => rw [fatomNode, fatomHtml, renderNode_link16 rc hes hhw hea hu ph next t d ha]
  | img t d => rw [fatomNode, fatomHtml, renderNode_img17 rc hes hu hx ph next t d ha]
  | auto s r => rw [fatomNode, fatomHtml, renderNode_auto18 rc hu ph next _ ha]
  | otag n => rw [fatomNode, fatomHtml, renderNode_raw19 rc hu]
  | ctag n => rw [fatomNode, fatomHtml, renderNode_raw19 rc hu]

theorem renderPanicsNode_fatom21 (rc : RCfg) (a : FAtom) : renderPanicsNode rc (fatomNode a) = none := by
  cases a <;>
    simp [fatomNode, renderPanicsNode, nodePanic, renderPanicsNodes, handled_codeSpan8, handled_emph13, handled_link16,
      handled_img17, handled_auto18, handled_raw19, skipsChildren, codeSpanChildrenText, Node.kind, Kind.isText]

/-- what the renderer needs of a line: it ends with a text atom (the line break is a flag of the last Text node), and
    its atoms are of the shape `AtomShape21` -/
structure LineShape21 (l : List FAtom) : Prop where
  last : ∃ init bs, l = init ++ [.txt bs]
  atoms : ∀ a ∈ l, AtomShape21 a

theorem lineShape_of_frichLine21 (l : List FAtom) (h : FRichLine l) : LineShape21 l := by
  obtain ⟨init, bs, hl, _⟩ := h.last
  exact ⟨⟨init, bs, hl⟩, fun a ha => atomShape_of_ok21 a (h.ok a ha)⟩

theorem fatomNodes_consR21 (soft hard : Bool) (a : FAtom) (rest : List FAtom) (h : rest ≠ []) :
    fatomNodes soft hard (a :: rest) = fatomNode a :: fatomNodes soft hard rest := by
  cases rest with
  | nil => exact absurd rfl h
  | cons b rest => cases a <;> rfl

/-- the nodes of one line, followed by any other nodes -/
theorem renderNodes_fatoms21 (rc : RCfg) (hes : rc.core.escSpace = false) (hhw : rc.core.hardWraps = false)
    (hea : rc.core.ea = 0) (hx : rc.core.xhtml = true) (hu : rc.core.unsafe_ = true) (ph soft hard : Bool)
    (init : List FAtom) (bs : Bytes) (tail : List Node) (hc : ∀ a ∈ init, AtomShape21 a) :
    renderNodes rc ph (fatomNodes soft hard (init ++ [.txt bs]) ++ tail) =
      frichLineHtml (init ++ [.txt bs]) ++ lineBreak13 soft hard ++ renderNodes rc ph tail := by
  induction init with
  | nil =>
    simp only [List.nil_append, fatomNodes, List.cons_append, renderNodes, renderNode_text9 rc hes hhw hea hx,
      frichLineHtml, List.flatMap_cons, List.flatMap_nil, fatomHtml, List.append_nil, lineBreak13]
  | cons a init ih =>
    have ih' := ih (fun b hb => hc b (by simp [hb]))
    rw [List.cons_append, fatomNodes_consR21 soft hard a _ (by simp), List.cons_append, renderNodes,
      renderNode_fatom21 rc hes hhw hea hx hu _ _ a (hc a (by simp)), ih']
    simp [frichLineHtml]

theorem renderNodes_fline21 (rc : RCfg) (hes : rc.core.escSpace = false) (hhw : rc.core.hardWraps = false)
    (hea : rc.core.ea = 0) (hx : rc.core.xhtml = true) (hu : rc.core.unsafe_ = true) (ph soft hard : Bool)
    (l : List FAtom) (hl : LineShape21 l) :
    renderNodes rc ph (fatomNodes soft hard l) =
      frichLineHtml l ++ (if hard then strBytes "<br />\n" else if soft then [10] else []) := by
  obtain ⟨⟨init, bs, rfl⟩, hc⟩ := hl
  have := renderNodes_fatoms21 rc hes hhw hea hx hu ph soft hard init bs [] (fun b hb => hc b (by simp [hb]))
  simpa [renderNodes, lineBreak13] using this

theorem renderNodes_fNodes21 (rc : RCfg) (hes : rc.core.escSpace = false) (hhw : rc.core.hardWraps = false)
    (hea : rc.core.ea = 0) (hx : rc.core.xhtml = true) (hu : rc.core.unsafe_ = true) (ph : Bool)
    (ls : List FLine21) (hl : ∀ x ∈ ls, LineShape21 x.atoms) :
    renderNodes rc ph (fNodes ls) = fHtml ls := by
  induction ls with
  | nil => simp [fNodes, renderNodes, fHtml]
  | cons x rest ih =>
    cases rest with
    | nil =>
      rw [fNodes, fHtml, renderNodes_fline21 rc hes hhw hea hx hu ph false false _ (hl x (by simp))]
      simp
    | cons y rest =>
      obtain ⟨⟨init, bs, hx'⟩, hc⟩ := hl x (by simp)
      have hc' : ∀ a ∈ init, AtomShape21 a := fun b hb => hc b (by rw [hx']; simp [hb])
      rw [fNodes, fHtml, hx', renderNodes_fatoms21 rc hes hhw hea hx hu ph _ _ init bs _ hc',
        ih (fun z hz => hl z (by simp [hz]))]
      cases x.hard <;> simp [lineBreak13]

theorem renderNodes_fNodesOK21 (rc : RCfg) (hes : rc.core.escSpace = false) (hhw : rc.core.hardWraps = false)
    (hea : rc.core.ea = 0) (hx : rc.core.xhtml = true) (hu : rc.core.unsafe_ = true) (ph : Bool)
    (ls : List FLine21) (hl : FLinesOK ls) :
    renderNodes rc ph (fNodes ls) = fHtml ls :=
  renderNodes_fNodes21 rc hes hhw hea hx hu ph ls (fun x hx' => lineShape_of_frichLine21 _ (hl.1 x hx'))

theorem renderPanicsNodes_fatoms21 (rc : RCfg) (soft hard : Bool) (l : List FAtom) (tail : List Node)
    (ht : renderPanicsNodes rc tail = none) :
    renderPanicsNodes rc (fatomNodes soft hard l ++ tail) = none := by
  induction l with
  | nil => simpa [fatomNodes] using ht
  | cons a rest ih =>
    cases rest with
    | nil =>
      cases a <;>
        simp [fatomNodes, fatomNode, renderPanicsNodes, renderPanicsNode, nodePanic, ht, handled_codeSpan8,
          handled_emph13, handled_link16, handled_img17, handled_auto18, handled_raw19, skipsChildren,
          codeSpanChildrenText, Node.kind, Kind.isText]
    | cons b rest' =>
      rw [fatomNodes_consR21 soft hard a _ (by simp), List.cons_append, renderPanicsNodes, ih,
        renderPanicsNode_fatom21]

theorem renderPanicsNodes_fline21 (rc : RCfg) (soft hard : Bool) (l : List FAtom) :
    renderPanicsNodes rc (fatomNodes soft hard l) = none := by
  have := renderPanicsNodes_fatoms21 rc soft hard l [] (by simp [renderPanicsNodes])
  simpa using this

theorem renderPanicsNodes_fNodes21 (rc : RCfg) (ls : List FLine21) : renderPanicsNodes rc (fNodes ls) = none := by
  induction ls with
  | nil => simp [fNodes, renderPanicsNodes]
  | cons x rest ih =>
    cases rest with
    | nil => rw [fNodes]; exact renderPanicsNodes_fline21 rc false false x.atoms
    | cons y rest =>
      rw [fNodes]
      exact renderPanicsNodes_fatoms21 rc _ _ x.atoms _ ih

theorem renderNode_fpara21 (rc : RCfg) (hes : rc.core.escSpace = false) (hhw : rc.core.hardWraps = false)
    (hea : rc.core.ea = 0) (hx : rc.core.xhtml = true) (hu : rc.core.unsafe_ = true) (ph : Bool)
    (next : Option Node) (ls : List FLine21) (hl : ∀ x ∈ ls, LineShape21 x.atoms) :
    renderNode rc ph next (fNode (.para ls)) = fBlockHtml (.para ls) := by
  rw [fNode, fBlockHtml, renderNode]
  simp only [enter, leave, handled_para, skipsChildren, openTag, Kind.isTableHeader,
    renderNodes_fNodes21 rc hes hhw hea hx hu _ ls hl]
  have h1 : strBytes "<p>" = [60] ++ strBytes "p" ++ [62] := by decide +kernel
  rw [h1]; simp

theorem renderNode_fatx21 (rc : RCfg) (hes : rc.core.escSpace = false) (hhw : rc.core.hardWraps = false)
    (hea : rc.core.ea = 0) (hx : rc.core.xhtml = true) (hu : rc.core.unsafe_ = true) (ph : Bool)
    (next : Option Node) (level : Nat) (l : List FAtom) (hl : LineShape21 l) :
    renderNode rc ph next (fNode (.atx level l)) = fBlockHtml (.atx level l) := by
  rw [fNode, fBlockHtml, renderNode]
  simp only [enter, leave, handled_heading4, skipsChildren, Kind.isTableHeader, renderAttrs,
    renderNodes_fline21 rc hes hhw hea hx hu _ false false l hl]
  have h1 : strBytes ">\n" = [62, 10] := by decide +kernel
  rw [h1]; simp

theorem renderNode_fblock21 (rc : RCfg) (hes : rc.core.escSpace = false) (hhw : rc.core.hardWraps = false)
    (hea : rc.core.ea = 0) (hx : rc.core.xhtml = true) (hu : rc.core.unsafe_ = true) (ph : Bool)
    (next : Option Node) (b : FBlock21) (hg : FGood b) : renderNode rc ph next (fNode b) = fBlockHtml b := by
  cases b with
  | para ls =>
    exact renderNode_fpara21 rc hes hhw hea hx hu ph next ls
      (fun x hx' => lineShape_of_frichLine21 _ (hg.2.1.1 x hx'))
  | atx level l =>
    exact renderNode_fatx21 rc hes hhw hea hx hu ph next level l (lineShape_of_frichLine21 _ hg.2.2.1)
  | hr h => rw [fNode, fBlockHtml, renderNode_raw5 rc hes hhw hea hx]
  | fence fc n info ls => rw [fNode, fBlockHtml, renderNode_raw5 rc hes hhw hea hx]
  | icode ls => rw [fNode, fBlockHtml, renderNode_raw5 rc hes hhw hea hx]

theorem renderPanicsNode_fblock21 (rc : RCfg) (b : FBlock21) (hg : FGood b) :
    renderPanicsNode rc (fNode b) = none := by
  cases b with
  | para ls => simp [fNode, renderPanicsNode, nodePanic, renderPanicsNodes_fNodes21]
  | atx level l =>
    have h6 : ¬ level > 6 := by have := hg.2.1; omega
    simp [fNode, renderPanicsNode, nodePanic, handled_heading4, h6, skipsChildren, renderPanicsNodes_fline21]
  | hr h =>
    rw [fNode]
    exact renderPanicsNode_raw5 rc _ (fun level l he => by simp at he)
  | fence fc n info ls =>
    rw [fNode]
    exact renderPanicsNode_raw5 rc _ (fun level l he => by simp at he)
  | icode ls =>
    rw [fNode]
    exact renderPanicsNode_raw5 rc _ (fun level l he => by simp at he)

theorem renderPanics_fblock21 (rc : RCfg) (b : FBlock21) (hg : FGood b) : renderPanics rc (fNode b) = none :=
  renderPanicsNode_fblock21 rc b hg

theorem renderNodes_fblocks21 (rc : RCfg) (hes : rc.core.escSpace = false) (hhw : rc.core.hardWraps = false)
    (hea : rc.core.ea = 0) (hx : rc.core.xhtml = true) (hu : rc.core.unsafe_ = true) (ph : Bool)
    (bs : List FBlock21) (hg : ∀ b ∈ bs, FGood b) :
    renderNodes rc ph (bs.map fNode) = fDocHtml bs := by
  induction bs with
  | nil => simp [renderNodes, fDocHtml]
  | cons b rest ih =>
    rw [List.map_cons, renderNodes, renderNode_fblock21 rc hes hhw hea hx hu _ _ b (hg b (by simp)),
      ih (fun x hx' => hg x (by simp [hx']))]
    simp [fDocHtml]

theorem renderPanicsNodes_fblocks21 (rc : RCfg) (bs : List FBlock21) (hg : ∀ b ∈ bs, FGood b) :
    renderPanicsNodes rc (bs.map fNode) = none := by
  induction bs with
  | nil => simp [renderPanicsNodes]
  | cons b rest ih =>
    rw [List.map_cons, renderPanicsNodes, ih (fun x hx' => hg x (by simp [hx'])),
      renderPanicsNode_fblock21 rc b (hg b (by simp))]

theorem render_fdoc21 (rc : RCfg) (hes : rc.core.escSpace = false) (hhw : rc.core.hardWraps = false)
    (hea : rc.core.ea = 0) (hx : rc.core.xhtml = true) (hu : rc.core.unsafe_ = true) (bs : List FBlock21)
    (hg : ∀ b ∈ bs, FGood b) :
    render rc (.mk .document none (bs.map fNode)) = fDocHtml bs := by
  rw [render, renderNode]
  simp [enter, leave, handled_doc, skipsChildren, Kind.isTableHeader,
    renderNodes_fblocks21 rc hes hhw hea hx hu _ bs hg]

theorem renderPanics_fdoc21 (rc : RCfg) (bs : List FBlock21) (hg : ∀ b ∈ bs, FGood b) :
    renderPanics rc (.mk .document none (bs.map fNode)) = none := by
  simp [renderPanics, renderPanicsNode, nodePanic, renderPanicsNodes_fblocks21 rc bs hg]

theorem renderDoc_f_any21 (o : GM.Convert.ROpts) (ho : o.hardWraps = false) (hx : o.xhtml = true)
    (hu : o.unsafe_ = true) (bs : List FBlock21) (hg : ∀ b ∈ bs, FGood b) :
    GM.Convert.renderDoc o (.mk .document none (bs.map fNode)) = .ok (fDocHtml bs) := by
  rw [GM.Convert.renderDoc, renderPanics_fdoc21 o.rcfg bs hg,
    render_fdoc21 o.rcfg (rcfg_escSpace o) (by rw [rcfg_hardWraps, ho]) (rcfg_ea o) (by rw [rcfg_xhtml4, hx])
      (by rw [rcfg_unsafe16, hu]) bs hg]

theorem renderDoc_f21 (bs : List FBlock21) (hg : ∀ b ∈ bs, FGood b) :
    GM.Convert.renderDoc cmOpts (.mk .document none (bs.map fNode)) = .ok (fDocHtml bs) :=
  renderDoc_f_any21 cmOpts rfl rfl rfl bs hg

theorem renderDoc_nest_f21 (k : Nat) (bs : List FBlock21) (hg : ∀ b ∈ bs, FGood b) :
    GM.Convert.renderDoc cmOpts (nestNodeN k (bs.map fNode)) = .ok (wrapQ k (fDocHtml bs)) :=
  renderDoc_nest_anyN cmOpts _ _
    (fun ph => renderNodes_fblocks21 cmOpts.rcfg (rcfg_escSpace cmOpts) (by rw [rcfg_hardWraps]; rfl)
      (rcfg_ea cmOpts) (by rw [rcfg_xhtml4]; rfl) (by rw [rcfg_unsafe16]; rfl) ph bs hg)
    (renderPanicsNodes_fblocks21 cmOpts.rcfg bs hg) k

end GM.Proof.CMFrag
