/-
  GM.Proof.BlocksComm — the `Close` functions of the block parsers, the tree operations, `closeLoop` and `closeBlocks` do not
  look at BlockOffset / BlockIndent nor at the reader (its `source` apart), and do not write them.
  `CommBO o i rm f`: on the states whose reader has the source of `rm`, `f` commutes with overwriting BlockOffset / BlockIndent
  by `o` / `i` and the reader by `rm` (same answer or same panic, final state overwritten likewise), and a successful run
  keeps the source. Closed under `pure` / `bind` / `if` / `match` / `throw`; `getPc >>= k` and `get >>= k` when `k` does not look
  at what is overwritten. Consequence for one run (`commBO_self`): overwrite the reader only.
  The judgement is not a fold of `Built` (GM.Proof.BlocksBuilt): `getPc` and `get` answer what is overwritten, so they do not
  commute by themselves, only together with a continuation that ignores it (`CommBO.getPc_bind`, `CommBO.get_bind`), and
  `Built.bind` says nothing of how a continuation depends on its argument. Hence a walk (tactic `commbo`).
-/
import GM.Proof.IndepFrame

namespace GM.Blocks
open GM GM.Text

/-- overwrite BlockOffset / BlockIndent and the reader -/
def overBO (o i : Int) (rm : Reader) (s : St) : St :=
  { r := rm, nodes := s.nodes, pc := { s.pc with blockOffset := o, blockIndent := i } }

/-- `f` commutes with `overBO o i rm` on the states whose reader has the source of `rm`, and keeps the source -/
def CommBO (o i : Int) (rm : Reader) {α} (f : M α) : Prop :=
  ∀ s, s.r.source = rm.source →
    f (overBO o i rm s) = (f s).map (fun p => (p.1, overBO o i rm p.2)) ∧
      ∀ a s', f s = .ok (a, s') → s'.r.source = rm.source

section comm
variable {o i : Int} {rm : Reader}

theorem CommBO.pure {α} (a : α) : CommBO o i rm (pure a : M α) :=
  fun _ hs => ⟨rfl, fun _ _ h => by cases h; exact hs⟩

theorem CommBO.bind {α β} {f : M α} {g : α → M β} (hf : CommBO o i rm f) (hg : ∀ a, CommBO o i rm (g a)) :
    CommBO o i rm (f >>= g) := by
  intro s hs
  obtain ⟨h1, h2⟩ := hf s hs
  show (StateT.bind f g (overBO o i rm s) = (StateT.bind f g s).map _) ∧
    ∀ a s', StateT.bind f g s = .ok (a, s') → s'.r.source = rm.source
  unfold StateT.bind
  rw [h1]
  cases hfs : f s with
  | error e => exact ⟨rfl, fun a s' h => by cases h⟩
  | ok p =>
    obtain ⟨a, s1⟩ := p
    obtain ⟨h3, h4⟩ := hg a s1 (h2 a s1 hfs)
    exact ⟨h3, h4⟩

theorem CommBO.getNode (id : Nat) : CommBO o i rm (getNode id) :=
  fun _ hs => ⟨rfl, fun _ _ h => by cases h; exact hs⟩

theorem CommBO.modNode (id : Nat) (f : Node → Node) : CommBO o i rm (modNode id f) :=
  fun _ hs => ⟨rfl, fun _ _ h => by cases h; exact hs⟩

theorem CommBO.newNode (n : Node) : CommBO o i rm (newNode n) :=
  fun _ hs => ⟨rfl, fun _ _ h => by cases h; exact hs⟩

theorem CommBO.liftE {α} (e : Except Panic α) : CommBO o i rm (liftE e) := by
  intro s hs
  cases e with
  | error x => exact ⟨rfl, fun a s' h => by cases h⟩
  | ok v => exact ⟨rfl, fun a s' h => by cases h; exact hs⟩

theorem CommBO.throw {α} (e : Panic) : CommBO o i rm (throw e : M α) :=
  fun _ _ => ⟨rfl, fun _ _ h => by cases h⟩

/-- a `throw` first: no successful run, on either side -/
theorem CommBO.throw_bind {α β} (e : Panic) (f : α → M β) : CommBO o i rm ((MonadExcept.throw e : M α) >>= f) :=
  fun _ _ => ⟨rfl, fun _ _ h => by
    have h' : (Except.error e : Except Panic (β × St)) = .ok _ := h
    cases h'⟩

theorem CommBO.source : CommBO o i rm source := by
  intro s hs
  refine ⟨?_, fun _ _ h => by cases h; exact hs⟩
  show Except.ok (rm.source, overBO o i rm s) = Except.ok (s.r.source, overBO o i rm s)
  rw [hs]

theorem CommBO.getPc_bind {β} {k : Ctx → M β} (hk : ∀ pc, CommBO o i rm (k pc))
    (hk2 : ∀ st : St, k (overBO o i rm st).pc = k st.pc) : CommBO o i rm (getPc >>= k) := by
  intro s hs
  show (k (overBO o i rm s).pc (overBO o i rm s) = (k s.pc s).map _) ∧
    ∀ a s', k s.pc s = .ok (a, s') → s'.r.source = rm.source
  rw [hk2]
  exact hk s.pc s hs

theorem CommBO.get_bind {β} {k : St → M β} (hk : ∀ st, CommBO o i rm (k st))
    (hk2 : ∀ st : St, k (overBO o i rm st) = k st) : CommBO o i rm (get >>= k) := by
  intro s hs
  show (k (overBO o i rm s) (overBO o i rm s) = (k s s).map _) ∧
    ∀ a s', k s s = .ok (a, s') → s'.r.source = rm.source
  rw [hk2]
  exact hk s s hs

/-- `modPc` with a function that does not touch BlockOffset / BlockIndent -/
theorem CommBO.modPc (f : Ctx → Ctx)
    (hf : ∀ (pc : Ctx) (a b : Int), f { pc with blockOffset := a, blockIndent := b } =
      { f pc with blockOffset := a, blockIndent := b }) : CommBO o i rm (modPc f) := by
  intro s hs
  refine ⟨?_, fun _ _ h => by cases h; exact hs⟩
  have h := hf s.pc o i
  show Except.ok ((), ({ r := rm, nodes := s.nodes, pc := f { s.pc with blockOffset := o, blockIndent := i } } : St)) = _
  rw [h]
  rfl

syntax "commbo_step" : tactic
macro_rules
  | `(tactic| commbo_step) => `(tactic|
    (first
      | with_reducible exact CommBO.pure _
      | with_reducible exact CommBO.getNode _
      | with_reducible exact CommBO.modNode _ _
      | with_reducible exact CommBO.newNode _
      | with_reducible exact CommBO.liftE _
      | with_reducible exact CommBO.throw _
      | with_reducible exact CommBO.throw_bind _ _
      | with_reducible exact CommBO.source
      | assumption
      | with_reducible refine CommBO.getPc_bind (fun _ => ?_) (by with_unfolding_all (intro _; rfl))
      | with_reducible refine CommBO.get_bind (fun _ => ?_) (by with_unfolding_all (intro _; rfl))
      | with_reducible refine CommBO.modPc _ (by with_unfolding_all (intro _ _ _; rfl))
      | with_reducible apply CommBO.bind
      | with_reducible intro _
      | split
      | dsimp only))

macro "commbo" : tactic => `(tactic| repeat commbo_step)

theorem CommBO.removeChild (p c : Nat) : CommBO o i rm (removeChild p c) := by
  unfold GM.Blocks.removeChild
  commbo
macro_rules | `(tactic| commbo_step) => `(tactic| with_reducible exact CommBO.removeChild _ _)

theorem CommBO.ensureIsolated (c : Nat) : CommBO o i rm (ensureIsolated c) := by
  unfold GM.Blocks.ensureIsolated
  commbo
macro_rules | `(tactic| commbo_step) => `(tactic| with_reducible exact CommBO.ensureIsolated _)

theorem CommBO.appendChild (p c : Nat) : CommBO o i rm (appendChild p c) := by
  unfold GM.Blocks.appendChild
  commbo
macro_rules | `(tactic| commbo_step) => `(tactic| with_reducible exact CommBO.appendChild _ _)

theorem CommBO.insertBefore (p : Nat) (v1 : Option Nat) (ins : Nat) : CommBO o i rm (insertBefore p v1 ins) := by
  unfold GM.Blocks.insertBefore
  commbo
macro_rules | `(tactic| commbo_step) => `(tactic| with_reducible exact CommBO.insertBefore _ _ _)

theorem CommBO.nextSibling (c : Nat) : CommBO o i rm (nextSibling c) := by
  unfold GM.Blocks.nextSibling
  commbo
macro_rules | `(tactic| commbo_step) => `(tactic| with_reducible exact CommBO.nextSibling _)

theorem CommBO.insertAfter (p : Nat) (v1 : Option Nat) (ins : Nat) : CommBO o i rm (insertAfter p v1 ins) := by
  unfold GM.Blocks.insertAfter
  commbo
macro_rules | `(tactic| commbo_step) => `(tactic| with_reducible exact CommBO.insertAfter _ _ _)

theorem CommBO.replaceChild (p v1 ins : Nat) : CommBO o i rm (replaceChild p v1 ins) := by
  unfold GM.Blocks.replaceChild
  commbo
macro_rules | `(tactic| commbo_step) => `(tactic| with_reducible exact CommBO.replaceChild _ _ _)

theorem CommBO.appendLine (id : Nat) (seg : Segment) : CommBO o i rm (appendLine id seg) := by
  unfold GM.Blocks.appendLine
  commbo
macro_rules | `(tactic| commbo_step) => `(tactic| with_reducible exact CommBO.appendLine _ _)

theorem CommBO.paragraphClose (node : Nat) : CommBO o i rm (paragraphClose node) := by
  unfold GM.Blocks.paragraphClose
  commbo

theorem CommBO.codeClose (node : Nat) : CommBO o i rm (codeClose node) := by
  unfold GM.Blocks.codeClose
  commbo

theorem CommBO.fencedClose (node : Nat) : CommBO o i rm (fencedClose node) := by
  unfold GM.Blocks.fencedClose
  commbo

theorem CommBO.setextClose (node : Nat) : CommBO o i rm (setextClose node) := by
  unfold GM.Blocks.setextClose
  commbo

theorem CommBO.tightenItem (child : Nat) (gcs : List Nat) : CommBO o i rm (tightenItem child gcs) := by
  induction gcs with
  | nil => unfold GM.Blocks.tightenItem; commbo
  | cons gc gcs ih => unfold GM.Blocks.tightenItem; commbo
macro_rules | `(tactic| commbo_step) => `(tactic| with_reducible exact CommBO.tightenItem _ _)

theorem CommBO.tightenItems (l : List Nat) : CommBO o i rm (tightenItems l) := by
  induction l with
  | nil => unfold GM.Blocks.tightenItems; commbo
  | cons c l ih => unfold GM.Blocks.tightenItems; commbo
macro_rules | `(tactic| commbo_step) => `(tactic| with_reducible exact CommBO.tightenItems _)

theorem CommBO.listClose (node : Nat) : CommBO o i rm (listClose node) := by
  unfold GM.Blocks.listClose
  commbo

theorem CommBO.bpClose (bp : BP) (node : Nat) : CommBO o i rm (bpClose bp node) := by
  cases bp <;> unfold GM.Blocks.bpClose
  · exact CommBO.setextClose _
  · exact CommBO.pure _
  · exact CommBO.listClose _
  · exact CommBO.pure _
  · exact CommBO.codeClose _
  · exact CommBO.pure _
  · exact CommBO.fencedClose _
  · exact CommBO.pure _
  · exact CommBO.pure _
  · exact CommBO.paragraphClose _
macro_rules | `(tactic| commbo_step) => `(tactic| with_reducible exact CommBO.bpClose _ _)

theorem CommBO.closeLoop (blocks : List Block) (to : Int) (k : Nat) : CommBO o i rm (closeLoop blocks to k) := by
  induction k with
  | zero => unfold GM.Blocks.closeLoop; commbo
  | succ k ih => unfold GM.Blocks.closeLoop; commbo
macro_rules | `(tactic| commbo_step) => `(tactic| with_reducible exact CommBO.closeLoop _ _ _)

theorem CommBO.closeBlocks (frm to : Int) : CommBO o i rm (closeBlocks frm to) := by
  unfold GM.Blocks.closeBlocks
  commbo

end comm

/-- BlockOffset / BlockIndent as they were -/
def SameBO (s s' : St) : Prop := s'.pc.blockOffset = s.pc.blockOffset ∧ s'.pc.blockIndent = s.pc.blockIndent

theorem sameBO_prims : FrPrims SameBO where
  refl := fun _ => ⟨rfl, rfl⟩
  trans := fun h1 h2 => ⟨h2.1.trans h1.1, h2.2.trans h1.2⟩
  modNode := fun _ _ _ => ⟨rfl, rfl⟩
  newNode := fun _ _ => ⟨rfl, rfl⟩

/-- `CommBO` at the BlockOffset / BlockIndent of the state itself, for an `f` that does not write them: `f` does not look
    at the reader, its `source` apart -/
theorem commBO_self {α} {f : M α} (hc : ∀ o i rm, CommBO o i rm f) (hb : IFr SameBO f) (s : St) (r' : Reader)
    (hs : r'.source = s.r.source) :
    f { s with r := r' } = (f s).map (fun x => (x.1, { x.2 with r := r' })) := by
  have h : f (overBO s.pc.blockOffset s.pc.blockIndent r' s) = _ := (hc s.pc.blockOffset s.pc.blockIndent r' s hs.symm).1
  have e0 : overBO s.pc.blockOffset s.pc.blockIndent r' s = { s with r := r' } := rfl
  rw [e0] at h
  rw [h]
  cases hm : f s with
  | error e => rfl
  | ok p =>
    obtain ⟨h1, h2⟩ := hb.h s p.1 p.2 hm
    show Except.ok (p.1, overBO s.pc.blockOffset s.pc.blockIndent r' p.2) = Except.ok (p.1, { p.2 with r := r' })
    unfold overBO
    rw [← h1, ← h2]

end GM.Blocks
