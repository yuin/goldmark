/-
  GM.Proof.ShiftSimXCalc — calculus and reader layer of the C09 SHIFT SIMULATION.

  Two runs of the block-phase model are compared: run A on a source `b`, run B on `p ++ b ++ q` standing `|p|` bytes
  (and `dl` lines) further on. `P2 Q x y`: if BOTH results ended normally, values and final states are related
  by `Q` (nothing is claimed when one side panics or runs out of fuel: that both whole runs end normally is
  `GM.Props.Blocks.no_panic`; so the fuels of the two runs need not be related at all).

  Reader layer. B's reader is a FUNCTION of A's: `shR F r` (source `p ++ _ ++ q`, positions `+ |p|`, line `+ dl`,
  same caches). Every reader call of the block phase commutes with `shR` as soon as A's position is not
  negative (`0 ≤ pos.start`, `0 ≤ pos.stop`, `0 ≤ head` — all consequences of the reader invariant `RI` of
  GM.Proof.BlocksTotal); `p` must be empty or end with a line feed (`SetPosition` walks back to the line start),
  and for `preserveLeadingTabInCodeBlock`, which looks one byte back, end with a blank line. With a suffix `q ≠ []` a call
  commutes while it looks at bytes of `b` only (the side conditions `F.q = [] ∨ …`).
-/
import GM.Proof.BlocksTotal
import GM.Proof.Hoare
import GM.Model.Blocks.Indep

namespace GM.Blocks.Xs
open GM GM.Text GM.Spec GM.Proof.Reader GM.Blocks

def P2 {α β : Type} (Q : α → β → St → St → Prop) (x : Except Panic (α × St)) (y : Except Panic (β × St)) : Prop :=
  ∀ a sA b sB, x = .ok (a, sA) → y = .ok (b, sB) → Q a b sA sB

theorem P2.ok {α β} {Q : α → β → St → St → Prop} {a b sA sB} (h : Q a b sA sB) :
    P2 Q (.ok (a, sA)) (.ok (b, sB)) := by
  intro a' sA' b' sB' e1 e2; cases e1; cases e2; exact h

theorem P2.errL {α β} {Q : α → β → St → St → Prop} {e y} : P2 Q (.error e : Except Panic (α × St)) y (β := β) := by
  intro a' sA' b' sB' h; cases h

theorem P2.errR {α β} {Q : α → β → St → St → Prop} {e x} : P2 Q x (.error e : Except Panic (β × St)) (α := α) := by
  intro a' sA' b' sB' _ h; cases h

theorem P2.pure {α β} {Q : α → β → St → St → Prop} {a : α} {b : β} {sA sB : St} (h : Q a b sA sB) :
    P2 Q ((Pure.pure a : M α) sA) ((Pure.pure b : M β) sB) := P2.ok h

theorem P2.mono {α β} {P Q : α → β → St → St → Prop} {x y} (h : P2 P x y)
    (hpq : ∀ a b sA sB, P a b sA sB → Q a b sA sB) : P2 Q x y :=
  fun a sA b sB e1 e2 => hpq _ _ _ _ (h a sA b sB e1 e2)

/-- the calculus in the terms of GM.Proof.Hoare: run B's outcome is the postcondition of run A's; nothing is asked when one of
    the two ends with a panic -/
theorem p2_iff {α β} {Q : α → β → St → St → Prop} {x : Except Panic (α × St)} {y : Except Panic (β × St)} :
    P2 Q x y ↔ Hoare.Out Hoare.Top (fun p => Hoare.Out Hoare.Top (fun q => Q p.1 q.1 p.2 q.2) y) x :=
  ⟨fun h => Hoare.Out.top_iff.2 fun p e => Hoare.Out.top_iff.2 fun q e' => h p.1 p.2 q.1 q.2 e e',
   fun h a sA b sB e e' => Hoare.Out.top_iff.1 (Hoare.Out.top_iff.1 h (a, sA) e) (b, sB) e'⟩

theorem P2.bind {α β α' β'} {P : α → β → St → St → Prop} {Q : α' → β' → St → St → Prop}
    {mA : M α} {mB : M β} {fA : α → M α'} {fB : β → M β'} {sA sB : St}
    (hm : P2 P (mA sA) (mB sB)) (hf : ∀ a b sA' sB', P a b sA' sB' → P2 Q (fA a sA') (fB b sB')) :
    P2 Q ((mA >>= fA) sA) ((mB >>= fB) sB) :=
  p2_iff.2 (Hoare.Out.bind₂ (p2_iff.1 hm) fun p q h => p2_iff.1 (hf p.1 q.1 p.2 q.2 h))

theorem P2.liftE {α β} {Q : α → β → St → St → Prop} {eA : Except Panic α} {eB : Except Panic β} {sA sB : St}
    (h : ∀ a b, eA = .ok a → eB = .ok b → Q a b sA sB) : P2 Q (GM.Blocks.liftE eA sA) (GM.Blocks.liftE eB sB) := by
  intro a sA' b sB' e1 e2
  cases eA with
  | error x => cases e1
  | ok a0 =>
    cases eB with
    | error x => cases e2
    | ok b0 => cases e1; cases e2; exact h _ _ rfl rfl

theorem P2.liftE_same {α} {Q : α → α → St → St → Prop} {e : Except Panic α} {sA sB : St}
    (h : ∀ a, e = .ok a → Q a a sA sB) : P2 Q (GM.Blocks.liftE e sA) (GM.Blocks.liftE e sB) :=
  P2.liftE (fun a b e1 e2 => by rw [e1] at e2; cases e2; exact h a e1)

theorem P2.throwL {α β} {Q : α → β → St → St → Prop} {e : Panic} {sA : St} {y} :
    P2 Q ((throw e : M α) sA) y (β := β) := by
  intro a sA' b sB' h; cases h

theorem P2.throwR {α β} {Q : α → β → St → St → Prop} {e : Panic} {sB : St} {x} :
    P2 Q x ((throw e : M β) sB) (α := α) := by
  intro a sA' b sB' _ h; cases h

theorem bind_run {α β} {m : M α} {f : α → M β} {s s1 : St} {a : α} (h : m s = .ok (a, s1)) :
    (m >>= f) s = f a s1 := by
  show StateT.bind m f s = _
  unfold StateT.bind; rw [h]; rfl

/-- what run B has in front of run A: the prefix `p` of its source, the number `dl` of lines of `p`, the number
    `c` of nodes run B's store has more than run A's (A's node `j ≥ 1` is B's node `j + c`; the Documents are node
    0 of both), and the children `kids0` B's Document already has. -/
structure Frame where
  p : Bytes
  dl : Int
  c : Nat
  kids0 : List Nat
  /-- is the flag `emptyListItemWithBlankLines` related (equal in both runs)? Needed only when the list parsers are
      covered; the flag survives the closing of its list, so after a prefix it may be set although a fresh run starts
      with it unset. -/
  flag : Bool := false
  /-- the nodes B's store holds at the start (only the entries `1..c` matter: they are never touched) -/
  oldNodes : List Node := []
  /-- what run B's source has BEHIND run A's (`F.p ++ b ++ F.q`); everything commutes while run A's reader stays
      strictly inside `b` -/
  q : Bytes := []

/-- the byte shift -/
def Frame.d (F : Frame) : Int := (F.p.length : Int)

/-- the prefix is empty or ends with a BLANK line, and the Document's old children are old nodes -/
structure Frame.OK (F : Frame) : Prop where
  nl : F.p = [] ∨ F.p[F.p.length - 1]? = some 10
  nl2 : F.p.length ≤ 1 ∨ F.p[F.p.length - 2]? = some 10
  kids : ∀ x ∈ F.kids0, 1 ≤ x ∧ x ≤ F.c

theorem getElem?_shift (p s : Bytes) (i : Nat) : (p ++ s)[i + p.length]? = s[i]? := by
  rw [List.getElem?_append_right (by omega)]; congr 1; omega

theorem getByte_pre (p s : Bytes) (i : Int) (hi : 0 ≤ i) : getByte (p ++ s) (i + p.length) = getByte s i := by
  unfold getByte
  rw [if_neg (by omega), if_neg (by omega)]
  have : (i + (p.length : Int)).toNat = i.toNat + p.length := by omega
  rw [this, getElem?_shift]

theorem drop_pre (p s : Bytes) (a : Nat) : (p ++ s).drop (a + p.length) = s.drop a := by
  rw [List.drop_append]
  have : p.drop (a + p.length) = [] := List.drop_eq_nil_of_le (by omega)
  rw [this]; simp

theorem sub_pre (p s : Bytes) (a b : Nat) : sub (p ++ s) (a + p.length) (b + p.length) = sub s a b := by
  unfold sub
  rw [drop_pre]; congr 1; omega

theorem sliceB_pre (p s : Bytes) (a b : Int) (ha : 0 ≤ a) :
    sliceB (p ++ s) (a + p.length) (b + p.length) = sliceB s a b := by
  unfold sliceB
  by_cases h : 0 ≤ a ∧ a ≤ b ∧ b ≤ (s.length : Int)
  · rw [if_pos h, if_pos (by simp only [List.length_append]; omega)]
    have e1 : (a + (p.length : Int)).toNat = a.toNat + p.length := by omega
    have e2 : (b + (p.length : Int)).toNat = b.toNat + p.length := by omega
    rw [e1, e2, sub_pre]
  · rw [if_neg h, if_neg (by simp only [List.length_append]; omega)]

theorem lineEnd_pre (p s : Bytes) (q : Nat) : lineEnd (p ++ s) (q + p.length) = lineEnd s q + p.length := by
  unfold lineEnd
  simp only [List.length_append]
  by_cases h : q ≤ s.length
  · rw [if_pos h, if_pos (by omega), drop_pre]; omega
  · rw [if_neg h, if_neg (by omega)]; omega

theorem lineStart_pre (p s : Bytes) (hp : p = [] ∨ p[p.length - 1]? = some 10) :
    ∀ q : Nat, lineStart (p ++ s) (q + p.length) = lineStart s q + p.length := by
  intro q
  induction q with
  | zero =>
    simp only [Nat.zero_add, lineStart]
    rcases hp with hp | hp
    · subst hp; simp [lineStart]
    · cases hl : p.length with
      | zero => simp [lineStart]
      | succ k =>
        simp only [lineStart]
        have : (p ++ s)[k]? = some 10 := by
          rw [List.getElem?_append_left (by omega)]
          rw [hl] at hp; simpa using hp
        rw [this]; simp
  | succ q ih =>
    have e : q + 1 + p.length = (q + p.length) + 1 := by omega
    rw [e]
    simp only [lineStart]
    rw [getElem?_shift, ih]
    split <;> omega

theorem colLoop_pre (p s : Bytes) (head start : Int) (hh : 0 ≤ head) :
    colLoop (p ++ s) (head + p.length) (start + p.length) = colLoop s head start := by
  unfold colLoop
  by_cases h1 : head ≥ start
  · rw [if_pos h1, if_pos (by omega)]
  · rw [if_neg h1, if_neg (by omega)]
    by_cases h2 : head < 0 ∨ start > (s.length : Int)
    · rw [if_pos h2, if_pos (by simp only [List.length_append]; omega)]
    · rw [if_neg h2, if_neg (by simp only [List.length_append]; omega)]
      have e1 : (head + (p.length : Int)).toNat = head.toNat + p.length := by omega
      have e2 : (start + (p.length : Int)).toNat = start.toNat + p.length := by omega
      rw [e1, e2, sub_pre]

/-! ### bytes of `s ++ q`: nothing changes as long as only `s` is looked at -/

theorem getByte_suf (s q : Bytes) (i : Int) (hq : q = [] ∨ i < s.length) : getByte (s ++ q) i = getByte s i := by
  rcases hq with rfl | hq
  · rw [List.append_nil]
  · unfold getByte
    by_cases h : i < 0
    · rw [if_pos h, if_pos h]
    · rw [if_neg h, if_neg h, List.getElem?_append_left (by omega)]

theorem sub_suf (s q : Bytes) (a b : Nat) (hq : q = [] ∨ b ≤ s.length) : sub (s ++ q) a b = sub s a b := by
  rcases hq with rfl | hq
  · rw [List.append_nil]
  · unfold sub
    by_cases ha : a ≤ s.length
    · rw [List.drop_append_of_le_length ha, List.take_append_of_le_length (by rw [List.length_drop]; omega)]
    · have : b - a = 0 := by omega
      rw [this]; simp

theorem sliceB_suf (s q : Bytes) (a b : Int) (hq : q = [] ∨ b ≤ s.length) : sliceB (s ++ q) a b = sliceB s a b := by
  rcases hq with rfl | hq
  · rw [List.append_nil]
  · unfold sliceB
    by_cases h : 0 ≤ a ∧ a ≤ b ∧ b ≤ (s.length : Int)
    · rw [if_pos h, if_pos (by simp only [List.length_append]; omega), sub_suf _ _ _ _ (.inr (by omega))]
    · rw [if_neg h, if_neg (by omega)]

theorem lineLen_suf (q : Bytes) : ∀ l : Bytes, l.getLast? = some 10 → lineLen (l ++ q) = lineLen l := by
  intro l
  induction l with
  | nil => intro h; cases h
  | cons c cs ih =>
    intro h
    simp only [List.cons_append, lineLen]
    by_cases hc : (c == 10) = true
    · rw [if_pos hc, if_pos hc]
    · rw [if_neg hc, if_neg hc]
      cases cs with
      | nil =>
        simp only [List.getLast?_singleton, Option.some.injEq] at h
        subst h; exact absurd rfl hc
      | cons d ds =>
        rw [ih (by rw [List.getLast?_cons_cons] at h; exact h)]

theorem lineEnd_suf (s q : Bytes) (k : Nat) (hq : q = [] ∨ (k < s.length ∧ s.getLast? = some 10)) :
    lineEnd (s ++ q) k = lineEnd s k := by
  rcases hq with rfl | ⟨hk, hl⟩
  · rw [List.append_nil]
  · unfold lineEnd
    rw [if_pos (by simp only [List.length_append]; omega), if_pos (by omega), List.drop_append_of_le_length (by omega),
      lineLen_suf]
    rw [List.getLast?_drop, if_neg (by omega)]; exact hl

theorem lineStart_suf (s q : Bytes) : ∀ k : Nat, (q = [] ∨ k ≤ s.length) → lineStart (s ++ q) k = lineStart s k := by
  intro k
  induction k with
  | zero => intro _; rfl
  | succ k ih =>
    intro hq
    rcases hq with rfl | hq
    · rw [List.append_nil]
    · simp only [lineStart]
      rw [List.getElem?_append_left (by omega), ih (.inr (by omega))]

theorem colLoop_suf (s q : Bytes) (head start : Int) (hq : q = [] ∨ start ≤ s.length) :
    colLoop (s ++ q) head start = colLoop s head start := by
  rcases hq with rfl | hq
  · rw [List.append_nil]
  · unfold colLoop
    by_cases h1 : head ≥ start
    · rw [if_pos h1, if_pos h1]
    · rw [if_neg h1, if_neg h1]
      by_cases h2 : head < 0 ∨ start > (s.length : Int)
      · rw [if_pos h2, if_pos (by omega)]
      · rw [if_neg h2, if_neg (by simp only [List.length_append]; omega), sub_suf _ _ _ _ (.inr (by omega))]

theorem getByte_shift (p s q : Bytes) (i : Int) (hi : 0 ≤ i) (hq : q = [] ∨ i < s.length) :
    getByte (p ++ s ++ q) (i + p.length) = getByte s i := by
  rw [List.append_assoc, getByte_pre _ _ _ hi, getByte_suf _ _ _ hq]

theorem sub_shift (p s q : Bytes) (a b : Nat) (hq : q = [] ∨ b ≤ s.length) :
    sub (p ++ s ++ q) (a + p.length) (b + p.length) = sub s a b := by
  rw [List.append_assoc, sub_pre, sub_suf _ _ _ _ hq]

theorem sliceB_shift (p s q : Bytes) (a b : Int) (ha : 0 ≤ a) (hq : q = [] ∨ b ≤ s.length) :
    sliceB (p ++ s ++ q) (a + p.length) (b + p.length) = sliceB s a b := by
  rw [List.append_assoc, sliceB_pre _ _ _ _ ha, sliceB_suf _ _ _ _ hq]

theorem lineEnd_shift (p s q : Bytes) (k : Nat) (hq : q = [] ∨ (k < s.length ∧ s.getLast? = some 10)) :
    lineEnd (p ++ s ++ q) (k + p.length) = lineEnd s k + p.length := by
  rw [List.append_assoc, lineEnd_pre, lineEnd_suf _ _ _ hq]

theorem lineStart_shift (p s q : Bytes) (hp : p = [] ∨ p[p.length - 1]? = some 10) (k : Nat)
    (hq : q = [] ∨ k ≤ s.length) :
    lineStart (p ++ s ++ q) (k + p.length) = lineStart s k + p.length := by
  rw [List.append_assoc, lineStart_pre _ _ hp, lineStart_suf _ _ _ hq]

theorem colLoop_shift (p s q : Bytes) (head start : Int) (hh : 0 ≤ head) (hq : q = [] ∨ start ≤ s.length) :
    colLoop (p ++ s ++ q) (head + p.length) (start + p.length) = colLoop s head start := by
  rw [List.append_assoc, colLoop_pre _ _ _ _ hh, colLoop_suf _ _ _ _ hq]

theorem moveSeg_zero (s : Segment) : moveSeg 0 s = s := by simp [moveSeg]

/-- B's reader as a function of A's -/
def shR (F : Frame) (r : Reader) : Reader :=
  { source := F.p ++ r.source ++ F.q, line := r.line + F.dl, peekedLine := r.peekedLine, pos := moveSeg F.d r.pos,
    head := r.head + F.d, lineOffset := r.lineOffset }

theorem Frame.q_len {F : Frame} {P : Prop} (hq : F.q = [] ∨ P) : F.q.length = 0 ∨ P :=
  hq.imp (fun h => by rw [h]; rfl) id

theorem value_shift (F : Frame) (t : Segment) (src : Bytes) (h0 : 0 ≤ t.start)
    (hq : F.q = [] ∨ t.stop ≤ src.length) :
    (moveSeg F.d t).value (F.p ++ src ++ F.q) = t.value src := by
  unfold Segment.value moveSeg Frame.d
  simp only
  rw [sliceB_shift _ _ _ _ _ h0 hq]
  have e : t.padding + (t.stop + (F.p.length : Int)) - (t.start + (F.p.length : Int)) + 1 = t.padding + t.stop - t.start + 1 := by
    omega
  rw [e]
  rfl

theorem peekLine_sh (F : Frame) (r : Reader) (h0 : 0 ≤ r.pos.start)
    (hq : F.q = [] ∨ (r.pos.start < r.source.length ∧ r.pos.stop ≤ r.source.length)) :
    (shR F r).peekLine = r.peekLine.map (fun x => ((x.1.1, moveSeg F.d x.1.2), shR F x.2)) := by
  unfold Reader.peekLine Reader.sourceLength
  have hq' := Frame.q_len hq
  have hg : ((shR F r).pos.start ≥ 0 ∧ (shR F r).pos.start < ((shR F r).source.length : Int)) ↔
      (r.pos.start ≥ 0 ∧ r.pos.start < (r.source.length : Int)) := by
    simp only [shR, moveSeg, Frame.d, List.length_append]; omega
  by_cases hc : r.pos.start ≥ 0 ∧ r.pos.start < (r.source.length : Int)
  · rw [if_pos hc, if_pos (hg.mpr hc)]
    cases hp : r.peekedLine with
    | some l =>
      have : (shR F r).peekedLine = some l := hp
      rw [this]; rfl
    | none =>
      have : (shR F r).peekedLine = none := hp
      rw [this]
      simp only
      have hv : (shR F r).pos.value (shR F r).source = r.pos.value r.source :=
        value_shift F r.pos r.source h0 (hq.imp id (·.2))
      rw [hv]
      cases r.pos.value r.source with
      | error e => rfl
      | ok v => rfl
  · rw [if_neg hc, if_neg (fun h => hc (hg.mp h))]; rfl

theorem lineOffsetOp_sh (F : Frame) (r : Reader) (hh : 0 ≤ r.head) (hq : F.q = [] ∨ r.pos.start ≤ r.source.length) :
    (shR F r).lineOffsetOp = r.lineOffsetOp.map (fun x => (x.1, shR F x.2)) := by
  unfold Reader.lineOffsetOp
  have e0 : (shR F r).lineOffset = r.lineOffset := rfl
  rw [e0]
  by_cases hc : r.lineOffset < 0
  · rw [if_pos hc, if_pos hc]
    have hv : colLoop (shR F r).source (shR F r).head (shR F r).pos.start = colLoop r.source r.head r.pos.start :=
      colLoop_shift F.p r.source F.q r.head r.pos.start hh hq
    rw [hv]
    cases colLoop r.source r.head r.pos.start with
    | error e => rfl
    | ok v => rfl
  · rw [if_neg hc, if_neg hc]; rfl

theorem advanceLine_sh (F : Frame) (r : Reader) (h0 : 0 ≤ r.pos.stop)
    (hq : F.q = [] ∨ (r.pos.stop < r.source.length ∧ r.source.getLast? = some 10)) :
    (shR F r).advanceLine = shR F r.advanceLine := by
  unfold Reader.advanceLine
  have h1 : ¬ r.pos.stop < 0 := by omega
  have h2 : ¬ (shR F r).pos.stop < 0 := by simp only [shR, moveSeg, Frame.d]; omega
  simp only [if_neg h1, if_neg h2]
  have e : lineEnd (F.p ++ r.source ++ F.q) (r.pos.stop + F.d).toNat = lineEnd r.source r.pos.stop.toNat + F.p.length := by
    have : (r.pos.stop + F.d).toNat = r.pos.stop.toNat + F.p.length := by simp only [Frame.d]; omega
    rw [this, lineEnd_shift _ _ _ _ (hq.imp id (fun h => ⟨by omega, h.2⟩))]
  simp only [shR, moveSeg, Reader.mk.injEq, Segment.mk.injEq, and_true, true_and]
  rw [e]
  simp only [Frame.d]
  omega

/-- the next `n` bytes of the source at the reader's position hold no line feed -/
def NoLF (r : Reader) (n : Nat) : Prop :=
  (0 < n → r.pos.start < r.source.length) ∧ r.pos.start + (n - r.pos.padding.toNat : Nat) ≤ r.source.length ∧
    ∀ i : Nat, r.pos.start ≤ (i : Int) → (i : Int) < r.pos.start + (n - r.pos.padding.toNat : Nat) →
      r.source[i]? ≠ some 10

theorem lineLen_no_nl : ∀ (l : Bytes) (i : Nat), i + 1 < lineLen l → l[i]? ≠ some 10 := by
  intro l
  induction l with
  | nil => intro i h; simp [lineLen] at h
  | cons c cs ih =>
    intro i h
    simp only [lineLen] at h
    by_cases hc : (c == 10) = true
    · rw [if_pos hc] at h; omega
    · rw [if_neg hc] at h
      cases i with
      | zero => simp only [List.getElem?_cons_zero, ne_eq, Option.some.injEq]; intro e; subst e; exact hc rfl
      | succ i => rw [List.getElem?_cons_succ]; exact ih i (by omega)

theorem lineEnd_no_nl (src : Bytes) (p i : Nat) (h1 : p ≤ i) (h2 : i + 1 < lineEnd src p) : src[i]? ≠ some 10 := by
  unfold lineEnd at h2
  by_cases hp : p ≤ src.length
  · rw [if_pos hp] at h2
    have := lineLen_no_nl (src.drop p) (i - p) (by omega)
    rw [List.getElem?_drop] at this
    rwa [show p + (i - p) = i by omega] at this
  · rw [if_neg hp] at h2
    rw [List.getElem?_eq_none (by omega)]; simp

/-- on an `RI` reader, `Advance(n)` that stays in front of the line's last byte reads no line feed -/
theorem RI.noLF {src r c} (h : RI src r c) {n : Int}
    (hn : r.pos.start < r.pos.stop ∧ r.pos.start + n < r.pos.stop + r.pos.padding) : NoLF r n.toNat := by
  have hle := GM.Blocks.lineEnd_le src c.p
  have hr := h.inRange
  rw [h.pos] at hn
  simp only at hn
  refine ⟨?_, ?_, ?_⟩
  · rw [h.source, h.pos]; simp only; omega
  · rw [h.source, h.pos]; simp only; omega
  · intro i h1 h2
    rw [h.source]
    rw [h.pos] at h1 h2
    simp only at h1 h2
    exact lineEnd_no_nl src c.p i (by omega) (by omega)

theorem advanceLoop_sh (F : Frame) : ∀ (n : Nat) (r : Reader), 0 ≤ r.pos.start → 0 ≤ r.pos.stop →
    (F.q = [] ∨ NoLF r n) →
    (shR F r).advanceLoop n = (r.advanceLoop n).map (shR F) := by
  intro n
  induction n with
  | zero => intro r _ _ _; rfl
  | succ n ih =>
    intro r h0 h1 hq
    unfold Reader.advanceLoop Reader.sourceLength
    by_cases hc : r.pos.start < (r.source.length : Int)
    · have hg : ((shR F r).pos.start < ((shR F r).source.length : Int)) := by
        simp only [shR, moveSeg, Frame.d, List.length_append]; omega
      rw [if_pos hc, if_pos hg]
      have hp : (shR F r).pos.padding = r.pos.padding := rfl
      rw [hp]
      by_cases hpad : (r.pos.padding != 0) = true
      · rw [if_pos hpad, if_pos hpad]
        refine ih { r with pos := { r.pos with padding := r.pos.padding - 1 } } h0 h1 (hq.imp id ?_)
        intro hn
        refine ⟨fun _ => hc, by have := hn.2.1; simp only; omega, fun i i1 i2 => hn.2.2 i i1 (by simp only at i2; omega)⟩
      · rw [if_neg hpad, if_neg hpad]
        have hp0 : r.pos.padding = 0 := by simpa using hpad
        have hb : getByte (shR F r).source (shR F r).pos.start = getByte r.source r.pos.start :=
          getByte_shift F.p r.source F.q r.pos.start h0 (.inr hc)
        rw [hb]
        cases hgb : getByte r.source r.pos.start with
        | error e => rfl
        | ok c =>
          simp only [bind, Except.bind]
          by_cases hnl : (c == 10) = true
          · rcases hq with hq | hq
            · rw [if_pos hnl, if_pos hnl, advanceLine_sh F r h1 (.inl hq)]
              refine ih r.advanceLine ?_ ?_ (.inl hq)
              · unfold Reader.advanceLine; simp only [if_neg (show ¬ r.pos.stop < 0 by omega)]; exact h1
              · unfold Reader.advanceLine; simp only [if_neg (show ¬ r.pos.stop < 0 by omega)]; omega
            · exfalso
              have := hq.2.2 r.pos.start.toNat (by omega) (by rw [hp0]; omega)
              unfold getByte at hgb
              rw [if_neg (by omega)] at hgb
              cases hx : r.source[r.pos.start.toNat]? with
              | none => rw [hx] at hgb; cases hgb
              | some x =>
                rw [hx] at hgb this
                simp only [Except.ok.injEq] at hgb
                subst hgb
                simp only [beq_iff_eq] at hnl
                subst hnl
                exact this rfl
          · rw [if_neg hnl, if_neg hnl]
            have := ih { r with pos := { r.pos with start := r.pos.start + 1 } } (by simp only; omega) h1
              (hq.imp id (fun hn => ⟨by have := hn.2.1; rw [hp0] at this; simp only; omega,
                by have := hn.2.1; rw [hp0] at this; simp only; rw [hp0]; omega,
                fun i i1 i2 => hn.2.2 i (by simp only at i1; omega) (by simp only at i2; rw [hp0] at i2 ⊢; omega)⟩))
            rw [← this]
            congr 1
            simp only [shR, moveSeg, Reader.mk.injEq, Segment.mk.injEq, and_true, true_and]
            omega
    · have hq' : F.q.length = 0 ∨ NoLF r (n + 1) := Frame.q_len hq
      rcases hq' with hq' | hq'
      · rw [if_neg hc, if_neg (by simp only [shR, moveSeg, Frame.d, List.length_append]; omega)]; rfl
      · have := hq'.1 (by omega); omega

theorem advance_sh (F : Frame) (r : Reader) (n : Int) (h0 : 0 ≤ r.pos.start) (h1 : 0 ≤ r.pos.stop)
    (hq : F.q = [] ∨ NoLF r n.toNat) :
    (shR F r).advance n = (r.advance n).map (shR F) := by
  unfold Reader.advance
  have hp : (shR F r).peekedLine = r.peekedLine := rfl
  have hpad : (shR F r).pos.padding = r.pos.padding := rfl
  simp only [hp, hpad]
  cases r.peekedLine <;> simp only
  all_goals
    split
    · simp only [Except.map, pure, Except.pure, shR, moveSeg, Except.ok.injEq, Reader.mk.injEq, Segment.mk.injEq, and_true, true_and]
      omega
    · exact advanceLoop_sh F n.toNat { r with lineOffset := -1, peekedLine := none } h0 h1 hq

/-- without a line feed read, `Advance` stays on its line -/
theorem advanceLoop_stop : ∀ (n : Nat) (r r' : Reader), NoLF r n → r.advanceLoop n = .ok r' → r'.pos.stop = r.pos.stop := by
  intro n
  induction n with
  | zero => intro r r' _ h; cases h; rfl
  | succ n ih =>
    intro r r' hn h
    unfold Reader.advanceLoop Reader.sourceLength at h
    by_cases hc : r.pos.start < (r.source.length : Int)
    · rw [if_pos hc] at h
      by_cases hpad : (r.pos.padding != 0) = true
      · rw [if_pos hpad] at h
        exact ih { r with pos := { r.pos with padding := r.pos.padding - 1 } } r'
          ⟨fun _ => hc, by have := hn.2.1; simp only; omega, fun i i1 i2 => hn.2.2 i i1 (by simp only at i2; omega)⟩ h
      · rw [if_neg hpad] at h
        have hp0 : r.pos.padding = 0 := by simpa using hpad
        cases hgb : getByte r.source r.pos.start with
        | error e => rw [hgb] at h; cases h
        | ok c =>
          rw [hgb] at h
          simp only [bind, Except.bind] at h
          by_cases hnl : (c == 10) = true
          · exfalso
            have h0 : 0 ≤ r.pos.start := by
              unfold getByte at hgb
              by_cases hneg : r.pos.start < 0
              · rw [if_pos hneg] at hgb; cases hgb
              · omega
            have := hn.2.2 r.pos.start.toNat (by omega) (by rw [hp0]; omega)
            unfold getByte at hgb
            rw [if_neg (by omega)] at hgb
            cases hx : r.source[r.pos.start.toNat]? with
            | none => rw [hx] at hgb; cases hgb
            | some x =>
              rw [hx] at hgb this
              simp only [Except.ok.injEq] at hgb
              subst hgb
              simp only [beq_iff_eq] at hnl
              subst hnl
              exact this rfl
          · rw [if_neg hnl] at h
            exact ih { r with pos := { r.pos with start := r.pos.start + 1 } } r'
              ⟨by have := hn.2.1; rw [hp0] at this; simp only; omega,
                by have := hn.2.1; rw [hp0] at this; simp only; rw [hp0]; omega,
                fun i i1 i2 => hn.2.2 i (by simp only at i1; omega) (by simp only at i2; rw [hp0] at i2 ⊢; omega)⟩ h
    · rw [if_neg hc] at h; cases h; rfl

theorem advance_stop (r r' : Reader) (n : Int) (hn : NoLF r n.toNat) (h : r.advance n = .ok r') :
    r'.pos.stop = r.pos.stop := by
  unfold Reader.advance at h
  simp only at h
  split at h
  all_goals
    split at h
    · simp only [pure, Except.pure, Except.ok.injEq] at h; subst h; rfl
    · exact advanceLoop_stop n.toNat { r with lineOffset := -1, peekedLine := none } r' hn h

theorem setPadding_sh (F : Frame) (r : Reader) (v : Int) : (shR F r).setPadding v = shR F (r.setPadding v) := rfl

theorem advanceAndSetPadding_sh (F : Frame) (r : Reader) (n pd : Int) (h0 : 0 ≤ r.pos.start) (h1 : 0 ≤ r.pos.stop)
    (hq : F.q = [] ∨ NoLF r n.toNat) :
    (shR F r).advanceAndSetPadding n pd = (r.advanceAndSetPadding n pd).map (shR F) := by
  unfold Reader.advanceAndSetPadding
  rw [advance_sh F r n h0 h1 hq]
  cases r.advance n with
  | error e => rfl
  | ok r1 =>
    simp only [Except.map, bind, Except.bind]
    have : (shR F r1).pos.padding = r1.pos.padding := rfl
    rw [this]
    split <;> rfl

theorem position_sh (F : Frame) (r : Reader) : (shR F r).position = (r.position.1 + F.dl, moveSeg F.d r.position.2) := rfl

/-- `SetPosition` at a position that is not negative — or one byte in front of the source (the prefix ends with a
    blank line) -/
theorem setPosition_sh (F : Frame) (hF : F.OK) (r : Reader) (l : Int) (pos : Segment) (h0 : -1 ≤ pos.start)
    (hq : F.q = [] ∨ pos.start ≤ r.source.length) :
    (shR F r).setPosition (l + F.dl) (moveSeg F.d pos) = shR F (r.setPosition l pos) := by
  unfold Reader.setPosition Reader.sourceLength
  have hq' := Frame.q_len hq
  simp only [shR, Reader.mk.injEq, and_true, true_and]
  simp only [moveSeg, Frame.d, List.length_append, Int.natCast_add]
  by_cases hc : 0 < pos.start ∧ pos.start ≤ (r.source.length : Int)
  · rw [if_pos hc, if_pos (by omega)]
    have : (pos.start + (F.p.length : Int)).toNat = pos.start.toNat + F.p.length := by omega
    rw [this, lineStart_shift _ _ _ hF.nl _ (hq.imp id (fun _ => by omega))]; omega
  · rw [if_neg hc]
    by_cases hc2 : 0 < pos.start + (F.p.length : Int) ∧
        pos.start + (F.p.length : Int) ≤ (F.p.length : Int) + (r.source.length : Int) + (F.q.length : Int)
    · rw [if_pos hc2]
      rcases (show pos.start = 0 ∨ pos.start = -1 by omega) with h | h
      · have : (pos.start + (F.p.length : Int)).toNat = 0 + F.p.length := by omega
        rw [this, lineStart_shift _ _ _ hF.nl _ (.inr (by omega))]; simp [lineStart]; omega
      · -- one byte back: the last byte of `p` is the line feed of a blank line
        have hlen : 2 ≤ F.p.length := by omega
        have e : (pos.start + (F.p.length : Int)).toNat = (F.p.length - 2) + 1 := by omega
        rw [e]
        simp only [lineStart]
        have hb : (F.p ++ r.source ++ F.q)[F.p.length - 2]? = some 10 := by
          rw [List.append_assoc, List.getElem?_append_left (by omega)]
          rcases hF.nl2 with h2 | h2
          · omega
          · exact h2
        rw [hb]; simp; omega
    · rw [if_neg hc2]

/-! ### `SkipBlankLines` (fuels may differ) -/

theorem skipBlankLines_sh (F : Frame) (hq : F.q = []) : ∀ (fA fB : Nat) (lines : Int) (r : Reader) (c : RCur) (src : Bytes),
    RI src r c → ∀ xA rA xB rB, skipBlankLines readerOps fA lines r = .ok (xA, rA) →
      skipBlankLines readerOps fB lines (shR F r) = .ok (xB, rB) →
      xB = (moveSeg F.d xA.1, xA.2.1, xA.2.2) ∧ rB = shR F rA ∧ ∃ c', RI src rA c' := by
  intro fA
  induction fA with
  | zero => intro fB lines r c src _ xA rA xB rB e; cases e
  | succ fA ih =>
    intro fB lines r c src hri xA rA xB rB e1 e2
    cases fB with
    | zero => cases e2
    | succ fB =>
      unfold skipBlankLines at e1 e2
      obtain ⟨r1, hp, hri1⟩ := ri_peekLine hri
      have h0 : 0 ≤ r.pos.start := by rw [hri.pos]; simp
      have hpB : (shR F r).peekLine = .ok ((RCur.view src c, moveSeg F.d (RCur.seg src c)), shR F r1) := by
        rw [peekLine_sh F r h0 (.inl hq), hp]; rfl
      simp only [readerOps, hp, hpB, bind, Except.bind] at e1 e2
      cases hv : RCur.view src c with
      | none =>
        rw [hv] at e1 e2
        simp only [pure, Except.pure, Except.ok.injEq, Prod.mk.injEq] at e1 e2
        obtain ⟨e1a, e1b⟩ := e1
        obtain ⟨e2a, e2b⟩ := e2
        subst e1a e1b e2a e2b
        exact ⟨rfl, rfl, c, hri1⟩
      | some l =>
        rw [hv] at e1 e2
        simp only at e1 e2
        by_cases hb : isBlank l = true
        · rw [if_pos hb] at e1 e2
          simp only [pure, Except.pure] at e1 e2
          have h1 : 0 ≤ r1.pos.stop := by rw [hri1.pos]; simp
          rw [advanceLine_sh F r1 h1 (.inl hq)] at e2
          exact ih fB (lines + 1) r1.advanceLine _ src (ri_advanceLine hri1) xA rA xB rB e1 e2
        · rw [if_neg hb] at e1 e2
          simp only [pure, Except.pure, Except.ok.injEq, Prod.mk.injEq] at e1 e2
          obtain ⟨e1a, e1b⟩ := e1
          obtain ⟨e2a, e2b⟩ := e2
          subst e1a e1b e2a e2b
          exact ⟨rfl, rfl, c, hri1⟩

end GM.Blocks.Xs

