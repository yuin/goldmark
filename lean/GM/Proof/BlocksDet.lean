/-
  GM.Proof.BlocksDet — determinacy facts: thematicBreakParser.Open as a function of the line, what the "no" answers of
  thematic / setext Open leave untouched, pure facts about a line that `matchesListItem` recognises, and
  listParser.Continue with the clause "the next-item branch never runs over a thematic break".
-/
import GM.Proof.BlocksSpecList
import GM.Proof.BlocksLeaf
import GM.Proof.BlocksBP

namespace GM.Blocks
open GM GM.Text GM.Spec GM.Proof.Reader

/-- `k` spaces, then a byte that is neither a space nor a tab -/
theorem det_indentWidthGo (cur : Int) : ∀ (k : Nat) (line : Bytes) (w p : Int) (b : UInt8),
    (∀ i : Nat, i < k → line[i]? = some 32) → line[k]? = some b → b ≠ 32 → b ≠ 9 →
    indentWidthGo cur line w p = (w + k, p + k) := by
  intro k
  induction k with
  | zero =>
    intro line w p b _ hb h32 h9
    cases line with
    | nil => simp at hb
    | cons a l =>
      simp only [List.getElem?_cons_zero, Option.some.injEq] at hb
      subst hb
      unfold indentWidthGo
      simp [h32, h9]
  | succ k ih =>
    intro line w p b hsp hb h32 h9
    cases line with
    | nil => simp at hb
    | cons a l =>
      have ha : a = 32 := by
        have := hsp 0 (by omega)
        simpa using this
      subst ha
      unfold indentWidthGo
      simp only [beq_self_eq_true, if_true]
      rw [ih l (w + 1) (p + 1) b (fun i hi => by have := hsp (i + 1) (by omega); simpa using this)
        (by simpa using hb) h32 h9]
      simp only [Prod.mk.injEq]
      constructor <;> omega

theorem det_indentWidthI_head (b : UInt8) (bs : Bytes) (cur : Int) (h32 : b ≠ 32) (h9 : b ≠ 9) :
    indentWidthI (b :: bs) cur = (0, 0) := by
  unfold indentWidthI indentWidthGo
  simp [h32, h9]

theorem det_numeric_ne (b : UInt8) (h : isNumeric b = true) :
    b ≠ 32 ∧ b ≠ 9 ∧ b ≠ 45 ∧ b ≠ 61 ∧ b ≠ 42 ∧ b ≠ 95 ∧ b ≠ 43 ∧ b ≠ 10 ∧ b ≠ 13 := by
  refine ⟨?_, ?_, ?_, ?_, ?_, ?_, ?_, ?_, ?_⟩ <;> (intro e; subst e; revert h; decide)

/-- the byte at `m.r1` of a recognised item: the bullet marker, or the first digit -/
theorem det_first_byte (line : Bytes) (m : M6) (typ : ListTyp) (ok : ListMatchOK line m typ) (ht : typ ≠ .notList) :
    ∃ b, line[m.r1.toNat]? = some b ∧
      ((typ = .bullet ∧ (b = 45 ∨ b = 42 ∨ b = 43) ∧ (m.r3 - 1).toNat = m.r1.toNat) ∨
       (typ = .ordered ∧ isNumeric b = true)) := by
  cases typ with
  | notList => exact absurd rfl ht
  | bullet =>
    obtain ⟨b, hb, h1, _⟩ := ok.marker
    have e := ok.bullet rfl
    have e2 := ok.r2
    have e3 : (m.r3 - 1).toNat = m.r1.toNat := by omega
    exact ⟨b, by rw [← e3]; exact hb, .inl ⟨rfl, h1 rfl, e3⟩⟩
  | ordered =>
    have e := ok.ordered rfl
    have e2 := ok.r2
    have e0 := ok.r1_ge
    obtain ⟨b, hb, hn⟩ := ok.digits rfl m.r1.toNat (by omega) (by omega)
    exact ⟨b, hb, .inr ⟨rfl, hn⟩⟩

theorem det_indent_of_item (line : Bytes) (m : M6) (typ : ListTyp) (lo : Int)
    (h : matchesListItem line false = (m, typ)) (ht : typ ≠ .notList) :
    indentWidthI line lo = (m.r1, m.r1) := by
  have ok := matchesListItem_ok line false m typ h ht
  obtain ⟨b, hb, hcase⟩ := det_first_byte line m typ ok ht
  have h0 := ok.r1_ge
  have hne : b ≠ 32 ∧ b ≠ 9 := by
    rcases hcase with ⟨_, hm, _⟩ | ⟨_, hn⟩
    · rcases hm with e | e | e <;> subst e <;> decide
    · have := det_numeric_ne b hn; exact ⟨this.1, this.2.1⟩
  unfold indentWidthI
  rw [det_indentWidthGo lo m.r1.toNat line 0 0 b (fun i hi => ok.spaces i (by omega)) hb hne.1 hne.2]
  simp only [Prod.mk.injEq]
  constructor <;> omega

theorem det_triggered_list (ch : UInt8) (l : List BP) (h : triggered ch = some l) (hl : BP.list ∈ l) :
    ∃ pre, l = pre ++ [BP.list, BP.listItem] ++ freeParsers ∧ ∀ q ∈ pre, q = BP.setext ∨ q = BP.thematic := by
  rcases triggered_cases h with rfl | rfl | rfl | rfl | rfl | rfl | rfl | rfl | rfl
  · exact ⟨[.setext, .thematic], rfl, by simp⟩
  · exact absurd hl (by decide)
  · exact ⟨[.thematic], rfl, by simp⟩
  · exact absurd hl (by decide)
  · exact ⟨[], rfl, by simp⟩
  all_goals exact absurd hl (by decide)

theorem det_trigger_of_item (line : Bytes) (m : M6) (typ : ListTyp)
    (h : matchesListItem line false = (m, typ)) (ht : typ ≠ .notList) :
    ∃ ch l, line[m.r1.toNat]? = some ch ∧ triggered ch = some l ∧
      ∃ pre, l = pre ++ [BP.list, BP.listItem] ++ freeParsers ∧ ∀ q ∈ pre, q = BP.setext ∨ q = BP.thematic := by
  have ok := matchesListItem_ok line false m typ h ht
  obtain ⟨b, hb, hcase⟩ := det_first_byte line m typ ok ht
  have key : ∃ l, triggered b = some l ∧ BP.list ∈ l := by
    rcases hcase with ⟨_, hm, _⟩ | ⟨_, hn⟩
    · rcases hm with e | e | e <;> subst e
      · exact ⟨_, rfl, by decide⟩
      · exact ⟨_, rfl, by decide⟩
      · exact ⟨_, rfl, by decide⟩
    · obtain ⟨_, _, h45, h61, h42, h95, _⟩ := det_numeric_ne b hn
      refine ⟨[.list, .listItem] ++ freeParsers, ?_, by decide⟩
      unfold triggered
      simp [h45, h61, h42, h95, hn]
  obtain ⟨l, hl, hmem⟩ := key
  exact ⟨b, l, hb, hl, det_triggered_list b l hl hmem⟩

theorem det_isThematicBreak_eq (line : Bytes) (off : Int) :
    isThematicBreak line off =
      if (indentWidthI line off).1 > 3 then false else tbLoop (line.drop (indentWidthI line off).2.toNat) 0 0 := rfl

theorem det_tbLoop_space (mark : UInt8) (count : Nat) : ∀ l : Bytes, (∀ y ∈ l, isSpace y = true) →
    tbLoop l mark count = decide (count > 2) := by
  intro l
  induction l with
  | nil => intro _; simp [tbLoop]
  | cons a l ih =>
    intro h
    unfold tbLoop
    rw [if_pos (h a (by simp))]
    exact ih (fun y hy => h y (by simp [hy]))

theorem det_getElem?_drop_cons (l : Bytes) (k : Nat) (b : UInt8) (h : l[k]? = some b) :
    l.drop k = b :: l.drop (k + 1) := by
  obtain ⟨hlt, e⟩ := List.getElem?_eq_some_iff.mp h
  rw [List.drop_eq_getElem_cons hlt, e]

theorem det_thematic_of_item (line : Bytes) (m : M6) (typ : ListTyp) (lo : Int)
    (h : matchesListItem line false = (m, typ)) (ht : typ ≠ .notList) :
    isThematicBreak line lo = (typ == .bullet && isThematicBreak (line.drop (m.r3 - 1).toNat) 0) := by
  have ok := matchesListItem_ok line false m typ h ht
  obtain ⟨b, hb, hcase⟩ := det_first_byte line m typ ok ht
  have hiw := det_indent_of_item line m typ lo h ht
  have h3 := ok.r1_le
  have hd := det_getElem?_drop_cons line m.r1.toNat b hb
  rw [det_isThematicBreak_eq line lo, hiw]
  simp only
  rw [if_neg (by omega), hd]
  rcases hcase with ⟨htyp, hm, he⟩ | ⟨htyp, hn⟩
  · subst htyp
    have hne : b ≠ 32 ∧ b ≠ 9 := by rcases hm with e | e | e <;> subst e <;> decide
    rw [he, hd, det_isThematicBreak_eq, det_indentWidthI_head b _ 0 hne.1 hne.2]
    simp
  · subst htyp
    obtain ⟨_, _, h45, _, h42, h95, _, h10, h13⟩ := det_numeric_ne b hn
    have hsp : isSpace b = false := by
      have := det_numeric_ne b hn
      simp [isSpace, this.1, this.2.1, h10, h13]
    unfold tbLoop
    simp [hsp, h45, h42, h95]

theorem det_takeWhile_append_le {α} (p : α → Bool) (y : α) (hy : p y = false) : ∀ (A B : List α),
    ((A ++ y :: B).takeWhile p).length ≤ A.length := by
  intro A
  induction A with
  | nil => intro B; simp [hy]
  | cons a A ih =>
    intro B
    simp only [List.cons_append, List.takeWhile]
    cases p a with
    | true => simp only [List.length_cons]; have := ih B; omega
    | false => simp

theorem det_trimRight_le (pre post : Bytes) (y : UInt8) (hy : isSpace y = false) :
    trimRightSpaceLength (pre ++ y :: post) ≤ post.length := by
  unfold trimRightSpaceLength
  have e : (pre ++ y :: post).reverse = post.reverse ++ y :: pre.reverse := by simp
  rw [e]
  have := det_takeWhile_append_le isSpace y hy post.reverse pre.reverse
  simpa using this

/-- a line without leading space or `=`, with at most one leading `-`, of which at least two bytes survive
    right-trimming: not a setext underline -/
theorem det_setext_bar_aux (L : Bytes) (hc32 : countLeading 32 L = 0) (hc61 : countLeading 61 L = 0)
    (hc45 : countLeading 45 L ≤ 1) (htrim : trimRightSpaceLength L + 2 ≤ L.length) (ch : UInt8)
    (h : matchesSetextHeadingBar L = .ok (ch, true)) : False := by
  unfold matchesSetextHeadingBar at h
  have hsl : slice L 0 L.length = .ok L := by
    unfold slice sliceB
    rw [if_pos ⟨Int.le_refl _, by omega, Int.le_refl _⟩]
    simp [sub]
  obtain ⟨last, hlast, _⟩ := idx_ok L ((L.length : Int) - 1) (by omega) (by omega)
  simp only [bind, Except.bind, pure, Except.pure, hc32] at h
  simp only [Int.cast_ofNat_Int] at h
  rw [if_neg (by omega), hsl] at h
  simp only [hlast, hc61] at h
  generalize hstop : (if isSpace last = true then (L.length : Int) - trimRightSpaceLength L else L.length) = stop at h
  have hst : 2 ≤ stop := by rw [← hstop]; split <;> omega
  simp at h
  rw [if_pos (Or.inr (by omega))] at h
  cases h

theorem det_countLeading_head_ne (c b : UInt8) (l : Bytes) (h : b ≠ c) : countLeading c (b :: l) = 0 := by
  have e : (b == c) = false := by simpa using h
  simp [countLeading, List.takeWhile, e]

theorem det_countLeading_le_one (c b : UInt8) (l : Bytes) (h : l = [] ∨ ∃ d ds, l = d :: ds ∧ d ≠ c) :
    countLeading c (b :: l) ≤ 1 := by
  rcases h with h | ⟨d, ds, h, hd⟩ <;> subst h
  · unfold countLeading; simp only [List.takeWhile]; split <;> simp
  · unfold countLeading; simp only [List.takeWhile]
    have : (d == c) = false := by simpa using hd
    rw [this]
    split <;> simp

/-- a marker byte followed by nothing or by a byte that is not `-`: as a setext underline, only white space follows -/
theorem det_setext_bar (b : UInt8) (rest : Bytes) (h32 : b ≠ 32) (h61 : b ≠ 61)
    (hrest : rest = [] ∨ ∃ d ds, rest = d :: ds ∧ d ≠ 45) (ch : UInt8)
    (h : matchesSetextHeadingBar (b :: rest) = .ok (ch, true)) : ∀ y ∈ rest, isSpace y = true := by
  intro y hy
  cases hsy : isSpace y with
  | true => rfl
  | false =>
    exfalso
    obtain ⟨pre, post, e⟩ := List.append_of_mem hy
    refine det_setext_bar_aux (b :: rest) (det_countLeading_head_ne 32 b rest h32) (det_countLeading_head_ne 61 b rest h61)
      (det_countLeading_le_one 45 b rest hrest) ?_ ch h
    have := det_trimRight_le (b :: pre) post y hsy
    subst e
    simp only [List.cons_append, List.length_cons, List.length_append] at this ⊢
    omega

theorem det_no_heading (line : Bytes) (m : M6) (typ : ListTyp)
    (h : matchesListItem line false = (m, typ)) (ht : typ ≠ .notList)
    (hth : isThematicBreak (line.drop (m.r3 - 1).toNat) 0 = true) :
    ∀ ch ok, matchesSetextHeadingBar (line.drop (m.r3 - 1).toNat) = .ok (ch, ok) → ¬ (ok = true ∧ ch = 45) := by
  intro ch okb hbar hc
  obtain ⟨hokb, _⟩ := hc
  subst hokb
  have ok := matchesListItem_ok line false m typ h ht
  obtain ⟨b, hb, _, _, hmk⟩ := ok.marker
  have hd := det_getElem?_drop_cons line (m.r3 - 1).toNat b hb
  rw [hd] at hth hbar
  have hne : b ≠ 32 ∧ b ≠ 9 ∧ b ≠ 61 ∧ isSpace b = false := by
    rcases hmk with e | e | e | e | e <;> subst e <;> decide
  have hrest : line.drop ((m.r3 - 1).toNat + 1) = [] ∨
      ∃ d ds, line.drop ((m.r3 - 1).toNat + 1) = d :: ds ∧ d ≠ 45 := by
    have := ok.r1_ge; have := ok.r2; have := ok.r3_gt
    have e3 : (m.r3 - 1).toNat + 1 = m.r3.toNat := by omega
    rw [e3]
    rcases ok.tail with ⟨_, _, e⟩ | ⟨e4, _, _, _, _, d, hd4, hdc⟩
    · exact .inl (List.drop_eq_nil_of_le (by omega))
    · rw [e4] at hd4
      refine .inr ⟨d, _, det_getElem?_drop_cons line m.r3.toNat d hd4, ?_⟩
      rcases hdc with e | e | e <;> subst e <;> decide
  have hall := det_setext_bar b _ hne.1 hne.2.2.1 hrest ch hbar
  rw [det_isThematicBreak_eq, det_indentWidthI_head b _ 0 hne.1 hne.2.1] at hth
  simp only [Int.toNat_zero, List.drop_zero] at hth
  rw [if_neg (by omega)] at hth
  unfold tbLoop at hth
  rw [if_neg (by rw [hne.2.2.2]; simp)] at hth
  simp only [beq_self_eq_true, if_true] at hth
  split at hth
  · rw [det_tbLoop_space _ _ _ hall] at hth
    simp at hth
  · cases hth

theorem thematicOpen_det (src : Bytes) (parent : Nat) (s : St) (c : RCur) (h : RI src s.r c) (hlt : c.p < src.length) :
    OKL (fun a s' => a.1.isSome = isThematicBreak ((RCur.view src c).getD []) (loVal src c) ∧
        (a.1 = none → s'.pc = s.pc ∧ s'.nodes = s.nodes)) (thematicOpen parent s) := by
  unfold thematicOpen
  refine OKL.bind (peekLine_okl h) (fun x s1 hx => ?_)
  obtain ⟨hx, r1, hs1, h1⟩ := hx
  subst hx hs1
  simp only
  refine OKL.bind (lineOffset_okl (s := { s with r := r1 }) h1) (fun lo s2 hlo => ?_)
  obtain ⟨hlo, r2, hs2, h2⟩ := hlo
  have hlo := hlo hlt
  subst hlo hs2
  by_cases hb : isThematicBreak ((RCur.view src c).getD []) (loVal src c) = true
  · rw [if_pos hb]
    have hv := view_eq src c hlt
    have hl := view_len src c hlt hv
    have hl2 := view_length src c hlt hv
    have hlen : 0 ≤ (RCur.seg src c).len - 1 := by omega
    refine OKL.bind (advance_okl (s := { s with r := r2 }) h2 hlen) (fun _ s4 h4 => ?_)
    obtain ⟨r4, hs4, h4⟩ := h4
    subst hs4
    simp only [bind, StateT.bind, newNode, pure, StateT.pure, Except.bind, Except.pure]
    exact OKL.ok ⟨by rw [hb]; rfl, fun hh => (by cases hh)⟩
  · rw [if_neg hb]
    have hb' : isThematicBreak ((RCur.view src c).getD []) (loVal src c) = false := by
      cases hh : isThematicBreak ((RCur.view src c).getD []) (loVal src c) with
      | true => exact absurd hh hb
      | false => rfl
    exact OKL.ok ⟨by rw [hb']; rfl, fun _ => ⟨rfl, rfl⟩⟩

theorem setextOpen_none (src : Bytes) (parent : Nat) (s : St) (c : RCur) (h : RI src s.r c) (hlt : c.p < src.length) :
    OKL (fun a s' => a.1 = none → s'.pc = s.pc ∧ s'.nodes = s.nodes) (setextOpen parent s) := by
  unfold setextOpen
  have fin : ∀ r1, OKL (fun (a : Option Nat × PState) s' => a.1 = none → s'.pc = s.pc ∧ s'.nodes = s.nodes)
      (.ok ((none, stNoChildren), { s with r := r1 })) := fun r1 => OKL.ok (fun _ => ⟨rfl, rfl⟩)
  refine OKL.bind (m := lastOpenedBlock) (P := fun v s' => s' = s) (OKL.ok rfl) (fun v s1 hs1 => ?_)
  subst hs1
  cases v with
  | none => exact fin s1.r
  | some lb =>
    simp only
    refine OKL.bind (m := getNode lb.node) (P := fun v s' => s' = s1) (OKL.ok rfl) (fun ln s2 hs2 => ?_)
    subst hs2
    by_cases hg : (ln.kind != Kind.paragraph || ln.parent != some parent) = true
    · rw [if_pos hg]; exact fin s2.r
    · rw [if_neg hg]
      refine OKL.bind (peekLine_okl h) (fun x s3 hx => ?_)
      obtain ⟨hx, r1, hs3, h1⟩ := hx
      subst hx hs3
      simp only
      have hv := view_eq src c hlt
      have hl2 := view_length src c hlt hv
      obtain ⟨v, hm⟩ := matchesSetextHeadingBar_total ((RCur.view src c).getD [])
        (by rw [hv]; simp only [Option.getD_some]; intro e; rw [e] at hl2; simp at hl2)
      refine OKL.bind (liftE_okl (P := fun a s' => a = v ∧ s' = { s2 with r := r1 }) hm ⟨rfl, rfl⟩) (fun a s4 ha => ?_)
      obtain ⟨ha, hs4⟩ := ha
      subst ha hs4
      obtain ⟨ch, ok⟩ := a
      simp only
      by_cases hok : (!ok) = true
      · rw [if_pos hok]; exact fin r1
      · rw [if_neg hok]
        simp only [bind, StateT.bind, newNode, appendLine, modNode, modPc, pure, StateT.pure, Except.bind, Except.pure]
        exact OKL.ok (fun hh => (by cases hh))

theorem det_okl_and {α} {P Q : α → St → Prop} {x : Except Panic (α × St)} (hp : OKL P x) (hq : OKL Q x) :
    OKL (fun a s => P a s ∧ Q a s) x := by
  rcases hp with ⟨a, s', h1, h2⟩ | h1
  · rcases hq with ⟨a', s'', h3, h4⟩ | h3
    · rw [h1] at h3; cases h3
      exact .inl ⟨a, s', h1, h2, h4⟩
    · rw [h1] at h3; cases h3
  · exact .inr h1

/-- list.go:196-204 when the tail cannot be a level-2 setext underline: the answer is Close -/
theorem det_listContSetext (tail : Bytes) (lastIsPara : Bool) (hne : tail ≠ [])
    (hnh : ∀ ch ok, matchesSetextHeadingBar tail = .ok (ch, ok) → ¬ (ok = true ∧ ch = 45)) (s : St) :
    OKL (fun st _ => st = stClose) (listContSetext tail lastIsPara s) := by
  unfold listContSetext
  obtain ⟨⟨c, okb⟩, hr⟩ := matchesSetextHeadingBar_total tail hne
  cases lastIsPara with
  | false => exact OKL.ok rfl
  | true =>
    simp only [if_true, bind, StateT.bind, liftE, hr, Except.map, Except.bind]
    by_cases h : (okb && c == 45) = true
    · exfalso
      simp only [Bool.and_eq_true, beq_iff_eq] at h
      exact hnh c okb hr h
    · rw [if_neg h]; exact OKL.ok rfl

/-- list.go:187-207: when the answer is Continue, the rest of the line from the marker on is not a thematic break -/
theorem det_listContNewItem (list : Node) (line : Bytes) (m : M6) (typ : ListTyp)
    (hm : matchesListItem line false = (m, typ)) (ht : typ ≠ .notList) (s : St) :
    OKL (fun st _ => st.cont = true → isThematicBreak (line.drop (m.r3 - 1).toNat) 0 = false)
      (listContNewItem list line m typ s) := by
  have ok := matchesListItem_ok line false m typ hm ht
  unfold listContNewItem
  obtain ⟨b, hb, hb', _⟩ := ok.idx_marker
  obtain ⟨hsf, hne⟩ := ok.sliceFrom_marker
  refine OKL.bind (liftE_okl (P := fun a s' => a = b ∧ s' = s) hb ⟨rfl, rfl⟩) (fun a s1 ha => ?_)
  obtain ⟨ha, hs1⟩ := ha
  subst ha hs1
  by_cases h1 : (!(a == list.marker && (typ == ListTyp.ordered) == markerOrdered list.marker)) = true
  · rw [if_pos h1]; exact OKL.ok (fun hh => (by cases hh))
  · rw [if_neg h1]
    refine OKL.bind (liftE_okl (P := fun a s' => a = line.drop (m.r3 - 1).toNat ∧ s' = s1) hsf ⟨rfl, rfl⟩)
      (fun tail s2 htl => ?_)
    obtain ⟨htl, hs2⟩ := htl
    subst htl hs2
    by_cases h2 : isThematicBreak (List.drop (m.r3 - 1).toNat line) 0 = true
    · rw [if_pos h2]
      refine OKL.bind (m := lastOpenedBlock) (P := fun v s' => s' = s2) (OKL.ok rfl) (fun last s3 hs3 => ?_)
      subst hs3
      have hnh := det_no_heading line m typ hm ht h2
      suffices tl : ∀ lp, OKL (fun st _ => st.cont = true → isThematicBreak (line.drop (m.r3 - 1).toNat) 0 = false)
          (listContSetext (List.drop (m.r3 - 1).toNat line) lp s3) by
        cases last with
        | none => exact tl false
        | some lb => exact tl ((nd s3 lb.node).kind == .paragraph)
      intro lp
      exact (det_listContSetext _ lp hne hnh s3).mono (fun st _ h hc => by rw [h] at hc; cases hc)
    · rw [if_neg h2]
      exact OKL.ok (fun _ => by
        cases hh : isThematicBreak (List.drop (m.r3 - 1).toNat line) 0 with
        | true => exact absurd hh h2
        | false => rfl)

/-- list.go:181-245: the answer Continue through the "next item" branch is never given over a thematic break -/
theorem det_listContLine (list : Node) (line : Bytes) (offset : Int) (lastIsEmpty : Bool) (indent : Int) (s : St) :
    OKL (fun st _ => st.cont = true → indent < 4 → (indent < offset ∨ lastIsEmpty = true) → LineIsItem line offset →
        ∀ lo, isThematicBreak line lo = false)
      (listContLine list line offset lastIsEmpty indent s) := by
  have H := listContLine_okl list line offset lastIsEmpty indent s
  unfold listContLine at H ⊢
  by_cases h1 : (decide (indent < offset) || lastIsEmpty) = true
  · rw [if_pos h1] at H ⊢
    simp only at H ⊢
    by_cases h2 : indent < 4
    · rw [if_pos h2] at H ⊢
      generalize hm : matchesListItem line false = x at H ⊢
      obtain ⟨m, typ⟩ := x
      simp only at H ⊢
      by_cases h4 : (typ != ListTyp.notList && decide (m.r1 - offset < 4)) = true
      · rw [if_pos h4]
        have h4' : typ ≠ .notList ∧ m.r1 - offset < 4 := by simpa using h4
        refine (det_listContNewItem list line m typ hm h4'.1 s).mono (fun st _ h hc _ _ _ lo => ?_)
        rw [det_thematic_of_item line m typ lo hm h4'.1, h hc]
        simp
      · rw [if_neg h4] at H ⊢
        refine H.mono (fun st _ _ _ _ _ hi => ?_)
        exfalso
        obtain ⟨m', typ', e, k1, k2⟩ := hi
        rw [hm] at e; cases e
        apply h4; simp [k1, k2]
    · rw [if_neg h2] at H ⊢
      exact H.mono (fun st _ _ _ hh => absurd hh h2)
  · rw [if_neg h1] at H ⊢
    refine H.mono (fun st _ _ _ _ hh => ?_)
    exfalso; apply h1
    rcases hh with hh | hh
    · simp [hh]
    · simp [hh]

theorem listContinue_okl2 (src : Bytes) (node : Nat) (s : St) (c : RCur) (h : RI src s.r c) (hlt : c.p < src.length)
    (hitem : ListHasItem s node) :
    OKL (fun st s' => ∃ r', s'.r = r' ∧ RI src r' c ∧ s'.nodes = s.nodes ∧ s'.pc.opened = s.pc.opened ∧
        s'.pc.blockOffset = s.pc.blockOffset ∧ s'.pc.blockIndent = s.pc.blockIndent ∧
        s'.pc.tmpPara = s.pc.tmpPara ∧ s'.pc.fence = s.pc.fence ∧ s'.pc.skipList = s.pc.skipList ∧
        (st.cont = true → st.hasChildren = true) ∧
        ∀ lc, (nd s node).children.getLast? = some lc →
          (isBlank ((RCur.view src c).getD []) = true → st = stContinueHasChildren ∧
            s'.pc = (if (nd s lc).children.isEmpty then { s.pc with emptyItemBlank := true } else s.pc)) ∧
          (isBlank ((RCur.view src c).getD []) = false → s'.pc = s.pc ∧
            ListGoesOn (nd s node) ((RCur.view src c).getD []) (nd s lc).offset (nd s lc).children.isEmpty
              (indentWidthI ((RCur.view src c).getD []) (loVal src c)).1 s.pc.emptyItemBlank st ∧
            (st.cont = true → (indentWidthI ((RCur.view src c).getD []) (loVal src c)).1 < 4 →
              ((indentWidthI ((RCur.view src c).getD []) (loVal src c)).1 < (nd s lc).offset ∨
                (nd s lc).children.isEmpty = true) →
              LineIsItem ((RCur.view src c).getD []) (nd s lc).offset →
              isThematicBreak ((RCur.view src c).getD []) (loVal src c) = false)))
      (listContinue node s) := by
  rw [listContinue_eq]
  obtain ⟨lc, hlc, hk⟩ := hitem
  refine OKL.bind (getNode_okl node s) (fun list s0 hl => ?_)
  obtain ⟨hl, hs0⟩ := hl
  subst hl hs0
  refine OKL.bind (peekLine_okl h) (fun x s1 hx => ?_)
  obtain ⟨hx, r1, hs1, h1⟩ := hx
  subst hx hs1
  simp only
  generalize (RCur.view src c).getD [] = line
  by_cases hb : isBlank line = true
  · rw [if_pos hb]
    refine OKL.bind (lastChildCount_okl { s0 with r := r1 } node lc hlc) (fun cnt s2 hc => ?_)
    obtain ⟨hc, hs2⟩ := hc
    subst hc hs2
    rw [length_beq_zero]
    have hnb : ¬ isBlank line = false := by rw [hb]; simp
    by_cases h0 : (nd s0 lc).children.isEmpty = true
    · rw [if_pos h0]
      simp only [bind, StateT.bind, modPc, pure, StateT.pure, Except.bind, Except.pure]
      refine OKL.ok ⟨r1, rfl, h1, rfl, rfl, rfl, rfl, rfl, rfl, rfl, fun _ => rfl, fun lc' hlc' => ?_⟩
      rw [hlc] at hlc'; cases hlc'
      exact ⟨fun _ => ⟨rfl, by rw [if_pos h0]⟩, fun hh => absurd hh hnb⟩
    · rw [if_neg h0]
      refine OKL.ok ⟨r1, rfl, h1, rfl, rfl, rfl, rfl, rfl, rfl, rfl, fun _ => rfl, fun lc' hlc' => ?_⟩
      rw [hlc] at hlc'; cases hlc'
      exact ⟨fun _ => ⟨rfl, by rw [if_neg h0]⟩, fun hh => absurd hh hnb⟩
  · rw [if_neg hb]
    refine OKL.bind (lastOffset_okl { s0 with r := r1 } node lc hlc hk) (fun off s2 ho => ?_)
    obtain ⟨ho, hs2⟩ := ho
    subst ho hs2
    refine OKL.bind (lastChildCount_okl { s0 with r := r1 } node lc hlc) (fun cnt s3 hc => ?_)
    obtain ⟨hc, hs3⟩ := hc
    subst hc hs3
    rw [length_beq_zero]
    refine OKL.bind (lineOffset_okl (s := { s0 with r := r1 }) h1) (fun lo s4 hlo => ?_)
    obtain ⟨hlo, r2, hs4, h2⟩ := hlo
    have hlo := hlo hlt
    subst hlo hs4
    generalize hiw : indentWidthI line (loVal src c) = iw
    obtain ⟨indent, pos⟩ := iw
    simp only
    refine (det_okl_and
      (listContLine_okl (nd s0 node) line (nd s0 lc).offset (nd s0 lc).children.isEmpty indent { s0 with r := r2 })
      (det_listContLine (nd s0 node) line (nd s0 lc).offset (nd s0 lc).children.isEmpty indent
        { s0 with r := r2 })).mono (fun st s' hp => ?_)
    obtain ⟨⟨hs', hgo⟩, hdet⟩ := hp
    subst hs'
    refine ⟨r2, rfl, h2, rfl, rfl, rfl, rfl, rfl, rfl, rfl, fun hc => ?_, fun lc' hlc' => ?_⟩
    · rcases hgo.1 with e | e <;> rw [e] at hc ⊢
      · cases hc
      · rfl
    · rw [hlc] at hlc'; cases hlc'
      exact ⟨fun hh => absurd hh hb, fun _ => ⟨rfl, hgo, fun k1 k2 k3 k4 => hdet k1 k2 k3 k4 _⟩⟩

end GM.Blocks
