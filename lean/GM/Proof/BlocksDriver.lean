/-
  GM.Proof.BlocksDriver — what the no-panic walks over the driver share: the bundle `Specs src A` of the per-parser
  contracts (GM.Proof.BlocksInv) for a set `A` of block parsers, the window invariants of one `openBlocks` call (`Win`,
  `Mid`) and the line-boundary invariant `Stable` over such a set, the frame `FrameEq` of a tree operation, one parser
  attempt (`open_none`, `open_some`), and the reader facts at a line boundary. The walks themselves are
  GM.Proof.BlocksDriverL (plain driver, list-aware) and GM.Proof.BlocksTNPOpenA / BlocksTNPX* (driver with hooks); the
  whole-run theorem stated over `Specs src A`, `run_okl`, is in GM.Proof.BlocksNoPanicAll.
-/
import GM.Proof.BlocksSpecBasic

namespace GM.Blocks
open GM GM.Text GM.Spec GM.Proof.Reader

/-- the contracts of the parsers in `A` -/
structure Specs (src : Bytes) (A : BP → Prop) : Prop where
  opn : ∀ bp, A bp → OpenSpec src bp
  cont : ∀ bp, A bp → ContSpec src bp
  close : ∀ bp, A bp → CloseSpec src bp
  paraCont : A .paragraph → ∀ (node : Nat) (s : St) (c : RCur), RI src s.r c → PadOK c → NodesOK src s → KeysOK s →
    BlockOK s ⟨node, .paragraph⟩ → OKL (fun st s' => ContPost src .paragraph s c st s') (paragraphContinue node s)

/-- all entries but the last are container blocks -/
def Leafy (l : List Block) : Prop := ∀ b ∈ l.dropLast, b.bp.isContainer = true

/-- closing `c` does not invalidate `k`: a setext heading's / fenced block's context key is not reset -/
def Compat (s : St) (k c : Block) : Prop :=
  (k.bp = .setext → c.bp ≠ .setext) ∧
  (k.bp = .fenced → c.bp = .fenced → ∀ f, s.pc.fence = some f → f.node ≠ c.node)

theorem Compat.of_container {s : St} {k c : Block} (h : c.bp.isContainer = true) : Compat s k c := by
  constructor
  · intro _ hc; rw [hc] at h; cases h
  · intro _ hc; rw [hc] at h; cases h

theorem container_kind {bp : BP} (h : bp.isContainer = true) :
    bp ≠ .paragraph ∧ bp ≠ .setext ∧ bp ≠ .fenced ∧ bp.kind ≠ .paragraph := by
  cases bp <;> simp [BP.isContainer, BP.kind] at h ⊢

theorem kind_paragraph {bp : BP} (h : bp.kind = .paragraph) : bp = .paragraph := by
  cases bp <;> simp [BP.kind] at h ⊢

theorem BlockOK.ext {s s' : St} {b : Block} (h : BlockOK s b) (e : Ext s s')
    (ht : b.bp = .setext → s'.pc.tmpPara.isSome = true) (hf : b.bp = .fenced → s'.pc.fence.isSome = true) :
    BlockOK s' b where
  lt := Nat.lt_of_lt_of_le h.lt e.len
  kind := by rw [e.kind _ h.lt]; exact h.kind
  para := fun hp => e.linesNE _ h.lt (by rw [h.kind, hp]; simp [BP.kind]) (h.para hp)
  setext := fun hp => ⟨e.linesNE _ h.lt (by rw [h.kind, hp]; simp [BP.kind]) (h.setext hp).1, ht hp⟩
  fenced := hf

theorem BlockOK.ext_container {s s' : St} {b : Block} (h : BlockOK s b) (e : Ext s s')
    (hc : b.bp.isContainer = true) : BlockOK s' b :=
  h.ext e (fun hp => absurd hp (container_kind hc).2.1) (fun hp => absurd hp (container_kind hc).2.2.1)

theorem KeysOK.ext {s s' : St} (h : KeysOK s) (e : Ext s s')
    (ht : s'.pc.tmpPara = s.pc.tmpPara ∨ s'.pc.tmpPara = none)
    (hf : s'.pc.fence = s.pc.fence ∨ s'.pc.fence = none) : KeysOK s' where
  tmp := by
    intro t htt
    rcases ht with ht | ht
    · rw [ht] at htt
      obtain ⟨a, b, c⟩ := h.tmp t htt
      exact ⟨Nat.lt_of_lt_of_le a e.len, by rw [e.kind t a]; exact b,
        e.linesNE t a (by rw [b]; simp) c⟩
    · rw [ht] at htt; cases htt
  fence := by
    intro f hff
    rcases hf with hf | hf
    · rw [hf] at hff
      obtain ⟨a, b, c⟩ := h.fence f hff
      exact ⟨a, b, Nat.lt_of_lt_of_le c e.len⟩
    · rw [hf] at hff; cases hff

/-- `s'` differs from `s` only in tree links and flags of nodes -/
structure FrameEq (s s' : St) : Prop where
  r : s'.r = s.r
  pc : s'.pc = s.pc
  len : s'.nodes.length = s.nodes.length
  same : ∀ j, (nd s' j).kind = (nd s j).kind ∧ (nd s' j).lines = (nd s j).lines ∧ (nd s' j).linesNil = (nd s j).linesNil

theorem FrameEq.refl (s : St) : FrameEq s s := ⟨rfl, rfl, rfl, fun _ => ⟨rfl, rfl, rfl⟩⟩

theorem FrameEq.trans {s1 s2 s3 : St} (h1 : FrameEq s1 s2) (h2 : FrameEq s2 s3) : FrameEq s1 s3 :=
  ⟨by rw [h2.r, h1.r], by rw [h2.pc, h1.pc], by rw [h2.len, h1.len], fun j => by
    obtain ⟨a, b, c⟩ := h1.same j; obtain ⟨a', b', c'⟩ := h2.same j
    exact ⟨by rw [a', a], by rw [b', b], by rw [c', c]⟩⟩

theorem FrameEq.nodesOK {src : Bytes} {s s' : St} (h : FrameEq s s') (hn : NodesOK src s) : NodesOK src s' := by
  intro n hmem
  obtain ⟨j, hj, rfl⟩ := List.getElem_of_mem hmem
  have e : s'.nodes[j] = nd s' j := by
    simp [nd, List.getD_eq_getElem?_getD, hj]
  obtain ⟨_, b, c⟩ := h.same j
  have ok := nodeOK_nd hn j
  rw [e]
  exact ⟨by rw [b]; exact ok.lines, by rw [b, c]; exact ok.nil⟩

theorem FrameEq.ext {s s' : St} (h : FrameEq s s') : Ext s s' :=
  ⟨by rw [h.len]; exact Nat.le_refl _, fun j _ => (h.same j).1, fun j _ _ hl => by rw [(h.same j).2.1]; exact hl⟩

theorem FrameEq.keys {s s' : St} (h : FrameEq s s') (hk : KeysOK s) : KeysOK s' :=
  hk.ext h.ext (.inl (by rw [h.pc])) (.inl (by rw [h.pc]))

theorem FrameEq.blockOK {s s' : St} (h : FrameEq s s') {b : Block} (hb : BlockOK s b) : BlockOK s' b :=
  hb.ext h.ext (fun hp => by rw [h.pc]; exact (hb.setext hp).2) (fun hp => by rw [h.pc]; exact hb.fenced hp)

/-- the state after `modNode i f` -/
def upd (s : St) (i : Nat) (f : Node → Node) : St := { s with nodes := s.nodes.set i (f (nd s i)) }

theorem modNode_eq (i : Nat) (f : Node → Node) (s : St) : modNode i f s = .ok ((), upd s i f) := rfl

theorem nd_upd (s : St) (i : Nat) (f : Node → Node) (j : Nat) :
    nd (upd s i f) j = if i = j ∧ i < s.nodes.length then f (nd s i) else nd s j := by
  simp only [nd, upd, List.getD_eq_getElem?_getD, List.getElem?_set]
  by_cases hij : i = j
  · subst hij
    by_cases hi : i < s.nodes.length
    · simp [hi]
    · simp [hi, List.getElem?_eq_none (Nat.le_of_not_lt hi)]
  · simp [hij]

/-- `f` changes neither kind nor lines -/
def SameLK (f : Node → Node) : Prop := ∀ n, (f n).kind = n.kind ∧ (f n).lines = n.lines ∧ (f n).linesNil = n.linesNil

theorem upd_frame (s : St) (i : Nat) {f : Node → Node} (hf : SameLK f) : FrameEq s (upd s i f) := by
  refine ⟨rfl, rfl, by simp [upd], fun j => ?_⟩
  rw [nd_upd]
  split
  · rename_i h; obtain ⟨rfl, _⟩ := h; exact hf _
  · exact ⟨rfl, rfl, rfl⟩

theorem appendChild_okl (parent node : Nat) (s : St) :
    ∃ s', appendChild parent node s = .ok ((), s') ∧ FrameEq s s' ∧
      (node < s.nodes.length → (nd s' node).parent = some parent) := by
  have fin : ∀ s1 : St, FrameEq s s1 → ∃ s', (do
        modNode parent fun n => { n with children := n.children ++ [node] }
        modNode node fun n => { n with parent := some parent } : M Unit) s1 = .ok ((), s') ∧ FrameEq s s' ∧
      (node < s.nodes.length → (nd s' node).parent = some parent) := by
    intro s1 h1
    refine ⟨upd (upd s1 parent fun n => { n with children := n.children ++ [node] }) node
      fun n => { n with parent := some parent }, rfl, ?_, ?_⟩
    · exact h1.trans ((upd_frame s1 parent (f := fun n => { n with children := n.children ++ [node] }) (fun n => ⟨rfl, rfl, rfl⟩)).trans
        (upd_frame _ node (f := fun n => { n with parent := some parent }) (fun n => ⟨rfl, rfl, rfl⟩)))
    · intro hlt
      rw [nd_upd]
      have : node < (upd s1 parent fun n => { n with children := n.children ++ [node] }).nodes.length := by
        simp only [upd, List.length_set]; rw [h1.len]; exact hlt
      simp [this]
  unfold appendChild ensureIsolated
  simp only [bind, StateT.bind, getNode, Except.bind, pure, StateT.pure, Except.pure]
  cases hp : (s.nodes.getD node default).parent with
  | none => exact fin s (FrameEq.refl s)
  | some q =>
    simp only [removeChild, bind, StateT.bind, getNode, Except.bind, pure, StateT.pure, Except.pure, hp]
    have hne : (some q != some q) = false := by simp
    simp only [hne, Bool.false_eq_true, if_false]
    exact fin _ ((upd_frame s q (f := fun n => { n with children := n.children.erase node }) (fun n => ⟨rfl, rfl, rfl⟩)).trans
      (upd_frame _ node (f := fun n => { n with parent := none }) (fun n => ⟨rfl, rfl, rfl⟩)))

/-- the loop of `closeBlocks` over an explicit list (in closing order) -/
def closeList : List Block → M Unit
  | [] => pure ()
  | b :: bs => do
    if (← getNode b.node).parent.isSome then bpClose b.bp b.node
    closeList bs

theorem blockAt_ok (blocks : List Block) (i : Nat) (h : i < blocks.length) :
    blockAt blocks (i : Int) = .ok blocks[i] := by
  unfold blockAt
  have : ¬ ((i : Int) < 0) := by omega
  rw [if_neg this]
  simp [h]

/-- the invariant of one `openBlocks` call: `old` = `openedBlocks` at its start (state `s0`), `new` = the blocks it has
    appended so far -/
structure Win (src : Bytes) (A : BP → Prop) (old : List Block) (s0 s : St) (new : List Block) : Prop where
  nodes : NodesOK src s
  keys : KeysOK s
  ext : Ext s0 s
  shape : s.pc.opened = old ++ new ∨ (old ≠ [] ∧ new ≠ [] ∧ s.pc.opened = old.dropLast ++ new)
  blocks : ∀ b ∈ s.pc.opened, BlockOK s b ∧ A b.bp
  oldlt : ∀ b ∈ old, b.node < s0.nodes.length
  leafyOld : Leafy old
  fresh : ∀ b ∈ new, s0.nodes.length ≤ b.node
  lastParent : ∀ lb, new.getLast? = some lb → (nd s lb.node).parent.isSome = true

theorem Compat.of_container_left {s : St} {k c : Block} (h : k.bp.isContainer = true) : Compat s k c :=
  ⟨fun hk => absurd hk (container_kind h).2.1, fun hk => absurd hk (container_kind h).2.2.1⟩

theorem leafy_of_all {l : List Block} (h : ∀ b ∈ l, b.bp.isContainer = true) : Leafy l :=
  fun b hb => h b (List.dropLast_subset l hb)

theorem leafy_snoc {l : List Block} (h : ∀ b ∈ l, b.bp.isContainer = true) (x : Block) : Leafy (l ++ [x]) := by
  intro b hb; rw [List.dropLast_concat] at hb; exact h b hb

/-- the facts about the freshly built block `⟨id, bp⟩` and the current stack that the tail of a successful
    attempt (`AppendChild`, push) needs -/
structure Mid (src : Bytes) (A : BP → Prop) (old : List Block) (s0 : St) (id : Nat) (bp : BP) (s : St)
    (new : List Block) : Prop where
  nodes : NodesOK src s
  keys : KeysOK s
  ext : Ext s0 s
  shape : s.pc.opened = old ++ new ∨ (old ≠ [] ∧ s.pc.opened = old.dropLast ++ new)
  blocks : ∀ b ∈ s.pc.opened, BlockOK s b ∧ A b.bp
  nb : BlockOK s ⟨id, bp⟩
  abp : A bp
  idge : s0.nodes.length ≤ id
  fenceNew : bp = .fenced → ∃ f, s.pc.fence = some f ∧ f.node = id
  setextOld : bp = .setext → ∀ b ∈ old, b.bp ≠ .setext

theorem eq_dropLast_append_of_getLast? {α} (l : List α) (x : α) (h : l.getLast? = some x) : l = l.dropLast ++ [x] := by
  induction l with
  | nil => cases h
  | cons a t ih =>
    cases t with
    | nil => simp at h; subst h; rfl
    | cons b t' =>
      have : (b :: t').getLast? = some x := by simpa [List.getLast?_cons_cons] using h
      rw [List.dropLast_cons_cons, List.cons_append, ← ih this]

theorem mem_dropLast_or_last {α} (l : List α) (b : α) (h : b ∈ l) : b ∈ l.dropLast ∨ l.getLast? = some b := by
  cases hl : l.getLast? with
  | none => rw [List.getLast?_eq_none_iff] at hl; subst hl; cases h
  | some a =>
    have e := eq_dropLast_append_of_getLast? l a hl
    rw [e] at h
    rcases List.mem_append.1 h with h | h
    · exact .inl h
    · simp only [List.mem_singleton] at h; subst h; exact .inr rfl

theorem Mid.frame {src A old s0 id bp s s' new} (h : Mid src A old s0 id bp s new) (hf : FrameEq s s') :
    Mid src A old s0 id bp s' new where
  nodes := hf.nodesOK h.nodes
  keys := hf.keys h.keys
  ext := h.ext.trans hf.ext
  shape := by rw [hf.pc]; exact h.shape
  blocks := fun b hb => by rw [hf.pc] at hb; exact ⟨hf.blockOK (h.blocks b hb).1, (h.blocks b hb).2⟩
  nb := hf.blockOK h.nb
  abp := h.abp
  idge := h.idge
  fenceNew := fun hp => by rw [hf.pc]; exact h.fenceNew hp
  setextOld := h.setextOld

theorem Mid.pop {src A old s0 id bp s} (h : Mid src A old s0 id bp s []) (hop : s.pc.opened = old) (hne : old ≠ []) :
    Mid src A old s0 id bp { s with pc := { s.pc with opened := old.dropLast } } [] where
  nodes := h.nodes
  keys := ⟨h.keys.tmp, h.keys.fence⟩
  ext := ⟨h.ext.len, h.ext.kind, h.ext.linesNE⟩
  shape := .inr ⟨hne, by simp⟩
  blocks := fun b hb => by
    have hb' : b ∈ s.pc.opened := by rw [hop]; exact List.dropLast_subset _ hb
    have := h.blocks b hb'
    exact ⟨⟨this.1.lt, this.1.kind, this.1.para, this.1.setext, this.1.fenced⟩, this.2⟩
  nb := ⟨h.nb.lt, h.nb.kind, h.nb.para, h.nb.setext, h.nb.fenced⟩
  abp := h.abp
  idge := h.idge
  fenceNew := h.fenceNew
  setextOld := h.setextOld

theorem open_none {src A old s0 bp parent s c st s1 new} (hO : OpenPost src bp parent s c (none, st) s1)
    (hc : LineCtx src s c) (hw : Win src A old s0 s new) :
    LineCtx src s1 c ∧ Win src A old s0 s1 new ∧ s1.pc.opened = s.pc.opened := by
  obtain ⟨c', hri, hpad, _, hcc, _⟩ := hO.ri
  have hcc := hcc rfl
  subst hcc
  have hn := hO.noNode rfl
  have htmp : s1.pc.tmpPara = s.pc.tmpPara := by
    rcases hO.tmp with ⟨_, h, _⟩ | ⟨_, h⟩
    · cases h
    · exact h
  have hfen : s1.pc.fence = s.pc.fence := by
    rcases hO.fence with ⟨_, _, _, h, _⟩ | ⟨_, h⟩
    · cases h
    · exact h
  have hext : Ext s s1 := Ext.of_nodes_eq hn
  have hnodes : NodesOK src s1 := fun n hm => hw.nodes n (by rw [← hn]; exact hm)
  refine ⟨⟨hri, hc.lt, hpad, by rw [hO.boff]; exact hc.off, hnodes⟩, ?_, hO.opened⟩
  refine ⟨hnodes, hw.keys.ext hext (.inl htmp) (.inl hfen), hw.ext.trans hext, by rw [hO.opened]; exact hw.shape, ?_,
    hw.oldlt, hw.leafyOld, hw.fresh, ?_⟩
  · intro b hb
    rw [hO.opened] at hb
    have := hw.blocks b hb
    exact ⟨this.1.ext hext (fun hp => by rw [htmp]; exact (this.1.setext hp).2) (fun hp => by rw [hfen]; exact this.1.fenced hp), this.2⟩
  · intro lb hlb
    have := hw.lastParent lb hlb
    simpa only [nd, hn] using this

theorem open_some {src A old s0 bp parent s c st s1 new id} (hO : OpenPost src bp parent s c (some id, st) s1)
    (hw : Win src A old s0 s new) (hallc : ∀ b ∈ new, b.bp.isContainer = true) (habp : A bp) :
    Mid src A old s0 id bp s1 new ∧ id = s.nodes.length ∧ s1.pc.opened = s.pc.opened ∧
    (∀ j, j < s.nodes.length → nd s1 j = nd s j) ∧ (nd s1 id).parent = none ∧ s1.nodes.length = s.nodes.length + 1 ∧
    (st.requirePara = true → ∃ lb, s.pc.opened.getLast? = some lb ∧ (nd s lb.node).parent = some parent ∧
        lb.bp = .paragraph ∧ new = [] ∧ s.pc.opened = old) := by
  obtain ⟨hid, n, hn, hkind, hnok, hpar, hpl, hsl⟩ := hO.newNode id rfl
  have hext : Ext s s1 := Ext.of_append hn
  have hnd : ∀ j, j < s.nodes.length → nd s1 j = nd s j := fun j hj => nd_of_append_lt hn hj
  have hndid : nd s1 id = n := by
    rw [hid]; simp only [nd, hn]; exact getD_length_append _ _ _
  have hlen : s1.nodes.length = s.nodes.length + 1 := by rw [hn]; simp
  have hnodes : NodesOK src s1 := hw.nodes.of_append hn hnok
  -- the last opened block, when the setext parser answered
  have hsetext : bp = .setext → ∃ lb, s.pc.opened.getLast? = some lb ∧ (nd s lb.node).kind = .paragraph ∧
      (nd s lb.node).parent = some parent ∧ s1.pc.tmpPara = some lb.node ∧ lb.bp = .paragraph ∧ new = [] ∧ s.pc.opened = old := by
    intro hbp
    rcases hO.tmp with ⟨_, _, lb, h1, h2, h3, h4⟩ | ⟨h, _⟩
    · have hmem : lb ∈ s.pc.opened := List.mem_of_getLast? h1
      have hk := (hw.blocks lb hmem).1.kind
      rw [h2] at hk
      have hlbp := kind_paragraph hk.symm
      have hnew : new = [] := by
        cases hne : new.getLast? with
        | none => exact List.getLast?_eq_none_iff.1 hne
        | some x =>
          exfalso
          have hx : x ∈ new := List.mem_of_getLast? hne
          have : s.pc.opened.getLast? = some x := by
            rcases hw.shape with h | ⟨_, _, h⟩ <;> rw [h, List.getLast?_append, hne] <;> rfl
          rw [h1] at this; cases this
          have := hallc lb hx
          rw [hlbp] at this; cases this
      have hop : s.pc.opened = old := by
        rcases hw.shape with h | ⟨_, h, _⟩
        · rw [h, hnew, List.append_nil]
        · exact absurd hnew h
      exact ⟨lb, h1, h2, h3, h4, hlbp, hnew, hop⟩
    · rcases h with h | h
      · exact absurd hbp h
      · cases h
  have htmpS : bp = .setext → s1.pc.tmpPara.isSome = true := fun hbp => by
    obtain ⟨lb, _, _, _, h4, _⟩ := hsetext hbp; rw [h4]; rfl
  have htmpO : bp ≠ .setext → s1.pc.tmpPara = s.pc.tmpPara := fun hbp => by
    rcases hO.tmp with ⟨h, _⟩ | ⟨_, h⟩
    · exact absurd h hbp
    · exact h
  have hfenS : bp = .fenced → ∃ f, s1.pc.fence = some f ∧ f.node = id ∧ 3 ≤ f.length ∧ 0 ≤ f.indent := fun hbp => by
    rcases hO.fence with ⟨_, id', f, h1, h2, h3, h4⟩ | ⟨h, _⟩
    · cases h1; exact ⟨f, h2, h3, h4⟩
    · rcases h with h | h
      · exact absurd hbp h
      · cases h
  have hfenO : bp ≠ .fenced → s1.pc.fence = s.pc.fence := fun hbp => by
    rcases hO.fence with ⟨h, _⟩ | ⟨_, h⟩
    · exact absurd h hbp
    · exact h
  have hkeys : KeysOK s1 := by
    constructor
    · intro t ht
      by_cases hbp : bp = .setext
      · obtain ⟨lb, h1, h2, _, h4, h5, _⟩ := hsetext hbp
        rw [h4] at ht; cases ht
        have hmem : lb ∈ s.pc.opened := List.mem_of_getLast? h1
        have hb := (hw.blocks lb hmem).1
        exact ⟨by rw [hlen]; exact Nat.lt_succ_of_lt hb.lt, by rw [hnd _ hb.lt]; exact h2, by rw [hnd _ hb.lt]; exact hb.para h5⟩
      · rw [htmpO hbp] at ht
        obtain ⟨a, b, c⟩ := hw.keys.tmp t ht
        exact ⟨by rw [hlen]; exact Nat.lt_succ_of_lt a, by rw [hnd _ a]; exact b, by rw [hnd _ a]; exact c⟩
    · intro f hf
      by_cases hbp : bp = .fenced
      · obtain ⟨f', h1, h2, h3, h4⟩ := hfenS hbp
        rw [h1] at hf; cases hf
        exact ⟨h3, h4, by rw [h2, hlen, hid]; exact Nat.lt_succ_self _⟩
      · rw [hfenO hbp] at hf
        obtain ⟨a, b, c⟩ := hw.keys.fence f hf
        exact ⟨a, b, by rw [hlen]; exact Nat.lt_succ_of_lt c⟩
  have hblocks : ∀ b ∈ s1.pc.opened, BlockOK s1 b ∧ A b.bp := by
    intro b hb
    rw [hO.opened] at hb
    have := hw.blocks b hb
    refine ⟨this.1.ext hext ?_ ?_, this.2⟩
    · intro hp
      by_cases hbp : bp = .setext
      · exact htmpS hbp
      · rw [htmpO hbp]; exact (this.1.setext hp).2
    · intro hp
      by_cases hbp : bp = .fenced
      · obtain ⟨f, h1, _⟩ := hfenS hbp; rw [h1]; rfl
      · rw [hfenO hbp]; exact this.1.fenced hp
  have hnb : BlockOK s1 ⟨id, bp⟩ := by
    refine ⟨by simp only; rw [hlen, hid]; exact Nat.lt_succ_self _, by simp only; rw [hndid]; exact hkind, ?_, ?_, ?_⟩
    · intro hp; simp only at hp ⊢; rw [hndid]; exact hpl hp
    · intro hp; simp only at hp ⊢; rw [hndid]; exact ⟨hsl hp, htmpS hp⟩
    · intro hp; simp only at hp ⊢; obtain ⟨f, h1, _⟩ := hfenS hp; rw [h1]; rfl
  refine ⟨⟨hnodes, hkeys, hw.ext.trans hext, ?_, hblocks, hnb, habp, ?_, ?_, ?_⟩, hid, hO.opened, hnd, by rw [hndid]; exact hpar, hlen, ?_⟩
  · rw [hO.opened]
    rcases hw.shape with h | ⟨h1, _, h2⟩
    · exact .inl h
    · exact .inr ⟨h1, h2⟩
  · rw [hid]; exact hw.ext.len
  · intro hp; obtain ⟨f, h1, h2, _⟩ := hfenS hp; exact ⟨f, h1, h2⟩
  · intro hp b hb
    obtain ⟨lb, h1, _, _, _, h5, _, h7⟩ := hsetext hp
    rcases mem_dropLast_or_last old b hb with h | h
    · intro hh; have := hw.leafyOld b h; rw [hh] at this; cases this
    · rw [h7] at h1; rw [h1] at h; cases h; rw [h5]; simp
  · intro hr
    obtain ⟨hbp, _⟩ := hO.req hr
    obtain ⟨lb, h1, _, h3, _, h5, h6, h7⟩ := hsetext hbp
    exact ⟨lb, h1, h3, h5, h6, h7⟩

section tp
variable {src : Bytes} {A : BP → Prop} (sp : Specs src A)
include sp

omit sp in
theorem Win.congr {old s0 s s' new} (h : Win src A old s0 s new) (hn : s'.nodes = s.nodes)
    (ho : s'.pc.opened = s.pc.opened) (ht : s'.pc.tmpPara = s.pc.tmpPara) (hf : s'.pc.fence = s.pc.fence) :
    Win src A old s0 s' new := by
  have hext : Ext s s' := Ext.of_nodes_eq hn
  refine ⟨fun n hm => h.nodes n (by rw [← hn]; exact hm), h.keys.ext hext (.inl ht) (.inl hf), h.ext.trans hext,
    by rw [ho]; exact h.shape, ?_, h.oldlt, h.leafyOld, h.fresh, ?_⟩
  · intro b hb
    rw [ho] at hb
    have := h.blocks b hb
    exact ⟨this.1.ext hext (fun hp => by rw [ht]; exact (this.1.setext hp).2) (fun hp => by rw [hf]; exact this.1.fenced hp), this.2⟩
  · intro lb hlb
    have := h.lastParent lb hlb
    simpa only [nd, hn] using this

omit sp in
theorem mem_view_src {c : RCur} {ch : UInt8} (h : ch ∈ (RCur.view src c).getD []) : ch ∈ src ∨ ch = 32 := by
  unfold RCur.view at h
  split at h
  · simp only [Option.getD_some, List.mem_append] at h
    rcases h with h | h
    · right; unfold spaces at h; exact (List.mem_replicate.1 h).2
    · left; unfold sub at h; exact List.mem_of_mem_drop (List.mem_of_mem_take h)
  · simp at h

/-- the state invariant at line boundaries -/
structure Stable (src : Bytes) (A : BP → Prop) (s : St) : Prop where
  nodes : NodesOK src s
  keys : KeysOK s
  blocks : ∀ b ∈ s.pc.opened, BlockOK s b ∧ A b.bp
  leafy : Leafy s.pc.opened

omit sp in
theorem leafy_append {pre new : List Block} (hp : ∀ b ∈ pre, b.bp.isContainer = true) (hn : Leafy new) :
    Leafy (pre ++ new) := by
  intro b hb
  cases new with
  | nil => rw [List.append_nil] at hb; exact hp b (List.dropLast_subset _ hb)
  | cons x xs =>
    rw [List.dropLast_append_of_ne_nil (by simp)] at hb
    rcases List.mem_append.1 hb with h | h
    · exact hp b h
    · exact hn b h

omit sp in
theorem leafy_split {pre : List Block} {be : Block} {rest : List Block} (h : Leafy (pre ++ be :: rest)) :
    (∀ b ∈ pre, b.bp.isContainer = true) ∧ (rest ≠ [] → be.bp.isContainer = true) ∧ Leafy (be :: rest) ∧
    (∀ b ∈ (be :: rest).dropLast, b.bp.isContainer = true) := by
  have e : (pre ++ be :: rest).dropLast = pre ++ (be :: rest).dropLast := List.dropLast_append_of_ne_nil (by simp)
  refine ⟨fun b hb => h b (by rw [e]; exact List.mem_append_left _ hb), ?_, fun b hb => h b (by rw [e]; exact List.mem_append_right _ hb),
    fun b hb => h b (by rw [e]; exact List.mem_append_right _ hb)⟩
  intro hr
  refine h be (by rw [e]; refine List.mem_append_right _ ?_; cases rest with
    | nil => exact absurd rfl hr
    | cons r rs => simp [List.dropLast])

omit sp in
theorem RIa.source {r : Reader} {c : RCur} (h : RIa src r c) : r.source = src := by
  obtain ⟨r0, h0, e⟩ := h
  have e1 : r.advanceLine.source = r.source := by unfold Reader.advanceLine; simp only; split <;> rfl
  have e2 : r0.advanceLine.source = r0.source := by unfold Reader.advanceLine; simp only; split <;> rfl
  rw [← e1, e, e2, h0.source]

omit sp in
theorem advanceLine_eq (s : St) : advanceLine s = .ok ((), { s with r := s.r.advanceLine }) := rfl

omit sp in
theorem padOK_advanceLine (c : RCur) : PadOK (RCur.advanceLine src c) := by
  intro h; simp [RCur.advanceLine] at h

omit sp in
/-- `AdvanceLine` after a pass over the opened blocks -/
theorem advanceLine_ria {r : Reader} {c : RCur} (h : RIa src r c) : RI src r.advanceLine (RCur.advanceLine src c) := by
  obtain ⟨r0, h0, e⟩ := h
  rw [e]; exact ri_advanceLine h0

omit sp in
theorem skipBlankLines_ri : ∀ (fuel : Nat) (lines : Int) (r : Reader) (c : RCur), RI src r c → PadOK c →
    (∃ x r' c', skipBlankLines readerOps fuel lines r = .ok (x, r') ∧ RI src r' c' ∧ PadOK c') ∨
    skipBlankLines readerOps fuel lines r = .error .loop := by
  intro fuel
  induction fuel with
  | zero => intro _ _ _ _ _; exact .inr rfl
  | succ fuel ih =>
    intro lines r c hri hpad
    obtain ⟨r1, e1, h1⟩ := ri_peekLine hri
    unfold skipBlankLines
    simp only [readerOps, e1, bind, Except.bind, pure, Except.pure]
    cases hv : RCur.view src c with
    | none => exact .inl ⟨_, _, c, rfl, h1, hpad⟩
    | some l =>
      simp only []
      by_cases hb : isBlank l = true
      · rw [if_pos hb]
        exact ih (lines + 1) r1.advanceLine _ (ri_advanceLine h1) (padOK_advanceLine c)
      · rw [if_neg hb]
        exact .inl ⟨_, _, c, rfl, h1, hpad⟩

end tp

end GM.Blocks
