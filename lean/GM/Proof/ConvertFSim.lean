/-
  GM.Proof.ConvertFSim — with the footnote block parser NOT registered (`on = false`) the block driver of GM.Model.ConvertF,
  erased to `M`, is the block driver with paragraph transformers (GM.Model.Blocks.DriverT), and the footnote state stays empty.

  `FSim m m0`: from every two-layer state `({}, s)` the `MF` program `m` and the `M` program `m0` agree: when `m` ends normally
  so does `m0`, with the same value and the same `St`, and the footnote state is still `{}`; when `m` ends in a panic, `m0`
  ends in the same panic. `FSim` is closed under the `do` constructs (`fsim_calc`); the driver is simulated by the walk of
  GM.Proof.BlocksDriverGSim, the footnote hooks with no Footnote in the state being the plain operations.
-/
import GM.Proof.BlocksDriverGSim

namespace GM.ConvertF
open GM GM.Text GM.Blocks GM.Convert

/-- the footnote layer is empty -/
def FS.empty (f : FS) : Prop := f.list = none ∧ f.refs = []

theorem FS.empty_default : FS.empty {} := ⟨rfl, rfl⟩

theorem FS.empty_eq {f : FS} (h : f.empty) : f = {} := by
  cases f; simp only [FS.empty] at h; obtain ⟨h1, h2⟩ := h; subst h1; subst h2; rfl

def RSimF {α : Type} (x : Except Panic ((α × FS) × St)) (y : Except Panic (α × St)) : Prop :=
  match x with
  | .ok ((a, f'), s') => f'.empty ∧ y = .ok (a, s')
  | .error e => y = .error e

structure FSim {α : Type} (m : MF α) (m0 : M α) : Prop where
  h : ∀ f s, FS.empty f → RSimF (m f s) (m0 s)

theorem m_bind_apply' {α β} (m : M α) (k : α → M β) (s : St) :
    (m >>= k) s = match m s with
      | .ok (a, s') => k a s'
      | .error e => .error e := by
  simp only [bind, StateT.bind, Except.bind]
  cases m s with
  | error e => rfl
  | ok x => rfl

theorem upF_apply {α} (x : M α) (f : FS) (s : St) :
    (up x) f s = match x s with
      | .ok (a, s') => .ok ((a, f), s')
      | .error e => .error e := by
  rw [show up x f s = StateT.lift x f s from rfl, Hoare.lift_apply₂]; cases x s <;> rfl

theorem FSim.up {α} (x : M α) : FSim (up x) x := by
  constructor
  intro f s hf
  rw [upF_apply]
  cases x s with
  | error e => exact rfl
  | ok p => exact ⟨hf, rfl⟩

theorem FSim.pure {α} (a : α) : FSim (Pure.pure a : MF α) (Pure.pure a : M α) :=
  ⟨fun _ _ hf => ⟨hf, rfl⟩⟩

theorem FSim.throw {α} (e : Panic) : FSim (throw e : MF α) (throw e : M α) :=
  ⟨fun _ _ _ => rfl⟩

theorem FSim.bind {α β} {m : MF α} {m0 : M α} {k : α → MF β} {k0 : α → M β}
    (hm : FSim m m0) (hk : ∀ a, FSim (k a) (k0 a)) : FSim (m >>= k) (m0 >>= k0) := by
  constructor
  intro f s hf
  rw [Hoare.bind_apply₂, m_bind_apply']
  have h1 := hm.h f s hf
  cases hx : m f s with
  | error e =>
    rw [hx] at h1
    simp only [RSimF] at h1
    rw [h1]; exact rfl
  | ok p =>
    obtain ⟨⟨a, f'⟩, s'⟩ := p
    rw [hx] at h1
    obtain ⟨h2, h3⟩ := h1
    rw [h3]
    exact (hk a).h f' s' h2

/-! ### the dispatch points while no Footnote exists -/

theorem bpContinueF_sim (bp : BP) (node : Nat) : FSim (bpContinueF bp node) (bpContinue bp node) := by
  constructor
  intro f s hf
  have hf' := FS.empty_eq hf
  subst hf'
  unfold bpContinueF
  rw [Hoare.bind_apply₂]
  simp only [getF, StateT.get, Pure.pure, Except.pure, FS.isFn, List.lookup, Option.isSome, Bool.false_eq_true, if_false]
  exact (FSim.up (bpContinue bp node)).h {} s FS.empty_default

theorem bpCloseF_sim (bp : BP) (node : Nat) : FSim (bpCloseF bp node) (bpClose bp node) := by
  constructor
  intro f s hf
  have hf' := FS.empty_eq hf
  subst hf'
  unfold bpCloseF
  rw [Hoare.bind_apply₂]
  simp only [getF, StateT.get, Pure.pure, Except.pure, FS.isFn, List.lookup, Option.isSome, Bool.false_eq_true, if_false]
  exact (FSim.up (bpClose bp node)).h {} s FS.empty_default

theorem bpOpenF_core_sim (bp : BP) (parent : Nat) : FSim (bpOpenF (.core bp) parent) (bpOpen bp parent) :=
  FSim.up _

/-! ### the driver -/

theorem fsim_calc : SimCalc (fun _ _ => True) (fun _ m m0 => FSim m m0) :=
  ⟨fun x _ => FSim.up x, FSim.pure, FSim.throw, FSim.bind⟩

theorem triggeredF_off (c : UInt8) : (triggeredF false c).getD freeParsersF = ((triggered c).getD freeParsers).map .core := by
  unfold triggeredF freeParsersF
  simp only [Bool.false_and, Bool.false_eq_true, if_false]
  cases triggered c <;> rfl

theorem hookSimF_off (pts : List PT) : HookSim (fun _ m m0 => FSim m m0) (hooksF false pts) bpClose pts BPF.core :=
  ⟨fun _ => rfl, fun _ => rfl, fun _ => rfl, bpOpenF_core_sim, bpContinueF_sim, bpCloseF_sim, triggeredF_off, rfl,
   fun _ => FSim.up _⟩

/-- `closeBlocksF`, `requireParaF`, `tryParsersF` do not depend on `on` -/
theorem closeBlocksF_sim (pts : List PT) (frm to : Int) : FSim (closeBlocksF pts frm to) (closeBlocksT pts frm to) := by
  rw [closeBlocksF_eqG false pts, closeBlocksT_eqC]
  exact closeBlocksG_sim fsim_calc (hookSimF_off pts) (fun _ _ => trivial) frm to

theorem requireParaF_sim (pts : List PT) (parent : Nat) (last : Option Nat) (lastBlock : Option Block) :
    FSim (requireParaF pts parent last lastBlock) (requireParaT pts parent last lastBlock) := by
  rw [requireParaF_eqG false pts, requireParaT_eqC]
  exact requireParaG_sim fsim_calc (hookSimF_off pts) (fun _ _ => trivial) parent last lastBlock

theorem tryParsersF_sim (pts : List PT) (parent : Nat) (blankLine continuable : Bool) (w : Int) (bps : List BP)
    (result : OpenResult) (lastBlock : Option Block) :
    FSim (tryParsersF pts parent blankLine continuable w (bps.map .core) result lastBlock)
      (tryParsersT pts parent blankLine continuable w bps result lastBlock) := by
  rw [tryParsersF_eqG false pts, tryParsersT_eqC]
  exact tryParsersG_sim fsim_calc (hookSimF_off pts) (fun _ _ => trivial) parent blankLine continuable w bps result lastBlock

theorem parseBlocksF_sim (pts : List PT) (parent : Nat) : FSim (parseBlocksF false pts parent) (parseBlocksT pts parent) := by
  rw [parseBlocksF_eqG, parseBlocksT_eqC]
  exact parseBlocksG_simH fsim_calc (hookSimF_off pts) (fun _ _ => trivial) parent

/-- with the block parser not registered the block phase is GM.Blocks.runT, and no Footnote / FootnoteList exists -/
theorem runF_off (pts : List PT) (src : Bytes) :
    runF false pts src = (runT pts src).map fun st => ({}, st) := by
  have := (parseBlocksF_sim pts 0).h {} (initSt src) FS.empty_default
  unfold RSimF at this
  unfold runF runT
  cases hx : parseBlocksF false pts 0 {} (initSt src) with
  | error e =>
    rw [hx] at this
    simp only [Except.map]
    rw [this]
  | ok p =>
    obtain ⟨⟨a, f'⟩, s'⟩ := p
    rw [hx] at this
    simp only [Except.map]
    rw [this.2, FS.empty_eq this.1]

end GM.ConvertF
