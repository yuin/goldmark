/-
  GM.Proof.BlocksVT — The monitored driver `runV` of GM.Proof.ConvertHV: it is `runC bpCloseV` (`closeLoopV_eqC … runV_eqC`), the monitor `valueCheck` is a no-op in every state
  with `NodesOK` (`bpCloseV_okl`, `bpCloseV_ok_inv`), and `runV` refines `runT`: same normal ends, and a panic of `runV` is `runT`'s or the monitor's own
  (`runV_error_pre`).
-/
import GM.Proof.ConvertHV
import GM.Proof.BlocksDriverC
import GM.Proof.BlocksInv
import GM.Proof.ConvertHSim
import GM.Proof.BlocksDriverGSim
import GM.Proof.BlocksT

section EqC
namespace GM.Blocks
open GM GM.Text

section eqs
variable (pts : List PT)

theorem closeLoopV_eqC (blocks : List Block) (to : Int) (k : Nat) :
    closeLoopV pts blocks to k = closeLoopC bpCloseV pts blocks to k := by
  induction k with
  | zero => rfl
  | succ k ih => simp only [closeLoopV, closeLoopC, ih]

theorem closeBlocksV_eqC (frm to : Int) : closeBlocksV pts frm to = closeBlocksC bpCloseV pts frm to := by
  simp only [closeBlocksV, closeBlocksC, closeLoopV_eqC]

theorem requireParaV_eqC (parent : Nat) (last : Option Nat) (lastBlock : Option Block) :
    requireParaV pts parent last lastBlock = requireParaC bpCloseV pts parent last lastBlock := rfl

theorem tryParsersV_eqC (parent : Nat) (blankLine continuable : Bool) (w : Int) (bps : List BP) (result : OpenResult)
    (lastBlock : Option Block) :
    tryParsersV pts parent blankLine continuable w bps result lastBlock =
      tryParsersC bpCloseV pts parent blankLine continuable w bps result lastBlock := by
  induction bps generalizing result lastBlock with
  | nil => rfl
  | cons bp bps ih =>
    simp only [tryParsersV, tryParsersC, ih, requireParaV_eqC, closeBlocksV_eqC]
    rfl   -- the two sides differ in the auxiliary matcher each definition was compiled to

theorem retryStepV_eqC (blankLine tdone continuable : Bool) (parent : Nat) (w : Int) (bps : List BP) (result : OpenResult)
    (lastBlock : Option Block) (again : Bool → Bool → Nat → OpenResult → Option Block → M OpenResult) :
    retryStepV pts blankLine tdone continuable parent w bps result lastBlock again =
      retryStepC bpCloseV pts blankLine tdone continuable parent w bps result lastBlock again := by
  simp only [retryStepV, retryStepC, tryParsersV_eqC]
  rfl

theorem openBlocksLoopV_eqC (blankLine : Bool) (fuel : Nat) :
    openBlocksLoopV pts blankLine fuel = openBlocksLoopC bpCloseV pts blankLine fuel := by
  induction fuel with
  | zero => rfl
  | succ fuel ih => funext tdone continuable parent result lastBlock; simp only [openBlocksLoopV, openBlocksLoopC, retryStepV_eqC, ih]

theorem openBlocksV_eqC (parent : Nat) (blankLine : Bool) :
    openBlocksV pts parent blankLine = openBlocksC bpCloseV pts parent blankLine := by
  simp only [openBlocksV, openBlocksC, openBlocksLoopV_eqC]
  rfl

theorem lineLoopV_eqC (parent : Nat) (openedBlocks : List Block) (lastIndex : Int) (rest : List Block) (i : Int)
    (blankLines : List LineStat) :
    lineLoopV pts parent openedBlocks lastIndex rest i blankLines =
      lineLoopC bpCloseV pts parent openedBlocks lastIndex rest i blankLines := by
  induction rest generalizing i blankLines with
  | nil => rfl
  | cons be rest ih =>
    simp only [lineLoopV, lineLoopC, ih, openBlocksV_eqC, closeBlocksV_eqC]
    rfl

theorem linesLoopV_eqC (parent fuel : Nat) (blankLines : List LineStat) :
    linesLoopV pts parent fuel blankLines = linesLoopC bpCloseV pts parent fuel blankLines := by
  induction fuel generalizing blankLines with
  | zero => rfl
  | succ fuel ih =>
    simp only [linesLoopV, linesLoopC, ih, lineLoopV_eqC]
    rfl

theorem blocksLoopV_eqC (parent fuel : Nat) (blankLines : List LineStat) :
    blocksLoopV pts parent fuel blankLines = blocksLoopC bpCloseV pts parent fuel blankLines := by
  induction fuel generalizing blankLines with
  | zero => rfl
  | succ fuel ih => simp only [blocksLoopV, blocksLoopC, ih, linesLoopV_eqC, openBlocksV_eqC]

theorem runV_eqC (src : Bytes) : runV pts src = runC bpCloseV pts src := by
  simp only [runV, runC, parseBlocksV, parseBlocksC, blocksLoopV_eqC]

end eqs

theorem parseBlocksV_eqC (pts : List PT) (parent : Nat) : parseBlocksV pts parent = parseBlocksC bpCloseV pts parent := by
  simp only [parseBlocksV, parseBlocksC, blocksLoopV_eqC]

end GM.Blocks
end EqC

section MonitorNoOp
/-
  The monitor `valueCheck` behind the Close of the heading parsers (GM.Proof.ConvertHV) is a no-op in
  every state with `NodesOK`; so `bpCloseV` has every `OKL` contract `bpClose` has whose postcondition gives `NodesOK` and
  keeps the source (`bpCloseV_okl`), and a normal end of `bpCloseV` is a normal end of `bpClose` in the same state
  (`bpCloseV_ok_inv`).
-/

namespace GM.Blocks
open GM GM.Text GM.Spec GM.Proof.Reader

theorem value_ok_of_segOK {src : Bytes} {t : Segment} (h : SegOK src t) : ∃ v, t.value src = .ok v := by
  obtain ⟨h0, h1, h2, h3⟩ := h
  unfold Segment.value
  have hs : sliceB src t.start t.stop = .ok (sub src t.start.toNat t.stop.toNat) := by
    unfold sliceB; simp [h0, h1, h2]
  split
  · simp only [hs, bind, Except.bind]
    split <;> exact ⟨_, rfl⟩
  · have a1 : ¬ (t.padding + t.stop - t.start + 1 < 0) := by omega
    have a2 : ¬ (t.padding < 0) := by omega
    simp only [a1, a2, if_false, hs, bind, Except.bind, pure, Except.pure]
    split <;> exact ⟨_, rfl⟩

/-- the outcome of the monitor, computed -/
theorem valueCheck_eq (node : Nat) (s : St) :
    valueCheck node s = match (s.nodes.getD node default).lines.getLast? with
      | none => .ok ((), s)
      | some seg => match seg.value s.r.source with
        | .ok _ => .ok ((), s)
        | .error e => .error e := by
  unfold valueCheck
  have e0 : getNode node s = .ok (s.nodes.getD node default, s) := rfl
  rw [GM.ConvertH.m_bind_apply, e0]
  dsimp only
  cases hl : (s.nodes.getD node default).lines.getLast? with
  | none => rfl
  | some seg =>
    dsimp only
    have e1 : source s = .ok (s.r.source, s) := rfl
    rw [GM.ConvertH.m_bind_apply, e1]
    dsimp only
    rw [GM.ConvertH.m_bind_apply]
    cases hv : seg.value s.r.source with
    | error x => simp only [liftE, hv, Except.map]
    | ok v => simp only [liftE, hv, Except.map]; rfl

theorem valueCheck_ok {src : Bytes} (node : Nat) (s : St) (hn : NodesOK src s) (hsrc : s.r.source = src) :
    valueCheck node s = .ok ((), s) := by
  rw [valueCheck_eq]
  cases hl : (s.nodes.getD node default).lines.getLast? with
  | none => rfl
  | some seg =>
    have hmem : seg ∈ (s.nodes.getD node default).lines := List.mem_of_getLast? hl
    have hok : SegOK src seg := by
      by_cases hv : node < s.nodes.length
      · have : s.nodes.getD node default ∈ s.nodes := by
          rw [List.getD_eq_getElem?_getD, List.getElem?_eq_getElem hv]; simp
        exact (hn _ this).lines seg hmem
      · have : s.nodes.getD node default = default := by
          simp [List.getD_eq_getElem?_getD, List.getElem?_eq_none (Nat.le_of_not_lt hv)]
        rw [this] at hmem; cases hmem
    obtain ⟨v, hv⟩ := value_ok_of_segOK hok
    simp only [hsrc, hv]

theorem valueCheck_same (node : Nat) (s s' : St) (h : valueCheck node s = .ok ((), s')) : s' = s := by
  rw [valueCheck_eq] at h
  cases hl : (s.nodes.getD node default).lines.getLast? with
  | none => simp only [hl] at h; cases h; rfl
  | some seg =>
    simp only [hl] at h
    cases hv : seg.value s.r.source with
    | error x => simp only [hv] at h; cases h
    | ok v => simp only [hv] at h; cases h; rfl

theorem bpCloseV_ok_inv (bp : BP) (node : Nat) (s s' : St) (h : bpCloseV bp node s = .ok ((), s')) :
    bpClose bp node s = .ok ((), s') := by
  unfold bpCloseV at h
  simp only [bind, StateT.bind, Except.bind] at h
  cases hc : bpClose bp node s with
  | error e => rw [hc] at h; cases h
  | ok p =>
    obtain ⟨⟨⟩, s1⟩ := p
    rw [hc] at h
    simp only at h
    split at h
    · rw [valueCheck_same node s1 s' h]
    · cases h; rfl

theorem bpCloseV_okl {src : Bytes} {P : Unit → St → Prop} {bp : BP} {node : Nat} {s : St}
    (hP : ∀ a s', P a s' → NodesOK src s' ∧ s'.r.source = src) (h : OKL P (bpClose bp node s)) :
    OKL P (bpCloseV bp node s) := by
  rcases h with ⟨a, s', e, hp⟩ | e
  · left
    refine ⟨a, s', ?_, hp⟩
    unfold bpCloseV
    simp only [bind, StateT.bind, Except.bind, e]
    split
    · exact valueCheck_ok node s' (hP a s' hp).1 (hP a s' hp).2
    · rfl
  · right
    unfold bpCloseV
    simp only [bind, StateT.bind, Except.bind, e]

end GM.Blocks
end MonitorNoOp

section RefinesT
/-
  The monitored driver `runV` refines `runT`: when `runV` ends normally so does `runT`, in the same state;
  when `runV` ends in a panic, `runT` ends in the same panic, or the panic is the monitor's (`Segment.Value`: `slice` or
  `explicit`) — in particular never `pre` and never `loop` (`runV_error_pre`).
-/

namespace GM.Blocks
open GM GM.Text

/-- the panics of `Segment.Value` -/
def VP (e : Panic) : Prop := e = .slice ∨ e = .explicit

def RMSim {α : Type} (x y : Except Panic (α × St)) : Prop :=
  match x with
  | .ok (a, s') => y = .ok (a, s')
  | .error e => y = .error e ∨ VP e

structure MSim {α : Type} (m m0 : M α) : Prop where
  h : ∀ s, RMSim (m s) (m0 s)

theorem MSim.rfl' {α} (m : M α) : MSim m m := ⟨fun s => by
  unfold RMSim; cases m s with
  | error e => exact Or.inl rfl
  | ok p => rfl⟩

theorem MSim.bind {α β} {m m0 : M α} {f f0 : α → M β} (hm : MSim m m0) (hf : ∀ a, MSim (f a) (f0 a)) :
    MSim (m >>= f) (m0 >>= f0) := by
  constructor
  intro s
  have h1 := hm.h s
  unfold RMSim at h1 ⊢
  rw [GM.ConvertH.m_bind_apply, GM.ConvertH.m_bind_apply]
  cases hx : m s with
  | error e =>
    rw [hx] at h1
    rcases h1 with h1 | h1
    · rw [h1]; exact Or.inl rfl
    · exact Or.inr h1
  | ok p =>
    obtain ⟨a, s'⟩ := p
    rw [hx] at h1
    rw [h1]
    exact (hf a).h s'

def MHook : Prop := ∀ bp node, MSim (bpCloseV bp node) (bpClose bp node)

theorem value_vp (t : Segment) (buf : Bytes) (e : Panic) (h : t.value buf = .error e) : VP e := by
  unfold Segment.value at h
  have hs : ∀ x, sliceB buf t.start t.stop = .error x → x = .slice := by
    intro x hx; unfold sliceB at hx; split at hx <;> cases hx; rfl
  split at h
  · cases hsl : sliceB buf t.start t.stop with
    | error x => rw [hsl] at h; simp only [bind, Except.bind] at h; cases h; exact Or.inl (hs _ hsl)
    | ok r => rw [hsl] at h; simp only [bind, Except.bind] at h; split at h <;> cases h
  · simp only [bind, Except.bind, throw, throwThe, MonadExceptOf.throw] at h
    split at h
    · cases h; exact Or.inr rfl
    · simp only [pure, Except.pure] at h
      split at h
      · cases h; exact Or.inr rfl
      · cases hsl : sliceB buf t.start t.stop with
        | error x => rw [hsl] at h; simp only at h; cases h; exact Or.inl (hs _ hsl)
        | ok r => rw [hsl] at h; simp only at h; split at h <;> cases h

theorem mhook : MHook := by
  intro bp node
  constructor
  intro s
  unfold bpCloseV
  rw [GM.ConvertH.m_bind_apply]
  cases hc : bpClose bp node s with
  | error e => exact Or.inl rfl
  | ok p =>
    obtain ⟨⟨⟩, s1⟩ := p
    dsimp only
    cases hp : GM.ConvertH.BP.isHeadingParser bp with
    | false => simp only [Bool.false_eq_true, if_false]; rfl
    | true =>
      simp only [if_true]
      rw [valueCheck_eq]
      cases hl : (s1.nodes.getD node default).lines.getLast? with
      | none => rfl
      | some seg =>
        dsimp only
        cases hv : seg.value s1.r.source with
        | error x => exact Or.inr (value_vp _ _ _ hv)
        | ok v => rfl


/-- `runV` and `runT` are `runC bpCloseV` and `runC bpClose`; the first is the driver with hooks at `σ = Unit` read back in `M` -/
theorem msim_calc : SimCalc (σ := Unit) (fun _ _ => True) (fun _ m m0 => MSim (lower m) m0) :=
  ⟨fun x _ => by rw [lower_up]; exact MSim.rfl' x, fun a => MSim.rfl' (pure a), fun e => MSim.rfl' (throw e),
   fun hm hf => by rw [lower_bind]; exact MSim.bind hm hf⟩

theorem parseBlocksV_msim (hook : MHook) (pts : List PT) (parent : Nat) :
    MSim (parseBlocksV pts parent) (parseBlocksT pts parent) := by
  rw [parseBlocksV_eqC, parseBlocksT_eqC, ← lower_parseBlocksG bpCloseV]
  exact parseBlocksG_simH msim_calc (hookSimU msim_calc (fun bp n => by rw [lower_up]; exact hook bp n)
    fun n => by rw [lower_up]; exact MSim.rfl' _) (fun _ _ => trivial) parent

theorem runV_refines (pts : List PT) (src : Bytes) :
    match runV pts src with
    | .ok st => runT pts src = .ok st
    | .error e => runT pts src = .error e ∨ VP e := by
  have := (parseBlocksV_msim mhook pts 0).h (initSt src)
  unfold RMSim at this
  unfold runV runT
  cases hx : parseBlocksV pts 0 (initSt src) with
  | error e =>
    rw [hx] at this
    simp only [Except.map]
    rcases this with h | h
    · rw [h]; exact Or.inl rfl
    · exact Or.inr h
  | ok p =>
    obtain ⟨a, s'⟩ := p
    rw [hx] at this
    simp only [Except.map]
    rw [this]

theorem runV_error_pre (pts : List PT) (src : Bytes) (h : runV pts src = .error .pre) : runT pts src = .error .pre := by
  have := runV_refines pts src
  rw [h] at this
  rcases this with h1 | h1
  · exact h1
  · rcases h1 with h1 | h1 <;> cases h1

/-- no loop of the monitored driver exhausts its fuel: `loop` is not a panic of `Segment.Value`, and `runT` does not answer it -/
theorem runV_noLoop {pts : List PT} (hp : PTsOK pts) (src : Bytes) : runV pts src ≠ .error .loop := by
  intro h
  have := runV_refines pts src
  rw [h] at this
  rcases this with h1 | h1
  · exact runT_noLoop hp src h1
  · rcases h1 with h1 | h1 <;> cases h1

end GM.Blocks
end RefinesT
