/-
  GM.Proof.ShiftSimXHcl — where the six parsers of `Cov6` (thematic, code, atx, blockquote, html, paragraph) leave the CURSOR of run A.
  Only the block quote parser answers `hasChildren`. `Mv b c c'` says what a `Continue` (that answers Close, or goes on as a leaf) and a
  block quote `Open` / `Continue` do to the cursor: it stays; or it stops in front of a blank rest of a line; or it has passed quote
  bytes only, on a line that is not blank. Each function is walked once for `Mv` (`mv_blockquoteProcess`, `mv_continue`); the two line
  predicates the drivers thread are what `Mv` transports: `HasLine` (`MvTo.hasLine`: `strictO6`, `strictC6`, `continue_close_hasLine`,
  `continue_leaf_hasLine`) and the trigger-safe `HL` of the positional class (`MvTo.hl`: `strictO6'`, `strictC6'`, `hcl6'`,
  `hl_continue6`). A code block that goes on is the exception: `preserveLeadingTab` may stop short of the line feed, so there only
  `HasLine` is kept (`xh_codeContinue_kl`).
-/
import GM.Proof.ShiftSimXParsers
import GM.Proof.ShiftSimXSafe
import GM.Proof.ShiftSimXKeys
import GM.Proof.BlocksLeaf

namespace GM.Blocks.Xs
open GM GM.Text GM.Spec GM.Proof.Reader GM.Blocks

theorem open_children_container (bp : BP) (h : Cov6 bp) (parent : Nat) (s s' : St) (x : Option Nat × PState)
    (e : bpOpen bp parent s = .ok (x, s')) (hc : x.2.hasChildren = true) : bp = .blockquote := by
  have hk := hasChildren_only_containers bp parent s s' x e hc
  cases bp <;> simp only [BP.isContainer] at hk <;> first | rfl | cases hk | skip
  · exact absurd rfl h.1
  · exact absurd rfl h.2.1

theorem xh_paragraphContinue_leaf (n : Nat) : Ret (paragraphContinue n) (fun st => st.hasChildren = false) := by
  unfold paragraphContinue; ret
theorem xh_codeContinue_leaf (n : Nat) : Ret (codeContinue n) (fun st => st.hasChildren = false) := by
  unfold codeContinue; ret
theorem xh_htmlContinue_leaf (n : Nat) : Ret (htmlContinue n) (fun st => st.hasChildren = false) := by
  unfold htmlContinue; ret

theorem continue_children_container (bp : BP) (h : Cov6 bp) (node : Nat) (s s' : St) (st : PState)
    (e : bpContinue bp node s = .ok (st, s')) (hc : st.hasChildren = true) : bp = .blockquote := by
  cases bp <;> unfold bpContinue at e
  · exact absurd rfl h.2.2.1
  · cases e; cases hc
  · exact absurd rfl h.1
  · exact absurd rfl h.2.1
  · have := (xh_codeContinue_leaf node).h s st s' e; rw [this] at hc; cases hc
  · cases e; cases hc
  · exact absurd rfl h.2.2.2
  · rfl
  · have := (xh_htmlContinue_leaf node).h s st s' e; rw [this] at hc; cases hc
  · have := (xh_paragraphContinue_leaf node).h s st s' e; rw [this] at hc; cases hc

/-- every normal end of `x` satisfies `P` -/
def xh_Post {α : Type} (P : α → St → Prop) (x : Except Panic (α × St)) : Prop :=
  ∀ a s', x = .ok (a, s') → P a s'

theorem xh_Post.pure {α} {P : α → St → Prop} {a : α} {s : St} (h : P a s) : xh_Post P ((Pure.pure a : M α) s) := by
  intro a' s' e; cases e; exact h

theorem xh_Post.bind {α β} {P : α → St → Prop} {Q : β → St → Prop} {m : M α} {f : α → M β} {s : St}
    (hm : xh_Post P (m s)) (hf : ∀ a s', P a s' → xh_Post Q (f a s')) : xh_Post Q ((m >>= f) s) := by
  intro b s2 e
  simp only [Bind.bind, StateT.bind] at e
  cases hms : m s with
  | error er => rw [hms] at e; simp [Except.bind] at e
  | ok p =>
    rw [hms] at e
    simp only [Except.bind] at e
    exact hf p.1 p.2 (hm p.1 p.2 hms) b s2 e

theorem xh_Post.of_okl {α} {P : α → St → Prop} {x : Except Panic (α × St)} (h : OKL P x) : xh_Post P x :=
  fun _ _ e => qh_okl_run h e

theorem xh_Post.of_ret {α} {Q : α → Prop} {m : M α} (h : Ret m Q) (s : St) : xh_Post (fun a _ => Q a) (m s) :=
  fun a s' e => h.h s a s' e

theorem xh_Post.mono {α} {P Q : α → St → Prop} {x : Except Panic (α × St)} (h : xh_Post P x)
    (hpq : ∀ a s, P a s → Q a s) : xh_Post Q x := fun a s' e => hpq a s' (h a s' e)

theorem xh_liftE_post {α} (e : Except Panic α) (s : St) : xh_Post (fun _ s' => s' = s) (liftE e s) := by
  intro a s' h
  unfold liftE at h
  cases e with
  | error er => cases h
  | ok v => cases h; rfl

theorem xh_source_post (s : St) : xh_Post (fun _ s' => s' = s) (source s) := by
  intro a s' h; cases h; rfl

theorem xh_getNode_post (id : Nat) (s : St) : xh_Post (fun _ s' => s' = s) (getNode id s) := by
  intro a s' h; cases h; rfl

theorem xh_modNode_post (id : Nat) (f : Node → Node) (s : St) : xh_Post (fun _ s' => s'.r = s.r) (modNode id f s) := by
  intro a s' h
  unfold modNode at h
  cases h; rfl

theorem xh_appendLine_post (id : Nat) (seg : Segment) (s : St) :
    xh_Post (fun _ s' => s'.r = s.r) (appendLine id seg s) := xh_modNode_post id _ s

theorem xh_position_post (s : St) : xh_Post (fun a s' => a = (s.r.line, s.r.pos) ∧ s' = s) (position s) := by
  intro a s' h; cases h; exact ⟨rfl, rfl⟩

theorem xh_setPosition_post (l : Int) (p : Segment) (s : St) :
    xh_Post (fun _ s' => s' = { s with r := s.r.setPosition l p }) (setPosition l p s) := by
  intro a s' h; cases h; rfl

theorem xh_lineOffset_raw_post (s : St) :
    xh_Post (fun _ s' => ∃ r', s' = { s with r := r' } ∧ r'.source = s.r.source) (lineOffset s) := by
  intro a s' e
  unfold GM.Blocks.lineOffset at e
  cases hl : s.r.lineOffsetOp with
  | error er => rw [hl] at e; cases e
  | ok v =>
    rw [hl] at e
    cases e
    exact ⟨v.2, rfl, code_lineOffsetOp_source hl⟩

theorem h2x_ri_unique {b : Bytes} {r : Reader} {c c' : RCur} (h : RI b r c) (h' : RI b r c') : c = c' := by
  have e1 := h.pos
  have e2 := h'.pos
  rw [e1] at e2
  have l1 := h.abs.line
  have l2 := h'.abs.line
  simp only [clearLo] at l1 l2
  cases c; cases c'
  simp only [Segment.mk.injEq] at e2
  simp only at l1 l2
  obtain ⟨p1, _, p3, _⟩ := e2
  congr 1
  · omega
  · omega
  · omega

theorem h2x_hl_mk {b : Bytes} {s : St} {c : RCur} (h : RI b s.r c) (hp : c.p < b.length) (ht : TSafe b c) : HL b s :=
  ⟨⟨c, h, hp⟩, ⟨c, h, ht⟩⟩

theorem h2x_hl_cur {b : Bytes} {s : St} (h : HL b s) : ∃ c, RI b s.r c ∧ c.p < b.length ∧ TSafe b c := by
  obtain ⟨⟨c, hc, hp⟩, ⟨c', hc', ht⟩⟩ := h
  have := h2x_ri_unique hc hc'
  subst this
  exact ⟨c, hc, hp, ht⟩

theorem h2x_view_get (b : Bytes) (c : RCur) (hp : c.p < b.length) (i : Nat)
    (hi : i < c.pad + (lineEnd b c.p - c.p)) :
    ((RCur.view b c).getD [])[i]? = if i < c.pad then some 32 else b[c.p + (i - c.pad)]? := by
  rw [view_eq b c hp]
  simp only [Option.getD_some]
  by_cases h : i < c.pad
  · rw [if_pos h, List.getElem?_append_left (by simp [spaces]; exact h)]
    simp [spaces, h]
  · rw [if_neg h, List.getElem?_append_right (by simp [spaces]; omega)]
    simp only [spaces, List.length_replicate, sub]
    rw [List.getElem?_take_of_lt (by omega), List.getElem?_drop]

/-- the view at a cursor further on in the same line is a suffix of the view -/
theorem h2x_view_drop (b : Bytes) (c c' : RCur) (n : Nat) (hp : c.p < b.length)
    (hn : n + 1 ≤ c.pad + (lineEnd b c.p - c.p))
    (h1 : c'.p = c.p + (n - c.pad)) (h2 : c'.pad = c.pad - n) (h3 : lineEnd b c'.p = lineEnd b c.p)
    (hp' : c'.p < b.length) :
    (RCur.view b c').getD [] = ((RCur.view b c).getD []).drop n := by
  have hl := view_getD_length_nat b c hp
  have hl' := view_getD_length_nat b c' hp'
  have hle := lt_lineEnd b hp
  have hle' := lt_lineEnd b hp'
  apply List.ext_getElem?
  intro k
  rw [List.getElem?_drop]
  by_cases hk : k < c'.pad + (lineEnd b c'.p - c'.p)
  · rw [h2x_view_get b c' hp' k hk, h2x_view_get b c hp (n + k) (by omega)]
    by_cases hk2 : k < c'.pad
    · rw [if_pos hk2, if_pos (by omega)]
    · rw [if_neg hk2, if_neg (by omega)]
      congr 1; omega
  · rw [List.getElem?_eq_none (by omega), List.getElem?_eq_none (by omega)]

theorem h2x_quote_space {x : UInt8} (h : QuoteByte x) (hs : isSpace x = true) : x = 32 ∨ x = 9 := by
  rcases h with h | h | h
  · exact .inl h
  · exact .inr h
  · subst h; cases hs

/-- stepping over quote bytes keeps `PreC` -/
theorem h2x_prec_step (b : Bytes) (c c' : RCur) (n : Nat) (hp : c.p < b.length)
    (hn : n + 1 ≤ c.pad + (lineEnd b c.p - c.p))
    (h1 : c'.p = c.p + (n - c.pad)) (h5 : lineStart b c'.p = lineStart b c.p)
    (hpre : PreC b c)
    (hq : ∀ i, i < n → ∃ x, ((RCur.view b c).getD [])[i]? = some x ∧ QuoteByte x) : PreC b c' := by
  intro i hi1 hi2
  rw [h5] at hi1
  by_cases hlt : i < c.p
  · exact hpre i hi1 hlt
  · have hle := lt_lineEnd b hp
    obtain ⟨x, hx, hqx⟩ := hq (c.pad + (i - c.p)) (by omega)
    rw [h2x_view_get b c hp _ (by omega), if_neg (by omega)] at hx
    have e : c.p + (c.pad + (i - c.p) - c.pad) = i := by omega
    rw [e] at hx
    exact ⟨x, hx, hqx⟩

theorem h2x_all_of_drop (l : Bytes) (n : Nat)
    (h : ∀ i x, n ≤ i → l[i]? = some x → isSpace x = true) : isBlank (l.drop n) = true := by
  unfold isBlank
  rw [List.all_eq_true]
  intro x hx
  obtain ⟨k, hk⟩ := List.getElem?_of_mem hx
  rw [List.getElem?_drop] at hk
  exact h (n + k) x (by omega) hk

theorem h2x_takeWhile_all {α} (p : α → Bool) : ∀ (l : List α) x, x ∈ l.takeWhile p → p x = true := by
  intro l
  induction l with
  | nil => intro x hx; cases hx
  | cons a t ih =>
    intro x hx
    rw [List.takeWhile_cons] at hx
    by_cases ha : p a = true
    · rw [if_pos ha] at hx
      rcases List.mem_cons.mp hx with e | e
      · rw [e]; exact ha
      · exact ih x e
    · rw [if_neg ha] at hx; cases hx

theorem h2x_trim_blank (l : Bytes) : isBlank (l.drop (l.length - trimRightSpaceLength l)) = true := by
  unfold isBlank trimRightSpaceLength
  have e := List.takeWhile_append_dropWhile (p := isSpace) (l := l.reverse)
  have e2 : l = (l.reverse.dropWhile isSpace).reverse ++ (l.reverse.takeWhile isSpace).reverse := by
    rw [← List.reverse_append, e, List.reverse_reverse]
  have hall : ∀ x ∈ l.reverse.takeWhile isSpace, isSpace x = true := h2x_takeWhile_all isSpace l.reverse
  generalize l.reverse.takeWhile isSpace = tw at e2 hall ⊢
  generalize l.reverse.dropWhile isSpace = dw at e2
  subst e2
  have e3 : (dw.reverse ++ tw.reverse).length - tw.length = dw.reverse.length := by simp
  rw [e3, List.drop_left, List.all_eq_true]
  intro x hx
  exact hall x (List.mem_reverse.mp hx)

theorem h2x_advN_prec (b : Bytes) (c : RCur) (n : Nat) (hp : c.p < b.length)
    (hn : n + 1 ≤ c.pad + (lineEnd b c.p - c.p)) (hpre : PreC b c)
    (hq : ∀ i, i < n → ∃ x, ((RCur.view b c).getD [])[i]? = some x ∧ QuoteByte x) :
    PreC b (RCur.advN b n c) := by
  obtain ⟨i1, _, _, _, i5, _⟩ := advN_within b n c hp hn
  exact h2x_prec_step b c _ n hp hn i1 i5 hpre hq

theorem h2x_advPad_p (b : Bytes) (n p : Int) (c : RCur) : (advPadCur b n p c).p = (RCur.advN b n.toNat c).p := by
  unfold advPadCur
  simp only
  split <;> rfl

theorem h2x_prec_of_p {b : Bytes} {c c' : RCur} (e : c'.p = c.p) (h : PreC b c) : PreC b c' := by
  unfold PreC at *
  rw [e]; exact h

theorem h2x_blank_get {l : Bytes} (h : isBlank l = true) {i : Nat} {x : UInt8} (hx : l[i]? = some x) : isSpace x = true := by
  unfold isBlank at h
  rw [List.all_eq_true] at h
  exact h x (List.mem_of_getElem? hx)

/-- the cursor stays; or it stops in front of a blank rest of a line; or it was on a line that is not blank and has only
    passed quote bytes -/
def Mv (b : Bytes) (c c' : RCur) : Prop :=
  c' = c ∨ (c'.p < b.length ∧ isBlank ((RCur.view b c').getD []) = true) ∨
  (c'.p < b.length ∧ isBlank ((RCur.view b c).getD []) = false ∧ (PreC b c → PreC b c'))

/-- run A's reader is at a cursor reached from `c` by `Mv` -/
def MvTo (b : Bytes) (c : RCur) (s' : St) : Prop := ∃ c', RI b s'.r c' ∧ Mv b c c'

theorem MvTo.stay {b : Bytes} {c : RCur} {s' : St} (h : RI b s'.r c) : MvTo b c s' := ⟨c, h, .inl rfl⟩

theorem MvTo.hasLine {b : Bytes} {c : RCur} {s' : St} (h : MvTo b c s') (hp : c.p < b.length) : HasLine b s' := by
  obtain ⟨c', hc', m⟩ := h
  rcases m with e | ⟨h1, _⟩ | ⟨h1, _⟩
  · subst e; exact ⟨_, hc', hp⟩
  · exact ⟨_, hc', h1⟩
  · exact ⟨_, hc', h1⟩

theorem MvTo.hl {b : Bytes} {c : RCur} {s' : St} (h : MvTo b c s') (hp : c.p < b.length) (ht : TSafe b c) : HL b s' := by
  obtain ⟨c', hc', m⟩ := h
  rcases m with e | ⟨h1, h2⟩ | ⟨h1, h2, h3⟩
  · subst e; exact h2x_hl_mk hc' hp ht
  · exact h2x_hl_mk hc' h1 (.inr h2)
  · rcases ht with ht | ht
    · exact h2x_hl_mk hc' h1 (.inl (h3 ht))
    · rw [ht] at h2; cases h2

theorem mv_advN_blank (b : Bytes) (c : RCur) (n : Nat) (hp : c.p < b.length)
    (hn : n + 1 ≤ c.pad + (lineEnd b c.p - c.p))
    (hb : isBlank (((RCur.view b c).getD []).drop n) = true) : Mv b c (RCur.advN b n c) := by
  obtain ⟨i1, i2, _, i4, _, i6⟩ := advN_within b n c hp hn
  refine .inr (.inl ⟨i6, ?_⟩)
  rw [h2x_view_drop b c _ n hp hn i1 i2 i4 i6]; exact hb

theorem mv_blockquoteProcess {b : Bytes} (hnl : b.getLast? = some 10) {s : St} {c : RCur} (h : RI b s.r c)
    (hp : c.p < b.length) : OKL (fun _ s' => MvTo b c s') (blockquoteProcess s) := by
  unfold blockquoteProcess
  refine OKL.bind (peekLine_okl h) (fun x s1 hx => ?_)
  obtain ⟨hx, r1, hs1, h1⟩ := hx
  subst hx hs1
  simp only
  refine OKL.bind (lineOffset_okl (s := { s with r := r1 }) h1) (fun lo s2 hlo => ?_)
  obtain ⟨_, r2, hs2, h2⟩ := hlo
  subst hs2
  simp only
  have hlen := view_getD_length_nat b c hp
  have hlast : ∀ (i : Nat) (x : UInt8), ((RCur.view b c).getD [])[i]? = some x → x ≠ 10 →
      i + 2 ≤ ((RCur.view b c).getD []).length := fun i x hx hne => qh_view_not_last b hnl c hp hx hne
  have hstep : ∀ n, n + 1 ≤ ((RCur.view b c).getD []).length → PreC b c →
      (∀ i, i < n → ∃ x, ((RCur.view b c).getD [])[i]? = some x ∧ QuoteByte x) → PreC b (RCur.advN b n c) :=
    fun n hn hpre hq => h2x_advN_prec b c n hp (by omega) hpre hq
  have hdrop : ∀ n, n + 1 ≤ ((RCur.view b c).getD []).length →
      (RCur.view b (RCur.advN b n c)).getD [] = ((RCur.view b c).getD []).drop n := by
    intro n hn
    obtain ⟨i1, i2, _, i4, _, i6⟩ := advN_within b n c hp (by omega)
    exact h2x_view_drop b c _ n hp (by omega) i1 i2 i4 i6
  have hmv : ∀ x : RCur, x.p < b.length → isBlank ((RCur.view b c).getD []) = false → (PreC b c → PreC b x) → Mv b c x :=
    fun x h1 h2 h3 => .inr (.inr ⟨h1, h2, h3⟩)
  generalize (RCur.view b c).getD [] = line at hlen hlast hstep hdrop hmv ⊢
  have hb := indentWidthI_bounds line lo
  have hiw := indentWidthI_passed line lo
  generalize (indentWidthI line lo).2 = pos at hb hiw ⊢
  generalize (indentWidthI line lo).1 = w
  by_cases hc1 : (decide (w > 3) || decide (pos ≥ (line.length : Int))) = true
  · rw [if_pos hc1]
    exact OKL.ok (.stay h2)
  · rw [if_neg hc1]
    have hposlt : pos < line.length := by
      rcases Int.lt_or_le pos line.length with hh | hh
      · exact hh
      · exfalso; apply hc1; simp [hh]
    obtain ⟨b0, hb0, hb0'⟩ := idx_ok line pos hb.1 hposlt
    refine OKL.bind (liftE_okl (P := fun a s' => a = b0 ∧ s' = { s with r := r2 }) hb0 ⟨rfl, rfl⟩) (fun a s3 ha => ?_)
    obtain ⟨ha, hs3⟩ := ha
    subst ha hs3
    by_cases hc2 : (a != 62) = true
    · rw [if_pos hc2]
      exact OKL.ok (.stay h2)
    · rw [if_neg hc2]
      have ha62 : a = 62 := by simpa using hc2
      have hnb : isBlank line = false := by
        cases hbl : isBlank line with
        | false => rfl
        | true =>
          have := h2x_blank_get hbl hb0'
          rw [ha62] at this; cases this
      have h2lt : pos + 1 < (line.length : Int) := by
        have := hlast pos.toNat a hb0' (by rw [ha62]; decide)
        omega
      have hadv : 0 ≤ pos + 1 := by omega
      have hw1 := advN_within b (pos + 1).toNat c hp (by omega)
      have hq1 : ∀ i, i < (pos + 1).toNat → ∃ x, line[i]? = some x ∧ QuoteByte x := by
        intro i hi
        by_cases hip : (i : Int) < pos
        · obtain ⟨x, hx, hq⟩ := hiw i hip
          exact ⟨x, hx, hq.elim .inl (fun e => .inr (.inl e))⟩
        · have e : i = pos.toNat := by omega
          rw [e]; exact ⟨a, hb0', .inr (.inr ha62)⟩
      have hpre4 : PreC b c → PreC b (RCur.advN b (pos + 1).toNat c) := fun hpre => hstep _ (by omega) hpre hq1
      have hdrop4 := hdrop (pos + 1).toNat (by omega)
      by_cases hc3 : (pos + 1 ≥ (line.length : Int))
      · exfalso; omega
      · rw [if_neg (by simpa using hc3)]
        obtain ⟨b1, hb1, hb1'⟩ := idx_ok line (pos + 1) (by omega) (by omega)
        refine OKL.bind (liftE_okl (P := fun a s' => a = b1 ∧ s' = { s with r := r2 }) hb1 ⟨rfl, rfl⟩) (fun a1 s5 ha1 => ?_)
        obtain ⟨ha1, hs5⟩ := ha1
        subst ha1 hs5
        by_cases hc4 : (a1 == 10) = true
        · rw [if_pos hc4]
          refine OKL.bind (advance_okl (s := { s with r := r2 }) h2 hadv) (fun _ s4 h4 => ?_)
          obtain ⟨r4, hs4, h4⟩ := h4
          subst hs4
          exact OKL.ok ⟨_, h4, hmv _ hw1.2.2.2.2.2 hnb hpre4⟩
        · rw [if_neg hc4]
          refine OKL.bind (advance_okl (s := { s with r := r2 }) h2 hadv) (fun _ s4 h4 => ?_)
          obtain ⟨r4, hs4, h4⟩ := h4
          subst hs4
          generalize RCur.advN b (pos + 1).toNat c = c4 at h4 hw1 hpre4 hdrop4
          obtain ⟨i1, i2, _, i4, _, i6⟩ := hw1
          by_cases hc5 : (a1 == 32 || a1 == 9) = true
          · rw [if_pos hc5]
            have h3lt : pos + 2 < (line.length : Int) := by
              have := hlast (pos + 1).toNat a1 hb1' (by simpa using hc4)
              omega
            have hw2 := advN_within b 1 c4 i6 (by omega)
            have hpre5 : PreC b c → PreC b (RCur.advN b 1 c4) := by
              intro hpre
              refine h2x_advN_prec b c4 1 i6 (by omega) (hpre4 hpre) ?_
              intro i hi
              have e : i = 0 := by omega
              subst e
              rw [hdrop4, List.getElem?_drop]
              refine ⟨a1, hb1', ?_⟩
              simp only [Bool.or_eq_true, beq_iff_eq] at hc5
              exact hc5.elim .inl (fun e => .inr (.inl e))
            have hfin : ∀ p : Int, (advPadCur b 1 p c4).p < b.length ∧ (PreC b c → PreC b (advPadCur b 1 p c4)) := by
              intro p
              have e := h2x_advPad_p b 1 p c4
              refine ⟨?_, fun hpre => h2x_prec_of_p e (hpre5 hpre)⟩
              rw [e]; simpa using hw2.2.2.2.2.2
            by_cases hc6 : (a1 == 9) = true
            · simp only [hc6, if_true]
              refine OKL.bind (lineOffset_okl (s := { s with r := r4 }) h4) (fun lo2 s6 h6 => ?_)
              obtain ⟨_, r6, hs6, h6⟩ := h6
              subst hs6
              refine OKL.bind (m := Pure.pure (tabWidthI lo2 - 1)) (P := fun a s' => s' = { s with r := r6 }) (OKL.ok rfl) (fun pd s7 h7 => ?_)
              subst h7
              refine OKL.bind (advanceAndSetPadding_okl (s := { s with r := r6 }) h6 (by decide) pd) (fun _ s8 h8 => ?_)
              obtain ⟨r8, hs8, h8⟩ := h8
              subst hs8
              exact OKL.ok ⟨_, h8, hmv _ (hfin pd).1 hnb (hfin pd).2⟩
            · simp only [hc6, Bool.false_eq_true, if_false]
              refine OKL.bind (m := Pure.pure (0 : Int)) (P := fun a s' => s' = { s with r := r4 }) (OKL.ok rfl) (fun pd s7 h7 => ?_)
              subst h7
              refine OKL.bind (advanceAndSetPadding_okl (s := { s with r := r4 }) h4 (by decide) pd) (fun _ s8 h8 => ?_)
              obtain ⟨r8, hs8, h8⟩ := h8
              subst hs8
              exact OKL.ok ⟨_, h8, hmv _ (hfin pd).1 hnb (hfin pd).2⟩
          · rw [if_neg hc5]
            exact OKL.ok ⟨_, h4, hmv _ i6 hnb hpre4⟩


theorem mv_blockquoteOpen (b : Bytes) (hnl : b.getLast? = some 10) (parent : Nat) (s s' : St) (x : Option Nat × PState)
    {c : RCur} (hc : RI b s.r c) (hp : c.p < b.length) (e : bpOpen .blockquote parent s = .ok (x, s')) : MvTo b c s' := by
  have hokl : OKL (fun _ s' => MvTo b c s') (blockquoteOpen parent s) := by
    unfold blockquoteOpen
    refine OKL.bind (mv_blockquoteProcess hnl hc hp) (fun t s1 h1 => ?_)
    cases t with
    | true =>
      simp only [if_true, bind, StateT.bind, newNode, pure, StateT.pure, Except.bind, Except.pure]
      exact OKL.ok h1
    | false =>
      simp only [Bool.false_eq_true, if_false, pure, StateT.pure, Except.pure]
      exact OKL.ok h1
  exact qh_okl_run (P := fun _ s' => MvTo b c s') hokl e

theorem mv_blockquoteContinue (b : Bytes) (hnl : b.getLast? = some 10) (node : Nat) (s s' : St) (st : PState)
    {c : RCur} (hc : RI b s.r c) (hp : c.p < b.length) (e : bpContinue .blockquote node s = .ok (st, s')) : MvTo b c s' := by
  have hokl : OKL (fun _ s' => MvTo b c s') (blockquoteContinue node s) := by
    unfold blockquoteContinue
    refine OKL.bind (mv_blockquoteProcess hnl hc hp) (fun t s1 h1 => ?_)
    cases t with
    | true =>
      simp only [if_true, pure, StateT.pure, Except.pure]
      exact OKL.ok h1
    | false =>
      simp only [Bool.false_eq_true, if_false, pure, StateT.pure, Except.pure]
      exact OKL.ok h1
  exact qh_okl_run (P := fun _ s' => MvTo b c s') hokl e

/-! ### Close: one walk per parser -/

def mv_CL (b : Bytes) (c : RCur) : PState → St → Prop := fun st s' => st.cont = false → MvTo b c s'

theorem mv_cl_of_ret {b : Bytes} {c : RCur} {m : M PState} (h : Ret m (fun st => st.cont = true)) (s : St) :
    xh_Post (mv_CL b c) (m s) :=
  (xh_Post.of_ret h s).mono (fun a _ ha hf => by rw [ha] at hf; cases hf)

theorem mv_cl_pure {b : Bytes} {c : RCur} {st : PState} {s : St} (h : MvTo b c s) :
    xh_Post (mv_CL b c) ((Pure.pure st : M PState) s) := xh_Post.pure (fun _ => h)

theorem mv_paragraphContinue_cl (b : Bytes) (node : Nat) (s : St) {c : RCur} (hc : RI b s.r c) :
    xh_Post (mv_CL b c) (paragraphContinue node s) := by
  unfold paragraphContinue
  refine xh_Post.bind (xh_Post.of_okl (peekLine_okl hc)) (fun x s1 ⟨hx, r1, hs1, h1⟩ => ?_)
  subst hx hs1
  simp only
  split
  · exact mv_cl_pure (.stay h1)
  · apply mv_cl_of_ret; ret

theorem mv_codeContinue_cl (b : Bytes) (node : Nat) (s : St) {c : RCur} (hc : RI b s.r c) :
    xh_Post (mv_CL b c) (codeContinue node s) := by
  unfold codeContinue
  refine xh_Post.bind (xh_Post.of_okl (peekLine_okl hc)) (fun x s1 ⟨hx, r1, hs1, h1⟩ => ?_)
  subst hx hs1
  simp only
  split
  · apply mv_cl_of_ret; ret
  · refine xh_Post.bind (xh_Post.of_okl (lineOffset_okl (s := { s with r := r1 }) h1)) (fun lo s2 ⟨_, r2, hs2, h2⟩ => ?_)
    subst hs2
    simp only
    split
    · exact mv_cl_pure (.stay h2)
    · apply mv_cl_of_ret; ret

theorem mv_html_adv (b : Bytes) (hnl : b.getLast? = some 10) (c : RCur) (hp : c.p < b.length) {r : Reader}
    (hc : RI b r c) :
    Mv b c (RCur.advN b ((RCur.seg b c).len - (trimRightSpaceLength ((RCur.view b c).getD []) : Int)).toNat c) := by
  have hn := qh_html_adv_nonneg hc
  have hT : 1 ≤ trimRightSpaceLength ((RCur.view b c).getD []) := qh_view_trimRight_pos b hnl c hp
  have hS : (RCur.seg b c).len = (c.pad : Int) + (lineEnd b c.p : Int) - (c.p : Int) := by
    simp only [RCur.seg, Segment.len]; omega
  have hle0 := lt_lineEnd b hp
  have hlen := view_getD_length_nat b c hp
  have e : ((RCur.seg b c).len - (trimRightSpaceLength ((RCur.view b c).getD []) : Int)).toNat =
      ((RCur.view b c).getD []).length - trimRightSpaceLength ((RCur.view b c).getD []) := by omega
  rw [e]
  exact mv_advN_blank b c _ hp (by omega) (h2x_trim_blank _)

theorem mv_htmlContinue_cl (b : Bytes) (hnl : b.getLast? = some 10) (node : Nat) (s : St) {c : RCur} (hc0 : RI b s.r c)
    (hp : c.p < b.length) : xh_Post (mv_CL b c) (htmlContinue node s) := by
  unfold htmlContinue
  refine xh_Post.bind (xh_getNode_post node s) (fun n s0 hs0 => ?_)
  subst hs0
  refine xh_Post.bind (xh_Post.of_okl (peekLine_okl hc0)) (fun x s1 ⟨hx, r1, hs1, hc⟩ => ?_)
  subst hx hs1
  simp only
  have hn := qh_html_adv_nonneg hc
  have hw := mv_html_adv b hnl c hp hc
  generalize (RCur.view b c).getD [] = line at hn hw ⊢
  generalize RCur.seg b c = segment at hn hw ⊢
  have hcl : ∀ v, (if (n.htmlType == 1) = true then type1Close v
      else if (n.htmlType == 2) = true then containsSub (strBytes "-->") v
      else if (n.htmlType == 3) = true then containsSub (strBytes "?>") v
      else if (n.htmlType == 4) = true then containsSub (strBytes ">") v
      else containsSub (strBytes "]]>") v) = qh_htmlCloses n.htmlType v := fun v => rfl
  simp only [hcl]
  have fin : ∀ s2 : St, xh_Post (mv_CL b c)
      ((do appendLine node segment
           advance (segment.len - trimRightSpaceLength line)
           pure stContinueNoChildren : M PState) s2) := by
    intro s2; apply mv_cl_of_ret; ret
  have mid : ∀ (cl : Bool) (s2 : St), s2.r = r1 → xh_Post (mv_CL b c)
      ((if cl = true then do
            modNode node fun n => { n with closure := segment }
            advance (segment.len - trimRightSpaceLength line)
            pure stClose
          else do
            appendLine node segment
            advance (segment.len - trimRightSpaceLength line)
            pure stContinueNoChildren : M PState) s2) := by
    intro cl s2 hr2
    by_cases hc1 : cl = true
    · rw [if_pos hc1]
      refine xh_Post.bind (xh_modNode_post node _ s2) (fun _ s3 h3 => ?_)
      have h3' : RI b s3.r c := by rw [h3, hr2]; exact hc
      refine xh_Post.bind (xh_Post.of_okl (advance_okl h3' hn)) (fun _ s4 ⟨r4, hs4, h4⟩ => ?_)
      subst hs4
      exact mv_cl_pure ⟨_, h4, hw⟩
    · rw [if_neg hc1]; exact fin _
  split
  · split
    · refine xh_Post.bind (xh_liftE_post _ _) ?_
      intro l1 s3 hs3
      subst hs3
      refine xh_Post.bind (xh_source_post _) ?_
      intro src s3 hs3
      subst hs3
      refine xh_Post.bind (xh_liftE_post _ _) ?_
      intro v s3 hs3
      subst hs3
      by_cases hc2 : qh_htmlCloses n.htmlType v = true
      · rw [if_pos hc2]; exact mv_cl_pure (.stay hc)
      · rw [if_neg hc2]; exact mid _ _ rfl
    · exact mid _ _ rfl
  · split
    · split
      · exact mv_cl_pure (.stay hc)
      · exact fin _
    · exact fin _

/-! ### a leaf goes on: the cursor stops on the line feed -/

def mv_KL (b : Bytes) (c : RCur) : PState → St → Prop := fun st s' => st.cont = true → MvTo b c s'

theorem mv_kl_of_ret {b : Bytes} {c : RCur} {m : M PState} (h : Ret m (fun st => st.cont = false)) (s : St) :
    xh_Post (mv_KL b c) (m s) :=
  (xh_Post.of_ret h s).mono (fun a _ ha hf => by rw [ha] at hf; cases hf)

theorem mv_eol_adv (b : Bytes) (hnl : b.getLast? = some 10) (c : RCur) (hp : c.p < b.length) :
    Mv b c (RCur.advN b ((RCur.seg b c).len - 1).toNat c) := by
  have hS : (RCur.seg b c).len = (c.pad : Int) + (lineEnd b c.p : Int) - (c.p : Int) := by
    simp only [RCur.seg, Segment.len]; omega
  have hle0 := lt_lineEnd b hp
  have hlen := view_getD_length_nat b c hp
  have hlast := qh_view_last b hnl c hp
  have e : ((RCur.seg b c).len - 1).toNat = c.pad + (lineEnd b c.p - c.p) - 1 := by omega
  rw [e]
  refine mv_advN_blank b c _ hp (by omega) (h2x_all_of_drop _ _ ?_)
  intro i x hi hx
  obtain ⟨hlt, _⟩ := List.getElem?_eq_some_iff.mp hx
  have e2 : i = c.pad + (lineEnd b c.p - c.p) - 1 := by omega
  rw [e2, hlast] at hx
  cases hx; rfl

theorem mv_paragraphContinue_kl (b : Bytes) (hnl : b.getLast? = some 10) (node : Nat) (s : St) {c : RCur}
    (hc : RI b s.r c) (hp : c.p < b.length) : xh_Post (mv_KL b c) (paragraphContinue node s) := by
  unfold paragraphContinue
  refine xh_Post.bind (xh_Post.of_okl (peekLine_okl hc)) (fun x s1 ⟨hx, r1, hs1, h1⟩ => ?_)
  subst hx hs1
  simp only
  have hle := lt_lineEnd b hp
  split
  · apply mv_kl_of_ret; ret
  · refine xh_Post.bind (xh_appendLine_post node _ _) ?_
    intro _ s2 hs2
    have h2 : RI b s2.r c := by rw [hs2]; exact h1
    have h0 : 0 ≤ (RCur.seg b c).len - 1 := by simp only [Segment.len, RCur.seg]; omega
    refine xh_Post.bind (xh_Post.of_okl (advance_okl h2 h0)) ?_
    intro _ s3 ⟨r3, hs3, h3⟩
    subst hs3
    exact xh_Post.pure (fun _ => ⟨_, h3, mv_eol_adv b hnl c hp⟩)

theorem mv_htmlContinue_kl (b : Bytes) (hnl : b.getLast? = some 10) (node : Nat) (s : St) {c : RCur} (hc0 : RI b s.r c)
    (hp : c.p < b.length) : xh_Post (mv_KL b c) (htmlContinue node s) := by
  unfold htmlContinue
  refine xh_Post.bind (xh_getNode_post node s) (fun n s0 hs0 => ?_)
  subst hs0
  refine xh_Post.bind (xh_Post.of_okl (peekLine_okl hc0)) (fun x s1 ⟨hx, r1, hs1, hc⟩ => ?_)
  subst hx hs1
  simp only
  have hn := qh_html_adv_nonneg hc
  have hw := mv_html_adv b hnl c hp hc
  generalize (RCur.view b c).getD [] = line at hn hw ⊢
  generalize RCur.seg b c = segment at hn hw ⊢
  have hcl : ∀ v, (if (n.htmlType == 1) = true then type1Close v
      else if (n.htmlType == 2) = true then containsSub (strBytes "-->") v
      else if (n.htmlType == 3) = true then containsSub (strBytes "?>") v
      else if (n.htmlType == 4) = true then containsSub (strBytes ">") v
      else containsSub (strBytes "]]>") v) = qh_htmlCloses n.htmlType v := fun v => rfl
  simp only [hcl]
  have fin : ∀ s2 : St, s2.r = r1 → xh_Post (mv_KL b c)
      ((do appendLine node segment
           advance (segment.len - trimRightSpaceLength line)
           pure stContinueNoChildren : M PState) s2) := by
    intro s2 hr2
    refine xh_Post.bind (xh_appendLine_post node _ s2) (fun _ s3 h3 => ?_)
    have h3' : RI b s3.r c := by rw [h3, hr2]; exact hc
    refine xh_Post.bind (xh_Post.of_okl (advance_okl h3' hn)) (fun _ s4 ⟨r4, hs4, h4⟩ => ?_)
    subst hs4
    exact xh_Post.pure (fun _ => ⟨_, h4, hw⟩)
  have mid : ∀ (cl : Bool) (s2 : St), s2.r = r1 → xh_Post (mv_KL b c)
      ((if cl = true then do
            modNode node fun n => { n with closure := segment }
            advance (segment.len - trimRightSpaceLength line)
            pure stClose
          else do
            appendLine node segment
            advance (segment.len - trimRightSpaceLength line)
            pure stContinueNoChildren : M PState) s2) := by
    intro cl s2 hr2
    by_cases hc1 : cl = true
    · rw [if_pos hc1]; apply mv_kl_of_ret; ret
    · rw [if_neg hc1]; exact fin _ hr2
  split
  · split
    · refine xh_Post.bind (xh_liftE_post _ _) ?_
      intro l1 s3 hs3
      subst hs3
      refine xh_Post.bind (xh_source_post _) ?_
      intro src s3 hs3
      subst hs3
      refine xh_Post.bind (xh_liftE_post _ _) ?_
      intro v s3 hs3
      subst hs3
      by_cases hc2 : qh_htmlCloses n.htmlType v = true
      · rw [if_pos hc2]; apply mv_kl_of_ret; ret
      · rw [if_neg hc2]; exact mid _ _ rfl
    · exact mid _ _ rfl
  · split
    · split
      · apply mv_kl_of_ret; ret
      · exact fin _ rfl
    · exact fin _ rfl

/-- a container of `Cov6` that opens moves the cursor by `Mv` -/
theorem mv_strictO (b : Bytes) (hnl : b.getLast? = some 10) : ∀ bp, Cov6 bp → ∀ (parent : Nat) (s s' : St)
    (x : Option Nat × PState) (c : RCur), RI b s.r c → c.p < b.length → bpOpen bp parent s = .ok (x, s') →
    x.2.hasChildren = true → MvTo b c s' := by
  intro bp h parent s s' x c hc hp e hk
  have := open_children_container bp h parent s s' x e hk
  subst this
  exact mv_blockquoteOpen b hnl parent s s' x hc hp e

/-- `Continue` of a parser of `Cov6` moves the cursor by `Mv`, whatever it answers — a code block that goes on excepted -/
theorem mv_continue (b : Bytes) (hnl : b.getLast? = some 10) : ∀ bp, Cov6 bp → ∀ (node : Nat) (s s' : St) (st : PState)
    (c : RCur), RI b s.r c → c.p < b.length → bpContinue bp node s = .ok (st, s') → (st.cont = true → bp ≠ .code) →
    MvTo b c s' := by
  intro bp h node s s' st c hc hp e hcode
  cases bp
  · exact absurd rfl h.2.2.1
  · unfold bpContinue at e; cases e; exact .stay hc
  · exact absurd rfl h.1
  · exact absurd rfl h.2.1
  · cases hk : st.cont with
    | false => exact mv_codeContinue_cl b node s hc st s' e hk
    | true => exact absurd rfl (hcode hk)
  · unfold bpContinue at e; cases e; exact .stay hc
  · exact absurd rfl h.2.2.2
  · exact mv_blockquoteContinue b hnl node s s' st hc hp e
  · cases hk : st.cont with
    | false => exact mv_htmlContinue_cl b hnl node s hc hp st s' e hk
    | true => exact mv_htmlContinue_kl b hnl node s hc hp st s' e hk
  · cases hk : st.cont with
    | false => exact mv_paragraphContinue_cl b node s hc st s' e hk
    | true => exact mv_paragraphContinue_kl b hnl node s hc hp st s' e hk

/-! ### a code block that goes on: `HasLine` only -/

def xh_KL (b : Bytes) : PState → St → Prop := fun st s' => st.cont = true → HasLine b s'

theorem xh_kl_of_ret {b : Bytes} {m : M PState} (h : Ret m (fun st => st.cont = false)) (s : St) :
    xh_Post (xh_KL b) (m s) :=
  (xh_Post.of_ret h s).mono (fun a _ ha hf => by rw [ha] at hf; cases hf)

theorem xh_kl_pure {b : Bytes} {st : PState} {s : St} (h : HasLine b s) :
    xh_Post (xh_KL b) ((Pure.pure st : M PState) s) := xh_Post.pure (fun _ => h)

theorem xh_preserveLeadingTab_post {b : Bytes} {s : St} {c : RCur} (hc0 : RI b s.r c) (seg : Segment) (ind : Int) :
    xh_Post (fun x s' => (x = seg ∨ x = { seg with padding := 0, start := seg.start - 1 }) ∧ RI b s'.r c)
      (preserveLeadingTab seg ind s) := by
  unfold preserveLeadingTab
  refine xh_Post.bind (xh_Post.of_okl (lineOffset_okl hc0)) ?_
  intro lo s1 ⟨_, r1, hs1, hc⟩
  subst hs1
  refine xh_Post.bind (xh_position_post _) ?_
  intro x s2 ⟨hx, hs2⟩
  subst hx hs2
  simp only
  refine xh_Post.bind (xh_setPosition_post _ _ _) ?_
  intro _ s3 hs3
  subst hs3
  refine xh_Post.bind (xh_lineOffset_raw_post _) ?_
  intro lo2 s4 ⟨r4, hs4, hsrc⟩
  subst hs4
  refine xh_Post.bind (xh_setPosition_post _ _ _) ?_
  intro _ s5 hs5
  subst hs5
  refine xh_Post.pure ⟨?_, ?_⟩
  · split
    · exact .inr rfl
    · exact .inl rfl
  · exact ri_setPosition_back hc (by rw [hsrc]; exact hc.source)

theorem xh_codeTakeLine_post {b : Bytes} {s : St} {c : RCur} (hc : RI b s.r c) (node : Nat) {pos : Int} (hn : 0 ≤ pos)
    (pd : Int) (hk : CodeTakeOK b c pos) : xh_Post (fun _ s' => HasLine b s') (codeTakeLine node pos pd s) := by
  unfold codeTakeLine
  refine xh_Post.bind (xh_Post.of_okl (advanceAndSetPadding_okl hc hn pd)) ?_
  intro _ s1 ⟨r1, hs1, hr1⟩
  subst hs1
  have hc1 : (advPadCur b pos pd c).p < b.length := by
    obtain ⟨hp, hlt⟩ := hk
    obtain ⟨_, _, _, _, _, i6⟩ := advN_within b pos.toNat c hp hlt
    unfold advPadCur
    simp only
    split <;> exact i6
  generalize advPadCur b pos pd c = c1 at hr1 hc1
  refine xh_Post.bind (xh_Post.of_okl (peekLine_okl (s := { s with r := r1 }) hr1)) ?_
  intro x s2 ⟨hx, r2, hs2, hr2⟩
  subst hx hs2
  simp only
  have hl := lt_lineEnd b hc1
  have tail : ∀ (x : Segment) (s3 : St), (x = RCur.seg b c1 ∨
      (c1.pad ≠ 0 ∧ x = { RCur.seg b c1 with padding := 0, start := (RCur.seg b c1).start - 1 })) →
      RI b s3.r c1 → xh_Post (fun _ s' => HasLine b s')
        ((do appendLine node { x with forceNewline := true }
             advance (({ x with forceNewline := true } : Segment).len - 1) : M Unit) s3) := by
    intro x s3 hx hc3
    refine xh_Post.bind (xh_appendLine_post node _ s3) ?_
    intro _ s4 hs4
    have hc4 : RI b s4.r c1 := by rw [hs4]; exact hc3
    have h0 : 0 ≤ ({ x with forceNewline := true } : Segment).len - 1 := by
      rcases hx with e | ⟨_, e⟩ <;> rw [e] <;> simp only [Segment.len, RCur.seg] <;> omega
    refine (xh_Post.of_okl (advance_okl hc4 h0)).mono ?_
    intro _ s5 ⟨r5, hs5, hr5⟩
    subst hs5
    refine ⟨_, hr5, (advN_within b _ c1 hc1 ?_).2.2.2.2.2⟩
    rcases hx with e | ⟨_, e⟩ <;> rw [e] <;> simp only [Segment.len, RCur.seg] <;> omega
  by_cases hpd : ((RCur.seg b c1).padding != 0) = true
  · rw [if_pos hpd]
    refine xh_Post.bind (xh_preserveLeadingTab_post (s := { s with r := r2 }) hr2 _ 0) ?_
    intro x s3 ⟨hx, hc3⟩
    have hpad : c1.pad ≠ 0 := by
      intro e0; apply (bne_iff_ne.mp hpd); simp [RCur.seg, e0]
    exact tail x s3 (hx.imp id (fun e => ⟨hpad, e⟩)) hc3
  · rw [if_neg hpd]
    exact tail _ _ (.inl rfl) hr2

theorem xh_codeContinue_kl (b : Bytes) (node : Nat) (s : St) (hl : HasLine b s) :
    xh_Post (xh_KL b) (codeContinue node s) := by
  obtain ⟨c, hc, hp⟩ := hl
  unfold codeContinue
  refine xh_Post.bind (xh_Post.of_okl (peekLine_okl hc)) (fun x s1 ⟨hx, r1, hs1, h1⟩ => ?_)
  subst hx hs1
  simp only
  by_cases hbl : isBlank ((RCur.view b c).getD []) = true
  · rw [if_pos hbl]
    refine xh_Post.bind (xh_source_post _) ?_
    intro src s3 hs3
    subst hs3
    refine xh_Post.bind (xh_liftE_post _ _) ?_
    intro sg s3 hs3
    subst hs3
    refine xh_Post.bind (xh_appendLine_post node _ _) ?_
    intro _ s4 hs4
    exact xh_kl_pure ⟨c, by rw [hs4]; exact h1, hp⟩
  · rw [if_neg hbl]
    refine xh_Post.bind (xh_Post.of_okl (lineOffset_okl (s := { s with r := r1 }) h1)) (fun lo s2 ⟨_, r2, hs2, h2⟩ => ?_)
    subst hs2
    have hvl := view_getD_length_nat b c hp
    generalize (RCur.view b c).getD [] = line at hvl hbl ⊢
    have hbd := indentPosition_bounds line lo
    generalize indentPosition line lo 4 = pp at hbd ⊢
    obtain ⟨pos, pd⟩ := pp
    simp only at hbd ⊢
    by_cases hneg : pos < 0
    · rw [if_pos hneg]; apply xh_kl_of_ret; ret
    · rw [if_neg hneg]
      have hnb : isBlank line = false := by
        cases hh : isBlank line with
        | true => exact absurd hh hbl
        | false => rfl
      obtain ⟨_, _, hb3, _⟩ := hbd (by omega)
      have hlt := hb3 hnb
      have hok : CodeTakeOK b c pos := ⟨hp, by omega⟩
      refine xh_Post.bind (xh_codeTakeLine_post (s := { s with r := r2 }) h2 node (by omega) pd hok) ?_
      intro _ s4 h4
      exact xh_kl_pure h4

/-! ### the shapes the drivers want, for `HasLine` -/

theorem strictO6 (b : Bytes) (hnl : b.getLast? = some 10) : ∀ bp, Cov6 bp → ∀ (parent : Nat) (s s' : St)
    (x : Option Nat × PState), HasLine b s → bpOpen bp parent s = .ok (x, s') → x.2.hasChildren = true → HasLine b s' := by
  intro bp h parent s s' x ⟨c, hc, hp⟩ e hk
  exact (mv_strictO b hnl bp h parent s s' x c hc hp e hk).hasLine hp

theorem strictC6 (b : Bytes) (hnl : b.getLast? = some 10) : ∀ bp, Cov6 bp → ∀ (node : Nat) (s s' : St) (st : PState),
    HasLine b s → bpContinue bp node s = .ok (st, s') → st.cont = true → st.hasChildren = true → HasLine b s' := by
  intro bp h node s s' st ⟨c, hc, hp⟩ e _ hk
  have := continue_children_container bp h node s s' st e hk
  subst this
  exact (mv_continue b hnl _ h node s s' st c hc hp e (fun _ => nofun)).hasLine hp

theorem continue_close_hasLine (b : Bytes) (hnl : b.getLast? = some 10) (bp : BP) (h : Cov6 bp) (node : Nat) (s s' : St)
    (st : PState) (hl : HasLine b s) (e : bpContinue bp node s = .ok (st, s')) (hc : st.cont = false) : HasLine b s' := by
  obtain ⟨c, hc0, hp⟩ := hl
  exact (mv_continue b hnl bp h node s s' st c hc0 hp e (fun h1 => by rw [hc] at h1; cases h1)).hasLine hp

theorem continue_leaf_hasLine (b : Bytes) (hnl : b.getLast? = some 10) (bp : BP) (h : Cov6 bp) (node : Nat) (s s' : St)
    (st : PState) (hl : HasLine b s) (e : bpContinue bp node s = .ok (st, s')) (hc : st.cont = true)
    (_hn : st.hasChildren = false) : HasLine b s' := by
  by_cases hcode : bp = .code
  · subst hcode; exact xh_codeContinue_kl b node s hl st s' e hc
  · obtain ⟨c, hc0, hp⟩ := hl
    exact (mv_continue b hnl bp h node s s' st c hc0 hp e (fun _ => hcode)).hasLine hp

/-! ### the same for `HL` -/

theorem strictO6' (b : Bytes) (hnl : b.getLast? = some 10) : ∀ bp, Cov6 bp → ∀ (parent : Nat) (s s' : St)
    (x : Option Nat × PState), HL b s → bpOpen bp parent s = .ok (x, s') → x.2.hasChildren = true → HL b s' := by
  intro bp h parent s s' x hl e hk
  obtain ⟨c, hc, hp, ht⟩ := h2x_hl_cur hl
  exact (mv_strictO b hnl bp h parent s s' x c hc hp e hk).hl hp ht

theorem strictC6' (b : Bytes) (hnl : b.getLast? = some 10) : ∀ bp, Cov6 bp → ∀ (node : Nat) (s s' : St) (st : PState),
    HL b s → bpContinue bp node s = .ok (st, s') → st.cont = true → st.hasChildren = true → HL b s' := by
  intro bp h node s s' st hl e _ hk
  obtain ⟨c, hc, hp, ht⟩ := h2x_hl_cur hl
  have := continue_children_container bp h node s s' st e hk
  subst this
  exact (mv_continue b hnl _ h node s s' st c hc hp e (fun _ => nofun)).hl hp ht

theorem hcl6' (b : Bytes) (hnl : b.getLast? = some 10) : ∀ bp, Cov6 bp → ∀ (node : Nat) (s s' : St) (st : PState),
    HL b s → bpContinue bp node s = .ok (st, s') → st.cont = false → HL b s' := by
  intro bp h node s s' st hl e hc
  obtain ⟨c, hc0, hp, ht⟩ := h2x_hl_cur hl
  exact (mv_continue b hnl bp h node s s' st c hc0 hp e (fun h1 => by rw [hc] at h1; cases h1)).hl hp ht

/-- `Continue` keeps `HL` (the code block parser left out: see `mv_continue`) -/
theorem hl_continue6 (b : Bytes) (hnl : b.getLast? = some 10) : ∀ bp, Cov6 bp → bp ≠ .code → ∀ n,
    Keeps (HL b) (bpContinue bp n) := by
  intro bp h hcode n s a s' hl e
  obtain ⟨c, hc0, hp, ht⟩ := h2x_hl_cur hl
  exact (mv_continue b hnl bp h n s s' a c hc0 hp e (fun _ => hcode)).hl hp ht

end GM.Blocks.Xs
