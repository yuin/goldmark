/-
  GM.Proof.IndepEnd — C09, first half: AT THE END OF EVERY DOCUMENT THE OPEN-BLOCK STACK IS EMPTY
  (`run_opened_empty`: for every source, if the block phase ends normally, `pc.openedBlocks` is empty in its final
  state). A statement about reachable states of the whole run, for all inputs.

  Ingredients: no `Open` / `Continue` function of the ten block parsers writes `pc.openedBlocks` (`Step.opened` of
  GM.Proof.BlocksStep); `openBlocks` changes the stack only when it answers `newBlocksOpened`
  (`openBlocks_opened`, induction over the candidate loop and the `goto retry` loop); the close discipline of the
  generic driver (`runG_disc` of GM.Proof.BlocksDriverGRun) at the trivial invariant (`discU`).
-/
import GM.Proof.IndepReset
import GM.Proof.BlocksStep
import GM.Proof.BlocksDriverGRun
import GM.Proof.BlocksDriverGSim
import GM.Proof.BlocksRunEq

namespace GM.Blocks
open GM GM.Text

theorem sameOpened_rd : IgnoresReader SameOpened := fun _ _ => rfl

theorem bpOpen_sameOpened (bp : BP) (p : Nat) : IFr SameOpened (bpOpen bp p) :=
  ⟨fun _ _ _ h => (bpOpen_step h).1.opened⟩

theorem bpContinue_sameOpened (bp : BP) (n : Nat) : IFr SameOpened (bpContinue bp n) :=
  ⟨fun _ _ _ h => (bpContinue_step h).opened⟩

/-- parser.go:960-1014: the candidate loop either reports `newBlocksOpened` or hands back the result it was given,
    with the stack untouched and without asking for a retry -/
theorem tryParsers_opened (parent : Nat) (blank cont : Bool) (w : Int) :
    ∀ (bps : List BP) (result : OpenResult) (lb : Option Block) (s : St) (x : TryOutcome × OpenResult × Option Block)
      (s' : St), tryParsers parent blank cont w bps result lb s = .ok (x, s') →
      x.2.1 = .newBlocksOpened ∨ (x.1 = .done ∧ x.2.1 = result ∧ s'.pc.opened = s.pc.opened) := by
  intro bps
  induction bps with
  | nil =>
    intro result lb s x s' h
    unfold tryParsers at h
    obtain ⟨rfl, rfl⟩ := pure_ok h
    exact .inr ⟨rfl, rfl, rfl⟩
  | cons bp bps ih =>
    intro result lb s x s' h
    unfold tryParsers at h
    split at h
    · exact ih _ _ _ _ _ (by simpa using h)
    · split at h
      · exact ih _ _ _ _ _ (by simpa using h)
      · obtain ⟨lb', s1, h1, k1⟩ := bind_ok h
        obtain ⟨_, e1⟩ := lastOpenedBlock_ok h1
        rw [e1] at k1
        obtain ⟨y, s2, h2, k2⟩ := bind_ok k1
        have ho2 : SameOpened s s2 := IFr.apply h2 (bpOpen_sameOpened bp parent)
        obtain ⟨node, state⟩ := y
        cases node with
        | none =>
          dsimp only at k2
          rcases ih _ _ _ _ _ k2 with h3 | ⟨h3, h4, h5⟩
          · exact .inl h3
          · exact .inr ⟨h3, h4, h5.trans ho2⟩
        | some node =>
          dsimp only at k2
          left
          refine Ret.apply (Q := fun x => x.2.1 = OpenResult.newBlocksOpened) k2 ?_
          ret
/-- the exit `continuable:` of openBlocks keeps the stack; it turns `noBlocksOpened` into `paragraphContinuation`
    at most -/
theorem toContinuable_opened (cont : Bool) (r : OpenResult) (lb : Option Block) (s : St) (r' : OpenResult) (s' : St)
    (h : toContinuable cont r lb s = .ok (r', s')) :
    s'.pc.opened = s.pc.opened ∧ (r' = r ∨ (r = .noBlocksOpened ∧ r' = .paragraphContinuation)) := by
  unfold toContinuable at h
  split at h
  · rename_i hc
    cases lb with
    | none =>
      dsimp only at h
      obtain ⟨u, s1, h1, _⟩ := bind_ok h
      exact (throw_ok h1).elim
    | some b =>
      dsimp only at h
      obtain ⟨st, s1, h1, k1⟩ := bind_ok h
      have ho : SameOpened s s1 := IFr.apply h1 (bpContinue_sameOpened b.bp b.node)
      have hr : r = .noBlocksOpened := by
        have : (r == OpenResult.noBlocksOpened) = true := by
          cases hrr : (r == OpenResult.noBlocksOpened) with
          | true => rfl
          | false => rw [hrr] at hc; simp at hc
        exact eq_of_beq this
      split at k1
      · obtain ⟨rfl, rfl⟩ := pure_ok k1
        exact ⟨ho, .inr ⟨hr, rfl⟩⟩
      · obtain ⟨rfl, rfl⟩ := pure_ok k1
        exact ⟨ho, .inl rfl⟩
  · obtain ⟨rfl, rfl⟩ := pure_ok h
    exact ⟨rfl, .inl rfl⟩
theorem peekLine_sameOpened : IFr SameOpened peekLine := peekLine_fr sameOpened_rd
theorem lineOffset_sameOpened : IFr SameOpened lineOffset := lineOffset_fr sameOpened_rd

/-- parser.openBlocks from the label `retry:` on: `newBlocksOpened` once reported stays, and unless it is reported
    the open-block stack is what it was -/
theorem openBlocksLoop_opened (blank cont : Bool) :
    ∀ (fuel parent : Nat) (result : OpenResult) (lb : Option Block) (s : St) (r' : OpenResult) (s' : St),
      openBlocksLoop blank cont fuel parent result lb s = .ok (r', s') →
      (result = .newBlocksOpened → r' = .newBlocksOpened) ∧
      (r' ≠ .newBlocksOpened → s'.pc.opened = s.pc.opened) := by
  intro fuel
  induction fuel with
  | zero => intro parent result lb s r' s' h; unfold openBlocksLoop at h; exact (throw_ok h).elim
  | succ fuel ih =>
    intro parent result lb s r' s' h
    unfold openBlocksLoop at h
    obtain ⟨y, s1, h1, k1⟩ := bind_ok h
    have o1 : SameOpened s s1 := IFr.apply h1 peekLine_sameOpened
    obtain ⟨line, seg⟩ := y
    dsimp only at k1
    obtain ⟨lo, s2, h2, k2⟩ := bind_ok k1
    have o2 : SameOpened s1 s2 := IFr.apply h2 lineOffset_sameOpened
    obtain ⟨u, s3, h3, k3⟩ := bind_ok k2
    have e3 := modPc_ok h3
    have o3 : s3.pc.opened = s.pc.opened := by
      rw [e3]; dsimp only; split <;> exact o2.trans o1
    have exit : ∀ (sA : St) (res : OpenResult) (l : Option Block), sA.pc.opened = s.pc.opened →
        (result = .newBlocksOpened → res = .newBlocksOpened) →
        (res ≠ .newBlocksOpened → res = result) →
        toContinuable cont res l sA = .ok (r', s') →
        (result = .newBlocksOpened → r' = .newBlocksOpened) ∧ (r' ≠ .newBlocksOpened → s'.pc.opened = s.pc.opened) := by
      intro sA res l hoA hres1 hres2 hk
      obtain ⟨ho, hr⟩ := toContinuable_opened cont res l sA r' s' hk
      refine ⟨fun hn => ?_, fun _ => ho.trans hoA⟩
      rcases hr with hr | ⟨hr1, _⟩
      · rw [hr]; exact hres1 hn
      · rw [hres1 hn] at hr1; cases hr1
    have viaTry : ∀ (bps : List BP) (sA : St), sA.pc.opened = s.pc.opened →
        (do let s0 ← get
            let __x ← tryParsers parent blank cont (indentWidthI (line.getD []) lo).1 bps result lb
            match __x.1 with
            | TryOutcome.retry parent' => do
              let s1 ← get
              if (!decide (retryMeasure s1 < retryMeasure s0)) = true then do
                throw Panic.pre
                openBlocksLoop blank cont fuel parent' __x.2.1 __x.2.2
              else openBlocksLoop blank cont fuel parent' __x.2.1 __x.2.2
            | TryOutcome.done => toContinuable cont __x.2.1 __x.2.2 : M OpenResult) sA = .ok (r', s') →
        (result = .newBlocksOpened → r' = .newBlocksOpened) ∧ (r' ≠ .newBlocksOpened → s'.pc.opened = s.pc.opened) := by
      intro bps sA hoA hk
      obtain ⟨s0, s4, h4, k4⟩ := bind_ok hk
      have e4 : s4 = sA := by cases h4; rfl
      rw [e4] at k4
      obtain ⟨x, s5, h5, k5⟩ := bind_ok k4
      have ht := tryParsers_opened parent blank cont _ bps result lb sA x s5 h5
      cases hx : x.1 with
      | done =>
        rw [hx] at k5
        dsimp only at k5
        rcases ht with ht | ⟨_, ht2, ht3⟩
        · obtain ⟨ho, hr⟩ := toContinuable_opened cont x.2.1 x.2.2 s5 r' s' k5
          have : r' = .newBlocksOpened := by
            rcases hr with hr | ⟨hr1, _⟩
            · rw [hr, ht]
            · rw [ht] at hr1; cases hr1
          exact ⟨fun _ => this, fun hne => absurd this hne⟩
        · exact exit s5 x.2.1 x.2.2 (ht3.trans hoA) (fun hn => by rw [ht2, hn]) (fun _ => ht2) k5
      | retry p' =>
        rw [hx] at k5
        dsimp only at k5
        have hnew : x.2.1 = .newBlocksOpened := by
          rcases ht with ht | ⟨ht1, _⟩
          · exact ht
          · rw [hx] at ht1; cases ht1
        obtain ⟨s6, s7, h7, k7⟩ := bind_ok k5
        have e7 : s7 = s5 := by cases h7; rfl
        rw [e7] at k7
        have hrec : openBlocksLoop blank cont fuel p' x.2.1 x.2.2 s5 = .ok (r', s') := by
          split at k7
          · obtain ⟨_, _, hthrow, _⟩ := bind_ok k7
            exact (throw_ok hthrow).elim
          · exact k7
        have := (ih p' x.2.1 x.2.2 s5 r' s' hrec).1 hnew
        exact ⟨fun _ => this, fun hne => absurd this hne⟩
    split at k3
    · exact exit s3 result lb o3 id (fun _ => rfl) k3
    · obtain ⟨c, s4, h4, k4⟩ := bind_ok k3
      obtain ⟨_, e4⟩ := liftE_ok h4
      rw [e4] at k4
      split at k4
      · exact exit s3 result lb o3 id (fun _ => rfl) k4
      · split at k4
        · obtain ⟨c', s5, h5, k5⟩ := bind_ok k4
          obtain ⟨_, e5⟩ := liftE_ok h5
          rw [e5] at k5
          obtain ⟨bps, s6, h6, k6⟩ := bind_ok k5
          obtain ⟨_, e6⟩ := pure_ok h6
          rw [e6] at k6
          exact viaTry bps s3 o3 k6
        · obtain ⟨bps, s6, h6, k6⟩ := bind_ok k4
          obtain ⟨_, e6⟩ := pure_ok h6
          rw [e6] at k6
          exact viaTry bps s3 o3 k6
theorem openBlocks_opened (parent : Nat) (blank : Bool) (s : St) (r' : OpenResult) (s' : St)
    (h : openBlocks parent blank s = .ok (r', s')) (hne : r' ≠ .newBlocksOpened) : s'.pc.opened = s.pc.opened := by
  unfold openBlocks at h
  obtain ⟨lb, s1, h1, k1⟩ := bind_ok h
  obtain ⟨_, e1⟩ := lastOpenedBlock_ok h1
  rw [e1] at k1
  have fin : ∀ cont, (do let v ← source; openBlocksLoop blank cont (retryFuel v) parent OpenResult.noBlocksOpened lb : M OpenResult) s
      = .ok (r', s') → s'.pc.opened = s.pc.opened := by
    intro cont k2
    obtain ⟨v, s3, h3, k3⟩ := bind_ok k2
    have e3 : s3 = s := by cases h3; rfl
    rw [e3] at k3
    exact (openBlocksLoop_opened blank cont _ parent _ lb s r' s' k3).2 hne
  dsimp only at k1
  cases lb with
  | none =>
    dsimp only at k1
    obtain ⟨cont, s2, h2, k2⟩ := bind_ok k1
    obtain ⟨_, e2⟩ := pure_ok h2
    rw [e2] at k2
    exact fin cont k2
  | some b =>
    dsimp only at k1
    obtain ⟨n, s2, h2, k2⟩ := bind_ok k1
    obtain ⟨_, e2⟩ := getNode_ok h2
    rw [e2] at k2
    obtain ⟨cont, s3, h3, k3⟩ := bind_ok k2
    obtain ⟨_, e3⟩ := pure_ok h3
    rw [e3] at k3
    exact fin cont k3

/-! ### the driver: GM.Proof.BlocksDriverGRun at `σ = Unit`

  `run` is `runT []` is `runC bpClose []`, the driver with hooks over the empty second layer read back in `M`
  (`lower_parseBlocksG`). For the stack alone the interface `Disc` is met with the trivial invariant: every hook keeps the stack. -/

theorem discU : Disc (hooksU bpClose []) (fun _ _ => True) (fun _ s _ s' => SameOpened s s') (fun _ _ _ _ => True)
    (fun _ _ => True) (fun _ _ => True) (fun _ _ _ => True) where
  refl := fun _ _ => rfl
  trans := fun a b => b.trans a
  opened := fun d => d
  wrefl := fun _ _ => trivial
  wtrans := fun _ _ => trivial
  dw := fun _ => trivial
  weak := fun _ _ => trivial
  valid := fun _ v => v
  valid_pc := fun _ v => v
  ovalid := fun _ _ _ => trivial
  vn := fun _ v => v
  stable := fun _ _ _ dn => dn
  orphan := fun _ _ => trivial
  para_done := fun _ _ => trivial
  remove := fun _ _ _ _ => trivial
  cls := fun {_ s _ s' bp node} _ _ e =>
    ⟨trivial, IFr.apply (Hoare.lift_ok₂ e).2 (bpClose_fr sameOpened_prims (fun _ => rfl) (fun _ => rfl) bp node), trivial⟩
  tp := fun {_ s _ s' b a} _ _ _ e => by
    have := (Hoare.lift_ok₂ (x := transformParagraph [] b.node) e).2
    cases this
    exact ⟨trivial, rfl⟩
  opn := fun {_ s _ s' p parent r} _ e =>
    ⟨trivial, trivial, IFr.apply (Hoare.lift_ok₂ e).2 (bpOpen_sameOpened p parent), fun _ _ => trivial⟩
  blank := fun {_ s s' node bl} _ e => ⟨trivial, trivial, by cases e; rfl⟩
  push := fun _ _ _ => ⟨trivial, trivial⟩
  same := fun _ _ _ => ⟨trivial, trivial⟩
  tocont := fun {_ s c r lb x s'} _ _ e => ⟨trivial, trivial, (toContinuable_opened c r lb s x s' e).1⟩
  cont := fun {_ s _ s' bp node a} _ _ e =>
    ⟨trivial, trivial, IFr.apply (Hoare.lift_ok₂ e).2 (bpContinue_sameOpened bp node)⟩

/-- a plain program run as its lift over the empty second layer -/
theorem lower_ok {α} {m : StateT Unit M α} {m0 : M α} (e : lower m = m0) {s : St} {a : α} {s' : St} (h : m0 s = .ok (a, s')) :
    m () s = .ok ((a, ()), s') := by
  rw [← e] at h
  unfold lower at h
  cases hm : m () s with
  | error x => rw [hm] at h; cases h
  | ok p => rw [hm] at h; cases h; rfl

/-- **At the end of every document the open-block stack is empty**: for EVERY source, if the block phase ends
    normally, no block is open in its final state. -/
theorem run_opened_empty (src : Bytes) (s : St) (h : run src = .ok s) : s.pc.opened = [] := by
  rw [← runT_nil, runT_eqC] at h
  unfold runC at h
  cases hp : parseBlocksC bpClose [] 0 (initSt src) with
  | error e => rw [hp] at h; cases h
  | ok p =>
    rw [hp] at h
    simp only [Except.map] at h
    cases h
    have e := lower_ok (lower_parseBlocksG bpClose [] 0) hp
    exact (runG_disc discU () src trivial () p.2 (by unfold runG; rw [e]; rfl)).2

end GM.Blocks
