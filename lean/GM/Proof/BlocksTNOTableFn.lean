/-
  GM.Proof.BlocksTNOTableFn — what `GM.Table.transform` (tableParagraphTransformer.Transform as a function of the paragraph's
  lines) guarantees, as far as the block driver's line invariants need it:

  * `transform_spec`: when a table is made the lines split as `pre ++ hdr :: dl :: tl`, `dl` is a delimiter row, the
    paragraph keeps `trimLastNewline pre` (`pre` with the last line one byte shorter) and the table's rows are
    `parseRow` of `hdr` and of the lines of `tl`;
  * `parseRow_in`: every cell's line lies inside the row's line, has `start ≤ stop` and no padding, and every recorded
    escaped-pipe position lies inside the row's line;
  * `transform_dash`: a table is only made from a source with a `-` (the witness `dashAt src` of GM.TableX is real).
-/
import GM.Proof.Table
import GM.Proof.BlocksAtx
import GM.Proof.QuoteSimRel

namespace GM.Blocks.TO.Tab
open GM GM.Table

theorem trimLastNewline_snoc : ∀ (init : List Seg) (last : Seg),
    trimLastNewline (init ++ [last]) = init ++ [{ last with stop := last.stop - 1 }]
  | [], _ => rfl
  | [a], last => by simp [trimLastNewline]
  | a :: b :: rest, last => by
    have := trimLastNewline_snoc (b :: rest) last
    simp only [List.cons_append] at this ⊢
    simp only [trimLastNewline, this]

theorem trimLastNewline_nil : trimLastNewline [] = [] := rfl

theorem trimLastNewline_length : ∀ l : List Seg, (trimLastNewline l).length = l.length
  | [] => rfl
  | [_] => rfl
  | _ :: b :: rest => by simp [trimLastNewline, trimLastNewline_length (b :: rest)]

/-! ### Transform: the split of the lines -/

theorem findTable_spec (src : Bytes) (all : List Seg) : ∀ (rest before : List Seg) (prev : Seg) (t : GM.Table.Table),
    all = before ++ prev :: rest → (findTable src all before prev rest).table = some t →
    ∃ pre hdr dl tl al, all = pre ++ hdr :: dl :: tl ∧ parseDelimiter (dl.value src) = some al ∧
      (findTable src all before prev rest).para = trimLastNewline pre ∧
      t = { aligns := al, header := parseRow src hdr al true, rows := tl.map fun l => parseRow src l al false }
  | [], before, prev, t, _, h => by simp [findTable] at h
  | cur :: rest, before, prev, t, hall, h => by
    cases hd : parseDelimiter (cur.value src) with
    | none =>
      simp only [findTable, hd] at h ⊢
      exact findTable_spec src all rest (before ++ [prev]) cur t (by rw [hall]; simp) h
    | some aligns =>
      simp only [findTable, hd] at h ⊢
      split at h
      · simp at h
      · next hlen =>
        simp only [hlen]
        simp only [Bool.false_eq_true, if_false, Option.some.injEq] at h ⊢
        exact ⟨before, prev, cur, rest, aligns, hall, hd, rfl, h.symm⟩

/-- **what Transform does with the lines when it makes a table** -/
theorem transform_spec (src : Bytes) (lines : List Seg) (t : GM.Table.Table) (h : (transform src lines).table = some t) :
    ∃ pre hdr dl tl al, lines = pre ++ hdr :: dl :: tl ∧ parseDelimiter (dl.value src) = some al ∧
      (transform src lines).para = trimLastNewline pre ∧
      t = { aligns := al, header := parseRow src hdr al true, rows := tl.map fun l => parseRow src l al false } := by
  unfold transform at h ⊢
  cases lines with
  | nil => simp at h
  | cons first rest => exact findTable_spec src (first :: rest) rest [] first t rfl h

/-- the cell's line lies in `[lo, hi]`, is not inverted, has no padding; the recorded positions lie in `[lo, hi)` -/
def CellIn (lo hi : Nat) (c : Cell) : Prop :=
  (∀ sg, c.seg = some sg → lo ≤ sg.start ∧ sg.start ≤ sg.stop ∧ sg.stop ≤ hi ∧ sg.padding = 0) ∧
    ∀ p ∈ c.esc, lo ≤ p ∧ p < hi

theorem CellIn.mono {lo hi lo' hi' : Nat} {c : Cell} (h : CellIn lo hi c) (h1 : lo' ≤ lo) (h2 : hi ≤ hi') : CellIn lo' hi' c :=
  ⟨fun sg hs => by have := h.1 sg hs; omega, fun p hp => by have := h.2 p hp; omega⟩

theorem slice_length_le (src : Bytes) (a b : Nat) : (GM.Table.slice src a b).length ≤ b - a := by
  unfold GM.Table.slice; simp only [List.length_take, List.length_drop]; omega

theorem slice_mem {src : Bytes} {a b : Nat} {x : UInt8} (h : x ∈ GM.Table.slice src a b) : x ∈ src :=
  List.mem_of_mem_drop (List.mem_of_mem_take h)

theorem trimLeft_in (src : Bytes) (s : Seg) (h : s.start ≤ s.stop) :
    s.start ≤ (s.trimLeft src).start ∧ (s.trimLeft src).start ≤ (s.trimLeft src).stop ∧ (s.trimLeft src).stop = s.stop ∧
      (s.trimLeft src).padding = 0 := by
  have h1 := GM.Blocks.trimLeftSpaceLength_le (GM.Table.slice src s.start s.stop)
  have h2 := slice_length_le src s.start s.stop
  refine ⟨Nat.le_add_right _ _, ?_, rfl, rfl⟩
  show s.start + trimLeftSpaceLength (GM.Table.slice src s.start s.stop) ≤ s.stop
  omega

theorem trimRight_in (src : Bytes) (s : Seg) (h : s.start ≤ s.stop) :
    (s.trimRight src).start = s.start ∧ (s.trimRight src).start ≤ (s.trimRight src).stop ∧ (s.trimRight src).stop ≤ s.stop ∧
      (s.padding = 0 → (s.trimRight src).padding = 0) := by
  have h1 := GM.Blocks.trimRightSpaceLength_le (GM.Table.slice src s.start s.stop)
  have h2 := slice_length_le src s.start s.stop
  simp only [Seg.trimRight]
  split
  · exact ⟨rfl, Nat.le_refl _, h, fun _ => rfl⟩
  · next hne =>
    simp only [beq_iff_eq] at hne
    refine ⟨rfl, ?_, Nat.sub_le _ _, fun hp => hp⟩
    show s.start ≤ s.stop - _
    omega

theorem cellSeg_in (src : Bytes) (segStart pos closure : Nat) (h : pos ≤ closure) :
    segStart + pos ≤ (cellSeg src segStart pos closure).start ∧
      (cellSeg src segStart pos closure).start ≤ (cellSeg src segStart pos closure).stop ∧
      (cellSeg src segStart pos closure).stop ≤ segStart + closure ∧ (cellSeg src segStart pos closure).padding = 0 := by
  unfold cellSeg
  obtain ⟨a1, a2, a3, a4⟩ := trimLeft_in src { start := segStart + pos, stop := segStart + closure } (by simp only; omega)
  obtain ⟨b1, b2, b3, b4⟩ := trimRight_in src _ a2
  simp only at a1 a3
  refine ⟨by rw [b1]; exact a1, b2, by omega, b4 a4⟩

theorem scanCell_spec (line : Bytes) (limit segStart closure : Nat) (hb : Bool) (esc : List Nat) (hle : closure ≤ limit) :
    (scanCell line limit segStart closure hb esc).1 ≤ limit ∧
      ∀ p ∈ (scanCell line limit segStart closure hb esc).2, p ∈ esc ∨ (segStart ≤ p ∧ p < segStart + limit) := by
  fun_induction scanCell line limit segStart closure hb esc with
  | case1 closure hb esc h c hb' hq => exact ⟨hle, fun p hp => .inl hp⟩
  | case2 closure hb esc h c hb' hc hq ih =>
    obtain ⟨i1, i2⟩ := ih (by omega)
    refine ⟨i1, fun p hp => ?_⟩
    rcases i2 p hp with h1 | h1
    · split at h1
      · simp only [List.mem_append, List.mem_singleton] at h1
        rcases h1 with h1 | h1
        · exact .inl h1
        · right
          simp only [Bool.or_eq_true, beq_iff_eq, bne_iff_ne, ne_eq, Decidable.not_not, not_or] at hq
          have : closure ≠ 0 := hq.1
          omega
      · exact .inl h1
    · exact .inr h1
  | case3 closure hb esc h c hb' hc ih =>
    exact ih (by omega)
  | case4 closure hb esc h => exact ⟨hle, fun p hp => .inl hp⟩

theorem rowLoop_in (src line : Bytes) (limit segStart : Nat) (aligns : List Align) (isHeader : Bool) (pos i : Nat) :
    ∀ c ∈ rowLoop src line limit segStart aligns isHeader pos i, CellIn segStart (segStart + limit) c := by
  fun_induction rowLoop src line limit segStart aligns isHeader pos i with
  | case1 pos i h hret => intro c hc; cases hc
  | case2 pos i h hret alignment r ih =>
    intro c hc
    simp only [List.mem_cons] at hc
    rcases hc with hc | hc
    · subst hc
      have hge := scanCell_ge line limit segStart pos false []
      obtain ⟨s1, s2⟩ := scanCell_spec line limit segStart pos false [] (Nat.le_of_lt h)
      refine ⟨fun sg hs => ?_, fun p hp => ?_⟩
      · simp only [Option.some.injEq] at hs
        subst hs
        obtain ⟨c1, c2, c3, c4⟩ := cellSeg_in src segStart pos r.1 hge
        have : r.1 ≤ limit := s1
        exact ⟨by omega, c2, by omega, c4⟩
      · rcases s2 p hp with h1 | h1
        · cases h1
        · exact h1
    · exact ih c hc
  | case3 pos i h hh => intro c hc; cases hc
  | case4 pos i h hh =>
    intro c hc
    have := List.eq_of_mem_replicate hc
    subst this
    exact ⟨fun sg hs => by simp [padCell] at hs, fun p hp => by simp [padCell] at hp⟩

/-- **every cell of a row lies inside the row's line** -/
theorem parseRow_in (src : Bytes) (seg : Seg) (aligns : List Align) (isHeader : Bool) (hv : seg.start ≤ seg.stop) :
    ∀ c ∈ parseRow src seg aligns isHeader, CellIn seg.start seg.stop c := by
  intro c hc
  unfold parseRow at hc
  obtain ⟨a1, a2, a3, a4⟩ := trimLeft_in src seg hv
  obtain ⟨b1, b2, b3, b4⟩ := trimRight_in src _ a2
  have hpad := b4 a4
  generalize hS : (seg.trimLeft src).trimRight src = S at hc b1 b2 b3 hpad
  have hlen : (S.value src).length ≤ S.stop - S.start := by
    simp only [Seg.value, hpad, List.replicate_zero, List.nil_append]
    exact slice_length_le src _ _
  have := rowLoop_in src _ _ _ _ _ _ _ c hc
  refine this.mono (by omega) ?_
  split <;> omega

/-! ### the witness -/

theorem value_mem {src : Bytes} {s : Seg} {x : UInt8} (hx : x ≠ 32) (h : x ∈ s.value src) : x ∈ src := by
  simp only [Seg.value, List.mem_append] at h
  rcases h with h | h
  · exact absurd (List.eq_of_mem_replicate h) hx
  · exact slice_mem h

/-- **a table is only made from a source that has a `-`** -/
theorem transform_dash (src : Bytes) (lines : List Seg) (t : GM.Table.Table) (h : (transform src lines).table = some t) :
    (45 : UInt8) ∈ src := by
  obtain ⟨pre, hdr, dl, tl, al, _, hd, _, _⟩ := transform_spec src lines t h
  exact value_mem (by decide) (GM.Proof.Table.parseDelimiter_some hd).2.1

end GM.Blocks.TO.Tab
