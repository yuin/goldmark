/-
  GM.Proof.QuoteSimStats — the blank-line statistics of parseBlocks (parser.go:1032-1049, 1081-1123) in the two runs of
  the C08 simulation. Run B (the prefixed source) visits every open block one level deeper and its Blockquote at level
  0, so while both runs are in the per-line loop at line `k`
      stA = oA ++ cA,   stB = oB ++ (k, 0, false) :: cA shifted by one level
  (`CUR`), where the old parts answer every question about line `k - 1` alike, A at level `j`, B at level `j + 1`
  (`SRelOld`). Consequences: `isBlankLine (k-1) i …` in A equals `isBlankLine (k-1) (i+1) …` in B (`cur_query`) — every
  `openBlocks` call below an opened container gets the same flag; after the pass the new lists are related for line `k`
  (`lst_next`). Lines that A handles in the outer loop add nothing in A and one Blockquote entry in B.
-/
import GM.Model.Blocks

namespace GM.Blocks
open GM GM.Text

def shSt (e : LineStat) : LineStat := { e with level := e.level + 1 }
def bqE (k : Int) : LineStat := { lineNum := k, level := 0, isBlank := false }

def SRelOld (k : Int) (oA oB : List LineStat) : Prop :=
  ∀ j : Int, 0 ≤ j → isBlankLoop (k - 1) (j + 1) oB.reverse = isBlankLoop (k - 1) j oA.reverse

def BelowL (k : Int) (l : List LineStat) : Prop := ∀ e ∈ l, e.lineNum < k

/-- level-0 entries are not blank (and there is no negative level that is) -/
def NB0 (l : List LineStat) : Prop := ∀ e ∈ l, e.level ≤ 0 → e.isBlank = false

theorem isBlankLoop_skip (m lv : Int) (e : LineStat) (rest : List LineStat) (h1 : e.lineNum ≠ m) (h2 : ¬ e.lineNum < m) :
    isBlankLoop m lv (e :: rest) = isBlankLoop m lv rest := by
  have e1 : (e.lineNum == m) = false := by simpa using h1
  simp only [isBlankLoop, e1, Bool.false_and, Bool.false_eq_true, if_false]
  rw [if_neg h2]

theorem isBlankLoop_skip' (m lv : Int) (e : LineStat) (rest : List LineStat) (h0 : e.isBlank = false) (h1 : e.level ≠ lv)
    (h2 : ¬ e.lineNum < m) : isBlankLoop m lv (e :: rest) = isBlankLoop m lv rest := by
  have e1 : (e.level == lv) = false := by simpa using h1
  simp only [isBlankLoop, e1, h0, Bool.and_false, Bool.false_eq_true, if_false]
  rw [if_neg h2]

theorem isBlankLoop_below (m lv : Int) : ∀ (l : List LineStat), (∀ e ∈ l, e.lineNum < m) → isBlankLoop m lv l = false
  | [], _ => rfl
  | e :: rest, h => by
    have hl := h e (List.mem_cons_self ..)
    have e1 : (e.lineNum == m) = false := by
      have : e.lineNum ≠ m := by omega
      simpa using this
    simp only [isBlankLoop, e1, Bool.false_and, Bool.false_eq_true, if_false]
    rw [if_pos hl]

theorem belowL_reverse {k : Int} {l : List LineStat} (h : BelowL k l) : ∀ e ∈ l.reverse, e.lineNum < k :=
  fun e he => h e (List.mem_reverse.mp he)

/-- the same entries one level deeper answer the same, for a question one level deeper -/
theorem isBlankLoop_shift (m j : Int) : ∀ (cs restA restB : List LineStat),
    isBlankLoop m (j + 1) restB = isBlankLoop m j restA →
    isBlankLoop m (j + 1) (cs.map shSt ++ restB) = isBlankLoop m j (cs ++ restA)
  | [], _, _, h => h
  | e :: cs, restA, restB, h => by
    simp only [List.map_cons, List.cons_append]
    have ih := isBlankLoop_shift m j cs restA restB h
    have c1 : decide ((shSt e).level < j + 1) = decide (e.level < j) := by
      show decide (e.level + 1 < j + 1) = decide (e.level < j)
      exact decide_eq_decide.mpr (by constructor <;> intro _ <;> omega)
    have c2 : ((shSt e).level == j + 1) = (e.level == j) := by
      show (e.level + 1 == j + 1) = (e.level == j)
      by_cases hh : e.level = j
      · simp [hh]
      · have : e.level + 1 ≠ j + 1 := by omega
        rw [beq_eq_false_iff_ne.mpr hh, beq_eq_false_iff_ne.mpr this]
    have c3 : (shSt e).lineNum = e.lineNum := rfl
    have c4 : (shSt e).isBlank = e.isBlank := rfl
    simp only [isBlankLoop]
    rw [c1, c2, c3, c4, ih]

theorem isBlankLoop_nb0 (m : Int) : ∀ (l : List LineStat), (∀ e ∈ l, e.level ≤ 0 → e.isBlank = false) →
    isBlankLoop m 0 l = false
  | [], _ => rfl
  | e :: rest, h => by
    have ih := isBlankLoop_nb0 m rest (fun x hx => h x (List.mem_cons_of_mem _ hx))
    have he := h e (List.mem_cons_self ..)
    simp only [isBlankLoop]
    by_cases h1 : (e.lineNum == m && decide (e.level < 0) && e.isBlank) = true
    · simp only [Bool.and_eq_true, decide_eq_true_eq] at h1
      rw [he (by omega)] at h1; cases h1.2
    · rw [if_neg h1]
      by_cases h2 : (e.lineNum == m && e.level == 0) = true
      · rw [if_pos h2]
        simp only [Bool.and_eq_true, beq_iff_eq] at h2
        exact he (by omega)
      · rw [if_neg h2]
        split
        · rfl
        · exact ih

/-- `isBlankLine (k-1) i` on statistics whose last `i + 1` entries belong to line `k`: the question goes to the old part -/
theorem isBlankLine_cur (k i : Int) (hi : 0 ≤ i) (o c : List LineStat) (hc : c.length = i.toNat + 1)
    (hk : ∀ e ∈ c, e.lineNum = k) : isBlankLine (k - 1) i (o ++ c) = isBlankLoop (k - 1) i o.reverse := by
  unfold isBlankLine
  have hlen : (((o ++ c).length : Nat) : Int) - 1 - i = (o.length : Int) := by
    rw [List.length_append, hc]; omega
  simp only [hlen]
  rw [if_neg (by omega)]
  have e1 : ((o.length : Int) + 1).toNat = o.length + 1 := by omega
  rw [e1]
  obtain ⟨c0, cs, hcs⟩ : ∃ c0 cs, c = c0 :: cs := by
    cases c with
    | nil => simp at hc
    | cons a b => exact ⟨a, b, rfl⟩
  subst hcs
  have e2 : (o ++ c0 :: cs).take (o.length + 1) = o ++ [c0] := by
    have e3 : o ++ c0 :: cs = (o ++ [c0]) ++ cs := by simp
    rw [e3, List.take_left' (by simp)]
  rw [e2, List.reverse_append]
  simp only [List.reverse_cons, List.reverse_nil, List.nil_append, List.singleton_append]
  have hk0 := hk c0 (List.mem_cons_self ..)
  exact isBlankLoop_skip _ _ _ _ (by omega) (by omega)

/-- the invariant while both runs are in the per-line loop at line `k`, run A at index `i` -/
def CUR (k i : Int) (stA stB : List LineStat) : Prop :=
  ∃ oA oB cA, stA = oA ++ cA ∧ stB = oB ++ bqE k :: cA.map shSt ∧ cA.length = i.toNat ∧ (∀ e ∈ cA, e.lineNum = k) ∧
    SRelOld k oA oB ∧ BelowL k oA ∧ BelowL k oB ∧ NB0 oA ∧ NB0 oB ∧ (∀ e ∈ cA, e.level = 0 → e.isBlank = false) ∧
    (∀ e ∈ cA, 0 ≤ e.level)

/-- the flags the two runs compute below an opened container agree, and the invariant goes on -/
theorem cur_query {k i : Int} (hi : 0 ≤ i) {stA stB : List LineStat} (h : CUR k i stA stB) (bl : Bool)
    (hbl : i = 0 → bl = false) :
    isBlankLine (k - 1) (i + 1) (stB ++ [{ lineNum := k, level := i + 1, isBlank := bl }]) =
      isBlankLine (k - 1) i (stA ++ [{ lineNum := k, level := i, isBlank := bl }]) ∧
    CUR k (i + 1) (stA ++ [{ lineNum := k, level := i, isBlank := bl }])
      (stB ++ [{ lineNum := k, level := i + 1, isBlank := bl }]) := by
  obtain ⟨oA, oB, cA, hA, hB, hlen, hk, hrel, hbA, hbB, hnA, hnB, hn0, hlv⟩ := h
  have eA : stA ++ [({ lineNum := k, level := i, isBlank := bl } : LineStat)] =
      oA ++ (cA ++ [{ lineNum := k, level := i, isBlank := bl }]) := by rw [hA, List.append_assoc]
  have eB : stB ++ [({ lineNum := k, level := i + 1, isBlank := bl } : LineStat)] =
      oB ++ (bqE k :: (cA ++ [({ lineNum := k, level := i, isBlank := bl } : LineStat)]).map shSt) := by
    rw [hB]; simp [shSt]
  refine ⟨?_, oA, oB, cA ++ [{ lineNum := k, level := i, isBlank := bl }], eA, eB, ?_, ?_, hrel, hbA, hbB, hnA, hnB, ?_, ?_⟩
  · rw [eA, eB]
    rw [isBlankLine_cur k i hi oA _ (by simp [hlen]) (fun e he => by
      rcases List.mem_append.mp he with h | h
      · exact hk e h
      · simp only [List.mem_singleton] at h; rw [h])]
    rw [isBlankLine_cur k (i + 1) (by omega) oB _ (by simp [hlen]; omega) (fun e he => by
      rcases List.mem_cons.mp he with h | h
      · rw [h]; rfl
      · obtain ⟨x, hx, rfl⟩ := List.mem_map.mp h
        rcases List.mem_append.mp hx with h' | h'
        · exact hk x h'
        · simp only [List.mem_singleton] at h'; rw [h']; rfl)]
    exact hrel i hi
  · simp [hlen]; omega
  · intro e he
    rcases List.mem_append.mp he with h | h
    · exact hk e h
    · simp only [List.mem_singleton] at h; rw [h]
  · intro e he hl
    rcases List.mem_append.mp he with h | h
    · exact hn0 e h hl
    · simp only [List.mem_singleton] at h; rw [h] at hl ⊢; exact hbl hl
  · intro e he
    rcases List.mem_append.mp he with h | h
    · exact hlv e h
    · simp only [List.mem_singleton] at h; rw [h]; exact hi

/-- the invariant at the start of line `k` -/
structure LSt (k : Int) (stA stB : List LineStat) : Prop where
  rel : SRelOld k stA stB
  bA : BelowL k stA
  bB : BelowL k stB
  nA : NB0 stA
  nB : NB0 stB

theorem lst_zero : LSt 0 [] [] :=
  ⟨(fun _ _ => rfl), (fun _ h => by cases h), (fun _ h => by cases h), (fun _ h => by cases h), (fun _ h => by cases h)⟩

/-- entering the per-line loop at line `k`: B has visited its Blockquote -/
theorem cur_start {k : Int} {stA stB : List LineStat} (h : LSt k stA stB) : CUR k 0 stA (stB ++ [bqE k]) :=
  ⟨stA, stB, [], (by simp), (by simp), rfl, (fun _ he => by cases he), h.rel, h.bA, h.bB, h.nA, h.nB,
    (fun _ he => by cases he), (fun _ he => by cases he)⟩

theorem nb0_bq {k : Int} {l : List LineStat} (h : NB0 l) : NB0 (l ++ [bqE k]) := by
  intro e he hl
  rcases List.mem_append.mp he with h' | h'
  · exact h e h' hl
  · simp only [List.mem_singleton] at h'; rw [h']; rfl

/-- after the pass (or after a line that A handled in its outer loop: `cA = []`): the invariant for line `k + 1` -/
theorem lst_next {k i : Int} {stA stB : List LineStat} (h : CUR k i stA stB) : LSt (k + 1) stA stB := by
  obtain ⟨oA, oB, cA, hA, hB, _, hk, _, hbA, hbB, hnA, hnB, hn0, hlv⟩ := h
  subst hA hB
  refine ⟨fun j hj => ?_, ?_, ?_, ?_, ?_⟩
  · have e1 : k + 1 - 1 = k := by omega
    rw [e1]
    rw [List.reverse_append, List.reverse_append, List.reverse_cons, ← List.map_reverse, List.append_assoc]
    refine isBlankLoop_shift k j cA.reverse oA.reverse _ ?_
    rw [isBlankLoop_below k j oA.reverse (belowL_reverse hbA)]
    simp only [List.singleton_append]
    rw [isBlankLoop_skip' k (j + 1) (bqE k) oB.reverse rfl (by simp only [bqE]; omega) (by simp only [bqE]; omega)]
    exact isBlankLoop_below k (j + 1) oB.reverse (belowL_reverse hbB)
  · intro e he
    rcases List.mem_append.mp he with h | h
    · have := hbA e h; omega
    · have := hk e h; omega
  · intro e he
    rcases List.mem_append.mp he with h | h
    · have := hbB e h; omega
    · rcases List.mem_cons.mp h with h | h
      · rw [h]; simp only [bqE]; omega
      · obtain ⟨x, hx, rfl⟩ := List.mem_map.mp h
        have := hk x hx
        show x.lineNum < k + 1
        omega
  · intro e he hl
    rcases List.mem_append.mp he with h | h
    · exact hnA e h hl
    · exact hn0 e h (by have := hlv e h; omega)
  · intro e he hl
    rcases List.mem_append.mp he with h | h
    · exact hnB e h hl
    · rcases List.mem_cons.mp h with h | h
      · rw [h]; rfl
      · obtain ⟨x, hx, rfl⟩ := List.mem_map.mp h
        have := hlv x hx
        simp only [shSt] at hl
        omega

theorem lst_nil (k : Int) : LSt k [] [] :=
  ⟨(fun _ _ => rfl), (fun _ h => by cases h), (fun _ h => by cases h), (fun _ h => by cases h), (fun _ h => by cases h)⟩

theorem isBlankLine_nb0 (m : Int) (l : List LineStat) (hne : l ≠ []) (h : NB0 l) : isBlankLine m 0 l = false := by
  unfold isBlankLine
  have hl : 0 < l.length := List.length_pos_iff.mpr hne
  simp only
  rw [if_neg (by omega)]
  exact isBlankLoop_nb0 m _ (fun e he => h e (List.mem_of_mem_take (List.mem_reverse.mp he)))

theorem isBlankLine_nil (m : Int) : isBlankLine m 0 [] = true := rfl

theorem cur_ne {k j : Int} {stA stB : List LineStat} (h : CUR k j stA stB) (hj : 1 ≤ j) : stA ≠ [] := by
  obtain ⟨oA, oB, cA, hA, _, hlen, _⟩ := h
  intro e
  rw [e] at hA
  have : cA = [] := (List.append_eq_nil_iff.mp hA.symm).2
  rw [this] at hlen
  simp only [List.length_nil] at hlen
  omega

end GM.Blocks
