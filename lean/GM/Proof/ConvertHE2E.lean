/-
  GM.Proof.ConvertHE2E — The renderer side of C15 on the composed model: generated ids survive EscapeHTML, the renderer writes `<hN id="…">` for every Heading it visits, the
  Headings of the tree `docTreeH` hands over are those of the block tree with their attribute-store entries, and under `headingsClosedB` / `headingsOnceB`
  they carry, in document order, a duplicate-free list of non-empty generated ids (`closed_headings_spec`, `once_headings_nodup`).
-/
import GM.Model.Ids
import GM.Proof.Ids
import GM.Model.ConvertH
import GM.Model.Render
import GM.Proof.ConvertHMain

section ConvertHEsc
/-
  The ids `ids.Generate` returns consist of `a-z`, `0-9`, `-` only (`generate_idBytes`), so
  util.EscapeHTML leaves them alone (`escapeHTML_generated`): the `id="…"` the renderer writes is the id itself.
-/

namespace GM.ConvertH
open GM GM.Ids

/-- the bytes of a generated id -/
def IdByte (c : UInt8) : Bool := (97 ≤ c && c ≤ 122) || (48 ≤ c && c ≤ 57) || c == 45

theorem escByte_idByte : ∀ c : UInt8, IdByte c = true → escByte c = [c] := by
  apply forall_uint8
  decide +kernel

theorem lower_idByte : ∀ v : UInt8, isAlnum v = true → IdByte (if 65 ≤ v && v ≤ 90 then v + 32 else v) = true := by
  apply forall_uint8
  decide +kernel

theorem slugAux_idBytes : ∀ (v : Bytes) (skip : Nat), ∀ c ∈ slugAux skip v, IdByte c = true
  | [], skip, c, h => by cases skip <;> simp [slugAux] at h
  | b :: rest, skip + 1, c, h => by
    simp only [slugAux] at h
    exact slugAux_idBytes rest skip c h
  | b :: rest, 0, c, h => by
    simp only [slugAux] at h
    split at h
    · exact slugAux_idBytes rest _ c h
    · split at h
      · rename_i ha
        rcases List.mem_cons.1 h with rfl | h
        · exact lower_idByte b ha
        · exact slugAux_idBytes rest 0 c h
      · split at h
        · rcases List.mem_cons.1 h with rfl | h
          · rfl
          · exact slugAux_idBytes rest 0 c h
        · exact slugAux_idBytes rest 0 c h

theorem base_idBytes (v : Bytes) (hd : Bool) : ∀ c ∈ base v hd, IdByte c = true := by
  intro c hc
  unfold base at hc
  simp only at hc
  split at hc
  · split at hc
    · revert c; decide
    · revert c; decide
  · exact slugAux_idBytes _ 0 c hc

theorem digit_idByte (k : Nat) (hk : k < 10) : IdByte (UInt8.ofNat (48 + k)) = true := by
  have : ∀ k : Fin 10, IdByte (UInt8.ofNat (48 + k.val)) = true := by decide
  exact this ⟨k, hk⟩

theorem decAux_idBytes : ∀ (fuel n : Nat) (acc : Bytes), (∀ c ∈ acc, IdByte c = true) → ∀ c ∈ decAux fuel n acc, IdByte c = true
  | 0, _, acc, ha, c, h => by simp only [decAux] at h; exact ha c h
  | fuel + 1, n, acc, ha, c, h => by
    simp only [decAux] at h
    split at h
    · rename_i hn
      rcases List.mem_cons.1 h with rfl | h
      · exact digit_idByte n hn
      · exact ha c h
    · refine decAux_idBytes fuel (n / 10) _ ?_ c h
      intro d hd
      rcases List.mem_cons.1 hd with rfl | hd
      · exact digit_idByte (n % 10) (Nat.mod_lt _ (by decide))
      · exact ha d hd

theorem cand_idBytes (b : Bytes) (i : Nat) (hb : ∀ c ∈ b, IdByte c = true) : ∀ c ∈ cand b i, IdByte c = true := by
  intro c hc
  unfold cand at hc
  rcases List.mem_append.1 hc with h | h
  · exact hb c h
  · rcases List.mem_cons.1 h with rfl | h
    · rfl
    · exact decAux_idBytes _ _ [] (fun _ h => by cases h) c h

theorem generate_idBytes {used : Tbl} {v : Bytes} {hd : Bool} {id : Bytes} {used' : Tbl}
    (hg : generate used v hd = some (id, used')) : ∀ c ∈ id, IdByte c = true := by
  rcases GM.Proof.Ids.generate_bound hg with h | ⟨i, _, _, h, _⟩
  · rw [h]; exact base_idBytes v hd
  · rw [h]; exact cand_idBytes _ i (base_idBytes v hd)

theorem escapeHTML_idBytes : ∀ (v : Bytes), (∀ c ∈ v, IdByte c = true) → escapeHTML v = v
  | [], _ => rfl
  | c :: rest, h => by
    have h1 := escByte_idByte c (h c (List.mem_cons_self ..))
    have h2 := escapeHTML_idBytes rest (fun d hd => h d (List.mem_cons_of_mem _ hd))
    unfold escapeHTML at h2 ⊢
    simp only [List.flatMap_cons, h1, h2, List.singleton_append]

/-- util.EscapeHTML is the identity on every id `Generate` returns -/
theorem escapeHTML_generated {used : Tbl} {v : Bytes} {hd : Bool} {id : Bytes} {used' : Tbl}
    (hg : generate used v hd = some (id, used')) : escapeHTML id = id :=
  escapeHTML_idBytes id (generate_idBytes hg)

end GM.ConvertH
end ConvertHEsc

section ConvertHRender
/-
  The renderer model writes the start tag of every Heading node it visits, with the node's
  attributes: `headingTag level attrs` is a contiguous part of `render rc t` for every `(level, attrs) ∈ rHeadings t`
  (`render_heading_infix`). `rHeadings` follows the renderer's walk (children of a node whose renderer function answers
  WalkSkipChildren — CodeSpan, Image, RawHTML — are not visited). For an attribute list that is exactly `id="v"` the tag is
  `<hN id="escapeHTML v">` (`headingTag_id`): `id` is in html.HeadingAttributeFilter (regenerated table `GM.Gen`).
-/

namespace GM.ConvertH
open GM

/-- the Heading node (level, attributes) of a kind -/
def headingOf (k : GM.Kind) (a : Option (List GM.Attr)) : List (Nat × Option (List GM.Attr)) :=
  match k with
  | .heading lv => [(lv, a)]
  | _ => []

mutual
/-- the Heading nodes the renderer's walk visits, in document order: (level, attributes) -/
def rHeadings : GM.Node → List (Nat × Option (List GM.Attr))
  | .mk k a cs => headingOf k a ++ (if skipsChildren k then [] else rHeadingsL cs)
def rHeadingsL : List GM.Node → List (Nat × Option (List GM.Attr))
  | [] => []
  | t :: rest => rHeadings t ++ rHeadingsL rest
end

/-- what renderHeading writes when entering (html.go:314-320) -/
def headingTag (lv : Nat) (a : Option (List GM.Attr)) : Bytes :=
  strBytes "<h" ++ [UInt8.ofNat (48 + lv)] ++ renderAttrs Gen.HeadingAttributeFilter a ++ [62]

theorem enter_heading (rc : RCfg) (pih : Bool) (next : Option GM.Node) (lv : Nat) (a : Option (List GM.Attr))
    (cs : List GM.Node) : enter rc pih next (.heading lv) a cs = headingTag lv a := by
  simp [enter, handled, headingTag]

theorem infix_of_left {l a : Bytes} (b : Bytes) (h : l <:+: a) : l <:+: a ++ b := by
  obtain ⟨s, t, e⟩ := h
  exact ⟨s, t ++ b, by rw [← e]; simp [List.append_assoc]⟩

theorem infix_of_right {l b : Bytes} (a : Bytes) (h : l <:+: b) : l <:+: a ++ b := by
  obtain ⟨s, t, e⟩ := h
  exact ⟨a ++ s, t, by rw [← e]; simp [List.append_assoc]⟩

mutual
theorem renderNode_heading_infix (rc : RCfg) : ∀ (t : GM.Node) (pih : Bool) (next : Option GM.Node)
    (p : Nat × Option (List GM.Attr)), p ∈ rHeadings t → headingTag p.1 p.2 <:+: renderNode rc pih next t
  | .mk k a cs, pih, next, p, hp => by
    unfold rHeadings at hp
    unfold renderNode
    rcases List.mem_append.1 hp with hp | hp
    · -- the node itself
      unfold headingOf at hp
      split at hp
      · rename_i lv
        rw [List.mem_singleton] at hp
        subst hp
        rw [enter_heading]
        exact infix_of_left _ (infix_of_left _ ⟨[], [], by simp⟩)
      · cases hp
    · split at hp
      · cases hp
      · rename_i hs
        have hs' : skipsChildren k = false := by simpa using hs
        simp only [hs', Bool.and_false, Bool.false_eq_true, if_false]
        exact infix_of_left _ (infix_of_right _ (renderNodes_heading_infix rc cs _ p hp))
theorem renderNodes_heading_infix (rc : RCfg) : ∀ (ts : List GM.Node) (pih : Bool)
    (p : Nat × Option (List GM.Attr)), p ∈ rHeadingsL ts → headingTag p.1 p.2 <:+: renderNodes rc pih ts
  | [], _, p, hp => by unfold rHeadingsL at hp; cases hp
  | t :: rest, pih, p, hp => by
    unfold rHeadingsL at hp
    unfold renderNodes
    rcases List.mem_append.1 hp with hp | hp
    · exact infix_of_left _ (renderNode_heading_infix rc t _ _ p hp)
    · exact infix_of_right _ (renderNodes_heading_infix rc rest _ p hp)
end

theorem render_heading_infix (rc : RCfg) (t : GM.Node) (p : Nat × Option (List GM.Attr)) (hp : p ∈ rHeadings t) :
    headingTag p.1 p.2 <:+: render rc t := renderNode_heading_infix rc t false none p hp

/-- the attribute list `id="v"` as the renderer sees it -/
def idAttr (v : Bytes) : Option (List GM.Attr) := some [{ name := Attr.nameId, value := some v }]

/-- `<hN id="v">` (` id="` = 32 105 100 61 34, `">` = 34 62) -/
def idTag (lv : Nat) (v : Bytes) : Bytes :=
  strBytes "<h" ++ [UInt8.ofNat (48 + lv)] ++ [32, 105, 100, 61, 34] ++ escapeHTML v ++ [34, 62]

theorem headingTag_id (lv : Nat) (v : Bytes) : headingTag lv (idAttr v) = idTag lv v := by
  have hm : Attr.nameId ∈ Gen.HeadingAttributeFilter := by decide
  simp [headingTag, idAttr, idTag, renderAttrs, renderAttrList, renderAttr, hm]
  simp [Attr.nameId]

/-! ### visited Headings are Headings -/

mutual
theorem rHeadings_sub : ∀ (t : GM.Node) (p : Nat × Option (List GM.Attr)), p ∈ rHeadings t → p.2 ∈ headingAttrs t
  | .mk k a cs, p, hp => by
    unfold rHeadings at hp
    unfold headingAttrs
    rcases List.mem_append.1 hp with hp | hp
    · unfold headingOf at hp
      split at hp
      · rw [List.mem_singleton] at hp
        subst hp
        simp [isHeadingKind]
      · cases hp
    · split at hp
      · cases hp
      · exact List.mem_append_right _ (rHeadingsL_sub cs p hp)
theorem rHeadingsL_sub : ∀ (ts : List GM.Node) (p : Nat × Option (List GM.Attr)), p ∈ rHeadingsL ts → p.2 ∈ headingAttrsL ts
  | [], p, hp => by unfold rHeadingsL at hp; cases hp
  | t :: rest, p, hp => by
    unfold rHeadingsL at hp
    unfold headingAttrsL
    rcases List.mem_append.1 hp with hp | hp
    · exact List.mem_append_left _ (rHeadings_sub t p hp)
    · exact List.mem_append_right _ (rHeadingsL_sub rest p hp)
end

end GM.ConvertH
end ConvertHRender

section ConvertHTree
/-
  The Heading nodes of the tree `docTreeH` hands to the renderer are exactly the Heading nodes of
  the block tree, in document order, each with the attribute store's entry for that node (`docTreeH_headings`): inline
  children are never Headings, `blockKind` answers `.heading` exactly for Heading block nodes.
-/

namespace GM.ConvertH
open GM GM.Text GM.Blocks GM.Convert

theorem ebind_ok {ε α β} {x : Except ε α} {f : α → Except ε β} {b : β} (h : x >>= f = .ok b) :
    ∃ a, x = .ok a ∧ f a = .ok b := by
  cases x with
  | error e => simp [bind, Except.bind] at h
  | ok a => exact ⟨a, rfl, h⟩

theorem liftErr_ok {α} {f : Panic → Err} {x : Except Panic α} {a : α} (h : liftErr f x = .ok a) : x = .ok a := by
  cases x with
  | error e => simp [liftErr] at h
  | ok v => simp only [liftErr, Except.ok.injEq] at h; rw [h]

theorem headingAttrsL_append : ∀ (a b : List GM.Node), headingAttrsL (a ++ b) = headingAttrsL a ++ headingAttrsL b
  | [], b => by simp [headingAttrsL]
  | x :: a, b => by simp only [List.cons_append, headingAttrsL, headingAttrsL_append a b, List.append_assoc]

mutual
theorem inlineTree_noHeading (src : Bytes) : ∀ (n : GM.Inl.Node) (t : GM.Node), inlineTree src n = .ok t → headingAttrs t = []
  | .text seg soft hard raw, t, h => by
    unfold inlineTree at h
    obtain ⟨v, _, h⟩ := ebind_ok h
    cases h; simp [headingAttrs, headingAttrsL, isHeadingKind]
  | .codeSpan kids, t, h => by
    unfold inlineTree at h
    obtain ⟨cs, hc, h⟩ := ebind_ok h
    cases h; simp [headingAttrs, isHeadingKind, inlineTrees_noHeading src kids cs hc]
  | .emphasis lv kids, t, h => by
    unfold inlineTree at h
    obtain ⟨cs, hc, h⟩ := ebind_ok h
    cases h; simp [headingAttrs, isHeadingKind, inlineTrees_noHeading src kids cs hc]
  | .link im d ti kids, t, h => by
    unfold inlineTree at h
    obtain ⟨cs, hc, h⟩ := ebind_ok h
    cases h
    cases im <;> simp [headingAttrs, isHeadingKind, inlineTrees_noHeading src kids cs hc]
  | .autoLink email seg, t, h => by
    unfold inlineTree at h
    obtain ⟨v, _, h⟩ := ebind_ok h
    cases h; simp [headingAttrs, headingAttrsL, isHeadingKind]
  | .rawHTML segs, t, h => by
    unfold inlineTree at h
    obtain ⟨v, _, h⟩ := ebind_ok h
    cases h; simp [headingAttrs, headingAttrsL, isHeadingKind]
  | .delim _ _, t, h => by
    unfold inlineTree at h
    cases h; simp [headingAttrs, headingAttrsL, isHeadingKind]
  | .label _ _ _, t, h => by
    unfold inlineTree at h
    cases h; simp [headingAttrs, headingAttrsL, isHeadingKind]
theorem inlineTrees_noHeading (src : Bytes) : ∀ (ns : List GM.Inl.Node) (ts : List GM.Node),
    inlineTrees src ns = .ok ts → headingAttrsL ts = []
  | [], ts, h => by
    unfold inlineTrees at h
    cases h; simp [headingAttrsL]
  | n :: rest, ts, h => by
    unfold inlineTrees at h
    obtain ⟨t, ht, h⟩ := ebind_ok h
    obtain ⟨ts', hts, h⟩ := ebind_ok h
    cases h
    simp [headingAttrsL, inlineTree_noHeading src n t ht, inlineTrees_noHeading src rest ts' hts]
end

theorem blockKind_heading (src : Bytes) (n : Blocks.Node) (k : GM.Kind) (h : blockKind src n = .ok k) :
    isHeadingKind k = (n.kind == .heading) := by
  unfold blockKind at h
  split at h
  all_goals (rename_i hk; simp only [hk])
  all_goals simp only [bind, Except.bind, pure, Except.pure] at h
  all_goals repeat' (split at h)
  all_goals (try cases h)
  all_goals rfl

mutual
theorem docTreeH_headings (hs : HS) (guard : Bool) (env : GM.Inl.Env) (src : Bytes) : ∀ (t : TreeH) (n : GM.Node),
    docTreeH hs guard env src t = .ok n → headingAttrs n = (headingIds t).map (treeAttrs hs)
  | .node id bn cs, n, h => by
    unfold docTreeH at h
    obtain ⟨bs, hbs, h⟩ := ebind_ok h
    obtain ⟨kids, _, h⟩ := ebind_ok h
    obtain ⟨is, his, h⟩ := ebind_ok h
    obtain ⟨k, hk, h⟩ := ebind_ok h
    cases h
    have h1 := docTreesH_headings hs guard env src cs bs hbs
    have h2 := inlineTrees_noHeading src kids is (liftErr_ok his)
    have h3 := blockKind_heading src bn k (liftErr_ok hk)
    simp only [headingAttrs, headingIds, headingAttrsL_append, h1, h2, h3, List.append_nil, List.map_append]
    split <;> simp
theorem docTreesH_headings (hs : HS) (guard : Bool) (env : GM.Inl.Env) (src : Bytes) : ∀ (ts : List TreeH) (ns : List GM.Node),
    docTreesH hs guard env src ts = .ok ns → headingAttrsL ns = (headingIdsL ts).map (treeAttrs hs)
  | [], ns, h => by
    unfold docTreesH at h
    cases h; simp [headingAttrsL, headingIdsL]
  | t :: rest, ns, h => by
    unfold docTreesH at h
    obtain ⟨x, hx, h⟩ := ebind_ok h
    obtain ⟨xs, hxs, h⟩ := ebind_ok h
    cases h
    simp only [headingAttrsL, headingIdsL, List.map_append, docTreeH_headings hs guard env src t x hx,
      docTreesH_headings hs guard env src rest xs hxs]
end

end GM.ConvertH
end ConvertHTree

section ConvertHE2E
/-
  The end-to-end facts behind GM.Props.C15E2E: what `parseDocH true` hands to the renderer
  (`parseDocH_spec`), what an attribute-store entry looks like to the renderer (`treeAttrs_entry`), different nodes carry
  different ids (`attrs_distinct_by_node`), and under the well-formedness hypotheses `headingsClosedB` / `headingsOnceB` the Heading nodes
  of the renderer's tree carry, in document order, a duplicate-free list of non-empty generated ids
  (`closed_headings_spec`, `once_headings_nodup`).
-/

namespace GM.ConvertH
open GM GM.Text GM.Blocks GM.Convert

theorem parseDocH_spec (guard : Bool) (uc : List (Nat × (Bool × Bool))) (src : Bytes) (t : GM.Node)
    (h : parseDocH true guard uc src = .ok t) :
    ∃ hs st, blockPhaseH true guard src = .ok (hs, st) ∧ HInv hs ∧
      headingAttrs t = (headingIds (finalTree st)).map (treeAttrs hs) := by
  unfold parseDocH at h
  obtain ⟨⟨hs, st⟩, hb, h⟩ := ebind_ok h
  have hb' := liftErr_ok hb
  have hr := runH_on (paragraphTransformers guard) src
  unfold blockPhaseH at hb'
  rw [hb'] at hr
  exact ⟨hs, st, hb', hr.1, docTreeH_headings hs guard _ src _ t h⟩

/-- the id of a node's attribute list -/
def idOf (hs : HS) (i : Nat) : Bytes :=
  match nodeAttrs hs i with
  | some [(_, .bytes v)] => v
  | _ => []

theorem treeAttrs_entry (hs : HS) (hh : HInv hs) (i : Nat) (as : List Attr.PAttr) (h : nodeAttrs hs i = some as) :
    as = idAttrs (idOf hs i) ∧ idOf hs i ≠ [] ∧ treeAttrs hs i = idAttr (idOf hs i) ∧ (i, idAttrs (idOf hs i)) ∈ hs.attrs ∧
      ∃ g ∈ hs.gens, g.node = i ∧ g.id = idOf hs i := by
  have hm := lookup_mem _ _ _ h
  obtain ⟨v, h1, h2, _⟩ := hh.shape _ hm
  obtain ⟨g, hg1, hg2, hg3⟩ := hh.fromGen _ hm
  simp only at h1 hg2 hg3
  subst h1
  have hv : idOf hs i = v := by simp [idOf, h, idAttrs]
  rw [hv]
  refine ⟨rfl, h2, ?_, hm, g, hg1, hg2, ?_⟩
  · simp [treeAttrs, h, idAttrs, idAttr, Attr.toTreeAttr]
  · simp only [idAttrs, List.cons.injEq, Prod.mk.injEq, Attr.Val.bytes.injEq, and_true, true_and] at hg3
    exact hg3.symm

theorem idOf_idBytes (hs : HS) (hh : HInv hs) (i : Nat) (as : List Attr.PAttr) (h : nodeAttrs hs i = some as) :
    ∀ c ∈ idOf hs i, IdByte c = true := by
  obtain ⟨_, _, _, _, g, hg, _, hgi⟩ := treeAttrs_entry hs hh i as h
  obtain ⟨used, tbl, hgen⟩ := hh.genFrom g hg
  rw [← hgi]
  exact generate_idBytes hgen

theorem pairwise_mem {α} {R : α → α → Prop} (sym : ∀ a b, R a b → R b a) : ∀ (l : List α), l.Pairwise R →
    ∀ a ∈ l, ∀ b ∈ l, a ≠ b → R a b
  | [], _, _, ha, _, _, _ => by cases ha
  | x :: rest, hp, a, ha, b, hb, hne => by
    rw [List.pairwise_cons] at hp
    rcases List.mem_cons.1 ha with ea | ha'
    · rcases List.mem_cons.1 hb with eb | hb'
      · exact absurd (ea.trans eb.symm) hne
      · rw [ea]; exact hp.1 _ hb'
    · rcases List.mem_cons.1 hb with eb | hb'
      · rw [eb]; exact sym _ _ (hp.1 _ ha')
      · exact pairwise_mem sym rest hp.2 a ha' b hb' hne

theorem attrs_distinct_by_node (hs : HS) (hh : HInv hs) (i j : Nat) (ai aj : List Attr.PAttr) (hij : i ≠ j)
    (hi : nodeAttrs hs i = some ai) (hj : nodeAttrs hs j = some aj) : ai ≠ aj := by
  have := pairwise_mem (R := fun (a b : Nat × List Attr.PAttr) => a.1 ≠ b.1 ∧ a.2 ≠ b.2)
    (fun a b h => ⟨fun e => h.1 e.symm, fun e => h.2 e.symm⟩) hs.attrs hh.pw
    (i, ai) (lookup_mem _ _ _ hi) (j, aj) (lookup_mem _ _ _ hj) (by intro e; cases e; exact hij rfl)
  exact this.2

theorem idOf_distinct (hs : HS) (hh : HInv hs) (i j : Nat) (hij : i ≠ j)
    (hi : (nodeAttrs hs i).isSome) (hj : (nodeAttrs hs j).isSome) : idOf hs i ≠ idOf hs j := by
  obtain ⟨ai, hi⟩ := Option.isSome_iff_exists.1 hi
  obtain ⟨aj, hj⟩ := Option.isSome_iff_exists.1 hj
  have h1 := (treeAttrs_entry hs hh i ai hi).1
  have h2 := (treeAttrs_entry hs hh j aj hj).1
  have := attrs_distinct_by_node hs hh i j ai aj hij hi hj
  intro e
  rw [h1, h2, e] at this
  exact this rfl

theorem closed_headings_spec (hs : HS) (hh : HInv hs) (T : TreeH) (hc : headingsClosedB hs T = true) :
    (headingIds T).map (treeAttrs hs) = ((headingIds T).map (idOf hs)).map idAttr ∧
      ∀ v ∈ (headingIds T).map (idOf hs), v ≠ [] ∧ ∃ g ∈ hs.gens, g.id = v := by
  unfold headingsClosedB at hc
  have hall' : ∀ i ∈ headingIds T, (nodeAttrs hs i).isSome = true := by
    simpa [List.all_eq_true] using hc
  refine ⟨?_, ?_⟩
  · rw [List.map_map]
    apply List.map_congr_left
    intro i hi
    obtain ⟨as, ha⟩ := Option.isSome_iff_exists.1 (hall' i hi)
    exact (treeAttrs_entry hs hh i as ha).2.2.1
  · intro v hv
    obtain ⟨i, hi, rfl⟩ := List.mem_map.1 hv
    obtain ⟨as, ha⟩ := Option.isSome_iff_exists.1 (hall' i hi)
    obtain ⟨_, h2, _, _, g, hg, _, hg2⟩ := treeAttrs_entry hs hh i as ha
    exact ⟨h2, g, hg, hg2⟩

theorem once_headings_nodup (hs : HS) (hh : HInv hs) (T : TreeH) (hc : headingsClosedB hs T = true)
    (ho : headingsOnceB T = true) : ((headingIds T).map (idOf hs)).Nodup := by
  unfold headingsClosedB at hc
  have hall' : ∀ i ∈ headingIds T, (nodeAttrs hs i).isSome = true := by
    simpa [List.all_eq_true] using hc
  have hnd' : (headingIds T).Nodup := by simpa [headingsOnceB] using ho
  unfold List.Nodup
  rw [List.pairwise_map]
  exact List.Pairwise.imp_of_mem (fun {a b} ha hb hne => idOf_distinct hs hh a b hne (hall' a ha) (hall' b hb)) hnd'

end GM.ConvertH
end ConvertHE2E
