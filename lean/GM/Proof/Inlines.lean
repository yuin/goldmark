/-
  GM.Proof.Inlines — shared lemmas about the inline-phase model (GM.Model.Inlines*): the shape invariant of the
  tree under construction; the per-node properties that the text merge helpers, the delimiter list operations and
  `ProcessDelimiters` keep for all children (`NodeKept`, of which the shape invariant is one); what ProcessDelimiters
  cannot move; the link parser and the loop of parseBlock.
-/
import GM.Proof.InlinesShape
import GM.Proof.InlinesLoopRule

namespace GM.Proof.Inlines
open GM GM.Text GM.Inl

mutual
/-- the shape of a finished or unfinished subtree: no delimiter below it, emphasis levels 1 or 2, code spans
    hold only text, a Link (not an Image) has no Link below it at any depth. Link-label bookkeeping nodes are
    tolerated iff `lab` (they live on until CloseBlock). -/
def wf (lab : Bool) : Node → Bool
  | .text .. => true
  | .codeSpan ks => ks.all isText
  | .emphasis lv ks => (lv == 1 || lv == 2) && wfL lab ks
  | .link im _ _ ks => wfL lab ks && (im || !containsLinkL ks)
  | .autoLink .. => true
  | .rawHTML .. => true
  | .delim .. => false
  | .label .. => lab
def wfL (lab : Bool) : List Node → Bool
  | [] => true
  | n :: rest => wf lab n && wfL lab rest
end

/-- a child of `parent` while the block is being parsed: an open delimiter, or a well-shaped subtree -/
def top (n : Node) : Bool := n.isDelim || wf true n

def topL (l : List Node) : Bool := l.all top

theorem wfL_iff {lab : Bool} {l : List Node} : wfL lab l = true ↔ ∀ n ∈ l, wf lab n = true := by
  induction l with
  | nil => simp [wfL]
  | cons a r ih => simp [wfL, ih]

theorem wfL_append {lab : Bool} {a b : List Node} : wfL lab (a ++ b) = (wfL lab a && wfL lab b) := by
  induction a with
  | nil => simp [wfL]
  | cons x r ih => simp [wfL, ih, Bool.and_assoc]

theorem topL_append {a b : List Node} : topL (a ++ b) = (topL a && topL b) := by
  simp [topL]

theorem topL_cons {a : Node} {b : List Node} : topL (a :: b) = (top a && topL b) := by
  simp [topL]

theorem topL_of_wfL {l : List Node} (h : wfL true l = true) : topL l = true := by
  rw [wfL_iff] at h
  simp only [topL, List.all_eq_true]
  intro n hn
  simp [top, h n hn]

theorem top_text (s : Segment) (a b c : Bool) : top (.text s a b c) = true := by simp [top, wf]
theorem wf_text (lab : Bool) (s : Segment) (a b c : Bool) : wf lab (.text s a b c) = true := by simp [wf]

theorem topL_dropLast {l : List Node} (h : topL l = true) : topL l.dropLast = true := by
  simp only [topL, List.all_eq_true] at *
  intro n hn
  exact h n ((List.dropLast_subset _ hn))

/-! ### MergeOrAppendTextSegment -/

/-- the segment is appended as a Text of its own, or the last child is a Text without soft break that ends where the segment
    starts and is extended over it -/
theorem mergeOrAppend_cases (k : List Node) (s : Segment) :
    mergeOrAppend k s = k ++ [textOf s] ∨
    ∃ ys seg ha ra, k = ys ++ [.text seg false ha ra] ∧ seg.stop = s.start ∧
      mergeOrAppend k s = ys ++ [.text (seg.withStop s.stop) false ha ra] := by
  unfold mergeOrAppend
  split
  · rename_i seg so ha ra hl
    split
    · rename_i hc
      obtain ⟨ys, rfl⟩ := List.getLast?_eq_some_iff.mp hl
      simp only [Bool.and_eq_true, beq_iff_eq, Bool.not_eq_true'] at hc
      obtain ⟨h1, rfl⟩ := hc
      exact .inr ⟨ys, seg, ha, ra, rfl, h1, by simp⟩
    · exact .inl rfl
  · exact .inl rfl

/-- only the last child matters -/
theorem mergeOrAppend_concat (ys : List Node) (x : Node) (s : Segment) :
    mergeOrAppend (ys ++ [x]) s = ys ++ mergeOrAppend [x] s := by
  unfold mergeOrAppend
  simp only [List.getLast?_append, List.getLast?_singleton, Option.some_or, List.dropLast_concat, List.nil_append]
  split
  · split <;> simp
  · simp

theorem mergeOrAppend_append (ys : List Node) {zs : List Node} (hz : zs ≠ []) (s : Segment) :
    mergeOrAppend (ys ++ zs) s = ys ++ mergeOrAppend zs s := by
  rcases List.eq_nil_or_concat zs with rfl | ⟨zs', z, rfl⟩
  · exact absurd rfl hz
  · rw [List.concat_eq_append, ← List.append_assoc, mergeOrAppend_concat, mergeOrAppend_concat, List.append_assoc]

theorem mergeOrAppend_ne_nil (k : List Node) (s : Segment) : mergeOrAppend k s ≠ [] := by
  rcases mergeOrAppend_cases k s with e | ⟨ys, seg, ha, ra, _, _, e⟩ <;> rw [e] <;> simp

theorem mergeOrAppend_wfL {lab : Bool} {kids : List Node} {s : Segment} (h : wfL lab kids = true) :
    wfL lab (mergeOrAppend kids s) = true := by
  rcases mergeOrAppend_cases kids s with e | ⟨ys, seg, ha, ra, rfl, _, e⟩ <;> rw [e]
  · rw [wfL_append, h]; simp [wfL, textOf, wf]
  · rw [wfL_append] at h ⊢; simp only [Bool.and_eq_true] at h ⊢; exact ⟨h.1, by simp [wfL, wf]⟩

theorem removeDelim_wfL {lab : Bool} {pre : List Node} {d : Delim} (h : wfL lab pre = true) :
    wfL lab (removeDelim pre d) = true := by
  unfold removeDelim
  split
  · exact mergeOrAppend_wfL h
  · exact h

/-- the children moved into a new emphasis node come out without a delimiter -/
theorem clearInner_wfL {acc mid : List Node} (ha : wfL true acc = true) (hm : topL mid = true) :
    wfL true (clearInner acc mid) = true := by
  induction mid generalizing acc with
  | nil => simpa [clearInner] using ha
  | cons n rest ih =>
    rw [topL_cons] at hm
    simp only [Bool.and_eq_true] at hm
    cases n with
    | delim id d => simp only [clearInner]; exact ih (removeDelim_wfL ha) hm.2
    | _ =>
      simp only [clearInner]
      apply ih _ hm.2
      rw [wfL_append, ha]
      have := hm.1
      simp [top, Node.isDelim] at this
      simp [wfL, this]

theorem splitFirstDelim_eq {l pre post : List Node} {id : Nat} {d : Delim}
    (h : splitFirstDelim l = some (pre, id, d, post)) : l = pre ++ .delim id d :: post := by
  induction l generalizing pre with
  | nil => simp [splitFirstDelim] at h
  | cons n rest ih =>
    cases n with
    | delim i dd => simp [splitFirstDelim] at h; obtain ⟨rfl, rfl, rfl, rfl⟩ := h; simp
    | _ =>
      simp only [splitFirstDelim] at h
      split at h
      · rename_i p i dd po heq
        simp at h; obtain ⟨rfl, rfl, rfl, rfl⟩ := h
        simp [ih heq]
      · simp at h

theorem splitLastDelim_eq {l pre post : List Node} {id : Nat} {d : Delim}
    (h : splitLastDelim l = some (pre, id, d, post)) : l = pre ++ .delim id d :: post := by
  unfold splitLastDelim at h
  split at h
  · rename_i postR i dd preR heq
    simp at h; obtain ⟨rfl, rfl, rfl, rfl⟩ := h
    have := splitFirstDelim_eq heq
    have h2 := congrArg List.reverse this
    simpa using h2
  · simp at h

theorem splitAtDelim_eq {id : Nat} {l pre post : List Node} {d : Delim}
    (h : splitAtDelim id l = some (pre, d, post)) : l = pre ++ .delim id d :: post := by
  induction l generalizing pre with
  | nil => simp [splitAtDelim] at h
  | cons n rest ih =>
    cases n with
    | delim i dd =>
      simp only [splitAtDelim] at h
      split at h
      · rename_i hi; simp at hi; simp at h; obtain ⟨rfl, rfl, rfl⟩ := h; simp [hi]
      · split at h
        · rename_i p dd2 po heq
          simp at h; obtain ⟨rfl, rfl, rfl⟩ := h
          simp [ih heq]
        · simp at h
    | _ =>
      simp only [splitAtDelim] at h
      split at h
      · rename_i p dd2 po heq
        simp at h; obtain ⟨rfl, rfl, rfl⟩ := h
        simp [ih heq]
      · simp at h

theorem top_delim (id : Nat) (d : Delim) : top (.delim id d) = true := by simp [top, Node.isDelim]

theorem topL_split {pre post : List Node} {n : Node} (h : topL (pre ++ n :: post) = true) :
    topL pre = true ∧ top n = true ∧ topL post = true := by
  rw [topL_append, topL_cons] at h
  simp only [Bool.and_eq_true] at h
  exact ⟨h.1, h.2.1, h.2.2⟩

theorem topL_join {pre post : List Node} {n : Node} (h1 : topL pre = true) (h2 : top n = true)
    (h3 : topL post = true) : topL (pre ++ n :: post) = true := by
  rw [topL_append, topL_cons]; simp [h1, h2, h3]

/-- what lies behind the last delimiter has no delimiter -/
theorem splitFirstDelim_none {l : List Node} (h : splitFirstDelim l = none) : ∀ n ∈ l, n.isDelim = false := by
  induction l with
  | nil => simp
  | cons n rest ih =>
    cases n with
    | delim i dd => simp [splitFirstDelim] at h
    | _ =>
      simp only [splitFirstDelim] at h
      split at h
      · simp at h
      · rename_i heq
        intro m hm
        simp at hm
        rcases hm with rfl | hm
        · simp [Node.isDelim]
        · exact ih heq m hm

theorem splitFirstDelim_pre {l pre post : List Node} {id : Nat} {d : Delim}
    (h : splitFirstDelim l = some (pre, id, d, post)) : ∀ n ∈ pre, n.isDelim = false := by
  induction l generalizing pre with
  | nil => simp [splitFirstDelim] at h
  | cons n rest ih =>
    cases n with
    | delim i dd => simp [splitFirstDelim] at h; obtain ⟨rfl, _⟩ := h; simp
    | _ =>
      simp only [splitFirstDelim] at h
      split at h
      · rename_i p i dd po heq
        simp at h; obtain ⟨rfl, rfl, rfl, rfl⟩ := h
        intro m hm
        simp at hm
        rcases hm with rfl | hm
        · simp [Node.isDelim]
        · exact ih heq m hm
      · simp at h

theorem wfL_of_topL_noDelim {l : List Node} (h : topL l = true) (hn : ∀ n ∈ l, n.isDelim = false) :
    wfL true l = true := by
  rw [wfL_iff]
  intro n hm
  simp only [topL, List.all_eq_true] at h
  have := h n hm
  simp [top, hn n hm] at this
  exact this

theorem calc_range (d c : Delim) : d.calcConsumption c = 0 ∨ d.calcConsumption c = 1 ∨ d.calcConsumption c = 2 := by
  unfold Delim.calcConsumption
  split
  · simp
  · split <;> simp

theorem top_emphasis {c : Int} {ks : List Node} (hc : c = 1 ∨ c = 2) (h : wfL true ks = true) :
    top (.emphasis c ks) = true := by
  rcases hc with rfl | rfl <;> simp [top, wf, h, Node.isDelim]

theorem findOpener_eq (b : Bottom) (cd : Delim) :
    ∀ (preR mid : List Node) (m : Bool) {p1 mid' : List Node} {oid : Nat} {od : Delim} {c : Int} {m' : Bool},
    findOpener b cd preR mid m = (some (p1, oid, od, mid', c), m') →
    preR.reverse ++ mid = p1 ++ .delim oid od :: mid' := by
  intro preR
  induction preR with
  | nil => intro mid m p1 mid' oid od c m' h; simp [findOpener] at h
  | cons n rest ih =>
    intro mid m p1 mid' oid od c m' h
    cases n with
    | delim id d =>
      simp only [findOpener] at h
      split at h
      · simp at h
      · split at h
        · split at h
          · simp at h
            obtain ⟨⟨rfl, rfl, rfl, rfl, rfl⟩, _⟩ := h
            simp
          · have := ih _ _ h; simpa using this
        · have := ih _ _ h; simpa using this
    | _ =>
      simp only [findOpener] at h
      have := ih _ _ h; simpa using this

/-- a match consumes one or two characters -/
theorem findOpener_le2 {b : Bottom} {cd : Delim} :
    ∀ {preR mid : List Node} {m : Bool} {p1 mid' : List Node} {oid : Nat} {od : Delim} {c : Int} {m' : Bool},
    findOpener b cd preR mid m = (some (p1, oid, od, mid', c), m') → c ≤ 2 := by
  intro preR
  induction preR with
  | nil => intro mid m p1 mid' oid od c m' h; simp [findOpener] at h
  | cons n rest ih =>
    intro mid m p1 mid' oid od c m' h
    cases n with
    | delim id d =>
      simp only [findOpener] at h
      split at h
      · simp at h
      · split at h
        · split at h
          · simp at h
            obtain ⟨⟨_, _, rfl, _, rfl⟩, _⟩ := h
            rcases calc_range d cd with h0 | h0 | h0 <;> omega
          · exact ih h
        · exact ih h
    | _ =>
      simp only [findOpener] at h
      exact ih h

/-- the child list a round of the closer loop stands for -/
def wholeOf : CStep → List Node
  | .done kids => kids
  | .next pre cid cd post => pre ++ .delim cid cd :: post
  | .bad => []

theorem advanceCloser_whole (pre post : List Node) : wholeOf (advanceCloser pre post) = pre ++ post := by
  unfold advanceCloser
  split
  · rfl
  · rename_i heq
    simp [wholeOf, splitFirstDelim_eq heq]

end GM.Proof.Inlines

namespace GM.Proof.InlinesDelims
open GM GM.Text GM.Inl GM.Proof.Inlines

def allQ (Q : Node → Prop) (l : List Node) : Prop := ∀ n ∈ l, Q n

/-- a property of nodes that ProcessDelimiters cannot break: a delimiter that has it keeps it when it loses characters and
    hands it on to the Text it becomes, alone or merged into the Text in front; so has the Emphasis node of a match (level
    `consume`, 1 or 2, around what ClearDelimiters leaves of the nodes between) -/
structure NodeKept (Q : Node → Prop) : Prop where
  text : ∀ id d, Q (.delim id d) → Q (textOf d.seg)
  merge : ∀ seg so ha ra id d, Q (.text seg so ha ra) → Q (.delim id d) → Q (.text (seg.withStop d.seg.stop) so ha ra)
  emph : ∀ c mid, 1 ≤ c → c ≤ 2 → allQ Q mid → Q (.emphasis c (clearInner [] mid))
  cons : ∀ id d n, Q (.delim id d) → Q (.delim id (d.consume n))

/-- the case of a property that an Emphasis node of any level inherits from its children, whatever they are -/
structure NodeInv (Q : Node → Prop) : Prop where
  text : ∀ s a b c, Q (.text s a b c)
  emph : ∀ c ks, (∀ k ∈ ks, Q k) → Q (.emphasis c ks)
  cons : ∀ id d n, Q (.delim id d) → Q (.delim id (d.consume n))

variable {Q : Node → Prop}

theorem allQ_append {a b : List Node} : allQ Q (a ++ b) ↔ allQ Q a ∧ allQ Q b := by
  simp only [allQ, List.mem_append]
  constructor
  · intro h; exact ⟨fun n hn => h n (Or.inl hn), fun n hn => h n (Or.inr hn)⟩
  · intro h n hn; rcases hn with hn | hn
    · exact h.1 n hn
    · exact h.2 n hn

theorem allQ_cons {n : Node} {l : List Node} : allQ Q (n :: l) ↔ Q n ∧ allQ Q l := by
  simp [allQ]

theorem allQ_nil : allQ Q [] := by intro n hn; simp at hn

theorem allQ_single {n : Node} : allQ Q [n] ↔ Q n := by simp [allQ]

theorem allQ_reverse {l : List Node} : allQ Q l.reverse ↔ allQ Q l := by simp [allQ]

theorem allQ_dropLast {l : List Node} (h : allQ Q l) : allQ Q l.dropLast :=
  fun n hn => h n (List.dropLast_subset _ hn)

theorem mergeOrAppend_kept {l : List Node} {s : Segment} (ht : Q (textOf s))
    (hm : ∀ seg so ha ra, Q (.text seg so ha ra) → Q (.text (seg.withStop s.stop) so ha ra)) (h : allQ Q l) :
    allQ Q (mergeOrAppend l s) := by
  rcases mergeOrAppend_cases l s with e | ⟨ys, seg, ha, ra, rfl, _, e⟩ <;> rw [e]
  · exact allQ_append.mpr ⟨h, allQ_single.mpr ht⟩
  · have h' := allQ_append.mp h
    exact allQ_append.mpr ⟨h'.1, allQ_single.mpr (hm _ _ _ _ (allQ_single.mp h'.2))⟩

section textClauses
variable (ht : ∀ id d, Q (.delim id d) → Q (textOf d.seg))
  (hm : ∀ seg so ha ra id d, Q (.text seg so ha ra) → Q (.delim id d) → Q (.text (seg.withStop d.seg.stop) so ha ra))
include ht hm

theorem removeDelim_kept {l : List Node} {id : Nat} {d : Delim} (h : allQ Q l) (hd : Q (.delim id d)) :
    allQ Q (removeDelim l d) := by
  unfold removeDelim; split
  · exact mergeOrAppend_kept (ht id d hd) (fun _ _ _ _ hq => hm _ _ _ _ id d hq hd) h
  · exact h

theorem clearInner_kept {acc mid : List Node} (ha : allQ Q acc) (hmid : allQ Q mid) : allQ Q (clearInner acc mid) := by
  induction mid generalizing acc with
  | nil => simpa [clearInner] using ha
  | cons n rest ih =>
    have hh := allQ_cons.mp hmid
    cases n with
    | delim id d => simp only [clearInner]; exact ih (removeDelim_kept ht hm ha hh.1) hh.2
    | _ => simp only [clearInner]; exact ih (allQ_append.mpr ⟨ha, allQ_single.mpr hh.1⟩) hh.2

theorem clearRev_kept (b : Bottom) {l : List Node} (h : allQ Q l) : allQ Q (clearRev b l) := by
  induction l with
  | nil => simpa [clearRev] using h
  | cons n rest ih =>
    have hh := allQ_cons.mp h
    have ihr := ih hh.2
    cases n with
    | delim id d =>
      have ht := ht id d hh.1
      simp only [clearRev]
      split
      · exact h
      · split
        · split
          · split
            · rename_i heq _
              rw [heq] at ihr
              exact allQ_cons.mpr ⟨hm _ _ _ _ id d (allQ_cons.mp hh.2).1 hh.1, (allQ_cons.mp ihr).2⟩
            · exact allQ_cons.mpr ⟨ht, ihr⟩
          · exact allQ_cons.mpr ⟨ht, ihr⟩
        · exact ihr
    | _ => simp only [clearRev]; exact allQ_cons.mpr ⟨hh.1, ihr⟩

theorem clearDelimiters_kept (b : Bottom) {kids : List Node} (h : allQ Q kids) :
    allQ Q (clearDelimiters b kids) := by
  unfold clearDelimiters
  split
  · exact h
  · rename_i pre id d post heq
    rw [splitLastDelim_eq heq] at h
    have h1 := allQ_append.mp h
    have h2 := allQ_cons.mp h1.2
    refine allQ_append.mpr ⟨allQ_reverse.mpr (clearRev_kept ht hm b ?_), h2.2⟩
    exact allQ_cons.mpr ⟨h2.1, allQ_reverse.mpr h1.1⟩

end textClauses

theorem closerStep_kept (I : NodeKept Q) {b : Bottom} {pre post : List Node} {cid : Nat} {cd : Delim}
    (hp : allQ Q pre) (hcd : Q (.delim cid cd)) (hq : allQ Q post) :
    allQ Q (wholeOf (closerStep b pre cid cd post)) := by
  rcases closerStep_cases b pre cid cd post with ⟨e, _⟩ | ⟨_, pre', hpre, e⟩ | ⟨_, p1, oid, od, mid, c, m, pre', hf, hc, rfl, e⟩
  · rw [e]; exact allQ_nil
  · rw [e, advanceCloser_whole]
    refine allQ_append.mpr ⟨?_, hq⟩
    rcases hpre with rfl | rfl
    · exact allQ_append.mpr ⟨hp, allQ_single.mpr hcd⟩
    · exact removeDelim_kept I.text I.merge hp hcd
  · have e0 := findOpener_eq b cd _ _ _ hf
    simp only [List.reverse_reverse, List.append_nil] at e0
    rw [e0] at hp
    have f1 := (allQ_append.mp hp).1
    have f2 := allQ_cons.mp (allQ_append.mp hp).2
    have hpre' : allQ Q ((if (od.consume c).length == 0 then p1 else p1 ++ [.delim oid (od.consume c)]) ++
        [.emphasis c (clearInner [] mid)]) := by
      refine allQ_append.mpr ⟨?_, allQ_single.mpr (I.emph _ _ hc (findOpener_le2 hf) f2.2)⟩
      split
      · exact f1
      · exact allQ_append.mpr ⟨f1, allQ_single.mpr (I.cons _ _ _ f2.1)⟩
    rw [e]
    split
    · rw [advanceCloser_whole]; exact allQ_append.mpr ⟨hpre', hq⟩
    · exact allQ_append.mpr ⟨hpre', allQ_cons.mpr ⟨I.cons _ _ _ hcd, hq⟩⟩

theorem closerLoop_kept (I : NodeKept Q) (b : Bottom) (pre : List Node) (cid : Nat) (cd : Delim) (post : List Node) :
    ∀ {res : List Node}, closerLoop b pre cid cd post = .ok res → allQ Q pre → Q (.delim cid cd) → allQ Q post →
    allQ Q res := by
  fun_induction closerLoop b pre cid cd post with
  | case1 pre cid cd post kids hs =>
    intro res h hp hcd hq
    simp at h; subst h
    have := closerStep_kept I (b := b) hp hcd hq
    rw [hs] at this
    exact this
  | case2 => intro res h; simp at h
  | case3 pre cid cd post pre' cid' cd' post' hs ih =>
    intro res h hp hcd hq
    have := closerStep_kept I (b := b) hp hcd hq
    rw [hs] at this
    simp only [wholeOf] at this
    have h1 := allQ_append.mp this
    have h2 := allQ_cons.mp h1.2
    exact ih h h1.1 h2.1 h2.2

theorem processDelimiters_kept (I : NodeKept Q) {b : Bottom} {kids res : List Node}
    (h : processDelimiters b kids = .ok res) (hk : allQ Q kids) : allQ Q res := by
  unfold processDelimiters at h
  split at h
  · simp at h; subst h; exact hk
  · simp only at h
    split at h
    · simp at h; subst h; exact clearDelimiters_kept I.text I.merge b hk
    · split at h
      · simp at h
      · rename_i pre cd post hs
        split at h
        · rename_i kids' hl
          simp at h; subst h
          have e := splitAtDelim_eq hs
          rw [e] at hk
          have h1 := allQ_append.mp hk
          have h2 := allQ_cons.mp h1.2
          exact clearDelimiters_kept I.text I.merge b (closerLoop_kept I _ _ _ _ _ hl h1.1 h2.1 h2.2)
        · simp at h

theorem NodeInv.kept (I : NodeInv Q) : NodeKept Q where
  text := fun _ _ _ => I.text _ _ _ _
  merge := fun _ _ _ _ _ _ _ _ => I.text _ _ _ _
  emph := fun c _ _ _ hmid =>
    I.emph c _ (clearInner_kept (fun _ _ _ => I.text _ _ _ _) (fun _ _ _ _ _ _ _ _ => I.text _ _ _ _) allQ_nil hmid)
  cons := I.cons

theorem closerStep_allQ (I : NodeInv Q) {b : Bottom} {pre post : List Node} {cid : Nat} {cd : Delim}
    (hp : allQ Q pre) (hcd : Q (.delim cid cd)) (hq : allQ Q post) :
    allQ Q (wholeOf (closerStep b pre cid cd post)) :=
  closerStep_kept I.kept hp hcd hq

theorem processDelimiters_allQ (I : NodeInv Q) {b : Bottom} {kids res : List Node}
    (h : processDelimiters b kids = .ok res) (hk : allQ Q kids) : allQ Q res :=
  processDelimiters_kept I.kept h hk

/-! ### a bottom that is not there: every delimiter is cleared -/

/-- no delimiter among the children is `bottom` -/
def bfree (b : Bottom) (l : List Node) : Prop := ∀ id d, Node.delim id d ∈ l → b ≠ .id id

theorem bfree_inv (b : Bottom) : NodeInv (fun n => ∀ id d, n = Node.delim id d → b ≠ .id id) where
  text := by intro s a b c id d h; simp at h
  emph := by intro c ks _ id d h; simp at h
  cons := by
    intro id d n h id' d' e
    simp at e
    exact h id' d (by rw [e.1])

theorem bfree_allQ {b : Bottom} {l : List Node} :
    bfree b l ↔ allQ (fun n => ∀ id d, n = Node.delim id d → b ≠ .id id) l := by
  constructor
  · intro h n hn id d e; subst e; exact h id d hn
  · intro h id d hm; exact h _ hm id d rfl

theorem clearRev_clears {b : Bottom} {l : List Node} (h : bfree b l) : ∀ n ∈ clearRev b l, n.isDelim = false := by
  induction l with
  | nil => simp [clearRev]
  | cons n rest ih =>
    have ihr := ih (fun id d hm => h id d (by simp [hm]))
    cases n with
    | delim id d =>
      simp only [clearRev]
      split
      · rename_i hb
        exact absurd (by simpa using hb) (h id d (by simp))
      · split
        · split
          · split
            · rename_i heq _
              rw [heq] at ihr
              intro m hm
              simp only [List.mem_cons] at hm
              rcases hm with rfl | hm
              · rfl
              · exact ihr m (by simp [hm])
            · intro m hm
              simp only [List.mem_cons] at hm
              rcases hm with rfl | hm
              · rfl
              · exact ihr m hm
          · intro m hm
            simp only [List.mem_cons] at hm
            rcases hm with rfl | hm
            · rfl
            · exact ihr m hm
        · exact ihr
    | _ =>
      simp only [clearRev]
      intro m hm
      simp only [List.mem_cons] at hm
      rcases hm with rfl | hm
      · rfl
      · exact ihr m hm

theorem splitLastDelim_post {l pre post : List Node} {id : Nat} {d : Delim}
    (h : splitLastDelim l = some (pre, id, d, post)) : ∀ n ∈ post, n.isDelim = false := by
  unfold splitLastDelim at h
  split at h
  · rename_i postR i dd preR hq
    simp at h; obtain ⟨rfl, rfl, rfl, rfl⟩ := h
    intro n hn
    exact splitFirstDelim_pre hq n (by simpa using hn)
  · simp at h

theorem splitLastDelim_none {l : List Node} (h : splitLastDelim l = none) : ∀ n ∈ l, n.isDelim = false := by
  unfold splitLastDelim at h
  split at h
  · simp at h
  · rename_i hnone
    intro n hn
    exact splitFirstDelim_none hnone n (by simpa using hn)

theorem clearDelimiters_clears {b : Bottom} {kids : List Node} (h : bfree b kids) :
    ∀ n ∈ clearDelimiters b kids, n.isDelim = false := by
  unfold clearDelimiters
  split
  · rename_i heq; exact splitLastDelim_none heq
  · rename_i pre id d post heq
    have e := splitLastDelim_eq heq
    intro n hn
    simp only [List.mem_append, List.mem_reverse] at hn
    rcases hn with hn | hn
    · refine clearRev_clears (b := b) (l := .delim id d :: pre.reverse) ?_ n hn
      intro i dd hm
      apply h i dd
      rw [e]
      simp only [List.mem_cons, List.mem_reverse] at hm
      rcases hm with hm | hm
      · simp [hm]
      · simp [hm]
    · exact splitLastDelim_post heq n hn

/-- ProcessDelimiters(bottom) with a `bottom` that is not a delimiter among the children clears them all -/
theorem processDelimiters_clears {b : Bottom} {kids res : List Node} (h : processDelimiters b kids = .ok res)
    (hb : bfree b kids) : ∀ n ∈ res, n.isDelim = false := by
  unfold processDelimiters at h
  split at h
  · rename_i heq; simp at h; subst h; exact splitLastDelim_none heq
  · simp only at h
    split at h
    · simp at h; subst h; exact clearDelimiters_clears hb
    · split at h
      · simp at h
      · rename_i pre cd post hs
        split at h
        · rename_i kids' hl
          simp at h; subst h
          apply clearDelimiters_clears
          have e := splitAtDelim_eq hs
          rw [e] at hb
          have hb' := bfree_allQ.mp hb
          have h1 := allQ_append.mp hb'
          have h2 := allQ_cons.mp h1.2
          exact bfree_allQ.mpr (closerLoop_kept (bfree_inv b).kept _ _ _ _ _ hl h1.1 h2.1 h2.2)
        · simp at h

end GM.Proof.InlinesDelims

namespace GM.Proof.Inlines
open GM GM.Text GM.Inl GM.Proof.InlinesDelims

/-! ### the shape of the children is such a property -/

theorem topL_allQ {l : List Node} : topL l = true ↔ allQ (top · = true) l := by
  simp only [topL, List.all_eq_true, allQ]

theorem top_kept : NodeKept (top · = true) where
  text := fun _ _ _ => rfl
  merge := fun _ _ _ _ _ _ _ _ => rfl
  emph := fun c mid h1 h2 hm =>
    top_emphasis (by omega) (clearInner_wfL (by simp [wfL]) (topL_allQ.mpr hm))
  cons := fun id d _ _ => top_delim id _

theorem mergeOrAppend_topL {kids : List Node} {s : Segment} (h : topL kids = true) :
    topL (mergeOrAppend kids s) = true :=
  topL_allQ.mpr (mergeOrAppend_kept rfl (fun _ _ _ _ _ => rfl) (topL_allQ.mp h))

theorem processDelimiters_topL {b : Bottom} {kids res : List Node} (h : processDelimiters b kids = .ok res)
    (hk : topL kids = true) : topL res = true :=
  topL_allQ.mpr (processDelimiters_kept top_kept h (topL_allQ.mp hk))

/-- ProcessDelimiters(nil, pc): no delimiter is left among the children -/
theorem processDelimiters_nil_wfL {kids res : List Node} (h : processDelimiters .nil kids = .ok res)
    (hk : topL kids = true) : wfL true res = true :=
  wfL_of_topL_noDelim (processDelimiters_topL h hk) (processDelimiters_clears h (fun _ _ _ => by simp))

/-! ### the parsers that only move the reader -/

/-- take a hypothesis `h : (monadic program) = .ok r` apart into its paths -/
macro "mpaths" h:ident : tactic =>
  `(tactic| (
    simp only [bind, Except.bind, pure, Except.pure, throw, throwThe, MonadExceptOf.throw] at $h:ident
    repeat (any_goals (first | contradiction | split at $h:ident))
    all_goals (try (simp only [Except.ok.injEq, Prod.mk.injEq, Option.some.injEq, reduceCtorEq, false_and,
      and_false] at $h:ident))))

theorem parseAutoLink_top {rd rd' : BlockReader} {n : Node} (h : parseAutoLink rd = .ok (some n, rd')) :
    top n = true := by
  obtain ⟨_, _, rfl⟩ := (parseAutoLink_shape rd).node h; rfl

theorem parseEmphasis_top {env : Env} {id : Nat} {rd rd' : BlockReader} {n : Node}
    (h : parseEmphasis env id rd = .ok (some n, rd')) : top n = true := by
  obtain ⟨_, rfl⟩ := (parseEmphasis_shape env id rd).node h; rfl

theorem parseRawHTML_top {rd rd' : BlockReader} {n : Node} (h : parseRawHTML rd = .ok (some n, rd')) :
    top n = true := by
  obtain ⟨_, rfl⟩ := (parseRawHTML_shape rd).node h; rfl

theorem parseCodeSpan_top {rd rd' : BlockReader} {n : Node} (h : parseCodeSpan rd = .ok (some n, rd')) :
    top n = true := by
  rcases (parseCodeSpan_shape rd).node h with ⟨_, rfl⟩ | ⟨ks, rfl, hk⟩
  · rfl
  · simp [top, wf, Node.isDelim, hk]

/-! ### what ProcessDelimiters cannot move: the sequence of nodes other than text, delimiters, emphasis -/

mutual
/-- the subtree with Emphasis nodes opened up and Text / Delimiter nodes dropped -/
def flat : Node → List Node
  | .emphasis _ ks => flatL ks
  | .text .. => []
  | .delim .. => []
  | .codeSpan ks => [.codeSpan ks]
  | .link a b c ks => [.link a b c ks]
  | .autoLink a b => [.autoLink a b]
  | .rawHTML a => [.rawHTML a]
  | .label a b c => [.label a b c]
def flatL : List Node → List Node
  | [] => []
  | n :: rest => flat n ++ flatL rest
end

theorem flatL_append (a b : List Node) : flatL (a ++ b) = flatL a ++ flatL b := by
  induction a with
  | nil => simp [flatL]
  | cons x r ih => simp [flatL, ih]

theorem flatL_text (s : Segment) (a b c : Bool) : flatL [.text s a b c] = [] := by simp [flatL, flat]

theorem flatL_mergeOrAppend (l : List Node) (s : Segment) : flatL (mergeOrAppend l s) = flatL l := by
  rcases mergeOrAppend_cases l s with e | ⟨ys, seg, ha, ra, rfl, _, e⟩ <;> rw [e] <;>
    simp [flatL_append, textOf, flatL_text]

theorem flatL_removeDelim (pre : List Node) (d : Delim) : flatL (removeDelim pre d) = flatL pre := by
  unfold removeDelim; split
  · exact flatL_mergeOrAppend _ _
  · rfl

theorem flatL_clearInner (acc mid : List Node) : flatL (clearInner acc mid) = flatL acc ++ flatL mid := by
  induction mid generalizing acc with
  | nil => simp [clearInner, flatL]
  | cons n rest ih =>
    cases n with
    | delim id d => simp only [clearInner]; rw [ih, flatL_removeDelim]; simp [flatL, flat]
    | _ => simp only [clearInner]; rw [ih, flatL_append]; simp [flatL]

theorem flatL_clearRev (b : Bottom) (l : List Node) : flatL (clearRev b l).reverse = flatL l.reverse := by
  induction l with
  | nil => simp [clearRev]
  | cons n rest ih =>
    cases n with
    | delim id d =>
      simp only [clearRev]
      split
      · rfl
      · split
        · cases rest with
          | nil => simp [clearRev, textOf, flatL, flat]
          | cons t rest' =>
            have hd : flatL (Node.delim id d :: t :: rest').reverse = flatL (t :: rest').reverse := by
              simp [flatL_append, flatL, flat]
            rw [hd]
            cases t with
            | text seg so ha ra =>
              simp only [clearRev] at ih ⊢
              simp only [List.reverse_cons, flatL_append, flatL_text, List.append_nil] at ih ⊢
              split
              · simp only [List.reverse_cons, flatL_append, flatL_text, List.append_nil]; exact ih
              · simp only [List.reverse_cons, flatL_append, textOf, flatL_text, List.append_nil]; exact ih
            | _ =>
              simp only [List.reverse_cons, flatL_append, textOf, flatL_text, List.append_nil]
              simpa [List.reverse_cons, flatL_append] using ih
        · rw [ih]; simp [flatL_append, flatL, flat]
    | _ => simp only [clearRev, List.reverse_cons, flatL_append]; rw [ih]

theorem flatL_clearDelimiters (b : Bottom) (kids : List Node) : flatL (clearDelimiters b kids) = flatL kids := by
  unfold clearDelimiters
  split
  · rfl
  · rename_i pre id d post heq
    rw [flatL_append, flatL_clearRev]
    conv => rhs; rw [splitLastDelim_eq heq]
    simp [flatL_append, flatL, flat]

theorem flatL_delim_mid (a b : List Node) (id : Nat) (d : Delim) :
    flatL (a ++ .delim id d :: b) = flatL a ++ flatL b := by
  simp [flatL_append, flatL, flat]

theorem closerStep_flat {b : Bottom} {pre post : List Node} {cid : Nat} {cd : Delim} {r : CStep}
    (hr : closerStep b pre cid cd post = r) (hne : r ≠ .bad) :
    flatL (wholeOf r) = flatL (pre ++ .delim cid cd :: post) := by
  subst hr
  rcases closerStep_cases b pre cid cd post with ⟨e, _⟩ | ⟨_, pre', hpre, e⟩ | ⟨_, p1, oid, od, mid, c, m, pre', hf, _, rfl, e⟩
  · exact absurd e hne
  · rw [e, advanceCloser_whole, flatL_delim_mid, flatL_append]
    rcases hpre with rfl | rfl
    · rw [flatL_append]; simp [flatL, flat]
    · rw [flatL_removeDelim]
  · have hp := findOpener_eq b cd _ _ _ hf
    simp only [List.reverse_reverse, List.append_nil] at hp
    have hpre' : flatL ((if (od.consume c).length == 0 then p1 else p1 ++ [.delim oid (od.consume c)]) ++
        [.emphasis c (clearInner [] mid)]) = flatL pre := by
      rw [hp, flatL_delim_mid, flatL_append]
      split <;> simp [flatL_append, flatL, flat, flatL_clearInner]
    rw [e]
    split
    · rw [advanceCloser_whole, flatL_delim_mid, flatL_append, hpre']
    · simp only [wholeOf]; rw [flatL_delim_mid, flatL_delim_mid, hpre']

theorem closerLoop_flat (b : Bottom) (pre : List Node) (cid : Nat) (cd : Delim) (post : List Node) :
    ∀ {res : List Node}, closerLoop b pre cid cd post = .ok res →
    flatL res = flatL (pre ++ .delim cid cd :: post) := by
  fun_induction closerLoop b pre cid cd post with
  | case1 pre cid cd post kids hs =>
    intro res h
    simp at h; subst h
    exact closerStep_flat hs (by simp)
  | case2 => intro res h; simp at h
  | case3 pre cid cd post pre' cid' cd' post' hs ih =>
    intro res h
    rw [ih h]
    exact closerStep_flat hs (by simp)

theorem processDelimiters_flat {b : Bottom} {kids res : List Node} (h : processDelimiters b kids = .ok res) :
    flatL res = flatL kids := by
  unfold processDelimiters at h
  split at h
  · simp at h; subst h; rfl
  · simp only at h
    split at h
    · simp at h; subst h; exact flatL_clearDelimiters _ _
    · split at h
      · simp at h
      · rename_i pre cd post hs
        split at h
        · rename_i kids' hl
          simp at h; subst h
          rw [flatL_clearDelimiters, closerLoop_flat _ _ _ _ _ hl, ← splitAtDelim_eq hs]
        · simp at h

mutual
theorem containsLink_flat : ∀ (n : Node), containsLink n = (flat n).any containsLink
  | .text .. => by simp [containsLink, flat]
  | .codeSpan ks => by simp [flat]
  | .emphasis _ ks => by simp only [containsLink, flat]; exact containsLinkL_flat ks
  | .link _ _ _ ks => by simp [flat]
  | .autoLink .. => by simp [containsLink, flat]
  | .rawHTML .. => by simp [containsLink, flat]
  | .delim .. => by simp [containsLink, flat]
  | .label .. => by simp [containsLink, flat]
theorem containsLinkL_flat : ∀ (l : List Node), containsLinkL l = (flatL l).any containsLink
  | [] => by simp [containsLinkL, flatL]
  | n :: rest => by
    simp only [containsLinkL, flatL, List.any_append]
    rw [containsLink_flat n, containsLinkL_flat rest]
end

mutual
theorem hasLabel_flat : ∀ (n : Node), hasLabel n = false → ∀ m ∈ flat n, m.isLabel = false
  | .text .., _ => by simp [flat]
  | .codeSpan ks, _ => by simp [flat, Node.isLabel]
  | .emphasis _ ks, h => by simp only [hasLabel] at h; simp only [flat]; exact hasLabelL_flat ks h
  | .link .., _ => by simp [flat, Node.isLabel]
  | .autoLink .., _ => by simp [flat, Node.isLabel]
  | .rawHTML .., _ => by simp [flat, Node.isLabel]
  | .delim .., _ => by simp [flat]
  | .label .., h => by simp [hasLabel] at h
theorem hasLabelL_flat : ∀ (l : List Node), hasLabelL l = false → ∀ m ∈ flatL l, m.isLabel = false
  | [], _ => by simp [flatL]
  | n :: rest, h => by
    simp only [hasLabelL, Bool.or_eq_false_iff] at h
    intro m hm
    simp only [flatL, List.mem_append] at hm
    rcases hm with hm | hm
    · exact hasLabel_flat n h.1 m hm
    · exact hasLabelL_flat rest h.2 m hm
end

theorem takeWhile_prefix {α : Type} (p : α → Bool) (u v : List α) (x : α) (hu : ∀ n ∈ u, p n = true) (hx : p x = false) :
    (u ++ x :: v).takeWhile p = u := by
  induction u with
  | nil => simp [hx]
  | cons a r ih =>
    have ha := hu a (by simp)
    simp only [List.cons_append, List.takeWhile_cons, ha, if_true]
    rw [ih (fun n hn => hu n (by simp [hn]))]

/-- two decompositions of one list at its last label agree on what follows -/
theorem last_label_suffix {a b a' b' : List Node} {x x' : Node} (h : a ++ x :: b = a' ++ x' :: b')
    (hx : x.isLabel = true) (hx' : x'.isLabel = true) (hb : ∀ n ∈ b, n.isLabel = false)
    (hb' : ∀ n ∈ b', n.isLabel = false) : b = b' := by
  have h2 := congrArg List.reverse h
  simp only [List.reverse_append, List.reverse_cons, List.append_assoc, List.singleton_append] at h2
  have t1 := takeWhile_prefix (fun n : Node => !n.isLabel) b.reverse a.reverse x
    (by intro n hn; simp [hb n (by simpa using hn)]) (by simp [hx])
  have t2 := takeWhile_prefix (fun n : Node => !n.isLabel) b'.reverse a'.reverse x'
    (by intro n hn; simp [hb' n (by simpa using hn)]) (by simp [hx'])
  rw [h2, t2] at t1
  have := congrArg List.reverse t1
  simpa using this.symm

/-- `processLinkLabel` leaves well-shaped children, answers children without a delimiter, and these contain a Link exactly
    if the children behind `last` did before -/
theorem processLinkLabel_inv {st st' : St} {post : List Node}
    (h : processLinkLabel st = .ok (post, st')) (hk : topL st.kids = true) :
    topL st'.kids = true ∧ wfL true post = true ∧
    ∀ pre0 x0 post0, splitLastLabel st.kids = some (pre0, x0, post0) → containsLinkL post = containsLinkL post0 := by
  obtain ⟨kids, pre, lid, lseg, im, hp, e, hd, hl, hl0, rfl⟩ := processLinkLabelG_cases processDelimiters st _ h
  have hfl := processDelimiters_flat hp
  have hk' := processDelimiters_topL hp hk
  rw [e] at hk' hfl
  obtain ⟨q1, q2, q3⟩ := topL_split hk'
  refine ⟨?_, ?_, ?_⟩
  · simp only; rw [topL_append, q1]; simp [topL, q2]
  · apply wfL_of_topL_noDelim q3
    intro n hn
    simp only [List.any_eq_false] at hd
    simpa using hd n hn
  · intro pre0 ⟨i0, sg0, im0⟩ post0 hs0
    rw [splitLastLabel_eq hs0] at hfl
    simp only [flatL_append, flatL, flat, List.cons_append, List.nil_append] at hfl
    have := last_label_suffix hfl (by simp [Node.isLabel]) (by simp [Node.isLabel])
      (hasLabelL_flat _ hl) (hasLabelL_flat _ (hl0 _ _ _ hs0))
    rw [containsLinkL_flat, containsLinkL_flat post0, this]

theorem top_link {im : Bool} {d : Bytes} {t : Option Bytes} {ks : List Node} (h : wfL true ks = true)
    (hl : (im || !containsLinkL ks) = true) : top (.link im d t ks) = true := by
  simp only [top, wf, h, Node.isDelim, Bool.true_and, Bool.false_or]; exact hl

/-- the invariant a parser call keeps: the children stay well-shaped and the node it returns is a legal child -/
def ParserOK (r : Option Node × St) : Prop :=
  topL r.2.kids = true ∧ ∀ n, r.1 = some n → top n = true

theorem parseLink_inv {env : Env} {st : St} {r : Option Node × St}
    (h : parseLink env st = .ok r) (hk : topL st.kids = true) : ParserOK r := by
  refine parseLinkG_keeps (pd := processDelimiters) (K := (topL · = true)) (N := (top · = true)) (fun _ _ _ => rfl) ?_ ?_
    env st hk r h
  · intro pre id seg im post hk
    obtain ⟨q1, _, q3⟩ := topL_split hk
    rw [topL_append, mergeOrAppend_topL q1, q3]; rfl
  · intro st pre0 id seg im post0 post st' hk hs hi h
    obtain ⟨a1, a2, a3⟩ := processLinkLabel_inv h hk
    exact ⟨topL_dropLast a1, fun d t => top_link a2 (by rw [a3 _ _ _ hs]; exact hi)⟩

theorem liftR_inv {st : St} {x : RRes} {r : Option Node × St} (h : liftR st x = .ok r)
    (hk : topL st.kids = true) (hn : ∀ n rd, x = .ok (some n, rd) → top n = true) : ParserOK r := by
  unfold liftR at h
  split at h
  · rename_i n rd
    simp at h; subst h
    exact ⟨hk, by intro m hm; simp at hm; subst hm; exact hn _ _ rfl⟩
  · contradiction

theorem ipParse_inv {env : Env} {ip : Ip} {st : St} {r : Option Node × St}
    (h : ip.parse env st = .ok r) (hk : topL st.kids = true) : ParserOK r := by
  cases ip with
  | codeSpan => exact liftR_inv h hk (fun _ _ e => parseCodeSpan_top e)
  | link => exact parseLink_inv h hk
  | autoLink => exact liftR_inv h hk (fun _ _ e => parseAutoLink_top e)
  | rawHTML => exact liftR_inv h hk (fun _ _ e => parseRawHTML_top e)
  | emphasis => exact liftR_inv (st := { st with nextId := _ }) h hk (fun _ _ e => parseEmphasis_top e)

theorem eolText_inv {src : Bytes} {flags : Nat} {diff : Segment} {kids : List Node} {r : Segment × List Node}
    (h : eolText src flags diff kids = .ok r) (hk : topL kids = true) : topL r.2 = true := by
  unfold eolText at h
  split at h
  · simp [pure, Except.pure] at h; subst h; exact hk
  · obtain ⟨seg, _, h⟩ := bind_ok h
    split at h
    · split at h
      · split at h
        · obtain ⟨t', _, h⟩ := bind_ok h
          simp [pure, Except.pure] at h; subst h
          simp only; rw [topL_append, topL_dropLast hk]; simp [topL, top_text]
        · simp [pure, Except.pure] at h; subst h; exact hk
      · simp [pure, Except.pure] at h; subst h; exact hk
    · simp [pure, Except.pure] at h; subst h; exact hk

theorem endOfLine_inv {flags : Nat} {l : Int} {s : Inl.Scan} {st' : St} (h : endOfLine flags l s = .ok st')
    (hk : topL s.st.kids = true) : topL st'.kids = true := by
  unfold endOfLine at h
  obtain ⟨rd, _, h⟩ := bind_ok h
  dsimp only at h
  split at h
  · simp [pure, Except.pure] at h; subst h; exact hk
  · obtain ⟨diff, _, h⟩ := bind_ok h
    obtain ⟨tk, htk, h⟩ := bind_ok h
    obtain ⟨rd', _, h⟩ := bind_ok h
    simp [pure, Except.pure] at h; subst h
    simp only; rw [topL_append, eolText_inv htk hk]; simp [topL, top_text]

/-- "the children are legal children" is an invariant of the loop's own operations (GM.Proof.InlinesLoopRule) -/
theorem topL_loopKeeps : LoopKeeps (fun st => topL st.kids = true) (fun _ => True) where
  peek := fun hs _ _ => ⟨hs, trivial⟩
  advance := fun _ hs _ _ => ⟨hs, trivial⟩
  merge := fun hs _ _ _ => mergeOrAppend_topL hs
  restore := fun _ _ hs _ _ _ => hs
  eol := fun _ _ _ hs _ _ h => endOfLine_inv h hs

theorem ParserOK.pout {r : Option Node × St} (h : ParserOK r) : POut (fun st => topL st.kids = true) r :=
  ⟨h.1, fun nd hnd => by
    show topL (r.2.kids ++ [nd]) = true
    rw [topL_append, h.1]; simp [topL, h.2 nd hnd]⟩

theorem lineLoop_inv {env : Env} (fuel : Nat) (esc : Bool) (st : St) {st' : St} (h : lineLoop env fuel esc st = .ok st')
    (hk : topL st.kids = true) : topL st'.kids = true :=
  topL_loopKeeps.lineLoop (fun _ _ hs _ hr => (ipParse_inv hr hs).pout) fuel esc hk st' h

/-! ### CloseBlock and the whole phase -/

theorem all_isText_closeLabelsL : ∀ (ks : List Node), ks.all isText = true → closeLabelsL ks = ks
  | [], _ => by simp [closeLabelsL]
  | k :: rest, h => by
    simp only [List.all_cons, Bool.and_eq_true] at h
    obtain ⟨h1, h2⟩ := h
    cases k <;> simp [isText] at h1
    simp [closeLabelsL, closeLabels, all_isText_closeLabelsL rest h2]

mutual
theorem containsLink_closeLabels : ∀ (n : Node), containsLink (closeLabels n) = containsLink n
  | .text .. => by simp [closeLabels]
  | .codeSpan ks => by simp only [closeLabels, containsLink]; exact containsLinkL_closeLabelsL ks
  | .emphasis _ ks => by simp only [closeLabels, containsLink]; exact containsLinkL_closeLabelsL ks
  | .link true _ _ ks => by simp only [closeLabels, containsLink]; exact containsLinkL_closeLabelsL ks
  | .link false _ _ ks => by simp [closeLabels, containsLink]
  | .autoLink .. => by simp [closeLabels]
  | .rawHTML .. => by simp [closeLabels]
  | .delim .. => by simp [closeLabels]
  | .label .. => by simp [closeLabels, textOf, containsLink]
theorem containsLinkL_closeLabelsL : ∀ (l : List Node), containsLinkL (closeLabelsL l) = containsLinkL l
  | [] => by simp [closeLabelsL]
  | n :: rest => by
    simp only [closeLabelsL, containsLinkL]
    rw [containsLink_closeLabels n, containsLinkL_closeLabelsL rest]
end

mutual
theorem closeLabels_wf : ∀ (n : Node), wf true n = true → wf false (closeLabels n) = true
  | .text .., _ => by simp [closeLabels, wf]
  | .codeSpan ks, h => by
    simp only [wf] at h
    simp [closeLabels, wf, all_isText_closeLabelsL ks h, h]
  | .emphasis lv ks, h => by
    simp only [wf, Bool.and_eq_true] at h
    simp only [closeLabels, wf, Bool.and_eq_true]
    exact ⟨h.1, closeLabelsL_wf ks h.2⟩
  | .link _ _ _ ks, h => by
    simp only [wf, Bool.and_eq_true] at h
    simp only [closeLabels, wf, Bool.and_eq_true]
    exact ⟨closeLabelsL_wf ks h.1, by rw [containsLinkL_closeLabelsL]; exact h.2⟩
  | .autoLink .., _ => by simp [closeLabels, wf]
  | .rawHTML .., _ => by simp [closeLabels, wf]
  | .delim .., h => by simp [wf] at h
  | .label .., _ => by simp [closeLabels, textOf, wf]
theorem closeLabelsL_wf : ∀ (l : List Node), wfL true l = true → wfL false (closeLabelsL l) = true
  | [], _ => by simp [closeLabelsL, wfL]
  | n :: rest, h => by
    simp only [wfL, Bool.and_eq_true] at h
    simp only [closeLabelsL, wfL, Bool.and_eq_true]
    exact ⟨closeLabels_wf n h.1, closeLabelsL_wf rest h.2⟩
end

/-- the inline tree of a block is well-shaped: no bookkeeping node, emphasis levels 1 or 2, code spans hold text -/
theorem parseBlock_wf {env : Env} {src : Bytes} {segs : List Segment} {kids : List Node}
    (h : parseBlock env src segs = .ok kids) : wfL false kids = true := by
  unfold parseBlock at h
  obtain ⟨rd, _, h⟩ := bind_ok h
  obtain ⟨st, hst, h⟩ := bind_ok h
  obtain ⟨ks, hks, h⟩ := bind_ok h
  simp [pure, Except.pure] at h; subst h
  have h1 := lineLoop_inv _ _ _ hst (by simp [topL])
  exact closeLabelsL_wf _ (processDelimiters_nil_wfL hks h1)

/-! ### the readable predicates of GM.Props.Inlines, read off `wf false` -/

mutual
/-- a Delimiter or link-label bookkeeping node occurs in the subtree -/
def hasBookkeeping : Node → Bool
  | .delim .. => true
  | .label .. => true
  | .codeSpan ks => hasBookkeepingL ks
  | .emphasis _ ks => hasBookkeepingL ks
  | .link _ _ _ ks => hasBookkeepingL ks
  | _ => false
def hasBookkeepingL : List Node → Bool
  | [] => false
  | n :: rest => hasBookkeeping n || hasBookkeepingL rest
end

mutual
/-- every Emphasis node of the subtree has level 1 or 2 -/
def emphasisLevelsOK : Node → Bool
  | .emphasis lv ks => (lv == 1 || lv == 2) && emphasisLevelsOKL ks
  | .codeSpan ks => emphasisLevelsOKL ks
  | .link _ _ _ ks => emphasisLevelsOKL ks
  | _ => true
def emphasisLevelsOKL : List Node → Bool
  | [] => true
  | n :: rest => emphasisLevelsOK n && emphasisLevelsOKL rest
end

mutual
/-- every CodeSpan node of the subtree has only Text children -/
def codeSpansHoldText : Node → Bool
  | .codeSpan ks => ks.all isText
  | .emphasis _ ks => codeSpansHoldTextL ks
  | .link _ _ _ ks => codeSpansHoldTextL ks
  | _ => true
def codeSpansHoldTextL : List Node → Bool
  | [] => true
  | n :: rest => codeSpansHoldText n && codeSpansHoldTextL rest
end

theorem all_isText_noBook : ∀ (ks : List Node), ks.all isText = true → hasBookkeepingL ks = false
  | [], _ => by simp [hasBookkeepingL]
  | k :: rest, h => by
    simp only [List.all_cons, Bool.and_eq_true] at h
    obtain ⟨h1, h2⟩ := h
    cases k <;> simp [isText] at h1
    simp [hasBookkeepingL, hasBookkeeping, all_isText_noBook rest h2]

theorem all_isText_levels : ∀ (ks : List Node), ks.all isText = true → emphasisLevelsOKL ks = true
  | [], _ => by simp [emphasisLevelsOKL]
  | k :: rest, h => by
    simp only [List.all_cons, Bool.and_eq_true] at h
    obtain ⟨h1, h2⟩ := h
    cases k <;> simp [isText] at h1
    simp [emphasisLevelsOKL, emphasisLevelsOK, all_isText_levels rest h2]

mutual
theorem wf_noBook : ∀ (n : Node), wf false n = true → hasBookkeeping n = false
  | .text .., _ => by simp [hasBookkeeping]
  | .codeSpan ks, h => by simp only [wf] at h; simp [hasBookkeeping, all_isText_noBook ks h]
  | .emphasis _ ks, h => by
    simp only [wf, Bool.and_eq_true] at h; simp only [hasBookkeeping]; exact wfL_noBook ks h.2
  | .link _ _ _ ks, h => by
    simp only [wf, Bool.and_eq_true] at h; simp only [hasBookkeeping]; exact wfL_noBook ks h.1
  | .autoLink .., _ => by simp [hasBookkeeping]
  | .rawHTML .., _ => by simp [hasBookkeeping]
  | .delim .., h => by simp [wf] at h
  | .label .., h => by simp [wf] at h
theorem wfL_noBook : ∀ (l : List Node), wfL false l = true → hasBookkeepingL l = false
  | [], _ => by simp [hasBookkeepingL]
  | n :: rest, h => by
    simp only [wfL, Bool.and_eq_true] at h
    simp [hasBookkeepingL, wf_noBook n h.1, wfL_noBook rest h.2]
end

mutual
theorem wf_levels : ∀ (n : Node), wf false n = true → emphasisLevelsOK n = true
  | .text .., _ => by simp [emphasisLevelsOK]
  | .codeSpan ks, h => by simp only [wf] at h; simp [emphasisLevelsOK, all_isText_levels ks h]
  | .emphasis _ ks, h => by
    simp only [wf, Bool.and_eq_true] at h
    simp only [emphasisLevelsOK, Bool.and_eq_true]; exact ⟨h.1, wfL_levels ks h.2⟩
  | .link _ _ _ ks, h => by
    simp only [wf, Bool.and_eq_true] at h; simp only [emphasisLevelsOK]; exact wfL_levels ks h.1
  | .autoLink .., _ => by simp [emphasisLevelsOK]
  | .rawHTML .., _ => by simp [emphasisLevelsOK]
  | .delim .., _ => by simp [emphasisLevelsOK]
  | .label .., _ => by simp [emphasisLevelsOK]
theorem wfL_levels : ∀ (l : List Node), wfL false l = true → emphasisLevelsOKL l = true
  | [], _ => by simp [emphasisLevelsOKL]
  | n :: rest, h => by
    simp only [wfL, Bool.and_eq_true] at h
    simp [emphasisLevelsOKL, wf_levels n h.1, wfL_levels rest h.2]
end

mutual
theorem wf_codeSpans : ∀ (n : Node), wf false n = true → codeSpansHoldText n = true
  | .text .., _ => by simp [codeSpansHoldText]
  | .codeSpan ks, h => by simp only [wf] at h; simp [codeSpansHoldText, h]
  | .emphasis _ ks, h => by
    simp only [wf, Bool.and_eq_true] at h; simp only [codeSpansHoldText]; exact wfL_codeSpans ks h.2
  | .link _ _ _ ks, h => by
    simp only [wf, Bool.and_eq_true] at h; simp only [codeSpansHoldText]; exact wfL_codeSpans ks h.1
  | .autoLink .., _ => by simp [codeSpansHoldText]
  | .rawHTML .., _ => by simp [codeSpansHoldText]
  | .delim .., _ => by simp [codeSpansHoldText]
  | .label .., _ => by simp [codeSpansHoldText]
theorem wfL_codeSpans : ∀ (l : List Node), wfL false l = true → codeSpansHoldTextL l = true
  | [], _ => by simp [codeSpansHoldTextL]
  | n :: rest, h => by
    simp only [wfL, Bool.and_eq_true] at h
    simp [codeSpansHoldTextL, wf_codeSpans n h.1, wfL_codeSpans rest h.2]
end

/-! ### ProcessDelimiters cannot panic -/

theorem closerLoop_total (b : Bottom) (pre : List Node) (cid : Nat) (cd : Delim) (post : List Node) :
    (∃ r, closerLoop b pre cid cd post = .ok r) ∨ closerLoop b pre cid cd post = .error .pre := by
  fun_induction closerLoop b pre cid cd post with
  | case1 pre cid cd post kids hs => exact Or.inl ⟨kids, rfl⟩
  | case2 => exact Or.inr rfl
  | case3 pre cid cd post pre' cid' cd' post' hs ih => exact ih

theorem processDelimiters_total (b : Bottom) (kids : List Node) :
    (∃ r, processDelimiters b kids = .ok r) ∨ processDelimiters b kids = .error .pre := by
  unfold processDelimiters
  split
  · exact Or.inl ⟨_, rfl⟩
  · simp only
    split
    · exact Or.inl ⟨_, rfl⟩
    · split
      · exact Or.inr rfl
      · rename_i pre cd post hs
        rcases closerLoop_total b pre _ cd post with ⟨r, hr⟩ | he
        · rw [hr]; exact Or.inl ⟨_, rfl⟩
        · rw [he]; exact Or.inr rfl

mutual
/-- some Link (not Image) node of the subtree has a Link below it, at any depth (through Emphasis, Image, …) -/
def linkInLink : Node → Bool
  | .link false _ _ ks => containsLinkL ks || linkInLinkL ks
  | .link true _ _ ks => linkInLinkL ks
  | .emphasis _ ks => linkInLinkL ks
  | .codeSpan ks => linkInLinkL ks
  | _ => false
def linkInLinkL : List Node → Bool
  | [] => false
  | n :: rest => linkInLink n || linkInLinkL rest
end

theorem all_isText_noLinkInLink : ∀ (ks : List Node), ks.all isText = true → linkInLinkL ks = false
  | [], _ => by simp [linkInLinkL]
  | k :: rest, h => by
    simp only [List.all_cons, Bool.and_eq_true] at h
    obtain ⟨h1, h2⟩ := h
    cases k <;> simp [isText] at h1
    simp [linkInLinkL, linkInLink, all_isText_noLinkInLink rest h2]

mutual
theorem wf_noLinkInLink : ∀ (n : Node), wf false n = true → linkInLink n = false
  | .text .., _ => by simp [linkInLink]
  | .codeSpan ks, h => by simp only [wf] at h; simp [linkInLink, all_isText_noLinkInLink ks h]
  | .emphasis _ ks, h => by
    simp only [wf, Bool.and_eq_true] at h; simp only [linkInLink]; exact wfL_noLinkInLink ks h.2
  | .link true _ _ ks, h => by
    simp only [wf, Bool.and_eq_true] at h; simp only [linkInLink]; exact wfL_noLinkInLink ks h.1
  | .link false _ _ ks, h => by
    simp only [wf, Bool.and_eq_true, Bool.false_or, Bool.not_eq_true'] at h
    simp only [linkInLink, Bool.or_eq_false_iff]
    exact ⟨h.2, wfL_noLinkInLink ks h.1⟩
  | .autoLink .., _ => by simp [linkInLink]
  | .rawHTML .., _ => by simp [linkInLink]
  | .delim .., _ => by simp [linkInLink]
  | .label .., _ => by simp [linkInLink]
theorem wfL_noLinkInLink : ∀ (l : List Node), wfL false l = true → linkInLinkL l = false
  | [], _ => by simp [linkInLinkL]
  | n :: rest, h => by
    simp only [wfL, Bool.and_eq_true] at h
    simp [linkInLinkL, wf_noLinkInLink n h.1, wfL_noLinkInLink rest h.2]
end

/-- every delimiter among the children still has characters (`Length ≥ 1`) -/
def posL (l : List Node) : Prop := ∀ id d, Node.delim id d ∈ l → 1 ≤ d.length

theorem posL_append {a b : List Node} : posL (a ++ b) ↔ posL a ∧ posL b := by
  simp only [posL, List.mem_append]
  constructor
  · intro h; exact ⟨fun id d hm => h id d (Or.inl hm), fun id d hm => h id d (Or.inr hm)⟩
  · intro h id d hm; rcases hm with hm | hm
    · exact h.1 id d hm
    · exact h.2 id d hm

theorem posL_reverse {l : List Node} : posL l.reverse ↔ posL l := by simp [posL]

theorem posL_text (s : Segment) (a b c : Bool) : posL [.text s a b c] := by intro id d hm; simp at hm

theorem posL_nil : posL [] := by intro id d hm; simp at hm

theorem posL_cons {n : Node} {l : List Node} : posL (n :: l) ↔ posL [n] ∧ posL l := by
  have := posL_append (a := [n]) (b := l); simpa using this

theorem posL_delim {id : Nat} {d : Delim} : posL [.delim id d] ↔ 1 ≤ d.length := by
  simp only [posL, List.mem_singleton]
  constructor
  · intro h; exact h id d rfl
  · intro h i dd e; simp at e; obtain ⟨_, rfl⟩ := e; exact h

theorem posL_nondelim {n : Node} (h : n.isDelim = false) : posL [n] := by
  intro id d hm; simp at hm; subst hm; simp [Node.isDelim] at h

/-- `posL` as a property of each child; a Text has it -/
def PosQ (n : Node) : Prop := ∀ id d, n = Node.delim id d → 1 ≤ d.length

theorem posL_allQ {l : List Node} : posL l ↔ allQ PosQ l :=
  ⟨fun h _ hn id d e => h id d (e ▸ hn), fun h id d hm => h _ hm id d rfl⟩

theorem posQ_text (s : Segment) (a b c : Bool) : PosQ (.text s a b c) := fun _ _ e => by cases e

theorem mergeOrAppend_posL {l : List Node} {s : Segment} (h : posL l) : posL (mergeOrAppend l s) :=
  posL_allQ.mpr (mergeOrAppend_kept (posQ_text _ _ _ _) (fun _ _ _ _ _ => posQ_text _ _ _ _) (posL_allQ.mp h))

theorem removeDelim_posL {l : List Node} {d : Delim} (h : posL l) : posL (removeDelim l d) := by
  unfold removeDelim; split
  · exact mergeOrAppend_posL h
  · exact h

theorem clearDelimiters_posL (b : Bottom) {kids : List Node} (h : posL kids) : posL (clearDelimiters b kids) :=
  posL_allQ.mpr (clearDelimiters_kept (fun _ _ _ => posQ_text _ _ _ _) (fun _ _ _ _ _ _ _ _ => posQ_text _ _ _ _) b (posL_allQ.mp h))

/-- the opener found has characters, and the match consumes no more than either side has -/
theorem findOpener_pos (b : Bottom) (cd : Delim) (hcd : 1 ≤ cd.length) :
    ∀ (preR mid : List Node) (m : Bool) {p1 mid' : List Node} {oid : Nat} {od : Delim} {c : Int} {m' : Bool},
    findOpener b cd preR mid m = (some (p1, oid, od, mid', c), m') → posL preR → posL mid →
    posL p1 ∧ posL mid' ∧ 1 ≤ c ∧ c ≤ od.length ∧ c ≤ cd.length := by
  intro preR
  induction preR with
  | nil => intro mid m p1 mid' oid od c m' h; simp [findOpener] at h
  | cons n rest ih =>
    intro mid m p1 mid' oid od c m' h hp hm
    have hh := posL_cons.mp hp
    cases n with
    | delim id d =>
      simp only [findOpener] at h
      split at h
      · simp at h
      · split at h
        · split at h
          · rename_i hc
            simp at h
            obtain ⟨⟨rfl, rfl, rfl, rfl, rfl⟩, _⟩ := h
            have hd : 1 ≤ d.length := posL_delim.mp hh.1
            refine ⟨posL_reverse.mpr hh.2, hm, ?_⟩
            unfold Delim.calcConsumption at hc ⊢
            split
            · rename_i h0; simp [h0] at hc
            · split
              · rename_i h2; simp only [Bool.and_eq_true, decide_eq_true_eq] at h2; omega
              · omega
          · exact ih _ _ h hh.2 (posL_cons.mpr ⟨hh.1, hm⟩)
        · exact ih _ _ h hh.2 (posL_cons.mpr ⟨hh.1, hm⟩)
    | _ =>
      simp only [findOpener] at h
      exact ih _ _ h hh.2 (posL_cons.mpr ⟨hh.1, hm⟩)

theorem clearInner_posL {acc mid : List Node} (ha : posL acc) (hm : posL mid) : posL (clearInner acc mid) :=
  posL_allQ.mpr (clearInner_kept (fun _ _ _ => posQ_text _ _ _ _) (fun _ _ _ _ _ _ _ _ => posQ_text _ _ _ _)
    (posL_allQ.mp ha) (posL_allQ.mp hm))

theorem advanceCloser_ne_bad (pre post : List Node) : advanceCloser pre post ≠ .bad := by
  unfold advanceCloser; split <;> simp

/-- one round never answers `bad` when the delimiters in front of the closer and the closer have characters -/
theorem closerStep_ne_bad {b : Bottom} {pre post : List Node} {cid : Nat} {cd : Delim}
    (hp : posL pre) (hcd : 1 ≤ cd.length) : closerStep b pre cid cd post ≠ .bad := by
  rcases closerStep_cases b pre cid cd post with
    ⟨_, hl | ⟨_, _, _, _, c, _, hf, hc⟩⟩ | ⟨_, pre', _, e⟩ | ⟨_, _, _, _, _, _, _, pre', _, _, _, e⟩
  · omega
  · have := (findOpener_pos b cd hcd _ _ _ hf (posL_reverse.mpr hp) posL_nil).2.2.1
    omega
  · rw [e]; exact advanceCloser_ne_bad _ _
  · rw [e]
    split
    · exact advanceCloser_ne_bad _ _
    · simp

/-- and the delimiters keep their characters -/
theorem closerStep_pos {b : Bottom} {pre post : List Node} {cid : Nat} {cd : Delim}
    (hp : posL pre) (hcd : 1 ≤ cd.length) (hq : posL post) :
    closerStep b pre cid cd post ≠ .bad ∧ posL (wholeOf (closerStep b pre cid cd post)) := by
  refine ⟨closerStep_ne_bad hp hcd, ?_⟩
  rcases closerStep_cases b pre cid cd post with ⟨e, _⟩ | ⟨_, pre', hpre, e⟩ | ⟨_, p1, oid, od, mid, c, m, pre', hf, _, rfl, e⟩
  · rw [e]; exact posL_nil
  · rw [e, advanceCloser_whole]
    refine posL_append.mpr ⟨?_, hq⟩
    rcases hpre with rfl | rfl
    · exact posL_append.mpr ⟨hp, posL_delim.mpr hcd⟩
    · exact removeDelim_posL hp
  · obtain ⟨f1, f2, f3, f4, f5⟩ := findOpener_pos b cd hcd _ _ _ hf (posL_reverse.mpr hp) posL_nil
    have hpre' : posL ((if (od.consume c).length == 0 then p1 else p1 ++ [.delim oid (od.consume c)]) ++
        [.emphasis c (clearInner [] mid)]) := by
      refine posL_append.mpr ⟨?_, posL_nondelim rfl⟩
      split
      · exact f1
      · rename_i hz
        refine posL_append.mpr ⟨f1, posL_delim.mpr ?_⟩
        simp only [Delim.consume, beq_iff_eq] at hz ⊢
        omega
    rw [e]
    split
    · rw [advanceCloser_whole]; exact posL_append.mpr ⟨hpre', hq⟩
    · rename_i hz
      refine posL_append.mpr ⟨hpre', posL_cons.mpr ⟨posL_delim.mpr ?_, hq⟩⟩
      simp only [Delim.consume, beq_iff_eq] at hz ⊢
      omega

theorem closerLoop_pos (b : Bottom) (pre : List Node) (cid : Nat) (cd : Delim) (post : List Node) :
    posL pre → 1 ≤ cd.length → posL post → ∃ res, closerLoop b pre cid cd post = .ok res ∧ posL res := by
  fun_induction closerLoop b pre cid cd post with
  | case1 pre cid cd post kids hs =>
    intro hp hcd hq
    have := (closerStep_pos (b := b) (cid := cid) hp hcd hq).2
    rw [hs] at this
    exact ⟨kids, rfl, this⟩
  | case2 pre cid cd post hs =>
    intro hp hcd hq
    exact absurd hs (closerStep_pos (b := b) (cid := cid) hp hcd hq).1
  | case3 pre cid cd post pre' cid' cd' post' hs ih =>
    intro hp hcd hq
    have := (closerStep_pos (b := b) (cid := cid) hp hcd hq).2
    rw [hs] at this
    simp only [wholeOf] at this
    have h1 := posL_append.mp this
    have h2 := posL_cons.mp h1.2
    exact ih h1.1 (posL_delim.mp h2.1) h2.2

theorem splitAtDelim_some {id : Nat} {l : List Node} {d : Delim} (h : Node.delim id d ∈ l) :
    ∃ r, splitAtDelim id l = some r := by
  induction l with
  | nil => simp at h
  | cons n rest ih =>
    cases n with
    | delim i dd =>
      simp only [splitAtDelim]
      split
      · exact ⟨_, rfl⟩
      · rename_i hne
        simp only [List.mem_cons] at h
        rcases h with h | h
        · simp at h; simp [h.1] at hne
        · obtain ⟨r, hr⟩ := ih h
          rw [hr]; exact ⟨_, rfl⟩
    | _ =>
      simp only [splitAtDelim]
      simp only [List.mem_cons] at h
      rcases h with h | h
      · simp at h
      · obtain ⟨r, hr⟩ := ih h
        rw [hr]; exact ⟨_, rfl⟩

theorem firstCloserAfter_mem (b : Bottom) :
    ∀ (l : List Node) (acc : Option Nat) {id : Nat}, firstCloserAfter b l acc = some id →
    acc = some id ∨ ∃ d, Node.delim id d ∈ l := by
  intro l
  induction l with
  | nil => intro acc id h; simp [firstCloserAfter] at h; exact Or.inl h
  | cons n rest ih =>
    intro acc id h
    cases n with
    | delim i dd =>
      simp only [firstCloserAfter] at h
      split at h
      · exact Or.inl h
      · rcases ih _ h with e | ⟨d, hd⟩
        · simp at e; subst e; exact Or.inr ⟨dd, by simp⟩
        · exact Or.inr ⟨d, by simp [hd]⟩
    | _ =>
      simp only [firstCloserAfter] at h
      rcases ih _ h with e | ⟨d, hd⟩
      · exact Or.inl e
      · exact Or.inr ⟨d, by simp [hd]⟩

/-- ProcessDelimiters succeeds — no `pre`, no panic — on every child list whose delimiters all have characters,
    and hands such a list back -/
theorem processDelimiters_ok (b : Bottom) (kids : List Node) (h : posL kids) :
    ∃ res, processDelimiters b kids = .ok res ∧ posL res := by
  unfold processDelimiters
  split
  · exact ⟨kids, rfl, h⟩
  · rename_i preL lastId ld lpost hl
    simp only
    split
    · exact ⟨_, rfl, clearDelimiters_posL b h⟩
    · rename_i cid hc
      have hmem : ∃ d, Node.delim cid d ∈ kids := by
        split at hc
        · cases hf : splitFirstDelim kids with
          | none => rw [hf] at hc; simp at hc
          | some x =>
            obtain ⟨p, i, d, q⟩ := x
            rw [hf] at hc; simp at hc; subst hc
            exact ⟨d, by rw [splitFirstDelim_eq hf]; simp⟩
        · split at hc
          · simp at hc
          · rcases firstCloserAfter_mem _ _ _ hc with e | ⟨d, hd⟩
            · simp at e
            · exact ⟨d, by rw [splitLastDelim_eq hl]; simp at hd; simp [hd]⟩
      obtain ⟨d, hd⟩ := hmem
      obtain ⟨r, hr⟩ := splitAtDelim_some hd
      rw [hr]
      obtain ⟨pre, cd, post⟩ := r
      simp only
      have e := splitAtDelim_eq hr
      rw [e] at h
      have h1 := posL_append.mp h
      have h2 := posL_cons.mp h1.2
      obtain ⟨res, hres, hpos⟩ := closerLoop_pos b pre cid cd post h1.1 (posL_delim.mp h2.1) h2.2
      rw [hres]
      exact ⟨_, rfl, clearDelimiters_posL b hpos⟩

end GM.Proof.Inlines
