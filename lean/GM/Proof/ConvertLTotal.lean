/-
  GM.Proof.ConvertLTotal — the Linkify parser keeps the contract of the inline loop (by the shape of its answer,
  GM.Proof.ExtShape: a link lies inside the peeked line and, when a node is returned, at least one byte is consumed), so
  the inline phase of all 16 member sets terminates.
-/
import GM.Proof.ConvertXTotal
import GM.Proof.ConvertX
import GM.Proof.ExtShape

namespace GM.Proof.ConvertLTotal
open GM GM.Text GM.Spec GM.Inl GM.Proof.Reader GM.Proof.InlinesReader GM.Proof.Inlines GM.Proof.InlinesTotal
open GM.Proof.InlinesLink GM.Proof.ConvertXRelv GM.Proof.ConvertXTotal GM.Proof.ExtShape

variable {src : Bytes} {segs : List Segment}

theorem linkify_contract (X : Ctx) (W : WFSegs src segs) (Z : ∀ s ∈ segs, s.padding = 0) (env : Env) (trig : UInt8 → Bool) :
    PContract X src segs trig (parseLinkify env) := by
  refine shape_contract X W trig (parseLinkify_shape env)
    fun {st c b l _} hI hv ⟨k, i, proto, email, hk, hi, hki, _, hf⟩ => ?_
  subst hf
  have F := segFacts W
  have hpos := (peekLine_facts F hI.rs).2
  obtain ⟨v1, v2, v3, v4, v5, v6, v7, v8⟩ := view_some F hI.rs.abs.wf hI.rs.pad hv
  simp only [List.length_cons] at v6 v7 hki
  obtain ⟨r', c', e1, e2, e3, e4, e5, _⟩ := advance_ok F Z hI.rs (n := ((k + i : Nat) : Int)) (by omega) (by omega)
  simp only [e1, bind, Except.bind, pure, Except.pure, hpos]
  refine ⟨_, _, c', rfl, e2, by omega, e4, by omega, ?_, ?_⟩
  · rw [segsOfL_append]
    -- the children end at the stripped byte's end, the link lies between it and the cursor
    refine chain_append (mid := c.p + k) ?_ ?_
    · split
      · rename_i h0; subst h0; simpa using hI.ch
      · have := chain_mergeOrAppend (kids := st.kids)
          (s := { start := c.p, stop := c.p + 1, padding := 0, forceNewline := false }) hI.ch (by simp only; omega)
        rw [show k = 1 by omega]
        simpa [Segment.withStop] using this
    · simp only [segsOfL, segsOf, List.append_nil]
      exact chain_single (by simp only; omega) (by simp only; omega) (by simp only; omega)
  · split
    · exact X.appendPlain _ hI.lk (by simp [wf])
    · exact X.appendPlain _ (X.merge _ hI.lk) (by simp [wf])

open GM.ConvertX GM.Convert GM.Proof.ConvertX

theorem inlineTblL_contracts (c : GCfg) (inItem : Bool) (W : WFSegs src segs) (Z : ∀ s ∈ segs, s.padding = 0) (env : Env) :
    ∀ b, ∀ ip ∈ inlineTblL c inItem b,
      PContract (Ctx.normed (linkCtx (BCur.segOf segs 0).start)) src segs (· == b) (ip.parse env) := by
  intro b ip hip
  simp only [inlineTblL, List.mem_append] at hip
  rcases hip with hip | hip
  · exact inlineTbl_contracts c.base inItem W Z env b ip hip
  · split at hip
    · simp only [List.mem_singleton] at hip; subst hip
      exact linkify_contract _ W Z env _
    · cases hip

theorem inlineTblL_32 (c : GCfg) (inItem : Bool) (W : WFSegs src segs) (Z : ∀ s ∈ segs, s.padding = 0) (env : Env) :
    ∀ ip ∈ inlineTblL c inItem 32, ∀ b,
      PContract (Ctx.normed (linkCtx (BCur.segOf segs 0).start)) src segs (· == b) (ip.parse env) := by
  intro ip hip b
  simp only [inlineTblL, inlineTbl_32, List.nil_append] at hip
  split at hip
  · simp only [List.mem_singleton] at hip; subst hip
    exact linkify_contract _ W Z env _
  · cases hip

theorem lineLoopL_total (c : GCfg) (inItem : Bool) (W : WFSegs src segs) (Z : ∀ s ∈ segs, s.padding = 0) (env : Env) :
    ∃ rd st', BlockReader.new src segs = .ok rd ∧
      lineLoopX env (inlineTblL c inItem) (blockFuel src segs) false { rd := rd } = .ok st' := by
  have F := segFacts W
  obtain ⟨r0, e0, hI, hfuel⟩ := block_start W Z
  obtain ⟨st', c', l1, _⟩ := lineLoopX_total _ F Z env (inlineTblL c inItem) (inlineTblL_32 c inItem W Z env)
    (inlineTblL_contracts c inItem W Z env) (blockFuel src segs) false _ _ hI hfuel
  exact ⟨r0, st', e0, l1⟩

theorem inlineLinesL_noLoop (c : GCfg) (env : Env) (src : Bytes) (inItem : Bool) (lines : List Segment) (e : Err)
    (h : inlineLinesL c true env src inItem lines = .error e) : e.isLoop = false := by
  unfold inlineLinesL at h
  split at h
  · cases h
  · split at h
    · cases h; rfl
    · rename_i hw
      have hw' : GM.LinkRef.wf0B src lines = true := by simpa using hw
      obtain ⟨W, Z⟩ := GM.Proof.LinkRefTotal.wf0B_sound hw'
      obtain ⟨rd, st', e0, l1⟩ := lineLoopL_total c inItem W Z env
      unfold parseBlockG at h
      simp only [e0, l1, bind, Except.bind] at h
      cases hp : pdX c.base Bottom.nil st'.kids with
      | error p =>
        rw [hp] at h
        simp only [liftErr, Except.error.injEq] at h
        subst h
        have := pdX_noLoop c.base Bottom.nil st'.kids
        cases p <;> first | rfl | exact absurd hp this
      | ok k => rw [hp] at h; cases h

theorem docTreeL_noLoop (c : GCfg) (env : Env) (src : Bytes) (escs : List Int) :
    ∀ (inItem : Bool) (t : GM.Blocks.Tree) (e : Err),
    docTreeL c true env src escs inItem t = .error e → e.isLoop = false :=
  GM.Proof.ConvertLDoc.docTreeL_noLoop (inlineLinesL_noLoop c env src) escs

theorem docTreesL_noLoop (c : GCfg) (env : Env) (src : Bytes) (escs : List Int) :
    ∀ (pi first : Bool) (ts : List GM.Blocks.Tree) (e : Err),
    docTreesL c true env src escs pi first ts = .error e → e.isLoop = false :=
  GM.Proof.ConvertLDoc.docTreesL_noLoop (inlineLinesL_noLoop c env src) escs

/-- **`convertL` never ends in the fuel-exhaustion outcome**, for all 16 member sets -/
theorem convertL_noLoop (c : GCfg) (uc : List (Nat × (Bool × Bool))) (o : ROpts) (src : Bytes) {e : Err}
    (h : convertL c uc o src = .error e) : e.isLoop = false := by
  unfold convertL convertLWith at h
  simp only [bind, Except.bind] at h
  cases hp : parseDocL c true uc src with
  | error e1 =>
    rw [hp] at h; cases h
    unfold parseDocL at hp
    simp only [bind, Except.bind] at hp
    cases hb : blockPhaseX c.base true src with
    | error p =>
      rw [hb] at hp
      simp only [liftErr] at hp
      cases hp
      have := blockPhaseX_noLoop c.base src
      cases p <;> first | rfl | exact absurd hb this
    | ok st =>
      rw [hb] at hp
      simp only [liftErr] at hp
      exact docTreeL_noLoop c _ src _ _ _ _ hp
  | ok t => rw [hp] at h; exact renderDocX_noLoop c.base o t h

end GM.Proof.ConvertLTotal

namespace GM.Proof.ConvertTotal
open GM GM.Text GM.Convert GM.LinkRef GM.Proof.LinkRefTotal GM.Proof.InlinesReader

theorem docTrees_noLoop (env : GM.Inl.Env) (src : Bytes) : ∀ (ts : List GM.Blocks.Tree) (e : Err),
    docTrees true env src ts = .error e → e.isLoop = false := by
  intro ts e h
  rw [GM.Proof.ConvertCoreL.docTrees_eqL true env src [] false false] at h
  exact GM.Proof.ConvertLTotal.docTreesL_noLoop _ env src [] false false ts e h

/-- **`convertCore` never ends in the fuel-exhaustion outcome** -/
theorem convertCore_noLoop (uc : List (Nat × (Bool × Bool))) (o : ROpts) (src : Bytes) {e : Err}
    (h : convertCore uc o src = .error e) : e.isLoop = false := by
  rw [convertCore, GM.Proof.ConvertCoreL.convertWith_eqL] at h
  exact GM.Proof.ConvertLTotal.convertL_noLoop _ uc o src h

end GM.Proof.ConvertTotal


namespace GM.Proof.ConvertXTotal
open GM GM.Text GM.Convert GM.ConvertX

/-- **the inline phase of every member set never exhausts its fuel**: the member sets without Linkify -/
theorem inlineNoLoop_all (c : XCfg) : GM.Proof.ConvertX.InlineNoLoop c := fun env src inItem lines e h =>
  GM.Proof.ConvertLTotal.inlineLinesL_noLoop { base := c, linkify := false } env src inItem lines e
    (by rw [GM.Proof.ConvertL.inlineLinesL_off]; exact h)

end GM.Proof.ConvertXTotal
