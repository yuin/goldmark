import GM.Proof.QuoteSimSetext
import GM.Proof.QuoteSimInv
import GM.Proof.QuoteSimFinal
import GM.Proof.QuoteSimFE1
import GM.Proof.QuoteSimFE2
import GM.Proof.BlocksDriverC

/-
  part Flags — the `HasBlankPreviousLines` flags of related stores, for sources WITHOUT A BLANK LINE (`FL`):
  there every `openBlocks` call of the two runs gets the same flag (GM.Proof.QuoteSimStats, threaded through the
  per-line loop and the outer loop), so that the relation `NodeRel.blank` gives equal flags on every node that is not
  the Document. Consequences: `FlagsOK` (what `listParser.Close` reads, hypothesis of `listClose_sim'`) on every pair of
  related stores, and `FlagsEq` (hypothesis of `quoteSimPair_eqL`) on the final stores.
-/
section Flags
namespace GM.Blocks
open GM GM.Text

theorem flagsEq_of_rel {src : Bytes} (hfl : FL src) {nA nB : List Node} (hn : StoreRel src nA nB) : FlagsEq nA nB :=
  fun i hi => (hn.node i).blank hfl (beq_eq_false_iff_ne.mpr hi)

theorem ustoreL_kids {nA : List Node} (hu : UStoreL nA) (c : Nat) : 0 ∉ (nA.getD c default).children := by
  rw [List.getD_eq_getElem?_getD]
  cases hg : nA[c]? with
  | none => intro h; cases h
  | some n => exact (hu.node n (List.mem_of_getElem? hg)).kids

theorem flagsOK_of {src : Bytes} (hfl : FL src) {nA nB : List Node} (hn : StoreRel src nA nB) (hu : UStoreL nA) :
    ∀ (cs : List Nat) (first : Bool), (∀ c ∈ cs, c ≠ 0) → FlagsOK nA nB cs first
  | [], _, _ => trivial
  | c :: cs, first, h => by
    refine ⟨⟨fun _ => flagsEq_of_rel hfl hn c (h c (List.mem_cons_self ..)), fun c1 hc1 => ?_⟩,
      flagsOK_of hfl hn hu cs false (fun x hx => h x (List.mem_cons_of_mem _ hx))⟩
    refine flagsEq_of_rel hfl hn c1 (fun e => ?_)
    subst e
    exact ustoreL_kids hu c (List.mem_of_mem_drop hc1)

/-- what `listClose_sim'` needs, from the relation and the store invariant -/
theorem flagsOK_node {src : Bytes} (hfl : FL src) {nA nB : List Node} (hn : StoreRel src nA nB) (hu : UStoreL nA)
    (node : Nat) : FlagsOK nA nB (nA.getD node default).children true :=
  flagsOK_of hfl hn hu _ true (fun c hc e => ustoreL_kids hu node (e ▸ hc))

end GM.Blocks
end Flags

/-
  part FE0 — the readers of the `HasBlankPreviousLines` flags under the WEAK flag relation `FE`
  (equal flags on every child but the first of every node but the Document; GM.Proof.QuoteSimFinal):
    * `flagsOK_of_fe`  : `FlagsOK` (what `listParser.Close` reads, hypothesis of `listClose_sim'`) below every node but
      the Document;
    * `fe_step` : `FE` is kept by a pair of calls with the unary facts `BPn` (both runs) and `CHn` (run A);
    * `S2.andR` : add a fact about run B's result to a simulation.
-/
section FE0
namespace GM.Blocks
open GM GM.Text

theorem flagsOK_suffix_fe {nA nB : List Node} (hfe : FE nA nB) (hu : UStoreL nA) (node : Nat) (hnode : node ≠ 0) :
    ∀ (cs pre : List Nat) (first : Bool), (nA.getD node default).children = pre ++ cs →
      (first = false → pre ≠ []) → FlagsOK nA nB cs first
  | [], _, _, _, _ => trivial
  | c :: cs, pre, first, hch, hpre => by
    have hcm : c ∈ (nA.getD node default).children := by
      rw [hch]; exact List.mem_append_right _ (List.mem_cons_self ..)
    have hc0 : c ≠ 0 := fun e => ustoreL_kids hu node (e ▸ hcm)
    refine ⟨⟨fun hf => ?_, fun c1 hc1 => hfe c hc0 c1 hc1⟩, ?_⟩
    · refine hfe node hnode c ?_
      rw [hch]
      cases pre with
      | nil => exact absurd rfl (hpre hf)
      | cons p pre' =>
        show c ∈ pre' ++ c :: cs
        exact List.mem_append_right _ (List.mem_cons_self ..)
    · refine flagsOK_suffix_fe hfe hu node hnode cs (pre ++ [c]) false ?_ (fun _ e => ?_)
      · rw [hch, List.append_assoc]; rfl
      · cases pre <;> cases e

/-- what `listClose_sim'` needs, from the weak flag relation and the store invariant -/
theorem flagsOK_of_fe {nA nB : List Node} (hfe : FE nA nB) (hu : UStoreL nA) :
    ∀ node, node ≠ 0 → FlagsOK nA nB (nA.getD node default).children true :=
  fun node hnode => flagsOK_suffix_fe hfe hu node hnode _ [] true rfl (fun h => by cases h)

theorem getD_default_blankPrev (n : List Node) (i : Nat) (h : n.length ≤ i) :
    (n.getD i default).blankPrev = false := by
  rw [List.getD_eq_getElem?_getD, List.getElem?_eq_none h]
  rfl

theorem fe_step {nA nB nA' nB' : List Node} (hfe : FE nA nB) (hA : BPn nA nA') (hB : BPn nB nB')
    (hc : CHn nA nA') (hlen : nB.length = nA.length + 1) : FE nA' nB' := by
  intro q hq c hcm
  show (nB'.getD (c + 1) default).blankPrev = (nA'.getD c default).blankPrev
  by_cases hlt : c < nA.length
  · rw [hA.2.1 c hlt, hB.2.1 (c + 1) (by omega)]
    cases hc.2 q hq c hcm with
    | inl hold => exact hfe q hq c hold
    | inr hnew => omega
  · rw [hA.2.2 c (by omega), hB.2.2 (c + 1) (by omega)]

theorem S2.andR {α β} {Q : α → β → St → St → Prop} {G : β → St → Prop} {x : Except Panic (α × St)}
    {y : Except Panic (β × St)} (h : S2 Q x y) (hB : ∀ b sB', y = .ok (b, sB') → G b sB') :
    S2 (fun a b sA' sB' => Q a b sA' sB' ∧ G b sB') x y := by
  intro a sA e
  obtain ⟨b, sB, h1, h2⟩ := h a sA e
  exact ⟨b, sB, h1, h2, hB b sB h1⟩

end GM.Blocks
end FE0

/-
  part FE3 — `FE` across the steps of the block driver (C08 with lists in sources with blank lines; threaded
  through the driver as `FEc`): a whole parser call (`S2.withFE`, from the unary facts `BPn` / `CHn` of both runs), the driver's
  `SetBlankPreviousLines` (`fe_setFlag`) and its `AppendChild` (`fe_append`).
-/
section FE3
namespace GM.Blocks
open GM GM.Text

/-- `FE`, asked only of simulations whose parser set excludes the setext heading parser (whose `Close` copies a flag) -/
def FEc (al : BP → Bool) (nA nB : List Node) : Prop := al .setext = false → FE nA nB

theorem S2.withFE {α β} {src : Bytes} {al : BP → Bool} {k ls p : Nat} {sA sB : St} (hsr : SR src k ls p sA sB)
    (hfe : FEc al sA.nodes sB.nodes) {Q : α → β → St → St → Prop} {x : Except Panic (α × St)} {y : Except Panic (β × St)}
    (h : S2 Q x y)
    (hA : al .setext = false → ∀ a sA', x = .ok (a, sA') → BPn sA.nodes sA'.nodes ∧ CHn sA.nodes sA'.nodes)
    (hB : al .setext = false → ∀ b sB', y = .ok (b, sB') → BPn sB.nodes sB'.nodes) :
    S2 (fun a b sA' sB' => Q a b sA' sB' ∧ FEc al sA'.nodes sB'.nodes) x y := by
  intro a sA' e
  obtain ⟨b, sB', h1, h2⟩ := h a sA' e
  refine ⟨b, sB', h1, h2, fun hns => ?_⟩
  obtain ⟨hb1, hc1⟩ := hA hns a sA' e
  exact fe_step (hfe hns) hb1 (hB hns b sB' h1) hc1 hsr.n.len

/-- what `modNode id (fun n => { n with blankPrev := b })` does to a store, as far as `FE` is concerned -/
def MF (id : Nat) (b : Bool) (n n' : List Node) : Prop :=
  (∀ i, (n'.getD i default).children = (n.getD i default).children) ∧
  (∀ i, i ≠ id → (n'.getD i default).blankPrev = (n.getD i default).blankPrev) ∧
  (n'.getD id default).blankPrev = b

/-- `SetBlankPreviousLines` on a node: fine when the two flags agree, or when the node is nobody's child -/
theorem fe_setFlag {nA nB nA' nB' : List Node} {node : Nat} {bA bB : Bool} (hfe : FE nA nB)
    (hA : MF node bA nA nA') (hB : MF (node + 1) bB nB nB')
    (h : bB = bA ∨ ∀ q, node ∉ (nA.getD q default).children) : FE nA' nB' := by
  intro q hq c hc
  rw [hA.1 q] at hc
  by_cases hcn : c = node
  · subst hcn
    rcases h with h | h
    · show (nB'.getD (c + 1) default).blankPrev = (nA'.getD c default).blankPrev
      rw [hA.2.2, hB.2.2, h]
    · exact absurd (List.mem_of_mem_drop hc) (h q)
  · show (nB'.getD (c + 1) default).blankPrev = (nA'.getD c default).blankPrev
    rw [hA.2.1 c hcn, hB.2.1 (c + 1) (by omega)]
    exact hfe q hq c hc

/-- what `appendChild q node` does to the children lists, as far as `FE` is concerned -/
def CHA (q node : Nat) (n n' : List Node) : Prop :=
  ∀ q', q' ≠ 0 → ∀ c ∈ (n'.getD q' default).children.drop 1,
    c ∈ (n.getD q' default).children.drop 1 ∨ (c = node ∧ q' = q ∧ (n.getD q default).children ≠ [])

/-- flags unchanged (no new node) -/
def BPs (n n' : List Node) : Prop := ∀ i, (n'.getD i default).blankPrev = (n.getD i default).blankPrev

/-- `AppendChild`: fine when the appended node's flags agree, the parent is the Document, or the parent had no child -/
theorem fe_append {nA nB nA' nB' : List Node} {q node : Nat} (hfe : FE nA nB) (hA : BPs nA nA') (hB : BPs nB nB')
    (hc : CHA q node nA nA')
    (h : FlagEqAt nA nB node ∨ q = 0 ∨ (nA.getD q default).children = []) : FE nA' nB' := by
  intro q' hq' c hcm
  show (nB'.getD (c + 1) default).blankPrev = (nA'.getD c default).blankPrev
  rw [hA c, hB (c + 1)]
  rcases hc q' hq' c hcm with h1 | ⟨h1, h2, h3⟩
  · exact hfe q' hq' c h1
  · subst h1 h2
    rcases h with h | h | h
    · exact h
    · exact absurd h hq'
    · exact absurd h h3

end GM.Blocks
end FE3

/-
  part FE4 — unary facts about the block driver's own store steps (groundwork for C08 with lists in sources
  with blank lines): `SetBlankPreviousLines` (`mf_modNode`), `AppendChild` (`bps_appendChild`, `cha_appendChild`),
  `closeBlocks` (`bpn_closeBlocks`, `chn_closeBlocks`).
-/
section FE4
namespace GM.Blocks
open GM GM.Text

theorem mf_modNode (id : Nat) (b : Bool) {s s' : St} {u : Unit} (hlt : id < s.nodes.length)
    (e : modNode id (fun n => { n with blankPrev := b }) s = .ok (u, s')) : MF id b s.nodes s'.nodes := by
  refine ⟨fun i => modNode_proj (·.children) e (fun _ => rfl) i, fun i hi => ?_, ?_⟩
  · rw [modNode_getD e, if_neg (fun h => hi h.1.symm)]
  · rw [modNode_getD e, if_pos ⟨rfl, hlt⟩]

/-! ### `AppendChild` changes no flag -/

/-- flags as in `n0`, and as many nodes -/
def BSI (n0 : List Node) : St → Prop := fun s => BPs n0 s.nodes ∧ s.nodes.length = n0.length

theorem bsi_modNode (n0 : List Node) (id : Nat) (f : Node → Node) (hf : ∀ n, (f n).blankPrev = n.blankPrev) :
    Keeps (BSI n0) (modNode id f) := by
  intro s a s' hs e
  refine ⟨fun i => ?_, ?_⟩
  · rw [modNode_proj (·.blankPrev) e hf i]; exact hs.1 i
  · rw [modNode_len e]; exact hs.2

theorem bsi_removeChild (n0 : List Node) (p c : Nat) : Keeps (BSI n0) (removeChild p c) := by
  unfold removeChild
  refine Keeps.bind (getNode_keeps _) (fun cn => Keeps.ite (fun _ => Keeps.pure _) (fun _ => ?_))
  exact Keeps.bind (bsi_modNode n0 p _ (fun _ => rfl)) (fun _ => bsi_modNode n0 c _ (fun _ => rfl))

theorem bsi_ensureIsolated (n0 : List Node) (c : Nat) : Keeps (BSI n0) (ensureIsolated c) := by
  unfold ensureIsolated
  refine Keeps.bind (getNode_keeps _) (fun cn => ?_)
  split
  · exact bsi_removeChild n0 _ c
  · exact Keeps.pure _

theorem bsi_appendChild (n0 : List Node) (p c : Nat) : Keeps (BSI n0) (appendChild p c) := by
  unfold appendChild
  refine Keeps.bind (bsi_ensureIsolated n0 c) (fun _ => ?_)
  exact Keeps.bind (bsi_modNode n0 p _ (fun _ => rfl)) (fun _ => bsi_modNode n0 c _ (fun _ => rfl))

theorem bps_appendChild (p c : Nat) {s s' : St} {u : Unit} (e : appendChild p c s = .ok (u, s')) :
    BPs s.nodes s'.nodes ∧ s'.nodes.length = s.nodes.length :=
  bsi_appendChild s.nodes p c s u s' ⟨fun _ => rfl, rfl⟩ e

/-! ### `AppendChild` and the children but the first -/

/-- a children list `l'` got from `l` by removing -/
def LSub (l' l : List Nat) : Prop := (∀ x ∈ l'.drop 1, x ∈ l.drop 1) ∧ (l = [] → l' = [])

theorem LSub.refl (l : List Nat) : LSub l l := ⟨fun _ h => h, fun h => h⟩

theorem LSub.trans {a b c : List Nat} (h1 : LSub a b) (h2 : LSub b c) : LSub a c :=
  ⟨fun x hx => h2.1 x (h1.1 x hx), fun h => h1.2 (h2.2 h)⟩

theorem lsub_erase (l : List Nat) (c : Nat) : LSub (l.erase c) l :=
  ⟨fun _ hx => mem_drop_erase hx, fun h => by rw [h]; rfl⟩

/-- every children list was got from that of `n0` by removing -/
def SubI (n0 : List Node) : St → Prop :=
  fun s => ∀ q, LSub (s.nodes.getD q default).children (n0.getD q default).children

theorem subi_modNode (n0 : List Node) (id : Nat) (f : Node → Node) (hf : ∀ n, LSub (f n).children n.children) :
    Keeps (SubI n0) (modNode id f) := by
  intro s a s' hs e q
  rw [modNode_getD e]
  split
  · next h => rw [h.1]; exact (hf _).trans (hs q)
  · exact hs q

theorem subi_removeChild (n0 : List Node) (p c : Nat) : Keeps (SubI n0) (removeChild p c) := by
  unfold removeChild
  refine Keeps.bind (getNode_keeps _) (fun cn => Keeps.ite (fun _ => Keeps.pure _) (fun _ => ?_))
  exact Keeps.bind (subi_modNode n0 p _ (fun n => lsub_erase n.children c))
    (fun _ => subi_modNode n0 c _ (fun n => LSub.refl n.children))

theorem subi_ensureIsolated (n0 : List Node) (c : Nat) : Keeps (SubI n0) (ensureIsolated c) := by
  unfold ensureIsolated
  refine Keeps.bind (getNode_keeps _) (fun cn => ?_)
  split
  · exact subi_removeChild n0 _ c
  · exact Keeps.pure _

theorem cha_appendChild (p c : Nat) {s s' : St} {u : Unit} (e : appendChild p c s = .ok (u, s')) :
    CHA p c s.nodes s'.nodes := by
  unfold appendChild at e
  obtain ⟨_, s1, e1, e⟩ := bind_inv_u e
  obtain ⟨_, s2, e2, e3⟩ := bind_inv_u e
  have h1 : SubI s.nodes s1 := subi_ensureIsolated s.nodes c s _ s1 (fun _ => LSub.refl _) e1
  intro q' _ x hxm
  rw [modNode_proj (·.children) e3 (fun _ => rfl) q', modNode_getD e2] at hxm
  split at hxm
  · next h =>
    obtain ⟨rfl, _⟩ := h
    have hx' : x ∈ ((s1.nodes.getD p default).children ++ [c]).drop 1 := hxm
    rcases mem_drop_append hx' with hx | hx
    · exact Or.inl ((h1 p).1 x hx)
    · refine Or.inr ⟨hx, rfl, fun hnil => ?_⟩
      rw [(h1 p).2 hnil] at hx'
      simp at hx'
  · exact Or.inl ((h1 q').1 x hxm)

theorem keeps_liftE_bind {I : St → Prop} {α β} (x : Except Panic α) (f : α → M β)
    (hf : ∀ a, x = .ok a → Keeps I (f a)) : Keeps I (liftE x >>= f) := by
  intro s b s' hs h
  obtain ⟨a, s1, h1, h2⟩ := bind_inv_u h
  cases x with
  | error e => cases h1
  | ok v => cases h1; exact hf _ rfl s b s' hs h2

/-- `closeLoop` only calls `Close` on blocks of the list it was given -/
theorem keeps_closeLoop_of {I : St → Prop} (blocks : List Block) (to : Int)
    (hb : ∀ b ∈ blocks, ∀ n, Keeps I (bpClose b.bp n)) : ∀ k, Keeps I (closeLoop blocks to k)
  | 0 => by unfold closeLoop; exact Keeps.pure _
  | k + 1 => by
    have ih := keeps_closeLoop_of blocks to hb k
    unfold closeLoop
    refine keeps_liftE_bind _ _ (fun b hb' => ?_)
    have hm := hb b (mem_of_blockAt hb')
    repeat' first
      | with_reducible apply Keeps.pure
      | with_reducible apply Keeps.bind
      | with_reducible apply Keeps.ite
      | with_reducible apply getNode_keeps
      | exact ih
      | exact hm _
      | intro_pi
      | split

theorem keeps_closeBlocks_of {I : St → Prop} (hpc : ∀ f, Keeps I (modPc f)) (frm to : Int) {s s' : St} {u : Unit}
    (hb : ∀ b ∈ s.pc.opened, ∀ n, Keeps I (bpClose b.bp n)) (hs : I s) (e : closeBlocks frm to s = .ok (u, s')) :
    I s' := by
  unfold closeBlocks at e
  obtain ⟨pc, s1, e1, e⟩ := bind_inv_u e
  cases e1
  refine Keeps.ok (I := I) ?_ hs e
  have hl := keeps_closeLoop_of (I := I) s.pc.opened to hb
  repeat' first
    | with_reducible apply Keeps.pure
    | with_reducible apply Keeps.bind
    | with_reducible apply Keeps.ite
    | with_reducible apply liftE_keeps
    | exact hl _
    | exact hpc _
    | intro_pi
    | split

theorem bpn_closeBlocks (frm to : Int) {s s' : St} {u : Unit} (h : ∀ b ∈ s.pc.opened, b.bp ≠ .setext)
    (e : closeBlocks frm to s = .ok (u, s')) : BPn s.nodes s'.nodes :=
  keeps_closeBlocks_of (I := BPI s.nodes) (bpi_modPc s.nodes) frm to
    (fun b hb n => bpn_bpClose b.bp (h b hb) n s.nodes) (BPn.refl _) e

theorem chn_closeBlocks (frm to : Int) {s s' : St} {u : Unit} (h : ∀ b ∈ s.pc.opened, b.bp ≠ .setext)
    (e : closeBlocks frm to s = .ok (u, s')) : CHn s.nodes s'.nodes :=
  keeps_closeBlocks_of (I := CHI s.nodes) (gi_modPc _ s.nodes) frm to
    (fun b hb n => chn_bpClose b.bp (h b hb) n s.nodes) (CHn.refl _) e

/-! ### a node without children stays without children across `Close` / `closeBlocks` -/

theorem qe_insertBefore_ne (q p : Nat) (v1 : Option Nat) (ins : Nat) (hne : p ≠ q) :
    Keeps (QE q) (insertBefore p v1 ins) := by
  unfold insertBefore
  split
  · exact qe_appendChild q p ins hne
  · refine Keeps.bind (getNode_keeps _) (fun vn => Keeps.ite (fun _ => qe_appendChild q p ins hne) (fun _ => ?_))
    refine Keeps.bind (qe_ensureIsolated q ins) (fun _ => ?_)
    exact Keeps.bind (qe_modNode q p _ (fun e => absurd e hne)) (fun _ => qe_modNode q ins _ (fun _ n h => h))

theorem qe_replaceChild_ne (q p v1 ins : Nat) (hne : p ≠ q) : Keeps (QE q) (replaceChild p v1 ins) := by
  unfold replaceChild
  exact Keeps.bind (qe_insertBefore_ne q p (some v1) ins hne) (fun _ => qe_removeChild q p v1)

/-- `tightenItem child gcs` only changes the children list of `child` -/
theorem qe_tightenItem_ne (q child : Nat) (hne : child ≠ q) : ∀ gcs, Keeps (QE q) (tightenItem child gcs) := by
  intro gcs
  induction gcs with
  | nil => unfold tightenItem; exact Keeps.pure _
  | cons gc gcs ih =>
    have hb := qe_benign q
    have hr := fun v i => qe_replaceChild_ne q child v i hne
    unfold tightenItem
    bn

/-- `tightenItems` reads the children of every item: nothing to do below an item without children -/
theorem qe_tightenItems (q : Nat) : ∀ cs, Keeps (QE q) (tightenItems cs) := by
  intro cs
  induction cs with
  | nil => unfold tightenItems; exact Keeps.pure _
  | cons c cs ih =>
    unfold tightenItems
    intro s a s' hs e
    obtain ⟨n, s1, e1, e⟩ := bind_inv_u e
    cases e1
    obtain ⟨_, s2, e2, e3⟩ := bind_inv_u e
    refine ih s2 a s' ?_ e3
    by_cases hc : c = q
    · subst hc
      have hs' : (s.nodes.getD c default).children = [] := hs
      rw [hs'] at e2
      unfold tightenItem at e2
      cases e2
      exact hs
    · exact qe_tightenItem_ne q c hc _ s _ s2 hs e2

theorem qe_listClose (q n : Nat) : Keeps (QE q) (listClose n) := by
  have hb := qe_benign q
  have ht := qe_tightenItems q
  unfold listClose; bn

theorem qe_paragraphClose (q n : Nat) : Keeps (QE q) (paragraphClose n) := by
  have hb := qe_benign q
  have hr := qe_removeChild q
  unfold paragraphClose; bn

theorem qe_bpClose (q : Nat) (bp : BP) (h : bp ≠ .setext) (n : Nat) : Keeps (QE q) (bpClose bp n) := by
  cases bp <;> unfold bpClose
  · exact absurd rfl h
  · exact Keeps.pure _
  · exact qe_listClose q n
  · exact Keeps.pure _
  · exact bn_codeClose (qe_benign q) n
  · exact Keeps.pure _
  · exact bn_fencedClose (qe_benign q) n
  · exact Keeps.pure _
  · exact Keeps.pure _
  · exact qe_paragraphClose q n

theorem qe_closeBlocks (q : Nat) (frm to : Int) {s s' : St} {u : Unit} (h : ∀ b ∈ s.pc.opened, b.bp ≠ .setext)
    (hq : QE q s) (e : closeBlocks frm to s = .ok (u, s')) : QE q s' :=
  keeps_closeBlocks_of (I := QE q) (bn_modPc (qe_benign q)) frm to
    (fun b hb n => qe_bpClose q b.bp (h b hb) n) hq e

end GM.Blocks
end FE4

/-
  part FE5 — helper lemmas for carrying `FE` through the block driver (GM.Proof.QuoteSimDriver): the driver's
  `AppendChild` changes no flag in the form `BPn` (`bpn_appendChild`), an unreferenced node is nobody's child
  (`unref_not_child`), and "the id an `Open` returns is new" (`bpOpen_new_id`, from the footprint of
  GM.Proof.QuoteSimFoot).
-/
section FE5
namespace GM.Blocks
open GM GM.Text

theorem bps_of_bpn {n n' : List Node} (h : BPn n n') : BPs n n' := by
  intro i
  by_cases hi : i < n.length
  · exact h.2.1 i hi
  · rw [h.2.2 i (Nat.le_of_not_lt hi), node_getD_ge n i (Nat.le_of_not_lt hi)]; rfl

theorem bpn_appendChild (p c : Nat) {s s' : St} {a : Unit} (e : appendChild p c s = .ok (a, s')) :
    BPn s.nodes s'.nodes := bpn_of_keeps (fun n0 => bp_appendChild n0 p c) e

theorem unref_not_child {id : Nat} {nodes : List Node} (h : Unref id nodes) (q : Nat) :
    id ∉ (nodes.getD q default).children := by
  by_cases hq : q < nodes.length
  · have hm : nodes.getD q default ∈ nodes := by
      rw [List.getD_eq_getElem?_getD, List.getElem?_eq_getElem hq]
      exact List.getElem_mem hq
    exact (h.2.2 _ hm).2
  · rw [node_getD_ge nodes q (Nat.le_of_not_lt hq)]
    intro hm
    cases hm

structure OPN (m : M (Option Nat × PState)) : Prop where
  h : ∀ s a s', m s = .ok (a, s') → ∀ id, a.1 = some id → s.nodes.length ≤ id

theorem OPN.throw (e : Panic) : OPN (throw e) := ⟨fun _ _ _ h => by cases h⟩

theorem bpOpen_new_id {bp : BP} {p : Nat} {s s' : St} {a : Option Nat × PState}
    (e : bpOpen bp p s = .ok (a, s')) {id : Nat} (hid : a.1 = some id) : s.nodes.length ≤ id :=
  ((bpOpen_foot bp p e).2 id hid).1

end GM.Blocks
end FE5
