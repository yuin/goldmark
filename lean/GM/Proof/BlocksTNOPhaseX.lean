/-
  GM.Proof.BlocksTNOPhaseX — the block phase of the extended composition `GM.ConvertX.blockPhaseX` (link reference definitions behind their run-time check, optionally GFM tables) ends normally,
  the check never fires and the line invariant `TX.InvG` holds of the store, for every member set and source; the static-field frame `SF` (kind, htmlType, offset of old nodes are never rewritten), and from it the shape `RecS` of the table records that carry lines.
-/
import GM.Proof.BlocksTNORunLR

section BlocksTNOPhaseX

namespace GM.Blocks.TX
open GM GM.Text GM.Spec GM.Proof.Reader GM.LinkRef GM.Blocks.TO GM.TableX GM.ConvertX
open GM.Proof.BlocksWF0 (isRaw)

theorem blockPhaseX_table (src : Bytes) (guard : Bool) (c : XCfg) (h : c.table = true) :
    blockPhaseX c guard src = runT [if guard then guardedTransform else transform, transformPT src] src := by
  unfold blockPhaseX paragraphTransformersX GM.Convert.paragraphTransformers
  rw [if_pos h]; rfl

theorem blockPhaseX_noTable (src : Bytes) (guard : Bool) (c : XCfg) (h : c.table = false) :
    blockPhaseX c guard src = GM.Convert.blockPhase guard src := by
  unfold blockPhaseX paragraphTransformersX GM.Convert.blockPhase
  rw [h]; simp

/-- **the run-time check of the link reference transformer never fires**, with or without tables -/
theorem blockPhaseX_guard_irrelevant (c : XCfg) (src : Bytes) :
    blockPhaseX c true src = blockPhaseX c false src := by
  cases ht : c.table with
  | false => rw [blockPhaseX_noTable src _ c ht, blockPhaseX_noTable src _ c ht]; exact TO.blockPhase_guard_irrelevant src
  | true => rw [blockPhaseX_table src _ c ht, blockPhaseX_table src _ c ht]; exact guarded_tableX_eq src

/-- **the block phase of the extended composition ends normally** -/
theorem blockPhaseX_total (c : XCfg) (src : Bytes) :
    ∃ s, blockPhaseX c true src = .ok s ∧ NodesOK src s := by
  cases ht : c.table with
  | false => rw [blockPhaseX_noTable src _ c ht]; exact TO.blockPhase_total src
  | true =>
    rw [blockPhaseX_guard_irrelevant c src, blockPhaseX_table src _ c ht]
    exact runT_tableX_total src

/-- the line invariant of the final store (tables on) -/
theorem blockPhaseX_inv (c : XCfg) (src : Bytes) (ht : c.table = true) (s : St)
    (h : blockPhaseX c true src = .ok s) : ∃ E, InvG src E s := by
  rw [blockPhaseX_guard_irrelevant c src, blockPhaseX_table src _ c ht] at h
  exact runT_tableX_inv src s h

/-- **order clause / `WFSegs` for the final store of the block phase WITH tables**: every non-raw block that is not a
    `thematicBreak` node (the table records are `thematicBreak` nodes) has increasing, non-empty lines without
    ForceNewline, `WFSegs` when it has lines; every line of a Paragraph holds a non-space byte; the lines of the raw
    blocks increase; every line that has a successor in a Paragraph ends in a newline -/
theorem blockPhaseX_wfsegs (c : XCfg) (src : Bytes) (ht : c.table = true) (s : St)
    (h : blockPhaseX c true src = .ok s) :
    (∀ n ∈ s.nodes, isRaw n.kind = false → n.kind ≠ .thematicBreak →
      OrdFrom 0 n.lines ∧ (∀ t ∈ n.lines, t.start < t.stop ∧ t.forceNewline = false) ∧ (n.lines ≠ [] → WFSegs src n.lines)) ∧
    (∀ n ∈ s.nodes, n.kind = .paragraph → ∀ t ∈ n.lines, NonBlankSeg src t) ∧
    (∀ n ∈ s.nodes, isRaw n.kind = true → OrdFrom 0 n.lines) ∧
    (∀ n ∈ s.nodes, n.kind = .paragraph → ∀ t ∈ n.lines.dropLast, NLAt src t) ∧
    (∀ n ∈ s.nodes, ∀ t ∈ n.lines, 0 ≤ t.start ∧ t.start ≤ t.stop ∧ t.stop ≤ src.length ∧ 0 ≤ t.padding) := by
  obtain ⟨E, hE⟩ := blockPhaseX_inv c src ht s h
  refine ⟨fun n hn hraw hk => ?_, fun n hn hk => ?_, fun n hn hr => ?_, fun n hn hk => ?_, fun n hn t htl => ?_⟩
  · obtain ⟨i, _, rfl⟩ := mem_nodes_nd hn
    obtain ⟨a1, _, a3⟩ := hE.nrb i hraw hk
    have hok := (nodeOK_nd hE.nodes i).lines
    exact ⟨a1, a3, fun hne => ⟨hne, (wfSegsFrom_iff src _ 0).2 ⟨a1, fun t ht =>
      ⟨(a3 t ht).1, (hok t ht).2.2.1, (hok t ht).2.2.2, (a3 t ht).2⟩⟩⟩⟩
  · obtain ⟨i, _, rfl⟩ := mem_nodes_nd hn
    exact hE.pnb i hk
  · obtain ⟨i, _, rfl⟩ := mem_nodes_nd hn
    exact (hE.raw i hr).1
  · obtain ⟨i, _, rfl⟩ := mem_nodes_nd hn
    exact hE.pnl i hk
  · exact (hE.nodes n hn).lines t htl

end GM.Blocks.TX
end BlocksTNOPhaseX

section BlocksTNOStatic
/-
  The STATIC-FIELD frame: `SF m` = a step `m` does not shrink the store and leaves kind, htmlType and
  offset of every old node alone (`st3`). `SF` is closed under `pure` / `>>=` / `throw` and holds of the primitives whose
  node write keeps `st3`: so every `Close` has it (`Built.sf`, a fold over GM.Proof.BlocksBuilt; `bpClose_sf`,
  `ptReplace_sf`).  `RecS src n` = the shape of a table record that carries lines.
-/

namespace GM.Blocks.TX
open GM GM.Text GM.Spec GM.Proof.Reader GM.Blocks.TO GM.TableX

/-- the fields nothing but the allocation of a node writes -/
def st3 (n : Node) : Kind × Nat × Int := (n.kind, n.htmlType, n.offset)

/-- a table record that carries lines: a TableHeader / TableRow (escaped-pipe positions), or a TableCell with its one
    line -/
def RecS (src : Bytes) (n : Node) : Prop :=
  hasWitness src n = true ∧ (n.htmlType = tagHeader ∨ n.htmlType = tagRow ∨
    (n.htmlType = tagCell ∧ ∃ sg, n.lines = [sg] ∧ sg.forceNewline = false))

theorem RecS.congr {src : Bytes} {n n' : Node} (h1 : st3 n' = st3 n) (h2 : n'.lines = n.lines) (h : RecS src n) : RecS src n' := by
  simp only [st3, Prod.mk.injEq] at h1
  obtain ⟨_, b, c⟩ := h1
  unfold RecS hasWitness at h ⊢
  rw [b, c, h2]; exact h

/-- the static-field frame between two stores -/
def SFr (s s' : St) : Prop := s.nodes.length ≤ s'.nodes.length ∧ ∀ i, i < s.nodes.length → st3 (nd s' i) = st3 (nd s i)

theorem SFr.refl (s : St) : SFr s s := ⟨Nat.le_refl _, fun _ _ => rfl⟩
theorem SFr.trans {a b c : St} (h1 : SFr a b) (h2 : SFr b c) : SFr a c :=
  ⟨Nat.le_trans h1.1 h2.1, fun i hi => (h2.2 i (Nat.lt_of_lt_of_le hi h1.1)).trans (h1.2 i hi)⟩

theorem SFr.of_nodes {s s' : St} (h : s'.nodes = s.nodes) : SFr s s' :=
  ⟨by rw [h]; exact Nat.le_refl _, fun i _ => by simp only [nd, h]⟩

def SF {α} (m : M α) : Prop := ∀ s a s', m s = .ok (a, s') → SFr s s'

theorem SF.pure {α} (a : α) : SF (pure a : M α) := fun s b s' h => by
  obtain ⟨_, hs⟩ := pure_ok h; rw [hs]; exact SFr.refl _

theorem SF.bind {α β} {m : M α} {f : α → M β} (hm : SF m) (hf : ∀ a, SF (f a)) : SF (m >>= f) := fun s b s' h => by
  obtain ⟨a, s1, h1, k1⟩ := bind_ok h
  exact (hm s a s1 h1).trans (hf a s1 b s' k1)

theorem SF.throw {α} (e : Panic) : SF (throw e : M α) := fun _ _ _ h => by cases h

theorem SF.same {α} {m : M α} (h : ∀ s a s', m s = .ok (a, s') → s'.nodes = s.nodes) : SF m :=
  fun s a s' e => SFr.of_nodes (h s a s' e)

theorem getNode_sf (id : Nat) : SF (getNode id) := SF.same fun _ _ _ h => by cases h; rfl
theorem getPc_sf : SF getPc := SF.same fun _ _ _ h => by cases h; rfl
theorem get_sf : SF (get : M St) := SF.same fun _ _ _ h => by cases h; rfl
theorem source_sf : SF source := SF.same fun _ _ _ h => by cases h; rfl
theorem modPc_sf (f : Ctx → Ctx) : SF (modPc f) := SF.same fun _ _ _ h => by cases h; rfl
theorem liftE_sf {α} (e : Except Panic α) : SF (liftE e) := SF.same fun s a s' h => by
  obtain ⟨_, hs⟩ := liftE_ok h; rw [hs]

theorem modNode_sf (id : Nat) (f : Node → Node) (hf : ∀ n, st3 (f n) = st3 n) : SF (modNode id f) := fun s a s' h => by
  rw [modNode_eq] at h
  cases h
  refine ⟨by rw [upd_len]; exact Nat.le_refl _, fun i _ => ?_⟩
  rw [nd_upd]; split
  · next hc => rw [← hc.1]; exact hf _
  · rfl

theorem appendLine_sf (id : Nat) (seg : Segment) : SF (appendLine id seg) := by
  unfold appendLine; exact modNode_sf _ _ (fun _ => rfl)

theorem newNode_sf (n : Node) : SF (newNode n) := fun s a s' h => by
  obtain ⟨_, hs'⟩ := newNode_ok h
  have hn : s'.nodes = s.nodes ++ [n] := by rw [hs']
  exact ⟨by rw [hn]; simp, fun i hi => by rw [nd_snoc hn, if_pos hi]⟩

/-- a program over the primitives that does not call the reader keeps the static fields, as soon as its node writes do -/
theorem _root_.GM.Blocks.Built.sf {NW PW NN} (hnw : ∀ id f, NW id f → ∀ n, st3 (f n) = st3 n) {α : Type} {m : M α}
    (h : Built False NW PW NN m) : SF m :=
  h.fold (J := fun m => SF m)
    { pure := .pure, bind := .bind, throw := fun e _ => .throw e, liftE := fun e _ => liftE_sf e, rd := fun h _ => h.elim,
      getNode := getNode_sf, getPc := getPc_sf, source := source_sf,
      position := SF.same fun _ _ _ h => by cases h; rfl, get := get_sf,
      modNode := fun i f hf => modNode_sf i f (hnw i f hf), newNode := fun n _ => newNode_sf n,
      modPc := fun f _ => modPc_sf f }

/-- relinking and `DataW` writes keep kind, HTML block type and offset -/
theorem closeW_st3 {id : Nat} {f : Node → Node} (h : CloseW id f) (n : Node) : st3 (f n) = st3 n := by
  rcases h with h | h
  · rw [h.link n]; rfl
  · rw [h n]; rfl

theorem ptReplace_sf (node p : Nat) (bp : Bool) : SF (ptReplace node p bp) := by
  unfold ptReplace
  exact Built.sf (NW := CloseW) (PW := fun _ => False) (NN := fun _ => True) (fun _ _ h => closeW_st3 h)
    (.bind (.newNode _ trivial) fun _ => replaceChild_built (L := fun _ _ => True) _ trivial)

theorem bpClose_sf (bp : BP) (node : Nat) : SF (bpClose bp node) :=
  (bpClose_built bp node).sf fun _ _ h => closeW_st3 h

end GM.Blocks.TX
end BlocksTNOStatic

section BlocksTNORecShape
/-
  The records a table-making call allocates have the shape `RecS` when they carry lines
  (`recD_recS`): the witness `offset = dashAt src` points at a `-` because a table is only made from a source with a `-`.
-/

namespace GM.Blocks.TX
open GM GM.Text GM.Spec GM.Proof.Reader GM.Blocks.TO GM.TableX

theorem witness_of_mem {src : Bytes} (h : (45 : UInt8) ∈ src) (n : Node) (ho : n.offset = (dashAt src : Nat)) :
    hasWitness src n = true := by
  unfold hasWitness dashAt at *
  rw [ho]
  have hlt : src.idxOf 45 < src.length := List.idxOf_lt_length_of_mem h
  have : src[src.idxOf 45]? = some 45 := by
    rw [List.getElem?_eq_getElem hlt, List.getElem_idxOf hlt]
  simp [this]

theorem recD_recS {src : Bytes} {t : GM.Table.Table} {n : Node} (hd : (45 : UInt8) ∈ src) (h : RecD src t (dataOf n))
    (hne : n.lines ≠ []) : RecS src n := by
  rcases h with h | h | ⟨r, _, h⟩ | ⟨r, _, c, _, h⟩
  · exfalso; apply hne; have := congrArg Node.lines h; exact this
  · have h1 := congrArg Node.offset h
    have h2 := congrArg Node.htmlType h
    exact ⟨witness_of_mem hd n h1, .inl h2⟩
  · have h1 := congrArg Node.offset h
    have h2 := congrArg Node.htmlType h
    exact ⟨witness_of_mem hd n h1, .inr (.inl h2)⟩
  · have h1 := congrArg Node.offset h
    have h2 := congrArg Node.htmlType h
    have h3 : n.lines = (cellNode src c).lines := data_lines h
    refine ⟨witness_of_mem hd n h1, .inr (.inr ⟨h2, ?_⟩)⟩
    unfold cellNode at h3
    cases hs : c.seg with
    | none => rw [hs] at h3; exact absurd h3 hne
    | some sg => rw [hs] at h3; exact ⟨ofSeg sg, h3, rfl⟩

/-- the record clause of a store -/
def RecOK (src : Bytes) (s : St) : Prop :=
  ∀ i, (nd s i).kind = .thematicBreak → (nd s i).lines ≠ [] → RecS src (nd s i)

theorem st3_kind {n m : Node} (h : st3 n = st3 m) : n.kind = m.kind := by
  simp only [st3, Prod.mk.injEq] at h; exact h.1

theorem RecOK.step {src : Bytes} {s s' : St} (h : RecOK src s) (hsf : SFr s s')
    (hl : ∀ i, i < s.nodes.length → (nd s i).kind = .thematicBreak → (nd s' i).lines = (nd s i).lines)
    (hnew : ∀ i, s.nodes.length ≤ i → (nd s' i).kind = .thematicBreak → (nd s' i).lines ≠ [] → RecS src (nd s' i)) :
    RecOK src s' := by
  intro i hk hne
  rcases Nat.lt_or_ge i s.nodes.length with hi | hi
  · have h3 := hsf.2 i hi
    have hk0 : (nd s i).kind = .thematicBreak := by rw [← st3_kind h3]; exact hk
    have hl0 := hl i hi hk0
    exact (h i hk0 (by rw [← hl0]; exact hne)).congr h3 hl0
  · exact hnew i hi hk hne

theorem RecOK.of_nd {src : Bytes} {s s' : St} (h : RecOK src s) (hn : ∀ i, nd s' i = nd s i) : RecOK src s' :=
  fun i hk hne => by rw [hn] at hk hne ⊢; exact h i hk hne

end GM.Blocks.TX
end BlocksTNORecShape
