/-
  GM.Proof.BlocksOrd — the ORDER clause of C05(c) and the `WF0` hand-over to the inline phase, as list-level
  statements: the parts into which the two whole-run statements of GM.Props.Blocks (`LinesInRange`, `InlineLinesWF0`)
  are split.

  * `OrdFrom lo ls` — "the line segments `ls` increase": the first starts at or behind `lo`, each next one at or
    behind the previous stop (exactly the recursion of `GM.Blocks.linesOK` and of `WFSegsFrom`).
  * `linesOK_iff`, `allLinesOK_iff` — the Boolean oracle the driver evaluates (`blocks lines`) is range + order.
  * `wf0_iff_parts` — `WF0` = non-empty list + order + per-segment facts (non-empty segment, inside the source,
    padding 0, no ForceNewline).
  * The two whole-run reductions (`allLinesOK_iff_ordered`: with the range clause proved for every source, `LinesInRange
    src` is EQUIVALENT to the order clause alone; `allInlineWF0_iff_parts`: `BlocksEstablishWF0 src` is equivalent to order
    + (start < stop, padding = 0, no ForceNewline) on every inline-bearing node) are in GM.Proof.BlocksOrdRun, behind the
    whole-run no-panic theorem they use.
  * the list algebra of the per-line protocol (`Below`, `OrdFrom.append_fresh`, `Shrinks`): what an append to a
    node whose lines all end at or before the start `L` of the current source line does, and what the trims /
    prefixes / copies of the `Close` functions do.
-/
import GM.Model.Blocks
import GM.Model.Blocks.DriverT
import GM.Model.InlinesLoop
import GM.Proof.BlocksSpecCode
import GM.Proof.BlocksSpecFenced
import GM.Proof.BlocksFrameSteps
import GM.Proof.BlockReader
import GM.Proof.BlocksSpecList
import GM.Proof.BlocksSpecListItem
import GM.Proof.BlocksSpecBasic
import GM.Proof.BlocksWF0
import GM.Proof.BlocksTotal
import GM.Proof.BlocksAtx
import GM.Proof.BlocksPres
import GM.Proof.BlocksInv

namespace GM.Blocks
open GM GM.Text GM.Spec GM.Proof.Reader
open GM.Proof.InlinesReader (WF0)

/-- the segments increase, starting at or behind `lo` -/
def OrdFrom : Int → List Segment → Prop
  | _, [] => True
  | lo, s :: rest => lo ≤ s.start ∧ OrdFrom s.stop rest

theorem OrdFrom.mono {lo lo' : Int} (h : lo' ≤ lo) : ∀ {ls : List Segment}, OrdFrom lo ls → OrdFrom lo' ls
  | [], _ => trivial
  | _ :: _, ⟨h1, h2⟩ => ⟨Int.le_trans h h1, h2⟩

/-- every segment ends at or before `L` -/
def Below (L : Int) (ls : List Segment) : Prop := ∀ t ∈ ls, t.stop ≤ L

theorem Below.mono {L L' : Int} (h : L ≤ L') {ls : List Segment} (hb : Below L ls) : Below L' ls :=
  fun t ht => Int.le_trans (hb t ht) h

theorem Below.nil (L : Int) : Below L [] := fun _ h => by cases h

/-- **the append of the per-line protocol**: a block whose lines increase and all end at or before the start `L`
    of the current source line receives a segment that starts at or behind `L` — the lines still increase -/
theorem OrdFrom.append_fresh {L : Int} {t : Segment} (ht : L ≤ t.start) :
    ∀ {lo : Int} {ls : List Segment}, OrdFrom lo ls → Below L ls → lo ≤ t.start → OrdFrom lo (ls ++ [t])
  | _, [], _, _, hlo => ⟨hlo, trivial⟩
  | _, s :: _, ⟨h1, h2⟩, hb, _ =>
    ⟨h1, OrdFrom.append_fresh ht h2 (fun u hu => hb u (List.mem_cons_of_mem _ hu))
      (Int.le_trans (hb s (List.mem_cons_self ..)) ht)⟩

/-- after such an append every line ends at or before the end `E` of the current source line -/
theorem Below.append {L E : Int} {t : Segment} {ls : List Segment} (hb : Below L ls) (hLE : L ≤ E) (ht : t.stop ≤ E) :
    Below E (ls ++ [t]) := by
  intro u hu
  rcases List.mem_append.1 hu with h | h
  · exact Int.le_trans (hb u h) hLE
  · simp only [List.mem_singleton] at h; rw [h]; exact ht

/-- what the `Close` functions do to a line list, segment by segment: `TrimLeftSpace` / `TrimRightSpace` keep every
    segment inside what it was -/
def Shrinks : List Segment → List Segment → Prop
  | [], [] => True
  | a :: as, b :: bs => a.start ≤ b.start ∧ b.stop ≤ a.stop ∧ Shrinks as bs
  | _, _ => False

theorem Shrinks.refl : ∀ ls : List Segment, Shrinks ls ls
  | [] => trivial
  | a :: as => ⟨Int.le_refl _, Int.le_refl _, Shrinks.refl as⟩

theorem Shrinks.trans : ∀ {a b c : List Segment}, Shrinks a b → Shrinks b c → Shrinks a c
  | [], [], [], _, _ => trivial
  | [], [], _ :: _, _, h => h.elim
  | [], _ :: _, _, h, _ => h.elim
  | _ :: _, [], _, h, _ => h.elim
  | _ :: _, _ :: _, [], _, h => h.elim
  | _ :: _, _ :: _, _ :: _, ⟨h1, h2, h3⟩, ⟨k1, k2, k3⟩ =>
    ⟨Int.le_trans h1 k1, Int.le_trans k2 h2, Shrinks.trans h3 k3⟩

theorem Shrinks.length : ∀ {a b : List Segment}, Shrinks a b → b.length = a.length
  | [], [], _ => rfl
  | [], _ :: _, h => h.elim
  | _ :: _, [], h => h.elim
  | _ :: as, _ :: bs, ⟨_, _, h⟩ => by simp [Shrinks.length h]

theorem OrdFrom.shrinks : ∀ {a b : List Segment} {lo : Int}, Shrinks a b → OrdFrom lo a → OrdFrom lo b
  | [], [], _, _, _ => trivial
  | [], _ :: _, _, h, _ => h.elim
  | _ :: _, [], _, h, _ => h.elim
  | _ :: _, _ :: _, _, ⟨h1, h2, h3⟩, ⟨k1, k2⟩ =>
    ⟨Int.le_trans k1 h1, OrdFrom.shrinks h3 (OrdFrom.mono h2 k2)⟩

theorem Below.shrinks {L : Int} : ∀ {a b : List Segment}, Shrinks a b → Below L a → Below L b
  | [], [], _, _ => Below.nil L
  | [], _ :: _, h, _ => h.elim
  | _ :: _, [], h, _ => h.elim
  | a :: as, b :: bs, ⟨_, h2, h3⟩, hb => by
    intro u hu
    rcases List.mem_cons.1 hu with h | h
    · rw [h]; exact Int.le_trans h2 (hb a (List.mem_cons_self ..))
    · exact Below.shrinks h3 (fun v hv => hb v (List.mem_cons_of_mem _ hv)) u h

/-- replacing one line by a shrunk one (`lines.Set(length-1, lastLine.TrimRightSpace(..))`) shrinks the list -/
theorem Shrinks.set : ∀ (ls : List Segment) (i : Nat) (t : Segment) (hi : i < ls.length),
    ls[i].start ≤ t.start → t.stop ≤ ls[i].stop → Shrinks ls (ls.set i t)
  | [], _, _, hi, _, _ => by simp at hi
  | a :: as, 0, t, _, h1, h2 => ⟨h1, h2, Shrinks.refl as⟩
  | a :: as, i + 1, t, hi, h1, h2 =>
    ⟨Int.le_refl _, Int.le_refl _, Shrinks.set as i t (by simpa using hi) (by simpa using h1) (by simpa using h2)⟩

/-- a prefix of the lines (`lines.SetSliced(0, n)` of codeBlockParser.Close) keeps order and bound -/
theorem OrdFrom.take : ∀ (n : Nat) {lo : Int} {ls : List Segment}, OrdFrom lo ls → OrdFrom lo (ls.take n)
  | 0, _, _, _ => by simp [OrdFrom]
  | _ + 1, _, [], _ => by simp [OrdFrom]
  | n + 1, _, _ :: _, ⟨h1, h2⟩ => ⟨h1, OrdFrom.take n h2⟩

theorem Below.take {L : Int} (n : Nat) {ls : List Segment} (h : Below L ls) : Below L (ls.take n) :=
  fun t ht => h t (List.mem_of_mem_take ht)

/-! ### the driver's oracle `blocks lines` is range + order -/

theorem linesOK_iff (len : Int) : ∀ (ls : List Segment) (lo : Int),
    linesOK len lo ls = true ↔
      (∀ t ∈ ls, 0 ≤ t.start ∧ t.start ≤ t.stop ∧ t.stop ≤ len ∧ 0 ≤ t.padding) ∧ OrdFrom lo ls
  | [], lo => by simp [linesOK, OrdFrom]
  | s :: rest, lo => by
    simp only [linesOK, Bool.and_eq_true, decide_eq_true_eq, linesOK_iff len rest s.stop, OrdFrom, List.mem_cons,
      forall_eq_or_imp]
    constructor
    · rintro ⟨⟨⟨⟨⟨h1, h2⟩, h3⟩, h4⟩, h5⟩, h6, h7⟩
      exact ⟨⟨⟨h1, h2, h3, h4⟩, h6⟩, h5, h7⟩
    · rintro ⟨⟨⟨h1, h2, h3, h4⟩, h6⟩, h5, h7⟩
      exact ⟨⟨⟨⟨⟨h1, h2⟩, h3⟩, h4⟩, h5⟩, h6, h7⟩

theorem allLinesOK_iff (src : Bytes) (s : St) :
    allLinesOK src s = true ↔ ∀ n ∈ s.nodes, LinesOK src n.lines ∧ OrdFrom (-1) n.lines := by
  simp only [allLinesOK, List.all_eq_true, linesOK_iff]
  exact Iff.rfl

/-- with all starts ≥ 0 the lower bound −1 of the oracle and the lower bound 0 of `WFSegs` are the same -/
theorem ordFrom_zero_of_neg {ls : List Segment} (h0 : ∀ t ∈ ls, 0 ≤ t.start) (h : OrdFrom (-1) ls) : OrdFrom 0 ls := by
  cases ls with
  | nil => trivial
  | cons a rest => exact ⟨h0 a (List.mem_cons_self ..), h.2⟩

theorem wfSegsFrom_iff (src : Bytes) : ∀ (ls : List Segment) (lo : Int),
    WFSegsFrom src lo ls ↔ OrdFrom lo ls ∧
      ∀ t ∈ ls, t.start < t.stop ∧ t.stop ≤ src.length ∧ 0 ≤ t.padding ∧ t.forceNewline = false
  | [], lo => by simp [WFSegsFrom, OrdFrom]
  | s :: rest, lo => by
    simp only [WFSegsFrom, OrdFrom, wfSegsFrom_iff src rest s.stop, List.mem_cons, forall_eq_or_imp]
    constructor
    · rintro ⟨h1, h2, h3, h4, h5, h6, h7⟩
      exact ⟨⟨h1, h6⟩, ⟨h2, h3, h4, h5⟩, h7⟩
    · rintro ⟨⟨h1, h6⟩, ⟨h2, h3, h4, h5⟩, h7⟩
      exact ⟨h1, h2, h3, h4, h5, h6, h7⟩

theorem wf0_iff_parts (src : Bytes) (ls : List Segment) :
    WF0 src ls ↔ ls ≠ [] ∧ OrdFrom 0 ls ∧
      ∀ t ∈ ls, t.start < t.stop ∧ t.stop ≤ src.length ∧ t.padding = 0 ∧ t.forceNewline = false := by
  unfold WF0 WFSegs
  rw [wfSegsFrom_iff]
  constructor
  · rintro ⟨⟨h1, h2, h3⟩, h4⟩
    exact ⟨h1, h2, fun t ht => ⟨(h3 t ht).1, (h3 t ht).2.1, h4 t ht, (h3 t ht).2.2.2⟩⟩
  · rintro ⟨h1, h2, h3⟩
    exact ⟨⟨h1, h2, fun t ht => ⟨(h3 t ht).1, (h3 t ht).2.1, by rw [(h3 t ht).2.2.1]; exact Int.le_refl _, (h3 t ht).2.2.2⟩⟩,
      fun t ht => (h3 t ht).2.2.1⟩

end GM.Blocks

