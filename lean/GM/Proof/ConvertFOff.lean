/-
  GM.Proof.ConvertFOff — `convertF false = convertCore`: with the extension off the composed model of GM.Model.ConvertF is the
  default pipeline (block phase: GM.Proof.ConvertFSim; every tag plain; the default trigger table; no FootnoteLink decoded;
  the transformer finds no list; the node renderers' state is the core's).
-/
import GM.Proof.ConvertFSim
import GM.Proof.ConvertX

namespace GM.ConvertF
open GM GM.Text GM.Blocks GM.Convert

/-! ### the tree: every tag plain -/

mutual
def plainTree : Tree → FTree
  | .node n cs => .node .plain n (plainTrees cs)
def plainTrees : List Tree → List FTree
  | [] => []
  | t :: rest => plainTree t :: plainTrees rest
end

theorem plainTrees_map {α} (g : α → Tree) : ∀ l : List α, plainTrees (l.map g) = l.map fun a => plainTree (g a)
  | [] => rfl
  | a :: rest => by simp only [List.map, plainTrees, plainTrees_map g rest]

theorem tagIn_empty (id : Nat) : tagIn {} .body id = .plain := by
  simp [tagIn, FS.isFn]

theorem treeOfF_empty (nodes : List Blocks.Node) : ∀ (fuel id : Nat),
    treeOfF {} nodes fuel .body id = plainTree (treeOf nodes fuel id)
  | 0, id => by simp [treeOfF, treeOf, plainTree, plainTrees, tagIn_empty, FTag.isList]
  | fuel + 1, id => by
    simp only [treeOfF, treeOf, plainTree, tagIn_empty, FTag.isList, Bool.false_eq_true, if_false, plainTrees_map]
    congr 1
    apply List.map_congr_left
    intro a _
    exact treeOfF_empty nodes fuel a

mutual
theorem plainTree_listCount : ∀ t : Tree, (plainTree t).listCount = 0
  | .node n cs => by simp [plainTree, FTree.listCount, FTag.isList, plainTrees_listCount cs]
theorem plainTrees_listCount : ∀ ts : List Tree, FTree.listCountL (plainTrees ts) = 0
  | [] => by simp [plainTrees, FTree.listCountL]
  | t :: rest => by simp [plainTrees, FTree.listCountL, plainTree_listCount t, plainTrees_listCount rest]
end

theorem monitor_empty (st : St) (t : Tree) : monitorFires {} st (plainTree t) = false := by
  simp [monitorFires, plainTree_listCount]

/-! ### the inline phase over the default table -/

theorem inlineTblF_off (refs : Option (List Bytes)) : inlineTblF false refs = GM.Inl.baseTbl := by
  funext b; simp [inlineTblF]

theorem parseBlockX_base (env : GM.Inl.Env) (src : Bytes) (segs : List Segment) :
    GM.Inl.parseBlockX env GM.Inl.baseTbl src segs = GM.Inl.parseBlock env src segs := by
  unfold GM.Inl.parseBlockX GM.Inl.parseBlock
  simp only [GM.Proof.InlinesLoopX.lineLoopX_base]

theorem inlinePhaseF_off (guard : Bool) (refs : Option (List Bytes)) (env : GM.Inl.Env) (src : Bytes) (n : Blocks.Node) :
    inlinePhaseF false guard refs env src n = inlinePhase guard env src n := by
  simp only [inlinePhaseF, inlinePhase, inlineTblF_off, parseBlockX_base]

/-! ### no FootnoteLink is decoded -/

mutual
theorem inlineTreeF_off (m : Nat) (src : Bytes) : ∀ n : GM.Inl.Node, inlineTreeF false m src n = inlineTree src n
  | .text .. => by simp [inlineTreeF, inlineTree]
  | .codeSpan kids => by simp [inlineTreeF, inlineTree, inlineTreesF_off m src kids]
  | .emphasis lv kids => by simp [inlineTreeF, inlineTree, inlineTreesF_off m src kids]
  | .link im d t kids => by simp [inlineTreeF, inlineTree, inlineTreesF_off m src kids]
  | .autoLink .. => by simp [inlineTreeF, inlineTree]
  | .rawHTML .. => by simp [inlineTreeF, inlineTree]
  | .delim .. => by simp [inlineTreeF, inlineTree]
  | .label .. => by simp [inlineTreeF, inlineTree]
theorem inlineTreesF_off (m : Nat) (src : Bytes) : ∀ ns : List GM.Inl.Node, inlineTreesF false m src ns = inlineTrees src ns
  | [] => by simp [inlineTreesF, inlineTrees]
  | n :: rest => by simp [inlineTreesF, inlineTrees, inlineTreeF_off m src n, inlineTreesF_off m src rest]
end

/-! ### the tree in front of the transformer is GM.Convert.docTree's -/

mutual
theorem docTreeF_plain (guard : Bool) (refs : Option (List Bytes)) (env : GM.Inl.Env) (src : Bytes) : ∀ t : Tree,
    docTreeF false guard refs env src (plainTree t) = docTree guard env src t
  | .node n cs => by
    unfold plainTree docTreeF docTree
    rw [docTreesF_plain guard refs env src cs, inlinePhaseF_off]
    simp only [inlineTreesF_off, blockKindF]
theorem docTreesF_plain (guard : Bool) (refs : Option (List Bytes)) (env : GM.Inl.Env) (src : Bytes) : ∀ ts : List Tree,
    docTreesF false guard refs env src (plainTrees ts) = docTrees guard env src ts
  | [] => by unfold plainTrees docTreesF docTrees; rfl
  | t :: rest => by
    unfold plainTrees docTreesF docTrees
    rw [docTreeF_plain guard refs env src t, docTreesF_plain guard refs env src rest]
end

/-! ### the composition -/

theorem parseDocF_off (guard : Bool) (uc : List (Nat × (Bool × Bool))) (src : Bytes) :
    parseDocF false guard uc src = parseDoc guard uc src := by
  unfold parseDocF parsePhases parseDoc blockPhaseF blockPhase
  rw [runF_off]
  cases runT (paragraphTransformers guard) src with
  | error e => rfl
  | ok st =>
    simp only [Except.map, liftErr, bind, Except.bind, listKids, treeOfF_empty, monitor_empty, docTreeF_plain,
      Bool.false_eq_true, if_false]
    cases docTree guard { refs := st.pc.refs, uc := uc } src (treeOf st.nodes st.nodes.length 0) with
    | error e => rfl
    | ok t => simp [finishDoc, pure, Except.pure]

theorem rcfgF_off (pre : Option Bytes) (o : ROpts) : rcfgF false pre o = o.rcfg := rfl

theorem convertFWith_off (guard : Bool) (pre : Option Bytes) (uc : List (Nat × (Bool × Bool))) (o : ROpts) (src : Bytes) :
    convertFWith false guard pre uc o src = convertWith guard uc o src := by
  unfold convertFWith convertWith
  rw [parseDocF_off]
  rfl

end GM.ConvertF
