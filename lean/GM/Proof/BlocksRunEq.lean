/-
  GM.Proof.BlocksRunEq — `runT [] = run`: the block driver with paragraph transformers (GM.Model.Blocks.DriverT) at the empty list is the driver of GM.Model.Blocks.Driver,
  function by function, up to `runT_nil`; the two differ by the dead `retryTransformed` branch and the `tdone` flag only.
-/
import GM.Model.Blocks.DriverT

section CloseFunctions

namespace GM.Blocks
open GM GM.Text

theorem transformParagraph_nil (n : Nat) : transformParagraph [] n = pure false := by
  unfold transformParagraph; rfl

theorem closeLoopT_nil (blocks : List Block) (to : Int) : ∀ k, closeLoopT [] blocks to k = closeLoop blocks to k
  | 0 => by unfold closeLoopT closeLoop; rfl
  | k + 1 => by
    unfold closeLoopT closeLoop
    rw [closeLoopT_nil blocks to k]
    funext s
    simp only [bind, StateT.bind, liftE, transformParagraph_nil, getNode, pure, StateT.pure, Except.pure, Except.bind]
    cases blockAt blocks (to + ↑k) with
    | error e => rfl
    | ok b =>
      simp only [Except.map]
      split <;> rfl

theorem closeBlocksT_nil (frm to : Int) : closeBlocksT [] frm to = closeBlocks frm to := by
  unfold closeBlocksT closeBlocks
  simp only [closeLoopT_nil]

end GM.Blocks
end CloseFunctions

section Driver
namespace GM.Blocks
open GM GM.Text

/-- the outcomes of `tryParsers` among those of `tryParsersT` -/
def liftO : TryOutcome → TryOutcomeT
  | .retry p => .retry p
  | .done => .done

theorem requireParaT_nil (parent : Nat) (last : Option Nat) (lastBlock : Option Block) (s : St) :
    requireParaT [] parent last lastBlock s =
      (do
        if last == (← getNode parent).children.getLast? then
          match lastBlock with
          | none => throw .nil
          | some lb =>
            bpClose lb.bp lb.node
            let blocks := (← getPc).opened
            if blocks.length == 0 then throw .slice
            modPc fun pc => { pc with opened := blocks.dropLast }
            if (← getNode lb.node).kind != .paragraph then throw .assert
        pure false : M Bool) s := by
  unfold requireParaT
  simp only [bind, StateT.bind, getNode, pure, Except.pure, Except.bind, transformParagraph_nil]
  split
  · cases lastBlock <;> rfl
  · rfl

theorem sb_congr {α β γ : Type} (F : β × St → γ × St) (m : M α) (k : α → M β) (k' : α → M γ) (s : St)
    (h : ∀ a s, k' a s = (k a s).map F) : StateT.bind m k' s = (StateT.bind m k s).map F := by
  simp only [StateT.bind, bind, Except.bind]
  cases m s with
  | error e => rfl
  | ok p => exact h p.1 p.2

macro "sbc" : tactic => `(tactic| (refine sb_congr _ _ _ _ _ (fun _ _ => ?_); try dsimp only))

theorem sb_pure {α β : Type} (a : α) (k : α → M β) (s : St) : StateT.bind (StateT.pure a) k s = k a s := rfl

macro "tprest" : tactic => `(tactic| (sbc; sbc; rfl))
macro "tptailS" : tactic => `(tactic|
  (sbc
   split <;>
   (sbc
    split
    · sbc; sbc; tprest
    · tprest)))
macro "tptailN" : tactic => `(tactic| (sbc; split <;> tprest))

theorem requirePara_step {γ γ' : Type} (F : γ × St → γ' × St) (parent : Nat) (last : Option Nat)
    (lastBlock : Option Block) (R : γ') (Kt : M γ') (K : M γ) (h : ∀ s, Kt s = (K s).map F) (s : St) :
    StateT.bind (requireParaT [] parent last lastBlock) (fun t => if t = true then StateT.pure R else Kt) s =
      ((do
        if last == (← getNode parent).children.getLast? then
          match lastBlock with
          | none => throw .nil
          | some lb =>
            bpClose lb.bp lb.node
            let blocks := (← getPc).opened
            if blocks.length == 0 then throw .slice
            modPc fun pc => { pc with opened := blocks.dropLast }
            if (← getNode lb.node).kind != .paragraph then throw .assert
        K : M γ) s).map F := by
  unfold requireParaT
  by_cases hc : (last == (s.nodes.getD parent default).children.getLast?) = true
  · simp only [bind, StateT.bind, getNode, pure, StateT.pure, Except.pure, Except.bind, hc, ↓reduceIte,
      transformParagraph_nil]
    cases lastBlock with
    | none => rfl
    | some lb =>
      simp only [bind, StateT.bind, Except.bind, getPc, modPc, get, getThe, MonadStateOf.get, StateT.get, pure,
        StateT.pure, Except.pure, modify, modifyGet, MonadStateOf.modifyGet, StateT.modifyGet, getNode]
      cases hb : bpClose lb.bp lb.node s with
      | error e => rfl
      | ok p =>
        dsimp only
        by_cases h0 : (p.snd.pc.opened.length == 0) = true
        · rw [if_pos h0, if_pos h0]; rfl
        · rw [if_neg h0, if_neg h0]
          simp only [StateT.bind, modPc, modify, modifyGet, MonadStateOf.modifyGet, StateT.modifyGet, getNode, pure,
            StateT.pure, Except.pure, bind, Except.bind]
          by_cases hk : ((p.snd.nodes.getD lb.node default).kind != Kind.paragraph) = true
          · rw [if_pos hk, if_pos hk]; rfl
          · rw [if_neg hk, if_neg hk]; exact h _
  · simp only [bind, StateT.bind, getNode, pure, StateT.pure, Except.pure, Except.bind, hc, ↓reduceIte]
    exact h _

theorem tryParsersT_nil (parent : Nat) (blankLine continuable : Bool) (w : Int) :
    ∀ (bps : List BP) (result : OpenResult) (lastBlock : Option Block) (s : St),
      tryParsersT [] parent blankLine continuable w bps result lastBlock s =
        (tryParsers parent blankLine continuable w bps result lastBlock s).map
          (fun x => ((liftO x.1.1, x.1.2), x.2))
  | [], result, lastBlock, s => by
    unfold tryParsersT tryParsers
    rfl
  | bp :: bps, result, lastBlock, s => by
    unfold tryParsersT tryParsers
    split
    · exact tryParsersT_nil parent blankLine continuable w bps result lastBlock s
    · split
      · exact tryParsersT_nil parent blankLine continuable w bps result lastBlock s
      · simp only [bind, StateT.bind, lastOpenedBlock, getPc, get, getThe, MonadStateOf.get, StateT.get, pure,
          StateT.pure, Except.pure, Except.bind, closeBlocksT_nil]
        cases hO : bpOpen bp parent s with
        | error e => rfl
        | ok p =>
          obtain ⟨⟨node, state⟩, s1⟩ := p
          dsimp only
          cases node with
          | none => exact tryParsersT_nil parent blankLine continuable w bps result _ s1
          | some node =>
            dsimp only
            generalize Option.map (fun x : Block => x.node) s.pc.opened.getLast? = last
            by_cases hr : state.requirePara = true
            · rw [if_pos hr, if_pos hr]
              refine requirePara_step _ _ _ _ _ _ _ (fun s' => ?_) _
              cases last with
              | none => tptailN
              | some l => tptailS
            · rw [if_neg hr, if_neg hr, sb_pure, if_neg Bool.false_ne_true]
              cases last with
              | none => tptailN
              | some l => tptailS

theorem sb_congr_id {α β : Type} (m : M α) (k k' : α → M β) (s : St) (h : ∀ a s, k' a s = k a s) :
    StateT.bind m k' s = StateT.bind m k s := by
  simp only [StateT.bind, bind, Except.bind]
  cases m s with
  | error e => rfl
  | ok p => exact h p.1 p.2

theorem sb_map_congr {α α' β : Type} (g : α → α') (mT : M α') (m : M α) (k' : α' → M β) (k : α → M β) (s : St)
    (hm : ∀ s, mT s = (m s).map (fun x => (g x.1, x.2))) (h : ∀ a s, k' (g a) s = k a s) :
    StateT.bind mT k' s = StateT.bind m k s := by
  simp only [StateT.bind, bind, Except.bind, hm]
  cases m s with
  | error e => rfl
  | ok p => exact h p.1 p.2

macro "sbi" : tactic => `(tactic| (refine sb_congr_id _ _ _ _ (fun _ _ => ?_); try dsimp only))

theorem openBlocksLoopT_nil (blankLine continuable : Bool) :
    ∀ (fuel : Nat) (tdone : Bool) (parent : Nat) (result : OpenResult) (lastBlock : Option Block) (s : St),
      openBlocksLoopT [] blankLine fuel tdone continuable parent result lastBlock s =
        openBlocksLoop blankLine continuable fuel parent result lastBlock s
  | 0, _, _, _, _, _ => by unfold openBlocksLoopT openBlocksLoop; rfl
  | fuel + 1, tdone, parent, result, lastBlock, s => by
    unfold openBlocksLoopT openBlocksLoop retryStepT
    simp only [bind, pure]
    sbi
    sbi
    sbi
    have step : ∀ (w : Int) (bps : List BP) (s0 : St),
        (StateT.bind get fun __do_lift =>
          StateT.bind (tryParsersT [] parent blankLine continuable w bps result lastBlock) fun __x =>
            match __x.fst with
            | TryOutcomeT.retry parent' =>
              StateT.bind get fun __do_lift_1 =>
                if (!decide (retryMeasure __do_lift_1 < retryMeasure __do_lift)) = true then
                  StateT.bind (throw Panic.pre : M PUnit) fun __r =>
                    openBlocksLoopT [] blankLine fuel tdone continuable parent' __x.2.fst __x.2.snd
                else openBlocksLoopT [] blankLine fuel tdone continuable parent' __x.2.fst __x.2.snd
            | TryOutcomeT.retryTransformed =>
              StateT.bind get fun __do_lift_1 =>
                if (tdone || !decide (retryMeasure __do_lift_1 ≤ retryMeasure __do_lift)) = true then
                  StateT.bind (throw Panic.pre : M PUnit) fun __r =>
                    openBlocksLoopT [] blankLine fuel true false parent __x.2.fst __x.2.snd
                else openBlocksLoopT [] blankLine fuel true false parent __x.2.fst __x.2.snd
            | TryOutcomeT.done => toContinuable continuable __x.2.fst __x.2.snd) s0 =
        (StateT.bind get fun __do_lift =>
          StateT.bind (tryParsers parent blankLine continuable w bps result lastBlock) fun __x =>
            match __x.fst with
            | TryOutcome.retry parent' =>
              StateT.bind get fun __do_lift_1 =>
                if (!decide (retryMeasure __do_lift_1 < retryMeasure __do_lift)) = true then
                  StateT.bind (throw Panic.pre : M PUnit) fun __r =>
                    openBlocksLoop blankLine continuable fuel parent' __x.2.fst __x.2.snd
                else openBlocksLoop blankLine continuable fuel parent' __x.2.fst __x.2.snd
            | TryOutcome.done => toContinuable continuable __x.2.fst __x.2.snd) s0 := by
      intro w bps s0
      sbi
      refine sb_map_congr (fun a => (liftO a.1, a.2)) _ _ _ _ _
        (fun s => tryParsersT_nil parent blankLine continuable w bps result lastBlock s) (fun a s => ?_)
      obtain ⟨o, r, lb⟩ := a
      cases o with
      | done => rfl
      | retry p' =>
        dsimp only [liftO]
        sbi
        split
        · rfl
        · exact openBlocksLoopT_nil blankLine continuable fuel tdone p' r lb _
    split
    · rfl
    · sbi
      split
      · rfl
      · split
        · sbi
          rw [sb_pure, sb_pure]
          exact step _ _ _
        · rw [sb_pure, sb_pure]
          exact step _ _ _

theorem openBlocksT_nil (parent : Nat) (blankLine : Bool) : openBlocksT [] parent blankLine = openBlocks parent blankLine := by
  unfold openBlocksT openBlocks
  have h : ∀ fuel td c p r lb, openBlocksLoopT [] blankLine fuel td c p r lb = openBlocksLoop blankLine c fuel p r lb :=
    fun fuel td c p r lb => funext (openBlocksLoopT_nil blankLine c fuel td p r lb)
  simp only [h]
  rfl

theorem lineLoopT_nil (parent : Nat) (openedBlocks : List Block) (lastIndex : Int) :
    ∀ (rest : List Block) (i : Int) (blankLines : List LineStat),
      lineLoopT [] parent openedBlocks lastIndex rest i blankLines = lineLoop parent openedBlocks lastIndex rest i blankLines
  | [], _, _ => by unfold lineLoopT lineLoop; rfl
  | be :: rest, i, blankLines => by
    unfold lineLoopT lineLoop
    have ih := lineLoopT_nil parent openedBlocks lastIndex rest
    simp only [openBlocksT_nil, closeBlocksT_nil, ih]
    rfl

theorem linesLoopT_nil (parent : Nat) : ∀ (fuel : Nat) (blankLines : List LineStat),
    linesLoopT [] parent fuel blankLines = linesLoop parent fuel blankLines
  | 0, _ => by unfold linesLoopT linesLoop; rfl
  | fuel + 1, blankLines => by
    unfold linesLoopT linesLoop
    have ih := linesLoopT_nil parent fuel
    simp only [lineLoopT_nil, ih]
    rfl

theorem blocksLoopT_nil (parent : Nat) : ∀ (fuel : Nat) (blankLines : List LineStat),
    blocksLoopT [] parent fuel blankLines = blocksLoop parent fuel blankLines
  | 0, _ => by unfold blocksLoopT blocksLoop; rfl
  | fuel + 1, blankLines => by
    unfold blocksLoopT blocksLoop
    have ih := blocksLoopT_nil parent fuel
    simp only [openBlocksT_nil, linesLoopT_nil, ih]

theorem parseBlocksT_nil (parent : Nat) : parseBlocksT [] parent = parseBlocks parent := by
  unfold parseBlocksT parseBlocks
  simp only [blocksLoopT_nil]

/-- **the driver with an empty list of paragraph transformers is the driver without transformers** -/
theorem runT_nil (src : Bytes) : runT [] src = run src := by
  unfold runT run
  rw [parseBlocksT_nil]

end GM.Blocks
end Driver
