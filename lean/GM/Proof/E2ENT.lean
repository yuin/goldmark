/-
  GM.Proof.E2ENT — the composed pipeline over an ARBITRARY list of paragraph transformers (`convertT pts`), of which
  `GM.Convert.convertWith guard` is the instance `pts = paragraphTransformers guard` (by `rfl`) and `convertNT` the
  instance `pts = []`: goldmark with a parser built WITHOUT paragraph transformers
  (`parser.NewParser(parser.WithBlockParsers(parser.DefaultBlockParsers()...), parser.WithInlineParsers(...))`, the
  configuration GM.Model.Blocks.Driver models).

    * `docTree_total`, `convertT_total_of_tree`: the tree phases answer a tree no node renderer panics on, from every store whose
      tree nodes have raw segments in range and `WF0` lines — the member set `core` of the theorems about `docTreeL`
      (GM.Proof.ConvertXE2E.docTreeL_renders, GM.Proof.ConvertX);
    * `convertNT_total`: **for `pts = []` it ALWAYS does** — `runT [] = run` (GM.Proof.BlocksRunEq), `GM.Props.Blocks.no_panic`,
      `lines_in_range`, `GM.Props.Wf0.inline_lines_wf0`, the frame invariants of GM.Proof.E2EKeeps.
-/
import GM.Proof.E2EStoreDone
import GM.Proof.BlocksRunEq
import GM.Props.Wf0
import GM.Props.Inlines
import GM.Proof.BlocksNoPanicAll
import GM.Proof.E2EDriver
import GM.Proof.E2ERel
import GM.Proof.ConvertXE2E
import GM.Proof.ConvertX

namespace GM.E2E
open GM GM.Text GM.Convert GM.Spec
open GM.Blocks (PT runT run)
open GM.Proof.InlinesReader (WF0)
open GM.Inl (Env)

/-- `parser.Parse` over a parser with the paragraph transformers `pts` -/
def parseDocT (pts : List PT) (guard : Bool) (uc : List (Nat × (Bool × Bool))) (src : Bytes) : Except Err GM.Node := do
  let st ← liftErr .blocks (runT pts src)
  let env : GM.Inl.Env := { refs := st.pc.refs, uc := uc }
  docTree guard env src (GM.Blocks.treeOf st.nodes st.nodes.length 0)

/-- `Markdown.Convert` over a parser with the paragraph transformers `pts` -/
def convertT (pts : List PT) (guard : Bool) (uc : List (Nat × (Bool × Bool))) (o : ROpts) (src : Bytes) :
    Except Err Bytes := do
  let t ← parseDocT pts guard uc src
  renderDoc o t

theorem parseDoc_eq_parseDocT (guard : Bool) (uc : List (Nat × (Bool × Bool))) (src : Bytes) :
    parseDoc guard uc src = parseDocT (paragraphTransformers guard) guard uc src := rfl

theorem convertWith_eq_convertT (guard : Bool) (uc : List (Nat × (Bool × Bool))) (o : ROpts) (src : Bytes) :
    convertWith guard uc o src = convertT (paragraphTransformers guard) guard uc o src := rfl

/-- the default CommonMark pipeline with NO paragraph transformer (so: no link reference definitions) -/
def convertNT (uc : List (Nat × (Bool × Bool))) (o : ROpts) (src : Bytes) : Except Err Bytes :=
  convertT [] true uc o src

theorem inlinePhase_total {env : Env} {src : Bytes} {n : GM.Blocks.Node} (h : NodeTot src n) :
    ∃ kids, inlinePhase true env src n = .ok kids := by
  obtain ⟨kids, hk, _⟩ := GM.Proof.ConvertXE2E.inlinePhaseL_total GM.Proof.ConvertCoreL.core rfl (env := env) (inItem := false) h
  exact ⟨kids, by rw [GM.Proof.ConvertCoreL.inlinePhase_eqL true env src false]; exact hk⟩

theorem docTree_total (env : Env) (src : Bytes) : ∀ (t : GM.Blocks.Tree), treeAll (NodeTot src) t →
    ∃ x, docTree true env src t = .ok x := by
  intro t ha
  rw [GM.Proof.ConvertCoreL.docTree_eqL true env src [] false]
  exact GM.Proof.ConvertXE2E.docTreeL_total _ rfl env [] false t ha

theorem docTrees_total (env : Env) (src : Bytes) : ∀ (ts : List GM.Blocks.Tree), treesAll (NodeTot src) ts →
    ∃ xs, docTrees true env src ts = .ok xs := by
  intro ts ha
  rw [GM.Proof.ConvertCoreL.docTrees_eqL true env src [] false false]
  exact GM.Proof.ConvertXE2E.docTreesL_total _ rfl env [] false false ts ha

/-- the store facts the tree phases need: raw segments in range, inline-bearing lines `WF0` -/
structure StoreTot (src : Bytes) (st : GM.Blocks.St) : Prop where
  raw : RawSegsInRange src st
  wf0 : ∀ n ∈ st.nodes, isRawKind n.kind = false → n.lines ≠ [] → WF0 src n.lines

theorem nodeTot_getD {src : Bytes} {st : GM.Blocks.St} (h : StoreTot src st) (i : Nat) : NodeTot src (st.nodes.getD i default) := by
  by_cases hlt : i < st.nodes.length
  · have e : st.nodes.getD i default = st.nodes[i] := by simp [List.getD, hlt]
    have hm : st.nodes[i] ∈ st.nodes := List.getElem_mem hlt
    rw [e]
    exact ⟨h.raw _ hm, h.wf0 _ hm⟩
  · have e : st.nodes.getD i default = default := by
      simp [List.getD, List.getElem?_eq_none (Nat.le_of_not_lt hlt)]
    rw [e]; exact nodeTot_default src

theorem ptsKeep_nil (I : GM.Blocks.St → Prop) : PTsKeep I [] := fun _ h => by cases h

theorem run_storeTot (src : Bytes) (st : GM.Blocks.St) (h : run src = .ok st) : StoreTot src st := by
  have hT : runT [] src = .ok st := by rw [GM.Blocks.runT_nil]; exact h
  have hx := runT_xsegs src (ptsKeep_nil _) st hT
  have hl := GM.Props.Blocks.lines_in_range src st h
  have hw := GM.Props.Wf0.inline_lines_wf0 src st h
  refine ⟨fun n hn => ⟨fun _ t ht => (hl n hn).1 t ht, (hx n hn).info, (hx n hn).closure⟩, fun n hn hr hne => ?_⟩
  refine GM.Proof.BlocksWF0.wf0_of_allInlineWF0 hw hn ?_
  simp only [GM.Proof.BlocksWF0.inlineBearing, isRaw_eq_isRawKind, hr, Bool.not_false, Bool.true_and, Bool.not_eq_true']
  cases hls : n.lines with
  | nil => exact absurd hls hne
  | cons a b => rfl

/-- `StoreTot` from the facts the block-phase theorems state: every line in range (`NodesOK` / `lines_in_range`), the
    lines of non-raw blocks `WFSegs` (GM.Props.Wf0 / GM.Props.ConvertNP `…_lines_wellformed`) and of padding 0 (`GM.Props.Wf0.nonraw_lines_padding_zero`) -/
theorem storeTot_of_facts {pts : List PT} {src : Bytes} (hp : PTsKeep (XS src) pts) (st : GM.Blocks.St)
    (hst : runT pts src = .ok st)
    (hL : ∀ n ∈ st.nodes, ∀ t ∈ n.lines, 0 ≤ t.start ∧ t.start ≤ t.stop ∧ t.stop ≤ src.length ∧ 0 ≤ t.padding)
    (hW : ∀ n ∈ st.nodes, GM.Proof.BlocksWF0.isRaw n.kind = false → n.lines ≠ [] → WFSegs src n.lines)
    (hP : ∀ n ∈ st.nodes, GM.Proof.BlocksWF0.isRaw n.kind = false → ∀ t ∈ n.lines, t.padding = 0) : StoreTot src st := by
  have hx := runT_xsegs src hp st hst
  refine ⟨fun n hn => ⟨fun _ t ht => hL n hn t ht, (hx n hn).info, (hx n hn).closure⟩, fun n hn hr hne => ?_⟩
  have hr' : GM.Proof.BlocksWF0.isRaw n.kind = false := by rw [isRaw_eq_isRawKind]; exact hr
  exact ⟨hW n hn hr' hne, hP n hn hr'⟩

/-! ### the same from facts about the nodes REACHABLE from the Document only

The store of the driver WITH transformers contains nodes that are not in the tree (a Paragraph that was transformed away, a
setext Heading abandoned on the `goto retry` behind it — witness `> [a]: /u⏎>⇥===⏎`: the abandoned Heading
keeps a padded line), so facts like "padding 0" only hold of attached nodes. `docTree` only ever visits the tree. -/

theorem convertT_total_of_tree {pts : List PT} (hp : PTsKeep HeadOK pts) (uc : List (Nat × (Bool × Bool))) (o : ROpts)
    (src : Bytes) (st : GM.Blocks.St) (hst : runT pts src = .ok st)
    (h0 : NodeTot src (st.nodes.getD 0 default))
    (hk : ∀ p c, c ∈ (st.nodes.getD p default).children → NodeTot src (st.nodes.getD c default)) :
    ∃ html, convertT pts true uc o src = .ok html := by
  obtain ⟨t, ht, hr⟩ := GM.Proof.ConvertXE2E.docTreeL_renders GM.Proof.ConvertCoreL.core rfl { refs := st.pc.refs, uc := uc } st
    (runT_headOK hp src st hst) h0 hk
  rw [← GM.Proof.ConvertCoreL.docTree_eqL] at ht
  refine ⟨render o.rcfg t, ?_⟩
  simp only [convertT, parseDocT, bind, Except.bind, hst, liftErr, ht, renderDoc, hr]

theorem convertT_total_of_store {pts : List PT} (hp : PTsKeep HeadOK pts) (uc : List (Nat × (Bool × Bool))) (o : ROpts)
    (src : Bytes) (st : GM.Blocks.St) (hst : runT pts src = .ok st) (hS : StoreTot src st) :
    ∃ html, convertT pts true uc o src = .ok html :=
  convertT_total_of_tree hp uc o src st hst (nodeTot_getD hS 0) (fun _ c _ => nodeTot_getD hS c)

theorem convertCore_total_of_facts (uc : List (Nat × (Bool × Bool))) (o : ROpts) (src : Bytes) (st : GM.Blocks.St)
    (hst : blockPhase true src = .ok st)
    (hL : ∀ n ∈ st.nodes, ∀ t ∈ n.lines, 0 ≤ t.start ∧ t.start ≤ t.stop ∧ t.stop ≤ src.length ∧ 0 ≤ t.padding)
    (hW : ∀ n ∈ st.nodes, GM.Proof.BlocksWF0.isRaw n.kind = false → n.lines ≠ [] → WFSegs src n.lines)
    (hP : ∀ n ∈ st.nodes, GM.Proof.BlocksWF0.isRaw n.kind = false → ∀ t ∈ n.lines, t.padding = 0) :
    ∃ html, convertCore uc o src = .ok html :=
  convertT_total_of_store (paragraphTransformers_keep true) uc o src st hst
    (storeTot_of_facts (paragraphTransformers_keep true) st hst hL hW hP)

/-- **the interface to the block-phase theorems, tree form**: `convertCore` answers HTML on every source on which the block
    phase with the link-reference transformer answers a store in which every line is in range, the lines of non-raw blocks
    with lines are `WFSegs` (both may be stated store-wide), and every line of a non-raw node THAT IS SOMEBODY'S CHILD has
    padding 0 (the Document, node 0, has no lines) -/
theorem convertCore_total_of_tree_facts (uc : List (Nat × (Bool × Bool))) (o : ROpts) (src : Bytes) (st : GM.Blocks.St)
    (hst : blockPhase true src = .ok st)
    (hL : ∀ n ∈ st.nodes, ∀ t ∈ n.lines, 0 ≤ t.start ∧ t.start ≤ t.stop ∧ t.stop ≤ src.length ∧ 0 ≤ t.padding)
    (hW : ∀ n ∈ st.nodes, GM.Proof.BlocksWF0.isRaw n.kind = false → n.lines ≠ [] → WFSegs src n.lines)
    (hP : ∀ p c, c ∈ (st.nodes.getD p default).children → GM.Proof.BlocksWF0.isRaw (st.nodes.getD c default).kind = false →
      ∀ t ∈ (st.nodes.getD c default).lines, t.padding = 0)
    (h0 : (st.nodes.getD 0 default).lines = []) :
    ∃ html, convertCore uc o src = .ok html := by
  rw [convertCore, GM.Proof.ConvertCoreL.convertWith_eqL]
  exact GM.Proof.ConvertXE2E.convertL_total_of_tree_facts GM.Proof.ConvertCoreL.core rfl uc o st hst hL hW hP h0

/-- **END-TO-END TOTALITY for the parser without paragraph transformers.** For every source, every Unicode-class
    assignment and every option set, `convertNT` answers HTML: no error outcome of any phase — no Go panic of the block
    phase, the inline phase, a `Segment.Value` or a node renderer; the run-time `WF0` check passes; no fuel runs out. -/
theorem convertNT_total (uc : List (Nat × (Bool × Bool))) (o : ROpts) (src : Bytes) :
    ∃ html, convertNT uc o src = .ok html := by
  obtain ⟨st, hst⟩ := GM.Props.Blocks.no_panic src
  have hT : runT [] src = .ok st := by rw [GM.Blocks.runT_nil]; exact hst
  exact convertT_total_of_store (ptsKeep_nil _) uc o src st hT (run_storeTot src st hst)

theorem convertCore_total_of_agree (uc : List (Nat × (Bool × Bool))) (o : ROpts) (src : Bytes)
    (hA : ∃ st st', blockPhase true src = .ok st ∧ run src = .ok st' ∧ st.nodes = st'.nodes) :
    ∃ html, convertCore uc o src = .ok html := by
  obtain ⟨st, st', hb, hr, hn⟩ := hA
  have hS' := run_storeTot src st' hr
  have hS : StoreTot src st := ⟨fun n hm => hS'.raw n (hn ▸ hm), fun n hm => hS'.wf0 n (hn ▸ hm)⟩
  exact convertT_total_of_store (paragraphTransformers_keep true) uc o src st hb hS

/-! ### C05 over `convertT` -/

/-- `parseAst` over a parser with the paragraph transformers `pts` -/
def parseAstT (pts : List PT) (guard : Bool) (uc : List (Nat × (Bool × Bool))) (src : Bytes) : Except Err ATree := do
  let st ← liftErr .blocks (runT pts src)
  let env : Env := { refs := st.pc.refs, uc := uc }
  annot guard env src (GM.Blocks.treeOf st.nodes st.nodes.length 0)

theorem parseAst_eq_parseAstT (guard : Bool) (uc : List (Nat × (Bool × Bool))) (src : Bytes) :
    parseAst guard uc src = parseAstT (paragraphTransformers guard) guard uc src := rfl

/-- the three frame invariants (`HeadOK`, `RootDoc`, `XS src`), for a list of transformers -/
structure PTsGood (src : Bytes) (pts : List PT) : Prop where
  head : PTsKeep HeadOK pts
  root : PTsKeep RootDoc pts
  xs : PTsKeep (XS src) pts

theorem ptsGood_nil (src : Bytes) : PTsGood src [] := ⟨ptsKeep_nil _, ptsKeep_nil _, ptsKeep_nil _⟩

theorem ptsGood_default (src : Bytes) (guard : Bool) : PTsGood src (paragraphTransformers guard) :=
  ⟨paragraphTransformers_keep guard, paragraphTransformers_keep guard, paragraphTransformers_keep guard⟩

/-- `parseAst_wfAst_core` for any transformers that keep the frame invariants -/
theorem parseAstT_wfAst {pts : List PT} {src : Bytes} (hp : PTsGood src pts) (uc : List (Nat × (Bool × Bool))) (a : ATree)
    (h : parseAstT pts true uc src = .ok a) (hS : ∀ st, runT pts src = .ok st → StoreHypsCore src st) :
    wfAst src.length (dumpAst a) = none := by
  unfold parseAstT at h
  obtain ⟨st, hst, h⟩ := Proof.Reader.bind_ok h
  have hb := liftErr_ok hst
  have hc := hS st hb
  have hx := runT_xsegs src hp.xs st hb
  have hs : StoreHyps src st :=
    ⟨hc.lines, fun n hn => (hx n hn).info, fun n hn => (hx n hn).closure, hc.ord, hc.noLines, hc.listShape⟩
  have hh := runT_headOK hp.head src st hb
  obtain ⟨d, rest, e, hd⟩ := runT_rootDoc hp.root src st hb
  apply wfAst_dumpAst
  refine annot_AOK inlineSegsUnpadded inlineSegsAfterLineStart _ src _ none a
    (treeOf_rel st.nodes (blockP_getD hh hs) ?_ _ _) ?_ h
  · intro i c hc'
    exact hs.listShape i c hc'
  · rw [treeOf_root]
    simp only [ListRel, e, List.getD_cons_zero]
    exact hd

theorem ordFrom_of_OrdFrom : ∀ (l : List Segment) (lo : Int), GM.Blocks.OrdFrom lo l → ordFrom lo l
  | [], _, _ => trivial
  | s :: rest, lo, h => ⟨h.1, ordFrom_of_OrdFrom rest s.stop h.2⟩

/-- what C05 needs of the store's child lists: a child is a ListItem exactly when its parent is a List (`⇐` is
    `GM.Blocks.KidsOK.kids`; `⇒` = "a ListItem is only ever attached below a List", `ItemsUnderLists`) -/
def ListShape (st : GM.Blocks.St) : Prop :=
  ∀ i, ∀ c ∈ (st.nodes.getD i default).children,
    ((st.nodes.getD c default).kind = .listItem ↔ (st.nodes.getD i default).kind = .list)

/-- one half of `ListShape`: a ListItem is only ever a child of a List -/
def ItemsUnderLists (st : GM.Blocks.St) : Prop :=
  ∀ i, ∀ c ∈ (st.nodes.getD i default).children,
    (st.nodes.getD c default).kind = .listItem → (st.nodes.getD i default).kind = .list

theorem itemsUnderLists_of_lc {st : GM.Blocks.St} (h : GM.E2E.LI.LC st) : ItemsUnderLists st :=
  fun i c hc => (h i c hc).2

theorem blockPhase_itemsUnderLists (guard : Bool) (src : Bytes) (st : GM.Blocks.St) (h : blockPhase guard src = .ok st) :
    ItemsUnderLists st :=
  itemsUnderLists_of_lc (GM.E2E.LI.blockPhase_lc guard src st h)

theorem listShape_of_halves {st : GM.Blocks.St} (hK : GM.Blocks.KidsOK st) (hI : ItemsUnderLists st) : ListShape st :=
  fun i c hc => ⟨hI i c hc, fun hk => (hK.kids i c hk hc).2⟩

theorem run_listShape (src : Bytes) (st : GM.Blocks.St) (h : run src = .ok st) : ListShape st :=
  listShape_of_halves (GM.Blocks.run_kidsOK src st h)
    (itemsUnderLists_of_lc (GM.E2E.LI.run_lc src st (by rw [GM.Blocks.runT_nil]; exact h)))

theorem run_storeHypsCore (src : Bytes) (st : GM.Blocks.St) (h : run src = .ok st) : StoreHypsCore src st where
  lines := fun n hn => (GM.Props.Blocks.lines_in_range src st h n hn).1
  ord := fun n hn => ordFrom_of_OrdFrom _ _ (GM.Props.Wf0.all_lines_ordered src st h n hn)
  noLines := fun n hn hk => GM.Props.Wf0.container_nodes_no_lines src st h n hn (by
    rcases hk with hk | hk <;> rw [hk] <;> rfl)
  listShape := run_listShape src st h

theorem parseAstNT_exists (uc : List (Nat × (Bool × Bool))) (src : Bytes) : ∃ a, parseAstT [] true uc src = .ok a := by
  obtain ⟨st, hst⟩ := GM.Props.Blocks.no_panic src
  have hT : runT [] src = .ok st := by rw [GM.Blocks.runT_nil]; exact hst
  obtain ⟨t, ht⟩ := docTree_total { refs := st.pc.refs, uc := uc } src _
    (treeOf_all st.nodes (nodeTot_getD (run_storeTot src st hst)) st.nodes.length 0)
  obtain ⟨a, ha⟩ := docTree_ok_annot true _ src _ t ht
  refine ⟨a, ?_⟩
  unfold parseAstT
  simp only [bind, Except.bind, hT, liftErr]
  exact ha

/-- **C05 END TO END for the parser without transformers, every source**: there always is a tree, and its position dump
    passes `wfAst` — no hypothesis left -/
theorem parseAstNT_wfAst (uc : List (Nat × (Bool × Bool))) (src : Bytes) :
    ∃ a, parseAstT [] true uc src = .ok a ∧ wfAst src.length (dumpAst a) = none := by
  obtain ⟨a, ha⟩ := parseAstNT_exists uc src
  refine ⟨a, ha, parseAstT_wfAst (ptsGood_nil src) uc a ha (fun st hst => ?_)⟩
  have hr : run src = .ok st := by rw [← GM.Blocks.runT_nil]; exact hst
  exact run_storeHypsCore src st hr

end GM.E2E
