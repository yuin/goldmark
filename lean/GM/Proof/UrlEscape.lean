/-
  GM.Proof.UrlEscape — laws of util.URLEscape (model: GM.urlEscapeLoop / urlCopies / urlEscapeRaw).
-/
import GM.Model.Util
import GM.Spec.UrlEsc
import GM.Proof.Utf8

namespace GM.Proof
open GM GM.Spec

theorem isHex_eq_spec : ∀ c : UInt8, isHex c = isHexDigit c := by
  apply forall_uint8; decide +kernel

theorem isHex_urlSafe : ∀ c : UInt8, isHex c = true → urlSafe c = true := by
  apply forall_uint8; decide +kernel

/-- the three shapes of QueryEscape's output for one byte; `%XX` reads back as the byte -/
theorem qeByte_cases : ∀ c : UInt8,
    (qeByte c = [c] ∧ urlSafe c = true) ∨ (c = 32 ∧ qeByte c = [43]) ∨
    (qeByte c = [37, upperHex (c >>> 4), upperHex (c &&& 15)] ∧
      isHex (upperHex (c >>> 4)) = true ∧ isHex (upperHex (c &&& 15)) = true ∧
      hexValue (upperHex (c >>> 4)) * 16 + hexValue (upperHex (c &&& 15)) = c) := by
  apply forall_uint8; decide +kernel

/-- a URL-safe byte is printable ASCII other than `"`, `%`, `<`, `>` -/
theorem urlSafe_range : ∀ c : UInt8, urlSafe c = true → 32 < c ∧ c < 127 ∧ c ≠ 34 ∧ c ≠ 37 ∧ c ≠ 60 ∧ c ≠ 62 := by
  apply forall_uint8; decide +kernel

theorem urlSafe_ascii (c : UInt8) (h : urlSafe c = true) : c < 128 :=
  UInt8.lt_trans (urlSafe_range c h).2.1 (by decide)

theorem urlSafe_ne_pct (c : UInt8) (h : urlSafe c = true) : c ≠ 37 := (urlSafe_range c h).2.2.2.1

/-- the bytes the escaping loop may leave in its output, apart from `%` -/
def keptByte (c : UInt8) : Bool := urlSafe c || utf8len c == 99

/-- what the loop may leave, `%` aside, is a URL-safe byte or one outside ASCII -/
theorem keptByte_cases (c : UInt8) (h : (keptByte c || c ≥ 128) = true) : urlSafe c = true ∨ 128 ≤ c := by
  simp only [keptByte, Bool.or_eq_true, beq_iff_eq, decide_eq_true_eq] at h
  rcases h with (h | h) | h
  · exact .inl h
  · exact .inr (utf8len_high c (by omega))
  · exact .inr h

theorem ne_of_high {c : UInt8} (h : 128 ≤ c) (d : UInt8) (hd : d < 128 := by decide) : c ≠ d :=
  fun e => absurd (e ▸ hd) (UInt8.not_lt.mpr h)

theorem keptByte_ne_pct (c : UInt8) (h : (keptByte c || c ≥ 128) = true) : (c != 37) = true := by
  rw [bne_iff_ne]
  rcases keptByte_cases c h with h | h
  · exact urlSafe_ne_pct c h
  · exact ne_of_high h 37

theorem keptByte_clean (c : UInt8) (h : (keptByte c || c ≥ 128 || c == 37) = true) : urlCleanByte c = true := by
  rw [Bool.or_eq_true] at h
  rcases h with h | h
  · rcases keptByte_cases c h with h | h
    · obtain ⟨h1, h2, h3, _, h4, h5⟩ := urlSafe_range c h
      simp [urlCleanByte, h1, UInt8.ne_of_lt h2, h3, h4, h5]
    · simp [urlCleanByte, UInt8.lt_of_lt_of_le (by decide : (32 : UInt8) < 128) h, ne_of_high h 127, ne_of_high h 34,
        ne_of_high h 60, ne_of_high h 62]
  · rw [beq_iff_eq] at h; subst h; decide

def hex2 : Bytes → Bool
  | a :: b :: _ => isHex a && isHex b
  | _ => false

theorem hex2_eq_spec (r : Bytes) : hex2 r = twoHex r := by
  unfold hex2 twoHex; split <;> simp [isHex_eq_spec]

/-- escaped form: every byte is URL-safe, or an invalid UTF-8 leading byte (copied as is), or a `%`
    followed by two hex digits -/
def escForm : Bytes → Bool
  | [] => true
  | c :: r => (keptByte c || (c == 37 && hex2 r)) && escForm r

/-- weak form: additionally allows any byte ≥ 0x80 (the input returned unchanged may contain a lone
    leading byte) -/
def weakForm : Bytes → Bool
  | [] => true
  | c :: r => (keptByte c || c ≥ 128 || (c == 37 && hex2 r)) && weakForm r

theorem escForm_weak (l : Bytes) (h : escForm l = true) : weakForm l = true := by
  induction l with
  | nil => rfl
  | cons c r ih =>
    simp only [escForm, Bool.and_eq_true, Bool.or_eq_true] at h
    simp only [weakForm, Bool.and_eq_true, Bool.or_eq_true]
    exact ⟨h.1.elim (fun h => Or.inl (Or.inl h)) Or.inr, ih h.2⟩

theorem weakForm_clean (l : Bytes) (h : weakForm l = true) : urlBytesClean l = true := by
  induction l with
  | nil => rfl
  | cons c r ih =>
    simp only [weakForm, Bool.and_eq_true, Bool.or_eq_true] at h
    simp only [urlBytesClean, List.all_cons, Bool.and_eq_true]
    refine ⟨keptByte_clean c ?_, ih h.2⟩
    simp only [Bool.or_eq_true]
    rcases h.1 with (h1 | h1) | h1
    · exact Or.inl (Or.inl h1)
    · exact Or.inl (Or.inr h1)
    · exact Or.inr h1.1

theorem weakForm_pct (l : Bytes) (h : weakForm l = true) : pctOK l = true := by
  induction l with
  | nil => rfl
  | cons c r ih =>
    simp only [weakForm, Bool.and_eq_true, Bool.or_eq_true] at h
    simp only [pctOK, Bool.and_eq_true, Bool.or_eq_true]
    refine ⟨?_, ih h.2⟩
    rcases h.1 with h1 | h1
    · left; apply keptByte_ne_pct; simpa using h1
    · right; rw [← hex2_eq_spec]; exact h1.2

theorem escForm_qe_append (x r : Bytes) (h : escForm r = true) : escForm (queryEscape x ++ r) = true := by
  induction x with
  | nil => simpa [queryEscape]
  | cons c x ih =>
    have : queryEscape (c :: x) ++ r = qeByte c ++ (queryEscape x ++ r) := by simp [queryEscape]
    rw [this]
    rcases qeByte_cases c with ⟨h1, h2⟩ | ⟨_, h1⟩ | ⟨h1, h2, h3, _⟩ <;> rw [h1]
    · simp [escForm, keptByte, h2, ih]
    · simp [escForm, ih, keptByte, urlSafe]
    · simp [escForm, keptByte, hex2, h2, h3, ih, isHex_urlSafe _ h2, isHex_urlSafe _ h3]

theorem pctTriple_some {c : UInt8} {cs : Bytes} {a b : UInt8} {rest : Bytes}
    (h : pctTriple c cs = some (a, b, rest)) :
    c = 37 ∧ cs = a :: b :: rest ∧ isHex a = true ∧ isHex b = true := by
  unfold pctTriple at h
  split at h
  · rename_i hc
    split at h
    · split at h
      · rename_i hh
        cases h
        simp only [Bool.and_eq_true] at hh
        exact ⟨by simpa using hc, rfl, hh.1, hh.2⟩
      · cases h
    · cases h
  · cases h

theorem pctTriple_none {c : UInt8} {cs : Bytes} (h : pctTriple c cs = none) : (c == 37 && hex2 cs) = false := by
  unfold pctTriple at h
  split at h
  · rename_i hc
    split at h
    · split at h
      · cases h
      · rename_i hh; simp [hex2, hh]
    · rename_i hh
      have : hex2 cs = false := by
        unfold hex2; split
        · exact absurd rfl (hh _ _ _)
        · rfl
      simp [this]
  · rename_i hc; simp at hc; simp [hc]

/-- the loop's output is always in escaped form -/
theorem escForm_loop (total : Nat) (l : Bytes) : escForm (urlEscapeLoop total l) = true := by
  fun_induction urlEscapeLoop total l with
  | case1 => rfl
  | case2 c cs h ih => simp [escForm, keptByte, h, ih]
  | case3 c cs h a b rest ht ih =>
    obtain ⟨hc, _, ha, hb⟩ := pctTriple_some ht
    simp [escForm, keptByte, hex2, hc, ha, hb, ih, isHex_urlSafe _ ha, isHex_urlSafe _ hb]
  | case4 c cs h ht h99 ih => simp [escForm, keptByte, h99, ih]
  | case5 c cs h ht h99 hsp ih =>
    simp [escForm, ih, keptByte, urlSafe, hex2, isHex, isNumeric]
  | case6 c cs h ht h99 hsp h0 ih => exact ih
  | case7 c cs h ht h99 hsp h0 hlen ih => exact ih
  | case8 c cs h ht h99 hsp h0 hlen ih => exact escForm_qe_append _ _ ih

theorem escForm_head_absurd {c : UInt8} {cs : Bytes} (h : escForm (c :: cs) = true)
    (hs : ¬urlSafe c = true) (h99 : ¬(utf8len c == 99) = true) (ht : pctTriple c cs = none) : False := by
  simp only [escForm, Bool.and_eq_true, Bool.or_eq_true, keptByte] at h
  have := pctTriple_none ht
  rcases h.1 with (h1 | h1) | h1
  · exact hs h1
  · exact h99 h1
  · simp only [← Bool.and_eq_true] at h1; rw [this] at h1; cases h1

/-- text in escaped form is left alone: the loop never writes -/
theorem escForm_noCopy (total : Nat) (l : Bytes) (h : escForm l = true) : urlCopies total l = false := by
  fun_induction urlCopies total l with
  | case1 => rfl
  | case2 c cs hs ih =>
    simp only [escForm, Bool.and_eq_true] at h; exact ih h.2
  | case3 c cs hs a b rest ht ih =>
    obtain ⟨_, hcs, _, _⟩ := pctTriple_some ht
    subst hcs
    simp only [escForm, Bool.and_eq_true] at h
    exact ih h.2.2.2
  | case4 c cs hs ht h99 ih =>
    simp only [escForm, Bool.and_eq_true] at h; exact ih h.2
  | case5 c cs hs ht h99 hsp => exact (escForm_head_absurd h hs h99 ht).elim
  | case6 c cs hs ht h99 hsp h0 ih => exact (escForm_head_absurd h hs h99 ht).elim
  | case7 c cs hs ht h99 hsp h0 => exact (escForm_head_absurd h hs h99 ht).elim

/-- an input the loop never writes to is in weak form -/
theorem noCopy_weak (total : Nat) (htot : 1 ≤ total) (l : Bytes) (h : urlCopies total l = false) :
    weakForm l = true := by
  fun_induction urlCopies total l with
  | case1 => rfl
  | case2 c cs hs ih => simp [weakForm, keptByte, hs, ih h]
  | case3 c cs hs a b rest ht ih =>
    obtain ⟨hc, hcs, ha, hb⟩ := pctTriple_some ht
    subst hcs
    simp [weakForm, keptByte, hex2, hc, ha, hb, ih h, isHex_urlSafe _ ha, isHex_urlSafe _ hb]
  | case4 c cs hs ht h99 ih => simp [weakForm, keptByte, h99, ih h]
  | case5 => cases h
  | case6 c cs hs ht h99 hsp h0 ih =>
    have hc : c ≥ 128 := by
      apply utf8len_high
      have := utf8len_pos c
      split at h0 <;> simp at h0 <;> omega
    simp [weakForm, hc, ih h]
  | case7 => cases h

theorem urlEscapeRaw_weak (v : Bytes) : weakForm (urlEscapeRaw v) = true := by
  unfold urlEscapeRaw
  split
  · exact escForm_weak _ (escForm_loop _ _)
  · rename_i h
    cases v with
    | nil => rfl
    | cons c cs => exact noCopy_weak _ (Nat.succ_le_succ (Nat.zero_le _)) _ (by simpa using h)

theorem urlEscapeRaw_clean (v : Bytes) : urlBytesClean (urlEscapeRaw v) = true :=
  weakForm_clean _ (urlEscapeRaw_weak v)

theorem urlEscapeRaw_pct (v : Bytes) : pctOK (urlEscapeRaw v) = true :=
  weakForm_pct _ (urlEscapeRaw_weak v)

theorem urlEscapeRaw_idem (v : Bytes) : urlEscapeRaw (urlEscapeRaw v) = urlEscapeRaw v := by
  by_cases h : urlCopies v.length v = true
  · have h1 : urlEscapeRaw v = urlEscapeLoop v.length v := by simp [urlEscapeRaw, h]
    rw [h1]
    have := escForm_noCopy (urlEscapeLoop v.length v).length _ (escForm_loop v.length v)
    simp [urlEscapeRaw, this]
  · have h1 : urlEscapeRaw v = v := by simp [urlEscapeRaw, h]
    rw [h1, h1]


theorem qeByte_ascii (c : UInt8) : (qeByte c).all (· < 128) = true := by
  rcases qeByte_cases c with ⟨h1, h2⟩ | ⟨_, h1⟩ | ⟨h1, h2, h3, _⟩ <;> rw [h1]
  · simpa using urlSafe_ascii c h2
  · decide
  · simpa using ⟨isHex_ascii _ h2, isHex_ascii _ h3⟩

theorem queryEscape_ascii (x : Bytes) : isAscii (queryEscape x) = true := by
  induction x with
  | nil => rfl
  | cons c x ih =>
    have : queryEscape (c :: x) = qeByte c ++ queryEscape x := by simp [queryEscape]
    rw [this]; unfold isAscii at *; rw [List.all_append, qeByte_ascii, ih]; rfl

theorem u8run_ascii_cons {c : UInt8} (hc : c < 128) (cs : Bytes) :
    u8run .s0 (c :: cs) = u8run .s0 cs := by
  rw [u8run_cons, u8step_ascii _ _ hc]; rfl

theorem seq_len {cs conts rest : Bytes} {n : Nat} (hcs : cs = conts ++ rest) (hlen : conts.length = n - 1)
    (hall : conts.all isCont = true) :
    ((cs.take (n - 1)).takeWhile isCont).length = n - 1 ∧ cs.drop (n - 1) = rest := by
  subst hcs
  rw [← hlen, List.take_left, List.drop_left]
  refine ⟨?_, rfl⟩
  have : conts.takeWhile isCont = conts := by
    clear hlen
    induction conts with
    | nil => rfl
    | cons x xs ih =>
      simp only [List.all_cons, Bool.and_eq_true] at hall
      simp [List.takeWhile, hall.1, ih hall.2]
  rw [this]

theorem loop_ascii_of_valid (total : Nat) (l : Bytes) (hv : u8run .s0 l = .s0) (hlen : l.length ≤ total) :
    isAscii (urlEscapeLoop total l) = true := by
  fun_induction urlEscapeLoop total l with
  | case1 => rfl
  | case2 c cs h ih =>
    have hc := urlSafe_ascii c h
    rw [u8run_ascii_cons hc] at hv
    simp only [List.length_cons] at hlen
    simp only [isAscii, List.all_cons, hc, Bool.true_and]
    exact ih hv (by omega)
  | case3 c cs h a b rest ht ih =>
    obtain ⟨hc, hcs, ha, hb⟩ := pctTriple_some ht
    subst hc hcs
    have ha' := isHex_ascii a ha
    have hb' := isHex_ascii b hb
    rw [u8run_ascii_cons (by decide), u8run_ascii_cons ha', u8run_ascii_cons hb'] at hv
    simp only [List.length_cons] at hlen
    have := ih hv (by omega)
    simp only [isAscii, List.all_cons, ha', hb', Bool.true_and] at this ⊢
    simpa using this
  | case4 c cs h ht h99 ih => exact absurd (by simpa using h99) (valid_cons hv).1
  | case5 c cs h ht h99 hsp ih =>
    have hc : c = 32 := by simpa using hsp
    subst hc
    rw [u8run_ascii_cons (by decide)] at hv
    simp only [List.length_cons] at hlen
    have := ih hv (by omega)
    simp only [isAscii, List.all_cons] at this ⊢
    simpa using this
  | case6 c cs h ht h99 hsp h0 ih =>
    obtain ⟨_, conts, rest, hcs, hl, _, _⟩ := valid_cons hv
    have := utf8len_pos c
    simp only [List.length_cons, hcs, List.length_append] at hlen
    rw [dif_neg (by omega)] at h0
    simp at h0; omega
  | case7 c cs h ht h99 hsp h0 hgt ih =>
    obtain ⟨_, conts, rest, hcs, hl, _, _⟩ := valid_cons hv
    have := utf8len_pos c
    simp only [List.length_cons, hcs, List.length_append] at hlen
    rw [dif_neg (by omega)] at hgt
    simp only [hcs, List.length_append] at hgt; omega
  | case8 c cs h ht h99 hsp h0 hgt ih =>
    obtain ⟨_, conts, rest, hcs, hl, hall, hr⟩ := valid_cons hv
    have := utf8len_pos c
    have hle : ¬ utf8len c > total := by
      simp only [List.length_cons, hcs, List.length_append] at hlen; omega
    simp only [dif_neg hle, if_neg hle] at ih ⊢
    obtain ⟨hk, hd⟩ := seq_len hcs hl hall
    rw [hk, hd] at ih
    rw [hk, hd]
    have hr' : rest.length ≤ total := by
      simp only [List.length_cons, hcs, List.length_append] at hlen; omega
    have hq := queryEscape_ascii (c :: List.take (utf8len c - 1) cs)
    have hi := ih hr hr'
    unfold isAscii at *
    rw [List.all_append, hq, hi]; rfl

theorem noCopy_ascii_of_valid (total : Nat) (l : Bytes) (hv : u8run .s0 l = .s0) (hlen : l.length ≤ total)
    (h : urlCopies total l = false) : isAscii l = true := by
  fun_induction urlCopies total l with
  | case1 => rfl
  | case2 c cs hs ih =>
    have hc := urlSafe_ascii c hs
    rw [u8run_ascii_cons hc] at hv
    simp only [List.length_cons] at hlen
    simp only [isAscii, List.all_cons, hc, Bool.true_and]
    exact ih hv (by omega) h
  | case3 c cs hs a b rest ht ih =>
    obtain ⟨hc, hcs, ha, hb⟩ := pctTriple_some ht
    subst hc hcs
    have ha' := isHex_ascii a ha
    have hb' := isHex_ascii b hb
    rw [u8run_ascii_cons (by decide), u8run_ascii_cons ha', u8run_ascii_cons hb'] at hv
    simp only [List.length_cons] at hlen
    have := ih hv (by omega) h
    simp only [isAscii, List.all_cons, ha', hb', Bool.true_and] at this ⊢
    simpa using this
  | case4 c cs hs ht h99 ih => exact absurd (by simpa using h99) (valid_cons hv).1
  | case5 => cases h
  | case6 c cs hs ht h99 hsp h0 ih =>
    obtain ⟨_, conts, rest, hcs, hl, _, _⟩ := valid_cons hv
    have := utf8len_pos c
    simp only [List.length_cons, hcs, List.length_append] at hlen
    rw [dif_neg (by omega)] at h0
    simp at h0; omega
  | case7 => cases h

theorem urlEscapeRaw_ascii_of_valid (v : Bytes) (hv : validUtf8 v = true) : isAscii (urlEscapeRaw v) = true := by
  have hv' : u8run .s0 v = .s0 := by simpa [validUtf8] using hv
  unfold urlEscapeRaw
  split
  · exact loop_ascii_of_valid _ _ hv' (Nat.le_refl _)
  · rename_i h
    exact noCopy_ascii_of_valid _ _ hv' (Nat.le_refl _) (by simpa using h)


theorem takeWhile_take_le (p : UInt8 → Bool) (xs : Bytes) (y : UInt8) (ys : Bytes) (hy : p y = false) :
    ∀ m, ((List.take m (xs ++ y :: ys)).takeWhile p).length ≤ xs.length := by
  induction xs with
  | nil => intro m; cases m <;> simp [List.takeWhile, hy]
  | cons x xs ih =>
    intro m
    cases m with
    | zero => simp
    | succ m =>
      simp only [List.cons_append, List.take_succ_cons, List.takeWhile]
      split
      · simp only [List.length_cons]; have := ih m; omega
      · simp

theorem isCont_pct : isCont 37 = false := by decide
theorem isHex_pct : isHex 37 = false := by decide

/-- scanning `a ++ %xy ++ b`: the triple is copied, and what follows it is scanned on its own -/
theorem loop_keeps_triple (total : Nat) (x y : UInt8) (hx : isHex x = true) (hy : isHex y = true) (b : Bytes) :
    ∀ (n : Nat) (a : Bytes), a.length ≤ n →
      ∃ p, urlEscapeLoop total (a ++ 37 :: x :: y :: b) = p ++ 37 :: x :: y :: urlEscapeLoop total b := by
  intro n
  induction n with
  | zero =>
    intro a ha
    have : a = [] := List.length_eq_zero_iff.mp (by omega)
    subst this
    refine ⟨[], ?_⟩
    have ht : pctTriple 37 (x :: y :: b) = some (x, y, b) := by simp [pctTriple, hx, hy]
    rw [List.nil_append, urlEscapeLoop.eq_2]
    rw [if_neg (by decide)]
    split
    · rename_i a' b' rest heq
      rw [ht] at heq; cases heq; rfl
    · rename_i heq; rw [ht] at heq; cases heq
  | succ n ih =>
    intro a ha
    cases a with
    | nil => exact ih [] (by simp)
    | cons c a' =>
      simp only [List.length_cons] at ha
      have ha' : a'.length ≤ n := by omega
      rw [List.cons_append, urlEscapeLoop.eq_2]
      split
      · obtain ⟨p, hp⟩ := ih a' ha'
        exact ⟨c :: p, by rw [hp]; rfl⟩
      · split
        · rename_i a1 b1 rest heq
          obtain ⟨hc, hcs, h1, h2⟩ := pctTriple_some heq
          match a', ha', hcs with
          | [], _, hcs =>
            simp only [List.nil_append, List.cons.injEq] at hcs
            rw [← hcs.1, isHex_pct] at h1; cases h1
          | [z], _, hcs =>
            simp only [List.cons_append, List.nil_append, List.cons.injEq] at hcs
            rw [← hcs.2.1, isHex_pct] at h2; cases h2
          | z1 :: z2 :: a'', ha'', hcs =>
            simp only [List.cons_append, List.cons.injEq] at hcs
            obtain ⟨p, hp⟩ := ih a'' (by simp only [List.length_cons] at ha''; omega)
            rw [← hcs.2.2, hp]
            exact ⟨c :: a1 :: b1 :: p, rfl⟩
        · split
          · obtain ⟨p, hp⟩ := ih a' ha'
            exact ⟨c :: p, by rw [hp]; rfl⟩
          · split
            · obtain ⟨p, hp⟩ := ih a' ha'
              exact ⟨37 :: 50 :: 48 :: p, by rw [hp]; rfl⟩
            · generalize (if utf8len c > total then total - 1 else utf8len c) = w
              split
              · exact ih a' ha'
              · split
                · exact ih a' ha'
                · generalize hk : ((List.take _ (a' ++ 37 :: x :: y :: b)).takeWhile isCont).length = k
                  have hle : k ≤ a'.length := by
                    rw [← hk]; exact takeWhile_take_le isCont a' 37 _ isCont_pct _
                  rw [List.drop_append_of_le_length hle]
                  obtain ⟨p, hp⟩ := ih (a'.drop k) (by simp; omega)
                  rw [hp]
                  exact ⟨_ ++ p, by rw [List.append_assoc]⟩

theorem urlEscapeRaw_keeps_triple (a b : Bytes) (x y : UInt8) (hx : isHex x = true) (hy : isHex y = true) :
    ∃ p, urlEscapeRaw (a ++ 37 :: x :: y :: b) =
      p ++ 37 :: x :: y ::
        (if urlCopies (a ++ 37 :: x :: y :: b).length (a ++ 37 :: x :: y :: b)
         then urlEscapeLoop (a ++ 37 :: x :: y :: b).length b else b) := by
  unfold urlEscapeRaw
  split
  · exact loop_keeps_triple _ x y hx hy b a.length a (Nat.le_refl _)
  · exact ⟨a, rfl⟩

end GM.Proof
