/-
  GM.Proof.CMFragSpec16 — the atoms of stages 16–19 inside the spec model GM.Spec.CommonMark: prescribed HTML and source of an
  embedded inline link, image, URI autolink, raw inline tag.
-/
import GM.Proof.CMFragSpec13

/-
  section CMFragSpec16 — the inline link `[t](d)` of GM.Spec.CMFrag inside the spec model GM.Spec.CommonMark, atom by
  atom; the document level is stage 21's (GM.Proof.CMFragSpec21; `expectedL_eq_expected` / `spellL_eq_spell`:
  CMFragStagesLink).
  * `render_expI_atom16`: the reference renderer's percent-encoding `urlEnc` and its HTML escaping are the identity on a
    destination of letters, digits and `/` (`urlEnc_dest_s16`, `escHtml_dest_s16`);
  * `spellI_lembedAtom16`: an inline link without title, angle brackets and inner space is spelled `[text](dest)`
    whatever the `pa` / `na` context arguments of `spellI` are (`spellI_simple16`); a destination of letters, digits and
    `/` needs no angle brackets and no escapes (`spellDest_dest_s16`).
-/
section CMFragSpec16
namespace GM.Proof.CMFrag
open GM GM.Spec.CM GM.Spec.CMFrag

/-! ### destinations of letters, digits and `/` -/

theorem destC_ne_s16 {c : UInt8} (h : isDestC c = true) (k : UInt8) (hk : isDestC k = false) : c ≠ k := by
  rintro rfl
  rw [h] at hk
  cases hk

/-- a letter or a digit has these properties as such, `/` by evaluation -/
theorem destC_facts_s16 (c : UInt8) (h : isDestC c = true) :
    urlKeep c = true ∧ escHtmlByte c = [c] ∧ printable c = true := by
  rcases (Bool.or_eq_true _ _).mp h with ha | h47
  · exact ⟨by simp [urlKeep, ha], (alnum_factsH c ha).2.2, (alnum_factsH c ha).2.1⟩
  · rw [beq_iff_eq] at h47
    subst h47
    decide

theorem urlEnc_dest_s16 (d : Bytes) (h : ∀ c ∈ d, isDestC c = true) : urlEnc d = d := by
  induction d with
  | nil => rfl
  | cons c rest ih =>
    have hc := destC_facts_s16 c (h c (by simp))
    have ih' := ih (fun x hx => h x (by simp [hx]))
    unfold urlEnc
    split
    · rename_i heq; cases heq
    · rename_i heq
      injection heq with h1 _
      exact absurd h1 (destC_ne_s16 (h c (by simp)) 37 (by decide))
    · rename_i heq
      injection heq with h1 h2
      subst h1; subst h2
      simp [hc.1, ih']

theorem escHtml_dest_s16 (d : Bytes) (h : ∀ c ∈ d, isDestC c = true) : escHtml d = d := by
  induction d with
  | nil => rfl
  | cons c rest ih =>
    have := ih (fun x hx => h x (by simp [hx]))
    simp only [escHtml, List.flatMap_cons] at this ⊢
    rw [this, (destC_facts_s16 c (h c (by simp))).2.1]
    rfl

theorem latomOKS_link16 (t d : Bytes) (h : latomOKS (.link t d) = true) :
    (t ≠ [] ∧ ∀ c ∈ t, isAlnumC c = true) ∧ (d ≠ [] ∧ ∀ c ∈ d, isDestC c = true) := by
  simp only [latomOKS, Bool.and_eq_true, Bool.not_eq_true', List.isEmpty_eq_false_iff, List.all_eq_true] at h
  exact ⟨⟨h.1.1.1, h.1.1.2⟩, ⟨h.1.2, h.2⟩⟩

/-! ### prescribed HTML -/

theorem render_expI_atom16 (a : LAtomS) (h : latomOKS a = true) : render (expI (lembedAtom a)) = expLAtom a := by
  cases a with
  | txt cs => simp [lembedAtom, expI, render, renderPiece, expLAtom]
  | link t d =>
    obtain ⟨⟨_, ht⟩, ⟨_, hd⟩⟩ := latomOKS_link16 t d h
    have h1 : strBytes "<a href=\"" = [60] ++ strBytes "a" ++ ([32] ++ strBytes "href" ++ strBytes "=\"") := by
      decide +kernel
    have h2 : strBytes "\">" = [34] ++ [62] := by decide +kernel
    have h3 : strBytes "</a>" = [60, 47] ++ strBytes "a" ++ [62] := by decide +kernel
    have hr : render (wrap (strBytes "a") (attr "href" d) (expIs [.text (elits t)])) =
        [60] ++ strBytes "a" ++ attr "href" d ++ [62] ++ render (expIs [.text (elits t)]) ++
          [60, 47] ++ strBytes "a" ++ [62] := by
      simp [wrap, render, renderPiece]
    rw [lembedAtom, expI, urlEnc_dest_s16 d hd, escHtml_dest_s16 d hd]
    simp only [titleAttr, List.append_nil]
    rw [hr, render_expIs_elits11, escHtml_alnumH t ht, expLAtom, h1, h2, h3, attr]
    simp

/-! ### source: `spellI` on text, inline links and soft breaks does not depend on the neighbours -/

def simple16 : Inline → Bool
  | .text _ => true
  | .link .. => true
  | .softBreak => true
  | _ => false

theorem spellI_simple16 (x : Inline) (h : simple16 x = true) (pa na : Bool) : spellI pa na x = spellI false false x := by
  cases x with
  | text _ => simp only [spellI]
  | link _ _ _ _ _ => simp only [spellI]
  | softBreak => simp only [spellI]
  | _ => cases h

theorem not_mem_sp_s16 (d : Bytes) (h : ∀ c ∈ d, isDestC c = true) : ¬ (32 : UInt8) ∈ d :=
  fun hm => absurd (h 32 hm) (by decide)

theorem flatMap_dest_s16 (d : Bytes) (h : ∀ c ∈ d, isDestC c = true) :
    d.flatMap (fun c => entOr false c (if c == 40 || c == 41 || c == 92 || c == 38 || c == 60 then [92, c] else [c])) = d := by
  induction d with
  | nil => rfl
  | cons c rest ih =>
    have := ih (fun x hx => h x (by simp [hx]))
    simp only [List.flatMap_cons]
    rw [this]
    have hc := h c (by simp)
    simp [entOr, destC_ne_s16 hc 40 (by decide), destC_ne_s16 hc 41 (by decide), destC_ne_s16 hc 92 (by decide),
      destC_ne_s16 hc 38 (by decide), destC_ne_s16 hc 60 (by decide)]

theorem spellDest_dest_s16 (d : Bytes) (hne : d ≠ []) (h : ∀ c ∈ d, isDestC c = true) : spellDest false d false = d := by
  have h1 : destNeedsAngle d = false := by
    simp [destNeedsAngle, not_mem_sp_s16 d h, hne]
  simp only [spellDest, h1, Bool.or_self, Bool.false_eq_true, if_false]
  exact flatMap_dest_s16 d h

theorem spellI_lembedAtom16 (a : LAtomS) (h : latomOKS a = true) : spellI false false (lembedAtom a) = spellLAtom a := by
  cases a with
  | txt cs => simp only [lembedAtom, spellI, spellLAtom]
  | link t d =>
    obtain ⟨⟨_, ht⟩, ⟨hdne, hd⟩⟩ := latomOKS_link16 t d h
    simp [lembedAtom, spellI, spellIs, spellLAtom, spellLinkTail, escSpell_elits_s11 t ht,
      spellDest_dest_s16 d hdne hd]

theorem spellLAtom_printable16 (a : LAtomS) (h : latomOKS a = true) : (spellLAtom a).all printable = true := by
  cases a with
  | txt cs =>
    simp only [latomOKS, Bool.and_eq_true, List.all_eq_true] at h
    exact escSpell_printable cs (fun t ht => charOK_printable t (h.2 t ht))
  | link t d =>
    obtain ⟨⟨_, ht⟩, ⟨_, hd⟩⟩ := latomOKS_link16 t d h
    simp only [spellLAtom, List.all_append, Bool.and_eq_true, List.all_eq_true]
    refine ⟨⟨⟨⟨by decide, fun x hx => (alnum_facts8 x (ht x hx)).2.2⟩, by decide⟩,
      fun x hx => (destC_facts_s16 x (hd x hx)).2.2⟩, by decide⟩

end GM.Proof.CMFrag
end CMFragSpec16

/-
  section CMFragSpec17 — the image `![t](d)` of GM.Spec.CMFrag inside the spec model GM.Spec.CommonMark, atom by atom
  (`render_expI_atom17`: the reference renderer writes `<img src="…" alt="…" />` with the plain text of the description
  as `alt`; `spellI_imgembedAtom17`); the document level is stage 21's (`expectedImg_eq_expected` / `spellImg_eq_spell`:
  CMFragStagesLink).
-/
section CMFragSpec17
namespace GM.Proof.CMFrag
open GM GM.Spec.CM GM.Spec.CMFrag

theorem imgatomOKS_img17 (t d : Bytes) (h : imgatomOKS (.img t d) = true) :
    (t ≠ [] ∧ ∀ c ∈ t, isAlnumC c = true) ∧ (d ≠ [] ∧ ∀ c ∈ d, isDestC c = true) := by
  simp only [imgatomOKS, Bool.and_eq_true, Bool.not_eq_true', List.isEmpty_eq_false_iff, List.all_eq_true] at h
  exact ⟨⟨h.1.1.1, h.1.1.2⟩, ⟨h.1.2, h.2⟩⟩

/-! ### prescribed HTML -/

theorem render_expI_atom17 (a : ImgAtomS) (h : imgatomOKS a = true) : render (expI (imgembedAtom a)) = expImgAtom a := by
  cases a with
  | txt cs => simp [imgembedAtom, expI, render, renderPiece, expImgAtom]
  | img t d =>
    obtain ⟨⟨_, ht⟩, ⟨_, hd⟩⟩ := imgatomOKS_img17 t d h
    have hp : plainIs [.text (elits t)] = t := by simp [plainIs, plainI, plain_elits11]
    have h1 : strBytes "<img src=\"" = [60] ++ strBytes "img" ++ ([32] ++ strBytes "src" ++ strBytes "=\"") := by
      decide +kernel
    have h2 : strBytes "\" alt=\"" = [34] ++ ([32] ++ strBytes "alt" ++ strBytes "=\"") := by decide +kernel
    have h3 : strBytes "\" />" = [34] ++ strBytes " />" := by decide +kernel
    rw [imgembedAtom, expI, urlEnc_dest_s16 d hd, escHtml_dest_s16 d hd, hp, escHtml_alnumH t ht]
    simp only [titleAttr, List.append_nil]
    rw [expImgAtom, h1, h2, h3]
    simp [render, renderPiece, attr]

/-! ### source: `spellI` on text, images and soft breaks does not depend on the neighbours -/

def simple17 : Inline → Bool
  | .text _ => true
  | .image .. => true
  | .softBreak => true
  | _ => false

theorem spellI_simple17 (x : Inline) (h : simple17 x = true) (pa na : Bool) : spellI pa na x = spellI false false x := by
  cases x with
  | text _ => simp only [spellI]
  | image _ _ _ _ _ => simp only [spellI]
  | softBreak => simp only [spellI]
  | _ => cases h

theorem spellI_imgembedAtom17 (a : ImgAtomS) (h : imgatomOKS a = true) : spellI false false (imgembedAtom a) = spellImgAtom a := by
  cases a with
  | txt cs => simp only [imgembedAtom, spellI, spellImgAtom]
  | img t d =>
    obtain ⟨⟨_, ht⟩, ⟨hdne, hd⟩⟩ := imgatomOKS_img17 t d h
    simp [imgembedAtom, spellI, spellIs, spellImgAtom, spellLinkTail, escSpell_elits_s11 t ht,
      spellDest_dest_s16 d hdne hd]

theorem spellImgAtom_printable17 (a : ImgAtomS) (h : imgatomOKS a = true) : (spellImgAtom a).all printable = true := by
  cases a with
  | txt cs =>
    simp only [imgatomOKS, Bool.and_eq_true, List.all_eq_true] at h
    exact escSpell_printable cs (fun t ht => charOK_printable t (h.2 t ht))
  | img t d =>
    obtain ⟨⟨_, ht⟩, ⟨_, hd⟩⟩ := imgatomOKS_img17 t d h
    simp only [spellImgAtom, List.all_append, Bool.and_eq_true, List.all_eq_true]
    refine ⟨⟨⟨⟨by decide, fun x hx => (alnum_facts8 x (ht x hx)).2.2⟩, by decide⟩,
      fun x hx => (destC_facts_s16 x (hd x hx)).2.2⟩, by decide⟩

end GM.Proof.CMFrag
end CMFragSpec17

/-
  section CMFragSpec18 — the URI autolink `<s:r>` of GM.Spec.CMFrag inside the spec model GM.Spec.CommonMark, atom by
  atom (`render_expI_atom18`: the reference renderer's percent-encoding `urlEnc` and its HTML escaping are the identity
  on a URI of letters, digits, `/`, `.` and `:`, `urlEnc_uri_s18`, `escHtml_uri_s18`; `spellI_aembedAtom18`); the
  document level is stage 21's (`expectedAD_eq_expected` / `spellAD_eq_spell`: CMFragStagesRaw).
-/
section CMFragSpec18
namespace GM.Proof.CMFrag
open GM GM.Spec.CM GM.Spec.CMFrag

/-! ### URIs of letters, digits, `/`, `.` and `:` -/

/-- a byte of the URI of a stage-18 autolink -/
def isUriC18 (c : UInt8) : Bool := isAlnumC c || c == 47 || c == 46 || c == 58

theorem uriC_of_letter18 (c : UInt8) (h : isLetter c = true) : isUriC18 c = true := by
  simp [isUriC18, isAlnumC, h]

theorem uriC_of_auto18 (c : UInt8) (h : isAutoC c = true) : isUriC18 c = true := by
  show (isAutoC c || c == 58) = true
  rw [h]
  rfl

theorem uriC_ne18 {c : UInt8} (h : isUriC18 c = true) (k : UInt8) (hk : isUriC18 k = false) : c ≠ k := by
  rintro rfl
  rw [h] at hk
  cases hk

/-- a letter or a digit has these properties as such, `/`, `.` and `:` by evaluation -/
theorem uriC_facts_s18 (c : UInt8) (h : isUriC18 c = true) :
    urlKeep c = true ∧ escHtmlByte c = [c] ∧ printable c = true := by
  simp only [isUriC18, Bool.or_eq_true, beq_iff_eq] at h
  rcases h with ((ha | rfl) | rfl) | rfl
  · exact ⟨by simp [urlKeep, ha], (alnum_factsH c ha).2.2, (alnum_factsH c ha).2.1⟩
  · decide
  · decide
  · decide

theorem urlEnc_uri_s18 (d : Bytes) (h : ∀ c ∈ d, isUriC18 c = true) : urlEnc d = d := by
  induction d with
  | nil => rfl
  | cons c rest ih =>
    have hc := uriC_facts_s18 c (h c (by simp))
    have ih' := ih (fun x hx => h x (by simp [hx]))
    unfold urlEnc
    split
    · rename_i heq; cases heq
    · rename_i heq
      injection heq with h1 _
      exact absurd h1 (uriC_ne18 (h c (by simp)) 37 (by decide))
    · rename_i heq
      injection heq with h1 h2
      subst h1; subst h2
      simp [hc.1, ih']

theorem escHtml_uri_s18 (d : Bytes) (h : ∀ c ∈ d, isUriC18 c = true) : escHtml d = d := by
  induction d with
  | nil => rfl
  | cons c rest ih =>
    have := ih (fun x hx => h x (by simp [hx]))
    simp only [escHtml, List.flatMap_cons] at this ⊢
    rw [this, (uriC_facts_s18 c (h c (by simp))).2.1]
    rfl

theorem aatomOKS_auto_s18 (s r : Bytes) (h : aatomOKS (.auto s r) = true) : ∀ c ∈ autoUri s r, isUriC18 c = true := by
  simp only [aatomOKS, Bool.and_eq_true, Bool.not_eq_true', List.isEmpty_eq_false_iff, List.all_eq_true,
    decide_eq_true_eq] at h
  intro c hc
  simp only [autoUri, List.mem_append, List.mem_singleton] at hc
  rcases hc with (hc | hc) | hc
  · exact uriC_of_letter18 c (h.1.1.2 c hc)
  · subst hc; rfl
  · exact uriC_of_auto18 c (h.2 c hc)

/-! ### prescribed HTML -/

theorem render_expI_atom18 (a : AAtomS) (h : aatomOKS a = true) : render (expI (aembedAtom a)) = expAAtom a := by
  cases a with
  | txt cs => simp [aembedAtom, expI, render, renderPiece, expAAtom]
  | auto s r =>
    have hu := aatomOKS_auto_s18 s r h
    have h1 : strBytes "<a href=\"" = [60] ++ strBytes "a" ++ ([32] ++ strBytes "href" ++ strBytes "=\"") := by
      decide +kernel
    have h2 : strBytes "\">" = [34] ++ [62] := by decide +kernel
    have h3 : strBytes "</a>" = [60, 47] ++ strBytes "a" ++ [62] := by decide +kernel
    rw [aembedAtom, expI]
    simp only [Bool.false_eq_true, if_false, List.nil_append]
    rw [urlEnc_uri_s18 _ hu, escHtml_uri_s18 _ hu, expAAtom, h1, h2, h3]
    simp [wrap, render, renderPiece, attr]

/-! ### source: `spellI` on text, autolinks and soft breaks does not depend on the neighbours -/

def simple18 : Inline → Bool
  | .text _ => true
  | .autolink .. => true
  | .softBreak => true
  | _ => false

theorem spellI_simple18 (x : Inline) (h : simple18 x = true) (pa na : Bool) : spellI pa na x = spellI false false x := by
  cases x with
  | text _ => simp only [spellI]
  | autolink _ _ => simp only [spellI]
  | softBreak => simp only [spellI]
  | _ => cases h

theorem spellI_aembedAtom18 (a : AAtomS) (_h : aatomOKS a = true) : spellI false false (aembedAtom a) = spellAAtom a := by
  cases a with
  | txt cs => simp only [aembedAtom, spellI, spellAAtom]
  | auto s r => simp only [aembedAtom, spellI, spellAAtom]

theorem spellAAtom_printable18 (a : AAtomS) (h : aatomOKS a = true) : (spellAAtom a).all printable = true := by
  cases a with
  | txt cs =>
    simp only [aatomOKS, Bool.and_eq_true, List.all_eq_true] at h
    exact escSpell_printable cs (fun t ht => charOK_printable t (h.2 t ht))
  | auto s r =>
    have hu := aatomOKS_auto_s18 s r h
    simp only [spellAAtom, List.all_append, Bool.and_eq_true, List.all_eq_true]
    exact ⟨⟨by decide, fun x hx => (uriC_facts_s18 x (hu x hx)).2.2⟩, by decide⟩

end GM.Proof.CMFrag
end CMFragSpec18

/-
  section CMFragSpec19 — the raw HTML tags `<n>` / `</n>` of GM.Spec.CMFrag inside the spec model GM.Spec.CommonMark,
  atom by atom (`render_expI_atom19`: raw inline HTML is rendered as it is; `spellI_h19embedAtom19`); the document level
  is stage 21's (`expectedH19_eq_expected` / `spellH19_eq_spell`: CMFragStagesRaw).
-/
section CMFragSpec19
namespace GM.Proof.CMFrag
open GM GM.Spec.CM GM.Spec.CMFrag

theorem tagName_alnum_s19 (n : Bytes) (h : tagNameOK19 n = true) : ∀ c ∈ n, isAlnumC c = true := by
  cases n with
  | nil => cases h
  | cons c rest =>
    simp only [tagNameOK19, Bool.and_eq_true, List.all_eq_true] at h
    intro x hx
    rcases List.mem_cons.mp hx with rfl | hx
    · simp [isAlnumC, h.1]
    · exact h.2 x hx

/-! ### prescribed HTML -/

theorem render_expI_atom19 (a : H19AtomS) (_h : h19atomOKS a = true) : render (expI (h19embedAtom a)) = expH19Atom a := by
  cases a with
  | txt cs => simp [h19embedAtom, expI, render, renderPiece, expH19Atom]
  | «open» n => simp [h19embedAtom, expI, render, renderPiece, expH19Atom]
  | close n => simp [h19embedAtom, expI, render, renderPiece, expH19Atom]

/-! ### source: `spellI` on text, raw HTML tags and soft breaks does not depend on the neighbours -/

def simple19 : Inline → Bool
  | .text _ => true
  | .rawHtml _ => true
  | .softBreak => true
  | _ => false

theorem spellI_simple19 (x : Inline) (h : simple19 x = true) (pa na : Bool) : spellI pa na x = spellI false false x := by
  cases x with
  | text _ => simp only [spellI]
  | rawHtml _ => simp only [spellI]
  | softBreak => simp only [spellI]
  | _ => cases h

theorem spellI_h19embedAtom19 (a : H19AtomS) (_h : h19atomOKS a = true) :
    spellI false false (h19embedAtom a) = spellH19Atom a := by
  cases a with
  | txt cs => simp only [h19embedAtom, spellI, spellH19Atom]
  | «open» n => simp only [h19embedAtom, spellI, spellH19Atom]
  | close n => simp only [h19embedAtom, spellI, spellH19Atom]

theorem spellH19Atom_printable19 (a : H19AtomS) (h : h19atomOKS a = true) : (spellH19Atom a).all printable = true := by
  cases a with
  | txt cs =>
    simp only [h19atomOKS, Bool.and_eq_true, List.all_eq_true] at h
    exact escSpell_printable cs (fun t ht => charOK_printable t (h.2 t ht))
  | «open» n =>
    have hn := tagName_alnum_s19 n h
    simp only [spellH19Atom, tagBytes19, List.all_append, Bool.and_eq_true, List.all_eq_true]
    exact ⟨⟨by decide, fun x hx => (alnum_facts8 x (hn x hx)).2.2⟩, by decide⟩
  | close n =>
    have hn := tagName_alnum_s19 n h
    simp only [spellH19Atom, tagBytes19, List.all_append, Bool.and_eq_true, List.all_eq_true]
    exact ⟨⟨by decide, fun x hx => (alnum_facts8 x (hn x hx)).2.2⟩, by decide⟩

end GM.Proof.CMFrag
end CMFragSpec19
