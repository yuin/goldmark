/-
  GM.Proof.BlocksLineRule — the line loops of the block driver, once, for every walk that follows the reader: ONE pass of the `for i` loop over
  the opened blocks (parser.go:1081-1123, `lineLoopC_rule`) and the two outer loops (parser.go:1055-1127, `linesLoopC_rule`, `blocksLoopC_rule`).

  They are stated for the driver generic in `Close` and the transformer list (`lineLoopC cls pts`, GM.Proof.BlocksDriverC; `lineLoopT pts` is
  `cls = bpClose`, the plain `lineLoop` also `pts = []`), over an invariant `ST` of the no-panic layer of which the pass uses `LineLayer` (the fields
  `L.StableL` and `L.G.X.StableG` share, kept by what keeps the tree), an invariant `K` of the walk above it, and a JUDGEMENT `Jd` of which they use
  five rules (`LoopCalc`). At the total judgement `OKE e` with `K` trivial the pass is the no-panic walk itself (`L.lineLoopL` here,
  `L.G.X.lineLoopLC`, `blocksLoopL` in GM.Proof.BlocksTNPXRun); at the partial judgement `EQV` of GM.Proof.BlocksLoopRule it is the order and close-discipline walks.
-/
import GM.Proof.BlocksDriverL
import GM.Proof.BlocksTNPKeysF
import GM.Proof.BlocksTStep
import GM.Proof.BlocksRunEq
import GM.Proof.BlocksLoopEq
import GM.Proof.BlocksDriverC

namespace GM.Blocks
open GM GM.Text GM.Spec GM.Proof.Reader GM.Blocks.L

/-! ### the judgement of a walk

  The walks below are stated for a judgement `Jd Q x y s` about two programs run from one state, of which they use five rules
  (`LoopCalc`). `EQV` of GM.Proof.BlocksLoopRule (partial correctness, two transformer lists side by side: the order and close-discipline walks) and `OKE e`
  (total correctness: the run ends normally with `Q`, or with the fuel error, or with `e`: the no-panic walks) are its instances. -/

structure LoopCalc (Jd : {α : Type} → (α → St → Prop) → M α → M α → St → Prop) : Prop where
  pure : ∀ {α} {Q : α → St → Prop} {a : α} {s : St}, Q a s → Jd Q (pure a) (pure a) s
  bind : ∀ {α β} {P : α → St → Prop} {Q : β → St → Prop} {x y : M α} {f g : α → M β} {s : St},
    Jd P x y s → (∀ a s1, P a s1 → Jd Q (f a) (g a) s1) → Jd Q (x >>= f) (y >>= g) s
  /-- a step both programs share: its no-panic triple, and the equation for those who follow it by partial lemmas -/
  lift : ∀ {α β} {P : α → St → Prop} {Q : β → St → Prop} {x : M α} {f g : α → M β} {s : St},
    OKL P (x s) → (∀ a s1, x s = .ok (a, s1) → P a s1 → Jd Q (f a) (g a) s1) → Jd Q (x >>= f) (x >>= g) s
  ite : ∀ {α} {Q : α → St → Prop} {c : Prop} [Decidable c] {a1 a2 b1 b2 : M α} {s : St},
    (c → Jd Q a1 a2 s) → (¬ c → Jd Q b1 b2 s) → Jd Q (if c then a1 else b1) (if c then a2 else b2) s
  fuel : ∀ {α} {Q : α → St → Prop} {s : St}, Jd Q (throw Panic.loop : M α) (throw Panic.loop) s

/-- `OKE e` as a judgement about two programs: the second is not looked at -/
def JE (e : Panic) {α : Type} (Q : α → St → Prop) (x _y : M α) (s : St) : Prop := T.OKE e Q (x s)

theorem loopCalc_oke (e : Panic) : LoopCalc (@JE e) where
  pure := fun h => T.OKE.ok h
  bind := fun h hk => T.OKE.bind h hk
  lift := fun h hk => T.OKE.bind (T.OKE.of_okl (OKL.withEq h)) (fun a s1 hp => hk a s1 hp.2 hp.1)
  ite := fun {_ _ c _ _ _ _ _ _} ht hf => by
    by_cases h : c
    · simp only [JE, if_pos h]; exact ht h
    · simp only [JE, if_neg h]; exact hf h
  fuel := .inl (.inr rfl)

/-- `lineTailT` (GM.Proof.BlocksTStep) for the driver generic in `Close` -/
def lineTailC (cls : BP → Nat → M Unit) (pts : List PT) (ob : List Block) (li i : Int) (thisParent : Nat) (blank : Bool)
    (bl : List LineStat) : M (LineOutcome × List LineStat) := do
  let lastNode ← liftE (blockAt ob li)
  let result ← openBlocksC cls pts thisParent blank
  if result != .paragraphContinuation then
    let now := slotAfter ob (← getPc).opened li.toNat
    let li' := if now.map (·.node) != some lastNode.node then li - 1 else li
    closeBlocksC cls pts li' i
  return (.next, bl)

/-- `lineFTT` for the driver generic in `Close` -/
def lineFTC (cls : BP → Nat → M Unit) (pts : List PT) (parent : Nat) (ob : List Block) (li i : Int) (blank : Bool)
    (bl : List LineStat) : M (LineOutcome × List LineStat) := do
  let thisParent ←
    if i != 0 then do
      let b ← liftE (blockAt ob (i - 1))
      pure b.node
    else pure parent
  lineTailC cls pts ob li i thisParent blank bl

theorem lineLoopC_end (cls : BP → Nat → M Unit) (pts : List PT) (parent : Nat) (ob : List Block) (li i : Int) (bl : List LineStat) :
    lineLoopC cls pts parent ob li [] i bl = pure (.next, bl) := rfl

theorem lineLoopC_cons (cls : BP → Nat → M Unit) (pts : List PT) (parent : Nat) (ob : List Block) (li : Int) (be : Block)
    (rest : List Block) (i : Int) (bl : List LineStat) :
    lineLoopC cls pts parent ob li (be :: rest) i bl = (do
      let (line, _) ← peekLine
      match line with
      | none => do
        closeBlocksC cls pts li 0
        advanceLine
        pure (.eof, bl)
      | some line => do
        let (lineNum, _) ← position
        let bl' := bl ++ [{ lineNum := lineNum, level := i, isBlank := isBlank line }]
        let beNode ← getNode be.node
        if beNode.kind != .paragraph then do
          let state ← bpContinue be.bp be.node
          if state.cont then
            if state.hasChildren && i == li then do
              let _ ← openBlocksC cls pts be.node (isBlankLine (lineNum - 1) i bl')
              pure (.next, bl')
            else lineLoopC cls pts parent ob li rest (i + 1) bl'
          else lineFTC cls pts parent ob li i (isBlankLine (lineNum - 1) i bl') bl'
        else lineFTC cls pts parent ob li i (isBlankLine (lineNum - 1) i bl') bl') := rfl

theorem lineTailT_eqC (pts : List PT) (ob : List Block) (li i : Int) (thisParent : Nat) (blank : Bool) (bl : List LineStat) :
    lineTailT pts ob li i thisParent blank bl = lineTailC bpClose pts ob li i thisParent blank bl := by
  unfold lineTailT lineTailC
  simp only [openBlocksT_eqC, closeBlocksT_eqC]

theorem lineFTT_eqC (pts : List PT) (parent : Nat) (ob : List Block) (li i : Int) (blank : Bool) (bl : List LineStat) :
    lineFTT pts parent ob li i blank bl = lineFTC bpClose pts parent ob li i blank bl := by
  unfold lineFTT lineFTC
  simp only [lineTailT_eqC]

/-- the fall-through part of an iteration, without transformers -/
theorem lineTailT_nil (ob : List Block) (li i : Int) (thisParent : Nat) (blank : Bool) (bl : List LineStat) :
    lineTailT [] ob li i thisParent blank bl = lineTail ob li i thisParent blank bl := by
  unfold lineTailT lineTail
  simp only [openBlocksT_nil, closeBlocksT_nil]

theorem lineFTT_nil (parent : Nat) (ob : List Block) (li i : Int) (blank : Bool) (bl : List LineStat) :
    lineFTT [] parent ob li i blank bl = lineFT parent ob li i blank bl := by
  unfold lineFTT lineFT
  simp only [lineTailT_nil]
  split <;> simp

/-- the fall-through of the iteration for `be` opens below the node of the block before `be` (the root, when there is none) -/
theorem lineFTC_eq (cls : BP → Nat → M Unit) (pts : List PT) {root : Nat} {parent : Nat} (hroot : parent = root) {pre : List Block} {be : Block}
    {rest : List Block} {ob : List Block} (li : Int) {i : Int} (hob : ob = pre ++ be :: rest) (hi : i = (pre.length : Int))
    (blank : Bool) (bl : List LineStat) :
    lineFTC cls pts parent ob li i blank bl = lineTailC cls pts ob li i (lastNode root pre) blank bl := by
  unfold lineFTC
  by_cases hi0 : (i != 0) = true
  · have hpos : 1 ≤ pre.length := by
      have : i ≠ 0 := by simpa using hi0
      omega
    have hlt : pre.length - 1 < ob.length := by rw [hob]; simp; omega
    have hba : blockAt ob (i - 1) = .ok ob[pre.length - 1] := by
      have : i - 1 = ((pre.length - 1 : Nat) : Int) := by omega
      rw [this]; exact blockAt_ok ob _ hlt
    have hbn : ob[pre.length - 1].node = lastNode root pre := by
      subst hob
      exact lastNode_pre root pre be rest hpos hlt
    rw [if_pos hi0, hba, ← hbn]
    rfl
  · have hpe : pre = [] := by
      have : i = 0 := by simpa using hi0
      exact List.length_eq_zero_iff.1 (by omega)
    rw [if_neg hi0, hpe, hroot]
    rfl

theorem lineFTT_eq (pts : List PT) {root : Nat} {parent : Nat} (hroot : parent = root) {pre : List Block} {be : Block}
    {rest : List Block} {ob : List Block} (li : Int) {i : Int} (hob : ob = pre ++ be :: rest) (hi : i = (pre.length : Int))
    (blank : Bool) (bl : List LineStat) :
    lineFTT pts parent ob li i blank bl = lineTailT pts ob li i (lastNode root pre) blank bl := by
  rw [lineFTT_eqC, lineFTC_eq bpClose pts hroot li hob hi, lineTailT_eqC]

theorem lineFT_eq {root : Nat} {parent : Nat} (hroot : parent = root) {pre : List Block} {be : Block}
    {rest : List Block} {ob : List Block} (li : Int) {i : Int} (hob : ob = pre ++ be :: rest) (hi : i = (pre.length : Int))
    (blank : Bool) (bl : List LineStat) :
    lineFT parent ob li i blank bl = lineTail ob li i (lastNode root pre) blank bl := by
  rw [← lineFTT_nil, lineFTT_eq [] hroot li hob hi, lineTailT_nil]

/-- what the pass uses of the line-boundary invariant of the no-panic walk: the fields that `L.StableL` and `L.G.X.StableG` share -/
structure StableC (src : Bytes) (root : Nat) (s : St) : Prop where
  nodes : NodesOK src s
  keys : W.KeysOKF s
  blocks : ∀ b ∈ s.pc.opened, BlockOK s b
  leafy : Leafy s.pc.opened
  ls : LStore s root
  chain : ChainedO s root s.pc.opened
  endOK : (nd s (lastNode root s.pc.opened)).kind ≠ .list

/-- an invariant of the no-panic walk as the pass sees it -/
structure LineLayer (src : Bytes) (root : Nat) (ST : St → Prop) : Prop where
  core : ∀ {s : St}, ST s → StableC src root s
  same : ∀ {s s' : St}, ST s → Ext s s' → NodesOK src s' → TreeSame s s' → s'.pc.opened = s.pc.opened →
    s'.pc.tmpPara = s.pc.tmpPara → s'.pc.fence = s.pc.fence → ST s'

theorem LineLayer.congr {src : Bytes} {root : Nat} {ST : St → Prop} (hS : LineLayer src root ST) {s s' : St} (h : ST s)
    (hn : s'.nodes = s.nodes) (ho : s'.pc.opened = s.pc.opened) (ht : s'.pc.tmpPara = s.pc.tmpPara)
    (hf : s'.pc.fence = s.pc.fence) : ST s' :=
  hS.same h (Ext.of_nodes_eq hn) (fun n hm => (hS.core h).nodes n (by rw [← hn]; exact hm)) (TreeSame.of_nodes_eq hn) ho ht hf

theorem lineLayer_stableL (src : Bytes) (root : Nat) : LineLayer src root (StableL src root) where
  core := fun h => ⟨h.nodes, .of h.keys, h.blocks, h.leafy, h.ls, h.chain, h.endOK⟩
  same := fun h e hn t ho ht hf => h.same e hn t ho ht hf

section line
variable {src : Bytes} (lsp : LSp src) {cls : BP → Nat → M Unit} {pts1 pts2 : List PT} {root : Nat} (parent : Nat) (ob : List Block) (li : Int) (hli : li = (ob.length : Int) - 1)
  {ST K Dy : St → Prop} {Cu : RCur → Prop} {Q : LineOutcome × List LineStat → St → Prop} (hS : LineLayer src root ST)
  {Jd : {α : Type} → (α → St → Prop) → M α → M α → St → Prop} (hJ : LoopCalc @Jd)
  (ksame : ∀ {s s' : St}, K s → s'.nodes = s.nodes → s'.pc.opened = s.pc.opened → s'.pc.tmpPara = s.pc.tmpPara → K s')
  (cuitem : ∀ {node : Nat} {s s' : St} {c c' : RCur} {st : PState}, RI src s.r c → c.p < src.length → Cu c →
    ∀ p, (nd s node).parent = some p → li_ListKidsOK s p → 0 ≤ li_lastOff s p → listItemContinue node s = .ok (st, s') →
    RI src s'.r c' → c.p ≤ c'.p → Cu c')
  (kdirty : ∀ {s : St} {c : RCur}, K s → RI src s.r c → PadOK c → Cu c → Dy s)
  (qnext : ∀ {s : St} {c : RCur} (bl : List LineStat), ST s → RIa src s.r c → Dy s → Q (LineOutcome.next, bl) s)
  (heof : ∀ (bl : List LineStat) (s : St) (c : RCur), K s → RI src s.r c → PadOK c → Cu c → ST s →
    s.pc.opened = ob → RCur.view src c = none →
    Jd (fun _ s2 => Q (LineOutcome.eof, bl) { s2 with r := s2.r.advanceLine }) (closeBlocksC cls pts1 li 0) (closeBlocksC cls pts2 li 0) s)
  (hcont : ∀ (be : Block) (s : St) (c c2 : RCur) (st : PState) (s4 : St), K s → RI src s.r c → PadOK c → Cu c →
    ST s → s.pc.opened = ob → be ∈ ob → c.p < src.length → NotList be.bp → be.bp ≠ .paragraph → ContPost src be.bp s c st s4 →
    bpContinue be.bp be.node s = .ok (st, s4) → c.p ≤ c2.p →
    Dy s4 ∧ ((st.hasChildren = true ∨ st.cont = false) → K s4 ∧ (RI src s4.r c2 → Cu c2)))
  (hopenB : ∀ (pre : List Block) (be : Block) (blank : Bool) (bl' : List LineStat) (s : St) (c : RCur), K s → RI src s.r c → PadOK c → Cu c →
    ST s → s.pc.opened = ob → be ∈ ob → ob = pre ++ [be] → be.bp.isContainer = true →
    Jd (fun _ s3 => Q (LineOutcome.next, bl') s3) (openBlocksC cls pts1 be.node blank) (openBlocksC cls pts2 be.node blank) s)
  (hlineF : ∀ (pre : List Block) (be : Block) (rest : List Block) (i : Int), ob = pre ++ be :: rest → i = (pre.length : Int) →
    ∀ (blank : Bool) (bl' : List LineStat) (s : St) (c : RCur), K s → RI src s.r c → PadOK c → Cu c → ST s →
    s.pc.opened = ob → ((nd s (lastNode root pre)).kind = .list → Due src s c (lastNode root pre)) →
    Jd Q (lineFTC cls pts1 parent ob li i blank bl') (lineFTC cls pts2 parent ob li i blank bl') s)
include hli hJ lsp hS ksame cuitem kdirty qnext heof hcont hopenB hlineF

/-- ONE pass of the `for i` loop over the opened blocks, for any invariant `K` kept while no block has taken the line and the cursor
    satisfies `Cu` (for the order walks: it is at or behind a bound), `Dy` once a block has taken the line, and post-condition `Q`: given what the end-of-source `closeBlocksC`, `Continue` of the
    eight list-free parsers, `openBlocksC` below a container that goes on and the fall-through `lineFTC` do. What the list and the
    list item parser need (`ListHint`, `Due`) is derived here once. -/
theorem lineLoopC_rule :
    ∀ (rest pre : List Block) (i : Int) (bl : List LineStat) (s : St) (c : RCur), ob = pre ++ rest → i = (pre.length : Int) →
      s.pc.opened = ob → RI src s.r c → PadOK c → ST s →
      (∀ Lk, pre.getLast? = some Lk → Lk.bp = .list → ListHint src s c Lk.node) →
      K s → Cu c →
      Jd Q (lineLoopC cls pts1 parent ob li rest i bl) (lineLoopC cls pts2 parent ob li rest i bl) s := by
  intro rest
  induction rest with
  | nil =>
    intro pre i bl s c _ _ _ hri hpad hst _ hk hcu
    rw [lineLoopC_end, lineLoopC_end]
    exact hJ.pure (qnext bl hst hri.toRIa (kdirty hk hri hpad hcu))
  | cons be rest ih =>
    intro pre i bl s c hob hi hop hri hpad hst hhint hk hcu
    rw [lineLoopC_cons, lineLoopC_cons]
    refine hJ.lift (peekLine_okl hri) (fun y s1 _ h1 => ?_)
    obtain ⟨rfl, r1, hs1, hr1⟩ := h1
    subst s1
    dsimp only
    have hst1 : ST { s with r := r1 } := hS.congr hst rfl rfl rfl rfl
    have hc1 := hS.core hst1
    have hhint1 : ∀ Lk, pre.getLast? = some Lk → Lk.bp = .list → ListHint src { s with r := r1 } c Lk.node := hhint
    have hk1 : K { s with r := r1 } := ksame hk rfl rfl rfl
    cases hv : RCur.view src c with
    | none =>
      dsimp only
      refine hJ.bind (heof bl _ c hk1 hr1 hpad hcu hst1 hop hv) (fun _ s2 h2 => ?_)
      refine hJ.lift (P := fun _ _ => True) (.inl ⟨_, _, rfl, trivial⟩) (fun _ s3 h3 _ => ?_)
      have e3 : s3 = { s2 with r := s2.r.advanceLine } := by cases h3; rfl
      subst s3
      exact hJ.pure h2
    | some line =>
      dsimp only
      have hp : c.p < src.length := view_some_lt src c hv
      have hlineOf : lineOf src c = line := by unfold lineOf; rw [hv]; rfl
      refine hJ.lift (P := fun _ _ => True) (.inl ⟨_, _, rfl, trivial⟩) (fun pos s2 h2 _ => ?_)
      have e2 : s2 = { s with r := r1 } := by cases h2; rfl
      subst s2
      refine hJ.lift (P := fun _ _ => True) (.inl ⟨_, _, rfl, trivial⟩) (fun n s3 h3 _ => ?_)
      obtain ⟨hn, e3⟩ := getNode_ok h3
      subst s3
      subst n
      have hbeob : be ∈ ob := by rw [hob]; simp
      have hbemem : be ∈ s.pc.opened := by rw [hop]; exact hbeob
      have hbeok := hc1.blocks be hbemem
      obtain ⟨hchpre, hlink, hchrest⟩ := chainedO_split (hob ▸ hop ▸ hc1.chain)
      -- common treatment of the answer `st` of `Continue`, in state `s2`
      have after : ∀ (K1 K2 : M (LineOutcome × List LineStat)) (st : PState) (s2 : St) (c2 : RCur) (blankv : Bool)
          (bl' : List LineStat), ST s2 → s2.pc.opened = ob → PadOK c2 → RIa src s2.r c2 →
          ((st.cont = true ∧ st.hasChildren = false) ∨ RI src s2.r c2) →
          (be.bp.isContainer = true → st.cont = true → st.hasChildren = true) →
          (be.bp.isContainer = false → st.hasChildren = false) →
          (st.cont = true → ∀ Lk, (pre ++ [be]).getLast? = some Lk → Lk.bp = .list → ListHint src s2 c2 Lk.node) →
          Dy s2 →
          ((st.hasChildren = true ∨ st.cont = false) → RI src s2.r c2 → K s2 ∧ Cu c2) →
          (st.cont = false → RI src s2.r c2 → Jd Q K1 K2 s2) →
          Jd Q
            (if st.cont = true then
              if (st.hasChildren && i == li) = true then
                openBlocksC cls pts1 be.node blankv >>= fun _ => pure (LineOutcome.next, bl')
              else lineLoopC cls pts1 parent ob li rest (i + 1) bl'
            else K1)
            (if st.cont = true then
              if (st.hasChildren && i == li) = true then
                openBlocksC cls pts2 be.node blankv >>= fun _ => pure (LineOutcome.next, bl')
              else lineLoopC cls pts2 parent ob li rest (i + 1) bl'
            else K2) s2 := by
        intro K1 K2 st s2 c2 blankv bl' hst2 hop2 hpad2 hria2 hcase2 hcontc hleafc hhint2 hd2 hmine hK
        refine hJ.ite (fun hcont => ?_) (fun hcont => ?_)
        · refine hJ.ite (fun hch => ?_) (fun hch => ?_)
          · simp only [Bool.and_eq_true] at hch
            have hri2 : RI src s2.r c2 := by
              rcases hcase2 with ⟨_, h⟩ | h
              · rw [hch.1] at h; cases h
              · exact h
            have hbec : be.bp.isContainer = true := by
              cases hc : be.bp.isContainer with
              | true => rfl
              | false => have := hleafc hc; rw [hch.1] at this; cases this
            obtain ⟨m1, m2⟩ := hmine (.inl hch.1) hri2
            have hobe : ob = pre ++ [be] := by
              have hil : i = li := by simpa using hch.2
              have : (ob.length : Int) = pre.length + rest.length + 1 := by rw [hob]; simp; omega
              have : rest.length = 0 := by omega
              rw [hob, List.length_eq_zero_iff.1 this]
            exact hJ.bind (hopenB pre be blankv bl' s2 c2 m1 hri2 hpad2 m2 hst2 hop2 hbeob hobe hbec) (fun _ s3 hd3 => hJ.pure hd3)
          · by_cases hhc : st.hasChildren = true
            · have hri2 : RI src s2.r c2 := by
                rcases hcase2 with ⟨_, h⟩ | h
                · rw [hhc] at h; cases h
                · exact h
              obtain ⟨m1, m2⟩ := hmine (.inl hhc) hri2
              exact ih (pre ++ [be]) (i + 1) _ s2 c2 (by rw [hob]; simp) (by simp; omega) hop2 hri2 hpad2 hst2
                (hhint2 hcont) m1 m2
            · have hbec : be.bp.isContainer = false := by
                cases hc : be.bp.isContainer with
                | false => rfl
                | true => exact absurd (hcontc hc hcont) hhc
              have hrest : rest = [] := by
                obtain ⟨_, hbe, _, _⟩ := leafy_split (hob ▸ hop ▸ (hS.core hst).leafy)
                cases rest with
                | nil => rfl
                | cons r rs => have := hbe (by simp); rw [hbec] at this; cases this
              subst hrest
              rw [lineLoopC_end, lineLoopC_end]
              exact hJ.pure (qnext _ hst2 hria2 hd2)
        · have hri2 : RI src s2.r c2 := by
            rcases hcase2 with ⟨h, _⟩ | h
            · exact absurd h hcont
            · exact h
          exact hK (by simpa using hcont) hri2
      -- the fall-through continuation from a clean state
      have useF := fun (s2 : St) (c2 : RCur) (blank : Bool) (bl' : List LineStat) (m1 : K s2) (m2 : Cu c2)
          (hp2 : PadOK c2) (hri2 : RI src s2.r c2) (ho2 : s2.pc.opened = ob) (hst2 : ST s2)
          (hmode2 : (nd s2 (lastNode root pre)).kind = .list → Due src s2 c2 (lastNode root pre)) =>
        hlineF pre be rest i hob hi blank bl' s2 c2 m1 hri2 hp2 m2 hst2 ho2 hmode2
      refine hJ.ite (fun hkind => ?_) (fun hkind => ?_)
      · by_cases hbl : be.bp = .list
        · -- listParser.Continue: the store and the cursor are what they were
          have hkl : (nd { s with r := r1 } be.node).kind = .list := by rw [hbeok.kind, hbl]; rfl
          have hitem : ListHasItem { s with r := r1 } be.node := by
            cases hr : rest with
            | nil =>
              exfalso
              have := hc1.endOK
              have hob1 : ({ s with r := r1 } : St).pc.opened = pre ++ [be] := by
                show s.pc.opened = _; rw [hop, hob, hr]
              rw [hob1, lastNode_concat] at this
              exact this hkl
            | cons b' rs =>
              rw [hr] at hchrest
              obtain ⟨h1', h2', h3'⟩ := hchrest.1.down hkl
              refine ⟨b'.node, h3', ?_⟩
              have hb'm : b' ∈ s.pc.opened := by rw [hop, hob, hr]; simp
              rw [(hc1.blocks b' hb'm).kind, h1']; rfl
          obtain ⟨lc, hlc, hlck⟩ := hitem
          have hitem : ListHasItem { s with r := r1 } be.node := ⟨lc, hlc, hlck⟩
          refine hJ.lift (x := bpContinue be.bp be.node) (by
            rw [show bpContinue be.bp be.node = listContinue be.node from by rw [hbl]; rfl]
            exact listContinue_okl2 src be.node { s with r := r1 } c hr1 hp hitem) (fun st s4 _ h4 => ?_)
          obtain ⟨r2, hr2, hri2, hn2, ho2, _, _, ht2, hf2, _, hcc2, hlc2⟩ := h4
          obtain ⟨hbl2, hnb2⟩ := hlc2 lc hlc
          have hst2 : ST s4 := hS.congr hst1 hn2 ho2 ht2 hf2
          have hri2' : RI src s4.r c := by rw [hr2]; exact hri2
          have hk4 : K s4 := ksame hk1 hn2 ho2 ht2
          have hop4 : s4.pc.opened = ob := by rw [ho2]; exact hop
          refine after _ _ st s4 c _ _ hst2 hop4 hpad hri2'.toRIa (.inr hri2') (fun _ => hcc2)
            (fun hc => by rw [hbl] at hc; cases hc) ?_ (kdirty hk4 hri2' hpad hcu) (fun _ _ => ⟨hk4, hcu⟩)
            (fun _ hri2'' => useF s4 c _ _ hk4 hcu hpad hri2'' hop4 hst2 (fun hk => by
              rw [nd_eq_of_nodes_eq hn2] at hk
              exact absurd (hlink.down hk).1 (by rw [hbl]; decide)))
          intro hcont Lk hLk hLkl
          rw [List.getLast?_concat] at hLk
          cases hLk
          refine ⟨lc, by rw [nd_eq_of_nodes_eq hn2]; exact hlc, fun hnb => ?_⟩
          obtain ⟨hpc, hg, hth⟩ := hnb2 hnb
          have hst' : st = stContinueHasChildren := by
            rcases hg.1 with h | h
            · rw [h] at hcont; cases hcont
            · exact h
          rw [nd_eq_of_nodes_eq hn2, nd_eq_of_nodes_eq hn2, hpc, ← hst']
          exact ⟨hg, fun a b c' => hth hcont a b c'⟩
        · by_cases hbi : be.bp = .listItem
          · -- listItemParser.Continue: `IndentPosition` is not −1 because the list went on
            have hkL : (nd { s with r := r1 } (lastNode root pre)).kind = .list := hlink.up hbi
            obtain ⟨_, hparL, hlastL⟩ := hlink.down hkL
            obtain ⟨Lk, hLk, hLn⟩ : ∃ Lk, pre.getLast? = some Lk ∧ Lk.node = lastNode root pre := by
              unfold lastNode
              cases hg : pre.getLast? with
              | none =>
                exfalso
                have : lastNode root pre = root := by unfold lastNode; rw [hg]; rfl
                rw [this, hc1.ls.rootKind] at hkL; cases hkL
              | some Lk => exact ⟨Lk, rfl, rfl⟩
            have hLkm : Lk ∈ s.pc.opened := by rw [hop, hob]; exact List.mem_append_left _ (List.mem_of_getLast? hLk)
            have hLkl : Lk.bp = .list := by
              have := (hc1.blocks Lk hLkm).kind
              rw [hLn, hkL] at this
              exact kind_list this.symm
            obtain ⟨lc, hlc, hg⟩ := hhint1 Lk hLk hLkl
            rw [hLn] at hlc hg
            have hlcbe : lc = be.node := by rw [hlastL] at hlc; cases hlc; rfl
            subst hlcbe
            have hkk := li_kidsOK_of hc1.ls.kids (lastNode root pre) hkL
            have hoffe : li_lastOff { s with r := r1 } (lastNode root pre) = (nd { s with r := r1 } be.node).offset := by
              unfold li_lastOff; rw [hlastL]
            have hoff : 0 ≤ li_lastOff { s with r := r1 } (lastNode root pre) := by
              rw [hoffe]; exact hc1.ls.kids.off be.node (by rw [hbeok.kind, hbi]; rfl)
            have hlist : li_ListContinued src { s with r := r1 } c be.node (lastNode root pre) := by
              unfold li_ListContinued
              simp only
              intro hnb
              rw [hoffe]
              obtain ⟨hgo, _⟩ := hg hnb
              have hns := hgo.not_short rfl
              refine ⟨hns.1, fun hh => ?_⟩
              refine hns.2.1 ⟨?_, hh.2.1, fun ⟨m, typ, hm, ht, _⟩ => ?_⟩
              · have := hh.1
                simp only [Bool.and_eq_true, beq_iff_eq] at this
                exact List.isEmpty_iff_length_eq_zero.2 this.1
              · have := hh.2.2.2
                rw [li_matchesListItem_strict] at this
                have hm' : matchesListItem (lineOf src c) false = (m, typ) := hm
                unfold lineOf at hm'
                rw [hm'] at this
                exact ht this
            refine hJ.lift (x := bpContinue be.bp be.node) (by
              rw [show bpContinue be.bp be.node = listItemContinue be.node from by rw [hbi]; rfl]
              exact listItemContinue_okl2 src be.node { s with r := r1 } c hr1 hpad hp (lastNode root pre) hparL hkk hoff hlist)
              (fun st s4 h4 hpost => ?_)
            have h4' : listItemContinue be.node { s with r := r1 } = .ok (st, s4) := by
              have ebp : bpContinue be.bp be.node = listItemContinue be.node := by rw [hbi]; rfl
              rw [← ebp]; exact h4
            obtain ⟨c2, hri2, hpad2, hle2, hn2, ho2, ht2, hf2, hcc2, _, hclose2⟩ := hpost
            have hst2 : ST s4 := hS.congr hst1 hn2 ho2 ht2 hf2
            have hk4 : K s4 := ksame hk1 hn2 ho2 ht2
            have hop4 : s4.pc.opened = ob := by rw [ho2]; exact hop
            have hcu4 : Cu c2 := cuitem hr1 hp hcu (lastNode root pre) hparL hkk hoff h4' hri2 hle2
            refine after _ _ st s4 c2 _ _ hst2 hop4 hpad2 hri2.toRIa (.inr hri2) (fun _ => hcc2)
              (fun hc => by rw [hbi] at hc; cases hc) ?_ (kdirty hk4 hri2 hpad2 hcu4) (fun _ _ => ⟨hk4, hcu4⟩) ?_
            · intro _ Lk' hLk' hLkl'
              rw [List.getLast?_concat] at hLk'
              cases hLk'
              rw [hbi] at hLkl'; cases hLkl'
            · intro hcont hri2''
              obtain ⟨hcc, hnb, heib, _, hcase⟩ := hclose2 hcont
              subst c2
              refine useF s4 c _ _ hk4 hcu hpad hri2'' hop4 hst2 (fun _ => ?_)
              obtain ⟨hgo, hth⟩ := hg hnb
              -- the list went on because the line starts its next item
              have hdisj := hgo.2 rfl
              have hoff2 : li_lastOff s4 (lastNode root pre) = (nd { s with r := r1 } be.node).offset := by
                rw [← hoffe]; unfold li_lastOff; simp only [nd_eq_of_nodes_eq hn2]
              rcases hcase with ⟨hsk, hm, hi4, hei⟩ | ⟨_, hne, hio, _, hnl⟩
              · rcases hdisj with ⟨_, hor, hnext⟩ | ⟨hle', heb, _⟩
                · obtain ⟨m, typ, hm', ht', hr', _⟩ := hnext
                  refine ⟨hp, by rw [nd_eq_of_nodes_eq hn2]; exact hkL, fun m2 typ2 he2 => ?_, fun _ _ _ _ _ _ _ _ _ =>
                    hth hi4 hor ⟨m, typ, hm', ht', hr'⟩, .inl hsk⟩
                  have : matchesListItem (lineOf src c) false = (m, typ) := hm'
                  rw [this] at he2; cases he2
                  rw [hoff2]
                  exact ⟨ht', by omega⟩
                · exfalso
                  rw [hoffe] at hei
                  rcases hei with h | h
                  · simp only [Bool.and_eq_true] at h
                    rw [h.2] at heb; cases heb
                  · simp only [lineOf] at hle' h; omega
              · exfalso
                rw [hoffe] at hio
                rcases hdisj with ⟨_, _, m, typ, hm', ht', _⟩ | ⟨hle', _⟩
                · rw [li_matchesListItem_strict] at hnl
                  have : matchesListItem (lineOf src c) false = (m, typ) := hm'
                  unfold lineOf at this
                  rw [this] at hnl
                  exact ht' hnl
                · simp only [lineOf] at hle' hio; omega
          · -- the other eight parsers: their contract `ContPost`
            have hnl : NotList be.bp := ⟨hbl, hbi⟩
            have hnp : be.bp ≠ .paragraph := by
              intro hbp
              have hkp : (nd { s with r := r1 } be.node).kind = .paragraph := by rw [hbeok.kind, hbp]; rfl
              have hkind' : (nd { s with r := r1 } be.node).kind ≠ .paragraph := by simpa [nd] using hkind
              exact hkind' hkp
            refine hJ.lift (x := bpContinue be.bp be.node) (W.contW_all src be.bp hnl.1 hnl.2 be.node
              { s with r := r1 } c hr1 hpad hp hc1.nodes hc1.keys hbeok) (fun st s4 h4 h2c => ?_)
            have hts2 := lsp.contTS be.bp be.node _ st s4 h4
            obtain ⟨c2, hria2, hpad2, hle2, _, hcase2⟩ := h2c.ria
            have hst2 : ST s4 := hS.same hst1 h2c.ext h2c.nodes hts2 (by rw [h2c.pc]) (by rw [h2c.pc]) (by rw [h2c.pc])
            obtain ⟨hd4, hrest⟩ := hcont be _ c c2 st s4 hk1 hr1 hpad hcu hst1 hop hbeob hp hnl hnp h2c h4 hle2
            have hop4 : s4.pc.opened = ob := by rw [h2c.pc]; exact hop
            refine after _ _ st s4 c2 _ _ hst2 hop4 hpad2 hria2 hcase2 h2c.cont h2c.leaf ?_ hd4
              (fun hor hri4 => ⟨(hrest hor).1, (hrest hor).2 hri4⟩)
              (fun hcf hri2'' => useF s4 c2 _ _ (hrest (.inr hcf)).1 ((hrest (.inr hcf)).2 hri2'') hpad2 hri2''
                hop4 hst2 (fun hk => by
                rw [(hts2.same _).1] at hk
                exact absurd (hlink.down hk).1 hbi))
            intro _ Lk' hLk' hLkl'
            rw [List.getLast?_concat] at hLk'
            cases hLk'
            exact absurd hLkl' hbl
      · have hkp : (nd { s with r := r1 } be.node).kind = .paragraph := by simpa using hkind
        have hbp : be.bp = .paragraph := kind_paragraph (by rw [← hbeok.kind]; exact hkp)
        exact useF { s with r := r1 } c _ _ hk1 hcu hpad hr1 hop hst1 (fun hk =>
          absurd (hlink.down hk).1 (by rw [hbp]; decide))

end line

/-! ### the two outer loops (parser.go:1055-1127)

  Every walk that follows the reader threads the same things through `blocksLoopC` / `linesLoopC`: a ghost cursor `c` with `RI src s.r c`, an
  invariant `K c` at the start of a line, an invariant `Dy` at the end of a line (from which `K` holds again at the start of the next line:
  `next`), and the invariant `ST` of the no-panic layer, which the calls re-establish; `De` is what is known besides when the line loop
  reports the end of the source, or `openBlocksC` opened nothing. -/

section outer
variable {src : Bytes} {cls : BP → Nat → M Unit} {pts1 pts2 : List PT} (parent : Nat)
  {ST : St → Prop} {K : RCur → St → Prop} {Dy De : St → Prop}
  {Jd : {α : Type} → (α → St → Prop) → M α → M α → St → Prop} (hJ : LoopCalc @Jd)
  (str : ∀ {s : St} (r : Reader), ST s → ST { s with r := r })
  (next : ∀ {s : St} {c : RCur}, Dy s → RIa src s.r c → K (RCur.advanceLine src c) { s with r := s.r.advanceLine })
  (kskip : ∀ {s : St} {c : RCur} {x : Segment × Int × Bool} {r1 : Reader}, K c s → RI src s.r c → PadOK c →
    skipBlankLines readerOps (loopFuel s.r.source) 0 s.r = .ok (x, r1) → ∃ c1, RI src r1 c1 ∧ PadOK c1 ∧ K c1 { s with r := r1 })
  (hline : ∀ (bl : List LineStat) (s : St) (c : RCur), RI src s.r c → PadOK c → ST s → K c s →
    Jd (fun y s' => Dy s' ∧ (y.1 = LineOutcome.eof → De s') ∧ ∃ c1, RIa src s'.r c1 ∧ ST s')
      (lineLoopC cls pts1 parent s.pc.opened ((s.pc.opened.length : Int) - 1) s.pc.opened 0 bl)
      (lineLoopC cls pts2 parent s.pc.opened ((s.pc.opened.length : Int) - 1) s.pc.opened 0 bl) s)
  (hopen : ∀ (blank : Bool) (s : St) (c : RCur), RI src s.r c → PadOK c → ST s → s.pc.opened = [] → K c s →
    Jd (fun r s' => Dy s' ∧ (r ≠ OpenResult.newBlocksOpened → De s') ∧ ∃ c2, RIa src s'.r c2 ∧ ST s')
      (openBlocksC cls pts1 parent blank) (openBlocksC cls pts2 parent blank) s)
include hJ str next hline

theorem linesLoopC_rule :
    ∀ (fuel : Nat) (bl : List LineStat) (s : St) (c : RCur), RI src s.r c → PadOK c → ST s → K c s →
      Jd (fun x s' => (x.1 = true → Dy s' ∧ De s') ∧
          (x.1 = false → ∃ c', RI src s'.r c' ∧ PadOK c' ∧ ST s' ∧ s'.pc.opened = [] ∧ K c' s'))
        (linesLoopC cls pts1 parent fuel bl) (linesLoopC cls pts2 parent fuel bl) s := by
  intro fuel
  induction fuel with
  | zero => intro bl s c _ _ _ _; unfold linesLoopC; exact hJ.fuel
  | succ fuel ih =>
    intro bl s c hri hpad hst hinv
    unfold linesLoopC
    refine hJ.lift (x := getPc) (P := fun pc s0 => pc = s.pc ∧ s0 = s) (.inl ⟨_, _, rfl, rfl, rfl⟩) (fun pc s0 _ h0 => ?_)
    obtain ⟨hpc, hs0⟩ := h0
    subst s0
    subst pc
    dsimp only
    refine hJ.ite (fun hl => ?_) (fun _ => ?_)
    · refine hJ.pure ⟨(fun h => by cases h), fun _ => ⟨c, hri, hpad, hst, ?_, hinv⟩⟩
      exact List.length_eq_zero_iff.1 (by simpa using hl)
    · refine hJ.bind (hline bl s c hri hpad hst hinv) (fun y s1 hd1 => ?_)
      obtain ⟨c1, hria1, hst1⟩ := hd1.2.2
      obtain ⟨outcome, bl1⟩ := y
      cases outcome with
      | eof =>
        dsimp only
        exact hJ.pure ⟨fun _ => ⟨hd1.1, hd1.2.1 rfl⟩, (fun h => by cases h)⟩
      | next =>
        dsimp only
        refine hJ.lift (P := fun _ s2 => s2 = { s1 with r := s1.r.advanceLine }) (.inl ⟨_, _, rfl, rfl⟩) (fun _ s2 _ e2 => ?_)
        subst s2
        exact ih bl1 _ _ (advanceLine_ria hria1) (padOK_advanceLine c1) (str _ hst1) (next hd1.1 hria1)

include kskip hopen in
theorem blocksLoopC_rule {Fin : St → Prop} (fk : ∀ c s, K c s → s.pc.opened = [] → Fin s) (fd : ∀ s, Dy s → De s → Fin s) :
    ∀ (fuel : Nat) (bl : List LineStat) (s : St) (c : RCur), RI src s.r c → PadOK c → ST s →
      s.pc.opened = [] → K c s →
      Jd (fun _ s' => Fin s') (blocksLoopC cls pts1 parent fuel bl) (blocksLoopC cls pts2 parent fuel bl) s := by
  intro fuel
  induction fuel with
  | zero => intro _ _ _ _ _ _ _ _; unfold blocksLoopC; exact hJ.fuel
  | succ fuel ih =>
    intro bl s c hri hpad hst hemp hinv
    unfold blocksLoopC
    have hsk : OKL (fun (_ : Segment × Int × Bool) s1 => ∃ x r1,
        skipBlankLines readerOps (loopFuel s.r.source) 0 s.r = .ok (x, r1) ∧ s1 = { s with r := r1 }) (skipBlankLinesR s) := by
      unfold skipBlankLinesR
      rcases skipBlankLines_ri (src := src) (loopFuel s.r.source) 0 s.r c hri hpad with ⟨x, r', _, e, _, _⟩ | e
      · simp only [e, bind, Except.bind, pure, Except.pure]
        exact OKL.ok ⟨x, r', rfl, rfl⟩
      · simp only [e, bind, Except.bind]
        exact .inr rfl
    refine hJ.lift hsk (fun y s1 _ h1 => ?_)
    obtain ⟨x, r1, hx, hs1⟩ := h1
    obtain ⟨c1, hri1, hpad1, hinv1⟩ := kskip hinv hri hpad hx
    subst s1
    obtain ⟨seg, lines, ok⟩ := y
    have hst1 := str r1 hst
    dsimp only
    refine hJ.ite (fun _ => hJ.pure (fk _ _ hinv1 hemp)) (fun _ => ?_)
    refine hJ.lift (P := fun _ s2 => s2 = { s with r := r1 }) (.inl ⟨_, _, rfl, rfl⟩) (fun pos s2 _ e2 => ?_)
    subst s2
    refine hJ.lift (x := getPc) (P := fun pc s3 => pc = s.pc ∧ s3 = { s with r := r1 }) (.inl ⟨_, _, rfl, rfl, rfl⟩)
      (fun pc s3 _ h3 => ?_)
    obtain ⟨hpc, e3⟩ := h3
    subst s3
    subst pc
    refine hJ.bind (hopen _ { s with r := r1 } c1 hri1 hpad1 hst1 hemp hinv1) (fun res s4 hd4 => ?_)
    obtain ⟨c2, hria2, hst2⟩ := hd4.2.2
    refine hJ.ite (fun hres => hJ.pure (fd _ hd4.1 (hd4.2.1 (by simpa using hres)))) (fun _ => ?_)
    refine hJ.lift (P := fun _ s5 => s5 = { s4 with r := s4.r.advanceLine }) (.inl ⟨_, _, rfl, rfl⟩) (fun _ s5 _ e5 => ?_)
    subst s5
    refine hJ.bind (linesLoopC_rule parent hJ str next hline (De := De) fuel _ _ _ (advanceLine_ria hria2)
      (padOK_advanceLine (src := src) c2) (str s4.r.advanceLine hst2) (next hd4.1 hria2)) (fun z s6 hq => ?_)
    obtain ⟨q1, q2⟩ := hq
    obtain ⟨ret, bl3⟩ := z
    dsimp only
    refine hJ.ite (fun hret => hJ.pure (fd _ (q1 hret).1 (q1 hret).2)) (fun hret => ?_)
    obtain ⟨c3, hri3, hpad3, hst3, hemp3, hinv3⟩ := q2 (by simpa using hret)
    exact ih bl3 s6 c3 hri3 hpad3 hst3 hemp3 hinv3

end outer

namespace L
section tp
variable {src : Bytes} (lsp : LSp src)
include lsp

/-- the fall-through part of an iteration of the `for i` loop -/
theorem lineFL {root : Nat} (parent : Nat) (hroot : parent = root) (pre : List Block) (be : Block) (rest : List Block)
    (ob : List Block) (li i : Int)
    (hob : ob = pre ++ be :: rest) (hli : li = (ob.length : Int) - 1) (hi : i = (pre.length : Int))
    (blank : Bool) (bl' : List LineStat) (s : St) (c : RCur)
    (hop : s.pc.opened = ob) (hri : RI src s.r c) (hpad : PadOK c) (hst : StableL src root s)
    (hmode : (nd s (lastNode root pre)).kind = .list → Due src s c (lastNode root pre)) :
    OKL (LLPostL src root) (lineFT parent ob li i blank bl' s) := by
  rw [lineFT_eq hroot li hob hi]
  exact lineTailL lsp pre be rest ob li i hob hli hi (lastNode root pre) blank bl' s c hop hri hpad hst rfl hmode

/-- one pass of the `for i` loop is total from `StableL` and the list hints, and ends in `StableL` again: the pass at
    `pts = []`, `Close = bpClose`, with nothing to carry but `StableL` (`K`, `Dy`, `Cu` trivial) -/
theorem lineLoopL {root : Nat} (parent : Nat) (hroot : parent = root) (ob : List Block) (li : Int)
    (hli : li = (ob.length : Int) - 1) :
    ∀ (rest pre : List Block) (i : Int) (bl : List LineStat) (s : St) (c : RCur), ob = pre ++ rest → i = (pre.length : Int) →
      s.pc.opened = ob → RI src s.r c → PadOK c → StableL src root s →
      (∀ Lb, pre.getLast? = some Lb → Lb.bp = .list → ListHint src s c Lb.node) →
      OKL (LLPostL src root) (lineLoop parent ob li rest i bl s) := by
  intro rest pre i bl s c hob hi hop hri hpad hst hhint
  rw [← lineLoopT_nil, lineLoopT_eqC]
  refine (lineLoopC_rule (cls := bpClose) (pts1 := []) (pts2 := []) (K := fun _ => True) (Dy := fun _ => True) (Cu := fun _ => True)
    (Q := LLPostL src root) lsp parent ob li hli (lineLayer_stableL src root) (loopCalc_oke .loop)
    (fun _ _ _ _ => trivial) (fun _ _ _ _ _ _ _ _ _ _ => trivial) (fun _ _ _ _ => trivial) (fun _ hst hria _ => ⟨_, hria, hst⟩)
    (fun bl s c _ hri hpad _ hst hop hv => ?_)
    (fun _ _ _ _ _ _ _ _ _ _ _ _ _ _ _ _ _ _ _ => ⟨trivial, fun _ => ⟨trivial, fun _ => trivial⟩⟩)
    (fun pre be blank bl' s c _ hri hpad _ hst hop hbe hobe hbec => ?_)
    (fun pre be rest i hob hi blank bl' s c _ hri hpad _ hst hop hmode => ?_)
    rest pre i bl s c hob hi hop hri hpad hst hhint trivial trivial).elim id .inr
  · -- the end of the source
    show T.OKE .loop _ (closeBlocksC bpClose [] li 0 s)
    rw [← closeBlocksT_eqC, closeBlocksT_nil]
    have hcb := closeBlocksL_okl lsp [] ob [] s (by simp [hop]) hri.source hst.nodes hst.keys
      hst.ls.kids hst.ls.plt (fun b hb => hst.blocks b (by simpa [hop] using hb)) (hop ▸ hst.leafy) (by simp)
    have e1 : ((([] : List Block).length : Int) + (ob.length : Int) - 1) = li := by simp [hli]
    rw [e1] at hcb
    refine T.OKE.of_okl (hcb.mono (fun _ s2 h2 => ?_))
    obtain ⟨h2r, h2o, h2n, h2k, h2e, h2t, _, h2p, h2b⟩ := h2
    have hri2 : RI src s2.r c := by rw [h2r]; exact hri
    have hls2 : LStore s2 root := hst.ls.close h2e h2t h2p (by rw [h2o]; simp) hst.blocks
    refine ⟨_, (ri_advanceLine hri2).toRIa, h2n, ⟨h2k.tmp, h2k.fence⟩, ?_, ?_,
      ⟨⟨hls2.kids.kids, hls2.kids.off, hls2.kids.pk⟩, hls2.plt, hls2.rootKind, hls2.rootLt, ?_, ?_⟩, ?_, ?_⟩
    · intro b hb; simp only [h2o, List.append_nil] at hb; cases hb
    · simp only [h2o, List.append_nil]; intro b hb; cases hb
    · intro b hb; simp only [h2o, List.append_nil] at hb; cases hb
    · simp only [h2o, List.append_nil, List.map_nil]; exact List.pairwise_singleton _ _
    · simp only [h2o, List.append_nil]; trivial
    · simp only [h2o, List.append_nil, lastNode_nil]
      show (nd s2 root).kind ≠ .list
      rw [hls2.rootKind]; decide
  · -- `openBlocks` below the last container, which goes on
    show T.OKE .loop _ (openBlocksC bpClose [] be.node blank s)
    rw [← openBlocksT_eqC, openBlocksT_nil]
    have hlast : ob.getLast? = some be := by rw [hobe]; simp
    have hln : lastNode root ob = be.node := by rw [hobe, lastNode_concat]
    have hbek : (nd s be.node).kind ≠ .list := by
      have := hst.endOK
      rw [hop, hln] at this; exact this
    have hcl : Call s.pc.opened ob := ⟨⟨[], by rw [hop]; simp, fun _ b hb => by
      rw [hop, hlast] at hb; cases hb; exact hbec⟩⟩
    refine T.OKE.of_okl ((openBlocksL lsp ob be.node blank s c hri hpad hst hcl hln.symm (fun hk => absurd hk hbek)).mono
      (fun res s3 h3 => ?_))
    obtain ⟨c3, new3, hria3, _, hw3, hleafy3, _, _, hend3, _⟩ := h3
    have hallold : ∀ b ∈ ob, b.bp.isContainer = true := by
      intro b hb
      obtain ⟨hprec, _, _, _⟩ := leafy_split (hobe ▸ hop ▸ hst.leafy)
      rw [hobe] at hb
      rcases List.mem_append.1 hb with h | h
      · exact hprec b h
      · simp only [List.mem_singleton] at h; rw [h]; exact hbec
    obtain ⟨suf, hstack⟩ := hw3.stack
    have hsufe : suf = [] ∧ s3.pc.opened = ob ++ new3 := by
      rcases hw3.shape with e | ⟨_, _, e⟩
      · rw [hop] at e
        rw [e] at hstack
        have hl := congrArg List.length hstack
        simp only [List.length_append] at hl
        exact ⟨List.length_eq_zero_iff.1 (by omega), e⟩
      · rw [hop] at e
        rw [e] at hstack
        have hl := congrArg List.length hstack
        simp only [List.length_append, List.length_dropLast] at hl
        have hol : 1 ≤ ob.length := by rw [hobe]; simp
        omega
    refine ⟨c3, hria3, hw3.nodes, hw3.keys, hw3.blocks, ?_, hw3.ls, ?_, ?_⟩
    · rw [hsufe.2]; exact leafy_append hallold hleafy3
    · rw [hsufe.2]; exact hw3.chain
    · rw [hsufe.2]; exact hend3
  · -- the fall-through
    show T.OKE .loop _ (lineFTC bpClose [] parent ob li i blank bl' s)
    rw [← lineFTT_eqC, lineFTT_nil]
    exact T.OKE.of_okl (lineFL lsp parent hroot pre be rest ob li i hob hli hi blank bl' s c hop hri hpad hst hmode)

end tp
end L

end GM.Blocks
