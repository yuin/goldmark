/-
  GM.Proof.ShiftSimXSafe — the POSITIONAL class of first parts: what matters for the parsers that get tried on a line is
  the byte `openBlocks` looks up (`p.blockParsers[line[pos]]`, `pos` = the first byte that is not a space / tab of what
  is left of the line). Run A's cursor is "trigger-safe" when everything of the line in front of it is quote markers
  and spaces (so that byte is the first byte of the line that is not ` `, tab or `>`), or when the rest of the line is
  blank. `PlainL b`: the first byte of every line that is not a space, a tab or `>` is not a trigger of a list parser,
  the setext parser or the fenced-code parser. Digits, dashes, equal signs … INSIDE lines are allowed.
-/
import GM.Proof.ShiftSimXParsers

namespace GM.Blocks.Xs
open GM GM.Text GM.Spec GM.Proof.Reader GM.Blocks

/-- a space, a tab or `>` -/
def QuoteByte (x : UInt8) : Prop := x = 32 ∨ x = 9 ∨ x = 62

/-- all bytes of the cursor's line in front of the cursor are spaces, tabs or `>` -/
def PreC (b : Bytes) (c : RCur) : Prop :=
  ∀ i, lineStart b c.p ≤ i → i < c.p → ∃ x, b[i]? = some x ∧ QuoteByte x

/-- the cursor is trigger-safe -/
def TSafe (b : Bytes) (c : RCur) : Prop := PreC b c ∨ isBlank ((RCur.view b c).getD []) = true

/-- run A's reader is well-formed and trigger-safe -/
def TS (b : Bytes) (s : St) : Prop := ∃ c, RI b s.r c ∧ TSafe b c

/-- run A has a line and its cursor is trigger-safe: what the driver of the right-extension simulation threads -/
def HL (b : Bytes) (s : St) : Prop := HasLine b s ∧ TS b s

/-- not a trigger of listParser / listItemParser / setextHeadingParser / fencedCodeBlockParser -/
def NonTrig (ch : UInt8) : Prop :=
  ch ≠ 45 ∧ ch ≠ 42 ∧ ch ≠ 43 ∧ isNumeric ch = false ∧ ch ≠ 61 ∧ ch ≠ 96 ∧ ch ≠ 126

/-- **the positional class**: a byte whose line consists of spaces, tabs and `>` in front of it is not a trigger — i.e.
    no line starts, after its quote markers and indentation, with `- * + 0-9 = ` ~` -/
def PlainL (b : Bytes) : Prop :=
  ∀ j ch, b[j]? = some ch → (∀ i, lineStart b j ≤ i → i < j → ∃ x, b[i]? = some x ∧ QuoteByte x) → NonTrig ch

/-- at a trigger-safe cursor the byte `openBlocks` looks up selects covered parsers only -/
def TrigAt (b : Bytes) (Cov : BP → Prop) : Prop :=
  (∀ bp ∈ freeParsers, Cov bp) ∧
  ∀ (c : RCur) (l : Bytes) (lo : Int) (ch : UInt8), c.p ≤ b.length → TSafe b c → RCur.view b c = some l →
    idx l (indentWidthI l lo).2 = .ok ch → ∀ bp ∈ (triggered ch).getD freeParsers, Cov bp

end GM.Blocks.Xs
