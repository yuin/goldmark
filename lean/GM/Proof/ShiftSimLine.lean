/-
  GM.Proof.ShiftSimLine — the line counter `Reader.line` never decreases during `Open` / `Continue` of a block
  parser, nor during `SkipBlankLines` (which leaves it alone when it skips nothing).
  For the parsers this is `Step.line` of GM.Proof.BlocksStep; for the driver there is the calculus `Keeps (LineGe k)` of
  GM.Proof.QuoteSimFoot (tactic `lg`).
  Also here: `tryParsers`, the retry loop of `openBlocks` and `lineLoop` restated with named join points (`tpJp1` … `tpSome`,
  `oblTry`, `llOpen` … `llBody`), along which the walks over the driver in the `ShiftSim*` modules go.
-/
import GM.Proof.BlocksStep
import GM.Proof.QuoteSimEdit

namespace GM.Blocks.Sh
open GM GM.Text GM.Spec GM.Proof.Reader GM.Blocks

def LineGe (k : Int) : St → Prop := fun s => k ≤ s.r.line

theorem lineGe_of_steps {Kw : Prop} {W : Nat → Prop} {α} {m : M α} (h : Steps Kw W m) (k : Int) :
    Keeps (LineGe k) m :=
  fun s a s' hs e => Int.le_trans hs (h.h s a s' e).line

section prims
variable {k : Int}

theorem peekLine_lg : Keeps (LineGe k) peekLine := lineGe_of_steps (Kw := False) (W := fun _ => False) .peekLine k

theorem lineOffset_lg : Keeps (LineGe k) lineOffset := lineGe_of_steps (Kw := False) (W := fun _ => False) .lineOffset k

theorem advance_lg (n : Int) : Keeps (LineGe k) (advance n) :=
  lineGe_of_steps (Kw := False) (W := fun _ => False) (.advance n) k

theorem advanceAndSetPadding_lg (n p : Int) : Keeps (LineGe k) (advanceAndSetPadding n p) :=
  lineGe_of_steps (Kw := False) (W := fun _ => False) (.advanceAndSetPadding n p) k

theorem preserveLeadingTab_lg (seg : Segment) (ind : Int) : Keeps (LineGe k) (preserveLeadingTab seg ind) :=
  lineGe_of_steps (Kw := False) (W := fun _ => False) (.preserveLeadingTab seg ind) k

theorem lineGe_noNodes : NoNodes (LineGe k) := ⟨fun _ _ hs => hs⟩

theorem modNode_lg (id : Nat) (f : Node → Node) : Keeps (LineGe k) (modNode id f) :=
  modNode_keeps lineGe_noNodes id f

theorem newNode_lg (n : Node) : Keeps (LineGe k) (newNode n) := newNode_keeps lineGe_noNodes n

theorem appendLine_lg (id : Nat) (seg : Segment) : Keeps (LineGe k) (appendLine id seg) :=
  appendLine_keeps lineGe_noNodes id seg

theorem modPc_lg (f : Ctx → Ctx) : Keeps (LineGe k) (modPc f) := modPc_keeps f fun _ hs => hs

end prims

macro "lg_step" : tactic =>
  `(tactic| first
    | with_reducible apply Keeps.pure
    | with_reducible apply Keeps.bind
    | with_reducible apply Keeps.ite
    | with_reducible apply Keeps.throw
    | with_reducible apply getNode_keeps
    | with_reducible apply getPc_keeps
    | with_reducible apply source_keeps
    | with_reducible apply position_keeps
    | with_reducible apply get_keeps
    | with_reducible apply liftE_keeps
    | with_reducible apply lastOpenedBlock_keeps
    | with_reducible apply peekLine_lg
    | with_reducible apply lineOffset_lg
    | with_reducible apply advance_lg
    | with_reducible apply advanceAndSetPadding_lg
    | with_reducible apply preserveLeadingTab_lg
    | with_reducible apply modNode_lg
    | with_reducible apply newNode_lg
    | with_reducible apply appendLine_lg
    | with_reducible apply modPc_lg
    | apply_hyp
    | intro_pi
    | split)

/-- walk over an `M` do block that never lowers `r.line` -/
macro "lg" : tactic => `(tactic| repeat' lg_step)

theorem bpOpen_lg (k : Int) (bp : BP) (p : Nat) : Keeps (LineGe k) (bpOpen bp p) :=
  fun _ _ _ hs h => Int.le_trans hs (bpOpen_step h).1.line

theorem bpContinue_lg (k : Int) (bp : BP) (n : Nat) : Keeps (LineGe k) (bpContinue bp n) :=
  fun _ _ _ hs h => Int.le_trans hs (bpContinue_step h).line

theorem bpOpen_line (bp : BP) (parent : Nat) (s s' : St) (a : Option Nat × PState)
    (h : bpOpen bp parent s = .ok (a, s')) : s.r.line ≤ s'.r.line :=
  (bpOpen_step h).1.line

theorem bpContinue_line (bp : BP) (node : Nat) (s s' : St) (a : PState)
    (h : bpContinue bp node s = .ok (a, s')) : s.r.line ≤ s'.r.line :=
  (bpContinue_step h).line

theorem skipBlankLines_line : ∀ (fuel : Nat) (lines : Int) (r r' : Reader) (x : Segment × Int × Bool),
    skipBlankLines readerOps fuel lines r = .ok (x, r') →
    r.line ≤ r'.line ∧ lines ≤ x.2.1 ∧ (x.2.1 = lines → r'.line = r.line) := by
  intro fuel
  induction fuel with
  | zero => intro lines r r' x h; unfold skipBlankLines at h; cases h
  | succ fuel ih =>
    intro lines r r' x h
    unfold skipBlankLines at h
    simp only [readerOps] at h
    cases hp : r.peekLine with
    | error e => rw [hp] at h; simp [bind, Except.bind] at h
    | ok p =>
      obtain ⟨⟨line, seg⟩, r1⟩ := p
      have e1 : r1.line = r.line := (rd_peekLine hp).2
      rw [hp] at h
      simp only [bind, Except.bind] at h
      cases line with
      | none =>
        simp only [pure, Except.pure] at h
        cases h
        exact ⟨by rw [e1]; exact Int.le_refl _, Int.le_refl _, fun _ => e1⟩
      | some l =>
        simp only at h
        split at h
        · simp only [pure, Except.pure] at h
          obtain ⟨a1, a2, _⟩ := ih (lines + 1) r1.advanceLine r' x h
          have := rd_advanceLine_le r1
          exact ⟨by omega, by omega, fun hx => by omega⟩
        · simp only [pure, Except.pure] at h
          cases h
          exact ⟨by rw [e1]; exact Int.le_refl _, Int.le_refl _, fun _ => e1⟩

theorem skipBlankLinesR_line (s s' : St) (x : Segment × Int × Bool) (h : skipBlankLinesR s = .ok (x, s')) :
    s.r.line ≤ s'.r.line ∧ (x.2.1 = 0 → s'.r.line = s.r.line) := by
  unfold skipBlankLinesR at h
  cases hp : skipBlankLines readerOps (loopFuel s.r.source) 0 s.r with
  | error e => rw [hp] at h; cases h
  | ok q =>
    rw [hp] at h
    cases h
    obtain ⟨a1, _, a3⟩ := skipBlankLines_line _ _ _ _ _ hp
    exact ⟨a1, a3⟩

theorem bind_ok_inv {α β} {m : M α} {f : α → M β} {s s'' : St} {y : β} (h : (m >>= f) s = .ok (y, s'')) :
    ∃ a s', m s = .ok (a, s') ∧ f a s' = .ok (y, s'') := by
  have h' : StateT.bind m f s = .ok (y, s'') := h
  unfold StateT.bind at h'
  cases hm : m s with
  | error e => rw [hm] at h'; cases h'
  | ok x => rw [hm] at h'; exact ⟨x.1, x.2, rfl, h'⟩

theorem liftE_ok_inv {α} {e : Except Panic α} {s s' : St} {a : α} (h : GM.Blocks.liftE e s = .ok (a, s')) :
    e = .ok a ∧ s' = s := by
  unfold GM.Blocks.liftE at h
  cases e with
  | error x => cases h
  | ok v => cases h; exact ⟨rfl, rfl⟩

theorem blockAt_mem {blocks : List Block} {i : Int} {x : Block} (h : blockAt blocks i = .ok x) : x ∈ blocks :=
  mem_of_blockAt h

theorem modNode_opened (id : Nat) (f : Node → Node) (s s' : St) (a : Unit) (h : modNode id f s = .ok (a, s')) :
    s'.pc.opened = s.pc.opened := by
  unfold modNode at h; cases h; rfl

theorem closeLoop_openedIs (L : List Block) (blocks : List Block) (to : Int) :
    ∀ k, Keeps (OpenedIs L) (closeLoop blocks to k) := by
  have hb := fun bp n => bpClose_keeps (openedIs_frame L).mods bp n
  intro k
  induction k with
  | zero => unfold closeLoop; keeps
  | succ k ih => unfold closeLoop; keeps

/-- parser.go:1005-1013 -/
def tpJp2 (parent node : Nat) (bp : BP) (state : PState) (lastBlock : Option Block) :
    M (TryOutcome × OpenResult × Option Block) := do
  appendChild parent node
  modPc fun pc => { pc with opened := pc.opened ++ [{ node := node, bp := bp }] }
  if state.hasChildren = true then pure (TryOutcome.retry node, OpenResult.newBlocksOpened, lastBlock)
  else pure (TryOutcome.done, OpenResult.newBlocksOpened, lastBlock)

/-- parser.go:997-1004 -/
def tpJp1 (parent node : Nat) (bp : BP) (state : PState) (lastBlock : Option Block) (blankLine : Bool)
    (last : Option Nat) : M (TryOutcome × OpenResult × Option Block) := do
  modNode node fun n => { n with blankPrev := blankLine }
  match last with
  | some l => do
    let ln ← getNode l
    if ln.parent.isNone = true then do
      let pc ← getPc
      closeBlocks ((pc.opened.length : Int) - 1) ((pc.opened.length : Int) - 1)
      tpJp2 parent node bp state lastBlock
    else tpJp2 parent node bp state lastBlock
  | none => tpJp2 parent node bp state lastBlock

/-- parser.go:985-996 after `lastBlock.Parser.Close` -/
def tpJp3 (parent node : Nat) (bp : BP) (state : PState) (lastBlock : Option Block) (blankLine : Bool)
    (last : Option Nat) (lb : Block) (blocks : List Block) : M (TryOutcome × OpenResult × Option Block) := do
  modPc fun pc => { pc with opened := blocks.dropLast }
  let ln ← getNode lb.node
  if (ln.kind != Kind.paragraph) = true then do
    let _ ← (throw Panic.assert : M Unit)
    tpJp1 parent node bp state lastBlock blankLine last
  else tpJp1 parent node bp state lastBlock blankLine last

/-- parser.go:981-1013: a parser answered a node -/
def tpSome (parent node : Nat) (bp : BP) (state : PState) (lastBlock : Option Block) (blankLine : Bool)
    (last : Option Nat) : M (TryOutcome × OpenResult × Option Block) :=
  if state.requirePara = true then do
    let pn ← getNode parent
    if (last == pn.children.getLast?) = true then
      match lastBlock with
      | none => do
        let _ ← (throw Panic.nil : M Unit)
        tpJp1 parent node bp state lastBlock blankLine last
      | some lb => do
        bpClose lb.bp lb.node
        let pc ← getPc
        if (pc.opened.length == 0) = true then do
          let _ ← (throw Panic.slice : M Unit)
          tpJp3 parent node bp state lastBlock blankLine last lb pc.opened
        else tpJp3 parent node bp state lastBlock blankLine last lb pc.opened
    else tpJp1 parent node bp state lastBlock blankLine last
  else tpJp1 parent node bp state lastBlock blankLine last

theorem tryParsers_cons (parent : Nat) (blankLine continuable : Bool) (w : Int) (bp : BP) (bps : List BP)
    (result : OpenResult) (lastBlock : Option Block) :
    tryParsers parent blankLine continuable w (bp :: bps) result lastBlock =
      (if (continuable && result == OpenResult.noBlocksOpened && !bp.canInterruptParagraph) = true then
        tryParsers parent blankLine continuable w bps result lastBlock
      else if (decide (w > 3) && !bp.canAcceptIndentedLine) = true then
        tryParsers parent blankLine continuable w bps result lastBlock
      else do
        let lastBlock ← lastOpenedBlock
        let x ← bpOpen bp parent
        match x.1 with
        | none => tryParsers parent blankLine continuable w bps result lastBlock
        | some node => tpSome parent node bp x.2 lastBlock blankLine (lastBlock.map (·.node))) := by
  rw [tryParsers]
  rfl

/-- parser.go:960-1014 + the contract monitor -/
def oblTry (blankLine continuable : Bool) (fuel parent : Nat) (w : Int) (result : OpenResult)
    (lastBlock : Option Block) (bps : List BP) : M OpenResult := do
  let s0 ← get
  let x ← tryParsers parent blankLine continuable w bps result lastBlock
  match x.1 with
  | .retry parent' => do
    let s1 ← get
    if (!decide (retryMeasure s1 < retryMeasure s0)) = true then do
      let _ ← (throw Panic.pre : M Unit)
      openBlocksLoop blankLine continuable fuel parent' x.2.1 x.2.2
    else openBlocksLoop blankLine continuable fuel parent' x.2.1 x.2.2
  | .done => toContinuable continuable x.2.1 x.2.2

theorem openBlocksLoop_succ (blankLine continuable : Bool) (fuel parent : Nat) (result : OpenResult)
    (lastBlock : Option Block) :
    openBlocksLoop blankLine continuable (fuel + 1) parent result lastBlock = (do
      let lp ← peekLine
      let lo ← lineOffset
      modPc fun pc =>
        if (indentWidthI (lp.1.getD []) lo).2 ≥ ((lp.1.getD []).length : Int) then { pc with blockOffset := -1, blockIndent := -1 }
        else { pc with blockOffset := (indentWidthI (lp.1.getD []) lo).2, blockIndent := (indentWidthI (lp.1.getD []) lo).1 }
      if lp.1.isNone = true then toContinuable continuable result lastBlock
      else do
        let c0 ← liftE (idx (lp.1.getD []) 0)
        if (c0 == 10) = true then toContinuable continuable result lastBlock
        else if (indentWidthI (lp.1.getD []) lo).2 < ((lp.1.getD []).length : Int) then do
          let c ← liftE (idx (lp.1.getD []) (indentWidthI (lp.1.getD []) lo).2)
          oblTry blankLine continuable fuel parent (indentWidthI (lp.1.getD []) lo).1 result lastBlock
            ((triggered c).getD freeParsers)
        else oblTry blankLine continuable fuel parent (indentWidthI (lp.1.getD []) lo).1 result lastBlock freeParsers) := by
  rw [openBlocksLoop]
  rfl

theorem sub_mem' {src : Bytes} {a e : Nat} {c : UInt8} (h : c ∈ sub src a e) : c ∈ src := by
  unfold sub at h
  exact List.mem_of_mem_drop (List.mem_of_mem_take h)

theorem view_byte {b : Bytes} {c : RCur} {l : Bytes} {x : UInt8} (hv : RCur.view b c = some l) (hx : x ∈ l) : x ∈ b ∨ x = 32 := by
  by_cases hp : c.p < b.length
  · rw [view_eq b c hp] at hv
    cases hv
    rcases List.mem_append.mp hx with h1 | h1
    · right; simp [spaces] at h1; exact h1.2
    · left; exact sub_mem' h1
  · rw [view_none b c hp] at hv; cases hv

theorem idx_mem {l : Bytes} {i : Int} {x : UInt8} (h : idx l i = .ok x) : x ∈ l := by
  unfold idx getByte at h
  split at h
  · cases h
  · cases hg : l[i.toNat]? with
    | none => rw [hg] at h; cases h
    | some y => rw [hg] at h; cases h; exact List.mem_of_getElem? hg

/-- parser.go:1107-1121: `thisParent` is known -/
def llOpen (openedBlocks : List Block) (lastIndex i : Int) (blank : Bool) (blankLines : List LineStat)
    (thisParent : Nat) : M (LineOutcome × List LineStat) := do
  let lastNode ← liftE (blockAt openedBlocks lastIndex)
  let result ← openBlocks thisParent blank
  if (result != OpenResult.paragraphContinuation) = true then do
    let pc ← getPc
    let _ ← closeBlocks
      (if ((slotAfter openedBlocks pc.opened lastIndex.toNat).map (fun x => x.node) != some lastNode.node) = true
        then lastIndex - 1 else lastIndex) i
    pure (LineOutcome.next, blankLines)
  else pure (LineOutcome.next, blankLines)

/-- parser.go:1100-1121: the block did not continue (or is a paragraph) -/
def llFall (parent : Nat) (openedBlocks : List Block) (lastIndex i lineNum : Int) (blankLines : List LineStat) :
    M (LineOutcome × List LineStat) :=
  if (i != 0) = true then do
    let b ← liftE (blockAt openedBlocks (i - 1))
    llOpen openedBlocks lastIndex i (isBlankLine (lineNum - 1) i blankLines) blankLines b.node
  else llOpen openedBlocks lastIndex i (isBlankLine (lineNum - 1) i blankLines) blankLines parent

/-- parser.go:1090-1121: a line is there, its statistics entry is recorded -/
def llBody (parent : Nat) (openedBlocks : List Block) (lastIndex : Int) (bp : BP) (node : Nat) (rest : List Block)
    (i lineNum : Int) (blankLines : List LineStat) : M (LineOutcome × List LineStat) := do
  let beNode ← getNode node
  if (beNode.kind != Kind.paragraph) = true then do
    let state ← bpContinue bp node
    if state.cont = true then
      if (state.hasChildren && i == lastIndex) = true then do
        let _ ← openBlocks node (isBlankLine (lineNum - 1) i blankLines)
        pure (LineOutcome.next, blankLines)
      else lineLoop parent openedBlocks lastIndex rest (i + 1) blankLines
    else llFall parent openedBlocks lastIndex i lineNum blankLines
  else llFall parent openedBlocks lastIndex i lineNum blankLines

theorem ll_lineLoop_cons (parent : Nat) (openedBlocks : List Block) (lastIndex : Int) (be : Block) (rest : List Block)
    (i : Int) (bl : List LineStat) :
    lineLoop parent openedBlocks lastIndex (be :: rest) i bl = (do
      let x ← peekLine
      match x.1 with
      | none => do
        closeBlocks lastIndex 0
        advanceLine
        pure (LineOutcome.eof, bl)
      | some line => do
        let y ← position
        llBody parent openedBlocks lastIndex be.bp be.node rest i y.1
          (bl ++ [{ lineNum := y.1, level := i, isBlank := isBlank line }])) := by
  rw [lineLoop]
  rfl

theorem ll_advanceLine_line (s s' : St) (a : Unit) (e : advanceLine s = .ok (a, s')) :
    s.r.line ≤ s'.r.line ∧ s'.pc = s.pc := by
  unfold GM.Blocks.advanceLine at e
  cases e
  refine ⟨?_, rfl⟩
  show s.r.line ≤ s.r.advanceLine.line
  unfold Reader.advanceLine
  simp only
  split
  · exact Int.le_refl _
  · show s.r.line ≤ s.r.line + 1
    omega

end GM.Blocks.Sh
