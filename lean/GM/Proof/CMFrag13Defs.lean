/-
  GM.Proof.CMFrag13Defs — stage 13 (the union of the stages): the blocks of stage 6 / 7 whose text lines are rich lines
  (text, code spans, `*emphasis*`, `**strong**`) and whose paragraph lines may end with a backslash hard break.
  (Definitions only.)
-/
import GM.Proof.CMFrag11Defs
import GM.Proof.CMFragGen

namespace GM.Proof.CMFrag
open GM GM.Text

/-- a paragraph line: its atoms, and whether a backslash (hard line break) follows -/
structure ULine where
  atoms : List EAtom
  hard : Bool
deriving Repr, Inhabited

def ulineSrc (x : ULine) : Bytes := elineSrc x.atoms ++ (if x.hard then [92] else [])

/-- every line rich; the last line of a paragraph is not hard -/
def ULinesOK (ls : List ULine) : Prop :=
  (∀ x ∈ ls, ERichLine x.atoms) ∧ (∀ x, ls.getLast? = some x → x.hard = false)

/-- the nodes of one line; `soft` / `hard` are the flags of the line's LAST text node -/
def uatomNodes (soft hard : Bool) : List EAtom → List GM.Node
  | [] => []
  | [.txt bs] => [.mk (.text bs soft hard false false) none []]
  | .txt bs :: rest => .mk (.text bs false false false false) none [] :: uatomNodes soft hard rest
  | .code bs :: rest => .mk .codeSpan none [.mk (.text bs false false true false) none []] :: uatomNodes soft hard rest
  | .em bs :: rest => .mk (.emphasis 1) none [.mk (.text bs false false false false) none []] :: uatomNodes soft hard rest
  | .strong bs :: rest =>
    .mk (.emphasis 2) none [.mk (.text bs false false false false) none []] :: uatomNodes soft hard rest

/-- the children of a paragraph as the renderer reads them: a hard line's last text has `soft = false, hard = true`,
    another line that is not the last `soft = true`, the last line neither -/
def uNodes : List ULine → List GM.Node
  | [] => []
  | [x] => uatomNodes false false x.atoms
  | x :: y :: rest => uatomNodes (!x.hard) x.hard x.atoms ++ uNodes (y :: rest)

/-- the HTML between `<p>` and `</p>` -/
def uHtml : List ULine → Bytes
  | [] => []
  | [x] => erichLineHtml x.atoms
  | x :: y :: rest => erichLineHtml x.atoms ++ (if x.hard then strBytes "<br />\n" else [10]) ++ uHtml (y :: rest)

/-- a block of the union fragment -/
inductive UBlock where
  | para (ls : List ULine)
  | atx (level : Nat) (l : List EAtom)
  | hr (h : Bytes)
  | fence (fc : UInt8) (n : Nat) (info : Bytes) (ls : List Bytes)
  | icode (ls : List Bytes)

/-- the block as byte lines (what the block phase sees) -/
def uraw : UBlock → Raw5
  | .para ls => .old (.para (ls.map ulineSrc))
  | .atx level l => .old (.atx level (elineSrc l))
  | .hr h => .old (.hr h)
  | .fence fc n info ls => .fence fc n info ls
  | .icode ls => .icode ls

/-- the block as the renderer reads it -/
def uNode : UBlock → GM.Node
  | .para ls => .mk .paragraph none (uNodes ls)
  | .atx level l => .mk (.heading level) none (uatomNodes false false l)
  | .hr h => rawNode5 (.old (.hr h))
  | .fence fc n info ls => rawNode5 (.fence fc n info ls)
  | .icode ls => rawNode5 (.icode ls)

/-- the HTML of one block -/
def uBlockHtml : UBlock → Bytes
  | .para ls => strBytes "<p>" ++ uHtml ls ++ strBytes "</p>\n"
  | .atx level l =>
    strBytes "<h" ++ [UInt8.ofNat (48 + level)] ++ [62] ++ erichLineHtml l ++ strBytes "</h" ++
      [UInt8.ofNat (48 + level)] ++ strBytes ">\n"
  | .hr h => rawHtml5 (.old (.hr h))
  | .fence fc n info ls => rawHtml5 (.fence fc n info ls)
  | .icode ls => rawHtml5 (.icode ls)

def uDocHtml (bs : List UBlock) : Bytes := bs.flatMap uBlockHtml

/-- what the three phases need of a block -/
def UGood : UBlock → Prop
  | .para ls => ls ≠ [] ∧ ULinesOK ls
  | .atx level l => 1 ≤ level ∧ level ≤ 6 ∧ ERichLine l ∧ ∀ c, (elineSrc l).getLast? = some c → c ≠ 35
  | .hr h => Good5' (.old (.hr h))
  | .fence fc n info ls => Good5' (.fence fc n info ls)
  | .icode ls => Good5' (.icode ls)

/-- the block is an indented code block -/
def UBlock.isIc : UBlock → Bool
  | .icode _ => true
  | _ => false

end GM.Proof.CMFrag
