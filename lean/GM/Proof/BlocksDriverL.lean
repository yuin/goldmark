/-
  GM.Proof.BlocksDriverL — the plain driver's no-panic walk for ALL ten default block parsers:
  tryParsers … the end of an iteration of the line loop (`lineTailL`) at the list-aware invariant `StableL`, over what GM.Proof.BlocksDriverLInv
  provides (the pass over the opened blocks itself, `lineLoopL`, is an instance of the rule of GM.Proof.BlocksLineRule and stands there), with
  the cross-parser facts goldmark's list parsers rely on (after listParser.Open the same line opens a ListItem; after
  listParser.Continue + listItemParser.Continue = Close the line opens the next ListItem; listItemParser.Continue is
  only reached when listParser.Continue has excluded `IndentPosition = -1`).
-/
import GM.Proof.BlocksDriverLInv

namespace GM.Blocks.L
open GM GM.Text GM.Spec GM.Proof.Reader GM.Blocks

section tp
variable {src : Bytes} (lsp : LSp src)
include lsp

/-- one parser attempt of `tryParsers` (parser.go:961-1013); `hK` handles "the parser declined" -/
theorem tryStepL {old pre : List Block} {root : Nat} {s0 sb : St} (cl : Call old pre) (parent : Nat) (blank cont : Bool) (w : Int)
    (bp : BP) (bps : List BP) (result : OpenResult) (lastBlock : Option Block) (s : St) (c : RCur) (new : List Block)
    (hc : LineCtx src s c) (hw : WinL src old pre root s0 s new) (hallc : ∀ b ∈ new, b.bp.isContainer = true)
    (hq : parent = lastNode root (pre ++ new))
    (hres : (result = .noBlocksOpened ∧ new = [] ∧ lastBlock = old.getLast?) ∨ (result = .newBlocksOpened ∧ new ≠ []))
    (hs1 : ¬ (cont && result == OpenResult.noBlocksOpened && !bp.canInterruptParagraph) = true)
    (hs2 : ¬ (decide (w > 3) && !bp.canAcceptIndentedLine) = true)
    (hP1 : ∀ a s1, OpenPostW src bp parent s c a s1 → a.1.isSome = true → (nd s parent).kind = .list → bp = .listItem)
    (hdue : ∀ a s1, OpenPostW src bp parent s c a s1 → a.1.isSome = true → bp = .list → DueFacts src sb c)
    (hK : ∀ st s1, OpenPostW src bp parent s c (none, st) s1 →
      OKL (TPPostL src old pre root s0 sb c) (tryParsers parent blank cont w bps result s.pc.opened.getLast? s1)) :
    OKL (TPPostL src old pre root s0 sb c) (tryParsers parent blank cont w (bp :: bps) result lastBlock s) := by
  unfold tryParsers
  simp only []
  rw [if_neg hs1, if_neg hs2]
  refine OKL.bind (m := lastOpenedBlock) (P := fun lb s1 => lb = s.pc.opened.getLast? ∧ s1 = s) (OKL.ok ⟨rfl, rfl⟩)
    (fun lb0 sx hlb => ?_)
  obtain ⟨hlb0, hsx⟩ := hlb
  subst sx
  refine OKL.bind (openAllW lsp bp parent s c hc hw.ls.kids) (fun x s1 hO => ?_)
  obtain ⟨nodeopt, st⟩ := x
  cases nodeopt with
  | none =>
    simp only []
    rw [hlb0]
    exact hK st s1 hO
  | some id =>
    simp only []
    obtain ⟨hm1, hid, hop1, hnd1, hlen1, hreq⟩ := open_someL hO hw hallc
    obtain ⟨c', hri, hpad, hle, _, hprog⟩ := hO.ri
    have hkids : st.hasChildren = true → bp.isContainer = true := fun h => (hO.kids h).1
    have hparlt : parent < s.nodes.length := by
      rcases lastNode_mem root (pre ++ new) with e | ⟨b, hb, e⟩
      · rw [hq, e]; exact hw.ls.rootLt
      · rw [hq, e]
        obtain ⟨suf, es⟩ := hw.stack
        refine (hw.blocks b ?_).lt
        rw [es]
        rcases List.mem_append.1 hb with h | h
        · exact List.mem_append_left _ (List.mem_append_left _ h)
        · exact List.mem_append_right _ h
    have hP1s : (nd s parent).kind = .list → bp = .listItem := hP1 _ _ hO rfl
    have hP1s' : bp = .listItem → (nd s parent).kind = .list := fun hb => (hO.itemFacts hb).1 rfl
    have hlistHC : bp = .list → st.hasChildren = true := fun hb => (hO.listFacts hb rfl).1
    have hdue' : bp = .list → DueFacts src sb c := hdue _ _ hO rfl
    have hprog' : st.hasChildren = true → (c.p < c'.p ∧ bp ≠ .list) ∨ (c' = c ∧ bp = .list) := fun h => by
      rcases hprog h with h' | ⟨h1, h2⟩
      · exact .inl h'
      · exact .inr ⟨h2, h1⟩
    -- the tail: AppendChild, push
    have tail : ∀ (sX : St) (newX : List Block), MidL src old pre root s0 id bp sX newX → sX.r = s1.r →
        (∀ b ∈ newX, s0.nodes.length ≤ b.node) → (∀ b ∈ newX, b.bp.isContainer = true) →
        parent = lastNode root (pre ++ newX) → (nd sX parent).kind = (nd s parent).kind →
        OKL (TPPostL src old pre root s0 sb c)
          ((do
            appendChild parent id
            modPc fun pc => { pc with opened := pc.opened ++ [{ node := id, bp := bp }] }
            if st.hasChildren then return (TryOutcome.retry id, OpenResult.newBlocksOpened, lb0)
            return (TryOutcome.done, OpenResult.newBlocksOpened, lb0) : M _) sX) := by
      intro sX newX hmX hrX hfX haX hqX hkX
      exact tryTailL_okl parent id bp st lb0 sX newX hmX hqX hw.oldlt hw.leafyOld hfX haX (by rw [hrX]; exact hri) hpad hle
        hprog' hkids (fun h => hP1s (by rw [← hkX]; exact h)) (fun h => by rw [hkX]; exact hP1s' h) hlistHC hdue'
    -- the middle: blank flag, the `last.Parent() == nil` test; `K` = the tail
    have mid : ∀ (K : M (TryOutcome × OpenResult × Option Block)),
        (∀ (sX : St) (newX : List Block), MidL src old pre root s0 id bp sX newX → sX.r = s1.r →
          (∀ b ∈ newX, s0.nodes.length ≤ b.node) → (∀ b ∈ newX, b.bp.isContainer = true) →
          parent = lastNode root (pre ++ newX) → (nd sX parent).kind = (nd s parent).kind →
          OKL (TPPostL src old pre root s0 sb c) (K sX)) →
        ∀ (sX : St), MidL src old pre root s0 id bp sX new → sX.r = s1.r → (nd sX parent).kind = (nd s parent).kind →
        (∀ lb, lb0 = some lb → (nd sX lb.node).parent.isSome = true ∨
            (new = [] ∧ sX.pc.opened = old ∧ old.getLast? = some lb)) →
        OKL (TPPostL src old pre root s0 sb c)
          ((modNode id (fun n => { n with blankPrev := blank }) >>= fun _ =>
            match Option.map (fun x => x.node) lb0 with
            | some l => getNode l >>= fun n =>
                if n.parent.isNone = true then
                  getPc >>= fun pc =>
                    closeBlocks ((pc.opened.length : Int) - 1) ((pc.opened.length : Int) - 1) >>= fun _ => K
                else K
            | none => K) sX) := by
      intro K hK sX hmX hrX hkX hcase
      have hfr : FrameEq sX (upd sX id fun n => { n with blankPrev := blank }) :=
        upd_frame sX id (f := fun n => { n with blankPrev := blank }) (fun n => ⟨rfl, rfl, rfl⟩)
      have hts : TreeSame sX (upd sX id fun n => { n with blankPrev := blank }) :=
        upd_treeSame sX id (f := fun n => { n with blankPrev := blank }) (fun n => ⟨rfl, rfl, rfl, rfl⟩)
      have hm3 := hmX.same hfr.ext (hfr.nodesOK hmX.nodes) hts (by rw [hfr.pc]) (by rw [hfr.pc]) (by rw [hfr.pc])
      have hpar3 : ∀ j, (nd (upd sX id fun n => { n with blankPrev := blank }) j).parent = (nd sX j).parent :=
        fun j => (hts.same j).2.1
      have hk3 : (nd (upd sX id fun n => { n with blankPrev := blank }) parent).kind = (nd s parent).kind := by
        rw [(hts.same parent).1]; exact hkX
      refine OKL.bind (m := modNode id fun n => { n with blankPrev := blank })
        (P := fun _ s3 => s3 = upd sX id fun n => { n with blankPrev := blank }) (OKL.ok rfl) (fun _ s3 h3 => ?_)
      subst h3
      cases hl : lb0 with
      | none => exact hK _ new hm3 (by rw [hfr.r, hrX]) hw.fresh hallc hq hk3
      | some lb =>
        simp only [Option.map]
        refine OKL.bind (m := getNode lb.node)
          (P := fun n s4 => n = nd (upd sX id fun n => { n with blankPrev := blank }) lb.node ∧
            s4 = upd sX id fun n => { n with blankPrev := blank }) (OKL.ok ⟨rfl, rfl⟩) (fun n s4 h4 => ?_)
        obtain ⟨h4n, h4s⟩ := h4
        subst h4n h4s
        by_cases hnn : (nd (upd sX id fun n => { n with blankPrev := blank }) lb.node).parent.isNone = true
        · rw [if_pos hnn]
          rcases hcase lb hl with hsome | ⟨hnew, hopX, hlast⟩
          · exfalso
            rw [hpar3] at hnn
            cases hh : (nd sX lb.node).parent with
            | none => rw [hh] at hsome; cases hsome
            | some _ => rw [hh] at hnn; cases hnn
          · refine OKL.bind (m := getPc)
              (P := fun pc s5 => pc = (upd sX id fun n => { n with blankPrev := blank }).pc ∧
                s5 = upd sX id fun n => { n with blankPrev := blank }) (OKL.ok ⟨rfl, rfl⟩) (fun pc s5 h5 => ?_)
            obtain ⟨h5p, h5s⟩ := h5
            subst h5p h5s
            have hop3 : (upd sX id fun n => { n with blankPrev := blank }).pc.opened = old.dropLast ++ [lb] := by
              rw [hfr.pc, hopX]; exact eq_dropLast_append_of_getLast? old lb hlast
            have hp3 : (nd (upd sX id fun n => { n with blankPrev := blank }) lb.node).parent.isSome = false := by
              cases hh : (nd (upd sX id fun n => { n with blankPrev := blank }) lb.node).parent with
              | none => rfl
              | some _ => rw [hh] at hnn; cases hnn
            subst hnew
            have hne : old ≠ [] := by intro h; rw [h] at hlast; cases hlast
            -- the popped block is not a container (it has no parent), so it is not the last block of `pre`
            have hsufne : ∃ suf, old = pre ++ suf ∧ suf ≠ [] := by
              obtain ⟨suf0, e0, h0⟩ := cl.pref
              refine ⟨suf0, e0, fun hs => ?_⟩
              have hcont := h0 hs lb hlast
              have hmem : lb ∈ sX.pc.opened := by rw [hopX]; exact List.mem_of_getLast? hlast
              have := hmX.ls.attached lb hmem hcont
              rw [← hpar3] at this
              rw [this] at hp3; cases hp3
            have hm4 := hm3.pop (by rw [hfr.pc, hopX]) hne hsufne
            refine OKL.bind (P := fun _ s6 => s6 = { (upd sX id fun n => { n with blankPrev := blank }) with
                pc := { (upd sX id fun n => { n with blankPrev := blank }).pc with opened := old.dropLast } })
              (by rw [closeBlocks_last_skip old.dropLast lb _ hop3 hp3]; exact OKL.ok rfl) (fun _ s6 h6 => ?_)
            subst h6
            exact hK _ [] hm4 (by simp only; rw [hfr.r, hrX]) (fun _ h => by cases h) (fun _ h => by cases h) hq hk3
        · rw [if_neg hnn]
          exact hK _ new hm3 (by rw [hfr.r, hrX]) hw.fresh hallc hq hk3
    -- the `last` of the non-RequireParagraph path
    have hcase1 : ∀ lb, lb0 = some lb → (nd s1 lb.node).parent.isSome = true ∨
        (new = [] ∧ s1.pc.opened = old ∧ old.getLast? = some lb) := by
      intro lb hl
      by_cases hnew : new = []
      · right
        have hop : s.pc.opened = old := by
          rcases hw.shape with h | ⟨_, h, _⟩
          · rw [h, hnew, List.append_nil]
          · exact absurd hnew h
        exact ⟨hnew, by rw [hop1, hop], by rw [← hop, ← hlb0, hl]⟩
      · left
        have hlast : new.getLast? = some lb := by
          have : s.pc.opened.getLast? = new.getLast? := by
            cases hne : new.getLast? with
            | none => exact absurd (List.getLast?_eq_none_iff.1 hne) hnew
            | some x => rcases hw.shape with h | ⟨_, _, h⟩ <;> rw [h, List.getLast?_append, hne] <;> rfl
          rw [← this, ← hlb0, hl]
        have hmem : lb ∈ s.pc.opened := by
          rcases hw.shape with h | ⟨_, _, h⟩ <;> rw [h] <;> exact List.mem_append_right _ (List.mem_of_getLast? hlast)
        rw [hnd1 _ (hw.blocks lb hmem).lt]
        exact hw.ls.attached lb hmem (hallc lb (List.mem_of_getLast? hlast))
    have hk1 : (nd s1 parent).kind = (nd s parent).kind := by rw [hnd1 _ hparlt]
    by_cases hrq : st.requirePara = true
    · rw [if_pos hrq]
      obtain ⟨lb, hlb1, hlbpar, hlbbp, hnew, hopold⟩ := hreq hrq
      have hl : lb0 = some lb := by rw [hlb0, hlb1]
      have hmem : lb ∈ s.pc.opened := List.mem_of_getLast? hlb1
      have hlblt := (hw.blocks lb hmem).lt
      have hpar1' : (nd s1 lb.node).parent = some parent := by rw [hnd1 _ hlblt]; exact hlbpar
      refine OKL.bind (m := getNode parent) (P := fun pn sy => pn = nd s1 parent ∧ sy = s1) (OKL.ok ⟨rfl, rfl⟩)
        (fun pn sy hy => ?_)
      obtain ⟨hpn, hsy⟩ := hy
      subst pn sy
      by_cases heq : (Option.map (fun x => x.node) lb0 == (nd s1 parent).children.getLast?) = true
      · rw [if_pos heq]
        subst hl
        simp only []
        -- lastBlock.Parser.Close (a paragraph)
        have hmem1 : lb ∈ s1.pc.opened := by rw [hop1]; exact hmem
        have hcl := closeAll src lb.bp lb.node s1 hri.source hm1.nodes hm1.keys (hm1.blocks lb hmem1)
        have hcl' : OKL (fun (_ : Unit) s2 => ClosePost src lb.bp lb.node s1 s2 ∧ TreeSame s1 s2) (bpClose lb.bp lb.node s1) := by
          rcases hcl with ⟨a, s2, e2, h2⟩ | e2
          · refine .inl ⟨a, s2, e2, h2, ?_⟩
            obtain ⟨lnode, lbp⟩ := lb
            simp only at hlbbp
            subst hlbbp
            exact lsp.paraCloseTS lnode s1 s2 (hm1.blocks _ hmem1) hm1.nodes e2
          · exact .inr e2
        refine OKL.bind hcl' (fun _ s2 h2 => ?_)
        obtain ⟨h2, hts2⟩ := h2
        have htmp2 : s2.pc.tmpPara = s1.pc.tmpPara := by
          rcases h2.tmp with h | ⟨h, _⟩
          · exact h
          · rw [hlbbp] at h; cases h
        have hfen2 : s2.pc.fence = s1.pc.fence := by
          rcases h2.fence with h | ⟨h, _⟩
          · exact h
          · rw [hlbbp] at h; cases h
        have hm2 : MidL src old pre root s0 id bp s2 new := hm1.same h2.ext h2.nodes hts2 h2.opened htmp2 hfen2
        have hop2 : s2.pc.opened = old := by rw [h2.opened, hop1, hopold]
        have hne : old ≠ [] := by rw [← hopold]; intro h; rw [h] at hmem; cases hmem
        refine OKL.bind (m := getPc) (P := fun pc sy => pc = s2.pc ∧ sy = s2) (OKL.ok ⟨rfl, rfl⟩) (fun pc sy hy => ?_)
        obtain ⟨hpc, hsy⟩ := hy
        subst pc sy
        have hlen2 : (s2.pc.opened.length == 0) = false := by
          rw [hop2]; cases old with
          | nil => exact absurd rfl hne
          | cons _ _ => rfl
        rw [if_neg (by rw [hlen2]; simp)]
        refine OKL.bind (m := modPc _) (P := fun _ sy => sy = { s2 with pc := { s2.pc with opened := old.dropLast } })
          (OKL.ok (by rw [hop2])) (fun _ sy hy => ?_)
        subst hy
        refine OKL.bind (m := getNode lb.node)
          (P := fun n sy => n = nd s2 lb.node ∧ sy = { s2 with pc := { s2.pc with opened := old.dropLast } })
          (OKL.ok ⟨rfl, rfl⟩) (fun n sy hy => ?_)
        obtain ⟨hn, hsy⟩ := hy
        subst n sy
        have hkind2 : (nd s2 lb.node).kind = Kind.paragraph := by
          have h1 := (hm2.blocks lb (by rw [hop2, ← hopold]; exact hmem)).kind
          rw [h1, hlbbp]; rfl
        rw [if_neg (by rw [hkind2]; simp)]
        subst hnew
        have hsufne : ∃ suf, old = pre ++ suf ∧ suf ≠ [] := by
          obtain ⟨suf0, e0, h0⟩ := cl.pref
          refine ⟨suf0, e0, fun hs => ?_⟩
          have hcont := h0 hs lb (by rw [← hopold]; exact hlb1)
          rw [hlbbp] at hcont; cases hcont
        have hm2' := (show MidL src old pre root s0 id bp s2 [] from hm2).pop hop2 hne hsufne
        refine mid _ tail _ hm2' (by simp only; rw [h2.r]) (by
          show (nd s2 parent).kind = (nd s parent).kind
          rw [(hts2.same parent).1]; exact hk1) (fun lb' hl' => ?_)
        cases hl'
        left
        have := h2.para hlbbp
        simp only [nd] at this hpar1' ⊢
        rw [this, hpar1']; rfl
      · rw [if_neg heq]
        refine mid _ tail s1 hm1 rfl hk1 (fun lb' hl' => ?_)
        rw [hl] at hl'; cases hl'
        left; rw [hpar1']; rfl
    · rw [if_neg hrq]
      exact mid _ tail s1 hm1 rfl hk1 hcase1

omit lsp in
theorem append_cons_unique {α} [DecidableEq α] (a : α) : ∀ (l1 l2 r1 r2 : List α), l1 ++ a :: r1 = l2 ++ a :: r2 →
    a ∉ l1 → a ∉ l2 → l1 = l2 := by
  intro l1
  induction l1 with
  | nil =>
    intro l2 r1 r2 h _ h2
    cases l2 with
    | nil => rfl
    | cons x xs => simp at h; exact absurd (by simp [h.1]) h2
  | cons x xs ih =>
    intro l2 r1 r2 h h1 h2
    cases l2 with
    | nil => simp at h; exact absurd (by simp [h.1]) h1
    | cons y ys =>
      simp only [List.cons_append, List.cons.injEq] at h
      rw [h.1, ih ys r1 r2 h.2 (fun hh => h1 (List.mem_cons_of_mem _ hh)) (fun hh => h2 (List.mem_cons_of_mem _ hh))]

/-- the thematic-break test of the current line -/
abbrev TH (src : Bytes) (c : RCur) : Prop := isThematicBreak (lineOf src c) (loVal src c) = false

omit lsp in
theorem lastIsList_congr {s s' : St} (hn : s'.nodes = s.nodes) (ho : s'.pc.opened = s.pc.opened) :
    lastIsList s' = lastIsList s := by unfold lastIsList; rw [hn, ho]

/-- `tryParsers` under a parent that is not a List; `bpsAll` = the whole parser list of
    this line, `tried` = the parsers already passed -/
theorem tryParsersL {old pre : List Block} {root : Nat} {s0 sb : St} (cl : Call old pre) (parent : Nat) (blank cont : Bool)
    (w : Int) (c : RCur) (bpsAll : List BP)
    (hstruct : BP.list ∈ bpsAll → ∃ pre0, bpsAll = pre0 ++ [BP.list, BP.listItem] ++ freeParsers ∧
      ∀ q ∈ pre0, q = BP.setext ∨ q = BP.thematic)
    (htrig : ∀ (ch : UInt8) (l : List BP),
      (lineOf src c)[(indentWidthI (lineOf src c) (loVal src c)).2.toNat]? = some ch → triggered ch = some l → BP.list ∈ bpsAll →
      l = bpsAll) :
    ∀ (bps tried : List BP), tried ++ bps = bpsAll → ∀ (result : OpenResult) (lastBlock : Option Block) (s : St)
      (new : List Block), LineCtx src s c → WinL src old pre root s0 s new → (∀ b ∈ new, b.bp.isContainer = true) →
      parent = lastNode root (pre ++ new) →
      ((result = .noBlocksOpened ∧ new = [] ∧ lastBlock = old.getLast?) ∨ (result = .newBlocksOpened ∧ new ≠ [])) →
      (nd s parent).kind ≠ .list → s.nodes = sb.nodes → s.pc.opened = sb.pc.opened →
      (BP.thematic ∈ tried → w > 3 ∨ TH src c) →
      OKL (TPPostL src old pre root s0 sb c) (tryParsers parent blank cont w bps result lastBlock s) := by
  intro bps
  induction bps with
  | nil =>
    intro tried _ result lastBlock s new hc hw hallc hq hres hpk _ _ _
    unfold tryParsers
    exact OKL.ok ⟨c, new, hc.ri, hc.pad, Nat.le_refl _, hw, hres, fun k hk b _ => Compat.of_container_left (hallc k hk),
      leafy_of_all hallc, by rw [← hq]; exact hpk⟩
  | cons bp bps ih =>
    intro tried htr result lastBlock s new hc hw hallc hq hres hpk hsn hso hacc
    have ihn := ih (tried ++ [bp]) (by rw [List.append_assoc]; exact htr)
    by_cases hs1 : (cont && result == OpenResult.noBlocksOpened && !bp.canInterruptParagraph) = true
    · unfold tryParsers
      simp only []
      rw [if_pos hs1]
      refine ihn result lastBlock s new hc hw hallc hq hres hpk hsn hso (fun hth => ?_)
      rcases List.mem_append.1 hth with h | h
      · exact hacc h
      · simp only [List.mem_singleton] at h
        rw [← h] at hs1
        simp [BP.canInterruptParagraph] at hs1
    by_cases hs2 : (decide (w > 3) && !bp.canAcceptIndentedLine) = true
    · unfold tryParsers
      simp only []
      rw [if_neg hs1, if_pos hs2]
      refine ihn result lastBlock s new hc hw hallc hq hres hpk hsn hso (fun hth => ?_)
      rcases List.mem_append.1 hth with h | h
      · exact hacc h
      · left
        simp only [Bool.and_eq_true, decide_eq_true_eq] at hs2
        exact hs2.1
    refine tryStepL lsp cl parent blank cont w bp bps result lastBlock s c new hc hw hallc hq hres hs1 hs2
      (fun _ _ _ _ hk => absurd hk hpk) ?_ ?_
    · -- a list opened: what the next `goto retry` needs
      intro a s1 hO his hbl
      subst hbl
      obtain ⟨_, _, hm, hnl⟩ := hO.listFacts rfl his
      refine ⟨hm, ?_, ?_⟩
      · intro ch l pre' rest' hch htg hl hpre' hth
        have hlmem : BP.list ∈ bpsAll := by rw [← htr]; simp
        have hlb := htrig ch l hch htg hlmem
        obtain ⟨pre0, hp0, hq0⟩ := hstruct hlmem
        have hn0 : BP.list ∉ pre0 := fun hh => by rcases hq0 _ hh with h | h <;> cases h
        have hn' : BP.list ∉ pre' := fun hh => by rcases hpre' _ hh with h | h <;> cases h
        have e1 : pre' = pre0 := by
          refine append_cons_unique BP.list pre' pre0 rest' ([BP.listItem] ++ freeParsers) ?_ hn' hn0
          rw [← hl, hlb, hp0]; simp
        -- `tried` is that prefix, too
        have hnt : BP.list ∉ tried := by
          intro hh
          have hcount : (tried ++ BP.list :: bps).count BP.list = (pre0 ++ [BP.list, BP.listItem] ++ freeParsers).count BP.list := by
            rw [htr, hp0]
          rw [List.count_append, List.count_cons_self, List.count_append, List.count_append,
            List.count_eq_zero_of_not_mem hn0] at hcount
          have h1 : 0 < tried.count BP.list := List.count_pos_iff.2 hh
          have h2 : ([BP.list, BP.listItem] : List BP).count BP.list = 1 := by decide
          have h3 : freeParsers.count BP.list = 0 := by decide
          omega
        have e2 : tried = pre0 := by
          refine append_cons_unique BP.list tried pre0 bps ([BP.listItem] ++ freeParsers) ?_ hnt hn0
          rw [htr, hp0]; simp
        rw [e1, ← e2] at hth
        rcases hacc hth with h | h
        · exfalso
          apply hs2
          simp [BP.canAcceptIndentedLine, h]
        · exact h
      · unfold lastIsList
        rw [← hsn, ← hso]
        cases hl : s.pc.opened.getLast? with
        | none => rfl
        | some lb =>
          rw [hl] at hnl
          simp only at hnl ⊢
          simpa [nd] using hnl
    · -- the parser declined
      intro st s1 hO
      obtain ⟨hc1, hw1, ho1, hn1⟩ := open_noneL hO hc hw hallc
      have hlbold : result = .noBlocksOpened → s.pc.opened.getLast? = old.getLast? := by
        intro hr
        rcases hres with ⟨_, hn, _⟩ | ⟨h, _⟩
        · rcases hw.shape with h | ⟨_, h, _⟩
          · rw [h, hn, List.append_nil]
          · exact absurd hn h
        · rw [hr] at h; cases h
      refine ihn result _ s1 new hc1 hw1 hallc hq ?_ (by rw [nd_eq_of_nodes_eq hn1]; exact hpk) (by rw [hn1, hsn])
        (by rw [ho1, hso]) (fun hth => ?_)
      · rcases hres with ⟨h1, h2, _⟩ | h
        · exact .inl ⟨h1, h2, hlbold h1⟩
        · exact .inr h
      · rcases List.mem_append.1 hth with h | h
        · exact hacc h
        · simp only [List.mem_singleton] at h
          right
          have := hO.thematic h.symm
          simpa using this.symm

/-- the parent `L` is a List and this line has to open its next item -/
structure Due (src : Bytes) (s : St) (c : RCur) (L : Nat) : Prop where
  lt : c.p < src.length
  kind : (nd s L).kind = .list
  m : ∀ m typ, matchesListItem (lineOf src c) false = (m, typ) → typ ≠ .notList ∧ m.r1 - li_lastOff s L ≤ 3
  th : ∀ (ch : UInt8) (l pre rest : List BP), (lineOf src c)[(indentWidthI (lineOf src c) (loVal src c)).2.toNat]? = some ch →
    triggered ch = some l → l = pre ++ BP.list :: rest → (∀ q ∈ pre, q = .setext ∨ q = .thematic) → BP.thematic ∈ pre → TH src c
  nl : s.pc.skipList = true ∨ (∃ lb, s.pc.opened.getLast? = some lb ∧ (nd s lb.node).kind = .list)

omit lsp in
theorem Due.congr' {s s' : St} {c : RCur} {L : Nat} (h : Due src s c L) (hn : s'.nodes = s.nodes)
    (ho : s'.pc.opened = s.pc.opened) (hsk : s'.pc.skipList = s.pc.skipList) : Due src s' c L where
  lt := h.lt
  kind := by rw [nd_eq_of_nodes_eq hn]; exact h.kind
  m := fun m typ he => by
    have : li_lastOff s' L = li_lastOff s L := by unfold li_lastOff; simp only [nd_eq_of_nodes_eq hn]
    rw [this]; exact h.m m typ he
  th := h.th
  nl := by
    rcases h.nl with h' | ⟨lb, h1, h2⟩
    · exact .inl (by rw [hsk]; exact h')
    · exact .inr ⟨lb, by rw [ho]; exact h1, by rw [nd_eq_of_nodes_eq hn]; exact h2⟩

omit lsp in
theorem Due.congr {s s' : St} {c : RCur} {L : Nat} (h : Due src s c L) (hn : s'.nodes = s.nodes) (hpc : s'.pc = s.pc) :
    Due src s' c L where
  lt := h.lt
  kind := by rw [nd_eq_of_nodes_eq hn]; exact h.kind
  m := fun m typ he => by
    have : li_lastOff s' L = li_lastOff s L := by unfold li_lastOff; simp only [nd_eq_of_nodes_eq hn]
    rw [this]; exact h.m m typ he
  th := h.th
  nl := by
    rcases h.nl with h' | ⟨lb, h1, h2⟩
    · exact .inl (by rw [hpc]; exact h')
    · exact .inr ⟨lb, by rw [hpc]; exact h1, by rw [nd_eq_of_nodes_eq hn]; exact h2⟩

/-- `tryParsers` under a List parent: the parsers before `listItemParser` decline and `listItemParser` opens an item -/
theorem tryItemL {old pre : List Block} {root : Nat} {s0 sb : St} (cl : Call old pre) (parent : Nat) (blank cont : Bool)
    (w : Int) (c : RCur) (pre0 : List BP) (hpre0 : ∀ q ∈ pre0, q = BP.setext ∨ q = BP.thematic) (ch : UInt8)
    (hch : (lineOf src c)[(indentWidthI (lineOf src c) (loVal src c)).2.toNat]? = some ch)
    (htg : triggered ch = some (pre0 ++ [BP.list, BP.listItem] ++ freeParsers)) (hw3 : ¬ w > 3) :
    ∀ (todo done : List BP), done ++ todo = pre0 → ∀ (result : OpenResult) (lastBlock : Option Block) (s : St)
      (new : List Block), LineCtx src s c → WinL src old pre root s0 s new → (∀ b ∈ new, b.bp.isContainer = true) →
      parent = lastNode root (pre ++ new) →
      ((result = .noBlocksOpened ∧ new = [] ∧ lastBlock = old.getLast?) ∨ (result = .newBlocksOpened ∧ new ≠ [])) →
      Due src s c parent →
      OKL (TPPostL src old pre root s0 sb c)
        (tryParsers parent blank cont w (todo ++ [BP.list, BP.listItem] ++ freeParsers) result lastBlock s) := by
  have hns2 : ∀ bp : BP, ¬ (decide (w > 3) && !bp.canAcceptIndentedLine) = true := by
    intro bp h; simp only [Bool.and_eq_true, decide_eq_true_eq] at h; exact hw3 h.1
  have hlbold : ∀ (result : OpenResult) (s : St) (new : List Block), WinL src old pre root s0 s new →
      ((result = .noBlocksOpened ∧ new = [] ∧ True) ∨ (result = .newBlocksOpened ∧ new ≠ [])) →
      result = .noBlocksOpened → s.pc.opened.getLast? = old.getLast? := by
    intro result s new hw hres hr
    rcases hres with ⟨_, hn, _⟩ | ⟨h, _⟩
    · rcases hw.shape with h | ⟨_, h, _⟩
      · rw [h, hn, List.append_nil]
      · exact absurd hn h
    · rw [hr] at h; cases h
  have hres' : ∀ (result : OpenResult) (lastBlock : Option Block) (s : St) (new : List Block), WinL src old pre root s0 s new →
      ((result = .noBlocksOpened ∧ new = [] ∧ lastBlock = old.getLast?) ∨ (result = .newBlocksOpened ∧ new ≠ [])) →
      ((result = .noBlocksOpened ∧ new = [] ∧ s.pc.opened.getLast? = old.getLast?) ∨ (result = .newBlocksOpened ∧ new ≠ [])) := by
    intro result lastBlock s new hw hres
    rcases hres with ⟨h1, h2, h3⟩ | h
    · exact .inl ⟨h1, h2, hlbold result s new hw (.inl ⟨h1, h2, trivial⟩) h1⟩
    · exact .inr h
  intro todo
  induction todo with
  | nil =>
    intro done _ result lastBlock s new hc hw hallc hq hres hdue
    simp only [List.nil_append, List.cons_append]
    -- listParser.Open declines
    refine tryStepL lsp cl parent blank cont w .list _ result lastBlock s c new hc hw hallc hq hres
      (by simp [BP.canInterruptParagraph]) (hns2 _) ?_ ?_ ?_
    · intro a s1 hO his _
      exfalso
      obtain ⟨_, hsk, _, hnl⟩ := hO.listFacts rfl his
      rcases hdue.nl with h | ⟨lb, h1, h2⟩
      · rw [hsk] at h; cases h
      · rw [h1] at hnl; exact hnl h2
    · intro a s1 hO his _
      exfalso
      obtain ⟨_, hsk, _, hnl⟩ := hO.listFacts rfl his
      rcases hdue.nl with h | ⟨lb, h1, h2⟩
      · rw [hsk] at h; cases h
      · rw [h1] at hnl; exact hnl h2
    · intro st s1 hO
      obtain ⟨hc1, hw1, ho1, hn1⟩ := open_noneL hO hc hw hallc
      -- listItemParser.Open opens
      refine tryStepL lsp cl parent blank cont w .listItem _ result _ s1 c new hc1 hw1 hallc hq
        (by rw [← ho1]; exact hres' result lastBlock s1 new hw1 (by
          rcases hres with ⟨h1, h2, h3⟩ | h
          · exact .inl ⟨h1, h2, h3⟩
          · exact .inr h))
        (by simp [BP.canInterruptParagraph]) (hns2 _) (fun _ _ _ _ _ => rfl) (fun _ _ _ _ h => by cases h) ?_
      intro st2 s2 hO2
      exfalso
      have hk1 : (nd s1 parent).kind = .list := by rw [nd_eq_of_nodes_eq hn1]; exact hdue.kind
      have := (hO2.itemFacts rfl).2.2 hk1 (fun m typ he => by
        have : li_lastOff s1 parent = li_lastOff s parent := by unfold li_lastOff; simp only [nd_eq_of_nodes_eq hn1]
        rw [this]; exact hdue.m m typ he)
      cases this
  | cons q todo ih =>
    intro done hd result lastBlock s new hc hw hallc hq hres hdue
    have hqm : q ∈ pre0 := by rw [← hd]; simp
    have hcan : q.canInterruptParagraph = true := by rcases hpre0 q hqm with h | h <;> rw [h] <;> rfl
    have hnone : ∀ a s1, OpenPostW src q parent s c a s1 → a.1.isSome = true → False := by
      intro a s1 hO his
      rcases hpre0 q hqm with h | h
      · subst h
        rcases hO.tmp with ⟨_, _, lb, h1, h2, h3, _⟩ | ⟨h', _⟩
        · have := hw.ls.kids.pk lb.node parent h3 hdue.kind
          rw [h2] at this; cases this
        · rcases h' with h' | h'
          · exact h' rfl
          · rw [h'] at his; cases his
      · subst h
        have h1 := hO.thematic rfl
        have h2 := hdue.th ch _ pre0 ([BP.listItem] ++ freeParsers) hch htg (by simp) hpre0 hqm
        rw [h2] at h1; rw [h1] at his; cases his
    simp only [List.cons_append]
    refine tryStepL lsp cl parent blank cont w q _ result lastBlock s c new hc hw hallc hq hres
      (by simp [hcan]) (hns2 _) (fun a s1 hO his _ => (hnone a s1 hO his).elim) (fun a s1 hO his _ => (hnone a s1 hO his).elim) ?_
    intro st s1 hO
    obtain ⟨hc1, hw1, ho1, hn1⟩ := open_noneL hO hc hw hallc
    have hpc1 : s1.pc = s.pc := hO.keepPc (by rcases hpre0 q hqm with h | h; exact .inl h; exact .inr h) rfl
    have := ih (done ++ [q]) (by rw [List.append_assoc]; exact hd) result s.pc.opened.getLast? s1 new hc1 hw1 hallc hq
      (hres' result lastBlock s new hw hres) (hdue.congr hn1 hpc1)
    simpa only [List.append_assoc] using this

omit lsp in
/-- a step that keeps kinds, lines-nonemptiness and every tree link, and `opened` / the context keys (a `Continue`) -/
theorem WinL.same {old pre : List Block} {root : Nat} {s0 s s' : St} {new : List Block}
    (h : WinL src old pre root s0 s new) (e : Ext s s') (hnodes : NodesOK src s') (t : TreeSame s s')
    (ho : s'.pc.opened = s.pc.opened) (ht : s'.pc.tmpPara = s.pc.tmpPara) (hf : s'.pc.fence = s.pc.fence) :
    WinL src old pre root s0 s' new := by
  have hbok : ∀ b, BlockOK s b → BlockOK s' b := fun b hb =>
    hb.ext e (fun hp => by rw [ht]; exact (hb.setext hp).2) (fun hp => by rw [hf]; exact hb.fenced hp)
  exact ⟨hnodes, h.keys.ext e (.inl ht) (.inl hf), h.ext.trans e, by rw [ho]; exact h.shape,
    fun b hb => by rw [ho] at hb; exact hbok b (h.blocks b hb), h.oldlt, h.leafyOld, h.fresh,
    h.ls.step e t.tf (fun i p hp => by rw [(t.same i).2.1] at hp; rw [t.len]; exact h.ls.plt i p hp) ho h.blocks,
    chainedO_agree root (pre ++ new) h.chain (fun a _ => (t.same a).1) (fun b _ => (t.same b.node).2.1)
      (fun a _ => (t.same a).2.2.1), by rw [ho]; exact h.stack, fun hn => (h.tsame hn).trans t⟩

/-- what `openBlocks` hands back -/
def OBPostL (src : Bytes) (old pre : List Block) (root : Nat) (s0 : St) (c : RCur) (res : OpenResult) (s' : St) : Prop :=
  ∃ c' new', RIa src s'.r c' ∧ c.p ≤ c'.p ∧ WinL src old pre root s0 s' new' ∧ Leafy new' ∧
    (∀ k ∈ new', ∀ b ∈ old, Compat s' k b) ∧ (res = .paragraphContinuation → new' = []) ∧
    (nd s' (lastNode root (pre ++ new'))).kind ≠ .list ∧ (new' = [] → TreeSame s0 s')

theorem toContinuableL {old pre : List Block} {root : Nat} {s0 : St} (cont : Bool) (result : OpenResult)
    (lastBlock : Option Block) (s : St) (c c0 : RCur) (new : List Block) (hri : RI src s.r c) (hpad : PadOK c)
    (hle : c0.p ≤ c.p) (hw : WinL src old pre root s0 s new) (hleafy : Leafy new)
    (hcompat : ∀ k ∈ new, ∀ b ∈ old, Compat s k b)
    (hres : (result = .noBlocksOpened ∧ new = [] ∧ lastBlock = old.getLast?) ∨ (result = .newBlocksOpened ∧ new ≠ []))
    (hcont : cont = true → ∃ lb, old.getLast? = some lb ∧ lb.bp = .paragraph)
    (hend : (nd s (lastNode root (pre ++ new))).kind ≠ .list) (hplt : lastNode root (pre ++ new) < s.nodes.length) :
    OKL (OBPostL src old pre root s0 c0) (toContinuable cont result lastBlock s) := by
  unfold toContinuable
  have fin : OKL (OBPostL src old pre root s0 c0) ((pure result : M OpenResult) s) := by
    refine OKL.ok ⟨c, new, hri.toRIa, hle, hw, hleafy, hcompat, fun h => ?_, hend, hw.tsame⟩
    rcases hres with ⟨h', _⟩ | ⟨h', _⟩ <;> rw [h'] at h <;> cases h
  by_cases hc : (result == OpenResult.noBlocksOpened && cont) = true
  · rw [if_pos hc]
    simp only [Bool.and_eq_true, beq_iff_eq] at hc
    obtain ⟨hr, hct⟩ := hc
    obtain ⟨lb, hlast, hbp⟩ := hcont hct
    rcases hres with ⟨_, hnew, hlb⟩ | ⟨h', _⟩
    · subst hnew
      rw [hlb, hlast]
      simp only []
      have hop : s.pc.opened = old := by
        rcases hw.shape with h | ⟨_, h, _⟩
        · rw [h, List.append_nil]
        · exact absurd rfl h
      have hmem : lb ∈ s.pc.opened := by rw [hop]; exact List.mem_of_getLast? hlast
      obtain ⟨lnode, lbp⟩ := lb
      simp only at hbp
      subst hbp
      have hpc := paragraphContinue_spec' src lnode s c hri hpad hw.nodes hw.keys (hw.blocks _ hmem)
      have hpc' : OKL (fun st s1 => ContPost src .paragraph s c st s1 ∧ TreeSame s s1) (bpContinue .paragraph lnode s) := by
        rcases hpc with ⟨a, s1, e1, h1⟩ | e1
        · exact .inl ⟨a, s1, e1, h1, lsp.contTS .paragraph lnode s a s1 e1⟩
        · exact .inr e1
      refine OKL.bind (m := bpContinue .paragraph lnode) hpc' (fun st s1 h1 => ?_)
      obtain ⟨h1, hts⟩ := h1
      obtain ⟨c1, hria, _, hle1, _, _⟩ := h1.ria
      have hwin : WinL src old pre root s0 s1 [] :=
        hw.same h1.ext h1.nodes hts (by rw [h1.pc]) (by rw [h1.pc]) (by rw [h1.pc])
      have fin' : ∀ r : OpenResult, OKL (OBPostL src old pre root s0 c0) ((pure r : M OpenResult) s1) := fun r =>
        OKL.ok ⟨c1, [], hria, Nat.le_trans hle hle1, hwin, by intro b hb; simp at hb, by simp, fun _ => rfl,
          by rw [(hts.same _).1]; exact hend, hwin.tsame⟩
      by_cases hst : st.cont = true
      · rw [if_pos hst]; exact fin' _
      · rw [if_neg hst]; exact fin' _
    · rw [hr] at h'; cases h'
  · rw [if_neg hc]; exact fin

omit lsp in
theorem WinL.congr {old pre : List Block} {root : Nat} {s0 s s' : St} {new : List Block}
    (h : WinL src old pre root s0 s new) (hn : s'.nodes = s.nodes)
    (ho : s'.pc.opened = s.pc.opened) (ht : s'.pc.tmpPara = s.pc.tmpPara) (hf : s'.pc.fence = s.pc.fence) :
    WinL src old pre root s0 s' new :=
  h.same (Ext.of_nodes_eq hn) (fun n hm => h.nodes n (by rw [← hn]; exact hm)) (TreeSame.of_nodes_eq hn) ho ht hf

omit lsp in
theorem triggered_nl : triggered 10 = none := by decide

theorem openBlocksLoopL {old pre : List Block} {root : Nat} {s0 : St} {c0 : RCur} (cl : Call old pre)
    (blank cont : Bool) (hcont : cont = true → ∃ lb, old.getLast? = some lb ∧ lb.bp = .paragraph) :
    ∀ (fuel parent : Nat) (result : OpenResult) (lb : Option Block) (s : St) (c : RCur) (new : List Block),
      RI src s.r c → PadOK c → c0.p ≤ c.p → WinL src old pre root s0 s new → (∀ b ∈ new, b.bp.isContainer = true) →
      parent = lastNode root (pre ++ new) →
      ((result = .noBlocksOpened ∧ new = [] ∧ lb = old.getLast?) ∨ (result = .newBlocksOpened ∧ new ≠ [])) →
      ((nd s parent).kind = .list → Due src s c parent) →
      OKL (OBPostL src old pre root s0 c0) (openBlocksLoop blank cont fuel parent result lb s) := by
  intro fuel
  induction fuel with
  | zero => intro _ _ _ _ _ _ _ _ _ _ _ _ _ _; exact .inr rfl
  | succ fuel ih =>
    intro parent result lb s c new hri hpad hle hw hallc hq hres hmode
    have hcompat0 : ∀ (sX : St), ∀ k ∈ new, ∀ b ∈ old, Compat sX k b :=
      fun _ k hk _ _ => Compat.of_container_left (hallc k hk)
    unfold openBlocksLoop
    refine OKL.bind (peekLine_okl hri) (fun x s1 hx => ?_)
    obtain ⟨hx, r1, hs1, h1⟩ := hx
    subst hx hs1
    simp only
    refine OKL.bind (lineOffset_okl (s := { s with r := r1 }) h1) (fun lo s2 hlo => ?_)
    obtain ⟨hlo, r2, hs2, h2⟩ := hlo
    subst hs2
    generalize hline : (RCur.view src c).getD [] = line
    have hb := indentWidthI_bounds line lo
    generalize hpos : (indentWidthI line lo).2 = pos at hb
    generalize hwd : (indentWidthI line lo).1 = wd
    refine OKL.bind (m := modPc _)
      (P := fun _ s3 => s3.r = r2 ∧ s3.nodes = s.nodes ∧ s3.pc.opened = s.pc.opened ∧ s3.pc.tmpPara = s.pc.tmpPara ∧
        s3.pc.fence = s.pc.fence ∧ s3.pc.skipList = s.pc.skipList ∧
        s3.pc.blockOffset = (if pos ≥ (line.length : Int) then -1 else pos))
      (OKL.ok ⟨rfl, rfl, by simp only; split <;> rfl, by simp only; split <;> rfl, by simp only; split <;> rfl,
        by simp only; split <;> rfl, by simp only; split <;> rfl⟩) (fun _ s3 h3 => ?_)
    obtain ⟨h3r, h3n, h3o, h3t, h3f, h3s, h3b⟩ := h3
    have hri3 : RI src s3.r c := by rw [h3r]; exact h2
    have hw3 : WinL src old pre root s0 s3 new := hw.congr h3n h3o h3t h3f
    have hk3 : (nd s3 parent).kind = (nd s parent).kind := by rw [nd_eq_of_nodes_eq h3n]
    have hmode3 : (nd s3 parent).kind = .list → Due src s3 c parent := fun hk =>
      (hmode (by rw [← hk3]; exact hk)).congr' h3n h3o h3s
    have hplt3 : lastNode root (pre ++ new) < s3.nodes.length := by
      rcases lastNode_mem root (pre ++ new) with e | ⟨b, hb', e⟩
      · rw [e]; exact hw3.ls.rootLt
      · rw [e]
        obtain ⟨suf, es⟩ := hw3.stack
        refine (hw3.blocks b ?_).lt
        rw [es]
        rcases List.mem_append.1 hb' with h | h
        · exact List.mem_append_left _ (List.mem_append_left _ h)
        · exact List.mem_append_right _ h
    -- the exits before the parsers are tried: only when the parent is not a List
    have exit : (nd s3 parent).kind ≠ .list → ∀ (r : OpenResult) (l : Option Block),
        ((r = .noBlocksOpened ∧ new = [] ∧ l = old.getLast?) ∨ (r = .newBlocksOpened ∧ new ≠ [])) →
        OKL (OBPostL src old pre root s0 c0) (toContinuable cont r l s3) := fun hk r l hr =>
      toContinuableL lsp cont r l s3 c c0 new hri3 hpad hle hw3 (leafy_of_all hallc) (hcompat0 s3) hr hcont
        (by rw [← hq]; exact hk) hplt3
    -- in a `Due` state the line is a list item: facts about it
    have hdueLine : (nd s3 parent).kind = .list → ∃ (m : M6) (typ : ListTyp) (ch : UInt8) (pre0 : List BP),
        matchesListItem line false = (m, typ) ∧ typ ≠ .notList ∧ pos = m.r1 ∧ wd = m.r1 ∧ m.r1 ≤ 3 ∧ 0 ≤ m.r1 ∧
        line[m.r1.toNat]? = some ch ∧ triggered ch = some (pre0 ++ [BP.list, BP.listItem] ++ freeParsers) ∧
        (∀ q ∈ pre0, q = BP.setext ∨ q = BP.thematic) ∧ (∀ i : Nat, (i : Int) < m.r1 → line[i]? = some 32) ∧ lo = loVal src c := by
      intro hk
      have hd := hmode3 hk
      have hlo' : lo = loVal src c := hlo hd.lt
      cases hmt : matchesListItem line false with
      | mk m typ =>
        have hmt' : matchesListItem (lineOf src c) false = (m, typ) := by rw [← hmt, ← hline]
        obtain ⟨htyp, _⟩ := hd.m m typ hmt'
        have ok := matchesListItem_ok line false m typ hmt htyp
        have hiw := det_indent_of_item line m typ lo hmt htyp
        obtain ⟨ch, l, hch, htg, pre0, hl, hp0⟩ := det_trigger_of_item line m typ hmt htyp
        refine ⟨m, typ, ch, pre0, rfl, htyp, ?_, ?_, ok.r1_le, ok.r1_ge, hch, by rw [htg, hl], hp0, ok.spaces, hlo'⟩
        · rw [← hpos, hiw]
        · rw [← hwd, hiw]
    by_cases hnone : (RCur.view src c).isNone = true
    · rw [if_pos hnone]
      refine exit (fun hk => ?_) _ _ hres
      have := (hmode3 hk).lt
      rw [view_eq src c this] at hnone; simp at hnone
    rw [if_neg hnone]
    have hp : c.p < src.length := by
      rcases Nat.lt_or_ge c.p src.length with hp | hp
      · exact hp
      · rw [view_none src c (by omega)] at hnone; simp at hnone
    have hvl := view_length src c hp (view_eq src c hp)
    have hlen : 1 ≤ line.length := by rw [← hline, view_eq src c hp]; simp only [Option.getD_some]; omega
    obtain ⟨b0, hb0, hb0'⟩ := idx_ok line 0 (by omega) (by omega)
    refine OKL.bind (liftE_okl (P := fun a s' => a = b0 ∧ s' = s3) hb0 ⟨rfl, rfl⟩) (fun a sy hy => ?_)
    obtain ⟨ha, hsy⟩ := hy
    subst a sy
    by_cases hnl : (b0 == 10) = true
    · rw [if_pos hnl]
      refine exit (fun hk => ?_) _ _ hres
      obtain ⟨m, typ, ch, pre0, _, _, _, _, _, h0, hch, htg, _, hsp, _⟩ := hdueLine hk
      have hb10 : b0 = 10 := by simpa using hnl
      rcases Int.lt_or_le 0 m.r1 with hlt | hge
      · have := hsp 0 (by simpa using hlt)
        simp only [Int.toNat_zero] at hb0'
        rw [this] at hb0'; cases hb0'; cases hb10
      · have e0 : m.r1 = 0 := by omega
        rw [e0] at hch
        simp only [Int.toNat_zero] at hb0' hch
        rw [hch] at hb0'; cases hb0'
        rw [hb10, triggered_nl] at htg; cases htg
    rw [if_neg hnl]
    have hctx : LineCtx src s3 c := by
      refine ⟨hri3, hp, hpad, ?_, hw3.nodes⟩
      rw [h3b, hline]
      split
      · omega
      · omega
    -- the rest of the iteration, for the parser list `bps`
    have tail : ∀ bps : List BP,
        (((nd s3 parent).kind ≠ .list ∧
            (BP.list ∈ bps → ∃ pre0, bps = pre0 ++ [BP.list, BP.listItem] ++ freeParsers ∧
              ∀ q ∈ pre0, q = BP.setext ∨ q = BP.thematic) ∧
            (∀ (ch : UInt8) (l : List BP),
              (lineOf src c)[(indentWidthI (lineOf src c) (loVal src c)).2.toNat]? = some ch → triggered ch = some l →
                BP.list ∈ bps → l = bps)) ∨
          ((nd s3 parent).kind = .list ∧ ∃ (ch : UInt8) (pre0 : List BP),
            (lineOf src c)[(indentWidthI (lineOf src c) (loVal src c)).2.toNat]? = some ch ∧
            triggered ch = some (pre0 ++ [BP.list, BP.listItem] ++ freeParsers) ∧
            (∀ q ∈ pre0, q = BP.setext ∨ q = BP.thematic) ∧ bps = pre0 ++ [BP.list, BP.listItem] ++ freeParsers ∧ ¬ wd > 3)) →
        OKL (OBPostL src old pre root s0 c0)
        ((get >>= fun sb =>
          tryParsers parent blank cont wd bps result lb >>= fun __x =>
          match __x.1 with
          | TryOutcome.retry parent' =>
            get >>= fun s1 =>
              if (!decide (retryMeasure s1 < retryMeasure sb)) = true then
                (throw Panic.pre : M PUnit) >>= fun _ => openBlocksLoop blank cont fuel parent' __x.2.1 __x.2.2
              else openBlocksLoop blank cont fuel parent' __x.2.1 __x.2.2
          | TryOutcome.done => toContinuable cont __x.2.1 __x.2.2) s3) := by
      intro bps hbps
      refine OKL.bind (m := get) (P := fun sb sy => sb = s3 ∧ sy = s3) (OKL.ok ⟨rfl, rfl⟩) (fun sb sy hy => ?_)
      obtain ⟨hsb, hsy⟩ := hy
      subst sb sy
      have htp : OKL (TPPostL src old pre root s0 s3 c) (tryParsers parent blank cont wd bps result lb s3) := by
        rcases hbps with ⟨hk, hst, htr⟩ | ⟨hk, ch, pre0, hch, htg, hp0, hbe, hw3'⟩
        · exact tryParsersL lsp cl parent blank cont wd c bps hst htr bps [] rfl result lb s3 new hctx hw3 hallc hq hres hk
            rfl rfl (fun h => by cases h)
        · rw [hbe]
          exact tryItemL lsp cl parent blank cont wd c pre0 hp0 ch hch htg hw3' pre0 [] rfl result lb s3 new hctx hw3 hallc
            hq hres (hmode3 hk)
      refine OKL.bind htp (fun x s4 h4 => ?_)
      obtain ⟨outcome, res, lb'⟩ := x
      obtain ⟨c', new', hri4, hpad4, hle4, hw4, hres4, hcompat4, hout⟩ := h4
      have hplt4 : lastNode root (pre ++ new') < s4.nodes.length := by
        rcases lastNode_mem root (pre ++ new') with e | ⟨b, hb', e⟩
        · rw [e]; exact hw4.ls.rootLt
        · rw [e]
          obtain ⟨suf, es⟩ := hw4.stack
          refine (hw4.blocks b ?_).lt
          rw [es]
          rcases List.mem_append.1 hb' with h | h
          · exact List.mem_append_left _ (List.mem_append_left _ h)
          · exact List.mem_append_right _ h
      cases outcome with
      | retry p' =>
        simp only at hout ⊢
        obtain ⟨hallc4, hp4, hprog4⟩ := hout
        refine OKL.bind (m := get) (P := fun sb sy => sb = s4 ∧ sy = s4) (OKL.ok ⟨rfl, rfl⟩) (fun sb sy hy => ?_)
        obtain ⟨hsb, hsy⟩ := hy
        subst sb sy
        have hlt : retryMeasure s4 < retryMeasure s3 := by
          rcases hprog4 with ⟨hpr, _⟩ | ⟨hcc, hdn⟩
          · unfold retryMeasure
            rw [hri4.source, hri3.source, hri4.pos, hri3.pos]
            simp only [Int.toNat_natCast]
            have := hri4.inRange
            split <;> split <;> omega
          · subst hcc
            unfold retryMeasure
            rw [hri4.source, hri3.source, hri4.pos, hri3.pos]
            have h4l : lastIsList s4 = true := by
              obtain ⟨lbx, hl1, hl2⟩ := hdn.isLast
              unfold lastIsList
              rw [hl1]
              simp only
              have := hdn.kind
              rw [← hl2] at this
              simp only [nd] at this
              rw [this]; rfl
            rw [h4l, hdn.wasNotList]
            simp
        rw [if_neg (by simp [hlt])]
        refine ih p' res lb' s4 c' new' hri4 hpad4 (Nat.le_trans hle hle4) hw4 hallc4 hp4 hres4 (fun hk => ?_)
        rcases hprog4 with ⟨_, hnk⟩ | ⟨hcc, hdn⟩
        · exact absurd hk hnk
        · subst hcc
          refine ⟨hp, hdn.kind, fun m typ he => ?_, hdn.th, .inr ?_⟩
          · obtain ⟨m', typ', he', ht', hr'⟩ := hdn.m
            rw [he'] at he; cases he
            have : li_lastOff s4 p' = 0 := by unfold li_lastOff; rw [hdn.noKids]; rfl
            rw [this]
            exact ⟨ht', by omega⟩
          · obtain ⟨lbx, hl1, hl2⟩ := hdn.isLast
            exact ⟨lbx, hl1, by rw [hl2]; exact hdn.kind⟩
      | done =>
        simp only at hout ⊢
        exact toContinuableL lsp cont res lb' s4 c' c0 new' hri4 hpad4 (Nat.le_trans hle hle4) hw4 hout.1 hcompat4 hres4 hcont
          hout.2 hplt4
    -- which parsers
    have hlineOf : lineOf src c = line := hline
    by_cases hpl : pos < (line.length : Int)
    · rw [if_pos hpl]
      obtain ⟨b1, hb1, hb1'⟩ := idx_ok line pos hb.1 hpl
      refine OKL.bind (liftE_okl (P := fun a s' => a = b1 ∧ s' = s3) hb1 ⟨rfl, rfl⟩) (fun a sy hy => ?_)
      obtain ⟨ha, hsy⟩ := hy
      subst a sy
      simp only [pure_bind]
      refine tail _ ?_
      by_cases hk : (nd s3 parent).kind = .list
      · right
        obtain ⟨m, typ, ch, pre0, _, _, hpm, hwm, hr3, _, hch, htg, hp0, _, hlo'⟩ := hdueLine hk
        have hchb : ch = b1 := by rw [← hpm] at hch; rw [hch] at hb1'; cases hb1'; rfl
        subst hchb
        refine ⟨hk, ch, pre0, ?_, htg, hp0, by rw [htg]; rfl, by rw [hwm]; omega⟩
        rw [hlineOf, ← hlo', hpos, hpm]; exact hch
      · left
        refine ⟨hk, ?_, ?_⟩
        · intro hl
          cases htr : triggered b1 with
          | none => rw [htr] at hl; exact absurd hl (by decide)
          | some l => rw [htr] at hl; exact det_triggered_list b1 l htr hl
        · intro ch l hch htg hl
          by_cases hlo' : lo = loVal src c
          · rw [hlineOf, ← hlo', hpos] at hch
            rw [hch] at hb1'; cases hb1'
            rw [htg]; rfl
          · exact absurd (hlo hp) hlo'
    · rw [if_neg hpl]
      simp only [pure_bind]
      refine tail _ ?_
      by_cases hk : (nd s3 parent).kind = .list
      · exfalso
        obtain ⟨m, typ, ch, pre0, _, _, hpm, _, _, h0, hch, _⟩ := hdueLine hk
        have : m.r1.toNat < line.length := by
          rcases Nat.lt_or_ge m.r1.toNat line.length with h | h
          · exact h
          · rw [List.getElem?_eq_none h] at hch; cases hch
        omega
      · left
        exact ⟨hk, fun hl => absurd hl (by decide), fun _ _ _ _ hl => absurd hl (by decide)⟩

/-- the state invariant at line boundaries, list-aware (cf. `GM.Blocks.Stable`) -/
structure StableL (src : Bytes) (root : Nat) (s : St) : Prop where
  nodes : NodesOK src s
  keys : KeysOK s
  blocks : ∀ b ∈ s.pc.opened, BlockOK s b
  leafy : Leafy s.pc.opened
  ls : LStore s root
  chain : ChainedO s root s.pc.opened
  endOK : (nd s (lastNode root s.pc.opened)).kind ≠ .list

theorem openBlocksL {root : Nat} (pre : List Block) (parent : Nat) (blank : Bool) (s : St) (c : RCur)
    (hri : RI src s.r c) (hpad : PadOK c) (hst : StableL src root s) (cl : Call s.pc.opened pre)
    (hpar : parent = lastNode root pre) (hmode : (nd s parent).kind = .list → Due src s c parent) :
    OKL (OBPostL src s.pc.opened pre root s c) (openBlocks parent blank s) := by
  unfold openBlocks
  refine OKL.bind (m := lastOpenedBlock) (P := fun lb s1 => lb = s.pc.opened.getLast? ∧ s1 = s) (OKL.ok ⟨rfl, rfl⟩)
    (fun lb0 sx hlb => ?_)
  obtain ⟨hlb0, hsx⟩ := hlb
  subst sx
  have hw : WinL src s.pc.opened pre root s s [] := by
    obtain ⟨suf0, e0, _⟩ := cl.pref
    refine ⟨hst.nodes, hst.keys, Ext.refl s, .inl (by simp), hst.blocks, fun b hb => (hst.blocks b hb).lt, hst.leafy, by simp,
      hst.ls, ?_, ⟨suf0, by simp [← e0]⟩, fun _ => TreeSame.refl s⟩
    rw [List.append_nil]
    have := hst.chain
    rw [e0, chainedO_append] at this
    exact this.1
  have run : ∀ cont : Bool, (cont = true → ∃ lb, s.pc.opened.getLast? = some lb ∧ lb.bp = .paragraph) →
      OKL (OBPostL src s.pc.opened pre root s c)
        ((do let v ← source; openBlocksLoop blank cont (retryFuel v) parent OpenResult.noBlocksOpened lb0) s) := by
    intro cont hcont
    refine OKL.bind (m := source) (P := fun v sy => v = s.r.source ∧ sy = s) (OKL.ok ⟨rfl, rfl⟩) (fun v sy hy => ?_)
    obtain ⟨hv, hsy⟩ := hy
    subst v sy
    exact openBlocksLoopL lsp cl blank cont hcont _ parent .noBlocksOpened lb0 s c [] hri hpad (Nat.le_refl _) hw
      (by simp) (by rw [List.append_nil]; exact hpar) (.inl ⟨rfl, rfl, hlb0⟩) hmode
  cases hl : lb0 with
  | none =>
    simp only [pure_bind]
    rw [← hl]
    exact run false (fun h => by cases h)
  | some lb =>
    simp only []
    refine OKL.bind (m := getNode lb.node)
      (P := fun v sy => v = nd s lb.node ∧ sy = s) (OKL.ok ⟨rfl, rfl⟩) (fun v sy hy => ?_)
    obtain ⟨hv, hsy⟩ := hy
    subst v sy
    simp only [pure_bind]
    rw [← hl]
    refine run _ (fun h => ?_)
    have hlast : s.pc.opened.getLast? = some lb := by rw [← hlb0, hl]
    have hk := (hst.blocks lb (List.mem_of_getLast? hlast)).kind
    have : (nd s lb.node).kind = Kind.paragraph := by simpa using h
    rw [this] at hk
    exact ⟨lb, hlast, kind_paragraph hk.symm⟩

omit lsp in
/-- what `openBlocks` leaves when it was called with nothing open (the top of the outer loop): the line-boundary invariant again -/
theorem OBPostL.stable_top {root : Nat} {s s' : St} {c : RCur} {res : OpenResult} (hemp : s.pc.opened = [])
    (h : OBPostL src s.pc.opened [] root s c res s') : ∃ c', RIa src s'.r c' ∧ StableL src root s' := by
  obtain ⟨c2, new2, hria2, _, hw2, hleafy2, _, _, hend2, _⟩ := h
  have hop2 : s'.pc.opened = new2 := by
    rcases hw2.shape with e | ⟨h, _, _⟩
    · rw [e, hemp]; rfl
    · exact absurd hemp h
  exact ⟨c2, hria2, hw2.nodes, hw2.keys, hw2.blocks, by rw [hop2]; exact hleafy2, hw2.ls, by rw [hop2]; simpa using hw2.chain,
    by rw [hop2]; simpa using hend2⟩

theorem stableL_top {root : Nat} {parent : Nat} (hroot : parent = root) {blank : Bool} {s s' : St} {c : RCur} {res : OpenResult}
    (hri : RI src s.r c) (hpad : PadOK c) (hst : StableL src root s) (hemp : s.pc.opened = [])
    (e : openBlocks parent blank s = .ok (res, s')) : ∃ c', RIa src s'.r c' ∧ StableL src root s' := by
  have hcl : Call s.pc.opened [] := ⟨⟨s.pc.opened, by simp, fun _ b hb => by rw [hemp] at hb; cases hb⟩⟩
  have hkroot : (nd s parent).kind ≠ .list := by rw [hroot, hst.ls.rootKind]; decide
  rcases openBlocksL lsp [] parent blank s c hri hpad hst hcl (by rw [hroot]; rfl) (fun hk => absurd hk hkroot) with
    ⟨a, s2, h1, h2⟩ | h1
  · rw [e] at h1; cases h1; exact OBPostL.stable_top hemp h2
  · rw [e] at h1; cases h1

omit lsp in
/-- the list part of the store after `closeBlocks` -/
theorem LStore.close {s s' : St} {root : Nat} (h : LStore s root) (e : Ext s s') (t : TF s s') (hplt : PLTf s')
    (hsub : List.Sublist s'.pc.opened s.pc.opened) (hb : ∀ b ∈ s.pc.opened, BlockOK s b) : LStore s' root where
  kids := h.kids.tf e t
  plt := hplt
  rootKind := by rw [e.kind root h.rootLt]; exact h.rootKind
  rootLt := Nat.lt_of_lt_of_le h.rootLt e.len
  attached := fun b hbm hc => by
    have hbm' := hsub.subset hbm
    have hbk := hb b hbm'
    rw [t.parent b.node hbk.lt (by rw [hbk.kind]; exact isCont_of_container hc)]
    exact h.attached b hbm' hc
  incr := h.incr.sublist (List.Sublist.cons_cons _ (List.Sublist.map _ hsub))

/-- the post-condition of one pass over the opened blocks -/
def LLPostL (src : Bytes) (root : Nat) (_x : LineOutcome × List LineStat) (s' : St) : Prop :=
  ∃ c', RIa src s'.r c' ∧ StableL src root s'

/-- the end of an iteration of the `for i` loop: `openBlocks`, then `closeBlocks(lastIndex, i)` -/
theorem lineTailL {root : Nat} (pre : List Block) (be : Block) (rest : List Block) (ob : List Block) (li i : Int)
    (hob : ob = pre ++ be :: rest) (hli : li = (ob.length : Int) - 1) (hi : i = (pre.length : Int))
    (thisParent : Nat) (blank : Bool) (bl' : List LineStat) (s : St) (c : RCur)
    (hop : s.pc.opened = ob) (hri : RI src s.r c) (hpad : PadOK c) (hst : StableL src root s)
    (hpar : thisParent = lastNode root pre) (hmode : (nd s thisParent).kind = .list → Due src s c thisParent) :
    OKL (LLPostL src root)
      ((do
        let lastNode ← liftE (blockAt ob li)
        let result ← openBlocks thisParent blank
        if (result != OpenResult.paragraphContinuation) = true then do
            let __do_lift ← getPc
            closeBlocks
                (if (Option.map (fun x => x.node) (slotAfter ob __do_lift.opened li.toNat) != some lastNode.node) = true then
                  li - 1
                else li)
                i
            pure (LineOutcome.next, bl')
          else pure (LineOutcome.next, bl') : M _) s) := by
  have hlen : ob.length = pre.length + rest.length + 1 := by rw [hob]; simp; omega
  have hliN : li = ((pre.length + rest.length : Nat) : Int) := by rw [hli, hlen]; omega
  have hlt : pre.length + rest.length < ob.length := by omega
  have hba : blockAt ob li = .ok ob[pre.length + rest.length] := by rw [hliN]; exact blockAt_ok ob _ hlt
  refine OKL.bind (liftE_okl (P := fun a s' => a = ob[pre.length + rest.length] ∧ s' = s) hba ⟨rfl, rfl⟩) (fun ln sy hy => ?_)
  obtain ⟨hln, hsy⟩ := hy
  subst sy
  have hlastmem : ln ∈ ob := by rw [hln]; exact List.getElem_mem _
  have hcl : Call s.pc.opened pre := ⟨⟨be :: rest, by rw [hop, hob], fun h => by cases h⟩⟩
  have hob' := hop ▸ openBlocksL lsp pre thisParent blank s c hri hpad hst hcl hpar hmode
  refine OKL.bind hob' (fun res s1 h1 => ?_)
  obtain ⟨c1, new1, hria1, _, hw1, hleafy1, hcompat1, hpc1, hend1, hts1⟩ := h1
  obtain ⟨hprec, hbec, hleafmid, hmidc⟩ := leafy_split (hob ▸ hop ▸ hst.leafy)
  have hplt1 : lastNode root (pre ++ new1) < s1.nodes.length := by
    rcases lastNode_mem root (pre ++ new1) with e | ⟨b, hb', e⟩
    · rw [e]; exact hw1.ls.rootLt
    · rw [e]
      obtain ⟨suf, es⟩ := hw1.stack
      refine (hw1.blocks b ?_).lt
      rw [es]
      rcases List.mem_append.1 hb' with h | h
      · exact List.mem_append_left _ (List.mem_append_left _ h)
      · exact List.mem_append_right _ h
  have hsubnodes : ∀ b ∈ pre ++ new1, b.node < s1.nodes.length ∧ (nd s1 b.node).kind = b.bp.kind := by
    intro b hb'
    obtain ⟨suf, es⟩ := hw1.stack
    have hm : b ∈ s1.pc.opened := by
      rw [es]
      rcases List.mem_append.1 hb' with h | h
      · exact List.mem_append_left _ (List.mem_append_left _ h)
      · exact List.mem_append_right _ h
    exact ⟨(hw1.blocks b hm).lt, (hw1.blocks b hm).kind⟩
  by_cases hres : (res != OpenResult.paragraphContinuation) = true
  · rw [if_pos hres]
    refine OKL.bind (m := getPc) (P := fun pc sy => pc = s1.pc ∧ sy = s1) (OKL.ok ⟨rfl, rfl⟩) (fun pc sy hy => ?_)
    obtain ⟨hpc, hsy⟩ := hy
    subst pc sy
    have fin : ∀ s2 : St, (s2.r = s1.r ∧ s2.pc.opened = pre ++ new1 ∧ NodesOK src s2 ∧ KeysOK s2 ∧ Ext s1 s2 ∧ TF s1 s2 ∧
        KidsOK s2 ∧ PLTf s2 ∧ ∀ k ∈ pre ++ new1, BlockOK s2 k) → List.Sublist (pre ++ new1) s1.pc.opened →
        OKL (LLPostL src root) ((pure (LineOutcome.next, bl') : M _) s2) := by
      intro s2 ⟨h2r, h2o, h2n, h2k, h2e, h2t, _, h2p, h2b⟩ hsub
      refine OKL.ok ⟨c1, by rw [h2r]; exact hria1, h2n, h2k, by rw [h2o]; exact h2b,
        by rw [h2o]; exact leafy_append hprec hleafy1, hw1.ls.close h2e h2t h2p (by rw [h2o]; exact hsub) hw1.blocks, ?_, ?_⟩
      · rw [h2o]
        exact chainedO_tf h2e h2t root (pre ++ new1) hw1.chain hw1.ls.rootLt hsubnodes
      · rw [h2o, h2e.kind _ hplt1]; exact hend1
    rcases hw1.shape with e | ⟨hne, hnew, e⟩
    · have hslot : slotAfter ob s1.pc.opened li.toNat = some ln := by
        unfold slotAfter
        rw [e, hliN, Int.toNat_natCast, List.getElem?_append_left hlt, List.getElem?_eq_getElem hlt, hln]
      rw [hslot]
      simp only [Option.map, bne_self_eq_false, Bool.false_eq_true, if_false]
      have hcb := closeBlocksL_okl lsp pre (be :: rest) new1 s1 (by rw [e, hob, List.append_assoc]) hria1.source hw1.nodes hw1.keys
        hw1.ls.kids hw1.ls.plt
        (fun b hb => hw1.blocks b (by rw [e, hob]; exact List.mem_append_left _ (List.mem_append_right _ hb))) hleafmid
        (fun k hk => ⟨hw1.blocks k (by
            rw [e, hob]; rcases List.mem_append.1 hk with h | h
            · exact List.mem_append_left _ (List.mem_append_left _ h)
            · exact List.mem_append_right _ h), fun top htop => by
          rcases List.mem_append.1 hk with h | h
          · exact Compat.of_container_left (hprec k h)
          · refine hcompat1 k h top ?_
            rw [hob]; exact List.mem_append_right _ (List.mem_of_getLast? htop)⟩)
      have harg : li = (pre.length : Int) + ((be :: rest).length : Int) - 1 := by rw [hliN]; simp; omega
      rw [harg, hi]
      refine OKL.bind hcb (fun _ s2 h2 => fin s2 h2 ?_)
      rw [e, hob, List.append_assoc]
      exact List.Sublist.append (List.Sublist.refl _) (List.sublist_append_right _ _)
    · obtain ⟨x, xs, hx⟩ : ∃ x xs, new1 = x :: xs := by
        cases new1 with
        | nil => exact absurd rfl hnew
        | cons x xs => exact ⟨x, xs, rfl⟩
      have hdl : ob.dropLast.length = pre.length + rest.length := by rw [List.length_dropLast]; omega
      have hslot : slotAfter ob s1.pc.opened li.toNat = some x := by
        unfold slotAfter
        rw [e, hliN, Int.toNat_natCast, List.getElem?_append_right (by omega), hdl, Nat.sub_self, hx]
        rfl
      have hxne : (x.node == ln.node) = false := by
        have h1 := hw1.fresh x (by rw [hx]; simp)
        have h2 := hw1.oldlt ln hlastmem
        exact beq_false_of_ne (by omega)
      rw [hslot]
      have hcond : (Option.map (fun x => x.node) (some x) != some ln.node) = true := by
        simp only [Option.map, bne, Option.some_beq_some, hxne, Bool.not_false]
      rw [if_pos hcond]
      have hdrop : ob.dropLast = pre ++ (be :: rest).dropLast := by
        rw [hob]; exact List.dropLast_append_of_ne_nil (by simp)
      have hcb := closeBlocksL_okl lsp pre (be :: rest).dropLast new1 s1 (by rw [e, hdrop]) hria1.source hw1.nodes hw1.keys
        hw1.ls.kids hw1.ls.plt
        (fun b hb => hw1.blocks b (by rw [e, hdrop]; exact List.mem_append_left _ (List.mem_append_right _ hb)))
        (leafy_of_all hmidc)
        (fun k hk => ⟨hw1.blocks k (by
            rw [e, hdrop]; rcases List.mem_append.1 hk with h | h
            · exact List.mem_append_left _ (List.mem_append_left _ h)
            · exact List.mem_append_right _ h), fun top htop =>
          Compat.of_container (hmidc top (List.mem_of_getLast? htop))⟩)
      have harg : li - 1 = (pre.length : Int) + ((be :: rest).dropLast.length : Int) - 1 := by
        rw [hliN, List.length_dropLast]; simp
      rw [harg, hi]
      refine OKL.bind hcb (fun _ s2 h2 => fin s2 h2 ?_)
      rw [e, hdrop, List.append_assoc]
      exact List.Sublist.append (List.Sublist.refl _) (List.sublist_append_right _ _)
  · rw [if_neg hres]
    have hpcn : new1 = [] := hpc1 (by simpa using hres)
    subst hpcn
    have hop1 : s1.pc.opened = ob := by
      rcases hw1.shape with e | ⟨_, h, _⟩
      · rw [e, List.append_nil]
      · exact absurd rfl h
    -- nothing opened, nothing closed: the stack is the old one; kinds and links are unchanged
    have hts := hts1 rfl
    refine OKL.ok ⟨c1, hria1, hw1.nodes, hw1.keys, hw1.blocks, by rw [hop1, ← hop]; exact hst.leafy, hw1.ls, ?_, ?_⟩
    · rw [hop1, ← hop]
      exact chainedO_agree root s.pc.opened hst.chain (fun a _ => (hts.same a).1) (fun b _ => (hts.same b.node).2.1)
        (fun a _ => (hts.same a).2.2.1)
    · rw [hop1, ← hop, (hts.same _).1]; exact hst.endOK

omit lsp in
theorem lastNode_pre (root : Nat) (pre : List Block) (be : Block) (rest : List Block) (h : 1 ≤ pre.length)
    (hlt : pre.length - 1 < (pre ++ be :: rest).length) :
    (pre ++ be :: rest)[pre.length - 1].node = lastNode root pre := by
  have h1 : (pre ++ be :: rest)[pre.length - 1] = pre[pre.length - 1]'(by omega) := by
    rw [List.getElem_append_left]
  rw [h1]
  unfold lastNode
  rw [List.getLast?_eq_getElem?, List.getElem?_eq_getElem (by omega)]
  rfl

/-- what listParser.Continue has established on this line for the List node `L` -/
def ListHint (src : Bytes) (s : St) (c : RCur) (L : Nat) : Prop :=
  ∃ lc, (nd s L).children.getLast? = some lc ∧
    (isBlank (lineOf src c) = false →
      ListGoesOn (nd s L) (lineOf src c) (nd s lc).offset (nd s lc).children.isEmpty
        (indentWidthI (lineOf src c) (loVal src c)).1 s.pc.emptyItemBlank stContinueHasChildren ∧
      ((indentWidthI (lineOf src c) (loVal src c)).1 < 4 →
        ((indentWidthI (lineOf src c) (loVal src c)).1 < (nd s lc).offset ∨ (nd s lc).children.isEmpty = true) →
        LineIsItem (lineOf src c) (nd s lc).offset → TH src c))

omit lsp in
theorem StableL.same {root : Nat} {s s' : St} (h : StableL src root s) (e : Ext s s') (hnodes : NodesOK src s')
    (t : TreeSame s s') (ho : s'.pc.opened = s.pc.opened) (ht : s'.pc.tmpPara = s.pc.tmpPara)
    (hf : s'.pc.fence = s.pc.fence) : StableL src root s' := by
  have hbok : ∀ b, BlockOK s b → BlockOK s' b := fun b hb =>
    hb.ext e (fun hp => by rw [ht]; exact (hb.setext hp).2) (fun hp => by rw [hf]; exact hb.fenced hp)
  refine ⟨hnodes, h.keys.ext e (.inl ht) (.inl hf), fun b hb => by rw [ho] at hb; exact hbok b (h.blocks b hb),
    by rw [ho]; exact h.leafy,
    h.ls.step e t.tf (fun i p hp => by rw [(t.same i).2.1] at hp; rw [t.len]; exact h.ls.plt i p hp) ho h.blocks, ?_, ?_⟩
  · rw [ho]
    exact chainedO_agree root s.pc.opened h.chain (fun a _ => (t.same a).1) (fun b _ => (t.same b.node).2.1)
      (fun a _ => (t.same a).2.2.1)
  · rw [ho, (t.same _).1]; exact h.endOK

omit lsp in
theorem StableL.congr {root : Nat} {s s' : St} (h : StableL src root s) (hn : s'.nodes = s.nodes)
    (ho : s'.pc.opened = s.pc.opened) (ht : s'.pc.tmpPara = s.pc.tmpPara) (hf : s'.pc.fence = s.pc.fence) :
    StableL src root s' :=
  h.same (Ext.of_nodes_eq hn) (fun n hm => h.nodes n (by rw [← hn]; exact hm)) (TreeSame.of_nodes_eq hn) ho ht hf

omit lsp in
theorem chainedO_split {s : St} {root : Nat} {pre : List Block} {be : Block} {rest : List Block}
    (h : ChainedO s root (pre ++ be :: rest)) : ChainedO s root pre ∧ LinkP s (lastNode root pre) be ∧ ChainedO s be.node rest := by
  rw [chainedO_append] at h
  exact ⟨h.1, h.2.1, h.2.2⟩

omit lsp in
theorem StableL.congr_r {root : Nat} {s : St} (h : StableL src root s) (r' : Reader) : StableL src root { s with r := r' } :=
  h.congr rfl rfl rfl rfl

end tp

end GM.Blocks.L
