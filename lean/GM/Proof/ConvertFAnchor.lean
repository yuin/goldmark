/-
  GM.Proof.ConvertFAnchor — a provable part of `BlockNoLoopF`: the ancestor loop of `(*footnoteBlockParser).Close`
  (`anchorLoop`, footnote.go:96-100) has enough fuel whenever the parent-pointer chain of the closing node reaches node 0 of a
  tree-shaped store: the nodes on the chain are pairwise different (node 0 has no parent, so a node has one depth) and exist,
  hence there are at most `nodes.length` of them (pigeonhole).
-/
import GM.Proof.ConvertFOnce
import GM.Proof.ConvertFDisc

namespace GM.ConvertF
open GM GM.Text GM.Blocks GM.Convert GM.ConvertH

/-- the parent-pointer chain that starts with `po` ends within `n` steps -/
def ends (s : St) : Nat → Option Nat → Prop
  | 0, po => po = none
  | n + 1, po => po = none ∨ ∃ p, po = some p ∧ ends s n (ndx s p).parent

theorem anchorLoop_of_ends (f : FS) (s : St) : ∀ (k n : Nat) (po : Option Nat) (a : Nat), ends s n po → n < k →
    (anchorLoop f s.nodes k po a).isSome = true
  | 0, n, _, _, _, h => by omega
  | k + 1, n, none, a, _, _ => by simp [anchorLoop]
  | k + 1, 0, some p, a, he, _ => by simp [ends] at he
  | k + 1, n + 1, some p, a, he, h => by
    simp only [anchorLoop]
    rcases he with he | ⟨q, hq, he⟩
    · cases he
    · cases hq
      exact anchorLoop_of_ends f s k n _ _ he (by omega)

theorem ends_of_anc (s : St) (w : TreeWF s) : ∀ (d x : Nat), anc s d x = some 0 → ends s d (ndx s x).parent
  | 0, x, h => by
    have : x = 0 := by simpa [anc] using h
    subst this
    simp [ends, w.root]
  | d + 1, x, h => by
    unfold anc at h
    cases hp : (ndx s x).parent with
    | none => rw [hp] at h; cases h
    | some p =>
      rw [hp] at h
      exact Or.inr ⟨p, rfl, ends_of_anc s w d p h⟩

/-- **`anchorLoop` has enough fuel** for a node whose parent-pointer chain reaches node 0 of a tree-shaped store -/
theorem anchorLoop_terminates (f : FS) (s : St) (w : TreeWF s) (d x : Nat) (_ : x < s.nodes.length)
    (hd : anc s d x = some 0) : (anchorLoop f s.nodes (s.nodes.length + 1) (ndx s x).parent x).isSome = true := by
  have hlen := anc_depth_lt w hd
  exact anchorLoop_of_ends f s _ d _ _ (ends_of_anc s w d x hd) (by omega)

/-! ### `(*footnoteBlockParser).Close` does not run out of fuel on such a node -/

theorem anc_lr {s s' : St} (h : LR s s') : ∀ (d x : Nat), anc s' d x = anc s d x
  | 0, _ => rfl
  | d + 1, x => by
    unfold anc
    rw [(h.links x).1]
    cases (ndx s x).parent with
    | none => rfl
    | some p => exact anc_lr h d p

theorem mf_bind_err {α β} {m : MF α} {k : α → MF β} {f : FS} {s : St} {e : Panic} (h : (m >>= k) f s = .error e) :
    m f s = .error e ∨ ∃ a f' s', m f s = .ok ((a, f'), s') ∧ k a f' s' = .error e := by
  rw [Hoare.bind_apply₂] at h
  cases hm : m f s with
  | error e' => rw [hm] at h; left; exact congrArg _ (by cases h; rfl)
  | ok r => obtain ⟨⟨a, f'⟩, s'⟩ := r; rw [hm] at h; exact Or.inr ⟨a, f', s', rfl, h⟩

theorem upF_err {α} {x : M α} {f : FS} {s : St} {e : Panic} (h : (GM.ConvertF.up x) f s = .error e) : x s = .error e := by
  rw [upF_apply] at h
  cases hx : x s with
  | error e' => rw [hx] at h; cases h; rfl
  | ok r => rw [hx] at h; cases h

theorem removeChild_total (p c : Nat) (s : St) : ∃ s', removeChild p c s = .ok ((), s') := by
  unfold removeChild
  simp only [bind, StateT.bind, getNode, modNode, Except.bind, pure, StateT.pure, Except.pure, get, getThe, MonadStateOf.get,
    StateT.get, modify, modifyGet, MonadStateOf.modifyGet, StateT.modifyGet]
  split <;> exact ⟨_, rfl⟩

/-- never fails -/
structure Tot {α : Type} (m : M α) : Prop where
  h : ∀ s, ∃ a s', m s = .ok (a, s')

theorem Tot.pure {α} (a : α) : Tot (Pure.pure a : M α) := ⟨fun s => ⟨a, s, rfl⟩⟩
theorem Tot.bind {α β} {m : M α} {k : α → M β} (hm : Tot m) (hk : ∀ a, Tot (k a)) : Tot (m >>= k) := by
  constructor
  intro s
  obtain ⟨a, s', h⟩ := hm.h s
  obtain ⟨b, s'', h'⟩ := (hk a).h s'
  refine ⟨b, s'', ?_⟩
  show (StateT.bind m k) s = _
  simp only [StateT.bind, h, bind, Except.bind]
  exact h'
theorem Tot.ite {α} {c : Prop} [Decidable c] {a b : M α} (ha : Tot a) (hb : Tot b) : Tot (if c then a else b) := by
  split <;> assumption
theorem getNode_tot (id : Nat) : Tot (getNode id) := ⟨fun s => ⟨_, s, rfl⟩⟩
theorem modNode_tot (id : Nat) (g : Blocks.Node → Blocks.Node) : Tot (modNode id g) := ⟨fun s => ⟨(), _, rfl⟩⟩

macro "tot_step" : tactic =>
  `(tactic| first
    | with_reducible exact Tot.pure _
    | with_reducible exact getNode_tot _
    | with_reducible exact modNode_tot _ _
    | apply_hyp
    | with_reducible apply Tot.bind
    | with_reducible apply Tot.ite
    | intro _
    | split)
macro "tot" : tactic => `(tactic| repeat' tot_step)

theorem removeChild_tot (p c : Nat) : Tot (removeChild p c) := by unfold removeChild; tot
theorem ensureIsolated_tot (c : Nat) : Tot (ensureIsolated c) := by
  have := removeChild_tot
  unfold ensureIsolated; tot
theorem appendChild_tot (p c : Nat) : Tot (appendChild p c) := by
  have := ensureIsolated_tot
  unfold appendChild; tot
theorem insertBefore_tot (p : Nat) (v : Option Nat) (ins : Nat) : Tot (insertBefore p v ins) := by
  have := ensureIsolated_tot
  have := appendChild_tot
  unfold insertBefore; tot

theorem upF_tot_err {α} {x : M α} (hx : Tot x) {f : FS} {s : St} {e : Panic} (h : (GM.ConvertF.up x) f s = .error e) : False := by
  have := upF_err h
  obtain ⟨a, s', h'⟩ := hx.h s
  rw [h'] at this
  cases this

theorem fnCloseTail_noLoop (list node : Nat) (f : FS) (s : St) (e : Panic) (h : fnCloseTail list node f s = .error e) :
    e ≠ .loop := by
  unfold fnCloseTail at h
  rcases mf_bind_err h with h1 | ⟨nd, f1, s1, _, h⟩
  · exact (upF_tot_err (getNode_tot node) h1).elim
  · dsimp only at h
    cases hp : nd.parent with
    | none =>
      rw [hp] at h
      rcases mf_bind_err h with h1 | ⟨_, _, _, h1, _⟩
      · cases h1; decide
      · cases h1
    | some p =>
      rw [hp] at h
      rcases mf_bind_err h with h1 | ⟨_, f2, s2, _, h⟩
      · exact (upF_tot_err (removeChild_tot _ _) h1).elim
      · exact (upF_tot_err (appendChild_tot _ _) h).elim

/-- **`Close` of a Footnote whose parent-pointer chain reaches node 0 of a tree-shaped store does not answer `loop`** -/
theorem fnClose_noLoop (node d : Nat) (f : FS) (s : St) (w : TreeWF s) (hv : node < s.nodes.length)
    (hd : anc s d node = some 0) (e : Panic) (h : fnClose node f s = .error e) : e ≠ .loop := by
  unfold fnClose at h
  rcases mf_bind_err h with h1 | ⟨f0, f1, s1, e0, h⟩
  · cases h1
  · obtain ⟨h0, h1, h2⟩ := getF_ok e0
    subst h0 h1 h2
    dsimp only at h
    generalize hl : f.list = o at h
    cases o with
    | some l =>
      rcases mf_bind_err h with h1 | ⟨list, f2, s2, e1, h⟩
      · cases h1
      · exact fnCloseTail_noLoop _ node _ _ e h
    | none =>
      rcases mf_bind_err h with h1 | ⟨l, f3, s3, g1, h⟩
      · have := upF_err h1; cases this
      · obtain ⟨hf3, hnew⟩ := upF_ok' g1
        obtain ⟨hl3, hs3⟩ := newNode_ok hnew
        subst hf3 hl3 hs3
        have hlr : LR s { s with nodes := s.nodes ++ [{ kind := Blocks.Kind.blockquote }] } :=
          (GM.ConvertH.newNode_lk _ rfl rfl).h _ _ _ hnew
        rcases mf_bind_err h with h1 | ⟨_, f4, s4, g2, h⟩
        · cases h1
        · obtain ⟨hf4, hs4⟩ := setF_ok g2
          subst hf4 hs4
          rcases mf_bind_err h with h1 | ⟨st, f5, s5, g3, h⟩
          · have := upF_err h1; cases this
          · obtain ⟨hf5, hget⟩ := upF_ok' g3
            have hget' : st = ({ s with nodes := s.nodes ++ [{ kind := Blocks.Kind.blockquote }] } : St) ∧
                s5 = ({ s with nodes := s.nodes ++ [{ kind := Blocks.Kind.blockquote }] } : St) := by cases hget; exact ⟨rfl, rfl⟩
            obtain ⟨hst, hs5⟩ := hget'
            subst hf5 hst hs5
            dsimp only at h
            have hsome := anchorLoop_terminates f { s with nodes := s.nodes ++ [{ kind := Blocks.Kind.blockquote }] } (hlr.wf w) d node
              (Nat.lt_of_lt_of_le hv hlr.len) (by rw [anc_lr hlr]; exact hd)
            simp only [ndx] at hsome
            generalize anchorLoop f _ _ _ node = r at h hsome
            cases r with
            | none => cases hsome
            | some anchor =>
              dsimp only at h
              generalize Blocks.Node.parent _ = q at h
              cases q with
              | none =>
                rcases mf_bind_err h with h1 | ⟨_, _, _, h1, _⟩
                · cases h1; decide
                · cases h1
              | some ap =>
                rcases mf_bind_err h with h1 | ⟨_, f6, s6, _, h⟩
                · exact (upF_tot_err (insertBefore_tot _ _ _) h1).elim
                · rcases mf_bind_err h with h1 | ⟨list, f2, s2, e2, h⟩
                  · cases h1
                  · exact fnCloseTail_noLoop _ node _ _ e h

end GM.ConvertF
