import GM.Proof.BlocksTerm
import GM.Proof.Reader
import GM.Proof.BlocksTotal
import GM.Proof.Hoare

/-
  part Bytes — byte-level facts about `quotePrefix` (GM.Model.Blocks.QuoteSim): where the bytes,
  line starts and line ends of a source are in the source with `"> "` put in front of every line.

  `LineAt src k ls`: `ls` is the first byte of line number `k` (0-based) of `src`, and that line exists.
  With `d = 2·(k+1)` (the marker bytes in front of and on line `k`), byte `p` of line `k` is byte `p + d` of
  `quotePrefix src`; the line starts at `ls + 2·k` there (its marker) and ends at `lineEnd src ls + d`.
-/
section Bytes
namespace GM.Blocks
open GM GM.Text


/-- the `atStart` flag of `quotePrefixGo` after the bytes `l` -/
def qpAfter : Bytes → Bool → Bool
  | [], b => b
  | c :: cs, _ => qpAfter cs (c == 10)

theorem qpAfter_append (l₁ l₂ : Bytes) (b : Bool) : qpAfter (l₁ ++ l₂) b = qpAfter l₂ (qpAfter l₁ b) := by
  induction l₁ generalizing b with
  | nil => rfl
  | cons c cs ih => simp [qpAfter, ih]

theorem qpg_append (l₁ l₂ : Bytes) (b : Bool) :
    quotePrefixGo (l₁ ++ l₂) b = quotePrefixGo l₁ b ++ quotePrefixGo l₂ (qpAfter l₁ b) := by
  induction l₁ generalizing b with
  | nil => rfl
  | cons c cs ih => simp [quotePrefixGo, qpAfter, ih]

theorem qpg_length (l : Bytes) (b : Bool) :
    (quotePrefixGo l b).length + (if qpAfter l b then 2 else 0) = l.length + 2 * nlCount l + (if b then 2 else 0) := by
  induction l generalizing b with
  | nil => cases b <;> simp [quotePrefixGo, qpAfter, nlCount]
  | cons c cs ih =>
    simp only [quotePrefixGo, qpAfter, nlCount_cons, List.length_append, List.length_cons]
    by_cases hc : (c == 10) = true
    · have := ih true
      simp only [hc]
      cases b <;> simp at this ⊢ <;> omega
    · have hc' : (c == 10) = false := by simpa using hc
      have := ih false
      simp only [hc']
      cases b <;> simp at this ⊢ <;> omega

theorem qpg_nlCount (l : Bytes) (b : Bool) : nlCount (quotePrefixGo l b) = nlCount l := by
  induction l generalizing b with
  | nil => rfl
  | cons c cs ih =>
    cases b <;> simp [quotePrefixGo, nlCount_cons, ih]

theorem qpg_mem (l : Bytes) (b : Bool) {c : UInt8} (h : c ∈ quotePrefixGo l b) : c ∈ l ∨ c = 62 ∨ c = 32 := by
  induction l generalizing b with
  | nil => simp [quotePrefixGo] at h
  | cons d ds ih =>
    simp only [quotePrefixGo, List.mem_append, List.mem_cons] at h
    rcases h with h | h | h
    · cases b <;> simp at h
      rcases h with h | h <;> simp [h]
    · simp [h]
    · rcases ih _ h with h | h | h <;> simp [h]

theorem mem_quotePrefixGo (s : Bytes) (b : Bool) (c : UInt8) (h : c ∈ quotePrefixGo s b) : c = 62 ∨ c = 32 ∨ c ∈ s :=
  (qpg_mem s b h).elim (fun h => .inr (.inr h)) fun h => h.elim .inl fun h => .inr (.inl h)

theorem lineNo_succ (src : Bytes) (p : Nat) :
    lineNo src (p + 1) = lineNo src p + (if src[p]? = some 10 then 1 else 0) := by
  unfold lineNo
  rw [List.take_add_one, List.filter_append, List.length_append]
  cases h : src[p]? with
  | none => simp
  | some c => by_cases hc : c = 10 <;> simp [hc]

theorem lineNo_eq_nlCount (src : Bytes) (p : Nat) : lineNo src p = nlCount (src.take p) := rfl

theorem lineNo_mono (src : Bytes) {a b : Nat} (h : a ≤ b) : lineNo src a ≤ lineNo src b := by
  obtain ⟨d, rfl⟩ : ∃ d, b = a + d := ⟨b - a, by omega⟩
  unfold lineNo
  rw [List.take_add, List.filter_append, List.length_append]
  omega

theorem lineLen_le_of_nl (l : Bytes) (i : Nat) (h : l[i]? = some 10) : lineLen l ≤ i + 1 := by
  induction l generalizing i with
  | nil => simp at h
  | cons c cs ih =>
    simp only [lineLen]
    split
    · omega
    · cases i with
      | zero => simp at h; simp_all
      | succ i => simp at h; have := ih i h; omega

/-- the end of the line of `p`, characterised -/
theorem lineEnd_char (src : Bytes) {p e : Nat} (hpe : p < e) (hle : e ≤ src.length)
    (hno : ∀ q, p ≤ q → q + 1 < e → src[q]? ≠ some 10) (hend : e = src.length ∨ src[e - 1]? = some 10) :
    lineEnd src p = e := by
  obtain ⟨n, hn⟩ : ∃ n, e = p + 1 + n := ⟨e - p - 1, by omega⟩
  induction n generalizing p with
  | zero =>
    by_cases h10 : src[p]? = some 10
    · rw [GM.Proof.Reader.lineEnd_nl src h10]; omega
    · rcases hend with hend | hend
      · rw [GM.Proof.Reader.lineEnd_succ src (by omega) h10, GM.Proof.Reader.lineEnd_of_ge src (by omega)]; omega
      · have : e - 1 = p := by omega
        rw [this] at hend; exact absurd hend h10
  | succ n ih =>
    have h10 : src[p]? ≠ some 10 := hno p (Nat.le_refl _) (by omega)
    rw [GM.Proof.Reader.lineEnd_succ src (by omega) h10]
    exact ih (by omega) (fun q h1 h2 => hno q (by omega) h2) (by omega)

/-- the start of the line of `p`, characterised -/
theorem lineStart_char (src : Bytes) {s p : Nat} (hsp : s ≤ p) (hs : s = 0 ∨ src[s - 1]? = some 10)
    (hno : ∀ q, s ≤ q → q < p → src[q]? ≠ some 10) : lineStart src p = s := by
  induction p with
  | zero => simp [lineStart]; omega
  | succ p ih =>
    simp only [lineStart]
    by_cases hsp' : s = p + 1
    · have h0 : src[p]? = some 10 := by
        rcases hs with hs | hs
        · omega
        · rw [hsp'] at hs; simpa using hs
      simp [h0, hsp']
    · have h10 : src[p]? ≠ some 10 := hno p (by omega) (by omega)
      have : (src[p]? == some 10) = false := by simpa using h10
      rw [this]; simp only [Bool.false_eq_true, if_false]
      exact ih (by omega) (fun q h1 h2 => hno q h1 (by omega))

theorem sub_getElem? (src : Bytes) (a b i : Nat) : (sub src a b)[i]? = if i < b - a then src[a + i]? else none := by
  unfold sub
  rw [List.getElem?_take]
  split
  · rw [List.getElem?_drop]
  · rfl

/-- the split of the prefixed source at byte `p` -/
theorem qp_split (src : Bytes) {p : Nat} (hp : p < src.length) :
    ∃ A B, quotePrefix src = A ++ ((if qpAfter (src.take p) true then [62, 32] else []) ++ src[p] :: B) ∧
      A.length + (if qpAfter (src.take p) true then 2 else 0) = p + 2 * (lineNo src p + 1) := by
  refine ⟨quotePrefixGo (src.take p) true, quotePrefixGo (src.drop (p + 1)) (src[p] == 10), ?_, ?_⟩
  · have e : src = src.take p ++ src[p] :: src.drop (p + 1) := by
      rw [← List.drop_eq_getElem_cons hp, List.take_append_drop]
    conv => lhs; rw [e]
    unfold quotePrefix
    rw [qpg_append]
    simp only [quotePrefixGo]
  · have := qpg_length (src.take p) true
    rw [List.length_take, Nat.min_eq_left (Nat.le_of_lt hp)] at this
    rw [lineNo_eq_nlCount]; simp at this ⊢; omega

/-- byte `p` in the prefixed source, for every byte -/
theorem qp_byte_gen (src : Bytes) {p : Nat} (hp : p < src.length) :
    (quotePrefix src)[p + 2 * (lineNo src p + 1)]? = src[p]? := by
  obtain ⟨A, B, hq, hl⟩ := qp_split src hp
  rw [hq, List.getElem?_append_right (by omega)]
  cases hb : qpAfter (src.take p) true
  · rw [hb] at hl
    have : p + 2 * (lineNo src p + 1) - A.length = 0 := by simp at hl; omega
    rw [this]; simp [List.getElem?_eq_getElem hp]
  · rw [hb] at hl
    have : p + 2 * (lineNo src p + 1) - A.length = 2 := by simp at hl; omega
    rw [this]; simp [List.getElem?_eq_getElem hp]

theorem qpAfter_snoc (l : Bytes) (c : UInt8) (b : Bool) : qpAfter (l ++ [c]) b = (c == 10) := by
  rw [qpAfter_append]; rfl

theorem qpAfter_take {src : Bytes} {ls : Nat} (hlt : ls < src.length) (h : ls = 0 ∨ src[ls - 1]? = some 10) :
    qpAfter (src.take ls) true = true := by
  by_cases h0 : ls = 0
  · subst h0; rfl
  · have h := h.resolve_left h0
    obtain ⟨m, rfl⟩ : ∃ m, ls = m + 1 := ⟨ls - 1, by omega⟩
    simp only [Nat.add_sub_cancel] at h
    rw [List.take_add_one, h]
    simp [qpAfter_snoc]

/-- `ls` is the start of line number `k` of `src`, and the line is there -/
structure LineAt (src : Bytes) (k ls : Nat) : Prop where
  lt : ls < src.length
  start : ls = 0 ∨ src[ls - 1]? = some 10
  count : lineNo src ls = k

theorem lineAt_zero_qs (src : Bytes) (h : src ≠ []) : LineAt src 0 0 := by
  refine ⟨?_, Or.inl rfl, ?_⟩
  · cases src with
    | nil => exact absurd rfl h
    | cons c cs => simp
  · simp [lineNo]

/-- no `\n` before the last byte of a line -/
theorem line_no_nl {src : Bytes} {ls p : Nat} (h1 : ls ≤ p) (h2 : p + 1 < lineEnd src ls) : src[p]? ≠ some 10 := by
  intro h10
  have hle := lineEnd_le src ls
  have hls : ls ≤ src.length := by
    unfold lineEnd at h2; split at h2 <;> omega
  unfold lineEnd at h2 hle
  rw [if_pos hls] at h2 hle
  have : (src.drop ls)[p - ls]? = some 10 := by
    rw [List.getElem?_drop]
    have : ls + (p - ls) = p := by omega
    rw [this]; exact h10
  have := lineLen_le_of_nl _ _ this
  omega

/-- a line that is not the last one ends with `\n` -/
theorem line_ends_nl {src : Bytes} {ls : Nat} (h : ls < src.length) (hlt : lineEnd src ls < src.length) :
    src[lineEnd src ls - 1]? = some 10 :=
  GM.Proof.Reader.lineEnd_nl_before src (Nat.le_of_lt h) hlt

theorem lineNo_in_aux (src : Bytes) (ls n : Nat) (h2 : ls + n < lineEnd src ls) :
    lineNo src (ls + n) = lineNo src ls := by
  induction n with
  | zero => rfl
  | succ n ih =>
    have h10 : src[ls + n]? ≠ some 10 := line_no_nl (Nat.le_add_right _ _) (by omega)
    rw [← Nat.add_assoc, lineNo_succ, if_neg h10, Nat.add_zero]
    exact ih (by omega)

/-- the line number of a byte of line `k` (as `shiftSeg` computes it) -/
theorem lineNo_in {src : Bytes} {k ls : Nat} (h : LineAt src k ls) {p : Nat} (h1 : ls ≤ p) (h2 : p < lineEnd src ls) :
    lineNo src p = k := by
  obtain ⟨n, rfl⟩ : ∃ n, p = ls + n := ⟨p - ls, by omega⟩
  rw [lineNo_in_aux src ls n h2]; exact h.count

/-- the next line, when the source goes on behind this one -/
theorem lineAt_next {src : Bytes} {k ls : Nat} (h : LineAt src k ls) (hlt : lineEnd src ls < src.length) :
    LineAt src (k + 1) (lineEnd src ls) := by
  have hgt := lt_lineEnd src h.lt
  have hnl := line_ends_nl h.lt hlt
  refine ⟨hlt, Or.inr hnl, ?_⟩
  obtain ⟨e, he⟩ : ∃ e, lineEnd src ls = e + 1 := ⟨lineEnd src ls - 1, by omega⟩
  rw [he] at hnl ⊢
  simp only [Nat.add_sub_cancel] at hnl
  rw [lineNo_succ, if_pos hnl, lineNo_in h (by omega) (by omega)]

/-- the number of a line is at most the number of `\n` of the source -/
theorem lineAt_le_nl {src : Bytes} {k ls : Nat} (h : LineAt src k ls) : k ≤ nlCount src := by
  rw [← h.count]
  unfold lineNo nlCount
  exact ((List.take_sublist ls src).filter _).length_le

/-- the bytes of line `k` -/
theorem qp_byte {src : Bytes} {k ls : Nat} (h : LineAt src k ls) {p : Nat} (h1 : ls ≤ p) (h2 : p < lineEnd src ls) :
    (quotePrefix src)[p + 2 * (k + 1)]? = src[p]? := by
  have hp : p < src.length := Nat.lt_of_lt_of_le h2 (lineEnd_le src ls)
  have := qp_byte_gen src hp
  rw [lineNo_in h h1 h2] at this; exact this

/-- the marker of line `k` -/
theorem qp_marker {src : Bytes} {k ls : Nat} (h : LineAt src k ls) :
    (quotePrefix src)[ls + 2 * k]? = some 62 ∧ (quotePrefix src)[ls + 2 * k + 1]? = some 32 := by
  obtain ⟨A, B, hq, hl⟩ := qp_split src h.lt
  rw [qpAfter_take h.lt h.start, h.count] at hl
  rw [qpAfter_take h.lt h.start] at hq
  have hA : A.length = ls + 2 * k := by simp at hl; omega
  rw [hq, ← hA]
  constructor
  · rw [List.getElem?_append_right (Nat.le_refl _)]; simp
  · rw [List.getElem?_append_right (by omega)]; simp

theorem qp_length_ge {src : Bytes} {k ls : Nat} (h : LineAt src k ls) :
    lineEnd src ls + 2 * (k + 1) ≤ (quotePrefix src).length := by
  have hgt := lt_lineEnd src h.lt
  have hle := lineEnd_le src ls
  have hb := qp_byte h (p := lineEnd src ls - 1) (by omega) (by omega)
  rw [List.getElem?_eq_getElem (by omega : lineEnd src ls - 1 < src.length)] at hb
  rcases Nat.lt_or_ge (lineEnd src ls - 1 + 2 * (k + 1)) (quotePrefix src).length with hlt | hge
  · omega
  · rw [List.getElem?_eq_none hge] at hb; cases hb

theorem nlCount_last (src : Bytes) (hne : src ≠ []) :
    nlCount src = lineNo src (src.length - 1) + (if qpAfter src true then 1 else 0) := by
  obtain ⟨l, c, rfl⟩ : ∃ l c, src = l ++ [c] :=
    ⟨src.dropLast, src.getLast hne, (List.dropLast_concat_getLast hne).symm⟩
  rw [qpAfter_snoc, lineNo_eq_nlCount]
  simp only [List.length_append, List.length_cons, List.length_nil, Nat.add_sub_cancel]
  rw [List.take_left']
  · unfold nlCount
    rw [List.filter_append, List.length_append]
    by_cases hc : c = 10 <;> simp [hc]
  · rfl

/-- when line `k` is the last one, the prefixed source ends where it ends -/
theorem qp_length_end {src : Bytes} {k ls : Nat} (h : LineAt src k ls) (he : lineEnd src ls = src.length) :
    (quotePrefix src).length = src.length + 2 * (k + 1) := by
  have hne : src ≠ [] := by intro e; have := h.lt; rw [e] at this; simp at this
  have hlt := h.lt
  have h1 := nlCount_last src hne
  rw [lineNo_in h (by omega) (by omega)] at h1
  have h2 := qpg_length src true
  unfold quotePrefix
  cases hb : qpAfter src true <;> rw [hb] at h1 h2 <;> simp at h1 h2 <;> omega

/-- sub-ranges of line `k` (its `\n` included) -/
theorem qp_sub {src : Bytes} {k ls : Nat} (h : LineAt src k ls) {a b : Nat} (h1 : ls ≤ a) (h2 : a ≤ b)
    (h3 : b ≤ lineEnd src ls) :
    sub (quotePrefix src) (a + 2 * (k + 1)) (b + 2 * (k + 1)) = sub src a b := by
  apply List.ext_getElem?
  intro i
  rw [sub_getElem?, sub_getElem?]
  have e : b + 2 * (k + 1) - (a + 2 * (k + 1)) = b - a := by omega
  rw [e]
  split
  · have := qp_byte h (p := a + i) (by omega) (by omega)
    have e2 : a + 2 * (k + 1) + i = a + i + 2 * (k + 1) := by omega
    rw [e2]; exact this
  · rfl

/-- the whole prefixed line: marker, then the line -/
theorem qp_sub_line {src : Bytes} {k ls : Nat} (h : LineAt src k ls) :
    sub (quotePrefix src) (ls + 2 * k) (lineEnd src ls + 2 * (k + 1)) = 62 :: 32 :: sub src ls (lineEnd src ls) := by
  have hgt := lt_lineEnd src h.lt
  obtain ⟨hm1, hm2⟩ := qp_marker h
  apply List.ext_getElem?
  intro i
  rw [sub_getElem?]
  match i with
  | 0 => rw [if_pos (by omega)]; simpa using hm1
  | 1 => rw [if_pos (by omega)]; simpa using hm2
  | j + 2 =>
    simp only [List.getElem?_cons_succ]
    rw [sub_getElem?]
    by_cases hj : j < lineEnd src ls - ls
    · rw [if_pos (by omega), if_pos hj]
      have := qp_byte h (p := ls + j) (by omega) (by omega)
      have e2 : ls + 2 * k + (j + 2) = ls + j + 2 * (k + 1) := by omega
      rw [e2]; exact this
    · rw [if_neg (by omega), if_neg hj]

/-- line ends: from the marker and from every byte of the line -/
theorem qp_lineEnd_marker {src : Bytes} {k ls : Nat} (h : LineAt src k ls) :
    lineEnd (quotePrefix src) (ls + 2 * k) = lineEnd src ls + 2 * (k + 1) := by
  have hgt := lt_lineEnd src h.lt
  have hle := lineEnd_le src ls
  obtain ⟨hm1, hm2⟩ := qp_marker h
  apply lineEnd_char _ (by omega) (qp_length_ge h)
  · intro q hq1 hq2
    by_cases h0 : q = ls + 2 * k
    · rw [h0, hm1]; simp
    · by_cases h00 : q = ls + 2 * k + 1
      · rw [h00, hm2]; simp
      · obtain ⟨p, rfl⟩ : ∃ p, q = p + 2 * (k + 1) := ⟨q - 2 * (k + 1), by omega⟩
        rw [qp_byte h (by omega) (by omega)]
        exact line_no_nl (ls := ls) (by omega) (by omega)
  · by_cases he : lineEnd src ls = src.length
    · left; rw [qp_length_end h he, he]
    · right
      have := qp_byte h (p := lineEnd src ls - 1) (by omega) (by omega)
      have e : lineEnd src ls + 2 * (k + 1) - 1 = lineEnd src ls - 1 + 2 * (k + 1) := by omega
      rw [e, this]
      exact line_ends_nl h.lt (by omega)

theorem qp_lineEnd {src : Bytes} {k ls : Nat} (h : LineAt src k ls) {p : Nat} (h1 : ls ≤ p) (h2 : p < lineEnd src ls) :
    lineEnd (quotePrefix src) (p + 2 * (k + 1)) = lineEnd src ls + 2 * (k + 1) ∧ lineEnd src p = lineEnd src ls := by
  have hle := lineEnd_le src ls
  constructor
  · apply lineEnd_char _ (by omega) (qp_length_ge h)
    · intro q hq1 hq2
      obtain ⟨p', rfl⟩ : ∃ p', q = p' + 2 * (k + 1) := ⟨q - 2 * (k + 1), by omega⟩
      rw [qp_byte h (by omega) (by omega)]
      exact line_no_nl (ls := ls) (by omega) (by omega)
    · by_cases he : lineEnd src ls = src.length
      · left; rw [qp_length_end h he, he]
      · right
        have := qp_byte h (p := lineEnd src ls - 1) (by omega) (by omega)
        have e : lineEnd src ls + 2 * (k + 1) - 1 = lineEnd src ls - 1 + 2 * (k + 1) := by omega
        rw [e, this]
        exact line_ends_nl h.lt (by omega)
  · apply lineEnd_char _ h2 hle
    · intro q hq1 hq2
      exact line_no_nl (ls := ls) (by omega) hq2
    · by_cases he : lineEnd src ls = src.length
      · left; exact he
      · right; exact line_ends_nl h.lt (by omega)

theorem qp_prev_nl {src : Bytes} {k ls : Nat} (h : LineAt src k ls) :
    ls + 2 * k = 0 ∨ (quotePrefix src)[ls + 2 * k - 1]? = some 10 := by
  by_cases h0 : ls = 0
  · left
    have := h.count
    rw [h0] at this
    simp [lineNo] at this
    omega
  · right
    have hnl := h.start.resolve_left h0
    have hlt := h.lt
    obtain ⟨m, rfl⟩ : ∃ m, ls = m + 1 := ⟨ls - 1, by omega⟩
    simp only [Nat.add_sub_cancel] at hnl
    have hc := h.count
    rw [lineNo_succ, if_pos hnl] at hc
    have := qp_byte_gen src (p := m) (by omega)
    rw [hnl] at this
    have e : m + 1 + 2 * k - 1 = m + 2 * (lineNo src m + 1) := by omega
    rw [e]; exact this

/-- line starts -/
theorem qp_lineStart_marker {src : Bytes} {k ls : Nat} (h : LineAt src k ls) :
    lineStart (quotePrefix src) (ls + 2 * k) = ls + 2 * k := by
  apply lineStart_char _ (Nat.le_refl _) (qp_prev_nl h)
  intro q h1 h2; omega

theorem qp_lineStart {src : Bytes} {k ls : Nat} (h : LineAt src k ls) {p : Nat} (h1 : ls ≤ p) (h2 : p < lineEnd src ls) :
    lineStart (quotePrefix src) (p + 2 * (k + 1)) = ls + 2 * k ∧ lineStart src p = ls := by
  obtain ⟨hm1, hm2⟩ := qp_marker h
  constructor
  · apply lineStart_char _ (by omega) (qp_prev_nl h)
    intro q hq1 hq2
    by_cases h0 : q = ls + 2 * k
    · rw [h0, hm1]; simp
    · by_cases h00 : q = ls + 2 * k + 1
      · rw [h00, hm2]; simp
      · obtain ⟨p', rfl⟩ : ∃ p', q = p' + 2 * (k + 1) := ⟨q - 2 * (k + 1), by omega⟩
        rw [qp_byte h (by omega) (by omega)]
        exact line_no_nl (ls := ls) (by omega) (by omega)
  · apply lineStart_char _ h1 h.start
    intro q hq1 hq2
    exact line_no_nl (ls := ls) hq1 (by omega)

/-- without tabs a column is a byte count -/
theorem colFrom_tabfree (l : Bytes) (h : ∀ c ∈ l, c ≠ 9) (v : Nat) : colFrom l v = v + l.length := by
  induction l generalizing v with
  | nil => simp [colFrom]
  | cons c cs ih =>
    have hc : c ≠ 9 := h c (by simp)
    have hc' : (c == 9) = false := by simpa using hc
    simp only [colFrom, hc', Bool.false_eq_true, if_false, List.length_cons]
    rw [ih (fun d hd => h d (by simp [hd]))]; omega

theorem sub_mem {src : Bytes} {a b : Nat} {c : UInt8} (h : c ∈ sub src a b) : c ∈ src :=
  List.mem_of_mem_drop (List.mem_of_mem_take h)

/-- the prefixed source has no tab / CR either -/
theorem qp_mem {src : Bytes} {c : UInt8} (h : c ∈ quotePrefix src) : c ∈ src ∨ c = 62 ∨ c = 32 :=
  qpg_mem src true h

/-- the prefixed source has as many `\n` -/
theorem qp_nlCount (src : Bytes) : nlCount (quotePrefix src) = nlCount src :=
  qpg_nlCount src true

theorem qp_nil_iff (src : Bytes) : quotePrefix src = [] ↔ src = [] := by
  cases src with
  | nil => simp [quotePrefix, quotePrefixGo]
  | cons c cs => simp [quotePrefix, quotePrefixGo]

end GM.Blocks
end Bytes

/-
  part Calc — the calculus of the C08 simulation argument.

  Two runs of the block-phase model are compared: run A on a source `src`, run B on `quotePrefix src`.
  `S2 Q x y`: if the A-side result `x` ended normally, so did the B-side result `y`, and values and states
  are related by `Q` ("forward simulation"; nothing is claimed when A panics). `S2.bind` executes two `do`
  blocks in lock step.

  Reader relation. `R3 src k ls p rA rB`: reader A stands at byte `p` of line `k` of `src` (which starts at
  `ls`), reader B at the same byte of the prefixed source, i.e. at `p + 2·(k+1)`; both without padding (the
  source has no tab). `L3 src k ls rA rB`: both at the START of line `k`, B still in front of its marker
  (`ls + 2·k`), or both at the end of their sources. All reader primitives the block parsers use are related.
-/
section Calc
namespace GM.Blocks
open GM GM.Text GM.Spec GM.Proof.Reader

def S2 {α β : Type} (Q : α → β → St → St → Prop) (x : Except Panic (α × St)) (y : Except Panic (β × St)) : Prop :=
  ∀ a sA, x = .ok (a, sA) → ∃ b sB, y = .ok (b, sB) ∧ Q a b sA sB

theorem S2.ok {α β} {Q : α → β → St → St → Prop} {a b sA sB} (h : Q a b sA sB) :
    S2 Q (.ok (a, sA)) (.ok (b, sB)) := by
  intro a' sA' e; cases e; exact ⟨b, sB, rfl, h⟩

theorem S2.err {α β} {Q : α → β → St → St → Prop} {e y} : S2 Q (.error e : Except Panic (α × St)) y (β := β) := by
  intro a' sA' h; cases h

theorem S2.pure {α β} {Q : α → β → St → St → Prop} {a : α} {b : β} {sA sB : St} (h : Q a b sA sB) :
    S2 Q ((Pure.pure a : M α) sA) ((Pure.pure b : M β) sB) := S2.ok h

theorem S2.mono {α β} {P Q : α → β → St → St → Prop} {x y} (h : S2 P x y)
    (hpq : ∀ a b sA sB, P a b sA sB → Q a b sA sB) : S2 Q x y := by
  intro a sA e
  obtain ⟨b, sB, h1, h2⟩ := h a sA e
  exact ⟨b, sB, h1, hpq _ _ _ _ h2⟩

/-- add a fact about run A's result to a simulation -/
theorem S2.andL {α β} {P : α → β → St → St → Prop} {F : α → St → Prop} {x : Except Panic (α × St)} {y}
    (h : S2 P x y) (hA : ∀ a sA', x = .ok (a, sA') → F a sA') :
    S2 (fun a b sA' sB' => P a b sA' sB' ∧ F a sA') x y := by
  intro a sA e
  obtain ⟨b, sB, h1, h2⟩ := h a sA e
  exact ⟨b, sB, h1, h2, hA a sA e⟩

open GM.Hoare in
/-- the run on D∗ is the postcondition of the run on D, and has to follow it -/
theorem s2_iff {α β} {Q : α → β → St → St → Prop} {x : Except Panic (α × St)} {y : Except Panic (β × St)} :
    S2 Q x y ↔ Out Top (fun p => Out Bot (fun q => Q p.1 q.1 p.2 q.2) y) x :=
  ⟨fun h => Out.top_iff.2 fun p e => Out.bot_iff.2 (let ⟨b, sB, e', hq⟩ := h p.1 p.2 e; ⟨(b, sB), e', hq⟩),
   fun h a sA e => let ⟨q, e', hq⟩ := Out.bot_iff.1 (Out.top_iff.1 h (a, sA) e); ⟨q.1, q.2, e', hq⟩⟩

theorem S2.bind {α β α' β'} {P : α → β → St → St → Prop} {Q : α' → β' → St → St → Prop}
    {mA : M α} {mB : M β} {fA : α → M α'} {fB : β → M β'} {sA sB : St}
    (hm : S2 P (mA sA) (mB sB)) (hf : ∀ a b sA' sB', P a b sA' sB' → S2 Q (fA a sA') (fB b sB')) :
    S2 Q ((mA >>= fA) sA) ((mB >>= fB) sB) :=
  s2_iff.2 (GM.Hoare.Out.bind₂ (s2_iff.1 hm) fun p q h => s2_iff.1 (hf p.1 q.1 p.2 q.2 h))

/-- A runs `mA`, B does nothing -/
theorem S2.bindL {α α' β'} {P : α → St → St → Prop} {Q : α' → β' → St → St → Prop}
    {mA : M α} {fA : α → M α'} {y : Except Panic (β' × St)} {sA sB : St}
    (hm : ∀ a sA', mA sA = .ok (a, sA') → P a sA' sB)
    (hf : ∀ a sA', P a sA' sB → S2 Q (fA a sA') y) :
    S2 Q ((mA >>= fA) sA) y := fun a' sA' e =>
  let ⟨a, sA1, h1, h2⟩ := bind_ok e
  hf a sA1 (hm a sA1 h1) a' sA' h2

/-- B runs `mB` (which ends normally), A does nothing -/
theorem S2.bindR {β α' β'} {Q : α' → β' → St → St → Prop}
    {mB : M β} {fB : β → M β'} {x : Except Panic (α' × St)} {sB sB1 : St} {b : β}
    (hm : mB sB = .ok (b, sB1)) (hf : S2 Q x (fB b sB1)) :
    S2 Q x ((mB >>= fB) sB) := by
  show S2 Q x (StateT.bind mB fB sB)
  unfold StateT.bind
  rw [hm]; exact hf

theorem S2.liftE {α β} {Q : α → β → St → St → Prop} {eA : Except Panic α} {eB : Except Panic β} {sA sB : St}
    (h : ∀ a, eA = .ok a → ∃ b, eB = .ok b ∧ Q a b sA sB) : S2 Q (liftE eA sA) (liftE eB sB) := by
  intro a sA' e
  cases eA with
  | error x => cases e
  | ok a0 =>
    obtain ⟨b, hb, hq⟩ := h a0 rfl
    subst hb
    cases e
    exact ⟨b, sB, rfl, hq⟩

/-- a pure computation both runs make with the same arguments is executed once -/
theorem S2.bind_liftE {α α' β'} {Q : α' → β' → St → St → Prop} {e : Except Panic α} {fA : α → M α'} {fB : α → M β'}
    {sA sB : St} (hf : ∀ a, e = .ok a → S2 Q (fA a sA) (fB a sB)) :
    S2 Q ((GM.Blocks.liftE e >>= fA) sA) ((GM.Blocks.liftE e >>= fB) sB) :=
  S2.bind (P := fun a b sA' sB' => b = a ∧ e = .ok a ∧ sA' = sA ∧ sB' = sB)
    (S2.liftE fun a ha => ⟨a, ha, rfl, ha, rfl, rfl⟩) fun _ _ _ _ ⟨hb, ha, e1, e2⟩ => by subst hb e1 e2; exact hf _ ha

theorem S2.throwL {α β} {Q : α → β → St → St → Prop} {e : Panic} {sA : St} {y} :
    S2 Q ((throw e : M α) sA) y (β := β) := by
  intro a sA' h; cases h

/-- exact execution of one run -/
theorem bind_run {α β} {m : M α} {f : α → M β} {s s1 : St} {a : α} (h : m s = .ok (a, s1)) :
    (m >>= f) s = f a s1 := by
  show StateT.bind m f s = _
  unfold StateT.bind; rw [h]; rfl

/-! ### shifting segments by the markers of line `k` -/

def shK (k : Nat) (s : Segment) : Segment :=
  { s with start := s.start + 2 * ((k : Int) + 1), stop := s.stop + 2 * ((k : Int) + 1) }

theorem shK_len (k : Nat) (s : Segment) : (shK k s).len = s.len := by simp only [Segment.len, shK]; omega

theorem shK_isEmpty (k : Nat) (s : Segment) : (shK k s).isEmpty = s.isEmpty := by
  simp only [Segment.isEmpty, shK]
  congr 1
  exact decide_eq_decide.mpr (by constructor <;> intro _ <;> omega)

/-- a position inside line `k` (which starts at `ls`): at one of its bytes, or at the end of the source
    directly behind a last line without `\n` -/
structure InL (src : Bytes) (k ls p : Nat) : Prop where
  line : LineAt src k ls
  ge : ls ≤ p
  le : p ≤ lineEnd src ls
  eof : p = lineEnd src ls → lineEnd src ls = src.length ∧ src[lineEnd src ls - 1]? ≠ some 10

theorem InL.start {src k ls} (h : LineAt src k ls) : InL src k ls ls :=
  ⟨h, Nat.le_refl _, Nat.le_of_lt (lt_lineEnd src h.lt), fun e => by have := lt_lineEnd src h.lt; omega⟩

theorem InL.lt_iff {src k ls p} (h : InL src k ls p) : p < src.length ↔ p < lineEnd src ls := by
  have := lineEnd_le src ls
  constructor
  · intro hp
    rcases Nat.lt_or_ge p (lineEnd src ls) with h1 | h1
    · exact h1
    · have := h.eof (by have := h.le; omega); omega
  · intro hp; omega

theorem InL.lineEnd_eq {src k ls p} (h : InL src k ls p) : lineEnd src p = lineEnd src ls := by
  rcases Nat.lt_or_ge p (lineEnd src ls) with h1 | h1
  · exact (qp_lineEnd h.line h.ge h1).2
  · have e : p = lineEnd src ls := by have := h.le; omega
    have := (h.eof e).1
    rw [e, this]; exact GM.Proof.Reader.lineEnd_of_ge src (Nat.le_refl _)

/-- the bytes of the line in front of `p` are not `\n` -/
theorem InL.no_nl {src k ls p} (h : InL src k ls p) {q : Nat} (h1 : ls ≤ q) (h2 : q < p) : src[q]? ≠ some 10 := by
  rcases Nat.lt_or_ge (q + 1) (lineEnd src ls) with h3 | h3
  · exact line_no_nl h1 h3
  · have e : p = lineEnd src ls := by have := h.le; omega
    have := (h.eof e).2
    have e2 : q = lineEnd src ls - 1 := by omega
    rw [e2]; exact this

/-- a position further right, in front of the line's end -/
theorem InL.adv_lt {src k ls p} (h : InL src k ls p) {q : Nat} (hpq : p ≤ q) (hlt : q < lineEnd src ls) : InL src k ls q :=
  ⟨h.line, Nat.le_trans h.ge hpq, Nat.le_of_lt hlt, fun e => absurd e (Nat.ne_of_lt hlt)⟩

/-- a position further right on line `k`: not behind the line's end, and at the line's end only if the last byte
    of the line is not `\n` (then the line is the last one of the source) -/
theorem InL.adv_la {src k ls p} (h : InL src k ls p) {q : Nat} (hpq : p ≤ q) (hle : q ≤ lineEnd src ls)
    (hlast : q = lineEnd src ls → src[q - 1]? ≠ some 10) : InL src k ls q := by
  refine ⟨h.line, by have := h.ge; omega, hle, fun e => ?_⟩
  have hl := lineEnd_le src ls
  have hne : src[lineEnd src ls - 1]? ≠ some 10 := by rw [← e]; exact hlast e
  refine ⟨?_, hne⟩
  rcases Nat.lt_or_ge (lineEnd src ls) src.length with h1 | h1
  · exact absurd (line_ends_nl h.line.lt h1) hne
  · omega

/-- `n` bytes that are no `\n`, no padding: `n` steps are `n` bytes on the same line -/
theorem advN_bytes (src : Bytes) (n : Nat) : ∀ (c : RCur), c.pad = 0 →
    (∀ j, j < n → c.p + j < src.length ∧ src[c.p + j]? ≠ some 10) →
    RCur.advN src n c = { c with p := c.p + n } := by
  induction n with
  | zero => intro c _ _; rfl
  | succ n ih =>
    intro c hz hb
    obtain ⟨hp, hnl⟩ := hb 0 (by omega)
    simp only [Nat.add_zero] at hp hnl
    have hb' : ¬ src[c.p] = 10 := by simpa [List.getElem?_eq_getElem hp] using hnl
    have e : RCur.adv1 src c = { c with p := c.p + 1 } := by simp [RCur.adv1, hp, hz, hb']
    simp only [RCur.advN]
    rw [e, ih { c with p := c.p + 1 } hz (fun j hj => by
      have := hb (j + 1) (by omega)
      simp only
      rw [show c.p + 1 + j = c.p + (j + 1) by omega]; exact this)]
    simp; omega

theorem advN_inl {src k ls p} (h : InL src k ls p) (n : Nat) (h' : InL src k ls (p + n)) :
    RCur.advN src n ⟨k, p, 0⟩ = ⟨k, p + n, 0⟩ := by
  rw [advN_bytes src n ⟨k, p, 0⟩ rfl]
  intro j hj
  have hle := lineEnd_le src ls
  have := h'.le
  exact ⟨by simp only; omega, h'.no_nl (by have := h.ge; simp only; omega) (by simp only; omega)⟩

theorem advN_inl_q {src k ls p} (h : InL src k ls p) (n : Nat) (h' : InL src k ls (p + n)) :
    RCur.advN (quotePrefix src) n ⟨k, p + 2 * (k + 1), 0⟩ = ⟨k, p + n + 2 * (k + 1), 0⟩ := by
  rw [advN_bytes (quotePrefix src) n ⟨k, p + 2 * (k + 1), 0⟩ rfl]
  · simp; omega
  intro j hj
  have hle := qp_length_ge h.line
  have h1 := h'.le
  have hq : (quotePrefix src)[p + j + 2 * (k + 1)]? = src[p + j]? :=
    qp_byte h.line (by have := h.ge; omega) (by omega)
  have hnl := h'.no_nl (q := p + j) (by have := h.ge; omega) (by omega)
  simp only
  rw [show p + 2 * (k + 1) + j = p + j + 2 * (k + 1) by omega]
  exact ⟨by omega, by rw [hq]; exact hnl⟩

structure R3 (src : Bytes) (k ls p : Nat) (rA rB : Reader) : Prop where
  tf : ∀ c ∈ src, c ≠ 9
  inl : InL src k ls p
  a : RI src rA ⟨k, p, 0⟩
  b : RI (quotePrefix src) rB ⟨k, p + 2 * (k + 1), 0⟩

structure L3 (src : Bytes) (k ls : Nat) (rA rB : Reader) : Prop where
  tf : ∀ c ∈ src, c ≠ 9
  a : RI src rA ⟨k, ls, 0⟩
  b : RI (quotePrefix src) rB ⟨k, ls + 2 * k, 0⟩
  here : LineAt src k ls ∨ (ls = src.length ∧ (quotePrefix src).length = ls + 2 * k)

/-- the view and the segment at a position of line `k` -/
def viewA (src : Bytes) (ls p : Nat) : Option Bytes :=
  if p < lineEnd src ls then some (sub src p (lineEnd src ls)) else none

def segA (src : Bytes) (ls p : Nat) : Segment := { start := p, stop := lineEnd src ls, padding := 0 }

theorem view_A {src k ls p} (h : InL src k ls p) : RCur.view src ⟨k, p, 0⟩ = viewA src ls p := by
  unfold viewA
  simp only [RCur.view, h.lineEnd_eq, spaces, List.replicate_zero, List.nil_append]
  by_cases hp : p < src.length
  · rw [if_pos hp, if_pos (h.lt_iff.mp hp)]
  · rw [if_neg hp, if_neg (fun h2 => hp (h.lt_iff.mpr h2))]

theorem view_B {src k ls p} (h : InL src k ls p) :
    RCur.view (quotePrefix src) ⟨k, p + 2 * (k + 1), 0⟩ = viewA src ls p := by
  unfold viewA
  have hge := qp_length_ge h.line
  simp only [RCur.view, spaces, List.replicate_zero, List.nil_append]
  by_cases hp : p < lineEnd src ls
  · rw [if_pos hp, if_pos (by omega), (qp_lineEnd h.line h.ge hp).1, qp_sub h.line h.ge (Nat.le_of_lt hp) (Nat.le_refl _)]
  · have e : p = lineEnd src ls := by have := h.le; omega
    have hl := qp_length_end h.line (h.eof e).1
    rw [if_neg hp, if_neg (by have := (h.eof e).1; omega)]

theorem seg_A {src k ls p} (h : InL src k ls p) : RCur.seg src ⟨k, p, 0⟩ = segA src ls p := by
  simp [RCur.seg, segA, h.lineEnd_eq]

theorem seg_B {src k ls p} (h : InL src k ls p) :
    RCur.seg (quotePrefix src) ⟨k, p + 2 * (k + 1), 0⟩ = shK k (segA src ls p) := by
  simp only [RCur.seg, segA, shK, Segment.mk.injEq, and_true, true_and]
  refine ⟨by omega, ?_⟩
  by_cases hp : p < lineEnd src ls
  · rw [(qp_lineEnd h.line h.ge hp).1]; omega
  · have e : p = lineEnd src ls := by have := h.le; omega
    have hl := qp_length_end h.line (h.eof e).1
    rw [GM.Proof.Reader.lineEnd_of_ge _ (by have := (h.eof e).1; omega), hl]
    have := (h.eof e).1; omega

theorem sub_tf {src : Bytes} (tf : ∀ c ∈ src, c ≠ 9) (a b : Nat) : ∀ c ∈ sub src a b, c ≠ 9 :=
  fun c hc => tf c (sub_mem hc)

theorem viewA_tf {src : Bytes} (tf : ∀ c ∈ src, c ≠ 9) (ls p : Nat) : ∀ c ∈ (viewA src ls p).getD [], c ≠ 9 := by
  unfold viewA
  split
  · exact sub_tf tf _ _
  · intro c hc; simp at hc

theorem viewA_length {src : Bytes} (ls p : Nat) : ((viewA src ls p).getD []).length = lineEnd src ls - p := by
  unfold viewA
  split
  · simp only [Option.getD_some]
    rw [GM.Proof.Reader.length_sub src (lineEnd_le src ls)]
  · simp only [Option.getD_none, List.length_nil]; omega

theorem viewA_getElem? (src : Bytes) (ls p i : Nat) :
    ((viewA src ls p).getD [])[i]? = if p + i < lineEnd src ls then src[p + i]? else none := by
  unfold viewA
  by_cases hp : p < lineEnd src ls
  · rw [if_pos hp]
    simp only [Option.getD_some]
    rw [sub_getElem?]
    by_cases hi : i < lineEnd src ls - p
    · rw [if_pos hi, if_pos (by omega)]
    · rw [if_neg hi, if_neg (by omega)]
  · rw [if_neg hp, if_neg (by omega)]; simp

/-- a rest of line that is not empty: the position is in front of the line's end -/
theorem lt_of_viewA_ne {src : Bytes} {ls p : Nat} (h : (viewA src ls p).getD [] ≠ []) : p < lineEnd src ls :=
  Decidable.byContradiction fun hp => h (List.eq_nil_of_length_eq_zero (by rw [viewA_length]; omega))

theorem qp_tf {src : Bytes} (tf : ∀ c ∈ src, c ≠ 9) : ∀ c ∈ quotePrefix src, c ≠ 9 := by
  intro c hc
  rcases qp_mem hc with h | h | h
  · exact tf c h
  · subst h; decide
  · subst h; decide

theorem loVal_A {src k ls p} (tf : ∀ c ∈ src, c ≠ 9) (h : InL src k ls p) (hp : p < src.length) :
    loVal src ⟨k, p, 0⟩ = (p : Int) - ls := by
  have hlt := h.lt_iff.mp hp
  unfold loVal
  simp only [(qp_lineStart h.line h.ge hlt).2]
  rw [colFrom_tabfree _ (sub_tf tf _ _), GM.Proof.Reader.length_sub src (by omega)]
  have := h.ge
  omega

theorem loVal_B {src k ls p} (tf : ∀ c ∈ src, c ≠ 9) (h : InL src k ls p) (hp : p < src.length) :
    loVal (quotePrefix src) ⟨k, p + 2 * (k + 1), 0⟩ = (p : Int) - ls + 2 := by
  have hlt := h.lt_iff.mp hp
  have hge := qp_length_ge h.line
  unfold loVal
  simp only [(qp_lineStart h.line h.ge hlt).1]
  rw [colFrom_tabfree _ (sub_tf (qp_tf tf) _ _), GM.Proof.Reader.length_sub _ (by omega)]
  have := h.ge
  omega

end GM.Blocks
end Calc

/-
  part Shape — the shape of the lines of a source whose last byte is `\n` (and that has no tab
  and no CR): every line ends with `\n`, a blank line is spaces followed by `\n`, and inside a line the
  reader always has a rest of the line in front of it, with a byte that is not a space (the `\n`).
-/
section Shape
namespace GM.Blocks
open GM GM.Text

/-- every line of a source that ends with `\n` ends with `\n` -/
theorem line_nl_of_last {src : Bytes} (hnl : src.getLast? = some 10) {k ls : Nat} (h : LineAt src k ls) :
    src[lineEnd src ls - 1]? = some 10 := by
  have hle := lineEnd_le src ls
  rcases Nat.lt_or_ge (lineEnd src ls) src.length with hlt | hge
  · exact line_ends_nl h.lt hlt
  · have e : lineEnd src ls = src.length := by omega
    rw [e, ← List.getLast?_eq_getElem?]; exact hnl

/-- a space character that is no tab, no `\n`, no CR is a space -/
theorem isSpace_eq_32 {c : UInt8} (hs : isSpace c = true) (h9 : c ≠ 9) (h10 : c ≠ 10) (h13 : c ≠ 13) : c = 32 := by
  simp only [isSpace, Bool.or_eq_true, beq_iff_eq] at hs
  rcases hs with ((hs | hs) | hs) | hs
  · exact absurd hs h9
  · exact absurd hs h10
  · exact absurd hs h13
  · exact hs

/-- a blank line of such a source is spaces followed by `\n` -/
theorem blank_shape_core {src : Bytes} (htf : ∀ c ∈ src, c ≠ 9) (hcr : ∀ c ∈ src, c ≠ 13)
    {k ls : Nat} (h : LineAt src k ls) (hb : isBlank (sub src ls (lineEnd src ls)) = true)
    (hlast : src[lineEnd src ls - 1]? = some 10) :
    ∃ n, sub src ls (lineEnd src ls) = List.replicate n 32 ++ [10] := by
  have hle := lineEnd_le src ls
  have hgt := lt_lineEnd src h.lt
  refine ⟨lineEnd src ls - ls - 1, ?_⟩
  apply List.ext_getElem?
  intro i
  rw [sub_getElem?]
  rcases Nat.lt_trichotomy i (lineEnd src ls - ls - 1) with hi | hi | hi
  · rw [if_pos (by omega), List.getElem?_append_left (by simpa using hi),
      List.getElem?_replicate, if_pos hi]
    have hlt : ls + i < src.length := by omega
    rw [List.getElem?_eq_getElem hlt]
    have hmem : src[ls + i] ∈ src := List.getElem_mem hlt
    have hmemL : src[ls + i] ∈ sub src ls (lineEnd src ls) := by
      apply List.mem_of_getElem? (i := i)
      rw [sub_getElem?, if_pos (by omega), List.getElem?_eq_getElem hlt]
    have hsp : isSpace src[ls + i] = true := by
      unfold isBlank at hb
      exact (List.all_eq_true.mp hb) _ hmemL
    have h10 : src[ls + i] ≠ 10 := by
      have := line_no_nl (src := src) (ls := ls) (p := ls + i) (by omega) (by omega)
      rw [List.getElem?_eq_getElem hlt] at this
      intro e; exact this (by rw [e])
    rw [isSpace_eq_32 hsp (htf _ hmem) h10 (hcr _ hmem)]
  · rw [if_pos (by omega), List.getElem?_append_right (by simp; omega)]
    have e1 : ls + i = lineEnd src ls - 1 := by omega
    have e2 : i - (List.replicate (lineEnd src ls - ls - 1) (32 : UInt8)).length = 0 := by simp; omega
    rw [e1, e2, hlast]; rfl
  · rw [if_neg (by omega)]
    symm
    apply List.getElem?_eq_none
    simp; omega

theorem blank_shape {src : Bytes} (htf : ∀ c ∈ src, c ≠ 9) (hcr : ∀ c ∈ src, c ≠ 13) (hnl : src.getLast? = some 10)
    {k ls : Nat} (h : LineAt src k ls) (hb : isBlank (sub src ls (lineEnd src ls)) = true) :
    ∃ n, sub src ls (lineEnd src ls) = List.replicate n 32 ++ [10] :=
  blank_shape_core htf hcr h hb (line_nl_of_last hnl h)

/-- the same for a source that does not end with a space: a blank line ends with `\n` (a last line without `\n` ends
    with the last byte of the source, which would have to be a space) -/
theorem blank_shape_w {src : Bytes} (htf : ∀ c ∈ src, c ≠ 9) (hcr : ∀ c ∈ src, c ≠ 13)
    (hl : ∀ c, src.getLast? = some c → c ≠ 32)
    {k ls : Nat} (h : LineAt src k ls) (hb : isBlank (sub src ls (lineEnd src ls)) = true) :
    ∃ n, sub src ls (lineEnd src ls) = List.replicate n 32 ++ [10] := by
  refine blank_shape_core htf hcr h hb ?_
  have hle := lineEnd_le src ls
  have hgt := lt_lineEnd src h.lt
  rcases Nat.lt_or_ge (lineEnd src ls) src.length with h1 | h1
  · exact line_ends_nl h.lt h1
  · have e : lineEnd src ls = src.length := by omega
    have hlt : lineEnd src ls - 1 < src.length := by omega
    have hmemL : src[lineEnd src ls - 1] ∈ sub src ls (lineEnd src ls) := by
      apply List.mem_of_getElem? (i := lineEnd src ls - 1 - ls)
      rw [sub_getElem?, if_pos (by omega)]
      have e2 : ls + (lineEnd src ls - 1 - ls) = lineEnd src ls - 1 := by omega
      rw [e2, List.getElem?_eq_getElem hlt]
    have hsp : isSpace src[lineEnd src ls - 1] = true := by
      unfold isBlank at hb
      exact (List.all_eq_true.mp hb) _ hmemL
    have hmem : src[lineEnd src ls - 1] ∈ src := List.getElem_mem hlt
    have h32 : src[lineEnd src ls - 1] ≠ 32 := by
      apply hl
      rw [List.getLast?_eq_getElem?, ← e, List.getElem?_eq_getElem hlt]
    rw [List.getElem?_eq_getElem hlt]
    simp only [isSpace, Bool.or_eq_true, beq_iff_eq] at hsp
    rcases hsp with ((hs | hs) | hs) | hs
    · exact absurd hs (htf _ hmem)
    · rw [hs]
    · exact absurd hs (hcr _ hmem)
    · exact absurd hs h32

/-- inside a line of a source that does not end with a space, a rest of line has a byte that is not a space: the last
    byte of the line (its `\n`, or the last byte of the source) -/
theorem ns_of_last_ne {src : Bytes} (hl : ∀ c, src.getLast? = some c → c ≠ 32) :
    ∀ k ls p, InL src k ls p → p < src.length → ∃ c ∈ (viewA src ls p).getD [], c ≠ 32 := by
  intro k ls p h hps
  have hle := lineEnd_le src ls
  have hp : p < lineEnd src ls := h.lt_iff.mp hps
  have hlt : lineEnd src ls - 1 < src.length := by omega
  refine ⟨src[lineEnd src ls - 1], ?_, ?_⟩
  · unfold viewA
    rw [if_pos hp]
    show src[lineEnd src ls - 1] ∈ sub src p (lineEnd src ls)
    apply List.mem_of_getElem? (i := lineEnd src ls - 1 - p)
    rw [sub_getElem?, if_pos (by omega)]
    have e : p + (lineEnd src ls - 1 - p) = lineEnd src ls - 1 := by omega
    rw [e, List.getElem?_eq_getElem hlt]
  · rcases Nat.lt_or_ge (lineEnd src ls) src.length with h1 | h1
    · have := line_ends_nl h.line.lt h1
      rw [List.getElem?_eq_getElem hlt] at this
      have e : src[lineEnd src ls - 1] = 10 := by simpa using this
      rw [e]; decide
    · have e : lineEnd src ls = src.length := by omega
      apply hl
      rw [List.getLast?_eq_getElem?, ← e, List.getElem?_eq_getElem hlt]

theorem ns_of_last {src : Bytes} (hnl : src.getLast? = some 10) :
    ∀ k ls p, InL src k ls p → p < src.length → ∃ c ∈ (viewA src ls p).getD [], c ≠ 32 :=
  ns_of_last_ne (fun c hc => by rw [hnl] at hc; cases hc; decide)

end GM.Blocks
end Shape
