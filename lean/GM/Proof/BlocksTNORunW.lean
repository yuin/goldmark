/-
  GM.Proof.BlocksTNORunW — the order walk with transformers from one pass over the opened blocks to whole runs (instances of GM.Proof.BlocksLoopRule): `lineLoopT_eqg`, `blocksLoopT_eqg`, `runT_eqg`;
  the guarded twins `[guardE e, tableE e src]` never fire, so `runT [transform, transformPT src]` is total and ends in `InvW`.
-/
import GM.Proof.BlocksTNOOpenW
import GM.Proof.BlocksLsp
import GM.Proof.BlocksTNPTotal

section BlocksTNOLoopW
/-
  One pass of the `for i` loop (`lineLoopT_eqg`) and the outer loops (an instance of GM.Proof.BlocksLoopRule), with two
  transformer lists that agree on guarded paragraphs and the table transformer in the list. The walk carries `InvW0`
  (GM.Proof.BlocksTNOInvW) next to the invariant `X.StableG` of the no-panic walk (GM.Proof.BlocksTNPX*, BlocksTNPTable*), whose lemmas are
  used as black boxes for the first list.
-/

namespace GM.Blocks.TX
open GM GM.Text GM.Spec GM.Proof.Reader GM.Blocks.L GM.Blocks.T GM.Blocks.TR GM.Blocks.TO GM.TableX
open GM.Proof.BlocksWF0 (isRaw)

variable {tb : Prop}


/-- `Continue` of the eight list-free parsers, on a block that is not a Paragraph and whose node has the kind its
    parser builds: the invariant is kept for every bound (a container and the one-line leaves write no node; the raw
    leaves write their own, raw node) -/
theorem bpContinue_invG {src : Bytes} {B : Int} {s s' : St} {st : PState} (bp : BP) (node : Nat) (hi : InvW0 tb src B s)
    (c : RCur) (hri : RI src s.r c)
    (hnl : bp ≠ .list ∧ bp ≠ .listItem) (hnp : bp ≠ .paragraph) (hk : (nd s node).kind = bp.kind)
    (hpc : s'.pc = s.pc) (hn : NodesOK src s') (e : bpContinue bp node s = .ok (st, s'))
    (hx : isRaw bp.kind = true → OrdFrom 0 (nd s' node).lines ∧ Below B (nd s' node).lines) : InvW0 tb src B s' := by
  have same : s' = s → InvW0 tb src B s' := fun h => by rw [h]; exact hi
  have raw : isRaw bp.kind = true → FrN node (bpContinue bp node) → InvW0 tb src B s' := fun hr hf =>
    hi.onlyN (hf.h s st s' e) (by rw [hk]; exact hr) hpc hn (hx hr)
  cases bp
  case setext => exact same (by have e' : (pure stClose : M PState) s = .ok (st, s') := e; exact (pure_ok e').2)
  case thematic => exact same (by have e' : (pure stClose : M PState) s = .ok (st, s') := e; exact (pure_ok e').2)
  case list => exact absurd rfl hnl.1
  case listItem => exact absurd rfl hnl.2
  case code => exact raw rfl codeContinue_frn
  case atx => exact same (by have e' : (pure stClose : M PState) s = .ok (st, s') := e; exact (pure_ok e').2)
  case fenced => exact raw rfl fencedContinue_frn
  case blockquote =>
    have e' : blockquoteContinue node s = .ok (st, s') := e
    unfold blockquoteContinue at e'
    obtain ⟨b, s1, h1, k1⟩ := bind_ok e'
    obtain ⟨r1, c1, hs1, _⟩ := (blockquoteProcess_okl hri).of_ok h1
    have hs' : s' = s1 := by
      split at k1
      · exact (pure_ok k1).2
      · exact (pure_ok k1).2
    rw [hs', hs1]
    exact hi.congr_r r1
  case html => exact raw rfl htmlContinue_frn
  case paragraph => exact absurd rfl hnp

/-- `Continue` of the eight list-free parsers from a clean state, on an open block that is not a Paragraph: the
    invariant up to the line end; and, when the walk over the line goes on (children, or `Close`), the invariant up to
    the line start and `PadL` for the cursor -/
theorem bpContinue_cleanG {src : Bytes} {Lb : Int} {s s' : St} {c c2 : RCur} {st : PState} (be : Block)
    (hc1 : CleanW tb src Lb s c) (hp : c.p < src.length) (hkeys : GM.Blocks.W.KeysOKF s) (hkind : (nd s be.node).kind = be.bp.kind)
    (hnl : be.bp ≠ .list ∧ be.bp ≠ .listItem) (hnp : be.bp ≠ .paragraph)
    (h2c : ContPost src be.bp s c st s') (h4 : bpContinue be.bp be.node s = .ok (st, s')) :
    InvW0 tb src (lineEnd src c.p : Int) s' ∧
      ((st.hasChildren = true ∨ st.cont = false) → InvW0 tb src Lb s' ∧ (RI src s'.r c2 → PadL Lb c2)) := by
  have hr1 := hc1.ri
  have hle := hc1.le
  have hpl := hc1.padl
  have hrc : isRaw be.bp.kind = true → RawC src Lb (lineEnd src c.p : Int) be.node s s' st :=
    fun hr => bpContinue_rawC be.bp be.node hr hr1 hp hle hpl (fun f hf => (hkeys.fence f hf).2.1) h4
  have hge := lineEnd_ge src hr1.inRange
  have h04 : ∀ t ∈ (nd s' be.node).lines, 0 ≤ t.start := fun t ht =>
    ((nodeOK_nd h2c.nodes be.node).lines t ht).1
  have hinvE : InvW0 tb src (lineEnd src c.p : Int) s' :=
    bpContinue_invG be.bp be.node hc1.invE c hr1 hnl hnp hkind h2c.pc h2c.nodes h4 (fun hr =>
      (hrc hr).1.nodeR (hc1.inv.raw be.node (by rw [hkind]; exact hr)) (by omega) h04)
  have hleafraw : isRaw be.bp.kind = true → st.hasChildren = false := fun hr => h2c.leaf (by
    cases hbp : be.bp <;> rw [hbp] at hr <;> first | rfl | exact absurd hr (by decide))
  refine ⟨hinvE, fun hor => ⟨?_, fun hri4 => ?_⟩⟩
  · exact bpContinue_invG be.bp be.node hc1.inv c hr1 hnl hnp hkind h2c.pc h2c.nodes h4 (fun hr => by
      have hcf : st.cont = false := by
        rcases hor with h' | h'
        · rw [hleafraw hr] at h'; cases h'
        · exact h'
      rw [((hrc hr).2 hcf).1]
      exact hc1.inv.raw be.node (by rw [hkind]; exact hr))
  · by_cases hr : isRaw be.bp.kind = true
    · have hcf : st.cont = false := by
        rcases hor with h' | h'
        · rw [hleafraw hr] at h'; cases h'
        · exact h'
      exact ((hrc hr).2 hcf).2 c2 hri4
    · have pureC : (pure stClose : M PState) s = .ok (st, s') → PadL Lb c2 := fun e' => by
        obtain ⟨_, hs4⟩ := pure_ok e'
        rw [hs4] at hri4
        exact padl_of_ri_ri hr1 hri4 hpl
      cases hbp : be.bp <;> rw [hbp] at h4 hr hnl hnp
      case setext => exact pureC h4
      case thematic => exact pureC h4
      case list => exact absurd rfl hnl.1
      case listItem => exact absurd rfl hnl.2
      case code => exact absurd rfl hr
      case atx => exact pureC h4
      case fenced => exact absurd rfl hr
      case blockquote =>
        have e' : blockquoteContinue be.node s = .ok (st, s') := h4
        unfold blockquoteContinue at e'
        obtain ⟨b, s5, h5, k5⟩ := bind_ok e'
        obtain ⟨r5, c5, hs5, hri5, hle5, hb1, hb2⟩ := (blockquoteProcess_okl hr1).of_ok h5
        have hs45 : s' = s5 := by
          split at k5
          · exact (pure_ok k5).2
          · exact (pure_ok k5).2
        rw [hs45, hs5] at hri4
        refine padl_of_ri_ri hri5 hri4 ?_
        cases b with
        | true => intro _; have := hb1 rfl; omega
        | false => rw [hb2 rfl]; exact hpl
      case html => exact absurd rfl hr
      case paragraph => exact absurd rfl hnp


section line
variable {src : Bytes} {pts1 pts2 : List PT} (hag : AgreeP tb src pts1 pts2)
include hag

/-- `openBlocksT(thisParent)` then `closeBlocksT(lastIndex, i)` (parser.go:1108-1121) from a clean state -/
theorem lineTailT_eqg (L : Int) (ob : List Block) (li i : Int) (thisParent : Nat) (blank : Bool) (bl' : List LineStat)
    (s : St) (c : RCur) (hc : CleanW tb src L s c) (hent : Ent s.pc.opened s) (hil : i ≤ li) :
    EQV (fun _ s' => DirtyW tb src s') (lineTailT pts1 ob li i thisParent blank bl') (lineTailT pts2 ob li i thisParent blank bl')
      s := by
  unfold lineTailT
  refine EQV.bind_same (fun ln s1 h1 => ?_)
  obtain ⟨_, hs1⟩ := liftE_ok h1
  subst s1
  refine EQV.bind (openBlocksT_eqg hag L thisParent blank s c hc hent) (fun res s2 _ hd => ?_)
  obtain ⟨E, hE, hstop⟩ := hd
  refine EQV.ite (fun _ => ?_) (fun _ => EQV.pure ⟨E, hE, hstop⟩)
  refine EQV.bind_same (fun pc s3 h3 => ?_)
  obtain ⟨_, hs3⟩ := getPc_ok h3
  subst s3
  refine EQV.bind (closeBlocksT_eqg hag.agree _ _ (by split <;> omega) hE hstop.source) (fun _ s4 _ h4 => ?_)
  obtain ⟨a1, a2, _, _⟩ := h4
  exact EQV.pure ⟨E, a1, hstop.congr a2⟩

/-- the fall-through continuation of one iteration of the `for i` loop -/
theorem lineFTT_eqg (L : Int) (parent : Nat) (ob : List Block) (li i : Int) (blank : Bool) (bl' : List LineStat)
    (s : St) (c : RCur) (hc : CleanW tb src L s c) (hent : Ent s.pc.opened s) (hil : i ≤ li) :
    EQV (fun _ s' => DirtyW tb src s') (lineFTT pts1 parent ob li i blank bl') (lineFTT pts2 parent ob li i blank bl') s := by
  unfold lineFTT
  dsimp only
  refine EQV.ite (fun _ => ?_) (fun _ => ?_)
  · refine EQV.bind_same (fun b s1 h1 => ?_)
    obtain ⟨_, hs1⟩ := liftE_ok h1
    subst s1
    refine EQV.bind_same (fun tp s2 h2 => ?_)
    obtain ⟨htp, hs2⟩ := pure_ok h2
    subst s2
    subst tp
    exact lineTailT_eqg hag L ob li i b.node blank bl' s c hc hent hil
  · refine EQV.bind_same (fun tp s2 h2 => ?_)
    obtain ⟨htp, hs2⟩ := pure_ok h2
    subst s2
    subst tp
    exact lineTailT_eqg hag L ob li i parent blank bl' s c hc hent hil

end line

section run
variable {src : Bytes} (lsp : LSp src) {e : Panic} {pts1 pts2 : List PT} (hag : AgreeP tb src pts1 pts2)
  (hsp : GM.Blocks.L.G.X.PTsSpecX src e pts1)
include lsp hag hsp

omit lsp hag hsp in
/-- what `openBlocksT_eqg` needs of its entry state, from `StableG` -/
theorem ent_of_stable {root : Nat} {s : St} (hst : GM.Blocks.L.G.X.StableG src root s) : Ent s.pc.opened s := by
  refine ⟨hst.leafy, fun lb hl hk p hp => ?_⟩
  have hm := List.mem_of_getLast? hl
  have hbp : lb.bp = .paragraph := kind_paragraph (by rw [← (hst.blocks lb hm).kind]; exact hk)
  obtain ⟨q, hq⟩ := hst.leafLast lb hl (by rw [hbp]; rfl)
  have : p = q := by have := hq.par; rw [hp] at this; cases this; rfl
  subst this
  exact ⟨hq.last, hq.qlt⟩


omit hsp in
/-- one pass of the `for i` loop (parser.go:1081-1123), both transformer lists; hypotheses as `L.G.X.lineLoopL`: `lineLoopT_rule`
    with `InvW0` up to the bound, `DirtyW` afterwards -/
theorem lineLoopT_eqg {root : Nat} (parent : Nat) (hroot : parent = root) (ob : List Block) (li : Int)
    (hli : li = (ob.length : Int) - 1) (Lb : Int) :
    ∀ (rest pre : List Block) (i : Int) (bl : List LineStat) (s : St) (c : RCur), ob = pre ++ rest → i = (pre.length : Int) →
      s.pc.opened = ob → RI src s.r c → PadOK c → GM.Blocks.L.G.X.StableG src root s →
      (∀ Lk, pre.getLast? = some Lk → Lk.bp = .list → ListHint src s c Lk.node) →
      InvW0 tb src Lb s → Lb ≤ c.p → PadL Lb c →
      EQV (fun _ s' => DirtyW tb src s') (lineLoopT pts1 parent ob li rest i bl) (lineLoopT pts2 parent ob li rest i bl) s :=
  lineLoopT_rule (K := InvW0 tb src Lb) (Dy := DirtyW tb src) (Q := fun _ s' => DirtyW tb src s') lsp parent ob li Lb hli
    (lineLayer_stableG src root) loopCalc_eqv (fun h hn ho ht => h.of_same hn ho ht)
    (fun h hri hpad hle hpl => (CleanW.mk h hri hpad hle hpl).dirty) (fun _ _ _ h => h)
    (fun _ s c hk hri hpad hle hpl _ _ _ =>
      (closeBlocksT_eqg hag.agree _ _ (by rw [hli]; omega) (CleanW.mk hk hri hpad hle hpl).invE hri.source).mono
        fun _ s2 h2 => ⟨_, h2.1.congr_r _, ((RI.stop hri).congr h2.2.1).toR.advanceLine.toS⟩)
    (fun be s c c2 st s4 hk hri hpad hle hpl hst hop hbe hp hnl hnp h2c h4 =>
      have hr := bpContinue_cleanG (c2 := c2) be (CleanW.mk hk hri hpad hle hpl) hp hst.keys
        (hst.blocks be (hop ▸ hbe)).kind hnl hnp h2c h4
      have hstop4 : Stop src (lineEnd src c.p : Int) s4 := by
        have := (bpContinue_pres (stop_prims src (lineEnd src c.p : Int)) be.bp be.node).h _ (RI.stop hri)
        rw [h4] at this; exact this
      ⟨⟨_, hr.1, hstop4⟩, hr.2⟩)
    (fun _ be blank _ s c hk hri hpad hle hpl hst _ _ _ _ =>
      openBlocksT_eqg hag Lb be.node blank s c ⟨hk, hri, hpad, hle, hpl⟩ (ent_of_stable hst))
    (fun pre be rest i hob hi blank bl' s c hk hri hpad hle hpl hst _ _ =>
      lineFTT_eqg hag Lb parent ob li i blank bl' s c ⟨hk, hri, hpad, hle, hpl⟩ (ent_of_stable hst) (by
        have : (ob.length : Int) = pre.length + (rest.length + 1) := by rw [hob]; simp
        omega))

omit lsp hag hsp in
/-- `DirtyW` at the end of a line gives `InvW0` up to the start of the next line -/
theorem dirty_nextG {s : St} {c : RCur} (hd : DirtyW tb src s) (hria : RIa src s.r c) :
    InvW0 tb src ((RCur.advanceLine src c).p : Int) { s with r := s.r.advanceLine } := by
  obtain ⟨E, hE, hstop⟩ := hd
  have h1 := GM.Blocks.L.ria_stop hria
  have h2 := hstop.lb
  exact (hE.mono (by show E ≤ (lineEnd src c.p : Int); omega)).congr_r _

/-- one pass over the opened blocks from a line start, as `blocksLoopT_rule` asks for it: with what the no-panic walk knows afterwards -/
theorem lineLoopT_top {root : Nat} (parent : Nat) (hroot : parent = root) (bl : List LineStat) (s : St) (c : RCur)
    (hri : RI src s.r c) (hpad : PadOK c) (hst : GM.Blocks.L.G.X.StableG src root s) (hinv : InvW0 tb src (c.p : Int) s)
    (hp0 : c.pad = 0) :
    EQV (fun _ s' => DirtyW tb src s' ∧ ∃ c1, RIa src s'.r c1 ∧ GM.Blocks.L.G.X.StableG src root s')
      (lineLoopT pts1 parent s.pc.opened ((s.pc.opened.length : Int) - 1) s.pc.opened 0 bl)
      (lineLoopT pts2 parent s.pc.opened ((s.pc.opened.length : Int) - 1) s.pc.opened 0 bl) s :=
  have q := lineLoopT_eqg lsp hag parent hroot s.pc.opened ((s.pc.opened.length : Int) - 1) rfl (c.p : Int)
    s.pc.opened [] 0 bl s c (by simp) (by simp) rfl hri hpad hst (fun Lk h => by simp at h) hinv (Int.le_refl _)
    (fun hne => absurd hp0 hne)
  ⟨q.1, fun y s1 h1 => ⟨q.2 y s1 h1,
    oke_of_ok (GM.Blocks.L.G.X.lineLoopL lsp hsp parent hroot s.pc.opened ((s.pc.opened.length : Int) - 1) rfl
      s.pc.opened [] 0 bl s c (by simp) (by simp) rfl hri hpad hst (fun Lk h => by simp at h)) h1⟩⟩

/-- `openBlocksT` at the top of the outer loop, nothing open, likewise -/
theorem openBlocksT_top {root : Nat} (parent : Nat) (hroot : parent = root) (blank : Bool) (s : St) (c : RCur)
    (hri : RI src s.r c) (hpad : PadOK c) (hst : GM.Blocks.L.G.X.StableG src root s) (hemp : s.pc.opened = [])
    (hinv : InvW0 tb src (c.p : Int) s) (hp0 : c.pad = 0) :
    EQV (fun _ s' => DirtyW tb src s' ∧ ∃ c2, RIa src s'.r c2 ∧ GM.Blocks.L.G.X.StableG src root s')
      (openBlocksT pts1 parent blank) (openBlocksT pts2 parent blank) s :=
  have q := openBlocksT_eqg hag (c.p : Int) parent blank s c ⟨hinv, hri, hpad, Int.le_refl _, fun hne => absurd hp0 hne⟩
    (ent_of_stable hst)
  ⟨q.1, fun res s4 h4 => ⟨q.2 res s4 h4, GM.Blocks.L.G.X.stableG_top lsp hsp hroot hri hpad hst hemp h4⟩⟩

/-- the outer loop of parseBlocksT (parser.go:1055-1127), both transformer lists -/
theorem blocksLoopT_eqg {root : Nat} (parent : Nat) (hroot : parent = root) :
    ∀ (fuel : Nat) (bl : List LineStat) (s : St) (c : RCur), RI src s.r c → PadOK c → GM.Blocks.L.G.X.StableG src root s →
      s.pc.opened = [] → InvW0 tb src (c.p : Int) s → c.pad = 0 →
      EQV (fun _ s' => ∃ E, InvW0 tb src E s') (blocksLoopT pts1 parent fuel bl) (blocksLoopT pts2 parent fuel bl) s :=
  blocksLoopT_rule (ST := GM.Blocks.L.G.X.StableG src root) (K := InvW0 tb src) (Dy := DirtyW tb src) (De := fun _ => True)
    parent (fun r h => h.congr_r r) (fun h hi => hi.mono h) (fun r hi => hi.congr_r r) (fun hd hria => dirty_nextG hd hria)
    (fun bl s c hri hpad hst hinv hp0 =>
      (lineLoopT_top lsp hag hsp parent hroot bl s c hri hpad hst hinv hp0).mono fun _ _ h => ⟨h.1, fun _ => trivial, h.2⟩)
    (fun blank s c hri hpad hst hemp hinv hp0 =>
      (openBlocksT_top lsp hag hsp parent hroot blank s c hri hpad hst hemp hinv hp0).mono fun _ _ h => ⟨h.1, fun _ => trivial, h.2⟩)
    (fun B _ h _ => ⟨B, h⟩) (fun _ hd _ => by obtain ⟨E, hE, _⟩ := hd; exact ⟨E, hE⟩)

end run

end GM.Blocks.TX
end BlocksTNOLoopW

section BlocksTNORunW
/-
  Whole runs with the table transformer behind the link reference transformer: the two-transformer
  lists agree (`agreeP_two`), the checked twins `[guardE e, tableE e src]` meet the wide contract; the run-time checks never
  fire, the block phase ends normally, and `InvW0` holds of the final store.
-/

namespace GM.Blocks.TX
open GM GM.Text GM.Spec GM.Proof.Reader GM.Blocks.L GM.Blocks.T GM.LinkRef GM.Blocks.TO GM.TableX
open GM.Proof.BlocksWF0 (isRaw)

variable {tb : Prop}

theorem wfSegsFrom_tbl (src : Bytes) : ∀ (segs : List Segment) (lo : Int), 0 ≤ lo → wfSegsFromB src lo segs = true →
    TO.tblLinesB src segs = true
  | [], _, _, _ => rfl
  | sg :: rest, lo, hlo, h => by
    simp only [wfSegsFromB, Bool.and_eq_true, decide_eq_true_eq, Bool.not_eq_true'] at h
    obtain ⟨⟨⟨⟨⟨h1, h2⟩, h3⟩, h4⟩, h5⟩, h6⟩ := h
    have ih := wfSegsFrom_tbl src rest sg.stop (by omega) h6
    unfold TO.tblLinesB at ih ⊢
    simp only [List.all_cons, Bool.and_eq_true]
    refine ⟨?_, ih⟩
    simp only [validB, Bool.and_eq_true, decide_eq_true_eq, Bool.not_eq_true']
    exact ⟨⟨⟨⟨⟨by omega, by omega⟩, h3⟩, h4⟩, h5⟩, h2⟩

theorem tblLinesB_of_linesOKB {src : Bytes} {ls : List Segment} (h : linesOKB src ls = true) : TO.tblLinesB src ls = true := by
  unfold linesOKB at h
  simp only [Bool.or_eq_true, beq_iff_eq, Bool.and_eq_true] at h
  rcases h with h | ⟨h, _⟩
  · rw [List.length_eq_zero_iff.1 h]; rfl
  · unfold wfSegsB at h
    simp only [Bool.and_eq_true] at h
    exact wfSegsFrom_tbl src ls 0 (Int.le_refl _) h.2

theorem tblLinesB_drop {src : Bytes} {ls : List Segment} (k : Nat) (h : TO.tblLinesB src ls = true) :
    TO.tblLinesB src (ls.drop k) = true := by
  unfold TO.tblLinesB at h ⊢
  simp only [List.all_eq_true] at *
  exact fun x hx => h x (List.mem_of_mem_drop hx)

/-- a one-element transformer list against the bare `transform`: enough that the transformer IS `transform` whenever
    the lines pass the check `linesOKB` -/
theorem agreeP_of_passes (src : Bytes) (pt : PT)
    (hpass : ∀ (node : Nat) (s : St), linesOKB s.r.source (nd s node).lines = true → pt node s = transform node s) :
    AgreeP tb src [pt] [transform] := by
  intro node s hsrc _ _ _ hok
  have hok' : linesOKB s.r.source (nd s node).lines = true := by rw [hsrc]; exact hok
  unfold transformParagraph
  refine EQV.bind (P := fun _ s' => PTPost node s s') ⟨hpass node s hok', fun a s' e => ?_⟩ (fun _ s2 _ h2 => ?_)
  · rw [hpass node s hok'] at e
    exact transform_post node s s' (GM.Proof.LinkRefTot2.linesOKB_sound hok') e
  · refine EQV.refl (fun g s' k => ?_)
    obtain ⟨n, s3, h3, k3⟩ := bind_ok k
    obtain ⟨hn, hs3⟩ := getNode_ok h3
    subst s3
    split at k3
    · obtain ⟨hg, hs'⟩ := pure_ok k3
      rw [hs']; exact ⟨.inl h2, fun h => by rw [hg] at h; cases h⟩
    · next hc =>
      unfold transformParagraph at k3
      obtain ⟨_, hs'⟩ := pure_ok k3
      rw [hs']
      refine ⟨.inl h2, fun _ => ?_⟩
      cases hp : (nd s2 node).parent with
      | none =>
        exfalso; apply hc; rw [hn]
        show (nd s2 node).parent.isNone = true
        rw [hp]; rfl
      | some q => rfl

/-- two lists `[a, b]` whose first transformers are `GM.LinkRef.transform` on lines that pass its check and whose second
    transformers are `transformPT src` on fit lines do the same, and what `PTPostW` says -/
theorem agreeP_two (src : Bytes) (a1 a2 b1 b2 : PT)
    (ha1 : ∀ (node : Nat) (s : St), linesOKB s.r.source (nd s node).lines = true → a1 node s = transform node s)
    (ha2 : ∀ (node : Nat) (s : St), linesOKB s.r.source (nd s node).lines = true → a2 node s = transform node s)
    (hb1 : ∀ (node : Nat) (s : St), TO.tblLinesB src (nd s node).lines = true → b1 node s = transformPT src node s)
    (hb2 : ∀ (node : Nat) (s : St), TO.tblLinesB src (nd s node).lines = true → b2 node s = transformPT src node s) :
    AgreeP True src [a1, b1] [a2, b2] := by
  intro node s hsrc hlt _ _ hok
  have hok' : linesOKB s.r.source (nd s node).lines = true := by rw [hsrc]; exact hok
  unfold transformParagraph
  refine EQV.bind (P := fun _ s1 => PTPost node s s1) ⟨by rw [ha1 node s hok', ha2 node s hok'], fun a s1 e => ?_⟩
    (fun _ s1 _ h1 => ?_)
  · rw [ha1 node s hok'] at e
    exact TO.transform_post node s s1 (GM.Proof.LinkRefTot2.linesOKB_sound hok') e
  · refine EQV.bind_same (fun n s2 h2 => ?_)
    obtain ⟨hn, hs2⟩ := getNode_ok h2
    subst s2
    refine EQV.ite (fun _ => EQV.pure ⟨.inl h1, fun h => by cases h⟩) (fun _ => ?_)
    have hv1 : TO.tblLinesB src (nd s1 node).lines = true := by
      obtain ⟨k, hk⟩ := ptpost_lines hlt h1 node
      rw [hk]; exact tblLinesB_drop k (tblLinesB_of_linesOKB hok)
    unfold transformParagraph
    refine EQV.bind (P := fun _ s3 => PTPostW True src node s s3) ⟨by rw [hb1 node s1 hv1, hb2 node s1 hv1], fun a s3 e => ?_⟩
      (fun _ s3 _ h3 => ?_)
    · rw [hb1 node s1 hv1] at e
      rcases transformPT_data src e with ⟨_, hs⟩ | ⟨t, htb, _, hT⟩
      · subst hs; exact .inl h1
      · exact .inr ⟨trivial, s1, t, h1, htb, hT⟩
    · refine EQV.bind_same (fun n4 s4 h4 => ?_)
      obtain ⟨hn4, hs4⟩ := getNode_ok h4
      subst s4
      refine EQV.ite (fun _ => EQV.pure ⟨h3, fun h => by cases h⟩) (fun hc => ?_)
      unfold transformParagraph
      refine EQV.pure ⟨h3, fun _ => ?_⟩
      cases hp : (nd s3 node).parent with
      | none =>
        exfalso; apply hc; rw [hn4]
        show (nd s3 node).parent.isNone = true
        rw [hp]; rfl
      | some q => rfl

theorem agreeP_twins (src : Bytes) (e : Panic) : AgreeP True src [guardE e, tableE e src] [transform, transformPT src] :=
  agreeP_two src _ _ _ _ (fun node s h => GM.Proof.LinkRefTot2.guardE_passes e node s h) (fun _ _ _ => rfl)
    (fun node s h => tableE_passes e src node s h) (fun _ _ _ => rfl)

theorem agreeP_twins_guarded (src : Bytes) (e : Panic) :
    AgreeP True src [guardE e, tableE e src] [guardedTransform, transformPT src] :=
  agreeP_two src _ _ _ _ (fun node s h => GM.Proof.LinkRefTot2.guardE_passes e node s h)
    (fun node s h => guardedTransform_passes node s h)
    (fun node s h => tableE_passes e src node s h) (fun _ _ _ => rfl)

/-! ### the checked twins against the wide contract -/

theorem tableE_ptok (e : Panic) (he : e ≠ .loop) (src : Bytes) : PTOK (tableE e src) := by
  intro I hI node
  constructor
  intro s hs
  by_cases hv : TO.tblLinesB src (nd s node).lines = true
  · rw [tableE_passes e src node s hv]
    exact (GM.Blocks.transformPT_ptok src I hI node).h s hs
  · rw [tableE_fails e src node s hv]
    exact he

theorem twins_specX (src : Bytes) (e : Panic) : GM.Blocks.L.G.X.PTsSpecX src e [guardE e, tableE e src] := by
  intro pt hpt
  simp only [List.mem_cons, List.not_mem_nil, or_false] at hpt
  rcases hpt with rfl | rfl
  · exact GM.Blocks.L.G.X.ptSpecX_of_ptSpec (GM.Proof.LinkRefTot2.guardE_spec src e)
  · exact tableE_specX src e

theorem twins_ptsOK (src : Bytes) (e : Panic) (he : e ≠ .loop) : PTsOK [guardE e, tableE e src] := by
  intro pt hpt
  simp only [List.mem_cons, List.not_mem_nil, or_false] at hpt
  rcases hpt with rfl | rfl
  · exact GM.Proof.LinkRefTot2.guardE_ptok e he
  · exact tableE_ptok e he src

theorem stableG_st0 (src : Bytes) : GM.Blocks.L.G.X.StableG src 0 (st0 src) := by
  have hnd0 := nd_st0 src
  refine ⟨nodesOK_st0 src, ⟨?_⟩, ?_, ?_, ⟨⟨?_, ?_, ?_⟩, ?_, ?_, ?_, ?_, ?_⟩, ?_, ?_, (fun ⟨b, hb, _⟩ => by simp at hb), ?tree,
    (fun lb hlb _ => by simp at hlb), (fun t h => by simp [initSt] at h)⟩
  case tree =>
    refine ⟨fun i p hp => ?_, fun p i hi => ?_, fun p => ?_⟩
    · rw [hnd0] at hp; split at hp <;> cases hp
    · rw [hnd0] at hi; split at hi <;> cases hi
    · rw [hnd0]; split <;> exact List.nodup_nil
  · intro f h; simp [initSt] at h
  · intro b hb; simp at hb
  · intro b hb; simp at hb
  · intro i lc hk; rw [hnd0] at hk; split at hk <;> cases hk
  · intro i hk; rw [hnd0] at hk; split at hk <;> cases hk
  · intro i p hp; rw [hnd0] at hp; split at hp <;> cases hp
  · intro i p hp; rw [hnd0] at hp; split at hp <;> cases hp
  · rw [hnd0]; rfl
  · simp [initSt]
  · intro b hb; simp at hb
  · simp
  · trivial
  · show (nd _ (lastNode 0 [])).kind ≠ .list
    rw [lastNode_nil, hnd0]; decide

theorem invG_st0 (src : Bytes) : InvW0 tb src ((RCur.init).p : Int) (st0 src) := by
  have hnd0 := nd_st0 src
  refine ⟨fun i _ _ => ?_, List.Pairwise.nil, fun i hk => ?_, fun t ht => ?_, fun b hb => ?_, nodesOK_st0 src, fun t ht => ?_,
    fun i _ => ?_, fun i hk => ?_, fun b hb => (by simp at hb)⟩
  · rw [hnd0]; split
    · exact ⟨trivial, fun _ => Below.nil _, fun t ht => by cases ht⟩
    · exact ⟨trivial, fun _ => Below.nil _, fun t ht => by cases ht⟩
  · rw [hnd0] at hk; split at hk <;> cases hk
  · simp [initSt] at ht
  · simp at hb
  · simp [initSt] at ht
  · rw [hnd0]; split
    · exact ⟨trivial, Below.nil _⟩
    · exact ⟨trivial, Below.nil _⟩
  · rw [hnd0] at hk; split at hk <;> cases hk

section run
variable {src : Bytes} {e : Panic} {pts1 pts2 : List PT}

theorem runT_eqg (hag : AgreeP tb src pts1 pts2) (hsp : GM.Blocks.L.G.X.PTsSpecX src e pts1) :
    runT pts1 src = runT pts2 src ∧ ∀ s, runT pts1 src = .ok s → ∃ E, InvW0 tb src E s := by
  have hb := blocksLoopT_eqg (lsp_all src) hag hsp 0 rfl (linesFuel src) [] (st0 src) RCur.init (ri_init src)
    (fun h => absurd rfl h) (stableG_st0 src) rfl (invG_st0 src) rfl
  unfold runT
  rw [parseBlocksT_eq pts1, parseBlocksT_eq pts2, ← hb.1]
  refine ⟨rfl, fun s hs => ?_⟩
  cases hx : blocksLoopT pts1 0 (linesFuel src) [] (st0 src) with
  | error e' => rw [hx] at hs; cases hs
  | ok p =>
    obtain ⟨u, s1⟩ := p
    rw [hx] at hs
    have : s1 = s := by simpa [Except.map] using hs
    subst this
    exact hb.2 u s1 hx

end run


/-- **the run-time checks of the twins never fire**: the block phase with `[guardE e, tableE e src]` and the block phase
    with `[transform, transformPT src]` are the same run -/
theorem twins_never_fire (src : Bytes) (e : Panic) :
    runT [guardE e, tableE e src] src = runT [transform, transformPT src] src :=
  (runT_eqg (agreeP_twins src e) (twins_specX src e)).1

/-- **the block phase with the link reference transformer and the table transformer ends normally** -/
theorem runT_tableX_total (src : Bytes) :
    ∃ s, runT [transform, transformPT src] src = .ok s ∧ NodesOK src s := by
  have h1 := GM.Blocks.T.runT_totalX src .nil [guardE .nil, tableE .nil src] (twins_specX src .nil)
    (twins_ptsOK src .nil (by decide))
  have h2 := GM.Blocks.T.runT_totalX src .slice [guardE .slice, tableE .slice src] (twins_specX src .slice)
    (twins_ptsOK src .slice (by decide))
  rw [twins_never_fire src _] at h1 h2
  rcases h1 with ⟨s, a, b, _⟩ | h1
  · exact ⟨s, a, b⟩
  · rcases h2 with ⟨s, a, b, _⟩ | h2
    · exact ⟨s, a, b⟩
    · rw [h1] at h2; cases h2

/-- the check of `guardedTransform` never fires in front of the table transformer either -/
theorem guarded_tableX_eq (src : Bytes) :
    runT [guardedTransform, transformPT src] src = runT [transform, transformPT src] src := by
  have h1 := (runT_eqg (agreeP_twins src .nil) (twins_specX src .nil)).1
  have h2 := (runT_eqg (agreeP_twins_guarded src .nil) (twins_specX src .nil)).1
  rw [← h2, h1]

/-- the order invariant of the final store -/
theorem runT_tableX_inv (src : Bytes) (s : St) (hr : runT [transform, transformPT src] src = .ok s) :
    ∃ E, InvG src E s := by
  rw [← twins_never_fire src .nil] at hr
  obtain ⟨E, hE⟩ := (runT_eqg (agreeP_twins src .nil) (twins_specX src .nil)).2 s hr
  exact ⟨E, hE.toX⟩

end GM.Blocks.TX
end BlocksTNORunW
