/-
  GM.Proof.ShiftSimXTop5 — the store invariant `tl_GP` of `ShiftSimXTop3` through the driver:
  `setextClose` keeps it (`gp_setextClose`), hence every `Close`; the driver functions by the rule of
  GM.Proof.BlocksDriverKeeps (`driverOps_gp`): `openBlocks` (`gp_openBlocks`) and one pass of `lineLoop` (`gp_lineLoop`).
-/
import GM.Proof.ShiftSimXTop3
import GM.Proof.ConvertHWFOpen

namespace GM.Blocks.Xs
open GM GM.Text GM.Spec GM.Proof.Reader GM.Blocks GM.Blocks.L
open GM.Blocks.Sh (K tpJp1 tpJp2 tpJp3 tpSome)

theorem tl_GP.congr_r {s : St} (h : tl_GP s) (r' : Reader) : tl_GP { s with r := r' } := h

variable {ps : List Nat}

theorem gp_setextClose (n : Nat) : Keeps (tl_GPc ps) (setextClose n) := by
  intro s a s' hs h
  obtain ⟨s1, s2, l1, hmid, l2⟩ := Sh.setextClose_link h
  -- the parent of `n`, read at the start, is a container of the store: it joins `ps` for the run
  have key : ∀ qs : List Nat, tl_GPc qs s → (∀ p c, Sh.SetextL s n p c → p ∈ qs) → tl_GPc qs s' := by
    intro qs hq hL
    have h1 : tl_GPc qs s1 := tl_g_link (l1.mono (fun p c hl => hL p c hl) id fun _ h => h) hq
    have h2 : tl_GPc qs s2 := by
      rcases hmid with rfl | ⟨v, hp, hc, hk, rfl⟩
      · exact h1
      · exact tl_g_set s1 n v h1 hk (fun hne => .inl (hc ▸ hne)) (fun q hq => .inl (hp ▸ hq))
    exact tl_g_link (l2.mono (fun p c hl => hL p c hl) id fun _ h => h) h2
  cases hpar : (nd s n).parent with
  | none => exact key ps hs fun p c hl => nomatch hl.1.symm.trans hpar
  | some p0 =>
    refine (key (p0 :: ps) (hs.add (hs.1.2 n p0 hpar)) fun p c hl => ?_).weaken
    have := hl.1.symm.trans hpar
    cases this
    exact List.mem_cons_self

theorem gp_bpClose (bp : BP) (n : Nat) : Keeps (tl_GPc ps) (bpClose bp n) := by
  by_cases h : bp = .setext
  · subst h
    exact gp_setextClose n
  · exact tl_g_bpClose bp h n

/-- the candidate loop asks for a retry only below the node just opened, and only when `Open` answered `HasChildren` -/
def gp_RQ (node : Nat) (state : PState) (x : TryOutcome × OpenResult × Option Block) : Prop :=
  ∀ p, x.1 = .retry p → p = node ∧ state.hasChildren = true

macro "gp_ret" : tactic =>
  `(tactic| repeat' first
    | assumption
    | with_reducible apply Ret.bind
    | with_reducible apply Ret.ite
    | with_reducible apply Ret.throw
    | intro_pi
    | split)

theorem gp_tpJp2_ret (parent node : Nat) (bp : BP) (state : PState) (lastBlock : Option Block) :
    Ret (tpJp2 parent node bp state lastBlock) (gp_RQ node state) := by
  unfold tpJp2
  refine Ret.bind fun _ => Ret.bind fun _ => ?_
  split
  · next hc =>
    refine Ret.pure fun p e => ?_
    have e' : TryOutcome.retry node = .retry p := e
    cases e'
    exact ⟨rfl, hc⟩
  · refine Ret.pure fun p e => ?_
    have e' : TryOutcome.done = .retry p := e
    cases e'

theorem gp_tpJp1_ret (parent node : Nat) (bp : BP) (state : PState) (lastBlock : Option Block) (blankLine : Bool)
    (last : Option Nat) : Ret (tpJp1 parent node bp state lastBlock blankLine last) (gp_RQ node state) := by
  have := gp_tpJp2_ret parent node bp state lastBlock
  unfold tpJp1; gp_ret

theorem gp_tpJp3_ret (parent node : Nat) (bp : BP) (state : PState) (lastBlock : Option Block) (blankLine : Bool)
    (last : Option Nat) (lb : Block) (blocks : List Block) :
    Ret (tpJp3 parent node bp state lastBlock blankLine last lb blocks) (gp_RQ node state) := by
  have := gp_tpJp1_ret parent node bp state lastBlock blankLine last
  unfold tpJp3; gp_ret

theorem gp_tpSome_ret (parent node : Nat) (bp : BP) (state : PState) (lastBlock : Option Block) (blankLine : Bool)
    (last : Option Nat) : Ret (tpSome parent node bp state lastBlock blankLine last) (gp_RQ node state) := by
  have := gp_tpJp1_ret parent node bp state lastBlock blankLine last
  have := fun lb blocks => gp_tpJp3_ret parent node bp state lastBlock blankLine last lb blocks
  unfold tpSome
  repeat' first
    | assumption
    | apply_hyp
    | with_reducible apply Ret.bind
    | with_reducible apply Ret.ite
    | with_reducible apply Ret.throw
    | intro_pi
    | split

/-- a container node of the store -/
def gp_CN (s : St) (p : Nat) : Prop := p < s.nodes.length ∧ tl_cont (nd s p).kind = true

/-! ### the driver (GM.Proof.BlocksDriverKeeps): `tl_GP` is kept by steps along which container nodes stay container nodes;
    a parent is a container node of the store -/

/-- a step that keeps `tl_GPc ps` for every `ps` (that contains `l`) keeps `tl_GP` and every container node -/
theorem gp_rel {α} {m : M α} (l : List Nat) (hm : ∀ ps, (∀ q ∈ l, q ∈ ps) → Keeps (tl_GPc ps) m) (s : St) (a : α) (s' : St)
    (hs : tl_GP s) (hl : ∀ q ∈ l, gp_CN s q) (e : m s = .ok (a, s')) : tl_GP s' ∧ ∀ p, gp_CN s p → gp_CN s' p :=
  ⟨(hm l (fun _ h => h) s a s' ⟨hs, hl⟩ e).1, fun p hp =>
    (hm (p :: l) (fun _ h => List.mem_cons_of_mem _ h) s a s'
      ⟨hs, fun q hq => (List.mem_cons.1 hq).elim (fun e => e ▸ hp) (hl q)⟩ e).2 p List.mem_cons_self⟩

theorem driverOps_gp :
    DriverOps tl_GP (fun A => ∀ s s', (∀ p, gp_CN s p → gp_CN s' p) → A s → A s') (fun _ _ => True) (fun p s => gp_CN s p)
      (fun _ _ p s => gp_CN s p) bpClose (transformParagraph []) :=
  DriverOps.ofRel (R := fun s s' => ∀ p, gp_CN s p → gp_CN s' p) (hB := fun _ _ _ _ h => h) (hP := fun p _ _ r h => r p h)
    (hAtt := fun _ _ p _ _ r h => r p h) (stack := fun _ _ _ _ => trivial)
    (hpeek := fun s a s' hs e => gp_rel [] (fun _ _ => peekLine_keeps tl_g_noR) s a s' hs (fun _ h => nomatch h) e)
    (hoff := fun s a s' hs e => gp_rel [] (fun _ _ => lineOffset_keeps tl_g_noR) s a s' hs (fun _ h => nomatch h) e)
    (hadv := fun s a s' hs e => gp_rel [] (fun _ _ => advanceLine_keeps tl_g_noR) s a s' hs (fun _ h => nomatch h) e)
    (hskip := fun s a s' hs e => gp_rel [] (fun _ _ => skipBlankLinesR_keeps tl_g_noR) s a s' hs (fun _ h => nomatch h) e)
    (hpcw := fun _ _ hs _ => ⟨hs, fun _ h => h⟩) (hopened := fun _ _ hs _ => ⟨hs, fun _ h => h⟩)
    (hblank := fun _ c _ bl s a s' hs _ e =>
      gp_rel [] (fun ps _ => (by tl_gw : Keeps (tl_GPc ps) (modNode c fun n => { n with blankPrev := bl }))) s a s' hs
        (fun _ h => nomatch h) e)
    (happend := fun _ c p s a s' hs hc e =>
      gp_rel [p] (fun _ h => tl_g_appendChild p c (h p List.mem_cons_self)) s a s' hs
        (fun q hq => List.mem_singleton.1 hq ▸ hc.2) e)
    (hopn := fun bp p s a s' hs hp e =>
      have h1 := gp_rel [] (fun _ _ => tl_g_bpOpen bp p) s a s' hs (fun _ h => nomatch h) e
      ⟨h1, fun id hid => ⟨trivial, h1.2 p hp, fun hc => by
        obtain ⟨_, o2, o3⟩ := ((GM.ConvertH.bpOpen_oj bp p).h s a s' e).2 id hid
        have o3' : (nd s' id).kind = GM.ConvertH.BP.kindOf bp := o3
        refine ⟨o2, ?_⟩
        rw [o3']
        cases bp <;> first | rfl | cases hc⟩⟩)
    (hcont := fun b s a s' hs _ e => gp_rel [] (fun _ _ => tl_g_bpContinue b.node b.bp) s a s' hs (fun _ h => nomatch h) e)
    (hclose := fun b s a s' hs _ e => gp_rel [] (fun _ _ => gp_bpClose b.bp b.node) s a s' hs (fun _ h => nomatch h) e)
    (htp := fun _ s _ _ hs _ e => by rw [transformParagraph_nil] at e; cases e; exact ⟨hs, fun _ h => h⟩)

theorem gp_openBlocks (parent : Nat) (blank : Bool) (s s' : St) (x : OpenResult) (hg : tl_GP s)
    (hp : parent < s.nodes.length) (hc : tl_cont (nd s parent).kind = true)
    (h : openBlocks parent blank s = .ok (x, s')) : tl_GP s' :=
  (Hoare.Tri.top_iff.1 (driverOps_gp.openBlocks_keeps (A := fun t => gp_CN t parent) (fun _ _ r h => r parent h) parent
    (fun _ hs => hs.2) blank) s x s' ⟨hg, hp, hc⟩ h).1

/-- one pass of `lineLoop` over the open blocks keeps `tl_GP`: every block of the stack but the last is a container
    parser's (`Leafy`), and those have container nodes -/
theorem gp_lineLoop {src : Bytes} (ob : List Block) (s s' : St) (bl : List LineStat)
    (x : LineOutcome × List LineStat) (hg : tl_GP s) (hk : K s) (hst : StableL src 0 s) (hob : s.pc.opened = ob)
    (h : lineLoop 0 ob ((ob.length : Int) - 1) ob 0 bl s = .ok (x, s')) : tl_GP s' := by
  have hcn : ∀ z ∈ ob, z.bp.isContainer = true → gp_CN s z.node := by
    intro z hz hc
    have hb := hst.blocks z (hob ▸ hz)
    refine ⟨hb.lt, ?_⟩
    rw [hb.kind]
    cases hbp : z.bp <;> rw [hbp] at hc <;> first | rfl | cases hc
  have h0 : gp_CN s 0 := by
    refine ⟨hk.doc.1, ?_⟩
    have hd : (s.nodes.getD 0 default).kind = .document := hk.doc.2.1.2
    show tl_cont (s.nodes.getD 0 default).kind = true
    rw [hd]; rfl
  have hleafy : Leafy ob := hob ▸ hst.leafy
  exact (Hoare.Tri.top_iff.1 (driverOps_gp.lineLoop_keeps
    (A := fun t => gp_CN t 0 ∧ ∀ z ∈ ob, z.bp.isContainer = true → gp_CN t z.node)
    (fun _ _ r h => ⟨r 0 h.1, fun z hz hc => r z.node (h.2 z hz hc)⟩) 0 (fun _ hs => hs.2.1) ob (fun _ _ _ _ => trivial)
    (fun _ hs => hs.2.2) _ ob (fun _ hb => hb) 0
    (fun _ hs j _ h2 b hb =>
      have hd := mem_dropLast_of_blockAt hb (by omega)
      hs.2.2 b (List.dropLast_subset _ hd) (hleafy b hd)) bl) s x s' ⟨hg, h0, hcn⟩ h).1

end GM.Blocks.Xs
