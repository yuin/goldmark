/-
  GM.Proof.QuoteSimMain — the line-by-line induction: run A (`parseBlocks` on `src`) against run B (on
  `quotePrefix src`).
-/
import GM.Proof.QuoteSimFirst
import GM.Proof.QuoteSimInvNE
import GM.Proof.QuoteSimMid

namespace GM.Blocks
open GM GM.Text GM.Spec GM.Proof.Reader

/-! ### run A: the outer loop of parseBlocks with its SkipBlankLines generalised over fuel and line counter -/

def skipFrom (sf : Nat) (lines : Int) : M (Segment × Int × Bool) := fun s => do
  let (x, r) ← skipBlankLines readerOps sf lines s.r
  pure (x, { s with r := r })

/-- parser.go:1059-1127 after SkipBlankLines -/
def blocksBody (fo : Nat) (stA : List LineStat) (x : Segment × Int × Bool) : M Unit :=
  match x with
  | (_, lines, ok) =>
    if (!ok) = true then pure ()
    else do
      let y ← position
      match y with
      | (lineNum, _) => do
        let pc ← getPc
        let d ← openBlocks 0 (isBlankLine (lineNum - 1) 0
          (if (lines != 0) = true then blankStats lineNum lines pc.opened.length else stA))
        if (d != OpenResult.newBlocksOpened) = true then pure ()
        else do
          advanceLine
          let z ← linesLoop 0 fo (if (lines != 0) = true then blankStats lineNum lines pc.opened.length else stA)
          match z with
          | (ret, bl) => if ret = true then pure () else blocksLoop 0 fo bl

theorem blocksLoop_eq (fo : Nat) (stA : List LineStat) (s : St) :
    blocksLoop 0 (fo + 1) stA s = (skipFrom (loopFuel s.r.source) 0 >>= blocksBody fo stA) s := by
  conv => lhs; unfold blocksLoop
  have e : skipBlankLinesR s = skipFrom (loopFuel s.r.source) 0 s := by
    unfold skipBlankLinesR skipFrom; rfl
  show StateT.bind _ _ s = StateT.bind _ _ s
  unfold StateT.bind
  rw [e]
  rfl

/-- the per-line loop of A and what parseBlocks does when it returns -/
def resume (fo fi : Nat) (stA : List LineStat) : M Unit := do
  let z ← linesLoop 0 fi stA
  match z with
  | (ret, bl) => if ret = true then pure () else blocksLoop 0 fo bl

/-! ### run A alone: SkipBlankLines, one line at a time -/

theorem view_lineA {src k ls} (h : LineAt src k ls) :
    RCur.view src ⟨k, ls, 0⟩ = some (sub src ls (lineEnd src ls)) := by
  simp only [RCur.view, spaces, List.replicate_zero, List.nil_append]
  rw [if_pos h.lt]

theorem skipFrom_zero (lines : Int) (s : St) : skipFrom 0 lines s = .error .loop := rfl

theorem skipFrom_blank {src k ls} (hl : LineAt src k ls) {sA : St} (ra : RI src sA.r ⟨k, ls, 0⟩)
    (hb : isBlank (sub src ls (lineEnd src ls)) = true) (sf : Nat) (lines : Int) :
    ∃ r1, skipFrom (sf + 1) lines sA = skipFrom sf (lines + 1) { sA with r := r1 } ∧
      RI src r1 ⟨k + 1, lineEnd src ls, 0⟩ := by
  obtain ⟨r0, e0, h0⟩ := ri_peekLine ra
  rw [view_lineA hl] at e0
  refine ⟨r0.advanceLine, ?_, ?_⟩
  · unfold skipFrom
    simp only
    conv => lhs; unfold skipBlankLines
    simp only [readerOps, e0, bind, Except.bind, hb, if_true, pure, Except.pure]
  · have := ri_advanceLine h0
    simpa [RCur.advanceLine] using this

theorem skipFrom_line {src k ls} (hl : LineAt src k ls) {sA : St} (ra : RI src sA.r ⟨k, ls, 0⟩)
    (hb : isBlank (sub src ls (lineEnd src ls)) = false) (sf : Nat) (lines : Int) :
    ∃ r1, skipFrom (sf + 1) lines sA = .ok ((RCur.seg src ⟨k, ls, 0⟩, lines, true), { sA with r := r1 }) ∧
      RI src r1 ⟨k, ls, 0⟩ := by
  obtain ⟨r0, e0, h0⟩ := ri_peekLine ra
  rw [view_lineA hl] at e0
  refine ⟨r0, ?_, h0⟩
  unfold skipFrom
  simp only
  unfold skipBlankLines
  simp only [readerOps, e0, bind, Except.bind, hb, Bool.false_eq_true, if_false, pure, Except.pure]

theorem skipFrom_eof {src : Bytes} {k : Nat} {sA : St} (ra : RI src sA.r ⟨k, src.length, 0⟩) (sf : Nat) (lines : Int) :
    ∃ r1, skipFrom (sf + 1) lines sA = .ok ((RCur.seg src ⟨k, src.length, 0⟩, lines, false), { sA with r := r1 }) := by
  obtain ⟨r0, e0, h0⟩ := ri_peekLine ra
  have hv : RCur.view src ⟨k, src.length, 0⟩ = none := by simp [RCur.view]
  rw [hv] at e0
  refine ⟨r0, ?_⟩
  unfold skipFrom
  simp only
  unfold skipBlankLines
  simp only [readerOps, e0, bind, Except.bind, pure, Except.pure]

/-! ### from the end of line `k` to the start of line `k+1` -/

/-- line `k` exists, or both readers are at the end of their sources -/
def Pos (src : Bytes) (k ls : Nat) : Prop :=
  LineAt src k ls ∨ (ls = src.length ∧ (quotePrefix src).length = ls + 2 * k)

theorem pos_next {src k ls} (h : LineAt src k ls) : Pos src (k + 1) (lineEnd src ls) := by
  rcases Nat.lt_or_ge (lineEnd src ls) src.length with h1 | h1
  · exact .inl (lineAt_next h h1)
  · have e : lineEnd src ls = src.length := by have := lineEnd_le src ls; omega
    refine .inr ⟨e, ?_⟩
    rw [qp_length_end h e, e]

/-- AdvanceLine in both runs, from anywhere inside line `k` (also from behind a last line without `\n`) -/
theorem advanceLine_LS {src al} {k ls p} {sA sB : St} (h : DR src al k ls p sA sB) :
    S2 (fun _ _ sA' sB' => LS src al (k + 1) (lineEnd src ls) sA' sB') (advanceLine sA) (advanceLine sB) := by
  have hi := h.s.r.inl
  have ha := ri_advanceLine h.s.r.a
  have hb := ri_advanceLine h.s.r.b
  simp only [RCur.advanceLine] at ha hb
  rw [hi.lineEnd_eq] at ha
  have hBend : lineEnd (quotePrefix src) (p + 2 * (k + 1)) = lineEnd src ls + 2 * (k + 1) := by
    rcases Nat.lt_or_ge p (lineEnd src ls) with hplt | hge
    · exact (qp_lineEnd hi.line hi.ge hplt).1
    · have hpe : p = lineEnd src ls := by have := hi.le; omega
      obtain ⟨he, _⟩ := hi.eof hpe
      have hlen := qp_length_end hi.line he
      have h1 := lineEnd_le (quotePrefix src) (p + 2 * (k + 1))
      have h2 := lineEnd_ge (quotePrefix src) (p := p + 2 * (k + 1)) (by omega)
      omega
  rw [hBend] at hb
  refine S2.ok ⟨h.s.r.tf, ?_, ?_, h.s.n, h.s.c.loose, h.a, fun _ => ⟨h.s.c.blockOffset, h.s.c.blockIndent⟩, h.f⟩
  · simpa using ha
  · have e : lineEnd src ls + 2 * (k + 1) = lineEnd src ls + 2 * (k + 1) := rfl
    simpa using hb

/-! ### run B alone at the end of the source -/

theorem closeBq_only {sB : St} (ho : sB.pc.opened = [bqBlock]) (hp : (sB.nodes.getD 1 default).parent = some 0) :
    closeBlocks 0 0 sB = .ok ((), { sB with pc := { sB.pc with opened := [] } }) := by
  have hcl : closeList [bqBlock] sB = .ok ((), sB) := by
    have e2 : getNode bqBlock.node sB = .ok (sB.nodes.getD 1 default, sB) := rfl
    unfold closeList
    rw [bind_run e2, hp]
    rfl
  rw [show closeBlocks 0 0 sB = _ from closeBlocks_mid_eq [] [bqBlock] [] sB ho, List.reverse_singleton, bind_run hcl]
  rfl

/-! ### unfolding the per-line loop of parseBlocks once -/

def linesCont (f : Nat) (x : LineOutcome × List LineStat) : M (Bool × List LineStat) :=
  match x with
  | (outcome, bl) =>
    match outcome with
    | LineOutcome.eof => pure (true, bl)
    | LineOutcome.next => do
      advanceLine
      linesLoop 0 f bl

theorem linesLoop_ne (f : Nat) (st : List LineStat) (s : St) (hne : s.pc.opened ≠ []) :
    linesLoop 0 (f + 1) st s =
      (lineLoop 0 s.pc.opened ((s.pc.opened.length : Int) - 1) s.pc.opened 0 st >>= linesCont f) s := by
  conv => lhs; unfold linesLoop
  have e0 : getPc s = .ok (s.pc, s) := rfl
  rw [bind_run e0]
  have hl : (s.pc.opened.length == 0) = false := by
    cases ho : s.pc.opened with
    | nil => exact absurd ho hne
    | cons a l => rfl
  simp only [hl, Bool.false_eq_true, if_false]
  rfl

theorem linesLoop_nil (f : Nat) (st : List LineStat) (s : St) (he : s.pc.opened = []) :
    linesLoop 0 (f + 1) st s = .ok ((false, st), s) := by
  conv => lhs; unfold linesLoop
  have e0 : getPc s = .ok (s.pc, s) := rfl
  rw [bind_run e0]
  simp only [he, List.length_nil, beq_self_eq_true, if_true]
  rfl

/-- the blank-line statistics of the two runs at the start of line `k` (only claimed for sources without a blank line,
    `FL`): related as `LSt` says, and not empty when nothing is open in A (`oA`) — line `k - 1` was visited by A's
    per-line loop then. On line 0 both runs are in the outer loop with empty statistics. -/
def SInv (src : Bytes) (k : Nat) (oA : List Block) (stA stB : List LineStat) : Prop :=
  FL src → LSt (k : Int) stA stB ∧ (oA = [] → stA ≠ [])

theorem bqStat_eq (src : Bytes) (k ls : Nat) : bqStat src k ls = bqE (k : Int) := rfl

/-- the whole-run goal: B's per-line loop ends the parse, in a store related to A's final store -/
def Goal (src : Bytes) (al : BP → Bool) (fB : Nat) (k : Nat) (oA : List Block) (stA eff : List LineStat) (sB : St) (sA' : St) : Prop :=
  ∀ stB, SInv src k oA stA stB → LStG (k : Int) eff stB →
    ∃ x sB', linesLoop 0 fB stB sB = .ok ((true, x), sB') ∧ FRel src al sA'.nodes sB'.nodes

/-- A's reader ended behind the last line -/
def ReadToEnd (src : Bytes) (s : St) : Prop := ∀ ls, ¬ LineAt src s.r.line.toNat ls

/-- the induction predicate of the line-by-line argument, for B's remaining line fuel `fB` -/
def MainP (src : Bytes) (al : BP → Bool) (fB : Nat) : Prop :=
  ∀ (k ls : Nat) (sA sB : St), LS src al k ls sA sB → L.StableL src 0 sA → Pos src k ls → nlCount src + 2 ≤ fB + k →
    ∀ sA',
      (sA.pc.opened = [] → ∀ sf lines fo stA, (FL src → lines = 0) → 0 ≤ lines →
        (skipFrom sf lines >>= blocksBody fo stA) sA = .ok ((), sA') →
        Goal src al fB k sA.pc.opened stA (if (lines != 0) = true then [] else stA) sB sA') ∧
      (sA.pc.opened ≠ [] → ∀ fi fo stA, resume fo fi stA sA = .ok ((), sA') → Goal src al fB k sA.pc.opened stA stA sB sA')

/-- after a line: both runs call AdvanceLine and go on -/
theorem afterLine {src al} (ns : NS src) {f : Nat} (ih : MainP src al f) {k ls p : Nat} {sA1 sB1 : St}
    (hd : DR src al k ls p sA1 sB1) (hfuel : nlCount src + 2 ≤ f + (k + 1)) {sA' : St}
    (fo fi : Nat) (stA : List LineStat)
    (hA : (advanceLine >>= fun _ => resume fo fi stA) sA1 = .ok ((), sA')) (stB : List LineStat)
    (hsi : SInv src (k + 1) sA1.pc.opened stA stB) (hst1 : L.StableL src 0 sA1)
    (hg : LStG (((k + 1 : Nat)) : Int) stA stB) :
    ∃ x sB', (advanceLine >>= fun _ => linesLoop 0 f stB) sB1 = .ok ((true, x), sB') ∧
      FRel src al sA'.nodes sB'.nodes := by
  obtain ⟨u, sA2, eA, hA2⟩ := bind_inv_u hA
  obtain ⟨_, sB2, eB, hls⟩ := advanceLine_LS hd u sA2 eA
  have hpc2 : sA2.pc = sA1.pc := by rw [advanceLine_run] at eA; cases eA; rfl
  have hst2 : L.StableL src 0 sA2 := by rw [advanceLine_run] at eA; cases eA; exact hst1.congr_r _
  rw [← hpc2] at hsi
  rw [bind_run eB]
  have hpos := pos_next hd.s.r.inl.line
  obtain ⟨h1, h2⟩ := ih (k + 1) (lineEnd src ls) sA2 sB2 hls hst2 hpos hfuel sA'
  by_cases ho : sA2.pc.opened = []
  · -- nothing open in A: its per-line loop breaks and the outer loop goes on
    unfold resume at hA2
    cases fi with
    | zero => cases hA2
    | succ fi =>
      rw [bind_run (linesLoop_nil fi stA sA2 ho)] at hA2
      simp only [Bool.false_eq_true, if_false] at hA2
      cases fo with
      | zero => cases hA2
      | succ fo =>
        rw [blocksLoop_eq] at hA2
        exact h1 ho _ 0 _ _ (fun _ => rfl) (Int.le_refl _) hA2 stB hsi hg
  · exact h2 ho _ _ _ hA2 stB hsi hg

/-! ### the end of the source -/

theorem lineLoop_eof {src' : Bytes} {k p : Nat} {s : St} (hr : RI src' s.r ⟨k, p, 0⟩) (hp : src'.length ≤ p)
    (ob : List Block) (L : Int) (be : Block) (rest : List Block) (i : Int) (st : List LineStat) :
    ∃ r1, RI src' r1 ⟨k, p, 0⟩ ∧ lineLoop 0 ob L (be :: rest) i st s =
      (do closeBlocks L 0; advanceLine; pure (LineOutcome.eof, st) : M (LineOutcome × List LineStat)) { s with r := r1 } := by
  obtain ⟨r1, e1, hr1⟩ := ri_peekLine hr
  have hv : RCur.view src' ⟨k, p, 0⟩ = none := by
    simp only [RCur.view]; rw [if_neg (by omega)]
  have p1 : peekLine s = .ok ((none, RCur.seg src' ⟨k, p, 0⟩), { s with r := r1 }) := by
    unfold GM.Blocks.peekLine; rw [e1, hv]; rfl
  refine ⟨r1, hr1, ?_⟩
  conv => lhs; unfold lineLoop
  rw [bind_run p1]

theorem blocksBody_false (fo : Nat) (stA : List LineStat) (sg : Segment) (lines : Int) (s : St) :
    blocksBody fo stA (sg, lines, false) s = .ok ((), s) := rfl

theorem eofNil {src al k ls} {sA sB : St} (h : LS src al k ls sA sB)
    (he : ls = src.length ∧ (quotePrefix src).length = ls + 2 * k) (ho : sA.pc.opened = []) (f : Nat) {sA' : St}
    (sf : Nat) (lines : Int) (fo : Nat) (stA : List LineStat)
    (hA : (skipFrom (sf + 1) lines >>= blocksBody fo stA) sA = .ok ((), sA')) (eff : List LineStat) :
    Goal src al (f + 1) k sA.pc.opened stA eff sB sA' := by
  intro stB _ _
  obtain ⟨r1, e1⟩ := skipFrom_eof (he.1 ▸ h.ra) sf lines
  rw [bind_run e1, blocksBody_false] at hA
  cases hA
  have hob : sB.pc.opened = [bqBlock] := by rw [h.c.opened, ho]; rfl
  have hne : sB.pc.opened ≠ [] := by rw [hob]; exact List.cons_ne_nil _ _
  rw [linesLoop_ne f stB sB hne, hob]
  obtain ⟨rB, _, eB⟩ := lineLoop_eof h.rb (by omega) [bqBlock] (((([bqBlock] : List Block).length : Nat) : Int) - 1) bqBlock [] 0 stB
  have hroot := h.n.node 0
  have hp := hroot.parent
  simp only [beq_self_eq_true, if_true] at hp
  have hp1 : (sB.nodes.getD 1 default).parent = some 0 := by
    have : (sB.nodes.getD (0 + 1) default).parent = some 0 := hp.1
    simpa using this
  have ec := closeBq_only (sB := { sB with r := rB }) hob hp1
  have hL : ((([bqBlock] : List Block).length : Nat) : Int) - 1 = 0 := rfl
  rw [hL] at eB
  refine ⟨stB, { r := rB.advanceLine, nodes := sB.nodes, pc := { sB.pc with opened := [] } }, ?_, h.n, h.a.u, h.a.nk, h.f⟩
  show StateT.bind _ _ sB = _
  unfold StateT.bind
  rw [hL, eB, bind_run ec, bind_run (advanceLine_run _)]
  rfl

/-- closeBlocks(lastIndex, 0) in both runs for ANY readers over the two sources: the Close functions never look at
    the reader, so it may be replaced by one that stands inside line 0, where the in-line relation applies -/
theorem closeAll_anyReader {src al} (ps : PS src al) (fr : Frames al) (h0 : LineAt src 0 0) (tf : ∀ c ∈ src, c ≠ 9)
    {sA sB : St} (hsA : sA.r.source = src) (hsB : sB.r.source = quotePrefix src)
    (hn : StoreRel src sA.nodes sB.nodes) (hc : CtxRel sA.pc sB.pc) (ha : AInv al sA.pc sA.nodes)
    (hfe : FEc al sA.nodes sB.nodes) (L : Int) (hL : L = (sA.pc.opened.length : Int) - 1) {sA2 : St} (hA : closeBlocks L 0 sA = .ok ((), sA2)) :
    ∃ sB2, closeBlocks (L + 1) 0 sB = .ok ((), sB2) ∧ FRel src al sA2.nodes sB2.nodes := by
  -- readers inside line 0
  have hiA : RI src (Reader.new src) ⟨0, 0, 0⟩ := ri_init src
  have hiB0 : RI (quotePrefix src) (initSt (quotePrefix src)).r ⟨((0 : Nat) : Int), 0 + 2 * 0, 0⟩ := ri_init (quotePrefix src)
  obtain ⟨rB, _, hiB⟩ := bqProcess_marker h0 hiB0
  have hd : DR src al 0 0 0 { sA with r := Reader.new src } { sB with r := rB } :=
    ⟨⟨⟨tf, InL.start h0, hiA, hiB⟩, hn, hc⟩, ha, hfe⟩
  have eA := closeBlocks_rind L 0 sA (Reader.new src) (by rw [hsA]; rfl)
  rw [hA] at eA
  simp only [Except.map] at eA
  obtain ⟨_, sB2, eB, hrel⟩ := closeBlocksAll_sim ps fr hd L hL () _ eA
  have eB' := closeBlocks_rind (L + 1) 0 { sB with r := rB } sB.r (by
    show sB.r.source = rB.source
    rw [hsB, hiB.source])
  rw [eB] at eB'
  simp only [Except.map] at eB'
  exact ⟨_, eB', hrel⟩

/-- what the argument assumes about the source -/
structure Cls (src : Bytes) (al : BP → Bool) : Prop where
  ps : PS src al
  fr : Frames al
  ot : OT src
  ns : NS src
  tr : TrigOK src al
  tf : ∀ c ∈ src, c ≠ 9
  h0 : LineAt src 0 0
  shape : ∀ k ls, LineAt src k ls → isBlank (sub src ls (lineEnd src ls)) = true →
    ∃ n, sub src ls (lineEnd src ls) = List.replicate n 32 ++ [10]

theorem eofOpen {src al} (cl : Cls src al) {k ls} {sA sB : St} (h : LS src al k ls sA sB)
    (he : ls = src.length ∧ (quotePrefix src).length = ls + 2 * k) (ho : sA.pc.opened ≠ []) (f : Nat) {sA' : St}
    (fi fo : Nat) (stA : List LineStat) (hA : resume fo (fi + 1) stA sA = .ok ((), sA')) :
    Goal src al (f + 1) k sA.pc.opened stA stA sB sA' := by
  intro stB _ _
  unfold resume at hA
  obtain ⟨z, sA1, hz, hA1⟩ := bind_inv_u hA
  rw [linesLoop_ne fi stA sA ho] at hz
  obtain ⟨be, rest, hob⟩ : ∃ be rest, sA.pc.opened = be :: rest := by
    cases hh : sA.pc.opened with
    | nil => exact absurd hh ho
    | cons a l => exact ⟨a, l, rfl⟩
  obtain ⟨rA, hrA, eA⟩ := lineLoop_eof (he.1 ▸ h.ra) (Nat.le_refl _) sA.pc.opened ((sA.pc.opened.length : Int) - 1) be rest 0 stA
  rw [← hob] at eA
  obtain ⟨y, sA2, hy, hz2⟩ := bind_inv_u hz
  rw [eA] at hy
  obtain ⟨u, sA3, hcl, hrest⟩ := bind_inv_u hy
  rw [bind_run (advanceLine_run _)] at hrest
  cases hrest
  -- y = (eof, stA): the per-line loop returns true, parseBlocks returns
  cases hz2
  cases hA1
  have hobB : sB.pc.opened = bqBlock :: sA.pc.opened.map shB := h.c.opened
  have hneB : sB.pc.opened ≠ [] := by rw [hobB]; exact List.cons_ne_nil _ _
  rw [linesLoop_ne f stB sB hneB]
  obtain ⟨rB, hrB, eB⟩ := lineLoop_eof h.rb (by omega) sB.pc.opened ((sB.pc.opened.length : Int) - 1) bqBlock
    (sA.pc.opened.map shB) 0 stB
  rw [← hobB] at eB
  have hstrict := h.strict ho
  have hcr : CtxRel sA.pc sB.pc :=
    ⟨hstrict.1, hstrict.2, h.c.opened, h.c.tmpPara, h.c.fence, h.c.skipList, h.c.emptyItemBlank⟩
  have hLB : (sB.pc.opened.length : Int) - 1 = ((sA.pc.opened.length : Int) - 1) + 1 := by
    rw [hobB]; simp only [List.length_cons, List.length_map]; omega
  obtain ⟨sB2, ecl, hrel⟩ := closeAll_anyReader cl.ps cl.fr cl.h0 cl.tf (sA := { sA with r := rA })
    (sB := { sB with r := rB }) hrA.source hrB.source h.n hcr h.a h.f _ rfl hcl
  refine ⟨stB, { sB2 with r := sB2.r.advanceLine }, ?_, hrel⟩
  show StateT.bind _ _ sB = _
  unfold StateT.bind
  rw [eB, hLB, bind_run ecl, bind_run (advanceLine_run _)]
  rfl

theorem rebind {α β} {m m' : M α} {f : α → M β} {s s1 : St} (e : m s = m' s1) : (m >>= f) s = (m' >>= f) s1 := by
  show StateT.bind m f s = StateT.bind m' f s1
  unfold StateT.bind
  rw [e]

/-- a blank line while nothing is open in A: A skips it, B's Blockquote consumes its marker and opens nothing -/
theorem lineBlankNil {src al} (cl : Cls src al) {f : Nat} (ih : MainP src al f) {k ls} {sA sB : St}
    (h : LS src al k ls sA sB) (hsl : L.StableL src 0 sA) (hl : LineAt src k ls) (ho : sA.pc.opened = [])
    (hb : isBlank (sub src ls (lineEnd src ls)) = true) (hfuel : nlCount src + 2 ≤ f + 1 + k) {sA' : St}
    (sf : Nat) (lines : Int) (fo : Nat) (stA : List LineStat)
    (hlines0 : 0 ≤ lines)
    (hA : (skipFrom (sf + 1) lines >>= blocksBody fo stA) sA = .ok ((), sA')) :
    Goal src al (f + 1) k sA.pc.opened stA (if (lines != 0) = true then [] else stA) sB sA' := by
  intro stB _ hg
  have hnfl : ¬ FL src := fun hfl => by rw [hfl k ls hl] at hb; cases hb
  obtain ⟨r1, e1, hr1⟩ := skipFrom_blank hl h.ra hb sf lines
  rw [rebind e1] at hA
  have hobB : sB.pc.opened = [bqBlock] := by rw [h.c.opened, ho]; rfl
  have hneB : sB.pc.opened ≠ [] := by rw [hobB]; exact List.cons_ne_nil _ _
  rw [linesLoop_ne f stB sB hneB, hobB]
  obtain ⟨r', hR, eH⟩ := bHead h hl (((([bqBlock] : List Block).length : Nat) : Int) - 1) [bqBlock] [] stB
  have hL : ((([bqBlock] : List Block).length : Nat) : Int) - 1 = 0 := rfl
  rw [hL] at eH
  simp only [beq_self_eq_true, if_true] at eH
  -- B: openBlocks below the Blockquote on a blank rest of the line
  have hlt := lt_lineEnd src hl.lt
  have hge := qp_length_ge hl
  obtain ⟨n, hn⟩ := cl.shape k ls hl hb
  have hroot := h.n.node 0
  have hk := hroot.kind
  simp only [beq_self_eq_true, if_true] at hk
  have hk1 : (sB.nodes.getD 1 default).kind = .blockquote := by
    have : (sB.nodes.getD (0 + 1) default).kind = .blockquote := hk.1
    simpa using this
  obtain ⟨r'', bo, bi, eO, hR''⟩ := openBlocks_blank_qs (src := quotePrefix src) (s := { sB with r := r' })
    (c := ⟨k, ls + 2 * (k + 1), 0⟩) hR.b (by simp only; omega) rfl
    (by
      refine ⟨n, ?_⟩
      simp only
      rw [(qp_lineEnd hl (Nat.le_refl _) hlt).1, qp_sub hl (Nat.le_refl _) (Nat.le_of_lt hlt) (Nat.le_refl _)]
      exact hn)
    ⟨bqBlock, by simp only [hobB]; rfl, by simp only [bqBlock]; rw [hk1]; decide⟩
    1 (isBlankLine ((k : Int) - 1) 0 (stB ++ [bqStat src k ls]))
  have hadv := ri_advanceLine hR''
  simp only [RCur.advanceLine] at hadv
  rw [(qp_lineEnd hl (Nat.le_refl _) hlt).1] at hadv
  -- the states at the start of line `k+1`
  have hls : LS src al (k + 1) (lineEnd src ls) { sA with r := r1 }
      { r := r''.advanceLine, nodes := sB.nodes, pc := { sB.pc with blockOffset := bo, blockIndent := bi } } :=
    ⟨h.tf, hr1, by simpa using hadv, h.n, ⟨h.c.opened, h.c.tmpPara, h.c.fence, h.c.skipList, h.c.emptyItemBlank⟩, h.a,
      (fun hne => absurd ho hne), h.f⟩
  obtain ⟨h1, _⟩ := ih (k + 1) (lineEnd src ls) _ _ hls (hsl.congr_r r1) (pos_next hl) (by omega) sA'
  obtain ⟨x, sB', eL, hrel⟩ := h1 ho sf (lines + 1) fo stA (fun hfl => absurd hfl hnfl) (by omega) hA (stB ++ [bqStat src k ls])
    (fun hfl => absurd hfl hnfl)
    (by
      have hne : ((lines + 1) != 0) = true := by
        have : lines + 1 ≠ 0 := by omega
        simpa using this
      rw [if_pos hne, bqStat_eq, show ((k + 1 : Nat) : Int) = (k : Int) + 1 by omega]
      exact lstG_reset hg.bB)
  refine ⟨x, sB', ?_, hrel⟩
  show StateT.bind _ _ sB = _
  unfold StateT.bind
  rw [hL, eH, bind_run eO]
  change linesCont f (LineOutcome.next, stB ++ [bqStat src k ls]) _ = _
  unfold linesCont
  simp only
  rw [bind_run (advanceLine_run _)]
  exact eL

/-- a line that is not blank while nothing is open in A: both runs call openBlocks (A below its Document, B below
    its Blockquote) -/
theorem lineOpenNil {src al} (cl : Cls src al) {f : Nat} (ih : MainP src al f) {k ls} {sA sB : St}
    (h : LS src al k ls sA sB) (hsl : L.StableL src 0 sA) (hl : LineAt src k ls) (ho : sA.pc.opened = [])
    (hb : isBlank (sub src ls (lineEnd src ls)) = false) (hfuel : nlCount src + 2 ≤ f + 1 + k) {sA' : St}
    (sf : Nat) (lines : Int) (fo : Nat) (stA : List LineStat) (hlines : FL src → lines = 0)
    (hA : (skipFrom (sf + 1) lines >>= blocksBody fo stA) sA = .ok ((), sA')) :
    Goal src al (f + 1) k sA.pc.opened stA (if (lines != 0) = true then [] else stA) sB sA' := by
  intro stB hsi hg
  obtain ⟨r1, e1, hr1⟩ := skipFrom_line hl h.ra hb sf lines
  rw [bind_run e1] at hA
  unfold blocksBody at hA
  simp only [Bool.not_true, Bool.false_eq_true, if_false] at hA
  have ep : position { sA with r := r1 } = .ok ((r1.line, r1.pos), { sA with r := r1 }) := rfl
  have eg : getPc { sA with r := r1 } = .ok (sA.pc, { sA with r := r1 }) := rfl
  rw [bind_run ep] at hA
  simp only at hA
  rw [bind_run eg] at hA
  obtain ⟨d, sA2, hd, hA2⟩ := bind_inv_u hA
  have hobB : sB.pc.opened = [bqBlock] := by rw [h.c.opened, ho]; rfl
  have hneB : sB.pc.opened ≠ [] := by rw [hobB]; exact List.cons_ne_nil _ _
  rw [linesLoop_ne f stB sB hneB, hobB]
  obtain ⟨r', hR, eH⟩ := bHead h hl (((([bqBlock] : List Block).length : Nat) : Int) - 1) [bqBlock] [] stB
  have hL : ((([bqBlock] : List Block).length : Nat) : Int) - 1 = 0 := rfl
  rw [hL] at eH
  simp only [beq_self_eq_true, if_true] at eH
  have hdrl : DRL src al k ls ls { sA with r := r1 } { sB with r := r' } :=
    ⟨⟨h.tf, InL.start hl, hr1, hR.b⟩, h.n, h.c, h.a, h.f⟩
  have hline1 : r1.line = (k : Int) := by
    have := hr1.abs.line; simpa [clearLo] using this
  have hstats : FL src → (if (lines != 0) = true then blankStats r1.line lines sA.pc.opened.length else stA) = stA := by
    intro hfl; rw [hlines hfl]; rfl
  have hbf : ∀ (x : Int) (l : List LineStat), (FL src → x = (k : Int) ∧ l = stA) → FL src →
      isBlankLine ((k : Int) - 1) 0 (stB ++ [bqStat src k ls]) = isBlankLine (x - 1) 0 l := by
    intro x l hxl hfl
    obtain ⟨hx, hl'⟩ := hxl hfl
    obtain ⟨hlst, hne⟩ := hsi hfl
    rw [hx, hl', isBlankLine_nb0 _ stA (hne ho) hlst.nA, bqStat_eq,
      isBlankLine_nb0 _ _ (by simp) (nb0_bq hlst.nB)]
  obtain ⟨db, sB2, eOB, _, ⟨p', hDR⟩, hopens⟩ := openBlocks_sim cl.ps cl.fr cl.ot cl.ns cl.tr _
    (isBlankLine ((k : Int) - 1) 0 (stB ++ [bqStat src k ls])) (hbf _ _ (fun hfl => ⟨hline1, hstats hfl⟩)) 0 hdrl h.n.pos (fun _ => .inr rfl) d sA2 hd
  have hdn : d = OpenResult.newBlocksOpened := by
    refine hopens ho ?_
    unfold NBV viewA
    rw [if_pos (lt_lineEnd src hl.lt)]
    exact hb
  by_cases hnew : (d != OpenResult.newBlocksOpened) = true
  · -- a line that is not blank always opens a block
    rw [hdn] at hnew; cases hnew
  · rw [if_neg hnew] at hA2
    obtain ⟨x, sB', eL, hrel⟩ := afterLine cl.ns ih hDR (by omega) fo fo _ hA2 (stB ++ [bqStat src k ls])
      (fun hfl => by
        rw [hstats hfl, bqStat_eq]
        refine ⟨?_, fun e => absurd e (openBlocks_new_ne _ _ _ _ _ hd hdn)⟩
        have := lst_next (cur_start (hsi hfl).1)
        rw [show ((k + 1 : Nat) : Int) = (k : Int) + 1 by omega]
        exact this)
      (stable_openBlocks0 (s := { sA with r := r1 }) (hsl.congr_r r1) ho hr1 (padOK_zero _ _) hd)
      (by
        have hlen0 : sA.pc.opened.length = 0 := by rw [ho]; rfl
        have heff : (if (lines != 0) = true then blankStats r1.line lines sA.pc.opened.length else stA) =
            (if (lines != 0) = true then [] else stA) := by rw [hlen0]; rfl
        rw [heff, bqStat_eq, show ((k + 1 : Nat) : Int) = (k : Int) + 1 by omega]
        exact lstG_next (curG_start hg))
    refine ⟨x, sB', ?_, hrel⟩
    show StateT.bind _ _ sB = _
    unfold StateT.bind
    rw [hL, eH, bind_run eOB]
    change linesCont f (LineOutcome.next, stB ++ [bqStat src k ls]) _ = _
    unfold linesCont
    exact eL

/-- a line while blocks are open in A: the per-line loops run in lock step, B one level deeper -/
theorem lineOpenSome {src al} (cl : Cls src al) {f : Nat} (ih : MainP src al f) {k ls} {sA sB : St}
    (h : LS src al k ls sA sB) (hsl : L.StableL src 0 sA) (hl : LineAt src k ls) (ho : sA.pc.opened ≠ [])
    (hfuel : nlCount src + 2 ≤ f + 1 + k) {sA' : St}
    (fi fo : Nat) (stA : List LineStat)
    (hA : resume fo (fi + 1) stA sA = .ok ((), sA')) : Goal src al (f + 1) k sA.pc.opened stA stA sB sA' := by
  intro stB hsi hg
  unfold resume at hA
  obtain ⟨z, sA1, hz, hA1⟩ := bind_inv_u hA
  rw [linesLoop_ne fi stA sA ho] at hz
  obtain ⟨y, sA2, hy, hz2⟩ := bind_inv_u hz
  have hobB : sB.pc.opened = bqBlock :: sA.pc.opened.map shB := h.c.opened
  have hneB : sB.pc.opened ≠ [] := by rw [hobB]; exact List.cons_ne_nil _ _
  rw [linesLoop_ne f stB sB hneB, hobB]
  obtain ⟨r', hR, eH⟩ := bHead h hl ((((bqBlock :: sA.pc.opened.map shB).length : Nat) : Int) - 1)
    (bqBlock :: sA.pc.opened.map shB) (sA.pc.opened.map shB) stB
  have hLB : (((bqBlock :: sA.pc.opened.map shB).length : Nat) : Int) - 1 = ((sA.pc.opened.length : Int) - 1) + 1 := by
    simp only [List.length_cons, List.length_map]; omega
  have hlen : 0 < sA.pc.opened.length := List.length_pos_iff.mpr ho
  have hz0 : ((0 : Int) == ((sA.pc.opened.length : Int) - 1) + 1) = false := by
    apply beq_eq_false_iff_ne.mpr; omega
  rw [hLB] at eH
  rw [hz0] at eH
  simp only [Bool.false_eq_true, if_false] at eH
  have hstrict := h.strict ho
  have hDR : DR src al k ls ls sA { sB with r := r' } :=
    ⟨⟨hR, h.n, ⟨hstrict.1, hstrict.2, h.c.opened, h.c.tmpPara, h.c.fence, h.c.skipList, h.c.emptyItemBlank⟩⟩, h.a, h.f⟩
  obtain ⟨yb, sB2, eLB, hyb, hrel⟩ := lineLoop_sim cl.ps cl.fr cl.ot cl.ns cl.tr sA.pc.opened ((sA.pc.opened.length : Int) - 1)
    sA.pc.opened (fun _ hb => hb) 0 (Int.le_refl _) stA (stB ++ [bqStat src k ls]) hDR rfl rfl
    (fun hfl => by rw [bqStat_eq]; exact cur_start (hsi hfl).1) (fun _ => rfl) [] (mid_start hsl rfl h.ra (padOK_zero _ _))
    (by rw [bqStat_eq]; exact curG_start hg) y sA2 hy
  obtain ⟨oA, blA⟩ := y
  obtain ⟨oB, blB⟩ := yb
  simp only at hyb hrel
  subst hyb
  have eB : (lineLoop 0 (bqBlock :: sA.pc.opened.map shB) (((sA.pc.opened.length : Int) - 1) + 1)
      (bqBlock :: sA.pc.opened.map shB) 0 stB >>= linesCont f) sB = linesCont f (oB, blB) sB2 := by
    show StateT.bind _ _ sB = _
    unfold StateT.bind
    rw [eH, eLB]
    rfl
  rw [hLB, eB]
  cases oB with
  | eof =>
    -- both per-line loops return true
    unfold linesCont at hz2 ⊢
    simp only at hz2 ⊢
    cases hz2
    simp only [if_true] at hA1
    cases hA1
    exact ⟨blB, sB2, rfl, hrel⟩
  | next =>
    obtain ⟨⟨p', hd2⟩, hst, hstg⟩ := hrel
    unfold linesCont at hz2
    simp only at hz2
    obtain ⟨u, sA3, hadv, hll⟩ := bind_inv_u hz2
    have hA3 : (advanceLine >>= fun _ => resume fo fi blA) sA2 = .ok ((), sA') := by
      rw [bind_run hadv]
      unfold resume
      rw [bind_run hll]
      exact hA1
    obtain ⟨x, sB', eL, hrel'⟩ := afterLine cl.ns ih hd2 (by omega) fo fi blA hA3 blB
      (fun hfl => by
        obtain ⟨j, hj, hcur⟩ := hst hfl
        have hj1 : 1 ≤ j := by
          cases hop : sA.pc.opened with
          | nil => exact absurd hop ho
          | cons a l => rw [hop] at hj; simpa [loOf] using hj
        refine ⟨?_, fun _ => cur_ne hcur hj1⟩
        have := lst_next hcur
        rw [show ((k + 1 : Nat) : Int) = (k : Int) + 1 by omega]
        exact this)
      (stable_lineLoop hsl rfl h.ra (padOK_zero _ _) hy)
      (by
        obtain ⟨j, _, hcg⟩ := hstg
        rw [show ((k + 1 : Nat) : Int) = (k : Int) + 1 by omega]
        exact lstG_next hcg)
    refine ⟨x, sB', ?_, hrel'⟩
    unfold linesCont
    exact eL

theorem pos_bound {src : Bytes} {k ls : Nat} (h : Pos src k ls) : k ≤ nlCount src + 1 := by
  rcases h with h | ⟨e1, e2⟩
  · have := lineAt_le_nl h; omega
  · have := qpg_length src true
    unfold quotePrefix at e2
    rw [e2, e1] at this
    split at this <;> simp only [if_true] at this <;> omega

theorem resume_zero (fo : Nat) (stA : List LineStat) (s : St) : resume fo 0 stA s = .error .loop := rfl

theorem mainP_all {src al} (cl : Cls src al) : ∀ fB, MainP src al fB := by
  intro fB
  induction fB with
  | zero =>
    intro k ls sA sB _ _ hpos hfuel
    have := pos_bound hpos
    omega
  | succ f ih =>
    intro k ls sA sB h hsl hpos hfuel sA'
    constructor
    · intro ho sf lines fo stA hlines hlines0 hA
      cases sf with
      | zero =>
        obtain ⟨_, _, hm, _⟩ := bind_inv_u hA
        rw [skipFrom_zero] at hm; cases hm
      | succ sf =>
        rcases hpos with hl | he
        · by_cases hb : isBlank (sub src ls (lineEnd src ls)) = true
          · exact lineBlankNil cl ih h hsl hl ho hb hfuel sf lines fo stA hlines0 hA
          · exact lineOpenNil cl ih h hsl hl ho (by simpa using hb) hfuel sf lines fo stA hlines hA
        · exact eofNil h he ho f sf lines fo stA hA _
    · intro ho fi fo stA hA
      cases fi with
      | zero => rw [resume_zero] at hA; cases hA
      | succ fi =>
        rcases hpos with hl | he
        · exact lineOpenSome cl ih h hsl hl ho hfuel fi fo stA hA
        · exact eofOpen cl h he ho f fi fo stA hA

end GM.Blocks
