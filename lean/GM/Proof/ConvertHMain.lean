/-
  GM.Proof.ConvertHMain — whole runs of GM.ConvertH: the block phase with AutoHeadingID projects to the block phase of
  `convertCore` and keeps `HInv` (`runH_on`), without the option it IS that block phase (`runH_off`); the
  tree conversion with an empty attribute store is GM.Convert.docTree (`docTreeH_erase`); no fuel exhaustion
  (`convertH_noLoop`).
-/
import GM.Proof.ConvertHIds
import GM.Proof.ConvertTotal

namespace GM.ConvertH
open GM GM.Text GM.Blocks GM.Convert

theorem runH_on (pts : List PT) (src : Bytes) :
    match runH true pts src with
    | .ok (h, st) => HInv h ∧ runT pts src = .ok st
    | .error e => runT pts src = .error e ∨ e ≠ Panic.loop := by
  have := (parseBlocksH_sim hookOK_on pts 0).h {} (initSt src) hinv_init
  unfold RSim at this
  unfold runH runT
  cases hx : parseBlocksH true pts 0 {} (initSt src) with
  | error e =>
    rw [hx] at this
    simp only [Except.map]
    rcases this with h | h
    · rw [h]; exact Or.inl rfl
    · exact Or.inr h.2
  | ok p =>
    obtain ⟨⟨a, h'⟩, s'⟩ := p
    rw [hx] at this
    simp only [Except.map]
    rw [this.2]
    exact ⟨this.1, rfl⟩

theorem runH_off (pts : List PT) (src : Bytes) :
    runH false pts src = (runT pts src).map fun st => ({}, st) := by
  have := (parseBlocksH_sim (hookOK_off (fun h => h = {})) pts 0).h {} (initSt src) rfl
  unfold RSim at this
  unfold runH runT
  cases hx : parseBlocksH false pts 0 {} (initSt src) with
  | error e =>
    rw [hx] at this
    simp only [Except.map]
    rcases this with h | h
    · rw [h]
    · cases h.1
  | ok p =>
    obtain ⟨⟨a, h'⟩, s'⟩ := p
    rw [hx] at this
    simp only [Except.map]
    rw [this.2, this.1]

theorem blockPhaseH_noLoop (autoId : Bool) (src : Bytes) : blockPhaseH autoId true src ≠ .error .loop := by
  have hn := GM.Proof.LinkRefPres.blockPhase_noLoop src
  unfold blockPhase at hn
  unfold blockPhaseH
  cases autoId with
  | false =>
    rw [runH_off]
    intro h
    cases hr : runT (paragraphTransformers true) src with
    | error e => rw [hr] at h; simp only [Except.map] at h; cases h; exact hn hr
    | ok st => rw [hr] at h; simp [Except.map] at h
  | true =>
    have := runH_on (paragraphTransformers true) src
    intro h
    rw [h] at this
    rcases this with h1 | h1
    · exact hn h1
    · exact h1 rfl

mutual
def TreeH.erase : TreeH → Tree
  | .node _ n cs => .node n (eraseL cs)
def eraseL : List TreeH → List Tree
  | [] => []
  | t :: rest => t.erase :: eraseL rest
end

theorem eraseL_map {α} (f : α → TreeH) : ∀ l : List α, eraseL (l.map f) = l.map fun a => (f a).erase
  | [] => rfl
  | a :: rest => by simp only [List.map, eraseL, eraseL_map f rest]

theorem treeOfH_erase (nodes : List Blocks.Node) : ∀ (fuel id : Nat), (treeOfH nodes fuel id).erase = treeOf nodes fuel id
  | 0, id => by simp only [treeOfH, treeOf, TreeH.erase, eraseL]
  | fuel + 1, id => by
    simp only [treeOfH, treeOf, TreeH.erase, eraseL_map]
    congr 1
    apply List.map_congr_left
    intro a _
    exact treeOfH_erase nodes fuel a

theorem treeAttrs_empty (id : Nat) : treeAttrs {} id = none := rfl

mutual
theorem docTreeH_erase (guard : Bool) (env : GM.Inl.Env) (src : Bytes) : ∀ t : TreeH,
    docTreeH {} guard env src t = docTree guard env src t.erase
  | .node id n cs => by
    unfold docTreeH docTree TreeH.erase
    rw [docTreesH_erase guard env src cs]
    rfl
theorem docTreesH_erase (guard : Bool) (env : GM.Inl.Env) (src : Bytes) : ∀ ts : List TreeH,
    docTreesH {} guard env src ts = docTrees guard env src (eraseL ts)
  | [] => by unfold docTreesH docTrees eraseL; rfl
  | t :: rest => by
    unfold docTreesH docTrees eraseL
    rw [docTreeH_erase guard env src t, docTreesH_erase guard env src rest]
end

theorem parseDocH_off (guard : Bool) (uc : List (Nat × (Bool × Bool))) (src : Bytes) :
    parseDocH false guard uc src = parseDoc guard uc src := by
  unfold parseDocH parseDoc blockPhaseH blockPhase
  rw [runH_off]
  cases runT (paragraphTransformers guard) src with
  | error e => rfl
  | ok st =>
    simp only [Except.map, liftErr, bind, Except.bind, finalTree]
    rw [docTreeH_erase, treeOfH_erase]

theorem convertH_off (uc : List (Nat × (Bool × Bool))) (o : ROpts) (src : Bytes) :
    convertH false uc o src = convertCore uc o src := by
  unfold convertH convertHWith convertCore convertWith
  rw [parseDocH_off]

open GM.Proof.ConvertTotal in
mutual
theorem docTreeH_noLoop (hs : HS) (env : GM.Inl.Env) (src : Bytes) : ∀ (t : TreeH) (e : Err),
    docTreeH hs true env src t = .error e → e.isLoop = false
  | .node id n cs, e, h => by
    unfold docTreeH at h
    simp only [bind, Except.bind] at h
    cases h1 : docTreesH hs true env src cs with
    | error e1 => rw [h1] at h; cases h; exact docTreesH_noLoop hs env src cs _ h1
    | ok bs =>
      rw [h1] at h
      simp only at h
      cases h2 : inlinePhase true env src n with
      | error e2 => rw [h2] at h; cases h; exact inlinePhase_noLoop env src n h2
      | ok kids =>
        rw [h2] at h
        simp only at h
        cases h3 : liftErr Err.value (inlineTrees src kids) with
        | error e3 => rw [h3] at h; cases h; exact liftErr_value_noLoop h3
        | ok is =>
          rw [h3] at h
          simp only at h
          cases h4 : liftErr Err.value (blockKind src n) with
          | error e4 => rw [h4] at h; cases h; exact liftErr_value_noLoop h4
          | ok k => rw [h4] at h; cases h
theorem docTreesH_noLoop (hs : HS) (env : GM.Inl.Env) (src : Bytes) : ∀ (ts : List TreeH) (e : Err),
    docTreesH hs true env src ts = .error e → e.isLoop = false
  | [], e, h => by unfold docTreesH at h; cases h
  | t :: rest, e, h => by
    unfold docTreesH at h
    simp only [bind, Except.bind] at h
    cases h1 : docTreeH hs true env src t with
    | error e1 => rw [h1] at h; cases h; exact docTreeH_noLoop hs env src t _ h1
    | ok x =>
      rw [h1] at h
      simp only at h
      cases h2 : docTreesH hs true env src rest with
      | error e2 => rw [h2] at h; cases h; exact docTreesH_noLoop hs env src rest _ h2
      | ok xs => rw [h2] at h; cases h
end

theorem parseDocH_noLoop (autoId : Bool) (uc : List (Nat × (Bool × Bool))) (src : Bytes) {e : Err}
    (h : parseDocH autoId true uc src = .error e) : e.isLoop = false := by
  unfold parseDocH at h
  simp only [bind, Except.bind] at h
  cases hb : blockPhaseH autoId true src with
  | error p =>
    rw [hb] at h
    simp only [liftErr] at h
    cases h
    have := blockPhaseH_noLoop autoId src
    cases p <;> first | rfl | exact absurd hb this
  | ok st =>
    rw [hb] at h
    simp only [liftErr] at h
    exact docTreeH_noLoop _ _ src _ _ h

theorem convertH_noLoop (autoId : Bool) (uc : List (Nat × (Bool × Bool))) (o : ROpts) (src : Bytes) {e : Err}
    (h : convertH autoId uc o src = .error e) : e.isLoop = false := by
  unfold convertH convertHWith at h
  simp only [bind, Except.bind] at h
  cases hp : parseDocH autoId true uc src with
  | error e1 => rw [hp] at h; cases h; exact parseDocH_noLoop autoId uc src hp
  | ok t => rw [hp] at h; exact GM.Proof.ConvertTotal.renderDoc_noLoop o t h

end GM.ConvertH
