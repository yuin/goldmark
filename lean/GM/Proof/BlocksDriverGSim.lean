/-
  GM.Proof.BlocksDriverGSim — One walk over the driver with hooks `runG K` against `runC cls`, for any judgement between a two-layer program and a plain one that is closed under the
  `do` constructs (`SimCalc`) and holds of the hooks (`HookSim`): `parseBlocksG_simH`; the five simulations of the composed models are instances. Before it
  the tactic `gen_discr` these walks use.
-/
import Lean.Elab.Tactic
import GM.Proof.BlocksDriverG
import GM.Proof.BlocksDriverC
import GM.Proof.BlocksPres

section GenDiscr

open Lean Elab Tactic Meta in
/-- `gen_discr k`, on a goal `S a₀ … aₙ` that relates two programs: when the program `aₖ` is a `match` on a term that is not
    a variable, generalise that term in the whole goal (both programs match on it), so that `split` analyses both at once -/
elab "gen_discr " k:num : tactic => do
  let g ← getMainGoal
  g.withContext do
    let t ← instantiateMVars (← g.getType)
    let args := t.getAppArgs
    let some m := args[k.getNat]? | throwError "the goal has no argument {k.getNat}"
    let env ← getEnv
    -- a discriminant (closed w.r.t. bound variables, not a variable) of some `match` inside that program
    let cand : Option Expr := (m.find? fun e =>
      if isMatcherAppCore env e then
        match e.getAppFn.constName? >>= fun n => (getMatcherInfoCore? env n) with
        | some info =>
          let as := e.getAppArgs
          (List.range info.numDiscrs).any fun i =>
            match as[info.numParams + 1 + i]? with
            | some d => !d.isFVar && !d.hasLooseBVars
            | none => false
        | none => false
      else false)
    let some e := cand | throwError "no match on a non-variable"
    let some info := e.getAppFn.constName? >>= fun n => (getMatcherInfoCore? env n) | throwError "no matcher info"
    let as := e.getAppArgs
    for i in List.range info.numDiscrs do
      match as[info.numParams + 1 + i]? with
      | some d =>
        if !d.isFVar && !d.hasLooseBVars then
          let (_, g') ← g.generalize #[{ expr := d }]
          replaceMainGoal [g']
          return
      | none => pure ()
    throwError "no discriminant"
end GenDiscr

section BlocksDriverGSim
/-
  ONE walk over the driver with hooks (GM.Proof.BlocksDriverG) against the plain driver with the
  parsers' Close as a parameter (`runC cls`, GM.Proof.BlocksDriverC), for ANY judgement `S m m0` between a two-layer program and
  a plain one that is closed under the `do` constructs (`SimCalc`: lifted primitive, `pure`, `throw`, `bind`), from `S` of the
  hooks (`HookSim`). The five simulations of the composed models are instances: erasing the AutoHeadingID layer (`HSim`),
  the monitored driver against it (`VSim`, the backward direction) and against DriverT (`MSim`, both sides plain: the left one
  is `lower` of `G` at `σ = Unit`), the footnote layer with the block parser off (`FSim`) and on (`FSimI`; there a primitive is
  liftable only if it keeps the reader invariant: the side condition `U`, and `openBlocks` is related by hand: the second form
  `parseBlocksG_sim`, which asks for `closeBlocks`, `openBlocks` and Continue related instead of all hooks).
-/

namespace GM.Blocks
open GM GM.Text

variable {σ P : Type}

/-- a judgement relating a two-layer program to a plain one, closed under the `do` constructs -/
structure SimCalc (U : ∀ α : Type, M α → Prop) (S : ∀ α : Type, StateT σ M α → M α → Prop) : Prop where
  up : ∀ {α} (x : M α), U α x → S α (upG x) x
  pure : ∀ {α} (a : α), S α (Pure.pure a) (Pure.pure a)
  throw : ∀ {α} (e : Panic), S α (throw e) (throw e)
  bind : ∀ {α β} {m : StateT σ M α} {m0 : M α} {f : α → StateT σ M β} {f0 : α → M β},
    S α m m0 → (∀ a, S β (f a) (f0 a)) → S β (m >>= f) (m0 >>= f0)

/-- the hooks `K` (over the parser type `P ⊇ ι '' BP`) are related by `S` to the plain parser operations and `cls` -/
structure HookSim (S : ∀ α : Type, StateT σ M α → M α → Prop) (K : Hooks σ P) (cls : BP → Nat → M Unit) (pts : List PT)
    (ι : BP → P) : Prop where
  canInt : ∀ bp, K.canInt (ι bp) = bp.canInterruptParagraph
  canAcc : ∀ bp, K.canAcc (ι bp) = bp.canAcceptIndentedLine
  tag : ∀ bp, K.tag (ι bp) = bp
  opn : ∀ bp parent, S _ (K.opn (ι bp) parent) (bpOpen bp parent)
  cont : ∀ bp n, S _ (K.cont bp n) (bpContinue bp n)
  cls : ∀ bp n, S _ (K.cls bp n) (cls bp n)
  trig : ∀ c, (K.trig c).getD K.free = ((triggered c).getD freeParsers).map ι
  free : K.free = freeParsers.map ι
  tp : ∀ n, S _ (K.tp n) (transformParagraph pts n)

/-- `x` is one of the `M` operations the driver lifts -/
inductive DrvU : {α : Type} → M α → Prop
  | liftBlockAt (l i) : DrvU (liftE (blockAt l i))
  | liftSlice (l a b) : DrvU (liftE (closeBlocks.slice' l a b))
  | liftIdx (l i) : DrvU (liftE (idx l i))
  | node (n) : DrvU (getNode n)
  | pc : DrvU getPc
  | setPc (f) : DrvU (modPc f)
  | lastOpened : DrvU lastOpenedBlock
  | setNode (n f) : DrvU (modNode n f)
  | append (p n) : DrvU (appendChild p n)
  | state : DrvU (get : M St)
  | continuable (c r lb) : DrvU (toContinuable c r lb)
  | peek : DrvU peekLine
  | offset : DrvU lineOffset
  | src : DrvU source
  | pos : DrvU position
  | advance : DrvU advanceLine
  | skipBlank : DrvU skipBlankLinesR

variable {U : ∀ α : Type, M α → Prop} {S : ∀ α : Type, StateT σ M α → M α → Prop}

theorem SimCalc.ite (c : SimCalc U S) {α} {p : Prop} [Decidable p] {a b : StateT σ M α} {a0 b0 : M α}
    (ha : S α a a0) (hb : S α b b0) : S α (if p then a else b) (if p then a0 else b0) := by
  split <;> assumption

/-- one step of the walk over two `do` blocks of the same shape (`c : SimCalc U S`, `u : ∀ x, DrvU x → U _ x`) -/
macro "gsim_step " c:ident u:ident : tactic =>
  `(tactic| first
    | with_reducible exact SimCalc.up $c _ ($u _ (by constructor))
    | with_reducible exact SimCalc.pure $c _
    | with_reducible exact SimCalc.throw $c _
    | apply_hyp
    | with_reducible apply SimCalc.bind $c
    | with_reducible apply SimCalc.ite $c
    | intro _
    | gen_discr 1
    | split)

macro "gsim " c:ident u:ident : tactic => `(tactic| repeat' gsim_step $c $u)
/-- the same, where a `let x ← pure …` binds different (related) values on the two sides -/
macro "gsim_p " c:ident u:ident : tactic => `(tactic| repeat' (first
    | with_reducible exact SimCalc.up $c _ ($u _ (by constructor))
    | with_reducible exact SimCalc.pure $c _
    | with_reducible exact SimCalc.throw $c _
    | apply_hyp
    | rw [pure_bind, pure_bind]
    | gsim_step $c $u))

section driver
variable {K : Hooks σ P} {cls : BP → Nat → M Unit} {ι : BP → P} (c : SimCalc U S) {pts : List PT} (hk : HookSim S K cls pts ι) (u : ∀ {α} (x : M α), DrvU x → U α x)
include c hk u

theorem closeLoopG_sim (blocks : List Block) (to : Int) (k : Nat) :
    S _ (closeLoopG K blocks to k) (closeLoopC cls pts blocks to k) := by
  have := hk.cls
  have := hk.tp
  induction k with
  | zero => unfold closeLoopG closeLoopC; gsim c u
  | succ k ih => unfold closeLoopG closeLoopC; gsim c u

theorem closeBlocksG_sim (frm to : Int) : S _ (closeBlocksG K frm to) (closeBlocksC cls pts frm to) := by
  have := closeLoopG_sim c hk u
  unfold closeBlocksG closeBlocksC; gsim c u

theorem requireParaG_sim (parent : Nat) (last : Option Nat) (lastBlock : Option Block) :
    S _ (requireParaG K parent last lastBlock) (requireParaC cls pts parent last lastBlock) := by
  have := hk.cls
  have := hk.tp
  unfold requireParaG requireParaC; gsim c u

theorem tryParsersG_sim (parent : Nat) (blankLine continuable : Bool) (w : Int) (bps : List BP)
    (result : OpenResult) (lastBlock : Option Block) :
    S _ (tryParsersG K parent blankLine continuable w (bps.map ι) result lastBlock)
      (tryParsersC cls pts parent blankLine continuable w bps result lastBlock) := by
  have := requireParaG_sim c hk u
  have := closeBlocksG_sim c hk u
  have := hk.opn
  induction bps generalizing result lastBlock with
  | nil => exact c.pure _
  | cons bp bps ih =>
    simp only [List.map]
    unfold tryParsersG tryParsersC
    rw [hk.canInt, hk.canAcc, hk.tag]
    gsim c u

theorem retryStepG_sim (blankLine tdone continuable : Bool) (parent : Nat) (w : Int) (bps : List BP)
    (result : OpenResult) (lastBlock : Option Block)
    (againG : Bool → Bool → Nat → OpenResult → Option Block → StateT σ M OpenResult)
    (againC : Bool → Bool → Nat → OpenResult → Option Block → M OpenResult)
    (ha : ∀ a b c d e, S _ (againG a b c d e) (againC a b c d e)) :
    S _ (retryStepG K blankLine tdone continuable parent w (bps.map ι) result lastBlock againG)
      (retryStepC cls pts blankLine tdone continuable parent w bps result lastBlock againC) := by
  have := tryParsersG_sim c hk u
  unfold retryStepG retryStepC; gsim c u

theorem openBlocksLoopG_sim (blankLine : Bool) (fuel : Nat) (tdone continuable : Bool) (parent : Nat)
    (result : OpenResult) (lastBlock : Option Block) :
    S _ (openBlocksLoopG K blankLine fuel tdone continuable parent result lastBlock)
      (openBlocksLoopC cls pts blankLine fuel tdone continuable parent result lastBlock) := by
  induction fuel generalizing tdone continuable parent result lastBlock with
  | zero => unfold openBlocksLoopG openBlocksLoopC; gsim c u
  | succ fuel ih =>
    have hr := retryStepG_sim c hk u
    unfold openBlocksLoopG openBlocksLoopC
    simp only [hk.trig]
    rw [hk.free]
    gsim_p c u

theorem openBlocksG_sim (parent : Nat) (blankLine : Bool) :
    S _ (openBlocksG K parent blankLine) (openBlocksC cls pts parent blankLine) := by
  have := openBlocksLoopG_sim c hk u
  unfold openBlocksG openBlocksC; gsim c u

end driver

/-! the line loops need only `closeBlocks`, `openBlocks` and `Continue` related (so a hand-made `openBlocks` simulation,
    as in ConvertFCons, plugs in) -/
section lines
variable {K : Hooks σ P} {cls : BP → Nat → M Unit} (c : SimCalc U S) (pts : List PT) (u : ∀ {α} (x : M α), DrvU x → U α x)
  (hcb : ∀ frm to, S _ (closeBlocksG K frm to) (closeBlocksC cls pts frm to))
  (hob : ∀ parent bl, S _ (openBlocksG K parent bl) (openBlocksC cls pts parent bl))
  (hcont : ∀ bp n, S _ (K.cont bp n) (bpContinue bp n))
include c u hcb hob hcont

theorem lineLoopG_sim (parent : Nat) (openedBlocks : List Block) (lastIndex : Int) (rest : List Block) (i : Int)
    (blankLines : List LineStat) :
    S _ (lineLoopG K parent openedBlocks lastIndex rest i blankLines)
      (lineLoopC cls pts parent openedBlocks lastIndex rest i blankLines) := by
  induction rest generalizing i blankLines with
  | nil => unfold lineLoopG lineLoopC; gsim c u
  | cons be rest ih => unfold lineLoopG lineLoopC; gsim c u

theorem linesLoopG_sim (parent : Nat) (fuel : Nat) (blankLines : List LineStat) :
    S _ (linesLoopG K parent fuel blankLines) (linesLoopC cls pts parent fuel blankLines) := by
  have := lineLoopG_sim c pts u hcb hob hcont
  induction fuel generalizing blankLines with
  | zero => unfold linesLoopG linesLoopC; gsim c u
  | succ fuel ih => unfold linesLoopG linesLoopC; gsim c u

theorem blocksLoopG_sim (parent : Nat) (fuel : Nat) (blankLines : List LineStat) :
    S _ (blocksLoopG K parent fuel blankLines) (blocksLoopC cls pts parent fuel blankLines) := by
  have := linesLoopG_sim c pts u hcb hob hcont
  induction fuel generalizing blankLines with
  | zero => unfold blocksLoopG blocksLoopC; gsim c u
  | succ fuel ih => unfold blocksLoopG blocksLoopC; gsim c u

theorem parseBlocksG_sim (parent : Nat) : S _ (parseBlocksG K parent) (parseBlocksC cls pts parent) := by
  have := blocksLoopG_sim c pts u hcb hob hcont
  unfold parseBlocksG parseBlocksC; gsim c u

end lines

theorem parseBlocksG_simH {K : Hooks σ P} {cls : BP → Nat → M Unit} {ι : BP → P} (c : SimCalc U S) {pts : List PT}
    (hk : HookSim S K cls pts ι) (u : ∀ {α} (x : M α), DrvU x → U α x) (parent : Nat) : S _ (parseBlocksG K parent) (parseBlocksC cls pts parent) :=
  parseBlocksG_sim c pts u (closeBlocksG_sim c hk u) (openBlocksG_sim c hk u) hk.cont parent


/-! ### `runC cls` is the driver with hooks at `σ = Unit` -/

theorem lower_calc : SimCalc (σ := Unit) (fun _ _ => True) (fun _ m m0 => lower m = m0) :=
  ⟨fun x _ => lower_up x, fun _ => rfl, fun _ => rfl, fun hm hf => by rw [lower_bind, hm]; congr 1; funext a; exact hf a⟩

/-- two plain drivers differ in Close and in the paragraph transformers -/
theorem hookSimU {S : ∀ α : Type, StateT Unit M α → M α → Prop} (c : SimCalc (fun _ _ => True) S) {cls cls0 : BP → Nat → M Unit}
    {pts pts0 : List PT} (h : ∀ bp node, S _ (upG (cls bp node)) (cls0 bp node))
    (ht : ∀ n, S _ (upG (transformParagraph pts n)) (transformParagraph pts0 n)) : HookSim S (hooksU cls pts) cls0 pts0 id :=
  ⟨fun _ => rfl, fun _ => rfl, fun _ => rfl, fun _ _ => c.up _ trivial, fun _ _ => c.up _ trivial, h,
   fun _ => (List.map_id _).symm, (List.map_id _).symm, ht⟩

theorem lower_parseBlocksG (cls : BP → Nat → M Unit) (pts : List PT) (parent : Nat) :
    lower (parseBlocksG (hooksU cls pts) parent) = parseBlocksC cls pts parent :=
  parseBlocksG_simH lower_calc (hookSimU lower_calc (fun _ _ => lower_up _) fun _ => lower_up _) (fun _ _ => trivial) parent

end GM.Blocks
end BlocksDriverGSim
