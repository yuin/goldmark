/-
  GM.Proof.ConvertHSim — erasing the AutoHeadingID state layer of GM.Model.ConvertH gives the block driver with paragraph
  transformers (GM.Model.Blocks.DriverT) back.

  `HSim strict IH m m0`: from every two-layer state `(h, s)` with `IH h`, the `MH` program `m` and the `M` program `m0`
  agree: when `m` ends normally so does `m0`, with the same value and the same `St`, and `IH` holds of the new `HS`; when
  `m` ends in a panic, `m0` ends in the same panic — or (only when `strict = false`) the panic is one of the option's own
  code (`Segment.Value` in generateAutoHeadingID), which is never fuel exhaustion.
  `HSim` is closed under the `do` constructs and `up x` simulates `x` (`hsim_calc`), so the driver is simulated by the walk of
  GM.Proof.BlocksDriverGSim; the only hook that is not `up` is `bpCloseH` (hypothesis `HookOK`).
-/
import GM.Proof.BlocksDriverGSim

namespace GM.ConvertH
open GM GM.Text GM.Blocks GM.Convert

/-- the relation between the two outcomes -/
def RSim (strict : Bool) (IH : HS → Prop) {α : Type} (x : Except Panic ((α × HS) × St)) (y : Except Panic (α × St)) : Prop :=
  match x with
  | .ok ((a, h'), s') => IH h' ∧ y = .ok (a, s')
  | .error e => y = .error e ∨ (strict = false ∧ e ≠ Panic.loop)

structure HSim (strict : Bool) (IH : HS → Prop) {α : Type} (m : MH α) (m0 : M α) : Prop where
  h : ∀ h s, IH h → RSim strict IH (m h s) (m0 s)

variable {strict : Bool} {IH : HS → Prop}

theorem m_bind_apply {α β} (m : M α) (f : α → M β) (s : St) :
    (m >>= f) s = match m s with
      | .ok (a, s') => f a s'
      | .error e => .error e := by
  simp only [bind, StateT.bind, Except.bind]
  cases m s with
  | error e => rfl
  | ok x => rfl

theorem up_apply {α} (x : M α) (h : HS) (s : St) :
    (up x) h s = match x s with
      | .ok (a, s') => .ok ((a, h), s')
      | .error e => .error e := by
  rw [show up x h s = StateT.lift x h s from rfl, Hoare.lift_apply₂]; cases x s <;> rfl

theorem HSim.up {α} (x : M α) : HSim strict IH (up x) x := by
  constructor
  intro h s hh
  rw [up_apply]
  cases x s with
  | error e => exact Or.inl rfl
  | ok p => exact ⟨hh, rfl⟩

theorem HSim.pure {α} (a : α) : HSim strict IH (Pure.pure a : MH α) (Pure.pure a : M α) :=
  ⟨fun _ _ hh => ⟨hh, rfl⟩⟩

theorem HSim.throw {α} (e : Panic) : HSim strict IH (throw e : MH α) (throw e : M α) :=
  ⟨fun _ _ _ => Or.inl rfl⟩

theorem HSim.bind {α β} {m : MH α} {m0 : M α} {f : α → MH β} {f0 : α → M β}
    (hm : HSim strict IH m m0) (hf : ∀ a, HSim strict IH (f a) (f0 a)) : HSim strict IH (m >>= f) (m0 >>= f0) := by
  constructor
  intro h s hh
  rw [Hoare.bind_apply₂, m_bind_apply]
  have h1 := hm.h h s hh
  cases hx : m h s with
  | error e =>
    rw [hx] at h1
    rcases h1 with h1 | h1
    · rw [h1]; exact Or.inl rfl
    · exact Or.inr h1
  | ok p =>
    obtain ⟨⟨a, h'⟩, s'⟩ := p
    rw [hx] at h1
    obtain ⟨h2, h3⟩ := h1
    rw [h3]
    exact (hf a).h h' s' h2

/-- what the driver proofs need from `bpCloseH` -/
def HookOK (strict : Bool) (IH : HS → Prop) (autoId : Bool) : Prop :=
  ∀ bp node, HSim strict IH (bpCloseH autoId bp node) (bpClose bp node)

theorem hsim_calc (strict : Bool) (IH : HS → Prop) : SimCalc (fun _ _ => True) (fun _ m m0 => HSim strict IH m m0) :=
  ⟨fun x _ => HSim.up x, HSim.pure, HSim.throw, HSim.bind⟩

/-- the hooks of the AutoHeadingID driver differ from the plain operations in Close only -/
theorem hookSimH {S : ∀ α : Type, MH α → M α → Prop} (c : SimCalc (fun _ _ => True) S) {autoId : Bool} {cls : BP → Nat → M Unit}
    {pts : List PT} (h : ∀ bp node, S _ (bpCloseH autoId bp node) (cls bp node)) : HookSim S (hooksH autoId pts) cls pts id :=
  ⟨fun _ => rfl, fun _ => rfl, fun _ => rfl, fun _ _ => c.up _ trivial, fun _ _ => c.up _ trivial, h,
   fun _ => (List.map_id _).symm, (List.map_id _).symm, fun _ => c.up _ trivial⟩

theorem parseBlocksH_sim {autoId : Bool} (hook : HookOK strict IH autoId) (pts : List PT) (parent : Nat) :
    HSim strict IH (parseBlocksH autoId pts parent) (parseBlocksT pts parent) := by
  rw [parseBlocksH_eqG, parseBlocksT_eqC]
  exact parseBlocksG_simH (hsim_calc strict IH) (hookSimH (hsim_calc strict IH) hook) (fun _ _ => trivial) parent

end GM.ConvertH
