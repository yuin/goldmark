/-
  GM.Proof.CaseFold — util.DoFullUnicodeCaseFolding (model `GM.caseFold`): structure lemmas and idempotence, on the facts about the regenerated case-folding table, which is
  evaluated at rune level (`okEntryR`).
-/
import GM.Model.Util
import GM.Proof.Utf8
import GM.Proof.Resolve

section FoldTable
/-
  The facts about the regenerated case-folding table that the caseFold proofs use. The
  table is evaluated at rune level (`okEntryR`); that a valid rune's encoding decodes back to it is a theorem
  (GM.Proof.Utf8).
-/

namespace GM.Proof
open GM

def maskOf : List Nat → Nat
  | [] => 0
  | k :: ks => (1 <<< k) ||| maskOf ks

theorem mem_maskOf {r : Nat} {l : List Nat} (h : r ∈ l) : (maskOf l).testBit r = true := by
  induction l with
  | nil => cases h
  | cons k ks ih =>
    simp only [maskOf, Nat.testBit_or, Bool.or_eq_true]
    rcases List.mem_cons.mp h with h | h
    · left; subst h; simp [Nat.testBit_shiftLeft]
    · right; exact ih h

def upperByte (b : UInt8) : Bool := 65 ≤ b && b ≤ 90

/-- what the proofs need of one rune's encoding: a non-continuation byte followed by continuation bytes,
    decoding back to the rune; the first byte is either ≥ 0xB5 or the rune is a single ASCII byte -/
def okEnc (r : Nat) : Bool :=
  match encodeRune r with
  | [] => false
  | b0 :: conts =>
    !isCont b0 && conts.all isCont && r != runeError &&
    decodeRune (b0 :: conts) == (r, conts.length + 1) &&
    (b0 ≥ 181 || (conts.isEmpty && b0 < 128))

/-- a folding result: additionally none of its bytes is an upper-case ASCII letter or a trim-space byte -/
def okOut (r : Nat) : Bool :=
  okEnc r && (encodeRune r).all (fun b => !upperByte b && !isTrimSpace b)

def okKey (e : Nat × List Nat) : Bool :=
  match encodeRune e.1 with
  | [] => false
  | b0 :: conts => b0 ≥ 181 || (conts.isEmpty && upperByte b0 && e.2.flatMap encodeRune == [b0 + 32])

def okEntry (e : Nat × List Nat) : Bool :=
  okEnc e.1 && !e.2.isEmpty && e.2.all okOut && okKey e

theorem class_high : ∀ c : UInt8, 128 ≤ c → isTrimSpace c = false ∧ isSpace c = false ∧ upperByte c = false := by
  apply forall_uint8; decide +kernel

/-- a valid rune other than U+FFFD: all that `okEnc` asks (`okEnc_of_rune`) -/
def okRune (r : Nat) : Bool := validRune r && r != runeError

theorem okEnc_of_rune {r : Nat} (h : okRune r = true) : okEnc r = true := by
  simp only [okRune, Bool.and_eq_true, bne_iff_ne, ne_eq] at h
  obtain ⟨b0, conts, e, hc, hb⟩ := encodeRune_lead r h.1
  have hd := decodeRune_encodeRune r h.1 []
  rw [List.append_nil, e] at hd
  have h0 : isCont b0 = false := by
    cases hi : isCont b0 with
    | false => rfl
    | true => rw [isCont_iff] at hi; omega
  unfold okEnc
  rw [e]
  simp only [h0, hc, hd, h.2, List.length_cons, Bool.not_false, Bool.true_and, bne_iff_ne, ne_eq, not_false_eq_true,
    beq_self_eq_true, Bool.or_eq_true, decide_eq_true_eq, Bool.and_eq_true, List.isEmpty_iff,
    UInt8.le_iff_toNat_le, UInt8.lt_iff_toNat_lt, ge_iff_le, and_self, true_and]
  rcases hb with ⟨h1, h2, h3⟩ | ⟨h1, _⟩
  · exact .inr ⟨h1, by show b0.toNat < 128; omega⟩
  · exact .inl (by show 181 ≤ b0.toNat; omega)

/-- `okEntry` with the encoding and decoding left to `okEnc_of_rune`: what is evaluated on the table -/
def okEntryR (e : Nat × List Nat) : Bool :=
  okRune e.1 && !e.2.isEmpty &&
  e.2.all (fun r => okRune r && (128 ≤ r || (encodeRune r).all (fun b => !upperByte b && !isTrimSpace b))) &&
  (181 ≤ e.1 || okKey e)

theorem okEntry_of_R {e : Nat × List Nat} (h : okEntryR e = true) : okEntry e = true := by
  simp only [okEntryR, Bool.and_eq_true, Bool.or_eq_true, decide_eq_true_eq, List.all_eq_true] at h
  obtain ⟨⟨⟨hk, hne⟩, hout⟩, hkey⟩ := h
  simp only [okEntry, okOut, Bool.and_eq_true, List.all_eq_true]
  refine ⟨⟨⟨okEnc_of_rune hk, hne⟩, fun r hr => ⟨okEnc_of_rune (hout r hr).1, ?_⟩⟩, ?_⟩
  · rcases (hout r hr).2 with h128 | hb
    · intro b hb
      have := class_high b (encodeRune_high r h128 b hb)
      simp [this.1, this.2.2]
    · exact fun b => hb b
  · rcases hkey with h181 | hkey
    · simp only [okRune, Bool.and_eq_true] at hk
      obtain ⟨b0, conts, e', _, hb⟩ := encodeRune_lead e.1 hk.1
      unfold okKey; rw [e']
      simp only [Bool.or_eq_true, decide_eq_true_eq]
      exact .inl (by rw [ge_iff_le, UInt8.le_iff_toNat_le]; show 181 ≤ b0.toNat; omega)
    · exact hkey

theorem foldTable_okR : foldTable.all okEntryR = true := by decide +kernel

/-- every entry of the regenerated table is well-formed in the above sense (1,530 entries) -/
theorem foldTable_ok : foldTable.all okEntry = true :=
  List.all_eq_true.mpr fun e he => okEntry_of_R (List.all_eq_true.mp foldTable_okR e he)

/-- no folding result is itself a key of the table (bit-set of keys ∩ bit-set of results = ∅) -/
theorem foldTable_closed :
    maskOf (foldTable.map (·.1)) &&& maskOf (foldTable.flatMap (·.2)) = 0 := by decide +kernel

theorem fold_entry_ok {k : Nat} {f : List Nat} (h : lookupFold k = some f) : okEntry (k, f) = true :=
  List.all_eq_true.mp foldTable_ok _ (lookup_mem _ _ _ h)

theorem fold_closed {k r : Nat} {f : List Nat} (h : lookupFold k = some f) (hr : r ∈ f) : lookupFold r = none := by
  cases hg : lookupFold r with
  | none => rfl
  | some g =>
    have h1 : r ∈ foldTable.map (·.1) := List.mem_map.mpr ⟨(r, g), lookup_mem _ _ _ hg, rfl⟩
    have h2 : r ∈ foldTable.flatMap (·.2) := List.mem_flatMap.mpr ⟨(k, f), lookup_mem _ _ _ h, hr⟩
    have := congrArg (fun m => Nat.testBit m r) foldTable_closed
    simp only [Nat.testBit_and, mem_maskOf h1, mem_maskOf h2, Nat.zero_testBit, Bool.and_self] at this
    cases this

theorem fold_out_ok {k r : Nat} {f : List Nat} (h : lookupFold k = some f) (hr : r ∈ f) : okOut r = true := by
  have := fold_entry_ok h
  simp only [okEntry, Bool.and_eq_true] at this
  exact List.all_eq_true.mp this.1.2 _ hr

theorem fold_nonempty {k : Nat} {f : List Nat} (h : lookupFold k = some f) : f ≠ [] := by
  have := fold_entry_ok h
  simp only [okEntry, Bool.and_eq_true] at this
  intro hf; rw [hf] at this; simp at this

theorem okEnc_shape {r : Nat} (h : okEnc r = true) :
    ∃ b0 conts, encodeRune r = b0 :: conts ∧ isCont b0 = false ∧ conts.all isCont = true ∧ r ≠ runeError ∧
      decodeRune (b0 :: conts) = (r, conts.length + 1) ∧ (b0 ≥ 181 ∨ (conts = [] ∧ b0 < 128)) := by
  unfold okEnc at h
  split at h
  · cases h
  · rename_i b0 conts heq
    simp only [Bool.and_eq_true, Bool.not_eq_true', bne_iff_ne, ne_eq, beq_iff_eq, Bool.or_eq_true,
      decide_eq_true_eq, List.isEmpty_iff] at h
    exact ⟨b0, conts, heq, h.1.1.1.1, h.1.1.1.2, h.1.1.2, h.1.2, h.2⟩

end GM.Proof
end FoldTable

section CaseFold
namespace GM.Proof
open GM

theorem cf_lt {c : UInt8} (cs : Bytes) (h : c < 181) :
    caseFold (c :: cs) = (if upperByte c then c + 32 else c) :: caseFold cs := by
  rw [caseFold]; simp only [h, if_true, upperByte]; rfl

theorem cf_cont {c : UInt8} (cs : Bytes) (hc : isCont c = true) : caseFold (c :: cs) = c :: caseFold cs := by
  by_cases h : c < 181
  · rw [cf_lt cs h]
    have : upperByte c = false := by
      rw [isCont_iff] at hc
      simp only [upperByte, Bool.and_eq_false_iff, decide_eq_false_iff_not, UInt8.le_iff_toNat_le]
      right; simp; omega
    simp [this]
  · rw [caseFold]; simp [h, runeStart, hc]

theorem cf_conts (conts rest : Bytes) (h : conts.all isCont = true) :
    caseFold (conts ++ rest) = conts ++ caseFold rest := by
  induction conts with
  | nil => rfl
  | cons c cs ih =>
    simp only [List.all_cons, Bool.and_eq_true] at h
    rw [List.cons_append, cf_cont _ h.1, ih h.2]; rfl

theorem cf_keep {c : UInt8} (cs : Bytes) (h : ¬ c < 181) (hc : isCont c = false)
    (hd : (decodeRune (c :: cs)).1 = runeError ∨ lookupFold (decodeRune (c :: cs)).1 = none) :
    caseFold (c :: cs) = c :: caseFold cs := by
  rw [caseFold]
  simp only [h, if_false, runeStart, hc, Bool.not_false, Bool.not_true]
  rcases hd with hd | hd
  · simp [hd]
  · split
    · rfl
    · simp [hd]

theorem cf_fold {c : UInt8} (cs : Bytes) (h : ¬ c < 181) (hc : isCont c = false)
    (hd : (decodeRune (c :: cs)).1 ≠ runeError) {f : List Nat} (hf : lookupFold (decodeRune (c :: cs)).1 = some f) :
    caseFold (c :: cs) = f.flatMap encodeRune ++ caseFold (cs.drop ((decodeRune (c :: cs)).2 - 1)) := by
  rw [caseFold]
  simp only [h, if_false, runeStart, hc, Bool.not_false, Bool.not_true]
  simp [hd, hf]

theorem okOut_parts {r : Nat} (h : okOut r = true) :
    okEnc r = true ∧ (encodeRune r).all (fun b => !upperByte b && !isTrimSpace b) = true := by
  simpa [okOut] using h

theorem caseFold_enc {r : Nat} (h : okOut r = true) (hn : lookupFold r = none) (tail : Bytes) :
    caseFold (encodeRune r ++ tail) = encodeRune r ++ caseFold tail := by
  obtain ⟨henc, hall⟩ := okOut_parts h
  obtain ⟨b0, conts, heq, hb0, hconts, hre, hdec, hcase⟩ := okEnc_shape henc
  rw [heq] at hall ⊢
  rcases hcase with hge | ⟨hnil, hlt⟩
  · have hnlt : ¬ b0 < 181 := by
      rw [UInt8.lt_iff_toNat_lt]; rw [ge_iff_le, UInt8.le_iff_toNat_le] at hge; omega
    have hd := decodeRune_append hdec hre tail
    rw [List.cons_append, cf_keep _ hnlt hb0 (Or.inr (by rw [hd]; exact hn)), cf_conts _ _ hconts]; rfl
  · subst hnil
    have hlt' : b0 < 181 := by
      rw [UInt8.lt_iff_toNat_lt] at hlt ⊢; simp at hlt ⊢; omega
    simp only [List.all_cons, List.all_nil, Bool.and_true, Bool.and_eq_true, Bool.not_eq_true'] at hall
    rw [List.cons_append, List.nil_append, cf_lt _ hlt', hall.1]; rfl

theorem caseFold_encs (f : List Nat) (h : ∀ r ∈ f, okOut r = true ∧ lookupFold r = none) (tail : Bytes) :
    caseFold (f.flatMap encodeRune ++ tail) = f.flatMap encodeRune ++ caseFold tail := by
  induction f with
  | nil => rfl
  | cons r f ih =>
    have hr := h r List.mem_cons_self
    simp only [List.flatMap_cons, List.append_assoc]
    rw [caseFold_enc hr.1 hr.2, ih (fun r' hr' => h r' (List.mem_cons_of_mem _ hr'))]

theorem caseFold_folded {k : Nat} {f : List Nat} (hf : lookupFold k = some f) (tail : Bytes) :
    caseFold (f.flatMap encodeRune ++ tail) = f.flatMap encodeRune ++ caseFold tail :=
  caseFold_encs f (fun _ hr => ⟨fold_out_ok hf hr, fold_closed hf hr⟩) tail

theorem lower_class : ∀ c : UInt8, c < 181 →
    isCont (if upperByte c then c + 32 else c) = isCont c ∧
    isTrimSpace (if upperByte c then c + 32 else c) = isTrimSpace c ∧
    isSpace (if upperByte c then c + 32 else c) = isSpace c := by
  apply forall_uint8; decide +kernel

theorem high_class (c : UInt8) (h : ¬ c < 181) : isTrimSpace c = false ∧ isSpace c = false :=
  have := class_high c (UInt8.le_trans (by decide) (UInt8.not_lt.mp h))
  ⟨this.1, this.2.1⟩

theorem trim_space : ∀ c : UInt8, isTrimSpace c = false → isSpace c = false := by
  apply forall_uint8; decide +kernel

theorem cont_class (c : UInt8) (h : isCont c = true) : isTrimSpace c = false ∧ isSpace c = false ∧ upperByte c = false :=
  class_high c (isCont_high h)

/-- the bytes of a folding result: first byte not a continuation byte, no trim-space byte -/
theorem encs_head {k : Nat} {f : List Nat} (hf : lookupFold k = some f) :
    ∃ h t, f.flatMap encodeRune = h :: t ∧ isCont h = false ∧
      (f.flatMap encodeRune).all (fun b => !isTrimSpace b) = true := by
  have hall : (f.flatMap encodeRune).all (fun b => !isTrimSpace b) = true := by
    rw [List.all_flatMap]
    apply List.all_eq_true.mpr
    intro r hr
    have := (okOut_parts (fold_out_ok hf hr)).2
    rw [List.all_eq_true] at this ⊢
    intro b hb
    have := this b hb
    simp only [Bool.and_eq_true] at this
    exact this.2
  cases f with
  | nil => exact absurd rfl (fold_nonempty hf)
  | cons r f =>
    obtain ⟨b0, conts, heq, hb0, _⟩ := okEnc_shape (okOut_parts (fold_out_ok hf List.mem_cons_self)).1
    refine ⟨b0, conts ++ f.flatMap encodeRune, ?_, hb0, hall⟩
    simp [List.flatMap_cons, heq]

theorem caseFold_head (c : UInt8) (cs : Bytes) :
    ∃ h t, caseFold (c :: cs) = h :: t ∧ isCont h = isCont c ∧ isTrimSpace h = isTrimSpace c ∧
      isSpace h = isSpace c := by
  by_cases hlt : c < 181
  · obtain ⟨h1, h2, h3⟩ := lower_class c hlt
    exact ⟨_, _, cf_lt cs hlt, h1, h2, h3⟩
  · by_cases hc : isCont c = true
    · exact ⟨c, _, cf_cont cs hc, rfl, rfl, rfl⟩
    · have hc' : isCont c = false := by simpa using hc
      by_cases hd : (decodeRune (c :: cs)).1 = runeError
      · exact ⟨c, _, cf_keep cs hlt hc' (Or.inl hd), rfl, rfl, rfl⟩
      · cases hf : lookupFold (decodeRune (c :: cs)).1 with
        | none => exact ⟨c, _, cf_keep cs hlt hc' (Or.inr hf), rfl, rfl, rfl⟩
        | some f =>
          obtain ⟨h, t, heq, hh, hall⟩ := encs_head hf
          obtain ⟨k1, k2⟩ := high_class c hlt
          rw [heq] at hall
          simp only [List.all_cons, Bool.and_eq_true, Bool.not_eq_true'] at hall
          refine ⟨h, t ++ caseFold (cs.drop ((decodeRune (c :: cs)).2 - 1)), ?_, by rw [hh, hc'], by rw [hall.1, k1],
            by rw [trim_space h hall.1, k2]⟩
          rw [cf_fold cs hlt hc' hd hf, heq]; rfl

theorem tw_caseFold (l : Bytes) : (caseFold l).takeWhile isCont = l.takeWhile isCont := by
  induction l with
  | nil => simp [caseFold]
  | cons c cs ih =>
    by_cases hc : isCont c = true
    · rw [cf_cont cs hc]; simp [List.takeWhile, hc, ih]
    · obtain ⟨h, t, heq, hh, _⟩ := caseFold_head c cs
      have hc' : isCont c = false := by simpa using hc
      rw [heq]; simp [List.takeWhile, hc', hh]

theorem upper_lower : ∀ c : UInt8, c < 181 →
    (if upperByte c then c + 32 else c) < 181 ∧ upperByte (if upperByte c then c + 32 else c) = false := by
  apply forall_uint8; decide +kernel

theorem caseFold_idem (l : Bytes) : caseFold (caseFold l) = caseFold l := by
  fun_induction caseFold l with
  | case1 => simp [caseFold]
  | case2 c cs hlt ih =>
    obtain ⟨h1, h2⟩ := upper_lower c hlt
    have : (if (65 ≤ c && c ≤ 90) = true then c + 32 else c) = (if upperByte c then c + 32 else c) := rfl
    rw [this, cf_lt _ h1, h2, ih]; rfl
  | case3 c cs hlt hrs ih =>
    have hc : isCont c = true := by simpa [runeStart] using hrs
    rw [cf_cont _ hc, ih]
  | case4 c cs hlt hrs d hd ih =>
    have hc : isCont c = false := by simpa [runeStart] using hrs
    have hdec : decodeRune (c :: caseFold cs) = decodeRune (c :: cs) := decodeRune_congr c (tw_caseFold cs)
    rw [cf_keep _ hlt hc (Or.inl (by rw [hdec]; simpa using hd)), ih]
  | case5 c cs hlt hrs d hd hf ih =>
    have hc : isCont c = false := by simpa [runeStart] using hrs
    have hdec : decodeRune (c :: caseFold cs) = decodeRune (c :: cs) := decodeRune_congr c (tw_caseFold cs)
    rw [cf_keep _ hlt hc (Or.inr (by rw [hdec]; exact hf)), ih]
  | case6 c cs hlt hrs d hd f hf ih =>
    rw [caseFold_folded hf, ih]

end GM.Proof
end CaseFold
