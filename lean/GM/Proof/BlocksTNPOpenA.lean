/-
  GM.Proof.BlocksTNPOpenA — no-panic proof of the block driver WITH paragraph transformers, part 2: one `openBlocksT` call
  (`tryParsersT`, `retryStepT` with both contract monitors, `openBlocksLoopT`, `openBlocksT`) for a set `A` of block
  parsers WITHOUT the setext heading parser (the only RequireParagraph parser): then `requireParaT` is never entered,
  `.retryTransformed` is never answered (monitor (2) cannot fire), temporaryParagraphKey stays unset, and transformers
  run in `closeBlocksT` only (GM.Proof.BlocksTNPClose). The invariant structures `Win`, `Mid` of
  GM.Proof.BlocksDriver are reused unchanged (inside one `openBlocksT` call no transformer runs: the only `closeBlocksT`
  there drops a parentless block). The proofs are for `tryParsersC cls … openBlocksC cls` of GM.Proof.BlocksDriverC with ANY
  `cls` (no `Close` runs inside the call).
-/
import GM.Proof.BlocksTNPClose

namespace GM.Blocks.T
open GM GM.Text GM.Spec GM.Proof.Reader

/-- what `tryParsersC` hands back (no setext parser: never `.retryTransformed`, the temporary paragraph key stays unset) -/
def TPPostT (src : Bytes) (A : BP → Prop) (old : List Block) (s0 : St) (c : RCur)
    (x : TryOutcomeT × OpenResult × Option Block) (s' : St) : Prop :=
  ∃ c' new', RI src s'.r c' ∧ PadOK c' ∧ c.p ≤ c'.p ∧ Win src A old s0 s' new' ∧
    ((x.2.1 = .noBlocksOpened ∧ new' = [] ∧ x.2.2 = old.getLast?) ∨ (x.2.1 = .newBlocksOpened ∧ new' ≠ [])) ∧
    (∀ k ∈ new', ∀ b ∈ old, CompatT s' k b) ∧ s'.pc.tmpPara = none ∧
    match x.1 with
    | .retry _ => (∀ b ∈ new', b.bp.isContainer = true) ∧ c.p < c'.p
    | .retryTransformed => False
    | .done => Leafy new'

/-- what `openBlocksC` hands back: `new'` = the blocks it appended; the temporary paragraph key is unset -/
def OBPostT (src : Bytes) (A : BP → Prop) (old : List Block) (s0 : St) (c : RCur) (res : OpenResult) (s' : St) : Prop :=
  ∃ c' new', RIa src s'.r c' ∧ c.p ≤ c'.p ∧ Win src A old s0 s' new' ∧ Leafy new' ∧
    (∀ k ∈ new', ∀ b ∈ old, CompatT s' k b) ∧ (res = .paragraphContinuation → new' = []) ∧ s'.pc.tmpPara = none

/-- the state invariant at line boundaries (no setext parser: the temporary paragraph key is unset) -/
structure Stable (src : Bytes) (A : BP → Prop) (s : St) : Prop where
  nodes : NodesOK src s
  keys : KeysOK s
  blocks : ∀ b ∈ s.pc.opened, BlockOK s b ∧ A b.bp
  leafy : Leafy s.pc.opened
  tmp : s.pc.tmpPara = none

section tp
variable {src : Bytes} {A : BP → Prop} (sp : Specs src A) {e : Panic} {pts : List PT} (hpts : PTsSpec src e pts)
  (hNS : ¬ A .setext) {cls : BP → Nat → M Unit}
include sp hpts hNS

omit sp hpts hNS in
/-- the tail of a successful attempt: `parent.AppendChild(node)`, push onto `openedBlocks` -/
theorem tryTailT_oke {old : List Block} {s0 : St} {c c' : RCur} (parent id : Nat) (bp : BP) (st : PState)
    (lb0 : Option Block) (s : St) (new : List Block) (hm : Mid src A old s0 id bp s new)
    (hw0 : ∀ b ∈ old, b.node < s0.nodes.length) (hleafy : Leafy old) (hfresh : ∀ b ∈ new, s0.nodes.length ≤ b.node)
    (hallc : ∀ b ∈ new, b.bp.isContainer = true)
    (hri : RI src s.r c') (hpad : PadOK c') (hle : c.p ≤ c'.p) (hprog : st.hasChildren = true → c.p < c'.p)
    (hkids : st.hasChildren = true → bp.isContainer = true) (htmp : s.pc.tmpPara = none) :
    OKE e (TPPostT src A old s0 c)
      ((do
        appendChild parent id
        modPc fun pc => { pc with opened := pc.opened ++ [{ node := id, bp := bp }] }
        if st.hasChildren then return (TryOutcomeT.retry id, OpenResult.newBlocksOpened, lb0)
        return (TryOutcomeT.done, OpenResult.newBlocksOpened, lb0) : M _) s) := by
  obtain ⟨s1, e1, hf, hpar⟩ := appendChild_okl parent id s
  simp only [bind, StateT.bind, e1, Except.bind, modPc, pure, StateT.pure, Except.pure]
  -- the final state
  generalize hs2 : ({ r := s1.r, nodes := s1.nodes, pc := { s1.pc with opened := s1.pc.opened ++ [{ node := id, bp := bp }] } } : St) = s2
  have hr2 : s2.r = s.r := by rw [← hs2]; exact hf.r
  have hn2 : s2.nodes = s1.nodes := by rw [← hs2]
  have hop2 : s2.pc.opened = s.pc.opened ++ [{ node := id, bp := bp }] := by rw [← hs2]; simp only; rw [hf.pc]
  have htmp2 : s2.pc.tmpPara = s.pc.tmpPara := by rw [← hs2]; simp only; rw [hf.pc]
  have hfen2 : s2.pc.fence = s.pc.fence := by rw [← hs2]; simp only; rw [hf.pc]
  have hnd2 : ∀ j, nd s2 j = nd s1 j := fun j => by simp only [nd, hn2]
  have hext : Ext s s2 := by
    have := hf.ext
    exact ⟨by rw [hn2]; exact this.len, fun j hj => by rw [hnd2]; exact this.kind j hj,
      fun j hj hk hl => by rw [hnd2]; exact this.linesNE j hj hk hl⟩
  have hnodes2 : NodesOK src s2 := by
    have := hf.nodesOK hm.nodes
    intro n hn; rw [hn2] at hn; exact this n hn
  have hkeys2 : KeysOK s2 := hm.keys.ext hext (.inl htmp2) (.inl hfen2)
  have hbok : ∀ b, BlockOK s b → BlockOK s2 b := fun b hb =>
    hb.ext hext (fun hp => by rw [htmp2]; exact (hb.setext hp).2) (fun hp => by rw [hfen2]; exact hb.fenced hp)
  have hwin : Win src A old s0 s2 (new ++ [{ node := id, bp := bp }]) := by
    refine ⟨hnodes2, hkeys2, hm.ext.trans hext, ?_, ?_, hw0, hleafy, ?_, ?_⟩
    · rcases hm.shape with h | ⟨h1, h2⟩
      · exact .inl (by rw [hop2, h, List.append_assoc])
      · exact .inr ⟨h1, by simp, by rw [hop2, h2, List.append_assoc]⟩
    · intro b hb
      rw [hop2] at hb
      rcases List.mem_append.1 hb with hb | hb
      · exact ⟨hbok b (hm.blocks b hb).1, (hm.blocks b hb).2⟩
      · simp only [List.mem_singleton] at hb; subst hb; exact ⟨hbok _ hm.nb, hm.abp⟩
    · intro b hb
      rcases List.mem_append.1 hb with hb | hb
      · exact hfresh b hb
      · simp only [List.mem_singleton] at hb; subst hb; exact hm.idge
    · intro lb hlb
      rw [List.getLast?_concat] at hlb
      cases hlb
      simp only
      rw [hnd2, hpar hm.nb.lt]; rfl
  have hcompat : ∀ k ∈ new ++ [{ node := id, bp := bp }], ∀ b ∈ old, CompatT s2 k b := by
    intro k hk b hb
    rcases List.mem_append.1 hk with hk | hk
    · exact CompatT.of_container_left (hallc k hk)
    · simp only [List.mem_singleton] at hk; subst hk
      refine ⟨⟨fun hse => hm.setextOld hse b hb, fun hfe _ f hf2 => ?_⟩, fun _ _ => ?_⟩
      · obtain ⟨f', hf', hfn⟩ := hm.fenceNew hfe
        rw [hfen2, hf'] at hf2
        cases hf2
        have := hw0 b hb
        have := hm.idge
        omega
      · have := hw0 b hb
        have := hm.idge
        simp only; omega
  have hne : new ++ [({ node := id, bp := bp } : Block)] ≠ [] := by simp
  by_cases hc : st.hasChildren = true
  · rw [if_pos hc]
    refine OKE.ok ⟨c', _, by rw [hr2]; exact hri, hpad, hle, hwin, .inr ⟨rfl, hne⟩, hcompat, by rw [htmp2]; exact htmp, ?_, hprog hc⟩
    intro b hb
    rcases List.mem_append.1 hb with hb | hb
    · exact hallc b hb
    · simp only [List.mem_singleton] at hb; subst hb; exact hkids hc
  · rw [if_neg hc]
    exact OKE.ok ⟨c', _, by rw [hr2]; exact hri, hpad, hle, hwin, .inr ⟨rfl, hne⟩, hcompat, by rw [htmp2]; exact htmp, leafy_snoc hallc _⟩


theorem tryParsersC_oke {old : List Block} {s0 : St} (parent : Nat) (blank cont : Bool) (w : Int) :
    ∀ (bps : List BP), (∀ bp ∈ bps, A bp) → ∀ (result : OpenResult) (lastBlock : Option Block) (s : St) (c : RCur)
      (new : List Block), LineCtx src s c → Win src A old s0 s new → s.pc.tmpPara = none → (∀ b ∈ new, b.bp.isContainer = true) →
      ((result = .noBlocksOpened ∧ new = [] ∧ lastBlock = old.getLast?) ∨ (result = .newBlocksOpened ∧ new ≠ [])) →
      OKE e (TPPostT src A old s0 c) (tryParsersC cls pts parent blank cont w bps result lastBlock s) := by
  intro bps
  induction bps with
  | nil =>
    intro _ result lastBlock s c new hc hw htmp hallc hres
    unfold tryParsersC
    exact OKE.ok ⟨c, new, hc.ri, hc.pad, Nat.le_refl _, hw, hres, fun k hk b _ => CompatT.of_container_left (hallc k hk),
      htmp, leafy_of_all hallc⟩
  | cons bp bps ih =>
    intro hA result lastBlock s c new hc hw htmp hallc hres
    have ih' := ih (fun b hb => hA b (List.mem_cons_of_mem _ hb))
    unfold tryParsersC
    simp only []
    by_cases hs1 : (cont && result == OpenResult.noBlocksOpened && !bp.canInterruptParagraph) = true
    · rw [if_pos hs1]; exact ih' result lastBlock s c new hc hw htmp hallc hres
    rw [if_neg hs1]
    by_cases hs2 : (decide (w > 3) && !bp.canAcceptIndentedLine) = true
    · rw [if_pos hs2]; exact ih' result lastBlock s c new hc hw htmp hallc hres
    rw [if_neg hs2]
    refine OKE.bind (m := lastOpenedBlock) (P := fun lb s1 => lb = s.pc.opened.getLast? ∧ s1 = s) (OKE.ok ⟨rfl, rfl⟩)
      (fun lb0 sx hlb => ?_)
    obtain ⟨hlb0, hsx⟩ := hlb
    subst sx
    have habp : A bp := hA bp (List.mem_cons_self ..)
    refine OKE.bind (OKE.of_okl (sp.opn bp habp parent s c hc)) (fun x s1 hO => ?_)
    obtain ⟨nodeopt, st⟩ := x
    have htmp1 : s1.pc.tmpPara = none := by
      rcases hO.tmp with ⟨h, _⟩ | ⟨_, h⟩
      · exact absurd (h ▸ habp) hNS
      · rw [h]; exact htmp
    -- the value of `lastBlock` while nothing is opened
    have hlbold : result = .noBlocksOpened → lb0 = old.getLast? := by
      intro hr
      rcases hres with ⟨_, hn, _⟩ | ⟨h, _⟩
      · rcases hw.shape with h | ⟨_, h, _⟩
        · rw [hlb0, h, hn, List.append_nil]
        · exact absurd hn h
      · rw [hr] at h; cases h
    cases nodeopt with
    | none =>
      simp only []
      obtain ⟨hc1, hw1, _⟩ := open_none hO hc hw
      refine ih' result lb0 s1 c new hc1 hw1 htmp1 hallc ?_
      rcases hres with ⟨h1, h2, _⟩ | h
      · exact .inl ⟨h1, h2, hlbold h1⟩
      · exact .inr h
    | some id =>
      simp only []
      obtain ⟨hm1, hid, hop1, hnd1, hpar1, hlen1, hreq⟩ := open_some hO hw hallc habp
      obtain ⟨c', hri, hpad, hle, _, hprog⟩ := hO.ri
      have hkids : st.hasChildren = true → bp.isContainer = true := fun h => (hO.kids h).1
      -- the tail: AppendChild, push
      have tail : ∀ (sX : St) (newX : List Block), Mid src A old s0 id bp sX newX → sX.r = s1.r → sX.pc.tmpPara = none →
          (∀ b ∈ newX, s0.nodes.length ≤ b.node) → (∀ b ∈ newX, b.bp.isContainer = true) →
          OKE e (TPPostT src A old s0 c)
            ((do
              appendChild parent id
              modPc fun pc => { pc with opened := pc.opened ++ [{ node := id, bp := bp }] }
              if st.hasChildren then return (TryOutcomeT.retry id, OpenResult.newBlocksOpened, lb0)
              return (TryOutcomeT.done, OpenResult.newBlocksOpened, lb0) : M _) sX) := by
        intro sX newX hmX hrX htX hfX haX
        exact tryTailT_oke parent id bp st lb0 sX newX hmX hw.oldlt hw.leafyOld hfX haX (by rw [hrX]; exact hri) hpad hle
          hprog hkids htX
      -- the middle: blank flag, the `last.Parent() == nil` test; `K` = the tail
      have mid : ∀ (K : M (TryOutcomeT × OpenResult × Option Block)),
          (∀ (sX : St) (newX : List Block), Mid src A old s0 id bp sX newX → sX.r = s1.r → sX.pc.tmpPara = none →
            (∀ b ∈ newX, s0.nodes.length ≤ b.node) → (∀ b ∈ newX, b.bp.isContainer = true) →
            OKE e (TPPostT src A old s0 c) (K sX)) →
          ∀ (sX : St), Mid src A old s0 id bp sX new → sX.r = s1.r → sX.pc.tmpPara = none →
          (∀ lb, lb0 = some lb → (nd sX lb.node).parent.isSome = true ∨
              (new = [] ∧ sX.pc.opened = old ∧ old.getLast? = some lb)) →
          OKE e (TPPostT src A old s0 c)
            ((modNode id (fun n => { n with blankPrev := blank }) >>= fun _ =>
              match Option.map (fun x => x.node) lb0 with
              | some l => getNode l >>= fun n =>
                  if n.parent.isNone = true then
                    getPc >>= fun pc =>
                      closeBlocksC cls pts ((pc.opened.length : Int) - 1) ((pc.opened.length : Int) - 1) >>= fun _ => K
                  else K
              | none => K) sX) := by
        intro K hK sX hmX hrX htX hcase
        have hfr : FrameEq sX (upd sX id fun n => { n with blankPrev := blank }) :=
          upd_frame sX id (f := fun n => { n with blankPrev := blank }) (fun n => ⟨rfl, rfl, rfl⟩)
        have hm3 := hmX.frame hfr
        have hpar3 : ∀ j, (nd (upd sX id fun n => { n with blankPrev := blank }) j).parent = (nd sX j).parent := by
          intro j; rw [nd_upd]; split
          · rename_i h; obtain ⟨rfl, _⟩ := h; rfl
          · rfl
        refine OKE.bind (m := modNode id fun n => { n with blankPrev := blank })
          (P := fun _ s3 => s3 = upd sX id fun n => { n with blankPrev := blank }) (OKE.ok rfl) (fun _ s3 h3 => ?_)
        subst h3
        cases hl : lb0 with
        | none => exact hK _ new hm3 (by rw [hfr.r, hrX]) (by rw [hfr.pc]; exact htX) hw.fresh hallc
        | some lb =>
          simp only [Option.map]
          refine OKE.bind (m := getNode lb.node)
            (P := fun n s4 => n = nd (upd sX id fun n => { n with blankPrev := blank }) lb.node ∧
              s4 = upd sX id fun n => { n with blankPrev := blank }) (OKE.ok ⟨rfl, rfl⟩) (fun n s4 h4 => ?_)
          obtain ⟨h4n, h4s⟩ := h4
          subst h4n h4s
          by_cases hnn : (nd (upd sX id fun n => { n with blankPrev := blank }) lb.node).parent.isNone = true
          · rw [if_pos hnn]
            rcases hcase lb hl with hsome | ⟨hnew, hopX, hlast⟩
            · exfalso
              rw [hpar3] at hnn
              cases hh : (nd sX lb.node).parent with
              | none => rw [hh] at hsome; cases hsome
              | some _ => rw [hh] at hnn; cases hnn
            · refine OKE.bind (m := getPc)
                (P := fun pc s5 => pc = (upd sX id fun n => { n with blankPrev := blank }).pc ∧
                  s5 = upd sX id fun n => { n with blankPrev := blank }) (OKE.ok ⟨rfl, rfl⟩) (fun pc s5 h5 => ?_)
              obtain ⟨h5p, h5s⟩ := h5
              subst h5p h5s
              have hop3 : (upd sX id fun n => { n with blankPrev := blank }).pc.opened = old.dropLast ++ [lb] := by
                rw [hfr.pc, hopX]; exact eq_dropLast_append_of_getLast? old lb hlast
              have hp3 : (nd (upd sX id fun n => { n with blankPrev := blank }) lb.node).parent.isSome = false := by
                cases hh : (nd (upd sX id fun n => { n with blankPrev := blank }) lb.node).parent with
                | none => rfl
                | some _ => rw [hh] at hnn; cases hnn
              subst hnew
              have hne : old ≠ [] := by intro h; rw [h] at hlast; cases hlast
              have hm4 := hm3.pop (by rw [hfr.pc, hopX]) hne
              refine OKE.bind (P := fun _ s6 => s6 = { (upd sX id fun n => { n with blankPrev := blank }) with
                  pc := { (upd sX id fun n => { n with blankPrev := blank }).pc with opened := old.dropLast } })
                (by rw [closeBlocksC_last_skip cls pts old.dropLast lb _ hop3 hp3]; exact OKE.ok rfl) (fun _ s6 h6 => ?_)
              subst h6
              exact hK _ [] hm4 (by simp only; rw [hfr.r, hrX]) (by simp only; rw [hfr.pc]; exact htX) (fun _ h => by cases h) (fun _ h => by cases h)
          · rw [if_neg hnn]
            exact hK _ new hm3 (by rw [hfr.r, hrX]) (by rw [hfr.pc]; exact htX) hw.fresh hallc
      -- the `last` of the non-RequireParagraph path
      have hcase1 : ∀ lb, lb0 = some lb → (nd s1 lb.node).parent.isSome = true ∨
          (new = [] ∧ s1.pc.opened = old ∧ old.getLast? = some lb) := by
        intro lb hl
        by_cases hnew : new = []
        · right
          have hop : s.pc.opened = old := by
            rcases hw.shape with h | ⟨_, h, _⟩
            · rw [h, hnew, List.append_nil]
            · exact absurd hnew h
          exact ⟨hnew, by rw [hop1, hop], by rw [← hop, ← hlb0, hl]⟩
        · left
          have hlast : new.getLast? = some lb := by
            have : s.pc.opened.getLast? = new.getLast? := by
              cases hne : new.getLast? with
              | none => exact absurd (List.getLast?_eq_none_iff.1 hne) hnew
              | some x => rcases hw.shape with h | ⟨_, _, h⟩ <;> rw [h, List.getLast?_append, hne] <;> rfl
            rw [← this, ← hlb0, hl]
          have hmem : lb ∈ s.pc.opened := by
            rcases hw.shape with h | ⟨_, _, h⟩ <;> rw [h] <;> exact List.mem_append_right _ (List.mem_of_getLast? hlast)
          rw [hnd1 _ (hw.blocks lb hmem).1.lt]
          exact hw.lastParent lb hlast
      by_cases hrq : st.requirePara = true
      · obtain ⟨hbp, _⟩ := hO.req hrq
        exact absurd (hbp ▸ habp) hNS
      · rw [if_neg hrq]
        simp only [pure_bind, Bool.false_eq_true, if_false]
        exact mid _ tail s1 hm1 rfl htmp1 hcase1

omit hpts hNS in
theorem toContinuableT_oke {old : List Block} {s0 : St} (cont : Bool) (result : OpenResult) (lastBlock : Option Block)
    (s : St) (c c0 : RCur) (new : List Block) (hri : RI src s.r c) (hpad : PadOK c) (hle : c0.p ≤ c.p)
    (hw : Win src A old s0 s new) (hleafy : Leafy new) (hcompat : ∀ k ∈ new, ∀ b ∈ old, CompatT s k b) (htmp : s.pc.tmpPara = none)
    (hres : (result = .noBlocksOpened ∧ new = [] ∧ lastBlock = old.getLast?) ∨ (result = .newBlocksOpened ∧ new ≠ []))
    (hcont : cont = true → ∃ lb, old.getLast? = some lb ∧ lb.bp = .paragraph) :
    OKE e (OBPostT src A old s0 c0) (toContinuable cont result lastBlock s) := by
  unfold toContinuable
  have fin : OKE e (OBPostT src A old s0 c0) ((pure result : M OpenResult) s) := by
    refine OKE.ok ⟨c, new, hri.toRIa, hle, hw, hleafy, hcompat, fun h => ?_, htmp⟩
    rcases hres with ⟨h', _⟩ | ⟨h', _⟩ <;> rw [h'] at h <;> cases h
  by_cases hc : (result == OpenResult.noBlocksOpened && cont) = true
  · rw [if_pos hc]
    simp only [Bool.and_eq_true, beq_iff_eq] at hc
    obtain ⟨hr, hct⟩ := hc
    obtain ⟨lb, hlast, hbp⟩ := hcont hct
    rcases hres with ⟨_, hnew, hlb⟩ | ⟨h', _⟩
    · subst hnew
      rw [hlb, hlast]
      simp only []
      have hop : s.pc.opened = old := by
        rcases hw.shape with h | ⟨_, h, _⟩
        · rw [h, List.append_nil]
        · exact absurd rfl h
      have hmem : lb ∈ s.pc.opened := by rw [hop]; exact List.mem_of_getLast? hlast
      obtain ⟨lnode, lbp⟩ := lb
      simp only at hbp
      subst hbp
      have hpc := sp.paraCont (hw.blocks _ hmem).2 lnode s c hri hpad hw.nodes hw.keys (hw.blocks _ hmem).1
      refine OKE.bind (m := bpContinue .paragraph lnode) (OKE.of_okl hpc) (fun st s1 h1 => ?_)
      obtain ⟨c1, hria, _, hle1, _, _⟩ := h1.ria
      have hwin : Win src A old s0 s1 [] := by
        refine ⟨h1.nodes, hw.keys.ext h1.ext (.inl (by rw [h1.pc])) (.inl (by rw [h1.pc])), hw.ext.trans h1.ext,
          by rw [h1.pc]; exact hw.shape, ?_, hw.oldlt, hw.leafyOld, by simp, by intro lb h; simp at h⟩
        intro b hb
        rw [h1.pc] at hb
        have := hw.blocks b hb
        exact ⟨this.1.ext h1.ext (fun hp => by rw [h1.pc]; exact (this.1.setext hp).2)
          (fun hp => by rw [h1.pc]; exact this.1.fenced hp), this.2⟩
      have fin' : ∀ r : OpenResult, OKE e (OBPostT src A old s0 c0) ((pure r : M OpenResult) s1) := fun r =>
        OKE.ok ⟨c1, [], hria, Nat.le_trans hle hle1, hwin, by intro b hb; simp at hb, by simp, fun _ => rfl, by rw [h1.pc]; exact htmp⟩
      by_cases hst : st.cont = true
      · rw [if_pos hst]; exact fin' _
      · rw [if_neg hst]; exact fin' _
    · rw [hr] at h'; cases h'
  · rw [if_neg hc]; exact fin


theorem openBlocksLoopC_oke {old : List Block} {s0 : St} {c0 : RCur}
    (hT : ∀ ch ∈ src, ∀ bps, triggered ch = some bps → ∀ bp ∈ bps, A bp) (hFree : ∀ bp ∈ freeParsers, A bp)
    (blank cont : Bool) (hcont : cont = true → ∃ lb, old.getLast? = some lb ∧ lb.bp = .paragraph) :
    ∀ (fuel : Nat) (tdone : Bool) (parent : Nat) (result : OpenResult) (lb : Option Block) (s : St) (c : RCur) (new : List Block),
      RI src s.r c → PadOK c → c0.p ≤ c.p → Win src A old s0 s new → s.pc.tmpPara = none → (∀ b ∈ new, b.bp.isContainer = true) →
      ((result = .noBlocksOpened ∧ new = [] ∧ lb = old.getLast?) ∨ (result = .newBlocksOpened ∧ new ≠ [])) →
      OKE e (OBPostT src A old s0 c0) (openBlocksLoopC cls pts blank fuel tdone cont parent result lb s) := by
  intro fuel
  induction fuel with
  | zero => intro _ _ _ _ _ _ _ _ _ _ _ _ _ _; exact .inl (.inr rfl)
  | succ fuel ih =>
    intro tdone parent result lb s c new hri hpad hle hw htmp hallc hres
    have hcompat0 : ∀ (sX : St), ∀ k ∈ new, ∀ b ∈ old, CompatT sX k b :=
      fun _ k hk _ _ => CompatT.of_container_left (hallc k hk)
    unfold openBlocksLoopC
    refine OKE.bind (OKE.of_okl (peekLine_okl hri)) (fun x s1 hx => ?_)
    obtain ⟨hx, r1, hs1, h1⟩ := hx
    subst hx hs1
    simp only
    refine OKE.bind (OKE.of_okl (lineOffset_okl (s := { s with r := r1 }) h1)) (fun lo s2 hlo => ?_)
    obtain ⟨_, r2, hs2, h2⟩ := hlo
    subst hs2
    generalize hline : (RCur.view src c).getD [] = line
    have hb := indentWidthI_bounds line lo
    generalize hpos : (indentWidthI line lo).2 = pos at hb
    generalize hwd : (indentWidthI line lo).1 = wd
    refine OKE.bind (m := modPc _)
      (P := fun _ s3 => s3.r = r2 ∧ s3.nodes = s.nodes ∧ s3.pc.opened = s.pc.opened ∧ s3.pc.tmpPara = s.pc.tmpPara ∧
        s3.pc.fence = s.pc.fence ∧ s3.pc.blockOffset = (if pos ≥ (line.length : Int) then -1 else pos))
      (OKE.ok ⟨rfl, rfl, by simp only; split <;> rfl, by simp only; split <;> rfl, by simp only; split <;> rfl,
        by simp only; split <;> rfl⟩) (fun _ s3 h3 => ?_)
    obtain ⟨h3r, h3n, h3o, h3t, h3f, h3b⟩ := h3
    have hri3 : RI src s3.r c := by rw [h3r]; exact h2
    have hw3 : Win src A old s0 s3 new := hw.congr h3n h3o h3t h3f
    have htmp3 : s3.pc.tmpPara = none := by rw [h3t]; exact htmp
    have exit : ∀ (r : OpenResult) (l : Option Block),
        ((r = .noBlocksOpened ∧ new = [] ∧ l = old.getLast?) ∨ (r = .newBlocksOpened ∧ new ≠ [])) →
        OKE e (OBPostT src A old s0 c0) (toContinuable cont r l s3) := fun r l hr =>
      toContinuableT_oke sp cont r l s3 c c0 new hri3 hpad hle hw3 (leafy_of_all hallc) (hcompat0 s3) htmp3 hr hcont
    by_cases hnone : (RCur.view src c).isNone = true
    · rw [if_pos hnone]; exact exit _ _ hres
    rw [if_neg hnone]
    have hp : c.p < src.length := by
      rcases Nat.lt_or_ge c.p src.length with hp | hp
      · exact hp
      · rw [view_none src c (by omega)] at hnone; simp at hnone
    have hvl := view_length src c hp (view_eq src c hp)
    have hlen : 1 ≤ line.length := by rw [← hline, view_eq src c hp]; simp only [Option.getD_some]; omega
    obtain ⟨b0, hb0, _⟩ := idx_ok line 0 (by omega) (by omega)
    refine OKE.bind (OKE.of_okl (liftE_okl (P := fun a s' => a = b0 ∧ s' = s3) hb0 ⟨rfl, rfl⟩)) (fun a sy hy => ?_)
    obtain ⟨ha, hsy⟩ := hy
    subst a sy
    by_cases hnl : (b0 == 10) = true
    · rw [if_pos hnl]; exact exit _ _ hres
    rw [if_neg hnl]
    have hctx : LineCtx src s3 c := by
      refine ⟨hri3, hp, hpad, ?_, hw3.nodes⟩
      rw [h3b, hline]
      split
      · omega
      · omega
    -- the rest of the iteration, for the parser list `bps`
    have tail : ∀ bps : List BP, (∀ bp ∈ bps, A bp) → OKE e (OBPostT src A old s0 c0)
        (retryStepC cls pts blank tdone cont parent wd bps result lb (openBlocksLoopC cls pts blank fuel) s3) := by
      intro bps hbps
      unfold retryStepC
      refine OKE.bind (m := get) (P := fun sb sy => sb = s3 ∧ sy = s3) (OKE.ok ⟨rfl, rfl⟩) (fun sb sy hy => ?_)
      obtain ⟨hsb, hsy⟩ := hy
      subst sb sy
      refine OKE.bind (tryParsersC_oke sp hpts hNS parent blank cont wd bps hbps result lb s3 c new hctx hw3 htmp3 hallc hres) (fun x s4 h4 => ?_)
      obtain ⟨outcome, res, lb'⟩ := x
      obtain ⟨c', new', hri4, hpad4, hle4, hw4, hres4, hcompat4, htmp4, hout⟩ := h4
      cases outcome with
      | retry p' =>
        simp only at hout ⊢
        refine OKE.bind (m := get) (P := fun sb sy => sb = s4 ∧ sy = s4) (OKE.ok ⟨rfl, rfl⟩) (fun sb sy hy => ?_)
        obtain ⟨hsb, hsy⟩ := hy
        subst sb sy
        have hlt : retryMeasure s4 < retryMeasure s3 := by
          unfold retryMeasure
          rw [hri4.source, hri3.source, hri4.pos, hri3.pos]
          simp only [Int.toNat_natCast]
          have := hri4.inRange
          have := hout.2
          split <;> split <;> omega
        rw [if_neg (by simp [hlt])]
        exact ih tdone p' res lb' s4 c' new' hri4 hpad4 (Nat.le_trans hle hle4) hw4 htmp4 hout.1 hres4
      | retryTransformed => exact hout.elim
      | done =>
        simp only at hout ⊢
        exact toContinuableT_oke sp cont res lb' s4 c' c0 new' hri4 hpad4 (Nat.le_trans hle hle4) hw4 hout hcompat4 htmp4 hres4 hcont
    by_cases hpl : pos < (line.length : Int)
    · rw [if_pos hpl]
      obtain ⟨b1, hb1, hb1'⟩ := idx_ok line pos hb.1 hpl
      refine OKE.bind (OKE.of_okl (liftE_okl (P := fun a s' => a = b1 ∧ s' = s3) hb1 ⟨rfl, rfl⟩)) (fun a sy hy => ?_)
      obtain ⟨ha, hsy⟩ := hy
      subst a sy
      simp only [pure_bind]
      refine tail _ ?_
      intro bp hbp
      cases htr : triggered b1 with
      | none => rw [htr] at hbp; exact hFree bp hbp
      | some l =>
        rw [htr] at hbp
        have hmem : b1 ∈ line := List.mem_of_getElem? hb1'
        rw [← hline] at hmem
        rcases mem_view_src hmem with h | h
        · exact hT b1 h l htr bp hbp
        · subst h; have : triggered 32 = none := by decide
          rw [this] at htr; cases htr
    · rw [if_neg hpl]
      simp only [pure_bind]
      exact tail _ hFree


theorem openBlocksC_oke (hT : ∀ ch ∈ src, ∀ bps, triggered ch = some bps → ∀ bp ∈ bps, A bp) (hFree : ∀ bp ∈ freeParsers, A bp)
    (parent : Nat) (blank : Bool) (s : St) (c : RCur) (hri : RI src s.r c) (hpad : PadOK c) (hst : Stable src A s) :
    OKE e (OBPostT src A s.pc.opened s c) (openBlocksC cls pts parent blank s) := by
  unfold openBlocksC
  refine OKE.bind (m := lastOpenedBlock) (P := fun lb s1 => lb = s.pc.opened.getLast? ∧ s1 = s) (OKE.ok ⟨rfl, rfl⟩)
    (fun lb0 sx hlb => ?_)
  obtain ⟨hlb0, hsx⟩ := hlb
  subst sx
  have hw : Win src A s.pc.opened s s [] :=
    ⟨hst.nodes, hst.keys, Ext.refl s, .inl (by simp), hst.blocks, fun b hb => (hst.blocks b hb).1.lt, hst.leafy, by simp,
      by intro lb h; simp at h⟩
  have run : ∀ cont : Bool, (cont = true → ∃ lb, s.pc.opened.getLast? = some lb ∧ lb.bp = .paragraph) →
      OKE e (OBPostT src A s.pc.opened s c)
        ((do let v ← source; openBlocksLoopC cls pts blank (retryFuel v) false cont parent OpenResult.noBlocksOpened lb0) s) := by
    intro cont hcont
    refine OKE.bind (m := source) (P := fun v sy => v = s.r.source ∧ sy = s) (OKE.ok ⟨rfl, rfl⟩) (fun v sy hy => ?_)
    obtain ⟨hv, hsy⟩ := hy
    subst v sy
    exact openBlocksLoopC_oke sp hpts hNS hT hFree blank cont hcont _ false parent .noBlocksOpened lb0 s c [] hri hpad (Nat.le_refl _) hw
      hst.tmp (by simp) (.inl ⟨rfl, rfl, hlb0⟩)
  cases hl : lb0 with
  | none =>
    simp only [pure_bind]
    rw [← hl]
    exact run false (fun h => by cases h)
  | some lb =>
    simp only []
    refine OKE.bind (m := getNode lb.node)
      (P := fun v sy => v = nd s lb.node ∧ sy = s) (OKE.ok ⟨rfl, rfl⟩) (fun v sy hy => ?_)
    obtain ⟨hv, hsy⟩ := hy
    subst v sy
    simp only [pure_bind]
    rw [← hl]
    refine run _ (fun h => ?_)
    have hlast : s.pc.opened.getLast? = some lb := by rw [← hlb0, hl]
    have hk := (hst.blocks lb (List.mem_of_getLast? hlast)).1.kind
    have : (nd s lb.node).kind = Kind.paragraph := by simpa using h
    rw [this] at hk
    exact ⟨lb, hlast, kind_paragraph hk.symm⟩

end tp

end GM.Blocks.T
