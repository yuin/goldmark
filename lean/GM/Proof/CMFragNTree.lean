/-
  GM.Proof.CMFragNTree — the tree of a document inside nested block quotes: the node store of the run on
  `quotePrefix^k S` is the Document, `k` nested Blockquotes and then the `n` leaves (`QShapeN`); its block tree is the nest
  (`treeOf_qshapeN`) and `docTree` reads it as the nest of renderer nodes (`docTree_nestN`).
-/
import GM.Proof.CMFragDoc

namespace GM.Proof.CMFrag
open GM GM.Text GM.Blocks GM.Spec

/-- element by element -/
def RelL {α β : Type} (P : α → β → Prop) : List α → List β → Prop
  | [], [] => True
  | a :: as, b :: bs => P a b ∧ RelL P as bs
  | _, _ => False

theorem relL_map {α β γ : Type} {P : β → γ → Prop} (f : α → β) (g : α → γ) :
    ∀ l : List α, (∀ a ∈ l, P (f a) (g a)) → RelL P (l.map f) (l.map g)
  | [], _ => trivial
  | a :: l, h => ⟨h a (by simp), relL_map f g l (fun x hx => h x (by simp [hx]))⟩

theorem relL_of_index {α β : Type} [Inhabited α] [Inhabited β] (P : α → β → Prop) :
    ∀ (as : List α) (bs : List β), bs.length = as.length →
      (∀ j, j < as.length → P (as.getD j default) (bs.getD j default)) → RelL P as bs
  | [], [], _, _ => trivial
  | [], _ :: _, h, _ => by simp at h
  | _ :: _, [], h, _ => by simp at h
  | a :: as, b :: bs, h, hp => by
    refine ⟨?_, relL_of_index P as bs (by simpa using h) (fun j hj => ?_)⟩
    · simpa using hp 0 (by simp)
    · have := hp (j + 1) (by simpa using hj)
      simpa using this

theorem getD_mem {α : Type} [Inhabited α] (l : List α) (j : Nat) (h : j < l.length) : l.getD j default ∈ l := by
  rw [List.getD_eq_getElem?_getD, List.getElem?_eq_getElem h]
  exact List.getElem_mem h

theorem getD_out {α : Type} [Inhabited α] (l : List α) (j : Nat) (h : l.length ≤ j) : l.getD j default = default := by
  rw [List.getD_eq_getElem?_getD, List.getElem?_eq_none h]; rfl

/-- the node store of a document of `n` leaf blocks inside `k` nested block quotes -/
structure QShapeN (k n : Nat) (nodes leaves : List Blocks.Node) : Prop where
  eq : nodes.length = k + 1 + n
  leavesEq : leaves = nodes.drop (k + 1)
  root : (nodes.getD 0 default).kind = .document ∧ (nodes.getD 0 default).lines = [] ∧
         (nodes.getD 0 default).children = (if k = 0 then List.range' 1 n else [1])
  quote : ∀ i, 1 ≤ i → i ≤ k → (nodes.getD i default).kind = .blockquote ∧ (nodes.getD i default).lines = [] ∧
         (nodes.getD i default).children = (if i = k then List.range' (k + 1) n else [i + 1])
  leaf : ∀ m ∈ leaves, m.children = []

theorem getD_dropN {α : Type} [Inhabited α] (l : List α) (s j : Nat) :
    (l.drop s).getD j default = l.getD (s + j) default := by
  simp only [List.getD_eq_getElem?_getD, List.getElem?_drop]

theorem map_getD_rangeN {α : Type} [Inhabited α] (l : List α) (s n : Nat) (h : l.length = s + n) :
    (List.range' s n).map (fun j => l.getD j default) = l.drop s := by
  apply List.ext_getElem?
  intro j
  rw [List.getElem?_map, List.getElem?_drop]
  by_cases hj : j < n
  · have hlt : s + j < l.length := by omega
    rw [List.getElem?_range' hj, List.getElem?_eq_getElem hlt]
    simp [List.getD_eq_getElem?_getD, List.getElem?_eq_getElem hlt]
  · rw [List.getElem?_eq_none (by simp; omega), List.getElem?_eq_none (by omega)]
    rfl

theorem map_succ_rangeN (s n : Nat) : (List.range' s n).map (· + 1) = List.range' (s + 1) n := by
  apply List.ext_getElem?
  intro j
  rw [List.getElem?_map]
  by_cases hj : j < n
  · rw [List.getElem?_range' hj, List.getElem?_range' hj]
    simp only [Option.map_some]
    congr 1; omega
  · rw [List.getElem?_eq_none (by simp; omega), List.getElem?_eq_none (by simp; omega)]
    rfl

theorem qshape_baseN (d : Blocks.Node) (ms : List Blocks.Node) (hk : d.kind = .document) (hl : d.lines = [])
    (hc : d.children = List.range' 1 ms.length) (hch : ∀ m ∈ ms, m.children = []) :
    QShapeN 0 ms.length (d :: ms) ms := by
  refine ⟨by simp; omega, rfl, ⟨hk, hl, ?_⟩, fun i h1 h2 => by omega, hch⟩
  simpa using hc

/-- `nestKidsN [q1, …, qk] kids = [.node q1 [… [.node qk kids]]]` (`kids` itself for `[]`) -/
def nestKidsN : List Blocks.Node → List Tree → List Tree
  | [], kids => kids
  | q :: rest, kids => [.node q (nestKidsN rest kids)]

/-- the tree: `k` nested quotes around the leaves -/
def nestTreeN : List Blocks.Node → List Tree → Tree
  | [], kids => .node default kids
  | d :: rest, kids => .node d (nestKidsN rest kids)

theorem drop_consN {α : Type} [Inhabited α] (l : List α) (i : Nat) (h : i < l.length) :
    l.drop i = l.getD i default :: l.drop (i + 1) := by
  rw [List.drop_eq_getElem_cons h, List.getD_eq_getElem?_getD, List.getElem?_eq_getElem h]
  rfl

theorem getD_takeN {α : Type} [Inhabited α] (l : List α) (i m : Nat) (h : i < m) :
    (l.take m).getD i default = l.getD i default := by
  simp only [List.getD_eq_getElem?_getD, List.getElem?_take, if_pos h]

theorem treeOf_leavesN {k n : Nat} {nodes leaves : List Blocks.Node} (h : QShapeN k n nodes leaves) (f : Nat) :
    (List.range' (k + 1) n).map (treeOf nodes f) = leaves.map fun m => Tree.node m [] := by
  rw [h.leavesEq, ← map_getD_rangeN nodes (k + 1) n h.eq, List.map_map]
  apply List.map_congr_left
  intro j hj
  simp only [List.mem_range'_1] at hj
  simp only [Function.comp]
  apply treeOf_leaf
  apply h.leaf
  rw [h.leavesEq]
  obtain ⟨t, rfl⟩ : ∃ t, j = k + 1 + t := ⟨j - (k + 1), by omega⟩
  rw [← getD_dropN]
  exact getD_mem _ _ (by simp [h.eq] <;> omega)

theorem children_ofN {k n : Nat} {nodes leaves : List Blocks.Node} (h : QShapeN k n nodes leaves) (i : Nat)
    (hi : i ≤ k) : (nodes.getD i default).children = (if i = k then List.range' (k + 1) n else [i + 1]) := by
  by_cases h0 : i = 0
  · subst h0
    rw [h.root.2.2]
    by_cases hk : k = 0
    · subst hk; rfl
    · rw [if_neg hk, if_neg (by omega)]
  · exact (h.quote i (by omega) hi).2.2

theorem treeOf_nestN {k n : Nat} {nodes leaves : List Blocks.Node} (h : QShapeN k n nodes leaves) :
    ∀ (d i f : Nat), i + d = k → d + 1 ≤ f →
      treeOf nodes f i = .node (nodes.getD i default)
        (nestKidsN ((nodes.take (k + 1)).drop (i + 1)) (leaves.map fun m => Tree.node m []))
  | 0, i, f, hd, hf => by
    obtain ⟨f, rfl⟩ : ∃ g, f = g + 1 := ⟨f - 1, by omega⟩
    have hi : i = k := by omega
    subst hi
    rw [treeOf]
    rw [children_ofN h i (Nat.le_refl _), if_pos rfl, treeOf_leavesN h f]
    have : (nodes.take (i + 1)).drop (i + 1) = [] := by
      apply List.drop_eq_nil_of_le; simp; omega
    rw [this]; rfl
  | d + 1, i, f, hd, hf => by
    obtain ⟨f, rfl⟩ : ∃ g, f = g + 1 := ⟨f - 1, by omega⟩
    rw [treeOf]
    rw [children_ofN h i (by omega), if_neg (by omega)]
    simp only [List.map_cons, List.map_nil]
    rw [treeOf_nestN h d (i + 1) f (by omega) (by omega)]
    have hlt : i + 1 < (nodes.take (k + 1)).length := by simp [h.eq] <;> omega
    rw [drop_consN (nodes.take (k + 1)) (i + 1) hlt, getD_takeN _ _ _ (by omega)]
    rfl

theorem treeOf_qshapeN {k n : Nat} {nodes leaves : List Blocks.Node} (h : QShapeN k n nodes leaves) :
    treeOf nodes nodes.length 0 = nestTreeN (nodes.take (k + 1)) (leaves.map fun m => Tree.node m []) := by
  rw [treeOf_nestN h k 0 nodes.length (by omega) (by rw [h.eq]; omega)]
  have hlt : 0 < (nodes.take (k + 1)).length := by simp [h.eq] <;> omega
  conv => rhs; rw [← List.drop_zero (l := nodes.take (k + 1)), drop_consN _ 0 hlt, getD_takeN _ _ _ (by omega)]
  rfl

/-- `k` nested Blockquote nodes around `ns` (`ns` itself for `k = 0`) -/
def nestQuotesN : Nat → List GM.Node → List GM.Node
  | 0, ns => ns
  | k + 1, ns => [.mk .blockquote none (nestQuotesN k ns)]

/-- `docTree` on it: the Document around `k` nested Blockquote nodes around the children -/
def nestNodeN (k : Nat) (ns : List GM.Node) : GM.Node := .mk .document none (nestQuotesN k ns)

theorem nestNode_zeroN (ns : List GM.Node) : nestNodeN 0 ns = .mk .document none ns := rfl

theorem nestNode_oneN (ns : List GM.Node) : nestNodeN 1 ns = .mk .document none [.mk .blockquote none ns] := rfl

/-- a Document / Blockquote node without lines: its block children and nothing else -/
theorem docTree_containerN (env : GM.Inl.Env) (src : Bytes) (d : Blocks.Node) (cs : List Tree) (bs : List GM.Node)
    (K : GM.Kind) (hK : (d.kind = .document ∧ K = .document) ∨ (d.kind = .blockquote ∧ K = .blockquote))
    (hl : d.lines = []) (hcs : GM.Convert.docTrees true env src cs = .ok bs) :
    GM.Convert.docTree true env src (.node d cs) = .ok (.mk K none bs) := by
  rw [GM.Convert.docTree, hcs]
  rcases hK with ⟨hk, rfl⟩ | ⟨hk, rfl⟩ <;>
    simp [GM.Convert.inlinePhase, GM.Convert.isRawKind, GM.Convert.blockKind, hk, hl,
      GM.Convert.liftErr, GM.Convert.inlineTrees, bind, Except.bind, pure, Except.pure]

theorem docTrees_nestKidsN (env : GM.Inl.Env) (src : Bytes) (kids : List Tree) (ns : List GM.Node)
    (hk : GM.Convert.docTrees true env src kids = .ok ns) :
    ∀ (qs : List Blocks.Node), (∀ q ∈ qs, q.kind = .blockquote ∧ q.lines = []) →
      GM.Convert.docTrees true env src (nestKidsN qs kids) = .ok (nestQuotesN qs.length ns)
  | [], _ => hk
  | q :: rest, hq => by
    have ih := docTrees_nestKidsN env src kids ns hk rest (fun x hx => hq x (by simp [hx]))
    have hqk := (hq q (by simp)).1
    have hql := (hq q (by simp)).2
    simp only [nestKidsN, List.length_cons, nestQuotesN]
    rw [GM.Convert.docTrees, docTree_containerN env src q _ _ .blockquote (.inr ⟨hqk, rfl⟩) hql ih]
    rfl

theorem docTree_nestN {k n : Nat} {nodes leaves : List Blocks.Node} (h : QShapeN k n nodes leaves) (env : GM.Inl.Env)
    (src : Bytes) (ns : List GM.Node)
    (hk : GM.Convert.docTrees true env src (leaves.map fun m => Tree.node m []) = .ok ns) :
    GM.Convert.docTree true env src (treeOf nodes nodes.length 0) = .ok (nestNodeN k ns) := by
  rw [treeOf_nestN h k 0 nodes.length (by omega) (by rw [h.eq]; omega)]
  have hq : ∀ q ∈ (nodes.take (k + 1)).drop (0 + 1), q.kind = .blockquote ∧ q.lines = [] := by
    intro q hq
    obtain ⟨j, hj, rfl⟩ := List.getElem_of_mem hq
    have hj' : j < k := by simp [h.eq] at hj; omega
    have := h.quote (j + 1) (by omega) (by omega)
    have e : nodes.getD (j + 1) default = ((nodes.take (k + 1)).drop (0 + 1))[j] := by
      rw [List.getElem_drop, List.getElem_take, List.getD_eq_getElem?_getD,
        List.getElem?_eq_getElem (by rw [h.eq]; omega)]
      simp only [Option.getD_some]
      congr 1; omega
    rw [← e]
    exact ⟨this.1, this.2.1⟩
  have hlen : ((nodes.take (k + 1)).drop (0 + 1)).length = k := by simp [h.eq] <;> omega
  have ih := docTrees_nestKidsN env src _ ns hk _ hq
  rw [hlen] at ih
  exact docTree_containerN env src _ _ _ .document (.inl ⟨h.root.1, rfl⟩) h.root.2.1 ih

end GM.Proof.CMFrag
