/-
  GM.Proof.RenderIR — helper lemmas for property C10: the renderer model factors through the
  option-independent piece list of GM.Model.RenderIR.
-/
import GM.Model.RenderIR

namespace GM.Proof
open GM

/-- the html.Config every node renderer ends up with -/
def cfgOf (x h u esc : Bool) : HCfg := { hardWraps := h, ea := 0, xhtml := x, unsafe_ := u, escSpace := esc }

/-- the renderer state in which every copy holds the same values -/
def flat (x h u esc : Bool) (a : Nat) (e : Exts) : RCfg :=
  { core := cfgOf x h u esc, task := cfgOf x h u esc, strike := cfgOf x h u esc, dl := cfgOf x h u esc,
    foot := cfgOf x h u esc, table := cfgOf x h u esc, tableAlign := a, exts := e }

theorem setOpts_default (o : Opts) (hea : o.ea = none) :
    ({} : HCfg).setOpts o = cfgOf o.xhtml o.hardWraps o.unsafe_ (o.writerEsc.getD false) := by
  cases o with
  | mk h x u ea w ta =>
    cases h <;> cases x <;> cases u <;> cases w <;> simp_all [HCfg.setOpts, cfgOf]

theorem mkRCfg_copies (o : Opts) (e : Exts) :
    (mkRCfg o e).core = ({} : HCfg).setOpts o ∧ (mkRCfg o e).task = ({} : HCfg).setOpts o ∧
    (mkRCfg o e).strike = ({} : HCfg).setOpts o ∧ (mkRCfg o e).dl = ({} : HCfg).setOpts o ∧
    (mkRCfg o e).foot = ({} : HCfg).setOpts o ∧ (mkRCfg o e).table = ({} : HCfg).setOpts o ∧
    (mkRCfg o e).tableAlign = o.tableAlign.getD 0 ∧ (mkRCfg o e).exts = e ∧ (mkRCfg o e).footc = {} := by
  refine ⟨rfl, rfl, rfl, rfl, rfl, rfl, ?_, rfl, rfl⟩
  simp only [mkRCfg, RCfg.propagate]
  cases o.tableAlign <;> rfl

theorem mkRCfg_flat (o : Opts) (e : Exts) (a : Nat) (hea : o.ea = none) (hta : o.tableAlign = some a) :
    mkRCfg o e = flat o.xhtml o.hardWraps o.unsafe_ (o.writerEsc.getD false) a e := by
  simp only [mkRCfg, RCfg.propagate, flat, setOpts_default o hea, hta]

theorem refCfg_flat (e : Exts) (a : Nat) (esc : Bool) : refCfg e a esc = flat false false false esc a e := by
  rw [refCfg, mkRCfg_flat { tableAlign := some a, writerEsc := some esc } e a rfl rfl]
  rfl

@[simp] theorem flat_core (x h u esc : Bool) (a : Nat) (e : Exts) : (flat x h u esc a e).core = cfgOf x h u esc := rfl
@[simp] theorem flat_task (x h u esc : Bool) (a : Nat) (e : Exts) : (flat x h u esc a e).task = cfgOf x h u esc := rfl
@[simp] theorem flat_foot (x h u esc : Bool) (a : Nat) (e : Exts) : (flat x h u esc a e).foot = cfgOf x h u esc := rfl
@[simp] theorem flat_table (x h u esc : Bool) (a : Nat) (e : Exts) : (flat x h u esc a e).table = cfgOf x h u esc := rfl
@[simp] theorem flat_footc (x h u esc : Bool) (a : Nat) (e : Exts) : (flat x h u esc a e).footc = {} := rfl
@[simp] theorem flat_exts (x h u esc : Bool) (a : Nat) (e : Exts) : (flat x h u esc a e).exts = e := rfl
@[simp] theorem flat_tableAlign (x h u esc : Bool) (a : Nat) (e : Exts) : (flat x h u esc a e).tableAlign = a := rfl
@[simp] theorem cfgOf_xhtml (x h u esc : Bool) : (cfgOf x h u esc).xhtml = x := rfl
@[simp] theorem cfgOf_hardWraps (x h u esc : Bool) : (cfgOf x h u esc).hardWraps = h := rfl
@[simp] theorem cfgOf_unsafeFlag (x h u esc : Bool) : (cfgOf x h u esc).unsafe_ = u := rfl
@[simp] theorem cfgOf_escSpace (x h u esc : Bool) : (cfgOf x h u esc).escSpace = esc := rfl
@[simp] theorem cfgOf_ea (x h u esc : Bool) : (cfgOf x h u esc).ea = 0 := rfl

theorem lit_voidSp : strBytes " /> " = strBytes " />" ++ [32] := by decide +kernel
theorem lit_gtSp : strBytes "> " = [62, 32] := by decide +kernel
theorem lit_voidNl : strBytes " />\n" = strBytes " />" ++ [10] := by decide +kernel
theorem lit_gtNl : strBytes ">\n" = [62, 10] := by decide +kernel
theorem lit_brX : strBytes "<br />\n" = strBytes "<br" ++ (strBytes " />" ++ [10]) := by decide +kernel
theorem lit_br : strBytes "<br>\n" = strBytes "<br" ++ [62, 10] := by decide +kernel
theorem lit_hrX : strBytes "\n<hr />\n" ++ strBytes "<ol>\n" = strBytes "\n<hr" ++ (strBytes " />" ++ strBytes "\n<ol>\n") := by
  decide +kernel
theorem lit_hr : strBytes "\n<hr>\n" ++ strBytes "<ol>\n" = strBytes "\n<hr" ++ (62 :: strBytes "\n<ol>\n") := by
  decide +kernel

theorem tableCellHead_flat (x h u esc : Bool) (a : Nat) (e : Exts) (ha : a ≠ 0) (align : Nat)
    (attrs : Option (List Attr)) :
    tableCellHead (flat x h u esc a e) align attrs = tableCellHead (flat false false false esc a e) align attrs := by
  simp [tableCellHead, ha]

theorem enter_factor (x h u esc : Bool) (a : Nat) (e : Exts) (ha : a ≠ 0) (ph : Bool) (next : Option Node)
    (k : Kind) (attrs : Option (List Attr)) (cs : List Node) :
    enter (flat x h u esc a e) ph next k attrs cs =
      (enterIR e a esc ph next k attrs cs).flatMap (emit x h u) := by
  unfold enter enterIR
  simp only [flat_exts, refCfg_flat]
  by_cases hk : handled e k = true
  · simp only [hk, Bool.not_true, Bool.false_eq_true, if_false]
    cases k <;> simp [enter, hk, emit, hardWrap, emitBase, voidEndBytes, fnrefId, footIdPrefix,
      tableCellHead_flat x h u esc a e ha]
    case htmlBlock => rfl
    case autoLink => rfl
    case image => rfl
    case link => rfl
    case rawHTML => rfl
    case thematicBreak => cases x <;> simp [lit_voidNl, lit_gtNl]
    case taskCheckBox => cases x <;> simp [lit_voidSp, lit_gtSp]
    case footnoteList => cases x <;> simp [lit_hrX, lit_hr]
    case text v soft hard raw cjk =>
      cases raw <;> cases hard <;> cases soft <;> cases h <;> cases x <;>
        simp [emit, hardWrap, emitBase, voidEndBytes, lit_brX, lit_br]
  · simp [hk]


theorem leave_factor (x h u esc : Bool) (a : Nat) (e : Exts) (ph : Bool) (next : Option Node)
    (k : Kind) (cs : List Node) :
    leave (flat x h u esc a e) ph next k cs = (leaveIR e a esc ph next k cs).flatMap (emit x h u) := by
  unfold leave leaveIR
  simp only [flat_exts, refCfg_flat]
  by_cases hk : handled e k = true
  · simp only [hk, Bool.not_true, Bool.false_eq_true, if_false]
    cases k <;> simp [leave, hk, emit, hardWrap, emitBase]
    case htmlBlock lines closure =>
      cases closure
      · simp
      · simp [emit, hardWrap, emitBase]; rfl
  · simp [hk]

mutual
theorem renderNode_factor (x h u esc : Bool) (a : Nat) (e : Exts) (ha : a ≠ 0) (ph : Bool) (next : Option Node) :
    (t : Node) → renderNode (flat x h u esc a e) ph next t = (irNode e a esc ph next t).flatMap (emit x h u)
  | .mk k attrs cs => by
    have ih := renderNodes_factor x h u esc a e ha k.isTableHeader cs
    simp only [renderNode, irNode, List.flatMap_append, enter_factor x h u esc a e ha, leave_factor, flat_exts]
    by_cases hs : (handled e k && skipsChildren k) = true
    · simp only [hs, if_true, List.flatMap_nil]
    · simp only [hs, ih]; rfl
theorem renderNodes_factor (x h u esc : Bool) (a : Nat) (e : Exts) (ha : a ≠ 0) (ph : Bool) :
    (cs : List Node) → renderNodes (flat x h u esc a e) ph cs = (irNodes e a esc ph cs).flatMap (emit x h u)
  | [] => by simp [renderNodes, irNodes]
  | c :: rest => by
    simp only [renderNodes, irNodes, List.flatMap_append, renderNode_factor x h u esc a e ha ph rest.head? c,
      renderNodes_factor x h u esc a e ha ph rest]
end

/-- the factorisation, for the configuration produced by option propagation -/
theorem render_factor (o : Opts) (e : Exts) (a : Nat) (hea : o.ea = none) (hta : o.tableAlign = some a)
    (ha : a ≠ 0) (t : Node) :
    render (mkRCfg o e) t =
      (ir e a (o.writerEsc.getD false) t).flatMap (emit o.xhtml o.hardWraps o.unsafe_) := by
  rw [mkRCfg_flat o e a hea hta]
  exact renderNode_factor _ _ _ _ a e ha false none t

theorem flatMap_emit (x h u : Bool) (ps : List Piece) :
    ps.flatMap (emit x h u) = (ps.flatMap (hardWrap h)).flatMap (emitBase x u) := by
  rw [List.flatMap_assoc]; rfl

/-- XHTML, one piece: only the void end reads it -/
theorem emitBase_xhtml (x u : Bool) (p : Piece) (hp : p.isVoidEnd = false) : emitBase x u p = emitBase false u p := by
  cases p <;> simp_all [emitBase, Piece.isVoidEnd]

theorem emitBase_xhtml_fun (x u : Bool) :
    emitBase x u = fun p => if p.isVoidEnd then voidEndBytes x else emitBase false u p := by
  funext p
  cases p <;> simp [emitBase, Piece.isVoidEnd]

/-- HardWraps, one piece: only the soft break reads it -/
theorem emit_hardWraps (x h u : Bool) (p : Piece) (hp : p.isSoftBreak = false) : emit x h u p = emit x false u p := by
  cases p <;> simp_all [emit, hardWrap, Piece.isSoftBreak]

theorem emit_softBreak_hard (x u : Bool) :
    emit x true u .softBreak = strBytes "<br" ++ voidEndBytes x ++ emit x false u .softBreak := by
  simp [emit, hardWrap, emitBase]

theorem emit_hardWraps_fun (x u : Bool) :
    emit x true u = fun p => (if p.isSoftBreak then strBytes "<br" ++ voidEndBytes x else []) ++ emit x false u p := by
  funext p
  cases p <;> simp [emit, hardWrap, emitBase, Piece.isSoftBreak]

/-- Unsafe, one piece: only raw HTML and dangerous destinations read it -/
theorem emit_unsafeOff (x h u : Bool) (p : Piece) (hp : p.unsafeSensitive = false) : emit x h u p = emit x h false p := by
  cases p <;> simp_all [emit, hardWrap, emitBase, Piece.unsafeSensitive, urlOut]
  case softBreak => cases h <;> simp [emitBase]

theorem emit_unsafe_fun (x h u : Bool) :
    emit x h u = fun p => if p.unsafeSensitive then emit x h u p else emit x h false p := by
  funext p
  by_cases hp : p.unsafeSensitive = true
  · simp [hp]
  · simp [hp, emit_unsafeOff x h u p (by simpa using hp)]

theorem flatMap_emit_unsafe_noop (x h : Bool) (ps : List Piece) (hps : ∀ p ∈ ps, p.unsafeSensitive = false) :
    ps.flatMap (emit x h true) = ps.flatMap (emit x h false) := by
  induction ps with
  | nil => rfl
  | cons p ps ih =>
    simp only [List.flatMap_cons]
    rw [emit_unsafeOff x h true p (hps p (by simp)), ih (fun q hq => hps q (by simp [hq]))]

/-! ### trees without raw HTML and dangerous destinations have no sensitive piece -/

theorem enterIR_unsafeFree (e : Exts) (a : Nat) (esc ph : Bool) (next : Option Node) (k : Kind)
    (attrs : Option (List Attr)) (cs : List Node) (hk : k.unsafeFree = true) :
    ∀ p ∈ enterIR e a esc ph next k attrs cs, p.unsafeSensitive = false := by
  unfold enterIR
  by_cases hh : handled e k = true
  · simp only [hh, Bool.not_true, Bool.false_eq_true, if_false]
    cases k <;> simp_all [Kind.unsafeFree, Piece.unsafeSensitive]
    case text v soft hard raw cjk =>
      cases raw <;> cases hard <;> cases soft <;> simp
  · simp [hh]

theorem leaveIR_unsafeFree (e : Exts) (a : Nat) (esc ph : Bool) (next : Option Node) (k : Kind)
    (cs : List Node) (hk : k.unsafeFree = true) :
    ∀ p ∈ leaveIR e a esc ph next k cs, p.unsafeSensitive = false := by
  unfold leaveIR
  by_cases hh : handled e k = true
  · simp only [hh, Bool.not_true, Bool.false_eq_true, if_false]
    cases k <;> simp_all [Kind.unsafeFree, Piece.unsafeSensitive]
  · simp [hh]

mutual
theorem irNode_unsafeFree (e : Exts) (a : Nat) (esc ph : Bool) (next : Option Node) :
    (t : Node) → t.unsafeFree = true → ∀ p ∈ irNode e a esc ph next t, p.unsafeSensitive = false
  | .mk k attrs cs, ht => by
    simp only [Node.unsafeFree, Bool.and_eq_true] at ht
    intro p hp
    simp only [irNode, List.mem_append] at hp
    rcases hp with (hp | hp) | hp
    · exact enterIR_unsafeFree e a esc ph next k attrs cs ht.1 p hp
    · split at hp
      · simp at hp
      · exact irNodes_unsafeFree e a esc k.isTableHeader cs ht.2 p hp
    · exact leaveIR_unsafeFree e a esc ph next k cs ht.1 p hp
theorem irNodes_unsafeFree (e : Exts) (a : Nat) (esc ph : Bool) :
    (cs : List Node) → Node.unsafeFreeList cs = true → ∀ p ∈ irNodes e a esc ph cs, p.unsafeSensitive = false
  | [], _ => by simp [irNodes]
  | c :: rest, ht => by
    simp only [Node.unsafeFreeList, Bool.and_eq_true] at ht
    intro p hp
    simp only [irNodes, List.mem_append] at hp
    rcases hp with hp | hp
    · exact irNode_unsafeFree e a esc ph rest.head? c ht.1 p hp
    · exact irNodes_unsafeFree e a esc ph rest ht.2 p hp
end

/-! ### without the proviso: an XHTML-on rendering is never shorter than the XHTML-off rendering of the same pieces -/

theorem voidEndBytes_true : voidEndBytes true = [32, 47, 62] := by decide +kernel

theorem lit_void_len : (strBytes " />").length = 3 := by decide +kernel

theorem emit_len_mono (h u : Bool) (p : Piece) : (emit false h u p).length ≤ (emit true h u p).length := by
  cases p <;> cases h <;> simp [emit, hardWrap, emitBase, voidEndBytes, lit_void_len]

theorem flatMap_emit_len_mono (h u : Bool) (ps : List Piece) :
    (ps.flatMap (emit false h u)).length ≤ (ps.flatMap (emit true h u)).length := by
  induction ps with
  | nil => simp
  | cons p ps ih =>
    simp only [List.flatMap_cons, List.length_append]
    have := emit_len_mono h u p
    omega

end GM.Proof
