/-
  GM.Proof.AstWalk — One step / all steps of the mutation API refine the forest spec and keep forests acyclic under the proviso of C13; ast.Walk on the heap is the textbook
  depth-first traversal of the represented tree; that tree mentions every node at most once, so its size is bounded by the number of allocated nodes
  (Walk's fuel bound).
-/
import GM.Proof.AstSort

section Run
namespace GM.Proof.AstHeap
open GM.Spec GM.Spec.Forest GM.AstHeap GM.Proof.ForestLists

theorem step_refines {h : Heap} {f : Forest} (A : Abs h f) {op : Op} (hpre : Pre f op)
    {fuel : Nat} (hfuel : ∀ p, (f p).length < fuel) :
    ∃ h', step fuel h op = .ok h' ∧ Abs h' (specStep f op) := by
  cases op with
  | append p c =>
    cases c with
    | none => exact hpre.elim
    | some c => exact appendChild_abs A p c
  | insertBefore p v c =>
    cases c with
    | none => exact hpre.elim
    | some c => cases v <;> exact insertBefore_abs A p _ c hpre.2
  | insertAfter p v c =>
    cases c with
    | none => exact hpre.elim
    | some c => cases v <;> exact insertAfter_abs A p _ c hpre.2
  | replace p v c =>
    cases c with
    | none => cases v <;> exact hpre.elim
    | some c =>
      cases v with
      | none => exact hpre.elim
      | some v => exact replaceChild_abs A p v c hpre.2
  | remove p c =>
    cases c with
    | none => exact hpre.elim
    | some c => exact ⟨_, rfl, removeChildN_abs A p c⟩
  | removeChildren p => exact removeChildren_abs A p (hfuel p)
  | sort p cmp => exact sortChildren_abs A p cmp (hfuel p)

/-! ## bounded pools: the fuel the driver passes is enough -/

/-- all nodes linked anywhere are among the `n` allocated ones -/
def Bounded (n : Nat) (f : Forest) : Prop := ∀ p x, x ∈ f p → x < n

/-- the inserted node is one of the `n` allocated ones -/
def OpIn (n : Nat) : Op → Prop
  | .append _ (some c) => c < n
  | .insertBefore _ _ (some c) => c < n
  | .insertAfter _ _ (some c) => c < n
  | .replace _ _ (some c) => c < n
  | _ => True

theorem mem_insAfter {c v x : Nat} {l : List Nat} : x ∈ insAfter c v l ↔ x = c ∨ x ∈ l := by
  induction l with
  | nil => simp [insAfter]
  | cons a t ih =>
    simp only [insAfter]; split
    · simp only [List.mem_cons]; grind
    · simp only [List.mem_cons, ih]; grind

theorem mem_replaceIn_sub {c v x : Nat} {l : List Nat} (hx : x ∈ replaceIn c v l) : x = c ∨ x ∈ l := by
  induction l with
  | nil => simpa [replaceIn] using hx
  | cons a t ih =>
    simp only [replaceIn] at hx; split at hx
    · simp only [List.mem_cons] at hx ⊢; grind
    · simp only [List.mem_cons] at hx ⊢
      rcases hx with h1 | h1
      · exact Or.inr (Or.inl h1)
      · rcases ih h1 with h2 | h2
        · exact Or.inl h2
        · exact Or.inr (Or.inr h2)

theorem mem_detach_sub {f : Forest} {c x q : Nat} (hx : x ∈ detach f c q) : x ∈ f q :=
  List.mem_of_mem_erase hx

theorem mem_upd {f : Forest} {p q x : Nat} {l : List Nat} (hx : x ∈ upd f p l q) : q = p ∧ x ∈ l ∨ x ∈ f q := by
  simp only [upd] at hx
  split at hx
  · exact Or.inl ⟨‹_›, hx⟩
  · exact Or.inr hx

/-- A call either moves its node `c` under `p`, at a place `g` chooses, or leaves `p` with some of the
    children it had (a nil argument: all of them). -/
theorem specStep_shape (f : Forest) (op : Op) :
    (∃ (p c : Nat) (g : List Nat → List Nat), specStep f op = upd (detach f c) p (g (detach f c p)) ∧ (∀ l x, x ∈ g l → x = c ∨ x ∈ l) ∧
      (Pre f op → ¬ Desc f c p) ∧ ∀ n, OpIn n op → c < n) ∨
    (∃ p l, specStep f op = upd f p l ∧ ∀ x ∈ l, x ∈ f p) := by
  have void : ∀ p, specStep f op = f → ∃ p l, specStep f op = upd f p l ∧ ∀ x ∈ l, x ∈ f p :=
    fun p e => ⟨p, f p, by rw [e, upd_self], fun _ hx => hx⟩
  cases op with
  | append p c =>
    cases c with
    | none => exact Or.inr (void p rfl)
    | some c => exact Or.inl ⟨p, c, (· ++ [c]), rfl, by simp [or_comm], id, fun _ => id⟩
  | insertBefore p v c =>
    cases c with
    | none => exact Or.inr (void p rfl)
    | some c =>
      exact Or.inl ⟨p, c, insBeforeOpt c v, by cases v <;> rfl, fun _ _ => mem_insBeforeOpt.1, And.left, fun _ => id⟩
  | insertAfter p v c =>
    cases c with
    | none => exact Or.inr (void p rfl)
    | some c =>
      refine Or.inl ⟨p, c, insAfterOpt c v, by cases v <;> rfl, ?_, And.left, fun _ => id⟩
      cases v with
      | none => simp [insAfterOpt, or_comm]
      | some v => exact fun _ _ => mem_insAfter.1
  | replace p v c =>
    cases c with
    | none => cases v <;> exact Or.inr (void p rfl)
    | some c =>
      cases v with
      | none => exact Or.inr (void p rfl)
      | some v => exact Or.inl ⟨p, c, replaceIn c v, rfl, fun _ _ => mem_replaceIn_sub, And.left, fun _ => id⟩
  | remove p c =>
    cases c with
    | none => exact Or.inr (void p rfl)
    | some c => exact Or.inr ⟨p, _, rfl, fun _ => List.mem_of_mem_erase⟩
  | removeChildren p => exact Or.inr ⟨p, [], rfl, by simp⟩
  | sort p cmp => exact Or.inr ⟨p, _, rfl, fun _ => (perm_sortList cmp (f p)).mem_iff.1⟩

theorem specStep_bounded {n : Nat} {f : Forest} {op : Op} (B : Bounded n f) (hop : OpIn n op) :
    Bounded n (specStep f op) := by
  intro q x hx
  rcases specStep_shape f op with ⟨p, c, g, e, hg, _, hc⟩ | ⟨p, l, e, hl⟩
  · rcases mem_upd (e ▸ hx) with ⟨_, h1⟩ | h1
    · rcases hg _ _ h1 with h2 | h2
      · exact h2 ▸ hc n hop
      · exact B _ _ (mem_detach_sub h2)
    · exact B _ _ (mem_detach_sub h1)
  · rcases mem_upd (e ▸ hx) with ⟨_, h1⟩ | h1
    · exact B _ _ (hl x h1)
    · exact B _ _ h1

theorem Abs.length_le {h : Heap} {f : Forest} (A : Abs h f) {n : Nat} (B : Bounded n f) (p : Nat) :
    (f p).length ≤ n :=
  length_le_of_nodup_lt (A.nodup p) (B p)

theorem run_refines {n fuel : Nat} (hn : n < fuel) : ∀ (ops : List Op) {h : Heap} {f : Forest},
    Abs h f → Bounded n f → PreAll f ops → (∀ op ∈ ops, OpIn n op) →
    ∃ h', run fuel h ops = .ok h' ∧ Abs h' (specRun f ops) ∧ Bounded n (specRun f ops) := by
  intro ops
  induction ops with
  | nil => intro h f A B _ _; exact ⟨h, rfl, A, B⟩
  | cons op ops ih =>
    intro h f A B hpre hin
    obtain ⟨h1, e1, A1⟩ := step_refines A hpre.1 (fuel := fuel)
      (fun p => Nat.lt_of_le_of_lt (A.length_le B p) hn)
    have B1 := specStep_bounded B (hin op (by simp))
    obtain ⟨h2, e2, A2, B2⟩ := ih A1 B1 hpre.2 (fun o ho => hin o (by simp [ho]))
    exact ⟨h2, by simp only [run, e1, e2], A2, B2⟩

theorem bounded_empty (n : Nat) : Bounded n Forest.empty := by
  intro p x hx; simp [Forest.empty] at hx

/-! ## acyclicity is what the proviso preserves -/

theorem acyclic_empty : Acyclic Forest.empty := ⟨fun _ => 0, by intro q x hx; simp [Forest.empty] at hx⟩

theorem acyclic_sub {f f' : Forest} (hA : Acyclic f) (hsub : ∀ q x, x ∈ f' q → x ∈ f q) : Acyclic f' := by
  obtain ⟨ht, hht⟩ := hA
  exact ⟨ht, fun q x hx => hht q x (hsub q x hx)⟩

theorem acyclic_move {f f' : Forest} {c p : Nat} (hA : Acyclic f) (hd : ¬ Desc f c p)
    (hsub : ∀ q x, x ∈ f' q → (x ∈ f q ∧ x ≠ c) ∨ (q = p ∧ x = c)) : Acyclic f' := by
  obtain ⟨ht, hht⟩ := hA
  classical
  refine ⟨fun x => if Desc f c x then ht x else ht x + ht c + 1, ?_⟩
  intro q x hx
  rcases hsub q x hx with ⟨h1, _⟩ | ⟨h1, h2⟩
  · have := hht q x h1
    by_cases dq : Desc f c q
    · have dx : Desc f c x := Desc.step dq h1
      simp [dq, dx, this]
    · by_cases dx : Desc f c x <;> simp [dq, dx] <;> omega
  · subst h1; subst h2
    simp [hd, Desc.refl]; omega

theorem specStep_acyclic {f : Forest} (nd : ∀ p, (f p).Nodup) {op : Op} (hA : Acyclic f) (hpre : Pre f op) :
    Acyclic (specStep f op) := by
  rcases specStep_shape f op with ⟨p, c, g, e, hg, hd, _⟩ | ⟨p, l, e, hl⟩ <;> rw [e]
  · apply acyclic_move hA (hd hpre)
    intro q x hx
    rcases mem_upd hx with ⟨hq, h1⟩ | h1
    · rcases hg _ _ h1 with h2 | h2
      · exact Or.inr ⟨hq, h2⟩
      · have := (mem_detach nd).1 h2
        exact Or.inl ⟨hq ▸ this.2, this.1⟩
    · have := (mem_detach nd).1 h1
      exact Or.inl ⟨this.2, this.1⟩
  · apply acyclic_sub hA
    intro q x hx
    rcases mem_upd hx with ⟨hq, h1⟩ | h1
    · exact hq ▸ hl x h1
    · exact h1

theorem specRun_acyclic : ∀ (ops : List Op) {h : Heap} {f : Forest} {n fuel : Nat}, n < fuel →
    Abs h f → Bounded n f → Acyclic f → PreAll f ops → (∀ op ∈ ops, OpIn n op) →
    Acyclic (specRun f ops) := by
  intro ops
  induction ops with
  | nil => intro h f n fuel _ _ _ hA _ _; exact hA
  | cons op ops ih =>
    intro h f n fuel hn A B hA hpre hin
    obtain ⟨h1, _, A1⟩ := step_refines A hpre.1 (fuel := fuel)
      (fun p => Nat.lt_of_le_of_lt (A.length_le B p) hn)
    exact ih hn A1 (specStep_bounded B (hin op (by simp))) (specStep_acyclic A.nodup hA hpre.1) hpre.2
      (fun o ho => hin o (by simp [ho]))

end GM.Proof.AstHeap
end Run

section Walk

namespace GM.Proof.AstHeap
open GM.Spec GM.Spec.Forest GM.AstHeap GM.Proof.ForestLists

/-- the walker result that corresponds to a spec result for the child loop -/
def kidsRes (r : WalkOut) : WalkRes := ⟨if r.halted then .stop else .cont, r.err, r.events⟩

theorem size_pos (t : Tree) : 1 ≤ t.size := by
  cases t; simp [Tree.size]

mutual
theorem walkNode_dfs {h : Heap} {f : Forest} (A : Abs h f) (s : Script) :
    ∀ (t : Tree) (fuel : Nat), Tree.IsTree f t → 2 * t.size ≤ fuel →
      ∃ st, walkNode h s fuel t.id = .ok ⟨st, (dfs s t).err, (dfs s t).events⟩ ∧
        (dfs s t).halted = ((dfs s t).err || st == .stop)
  | .node a ks, fuel, ht, hf => by
    cases fuel with
    | zero => simp only [Tree.size] at hf; omega
    | succ k =>
      simp only [Tree.IsTree] at ht
      have hk : 2 * Tree.sizeL ks + 1 ≤ k := by simp only [Tree.size] at hf; omega
      have hkids := walkKids_dfs A s ks k ht.2 (ht.1 ▸ A.nodup a)
        (fun x hx => by rw [← ht.1] at hx ⊢; exact A.next x a hx) hk
      rw [← ht.1, ← A.first] at hkids
      simp only [Tree.id, walkNode, dfs]
      by_cases h1 : ((s a true).2 || (s a true).1 == Status.stop) = true
      · simp only [h1, ↓reduceIte]
        refine ⟨(s a true).1, rfl, ?_⟩
        simpa using h1
      · simp only [h1, Bool.false_eq_true, ↓reduceIte]
        by_cases hsk : (s a true).1 = Status.skip
        · simp only [hsk, bne_self_eq_false, Bool.false_eq_true, ↓reduceIte, beq_self_eq_true,
            show (Status.cont == Status.stop) = false from rfl]
          by_cases h2 : ((s a false).2 || (s a false).1 == Status.stop) = true
          · simp only [h2, ↓reduceIte, List.cons_append, List.nil_append]
            exact ⟨.stop, rfl, by simp⟩
          · simp only [h2, Bool.false_eq_true, ↓reduceIte, List.cons_append, List.nil_append]
            refine ⟨.cont, ?_, ?_⟩
            · have : (s a false).2 = false := by simp at h2; exact h2.1
              simp [this]
            · have : (s a false).2 = false := by simp at h2; exact h2.1
              simp [this]
        · have hne : ((s a true).1 != Status.skip) = true := by simpa using hsk
          have hbe : ((s a true).1 == Status.skip) = false := by simpa using hsk
          simp only [hne, ↓reduceIte, hkids, hbe, Bool.false_eq_true, kidsRes]
          by_cases hh : (dfsL s ks).halted = true
          · simp only [hh, ↓reduceIte, beq_self_eq_true]
            exact ⟨.stop, rfl, by simp⟩
          · simp only [hh, Bool.false_eq_true, ↓reduceIte, show (Status.cont == Status.stop) = false from rfl]
            by_cases h2 : ((s a false).2 || (s a false).1 == Status.stop) = true
            · simp only [h2, ↓reduceIte]
              exact ⟨.stop, rfl, by simp⟩
            · simp only [h2, Bool.false_eq_true, ↓reduceIte]
              have : (s a false).2 = false := by simp at h2; exact h2.1
              refine ⟨.cont, by simp [this], by simp [this]⟩
theorem walkKids_dfs {h : Heap} {f : Forest} (A : Abs h f) (s : Script) :
    ∀ (ks : List Tree) (fuel : Nat), Tree.IsTreeL f ks → (Tree.idsL ks).Nodup →
      (∀ x ∈ Tree.idsL ks, h.next x = nextIn (Tree.idsL ks) x) → 2 * Tree.sizeL ks + 1 ≤ fuel →
      walkKids h s fuel (Tree.idsL ks).head? = .ok (kidsRes (dfsL s ks))
  | [], fuel, _, _, _, _ => by
    cases fuel <;> simp [Tree.idsL, walkKids, dfsL, kidsRes]
  | t :: ts, fuel, ht, nd, hn, hf => by
    cases fuel with
    | zero => simp at hf
    | succ k =>
      simp only [Tree.IsTreeL] at ht
      have hid : Tree.idsL (t :: ts) = t.id :: Tree.idsL ts := by
        cases t; simp [Tree.idsL, Tree.id]
      rw [hid] at nd hn
      obtain ⟨hnx, hnt⟩ := chain_cons nd hn
      have hp := size_pos t
      simp only [Tree.sizeL] at hf
      obtain ⟨st, e1, e2⟩ := walkNode_dfs A s t k ht.1 (by omega)
      have hts := walkKids_dfs A s ts k ht.2 (List.nodup_cons.1 nd).2 hnt (by omega)
      simp only [hid, List.head?_cons, walkKids, e1, dfsL, hnx, hts, kidsRes]
      by_cases hh : (dfs s t).halted = true
      · have : ((dfs s t).err || st == Status.stop) = true := by rw [← e2]; exact hh
        simp [hh, this]
      · have : ((dfs s t).err || st == Status.stop) = false := by rw [← e2]; simpa using hh
        simp [hh, this]
end

/-- Walk on a heap that represents `f`, started at the root of a tree `t` that unfolds `f`, with enough
    fuel for `t`, makes exactly the visitor calls of the textbook DFS and returns its error. -/
theorem walk_eq_dfs {h : Heap} {f : Forest} (A : Abs h f) (s : Script) (t : Tree) (ht : Tree.IsTree f t)
    {fuel : Nat} (hf : 2 * t.size ≤ fuel) : walk fuel h s t.id = .ok (dfs s t) := by
  obtain ⟨st, e1, e2⟩ := walkNode_dfs A s t fuel ht hf
  simp only [walk, e1]
  congr 1
  cases hd : dfs s t with
  | mk ev ha er =>
    rw [hd] at e2
    simp only at e2 ⊢
    rw [e2, Bool.or_comm]

theorem exists_treeL {f : Forest} : ∀ (l : List Nat), (∀ x ∈ l, ∃ t, Tree.IsTree f t ∧ t.id = x) →
    ∃ ks, Tree.IsTreeL f ks ∧ Tree.idsL ks = l
  | [], _ => ⟨[], by simp [Tree.IsTreeL], rfl⟩
  | a :: l, hl => by
    obtain ⟨t, ht, hid⟩ := hl a (by simp)
    obtain ⟨ks, hks, hids⟩ := exists_treeL l (fun x hx => hl x (by simp [hx]))
    refine ⟨t :: ks, ⟨ht, hks⟩, ?_⟩
    cases t; simp [Tree.idsL, Tree.id] at hid ⊢; exact ⟨hid, hids⟩

theorem exists_tree {f : Forest} (hA : Acyclic f) (a : Nat) : ∃ t, Tree.IsTree f t ∧ t.id = a := by
  obtain ⟨ht, hht⟩ := hA
  have aux : ∀ n a, ht a < n → ∃ t, Tree.IsTree f t ∧ t.id = a := by
    intro n
    induction n with
    | zero => intro a h; omega
    | succ n ih =>
      intro a _
      obtain ⟨ks, hks, hids⟩ := exists_treeL (f a) (fun x hx => ih x (by have := hht a x hx; omega))
      exact ⟨.node a ks, ⟨hids.symm, hks⟩, rfl⟩
  exact aux (ht a + 1) a (by omega)


/-! ### what the textbook traversal does (sanity theorems about the spec itself) -/

mutual
/-- the full enter/leave bracket sequence of a tree -/
def brackets : Tree → List Event
  | .node a ks => (a, true) :: bracketsL ks ++ [(a, false)]
def bracketsL : List Tree → List Event
  | [] => []
  | t :: ts => brackets t ++ bracketsL ts
end

/-- a visitor that never stops, never skips and never fails -/
def Plain (s : Script) : Prop := ∀ n e, (s n e).2 = false ∧ (s n e).1 ≠ .stop ∧ (s n e).1 ≠ .skip

mutual
theorem dfs_plain {s : Script} (hs : Plain s) : ∀ t : Tree, dfs s t = ⟨brackets t, false, false⟩
  | .node a ks => by
    have h1 := hs a true
    have h2 := hs a false
    have e1 : ((s a true).1 == Status.stop) = false := by simpa using h1.2.1
    have e2 : ((s a true).1 == Status.skip) = false := by simpa using h1.2.2
    have e3 : ((s a false).1 == Status.stop) = false := by simpa using h2.2.1
    simp [dfs, brackets, h1.1, h2.1, e1, e2, e3, dfsL_plain hs ks]
theorem dfsL_plain {s : Script} (hs : Plain s) : ∀ ts : List Tree, dfsL s ts = ⟨bracketsL ts, false, false⟩
  | [] => by simp [dfsL, bracketsL]
  | t :: ts => by simp [dfsL, bracketsL, dfs_plain hs t, dfsL_plain hs ts]
end

theorem dfs_stop_immediately (s : Script) (a : Nat) (ks : List Tree)
    (h : (s a true).2 = true ∨ (s a true).1 = .stop) :
    dfs s (.node a ks) = ⟨[(a, true)], true, (s a true).2⟩ := by
  have : ((s a true).2 || (s a true).1 == Status.stop) = true := by
    rcases h with h | h <;> simp [h]
  simp [dfs, this]

theorem dfs_skip (s : Script) (a : Nat) (ks : List Tree)
    (h : (s a true).2 = false ∧ (s a true).1 = .skip) :
    dfs s (.node a ks) = ⟨[(a, true), (a, false)], (s a false).2 || (s a false).1 == .stop, (s a false).2⟩ := by
  simp [dfs, h.1, h.2, show (Status.skip == Status.stop) = false from rfl]

/-- once a subtree halts the walk, no later sibling is visited -/
theorem dfsL_halt (s : Script) (t : Tree) (ts : List Tree) (h : (dfs s t).halted = true) :
    dfsL s (t :: ts) = dfs s t := by
  simp [dfsL, h]

/-- a halted child halts its parent without a leave call for the parent -/
theorem dfs_child_halt (s : Script) (a : Nat) (ks : List Tree)
    (h0 : (s a true).2 = false ∧ (s a true).1 ≠ .stop ∧ (s a true).1 ≠ .skip)
    (h : (dfsL s ks).halted = true) :
    dfs s (.node a ks) = ⟨(a, true) :: (dfsL s ks).events, true, (dfsL s ks).err⟩ := by
  have e1 : ((s a true).1 == Status.stop) = false := by simpa using h0.2.1
  have e2 : ((s a true).1 == Status.skip) = false := by simpa using h0.2.2
  simp [dfs, h0.1, e1, e2, h]


/-! ### helpers for the witnesses in Props/C13 -/

theorem desc_head {f : Forest} {a b : Nat} (h : Desc f a b) : a = b ∨ ∃ k, k ∈ f a ∧ Desc f k b := by
  induction h with
  | refl => exact Or.inl rfl
  | step hab hc ih =>
    rename_i b' c'
    rcases ih with e | ⟨k, hk, hd⟩
    · subst e; exact Or.inr ⟨c', hc, Desc.refl _⟩
    · exact Or.inr ⟨k, hk, Desc.step hd hc⟩

theorem desc_empty {a b : Nat} (h : Desc Forest.empty a b) : a = b := by
  rcases desc_head h with e | ⟨k, hk, _⟩
  · exact e
  · simp [Forest.empty] at hk

theorem appendChildN_error {h : Heap} {p c : Nat} {e : Fault} (he : appendChildN h p c = .error e) :
    e = .nilDeref := by
  unfold appendChildN at he
  simp only at he
  split at he
  · rename_i e' heq
    split at heq
    · cases heq
    · split at heq
      · cases heq; cases he; rfl
      · cases heq
  · cases he

/-- ReplaceChild(self, nil, x) always panics (after appending x): outside the documented contract -/
theorem replace_nil_panics (h : Heap) (p c : Nat) : replaceChild h p none (some c) = .error .nilDeref := by
  simp only [replaceChild, insertBefore, insertBeforeN]
  cases hh : appendChildN h p c with
  | error e => rw [appendChildN_error hh]
  | ok h' => rfl

/-- a nil child panics in every call that takes one -/
theorem nil_child_panics (h : Heap) (p : Nat) (v : Option Nat) :
    appendChild h p none = .error .nilDeref ∧ insertBefore h p v none = .error .nilDeref ∧
    insertAfter h p v none = .error .nilDeref ∧ replaceChild h p v none = .error .nilDeref ∧
    removeChild h p none = .error .nilDeref := by
  refine ⟨rfl, rfl, ?_, rfl, rfl⟩
  cases v with
  | none => rfl
  | some v => simp only [insertAfter]; split <;> rfl

end GM.Proof.AstHeap
end Walk

section TreeSize
namespace GM.Proof.AstHeap
open GM.Spec GM.Spec.Forest GM.AstHeap GM.Proof.ForestLists

mutual
def nodes : Tree → List Nat
  | .node a ks => a :: nodesL ks
def nodesL : List Tree → List Nat
  | [] => []
  | t :: ts => nodes t ++ nodesL ts
end

mutual
theorem size_eq_length : ∀ t : Tree, t.size = (nodes t).length
  | .node a ks => by simp [Tree.size, nodes, sizeL_eq_length ks]; omega
theorem sizeL_eq_length : ∀ ts : List Tree, Tree.sizeL ts = (nodesL ts).length
  | [] => rfl
  | t :: ts => by simp [Tree.sizeL, nodesL, size_eq_length t, sizeL_eq_length ts]
end

theorem idsL_cons (t : Tree) (ts : List Tree) : Tree.idsL (t :: ts) = t.id :: Tree.idsL ts := by
  cases t; simp [Tree.idsL, Tree.id]

theorem desc_trans {f : Forest} {a b c : Nat} (h1 : Desc f a b) (h2 : Desc f b c) : Desc f a c := by
  induction h2 with
  | refl => exact h1
  | step _ hc ih => exact Desc.step ih hc

mutual
theorem nodes_desc {f : Forest} : ∀ (t : Tree), Tree.IsTree f t → ∀ x ∈ nodes t, Desc f t.id x
  | .node a ks, ht, x, hx => by
    simp only [Tree.IsTree] at ht
    simp only [nodes, List.mem_cons] at hx
    rcases hx with e | hx
    · subst e; exact Desc.refl _
    · obtain ⟨k, hk, hd⟩ := nodesL_desc ks ht.2 x hx
      exact desc_trans (Desc.step (Desc.refl a) (ht.1 ▸ hk)) hd
theorem nodesL_desc {f : Forest} : ∀ (ts : List Tree), Tree.IsTreeL f ts → ∀ x ∈ nodesL ts,
    ∃ k ∈ Tree.idsL ts, Desc f k x
  | [], _, x, hx => by simp [nodesL] at hx
  | t :: ts, ht, x, hx => by
    simp only [Tree.IsTreeL] at ht
    simp only [nodesL, List.mem_append] at hx
    rw [idsL_cons]
    rcases hx with hx | hx
    · exact ⟨t.id, by simp, nodes_desc t ht.1 x hx⟩
    · obtain ⟨k, hk, hd⟩ := nodesL_desc ts ht.2 x hx
      exact ⟨k, by simp [hk], hd⟩
end

section unique
variable {f : Forest} (UP : ∀ c p q, c ∈ f p → c ∈ f q → p = q)
  {ht : Nat → Nat} (hht : ∀ q x, x ∈ f q → ht x < ht q)
include hht

theorem desc_ht {a b : Nat} (h : Desc f a b) : ht b ≤ ht a := by
  induction h with
  | refl => exact Nat.le_refl _
  | step _ hc ih => have := hht _ _ hc; omega

include UP

/-- the ancestors of a node form a chain -/
theorem desc_chain {k k' x : Nat} (h1 : Desc f k x) (h2 : Desc f k' x) : Desc f k k' ∨ Desc f k' k := by
  induction h1 generalizing k' with
  | refl => exact Or.inr h2
  | step hkb hx ih =>
    rename_i b x'
    cases h2 with
    | refl => exact Or.inl (Desc.step hkb hx)
    | step hk'b' hx' =>
      rename_i b'
      have : b' = b := UP _ _ _ hx' hx
      subst this
      exact ih hk'b'

/-- subtrees below two different children of one node share no node -/
theorem siblings_disjoint {a k k' x : Nat} (hk : k ∈ f a) (hk' : k' ∈ f a) (hne : k ≠ k')
    (h1 : Desc f k x) (h2 : Desc f k' x) : False := by
  have aux : ∀ {u v : Nat}, u ∈ f a → v ∈ f a → u ≠ v → Desc f u v → False := by
    intro u v hu hv huv hd
    cases hd with
    | refl => exact huv rfl
    | step hub hvb =>
      rename_i b
      have : b = a := UP _ _ _ hvb hv
      subst this
      have h1 := desc_ht hht hub
      have h2 := hht _ _ hu
      omega
  rcases desc_chain UP hht h1 h2 with h | h
  · exact aux hk hk' hne h
  · exact aux hk' hk (fun e => hne e.symm) h

mutual
theorem nodes_nodup : ∀ (t : Tree), Tree.IsTree f t → (∀ p, (f p).Nodup) → (nodes t).Nodup
  | .node a ks, hT, ND => by
    simp only [Tree.IsTree] at hT
    simp only [nodes, List.nodup_cons]
    refine ⟨?_, nodesL_nodup ks a hT.2 ND (fun k hk => hT.1 ▸ hk) (hT.1 ▸ ND a)⟩
    intro hm
    obtain ⟨k, hk, hd⟩ := nodesL_desc ks hT.2 a hm
    have h1 := desc_ht hht hd
    have h2 := hht a k (hT.1 ▸ hk)
    omega
theorem nodesL_nodup : ∀ (ts : List Tree) (a : Nat), Tree.IsTreeL f ts → (∀ p, (f p).Nodup) →
    (∀ k ∈ Tree.idsL ts, k ∈ f a) → (Tree.idsL ts).Nodup → (nodesL ts).Nodup
  | [], _, _, _, _, _ => by simp [nodesL]
  | t :: ts, a, hT, ND, hsub, hnd => by
    simp only [Tree.IsTreeL] at hT
    rw [idsL_cons] at hsub hnd
    have hnd' := List.nodup_cons.1 hnd
    simp only [nodesL, List.nodup_append]
    refine ⟨nodes_nodup t hT.1 ND, nodesL_nodup ts a hT.2 ND (fun k hk => hsub k (by simp [hk])) hnd'.2, ?_⟩
    intro x hx y hy e
    subst e
    obtain ⟨k, hk, hd⟩ := nodesL_desc ts hT.2 x hy
    have hne : t.id ≠ k := fun e => hnd'.1 (e ▸ hk)
    exact siblings_disjoint UP hht (hsub t.id (by simp)) (hsub k (by simp [hk])) hne
      (nodes_desc t hT.1 x hx) hd
end
end unique

/-- size of the unfolded tree ≤ number of allocated nodes -/
theorem tree_size_le {h : Heap} {f : Forest} (A : Abs h f) (hA : Acyclic f) {n : Nat} (B : Bounded n f)
    {t : Tree} (hT : Tree.IsTree f t) (hroot : t.id < n) : t.size ≤ n := by
  obtain ⟨ht, hht⟩ := hA
  have nd := nodes_nodup (fun c p q hp hq => A.disjoint hp hq) hht t hT A.nodup
  rw [size_eq_length]
  apply length_le_of_nodup_lt nd
  intro x hx
  have hd := nodes_desc t hT x hx
  cases hd with
  | refl => exact hroot
  | step _ hxb => exact B _ _ hxb


theorem find?_unique {l : List Nat} {P : Nat → Bool} {p : Nat} (hp : p ∈ l) (hP : P p = true)
    (hu : ∀ q ∈ l, P q = true → q = p) : l.find? P = some p := by
  induction l with
  | nil => simp at hp
  | cons a t ih =>
    simp only [List.find?_cons]
    cases ha : P a with
    | true => simp [hu a (by simp) ha]
    | false =>
      simp only
      have : p ∈ t := by
        rcases List.mem_cons.1 hp with e | e
        · subst e; rw [hP] at ha; cases ha
        · exact e
      exact ih this (fun q hq => hu q (by simp [hq]))

theorem parentOf_eq {h : Heap} {f : Forest} (A : Abs h f) {n c p : Nat} (hp : p < n)
    (hc : h.parent c = some p) : parentOf n f c = some p := by
  have hm := (A.parent c p).1 hc
  apply find?_unique (by simp [hp]) (by simpa using hm)
  intro q _ hq
  exact A.disjoint (by simpa using hq) hm

end GM.Proof.AstHeap
end TreeSize
