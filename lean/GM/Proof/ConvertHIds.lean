/-
  GM.Proof.ConvertHIds — the invariant of the AutoHeadingID state layer (`HInv`) and the two facts the driver simulation
  (GM.Proof.ConvertHSim) needs about `bpCloseH`:
    * option off: `bpCloseH false` IS `bpClose` (strictly: same outcome, `HS` untouched);
    * option on: `bpCloseH true` behaves like `bpClose` on `St`, keeps `HInv`, and when it panics where `bpClose` does not,
      the panic is `Segment.Value`'s in generateAutoHeadingID — never fuel exhaustion (`Generate`'s probing loop always
      finds a free id: GM.Props.C15.generate_terminates).
-/
import GM.Proof.ConvertHSim
import GM.Proof.Ids

namespace GM.ConvertH
open GM GM.Text GM.Blocks GM.Convert

/-- the attribute list `generateAutoHeadingID` leaves on a node -/
def idAttrs (v : Bytes) : List Attr.PAttr := [(Attr.nameId, Attr.Val.bytes v)]

/-! ### the id table as a function of the operations on it -/

/-- the table after one operation -/
def stepTbl (used : Ids.Tbl) : Ids.Op → Ids.Tbl
  | .put v => Ids.put used v
  | .gen v hd => match Ids.generate used v hd with
    | some (_, t) => t
    | none => used

/-- the table after a sequence of operations -/
def tblOf (used : Ids.Tbl) (ops : List Ids.Op) : Ids.Tbl := ops.foldl stepTbl used

theorem tblOf_snoc (used : Ids.Tbl) (ops : List Ids.Op) (op : Ids.Op) :
    tblOf used (ops ++ [op]) = stepTbl (tblOf used ops) op := by
  simp [tblOf, List.foldl_append]

theorem run_snoc_put : ∀ (ops : List Ids.Op) (used : Ids.Tbl) (v : Bytes), Ids.run used (ops ++ [.put v]) = Ids.run used ops
  | [], used, v => by simp [Ids.run]
  | .put w :: ops, used, v => by simp only [List.cons_append, Ids.run]; exact run_snoc_put ops _ v
  | .gen w hd :: ops, used, v => by
    simp only [List.cons_append, Ids.run]
    cases Ids.generate used w hd with
    | none => rfl
    | some p => simp only [run_snoc_put ops p.2 v]

theorem run_snoc_gen : ∀ (ops : List Ids.Op) (used : Ids.Tbl) (v : Bytes) (hd : Bool) (ids : List Bytes) (id : Bytes) (t : Ids.Tbl),
    Ids.run used ops = some ids → Ids.generate (tblOf used ops) v hd = some (id, t) →
    Ids.run used (ops ++ [.gen v hd]) = some (ids ++ [id])
  | [], used, v, hd, ids, id, t, h1, h2 => by
    simp only [Ids.run, Option.some.injEq] at h1
    subst h1
    simp only [tblOf, List.foldl] at h2
    simp [Ids.run, h2]
  | .put w :: ops, used, v, hd, ids, id, t, h1, h2 => by
    simp only [List.cons_append, Ids.run] at h1 ⊢
    exact run_snoc_gen ops _ v hd ids id t h1 (by simpa [tblOf, stepTbl] using h2)
  | .gen w hw :: ops, used, v, hd, ids, id, t, h1, h2 => by
    simp only [List.cons_append, Ids.run] at h1 ⊢
    cases hg : Ids.generate used w hw with
    | none => rw [hg] at h1; cases h1
    | some p =>
      obtain ⟨id0, used'⟩ := p
      rw [hg] at h1
      simp only at h1 ⊢
      cases hr : Ids.run used' ops with
      | none => rw [hr] at h1; cases h1
      | some ids' =>
        rw [hr] at h1
        simp only [Option.map, Option.some.injEq] at h1
        subst h1
        have h2' : Ids.generate (tblOf used' ops) v hd = some (id, t) := by
          simpa [tblOf, stepTbl, hg] using h2
        rw [run_snoc_gen ops used' v hd ids' id t hr h2']
        rfl

/-- invariant of the second state layer -/
structure HInv (h : HS) : Prop where
  /-- every node with attributes has exactly one, `id`, a non-empty byte string that is in the id table -/
  shape : ∀ e ∈ h.attrs, ∃ v, e.2 = idAttrs v ∧ v ≠ [] ∧ v ∈ h.ids
  /-- one entry per node, and different nodes have different ids -/
  pw : h.attrs.Pairwise (fun a b => a.1 ≠ b.1 ∧ a.2 ≠ b.2)
  /-- every attribute was put there by a `Generate` call for that node, with the id it returned -/
  fromGen : ∀ e ∈ h.attrs, ∃ g ∈ h.gens, g.node = e.1 ∧ e.2 = idAttrs g.id
  /-- every `Generate` call for a node left its id on the node, for good -/
  genKept : ∀ g ∈ h.gens, nodeAttrs h g.node = some (idAttrs g.id)
  /-- the id table is the one the logged operations build from the empty table (`NewContext`) -/
  tbl : h.ids = tblOf [] h.ops
  /-- replaying the logged operations on an empty table (GM.Ids.run, the function GM.Props.C15 speaks about) returns
      the logged ids, in order -/
  run : Ids.run [] h.ops = some (h.gens.map (·.id))
  /-- a logged id is what `Generate` returned for the logged text on some table -/
  genFrom : ∀ g ∈ h.gens, ∃ used tbl, Ids.generate used g.text true = some (g.id, tbl)
  /-- a logged `Generate` call is logged with its text, in the same order -/
  opsGens : h.ops.filterMap (fun op => match op with | .gen v _ => some v | .put _ => none) = h.gens.map (·.text)

theorem hinv_init : HInv {} where
  shape := fun _ h => by cases h
  pw := List.Pairwise.nil
  fromGen := fun _ h => by cases h
  genKept := fun _ h => by cases h
  tbl := rfl
  run := rfl
  genFrom := fun _ h => by cases h
  opsGens := rfl

theorem getH_apply (h : HS) (s : St) : getH h s = .ok ((h, h), s) := rfl
theorem setH_apply (h' h : HS) (s : St) : setH h' h s = .ok (((), h'), s) := rfl
theorem mh_pure_apply {α} (a : α) (h : HS) (s : St) : (pure a : MH α) h s = .ok ((a, h), s) := rfl
theorem mh_throw_apply {α} (e : Panic) (h : HS) (s : St) : (throw e : MH α) h s = .error e := rfl

theorem lookup_mem {α} : ∀ (l : List (Nat × α)) (k : Nat) (v : α), l.lookup k = some v → (k, v) ∈ l
  | [], _, _, h => by cases h
  | (k', v') :: rest, k, v, h => by
    simp only [List.lookup] at h
    split at h
    · rename_i he
      have : k = k' := by simpa using he
      cases h; subst this; exact List.mem_cons_self ..
    · exact List.mem_cons_of_mem _ (lookup_mem rest k v h)

theorem lookup_none_not_key {α} : ∀ (l : List (Nat × α)) (k : Nat), l.lookup k = none → ∀ e ∈ l, e.1 ≠ k
  | [], _, _, _, h => by cases h
  | (k', v') :: rest, k, h, e, he => by
    simp only [List.lookup] at h
    split at h
    · cases h
    · rename_i hne
      rcases List.mem_cons.1 he with rfl | he
      · intro hk; simp only at hk; subst hk; simp at hne
      · exact lookup_none_not_key rest k h e he

theorem lookup_of_pairwise {α} {R : α → α → Prop} : ∀ (l : List (Nat × α)) (k : Nat) (v : α),
    l.Pairwise (fun a b => a.1 ≠ b.1 ∧ R a.2 b.2) → (k, v) ∈ l → l.lookup k = some v
  | [], _, _, _, h => by cases h
  | (k', v') :: rest, k, v, hp, hm => by
    rw [List.pairwise_cons] at hp
    simp only [List.lookup]
    rcases List.mem_cons.1 hm with he | he
    · cases he; simp
    · have := (hp.1 _ he).1
      have hne : (k == k') = false := by
        simp only [beq_eq_false_iff_ne, ne_eq]
        intro e; exact this e.symm
      simp only [hne]
      exact lookup_of_pairwise rest k v hp.2 he

theorem attrLookup_idAttrs (v : Bytes) : attrLookup (idAttrs v) Attr.nameId = some (.bytes v) := by
  simp [attrLookup, idAttrs, List.find?]

theorem setNodeAttr_fresh : ∀ (l : List (Nat × List Attr.PAttr)) (node : Nat) (a : Attr.PAttr),
    (∀ e ∈ l, e.1 ≠ node) → setNodeAttr l node a = l ++ [(node, [a])]
  | [], _, _, _ => by simp [setNodeAttr, Attr.setAttribute]
  | (n, as) :: rest, node, a, h => by
    have hn : (n == node) = false := by
      have := h (n, as) (List.mem_cons_self ..)
      simpa using this
    simp only [setNodeAttr, hn, Bool.false_eq_true, if_false, List.cons_append]
    rw [setNodeAttr_fresh rest node a (fun e he => h e (List.mem_cons_of_mem _ he))]

theorem sliceB_noLoop (src : Bytes) (a b : Int) (e : Panic) (h : sliceB src a b = .error e) : e ≠ .loop := by
  unfold sliceB at h
  split at h
  · cases h
  · cases h; decide

theorem value_noLoop (seg : Segment) (src : Bytes) (e : Panic) (h : seg.value src = .error e) : e ≠ .loop := by
  unfold Segment.value at h
  split at h
  · cases hs : sliceB src seg.start seg.stop with
    | error x =>
      rw [hs] at h; simp only [bind, Except.bind] at h; cases h
      exact sliceB_noLoop _ _ _ _ hs
    | ok r =>
      rw [hs] at h; simp only [bind, Except.bind] at h
      split at h <;> cases h
  · simp only [bind, Except.bind, throw, throwThe, MonadExceptOf.throw] at h
    split at h
    · cases h; decide
    · simp only [pure, Except.pure] at h
      split at h
      · cases h; decide
      · cases hs : sliceB src seg.start seg.stop with
        | error x =>
          rw [hs] at h; simp only at h; cases h
          exact sliceB_noLoop _ _ _ _ hs
        | ok r =>
          rw [hs] at h; simp only at h
          split at h <;> cases h

/-- outcome of the option's code: `St` untouched, invariant kept; a panic is not fuel exhaustion -/
def HookPost (s : St) (x : Except Panic ((Unit × HS) × St)) : Prop :=
  match x with
  | .ok ((_, h'), s') => s' = s ∧ HInv h'
  | .error e => e ≠ Panic.loop

theorem hinv_put (h : HS) (hh : HInv h) (v : Bytes) :
    HInv { h with ids := Ids.put h.ids v, ops := h.ops ++ [.put v] } where
  shape := fun e he => by
    obtain ⟨w, h1, h2, h3⟩ := hh.shape e he
    exact ⟨w, h1, h2, List.mem_cons_of_mem _ h3⟩
  pw := hh.pw
  fromGen := hh.fromGen
  genKept := hh.genKept
  tbl := by simp only [tblOf_snoc, stepTbl, ← hh.tbl]
  run := by simp only [run_snoc_put]; exact hh.run
  genFrom := hh.genFrom
  opsGens := by simp only [List.filterMap_append, List.filterMap, List.append_nil]; exact hh.opsGens

theorem hinv_gen (h : HS) (hh : HInv h) (node : Nat) (line id : Bytes) (tbl : Ids.Tbl)
    (hno : nodeAttrs h node = none) (hg : Ids.generate h.ids line true = some (id, tbl)) :
    HInv { ids := tbl, attrs := setNodeAttr h.attrs node (Attr.nameId, .bytes id),
           ops := h.ops ++ [.gen line true], gens := h.gens ++ [{ node := node, text := line, id := id }] } := by
  obtain ⟨hfresh, htbl, hne⟩ := GM.Proof.Ids.generate_spec hg
  subst htbl
  have hkeys : ∀ e ∈ h.attrs, e.1 ≠ node := lookup_none_not_key h.attrs node hno
  have hset := setNodeAttr_fresh h.attrs node (Attr.nameId, .bytes id) hkeys
  have hpw : (h.attrs ++ [(node, idAttrs id)]).Pairwise (fun a b => a.1 ≠ b.1 ∧ a.2 ≠ b.2) := by
    rw [List.pairwise_append]
    refine ⟨hh.pw, List.pairwise_singleton _ _, ?_⟩
    intro a ha b hb
    rw [List.mem_singleton] at hb
    subst hb
    refine ⟨hkeys a ha, ?_⟩
    obtain ⟨w, h1, _, h3⟩ := hh.shape a ha
    rw [h1]
    intro heq
    simp only [idAttrs, List.cons.injEq, Prod.mk.injEq, Attr.Val.bytes.injEq, and_true, true_and] at heq
    subst heq
    exact hfresh h3
  constructor
  · intro e he
    simp only [hset] at he
    rcases List.mem_append.1 he with he | he
    · obtain ⟨w, h1, h2, h3⟩ := hh.shape e he
      exact ⟨w, h1, h2, List.mem_cons_of_mem _ h3⟩
    · rw [List.mem_singleton] at he
      subst he
      exact ⟨id, rfl, hne, List.mem_cons_self ..⟩
  · simp only [hset]; exact hpw
  · intro e he
    simp only [hset] at he
    rcases List.mem_append.1 he with he | he
    · obtain ⟨g, hg1, hg2, hg3⟩ := hh.fromGen e he
      exact ⟨g, List.mem_append_left _ hg1, hg2, hg3⟩
    · rw [List.mem_singleton] at he
      subst he
      exact ⟨_, List.mem_append_right _ (List.mem_singleton.2 rfl), rfl, rfl⟩
  · intro g hgm
    simp only [nodeAttrs, hset]
    apply lookup_of_pairwise (R := fun a b => a ≠ b) _ _ _ hpw
    rcases List.mem_append.1 hgm with hgm | hgm
    · exact List.mem_append_left _ (lookup_mem _ _ _ (hh.genKept g hgm))
    · rw [List.mem_singleton] at hgm
      subst hgm
      exact List.mem_append_right _ (List.mem_singleton.2 rfl)
  · simp only [tblOf_snoc, stepTbl, ← hh.tbl, hg]
  · simp only [List.map_append, List.map]
    exact run_snoc_gen h.ops [] line true _ id _ hh.run (by rw [← hh.tbl]; exact hg)
  · intro g hgm
    rcases List.mem_append.1 hgm with hgm | hgm
    · exact hh.genFrom g hgm
    · rw [List.mem_singleton] at hgm
      subst hgm
      exact ⟨h.ids, _, hg⟩
  · simp only [List.filterMap_append, List.filterMap, List.map_append, List.map, hh.opsGens]

theorem generateAutoHeadingID_post (node : Nat) (h : HS) (s : St) (hh : HInv h) (hno : nodeAttrs h node = none) :
    HookPost s (generateAutoHeadingID node h s) := by
  unfold generateAutoHeadingID
  rw [Hoare.bind_apply₂, up_apply]
  have e1 : getNode node s = .ok (s.nodes.getD node default, s) := rfl
  rw [e1]
  simp only
  have key : ∀ (line : Bytes), HookPost s ((do
      let h ← getH
      match Ids.generate h.ids line true with
      | none => throw Panic.loop
      | some (id, tbl) =>
        setH { ids := tbl, attrs := setNodeAttr h.attrs node (Attr.nameId, .bytes id),
               ops := h.ops ++ [.gen line true], gens := h.gens ++ [{ node := node, text := line, id := id }] } : MH Unit) h s) := by
    intro line
    rw [Hoare.bind_apply₂, getH_apply]
    simp only
    obtain ⟨id, hg⟩ := GM.Proof.Ids.generate_isSome h.ids line true
    rw [hg]
    simp only [setH_apply]
    exact ⟨rfl, hinv_gen h hh node line id _ hno hg⟩
  cases hl : (s.nodes.getD node default).lines.getLast? with
  | none =>
    simp only
    rw [Hoare.bind_apply₂, mh_pure_apply]
    exact key []
  | some seg =>
    simp only
    rw [Hoare.bind_apply₂, up_apply]
    have e2 : source s = .ok (s.r.source, s) := rfl
    rw [e2]
    simp only
    rw [Hoare.bind_apply₂, up_apply]
    cases hv : seg.value s.r.source with
    | error e =>
      simp only [liftE, Except.map]
      exact value_noLoop _ _ _ hv
    | ok line =>
      simp only [liftE, Except.map]
      exact key line

theorem autoIdClose_post (node : Nat) (h : HS) (s : St) (hh : HInv h) : HookPost s (autoIdClose node h s) := by
  unfold autoIdClose
  rw [Hoare.bind_apply₂, getH_apply]
  simp only
  cases hn : nodeAttrs h node with
  | none =>
    simp only [Option.getD, attrLookup, List.find?]
    exact generateAutoHeadingID_post node h s hh hn
  | some as =>
    obtain ⟨v, h1, _, _⟩ := hh.shape (node, as) (lookup_mem _ _ _ hn)
    simp only at h1
    subst h1
    simp only [Option.getD, attrLookup_idAttrs, setH_apply]
    exact ⟨rfl, hinv_put h hh v⟩

theorem hookOK_off (IH : HS → Prop) : HookOK true IH false := by
  intro bp node
  constructor
  intro h s hh
  unfold bpCloseH
  rw [Hoare.bind_apply₂, up_apply]
  cases bpClose bp node s with
  | error e => exact Or.inl rfl
  | ok p => exact ⟨hh, rfl⟩

theorem hookOK_on : HookOK false HInv true := by
  intro bp node
  constructor
  intro h s hh
  unfold bpCloseH
  rw [Hoare.bind_apply₂, up_apply]
  cases hb : bpClose bp node s with
  | error e => exact Or.inl rfl
  | ok p =>
    obtain ⟨⟨⟩, s'⟩ := p
    simp only [Bool.true_and]
    cases hp : BP.isHeadingParser bp with
    | false => exact ⟨hh, rfl⟩
    | true =>
      simp only [if_true]
      have := autoIdClose_post node h s' hh
      unfold HookPost at this
      cases hc : autoIdClose node h s' with
      | error e => rw [hc] at this; exact Or.inr ⟨rfl, this⟩
      | ok q =>
        obtain ⟨⟨⟨⟩, h'⟩, s''⟩ := q
        rw [hc] at this
        obtain ⟨e1, e2⟩ := this
        subst e1
        exact ⟨e2, rfl⟩

end GM.ConvertH
