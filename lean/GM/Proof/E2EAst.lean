/-
  GM.Proof.E2EAst — the parsed document of `GM.Convert` as a position dump (`GM.Spec.PNode`, the format of the harness
  dumper `DumpPositions`), and the identity-free clauses of C05 (`SemNode`, GM.Proof.E2EAstLabel) for it.

  * `ATree` / `annot` / `parseAst`: the block tree with the inline children `parseBlock` appends to each block — exactly the
    tree `docTree` resolves to the renderer's `GM.Node` (`docTree_ok_annot`: whenever `docTree` answers, so does `annot`),
    but with the SEGMENTS still in place (the renderer's tree holds bytes).
  * `shapeB` / `shapeI`: the per-node fields the dumper prints: `Kind().String()`, node type (document / block / inline),
    Text segment / RawHTML segments / `Lines()` of a block, `isLines`, FencedCodeBlock info + HTMLBlock closure as
    `xsegs`, Heading / Emphasis level. `dumpAst = relabel 0 (-1) ∘ shapeB` numbers the nodes in preorder (the dumper numbers a
    node's children before it descends; `wfAst` only needs the ids to be distinct and the links to agree with the nesting).
  * `AOK`: what the clauses need of the annotated tree — per node (heading level, lines / info / closure in range, lines
    increasing, Document and List have no lines), per parent/child pair (ListItem ⇔ below a List; the root is the Document),
    per block's inline children (well-shaped, segments in range, inside the block's lines and in order).
-/
import GM.Proof.E2EAstLabel
import GM.Proof.E2EValue

namespace GM.E2E
open GM GM.Text GM.Convert GM.Spec GM.Inl GM.Proof.Inlines GM.Proof.InlinesTotal

inductive ATree
  | node (n : GM.Blocks.Node) (blocks : List ATree) (inl : List Inl.Node)

mutual
/-- `docTree` without the resolution of segments to bytes -/
def annot (guard : Bool) (env : Env) (src : Bytes) : GM.Blocks.Tree → Except Err ATree
  | .node n cs => do
    let bs ← annots guard env src cs
    let kids ← inlinePhase guard env src n
    pure (.node n bs kids)
def annots (guard : Bool) (env : Env) (src : Bytes) : List GM.Blocks.Tree → Except Err (List ATree)
  | [] => pure []
  | t :: rest => do
    let x ← annot guard env src t
    let xs ← annots guard env src rest
    pure (x :: xs)
end

/-- parser.Parse with the segments in place: what `parseDoc` resolves for the renderer -/
def parseAst (guard : Bool) (uc : List (Nat × (Bool × Bool))) (src : Bytes) : Except Err ATree := do
  let st ← liftErr .blocks (blockPhase guard src)
  let env : Env := { refs := st.pc.refs, uc := uc }
  annot guard env src (GM.Blocks.treeOf st.nodes st.nodes.length 0)

mutual
theorem docTree_ok_annot (guard : Bool) (env : Env) (src : Bytes) : ∀ (t : GM.Blocks.Tree) (x : GM.Node),
    docTree guard env src t = .ok x → ∃ a, annot guard env src t = .ok a
  | .node n cs, x, h => by
    unfold docTree at h
    obtain ⟨bs, hbs, h⟩ := Proof.Reader.bind_ok h
    obtain ⟨kids, hkids, _⟩ := Proof.Reader.bind_ok h
    obtain ⟨as, has⟩ := docTrees_ok_annots guard env src cs bs hbs
    exact ⟨.node n as kids, by unfold annot; rw [has, hkids]; rfl⟩
theorem docTrees_ok_annots (guard : Bool) (env : Env) (src : Bytes) : ∀ (ts : List GM.Blocks.Tree) (xs : List GM.Node),
    docTrees guard env src ts = .ok xs → ∃ as, annots guard env src ts = .ok as
  | [], _, _ => ⟨[], by unfold annots; rfl⟩
  | t :: rest, xs, h => by
    unfold docTrees at h
    obtain ⟨x, hx, h⟩ := Proof.Reader.bind_ok h
    obtain ⟨xs', hxs, _⟩ := Proof.Reader.bind_ok h
    obtain ⟨a, ha⟩ := docTree_ok_annot guard env src t x hx
    obtain ⟨as, has⟩ := docTrees_ok_annots guard env src rest xs' hxs
    exact ⟨a :: as, by unfold annots; rw [ha, has]; rfl⟩
end

theorem parseDoc_ok_parseAst {guard : Bool} {uc : List (Nat × (Bool × Bool))} {src : Bytes} {t : GM.Node}
    (h : parseDoc guard uc src = .ok t) : ∃ a, parseAst guard uc src = .ok a := by
  unfold parseDoc at h
  obtain ⟨st, hst, h⟩ := Proof.Reader.bind_ok h
  obtain ⟨a, ha⟩ := docTree_ok_annot guard _ src _ t h
  exact ⟨a, by unfold parseAst; rw [hst]; exact ha⟩

def segOf (s : Segment) : Seg := ⟨s.start, s.stop, s.padding⟩

/-- the identity-free fields of an inline node -/
def inlInfo (kind : String) (segs : List Seg) (level : Int) : PInfo :=
  { kind := kind, ntype := .inline, id := 0, parent := -1, count := 0, hasChildren := false, fwd := [], bwd := [],
    segs := segs, isLines := false, xsegs := [], level := level }

mutual
def shapeI : Inl.Node → PNode
  | .text seg _ _ _ => .mk (inlInfo "Text" [segOf seg] 0) []
  | .codeSpan ks => .mk (inlInfo "CodeSpan" [] 0) (shapeIs ks)
  | .emphasis lv ks => .mk (inlInfo "Emphasis" [] lv) (shapeIs ks)
  | .link im _ _ ks => .mk (inlInfo (if im then "Image" else "Link") [] 0) (shapeIs ks)
  | .autoLink _ _ => .mk (inlInfo "AutoLink" [] 0) []
  | .rawHTML segs => .mk (inlInfo "RawHTML" (segs.map segOf) 0) []
  | .delim _ _ => .mk (inlInfo "Delimiter" [] 0) []
  | .label _ _ _ => .mk (inlInfo "LinkLabelState" [] 0) []
def shapeIs : List Inl.Node → List PNode
  | [] => []
  | n :: rest => shapeI n :: shapeIs rest
end

def ntypeOf : GM.Blocks.Kind → NType
  | .document => .document
  | _ => .block

/-- FencedCodeBlock.Info / HTMLBlock.ClosureLine (when `HasClosure()`) -/
def xsegsOf (n : GM.Blocks.Node) : List Seg :=
  match n.kind with
  | .fencedCodeBlock => match n.info with | some s => [segOf s] | none => []
  | .htmlBlock => if n.closure.start ≥ 0 then [segOf n.closure] else []
  | _ => []

/-- the identity-free fields of a block node -/
def blockInfo (n : GM.Blocks.Node) : PInfo :=
  { kind := n.kind.name, ntype := ntypeOf n.kind, id := 0, parent := -1, count := 0, hasChildren := false, fwd := [],
    bwd := [], segs := n.lines.map segOf, isLines := true, xsegs := xsegsOf n,
    level := if n.kind = .heading then n.level else 0 }

mutual
def shapeB : ATree → PNode
  | .node n bs kids => .mk (blockInfo n) (shapeBs bs ++ shapeIs kids)
def shapeBs : List ATree → List PNode
  | [] => []
  | a :: rest => shapeB a :: shapeBs rest
end

/-- the position dump of the parsed document -/
def dumpAst (a : ATree) : PNode := relabel 0 (-1) (shapeB a)

mutual
theorem inlineSegs_shapeI_sub : ∀ (n : Inl.Node), (inlineSegs (shapeI n)).Sublist ((segsOf n).map segOf)
  | .text seg a b c => by simp [shapeI, inlineSegs, inlInfo, segsOf]
  | .codeSpan ks => by simpa [shapeI, inlineSegs, inlInfo, segsOf] using inlineSegsL_shapeIs_sub ks
  | .emphasis lv ks => by simpa [shapeI, inlineSegs, inlInfo, segsOf] using inlineSegsL_shapeIs_sub ks
  | .link im d t ks => by
    cases im <;> simpa [shapeI, inlineSegs, inlInfo, segsOf] using inlineSegsL_shapeIs_sub ks
  | .autoLink e s => by simp [shapeI, inlineSegs, inlInfo, segsOf, inlineSegsL]
  | .rawHTML segs => by simp [shapeI, inlineSegs, inlInfo, segsOf]
  | .delim id d => by simp [shapeI, inlineSegs, inlInfo, segsOf, inlineSegsL]
  | .label id s im => by simp [shapeI, inlineSegs, inlInfo, segsOf, inlineSegsL]
theorem inlineSegsL_shapeIs_sub : ∀ (ks : List Inl.Node), (inlineSegsL (shapeIs ks)).Sublist ((segsOfL ks).map segOf)
  | [] => by simp [shapeIs, inlineSegsL, segsOfL]
  | n :: rest => by
    simp only [shapeIs, inlineSegsL, segsOfL, List.map_append]
    exact List.Sublist.append (inlineSegs_shapeI_sub n) (inlineSegsL_shapeIs_sub rest)
end

theorem segOK_of_inRange {src : Bytes} {s : Segment} (h : segInRange src s) : segOK src.length (segOf s) = true := by
  obtain ⟨h0, h1, h2, h3⟩ := h
  simp [segOK, segOf, h0, h1, h2, h3]

theorem semNode_inline (len : Nat) (pk : String × NType) (inLink : Bool) (k : String) (segs : List Seg) (lv : Int)
    (cs : List PNode) (hpub : publicKinds.contains k = true) (hk1 : (k == "ListItem") = false)
    (hk2 : (k == "Heading") = false) (hnd : pk.2 ≠ .document) (hnl : pk.1 ≠ "List")
    (hcs : pk.1 = "CodeSpan" → k = "Text") (hem : k = "Emphasis" → 1 ≤ lv ∧ lv ≤ 2)
    (hl : k = "Link" → inLink = false) (hs : segs.all (segOK len) = true) :
    SemNode len (some pk) inLink (inlInfo k segs lv) cs where
  pub := hpub
  root := fun h => by cases h
  blockBelowInline := fun p _ => by simp [inlInfo]
  inlineBelowDoc := fun p hp => by
    cases hp
    have : (pk.2 == NType.document) = false := by simpa using hnd
    simp [inlInfo, this]
  itemOutside := by simp [inlInfo, hk1]
  listChild := fun p hp => by
    cases hp
    have : (pk.1 == "List") = false := by simpa using hnl
    simp [this]
  codeSpan := fun p hp => by
    cases hp
    by_cases h : pk.1 = "CodeSpan"
    · simp [inlInfo, hcs h]
    · have : (pk.1 == "CodeSpan") = false := by simpa using h
      simp [this]
  heading := by simp [inlInfo, hk2]
  emphasis := by
    by_cases h : k = "Emphasis"
    · have := hem h
      simp [inlInfo, this.1, this.2]
    · have : (k == "Emphasis") = false := by simpa using h
      simp [inlInfo, this]
  link := by
    by_cases h : k = "Link"
    · simp [inlInfo, hl h]
    · have : (k == "Link") = false := by simpa using h
      simp [inlInfo, this]
  segs := by simp [inlInfo, hs]
  lines := by simp [inlInfo]
  inl := fun h => by simp [inlInfo] at h

theorem all_isText_head {k : Inl.Node} {rest : List Inl.Node} (h : (k :: rest).all isText = true) :
    isText k = true ∧ rest.all isText = true := by
  simpa using h

mutual
theorem shapeI_sem (len : Nat) : ∀ (n : Inl.Node) (pk : String × NType) (inLink : Bool),
    wf false n = true → (∀ s ∈ segsOf n, segOK len (segOf s) = true) → pk.2 ≠ .document → pk.1 ≠ "List" →
    (pk.1 = "CodeSpan" → isText n = true) → (inLink = true → containsLink n = false) →
    semWf len (some pk) inLink (shapeI n)
  | .text seg a b c, pk, inLink, _, hs, hnd, hnl, _, _ => by
    simp only [shapeI, semWf, semWfL, and_true]
    exact semNode_inline len pk inLink "Text" _ 0 [] (by decide) (by decide) (by decide) hnd hnl (fun _ => rfl)
      (fun h => absurd h (by decide)) (fun h => absurd h (by decide)) (by simp [hs seg (by simp [segsOf])])
  | .codeSpan ks, pk, inLink, hw, hs, hnd, hnl, hcs, hil => by
    simp only [wf] at hw
    simp only [shapeI, semWf]
    refine ⟨semNode_inline len pk inLink "CodeSpan" [] 0 _ (by decide) (by decide) (by decide) hnd hnl
      (fun h => by have := hcs h; simp [isText] at this) (fun h => absurd h (by decide)) (fun h => absurd h (by decide))
      (by simp), ?_⟩
    refine shapeIs_sem len ks ("CodeSpan", .inline) _ ?_ (fun s h => hs s (by simpa [segsOf] using h)) (by decide)
      (by decide) (fun _ => hw) ?_
    · exact GM.Proof.Inlines.wfL_iff.mpr (fun n hn => by
        have : isText n = true := (List.all_eq_true.mp hw) n hn
        cases n <;> simp [isText] at this
        simp [wf])
    · intro h
      have h' : inLink = true := by simpa [inlInfo] using h
      have := hil h'
      simpa [containsLink] using this
  | .emphasis lv ks, pk, inLink, hw, hs, hnd, hnl, hcs, hil => by
    simp only [wf, Bool.and_eq_true, Bool.or_eq_true, beq_iff_eq] at hw
    simp only [shapeI, semWf]
    refine ⟨semNode_inline len pk inLink "Emphasis" [] lv _ (by decide) (by decide) (by decide) hnd hnl
      (fun h => by have := hcs h; simp [isText] at this) (fun _ => by rcases hw.1 with h | h <;> omega)
      (fun h => absurd h (by decide)) (by simp), ?_⟩
    refine shapeIs_sem len ks ("Emphasis", .inline) _ hw.2 (fun s h => hs s (by simpa [segsOf] using h)) (by decide)
      (by decide) (fun h => absurd h (by decide)) ?_
    intro h
    have h' : inLink = true := by simpa [inlInfo] using h
    have := hil h'
    simpa [containsLink] using this
  | .link im d t ks, pk, inLink, hw, hs, hnd, hnl, hcs, hil => by
    simp only [wf, Bool.and_eq_true, Bool.or_eq_true, Bool.not_eq_true'] at hw
    cases im with
    | true =>
      simp only [shapeI, semWf, if_true]
      refine ⟨semNode_inline len pk inLink "Image" [] 0 _ (by decide) (by decide) (by decide) hnd hnl
        (fun h => by have := hcs h; simp [isText] at this) (fun h => absurd h (by decide))
        (fun h => absurd h (by decide)) (by simp), ?_⟩
      refine shapeIs_sem len ks ("Image", .inline) _ hw.1 (fun s h => hs s (by simpa [segsOf] using h)) (by decide)
        (by decide) (fun h => absurd h (by decide)) ?_
      intro h
      have h' : inLink = true := by simpa [inlInfo] using h
      have := hil h'
      simpa [containsLink] using this
    | false =>
      have hno : containsLinkL ks = false := by
        rcases hw.2 with h | h
        · cases h
        · exact h
      simp only [shapeI, semWf, Bool.false_eq_true, if_false]
      refine ⟨semNode_inline len pk inLink "Link" [] 0 _ (by decide) (by decide) (by decide) hnd hnl
        (fun h => by have := hcs h; simp [isText] at this) (fun h => absurd h (by decide)) ?_ (by simp), ?_⟩
      · intro _
        cases hi : inLink with
        | false => rfl
        | true => have := hil hi; simp [containsLink] at this
      · exact shapeIs_sem len ks ("Link", .inline) _ hw.1 (fun s h => hs s (by simpa [segsOf] using h)) (by decide)
          (by decide) (fun h => absurd h (by decide)) (fun _ => hno)
  | .autoLink e s, pk, inLink, _, _, hnd, hnl, hcs, _ => by
    simp only [shapeI, semWf, semWfL, and_true]
    exact semNode_inline len pk inLink "AutoLink" [] 0 [] (by decide) (by decide) (by decide) hnd hnl
      (fun h => by have := hcs h; simp [isText] at this) (fun h => absurd h (by decide))
      (fun h => absurd h (by decide)) (by simp)
  | .rawHTML segs, pk, inLink, _, hs, hnd, hnl, hcs, _ => by
    simp only [shapeI, semWf, semWfL, and_true]
    exact semNode_inline len pk inLink "RawHTML" _ 0 [] (by decide) (by decide) (by decide) hnd hnl
      (fun h => by have := hcs h; simp [isText] at this) (fun h => absurd h (by decide))
      (fun h => absurd h (by decide)) (by
        rw [List.all_eq_true]
        intro x hx
        obtain ⟨s, hs', rfl⟩ := List.mem_map.mp hx
        exact hs s (by simpa [segsOf] using hs'))
  | .delim id dd, _, _, hw, _, _, _, _, _ => by simp [wf] at hw
  | .label id s im, _, _, hw, _, _, _, _, _ => by simp [wf] at hw
theorem shapeIs_sem (len : Nat) : ∀ (ks : List Inl.Node) (pk : String × NType) (inLink : Bool),
    wfL false ks = true → (∀ s ∈ segsOfL ks, segOK len (segOf s) = true) → pk.2 ≠ .document → pk.1 ≠ "List" →
    (pk.1 = "CodeSpan" → ks.all isText = true) → (inLink = true → containsLinkL ks = false) →
    semWfL len pk inLink (shapeIs ks)
  | [], _, _, _, _, _, _, _, _ => by simp [shapeIs, semWfL]
  | k :: rest, pk, inLink, hw, hs, hnd, hnl, hcs, hil => by
    simp only [wfL, Bool.and_eq_true] at hw
    simp only [shapeIs, semWfL]
    refine ⟨shapeI_sem len k pk inLink hw.1 (fun s h => hs s (by simp [segsOfL, h])) hnd hnl
      (fun h => (all_isText_head (hcs h)).1) (fun h => ?_),
      shapeIs_sem len rest pk inLink hw.2 (fun s h => hs s (by simp [segsOfL, h])) hnd hnl
      (fun h => (all_isText_head (hcs h)).2) (fun h => ?_)⟩
    · have := hil h; simp only [containsLinkL, Bool.or_eq_false_iff] at this; exact this.1
    · have := hil h; simp only [containsLinkL, Bool.or_eq_false_iff] at this; exact this.2
end

open GM.Blocks in
theorem name_listItem (k : GM.Blocks.Kind) : (k.name == "ListItem") = decide (k = .listItem) := by cases k <;> decide
open GM.Blocks in
theorem name_list (k : GM.Blocks.Kind) : (k.name == "List") = decide (k = .list) := by cases k <;> decide
theorem name_heading (k : GM.Blocks.Kind) : (k.name == "Heading") = decide (k = .heading) := by cases k <;> decide
theorem name_document (k : GM.Blocks.Kind) : (k.name == "Document") = decide (k = .document) := by cases k <;> decide
theorem name_codeSpan (k : GM.Blocks.Kind) : (k.name == "CodeSpan") = false := by cases k <;> decide
theorem name_emphasis (k : GM.Blocks.Kind) : (k.name == "Emphasis") = false := by cases k <;> decide
theorem name_link (k : GM.Blocks.Kind) : (k.name == "Link") = false := by cases k <;> decide
theorem name_public (k : GM.Blocks.Kind) : publicKinds.contains k.name = true := by cases k <;> decide
theorem name_raw (k : GM.Blocks.Kind) : rawBlockKinds.contains k.name = isRawKind k := by cases k <;> decide
theorem ntypeOf_ne_inline (k : GM.Blocks.Kind) : (ntypeOf k == NType.inline) = false := by cases k <;> decide
theorem ntypeOf_doc (k : GM.Blocks.Kind) : ntypeOf k = .document ↔ k = .document := by cases k <;> simp [ntypeOf]

/-- a block's lines increase: each starts at or behind the end of the one before (the shape of `GM.Blocks.OrdFrom`) -/
def ordFrom : Int → List Segment → Prop
  | _, [] => True
  | lo, s :: rest => lo ≤ s.start ∧ ordFrom s.stop rest

theorem linesIncreasing_of_ordFrom : ∀ (l : List Segment) (p : Int), ordFrom p l → linesIncreasing p (l.map segOf) = true
  | [], _, _ => rfl
  | s :: rest, p, h => by
    simp only [ordFrom] at h
    simp only [List.map, linesIncreasing, Bool.and_eq_true, decide_eq_true_eq]
    exact ⟨h.1, linesIncreasing_of_ordFrom rest _ h.2⟩

theorem linesIncreasing_of_chain {hi : Int} : ∀ (l : List Segment) (lo p : Int), chain lo hi l → p ≤ lo →
    linesIncreasing p (l.map segOf) = true
  | [], _, _, _, _ => rfl
  | s :: rest, lo, p, h, hp => by
    simp only [chain] at h
    simp only [List.map, linesIncreasing, Bool.and_eq_true, decide_eq_true_eq]
    exact ⟨by have := h.1; simp only [segOf]; omega, linesIncreasing_of_chain rest s.stop _ h.2.2 (Int.le_refl _)⟩

theorem chain_sublist {hi : Int} : ∀ {l' l : List Segment}, l'.Sublist l → ∀ lo, chain lo hi l → chain lo hi l' := by
  intro l' l hs
  induction hs with
  | slnil => intro lo h; exact h
  | cons a _ ih =>
    intro lo h
    simp only [chain] at h
    exact ih lo (chain_mono (by have := h.1; have := h.2.1; omega) (Int.le_refl _) h.2.2)
  | cons_cons a _ ih =>
    intro lo h
    simp only [chain] at h ⊢
    exact ⟨h.1, h.2.1, ih _ h.2.2⟩

/-- the first line's start / the last line's stop (0 without lines), as `Spec.nodeClause` reads them -/
def loOf (ls : List Segment) : Int := (ls.head?.map (·.start)).getD 0
def hiOf (ls : List Segment) : Int := (ls.getLast?.map (·.stop)).getD 0

/-- what the clauses need of one block node -/
structure BlockP (src : Bytes) (n : GM.Blocks.Node) : Prop where
  head : HeadP n
  lines : ∀ t ∈ n.lines, segInRange src t
  info : n.kind = .fencedCodeBlock → ∀ s, n.info = some s → segInRange src s
  closure : n.kind = .htmlBlock → n.closure.start ≥ 0 → segInRange src n.closure
  ord : ordFrom 0 n.lines
  noLines : (n.kind = .document ∨ n.kind = .list) → n.lines = []

/-- what the clauses need of the inline children of one block -/
structure KidsP (src : Bytes) (n : GM.Blocks.Node) (kids : List Inl.Node) : Prop where
  wf : wfL false kids = true
  range : ∀ s ∈ segsOfL kids, segInRange src s
  inside : segsOfL kids ≠ [] → chain (loOf n.lines) (hiOf n.lines) (segsOfL kids)
  lines : kids ≠ [] → n.lines ≠ []

/-- a ListItem exactly below a List; the root is the Document -/
def ListRel (pk : Option GM.Blocks.Kind) (k : GM.Blocks.Kind) : Prop :=
  match pk with
  | none => k = .document
  | some p => (k = .listItem ↔ p = .list)

mutual
def AOK (src : Bytes) (pk : Option GM.Blocks.Kind) : ATree → Prop
  | .node n bs kids => BlockP src n ∧ KidsP src n kids ∧ ListRel pk n.kind ∧ AOKs src n.kind bs
def AOKs (src : Bytes) (pk : GM.Blocks.Kind) : List ATree → Prop
  | [] => True
  | a :: r => AOK src (some pk) a ∧ AOKs src pk r
end

theorem semWfL_append (len : Nat) (pk : String × NType) (inLink : Bool) : ∀ (a b : List PNode),
    semWfL len pk inLink a → semWfL len pk inLink b → semWfL len pk inLink (a ++ b)
  | [], _, _, hb => hb
  | x :: a, b, ha, hb => by
    simp only [List.cons_append, semWfL] at ha ⊢
    exact ⟨ha.1, semWfL_append len pk inLink a b ha.2 hb⟩

mutual
theorem inlineSegs_shapeB : ∀ a, inlineSegs (shapeB a) = []
  | .node n bs kids => by
    have h1 : (n.kind.name == "Text" || n.kind.name == "RawHTML") = false := by cases n.kind <;> decide
    simp [shapeB, inlineSegs, blockInfo, h1, ntypeOf_ne_inline]
theorem inlineSegsL_shapeBs : ∀ bs, inlineSegsL (shapeBs bs) = []
  | [] => by simp [shapeBs, inlineSegsL]
  | a :: r => by simp [shapeBs, inlineSegsL, inlineSegs_shapeB a, inlineSegsL_shapeBs r]
end

theorem inlineSegsL_append : ∀ (a b : List PNode), inlineSegsL (a ++ b) = inlineSegsL a ++ inlineSegsL b
  | [], _ => by simp [inlineSegsL]
  | x :: a, b => by simp [inlineSegsL, inlineSegsL_append a b]

theorem xsegsOf_ok {src : Bytes} {n : GM.Blocks.Node} (h : BlockP src n) : (xsegsOf n).all (segOK src.length) = true := by
  unfold xsegsOf
  split
  · rename_i hk
    split
    · rename_i s hs
      simp [segOK_of_inRange (h.info hk s hs)]
    · simp
  · rename_i hk
    split
    · rename_i hc
      simp [segOK_of_inRange (h.closure hk hc)]
    · simp
  · simp

theorem head_map_segOf (ls : List Segment) :
    (((ls.map segOf).head?.map (fun (s : Seg) => s.start)).getD 0) = loOf ls := by
  cases ls <;> simp [loOf, segOf]

theorem last_map_segOf (ls : List Segment) :
    (((ls.map segOf).getLast?.map (fun (s : Seg) => s.stop)).getD 0) = hiOf ls := by
  unfold hiOf
  rw [List.getLast?_map]
  cases ls.getLast? <;> simp [segOf]

theorem semNode_block (src : Bytes) (pk : Option GM.Blocks.Kind) (n : GM.Blocks.Node) (bs : List ATree)
    (kids : List Inl.Node) (hb : BlockP src n) (hk : KidsP src n kids) (hr : ListRel pk n.kind) :
    SemNode src.length (pk.map fun k => (k.name, ntypeOf k)) false (blockInfo n) (shapeBs bs ++ shapeIs kids) where
  pub := name_public _
  root := fun h => by
    cases pk with
    | none => simp only [ListRel] at hr; simp [blockInfo, hr, GM.Blocks.Kind.name]
    | some p => cases h
  blockBelowInline := fun p hp => by
    cases pk with
    | none => cases hp
    | some q => cases hp; simp [ntypeOf_ne_inline]
  inlineBelowDoc := fun p _ => by simp [blockInfo, ntypeOf_ne_inline]
  itemOutside := by
    cases pk with
    | none =>
      simp only [ListRel] at hr
      simp [blockInfo, hr, GM.Blocks.Kind.name]
    | some q =>
      simp only [ListRel] at hr
      simp only [Option.map, blockInfo, name_listItem, bne, name_list]
      by_cases h1 : n.kind = .listItem
      · simp [h1, hr.mp h1]
      · simp [h1]
  listChild := fun p hp => by
    cases pk with
    | none => cases hp
    | some q =>
      cases hp
      simp only [ListRel] at hr
      simp only [blockInfo, name_listItem, bne, name_list]
      by_cases h1 : q = .list
      · simp [h1, hr.mpr h1]
      · simp [h1]
  codeSpan := fun p hp => by
    cases pk with
    | none => cases hp
    | some q => cases hp; simp [name_codeSpan]
  heading := by
    simp only [blockInfo, name_heading]
    by_cases h1 : n.kind = .heading
    · have := hb.head h1
      simp [h1, this.1, this.2]
    · simp [h1]
  emphasis := by simp [blockInfo, name_emphasis]
  link := by simp [blockInfo]
  segs := by
    have h1 : (n.lines.map segOf).all (segOK src.length) = true := by
      rw [List.all_eq_true]
      intro x hx
      obtain ⟨t, ht, rfl⟩ := List.mem_map.mp hx
      exact segOK_of_inRange (hb.lines t ht)
    simp [blockInfo, h1, xsegsOf_ok hb]
  lines := by simp [blockInfo, linesIncreasing_of_ordFrom _ _ hb.ord]
  inl := fun _ => by
    simp only [blockInfo, inlineSegsL_append, inlineSegsL_shapeBs, List.nil_append, head_map_segOf, last_map_segOf]
    have hsub0 := inlineSegsL_shapeIs_sub kids
    by_cases hkn : segsOfL kids = []
    · rw [hkn] at hsub0
      simp only [List.map_nil, List.sublist_nil] at hsub0
      simp [hsub0, linesIncreasing]
    · have hc := hk.inside hkn
      have hsub : ((inlineSegsL (shapeIs kids)).filter (segOK src.length)).Sublist ((segsOfL kids).map segOf) :=
        List.Sublist.trans List.filter_sublist (inlineSegsL_shapeIs_sub kids)
      obtain ⟨l', hl', e⟩ := List.sublist_map_iff.mp hsub
      have hc' := chain_sublist hl' _ hc
      rw [e]
      have hlo : 0 ≤ loOf n.lines := by
        unfold loOf
        cases hl : n.lines with
        | nil => simp
        | cons t r => simp; exact (hb.lines t (by rw [hl]; simp)).1
      refine ⟨?_, linesIncreasing_of_chain l' _ 0 hc' hlo⟩
      rw [List.all_eq_true]
      intro x hx
      obtain ⟨t, ht, rfl⟩ := List.mem_map.mp hx
      have := GM.E2E.chain_mem hc' t ht
      simp [segOf, this.1, this.2.2]

mutual
theorem shapeB_sem (src : Bytes) : ∀ (a : ATree) (pk : Option GM.Blocks.Kind), AOK src pk a →
    semWf src.length (pk.map fun k => (k.name, ntypeOf k)) false (shapeB a)
  | .node n bs kids, pk, h => by
    simp only [AOK] at h
    obtain ⟨hb, hk, hr, hbs⟩ := h
    simp only [shapeB, semWf]
    refine ⟨semNode_block src pk n bs kids hb hk hr, ?_⟩
    have hl : (false || (blockInfo n).kind == "Link") = false := by simp [blockInfo, name_link]
    rw [hl]
    refine semWfL_append _ _ _ _ _ (shapeBs_sem src bs n.kind hbs) ?_
    by_cases hkn : kids = []
    · subst hkn; simp [shapeIs, semWfL]
    · have hne := hk.lines hkn
      refine shapeIs_sem src.length kids _ false hk.wf (fun s hs => segOK_of_inRange (hk.range s hs)) ?_ ?_ ?_
        (fun h => by cases h)
      · intro h
        have : n.kind = .document := (ntypeOf_doc _).mp h
        exact hne (hb.noLines (.inl this))
      · intro h
        have h' : (n.kind.name == "List") = true := by simpa [blockInfo] using h
        rw [name_list] at h'
        exact hne (hb.noLines (.inr (by simpa using h')))
      · intro h
        have h' : ((blockInfo n).kind == "CodeSpan") = true := by simpa using h
        simp [blockInfo, name_codeSpan] at h'
theorem shapeBs_sem (src : Bytes) : ∀ (bs : List ATree) (pk : GM.Blocks.Kind), AOKs src pk bs →
    semWfL src.length (pk.name, ntypeOf pk) false (shapeBs bs)
  | [], _, _ => by simp [shapeBs, semWfL]
  | a :: r, pk, h => by
    simp only [AOKs] at h
    simp only [shapeBs, semWfL]
    exact ⟨shapeB_sem src a (some pk) h.1, shapeBs_sem src r pk h.2⟩
end

/-- **C05 for the dump of an annotated tree with `AOK`** -/
theorem wfAst_dumpAst (src : Bytes) (a : ATree) (h : AOK src none a) : wfAst src.length (dumpAst a) = none :=
  wfAst_relabel src.length (shapeB a) (shapeB_sem src a none h)

end GM.E2E
