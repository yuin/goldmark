/-
  GM.Proof.ShiftSimRel — the C09 SHIFT SIMULATION for a source `F.p ++ b` (namespace `GM.Blocks.Sh`): frame, relations,
  step contracts, as the case `q = []` of the simulation for `F.p ++ b ++ F.q` (namespace `GM.Blocks.Xs`: ShiftSimXCalc,
  ShiftSimXRel, ShiftSimXParsers, where the proofs are).

  Two runs of the block-phase model are compared: run A on a source `b`, run B on `p ++ b` standing `|p|` bytes
  (and `dl` lines) further on. `P2 Q x y`: if BOTH results ended normally, values and final states are related
  by `Q` (nothing is claimed when one side panics or runs out of fuel: that both whole runs end normally is
  `GM.Props.Blocks.no_panic`; so the fuels of the two runs need not be related at all).

  B's state is (almost) a FUNCTION of A's:
  * reader: `sB.r = shR F sA.r`, A's reader satisfies the reader invariant `RI`;
  * node store: A's node `j` is B's node `F.ι j` (`ι 0 = 0`, `ι j = j + c`), and is `shN F (j == 0)` of it: ids
    inside the node mapped by `ι`, every segment moved by `|p|`, B's Document has the children `kids0` in front.
    The relation is total over ids (beyond the stores both sides read `default`); B's nodes `1..c` are never looked at;
  * context: same keys (ids mapped), same open-block stack; `emptyItemBlank` is related only while a list is open
    (it survives the closing of its list: `GM.Props.C09.close_keeps_list_flags`); `BlockOffset/BlockIndent` are related
    in `SR` and not in the weak relation `SRw` that holds between lines (openBlocks writes them before anything reads them).
  `SRL` ("limbo"): what is left of `SR` after a leaf parser's `Open` advanced to the end of its line with an
  `Advance(n)` whose `n` is not known to be ≥ 0: stores and contexts related, readers related after the next
  `AdvanceLine` (nothing reads the reader in between).

  `Frame.toX` is the `Xs` frame without a suffix; `shR_toX` says that the two shifted readers are the same; each relation
  is the `Xs` relation at `F.toX` (`sr_toX`, `srl_toX`, … : equal as predicates), the step contracts `OpenSim`,
  `ContinueSim`, `CloseSim` likewise (`openSim_toX`, …); every lemma here — reader, store and context primitives, segments
  under the move, tree operations, blank-line statistics, `cw_*` — is the `Xs` lemma read through these equations, the side
  conditions about the suffix being met by `F.toX.q = []`. `Open` / `Continue` / `Close` of paragraph, thematic break, ATX
  heading, setext heading, code block, block quote, HTML block (and `Close` of the list item) are taken from
  GM.Proof.ShiftSimXParsers in the same way where they are used (GM.Proof.ShiftSimMain).
-/
import GM.Proof.ShiftSimXParsers

namespace GM.Blocks.Sh
open GM GM.Text GM.Spec GM.Proof.Reader GM.Blocks

/-! ### the binary partial-correctness calculus (the rules are those of `Xs.P2`, which unfolds to the same) -/

def P2 {α β : Type} (Q : α → β → St → St → Prop) (x : Except Panic (α × St)) (y : Except Panic (β × St)) : Prop :=
  ∀ a sA b sB, x = .ok (a, sA) → y = .ok (b, sB) → Q a b sA sB

theorem P2.ok {α β} {Q : α → β → St → St → Prop} {a b sA sB} (h : Q a b sA sB) :
    P2 Q (.ok (a, sA)) (.ok (b, sB)) := Xs.P2.ok h

theorem P2.errL {α β} {Q : α → β → St → St → Prop} {e y} : P2 Q (.error e : Except Panic (α × St)) y (β := β) :=
  Xs.P2.errL

theorem P2.errR {α β} {Q : α → β → St → St → Prop} {e x} : P2 Q x (.error e : Except Panic (β × St)) (α := α) :=
  Xs.P2.errR

theorem P2.pure {α β} {Q : α → β → St → St → Prop} {a : α} {b : β} {sA sB : St} (h : Q a b sA sB) :
    P2 Q ((Pure.pure a : M α) sA) ((Pure.pure b : M β) sB) := P2.ok h

theorem P2.mono {α β} {P Q : α → β → St → St → Prop} {x y} (h : P2 P x y)
    (hpq : ∀ a b sA sB, P a b sA sB → Q a b sA sB) : P2 Q x y := Xs.P2.mono h hpq

theorem P2.bind {α β α' β'} {P : α → β → St → St → Prop} {Q : α' → β' → St → St → Prop}
    {mA : M α} {mB : M β} {fA : α → M α'} {fB : β → M β'} {sA sB : St}
    (hm : P2 P (mA sA) (mB sB)) (hf : ∀ a b sA' sB', P a b sA' sB' → P2 Q (fA a sA') (fB b sB')) :
    P2 Q ((mA >>= fA) sA) ((mB >>= fB) sB) := Xs.P2.bind hm hf

theorem P2.liftE {α β} {Q : α → β → St → St → Prop} {eA : Except Panic α} {eB : Except Panic β} {sA sB : St}
    (h : ∀ a b, eA = .ok a → eB = .ok b → Q a b sA sB) : P2 Q (GM.Blocks.liftE eA sA) (GM.Blocks.liftE eB sB) :=
  Xs.P2.liftE h

theorem P2.liftE_same {α} {Q : α → α → St → St → Prop} {e : Except Panic α} {sA sB : St}
    (h : ∀ a, e = .ok a → Q a a sA sB) : P2 Q (GM.Blocks.liftE e sA) (GM.Blocks.liftE e sB) :=
  Xs.P2.liftE_same h

theorem P2.throwL {α β} {Q : α → β → St → St → Prop} {e : Panic} {sA : St} {y} :
    P2 Q ((throw e : M α) sA) y (β := β) := Xs.P2.throwL

theorem P2.throwR {α β} {Q : α → β → St → St → Prop} {e : Panic} {sB : St} {x} :
    P2 Q x ((throw e : M β) sB) (α := α) := Xs.P2.throwR

theorem bind_run {α β} {m : M α} {f : α → M β} {s s1 : St} {a : α} (h : m s = .ok (a, s1)) :
    (m >>= f) s = f a s1 := Xs.bind_run h

/-- what run B has in front of run A: the prefix `p` of its source, the number `dl` of lines of `p`, the number
    `c` of nodes run B's store has more than run A's (A's node `j ≥ 1` is B's node `j + c`; the Documents are node
    0 of both), and the children `kids0` B's Document already has. -/
structure Frame where
  p : Bytes
  dl : Int
  c : Nat
  kids0 : List Nat
  /-- is the flag `emptyListItemWithBlankLines` related (equal in both runs)? Needed only when the list parsers are
      covered; the flag survives the closing of its list, so after a prefix it may be set although a fresh run starts
      with it unset. -/
  flag : Bool := false
  /-- the nodes B's store holds at the start (only the entries `1..c` matter: they are never touched) -/
  oldNodes : List Node := []

/-- the byte shift -/
def Frame.d (F : Frame) : Int := (F.p.length : Int)

/-- the prefix is empty or ends with a BLANK line, and the Document's old children are old nodes -/
structure Frame.OK (F : Frame) : Prop where
  nl : F.p = [] ∨ F.p[F.p.length - 1]? = some 10
  nl2 : F.p.length ≤ 1 ∨ F.p[F.p.length - 2]? = some 10
  kids : ∀ x ∈ F.kids0, 1 ≤ x ∧ x ≤ F.c

/-- the frame of the simulation for `p ++ b ++ q` without a suffix -/
def Frame.toX (F : Frame) : Xs.Frame :=
  { p := F.p, dl := F.dl, c := F.c, kids0 := F.kids0, flag := F.flag, oldNodes := F.oldNodes, q := [] }

theorem toX_ok {F : Frame} (h : F.OK) : F.toX.OK := ⟨h.nl, h.nl2, h.kids⟩

theorem sub_shift (p s : Bytes) (a b : Nat) : sub (p ++ s) (a + p.length) (b + p.length) = sub s a b :=
  Xs.sub_pre p s a b

theorem lineEnd_shift (p s : Bytes) (q : Nat) : lineEnd (p ++ s) (q + p.length) = lineEnd s q + p.length :=
  Xs.lineEnd_pre p s q

theorem moveSeg_zero (s : Segment) : moveSeg 0 s = s := Xs.moveSeg_zero s

/-- B's reader as a function of A's -/
def shR (F : Frame) (r : Reader) : Reader :=
  { source := F.p ++ r.source, line := r.line + F.dl, peekedLine := r.peekedLine, pos := moveSeg F.d r.pos,
    head := r.head + F.d, lineOffset := r.lineOffset }

theorem shR_toX (F : Frame) : Xs.shR F.toX = shR F := by
  funext r
  simp [Xs.shR, shR, Frame.toX, Xs.Frame.d, Frame.d]

theorem peekLine_sh (F : Frame) (r : Reader) (h0 : 0 ≤ r.pos.start) :
    (shR F r).peekLine = r.peekLine.map (fun x => ((x.1.1, moveSeg F.d x.1.2), shR F x.2)) := by
  rw [← shR_toX]; exact Xs.peekLine_sh F.toX r h0 (.inl rfl)

theorem lineOffsetOp_sh (F : Frame) (r : Reader) (hh : 0 ≤ r.head) :
    (shR F r).lineOffsetOp = r.lineOffsetOp.map (fun x => (x.1, shR F x.2)) := by
  rw [← shR_toX]; exact Xs.lineOffsetOp_sh F.toX r hh (.inl rfl)

theorem advance_sh (F : Frame) (r : Reader) (n : Int) (h0 : 0 ≤ r.pos.start) (h1 : 0 ≤ r.pos.stop) :
    (shR F r).advance n = (r.advance n).map (shR F) := by
  rw [← shR_toX]; exact Xs.advance_sh F.toX r n h0 h1 (.inl rfl)

theorem setPadding_sh (F : Frame) (r : Reader) (v : Int) : (shR F r).setPadding v = shR F (r.setPadding v) := rfl

theorem advanceAndSetPadding_sh (F : Frame) (r : Reader) (n pd : Int) (h0 : 0 ≤ r.pos.start) (h1 : 0 ≤ r.pos.stop) :
    (shR F r).advanceAndSetPadding n pd = (r.advanceAndSetPadding n pd).map (shR F) := by
  rw [← shR_toX]; exact Xs.advanceAndSetPadding_sh F.toX r n pd h0 h1 (.inl rfl)

theorem position_sh (F : Frame) (r : Reader) : (shR F r).position = (r.position.1 + F.dl, moveSeg F.d r.position.2) := rfl

/-- `SetPosition` at a position that is not negative — or one byte in front of the source (the prefix ends with a
    blank line) -/
theorem setPosition_sh (F : Frame) (hF : F.OK) (r : Reader) (l : Int) (pos : Segment) (h0 : -1 ≤ pos.start) :
    (shR F r).setPosition (l + F.dl) (moveSeg F.d pos) = shR F (r.setPosition l pos) := by
  rw [← shR_toX]; exact Xs.setPosition_sh F.toX (toX_ok hF) r l pos h0 (.inl rfl)

end GM.Blocks.Sh

namespace GM.Blocks.Sh
open GM GM.Text GM.Spec GM.Proof.Reader GM.Blocks

def Frame.ι (F : Frame) (j : Nat) : Nat := if j = 0 then 0 else j + F.c

@[simp] theorem ι_zero (F : Frame) : F.ι 0 = 0 := rfl

theorem ι_pos (F : Frame) {j : Nat} (h : j ≠ 0) : F.ι j = j + F.c := Xs.ι_pos F.toX h

theorem ι_inj (F : Frame) {i j : Nat} (h : F.ι i = F.ι j) : i = j := Xs.ι_inj F.toX h

theorem ι_eq_zero (F : Frame) {j : Nat} : F.ι j = 0 ↔ j = 0 := Xs.ι_eq_zero F.toX

theorem ι_not_kid (F : Frame) (hF : F.OK) (j : Nat) : F.ι j ∉ F.kids0 := Xs.ι_not_kid F.toX (toX_ok hF) j

theorem ι_beq (F : Frame) (i j : Nat) : (F.ι i == F.ι j) = (i == j) := Xs.ι_beq F.toX i j

/-- an HTML block's closure line: `{-1,-1}` (none) stays, a real segment is moved -/
def shClosure (d : Int) (s : Segment) : Segment := if s.start < 0 then s else moveSeg d s

/-- B's node as a function of A's (`root`: the Document) -/
def shN (F : Frame) (root : Bool) (n : Node) : Node :=
  { n with parent := n.parent.map F.ι,
           children := (if root then F.kids0 else []) ++ n.children.map F.ι,
           lines := n.lines.map (moveSeg F.d),
           info := n.info.map (moveSeg F.d),
           closure := shClosure F.d n.closure }

theorem shN_default (F : Frame) : shN F false (default : Node) = default := Xs.shN_default F.toX

structure StoreRel (F : Frame) (nA nB : List Node) : Prop where
  pos : 0 < nA.length
  len : nB.length = nA.length + F.c
  node : ∀ j, nB.getD (F.ι j) default = shN F (j == 0) (nA.getD j default)
  doc : (nA.getD 0 default).kind = .document
  /-- B's old nodes `1..c` are never touched -/
  old : ∀ i, 1 ≤ i → i ≤ F.c → nB.getD i default = F.oldNodes.getD i default

def shB (F : Frame) (b : Block) : Block := { b with node := F.ι b.node }

def shF (F : Frame) (f : FenceData) : FenceData := { f with node := F.ι f.node }

/-- a list or a list item is open -/
def ListOpen (a : Ctx) : Prop := ∃ x ∈ a.opened, x.bp = .list ∨ x.bp = .listItem

/-- the relation of the flag `emptyListItemWithBlankLines`. The flag survives the closing of its list
    (`GM.Props.C09.close_keeps_list_flags`), so after a prefix it may differ from a fresh run; it is read only by
    `listParser.Continue` / `listItemParser.Continue`. It is related (equal) only for frames with `flag = true`; the
    theorems that do not cover the list parsers hold for every frame. -/
def ListFlagRel (F : Frame) (a b : Ctx) : Prop := F.flag = true → b.emptyItemBlank = a.emptyItemBlank

/-- everything but `BlockOffset` / `BlockIndent` -/
structure CtxRelW (F : Frame) (a b : Ctx) : Prop where
  opened : b.opened = a.opened.map (shB F)
  tmpPara : b.tmpPara = a.tmpPara.map F.ι
  fence : b.fence = a.fence.map (shF F)
  skipList : b.skipList = a.skipList
  emptyItemBlank : ListFlagRel F a b

structure CtxRel (F : Frame) (a b : Ctx) : Prop extends CtxRelW F a b where
  blockOffset : b.blockOffset = a.blockOffset
  blockIndent : b.blockIndent = a.blockIndent

/-- between lines: `BlockOffset` / `BlockIndent` not related -/
structure SRw (F : Frame) (b : Bytes) (sA sB : St) : Prop where
  ri : ∃ c, RI b sA.r c
  r : sB.r = shR F sA.r
  n : StoreRel F sA.nodes sB.nodes
  c : CtxRelW F sA.pc sB.pc

structure SR (F : Frame) (b : Bytes) (sA sB : St) : Prop where
  ri : ∃ c, RI b sA.r c
  r : sB.r = shR F sA.r
  n : StoreRel F sA.nodes sB.nodes
  c : CtxRel F sA.pc sB.pc

theorem SR.w {F b sA sB} (h : SR F b sA sB) : SRw F b sA sB := ⟨h.ri, h.r, h.n, h.c.toCtxRelW⟩

/-- stores and contexts related, the readers are `rA` / `rB` (not looked at, except for their sources): the relation
    under which `Close` functions and tree operations work -/
structure SRL (F : Frame) (b : Bytes) (rA rB : Reader) (sA sB : St) : Prop where
  ra : sA.r = rA
  rb : sB.r = rB
  srcA : rA.source = b
  srcB : rB.source = F.p ++ b
  n : StoreRel F sA.nodes sB.nodes
  c : CtxRel F sA.pc sB.pc

/-- "limbo": the readers are related after the next `AdvanceLine` (nothing reads them before) -/
def Limbo (F : Frame) (b : Bytes) (rA rB : Reader) : Prop :=
  (∃ c, RI b rA.advanceLine c) ∧ rB.advanceLine = shR F rA.advanceLine

/-- after a leaf parser consumed its line with `Advance(n)`, `n` not known to be ≥ 0 -/
def SRLim (F : Frame) (b : Bytes) (sA sB : St) : Prop := SRL F b sA.r sB.r sA sB ∧ Limbo F b sA.r sB.r

theorem storeRel_toX (F : Frame) : Xs.StoreRel F.toX = StoreRel F := by
  funext nA nB; apply propext
  exact ⟨fun h => ⟨h.pos, h.len, h.node, h.doc, h.old⟩, fun h => ⟨h.pos, h.len, h.node, h.doc, h.old⟩⟩

theorem ctxRelW_toX (F : Frame) : Xs.CtxRelW F.toX = CtxRelW F := by
  funext a b; apply propext
  exact ⟨fun h => ⟨h.opened, h.tmpPara, h.fence, h.skipList, h.emptyItemBlank⟩,
    fun h => ⟨h.opened, h.tmpPara, h.fence, h.skipList, h.emptyItemBlank⟩⟩

theorem ctxRel_toX (F : Frame) : Xs.CtxRel F.toX = CtxRel F := by
  funext a b; apply propext
  exact ⟨fun h => ⟨ctxRelW_toX F ▸ h.toCtxRelW, h.blockOffset, h.blockIndent⟩,
    fun h => ⟨(ctxRelW_toX F).symm ▸ h.toCtxRelW, h.blockOffset, h.blockIndent⟩⟩

theorem srw_toX (F : Frame) : Xs.SRw F.toX = SRw F := by
  funext b sA sB; apply propext
  exact ⟨fun h => ⟨h.ri, shR_toX F ▸ h.r, storeRel_toX F ▸ h.n, ctxRelW_toX F ▸ h.c⟩,
    fun h => ⟨h.ri, (shR_toX F).symm ▸ h.r, (storeRel_toX F).symm ▸ h.n, (ctxRelW_toX F).symm ▸ h.c⟩⟩

theorem sr_toX (F : Frame) : Xs.SR F.toX = SR F := by
  funext b sA sB; apply propext
  exact ⟨fun h => ⟨h.ri, shR_toX F ▸ h.r, storeRel_toX F ▸ h.n, ctxRel_toX F ▸ h.c⟩,
    fun h => ⟨h.ri, (shR_toX F).symm ▸ h.r, (storeRel_toX F).symm ▸ h.n, (ctxRel_toX F).symm ▸ h.c⟩⟩

theorem srl_toX (F : Frame) : Xs.SRL F.toX = SRL F := by
  funext b rA rB sA sB; apply propext
  exact ⟨fun h => ⟨h.ra, h.rb, h.srcA, h.srcB.trans (List.append_nil (F.p ++ b)), storeRel_toX F ▸ h.n,
      ctxRel_toX F ▸ h.c⟩,
    fun h => ⟨h.ra, h.rb, h.srcA, h.srcB.trans (List.append_nil (F.p ++ b)).symm, (storeRel_toX F).symm ▸ h.n,
      (ctxRel_toX F).symm ▸ h.c⟩⟩

theorem limbo_toX (F : Frame) : Xs.Limbo F.toX = Limbo F := by
  funext b rA rB; apply propext
  unfold Xs.Limbo Limbo Xs.AtEndR
  rw [shR_toX]
  simp [Frame.toX]

theorem srLim_toX (F : Frame) : Xs.SRLim F.toX = SRLim F := by
  funext b sA sB; unfold Xs.SRLim SRLim; rw [srl_toX, limbo_toX]

theorem RI.start_nonneg {src r c} (h : RI src r c) : 0 ≤ r.pos.start := Xs.RI.start_nonneg h

theorem SR.l {F b sA sB} (h : SR F b sA sB) : SRL F b sA.r sB.r sA sB := by
  rw [← sr_toX] at h; rw [← srl_toX]; exact Xs.SR.l h

theorem SR.limbo {F b sA sB} (h : SR F b sA sB) : SRLim F b sA sB := by
  rw [← sr_toX] at h; rw [← srLim_toX]; exact Xs.SR.limbo h (.inl rfl)

theorem SR.withR {F b sA sB} (h : SR F b sA sB) {rA : Reader} {c : RCur} (hc : RI b rA c) :
    SR F b { sA with r := rA } { sB with r := shR F rA } := ⟨⟨c, hc⟩, rfl, h.n, h.c⟩

theorem SRw.withR {F b sA sB} (h : SRw F b sA sB) {rA : Reader} {c : RCur} (hc : RI b rA c) :
    SRw F b { sA with r := rA } { sB with r := shR F rA } := ⟨⟨c, hc⟩, rfl, h.n, h.c⟩

/-! ### reader primitives

Each comes in a core form (readers only: `RD`), from which the `SR` and `SRw` forms follow. -/

/-- the reader part of the relation -/
def RD (F : Frame) (b : Bytes) (sA sB : St) : Prop := (∃ c, RI b sA.r c) ∧ sB.r = shR F sA.r

/-- only the readers changed, and they are related again -/
def RDstep (F : Frame) (b : Bytes) (sA sB sA' sB' : St) : Prop :=
  ∃ rA c, RI b rA c ∧ sA' = { sA with r := rA } ∧ sB' = { sB with r := shR F rA }

theorem rd_toX (F : Frame) : Xs.RD F.toX = RD F := by
  funext b sA sB; unfold Xs.RD RD; rw [shR_toX]

theorem rdStep_toX (F : Frame) : Xs.RDstep F.toX = RDstep F := by
  funext b sA sB sA' sB'; unfold Xs.RDstep RDstep; rw [shR_toX]

theorem RDstep.sr {F b sA sB sA' sB'} (h : SR F b sA sB) (hs : RDstep F b sA sB sA' sB') : SR F b sA' sB' := by
  obtain ⟨rA, c, hc, e1, e2⟩ := hs; subst e1 e2; exact h.withR hc

theorem RDstep.srw {F b sA sB sA' sB'} (h : SRw F b sA sB) (hs : RDstep F b sA sB sA' sB') : SRw F b sA' sB' := by
  obtain ⟨rA, c, hc, e1, e2⟩ := hs; subst e1 e2; exact h.withR hc

theorem peekLine_core {F : Frame} {b : Bytes} {sA sB : St} (h : RD F b sA sB) :
    P2 (fun x y sA' sB' => (∃ c, RI b sA'.r c ∧ x = (RCur.view b c, RCur.seg b c)) ∧ y = (x.1, moveSeg F.d x.2) ∧
        RDstep F b sA sB sA' sB') (peekLine sA) (peekLine sB) := by
  rw [← rd_toX] at h; rw [← rdStep_toX]; exact Xs.peekLine_core h (.inl rfl)

theorem skipBlankLinesR_core {F : Frame} {b : Bytes} {sA sB : St} (h : RD F b sA sB) :
    P2 (fun x y sA' sB' => y = (moveSeg F.d x.1, x.2.1, x.2.2) ∧ RDstep F b sA sB sA' sB')
      (skipBlankLinesR sA) (skipBlankLinesR sB) := by
  rw [← rd_toX] at h; rw [← rdStep_toX]; exact Xs.skipBlankLinesR_core h rfl

theorem SR.rd {F b sA sB} (h : SR F b sA sB) : RD F b sA sB := ⟨h.ri, h.r⟩

theorem SRw.rd {F b sA sB} (h : SRw F b sA sB) : RD F b sA sB := ⟨h.ri, h.r⟩

/-- `PeekLine`: the same line on both sides, B's segment moved. `x = (view, seg)` of A's cursor `c`: use
    `view_eq`, `view_none`, `view_len`, `seg_ok` (GM.Proof.BlocksTotal) for facts about them. -/
theorem peekLine_p2 {F b sA sB} (h : SR F b sA sB) :
    P2 (fun x y sA' sB' => (∃ c, RI b sA'.r c ∧ x = (RCur.view b c, RCur.seg b c)) ∧ y = (x.1, moveSeg F.d x.2) ∧
        SR F b sA' sB') (peekLine sA) (peekLine sB) := by rw [← sr_toX] at h ⊢; exact Xs.peekLine_p2 h (.inl rfl)

theorem lineOffset_p2 {F b sA sB} (h : SR F b sA sB) :
    P2 (fun x y sA' sB' => y = x ∧ (∃ c, RI b sA'.r c ∧ (c.p < b.length → x = loVal b c)) ∧ SR F b sA' sB')
      (lineOffset sA) (lineOffset sB) := by rw [← sr_toX] at h ⊢; exact Xs.lineOffset_p2 h

theorem advance_p2 {F b sA sB} (h : SR F b sA sB) {n m : Int} (hm : m = n) (hn : 0 ≤ n) :
    P2 (fun _ _ sA' sB' => SR F b sA' sB') (advance n sA) (advance m sB) := by
  rw [← sr_toX] at h ⊢; exact Xs.advance_p2 h hm hn (.inl rfl)

theorem advanceAndSetPadding_p2 {F b sA sB} (h : SR F b sA sB) {n m pd pd' : Int} (hm : m = n) (hpd : pd' = pd)
    (hn : 0 ≤ n) :
    P2 (fun _ _ sA' sB' => SR F b sA' sB') (advanceAndSetPadding n pd sA) (advanceAndSetPadding m pd' sB) := by
  rw [← sr_toX] at h ⊢; exact Xs.advanceAndSetPadding_p2 h hm hpd hn (.inl rfl)

theorem position_p2 {F b sA sB} (h : SR F b sA sB) :
    P2 (fun x y sA' sB' => x = sA.r.position ∧ y = (x.1 + F.dl, moveSeg F.d x.2) ∧ sA' = sA ∧ sB' = sB)
      (position sA) (position sB) := by rw [← sr_toX] at h; exact Xs.position_p2 h

/-- the last `Advance(n)` of a leaf parser's `Open`, any `n` (fcode_block.go / code_block.go advance by
    `segment.Len() - 1`): afterwards only `SRL` -/
theorem advance_limbo {F b sA sB} (h : SR F b sA sB) (n : Int) :
    P2 (fun _ _ sA' sB' => SRLim F b sA' sB') (advance n sA) (advance n sB) := by
  rw [← sr_toX] at h; rw [← srLim_toX]; exact Xs.advance_limbo h n (.inl rfl) (.inl rfl)

/-! ### node store and context primitives, under `SRL` (the core) and under `SR` -/

theorem getNode_l {F b rA rB sA sB} (h : SRL F b rA rB sA sB) (id : Nat) :
    P2 (fun x y sA' sB' => x = sA.nodes.getD id default ∧ y = shN F (id == 0) x ∧ sA' = sA ∧ sB' = sB)
      (getNode id sA) (getNode (F.ι id) sB) := by rw [← srl_toX] at h; exact Xs.getNode_l h id

/-- `fB` does to B's node what `fA` does to A's, and the kind is kept -/
theorem modNode_l {F b rA rB sA sB} (h : SRL F b rA rB sA sB) (id : Nat) (fA fB : Node → Node)
    (hf : ∀ a, fB (shN F (id == 0) a) = shN F (id == 0) (fA a)) (hk : ∀ a, (fA a).kind = a.kind) :
    P2 (fun _ _ sA' sB' => SRL F b rA rB sA' sB') (modNode id fA sA) (modNode (F.ι id) fB sB) := by
  rw [← srl_toX] at h ⊢; exact Xs.modNode_l h id fA fB hf hk

theorem newNode_l {F b rA rB sA sB} (h : SRL F b rA rB sA sB) (nA nB : Node) (hn : nB = shN F false nA) :
    P2 (fun x y sA' sB' => x = sA.nodes.length ∧ y = F.ι x ∧ x ≠ 0 ∧ SRL F b rA rB sA' sB')
      (newNode nA sA) (newNode nB sB) := by rw [← srl_toX] at h ⊢; exact Xs.newNode_l h nA nB hn

theorem getPc_l {F b rA rB sA sB} (h : SRL F b rA rB sA sB) :
    P2 (fun x y sA' sB' => x = sA.pc ∧ y = sB.pc ∧ CtxRel F x y ∧ sA' = sA ∧ sB' = sB) (getPc sA) (getPc sB) := by
  rw [← srl_toX] at h; rw [← ctxRel_toX]; exact Xs.getPc_l h

theorem modPc_l {F b rA rB sA sB} (h : SRL F b rA rB sA sB) (fA fB : Ctx → Ctx)
    (hf : ∀ x y, CtxRel F x y → CtxRel F (fA x) (fB y)) :
    P2 (fun _ _ sA' sB' => SRL F b rA rB sA' sB') (modPc fA sA) (modPc fB sB) := by
  rw [← srl_toX] at h ⊢; rw [← ctxRel_toX] at hf; exact Xs.modPc_l h fA fB hf

theorem getNode_p2 {F b sA sB} (h : SR F b sA sB) (id : Nat) :
    P2 (fun x y sA' sB' => x = sA.nodes.getD id default ∧ y = shN F (id == 0) x ∧ sA' = sA ∧ sB' = sB)
      (getNode id sA) (getNode (F.ι id) sB) := by rw [← sr_toX] at h; exact Xs.getNode_p2 h id

theorem newNode_p2 {F b sA sB} (h : SR F b sA sB) (nA nB : Node) (hn : nB = shN F false nA) :
    P2 (fun x y sA' sB' => x = sA.nodes.length ∧ y = F.ι x ∧ x ≠ 0 ∧ SR F b sA' sB')
      (newNode nA sA) (newNode nB sB) := by rw [← sr_toX] at h ⊢; exact Xs.newNode_p2 h nA nB hn

theorem getPc_p2 {F b sA sB} (h : SR F b sA sB) :
    P2 (fun x y sA' sB' => x = sA.pc ∧ y = sB.pc ∧ CtxRel F x y ∧ sA' = sA ∧ sB' = sB) (getPc sA) (getPc sB) := by
  rw [← sr_toX] at h; rw [← ctxRel_toX]; exact Xs.getPc_p2 h

theorem modPc_p2 {F b sA sB} (h : SR F b sA sB) (fA fB : Ctx → Ctx)
    (hf : ∀ x y, CtxRel F x y → CtxRel F (fA x) (fB y)) :
    P2 (fun _ _ sA' sB' => SR F b sA' sB') (modPc fA sA) (modPc fB sB) := by
  rw [← sr_toX] at h ⊢; rw [← ctxRel_toX] at hf; exact Xs.modPc_p2 h fA fB hf

theorem lastOpenedBlock_p2 {F b sA sB} (h : SR F b sA sB) :
    P2 (fun x y sA' sB' => x = sA.pc.opened.getLast? ∧ y = x.map (shB F) ∧ sA' = sA ∧ sB' = sB)
      (lastOpenedBlock sA) (lastOpenedBlock sB) := by rw [← sr_toX] at h; exact Xs.lastOpenedBlock_p2 h

theorem appendLine_p2 {F b sA sB} (h : SR F b sA sB) (id : Nat) {s t : Segment} (hst : t = moveSeg F.d s) :
    P2 (fun _ _ sA' sB' => SR F b sA' sB') (appendLine id s sA) (appendLine (F.ι id) t sB) := by
  rw [← sr_toX] at h ⊢; exact Xs.appendLine_p2 h id hst

theorem moveSeg_start (d : Int) (t : Segment) : (moveSeg d t).start = t.start + d := Xs.moveSeg_start d t

theorem moveSeg_stop (d : Int) (t : Segment) : (moveSeg d t).stop = t.stop + d := Xs.moveSeg_stop d t

theorem moveSeg_forceNewline (d : Int) (t : Segment) : (moveSeg d t).forceNewline = t.forceNewline :=
  Xs.moveSeg_forceNewline d t

/-- `Segment.Value` of a moved segment on the prefixed source -/
theorem value_ok_shift (F : Frame) (src : Bytes) {t : Segment} {v : Bytes} (h : t.value src = .ok v) :
    (moveSeg F.d t).value (F.p ++ src) = .ok v := by
  have := Xs.value_ok_shift F.toX src h
  rwa [show F.toX.p ++ src ++ F.toX.q = F.p ++ src from List.append_nil _] at this

/-! ### the tree operations (`RemoveChild`, `AppendChild`, `InsertBefore`, `InsertAfter`, `ReplaceChild`, `NextSibling`)
under `SRL`: called with ids mapped by `ι` they end in related stores -/

/-- the children of B's node -/
def kidsB (F : Frame) (root : Bool) (ch : List Nat) : List Nat := (if root then F.kids0 else []) ++ ch.map F.ι

theorem shN_children (F : Frame) (root : Bool) (n : Node) : (shN F root n).children = kidsB F root n.children := rfl

theorem shN_parent (F : Frame) (root : Bool) (n : Node) : (shN F root n).parent = n.parent.map F.ι := rfl

theorem shN_kind (F : Frame) (root : Bool) (n : Node) : (shN F root n).kind = n.kind := rfl

theorem shN_lines (F : Frame) (root : Bool) (n : Node) : (shN F root n).lines = n.lines.map (moveSeg F.d) := rfl

theorem shN_linesNil (F : Frame) (root : Bool) (n : Node) : (shN F root n).linesNil = n.linesNil := rfl

theorem shN_blankPrev (F : Frame) (root : Bool) (n : Node) : (shN F root n).blankPrev = n.blankPrev := rfl

theorem map_ι_beq (F : Frame) (o : Option Nat) (p : Nat) : (o.map F.ι == some (F.ι p)) = (o == some p) :=
  Xs.map_ι_beq F.toX o p

theorem replaceChild_l {F b rA rB sA sB} (hF : F.OK) (h : SRL F b rA rB sA sB) (p v1 ins : Nat) :
    P2 (fun _ _ sA' sB' => SRL F b rA rB sA' sB') (replaceChild p v1 ins sA)
      (replaceChild (F.ι p) (F.ι v1) (F.ι ins) sB) := by
  rw [← srl_toX] at h ⊢; exact Xs.replaceChild_l (toX_ok hF) h p v1 ins

end GM.Blocks.Sh

namespace GM.Blocks.Sh
open GM GM.Text GM.Blocks

/-- a statistics entry of run A as run B records it: line number shifted -/
def shS (F : Frame) (e : LineStat) : LineStat := { e with lineNum := e.lineNum + F.dl }

/-- B's statistics are stale entries (all from lines before `F.dl`) followed by A's, shifted -/
def StatsRel (F : Frame) (sa sb : List LineStat) : Prop :=
  ∃ stale, sb = stale ++ sa.map (shS F) ∧ ∀ e ∈ stale, e.lineNum < F.dl

theorem StatsRel.map (F : Frame) (sa : List LineStat) : StatsRel F sa (sa.map (shS F)) := Xs.StatsRel.map F.toX sa

theorem StatsRel.append {F : Frame} {sa sb : List LineStat} (h : StatsRel F sa sb) (e : LineStat) :
    StatsRel F (sa ++ [e]) (sb ++ [shS F e]) := Xs.StatsRel.append (F := F.toX) h e

theorem blankStats_shift (F : Frame) (ln lines : Int) (k : Nat) :
    blankStats (ln + F.dl) lines k = (blankStats ln lines k).map (shS F) := Xs.blankStats_shift F.toX ln lines k

theorem isBlankLine_shift {F : Frame} {sa sb : List LineStat} (h : StatsRel F sa sb) (ln level : Int)
    (h0 : 0 ≤ ln) (hl : level < sa.length) :
    isBlankLine (ln + F.dl) level sb = isBlankLine ln level sa := Xs.isBlankLine_shift (F := F.toX) h ln level h0 hl

theorem isBlankLine_nil (ln level : Int) (h : 0 ≤ level) : isBlankLine ln level [] = true :=
  Xs.isBlankLine_nil ln level h

end GM.Blocks.Sh

namespace GM.Blocks.Sh
open GM GM.Text GM.Spec GM.Proof.Reader GM.Blocks

/-- the reader of run A stands on a line -/
def HasLine (b : Bytes) (s : St) : Prop := ∃ c, RI b s.r c ∧ c.p < b.length

/-- the source of run A is empty or ends with a line feed -/
def NL (b : Bytes) : Prop := b = [] ∨ b.getLast? = some 10

/-- `Open` from related states on a line: same answer (node id mapped), afterwards at least the limbo relation, and
    the full relation when the answer is nil (the next parser is tried) or HasChildren (`goto retry`); a list /
    list item that was opened leaves the flag `emptyListItemWithBlankLines` equal on both sides. -/
def OpenSim (F : Frame) (b : Bytes) (bp : BP) : Prop := ∀ parent sA sB, SR F b sA sB → HasLine b sA →
  P2 (fun x y sA' sB' => y = (x.1.map F.ι, x.2) ∧ SRLim F b sA' sB' ∧
      ((x.2.hasChildren = true ∨ x.1 = none) → SR F b sA' sB') ∧
      ((bp = .list ∨ bp = .listItem) → x.1.isSome = true → sB'.pc.emptyItemBlank = sA'.pc.emptyItemBlank))
    (bpOpen bp parent sA) (bpOpen bp (F.ι parent) sB)

/-- `Continue` from related states on a line: same answer, related states -/
def ContinueSim (F : Frame) (b : Bytes) (bp : BP) : Prop := ∀ node sA sB, SR F b sA sB → HasLine b sA → NL b →
  P2 (fun x y sA' sB' => y = x ∧ SR F b sA' sB') (bpContinue bp node sA) (bpContinue bp (F.ι node) sB)

/-- `Continue` at the end of the source (no line): the answer is the same; afterwards the limbo relation -/
def ContinueEofSim (F : Frame) (b : Bytes) (bp : BP) : Prop := ∀ node sA sB, SR F b sA sB →
  (∃ c, RI b sA.r c ∧ ¬ c.p < b.length) →
  P2 (fun x y sA' sB' => y = x ∧ SRLim F b sA' sB') (bpContinue bp node sA) (bpContinue bp (F.ι node) sB)

/-- `Close` does not look at the reader (except for its source) -/
def CloseSim (F : Frame) (b : Bytes) (bp : BP) : Prop := ∀ node rA rB sA sB, SRL F b rA rB sA sB →
  P2 (fun _ _ sA' sB' => SRL F b rA rB sA' sB') (bpClose bp node sA) (bpClose bp (F.ι node) sB)

theorem openSim_toX (F : Frame) : Xs.OpenSim F.toX = OpenSim F := by
  funext b bp; unfold Xs.OpenSim OpenSim; rw [sr_toX, srLim_toX]; rfl

theorem continueSim_toX (F : Frame) : Xs.ContinueSim F.toX = ContinueSim F := by
  funext b bp; unfold Xs.ContinueSim ContinueSim; rw [sr_toX]; rfl

theorem closeSim_toX (F : Frame) : Xs.CloseSim F.toX = CloseSim F := by
  funext b bp; unfold Xs.CloseSim CloseSim; rw [srl_toX]; rfl

/-! ### `Continue` whatever the end of the source -/

theorem cw_paragraphContinue (F : Frame) (b : Bytes) : ∀ node sA sB, SR F b sA sB →
    P2 (fun x y sA' sB' => y = x ∧ SR F b sA' sB') (bpContinue .paragraph node sA) (bpContinue .paragraph (F.ι node) sB) := by
  intro node sA sB h; rw [← sr_toX] at h ⊢; exact Xs.cw_paragraphContinue F.toX b node sA sB h (.inl rfl)

theorem cw_codeContinue (F : Frame) (hF : F.OK) (b : Bytes) : ∀ node sA sB, SR F b sA sB →
    P2 (fun x y sA' sB' => y = x ∧ SR F b sA' sB') (bpContinue .code node sA) (bpContinue .code (F.ι node) sB) := by
  intro node sA sB h; rw [← sr_toX] at h ⊢; exact Xs.cw_codeContinue F.toX (toX_ok hF) b node sA sB h (.inl rfl)

theorem cw_blockquoteContinue (F : Frame) (b : Bytes) : ∀ node sA sB, SR F b sA sB →
    P2 (fun x y sA' sB' => y = x ∧ SR F b sA' sB') (bpContinue .blockquote node sA) (bpContinue .blockquote (F.ι node) sB) := by
  intro node sA sB h; rw [← sr_toX] at h ⊢; exact Xs.cw_blockquoteContinue F.toX b node sA sB h (.inl rfl)

theorem cw_htmlContinue (F : Frame) (b : Bytes) : ∀ node sA sB, SR F b sA sB →
    P2 (fun x y sA' sB' => y = x ∧ SR F b sA' sB') (bpContinue .html node sA) (bpContinue .html (F.ι node) sB) := by
  intro node sA sB h; rw [← sr_toX] at h ⊢; exact Xs.cw_htmlContinue F.toX b node sA sB h (.inl rfl)

end GM.Blocks.Sh
