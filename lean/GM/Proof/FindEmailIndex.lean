/-
  GM.Proof.FindEmailIndex — what util.FindEmailIndex (GM.Inl.findEmailIndex) answers: −1, or the end of a domain match behind
  the `@` that ends the run of local-part bytes; the index lies inside the line.
-/
import GM.Model.InlinesParsers

namespace GM.Proof.FindEmailIndex
open GM GM.Inl

def alnumAt (run : Bytes) (k : Nat) : Bool := match run[k]? with | some c => isAlnum c | none => false

theorem domBestK_zero (run : Bytes) : domBestK run 0 = if alnumAt run 0 then 2 else 1 := rfl
theorem domBestK_succ (run : Bytes) (k : Nat) : domBestK run (k + 1) = if alnumAt run (k + 1) then k + 3 else domBestK run k := rfl

theorem domBestK_bounds (run : Bytes) : ∀ k, k < run.length → 1 ≤ domBestK run k ∧ domBestK run k ≤ 1 + run.length
  | 0, h => by rw [domBestK_zero]; split <;> constructor <;> omega
  | k + 1, h => by
    rw [domBestK_succ]
    split
    · constructor <;> omega
    · have := domBestK_bounds run k (by omega); constructor <;> omega

theorem domLabel_le {b : Bytes} {n : Nat} (h : domLabel b = some n) : 1 ≤ n ∧ n ≤ b.length := by
  cases b with
  | nil => simp [domLabel] at h
  | cons c rest =>
    simp only [domLabel] at h
    by_cases hc : isAlnum c = true
    · simp only [hc, if_true] at h
      have hr := (List.takeWhile_sublist (l := rest) fun c => isAlnum c || c == 45).length_le
      by_cases he : (rest.takeWhile (fun c => isAlnum c || c == 45)).isEmpty = true
      · simp only [he, if_true] at h
        simp at h; subst h; simp
      · simp only [he, Bool.false_eq_true, if_false] at h
        simp at h; subst h
        have hpos : 0 < (rest.takeWhile (fun c => isAlnum c || c == 45)).length := by
          cases hrun : rest.takeWhile (fun c => isAlnum c || c == 45) with
          | nil => simp [hrun] at he
          | cons x xs => simp
        have := domBestK_bounds (rest.takeWhile (fun c => isAlnum c || c == 45))
          (min 61 ((rest.takeWhile (fun c => isAlnum c || c == 45)).length - 1)) (by omega)
        simp only [List.length_cons]
        constructor <;> omega
    · simp [hc] at h

theorem domRest_le : ∀ (fuel : Nat) (l : Bytes), domRest fuel l ≤ l.length
  | 0, _ => by simp [domRest]
  | fuel + 1, [] => by simp [domRest]
  | fuel + 1, c :: rest => by
    by_cases hc : c = 46
    · subst hc
      simp only [domRest]
      cases hd : domLabel rest with
      | none => simp
      | some n =>
        obtain ⟨_, n2⟩ := domLabel_le hd
        have := domRest_le fuel (rest.drop n)
        simp only [List.length_drop, List.length_cons] at this ⊢
        omega
    · have : domRest (fuel + 1) (c :: rest) = 0 := by
        unfold domRest
        split
        · rfl
        · rename_i heq1 heq; simp at heq; exact absurd heq.1 hc
        · rfl
      rw [this]; omega

theorem matchEmailDomain_bounds {l : Bytes} {n : Nat} (h : matchEmailDomain l = some n) : 1 ≤ n ∧ n ≤ l.length := by
  unfold matchEmailDomain at h
  cases hd : domLabel l with
  | none => rw [hd] at h; cases h
  | some k =>
    rw [hd] at h
    cases h
    obtain ⟨k1, k2⟩ := domLabel_le hd
    have := domRest_le l.length (l.drop k)
    rw [List.length_drop] at this
    omega

theorem findEmailIndex_cases (b : Bytes) : findEmailIndex b = -1 ∨ ∃ i n,
    i = (b.takeWhile fun c => emailTbl c % 2 == 1).length ∧ b[i]? = some 64 ∧ i + 1 < b.length ∧
    matchEmailDomain (b.drop (i + 1)) = some n ∧ findEmailIndex b = ((i + 1 + n : Nat) : Int) := by
  unfold findEmailIndex
  dsimp only
  split
  · exact .inl rfl
  · split
    · exact .inl rfl
    · rename_i hat
      split
      · exact .inl rfl
      · split
        · exact .inl rfl
        · rename_i n hm
          exact .inr ⟨_, n, rfl, by simpa using hat, by omega, hm, rfl⟩

theorem findEmailIndex_le (b : Bytes) : findEmailIndex b ≤ b.length := by
  rcases findEmailIndex_cases b with e | ⟨i, n, _, _, hi, hm, e⟩
  · omega
  · have := (matchEmailDomain_bounds hm).2
    rw [List.length_drop] at this
    omega

/-- what util.FindEmailIndex answers when it answers an index: an `@` in front, at least two bytes behind it, inside the line -/
theorem findEmailIndex_shape {b : Bytes} (h : 0 ≤ findEmailIndex b) :
    ∃ i, b[i]? = some 64 ∧ ((i + 2 : Nat) : Int) ≤ findEmailIndex b := by
  rcases findEmailIndex_cases b with e | ⟨i, n, _, hat, _, hm, e⟩
  · omega
  · exact ⟨i, hat, by have := (matchEmailDomain_bounds hm).1; omega⟩

theorem findEmailIndex_no_at {b : Bytes} (h : (64 : UInt8) ∉ b) : findEmailIndex b = -1 :=
  (findEmailIndex_cases b).resolve_right fun ⟨_, _, _, hat, _⟩ => h (List.mem_of_getElem? hat)

/-- the run of local-part bytes ends in front of a byte that is not '@' -/
theorem findEmailIndex_run {s t : Bytes} {x : UInt8} (hs : ∀ c ∈ s, (emailTbl c % 2 == 1) = true)
    (hx : (emailTbl x % 2 == 1) = false) (h64 : x ≠ 64) : findEmailIndex (s ++ x :: t) = -1 := by
  refine (findEmailIndex_cases _).resolve_right fun ⟨i, _, hi, hat, _⟩ => ?_
  rw [List.takeWhile_append_of_pos hs, List.takeWhile_cons_of_neg (by simpa using hx), List.append_nil] at hi
  subst hi
  simp at hat
  exact h64 hat

end GM.Proof.FindEmailIndex
