/-
  GM.Proof.Utf8 — facts about the UTF-8 validity automaton `u8run`, `encodeRune`, `decodeRune`.
-/
import GM.Model.Utf8
import GM.Model.ByteClass

namespace GM.Proof
open GM

theorem u8run_bad (l : Bytes) : u8run .bad l = .bad := by
  induction l with
  | nil => rfl
  | cons c l ih => simpa [u8run, u8step] using ih

theorem u8run_cons (st : U8St) (c : UInt8) (l : Bytes) : u8run st (c :: l) = u8run (u8step st c) l := rfl

theorem u8run_append (st : U8St) (a b : Bytes) : u8run st (a ++ b) = u8run (u8run st a) b := by
  simp [u8run, List.foldl_append]


/-- number of continuation bytes a state still needs -/
def need : U8St → Nat
  | .s0 => 0 | .c1 => 1 | .c2 => 2 | .e0 => 2 | .ed => 2 | .c3 => 3 | .f0 => 3 | .f4 => 3 | .bad => 0

-- every state but `s0` accepts only a range of continuation bytes
theorem u8step_mid (st : U8St) (hst : st ≠ .s0) :
    ∀ b : UInt8, u8step st b ≠ .bad → isCont b = true ∧ need (u8step st b) + 1 = need st := by
  intro b
  cases st with
  | s0 => exact absurd rfl hst
  | bad => exact fun h => absurd rfl h
  | _ =>
    simp only [u8step]
    split
    · rename_i hc
      simp [isCont, UInt8.le_iff_toNat_le] at hc ⊢
      exact ⟨by omega, rfl⟩
    · exact fun h => absurd rfl h

theorem u8step_ascii (st : U8St) : ∀ b : UInt8, b < 128 → u8step st b = if st = .s0 then .s0 else .bad := by
  intro b h
  have hn : b.toNat < 128 := UInt8.lt_iff_toNat_lt.mp h
  cases st <;> simp [u8step, isCont, UInt8.le_iff_toNat_le, UInt8.lt_iff_toNat_lt] <;> omega

theorem isHex_ascii : ∀ c : UInt8, isHex c = true → c < 128 := by
  apply forall_uint8; decide +kernel

theorem utf8len_pos : ∀ c : UInt8, 1 ≤ utf8len c := by
  apply forall_uint8; decide +kernel

theorem isCont_high {c : UInt8} (h : isCont c = true) : 128 ≤ c := by
  have : 128 ≤ c ∧ c ≤ 191 := by simpa [isCont] using h
  exact this.1

theorem utf8len_high (c : UInt8) (h : utf8len c ≠ 1) : 128 ≤ c :=
  UInt8.not_lt.mp fun hc => h (by simp [utf8len, hc])

theorem u8step_s0 : ∀ c : UInt8, u8step .s0 c ≠ .bad → utf8len c ≠ 99 ∧ need (u8step .s0 c) = utf8len c - 1 := by
  apply forall_uint8; decide +kernel

/-- a byte string accepted from state `st` starts with exactly the continuation bytes `st` still needs,
    followed by a valid string -/
theorem u8run_split (l : Bytes) : ∀ (st : U8St), u8run st l = .s0 →
    ∃ conts rest, l = conts ++ rest ∧ conts.length = need st ∧ conts.all isCont = true ∧ u8run .s0 rest = .s0 := by
  induction l with
  | nil => intro st h; simp only [u8run, List.foldl_nil] at h; subst h; exact ⟨[], [], rfl, rfl, rfl, rfl⟩
  | cons b l ih =>
    intro st h
    by_cases hst : st = .s0
    · subst hst; exact ⟨[], b :: l, rfl, rfl, rfl, h⟩
    · rw [u8run_cons] at h
      have hb : u8step st b ≠ .bad := by
        intro hb; rw [hb, u8run_bad] at h; cases h
      obtain ⟨hc, hn⟩ := u8step_mid st hst b hb
      obtain ⟨conts, rest, hl, hlen, hall, hr⟩ := ih _ h
      exact ⟨b :: conts, rest, by simp [hl], by simp [hlen, hn], by simp [hc, hall], hr⟩

/-- a valid string starts with a complete, well-formed sequence: `utf8len c - 1` continuation bytes -/
theorem valid_cons {c : UInt8} {cs : Bytes} (h : u8run .s0 (c :: cs) = .s0) :
    utf8len c ≠ 99 ∧ ∃ conts rest, cs = conts ++ rest ∧ conts.length = utf8len c - 1 ∧
      conts.all isCont = true ∧ u8run .s0 rest = .s0 := by
  rw [u8run_cons] at h
  have hb : u8step .s0 c ≠ .bad := by
    intro hb; rw [hb, u8run_bad] at h; cases h
  obtain ⟨h99, hn⟩ := u8step_s0 c hb
  obtain ⟨conts, rest, hl, hlen, hall, hr⟩ := u8run_split cs _ h
  exact ⟨h99, conts, rest, hl, by omega, hall, hr⟩

/-- the automaton's move from `s0` on the byte `n`, by the range `n` lies in (one evaluation over the 256 bytes) -/
theorem stepN : ∀ n : Fin 256,
    (n.val < 0x80 → u8step .s0 (UInt8.ofNat n.val) = .s0) ∧
    (0xC2 ≤ n.val → n.val < 0xE0 → u8step .s0 (UInt8.ofNat n.val) = .c1) ∧
    (0xE0 ≤ n.val → n.val < 0xF0 →
      u8step .s0 (UInt8.ofNat n.val) = if n.val = 0xE0 then .e0 else if n.val = 0xED then .ed else .c2) ∧
    (0xF0 ≤ n.val → n.val < 0xF5 →
      u8step .s0 (UInt8.ofNat n.val) = if n.val = 0xF0 then .f0 else if n.val = 0xF4 then .f4 else .c3) := by
  decide +kernel

theorem stepN_ascii (n : Nat) (h : n < 0x80) : u8step .s0 (UInt8.ofNat n) = .s0 :=
  (stepN ⟨n, by omega⟩).1 h
theorem stepN_c1 (n : Nat) (h1 : 0xC2 ≤ n) (h2 : n < 0xE0) : u8step .s0 (UInt8.ofNat n) = .c1 :=
  (stepN ⟨n, by omega⟩).2.1 h1 h2
theorem stepN_3 (n : Nat) (h1 : 0xE0 ≤ n) (h2 : n < 0xF0) :
    u8step .s0 (UInt8.ofNat n) = if n = 0xE0 then .e0 else if n = 0xED then .ed else .c2 :=
  (stepN ⟨n, by omega⟩).2.2.1 h1 h2
theorem stepN_4 (n : Nat) (h1 : 0xF0 ≤ n) (h2 : n < 0xF5) :
    u8step .s0 (UInt8.ofNat n) = if n = 0xF0 then .f0 else if n = 0xF4 then .f4 else .c3 :=
  (stepN ⟨n, by omega⟩).2.2.2 h1 h2
theorem stepN_cont (n : Nat) (h1 : 0x80 ≤ n) (h2 : n < 0xC0) :
    u8step .c1 (UInt8.ofNat n) = .s0 ∧ u8step .c2 (UInt8.ofNat n) = .c1 ∧ u8step .c3 (UInt8.ofNat n) = .c2 ∧
    (0xA0 ≤ n → u8step .e0 (UInt8.ofNat n) = .c1) ∧ (n < 0xA0 → u8step .ed (UInt8.ofNat n) = .c1) ∧
    (0x90 ≤ n → u8step .f0 (UInt8.ofNat n) = .c2) ∧ (n < 0x90 → u8step .f4 (UInt8.ofNat n) = .c2) := by
  have : ∀ n : Fin 256, 0x80 ≤ n.val → n.val < 0xC0 →
      u8step .c1 (UInt8.ofNat n.val) = .s0 ∧ u8step .c2 (UInt8.ofNat n.val) = .c1 ∧
      u8step .c3 (UInt8.ofNat n.val) = .c2 ∧
      (0xA0 ≤ n.val → u8step .e0 (UInt8.ofNat n.val) = .c1) ∧ (n.val < 0xA0 → u8step .ed (UInt8.ofNat n.val) = .c1) ∧
      (0x90 ≤ n.val → u8step .f0 (UInt8.ofNat n.val) = .c2) ∧ (n.val < 0x90 → u8step .f4 (UInt8.ofNat n.val) = .c2) := by
    decide +kernel
  exact this ⟨n, by omega⟩ h1 h2

/-- the four shapes of `encodeRune` for a valid rune, byte values as numbers -/
theorem encodeRune_shape (r : Nat) (hv : validRune r = true) :
    (r < 0x80 ∧ encodeRune r = [UInt8.ofNat r]) ∨
    (∃ a b, 0xC2 ≤ a ∧ a < 0xE0 ∧ b < 64 ∧ r = (a - 0xC0) * 64 + b ∧
      encodeRune r = [UInt8.ofNat a, UInt8.ofNat (0x80 + b)]) ∨
    (∃ a b c, 0xE0 ≤ a ∧ a < 0xF0 ∧ b < 64 ∧ c < 64 ∧ (a = 0xE0 → 32 ≤ b) ∧ (a = 0xED → b < 32) ∧
      r = (a - 0xE0) * 4096 + b * 64 + c ∧
      encodeRune r = [UInt8.ofNat a, UInt8.ofNat (0x80 + b), UInt8.ofNat (0x80 + c)]) ∨
    (∃ a b c d, 0xF0 ≤ a ∧ a < 0xF5 ∧ b < 64 ∧ c < 64 ∧ d < 64 ∧ (a = 0xF0 → 16 ≤ b) ∧ (a = 0xF4 → b < 16) ∧
      r = (a - 0xF0) * 262144 + b * 4096 + c * 64 + d ∧
      encodeRune r = [UInt8.ofNat a, UInt8.ofNat (0x80 + b), UInt8.ofNat (0x80 + c), UInt8.ofNat (0x80 + d)]) := by
  have hv' : r < 0xD800 ∨ (0xDFFF < r ∧ r ≤ 0x10FFFF) := by simpa [validRune] using hv
  unfold encodeRune
  rw [if_neg (by simp [hv])]
  split
  · exact .inl ⟨‹_›, rfl⟩
  split
  · exact .inr (.inl ⟨0xC0 + r / 64, r % 64, by omega, by omega, by omega, by omega, rfl⟩)
  split
  · exact .inr (.inr (.inl ⟨0xE0 + r / 4096, r / 64 % 64, r % 64, by omega, by omega, by omega, by omega, by omega,
      by omega, by omega, rfl⟩))
  · exact .inr (.inr (.inr ⟨0xF0 + r / 262144, r / 4096 % 64, r / 64 % 64, r % 64, by omega, by omega, by omega,
      by omega, by omega, by omega, by omega, by omega, rfl⟩))

theorem encodeRune_valid (r : Nat) : u8run .s0 (encodeRune r) = .s0 := by
  by_cases hv : validRune r = true
  · rcases encodeRune_shape r hv with ⟨h, e⟩ | ⟨a, b, h1, h2, hb, _, e⟩ |
      ⟨a, b, c, h1, h2, hb, hc, hE0, hED, _, e⟩ | ⟨a, b, c, d, h1, h2, hb, hc, hd, hF0, hF4, _, e⟩ <;>
      rw [e] <;> simp only [u8run, List.foldl_cons, List.foldl_nil]
    · exact stepN_ascii _ h
    · rw [stepN_c1 _ h1 h2]; exact (stepN_cont _ (by omega) (by omega)).1
    · have k1 : a = 0xE0 → 0xA0 ≤ 0x80 + b := by omega
      have k2 : a = 0xED → 0x80 + b < 0xA0 := by omega
      have c1 := stepN_cont (0x80 + b) (by omega) (by omega)
      have c2 := (stepN_cont (0x80 + c) (by omega) (by omega)).1
      rw [stepN_3 _ h1 h2]
      split
      · rename_i hq; rw [c1.2.2.2.1 (k1 hq)]; exact c2
      · split
        · rename_i hq; rw [c1.2.2.2.2.1 (k2 hq)]; exact c2
        · rw [c1.2.1]; exact c2
    · have k1 : a = 0xF0 → 0x90 ≤ 0x80 + b := by omega
      have k2 : a = 0xF4 → 0x80 + b < 0x90 := by omega
      have c1 := stepN_cont (0x80 + b) (by omega) (by omega)
      have c2 := (stepN_cont (0x80 + c) (by omega) (by omega)).2.1
      have c3 := (stepN_cont (0x80 + d) (by omega) (by omega)).1
      rw [stepN_4 _ h1 h2]
      split
      · rename_i hq; rw [c1.2.2.2.2.2.1 (k1 hq), c2]; exact c3
      · split
        · rename_i hq; rw [c1.2.2.2.2.2.2 (k2 hq), c2]; exact c3
        · rw [c1.2.2.1, c2]; exact c3
  · unfold encodeRune; rw [if_pos (by simpa using hv)]; decide

theorem isCont_iff (b : UInt8) : isCont b = true ↔ 128 ≤ b.toNat ∧ b.toNat ≤ 191 := by
  simp [isCont, UInt8.le_iff_toNat_le]

theorem range3_nc (c b : UInt8) (h : isCont b = false) :
    ¬((if c = 224 then (160 : UInt8) else 128) ≤ b ∧ b ≤ (if c = 237 then (159 : UInt8) else 191)) := by
  intro ⟨h1, h2⟩
  have : isCont b = true := by
    rw [isCont_iff]
    rw [UInt8.le_iff_toNat_le] at h1 h2
    constructor
    · split at h1 <;> simp at h1 <;> omega
    · split at h2 <;> simp at h2 <;> omega
  rw [h] at this; cases this

theorem range4_nc (c b : UInt8) (h : isCont b = false) :
    ¬((if c = 240 then (144 : UInt8) else 128) ≤ b ∧ b ≤ (if c = 244 then (143 : UInt8) else 191)) := by
  intro ⟨h1, h2⟩
  have : isCont b = true := by
    rw [isCont_iff]
    rw [UInt8.le_iff_toNat_le] at h1 h2
    constructor
    · split at h1 <;> simp at h1 <;> omega
    · split at h2 <;> simp at h2 <;> omega
  rw [h] at this; cases this

theorem decodeRune_takeWhile (c : UInt8) (l : Bytes) :
    decodeRune (c :: l) = decodeRune (c :: l.takeWhile isCont) := by
  rcases l with _ | ⟨b1, _ | ⟨b2, _ | ⟨b3, l⟩⟩⟩
  · rfl
  · cases h1 : isCont b1 <;> simp [decodeRune, List.takeWhile, h1]
  · cases h1 : isCont b1
    · cases h2 : isCont b2 <;> simp [decodeRune, List.takeWhile, h1, h2, range3_nc _ _ h1]
    · cases h2 : isCont b2 <;> simp [decodeRune, List.takeWhile, h1, h2]
  · cases h1 : isCont b1
    · simp [decodeRune, List.takeWhile, h1, range3_nc _ _ h1, range4_nc _ _ h1]
    · cases h2 : isCont b2
      · simp [decodeRune, List.takeWhile, h1, h2]
      · cases h3 : isCont b3 <;> simp [decodeRune, List.takeWhile, h1, h2, h3]

theorem decodeRune_congr (c : UInt8) {l1 l2 : Bytes} (h : l1.takeWhile isCont = l2.takeWhile isCont) :
    decodeRune (c :: l1) = decodeRune (c :: l2) := by
  rw [decodeRune_takeWhile c l1, decodeRune_takeWhile c l2, h]

/-- `decodeRune` either rejects the lead byte (width 1) or accepts it together with `n ≤ 3` bytes that follow,
    and then looks at nothing beyond those -/
theorem decodeRune_cons_cases (b : UInt8) (r : Bytes) :
    decodeRune (b :: r) = (runeError, 1) ∨
    ∃ n k, n ≤ 3 ∧ n ≤ r.length ∧ ∀ t, decodeRune (b :: (r.take n ++ t)) = (k, n + 1) := by
  by_cases h1 : b < 0x80
  · exact .inr ⟨0, _, by omega, by omega, fun t => by simp only [decodeRune, if_pos h1]; rfl⟩
  by_cases h2 : b < 0xC2
  · exact .inl (by simp only [decodeRune, if_neg h1, if_pos h2])
  by_cases h3 : b < 0xE0
  · match r with
    | [] => exact .inl (by simp only [decodeRune, if_neg h1, if_neg h2, if_pos h3])
    | b1 :: r =>
      cases hc : isCont b1
      · exact .inl (by simp only [decodeRune, if_neg h1, if_neg h2, if_pos h3, hc]; rfl)
      · exact .inr ⟨1, _, by omega, by simp, fun t => by
          simp only [decodeRune, if_neg h1, if_neg h2, if_pos h3, List.take, List.cons_append, hc]; rfl⟩
  by_cases h4 : b < 0xF0
  · match r with
    | [] | [_] => exact .inl (by simp only [decodeRune, if_neg h1, if_neg h2, if_neg h3, if_pos h4])
    | b1 :: b2 :: r =>
      -- what the test on `b1`, `b2` is does not matter, only that the tail takes no part in it
      obtain ⟨c, k, e⟩ : ∃ (c : Bool) (k : Nat), ∀ t,
          decodeRune (b :: b1 :: b2 :: t) = if c then (k, 3) else (runeError, 1) :=
        ⟨_, _, fun t => by simp only [decodeRune, if_neg h1, if_neg h2, if_neg h3, if_pos h4]; rfl⟩
      cases c
      · exact .inl (e r)
      · exact .inr ⟨2, k, by omega, by simp, e⟩
  by_cases h5 : b < 0xF5
  · match r with
    | [] | [_] | [_, _] =>
      exact .inl (by simp only [decodeRune, if_neg h1, if_neg h2, if_neg h3, if_neg h4, if_pos h5])
    | b1 :: b2 :: b3 :: r =>
      obtain ⟨c, k, e⟩ : ∃ (c : Bool) (k : Nat), ∀ t,
          decodeRune (b :: b1 :: b2 :: b3 :: t) = if c then (k, 4) else (runeError, 1) :=
        ⟨_, _, fun t => by simp only [decodeRune, if_neg h1, if_neg h2, if_neg h3, if_neg h4, if_pos h5]; rfl⟩
      cases c
      · exact .inl (e r)
      · exact .inr ⟨3, k, by omega, by simp, e⟩
  · exact .inl (by simp only [decodeRune, if_neg h1, if_neg h2, if_neg h3, if_neg h4, if_neg h5])

theorem decodeRune_width_bounds (b : UInt8) (r : Bytes) :
    1 ≤ (decodeRune (b :: r)).2 ∧ (decodeRune (b :: r)).2 ≤ min 4 (r.length + 1) := by
  rcases decodeRune_cons_cases b r with e | ⟨n, k, _, _, e⟩
  · rw [e]; exact ⟨Nat.le_refl 1, by omega⟩
  · have e := e (r.drop n)
    rw [List.take_append_drop] at e
    rw [e]; exact ⟨by omega, by omega⟩

/-- the width reported by decodeRune, minus the leading byte, is covered by continuation bytes -/
theorem decodeRune_width (c : UInt8) (cs : Bytes) :
    (decodeRune (c :: cs)).2 - 1 ≤ (cs.takeWhile isCont).length := by
  rw [decodeRune_takeWhile]
  have := (decodeRune_width_bounds c (cs.takeWhile isCont)).2
  omega

/-- a complete sequence decodes the same whatever follows it -/
theorem decodeRune_append {b0 : UInt8} {x : Bytes} {r : Nat} (h : decodeRune (b0 :: x) = (r, x.length + 1))
    (hr : r ≠ runeError) (tail : Bytes) : decodeRune (b0 :: (x ++ tail)) = (r, x.length + 1) := by
  rcases decodeRune_cons_cases b0 x with e | ⟨n, k, _, _, e⟩
  · rw [e] at h; exact absurd (congrArg Prod.fst h).symm hr
  · have e' := e (x.drop n)
    rw [List.take_append_drop, h] at e'
    obtain ⟨rfl, hn⟩ := Prod.mk.inj e'
    obtain rfl : n = x.length := by omega
    rw [List.take_length] at e
    exact e tail

theorem decodeRune_2 {x y : UInt8} (t : Bytes) (h1 : 0xC2 ≤ x.toNat) (h2 : x.toNat < 0xE0)
    (hy : 0x80 ≤ y.toNat ∧ y.toNat ≤ 0xBF) :
    decodeRune (x :: y :: t) = ((x.toNat - 0xC0) * 64 + (y.toNat - 0x80), 2) := by
  simp [decodeRune, isCont, UInt8.lt_iff_toNat_lt, UInt8.le_iff_toNat_le]
  rw [if_neg (by omega), if_neg (by omega), if_pos h2, if_pos hy]

theorem decodeRune_3 {x y z : UInt8} (t : Bytes) (h1 : 0xE0 ≤ x.toNat) (h2 : x.toNat < 0xF0)
    (hy : 0x80 ≤ y.toNat ∧ y.toNat ≤ 0xBF) (hE0 : x.toNat = 0xE0 → 0xA0 ≤ y.toNat)
    (hED : x.toNat = 0xED → y.toNat ≤ 0x9F) (hz : 0x80 ≤ z.toNat ∧ z.toNat ≤ 0xBF) :
    decodeRune (x :: y :: z :: t) = ((x.toNat - 0xE0) * 4096 + (y.toNat - 0x80) * 64 + (z.toNat - 0x80), 3) := by
  simp [decodeRune, isCont, UInt8.lt_iff_toNat_lt, UInt8.le_iff_toNat_le, ← UInt8.toNat_inj, apply_ite UInt8.toNat]
  rw [if_neg (by omega), if_neg (by omega), if_neg (by omega), if_pos h2, if_pos ⟨⟨by split <;> omega, by split <;> omega⟩, hz⟩]

theorem decodeRune_4 {x y z w : UInt8} (t : Bytes) (h1 : 0xF0 ≤ x.toNat) (h2 : x.toNat < 0xF5)
    (hy : 0x80 ≤ y.toNat ∧ y.toNat ≤ 0xBF) (hF0 : x.toNat = 0xF0 → 0x90 ≤ y.toNat)
    (hF4 : x.toNat = 0xF4 → y.toNat ≤ 0x8F) (hz : 0x80 ≤ z.toNat ∧ z.toNat ≤ 0xBF)
    (hw : 0x80 ≤ w.toNat ∧ w.toNat ≤ 0xBF) :
    decodeRune (x :: y :: z :: w :: t) =
      ((x.toNat - 0xF0) * 262144 + (y.toNat - 0x80) * 4096 + (z.toNat - 0x80) * 64 + (w.toNat - 0x80), 4) := by
  simp [decodeRune, isCont, UInt8.lt_iff_toNat_lt, UInt8.le_iff_toNat_le, ← UInt8.toNat_inj, apply_ite UInt8.toNat]
  rw [if_neg (by omega), if_neg (by omega), if_neg (by omega), if_neg (by omega), if_pos h2,
    if_pos ⟨⟨⟨by split <;> omega, by split <;> omega⟩, hz⟩, hw⟩]

theorem ofNat_byte {n : Nat} (h : n < 256) : ∃ x : UInt8, UInt8.ofNat n = x ∧ x.toNat = n :=
  ⟨_, rfl, by rw [UInt8.toNat_ofNat']; exact Nat.mod_eq_of_lt h⟩

theorem decodeRune_encodeRune (r : Nat) (hv : validRune r = true) (t : Bytes) :
    decodeRune (encodeRune r ++ t) = (r, (encodeRune r).length) := by
  rcases encodeRune_shape r hv with ⟨h, e⟩ | ⟨a, b, h1, h2, hb, hr, e⟩ |
    ⟨a, b, c, h1, h2, hb, hc, hE0, hED, hr, e⟩ | ⟨a, b, c, d, h1, h2, hb, hc, hd, hF0, hF4, hr, e⟩ <;> rw [e]
  · obtain ⟨x, ex, hx⟩ := ofNat_byte (n := r) (by omega)
    rw [ex]
    simp [decodeRune, UInt8.lt_iff_toNat_lt, hx, h]
  · obtain ⟨x, ex, hx⟩ := ofNat_byte (n := a) (by omega)
    obtain ⟨y, ey, hy⟩ := ofNat_byte (n := 0x80 + b) (by omega)
    rw [ex, ey]
    exact (decodeRune_2 t (by omega) (by omega) (by omega)).trans (Prod.ext (by show _ = r; omega) rfl)
  · obtain ⟨x, ex, hx⟩ := ofNat_byte (n := a) (by omega)
    obtain ⟨y, ey, hy⟩ := ofNat_byte (n := 0x80 + b) (by omega)
    obtain ⟨z, ez, hz⟩ := ofNat_byte (n := 0x80 + c) (by omega)
    rw [ex, ey, ez]
    exact (decodeRune_3 t (by omega) (by omega) (by omega) (by omega) (by omega) (by omega)).trans (Prod.ext (by show _ = r; omega) rfl)
  · obtain ⟨x, ex, hx⟩ := ofNat_byte (n := a) (by omega)
    obtain ⟨y, ey, hy⟩ := ofNat_byte (n := 0x80 + b) (by omega)
    obtain ⟨z, ez, hz⟩ := ofNat_byte (n := 0x80 + c) (by omega)
    obtain ⟨w, ew, hw⟩ := ofNat_byte (n := 0x80 + d) (by omega)
    rw [ex, ey, ez, ew]
    exact (decodeRune_4 t (by omega) (by omega) (by omega) (by omega) (by omega) (by omega) (by omega)).trans
      (Prod.ext (by show _ = r; omega) rfl)

/-- the encoding of a valid rune: the rune itself if ASCII, else a lead byte ≥ 0xC2; then continuation bytes -/
theorem encodeRune_lead (r : Nat) (hv : validRune r = true) :
    ∃ b0 conts, encodeRune r = b0 :: conts ∧ conts.all isCont = true ∧
      ((conts = [] ∧ b0.toNat = r ∧ r < 128) ∨ (194 ≤ b0.toNat ∧ 128 ≤ r)) := by
  have cont : ∀ n, n < 64 → isCont (UInt8.ofNat (0x80 + n)) = true := fun n h => by
    obtain ⟨y, ey, hy⟩ := ofNat_byte (n := 0x80 + n) (by omega)
    rw [ey, isCont_iff]; omega
  rcases encodeRune_shape r hv with ⟨h, e⟩ | ⟨a, b, h1, h2, hb, hr, e⟩ |
    ⟨a, b, c, h1, h2, hb, hc, _, _, hr, e⟩ | ⟨a, b, c, d, h1, h2, hb, hc, hd, _, _, hr, e⟩ <;> rw [e]
  · exact ⟨_, [], rfl, rfl, .inl ⟨rfl, by rw [UInt8.toNat_ofNat']; omega, h⟩⟩
  all_goals
    obtain ⟨x, ex, hx⟩ := ofNat_byte (n := a) (by omega)
    rw [ex]
    refine ⟨x, _, rfl, ?_, .inr ⟨by omega, by omega⟩⟩
    simp only [List.all_cons, List.all_nil, Bool.and_self, *]

theorem encodeRune_high (r : Nat) (h : 128 ≤ r) : ∀ b ∈ encodeRune r, (128 : UInt8) ≤ b := by
  by_cases hv : validRune r = true
  · obtain ⟨b0, conts, e, hc, hb⟩ := encodeRune_lead r hv
    rw [e]
    intro b hm
    rcases List.mem_cons.mp hm with rfl | hm
    · rw [UInt8.le_iff_toNat_le]; show 128 ≤ b.toNat; omega
    · exact isCont_high (List.all_eq_true.mp hc b hm)
  · unfold encodeRune; rw [if_pos (by simpa using hv)]; decide

end GM.Proof
