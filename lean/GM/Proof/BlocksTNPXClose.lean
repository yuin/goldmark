/-
  GM.Proof.BlocksTNPXClose — the block driver with paragraph transformers for a WIDER transformer contract (so that GFM's table
  paragraph transformer fits): `StepX` = what ONE transformer call must guarantee (abstract, relational): `TStep` (reader,
  pc, kinds, other nodes' lines, `NodesOK`, KEEP: the paragraph keeps a parent and lines / GONE: it is parentless), the
  tree-link frame `TF`, `PLTf`, `TreeOK`, the frame of "x is the last child of q" for every other node x, and in the KEEP
  case `KeepF` (`Ext`; old nodes other than the paragraph keep their parent; parents of fresh nodes are fresh or the
  paragraph's parent) INSTEAD of `TreeSame` — a KEEP call may attach fresh subtrees (the Table directly behind the
  paragraph). `PTSpecX` / `PTsSpecX`; `PTSpec → PTSpecX`. Then `transformParagraph`, `closeLoopC`, `closeBlocksC` over the invariant
  `CInv` and the relation `CRel` of GM.Proof.BlocksTNPWin (namespace `GM.Blocks.L.G.X`; what does not mention the contract is in `L.G`).
  From here to GM.Proof.BlocksTNPXRun the walk is stated for the driver `closeLoopC cls … runC cls` of GM.Proof.BlocksDriverC with
  any `cls` that meets `CloseLike`; the statements about `openBlocksT`, `lineLoopT`, `runT` are the instance `bpClose`.
-/
import GM.Proof.BlocksTNPWin

namespace GM.Blocks.L.G.X
open GM GM.Text GM.Spec GM.Proof.Reader GM.Blocks.T GM.Blocks.TR

/-- the KEEP case of a transformer call: `Ext`, and what it may do to parent pointers -/
structure KeepF (node : Nat) (s s' : St) : Prop where
  ext : Ext s s'
  parOld : ∀ i, i < s.nodes.length → i ≠ node → (nd s' i).parent = (nd s i).parent
  parNew : ∀ i, s.nodes.length ≤ i → ∀ q, (nd s' i).parent = some q → s.nodes.length ≤ q ∨ (nd s node).parent = some q

theorem KeepF.refl (node : Nat) (s : St) : KeepF node s s :=
  ⟨Ext.refl s, fun _ _ _ => rfl, fun i hi q hq => by rw [nd_default_of_ge s hi] at hq; cases hq⟩

theorem KeepF.of_treeSame {node : Nat} {s s' : St} (t : TreeSame s s') (e : Ext s s') : KeepF node s s' :=
  ⟨e, fun i _ _ => (t.same i).2.1, fun i hi q hq => by
    rw [(t.same i).2.1, nd_default_of_ge s hi] at hq; cases hq⟩

/-- what ONE paragraph transformer call guarantees; `g` = the paragraph is parentless afterwards -/
def StepX (src : Bytes) (node : Nat) (s s' : St) (g : Bool) : Prop :=
  TStep src node s s' g ∧ TF s s' ∧ PLTf s' ∧ TreeOK s' ∧ (∀ x q, x ≠ node → LK s x q → LK s' x q) ∧
    (g = false → KeepF node s s')

theorem StepX.trans {src : Bytes} {node : Nat} {s s1 s2 : St} {g : Bool} (hlt : node < s.nodes.length)
    (h1 : StepX src node s s1 false) (h2 : StepX src node s1 s2 g) : StepX src node s s2 g := by
  obtain ⟨hg, htf, _, _, hlk1, hkeep1⟩ := h1
  obtain ⟨hg2, htf2, hplt2, htree2, hlk2, hkeep2⟩ := h2
  have k1 := hkeep1 rfl
  refine ⟨hg.trans hg2, L.T.TF.transW htf hg.extW htf2 hg2.extW, hplt2, htree2,
    fun x q hx hlk => hlk2 x q hx (hlk1 x q hx hlk), fun hg' => ?_⟩
  have k2 := hkeep2 hg'
  refine ⟨k1.ext.trans k2.ext, fun i hi hne => ?_, fun i hi q hq => ?_⟩
  · rw [k2.parOld i (Nat.lt_of_lt_of_le hi hg.len) hne, k1.parOld i hi hne]
  · rcases Nat.lt_or_ge i s1.nodes.length with h | h
    · have hne : i ≠ node := by omega
      rw [k2.parOld i h hne] at hq
      exact k1.parNew i hi q hq
    · rcases k2.parNew i h q hq with h' | h'
      · left; have := hg.len; omega
      · right; rw [← (hg.keep rfl).2]; exact h'

/-- the contract of a paragraph transformer (wide form): from a state of the driver it ends as `StepX` says, or with `e` -/
def PTSpecX (src : Bytes) (e : Panic) (pt : PT) : Prop :=
  ∀ (node : Nat) (s : St), s.r.source = src → node < s.nodes.length → (nd s node).kind = .paragraph →
    (nd s node).parent.isSome = true → (nd s node).lines ≠ [] → NodesOK src s → KidsOK s → PLTf s → TreeOK s →
    (∃ s' g, pt node s = .ok ((), s') ∧ StepX src node s s' g) ∨ pt node s = .error e

def PTsSpecX (src : Bytes) (e : Panic) (pts : List PT) : Prop := ∀ pt ∈ pts, PTSpecX src e pt

/-- the contract `PTPost` (a suffix of the lines is kept, or ONE fresh TextBlock replaces the paragraph) is a special case -/
theorem ptSpecX_of_ptSpec {src : Bytes} {e : Panic} {pt : PT} (h : PTSpec src e pt) : PTSpecX src e pt := by
  intro node s hsrc hlt hk hp _ hn hkids hplt htree
  rcases h node s hsrc hlt hk hp hn with ⟨s1, e1, hpost⟩ | e1
  · obtain ⟨g, a, b, c⟩ := L.T.tstepL_of_post hn hlt hk hkids hplt hpost
    exact .inl ⟨s1, g, e1, a, b, c, treeOK_post hlt htree hpost, fun x q hx hlk => lk_post hx htree hlk hpost,
      fun hg => by
        obtain ⟨t, e'⟩ := keep_facts hlt hpost (hg ▸ a) hp
        exact KeepF.of_treeSame t e'⟩
  · exact .inr e1

theorem ptsSpecX_of_ptsSpec {src : Bytes} {e : Panic} {pts : List PT} (h : PTsSpec src e pts) : PTsSpecX src e pts :=
  fun pt hpt => ptSpecX_of_ptSpec (h pt hpt)

theorem ptsSpecX_append {src : Bytes} {e : Panic} {l1 l2 : List PT} (h1 : PTsSpecX src e l1) (h2 : PTsSpecX src e l2) :
    PTsSpecX src e (l1 ++ l2) := fun pt hpt => by
  rcases List.mem_append.1 hpt with h | h
  · exact h1 pt h
  · exact h2 pt h

theorem transformParagraphG_oke {src : Bytes} {e : Panic} : ∀ (pts : List PT), PTsSpecX src e pts →
    ∀ (node : Nat) (s : St), s.r.source = src → node < s.nodes.length → (nd s node).kind = .paragraph →
      (nd s node).parent.isSome = true → (nd s node).lines ≠ [] → NodesOK src s → KidsOK s → PLTf s → TreeOK s →
      OKE e (fun g s' => TStep src node s s' g ∧ TF s s' ∧ PLTf s' ∧ TreeOK s' ∧
        (∀ x q, x ≠ node → LK s x q → LK s' x q) ∧ (g = false → KeepF node s s'))
        (transformParagraph pts node s) := by
  intro pts
  induction pts with
  | nil =>
    intro _ node s _ _ _ _ hl hn _ hplt htree
    unfold transformParagraph
    exact OKE.ok ⟨TStep.refl hn hl, L.TF.refl s, hplt, htree, fun _ _ _ h => h, fun _ => KeepF.refl node s⟩
  | cons pt pts ih =>
    intro hs node s hsrc hlt hk hp hl hn hkids hplt htree
    unfold transformParagraph
    have h1 : OKE e (fun (_ : Unit) s1 => ∃ g, StepX src node s s1 g) (pt node s) := by
      rcases hs pt (List.mem_cons_self ..) node s hsrc hlt hk hp hl hn hkids hplt htree with ⟨s1, g, e1, hst⟩ | e1
      · rw [e1]; exact OKE.ok ⟨g, hst⟩
      · exact .inr e1
    refine OKE.bind h1 (fun _ s1 hg => ?_)
    obtain ⟨g, hst1⟩ := hg
    obtain ⟨hg, htf, hplt1, htree1, hlk1, hkeep1⟩ := hst1
    refine OKE.bind (m := getNode node) (P := fun n sy => n = nd s1 node ∧ sy = s1) (OKE.ok ⟨rfl, rfl⟩) (fun n sy hy => ?_)
    obtain ⟨hn1, hsy⟩ := hy
    subst n sy
    cases g with
    | true =>
      have : (nd s1 node).parent.isNone = true := by rw [hg.goneP rfl]; rfl
      rw [if_pos this]
      exact OKE.ok ⟨hg, htf, hplt1, htree1, hlk1, fun h => by cases h⟩
    | false =>
      obtain ⟨hl1, hp1⟩ := hg.keep rfl
      have : ¬ (nd s1 node).parent.isNone = true := by
        rw [hp1]; cases hh : (nd s node).parent with
        | none => rw [hh] at hp; cases hp
        | some _ => simp
      rw [if_neg this]
      have := ih (fun q hq => hs q (List.mem_cons_of_mem _ hq)) node s1 (by rw [hg.r]; exact hsrc)
        (Nat.lt_of_lt_of_le hlt hg.len) (by rw [hg.kind node hlt]; exact hk) (by rw [hp1]; exact hp) hl1 hg.nodes
        (L.T.KidsOK.tfW hkids hg.extW htf) hplt1 htree1
      exact this.mono (fun g2 s2 h2 =>
        StepX.trans hlt ⟨hg, htf, hplt1, htree1, hlk1, hkeep1⟩ h2)


section close
variable {src : Bytes} (lsp : LSp src) {e : Panic} {pts : List PT} (hpts : PTsSpecX src e pts)
  {cls : BP → Nat → M Unit} (hC : CloseLike src cls)
include lsp hpts hC

theorem closeListG_oke (K : List Block) : ∀ (l : List Block) (s : St), s.r.source = src → CInv src s →
    (∀ b ∈ l, BlockOK s b) → (∀ b ∈ l.tail, b.bp.isContainer = true) →
    ((∃ b ∈ l, b.bp = .setext) → TmpOK s) →
    (∀ k ∈ K, BlockOK s k ∧ ∀ top, l.head? = some top → CompatG s k top) →
    OKE e (fun _ s' => s'.pc.opened = s.pc.opened ∧ CRel src K s s' ∧ ∀ x q, LK s x q → LKHyp s l x q → LK s' x q)
      (closeListC cls pts l s) := by
  intro l s hsrc hi hl hcs htl hK
  refine closeListC_rule (V := fun s1 b => BlockOK s1 b ∧ b ∈ l)
    (Hd := fun s1 top => (∀ k ∈ K, CompatG s1 k top) ∧ (top.bp = .setext → TmpOK s1))
    (Hc := fun s1 top => (∀ k ∈ K, Compat s1 k top) ∧ (top.bp = .setext → TmpOK s1))
    (Q := fun s' => s'.pc.opened = s.pc.opened ∧ CRel src K s s' ∧ ∀ x q, LK s x q → LKHyp s l x q → LK s' x q)
    (fun _ _ hc => ⟨fun k _ => CompatG.of_container hc, fun hs => absurd hs (container_kind hc).2.1⟩)
    (fun _ hd _ => ⟨fun k hk => (hd.1 k hk).1.1, hd.2⟩) ?_ ?_ l s
    ⟨rfl, CRel.refl hi (fun k hk => (hK k hk).1), fun _ _ h _ => h⟩ (fun b hb => ⟨hl b hb, hb⟩) hcs
    (fun top ht => ⟨fun k hk' => (hK k hk').2 top ht, fun hs => htl ⟨top, List.mem_of_head? ht, hs⟩⟩)
  · intro top s1 ⟨hop, h1, hf1⟩ ⟨htop, hmem⟩ hd hkind hpp
    have hbp : top.bp = .paragraph := kind_paragraph (by rw [← htop.kind]; exact hkind)
    refine (transformParagraphG_oke pts hpts top.node s1 (by rw [h1.r]; exact hsrc) htop.lt hkind hpp (htop.para hbp)
      h1.inv.nodes h1.inv.kids h1.inv.plt h1.inv.tree).mono (fun g s2 hg => ?_)
    obtain ⟨hg, htf1, hplt1, htree1, hlk1, _⟩ := hg
    have hk1 : W.KeysOKF s2 := ⟨fun f hf => by
      rw [hg.fence] at hf
      obtain ⟨a, b, c⟩ := h1.inv.keys.fence f hf
      exact ⟨a, b, Nat.lt_of_lt_of_le c hg.len⟩⟩
    have hr1 : CRel src K s1 s2 := ⟨hg.r, ⟨hg.nodes, hk1, L.T.KidsOK.tfW h1.inv.kids hg.extW htf1, hplt1, htree1⟩, hg.extW,
      .inl hg.tmp, htf1, fun k hk' => hg.blockOK hkind (h1.blocks k hk') (fun hkp => (hd.1 k hk').1.2 hbp hkp),
      fun ⟨k, hk', hks⟩ _ => absurd hbp ((hd.1 k hk').2 hks)⟩
    refine ⟨⟨by rw [hg.opened, hop], h1.trans hr1, fun x q hlk hh =>
        hlk1 x q (fun e' => hh.1 top hmem e'.symm) (hf1 x q hlk hh)⟩,
      fun b hb hvb => ⟨hg.blockOK hkind hvb.1 (fun hkp => absurd hkp (container_kind hb).1), hvb.2⟩, fun hp2 => ?_⟩
    cases g with
    | true => rw [hg.goneP rfl] at hp2; cases hp2
    | false =>
      obtain ⟨hl1, _⟩ := hg.keep rfl
      exact ⟨⟨⟨Nat.lt_of_lt_of_le htop.lt hg.len, by rw [hg.kind _ htop.lt]; exact htop.kind, fun _ => hl1,
        (fun h => by rw [hbp] at h; cases h), (fun h => by rw [hbp] at h; cases h)⟩, hmem⟩,
        fun k hk' => ⟨(hd.1 k hk').1.1.1, fun _ hc => by rw [hbp] at hc; cases hc⟩, fun h => by rw [hbp] at h; cases h⟩
  · intro top s1 ⟨hop, h1, hf1⟩ ⟨htop1, hmem⟩ ⟨hcomp1, htm1⟩ _
    have hc := closeG lsp top.bp top.node s1 (by rw [h1.r]; exact hsrc) h1.inv.nodes h1.inv.keys htop1 h1.inv.kids
      h1.inv.plt htm1
    refine (OKE.of_okl (hC.okl (fun _ s' h => ⟨h.1.nodes, by rw [h.1.r, h1.r]; exact hsrc⟩) hc)).mono (fun _ s2 h2 => ?_)
    obtain ⟨h2, htf2, hplt2, heq2⟩ := h2
    have htmS : top.bp = .setext → ∀ t, s1.pc.tmpPara = some t →
        (nd s1 t).kind = .paragraph ∧ (nd s1 t).lines ≠ [] ∧ True := fun hs t ht =>
      ⟨(htm1 hs t ht).2.1, (htm1 hs t ht).2.2, trivial⟩
    have hr2 : CRel src K s1 s2 := by
      refine ⟨h2.r, ⟨h2.nodes, h1.inv.keys.ext h2.ext h2.tmp' h2.fence', h1.inv.kids.tf h2.ext htf2, hplt2,
        inv_bpClose treeOK_tinv src top.bp top.node s1 s2 h1.inv.nodes htop1 h1.inv.kids htmS
          (fun _ _ _ => trivial) h1.inv.tree heq2⟩, ExtW.of_ext h2.ext, h2.tmp', htf2,
        fun k hk' => h2.keeps_block (h1.blocks k hk') (hcomp1 k hk'), ?_⟩
      intro ⟨k, hk', hks'⟩ ht
      rcases h2.tmp with h | h
      · exact ht.ext h2.ext h
      · exact absurd h.1 ((hcomp1 k hk').1 hks')
    refine ⟨⟨by rw [h2.opened, hop], h1.trans hr2, fun x q hlk hh => ?_⟩,
      fun b hb hvb => ⟨hvb.1.ext_container h2.ext hb, hvb.2⟩⟩
    have hlk1 := hf1 x q hlk hh
    have hh1 : LKHyp s1 [top] x q := hh.step h1 hlk (fun b hb => by simp at hb; subst hb; exact hmem)
    refine inv_bpClose (lk_tinv x q) src top.bp top.node s1 s2 h1.inv.nodes htop1 h1.inv.kids ?_ ?_ hlk1 heq2
    · intro hs t ht
      exact ⟨(htm1 hs t ht).2.1, (htm1 hs t ht).2.2, fun e' => hh1.2.1 (by rw [ht, e'])⟩
    · intro hlist c hc e'
      have hkl : (nd s1 top.node).kind = .list := by rw [htop1.kind, hlist]; rfl
      have hkq : (nd s1 q).kind = .listItem := by rw [← e']; exact (h1.inv.kids.kids top.node c hkl hc).2
      have hpq : (nd s1 q).parent = some top.node := by rw [← e']; exact h1.inv.tree.cp top.node c hc
      exact hh1.2.2 hkq top (by simp) hpq

theorem closeBlocksG_oke (pre mid post : List Block) (s : St) (hop : s.pc.opened = pre ++ mid ++ post)
    (hsrc : s.r.source = src) (hi : CInv src s) (hmid : ∀ b ∈ mid, BlockOK s b) (hleafy : Leafy mid)
    (htl : (∃ b ∈ mid, b.bp = .setext) → TmpOK s)
    (hK : ∀ k ∈ pre ++ post, BlockOK s k ∧ ∀ top, mid.getLast? = some top → CompatG s k top) :
    OKE e (fun _ s' => s'.pc.opened = pre ++ post ∧ CRel src (pre ++ post) s s' ∧
        ∀ x q, LK s x q → LKHyp s mid x q → LK s' x q)
      (closeBlocksC cls pts ((pre.length : Int) + (mid.length : Int) - 1) (pre.length : Int) s) := by
  rw [closeBlocksC_mid cls pts pre mid post s hop]
  have hcl := closeListG_oke lsp hpts hC (pre ++ post) mid.reverse s hsrc hi
    (fun b hb => hmid b (by simpa using hb))
    (fun b hb => hleafy b (by
      have : mid.reverse.tail = mid.dropLast.reverse := by
        rw [List.tail_reverse]
      rw [this] at hb; simpa using hb))
    (fun ⟨b, hb, hs⟩ => htl ⟨b, by simpa using hb, hs⟩)
    (fun k hk' => ⟨(hK k hk').1, fun top ht => (hK k hk').2 top (by
      rw [List.head?_reverse] at ht; exact ht)⟩)
  refine OKE.bind hcl (fun _ s1 h1 => ?_)
  obtain ⟨hop1, hr1, hf1⟩ := h1
  refine OKE.ok ⟨rfl, ⟨hr1.r, ⟨hr1.inv.nodes, ⟨hr1.inv.keys.fence⟩, ⟨hr1.inv.kids.kids, hr1.inv.kids.off, hr1.inv.kids.pk⟩,
    hr1.inv.plt, ⟨hr1.inv.tree.pc, hr1.inv.tree.cp, hr1.inv.tree.nodup⟩⟩, ⟨hr1.extw.len, hr1.extw.kind⟩, hr1.tmp,
    ⟨hr1.tf.parent, hr1.tf.kids, hr1.tf.offset, hr1.tf.newParent, hr1.tf.newKind⟩, ?_, hr1.tmpok⟩, ?_⟩
  · intro k hk'
    have := hr1.blocks k hk'
    exact ⟨this.lt, this.kind, this.para, this.setext, this.fenced⟩
  · intro x q hlk hh
    have := hf1 x q hlk ⟨fun b hb => hh.1 b (by simpa using hb), hh.2.1, fun hk b hb => hh.2.2 hk b (by simpa using hb)⟩
    exact ⟨this.par, this.last, this.only⟩

end close


end GM.Blocks.L.G.X
