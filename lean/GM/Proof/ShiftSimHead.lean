/-
  GM.Proof.ShiftSimHead — EXACT effect of the block phase on a non-indented ATX heading line followed by a blank line
  (inversion style; exact versions of the "reset" facts of GM.Proof.IndepReset):
  1. atxHeadingParser.Open and parser.openBlocks on the heading line when nothing is open;
  2. the line loop of parseBlocks on the blank line `\n` (and at the end of the source) after an open ATX heading, and
     `SkipBlankLines` on one leading blank line: the node store is unchanged, the context changes in `opened` (and
     BlockOffset/BlockIndent) only, the reader is advanced by exactly one line.
-/
import GM.Proof.IndepReset
import GM.Proof.ShiftSimDriver

namespace GM.Blocks.Sh
open GM GM.Text GM.Blocks

theorem h1_set_last {α} (l : List α) (n m : α) : (l ++ [n]).set l.length m = l ++ [m] := by
  rw [List.set_append_right _ _ (Nat.le_refl _)]
  simp

theorem h1_getD_last {α} (l : List α) (n d : α) : (l ++ [n]).getD l.length d = n := by
  simp [List.getD_eq_getElem?_getD]

theorem h1_getD_left {α} (l r : List α) (i : Nat) (d : α) (hi : i < l.length) : (l ++ r).getD i d = l.getD i d := by
  simp [List.getD_eq_getElem?_getD, List.getElem?_append_left hi]

theorem h1_peekLine_line {s : St} {x : Option Bytes × Segment} {s' : St} (hp : peekLine s = .ok (x, s')) :
    s'.r.line = s.r.line := by
  unfold GM.Blocks.peekLine at hp
  cases hr : s.r.peekLine with
  | error e => simp [hr, bind, Except.bind] at hp
  | ok p =>
    simp only [hr, bind, Except.bind, pure, Except.pure] at hp
    cases hp
    show p.2.line = _
    unfold Reader.peekLine at hr
    split at hr
    · split at hr
      · cases hr; rfl
      · cases hv : s.r.pos.value s.r.source with
        | error e => simp [hv, bind, Except.bind] at hr
        | ok v =>
          simp only [hv, bind, Except.bind, pure, Except.pure] at hr
          cases hr; rfl
    · cases hr; rfl

theorem h1_lineOffset_line {s : St} {x : Int} {s' : St} (hp : lineOffset s = .ok (x, s')) :
    s'.r.line = s.r.line := by
  unfold GM.Blocks.lineOffset at hp
  cases hr : s.r.lineOffsetOp with
  | error e => simp [hr, bind, Except.bind] at hp
  | ok p =>
    simp only [hr, bind, Except.bind, pure, Except.pure] at hp
    cases hp
    show p.2.line = _
    unfold Reader.lineOffsetOp at hr
    split at hr
    · cases hv : colLoop s.r.source s.r.head s.r.pos.start with
      | error e => simp [hv, bind, Except.bind] at hr
      | ok v =>
        simp only [hv, bind, Except.bind, pure, Except.pure] at hr
        cases hr; rfl
    · cases hr; rfl

/-- the `stop` computation of atxHeadingParser.Open (atx_heading.go:120-139) -/
def atxStopOf (line : Bytes) (start stop0 : Int) : Except Panic Int :=
  if stop0 ≤ start then .ok start
  else
    match atxBackLoop line start stop0.toNat with
    | .error e => .error e
    | .ok i =>
      match idx line i with
      | .error e => .error e
      | .ok c => .ok ((if (i != stop0 - 1 && !isSpace c) = true then stop0 - 1 else i) + 1)

/-- what atxHeadingParser.Open appends for a line, its segment and BlockOffset: `none` = no heading -/
def atxNodeOf (line : Bytes) (seg : Segment) (bo : Int) : Except Panic (Option Node) :=
  if bo < 0 then .ok none
  else if (scanWhileEq line 35 bo == bo || decide (scanWhileEq line 35 bo - bo > 6)) = true then .ok none
  else if (scanWhileEq line 35 bo == (line.length : Int)) = true then
    .ok (some { kind := .heading, level := scanWhileEq line 35 bo - bo })
  else
    match sliceFrom line (scanWhileEq line 35 bo) with
    | .error e => .error e
    | .ok sl =>
      if (((trimLeftSpaceLength sl : Nat) : Int) == 0) = true then .ok none
      else
        match atxStopOf line
            (if scanWhileEq line 35 bo + (trimLeftSpaceLength sl : Nat) ≥ (line.length : Int) then (line.length : Int) - 1
              else scanWhileEq line 35 bo + (trimLeftSpaceLength sl : Nat))
            ((line.length : Int) - (trimRightSpaceLength line : Nat)) with
        | .error e => .error e
        | .ok stop =>
          match slice line
              (if scanWhileEq line 35 bo + (trimLeftSpaceLength sl : Nat) ≥ (line.length : Int) then (line.length : Int) - 1
                else scanWhileEq line 35 bo + (trimLeftSpaceLength sl : Nat)) stop with
          | .error e => .error e
          | .ok body =>
            if ((body.reverse.dropWhile (· == 35)).length != 0) = true then
              .ok (some { kind := .heading, level := scanWhileEq line 35 bo - bo,
                          lines := [{ start := seg.start +
                                        (if scanWhileEq line 35 bo + (trimLeftSpaceLength sl : Nat) ≥ (line.length : Int)
                                          then (line.length : Int) - 1
                                          else scanWhileEq line 35 bo + (trimLeftSpaceLength sl : Nat)) - seg.padding,
                                      stop := seg.start + stop - seg.padding }],
                          linesNil := false })
            else .ok (some { kind := .heading, level := scanWhileEq line 35 bo - bo })

/-- `atxNodeOf` is the Heading (`atxMk`) of what `atxScan` reads off the line: the segment enters only as the offset of the
    one line of the node -/
theorem atxNodeOf_scan (line : Bytes) (seg : Segment) (bo : Int) :
    atxNodeOf line seg bo = (atxScan line bo).map (Option.map (atxMk seg)) := by
  unfold atxNodeOf atxScan
  have hst : ∀ a b, atxStopOf line a b = atxStop line a b := fun _ _ => rfl
  simp only [hst]
  generalize scanWhileEq line 35 bo = k
  by_cases c0 : bo < 0
  · rw [if_pos c0, if_pos c0]; rfl
  by_cases c1 : (k == bo || decide (k - bo > 6)) = true
  · rw [if_neg c0, if_pos c1, if_neg c0, if_pos c1]; rfl
  by_cases c2 : (k == (line.length : Int)) = true
  · rw [if_neg c0, if_neg c1, if_pos c2, if_neg c0, if_neg c1, if_pos c2]; rfl
  rw [if_neg c0, if_neg c1, if_neg c2, if_neg c0, if_neg c1, if_neg c2]
  cases sliceFrom line k with
  | error e => rfl
  | ok sl =>
  dsimp only
  by_cases c3 : (((trimLeftSpaceLength sl : Nat) : Int) == 0) = true
  · rw [if_pos c3, if_pos c3]; rfl
  rw [if_neg c3, if_neg c3]
  cases atxStop line _ _ with
  | error e => rfl
  | ok stop =>
  dsimp only
  cases slice line _ stop with
  | error e => rfl
  | ok body =>
  dsimp only
  by_cases c4 : ((body.reverse.dropWhile (· == 35)).length != 0) = true
  · rw [if_pos c4, if_pos c4]; rfl
  · rw [if_neg c4, if_neg c4]; rfl

theorem atxOpen_exact (line : Bytes) (parent : Nat) (s : St) (hl : AtLine line s.r) (x : Option Nat × PState) (s' : St)
    (h : atxOpen parent s = .ok (x, s')) :
    s'.pc = s.pc ∧ s'.r.source = s.r.source ∧ s'.r.pos = s.r.pos ∧ s'.r.line = s.r.line ∧ AtLine line s'.r ∧
    ((atxNodeOf line s.r.pos s.pc.blockOffset = .ok none ∧ x = (none, stNoChildren) ∧ s'.nodes = s.nodes) ∨
     (∃ n, atxNodeOf line s.r.pos s.pc.blockOffset = .ok (some n) ∧ x = (some s.nodes.length, stNoChildren) ∧
        s'.nodes = s.nodes ++ [n])) := by
  rw [atxOpen_eq] at h
  cases hp : peekLine s with
  | error e => rw [hp] at h; cases h
  | ok xs =>
    obtain ⟨y, s1⟩ := xs
    have hline1 := h1_peekLine_line hp
    obtain ⟨rfl, hl1, hn1, hp1, cu1⟩ := peekLine_atLine hl hp
    rw [hp] at h
    simp only [Except.bind, Option.getD_some, hp1] at h
    rw [atxNodeOf_scan]
    cases ho : atxScan line s.pc.blockOffset with
    | error e => rw [ho] at h; cases h
    | ok o =>
      rw [ho] at h
      cases o with
      | none => cases h; exact ⟨hp1, cu1.2, cu1.1, hline1, hl1, .inl ⟨rfl, rfl, hn1⟩⟩
      | some p => cases h; exact ⟨hp1, cu1.2, cu1.1, hline1, hl1, .inr ⟨_, rfl, by rw [hn1], by simp only [hn1]⟩⟩

/-- `atxNodeOf` reads the line only -/
theorem atxNodeOf_eq (line : Bytes) (bo : Int) :
    ∃ r : Except Panic (Option (Int × Option (Int × Int))), (∀ p, r = .ok (some p) → p.1 = scanWhileEq line 35 bo - bo) ∧
      ∀ seg : Segment, atxNodeOf line seg bo = r.map (Option.map (atxMk seg)) := by
  refine ⟨atxScan line bo, fun p hp => ?_, fun seg => atxNodeOf_scan line seg bo⟩
  rcases atxScan_ok line bo with h | ⟨tx, h, _⟩ <;> rw [h] at hp <;> cases hp
  rfl

/-- moving the segment moves the heading's line, nothing else -/
theorem atxNodeOf_move (line : Bytes) (seg : Segment) (bo : Int) (d : Int) :
    atxNodeOf line (moveSeg d seg) bo =
      (atxNodeOf line seg bo).map (Option.map fun n => { n with lines := n.lines.map (moveSeg d) }) := by
  obtain ⟨r, _, hr⟩ := atxNodeOf_eq line bo
  rw [hr, hr]
  rcases r with e | _ | ⟨l, _ | ⟨a, z⟩⟩
  · rfl
  · rfl
  · rfl
  · simp only [Except.map, Option.map, atxMk, List.map, moveSeg]
    congr 5
    · omega
    · omega

/-- the same line read at a moved segment: the same heading with its line moved -/
theorem atxNodeOf_moved {line : Bytes} {seg : Segment} {bo d : Int} {n0 n1 : Node}
    (h0 : atxNodeOf line seg bo = .ok (some n0)) (h1 : atxNodeOf line (moveSeg d seg) bo = .ok (some n1)) :
    n1 = { n0 with lines := n0.lines.map (moveSeg d) } := by
  rw [atxNodeOf_move, h0] at h1
  cases h1
  rfl

/-- the node `atxOpen` builds is a fresh childless heading without parent, its level the number of `#` -/
theorem atxNodeOf_shape {line : Bytes} {seg : Segment} {bo : Int} {n : Node} (h : atxNodeOf line seg bo = .ok (some n)) :
    n.kind = .heading ∧ n.children = [] ∧ n.parent = none ∧ n.level = scanWhileEq line 35 bo - bo ∧
      n.blankPrev = false := by
  obtain ⟨r, hl, hr⟩ := atxNodeOf_eq line bo
  rw [hr] at h
  rcases r with e | _ | ⟨l, _ | ⟨a, z⟩⟩
  · cases h
  · cases h
  · cases h; exact ⟨rfl, rfl, rfl, hl _ rfl, rfl⟩
  · cases h; exact ⟨rfl, rfl, rfl, hl _ rfl, rfl⟩

def h1_addChild (c : Nat) (n : Node) : Node := { n with children := n.children ++ [c] }
def h1_setParent (p : Nat) (n : Node) : Node := { n with parent := some p }

/-- Node.AppendChild of a node that has no parent -/
theorem h1_appendChild_exact (p c : Nat) (s : St) (hpar : (s.nodes.getD c default).parent = none) (u : Unit) (s' : St)
    (h : appendChild p c s = .ok (u, s')) :
    s' = { s with nodes := ((s.nodes.set p (h1_addChild c (s.nodes.getD p default))).set c
      (h1_setParent p ((s.nodes.set p (h1_addChild c (s.nodes.getD p default))).getD c default))) } := by
  unfold appendChild at h
  obtain ⟨u1, s1, h1, k1⟩ := bind_ok h
  unfold ensureIsolated at h1
  obtain ⟨cn, s2, h2, k2⟩ := bind_ok h1
  obtain ⟨ecn, e2⟩ := getNode_ok h2
  rw [ecn, hpar, e2] at k2
  obtain ⟨_, e1⟩ := pure_ok k2
  rw [e1] at k1
  obtain ⟨u3, s3, h3, k3⟩ := bind_ok k1
  have e3 := modNode_ok h3
  have e4 := modNode_ok k3
  rw [e4, e3]
  rfl

theorem h1_set_last' {α} (l : List α) (n m : α) (k : Nat) (hk : k = l.length) : (l ++ [n]).set k m = l ++ [m] := by
  rw [hk]; exact h1_set_last l n m

theorem h1_getD_last' {α} (l : List α) (n d : α) (k : Nat) (hk : k = l.length) : (l ++ [n]).getD k d = n := by
  rw [hk]; exact h1_getD_last l n d

/-- the node store after `blankPrev := blank` on the fresh node and `AppendChild(document, fresh)` -/
theorem h1_nodes_calc (L : List Node) (n : Node) (blank : Bool) (hlen : 0 < L.length) (N1 N2 : List Node)
    (h1 : N1 = (L ++ [n]).set L.length { ((L ++ [n]).getD L.length default) with blankPrev := blank })
    (h2 : N2 = N1.set 0 (h1_addChild L.length (N1.getD 0 default))) :
    (N1.getD L.length default).parent = n.parent ∧
    N2.set L.length (h1_setParent 0 (N2.getD L.length default)) =
      (L.set 0 { (L.getD 0 default) with children := (L.getD 0 default).children ++ [L.length] })
        ++ [{ n with parent := some 0, blankPrev := blank }] := by
  rw [h1_getD_last, h1_set_last] at h1
  rw [h1, List.set_append_left _ _ hlen, h1_getD_left _ _ _ _ hlen] at h2
  constructor
  · rw [h1, h1_getD_last]
  · rw [h2, h1_getD_last' _ _ _ _ (by simp), h1_set_last' _ _ _ _ (by simp)]
    rfl

/-- parser.openBlocks on the line `# …` when nothing is open, exactly -/
theorem openBlocks_heading_exact (rest : Bytes) (blank : Bool) (s : St) (hl : AtLine (35 :: 32 :: rest) s.r)
    (hop : s.pc.opened = []) (hlen : 0 < s.nodes.length) (res : OpenResult) (s' : St)
    (h : openBlocks 0 blank s = .ok (res, s')) :
    res = .newBlocksOpened ∧ ∃ n : Node, atxNodeOf (35 :: 32 :: rest) s.r.pos 0 = .ok (some n) ∧
      s'.nodes = (s.nodes.set 0 { (s.nodes.getD 0 default) with children := (s.nodes.getD 0 default).children ++ [s.nodes.length] })
                  ++ [{ n with parent := some 0, blankPrev := blank }] ∧
      s'.pc = { s.pc with blockOffset := 0, blockIndent := 0, opened := [⟨s.nodes.length, .atx⟩] } ∧
      s'.r.source = s.r.source ∧ s'.r.pos = s.r.pos ∧ s'.r.line = s.r.line ∧ AtLine (35 :: 32 :: rest) s'.r := by
  unfold openBlocks at h
  obtain ⟨lb, s1, h1, k1⟩ := bind_ok h
  obtain ⟨elb, e1⟩ := lastOpenedBlock_ok h1
  rw [e1] at k1
  rw [hop] at elb
  have elb' : lb = none := elb
  rw [elb'] at k1
  dsimp only at k1
  obtain ⟨cont, s2, h2, k2⟩ := bind_ok k1
  obtain ⟨ec, e2⟩ := pure_ok h2
  rw [e2, ec] at k2
  obtain ⟨v, s3, h3, k3⟩ := bind_ok k2
  have e3 : s3 = s := by cases h3; rfl
  rw [e3] at k3
  have hf : retryFuel v = (2 * v.length + 7) + 1 := rfl
  rw [hf, openBlocksLoop_succ] at k3
  clear h h1 e1 elb elb' h2 ec e2 h3 e3 hf k1 k2
  obtain ⟨lp, s4, h4, k4⟩ := bind_ok k3
  have hline4 := h1_peekLine_line h4
  obtain ⟨rfl, hl4, hn4, hp4, cu4⟩ := peekLine_atLine hl h4
  obtain ⟨lo, s5, h5, k5⟩ := bind_ok k4
  have hline5 := h1_lineOffset_line h5
  obtain ⟨hl5, hn5, hp5, cu5⟩ := lineOffset_atLine hl4 h5
  simp only [Option.getD_some, indentWidthI_hash] at k5
  clear k3 k4
  obtain ⟨u, s6, h6, k6⟩ := bind_ok k5
  have e6 := modPc_ok h6
  have hlen' : ¬ ((0:Int) ≥ ((35 :: 32 :: rest : Bytes).length : Int)) := by
    simp only [List.length_cons]; omega
  rw [if_neg hlen'] at e6
  clear k5
  have hl6 : AtLine (35 :: 32 :: rest) s6.r := by rw [e6]; exact hl5
  have hr6 : s6.r = s5.r := by rw [e6]
  have hn6 : s6.nodes = s.nodes := by rw [e6]; exact hn5.trans hn4
  have hpc5 : s5.pc = s.pc := hp5.trans hp4
  have hp6 : s6.pc = { s.pc with blockOffset := 0, blockIndent := 0 } := by rw [e6, ← hpc5]
  have hbo6 : s6.pc.blockOffset = 0 := by rw [hp6]
  have hsrc6 : s6.r.source = s.r.source := by rw [hr6, cu5.2, cu4.2]
  have hpos6 : s6.r.pos = s.r.pos := by rw [hr6, cu5.1, cu4.1]
  have hline6 : s6.r.line = s.r.line := by rw [hr6, hline5, hline4]
  clear e6 h6 h5 h4 hline5 hline4 hl5 hl4 hn5 hn4 hp5 hp4 cu5 cu4 hpc5 hr6
  have hidx : idx (35 :: 32 :: rest) 0 = .ok 35 := rfl
  simp only [Option.isNone, Bool.false_eq_true, if_false, hidx] at k6
  obtain ⟨c, s7, h7, k7⟩ := bind_ok k6
  obtain ⟨ec, e7⟩ := liftE_ok h7
  cases ec
  simp only [show ((35:UInt8) == 10) = false from rfl, Bool.false_eq_true, if_false,
    if_pos (show (0:Int) < ((35 :: 32 :: rest : Bytes).length : Int) from by simp only [List.length_cons]; omega)] at k7
  obtain ⟨c', s8, h8, k8⟩ := bind_ok k7
  obtain ⟨ec', e8⟩ := liftE_ok h8
  cases ec'
  have htrig : (triggered 35).getD freeParsers = [.atx, .code, .paragraph] := by decide
  rw [htrig, e8, e7] at k8
  clear k6 k7 h7 h8 e7 e8 s7 s8
  unfold oblTry at k8
  obtain ⟨s0, s9, h9, k9⟩ := bind_ok k8
  have e9 : s9 = s6 := by cases h9; rfl
  rw [e9] at k9
  obtain ⟨x, s10, h10, k10⟩ := bind_ok k9
  rw [tryParsers_cons] at h10
  simp only [BP.canInterruptParagraph, BP.canAcceptIndentedLine, Bool.false_and, Bool.false_eq_true, if_false,
    show ¬ ((0:Int) > 3) from by omega, decide_false] at h10
  clear k8 k9 h9 e9
  obtain ⟨lb2, s11, h11, k11⟩ := bind_ok h10
  obtain ⟨elb2, e11⟩ := lastOpenedBlock_ok h11
  rw [e11] at k11
  have elb2' : lb2 = none := by rw [elb2, hp6]; show s.pc.opened.getLast? = none; rw [hop]; rfl
  rw [elb2'] at k11
  obtain ⟨y, s12, h12, k12⟩ := bind_ok k11
  simp only [bpOpen] at h12
  obtain ⟨ey, _⟩ := atxOpen_heading rest s6 0 hl6 hbo6 y s12 h12
  obtain ⟨hpc12, hsrc12, hpos12, hline12, hl12, hcase⟩ := atxOpen_exact _ 0 s6 hl6 y s12 h12
  rcases hcase with ⟨_, ey', _⟩ | ⟨n, hn, _, hnodes12⟩
  · rw [ey] at ey'; cases ey'
  rw [ey] at k12
  dsimp only at k12
  unfold tpSome at k12
  rw [if_neg (show ¬ (stNoChildren.requirePara = true) from by decide)] at k12
  unfold tpJp1 at k12
  clear h10 h11 k11 e11 elb2 elb2'
  simp only [Option.map] at k12
  unfold tpJp2 at k12
  rw [if_neg (show ¬ (stNoChildren.hasChildren = true) from by decide)] at k12
  obtain ⟨u1, s13, h13, k13⟩ := bind_ok k12
  have e13 := modNode_ok h13
  obtain ⟨u2, s14, h14, k14⟩ := bind_ok k13
  rw [hnodes12, hn6] at e13
  obtain ⟨hpar13, hcalc⟩ := h1_nodes_calc s.nodes n blank hlen _ _ rfl rfl
  rw [hpos6, hbo6] at hn
  have e14 := h1_appendChild_exact 0 s6.nodes.length s13
    (by rw [e13, hn6]; exact hpar13.trans (atxNodeOf_shape hn).2.2.1) u2 s14 h14
  obtain ⟨u3, s15, h15, k15⟩ := bind_ok k14
  have e15 := modPc_ok h15
  obtain ⟨ex, e10⟩ := pure_ok k15
  rw [ex] at k10
  dsimp only at k10
  unfold toContinuable at k10
  simp only [show (OpenResult.newBlocksOpened == OpenResult.noBlocksOpened) = false from rfl, Bool.false_and,
    Bool.false_eq_true, if_false] at k10
  obtain ⟨rfl, rfl⟩ := pure_ok k10
  refine ⟨rfl, n, hn, ?_, ?_, ?_, ?_, ?_, ?_⟩
  · rw [e10, e15, e14, e13, hn6]
    exact hcalc
  · rw [e10, e15, e14, e13, hn6]
    show { s12.pc with opened := s12.pc.opened ++ [(⟨s.nodes.length, .atx⟩ : Block)] } = _
    rw [hpc12, hp6]
    show { s.pc with blockOffset := 0, blockIndent := 0, opened := s.pc.opened ++ [(⟨s.nodes.length, .atx⟩ : Block)] } = _
    rw [hop]; rfl
  · rw [e10, e15, e14, e13]; exact hsrc12.trans hsrc6
  · rw [e10, e15, e14, e13]; exact hpos12.trans hpos6
  · rw [e10, e15, e14, e13]; exact hline12.trans hline6
  · rw [e10, e15, e14, e13]; exact hl12

end GM.Blocks.Sh

namespace GM.Blocks.Sh
open GM GM.Text GM.Blocks

/-- same source, same position, same line counter (the caches may differ) -/
def h2_RC (r r' : Reader) : Prop := r'.source = r.source ∧ r'.pos = r.pos ∧ r'.line = r.line

theorem h2_RC_refl (r : Reader) : h2_RC r r := ⟨rfl, rfl, rfl⟩

theorem h2_RC_trans {a b c : Reader} (h1 : h2_RC a b) (h2 : h2_RC b c) : h2_RC a c :=
  ⟨h2.1.trans h1.1, h2.2.1.trans h1.2.1, h2.2.2.trans h1.2.2⟩

theorem h2_peekLine {line : Bytes} {s : St} {x : Option Bytes × Segment} {s' : St} (h : AtLine line s.r)
    (hp : peekLine s = .ok (x, s')) :
    x = (some line, s.r.pos) ∧ AtLine line s'.r ∧ s'.nodes = s.nodes ∧ s'.pc = s.pc ∧ h2_RC s.r s'.r := by
  unfold GM.Blocks.peekLine at hp
  unfold Reader.peekLine at hp
  rw [if_pos ⟨h.start0, h.startLt⟩] at hp
  rcases h.cache with hc | hc
  · rw [hc] at hp
    simp only [h.value, bind, Except.bind, pure, Except.pure] at hp
    cases hp
    exact ⟨rfl, ⟨h.start0, h.startLt, h.value, .inr rfl⟩, rfl, rfl, rfl, rfl, rfl⟩
  · rw [hc] at hp
    simp only [bind, Except.bind, pure, Except.pure] at hp
    cases hp
    exact ⟨rfl, h, rfl, rfl, h2_RC_refl _⟩

theorem h2_lineOffsetOp_rc {r r' : Reader} {lo : Int} (hl : r.lineOffsetOp = .ok (lo, r')) : h2_RC r r' := by
  unfold Reader.lineOffsetOp at hl
  split at hl
  · cases hc : colLoop r.source r.head r.pos.start with
    | error e => simp [hc, bind, Except.bind] at hl
    | ok v =>
      simp only [hc, bind, Except.bind, pure, Except.pure] at hl
      cases hl
      exact ⟨rfl, rfl, rfl⟩
  · cases hl; exact h2_RC_refl _

theorem h2_lineOffset {line : Bytes} {s : St} {lo : Int} {s' : St} (h : AtLine line s.r)
    (hp : lineOffset s = .ok (lo, s')) :
    AtLine line s'.r ∧ s'.nodes = s.nodes ∧ s'.pc = s.pc ∧ h2_RC s.r s'.r := by
  unfold GM.Blocks.lineOffset at hp
  cases hl : s.r.lineOffsetOp with
  | error e => simp [hl, bind, Except.bind] at hp
  | ok p =>
    simp only [hl, bind, Except.bind, pure, Except.pure] at hp
    cases hp
    obtain ⟨h1, _⟩ := h.lineOffsetOp (lo := p.1) (r' := p.2) hl
    exact ⟨h1, rfl, rfl, h2_lineOffsetOp_rc (lo := p.1) (r' := p.2) hl⟩

theorem h2_closeBlocks_atx (s : St) (hd : Nat) (hop : s.pc.opened = [⟨hd, .atx⟩]) (s' : St)
    (h : closeBlocks 0 0 s = .ok ((), s')) :
    s' = { s with pc := { s.pc with opened := [] } } := by
  have hcl : closeList [(⟨hd, .atx⟩ : Block)] s = .ok ((), s) := by
    simp only [closeList, bind, StateT.bind, getNode, pure, Except.bind, Except.pure]
    split <;> rfl
  rw [show closeBlocks 0 0 s = _ from closeBlocks_mid_eq [] [⟨hd, .atx⟩] [] s hop, List.reverse_singleton, bind_run hcl] at h
  cases h; rfl

theorem h2_openBlocks_blank (parent : Nat) (blank : Bool) (s : St) (hd : Nat) (pre : List Block)
    (hl : AtLine [10] s.r) (hop : s.pc.opened = pre ++ [⟨hd, .atx⟩]) (res : OpenResult) (s' : St)
    (h : openBlocks parent blank s = .ok (res, s')) :
    res = .noBlocksOpened ∧ s'.nodes = s.nodes ∧ s'.pc = { s.pc with blockOffset := 0, blockIndent := 0 } ∧
      AtLine [10] s'.r ∧ h2_RC s.r s'.r := by
  unfold openBlocks at h
  obtain ⟨lb, s1, h1, k1⟩ := bind_ok h
  obtain ⟨elb, e1⟩ := lastOpenedBlock_ok h1
  rw [e1] at k1
  have hlb : lb = some ⟨hd, .atx⟩ := by rw [elb, hop]; simp
  have fin : ∀ cont, (do let v ← source; openBlocksLoop blank cont (retryFuel v) parent OpenResult.noBlocksOpened lb : M OpenResult) s
      = .ok (res, s') → res = .noBlocksOpened ∧ s'.nodes = s.nodes ∧
        s'.pc = { s.pc with blockOffset := 0, blockIndent := 0 } ∧ AtLine [10] s'.r ∧ h2_RC s.r s'.r := by
    intro cont k2
    obtain ⟨v, s3, h3, k3⟩ := bind_ok k2
    have e3 : s3 = s := by cases h3; rfl
    rw [e3] at k3
    have hf : retryFuel v = (2 * v.length + 7) + 1 := rfl
    rw [hf] at k3
    unfold openBlocksLoop at k3
    obtain ⟨y, s4, h4, k4⟩ := bind_ok k3
    obtain ⟨rfl, hl4, hn4, hp4, cu4⟩ := h2_peekLine hl h4
    dsimp only at k4
    obtain ⟨lo, s5, h5, k5⟩ := bind_ok k4
    obtain ⟨hl5, hn5, hp5, cu5⟩ := h2_lineOffset hl4 h5
    simp only [Option.getD, indentWidthI_nl] at k5
    obtain ⟨u, s6, h6, k6⟩ := bind_ok k5
    have e6 := modPc_ok h6
    have hlen : ¬ ((0 : Int) ≥ (([10] : Bytes).length : Int)) := by decide
    rw [if_neg hlen] at e6
    have hidx : idx [10] 0 = .ok 10 := rfl
    simp only [Option.isNone, Bool.false_eq_true, if_false, hidx] at k6
    obtain ⟨c, s7, h7, k7⟩ := bind_ok k6
    obtain ⟨ec, e7⟩ := liftE_ok h7
    cases ec
    simp only [beq_self_eq_true, if_true] at k7
    rw [e7] at k7
    unfold toContinuable at k7
    rw [hlb] at k7
    have hres : res = .noBlocksOpened ∧ s' = s6 := by
      cases cont
      · simp only [Bool.and_false, Bool.false_eq_true, if_false] at k7
        exact pure_ok k7
      · simp only [beq_self_eq_true, Bool.and_true, if_true, bpContinue] at k7
        obtain ⟨st, s8, h8, k8⟩ := bind_ok k7
        obtain ⟨est, e8⟩ := pure_ok h8
        rw [est, e8] at k8
        simp only [stClose, Bool.false_eq_true] at k8
        exact pure_ok k8
    obtain ⟨hr, hs'⟩ := hres
    have hp : s5.pc = s.pc := hp5.trans hp4
    refine ⟨hr, by rw [hs', e6]; exact hn5.trans hn4, by rw [hs', e6]; show _ = _; rw [hp],
      by rw [hs', e6]; exact hl5, by rw [hs', e6]; exact h2_RC_trans cu4 cu5⟩
  dsimp only at k1
  cases lb with
  | none =>
    dsimp only at k1
    obtain ⟨cont, s2, h2, k2⟩ := bind_ok k1
    obtain ⟨_, e2⟩ := pure_ok h2
    rw [e2] at k2
    exact fin cont k2
  | some b =>
    dsimp only at k1
    obtain ⟨n, s2, h2, k2⟩ := bind_ok k1
    obtain ⟨_, e2⟩ := getNode_ok h2
    rw [e2] at k2
    obtain ⟨cont, s3, h3, k3⟩ := bind_ok k2
    obtain ⟨_, e3⟩ := pure_ok h3
    rw [e3] at k3
    exact fin cont k3

theorem h2_llFall_blank (s : St) (hd : Nat) (lineNum : Int) (bl : List LineStat)
    (hl : AtLine [10] s.r) (hop : s.pc.opened = [⟨hd, .atx⟩]) (x : LineOutcome × List LineStat) (s' : St)
    (h : llFall 0 [⟨hd, .atx⟩] 0 0 lineNum bl s = .ok (x, s')) :
    x = (.next, bl) ∧ s'.nodes = s.nodes ∧
      s'.pc = { s.pc with blockOffset := 0, blockIndent := 0, opened := [] } ∧ h2_RC s.r s'.r := by
  unfold llFall at h
  simp only [bne_self_eq_false, Bool.false_eq_true, if_false] at h
  unfold llOpen at h
  obtain ⟨lastNode, sC, hC, kC⟩ := bind_ok h
  obtain ⟨hln, eC⟩ := liftE_ok hC
  have hln' : lastNode = ⟨hd, .atx⟩ := by cases hln; rfl
  rw [eC] at kC
  obtain ⟨res, sD, hD, kD⟩ := bind_ok kC
  have hopA : s.pc.opened = [] ++ [⟨hd, .atx⟩] := by rw [hop]; rfl
  obtain ⟨hres, hnD, hpD, hlD, rcD⟩ := h2_openBlocks_blank 0 _ s hd [] hl hopA res sD hD
  rw [hres] at kD
  simp only [show (OpenResult.noBlocksOpened != OpenResult.paragraphContinuation) = true from rfl, if_true] at kD
  obtain ⟨pc, sE, hE, kE⟩ := bind_ok kD
  obtain ⟨epc, eE⟩ := getPc_ok hE
  rw [eE, epc] at kE
  obtain ⟨u, sF, hF, kF⟩ := bind_ok kE
  obtain ⟨eo, eF⟩ := pure_ok kF
  have hoD' : sD.pc.opened = [⟨hd, .atx⟩] := by rw [hpD]; exact hop
  rw [hoD', hln'] at hF
  have hidx : (if (Option.map (fun x => x.node) (slotAfter [(⟨hd, .atx⟩ : Block)] [⟨hd, .atx⟩] (0 : Int).toNat) !=
      some (⟨hd, .atx⟩ : Block).node) = true then (0 : Int) - 1 else (0 : Int)) = 0 := by
    simp [slotAfter]
  rw [hidx] at hF
  have eF' := h2_closeBlocks_atx sD hd hoD' sF hF
  rw [eo, eF, eF']
  refine ⟨rfl, hnD, ?_, rcD⟩
  show { sD.pc with opened := [] } = _
  rw [hpD]

theorem h2_isBlank_nl : isBlank [10] = true := by decide

theorem h2_lineLoop_blank (s : St) (hd : Nat) (stats : List LineStat)
    (hl : AtLine [10] s.r) (hop : s.pc.opened = [⟨hd, .atx⟩])
    (out : LineOutcome) (stats' : List LineStat) (s' : St)
    (h : lineLoop 0 [⟨hd, .atx⟩] 0 [⟨hd, .atx⟩] 0 stats s = .ok ((out, stats'), s')) :
    out = .next ∧ stats' = stats ++ [{ lineNum := s.r.line, level := 0, isBlank := true }] ∧ s'.nodes = s.nodes ∧
      s'.pc = { s.pc with blockOffset := 0, blockIndent := 0, opened := [] } ∧ h2_RC s.r s'.r := by
  rw [ll_lineLoop_cons] at h
  obtain ⟨y, s1, h1, k1⟩ := bind_ok h
  obtain ⟨rfl, hl1, hn1, hp1, rc1⟩ := h2_peekLine hl h1
  dsimp only at k1
  obtain ⟨pos, s2, h2, k2⟩ := bind_ok k1
  have e2 : pos = (s1.r.line, s1.r.pos) ∧ s2 = s1 := by cases h2; exact ⟨rfl, rfl⟩
  obtain ⟨rfl, rfl⟩ := e2
  dsimp only at k2
  rw [h2_isBlank_nl] at k2
  have hop1 : s2.pc.opened = [⟨hd, .atx⟩] := by rw [hp1]; exact hop
  have fin : ∀ sA : St, sA = s2 →
      llFall 0 [⟨hd, .atx⟩] 0 0 s2.r.line (stats ++ [{ lineNum := s2.r.line, level := 0, isBlank := true }]) sA =
        .ok ((out, stats'), s') →
      out = .next ∧ stats' = stats ++ [{ lineNum := s.r.line, level := 0, isBlank := true }] ∧ s'.nodes = s.nodes ∧
        s'.pc = { s.pc with blockOffset := 0, blockIndent := 0, opened := [] } ∧ h2_RC s.r s'.r := by
    intro sA eA k
    subst eA
    obtain ⟨ex, hn, hp, rc⟩ := h2_llFall_blank sA hd _ _ hl1 hop1 _ s' k
    cases ex
    refine ⟨rfl, by rw [rc1.2.2], hn.trans hn1, by rw [hp, hp1], h2_RC_trans rc1 rc⟩
  unfold llBody at k2
  obtain ⟨beNode, s3, h3, k3⟩ := bind_ok k2
  obtain ⟨_, e3⟩ := getNode_ok h3
  by_cases hk : (beNode.kind != Kind.paragraph) = true
  · rw [if_pos hk] at k3
    simp only [bpContinue] at k3
    obtain ⟨st, s4, h4, k4⟩ := bind_ok k3
    obtain ⟨est, e4⟩ := pure_ok h4
    rw [est] at k4
    simp only [stClose, Bool.false_eq_true, if_false] at k4
    exact fin s4 (e4.trans e3) k4
  · rw [if_neg hk] at k3
    exact fin s3 e3 k3

/-! ### AdvanceLine looks at source, position and line counter only -/

theorem h2_advanceLine_congr {r r' : Reader} (h : h2_RC r r') : r'.advanceLine = r.advanceLine := by
  obtain ⟨h1, h2, h3⟩ := h
  rcases r with ⟨src, ln, pk, pos, hd, lo⟩
  rcases r' with ⟨src', ln', pk', pos', hd', lo'⟩
  simp only at h1 h2 h3
  subst h1 h2 h3
  rfl

theorem h2_peekLineR {line : Bytes} {r : Reader} (h : AtLine line r) :
    ∃ r', r.peekLine = .ok ((some line, r.pos), r') ∧ AtLine line r' ∧ h2_RC r r' := by
  unfold Reader.peekLine
  rw [if_pos ⟨h.start0, h.startLt⟩]
  rcases h.cache with hc | hc
  · rw [hc]
    simp only [h.value, bind, Except.bind, pure, Except.pure]
    exact ⟨_, rfl, ⟨h.start0, h.startLt, h.value, .inr rfl⟩, rfl, rfl, rfl⟩
  · rw [hc]
    exact ⟨_, rfl, h, h2_RC_refl _⟩

/-- **1. the blank line after an open ATX heading** (parser.go:1074-1126): the heading is closed, control returns to
    the outer loop, the node store is unchanged, the reader is one line on. Any fuel on which the loop ends will do. -/
theorem blank_after_heading_exact (s : St) (hd : Nat) (stats : List LineStat) (fuel : Nat)
    (hl : AtLine [10] s.r) (hop : s.pc.opened = [⟨hd, .atx⟩])
    (ret : Bool) (stats' : List LineStat) (s' : St)
    (h : linesLoop 0 fuel stats s = .ok ((ret, stats'), s')) :
    ret = false ∧ s'.nodes = s.nodes ∧ s'.r = s.r.advanceLine ∧
      s'.pc = { s.pc with blockOffset := 0, blockIndent := 0, opened := [] } ∧
      stats' = stats ++ [{ lineNum := s.r.line, level := 0, isBlank := true }] := by
  cases fuel with
  | zero => unfold linesLoop at h; cases h
  | succ fuel =>
  unfold linesLoop at h
  obtain ⟨pc, s1, h1, k1⟩ := bind_ok h
  obtain ⟨epc, e1⟩ := getPc_ok h1
  rw [e1, epc, hop] at k1
  dsimp only at k1
  have hl0 : (([⟨hd, .atx⟩] : List Block).length == 0) = false := by simp
  rw [hl0] at k1
  simp only [Bool.false_eq_true, if_false] at k1
  have hlen1 : ((([⟨hd, .atx⟩] : List Block).length : Nat) : Int) - 1 = 0 := by simp
  rw [hlen1] at k1
  obtain ⟨x5, s5, h5, k5⟩ := bind_ok k1
  obtain ⟨out5, st5⟩ := x5
  obtain ⟨ho5, hst5, hn5, hp5, rc5⟩ := h2_lineLoop_blank s hd stats hl hop out5 st5 s5 h5
  subst ho5
  dsimp only at k5
  obtain ⟨u6, s6, h6, k6⟩ := bind_ok k5
  have e6 := advanceLine_ok h6
  have hop6 : s6.pc.opened = [] := by rw [e6]; show s5.pc.opened = []; rw [hp5]
  -- the pass behind `AdvanceLine` finds nothing open; it still takes a unit of fuel
  cases fuel with
  | zero => unfold linesLoop at k6; cases k6
  | succ fuel =>
  rw [linesLoop_empty 0 fuel st5 s6 hop6] at k6
  cases k6
  exact ⟨rfl, by rw [e6]; exact hn5, by rw [e6]; exact h2_advanceLine_congr rc5, by rw [e6]; exact hp5, hst5⟩

/-- **2. the end of the source after an open ATX heading** (parser.go:1084-1088) -/
theorem eof_after_heading_exact (s : St) (hd : Nat) (stats : List LineStat) (fuel : Nat)
    (heof : ¬ (s.r.pos.start ≥ 0 ∧ s.r.pos.start < s.r.sourceLength)) (hop : s.pc.opened = [⟨hd, .atx⟩])
    (ret : Bool) (stats' : List LineStat) (s' : St)
    (h : linesLoop 0 (fuel + 1) stats s = .ok ((ret, stats'), s')) :
    ret = true ∧ s'.nodes = s.nodes ∧ s'.pc.opened = [] := by
  unfold linesLoop at h
  obtain ⟨pc, s1, h1, k1⟩ := bind_ok h
  obtain ⟨epc, e1⟩ := getPc_ok h1
  rw [e1, epc, hop] at k1
  dsimp only at k1
  have hl0 : (([⟨hd, .atx⟩] : List Block).length == 0) = false := by simp
  rw [hl0] at k1
  simp only [Bool.false_eq_true, if_false] at k1
  have hlen1 : ((([⟨hd, .atx⟩] : List Block).length : Nat) : Int) - 1 = 0 := by simp
  rw [hlen1] at k1
  obtain ⟨x5, s5, h5, k5⟩ := bind_ok k1
  rw [ll_lineLoop_cons] at h5
  obtain ⟨y, s2, h2, k2⟩ := bind_ok h5
  have e2 : y = (none, s.r.pos) ∧ s2 = s := by
    unfold GM.Blocks.peekLine at h2
    unfold Reader.peekLine at h2
    rw [if_neg heof] at h2
    simp only [bind, Except.bind, pure, Except.pure] at h2
    cases h2
    exact ⟨rfl, rfl⟩
  obtain ⟨rfl, rfl⟩ := e2
  dsimp only at k2
  obtain ⟨u3, s3, h3, k3⟩ := bind_ok k2
  have e3 := h2_closeBlocks_atx s2 hd hop s3 h3
  obtain ⟨u4, s4, h4, k4⟩ := bind_ok k3
  have e4 := advanceLine_ok h4
  obtain ⟨ex, es⟩ := pure_ok k4
  subst ex
  dsimp only at k5
  obtain ⟨er, es'⟩ := pure_ok k5
  cases er
  rw [es', es, e4, e3]
  exact ⟨rfl, rfl, rfl⟩

/-- **3. one leading blank line**: `SkipBlankLines` skips exactly the line `\n` -/
theorem skip_one_blank (s : St) (next : Bytes) (hl : AtLine [10] s.r) (hn : AtLine next s.r.advanceLine)
    (hnb : isBlank next = false)
    (x : Segment × Int × Bool) (s' : St) (h : skipBlankLinesR s = .ok (x, s')) :
    x.2.1 = 1 ∧ x.2.2 = true ∧ s'.nodes = s.nodes ∧ s'.pc = s.pc ∧ AtLine next s'.r ∧
      s'.r.source = s.r.source ∧ s'.r.pos = s.r.advanceLine.pos ∧ s'.r.line = s.r.advanceLine.line := by
  unfold skipBlankLinesR at h
  have hf : loopFuel s.r.source = ((4 * s.r.source.length + 62) + 1) + 1 := rfl
  rw [hf] at h
  unfold skipBlankLines at h
  obtain ⟨r1, h1, hl1, rc1⟩ := h2_peekLineR hl
  simp only [readerOps, h1, bind, Except.bind, h2_isBlank_nl, if_true, pure, Except.pure] at h
  rw [h2_advanceLine_congr rc1] at h
  unfold skipBlankLines at h
  obtain ⟨r2, h2, hl2, rc2⟩ := h2_peekLineR hn
  simp only [readerOps, h2, bind, Except.bind, hnb, Bool.false_eq_true, if_false, pure, Except.pure] at h
  cases h
  refine ⟨rfl, rfl, rfl, rfl, hl2, ?_, rc2.2.1, rc2.2.2⟩
  show r2.source = _
  rw [rc2.1, advanceLine_source]
end GM.Blocks.Sh
