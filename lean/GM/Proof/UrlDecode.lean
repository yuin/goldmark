/-
  GM.Proof.UrlDecode — URLEscape does not change what a URL means: percent-decoding the output of the
  escaping loop gives the same bytes as percent-decoding its (valid UTF-8) input.
-/
import GM.Proof.UrlEscape

namespace GM.Proof
open GM GM.Spec

theorem pd_cons_ne {c : UInt8} (hc : c ≠ 37) (r : Bytes) : pctDecode (c :: r) = c :: pctDecode r := by
  rcases r with _ | ⟨a, _ | ⟨b, r⟩⟩
  · rfl
  · rfl
  · simp [pctDecode, hc]

theorem pd_triple {a b : UInt8} (ha : isHex a = true) (hb : isHex b = true) (r : Bytes) :
    pctDecode (37 :: a :: b :: r) = (hexValue a * 16 + hexValue b) :: pctDecode r := by
  rw [isHex_eq_spec] at ha hb
  simp [pctDecode, ha, hb]

theorem pd_pct_none {cs : Bytes} (h : pctTriple 37 cs = none) : pctDecode (37 :: cs) = 37 :: pctDecode cs := by
  have h2 := pctTriple_none h
  rcases cs with _ | ⟨a, _ | ⟨b, r⟩⟩
  · rfl
  · rfl
  · simp only [hex2, beq_self_eq_true, Bool.true_and, Bool.and_eq_false_iff] at h2
    rw [isHex_eq_spec, isHex_eq_spec] at h2
    rcases h2 with h2 | h2 <;> simp [pctDecode, h2]

theorem pd_ne_list (x T : Bytes) (h : x.all (fun c => c != 37) = true) : pctDecode (x ++ T) = x ++ pctDecode T := by
  induction x with
  | nil => rfl
  | cons c x ih =>
    simp only [List.all_cons, Bool.and_eq_true, bne_iff_ne, ne_eq] at h
    rw [List.cons_append, pd_cons_ne h.1, ih h.2]; rfl

/-- bytes that QueryEscape writes as %XX, and %XX reads back as the byte -/
theorem qeByte_pct (c : UInt8) (h : (urlSafe c = false ∧ c ≠ 32) ∨ isCont c = true) :
    qeByte c = [37, upperHex (c >>> 4), upperHex (c &&& 15)] ∧
    isHex (upperHex (c >>> 4)) = true ∧ isHex (upperHex (c &&& 15)) = true ∧
    hexValue (upperHex (c >>> 4)) * 16 + hexValue (upperHex (c &&& 15)) = c := by
  rcases qeByte_cases c with ⟨_, hs⟩ | ⟨h32, _⟩ | h3
  · rcases h with ⟨hn, _⟩ | hc
    · rw [hs] at hn; cases hn
    · exact absurd (urlSafe_ascii c hs) (UInt8.not_lt.mpr (isCont_high hc))
  · subst h32; rcases h with ⟨_, hn⟩ | hc
    · exact absurd rfl hn
    · cases hc
  · exact h3

theorem pd_qe (x T : Bytes) (h : ∀ c ∈ x, (urlSafe c = false ∧ c ≠ 32) ∨ isCont c = true) :
    pctDecode (queryEscape x ++ T) = x ++ pctDecode T := by
  induction x with
  | nil => rfl
  | cons c x ih =>
    obtain ⟨e, h1, h2, h3⟩ := qeByte_pct c (h c List.mem_cons_self)
    have : queryEscape (c :: x) ++ T = qeByte c ++ (queryEscape x ++ T) := by simp [queryEscape]
    rw [this, e]
    simp only [List.cons_append, List.nil_append]
    rw [pd_triple h1 h2, h3, ih (fun c' hc' => h c' (List.mem_cons_of_mem _ hc'))]

theorem cont_ne_pct (c : UInt8) (h : isCont c = true) : (c != 37) = true :=
  bne_iff_ne.mpr (ne_of_high (isCont_high h) 37)

theorem loop_decode_of_valid (total : Nat) (l : Bytes) (hv : u8run .s0 l = .s0) (hlen : l.length ≤ total) :
    pctDecode (urlEscapeLoop total l) = pctDecode l := by
  fun_induction urlEscapeLoop total l with
  | case1 => rfl
  | case2 c cs h ih =>
    have hc := urlSafe_ascii c h
    rw [u8run_ascii_cons hc] at hv
    simp only [List.length_cons] at hlen
    rw [pd_cons_ne (urlSafe_ne_pct c h), pd_cons_ne (urlSafe_ne_pct c h), ih hv (by omega)]
  | case3 c cs h a b rest ht ih =>
    obtain ⟨hc, hcs, ha, hb⟩ := pctTriple_some ht
    subst hc hcs
    rw [u8run_ascii_cons (by decide), u8run_ascii_cons (isHex_ascii a ha), u8run_ascii_cons (isHex_ascii b hb)] at hv
    simp only [List.length_cons] at hlen
    rw [pd_triple ha hb, pd_triple ha hb, ih hv (by omega)]
  | case4 c cs h ht h99 ih => exact absurd (by simpa using h99) (valid_cons hv).1
  | case5 c cs h ht h99 hsp ih =>
    have hc : c = 32 := by simpa using hsp
    subst hc
    rw [u8run_ascii_cons (by decide)] at hv
    simp only [List.length_cons] at hlen
    rw [pd_triple (by decide) (by decide), pd_cons_ne (by decide), ih hv (by omega)]
    rfl
  | case6 c cs h ht h99 hsp h0 ih =>
    obtain ⟨_, conts, rest, hcs, hl, _, _⟩ := valid_cons hv
    have := utf8len_pos c
    simp only [List.length_cons, hcs, List.length_append] at hlen
    rw [dif_neg (by omega)] at h0
    simp at h0; omega
  | case7 c cs h ht h99 hsp h0 hgt ih =>
    obtain ⟨_, conts, rest, hcs, hl, _, _⟩ := valid_cons hv
    have := utf8len_pos c
    simp only [List.length_cons, hcs, List.length_append] at hlen
    rw [dif_neg (by omega)] at hgt
    simp only [hcs, List.length_append] at hgt; omega
  | case8 c cs h ht h99 hsp h0 hgt ih =>
    obtain ⟨_, conts, rest, hcs, hl, hall, hr⟩ := valid_cons hv
    have := utf8len_pos c
    have hle : ¬ utf8len c > total := by
      simp only [List.length_cons, hcs, List.length_append] at hlen; omega
    simp only [dif_neg hle, if_neg hle] at ih ⊢
    obtain ⟨hk, hd⟩ := seq_len hcs hl hall
    rw [hk, hd] at ih
    rw [hk, hd]
    have hr' : rest.length ≤ total := by
      simp only [List.length_cons, hcs, List.length_append] at hlen; omega
    have htake : cs.take (utf8len c - 1) = conts := by rw [hcs, ← hl, List.take_left]
    rw [htake]
    have hns : urlSafe c = false := by simpa using h
    have hsp' : c ≠ 32 := by simpa using hsp
    have hq : ∀ c' ∈ c :: conts, (urlSafe c' = false ∧ c' ≠ 32) ∨ isCont c' = true := by
      intro c' hc'
      rcases List.mem_cons.mp hc' with e | e
      · subst e; exact Or.inl ⟨hns, hsp'⟩
      · exact Or.inr (List.all_eq_true.mp hall c' e)
    rw [pd_qe _ _ hq, ih hr hr', hcs]
    by_cases hc37 : c = 37
    · subst hc37
      have : conts = [] := by
        have : utf8len 37 = 1 := by decide
        rw [this] at hl; exact List.length_eq_zero_iff.mp hl
      subst this
      rw [List.nil_append] at hcs
      subst hcs
      simp only [List.nil_append, List.cons_append]
      rw [pd_pct_none ht]
    · have hall' : conts.all (fun c => c != 37) = true := by
        rw [List.all_eq_true] at hall ⊢
        intro x hx; exact cont_ne_pct x (hall x hx)
      rw [pd_cons_ne hc37, pd_ne_list _ _ hall']; rfl

/-- percent-decoding the result of URLEscape (no reference resolution) gives the same bytes as
    percent-decoding the input, for every valid UTF-8 input -/
theorem urlEscapeRaw_decode (v : Bytes) (hv : validUtf8 v = true) : pctDecode (urlEscapeRaw v) = pctDecode v := by
  have hv' : u8run .s0 v = .s0 := by simpa [validUtf8] using hv
  unfold urlEscapeRaw
  split
  · exact loop_decode_of_valid _ _ hv' (Nat.le_refl _)
  · rfl

end GM.Proof
