/-
  GM.Proof.BlocksSpecFenced — fcode_block.go (fencedCodeBlockParser.Open / Continue / Close) against the contracts
  of GM.Proof.BlocksInv: no Go panic, the reader invariant, the store invariant.
-/
import GM.Proof.BlocksInv
import GM.Proof.BlocksAtx
namespace GM.Blocks
open GM GM.Text GM.Spec GM.Proof.Reader
set_option linter.unusedSimpArgs false

theorem fencedOpen_spec (src : Bytes) : OpenSpec src .fenced := by
  intro parent s c h
  show OKL _ (fencedOpen parent s)
  unfold fencedOpen
  refine OKL.bind (peekLine_okl h.ri) (fun x s1 hx => ?_)
  obtain ⟨hx, r1, hs1, h1⟩ := hx
  subst hx hs1
  simp only
  refine OKL.bind (m := getPc) (P := fun v s' => v = s.pc ∧ s' = { s with r := r1 }) (OKL.ok ⟨rfl, rfl⟩) (fun pc s2 hv => ?_)
  obtain ⟨hv, hs2⟩ := hv
  subst hv hs2
  -- the two ways out
  have finNone : OKL (fun a s' => OpenPost src .fenced parent s c a s')
      (.ok ((none, stNoChildren), { r := r1, nodes := s.nodes, pc := s.pc })) :=
    OKL.ok
      { ri := ⟨c, h1, h.pad, Nat.le_refl _, fun _ => rfl, (by intro hh; cases hh)⟩
        opened := rfl, boff := rfl, noNode := (fun _ => rfl), newNode := (by intro id hh; cases hh)
        tmp := .inr ⟨.inr rfl, rfl⟩, fence := .inr ⟨.inr rfl, rfl⟩
        req := (by intro hh; cases hh), kids := (by intro hh; cases hh) }
  have finSome : ∀ (info : Option Segment) (ch : UInt8) (len : Int), 3 ≤ len → 0 ≤ s.pc.blockOffset →
      OKL (fun a s' => OpenPost src .fenced parent s c a s')
        (.ok ((some s.nodes.length, stNoChildren),
          { r := r1, nodes := s.nodes ++ [({ kind := .fencedCodeBlock, info := info } : Node)],
            pc := { s.pc with fence := some { char := ch, indent := s.pc.blockOffset, length := len, node := s.nodes.length } } })) := by
    intro info ch len hlen hpos
    exact OKL.ok
      { ri := ⟨c, h1, h.pad, Nat.le_refl _, (by intro hh; cases hh), (by intro hh; cases hh)⟩
        opened := rfl, boff := rfl, noNode := (by intro hh; cases hh)
        newNode := fun id hh => by
          cases hh
          exact ⟨rfl, _, rfl, rfl, ⟨(by intro t ht; cases ht), fun _ => rfl⟩, rfl, (by intro hh; cases hh), (by intro hh; cases hh)⟩
        tmp := .inr ⟨.inl (by decide), rfl⟩
        fence := .inl ⟨rfl, s.nodes.length, _, rfl, rfl, rfl, hlen, hpos⟩
        req := (by intro hh; cases hh), kids := (by intro hh; cases hh) }
  by_cases hc0 : s.pc.blockOffset < 0
  · rw [if_pos hc0]; exact finNone
  · rw [if_neg hc0]
    have hpos0 : 0 ≤ s.pc.blockOffset := by omega
    generalize hline : (RCur.view src c).getD [] = line
    have hoff := h.off
    rw [hline] at hoff
    obtain ⟨fc, hfc, _⟩ := idx_ok line s.pc.blockOffset hpos0 hoff
    refine OKL.bind (liftE_okl (P := fun a s' => a = fc ∧ s' = { s with r := r1 }) hfc ⟨rfl, rfl⟩) (fun a s3 ha => ?_)
    obtain ⟨ha, hs3⟩ := ha
    subst ha hs3
    by_cases hc1 : (a != 96 && a != 126) = true
    · rw [if_pos hc1]; exact finNone
    · rw [if_neg hc1]
      obtain ⟨hsb1, hsb2⟩ := scanWhileEq_bounds line a s.pc.blockOffset hpos0
      generalize hi : scanWhileEq line a s.pc.blockOffset = i at hsb1 hsb2 ⊢
      by_cases hc2 : i - s.pc.blockOffset < 3
      · rw [if_pos hc2]; exact finNone
      · rw [if_neg hc2]
        have hne : i ≠ s.pc.blockOffset := by omega
        obtain ⟨_, hile⟩ := hsb2 hne
        have hlen3 : 3 ≤ i - s.pc.blockOffset := by omega
        by_cases hc3 : i < (line.length : Int) - 1
        · rw [if_pos hc3]
          have hsf := sliceFrom_ok line i (by omega) hile
          simp only [bind, StateT.bind, liftE, hsf, Except.map, Except.bind]
          generalize List.drop i.toNat line = rest
          have htr := trimRightSpaceLength_le rest
          by_cases hc4 : (trimLeftSpaceLength rest : Int) < (rest.length : Int) - (trimRightSpaceLength rest : Int)
          · rw [if_pos hc4]
            obtain ⟨v, hv⟩ := slice_ok' rest (trimLeftSpaceLength rest) ((rest.length : Int) - (trimRightSpaceLength rest : Int))
              (by omega) (by omega) (by omega)
            simp only [hv, bind, StateT.bind, liftE, Except.map, Except.bind]
            by_cases hc5 : (a == 96 && v.contains 96) = true
            · rw [if_pos hc5]; exact finNone
            · rw [if_neg hc5]
              split
              · simp only [newNode, modPc, pure, StateT.pure, Except.pure]
                exact finSome _ _ _ hlen3 hpos0
              · simp only [newNode, modPc, pure, StateT.pure, Except.pure]
                exact finSome _ _ _ hlen3 hpos0
          · rw [if_neg hc4]
            simp only [newNode, modPc, pure, StateT.pure, Except.pure]
            exact finSome _ _ _ hlen3 hpos0
        · rw [if_neg hc3]
          simp only [bind, StateT.bind, newNode, modPc, pure, StateT.pure, Except.pure, Except.bind]
          exact finSome _ _ _ hlen3 hpos0

/-! ### arithmetic of `IndentPositionPadding` / `FirstNonSpacePosition` -/

theorem ippLoop_bounds (cur width : Int) (bs : Bytes) (i p w : Int) (hp : 0 ≤ p) :
    i ≤ (ippLoop cur width bs i p w).1 ∧ (ippLoop cur width bs i p w).1 ≤ i + bs.length ∧
    ((ippLoop cur width bs i p w).1 = i → (ippLoop cur width bs i p w).2 = w) ∧
    (p ≤ bs.length → i + p ≤ (ippLoop cur width bs i p w).1) := by
  obtain ⟨n, e, hn, _, h0, hpad⟩ := ippLoop_passed cur width bs i p w
  exact ⟨by omega, by omega, fun h => h0 (by omega), fun h => by have := hpad hp h; omega⟩

theorem firstNonSpacePos_lt (bs : Bytes) : firstNonSpacePos bs ≤ bs.length := by
  unfold firstNonSpacePos
  split
  · rename_i j hj
    have := firstNonSpacePosition_bounds bs 0 j hj
    omega
  · omega

def fencedPP (line : Bytes) (segment : Segment) (lo : Int) (indent : Int) : Int × Int :=
  let (pos, padding) := indentPositionPadding line lo segment.padding indent
  if pos < 0 then
    let p := firstNonSpacePos line - segment.padding
    ((if p < 0 then 0 else p), (0 : Int))
  else (pos, padding)

/-- the position and padding fcode_block.go:88-99 computes: inside the line, and virtual padding only behind a byte -/
theorem fencedPP_bounds (line : Bytes) (lo : Int) (pad : Nat) (rest : Nat) (indent start stop : Int) (hi : 0 ≤ indent)
    (hlen : line.length = pad + rest) :
    0 ≤ (fencedPP line { start := start, stop := stop, padding := pad } lo indent).1 ∧
    (fencedPP line { start := start, stop := stop, padding := pad } lo indent).1 ≤ rest ∧
    0 ≤ (fencedPP line { start := start, stop := stop, padding := pad } lo indent).2 ∧
    ((fencedPP line { start := start, stop := stop, padding := pad } lo indent).2 ≠ 0 → pad = 0 →
      1 ≤ (fencedPP line { start := start, stop := stop, padding := pad } lo indent).1) := by
  unfold fencedPP indentPositionPadding
  simp only
  by_cases hw : (indent == 0) = true
  · rw [if_pos hw]
    simp only
    rw [if_neg (by omega)]
    simp only
    omega
  · rw [if_neg hw]
    have hne : indent ≠ 0 := by intro e; apply hw; simp [e]
    obtain ⟨b1, b2, b3, b4⟩ := ippLoop_bounds lo indent line 0 pad 0 (by omega)
    generalize ippLoop lo indent line 0 pad 0 = r at b1 b2 b3 b4 ⊢
    by_cases hr : r.2 ≥ indent
    · rw [if_pos hr]
      simp only
      have := b4 (by omega)
      rw [if_neg (by omega)]
      simp only
      refine ⟨by omega, by omega, by omega, fun hp hz => ?_⟩
      rcases Int.lt_or_le 0 r.1 with h1 | h1
      · omega
      · have : r.2 = 0 := b3 (by omega)
        omega
    · rw [if_neg hr]
      simp only
      rw [if_pos (by decide)]
      have := firstNonSpacePos_lt line
      simp only
      split <;> omega

/-! ### preserveLeadingTabInCodeBlock -/

/-- `LineOffset()` one byte in front of an `RI` position (or at -1) does not panic -/
theorem colLoop_back (src : Bytes) (p : Nat) (hp : p ≤ src.length) :
    ∃ v, colLoop src (if 0 < (p : Int) - 1 ∧ (p : Int) - 1 ≤ (src.length : Int) then (lineStart src ((p : Int) - 1).toNat : Int) else (p : Int) - 1)
      ((p : Int) - 1) = .ok v := by
  unfold colLoop
  by_cases h1 : 0 < (p : Int) - 1 ∧ (p : Int) - 1 ≤ (src.length : Int)
  · rw [if_pos h1]
    have := lineStart_le src ((p : Int) - 1).toNat
    by_cases h2 : (lineStart src ((p : Int) - 1).toNat : Int) ≥ (p : Int) - 1
    · rw [if_pos h2]; exact ⟨_, rfl⟩
    · rw [if_neg h2, if_neg (by omega)]; exact ⟨_, rfl⟩
  · rw [if_neg h1, if_pos (by omega)]; exact ⟨_, rfl⟩

/-- `SetPosition(l, pos)` with the `Position()` of an `RI` reader, on any reader over the same source -/
theorem ri_setPosition_back {src : Bytes} {r r2 : Reader} {c : RCur} (h : RI src r c) (hs : r2.source = src) :
    RI src (r2.setPosition r.line r.pos) c := by
  have hpos := h.pos
  have hin := h.inRange
  unfold Reader.setPosition Reader.sourceLength
  rw [hs, hpos]
  simp only
  refine ⟨{ source := rfl, line := h.abs.line, pos := rfl, inRange := hin, head := ?_, peeked := .inl rfl, lo := .inl (by simp [clearLo]) }, ?_, .inl (by simp)⟩
  · intro _
    simp only [clearLo]
    by_cases hz : 0 < (c.p : Int)
    · rw [if_pos ⟨hz, by omega⟩]; simp
    · rw [if_neg (by omega)]
      have : c.p = 0 := by omega
      simp [this, lineStart]
  · simp only
    split <;> omega

theorem fc_preserveLeadingTab_okl {src} {s : St} {c : RCur} (h : RI src s.r c) (seg : Segment) (indent : Int) :
    OKL (fun sg s' => (sg = seg ∨ sg = { seg with padding := 0, start := seg.start - 1 }) ∧
        ∃ r', s' = { s with r := r' } ∧ RI src r' c) (preserveLeadingTab seg indent s) := by
  unfold preserveLeadingTab
  refine OKL.bind (lineOffset_okl h) (fun lo s1 hlo => ?_)
  obtain ⟨_, r1, hs1, h1⟩ := hlo
  subst hs1
  simp only [bind, StateT.bind, position, setPosition, Reader.position, pure, StateT.pure, Except.bind, Except.pure]
  have hpos := h1.pos
  have hsrc := h1.source
  obtain ⟨v, hv⟩ := colLoop_back src c.p h1.inRange
  have hlo : lineOffset { r := r1.setPosition r1.line { start := r1.pos.start - 1, stop := r1.pos.stop }, nodes := s.nodes, pc := s.pc }
      = .ok ((v : Int) - 0, { r := { r1.setPosition r1.line { start := r1.pos.start - 1, stop := r1.pos.stop } with lineOffset := (v : Int) - 0 }, nodes := s.nodes, pc := s.pc }) := by
    unfold lineOffset Reader.lineOffsetOp Reader.setPosition Reader.sourceLength
    simp only
    rw [if_pos (by decide)]
    rw [hsrc, hpos]
    simp only
    rw [hv]
    rfl
  rw [hlo]
  simp only
  refine OKL.ok ⟨?_, _, rfl, ri_setPosition_back h1 ?_⟩
  · split
    · exact .inr rfl
    · exact .inl rfl
  · simp only [Reader.setPosition]; exact hsrc

/-! ### `AdvanceAndSetPadding(n ≥ -1)`, `Lines().Append` -/

theorem advance_neg_one (r : Reader) : ∃ r', r.advance (-1) = .ok r' ∧ r'.source = r.source ∧
    r'.pos.stop = r.pos.stop ∧ r'.pos.forceNewline = r.pos.forceNewline ∧ r'.line = r.line := by
  unfold Reader.advance
  simp only
  split <;> split <;> exact ⟨_, rfl, rfl, rfl, rfl, rfl⟩

/-- `AdvanceAndSetPadding(n, p)` for `n ≥ -1` (fcode_block.go:104 may pass -1): no panic, and the `AdvanceLine` that follows
    a leaf's `Continue` sees a good reader -/
theorem advanceAndSetPadding_ria {src} {s : St} {c : RCur} (h : RI src s.r c) (hpad : PadOK c) {n : Int} (hn : -1 ≤ n)
    (p : Int) :
    OKL (fun _ s' => ∃ r' c', s' = { s with r := r' } ∧ RIa src r' c' ∧ PadOK c' ∧ c.p ≤ c'.p ∧ c'.p ≤ src.length)
      (advanceAndSetPadding n p s) := by
  unfold advanceAndSetPadding Reader.advanceAndSetPadding
  by_cases h0 : 0 ≤ n
  · obtain ⟨r1, e1, hr1⟩ := ri_advance h h0
    rw [e1]
    simp only [bind, Except.bind, pure, Except.pure]
    have hpc : PadOK (RCur.advN src n.toNat c) := hpad.advN h.inRange _
    have hm := (advN_mono src n.toNat c h.inRange).1
    by_cases hc : p > r1.pos.padding
    · simp only [if_pos hc]
      exact OKL.ok ⟨_, _, rfl, ⟨r1, hr1, advanceLine_congr (RI.stop_nonneg hr1) rfl rfl rfl rfl⟩, hpc, hm, hr1.inRange⟩
    · simp only [if_neg hc]
      exact OKL.ok ⟨_, _, rfl, hr1.toRIa, hpc, hm, hr1.inRange⟩
  · have e : n = -1 := by omega
    subst e
    have hst := RI.stop_nonneg h
    have fin : ∀ r' : Reader, r'.source = s.r.source → r'.pos.stop = s.r.pos.stop →
        r'.pos.forceNewline = s.r.pos.forceNewline → r'.line = s.r.line →
        OKL (fun _ s' => ∃ r' c', s' = { s with r := r' } ∧ RIa src r' c' ∧ PadOK c' ∧ c.p ≤ c'.p ∧ c'.p ≤ src.length)
          ((do let r ← (do let r ← (Except.ok r' : Except Panic Reader)
                           if p > r.pos.padding then pure (Reader.setPadding p r) else pure r)
               pure ((), { s with r := r })) : Except Panic (Unit × St)) := by
      intro r' e1 e2 e3 e4
      simp only [bind, Except.bind, pure, Except.pure]
      by_cases hc : p > r'.pos.padding
      · simp only [if_pos hc]
        exact OKL.ok ⟨_, c, rfl, ⟨s.r, h, advanceLine_congr hst e1 e2 e3 e4⟩, hpad, Nat.le_refl _, h.inRange⟩
      · simp only [if_neg hc]
        exact OKL.ok ⟨_, c, rfl, ⟨s.r, h, advanceLine_congr hst e1 e2 e3 e4⟩, hpad, Nat.le_refl _, h.inRange⟩
    obtain ⟨r', e0, e1, e2, e3, e4⟩ := advance_neg_one s.r
    rw [e0]
    exact fin r' e1 e2 e3 e4

theorem getD_mem {α} (l : List α) (i : Nat) (d : α) (h : i < l.length) : l.getD i d ∈ l := by
  simp [List.getD, List.getElem?_eq_getElem h]

/-- `node.Lines().Append(seg)` with a segment inside the source -/
theorem appendLine_facts {src} (s : St) (node : Nat) (seg : Segment) (r' : Reader) (hlt : node < s.nodes.length)
    (hn : NodesOK src s) (hseg : SegOK src seg) :
    Ext s { r := r', nodes := s.nodes.set node { (s.nodes.getD node default) with
        lines := (s.nodes.getD node default).lines ++ [seg], linesNil := false }, pc := s.pc } ∧
    NodesOK src { r := r', nodes := s.nodes.set node { (s.nodes.getD node default) with
        lines := (s.nodes.getD node default).lines ++ [seg], linesNil := false }, pc := s.pc } := by
  constructor
  · refine ⟨by simp, fun i hi => ?_, fun i hi _ hl => ?_⟩
    · simp only [nd, List.getD, List.getElem?_set]
      by_cases e : node = i
      · subst e; simp [hi]
      · simp [e]
    · simp only [nd, List.getD, List.getElem?_set] at hl ⊢
      by_cases e : node = i
      · subst e; simp [hi]
      · simpa [e] using hl
  · intro n hmem
    rcases List.mem_or_eq_of_mem_set hmem with h1 | h1
    · exact hn n h1
    · subst h1
      have hold := hn _ (getD_mem s.nodes node default hlt)
      refine ⟨fun t ht => ?_, fun hh => by cases hh⟩
      simp only [List.mem_append, List.mem_singleton] at ht
      rcases ht with ht | ht
      · exact hold.lines t ht
      · subst ht; exact hseg

/-- fcode_block.go:100-105: the line's segment from `pos` on goes into the block, the reader moves to the end of the line -/
def fencedStore (node : Nat) (segment : Segment) (indent pos padding : Int) : M PState := do
  let seg : Segment := { start := segment.start + pos, stop := segment.stop, padding := padding }
  let seg ← if padding != 0 then preserveLeadingTab seg indent else pure seg
  let seg := { seg with forceNewline := true }
  appendLine node seg
  advanceAndSetPadding (segment.stop - segment.start - pos - 1) padding
  return stContinueNoChildren

/-- fcode_block.go:88-105 -/
def fencedTail (node : Nat) (line : Bytes) (segment : Segment) (lo : Int) (fdata : FenceData) : M PState :=
  fencedStore node segment fdata.indent (fencedPP line segment lo fdata.indent).1 (fencedPP line segment lo fdata.indent).2

/-- `fencedContinue` with its content branch named -/
def fencedContinue' (node : Nat) : M PState := do
  let (line, segment) ← peekLine
  let line := line.getD []
  let len : Int := line.length
  let fdata ← match (← getPc).fence with
    | some f => pure f
    | none => throw .assert
  let lo ← lineOffset
  let (w, pos) := indentWidthI line lo
  if w < 4 then
    let i := scanWhileEq line fdata.char pos
    let length := i - pos
    if length ≥ fdata.length then
      if isBlank (← liftE (sliceFrom line i)) then
        let last ← liftE (idx line (len - 1))
        let newline : Int := if last != 10 then 0 else 1
        advance (segment.stop - segment.start - newline + segment.padding)
        return stClose
  fencedTail node line segment lo fdata

theorem fencedContinue_eq (node : Nat) : fencedContinue node = fencedContinue' node := rfl

theorem ContPost.of_state {src bp} {s s2 : St} {c st s'} (hnodes : s2.nodes = s.nodes) (hpc : s2.pc = s.pc)
    (h : ContPost src bp s2 c st s') : ContPost src bp s c st s' :=
  { ria := h.ria, pc := by rw [h.pc, hpc], ext := Ext.trans (Ext.of_nodes_eq hnodes) h.ext, nodes := h.nodes,
    leaf := h.leaf, cont := h.cont }

theorem fencedStore_okl {src} {s : St} {c : RCur} (h : RI src s.r c) (hpad : PadOK c) (hp : c.p < src.length)
    (hn : NodesOK src s) (node : Nat) (hlt : node < s.nodes.length) (indent pos padding : Int)
    (h0 : 0 ≤ pos) (h1 : pos ≤ ((lineEnd src c.p - c.p : Nat) : Int)) (h2 : 0 ≤ padding)
    (h3 : padding ≠ 0 → 1 ≤ (c.p : Int) + pos) :
    OKL (fun st s' => ContPost src .fenced s c st s') (fencedStore node (RCur.seg src c) indent pos padding s) := by
  have hle := lineEnd_le src c.p
  have hlt' := lt_lineEnd src hp
  unfold fencedStore
  simp only [RCur.seg]
  -- what happens once the segment is fixed
  have rest : ∀ (sg : Segment) (r1 : Reader), SegOK src sg → RI src r1 c →
      OKL (fun st s' => ContPost src .fenced s c st s')
        ((appendLine node { sg with forceNewline := true } >>= fun _ =>
          advanceAndSetPadding ((lineEnd src c.p : Int) - (c.p : Int) - pos - 1) padding >>= fun _ =>
          pure stContinueNoChildren) { s with r := r1 }) := by
    intro sg r1 hsg hr1
    have hsg' : SegOK src { sg with forceNewline := true } := hsg
    obtain ⟨hext, hnodes⟩ := appendLine_facts s node { sg with forceNewline := true } r1 hlt hn hsg'
    refine OKL.bind (m := appendLine node _)
      (P := fun _ s' => s' = St.mk r1 (s.nodes.set node { (s.nodes.getD node default) with lines := (s.nodes.getD node default).lines ++ [{ sg with forceNewline := true }], linesNil := false }) s.pc)
      (OKL.ok rfl) (fun _ s2 hs2 => ?_)
    subst hs2
    refine OKL.bind (advanceAndSetPadding_ria (src := src) (c := c) hr1 hpad (by omega) padding) (fun _ s3 hs3 => ?_)
    obtain ⟨r3, c3, hs3, hria, hpad3, hle3, hin3⟩ := hs3
    subst hs3
    exact OKL.ok
      { ria := ⟨c3, hria, hpad3, hle3, hin3, .inl ⟨rfl, rfl⟩⟩
        pc := rfl
        ext := ⟨hext.len, hext.kind, hext.linesNE⟩
        nodes := hnodes
        leaf := fun _ => rfl
        cont := (by intro hh; cases hh) }
  by_cases hc : (padding != 0) = true
  · rw [if_pos hc]
    have hne : padding ≠ 0 := by simpa using hc
    have := h3 hne
    refine OKL.bind (fc_preserveLeadingTab_okl h _ indent) (fun sg s1 hh => ?_)
    obtain ⟨hsg, r1, hs1, hr1⟩ := hh
    subst hs1
    refine rest sg r1 ?_ hr1
    rcases hsg with e | e <;> subst e <;> (unfold SegOK; simp only; omega)
  · rw [if_neg hc]
    refine OKL.bind (m := Pure.pure _) (P := fun sg s' => sg = ({ start := (c.p : Int) + pos, stop := (lineEnd src c.p : Int), padding := padding } : Segment) ∧ s' = s)
      (OKL.ok ⟨rfl, rfl⟩) (fun sg s1 hh => ?_)
    obtain ⟨e1, e2⟩ := hh
    rw [e1, e2]
    refine rest _ s.r ?_ h
    unfold SegOK; simp only; omega

theorem fencedTail_okl {src} {s : St} {c : RCur} (h : RI src s.r c) (hpad : PadOK c) (hp : c.p < src.length)
    (hn : NodesOK src s) (node : Nat) (hlt : node < s.nodes.length) (lo : Int) (fdata : FenceData) (hi : 0 ≤ fdata.indent) :
    OKL (fun st s' => ContPost src .fenced s c st s')
      (fencedTail node ((RCur.view src c).getD []) (RCur.seg src c) lo fdata s) := by
  unfold fencedTail
  have hlen := view_getD_length_nat src c hp
  obtain ⟨b0, b1, b2, b3⟩ := fencedPP_bounds ((RCur.view src c).getD []) lo c.pad (lineEnd src c.p - c.p) fdata.indent
    c.p (lineEnd src c.p) hi hlen
  refine fencedStore_okl h hpad hp hn node hlt _ _ _ b0 b1 b2 (fun hne => ?_)
  by_cases hz : c.pad = 0
  · have := b3 hne hz
    show 1 ≤ (c.p : Int) + (fencedPP ((RCur.view src c).getD []) { start := c.p, stop := lineEnd src c.p, padding := c.pad } lo fdata.indent).1
    omega
  · have := hpad hz
    show 1 ≤ (c.p : Int) + (fencedPP ((RCur.view src c).getD []) { start := c.p, stop := lineEnd src c.p, padding := c.pad } lo fdata.indent).1
    omega

theorem W.fencedContinue_spec (src : Bytes) : W.ContSpecW src .fenced := by
  intro node s c h hpad hp hn hk hb
  show OKL _ (fencedContinue node s)
  rw [fencedContinue_eq]
  unfold fencedContinue'
  refine OKL.bind (peekLine_okl h) (fun x s1 hx => ?_)
  obtain ⟨hx, r1, hs1, h1⟩ := hx
  subst hx hs1
  simp only
  refine OKL.bind (m := getPc) (P := fun v s' => v = s.pc ∧ s' = { s with r := r1 }) (OKL.ok ⟨rfl, rfl⟩) (fun pc s2 hv => ?_)
  obtain ⟨hv, hs2⟩ := hv
  subst hv hs2
  have hfs := hb.fenced rfl
  cases hfe : s.pc.fence with
  | none => rw [hfe] at hfs; cases hfs
  | some f =>
    obtain ⟨hf3, hf0, _⟩ := hk.fence f hfe
    simp only
    refine OKL.bind (m := Pure.pure f) (P := fun v s' => v = f ∧ s' = { s with r := r1 }) (OKL.ok ⟨rfl, rfl⟩) (fun fd s3 hv => ?_)
    obtain ⟨hv, hs3⟩ := hv
    subst hv hs3
    refine OKL.bind (lineOffset_okl (s := { s with r := r1 }) h1) (fun lo s4 hlo => ?_)
    obtain ⟨_, r2, hs4, h2⟩ := hlo
    subst hs4
    -- the content branch
    have tail : OKL (fun st s' => ContPost src .fenced s c st s')
        (fencedTail node ((RCur.view src c).getD []) (RCur.seg src c) lo fd { s with r := r2 }) :=
      (fencedTail_okl (s := { s with r := r2 }) h2 hpad hp hn node hb.lt lo fd hf0).mono
        (fun st s' hh => ContPost.of_state (s2 := { s with r := r2 }) rfl rfl hh)
    have hlen := view_getD_length_nat src c hp
    have hlt' := lt_lineEnd src hp
    have hle := lineEnd_le src c.p
    generalize hline : (RCur.view src c).getD [] = line at tail hlen ⊢
    have hb' := indentWidthI_bounds line lo
    generalize hpos : (indentWidthI line lo).2 = pos at hb' ⊢
    generalize hw : (indentWidthI line lo).1 = w
    by_cases hc1 : w < 4
    · rw [if_pos hc1]
      obtain ⟨hsb1, hsb2⟩ := scanWhileEq_bounds line fd.char pos hb'.1
      generalize hi : scanWhileEq line fd.char pos = i at hsb1 hsb2 ⊢
      by_cases hc2 : i - pos ≥ fd.length
      · rw [if_pos hc2]
        have hile : i ≤ line.length := by
          by_cases e : i = pos
          · omega
          · exact (hsb2 e).2
        have hsf := sliceFrom_ok line i (by omega) hile
        refine OKL.bind (liftE_okl (P := fun a s' => a = line.drop i.toNat ∧ s' = { s with r := r2 }) hsf ⟨rfl, rfl⟩)
          (fun a s5 ha => ?_)
        obtain ⟨ha, hs5⟩ := ha
        subst ha hs5
        by_cases hc3 : isBlank (line.drop i.toNat) = true
        · rw [if_pos hc3]
          obtain ⟨b, hb1, _⟩ := idx_ok line ((line.length : Int) - 1) (by omega) (by omega)
          refine OKL.bind (liftE_okl (P := fun a s' => a = b ∧ s' = { s with r := r2 }) hb1 ⟨rfl, rfl⟩) (fun a s6 ha => ?_)
          obtain ⟨ha, hs6⟩ := ha
          subst ha hs6
          have hadv : 0 ≤ (RCur.seg src c).stop - (RCur.seg src c).start - (if (a != 10) = true then (0 : Int) else 1) +
              (RCur.seg src c).padding := by
            simp only [RCur.seg]
            split <;> omega
          refine OKL.bind (advance_okl (s := { s with r := r2 }) h2 hadv) (fun _ s7 h7 => ?_)
          obtain ⟨r7, hs7, h7⟩ := h7
          subst hs7
          exact OKL.ok
            { ria := ⟨_, h7.toRIa, hpad.advN h.inRange _, (advN_mono src _ c h.inRange).1, h7.inRange, .inr h7⟩
              pc := rfl
              ext := Ext.of_nodes_eq rfl
              nodes := hn
              leaf := fun _ => rfl
              cont := (by intro hh; cases hh) }
        · rw [if_neg hc3]; exact tail
      · rw [if_neg hc2]; exact tail
    · rw [if_neg hc1]; exact tail

theorem fencedContinue_spec (src : Bytes) : ContSpec src .fenced := (W.fencedContinue_spec src).toSpec

theorem W.fencedClose_spec (src : Bytes) : W.CloseSpecW src .fenced := by
  intro node s hsrc hn hk hb
  show OKL _ (fencedClose node s)
  have hf := hb.fenced rfl
  unfold fencedClose
  simp only [bind, StateT.bind, getPc, pure, StateT.pure, Except.bind, Except.pure]
  cases hfe : s.pc.fence with
  | none => rw [hfe] at hf; cases hf
  | some f =>
    simp only
    by_cases hc : (f.node == node) = true
    · rw [if_pos hc]
      simp only [modPc]
      have hnode : f.node = node := by simpa using hc
      exact OKL.ok
        { r := rfl, opened := rfl, ext := Ext.of_nodes_eq rfl, nodes := hn, tmp := .inl rfl,
          fence := .inr ⟨rfl, rfl, f, hfe, hnode⟩, para := by intro h; cases h }
    · rw [if_neg hc]
      exact OKL.ok
        { r := rfl, opened := rfl, ext := Ext.refl s, nodes := hn, tmp := .inl rfl,
          fence := .inl rfl, para := by intro h; cases h }

theorem fencedClose_spec (src : Bytes) : CloseSpec src .fenced := (W.fencedClose_spec src).toSpec

end GM.Blocks
