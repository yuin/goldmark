/-
  GM.Proof.BlocksTNOPhaseXEnd — the end of the block phase WITH the table transformer: the close discipline and the line facts in the shape of `GM.Props.ConvertXE2E.BlockPhaseXGood`; and a kernel-checked witness
  that `L.G.X.TableNodesOK src` is false for `|a|⏎|-|⏎` (on a line list the block phase never produces).
-/
import GM.Proof.BlocksTNOPhaseX
import GM.Proof.BlocksTNOClosedLR
import GM.Proof.ConvertXE2EKeeps

section BlocksTNOPhaseXEnd
/-
  The end of the block phase WITH the table transformer: the close discipline, and the line facts
  in the shape of `GM.Props.ConvertXE2E.BlockPhaseXGood`: every line segment of the store lies in the source; every entry
  of a child list that is neither raw nor a `thematicBreak` node and has lines has `WF0` lines; a `thematicBreak` entry
  (the table records) has lines without padding, inside the source; the Document has no lines; the tree links are
  consistent; the stack is empty.
-/

namespace GM.Blocks.TX
open GM GM.Text GM.Spec GM.Proof.Reader GM.LinkRef GM.Blocks.TO GM.TableX GM.ConvertX
open GM.Proof.BlocksWF0 (isRaw)

theorem blockPhaseX_runT (c : XCfg) (src : Bytes) (ht : c.table = true) (s : St)
    (h : blockPhaseX c true src = .ok s) : runT [transform, transformPT src] src = .ok s := by
  rw [blockPhaseX_guard_irrelevant c src, blockPhaseX_table src _ c ht] at h
  exact h

/-- the close discipline of the final store -/
theorem blockPhaseX_cinv (c : XCfg) (src : Bytes) (ht : c.table = true) (s : St)
    (h : blockPhaseX c true src = .ok s) : CInvG False src s [] ∧ s.pc.opened = [] :=
  runT_tableX_cinv src s (blockPhaseX_runT c src ht s h)

/-- the tree links of the final store are consistent -/
theorem blockPhaseX_tree (c : XCfg) (src : Bytes) (ht : c.table = true) (s : St)
    (h : blockPhaseX c true src = .ok s) : TreeOK s := (blockPhaseX_cinv c src ht s h).1.tree

/-- **padding 0 at the end**: every non-raw node of the final store (the table records included) has padding 0 on all
    its lines, or is a parentless Heading -/
theorem blockPhaseX_closed (c : XCfg) (src : Bytes) (ht : c.table = true) (s : St)
    (h : blockPhaseX c true src = .ok s) :
    ∀ i, isRaw (nd s i).kind = false → Closed (nd s i) ∨ ((nd s i).kind = .heading ∧ (nd s i).parent = none) := by
  obtain ⟨hc, _⟩ := blockPhaseX_cinv c src ht s h
  intro i hr
  rcases hc.pad i hr with hcl | ⟨b, hb, _⟩ | hab
  · exact .inl hcl
  · cases hb
  · exact .inr hab

/-- the tree-walk form: every entry of a child list has that parent, and (when not raw) padding 0 on all its lines -/
theorem blockPhaseX_child_closed (c : XCfg) (src : Bytes) (ht : c.table = true) (s : St)
    (h : blockPhaseX c true src = .ok s) (p ch : Nat) (hc : ch ∈ (nd s p).children) :
    (nd s ch).parent = some p ∧ (isRaw (nd s ch).kind = false → ∀ t ∈ (nd s ch).lines, t.padding = 0) := by
  have hk := (blockPhaseX_tree c src ht s h).kid p ch hc
  refine ⟨hk, fun hr => ?_⟩
  rcases blockPhaseX_closed c src ht s h ch hr with hcl | hab
  · exact hcl
  · rw [hab.2] at hk; cases hk

/-- Document, Blockquote, List and ListItem nodes carry no lines -/
theorem blockPhaseX_no_lines (c : XCfg) (src : Bytes) (ht : c.table = true) (s : St)
    (h : blockPhaseX c true src = .ok s) : ∀ i, noLinesKind (nd s i).kind = true → (nd s i).lines = [] :=
  (blockPhaseX_cinv c src ht s h).1.nl

/-- the Document (node 0) has no lines -/
theorem blockPhaseX_root_no_lines (c : XCfg) (src : Bytes) (ht : c.table = true) (s : St)
    (h : blockPhaseX c true src = .ok s) : (nd s 0).lines = [] := by
  obtain ⟨d, rest, e, hd⟩ := GM.E2E.blockPhaseX_rootDoc c true src s h
  refine blockPhaseX_no_lines c src ht s h 0 ?_
  have : nd s 0 = d := by simp [nd, e]
  rw [this, hd]; rfl

/-- **the line facts of the block phase with tables**, in the shape of `BlockPhaseXGood`:
    (1) every line segment of every node lies in the source;
    (2) an entry of a child list that is not raw and not a `thematicBreak` node and has lines has `WF0` lines;
    (3) a `thematicBreak` entry of a child list (a table record, or a thematic break, which has no lines) has lines
        without padding;
    (4) the Document has no lines. -/
theorem blockPhaseX_line_facts (c : XCfg) (src : Bytes) (ht : c.table = true) (s : St)
    (h : blockPhaseX c true src = .ok s) :
    (∀ n ∈ s.nodes, ∀ t ∈ n.lines, segInRange src t) ∧
    (∀ p ch, ch ∈ (s.nodes.getD p default).children → GM.Convert.isRawKind (s.nodes.getD ch default).kind = false →
      (s.nodes.getD ch default).kind ≠ .thematicBreak → (s.nodes.getD ch default).lines ≠ [] →
      GM.Proof.InlinesReader.WF0 src (s.nodes.getD ch default).lines) ∧
    (∀ p ch, ch ∈ (s.nodes.getD p default).children → (s.nodes.getD ch default).kind = .thematicBreak →
      ∀ t ∈ (s.nodes.getD ch default).lines, t.padding = 0) ∧
    (s.nodes.getD 0 default).lines = [] := by
  obtain ⟨hW, _, _, _, hR⟩ := blockPhaseX_wfsegs c src ht s h
  refine ⟨fun n hn t htl => hR n hn t htl, fun p ch hc hr hk hne => ?_, fun p ch hc hk => ?_,
    blockPhaseX_root_no_lines c src ht s h⟩
  · have hr' : isRaw (nd s ch).kind = false := by
      have : isRaw (nd s ch).kind = GM.Convert.isRawKind (nd s ch).kind := by cases (nd s ch).kind <;> rfl
      rw [this]; exact hr
    have hlt : ch < s.nodes.length := by
      rcases Nat.lt_or_ge ch s.nodes.length with hh | hh
      · exact hh
      · exfalso; apply hne; show (nd s ch).lines = []; rw [nd_default_of_ge s hh]; rfl
    have hm : nd s ch ∈ s.nodes := by
      have e : nd s ch = s.nodes[ch] := by simp [nd, List.getD, hlt]
      rw [e]; exact List.getElem_mem hlt
    exact ⟨(hW _ hm hr' hk).2.2 hne, (blockPhaseX_child_closed c src ht s h p ch hc).2 hr'⟩
  · exact (blockPhaseX_child_closed c src ht s h p ch hc).2 (by
      show isRaw (nd s ch).kind = false
      have : (nd s ch).kind = .thematicBreak := hk
      rw [this]; rfl)

end GM.Blocks.TX
end BlocksTNOPhaseXEnd

section BlocksTNOWitness
/-
  Kernel-checked witness: `L.G.X.TableNodesOK src` (the hypothesis of
  `transformPT_specX`, GM.Proof.BlocksTNPTable) is false for `|a|⏎|-|⏎`: on the (valid, but never occurring) line list `[{1,1}, {0,4}, {4,8}]` the
  transformer keeps the EMPTY first line and cuts one byte off it: `{1,0}`, which `LinesOK` rejects. (The block phase never
  hands the transformer an empty line: `InvG`; GM.Proof.BlocksTNOTableData `tableNodesOK'` is the statement that holds.)
-/

namespace GM.Blocks.TX
open GM GM.Text GM.Blocks GM.TableX GM.Blocks.TO

/-- `|a|⏎|-|⏎` -/
def exT : Bytes := [124, 97, 124, 10, 124, 45, 124, 10]
def exLs : List Segment := [{ start := 1, stop := 1 }, { start := 0, stop := 4 }, { start := 4, stop := 8 }]

theorem tableNodesOK_false : ¬ GM.Blocks.L.G.X.TableNodesOK exT := by
  intro h
  cases ht : (GM.Table.transform exT (exLs.map toSeg)).table with
  | none => exact absurd ht (by decide +kernel)
  | some t =>
    have h1 := (h exLs (by decide) t ht).1
    have hp : ((GM.Table.transform exT (exLs.map toSeg)).para.map ofSeg) = [{ start := 1, stop := 0 }] := by decide +kernel
    rw [hp] at h1
    have := h1 _ (List.mem_singleton.2 rfl)
    obtain ⟨_, h2, _⟩ := this
    exact absurd h2 (by decide)

end GM.Blocks.TX
end BlocksTNOWitness
