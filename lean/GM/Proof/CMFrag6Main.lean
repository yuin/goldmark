/-
  GM.Proof.CMFrag6Main — stage 6: the source of a document whose blocks may follow each other directly, the block
  phase on it (`runT_doc6`), and the three phases composed: `NestRun X blks n k` (the block phase on `X` inside `k` block
  quotes leaves the Document, `k` Blockquotes and `n` leaves that represent `blks`; `k = 0` here: `nestRun_doc6`) and
  `convert_of_nest`, abstract in what the inline phase makes of every block (`RepDT`, GM.Proof.CMFragRep) and in the
  renderer's options.
-/
import GM.Proof.CMFrag6Run
import GM.Proof.CMFrag5
import GM.Proof.CMFragRep
import GM.Proof.CMFragNTree
import GM.Proof.CMFragNDefs
import GM.Proof.CMFragSpec

namespace GM.Proof.CMFrag
open GM GM.Text GM.Blocks GM.Spec

/-- the source: `sep` blank lines, the lines of the block, …, `trail` blank lines -/
def rawDoc6 : List (Nat × Raw5) → Nat → Bytes
  | [], trail => blanks trail
  | (s, b) :: rest, trail => blanks s ++ (paraBytes (lines5 b) ++ rawDoc6 rest trail)

theorem docAt6_raw : ∀ (items : List (Nat × Raw5)) (trail : Nat) (pre : Bytes),
    (∀ it ∈ items, ∀ l ∈ lines5 it.2, ∀ c ∈ l, c ≠ 10) →
    DocAt6 (pre ++ rawDoc6 items trail) pre.length items trail
  | [], trail, pre, _ => by
    have h := blanksAt_append trail pre []
    simp only [List.append_nil] at h
    exact ⟨h, by simp [rawDoc6, blanks]⟩
  | (s, b) :: rest, trail, pre, hno => by
    have hb := blanksAt_append s pre (paraBytes (lines5 b) ++ rawDoc6 rest trail)
    have e1 : pre ++ rawDoc6 ((s, b) :: rest) trail = (pre ++ blanks s) ++ (paraBytes (lines5 b) ++ rawDoc6 rest trail) := by
      simp [rawDoc6]
    have l1 : (pre ++ blanks s).length = pre.length + s := by simp [blanks]
    have hp := paraAt_src (lines5 b) (pre ++ blanks s) (rawDoc6 rest trail) (hno (s, b) (by simp))
    rw [l1] at hp
    have e2 : pre ++ rawDoc6 ((s, b) :: rest) trail = (pre ++ blanks s ++ paraBytes (lines5 b)) ++ rawDoc6 rest trail := by
      simp [rawDoc6]
    have l2 : (pre ++ blanks s ++ paraBytes (lines5 b)).length = pre.length + s + (paraBytes (lines5 b)).length := by
      simp [blanks]; omega
    have ih := docAt6_raw rest trail (pre ++ blanks s ++ paraBytes (lines5 b)) (fun it hit => hno it (by simp [hit]))
    rw [l2] at ih
    exact ⟨by rw [show rawDoc6 ((s, b) :: rest) trail = blanks s ++ (paraBytes (lines5 b) ++ rawDoc6 rest trail) from rfl]; exact hb,
      by rw [e1]; exact hp, by rw [e2]; exact ih⟩

theorem left6_nl : ∀ (items : List (Nat × Raw5)) (trail : Nat),
    (∀ it ∈ items, ∀ l ∈ lines5 it.2, ∀ c ∈ l, c ≠ 10) → left6 items trail = nlCount (rawDoc6 items trail)
  | [], trail, _ => by simp [left6, rawDoc6, nl_blanks]
  | (s, b) :: rest, trail, hno => by
    have ih := left6_nl rest trail (fun it hit => hno it (by simp [hit]))
    have hp := nl_para (lines5 b) (hno (s, b) (by simp))
    simp only [left6, rawDoc6, nl_append, nl_blanks, hp, ih]
    omega

theorem runT_doc6 (items : List (Nat × Raw5)) (trail : Nat) (hgood : ∀ it ∈ items, Good5 it.2)
    (hseps : SepsOK6 none items) (hic : IcOK6 false items)
    (hno : ∀ it ∈ items, ∀ l ∈ lines5 it.2, ∀ c ∈ l, c ≠ 10) :
    ∃ s' bs, runT pts (rawDoc6 items trail) = .ok s' ∧ bs.length = items.length ∧
      s'.nodes = addKids { kind := .document } 0 items.length ::
        mkNodes5 (closedOf6 0 items) (items.map (·.2)) bs ∧ s'.pc.refs = [] := by
  have hd := docAt6_raw items trail [] hno
  simp only [List.nil_append, List.length_nil] at hd
  have hl := left6_nl items trail hno
  have hf : left6 items trail + 2 ≤ linesFuel (rawDoc6 items trail) := by
    simp only [linesFuel, lineCount]
    have : nlCount (rawDoc6 items trail) = (List.filter (fun x => x == 10) (rawDoc6 items trail)).length := rfl
    omega
  obtain ⟨s', bs, h1, h2, h3, h4⟩ :=
    (claim6_all (src := rawDoc6 items trail) items).1 trail 0 0 (linesFuel (rawDoc6 items trail)) []
      { kind := .document } [] ({ } : Ctx) hd hgood hseps hic hf rfl
  rw [mkNodes5L_node5] at h3
  refine ⟨s', bs, ?_, h2, by simpa using h3, h4⟩
  unfold runT parseBlocksT
  simp only [bind_apply, modPc_run, source_run, initSt, reader_new, rdr_source]
  simp only [h1]
  rfl

theorem closedOf6_length : ∀ (items : List (Nat × Raw5)) (q : Nat), (closedOf6 q items).length = items.length
  | [], _ => rfl
  | (s, b) :: rest, q => by simp [closedOf6, closedOf6_length rest]

/-- `docTree` reads the closed node of block `b` — wherever it lies in whatever source, its lines ending with line
    feeds — as the node `n` -/
def BlockDT (env : GM.Inl.Env) (b : Raw5) (n : GM.Node) : Prop :=
  ∀ (src : Bytes) (p : Nat) (bk : Bool), ParaAt src p (lines5 b) → p ≤ src.length →
    GM.Convert.docTree true env src (.node (node5 p b bk) []) = .ok n

theorem blockDT_of_rep {env : GM.Inl.Env} {b : Raw5} {n : GM.Node} (H : RepDT env b n) : BlockDT env b n :=
  fun src p bk hpa _ => H src _ (rep_base b p bk hpa) (node5_children p b bk)

/-- block by block -/
def AllBlk (P : Raw5 → GM.Node → Prop) : List (Nat × Raw5) → List GM.Node → Prop
  | it :: items, n :: ns => P it.2 n ∧ AllBlk P items ns
  | [], [] => True
  | _, _ => False

/-- every block's closed node is read by `docTree` as the given node -/
def AllDTN (src : Bytes) (env : GM.Inl.Env) : List (Nat × List Bytes) → List Raw5 → List GM.Node → Prop
  | (p, _) :: cl, b :: blks, n :: ns =>
    (∀ bk, GM.Convert.docTree true env src (.node (node5 p b bk) []) = .ok n) ∧ AllDTN src env cl blks ns
  | [], [], [] => True
  | _, _, _ => False

theorem repL_base {S : Bytes} : ∀ (items : List (Nat × Raw5)) (trail q : Nat) (bs : List Bool),
    DocAt6 S q items trail → bs.length = items.length →
    RelL (Rep S) (items.map (·.2)) (mkNodes5 (closedOf6 q items) (items.map (·.2)) bs)
  | [], _, _, _, _, _ => by simp [mkNodes5, closedOf6, RelL]
  | _ :: _, _, _, [], _, hl => by simp at hl
  | (s, b) :: rest, trail, q, bk :: bs, hd, hl => by
    simp only [List.map_cons, closedOf6, mkNodes5, RelL]
    exact ⟨rep_base b (q + s) bk hd.2.1, repL_base rest trail _ bs hd.2.2 (by simpa using hl)⟩

theorem docTrees_rep (env : GM.Inl.Env) (X : Bytes) : ∀ (blks : List Raw5) (ns : List GM.Node) (leaves : List Blocks.Node),
    RelL (Rep X) blks leaves → (∀ m ∈ leaves, m.children = []) → RelL (RepDT env) blks ns →
    GM.Convert.docTrees true env X (leaves.map fun m => Tree.node m []) = .ok ns
  | [], [], [], _, _, _ => by simp [GM.Convert.docTrees, pure, Except.pure]
  | [], [], _ :: _, h, _, _ => h.elim
  | [], _ :: _, _, _, _, h => h.elim
  | _ :: _, [], _, _, _, h => h.elim
  | _ :: _, _ :: _, [], h, _, _ => h.elim
  | b :: blks, n :: ns, m :: ms, h1, hc, h2 => by
    have ih := docTrees_rep env X blks ns ms h1.2 (fun x hx => hc x (by simp [hx])) h2.2
    simp only [List.map_cons, GM.Convert.docTrees, h2.1 X m h1.1 (hc m (by simp)), ih, bind, Except.bind, pure,
      Except.pure]

/-- the block phase on `qpN k X` leaves the Document, `k` nested Blockquotes and `n` leaves that represent the blocks
    `blks` -/
def NestRun (X : Bytes) (blks : List Raw5) (n k : Nat) : Prop :=
  ∃ (s : St) (leaves : List Blocks.Node),
    GM.Convert.blockPhase true (qpN k X) = .ok s ∧ QShapeN k n s.nodes leaves ∧ RelL (Rep (qpN k X)) blks leaves

/-- **the three phases on a source whose block phase is a `NestRun`**, given what `docTree` reads from a representing
    node and what the renderer writes -/
theorem convert_of_nest (uc : List (Nat × (Bool × Bool))) (o : GM.Convert.ROpts) {X : Bytes} {blks : List Raw5}
    {n k : Nat} (h : NestRun X blks n k) (ns : List GM.Node) (html : Bytes)
    (hblk : ∀ env : GM.Inl.Env, env.escapedSpace = false → RelL (RepDT env) blks ns)
    (hr : GM.Convert.renderDoc o (nestNodeN k ns) = .ok html) :
    GM.Convert.convertCore uc o (qpN k X) = .ok html := by
  obtain ⟨s, leaves, hBP, hq, hrep⟩ := h
  have hdt := docTrees_rep { refs := s.pc.refs, uc := uc } (qpN k X) blks ns leaves hrep hq.leaf (hblk _ rfl)
  have htree := docTree_nestN hq { refs := s.pc.refs, uc := uc } (qpN k X) ns hdt
  unfold GM.Convert.convertCore GM.Convert.convertWith GM.Convert.parseDoc
  simp only [hBP, GM.Convert.liftErr, bind, Except.bind, htree]
  exact hr

theorem nestRun_zero {X : Bytes} {s' : St} (hrunT : runT pts X = .ok s') (blks : List Raw5)
    (leaves : List Blocks.Node) (h3 : s'.nodes = addKids { kind := .document } 0 leaves.length :: leaves)
    (hch : ∀ m ∈ leaves, m.children = []) (hrep : RelL (Rep X) blks leaves) : NestRun X blks leaves.length 0 := by
  have hq := qshape_baseN (addKids { kind := .document } 0 leaves.length) leaves rfl rfl (by simp [addKids]) hch
  rw [← h3] at hq
  exact ⟨s', leaves, hrunT, hq, hrep⟩

theorem nestRun_doc6 (items : List (Nat × Raw5)) (trail : Nat)
    (hgood : ∀ it ∈ items, Good5 it.2) (hseps : SepsOK6 none items) (hic : IcOK6 false items)
    (hno : ∀ it ∈ items, ∀ l ∈ lines5 it.2, ∀ c ∈ l, c ≠ 10) :
    NestRun (rawDoc6 items trail) (items.map (·.2)) items.length 0 := by
  obtain ⟨s', bs, h1, h2, h3, _⟩ := runT_doc6 items trail hgood hseps hic hno
  have hd := docAt6_raw items trail [] hno
  simp only [List.nil_append, List.length_nil] at hd
  have hlen : (closedOf6 0 items).length = items.length := closedOf6_length items 0
  have hml := mkNodes5_length (closedOf6 0 items) (items.map (·.2)) bs (by simp [hlen]) (by rw [hlen]; exact h2)
  rw [hlen] at hml
  have := nestRun_zero h1 (items.map (·.2)) _ (by rw [hml]; exact h3) (mkNodes5_children _ _ _)
    (repL_base items trail 0 bs hd h2)
  rwa [hml] at this

theorem repL_good (env : GM.Inl.Env) (henv : env.escapedSpace = false) (blks : List Raw5) (h : ∀ b ∈ blks, Good5' b) :
    RelL (RepDT env) blks (blks.map rawNode5) := by
  simpa using relL_map id rawNode5 blks (fun b hb => repDT_good env henv b (h b hb))

/-- the model of `goldmark.Convert` on the source of a stage-6 document of good blocks -/
theorem convert_raw6_any (o : GM.Convert.ROpts) (ho : o.hardWraps = false) (hxo : o.xhtml = true)
    (uc : List (Nat × (Bool × Bool))) (items : List (Nat × Raw5)) (trail : Nat)
    (hgood : ∀ it ∈ items, Good5' it.2) (hseps : SepsOK6 none items) (hic : IcOK6 false items) :
    GM.Convert.convertCore uc o (rawDoc6 items trail) = .ok (hdocHtml (items.map (·.2))) := by
  have hlev : ∀ b ∈ items.map (·.2), ∀ level l, b = Raw5.old (RawBlock.atx level l) → level ≤ 6 := by
    intro b hb level l he
    obtain ⟨it, hit, rfl⟩ := List.mem_map.mp hb
    have := hgood it hit
    rw [he] at this
    exact this.2.1
  exact convert_of_nest uc o (nestRun_doc6 items trail (fun it hit => good5_of it.2 (hgood it hit)) hseps hic
      (fun it hit => lines5_no_nl it.2 (hgood it hit))) _ _
    (fun env henv => repL_good env henv _ (fun b hb => by
      obtain ⟨it, hit, rfl⟩ := List.mem_map.mp hb
      exact hgood it hit))
    (by rw [nestNode_zeroN]; simpa [hdocNode] using renderDoc_hdoc_any o ho hxo (items.map (·.2)) hlev)

/-- **stage 12**: the model of `goldmark.Convert` on the source of a document of paragraphs, ATX headings, thematic
    breaks, fenced code blocks and INDENTED CODE BLOCKS (`Raw5.icode`), blocks abutting where CommonMark allows (an
    indented code block needs a blank line behind a paragraph: `AbutOK5`) and no indented code block behind an indented
    code block (`IcOK6`): exactly the prescribed HTML `hdocHtml` -/
theorem convert_raw12 (uc : List (Nat × (Bool × Bool))) (items : List (Nat × Raw5)) (trail : Nat)
    (hgood : ∀ it ∈ items, Good5' it.2) (hseps : SepsOK6 none items) (hic : IcOK6 false items) :
    GM.Convert.convertCore uc cmOpts (rawDoc6 items trail) = .ok (hdocHtml (items.map (·.2))) :=
  convert_raw6_any cmOpts rfl rfl uc items trail hgood hseps hic

open GM.Spec.CM GM.Spec.CMFrag

def convK (it : KItem) : Nat × Raw5 := (it.sep, rawOfH it.block)

theorem spellK_raw (d : KDoc) : spellK d = rawDoc6 (d.items.map convK) d.trail := by
  obtain ⟨items, trail⟩ := d
  simp only [spellK]
  induction items with
  | nil => rfl
  | cons it rest ih =>
    simp only [List.flatMap_cons, List.map_cons, convK, rawDoc6, paraBytes_rawOfH, blanks_eq] at ih ⊢
    rw [← ih]
    simp

theorem isParaB_rawOfH (a : HBlock) : isParaB (rawOfH a) = (match a with | .base (.para _) => true | _ => false) := by
  cases a with
  | base b => cases b <;> rfl
  | fcode tilde n info lines => rfl

theorem abutOK_of (a b : HBlock) (h : kabutOK a b = true) : AbutOK5 (isParaB (rawOfH a)) (rawOfH b) := by
  cases b with
  | base b' =>
    cases b' with
    | para lines =>
      cases a with
      | base a' => cases a' <;> simp [kabutOK] at h <;> simp [rawOfH, rawOfG, AbutOK5, isParaB]
      | fcode tilde n info ls => simp [rawOfH, rawOfG, AbutOK5, isParaB]
    | heading level text => simp [rawOfH, rawOfG, AbutOK5]
    | thematic c n =>
      simp only [rawOfH, rawOfG, AbutOK5]
      intro hp
      cases a with
      | base a' =>
        cases a' with
        | para lines =>
          simp only [kabutOK, bne_iff_ne, ne_eq] at h
          simp only [thematicLine, Bool.false_eq_true, if_false, List.replicate_succ, List.head?_cons]
          intro he
          simp only [Option.some.injEq] at he
          split at he
          · cases he
          · rename_i h0
            split at he
            · rename_i h1; simp at h1; exact h h1
            · cases he
        | heading _ _ => simp [rawOfH, rawOfG, isParaB] at hp
        | thematic _ _ => simp [rawOfH, rawOfG, isParaB] at hp
      | fcode tilde n' info ls => simp [rawOfH, isParaB] at hp
  | fcode tilde n info lines => simp [rawOfH, AbutOK5]

theorem sepsOK_of : ∀ (prev : Option HBlock) (items : List KItem), ksepsOK prev items = true →
    SepsOK6 (prev.map fun a => isParaB (rawOfH a)) (items.map convK)
  | _, [], _ => by cases ‹Option HBlock› <;> trivial
  | none, it :: rest, h => by
    simp only [ksepsOK] at h
    exact sepsOK_of (some it.block) rest h
  | some a, it :: rest, h => by
    simp only [ksepsOK, Bool.and_eq_true, Bool.or_eq_true, bne_iff_ne, ne_eq] at h
    refine ⟨?_, sepsOK_of (some it.block) rest h.2⟩
    intro hs
    rcases h.1 with h1 | h1
    · exact absurd hs h1
    · exact abutOK_of a it.block h1

/-- **the conformance theorem of the stage-6 fragment**, for any renderer options with XHTML and without HardWraps -/
theorem fragment6_conforms_any (o : GM.Convert.ROpts) (ho : o.hardWraps = false) (hxo : o.xhtml = true)
    (d : KDoc) (h : KFrag d) (uc : List (Nat × (Bool × Bool))) :
    GM.Convert.convertCore uc o (spellK d) = .ok (expectedK d) := by
  unfold KFrag kfragB at h
  simp only [Bool.and_eq_true, List.all_eq_true] at h
  obtain ⟨hok, hseps⟩ := h
  have hgood : ∀ it ∈ d.items.map convK, Good5' it.2 := by
    intro x hx
    obtain ⟨it, hit, rfl⟩ := List.mem_map.mp hx
    exact good5_rawOfH it.block (hok it hit)
  have hnoic : ∀ it ∈ d.items.map convK, isIcB it.2 = false := by
    intro x hx
    obtain ⟨it, hit, rfl⟩ := List.mem_map.mp hx
    exact isIcB_rawOfH it.block
  have hc := convert_raw6_any o ho hxo uc (d.items.map convK) d.trail hgood (sepsOK_of none d.items hseps)
    (icOK6_of_none _ false hnoic)
  rw [spellK_raw, hc]
  have he : expectedK d = hdocHtml ((d.items.map (·.block)).map rawOfH) := by
    rw [hdocHtml_spelled _ (by
      intro b hb
      obtain ⟨it, hit, rfl⟩ := List.mem_map.mp hb
      exact hok it hit)]
    simp [expectedK, List.flatMap_map]
  rw [he]
  simp [convK, List.map_map, Function.comp_def]

/-- **the conformance theorem of the stage-6 fragment** -/
theorem fragment6_conforms (d : KDoc) (h : KFrag d) (uc : List (Nat × (Bool × Bool))) :
    GM.Convert.convertCore uc cmOpts (spellK d) = .ok (expectedK d) :=
  fragment6_conforms_any cmOpts rfl rfl d h uc

end GM.Proof.CMFrag
