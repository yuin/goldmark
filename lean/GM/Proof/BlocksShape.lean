/-
  GM.Proof.BlocksShape — The shape of the final store of the block phase (`run`, every byte string) as the end-to-end proof of C05 consumes it: lines in range and ordered,
  Document / List nodes without lines, and `run_list_shape` (a child is a ListItem exactly when its parent is a List), for which `ItemPar` ("a ListItem's parent
  is a List") is carried through the parser functions (`JP`) and through the driver by the rule of GM.Proof.BlocksDriverKeeps.
-/
import GM.Proof.BlocksClosedRun
import GM.Proof.BlocksStep
import GM.Proof.BlocksDriverKeeps
import GM.Proof.BlocksOrdRun

section ItemParParsers
/-
  "a ListItem's parent is a List" (`ItemPar`), as an invariant of every function of the block
  phase (transformer-free driver), by a syntactic walk.

  `ItemPar s`: every node of kind ListItem whose parent pointer is set points to a node of kind List.
  `JP m`: `m` keeps `ItemPar`, does not shrink the store and keeps the kind of every existing node (`KG`): `IFr` of
  the relation `JPr` (GM.Proof.BlocksFrameSteps).
  Every write of the model keeps `ItemPar` UNCONDITIONALLY — `RemoveChild` only clears a parent pointer, the nodes
  `InsertAfter` / `ReplaceChild` attach in setext / list `Close` are fresh Paragraph / TextBlock nodes, the parsers write
  no links — except ONE: `parent.AppendChild(parent, node)` in openBlocks (parser.go:1003) for the node `Open` has just
  built. For that one: the node is fresh (`RFr`), fresh nodes have the kind the parser builds (`KindsNew`), and
  listItemParser.Open answers a node only under a List (list_item.go:25-28).
-/

namespace GM.Blocks
open GM GM.Text GM.Spec GM.Proof.Reader

/-- a ListItem's parent is a List -/
def ItemPar (s : St) : Prop :=
  ∀ i p, (nd s i).kind = .listItem → (nd s i).parent = some p → (nd s p).kind = .list

theorem ItemPar.of_nodes {s s' : St} (hJ : ItemPar s) (h : s'.nodes = s.nodes) : ItemPar s' := by
  intro i p hk hp
  simp only [nd, h] at hk hp ⊢
  exact hJ i p hk hp

theorem lt_of_kind_list {s : St} {p : Nat} (h : (nd s p).kind = .list) : p < s.nodes.length := by
  rcases Nat.lt_or_ge p s.nodes.length with h' | h'
  · exact h'
  · rw [nd_default_of_ge s h'] at h; cases h

/-- one write that keeps kinds; the parent it writes into a ListItem (if any) is a List -/
theorem modNode_ip {id : Nat} {f : Node → Node} {s s' : St} {a : Unit} (hJ : ItemPar s)
    (e : modNode id f s = .ok (a, s')) (hk : ∀ n, (f n).kind = n.kind)
    (hp : (nd s id).kind = .listItem → ∀ p, (f (nd s id)).parent = some p → (nd s p).kind = .list) :
    ItemPar s' ∧ KG s s' := by
  have e' := modNode_ok e
  have hkind : ∀ i, (nd s' i).kind = (nd s i).kind := by
    intro i
    rw [e', nd_mod]
    split
    · next hc => rw [hc.1]; exact hk _
    · rfl
  refine ⟨fun i p hki hpi => ?_, by rw [e']; simp, fun i _ => hkind i⟩
  rw [hkind] at hki ⊢
  rw [e', nd_mod] at hpi
  split at hpi
  · next hc =>
    rw [← hc.1] at hki
    exact hp hki p hpi
  · exact hJ i p hki hpi

/-- `ItemPar` is kept, the store does not shrink and existing nodes keep their kind -/
def JPr (s s' : St) : Prop := ItemPar s → ItemPar s' ∧ KG s s'

abbrev JP {α : Type} (m : M α) : Prop := IFr JPr m

theorem jpFrame : FrameRel JPr :=
  ⟨fun h1 h2 hJ => ⟨(h2 (h1 hJ).1).1, (h1 hJ).2.trans (h2 (h1 hJ).1).2⟩, fun h hJ => ⟨hJ.of_nodes h, KG.of_nodes h⟩⟩

theorem modNode_jp (id : Nat) (f : Node → Node) (hk : ∀ n, (f n).kind = n.kind) (hp : ∀ n, (f n).parent = n.parent) :
    JP (modNode id f) :=
  ⟨fun s a s' e hJ => modNode_ip hJ e hk (fun hki p hpi => hJ id p hki (by rw [← hp]; exact hpi))⟩

theorem modNode_keep_ip {id : Nat} {f : Node → Node} {s s' : St} {a : Unit} (hJ : ItemPar s)
    (e : modNode id f s = .ok (a, s')) (hk : ∀ n, (f n).kind = n.kind) (hp : ∀ n, (f n).parent = n.parent) :
    ItemPar s' ∧ KG s s' := (modNode_jp id f hk hp).h s a s' e hJ

theorem modNode_jp_none (id : Nat) (f : Node → Node) (hk : ∀ n, (f n).kind = n.kind) (hp : ∀ n, (f n).parent = none) :
    JP (modNode id f) :=
  ⟨fun s a s' e hJ => modNode_ip hJ e hk (fun _ p hpi => by rw [hp] at hpi; cases hpi)⟩

theorem newNode_jp (n : Node) (hn : n.parent = none) : JP (newNode n) := by
  constructor
  intro s a s' h hJ
  obtain ⟨_, hs⟩ := newNode_ok h
  have hsn : s'.nodes = s.nodes ++ [n] := by rw [hs]
  have hold : ∀ i, i < s.nodes.length → nd s' i = nd s i := fun i hi => GM.Blocks.L.nd_append_lt hsn hi
  refine ⟨fun i p hk hp => ?_, by rw [hsn]; simp, fun i hi => by rw [hold i hi]⟩
  rcases Nat.lt_or_ge i s.nodes.length with hi | hi
  · rw [hold i hi] at hk hp
    have := hJ i p hk hp
    rw [hold p (lt_of_kind_list this)]; exact this
  · rcases Nat.eq_or_lt_of_le hi with e | e
    · rw [← e, GM.Blocks.L.nd_append_self hsn, hn] at hp; cases hp
    · rw [GM.Blocks.L.nd_append_gt hsn e] at hk; cases hk

theorem removeChild_jp (p c : Nat) : JP (removeChild p c) := by
  have := jpFrame
  have := modNode_jp p (fun n => { n with children := n.children.erase c }) (fun _ => rfl) (fun _ => rfl)
  have := modNode_jp_none c (fun n => { n with parent := none }) (fun _ => rfl) (fun _ => rfl)
  unfold removeChild; stepsR
theorem ensureIsolated_jp (c : Nat) : JP (ensureIsolated c) := by
  have := jpFrame
  have := removeChild_jp
  unfold ensureIsolated; stepsR
theorem nextSibling_jp (c : Nat) : JP (nextSibling c) := by
  have := jpFrame
  unfold nextSibling; stepsR

/-- `AppendChild(p, c)` for a node `c` that is not a ListItem, or under a List -/
theorem appendChild_ip {p c : Nat} {s s' : St} {a : Unit} (hJ : ItemPar s)
    (hc : (nd s c).kind = .listItem → (nd s p).kind = .list) (e : appendChild p c s = .ok (a, s')) :
    ItemPar s' ∧ KG s s' := by
  unfold appendChild at e
  obtain ⟨_, s1, h1, k1⟩ := bind_ok e
  obtain ⟨j1, q1⟩ := (ensureIsolated_jp c).h s _ s1 h1 hJ
  obtain ⟨_, s2, h2, k2⟩ := bind_ok k1
  obtain ⟨j2, q2⟩ := modNode_keep_ip j1 h2 (fun _ => rfl) (fun _ => rfl)
  have q12 := q1.trans q2
  -- kinds of `c` and `p` in `s2`
  have hk2 : ∀ i, (nd s2 i).kind = .listItem ∨ (nd s2 i).kind = .list → i < s.nodes.length → (nd s2 i).kind = (nd s i).kind :=
    fun i _ hi => q12.2 i hi
  obtain ⟨j3, q3⟩ := modNode_ip j2 k2 (fun _ => rfl) (fun hkc q hq => by
    simp only at hq
    cases hq
    rcases Nat.lt_or_ge c s.nodes.length with hcl | hcl
    · rw [q12.2 c hcl] at hkc
      have hpl := hc hkc
      have hplt := lt_of_kind_list hpl
      rw [q12.2 p hplt]; exact hpl
    · -- `c` is not a node of `s`: it is not a node of `s2` either, or a new one; neither case arises for a ListItem
      exfalso
      have e1 := modNode_ok h2
      have hlen12 : s2.nodes.length = s1.nodes.length := by rw [e1]; simp
      have hlen01 : s1.nodes.length = s.nodes.length := (ensureIsolated_lk h1).len
      rw [nd_default_of_ge s2 (by omega)] at hkc
      cases hkc)
  exact ⟨j3, q12.trans q3⟩

/-- `InsertBefore(p, v1, ins)` for a node `ins` that is not a ListItem -/
theorem insertBefore_ip {p : Nat} {v1 : Option Nat} {ins : Nat} {s s' : St} {a : Unit} (hJ : ItemPar s)
    (hc : (nd s ins).kind ≠ .listItem) (hil : ins < s.nodes.length) (e : insertBefore p v1 ins s = .ok (a, s')) :
    ItemPar s' ∧ KG s s' := by
  have app : ∀ sA, ItemPar sA → KG s sA → appendChild p ins sA = .ok (a, s') → ItemPar s' ∧ KG s s' := by
    intro sA jA qA k
    obtain ⟨j, q⟩ := appendChild_ip jA (fun hk => by rw [qA.2 ins hil] at hk; exact absurd hk hc) k
    exact ⟨j, qA.trans q⟩
  unfold insertBefore at e
  cases v1 with
  | none => exact app s hJ (KG.refl s) e
  | some v =>
    dsimp only at e
    obtain ⟨vn, s1, h1, k1⟩ := bind_ok e
    obtain ⟨_, hs1⟩ := getNode_ok h1
    subst s1
    split at k1
    · exact app s hJ (KG.refl s) k1
    · obtain ⟨_, s2, h2, k2⟩ := bind_ok k1
      obtain ⟨j2, q2⟩ := (ensureIsolated_jp ins).h s _ s2 h2 hJ
      obtain ⟨_, s3, h3, k3⟩ := bind_ok k2
      obtain ⟨j3, q3⟩ := modNode_keep_ip j2 h3 (fun _ => rfl) (fun _ => rfl)
      have q23 := q2.trans q3
      obtain ⟨j4, q4⟩ := modNode_ip j3 k3 (fun _ => rfl) (fun hk _ _ => by
        rw [q23.2 ins hil] at hk; exact absurd hk hc)
      exact ⟨j4, q23.trans q4⟩

theorem insertAfter_ip {p : Nat} {v1 : Option Nat} {ins : Nat} {s s' : St} {a : Unit} (hJ : ItemPar s)
    (hc : (nd s ins).kind ≠ .listItem) (hil : ins < s.nodes.length) (e : insertAfter p v1 ins s = .ok (a, s')) :
    ItemPar s' ∧ KG s s' := by
  unfold insertAfter at e
  cases v1 with
  | none =>
    obtain ⟨j, q⟩ := appendChild_ip hJ (fun hk => absurd hk hc) e
    exact ⟨j, q⟩
  | some v =>
    dsimp only at e
    obtain ⟨nx, s1, h1, k1⟩ := bind_ok e
    obtain ⟨j1, q1⟩ := (nextSibling_jp v).h s _ s1 h1 hJ
    have fin : ∀ (m : M (Option Nat)), JP m → (m >>= fun next => insertBefore p next ins) s1 = .ok (a, s') →
        ItemPar s' ∧ KG s s' := by
      intro m hm k
      obtain ⟨nx2, s2, h2, k2⟩ := bind_ok k
      obtain ⟨j2, q2⟩ := hm.h s1 _ s2 h2 j1
      have q12 := q1.trans q2
      obtain ⟨j3, q3⟩ := insertBefore_ip j2 (by rw [q12.2 ins hil]; exact hc) (Nat.lt_of_lt_of_le hil q12.1) k2
      exact ⟨j3, q12.trans q3⟩
    split at k1
    · exact fin _ (nextSibling_jp ins) k1
    · exact fin _ (IFr.pure jpFrame.toFrPre nx) k1

theorem replaceChild_ip {p v1 ins : Nat} {s s' : St} {a : Unit} (hJ : ItemPar s)
    (hc : (nd s ins).kind ≠ .listItem) (hil : ins < s.nodes.length) (e : replaceChild p v1 ins s = .ok (a, s')) :
    ItemPar s' ∧ KG s s' := by
  unfold replaceChild at e
  obtain ⟨_, s1, h1, k1⟩ := bind_ok e
  obtain ⟨j1, q1⟩ := insertBefore_ip hJ hc hil h1
  obtain ⟨j2, q2⟩ := (removeChild_jp p v1).h s1 _ s' k1 j1
  exact ⟨j2, q1.trans q2⟩

theorem appendLine_jp (id : Nat) (seg : Segment) : JP (appendLine id seg) := modNode_jp _ _ (fun _ => rfl) (fun _ => rfl)

theorem bpOpen_jp (bp : BP) (p : Nat) : JP (bpOpen bp p) :=
  bpOpen_stepsR jpFrame bp (fun _ f hf => modNode_jp _ f (fun n => (hf.data.links n).1) fun n => (hf.data.links n).2.1)
    (fun n _ hp _ => newNode_jp n hp) p

theorem bpContinue_jp (bp : BP) (n : Nat) : JP (bpContinue bp n) :=
  bpContinue_stepsR jpFrame bp n fun f hf => modNode_jp _ f (fun n => (hf.data.links n).1) fun n => (hf.data.links n).2.1

/-- the replacement paragraph of setextHeadingParser.Close (setext_headings.go:100-104): a fresh Paragraph is attached -/
theorem setext_para_jp (hp node : Nat) (segment : Segment) :
    JP (do
      let para ← newNode { kind := .paragraph }
      appendLine para segment
      insertAfter hp (some node) para : M Unit) := by
  constructor
  intro s a s' h hJ
  obtain ⟨para, s1, h1, k1⟩ := bind_ok h
  obtain ⟨j1, q1⟩ := (newNode_jp { kind := .paragraph } rfl).h s _ s1 h1 hJ
  obtain ⟨hpara, hs1⟩ := newNode_ok h1
  have hsn : s1.nodes = s.nodes ++ [{ kind := .paragraph }] := by rw [hs1]
  obtain ⟨_, s2, h2, k2⟩ := bind_ok k1
  obtain ⟨j2, q2⟩ := (appendLine_jp para segment).h s1 _ s2 h2 j1
  have hlt1 : para < s1.nodes.length := by rw [hsn, hpara]; simp
  have hk1 : (nd s1 para).kind = .paragraph := by rw [hpara, GM.Blocks.L.nd_append_self hsn]
  obtain ⟨j3, q3⟩ := insertAfter_ip j2 (by rw [q2.2 para hlt1, hk1]; decide) (Nat.lt_of_lt_of_le hlt1 q2.1) k2
  exact ⟨j3, (q1.trans q2).trans q3⟩

theorem setext_para_jp' {β : Type} (hp node : Nat) (segment : Segment) (K : Unit → M β) (hK : ∀ r, JP (K r)) :
    JP (newNode { kind := .paragraph } >>= fun para => appendLine para segment >>= fun _ =>
      insertAfter hp (some node) para >>= K) := by
  have e : (newNode { kind := .paragraph } >>= fun para => appendLine para segment >>= fun _ =>
      insertAfter hp (some node) para >>= K) =
      ((do let para ← newNode { kind := .paragraph }
           appendLine para segment
           insertAfter hp (some node) para : M Unit) >>= K) := by
    simp only [bind_assoc]
  rw [e]
  exact IFr.bind jpFrame.toFrPre (setext_para_jp hp node segment) hK

theorem setextClose_jp (node : Nat) : JP (setextClose node) := by
  have := jpFrame
  have := @setext_para_jp'
  have := removeChild_jp
  have := nextSibling_jp
  have := modNode_jp
  unfold setextClose
  stepsR'

/-- the Paragraph → TextBlock replacement of listParser.Close (list.go:270-275): a fresh TextBlock is attached -/
theorem tighten_one_jp (child gc : Nat) (g : Node) :
    JP (do
      let tb ← newNode { kind := .textBlock, lines := g.lines, linesNil := g.linesNil }
      replaceChild child gc tb : M Unit) := by
  constructor
  intro s a s' h hJ
  obtain ⟨tb, s1, h1, k1⟩ := bind_ok h
  obtain ⟨j1, q1⟩ := (newNode_jp { kind := .textBlock, lines := g.lines, linesNil := g.linesNil } rfl).h s _ s1 h1 hJ
  obtain ⟨htb, hs1⟩ := newNode_ok h1
  have hsn : s1.nodes = s.nodes ++ [{ kind := .textBlock, lines := g.lines, linesNil := g.linesNil }] := by rw [hs1]
  have hlt1 : tb < s1.nodes.length := by rw [hsn, htb]; simp
  have hk1 : (nd s1 tb).kind = .textBlock := by rw [htb, GM.Blocks.L.nd_append_self hsn]
  obtain ⟨j2, q2⟩ := replaceChild_ip j1 (by rw [hk1]; decide) hlt1 k1
  exact ⟨j2, q1.trans q2⟩

theorem tightenItem_jp (child : Nat) : ∀ gcs, JP (tightenItem child gcs) := by
  intro gcs
  induction gcs with
  | nil => unfold tightenItem; exact IFr.pure jpFrame.toFrPre _
  | cons gc gcs ih =>
    unfold tightenItem
    refine IFr.bind jpFrame.toFrPre ((getNode_ns _).stepsR jpFrame) fun g => ?_
    dsimp only
    refine IFr.ite ?_ ih
    have e : (newNode { kind := .textBlock, lines := g.lines, linesNil := g.linesNil } >>= fun tb =>
        replaceChild child gc tb >>= fun _ => tightenItem child gcs) =
        ((do let tb ← newNode { kind := .textBlock, lines := g.lines, linesNil := g.linesNil }
             replaceChild child gc tb : M Unit) >>= fun _ => tightenItem child gcs) := by
      simp only [bind_assoc]
    rw [e]
    exact IFr.bind jpFrame.toFrPre (tighten_one_jp child gc g) fun _ => ih

theorem tightenItems_jp : ∀ l, JP (tightenItems l) := by
  intro l
  induction l with
  | nil => unfold tightenItems; exact IFr.pure jpFrame.toFrPre _
  | cons c rest ih =>
    have := jpFrame
    have := tightenItem_jp
    unfold tightenItems
    stepsR

theorem listClose_jp (node : Nat) : JP (listClose node) := by
  have := jpFrame
  have := tightenItems_jp
  have := modNode_jp
  unfold listClose
  stepsR

theorem bpClose_jp (bp : BP) (node : Nat) : JP (bpClose bp node) := by
  have := jpFrame
  have := modNode_jp
  cases bp <;> unfold bpClose
  · exact setextClose_jp node
  · exact IFr.pure jpFrame.toFrPre _
  · exact listClose_jp node
  · exact IFr.pure jpFrame.toFrPre _
  · unfold codeClose; stepsR
  · exact IFr.pure jpFrame.toFrPre _
  · unfold fencedClose; stepsR
  · exact IFr.pure jpFrame.toFrPre _
  · exact IFr.pure jpFrame.toFrPre _
  · have := removeChild_jp
    unfold paragraphClose; stepsR

/-- the store grows by nodes of kind `K`; existing nodes keep their kind -/
def KindsNew (K : Kind) (s s' : St) : Prop :=
  s.nodes.length ≤ s'.nodes.length ∧ (∀ i, i < s.nodes.length → (nd s' i).kind = (nd s i).kind) ∧
    (∀ i, s.nodes.length ≤ i → i < s'.nodes.length → (nd s' i).kind = K)

theorem KindsNew.refl (K : Kind) (s : St) : KindsNew K s s := ⟨Nat.le_refl _, fun _ _ => rfl, fun i h1 h2 => by omega⟩
theorem KindsNew.trans {K : Kind} {a b c : St} (h1 : KindsNew K a b) (h2 : KindsNew K b c) : KindsNew K a c := by
  refine ⟨Nat.le_trans h1.1 h2.1, fun i hi => (h2.2.1 i (Nat.lt_of_lt_of_le hi h1.1)).trans (h1.2.1 i hi), fun i hi hi' => ?_⟩
  rcases Nat.lt_or_ge i b.nodes.length with hb | hb
  · exact (h2.2.1 i hb).trans (h1.2.2 i hi hb)
  · exact h2.2.2 i hb hi'
theorem KindsNew.of_nodes {K : Kind} {s s' : St} (h : s'.nodes = s.nodes) : KindsNew K s s' :=
  ⟨by rw [h]; exact Nat.le_refl _, fun i _ => by simp only [nd, h], fun i h1 h2 => by rw [h] at h2; omega⟩

structure FrKn (K : Kind) {α : Type} (m : M α) : Prop where
  h : ∀ s a s', m s = .ok (a, s') → KindsNew K s s'

theorem FrKn.throw {K : Kind} {α} (e : Panic) : FrKn K (throw e : M α) := ⟨fun _ _ _ h => by cases h⟩

theorem kindsNewFrame (K : Kind) : FrameRel (KindsNew K) := ⟨KindsNew.trans, KindsNew.of_nodes⟩

theorem modNode_kindsNew {K : Kind} (id : Nat) (f : Node → Node) (hf : ∀ n, (f n).kind = n.kind) :
    IFr (KindsNew K) (modNode id f) := by
  constructor
  intro s a s' h
  have e := modNode_ok h
  have hkind : ∀ i, (nd s' i).kind = (nd s i).kind := by
    intro i
    rw [e, nd_mod]
    split
    · next hc => rw [hc.1]; exact hf _
    · rfl
  have hlen : s'.nodes.length = s.nodes.length := by rw [e]; simp
  exact ⟨by omega, fun i _ => hkind i, fun i h1 h2 => by omega⟩

theorem newNode_kindsNew {K : Kind} (n : Node) (hn : n.kind = K) : IFr (KindsNew K) (newNode n) := by
  constructor
  intro s a s' h
  obtain ⟨_, hs⟩ := newNode_ok h
  have hsn : s'.nodes = s.nodes ++ [n] := by rw [hs]
  refine ⟨by rw [hsn]; simp, fun i hi => by rw [GM.Blocks.L.nd_append_lt hsn hi], fun i h1 h2 => ?_⟩
  have : i = s.nodes.length := by rw [hsn] at h2; simp at h2; omega
  rw [this, GM.Blocks.L.nd_append_self hsn]; exact hn

theorem bpOpen_frkn (bp : BP) (p : Nat) : FrKn bp.kind (bpOpen bp p) :=
  ⟨(bpOpen_stepsR (kindsNewFrame bp.kind) bp (fun _ f hf => modNode_kindsNew _ f fun n => (hf.data.links n).1)
    (fun n hk _ _ => newNode_kindsNew n hk) p).h⟩

/-- the node `Open` answers is a node it has just built -/
structure RFr (m : M (Option Nat × PState)) : Prop where
  h : ∀ s a s', m s = .ok (a, s') → ∀ id, a.1 = some id → s.nodes.length ≤ id ∧ id < s'.nodes.length

/-- the node answered, if any, is `id` -/
structure RIs (id : Nat) (m : M (Option Nat × PState)) : Prop where
  h : ∀ s a s', m s = .ok (a, s') → (∀ id', a.1 = some id' → id' = id) ∧ s.nodes.length ≤ s'.nodes.length

theorem RFr.throw (e : Panic) : RFr (throw e) := ⟨fun _ _ _ h => by cases h⟩
theorem RIs.pure_none (id : Nat) (st : PState) : RIs id (pure (none, st)) :=
  ⟨fun _ _ _ h => by cases h; exact ⟨(fun id' hid' => by cases hid'), Nat.le_refl _⟩⟩
theorem RIs.throw (id : Nat) (e : Panic) : RIs id (throw e) := ⟨fun _ _ _ h => by cases h⟩

theorem bpOpen_rfr (bp : BP) (p : Nat) : RFr (bpOpen bp p) := ⟨fun _ _ _ e => (bpOpen_step e).2⟩

/-- **what `Open` answers**: a node it has just built, whose kind is the kind the parser builds -/
theorem bpOpen_ret {bp : BP} {p : Nat} {s s' : St} {a : Option Nat × PState} (e : bpOpen bp p s = .ok (a, s')) :
    KG s s' ∧ ∀ id, a.1 = some id → s.nodes.length ≤ id ∧ id < s'.nodes.length ∧ (nd s' id).kind = bp.kind := by
  have hk := (bpOpen_frkn bp p).h s a s' e
  refine ⟨⟨hk.1, hk.2.1⟩, fun id hid => ?_⟩
  obtain ⟨h1, h2⟩ := (bpOpen_rfr bp p).h s a s' e id hid
  exact ⟨h1, h2, hk.2.2 id h1 h2⟩

end GM.Blocks
end ItemParParsers

section ItemParDriver
/-
  `ItemPar` ("a ListItem's parent is a List") through the driver of the block phase, by the
  driver rule of GM.Proof.BlocksDriverKeeps in its two-state form: every step keeps `ItemPar` and is a `KG` step (the store
  does not shrink, nodes keep their kind), which is what the first section shows of the parser functions (`JP`). The one
  step that needs more is the `AppendChild(parent, node)` of openBlocks (parser.go:1003): the node is inside the store and,
  if it is a ListItem, `parent` is a List (`CondA`) — what `bpOpen_ret` and the first test of listItemParser.Open give, and
  what persists along `KG` steps until the node is attached.
-/

namespace GM.Blocks
open GM GM.Text GM.Spec GM.Proof.Reader GM.Hoare

/-- the condition under which `AppendChild(parent, node)` keeps `ItemPar` -/
def CondA (parent node : Nat) (s : St) : Prop :=
  node < s.nodes.length ∧ ((nd s node).kind = .listItem → (nd s parent).kind = .list)

theorem CondA.kg {parent node : Nat} {s s' : St} (h : CondA parent node s) (q : KG s s') : CondA parent node s' := by
  refine ⟨Nat.lt_of_lt_of_le h.1 q.1, fun hk => ?_⟩
  rw [q.2 node h.1] at hk
  have hp := h.2 hk
  rw [q.2 parent (lt_of_kind_list hp)]; exact hp

/-- what `Open` answers may be appended to the parent it was called with -/
theorem bpOpen_condA {bp : BP} {p : Nat} {s s' : St} {a : Option Nat × PState} (e : bpOpen bp p s = .ok (a, s'))
    (q : KG s s') {id : Nat} (hid : a.1 = some id) : CondA p id s' := by
  obtain ⟨_, r2, r3⟩ := (bpOpen_ret e).2 id hid
  refine ⟨r2, fun hk => ?_⟩
  rw [r3] at hk
  have hbp : bp = .listItem := by cases bp <;> first | rfl | exact absurd hk (by decide)
  subst hbp
  by_cases hkl : (nd s p).kind = .list
  · rw [q.2 p (lt_of_kind_list hkl)]; exact hkl
  · rw [show bpOpen .listItem p = listItemOpen p from rfl, GM.Blocks.L.listItemOpen_notList p s hkl] at e
    cases e; cases hid

/-- `ItemPar` at the driver rule: steps of `KG`; nothing is asked of a stack block or of a parent; `CondA` of the node that
    is attached -/
theorem driverOps_jp :
    DriverOps ItemPar (fun A => ∀ s s', KG s s' → A s → A s') (fun _ _ => True) (fun _ _ => True)
      (fun _ c p s => CondA p c s) bpClose (transformParagraph []) :=
  DriverOps.ofRel (hB := fun _ _ _ _ h => h) (hP := fun _ _ _ _ h => h) (hAtt := fun _ _ _ _ _ r a => a.kg r)
    (stack := fun _ _ _ _ => trivial)
    (hpeek := fun s a s' hs e => (peekLine_ns.stepsR jpFrame).h s a s' e hs)
    (hoff := fun s a s' hs e => (lineOffset_ns.stepsR jpFrame).h s a s' e hs)
    (hadv := fun s a s' hs e => (advanceLine_ns.stepsR jpFrame).h s a s' e hs)
    (hskip := fun s a s' hs e => (skipBlankLinesR_ns.stepsR jpFrame).h s a s' e hs)
    (hpcw := fun _ _ hs _ => jpFrame.of_nodes rfl hs) (hopened := fun _ _ hs _ => jpFrame.of_nodes rfl hs)
    (hblank := fun _ c _ bl s a s' hs _ e =>
      (modNode_jp c (fun n => { n with blankPrev := bl }) (fun _ => rfl) (fun _ => rfl)).h s a s' e hs)
    (happend := fun _ _ _ _ _ _ hs hc e => appendChild_ip hs hc.2.2 e)
    (hopn := fun bp p s a s' hs _ e =>
      have h1 := (bpOpen_jp bp p).h s a s' e hs
      ⟨h1, fun _ hid => ⟨trivial, bpOpen_condA e h1.2 hid, fun _ => trivial⟩⟩)
    (hcont := fun b s a s' hs _ e => (bpContinue_jp b.bp b.node).h s a s' e hs)
    (hclose := fun b s a s' hs _ e => (bpClose_jp b.bp b.node).h s a s' e hs)
    (htp := fun _ s _ _ hs _ e => by rw [transformParagraph_nil] at e; cases e; exact ⟨hs, KG.refl s⟩)

/-- **a ListItem's parent is a List, for every byte string**: in the final store of the block phase every node of
    kind ListItem whose parent pointer is set points to a node of kind List -/
theorem run_itemPar (src : Bytes) (s : St) (h : run src = .ok s) : ItemPar s :=
  (driverOps_jp.run_keeps (fun _ _ _ _ _ => trivial) (A := fun _ => True) (fun _ _ _ _ => trivial) (fun _ _ => trivial) src
    ⟨fun i _ hk _ => (by cases i with | zero => cases hk | succ n => cases hk), trivial⟩ s h).1

end GM.Blocks
end ItemParDriver

section FinalShape
/-
  `run_list_shape` joins three invariants: `KidsOK` of the no-panic proof (children of a List are ListItems — `run_kidsOK`), `TreeOK` of the close discipline (a child's parent pointer points back), and
  `ItemPar` (above: a ListItem's parent is a List).
-/

namespace GM.Blocks
open GM GM.Text GM.Spec GM.Proof.Reader
open GM.Proof.BlocksWF0 (isRaw)

/-- **`list_shape`, for every byte string**: in the final store of the block phase a child is a ListItem exactly when
    its parent is a List. -/
theorem run_list_shape (src : Bytes) (s : St) (h : run src = .ok s) :
    ∀ i, ∀ c ∈ (s.nodes.getD i default).children,
      ((s.nodes.getD c default).kind = .listItem ↔ (s.nodes.getD i default).kind = .list) := by
  have hkids := run_kidsOK src s h
  have htree := (L.run_closed_aux (lsp_all src) s h).1.tree
  have hip := run_itemPar src s h
  intro i c hc
  constructor
  · intro hk
    exact hip c i hk (htree.kid i c hc)
  · intro hk
    exact (hkids.kids i c hk hc).2

/-- a ListItem's parent is a List; the parent of a node under a List is... a ListItem: both directions on parent
    pointers -/
theorem run_item_parent (src : Bytes) (s : St) (h : run src = .ok s) :
    ∀ i p, (nd s i).parent = some p → ((nd s i).kind = .listItem ↔ (nd s p).kind = .list) := by
  have hkids := run_kidsOK src s h
  have hip := run_itemPar src s h
  intro i p hp
  exact ⟨fun hk => hip i p hk hp, fun hk => hkids.pk i p hp hk⟩

/-- **the four store facts the end-to-end proof of C05 needs, for the final store of `run`, every byte string**:
    lines in range; lines ordered; Document and List nodes have no lines; a child is a ListItem exactly when its parent
    is a List. (Same shapes as the fields `lines`, `ord`, `noLines`, `listShape` of `GM.E2E.StoreHypsCore`; `OrdFrom` is
    `GM.Blocks.OrdFrom`, the same recursion as `GM.E2E.ordFrom`.) -/
theorem store_hyps_core_run (src : Bytes) (s : St) (h : run src = .ok s) :
    (∀ n ∈ s.nodes, ∀ t ∈ n.lines, 0 ≤ t.start ∧ t.start ≤ t.stop ∧ t.stop ≤ src.length ∧ 0 ≤ t.padding) ∧
    (∀ n ∈ s.nodes, OrdFrom 0 n.lines) ∧
    (∀ n ∈ s.nodes, (n.kind = .document ∨ n.kind = .list) → n.lines = []) ∧
    (∀ i, ∀ c ∈ (s.nodes.getD i default).children,
      ((s.nodes.getD c default).kind = .listItem ↔ (s.nodes.getD i default).kind = .list)) := by
  refine ⟨fun n hn t ht => (nodesOK_of_run h n hn).lines t ht, fun n hn => ?_, fun n hn hk => ?_, run_list_shape src s h⟩
  · cases hr : isRaw n.kind with
    | true => exact run_ordered_raw src s h n hn hr
    | false => exact run_ordered src s h n hn hr
  · refine run_no_lines src s h n hn ?_
    rcases hk with hk | hk <;> rw [hk] <;> rfl

end GM.Blocks
end FinalShape
