/-
  GM.Proof.ConvertFLinks — every FootnoteLink representation among the inline children that the inline phase with the
  footnote parser returns points at a definition of the list: `linksBelowL refs.length kids` for
  `parseBlockX env (inlineTblF true refs) src lines = .ok kids`. (The inline monitor of `GM.ConvertF.inlineTreeF`, `pre` for a
  FootnoteLink to no definition, is never answered.)

  Proof: the per-node property "every emphasis level that encodes a FootnoteLink position encodes one below `n`" holds of the
  node `parseFootnote` returns (`resolve_sound`), of every leaf, is inherited by wrappers from their children, and the only
  emphasis nodes the default parsers create have level 1 or 2 (`closerStep`: `consume ≥ 1`). It is carried through every
  default inline parser, the byte loop over the trigger table, the final ProcessDelimiters and CloseBlock: ProcessDelimiters
  keeps it by GM.Proof.InlinesDelims.NodeKept (`lb_kept`), the link parser by GM.Proof.InlinesLinkG.parseLinkG_allQ, the loop
  by GM.Proof.ConvertXSim.lineLoopX_keeps.
-/
import GM.Proof.ConvertXSim
import GM.Proof.ConvertFShape
import GM.Proof.ConvertFMain

namespace GM.Inl.FLinks
open GM GM.Text GM.Inl GM.Proof.Inlines GM.Proof.InlinesTotal GM.Proof.InlinesDelims GM.Proof.InlinesLinkG GM.Proof.ConvertXSim GM.ConvertF

/-! ### the property -/

/-- every emphasis level of the subtree that encodes a FootnoteLink position encodes one below `n` -/
def LB (n : Nat) (x : Node) : Prop := linksBelow n x = true

theorem linksBelowL_iff (n : Nat) : ∀ l : List Node, linksBelowL n l = true ↔ allQ (LB n) l
  | [] => by simp [linksBelowL, allQ]
  | x :: rest => by
    simp only [linksBelowL, Bool.and_eq_true, linksBelowL_iff n rest]
    exact (allQ_cons (Q := LB n)).symm

theorem lb_text (n : Nat) (s : Segment) (a b c : Bool) : LB n (.text s a b c) := by simp [LB, linksBelow]
theorem lb_delim (n : Nat) (id : Nat) (d : Delim) : LB n (.delim id d) := by simp [LB, linksBelow]
theorem lb_label (n : Nat) (id : Nat) (s : Segment) (im : Bool) : LB n (.label id s im) := by simp [LB, linksBelow]
theorem lb_autoLink (n : Nat) (e : Bool) (s : Segment) : LB n (.autoLink e s) := by simp [LB, linksBelow]
theorem lb_rawHTML (n : Nat) (s : List Segment) : LB n (.rawHTML s) := by simp [LB, linksBelow]
theorem lb_codeSpan (n : Nat) {ks : List Node} (h : allQ (LB n) ks) : LB n (.codeSpan ks) := by
  simp only [LB, linksBelow]; exact (linksBelowL_iff n ks).2 h
theorem lb_link (n : Nat) (im : Bool) (d : Bytes) (t : Option Bytes) {ks : List Node} (h : allQ (LB n) ks) :
    LB n (.link im d t ks) := by
  simp only [LB, linksBelow]; exact (linksBelowL_iff n ks).2 h
theorem lb_emph (n : Nat) (c : Int) {ks : List Node} (hc : 1 ≤ c) (h : allQ (LB n) ks) : LB n (.emphasis c ks) := by
  have : fnLinkPos? c = none := by unfold fnLinkPos?; rw [if_neg (by omega)]
  simp only [LB, linksBelow, this, Bool.true_and]; exact (linksBelowL_iff n ks).2 h

/-- an Emphasis node ProcessDelimiters builds has level `consume ≥ 1`, which encodes no FootnoteLink position -/
theorem lb_kept (n : Nat) : NodeKept (LB n) where
  text := fun _ _ _ => lb_text n ..
  merge := fun _ _ _ _ _ _ _ _ => lb_text n ..
  emph := fun c _ hc _ hmid =>
    lb_emph n c hc (clearInner_kept (fun _ _ _ => lb_text n ..) (fun _ _ _ _ _ _ _ _ => lb_text n ..) allQ_nil hmid)
  cons := fun id _ _ _ => lb_delim n id _

theorem lb_linkInv (n : Nat) : LinkInv (LB n) where
  text := lb_text n
  label := lb_label n
  link := fun im d t _ h => lb_link n im d t h

/-- the node `parseFootnote` answers -/
theorem lb_fnLink (n k : Nat) (h : k < n) : LB n (fnLinkNode k) := by
  have : fnLinkPos? (-(3 + (k : Int))) = some k := by
    unfold fnLinkPos?
    rw [if_pos (by omega)]
    congr 1
    omega
  simp [LB, fnLinkNode, linksBelow, this, linksBelowL, h]

open GM.Proof.ConvertX in
mutual
theorem lvOK_lb (n : Nat) : ∀ x : Node, lvOK x = true → LB n x
  | .text .., _ => lb_text n ..
  | .codeSpan ks, h => by simp only [lvOK] at h; exact lb_codeSpan n (lvOKL_lb n ks h)
  | .emphasis lv ks, h => by
    simp only [lvOK, Bool.and_eq_true, decide_eq_true_eq] at h
    exact lb_emph n lv h.1 (lvOKL_lb n ks h.2)
  | .link _ _ _ ks, h => by simp only [lvOK] at h; exact lb_link n _ _ _ (lvOKL_lb n ks h)
  | .autoLink .., _ => lb_autoLink n ..
  | .rawHTML .., _ => lb_rawHTML n ..
  | .delim .., _ => lb_delim n ..
  | .label .., _ => lb_label n ..
theorem lvOKL_lb (n : Nat) : ∀ l : List Node, lvOKL l = true → allQ (LB n) l
  | [], _ => allQ_nil
  | x :: rest, h => by
    simp only [lvOKL, Bool.and_eq_true] at h
    exact allQ_cons.mpr ⟨lvOK_lb n x h.1, lvOKL_lb n rest h.2⟩
end

/-- a node the default parsers may append -/
theorem top_lb (n : Nat) {x : Node} (h : top x = true) : LB n x := by
  unfold top at h
  cases x with
  | delim id d => exact lb_delim n id d
  | _ => exact lvOK_lb n _ (GM.Proof.ConvertX.wf_lvOK true _ (by simpa [Node.isDelim] using h))

/-! ### the loop over the trigger table with the footnote parser -/

variable {n : Nat}

theorem ipParse_lb {env : Env} {ip : Ip} {st : St} {r : Option Node × St}
    (h : ip.parse env st = .ok r) (hk : allQ (LB n) st.kids) : POKQ (LB n) r :=
  ipParse_allQ (lb_linkInv n) (fun _ _ _ h => processDelimiters_kept (lb_kept n) h) (fun _ => top_lb n) h hk

theorem resolve_lt (rs : List Bytes) (v : Bytes) (k : Nat) (h : resolve rs v 0 = some k) : k < rs.length := by
  obtain ⟨j, hj, hg, _⟩ := resolve_sound rs v 0 k h
  have : j < rs.length := by
    cases hlt : decide (j < rs.length) with
    | true => simpa using hlt
    | false =>
      have : rs.length ≤ j := by simpa using hlt
      rw [List.getElem?_eq_none this] at hg
      cases hg
  omega

/-- the footnote parser: the node it answers points at a definition of `refs`; it appends at most a Text -/
theorem parseFootnote_lb (refs : Option (List Bytes)) (env : Env) (st : St) (hk : allQ (LB (refs.getD []).length) st.kids) :
    Ans (parseFootnote refs env st) (POKQ (LB (refs.getD []).length)) := by
  have hn (rd : BlockReader) : Ans (Pure.pure (none, { st with rd := rd })) (POKQ (LB (refs.getD []).length)) :=
    Ans.pure ⟨hk, fun _ e => nomatch e⟩
  unfold parseFootnote
  refine Ans.bind fun ⟨⟨line, segment⟩, rd⟩ _ => ?_
  dsimp only
  refine Ans.ite (hn _) (Ans.ite (hn _) ?_)
  split
  · exact hn _
  · refine Ans.bind fun value _ => Ans.bind fun rd' _ => ?_
    split
    · exact hn _
    · split
      · exact hn _
      · rename_i rs k hres
        refine Ans.pure ⟨?_, fun _ e => by cases e; exact lb_fnLink _ _ (resolve_lt _ _ _ hres)⟩
        dsimp only
        split
        · exact allQ_append.mpr ⟨hk, allQ_single.mpr (lb_text _ _ _ _ _)⟩
        · exact hk

theorem inlineTblF_lb (on : Bool) (refs : Option (List Bytes)) (env : Env) (b : UInt8) :
    ∀ ip ∈ inlineTblF on refs b, Keeps (allQ (LB (refs.getD []).length)) env ip := by
  have hb : ∀ ip ∈ baseTbl b, Keeps (allQ (LB (refs.getD []).length)) env ip := by
    intro ip hip
    unfold baseTbl at hip
    obtain ⟨ip0, _, rfl⟩ := List.mem_map.1 hip
    exact keeps_allQ fun _ _ h hk => ipParse_lb (ip := ip0) h hk
  unfold inlineTblF
  split
  · intro ip hip
    rcases List.mem_cons.1 hip with rfl | hip
    · exact keeps_allQ fun st r h hk => parseFootnote_lb refs env st hk r h
    · exact hb ip hip
  · exact hb

mutual
theorem closeLabels_lb (n : Nat) : ∀ x : Node, LB n x → LB n (closeLabels x)
  | .text .., h => by simpa [closeLabels] using h
  | .codeSpan ks, h => by
    simp only [closeLabels]
    exact lb_codeSpan n (closeLabelsL_lb n ks ((linksBelowL_iff n ks).1 (by simpa [LB, linksBelow] using h)))
  | .emphasis lv ks, h => by
    simp only [LB, linksBelow, Bool.and_eq_true] at h
    simp only [closeLabels, LB, linksBelow, Bool.and_eq_true]
    exact ⟨h.1, (linksBelowL_iff n _).2 (closeLabelsL_lb n ks ((linksBelowL_iff n ks).1 h.2))⟩
  | .link _ _ _ ks, h => by
    simp only [closeLabels]
    exact lb_link n _ _ _ (closeLabelsL_lb n ks ((linksBelowL_iff n ks).1 (by simpa [LB, linksBelow] using h)))
  | .autoLink .., h => by simpa [closeLabels] using h
  | .rawHTML .., h => by simpa [closeLabels] using h
  | .delim .., h => by simpa [closeLabels] using h
  | .label .., _ => by simp only [closeLabels]; exact lb_text n ..
theorem closeLabelsL_lb (n : Nat) : ∀ l : List Node, allQ (LB n) l → allQ (LB n) (closeLabelsL l)
  | [], _ => by simpa [closeLabelsL] using (allQ_nil (Q := LB n))
  | x :: rest, h => by
    simp only [closeLabelsL]
    exact allQ_cons.mpr ⟨closeLabels_lb n x (allQ_cons.mp h).1, closeLabelsL_lb n rest (allQ_cons.mp h).2⟩
end

/-- **every FootnoteLink representation the inline phase returns points at a definition of the list** -/
theorem parseBlockX_linksBelow (env : Env) (src : Bytes) (refs : Option (List Bytes)) (lines : List Segment) (kids : List Node)
    (h : parseBlockX env (inlineTblF true refs) src lines = .ok kids) : linksBelowL (refs.getD []).length kids = true := by
  unfold parseBlockX at h
  obtain ⟨rd, _, h⟩ := bind_ok h
  obtain ⟨st, hst, h⟩ := bind_ok h
  obtain ⟨ks, hks, h⟩ := bind_ok h
  simp [pure, Except.pure] at h; subst h
  have h1 := lineLoopX_keeps (iclosed_allQ (lb_text _)) (fun b => inlineTblF_lb true refs env b) _ _
    (by intro x hx; cases hx) hst
  exact (linksBelowL_iff _ _).2 (closeLabelsL_lb _ _ (processDelimiters_kept (lb_kept _) hks h1))

end GM.Inl.FLinks