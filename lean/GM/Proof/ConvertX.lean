/-
  GM.Proof.ConvertX — Lemmas for GM.Props.ConvertX / GM.Props.ConvertL about the compositions `convertX` / `convertL`: every member off is `convertCore`; the table paragraph
  transformer is admissible (`PTOK`), so the block phase terminates for every member set; `convertCore` is the member set `core` of `convertL` phase by
  phase (`…_eqL`); the Linkify parser declines on a line without ':', '@', `www.`.
-/
import GM.Model.ConvertX
import GM.Proof.ConvertTotal
import GM.Proof.InlinesLoopX
import GM.Proof.LinkRefPres
import GM.Proof.ExtDecline
import GM.Proof.ExtShape
import GM.Proof.ConvertLDoc
import GM.Model.ConvertL

section ConvertX
namespace GM.Proof.ConvertX
open GM GM.Text GM.Convert GM.ConvertX GM.Inl GM.Proof.ConvertL GM.Proof.ConvertLDoc

theorem parseBlockG_base (env : Env) (src : Bytes) (segs : List Segment) :
    parseBlockG env baseTbl processDelimiters src segs = parseBlock env src segs := by
  unfold parseBlockG parseBlock
  simp only [GM.Proof.InlinesLoopX.lineLoopX_base]

theorem inlineTbl_noInline (c : XCfg) (hs : c.strikethrough = false) (ht : c.tasklist = false) (inItem : Bool) :
    inlineTbl c inItem = baseTbl := by
  funext b
  simp only [inlineTbl, linkX, hs, ht, baseTbl, parsersFor]
  by_cases h126 : b = 126
  · subst h126; simp
  · by_cases h91 : b = 91
    · subst h91; simp
    · by_cases h33 : b = 33
      · subst h33; simp
      · by_cases h93 : b = 93
        · subst h93; simp
        · simp [h126, h91, h33, h93]

theorem pdX_noStrike (c : XCfg) (hs : c.strikethrough = false) : pdX c = processDelimiters := by
  simp [pdX, hs]

theorem inlineLines_noInline (c : XCfg) (hs : c.strikethrough = false) (ht : c.tasklist = false) (guard : Bool)
    (env : Env) (src : Bytes) (inItem : Bool) (lines : List Segment) :
    inlineLines c guard env src inItem lines =
      (if lines.isEmpty then .ok []
       else if guard && !GM.LinkRef.wf0B src lines then .error .linesNotWF0
       else liftErr .inlines (parseBlock env src lines)) := by
  simp only [inlineLines, inlineTbl_noInline c hs ht, pdX_noStrike c hs, parseBlockG_base]

def offCfg : XCfg := {}

theorem inlinePhaseX_off (guard : Bool) (env : Env) (src : Bytes) (inItem : Bool) (n : GM.Blocks.Node) :
    inlinePhaseX offCfg guard env src inItem n = inlinePhase guard env src n := by
  have h := inlineLines_noInline offCfg rfl rfl guard env src inItem n.lines
  simp only [inlinePhaseX, inlinePhase, h]
  simp [offCfg]

mutual
theorem inlineTreeX_off (src : Bytes) : ∀ n : Inl.Node, inlineTreeX offCfg src n = inlineTree src n
  | .text .. => by simp [inlineTreeX, inlineTree]
  | .codeSpan kids => by simp [inlineTreeX, inlineTree, inlineTreesX_off src kids]
  | .emphasis lv kids => by
    have hs : offCfg.strikethrough = false := rfl
    have ht : offCfg.tasklist = false := rfl
    simp [inlineTreeX, inlineTree, inlineTreesX_off src kids, hs, ht]
  | .link im d t kids => by simp [inlineTreeX, inlineTree, inlineTreesX_off src kids]
  | .autoLink .. => by simp [inlineTreeX, inlineTree]
  | .rawHTML .. => by simp [inlineTreeX, inlineTree]
  | .delim .. => by simp [inlineTreeX, inlineTree]
  | .label .. => by simp [inlineTreeX, inlineTree]
theorem inlineTreesX_off (src : Bytes) : ∀ ns : List Inl.Node, inlineTreesX offCfg src ns = inlineTrees src ns
  | [] => by simp [inlineTreesX, inlineTrees]
  | n :: rest => by simp [inlineTreesX, inlineTrees, inlineTreeX_off src n, inlineTreesX_off src rest]
end

theorem blockKindX_off (src : Bytes) (n : GM.Blocks.Node) : blockKindX offCfg src n = blockKind src n := by
  simp [blockKindX, offCfg]

mutual
theorem docTreeX_off (guard : Bool) (env : Env) (src : Bytes) (escs : List Int) (inItem : Bool) :
    ∀ t : GM.Blocks.Tree, docTreeX offCfg guard env src escs inItem t = docTree guard env src t
  | .node n cs => by
    unfold docTreeX docTree
    rw [docTreesX_off guard env src escs _ _ cs, inlinePhaseX_off, blockKindX_off]
    have hc : (offCfg.table && GM.TableX.isCellNode src n) = false := rfl
    simp only [hc, Bool.false_eq_true, if_false, inlineTreesX_off]
theorem docTreesX_off (guard : Bool) (env : Env) (src : Bytes) (escs : List Int) (pi first : Bool) :
    ∀ ts : List GM.Blocks.Tree, docTreesX offCfg guard env src escs pi first ts = docTrees guard env src ts
  | [] => by unfold docTreesX docTrees; rfl
  | t :: rest => by
    unfold docTreesX docTrees
    rw [docTreeX_off guard env src escs _ t, docTreesX_off guard env src escs _ _ rest]
end

theorem blockPhaseX_noTable (c : XCfg) (ht : c.table = false) (guard : Bool) (src : Bytes) :
    blockPhaseX c guard src = blockPhase guard src := by
  simp [blockPhaseX, blockPhase, paragraphTransformersX, ht]

theorem parseDocX_off (guard : Bool) (uc : List (Nat × (Bool × Bool))) (src : Bytes) :
    parseDocX offCfg guard uc src = parseDoc guard uc src := by
  unfold parseDocX parseDoc
  rw [blockPhaseX_noTable offCfg rfl]
  simp only [docTreeX_off]

theorem renderDocX_off (o : ROpts) (t : GM.Node) : renderDocX offCfg o t = renderDoc o t := rfl

theorem convertXWith_off (guard : Bool) (uc : List (Nat × (Bool × Bool))) (o : ROpts) (src : Bytes) :
    convertXWith offCfg guard uc o src = convertWith guard uc o src := by
  unfold convertXWith convertWith
  rw [parseDocX_off]
  rfl

theorem paragraphTransformersX_ok (c : XCfg) (src : Bytes) : GM.Blocks.PTsOK (paragraphTransformersX c true src) := by
  intro pt hpt
  simp only [paragraphTransformersX, List.mem_append] at hpt
  rcases hpt with hpt | hpt
  · exact GM.Proof.LinkRefPres.paragraphTransformers_ok pt hpt
  · split at hpt
    · simp only [List.mem_singleton] at hpt; subst hpt; exact GM.Blocks.transformPT_ptok src
    · cases hpt

theorem blockPhaseX_noLoop (c : XCfg) (src : Bytes) : blockPhaseX c true src ≠ .error .loop :=
  GM.Blocks.runT_noLoop (paragraphTransformersX_ok c src) src

/-- the inline phase of a member set, behind the run-time check, never exhausts its fuel (true of every member set:
    `GM.Proof.ConvertXTotal.inlineNoLoop_all`) -/
def InlineNoLoop (c : XCfg) : Prop :=
  ∀ (env : Env) (src : Bytes) (inItem : Bool) (lines : List Segment) (e : Err),
    inlineLines c true env src inItem lines = .error e → e.isLoop = false

theorem inlineNoLoop_noInline (c : XCfg) (hs : c.strikethrough = false) (ht : c.tasklist = false) : InlineNoLoop c := by
  intro env src inItem lines e h
  rw [inlineLines_noInline c hs ht] at h
  split at h
  · cases h
  · split at h
    · cases h; rfl
    · rename_i hw
      have hw' : GM.LinkRef.wf0B src lines = true := by simpa using hw
      obtain ⟨W, Z⟩ := GM.Proof.LinkRefTotal.wf0B_sound hw'
      obtain ⟨kids, hk⟩ := GM.Proof.InlinesLink.parseBlock_total W Z env
      rw [hk] at h
      cases h

theorem inlineLinesL_noLoop_off {c : XCfg} (H : InlineNoLoop c) (env : Env) (src : Bytes) (inItem : Bool)
    (lines : List Segment) (e : Err) (h : inlineLinesL { base := c, linkify := false } true env src inItem lines = .error e) :
    e.isLoop = false := by
  rw [inlineLinesL_off] at h
  exact H env src inItem lines e h

theorem docTreeX_noLoop {c : XCfg} (H : InlineNoLoop c) (env : Env) (src : Bytes) (escs : List Int) :
    ∀ (inItem : Bool) (t : GM.Blocks.Tree) (e : Err),
    docTreeX c true env src escs inItem t = .error e → e.isLoop = false := by
  intro inItem t e h
  rw [← docTreeL_off] at h
  exact docTreeL_noLoop (inlineLinesL_noLoop_off H env src) escs inItem t e h

theorem docTreesX_noLoop {c : XCfg} (H : InlineNoLoop c) (env : Env) (src : Bytes) (escs : List Int) :
    ∀ (pi first : Bool) (ts : List GM.Blocks.Tree) (e : Err),
    docTreesX c true env src escs pi first ts = .error e → e.isLoop = false := by
  intro pi first ts e h
  rw [← docTreesL_off] at h
  exact docTreesL_noLoop (inlineLinesL_noLoop_off H env src) escs pi first ts e h

theorem parseDocX_noLoop {c : XCfg} (H : InlineNoLoop c) (uc : List (Nat × (Bool × Bool))) (src : Bytes) {e : Err}
    (h : parseDocX c true uc src = .error e) : e.isLoop = false := by
  unfold parseDocX at h
  simp only [bind, Except.bind] at h
  cases hb : blockPhaseX c true src with
  | error p =>
    rw [hb] at h
    simp only [liftErr] at h
    cases h
    have := blockPhaseX_noLoop c src
    cases p <;> first | rfl | exact absurd hb this
  | ok st =>
    rw [hb] at h
    simp only [liftErr] at h
    exact docTreeX_noLoop H _ src _ _ _ _ h

theorem renderDocX_noLoop (c : XCfg) (o : ROpts) (t : GM.Node) {e : Err} (h : renderDocX c o t = .error e) :
    e.isLoop = false := by
  unfold renderDocX at h
  split at h
  · cases h; rfl
  · cases h

theorem convertX_noLoop {c : XCfg} (H : InlineNoLoop c) (uc : List (Nat × (Bool × Bool))) (o : ROpts) (src : Bytes)
    {e : Err} (h : convertX c uc o src = .error e) : e.isLoop = false := by
  unfold convertX convertXWith at h
  simp only [bind, Except.bind] at h
  cases hp : parseDocX c true uc src with
  | error e1 => rw [hp] at h; cases h; exact parseDocX_noLoop H uc src hp
  | ok t => rw [hp] at h; exact renderDocX_noLoop c o t h

/-! ### C11 mechanisms on the composed model -/

theorem inlineTbl_task (c : XCfg) (hs : c.strikethrough = false) (ht : c.tasklist = true) (inItem : Bool) :
    inlineTbl c inItem = insertTbl (taskParser inItem) (fun _ => 0) baseTbl := by
  funext b
  simp only [inlineTbl, linkX, hs, ht, insertTbl, taskParser]
  by_cases h91 : b = 91
  · subst h91; simp [baseTbl, parsersFor]
  · have hf : List.filter (fun x => x == b) [(91 : UInt8)] = [] := by
      simp only [List.filter_cons, List.filter_nil]
      have : ((91 : UInt8) == b) = false := by
        simp only [beq_eq_false_iff_ne, ne_eq]; exact fun h => h91 h.symm
      simp [this]
    simp only [hf, List.map_nil, List.append_nil, List.take_zero, List.nil_append, List.drop_zero]
    by_cases h126 : b = 126
    · subst h126; simp [baseTbl, parsersFor]
    · by_cases h33 : b = 33
      · subst h33; simp [baseTbl, parsersFor]
      · by_cases h93 : b = 93
        · subst h93; simp [baseTbl, parsersFor]
        · simp [h126, h91, h33, h93]

theorem parseBlockG_default_pd (env : Env) (tbl : UInt8 → List XIp) (src : Bytes) (segs : List Segment) :
    parseBlockG env tbl processDelimiters src segs = parseBlockX env tbl src segs := rfl

theorem inlineLines_task_unused (c : XCfg) (hs : c.strikethrough = false) (env : Env) (src : Bytes)
    (hsrc : (91 : UInt8) ∉ src) (inItem : Bool) (lines : List Segment) :
    inlineLines { c with tasklist := true } true env src inItem lines =
      inlineLines { c with tasklist := false } true env src inItem lines := by
  rw [inlineLines_noInline { c with tasklist := false } hs rfl]
  unfold inlineLines
  split
  · rfl
  · split
    · rfl
    · rename_i hw
      have hw' : GM.LinkRef.wf0B src lines = true := by simpa using hw
      obtain ⟨W, Z⟩ := GM.Proof.LinkRefTotal.wf0B_sound hw'
      rw [inlineTbl_task { c with tasklist := true } hs rfl, pdX_noStrike _ (by exact hs), parseBlockG_default_pd,
        GM.Proof.InlinesLoopX.parseBlock_unused W Z env (taskParser inItem) (fun _ => 0) (by simp [taskParser])
          (fun b hb hm => by
            simp only [taskParser, List.mem_singleton] at hm
            subst hm; exact hsrc hb)]

theorem scanX_congr (env : Env) (t1 t2 : UInt8 → List XIp) (h32 : t1 32 = t2 32) :
    ∀ (bs : Bytes) (i : Nat) (s : Inl.Scan), (∀ c ∈ bs, t1 c = t2 c) → scanX env t1 bs i s = scanX env t2 bs i s := by
  intro bs
  induction bs with
  | nil => intro i s _; rfl
  | cons c cs ih =>
    intro i s hb
    have hpc : t1 (parserChar c i) = t2 (parserChar c i) := by
      rcases GM.Proof.InlinesLoopX.parserChar_cases c i with h | h
      · rw [h]; exact h32
      · rw [h]; exact hb c (by simp)
    have hcs : ∀ x ∈ cs, t1 x = t2 x := fun x hx => hb x (by simp [hx])
    simp only [scanX, hpc]
    split
    · rfl
    · split
      · cases triggerX env (t2 (parserChar c i)) i s with
        | error e => rfl
        | ok r =>
          cases r with
          | inl st => rfl
          | inr s' => exact ih _ _ hcs
      · exact ih _ _ hcs

/-- the table paragraph transformer on a state whose source has no '-': nothing changes (or the domain monitor fires) -/
theorem transformPT_no_dash (src : Bytes) (h : (45 : UInt8) ∉ src) (node : Nat) (s : GM.Blocks.St) :
    GM.TableX.transformPT src node s = .ok ((), s) ∨ GM.TableX.transformPT src node s = .error .pre := by
  have ht := GM.Ext.transform_no_dash src (List.map GM.TableX.toSeg (s.nodes.getD node default).lines)
    (fun l _ => GM.Ext.value_no_dash src l h)
  unfold GM.TableX.transformPT
  simp only [bind, StateT.bind, GM.Blocks.getNode, GM.Blocks.source, pure, Except.pure, Except.bind, StateT.pure]
  split
  · exact Or.inr rfl
  · simp only [ht]
    exact Or.inl rfl

/-! ### the representations of Strikethrough / TaskCheckBox never occur in the default inline model's output -/

mutual
/-- every emphasis node, at any depth, has a level ≥ 1 -/
def lvOK : Inl.Node → Bool
  | .emphasis lv ks => decide (1 ≤ lv) && lvOKL ks
  | .codeSpan ks => lvOKL ks
  | .link _ _ _ ks => lvOKL ks
  | _ => true
def lvOKL : List Inl.Node → Bool
  | [] => true
  | n :: rest => lvOK n && lvOKL rest
end

mutual
theorem lvOK_eq : ∀ n : Inl.Node, lvOK n = lvAll (fun lv => decide (1 ≤ lv)) n
  | .emphasis lv ks => by simp only [lvOK, lvAll, lvOKL_eq ks]
  | .codeSpan ks => by simp only [lvOK, lvAll, lvOKL_eq ks]
  | .link _ _ _ ks => by simp only [lvOK, lvAll, lvOKL_eq ks]
  | .text .. => rfl
  | .autoLink .. => rfl
  | .rawHTML .. => rfl
  | .delim .. => rfl
  | .label .. => rfl
theorem lvOKL_eq : ∀ l : List Inl.Node, lvOKL l = lvAllL (fun lv => decide (1 ≤ lv)) l
  | [] => rfl
  | n :: rest => by simp only [lvOKL, lvAllL, lvOK_eq n, lvOKL_eq rest]
end

theorem lvOKL_allText (ks : List Inl.Node) (h : ks.all GM.Proof.Inlines.isText = true) : lvOKL ks = true := by
  rw [lvOKL_eq]; exact lvAllL_allText ks h

mutual
theorem wf_lvOK (lab : Bool) : ∀ n : Inl.Node, GM.Proof.Inlines.wf lab n = true → lvOK n = true
  | .text .., _ => rfl
  | .codeSpan ks, h => by
    simp only [GM.Proof.Inlines.wf] at h
    simp only [lvOK]; exact lvOKL_allText ks h
  | .emphasis lv ks, h => by
    simp only [GM.Proof.Inlines.wf, Bool.and_eq_true, Bool.or_eq_true, beq_iff_eq] at h
    simp only [lvOK, Bool.and_eq_true, decide_eq_true_eq]
    exact ⟨by omega, wfL_lvOKL lab ks h.2⟩
  | .link _ _ _ ks, h => by
    simp only [GM.Proof.Inlines.wf, Bool.and_eq_true] at h
    simp only [lvOK]; exact wfL_lvOKL lab ks h.1
  | .autoLink .., _ => rfl
  | .rawHTML .., _ => rfl
  | .delim .., _ => rfl
  | .label .., _ => rfl
theorem wfL_lvOKL (lab : Bool) : ∀ ns : List Inl.Node, GM.Proof.Inlines.wfL lab ns = true → lvOKL ns = true
  | [], _ => rfl
  | n :: rest, h => by
    simp only [GM.Proof.Inlines.wfL, Bool.and_eq_true] at h
    simp only [lvOKL, Bool.and_eq_true]
    exact ⟨wf_lvOK lab n h.1, wfL_lvOKL lab rest h.2⟩
end

theorem escNode_lvOK (ps : List Int) : ∀ n : Inl.Node, lvOK n = true → lvOK (GM.TableX.escNode ps n) = true := by
  intro n h
  rw [lvOK_eq] at h ⊢
  exact escNode_lvAll ps n h

theorem escSpanKids_lvOK (ps : List Int) : ∀ ns : List Inl.Node, lvOKL ns = true → lvOKL (GM.TableX.escSpanKids ps ns) = true := by
  intro ns h
  rw [lvOKL_eq] at h ⊢
  exact escSpanKids_lvAll ps ns h

/-- levels ≥ 1 are none of the members' representations -/
theorem lv_pos_not_member (lv : Int) (h : decide (1 ≤ lv) = true) : (lv ≠ -3 ∧ lv ≠ -4) ∧ lv ≠ -1 ∧ lv ≠ -2 := by
  have := of_decide_eq_true h
  omega

theorem inlineTreeX_flags (c1 c2 : XCfg) (src : Bytes) : ∀ n : Inl.Node, lvOK n = true →
    inlineTreeX c1 src n = inlineTreeX c2 src n := by
  intro n h
  rw [lvOK_eq] at h
  rw [← inlineTreeL_off, ← inlineTreeL_off]
  exact inlineTreeL_lvAll { base := c1, linkify := false } { base := c2, linkify := false } rfl
    (.inr fun lv hl => (lv_pos_not_member lv hl).1) (.inr fun lv hl => (lv_pos_not_member lv hl).2) src n h

def notTask : Kind → Bool
  | .taskCheckBox _ => false
  | _ => true

theorem handled_task (e : Exts) (x y : Bool) {k : Kind} (h : notTask k = true) :
    handled { e with task := x } k = handled { e with task := y } k := by
  cases k <;> simp_all [handled, notTask]

theorem memberKind_notTask {s tb : Bool} (k : Kind) (h : memberKind s false tb k = true) : notTask k = true := by
  cases k <;> first | rfl | exact h

theorem inlineTreeX_notTask (c : XCfg) (ht : c.tasklist = false) (src : Bytes) : ∀ (n : Inl.Node) (t : GM.Node),
    inlineTreeX c src n = .ok t → allKinds notTask t = true := by
  intro n t h
  rw [← inlineTreeL_off] at h
  have := inlineTreeL_kinds _ src n t h
  rw [show ({ base := c, linkify := false } : GCfg).base.tasklist = false from ht] at this
  exact allKinds_mono memberKind_notTask t this

theorem docTreesX_notTask (c : XCfg) (ht : c.tasklist = false) (g : Bool) (env : Env) (src : Bytes) (escs : List Int) :
    ∀ (pi first : Bool) (ts : List GM.Blocks.Tree) (xs : List GM.Node),
    docTreesX c g env src escs pi first ts = .ok xs → allKindsL notTask xs = true := by
  intro pi first ts xs h
  rw [← docTreesL_off] at h
  have := docTreesL_kinds _ g env src escs pi first ts xs h
  rw [show ({ base := c, linkify := false } : GCfg).base.tasklist = false from ht] at this
  exact allKindsL_mono memberKind_notTask xs this

def notTable : Kind → Bool
  | .table | .tableHeader | .tableRow | .tableCell _ => false
  | _ => true

theorem handled_table (e : Exts) (x y : Bool) {k : Kind} (h : notTable k = true) :
    handled { e with table := x } k = handled { e with table := y } k := by
  cases k <;> simp_all [handled, notTable]

theorem memberKind_notTable {s t : Bool} (k : Kind) (h : memberKind s t false k = true) : notTable k = true := by
  cases k <;> first | rfl | exact h

theorem blockKind_notTable {src : Bytes} {n : GM.Blocks.Node} {k : Kind} (h : blockKind src n = .ok k) :
    notTable k = true :=
  memberKind_notTable k (blockKind_kinds h)

theorem blockKindX_notTable {c : XCfg} (hc : c.table = false) {src : Bytes} {n : GM.Blocks.Node} {k : Kind}
    (h : blockKindX c src n = .ok k) : notTable k = true :=
  memberKind_notTable k (hc ▸ blockKindX_kinds h)

theorem inlineTreeX_notTable (c : XCfg) (src : Bytes) : ∀ (n : Inl.Node) (t : GM.Node),
    inlineTreeX c src n = .ok t → allKinds notTable t = true := by
  intro n t h
  rw [← inlineTreeL_off] at h
  exact allKinds_mono memberKind_notTable t (inlineTreeL_kinds _ src n t h)

theorem inlineTreesX_notTable (c : XCfg) (src : Bytes) : ∀ (ns : List Inl.Node) (ts : List GM.Node),
    inlineTreesX c src ns = .ok ts → allKindsL notTable ts = true := by
  intro ns ts h
  rw [← inlineTreesL_off] at h
  exact allKindsL_mono memberKind_notTable ts (inlineTreesL_kinds _ src ns ts h)

theorem docTreeX_notTable (c : XCfg) (hc : c.table = false) (g : Bool) (env : Env) (src : Bytes) (escs : List Int) :
    ∀ (inItem : Bool) (t : GM.Blocks.Tree) (x : GM.Node),
    docTreeX c g env src escs inItem t = .ok x → allKinds notTable x = true := by
  intro inItem t x h
  rw [← docTreeL_off] at h
  have := docTreeL_kinds _ g env src escs inItem t x h
  rw [show ({ base := c, linkify := false } : GCfg).base.table = false from hc] at this
  exact allKinds_mono memberKind_notTable x this

theorem docTreesX_notTable (c : XCfg) (hc : c.table = false) (g : Bool) (env : Env) (src : Bytes) (escs : List Int) :
    ∀ (pi first : Bool) (ts : List GM.Blocks.Tree) (xs : List GM.Node),
    docTreesX c g env src escs pi first ts = .ok xs → allKindsL notTable xs = true := by
  intro pi first ts xs h
  rw [← docTreesL_off] at h
  have := docTreesL_kinds _ g env src escs pi first ts xs h
  rw [show ({ base := c, linkify := false } : GCfg).base.table = false from hc] at this
  exact allKindsL_mono memberKind_notTable xs this

end GM.Proof.ConvertX
end ConvertX

section ConvertCoreL
/-
  `GM.Convert.convertCore` is the member set `core` (no member, no Linkify) of `GM.ConvertX.convertL`:
  every phase of the default composition is the phase of `convertL core` (`…_eqL`). Statements about `convertCore` that hold of
  every member set are read off the `convertL` theorem through these equations.
-/

namespace GM.Proof.ConvertCoreL
open GM GM.Text GM.Convert GM.ConvertX GM.Inl GM.Proof.ConvertX GM.Proof.ConvertL

/-- the empty member set -/
def core : GCfg := { base := offCfg, linkify := false }

theorem inlineTree_eqL (src : Bytes) (n : Inl.Node) : inlineTree src n = inlineTreeL core src n := by
  rw [core, inlineTreeL_off, inlineTreeX_off]

theorem inlineTrees_eqL (src : Bytes) (ns : List Inl.Node) : inlineTrees src ns = inlineTreesL core src ns := by
  rw [core, inlineTreesL_off, inlineTreesX_off]

theorem inlinePhase_eqL (g : Bool) (env : Env) (src : Bytes) (inItem : Bool) (n : GM.Blocks.Node) :
    inlinePhase g env src n = inlinePhaseL core g env src inItem n := by
  rw [core, inlinePhaseL_off, inlinePhaseX_off]

theorem docTree_eqL (g : Bool) (env : Env) (src : Bytes) (escs : List Int) (inItem : Bool) (t : GM.Blocks.Tree) :
    docTree g env src t = docTreeL core g env src escs inItem t := by
  rw [core, docTreeL_off, docTreeX_off]

theorem docTrees_eqL (g : Bool) (env : Env) (src : Bytes) (escs : List Int) (pi first : Bool) (ts : List GM.Blocks.Tree) :
    docTrees g env src ts = docTreesL core g env src escs pi first ts := by
  rw [core, docTreesL_off, docTreesX_off]

theorem convertWith_eqL (g : Bool) (uc : List (Nat × (Bool × Bool))) (o : ROpts) (src : Bytes) :
    convertWith g uc o src = convertLWith core g uc o src := by
  rw [core, convertLWith_off, convertXWith_off]

end GM.Proof.ConvertCoreL
end ConvertCoreL

section ConvertL
namespace GM.Proof.ConvertL
open GM GM.Text GM.Convert GM.ConvertX GM.Inl

/-- LINKIFY DECLINES, on the concrete loop: whatever the state, when the peeked line has no ':', no '@' and no `www.`, Parse
    returns nil and leaves children, id counter and link-bottom stack as they are (the reader is the one PeekLine leaves) -/
theorem parseLinkify_declines (env : Env) (st : St) (line : Bytes) (seg : Segment) (rd : BlockReader)
    (hp : st.rd.peekLine = .ok ((some line, seg), rd)) (hne : line ≠ [])
    (hcolon : (58 : UInt8) ∉ line) (hat : (64 : UInt8) ∉ line) (hwww : GM.Ext.hasInfix GM.Ext.domainWWW line = false) :
    parseLinkify env st = .ok (none, st) ∨ parseLinkify env st = .ok (none, { st with rd := rd }) := by
  obtain ⟨f, hf, hc⟩ := GM.Proof.ExtShape.parseLinkify_shape env st.rd
  rw [hf st rfl]
  split
  · exact .inl rfl
  right
  rw [hp] at hc
  rcases hc with ⟨e, rfl, hno⟩ | ⟨_, _, _, hp', rfl | ⟨k, i, proto, email, -, -, -, hx, rfl⟩⟩
  · exact absurd (hno _ _ _ rfl) hne
  · cases hp'; rfl
  · cases hp'
    rcases hx with h | h | h
    · exact absurd h hcolon
    · exact absurd h hat
    · cases hwww.symm.trans h

end GM.Proof.ConvertL
end ConvertL
