/-
  GM.Proof.ConvertFCons — C11 for the BLOCK PHASE at whole-document level: on a source without the two bytes `[^` the block
  phase with the footnote block parser registered is the block phase of `convertCore`, and no Footnote / FootnoteList exists.

  The footnote parser IS consulted (on every line whose first non-space byte is `[`); it declines
  (GM.ConvertF.fnOpenScan_declines) — but it has called `reader.PeekLine()`, which fills the reader's line cache. So the
  simulation carries a reader invariant `IC`: the cache, when filled, holds the value of the current position in a source
  without `[^` (kept by every reader primitive: `RPrims`, hence by every block parser and the driver), and at the call the
  cache is already filled by openBlocks' own PeekLine (a Hoare-style step through `openBlocksLoopF`).
-/
import GM.Proof.ConvertFDecline
import GM.Proof.BlocksT
import GM.Proof.LinkRefPres
import GM.Proof.Hoare

namespace GM.ConvertF
open GM GM.Text GM.Blocks GM.Convert

/-! ### `[^` does not occur -/

theorem hasInfix2_false_iff (a b : UInt8) (l : Bytes) :
    GM.Ext.hasInfix [a, b] l = false ↔ ∀ i, ¬ (l[i]? = some a ∧ l[i + 1]? = some b) := by
  constructor
  · intro h i ⟨h1, h2⟩
    rw [GM.Ext.hasInfix_two h1 h2] at h; cases h
  · intro h
    refine GM.Ext.hasInfix_false_iff.mpr fun ⟨s, t, e⟩ => h s.length ?_
    subst e; simp

theorem noCaret_sub {src : Bytes} (h : GM.Ext.hasInfix [91, 94] src = false) (a b : Nat) :
    GM.Ext.hasInfix [91, 94] (sub src a b) = false := by
  rw [hasInfix2_false_iff] at h ⊢
  intro i hi
  unfold sub at hi
  simp only [List.getElem?_take, List.getElem?_drop] at hi
  apply h (a + i)
  obtain ⟨h1, h2⟩ := hi
  split at h1
  · split at h2
    · exact ⟨h1, by rw [← h2]; congr 1⟩
    · cases h2
  · cases h1

theorem noCaret_append {x y : Bytes} (hx : GM.Ext.hasInfix [91, 94] x = false) (hy : GM.Ext.hasInfix [91, 94] y = false)
    (hb : x.getLast? ≠ some 91 ∨ y.head? ≠ some 94) : GM.Ext.hasInfix [91, 94] (x ++ y) = false := by
  rw [hasInfix2_false_iff] at hx hy ⊢
  intro i hi
  obtain ⟨h1, h2⟩ := hi
  by_cases hlt : i + 1 < x.length
  · apply hx i
    rw [List.getElem?_append_left (by omega)] at h1
    rw [List.getElem?_append_left hlt] at h2
    exact ⟨h1, h2⟩
  · by_cases hge : x.length ≤ i
    · apply hy (i - x.length)
      rw [List.getElem?_append_right hge] at h1
      rw [List.getElem?_append_right (by omega)] at h2
      refine ⟨h1, ?_⟩
      rw [← h2]; congr 1; omega
    · have hi' : i + 1 = x.length := by omega
      rw [List.getElem?_append_left (by omega)] at h1
      rw [List.getElem?_append_right (by omega)] at h2
      have e0 : i + 1 - x.length = 0 := by omega
      rw [e0] at h2
      rcases hb with hb | hb
      · apply hb
        rw [List.getLast?_eq_getElem?]
        have : x.length - 1 = i := by omega
        rw [this]; exact h1
      · apply hb
        rw [List.head?_eq_getElem?]; exact h2

theorem noCaret_spaces (n : Nat) : GM.Ext.hasInfix [91, 94] (spaces n) = false := by
  rw [hasInfix2_false_iff]
  intro i hi
  have := hi.1
  unfold spaces at this
  rw [List.getElem?_replicate] at this
  split at this <;> simp at this

theorem noCaret_value {src : Bytes} (h : GM.Ext.hasInfix [91, 94] src = false) (t : Segment) (l : Bytes)
    (hv : t.value src = .ok l) : GM.Ext.hasInfix [91, 94] l = false := by
  have hnl : ∀ r : Bytes, GM.Ext.hasInfix [91, 94] r = false → GM.Ext.hasInfix [91, 94] (r ++ [10]) = false := fun r hr =>
    noCaret_append hr (by decide) (Or.inr (by decide))
  unfold Segment.value at hv
  split at hv
  · simp only [bind, Except.bind] at hv
    cases hs : sliceB src t.start t.stop with
    | error e => rw [hs] at hv; cases hv
    | ok r =>
      rw [hs] at hv
      have hr : GM.Ext.hasInfix [91, 94] r = false := by
        unfold sliceB at hs
        split at hs
        · cases hs; exact noCaret_sub h _ _
        · cases hs
      simp only [pure, Except.pure] at hv
      split at hv
      · cases hv; exact hnl r hr
      · cases hv; exact hr
  · simp only [bind, Except.bind] at hv
    split at hv
    · cases hv
    · split at hv
      · cases hv
      · cases hs : sliceB src t.start t.stop with
        | error e => rw [hs] at hv; cases hv
        | ok r =>
          rw [hs] at hv
          have hr : GM.Ext.hasInfix [91, 94] r = false := by
            unfold sliceB at hs
            split at hs
            · cases hs; exact noCaret_sub h _ _
            · cases hs
          have hsr : GM.Ext.hasInfix [91, 94] (spaces t.padding.toNat ++ r) = false := by
            apply noCaret_append (noCaret_spaces _) hr
            left
            intro hl
            have := List.mem_of_getLast? hl
            unfold spaces at this
            simp at this
          simp only [pure, Except.pure] at hv
          split at hv
          · cases hv; exact hnl _ hsr
          · cases hv; exact hsr

/-! ### the reader invariant -/

/-- the reader's line cache, when filled, holds the value of the current position -/
def Coh (r : Reader) : Prop := ∀ l, r.peekedLine = some l → r.pos.value r.source = .ok l

theorem Coh.of_none {r : Reader} (h : r.peekedLine = none) : Coh r := fun l hl => by rw [h] at hl; cases hl

/-- `Stop` (what GM.Proof.BlocksTerm carries: the source, `pos.Stop` inside it) and the cache coherence -/
def IC (src : Bytes) (s : St) : Prop := Stop src 0 s ∧ Coh s.r

theorem pres_and {I J : St → Prop} {α : Type} {m : M α} (h1 : Pres I m)
    (h2 : ∀ s a s', I s → J s → m s = .ok (a, s') → J s') : Pres (fun s => I s ∧ J s) m := by
  constructor
  intro s hs
  have := h1.h s hs.1
  cases hm : m s with
  | error e => rw [hm] at this; exact this
  | ok p =>
    obtain ⟨a, s'⟩ := p
    rw [hm] at this
    exact ⟨this, h2 s a s' hs.1 hs.2 hm⟩

theorem coh_peekLine {r r' : Reader} {x : Option Bytes × Segment} (h : r.peekLine = .ok (x, r')) (hc : Coh r) : Coh r' := by
  unfold Reader.peekLine at h
  split at h
  · split at h
    · cases h; exact hc
    · rename_i hn
      simp only [bind, Except.bind] at h
      cases hv : r.pos.value r.source with
      | error e => rw [hv] at h; cases h
      | ok v =>
        rw [hv] at h
        cases h
        intro l hl
        simp only [Option.some.injEq] at hl
        subst hl
        exact hv
  · cases h; exact hc

theorem coh_lineOffsetOp {r r' : Reader} {x : Int} (h : r.lineOffsetOp = .ok (x, r')) (hc : Coh r) : Coh r' := by
  unfold Reader.lineOffsetOp at h
  split at h
  · simp only [bind, Except.bind] at h
    cases hv : colLoop r.source r.head r.pos.start with
    | error e => rw [hv] at h; cases h
    | ok v => rw [hv] at h; cases h; exact hc
  · cases h; exact hc

theorem advanceLoop_none : ∀ (n : Nat) (r r' : Reader), r.peekedLine = none → r.advanceLoop n = .ok r' → r'.peekedLine = none
  | 0, r, r', hn, h => by unfold Reader.advanceLoop at h; cases h; exact hn
  | n + 1, r, r', hn, h => by
    unfold Reader.advanceLoop at h
    split at h
    · split at h
      · exact advanceLoop_none n _ r' (by exact hn) h
      · simp only [bind, Except.bind] at h
        cases hb : getByte r.source r.pos.start with
        | error e => rw [hb] at h; cases h
        | ok c =>
          rw [hb] at h
          simp only at h
          split at h
          · refine advanceLoop_none n _ r' ?_ h
            unfold Reader.advanceLine
            simp only
            split <;> rfl
          · exact advanceLoop_none n _ r' (by exact hn) h
    · cases h; exact hn

theorem advance_none {r r' : Reader} {n : Int} (h : r.advance n = .ok r') : r'.peekedLine = none := by
  unfold Reader.advance at h
  dsimp only at h
  cases hpk : r.peekedLine with
  | none =>
    rw [hpk] at h
    dsimp only at h
    split at h
    · simp only [pure, Except.pure, Except.ok.injEq] at h
      rw [← h]
    · exact advanceLoop_none _ _ r' rfl h
  | some l =>
    rw [hpk] at h
    dsimp only at h
    split at h
    · simp only [pure, Except.pure, Except.ok.injEq] at h
      rw [← h]
    · exact advanceLoop_none _ _ r' rfl h

theorem advanceAndSetPadding_none {r r' : Reader} {n p : Int} (h : r.advanceAndSetPadding n p = .ok r') :
    r'.peekedLine = none := by
  unfold Reader.advanceAndSetPadding at h
  simp only [bind, Except.bind] at h
  cases ha : r.advance n with
  | error e => rw [ha] at h; cases h
  | ok x =>
    rw [ha] at h
    simp only [pure, Except.pure] at h
    split at h
    · cases h; rfl
    · cases h; exact advance_none ha

theorem ic_prims (src : Bytes) : RPrims (IC src) where
  ronly := fun s nodes pc h => ⟨(stop_prims src 0).ronly s nodes pc h.1, h.2⟩
  peekLine := pres_and (stop_prims src 0).peekLine (by
    intro s a s' _ hc hm
    unfold GM.Blocks.peekLine at hm
    simp only [bind, Except.bind] at hm
    cases hp : s.r.peekLine with
    | error e => rw [hp] at hm; cases hm
    | ok x => rw [hp] at hm; cases hm; exact coh_peekLine hp hc)
  lineOffset := pres_and (stop_prims src 0).lineOffset (by
    intro s a s' _ hc hm
    unfold GM.Blocks.lineOffset at hm
    simp only [bind, Except.bind] at hm
    cases hp : s.r.lineOffsetOp with
    | error e => rw [hp] at hm; cases hm
    | ok x => rw [hp] at hm; cases hm; exact coh_lineOffsetOp hp hc)
  advance := fun n => pres_and ((stop_prims src 0).advance n) (by
    intro s a s' _ _ hm
    unfold GM.Blocks.advance at hm
    simp only [bind, Except.bind] at hm
    cases hp : s.r.advance n with
    | error e => rw [hp] at hm; cases hm
    | ok x => rw [hp] at hm; cases hm; exact Coh.of_none (advance_none hp))
  advanceAndSetPadding := fun n p => pres_and ((stop_prims src 0).advanceAndSetPadding n p) (by
    intro s a s' _ _ hm
    unfold GM.Blocks.advanceAndSetPadding at hm
    simp only [bind, Except.bind] at hm
    cases hp : s.r.advanceAndSetPadding n p with
    | error e => rw [hp] at hm; cases hm
    | ok x => rw [hp] at hm; cases hm; exact Coh.of_none (advanceAndSetPadding_none hp))
  preserveLeadingTab := fun seg ind => pres_and ((stop_prims src 0).preserveLeadingTab seg ind) (by
    intro s a s' _ _ hm
    unfold preserveLeadingTab at hm
    simp only [bind, StateT.bind, GM.Blocks.lineOffset, position, setPosition, Reader.position, Except.bind, pure,
      Except.pure, StateT.pure] at hm
    cases hp : s.r.lineOffsetOp with
    | error e => rw [hp] at hm; cases hm
    | ok x =>
      rw [hp] at hm
      simp only at hm
      cases hp2 : (x.2.setPosition x.2.line { start := x.2.pos.start - 1, stop := x.2.pos.stop }).lineOffsetOp with
      | error e => rw [hp2] at hm; cases hm
      | ok y =>
        rw [hp2] at hm
        cases hm
        exact Coh.of_none rfl)

/-! ### simulation with a state invariant and a postcondition on the value -/

/-- from `({}, s)` with `I s`: same value and `St` as the `M` program, the footnote layer still empty, `I` again, and the
    value satisfies `Q` -/
def RSimI (I : St → Prop) {α : Type} (Q : α → Prop) (x : Except Panic ((α × FS) × St)) (y : Except Panic (α × St)) : Prop :=
  match x with
  | .ok ((a, f'), s') => f'.empty ∧ y = .ok (a, s') ∧ I s' ∧ Q a
  | .error e => y = .error e

structure FSimI (I : St → Prop) {α : Type} (Q : α → Prop) (m : MF α) (m0 : M α) : Prop where
  h : ∀ f s, FS.empty f → I s → RSimI I Q (m f s) (m0 s)

variable {I : St → Prop}

theorem FSimI.up {α} (x : M α) (hx : Pres I x) : FSimI I Hoare.Top (up x) x := by
  constructor
  intro f s hf hs
  rw [upF_apply]
  cases hm : x s with
  | error e => exact rfl
  | ok p => exact ⟨hf, rfl, hx.ok hs hm, trivial⟩

theorem FSimI.pure {α} {Q : α → Prop} (a : α) (hq : Q a) : FSimI I Q (Pure.pure a : MF α) (Pure.pure a : M α) :=
  ⟨fun _ _ hf hs => ⟨hf, rfl, hs, hq⟩⟩

theorem FSimI.throw {α} {Q : α → Prop} (e : Panic) : FSimI I Q (throw e : MF α) (throw e : M α) :=
  ⟨fun _ _ _ _ => rfl⟩

theorem RSimI.weaken {α} {Q Q' : α → Prop} {x : Except Panic ((α × FS) × St)} {y : Except Panic (α × St)}
    (h : RSimI I Q x y) (hq : ∀ a, Q a → Q' a) : RSimI I Q' x y := by
  unfold RSimI at h ⊢
  cases x with
  | error e => exact h
  | ok p => obtain ⟨⟨a, f'⟩, s'⟩ := p; exact ⟨h.1, h.2.1, h.2.2.1, hq a h.2.2.2⟩

/-- pointed form of `bind` -/
theorem RSimI.bind {α β} {Q : α → Prop} {Q' : β → Prop} {m : MF α} {m0 : M α} {k : α → MF β} {k0 : α → M β} {f : FS} {s : St}
    (hm : RSimI I Q (m f s) (m0 s)) (hk : ∀ a f' s', FS.empty f' → I s' → Q a → RSimI I Q' (k a f' s') (k0 a s')) :
    RSimI I Q' ((m >>= k) f s) ((m0 >>= k0) s) := by
  rw [Hoare.bind_apply₂, m_bind_apply']
  cases hx : m f s with
  | error e =>
    rw [hx] at hm
    simp only [RSimI] at hm
    rw [hm]; exact rfl
  | ok p =>
    obtain ⟨⟨a, f'⟩, s'⟩ := p
    rw [hx] at hm
    obtain ⟨h2, h3, h4, h5⟩ := hm
    rw [h3]
    exact hk a f' s' h2 h4 h5

theorem FSimI.bind {α β} {Q' : β → Prop} {m : MF α} {m0 : M α} {k : α → MF β} {k0 : α → M β}
    (hm : FSimI I Hoare.Top m m0) (hk : ∀ a, FSimI I Q' (k a) (k0 a)) : FSimI I Q' (m >>= k) (m0 >>= k0) :=
  ⟨fun f s hf hs => RSimI.bind (hm.h f s hf hs) (fun a f' s' hf' hs' _ => (hk a).h f' s' hf' hs')⟩

theorem FSimI.weaken {α} {Q Q' : α → Prop} {m : MF α} {m0 : M α} (h : FSimI I Q m m0) (hq : ∀ a, Q a → Q' a) :
    FSimI I Q' m m0 :=
  ⟨fun f s hf hs => (h.h f s hf hs).weaken hq⟩

/-- what relates `m` to `m0` on the empty footnote layer (`FSim`) relates them along an invariant `m0` keeps, with every
    postcondition the values of `m0` meet -/
theorem FSimI.of_fsim {α} {Q : α → Prop} {m : MF α} {m0 : M α} (h : FSim m m0) (hp : Pres I m0)
    (hq : ∀ s a s', m0 s = .ok (a, s') → Q a) : FSimI I Q m m0 := by
  constructor
  intro f s hf hs
  have h1 := h.h f s hf
  have h2 := hp.h s hs
  unfold RSimF at h1
  unfold RSimI
  cases hx : m f s with
  | error e => rw [hx] at h1; exact h1
  | ok p =>
    obtain ⟨⟨a, f'⟩, s'⟩ := p
    rw [hx] at h1
    obtain ⟨e1, e2⟩ := h1
    rw [e2] at h2
    exact ⟨e1, e2, h2, hq _ _ _ e2⟩

theorem fsimi_calc (I : St → Prop) : SimCalc (fun _ x => Pres I x) (fun _ m m0 => FSimI I Hoare.Top m m0) :=
  ⟨fun x hx => FSimI.up x hx, fun a => FSimI.pure a trivial, FSimI.throw, FSimI.bind⟩

/-! ### the dispatch points while no Footnote exists -/

theorem bpContinueF_simI (hI : RPrims I) (bp : BP) (node : Nat) : FSimI I Hoare.Top (bpContinueF bp node) (bpContinue bp node) :=
  .of_fsim (bpContinueF_sim bp node) (bpContinue_pres hI bp node) fun _ _ _ _ => trivial

/-- what the driver needs to know about the outcome of the parser loop: a `goto retry` behind an opened container carries
    `newBlocksOpened` -/
def Qr (x : TryOutcomeT × OpenResult × Option Block) : Prop := ∀ p, x.1 = .retry p → x.2.1 = .newBlocksOpened

open GM.Hoare in
theorem tryParsersT_qr (pts : List PT) (parent : Nat) (bl cont : Bool) (w : Int) : ∀ (bps : List BP) (result : OpenResult)
    (lb : Option Block), Tri Top (fun _ => True) (tryParsersT pts parent bl cont w bps result lb) (fun x _ => Qr x)
  | [], result, lb => Tri.pure _ (fun _ _ p h => by cases h)
  | bp :: bps, result, lb => by
    have any : ∀ {α} (m : M α), Tri Top (fun _ => True) m (fun _ _ => True) := fun _ => Tri.trivial fun _ _ => trivial
    unfold tryParsersT
    refine Tri.ite (fun _ => tryParsersT_qr pts parent bl cont w bps _ _)
      (fun _ => Tri.ite (fun _ => tryParsersT_qr pts parent bl cont w bps _ _) (fun _ => ?_))
    refine Tri.bind (any _) (fun lb' => Tri.bind (any _) (fun r => ?_))
    obtain ⟨node, state⟩ := r
    cases node with
    | none => exact tryParsersT_qr pts parent bl cont w bps _ _
    | some node =>
      -- the ways out: `retryTransformed`; `retry` with `newBlocksOpened`; `done`
      have push : ∀ (_ : Unit), Tri Top (fun _ => True) (do
            appendChild parent node
            modPc fun pc => { pc with opened := pc.opened ++ [{ node := node, bp := bp }] }
            if state.hasChildren = true then pure (TryOutcomeT.retry node, OpenResult.newBlocksOpened, lb')
              else pure (TryOutcomeT.done, OpenResult.newBlocksOpened, lb') : M _) (fun x _ => Qr x) := fun _ =>
        Tri.bind (any _) fun _ => Tri.bind (any _) fun _ =>
          Tri.ite (fun _ => Tri.pure _ fun _ _ _ _ => rfl) (fun _ => Tri.pure _ fun _ _ _ h => by cases h)
      dsimp only
      split <;> refine Tri.bind (any _) (fun transformed => Tri.ite
        (fun _ => Tri.pure _ fun _ _ _ h => by cases h) (fun _ => Tri.bind (any _) fun _ => ?_))
      all_goals
        split
        · exact Tri.bind (any _) fun _ => Tri.ite (fun _ => Tri.bind (any _) fun _ => Tri.bind (any _) push) (fun _ => push ())
        · exact push ()

section driverI
variable (hI : RPrims I) {pts : List PT} (hp : PTsOK pts)
include hI hp

theorem closeBlocksF_simI (frm to : Int) : FSimI I Hoare.Top (closeBlocksF pts frm to) (closeBlocksT pts frm to) :=
  .of_fsim (closeBlocksF_sim pts frm to) (closeBlocksT_pres hI hp frm to) fun _ _ _ _ => trivial

theorem tryParsersF_simI (parent : Nat) (blankLine continuable : Bool) (w : Int) (bps : List BP)
    (result : OpenResult) (lastBlock : Option Block) :
    FSimI I Qr (tryParsersF pts parent blankLine continuable w (bps.map .core) result lastBlock)
      (tryParsersT pts parent blankLine continuable w bps result lastBlock) :=
  .of_fsim (tryParsersF_sim pts parent blankLine continuable w bps result lastBlock)
    (tryParsersT_pres hI hp parent blankLine continuable w bps result lastBlock)
    fun s a s' e => GM.Hoare.Tri.top_iff.1 (tryParsersT_qr pts parent blankLine continuable w bps result lastBlock) s a s' trivial e

end driverI

/-! ### the footnote block parser at the head of the list -/

theorem idx_inRange {line : Bytes} {i : Int} (h0 : 0 ≤ i) (h1 : i.toNat < line.length) : ∃ c, idx line i = .ok c := by
  unfold idx getByte
  have : ¬ i < 0 := by omega
  simp only [this, if_false]
  rw [List.getElem?_eq_getElem h1]
  exact ⟨_, rfl⟩

/-- with the block offset inside the line there is no index panic: (nil, NoChildren) -/
theorem fnOpenScan_none (line : Bytes) (pos : Int) (hpos : pos < 0 ∨ pos.toNat < line.length)
    (h : GM.Ext.hasInfix [91, 94] line = false) : fnOpenScan line pos = .ok none := by
  rcases fnOpenScan_declines line pos h with h1 | h1
  · exact h1
  · exfalso
    unfold fnOpenScan at h1
    simp only [bind, Except.bind, pure, Except.pure] at h1
    by_cases hp : pos < 0
    · simp [hp] at h1
    · simp only [hp, if_false] at h1
      have hr : pos.toNat < line.length := by
        rcases hpos with h2 | h2
        · exact absurd h2 hp
        · exact h2
      obtain ⟨c, hc⟩ := idx_inRange (by omega) hr
      rw [hc] at h1
      simp only at h1
      split at h1
      · cases h1
      · split at h1
        · cases h1
        · rename_i hl
          obtain ⟨d, hd⟩ := idx_inRange (line := line) (i := pos + 1) (by omega) (by omega)
          rw [hd] at h1
          simp only at h1
          split at h1
          · cases h1
          · split at h1
            · cases h1
            · split at h1
              · cases h1
              · rename_i closure _ hn
                obtain ⟨e, he⟩ := idx_inRange (line := line) (i := pos + 1 + 1 + (closure : Int) + 1) (by omega) (by omega)
                rw [he] at h1
                simp only at h1
                split at h1 <;> cases h1

/-- the reader's cache holds the current line `l`, and the block offset lies inside it -/
def PPeek (l : Bytes) (s : St) : Prop :=
  s.r.peekedLine = some l ∧ (s.r.pos.start ≥ 0 ∧ s.r.pos.start < s.r.sourceLength) ∧
    (s.pc.blockOffset < 0 ∨ s.pc.blockOffset.toNat < l.length)

theorem PPeek.peekLine {l : Bytes} {s : St} (h : PPeek l s) : s.r.peekLine = .ok ((some l, s.r.pos), s.r) := by
  unfold Reader.peekLine
  simp only [h.2.1, and_self, if_true, h.1]
  rfl

theorem st_eta (s : St) : ({ r := s.r, nodes := s.nodes, pc := s.pc } : St) = s := by cases s; rfl

/-- on a source without `[^`, with the line cached: Open declines and the state is untouched -/
theorem fnOpen_noop {src : Bytes} (hsrc : GM.Ext.hasInfix [91, 94] src = false) (parent : Nat) (s : St) (l : Bytes)
    (hI : IC src s) (hp : PPeek l s) : fnOpen parent {} s = .ok (((none, stNoChildren), {}), s) := by
  have hl : GM.Ext.hasInfix [91, 94] l = false := by
    have := hI.2 l hp.1
    rw [hI.1.source] at this
    exact noCaret_value hsrc _ _ this
  have hscan := fnOpenScan_none l s.pc.blockOffset hp.2.2 hl
  unfold fnOpen
  rw [Hoare.bind_apply₂, upF_apply]
  have hpl : peekLine s = .ok ((some l, s.r.pos), s) := by
    simp only [peekLine, hp.peekLine, bind, Except.bind, pure, Except.pure]
  rw [hpl]
  simp only [Option.getD]
  rw [Hoare.bind_apply₂, upF_apply]
  simp only [getPc, pure, Except.pure]
  rw [Hoare.bind_apply₂, upF_apply]
  simp only [liftE, hscan, Except.map]
  rfl

/-- `lastBlock` as openBlocks holds it is the last opened block whenever it can still be read (parser.go:1016-1023) -/
def Fresh (cont : Bool) (result : OpenResult) (lb : Option Block) (s : St) : Prop :=
  cont = true → result = .noBlocksOpened → lb = s.pc.opened.getLast?

/-- when the first free parser is not skipped the loop re-reads `lastBlock` before it uses it -/
theorem tryParsersT_lb (pts : List PT) (parent : Nat) (bl cont : Bool) (w : Int) (result : OpenResult) (lb lb' : Option Block)
    (h : ¬ (cont = true ∧ result = .noBlocksOpened)) (hw : ¬ w > 3) :
    tryParsersT pts parent bl cont w freeParsers result lb = tryParsersT pts parent bl cont w freeParsers result lb' := by
  have h1 : (cont && result == OpenResult.noBlocksOpened && !BP.code.canInterruptParagraph) = false := by
    cases cont <;> cases result <;> simp_all [BP.canInterruptParagraph]
  have h2 : (decide (w > 3) && !BP.code.canAcceptIndentedLine) = false := by simp [hw]
  unfold freeParsers
  rw [tryParsersT]
  conv => rhs; rw [tryParsersT]
  simp only [h1, h2, Bool.false_eq_true, if_false]

section cons
variable {src : Bytes} (hsrc : GM.Ext.hasInfix [91, 94] src = false) {pts : List PT} (hp : PTsOK pts)
include hsrc hp

/-- the parser loop on a line that starts with `[`: the footnote parser declines without a trace -/
theorem tryFootnote_sim (parent : Nat) (bl cont : Bool) (w : Int) (result : OpenResult) (lb : Option Block) (s : St) (l : Bytes)
    (hI : IC src s) (hpk : PPeek l s) (hfr : Fresh cont result lb s) :
    RSimI (IC src) Qr (tryParsersF pts parent bl cont w (.footnote :: freeParsersF) result lb {} s)
      (tryParsersT pts parent bl cont w freeParsers result lb s) := by
  have hgen := fun r l' => (tryParsersF_simI (ic_prims src) hp parent bl cont w freeParsers r l').h {} s FS.empty_default hI
  have hfree : freeParsersF = freeParsers.map .core := rfl
  rw [tryParsersF]
  simp only [BPF.canInterruptParagraph, BPF.canAcceptIndentedLine, Bool.not_true, Bool.and_false, Bool.false_eq_true,
    if_false, Bool.not_false, Bool.and_true]
  by_cases hw : w > 3
  · simp only [hw, decide_true, if_true]
    rw [hfree]
    exact hgen result lb
  · simp only [hw, decide_false, Bool.false_eq_true, if_false]
    rw [Hoare.bind_apply₂, upF_apply, lastOpenedBlock_run]
    simp only []
    rw [Hoare.bind_apply₂]
    have hop : bpOpenF BPF.footnote parent {} s = .ok (((none, stNoChildren), {}), s) := fnOpen_noop hsrc parent s l hI hpk
    rw [hop]
    simp only []
    rw [hfree]
    by_cases hc : cont = true ∧ result = .noBlocksOpened
    · rw [← hfr hc.1 hc.2]
      exact hgen result lb
    · rw [tryParsersT_lb pts parent bl cont w result lb s.pc.opened.getLast? hc hw]
      exact hgen result _

/-- the part of openBlocks behind the parser loop, given the loop's simulation at this state -/
theorem retryStep_sim (bl td cont : Bool) (parent : Nat) (w : Int) (bpsF : List BPF) (bpsT : List BP) (result : OpenResult)
    (lb : Option Block) (againF : Bool → Bool → Nat → OpenResult → Option Block → MF OpenResult)
    (againT : Bool → Bool → Nat → OpenResult → Option Block → M OpenResult)
    (ha : ∀ td c p r l' f' s', FS.empty f' → IC src s' → Fresh c r l' s' →
      RSimI (IC src) Hoare.Top (againF td c p r l' f' s') (againT td c p r l' s'))
    (f : FS) (s : St) (hf : FS.empty f) (hI : IC src s)
    (ht : RSimI (IC src) Qr (tryParsersF pts parent bl cont w bpsF result lb f s)
      (tryParsersT pts parent bl cont w bpsT result lb s)) :
    RSimI (IC src) Hoare.Top (retryStepF pts bl td cont parent w bpsF result lb againF f s)
      (retryStepT pts bl td cont parent w bpsT result lb againT s) := by
  have hget : ∀ (f' : FS) (s' : St), (up (get : M St)) f' s' = .ok ((s', f'), s') := fun _ _ => rfl
  have hget0 : ∀ s' : St, (get : M St) s' = .ok (s', s') := fun _ => rfl
  unfold retryStepF retryStepT
  rw [Hoare.bind_apply₂, hget, m_bind_apply', hget0]
  simp only []
  refine RSimI.bind ht ?_
  intro x f' s' hf' hs' hq
  obtain ⟨outcome, r, l'⟩ := x
  cases outcome with
  | retry p =>
    simp only []
    rw [Hoare.bind_apply₂, hget, m_bind_apply', hget0]
    simp only []
    split
    · exact rfl
    · apply ha _ _ _ _ _ f' s' hf' hs'
      intro _ hr
      have := hq p rfl
      simp only at this
      rw [this] at hr
      cases hr
  | retryTransformed =>
    simp only []
    rw [Hoare.bind_apply₂, hget, m_bind_apply', hget0]
    simp only []
    split
    · exact rfl
    · apply ha _ _ _ _ _ f' s' hf' hs'
      intro hc
      cases hc
  | done =>
    simp only []
    exact (FSimI.up _ (toContinuable_pres (ic_prims src) cont r l')).h f' s' hf' hs'

omit hsrc hp in
theorem peekLine_facts {s s1 : St} {line : Option Bytes} {seg : Segment} (h : peekLine s = .ok ((line, seg), s1)) :
    s1.pc = s.pc ∧ ∀ l, line = some l → s1.r.peekedLine = some l ∧ (s1.r.pos.start ≥ 0 ∧ s1.r.pos.start < s1.r.sourceLength) := by
  unfold GM.Blocks.peekLine at h
  simp only [bind, Except.bind] at h
  cases hp : s.r.peekLine with
  | error e => rw [hp] at h; cases h
  | ok x =>
    rw [hp] at h
    simp only [pure, Except.pure, Except.ok.injEq, Prod.mk.injEq] at h
    obtain ⟨h1, h2⟩ := h
    subst h2
    refine ⟨rfl, ?_⟩
    intro l hl
    subst hl
    unfold Reader.peekLine at hp
    split at hp
    · rename_i hr
      split at hp
      · rename_i l' hc
        simp only [pure, Except.pure, Except.ok.injEq] at hp
        rw [← hp] at h1 ⊢
        simp only [Prod.mk.injEq, Option.some.injEq] at h1
        rw [← h1.1]
        exact ⟨hc, hr⟩
      · simp only [bind, Except.bind] at hp
        cases hv : s.r.pos.value s.r.source with
        | error e => rw [hv] at hp; cases hp
        | ok v =>
          rw [hv] at hp
          simp only [pure, Except.pure, Except.ok.injEq] at hp
          rw [← hp] at h1 ⊢
          simp only [Prod.mk.injEq, Option.some.injEq] at h1
          rw [← h1.1]
          exact ⟨rfl, hr⟩
    · simp only [pure, Except.pure, Except.ok.injEq] at hp
      rw [← hp] at h1
      simp at h1

omit hsrc hp in
theorem lineOffset_facts {s1 s2 : St} {lo : Int} (h : lineOffset s1 = .ok (lo, s2)) :
    s2.pc = s1.pc ∧ s2.r.peekedLine = s1.r.peekedLine ∧ s2.r.pos = s1.r.pos ∧ s2.r.source = s1.r.source := by
  unfold GM.Blocks.lineOffset at h
  simp only [bind, Except.bind] at h
  cases hp : s1.r.lineOffsetOp with
  | error e => rw [hp] at h; cases h
  | ok x =>
    rw [hp] at h
    simp only [pure, Except.pure, Except.ok.injEq, Prod.mk.injEq] at h
    obtain ⟨_, h2⟩ := h
    subst h2
    unfold Reader.lineOffsetOp at hp
    split at hp
    · simp only [bind, Except.bind] at hp
      cases hv : colLoop s1.r.source s1.r.head s1.r.pos.start with
      | error e => rw [hv] at hp; cases hp
      | ok v =>
        rw [hv] at hp
        simp only [pure, Except.pure, Except.ok.injEq] at hp
        rw [← hp]
        exact ⟨rfl, rfl, rfl, rfl⟩
    · simp only [pure, Except.pure, Except.ok.injEq] at hp
      rw [← hp]
      exact ⟨rfl, rfl, rfl, rfl⟩

omit hsrc hp in
theorem triggered_91 : triggered 91 = none := by decide

omit hsrc hp in
theorem triggeredF_on (c : UInt8) (h : c ≠ 91) :
    (triggeredF true c).getD freeParsersF = ((triggered c).getD freeParsers).map .core := by
  have : (c == 91) = false := by simp [h]
  unfold triggeredF freeParsersF
  simp only [Bool.true_and, this, Bool.false_eq_true, if_false]
  cases triggered c <;> rfl

theorem openBlocksLoop_sim (bl : Bool) : ∀ (fuel : Nat) (td cont : Bool) (parent : Nat) (result : OpenResult) (lb : Option Block)
    (f : FS) (s : St), FS.empty f → IC src s → Fresh cont result lb s →
    RSimI (IC src) Hoare.Top (openBlocksLoopF true pts bl fuel td cont parent result lb f s)
      (openBlocksLoopT pts bl fuel td cont parent result lb s)
  | 0, _, _, _, _, _, _, _, _, _, _ => by unfold openBlocksLoopF openBlocksLoopT; exact rfl
  | fuel + 1, td, cont, parent, result, lb, f, s, hf, hI, hfr => by
    have ih := openBlocksLoop_sim bl fuel
    have prims := ic_prims src
    have hf0 := FS.empty_eq hf
    subst hf0
    unfold openBlocksLoopF openBlocksLoopT
    rw [Hoare.bind_apply₂, upF_apply, m_bind_apply']
    cases hpl : peekLine s with
    | error e => exact rfl
    | ok x =>
      obtain ⟨⟨line, seg⟩, s1⟩ := x
      simp only []
      have hI1 : IC src s1 := prims.peekLine.ok hI hpl
      obtain ⟨hpc1, hpk1⟩ := peekLine_facts hpl
      rw [Hoare.bind_apply₂, upF_apply, m_bind_apply']
      cases hlo : lineOffset s1 with
      | error e => exact rfl
      | ok y =>
        obtain ⟨lo, s2⟩ := y
        simp only []
        have hI2 : IC src s2 := prims.lineOffset.ok hI1 hlo
        obtain ⟨hpc2, hpk2, hpos2, hsrc2⟩ := lineOffset_facts hlo
        generalize hiw : indentWidthI (line.getD []) lo = wp
        obtain ⟨w, pos⟩ := wp
        simp only []
        rw [Hoare.bind_apply₂, upF_apply, m_bind_apply']
        have hmod : ∀ g : Ctx → Ctx, modPc g s2 = .ok ((), { s2 with pc := g s2.pc }) := fun _ => rfl
        rw [hmod]
        simp only []
        generalize hs3 : ({ s2 with pc := (if pos ≥ ((line.getD []).length : Int) then
            { s2.pc with blockOffset := -1, blockIndent := -1 } else { s2.pc with blockOffset := pos, blockIndent := w }) } : St) = s3
        have hI3 : IC src s3 := by rw [← hs3]; exact prims.ronly s2 _ _ hI2
        have hr3 : s3.r = s2.r := by rw [← hs3]
        have hop3 : s3.pc.opened = s.pc.opened := by
          rw [← hs3, ← hpc1, ← hpc2]; simp only; split <;> rfl
        have hbo3 : s3.pc.blockOffset = if pos ≥ ((line.getD []).length : Int) then -1 else pos := by
          rw [← hs3]; simp only; split <;> rfl
        have hfr3 : Fresh cont result lb s3 := by
          intro h1 h2; rw [hop3]; exact hfr h1 h2
        have hcontT := fun r l' => (FSimI.up (I := IC src) _ (toContinuable_pres prims cont r l')).h {} s3 hf hI3
        have hagain : ∀ td c p r l' f' s', FS.empty f' → IC src s' → Fresh c r l' s' →
            RSimI (IC src) Hoare.Top (openBlocksLoopF true pts bl fuel td c p r l' f' s') (openBlocksLoopT pts bl fuel td c p r l' s') :=
          fun td c p r l' f' s' h1 h2 h3 => ih td c p r l' f' s' h1 h2 h3
        have hgenT := fun bps => (tryParsersF_simI prims hp parent bl cont w bps result lb).h {} s3 hf hI3
        by_cases hnone : line.isNone = true
        · simp only [hnone, if_true]
          exact hcontT result lb
        · simp only [hnone, Bool.false_eq_true, if_false]
          rw [Hoare.bind_apply₂, upF_apply, m_bind_apply']
          cases hc0 : idx (line.getD []) 0 with
          | error e => simp only [liftE, hc0, Except.map]; exact rfl
          | ok c0 =>
            simp only [liftE, hc0, Except.map]
            by_cases h10 : (c0 == 10) = true
            · simp only [h10, if_true]
              exact hcontT result lb
            · simp only [h10, Bool.false_eq_true, if_false]
              by_cases hlt : pos < ((line.getD []).length : Int)
              · simp only [hlt, if_true]
                rw [Hoare.bind_apply₂, upF_apply, m_bind_apply']
                cases hcp : idx (line.getD []) pos with
                | error e => simp only [liftE, hcp, Except.map]; exact rfl
                | ok c =>
                  simp only [liftE, hcp, Except.map, pure_bind]
                  by_cases h91 : c = 91
                  · subst h91
                    have e1 : (triggeredF true 91).getD freeParsersF = .footnote :: freeParsersF := rfl
                    have e2 : (triggered 91).getD freeParsers = freeParsers := by rw [triggered_91]; rfl
                    rw [e1, e2]
                    obtain ⟨l, hl⟩ : ∃ l, line = some l := by
                      cases line with
                      | none => simp at hnone
                      | some l => exact ⟨l, rfl⟩
                    have hpk3 : PPeek l s3 := by
                      obtain ⟨q1, q2⟩ := hpk1 l hl
                      refine ⟨by rw [hr3, hpk2]; exact q1, by rw [hr3, hpos2]; unfold Reader.sourceLength at q2 ⊢; rw [hsrc2]; exact q2, ?_⟩
                      rw [hbo3]
                      have hge : ¬ pos ≥ ((line.getD []).length : Int) := by omega
                      simp only [hge, if_false]
                      subst hl
                      simp only [Option.getD_some] at hlt
                      by_cases h0 : pos < 0
                      · exact Or.inl h0
                      · right; omega
                    exact retryStep_sim hsrc hp bl td cont parent w _ _ result lb _ _ hagain {} s3 hf hI3
                      (tryFootnote_sim hsrc hp parent bl cont w result lb s3 l hI3 hpk3 hfr3)
                  · rw [triggeredF_on c h91]
                    exact retryStep_sim hsrc hp bl td cont parent w _ _ result lb _ _ hagain {} s3 hf hI3 (hgenT _)
              · simp only [hlt, if_false, pure_bind]
                have e3 : freeParsersF = freeParsers.map .core := rfl
                rw [e3]
                exact retryStep_sim hsrc hp bl td cont parent w _ _ result lb _ _ hagain {} s3 hf hI3 (hgenT _)

theorem openBlocksF_simC (parent : Nat) (bl : Bool) :
    FSimI (IC src) Hoare.Top (openBlocksF true pts parent bl) (openBlocksT pts parent bl) := by
  constructor
  intro f s hf hI
  unfold openBlocksF openBlocksT
  rw [Hoare.bind_apply₂, upF_apply, lastOpenedBlock_run, m_bind_apply', lastOpenedBlock_run]
  simp only []
  cases hl : s.pc.opened.getLast? with
  | none =>
    simp only [pure_bind]
    rw [Hoare.bind_apply₂, upF_apply, source_run, m_bind_apply', source_run]
    simp only []
    exact openBlocksLoop_sim hsrc hp bl _ false false parent .noBlocksOpened none f s hf hI (fun h => by cases h)
  | some lb =>
    simp only [bind_assoc, pure_bind]
    rw [Hoare.bind_apply₂, upF_apply, getNode_run, m_bind_apply', getNode_run]
    simp only []
    rw [Hoare.bind_apply₂, upF_apply, source_run, m_bind_apply', source_run]
    simp only []
    exact openBlocksLoop_sim hsrc hp bl _ false _ parent .noBlocksOpened (some lb) f s hf hI (fun _ _ => hl.symm)

omit hsrc hp in

omit hsrc hp in
theorem advanceLine_ic : Pres (IC src) advanceLine :=
  pres_and (advanceLine_stop src 0) (fun s a s' _ _ hm => by
    unfold GM.Blocks.advanceLine at hm
    simp only [pure, Except.pure, Except.ok.injEq, Prod.mk.injEq] at hm
    rw [← hm.2]
    exact Coh.of_none (Proof.Reader.advanceLine_peeked s.r))

omit hsrc hp in
theorem skipBlankLines_coh : ∀ (fuel : Nat) (lines : Int) (r : Reader) (x : (Segment × Int × Bool) × Reader), Coh r →
    skipBlankLines readerOps fuel lines r = .ok x → Coh x.2
  | 0, _, _, _, _, h => by unfold skipBlankLines at h; cases h
  | fuel + 1, lines, r, x, hc, h => by
    unfold skipBlankLines at h
    simp only [readerOps, bind, Except.bind] at h
    cases hp : r.peekLine with
    | error e => rw [hp] at h; cases h
    | ok y =>
      obtain ⟨⟨line, seg⟩, r1⟩ := y
      rw [hp] at h
      have hc1 := coh_peekLine hp hc
      simp only at h
      cases line with
      | none =>
        simp only [pure, Except.pure, Except.ok.injEq] at h
        rw [← h]; exact hc1
      | some l =>
        simp only at h
        split at h
        · simp only [pure, Except.pure] at h
          exact skipBlankLines_coh fuel _ _ x (Coh.of_none (Proof.Reader.advanceLine_peeked r1)) h
        · simp only [pure, Except.pure, Except.ok.injEq] at h
          rw [← h]; exact hc1

omit hsrc hp in
theorem skipBlankLinesR_ic : Pres (IC src) skipBlankLinesR := by
  constructor
  intro s hs
  have hsk := skipBlank_ok (loopFuel s.r.source) 0 s.r 0 hs.1.toR (by rw [hs.1.source]; exact mu_lt_loopFuel src s.r)
  unfold skipBlankLinesR
  simp only [bind, Except.bind]
  cases hr : skipBlankLines readerOps (loopFuel s.r.source) 0 s.r with
  | error e => exact hsk.err e hr
  | ok x =>
    simp only [pure, Except.pure]
    exact ⟨(hsk.ok x hr).1.toS, skipBlankLines_coh _ _ _ x hs.2 hr⟩

/-- the primitives of the driver keep the reader invariant -/
theorem drvU_ic {α} (x : M α) (hx : DrvU x) : Pres (IC src) x := by
  have prims := ic_prims src
  have := prims.ronly
  have := prims.peekLine
  have := prims.lineOffset
  have := advanceLine_ic (src := src)
  have := skipBlankLinesR_ic (src := src)
  have := transformParagraph_pres prims pts hp
  have := lastOpenedBlock_pres prims
  have := appendChild_pres prims
  have := toContinuable_pres prims
  cases hx <;> first | apply_hyp | pres

/-- the line loops are walked by GM.Proof.BlocksDriverGSim; `openBlocks`, where the footnote parser is consulted, is
    `openBlocksF_simC` -/
theorem parseBlocksF_simC (parent : Nat) : FSimI (IC src) Hoare.Top (parseBlocksF true pts parent) (parseBlocksT pts parent) := by
  rw [parseBlocksF_eqG, parseBlocksT_eqC]
  refine parseBlocksG_sim (fsimi_calc (IC src)) pts (drvU_ic hsrc hp) (fun frm to => ?_) (fun parent bl => ?_)
    (bpContinueF_simI (ic_prims src)) parent
  · rw [← closeBlocksF_eqG true pts, ← closeBlocksT_eqC]
    exact closeBlocksF_simI (ic_prims src) hp frm to
  · rw [← openBlocksF_eqG, ← openBlocksT_eqC]
    exact openBlocksF_simC hsrc hp parent bl

end cons

theorem ic_init (src : Bytes) : IC src (initSt src) := by
  refine ⟨stop_init src, Coh.of_none ?_⟩
  unfold initSt Reader.new
  exact Proof.Reader.advanceLine_peeked _

/-- **C11 for the block phase at whole-document level**: on a source without the two bytes `[^`, the block phase with the
    footnote block parser registered is GM.Blocks.runT (same node store, context, reader — or the same panic), and no
    Footnote / FootnoteList exists -/
theorem runF_cons {src : Bytes} (hsrc : GM.Ext.hasInfix [91, 94] src = false) {pts : List PT} (hp : PTsOK pts) :
    runF true pts src = (runT pts src).map fun st => ({}, st) := by
  have := (parseBlocksF_simC hsrc hp 0).h {} (initSt src) FS.empty_default (ic_init src)
  unfold RSimI at this
  unfold runF runT
  cases hx : parseBlocksF true pts 0 {} (initSt src) with
  | error e =>
    rw [hx] at this
    simp only [Except.map]
    rw [this]
  | ok p =>
    obtain ⟨⟨a, f'⟩, s'⟩ := p
    rw [hx] at this
    simp only [Except.map]
    rw [this.2.1, FS.empty_eq this.1]

theorem blockPhaseF_cons {src : Bytes} (hsrc : GM.Ext.hasInfix [91, 94] src = false) :
    blockPhaseF true true src = (blockPhase true src).map fun st => ({}, st) :=
  runF_cons hsrc GM.Proof.LinkRefPres.paragraphTransformers_ok

end GM.ConvertF
