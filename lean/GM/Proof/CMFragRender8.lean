/-
  GM.Proof.CMFragRender8 — the renderer on code spans, hard breaks, `*` emphasis and the lines of stage 13; on a Blockquote
  around a document and on `k` nested Blockquotes (`renderDoc_nest_anyN`); the spec-side `quoteLines` / `quoteLinesN` are
  the model-side `quotePrefix` / `qpN`.
-/
import GM.Proof.CMFrag8Defs
import GM.Proof.CMFragRender
import GM.Proof.CMFrag9Defs
import GM.Proof.CMFrag11Defs
import GM.Model.Blocks.QuoteSim
import GM.Proof.CMFrag13Defs
import GM.Proof.CMFragNDefs
import GM.Proof.CMFragNTree

/-
  section CMFragRender8 — code spans in the text lines, renderer side and bridge: the renderer on a code span
  (`renderNode_code8`); a spec-side atom as source bytes (`atomOfR`, `lineSrc_atomOfR8`); a spelled run of text is not
  empty and leaves no backslash pending (`escSpell_ne_nil8`, `escAfter_escSpell8`).
-/
section CMFragRender8
namespace GM.Proof.CMFrag
open GM GM.Spec.CM GM.Spec.CMFrag

theorem handled_codeSpan8 (e : Exts) : handled e .codeSpan = true := rfl

theorem renderNode_code8 (rc : RCfg) (ph : Bool) (next : Option Node) (bs : Bytes) (h : bs.getLast? ≠ some 10) :
    renderNode rc ph next (.mk .codeSpan none [.mk (.text bs false false true false) none []]) =
      strBytes "<code>" ++ GM.rawWrite bs ++ strBytes "</code>" := by
  rw [renderNode]
  have h1 : strBytes "<code>" = [60] ++ strBytes "code" ++ [62] := by decide +kernel
  have h2 : (bs.getLast? == some 10) = false := by simpa using h
  simp [enter, leave, handled_codeSpan8, skipsChildren, openTag, codeSpanBody, h1, h2]

theorem alnum_ne_lf8 : ∀ c : UInt8, isAlnumC c = true → c ≠ 10 := by
  apply forall_uint8; decide +kernel

/-- a spec-side atom as source bytes -/
def atomOfR : RAtom → Atom
  | .txt cs => .txt (escSpell cs)
  | .code c => .code c

theorem atomSrc_atomOfR8 (a : RAtom) : atomSrc (atomOfR a) = spellRAtom a := by
  cases a <;> rfl

theorem lineSrc_atomOfR8 (l : RLine) : lineSrc (l.map atomOfR) = spellRLine l := by
  simp only [lineSrc, spellRLine, List.flatMap_map]
  congr 1; funext a; exact atomSrc_atomOfR8 a

theorem escAfter_append8 (a b : Bytes) (e : Bool) : escAfter (a ++ b) e = escAfter b (escAfter a e) := by
  induction a generalizing e with
  | nil => rfl
  | cons c cs ih => simp only [List.cons_append, escAfter]; exact ih _

theorem escAfter_lit8 : ∀ c : UInt8, escAfter (spellChar ⟨c, .lit⟩) false = false := by
  apply forall_uint8; decide +kernel
theorem escAfter_bs8 : ∀ c : UInt8, escAfter (spellChar ⟨c, .bs⟩) false = false := by
  apply forall_uint8; decide +kernel
theorem escAfter_named8 (c : UInt8) : escAfter (spellChar ⟨c, .named⟩) false = false := by
  rcases spellChar_named c with ⟨_, e⟩ | ⟨n, e, _⟩
  · rw [e]; exact escAfter_lit8 c
  · rw [e, ← List.cons_append, escAfter_concat]; simp

/-- no spelling of a character ends in an unescaped backslash -/
theorem escAfter_spellChar8 (t : TChar) : escAfter (spellChar t) false = false := by
  obtain ⟨c, e⟩ := t
  cases e with
  | lit => exact escAfter_lit8 c
  | bs => exact escAfter_bs8 c
  | named => exact escAfter_named8 c
  | dec pad =>
    simp only [spellChar]
    rw [escAfter_concat]; simp
  | hex pad upX upD =>
    simp only [spellChar]
    rw [escAfter_concat]; simp

theorem escAfter_escSpell8 (cs : List TChar) : escAfter (escSpell cs) false = false := by
  induction cs with
  | nil => rfl
  | cons t ts ih =>
    simp only [escSpell, List.flatMap_cons] at ih ⊢
    rw [escAfter_append8, escAfter_spellChar8, ih]

theorem escSpell_ne_nil8 (cs : List TChar) (h : cs ≠ []) : escSpell cs ≠ [] := by
  cases cs with
  | nil => exact absurd rfl h
  | cons t ts =>
    have : spellChar t ≠ [] := by
      obtain ⟨c, e⟩ := t
      cases e <;> simp only [spellChar] <;> (try split) <;> (try split) <;> simp
    simp [escSpell, this]

theorem flatMap_congr8 {α : Type} (l : List α) (f g : α → Bytes) (h : ∀ x ∈ l, f x = g x) :
    l.flatMap f = l.flatMap g := by
  induction l with
  | nil => rfl
  | cons x rest ih =>
    simp only [List.flatMap_cons]
    rw [h x (by simp), ih (fun y hy => h y (by simp [hy]))]

end GM.Proof.CMFrag
end CMFragRender8

/-
  section CMFragRender9 — hard line breaks written with a backslash, renderer side and bridge: the renderer on one Text
  node with its `soft` / `hard` flags (`renderNode_text9`); a line of a `BDoc` as an `HLine` (`hlineOfB`) and its source.
-/
section CMFragRender9
namespace GM.Proof.CMFrag
open GM GM.Spec.CM GM.Spec.CMFrag

theorem renderNode_text9 (rc : RCfg) (hes : rc.core.escSpace = false) (hhw : rc.core.hardWraps = false)
    (hea : rc.core.ea = 0) (hx : rc.core.xhtml = true) (ph : Bool) (next : Option Node) (l : Bytes)
    (soft hard : Bool) :
    renderNode rc ph next (.mk (.text l soft hard false false) none []) =
      GM.write false l ++ (if hard then strBytes "<br />\n" else if soft then [10] else []) := by
  rw [renderNode]
  cases hard <;> simp [enter, leave, handled_text, skipsChildren, renderNodes, hes, hhw, hea, hx]

/-- a line of a stage-9 document as the renderer / the inline phase sees it: the spelled text and the flag -/
def hlineOfB : BLine → HLine := fun x => ⟨escSpell x.cs, x.hard⟩

theorem hlineSrc_ofB9 (x : BLine) : hlineSrc (hlineOfB x) = spellBLine x := rfl

end GM.Proof.CMFrag
end CMFragRender9

/-
  section CMFragRender11 — simple emphasis next to code spans, the bridge to the spec side: `eatomOfS`,
  `elineSrc_eatomOfS11` (the source of a line); letters and digits are written as they are (`write_alnum11`).
-/
section CMFragRender11
namespace GM.Proof.CMFrag
open GM GM.Spec.CM GM.Spec.CMFrag

theorem handled_emph11 (e : Exts) (level : Nat) : handled e (.emphasis level) = true := rfl

/-- a spec-side atom as source bytes -/
def eatomOfS : EAtomS → EAtom
  | .txt cs => .txt (escSpell cs)
  | .code c => .code c
  | .em c => .em c
  | .strong c => .strong c

theorem eatomSrc_eatomOfS11 (a : EAtomS) : eatomSrc (eatomOfS a) = spellEAtom a := by
  cases a <;> rfl

theorem elineSrc_eatomOfS11 (l : ELine) : elineSrc (l.map eatomOfS) = spellELine l := by
  simp only [elineSrc, spellELine, List.flatMap_map]
  congr 1; funext a; exact eatomSrc_eatomOfS11 a

theorem alnumOK11 (c : Bytes) (h : (!c.isEmpty && c.all isAlnumC) = true) : c ≠ [] ∧ ∀ x ∈ c, isAlnumC x = true := by
  simp only [Bool.and_eq_true, Bool.not_eq_true', List.isEmpty_eq_false_iff, List.all_eq_true] at h
  exact h

theorem spell_alnum_lit11 : ∀ c : UInt8, isAlnumC c = true → spellChar ⟨c, .lit⟩ = [c] ∧ printable c = true := by
  apply forall_uint8; decide +kernel

theorem write_alnum11 (c : Bytes) (h : ∀ x ∈ c, isAlnumC x = true) : GM.write false c = escHtml c := by
  have hp : ∀ t ∈ elits c, printable t.c = true := by
    intro t ht
    simp only [elits, List.mem_map] at ht
    obtain ⟨x, hx, rfl⟩ := ht
    exact (spell_alnum_lit11 x (h x hx)).2
  have := write_spelled (elits c) hp
  rwa [escSpell_elits_s11 c h, plain_elits11] at this

end GM.Proof.CMFrag
end CMFragRender11

/-
  section CMFragRenderQ — the renderer half of the conformance proof for the stage-10 fragment (a stage-6 document
  inside one block quote) of GM.Spec.CMFrag:
  * `renderDoc_quoteQ`: the renderer model on a document whose only child is a block quote around stage-5 blocks writes
    `<blockquote>`, a line feed, `hdocHtml` of the blocks, `</blockquote>`, a line feed, and never panics;
  * `quoteLines_eq`: the spec-side `quoteLines` is the model-side `GM.Blocks.quotePrefix`.
-/
section CMFragRenderQ
namespace GM.Proof.CMFrag
open GM GM.Spec.CM GM.Spec.CMFrag

/-- the tree of a stage-10 document: a document node, one block quote, the stage-5 blocks -/
def qdocNode (bs : List Raw5) : GM.Node := .mk .document none [.mk .blockquote none (bs.map rawNode5)]

theorem handled_quoteQ (e : Exts) : handled e .blockquote = true := rfl

theorem quoteOpen_bytes : strBytes "<blockquote>\n" = [60] ++ strBytes "blockquote" ++ [62, 10] := by decide +kernel

theorem render_qdocNode (rc : RCfg) (hes : rc.core.escSpace = false) (hhw : rc.core.hardWraps = false)
    (hea : rc.core.ea = 0) (hx : rc.core.xhtml = true) (bs : List Raw5) :
    render rc (qdocNode bs) = strBytes "<blockquote>\n" ++ hdocHtml bs ++ strBytes "</blockquote>\n" := by
  rw [render, qdocNode, renderNode]
  simp only [enter, leave, handled_doc, skipsChildren, Kind.isTableHeader, renderNodes, renderNode,
    handled_quoteQ, renderNodes_raw5 rc hes hhw hea hx, openTag, quoteOpen_bytes]
  simp

theorem renderPanics_qdocNode (rc : RCfg) (bs : List Raw5)
    (hlev : ∀ b ∈ bs, ∀ level l, b = .old (.atx level l) → level ≤ 6) : renderPanics rc (qdocNode bs) = none := by
  simp [renderPanics, qdocNode, renderPanicsNode, nodePanic, renderPanicsNodes, renderPanicsNodes_raw5 rc bs hlev]

theorem renderDoc_quoteQ_any (o : GM.Convert.ROpts) (ho : o.hardWraps = false) (hx : o.xhtml = true)
    (bs : List Raw5) (hlev : ∀ b ∈ bs, ∀ level l, b = .old (.atx level l) → level ≤ 6) :
    GM.Convert.renderDoc o (qdocNode bs) =
      .ok (strBytes "<blockquote>\n" ++ hdocHtml bs ++ strBytes "</blockquote>\n") := by
  rw [GM.Convert.renderDoc, renderPanics_qdocNode o.rcfg bs hlev,
    render_qdocNode o.rcfg (rcfg_escSpace o) (by rw [rcfg_hardWraps, ho]) (rcfg_ea o) (by rw [rcfg_xhtml4, hx])]

theorem renderDoc_quoteQ (blks : List Raw5)
    (hlev : ∀ b ∈ blks, ∀ level l, b = Raw5.old (RawBlock.atx level l) → level ≤ 6) :
    GM.Convert.renderDoc cmOpts (.mk .document none [.mk .blockquote none (blks.map rawNode5)]) =
      .ok (strBytes "<blockquote>\n" ++ hdocHtml blks ++ strBytes "</blockquote>\n") :=
  renderDoc_quoteQ_any cmOpts rfl rfl blks hlev

theorem quoteLines_eq_go (s : Bytes) (b : Bool) : quoteLines s b = GM.Blocks.quotePrefixGo s b := by
  induction s generalizing b with
  | nil => rfl
  | cons c cs ih => rw [quoteLines, GM.Blocks.quotePrefixGo, ih]

theorem quoteLines_eq (s : Bytes) : quoteLines s true = GM.Blocks.quotePrefix s :=
  quoteLines_eq_go s true

theorem spellQ_eq (d : KDoc) : spellQ d = GM.Blocks.quotePrefix (spellK d) := quoteLines_eq _

end GM.Proof.CMFrag
end CMFragRenderQ

/-
  section CMFragRender13 — the renderer half of the conformance proof for stage 13 (the union of the stages):
  * `renderNode_em13`, `renderNode_strong13`: an Emphasis node of level 1 / 2 around one Text node;
  * `renderNodes_uatoms13`: the nodes of one line (`uatomNodes soft hard`), for a line that ends with a text atom and
    whose code atoms do not end with a line feed (`LineShape13`, from `ERichLine`: `lineShape_of_erichLine13`);
  * `renderNodes_uNodes13`: the children of a paragraph.
-/
section CMFragRender13
namespace GM.Proof.CMFrag
open GM GM.Spec.CM GM.Spec.CMFrag

theorem handled_emph13 (e : Exts) (n : Nat) : handled e (.emphasis n) = true := rfl

theorem renderNode_em13 (rc : RCfg) (hes : rc.core.escSpace = false) (hhw : rc.core.hardWraps = false)
    (hea : rc.core.ea = 0) (ph : Bool) (next : Option Node) (bs : Bytes) :
    renderNode rc ph next (.mk (.emphasis 1) none [.mk (.text bs false false false false) none []]) =
      strBytes "<em>" ++ GM.write false bs ++ strBytes "</em>" := by
  rw [renderNode]
  have h1 : strBytes "<em>" = [60] ++ strBytes "em" ++ [62] := by decide +kernel
  have h2 : strBytes "</em>" = strBytes "</" ++ strBytes "em" ++ [62] := by decide +kernel
  simp [enter, leave, handled_emph13, skipsChildren, Kind.isTableHeader, renderAttrs, renderNodes,
    renderNode_text rc hes hhw hea, h1, h2]

theorem renderNode_strong13 (rc : RCfg) (hes : rc.core.escSpace = false) (hhw : rc.core.hardWraps = false)
    (hea : rc.core.ea = 0) (ph : Bool) (next : Option Node) (bs : Bytes) :
    renderNode rc ph next (.mk (.emphasis 2) none [.mk (.text bs false false false false) none []]) =
      strBytes "<strong>" ++ GM.write false bs ++ strBytes "</strong>" := by
  rw [renderNode]
  have h1 : strBytes "<strong>" = [60] ++ strBytes "strong" ++ [62] := by decide +kernel
  have h2 : strBytes "</strong>" = strBytes "</" ++ strBytes "strong" ++ [62] := by decide +kernel
  simp [enter, leave, handled_emph13, skipsChildren, Kind.isTableHeader, renderAttrs, renderNodes,
    renderNode_text rc hes hhw hea, h1, h2]

/-- what the renderer needs of a line: it ends with a text atom (the line break is a flag of the last Text node), and
    no code atom ends with a line feed -/
structure LineShape13 (l : List EAtom) : Prop where
  last : ∃ init bs, l = init ++ [.txt bs]
  code : ∀ bs, EAtom.code bs ∈ l → bs.getLast? ≠ some 10

theorem lineShape_of_erichLine13 (l : List EAtom) (h : ERichLine l) : LineShape13 l := by
  obtain ⟨init, bs, hl, _⟩ := h.last
  refine ⟨⟨init, bs, hl⟩, ?_⟩
  intro b hb hlast
  have hok := h.ok _ hb
  obtain ⟨ys, hys⟩ := List.getLast?_eq_some_iff.mp hlast
  exact alnum_ne_lf8 10 (hok.2 10 (by rw [hys]; simp)) rfl

theorem uatomNodes_txt_cons13 (soft hard : Bool) (b : Bytes) (rest : List EAtom) (h : rest ≠ []) :
    uatomNodes soft hard (.txt b :: rest) =
      .mk (.text b false false false false) none [] :: uatomNodes soft hard rest := by
  cases rest with
  | nil => exact absurd rfl h
  | cons a rest => rfl

/-- the break written behind a line -/
def lineBreak13 (soft hard : Bool) : Bytes := if hard then strBytes "<br />\n" else if soft then [10] else []

/-- the nodes of one line, followed by any other nodes -/
theorem renderNodes_uatoms13 (rc : RCfg) (hes : rc.core.escSpace = false) (hhw : rc.core.hardWraps = false)
    (hea : rc.core.ea = 0) (hx : rc.core.xhtml = true) (ph soft hard : Bool) (init : List EAtom) (bs : Bytes)
    (tail : List Node) (hc : ∀ b, EAtom.code b ∈ init → b.getLast? ≠ some 10) :
    renderNodes rc ph (uatomNodes soft hard (init ++ [.txt bs]) ++ tail) =
      erichLineHtml (init ++ [.txt bs]) ++ lineBreak13 soft hard ++ renderNodes rc ph tail := by
  induction init with
  | nil =>
    simp only [List.nil_append, uatomNodes, List.cons_append, renderNodes, renderNode_text9 rc hes hhw hea hx,
      erichLineHtml, List.flatMap_cons, List.flatMap_nil, eatomHtml, List.append_nil, lineBreak13]
  | cons a init ih =>
    have ih' := ih (fun b hb => hc b (by simp [hb]))
    cases a with
    | txt b =>
      rw [List.cons_append, uatomNodes_txt_cons13 soft hard b _ (by simp), List.cons_append, renderNodes,
        renderNode_text rc hes hhw hea, ih']
      simp [erichLineHtml, eatomHtml]
    | code b =>
      rw [List.cons_append, uatomNodes, List.cons_append, renderNodes,
        renderNode_code8 rc ph _ b (hc b (by simp)), ih']
      simp [erichLineHtml, eatomHtml]
    | em b =>
      rw [List.cons_append, uatomNodes, List.cons_append, renderNodes, renderNode_em13 rc hes hhw hea, ih']
      simp [erichLineHtml, eatomHtml]
    | strong b =>
      rw [List.cons_append, uatomNodes, List.cons_append, renderNodes, renderNode_strong13 rc hes hhw hea, ih']
      simp [erichLineHtml, eatomHtml]

theorem renderNodes_uline13 (rc : RCfg) (hes : rc.core.escSpace = false) (hhw : rc.core.hardWraps = false)
    (hea : rc.core.ea = 0) (hx : rc.core.xhtml = true) (ph soft hard : Bool) (l : List EAtom) (hl : LineShape13 l) :
    renderNodes rc ph (uatomNodes soft hard l) =
      erichLineHtml l ++ (if hard then strBytes "<br />\n" else if soft then [10] else []) := by
  obtain ⟨⟨init, bs, rfl⟩, hc⟩ := hl
  have := renderNodes_uatoms13 rc hes hhw hea hx ph soft hard init bs [] (fun b hb => hc b (by simp [hb]))
  simpa [renderNodes, lineBreak13] using this

theorem renderNodes_uNodes13 (rc : RCfg) (hes : rc.core.escSpace = false) (hhw : rc.core.hardWraps = false)
    (hea : rc.core.ea = 0) (hx : rc.core.xhtml = true) (ph : Bool) (ls : List ULine)
    (hl : ∀ x ∈ ls, LineShape13 x.atoms) :
    renderNodes rc ph (uNodes ls) = uHtml ls := by
  induction ls with
  | nil => simp [uNodes, renderNodes, uHtml]
  | cons x rest ih =>
    cases rest with
    | nil =>
      rw [uNodes, uHtml, renderNodes_uline13 rc hes hhw hea hx ph false false _ (hl x (by simp))]
      simp
    | cons y rest =>
      obtain ⟨⟨init, bs, hx'⟩, hc⟩ := hl x (by simp)
      have hc' : ∀ b, EAtom.code b ∈ init → b.getLast? ≠ some 10 := fun b hb => hc b (by rw [hx']; simp [hb])
      rw [uNodes, uHtml, hx', renderNodes_uatoms13 rc hes hhw hea hx ph _ _ init bs _ hc',
        ih (fun z hz => hl z (by simp [hz]))]
      cases x.hard <;> simp [lineBreak13]

theorem renderNodes_uNodesOK13 (rc : RCfg) (hes : rc.core.escSpace = false) (hhw : rc.core.hardWraps = false)
    (hea : rc.core.ea = 0) (hx : rc.core.xhtml = true) (ph : Bool) (ls : List ULine) (hl : ULinesOK ls) :
    renderNodes rc ph (uNodes ls) = uHtml ls :=
  renderNodes_uNodes13 rc hes hhw hea hx ph ls (fun x hx' => lineShape_of_erichLine13 _ (hl.1 x hx'))

end GM.Proof.CMFrag
end CMFragRender13

/-
  section CMFragRenderN — the renderer half of the conformance proof for the stage-14 fragment (a stage-6 document
  inside `k + 1` nested block quotes) of GM.Spec.CMFrag:
  * `renderNodes_nestN` / `renderPanicsNodes_nestN`: the renderer model on `k` nested block-quote nodes around nodes
    `ns` writes `wrapQ k` of what it writes for `ns`, and panics only when it panics on `ns`;
  * `renderDoc_nestN` (stage-5 blocks): the renderer on the
    document `nestNodeN k …` (GM.Proof.CMFragNTree) yields `wrapQ k` of the HTML of the blocks;
  * `quoteLinesN_eq`: the spec-side `quoteLinesN k` is the model-side `qpN k` (GM.Proof.CMFragNDefs: `quotePrefix`
    applied `k` times, defined by the same recursion), which is `Nat.repeat GM.Blocks.quotePrefix k` (`qpN_eq_repeat`).
-/
section CMFragRenderN
namespace GM.Proof.CMFrag
open GM GM.Spec.CM GM.Spec.CMFrag

theorem renderNodes_quote1N (rc : RCfg) (ph : Bool) (cs : List GM.Node) :
    renderNodes rc ph [.mk .blockquote none cs] =
      strBytes "<blockquote>\n" ++ renderNodes rc false cs ++ strBytes "</blockquote>\n" := by
  simp only [renderNodes, renderNode, enter, leave, skipsChildren, Kind.isTableHeader, handled_quoteQ, openTag,
    quoteOpen_bytes]
  simp

theorem renderPanicsNodes_quote1N (rc : RCfg) (cs : List GM.Node) :
    renderPanicsNodes rc [.mk .blockquote none cs] = renderPanicsNodes rc cs := by
  simp [renderPanicsNodes, renderPanicsNode, nodePanic, skipsChildren]
  cases renderPanicsNodes rc cs <;> rfl

theorem renderNodes_nestN (rc : RCfg) (ns : List GM.Node) (h : Bytes) (hns : ∀ ph, renderNodes rc ph ns = h)
    (k : Nat) (ph : Bool) : renderNodes rc ph (nestQuotesN k ns) = wrapQ k h := by
  induction k generalizing ph with
  | zero => exact hns ph
  | succ k ih => rw [nestQuotesN, renderNodes_quote1N, ih, wrapQ]

theorem renderPanicsNodes_nestN (rc : RCfg) (ns : List GM.Node) (hns : renderPanicsNodes rc ns = none) (k : Nat) :
    renderPanicsNodes rc (nestQuotesN k ns) = none := by
  induction k with
  | zero => exact hns
  | succ k ih => rw [nestQuotesN, renderPanicsNodes_quote1N, ih]

theorem render_nestNodeN (rc : RCfg) (ns : List GM.Node) (h : Bytes) (hns : ∀ ph, renderNodes rc ph ns = h)
    (k : Nat) : render rc (nestNodeN k ns) = wrapQ k h := by
  rw [render, nestNodeN, renderNode]
  simp [enter, leave, handled_doc, skipsChildren, Kind.isTableHeader, renderNodes_nestN rc ns h hns k]

theorem renderPanics_nestNodeN (rc : RCfg) (ns : List GM.Node) (hns : renderPanicsNodes rc ns = none) (k : Nat) :
    renderPanics rc (nestNodeN k ns) = none := by
  simp [renderPanics, nestNodeN, renderPanicsNode, nodePanic, renderPanicsNodes_nestN rc ns hns k]

/-- the renderer on `k` nested block quotes around nodes it renders as `h` without a panic -/
theorem renderDoc_nest_anyN (o : GM.Convert.ROpts) (ns : List GM.Node) (h : Bytes)
    (hns : ∀ ph, renderNodes o.rcfg ph ns = h) (hp : renderPanicsNodes o.rcfg ns = none) (k : Nat) :
    GM.Convert.renderDoc o (nestNodeN k ns) = .ok (wrapQ k h) := by
  rw [GM.Convert.renderDoc, renderPanics_nestNodeN o.rcfg ns hp k, render_nestNodeN o.rcfg ns h hns k]

theorem renderDoc_nestN (k : Nat) (blks : List Raw5)
    (hlev : ∀ b ∈ blks, ∀ level l, b = Raw5.old (RawBlock.atx level l) → level ≤ 6) :
    GM.Convert.renderDoc cmOpts (nestNodeN k (blks.map rawNode5)) = .ok (wrapQ k (hdocHtml blks)) :=
  renderDoc_nest_anyN cmOpts _ _
    (fun ph => renderNodes_raw5 cmOpts.rcfg (rcfg_escSpace cmOpts) (by rw [rcfg_hardWraps]; rfl) (rcfg_ea cmOpts)
      (by rw [rcfg_xhtml4]; rfl) ph blks)
    (renderPanicsNodes_raw5 cmOpts.rcfg blks hlev) k

/-- the same with the tree written out: `nestNodeN k ns` is the document node around `nestQuotesN k ns` -/
theorem renderDoc_nestN' (k : Nat) (blks : List Raw5)
    (hlev : ∀ b ∈ blks, ∀ level l, b = Raw5.old (RawBlock.atx level l) → level ≤ 6) :
    GM.Convert.renderDoc cmOpts (.mk .document none (nestQuotesN k (blks.map rawNode5))) =
      .ok (wrapQ k (hdocHtml blks)) := renderDoc_nestN k blks hlev

theorem quoteLinesN_eq (k : Nat) (s : Bytes) : quoteLinesN k s = qpN k s := by
  induction k with
  | zero => rfl
  | succ k ih => rw [quoteLinesN, qpN, ih, quoteLines_eq]

/-- core Lean 4.33 has no `Nat.iterate`; its `Nat.repeat f k a` is `f` applied `k` times to `a` -/
theorem qpN_eq_repeat (k : Nat) (s : Bytes) : qpN k s = Nat.repeat GM.Blocks.quotePrefix k s := by
  induction k with
  | zero => rfl
  | succ k ih => rw [qpN, ih, Nat.repeat]

theorem spellNQ_eq (k : Nat) (d : KDoc) : spellNQ k d = qpN (k + 1) (spellK d) := quoteLinesN_eq _ _

/-- stage 14 with `k = 0` is stage 10 -/
theorem spellNQ_zero (d : KDoc) : spellNQ 0 d = spellQ d := rfl

theorem expectedNQ_zero (d : KDoc) : expectedNQ 0 d = expectedQ d := rfl

end GM.Proof.CMFrag
end CMFragRenderN
