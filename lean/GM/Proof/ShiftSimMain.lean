/-
  GM.Proof.ShiftSimMain — the two line loops of `parseBlocks` under the shift relation, and the whole-run theorem
  `shift_invariance_core`: the outer loop of `parseBlocks` started at offset `|p|` of `p ++ b` with no open block, in a
  state related to the start state of `run b`, builds the store of `run b` moved by the frame (`StoreRel`).
  The two loops are proved ONCE (`linesLoop_g`, `blocksLoop_g`) over one pass of the per-line loop and `openBlocks` at the
  top as hypotheses and over what the client threads about run A (`LoopsG F b parent A Z Zm`); the loops for a source that
  ends with a line feed (here: nothing threaded), for any source (GM.Proof.ShiftSimMainW: `AStable` at line boundaries)
  and for all ten parsers (GM.Proof.ShiftSimMainL: also the store invariant `K`) are its instances.
  Instance of the whole-run theorem: all block parsers but the two list parsers (`shift_invariance_list_free`).
-/
import GM.Proof.ShiftSimDriver
import GM.Proof.ShiftSimFenced
import GM.Proof.ShiftSimEof
import GM.Proof.BlocksNoPanicAll

namespace GM.Blocks.Sh
open GM GM.Text GM.Spec GM.Proof.Reader GM.Blocks

variable {F : Frame} {b : Bytes} {Cov : BP → Prop}

theorem limbo_stop {rA rB : Reader} (h : Limbo F b rA rB) : 0 ≤ rA.pos.stop := by
  obtain ⟨⟨c, hc⟩, _⟩ := h
  have hp := hc.pos
  have : rA.advanceLine.pos.start = rA.pos.stop := by
    unfold Reader.advanceLine
    simp only
    split <;> rfl
  have e := congrArg Segment.start hp
  simp only at e
  rw [this] at e
  omega

theorem advanceLine_line_succ (r : Reader) (h : 0 ≤ r.pos.stop) : r.advanceLine.line = r.line + 1 := by
  unfold Reader.advanceLine
  simp only
  rw [if_neg (by omega)]

/-- AdvanceLine out of the limbo relation: full relation, same context and store, line counter + 1 -/
theorem advanceLine_limbo' {sA sB : St} (h : SRLim F b sA sB) :
    P2 (fun _ _ sA' sB' => SR F b sA' sB' ∧ sA'.pc = sA.pc ∧ sA'.r.line = sA.r.line + 1)
      (advanceLine sA) (advanceLine sB) := by
  unfold GM.Blocks.advanceLine
  exact P2.ok ⟨⟨h.2.1, h.2.2, h.1.n, h.1.c⟩, rfl, advanceLine_line_succ _ (limbo_stop h.2)⟩

/-- the statistics at the head of the outer loop: B's are stale entries from before the prefix's end followed by A's;
    while A's are empty (start of `b`, nothing skipped yet) the stale ones answer "blank" for the line in front of `b` -/
def BInv (F : Frame) (sa sb : List LineStat) (line : Int) : Prop :=
  ∃ stale, sb = stale ++ sa.map (shS F) ∧ (∀ e ∈ stale, e.lineNum < F.dl) ∧
    (sa = [] → stale = [] ∨ (line = 0 ∧ isBlankLine (F.dl - 1) 0 stale = true)) ∧ (sa ≠ [] → 1 ≤ line)


/-! ### the two line loops of `parseBlocks`, once

`A`: what the relation's client threads about run A besides the relation (the open blocks are covered; the store invariant
`K` when the list parsers are covered); `Z`: an invariant of run A at a line boundary; `Zm`: after a pass of the per-line
loop or an `openBlocks` at the top, before `AdvanceLine`. One pass and `openBlocks` at the top are hypotheses. -/

/-- what the line loops ask of one pass of the per-line loop, of `openBlocks` at the top of the outer loop and of the
    invariants of run A -/
structure LoopsG (F : Frame) (b : Bytes) (parent : Nat) (A Z Zm : St → Prop) : Prop where
  aR : ∀ (s : St) (r : Reader), A s → A { s with r := r }
  pass : ∀ (sa sb : List LineStat) (sA sB : St), SR F b sA sB → A sA → StatsRel F sa sb → 1 ≤ sA.r.line → Z sA →
    sA.pc.opened ≠ [] →
    P2 (fun u v sA' sB' => v.1 = u.1 ∧ StatsRel F u.2 v.2 ∧ SRLim F b sA' sB' ∧ A sA' ∧ sA.r.line ≤ sA'.r.line ∧
        (u.1 = LineOutcome.next → u.2 ≠ []) ∧ Zm sA')
      (lineLoop parent sA.pc.opened ((sA.pc.opened.length : Int) - 1) sA.pc.opened 0 sa sA)
      (lineLoop (F.ι parent) (sA.pc.opened.map (shB F)) ((sA.pc.opened.length : Int) - 1) (sA.pc.opened.map (shB F)) 0
        sb sB)
  adv : ∀ s : St, Zm s → 0 ≤ s.r.pos.stop → Z { s with r := s.r.advanceLine }
  skip : ∀ (s s' : St) a, Z s → (∃ c, RI b s.r c) → skipBlankLinesR s = .ok (a, s') → Z s'
  open0 : ∀ (blank : Bool) (sA sB : St), SRw F b sA sB → A sA → Z sA → sA.pc.opened = [] →
    P2 (fun r r' sA' sB' => r' = r ∧ SRLim F b sA' sB' ∧ A sA' ∧ sA.r.line ≤ sA'.r.line ∧
        (r = OpenResult.newBlocksOpened → sA'.pc.opened ≠ []) ∧ Zm sA')
      (openBlocks parent blank sA) (openBlocks (F.ι parent) blank sB)

/-- what the inner `for {}` over lines establishes -/
def LinesQG (F : Frame) (b : Bytes) (A Z : St → Prop) (sA : St) (sa : List LineStat)
    (x y : Bool × List LineStat) (sA' sB' : St) : Prop :=
  y.1 = x.1 ∧ StatsRel F x.2 y.2 ∧ SRLim F b sA' sB' ∧ A sA' ∧ 1 ≤ sA'.r.line ∧
    (x.1 = false → SR F b sA' sB' ∧ sA'.pc.opened = [] ∧ Z sA' ∧ (sa ≠ [] ∨ sA.pc.opened ≠ [] → x.2 ≠ []))

/-- `AdvanceLine` out of the limbo relation, with the state run A is in afterwards -/
theorem advanceLine_limbo'' {sA sB : St} (h : SRLim F b sA sB) :
    P2 (fun _ _ sA' sB' => SR F b sA' sB' ∧ sA' = { sA with r := sA.r.advanceLine } ∧ sA'.r.line = sA.r.line + 1)
      (advanceLine sA) (advanceLine sB) :=
  ((advanceLine_limbo' h).withL (R := fun _ sA' => sA' = { sA with r := sA.r.advanceLine })
    (fun a sA' e => by unfold GM.Blocks.advanceLine at e; cases e; rfl)).mono
    fun _ _ _ _ ⟨⟨h1, _, h3⟩, h4⟩ => ⟨h1, h4, h3⟩

theorem linesLoop_g {parent : Nat} {A Z Zm : St → Prop} (hG : LoopsG F b parent A Z Zm) :
    ∀ (fuelA fuelB : Nat) (sa sb : List LineStat) (sA sB : St),
      SR F b sA sB → A sA → StatsRel F sa sb → 1 ≤ sA.r.line → Z sA →
      P2 (LinesQG F b A Z sA sa) (linesLoop parent fuelA sa sA) (linesLoop (F.ι parent) fuelB sb sB) := by
  intro fuelA
  induction fuelA with
  | zero => intro fuelB sa sb sA sB _ _ _ _ _; unfold linesLoop; exact P2.throwL
  | succ fuelA ih =>
    intro fuelB sa sb sA sB h hc hst hline hz
    cases fuelB with
    | zero => unfold linesLoop; exact P2.throwR
    | succ fuelB =>
      unfold linesLoop
      refine P2.bind (getPc_p2 h) (fun x y sA1 sB1 ⟨hx, hy, hxy, e1, e2⟩ => ?_)
      rw [e1, e2]
      have ho : y.opened = x.opened.map (shB F) := hxy.opened
      rw [ho, List.length_map]
      by_cases hl0 : (x.opened.length == 0) = true
      · rw [if_pos hl0, if_pos hl0]
        have hnil : sA.pc.opened = [] := by
          rw [← hx]; exact List.eq_nil_of_length_eq_zero (by simpa using hl0)
        refine P2.pure ⟨rfl, hst, h.limbo, hc, hline, fun _ => ⟨h, hnil, hz, fun hh => ?_⟩⟩
        rcases hh with hh | hh
        · exact hh
        · exact absurd hnil hh
      · rw [if_neg hl0, if_neg hl0]
        have hne : sA.pc.opened ≠ [] := by
          intro e; rw [hx, e] at hl0; simp at hl0
        rw [hx]
        refine P2.bind (hG.pass sa sb sA sB h hc hst hline hz hne)
          (fun u v sA2 sB2 ⟨hv1, hst2, hlim2, hai2, hline2, hne2, hzm2⟩ => ?_)
        obtain ⟨uo, us⟩ := u
        obtain ⟨vo, vs⟩ := v
        simp only at hv1 hst2 hne2
        subst hv1
        cases vo with
        | eof =>
          simp only
          exact P2.pure ⟨rfl, hst2, hlim2, hai2, Int.le_trans hline hline2, fun e => by cases e⟩
        | next =>
          simp only
          refine P2.bind (advanceLine_limbo'' hlim2) (fun _ _ sA3 sB3 ⟨h3, he3, hl3⟩ => ?_)
          have hc3 : A sA3 := by rw [he3]; exact hG.aR _ _ hai2
          have hline3 : 1 ≤ sA3.r.line := by omega
          have hz3 : Z sA3 := by rw [he3]; exact hG.adv _ hzm2 (limbo_stop hlim2.2)
          refine (ih fuelB us vs sA3 sB3 h3 hc3 hst2 hline3 hz3).mono
            (fun w z sA' sB' ⟨hz', hst', hlim', hai', hline', hfin⟩ => ⟨hz', hst', hlim', hai', hline', fun e => ?_⟩)
          obtain ⟨f1, f2, f3, f4⟩ := hfin e
          exact ⟨f1, f2, f3, fun _ => f4 (.inl (hne2 rfl))⟩

theorem blocksLoop_g {parent : Nat} {A Z Zm : St → Prop} (hG : LoopsG F b parent A Z Zm) :
    ∀ (fuelA fuelB : Nat) (sa sb : List LineStat) (sA sB : St),
      SRw F b sA sB → A sA → sA.pc.opened = [] → 0 ≤ sA.r.line → BInv F sa sb sA.r.line → Z sA →
      P2 (fun _ _ sA' sB' => StoreRel F sA'.nodes sB'.nodes)
        (blocksLoop parent fuelA sa sA) (blocksLoop (F.ι parent) fuelB sb sB) := by
  intro fuelA
  induction fuelA with
  | zero => intro fuelB sa sb sA sB _ _ _ _ _ _; unfold blocksLoop; exact P2.throwL
  | succ fuelA ih =>
    intro fuelB sa sb sA sB h hc hop hline hbi hz
    cases fuelB with
    | zero => unfold blocksLoop; exact P2.throwR
    | succ fuelB =>
      unfold blocksLoop
      refine P2.bind ((skipBlankLinesR_core h.rd).withL
        (R := fun a sA' => (sA.r.line ≤ sA'.r.line ∧ (a.2.1 = 0 → sA'.r.line = sA.r.line)) ∧ Z sA')
        (fun a sA' e => ⟨skipBlankLinesR_line _ _ _ e, hG.skip _ _ a hz h.ri e⟩))
        (fun x y sA1 sB1 ⟨⟨hy, hs1⟩, ⟨hl1, hl1'⟩, hz1⟩ => ?_)
      have h1 := hs1.srw h
      have epc1 : sA1.pc = sA.pc := by obtain ⟨rA, c', _, e1, _⟩ := hs1; rw [e1]
      rw [hy]
      simp only
      by_cases hok : (!x.2.2) = true
      · rw [if_pos hok, if_pos hok]; exact P2.pure h1.n
      rw [if_neg hok, if_neg hok]
      refine P2.bind (P := fun u v sA' sB' => u = sA1.r.position ∧ v = (u.1 + F.dl, moveSeg F.d u.2) ∧ sA' = sA1 ∧ sB' = sB1)
        ?_ (fun u v sA2 sB2 ⟨hu, hv, e1, e2⟩ => ?_)
      · unfold GM.Blocks.position
        refine P2.ok ⟨rfl, ?_, rfl, rfl⟩
        rw [h1.r]; rfl
      rw [hv, e1, e2]
      simp only
      refine P2.bind (P := fun u' v' sA' sB' => u' = sA1.pc ∧ v'.opened = u'.opened.map (shB F) ∧ sA' = sA1 ∧ sB' = sB1)
        (by unfold getPc; exact P2.ok ⟨rfl, h1.c.opened, rfl, rfl⟩) (fun pcA pcB sA3 sB3 ⟨hpa, hpb, e1, e2⟩ => ?_)
      rw [hpb, List.length_map, e1, e2]
      have hlen0 : pcA.opened.length = 0 := by rw [hpa, epc1, hop]; rfl
      rw [hlen0]
      have hlineNum : u.1 = sA1.r.line := by rw [hu]; rfl
      -- the statistics after the (possible) reset, and the blank flag
      obtain ⟨stale, hsb, hstale, hfirst, hsane⟩ := hbi
      have key : ∃ sa' sb', (if (x.2.1 != 0) = true then blankStats u.1 x.2.1 0 else sa) = sa' ∧
          (if (x.2.1 != 0) = true then blankStats (u.1 + F.dl) x.2.1 0 else sb) = sb' ∧ StatsRel F sa' sb' ∧
          isBlankLine (u.1 + F.dl - 1) 0 sb' = isBlankLine (u.1 - 1) 0 sa' ∧ (sa' ≠ [] → sa ≠ [] ∧ sA1.r.line = sA.r.line) := by
        by_cases hz : (x.2.1 != 0) = true
        · rw [if_pos hz, if_pos hz]
          refine ⟨_, _, rfl, rfl, ?_, ?_, ?_⟩
          · simp only [blankStats]; exact StatsRel.map F []
          · simp only [blankStats]
            rw [isBlankLine_nil _ _ (Int.le_refl 0), isBlankLine_nil _ _ (Int.le_refl 0)]
          · intro hh; simp [blankStats] at hh
        · rw [if_neg hz, if_neg hz]
          have hz0 : x.2.1 = 0 := by simpa using hz
          have hsame := hl1' hz0
          refine ⟨_, _, rfl, rfl, ⟨stale, hsb, hstale⟩, ?_, fun hh => ⟨hh, hsame⟩⟩
          by_cases hsa : sa = []
          · subst hsa
            rw [isBlankLine_nil _ _ (Int.le_refl 0)]
            simp only [List.map_nil, List.append_nil] at hsb
            rw [hsb]
            rcases hfirst rfl with hs | ⟨hl0, hs⟩
            · rw [hs]; exact isBlankLine_nil _ _ (Int.le_refl 0)
            · have : u.1 + F.dl - 1 = F.dl - 1 := by rw [hlineNum, hsame, hl0]; omega
              rw [this]; exact hs
          · have h1le := hsane hsa
            have e : u.1 + F.dl - 1 = (u.1 - 1) + F.dl := by omega
            rw [e]
            refine isBlankLine_shift ⟨stale, hsb, hstale⟩ (u.1 - 1) 0 (by rw [hlineNum, hsame]; omega) ?_
            have : 0 < sa.length := List.length_pos_iff.mpr hsa
            omega
      obtain ⟨sa', sb', e1, e2, hst', hblank, hsa'⟩ := key
      rw [e1, e2, hblank]
      have hc1 : A sA1 := by obtain ⟨rA, c', _, e1, _⟩ := hs1; rw [e1]; exact hG.aR _ _ hc
      refine P2.bind (hG.open0 (isBlankLine (u.1 - 1) 0 sa') sA1 sB1 h1 hc1 hz1 (by rw [epc1]; exact hop))
        (fun r r' sA4 sB4 ⟨hr, hlim4, hai4, hline4, hne4, hzm4⟩ => ?_)
      rw [hr]
      by_cases hnew : (r != OpenResult.newBlocksOpened) = true
      · rw [if_pos hnew, if_pos hnew]; exact P2.pure hlim4.1.n
      rw [if_neg hnew, if_neg hnew]
      have hrnew : r = OpenResult.newBlocksOpened := by simpa using hnew
      refine P2.bind (advanceLine_limbo'' hlim4) (fun _ _ sA5 sB5 ⟨h5, he5, hl5⟩ => ?_)
      have hc5 : A sA5 := by rw [he5]; exact hG.aR _ _ hai4
      have hline5 : 1 ≤ sA5.r.line := by omega
      have hz5 : Z sA5 := by rw [he5]; exact hG.adv _ hzm4 (limbo_stop hlim4.2)
      refine P2.bind (linesLoop_g hG fuelA fuelB sa' sb' sA5 sB5 h5 hc5 hst' hline5 hz5)
        (fun w z sA6 sB6 ⟨hz, hst6, hlim6, hai6, hline6, hfin6⟩ => ?_)
      have hzz : z = (w.1, z.2) := by rw [← hz]
      rw [hzz]
      simp only
      by_cases hret : w.1 = true
      · rw [if_pos hret, if_pos hret]; exact P2.pure hlim6.1.n
      rw [if_neg hret, if_neg hret]
      have hwf : w.1 = false := by simpa using hret
      obtain ⟨h6, hop6, hz6, hne6⟩ := hfin6 hwf
      have hw2 : w.2 ≠ [] := hne6 (.inr (by rw [he5]; exact hne4 hrnew))
      obtain ⟨stale6, hsb6, hstale6⟩ := hst6
      exact ih fuelB w.2 z.2 sA6 sB6 h6.w hai6 hop6 (by omega)
        ⟨stale6, hsb6, hstale6, fun e => absurd e hw2, fun _ => hline6⟩ hz6


theorem loopsG_p2 (hP : PSim F b Cov) (hF : F.OK) (hNL : NL b) (hO : OpenBlocksSim F b Cov) (parent : Nat) :
    LoopsG F b parent (AI Cov) (fun _ => True) (fun _ => True) where
  aR := fun _ _ h => h
  pass := fun sa sb sA sB h hc hst hline _ hne =>
    (lineLoop_p2 hP hF hNL hO parent sA.pc.opened _ hc sA.pc.opened 0 sa sb sA sB (fun _ hz => hz) h hc hst hline
      (by omega)).mono fun _ _ _ _ ⟨q1, q2, q3, q4, q5, q6⟩ => ⟨q1, q2, q3, q4, q5, fun e => q6 e hne, trivial⟩
  adv := fun _ _ _ => trivial
  skip := fun _ _ _ _ _ _ => trivial
  open0 := fun blank sA sB h hc _ _ =>
    (hO parent blank sA sB h hc).mono fun _ _ _ _ ⟨q1, q2, q3, q4, q5⟩ => ⟨q1, q2, q3, q4, q5, trivial⟩

def LinesQ (F : Frame) (b : Bytes) (Cov : BP → Prop) (sA : St) (sa : List LineStat)
    (x y : Bool × List LineStat) (sA' sB' : St) : Prop :=
  y.1 = x.1 ∧ StatsRel F x.2 y.2 ∧ SRLim F b sA' sB' ∧ AI Cov sA' ∧ 1 ≤ sA'.r.line ∧
    (x.1 = false → SR F b sA' sB' ∧ sA'.pc.opened = [] ∧ (sa ≠ [] ∨ sA.pc.opened ≠ [] → x.2 ≠ []))


theorem linesLoop_p2 (hP : PSim F b Cov) (hF : F.OK) (hNL : NL b) (hO : OpenBlocksSim F b Cov) (parent : Nat) :
    ∀ (fuelA fuelB : Nat) (sa sb : List LineStat) (sA sB : St),
      SR F b sA sB → AI Cov sA → StatsRel F sa sb → 1 ≤ sA.r.line →
      P2 (LinesQ F b Cov sA sa) (linesLoop parent fuelA sa sA) (linesLoop (F.ι parent) fuelB sb sB) := by
  intro fuelA fuelB sa sb sA sB h hc hst hline
  exact (linesLoop_g (loopsG_p2 hP hF hNL hO parent) fuelA fuelB sa sb sA sB h hc hst hline trivial).mono
    fun _ _ _ _ ⟨q1, q2, q3, q4, q5, q6⟩ => ⟨q1, q2, q3, q4, q5, fun e => ⟨(q6 e).1, (q6 e).2.1, (q6 e).2.2.2⟩⟩

theorem blocksLoop_p2 (hP : PSim F b Cov) (hF : F.OK) (hNL : NL b) (hO : OpenBlocksSim F b Cov) (parent : Nat) :
    ∀ (fuelA fuelB : Nat) (sa sb : List LineStat) (sA sB : St),
      SRw F b sA sB → AI Cov sA → sA.pc.opened = [] → 0 ≤ sA.r.line → BInv F sa sb sA.r.line →
      P2 (fun _ _ sA' sB' => StoreRel F sA'.nodes sB'.nodes)
        (blocksLoop parent fuelA sa sA) (blocksLoop (F.ι parent) fuelB sb sB) :=
  fun fuelA fuelB sa sb sA sB h hc hop hline hbi =>
    blocksLoop_g (loopsG_p2 hP hF hNL hO parent) fuelA fuelB sa sb sA sB h hc hop hline hbi trivial

theorem psim_notList (F : Frame) (hF : F.OK) (b : Bytes) : PSim F b NotList where
  op := by
    intro bp h
    cases bp with
    | setext => exact openSim_toX F ▸ Xs.setextOpen_sim F.toX b (.inl rfl)
    | thematic => exact openSim_toX F ▸ Xs.thematicOpen_sim F.toX b (.inl rfl)
    | list => exact absurd rfl h.1
    | listItem => exact absurd rfl h.2
    | code => exact openSim_toX F ▸ Xs.codeOpen_sim F.toX (toX_ok hF) b (.inl rfl)
    | atx => exact openSim_toX F ▸ Xs.atxOpen_sim F.toX b (.inl rfl)
    | fenced => exact fencedOpen_sim F b
    | blockquote => exact openSim_toX F ▸ Xs.blockquoteOpen_sim F.toX b (.inl rfl)
    | html => exact openSim_toX F ▸ Xs.htmlOpen_sim F.toX b (.inl rfl)
    | paragraph => exact openSim_toX F ▸ Xs.paragraphOpen_sim F.toX b (.inl rfl)
  co := by
    intro bp h
    cases bp with
    | setext => exact continueSim_toX F ▸ Xs.setextContinue_sim F.toX b
    | thematic => exact continueSim_toX F ▸ Xs.thematicContinue_sim F.toX b
    | list => exact absurd rfl h.1
    | listItem => exact absurd rfl h.2
    | code => exact continueSim_toX F ▸ Xs.codeContinue_sim F.toX (toX_ok hF) b
    | atx => exact continueSim_toX F ▸ Xs.atxContinue_sim F.toX b
    | fenced => exact fencedContinue_sim F hF b
    | blockquote => exact continueSim_toX F ▸ Xs.blockquoteContinue_sim F.toX b
    | html => exact continueSim_toX F ▸ Xs.htmlContinue_sim F.toX b
    | paragraph => exact continueSim_toX F ▸ Xs.paragraphContinue_sim F.toX b
  coEof := by
    intro bp h
    cases bp with
    | setext => exact eof_setextContinue F b
    | thematic => exact eof_thematicContinue F b
    | list => exact absurd rfl h.1
    | listItem => exact absurd rfl h.2
    | code => exact eof_codeContinue F hF b
    | atx => exact eof_atxContinue F b
    | fenced => exact eof_fencedContinue F hF b
    | blockquote => exact eof_blockquoteContinue F b
    | html => exact eof_htmlContinue F b
    | paragraph => exact eof_paragraphContinue F b
  cl := by
    intro bp h
    cases bp with
    | setext => exact closeSim_toX F ▸ Xs.setextClose_sim F.toX (toX_ok hF) b
    | thematic => exact closeSim_toX F ▸ Xs.thematicClose_sim F.toX b
    | list => exact absurd rfl h.1
    | listItem => exact closeSim_toX F ▸ Xs.listItemClose_sim F.toX b
    | code => exact closeSim_toX F ▸ Xs.codeClose_sim F.toX b
    | atx => exact closeSim_toX F ▸ Xs.atxClose_sim F.toX b
    | fenced => exact fencedClose_sim F b
    | blockquote => exact closeSim_toX F ▸ Xs.blockquoteClose_sim F.toX b
    | html => exact closeSim_toX F ▸ Xs.htmlClose_sim F.toX b
    | paragraph => exact closeSim_toX F ▸ Xs.paragraphClose_sim F.toX (toX_ok hF) b

theorem triggers_notList (b : Bytes) (h : ListFree b) : Triggers b NotList := by
  have hfree : ∀ bp ∈ freeParsers, NotList bp := by
    intro bp hbp
    simp [freeParsers] at hbp
    rcases hbp with e | e <;> subst e <;> exact ⟨by decide, by decide⟩
  refine ⟨hfree, ?_⟩
  intro c hc bp hbp
  rcases hc with hc | hc
  · cases ht : triggered c with
    | none => rw [ht] at hbp; exact hfree bp hbp
    | some bps => rw [ht] at hbp; exact triggered_notList b h c hc bps ht bp hbp
  · subst hc
    have : triggered 32 = none := by decide
    rw [this] at hbp; exact hfree bp hbp

/-- run B stands at offset `|p|` of `p ++ b` in the outer loop of `parseBlocks`, nothing open, context keys reset; its
    store has the Document (node 0, children `kids0`) and `c` further nodes; its blank-line statistics are all from lines
    of the prefix and, if there are any, say that the line in front of `b` is blank at level 0 -/
structure Start (F : Frame) (b : Bytes) (sB : St) (statsB : List LineStat) : Prop where
  r : sB.r = shR F (Reader.new b)
  len : sB.nodes.length = 1 + F.c
  doc : sB.nodes.getD 0 default = { kind := .document, children := F.kids0 }
  opened : sB.pc.opened = []
  tmpPara : sB.pc.tmpPara = none
  fence : sB.pc.fence = none
  skipList : sB.pc.skipList = false
  eib : F.flag = true → sB.pc.emptyItemBlank = false
  old : ∀ i, 1 ≤ i → i ≤ F.c → sB.nodes.getD i default = F.oldNodes.getD i default
  stale : ∀ e ∈ statsB, e.lineNum < F.dl
  first : statsB = [] ∨ isBlankLine (F.dl - 1) 0 statsB = true

theorem start_srw {sB : St} {statsB : List LineStat} (hS : Start F b sB statsB) : SRw F b (initSt b) sB := by
  refine ⟨⟨_, ri_init b⟩, hS.r, ⟨by simp [initSt], by simp [initSt, hS.len], fun j => ?_, by simp [initSt], hS.old⟩,
    ⟨by rw [hS.opened]; rfl, by rw [hS.tmpPara]; rfl, by rw [hS.fence]; rfl, by rw [hS.skipList]; rfl, fun hf => by rw [hS.eib hf]; rfl⟩⟩
  by_cases hj : j = 0
  · subst hj
    rw [ι_zero, hS.doc]
    simp [initSt, shN, shClosure]
  · rw [ι_pos F hj]
    have e1 : sB.nodes.getD (j + F.c) default = default := by
      rw [List.getD_eq_getElem?_getD, List.getElem?_eq_none (by rw [hS.len]; omega)]; rfl
    have e2 : (initSt b).nodes.getD j default = default := by
      rw [List.getD_eq_getElem?_getD, List.getElem?_eq_none (by simp [initSt]; omega)]; rfl
    rw [e1, e2]
    have : (j == 0) = false := beq_eq_false_iff_ne.mpr hj
    rw [this, shN_default]

theorem run_eq_blocksLoop (b : Bytes) : run b = (blocksLoop 0 (linesFuel b) [] (initSt b)).map (·.2) := rfl

/-- whole runs, once: from a `Start` state the rest of run B builds the store of `run b`, moved by the frame — given the
    line loops (`LoopsG`) and what the client threads about run A for the start state of `run b` -/
theorem shift_invariance_g {A Z Zm : St → Prop} (hG : LoopsG F b 0 A Z Zm) (hA0 : A (initSt b)) (hZ0 : Z (initSt b))
    {sB : St} {statsB : List LineStat} (hS : Start F b sB statsB) (fuelB : Nat) (sB' : St)
    (hB : blocksLoop 0 fuelB statsB sB = .ok ((), sB')) :
    ∃ sA', run b = .ok sA' ∧ StoreRel F sA'.nodes sB'.nodes := by
  obtain ⟨sA', hA, _⟩ := run_ok_all b
  refine ⟨sA', hA, ?_⟩
  rw [run_eq_blocksLoop] at hA
  cases hrun : blocksLoop 0 (linesFuel b) [] (initSt b) with
  | error e => rw [hrun] at hA; cases hA
  | ok v =>
    rw [hrun] at hA
    obtain ⟨u, s⟩ := v
    simp only [Except.map, Except.ok.injEq] at hA
    subst hA
    have hline0 : (initSt b).r.line = 0 := by
      simp [initSt, Reader.new, Reader.advanceLine]
    have hbi : BInv F [] statsB (initSt b).r.line := by
      refine ⟨statsB, by simp, hS.stale, fun _ => ?_, fun h => absurd rfl h⟩
      rcases hS.first with h | h
      · exact .inl h
      · exact .inr ⟨hline0, h⟩
    have := blocksLoop_g hG (linesFuel b) fuelB [] statsB (initSt b) sB
      (start_srw hS) hA0 rfl (by rw [hline0]; exact Int.le_refl _) hbi hZ0
    rw [ι_zero] at this
    exact this u s () sB' hrun hB

/-- **Shift invariance of the block phase** for a covered parser set: from a `Start` state the rest of run B builds the
    store of `run b`, moved by the frame. -/
theorem shift_invariance_core (hP : PSim F b Cov) (hF : F.OK) (hNL : NL b) (hT : Triggers b Cov) {sB : St}
    {statsB : List LineStat} (hS : Start F b sB statsB) (fuelB : Nat) (sB' : St)
    (hB : blocksLoop 0 fuelB statsB sB = .ok ((), sB')) :
    ∃ sA', run b = .ok sA' ∧ StoreRel F sA'.nodes sB'.nodes :=
  shift_invariance_g (loopsG_p2 hP hF hNL (openBlocks_p2 hP hF hNL hT) 0) (fun x hx => by simp [initSt] at hx) trivial hS
    fuelB sB' hB

/-- all block parsers but `listParser` / `listItemParser`: sources without `-`, `*`, `+` and digits that are empty or
    end with a line feed -/
theorem shift_invariance_list_free (F : Frame) (hF : F.OK) (b : Bytes) (hNL : NL b) (hLF : ListFree b) {sB : St}
    {statsB : List LineStat} (hS : Start F b sB statsB) (fuelB : Nat) (sB' : St)
    (hB : blocksLoop 0 fuelB statsB sB = .ok ((), sB')) :
    ∃ sA', run b = .ok sA' ∧ StoreRel F sA'.nodes sB'.nodes :=
  shift_invariance_core (psim_notList F hF b) hF hNL (triggers_notList b hLF) hS fuelB sB' hB

end GM.Blocks.Sh
