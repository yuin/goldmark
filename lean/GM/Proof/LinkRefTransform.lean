/-
  GM.Proof.LinkRefTransform — `linkReferenceParagraphTransformer.Transform` (link_ref.go:16-48, GM.LinkRef.transform) is TOTAL on
  the paragraphs it really gets: lines well-formed WITH ANY paddings (`WFSegs`), none of them blank — or no lines at all —
  and a parent to hand the replacement to. No Go panic (scan, `Sliced` / `SetSliced`, `Parent().ReplaceChild`), no fuel
  exhaustion, none of the monitors of the model fires (progress monitor, the stale-elements check of `removeLoop`, contract
  monitor (3) of `finishLines`). The result is the contract `PTPost` of GM.Proof.BlocksTNPSpec: the paragraph loses an
  initial segment of its lines, or — all lines gone — is replaced in its parent by an empty TextBlock.

  `guardE e`: Transform behind the run-time check of exactly that hypothesis, with the check's outcome `e` as a PARAMETER
  (so that theorems of the form "the run ends normally or with `e`", for EVERY `e`, say that the check is the only source of
  an abnormal end). `GM.LinkRef.guardedTransform` (the check of the composition GM.Model.Convert: `WFSegs` only, outcome `pre`)
  agrees with `guardE .pre` whenever no line of the paragraph is blank.
-/
import GM.Proof.LinkRefFacts
import GM.Proof.BlocksTNPSpec
import GM.Proof.LinkRefPres

namespace GM.LinkRef
open GM GM.Text GM.Blocks

/-- no line is blank (the bytes of the line; virtual padding is white space anyway) -/
def noBlankB (src : Bytes) (segs : List Segment) : Bool :=
  segs.all fun s => !isBlank (sub src s.start.toNat s.stop.toNat)

/-- the lines a paragraph may hand to the transformer: none, or well-formed (any paddings) and none of them blank -/
def linesOKB (src : Bytes) (segs : List Segment) : Bool :=
  segs.length == 0 || (wfSegsB src segs && noBlankB src segs)

/-- `Transform` behind the run-time check `linesOKB`; the check answers `e` -/
def guardE (e : Panic) (node : Nat) : M Unit := do
  let n ← getNode node
  let src ← source
  if !linesOKB src n.lines then throw e
  transform node

end GM.LinkRef

namespace GM.Proof.LinkRefTot2
open GM GM.Text GM.Spec GM.Inl GM.LinkRef GM.Blocks GM.Proof.Reader GM.Proof.InlinesReader
open GM.Proof.LinkRefPad GM.Proof.LinkRefAdj GM.Proof.LinkRefFacts GM.Proof.LinkRefTotal

theorem noBlankB_sound {src : Bytes} {segs : List Segment} (h : noBlankB src segs = true) : NoBlank src segs := by
  intro j h0 h1
  have hg := segOf_get segs j h0 h1
  have hm := List.mem_of_getElem? hg
  simp only [noBlankB, List.all_eq_true, Bool.not_eq_true'] at h
  exact h _ hm

/-- the lines are fit for the transformer -/
def TLinesOK (src : Bytes) (lines : List Segment) : Prop := lines = [] ∨ (WFSegs src lines ∧ NoBlank src lines)

theorem linesOKB_sound {src : Bytes} {l : List Segment} (h : linesOKB src l = true) : TLinesOK src l := by
  simp only [linesOKB, Bool.or_eq_true, beq_iff_eq, Bool.and_eq_true] at h
  rcases h with h | ⟨h1, h2⟩
  · exact .inl (List.eq_nil_of_length_eq_zero h)
  · exact .inr ⟨wfSegsB_sound h1, noBlankB_sound h2⟩

/-- **the scan** on lines fit for the transformer -/
theorem transformScan_linesOK {src : Bytes} {lines : List Segment} (h : TLinesOK src lines) (refs : RefMap) :
    ∃ rm refs', transformScan src lines refs = .ok (rm, refs') ∧ adjacentB 0 rm = true ∧ lastEndOf 0 rm ≤ lines.length := by
  rcases h with h | ⟨W, hnb⟩
  · subst h
    exact ⟨[], refs, transformScan_nil src refs, rfl, by simp [lastEndOf]⟩
  · obtain ⟨rm, refs', e, h⟩ := transformScan_ok (NB := True) W (fun _ => hnb) refs
    exact ⟨rm, refs', e, (h trivial).1, (h trivial).2⟩

/-- **the second loop behind contract monitor (3)**: the monitor does not fire, no `slice` panic, no stale-elements
    `pre`; the result is the lines without their first `lastEnd` ones -/
theorem finishLines_ok {rm : List (Int × Int)} {lines : List Segment} (ha : adjacentB 0 rm = true)
    (hl : lastEndOf 0 rm ≤ lines.length) :
    finishLines rm lines = .ok (lines.drop (lastEnd 0 rm).toNat) := by
  unfold finishLines
  have hd : decide (lastEndOf 0 rm ≤ (lines.length : Int)) = true := decide_eq_true hl
  simp only [ha, hd, Bool.and_self, Bool.not_true, Bool.false_eq_true, if_false]
  have := removeLoop_front rm 0 lines (adjacentB_sound rm 0 ha) (by rw [← lastEndOf_eq]; omega)
  simpa using this

/-! ### the tree surgery never panics -/

theorem removeChild_tot (p c : Nat) (s : GM.Blocks.St) : ∃ s', removeChild p c s = .ok ((), s') ∧ s'.r = s.r ∧ s'.pc = s.pc := by
  unfold removeChild
  simp only [bind, StateT.bind, getNode, modNode, pure, StateT.pure, Except.pure, Except.bind]
  split <;> exact ⟨_, rfl, rfl, rfl⟩

theorem ensureIsolated_tot (c : Nat) (s : GM.Blocks.St) : ∃ s', ensureIsolated c s = .ok ((), s') ∧ s'.r = s.r ∧ s'.pc = s.pc := by
  unfold ensureIsolated
  simp only [bind, StateT.bind, getNode, pure, StateT.pure, Except.pure, Except.bind]
  cases hq : (s.nodes.getD c default).parent with
  | some q => exact removeChild_tot _ _ _
  | none => exact ⟨_, rfl, rfl, rfl⟩

theorem appendChild_tot (p c : Nat) (s : GM.Blocks.St) : ∃ s', appendChild p c s = .ok ((), s') ∧ s'.r = s.r ∧ s'.pc = s.pc := by
  unfold appendChild
  obtain ⟨s1, h1, h2, h3⟩ := ensureIsolated_tot c s
  simp only [bind, StateT.bind, h1, modNode, pure, StateT.pure, Except.pure, Except.bind]
  exact ⟨_, rfl, h2, h3⟩

theorem insertBefore_tot (p : Nat) (v : Option Nat) (ins : Nat) (s : GM.Blocks.St) :
    ∃ s', insertBefore p v ins s = .ok ((), s') ∧ s'.r = s.r ∧ s'.pc = s.pc := by
  unfold insertBefore
  cases v with
  | none => exact appendChild_tot _ _ _
  | some v =>
    simp only [bind, StateT.bind, getNode, pure, StateT.pure, Except.pure, Except.bind]
    by_cases hc : ((s.nodes.getD v default).parent != some p) = true
    · simp only [hc, if_true]; exact appendChild_tot _ _ _
    · simp only [hc, Bool.false_eq_true, if_false]
      obtain ⟨s1, h1, h2, h3⟩ := ensureIsolated_tot ins s
      simp only [bind, StateT.bind, h1, Except.bind, modNode, pure, StateT.pure, Except.pure]
      exact ⟨_, rfl, h2, h3⟩

theorem replaceChild_tot (p v ins : Nat) (s : GM.Blocks.St) : ∃ s', replaceChild p v ins s = .ok ((), s') ∧ s'.r = s.r ∧ s'.pc = s.pc := by
  unfold replaceChild
  obtain ⟨s1, h1, a1, b1⟩ := insertBefore_tot p (some v) ins s
  obtain ⟨s2, h2, a2, b2⟩ := removeChild_tot p v s1
  simp only [bind, StateT.bind, h1, Except.bind, h2]
  exact ⟨_, rfl, by rw [a2, a1], by rw [b2, b1]⟩

theorem ptReplace_tot (node p : Nat) (bp : Bool) (s : GM.Blocks.St) :
    ∃ s', ptReplace node p bp s = .ok ((), s') ∧ s'.r = s.r ∧ s'.pc = s.pc := by
  unfold ptReplace
  simp only [bind, StateT.bind, newNode, pure, StateT.pure, Except.pure, Except.bind]
  exact replaceChild_tot _ _ _ _

/-- `Transform` behind a scan that answered and a second loop that left the lines without their first `k`: a normal end is as
    `PTPost` says (all lines gone and no parent is the nil dereference of link_ref.go:43), and with a parent the end is normal -/
theorem transform_finish (node : Nat) (s : GM.Blocks.St) {rm : List (Int × Int)} {refs' : RefMap} {k : Nat}
    (e1 : transformScan s.r.source (nd s node).lines s.pc.refs = .ok (rm, refs'))
    (e2 : finishLines rm (nd s node).lines = .ok ((nd s node).lines.drop k)) :
    (∀ s', transform node s = .ok ((), s') → PTPost node s s') ∧
      ((nd s node).parent.isSome = true → ∃ s', transform node s = .ok ((), s')) := by
  have hnd : s.nodes.getD node default = nd s node := rfl
  unfold transform transformFinish
  simp only [bind, StateT.bind, getNode, source, getPc, pure, StateT.pure, Except.pure, Except.bind, liftE, Except.map, modPc,
    modNode, hnd, e1, e2]
  by_cases hlen : (((nd s node).lines.drop k).length == 0) = true
  · -- all lines gone: the TextBlock takes the paragraph's place
    simp only [hlen, if_true]
    have hnil : (nd s node).lines.drop k = [] := List.eq_nil_of_length_eq_zero (by simpa using hlen)
    cases hpar : (nd s node).parent with
    | none => exact ⟨fun s' e => (by cases e), fun h => (by cases h)⟩
    | some p =>
      obtain ⟨s', hs', hr', _⟩ := ptReplace_tot node p (nd s node).blankPrev (ptEmptied s node refs')
      have hs := hs'
      simp only [ptReplace, ptEmptied, bind, StateT.bind, newNode, pure, StateT.pure, Except.pure, Except.bind, hpar] at hs
      simp only [newNode, hnil]
      refine ⟨fun s'' e => ?_, fun _ => ⟨s', hs⟩⟩
      cases hs.symm.trans e
      exact ⟨by rw [hr']; rfl, .inr ⟨refs', p, hpar, hs'⟩⟩
  · simp only [hlen, Bool.false_eq_true, if_false]
    refine ⟨fun s' e => ?_, fun _ => ⟨_, rfl⟩⟩
    cases e
    refine ⟨rfl, .inl ⟨refs', k, ?_, rfl⟩⟩
    have : ((nd s node).lines.drop k).length ≠ 0 := by simpa using hlen
    omega

/-- **Transform is total** on a paragraph whose lines are fit for it and that has a parent; what it does is `PTPost` -/
theorem transform_total (node : Nat) (s : GM.Blocks.St) (hl : TLinesOK s.r.source (nd s node).lines)
    (hp : (nd s node).parent.isSome = true) :
    ∃ s', transform node s = .ok ((), s') ∧ PTPost node s s' := by
  obtain ⟨rm, refs', e1, a1, a2⟩ := transformScan_linesOK hl s.pc.refs
  obtain ⟨h1, h2⟩ := transform_finish node s e1 (finishLines_ok a1 a2)
  obtain ⟨s', e⟩ := h2 hp
  exact ⟨s', e, h1 s' e⟩

/-! ### without "no line is blank": everything but contract monitor (3) -/

/-- the second stage answers a line list or the monitor's `pre` — never a `slice` panic -/
theorem finishLines_ok_or_pre (rm : List (Int × Int)) (lines : List Segment) :
    finishLines rm lines = .ok (lines.drop (lastEnd 0 rm).toNat) ∨ finishLines rm lines = .error .pre := by
  by_cases hc : (adjacentB 0 rm && decide (lastEndOf 0 rm ≤ (lines.length : Int))) = true
  · simp only [Bool.and_eq_true, decide_eq_true_eq] at hc
    exact .inl (finishLines_ok hc.1 hc.2)
  · right
    unfold finishLines
    simp only [hc, Bool.not_false, if_true]

/-- **Transform on a paragraph with well-formed lines (any paddings; blank lines allowed) and a parent: `PTPost`, or contract
    monitor (3) answered `pre` — never a Go panic, never the fuel error** -/
theorem transform_total_wf (node : Nat) (s : GM.Blocks.St)
    (hl : (nd s node).lines = [] ∨ WFSegs s.r.source (nd s node).lines) (hp : (nd s node).parent.isSome = true) :
    (∃ s', transform node s = .ok ((), s') ∧ PTPost node s s') ∨ transform node s = .error .pre := by
  obtain ⟨⟨rm, refs'⟩, e1⟩ := transformScan_total_wf hl s.pc.refs
  rcases finishLines_ok_or_pre rm (nd s node).lines with e2 | e2
  · obtain ⟨h1, h2⟩ := transform_finish node s e1 e2
    obtain ⟨s', e⟩ := h2 hp
    exact .inl ⟨s', e, h1 s' e⟩
  · right
    have hnd : s.nodes.getD node default = nd s node := rfl
    unfold transform transformFinish
    simp only [bind, StateT.bind, getNode, source, getPc, pure, StateT.pure, Except.pure, Except.bind, liftE, Except.map, modPc,
      hnd, e1, e2]

/-- **the contract of `GM.LinkRef.guardedTransform`** (the transformer of `GM.Convert.blockPhase true`: Transform behind the
    run-time check `WFSegs`): on a Paragraph node that has a parent, from any state, it ends as `PTPost` says or answers
    `pre` (its check, or contract monitor (3)) — never a Go panic, never the fuel error -/
theorem guardedTransform_spec (src : Bytes) : PTSpec src .pre guardedTransform := by
  intro node s _ _ _ hp _
  rcases GM.Proof.LinkRefPres.guardedTransform_cases node s with e1 | ⟨e2, hl⟩
  · exact .inr e1
  · rw [e2]; exact transform_total_wf node s hl hp

theorem paragraphTransformers_spec (src : Bytes) : PTsSpec src .pre (GM.Convert.paragraphTransformers true) := by
  intro pt hpt
  simp only [GM.Convert.paragraphTransformers, if_true, List.mem_singleton] at hpt
  subst hpt
  exact guardedTransform_spec src

theorem guardE_passes (e : Panic) (node : Nat) (s : GM.Blocks.St) (h : linesOKB s.r.source (nd s node).lines = true) :
    guardE e node s = transform node s := by
  have h' : linesOKB s.r.source (s.nodes.getD node default).lines = true := h
  unfold guardE
  simp only [bind, StateT.bind, getNode, source, pure, Except.pure, Except.bind, h', Bool.not_true, Bool.false_eq_true, if_false]

theorem guardE_fires (e : Panic) (node : Nat) (s : GM.Blocks.St) (h : linesOKB s.r.source (nd s node).lines = false) :
    guardE e node s = .error e := by
  have h' : linesOKB s.r.source (s.nodes.getD node default).lines = false := h
  unfold guardE
  simp only [bind, StateT.bind, getNode, source, pure, Except.pure, Except.bind, h', Bool.not_false, if_true]
  rfl

/-- **the contract of the guarded transformer**: on a paragraph that has a parent it ends as `PTPost` says, or its guard
    answered `e` — nothing else -/
theorem guardE_spec (src : Bytes) (e : Panic) : PTSpec src e (guardE e) := by
  intro node s _ _ _ hp _
  cases hg : linesOKB s.r.source (nd s node).lines with
  | true =>
    rw [guardE_passes e node s hg]
    exact .inl (transform_total node s (linesOKB_sound hg) hp)
  | false => exact .inr (guardE_fires e node s hg)

theorem guardE_ptsSpec (src : Bytes) (e : Panic) : PTsSpec src e [guardE e] := by
  intro pt hpt
  simp only [List.mem_singleton] at hpt
  subst hpt
  exact guardE_spec src e

/-- the guarded transformer keeps every reader-only invariant and never exhausts fuel (for the termination proof of the
    driver, GM.Proof.BlocksT) — provided its own outcome is not the fuel outcome -/
theorem guardE_ptok (e : Panic) (he : e ≠ .loop) : PTOK (guardE e) := by
  intro I hI node
  refine GM.Proof.LinkRefPres.pres_of fun s hs => ?_
  cases hg : linesOKB s.r.source (nd s node).lines with
  | false => rw [guardE_fires e node s hg]; exact ⟨fun _ _ h' => (by cases h'), fun h' => he (by cases h'; rfl)⟩
  | true =>
    rw [guardE_passes e node s hg]
    exact GM.Proof.LinkRefPres.transform_ok hI node s hs ((linesOKB_sound hg).imp id (·.1))

theorem guardE_ptsOK (e : Panic) (he : e ≠ .loop) : PTsOK [guardE e] := by
  intro pt hpt
  simp only [List.mem_singleton] at hpt
  subst hpt
  exact guardE_ptok e he

end GM.Proof.LinkRefTot2
