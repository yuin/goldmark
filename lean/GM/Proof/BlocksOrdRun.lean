/-
  GM.Proof.BlocksOrdRun — the ORDER clause for whole runs of the block phase: at the end of `run` the order invariant
  `Inv` holds (it is part of the close discipline `CInv` that `GM.Blocks.L.run_closed_aux` establishes), so in the final
  store every block's lines increase, the container kinds have none, and every segment of a non-raw block is non-empty.
  First the reductions of the whole-run statements of GM.Props.Blocks (`LinesInRange`, `InlineLinesWF0`) to their order
  clauses, given that the range clause holds for every source (`run_ok_all`).
-/
import GM.Proof.BlocksClosedRun
import GM.Proof.BlocksNoPanicAll

namespace GM.Blocks
open GM GM.Text GM.Spec GM.Proof.Reader
open GM.Proof.BlocksWF0 (isRaw)
open GM.Proof.InlinesReader (WF0)

/-- the final state of the block phase and its range clause (GM.Blocks.run_ok_all), for a given normal end -/
theorem nodesOK_of_run {src : Bytes} {s : St} (h : run src = .ok s) : NodesOK src s := by
  obtain ⟨s', h', hn⟩ := run_ok_all src
  rw [h] at h'; cases h'; exact hn

/-- the block phase always ends normally -/
theorem run_ok (src : Bytes) : ∃ s, run src = .ok s := by
  obtain ⟨s, h, _⟩ := run_ok_all src; exact ⟨s, h⟩

/-- **REDUCTION of C05(c) for block lines to its order clause.** The range clause holds for every source
    (`lines_in_range`), so the statement the driver evaluates (`allLinesOK`) is equivalent to: in the final store the
    lines of every node increase. -/
theorem allLinesOK_iff_ordered {src : Bytes} {s : St} (h : run src = .ok s) :
    allLinesOK src s = true ↔ ∀ n ∈ s.nodes, OrdFrom 0 n.lines := by
  have hn := nodesOK_of_run h
  rw [allLinesOK_iff]
  constructor
  · intro hh n hm
    exact ordFrom_zero_of_neg (fun t ht => ((hh n hm).1 t ht).1) (hh n hm).2
  · intro hh n hm
    exact ⟨(hn n hm).lines, OrdFrom.mono (by decide) (hh n hm)⟩

open GM.Proof.BlocksWF0 in
/-- **REDUCTION of the hand-over statement.** With the range clause proved, "every inline-bearing node of the final
    store has `WF0` lines" is equivalent to: on every inline-bearing node the lines increase and every line is a
    non-empty segment with padding 0 and without ForceNewline. -/
theorem allInlineWF0_iff_parts {src : Bytes} {s : St} (h : run src = .ok s) :
    allInlineWF0 src s = true ↔ ∀ n ∈ s.nodes, inlineBearing n = true →
      OrdFrom 0 n.lines ∧ ∀ t ∈ n.lines, t.start < t.stop ∧ t.padding = 0 ∧ t.forceNewline = false := by
  have hn := nodesOK_of_run h
  simp only [allInlineWF0, List.all_eq_true, Bool.or_eq_true, Bool.not_eq_true']
  constructor
  · intro hh n hm hb
    rcases hh n hm with h1 | h1
    · rw [hb] at h1; cases h1
    · obtain ⟨_, h2, h3⟩ := (wf0_iff_parts src n.lines).1 ((wf0B_iff src n.lines).1 h1)
      exact ⟨h2, fun t ht => ⟨(h3 t ht).1, (h3 t ht).2.2.1, (h3 t ht).2.2.2⟩⟩
  · intro hh n hm
    cases hb : inlineBearing n with
    | false => exact .inl rfl
    | true =>
      right
      obtain ⟨h2, h3⟩ := hh n hm hb
      refine (wf0B_iff src n.lines).2 ((wf0_iff_parts src n.lines).2 ⟨?_, h2, fun t ht => ?_⟩)
      · intro he
        simp [inlineBearing, he] at hb
      · exact ⟨(h3 t ht).1, ((hn n hm).lines t ht).2.2.1, (h3 t ht).2.1, (h3 t ht).2.2⟩


theorem L.run_ordered_aux {src : Bytes} (lsp : LSp src) (s : St) (h : run src = .ok s) : ∃ E, Inv src E s :=
  (L.run_closed_aux lsp s h).1.inv

/-- **C05(c), order clause, for every byte string**: in the final store of the block phase the line segments of every
    block that is not raw (everything but CodeBlock, FencedCodeBlock, HTMLBlock — in particular every Paragraph, Heading
    and TextBlock, the blocks the inline phase reads) increase: the first starts at or behind 0 and each next one
    starts at or behind the previous stop. -/
theorem run_ordered (src : Bytes) (s : St) (h : run src = .ok s) :
    ∀ n ∈ s.nodes, isRaw n.kind = false → OrdFrom 0 n.lines := by
  obtain ⟨E, hE⟩ := L.run_ordered_aux (lsp_all src) s h
  intro n hn hr
  obtain ⟨i, _, rfl⟩ := mem_nodes_nd hn
  exact ((hE.nrb i).1 hr).1

/-- **C05(c), order clause for the three raw kinds, for every byte string**: in the final store the line segments of
    every CodeBlock, FencedCodeBlock and HTMLBlock increase as well. -/
theorem run_ordered_raw (src : Bytes) (s : St) (h : run src = .ok s) :
    ∀ n ∈ s.nodes, isRaw n.kind = true → OrdFrom 0 n.lines := by
  obtain ⟨E, hE⟩ := L.run_ordered_aux (lsp_all src) s h
  intro n hn hr
  obtain ⟨i, _, rfl⟩ := mem_nodes_nd hn
  exact ((hE.nrb i).2.1 hr).1

/-- **Document, Blockquote, List, ListItem and ThematicBreak nodes carry no lines**, for every byte string: in the final
    store of the block phase their line lists are empty (no parser ever appends to them). -/
theorem run_no_lines (src : Bytes) (s : St) (h : run src = .ok s) :
    ∀ n ∈ s.nodes, noLinesKind n.kind = true → n.lines = [] := by
  obtain ⟨E, hE⟩ := L.run_ordered_aux (lsp_all src) s h
  intro n hn hr
  obtain ⟨i, _, rfl⟩ := mem_nodes_nd hn
  exact (hE.nrb i).2.2 hr

/-- **every segment of a non-raw block is non-empty and has no ForceNewline, for every byte string** -/
theorem run_segs_nonempty (src : Bytes) (s : St) (h : run src = .ok s) :
    ∀ n ∈ s.nodes, isRaw n.kind = false → ∀ t ∈ n.lines, t.start < t.stop ∧ t.forceNewline = false := by
  obtain ⟨E, hE⟩ := L.run_ordered_aux (lsp_all src) s h
  intro n hn hr
  obtain ⟨i, _, rfl⟩ := mem_nodes_nd hn
  exact ((hE.nrb i).1 hr).2.2

/-- **the lines of every non-raw block that has lines are well formed** (`WFSegs`, GM.Spec.Cursor: a non-empty list of
    non-empty segments inside the source that increase, padding ≥ 0, no ForceNewline) — what
    `GM.LinkRef.guardedTransform` checks and, up to `padding = 0`, what the inline phase assumes. For every byte string. -/
theorem run_wfsegs (src : Bytes) (s : St) (h : run src = .ok s) :
    ∀ n ∈ s.nodes, isRaw n.kind = false → n.lines ≠ [] → WFSegs src n.lines := by
  intro n hn hr hne
  have hok := (nodesOK_of_run h n hn).lines
  have hseg := run_segs_nonempty src s h n hn hr
  exact ⟨hne, (wfSegsFrom_iff src n.lines 0).2 ⟨run_ordered src s h n hn hr, fun t ht =>
    ⟨(hseg t ht).1, (hok t ht).2.2.1, (hok t ht).2.2.2, (hseg t ht).2⟩⟩⟩

end GM.Blocks
