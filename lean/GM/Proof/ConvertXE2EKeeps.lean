/-
  GM.Proof.ConvertXE2EKeeps — the table paragraph transformer keeps EVERY frame invariant of GM.Proof.E2EKeeps (`Frame`:
  heading levels, "node 0 is the Document", info / closure segments in range, …): it allocates `thematicBreak` records without
  info segment and closure line and only rewrites `lines`, `children`, `parent`. So these invariants hold of every store the
  block phase of ANY member set returns.
-/
import GM.Proof.E2EXSegs
import GM.Proof.E2ETree
import GM.Model.ConvertX

namespace GM.E2E
open GM GM.Text GM.Blocks GM.TableX

section
variable {I : St → Prop} [Frame I]

theorem headP_thematic (n : Blocks.Node) (h : n.kind = .thematicBreak) : HeadP n := by
  intro hk; rw [h] at hk; cases hk

theorem addCells_keeps (src : Bytes) (row : Nat) : ∀ cells, Keeps I (addCells src row cells)
  | [] => by unfold addCells; exact Keeps.pure _
  | c :: rest => by
    unfold addCells
    refine Keeps.bind (newNode_keeps _ (headP_thematic _ rfl) ?_ rfl rfl (fun h => by cases h)) (fun id => ?_)
    · rfl
    · exact Keeps.bind (appendChild_keeps _ _) (fun _ => addCells_keeps src row rest)

theorem addRow_keeps (src : Bytes) (table tag : Nat) (cells) : Keeps I (addRow src table tag cells) := by
  unfold addRow
  refine Keeps.bind (newNode_keeps _ (headP_thematic _ rfl) rfl rfl rfl (fun h => by cases h)) (fun id => ?_)
  exact Keeps.bind (addCells_keeps src id cells) (fun _ => appendChild_keeps _ _)

theorem addRows_keeps (src : Bytes) (table : Nat) : ∀ rows, Keeps I (addRows src table rows)
  | [] => by unfold addRows; exact Keeps.pure _
  | r :: rest => by
    unfold addRows
    exact Keeps.bind (addRow_keeps src table _ r) (fun _ => addRows_keeps src table rest)

theorem buildTable_keeps (src : Bytes) (node : Nat) (parent : Option Nat) (para) (t) :
    Keeps I (buildTable src node parent para t) := by
  unfold buildTable
  refine Keeps.bind (newNode_keeps _ (headP_thematic _ rfl) rfl rfl rfl (fun h => by cases h)) (fun table => ?_)
  refine Keeps.bind (addRow_keeps src table _ _) (fun _ => ?_)
  refine Keeps.bind (addRows_keeps src table _) (fun _ => ?_)
  refine Keeps.bind (modNodeAt_keeps _ _ (fun _ => ⟨rfl, rfl, rfl, rfl, fun _ h => h⟩) (fun _ _ h => h.elim)) (fun _ => ?_)
  cases parent with
  | none => exact Keeps.throw _
  | some p =>
    refine Keeps.bind (getNode_keeps p) (fun pn => ?_)
    refine Keeps.bind (insertBefore_keeps _ _ _) (fun _ => ?_)
    exact Keeps.ite (fun _ => removeChild_keeps _ _) (fun _ => Keeps.pure _)

theorem transformPT_keeps (src : Bytes) (node : Nat) : Keeps I (transformPT src node) := by
  unfold transformPT
  refine Keeps.bind (getNode_keeps node) (fun n => ?_)
  refine Keeps.bind source_keeps (fun rsrc => ?_)
  refine Keeps.ite (fun _ => Keeps.throw _) (fun _ => ?_)
  split
  · exact Keeps.pure _
  · exact buildTable_keeps src node _ _ _

open GM.ConvertX in
theorem paragraphTransformersX_keep (c : XCfg) (guard : Bool) (src : Bytes) : PTsKeep I (paragraphTransformersX c guard src) := by
  intro pt hpt n
  unfold paragraphTransformersX at hpt
  simp only [List.mem_append] at hpt
  rcases hpt with hpt | hpt
  · exact paragraphTransformers_keep guard pt hpt n
  · split at hpt
    · simp only [List.mem_singleton] at hpt; subst hpt; exact transformPT_keeps src n
    · cases hpt
end

open GM.ConvertX in
theorem blockPhaseX_headOK (c : XCfg) (guard : Bool) (src : Bytes) (st : St) (h : blockPhaseX c guard src = .ok st) : HeadOK st :=
  runT_headOK (paragraphTransformersX_keep c guard src) src st h

open GM.ConvertX in
theorem blockPhaseX_rootDoc (c : XCfg) (guard : Bool) (src : Bytes) (st : St) (h : blockPhaseX c guard src = .ok st) : RootDoc st :=
  runT_rootDoc (paragraphTransformersX_keep c guard src) src st h

open GM.ConvertX in
theorem blockPhaseX_xsegs (c : XCfg) (guard : Bool) (src : Bytes) (st : St) (h : blockPhaseX c guard src = .ok st) :
    ∀ n ∈ st.nodes, XP src n :=
  runT_xsegs src (paragraphTransformersX_keep c guard src) st h

end GM.E2E
