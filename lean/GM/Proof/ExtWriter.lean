/-
  GM.Proof.ExtWriter — html.WithEscapedSpace (CJK) is invisible on text without backslash-space:
  the two writers of GM.Model.Writer (`write true` / `write false`) agree on every byte string that does not
  contain the two bytes `\` ` `. (C11, CJK clause "pure ASCII input without backslash-space".)
-/
import GM.Model.Writer
import GM.Proof.ExtDecline
import GM.Proof.ExtLoop

namespace GM.Ext
open GM

theorem spanB_snd_suffix (p : UInt8 → Bool) (l : Bytes) : (spanB p l).2 <:+ l :=
  ⟨(spanB p l).1, spanB_append p l⟩

theorem suffix_of_cons_eq {a : UInt8} {r l : Bytes} (h : l = a :: r) : r <:+ l := by
  subst h
  exact List.suffix_cons a r

theorem tryRefW_suffix {rest out r : Bytes} (h : tryRefW rest = some (out, r)) : r <:+ rest := by
  unfold tryRefW at h
  split at h
  · rename_i r1
    split at h
    · cases h
    · rename_i nc r2
      split at h
      · split at h
        · rename_i r4 heq
          split at h
          · cases h
            exact ((suffix_of_cons_eq heq).trans (spanB_snd_suffix isHex r2)).trans
              ((List.suffix_cons nc r2).trans (List.suffix_cons 35 (nc :: r2)))
          · cases h
        · cases h
      · split at h
        · split at h
          · rename_i r4 heq
            split at h
            · cases h
              exact ((suffix_of_cons_eq heq).trans (spanB_snd_suffix isNumeric (nc :: r2))).trans (List.suffix_cons 35 (nc :: r2))
            · cases h
          · cases h
        · cases h
  · split at h
    · rename_i r4 heq
      split at h
      · cases h
      · simp [Option.map] at h
        split at h
        · cases h
          exact (suffix_of_cons_eq heq).trans (spanB_snd_suffix isAlnum rest)
        · cases h
    · cases h

/-- the byte pair backslash, space -/
def escSp : Bytes := [92, 32]

theorem writeGo_escSpace : ∀ (n : Nat) (esc : Bool) (v : Bytes), v.length ≤ n → hasInfix escSp v = false →
    (esc = true → v.head? ≠ some 32) → writeGo true esc v = writeGo false esc v := by
  intro n
  induction n with
  | zero =>
    intro esc v hl _ _
    have : v = [] := List.length_eq_zero_iff.mp (Nat.le_zero.mp hl)
    subst this
    rw [writeGo, writeGo]
  | succ n ih =>
    intro esc v hl hv he
    cases v with
    | nil => rw [writeGo, writeGo]
    | cons c cs =>
      have hcs : hasInfix escSp cs = false := hasInfix_false_of_infix hv (List.suffix_cons c cs).isInfix
      have hlen : cs.length ≤ n := by simp at hl; omega
      have ihF : writeGo true false cs = writeGo false false cs := ih false cs hlen hcs (by simp)
      rw [writeGo, writeGo]
      have hsp : (esc && true && c == 32) = false := by
        cases esc with
        | false => rfl
        | true =>
          have := he rfl
          simp at this
          simp [this]
      simp only [hsp, Bool.and_false, Bool.false_and, Bool.false_eq_true, if_false]
      split
      · rw [ihF]
      · congr 1
        split
        · rw [ihF]
        · split
          · split
            · rename_i out rest hr
              have hsuf := tryRefW_suffix hr
              have hl2 : rest.length ≤ n := by
                have := tryRefW_len hr
                omega
              rw [ih false rest hl2 (hasInfix_false_of_infix hcs hsuf.isInfix) (by simp)]
            · rw [ihF]
          · split
            · rename_i h92
              have hc : c = 92 := by simpa using h92
              subst hc
              have hh : cs.head? ≠ some 32 := fun hh => by
                cases (hasInfix_two (l := 92 :: cs) (p := 0) rfl (List.head?_eq_getElem? ▸ hh)).symm.trans hv
              rw [ih true cs hlen hcs (fun _ => hh)]
            · rw [ihF]

/-- CJK, writer side: `html.NewWriter(html.WithEscapedSpace())` writes exactly what the default writer writes for
    every byte string without the two bytes backslash, space. -/
theorem write_escSpace (v : Bytes) (h : hasInfix escSp v = false) : write true v = write false v :=
  writeGo_escSpace v.length false v (Nat.le_refl _) h (by simp)

end GM.Ext
