/-
  GM.Proof.InlinesLoopX — "never consulted" on the CONCRETE inline phase: the loop over an open trigger table
  (GM.Model.InlinesLoopX) equals the loop with the default parsers (GM.Model.InlinesLoop.parseBlock) whenever the
  table agrees with the default one on ' ' and on every byte of the source. The peeked lines are slices of the
  source because the default parsers keep the reader inside it: that is the invariant `LInv` of the totality proof;
  the statement about the loop is the case `baseTbl` of GM.Proof.InlinesLoopTotal's `lineLoopX_eq_lo`.
-/
import GM.Model.InlinesLoopX
import GM.Proof.InlinesLink

namespace GM.Proof.InlinesLoopX
open GM GM.Text GM.Spec GM.Inl GM.Proof.Reader GM.Proof.InlinesReader GM.Proof.Inlines GM.Proof.InlinesTotal
open GM.Proof.InlinesLink

variable {src : Bytes} {segs : List Segment}

/-- the `retry:` loop over a table that agrees with the default one on ' ' and on every byte of the source, from any state the
    loop invariant of the default run holds for -/
theorem lineLoopX_eq (X : Ctx) (F : SegFacts src segs) (Z : ∀ s ∈ segs, s.padding = 0) (env : Env)
    (hC : ∀ ip, PContract X src segs (trigOf ip) (ip.parse env))
    (tbl : UInt8 → List XIp) (h32 : tbl 32 = baseTbl 32) (hT : ∀ c ∈ src, tbl c = baseTbl c) :
    ∀ (fuel : Nat) (esc : Bool) (st : St) (c : BCur), LInv X src segs st c →
    (BCur.remaining segs c).toNat < fuel → lineLoopX env tbl fuel esc st = lineLoop env fuel esc st := by
  intro fuel esc st c hI hf
  rw [← lineLoopX_base]
  exact lineLoopX_eq_lo (lo0 := 0) X (Int.le_refl 0) F Z env baseTbl tbl (base32 X env)
    (base_contracts X env fun ip => pcontractLo_zero.mpr (hC ip)) h32 hT fuel esc st c (linvLo_zero.mpr hI) hf

/-- the whole inline phase of a block over such a table -/
theorem parseBlockX_eq (W : WFSegs src segs) (Z : ∀ s ∈ segs, s.padding = 0) (env : Env)
    (tbl : UInt8 → List XIp) (h32 : tbl 32 = baseTbl 32) (hT : ∀ c ∈ src, tbl c = baseTbl c) :
    parseBlockX env tbl src segs = parseBlock env src segs := by
  have F := segFacts W
  obtain ⟨r0, e0, a0⟩ := blockReader_init F
  have hz0 : (BCur.init segs).pad = 0 := segOf_pad F Z 0 (Int.le_refl _) F.kpos
  have hI : LInv (linkCtx (BCur.segOf segs 0).start) src segs { rd := r0 } (BCur.init segs) :=
    ⟨⟨a0, hz0⟩, by simp only [segsOfL, chain, BCur.init]; exact (F.rng 0 (Int.le_refl _) F.kpos).1, LK_base _⟩
  have h := lineLoopX_eq _ F Z env (all_contracts W Z env) tbl h32 hT (blockFuel src segs) false _ _ hI
    (blockFuel_gt W Z a0.wf hz0)
  unfold parseBlockX parseBlock
  simp only [e0, bind, Except.bind, h]

theorem insertTbl_off (x : XParser) (pos : UInt8 → Nat) (tbl : UInt8 → List XIp) (c : UInt8) (h : c ∉ x.triggers) :
    insertTbl x pos tbl c = tbl c := by
  have hf : x.triggers.filter (· == c) = [] := by
    rw [List.filter_eq_nil_iff]
    intro a ha hEq
    have : a = c := by simpa using hEq
    exact h (this ▸ ha)
  simp [insertTbl, hf]

/-- NEVER CONSULTED, concrete loop: one more inline parser — whatever its `Parse` does — added to the default
    parsers at any place of any table entry leaves `parseBlock`'s result unchanged on every source that contains
    none of its trigger bytes, provided it is not registered for ' '. -/
theorem parseBlock_unused (W : WFSegs src segs) (Z : ∀ s ∈ segs, s.padding = 0) (env : Env)
    (x : XParser) (pos : UInt8 → Nat) (h32 : (32 : UInt8) ∉ x.triggers) (hsrc : ∀ c ∈ src, c ∉ x.triggers) :
    parseBlockX env (insertTbl x pos baseTbl) src segs = parseBlock env src segs :=
  parseBlockX_eq W Z env _ (insertTbl_off x pos baseTbl 32 h32) (fun c hc => insertTbl_off x pos baseTbl c (hsrc c hc))

end GM.Proof.InlinesLoopX
