/-
  GM.Proof.E2EBracket — the link reference definition transformer (parser/link_ref.go, GM.Model.LinkRef) on a source
  WITHOUT the byte `[`:

    * every line the transformer's block reader hands out consists of bytes of the source, spaces (virtual padding)
      and a newline (ForceNewline), so `line[pos] != '['` (link_ref.go:73) always holds: `defHead` never answers an
      opening bracket, `parseLinkReferenceDefinition` answers `-1, -1`, the first loop of `Transform` removes nothing
      and the reference map is untouched (`transformScan_noBracket`);
    * so on a Paragraph that HAS lines `Transform` (guarded or not) returns the state UNCHANGED or ends in an error
      outcome (`transform_silent`, `guardedTransform_silent`), for every state over such a source;
    * but NOT on a Paragraph without lines: there `Transform` replaces the paragraph by a fresh TextBlock
      (link_ref.go:41-47) although no definition was read — a kernel-evaluated witness (`transform_not_silent_witness`).
      This is why "the transformer declines on sources without `[`" is not a state-independent fact, and why the
      monotonicity argument of GM.Proof.ConvertXRel (a transformer that is silent on EVERY state) does not carry
      `run`-theorems over to `blockPhase`: one needs "a Paragraph handed to `transformParagraph` has lines" at the two
      call sites (parser.go:904-907, 985-997), an invariant of the driver WITH transformers.
-/
import GM.Model.Convert
import GM.Proof.LinkRefPad

namespace GM.E2E
open GM GM.Text GM.Blocks GM.LinkRef

/-- the source does not contain `[` -/
def NoBracket (src : Bytes) : Prop := ∀ b ∈ src, b ≠ 91

instance (src : Bytes) : Decidable (NoBracket src) := by unfold NoBracket; exact inferInstance

theorem sub_mem {src : Bytes} {a b : Nat} {x : UInt8} (h : x ∈ sub src a b) : x ∈ src :=
  List.mem_of_mem_drop (List.mem_of_mem_take h)

theorem sliceB_mem {src : Bytes} {a b : Int} {v : Bytes} (h : sliceB src a b = .ok v) {x : UInt8} (hx : x ∈ v) : x ∈ src := by
  unfold sliceB at h
  split at h
  · cases h; exact sub_mem hx
  · cases h

theorem value_mem {t : Segment} {src v : Bytes} (h : t.value src = .ok v) {x : UInt8} (hx : x ∈ v) :
    x ∈ src ∨ x = 32 ∨ x = 10 := by
  have app : ∀ (r w : Bytes), (∀ y ∈ r, y ∈ src ∨ y = 32 ∨ y = 10) →
      (if needsNewline t r then (pure (r ++ [10]) : Except Panic Bytes) else pure r) = .ok w →
      ∀ y ∈ w, y ∈ src ∨ y = 32 ∨ y = 10 := by
    intro r w hr hw y hy
    split at hw
    · cases hw
      rcases List.mem_append.1 hy with h1 | h1
      · exact hr y h1
      · simp only [List.mem_singleton] at h1; exact .inr (.inr h1)
    · cases hw; exact hr y hy
  unfold Segment.value at h
  split at h
  · cases hs : sliceB src t.start t.stop with
    | error e => rw [hs] at h; cases h
    | ok r =>
      rw [hs] at h
      exact app r v (fun y hy => .inl (sliceB_mem hs hy)) h x hx
  · by_cases c1 : t.padding + t.stop - t.start + 1 < 0
    · rw [if_pos c1] at h; cases h
    · rw [if_neg c1] at h
      by_cases c2 : t.padding < 0
      · rw [if_pos c2] at h; cases h
      · rw [if_neg c2] at h
        cases hs : sliceB src t.start t.stop with
        | error e => rw [hs] at h; cases h
        | ok r =>
          rw [hs] at h
          refine app (spaces t.padding.toNat ++ r) v (fun y hy => ?_) h x hx
          rcases List.mem_append.1 hy with h1 | h1
          · exact .inr (.inl (List.eq_of_mem_replicate h1))
          · exact .inl (sliceB_mem hs h1)

theorem idx_mem {l : Bytes} {i : Int} {b : UInt8} (h : idx l i = .ok b) : b ∈ l := by
  unfold idx getByte at h
  split at h
  · cases h
  · split at h
    · rename_i hb
      cases h
      exact List.mem_of_getElem? hb
    · cases h

theorem setPosition_source {line : Int} {pos : Segment} {r r' : BlockReader} (h : r.setPosition line pos = .ok r') :
    r'.source = r.source := by
  unfold BlockReader.setPosition at h
  simp only at h
  split at h
  · split at h
    · simp only [bind, Except.bind] at h
      cases hs : segAt r.segments line with
      | error e => rw [hs] at h; cases h
      | ok s => rw [hs] at h; cases h; rfl
    · cases h; rfl
  · split at h
    · simp only [bind, Except.bind] at h
      cases hs : segAt r.segments line with
      | error e => rw [hs] at h; cases h
      | ok s => rw [hs] at h; cases h; rfl
    · cases h; rfl

theorem advanceLine_source {r r' : BlockReader} (h : r.advanceLine = .ok r') : r'.source = r.source := by
  unfold BlockReader.advanceLine at h
  simp only [bind, Except.bind] at h
  cases hs : BlockReader.setPosition (r.line + 1) { start := -1, stop := -1 } r with
  | error e => rw [hs] at h; cases h
  | ok r1 =>
    rw [hs] at h; cases h
    show r1.source = r.source
    exact setPosition_source hs

theorem advanceLoop_source : ∀ (n : Nat) {r r' : BlockReader}, r.advanceLoop n = .ok r' → r'.source = r.source
  | 0, r, r', h => by unfold BlockReader.advanceLoop at h; cases h; rfl
  | n + 1, r, r', h => by
    unfold BlockReader.advanceLoop at h
    split at h
    · have := advanceLoop_source n h; exact this
    · split at h
      · simp only [bind, Except.bind] at h
        cases hs : r.advanceLine with
        | error e => rw [hs] at h; cases h
        | ok r1 =>
          rw [hs] at h
          exact (advanceLoop_source n h).trans (advanceLine_source hs)
      · have := advanceLoop_source n h; exact this

theorem advance_source {n : Int} {r r' : BlockReader} (h : r.advance n = .ok r') : r'.source = r.source := by
  unfold BlockReader.advance at h
  simp only at h
  split at h
  · cases h; rfl
  · have := advanceLoop_source _ h; exact this

theorem peekLine_source {r r' : BlockReader} {x : Option Bytes × Segment} (h : r.peekLine = .ok (x, r')) : r' = r := by
  unfold BlockReader.peekLine at h
  split at h
  · simp only [bind, Except.bind] at h
    cases hv : r.pos.value r.source with
    | error e => rw [hv] at h; cases h
    | ok v => rw [hv] at h; cases h; rfl
  · cases h; rfl

theorem peekLine_mem {r r' : BlockReader} {l : Bytes} {sg : Segment} (h : r.peekLine = .ok ((some l, sg), r')) {x : UInt8}
    (hx : x ∈ l) : x ∈ r.source ∨ x = 32 ∨ x = 10 := by
  unfold BlockReader.peekLine at h
  split at h
  · simp only [bind, Except.bind] at h
    cases hv : r.pos.value r.source with
    | error e => rw [hv] at h; cases h
    | ok v => rw [hv] at h; cases h; exact value_mem hv hx
  · cases h

theorem skipSpaces_source {fuel : Nat} {chars : Int} {r r' : BlockReader} {x : Segment × Int × Bool}
    (h : skipSpaces blockOps fuel chars r = .ok (x, r')) : r'.source = r.source :=
  GM.Proof.LinkRefPad.skipSpaces_inv blockOps (fun q => q.source = r.source)
    (fun _ _ _ hj ha => (advance_source ha).trans hj)
    (fun _ _ _ hj hp => by rw [peekLine_source hp]; exact hj) fuel chars r x r' rfl h

theorem new_source {src : Bytes} {segs : List Segment} {r : BlockReader} (h : BlockReader.new src segs = .ok r) :
    r.source = src := by
  unfold BlockReader.new BlockReader.resetPosition at h
  simp only [bind, Except.bind, pure, Except.pure] at h
  split at h
  · cases hq : segAt segs ((segs.length : Int) - 1) with
    | error e => rw [hq] at h; cases h
    | ok l => rw [hq] at h; have := advanceLine_source h; exact this
  · have := advanceLine_source h; exact this

theorem defHead_noBracket {src : Bytes} (hb : NoBracket src) {rd rd' : BlockReader} {x : Option (Int × Int)}
    (hs : rd.source = src) (h : defHead rd = .ok (x, rd')) : x = none := by
  unfold defHead at h
  simp only [bind, Except.bind] at h
  cases h1 : skipSpaces blockOps (GM.Inl.rdFuel rd) 0 rd with
  | error e => rw [h1] at h; cases h
  | ok p1 =>
    obtain ⟨y, rd1⟩ := p1
    rw [h1] at h
    simp only at h
    have hs1 : rd1.source = src := (skipSpaces_source h1).trans hs
    cases h2 : rd1.peekLine with
    | error e => rw [h2] at h; cases h
    | ok p2 =>
      obtain ⟨⟨line, sg⟩, rd2⟩ := p2
      rw [h2] at h
      simp only at h
      cases line with
      | none => cases h; rfl
      | some l =>
        simp only at h
        split at h
        · cases h; rfl
        · cases h3 : idx l (if (indentWidthI l 0).1 != 0 then (indentWidthI l 0).2 + 1 else (indentWidthI l 0).2) with
          | error e => rw [h3] at h; cases h
          | ok b =>
            rw [h3] at h
            simp only at h
            split at h
            · cases h; rfl
            · rename_i hne
              exfalso
              have hb91 : b = 91 := by simpa using hne
              have hm := peekLine_mem h2 (idx_mem h3)
              rw [hs1, hb91] at hm
              rcases hm with hm | hm | hm
              · exact hb 91 hm rfl
              · exact absurd hm (by decide)
              · exact absurd hm (by decide)

theorem parseLRD_noBracket {src : Bytes} (hb : NoBracket src) {rd rd' : BlockReader} {refs refs' : RefMap} {se : Int × Int}
    (hs : rd.source = src) (h : parseLinkReferenceDefinition rd refs = .ok (se, rd', refs')) :
    se = (-1, -1) ∧ refs' = refs := by
  unfold parseLinkReferenceDefinition at h
  simp only [bind, Except.bind] at h
  cases h1 : defHead rd with
  | error e => rw [h1] at h; cases h
  | ok p =>
    obtain ⟨x, rd1⟩ := p
    rw [h1] at h
    have hx := defHead_noBracket hb hs h1
    subst hx
    simp only [noDef] at h
    cases h
    exact ⟨rfl, rfl⟩

theorem transformLoop_noBracket {src : Bytes} (hb : NoBracket src) : ∀ (fuel : Nat) {rd : BlockReader} {refs refs' : RefMap}
    {removes rm : List (Int × Int)}, rd.source = src → transformLoop fuel rd refs removes = .ok (rm, refs') →
    rm = removes ∧ refs' = refs
  | 0, _, _, _, _, _, _, h => by unfold transformLoop at h; cases h
  | fuel + 1, rd, refs, refs', removes, rm, hs, h => by
    unfold transformLoop at h
    simp only [bind, Except.bind] at h
    cases h1 : parseLinkReferenceDefinition rd refs with
    | error e => rw [h1] at h; cases h
    | ok p =>
      obtain ⟨⟨s, e⟩, rd1, refs1⟩ := p
      rw [h1] at h
      obtain ⟨hse, hr⟩ := parseLRD_noBracket hb hs h1
      cases hse
      subst hr
      simp only at h
      rw [if_neg (by decide)] at h
      cases h
      exact ⟨rfl, rfl⟩

theorem transformScan_noBracket {src : Bytes} (hb : NoBracket src) {lines : List Segment} {refs refs' : RefMap}
    {rm : List (Int × Int)} (h : transformScan src lines refs = .ok (rm, refs')) : rm = [] ∧ refs' = refs := by
  unfold transformScan at h
  simp only [bind, Except.bind] at h
  cases h1 : BlockReader.new src lines with
  | error e => rw [h1] at h; cases h
  | ok block =>
    rw [h1] at h
    exact transformLoop_noBracket hb _ (new_source h1) h

theorem set_getD_self {α} (l : List α) (i : Nat) (d : α) : l.set i (l.getD i d) = l := by
  by_cases h : i < l.length
  · simp [List.getD, h]
  · exact List.set_eq_of_length_le (Nat.le_of_not_lt h)

theorem transformFinish_nil (node : Nat) (s : St) (hl : (s.nodes.getD node default).lines ≠ []) :
    transformFinish node (s.nodes.getD node default) [] s.pc.refs s = .ok ((), s) := by
  unfold transformFinish
  have hf : finishLines [] (s.nodes.getD node default).lines = .ok (s.nodes.getD node default).lines := by
    unfold finishLines
    simp [adjacentB, lastEndOf, removeLoop, pure, Except.pure]
  have hlen : ((s.nodes.getD node default).lines.length == 0) = false := by
    cases hq : (s.nodes.getD node default).lines with
    | nil => exact absurd hq hl
    | cons a b => rfl
  simp only [bind, StateT.bind, modPc, liftE, hf, Except.map, modNode, pure, StateT.pure, Except.pure, Except.bind, hlen,
    Bool.false_eq_true, ↓reduceIte]
  have e : (s.nodes.set node { (s.nodes.getD node default) with lines := (s.nodes.getD node default).lines }) = s.nodes :=
    set_getD_self s.nodes node default
  simp only [List.getD_eq_getElem?_getD] at e ⊢
  rw [e]

theorem transform_silent (node : Nat) (s : St) (hb : NoBracket s.r.source)
    (hl : (s.nodes.getD node default).lines ≠ []) :
    transform node s = .ok ((), s) ∨ ∃ e, transform node s = .error e := by
  unfold transform
  simp only [bind, StateT.bind, getNode, source, getPc, pure, StateT.pure, Except.pure, Except.bind, liftE]
  cases h1 : transformScan s.r.source (s.nodes.getD node default).lines s.pc.refs with
  | error e => exact .inr ⟨e, rfl⟩
  | ok p =>
    obtain ⟨rm, refs'⟩ := p
    obtain ⟨hrm, hr⟩ := transformScan_noBracket hb h1
    subst hrm hr
    simp only [Except.map]
    exact .inl (transformFinish_nil node s hl)

theorem guardedTransform_silent (node : Nat) (s : St) (hb : NoBracket s.r.source)
    (hl : (s.nodes.getD node default).lines ≠ []) :
    guardedTransform node s = .ok ((), s) ∨ ∃ e, guardedTransform node s = .error e := by
  unfold guardedTransform
  simp only [bind, StateT.bind, getNode, source, pure, StateT.pure, Except.pure, Except.bind]
  split
  · exact .inr ⟨.pre, rfl⟩
  · exact transform_silent node s hb hl

theorem paragraphTransformer_silent (guard : Bool) (node : Nat) (s : St) (hb : NoBracket s.r.source)
    (hl : (s.nodes.getD node default).lines ≠ []) :
    ∀ pt ∈ GM.Convert.paragraphTransformers guard, pt node s = .ok ((), s) ∨ ∃ e, pt node s = .error e := by
  intro pt hpt
  simp only [GM.Convert.paragraphTransformers, List.mem_singleton] at hpt
  subst hpt
  split
  · exact guardedTransform_silent node s hb hl
  · exact transform_silent node s hb hl

/-- a store over the empty source (no `[`): the Document with one child, a Paragraph WITHOUT lines -/
def witnessSt : St :=
  { (initSt []) with
    nodes := [{ kind := .document, children := [1] }, { kind := .paragraph, parent := some 0 }] }

def witnessCheck : Bool :=
  match guardedTransform 1 witnessSt with
  | .ok (_, s') => s'.nodes.length == 3 && (s'.nodes.getD 0 default).children == [2] &&
      (s'.nodes.getD 2 default).kind == .textBlock && (s'.nodes.getD 1 default).parent == none
  | .error _ => false

/-- **the obstruction, evaluated by the kernel**: on `witnessSt` (source `""`, no `[` anywhere) the guarded transformer
    succeeds and CHANGES the tree — the store grows by a TextBlock that takes the paragraph's place — although no link
    reference definition was read. So "silent on sources without `[`" needs "the paragraph has a line". -/
theorem transform_not_silent_witness :
    NoBracket witnessSt.r.source ∧
    ∃ s', guardedTransform 1 witnessSt = .ok ((), s') ∧ s'.nodes.length = 3 ∧
      (s'.nodes.getD 0 default).children = [2] ∧ (s'.nodes.getD 2 default).kind = .textBlock ∧
      (s'.nodes.getD 1 default).parent = none ∧ s' ≠ witnessSt := by
  refine ⟨by decide +kernel, ?_⟩
  have h : witnessCheck = true := by decide +kernel
  unfold witnessCheck at h
  cases hg : guardedTransform 1 witnessSt with
  | error e => rw [hg] at h; cases h
  | ok p =>
    obtain ⟨⟨⟩, s'⟩ := p
    rw [hg] at h
    simp only [Bool.and_eq_true, beq_iff_eq] at h
    obtain ⟨⟨⟨h1, h2⟩, h3⟩, h4⟩ := h
    refine ⟨s', rfl, h1, h2, h3, h4, fun e => ?_⟩
    rw [e] at h1
    exact absurd h1 (by decide)

end GM.E2E
