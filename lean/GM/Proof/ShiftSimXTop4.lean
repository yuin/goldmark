/-
  GM.Proof.ShiftSimXTop4 — one pass of `lineLoop` over the open blocks, REDUCED to the two places where the pass opens
  blocks (`lineLoop_levels`): the induction over the levels and the end of the source (`closeBlocks … 0` empties the stack)
  are proved here, for any invariant `H` of the levels; what `openBlocks` (+ the `closeBlocks` after it, `llOpen`) does is a
  hypothesis. `topLast_lineLoop`: `H` = `tl_Hd b0` (through a `Continue` no children list of node 0 changes, the stack
  is unchanged, the first open block stays attached).
-/
import GM.Proof.ShiftSimXTop3
import GM.Proof.IndepFrame

namespace GM.Blocks.Xs
open GM GM.Text GM.Spec GM.Proof.Reader GM.Blocks GM.Blocks.L
open GM.Blocks.Sh (K KS bind_ok_inv liftE_ok_inv a2_getNode_inv a2_getPc_inv a2_modPc_inv a2_lastOpenedBlock_inv llOpen llFall llBody ll_lineLoop_cons)

/-- `z` is the last child of the Document -/
def tl_Last (z : Nat) (t : St) : Prop := (t.nodes.getD 0 default).children.getLast? = some z

/-- mid-pass: `b0` is still the first open block, its node is the Document's last child and attached, no other open
    block has its node -/
def tl_Hd (b0 : Block) (t : St) : Prop :=
  K t ∧ (∃ tail, t.pc.opened = b0 :: tail ∧ ∀ x ∈ tail, x.node ≠ b0.node) ∧ tl_Last b0.node t ∧
    (nd t b0.node).parent.isSome = true

theorem tl_Hd.top {b0 : Block} {t : St} (h : tl_Hd b0 t) : TopLast t := by
  obtain ⟨_, ⟨tail, ho, _⟩, hl, _⟩ := h
  intro b hb
  rw [ho] at hb
  cases hb
  exact hl

theorem tl_Hd.mem {b0 : Block} {t : St} (h : tl_Hd b0 t) : b0 ∈ t.pc.opened := by
  obtain ⟨_, ⟨tail, ho, _⟩, _, _⟩ := h
  rw [ho]; exact List.mem_cons_self

theorem tl_Hd.links {b0 : Block} {t t' : St} (h : tl_Hd b0 t) (k : K t') (lk : LinksKept t t')
    (ho : t'.pc.opened = t.pc.opened) : tl_Hd b0 t' := by
  have hb0 := h.1.opened b0 h.mem
  refine ⟨k, ?_, ?_, ?_⟩
  · rw [ho]; exact h.2.1
  · show (nd t' 0).children.getLast? = _
    rw [(lk.2.1 0 h.1.doc.1).2]
    exact h.2.2.1
  · rw [(lk.2.1 b0.node hb0.2).1]
    exact h.2.2.2

theorem tl_Hd.continue {b0 be : Block} {t t' : St} {st : PState} (h : tl_Hd b0 t) (hbe : be ∈ t.pc.opened)
    (e : bpContinue be.bp be.node t = .ok (st, t')) : tl_Hd b0 t' ∧ t'.pc.opened = t.pc.opened := by
  have ho := bpContinue_opened be.bp be.node t t' st e
  have k := (Sh.a2_bpContinue_KS be.bp be.node (h.1.opened be hbe).1 t t' st h.1 e).1
  exact ⟨h.links k ((bpContinue_frl be.bp be.node).h t st t' e) ho, ho⟩

theorem tl_peekLine_inv {t t1 : St} {x : Option Bytes × Segment} (h : peekLine t = .ok (x, t1)) :
    ∃ r', t1 = { t with r := r' } := by
  unfold peekLine at h
  cases hr : t.r.peekLine with
  | error e => simp [hr, bind, Except.bind] at h
  | ok v =>
    simp only [hr, bind, Except.bind, pure, Except.pure, Except.ok.injEq, Prod.mk.injEq] at h
    exact ⟨v.2, h.2.symm⟩

theorem tl_Hd.congr_r {b0 : Block} {t : St} (h : tl_Hd b0 t) (r' : Reader) : tl_Hd b0 { t with r := r' } :=
  ⟨(Sh.a2_KS_same (s' := { t with r := r' }) h.1 ⟨rfl, rfl⟩).1, h.2.1, h.2.2.1, h.2.2.2⟩

/-- One pass of `lineLoop 0` over the stack `ob`, reduced to the steps that open blocks (`hDeep`, `hFall`). `H` holds at the
    levels of the pass: `peekLine` keeps it, and so does a `Continue` — unless that answers "continue, no children" for the
    innermost block, which ends the pass, with `Q`. -/
theorem lineLoop_levels {H Q : St → Prop} (ob : List Block) (hop : ∀ t, H t → t.pc.opened = ob)
    (hnil : ∀ t, t.pc.opened = [] → Q t) (hQ : ∀ t, H t → Q t)
    (hpk : ∀ t lp t1, H t → peekLine t = .ok (lp, t1) → H t1)
    (hcont : ∀ pre be rem, ob = pre ++ be :: rem → ∀ t st t', H t → bpContinue be.bp be.node t = .ok (st, t') →
      H t' ∨ (st.cont = true ∧ st.hasChildren = false ∧ rem = [] ∧ Q t'))
    (hDeep : ∀ be ∈ ob, ∀ blank t t' r, H t → openBlocks be.node blank t = .ok (r, t') → Q t')
    (hFall : ∀ (i : Int) (p : Nat) blank bl t t' x, H t →
      ((i = 0 ∧ p = 0) ∨ (0 < i ∧ ∃ b, blockAt ob (i - 1) = .ok b ∧ p = b.node)) →
      llOpen ob ((ob.length : Int) - 1) i blank bl p t = .ok (x, t') → Q t') :
    ∀ (rem : List Block) (i : Int) (bl : List LineStat) (t t' : St) (x : LineOutcome × List LineStat),
      H t → 0 ≤ i → (∃ pre, ob = pre ++ rem) →
      lineLoop 0 ob ((ob.length : Int) - 1) rem i bl t = .ok (x, t') → Q t' := by
  intro rem
  induction rem with
  | nil =>
    intro i bl t t' x hh _ _ h
    unfold lineLoop at h
    cases h
    exact hQ _ hh
  | cons be rem ih =>
    intro i bl t t' x hh hi hsuf h
    rw [ll_lineLoop_cons] at h
    obtain ⟨lp, t1, h1, hA⟩ := bind_ok_inv h
    have hh1 := hpk t lp t1 hh h1
    have ho1 := hop t1 hh1
    cases hl : lp.1 with
    | none =>
      -- end of input: every block is closed
      rw [hl] at hA
      obtain ⟨_, t2, h2, hB⟩ := bind_ok_inv hA
      obtain ⟨_, e2⟩ := closeBlocks_opened _ _ _ _ h2
      obtain ⟨_, t3, h3, hC⟩ := bind_ok_inv hB
      cases h3
      cases hC
      refine hnil _ ?_
      show t2.pc.opened = []
      rw [e2, ho1]
      have : (((ob.length : Int) - 1) + 1).toNat = ob.length := by omega
      rw [this, List.drop_length]
      rfl
    | some line =>
      rw [hl] at hA
      obtain ⟨y, t2, h2, hB⟩ := bind_ok_inv hA
      cases h2
      obtain ⟨pre, epre⟩ := hsuf
      have fall : ∀ ln u bl', H u → llFall 0 ob ((ob.length : Int) - 1) i ln bl' u = .ok (x, t') → Q t' := by
        intro ln u bl' hu e
        unfold llFall at e
        by_cases c : (i != 0) = true
        · rw [if_pos c] at e
          obtain ⟨b, u1, g1, gA⟩ := bind_ok_inv e
          obtain ⟨eb, e1⟩ := liftE_ok_inv g1
          subst e1
          have hi0 : i ≠ 0 := by simpa using c
          exact hFall i b.node _ _ _ _ _ hu (Or.inr ⟨by omega, b, eb, rfl⟩) gA
        · rw [if_neg c] at e
          have hi0 : i = 0 := by simpa using c
          exact hFall i 0 _ _ _ _ _ hu (Or.inl ⟨hi0, rfl⟩) e
      unfold llBody at hB
      obtain ⟨bn, t3, h3, hC⟩ := bind_ok_inv hB
      obtain ⟨_, e3⟩ := a2_getNode_inv h3
      subst e3
      split at hC
      · obtain ⟨st, t4, h4, hD⟩ := bind_ok_inv hC
        rcases hcont pre be rem epre _ _ _ hh1 h4 with hh4 | ⟨hc, hf, hr, hq⟩
        · split at hD
          · split at hD
            · obtain ⟨_, t5, h5, hE⟩ := bind_ok_inv hD
              cases hE
              exact hDeep be (by rw [epre]; simp) _ _ _ _ hh4 h5
            · exact ih (i + 1) _ _ _ _ hh4 (by omega) ⟨pre ++ [be], by rw [epre]; simp⟩ hD
          · exact fall _ _ _ hh4 hD
        · rw [if_pos hc, hf, Bool.false_and, if_neg Bool.false_ne_true, hr] at hD
          unfold lineLoop at hD
          cases hD
          exact hq
      · exact fall _ _ _ hh1 hC

/-- the block-opening steps are hypotheses (see `lineLoop_levels`);
    `hne` follows from `StableL.ls.incr`, `hatt` from `CInv.att` (or `TreeOK.cp` and `TopLast`). -/
theorem topLast_lineLoop (b0 : Block) (rest : List Block) (s s' : St) (bl : List LineStat)
    (x : LineOutcome × List LineStat) (J : St → Prop)
    (hJr : ∀ t r', J t → J { t with r := r' })
    (hJc : ∀ be ∈ b0 :: rest, ∀ t t' st, J t → tl_Hd b0 t → t.pc.opened = b0 :: rest →
      bpContinue be.bp be.node t = .ok (st, t') → J t')
    (hDeep : ∀ be ∈ b0 :: rest, ∀ blank t t' r, J t → tl_Hd b0 t → t.pc.opened = b0 :: rest →
      openBlocks be.node blank t = .ok (r, t') → TopLast t')
    (hFall : ∀ (i : Int) (p : Nat) blank bl t t' x, J t → tl_Hd b0 t → t.pc.opened = b0 :: rest →
      ((i = 0 ∧ p = 0) ∨ (0 < i ∧ ∃ b, blockAt (b0 :: rest) (i - 1) = .ok b ∧ p = b.node)) →
      llOpen (b0 :: rest) (((b0 :: rest).length : Int) - 1) i blank bl p t = .ok (x, t') → TopLast t')
    (hk : K s) (htop : TopLast s) (hop : s.pc.opened = b0 :: rest) (hne : ∀ z ∈ rest, z.node ≠ b0.node)
    (hatt : (nd s b0.node).parent.isSome = true) (hj : J s)
    (h : lineLoop 0 (b0 :: rest) (((b0 :: rest).length : Int) - 1) (b0 :: rest) 0 bl s = .ok (x, s')) :
    TopLast s' :=
  lineLoop_levels (H := fun t => J t ∧ tl_Hd b0 t ∧ t.pc.opened = b0 :: rest) (b0 :: rest) (fun _ hh => hh.2.2)
    (fun t e b hb => by rw [e] at hb; cases hb) (fun _ hh => hh.2.1.top)
    (fun t lp t1 hh e => by
      obtain ⟨r', rfl⟩ := tl_peekLine_inv e
      exact ⟨hJr t r' hh.1, hh.2.1.congr_r r', hh.2.2⟩)
    (fun pre be rem e t st t' hh ec =>
      have hbe : be ∈ b0 :: rest := by rw [e]; simp
      have hd := hh.2.1.continue (hh.2.2 ▸ hbe) ec
      Or.inl ⟨hJc be hbe t t' st hh.1 hh.2.1 hh.2.2 ec, hd.1, hd.2.trans hh.2.2⟩)
    (fun be hbe blank t t' r hh => hDeep be hbe blank t t' r hh.1 hh.2.1 hh.2.2)
    (fun i p blank bl t t' x hh => hFall i p blank bl t t' x hh.1 hh.2.1 hh.2.2)
    (b0 :: rest) 0 bl s s' x ⟨hj, ⟨hk, ⟨rest, hop, hne⟩, htop b0 (by rw [hop]; rfl), hatt⟩, hop⟩ (Int.le_refl 0) ⟨[], rfl⟩ h

theorem tl_getLast_erase (c z : Nat) (hz : c ≠ z) : ∀ l : List Nat, l.getLast? = some z → (l.erase c).getLast? = some z
  | [], h => by cases h
  | [a], h => by
    have : a = z := by simpa using h
    subst this
    have : ([a].erase c) = [a] := by
      rw [List.erase_cons]
      have : (a == c) = false := by simpa using fun e => hz e.symm
      rw [this]; rfl
    rw [this]; rfl
  | a :: b :: l, h => by
    have h' : (b :: l).getLast? = some z := by rw [List.getLast?_cons_cons] at h; exact h
    rw [List.erase_cons]
    by_cases e : (a == c) = true
    · rw [if_pos e]; exact h'
    · rw [if_neg e]
      have ih := tl_getLast_erase c z hz (b :: l) h'
      cases hm : (b :: l).erase c with
      | nil => rw [hm] at ih; cases ih
      | cons m ms => rw [hm] at ih; rw [List.getLast?_cons_cons]; exact ih

end GM.Blocks.Xs
