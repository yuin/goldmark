/-
  GM.Proof.BlocksDriverC — the block driver with paragraph transformers (GM.Model.Blocks.DriverT) with the call of the block
  parsers' `Close` as a PARAMETER `cls`: `closeLoopC cls … runC cls` are `closeLoopT … runT` with `cls` where those call `bpClose`.
  `runT` is `runC bpClose` (`runT_eqC`); the monitored driver `runV` of GM.Proof.ConvertHV is `runC bpCloseV` (`runV_eqC`, GM.Proof.BlocksVT).
  The no-panic walk of the driver needs of `bpClose` only its `OKL` contracts with a postcondition that gives `NodesOK` and
  keeps the source (`CloseLike`), so it is proved for `runC cls` under `CloseLike src cls`.
-/
import GM.Model.Blocks.DriverT
import GM.Proof.BlocksTotal
import GM.Proof.BlocksInv

namespace GM.Blocks
open GM GM.Text

def closeLoopC (cls : BP → Nat → M Unit) (pts : List PT) (blocks : List Block) (to : Int) : Nat → M Unit
  | 0 => pure ()
  | k + 1 => do
    let b ← liftE (blockAt blocks (to + k))
    let n ← getNode b.node
    if n.kind == .paragraph && n.parent.isSome then
      let _ ← transformParagraph pts b.node
    if (← getNode b.node).parent.isSome then cls b.bp b.node
    closeLoopC cls pts blocks to k

def closeBlocksC (cls : BP → Nat → M Unit) (pts : List PT) (frm to : Int) : M Unit := do
  let blocks := (← getPc).opened
  closeLoopC cls pts blocks to (frm - to + 1).toNat
  let len : Int := blocks.length
  let blocks' ←
    if frm == len - 1 then liftE (closeBlocks.slice' blocks 0 to)
    else do
      let a ← liftE (closeBlocks.slice' blocks 0 to)
      let b ← liftE (closeBlocks.slice' blocks (frm + 1) len)
      pure (a ++ b)
  modPc fun pc => { pc with opened := blocks' }

def requireParaC (cls : BP → Nat → M Unit) (pts : List PT) (parent : Nat) (last : Option Nat) (lastBlock : Option Block) : M Bool := do
  if last == (← getNode parent).children.getLast? then
    match lastBlock with
    | none => throw .nil
    | some lb =>
      cls lb.bp lb.node
      let blocks := (← getPc).opened
      if blocks.length == 0 then throw .slice
      modPc fun pc => { pc with opened := blocks.dropLast }
      if (← getNode lb.node).kind != .paragraph then throw .assert
      transformParagraph pts lb.node
  else pure false

def tryParsersC (cls : BP → Nat → M Unit) (pts : List PT) (parent : Nat) (blankLine : Bool) (continuable : Bool) (w : Int) :
    List BP → OpenResult → Option Block → M (TryOutcomeT × OpenResult × Option Block)
  | [], result, lastBlock => pure (.done, result, lastBlock)
  | bp :: bps, result, lastBlock => do
    if continuable && result == .noBlocksOpened && !bp.canInterruptParagraph then
      return ← tryParsersC cls pts parent blankLine continuable w bps result lastBlock
    if w > 3 && !bp.canAcceptIndentedLine then
      return ← tryParsersC cls pts parent blankLine continuable w bps result lastBlock
    let lastBlock ← lastOpenedBlock
    let last := lastBlock.map (·.node)
    let (node, state) ← bpOpen bp parent
    match node with
    | none => tryParsersC cls pts parent blankLine continuable w bps result lastBlock
    | some node =>
      let transformed ← if state.requirePara then requireParaC cls pts parent last lastBlock else pure false
      if transformed then return (.retryTransformed, result, lastBlock)
      modNode node fun n => { n with blankPrev := blankLine }
      match last with
      | some l =>
        if (← getNode l).parent.isNone then
          let lastPos : Int := ((← getPc).opened.length : Int) - 1
          closeBlocksC cls pts lastPos lastPos
      | none => pure ()
      appendChild parent node
      modPc fun pc => { pc with opened := pc.opened ++ [{ node := node, bp := bp }] }
      if state.hasChildren then return (.retry node, .newBlocksOpened, lastBlock)
      return (.done, .newBlocksOpened, lastBlock)

def retryStepC (cls : BP → Nat → M Unit) (pts : List PT) (blankLine tdone continuable : Bool) (parent : Nat) (w : Int) (bps : List BP)
    (result : OpenResult) (lastBlock : Option Block)
    (again : Bool → Bool → Nat → OpenResult → Option Block → M OpenResult) : M OpenResult := do
  let before := retryMeasure (← get)
  let (outcome, result, lastBlock) ← tryParsersC cls pts parent blankLine continuable w bps result lastBlock
  match outcome with
  | .retry parent' =>
    let after := retryMeasure (← get)
    if !(after < before) then throw .pre
    again tdone continuable parent' result lastBlock
  | .retryTransformed =>
    let after := retryMeasure (← get)
    if tdone || !(after ≤ before) then throw .pre
    again true false parent result lastBlock
  | .done => toContinuable continuable result lastBlock

def openBlocksLoopC (cls : BP → Nat → M Unit) (pts : List PT) (blankLine : Bool) :
    Nat → Bool → Bool → Nat → OpenResult → Option Block → M OpenResult
  | 0, _, _, _, _, _ => throw .loop
  | fuel + 1, tdone, continuable, parent, result, lastBlock => do
    let (line, _) ← peekLine
    let lineB := line.getD []
    let len : Int := lineB.length
    let (w, pos) := indentWidthI lineB (← lineOffset)
    modPc fun pc =>
      if pos ≥ len then { pc with blockOffset := -1, blockIndent := -1 }
      else { pc with blockOffset := pos, blockIndent := w }
    if line.isNone then return ← toContinuable continuable result lastBlock
    if (← liftE (idx lineB 0)) == 10 then return ← toContinuable continuable result lastBlock
    let bps ←
      if pos < len then do
        let c ← liftE (idx lineB pos)
        pure ((triggered c).getD freeParsers)
      else pure freeParsers
    retryStepC cls pts blankLine tdone continuable parent w bps result lastBlock (openBlocksLoopC cls pts blankLine fuel)

def openBlocksC (cls : BP → Nat → M Unit) (pts : List PT) (parent : Nat) (blankLine : Bool) : M OpenResult := do
  let lastBlock ← lastOpenedBlock
  let continuable ← match lastBlock with
    | some lb => do pure ((← getNode lb.node).kind == .paragraph)
    | none => pure false
  openBlocksLoopC cls pts blankLine (retryFuel (← source)) false continuable parent .noBlocksOpened lastBlock

def lineLoopC (cls : BP → Nat → M Unit) (pts : List PT) (parent : Nat) (openedBlocks : List Block) (lastIndex : Int) :
    List Block → Int → List LineStat → M (LineOutcome × List LineStat)
  | [], _, blankLines => pure (.next, blankLines)
  | be :: rest, i, blankLines => do
    let (line, _) ← peekLine
    match line with
    | none =>
      closeBlocksC cls pts lastIndex 0
      advanceLine
      return (.eof, blankLines)
    | some line =>
      let (lineNum, _) ← position
      let blankLines := blankLines ++ [{ lineNum := lineNum, level := i, isBlank := isBlank line }]
      let beNode ← getNode be.node
      let mut fallThrough := true
      if beNode.kind != .paragraph then
        let state ← bpContinue be.bp be.node
        if state.cont then
          if state.hasChildren && i == lastIndex then
            let blank := isBlankLine (lineNum - 1) i blankLines
            let _ ← openBlocksC cls pts be.node blank
            return (.next, blankLines)
          fallThrough := false
      if !fallThrough then
        lineLoopC cls pts parent openedBlocks lastIndex rest (i + 1) blankLines
      else
        let blank := isBlankLine (lineNum - 1) i blankLines
        let thisParent ←
          if i != 0 then do
            let b ← liftE (blockAt openedBlocks (i - 1))
            pure b.node
          else pure parent
        let lastNode ← liftE (blockAt openedBlocks lastIndex)
        let result ← openBlocksC cls pts thisParent blank
        if result != .paragraphContinuation then
          let now := slotAfter openedBlocks (← getPc).opened lastIndex.toNat
          let lastIndex := if now.map (·.node) != some lastNode.node then lastIndex - 1 else lastIndex
          closeBlocksC cls pts lastIndex i
        return (.next, blankLines)

def linesLoopC (cls : BP → Nat → M Unit) (pts : List PT) (parent : Nat) : Nat → List LineStat → M (Bool × List LineStat)
  | 0, _ => throw .loop
  | fuel + 1, blankLines => do
    let openedBlocks := (← getPc).opened
    let l := openedBlocks.length
    if l == 0 then return (false, blankLines)
    let (outcome, blankLines) ← lineLoopC cls pts parent openedBlocks ((l : Int) - 1) openedBlocks 0 blankLines
    match outcome with
    | .eof => return (true, blankLines)
    | .next =>
      advanceLine
      linesLoopC cls pts parent fuel blankLines

def blocksLoopC (cls : BP → Nat → M Unit) (pts : List PT) (parent : Nat) : Nat → List LineStat → M Unit
  | 0, _ => throw .loop
  | fuel + 1, blankLines => do
    let (_, lines, ok) ← skipBlankLinesR
    if !ok then return
    let (lineNum, _) ← position
    let nOpened := (← getPc).opened.length
    let blankLines := if lines != 0 then blankStats lineNum lines nOpened else blankLines
    let blank := isBlankLine (lineNum - 1) 0 blankLines
    if (← openBlocksC cls pts parent blank) != .newBlocksOpened then return
    advanceLine
    let (ret, blankLines) ← linesLoopC cls pts parent fuel blankLines
    if ret then return
    blocksLoopC cls pts parent fuel blankLines

def parseBlocksC (cls : BP → Nat → M Unit) (pts : List PT) (parent : Nat) : M Unit := do
  modPc fun pc => { pc with opened := [] }
  blocksLoopC cls pts parent (linesFuel (← source)) []

def runC (cls : BP → Nat → M Unit) (pts : List PT) (src : Bytes) : Except Panic St :=
  (parseBlocksC cls pts 0 (initSt src)).map (·.2)

theorem mem_of_blockAt {blocks : List Block} {i : Int} {b : Block} (h : blockAt blocks i = .ok b) : b ∈ blocks := by
  unfold blockAt at h
  split at h
  · cases h
  · split at h
    · rename_i hb; cases h; exact List.mem_of_getElem? hb
    · cases h

theorem mem_dropLast_of_blockAt {l : List Block} {j : Int} {b : Block} (hb : blockAt l (j - 1) = .ok b)
    (hj : j < l.length) : b ∈ l.dropLast := by
  unfold blockAt at hb
  split at hb
  · cases hb
  · split at hb
    · rename_i hg
      cases hb
      refine List.mem_of_getElem? (i := (j - 1).toNat) ?_
      rw [List.dropLast_eq_take, List.getElem?_take_of_lt (by omega)]; exact hg
    · cases hb

theorem mem_of_slice' {l r : List Block} {a b : Int} (h : closeBlocks.slice' l a b = .ok r) : ∀ x ∈ r, x ∈ l := by
  unfold closeBlocks.slice' at h
  split at h
  · cases h; intro x hx; exact List.mem_of_mem_drop (List.mem_of_mem_take hx)
  · cases h

/-- what the no-panic walk uses of `bpClose`: `cls` has every `OKL` contract of `bpClose` whose postcondition gives `NodesOK`
    and keeps the source -/
structure CloseLike (src : Bytes) (cls : BP → Nat → M Unit) : Prop where
  okl : ∀ {P : Unit → St → Prop} {bp : BP} {node : Nat} {s : St},
    (∀ a s', P a s' → NodesOK src s' ∧ s'.r.source = src) → OKL P (bpClose bp node s) → OKL P (cls bp node s)

theorem closeLike_bpClose (src : Bytes) : CloseLike src bpClose := ⟨fun _ h => h⟩

section eqs
variable (pts : List PT)

theorem closeLoopT_eqC (blocks : List Block) (to : Int) (k : Nat) :
    closeLoopT pts blocks to k = closeLoopC bpClose pts blocks to k := by
  induction k with
  | zero => rfl
  | succ k ih => simp only [closeLoopT, closeLoopC, ih]

theorem closeBlocksT_eqC (frm to : Int) : closeBlocksT pts frm to = closeBlocksC bpClose pts frm to := by
  simp only [closeBlocksT, closeBlocksC, closeLoopT_eqC]

theorem requireParaT_eqC (parent : Nat) (last : Option Nat) (lastBlock : Option Block) :
    requireParaT pts parent last lastBlock = requireParaC bpClose pts parent last lastBlock := rfl

theorem tryParsersT_eqC (parent : Nat) (blankLine continuable : Bool) (w : Int) (bps : List BP) (result : OpenResult)
    (lastBlock : Option Block) :
    tryParsersT pts parent blankLine continuable w bps result lastBlock =
      tryParsersC bpClose pts parent blankLine continuable w bps result lastBlock := by
  induction bps generalizing result lastBlock with
  | nil => rfl
  | cons bp bps ih =>
    simp only [tryParsersT, tryParsersC, ih, requireParaT_eqC, closeBlocksT_eqC]
    rfl   -- the two sides differ in the auxiliary matcher each definition was compiled to

theorem retryStepT_eqC (blankLine tdone continuable : Bool) (parent : Nat) (w : Int) (bps : List BP) (result : OpenResult)
    (lastBlock : Option Block) (again : Bool → Bool → Nat → OpenResult → Option Block → M OpenResult) :
    retryStepT pts blankLine tdone continuable parent w bps result lastBlock again =
      retryStepC bpClose pts blankLine tdone continuable parent w bps result lastBlock again := by
  simp only [retryStepT, retryStepC, tryParsersT_eqC]
  rfl

theorem openBlocksLoopT_eqC (blankLine : Bool) (fuel : Nat) :
    openBlocksLoopT pts blankLine fuel = openBlocksLoopC bpClose pts blankLine fuel := by
  induction fuel with
  | zero => rfl
  | succ fuel ih => funext tdone continuable parent result lastBlock; simp only [openBlocksLoopT, openBlocksLoopC, retryStepT_eqC, ih]

theorem openBlocksT_eqC (parent : Nat) (blankLine : Bool) :
    openBlocksT pts parent blankLine = openBlocksC bpClose pts parent blankLine := by
  simp only [openBlocksT, openBlocksC, openBlocksLoopT_eqC]
  rfl

theorem lineLoopT_eqC (parent : Nat) (openedBlocks : List Block) (lastIndex : Int) (rest : List Block) (i : Int)
    (blankLines : List LineStat) :
    lineLoopT pts parent openedBlocks lastIndex rest i blankLines =
      lineLoopC bpClose pts parent openedBlocks lastIndex rest i blankLines := by
  induction rest generalizing i blankLines with
  | nil => rfl
  | cons be rest ih =>
    simp only [lineLoopT, lineLoopC, ih, openBlocksT_eqC, closeBlocksT_eqC]
    rfl

theorem linesLoopT_eqC (parent fuel : Nat) (blankLines : List LineStat) :
    linesLoopT pts parent fuel blankLines = linesLoopC bpClose pts parent fuel blankLines := by
  induction fuel generalizing blankLines with
  | zero => rfl
  | succ fuel ih =>
    simp only [linesLoopT, linesLoopC, ih, lineLoopT_eqC]
    rfl

theorem blocksLoopT_eqC (parent fuel : Nat) (blankLines : List LineStat) :
    blocksLoopT pts parent fuel blankLines = blocksLoopC bpClose pts parent fuel blankLines := by
  induction fuel generalizing blankLines with
  | zero => rfl
  | succ fuel ih => simp only [blocksLoopT, blocksLoopC, ih, linesLoopT_eqC, openBlocksT_eqC]

theorem parseBlocksT_eqC (parent : Nat) : parseBlocksT pts parent = parseBlocksC bpClose pts parent := by
  simp only [parseBlocksT, parseBlocksC, blocksLoopT_eqC]

theorem runT_eqC (src : Bytes) : runT pts src = runC bpClose pts src := by
  simp only [runT, runC, parseBlocksT, parseBlocksC, blocksLoopT_eqC]

end eqs

end GM.Blocks
