/-
  GM.Proof.ShiftSimEof — `Continue` called at the END OF THE SOURCE under the shift simulation (the reader has no
  line: goldmark's `openBlocks` does this for the last opened paragraph when a container consumed the rest of the last
  line): same answer on both sides, afterwards at least the limbo relation.
-/
import GM.Proof.ShiftSimFenced

namespace GM.Blocks.Sh
open GM GM.Text GM.Spec GM.Proof.Reader GM.Blocks

/-- the full relation afterwards is more than the contract asks for -/
theorem eof_of_post {F : Frame} {b : Bytes} {m n : Except Panic (PState × St)}
    (h : P2 (fun x y sA' sB' => y = x ∧ SR F b sA' sB') m n) :
    P2 (fun x y sA' sB' => y = x ∧ SRLim F b sA' sB') m n :=
  h.mono fun _ _ _ _ ⟨e, h1⟩ => ⟨e, h1.limbo⟩

/-- `PeekLine`, keeping track of A's cursor -/
theorem eof_peekLine_p2c {F b sA sB} (h : SR F b sA sB) {c : RCur} (hc : RI b sA.r c) :
    P2 (fun x y sA' sB' => x = (RCur.view b c, RCur.seg b c) ∧ y = (x.1, moveSeg F.d x.2) ∧ RI b sA'.r c ∧
        SR F b sA' sB') (peekLine sA) (peekLine sB) := by
  obtain ⟨r', e1, e2⟩ := ri_peekLine hc
  have hB : sB.r.peekLine = .ok ((RCur.view b c, moveSeg F.d (RCur.seg b c)), shR F r') := by
    rw [h.r, peekLine_sh F _ (RI.start_nonneg hc), e1]; rfl
  unfold GM.Blocks.peekLine
  rw [e1, hB]
  exact P2.ok ⟨rfl, rfl, e2, h.withR e2⟩

theorem eof_advPad_neg (r : Reader) (n pd : Int) (hn : n < 0) : ∃ r', r.advanceAndSetPadding n pd = .ok r' ∧
    r'.source = r.source ∧ r'.pos.stop = r.pos.stop ∧ r'.pos.forceNewline = r.pos.forceNewline ∧ r'.line = r.line := by
  unfold Reader.advanceAndSetPadding Reader.advance
  simp only
  have : n.toNat = 0 := by omega
  rw [this]
  split <;> split <;>
    (simp only [bind, Except.bind, pure, Except.pure, Reader.advanceLoop, Reader.setPadding]
     split <;> exact ⟨_, rfl, rfl, rfl, rfl, rfl⟩)

/-- `AdvanceAndSetPadding(n, ·)` with any `n`: afterwards the limbo relation -/
theorem eof_advanceAndSetPadding_limbo {F b sA sB} (h : SR F b sA sB) (n pd : Int) :
    P2 (fun _ _ sA' sB' => SRLim F b sA' sB') (advanceAndSetPadding n pd sA) (advanceAndSetPadding n pd sB) := by
  by_cases hn : 0 ≤ n
  · exact (advanceAndSetPadding_p2 h rfl rfl hn).mono fun _ _ _ _ h3 => h3.limbo
  · obtain ⟨c, hc⟩ := h.ri
    obtain ⟨r', e1, e2, e3, e4, e5⟩ := eof_advPad_neg sA.r n pd (by omega)
    obtain ⟨r'', f1, f2, f3, f4, f5⟩ := eof_advPad_neg sB.r n pd (by omega)
    unfold GM.Blocks.advanceAndSetPadding
    rw [e1, f1]
    have hl := h.limbo
    have hA : r'.advanceLine = sA.r.advanceLine :=
      advanceLine_congr (RI.stop_nonneg hc) e2 e3 e4 e5
    have hB : r''.advanceLine = sB.r.advanceLine :=
      advanceLine_congr (by rw [h.r]; have := RI.stop_nonneg hc; simp only [shR, moveSeg, Frame.d]; omega) f2 f3 f4 f5
    refine P2.ok ⟨⟨rfl, rfl, by simp only; rw [e2]; exact hl.1.srcA, by simp only; rw [f2]; exact hl.1.srcB, h.n, h.c⟩, ?_, ?_⟩
    · simp only; rw [hA]; exact hl.2.1
    · simp only; rw [hA, hB]; exact hl.2.2

/-! ### the parsers whose `Continue` is `return Close` -/

theorem eof_setextContinue (F : Frame) (b : Bytes) : ContinueEofSim F b .setext := by
  intro node sA sB h _
  exact P2.pure ⟨rfl, h.limbo⟩

theorem eof_thematicContinue (F : Frame) (b : Bytes) : ContinueEofSim F b .thematic := by
  intro node sA sB h _
  exact P2.pure ⟨rfl, h.limbo⟩

theorem eof_atxContinue (F : Frame) (b : Bytes) : ContinueEofSim F b .atx := by
  intro node sA sB h _
  exact P2.pure ⟨rfl, h.limbo⟩

/-! ### the parsers whose `Continue` keeps the full relation wherever the reader stands -/

theorem eof_paragraphContinue (F : Frame) (b : Bytes) : ContinueEofSim F b .paragraph :=
  fun node sA sB h _ => eof_of_post (cw_paragraphContinue F b node sA sB h)

theorem eof_blockquoteContinue (F : Frame) (b : Bytes) : ContinueEofSim F b .blockquote :=
  fun node sA sB h _ => eof_of_post (cw_blockquoteContinue F b node sA sB h)

theorem eof_htmlContinue (F : Frame) (b : Bytes) : ContinueEofSim F b .html :=
  fun node sA sB h _ => eof_of_post (cw_htmlContinue F b node sA sB h)

theorem eof_codeContinue (F : Frame) (hF : F.OK) (b : Bytes) : ContinueEofSim F b .code :=
  fun node sA sB h _ => eof_of_post (cw_codeContinue F hF b node sA sB h)

/-- the content branch (fcode_block.go:88-106): the answer is "Continue, no children"; the last
    `AdvanceAndSetPadding` may go backwards, so only the limbo relation is claimed -/
theorem cw_fencedTail_p2 {F : Frame} {b : Bytes} {sA sB : St} (hF : F.OK) (h : SR F b sA sB) (line : Bytes)
    (seg : Segment) (node : Nat) (lo : Int) (fd : FenceData) :
    P2 (fun x y sA' sB' => y = x ∧ SRLim F b sA' sB' ∧ ((x.cont = true ∧ x.hasChildren = false) ∨ SR F b sA' sB'))
      (fencedTail node line seg lo fd sA)
      (fencedTail (F.ι node) line (moveSeg F.d seg) lo (shF F fd) sB) := by
  unfold fencedTail
  have e1 : fencedPP line (moveSeg F.d seg) lo (shF F fd).indent = fencedPP line seg lo fd.indent := rfl
  have e2 : (shF F fd).indent = fd.indent := rfl
  rw [e1, e2]
  generalize fencedPP line seg lo fd.indent = pp
  unfold fencedStore
  simp only
  have hseg : ({ start := (moveSeg F.d seg).start + pp.1, stop := (moveSeg F.d seg).stop, padding := pp.2 } : Segment) =
      moveSeg F.d { start := seg.start + pp.1, stop := seg.stop, padding := pp.2 } := by
    simp only [moveSeg, Segment.mk.injEq, and_true]; omega
  rw [hseg]
  have hadv : (moveSeg F.d seg).stop - (moveSeg F.d seg).start - pp.1 - 1 = seg.stop - seg.start - pp.1 - 1 := by
    simp only [moveSeg]; omega
  rw [hadv]
  have rest : ∀ (sg : Segment) (sA1 sB1 : St), SR F b sA1 sB1 →
      P2 (fun x y sA' sB' => y = x ∧ SRLim F b sA' sB' ∧ ((x.cont = true ∧ x.hasChildren = false) ∨ SR F b sA' sB'))
      ((appendLine node { sg with forceNewline := true } >>= fun _ =>
        advanceAndSetPadding (seg.stop - seg.start - pp.1 - 1) pp.2 >>= fun _ => pure stContinueNoChildren) sA1)
      ((appendLine (F.ι node) { moveSeg F.d sg with forceNewline := true } >>= fun _ =>
        advanceAndSetPadding (seg.stop - seg.start - pp.1 - 1) pp.2 >>= fun _ =>
          pure stContinueNoChildren) sB1) := by
    intro sg sA1 sB1 h1
    refine P2.bind (appendLine_p2 h1 node rfl) (fun _ _ sA2 sB2 h2 => ?_)
    refine P2.bind (eof_advanceAndSetPadding_limbo h2 _ _) (fun _ _ sA3 sB3 h3 => ?_)
    exact P2.pure ⟨rfl, h3, .inl ⟨rfl, rfl⟩⟩
  by_cases hc : (pp.2 != 0) = true
  · rw [if_pos hc, if_pos hc]
    refine P2.bind (fc_preserveLeadingTab_p2 hF h _ _) (fun sg sg' sA1 sB1 ⟨e, h1⟩ => ?_)
    subst e
    exact rest sg sA1 sB1 h1
  · rw [if_neg hc, if_neg hc]
    refine P2.bind (P := fun x y sA' sB' => y = moveSeg F.d x ∧ SR F b sA' sB') (P2.pure ⟨rfl, h⟩)
      (fun sg sg' sA1 sB1 ⟨e, h1⟩ => ?_)
    subst e
    exact rest sg sA1 sB1 h1

theorem eof_fencedTail_p2 {F : Frame} {b : Bytes} {sA sB : St} (hF : F.OK) (h : SR F b sA sB) (line : Bytes)
    (seg : Segment) (node : Nat) (lo : Int) (fd : FenceData) :
    P2 (fun x y sA' sB' => y = x ∧ SRLim F b sA' sB')
      (fencedTail node line seg lo fd sA)
      (fencedTail (F.ι node) line (moveSeg F.d seg) lo (shF F fd) sB) :=
  (cw_fencedTail_p2 hF h line seg node lo fd).mono fun _ _ _ _ ⟨e, hl, _⟩ => ⟨e, hl⟩

theorem eof_fencedContinue (F : Frame) (hF : F.OK) (b : Bytes) : ContinueEofSim F b .fenced := by
  intro node sA sB h _
  show P2 _ (fencedContinue' node sA) (fencedContinue' (F.ι node) sB)
  unfold fencedContinue'
  refine P2.bind (peekLine_p2 h) (fun x y sA1 sB1 ⟨⟨c, hc, hx⟩, hy, h1⟩ => ?_)
  subst hx hy
  simp only
  refine P2.bind (getPc_p2 h1) (fun x y sA2 sB2 ⟨hx, hy, hxy, e1, e2⟩ => ?_)
  subst e1 e2
  rw [hxy.fence]
  cases x.fence with
  | none => exact P2.bind (P := fun _ _ _ _ => False) P2.throwL (fun _ _ _ _ hh => hh.elim)
  | some f =>
    simp only [Option.map]
    refine P2.bind (P := fun s t sA' sB' => s = f ∧ t = shF F f ∧ sA' = sA2 ∧ sB' = sB2) (P2.pure ⟨rfl, rfl, rfl, rfl⟩)
      (fun fd fd' sA3 sB3 ⟨e0, e0', e1, e2⟩ => ?_)
    subst e0 e0' e1 e2
    refine P2.bind (lineOffset_p2 h1) (fun lo lo' sA3 sB3 ⟨hlo, _, h3⟩ => ?_)
    subst hlo
    have ec : (shF F fd).char = fd.char := rfl
    have el : (shF F fd).length = fd.length := rfl
    rw [ec, el]
    generalize (RCur.view b c).getD [] = line
    generalize RCur.seg b c = seg
    have tail := eof_fencedTail_p2 hF h3 line seg node lo' fd
    generalize (indentWidthI line lo').2 = pos
    generalize (indentWidthI line lo').1 = w
    generalize scanWhileEq line fd.char pos = i
    by_cases hc1 : w < 4
    · rw [if_pos hc1, if_pos hc1]
      by_cases hc2 : i - pos ≥ fd.length
      · rw [if_pos hc2, if_pos hc2]
        refine P2.bind (P := fun s t sA' sB' => t = s ∧ sA' = sA3 ∧ sB' = sB3)
          (P2.liftE_same (fun a _ => ⟨rfl, rfl, rfl⟩)) (fun rest0 rest sA4 sB4 ⟨ht, e1, e2⟩ => ?_)
        subst ht e1 e2
        by_cases hc3 : isBlank rest = true
        · rw [if_pos hc3, if_pos hc3]
          refine P2.bind (P := fun s t sA' sB' => t = s ∧ sA' = sA4 ∧ sB' = sB4)
            (P2.liftE_same (fun a _ => ⟨rfl, rfl, rfl⟩)) (fun last0 last sA5 sB5 ⟨ht, e1, e2⟩ => ?_)
          subst ht e1 e2
          have hadv : (moveSeg F.d seg).stop - (moveSeg F.d seg).start - (if (last != 10) = true then 0 else 1) +
              (moveSeg F.d seg).padding = seg.stop - seg.start - (if (last != 10) = true then 0 else 1) + seg.padding := by
            simp only [moveSeg]; omega
          rw [hadv]
          refine P2.bind (advance_limbo h3 _) (fun _ _ sA6 sB6 h5 => ?_)
          exact P2.pure ⟨rfl, h5⟩
        · rw [if_neg hc3, if_neg hc3]; exact tail
      · rw [if_neg hc2, if_neg hc2]; exact tail
    · rw [if_neg hc1, if_neg hc1]; exact tail

end GM.Blocks.Sh
