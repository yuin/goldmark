/-
  GM.Proof.CMFrag21Frag — stage 21 at the level of the spec-side fragment `F21Doc`: the conformance theorems (with /
  without final line feed), from the inline facts `F21InlG`.
-/
import GM.Proof.CMFrag21Main
import GM.Proof.CMFrag21Bridge
import GM.Proof.CMFragRender21
import GM.Proof.CMFrag21Inl
import GM.Proof.CMFragClass

namespace GM.Proof.CMFrag
open GM GM.Text GM.Blocks GM.Spec GM.Spec.CM GM.Spec.CMFrag

def fitemsOf (d : F21Doc) : List (Nat × FBlock21) := d.items.map fun it => (it.sep, fblockOfS21 it.block)

theorem fitemsOf_raw (d : F21Doc) : (fitemsOf d).map (fun it => (it.1, fraw it.2)) = d.items.map convF21 := by
  simp [fitemsOf, convF21, List.map_map, Function.comp_def]

theorem fitemsOf_nodes (d : F21Doc) :
    (fitemsOf d).map (fun it => fNode it.2) = (d.items.map fun it => fblockOfS21 it.block).map fNode := by
  simp [fitemsOf, List.map_map, Function.comp_def]

theorem fitemsOf_good (d : F21Doc) (h : F21Frag d) : ∀ it ∈ fitemsOf d, FGood it.2 := by
  obtain ⟨hok, _⟩ := f21frag_parts d h
  intro x hx
  obtain ⟨it, hit, rfl⟩ := List.mem_map.mp hx
  exact fgood_ofS21 it.block (hok it hit)

theorem fblocks_good (d : F21Doc) (h : F21Frag d) : ∀ b ∈ d.items.map (fun it => fblockOfS21 it.block), FGood b := by
  obtain ⟨hok, _⟩ := f21frag_parts d h
  intro x hx
  obtain ⟨it, hit, rfl⟩ := List.mem_map.mp hx
  exact fgood_ofS21 it.block (hok it hit)

theorem fitemsOf_seps (d : F21Doc) (h : F21Frag d) : SepsOK6 none ((fitemsOf d).map fun it => (it.1, fraw it.2)) := by
  obtain ⟨_, hs⟩ := f21frag_parts d h
  rw [fitemsOf_raw]
  exact f21sepsOK_of none d.items hs

theorem fitemsOf_ic (d : F21Doc) (h : F21Frag d) : IcOK6 false ((fitemsOf d).map fun it => (it.1, fraw it.2)) := by
  obtain ⟨_, hs⟩ := f21frag_parts d h
  rw [fitemsOf_raw]
  exact f21icOK_of none d.items hs

/-- **the conformance theorem of stage 21** -/
theorem fragment21_conforms_of (H : F21InlG) (d : F21Doc) (h : F21Frag d) (uc : List (Nat × (Bool × Bool))) :
    GM.Convert.convertCore uc cmOpts (spellF21 d) = .ok (expectedF21 d) := by
  rw [spellF21_raw, ← fitemsOf_raw]
  refine convert_raw21 H uc (fitemsOf d) d.trail (fitemsOf_good d h) (fitemsOf_seps d h)
    (fitemsOf_ic d h) _ ?_
  rw [fitemsOf_nodes, renderDoc_f21 _ (fblocks_good d h), fDocHtml_ofS21 d h]

/-- … without the final line feed, whatever the last block is (an indented code block at the end of the source is closed with
    its last segment ending there) -/
theorem fragment21E_conforms_of (H : F21InlG) (d : F21Doc) (hf : F21Frag d) (ht : d.trail = 0) (hne : d.items ≠ [])
    (uc : List (Nat × (Bool × Bool))) :
    GM.Convert.convertCore uc cmOpts (spellF21E d) = .ok (expectedF21 d) := by
  rw [spellF21E_rawOf d hf ht hne, ← fitemsOf_raw]
  refine convert_raw21E H uc (fitemsOf d) (by simpa [fitemsOf] using hne) (fitemsOf_good d hf)
    (fitemsOf_seps d hf) (fitemsOf_ic d hf) _ ?_
  rw [fitemsOf_nodes, renderDoc_f21 _ (fblocks_good d hf), fDocHtml_ofS21 d hf]

/-- **stage 21**, with the inline facts discharged -/
theorem fragment21_conforms (d : F21Doc) (h : F21Frag d) (uc : List (Nat × (Bool × Bool))) :
    GM.Convert.convertCore uc cmOpts (spellF21 d) = .ok (expectedF21 d) :=
  fragment21_conforms_of f21InlG_holds d h uc

theorem fragment21E_conforms (d : F21Doc) (h : F21FragE d) (uc : List (Nat × (Bool × Bool))) :
    GM.Convert.convertCore uc cmOpts (spellF21E d) = .ok (expectedF21 d) :=
  fragment21E_conforms_of f21InlG_holds d (f21fragE_parts d h).1 (f21fragE_parts d h).2.1 (f21fragE_parts d h).2.2.1 uc

theorem fitemsOf_noic (d : F21Doc) (hn : ∀ it ∈ d.items, it.block.isIc = false) :
    ∀ it ∈ fitemsOf d, it.2.isIc = false := by
  intro x hx
  obtain ⟨it, hit, rfl⟩ := List.mem_map.mp hx
  show (fblockOfS21 it.block).isIc = false
  rw [isIc_fblockOfS21]; exact hn it hit

theorem simOK_quoteLinesN {S : Bytes} (h : ∀ k, C08ClassG (quoteLinesN k S)) : ∀ k, SimOK (qpN k S) := by
  intro k
  rw [← quoteLinesN_eq]
  exact simOK_G (h k)

/-- **a stage-21 document inside `k` nested block quotes**, for ANY class of sources on which the block-quote simulation
    holds at every level below `k` (`SimOK`): no `[` (hence no link / image atoms), no indented code block. The quoted stages 10, 14,
    15, 22, 23 are its instances, each with the lemma that puts its sources into a class of GM.Props.C08. -/
theorem fragment23S_conforms (HB : BPFree) (k : Nat) (d : F21Doc) (hf : F21Frag d)
    (hnoic : ∀ it ∈ d.items, it.block.isIc = false) (hsim : ∀ j, j < k → SimOK (qpN j (spellF21 d)))
    (hnb : ∀ b ∈ spellF21 d, b ≠ 91) (uc : List (Nat × (Bool × Bool))) :
    GM.Convert.convertCore uc cmOpts (qpN k (spellF21 d)) = .ok (wrapQ k (expectedF21 d)) := by
  have hnoic' := fitemsOf_noic d hnoic
  rw [spellF21_raw, ← fitemsOf_raw] at *
  refine convert_nest21 HB f21InlG_holds uc (fitemsOf d) d.trail (fitemsOf_good d hf) (fitemsOf_seps d hf) hnoic' k hsim hnb
    _ ?_
  rw [fitemsOf_nodes, renderDoc_nest_f21 k _ (fblocks_good d hf), fDocHtml_ofS21 d hf]

/-- **stage 23**: the wider class `C08ClassG` -/
theorem fragment23_conforms_of (HB : BPFree) (k : Nat) (d : F21Doc) (h : GF21QFrag d) (uc : List (Nat × (Bool × Bool))) :
    GM.Convert.convertCore uc cmOpts (quoteLinesN (k + 1) (spellF21 d)) = .ok (wrapQ (k + 1) (expectedF21 d)) := by
  rw [quoteLinesN_eq]
  exact fragment23S_conforms HB (k + 1) d (gf21qfrag_f21frag h) (gf21qfrag_noic h)
    (fun j _ => simOK_quoteLinesN (fun k => (gf21qclean_classG_N d h k).1) j) (gf21qclean_no_bracket d h) uc

end GM.Proof.CMFrag
