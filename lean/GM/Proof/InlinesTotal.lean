/-
  GM.Proof.InlinesTotal — the inline phase cannot panic, run out of fuel or break a modelling invariant, and the
  segments it records are inside the block's lines and in document order (lemmas for GM.Props.Inlines).
  Part 1: index facts of the scanners, the segment chain, the contracts of the parsers that only move the reader.
-/
import GM.Proof.InlinesReader
import GM.Proof.Inlines
import GM.Proof.Utf8

namespace GM.Proof.InlinesTotal
open GM GM.Text GM.Spec GM.Inl GM.Proof.Reader GM.Proof.InlinesReader GM.Proof.Inlines

theorem takeWhile_len_le {α : Type} (p : α → Bool) (l : List α) : (l.takeWhile p).length ≤ l.length := by
  induction l with
  | nil => simp
  | cons a r ih => simp only [List.takeWhile_cons]; split <;> simp <;> omega

theorem csScan_bound (opener : Nat) : ∀ (l : Bytes) (i j : Nat), csScan opener l i = some j →
    i + opener ≤ j ∧ j ≤ i + l.length := by
  intro l
  induction l using List.rec with
  | nil => intro i j h; simp [csScan] at h
  | cons c rest _ =>
    -- strong induction on the length instead
    exact fun i j h => by
      revert i j h
      exact (show ∀ (n : Nat) (l : Bytes), l.length ≤ n → ∀ i j, csScan opener l i = some j →
          i + opener ≤ j ∧ j ≤ i + l.length from by
        intro n
        induction n with
        | zero =>
          intro l hl i j h
          cases l with
          | nil => simp [csScan] at h
          | cons a t => simp at hl
        | succ n ih =>
          intro l hl i j h
          cases l with
          | nil => simp [csScan] at h
          | cons a t =>
            rw [csScan] at h
            have hs := spanB_fst_len (· == 96) t
            split at h
            · simp only at h
              split at h
              · rename_i he
                simp at he
                simp at h; subst h
                simp only [List.length_cons]
                omega
              · split at h
                · simp at h
                · rename_i x rest' heq
                  rw [heq] at hs
                  simp only [List.length_cons] at hs hl
                  have := ih rest' (by omega) _ _ h
                  simp only [List.length_cons]
                  omega
            · simp only [List.length_cons] at hl
              have := ih t (by omega) _ _ h
              simp only [List.length_cons]
              omega) (rest.length + 1) (c :: rest) (by simp)

theorem bytesIndex_bound (pat : Bytes) : ∀ (l : Bytes) (i j : Nat), bytesIndex pat l i = some j →
    i ≤ j ∧ j + pat.length ≤ i + l.length := by
  intro l
  induction l with
  | nil =>
    intro i j h
    simp only [bytesIndex] at h
    split at h
    · rename_i he; simp at h; subst h; simp at he; simp [he]
    · simp at h
  | cons c rest ih =>
    intro i j h
    simp only [bytesIndex] at h
    split at h
    · rename_i hp
      simp at h; subst h
      have := List.IsPrefix.length_le (List.isPrefixOf_iff_prefix.mp hp)
      simp only [List.length_cons] at this ⊢
      omega
    · have := ih _ _ h
      simp only [List.length_cons]; omega

theorem destAngle_bound : ∀ (n : Nat) (l : Bytes), l.length ≤ n → ∀ (i j : Nat), destAngle l i = some j →
    i ≤ j ∧ j < i + l.length := by
  intro n
  induction n with
  | zero => intro l hl i j h; cases l with
    | nil => simp [destAngle] at h
    | cons a t => simp at hl
  | succ n ih =>
    intro l hl i j h
    cases l with
    | nil => simp [destAngle] at h
    | cons c rest =>
      rw [destAngle.eq_def] at h
      simp only at h
      simp only [List.length_cons] at hl ⊢
      split at h
      · split at h
        · rename_i d rest'
          split at h
          · have := ih rest' (by simp at hl; omega) _ _ h; simp only [List.length_cons]; omega
          · have := ih (d :: rest') (by simp at hl ⊢; omega) _ _ h; simp only [List.length_cons] at this ⊢; omega
        · simp at h
      · split at h
        · simp at h; omega
        · split at h
          · simp at h
          · have := ih rest (by omega) _ _ h; omega

theorem destPlain_bound : ∀ (n : Nat) (l : Bytes), l.length ≤ n → ∀ (i : Nat) (o : Int),
    i ≤ destPlain l i o ∧ destPlain l i o ≤ i + l.length := by
  intro n
  induction n with
  | zero => intro l hl i o; cases l with
    | nil => simp [destPlain]
    | cons a t => simp at hl
  | succ n ih =>
    intro l hl i o
    cases l with
    | nil => simp [destPlain]
    | cons c rest =>
      rw [destPlain.eq_def]
      simp only
      simp only [List.length_cons] at hl ⊢
      split
      · split
        · rename_i d rest'
          split
          · have := ih rest' (by simp at hl; omega) (i + 2) o; simp only [List.length_cons]; omega
          · have := ih (d :: rest') (by simp at hl ⊢; omega) (i + 1) o; simp only [List.length_cons] at this ⊢; omega
        · simp
      · split
        · have := ih rest (by omega) (i + 1) (o + 1); omega
        · split
          · split
            · omega
            · have := ih rest (by omega) (i + 1) (o - 1); omega
          · split
            · omega
            · have := ih rest (by omega) (i + 1) o; omega

theorem decodeRune_size {l : Bytes} (h : (decodeRune l).1 ≠ runeError) :
    1 ≤ (decodeRune l).2 ∧ (decodeRune l).2 ≤ l.length := by
  match l with
  | [] => exact absurd rfl h
  | b :: r => have := decodeRune_width_bounds b r; simp only [List.length_cons]; omega

/-- the segments lie between `lo` and `hi`, each after the one before, none inverted -/
def chain (lo hi : Int) : List Segment → Prop
  | [] => lo ≤ hi
  | s :: rest => lo ≤ s.start ∧ s.start ≤ s.stop ∧ chain s.stop hi rest

theorem chain_le {lo hi : Int} : ∀ {l : List Segment}, chain lo hi l → lo ≤ hi
  | [], h => h
  | s :: rest, h => by have := chain_le h.2.2; have := h.1; have := h.2.1; omega

theorem chain_mono {lo lo' hi hi' : Int} (h1 : lo' ≤ lo) (h2 : hi ≤ hi') :
    ∀ {l : List Segment}, chain lo hi l → chain lo' hi' l
  | [], h => by simp only [chain] at h ⊢; omega
  | s :: rest, h => ⟨by have := h.1; omega, h.2.1, chain_mono (Int.le_refl _) h2 h.2.2⟩

theorem chain_append {lo mid hi : Int} : ∀ {a b : List Segment}, chain lo mid a → chain mid hi b → chain lo hi (a ++ b)
  | [], b, h1, h2 => chain_mono h1 (Int.le_refl _) h2
  | s :: rest, b, h1, h2 => ⟨h1.1, h1.2.1, chain_append h1.2.2 h2⟩

theorem chain_split {lo hi : Int} : ∀ {a b : List Segment}, chain lo hi (a ++ b) → ∃ mid, chain lo mid a ∧ chain mid hi b
  | [], b, h => ⟨lo, Int.le_refl _, h⟩
  | s :: rest, b, h => by
    obtain ⟨mid, h1, h2⟩ := chain_split (a := rest) (b := b) h.2.2
    exact ⟨mid, ⟨h.1, h.2.1, h1⟩, h2⟩

theorem chain_single {lo hi : Int} {s : Segment} (h1 : lo ≤ s.start) (h2 : s.start ≤ s.stop) (h3 : s.stop ≤ hi) :
    chain lo hi [s] := ⟨h1, h2, h3⟩

mutual
/-- the source positions a subtree records, in tree order -/
def segsOf : Node → List Segment
  | .text s _ _ _ => [s]
  | .codeSpan ks => segsOfL ks
  | .emphasis _ ks => segsOfL ks
  | .link _ _ _ ks => segsOfL ks
  | .autoLink _ s => [s]
  | .rawHTML ss => ss
  | .delim _ d => [d.seg]
  | .label _ s _ => [s]
def segsOfL : List Node → List Segment
  | [] => []
  | n :: rest => segsOf n ++ segsOfL rest
end

theorem segsOfL_append (a b : List Node) : segsOfL (a ++ b) = segsOfL a ++ segsOfL b := by
  induction a with
  | nil => simp [segsOfL]
  | cons x r ih => simp [segsOfL, ih]

/-- a flushed text `[s.start, s.stop)` extends a chain that ends at `s.start` -/
theorem chain_mergeOrAppend {lo : Int} {kids : List Node} {s : Segment} (h : chain lo s.start (segsOfL kids))
    (hs : s.start ≤ s.stop) : chain lo s.stop (segsOfL (mergeOrAppend kids s)) := by
  rcases mergeOrAppend_cases kids s with e | ⟨ys, seg, ha, ra, rfl, hst, e⟩ <;> rw [e, segsOfL_append]
  · exact chain_append h (by simpa [segsOfL, segsOf, textOf] using chain_single (Int.le_refl _) hs (Int.le_refl _))
  · rw [segsOfL_append] at h
    obtain ⟨mid, h1, h2⟩ := chain_split h
    simp only [segsOfL, segsOf, List.append_nil, chain] at h2
    refine chain_append h1 ?_
    simp only [segsOfL, segsOf, List.append_nil, Segment.withStop]
    exact chain_single (by simp only; omega) (by simp only; omega) (by simp only; omega)

/-- what a reader-only parser owes: it returns; the reader still stands for a padding-free cursor that did not
    move back; when it returns a node it consumed at least one byte and the node's segments lie between the
    old and the new offset -/
def RPost (src : Bytes) (segs : List Segment) (c : BCur) (res : RRes) : Prop :=
  ∃ n r' c', res = .ok (n, r') ∧ RS src segs r' c' ∧ c.p ≤ c'.p ∧ c.ln ≤ c'.ln ∧
    ∀ nd, n = some nd → BCur.remaining segs c' + 1 ≤ BCur.remaining segs c ∧ chain c.p c'.p (segsOf nd) ∧
      (match nd with
        | .delim _ d => 1 ≤ d.length ∧ d.seg.stop = d.seg.start + d.length
        | .label .. => False
        | nd => wf false nd = true)

variable {src : Bytes} {segs : List Segment}

theorem RPost.ite {c : BCur} {p : Prop} [Decidable p] {a b : RRes} (ha : p → RPost src segs c a)
    (hb : ¬p → RPost src segs c b) : RPost src segs c (if p then a else b) := by
  split
  · exact ha ‹_›
  · exact hb ‹_›

theorem scanDelimiter_ok (env : Env) (b : UInt8) (l : Bytes) (before : Nat) :
    ∃ d, scanDelimiter env (b :: l) before = .ok d ∧
      ∀ dd, d = some dd → 1 ≤ dd.length ∧ dd.origLength = dd.length ∧ dd.length ≤ (b :: l).length := by
  unfold scanDelimiter
  simp only
  split
  · exact ⟨none, rfl, by simp⟩
  · refine ⟨_, rfl, ?_⟩
    intro dd hd
    simp at hd; subst hd
    have := takeWhile_len_le (· == b) l
    refine ⟨?_, ?_, ?_⟩ <;> simp only [List.length_cons] <;> omega

theorem parseEmphasis_post (F : SegFacts src segs) (Z : ∀ s ∈ segs, s.padding = 0) (env : Env) (id : Nat)
    {r : BlockReader} {c : BCur} (h : RS src segs r c) {b : UInt8} {l : Bytes}
    (hv : BCur.view src segs c = some (b :: l)) : RPost src segs c (parseEmphasis env id r) := by
  obtain ⟨v, hpc⟩ := precendingCharacter_ok r
  obtain ⟨hpl, hpos⟩ := peekLine_facts F h
  obtain ⟨v1, v2, v3, v4, v5, v6, v7, v8⟩ := view_some F h.abs.wf h.pad hv
  obtain ⟨d, hd, hdd⟩ := scanDelimiter_ok env b l v
  unfold parseEmphasis
  simp only [hpc, hpl, hv, bind, Except.bind, Option.getD_some, hd]
  cases d with
  | none => exact ⟨none, r, c, rfl, h, Int.le_refl _, Int.le_refl _, by simp⟩
  | some dd =>
    obtain ⟨d1, d2, d3⟩ := hdd dd rfl
    simp only
    obtain ⟨r', c', e1, e2, e3, e4, e5, _⟩ := advance_ok F Z h (n := dd.origLength) (by omega) (by omega)
    rw [e1]
    refine ⟨_, r', c', rfl, e2, by omega, e4, ?_⟩
    intro nd hn
    simp at hn; subst hn
    refine ⟨by omega, ?_, ⟨by simpa using (by omega : 1 ≤ dd.length), by simp only [Segment.withStop]; omega⟩⟩
    simp only [segsOf, hpos, Segment.withStop]
    exact chain_single (by simp only; omega) (by simp only; omega) (by simp only; omega)

theorem parseAutoLink_post (F : SegFacts src segs) (Z : ∀ s ∈ segs, s.padding = 0)
    {r : BlockReader} {c : BCur} (h : RS src segs r c) {b : UInt8} {l : Bytes}
    (hv : BCur.view src segs c = some (b :: l)) : RPost src segs c (parseAutoLink r) := by
  obtain ⟨hpl, hpos⟩ := peekLine_facts F h
  obtain ⟨v1, v2, v3, v4, v5, v6, v7, v8⟩ := view_some F h.abs.wf h.pad hv
  have hnone : RPost src segs c (.ok (none, r)) := ⟨none, r, c, rfl, h, Int.le_refl _, Int.le_refl _, by simp⟩
  unfold parseAutoLink
  simp only [hpl, hv, bind, Except.bind, Option.getD_some, pure, Except.pure, List.isEmpty_cons, Bool.false_eq_true,
    if_false]
  generalize (if findEmailIndex (List.drop 1 (b :: l)) < 0 then (findURLIndex (List.drop 1 (b :: l)), false)
    else (findEmailIndex (List.drop 1 (b :: l)), true)) = pr
  split
  · exact hnone
  · rename_i h0
    split
    · exact hnone
    · rename_i hg
      simp only [Bool.or_eq_true, decide_eq_true_eq, not_or, Int.not_le, ge_iff_le] at hg
      obtain ⟨r', c', e1, e2, e3, e4, e5, _⟩ := advance_ok F Z h (n := pr.1 + 1 + 1) (by omega) (by omega)
      rw [e1]
      refine ⟨_, r', c', rfl, e2, by omega, e4, ?_⟩
      intro nd hn
      simp at hn; subst hn
      refine ⟨by omega, ?_, by simp [wf]⟩
      simp only [segsOf, hpos]
      exact chain_single (by simp only; omega) (by simp only; omega) (by simp only; omega)

theorem all_isText_wfL : ∀ (ks : List Node), ks.all isText = true → wfL false ks = true
  | [], _ => by simp [wfL]
  | k :: rest, h => by
    simp only [List.all_cons, Bool.and_eq_true] at h
    obtain ⟨h1, h2⟩ := h
    cases k <;> simp [isText] at h1
    simp [wfL, wf, all_isText_wfL rest h2]

/-- raw Text nodes without padding (the children of a code span) -/
def rawL (l : List Node) : Prop :=
  ∀ n ∈ l, ∃ s : Segment, n = .text s false false true ∧ s.padding = 0 ∧ s.forceNewline = false

theorem rawL_isText {l : List Node} (h : rawL l) : l.all isText = true := by
  simp only [List.all_eq_true]
  intro n hn
  obtain ⟨s, rfl, _⟩ := h n hn
  rfl

theorem rawL_append {a b : List Node} (ha : rawL a) (hb : rawL b) : rawL (a ++ b) := by
  intro n hn
  simp only [List.mem_append] at hn
  rcases hn with hn | hn
  · exact ha n hn
  · exact hb n hn

/-- the loops over the lines of a block: one line further, one unit of fuel less -/
theorem fuel_line {k ln ln' : Int} {f : Nat} (hf : (k - ln).toNat < f + 1) (hlt : ln < k) (e : ln' = ln + 1) :
    (k - ln').toNat < f := by omega

theorem csLoop_post (F : SegFacts src segs) (Z : ∀ s ∈ segs, s.padding = 0) (opener : Nat)
    {rs : BlockReader} {cs : BCur} (hs : RS src segs rs cs) (ss : Segment) :
    ∀ (fuel : Nat) {rd : BlockReader} {c : BCur} {acc : List Node}, RS src segs rd c →
    (BCur.k segs - c.ln).toNat < fuel → cs.p ≤ c.p → cs.ln ≤ c.ln →
    BCur.remaining segs c ≤ BCur.remaining segs cs →
    (c.ln < BCur.k segs → chain cs.p c.p (segsOfL acc)) → rawL acc →
    ∃ res rd' c', csLoop opener rs.position.1 rs.position.2 ss fuel rd acc = .ok (res, rd') ∧ RS src segs rd' c' ∧
      cs.p ≤ c'.p ∧ cs.ln ≤ c'.ln ∧ BCur.remaining segs c' ≤ BCur.remaining segs cs ∧
      (match res with
        | .inl t => t = textOf (ss.withStop (ss.start + opener))
        | .inr ks => chain cs.p c'.p (segsOfL ks) ∧ rawL ks) := by
  intro fuel
  induction fuel with
  | zero => intro rd c acc _ hf; omega
  | succ f ih =>
    intro rd c acc h hf hp hl hr hch hacc
    obtain ⟨hpl, hpos⟩ := peekLine_facts F h
    simp only [csLoop, hpl, bind, Except.bind]
    cases hv : BCur.view src segs c with
    | none =>
      obtain ⟨r3, e1, e2⟩ := setPosition_restore F hs h
      simp only [e1, pure, Except.pure]
      exact ⟨_, r3, cs, rfl, e2, Int.le_refl _, Int.le_refl _, Int.le_refl _, rfl⟩
    | some line =>
      obtain ⟨v1, v2, v3, v4, v5, v6, v7, v8⟩ := view_some F h.abs.wf h.pad hv
      simp only
      cases hsc : csScan opener line 0 with
      | some i =>
        have hb := csScan_bound opener line 0 i hsc
        obtain ⟨r', c', e1, e2, e3, e4, e5, _⟩ := advance_ok F Z h (n := (i : Int)) (by omega) (by omega)
        simp only [e1, pure, Except.pure]
        refine ⟨_, r', c', rfl, e2, by omega, by omega, by omega, ?_⟩
        simp only
        have hc0 := hch v1
        split
        · refine ⟨?_, rawL_append hacc (by
            intro n hn; simp only [List.mem_singleton] at hn; subst hn
            exact ⟨_, rfl, by simp [Segment.withStop, hpos], rfl⟩)⟩
          rw [segsOfL_append]
          refine chain_append hc0 ?_
          simp only [segsOfL, segsOf, rawTextOf, List.append_nil, hpos, Segment.withStop]
          exact chain_single (by simp only; omega) (by simp only; omega) (by simp only; omega)
        · exact ⟨chain_mono (Int.le_refl _) (by omega) hc0, hacc⟩
      | none =>
        obtain ⟨r', e1, e2⟩ := advanceLine_ok F Z h
        obtain ⟨a1, a2, a3, a4, a5⟩ := advanceLine_facts F h.abs.wf h.pad
        simp only [e1]
        refine ih e2 (fuel_line hf v1 a1) (by omega) (by omega) (by omega) ?_
          (rawL_append hacc (by
            intro n hn; simp only [List.mem_singleton] at hn; subst hn
            exact ⟨_, rfl, by simp [hpos], by simp [hpos]⟩))
        intro hlt
        rw [a1] at hlt
        rw [segsOfL_append]
        refine chain_append (hch v1) ?_
        simp only [segsOfL, segsOf, rawTextOf, List.append_nil, hpos]
        have := a5 hlt
        exact chain_single (by simp only; omega) (by simp only; omega) (by simp only; omega)

/-! ### code spans: the trim step -/

theorem seg_value_ok {s : Segment} (hp : s.padding = 0) (hf : s.forceNewline = false) (h0 : 0 ≤ s.start)
    (h1 : s.start ≤ s.stop) (h2 : s.stop ≤ src.length) :
    s.value src = .ok (sub src s.start.toNat s.stop.toNat) := by
  rw [value_spec src s ⟨h0, h1, h2, by omega⟩]
  simp [segValue, hp, hf, spaces]

theorem csIsBlank_ok : ∀ (ks : List Node) {lo hi : Int}, rawL ks → chain lo hi (segsOfL ks) → 0 ≤ lo →
    hi ≤ src.length → ∃ b, csIsBlank src ks = .ok b
  | [], _, _, _, _, _, _ => ⟨true, rfl⟩
  | k :: rest, lo, hi, hr, hc, h0, h1 => by
    obtain ⟨s, rfl, sp, sf⟩ := hr k (by simp)
    simp only [segsOfL, segsOf, List.singleton_append, chain] at hc
    have hle := chain_le hc.2.2
    simp only [csIsBlank, seg_value_ok (src := src) sp sf (by omega) hc.2.1 (by omega)]
    split
    · exact ⟨false, rfl⟩
    · exact csIsBlank_ok rest (fun n hn => hr n (by simp [hn])) hc.2.2 (by omega) h1

theorem chain_last_shrink {lo hi : Int} {s s' : Segment} (e1 : s'.start = s.start) (e2 : s'.stop = s.stop - 1) :
    ∀ {l : List Segment}, chain lo hi (l ++ [s]) → s.start ≤ s.stop - 1 → chain lo hi (l ++ [s'])
  | [], h, hs => by
    simp only [List.nil_append, chain] at h ⊢
    exact ⟨by omega, by omega, by omega⟩
  | a :: rest, h, hs => ⟨h.1, h.2.1, chain_last_shrink e1 e2 h.2.2 hs⟩

/-- the edge test of a padding-free segment reads a byte only when the segment is not empty -/
theorem csEdge_ok {s : Segment} (sp : s.padding = 0) {i : Int} (hi : s.start < s.stop → 0 ≤ i ∧ i < src.length) :
    ∃ a, csEdge src s i = .ok a ∧ (a = true → s.start < s.stop) := by
  unfold csEdge
  by_cases he : s.isEmpty = true
  · simp [he]
  · have hlt : s.start < s.stop := by
      simp only [Segment.isEmpty, sp, Bool.and_eq_true, decide_eq_true_eq, beq_self_eq_true, and_true] at he
      omega
    have hlen : i.toNat < src.length := by have := hi hlt; omega
    have e : i = (i.toNat : Int) := by have := hi hlt; omega
    simp only [he, Bool.false_eq_true, if_false]
    rw [e, getByte_ok src hlen]
    exact ⟨_, rfl, fun _ => hlt⟩

theorem csTrim_post {ks : List Node} {lo hi : Int} (hr : rawL ks) (hc : chain lo hi (segsOfL ks)) (h0 : 0 ≤ lo)
    (h1 : hi ≤ src.length) :
    ∃ ks', csTrim src ks = .ok ks' ∧ chain lo hi (segsOfL ks') ∧ ks'.all isText = true := by
  obtain ⟨b, hb⟩ := csIsBlank_ok (src := src) ks hr hc h0 h1
  unfold csTrim
  simp only [hb, bind, Except.bind, pure, Except.pure]
  cases b with
  | true => exact ⟨ks, rfl, hc, rawL_isText hr⟩
  | false =>
    simp only [Bool.false_eq_true, if_false]
    cases ks with
    | nil => simp [csIsBlank] at hb
    | cons k rest =>
      obtain ⟨s, rfl, sp, sf⟩ := hr k (by simp)
      have hc' := hc
      simp only [segsOfL, segsOf, List.singleton_append, chain] at hc'
      have hle := chain_le hc'.2.2
      -- the last child
      obtain ⟨init, z, hz⟩ : ∃ init z, (Node.text s false false true :: rest) = init ++ [z] := by
        have := List.eq_nil_or_concat (Node.text s false false true :: rest)
        rcases this with h | ⟨i, z, h⟩
        · simp at h
        · exact ⟨i, z, by simpa using h⟩
      obtain ⟨t, rfl, tp, tf⟩ := hr z (by rw [hz]; simp)
      have hlast : (Node.text s false false true :: rest).getLast? = some (Node.text t false false true) := by
        rw [hz]; simp
      have hct : chain lo hi (segsOfL init ++ [t]) := by
        have := hc; rw [hz, segsOfL_append] at this; simpa [segsOfL, segsOf] using this
      obtain ⟨mid, hc1, hc2⟩ := chain_split hct
      simp only [chain] at hc2
      have hle1 := chain_le hc1
      simp only [List.head?_cons, hlast]
      -- the two edge tests cannot panic
      have ea := csEdge_ok (src := src) sp (i := s.start) (fun _ => by omega)
      have eb := csEdge_ok (src := src) tp (i := t.stop - 1) (fun _ => by omega)
      obtain ⟨a, ha, ha'⟩ := ea
      obtain ⟨b', hb', hb''⟩ := eb
      simp only [ha, hb']
      by_cases hab : (a && b') = true
      · simp only [hab, Bool.not_true, Bool.false_eq_true, if_false]
        simp only [Bool.and_eq_true] at hab
        have hs := ha' hab.1
        have ht := hb'' hab.2
        -- head trimmed
        cases init with
        | nil =>
          -- a single child: it is longer than one byte because the span is not blank
          simp only [List.nil_append, List.cons.injEq] at hz
          obtain ⟨hz1, hz2⟩ := hz
          simp at hz1; subst hz1; subst hz2
          simp only [List.getLast?_singleton, List.dropLast_singleton, List.nil_append, Segment.withStart,
            Segment.withStop]
          refine ⟨_, rfl, ?_, by simp [isText]⟩
          simp only [segsOfL, segsOf, List.append_nil, chain]
          have hlen2 : s.start + 1 ≤ s.stop - 1 := by
            by_cases h1b : s.stop - s.start = 1
            · exfalso
              -- the only byte is a space or newline: the span would be blank
              have hlen : s.start.toNat < src.length := by omega
              have hv : sub src s.start.toNat s.stop.toNat = [src[s.start.toNat]] := by
                have e2 : s.stop.toNat = s.start.toNat + 1 := by omega
                rw [e2, sub_cons src hlen (by omega)]
                simp [sub]
              have hedge := ha
              unfold csEdge at hedge
              have hne : s.isEmpty = false := by
                simp only [Segment.isEmpty, sp, Bool.and_eq_false_iff, decide_eq_false_iff_not]; left; omega
              have e : s.start = (s.start.toNat : Int) := by omega
              rw [hne, e, getByte_ok src hlen] at hedge
              simp only [Bool.false_eq_true, if_false, Except.ok.injEq] at hedge
              rw [hab.1] at hedge
              simp only [csIsBlank, seg_value_ok (src := src) sp sf (by omega) hc'.2.1 (by omega), hv] at hb
              have : isBlank [src[s.start.toNat]] = true := by
                simp only [isSpaceOrNewline, Bool.or_eq_true, beq_iff_eq] at hedge
                simp only [isBlank, List.all_cons, List.all_nil, Bool.and_true, isSpace]
                rcases hedge with h | h <;> simp [h]
              simp [this] at hb
            · omega
          simp only [segsOfL, segsOf, List.append_nil, chain] at hc
          exact ⟨by omega, by omega, by omega⟩
        | cons x init' =>
          simp only [List.cons_append, List.cons.injEq] at hz
          obtain ⟨hz1, hz2⟩ := hz
          subst hz1
          have hl2 : (Node.text (s.withStart (s.start + 1)) false false true :: rest).getLast? =
              some (Node.text t false false true) := by
            rw [hz2]
            have : (Node.text (s.withStart (s.start + 1)) false false true :: (init' ++ [Node.text t false false true])) =
                (Node.text (s.withStart (s.start + 1)) false false true :: init') ++ [Node.text t false false true] := rfl
            rw [this, List.getLast?_concat]
          simp only [hl2]
          refine ⟨_, rfl, ?_, ?_⟩
          · have hd : (Node.text (s.withStart (s.start + 1)) false false true :: rest).dropLast =
                Node.text (s.withStart (s.start + 1)) false false true :: init' := by
              rw [hz2]
              have : (Node.text (s.withStart (s.start + 1)) false false true :: (init' ++ [Node.text t false false true])) =
                  (Node.text (s.withStart (s.start + 1)) false false true :: init') ++ [Node.text t false false true] := rfl
              rw [this, List.dropLast_concat]
            rw [hd]
            have hc3 : chain lo hi (segsOfL (Node.text s false false true :: init') ++ [t]) := hct
            simp only [segsOfL, segsOf, List.singleton_append, List.cons_append, chain] at hc3
            have hc4 : chain s.stop hi (segsOfL init' ++ [t]) := by simpa using hc3.2.2
            have hsh := chain_last_shrink (s := t) (s' := t.withStop (t.stop - 1)) rfl rfl hc4 (by omega)
            simp only [List.cons_append, segsOfL, segsOf, chain, Segment.withStart, segsOfL_append, List.append_nil,
              List.nil_append] at hsh ⊢
            exact ⟨by omega, by omega, hsh⟩
          · have : rawL (Node.text (s.withStart (s.start + 1)) false false true :: rest) := by
              intro n hn
              simp only [List.mem_cons] at hn
              rcases hn with rfl | hn
              · exact ⟨_, rfl, sp, rfl⟩
              · exact hr n (by simp [hn])
            have h2 := rawL_isText this
            rw [all_isText_append, all_isText_dropLast h2]; simp [isText]
      · simp only [hab, Bool.not_false, if_true]
        exact ⟨_, rfl, hc, rawL_isText hr⟩

theorem parseCodeSpan_post (F : SegFacts src segs) (Z : ∀ s ∈ segs, s.padding = 0)
    {r : BlockReader} {c : BCur} (h : RS src segs r c) {l : Bytes}
    (hv : BCur.view src segs c = some (96 :: l)) : RPost src segs c (parseCodeSpan r) := by
  obtain ⟨hpl, hpos⟩ := peekLine_facts F h
  obtain ⟨v1, v2, v3, v4, v5, v6, v7, v8⟩ := view_some F h.abs.wf h.pad hv
  have hop : 1 ≤ ((96 :: l : Bytes).takeWhile (· == 96)).length ∧
      ((96 :: l : Bytes).takeWhile (· == 96)).length ≤ (96 :: l : Bytes).length :=
    ⟨by simp [List.takeWhile_cons], takeWhile_len_le _ _⟩
  obtain ⟨r1, c1, e1, e2, e3, e4, e5, _⟩ := advance_ok F Z h
    (n := (((96 :: l : Bytes).takeWhile (· == 96)).length : Int)) (by omega) (by omega)
  unfold parseCodeSpan
  simp only [hpl, hv, bind, Except.bind, Option.getD_some, e1]
  have hk : r1.segments.length = (BCur.k segs).toNat := by rw [e2.abs.segments]; simp [BCur.k]
  obtain ⟨res, rd', c', f1, f2, f3, f4, f5, f6⟩ := csLoop_post F Z ((96 :: l : Bytes).takeWhile (· == 96)).length e2 r.pos
    (r1.segments.length + 2) (acc := []) e2 (by have := e2.abs.wf.ln0; omega) (Int.le_refl _) (Int.le_refl _)
    (Int.le_refl _) (fun _ => by simp [segsOfL, chain]) (by intro n hn; simp at hn)
  have hpos' := (peekLine_facts F f2).2
  have hrng := bpos_wf F f2.abs
  rw [hpos'] at hrng
  simp only [BlockReader.position] at f1
  simp only [BlockReader.position, f1]
  cases res with
  | inl t =>
    simp only at f6
    simp only [pure, Except.pure]
    refine ⟨_, rd', c', rfl, f2, by omega, by omega, ?_⟩
    intro nd hn
    simp at hn; subst hn
    refine ⟨by omega, ?_, by rw [f6]; simp [textOf, wf]⟩
    rw [f6]
    simp only [segsOf, textOf, hpos, Segment.withStop]
    exact chain_single (by simp only; omega) (by simp only; omega) (by simp only; omega)
  | inr ks =>
    simp only at f6
    obtain ⟨ks', g1, g2, g3⟩ := csTrim_post (src := src) f6.2 f6.1 (by omega) (by have := hrng.2.1; have := hrng.2.2.1; simp only at *; omega)
    have hsrc : rd'.source = src := f2.abs.source
    simp only [hsrc, g1, pure, Except.pure]
    refine ⟨_, rd', c', rfl, f2, by omega, by omega, ?_⟩
    intro nd hn
    simp at hn; subst hn
    exact ⟨by omega, by simp only [segsOf]; exact chain_mono (by omega) (Int.le_refl _) g2, by simp [wf, g3]⟩

/-! ### raw HTML -/

theorem tagAttrs_len_le : ∀ (n : Nat) (s : Bytes), s.length ≤ n → ∀ {r : Bytes}, tagAttrs s = some r → r.length ≤ s.length := by
  intro n
  induction n with
  | zero =>
    intro s hs r h
    have : s = [] := by cases s <;> simp_all
    subst this
    rw [tagAttrs] at h
    simp [spanB] at h
  | succ n ih =>
    intro s hs r h
    rw [tagAttrs] at h
    have a1 := spanB_len isTagWS s
    split at h
    · simp at h
    · rename_i c r' hr
      rw [hr] at a1
      simp at a1
      dsimp only at h
      have a2 := length_dropWhile_le isAttrNameChar r'
      have a3 := spanB_len isTagWS (List.dropWhile isAttrNameChar r')
      split at h
      · split at h
        · rename_i r4 h3
          rw [h3] at a3
          simp at a3
          split at h
          · rename_i r6 h5
            have a4 := length_dropWhile_le isTagWS r4
            have a5 := attrValue_len h5
            have := ih r6 (by omega) h
            omega
          · simp at h
        · have := ih _ (by omega) h
          omega
      · repeat' (split at h)
        all_goals first
          | (simp at h; done)
          | (simp at h; subst h; simp at a1 ⊢; omega)

theorem matchOpenTag_bound {s : Bytes} {n : Nat} (h : matchOpenTag s = some n) : 1 ≤ n ∧ n ≤ s.length := by
  unfold matchOpenTag at h
  split at h
  · rename_i c rest
    split at h
    · split at h
      · rename_i r hr
        simp at h; subst h
        have := tagAttrs_len_le _ _ (Nat.le_refl _) hr
        have := length_dropWhile_le isTagNameChar rest
        simp only [List.length_cons]; omega
      · simp at h
    · simp at h
  · simp at h

theorem matchCloseTag_bound {s : Bytes} {n : Nat} (h : matchCloseTag s = some n) : 1 ≤ n ∧ n ≤ s.length := by
  unfold matchCloseTag at h
  split at h
  · rename_i c rest
    split at h
    · simp only at h
      split at h
      · rename_i r' hr
        split at h
        · simp at h; subst h
          have a1 := spanB_len isTagWS (List.dropWhile isTagNameChar rest)
          rw [hr] at a1
          have := length_dropWhile_le isTagNameChar rest
          simp only [List.length_cons] at a1 ⊢; omega
        · simp at h
      · simp at h
    · simp at h
  · simp at h

theorem runeStream_post (F : SegFacts src segs) (Z : ∀ s ∈ segs, s.padding = 0) :
    ∀ (fuel : Nat) {rd : BlockReader} {c : BCur} {acc : Bytes}, RS src segs rd c →
    (BCur.remaining segs c).toNat < fuel →
    ∃ st, runeStream fuel rd acc = .ok st ∧ (st.length : Int) ≤ acc.length + BCur.remaining segs c := by
  intro fuel
  induction fuel with
  | zero => intro rd c acc _ hf; omega
  | succ f ih =>
    intro rd c acc h hf
    obtain ⟨hpl, hpos⟩ := peekLine_facts F h
    have hn := remaining_nonneg F h.abs.wf
    simp only [runeStream, hpl, bind, Except.bind]
    cases hv : BCur.view src segs c with
    | none => exact ⟨_, rfl, by simp; omega⟩
    | some line =>
      obtain ⟨v1, v2, v3, v4, v5, v6, v7, v8⟩ := view_some F h.abs.wf h.pad hv
      simp only
      split
      · exact ⟨_, rfl, by simp; omega⟩
      · rename_i hne
        have hd := decodeRune_size (l := line) (by simpa using hne)
        obtain ⟨r', c', e1, e2, e3, _, _, _⟩ := advance_ok F Z h (n := ((decodeRune line).2 : Int)) (by omega) (by omega)
        simp only [e1]
        obtain ⟨st, g1, g2⟩ := ih (acc := (line.take (decodeRune line).2).reverse ++ acc) e2 (by omega)
        refine ⟨st, g1, ?_⟩
        simp only [List.length_append, List.length_reverse, List.length_take] at g2
        omega

theorem rhUntil_post (F : SegFacts src segs) (Z : ∀ s ∈ segs, s.padding = 0) (closer : Bytes)
    (hcl : 1 ≤ closer.length) {rs : BlockReader} {cs : BCur} (hs : RS src segs rs cs) :
    ∀ (fuel : Nat) {offset : Nat} {rd : BlockReader} {c : BCur} {acc : List Segment}, RS src segs rd c →
    (BCur.k segs - c.ln).toNat < fuel → cs.p ≤ c.p → cs.ln ≤ c.ln →
    BCur.remaining segs c ≤ BCur.remaining segs cs →
    (∀ line, BCur.view src segs c = some line → offset ≤ line.length) →
    (c.ln < BCur.k segs → chain cs.p c.p acc) →
    ∃ res rd' c', rhUntil closer rs.position.1 rs.position.2 fuel offset rd acc = .ok (res, rd') ∧
      RS src segs rd' c' ∧ cs.p ≤ c'.p ∧ cs.ln ≤ c'.ln ∧
      (match res with
        | none => True
        | some sg => chain cs.p c'.p sg ∧ BCur.remaining segs c' + 1 ≤ BCur.remaining segs cs) := by
  intro fuel
  induction fuel with
  | zero => intro offset rd c acc _ hf; omega
  | succ f ih =>
    intro offset rd c acc h hf hp hl hr hoff hch
    obtain ⟨hpl, hpos⟩ := peekLine_facts F h
    simp only [rhUntil, hpl, bind, Except.bind]
    cases hv : BCur.view src segs c with
    | none =>
      obtain ⟨r3, e1, e2⟩ := setPosition_restore F hs h
      simp only [e1, pure, Except.pure]
      exact ⟨_, r3, cs, rfl, e2, Int.le_refl _, Int.le_refl _, trivial⟩
    | some line =>
      obtain ⟨v1, v2, v3, v4, v5, v6, v7, v8⟩ := view_some F h.abs.wf h.pad hv
      have ho := hoff line hv
      simp only
      cases hsc : bytesIndex closer (line.drop offset) 0 with
      | some index =>
        have hb := bytesIndex_bound closer _ 0 index hsc
        simp only [List.length_drop] at hb
        obtain ⟨r', c', e1, e2, e3, e4, e5, _⟩ := advance_ok F Z h (n := ((offset + index + closer.length : Nat) : Int))
          (by omega) (by omega)
        simp only [e1, pure, Except.pure]
        refine ⟨_, r', c', rfl, e2, by omega, by omega, ?_⟩
        simp only
        refine ⟨chain_append (hch v1) ?_, by omega⟩
        simp only [hpos, Segment.withStop]
        exact chain_single (by simp only; omega) (by simp only; omega) (by simp only; omega)
      | none =>
        obtain ⟨r', e1, e2⟩ := advanceLine_ok F Z h
        obtain ⟨a1, a2, a3, a4, a5⟩ := advanceLine_facts F h.abs.wf h.pad
        simp only [e1]
        refine ih e2 (fuel_line hf v1 a1) (by omega) (by omega) (by omega) (fun _ _ => Nat.zero_le _) ?_
        intro hlt
        rw [a1] at hlt
        refine chain_append (hch v1) ?_
        have := a5 hlt
        simp only [hpos]
        exact chain_single (by simp only; omega) (by simp only; omega) (by simp only; omega)

/-- the segment loop of parseMultiLineRegexp: from the start of the match (cursor `c`) it walks to the cursor
    `ce` where the match ended -/
theorem rhSegments_post (F : SegFacts src segs) (Z : ∀ s ∈ segs, s.padding = 0)
    {c ce : BCur} (wc : BWF segs c) (wce : BWF segs ce) (hce : ce.ln < BCur.k segs) (hcez : ce.pad = 0)
    (hle : c.ln ≤ ce.ln) (hpe : c.p + 1 ≤ ce.p) (es : Segment) (hes : es.start = ce.p) (ssg : Segment)
    (hss : ssg.start = c.p) :
    ∀ (fuel : Nat) {rd : BlockReader} {cj : BCur} {acc : List Segment}, RS src segs rd cj →
    (BCur.k segs - cj.ln).toNat < fuel → cj.ln ≤ ce.ln → c.ln ≤ cj.ln → (cj.ln = c.ln → cj = c) →
    (cj.ln ≠ c.ln → cj.p = (BCur.segOf segs cj.ln).start ∧
      BCur.remaining segs cj + 1 ≤ BCur.remaining segs c) →
    c.p ≤ cj.p → chain c.p cj.p acc →
    ∃ sg rd' c', rhSegments c.ln ssg ce.ln es fuel rd acc = .ok (sg, rd') ∧ RS src segs rd' c' ∧
      c.p ≤ c'.p ∧ c.ln ≤ c'.ln ∧ chain c.p c'.p sg ∧ BCur.remaining segs c' + 1 ≤ BCur.remaining segs c := by
  intro fuel
  induction fuel with
  | zero => intro rd cj acc _ hf; omega
  | succ f ih =>
    intro rd cj acc h hf hjl hcl hsame hdiff hpj hch
    obtain ⟨hpl, hpos⟩ := peekLine_facts F h
    have wj := h.abs.wf
    have hjk : cj.ln < BCur.k segs := by omega
    have ij := wj.inLine hjk
    have ie := wce.inLine hce
    -- the cursor is live: it is `c` itself or the start of a line
    have hstj : BCur.stopOf segs cj = (BCur.segOf segs cj.ln).stop := by simp [BCur.stopOf, hjk]
    have hlive : BCur.live segs cj = true := by
      simp only [BCur.live, hjk, decide_true, Bool.true_and, decide_eq_true_eq]
      by_cases hjc : cj.ln = c.ln
      · have := hsame hjc; subst this
        have : ce.p ≤ BCur.lastStop segs := by
          have := stop_le_last F (i := ce.ln) wce.ln0 hce
          rcases ie.2 with h' | ⟨_, h'⟩ <;> omega
        omega
      · have r := F.rng cj.ln wj.ln0 hjk
        have := (hdiff hjc).1
        have := stop_le_last F (i := cj.ln) wj.ln0 hjk
        omega
    have hv : ∃ line, BCur.view src segs cj = some line := by simp [BCur.view, hlive]
    obtain ⟨line, hv⟩ := hv
    obtain ⟨v1, v2, v3, v4, v5, v6, v7, v8⟩ := view_some F wj h.pad hv
    simp only [rhSegments, hpl, hv, bind, Except.bind, BlockReader.position, h.abs.line]
    have hstart : (if (cj.ln == c.ln) = true then ssg.start else rd.pos.start) = cj.p := by
      by_cases hjc : cj.ln = c.ln
      · simp only [hjc, beq_self_eq_true, if_true]; rw [hss, hsame hjc]
      · have : (cj.ln == c.ln) = false := by simpa using hjc
        simp only [this, Bool.false_eq_true, if_false]; rw [hpos]
    by_cases hje : cj.ln = ce.ln
    · -- the last line of the match
      simp only [hje, if_true, beq_self_eq_true]
      have hstart' : (if (ce.ln == c.ln) = true then ssg.start else rd.pos.start) = cj.p := by rw [← hje]; exact hstart
      rw [hstart', hes]
      have hpje : cj.p ≤ ce.p := by
        by_cases hjc : cj.ln = c.ln
        · have := hsame hjc; subst this; omega
        · have := (hdiff hjc).1; rw [hje] at this; omega
      have hest : ce.p ≤ BCur.stopOf segs cj := by
        rw [hstj, hje]; rcases ie.2 with h' | ⟨_, h'⟩ <;> omega
      obtain ⟨r', c', e1, e2, e3, e4, e5, _⟩ := advance_ok F Z h (n := ce.p - cj.p) (by omega) (by omega)
      simp only [e1, pure, Except.pure]
      refine ⟨_, r', c', rfl, e2, by omega, by omega, ?_, ?_⟩
      · refine chain_append hch (chain_single (by simp only; omega) (by simp only; omega) (by simp only; omega))
      · by_cases hjc : cj.ln = c.ln
        · have := hsame hjc; subst this; omega
        · have := (hdiff hjc).2; omega
    · have hne : (cj.ln == ce.ln) = false := by simpa using hje
      simp only [hje, if_false, hne, Bool.false_eq_true]
      rw [hstart]
      obtain ⟨r', e1, e2⟩ := advanceLine_ok F Z h
      obtain ⟨a1, a2, a3, a4, a5⟩ := advanceLine_facts F wj h.pad
      have hlt : cj.ln + 1 < BCur.k segs := by omega
      have hnext : BCur.advanceLine segs cj = ⟨cj.ln + 1, (BCur.segOf segs (cj.ln + 1)).start,
          (BCur.segOf segs (cj.ln + 1)).padding⟩ := by simp [BCur.advanceLine, hlt]
      simp only [e1]
      refine ih e2 (fuel_line hf hjk a1) (by rw [a1]; omega) (by rw [a1]; omega) (by rw [a1]; intro hh; omega) ?_ (by omega) ?_
      · intro _
        refine ⟨by rw [hnext], ?_⟩
        have := a4 hlive
        by_cases hjc : cj.ln = c.ln
        · have := hsame hjc; subst this; omega
        · have := (hdiff hjc).2; omega
      · have := a5 hlt
        rw [hpos]
        exact chain_append hch (chain_single (by simp only; omega) (by simp only; omega) (by simp only; omega))

theorem segments_len {r : BlockReader} {c : BCur} (h : RS src segs r c) :
    (BCur.k segs - c.ln).toNat < r.segments.length + 2 := by
  have := h.abs.wf.ln0
  rw [h.abs.segments]; simp only [BCur.k]; omega

theorem parseTag_post (W : WFSegs src segs) (Z : ∀ s ∈ segs, s.padding = 0) (matcher : Bytes → Option Nat)
    (hm : ∀ s n, matcher s = some n → 1 ≤ n ∧ n ≤ s.length)
    {r : BlockReader} {c : BCur} (h : RS src segs r c) (hk : c.ln < BCur.k segs) :
    RPost src segs c (parseTag matcher r) := by
  have F := segFacts W
  obtain ⟨st, hst, hlen⟩ := runeStream_post F Z (rdFuel r) (acc := []) h (rdFuel_gt W Z h)
  obtain ⟨r2, s1, s2⟩ := setPosition_restore F h h
  unfold parseTag
  simp only [hst, bind, Except.bind, s1]
  cases hmt : matcher st with
  | none =>
    simp only [pure, Except.pure]
    exact ⟨none, r2, c, rfl, s2, Int.le_refl _, Int.le_refl _, by simp⟩
  | some n =>
    obtain ⟨n1, n2⟩ := hm st n hmt
    simp only [List.length_nil, Int.natCast_zero, Int.zero_add] at hlen
    obtain ⟨r3, ce, e1, e2, e3, e4, e5, e6⟩ := advance_ok F Z s2 (n := (n : Int)) (by omega) (by omega)
    obtain ⟨r4, t1, t2⟩ := setPosition_restore F h e2
    simp only [e1, t1]
    have hcek : ce.ln < BCur.k segs := by
      rw [e6]; exact advN_ln_lt F Z _ h.abs.wf h.pad (by omega) hk
    have hpos3 := (peekLine_facts F e2).2
    obtain ⟨sg, rd', c', g1, g2, g3, g4, g5, g6⟩ := rhSegments_post F Z h.abs.wf e2.abs.wf hcek e2.pad e4 (by omega)
      r3.pos (by rw [hpos3]) r.pos (by rw [(peekLine_facts F h).2]) (r4.segments.length + 2) (acc := []) t2
      (segments_len t2) e4 (Int.le_refl _) (fun _ => rfl) (fun hh => absurd rfl hh) (Int.le_refl _)
      (by simp [chain])
    simp only [BlockReader.position, h.abs.line, e2.abs.line] at g1 ⊢
    simp only [g1, pure, Except.pure]
    refine ⟨_, rd', c', rfl, g2, g3, g4, ?_⟩
    intro nd hn
    simp at hn; subst hn
    exact ⟨g6, by simpa [segsOf] using g5, by simp [wf]⟩

theorem isPrefixOf_len {p l : Bytes} (h : p.isPrefixOf l = true) : p.length ≤ l.length :=
  List.IsPrefix.length_le (List.isPrefixOf_iff_prefix.mp h)

theorem parseRawHTML_post (W : WFSegs src segs) (Z : ∀ s ∈ segs, s.padding = 0)
    {r : BlockReader} {c : BCur} (h : RS src segs r c) {b : UInt8} {l : Bytes}
    (hv : BCur.view src segs c = some (b :: l)) : RPost src segs c (parseRawHTML r) := by
  have F := segFacts W
  obtain ⟨hpl, hpos⟩ := peekLine_facts F h
  obtain ⟨v1, v2, v3, v4, v5, v6, v7, v8⟩ := view_some F h.abs.wf h.pad hv
  have hnone : RPost src segs c (.ok (none, r)) := ⟨none, r, c, rfl, h, Int.le_refl _, Int.le_refl _, by simp⟩
  have huntil : ∀ (closer : Bytes) (offset : Nat), 1 ≤ closer.length → offset ≤ (b :: l).length →
      ∃ res rd' c', rhUntil closer r.position.1 r.position.2 (r.segments.length + 2) offset r [] = .ok (res, rd') ∧
        RS src segs rd' c' ∧ c.p ≤ c'.p ∧ c.ln ≤ c'.ln ∧
        (match res with
          | none => True
          | some sg => chain c.p c'.p sg ∧ BCur.remaining segs c' + 1 ≤ BCur.remaining segs c) := by
    intro closer offset hc ho
    exact rhUntil_post F Z closer hc h (r.segments.length + 2) (offset := offset)
      (acc := []) h (segments_len h) (Int.le_refl _) (Int.le_refl _) (Int.le_refl _)
      (fun line hl => by rw [hv] at hl; simp at hl; subst hl; exact ho) (fun _ => by simp [chain])
  have hfin : ∀ {res : Option (List Segment)} {rd' : BlockReader} {c' : BCur}, RS src segs rd' c' → c.p ≤ c'.p →
      c.ln ≤ c'.ln →
      (match res with
        | none => True
        | some sg => chain c.p c'.p sg ∧ BCur.remaining segs c' + 1 ≤ BCur.remaining segs c) →
      ∀ (n : Option Node), (n = match res with | some sgs => some (Node.rawHTML sgs) | none => none) →
      RPost src segs c (.ok (n, rd')) := by
    intro res rd' c' g2 g3 g4 g5 n hn
    cases res with
    | none => subst hn; exact ⟨none, rd', c', rfl, g2, g3, g4, by simp⟩
    | some sgs =>
      simp only at g5 hn
      subst hn
      refine ⟨_, rd', c', rfl, g2, g3, g4, ?_⟩
      intro nd hn
      simp at hn; subst hn
      exact ⟨g5.2, by simpa [segsOf] using g5.1, by simp [wf]⟩
  unfold parseRawHTML
  simp only [hpl, hv, bind, Except.bind, Option.getD_some, pure, Except.pure]
  have hadv : ∀ (n : Nat), 1 ≤ n → n ≤ (b :: l).length →
      ∃ r' c', BlockReader.advance (n : Int) r = .ok r' ∧ RS src segs r' c' ∧ c.p + n ≤ c'.p ∧ c.ln ≤ c'.ln ∧
        BCur.remaining segs c' = BCur.remaining segs c - n := by
    intro n hn1 hn2
    obtain ⟨r', c', e1, e2, e3, e4, e5, _⟩ := advance_ok F Z h (n := (n : Int)) (by omega) (by omega)
    exact ⟨r', c', e1, e2, e5, e4, e3⟩
  have hadvfin : ∀ (n : Nat), 1 ≤ n → ∀ {r' : BlockReader} {c' : BCur}, RS src segs r' c' → c.p + n ≤ c'.p →
      c.ln ≤ c'.ln → BCur.remaining segs c' = BCur.remaining segs c - n →
      RPost src segs c (.ok (some (Node.rawHTML [r.pos.withStop (r.pos.start + n)]), r')) := by
    intro n hn1 r' c' e2 e5 e4 e3
    refine ⟨_, r', c', rfl, e2, by omega, e4, ?_⟩
    intro nd hnd
    simp at hnd; subst hnd
    refine ⟨by omega, ?_, by simp [wf]⟩
    simp only [segsOf, hpos, Segment.withStop]
    exact chain_single (by simp only; omega) (by simp only; omega) (by simp only; omega)
  refine RPost.ite (fun _ => parseTag_post W Z _ (fun s n => matchOpenTag_bound) h v1) fun _ => ?_
  refine RPost.ite (fun _ => parseTag_post W Z _ (fun s n => matchCloseTag_bound) h v1) fun _ => ?_
  refine RPost.ite (fun hp => ?_) fun _ => ?_
  · have hl4 := isPrefixOf_len hp
    refine RPost.ite (fun hp5 => ?_) fun _ => RPost.ite (fun hp6 => ?_) fun _ => ?_
    · obtain ⟨r', c', e1, e2, e5, e4, e3⟩ := hadv 5 (by omega) (isPrefixOf_len hp5)
      have e1' : BlockReader.advance 5 r = .ok r' := by exact_mod_cast e1
      rw [e1']
      exact_mod_cast hadvfin 5 (by omega) e2 e5 e4 e3
    · obtain ⟨r', c', e1, e2, e5, e4, e3⟩ := hadv 6 (by omega) (isPrefixOf_len hp6)
      have e1' : BlockReader.advance 6 r = .ok r' := by exact_mod_cast e1
      rw [e1']
      exact_mod_cast hadvfin 6 (by omega) e2 e5 e4 e3
    · obtain ⟨res, rd', c', g1, g2, g3, g4, g5⟩ := huntil bCloseComment 4 (by simp [bCloseComment]) (by simpa [bOpenComment] using hl4)
      rw [g1]
      cases res with
      | none => exact hfin (res := none) g2 g3 g4 g5 none rfl
      | some sgs => exact hfin (res := some sgs) g2 g3 g4 g5 _ rfl
  · refine RPost.ite (fun _ => ?_) fun _ => RPost.ite (fun _ => ?_) fun _ => RPost.ite (fun _ => ?_) fun _ => hnone
    · obtain ⟨res, rd', c', g1, g2, g3, g4, g5⟩ := huntil bClosePI 0 (by simp [bClosePI]) (Nat.zero_le _)
      rw [g1]
      cases res with
      | none => exact hfin (res := none) g2 g3 g4 g5 none rfl
      | some sgs => exact hfin (res := some sgs) g2 g3 g4 g5 _ rfl
    · obtain ⟨res, rd', c', g1, g2, g3, g4, g5⟩ := huntil [62] 0 (by simp) (Nat.zero_le _)
      rw [g1]
      cases res with
      | none => exact hfin (res := none) g2 g3 g4 g5 none rfl
      | some sgs => exact hfin (res := some sgs) g2 g3 g4 g5 _ rfl
    · obtain ⟨res, rd', c', g1, g2, g3, g4, g5⟩ := huntil bCloseCDATA 0 (by simp [bCloseCDATA]) (Nat.zero_le _)
      rw [g1]
      cases res with
      | none => exact hfin (res := none) g2 g3 g4 g5 none rfl
      | some sgs => exact hfin (res := some sgs) g2 g3 g4 g5 _ rfl

end GM.Proof.InlinesTotal
