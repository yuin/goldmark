/-
  GM.Proof.QuoteSimFE1 — the unary facts `BPn` (flags) and `CHn` (children but the first) of GM.Proof.QuoteSimFinal for
  `Open` / `Continue` / `Close` of the block parsers. For `Open` / `Continue` they are read off the footprint `Grow`
  (GM.Proof.QuoteSimFoot: links and flags of old nodes untouched, new nodes unlinked and unflagged), for `Close` off
  `Edit` (GM.Proof.QuoteSimEdit). The tree operations keep the flags because no step of the generated relation `LinkB`
  (GM.Proof.BlocksStep) writes one (`LinkB.bpn`); `CHn` depends on the order of a children list, which `LinkB` does not
  record: a walk (`Keeps (CHI n0)`). `setextHeadingParser.Close` is excluded (it copies a flag and moves children).
-/
import GM.Proof.QuoteSimFinal
import GM.Proof.QuoteSimInv

namespace GM.Blocks
open GM GM.Text

/-! ## part 1: flags -/

theorem BPn.refl (n : List Node) : BPn n n :=
  ⟨Nat.le_refl _, fun _ _ => rfl, fun i hi => by rw [node_getD_ge n i hi]; rfl⟩

theorem BPn.trans {a b c : List Node} (h1 : BPn a b) (h2 : BPn b c) : BPn a c := by
  refine ⟨Nat.le_trans h1.1 h2.1, fun i hi => (h2.2.1 i (Nat.lt_of_lt_of_le hi h1.1)).trans (h1.2.1 i hi), fun i hi => ?_⟩
  by_cases hb : i < b.length
  · rw [h2.2.1 i hb]; exact h1.2.2 i hi
  · exact h2.2.2 i (Nat.le_of_not_lt hb)

theorem bpi_modPc (n0 : List Node) (f : Ctx → Ctx) : Keeps (BPI n0) (modPc f) := by
  intro s a s' hs h; cases h; exact hs

theorem bpn_set (n : List Node) (id : Nat) (x : Node) (hx : x.blankPrev = (n.getD id default).blankPrev) :
    BPn n (n.set id x) := by
  have key : ∀ i, ((n.set id x).getD i default).blankPrev = (n.getD i default).blankPrev := by
    intro i
    simp only [List.getD_eq_getElem?_getD, List.getElem?_set]
    by_cases hi : id = i
    · subst hi
      by_cases hl : id < n.length
      · simp only [hl, if_true, Option.getD_some]
        rw [hx]; simp [List.getD_eq_getElem?_getD]
      · simp [hl]
    · simp [hi]
  refine ⟨by simp, fun i _ => key i, fun i hi => ?_⟩
  rw [key i, node_getD_ge n i hi]; rfl

theorem bpi_modNode (n0 : List Node) (id : Nat) (f : Node → Node) (hf : ∀ n, (f n).blankPrev = n.blankPrev) :
    Keeps (BPI n0) (modNode id f) := by
  intro s a s' hs h
  cases h
  exact BPn.trans hs (bpn_set _ _ _ (hf _))

theorem bpn_append (n : List Node) (x : Node) (hx : x.blankPrev = false) : BPn n (n ++ [x]) := by
  refine ⟨by simp, fun i hi => ?_, fun i hi => ?_⟩
  · simp only [List.getD_eq_getElem?_getD]
    rw [List.getElem?_append_left hi]
  · simp only [List.getD_eq_getElem?_getD]
    rw [List.getElem?_append_right hi]
    by_cases h0 : i - n.length = 0
    · rw [h0]; simpa using hx
    · have : [x][i - n.length]? = none := by
        apply List.getElem?_eq_none; simp; omega
      rw [this]; rfl

theorem bpi_newNode (n0 : List Node) (n : Node) (hn : n.blankPrev = false) : Keeps (BPI n0) (newNode n) := by
  intro s a s' hs h
  cases h
  exact BPn.trans hs (bpn_append _ _ hn)

macro "bpk_step" : tactic =>
  `(tactic| first
    | walk_core
    | with_reducible apply bpi_modPc
    | ((with_reducible apply bpi_modNode); intro n; rfl)
    | ((with_reducible apply bpi_newNode); rfl)
    | apply_hyp)

macro "bpk" : tactic => `(tactic| repeat' bpk_step)

section
variable (n0 : List Node)

theorem bp_appendLine (id : Nat) (seg : Segment) : Keeps (BPI n0) (appendLine id seg) := by unfold appendLine; bpk

end

/-- the flags along the generated relation of GM.Proof.BlocksStep: no primitive step of `Open` / `Continue` or of a tree
    operation writes a flag, a pushed node has none -/
theorem LinkB.bpn {L : Nat → Nat → Prop} {Kw : Prop} {Lb : Option Block} {K : Kind → Prop} {W : Nat → Prop} {a b : St}
    (h : LinkB L Kw Lb K W a b) : BPn a.nodes b.nodes := by
  induction h with
  | step h =>
    induction h with
    | refl s => exact BPn.refl _
    | trans _ _ ih1 ih2 => exact ih1.trans ih2
    | rd s r' _ _ => exact BPn.refl _
    | key s pc' _ _ => exact BPn.refl _
    | write s id v _ h2 =>
      have h2 : LinesOnly v (s.nodes.getD id default) := h2
      exact bpn_set _ id v (by rw [h2])
    | push s n h1 => exact bpn_append _ n h1.1.blankPrev
  | trans _ _ ih1 ih2 => exact ih1.trans ih2
  | kids s p cs _ => exact bpn_set _ p _ rfl
  | orphan s c => exact bpn_set _ c _ rfl
  | adopt s c p _ => exact bpn_set _ c _ rfl

theorem LinksB.bpi {L : Nat → Nat → Prop} {Kw : Prop} {Lb : Option Block} {K : Kind → Prop} {W : Nat → Prop} {α} {m : M α}
    (hm : LinksB L Kw Lb K W m) (n0 : List Node) : Keeps (BPI n0) m :=
  fun s a s' hs e => BPn.trans hs (LinkB.bpn (hm.h s a s' e))

section
variable (n0 : List Node)

theorem bp_removeChild (p c : Nat) : Keeps (BPI n0) (removeChild p c) :=
  LinksB.bpi (L := fun _ _ => True) (Kw := False) (Lb := none) (K := fun _ => False) (W := fun _ => False)
    (removeChild_linksF p c) n0
theorem bp_appendChild (p c : Nat) : Keeps (BPI n0) (appendChild p c) :=
  LinksB.bpi (L := fun _ _ => True) (Kw := False) (Lb := none) (K := fun _ => False) (W := fun _ => False)
    (appendChild_linksF trivial) n0
theorem bp_nextSibling (c : Nat) : Keeps (BPI n0) (nextSibling c) := nextSibling_keeps c
theorem bp_insertAfter (p : Nat) (v1 : Option Nat) (ins : Nat) : Keeps (BPI n0) (insertAfter p v1 ins) :=
  LinksB.bpi (L := fun _ _ => True) (Kw := False) (Lb := none) (K := fun _ => False) (W := fun _ => False)
    (insertAfter_linksF v1 trivial) n0

end

theorem Edit.bpn {w : Nat} {B : Nat → Prop} {K : Kind → Prop} {n n' : List Node} (h : Edit w B K n n')
    (hB : ∀ i, ¬ B i) : BPn n n' := by
  refine ⟨h.len, fun i hi => h.flag i hi (hB i), fun i hi => ?_⟩
  by_cases h1 : i < n'.length
  · exact (h.new i hi h1).2 (hB i)
  · rw [node_getD_ge _ i (Nat.le_of_not_lt h1)]; rfl

theorem bpn_of_keeps {α} {m : M α} (h : ∀ n0, Keeps (BPI n0) m) {s s' : St} {a : α} (e : m s = .ok (a, s')) :
    BPn s.nodes s'.nodes := h s.nodes s a s' (BPn.refl _) e

theorem bpn_of_bpOpen (bp : BP) (p : Nat) {s s' : St} {a : Option Nat × PState} (e : bpOpen bp p s = .ok (a, s')) :
    BPn s.nodes s'.nodes := (bpOpen_edit bp p e 0).bpn (fun _ h => h)

theorem bpn_of_bpContinue (bp : BP) (n : Nat) {s s' : St} {a : PState} (e : bpContinue bp n s = .ok (a, s')) :
    BPn s.nodes s'.nodes := (bpContinue_edit bp n e).bpn (fun _ h => h)

/-- `Close` of every block parser but the setext parser (`setextClose` copies the flag of the temporary paragraph) -/
theorem bpn_of_bpClose (bp : BP) (h : bp ≠ .setext) (n : Nat) {s s' : St} {a : Unit}
    (e : bpClose bp n s = .ok (a, s')) : BPn s.nodes s'.nodes :=
  (bpClose_foot bp n e).nodes.bpn (fun _ hb => h hb.1)

theorem bpn_bpClose (bp : BP) (h : bp ≠ .setext) (n : Nat) : ∀ n0, Keeps (BPI n0) (bpClose bp n) :=
  fun _ _ _ _ hs e => BPn.trans hs (bpn_of_bpClose bp h n e)


/-! ## part 2: children but the first -/

theorem CHn.refl (n : List Node) : CHn n n := ⟨Nat.le_refl _, fun _ _ _ hc => Or.inl hc⟩

theorem CHn.trans {a b c : List Node} (h1 : CHn a b) (h2 : CHn b c) : CHn a c := by
  refine ⟨Nat.le_trans h1.1 h2.1, fun q hq x hx => ?_⟩
  rcases h2.2 q hq x hx with h | h
  · exact h1.2 q hq x h
  · exact Or.inr (Nat.le_trans h1.1 h)

/-- the general form: a child that is not the first afterwards was not the first before, or satisfies `P` -/
def Gn (P : Nat → Prop) (n n' : List Node) : Prop :=
  n.length ≤ n'.length ∧
    ∀ q, q ≠ 0 → ∀ c ∈ (n'.getD q default).children.drop 1, c ∈ (n.getD q default).children.drop 1 ∨ P c

def GI (P : Nat → Prop) (n0 : List Node) : St → Prop := fun s => Gn P n0 s.nodes

theorem Gn.refl (P : Nat → Prop) (n : List Node) : Gn P n n := ⟨Nat.le_refl _, fun _ _ _ hc => Or.inl hc⟩

theorem Gn.trans {P : Nat → Prop} {a b c : List Node} (h1 : Gn P a b) (h2 : Gn P b c) : Gn P a c := by
  refine ⟨Nat.le_trans h1.1 h2.1, fun q hq x hx => ?_⟩
  rcases h2.2 q hq x hx with h | h
  · exact h1.2 q hq x h
  · exact Or.inr h

theorem chn_iff_gn (n n' : List Node) : CHn n n' ↔ Gn (fun c => n.length ≤ c) n n' := Iff.rfl

theorem node_getD_set_proj {β : Type} (π : Node → β) (n : List Node) (id : Nat) (x : Node)
    (h : π x = π (n.getD id default)) (q : Nat) : π ((n.set id x).getD q default) = π (n.getD q default) := by
  rw [node_getD_set]
  split
  · rename_i h'; rw [← h'.1]; exact h
  · rfl

theorem gi_modPc (P : Nat → Prop) (n0 : List Node) (f : Ctx → Ctx) : Keeps (GI P n0) (modPc f) := by
  intro s a s' hs h; cases h; exact hs

theorem gn_set (P : Nat → Prop) (n : List Node) (id : Nat) (x : Node)
    (hx : ∀ c ∈ x.children.drop 1, c ∈ (n.getD id default).children.drop 1 ∨ P c) : Gn P n (n.set id x) := by
  refine ⟨by simp, fun q _ c hc => ?_⟩
  rw [node_getD_set] at hc
  split at hc
  · rename_i h'; rw [← h'.1]; exact hx c hc
  · exact Or.inl hc

theorem gi_modNode (P : Nat → Prop) (n0 : List Node) (id : Nat) (f : Node → Node)
    (hf : ∀ n, ∀ c ∈ (f n).children.drop 1, c ∈ n.children.drop 1 ∨ P c) : Keeps (GI P n0) (modNode id f) := by
  intro s a s' hs h
  cases h
  exact Gn.trans hs (gn_set P _ _ _ (hf _))

theorem gn_append (P : Nat → Prop) (n : List Node) (x : Node) (hx : x.children = []) : Gn P n (n ++ [x]) := by
  refine ⟨by simp, fun q _ c hc => ?_⟩
  by_cases hq : q < n.length
  · simp only [List.getD_eq_getElem?_getD] at hc ⊢
    rw [List.getElem?_append_left hq] at hc
    exact Or.inl hc
  · exfalso
    simp only [List.getD_eq_getElem?_getD] at hc
    rw [List.getElem?_append_right (Nat.le_of_not_lt hq)] at hc
    by_cases h0 : q - n.length = 0
    · rw [h0] at hc; simp [hx] at hc
    · have : [x][q - n.length]? = none := by
        apply List.getElem?_eq_none; simp; omega
      rw [this] at hc
      exact absurd hc (by simp [show (default : Node).children = [] from rfl])

theorem gi_newNode (P : Nat → Prop) (n0 : List Node) (n : Node) (hn : n.children = []) :
    Keeps (GI P n0) (newNode n) := by
  intro s a s' hs h
  cases h
  exact Gn.trans hs (gn_append P _ _ hn)

theorem mem_drop_erase {l : List Nat} {c x : Nat} (h : x ∈ (l.erase c).drop 1) : x ∈ l.drop 1 := by
  cases l with
  | nil => simp at h
  | cons a t =>
    rw [List.erase_cons] at h
    split at h
    · simp only [List.drop_succ_cons, List.drop_zero]
      exact List.mem_of_mem_drop h
    · simp only [List.drop_succ_cons, List.drop_zero] at h ⊢
      exact List.mem_of_mem_erase h

theorem mem_drop_append {l : List Nat} {c x : Nat} (h : x ∈ (l ++ [c]).drop 1) : x ∈ l.drop 1 ∨ x = c := by
  cases l with
  | nil => simp at h
  | cons a t =>
    simp only [List.cons_append, List.drop_succ_cons, List.drop_zero, List.mem_append, List.mem_singleton] at h ⊢
    exact h

theorem mem_insBefore_fe {v ins x : Nat} : ∀ {l : List Nat}, x ∈ insertBeforeIn v ins l → x = ins ∨ x ∈ l :=
  qs_mem_insertBeforeIn

/-- `ReplaceChild` on the list: all elements but the first are old ones (not the first) or the new node -/
theorem mem_drop_replace {l : List Nat} {gc tb x : Nat} (h : x ∈ ((insertBeforeIn gc tb l).erase gc).drop 1) :
    x ∈ l.drop 1 ∨ x = tb := by
  cases l with
  | nil =>
    simp only [insertBeforeIn, List.erase_cons] at h
    split at h <;> simp at h
  | cons a t =>
    unfold insertBeforeIn at h
    split at h
    · rename_i hag
      rw [List.erase_cons] at h
      split at h
      · exact Or.inl h
      · rw [List.erase_cons, if_pos hag] at h
        exact Or.inl h
    · rename_i hag
      rw [List.erase_cons, if_neg hag] at h
      simp only [List.drop_succ_cons, List.drop_zero] at h ⊢
      rcases mem_insBefore_fe (List.mem_of_mem_erase h) with h | h
      · exact Or.inr h
      · exact Or.inl h

macro "chk_step" : tactic =>
  `(tactic| first
    | walk_core
    | with_reducible apply gi_modPc
    | ((with_reducible apply gi_modNode); intro n c hc; first | exact Or.inl hc | exact Or.inl (mem_drop_erase hc))
    | ((with_reducible apply gi_newNode); rfl)
    | apply_hyp)

macro "chk" : tactic => `(tactic| repeat' chk_step)

section
variable (P : Nat → Prop) (n0 : List Node)

theorem ch_appendLine (id : Nat) (seg : Segment) : Keeps (GI P n0) (appendLine id seg) := by unfold appendLine; chk
theorem ch_removeChild (p c : Nat) : Keeps (GI P n0) (removeChild p c) := by unfold removeChild; chk
theorem ch_ensureIsolated (c : Nat) : Keeps (GI P n0) (ensureIsolated c) := by
  have := ch_removeChild P n0; unfold ensureIsolated; chk
theorem ch_appendChild (p c : Nat) (hP : P c) : Keeps (GI P n0) (appendChild p c) := by
  have := ch_ensureIsolated P n0; unfold appendChild
  apply Keeps.bind (this c); intro _
  apply Keeps.bind
  · apply gi_modNode; intro n x hx
    rcases mem_drop_append hx with h | h
    · exact Or.inl h
    · exact Or.inr (h ▸ hP)
  · intro _; chk
theorem ch_paragraphClose (n : Nat) : Keeps (GI P n0) (paragraphClose n) := by
  have := ch_removeChild P n0; unfold paragraphClose; chk
theorem ch_codeClose (n : Nat) : Keeps (GI P n0) (codeClose n) := by unfold codeClose; chk
theorem ch_fencedClose (n : Nat) : Keeps (GI P n0) (fencedClose n) := by unfold fencedClose; chk

end


/-! ### `ReplaceChild` with a fresh node, as a unit -/

theorem ch_removeChild' (P : Nat → Prop) (n0 : List Node) (p c : Nat) : Keeps (GI P n0) (removeChild p c) :=
  ch_removeChild P n0 p c

theorem modNode_getD {id : Nat} {f : Node → Node} {s s' : St} {a : Unit} (e : modNode id f s = .ok (a, s')) (q : Nat) :
    s'.nodes.getD q default = if id = q ∧ id < s.nodes.length then f (s.nodes.getD id default) else s.nodes.getD q default := by
  cases e; exact node_getD_set _ _ _ _

theorem modNode_len {id : Nat} {f : Node → Node} {s s' : St} {a : Unit} (e : modNode id f s = .ok (a, s')) :
    s'.nodes.length = s.nodes.length := by
  cases e; simp

theorem modNode_proj {β : Type} (π : Node → β) {id : Nat} {f : Node → Node} {s s' : St} {a : Unit}
    (e : modNode id f s = .ok (a, s')) (hf : ∀ n, π (f n) = π n) (q : Nat) :
    π (s'.nodes.getD q default) = π (s.nodes.getD q default) := by
  rw [modNode_getD e]
  split
  · rename_i h; rw [hf, h.1]
  · rfl

theorem replaceChild_fresh {s1 s' : St} {child gc tb : Nat} {a : Unit}
    (hp : (s1.nodes.getD tb default).parent = none) (e : replaceChild child gc tb s1 = .ok (a, s')) :
    Gn (fun c => c = tb) s1.nodes s'.nodes := by
  unfold replaceChild at e
  obtain ⟨_, s2, e1, e2⟩ := bind_inv_u e
  clear e
  unfold insertBefore at e1
  simp only at e1
  obtain ⟨vn, t, ev, f1⟩ := bind_inv_u e1
  clear e1
  cases ev
  split at f1
  · -- `gc` is not a child of `child`: AppendChild, then RemoveChild does nothing or erases
    have h1 := ch_appendChild (fun c => c = tb) s1.nodes child tb rfl s1 _ s2 (Gn.refl _ _) f1
    exact ch_removeChild (fun c => c = tb) s1.nodes child gc s2 _ s' h1 e2
  · rename_i hpar0
    have hpar : (s1.nodes.getD gc default).parent = some child := by
      simpa using hpar0
    clear hpar0
    obtain ⟨_, t1, ei, g1⟩ := bind_inv_u f1
    clear f1
    have ht1 : t1 = s1 := by
      unfold ensureIsolated at ei
      obtain ⟨cn, t, ec, ei⟩ := bind_inv_u ei
      cases ec
      simp only [hp] at ei
      cases ei; rfl
    clear ei
    subst ht1
    obtain ⟨_, t2, em1, em2⟩ := bind_inv_u g1
    clear g1
    -- t1 → t2: the children of `child`;  t2 → s2: the parent of `tb`
    have c1 := modNode_getD em1
    have p1 := modNode_proj (fun n => n.parent) em1 (fun _ => rfl)
    have l1 := modNode_len em1
    have c2 := modNode_proj (fun n => n.children) em2 (fun _ => rfl)
    have p2 := modNode_getD em2
    have l2 := modNode_len em2
    clear em1 em2
    unfold removeChild at e2
    obtain ⟨cn, t, ec, k2⟩ := bind_inv_u e2
    clear e2
    cases ec
    -- the parent of `gc` is still `child`
    have hpg : (s2.nodes.getD gc default).parent = some child := by
      rw [p2]
      split
      · rfl
      · rw [p1]; exact hpar
    split at k2
    · rename_i hc; rw [hpg] at hc; simp at hc
    · obtain ⟨_, t3, em3, em4⟩ := bind_inv_u k2
      clear k2
      have c3 := modNode_getD em3
      have l3 := modNode_len em3
      have c4 := modNode_proj (fun n => n.children) em4 (fun _ => rfl)
      have l4 := modNode_len em4
      clear em3 em4
      refine ⟨by rw [l4, l3, l2, l1]; exact Nat.le_refl _, fun q _ c hc => ?_⟩
      rw [c4, c3] at hc
      split at hc
      · rename_i hq
        change c ∈ ((s2.nodes.getD child default).children.erase gc).drop 1 at hc
        rw [c2, c1] at hc
        rw [← hq.1]
        split at hc
        · exact mem_drop_replace hc
        · exact Or.inl (mem_drop_erase hc)
      · rename_i hq
        rw [c2, c1] at hc
        split at hc
        · rename_i hq'
          exact absurd ⟨hq'.1, by rw [l2, l1]; exact hq'.2⟩ hq
        · exact Or.inl hc


/-- the invariant of part 2 in the general form -/
abbrev CG (n0 : List Node) : St → Prop := GI (fun c => n0.length ≤ c) n0

theorem chi_eq_cg (n0 : List Node) : CHI n0 = CG n0 := rfl

theorem cg_newReplace (n0 : List Node) (lit : Node) (hc : lit.children = []) (hp : lit.parent = none) (child gc : Nat)
    {α : Type} (k : Unit → M α) (hk : ∀ r, Keeps (CG n0) (k r)) :
    Keeps (CG n0) (newNode lit >>= fun tb => replaceChild child gc tb >>= k) := by
  intro s a s' hs h
  obtain ⟨tb, s1, e1, e2⟩ := bind_inv_u h
  obtain ⟨r, s2, e2, e3⟩ := bind_inv_u e2
  refine hk r s2 a s' ?_ e3
  have h1 : CG n0 s1 := gi_newNode _ n0 lit hc s tb s1 hs e1
  have htb : n0.length ≤ tb := by cases e1; exact hs.1
  have hpar : (s1.nodes.getD tb default).parent = none := by
    cases e1
    simp only [List.getD_eq_getElem?_getD]
    rw [List.getElem?_append_right (Nat.le_refl _)]
    simpa using hp
  have hJ := replaceChild_fresh hpar e2
  refine ⟨Nat.le_trans h1.1 hJ.1, fun q hq c hcm => ?_⟩
  rcases hJ.2 q hq c hcm with h | h
  · exact h1.2 q hq c h
  · exact Or.inr (h ▸ htb)

section
variable (n0 : List Node)

theorem cg_tightenItem (child : Nat) : ∀ gcs : List Nat, Keeps (CG n0) (tightenItem child gcs) := by
  intro gcs
  induction gcs with
  | nil => unfold tightenItem; exact Keeps.pure _
  | cons gc gcs ih =>
    unfold tightenItem
    refine Keeps.bind (getNode_keeps _) (fun g => ?_)
    simp only
    split
    · exact cg_newReplace n0 _ rfl rfl child gc _ (fun _ => ih)
    · exact ih

theorem cg_tightenItems : ∀ cs : List Nat, Keeps (CG n0) (tightenItems cs) := by
  have := cg_tightenItem n0
  intro cs
  induction cs with
  | nil => unfold tightenItems; exact Keeps.pure _
  | cons c cs ih => unfold tightenItems; chk

theorem cg_listClose (n : Nat) : Keeps (CG n0) (listClose n) := by
  have := cg_tightenItems n0; unfold listClose; chk

end

/-- the children lists of old nodes are kept, new nodes have none -/
theorem Grow.gn {W : Nat → Prop} {K : Kind → Prop} {n n' : List Node} (h : Grow W K n n') (P : Nat → Prop) :
    Gn P n n' := by
  refine ⟨h.len, fun q _ c hc => ?_⟩
  by_cases h0 : q < n.length
  · rw [h.children h0] at hc; exact .inl hc
  · exfalso
    by_cases h1 : q < n'.length
    · rw [(h.new q (Nat.le_of_not_lt h0) h1).1.children] at hc; cases hc
    · rw [node_getD_ge _ q (Nat.le_of_not_lt h1)] at hc; cases hc

/-- `Close` of every block parser but the setext parser (`setextClose` moves children); no extra hypotheses:
    `paragraphClose` only removes a child, `listClose` only replaces children by fresh nodes -/
theorem chn_bpClose (bp : BP) (h : bp ≠ .setext) (n : Nat) : ∀ n0, Keeps (CHI n0) (bpClose bp n) := by
  intro n0
  show Keeps (CG n0) _
  cases bp <;> unfold bpClose
  · exact absurd rfl h
  · exact Keeps.pure _
  · exact cg_listClose n0 n
  · exact Keeps.pure _
  · exact ch_codeClose _ n0 n
  · exact Keeps.pure _
  · exact ch_fencedClose _ n0 n
  · exact Keeps.pure _
  · exact Keeps.pure _
  · exact ch_paragraphClose _ n0 n

theorem chn_of_keeps {α} {m : M α} (h : ∀ n0, Keeps (CHI n0) m) {s s' : St} {a : α} (e : m s = .ok (a, s')) :
    CHn s.nodes s'.nodes := h s.nodes s a s' (CHn.refl _) e

theorem chn_of_bpOpen (bp : BP) (p : Nat) {s s' : St} {a : Option Nat × PState} (e : bpOpen bp p s = .ok (a, s')) :
    CHn s.nodes s'.nodes := (bpOpen_foot bp p e).1.nodes.gn _

theorem chn_of_bpContinue (bp : BP) (n : Nat) {s s' : St} {a : PState} (e : bpContinue bp n s = .ok (a, s')) :
    CHn s.nodes s'.nodes := (bpContinue_foot bp n e).nodes.gn _

theorem chn_of_bpClose (bp : BP) (h : bp ≠ .setext) (n : Nat) {s s' : St} {a : Unit}
    (e : bpClose bp n s = .ok (a, s')) : CHn s.nodes s'.nodes := chn_of_keeps (chn_bpClose bp h n) e


end GM.Blocks
