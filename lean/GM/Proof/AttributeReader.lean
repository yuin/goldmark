/-
  GM.Proof.AttributeReader — the closed-form reader of GM.Model.Attribute (peekAt / adv / restLine / skipWs / lineOf)
  IS the source-reader cursor `RCur` of C18 (GM.Spec.Cursor) without virtual padding: each of the six Reader calls
  attribute.go makes, taken as a step of the cursor, returns the closed form and keeps the cursor `Flat`.
  With C18 (`reader_refines`: GM.Model.Reader, the field-by-field model of text/reader.go, refines the cursor) the
  same holds of the reader model that component `reader` ties to the Go code.
-/
import GM.Proof.Attribute
import GM.Proof.ReaderFuel
namespace GM.Proof.AttributeReader
open GM GM.Attr GM.Text GM.Spec GM.Proof.Attribute

theorem adv1_pad0 (src : Bytes) (c : RCur) (hpad : c.pad = 0) (hp : c.p < src.length) :
    (RCur.adv1 src c).p = c.p + 1 ∧ (RCur.adv1 src c).pad = 0 := by
  simp [RCur.adv1, hp, hpad]

/-- Advance(n) -/
theorem advN_bridge (src : Bytes) (n : Nat) : ∀ (c : RCur), c.pad = 0 → c.p ≤ src.length →
    (RCur.advN src n c).p = adv src c.p n ∧ (RCur.advN src n c).pad = 0 := by
  induction n with
  | zero => intro c hpad hp; simp [RCur.advN, adv, hp, hpad]
  | succ n ih =>
    intro c hpad hp
    simp only [RCur.advN]
    by_cases hlt : c.p < src.length
    · obtain ⟨h1, h2⟩ := adv1_pad0 src c hpad hlt
      obtain ⟨h3, h4⟩ := ih (RCur.adv1 src c) h2 (by omega)
      refine ⟨?_, h4⟩
      rw [h3, h1]
      unfold adv
      split <;> split <;> omega
    · rw [Reader.adv1_eof src c hlt, Reader.advN_eof src n c hlt]
      refine ⟨?_, hpad⟩
      unfold adv
      split <;> omega

theorem advN_add (src : Bytes) (a b : Nat) (c : RCur) : RCur.advN src (a + b) c = RCur.advN src b (RCur.advN src a c) := by
  induction a generalizing c with
  | zero => simp [RCur.advN]
  | succ a ih => rw [Nat.add_right_comm]; simp only [RCur.advN]; exact ih _

theorem lineEnd_eq (src : Bytes) (p : Nat) (hp : p ≤ src.length) : lineEnd src p = p + lineLen (src.drop p) := by
  simp [lineEnd, hp]

/-- PeekLine -/
theorem view_bridge (src : Bytes) (c : RCur) (hpad : c.pad = 0) :
    RCur.view src c = if c.p < src.length then some (restLine src c.p) else none := by
  unfold RCur.view
  split
  · rename_i hp
    rw [hpad, lineEnd_eq src c.p (by omega)]
    simp [spaces, sub, restLine]
  · rfl

theorem restLine_head (src : Bytes) (p : Nat) (hp : p < src.length) :
    ∃ bs, restLine src p = peekAt src p :: bs := by
  have hpe : peekAt src p = src[p]'hp := by simp [peekAt, hp]
  have hd : src.drop p = src[p]'hp :: src.drop (p + 1) := List.drop_eq_getElem_cons hp
  have hpos : 0 < lineLen (src.drop p) := Reader.lineLen_pos (fun e => by have := congrArg List.length e; simp at this; omega)
  obtain ⟨k, hk⟩ : ∃ k, lineLen (src.drop p) = k + 1 := ⟨_, (Nat.succ_pred_eq_of_pos hpos).symm⟩
  refine ⟨(src.drop (p + 1)).take k, ?_⟩
  unfold restLine
  rw [hk, hpe, hd]
  all_goals first | rfl | exact hp

/-- Peek -/
theorem peek_bridge (src : Bytes) (c : RCur) (hpad : c.pad = 0) : RCur.peek src c = peekAt src c.p := by
  unfold RCur.peek
  rw [view_bridge src c hpad]
  by_cases hp : c.p < src.length
  · obtain ⟨bs, hbs⟩ := restLine_head src c.p hp
    simp only [hp, if_true, hbs]
  · simp only [hp, if_false]
    simp [peekAt, List.getElem?_eq_none (Nat.le_of_not_lt hp)]

theorem takeWhile_append_all (q : UInt8 → Bool) (l t : Bytes) (h : l.all q = true) :
    (l ++ t).takeWhile q = l ++ t.takeWhile q := by
  induction l with
  | nil => rfl
  | cons a l ih =>
    simp only [List.all_cons, Bool.and_eq_true] at h
    simp [h.1, ih h.2]

theorem takeWhile_append_notall (q : UInt8 → Bool) (l t : Bytes) (h : l.all q = false) :
    (l ++ t).takeWhile q = l.takeWhile q := by
  induction l with
  | nil => simp at h
  | cons a l ih =>
    by_cases ha : q a = true
    · simp only [List.all_cons, ha, Bool.true_and] at h
      simp [ha, ih h]
    · simp [ha]

theorem takeWhile_all_eq (q : UInt8 → Bool) (l : Bytes) (h : l.all q = true) : l.takeWhile q = l := by
  induction l with
  | nil => rfl
  | cons a l ih =>
    simp only [List.all_cons, Bool.and_eq_true] at h
    simp [h.1, ih h.2]

/-- the inner loop of SkipSpaces over (the rest of) a line that lies at the cursor -/
theorem skipSpacesLine_bridge (src : Bytes) (seg : Segment) (l : Bytes) : ∀ (i chars : Int) (c : RCur) (t : Bytes),
    c.pad = 0 → src.drop c.p = l ++ t →
    ∃ res ch c', skipSpacesLine (RCur.ops src) seg l i chars c = .ok (res, ch, c') ∧
      c' = RCur.advN src (l.takeWhile isSpace).length c ∧
      ((res = none ∧ l.all isSpace = true) ∨ (res ≠ none ∧ l.all isSpace = false)) := by
  induction l with
  | nil => intro i chars c t _ _; exact ⟨none, chars, c, rfl, rfl, .inl ⟨rfl, rfl⟩⟩
  | cons b bs ih =>
    intro i chars c t hpad hdrop
    simp only [skipSpacesLine]
    by_cases hb : isSpace b = true
    · simp only [hb, if_true]
      have hadv : (RCur.ops src).advance 1 c = .ok (RCur.advN src 1 c) := Proof.Reader.rcur_advance_ok src 1 c
      rw [hadv]
      simp only [bind, Except.bind]
      have hlt : c.p < src.length := by
        have := congrArg List.length hdrop
        simp at this
        omega
      have h1 : RCur.advN src 1 c = RCur.adv1 src c := rfl
      obtain ⟨hp1, hpad1⟩ := adv1_pad0 src c hpad hlt
      have hdrop1 : src.drop (RCur.advN src 1 c).p = bs ++ t := by
        rw [h1, hp1]
        have := congrArg (List.drop 1) hdrop
        simpa [List.drop_drop, Nat.add_comm] using this
      obtain ⟨res, ch, c', e1, e2, e3⟩ := ih (i + 1) (chars + 1) (RCur.advN src 1 c) t (by rw [h1]; exact hpad1) hdrop1
      refine ⟨res, ch, c', e1, ?_, ?_⟩
      · rw [e2, List.takeWhile_cons, hb]
        simp only [if_true, List.length_cons]
        rw [Nat.add_comm, advN_add]
      · simpa [List.all_cons, hb] using e3
    · simp only [hb, Bool.false_eq_true, if_false]
      refine ⟨_, _, _, rfl, ?_, .inr ⟨by simp, by simp [List.all_cons, hb]⟩⟩
      simp [hb, RCur.advN]

/-- SkipSpaces: the cursor moves over exactly the util.IsSpace bytes in front of it (across line ends) -/
theorem skipSpaces_bridge (src : Bytes) (fuel : Nat) : ∀ (chars : Int) (c : RCur), c.pad = 0 → c.p ≤ src.length →
    src.length - c.p < fuel →
    ∃ r c', skipSpaces (RCur.ops src) fuel chars c = .ok (r, c') ∧
      c' = RCur.advN src ((src.drop c.p).takeWhile isSpace).length c := by
  induction fuel with
  | zero => intro _ c _ _ h; omega
  | succ fuel ih =>
    intro chars c hpad hc hf
    simp only [skipSpaces]
    have hpl : (RCur.ops src).peekLine c = .ok ((RCur.view src c, RCur.seg src c), c) := rfl
    rw [hpl]
    simp only [bind, Except.bind]
    rw [view_bridge src c hpad]
    by_cases hp : c.p < src.length
    · simp only [hp, if_true]
      have hsplit : src.drop c.p = restLine src c.p ++ src.drop (c.p + lineLen (src.drop c.p)) := by
        unfold restLine
        rw [← List.drop_drop, List.take_append_drop]
      obtain ⟨res, ch, c1, e1, e2, e3⟩ := skipSpacesLine_bridge src (RCur.seg src c) (restLine src c.p) 0 chars c _ hpad hsplit
      rw [e1]
      rcases e3 with ⟨hr, hall⟩ | ⟨hr, hall⟩
      · subst hr
        simp only []
        have hk : ((restLine src c.p).takeWhile isSpace).length = (restLine src c.p).length := by
          rw [takeWhile_all_eq _ _ hall]
        have hb := advN_bridge src (restLine src c.p).length c hpad hc
        rw [hk] at e2
        have hlen : (restLine src c.p).length = lineLen (src.drop c.p) := by
          unfold restLine
          have := Reader.lineLen_le (src.drop c.p)
          rw [List.length_take]
          simp only [List.length_drop] at this ⊢
          omega
        have hfit : c.p + (restLine src c.p).length ≤ src.length := by
          have := restLine_length_le src c.p; omega
        have hne := restLine_ne_nil src c.p hp
        have hpos : 0 < (restLine src c.p).length := List.length_pos_iff.mpr hne
        have hc1p : c1.p = c.p + (restLine src c.p).length := by rw [e2, hb.1, adv_eq src _ _ hfit]
        have hc1pad : c1.pad = 0 := by rw [e2]; exact hb.2
        obtain ⟨r, c', e4, e5⟩ := ih ch c1 hc1pad (by omega) (by omega)
        refine ⟨r, c', e4, ?_⟩
        have key := congrArg (fun x => (List.takeWhile isSpace x).length) hsplit
        rw [takeWhile_append_all _ _ _ hall, List.length_append] at key
        rw [e5, hc1p, hlen, key, hlen, e2, hlen, ← advN_add]
      · cases res with
        | none => exact absurd rfl hr
        | some v =>
          simp only []
          refine ⟨_, _, rfl, ?_⟩
          have key := congrArg (fun x => (List.takeWhile isSpace x).length) hsplit
          rw [takeWhile_append_notall _ _ _ hall] at key
          rw [e2, key]
    · simp only [hp, if_false]
      refine ⟨_, _, rfl, ?_⟩
      have : src.drop c.p = [] := List.drop_eq_nil_of_le (Nat.le_of_not_lt hp)
      simp [this, RCur.advN]

theorem lineOf_succ (src : Bytes) (p : Nat) (hp : p < src.length) :
    lineOf src (p + 1) = lineOf src p + (if src[p]? = some 10 then 1 else 0) := by
  unfold lineOf
  rw [List.take_add_one, List.getElem?_eq_getElem hp]
  simp only [Option.toList_some, List.filter_append, List.length_append, Option.some.injEq]
  by_cases h : src[p] = 10
  · simp [List.filter, h]
  · have : (src[p] == 10) = false := by simpa using h
    simp [List.filter, h, this]

/-- a cursor whose line number is the number of newlines in front of it -/
def LnOK (src : Bytes) (c : RCur) : Prop := c.ln = (lineOf src c.p : Int)

theorem adv1_ln (src : Bytes) (c : RCur) (hpad : c.pad = 0) (hl : LnOK src c) : LnOK src (RCur.adv1 src c) := by
  unfold LnOK at *
  by_cases hp : c.p < src.length
  · simp only [RCur.adv1, hp, hpad, if_true, ne_eq, not_true_eq_false, if_false]
    rw [lineOf_succ src c.p hp, hl]
    split <;> simp
  · rw [Reader.adv1_eof src c hp]; exact hl

theorem advN_ln (src : Bytes) (n : Nat) : ∀ (c : RCur), c.pad = 0 → c.p ≤ src.length → LnOK src c →
    LnOK src (RCur.advN src n c) := by
  induction n with
  | zero => intro c _ _ h; exact h
  | succ n ih =>
    intro c hpad hp hl
    simp only [RCur.advN]
    by_cases hlt : c.p < src.length
    · obtain ⟨h1, h2⟩ := adv1_pad0 src c hpad hlt
      exact ih _ h2 (by omega) (adv1_ln src c hpad hl)
    · rw [Reader.adv1_eof src c hlt]; exact ih c hpad hp hl

/-- the cursors the attribute parser runs on: no virtual padding, inside the source, line number in step -/
structure Flat (src : Bytes) (c : RCur) : Prop where
  pad : c.pad = 0
  inRange : c.p ≤ src.length
  ln : LnOK src c

theorem flat_init (src : Bytes) : Flat src RCur.init := ⟨rfl, Nat.zero_le _, by simp [LnOK, RCur.init, lineOf]⟩

theorem step_peek (src : Bytes) (c : RCur) (h : Flat src c) :
    RCur.step src c .peek = .ok (.byte (peekAt src c.p), c) := by
  simp only [RCur.step, peek_bridge src c h.pad]

theorem step_peekLine (src : Bytes) (c : RCur) (h : Flat src c) :
    RCur.step src c .peekLine =
      .ok (.line (if c.p < src.length then some (restLine src c.p) else none) (RCur.seg src c), c) := by
  simp only [RCur.step, RCur.peekLine, view_bridge src c h.pad]

theorem step_advance (src : Bytes) (c : RCur) (n : Nat) (h : Flat src c) :
    ∃ c', RCur.step src c (.advance n) = .ok (.unit, c') ∧ c'.p = adv src c.p n ∧ Flat src c' := by
  refine ⟨RCur.advN src n c, ?_, (advN_bridge src n c h.pad h.inRange).1, ?_⟩
  · simp [RCur.step, RCur.advance, bind, Except.bind, pure, Except.pure]
  · exact ⟨(advN_bridge src n c h.pad h.inRange).2,
      by rw [(advN_bridge src n c h.pad h.inRange).1]; exact adv_le src c.p n h.inRange,
      advN_ln src n c h.pad h.inRange h.ln⟩

theorem step_skipSpaces (src : Bytes) (c : RCur) (h : Flat src c) :
    ∃ r c', RCur.step src c .skipSpaces = .ok (.skip r, c') ∧ c'.p = skipWs src c.p ∧ Flat src c' := by
  obtain ⟨r, c', e1, e2⟩ := skipSpaces_bridge src (loopFuel src) 0 c h.pad h.inRange
    (by have := Proof.Reader.loopFuel_gt src c.p; omega)
  have hk : c.p + ((src.drop c.p).takeWhile isSpace).length ≤ src.length := by
    have := takeWhile_length_le isSpace (src.drop c.p)
    simp only [List.length_drop] at this
    have := h.inRange
    omega
  have hb := advN_bridge src ((src.drop c.p).takeWhile isSpace).length c h.pad h.inRange
  refine ⟨r, c', ?_, ?_, ?_⟩
  · simp only [RCur.step, e1, bind, Except.bind, pure, Except.pure]
  · rw [e2, hb.1, adv_eq src _ _ hk]; rfl
  · rw [e2]
    exact ⟨hb.2, by rw [hb.1]; exact adv_le src _ _ h.inRange, advN_ln src _ c h.pad h.inRange h.ln⟩

/-- Position is `(lineOf p, {p, lineEnd p, 0})` and SetPosition with it brings any cursor back -/
theorem step_position (src : Bytes) (c : RCur) (h : Flat src c) :
    RCur.step src c .position =
      .ok (.pos (lineOf src c.p) { start := c.p, stop := lineEnd src c.p, padding := 0 }, c) := by
  simp only [RCur.step, RCur.position, RCur.seg, h.pad]
  rw [show c.ln = (lineOf src c.p : Int) from h.ln]
  rfl

theorem step_setPosition (src : Bytes) (c c2 : RCur) (h : Flat src c) :
    RCur.step src c2 (.setPosition (lineOf src c.p) { start := c.p, stop := lineEnd src c.p, padding := 0 }) =
      .ok (.unit, c) := by
  have hw : RCur.WFPos src { start := (c.p : Int), stop := lineEnd src c.p, padding := 0 } := by
    refine ⟨by simp, by simp; exact h.inRange, by simp, by simp, rfl⟩
  simp only [RCur.step, RCur.setPosition, hw, if_true, bind, Except.bind, pure, Except.pure]
  have : c = { ln := (lineOf src c.p : Int), p := c.p, pad := 0 } := by
    cases c with
    | mk ln p pad =>
      have h1 := h.pad
      have h2 := h.ln
      simp only [LnOK] at h1 h2
      subst h1
      rw [h2]
  rw [this]
  simp

end GM.Proof.AttributeReader
