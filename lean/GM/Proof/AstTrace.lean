/-
  GM.Proof.AstTrace — the decidable proviso check `preCheck`/`preB` of GM.Model.AstTrace is exact on
  heaps that represent a forest, its fuel suffices, `compact` is the identity, and therefore the
  checked replay `runChecked` answers `ok h'` exactly when the call list is within the proviso
  (`PreAll`), in which case `h'` is the heap of the unchecked run and represents the spec forest.
-/
import GM.Proof.AstWalk
import GM.Model.AstTrace

namespace GM.Proof.AstTrace
open GM.Spec GM.Spec.Forest GM.AstHeap GM.AstTrace GM.Proof.AstHeap GM.Proof.ForestLists

theorem desc_tail {f : Forest} {a c : Nat} (h : Desc f a c) : a = c ∨ ∃ b, Desc f a b ∧ c ∈ f b := by
  cases h with
  | refl => exact Or.inl rfl
  | step h1 h2 => exact Or.inr ⟨_, h1, h2⟩

theorem descB_true {h : Heap} {f : Forest} (A : Abs h f) (c : Nat) :
    ∀ (fuel p : Nat), descB h c fuel p = some true → Desc f c p := by
  intro fuel
  induction fuel with
  | zero => intro p hp; simp [descB] at hp
  | succ fuel ih =>
    intro p hp
    simp only [descB] at hp
    split at hp
    · rename_i e; subst e; exact Desc.refl _
    · split at hp
      · cases hp
      · rename_i q hq
        exact Desc.step (ih q hp) ((A.parent p q).1 hq)

theorem descB_false {h : Heap} {f : Forest} (A : Abs h f) (c : Nat) :
    ∀ (fuel p : Nat), descB h c fuel p = some false → ¬ Desc f c p := by
  intro fuel
  induction fuel with
  | zero => intro p hp; simp [descB] at hp
  | succ fuel ih =>
    intro p hp hd
    simp only [descB] at hp
    split at hp
    · cases hp
    · rename_i hne
      rcases desc_tail hd with e | ⟨b, hb, hm⟩
      · exact hne e.symm
      · have hpar := (A.parent p b).2 hm
        rw [hpar] at hp
        exact ih b hp hb

/-- a walk that runs out of fuel has passed `fuel` nodes of strictly increasing height, all of them
    children of some node -/
theorem descB_none_chain {h : Heap} {f : Forest} (A : Abs h f) {ht : Nat → Nat}
    (hht : ∀ q x, x ∈ f q → ht x < ht q) (c : Nat) :
    ∀ (fuel p : Nat), descB h c fuel p = none →
      ∃ l : List Nat, l.length = fuel ∧ l.Pairwise (fun a b => ht a < ht b) ∧
        (∀ x ∈ l, ht p ≤ ht x) ∧ (∀ x ∈ l, ∃ q, x ∈ f q) := by
  intro fuel
  induction fuel with
  | zero => intro p _; exact ⟨[], rfl, List.Pairwise.nil, by simp, by simp⟩
  | succ fuel ih =>
    intro p hp
    simp only [descB] at hp
    split at hp
    · cases hp
    · split at hp
      · cases hp
      · rename_i q hq
        have hm : p ∈ f q := (A.parent p q).1 hq
        have hlt := hht q p hm
        obtain ⟨l, hl, hpw, hge, hch⟩ := ih q hp
        refine ⟨p :: l, by simp [hl], ?_, ?_, ?_⟩
        · exact List.Pairwise.cons (fun x hx => Nat.lt_of_lt_of_le hlt (hge x hx)) hpw
        · intro x hx
          rcases List.mem_cons.1 hx with e | hx
          · subst e; exact Nat.le_refl _
          · exact Nat.le_of_lt (Nat.lt_of_lt_of_le hlt (hge x hx))
        · intro x hx
          rcases List.mem_cons.1 hx with e | hx
          · subst e; exact ⟨q, hm⟩
          · exact hch x hx

/-- the fuel of the ancestor walk suffices: on an acyclic forest over `n` allocated nodes the walk ends
    within `n + 1` steps -/
theorem descB_fuel_suffices {h : Heap} {f : Forest} (A : Abs h f) (hA : Acyclic f) {n : Nat} (B : Bounded n f)
    {fuel : Nat} (hn : n < fuel) (c p : Nat) : descB h c fuel p ≠ none := by
  intro hnone
  obtain ⟨ht, hht⟩ := hA
  obtain ⟨l, hl, hpw, _, hch⟩ := descB_none_chain A hht c fuel p hnone
  have nd : l.Nodup := by
    refine hpw.imp ?_
    intro a b hab e; subst e; exact Nat.lt_irrefl _ hab
  have hb : ∀ x ∈ l, x < n := by
    intro x hx
    obtain ⟨q, hq⟩ := hch x hx
    exact B q x hq
  have := length_le_of_nodup_lt nd hb
  omega

theorem preInsert_ok {h : Heap} {f : Forest} (A : Abs h f) {fuel p c : Nat} {side : Bool}
    (hok : preInsert fuel h p c side = .ok) : ¬ Desc f c p ∧ side = true := by
  unfold preInsert at hok
  split at hok
  · cases hok
  · cases hok
  · rename_i hd
    split at hok
    · rename_i hs; exact ⟨descB_false A c fuel p hd, hs⟩
    · cases hok

theorem preInsert_violated {h : Heap} {f : Forest} (A : Abs h f) {fuel p c : Nat} {side : Bool}
    (hv : preInsert fuel h p c side = .violated) : Desc f c p ∨ side = false := by
  unfold preInsert at hv
  split at hv
  · cases hv
  · rename_i hd; exact Or.inl (descB_true A c fuel p hd)
  · split at hv
    · cases hv
    · rename_i hs; exact Or.inr (by simpa using hs)

theorem preInsert_ne_fuel {h : Heap} {f : Forest} (A : Abs h f) (hA : Acyclic f) {n : Nat} (B : Bounded n f)
    {fuel : Nat} (hn : n < fuel) (p c : Nat) (side : Bool) : preInsert fuel h p c side ≠ .fuel := by
  unfold preInsert
  split
  · rename_i hd; exact absurd hd (descB_fuel_suffices A hA B hn c p)
  · intro hc; cases hc
  · split <;> (intro hc; cases hc)

/-- the check is the ancestor walk with the side condition of the proviso, or answers at once -/
theorem preCheck_shape (fuel : Nat) (h : Heap) (f : Forest) (op : Op) :
    (∃ p c side, preCheck fuel h op = preInsert fuel h p c side ∧ (Pre f op ↔ ¬ Desc f c p ∧ side = true)) ∨
    (preCheck fuel h op = .ok ∧ Pre f op) ∨ (preCheck fuel h op = .violated ∧ ¬ Pre f op) := by
  cases op with
  | append p c =>
    cases c with
    | none => exact Or.inr (Or.inr ⟨rfl, id⟩)
    | some c => exact Or.inl ⟨p, c, true, rfl, by simp [Pre]⟩
  | insertBefore p v c =>
    cases c with
    | none => exact Or.inr (Or.inr ⟨rfl, id⟩)
    | some c => exact Or.inl ⟨p, c, v != some c, rfl, by simp [Pre]⟩
  | insertAfter p v c =>
    cases c with
    | none => exact Or.inr (Or.inr ⟨rfl, id⟩)
    | some c => exact Or.inl ⟨p, c, v != some c, rfl, by simp [Pre]⟩
  | replace p v c =>
    cases c with
    | none => cases v <;> exact Or.inr (Or.inr ⟨rfl, id⟩)
    | some c =>
      cases v with
      | none => exact Or.inr (Or.inr ⟨rfl, id⟩)
      | some v => exact Or.inl ⟨p, c, v != c, rfl, by simp [Pre]⟩
  | remove p c =>
    cases c with
    | none => exact Or.inr (Or.inr ⟨rfl, id⟩)
    | some c => exact Or.inr (Or.inl ⟨rfl, trivial⟩)
  | removeChildren p => exact Or.inr (Or.inl ⟨rfl, trivial⟩)
  | sort p cmp => exact Or.inr (Or.inl ⟨rfl, trivial⟩)

theorem preCheck_sound {h : Heap} {f : Forest} (A : Abs h f) {fuel : Nat} {op : Op}
    (hok : preCheck fuel h op = .ok) : Pre f op := by
  rcases preCheck_shape fuel h f op with ⟨p, c, side, e, hP⟩ | ⟨_, hP⟩ | ⟨e, _⟩
  · exact hP.2 (preInsert_ok A (e ▸ hok))
  · exact hP
  · rw [e] at hok; cases hok

theorem preB_sound {h : Heap} {f : Forest} (A : Abs h f) {fuel : Nat} {op : Op}
    (hok : preB fuel h op = true) : Pre f op :=
  preCheck_sound A (by simpa [preB] using hok)

theorem preCheck_violated {h : Heap} {f : Forest} (A : Abs h f) {fuel : Nat} {op : Op}
    (hv : preCheck fuel h op = .violated) : ¬ Pre f op := by
  rcases preCheck_shape fuel h f op with ⟨p, c, side, e, hP⟩ | ⟨e, _⟩ | ⟨_, hP⟩
  · intro hp
    rcases preInsert_violated A (e ▸ hv) with hd | hs
    · exact (hP.1 hp).1 hd
    · rw [(hP.1 hp).2] at hs; cases hs
  · rw [e] at hv; cases hv
  · exact hP

theorem preCheck_ne_fuel {h : Heap} {f : Forest} (A : Abs h f) (hA : Acyclic f) {n : Nat} (B : Bounded n f)
    {fuel : Nat} (hn : n < fuel) (op : Op) : preCheck fuel h op ≠ .fuel := by
  rcases preCheck_shape fuel h f op with ⟨p, c, side, e, _⟩ | ⟨e, _⟩ | ⟨e, _⟩ <;> rw [e]
  · exact preInsert_ne_fuel A hA B hn p c side
  · exact nofun
  · exact nofun

theorem tabGet_tabulate {α : Type} (n : Nat) (f : Nat → α) : tabGet (tabulate n f) f = f := by
  funext i
  simp only [tabGet, tabulate]
  split
  · rename_i v hv
    rw [Array.getElem?_ofFn] at hv
    split at hv
    · exact (Option.some.inj hv).symm
    · cases hv
  · rfl

theorem compact_eq (n : Nat) (h : Heap) : compact n h = h := by
  cases h
  simp only [compact, tabGet_tabulate]

def Meaning (fuel : Nat) (h : Heap) (f : Forest) (ops : List Op) : Outcome → Prop
  | .ok h' => PreAll f ops ∧ run fuel h ops = .ok h' ∧ Abs h' (specRun f ops)
  | .preViolated _ => ¬ PreAll f ops
  | .preFuel _ => False
  | .fault _ _ => False

theorem runChecked_meaning {n fuel : Nat} (hn : n < fuel) : ∀ (ops : List Op) (k : Nat) {h : Heap} {f : Forest},
    Abs h f → Bounded n f → Acyclic f → (∀ op ∈ ops, OpIn n op) →
    Meaning fuel h f ops (runChecked n fuel k h ops) := by
  intro ops
  induction ops with
  | nil => intro k h f A _ _ _; exact ⟨trivial, rfl, A⟩
  | cons op ops ih =>
    intro k h f A B hA hin
    simp only [runChecked]
    cases hc : preCheck fuel h op with
    | violated =>
      exact fun hp => preCheck_violated A hc hp.1
    | fuel => exact absurd hc (preCheck_ne_fuel A hA B hn op)
    | ok =>
      have hpre : Pre f op := preCheck_sound A hc
      obtain ⟨h1, e1, A1⟩ := step_refines A hpre (fuel := fuel)
        (fun p => Nat.lt_of_le_of_lt (A.length_le B p) hn)
      have B1 := specStep_bounded B (hin op (by simp))
      have hA1 := specStep_acyclic A.nodup hA hpre
      have hh : (if (k + 1) % 32 = 0 then compact n h1 else h1) = h1 := by
        split
        · exact compact_eq n h1
        · rfl
      simp only [e1, hh]
      have := ih (k + 1) A1 B1 hA1 (fun o ho => hin o (by simp [ho]))
      cases hr : runChecked n fuel (k + 1) h1 ops with
      | ok h' =>
        rw [hr] at this
        exact ⟨⟨hpre, this.1⟩, by simp only [run, e1]; exact this.2.1, this.2.2⟩
      | preViolated k' =>
        rw [hr] at this
        exact fun hp => this hp.2
      | preFuel k' => rw [hr] at this; exact this
      | fault k' e => rw [hr] at this; exact this

/-- the checked replay accepts a call list exactly when every call is within the proviso -/
theorem runChecked_isOk_iff {n fuel : Nat} (hn : n < fuel) (ops : List Op) (hin : ∀ op ∈ ops, OpIn n op) :
    (runChecked n fuel 0 Heap.empty ops).isOk = true ↔ PreAll Forest.empty ops := by
  have := runChecked_meaning hn ops 0 abs_empty (bounded_empty n) acyclic_empty hin
  cases hr : runChecked n fuel 0 Heap.empty ops with
  | ok h' => rw [hr] at this; simp only [Outcome.isOk, true_iff]; exact this.1
  | preViolated k => rw [hr] at this; simp only [Outcome.isOk, Bool.false_eq_true, false_iff]; exact this
  | preFuel k => rw [hr] at this; exact this.elim
  | fault k e => rw [hr] at this; exact this.elim

end GM.Proof.AstTrace
