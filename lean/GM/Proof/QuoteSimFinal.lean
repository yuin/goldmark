import GM.Proof.QuoteSimRel
import GM.Proof.QuoteSimEdit

/-
  part FEDefs — definitions for C08 with lists in sources WITH blank lines.
  In such sources the `HasBlankPreviousLines` flags of the two runs differ (original `true`, prefixed
  `false`) on children of the Document opened after a blank line and on the chain of first children opened in the same
  `openBlocks` call. Nobody reads those flags: `listParser.Close` and the dump read the flags of every child BUT THE FIRST
  of List / ListItem nodes. The store-level relation that is true in every reachable pair of states and suffices for the
  readers:  `FE nA nB` — equal flags on every child but the first of every node but the Document.

  How it is to be kept across a whole parser call (`Open` / `Continue` / `Close`, as a unit — inside `replaceChild` and
  `setextHeadingParser.Close` it is violated for a moment), from UNARY facts about the call in either run:
    * `BPn n n'`  : flags of the nodes that existed are unchanged, new nodes have the flag `false`;
    * `CHn n n'`  : below every node but the Document, a child that is not the first afterwards was not the first before, or is new.
  `fe_step` combines them.  Unary facts about the node an `Open` returns, until the driver appends it (`Unref`): nobody
  refers to it and it has no children; `RStore`: all ids in the store are in range.
-/
section FEDefs
namespace GM.Blocks
open GM GM.Text

/-- the flags of node `c` of A and node `c + 1` of B agree -/
def FlagEqAt (nA nB : List Node) (c : Nat) : Prop :=
  (nB.getD (c + 1) default).blankPrev = (nA.getD c default).blankPrev

/-- equal flags on every child but the first of every node but the Document -/
def FE (nA nB : List Node) : Prop :=
  ∀ q, q ≠ 0 → ∀ c ∈ (nA.getD q default).children.drop 1, FlagEqAt nA nB c

/-- flags of existing nodes unchanged, new nodes unflagged, the store only grows -/
def BPn (n n' : List Node) : Prop :=
  n.length ≤ n'.length ∧
    (∀ i, i < n.length → (n'.getD i default).blankPrev = (n.getD i default).blankPrev) ∧
    (∀ i, n.length ≤ i → (n'.getD i default).blankPrev = false)

def BPI (n0 : List Node) : St → Prop := fun s => BPn n0 s.nodes

/-- below every node but the Document: a child that is not the first afterwards was not the first before, or is new -/
def CHn (n n' : List Node) : Prop :=
  n.length ≤ n'.length ∧
    ∀ q, q ≠ 0 → ∀ c ∈ (n'.getD q default).children.drop 1, c ∈ (n.getD q default).children.drop 1 ∨ n.length ≤ c

def CHI (n0 : List Node) : St → Prop := fun s => CHn n0 s.nodes

/-- all ids stored in the nodes are in range -/
def RStore (nodes : List Node) : Prop :=
  ∀ n ∈ nodes, (∀ c ∈ n.children, c < nodes.length) ∧ (∀ p, n.parent = some p → p < nodes.length)

/-- nobody refers to node `id`, and it has no children -/
def Unref (id : Nat) (nodes : List Node) : Prop :=
  id < nodes.length ∧ (nodes.getD id default).children = [] ∧
    ∀ n ∈ nodes, n.parent ≠ some id ∧ id ∉ n.children

/-- node `q` has no children -/
def QE (q : Nat) : St → Prop := fun s => (s.nodes.getD q default).children = []

end GM.Blocks
end FEDefs

/-
  part Final — from the simulation relation between the two final node stores to the statement
  `QuotePrefixSimulation` (GM.Props.Blocks): the canonical dumps that `quoteSimPair` compares are equal.
  The dump prints a `HasBlankPreviousLines` flag only of a child but the first of a List / ListItem node, so the
  flags have to agree only there (`FEL`, `quoteSimPair_eqK`). Three ways to have that: no List / ListItem node at all
  (`quoteSimPair_eq`), equal flags on all related nodes (`quoteSimPair_eqL`), equal flags on every child but the first
  (`quoteSimPair_eqF`).
-/
section Final
namespace GM.Blocks
open GM GM.Text

/-- What the conclusion needs to know about the result of the ORIGINAL run (a decidable predicate on its final
    state): the Document has no lines of its own, no node is a List / ListItem (their `HasBlankPreviousLines`
    flags are not related by the simulation), no line / info / closure segment is empty (an empty segment
    standing behind the `\n` of its line is moved by `SegRel` like that line, by `shiftSeg` like the next), and
    the Document is nobody's child (A's Document stands for B's Blockquote, which prints differently). -/
def WellShaped (s : St) : Prop :=
  (s.nodes.getD 0 default).lines = [] ∧
  ∀ n ∈ s.nodes, (n.kind ≠ .list ∧ n.kind ≠ .listItem) ∧ (∀ l ∈ n.lines, l.start < l.stop) ∧
    (∀ i, n.info = some i → i.start < i.stop) ∧ (0 ≤ n.closure.start → n.closure.start < n.closure.stop) ∧
    0 ∉ n.children

instance (s : St) : Decidable (WellShaped s) := by unfold WellShaped; infer_instance

theorem segRel_shiftSeg {src : Bytes} {s t : Segment} (h : SegRel src s t) (hne : s.start < s.stop) :
    t = shiftSeg src s := by
  obtain ⟨k, ls, hl, h1, _, h3, rfl⟩ := h
  have hk : lineNo src s.start.toNat = k := lineNo_in hl (by omega) (by omega)
  simp only [shK, shiftSeg, hk]

/-- the per-node clause of `WellShaped` -/
def QsNodeOK (n : Node) : Prop :=
  (n.kind ≠ .list ∧ n.kind ≠ .listItem) ∧ (∀ l ∈ n.lines, l.start < l.stop) ∧
    (∀ i, n.info = some i → i.start < i.stop) ∧ (0 ≤ n.closure.start → n.closure.start < n.closure.stop) ∧
    0 ∉ n.children

theorem nodeOK_default_qs : QsNodeOK (default : Node) := by
  refine ⟨⟨by decide, by decide⟩, ?_, ?_, ?_, ?_⟩
  · intro l hl; cases hl
  · intro i hi; cases hi
  · intro h; exact absurd h (by decide)
  · intro h; cases h

theorem WellShaped.getD {s : St} (h : WellShaped s) (i : Nat) : QsNodeOK (s.nodes.getD i default) := by
  rw [List.getD_eq_getElem?_getD]
  cases hg : s.nodes[i]? with
  | none => exact nodeOK_default_qs
  | some n => exact h.2 n (List.mem_of_getElem? hg)

theorem not_listKind {k : Kind} (h : k ≠ .list ∧ k ≠ .listItem) : (k == .list || k == .listItem) = false := by
  cases k <;> simp_all

/-- the per-node clause of `WellShapedL`: `QsNodeOK` without "no List / ListItem" -/
def QsNodeOKL (n : Node) : Prop :=
  (∀ l ∈ n.lines, l.start < l.stop) ∧
    (∀ i, n.info = some i → i.start < i.stop) ∧ (0 ≤ n.closure.start → n.closure.start < n.closure.stop) ∧
    0 ∉ n.children

/-- `WellShaped` without the clause on the kinds: the Document has no lines of its own, no line / info / closure
    segment is empty, and the Document is nobody's child -/
def WellShapedL (s : St) : Prop :=
  (s.nodes.getD 0 default).lines = [] ∧ ∀ n ∈ s.nodes, QsNodeOKL n

instance (s : St) : Decidable (WellShapedL s) := by unfold WellShapedL QsNodeOKL; infer_instance

theorem QsNodeOK.toL {n : Node} (h : QsNodeOK n) : QsNodeOKL n := h.2

theorem WellShaped.toL {s : St} (h : WellShaped s) : WellShapedL s :=
  ⟨h.1, fun n hn => (h.2 n hn).2⟩

theorem nodeOK_default_qsL : QsNodeOKL (default : Node) := nodeOK_default_qs.toL

theorem WellShapedL.getD {s : St} (h : WellShapedL s) (i : Nat) : QsNodeOKL (s.nodes.getD i default) := by
  rw [List.getD_eq_getElem?_getD]
  cases hg : s.nodes[i]? with
  | none => exact nodeOK_default_qsL
  | some n => exact h.2 n (List.mem_of_getElem? hg)

/-- the `HasBlankPreviousLines` flags of the related non-root nodes agree -/
def FlagsEq (nA nB : List Node) : Prop :=
  ∀ i, i ≠ 0 → (nB.getD (i + 1) default).blankPrev = (nA.getD i default).blankPrev

/-- equal flags where the dump prints them: on every child but the first of every List / ListItem node -/
def FEL (nA nB : List Node) : Prop :=
  ∀ q, q ≠ 0 → ((nA.getD q default).kind == .list || (nA.getD q default).kind == .listItem) = true →
    ∀ c ∈ (nA.getD q default).children.drop 1, FlagEqAt nA nB c

theorem FE.toL {nA nB : List Node} (h : FE nA nB) : FEL nA nB := fun q hq _ => h q hq

theorem FlagsEq.toL {nA nB : List Node} (h : FlagsEq nA nB) (hok : ∀ i, QsNodeOKL (nA.getD i default)) : FEL nA nB :=
  fun q _ _ c hc => h c (fun e => (hok q).2.2.2 (e ▸ List.mem_of_mem_drop hc))

theorem fel_of_noList {nA nB : List Node} (hok : ∀ i, QsNodeOK (nA.getD i default)) : FEL nA nB := by
  intro q _ hk
  rw [not_listKind (hok q).1] at hk
  cases hk

/-! ### related segments of a well-shaped node are `shiftSeg` images -/

theorem segsRel_map {src : Bytes} : ∀ {as bs : List Segment}, SegsRel src as bs → (∀ l ∈ as, l.start < l.stop) →
    as.map (shiftSeg src) = bs
  | [], [], _, _ => rfl
  | a :: as, b :: bs, ⟨h1, h2⟩, hne => by
    rw [List.map_cons, ← segRel_shiftSeg h1 (hne a (List.mem_cons_self ..)),
      segsRel_map h2 (fun l hl => hne l (List.mem_cons_of_mem _ hl))]
  | [], _ :: _, h, _ => h.elim
  | _ :: _, [], h, _ => h.elim

theorem segsRel_nil {src : Bytes} : ∀ {bs : List Segment}, SegsRel src [] bs → bs = []
  | [], _ => rfl
  | _ :: _, h => h.elim

theorem infoRel_map {src : Bytes} : ∀ {a b : Option Segment}, InfoRel src a b → (∀ i, a = some i → i.start < i.stop) →
    a.map (shiftSeg src) = b
  | none, none, _, _ => rfl
  | some a, some b, h, hne => by rw [Option.map_some, ← segRel_shiftSeg h (hne a rfl)]
  | none, some _, h, _ => h.elim
  | some _, none, h, _ => h.elim

theorem closRel_map {src : Bytes} {a b : Segment} (h : ClosRel src a b) (hne : 0 ≤ a.start → a.start < a.stop) :
    (if a.start < 0 then a else shiftSeg src a) = b := by
  rcases h with ⟨h1, rfl⟩ | h
  · rw [if_pos h1]
  · have h0 : 0 ≤ a.start := by
      obtain ⟨k, ls, _, h1, _⟩ := h
      omega
    rw [if_neg (by omega), ← segRel_shiftSeg h (hne h0)]

/-! ### printing: equal printed fields give equal dumps -/

theorem nodeFields_congr {n m : Node} (hk : n.kind = m.kind) (h1 : n.level = m.level) (h2 : n.marker = m.marker)
    (h3 : n.start = m.start) (h4 : n.tight = m.tight) (h5 : n.offset = m.offset) (h6 : n.info = m.info)
    (h7 : n.htmlType = m.htmlType) (h8 : n.closure = m.closure) : nodeFields n = nodeFields m := by
  unfold nodeFields
  rw [hk, h1, h2, h3, h4, h5, h6, h7, h8]

theorem str_congr {n m : Node} {cs ds : List Tree} (hk : n.kind = m.kind) (hb : n.blankPrev = m.blankPrev)
    (hf : nodeFields n = nodeFields m) (hl : n.lines = m.lines) (hc : Tree.strs cs = Tree.strs ds) :
    (Tree.node n cs).str = (Tree.node m ds).str := by
  simp only [Tree.str, hk, hb, hf, hl, hc]

/-- what `Tree.mapSegs (shiftSeg src)` does to a node -/
def mapN (src : Bytes) (a : Node) : Node :=
  { a with lines := a.lines.map (shiftSeg src), info := a.info.map (shiftSeg src),
           closure := if a.closure.start < 0 then a.closure else shiftSeg src a.closure }

/-- what `Tree.readBlank keep` does to a node -/
def keepN (keep : Bool) (a : Node) : Node := { a with blankPrev := keep && a.blankPrev }

/-- the mapped node of A prints like the node of B, the flag kept or erased on both sides; the flags need to be
    equal only where they are kept -/
theorem node_str {src : Bytes} {a b : Node} (hab : NodeRel src false a b) (hok : QsNodeOKL a) (keep : Bool)
    (hb : keep = true → b.blankPrev = a.blankPrev) {cs ds : List Tree} (hc : Tree.strs cs = Tree.strs ds) :
    (Tree.node (keepN keep (mapN src a)) cs).str = (Tree.node (keepN keep b) ds).str := by
  have hk : b.kind = a.kind := hab.kind
  have hi := infoRel_map hab.info hok.2.1
  have hcl := closRel_map hab.closure hok.2.2.1
  have hl := segsRel_map hab.lines hok.1
  have hbp : (keepN keep (mapN src a)).blankPrev = (keepN keep b).blankPrev := by
    show (keep && a.blankPrev) = (keep && b.blankPrev)
    cases keep with
    | false => rfl
    | true => rw [hb rfl]
  refine str_congr hk.symm hbp ?_ hl hc
  exact nodeFields_congr hk.symm hab.level.symm hab.marker.symm hab.start.symm hab.tight.symm hab.offset.symm hi
    hab.htmlType.symm hcl

/-! ### the trees below a non-root node -/

theorem mapSegsL_map (f : Segment → Segment) (g : Nat → Tree) : ∀ ids : List Nat,
    Tree.mapSegsL f (ids.map g) = ids.map (fun i => (g i).mapSegs f)
  | [] => rfl
  | i :: ids => by rw [List.map_cons, Tree.mapSegsL, mapSegsL_map f g ids, List.map_cons]

/-- children lists: every child compared with its flag erased; with its flag kept only where it is kept -/
theorem strs_sim {ta tb : Nat → Tree} (inList : Bool) : ∀ (ids : List Nat) (first : Bool),
    (∀ i ∈ ids, ((ta i).readBlank false).str = ((tb (i + 1)).readBlank false).str) →
    (inList = true → ∀ i ∈ ids.drop 1, ((ta i).readBlank true).str = ((tb (i + 1)).readBlank true).str) →
    (inList = true → first = false → ∀ i ∈ ids, ((ta i).readBlank true).str = ((tb (i + 1)).readBlank true).str) →
    Tree.strs (Tree.readBlankL inList first (ids.map ta)) =
      Tree.strs (Tree.readBlankL inList first ((ids.map (· + 1)).map tb))
  | [], _, _, _, _ => rfl
  | i :: ids, first, h0, h1, h2 => by
    simp only [List.map_cons, Tree.readBlankL, Tree.strs]
    have hh : ((ta i).readBlank (inList && !first)).str = ((tb (i + 1)).readBlank (inList && !first)).str := by
      cases inList with
      | false => exact h0 i (List.mem_cons_self ..)
      | true =>
        cases first with
        | true => exact h0 i (List.mem_cons_self ..)
        | false => exact h2 rfl rfl i (List.mem_cons_self ..)
    rw [hh, strs_sim inList ids false (fun j hj => h0 j (List.mem_cons_of_mem _ hj))
      (fun hl j hj => h1 hl j (List.mem_of_mem_drop hj)) (fun hl _ j hj => h1 hl j hj)]

theorem readBlank_mapSegs_nodeL (src : Bytes) (keep : Bool) (a : Node) (cs : List Tree) :
    ((Tree.node a cs).mapSegs (shiftSeg src)).readBlank keep =
      .node (keepN keep (mapN src a))
        (Tree.readBlankL (a.kind == .list || a.kind == .listItem) true (Tree.mapSegsL (shiftSeg src) cs)) := rfl

theorem readBlank_nodeL (keep : Bool) (b : Node) (ds : List Tree) :
    (Tree.node b ds).readBlank keep =
      .node (keepN keep b) (Tree.readBlankL (b.kind == .list || b.kind == .listItem) true ds) := rfl

theorem tree_sim {src : Bytes} {nA nB : List Node} (hn : StoreRel src nA nB)
    (hok : ∀ i, QsNodeOKL (nA.getD i default)) (hfe : FEL nA nB) : ∀ (f i : Nat), i ≠ 0 → ∀ keep : Bool,
    (keep = true → FlagEqAt nA nB i) →
    (((treeOf nA f i).mapSegs (shiftSeg src)).readBlank keep).str = ((treeOf nB f (i + 1)).readBlank keep).str := by
  intro f
  induction f with
  | zero =>
    intro i hi keep hkp
    have hab := hn.node i
    rw [beq_eq_false_iff_ne.mpr hi] at hab
    have e1 : treeOf nA 0 i = .node (nA.getD i default) [] := rfl
    have e2 : treeOf nB 0 (i + 1) = .node (nB.getD (i + 1) default) [] := rfl
    rw [e1, e2, readBlank_mapSegs_nodeL, readBlank_nodeL]
    exact node_str hab (hok i) keep hkp rfl
  | succ f ih =>
    intro i hi keep hkp
    have hab := hn.node i
    rw [beq_eq_false_iff_ne.mpr hi] at hab
    have hoki := hok i
    have e1 : treeOf nA (f + 1) i =
      .node (nA.getD i default) ((nA.getD i default).children.map (treeOf nA f)) := rfl
    have e2 : treeOf nB (f + 1) (i + 1) =
      .node (nB.getD (i + 1) default) ((nB.getD (i + 1) default).children.map (treeOf nB f)) := rfl
    rw [e1, e2, readBlank_mapSegs_nodeL, readBlank_nodeL]
    refine node_str hab hoki keep hkp ?_
    have hkb : (nB.getD (i + 1) default).kind = (nA.getD i default).kind := hab.kind
    rw [hkb, mapSegsL_map, hab.children]
    refine strs_sim (ta := fun j => (treeOf nA f j).mapSegs (shiftSeg src)) (tb := treeOf nB f) _ _ true ?_ ?_ ?_
    · intro j hj
      exact ih j (fun e => hoki.2.2.2 (e ▸ hj)) false (fun h => by cases h)
    · intro hl j hj
      exact ih j (fun e => hoki.2.2.2 (e ▸ List.mem_of_mem_drop hj)) true (fun _ => hfe i hi hl j hj)
    · intro _ h
      cases h

theorem nodeFields_document {n : Node} (h : n.kind = .document) : nodeFields n = "" := by
  unfold nodeFields; rw [h]

theorem nodeFields_blockquote {n : Node} (h : n.kind = .blockquote) : nodeFields n = "" := by
  unfold nodeFields; rw [h]

theorem strs_single (t : Tree) : Tree.strs [t] = t.str ++ "" := by
  rw [Tree.strs, Tree.strs]

/-- the two roots: A's Document with the new Blockquote put in between, B's Document over its Blockquote -/
theorem root_sim {src : Bytes} {nA nB : List Node} (hn : StoreRel src nA nB)
    (hok : ∀ i, QsNodeOKL (nA.getD i default)) (hfe : FEL nA nB) (hd : (nA.getD 0 default).lines = [])
    (m : Nat) :
    ((Tree.node (nA.getD 0 default) [Tree.node { kind := .blockquote }
        (Tree.mapSegsL (shiftSeg src) ((nA.getD 0 default).children.map (treeOf nA m)))]).readBlank false).str =
      ((treeOf nB (m + 2) 0).readBlank false).str := by
  have hab := hn.node 0
  have hk : (nB.getD 1 default).kind = .blockquote ∧ (nA.getD 0 default).kind = .document := hab.kind
  have hok0 := hok 0
  have e2 : treeOf nB (m + 2) 0 =
    .node (nB.getD 0 default) ((nB.getD 0 default).children.map (treeOf nB (m + 1))) := rfl
  have e3 : treeOf nB (m + 1) 1 =
    .node (nB.getD 1 default) ((nB.getD 1 default).children.map (treeOf nB m)) := rfl
  have e4 : ([1] : List Nat).map (treeOf nB (m + 1)) = [treeOf nB (m + 1) 1] := rfl
  rw [e2, hn.doc0, e4, e3, readBlank_nodeL, readBlank_nodeL]
  refine str_congr hk.2 rfl ?_ hd ?_
  · rw [nodeFields_document (n := keepN _ _) hk.2, nodeFields_document (n := keepN _ _) rfl]
  · have hf' : ((Kind.document == Kind.list || Kind.document == Kind.listItem)) = false := rfl
    rw [hk.2]
    simp only [hf', Tree.readBlankL, Bool.false_and, strs_single]
    congr 1
    rw [readBlank_nodeL, readBlank_nodeL]
    have hbl : (nB.getD 1 default).lines = [] := segsRel_nil (hd ▸ hab.lines)
    refine str_congr hk.1.symm rfl ?_ hbl.symm ?_
    · rw [nodeFields_blockquote (n := keepN _ _) rfl, nodeFields_blockquote (n := keepN _ _) hk.1]
    · have hc : (nB.getD 1 default).children = (nA.getD 0 default).children.map (· + 1) := hab.children
      have hbq : ((Kind.blockquote == Kind.list || Kind.blockquote == Kind.listItem)) = false := rfl
      rw [hk.1, mapSegsL_map, hc, hbq]
      refine strs_sim (ta := fun j => (treeOf nA m j).mapSegs (shiftSeg src)) (tb := treeOf nB m) false _ true
        ?_ (fun h => by cases h) (fun h => by cases h)
      intro j hj
      exact tree_sim hn hok hfe m j (fun e => hok0.2.2.2 (e ▸ hj)) false (fun h => by cases h)

/-- related final stores whose flags agree where the dump prints them give equal dumps -/
theorem quoteSimPair_eqK (src : Bytes) (sA sB : St) (hA : run src = .ok sA) (hB : run (quotePrefix src) = .ok sB)
    (hn : StoreRel src sA.nodes sB.nodes) (hw : WellShapedL sA) (hfe : FEL sA.nodes sB.nodes) :
    ∀ e g, quoteSimPair src = some (e, g) → e = g := by
  intro e g h
  unfold quoteSimPair at h
  split at h
  · cases h
  · rw [hA] at h
    simp only [hB] at h
    obtain ⟨m, hm⟩ : ∃ m, sA.nodes.length = m + 1 := ⟨sA.nodes.length - 1, by have := hn.pos; omega⟩
    have hmB : sB.nodes.length = m + 2 := by rw [hn.len, hm]
    have e1 : treeOf sA.nodes (m + 1) 0 =
      .node (sA.nodes.getD 0 default) ((sA.nodes.getD 0 default).children.map (treeOf sA.nodes m)) := rfl
    rw [hm, hmB, e1] at h
    simp only [Option.some.injEq, Prod.mk.injEq] at h
    obtain ⟨rfl, rfl⟩ := h
    exact root_sim hn hw.getD hfe hw.1 m

/-- the conclusion: related final stores give equal dumps -/
theorem quoteSimPair_eq (src : Bytes) (sA sB : St) (hA : run src = .ok sA) (hB : run (quotePrefix src) = .ok sB)
    (hn : StoreRel src sA.nodes sB.nodes) (hw : WellShaped sA) :
    ∀ e g, quoteSimPair src = some (e, g) → e = g :=
  quoteSimPair_eqK src sA sB hA hB hn hw.toL (fel_of_noList hw.getD)

/-- the conclusion: related final stores with equal flags give equal dumps -/
theorem quoteSimPair_eqL (src : Bytes) (sA sB : St) (hA : run src = .ok sA) (hB : run (quotePrefix src) = .ok sB)
    (hn : StoreRel src sA.nodes sB.nodes) (hw : WellShapedL sA) (hf : FlagsEq sA.nodes sB.nodes) :
    ∀ e g, quoteSimPair src = some (e, g) → e = g :=
  quoteSimPair_eqK src sA sB hA hB hn hw (hf.toL hw.getD)

/-- the conclusion: related final stores with the weak flag relation give equal dumps -/
theorem quoteSimPair_eqF (src : Bytes) (sA sB : St) (hA : run src = .ok sA) (hB : run (quotePrefix src) = .ok sB)
    (hn : StoreRel src sA.nodes sB.nodes) (hw : WellShapedL sA) (hfe : FE sA.nodes sB.nodes) :
    ∀ e g, quoteSimPair src = some (e, g) → e = g :=
  quoteSimPair_eqK src sA sB hA hB hn hw hfe.toL

end GM.Blocks
end Final
