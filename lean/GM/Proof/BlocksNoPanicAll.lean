/-
  GM.Proof.BlocksNoPanicAll — the block phase of goldmark ends normally for EVERY source: the plain driver `run` is the driver
  with hooks `runC cls pts` at `cls = bpClose`, `pts = []`, and the whole-run results are that instance of `L.G.X.runG`.
-/
import GM.Proof.BlocksTNPXRun
import GM.Proof.BlocksT
import GM.Proof.BlocksRunEq
import GM.Proof.BlocksLsp

namespace GM.Blocks
open GM GM.Text GM.Spec GM.Proof.Reader

theorem ptsSpecX_nil (src : Bytes) (e : Panic) : L.G.X.PTsSpecX src e [] := fun _ h => nomatch h

theorem run_eqC (src : Bytes) : run src = runC bpClose [] src := by rw [← runT_nil, runT_eqC]

/-- **Termination of the block phase**: no loop of the model ever exhausts its fuel, for every source. -/
theorem run_noLoop (src : Bytes) : run src ≠ .error .loop := by
  rw [← runT_nil]; exact runT_noLoop ptsOK_nil src

/-- everything the no-panic walk exports about the final store -/
theorem run_total (src : Bytes) : ∃ s, run src = .ok s ∧ NodesOK src s ∧ KidsOK s := by
  rcases L.G.X.runG (e := .loop) (lsp_all src) (ptsSpecX_nil src .loop) (closeLike_bpClose src) with h | h | h
  · rw [← run_eqC] at h; exact h
  · rw [← run_eqC] at h; exact absurd h (run_noLoop src)
  · rw [← run_eqC] at h; exact absurd h (run_noLoop src)

/-- **No Go panic, no contract-monitor failure, and all line segments inside the source — for every byte string.** -/
theorem run_ok_all (src : Bytes) : ∃ s, run src = .ok s ∧ NodesOK src s :=
  let ⟨s, h, hn, _⟩ := run_total src; ⟨s, h, hn⟩

section tp
variable {src : Bytes} {A : BP → Prop} (sp : Specs src A)
include sp

/-- **the block phase ends normally** (no Go panic, no contract-monitor failure) or runs out of fuel, and every line
    segment of every node lies inside the source -/
theorem run_okl (hT : ∀ ch ∈ src, ∀ bps, triggered ch = some bps → ∀ bp ∈ bps, A bp) (hFree : ∀ bp ∈ freeParsers, A bp) :
    (∃ s, run src = .ok s ∧ NodesOK src s) ∨ run src = .error .loop :=
  .inl (run_ok_all src)

end tp

/-- no panic, no contract-monitor failure, and every line segment of every node inside the source, for list-free sources -/
theorem run_ok_listFree (src : Bytes) (hsrc : ListFree src) : ∃ s, run src = .ok s ∧ NodesOK src s := run_ok_all src

/-- **the children of a List are ListItems** in the final store of the transformer-free block phase, every source -/
theorem run_kidsOK (src : Bytes) (s : St) (h : run src = .ok s) : KidsOK s := by
  obtain ⟨s', h', _, hk⟩ := run_total src
  rw [h] at h'; cases h'; exact hk

end GM.Blocks
