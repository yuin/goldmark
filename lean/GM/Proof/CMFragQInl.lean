/-
  GM.Proof.CMFragQInl — the inline phase on a paragraph of "good" lines that need NOT follow each other contiguously in
  the source (inside a block quote every line is preceded by its marker): line `j` starts at byte `ps[j]`
  (`LinesAtG`). `parseBlock_linesG`, `wf0B_linesG`, `inlineTrees_linesG`; contiguous lines are the positions `contigG`
  (`parseBlock_linesE`, `parseBlock_quiet`).
-/
import GM.Proof.CMFragInl

namespace GM.Proof.CMFrag
open GM GM.Text GM.Inl

/-- the lines `ls` lie in `src`, line `j` at byte `ps[j]`: every line but the last followed by its line feed -/
def LinesAtG (src : Bytes) : List Nat → List Bytes → Prop
  | [], [] => True
  | [p], [l] => sub src p (p + l.length) = l ∧ p + l.length ≤ src.length
  | p :: p' :: ps, l :: l' :: rest =>
    sub src p (p + l.length + 1) = l ++ [10] ∧ p + l.length + 1 ≤ p' ∧ LinesAtG src (p' :: ps) (l' :: rest)
  | _, _ => False

/-- like `paraSegs`: every line with its line feed, the last one without -/
def paraSegsG : List Nat → List Bytes → List Segment
  | [p], [l] => [{ start := p, stop := p + l.length }]
  | p :: ps, l :: ls => { start := p, stop := p + l.length + 1 } :: paraSegsG ps ls
  | _, _ => []

/-- like `paraKids`: one Text per line, soft line break on all but the last -/
def paraKidsG : List Nat → List Bytes → List GM.Inl.Node
  | [p], [l] => [.text { start := p, stop := p + l.length } false false false]
  | p :: ps, l :: ls => .text { start := p, stop := p + l.length } true false false :: paraKidsG ps ls
  | _, _ => []

/-- where the paragraph's last segment stops -/
def paraEndG : List Nat → List Bytes → Nat
  | [p], [l] => p + l.length
  | _ :: p' :: ps, _ :: l' :: ls => paraEndG (p' :: ps) (l' :: ls)
  | _, _ => 0

/-- the contiguous positions of `paraSegs` -/
def contigG : Nat → List Bytes → List Nat
  | _, [] => []
  | p, l :: rest => p :: contigG (p + l.length + 1) rest

example (p p' : Nat) (ps : List Nat) (l l' : Bytes) (rest : List Bytes) : paraSegsG (p :: p' :: ps) (l :: l' :: rest) =
  { start := (p:Int), stop := (p:Int) + (l.length:Int) + 1 } :: paraSegsG (p' :: ps) (l' :: rest) := rfl
example (p : Nat) (l : Bytes) : paraSegsG [p] [l] = [{ start := (p:Int), stop := (p:Int) + (l.length:Int) }] := rfl

theorem paraSegsG_contigG : ∀ (ls : List Bytes) (p : Nat), paraSegsG (contigG p ls) ls = paraSegs p ls
  | [], _ => rfl
  | [_], _ => rfl
  | l :: l' :: rest, p => by
    have ih := paraSegsG_contigG (l' :: rest) (p + l.length + 1)
    simp only [contigG] at ih
    simp only [contigG, paraSegsG, paraSegs, ih]

theorem paraKidsG_contigG : ∀ (ls : List Bytes) (p : Nat), paraKidsG (contigG p ls) ls = paraKids p ls
  | [], _ => rfl
  | [_], _ => rfl
  | l :: l' :: rest, p => by
    have ih := paraKidsG_contigG (l' :: rest) (p + l.length + 1)
    simp only [contigG] at ih
    simp only [contigG, paraKidsG, paraKids, ih]

theorem linesAtG_contigG {src : Bytes} : ∀ (ls : List Bytes) (p : Nat), LinesAtE src p ls → LinesAtG src (contigG p ls) ls
  | [], _, _ => trivial
  | [_], _, h => h
  | l :: l' :: rest, p, h => ⟨h.1, Nat.le_refl _, linesAtG_contigG (l' :: rest) (p + l.length + 1) h.2.2⟩

theorem paraEndG_boundsG {src : Bytes} : ∀ (ls : List Bytes) (ps : List Nat) (p : Nat) (l : Bytes),
    LinesAtG src (p :: ps) (l :: ls) →
    p + l.length ≤ paraEndG (p :: ps) (l :: ls) ∧ paraEndG (p :: ps) (l :: ls) ≤ src.length
  | [], [], p, l, h => ⟨Nat.le_refl _, h.2⟩
  | l' :: ls, p' :: ps, p, l, h => by
    have ih := paraEndG_boundsG ls ps p' l' h.2.2
    have h1 := h.2.1
    simp only [paraEndG]
    omega
  | [], _ :: _, _, _, h => h.elim
  | _ :: _, [], _, _, h => h.elim

theorem paraSegsG_lengthG {src : Bytes} : ∀ (ls : List Bytes) (ps : List Nat), LinesAtG src ps ls →
    (paraSegsG ps ls).length = ls.length
  | [], [], _ => rfl
  | [_], [_], _ => rfl
  | l :: l' :: rest, p :: p' :: ps, h => by
    have ih := paraSegsG_lengthG (l' :: rest) (p' :: ps) h.2.2
    simp only [paraSegsG, List.length_cons] at ih ⊢
    omega
  | [], [_], h => h.elim
  | [], _ :: _ :: _, h => h.elim
  | [_], [], h => h.elim
  | _ :: _ :: _, [], h => h.elim
  | [_], _ :: _ :: _, h => h.elim
  | _ :: _ :: _, [_], h => h.elim

theorem loop_quietG (env : Env) (henv : env.escapedSpace = false) (src : Bytes) (segs : List Segment) (L : Int)
    (nid : Nat) (bs : List Bottom) :
    ∀ (ls : List Bytes) (ps : List Nat) (done : List Segment) (ks : List Inl.Node) (fuel : Nat), ls ≠ [] →
      (∀ l ∈ ls, GoodLine l) → LinesAtG src ps ls → segs = done ++ paraSegsG ps ls → L = (paraEndG ps ls : Nat) →
      ls.length + 1 ≤ fuel →
      ∃ rd', lineLoop env fuel false
        { rd := rdAt src segs L done.length ((paraSegsG ps ls).headD default) ((paraSegsG ps ls).headD default).start,
          kids := ks, nextId := nid, bottoms := bs } =
        .ok { rd := rd', kids := ks ++ paraKidsG ps ls, nextId := nid, bottoms := bs }
  | [], _, _, _, _, h, _, _, _, _, _ => absurd rfl h
  | [l], [p], done, ks, fuel, _, hg, hla, hsegs, hL, hf => by
    obtain ⟨l0, c, hl, hs, hb⟩ := good_concat (hg l (by simp))
    obtain ⟨hsub', hlen⟩ := hla
    obtain ⟨f, rfl⟩ : ∃ f, fuel = f + 2 := ⟨fuel - 2, by simp at hf; omega⟩
    have hL' : L = (p : Int) + l.length := by simp [hL, paraEndG]
    subst hL'
    have := last_step env henv src segs done.length p l l0 c ks nid bs f hl hs hb (hg l (by simp)).quiet hsub'
      hlen (by simp [hsegs, paraSegsG])
    exact ⟨_, this⟩
  | l :: l' :: rest, p :: p' :: ps, done, ks, fuel, _, hg, hla, hsegs, hL, hf => by
    obtain ⟨l0, c, hl, hs, hb⟩ := good_concat (hg l (by simp))
    have hbd := paraEndG_boundsG (l' :: rest) (p' :: ps) p l hla
    obtain ⟨hsub, hpp, hla'⟩ := hla
    have hbd' := paraEndG_boundsG rest ps p' l' hla'
    obtain ⟨f, rfl⟩ : ∃ f, fuel = f + 1 := ⟨fuel - 1, by simp at hf; omega⟩
    have hL2 : L = (paraEndG (p' :: ps) (l' :: rest) : Nat) := by rw [hL]; rfl
    have hpL : (p : Int) < L := by omega
    have hlen : p + l.length + 1 ≤ src.length := by omega
    have hsegs' : segs = (done ++ [{ start := (p : Int), stop := (p : Int) + l.length + 1 }]) ++
        paraSegsG (p' :: ps) (l' :: rest) := by
      rw [hsegs]; simp [paraSegsG]
    have hnext : segs[done.length + 1]? = some ((paraSegsG (p' :: ps) (l' :: rest)).headD default) := by
      rw [hsegs']
      rw [List.getElem?_append_right (by simp)]
      simp only [List.length_append, List.length_cons, List.length_nil, Nat.zero_add, Nat.sub_self]
      cases rest <;> cases ps <;> rfl
    have hstep := line_step env henv src segs L done.length p l l0 c _ ks nid bs f hl hs hb (hg l (by simp)).quiet
      hsub hlen hpL hnext
    obtain ⟨rd', ih⟩ := loop_quietG env henv src segs L nid bs (l' :: rest) (p' :: ps)
      (done ++ [{ start := (p : Int), stop := (p : Int) + l.length + 1 }])
      (ks ++ [.text { start := p, stop := (p : Int) + l.length } true false false]) f (by simp)
      (fun x hx => hg x (by simp at hx ⊢; right; exact hx)) hla' hsegs' hL2 (by simp at hf ⊢; omega)
    refine ⟨rd', ?_⟩
    have e1 : (paraSegsG (p :: p' :: ps) (l :: l' :: rest)).headD default =
        { start := (p : Int), stop := (p : Int) + l.length + 1 } := rfl
    rw [e1]
    show lineLoop env (f + 1) false
      { rd := rdAt src segs L done.length { start := (p : Int), stop := (p : Int) + l.length + 1 } p, kids := ks,
        nextId := nid, bottoms := bs } = _
    rw [hstep]
    have e2 : ((done ++ [({ start := (p : Int), stop := (p : Int) + l.length + 1 } : Segment)]).length : Int) = (done.length : Int) + 1 := by
      simp
    rw [e2] at ih
    rw [ih]
    simp [paraKidsG]
  | [_], [], _, _, _, _, _, h, _, _, _ => h.elim
  | [_], _ :: _ :: _, _, _, _, _, _, h, _, _, _ => h.elim
  | _ :: _ :: _, [], _, _, _, _, _, h, _, _, _ => h.elim
  | _ :: _ :: _, [_], _, _, _, _, _, h, _, _, _ => h.elim

theorem paraSegsG_lastG {src : Bytes} : ∀ (ls : List Bytes) (ps : List Nat), ls ≠ [] → LinesAtG src ps ls →
    ∃ s, (paraSegsG ps ls)[(paraSegsG ps ls).length - 1]? = some s ∧ s.stop = (paraEndG ps ls : Nat)
  | [], _, h, _ => absurd rfl h
  | [l], [p], _, _ => ⟨_, rfl, by simp [paraEndG]⟩
  | l :: l' :: rest, p :: p' :: ps, _, h => by
    obtain ⟨s, h1, h2⟩ := paraSegsG_lastG (l' :: rest) (p' :: ps) (by simp) h.2.2
    refine ⟨s, ?_, by rw [h2]; rfl⟩
    have hlen := paraSegsG_lengthG (l' :: rest) (p' :: ps) h.2.2
    have hlen2 := paraSegsG_lengthG (l :: l' :: rest) (p :: p' :: ps) h
    rw [hlen] at h1
    rw [hlen2]
    simp only [paraSegsG]
    simpa using h1
  | [_], [], _, h => h.elim
  | [_], _ :: _ :: _, _, h => h.elim
  | _ :: _ :: _, [], _, h => h.elim
  | _ :: _ :: _, [_], _, h => h.elim

theorem paraSegsG_headG {src : Bytes} (ls : List Bytes) (ps : List Nat) (h : ls ≠ []) (hla : LinesAtG src ps ls) :
    (paraSegsG ps ls)[0]? = some ((paraSegsG ps ls).headD default) := by
  match ls, ps, h, hla with
  | [l], [p], _, _ => rfl
  | l :: l' :: rest, p :: p' :: ps, _, _ => rfl
  | [_], [], _, h => exact h.elim
  | [_], _ :: _ :: _, _, h => exact h.elim
  | _ :: _ :: _, [], _, h => exact h.elim
  | _ :: _ :: _, [_], _, h => exact h.elim

theorem new_paraG {src : Bytes} (ls : List Bytes) (ps : List Nat) (h : ls ≠ []) (hla : LinesAtG src ps ls) :
    BlockReader.new src (paraSegsG ps ls) =
      .ok (rdAt src (paraSegsG ps ls) (paraEndG ps ls : Nat) 0 ((paraSegsG ps ls).headD default)
        ((paraSegsG ps ls).headD default).start) := by
  obtain ⟨s, h1, h2⟩ := paraSegsG_lastG ls ps h hla
  have h3 := paraSegsG_headG ls ps h hla
  rw [new_eq src _ _ s h3 h1, h2]

theorem paraKidsG_textG : ∀ (ls : List Bytes) (ps : List Nat), allText (paraKidsG ps ls)
  | [], [] => trivial
  | [], [_] => trivial
  | [], _ :: _ :: _ => trivial
  | _ :: _, [] => trivial
  | [_], [_] => trivial
  | [_], [_, _] => trivial
  | [_], _ :: _ :: _ :: _ => trivial
  | l :: l' :: rest, p :: ps => by
    have ih := paraKidsG_textG (l' :: rest) ps
    cases ps with
    | nil => exact ih
    | cons p' ps => exact ih

theorem parseBlock_linesG (env : GM.Inl.Env) (henv : env.escapedSpace = false) (src : Bytes) (ps : List Nat)
    (ls : List Bytes) (hne : ls ≠ []) (hg : ∀ l ∈ ls, GoodLine l) (h : LinesAtG src ps ls) :
    GM.Inl.parseBlock env src (paraSegsG ps ls) = .ok (paraKidsG ps ls) := by
  have hfuel : ls.length + 1 ≤ blockFuel src (paraSegsG ps ls) := by
    unfold blockFuel
    rw [paraSegsG_lengthG ls ps h]
    omega
  obtain ⟨rd', h2⟩ := loop_quietG env henv src (paraSegsG ps ls)
    (paraEndG ps ls : Nat) 0 [] ls ps [] [] _ hne hg h rfl rfl hfuel
  unfold parseBlock
  simp only [bind, Except.bind, new_paraG ls ps hne h]
  have h' : lineLoop env (blockFuel src (paraSegsG ps ls)) false
      { rd := rdAt src (paraSegsG ps ls) (paraEndG ps ls : Nat) 0 ((paraSegsG ps ls).headD default)
          ((paraSegsG ps ls).headD default).start } =
      .ok { rd := rd', kids := paraKidsG ps ls, nextId := 0, bottoms := [] } := by
    simpa using h2
  rw [h']
  simp only [processDelimiters_text _ (paraKidsG_textG ls ps), closeLabelsL_text _ (paraKidsG_textG ls ps),
    pure, Except.pure]

theorem wfFrom_linesG {src : Bytes} : ∀ (ls : List Bytes) (ps : List Nat) (lo : Int),
    (∀ p, ps.head? = some p → lo ≤ p) → LinesAtG src ps ls →
    (∀ l ∈ ls, l ≠ []) → GM.LinkRef.wfSegsFromB src lo (paraSegsG ps ls) = true
  | [], [], _, _, _, _ => rfl
  | [l], [p], lo, hlo, h, hne => by
    have hle := h.2
    have hlo := hlo p rfl
    have hl : 0 < l.length := List.length_pos_iff.mpr (hne l (by simp))
    simp only [paraSegsG, GM.LinkRef.wfSegsFromB, Bool.and_eq_true, decide_eq_true_eq, Bool.not_eq_true', Bool.and_true]
    refine ⟨⟨⟨⟨hlo, by omega⟩, by omega⟩, by omega⟩, ?_⟩
    first | trivial | rfl
  | l :: l' :: rest, p :: p' :: ps, lo, hlo, h, hne => by
    have hbd := paraEndG_boundsG rest ps p' l' h.2.2
    have hpp := h.2.1
    have hlo := hlo p rfl
    have ih := wfFrom_linesG (l' :: rest) (p' :: ps) ((p : Int) + (l.length : Int) + 1)
      (by intro q hq; simp at hq; subst hq; omega) h.2.2
      (fun x hx => hne x (by simp [hx]))
    simp only [paraSegsG, GM.LinkRef.wfSegsFromB, Bool.and_eq_true, decide_eq_true_eq, Bool.not_eq_true'] at ih ⊢
    refine ⟨⟨⟨⟨⟨hlo, by omega⟩, by omega⟩, by omega⟩, ?_⟩, ih⟩
    first | trivial | rfl
  | [], [_], _, _, h, _ => h.elim
  | [], _ :: _ :: _, _, _, h, _ => h.elim
  | [_], [], _, _, h, _ => h.elim
  | [_], _ :: _ :: _, _, _, h, _ => h.elim
  | _ :: _ :: _, [], _, _, h, _ => h.elim
  | _ :: _ :: _, [_], _, _, h, _ => h.elim

theorem pad0_paraG : ∀ (ls : List Bytes) (ps : List Nat), GM.LinkRef.pad0B (paraSegsG ps ls) = true
  | [], [] => rfl
  | [], [_] => rfl
  | [], _ :: _ :: _ => rfl
  | _ :: _, [] => rfl
  | [_], [_] => by simp [GM.LinkRef.pad0B, paraSegsG]
  | [_], _ :: _ :: _ => by simp [GM.LinkRef.pad0B, paraSegsG]
  | l :: l' :: rest, p :: ps => by
    have ih := pad0_paraG (l' :: rest) ps
    simp only [GM.LinkRef.pad0B] at ih ⊢
    cases ps with
    | nil => simp [paraSegsG]
    | cons p' ps => simp only [paraSegsG, List.all_cons, ih]; simp

theorem wf0B_linesG {src : Bytes} (ps : List Nat) (ls : List Bytes) (hne : ls ≠ []) (h : LinesAtG src ps ls)
    (hnel : ∀ l ∈ ls, l ≠ []) : GM.LinkRef.wf0B src (paraSegsG ps ls) = true := by
  have h1 := wfFrom_linesG ls ps 0 (by intro p _; omega) h hnel
  have h2 := pad0_paraG ls ps
  have h3 : (paraSegsG ps ls).isEmpty = false := by
    have := paraSegsG_lengthG ls ps h
    cases hs : paraSegsG ps ls with
    | nil =>
      rw [hs] at this
      cases ls with
      | nil => exact absurd rfl hne
      | cons _ _ => simp at this
    | cons _ _ => rfl
  simp [GM.LinkRef.wf0B, GM.LinkRef.wfSegsB, h1, h2, h3]

theorem text_valueE {src : Bytes} {p : Nat} {l : Bytes} (hs : sub src p (p + l.length) = l) (hle : p + l.length ≤ src.length) :
    Segment.value { start := (p : Int), stop := (p : Int) + (l.length : Int) } src = .ok l := by
  rw [value_plain, sliceB_nat src p l.length hle, hs]

theorem inlineTrees_linesG {src : Bytes} : ∀ (ps : List Nat) (ls : List Bytes), LinesAtG src ps ls →
    GM.Convert.inlineTrees src (paraKidsG ps ls) = .ok (textNodes ls)
  | [], [], _ => rfl
  | [p], [l], h => by
    simp only [paraKidsG, GM.Convert.inlineTrees, GM.Convert.inlineTree, text_valueE h.1 h.2, bind, Except.bind, pure,
      Except.pure, textNodes]
  | p :: p' :: ps, l :: l' :: rest, h => by
    have ih := inlineTrees_linesG (p' :: ps) (l' :: rest) h.2.2
    have hbd := paraEndG_boundsG rest ps p' l' h.2.2
    have hpp := h.2.1
    have hv := text_valueE (src := src) (p := p) (l := l) (sub_prefix src p l.length l 10 rfl h.1) (by omega)
    simp only [paraKidsG, GM.Convert.inlineTrees, GM.Convert.inlineTree, hv, bind, Except.bind, pure,
      Except.pure, textNodes] at ih ⊢
    rw [ih]
  | [_], [], h => h.elim
  | _ :: _ :: _, [], h => h.elim
  | [], _ :: _, h => h.elim
  | [_], _ :: _ :: _, h => h.elim
  | _ :: _ :: _, [_], h => h.elim

example : GM.Inl.parseBlock {} [62, 32, 97, 98, 10, 62, 32, 99, 100, 10] (paraSegsG [2, 7] [[97, 98], [99, 100]]) =
    .ok [.text { start := 2, stop := 4 } true false false, .text { start := 7, stop := 9 } false false false] := by
  have hg : ∀ l ∈ [[97, 98], [99, 100]], GoodLine l := by
    intro l hl
    simp only [List.mem_cons, List.not_mem_nil, or_false] at hl
    rcases hl with rfl | rfl
    · exact ⟨by simp, by intro c h; simp at h; subst h; decide, by decide, by intro c h; simp at h; subst h; decide,
        by intro c h; simp at h; subst h; decide⟩
    · exact ⟨by simp, by intro c h; simp at h; subst h; decide, by decide, by intro c h; simp at h; subst h; decide,
        by intro c h; simp at h; subst h; decide⟩
  exact parseBlock_linesG {} rfl _ [2, 7] [[97, 98], [99, 100]] (by simp) hg ⟨by decide, by decide, by decide, by decide⟩

theorem parseBlock_linesE (env : GM.Inl.Env) (henv : env.escapedSpace = false) (src : Bytes) (p : Nat)
    (ls : List Bytes) (hne : ls ≠ []) (hg : ∀ l ∈ ls, GoodLine l) (h : LinesAtE src p ls) :
    GM.Inl.parseBlock env src (paraSegs p ls) = .ok (paraKids p ls) := by
  have := parseBlock_linesG env henv src (contigG p ls) ls hne hg (linesAtG_contigG ls p h)
  rwa [paraSegsG_contigG, paraKidsG_contigG] at this

theorem parseBlock_quiet (env : GM.Inl.Env) (henv : env.escapedSpace = false) (pre post : Bytes) (ls : List Bytes)
    (hne : ls ≠ []) (hg : ∀ l ∈ ls, GoodLine l) :
    GM.Inl.parseBlock env (pre ++ paraBytes ls ++ post) (paraSegs pre.length ls) = .ok (paraKids pre.length ls) :=
  parseBlock_linesE env henv _ pre.length ls hne hg (linesAtE_para ls pre post)

example : GM.Inl.parseBlock {} ([120, 10] ++ paraBytes [[97, 98], [99]] ++ [122]) (paraSegs 2 [[97, 98], [99]]) =
    .ok [.text { start := 2, stop := 4 } true false false, .text { start := 5, stop := 6 } false false false] := by
  have hg : ∀ l ∈ [[97, 98], [99]], GoodLine l := by
    intro l hl
    simp only [List.mem_cons, List.not_mem_nil, or_false] at hl
    rcases hl with rfl | rfl
    · exact ⟨by simp, by intro c h; simp at h; subst h; decide, by decide, by intro c h; simp at h; subst h; decide,
        by intro c h; simp at h; subst h; decide⟩
    · exact ⟨by simp, by intro c h; simp at h; subst h; decide, by decide, by intro c h; simp at h; subst h; decide,
        by intro c h; simp at h; subst h; decide⟩
  exact parseBlock_quiet {} rfl [120, 10] [122] [[97, 98], [99]] (by simp) hg

end GM.Proof.CMFrag
