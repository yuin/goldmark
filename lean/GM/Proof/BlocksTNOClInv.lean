/-
  GM.Proof.BlocksTNOClInv — the CLOSE DISCIPLINE of GM.Proof.BlocksClosedInv / BlocksClosedClose for the driver WITH paragraph
  transformers, part 1: the invariant `CInvW` and `closeBlocksT`.

  `CInvW tb F src s U` is `CInv` of GM.Proof.BlocksClosedInv over the invariant `InvW tb D F` of GM.Proof.BlocksTNOInvW (no "every Paragraph has a
  line"), with "the nodes of `U` are distinct" as a `Nodup` clause; with `tb` its `noLinesW` leaves out `thematicBreak` (the
  table records carry lines). `ptpost_cl` — one link-reference call on the top block of the open set: KEEP (the lines lose a
  prefix; nothing else changes) or GONE (the paragraph has no lines any more, is detached and leaves the open set; the fresh
  TextBlock has no lines; tree links stay consistent); `tablepost_cl` — a table-making call (`TablePost`): the paragraph
  keeps a prefix of its lines or none, the records hang below the paragraph's parent; `ptpostT_cl` for `PTPostT`;
  `closeListT_clG`, `closeBlocksT_clM`. `CInvW True` gives `CInvG` (namespace `GM.Blocks.TX`), `CInvW False` gives `TO.CInvG`.
-/
import GM.Proof.BlocksTNORunW
import GM.Proof.BlocksClosedRun

namespace GM.Blocks.TX
open GM GM.Text GM.Spec GM.Proof.Reader GM.LinkRef GM.Blocks.TO GM.TableX
open GM.Proof.BlocksWF0 (isRaw)

variable {tb : Prop}

/-- the kinds whose nodes never carry lines — without ThematicBreak when a table transformer may run (the table records
    are `thematicBreak` nodes) -/
def noLinesW (tb : Prop) (k : Kind) : Prop := GM.Blocks.noLinesKind k = true ∧ (tb → k ≠ .thematicBreak)

structure CInvW (tb : Prop) (F : Prop) (src : Bytes) (s : St) (U : List Block) : Prop where
  inv : ∃ B D, InvW tb D F src B s
  tree : TreeOK s
  pad : ∀ i, isRaw (nd s i).kind = false → Closed (nd s i) ∨ (∃ b ∈ U, b.node = i ∧ PSb b) ∨
    ((nd s i).kind = .heading ∧ (nd s i).parent = none)
  att : ∀ b ∈ U, (nd s b.node).parent.isSome = true
  nodup : (U.map (·.node)).Nodup
  sub : ∀ b ∈ U, b ∈ s.pc.opened
  nl : ∀ i, noLinesW tb (nd s i).kind → (nd s i).lines = []

variable {F : Prop}

theorem CInvW.kinds {src : Bytes} {s : St} {U : List Block} (h : CInvW tb F src s U) {b : Block} (hb : b ∈ U) :
    (nd s b.node).kind = b.bp.kind ∧ b.node < s.nodes.length := by
  obtain ⟨B, D, hB⟩ := h.inv
  exact hB.kinds b (h.sub b hb)

/-- the exemption of `CInvW`: a Heading that has no parent (the node `setextHeadingParser.Open` built and a transformer abandoned) -/
def AbW (s : St) (i : Nat) : Prop := (nd s i).kind = .heading ∧ (nd s i).parent = none

theorem CInvW.toA {src : Bytes} {s : St} {U : List Block} (h : CInvW tb F src s U) :
    CInvA (fun s => ∃ B D, InvW tb D F src B s) AbW s U :=
  ⟨h.inv, h.tree, h.pad, h.att, fun _ ha _ hb e => nodup_map_node_inj h.nodup ha hb e, h.sub⟩

theorem CInvW.ofA {src : Bytes} {s : St} {U : List Block} (h : CInvA (fun s => ∃ B D, InvW tb D F src B s) AbW s U)
    (hnd : (U.map (·.node)).Nodup) (hnl : ∀ i, noLinesW tb (nd s i).kind → (nd s i).lines = []) : CInvW tb F src s U :=
  ⟨h.inv, h.tree, h.pad, h.att, hnd, h.sub, hnl⟩

theorem CInvW.ne {src : Bytes} {s : St} {b : Block} {U : List Block} (h : CInvW tb F src s (b :: U)) {g : Block}
    (hg : g ∈ U) : g.node ≠ b.node := by
  have := h.nodup
  simp only [List.map_cons, List.nodup_cons, List.mem_map, not_exists, not_and] at this
  exact this.1 g hg

theorem CInvW.closed_of_notPS {src : Bytes} {s : St} {U : List Block} (h : CInvW tb F src s U) {b : Block} (hb : b ∈ U)
    (hps : ¬ PSb b) (hr : isRaw (nd s b.node).kind = false) : Closed (nd s b.node) :=
  h.toA.closed_of_notPS (fun i hab => by rw [hab.2]; exact Bool.false_ne_true) hb hps hr

theorem CInvW.drop {src : Bytes} {s : St} {b : Block} {U : List Block} (h : CInvW tb F src s (b :: U))
    (hc : isRaw (nd s b.node).kind = false → Closed (nd s b.node)) : CInvW tb F src s U :=
  .ofA (h.toA.drop hc) (List.nodup_cons.1 (by simpa using h.nodup)).2 h.nl

theorem CInvW.perm {src : Bytes} {s : St} {U U' : List Block} (h : CInvW tb F src s U) (hp : U'.Perm U) : CInvW tb F src s U' :=
  .ofA (h.toA.congr fun _ => hp.mem_iff) (((hp.map (·.node)).nodup_iff).2 h.nodup) h.nl

theorem CInvW.same {src : Bytes} {s s' : St} {U : List Block} (h : CInvW tb F src s U) (hlk : LK s s')
    (hl : ∀ i, (nd s' i).parent = (nd s i).parent ∧ (nd s' i).children = (nd s i).children) : CInvW tb F src s' U := by
  obtain ⟨B, D, hB⟩ := h.inv
  exact .ofA (h.toA.same ⟨B, D, hB.lk hlk⟩ hl (fun i => ⟨(hlk.same i).1, (hlk.same i).2.2⟩)
      (fun i hab => ⟨by rw [(hlk.same i).2.2]; exact hab.1, by rw [(hl i).1]; exact hab.2⟩) (by rw [hlk.pc])) h.nodup
    (fun i hn => by rw [(hlk.same i).2.2] at hn; rw [(hlk.same i).1]; exact h.nl i hn)

theorem CInvW.setLines {src : Bytes} {s : St} {b : Block} {U : List Block} {ls : List Segment} (h : CInvW tb F src s (b :: U))
    (B : Int) {D' : List Block} (hinv : InvW tb D' F src B ({ s with nodes := s.nodes.set b.node { (nd s b.node) with lines := ls } } : St))
    (hcl : isRaw (nd s b.node).kind = false → ∀ t ∈ ls, t.padding = 0)
    (hnl : noLinesW tb (nd s b.node).kind → ls = []) :
    CInvW tb F src ({ s with nodes := s.nodes.set b.node { (nd s b.node) with lines := ls } } : St) U ∧
      CStep s ({ s with nodes := s.nodes.set b.node { (nd s b.node) with lines := ls } } : St) U := by
  have hnd := setLines_nd s b.node ls
  have hlk := setLines_links s b.node ls
  have hkind : ∀ i, (nd ({ s with nodes := s.nodes.set b.node { (nd s b.node) with lines := ls } } : St) i).kind =
      (nd s i).kind := by
    intro i; rw [hnd]; split
    · next hc => rw [hc.1]
    · rfl
  refine ⟨.ofA (h.toA.setLines (h.kinds (List.mem_cons_self ..)).2 ⟨B, _, hinv⟩ hcl
      (fun i _ hab => ⟨by rw [hkind]; exact hab.1, by rw [(hlk i).1]; exact hab.2⟩))
      (List.nodup_cons.1 (by simpa using h.nodup)).2 (fun i hn => ?_),
    ⟨rfl, rfl, ⟨by simp, fun i _ => hkind i⟩, fun i _ _ => (hlk i).1, fun g _ _ => (hlk g.node).1, fun _ ht => ht⟩⟩
  rw [hkind] at hn
  rw [hnd]
  split
  · next hc => exact hnl (by rw [hc.1]; exact hn)
  · exact h.nl i hn

/-- **one transformer call on the top block of the open set** (a Paragraph): KEEP — the set and all links are what they
    were; GONE — the paragraph leaves the set (no lines, detached) -/
theorem ptpost_cl {src : Bytes} {s s1 : St} {b : Block} {U : List Block} (h : CInvW tb F src s (b :: U))
    (hbp : b.bp = .paragraph) (hp : PTPost b.node s s1) :
    (CInvW tb F src s1 (b :: U) ∧ CStep s s1 (b :: U) ∧ (nd s1 b.node).parent = (nd s b.node).parent) ∨
    (CInvW tb F src s1 U ∧ CStep s s1 U ∧ (nd s1 b.node).parent = none) := by
  obtain ⟨hkb, hltb⟩ := h.kinds (List.mem_cons_self ..)
  obtain ⟨B, D, hB⟩ := h.inv
  have hbm : b ∈ s.pc.opened := h.sub b (List.mem_cons_self ..)
  obtain ⟨hB1, hr1, hop1, hkg1, htm1, _⟩ := hB.ptpost hltb (fun t ht hm => fun h0 => (hB.tl t ht hm).2 b hbm h0.symm)
    (by rw [hkb, hbp]; rfl) hp
  rcases hp.res with ⟨refs, k, _, e⟩ | ⟨refs, p, hpar, e⟩
  · -- KEEP
    left
    have hnds : ∀ i, nd s1 i = nd ({ s with nodes := s.nodes.set b.node { (nd s b.node) with lines := (nd s b.node).lines.drop k } } : St) i := by
      intro i; rw [e]
    have hlk : ∀ i, (nd s1 i).parent = (nd s i).parent ∧ (nd s1 i).children = (nd s i).children := fun i => by
      rw [hnds]; exact setLines_links s b.node _ i
    have hnd := setLines_nd s b.node ((nd s b.node).lines.drop k)
    refine ⟨⟨⟨B, D, hB1⟩, h.tree.of_links hlk, fun i hr => ?_, fun g hg => by rw [(hlk g.node).1]; exact h.att g hg, h.nodup,
      fun g hg => by rw [hop1]; exact h.sub g hg, fun i hn => ?_⟩,
      ⟨hr1, hop1, hkg1, fun i _ _ => (hlk i).1, fun g _ _ => (hlk g.node).1, fun t ht => by rw [htm1] at ht; exact ht⟩,
      (hlk b.node).1⟩
    by_cases hi : b.node = i
    · subst hi
      exact .inr (.inl ⟨b, List.mem_cons_self .., rfl, .inl hbp⟩)
    · have hki : (nd s1 i).kind = (nd s i).kind := by rw [hnds, hnd, if_neg (fun hh => hi hh.1)]
      rw [hki] at hr
      rcases h.pad i hr with hc | hc | hab
      · left; rw [Closed, hnds, hnd, if_neg (fun hh => hi hh.1)]; exact hc
      · exact .inr (.inl hc)
      · exact .inr (.inr ⟨by rw [hki]; exact hab.1, by rw [(hlk i).1]; exact hab.2⟩)
    · by_cases hi : b.node = i
      · subst hi
        rw [hkg1.2 b.node hltb, hkb, hbp] at hn; cases hn.1
      · have e0 : nd s1 i = nd s i := by rw [hnds, hnd, if_neg (fun hh => hi hh.1)]
        rw [e0] at hn ⊢; exact h.nl i hn
  · -- GONE
    right
    have hEn : (ptEmptied s b.node refs).nodes = s.nodes.set b.node { (nd s b.node) with lines := [] } := rfl
    have hElt : b.node < (ptEmptied s b.node refs).nodes.length := by rw [hEn, List.length_set]; exact hltb
    have hElen : (ptEmptied s b.node refs).nodes.length = s.nodes.length := by rw [hEn, List.length_set]
    have hEp : (nd (ptEmptied s b.node refs) b.node).parent = some p := by rw [nd_of_set_self hEn hltb]; exact hpar
    obtain ⟨s2, e2, hf, hpn⟩ := T.ptReplace_eq b.node p (nd s b.node).blankPrev (ptEmptied s b.node refs) hElt hEp
    have hs2 : s2 = s1 := by rw [e2] at e; cases e; rfl
    subst hs2
    have hlkE : ∀ i, (nd (ptEmptied s b.node refs) i).parent = (nd s i).parent ∧
        (nd (ptEmptied s b.node refs) i).children = (nd s i).children := fun i => setLines_links s b.node [] i
    have htE : TreeOK (ptEmptied s b.node refs) := h.tree.of_links hlkE
    have e' := e
    unfold ptReplace at e'
    obtain ⟨t, sA, hA, kA⟩ := bind_ok e'
    obtain ⟨ht, hsA⟩ := newNode_ok hA
    have hnA : sA.nodes = (ptEmptied s b.node refs).nodes ++ [{ kind := .textBlock, blankPrev := (nd s b.node).blankPrev }] := by
      rw [hsA]
    have htA : TreeOK sA := htE.snoc hnA rfl rfl
    have hplt : p < b.node := h.tree.par_lt b.node p hpar
    obtain ⟨t1, l1, f1, _, _⟩ := replaceChild_tree (p := p) (v1 := b.node) (ins := t) htA (by rw [ht, hElen]; omega)
      (by rw [ht, hnA]; simp) (by rw [ht, hElen]; omega) kA
    have hndA : ∀ i, nd sA i = if i < s.nodes.length then nd (ptEmptied s b.node refs) i
        else if i = s.nodes.length then { kind := .textBlock, blankPrev := (nd s b.node).blankPrev } else default := by
      intro i; rw [nd_snoc hnA i, hElen]
    have frame : ∀ i, i < s.nodes.length → i ≠ b.node → (nd s2 i).parent = (nd s i).parent := by
      intro i hi hne
      rw [f1 i (by rw [ht, hElen]; omega) hne, hndA, if_pos hi]
      exact (hlkE i).1
    have hsame : ∀ i, (nd s2 i).kind = (nd sA i).kind ∧ (nd s2 i).lines = (nd sA i).lines := fun i => by
      have := hf.same i
      rw [hsA]
      exact ⟨this.1, this.2.1⟩
    have hkbp : (nd s b.node).kind = .paragraph := by rw [hkb, hbp]; rfl
    refine ⟨⟨⟨B, D, hB1⟩, t1, fun i hr => ?_, fun g hg => ?_, (List.nodup_cons.1 (by simpa using h.nodup)).2,
      fun g hg => by rw [hop1]; exact h.sub g (List.mem_cons_of_mem _ hg), fun i hn => ?_⟩,
      ⟨hr1, hop1, hkg1, fun i hi hk => frame i hi (fun e0 => hk (e0 ▸ hkbp)),
        fun g hg _ => frame g.node (h.kinds (List.mem_cons_of_mem _ hg)).2 (h.ne hg),
        fun t ht => by rw [htm1] at ht; exact ht⟩, hpn⟩
    · rw [(hsame i).1] at hr
      rw [Closed, (hsame i).2]
      rw [hndA] at hr ⊢
      by_cases h1 : i < s.nodes.length
      · rw [if_pos h1] at hr ⊢
        by_cases hi : i = b.node
        · subst hi; left; rw [nd_of_set_self hEn hltb]; intro u hu; cases hu
        · rw [nd_of_set_ne hEn hi] at hr ⊢
          rcases h.pad i hr with hc | ⟨b', hb', hn, hps⟩ | hab
          · exact .inl hc
          · rcases List.mem_cons.1 hb' with e0 | hm
            · subst e0; exact absurd hn.symm hi
            · exact .inr (.inl ⟨b', hm, hn, hps⟩)
          · refine .inr (.inr ⟨?_, by rw [frame i h1 hi]; exact hab.2⟩)
            rw [(hsame i).1, hndA, if_pos h1, nd_of_set_ne hEn hi]; exact hab.1
      · rw [if_neg h1]
        left
        split
        · intro u hu; cases hu
        · intro u hu; cases hu
    · rw [frame g.node (h.kinds (List.mem_cons_of_mem _ hg)).2 (h.ne hg)]
      exact h.att g (List.mem_cons_of_mem _ hg)
    · rw [(hsame i).1] at hn
      rw [(hsame i).2]
      rw [hndA] at hn ⊢
      by_cases h1 : i < s.nodes.length
      · rw [if_pos h1] at hn ⊢
        by_cases hi : i = b.node
        · subst hi; rw [nd_of_set_self hEn hltb]
        · rw [nd_of_set_ne hEn hi] at hn ⊢; exact h.nl i hn
      · rw [if_neg h1]
        split <;> rfl

/-- the outcome of `transformParagraph` with the tree links of the table step (for a store with consistent links) -/
def PTPostT (tb : Prop) (src : Bytes) (node : Nat) (s s' : St) : Prop :=
  PTPost node s s' ∨ (tb ∧ ∃ s1 t p, PTPost node s s1 ∧
    (GM.Table.transform src ((nd s1 node).lines.map toSeg)).table = some t ∧ (nd s1 node).parent = some p ∧
    (TreeOK s1 → TablePost (RecD src t) node p ((GM.Table.transform src ((nd s1 node).lines.map toSeg)).para.map ofSeg) s1 s'))

/-- what a transformer list does on a Paragraph whose lines pass the checks, in a store with consistent tree links -/
def AgreeT (tb : Prop) (src : Bytes) (pts : List PT) : Prop :=
  ∀ (node : Nat) (s : St), s.r.source = src → node < s.nodes.length → (nd s node).kind = .paragraph →
    NodesOK src s → linesOKB src (nd s node).lines = true → TreeOK s →
    ∀ g s', transformParagraph pts node s = .ok (g, s') → PTPostT tb src node s s'

theorem agreeT_of_agreeP {src : Bytes} {pts : List PT} (h : AgreeP False src pts pts) : AgreeT False src pts :=
  fun node s a b c d f _ g s' hrun => ((h node s a b c d f).2 g s' hrun).1.elim .inl (fun ht => ht.1.elim)

theorem tablePost_toData {P : Node → Prop} {node p : Nat} {lines : List Segment} {s s' : St}
    (h : TablePost P node p lines s s') (hp : (nd s node).parent = some p) : TableData P node lines s s' :=
  ⟨h.r, h.pc, h.len, fun i hi hne => (h.old i hi hne).1, by rw [h.self]; rfl, by
    rw [h.self]; simp only; rw [hp], h.fresh⟩

theorem escSeg_padding (p : Nat) : (escSeg p).padding = 0 := rfl

/-- the records have no padding -/
theorem recD_closed {src : Bytes} {ls : List Segment} (hv : TO.tblLinesB src ls = true) {t : GM.Table.Table}
    (ht : (GM.Table.transform src (ls.map toSeg)).table = some t) {n : Node} (h : RecD src t (dataOf n)) : Closed n := by
  obtain ⟨_, hcells⟩ := table_facts hv ht
  intro x hx
  have hx' : x ∈ (dataOf n).lines := hx
  rcases h with h | h | ⟨r, hr, h⟩ | ⟨r, hr, c, hc, h⟩
  · rw [h] at hx'; cases hx'
  · rw [h] at hx'
    obtain ⟨q, _, hq⟩ := List.mem_map.1 hx'
    rw [← hq]; rfl
  · rw [h] at hx'
    obtain ⟨q, _, hq⟩ := List.mem_map.1 hx'
    rw [← hq]; rfl
  · rw [h] at hx'
    obtain ⟨l, _, hin⟩ := hcells r hr
    have hx2 : x ∈ (cellNode src c).lines := hx'
    unfold cellNode at hx2
    cases hs : c.seg with
    | none => rw [hs] at hx2; cases hx2
    | some sg =>
      rw [hs] at hx2
      simp only [List.mem_singleton] at hx2
      subst hx2
      have := ((hin c hc).1 sg hs).2.2.2
      simp only [ofSeg, this]
      rfl

theorem tablepost_cl {src : Bytes} {s s1 : St} {b : Block} {U : List Block} {t : GM.Table.Table} {p : Nat}
    (htab : tb) (h : CInvW tb F src s (b :: U)) (hbp : b.bp = .paragraph)
    (htb : (GM.Table.transform src ((nd s b.node).lines.map toSeg)).table = some t) (hpar : (nd s b.node).parent = some p)
    (hT : TablePost (RecD src t) b.node p ((GM.Table.transform src ((nd s b.node).lines.map toSeg)).para.map ofSeg) s s1) :
    (CInvW tb F src s1 (b :: U) ∧ CStep s s1 (b :: U) ∧ (nd s1 b.node).parent = (nd s b.node).parent) ∨
    (CInvW tb F src s1 U ∧ CStep s s1 U ∧ (nd s1 b.node).parent = none) := by
  obtain ⟨hkb, hltb⟩ := h.kinds (List.mem_cons_self ..)
  obtain ⟨B, D, hB0⟩ := h.inv
  have hbm : b ∈ s.pc.opened := h.sub b (List.mem_cons_self ..)
  have hB : InvW tb (b :: D) F src B s := hB0.dmono (fun _ hx => List.mem_cons_of_mem _ hx)
  have hkp : (nd s b.node).kind = .paragraph := by rw [hkb, hbp]; rfl
  have hv := hB.tblLinesB hkp
  obtain ⟨hB1, hr1, hop1, hkg1, htm1, hlo1⟩ := hB.tabledata htab hltb
    (fun x hx hm => fun h0 => (hB.tl x hx hm).2 b hbm h0.symm) hkp
    (fun b' hb' hx => by rw [hB.node_inj hbm hb' hx]; exact List.mem_cons_self ..) htb (tablePost_toData hT hpar)
  obtain ⟨L', hL'⟩ : ∃ L', (GM.Table.transform src ((nd s b.node).lines.map toSeg)).para.map ofSeg = L' := ⟨_, rfl⟩
  rw [hL'] at hT
  have hself : nd s1 b.node = { (nd s b.node) with lines := L', parent := if L'.isEmpty then none else some p } := hT.self
  have hpo : ∀ i, i < s.nodes.length → i ≠ b.node → (nd s1 i).parent = (nd s i).parent := fun i hi hne => (hT.old i hi hne).2
  have hfresh : ∀ i, s.nodes.length ≤ i → Closed (nd s1 i) ∧ (nd s1 i).kind ≠ .paragraph ∧ (noLinesW tb (nd s1 i).kind → (nd s1 i).lines = []) := by
    intro i hi
    rcases Nat.lt_or_ge i s1.nodes.length with h2 | h2
    · have hk := recD_kind (hT.fresh i hi h2)
      exact ⟨recD_closed hv htb (hT.fresh i hi h2), (by rw [hk]; decide), (fun hn => by rw [hk] at hn; exact absurd rfl (hn.2 htab))⟩
    · rw [nd_default_of_ge s1 h2]
      exact ⟨fun x hx => (by cases hx), (by decide), fun _ => rfl⟩
  -- the parts that do not depend on the case
  have hpad : ∀ (U' : List Block), (∀ g ∈ U, g ∈ U') → (L'.isEmpty = false → b ∈ U') →
      ∀ i, isRaw (nd s1 i).kind = false → Closed (nd s1 i) ∨ (∃ b' ∈ U', b'.node = i ∧ PSb b') ∨
        ((nd s1 i).kind = .heading ∧ (nd s1 i).parent = none) := by
    intro U' hU hbU i hr
    rcases Nat.lt_or_ge i s.nodes.length with hi | hi
    · by_cases hx : i = b.node
      · subst hx
        cases hemp : L'.isEmpty with
        | true =>
          left
          rw [hself]
          intro x hx'
          have : L' = [] := List.isEmpty_iff.1 hemp
          rw [this] at hx'; cases hx'
        | false => exact .inr (.inl ⟨b, hbU hemp, rfl, .inl hbp⟩)
      · rw [hkg1.2 i hi] at hr
        rcases h.pad i hr with hc | ⟨b', hb', hn, hps⟩ | hab
        · left; rw [Closed, hlo1 i hi hx]; exact hc
        · rcases List.mem_cons.1 hb' with e0 | hm
          · subst e0; exact absurd hn.symm hx
          · exact .inr (.inl ⟨b', hU b' hm, hn, hps⟩)
        · exact .inr (.inr ⟨by rw [hkg1.2 i hi]; exact hab.1, by rw [hpo i hi hx]; exact hab.2⟩)
    · exact .inl (hfresh i hi).1
  have hatt : ∀ g ∈ U, (nd s1 g.node).parent.isSome = true := fun g hg => by
    rw [hpo g.node (h.kinds (List.mem_cons_of_mem _ hg)).2 (h.ne hg)]
    exact h.att g (List.mem_cons_of_mem _ hg)
  have hnl : ∀ i, noLinesW tb (nd s1 i).kind → (nd s1 i).lines = [] := by
    intro i hn
    rcases Nat.lt_or_ge i s.nodes.length with hi | hi
    · by_cases hx : i = b.node
      · subst hx; rw [hkg1.2 b.node hltb, hkp] at hn; cases hn.1
      · rw [hkg1.2 i hi] at hn; rw [hlo1 i hi hx]; exact h.nl i hn
    · exact (hfresh i hi).2.2 hn
  have hnpar : ∀ i, i < s.nodes.length → (nd s i).kind ≠ .paragraph → (nd s1 i).parent = (nd s i).parent :=
    fun i hi hk => hpo i hi (fun e0 => hk (e0 ▸ hkp))
  have hgparU : ∀ g ∈ U, PSb g → (nd s1 g.node).parent = (nd s g.node).parent :=
    fun g hg _ => hpo g.node (h.kinds (List.mem_cons_of_mem _ hg)).2 (h.ne hg)
  have hB1' : ∃ B D, InvW tb D F src B s1 := ⟨B, _, hB1⟩
  cases hemp : L'.isEmpty with
  | false =>
    left
    have hpb : (nd s1 b.node).parent = (nd s b.node).parent := by rw [hself, hemp, hpar]; rfl
    refine ⟨⟨hB1', hT.tree, hpad (b :: U) (fun g hg => List.mem_cons_of_mem _ hg) (fun _ => List.mem_cons_self ..),
      fun g hg => ?_, h.nodup, fun g hg => by rw [hop1]; exact h.sub g hg, hnl⟩,
      ⟨hr1, hop1, hkg1, hnpar, fun g hg hp => ?_, fun x hx => by rw [htm1] at hx; exact hx⟩, hpb⟩
    · rcases List.mem_cons.1 hg with e0 | hm
      · subst e0; rw [hpb, hpar]; rfl
      · exact hatt g hm
    · rcases List.mem_cons.1 hg with e0 | hm
      · subst e0; exact hpb
      · exact hgparU g hm hp
  | true =>
    right
    refine ⟨⟨hB1', hT.tree, hpad U (fun g hg => hg) (fun h0 => by rw [hemp] at h0; cases h0), hatt,
      (List.nodup_cons.1 (by simpa using h.nodup)).2, fun g hg => by rw [hop1]; exact h.sub g (List.mem_cons_of_mem _ hg), hnl⟩,
      ⟨hr1, hop1, hkg1, hnpar, hgparU, fun x hx => by rw [htm1] at hx; exact hx⟩, by rw [hself, hemp]; rfl⟩

/-- one call of `transformParagraph` (link reference definitions, then possibly a table) on the top block of the open set -/
theorem ptpostT_cl {src : Bytes} {s s2 : St} {b : Block} {U : List Block} (h : CInvW tb F src s (b :: U))
    (hbp : b.bp = .paragraph) (hp : PTPostT tb src b.node s s2) :
    (CInvW tb F src s2 (b :: U) ∧ CStep s s2 (b :: U) ∧ (nd s2 b.node).parent = (nd s b.node).parent) ∨
    (CInvW tb F src s2 U ∧ CStep s s2 U ∧ (nd s2 b.node).parent = none) := by
  rcases hp with hp | ⟨htab, s1, t, p, h1, htb, hpar, hT⟩
  · exact ptpost_cl h hbp hp
  · rcases ptpost_cl h hbp h1 with ⟨a1, a2, a3⟩ | ⟨_, _, a3⟩
    · rcases tablepost_cl htab a1 hbp htb hpar (hT a1.tree) with ⟨c1, c2, c3⟩ | ⟨c1, c2, c3⟩
      · exact .inl ⟨c1, a2.trans c2, c3.trans a3⟩
      · exact .inr ⟨c1, (a2.mono (fun g hg => List.mem_cons_of_mem _ hg)).trans c2, c3⟩
    · rw [a3] at hpar; cases hpar

theorem bpClose_clG {src : Bytes} {s s1 : St} {b : Block} {U : List Block} (h : CInvW tb F src s (b :: U))
    (hsrc : s.r.source = src) (hG : ∀ g ∈ U, PSb g → Guard s [b] g)
    (e : bpClose b.bp b.node s = .ok ((), s1)) : CInvW tb F src s1 U ∧ CStep s s1 U := by
  obtain ⟨hkb, hltb⟩ := h.kinds (List.mem_cons_self ..)
  obtain ⟨B, D, hB⟩ := h.inv
  obtain ⟨bnode, bbp⟩ := b
  simp only at hkb hltb e
  -- a `Close` that does nothing
  have triv : s1 = s → ¬ PSb ⟨bnode, bbp⟩ → CInvW tb F src s1 U ∧ CStep s s1 U := by
    intro hs hps
    subst hs
    exact ⟨h.drop (fun hr => h.closed_of_notPS (List.mem_cons_self ..) hps hr), CStep.refl _ _⟩
  cases bbp
  case setext =>
    have e' : setextClose bnode s = .ok ((), s1) := e
    cases ht : s.pc.tmpPara with
    | none =>
      exfalso
      unfold setextClose at e'
      obtain ⟨hn, sa, h1, k1⟩ := bind_ok e'
      obtain ⟨rfl, hs1⟩ := getNode_ok h1
      subst sa
      obtain ⟨seg, sb, h2, k2⟩ := bind_ok k1
      obtain ⟨_, hs2⟩ := liftE_ok h2
      subst sb
      obtain ⟨_, s3, h3, k3⟩ := bind_ok k2
      have e3 := modNode_ok h3
      obtain ⟨pc4, s4, h4, k4⟩ := bind_ok k3
      obtain ⟨rfl, hs4⟩ := getPc_ok h4
      subst s4
      have hpc3 : s3.pc = s.pc := by rw [e3]
      rw [hpc3, ht] at k4
      dsimp only at k4
      obtain ⟨_, _, h5, _⟩ := bind_ok k4
      cases h5
    | some t =>
      have hkt := hB.tmpk t ht
      have hbm : (⟨bnode, .setext⟩ : Block) ∈ s.pc.opened := h.sub _ (List.mem_cons_self ..)
      have htl := hB.tl t ht (.inr ⟨_, hbm, rfl⟩)
      have hne := htl.1
      have hnt : bnode ≠ t := by intro e0; rw [e0, hkt] at hkb; cases hkb
      have hsafe : ∀ g ∈ (⟨bnode, .setext⟩ : Block) :: U, g.bp = .paragraph → g.node ≠ t :=
        fun g hg _ => htl.2 g (h.sub g hg)
      -- the paragraph behind the key is closed
      have hct : Closed (nd s t) := by
        rcases h.pad t (by rw [hkt]; rfl) with hc | ⟨g, hg, hn, hp⟩ | hab
        · exact hc
        · exfalso
          have hgk := (h.kinds hg).1
          rw [hn, hkt] at hgk
          exact hsafe g hg (kind_paragraph hgk.symm) hn
        · exfalso; rw [hkt] at hab; cases hab.1
      obtain ⟨hlen, ⟨hl, hln⟩, hoth, hkind, hpc, hr⟩ := setextClose_copy ht hne hnt hltb e'
      obtain ⟨htree, hpar⟩ := setextClose_tree h.tree ht hne hnt hltb e'
      obtain ⟨hinv1, _, hop1, hkg1, _⟩ := setextClose_invG hB hkb hltb ⟨_, hbm, rfl⟩ e'
      have hgt : ∀ g ∈ U, PSb g → g.node ≠ t := by
        intro g hg hp hgt'
        rcases hp with hp | hp
        · exact hsafe g (List.mem_cons_of_mem _ hg) hp hgt'
        · have := (h.kinds (List.mem_cons_of_mem _ hg)).1
          rw [hgt', hkt, hp] at this; cases this
      have hgt' : ∀ g ∈ U, g.node ≠ t := by
        intro g hg hgt''
        by_cases hp : PSb g
        · exact hgt g hg hp hgt''
        · have hk := (h.kinds (List.mem_cons_of_mem _ hg)).1
          rw [hgt'', hkt] at hk
          exact hp (.inl (kind_paragraph hk.symm))
      refine ⟨⟨⟨B, _, hinv1⟩, htree, fun i hr' => ?_, fun g hg => ?_,
        (List.nodup_cons.1 (by simpa using h.nodup)).2,
        fun g hg => by rw [hop1]; exact h.sub g (List.mem_cons_of_mem _ hg), fun i hn => ?_⟩,
        ⟨hr, hop1, hkg1, fun i _ hk => hpar i (fun e0 => hk (e0 ▸ hkt)), fun g hg hp => hpar g.node (hgt g hg hp),
          fun t' ht' => by rw [hpc] at ht'; cases ht'⟩⟩
      · rw [hkind] at hr'
        by_cases hi : i = bnode
        · subst hi; left; intro u hu; rw [hl] at hu; exact hct u hu
        · rcases h.pad i hr' with hc | ⟨b', hb', hn, hp⟩ | hab
          · left; intro u hu; rw [(hoth i hi).1] at hu; exact hc u hu
          · rcases List.mem_cons.1 hb' with e0 | hm
            · subst e0; exact absurd hn.symm hi
            · exact .inr (.inl ⟨b', hm, hn, hp⟩)
          · exact .inr (.inr ⟨by rw [hkind]; exact hab.1,
              by rw [hpar i (fun e0 => by rw [e0, hkt] at hab; cases hab.1)]; exact hab.2⟩)
      · rw [hpar g.node (hgt' g hg)]; exact h.att g (List.mem_cons_of_mem _ hg)
      · rw [hkind] at hn
        by_cases hi : i = bnode
        · subst hi; rw [hkb] at hn; cases hn.1
        · rw [(hoth i hi).1]; exact h.nl i hn
  case thematic =>
    exact triv (by have e' : (pure () : M Unit) s = .ok ((), s1) := e; exact (pure_ok e').2)
      (fun hp => by rcases hp with hp | hp <;> cases hp)
  case list =>
    have e' : listClose bnode s = .ok ((), s1) := e
    let Prot : Nat → Prop := fun i => (∃ g ∈ U, PSb g ∧ g.node = i) ∨ (i < s.nodes.length ∧ (nd s i).kind ≠ .paragraph)
    have hp0 : ∀ i, Prot i → i < s.nodes.length := by
      rintro i (⟨g, hg, _, rfl⟩ | ⟨h1, _⟩)
      · exact (h.kinds (List.mem_cons_of_mem _ hg)).2
      · exact h1
    have hprot : ∀ i, Prot i → (nd s i).kind = .paragraph → ∀ c ∈ (nd s bnode).children, (nd s i).parent ≠ some c := by
      rintro i (⟨g, hg, hp, rfl⟩ | ⟨_, hk⟩) hkp c hc hpc
      · obtain ⟨q, hq1, _, _, hq4⟩ := hG g hg hp
        rw [hq1] at hpc
        cases hpc
        exact hq4 ⟨bnode, .list⟩ (List.mem_singleton.2 rfl) rfl (h.tree.kid bnode _ hc)
      · exact hk hkp
    have hit := listClose_tight Prot h.tree hp0 hprot e'
    obtain ⟨hinv1, _, _, hkg1, _⟩ := listClose_invG hB e'
    refine ⟨⟨⟨B, _, hinv1⟩, hit.tree, fun i hr' => ?_, fun g hg => ?_,
      (List.nodup_cons.1 (by simpa using h.nodup)).2,
      fun g hg => by rw [hit.pc]; exact h.sub g (List.mem_cons_of_mem _ hg), fun i hn => ?_⟩,
      ⟨hit.r, by rw [hit.pc], hkg1, fun i hi hk => hit.prot i (.inr ⟨hi, hk⟩),
        fun g hg hp => hit.prot g.node (.inl ⟨g, hg, hp, rfl⟩), fun t ht => by rw [hit.pc] at ht; exact ht⟩⟩
    · rcases Nat.lt_or_ge i s.nodes.length with hil | hil
      · obtain ⟨x1, _, x3⟩ := hit.old i hil
        rw [x3] at hr'
        rcases h.pad i hr' with hc | ⟨b', hb', hn, hp⟩ | hab
        · left; intro u hu; rw [x1] at hu; exact hc u hu
        · rcases List.mem_cons.1 hb' with e0 | hm
          · subst e0; rcases hp with hp | hp <;> cases hp
          · exact .inr (.inl ⟨b', hm, hn, hp⟩)
        · exact .inr (.inr ⟨by rw [x3]; exact hab.1,
            by rw [hit.prot i (.inr ⟨hil, by rw [hab.1]; decide⟩)]; exact hab.2⟩)
      · rcases Nat.lt_or_ge i s1.nodes.length with hil' | hil'
        · obtain ⟨_, j, hj, hjk, hjp, hjl, _⟩ := hit.new i hil hil'
          left
          intro u hu
          rw [hjl] at hu
          rcases h.pad j (by rw [hjk]; rfl) with hc | ⟨b', hb', hn, hp⟩ | hab
          · exact hc u hu
          · exfalso
            rcases List.mem_cons.1 hb' with e0 | hm
            · subst e0; rcases hp with hp | hp <;> cases hp
            · exact hjp (.inl ⟨b', hm, hp, hn⟩)
          · exfalso; rw [hjk] at hab; cases hab.1
        · left; rw [nd_default_of_ge s1 hil']; intro u hu; cases hu
    · have hgp : Prot g.node := by
        by_cases hp : PSb g
        · exact .inl ⟨g, hg, hp, rfl⟩
        · obtain ⟨hk, hl⟩ := h.kinds (List.mem_cons_of_mem _ hg)
          exact .inr ⟨hl, fun hkp => hp (.inl (kind_paragraph (by rw [← hk]; exact hkp)))⟩
      rw [hit.prot g.node hgp]; exact h.att g (List.mem_cons_of_mem _ hg)
    · rcases Nat.lt_or_ge i s.nodes.length with hil | hil
      · obtain ⟨x1, _, x3⟩ := hit.old i hil
        rw [x3] at hn; rw [x1]; exact h.nl i hn
      · rcases Nat.lt_or_ge i s1.nodes.length with hil' | hil'
        · obtain ⟨hk, _⟩ := hit.new i hil hil'
          rw [hk] at hn; cases hn.1
        · rw [nd_default_of_ge s1 hil']; rfl
  case listItem =>
    exact triv (by have e' : (pure () : M Unit) s = .ok ((), s1) := e; exact (pure_ok e').2)
      (fun hp => by rcases hp with hp | hp <;> cases hp)
  case code =>
    have e' : codeClose bnode s = .ok ((), s1) := e
    obtain ⟨k, hs1⟩ := codeClose_eff e'
    obtain ⟨hinv1, _, _, _⟩ := codeClose_invG hB hkb hltb e'
    subst hs1
    exact CInvW.setLines (b := ⟨bnode, .code⟩) h B hinv1 (fun hr => by rw [hkb] at hr; cases hr)
      (fun hn => by rw [hkb] at hn; cases hn.1)
  case atx =>
    exact triv (by have e' : (pure () : M Unit) s = .ok ((), s1) := e; exact (pure_ok e').2)
      (fun hp => by rcases hp with hp | hp <;> cases hp)
  case fenced =>
    have e' : fencedClose bnode s = .ok ((), s1) := e
    obtain ⟨hinv1, hr1, hop1, _, _⟩ := fencedClose_invG hB e'
    -- only `pc.fence` may change
    have hs1 : s1.nodes = s.nodes ∧ s1.pc.tmpPara = s.pc.tmpPara := by
      unfold fencedClose at e'
      obtain ⟨pc, sa, h1, k1⟩ := bind_ok e'
      obtain ⟨rfl, hsa⟩ := getPc_ok h1
      subst sa
      cases hf : s.pc.fence with
      | none => rw [hf] at k1; cases k1
      | some f =>
        rw [hf] at k1
        dsimp only at k1
        split at k1
        · rw [modPc_ok k1]; exact ⟨rfl, rfl⟩
        · rw [(pure_ok k1).2]; exact ⟨rfl, rfl⟩
    have hnd : ∀ i, nd s1 i = nd s i := fun i => by simp only [nd, hs1.1]
    have h' := h.drop (fun hr => h.closed_of_notPS (List.mem_cons_self ..)
      (fun hp => by rcases hp with hp | hp <;> cases hp) hr)
    refine ⟨⟨⟨B, _, hinv1⟩, h.tree.of_links (fun i => by rw [hnd]; exact ⟨rfl, rfl⟩), fun i hr' => ?_,
      fun g hg => by rw [hnd]; exact h'.att g hg, h'.nodup, fun g hg => by rw [hop1]; exact h'.sub g hg,
      fun i hn => by rw [hnd] at hn ⊢; exact h'.nl i hn⟩,
      ⟨hr1, hop1, KG.of_nodes hs1.1, fun i _ _ => by rw [hnd], fun g _ _ => by rw [hnd],
        fun t ht => by rw [hs1.2] at ht; exact ht⟩⟩
    rw [hnd] at hr' ⊢
    exact h'.pad i hr'
  case blockquote =>
    exact triv (by have e' : (pure () : M Unit) s = .ok ((), s1) := e; exact (pure_ok e').2)
      (fun hp => by rcases hp with hp | hp <;> cases hp)
  case html =>
    exact triv (by have e' : (pure () : M Unit) s = .ok ((), s1) := e; exact (pure_ok e').2)
      (fun hp => by rcases hp with hp | hp <;> cases hp)
  case paragraph =>
    have e' : paragraphClose bnode s = .ok ((), s1) := e
    by_cases hne : (nd s bnode).lines = []
    · -- a paragraph without lines (emptied by a transformer): `RemoveChild`
      obtain ⟨p, hp, k4⟩ := paragraphClose_empty hne e'
      have hlk := removeChild_lk k4
      obtain ⟨t1, _, f1, _⟩ := removeChild_tree' h.tree k4
      have hneU : ∀ g ∈ U, g.node ≠ bnode := fun g hg => h.ne hg
      refine ⟨⟨⟨B, D, hB.lk hlk⟩, t1, fun i hr => ?_, fun g hg => ?_, (List.nodup_cons.1 (by simpa using h.nodup)).2,
        fun g hg => by rw [hlk.pc]; exact h.sub g (List.mem_cons_of_mem _ hg),
        fun i hn => by rw [(hlk.same i).2.2] at hn; rw [(hlk.same i).1]; exact h.nl i hn⟩,
        ⟨hlk.r, by rw [hlk.pc], hlk.kg, fun i _ hk => f1 i (fun e0 => hk (e0 ▸ hkb)),
          fun g hg _ => f1 g.node (hneU g hg), fun t ht => by rw [hlk.pc] at ht; exact ht⟩⟩
      · rw [(hlk.same i).2.2] at hr
        rw [Closed, (hlk.same i).1]
        by_cases hi : i = bnode
        · subst hi; left; rw [hne]; intro u hu; cases hu
        · rcases h.pad i hr with hc | ⟨b', hb', hn, hps⟩ | hab
          · exact .inl hc
          · rcases List.mem_cons.1 hb' with e0 | hm
            · subst e0; exact absurd hn.symm hi
            · exact .inr (.inl ⟨b', hm, hn, hps⟩)
          · exact .inr (.inr ⟨by rw [(hlk.same i).2.2]; exact hab.1, by rw [f1 i hi]; exact hab.2⟩)
      · rw [f1 g.node (hneU g hg)]; exact h.att g (List.mem_cons_of_mem _ hg)
    · have hl : LinesOK src (nd s bnode).lines := (nodeOK_nd hB.nodes bnode).lines
      obtain ⟨hr, hpc, ls, _, _, hpf, _, hn⟩ := (paragraphClose_lines bnode hsrc hl hne).of_ok e'
      have hbm0 : (⟨bnode, .paragraph⟩ : Block) ∈ s.pc.opened := h.sub _ (List.mem_cons_self ..)
      obtain ⟨hinv1, _, _, _, _⟩ := paragraphClose_invG (hB.dmono (D' := ⟨bnode, .paragraph⟩ :: D) (fun _ hx => List.mem_cons_of_mem _ hx))
        hsrc hkb hltb (fun b' hb' hx => by rw [hB.node_inj hbm0 hb' hx]; exact List.mem_cons_self ..) e'
      have hs1 : s1 = { s with nodes := s.nodes.set bnode { (nd s bnode) with lines := ls } } := by
        cases s1; simp only at hr hpc hn; subst hr hpc hn; rfl
      subst hs1
      exact CInvW.setLines (b := ⟨bnode, .paragraph⟩) h B hinv1 (fun _ t ht => (hpf t ht).1)
        (fun hn => by rw [hkb] at hn; cases hn.1)

section cl
variable {src : Bytes} {pts : List PT} (hag : AgreeP tb src pts pts) (hagT : AgreeT tb src pts)
include hag hagT

/-- **the loop of closeBlocksT under the close discipline**: the blocks `l` are closed top first (only the top may be a
    leaf; a Paragraph is transformed first and closed only if it is still attached), the blocks `K` stay open -/
theorem closeListT_clG : ∀ (l K : List Block) (s s' : St), CInvW tb F src s (l ++ K) → s.r.source = src →
    (∀ b ∈ l.tail, b.bp.isContainer = true) → (∀ g ∈ K, PSb g → Guard s l g) →
    T.closeListT pts l s = .ok ((), s') → CInvW tb F src s' K ∧ CStep s s' K := by
  intro l
  induction l with
  | nil =>
    intro K s s' h _ _ _ e
    unfold T.closeListT at e
    obtain ⟨_, hs⟩ := pure_ok e
    subst s'
    exact ⟨by simpa using h, CStep.refl _ _⟩
  | cons b rest ih =>
    intro K s s' h hsrc hcont hG e
    unfold T.closeListT at e
    obtain ⟨n, s0, h0, k0⟩ := bind_ok e
    obtain ⟨hn, hs0⟩ := getNode_ok h0
    subst s0
    have hrestc : ∀ g ∈ rest, g.bp.isContainer = true := fun g hg => hcont g (by simpa using hg)
    have h' : CInvW tb F src s (b :: (rest ++ K)) := by simpa using h
    obtain ⟨hkb, hltb⟩ := h'.kinds (List.mem_cons_self ..)
    have cont : ∀ s1, CInvW tb F src s1 (rest ++ K) → CStep s s1 (rest ++ K) → T.closeListT pts rest s1 = .ok ((), s') →
        CInvW tb F src s' K ∧ CStep s s' K := by
      intro s1 hc1 hs1 k1
      have hG1 : ∀ g ∈ K, PSb g → Guard s1 rest g := fun g hg hp =>
        (hG g hg hp).step hs1 (List.mem_append_right _ hg) hp (fun L hL => List.mem_cons_of_mem _ hL)
      obtain ⟨hc2, hs2⟩ := ih K s1 s' hc1 (by rw [hs1.r]; exact hsrc)
        (fun g hg => hrestc g (List.mem_of_mem_tail hg)) hG1 k1
      exact ⟨hc2, (hs1.mono (fun g hg => List.mem_append_right _ hg)).trans hs2⟩
    -- behind the transformer step
    have afterT : ∀ s1,
        ((CInvW tb F src s1 (b :: (rest ++ K)) ∧ CStep s s1 (b :: (rest ++ K))) ∨
          (CInvW tb F src s1 (rest ++ K) ∧ CStep s s1 (rest ++ K) ∧ (nd s1 b.node).parent = none)) →
        (do
          let __do_lift ← getNode b.node
          if __do_lift.parent.isSome = true then do
              let __r ← bpClose b.bp b.node
              T.closeListT pts rest
            else T.closeListT pts rest : M Unit) s1 = .ok ((), s') → CInvW tb F src s' K ∧ CStep s s' K := by
      intro s1 hcase k1
      obtain ⟨n1, sx, hx, k2⟩ := bind_ok k1
      obtain ⟨hn1, hsx⟩ := getNode_ok hx
      subst sx
      subst n1
      rcases hcase with ⟨hc1, hs1⟩ | ⟨hc1, hs1, hnone⟩
      · split at k2
        · obtain ⟨_, s2, h2, k3⟩ := bind_ok k2
          have hsrc1 : s1.r.source = src := by rw [hs1.r]; exact hsrc
          obtain ⟨hc2, hs2⟩ := bpClose_clG hc1 hsrc1 (fun g hg hp => by
              rcases List.mem_append.1 hg with hg' | hg'
              · exact absurd hp (not_ps_of_container (hrestc g hg'))
              · obtain ⟨q, q1, q2, q3, q4⟩ := (hG g hg' hp).step hs1 (List.mem_cons_of_mem _ hg) hp (fun L hL => hL)
                exact ⟨q, q1, q2, q3, fun L hL => q4 L (by
                  simp only [List.mem_singleton] at hL; rw [hL]; exact List.mem_cons_self ..)⟩) h2
          exact cont s2 hc2 ((hs1.mono (fun g hg => List.mem_cons_of_mem _ hg)).trans hs2) k3
        · next hpar =>
          exfalso
          exact hpar (hc1.att b (List.mem_cons_self ..))
      · split at k2
        · next hpar =>
          exfalso
          have : (s1.nodes.getD b.node default).parent = none := hnone
          rw [this] at hpar; cases hpar
        · exact cont s1 hc1 hs1 k2
    dsimp only at k0
    split at k0
    · next hc =>
      simp only [Bool.and_eq_true, beq_iff_eq] at hc
      have hkp : (nd s b.node).kind = .paragraph := by rw [← hc.1, hn]
      have hbp : b.bp = .paragraph := kind_paragraph (by rw [← hkb]; exact hkp)
      obtain ⟨g, s1, hT, k1⟩ := bind_ok k0
      obtain ⟨B, D, hB⟩ := h'.inv
      have hp := hagT b.node s hsrc hltb hkp hB.nodes (hB.linesOKB hkp) h'.tree g s1 hT
      rcases ptpostT_cl h' hbp hp with ⟨a1, a2, _⟩ | ⟨a1, a2, a3⟩
      · exact afterT s1 (.inl ⟨a1, a2⟩) k1
      · exact afterT s1 (.inr ⟨a1, a2, a3⟩) k1
    · exact afterT s (.inl ⟨h', CStep.refl _ _⟩) k0

/-- **closeBlocksT under the close discipline** (parser.go:900-918) for the range `mid` of the stack `pre ++ mid ++ post` -/
theorem closeBlocksT_clM {s s' : St} (pre mid post : List Block) (hop : s.pc.opened = pre ++ mid ++ post)
    (h : CInvW tb F src s s.pc.opened) (hsrc : s.r.source = src) (hcont : ∀ b ∈ mid.reverse.tail, b.bp.isContainer = true)
    (hG : ∀ g ∈ pre ++ post, PSb g → Guard s mid.reverse g)
    (e : closeBlocksT pts ((pre.length : Int) + (mid.length : Int) - 1) (pre.length : Int) s = .ok ((), s')) :
    CInvW tb F src s' (pre ++ post) ∧ CStepW s s' (pre ++ post) ∧ s'.pc.opened = pre ++ post := by
  rw [closeBlocksT_mid_eq pts pre mid post s hop] at e
  obtain ⟨_, s2, h2, k3⟩ := bind_ok e
  have := modPc_ok k3
  subst this
  have hperm : (mid.reverse ++ (pre ++ post)).Perm s.pc.opened := by
    rw [hop, List.append_assoc]
    exact ((List.reverse_perm mid).append_right (pre ++ post)).trans (List.perm_append_comm_assoc mid pre post)
  obtain ⟨hc2, hs2⟩ := closeListT_clG hag hagT _ (pre ++ post) s s2 (h.perm hperm) hsrc hcont hG h2
  obtain ⟨B, D, hB⟩ := hc2.inv
  exact ⟨⟨⟨B, D, hB.congr_pc _ rfl (by
      rw [hs2.opened, hop, List.append_assoc]; exact List.Sublist.append_left (List.sublist_append_right _ _) _)⟩,
    hc2.tree.of_links (fun i => ⟨rfl, rfl⟩), hc2.pad, hc2.att, hc2.nodup, fun b hb => hb, hc2.nl⟩,
    ⟨hs2.r, hs2.kg, hs2.npar, hs2.gpar, hs2.tmp⟩, rfl⟩

end cl

/-- the kinds whose nodes never carry lines — WITHOUT ThematicBreak (the table records are `thematicBreak` nodes) -/
def noLinesKind : Kind → Bool
  | .document | .blockquote | .list | .listItem => true
  | _ => false

structure CInvG (F : Prop) (src : Bytes) (s : St) (U : List Block) : Prop where
  inv : ∃ B D, InvGFX D F src B s
  tree : TreeOK s
  pad : ∀ i, isRaw (nd s i).kind = false → Closed (nd s i) ∨ (∃ b ∈ U, b.node = i ∧ PSb b) ∨
    ((nd s i).kind = .heading ∧ (nd s i).parent = none)
  att : ∀ b ∈ U, (nd s b.node).parent.isSome = true
  nodup : (U.map (·.node)).Nodup
  sub : ∀ b ∈ U, b ∈ s.pc.opened
  nl : ∀ i, noLinesKind (nd s i).kind = true → (nd s i).lines = []

theorem CInvG.weaken {src : Bytes} {s : St} {U : List Block} (h : CInvG F src s U) : CInvG False src s U := by
  obtain ⟨B, D, hB⟩ := h.inv
  exact ⟨⟨B, D, hB.toW.weaken.toX⟩, h.tree, h.pad, h.att, h.nodup, h.sub, h.nl⟩

theorem noLinesW_true {k : Kind} (h : noLinesKind k = true) : noLinesW True k := by
  refine ⟨?_, fun _ hk => ?_⟩
  · cases k <;> first | rfl | cases h
  · rw [hk] at h; cases h

theorem CInvW.toX {src : Bytes} {s : St} {U : List Block} (h : CInvW True F src s U) : CInvG F src s U := by
  obtain ⟨B, D, hB⟩ := h.inv
  exact ⟨⟨B, D, hB.toX⟩, h.tree, h.pad, h.att, h.nodup, h.sub, fun i hn => h.nl i (noLinesW_true hn)⟩

theorem CInvW.toO {src : Bytes} {s : St} {U : List Block} (h : CInvW False F src s U) : TO.CInvG F src s U := by
  obtain ⟨B, D, hB⟩ := h.inv
  exact ⟨⟨B, hB.toO⟩, h.tree, h.pad, h.att, h.nodup, h.sub, fun i hn => h.nl i ⟨hn, fun hf => hf.elim⟩⟩

end GM.Blocks.TX
