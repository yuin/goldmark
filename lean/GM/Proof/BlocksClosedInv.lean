/-
  GM.Proof.BlocksClosedInv — THE CLOSE DISCIPLINE, node by node.

  `Closed n`: every line segment of `n` has padding 0 (what `paragraphParser.Close` establishes, and what the inline phase
  needs on top of `WFSegs`). `CInv src s U`: relative to a set `U` of blocks that are still open —
    * `pad`  every non-raw node is `Closed`, or is the node of a Paragraph / setext-heading block of `U`;
    * `att`  every block of `U` is attached (`Parent() != nil`), so `closeBlocks` will hand it to its parser's `Close`
             (parser.go:904-909 skips detached nodes);
    * `tree` the tree links are consistent (`TreeOK`); the nodes of `U` are distinct; `U ⊆ pc.openedBlocks`.
  `closeList_cl` (GM.Proof.BlocksClosedClose): closing the blocks `l` (top first; only the top may be a leaf) from `CInv src s (l ++ K)` ends in
  `CInv src s' K`, provided the open Paragraph / setext blocks that stay (`K`) are GUARDED: their parent is not a
  Paragraph and is not an item of a list that is being closed — so neither `tmp.Parent().RemoveChild(tmp)` of setext
  `Close` nor the Paragraph → TextBlock replacement of list `Close` can reach them.
-/
import GM.Proof.BlocksClosedTree

namespace GM.Blocks
open GM GM.Text GM.Spec GM.Proof.Reader
open GM.Proof.BlocksWF0 (isRaw)

/-- every line has padding 0 -/
def Closed (n : Node) : Prop := ∀ t ∈ n.lines, t.padding = 0

/-- a block whose node may hold lines that are not trimmed yet: an open Paragraph, an open setext heading -/
def PSb (b : Block) : Prop := b.bp = .paragraph ∨ b.bp = .setext

/-- setextHeadingParser.Close, copying branch: the tree links — only the paragraph `t` may lose its parent -/
theorem setextClose_tree {s s' : St} {node t : Nat} (htr : TreeOK s) (ht : s.pc.tmpPara = some t)
    (hne : (nd s t).lines ≠ []) (hnt : node ≠ t) (hlt : node < s.nodes.length)
    (e : setextClose node s = .ok ((), s')) :
    TreeOK s' ∧ ∀ i, i ≠ t → (nd s' i).parent = (nd s i).parent := by
  unfold setextClose at e
  obtain ⟨hn, s1, h1, k1⟩ := bind_ok e
  obtain ⟨rfl, hs1⟩ := getNode_ok h1
  subst s1
  obtain ⟨seg, s2, h2, k2⟩ := bind_ok k1
  obtain ⟨_, hs2⟩ := liftE_ok h2
  subst s2
  obtain ⟨_, s3, h3, k3⟩ := bind_ok k2
  have e3 := modNode_ok h3
  have ht3 : TreeOK s3 := htr.modNode h3 (fun _ => ⟨rfl, rfl⟩)
  have hl3 := modNode_links h3 (fun _ => ⟨rfl, rfl⟩)
  obtain ⟨pc4, s4, h4, k4⟩ := bind_ok k3
  obtain ⟨rfl, hs4⟩ := getPc_ok h4
  subst s4
  have hpc3 : s3.pc = s.pc := by rw [e3]
  rw [hpc3, ht] at k4
  dsimp only at k4
  obtain ⟨tmp, s4, h4', k4'⟩ := bind_ok k4
  obtain ⟨htm, hs4⟩ := pure_ok h4'
  subst tmp
  subst s4
  obtain ⟨_, s5, h5, k5⟩ := bind_ok k4'
  have e5 := modPc_ok h5
  have hnd53 : ∀ i, nd s5 i = nd s3 i := fun i => by rw [e5]
  have ht5 : TreeOK s5 := ht3.of_links (fun i => by rw [hnd53]; exact ⟨rfl, rfl⟩)
  obtain ⟨tn, s6, h6, k6⟩ := bind_ok k5
  obtain ⟨rfl, hs6⟩ := getNode_ok h6
  subst s6
  have hnd5 : ∀ i, nd s5 i = if i = node then { (nd s node) with lines := [], linesNil := true } else nd s i := by
    intro i
    have : nd s5 i = nd (upd s node fun n => { n with lines := [], linesNil := true }) i := by
      rw [e5, e3]; rfl
    rw [this, nd_upd]
    by_cases hi : i = node
    · subst hi; simp [hlt]
    · have : ¬ (node = i ∧ node < s.nodes.length) := fun hh => hi hh.1.symm
      rw [if_neg this, if_neg hi]
  have ht5' : s5.nodes.getD t default = nd s t := by
    have := hnd5 t
    rw [if_neg (Ne.symm hnt)] at this
    exact this
  rw [ht5'] at k6
  have hlen0 : ((nd s t).lines.length == 0) = false := by
    cases hh : (nd s t).lines with
    | nil => exact absurd hh hne
    | cons a b => simp
  rw [if_neg (by rw [hlen0]; decide)] at k6
  obtain ⟨_, s7, h7, k7⟩ := bind_ok k6
  have ht7 : TreeOK s7 := ht5.modNode h7 (fun _ => ⟨rfl, rfl⟩)
  have hl7 := modNode_links h7 (fun _ => ⟨rfl, rfl⟩)
  have hpar7 : ∀ i, (nd s7 i).parent = (nd s i).parent := fun i => by
    rw [(hl7 i).1, hnd53, (hl3 i).1]
  cases hp : (nd s t).parent with
  | some tp =>
    rw [hp] at k7
    obtain ⟨a1, _, a3, _⟩ := removeChild_tree' ht7 k7
    exact ⟨a1, fun i hi => (a3 i hi).trans (hpar7 i)⟩
  | none =>
    rw [hp] at k7
    obtain ⟨_, hs⟩ := pure_ok k7
    subst s'
    exact ⟨ht7, fun i _ => hpar7 i⟩

theorem nodup_map_node_inj : ∀ {l : List Block}, (l.map (·.node)).Nodup → ∀ {a b : Block}, a ∈ l → b ∈ l →
    a.node = b.node → a = b
  | [], _, _, _, ha, _, _ => by cases ha
  | x :: rest, h, a, b, ha, hb, e => by
    simp only [List.map_cons, List.nodup_cons, List.mem_map, not_exists, not_and] at h
    rcases List.mem_cons.1 ha with ha | ha <;> rcases List.mem_cons.1 hb with hb | hb
    · rw [ha, hb]
    · exact absurd (by rw [← ha]; exact e.symm : b.node = x.node) (h.1 b hb)
    · exact absurd (by rw [← hb]; exact e : a.node = x.node) (h.1 a ha)
    · exact nodup_map_node_inj h.2 ha hb e

/-! ### the close discipline over an abstract store invariant

`CInvA IV Ab s U`: `IV` is what else is known of the state (the order invariant, at some bound), `Ab s i` exempts the node `i` from
`pad`. `CInv`, `CInvX` (GM.Proof.BlocksClosedClose) and `TX.CInvW` (GM.Proof.BlocksTNOClInv) are instances; what does not look into `IV` is
proved here. -/

structure CInvA (IV : St → Prop) (Ab : St → Nat → Prop) (s : St) (U : List Block) : Prop where
  inv : IV s
  tree : TreeOK s
  pad : ∀ i, isRaw (nd s i).kind = false → Closed (nd s i) ∨ (∃ b ∈ U, b.node = i ∧ PSb b) ∨ Ab s i
  att : ∀ b ∈ U, (nd s b.node).parent.isSome = true
  inj : ∀ a ∈ U, ∀ b ∈ U, a.node = b.node → a = b
  sub : ∀ b ∈ U, b ∈ s.pc.opened

namespace CInvA
variable {IV : St → Prop} {Ab : St → Nat → Prop} {s : St} {U : List Block}

/-- a block of `U` that is not a Paragraph / setext block has a `Closed` node (or a raw one); an exempt node is not attached -/
theorem closed_of_notPS (hA : ∀ i, Ab s i → (nd s i).parent.isSome ≠ true) (h : CInvA IV Ab s U) {b : Block} (hb : b ∈ U)
    (hps : ¬ PSb b) (hr : isRaw (nd s b.node).kind = false) : Closed (nd s b.node) := by
  rcases h.pad b.node hr with hc | ⟨b', hb', hn, hps'⟩ | hab
  · exact hc
  · exact absurd (h.inj b' hb' b hb hn ▸ hps') hps
  · exact absurd (h.att b hb) (hA _ hab)

/-- only membership in the open set matters -/
theorem congr {U' : List Block} (h : CInvA IV Ab s U) (hm : ∀ b, b ∈ U' ↔ b ∈ U) : CInvA IV Ab s U' :=
  ⟨h.inv, h.tree, fun i hr => by
      rcases h.pad i hr with hc | ⟨b, hb, hn, hp⟩ | hab
      · exact .inl hc
      · exact .inr (.inl ⟨b, (hm b).2 hb, hn, hp⟩)
      · exact .inr (.inr hab),
    fun b hb => h.att b ((hm b).1 hb),
    fun a ha b hb e => h.inj a ((hm a).1 ha) b ((hm b).1 hb) e, fun b hb => h.sub b ((hm b).1 hb)⟩

/-- the open set may lose a block whose node is `Closed` (or raw) -/
theorem drop {b : Block} (h : CInvA IV Ab s (b :: U)) (hc : isRaw (nd s b.node).kind = false → Closed (nd s b.node)) :
    CInvA IV Ab s U := by
  refine ⟨h.inv, h.tree, fun i hr => ?_, fun g hg => h.att g (List.mem_cons_of_mem _ hg),
    fun a ha c hc e => h.inj a (List.mem_cons_of_mem _ ha) c (List.mem_cons_of_mem _ hc) e,
    fun g hg => h.sub g (List.mem_cons_of_mem _ hg)⟩
  rcases h.pad i hr with hcl | ⟨b', hb', hn, hps'⟩ | hab
  · exact .inl hcl
  · rcases List.mem_cons.1 hb' with e | hm
    · subst e; subst hn; exact .inl (hc hr)
    · exact .inr (.inl ⟨b', hm, hn, hps'⟩)
  · exact .inr (.inr hab)

/-- a step that keeps the links and the stack; node by node, a node that is not raw afterwards is `Closed` afterwards, or was not raw
    before, stays `Closed` and stays exempt -/
theorem transport {s' : St} (h : CInvA IV Ab s U) (hinv : IV s')
    (hl : ∀ i, (nd s' i).parent = (nd s i).parent ∧ (nd s' i).children = (nd s i).children)
    (hk : ∀ i, isRaw (nd s' i).kind = false → Closed (nd s' i) ∨
      (isRaw (nd s i).kind = false ∧ (Closed (nd s i) → Closed (nd s' i)) ∧ (Ab s i → Ab s' i)))
    (ho : ∀ b, b ∈ s.pc.opened → b ∈ s'.pc.opened) : CInvA IV Ab s' U :=
  ⟨hinv, h.tree.of_links hl, fun i hr => by
    rcases hk i hr with hc | ⟨h1, h2, h3⟩
    · exact .inl hc
    · rcases h.pad i h1 with hc | hc | ha
      · exact .inl (h2 hc)
      · exact .inr (.inl hc)
      · exact .inr (.inr (h3 ha)),
   fun g hg => by rw [(hl g.node).1]; exact h.att g hg, h.inj, fun g hg => ho g (h.sub g hg)⟩

/-- a step that leaves every node's links, kind and lines alone -/
theorem same {s' : St} (h : CInvA IV Ab s U) (hinv : IV s')
    (hl : ∀ i, (nd s' i).parent = (nd s i).parent ∧ (nd s' i).children = (nd s i).children)
    (hs : ∀ i, (nd s' i).lines = (nd s i).lines ∧ (nd s' i).kind = (nd s i).kind) (hab : ∀ i, Ab s i → Ab s' i)
    (ho : s'.pc.opened = s.pc.opened) : CInvA IV Ab s' U :=
  h.transport hinv hl (fun i hr => .inr ⟨by rw [← (hs i).2]; exact hr, fun hc => by rw [Closed, (hs i).1]; exact hc, hab i⟩)
    (fun b hb => by rw [ho]; exact hb)

/-- a step that writes only the node `X`, which is raw, and keeps its kind -/
theorem onlyX {s' : St} {X : Nat} (h : CInvA IV Ab s U) (hinv : IV s')
    (hl : ∀ i, (nd s' i).parent = (nd s i).parent ∧ (nd s' i).children = (nd s i).children)
    (hx : ∀ i, i ≠ X → nd s' i = nd s i) (hxk : (nd s' X).kind = (nd s X).kind) (hraw : isRaw (nd s X).kind = true)
    (hab : ∀ i, i ≠ X → Ab s i → Ab s' i) (ho : s'.pc.opened = s.pc.opened) : CInvA IV Ab s' U :=
  h.transport hinv hl (fun i hr => by
    by_cases hi : i = X
    · subst hi; rw [hxk, hraw] at hr; cases hr
    · exact .inr ⟨by rw [← hx i hi]; exact hr, fun hc => by rw [hx i hi]; exact hc, hab i hi⟩)
    (fun b hb => by rw [ho]; exact hb)

end CInvA

structure CInv (src : Bytes) (s : St) (U : List Block) : Prop where
  inv : ∃ B, Inv src B s
  tree : TreeOK s
  pad : ∀ i, isRaw (nd s i).kind = false → Closed (nd s i) ∨ ∃ b ∈ U, b.node = i ∧ PSb b
  att : ∀ b ∈ U, (nd s b.node).parent.isSome = true
  inj : ∀ a ∈ U, ∀ b ∈ U, a.node = b.node → a = b
  sub : ∀ b ∈ U, b ∈ s.pc.opened

theorem cinv_iff {src : Bytes} {s : St} {U : List Block} :
    CInv src s U ↔ CInvA (fun s => ∃ B, Inv src B s) (fun _ _ => False) s U :=
  ⟨fun h => ⟨h.inv, h.tree, fun i hr => (h.pad i hr).imp_right .inl, h.att, h.inj, h.sub⟩,
   fun h => ⟨h.inv, h.tree, fun i hr => (h.pad i hr).imp_right fun h' => h'.resolve_right id, h.att, h.inj, h.sub⟩⟩

theorem CInv.kinds {src : Bytes} {s : St} {U : List Block} (h : CInv src s U) {b : Block} (hb : b ∈ U) :
    (nd s b.node).kind = b.bp.kind ∧ b.node < s.nodes.length := by
  obtain ⟨B, hB⟩ := h.inv
  exact hB.kinds b (h.sub b hb)

theorem CInv.closed_of_notPS {src : Bytes} {s : St} {U : List Block} (h : CInv src s U) {b : Block} (hb : b ∈ U)
    (hps : ¬ PSb b) (hr : isRaw (nd s b.node).kind = false) : Closed (nd s b.node) :=
  (cinv_iff.1 h).closed_of_notPS (fun _ h => h.elim) hb hps hr

theorem CInv.drop {src : Bytes} {s : St} {b : Block} {U : List Block} (h : CInv src s (b :: U))
    (hc : isRaw (nd s b.node).kind = false → Closed (nd s b.node)) : CInv src s U :=
  cinv_iff.2 ((cinv_iff.1 h).drop hc)

theorem CInv.congr {src : Bytes} {s : St} {U U' : List Block} (h : CInv src s U) (hm : ∀ b, b ∈ U' ↔ b ∈ U) :
    CInv src s U' :=
  cinv_iff.2 ((cinv_iff.1 h).congr hm)

/-- a Paragraph / setext block that stays open is guarded against the closes of `l`: its parent is a node that is not
    a Paragraph and whose own parent is not the node of a list block of `l` -/
def Guard (s : St) (l : List Block) (g : Block) : Prop :=
  ∃ q, (nd s g.node).parent = some q ∧ (nd s q).kind ≠ .paragraph ∧ q < s.nodes.length ∧
    ∀ L ∈ l, L.bp = .list → (nd s q).parent ≠ some L.node

/-- a stack has one leaf at most: a Paragraph block and a setext block cannot both be open -/
theorem leaf_unique {ob : List Block} (h : Leafy ob) {g b : Block} (hg : g ∈ ob) (hb : b ∈ ob)
    (hgp : g.bp = .paragraph) (hbs : b.bp = .setext) : False := by
  have hlg : ob.getLast? = some g := by
    rcases mem_dropLast_or_last ob g hg with h' | h'
    · have := h g h'; rw [hgp] at this; cases this
    · exact h'
  have hlb : ob.getLast? = some b := by
    rcases mem_dropLast_or_last ob b hb with h' | h'
    · have := h b h'; rw [hbs] at this; cases this
    · exact h'
  rw [hlg] at hlb
  cases hlb
  rw [hgp] at hbs; cases hbs

theorem container_kind_ne_paragraph {bp : BP} (h : bp.isContainer = true) : bp.kind ≠ .paragraph := by
  cases bp <;> simp [BP.isContainer, BP.kind] at h ⊢

end GM.Blocks
