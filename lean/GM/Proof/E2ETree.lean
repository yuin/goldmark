/-
  GM.Proof.E2ETree — `Spec.Inv` (the invariant under which the safe-mode theorems of C03 are stated) holds of the
  tree `GM.Convert.docTree` hands to the renderer model, for EVERY source:

    * block nodes: kinds Document / Paragraph / TextBlock / ThematicBreak / Blockquote / Heading / CodeBlock /
      FencedCodeBlock / HTMLBlock / List / ListItem only, no attributes (the default configuration has no attribute
      parser), a Heading's level is 1..6 (`GM.E2E.HeadOK`, proved of every store the block phase
      returns in GM.Proof.E2EKeeps);
    * inline nodes: from the shape theorem of the inline phase (`GM.Proof.Inlines.parseBlock_wf`: no bookkeeping node,
      CodeSpan children are Text, emphasis levels 1..2) — kinds Text / CodeSpan / Emphasis / Link / Image / AutoLink /
      RawHTML, no attributes; no String node, no table node anywhere.
-/
import GM.Proof.E2EKeeps
import GM.Proof.Inlines
import GM.Model.Convert
import GM.Spec.RenderInv
import GM.Proof.RenderWF.Main

namespace GM.E2E
open GM GM.Text GM.Convert GM.Spec GM.Proof.RenderWF

theorem nodesInv_nil (rc : RCfg) (ctx : Spec.Ctx) : nodesInv rc ctx [] = true := rfl

theorem nodeInv_none (rc : RCfg) (ctx : Spec.Ctx) (k : GM.Kind) (cs : List GM.Node) :
    nodeInv rc ctx (.mk k none cs) = (kindInv rc ctx k none cs && nodesInv rc (childCtx k) cs) := by
  rw [nodeInv_mk]; simp [attrsInv, noClash]

theorem liftErr_ok {α} {f : Panic → Err} {x : Except Panic α} {a : α} (h : liftErr f x = .ok a) : x = .ok a := by
  cases x with
  | error e => simp [liftErr] at h
  | ok v => simp only [liftErr, Except.ok.injEq] at h; rw [h]

theorem nodesInv_append (rc : RCfg) (ctx : Spec.Ctx) : ∀ (a b : List GM.Node),
    nodesInv rc ctx (a ++ b) = (nodesInv rc ctx a && nodesInv rc ctx b)
  | [], b => by simp [nodesInv_nil]
  | x :: a, b => by simp only [List.cons_append, nodesInv_cons, nodesInv_append rc ctx a b, Bool.and_assoc]

theorem inlineTrees_text (rc : RCfg) (src : Bytes) : ∀ (ks : List GM.Inl.Node),
    ks.all GM.Proof.Inlines.isText = true → ∀ ts, inlineTrees src ks = .ok ts →
    codeSpanChildrenText ts = true ∧ nodesInv rc .any ts = true
  | [], _, ts, h => by
    unfold inlineTrees at h; cases h; simp [codeSpanChildrenText, nodesInv_nil]
  | k :: rest, ha, ts, h => by
    simp only [List.all_cons, Bool.and_eq_true] at ha
    unfold inlineTrees at h
    obtain ⟨t, ht, h⟩ := Proof.Reader.bind_ok h
    obtain ⟨ts', hts, h⟩ := Proof.Reader.bind_ok h
    cases h
    have ih := inlineTrees_text rc src rest ha.2 ts' hts
    cases k <;> simp [GM.Proof.Inlines.isText] at ha
    unfold inlineTree at ht
    obtain ⟨v, _, ht⟩ := Proof.Reader.bind_ok ht
    cases ht
    simp [codeSpanChildrenText, nodesInv_cons, nodesInv_nil, nodeInv_none, kindInv, childCtx, Kind.isText, Node.kind, ih.1, ih.2]

mutual
theorem inlineTree_inv (rc : RCfg) (src : Bytes) : ∀ (n : GM.Inl.Node), GM.Proof.Inlines.wf false n = true →
    ∀ t, inlineTree src n = .ok t → nodeInv rc .any t = true
  | .text .., _, t, h => by
    unfold inlineTree at h
    obtain ⟨v, _, h⟩ := Proof.Reader.bind_ok h
    cases h
    simp [nodeInv_none, kindInv, childCtx, nodesInv_nil]
  | .codeSpan ks, hw, t, h => by
    simp only [GM.Proof.Inlines.wf] at hw
    unfold inlineTree at h
    obtain ⟨ts, hts, h⟩ := Proof.Reader.bind_ok h
    cases h
    have := inlineTrees_text rc src ks hw ts hts
    simp [nodeInv_none, kindInv, childCtx, this.1, this.2]
  | .emphasis _ ks, hw, t, h => by
    simp only [GM.Proof.Inlines.wf, Bool.and_eq_true] at hw
    unfold inlineTree at h
    obtain ⟨ts, hts, h⟩ := Proof.Reader.bind_ok h
    cases h
    have := inlineTrees_inv rc src ks hw.2 ts hts
    simp [nodeInv_none, kindInv, childCtx, this]
  | .link im d ti ks, hw, t, h => by
    simp only [GM.Proof.Inlines.wf, Bool.and_eq_true] at hw
    unfold inlineTree at h
    obtain ⟨ts, hts, h⟩ := Proof.Reader.bind_ok h
    cases h
    have := inlineTrees_inv rc src ks hw.1 ts hts
    cases im <;> cases ti <;> simp [nodeInv_none, kindInv, childCtx, this]
  | .autoLink .., _, t, h => by
    unfold inlineTree at h
    obtain ⟨v, _, h⟩ := Proof.Reader.bind_ok h
    cases h
    simp [nodeInv_none, kindInv, childCtx, nodesInv_nil]
  | .rawHTML .., _, t, h => by
    unfold inlineTree at h
    obtain ⟨v, _, h⟩ := Proof.Reader.bind_ok h
    cases h
    simp [nodeInv_none, kindInv, childCtx, nodesInv_nil]
  | .delim .., hw, _, _ => by simp [GM.Proof.Inlines.wf] at hw
  | .label .., hw, _, _ => by simp [GM.Proof.Inlines.wf] at hw
theorem inlineTrees_inv (rc : RCfg) (src : Bytes) : ∀ (ks : List GM.Inl.Node), GM.Proof.Inlines.wfL false ks = true →
    ∀ ts, inlineTrees src ks = .ok ts → nodesInv rc .any ts = true
  | [], _, ts, h => by unfold inlineTrees at h; cases h; simp [nodesInv_nil]
  | k :: rest, hw, ts, h => by
    simp only [GM.Proof.Inlines.wfL, Bool.and_eq_true] at hw
    unfold inlineTrees at h
    obtain ⟨t, ht, h⟩ := Proof.Reader.bind_ok h
    obtain ⟨ts', hts, h⟩ := Proof.Reader.bind_ok h
    cases h
    simp [nodesInv_cons, inlineTree_inv rc src k hw.1 t ht, inlineTrees_inv rc src rest hw.2 ts' hts]
end

theorem inlinePhase_wf {guard : Bool} {env : GM.Inl.Env} {src : Bytes} {n : GM.Blocks.Node} {kids : List GM.Inl.Node}
    (h : inlinePhase guard env src n = .ok kids) : GM.Proof.Inlines.wfL false kids = true := by
  unfold inlinePhase at h
  split at h
  · cases h; rfl
  · split at h
    · cases h; rfl
    · split at h
      · cases h
      · exact GM.Proof.Inlines.parseBlock_wf (liftErr_ok h)

/-- the kinds `blockKind` answers, with the kind-specific clause of `Spec.nodeInv` -/
def blockKindOK : GM.Kind → Bool
  | .document | .paragraph | .textBlock | .thematicBreak | .blockquote | .listItem => true
  | .heading level => 1 ≤ level && level ≤ 6
  | .codeBlock _ | .fencedCodeBlock _ _ | .htmlBlock _ _ | .list _ _ => true
  | _ => false

theorem nodeInv_block (rc : RCfg) (k : GM.Kind) (cs : List GM.Node) (hk : blockKindOK k = true)
    (hc : nodesInv rc .any cs = true) : nodeInv rc .any (.mk k none cs) = true := by
  cases k <;> simp [blockKindOK] at hk <;> simp [nodeInv_none, kindInv, childCtx, hc]
  exact hk

theorem blockKind_ok {src : Bytes} {n : GM.Blocks.Node} {k : GM.Kind} (hn : HeadP n)
    (h : blockKind src n = .ok k) : blockKindOK k = true := by
  unfold blockKind at h
  split at h
  all_goals first
    | (cases h; rfl)
    | skip
  · rename_i hk
    cases h
    have := hn hk
    simp only [blockKindOK, Bool.and_eq_true, decide_eq_true_eq]
    omega
  · obtain ⟨v, _, h⟩ := Proof.Reader.bind_ok h
    cases h; rfl
  · simp only at h
    split at h
    · obtain ⟨v, _, h⟩ := Proof.Reader.bind_ok h
      obtain ⟨w, _, h⟩ := Proof.Reader.bind_ok h
      obtain ⟨u, _, h⟩ := Proof.Reader.bind_ok h
      cases h; rfl
    · obtain ⟨w, _, h⟩ := Proof.Reader.bind_ok h
      obtain ⟨u, _, h⟩ := Proof.Reader.bind_ok h
      cases h; rfl
  · simp only at h
    split at h
    · obtain ⟨v, _, h⟩ := Proof.Reader.bind_ok h
      obtain ⟨w, _, h⟩ := Proof.Reader.bind_ok h
      obtain ⟨u, _, h⟩ := Proof.Reader.bind_ok h
      cases h; rfl
    · obtain ⟨w, _, h⟩ := Proof.Reader.bind_ok h
      obtain ⟨u, _, h⟩ := Proof.Reader.bind_ok h
      cases h; rfl

mutual
/-- every node of the block tree satisfies `P` -/
def treeAll (P : GM.Blocks.Node → Prop) : GM.Blocks.Tree → Prop
  | .node n cs => P n ∧ treesAll P cs
def treesAll (P : GM.Blocks.Node → Prop) : List GM.Blocks.Tree → Prop
  | [] => True
  | t :: rest => treeAll P t ∧ treesAll P rest
end

def troot : GM.Blocks.Tree → GM.Blocks.Node
  | .node n _ => n

mutual
/-- every node satisfies `P`, every parent / child pair satisfies `R` -/
def treeRel (P : GM.Blocks.Node → Prop) (R : GM.Blocks.Node → GM.Blocks.Node → Prop) : GM.Blocks.Tree → Prop
  | .node n cs => P n ∧ treesRel P R n cs
def treesRel (P : GM.Blocks.Node → Prop) (R : GM.Blocks.Node → GM.Blocks.Node → Prop) (p : GM.Blocks.Node) :
    List GM.Blocks.Tree → Prop
  | [] => True
  | t :: rest => R p (troot t) ∧ treeRel P R t ∧ treesRel P R p rest
end

mutual
theorem treeRel.all {P : GM.Blocks.Node → Prop} {R : GM.Blocks.Node → GM.Blocks.Node → Prop} :
    ∀ t : GM.Blocks.Tree, treeRel P R t → treeAll P t
  | .node n cs, h => by
    simp only [treeRel] at h
    simp only [treeAll]
    exact ⟨h.1, treesRel.all n cs h.2⟩
theorem treesRel.all {P : GM.Blocks.Node → Prop} {R : GM.Blocks.Node → GM.Blocks.Node → Prop} (p : GM.Blocks.Node) :
    ∀ ts : List GM.Blocks.Tree, treesRel P R p ts → treesAll P ts
  | [], _ => by simp only [treesAll]
  | t :: rest, h => by
    simp only [treesRel] at h
    simp only [treesAll]
    exact ⟨treeRel.all t h.2.1, treesRel.all p rest h.2.2⟩
end

theorem treeOf_root (nodes : List GM.Blocks.Node) (fuel id : Nat) :
    troot (GM.Blocks.treeOf nodes fuel id) = nodes.getD id default := by
  cases fuel <;> rfl

theorem treesRel_map {P : GM.Blocks.Node → Prop} {R : GM.Blocks.Node → GM.Blocks.Node → Prop} (p : GM.Blocks.Node)
    (f : Nat → GM.Blocks.Tree) : ∀ l : List Nat, (∀ i ∈ l, R p (troot (f i)) ∧ treeRel P R (f i)) → treesRel P R p (l.map f)
  | [], _ => by simp [treesRel]
  | i :: rest, h => by
    simp only [List.map, treesRel]
    exact ⟨(h i (by simp)).1, (h i (by simp)).2, treesRel_map p f rest (fun j hj => h j (by simp [hj]))⟩

/-- The tree read out of a store: the root satisfies `P`; every node that is somebody's child satisfies `P` and stands in `R`
    to that parent. The one induction over the fuel: `treeOf_rel` and `treeOf_all_reach` read it. -/
theorem treeOf_rel_reach {P : GM.Blocks.Node → Prop} {R : GM.Blocks.Node → GM.Blocks.Node → Prop}
    (nodes : List GM.Blocks.Node)
    (hk : ∀ p, ∀ c ∈ (nodes.getD p default).children,
      P (nodes.getD c default) ∧ R (nodes.getD p default) (nodes.getD c default)) :
    ∀ fuel id, P (nodes.getD id default) → treeRel P R (GM.Blocks.treeOf nodes fuel id)
  | 0, id, h => by simp only [GM.Blocks.treeOf, treeRel, treesRel]; exact ⟨h, trivial⟩
  | fuel + 1, id, h => by
    simp only [GM.Blocks.treeOf, treeRel]
    refine ⟨h, treesRel_map _ _ _ fun c hc => ⟨?_, treeOf_rel_reach nodes hk fuel c (hk id c hc).1⟩⟩
    rw [treeOf_root]
    exact (hk id c hc).2

theorem treeOf_rel {P : GM.Blocks.Node → Prop} {R : GM.Blocks.Node → GM.Blocks.Node → Prop}
    (nodes : List GM.Blocks.Node) (hP : ∀ i, P (nodes.getD i default))
    (hR : ∀ i, ∀ c ∈ (nodes.getD i default).children, R (nodes.getD i default) (nodes.getD c default)) :
    ∀ fuel id, treeRel P R (GM.Blocks.treeOf nodes fuel id) :=
  fun fuel id => treeOf_rel_reach nodes (fun p c hc => ⟨hP c, hR p c hc⟩) fuel id (hP id)

theorem treeOf_all_reach {P : GM.Blocks.Node → Prop} (nodes : List GM.Blocks.Node)
    (hk : ∀ p c, c ∈ (nodes.getD p default).children → P (nodes.getD c default)) :
    ∀ fuel id, P (nodes.getD id default) → treeAll P (GM.Blocks.treeOf nodes fuel id) :=
  fun fuel id h => (treeOf_rel_reach (R := fun _ _ => True) nodes (fun p c hc => ⟨hk p c hc, trivial⟩) fuel id h).all

theorem treeOf_all {P : GM.Blocks.Node → Prop} (nodes : List GM.Blocks.Node) (h : ∀ i, P (nodes.getD i default)) :
    ∀ fuel id, treeAll P (GM.Blocks.treeOf nodes fuel id) :=
  fun fuel id => treeOf_all_reach nodes (fun _ c _ => h c) fuel id (h id)

theorem headOK_getD {s : GM.Blocks.St} (h : HeadOK s) (i : Nat) : HeadP (s.nodes.getD i default) := by
  by_cases hlt : i < s.nodes.length
  · have : s.nodes.getD i default = s.nodes[i] := by simp [List.getD, hlt]
    rw [this]; exact h _ (List.getElem_mem hlt)
  · have : s.nodes.getD i default = default := by
      simp [List.getD, List.getElem?_eq_none (Nat.le_of_not_lt hlt)]
    rw [this]; exact headP_default

mutual
theorem docTree_inv (rc : RCfg) (guard : Bool) (env : GM.Inl.Env) (src : Bytes) : ∀ (t : GM.Blocks.Tree),
    treeAll HeadP t → ∀ x, docTree guard env src t = .ok x → nodeInv rc .any x = true
  | .node n cs, ha, x, h => by
    simp only [treeAll] at ha
    unfold docTree at h
    obtain ⟨bs, hbs, h⟩ := Proof.Reader.bind_ok h
    obtain ⟨kids, hkids, h⟩ := Proof.Reader.bind_ok h
    obtain ⟨is, his, h⟩ := Proof.Reader.bind_ok h
    obtain ⟨k, hk, h⟩ := Proof.Reader.bind_ok h
    cases h
    have h1 := docTrees_inv rc guard env src cs ha.2 bs hbs
    have h2 := inlineTrees_inv rc src kids (inlinePhase_wf hkids) is (liftErr_ok his)
    exact nodeInv_block rc k _ (blockKind_ok ha.1 (liftErr_ok hk)) (by rw [nodesInv_append, h1, h2]; rfl)
theorem docTrees_inv (rc : RCfg) (guard : Bool) (env : GM.Inl.Env) (src : Bytes) : ∀ (ts : List GM.Blocks.Tree),
    treesAll HeadP ts → ∀ xs, docTrees guard env src ts = .ok xs → nodesInv rc .any xs = true
  | [], _, xs, h => by unfold docTrees at h; cases h; simp [nodesInv_nil]
  | t :: rest, ha, xs, h => by
    simp only [treesAll] at ha
    unfold docTrees at h
    obtain ⟨x, hx, h⟩ := Proof.Reader.bind_ok h
    obtain ⟨xs', hxs, h⟩ := Proof.Reader.bind_ok h
    cases h
    simp [nodesInv_cons, docTree_inv rc guard env src t ha.1 x hx, docTrees_inv rc guard env src rest ha.2 xs' hxs]
end

theorem docTree_shape {g : Bool} {env : GM.Inl.Env} {D : Bytes} {n : Blocks.Node} {cs : List Blocks.Tree} {t : GM.Node}
    (h : docTree g env D (.node n cs) = .ok t) : ∃ k xs, t = .mk k none xs ∧ blockKind D n = .ok k := by
  unfold docTree at h
  simp only [bind, Except.bind, pure, Except.pure] at h
  split at h
  · cases h
  split at h
  · cases h
  split at h
  · cases h
  cases hk : blockKind D n with
  | error e => rw [hk] at h; simp [liftErr] at h
  | ok k => rw [hk] at h; simp only [liftErr] at h; cases h; exact ⟨_, _, rfl, rfl⟩

theorem paragraphTransformers_keep {I : GM.Blocks.St → Prop} [Frame I] (guard : Bool) :
    PTsKeep I (paragraphTransformers guard) := by
  intro pt hpt n
  simp only [paragraphTransformers, List.mem_singleton] at hpt
  subst hpt
  split
  · exact guardedTransform_keeps n
  · exact transform_keeps n

theorem blockPhase_headOK (guard : Bool) (src : Bytes) (st : GM.Blocks.St) (h : blockPhase guard src = .ok st) :
    HeadOK st :=
  runT_headOK (paragraphTransformers_keep guard) src st h

theorem blockPhase_rootDoc (guard : Bool) (src : Bytes) (st : GM.Blocks.St) (h : blockPhase guard src = .ok st) :
    RootDoc st :=
  runT_rootDoc (paragraphTransformers_keep guard) src st h

theorem docTree_inv_of_store (rc : RCfg) (guard : Bool) (env : GM.Inl.Env) (src : Bytes) (st : GM.Blocks.St)
    (hs : HeadOK st) (fuel id : Nat) (x : GM.Node)
    (h : docTree guard env src (GM.Blocks.treeOf st.nodes fuel id) = .ok x) : nodeInv rc .any x = true :=
  docTree_inv rc guard env src _ (treeOf_all st.nodes (headOK_getD hs) fuel id) x h

theorem footCfgInv_mkRCfg (o : Opts) (e : Exts) : footCfgInv (mkRCfg o e).footc = true := by
  have : (mkRCfg o e).footc = {} := rfl
  rw [this]; decide +kernel

/-- **`Spec.Inv` of parser output**: whatever tree `parseDoc` answers satisfies the invariant of C03, for every
    renderer state built by `mkRCfg` -/
theorem parseDoc_inv (o : Opts) (e : Exts) (guard : Bool) (uc : List (Nat × (Bool × Bool))) (src : Bytes) (t : GM.Node)
    (h : parseDoc guard uc src = .ok t) : Spec.Inv (mkRCfg o e) t = true := by
  unfold parseDoc at h
  obtain ⟨st, hst, h⟩ := Proof.Reader.bind_ok h
  have hs := blockPhase_headOK guard src st (liftErr_ok hst)
  simp only [Spec.Inv, Bool.and_eq_true]
  exact ⟨docTree_inv_of_store _ guard _ src st hs _ _ t h, footCfgInv_mkRCfg o e⟩

end GM.E2E
