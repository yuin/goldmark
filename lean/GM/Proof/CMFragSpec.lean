/-
  GM.Proof.CMFragSpec — stages 1–6 inside the spec model GM.Spec.CommonMark: every spelling of a printable character is
  printable, `spellIs` / `renderLine` on text lines, the prescribed HTML and the source lines of an embedded block of stages
  4–6, and the prescribed HTML of `k` nested block quotes around any document (`expected_nestN`).
-/
import GM.Spec.CMFrag

/-
  section CMFragSpec — the fragment GM.Spec.CMFrag (stages 1–3: paragraphs of text lines) inside the spec model
  GM.Spec.CommonMark: `expectedF_eq_expected` (the prescribed HTML of a fragment document is `expected` of the embedded
  document, for EVERY document), and what the later stages use about text lines: every spelling of a printable character
  is printable, `spellIs` and `renderLine` on the lines of a paragraph. (The source relation `spellF_eq_spell` is an
  instance of stage 4's, GM.Proof.CMFragStagesBlock; for the empty document `spellF` is the empty source while `spell` of
  the empty `Doc` is one line feed: `spellF_empty_ne_spell`.)
-/
section CMFragSpec
namespace GM.Proof.CMFrag
open GM GM.Spec.CM GM.Spec.CMFrag

/-! ### S1: prescribed HTML -/

theorem render_append (a b : List Piece) : render (a ++ b) = render a ++ render b := by
  simp [render]

theorem render_expIs_embedLines (ls : List FLine) :
    render (expIs (embedLines ls)) = GM.Spec.CMFrag.joinNl (ls.map fun l => escHtml (plain l)) := by
  induction ls with
  | nil => simp [embedLines, expIs, render, GM.Spec.CMFrag.joinNl]
  | cons l rest ih =>
    cases rest with
    | nil => simp [embedLines, expIs, expI, render, renderPiece, GM.Spec.CMFrag.joinNl]
    | cons l' rest =>
      have e : embedLines (l :: l' :: rest) = .text l :: .softBreak :: embedLines (l' :: rest) := rfl
      rw [e, expIs, expIs, render_append, render_append, ih]
      simp [expI, render, renderPiece, nl, GM.Spec.CMFrag.joinNl]

theorem render_expB_para (ls : List FLine) :
    render (expB false false (embedBlock (.para ls))) = expBlock (.para ls) := by
  rw [embedBlock, expB]
  simp only [wrap, Bool.false_eq_true, if_false, List.cons_append]
  have h1 : strBytes "<p>" = [60] ++ strBytes "p" ++ [62] := by decide +kernel
  have h2 : strBytes "</p>\n" = [60, 47] ++ strBytes "p" ++ [62] ++ [10] := by decide +kernel
  rw [expBlock, h1, h2, ← render_expIs_embedLines]
  simp [render, renderPiece, nl]

theorem render_expBs_embed (its : List FItem) :
    render (expBs false false (its.map fun it => embedBlock it.block)) = its.flatMap fun it => expBlock it.block := by
  induction its with
  | nil => simp [expBs, render]
  | cons it rest ih =>
    obtain ⟨g, b⟩ := it
    cases b with
    | para ls =>
      rw [List.map_cons, expBs, render_append, ih]
      simp [render_expB_para]

theorem expectedF_eq_expected_any (d : FDoc) : expectedF d = expected (embed d) := by
  rw [expected, expectedPieces, embed, expectedF, render_expBs_embed]

theorem expectedF_eq_expected (d : FDoc) (_h : Frag d) : expectedF d = expected (embed d) :=
  expectedF_eq_expected_any d

/-! ### S2: source -/

/-- bytes of a spelling: printable ASCII (so: no line feed, none of the white-space marks 1, 2, 3) -/
theorem spell_lit_printable : ∀ c : UInt8, printable c = true → (spellChar ⟨c, .lit⟩).all printable = true := by
  apply forall_uint8; decide +kernel
theorem spell_bs_printable : ∀ c : UInt8, printable c = true → (spellChar ⟨c, .bs⟩).all printable = true := by
  apply forall_uint8; decide +kernel
theorem namedFor_alnum : ∀ c : UInt8, (namedFor c).all (fun n => n.all isAlnumC) = true := by
  apply forall_uint8; decide +kernel

/-- the named spelling of a character is `&name;` with an alphanumeric name, or — no name in the table — its literal
    spelling -/
theorem spellChar_named (c : UInt8) :
    (namedFor c = none ∧ spellChar ⟨c, .named⟩ = spellChar ⟨c, .lit⟩) ∨
      ∃ n, spellChar ⟨c, .named⟩ = 38 :: (n ++ [59]) ∧ ∀ x ∈ n, isAlnumC x = true := by
  have ha := namedFor_alnum c
  cases h : namedFor c with
  | none => exact Or.inl ⟨rfl, by simp [spellChar, h]⟩
  | some n =>
    rw [h] at ha
    exact Or.inr ⟨n, by simp [spellChar, h], by simpa using ha⟩

/-- what the spec side needs to know of a letter or digit -/
theorem alnum_facts : ∀ c : UInt8, isAlnumC c = true →
    printable c = true ∧ (c != 32) = true ∧ c ≠ 35 ∧ c ≠ 96 ∧ c ≠ 126 ∧ spellChar ⟨c, .lit⟩ = [c] ∧ escHtmlByte c = [c] := by
  apply forall_uint8; decide +kernel

theorem spell_named_printable (c : UInt8) (h : printable c = true) : (spellChar ⟨c, .named⟩).all printable = true := by
  rcases spellChar_named c with ⟨_, e⟩ | ⟨n, e, hn⟩
  · rw [e]; exact spell_lit_printable c h
  · rw [e]
    simp only [List.all_cons, List.all_append, List.all_nil, Bool.and_true, Bool.and_eq_true, List.all_eq_true]
    exact ⟨by decide, fun x hx => (alnum_facts x (hn x hx)).1, by decide⟩
theorem decDigits_printable : ∀ c : UInt8, (decDigits c.toNat).all printable = true := by
  apply forall_uint8; decide +kernel
theorem hexDigits_printable : ∀ c : UInt8, ∀ up, (hexDigits up c.toNat).all printable = true := by
  apply forall_uint8; decide +kernel
theorem zeros_printable (k : Nat) : (zeros k).all printable = true := by
  simp [zeros]; right; decide

theorem spellChar_printable (t : TChar) (h : printable t.c = true) : (spellChar t).all printable = true := by
  obtain ⟨c, e⟩ := t
  cases e with
  | lit => exact spell_lit_printable c h
  | bs => exact spell_bs_printable c h
  | named => exact spell_named_printable c h
  | dec pad =>
    simp only [spellChar, List.all_append, Bool.and_eq_true]
    exact ⟨⟨⟨by decide, zeros_printable _⟩, decDigits_printable c⟩, by decide⟩
  | hex pad upX upD =>
    simp only [spellChar, List.all_append, Bool.and_eq_true]
    exact ⟨⟨⟨by cases upX <;> decide, zeros_printable _⟩, hexDigits_printable c upD⟩, by decide⟩

theorem escSpell_printable (l : FLine) (h : ∀ t ∈ l, printable t.c = true) : (escSpell l).all printable = true := by
  induction l with
  | nil => rfl
  | cons t ts ih =>
    simp only [escSpell, List.flatMap_cons, List.all_append, Bool.and_eq_true]
    exact ⟨spellChar_printable t (h t (by simp)), ih (fun x hx => h x (by simp [hx]))⟩

theorem printable_facts : ∀ c : UInt8, printable c = true → c ≠ 10 ∧ c ≠ wsMarkQ ∧ c ≠ wsMarkL ∧ c ≠ wsMarkD := by
  apply forall_uint8; decide +kernel

theorem spellIs_embedLines (ls : List FLine) (pa : Bool) :
    spellIs pa (embedLines ls) = GM.Spec.CMFrag.joinNl (ls.map escSpell) := by
  induction ls generalizing pa with
  | nil => simp [embedLines, spellIs, GM.Spec.CMFrag.joinNl]
  | cons l rest ih =>
    cases rest with
    | nil => simp [embedLines, spellIs, spellI, GM.Spec.CMFrag.joinNl]
    | cons l' rest =>
      have e : embedLines (l :: l' :: rest) = .text l :: .softBreak :: embedLines (l' :: rest) := rfl
      rw [e]
      simp only [spellIs, spellI]
      rw [ih]
      simp [GM.Spec.CMFrag.joinNl]

def splitStep (c : UInt8) (acc : Bytes × List Bytes) : Bytes × List Bytes :=
  if c == 10 then ([], acc.1 :: acc.2) else (c :: acc.1, acc.2)

theorem splitLines_eq (b : Bytes) : splitLines b = (b.foldr splitStep ([], [])).1 :: (b.foldr splitStep ([], [])).2 := rfl

theorem foldr_split_run (l rest : Bytes) (h : ∀ c ∈ l, c ≠ 10) :
    (l ++ rest).foldr splitStep ([], []) =
      (l ++ (rest.foldr splitStep ([], [])).1, (rest.foldr splitStep ([], [])).2) := by
  induction l with
  | nil => simp
  | cons c l ih =>
    have hc : (c == 10) = false := by simpa using h c (by simp)
    rw [List.cons_append, List.foldr_cons, ih (fun x hx => h x (by simp [hx]))]
    simp [splitStep, hc]

theorem splitLines_line (l : Bytes) (h : ∀ c ∈ l, c ≠ 10) : splitLines l = [l] := by
  have := foldr_split_run l [] h
  rw [splitLines_eq]; simp at this; rw [this]

theorem splitLines_cons (l rest : Bytes) (h : ∀ c ∈ l, c ≠ 10) :
    splitLines (l ++ 10 :: rest) = l :: splitLines rest := by
  rw [splitLines_eq, foldr_split_run l _ h, List.foldr_cons, splitLines_eq]
  simp [splitStep]

theorem splitLines_joinNl (ls : List Bytes) (hne : ls ≠ []) (h : ∀ l ∈ ls, ∀ c ∈ l, c ≠ 10) :
    splitLines (GM.Spec.CMFrag.joinNl ls) = ls := by
  induction ls with
  | nil => exact absurd rfl hne
  | cons l rest ih =>
    cases rest with
    | nil => simp [GM.Spec.CMFrag.joinNl, splitLines_line l (h l (by simp))]
    | cons l' rest =>
      have e : GM.Spec.CMFrag.joinNl (l :: l' :: rest) = l ++ 10 :: GM.Spec.CMFrag.joinNl (l' :: rest) := by
        simp [GM.Spec.CMFrag.joinNl]
      rw [e, splitLines_cons l _ (h l (by simp)), ih (by simp) (fun x hx => h x (by simp [hx]))]

theorem renderBody_id (mq md ml : Nat) (l : Bytes) (h : ∀ c ∈ l, c ≠ wsMarkQ ∧ c ≠ wsMarkL ∧ c ≠ wsMarkD) (col : Nat) :
    renderBody mq md ml col l = l := by
  induction l generalizing col with
  | nil => simp [renderBody]
  | cons c tl ih =>
    obtain ⟨h1, h2, h3⟩ := h c (by simp)
    cases tl with
    | nil => simp [renderBody, h1, h2, h3]
    | cons k rest =>
      rw [renderBody]
      simp [h1, h2, h3, ih (fun x hx => h x (by simp [hx]))]

theorem renderLine_plain (l : Bytes) (h : ∀ c ∈ l, c ≠ wsMarkQ ∧ c ≠ wsMarkL ∧ c ≠ wsMarkD) :
    renderLine 0 0 0 0 (0, l) = l := by
  simp [renderLine, lcol, spellIndent, spaces, renderBody_id 0 0 0 l h]

/-! #### the lines of a document -/

theorem charOK_printable (t : TChar) (h : charOK t = true) : printable t.c = true := by
  simp only [charOK, Bool.and_eq_true] at h; exact h.1

theorem lineOK_printable (l : FLine) (h : lineOK l = true) : ∀ t ∈ l, printable t.c = true := by
  unfold lineOK at h
  split at h
  · simp only [Bool.and_eq_true, List.all_eq_true] at h
    exact fun t ht => charOK_printable t (h.2 t ht)
  · cases h

theorem paraLines_embed (ls : List FLine) (hne : ls ≠ []) (hok : ∀ l ∈ ls, lineOK l = true) :
    (paraLines 0 0 (spellIs false (embedLines ls))).map (renderLine 0 0 0 0) = ls.map escSpell := by
  have hpr : ∀ b ∈ ls.map escSpell, ∀ c ∈ b, printable c = true := by
    intro b hb c hc
    obtain ⟨l, hl, rfl⟩ := List.mem_map.mp hb
    exact List.all_eq_true.mp (escSpell_printable l (lineOK_printable l (hok l hl))) c hc
  have hsplit := splitLines_joinNl (ls.map escSpell) (by simpa using hne)
    (fun b hb c hc => (printable_facts c (hpr b hb c hc)).1)
  rw [paraLines, spellIs_embedLines, hsplit]
  cases hls : ls.map escSpell with
  | nil => simp at hls; exact absurd hls hne
  | cons f rest =>
    rw [hls] at hpr
    simp only [List.map_cons, List.map_map]
    congr 1
    · exact renderLine_plain f (fun c hc => (printable_facts c (hpr f (by simp) c hc)).2)
    · conv => rhs; rw [← List.map_id rest]
      apply List.map_congr_left
      intro b hb
      exact renderLine_plain b (fun c hc => (printable_facts c (hpr b (by simp [hb]) c hc)).2)

theorem spellBs_para (prev pm : Nat) (kids : List Inline) (rest : List Block) :
    spellBs false false prev pm (.para {} kids 0 :: rest) =
      (if prev == 0 then [] else [blankLine]) ++ paraLines 0 0 (spellIs false kids) ++ spellBs false false 1 0 rest := by
  simp only [spellBs, kindOf, bch, spellB]
  simp

theorem renderLine_blank : renderLine 0 0 0 0 blankLine = [] := by
  simp [blankLine, renderLine, lcol, spellIndent, spaces, renderBody]

theorem joinLines_flatMap (ls : List Bytes) (hne : ls ≠ []) :
    joinLines ls ++ [10] = ls.flatMap (· ++ [10]) := by
  induction ls with
  | nil => exact absurd rfl hne
  | cons l rest ih =>
    cases rest with
    | nil => simp [joinLines]
    | cons l' rest =>
      have e : joinLines (l :: l' :: rest) = l ++ [10] ++ joinLines (l' :: rest) := by simp [joinLines]
      rw [e, List.append_assoc, ih (by simp)]
      simp

/-- the exception to `spellF_eq_spell`: the source of the empty document is empty, the spec model writes one line feed -/
theorem spellF_empty_ne_spell : spellF { items := [] } ≠ spell (embed { items := [] }) := by decide +kernel

end GM.Proof.CMFrag
end CMFragSpec

/-
  section CMFragSpec4 — the blocks of stage 4 (paragraphs, ATX headings, thematic breaks) in the spec model
  GM.Spec.CommonMark: the prescribed HTML of an embedded block and its source lines. (The relations of whole stage-4
  documents are instances of stage 6's, GM.Proof.CMFragStagesBlock.)
-/
section CMFragSpec4
namespace GM.Proof.CMFrag
open GM GM.Spec.CM GM.Spec.CMFrag

/-! ### S1': prescribed HTML -/

theorem decStr_level4 (level : Nat) (h1 : 1 ≤ level) (h6 : level ≤ 6) : decStr level = [UInt8.ofNat (48 + level)] := by
  have : level = 1 ∨ level = 2 ∨ level = 3 ∨ level = 4 ∨ level = 5 ∨ level = 6 := by omega
  rcases this with h | h | h | h | h | h <;> subst h <;> decide +kernel

theorem render_expB_gembed4 (b : GBlock) (hok : gblockOK b = true) :
    render (expB false false (gembedBlock b)) = expGBlock b := by
  cases b with
  | para ls => exact render_expB_para ls
  | heading level text =>
    simp only [gblockOK, Bool.and_eq_true, decide_eq_true_eq] at hok
    rw [gembedBlock, expB, expGBlock, decStr_level4 level hok.1.1 hok.1.2]
    have h1 : strBytes "<h" = [60, 104] := by decide +kernel
    have h2 : strBytes "</h" = [60, 47, 104] := by decide +kernel
    have h3 : strBytes ">\n" = [62, 10] := by decide +kernel
    rw [h1, h2, h3]
    simp [wrap, expIs, expI, render, renderPiece, nl]
  | thematic c n =>
    rw [gembedBlock, expB, expGBlock]
    decide +kernel

/-! ### S2': source -/

/-- the source lines of one block -/
def gblockLines : GBlock → List Bytes
  | .para ls => ls.map escSpell
  | .heading level text => [List.replicate level 35 ++ [32] ++ escSpell text]
  | .thematic c n => [thematicLine c n false]

/-- the source lines of the items (a blank line in front of every item but the first) -/
def docLinesG (first : Bool) : List GItem → List Bytes
  | [] => []
  | it :: rest => (if first then [] else [[]]) ++ gblockLines it.block ++ docLinesG false rest

theorem spellBs_heading4 (prev pm level : Nat) (kids : List Inline) (rest : List Block) :
    spellBs false false prev pm (.heading {} level false 0 0 kids :: rest) =
      (if prev == 0 then [] else [blankLine]) ++ [(0, List.replicate level 35 ++ [32] ++ spellIs false kids)] ++
        spellBs false false 2 0 rest := by
  simp only [spellBs, kindOf, bch, spellB]
  simp [spaces]

theorem spellBs_thematic4 (prev pm c n : Nat) (rest : List Block) :
    spellBs false false prev pm (.thematic {} c n false :: rest) =
      (if prev == 0 then [] else [blankLine]) ++ [(0, thematicLine c n false)] ++ spellBs false false 4 0 rest := by
  simp only [spellBs, kindOf, bch, spellB]
  simp [spaces]

theorem thematicLine_plain4 (c n : Nat) :
    ∀ x ∈ thematicLine c n false, x ≠ wsMarkQ ∧ x ≠ wsMarkL ∧ x ≠ wsMarkD := by
  intro x hx
  simp only [thematicLine, Bool.false_eq_true, if_false] at hx
  have := List.eq_of_mem_replicate hx
  subst this
  split
  · decide
  · split <;> decide

theorem spellBs_gembed4 (its : List GItem) (hok : ∀ it ∈ its, gblockOK it.block = true) (prev pm : Nat) :
    (spellBs false false prev pm (its.map fun it => gembedBlock it.block)).map (renderLine 0 0 0 0) =
      docLinesG (prev == 0) its := by
  induction its generalizing prev pm with
  | nil => simp [spellBs, docLinesG]
  | cons it rest ih =>
    obtain ⟨g, b⟩ := it
    have hsep : (if prev == 0 then [] else [blankLine]).map (renderLine 0 0 0 0) =
        (if (prev == 0) = true then [] else [[]]) := by
      by_cases h0 : prev = 0
      · subst h0; simp
      · have : (prev == 0) = false := by simpa using h0
        simp [this, renderLine_blank]
    have hb := hok ⟨g, b⟩ (by simp)
    cases b with
    | para ls =>
      simp only [gblockOK, Bool.and_eq_true, List.all_eq_true, Bool.not_eq_true',
        List.isEmpty_eq_false_iff] at hb
      have hp := paraLines_embed ls hb.1 hb.2
      have ih' := ih (fun x hx => hok x (by simp [hx])) 1 0
      rw [List.map_cons, gembedBlock, spellBs_para, List.map_append, List.map_append, hp, ih', docLinesG, hsep]
      rfl
    | heading level text =>
      simp only [gblockOK, Bool.and_eq_true] at hb
      have ih' := ih (fun x hx => hok x (by simp [hx])) 2 0
      have hpl : renderLine 0 0 0 0 (0, List.replicate level 35 ++ [32] ++ escSpell text) =
          List.replicate level 35 ++ [32] ++ escSpell text := by
        apply renderLine_plain
        intro c hc
        simp only [List.mem_append, List.mem_replicate, List.mem_singleton] at hc
        rcases hc with (hc | hc) | hc
        · rw [hc.2]; decide
        · rw [hc]; decide
        · exact (printable_facts c (List.all_eq_true.mp
            (escSpell_printable text (lineOK_printable text hb.2)) c hc)).2
      rw [List.map_cons, gembedBlock, spellBs_heading4, List.map_append, List.map_append, ih', docLinesG, hsep]
      simp only [spellIs, spellI, List.append_nil, List.map_cons, List.map_nil, hpl, gblockLines]
      rfl
    | thematic c n =>
      have ih' := ih (fun x hx => hok x (by simp [hx])) 4 0
      rw [List.map_cons, gembedBlock, spellBs_thematic4, List.map_append, List.map_append, ih', docLinesG, hsep]
      simp only [List.map_cons, List.map_nil, renderLine_plain _ (thematicLine_plain4 c n), gblockLines]
      rfl

end GM.Proof.CMFrag
end CMFragSpec4

/-
  section CMFragSpec5 — the blocks of stage 5 (stage 4 plus fenced code blocks) in the spec model GM.Spec.CommonMark: the
  prescribed HTML of an embedded block, its source lines, the source lines of a document of such blocks
  (`spellBs_hembedH`). (The relations of whole stage-5 documents are instances of stage 6's, GM.Proof.CMFragStagesBlock.)
-/
section CMFragSpec5
namespace GM.Proof.CMFrag
open GM GM.Spec.CM GM.Spec.CMFrag

/-! ### S1: prescribed HTML -/

theorem alnum_factsH (c : UInt8) (h : isAlnumC c = true) :
    (c != 32) = true ∧ printable c = true ∧ escHtmlByte c = [c] :=
  have f := alnum_facts c h
  ⟨f.2.1, f.1, f.2.2.2.2.2.2⟩

theorem infoLang_alnumH (info : Bytes) (h : ∀ c ∈ info, isAlnumC c = true) : infoLang info = info := by
  rw [infoLang]
  induction info with
  | nil => rfl
  | cons c rest ih =>
    rw [List.takeWhile_cons, (alnum_factsH c (h c (by simp))).1, if_pos rfl, ih (fun x hx => h x (by simp [hx]))]

theorem escHtml_alnumH (info : Bytes) (h : ∀ c ∈ info, isAlnumC c = true) : escHtml info = info := by
  induction info with
  | nil => rfl
  | cons c rest ih =>
    simp only [escHtml, List.flatMap_cons] at ih ⊢
    rw [ih (fun x hx => h x (by simp [hx])), (alnum_factsH c (h c (by simp))).2.2]
    rfl

theorem spell_alnum_lit_s11 : ∀ c : UInt8, isAlnumC c = true → spellChar ⟨c, .lit⟩ = [c] := by
  apply forall_uint8; decide +kernel

theorem escSpell_elits_s11 (c : Bytes) (h : ∀ x ∈ c, isAlnumC x = true) : escSpell (elits c) = c := by
  induction c with
  | nil => rfl
  | cons x rest ih =>
    have := ih (fun y hy => h y (by simp [hy]))
    simp only [escSpell, elits, List.map_cons, List.flatMap_cons] at this ⊢
    rw [this, spell_alnum_lit_s11 x (h x (by simp))]
    rfl

theorem plain_elits11 (c : Bytes) : plain (elits c) = c := by
  induction c with
  | nil => rfl
  | cons x rest ih =>
    simp only [plain, elits, List.map_cons] at ih ⊢
    rw [ih]

theorem render_expB_hembedH (b : HBlock) (hok : hblockOK b = true) :
    render (expB false false (hembedBlock b)) = expHBlock b := by
  cases b with
  | base b => exact render_expB_gembed4 b hok
  | fcode tilde n info lines =>
    simp only [hblockOK, Bool.and_eq_true, List.all_eq_true] at hok
    rw [hembedBlock, expB, expHBlock, infoLang_alnumH info hok.1, escHtml_alnumH info hok.1]
    have h1 : strBytes "<pre><code" = [60] ++ strBytes "pre" ++ [62] ++ [60] ++ strBytes "code" := by decide +kernel
    have h2 : strBytes "</code></pre>\n" = [60, 47] ++ strBytes "code" ++ [62] ++ [60, 47] ++ strBytes "pre" ++ [62, 10] := by
      decide +kernel
    have h3 : strBytes " class=\"language-" = [32] ++ strBytes "class" ++ strBytes "=\"" ++ strBytes "language-" := by
      decide +kernel
    rw [h1, h2, h3]
    cases hi : info.isEmpty <;>
      simp [wrap, render, renderPiece, nl, attr, codeText]

/-! ### S2: source -/

/-- the source lines of one block -/
def hblockLines : HBlock → List Bytes
  | .base b => gblockLines b
  | .fcode tilde n info lines =>
    [List.replicate (n + 3) (fenceChar tilde) ++ info] ++ lines ++ [List.replicate (n + 3) (fenceChar tilde)]

/-- the source lines of the items (a blank line in front of every item but the first) -/
def docLinesH (first : Bool) : List HItem → List Bytes
  | [] => []
  | it :: rest => (if first then [] else [[]]) ++ hblockLines it.block ++ docLinesH false rest

theorem spellBs_fcodeH (prev pm : Nat) (tilde : Bool) (n : Nat) (info : Bytes) (lines : List Bytes) (rest : List Block) :
    spellBs false false prev pm (.fcode {} tilde n 0 0 info 0 lines :: rest) =
      (if prev == 0 then [] else [blankLine]) ++
        ([(0, List.replicate (n + 3) (fenceChar tilde) ++ info)] ++ lines.map (fun l => (0, l)) ++
          [(0, List.replicate (n + 3) (fenceChar tilde))]) ++ spellBs false false 6 0 rest := by
  simp only [spellBs, kindOf, bch, spellB]
  cases info <;> simp [spaces, fenceChar]

/-- one embedded stage-4 block in front of any other blocks -/
theorem spellBs_gembed_consH (b : GBlock) (prev pm : Nat) (rest : List Block) :
    spellBs false false prev pm (gembedBlock b :: rest) =
      spellBs false false prev pm [gembedBlock b] ++ spellBs false false (kindOf (gembedBlock b)) 0 rest := by
  cases b <;> simp [gembedBlock, spellBs]

theorem kindOf_gembedH (b : GBlock) : (kindOf (gembedBlock b) == 0) = false := by
  cases b <;> rfl

theorem fenceChar_plainH (tilde : Bool) :
    fenceChar tilde ≠ wsMarkQ ∧ fenceChar tilde ≠ wsMarkL ∧ fenceChar tilde ≠ wsMarkD := by
  cases tilde <;> decide

theorem printable_plainH (l : Bytes) (h : l.all printable = true) :
    ∀ c ∈ l, c ≠ wsMarkQ ∧ c ≠ wsMarkL ∧ c ≠ wsMarkD :=
  fun c hc => (printable_facts c (List.all_eq_true.mp h c hc)).2

theorem map_renderLine_plainH (lines : List Bytes) (h : ∀ l ∈ lines, l.all printable = true) :
    (lines.map (fun l => ((0, l) : Line))).map (renderLine 0 0 0 0) = lines := by
  induction lines with
  | nil => rfl
  | cons l rest ih =>
    rw [List.map_cons, List.map_cons, ih (fun x hx => h x (by simp [hx])),
      renderLine_plain l (printable_plainH l (h l (by simp)))]

theorem spellBs_hembedH (its : List HItem) (hok : ∀ it ∈ its, hblockOK it.block = true) (prev pm : Nat) :
    (spellBs false false prev pm (its.map fun it => hembedBlock it.block)).map (renderLine 0 0 0 0) =
      docLinesH (prev == 0) its := by
  induction its generalizing prev pm with
  | nil => simp [spellBs, docLinesH]
  | cons it rest ih =>
    obtain ⟨g, b⟩ := it
    have hb := hok ⟨g, b⟩ (by simp)
    cases b with
    | base b =>
      have h1 := spellBs_gembed4 [⟨0, b⟩] (by intro x hx; simp only [List.mem_singleton] at hx; subst hx; exact hb) prev pm
      have ih' := ih (fun x hx => hok x (by simp [hx])) (kindOf (gembedBlock b)) 0
      simp only [List.map_cons, List.map_nil] at h1
      rw [List.map_cons, hembedBlock, spellBs_gembed_consH, List.map_append, h1, ih', kindOf_gembedH]
      simp [docLinesG, docLinesH, hblockLines]
    | fcode tilde n info lines =>
      simp only [hblockOK, Bool.and_eq_true, List.all_eq_true] at hb
      have hsep : (if prev == 0 then [] else [blankLine]).map (renderLine 0 0 0 0) =
          (if (prev == 0) = true then [] else [[]]) := by
        by_cases h0 : prev = 0
        · subst h0; simp
        · have : (prev == 0) = false := by simpa using h0
          simp [this, renderLine_blank]
      have ih' := ih (fun x hx => hok x (by simp [hx])) 6 0
      have hfc : ∀ c ∈ List.replicate (n + 3) (fenceChar tilde), c ≠ wsMarkQ ∧ c ≠ wsMarkL ∧ c ≠ wsMarkD := by
        intro c hc
        rw [List.eq_of_mem_replicate hc]
        exact fenceChar_plainH tilde
      have hinfo : ∀ c ∈ info, c ≠ wsMarkQ ∧ c ≠ wsMarkL ∧ c ≠ wsMarkD :=
        fun c hc => (printable_facts c (alnum_factsH c (hb.1 c hc)).2.1).2
      have hopen : renderLine 0 0 0 0 (0, List.replicate (n + 3) (fenceChar tilde) ++ info) =
          List.replicate (n + 3) (fenceChar tilde) ++ info := by
        apply renderLine_plain
        intro c hc
        rcases List.mem_append.mp hc with hc | hc
        · exact hfc c hc
        · exact hinfo c hc
      have hlines : ∀ l ∈ lines, l.all printable = true := by
        intro l hl
        have := hb.2 l hl
        simp only [codeLineOK, Bool.and_eq_true] at this
        exact this.1
      rw [List.map_cons, hembedBlock, spellBs_fcodeH, List.map_append, List.map_append, List.map_append,
        List.map_append, ih', hsep, map_renderLine_plainH lines hlines]
      simp only [List.map_cons, List.map_nil, hopen, renderLine_plain _ hfc, docLinesH, hblockLines]
      rfl

end GM.Proof.CMFrag
end CMFragSpec5

/-
  section CMFragSpec6 — stage 6 (blocks that follow each other without a blank line) in the spec model GM.Spec.CommonMark:
  the `abut` choice of `kembedBlock` does not change the prescribed HTML of a block (`expB_kembedK`), and the source lines
  of one embedded block (`blockLines_kembedK`). The relations of whole stage-6 documents (`expectedK_eq_expected`,
  `spellK_eq_spell`) are instances of the union fragment's (GM.Proof.CMFragStagesBlock).
-/
section CMFragSpec6
namespace GM.Proof.CMFrag
open GM GM.Spec.CM GM.Spec.CMFrag

theorem expB_kembedK (a : Bool) (b : HBlock) :
    expB false false (kembedBlock a b) = expB false false (hembedBlock b) := by
  cases b with
  | base b => cases b <;> simp [kembedBlock, hembedBlock, gembedBlock, expB]
  | fcode tilde n info lines => simp [kembedBlock, hembedBlock, expB]

theorem kfrag_okK (d : KDoc) (h : KFrag d) :
    (∀ it ∈ d.items, hblockOK it.block = true) ∧ ksepsOK none d.items = true := by
  have := h
  simp only [KFrag, kfragB, Bool.and_eq_true, List.all_eq_true] at this
  exact this

theorem blockLines_kembedK (b : HBlock) (hok : hblockOK b = true) :
    (spellBs false false 0 0 [hembedBlock b]).map (renderLine 0 0 0 0) = hblockLines b := by
  have := spellBs_hembedH [⟨0, b⟩] (by intro x hx; simp only [List.mem_singleton] at hx; subst hx; exact hok) 0 0
  simpa [docLinesH] using this

end GM.Proof.CMFrag
end CMFragSpec6

/-
  section CMFragSpecN — nested block quotes in the spec model GM.Spec.CommonMark: the prescribed HTML of `k` nested block
  quotes around any document is the HTML of the document inside `k` `<blockquote>` elements (`expected_nestN`).
  (`quoteLinesN_eq`, the link to the model-side `quotePrefix`, is in GM.Proof.CMFragRender8.)
-/
section CMFragSpecN
namespace GM.Proof.CMFrag
open GM GM.Spec.CM GM.Spec.CMFrag

theorem quoteOpenQ : strBytes "<blockquote>\n" = [60] ++ strBytes "blockquote" ++ [] ++ [62] ++ [10] := by
  decide +kernel

theorem quoteCloseQ : strBytes "</blockquote>\n" = [60, 47] ++ strBytes "blockquote" ++ [62] ++ [10] := by
  decide +kernel

theorem expBs_quote1N (bs : List Block) :
    render (expBs false false [.quote {} false bs]) =
      strBytes "<blockquote>\n" ++ render (expBs false false bs) ++ strBytes "</blockquote>\n" := by
  simp only [expBs, expB, wrap, nl, List.append_nil]
  rw [List.cons_append, List.cons_append]
  simp only [render, List.flatMap_cons, List.flatMap_append, List.flatMap_nil, renderPiece, quoteOpenQ, quoteCloseQ,
    List.append_assoc, List.append_nil]

theorem expBs_nestN (bs : List Block) (k : Nat) :
    render (expBs false false (nestQuote k bs)) = wrapQ k (render (expBs false false bs)) := by
  induction k with
  | zero => rfl
  | succ k ih => rw [nestQuote, expBs_quote1N, ih, wrapQ]

/-- the prescribed HTML of `k` nested block quotes around any spec-model document -/
theorem expected_nestN (e : Doc) (k : Nat) :
    expected { e with blocks := nestQuote k e.blocks } = wrapQ k (expected e) := by
  rw [expected, expectedPieces, expected, expectedPieces]
  exact expBs_nestN e.blocks k

/-- stage 14 with `k = 0` is stage 10 -/
theorem nqembed_zero (d : KDoc) : nqembed 0 d = qembed d := rfl

end GM.Proof.CMFrag
end CMFragSpecN
