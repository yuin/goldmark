/-
  GM.Proof.BlocksTNPNoBar — the source conditions under which the setext heading parser never opens a heading (`SetextListFree`, `SetextFree`, `NoSetextBar`) with the state invariants at line boundaries
  that go with them, and a decidable sufficient condition for `NoSetextBar`.
-/
import GM.Proof.BlocksTNPWin

section BlocksTNPNoBar
/-
  The source conditions under which the setext heading parser never opens a heading, and the state
  invariants at line boundaries that go with them: `SetextListFree` (no trigger byte of the setext heading, list and list item
  parsers), `SetextFree` (no `-`, no `=`), `NoSetextBar` (no line view is a setext heading underline; the bytes `-` and `=` are
  allowed). An underline contains `=` or `-` (`bar_has_trigger`), so `SetextFree src → NoSetextBar src`.
-/

namespace GM.Blocks.L.B
open GM GM.Text GM.Spec GM.Proof.Reader GM.Blocks.T

/-- no view of (the rest of) a line of the source is a setext heading underline -/
def NoSetextBar (src : Bytes) : Prop :=
  ∀ (c : RCur) (ch : UInt8), matchesSetextHeadingBar ((RCur.view src c).getD []) ≠ .ok (ch, true)

/-- the state invariant at line boundaries (cf. `L.StableL`); the temporary paragraph key is unset -/
structure StableLT (src : Bytes) (root : Nat) (s : St) : Prop where
  nodes : NodesOK src s
  keys : KeysOK s
  blocks : ∀ b ∈ s.pc.opened, BlockOK s b
  leafy : Leafy s.pc.opened
  ls : LStore s root
  chain : ChainedO s root s.pc.opened
  endOK : (nd s (lastNode root s.pc.opened)).kind ≠ .list
  tmp : s.pc.tmpPara = none

end GM.Blocks.L.B

namespace GM.Blocks.L.T
open GM GM.Text GM.Spec GM.Proof.Reader GM.Blocks.T

/-- the state invariant at line boundaries (cf. `L.StableL`); the temporary paragraph key is unset -/
structure StableLT (src : Bytes) (root : Nat) (s : St) : Prop where
  nodes : NodesOK src s
  keys : KeysOK s
  blocks : ∀ b ∈ s.pc.opened, BlockOK s b
  leafy : Leafy s.pc.opened
  ls : LStore s root
  chain : ChainedO s root s.pc.opened
  endOK : (nd s (lastNode root s.pc.opened)).kind ≠ .list
  tmp : s.pc.tmpPara = none

end GM.Blocks.L.T

namespace GM.Blocks.L.G
open GM GM.Text GM.Spec GM.Proof.Reader GM.Blocks.T GM.Blocks.TR

/-- the state invariant at line boundaries -/
structure StableG (src : Bytes) (root : Nat) (s : St) : Prop where
  nodes : NodesOK src s
  keys : W.KeysOKF s
  blocks : ∀ b ∈ s.pc.opened, BlockOK s b
  leafy : Leafy s.pc.opened
  ls : LStore s root
  chain : ChainedO s root s.pc.opened
  endOK : (nd s (lastNode root s.pc.opened)).kind ≠ .list
  tl : TL s
  tree : TreeOK s
  leafLast : ∀ lb, s.pc.opened.getLast? = some lb → lb.bp.isContainer = false → ∃ q, LK s lb.node q
  tmplt : ∀ t, s.pc.tmpPara = some t → t < s.nodes.length

end GM.Blocks.L.G

namespace GM.Blocks.T
open GM GM.Text GM.Spec GM.Proof.Reader

/-- no byte of the source triggers `setextHeadingParser` / `listParser` / `listItemParser`: no `-` `=` `*` `+`, no digit -/
def SetextListFree (src : Bytes) : Prop := ∀ b ∈ src, b ≠ 45 ∧ b ≠ 61 ∧ b ≠ 42 ∧ b ≠ 43 ∧ isNumeric b = false

instance (src : Bytes) : Decidable (SetextListFree src) := by unfold SetextListFree; infer_instance

/-- no byte of the source triggers `setextHeadingParser`: no `-`, no `=` -/
def SetextFree (src : Bytes) : Prop := ∀ b ∈ src, b ≠ 45 ∧ b ≠ 61

instance (src : Bytes) : Decidable (SetextFree src) := by unfold SetextFree; infer_instance

/-- a setext heading underline contains `=` or `-` -/
theorem bar_has_trigger (line : Bytes) (ch : UInt8) (h : matchesSetextHeadingBar line = .ok (ch, true)) :
    (61 : UInt8) ∈ line ∨ (45 : UInt8) ∈ line := by
  unfold matchesSetextHeadingBar at h
  simp only [bind, Except.bind, pure, Except.pure] at h
  split at h
  · cases h
  · cases hs : slice line (↑(countLeading 32 line)) (↑line.length) with
    | error x => rw [hs] at h; cases h
    | ok rest =>
      rw [hs] at h
      simp only at h
      have hsub : ∀ b ∈ rest, b ∈ line := by
        intro b hb
        unfold slice sliceB at hs
        split at hs
        · cases hs
          unfold sub at hb
          exact List.mem_of_mem_drop (List.mem_of_mem_take hb)
        · cases hs
      cases hi : idx line ((line.length : Int) - 1) with
      | error x => rw [hi] at h; cases h
      | ok last =>
        rw [hi] at h
        simp only at h
        have mem0 : ∀ c : UInt8, 0 < countLeading c rest → c ∈ line := fun c hc =>
          hsub c (List.mem_of_getElem? (countLeading_pos_head c rest hc))
        by_cases h1 : 0 < countLeading 61 rest
        · exact .inl (mem0 61 h1)
        · by_cases h2 : 0 < countLeading 45 rest
          · exact .inr (mem0 45 h2)
          · exfalso
            have e1 : countLeading 61 rest = 0 := by omega
            have e2 : countLeading 45 rest = 0 := by omega
            simp [e1, e2] at h

theorem noBar_of_setextFree (src : Bytes) (h : SetextFree src) : L.B.NoSetextBar src := by
  intro c ch hm
  rcases bar_has_trigger _ ch hm with hx | hx
  · rcases mem_view_src hx with h1 | h1
    · exact (h 61 h1).2 rfl
    · exact absurd h1 (by decide)
  · rcases mem_view_src hx with h1 | h1
    · exact (h 45 h1).1 rfl
    · exact absurd h1 (by decide)

end GM.Blocks.T
end BlocksTNPNoBar

section BlocksTNPNoBarDec
/-
  A DECIDABLE sufficient condition for the source class `NoSetextBar` of
  `runT_total_noBar`: it is enough to test the views from every byte offset with the paddings 0..3 (a view with more
  than 3 leading spaces is never a setext underline: setext_headings.go:17-19).
-/

namespace GM.Blocks.T
open GM GM.Text GM.Spec GM.Proof.Reader

/-- no view of the source from a byte offset `p`, with a virtual padding of 0..3 spaces, is a setext heading underline -/
def noBarB (src : Bytes) : Bool :=
  (List.range src.length).all fun p => (List.range 4).all fun pad =>
    match matchesSetextHeadingBar (spaces pad ++ sub src p (lineEnd src p)) with
    | .ok (_, true) => false
    | _ => true

theorem countLeading_spaces (n : Nat) (l : Bytes) : n ≤ countLeading 32 (spaces n ++ l) := by
  induction n with
  | zero => exact Nat.zero_le _
  | succ n ih =>
    have e : spaces (n + 1) ++ l = 32 :: (spaces n ++ l) := by simp [spaces, List.replicate_succ]
    rw [e]
    simp only [countLeading, List.takeWhile_cons, beq_self_eq_true, if_true, List.length_cons] at ih ⊢
    omega

theorem bar_pad_gt3 (n : Nat) (hn : 3 < n) (l : Bytes) (ch : UInt8) :
    matchesSetextHeadingBar (spaces n ++ l) ≠ .ok (ch, true) := by
  have h := countLeading_spaces n l
  have hc : ((countLeading 32 (spaces n ++ l) : Nat) : Int) > 3 := by omega
  unfold matchesSetextHeadingBar
  simp only [hc, if_true, pure, Except.pure, bind, Except.bind]
  intro he
  cases he

theorem bar_nil (ch : UInt8) : matchesSetextHeadingBar [] ≠ .ok (ch, true) := by
  have : matchesSetextHeadingBar [] = .error .index := by
    simp [matchesSetextHeadingBar, countLeading, slice, sliceB, sub, idx, getByte, bind, Except.bind, pure, Except.pure]
  rw [this]; intro he; cases he

theorem noBarB_sound {src : Bytes} (h : noBarB src = true) : L.B.NoSetextBar src := by
  intro c ch
  by_cases hp : c.p < src.length
  · rw [view_eq src c hp]
    simp only [Option.getD_some]
    by_cases h3 : 3 < c.pad
    · exact bar_pad_gt3 c.pad h3 _ ch
    · simp only [noBarB, List.all_eq_true, List.mem_range] at h
      have := h c.p hp c.pad (by omega)
      intro he
      rw [he] at this
      simp at this
  · rw [view_none src c hp]
    exact bar_nil ch

end GM.Blocks.T
end BlocksTNPNoBarDec
