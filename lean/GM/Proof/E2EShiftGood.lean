/-
  GM.Proof.E2EShiftGood — the named hypothesis of GM.Proof.E2EShift (`InlineMoveStep`) PROVED for blocks of good lines
  (`GoodLine` of GM.Proof.CMFragDefs), for any source of the form `P ++ src ++ S`; with it `convert_joined_good`: C09 first half at HTML level for
  an empty `A`, plain-text inline content, without hypothesis about the inline phase.
-/
import GM.Proof.E2EShift
import GM.Proof.E2EQuoteGood

namespace GM.E2E.Shift
open GM GM.Text GM.Convert GM.Blocks GM.Blocks.Sh GM.Proof.CMFrag
open GM.E2E.Quote (GoodBlocks)
open GM.Proof.InlinesReader (WF0)

theorem sub_right (src S : Bytes) (x y : Nat) (hy : y ≤ src.length) : sub (src ++ S) x y = sub src x y := by
  unfold sub
  by_cases hx : x ≤ y
  · rw [List.drop_append_of_le_length (by omega), List.take_append_of_le_length (by simp; omega)]
  · have : y - x = 0 := by omega
    rw [this]; rfl

theorem sub_mid (P src S : Bytes) (x y : Nat) (hy : y ≤ src.length) :
    sub (P ++ src ++ S) (x + P.length) (y + P.length) = sub src x y := by
  rw [List.append_assoc, GM.Blocks.Sh.sub_shift, sub_right _ _ _ _ hy]

theorem linesAtG_bound {src : Bytes} : ∀ (ps : List Nat) (ls : List Bytes) (p : Nat) (l : Bytes),
    LinesAtG src (p :: ps) (l :: ls) → p + l.length ≤ src.length
  | [], [], _, _, h => h.2
  | [], _ :: _, _, _, h => by simp [LinesAtG] at h
  | _ :: _, [], _, _, h => by simp [LinesAtG] at h
  | p' :: ps, l' :: ls, p, l, h => by
    have := linesAtG_bound ps ls p' l' h.2.2
    have := h.2.1
    omega

theorem linesAtG_mid (P src S : Bytes) : ∀ (ps : List Nat) (ls : List Bytes), LinesAtG src ps ls →
    LinesAtG (P ++ src ++ S) (ps.map (· + P.length)) ls
  | [], [], _ => trivial
  | [], _ :: _, h => by simp [LinesAtG] at h
  | _ :: _, [], h => by simp [LinesAtG] at h
  | [_], _ :: _ :: _, h => by simp [LinesAtG] at h
  | _ :: _ :: _, [_], h => by simp [LinesAtG] at h
  | [p], [l], h => by
    refine ⟨?_, ?_⟩
    · have e : p + P.length + l.length = p + l.length + P.length := by omega
      rw [e, sub_mid _ _ _ _ _ h.2]; exact h.1
    · simp only [List.length_append]; have := h.2; omega
  | p :: p' :: ps, l :: l' :: rest, h => by
    have hb := linesAtG_bound ps rest p' l' h.2.2
    refine ⟨?_, ?_, linesAtG_mid P src S (p' :: ps) (l' :: rest) h.2.2⟩
    · have e : p + P.length + l.length + 1 = p + l.length + 1 + P.length := by omega
      rw [e, sub_mid _ _ _ _ _ (by have := h.2.1; omega)]; exact h.1
    · have := h.2.1
      show p + P.length + l.length + 1 ≤ p' + P.length
      omega

theorem paraSegsG_move (d : Nat) {src : Bytes} : ∀ (ps : List Nat) (ls : List Bytes), LinesAtG src ps ls →
    (paraSegsG ps ls).map (moveSeg (d : Int)) = paraSegsG (ps.map (· + d)) ls
  | [], [], _ => rfl
  | [], _ :: _, h => by simp [LinesAtG] at h
  | _ :: _, [], h => by simp [LinesAtG] at h
  | [_], _ :: _ :: _, h => by simp [LinesAtG] at h
  | _ :: _ :: _, [_], h => by simp [LinesAtG] at h
  | [p], [l], _ => by
    simp only [paraSegsG, List.map, moveSeg, List.cons.injEq, and_true, Segment.mk.injEq]
    refine ⟨by omega, by omega⟩
  | p :: p' :: ps, l :: l' :: rest, h => by
    have ih := paraSegsG_move d (p' :: ps) (l' :: rest) h.2.2
    show moveSeg (d : Int) { start := (p : Int), stop := (p : Int) + (l.length : Int) + 1 } ::
        (paraSegsG (p' :: ps) (l' :: rest)).map (moveSeg (d : Int)) =
      { start := ((p + d : Nat) : Int), stop := ((p + d : Nat) : Int) + (l.length : Int) + 1 } ::
        paraSegsG ((p' :: ps).map (· + d)) (l' :: rest)
    rw [ih]
    congr 1
    simp only [moveSeg, Segment.mk.injEq, and_true]
    refine ⟨by omega, by omega⟩

theorem inlineMoveStep_good (P src S : Bytes) (ps : List Nat) (ls : List Bytes) (hne : ls ≠ [])
    (hg : ∀ l ∈ ls, GoodLine l) (hA : LinesAtG src ps ls) :
    InlineMoveStep src (P ++ src ++ S) (P.length : Int) (paraSegsG ps ls) := by
  intro env env' _ hes hes' _ _ kids hk
  have hB := linesAtG_mid P src S ps ls hA
  rw [parseBlock_linesG env hes src ps ls hne hg hA] at hk
  cases hk
  rw [paraSegsG_move P.length ps ls hA]
  exact ⟨_, parseBlock_linesG env' hes' _ _ ls hne hg hB, by
    rw [inlineTrees_linesG _ ls hB, inlineTrees_linesG ps ls hA]⟩

theorem inlineMoveStep_nil (src src' : Bytes) (d : Int) : InlineMoveStep src src' d [] := by
  intro env env' _ _ _ hwf
  exact absurd rfl hwf.1.1

theorem inlineMoveStep_of_goodBlocks (P src S : Bytes) (s : St) (hg : GoodBlocks src s) (j : Nat)
    (h1 : isRawKind (s.nodes.getD j default).kind = false) :
    InlineMoveStep src (P ++ src ++ S) (P.length : Int) (s.nodes.getD j default).lines := by
  by_cases h2 : (s.nodes.getD j default).lines = []
  · rw [h2]; exact inlineMoveStep_nil _ _ _
  · obtain ⟨ps, ls, e, hne, hgl, hat⟩ := hg j h1 h2
    rw [e]
    exact inlineMoveStep_good P src S ps ls hne hgl hat

theorem docB_mid (h b : Bytes) : docB h b = [10] ++ hlB h ++ (10 :: b) := by simp [docB, hlB]

/-- **C09 first half at HTML level, empty `A`, plain-text inline content** — no hypothesis about the inline phase -/
theorem convert_joined_good (uc : List (Nat × (Bool × Bool))) (o : ROpts) (h b : Bytes) (hh : ∀ c ∈ h, c ≠ 10)
    (hbh : NoBracket h) (hbb : NoBracket b)
    (hgh : ∀ sh, GM.Blocks.run (hlB h) = .ok sh → GoodBlocks (hlB h) sh)
    (hgb : ∀ sb, GM.Blocks.run b = .ok sb → GoodBlocks b sb)
    (htmlH htmlB : Bytes) (h1 : convertCore uc o (hlB h) = .ok htmlH) (h2 : convertCore uc o b = .ok htmlB) :
    convertCore uc o (docB h b) = .ok (htmlH ++ htmlB) := by
  refine convert_joined uc o h b hh hbh hbb (fun sh hsh => ?_) (fun sb hsb j hr _ => ?_) htmlH htmlB h1 h2
  · obtain ⟨n0, hn0, hnh⟩ := run_heading_line hh sh hsh
    obtain ⟨hk0, _, _, _⟩ := atxNodeOf_shape hn0
    have hk1 : (sh.nodes.getD 1 default).kind = .heading := by rw [hnh]; exact hk0
    have := inlineMoveStep_of_goodBlocks [10] (hlB h) (10 :: b) sh (hgh sh hsh) 1 (by rw [hk1]; rfl)
    rw [← docB_mid] at this
    exact this
  · have := inlineMoveStep_of_goodBlocks (pre h) b [] sb (hgb sb hsb) j hr
    rw [List.append_nil, ← docB_pre] at this
    exact this

end GM.E2E.Shift
