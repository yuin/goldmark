/-
  GM.Proof.CMFrag4 — stage 4 (ATX headings and thematic breaks between the paragraphs): the block phase on a thematic break
  line and on an ATX heading line (ended by a line feed or by the end of the source) whatever is open, a blank line / the
  end of the source behind a leaf block that closes at once (ATX heading, thematic break); the blocks `RawBlock`, their
  source lines, their closed block-phase nodes, what the phases need of them (`Good4`, `Good4'`), and the blocks of the
  fragment `GM.Spec.CMFrag.GDoc` as such blocks.
-/
import GM.Proof.CMFrag4Defs
import GM.Proof.CMFragBlockPhase
import GM.Proof.CMFragDoc
import GM.Proof.CMFragRender
import GM.Proof.CMFragSpec

section CMFrag4Hr
namespace GM.Proof.CMFrag
open GM GM.Text GM.Blocks GM.Spec

/-- the characters of a thematic break -/
def hrChar (ch : UInt8) : Prop := ch = 42 ∨ ch = 45 ∨ ch = 95

/-- what ends the last line of a block: a line feed, or nothing at the end of a source without final line feed -/
def LineTail (tl : Bytes) : Prop := tl = [] ∨ tl = [10]

theorem hrChar_facts {ch : UInt8} (hch : hrChar ch) :
    (ch == 32) = false ∧ (ch == 9) = false ∧ (ch == 10) = false ∧ (ch == 0) = false ∧ isSpace ch = false ∧
      (ch == 42 || ch == 45 || ch == 95) = true := by
  rcases hch with h | h | h <;> subst h <;> decide

theorem tbLoop_run (ch : UInt8) (hch : hrChar ch) (tl : Bytes) (htl : LineTail tl) : ∀ (m cnt : Nat),
    tbLoop (List.replicate m ch ++ tl) ch cnt = decide (cnt + m > 2)
  | 0, cnt => by
    have h10 : isSpace 10 = true := by decide
    rcases htl with h | h <;> subst h <;> simp [tbLoop, h10]
  | m + 1, cnt => by
    have ih := tbLoop_run ch hch tl htl m (cnt + 1)
    obtain ⟨_, _, _, h0, hsp, _⟩ := hrChar_facts hch
    simp only [List.replicate_succ, List.cons_append, tbLoop, hsp, h0, Bool.false_eq_true, if_false, bne_self_eq_false, ih]
    congr 1
    simp only [eq_iff_iff]; omega

theorem indentWidth_hr {ch : UInt8} (hch : hrChar ch) (n : Nat) (tl : Bytes) :
    indentWidthI (List.replicate (n + 1) ch ++ tl) 0 = (0, 0) := by
  obtain ⟨h32, h9, _⟩ := hrChar_facts hch
  simp only [List.replicate_succ, List.cons_append]
  unfold GM.Blocks.indentWidthI GM.Blocks.indentWidthGo; simp [h32, h9]

theorem isThematic_hr (ch : UInt8) (hch : hrChar ch) (n : Nat) (tl : Bytes) (htl : LineTail tl) :
    isThematicBreak (List.replicate (n + 3) ch ++ tl) 0 = true := by
  obtain ⟨_, _, _, _, hs, hset⟩ := hrChar_facts hch
  unfold isThematicBreak
  simp only [indentWidth_hr hch (n + 2) tl]
  have e : (List.replicate (n + 3) ch ++ tl).drop (0 : Int).toNat = ch :: (List.replicate (n + 2) ch ++ tl) := by
    simp [List.replicate_succ]
  rw [e]
  have := tbLoop_run ch hch tl htl (n + 2) 1
  simp only [tbLoop, hs, hset, Bool.false_eq_true, if_false, beq_self_eq_true, if_true, this]
  simp; omega

section hr
variable {src : Bytes} {p e : Nat} {v : Bytes}

/-- thematicBreakParser.Open on a thematic break line (already peeked) -/
theorem thematicOpen_hr (hl : Ln src p e v) (ch : UInt8) (hch : hrChar ch) (n : Nat) (tl : Bytes) (htl : LineTail tl)
    (hv : v = List.replicate (n + 3) ch ++ tl) (k : Int) (nodes pc) (parent : Nat) :
    thematicOpen parent ⟨rdr src k p p e (some v) 0, nodes, pc⟩ =
      .ok ((some nodes.length, stNoChildren),
        ⟨rdr src k p (e - 1) e none (-1), nodes ++ [{ kind := .thematicBreak }], pc⟩) := by
  have hp : p < src.length := by have := hl.le; have := hl.lt; omega
  have hth : isThematicBreak v 0 = true := by rw [hv]; exact isThematic_hr ch hch n tl htl
  unfold thematicOpen
  simp only [bind_apply, peekLine_cached hp, lineOffset_cached, Option.getD_some, hth, if_true]
  have hlen := hl.len
  have hlt := hl.lt
  rw [stAdvance_fast (m := e - p - 1) (by simp [Segment.len, sg]; omega) (by omega)]
  have e3 : p + (e - p - 1) = e - 1 := by omega
  simp [bind_apply, newNode_run, pure_apply, e3]

/-- setextHeadingParser.Open declines unless the last opened block is a paragraph -/
theorem setextOpen_decline (parent : Nat) (s : St)
    (h : ∀ l, s.pc.opened.getLast? = some l → ((s.nodes.getD l.node default).kind == .paragraph) = false) :
    setextOpen parent s = .ok ((none, stNoChildren), s) := by
  unfold setextOpen
  simp only [bind_apply, lastOpenedBlock_run]
  cases hl : s.pc.opened.getLast? with
  | none => rfl
  | some l =>
    have hk : ((s.nodes.getD l.node default).kind != .paragraph) = true := by
      have := h l hl
      simp only [bne, this, Bool.not_false]
    simp only [bind_apply, getNode_run, hk, Bool.true_or, if_true, pure_apply]

/-- the parser loop on a thematic break line, whatever is open (a `-` line under an open paragraph would be a setext
    underline) -/
theorem try_hr (hl : Ln src p e v) (ch : UInt8) (hch : hrChar ch) (n : Nat) (tl : Bytes) (htl : LineTail tl)
    (hv : v = List.replicate (n + 3) ch ++ tl) (pts : List PT) (k : Int) (d : Blocks.Node) (rest : List Blocks.Node)
    (pc : Ctx) (hprev : PrevKept (d :: rest) pc) (cont : Bool)
    (hsetext : ch = 45 → ∀ l, pc.opened.getLast? = some l → (((d :: rest).getD l.node default).kind == .paragraph) = false)
    (blank : Bool) (lb : Option Block) :
    tryParsersT pts 0 blank cont 0 ((triggered ch).getD freeParsers) .noBlocksOpened lb
        ⟨rdr src k p p e (some v) 0, d :: rest, pc⟩ =
      .ok ((.done, .newBlocksOpened, pc.opened.getLast?),
        ⟨rdr src k p (e - 1) e none (-1),
          { d with children := d.children ++ [rest.length + 1] } :: (rest ++ [hrN blank]),
          { pc with opened := pc.opened ++ [{ node := rest.length + 1, bp := .thematic }] }⟩) := by
  have fin : ∀ bps lb, tryParsersT pts 0 blank cont 0 (.thematic :: bps) .noBlocksOpened lb
        ⟨rdr src k p p e (some v) 0, d :: rest, pc⟩ =
      .ok ((.done, .newBlocksOpened, pc.opened.getLast?),
        ⟨rdr src k p (e - 1) e none (-1),
          { d with children := d.children ++ [rest.length + 1] } :: (rest ++ [hrN blank]),
          { pc with opened := pc.opened ++ [{ node := rest.length + 1, bp := .thematic }] }⟩) := fun bps lb =>
    tryParsersT_hit (bp := .thematic) (Or.inr rfl) (Or.inl (by decide))
      (thematicOpen_hr hl ch hch n tl htl hv k (d :: rest) pc 0) rfl rfl rfl hprev
  rcases hch with h | h | h <;> subst h
  · exact fin _ _
  · have ht : (triggered 45).getD freeParsers = [.setext, .thematic, .list, .listItem, .code, .paragraph] := by decide
    rw [ht, tryParsersT_skip (bp := .setext) (Or.inr rfl) (Or.inl (by decide)) (setextOpen_decline 0 _ (hsetext rfl))]
    exact fin _ _
  · exact fin _ _

end hr

/-- parsers whose `Continue` answers Close and whose `Close` does nothing: ATX heading, thematic break -/
def closingBP (bp : BP) : Prop := bp = .atx ∨ bp = .thematic

section leaf
variable {src : Bytes}

theorem closeBlocks_leaf (bp : BP) (hbp : closingBP bp) (r : Reader) (d : Blocks.Node) (rest : List Blocks.Node)
    (x : Blocks.Node) (hk : x.kind ≠ .paragraph) (hpar : x.parent = some 0) (pc : Ctx)
    (hop : pc.opened = [{ node := rest.length + 1, bp := bp }]) :
    closeBlocksT pts 0 0 ⟨r, d :: (rest ++ [x]), pc⟩ = .ok ((), ⟨r, d :: (rest ++ [x]), { pc with opened := [] }⟩) := by
  have hc : bpClose bp (rest.length + 1) ⟨r, d :: (rest ++ [x]), pc⟩ = .ok ((), ⟨r, d :: (rest ++ [x]), pc⟩) := by
    rcases hbp with h | h <;> subst h <;> rfl
  exact closeBlocks_first r _ pc { node := rest.length + 1, bp := bp } [] hop 0 (by rw [getD_last]; exact hpar)
    (fun h => absurd (by rw [getD_last] at h; exact h) hk) _ hc

theorem lineLoop_leaf_eof (bp : BP) (hbp : closingBP bp) (k : Int) (e : Nat) (d : Blocks.Node) (rest : List Blocks.Node)
    (x : Blocks.Node) (hk : x.kind ≠ .paragraph) (hpar : x.parent = some 0) (pc : Ctx)
    (hop : pc.opened = [{ node := rest.length + 1, bp := bp }]) (bl : List LineStat) :
    lineLoopT pts 0 [{ node := rest.length + 1, bp := bp }] 0 [{ node := rest.length + 1, bp := bp }] 0 bl
        ⟨rdr src k src.length src.length e none (-1), d :: (rest ++ [x]), pc⟩ =
      .ok ((.eof, bl), ⟨rdr src (k + 1) e e (lineEnd src e) none (-1), d :: (rest ++ [x]), { pc with opened := [] }⟩) := by
  rw [lineLoopT]
  simp only [bind_apply, peekLine_eof (Nat.le_refl _), closeBlocks_leaf bp hbp _ d rest x hk hpar pc hop,
    advanceLine_run, pure_apply]

theorem lineLoop_leaf_blank (bp : BP) (hbp : closingBP bp) {q : Nat} (hl : Ln src q (q + 1) [10]) (k : Int)
    (d : Blocks.Node) (rest : List Blocks.Node) (x : Blocks.Node) (hk : x.kind ≠ .paragraph) (hpar : x.parent = some 0)
    (pc : Ctx) (hop : pc.opened = [{ node := rest.length + 1, bp := bp }]) (bl : List LineStat) :
    lineLoopT pts 0 [{ node := rest.length + 1, bp := bp }] 0 [{ node := rest.length + 1, bp := bp }] 0 bl
        ⟨rdr src k q q (q + 1) none (-1), d :: (rest ++ [x]), pc⟩ =
      .ok ((.next, bl ++ [{ lineNum := k, level := 0, isBlank := true }]),
        ⟨rdr src k q q (q + 1) (some [10]) 0, d :: (rest ++ [x]),
          { pc with blockOffset := 0, blockIndent := 0, opened := [] }⟩) := by
  have hp : q < src.length := by have := hl.le; omega
  have hk' : (x.kind == .paragraph) = false := by simp [hk]
  have hk'' : (x.kind != .paragraph) = true := by simp [hk]
  have hcont : ∀ s : St, bpContinue bp (rest.length + 1) s = .ok (stClose, s) := by
    intro s; rcases hbp with h | h <;> subst h <;> rfl
  have hob : openBlocksT pts 0 (isBlankLine (k - 1) 0 (bl ++ [{ lineNum := k, level := 0, isBlank := true }]))
      ⟨rdr src k q q (q + 1) (some [10]) (-1), d :: (rest ++ [x]), pc⟩ =
      .ok (.noBlocksOpened, ⟨rdr src k q q (q + 1) (some [10]) 0, d :: (rest ++ [x]),
        { pc with blockOffset := 0, blockIndent := 0 }⟩) := by
    unfold openBlocksT
    simp only [bind_apply, lastOpenedBlock_run, hop, List.getLast?_singleton, pure_apply, source_run, retryFuel,
      getNode_run, getD_last, hk']
    rw [openBlocksLoopT]
    have hiw : indentWidthI [10] 0 = (0, 0) := by decide
    simp only [bind_apply, peekLine_cached hp, Option.getD_some, lineOffset_fresh, hiw]
    have hidx : idx [10] 0 = .ok 10 := rfl
    simp [modPc_run, bind_apply, hidx, liftE_ok, toContinuable, pure_apply, hop]
  rw [lineLoopT]
  simp only [bind_apply, peekLine_fresh hl.sub hp (Nat.le_succ _) hl.le, position_run, getNode_run, getD_last, hk'',
    if_true, hcont, stClose]
  have hib : isBlank [10] = true := by decide
  simp [liftE_ok, hib, rdr_line, hob, pure_apply, getPc_run, hop, slotAfter, bind_apply, map_apply, blockAt]
  rw [closeBlocks_leaf bp hbp _ d rest x hk hpar
    { pc with blockOffset := 0, blockIndent := 0, opened := [{ node := rest.length + 1, bp := bp }] } rfl]

/-- the per-line loop behind a leaf block: the next line is blank or the source ends -/
theorem linesLoop_leaf (bp : BP) (hbp : closingBP bp) (d : Blocks.Node) (rest : List Blocks.Node) (x : Blocks.Node)
    (hk : x.kind ≠ .paragraph) (hpar : x.parent = some 0) (q : Nat) (k : Int) (fuel : Nat) (bl : List LineStat)
    (pc : Ctx) (haft : After src q) (hf : 2 ≤ fuel) (hop : pc.opened = [{ node := rest.length + 1, bp := bp }]) :
    ∃ ret bl' s',
      linesLoopT pts 0 fuel bl ⟨rdr src k q q (lineEnd src q) none (-1), d :: (rest ++ [x]), pc⟩ = .ok ((ret, bl'), s') ∧
        s'.nodes = d :: (rest ++ [x]) ∧ s'.pc.opened = [] ∧ s'.pc.refs = pc.refs ∧
        ((ret = true ∧ q = src.length) ∨
         (ret = false ∧ Ln src q (q + 1) [10] ∧
            ∃ k', s'.r = rdr src k' (q + 1) (q + 1) (lineEnd src (q + 1)) none (-1))) := by
  obtain ⟨f, rfl⟩ : ∃ f, fuel = f + 1 + 1 := ⟨fuel - 2, by omega⟩
  rcases haft with hq | hl
  · refine ⟨true, bl, ⟨rdr src (k + 1) (lineEnd src src.length) (lineEnd src src.length)
        (lineEnd src (lineEnd src src.length)) none (-1), d :: (rest ++ [x]), { pc with opened := [] }⟩,
      ?_, rfl, rfl, rfl, Or.inl ⟨rfl, hq⟩⟩
    rw [hq]
    exact pass_eof k _ pc _ hop bl bl (f + 1) _ (lineLoop_leaf_eof bp hbp k _ d rest x hk hpar pc hop bl)
  · refine ⟨false, bl ++ [{ lineNum := k, level := 0, isBlank := true }],
      ⟨rdr src (k + 1) (q + 1) (q + 1) (lineEnd src (q + 1)) none (-1), d :: (rest ++ [x]),
        { pc with blockOffset := 0, blockIndent := 0, opened := [] }⟩, ?_, rfl, rfl, rfl, Or.inr ⟨rfl, hl, k + 1, rfl⟩⟩
    rw [pass_next hl k _ _ pc _ _ hop bl _ _ _ (f + 1) (lineLoop_leaf_blank bp hbp hl k d rest x hk hpar pc hop bl)]
    exact linesLoop_done f _ _ _ _ rfl
end leaf

end GM.Proof.CMFrag
end CMFrag4Hr

/-
  section CMFrag4Atx — the block phase on one ATX heading line `#…# text` (ended by a line feed or by the end of the
  source), as an equation on explicit states: whatever is open, atxHeadingParser.Open opens a Heading of that level
  whose single line segment is the text; the reader is not advanced (the peeked line and LineOffset stay cached).
-/
section CMFrag4Atx
namespace GM.Proof.CMFrag
open GM GM.Text GM.Blocks

theorem countLeading_atx (level : Nat) (t : Bytes) :
    countLeading 35 (List.replicate level 35 ++ 32 :: t) = level := by
  induction level with
  | zero => simp [countLeading]
  | succ n ih =>
    simp only [countLeading] at ih ⊢
    simp [List.replicate_succ, List.takeWhile]

theorem scan_atx (level : Nat) (t : Bytes) :
    scanWhileEq (List.replicate level 35 ++ 32 :: t) 35 0 = (level : Int) := by
  simp [scanWhileEq, countLeading_atx]

theorem sliceFrom_atx (level : Nat) (t : Bytes) :
    sliceFrom (List.replicate level 35 ++ 32 :: t) (level : Int) = .ok (32 :: t) := by
  have c : (0 : Int) ≤ (level : Int) ∧ (level : Int) ≤ ((List.replicate level 35 ++ 32 :: t).length : Int) := by
    simp; omega
  unfold sliceFrom
  rw [if_pos c]
  simp

theorem idx_atx (pre : Bytes) (c : UInt8) (post : Bytes) (n : Nat) (hn : n = pre.length) :
    idx (pre ++ c :: post) (n : Int) = .ok c := by
  subst hn
  simp [idx, getByte]

section atx
variable {src : Bytes} {p e : Nat} {v : Bytes}

/-- atxHeadingParser.Open at the start of `#…# text` (already peeked, BlockOffset 0); `tl` ends the line -/
theorem atxOpen_atx (hl : Ln src p e v) (level : Nat) (l tl : Bytes) (htl : LineTail tl)
    (hv : v = List.replicate level 35 ++ 32 :: (l ++ tl)) (h1 : 1 ≤ level) (h6 : level ≤ 6)
    (hb : BlkLine l) (hlast : ∀ c, l.getLast? = some c → c ≠ 35) (k : Int) (nodes : List Blocks.Node) (pc : Ctx)
    (hoff : pc.blockOffset = 0) (parent : Nat) :
    atxOpen parent ⟨rdr src k p p e (some v) 0, nodes, pc⟩ =
      .ok ((some nodes.length, stNoChildren),
        ⟨rdr src k p p e (some v) 0,
          nodes ++ [{ kind := .heading, level := (level : Int), lines := [sg (p + level + 1) (e - tl.length)],
                      linesNil := false }],
          pc⟩) := by
  obtain ⟨c, t, hlc, hc⟩ := hb.first
  obtain ⟨h32, h9, h10, hsp, htr, hbr⟩ := letter_facts c hc
  have hp : p < src.length := by have := hl.le; have := hl.lt; omega
  have hscan := scan_atx level (l ++ tl)
  have hsl := sliceFrom_atx level (l ++ tl)
  rw [← hv] at hscan hsl
  have hvl : v.length = level + 1 + l.length + tl.length := by rw [hv]; simp; omega
  have htl1 : tl.length ≤ 1 := by rcases htl with h | h <;> subst h <;> simp
  unfold atxOpen
  simp only [bind_apply, peekLine_cached hp, getPc_run, hoff, Option.getD_some, hscan]
  have c0 : ¬ ((0 : Int) < 0) := by omega
  have c1 : (((level : Int) == 0) || decide ((level : Int) - 0 > 6)) = false := by
    simp; omega
  have c2 : ((level : Int) == (v.length : Int)) = false := by
    simp; omega
  have hs32 : isSpace 32 = true := by decide
  have hs10 : isSpace 10 = true := by decide
  have htll : trimLeftSpaceLength (32 :: (l ++ tl)) = 1 := by
    subst hlc
    simp [trimLeftSpaceLength, List.takeWhile, hsp, hs32]
  have hne : l ≠ [] := by rw [hlc]; simp
  have hlastsp : isSpace (l.getLast hne) = false := hb.lastNoSpace _ (List.getLast?_eq_some_getLast hne)
  have hlast35 : l.getLast hne ≠ 35 := hlast _ (List.getLast?_eq_some_getLast hne)
  have hrev : l.reverse = l.getLast hne :: l.dropLast.reverse := by
    conv => lhs; rw [← List.dropLast_concat_getLast hne]
    simp
  have htrr : trimRightSpaceLength v = tl.length := by
    rw [hv]
    unfold trimRightSpaceLength
    rcases htl with h | h <;> subst h <;> simp [List.takeWhile, hs10, hrev, hlastsp]
  have e1 : ((1 : Nat) : Int) = 1 := rfl
  have hll : 1 ≤ l.length := by rw [hlc]; simp
  have hstop0 : (v.length : Int) - (tl.length : Int) = ((level + l.length + 1 : Nat) : Int) := by omega
  have cs : ¬ ((level : Int) + 1 ≥ (v.length : Int)) := by omega
  have cs2 : ¬ (((level + l.length + 1 : Nat) : Int) ≤ (level : Int) + 1) := by omega
  have c3 : (((1 : Int) == 0) = true) = False := by simp
  simp only [c0, if_false, c1, Bool.false_eq_true, c2, bind_apply, hsl, liftE_ok, htll]
  simp only [e1, htrr, hstop0, cs, if_false, cs2, Int.toNat_natCast, c3, bind_apply, newNode_run]
  have hidx : idx v ((level + l.length : Nat) : Int) = .ok (l.getLast hne) := by
    have ev : v = (List.replicate level 35 ++ 32 :: l.dropLast) ++ l.getLast hne :: tl := by
      rw [hv]
      conv => lhs; rw [← List.dropLast_concat_getLast hne]
      simp
    rw [ev]
    apply idx_atx
    simp; omega
  have h35 : (l.getLast hne == 35) = false := by simp [hlast35]
  have hback : atxBackLoop v ((level : Int) + 1) (level + l.length + 1) = .ok ((level + l.length : Nat) : Int) := by
    rw [atxBackLoop]
    simp only [hidx, bind, Except.bind, h35, Bool.false_and, Bool.false_eq_true, if_false, pure, Except.pure]
  have cne : ((((level + l.length : Nat) : Int) != ((level + l.length + 1 : Nat) : Int) - 1) && !isSpace (l.getLast hne)) =
      false := by
    have : (((level + l.length : Nat) : Int) != ((level + l.length + 1 : Nat) : Int) - 1) = false := by
      rw [bne_eq_false_iff_eq]; omega
    rw [this]; rfl
  have hslice : slice v ((level : Int) + 1) (((level + l.length : Nat) : Int) + 1) = .ok l := by
    have c : (0 ≤ (level : Int) + 1 ∧ (level : Int) + 1 ≤ ((level + l.length : Nat) : Int) + 1 ∧
        ((level + l.length : Nat) : Int) + 1 ≤ (v.length : Int)) := by omega
    unfold slice sliceB
    rw [if_pos c]
    have ev : v = (List.replicate level 35 ++ [32]) ++ (l ++ tl) := by rw [hv]; simp
    have t1 : ((level : Int) + 1).toNat = (List.replicate level (35 : UInt8) ++ [32]).length := by simp
    have t2 : (((level + l.length : Nat) : Int) + 1).toNat = (List.replicate level (35 : UInt8) ++ [32]).length + l.length := by
      simp; omega
    rw [t1, t2, ev, sub_body]
  have hdw : ((List.dropWhile (fun x => x == 35) l.reverse).length != 0) = true := by
    rw [hrev]; simp [List.dropWhile, h35]
  simp only [hback, liftE_ok, hidx, pure_apply, cne, Bool.false_eq_true, if_false, hslice, hdw, if_true, bind_apply,
    appendLine, modNode_run]
  have hseg : Segment.mk ((sg p e).start + ((level : Int) + 1) - (sg p e).padding)
        ((sg p e).start + (((level + l.length : Nat) : Int) + 1) - (sg p e).padding) 0 false =
      sg (p + level + 1) (e - tl.length) := by
    have := hl.len; have := hl.lt
    simp only [sg, Segment.mk.injEq, and_true]
    omega
  rw [hseg]
  simp [List.getD, List.set_append_right]

/-- the parser loop on an ATX heading line, whatever is open: a Heading is opened below the Document -/
theorem try_atx (hl : Ln src p e v) (level : Nat) (l tl : Bytes) (htl : LineTail tl)
    (hv : v = List.replicate level 35 ++ 32 :: (l ++ tl)) (h1 : 1 ≤ level) (h6 : level ≤ 6)
    (hb : BlkLine l) (hlast : ∀ c, l.getLast? = some c → c ≠ 35) (pts : List PT) (k : Int)
    (d : Blocks.Node) (rest : List Blocks.Node) (pc : Ctx) (hprev : PrevKept (d :: rest) pc) (hoff : pc.blockOffset = 0)
    (cont blank : Bool) (lb : Option Block) :
    tryParsersT pts 0 blank cont 0 [.atx, .code, .paragraph] .noBlocksOpened lb
        ⟨rdr src k p p e (some v) 0, d :: rest, pc⟩ =
      .ok ((.done, .newBlocksOpened, pc.opened.getLast?),
        ⟨rdr src k p p e (some v) 0,
          { d with children := d.children ++ [rest.length + 1] } ::
            (rest ++ [headN level [sg (p + level + 1) (e - tl.length)] blank]),
          { pc with opened := pc.opened ++ [{ node := rest.length + 1, bp := .atx }] }⟩) :=
  tryParsersT_hit (bp := .atx) (Or.inr rfl) (Or.inl (by decide))
    (atxOpen_atx hl level l tl htl hv h1 h6 hb hlast k (d :: rest) pc hoff 0) rfl rfl rfl hprev

end atx
end GM.Proof.CMFrag
end CMFrag4Atx

section CMFrag4Block
namespace GM.Proof.CMFrag
open GM GM.Text GM.Blocks GM.Spec

/-- the source lines of a block (without line feeds) -/
def lines4 : RawBlock → List Bytes
  | .para ls => ls
  | .atx level l => [List.replicate level 35 ++ 32 :: l]
  | .hr h => [h]

/-- the closed block-phase node of a block that starts at byte `p` -/
def node4 (p : Nat) : RawBlock → Bool → Blocks.Node
  | .para ls, b => paraN (paraSegs p ls) b
  | .atx level l, b => headN level [sg (p + level + 1) (p + level + 1 + l.length)] b
  | .hr _, b => hrN b

/-- what the block phase needs of a block -/
def Good4 : RawBlock → Prop
  | .para ls => ls ≠ [] ∧ ∀ l ∈ ls, BlkLine l
  | .atx level l => 1 ≤ level ∧ level ≤ 6 ∧ BlkLine l ∧ ∀ c, l.getLast? = some c → c ≠ 35
  | .hr h => ∃ ch n, hrChar ch ∧ h = List.replicate (n + 3) ch

theorem lines4_ne (blk : RawBlock) (h : Good4 blk) : lines4 blk ≠ [] := by
  cases blk with
  | para ls => exact h.1
  | atx level l => simp [lines4]
  | hr h' => simp [lines4]

/-- what the three phases need of a block -/
def Good4' : RawBlock → Prop
  | .para ls => ls ≠ [] ∧ ∀ l ∈ ls, GoodLine l
  | .atx level l => 1 ≤ level ∧ level ≤ 6 ∧ GoodLine l ∧ ∀ c, l.getLast? = some c → c ≠ 35
  | .hr h => ∃ ch n, hrChar ch ∧ h = List.replicate (n + 3) ch

theorem good4_of (b : RawBlock) (h : Good4' b) : Good4 b := by
  cases b with
  | para ls => exact ⟨h.1, fun l hl => (h.2 l hl).blk (quiet_no_nl l 0 false (h.2 l hl).quiet)⟩
  | atx level l => exact ⟨h.1, h.2.1, h.2.2.1.blk (quiet_no_nl l 0 false h.2.2.1.quiet), h.2.2.2⟩
  | hr x => exact h

theorem lines4_no_nl (b : RawBlock) (h : Good4' b) : ∀ l ∈ lines4 b, ∀ c ∈ l, c ≠ 10 := by
  cases b with
  | para ls => exact fun l hl => quiet_no_nl l 0 false (h.2 l hl).quiet
  | atx level l =>
    intro x hx c hc
    simp only [lines4, List.mem_singleton] at hx
    subst hx
    simp only [List.mem_append, List.mem_replicate, List.mem_cons] at hc
    rcases hc with ⟨_, rfl⟩ | rfl | hc
    · decide
    · decide
    · exact quiet_no_nl l 0 false h.2.2.1.quiet c hc
  | hr x =>
    obtain ⟨ch, n, hch, rfl⟩ := h
    intro l hl c hc
    simp only [lines4, List.mem_singleton] at hl
    subst hl
    simp only [List.mem_replicate] at hc
    rcases hch with h' | h' | h' <;> rw [hc.2, h'] <;> decide

open GM.Spec.CM GM.Spec.CMFrag

theorem paraBytes_rawOfG (b : GBlock) : paraBytes (lines4 (rawOfG b)) = spellGBlock b := by
  cases b with
  | para lines => simp only [rawOfG, lines4, spellGBlock]; exact paraBytes_spelled lines
  | heading level text => simp [rawOfG, lines4, spellGBlock, paraBytes]
  | thematic c n => simp [rawOfG, lines4, spellGBlock, paraBytes]

theorem alnum_not_hash (c : UInt8) (h : isAlnumC c = true) : c ≠ 35 := (alnum_facts c h).2.2.1

theorem escSpell_last_not_hash (l : FLine) (h : lineOK l = true) : ∀ c, (escSpell l).getLast? = some c → c ≠ 35 := by
  obtain ⟨a, rest, init, z, hl, hl', hf, hz, hall⟩ := lineOK_parts l h
  obtain ⟨zc, ze⟩ := z
  obtain ⟨sz, _, _⟩ := spell_last zc ze hz
  have e2 : escSpell l = escSpell init ++ [zc] := by
    rw [hl']; simp [escSpell, sz]
  intro c hc
  rw [e2] at hc; simp at hc; subst hc
  simp only [lastOK, Bool.and_eq_true] at hz
  exact alnum_not_hash zc hz.1

theorem thematicLine_hr (c n : Nat) : ∃ ch m, hrChar ch ∧ thematicLine c n false = List.replicate (m + 3) ch := by
  refine ⟨if c % 3 == 0 then 42 else if c % 3 == 1 then 45 else 95, n, ?_, by simp [thematicLine]⟩
  unfold hrChar
  split
  · left; rfl
  · split
    · right; left; rfl
    · right; right; rfl

theorem good4_rawOfG (b : GBlock) (h : gblockOK b = true) : Good4' (rawOfG b) := by
  cases b with
  | para lines =>
    simp only [gblockOK, Bool.and_eq_true, Bool.not_eq_true', List.all_eq_true] at h
    refine ⟨?_, ?_⟩
    · intro e
      have : lines = [] := by simpa using e
      rw [this] at h; simp at h
    · intro l hl
      obtain ⟨fl, hfl, rfl⟩ := List.mem_map.mp hl
      exact goodLine_of_lineOK fl (h.2 fl hfl)
  | heading level text =>
    simp only [gblockOK, Bool.and_eq_true, decide_eq_true_eq] at h
    exact ⟨h.1.1, h.1.2, goodLine_of_lineOK text h.2, escSpell_last_not_hash text h.2⟩
  | thematic c n => exact thematicLine_hr c n

end GM.Proof.CMFrag
end CMFrag4Block
