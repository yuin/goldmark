/-
  GM.Proof.BlocksDriverLInv — what the driver proof for ALL ten default block parsers (GM.Proof.BlocksDriverL) carries in addition to the invariants
  of GM.Proof.BlocksDriver: tree-link frames (`TF`), the chain of List / ListItem blocks on the stack (`ChainedO`, `LinkP`), every parser's `Close` and
  `Open` under the bundle `LSp`, the list part of the store invariant (`LStore`), the window of one `openBlocks` call (`WinL`, `MidL`), and the steps
  of one successful attempt of the candidate loop.
-/
import GM.Proof.BlocksNoPanic
import GM.Proof.BlocksInvL
import GM.Proof.BlocksSpecListItem
import GM.Proof.BlocksSpecBasic
import GM.Proof.BlocksDet
import GM.Proof.BlocksTNPClose

namespace GM.Blocks.L
open GM GM.Text GM.Spec GM.Proof.Reader GM.Blocks

theorem TF.trans {s1 s2 s3 : St} (h12 : TF s1 s2) (e12 : Ext s1 s2) (h23 : TF s2 s3) (e23 : Ext s2 s3) : TF s1 s3 where
  parent := fun i hi hk => by
    rw [h23.parent i (Nat.lt_of_lt_of_le hi e12.len) (by rw [e12.kind i hi]; exact hk), h12.parent i hi hk]
  kids := fun i hi hk => by
    rw [h23.kids i (Nat.lt_of_lt_of_le hi e12.len) (by rw [e12.kind i hi]; exact hk), h12.kids i hi hk]
  offset := fun i hi => by rw [h23.offset i (Nat.lt_of_lt_of_le hi e12.len), h12.offset i hi]
  newParent := fun i p hp hk => by
    obtain ⟨hi2, hp2⟩ := h23.newParent i p hp hk
    have hp2l : p < s2.nodes.length := by
      rcases Nat.lt_or_ge p s2.nodes.length with h | h
      · exact h
      · exact absurd hk (h23.newKind p h).1
    rw [e23.kind p hp2l] at hk
    exact h12.newParent i p hp2 hk
  newKind := fun i hi => by
    rcases Nat.lt_or_ge i s2.nodes.length with h | h
    · rw [e23.kind i h]; exact h12.newKind i hi
    · exact h23.newKind i h

theorem TF.refl (s : St) : TF s s := (TreeSame.refl s).tf

/-- how the block `b'` sits under the node `p` (its predecessor on the stack, or the root): below a List there is a
    ListItem that is the List's last child; a ListItem is only found below a List -/
structure LinkP (s : St) (p : Nat) (b' : Block) : Prop where
  down : (nd s p).kind = .list → b'.bp = .listItem ∧ (nd s b'.node).parent = some p ∧
      (nd s p).children.getLast? = some b'.node
  up : b'.bp = .listItem → (nd s p).kind = .list

/-- consecutive links, starting below the node `p` -/
def ChainedO (s : St) : Nat → List Block → Prop
  | _, [] => True
  | p, b :: rest => LinkP s p b ∧ ChainedO s b.node rest

/-- the node the next block would sit under -/
def lastNode (p : Nat) (l : List Block) : Nat := (l.getLast?.map (·.node)).getD p

theorem lastNode_nil (p : Nat) : lastNode p [] = p := rfl
theorem lastNode_concat (p : Nat) (l : List Block) (x : Block) : lastNode p (l ++ [x]) = x.node := by
  simp [lastNode]
theorem lastNode_cons (p : Nat) (b : Block) (l : List Block) : lastNode p (b :: l) = lastNode b.node l := by
  cases l with
  | nil => rfl
  | cons c cs =>
    simp only [lastNode, List.getLast?_cons_cons]
    cases h : (c :: cs).getLast? with
    | none => simp at h
    | some x => rfl

theorem chainedO_append (s : St) : ∀ (p : Nat) (l1 l2 : List Block),
    ChainedO s p (l1 ++ l2) ↔ ChainedO s p l1 ∧ ChainedO s (lastNode p l1) l2 := by
  intro p l1
  induction l1 generalizing p with
  | nil => intro l2; simp [ChainedO, lastNode]
  | cons b rest ih =>
    intro l2
    simp only [List.cons_append, ChainedO, lastNode_cons]
    rw [ih b.node l2]
    exact ⟨fun ⟨a, b, c⟩ => ⟨⟨a, b⟩, c⟩, fun ⟨⟨a, b⟩, c⟩ => ⟨a, b, c⟩⟩

/-- a link survives a state change that keeps kinds and tree links of List / container nodes -/
theorem LinkP.tf {s s' : St} {p : Nat} {b' : Block} (h : LinkP s p b') (e : Ext s s') (t : TF s s')
    (hp : p < s.nodes.length) (hb : b'.node < s.nodes.length) (hbk : (nd s b'.node).kind = b'.bp.kind) : LinkP s' p b' where
  down := fun hk => by
    rw [e.kind p hp] at hk
    obtain ⟨a, b, c⟩ := h.down hk
    refine ⟨a, ?_, by rw [t.kids p hp hk]; exact c⟩
    rw [t.parent b'.node hb (by rw [hbk, a]; rfl)]; exact b
  up := fun hi => by rw [e.kind p hp]; exact h.up hi

theorem closeAll (src : Bytes) (bp : BP) : CloseSpec src bp := by
  cases bp
  case list => exact listClose_spec src
  case listItem =>
    intro node s _ hn _ _
    exact OKL.ok ⟨rfl, rfl, Ext.refl s, hn, .inl rfl, .inl rfl, fun _ => rfl⟩
  all_goals exact (specs_notList src).close _ ⟨by decide, by decide⟩

/-- parent pointers point into the store -/
abbrev PLTf (s : St) : Prop := ∀ i p, (nd s i).parent = some p → p < s.nodes.length

/-- the lemmas about individual parsers that the list part of the driver proof uses (proved in GM.Proof.BlocksFrames,
    GM.Proof.BlocksDet and put together by `lsp_all`, GM.Proof.BlocksLsp; a hypothesis here, so that the walk does not depend on
    GM.Proof.BlocksFrames) -/
structure LSp (src : Bytes) : Prop where
  closeTF : ∀ (bp : BP) (node : Nat) (s s' : St), NodesOK src s → KeysOK s → BlockOK s ⟨node, bp⟩ → KidsOK s →
    bpClose bp node s = .ok ((), s') → TF s s'
  contTS : ∀ (bp : BP) (node : Nat) (s : St) (st : PState) (s' : St), bpContinue bp node s = .ok (st, s') → TreeSame s s'
  thematicDet : ∀ (parent : Nat) (s : St) (c : RCur), RI src s.r c → c.p < src.length →
    OKL (fun a s' => a.1.isSome = isThematicBreak ((RCur.view src c).getD []) (loVal src c) ∧
        (a.1 = none → s'.pc = s.pc ∧ s'.nodes = s.nodes)) (thematicOpen parent s)
  setextNone : ∀ (parent : Nat) (s : St) (c : RCur), RI src s.r c → c.p < src.length →
    OKL (fun a s' => a.1 = none → s'.pc = s.pc ∧ s'.nodes = s.nodes) (setextOpen parent s)
  paraCloseTS : ∀ (node : Nat) (s s' : St), BlockOK s ⟨node, .paragraph⟩ → NodesOK src s →
    paragraphClose node s = .ok ((), s') → TreeSame s s'
  closePLT : ∀ (bp : BP) (node : Nat) (s s' : St), NodesOK src s → KeysOK s → BlockOK s ⟨node, bp⟩ → KidsOK s →
    (∀ i p, (nd s i).parent = some p → p < s.nodes.length) → bpClose bp node s = .ok ((), s') →
    (∀ i p, (nd s' i).parent = some p → p < s'.nodes.length)

section close
variable {src : Bytes} (lsp : LSp src)
include lsp

theorem closeListL_okl (K : List Block) : ∀ (l : List Block) (s : St), s.r.source = src → NodesOK src s → KeysOK s →
    KidsOK s → PLTf s → (∀ b ∈ l, BlockOK s b) → (∀ b ∈ l.tail, b.bp.isContainer = true) →
    (∀ k ∈ K, BlockOK s k ∧ ∀ top, l.head? = some top → Compat s k top) →
    OKL (fun _ s' => s'.r = s.r ∧ s'.pc.opened = s.pc.opened ∧ NodesOK src s' ∧ KeysOK s' ∧ Ext s s' ∧ TF s s' ∧
        KidsOK s' ∧ PLTf s' ∧ ∀ k ∈ K, BlockOK s' k) (closeList l s) := by
  intro l s hsrc hn hk hkids hplt hl hcs hK
  rw [← closeListC_nil]
  refine (T.closeListC_rule (e := .loop) (V := fun s b => BlockOK s b) (Hd := fun s1 top => ∀ k ∈ K, Compat s1 k top)
    (Hc := fun s1 top => ∀ k ∈ K, Compat s1 k top)
    (Q := fun s' => s'.r = s.r ∧ s'.pc.opened = s.pc.opened ∧ NodesOK src s' ∧ KeysOK s' ∧ Ext s s' ∧ TF s s' ∧
        KidsOK s' ∧ PLTf s' ∧ ∀ k ∈ K, BlockOK s' k)
    (fun _ _ hc k _ => Compat.of_container hc) (fun _ h _ => h) ?_ ?_ l s
    ⟨rfl, rfl, hn, hk, Ext.refl s, TF.refl s, hkids, hplt, fun k hk' => (hK k hk').1⟩ hl hcs
    (fun top ht k hk' => (hK k hk').2 top ht)).elim id .inr
  · intro top s1 hq hv hd _ _
    unfold transformParagraph
    exact T.OKE.ok ⟨hq, fun _ _ h => h, fun _ => ⟨hv, hd⟩⟩
  · intro top s1 ⟨hr, hop, hn1, hk1, he1, ht1, hkids1, hplt1, hK1⟩ htop hcomp _
    have hsrc1 : s1.r.source = src := by rw [hr]; exact hsrc
    rcases closeAll src top.bp top.node s1 hsrc1 hn1 hk1 htop with ⟨a, s2, e2, h2⟩ | e2
    · have htf := lsp.closeTF top.bp top.node s1 s2 hn1 hk1 htop hkids1 e2
      rw [e2]
      exact T.OKE.ok ⟨⟨by rw [h2.r, hr], by rw [h2.opened, hop], h2.nodes, hk1.ext h2.ext h2.tmp' h2.fence', he1.trans h2.ext,
        TF.trans ht1 he1 htf h2.ext, hkids1.tf h2.ext htf,
        lsp.closePLT top.bp top.node s1 s2 hn1 hk1 htop hkids1 hplt1 e2,
        fun k hk' => h2.keeps_block (hK1 k hk') (hcomp k hk')⟩, fun b hb hvb => hvb.ext_container h2.ext hb⟩
    · exact .inl (.inr e2)

theorem closeBlocksL_okl (pre mid post : List Block) (s : St) (hop : s.pc.opened = pre ++ mid ++ post)
    (hsrc : s.r.source = src) (hn : NodesOK src s) (hk : KeysOK s) (hkids : KidsOK s) (hplt : PLTf s)
    (hmid : ∀ b ∈ mid, BlockOK s b) (hleafy : Leafy mid)
    (hK : ∀ k ∈ pre ++ post, BlockOK s k ∧ ∀ top, mid.getLast? = some top → Compat s k top) :
    OKL (fun _ s' => s'.r = s.r ∧ s'.pc.opened = pre ++ post ∧ NodesOK src s' ∧ KeysOK s' ∧ Ext s s' ∧ TF s s' ∧
        KidsOK s' ∧ PLTf s' ∧ (∀ k ∈ pre ++ post, BlockOK s' k))
      (closeBlocks ((pre.length : Int) + (mid.length : Int) - 1) (pre.length : Int) s) := by
  rw [closeBlocks_mid_eq pre mid post s hop]
  have hcl := closeListL_okl lsp (pre ++ post) mid.reverse s hsrc hn hk hkids hplt
    (fun b hb => hmid b (by simpa using hb))
    (fun b hb => hleafy b (by
      have : mid.reverse.tail = mid.dropLast.reverse := by rw [List.tail_reverse]
      rw [this] at hb; simpa using hb))
    (fun k hk' => ⟨(hK k hk').1, fun top ht => (hK k hk').2 top (by
      rw [List.head?_reverse] at ht; exact ht)⟩)
  refine OKL.bind hcl (fun _ s1 h1 => ?_)
  obtain ⟨hr, hop1, hn1, hk1, he1, ht1, hkids1, hplt1, hK1⟩ := h1
  refine OKL.ok ⟨hr, rfl, hn1, ⟨hk1.tmp, hk1.fence⟩, ⟨he1.len, he1.kind, he1.linesNE⟩,
    ⟨ht1.parent, ht1.kids, ht1.offset, ht1.newParent, ht1.newKind⟩, ⟨hkids1.kids, hkids1.off, hkids1.pk⟩, hplt1, ?_⟩
  intro k hk'
  have := hK1 k hk'
  exact ⟨this.lt, this.kind, this.para, this.setext, this.fenced⟩

end close

/-- `OpenPost` with the progress clause as the list parser satisfies it -/
structure OpenPostW (src : Bytes) (bp : BP) (parent : Nat) (s : St) (c : RCur) (a : Option Nat × PState) (s' : St) :
    Prop where
  ri : ∃ c', RI src s'.r c' ∧ PadOK c' ∧ c.p ≤ c'.p ∧ (a.1 = none → c' = c) ∧
    (a.2.hasChildren = true → (c.p < c'.p ∧ bp ≠ .list) ∨ (bp = .list ∧ c' = c))
  opened : s'.pc.opened = s.pc.opened
  boff : s'.pc.blockOffset = s.pc.blockOffset
  noNode : a.1 = none → s'.nodes = s.nodes
  newNode : ∀ id, a.1 = some id → id = s.nodes.length ∧ ∃ n, s'.nodes = s.nodes ++ [n] ∧ n.kind = bp.kind ∧
      NodeOK src n ∧ n.parent = none ∧ (bp = .list → n.children = []) ∧ (bp = .paragraph → n.lines ≠ []) ∧ (bp = .setext → n.lines ≠ []) ∧
      (bp = .listItem → 0 ≤ n.offset)
  tmp : (bp = .setext ∧ a.1.isSome = true ∧
          ∃ lb, s.pc.opened.getLast? = some lb ∧ (nd s lb.node).kind = .paragraph ∧
            (nd s lb.node).parent = some parent ∧ s'.pc.tmpPara = some lb.node) ∨
        ((bp ≠ .setext ∨ a.1 = none) ∧ s'.pc.tmpPara = s.pc.tmpPara)
  fence : (bp = .fenced ∧ ∃ id f, a.1 = some id ∧ s'.pc.fence = some f ∧ f.node = id ∧ 3 ≤ f.length ∧ 0 ≤ f.indent) ∨
        ((bp ≠ .fenced ∨ a.1 = none) ∧ s'.pc.fence = s.pc.fence)
  req : a.2.requirePara = true → bp = .setext ∧ a.1.isSome = true
  kids : a.2.hasChildren = true → bp.isContainer = true ∧ a.1.isSome = true
  -- what only some parsers tell
  keepPc : (bp = .setext ∨ bp = .thematic) → a.1 = none → s'.pc = s.pc
  thematic : bp = .thematic → a.1.isSome = isThematicBreak ((RCur.view src c).getD []) (loVal src c)
  listFacts : bp = .list → a.1.isSome = true → a.2.hasChildren = true ∧ s.pc.skipList = false ∧
      (∃ m typ, matchesListItem ((RCur.view src c).getD []) false = (m, typ) ∧ typ ≠ .notList ∧ m.r1 ≤ 3) ∧
      ¬ (match s.pc.opened.getLast? with | some lb => (nd s lb.node).kind = .list | none => False)
  itemFacts : bp = .listItem → (a.1.isSome = true → (nd s parent).kind = .list) ∧ s'.pc.skipList = s.pc.skipList ∧
      ((nd s parent).kind = .list →
        (∀ m typ, matchesListItem ((RCur.view src c).getD []) false = (m, typ) →
          typ ≠ .notList ∧ m.r1 - li_lastOff s parent ≤ 3) → a.1.isSome = true)

theorem openPost_toW {src bp parent s c a s'} (h : OpenPost src bp parent s c a s') (hl : bp ≠ .list) (hi : bp ≠ .listItem)
    (hkeep : (bp = .setext ∨ bp = .thematic) → a.1 = none → s'.pc = s.pc)
    (hth : bp = .thematic → a.1.isSome = isThematicBreak ((RCur.view src c).getD []) (loVal src c)) :
    OpenPostW src bp parent s c a s' where
  ri := by
    obtain ⟨c', a1, a2, a3, a4, a5⟩ := h.ri
    exact ⟨c', a1, a2, a3, a4, fun hh => .inl ⟨a5 hh, hl⟩⟩
  opened := h.opened
  boff := h.boff
  noNode := h.noNode
  newNode := fun id hid => by
    obtain ⟨e, n, a1, a2, a3, a4, a5, a6⟩ := h.newNode id hid
    exact ⟨e, n, a1, a2, a3, a4, fun hh => absurd hh hl, a5, a6, fun hh => absurd hh hi⟩
  tmp := h.tmp
  fence := h.fence
  req := h.req
  kids := h.kids
  keepPc := hkeep
  thematic := hth
  listFacts := fun hh => absurd hh hl
  itemFacts := fun hh => absurd hh hi

theorem OKL.and_ret {α} {P : α → St → Prop} {Q : α → Prop} {m : M α} {s : St} (h1 : OKL P (m s)) (h2 : Ret m Q) :
    OKL (fun a s' => P a s' ∧ Q a) (m s) := by
  rcases h1 with ⟨a, s', e, hp⟩ | e
  · exact .inl ⟨a, s', e, hp, h2.h s a s' e⟩
  · exact .inr e

theorem listItemOpen_ret (p : Nat) : Ret (listItemOpen p)
    (fun a => a.2.requirePara = false ∧ (a.2.hasChildren = true → a.1.isSome = true)) := by
  unfold listItemOpen; ret
  all_goals exact Ret.pure ⟨rfl, fun _ => rfl⟩

section openall
variable {src : Bytes} (lsp : LSp src)
include lsp

omit lsp in
theorem li_kidsOK_of {s : St} (h : KidsOK s) (parent : Nat) (hk : (nd s parent).kind = .list) : li_ListKidsOK s parent :=
  fun lc hlc => (h.kids parent lc hk (List.mem_of_getLast? hlc)).2

omit lsp in
theorem listItemOpen_notList (parent : Nat) (s : St) (hk : (nd s parent).kind ≠ .list) :
    listItemOpen parent s = .ok ((none, stNoChildren), s) := by
  unfold listItemOpen
  simp only [bind, StateT.bind, getNode, pure, StateT.pure, Except.bind, Except.pure]
  have : ((List.getD s.nodes parent default).kind != Kind.list) = true := by
    simp only [nd] at hk; simpa using hk
  rw [if_pos this]
  rfl

/-- `Open` of every default block parser from the invariant -/
theorem openAllW (bp : BP) (parent : Nat) (s : St) (c : RCur) (hc : LineCtx src s c) (hkids : KidsOK s) :
    OKL (fun a s' => OpenPostW src bp parent s c a s') (bpOpen bp parent s) := by
  have gen : ∀ bp', bp' ≠ .list → bp' ≠ .listItem → bp' ≠ .setext → bp' ≠ .thematic →
      OKL (fun a s' => OpenPostW src bp' parent s c a s') (bpOpen bp' parent s) := by
    intro bp' h1 h2 h3 h4
    refine ((specs_notList src).opn bp' ⟨h1, h2⟩ parent s c hc).mono (fun a s' h => ?_)
    exact openPost_toW h h1 h2 (fun hh => by rcases hh with hh | hh; exact absurd hh h3; exact absurd hh h4) (fun hh => absurd hh h4)
  cases bp
  case setext =>
    refine (det_okl_and ((specs_notList src).opn .setext ⟨by decide, by decide⟩ parent s c hc)
      (lsp.setextNone parent s c hc.ri hc.lt)).mono (fun a s' h => ?_)
    exact openPost_toW h.1 (by decide) (by decide) (fun _ hn => (h.2 hn).1) ((by intro hh; cases hh))
  case thematic =>
    refine (det_okl_and ((specs_notList src).opn .thematic ⟨by decide, by decide⟩ parent s c hc)
      (lsp.thematicDet parent s c hc.ri hc.lt)).mono (fun a s' h => ?_)
    exact openPost_toW h.1 (by decide) (by decide) (fun _ hn => (h.2.2 hn).1) (fun _ => h.2.1)
  case list =>
    refine (listOpen_okl src parent s c hc).mono (fun a s' h => ?_)
    obtain ⟨r', hr, hri, ho, hb, _, ht, hf, _, hnone, hsome⟩ := h
    exact {
      ri := ⟨c, by rw [hr]; exact hri, hc.pad, Nat.le_refl _, fun _ => rfl, fun _ => .inr ⟨rfl, rfl⟩⟩
      opened := ho
      boff := hb
      noNode := fun hn => (hnone hn).1
      newNode := fun id hid => by
        obtain ⟨e, _, _, _, ⟨n, a1, a2, a3, a4, a5, a6, a7⟩, _, _⟩ := hsome id hid
        exact ⟨e, n, a1, a2, a7, a6, fun _ => a3, (by intro hh; cases hh), (by intro hh; cases hh), (by intro hh; cases hh)⟩
      tmp := .inr ⟨.inl (by decide), ht⟩
      fence := .inr ⟨.inl (by decide), hf⟩
      req := fun hr' => by
        cases ha : a.1 with
        | none => rw [(hnone ha).2.1] at hr'; cases hr'
        | some id => rw [(hsome id ha).2.1] at hr'; cases hr'
      kids := fun hch => by
        cases ha : a.1 with
        | none => rw [(hnone ha).2.1] at hch; cases hch
        | some id => exact ⟨rfl, rfl⟩
      keepPc := (by intro hh; rcases hh with hh | hh <;> cases hh)
      thematic := (by intro hh; cases hh)
      listFacts := fun _ his => by
        cases ha : a.1 with
        | none => rw [ha] at his; cases his
        | some id =>
          obtain ⟨_, e2, _, e4, _, ⟨m, typ, _, hm2, hm3, hok⟩, hl⟩ := hsome id ha
          exact ⟨by rw [e2]; rfl, e4, ⟨m, typ, hm2, hm3, hok.r1_le⟩, hl⟩
      itemFacts := (by intro hh; cases hh) }
  case listItem =>
    by_cases hk : (nd s parent).kind = .list
    · refine (OKL.and_ret (listItemOpen_okl2 src parent s c hc (li_kidsOK_of hkids parent hk)) (listItemOpen_ret parent)).mono
        (fun a s' h => ?_)
      obtain ⟨⟨c', a1, a2, a3, a4, a5, _, a7, a8, a9, a10, a11, a12, a13, a14⟩, hret⟩ := h
      -- the answer is NoChildren / HasChildren: read it off the node clause
      exact {
        ri := ⟨c', a1, a2, a3, a4, fun hh => .inl ⟨a5 hh, by decide⟩⟩
        opened := a7
        boff := a8
        noNode := a11
        newNode := fun id hid => by
          obtain ⟨e, _, n, b1, b2, b3, b4, b5, b6, b7⟩ := a12 id hid
          exact ⟨e, n, b1, b2, ⟨by rw [b4]; intro t ht; simp at ht, fun _ => b4⟩, b6, (by intro hh; cases hh),
            (by intro hh; cases hh), (by intro hh; cases hh), fun _ => by omega⟩
        tmp := .inr ⟨.inl (by decide), a9⟩
        fence := .inr ⟨.inl (by decide), a10⟩
        req := fun hr => by rw [hret.1] at hr; cases hr
        kids := fun hh => ⟨rfl, hret.2 hh⟩
        keepPc := (by intro hh; rcases hh with hh | hh <;> cases hh)
        thematic := (by intro hh; cases hh)
        listFacts := (by intro hh; cases hh)
        itemFacts := fun _ => ⟨fun _ => hk, a13, a14⟩ }
    · have e := listItemOpen_notList parent s hk
      show OKL _ (listItemOpen parent s)
      rw [e]
      exact OKL.ok {
        ri := ⟨c, hc.ri, hc.pad, Nat.le_refl _, fun _ => rfl, (by intro hh; cases hh)⟩
        opened := rfl
        boff := rfl
        noNode := fun _ => rfl
        newNode := (by intro id hid; cases hid)
        tmp := .inr ⟨.inl (by decide), rfl⟩
        fence := .inr ⟨.inl (by decide), rfl⟩
        req := (by intro hh; cases hh)
        kids := (by intro hh; cases hh)
        keepPc := (by intro hh; rcases hh with hh | hh <;> cases hh)
        thematic := (by intro hh; cases hh)
        listFacts := (by intro hh; cases hh)
        itemFacts := fun _ => ⟨(by intro hh; cases hh), rfl, fun hh => absurd hh hk⟩ }
  all_goals exact gen _ (by decide) (by decide) (by decide) (by decide)

end openall

theorem chainedO_agree {s s' : St} : ∀ (p : Nat) (l : List Block), ChainedO s p l →
    (∀ a ∈ p :: l.map (·.node), (nd s' a).kind = (nd s a).kind) →
    (∀ b ∈ l, (nd s' b.node).parent = (nd s b.node).parent) →
    (∀ a ∈ p :: l.dropLast.map (·.node), (nd s' a).children = (nd s a).children) → ChainedO s' p l := by
  intro p l
  induction l generalizing p with
  | nil => intro _ _ _ _; trivial
  | cons b rest ih =>
    intro h hk hpar hch
    obtain ⟨hl, hr⟩ := h
    refine ⟨⟨fun hkk => ?_, fun hi => ?_⟩, ?_⟩
    · rw [hk p (by simp)] at hkk
      obtain ⟨a1, a2, a3⟩ := hl.down hkk
      exact ⟨a1, by rw [hpar b (by simp)]; exact a2, by rw [hch p (by simp)]; exact a3⟩
    · rw [hk p (by simp)]; exact hl.up hi
    · cases rest with
      | nil => trivial
      | cons r rs =>
        refine ih b.node hr (fun a ha => hk a (List.mem_cons_of_mem _ (by simpa using ha)))
          (fun x hx => hpar x (List.mem_cons_of_mem _ hx)) (fun a ha => hch a ?_)
        simp only [List.dropLast_cons_cons, List.map_cons, List.mem_cons] at ha ⊢
        rcases ha with h | h
        · exact .inr (.inl h)
        · exact .inr (.inr (by simpa using h))

theorem chainedO_tf {s s' : St} (e : Ext s s') (t : TF s s') : ∀ (p : Nat) (l : List Block), ChainedO s p l →
    p < s.nodes.length → (∀ b ∈ l, b.node < s.nodes.length ∧ (nd s b.node).kind = b.bp.kind) → ChainedO s' p l := by
  intro p l
  induction l generalizing p with
  | nil => intro _ _ _; trivial
  | cons b rest ih =>
    intro h hp hb
    exact ⟨h.1.tf e t hp (hb b (by simp)).1 (hb b (by simp)).2,
      ih b.node h.2 (hb b (by simp)).1 (fun x hx => hb x (List.mem_cons_of_mem _ hx))⟩

/-- the part of the list invariant that does not depend on the window -/
structure LStore (s : St) (root : Nat) : Prop where
  kids : KidsOK s
  plt : ∀ i p, (nd s i).parent = some p → p < s.nodes.length
  rootKind : (nd s root).kind = .document
  rootLt : root < s.nodes.length
  attached : ∀ b ∈ s.pc.opened, b.bp.isContainer = true → (nd s b.node).parent.isSome = true
  incr : (root :: s.pc.opened.map (·.node)).Pairwise (· < ·)

theorem isCont_of_container {bp : BP} (h : bp.isContainer = true) : bp.kind.isCont = true := by
  cases bp <;> simp [BP.isContainer, BP.kind, Kind.isCont] at h ⊢

/-- a `Continue` / `Close` step -/
theorem LStore.step {s s' : St} {root : Nat} (h : LStore s root) (e : Ext s s') (t : TF s s')
    (hplt : ∀ i p, (nd s' i).parent = some p → p < s'.nodes.length) (ho : s'.pc.opened = s.pc.opened)
    (hb : ∀ b ∈ s.pc.opened, BlockOK s b) : LStore s' root where
  kids := h.kids.tf e t
  plt := hplt
  rootKind := by rw [e.kind root h.rootLt]; exact h.rootKind
  rootLt := Nat.lt_of_lt_of_le h.rootLt e.len
  attached := fun b hbm hc => by
    rw [ho] at hbm
    have hbk := hb b hbm
    rw [t.parent b.node hbk.lt (by rw [hbk.kind]; exact isCont_of_container hc)]
    exact h.attached b hbm hc
  incr := by rw [ho]; exact h.incr

/-- the line the cursor is on -/
abbrev lineOf (src : Bytes) (c : RCur) : Bytes := (RCur.view src c).getD []

/-- the invariant of one `openBlocks` call (cf. `GM.Blocks.Win`), with the list part: `root` = the document node, `pre` =
    the prefix of `old` that stays on the stack (the new blocks are appended below its last block) -/
structure WinL (src : Bytes) (old pre : List Block) (root : Nat) (s0 s : St) (new : List Block) : Prop where
  nodes : NodesOK src s
  keys : KeysOK s
  ext : Ext s0 s
  shape : s.pc.opened = old ++ new ∨ (old ≠ [] ∧ new ≠ [] ∧ s.pc.opened = old.dropLast ++ new)
  blocks : ∀ b ∈ s.pc.opened, BlockOK s b
  oldlt : ∀ b ∈ old, b.node < s0.nodes.length
  leafyOld : Leafy old
  fresh : ∀ b ∈ new, s0.nodes.length ≤ b.node
  ls : LStore s root
  chain : ChainedO s root (pre ++ new)
  stack : ∃ suf, s.pc.opened = pre ++ suf ++ new
  tsame : new = [] → TreeSame s0 s

/-- static facts about one `openBlocks` call -/
structure Call (old pre : List Block) : Prop where
  pref : ∃ suf0, old = pre ++ suf0 ∧ (suf0 = [] → ∀ b, old.getLast? = some b → b.bp.isContainer = true)

/-- a list was just opened (same line, nothing consumed): the next `goto retry` must open its first item -/
structure DueNew (src : Bytes) (sb s : St) (c : RCur) (L : Nat) : Prop where
  kind : (nd s L).kind = .list
  noKids : (nd s L).children = []
  isLast : ∃ lb, s.pc.opened.getLast? = some lb ∧ lb.node = L
  m : ∃ m typ, matchesListItem (lineOf src c) false = (m, typ) ∧ typ ≠ .notList ∧ m.r1 ≤ 3
  th : ∀ (ch : UInt8) (l pre rest : List BP), (lineOf src c)[(indentWidthI (lineOf src c) (loVal src c)).2.toNat]? = some ch →
    triggered ch = some l → l = pre ++ BP.list :: rest → (∀ q ∈ pre, q = .setext ∨ q = .thematic) → BP.thematic ∈ pre →
    isThematicBreak (lineOf src c) (loVal src c) = false
  wasNotList : lastIsList sb = false

/-- what `tryParsers` hands back; `sb` = the state it started in -/
def TPPostL (src : Bytes) (old pre : List Block) (root : Nat) (s0 sb : St) (c : RCur)
    (x : TryOutcome × OpenResult × Option Block) (s' : St) : Prop :=
  ∃ c' new', RI src s'.r c' ∧ PadOK c' ∧ c.p ≤ c'.p ∧ WinL src old pre root s0 s' new' ∧
    ((x.2.1 = .noBlocksOpened ∧ new' = [] ∧ x.2.2 = old.getLast?) ∨ (x.2.1 = .newBlocksOpened ∧ new' ≠ [])) ∧
    (∀ k ∈ new', ∀ b ∈ old, Compat s' k b) ∧
    match x.1 with
    | .retry p => (∀ b ∈ new', b.bp.isContainer = true) ∧ p = lastNode root (pre ++ new') ∧
        ((c.p < c'.p ∧ (nd s' p).kind ≠ .list) ∨ (c' = c ∧ DueNew src sb s' c p))
    | .done => Leafy new' ∧ (nd s' (lastNode root (pre ++ new'))).kind ≠ .list

/-- the facts about the freshly built block (cf. `GM.Blocks.Mid`) -/
structure MidL (src : Bytes) (old pre : List Block) (root : Nat) (s0 : St) (id : Nat) (bp : BP) (s : St)
    (new : List Block) : Prop where
  nodes : NodesOK src s
  keys : KeysOK s
  ext : Ext s0 s
  shape : s.pc.opened = old ++ new ∨ (old ≠ [] ∧ s.pc.opened = old.dropLast ++ new)
  blocks : ∀ b ∈ s.pc.opened, BlockOK s b
  nb : BlockOK s ⟨id, bp⟩
  idge : s0.nodes.length ≤ id
  fenceNew : bp = .fenced → ∃ f, s.pc.fence = some f ∧ f.node = id
  setextOld : bp = .setext → ∀ b ∈ old, b.bp ≠ .setext
  -- list part
  ls : LStore s root
  chain : ChainedO s root (pre ++ new)
  stack : ∃ suf, s.pc.opened = pre ++ suf ++ new
  idgt : ∀ b ∈ s.pc.opened, b.node < id
  rootid : root < id
  idpar : (nd s id).parent = none
  idkids : bp = .list → (nd s id).children = []
  idoff : bp = .listItem → 0 ≤ (nd s id).offset
  nopt : ∀ i, (nd s i).parent ≠ some id          -- nobody points to the new node yet

theorem WinL.toWin {src old pre root s0 s new} (h : WinL src old pre root s0 s new)
    (hallc : ∀ b ∈ new, b.bp.isContainer = true) : Win src (fun _ => True) old s0 s new where
  nodes := h.nodes
  keys := h.keys
  ext := h.ext
  shape := h.shape
  blocks := fun b hb => ⟨h.blocks b hb, trivial⟩
  oldlt := h.oldlt
  leafyOld := h.leafyOld
  fresh := h.fresh
  lastParent := fun lb hlb => by
    have hm : lb ∈ new := List.mem_of_getLast? hlb
    refine h.ls.attached lb ?_ (hallc lb hm)
    rcases h.shape with e | ⟨_, _, e⟩ <;> rw [e] <;> exact List.mem_append_right _ hm

theorem openPostW_toPost {src bp parent s c x st s'} (h : OpenPostW src bp parent s c (x, st) s') :
    OpenPost src bp parent s c (x, { st with hasChildren := false }) s' where
  ri := by
    obtain ⟨c', a1, a2, a3, a4, _⟩ := h.ri
    exact ⟨c', a1, a2, a3, a4, fun hh => by cases hh⟩
  opened := h.opened
  boff := h.boff
  noNode := h.noNode
  newNode := fun id hid => by
    obtain ⟨e, n, a1, a2, a3, a4, _, a5, a6, _⟩ := h.newNode id hid
    exact ⟨e, n, a1, a2, a3, a4, a5, a6⟩
  tmp := h.tmp
  fence := h.fence
  req := h.req
  kids := fun hh => by cases hh

theorem nd_eq_of_nodes_eq {s s' : St} (h : s'.nodes = s.nodes) (i : Nat) : nd s' i = nd s i := by simp only [nd, h]

theorem LStore.congr {s s' : St} {root : Nat} (h : LStore s root) (hn : s'.nodes = s.nodes)
    (ho : s'.pc.opened = s.pc.opened) : LStore s' root where
  kids := ⟨fun i lc hk hm => by
      rw [nd_eq_of_nodes_eq hn] at hk hm
      have := h.kids.kids i lc hk hm
      exact ⟨by rw [hn]; exact this.1, by rw [nd_eq_of_nodes_eq hn]; exact this.2⟩,
    fun i hk => by rw [nd_eq_of_nodes_eq hn] at hk ⊢; exact h.kids.off i hk,
    fun i p hp hk => by rw [nd_eq_of_nodes_eq hn] at hp hk ⊢; exact h.kids.pk i p hp hk⟩
  plt := fun i p hp => by rw [nd_eq_of_nodes_eq hn] at hp; rw [hn]; exact h.plt i p hp
  rootKind := by rw [nd_eq_of_nodes_eq hn]; exact h.rootKind
  rootLt := by rw [hn]; exact h.rootLt
  attached := fun b hb hc => by rw [ho] at hb; rw [nd_eq_of_nodes_eq hn]; exact h.attached b hb hc
  incr := by rw [ho]; exact h.incr

theorem chainedO_congr {s s' : St} (hn : s'.nodes = s.nodes) (p : Nat) (l : List Block) (h : ChainedO s p l) :
    ChainedO s' p l :=
  chainedO_agree p l h (fun a _ => by rw [nd_eq_of_nodes_eq hn]) (fun b _ => by rw [nd_eq_of_nodes_eq hn])
    (fun a _ => by rw [nd_eq_of_nodes_eq hn])

theorem open_noneL {src old pre root s0 bp parent s c st s1 new} (hO : OpenPostW src bp parent s c (none, st) s1)
    (hc : LineCtx src s c) (hw : WinL src old pre root s0 s new) (hallc : ∀ b ∈ new, b.bp.isContainer = true) :
    LineCtx src s1 c ∧ WinL src old pre root s0 s1 new ∧ s1.pc.opened = s.pc.opened ∧ s1.nodes = s.nodes := by
  obtain ⟨hc1, hw1, ho⟩ := open_none (openPostW_toPost hO) hc (hw.toWin hallc)
  have hn := hO.noNode rfl
  exact ⟨hc1, ⟨hw1.nodes, hw1.keys, hw1.ext, hw1.shape, fun b hb => (hw1.blocks b hb).1, hw1.oldlt, hw1.leafyOld, hw1.fresh,
    hw.ls.congr hn ho, chainedO_congr hn _ _ hw.chain, by rw [ho]; exact hw.stack,
    fun h => (hw.tsame h).trans (TreeSame.of_nodes_eq hn)⟩, ho, hn⟩

theorem nd_append_lt {s s' : St} {n : Node} (hn : s'.nodes = s.nodes ++ [n]) {j : Nat} (hj : j < s.nodes.length) :
    nd s' j = nd s j := nd_of_append_lt hn hj

theorem nd_append_self {s s' : St} {n : Node} (hn : s'.nodes = s.nodes ++ [n]) : nd s' s.nodes.length = n := by
  simp only [nd, hn]; exact getD_length_append _ _ _

theorem nd_append_gt {s s' : St} {n : Node} (hn : s'.nodes = s.nodes ++ [n]) {j : Nat} (hj : s.nodes.length < j) :
    nd s' j = default := by
  apply nd_default_of_ge; rw [hn]; simp; omega

theorem open_someL {src old pre root s0 bp parent s c st s1 new id} (hO : OpenPostW src bp parent s c (some id, st) s1)
    (hw : WinL src old pre root s0 s new) (hallc : ∀ b ∈ new, b.bp.isContainer = true) :
    MidL src old pre root s0 id bp s1 new ∧ id = s.nodes.length ∧ s1.pc.opened = s.pc.opened ∧
    (∀ j, j < s.nodes.length → nd s1 j = nd s j) ∧ s1.nodes.length = s.nodes.length + 1 ∧
    (st.requirePara = true → ∃ lb, s.pc.opened.getLast? = some lb ∧ (nd s lb.node).parent = some parent ∧
        lb.bp = .paragraph ∧ new = [] ∧ s.pc.opened = old) := by
  obtain ⟨hm, hid, ho, hnd, hpar, hlen, hreq⟩ := open_some (openPostW_toPost hO) (hw.toWin hallc) hallc trivial
  obtain ⟨_, n, hn, hkind, _, hnpar, hnkids, _, _, hnoff⟩ := hO.newNode id rfl
  have hndid : nd s1 id = n := by rw [hid]; exact nd_append_self hn
  have hlt : ∀ b ∈ s.pc.opened, b.node < s.nodes.length := fun b hb => (hw.blocks b hb).lt
  have hnd' : ∀ j, nd s1 j = if j < s.nodes.length then nd s j else if j = s.nodes.length then n else default := by
    intro j
    by_cases h1 : j < s.nodes.length
    · rw [if_pos h1]; exact hnd j h1
    · rw [if_neg h1]
      by_cases h2 : j = s.nodes.length
      · rw [if_pos h2, h2]; exact nd_append_self hn
      · rw [if_neg h2]; exact nd_append_gt hn (by omega)
  have hls : LStore s1 root := by
    refine ⟨⟨?_, ?_, ?_⟩, ?_, by rw [hnd root hw.ls.rootLt]; exact hw.ls.rootKind, by rw [hlen]; exact Nat.lt_succ_of_lt hw.ls.rootLt,
      fun b hb hc => by rw [ho] at hb; rw [hnd _ (hlt b hb)]; exact hw.ls.attached b hb hc, by rw [ho]; exact hw.ls.incr⟩
    · intro i lc hk hmem
      rw [hnd' i] at hk hmem
      split at hk
      · rename_i hi
        rw [if_pos hi] at hmem
        obtain ⟨a, b⟩ := hw.ls.kids.kids i lc hk hmem
        exact ⟨by rw [hlen]; exact Nat.lt_succ_of_lt a, by rw [hnd lc a]; exact b⟩
      · rename_i hi
        rw [if_neg hi] at hmem
        split at hk
        · rename_i hi2
          rw [if_pos hi2] at hmem
          rw [hkind] at hk
          have hbl : bp = .list := by cases bp <;> simp [BP.kind] at hk ⊢
          rw [hnkids hbl] at hmem; cases hmem
        · cases hk
    · intro i hk
      rw [hnd' i] at hk ⊢
      split at hk
      · rename_i hi; rw [if_pos hi]; exact hw.ls.kids.off i hk
      · rename_i hi
        rw [if_neg hi]
        split at hk
        · rename_i hi2
          rw [if_pos hi2]
          rw [hkind] at hk
          have hbl : bp = .listItem := by cases bp <;> simp [BP.kind] at hk ⊢
          exact hnoff hbl
        · cases hk
    · intro i p hp hk
      rw [hnd' i] at hp ⊢
      split at hp
      · rename_i hi
        have hpl := hw.ls.plt i p hp
        rw [hnd p hpl] at hk
        rw [if_pos ‹_›]
        exact hw.ls.kids.pk i p hp hk
      · split at hp
        · rw [hnpar] at hp; cases hp
        · cases hp
    · intro i p hp
      rw [hnd' i] at hp
      split at hp
      · rw [hlen]; exact Nat.lt_succ_of_lt (hw.ls.plt i p hp)
      · split at hp
        · rw [hnpar] at hp; cases hp
        · cases hp
  have hchain : ChainedO s1 root (pre ++ new) := by
    have hmem : ∀ b ∈ pre ++ new, b ∈ s.pc.opened := by
      obtain ⟨suf, e⟩ := hw.stack
      intro b hb
      rw [e]
      rcases List.mem_append.1 hb with h | h
      · exact List.mem_append_left _ (List.mem_append_left _ h)
      · exact List.mem_append_right _ h
    refine chainedO_agree root (pre ++ new) hw.chain ?_ ?_ ?_
    · intro a ha
      simp only [List.mem_cons, List.mem_map] at ha
      rcases ha with rfl | ⟨b, hb, rfl⟩
      · rw [hnd _ hw.ls.rootLt]
      · rw [hnd _ (hlt b (hmem b hb))]
    · intro b hb; rw [hnd _ (hlt b (hmem b hb))]
    · intro a ha
      simp only [List.mem_cons, List.mem_map] at ha
      rcases ha with rfl | ⟨b, hb, rfl⟩
      · rw [hnd _ hw.ls.rootLt]
      · rw [hnd _ (hlt b (hmem b (List.dropLast_subset _ hb)))]
  refine ⟨⟨hm.nodes, hm.keys, hm.ext, hm.shape, fun b hb => (hm.blocks b hb).1, hm.nb, hm.idge, hm.fenceNew, hm.setextOld,
    hls, hchain, by rw [ho]; exact hw.stack, fun b hb => by rw [ho] at hb; rw [hid]; exact hlt b hb,
    by rw [hid]; exact hw.ls.rootLt, by rw [hndid]; exact hnpar, fun hb => by rw [hndid]; exact hnkids hb, fun hb => by rw [hndid]; exact hnoff hb, ?_⟩,
    hid, ho, hnd, hlen, hreq⟩
  intro i hp
  rw [hnd' i] at hp
  split at hp
  · have := hw.ls.plt i id hp; omega
  · split at hp
    · rw [hnpar] at hp; cases hp
    · cases hp

theorem pairwise_lt_lastNode : ∀ (p : Nat) (l : List Block), (p :: l.map (·.node)).Pairwise (· < ·) → l ≠ [] →
    ∀ a ∈ p :: l.dropLast.map (·.node), a < lastNode p l := by
  intro p l
  induction l generalizing p with
  | nil => intro _ h; exact absurd rfl h
  | cons b rest ih =>
    intro hp _ a ha
    rw [lastNode_cons]
    have hp' : (b.node :: rest.map (·.node)).Pairwise (· < ·) := (List.pairwise_cons.1 hp).2
    have hpb : p < b.node := (List.pairwise_cons.1 hp).1 b.node (by simp)
    cases rest with
    | nil =>
      simp only [List.dropLast_singleton, List.map_nil, List.mem_cons, List.not_mem_nil, or_false] at ha
      subst ha; simpa [lastNode] using hpb
    | cons r rs =>
      simp only [List.dropLast_cons_cons, List.map_cons, List.mem_cons] at ha
      have hlast := ih b.node hp' (by simp)
      rcases ha with rfl | ha
      · exact Nat.lt_trans hpb (hlast b.node (by simp))
      · exact hlast a (by simpa using ha)

theorem lastNode_mem (p : Nat) (l : List Block) : lastNode p l = p ∨ ∃ b ∈ l, lastNode p l = b.node := by
  unfold lastNode
  cases h : l.getLast? with
  | none => left; rfl
  | some b => right; exact ⟨b, List.mem_of_getLast? h, rfl⟩

theorem MidL.sub {src old pre root s0 id bp s new} (h : MidL src old pre root s0 id bp s new) :
    ∀ b ∈ pre ++ new, b ∈ s.pc.opened := by
  obtain ⟨suf, e⟩ := h.stack
  intro b hb
  rw [e]
  rcases List.mem_append.1 hb with h' | h'
  · exact List.mem_append_left _ (List.mem_append_left _ h')
  · exact List.mem_append_right _ h'

theorem MidL.incr' {src old pre root s0 id bp s new} (h : MidL src old pre root s0 id bp s new) :
    (root :: (pre ++ new).map (·.node)).Pairwise (· < ·) := by
  obtain ⟨suf, e⟩ := h.stack
  have := h.ls.incr
  rw [e] at this
  refine this.sublist ?_
  refine List.Sublist.cons_cons _ (List.Sublist.map _ ?_)
  rw [List.append_assoc]
  exact List.Sublist.append (List.Sublist.refl _) (List.sublist_append_right _ _)

theorem MidL.parent_lt {src old pre root s0 id bp s new} (h : MidL src old pre root s0 id bp s new) :
    lastNode root (pre ++ new) < id ∧ lastNode root (pre ++ new) < s.nodes.length := by
  rcases lastNode_mem root (pre ++ new) with e | ⟨b, hb, e⟩
  · rw [e]
    exact ⟨h.rootid, h.ls.rootLt⟩
  · rw [e]
    exact ⟨h.idgt b (h.sub b hb), (h.blocks b (h.sub b hb)).lt⟩

/-- a change that keeps every node's kind, lines, parent, children and offset (the blank flag; `paragraph.Close`) -/
theorem MidL.same {src old pre root s0 id bp s s' new} (h : MidL src old pre root s0 id bp s new)
    (e : Ext s s') (hnodes : NodesOK src s') (t : TreeSame s s') (ho : s'.pc.opened = s.pc.opened)
    (ht : s'.pc.tmpPara = s.pc.tmpPara) (hf : s'.pc.fence = s.pc.fence) : MidL src old pre root s0 id bp s' new := by
  have hbok : ∀ b, BlockOK s b → BlockOK s' b := fun b hb =>
    hb.ext e (fun hp => by rw [ht]; exact (hb.setext hp).2) (fun hp => by rw [hf]; exact hb.fenced hp)
  refine ⟨hnodes, h.keys.ext e (.inl ht) (.inl hf), h.ext.trans e, by rw [ho]; exact h.shape,
    fun b hb => by rw [ho] at hb; exact hbok b (h.blocks b hb), hbok _ h.nb, h.idge,
    fun hp => by rw [hf]; exact h.fenceNew hp, h.setextOld, ?_, ?_, by rw [ho]; exact h.stack,
    fun b hb => by rw [ho] at hb; exact h.idgt b hb, h.rootid, by rw [(t.same id).2.1]; exact h.idpar,
    fun hb => by rw [(t.same id).2.2.1]; exact h.idkids hb, fun hb => by rw [(t.same id).2.2.2]; exact h.idoff hb,
    fun i => by rw [(t.same i).2.1]; exact h.nopt i⟩
  · exact h.ls.step e t.tf (fun i p hp => by rw [(t.same i).2.1] at hp; rw [t.len]; exact h.ls.plt i p hp) ho h.blocks
  · exact chainedO_agree root (pre ++ new) h.chain (fun a _ => (t.same a).1) (fun b _ => (t.same b.node).2.1)
      (fun a _ => (t.same a).2.2.1)

theorem MidL.pop {src old pre root s0 id bp s} (h : MidL src old pre root s0 id bp s []) (hop : s.pc.opened = old)
    (hne : old ≠ []) (hsuf : ∃ suf, old = pre ++ suf ∧ suf ≠ []) :
    MidL src old pre root s0 id bp { s with pc := { s.pc with opened := old.dropLast } } [] where
  nodes := h.nodes
  keys := ⟨h.keys.tmp, h.keys.fence⟩
  ext := ⟨h.ext.len, h.ext.kind, h.ext.linesNE⟩
  shape := .inr ⟨hne, by simp⟩
  blocks := fun b hb => by
    have hb' : b ∈ s.pc.opened := by rw [hop]; exact List.dropLast_subset _ hb
    have := h.blocks b hb'
    exact ⟨this.lt, this.kind, this.para, this.setext, this.fenced⟩
  nb := ⟨h.nb.lt, h.nb.kind, h.nb.para, h.nb.setext, h.nb.fenced⟩
  idge := h.idge
  fenceNew := h.fenceNew
  setextOld := h.setextOld
  ls := ⟨⟨h.ls.kids.kids, h.ls.kids.off, h.ls.kids.pk⟩, h.ls.plt, h.ls.rootKind, h.ls.rootLt,
    fun b hb hc => h.ls.attached b (by rw [hop]; exact List.dropLast_subset _ hb) hc, by
      have := h.ls.incr
      rw [hop] at this
      exact this.sublist (List.Sublist.cons_cons _ (List.Sublist.map _ (List.dropLast_sublist _)))⟩
  chain := by
    have := h.chain
    exact chainedO_agree root (pre ++ []) this (fun _ _ => rfl) (fun _ _ => rfl) (fun _ _ => rfl)
  stack := by
    obtain ⟨suf, e, hs⟩ := hsuf
    refine ⟨suf.dropLast, ?_⟩
    simp only [List.append_nil]
    rw [e, List.dropLast_append_of_ne_nil hs]
  idgt := fun b hb => h.idgt b (by rw [hop]; exact List.dropLast_subset _ hb)
  rootid := h.rootid
  idpar := h.idpar
  idkids := h.idkids
  idoff := h.idoff
  nopt := h.nopt

theorem appendChild_fresh (parent node : Nat) (s : St) (hp : (nd s node).parent = none) :
    appendChild parent node s = .ok ((), upd (upd s parent fun n => { n with children := n.children ++ [node] }) node
      fun n => { n with parent := some parent }) := by
  unfold appendChild ensureIsolated
  simp only [bind, StateT.bind, getNode, Except.bind, pure, StateT.pure, Except.pure]
  have : (s.nodes.getD node default).parent = none := hp
  rw [this]
  rfl

/-- the pure facts a freshly opened list hands to the next `goto retry` -/
structure DueFacts (src : Bytes) (sb : St) (c : RCur) : Prop where
  m : ∃ m typ, matchesListItem (lineOf src c) false = (m, typ) ∧ typ ≠ .notList ∧ m.r1 ≤ 3
  th : ∀ (ch : UInt8) (l pre rest : List BP), (lineOf src c)[(indentWidthI (lineOf src c) (loVal src c)).2.toNat]? = some ch →
    triggered ch = some l → l = pre ++ BP.list :: rest → (∀ q ∈ pre, q = .setext ∨ q = .thematic) → BP.thematic ∈ pre →
    isThematicBreak (lineOf src c) (loVal src c) = false
  wasNotList : lastIsList sb = false

theorem kind_list {bp : BP} (h : bp.kind = .list) : bp = .list := by cases bp <;> simp [BP.kind] at h ⊢
theorem kind_listItem {bp : BP} (h : bp.kind = .listItem) : bp = .listItem := by cases bp <;> simp [BP.kind] at h ⊢

/-- the tail of a successful attempt: `parent.AppendChild(node)`, push onto `openedBlocks` -/
theorem tryTailL_okl {src : Bytes} {old pre : List Block} {root : Nat} {s0 sb : St} {c c' : RCur} (parent id : Nat) (bp : BP)
    (st : PState) (lb0 : Option Block) (s : St) (new : List Block) (hm : MidL src old pre root s0 id bp s new)
    (hq : parent = lastNode root (pre ++ new))
    (hw0 : ∀ b ∈ old, b.node < s0.nodes.length) (hleafy : Leafy old) (hfresh : ∀ b ∈ new, s0.nodes.length ≤ b.node)
    (hallc : ∀ b ∈ new, b.bp.isContainer = true)
    (hri : RI src s.r c') (hpad : PadOK c') (hle : c.p ≤ c'.p)
    (hprog : st.hasChildren = true → (c.p < c'.p ∧ bp ≠ .list) ∨ (c' = c ∧ bp = .list))
    (hkids : st.hasChildren = true → bp.isContainer = true)
    (hP1 : (nd s parent).kind = .list → bp = .listItem) (hP1' : bp = .listItem → (nd s parent).kind = .list)
    (hlistHC : bp = .list → st.hasChildren = true) (hdue : bp = .list → DueFacts src sb c) :
    OKL (TPPostL src old pre root s0 sb c)
      ((do
        appendChild parent id
        modPc fun pc => { pc with opened := pc.opened ++ [{ node := id, bp := bp }] }
        if st.hasChildren then return (TryOutcome.retry id, OpenResult.newBlocksOpened, lb0)
        return (TryOutcome.done, OpenResult.newBlocksOpened, lb0) : M _) s) := by
  obtain ⟨hqid, hqlt⟩ := hm.parent_lt
  rw [← hq] at hqid hqlt
  have hidlt : id < s.nodes.length := hm.nb.lt
  simp only [bind, StateT.bind, appendChild_fresh parent id s hm.idpar, Except.bind, modPc, pure, StateT.pure, Except.pure]
  generalize hs1 : (upd (upd s parent fun n => { n with children := n.children ++ [id] }) id
      fun n => { n with parent := some parent }) = s1
  have hf : FrameEq s s1 := by
    rw [← hs1]
    exact (upd_frame s parent (f := fun n => { n with children := n.children ++ [id] }) (fun n => ⟨rfl, rfl, rfl⟩)).trans
      (upd_frame _ id (f := fun n => { n with parent := some parent }) (fun n => ⟨rfl, rfl, rfl⟩))
  have hlen1 : (upd s parent fun n => { n with children := n.children ++ [id] }).nodes.length = s.nodes.length := by
    simp [upd]
  have hnd_id : nd s1 id = { nd s id with parent := some parent } := by
    rw [← hs1, nd_upd, if_pos ⟨rfl, by rw [hlen1]; exact hidlt⟩, nd_upd, if_neg (by intro h; omega)]
  have hnd_q : nd s1 parent = { nd s parent with children := (nd s parent).children ++ [id] } := by
    rw [← hs1, nd_upd, if_neg (by intro h; omega), nd_upd, if_pos ⟨rfl, hqlt⟩]
  have hnd_o : ∀ j, j ≠ id → j ≠ parent → nd s1 j = nd s j := by
    intro j h1 h2
    rw [← hs1, nd_upd, if_neg (by intro h; exact h1 h.1.symm), nd_upd, if_neg (by intro h; exact h2 h.1.symm)]
  have hkind1 : ∀ j, (nd s1 j).kind = (nd s j).kind := fun j => (hf.same j).1
  have hpar1 : ∀ j, j ≠ id → (nd s1 j).parent = (nd s j).parent := by
    intro j hj
    by_cases h2 : j = parent
    · rw [h2, hnd_q]
    · rw [hnd_o j hj h2]
  have hch1 : ∀ j, j ≠ parent → (nd s1 j).children = (nd s j).children := by
    intro j hj
    by_cases h2 : j = id
    · rw [h2, hnd_id]
    · rw [hnd_o j h2 hj]
  have hoff1 : ∀ j, (nd s1 j).offset = (nd s j).offset := by
    intro j
    by_cases h1 : j = id
    · rw [h1, hnd_id]
    · by_cases h2 : j = parent
      · rw [h2, hnd_q]
      · rw [hnd_o j h1 h2]
  -- the final state
  generalize hs2 : ({ r := s1.r, nodes := s1.nodes, pc := { s1.pc with opened := s1.pc.opened ++ [{ node := id, bp := bp }] } } : St) = s2
  have hr2 : s2.r = s.r := by rw [← hs2]; exact hf.r
  have hn2 : s2.nodes = s1.nodes := by rw [← hs2]
  have hop2 : s2.pc.opened = s.pc.opened ++ [{ node := id, bp := bp }] := by rw [← hs2]; simp only; rw [hf.pc]
  have htmp2 : s2.pc.tmpPara = s.pc.tmpPara := by rw [← hs2]; simp only; rw [hf.pc]
  have hfen2 : s2.pc.fence = s.pc.fence := by rw [← hs2]; simp only; rw [hf.pc]
  have hnd2 : ∀ j, nd s2 j = nd s1 j := fun j => by simp only [nd, hn2]
  have hext : Ext s s2 := by
    have := hf.ext
    exact ⟨by rw [hn2]; exact this.len, fun j hj => by rw [hnd2]; exact this.kind j hj,
      fun j hj hk hl => by rw [hnd2]; exact this.linesNE j hj hk hl⟩
  have hnodes2 : NodesOK src s2 := by
    have := hf.nodesOK hm.nodes
    intro n hn; rw [hn2] at hn; exact this n hn
  have hkeys2 : KeysOK s2 := hm.keys.ext hext (.inl htmp2) (.inl hfen2)
  have hbok : ∀ b, BlockOK s b → BlockOK s2 b := fun b hb =>
    hb.ext hext (fun hp => by rw [htmp2]; exact (hb.setext hp).2) (fun hp => by rw [hfen2]; exact hb.fenced hp)
  have hkidq : (nd s parent).kind = .list → (nd s id).kind = .listItem := fun h => by rw [hm.nb.kind, hP1 h]; rfl
  have hls2 : LStore s2 root := by
    refine ⟨⟨?_, ?_, ?_⟩, ?_, by rw [hnd2, hkind1]; exact hm.ls.rootKind, by rw [hn2, hf.len]; exact hm.ls.rootLt, ?_, ?_⟩
    · intro i lc hk hmem
      rw [hnd2, hkind1] at hk
      rw [hnd2] at hmem
      by_cases hi : i = parent
      · rw [hi, hnd_q] at hmem
        simp only [List.mem_append, List.mem_singleton] at hmem
        rcases hmem with hmem | hmem
        · obtain ⟨a, b⟩ := hm.ls.kids.kids i lc hk (by rw [hi]; exact hmem)
          exact ⟨by rw [hn2, hf.len]; exact a, by rw [hnd2, hkind1]; exact b⟩
        · rw [hmem]
          exact ⟨by rw [hn2, hf.len]; exact hidlt, by rw [hnd2, hkind1]; exact hkidq (hi ▸ hk)⟩
      · rw [hch1 i hi] at hmem
        obtain ⟨a, b⟩ := hm.ls.kids.kids i lc hk hmem
        exact ⟨by rw [hn2, hf.len]; exact a, by rw [hnd2, hkind1]; exact b⟩
    · intro i hk
      rw [hnd2, hkind1] at hk
      rw [hnd2, hoff1]
      exact hm.ls.kids.off i hk
    · intro i p hp hk
      rw [hnd2] at hp
      rw [hnd2, hkind1] at hk ⊢
      by_cases hi : i = id
      · rw [hi, hnd_id] at hp
        simp only [Option.some.injEq] at hp
        rw [← hp] at hk
        rw [hi]; exact hkidq hk
      · rw [hpar1 i hi] at hp
        exact hm.ls.kids.pk i p hp hk
    · intro i p hp
      rw [hnd2] at hp
      rw [hn2, hf.len]
      by_cases hi : i = id
      · rw [hi, hnd_id] at hp
        simp only [Option.some.injEq] at hp
        rw [← hp]; exact hqlt
      · rw [hpar1 i hi] at hp
        exact hm.ls.plt i p hp
    · intro b hb hc
      rw [hop2] at hb
      rw [hnd2]
      rcases List.mem_append.1 hb with hb | hb
      · rw [hpar1 b.node (by have := hm.idgt b hb; omega)]
        exact hm.ls.attached b hb hc
      · simp only [List.mem_singleton] at hb; subst hb
        simp only; rw [hnd_id]; rfl
    · rw [hop2, List.map_append, ← List.cons_append]
      refine List.pairwise_append.2 ⟨hm.ls.incr, by simp, ?_⟩
      intro a ha b hb
      simp only [List.map_cons, List.map_nil, List.mem_singleton] at hb
      subst hb
      simp only [List.mem_cons, List.mem_map] at ha
      rcases ha with rfl | ⟨x, hx, rfl⟩
      · exact hm.rootid
      · exact hm.idgt x hx
  have hchain2 : ChainedO s2 root (pre ++ (new ++ [{ node := id, bp := bp }])) := by
    rw [← List.append_assoc, chainedO_append]
    constructor
    · have hpw := hm.incr'
      by_cases hne : pre ++ new = []
      · rw [hne]; trivial
      refine chainedO_agree root (pre ++ new) hm.chain (fun a _ => by rw [hnd2, hkind1]) ?_ ?_
      · intro b hb
        rw [hnd2, hpar1 b.node (by have := hm.idgt b (hm.sub b hb); omega)]
      · intro a ha
        rw [hnd2]
        have := pairwise_lt_lastNode root (pre ++ new) hpw hne a ha
        rw [hch1 a (by rw [hq]; omega)]
    · rw [← hq]
      refine ⟨⟨fun hk => ?_, fun hi => ?_⟩, trivial⟩
      · rw [hnd2, hkind1] at hk
        refine ⟨hP1 hk, ?_, ?_⟩
        · simp only; rw [hnd2, hnd_id]
        · rw [hnd2, hnd_q]; simp
      · simp only at hi
        rw [hnd2, hkind1]; exact hP1' hi
  have hwin : WinL src old pre root s0 s2 (new ++ [{ node := id, bp := bp }]) := by
    refine ⟨hnodes2, hkeys2, hm.ext.trans hext, ?_, ?_, hw0, hleafy, ?_, hls2, hchain2, ?_, fun h => absurd h (by simp)⟩
    · rcases hm.shape with h | ⟨h1, h2⟩
      · exact .inl (by rw [hop2, h, List.append_assoc])
      · exact .inr ⟨h1, by simp, by rw [hop2, h2, List.append_assoc]⟩
    · intro b hb
      rw [hop2] at hb
      rcases List.mem_append.1 hb with hb | hb
      · exact hbok b (hm.blocks b hb)
      · simp only [List.mem_singleton] at hb; subst hb; exact hbok _ hm.nb
    · intro b hb
      rcases List.mem_append.1 hb with hb | hb
      · exact hfresh b hb
      · simp only [List.mem_singleton] at hb; subst hb; exact hm.idge
    · obtain ⟨suf, e⟩ := hm.stack
      exact ⟨suf, by rw [hop2, e, List.append_assoc]⟩
  have hcompat : ∀ k ∈ new ++ [{ node := id, bp := bp }], ∀ b ∈ old, Compat s2 k b := by
    intro k hk b hb
    rcases List.mem_append.1 hk with hk | hk
    · exact Compat.of_container_left (hallc k hk)
    · simp only [List.mem_singleton] at hk; subst hk
      refine ⟨fun hse => hm.setextOld hse b hb, fun hfe _ f hf2 => ?_⟩
      obtain ⟨f', hf', hfn⟩ := hm.fenceNew hfe
      rw [hfen2, hf'] at hf2
      cases hf2
      have := hw0 b hb
      have := hm.idge
      omega
  have hne : new ++ [({ node := id, bp := bp } : Block)] ≠ [] := by simp
  have hlast : lastNode root (pre ++ (new ++ [({ node := id, bp := bp } : Block)])) = id := by
    rw [← List.append_assoc, lastNode_concat]
  by_cases hc : st.hasChildren = true
  · rw [if_pos hc]
    refine OKL.ok ⟨c', _, by rw [hr2]; exact hri, hpad, hle, hwin, .inr ⟨rfl, hne⟩, hcompat, ?_, hlast.symm, ?_⟩
    · intro b hb
      rcases List.mem_append.1 hb with hb | hb
      · exact hallc b hb
      · simp only [List.mem_singleton] at hb; subst hb; exact hkids hc
    · rcases hprog hc with ⟨h, hbl⟩ | ⟨h1, h2⟩
      · refine .inl ⟨h, ?_⟩
        rw [hnd2, hkind1, hm.nb.kind]
        exact fun hk => hbl (kind_list hk)
      · refine .inr ⟨h1, ?_⟩
        have hd := hdue h2
        refine ⟨by rw [hnd2, hkind1, hm.nb.kind, h2]; rfl, ?_, ⟨⟨id, bp⟩, by rw [hop2]; simp, rfl⟩, hd.m, hd.th, hd.wasNotList⟩
        rw [hnd2, hch1 id (by omega)]
        exact hm.idkids h2
  · rw [if_neg hc]
    refine OKL.ok ⟨c', _, by rw [hr2]; exact hri, hpad, hle, hwin, .inr ⟨rfl, hne⟩, hcompat, leafy_snoc hallc _, ?_⟩
    rw [hlast, hnd2, hkind1, hm.nb.kind]
    intro hk
    exact hc (hlistHC (kind_list hk))

theorem upd_treeSame (s : St) (i : Nat) {f : Node → Node}
    (hf : ∀ n, (f n).kind = n.kind ∧ (f n).parent = n.parent ∧ (f n).children = n.children ∧ (f n).offset = n.offset) :
    TreeSame s (upd s i f) := by
  refine ⟨by simp [upd], fun j => ?_⟩
  rw [nd_upd]
  split
  · rename_i h; obtain ⟨rfl, _⟩ := h; exact hf _
  · exact ⟨rfl, rfl, rfl, rfl⟩

end GM.Blocks.L
