/-
  GM.Proof.ConvertHVMain — When the monitored driver `runV` (GM.Proof.ConvertHV) ends normally, so does the driver with AutoHeadingID, in the same `St` (`VSim`, `vhook`,
  `runH_of_runV`); GM.Props.C15Total composes it with the totality of `runV` (`converth_total_of_monitor`).
-/
import GM.Proof.ConvertHV
import GM.Proof.ConvertHSim
import GM.Proof.ConvertHIds
import GM.Proof.BlocksVT
import GM.Proof.ConvertHWFDrv

section ConvertHVSim
/-
  When the monitored driver `runV` (GM.Proof.ConvertHV) ends normally, so does the driver with
  AutoHeadingID, in the same `St` (`runH_of_runV`): the option's code in Close panics only in the `Value` call the monitor
  also makes (`Generate` always returns: GM.Proof.Ids.generate_isSome), and everything else it does stays in the second state layer.
  `VSim m m0`: whenever `m0` ends normally from `s`, `m` ends normally from every `(h, s)` with the same value and `St`.
-/

namespace GM.ConvertH
open GM GM.Text GM.Blocks GM.Convert

structure VSim {α : Type} (m : MH α) (m0 : M α) : Prop where
  h : ∀ h s a s', m0 s = .ok (a, s') → ∃ h', m h s = .ok ((a, h'), s')

theorem VSim.up {α} (x : M α) : VSim (up x) x :=
  ⟨fun h s a s' e => ⟨h, by rw [up_apply, e]⟩⟩

theorem VSim.pure {α} (a : α) : VSim (Pure.pure a : MH α) (Pure.pure a : M α) :=
  ⟨fun h s _ _ e => by cases e; exact ⟨h, rfl⟩⟩

theorem VSim.throw {α} (e : Panic) : VSim (throw e : MH α) (throw e : M α) := ⟨fun _ _ _ _ e => by cases e⟩

theorem VSim.bind {α β} {m : MH α} {m0 : M α} {f : α → MH β} {f0 : α → M β}
    (hm : VSim m m0) (hf : ∀ a, VSim (f a) (f0 a)) : VSim (m >>= f) (m0 >>= f0) := by
  constructor
  intro h s b s'' e
  obtain ⟨a, s', e1, e2⟩ := bind_ok e
  obtain ⟨h', e1'⟩ := hm.h h s a s' e1
  obtain ⟨h'', e2'⟩ := (hf a).h h' s' b s'' e2
  exact ⟨h'', by rw [Hoare.bind_apply₂, e1']; exact e2'⟩

def VHook : Prop := ∀ bp node, VSim (bpCloseH true bp node) (bpCloseV bp node)

theorem vsim_calc : SimCalc (fun _ _ => True) (fun _ m m0 => VSim m m0) :=
  ⟨fun x _ => VSim.up x, VSim.pure, VSim.throw, VSim.bind⟩

theorem parseBlocksH_vsim (hook : VHook) (pts : List PT) (parent : Nat) :
    VSim (parseBlocksH true pts parent) (parseBlocksV pts parent) := by
  rw [parseBlocksH_eqG, parseBlocksV_eqC]
  exact parseBlocksG_simH vsim_calc (hookSimH vsim_calc hook) (fun _ _ => trivial) parent

end GM.ConvertH
end ConvertHVSim

section ConvertHVMain

namespace GM.ConvertH
open GM GM.Text GM.Blocks GM.Convert

/-- with the last line's `Value` in hand, generateAutoHeadingID returns -/
theorem genTail_ok (node : Nat) (line : Bytes) (h : HS) (s : St) :
    ∃ h', (do
      let h ← getH
      match Ids.generate h.ids line true with
      | none => throw Panic.loop
      | some (id, tbl) =>
        setH { ids := tbl, attrs := setNodeAttr h.attrs node (Attr.nameId, .bytes id),
               ops := h.ops ++ [.gen line true], gens := h.gens ++ [{ node := node, text := line, id := id }] } : MH Unit) h s
        = .ok (((), h'), s) := by
  obtain ⟨id, hg⟩ := GM.Proof.Ids.generate_isSome h.ids line true
  simp only [Hoare.bind_apply₂, getH_apply, hg, setH_apply]
  exact ⟨_, rfl⟩

theorem generateAutoHeadingID_ok (node : Nat) (h : HS) (s : St) (s' : St) (e : valueCheck node s = .ok ((), s')) :
    s' = s ∧ ∃ h', generateAutoHeadingID node h s = .ok (((), h'), s) := by
  unfold valueCheck at e
  have e0 : getNode node s = .ok (s.nodes.getD node default, s) := rfl
  rw [m_bind_apply, e0] at e
  dsimp only at e
  unfold generateAutoHeadingID
  rw [Hoare.bind_apply₂, up_apply, e0]
  dsimp only
  cases hl : (s.nodes.getD node default).lines.getLast? with
  | none =>
    simp only [hl] at e ⊢
    cases e
    refine ⟨rfl, ?_⟩
    simp only [Hoare.bind_apply₂, mh_pure_apply]
    exact genTail_ok node [] h s
  | some seg =>
    simp only [hl] at e ⊢
    have e1 : source s = .ok (s.r.source, s) := rfl
    rw [m_bind_apply, e1] at e
    dsimp only at e
    rw [m_bind_apply] at e
    cases hv : seg.value s.r.source with
    | error x => simp only [liftE, hv, Except.map] at e; cases e
    | ok line =>
      simp only [liftE, hv, Except.map] at e
      cases e
      refine ⟨rfl, ?_⟩
      simp only [Hoare.bind_apply₂, up_apply, e1, liftE, hv, Except.map]
      exact genTail_ok node line h s

theorem autoIdClose_ok (node : Nat) (h : HS) (s : St) (s' : St) (e : valueCheck node s = .ok ((), s')) :
    s' = s ∧ ∃ h', autoIdClose node h s = .ok (((), h'), s) := by
  obtain ⟨es, h1, e1⟩ := generateAutoHeadingID_ok node h s s' e
  refine ⟨es, ?_⟩
  unfold autoIdClose
  rw [Hoare.bind_apply₂, getH_apply]
  dsimp only
  cases hl : attrLookup ((nodeAttrs h node).getD []) Attr.nameId with
  | none => exact ⟨h1, e1⟩
  | some v => cases v <;> exact ⟨_, rfl⟩

theorem vhook : VHook := by
  intro bp node
  constructor
  intro h s a s' e
  unfold bpCloseV at e
  obtain ⟨u, s1, e1, k1⟩ := bind_ok e
  unfold bpCloseH
  rw [Hoare.bind_apply₂, up_apply, e1]
  dsimp only
  cases hp : BP.isHeadingParser bp with
  | false =>
    simp only [hp, Bool.false_eq_true, if_false, Bool.and_false] at k1 ⊢
    cases k1
    exact ⟨h, rfl⟩
  | true =>
    simp only [hp, if_true, Bool.and_self] at k1 ⊢
    obtain ⟨es, h', e'⟩ := autoIdClose_ok node h s1 s' k1
    rw [es]
    exact ⟨h', e'⟩

theorem runH_of_runV (pts : List PT) (src : Bytes) (st : St) (e : runV pts src = .ok st) :
    ∃ hs, runH true pts src = .ok (hs, st) := by
  unfold runV at e
  cases hx : parseBlocksV pts 0 (initSt src) with
  | error x => rw [hx] at e; cases e
  | ok r =>
    obtain ⟨u, s'⟩ := r
    rw [hx] at e
    simp only [Except.map] at e
    cases e
    obtain ⟨h', eh⟩ := (parseBlocksH_vsim vhook pts 0).h {} (initSt src) u _ hx
    exact ⟨h', by unfold runH; rw [eh]; rfl⟩

end GM.ConvertH
end ConvertHVMain
