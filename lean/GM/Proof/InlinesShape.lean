/-
  GM.Proof.InlinesShape — what each default inline parser can answer, whatever the reader holds: the kind of node the
  reader-only parsers return, and the two outcomes of a link attempt. Each statement is proved forward through the binds of
  the parser, with a postcondition rule per construct (`Ans`); the invariants of the tree under construction (GM.Proof.Inlines
  and the files that follow its pattern) read the outcome off these.
-/
import GM.Model.InlinesLoop
import GM.Model.ExtStrike

namespace GM.Proof.Inlines
open GM GM.Text GM.Inl

def isText : Node → Bool
  | .text .. => true
  | _ => false

/-- every answer of `e` satisfies `Q`; nothing is claimed when `e` panics -/
def Ans {α : Type} (e : Except Panic α) (Q : α → Prop) : Prop := ∀ a, e = .ok a → Q a

theorem Ans.pure {α} {Q : α → Prop} {a : α} (h : Q a) : Ans (Pure.pure a) Q := fun _ e => by cases e; exact h

theorem Ans.ok {α} {Q : α → Prop} {a : α} (h : Q a) : Ans (.ok a) Q := fun _ e => by cases e; exact h

theorem bind_ok {α β : Type} {x : Except Panic α} {f : α → Except Panic β} {b : β}
    (h : (x >>= f) = .ok b) : ∃ a, x = .ok a ∧ f a = .ok b := by
  cases x with
  | error e => simp [bind, Except.bind] at h
  | ok a => exact ⟨a, rfl, h⟩

theorem Ans.bind {α β} {Q : β → Prop} {m : Except Panic α} {f : α → Except Panic β}
    (h : ∀ a, m = .ok a → Ans (f a) Q) : Ans (m >>= f) Q := fun b hb => by
  obtain ⟨a, ha, hb⟩ := bind_ok hb
  exact h a ha b hb

/-- a step with a postcondition of its own -/
theorem Ans.seq {α β} {P : α → Prop} {Q : β → Prop} {m : Except Panic α} {f : α → Except Panic β} (hm : Ans m P)
    (hf : ∀ a, P a → Ans (f a) Q) : Ans (m >>= f) Q := Ans.bind fun a ha => hf a (hm a ha)

/-- a step of which nothing is needed -/
theorem Ans.bind' {α β} {Q : β → Prop} {m : Except Panic α} {f : α → Except Panic β} (hf : ∀ a, Ans (f a) Q) :
    Ans (m >>= f) Q := Ans.bind fun a _ => hf a

theorem Ans.error {α} {Q : α → Prop} (x : Panic) : Ans (.error x) Q := fun _ e => by cases e

theorem Ans.throw_bind {α β} {Q : β → Prop} (x : Panic) (f : α → Except Panic β) :
    Ans ((MonadExcept.throw x : Except Panic α) >>= f) Q := fun _ e => by cases e

theorem Ans.throw {α} {Q : α → Prop} (x : Panic) : Ans (MonadExcept.throw x : Except Panic α) Q := fun _ e => by cases e

theorem Ans.ite {α} {Q : α → Prop} {c : Prop} [Decidable c] {a b : Except Panic α} (ha : Ans a Q) (hb : Ans b Q) :
    Ans (if c then a else b) Q := by
  split <;> assumption

/-- the node a parser returns, if it returns one, satisfies `P` -/
def onNode {σ : Type} (P : Node → Prop) (r : Option Node × σ) : Prop := ∀ n, r.1 = some n → P n

theorem onNode_none {σ} {P : Node → Prop} {s : σ} : onNode P (none, s) := fun _ e => by cases e

theorem onNode_some {σ} {P : Node → Prop} {n : Node} {s : σ} (h : P n) : onNode P (some n, s) :=
  fun _ e => by cases e; exact h

theorem Ans.node {σ} {e : Except Panic (Option Node × σ)} {P : Node → Prop} (h : Ans e (onNode P)) {n : Node} {s : σ}
    (he : e = .ok (some n, s)) : P n := h _ he _ rfl

/-! ### the parsers that only move the reader -/

theorem parseEmphasis_shape (env : Env) (id : Nat) (rd : BlockReader) :
    Ans (parseEmphasis env id rd) (onNode fun n => ∃ d, n = .delim id d) := by
  unfold parseEmphasis
  refine Ans.bind fun before _ => Ans.bind fun ⟨⟨line, segment⟩, rd1⟩ _ => Ans.bind fun d _ => ?_
  split
  · exact Ans.pure onNode_none
  · exact Ans.bind fun rd2 _ => Ans.pure (onNode_some ⟨_, rfl⟩)

theorem parseAutoLink_shape (rd : BlockReader) : Ans (parseAutoLink rd) (onNode fun n => ∃ e s, n = .autoLink e s) := by
  unfold parseAutoLink
  refine Ans.bind fun ⟨⟨line, segment⟩, rd1⟩ _ => ?_
  dsimp only
  refine Ans.ite (Ans.throw_bind _ _) (Ans.ite (Ans.pure onNode_none) (Ans.ite (Ans.pure onNode_none) ?_))
  exact Ans.bind fun rd2 _ => Ans.pure (onNode_some ⟨_, _, rfl⟩)

theorem parseTag_shape (m : Bytes → Option Nat) (rd : BlockReader) :
    Ans (parseTag m rd) (onNode fun n => ∃ segs, n = .rawHTML segs) := by
  unfold parseTag
  dsimp only
  refine Ans.bind fun stream _ => Ans.bind fun rd1 _ => ?_
  split
  · exact Ans.pure onNode_none
  · exact Ans.bind fun rd2 _ => Ans.bind fun rd3 _ => Ans.bind fun x _ => Ans.pure (onNode_some ⟨_, rfl⟩)

theorem parseRawHTML_shape (rd : BlockReader) : Ans (parseRawHTML rd) (onNode fun n => ∃ segs, n = .rawHTML segs) := by
  unfold parseRawHTML
  refine Ans.bind fun ⟨⟨line, segment⟩, rd1⟩ _ => ?_
  dsimp -zeta only
  extract_lets line at1 at2 untilP
  have hu (closer : Bytes) (offset : Nat) : Ans (untilP closer offset) (onNode fun n => ∃ segs, n = .rawHTML segs) := by
    refine Ans.bind fun ⟨res, rd2⟩ _ => ?_
    dsimp only
    split
    · exact Ans.pure (onNode_some ⟨_, rfl⟩)
    · exact Ans.pure onNode_none
  refine Ans.ite (parseTag_shape _ _) (Ans.ite (parseTag_shape _ _) (Ans.ite ?_ ?_))
  · refine Ans.ite ?_ (Ans.ite ?_ (hu _ _))
    · exact Ans.bind fun rd2 _ => Ans.pure (onNode_some ⟨_, rfl⟩)
    · exact Ans.bind fun rd2 _ => Ans.pure (onNode_some ⟨_, rfl⟩)
  · exact Ans.ite (hu _ _) (Ans.ite (hu _ _) (Ans.ite (hu _ _) (Ans.pure onNode_none)))

theorem all_isText_append {a b : List Node} : (a ++ b).all isText = (a.all isText && b.all isText) := by simp

theorem csLoop_shape (opener : Nat) (l : Int) (pos ss : Segment) :
    ∀ (fuel : Nat) (rd : BlockReader) (acc : List Node), acc.all isText = true →
    Ans (csLoop opener l pos ss fuel rd acc) fun r =>
      match r.1 with | .inl t => ∃ s, t = textOf s | .inr ks => ks.all isText = true
  | 0, _, _, _ => fun _ e => by cases e
  | fuel + 1, rd, acc, ha => by
    have ha' (s : Segment) : (acc ++ [rawTextOf s]).all isText = true := by rw [all_isText_append, ha]; rfl
    unfold csLoop
    refine Ans.bind fun ⟨⟨line, segment⟩, rd1⟩ _ => ?_
    dsimp only
    split
    · exact Ans.bind fun rd2 _ => Ans.pure ⟨_, rfl⟩
    · split
      · refine Ans.bind fun rd2 _ => Ans.pure ?_
        dsimp only
        split
        · exact ha' _
        · exact ha
      · exact Ans.bind fun rd2 _ => csLoop_shape opener l pos ss fuel rd2 _ (ha' _)

theorem all_isText_dropLast {l : List Node} (h : l.all isText = true) : l.dropLast.all isText = true := by
  simp only [List.all_eq_true] at *
  intro n hn
  exact h n (List.dropLast_subset _ hn)

theorem csTrim_shape {src : Bytes} {ks : List Node} (ha : ks.all isText = true) :
    Ans (csTrim src ks) fun ks' => ks'.all isText = true := by
  have h1 : (match ks with
      | Node.text seg s h r :: rest => Node.text (seg.withStart (seg.start + 1)) s h r :: rest
      | k => k).all isText = true := by
    split
    · simpa [isText] using ha
    · exact ha
  unfold csTrim
  refine Ans.bind fun blank _ => Ans.ite (Ans.pure ha) ?_
  dsimp only
  split
  · refine Ans.bind fun first _ => ?_
    split
    · refine Ans.bind fun last _ => Ans.bind fun a _ => Ans.bind fun b _ => Ans.ite (Ans.pure ha) ?_
      split
      · exact Ans.pure (by rw [all_isText_append, Bool.and_eq_true]; exact ⟨all_isText_dropLast h1, rfl⟩)
      · exact Ans.pure h1
    · exact Ans.throw_bind _ _
    · exact Ans.throw_bind _ _
  · exact Ans.throw_bind _ _
  · exact Ans.throw_bind _ _

theorem parseCodeSpan_shape (rd : BlockReader) :
    Ans (parseCodeSpan rd) (onNode fun n => (∃ s, n = textOf s) ∨ ∃ ks, n = .codeSpan ks ∧ ks.all isText = true) := by
  unfold parseCodeSpan
  refine Ans.bind fun ⟨⟨line, startSegment⟩, rd1⟩ _ => Ans.bind fun rd2 _ => Ans.bind fun ⟨res, rd3⟩ hl => ?_
  have sh := csLoop_shape _ _ _ _ _ _ [] rfl _ hl
  dsimp only
  split
  · exact Ans.pure (onNode_some (.inl sh))
  · exact Ans.bind fun ks' ht => Ans.pure (onNode_some (.inr ⟨_, rfl, csTrim_shape sh _ ht⟩))

theorem labelOpen_cases (st : St) (pos : Int) (im : Bool) :
    Ans (labelOpen st pos im) fun r => ∃ seg rd, r = (some (.label st.nextId seg im), { st with rd := rd, nextId := st.nextId + 1 }) :=
  Ans.bind fun rd _ => Ans.pure ⟨_, rd, rfl⟩

/-- the two outcomes of a link attempt on `st` over the label processing `pll`: no link and only the reader has moved, or
    the link made of what `pll` answered behind some reader -/
def LinkCase (pll : St → Except Panic (List Node × St)) (st : St) (res : Option LinkInfo) (st' : St) : Prop :=
  (res = none ∧ ∃ rd, st' = { st with rd := rd }) ∨
  ∃ rd d t post, pll { st with rd := rd } = .ok (post, st') ∧ res = some { dest := d, title := t, kids := post }

variable (pd : PD)

theorem parseLinkInlineG_cases (st : St) :
    Ans (parseLinkInlineG pd st) fun r => LinkCase (processLinkLabelG pd) st r.1 r.2 := by
  unfold parseLinkInlineG
  refine Ans.bind fun rd0 _ => Ans.bind fun ⟨_, rd1⟩ _ => ?_
  dsimp -zeta only
  extract_lets finish
  have hf (rd : BlockReader) (d : Bytes) (t : Option Bytes) :
      Ans (finish rd d t) fun r => LinkCase (processLinkLabelG pd) st r.1 r.2 :=
    Ans.bind fun ⟨post, st'⟩ h => Ans.pure (.inr ⟨rd, d, t, post, h, rfl⟩)
  have hn (rd : BlockReader) :
      Ans (Pure.pure (none, { st with rd := rd })) fun r => LinkCase (processLinkLabelG pd) st r.1 r.2 :=
    Ans.pure (.inl ⟨rfl, rd, rfl⟩)
  refine Ans.bind fun c _ => Ans.ite (Ans.bind fun rd2 _ => hf _ _ _) ?_
  refine Ans.bind fun ⟨dest, rd2⟩ _ => ?_
  dsimp only
  split
  · exact hn _
  · refine Ans.bind fun ⟨⟨_, spaces, _⟩, rd3⟩ _ => Ans.bind fun c _ => ?_
    refine Ans.ite (Ans.bind fun rd4 _ => hf _ _ _) (Ans.ite (hn _) ?_)
    refine Ans.bind fun ⟨title, rd4⟩ _ => ?_
    dsimp only
    split
    · exact hn _
    · refine Ans.bind fun ⟨_, rd5⟩ _ => Ans.bind fun c _ => ?_
      exact Ans.ite (Ans.bind fun rd6 _ => hf _ _ _) (hn _)

theorem parseReferenceLinkG_cases (env : Env) (st : St) (lseg : Segment) :
    Ans (parseReferenceLinkG pd env st lseg) fun r => LinkCase (processLinkLabelG pd) st r.1.1 r.2 := by
  unfold parseReferenceLinkG
  refine Ans.bind fun rd0 _ => Ans.bind fun ⟨⟨segs, found⟩, rd1⟩ _ => ?_
  have hn (hv : Bool) : Ans (Pure.pure ((none, hv), { st with rd := rd1 }))
      fun r => LinkCase (processLinkLabelG pd) st r.1.1 r.2 :=
    Ans.pure (.inl ⟨rfl, rd1, rfl⟩)
  dsimp -zeta only
  refine Ans.ite (hn _) (Ans.bind fun ref0 _ => Ans.ite (hn _) ?_)
  extract_lets lookup
  have hl (ref : Bytes) : Ans (lookup ref) fun r => LinkCase (processLinkLabelG pd) st r.1.1 r.2 := by
    refine Ans.ite (hn _) ?_
    split
    · exact hn _
    · exact Ans.bind fun ⟨post, st'⟩ h => Ans.pure (.inr ⟨rd1, _, _, post, h, rfl⟩)
  exact Ans.ite (Ans.bind fun _ _ => hl _) (Ans.bind fun _ _ => hl _)

theorem linkTryG_cases {env : Env} {st st' : St} {lseg : Segment} {c : UInt8} {link : Option LinkInfo} {hv : Bool}
    (h : linkTryG pd env st lseg c = .ok (link, hv, st')) : LinkCase (processLinkLabelG pd) st link st' := by
  unfold linkTryG at h
  split at h
  · split at h
    · rename_i hl
      cases h
      exact parseLinkInlineG_cases pd st _ hl
    · contradiction
  · split at h
    · split at h
      · rename_i hl
        cases h
        exact parseReferenceLinkG_cases pd env st lseg _ hl
      · contradiction
    · cases h
      exact .inl ⟨rfl, st.rd, rfl⟩

/-! ### the link parser keeps an invariant of the children -/

theorem splitFirstLabel_eq {l pre post : List Node} {id : Nat} {seg : Segment} {im : Bool}
    (h : splitFirstLabel l = some (pre, (id, seg, im), post)) : l = pre ++ .label id seg im :: post := by
  induction l generalizing pre with
  | nil => simp [splitFirstLabel] at h
  | cons n rest ih =>
    cases n with
    | label i sg m => simp [splitFirstLabel] at h; obtain ⟨rfl, ⟨rfl, rfl, rfl⟩, rfl⟩ := h; simp
    | _ =>
      simp only [splitFirstLabel] at h
      split at h
      · rename_i p x po heq
        simp at h; obtain ⟨rfl, rfl, rfl⟩ := h
        simp [ih heq]
      · simp at h

theorem splitLastLabel_eq {l pre post : List Node} {id : Nat} {seg : Segment} {im : Bool}
    (h : splitLastLabel l = some (pre, (id, seg, im), post)) : l = pre ++ .label id seg im :: post := by
  unfold splitLastLabel at h
  split at h
  · rename_i postR x preR heq
    simp at h; obtain ⟨rfl, rfl, rfl⟩ := h
    have := splitFirstLabel_eq heq
    have h2 := congrArg List.reverse this
    simpa using h2
  · simp at h

theorem popBottom_kids (st : St) : (popBottom st).2.kids = st.kids := by
  unfold popBottom; split <;> rfl

theorem pushBottom_kids (st : St) : (pushBottom st).kids = st.kids := rfl

/-- what `processLinkLabelG` answers: the children `pd` hands back are `pre`, the last label and the answer `r.1`, which holds
    neither a listed delimiter nor a label; the label is the last child of the new state -/
theorem processLinkLabelG_cases (st : St) :
    Ans (processLinkLabelG pd st) fun r => ∃ kids pre lid lseg im,
      pd (popBottom st).1 st.kids = .ok kids ∧ kids = pre ++ .label lid lseg im :: r.1 ∧
      r.1.any Node.isDelim = false ∧ hasLabelL r.1 = false ∧
      (∀ pre0 x0 post0, splitLastLabel st.kids = some (pre0, x0, post0) → hasLabelL post0 = false) ∧
      r.2 = { (popBottom st).2 with kids := pre ++ [.label lid lseg im] } := by
  intro r h
  unfold processLinkLabelG at h
  simp only [popBottom_kids] at h
  split at h
  · contradiction
  · rename_i hs0
    split at h
    · contradiction
    · rename_i hl0
      split at h
      · contradiction
      · rename_i kids hp
        split at h
        · contradiction
        · rename_i pre lid lseg im po hs
          split at h
          · contradiction
          · rename_i hg
            cases h
            simp only [Bool.or_eq_true, not_or, Bool.not_eq_true] at hg hl0
            refine ⟨kids, pre, lid, lseg, im, hp, splitLastLabel_eq hs, hg.1, hg.2, ?_, rfl⟩
            intro pre0 x0 post0 h0
            rw [hs0] at h0
            cases h0
            exact hl0

section walk
variable {pd} {K : List Node → Prop} {N : Node → Prop}

/-- a parser call keeps `K` of the children and answers a node with `N` -/
def LinkKeeps (K : List Node → Prop) (N : Node → Prop) (r : Option Node × St) : Prop := K r.2.kids ∧ onNode N r

variable (hlabel : ∀ id seg im, N (.label id seg im))
  (hfail : ∀ pre id seg im post, K (pre ++ .label id seg im :: post) → K (mergeOrAppend pre seg ++ post))
  (hdone : ∀ (st : St) pre0 id seg im post0 post st', K st.kids →
    splitLastLabel st.kids = some (pre0, (id, seg, im), post0) → (im || !containsLinkL post0) = true →
    processLinkLabelG pd st = .ok (post, st') → K st'.kids.dropLast ∧ ∀ d t, N (.link im d t post))

include hfail hdone in
/-- the `]` branch: the label becomes text in front of what followed it, or the children `processLinkLabelG` answered become
    a link where an image or no link below is allowed -/
theorem parseLinkCloseG_keeps (env : Env) (st : St) (segment : Segment) (hk : K st.kids) :
    Ans (parseLinkCloseG pd env st segment) (LinkKeeps K N) := by
  unfold parseLinkCloseG
  split
  · exact Ans.ok ⟨hk, onNode_none⟩
  · rename_i pre lid lseg isImage post hs
    have hf (s : St) : Ans (linkFail pre lseg post s) (LinkKeeps K N) :=
      Ans.ok ⟨hfail _ _ _ _ _ (splitLastLabel_eq hs ▸ hk), onNode_none⟩
    have hd (rd : BlockReader) (d : Bytes) (t : Option Bytes) (post' : List Node) (st' : St)
        (hi : (isImage || !containsLinkL post) = true)
        (h : processLinkLabelG pd { st with rd := rd } = .ok (post', st')) :
        Ans (linkDone isImage { dest := d, title := t, kids := post' } st') (LinkKeeps K N) := by
      obtain ⟨a1, a2⟩ := hdone { st with rd := rd } _ _ _ _ _ _ _ hk hs hi h
      exact Ans.ok ⟨a1, onNode_some (a2 d t)⟩
    refine Ans.bind fun rd _ => ?_
    dsimp only
    split
    · exact hf _
    · split
      · exact hf _
      · rename_i hchk
        have hi : (isImage || !containsLinkL post) = true := by
          cases isImage <;> cases hcl : containsLinkL post <;> simp_all
        refine Ans.bind fun c _ => ?_
        refine Ans.bind fun ⟨link, hasValue, st2⟩ ht => ?_
        dsimp only
        rcases linkTryG_cases pd ht with ⟨rfl, rd2, rfl⟩ | ⟨rd2, d, t, post', h, rfl⟩
        · dsimp only
          split
          · exact hf _
          · unfold linkShortcutG
            refine Ans.bind fun rd3 _ => Ans.bind fun ref _ => ?_
            split
            · exact hf _
            · split
              · exact hf _
              · exact Ans.bind fun ⟨post', st'⟩ h => hd _ _ _ _ _ hi h
        · exact hd _ _ _ _ _ hi h

include hlabel hfail hdone in
theorem parseLinkG_keeps (env : Env) (st : St) (hk : K st.kids) : Ans (parseLinkG pd env st) (LinkKeeps K N) := by
  have hopen (s : St) (pos : Int) (im : Bool) (hs : s.kids = st.kids) : Ans (labelOpen s pos im) (LinkKeeps K N) := fun r h => by
    obtain ⟨seg, rd, rfl⟩ := labelOpen_cases s pos im r h
    exact ⟨hs ▸ hk, onNode_some (hlabel _ _ _)⟩
  unfold parseLinkG
  refine Ans.bind fun ⟨⟨line, segment⟩, rd⟩ _ => ?_
  dsimp only
  split
  · exact Ans.throw _
  · split
    · split
      · exact Ans.bind fun rd1 _ => hopen _ _ _ rfl
      · exact Ans.pure ⟨hk, onNode_none⟩
    · split
      · exact hopen _ _ _ rfl
      · exact parseLinkCloseG_keeps hfail hdone env { st with rd := rd } segment hk

end walk

end GM.Proof.Inlines
