/-
  GM.Proof.ShiftSimXRi — the six parsers of `Cov6` keep the reader invariant of run A (`Sh.lb_RIs`): every
  `Advance(n)` they make has `0 ≤ n`, also at the end of the source. Where a parser's totality contract assumes no more than
  `RI`, the invariant is a conjunct of its post (`xri_of_okl`).
-/
import GM.Proof.ShiftSimXHcl
import GM.Proof.ShiftSimListB
import GM.Proof.BlocksSpecBasic

namespace GM.Blocks.Xs
open GM GM.Text GM.Spec GM.Proof.Reader GM.Blocks

theorem xri_advance_keeps (b : Bytes) (n : Int) (hn : 0 ≤ n) : Keeps (Sh.lb_RIs b) (advance n) := by
  intro s a s' ⟨c, hc⟩ h
  obtain ⟨r', h1, h2⟩ := ri_advance hc hn
  unfold GM.Blocks.advance at h
  rw [h1] at h
  cases h
  exact ⟨_, h2⟩

/-- `PeekLine` first: the rest may use that the value is the view of some cursor of the invariant -/
theorem xri_peek_bind (b : Bytes) {β} {f : Option Bytes × Segment → M β}
    (hf : ∀ (c : RCur) (r : Reader), RI b r c → Keeps (Sh.lb_RIs b) (f (RCur.view b c, RCur.seg b c))) :
    Keeps (Sh.lb_RIs b) (peekLine >>= f) := by
  intro s a s' ⟨c, hc⟩ h
  obtain ⟨r', h1, h2⟩ := ri_peekLine hc
  simp only [Bind.bind, StateT.bind] at h
  unfold GM.Blocks.peekLine at h
  rw [h1] at h
  simp only [Except.bind, bind, pure, Except.pure] at h
  exact hf c r' h2 _ a s' ⟨c, h2⟩ h

theorem xri_keeps_of_post {b : Bytes} {α} {m : M α}
    (h : ∀ s c, RI b s.r c → xh_Post (fun _ s' => Sh.lb_RIs b s') (m s)) : Keeps (Sh.lb_RIs b) m :=
  fun s a s' ⟨c, hc⟩ e => h s c hc a s' e

theorem xri_post_of_keeps {b : Bytes} {α} {m : M α} (h : Keeps (Sh.lb_RIs b) m) (s : St) (hs : Sh.lb_RIs b s) :
    xh_Post (fun _ s' => Sh.lb_RIs b s') (m s) := fun a s' e => h s a s' hs e

macro "xri_step" : tactic =>
  `(tactic| first
    | with_reducible apply Keeps.pure
    | with_reducible apply Keeps.bind
    | with_reducible apply Keeps.ite
    | with_reducible apply Keeps.throw
    | with_reducible apply getNode_keeps
    | with_reducible apply getPc_keeps
    | with_reducible apply source_keeps
    | with_reducible apply position_keeps
    | with_reducible apply liftE_keeps
    | with_reducible apply lastOpenedBlock_keeps
    | with_reducible apply Sh.lb_peekLine_keeps
    | with_reducible apply Sh.lb_lineOffset_keeps
    | (with_reducible apply modNode_keeps; exact Sh.lb_noNodes _)
    | (with_reducible apply newNode_keeps; exact Sh.lb_noNodes _)
    | (with_reducible apply appendLine_keeps; exact Sh.lb_noNodes _)
    | (with_reducible apply xri_advance_keeps; assumption)
    | intro_pi
    | split)

macro "xri" : tactic => `(tactic| repeat' xri_step)

theorem xri_line_of_notBlank {b : Bytes} {c : RCur} (h : ¬ isBlank ((RCur.view b c).getD []) = true) :
    c.p < b.length := by
  rcases Nat.lt_or_ge c.p b.length with hp | hp
  · exact hp
  · exfalso; apply h
    rw [view_none b c (by omega)]; exact isBlank_nil

theorem xri_of_okl {b : Bytes} {α} {m : M α}
    (h : ∀ (s : St) (c : RCur), RI b s.r c → OKL (fun _ s' => ∃ c', RI b s'.r c') (m s)) : Keeps (Sh.lb_RIs b) m :=
  fun s a s' ⟨c, hc⟩ e => xh_Post.of_okl (h s c hc) a s' e

theorem xri_paragraphOpen (b : Bytes) (p : Nat) : Keeps (Sh.lb_RIs b) (paragraphOpen p) :=
  xri_of_okl fun _ _ hc => (paragraphOpen_okl hc p).mono fun _ _ ⟨_, c', hs, hri, _⟩ => ⟨c', by rw [hs]; exact hri⟩

theorem xri_paragraphContinue (b : Bytes) (n : Nat) : Keeps (Sh.lb_RIs b) (paragraphContinue n) :=
  xri_of_okl fun _ _ hc => (paragraphContinue_okl hc n).mono fun _ _ ⟨_, c', hs, hri, _⟩ => ⟨c', by rw [hs]; exact hri⟩

theorem xri_thematicOpen (b : Bytes) (p : Nat) : Keeps (Sh.lb_RIs b) (thematicOpen p) :=
  xri_of_okl fun _ _ hc => (thematicOpen_okl hc p).mono fun _ _ ⟨_, c', hs, hri, _⟩ => ⟨c', by rw [hs]; exact hri⟩

theorem xri_atxOpen (b : Bytes) (p : Nat) : Keeps (Sh.lb_RIs b) (atxOpen p) :=
  xri_of_okl fun _ c hc => (atxOpen_okl hc p).mono fun _ _ ⟨_, hs, hri, _⟩ => ⟨c, by rw [hs]; exact hri⟩

theorem xri_blockquoteProcess (b : Bytes) : Keeps (Sh.lb_RIs b) blockquoteProcess :=
  xri_of_okl fun _ _ hc => (blockquoteProcess_okl hc).mono fun _ _ ⟨_, c', hs, hri, _⟩ => ⟨c', by rw [hs]; exact hri⟩

theorem xri_blockquoteOpen (b : Bytes) (p : Nat) : Keeps (Sh.lb_RIs b) (blockquoteOpen p) := by
  have := xri_blockquoteProcess b
  unfold blockquoteOpen
  refine Keeps.bind this (fun x => ?_)
  xri

theorem xri_blockquoteContinue (b : Bytes) (n : Nat) : Keeps (Sh.lb_RIs b) (blockquoteContinue n) := by
  have := xri_blockquoteProcess b
  unfold blockquoteContinue
  refine Keeps.bind this (fun x => ?_)
  xri

/-! ### HTML block, indented code block

The contracts of these four (`htmlOpen_spec` … `codeContinue_spec`) are stated under `LineCtx` (`c.p < src.length`, `PadOK`,
`NodesOK`) and their `Continue` post holds `RIa` only; `lb_RIs` is a bare `RI`, also on the empty view at the end of the source: so they
are walked here. -/

theorem xri_htmlOpen (b : Bytes) (p : Nat) : Keeps (Sh.lb_RIs b) (htmlOpen p) := by
  unfold htmlOpen
  refine xri_peek_bind b (fun c r hc => ?_)
  have hn := qh_html_adv_nonneg hc
  simp only
  generalize (RCur.view b c).getD [] = line at hn ⊢
  generalize RCur.seg b c = segment at hn ⊢
  xri

theorem xri_htmlContinue (b : Bytes) (n : Nat) : Keeps (Sh.lb_RIs b) (htmlContinue n) := by
  unfold htmlContinue
  refine Keeps.bind (getNode_keeps _) (fun nd => ?_)
  refine xri_peek_bind b (fun c r hc => ?_)
  have hn := qh_html_adv_nonneg hc
  simp only
  generalize (RCur.view b c).getD [] = line at hn ⊢
  generalize RCur.seg b c = segment at hn ⊢
  xri

theorem xri_newNode_post (n : Node) (s : St) : xh_Post (fun _ s' => s'.r = s.r) (newNode n s) := by
  intro a s' h
  unfold newNode at h
  cases h; rfl

/-- the common tail after `indentPosition` on a line that is not blank -/
theorem xri_codeTake (b : Bytes) {s : St} {c : RCur} (hc : RI b s.r c) (node : Nat) (lo : Int)
    (hbl : ¬ isBlank ((RCur.view b c).getD []) = true)
    (hneg : ¬ (indentPosition ((RCur.view b c).getD []) lo 4).1 < 0) :
    xh_Post (fun _ s' => Sh.lb_RIs b s')
      (codeTakeLine node (indentPosition ((RCur.view b c).getD []) lo 4).1
        (indentPosition ((RCur.view b c).getD []) lo 4).2 s) := by
  have hp := xri_line_of_notBlank hbl
  have hvl := view_getD_length_nat b c hp
  generalize (RCur.view b c).getD [] = line at hvl hbl hneg ⊢
  have hbd := indentPosition_bounds line lo
  generalize indentPosition line lo 4 = pp at hbd hneg ⊢
  obtain ⟨pos, pd⟩ := pp
  simp only at hbd hneg ⊢
  have hnb : isBlank line = false := by
    cases hh : isBlank line with
    | true => exact absurd hh hbl
    | false => rfl
  obtain ⟨_, _, hb3, _⟩ := hbd (by omega)
  have hlt := hb3 hnb
  have hok : CodeTakeOK b c pos := ⟨hp, by omega⟩
  refine (xh_codeTakeLine_post hc node (by omega) pd hok).mono ?_
  intro _ s' ⟨c', h', _⟩
  exact ⟨c', h'⟩

theorem xri_codeOpen (b : Bytes) (p : Nat) : Keeps (Sh.lb_RIs b) (codeOpen p) := by
  apply xri_keeps_of_post; intro s c hc
  unfold codeOpen
  refine xh_Post.bind (xh_Post.of_okl (peekLine_okl hc)) (fun x s1 ⟨hx, r1, hs1, h1⟩ => ?_)
  subst hx hs1
  simp only
  refine xh_Post.bind (xh_Post.of_okl (lineOffset_okl (s := { s with r := r1 }) h1)) (fun lo s2 ⟨_, r2, hs2, h2⟩ => ?_)
  subst hs2
  have key := fun (s3 : St) (h3 : RI b s3.r c) (node : Nat) => xri_codeTake b (s := s3) h3 node lo
  generalize (RCur.view b c).getD [] = line at key ⊢
  generalize indentPosition line lo 4 = pp at key ⊢
  obtain ⟨pos, pd⟩ := pp
  simp only at key ⊢
  by_cases hcnd : (decide (pos < 0) || isBlank line) = true
  · rw [if_pos hcnd]; exact xh_Post.pure ⟨c, h2⟩
  · rw [if_neg hcnd]
    have hneg : ¬ pos < 0 := by intro h; apply hcnd; simp [h]
    have hbl : ¬ isBlank line = true := by intro h; apply hcnd; simp [h]
    refine xh_Post.bind (xri_newNode_post _ _) (fun node s3 hs3 => ?_)
    have h3 : RI b s3.r c := by rw [hs3]; exact h2
    refine xh_Post.bind (key s3 h3 node hbl hneg) (fun _ s4 h4 => ?_)
    exact xh_Post.pure h4

theorem xri_codeContinue (b : Bytes) (n : Nat) : Keeps (Sh.lb_RIs b) (codeContinue n) := by
  apply xri_keeps_of_post; intro s c hc
  unfold codeContinue
  refine xh_Post.bind (xh_Post.of_okl (peekLine_okl hc)) (fun x s1 ⟨hx, r1, hs1, h1⟩ => ?_)
  subst hx hs1
  simp only
  by_cases hbl : isBlank ((RCur.view b c).getD []) = true
  · rw [if_pos hbl]
    refine xri_post_of_keeps ?_ _ ⟨c, h1⟩
    xri
  · rw [if_neg hbl]
    refine xh_Post.bind (xh_Post.of_okl (lineOffset_okl (s := { s with r := r1 }) h1)) (fun lo s2 ⟨_, r2, hs2, h2⟩ => ?_)
    subst hs2
    have key := xri_codeTake b (s := { s with r := r2 }) h2 n lo hbl
    generalize (RCur.view b c).getD [] = line at key ⊢
    generalize indentPosition line lo 4 = pp at key ⊢
    obtain ⟨pos, pd⟩ := pp
    simp only at key ⊢
    by_cases hneg : pos < 0
    · rw [if_pos hneg]; exact xh_Post.pure ⟨c, h2⟩
    · rw [if_neg hneg]
      refine xh_Post.bind (key hneg) (fun _ s4 h4 => ?_)
      exact xh_Post.pure h4

theorem ri_open6 (src : Bytes) : ∀ bp, Cov6 bp → ∀ p, Keeps (Sh.lb_RIs src) (bpOpen bp p) := by
  intro bp h p
  cases bp <;> unfold bpOpen
  · exact absurd rfl h.2.2.1
  · exact xri_thematicOpen src p
  · exact absurd rfl h.1
  · exact absurd rfl h.2.1
  · exact xri_codeOpen src p
  · exact xri_atxOpen src p
  · exact absurd rfl h.2.2.2
  · exact xri_blockquoteOpen src p
  · exact xri_htmlOpen src p
  · exact xri_paragraphOpen src p

theorem ri_continue6 (src : Bytes) : ∀ bp, Cov6 bp → ∀ n, Keeps (Sh.lb_RIs src) (bpContinue bp n) := by
  intro bp h n
  cases bp <;> unfold bpContinue
  · exact Keeps.pure _
  · exact Keeps.pure _
  · exact absurd rfl h.1
  · exact absurd rfl h.2.1
  · exact xri_codeContinue src n
  · exact Keeps.pure _
  · exact absurd rfl h.2.2.2
  · exact xri_blockquoteContinue src n
  · exact xri_htmlContinue src n
  · exact xri_paragraphContinue src n

end GM.Blocks.Xs
