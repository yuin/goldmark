/-
  GM.Proof.AstSort — SortChildren (ast.go:258-288) refines `sortList` (insertion sort on the child list).
-/
import GM.Proof.AstHeap

namespace GM.Proof.AstHeap
open GM.Spec GM.Spec.Forest GM.AstHeap GM.Proof.ForestLists

theorem sortIns_all_lt {cmp : Nat → Nat → Int} {a : Nat} {l : List Nat} (hl : ∀ w ∈ l, cmp w a < 0) :
    sortIns cmp a l = l ++ [a] := by
  induction l with
  | nil => rfl
  | cons b t ih =>
    have hb := hl b (by simp)
    simp only [sortIns, hb, ↓reduceIte, List.cons_append]
    rw [ih (fun w hw => hl w (by simp [hw]))]

theorem sortIns_split {cmp : Nat → Nat → Int} {a d : Nat} {pre post : List Nat}
    (hl : ∀ w ∈ pre, cmp w a < 0) (hd : ¬ cmp d a < 0) :
    sortIns cmp a (pre ++ d :: post) = pre ++ a :: d :: post := by
  induction pre with
  | nil => simp [sortIns, hd]
  | cons b t ih =>
    have hb := hl b (by simp)
    simp only [List.cons_append, sortIns, hb, ↓reduceIte]
    rw [ih (fun w hw => hl w (by simp [hw]))]

theorem insBefore_split {a d : Nat} {pre post : List Nat} (hd : d ∉ pre) :
    insBefore a d (pre ++ d :: post) = pre ++ a :: d :: post := by
  induction pre with
  | nil => simp [insBefore]
  | cons b t ih =>
    have hb : b ≠ d := fun e => hd (by simp [e])
    simp only [List.cons_append, insBefore, hb, ↓reduceIte]
    rw [ih (fun hm => hd (by simp [hm]))]

theorem nextIn_append_cons {c : Nat} {pre t : List Nat} (hc : c ∉ pre) :
    nextIn (pre ++ c :: t) c = t.head? := by
  induction pre with
  | nil => simp [nextIn]
  | cons b u ih =>
    have hb : b ≠ c := fun e => hc (by simp [e])
    simp only [List.cons_append, nextIn, hb, ↓reduceIte]
    exact ih (fun hm => hc (by simp [hm]))

/-! ### the inner loop finds the insertion point -/

theorem sortInner_spec {hh : Heap} {cmp : Nat → Nat → Int} {a : Nat} {acc : List Nat}
    (nd : acc.Nodup) (hn : ∀ x ∈ acc, hh.next x = nextIn acc x) :
    ∀ (post pre : List Nat) (c fuel : Nat), acc = pre ++ c :: post → post.length < fuel →
      cmp c a < 0 → (∀ w ∈ pre, cmp w a < 0) →
      ∃ c', sortInner hh cmp a fuel c = .ok c' ∧ c' ∈ acc ∧
        sortIns cmp a acc = insBeforeOpt a (nextIn acc c') acc := by
  intro post pre c fuel
  induction fuel generalizing post pre c with
  | zero => intro _ hf; simp at hf
  | succ k ih =>
    intro hacc hf hc hpre
    have hcm : c ∈ acc := by rw [hacc]; simp
    have hcp : c ∉ pre := fun hm => (List.nodup_append.1 (hacc ▸ nd)).2.2 c hm c (by simp) rfl
    have hnx : nextIn acc c = post.head? := by rw [hacc, nextIn_append_cons hcp]
    have hpc : ∀ w ∈ pre ++ [c], cmp w a < 0 := by
      intro w hw
      rcases List.mem_append.1 hw with h1 | h1
      · exact hpre w h1
      · rw [List.mem_singleton.1 h1]; exact hc
    have hacc' : acc = (pre ++ [c]) ++ post := by rw [hacc]; simp
    cases post with
    | nil =>
      refine ⟨c, by simp [sortInner, hn c hcm, hnx], hcm, ?_⟩
      rw [hnx, hacc', List.append_nil]
      exact sortIns_all_lt hpc
    | cons d post' =>
      by_cases hd : cmp d a < 0
      · obtain ⟨c', e, hm, hs⟩ := ih post' (pre ++ [c]) d hacc' (by simpa using hf) hd hpc
        exact ⟨c', by simp only [sortInner, hn c hcm, hnx, List.head?_cons, hd, ↓reduceIte]; exact e, hm, hs⟩
      · refine ⟨c, by simp [sortInner, hn c hcm, hnx, hd], hcm, ?_⟩
        have hdp : d ∉ pre ++ [c] := fun hm => (List.nodup_append.1 (hacc' ▸ nd)).2.2 d hm d (by simp) rfl
        rw [hnx, hacc', sortIns_split hpc hd]
        exact (insBefore_split hdp).symm


/-- `acc` is a well-linked chain, `rest` is still linked forward, nothing else was touched -/
structure SortInv (h0 hh : Heap) (l acc rest : List Nat) : Prop where
  par : hh.parent = h0.parent
  fst : hh.first = h0.first
  lst : hh.last = h0.last
  cnt : hh.count = h0.count
  accN : ∀ x ∈ acc, hh.next x = nextIn acc x
  accP : ∀ x ∈ acc, hh.prev x = prevIn acc x
  restN : ∀ x ∈ rest, hh.next x = nextIn rest x
  outN : ∀ x, x ∉ l → hh.next x = h0.next x
  outP : ∀ x, x ∉ l → hh.prev x = h0.prev x

theorem sort_link {h0 hh hh1 : Heap} {l acc t : List Nat} {a : Nat} {ref : Option Nat}
    (I : SortInv h0 hh l acc (a :: t)) (nd : (acc ++ a :: t).Nodup)
    (sub : ∀ x, x ∈ acc ∨ x ∈ a :: t → x ∈ l)
    (href : ∀ d, ref = some d → d ∈ acc)
    (e1 : hh1.parent = hh.parent) (e2 : hh1.first = hh.first) (e3 : hh1.last = hh.last)
    (e4 : hh1.count = hh.count)
    (en : ∀ x, hh1.next x = if x = a then ref else if prevOf acc ref = some x then some a else hh.next x)
    (ep : ∀ x, hh1.prev x = if x = a then prevOf acc ref else if ref = some x then some a else hh.prev x) :
    SortInv h0 hh1 l (insBeforeOpt a ref acc) t := by
  have nda := (List.nodup_append.1 nd)
  have ndacc : acc.Nodup := nda.1
  have ndat := List.nodup_cons.1 nda.2.1
  have haacc : a ∉ acc := fun hm => nda.2.2 a hm a (by simp) rfl
  have link := fun x => link_chain ndacc href haacc (fun x hx => ⟨I.accN x hx, I.accP x hx⟩) en ep (x := x)
  refine ⟨by rw [e1, I.par], by rw [e2, I.fst], by rw [e3, I.lst], by rw [e4, I.cnt],
    fun x hx => (link x hx).1, fun x hx => (link x hx).2, ?_, ?_, ?_⟩
  · intro x hx
    have hxa : x ≠ a := fun e => ndat.1 (e ▸ hx)
    have : prevOf acc ref ≠ some x := fun e => nda.2.2 x (prevOf_mem e) x (by simp [hx]) rfl
    rw [en]; simp only [hxa, this, ↓reduceIte]
    exact (chain_cons nda.2.1 I.restN).2 x hx
  · intro x hx
    rw [en]
    have hxa : x ≠ a := fun e => hx (sub x (Or.inr (by simp [e])))
    have : prevOf acc ref ≠ some x := fun e => hx (sub x (Or.inl (prevOf_mem e)))
    simp only [hxa, this, ↓reduceIte]; exact I.outN x hx
  · intro x hx
    rw [ep]
    have hxa : x ≠ a := fun e => hx (sub x (Or.inr (by simp [e])))
    have : ref ≠ some x := fun e => hx (sub x (Or.inl (href x e)))
    simp only [hxa, this, ↓reduceIte]; exact I.outP x hx



/-- else-branch of SortChildren's outer loop (after the inner loop found `c`) -/
def sortLinkAfter (h : Heap) (current c : Nat) : Heap :=
  let cn := h.next c
  let h := { h with next := set h.next current cn }
  let h := { h with prev := set h.prev current (some c) }
  let h := match h.next c with
    | some d => { h with prev := set h.prev d (some current) }
    | none => h
  { h with next := set h.next c (some current) }

/-- then-branch: `current` becomes the new head of the sorted chain -/
def sortLinkFront (h : Heap) (current : Nat) (sorted : Option Nat) : Heap :=
  let h := { h with next := set h.next current sorted }
  let h := match sorted with
    | some s => { h with prev := set h.prev s (some current) }
    | none => h
  { h with prev := set h.prev current none }

section linkFields
variable {h : Heap} {a c : Nat}
theorem sla_parent : (sortLinkAfter h a c).parent = h.parent := by
  simp only [sortLinkAfter]; split <;> rfl
theorem sla_first : (sortLinkAfter h a c).first = h.first := by
  simp only [sortLinkAfter]; split <;> rfl
theorem sla_last : (sortLinkAfter h a c).last = h.last := by
  simp only [sortLinkAfter]; split <;> rfl
theorem sla_count : (sortLinkAfter h a c).count = h.count := by
  simp only [sortLinkAfter]; split <;> rfl
theorem sla_next (x : Nat) : (sortLinkAfter h a c).next x =
    if x = c then some a else if x = a then h.next c else h.next x := by
  simp only [sortLinkAfter]; split <;> simp
theorem sla_prev (hca : c ≠ a) (x : Nat) : (sortLinkAfter h a c).prev x =
    if h.next c = some x then some a else if x = a then some c else h.prev x := by
  simp only [sortLinkAfter, set_apply, hca, ↓reduceIte]
  cases hn : h.next c <;> simp <;> grind

theorem slf_parent {s : Option Nat} : (sortLinkFront h a s).parent = h.parent := by
  simp only [sortLinkFront]; split <;> rfl
theorem slf_first {s : Option Nat} : (sortLinkFront h a s).first = h.first := by
  simp only [sortLinkFront]; split <;> rfl
theorem slf_last {s : Option Nat} : (sortLinkFront h a s).last = h.last := by
  simp only [sortLinkFront]; split <;> rfl
theorem slf_count {s : Option Nat} : (sortLinkFront h a s).count = h.count := by
  simp only [sortLinkFront]; split <;> rfl
theorem slf_next {s : Option Nat} (x : Nat) : (sortLinkFront h a s).next x =
    if x = a then s else h.next x := by
  simp only [sortLinkFront]; split <;> simp
theorem slf_prev {s : Option Nat} (x : Nat) : (sortLinkFront h a s).prev x =
    if x = a then none else if s = some x then some a else h.prev x := by
  simp only [sortLinkFront]; cases s <;> simp <;> grind
end linkFields

theorem sortOuter_front_nil {fuel0 k : Nat} {cmp : Nat → Nat → Int} {hh : Heap} {a : Nat} :
    sortOuter fuel0 cmp (k + 1) hh none (some a) =
      sortOuter fuel0 cmp k (sortLinkFront hh a none) (some a) (hh.next a) := by
  rw [sortOuter.eq_3]; rfl

theorem sortOuter_front {fuel0 k : Nat} {cmp : Nat → Nat → Int} {hh : Heap} {a s : Nat} (hp : cmp s a ≥ 0) :
    sortOuter fuel0 cmp (k + 1) hh (some s) (some a) =
      sortOuter fuel0 cmp k (sortLinkFront hh a (some s)) (some a) (hh.next a) := by
  rw [sortOuter.eq_4]; simp only [hp, decide_true, ↓reduceIte]; rfl

theorem sortOuter_after {fuel0 k : Nat} {cmp : Nat → Nat → Int} {hh : Heap} {s a c : Nat}
    (hp : ¬ cmp s a ≥ 0) (hc : sortInner hh cmp a fuel0 s = .ok c) :
    sortOuter fuel0 cmp (k + 1) hh (some s) (some a) =
      sortOuter fuel0 cmp k (sortLinkAfter hh a c) (some s) (hh.next a) := by
  rw [sortOuter.eq_4]; simp only [hp, decide_false, Bool.false_eq_true, ↓reduceIte, hc]; rfl

theorem sortOuter_spec {h0 : Heap} {cmp : Nat → Nat → Int} {l : List Nat} {fuel0 : Nat} :
    ∀ (rest : List Nat) (fuel : Nat) (hh : Heap) (acc : List Nat),
      SortInv h0 hh l acc rest → (acc ++ rest).Nodup → (∀ x, x ∈ acc ∨ x ∈ rest → x ∈ l) →
      rest.length < fuel → acc.length + rest.length ≤ fuel0 →
      ∃ hh', sortOuter fuel0 cmp fuel hh acc.head? rest.head? =
          .ok (hh', (rest.foldl (fun acc x => sortIns cmp x acc) acc).head?) ∧
        SortInv h0 hh' l (rest.foldl (fun acc x => sortIns cmp x acc) acc) [] := by
  intro rest
  induction rest with
  | nil =>
    intro fuel hh acc I _ _ _ _
    refine ⟨hh, ?_, I⟩
    cases fuel <;> simp [sortOuter]
  | cons a t ih =>
    intro fuel hh acc I nd sub hf hf0
    cases fuel with
    | zero => simp at hf
    | succ k =>
      have nda := (List.nodup_append.1 nd)
      have ndacc : acc.Nodup := nda.1
      have ndat := List.nodup_cons.1 nda.2.1
      have haacc : a ∉ acc := fun hm => nda.2.2 a hm a (by simp) rfl
      have hna : hh.next a = t.head? := (chain_cons nda.2.1 I.restN).1
      -- what the recursive call needs, for the new chain `sortIns cmp a acc`
      have ndnew : (sortIns cmp a acc ++ t).Nodup := by
        rw [List.nodup_append]
        refine ⟨nodup_sortIns ndacc haacc, ndat.2, ?_⟩
        intro x hx y hy e
        subst e
        rcases mem_sortIns.1 hx with h1 | h1
        · exact ndat.1 (h1 ▸ hy)
        · exact nda.2.2 x h1 x (by simp [hy]) rfl
      have subnew : ∀ x, x ∈ sortIns cmp a acc ∨ x ∈ t → x ∈ l := by
        intro x hx
        rcases hx with h1 | h1
        · rcases mem_sortIns.1 h1 with h2 | h2
          · exact sub x (Or.inr (by simp [h2]))
          · exact sub x (Or.inl h2)
        · exact sub x (Or.inr (by simp [h1]))
      have hlen : (sortIns cmp a acc).length + t.length ≤ fuel0 := by
        rw [length_sortIns]; simp only [List.length_cons] at hf0; omega
      have hk : t.length < k := by simpa using hf
      simp only [List.foldl_cons, List.head?_cons]
      -- continue with the induction hypothesis once the step is known to yield a good heap
      have finish : ∀ (hh1 : Heap) (sorted' : Option Nat),
          SortInv h0 hh1 l (sortIns cmp a acc) t → sorted' = (sortIns cmp a acc).head? →
          ∃ hh', sortOuter fuel0 cmp k hh1 sorted' t.head? =
              .ok (hh', (t.foldl (fun acc x => sortIns cmp x acc) (sortIns cmp a acc)).head?) ∧
            SortInv h0 hh' l (t.foldl (fun acc x => sortIns cmp x acc) (sortIns cmp a acc)) [] := by
        intro hh1 sorted' I1 es
        subst es
        exact ih k hh1 (sortIns cmp a acc) I1 ndnew subnew hk hlen
      cases hacc : acc with
      | nil =>
        subst hacc
        rw [List.head?_nil, sortOuter_front_nil, hna]
        apply finish
        · have := sort_link (hh1 := sortLinkFront hh a none)
            (ref := none) I nd sub (by simp) slf_parent slf_first slf_last slf_count
            (by intro x; rw [slf_next]; simp [prevOf]) (by intro x; rw [slf_prev]; simp [prevOf])
          simpa [insBeforeOpt, sortIns] using this
        · simp [sortIns]
      | cons s acc' =>
        subst hacc
        by_cases hge : cmp s a < 0
        · -- walk along the chain
          have hnge : ¬ (cmp s a ≥ 0) := by omega
          obtain ⟨c, ec, hcm, hsi⟩ := sortInner_spec (hh := hh) (cmp := cmp) (a := a) ndacc I.accN acc' [] s fuel0 rfl
            (by simp only [List.length_cons] at hf0; omega) hge (by simp)
          have hca : c ≠ a := fun e => haacc (e ▸ hcm)
          have hnc : hh.next c = nextIn (s :: acc') c := I.accN c hcm
          rw [List.head?_cons, sortOuter_after hnge ec, hna]
          apply finish
          · rw [hsi]
            apply sort_link (ref := nextIn (s :: acc') c) I nd sub (fun d hd => (nextIn_mem hd).2)
              sla_parent sla_first sla_last sla_count
            · intro x
              rw [sla_next, prevOf_nextIn ndacc hcm, hnc]
              by_cases hxc : x = c
              · simp [hxc, hca]
              · simp [hxc, Ne.symm hxc]
            · intro x
              rw [sla_prev hca, prevOf_nextIn ndacc hcm, hnc]
              by_cases hxa : x = a
              · subst hxa
                have : nextIn (s :: acc') c ≠ some x := fun e => haacc ((nextIn_mem e).2)
                simp [this]
              · simp [hxa]
          · simp [sortIns, hge]
        · -- put in front
          have hge' : cmp s a ≥ 0 := by omega
          have hsa : s ≠ a := fun e => haacc (by simp [e])
          rw [List.head?_cons, sortOuter_front hge', hna]
          apply finish
          · have := sort_link (hh1 := sortLinkFront hh a (some s))
              (ref := some s) I nd sub (by intro d hd; simp [← Option.some.inj hd])
              slf_parent slf_first slf_last slf_count
              (by intro x; rw [slf_next]; simp [prevOf, prevIn_head ndacc])
              (by intro x; rw [slf_prev]; simp [prevOf, prevIn_head ndacc])
            simpa [insBeforeOpt, insBefore, sortIns, hge] using this
          · simp [sortIns, hge]


/-! ### the final loop recomputes lastChild -/

theorem sortLast_spec (p : Nat) : ∀ (rest : List Nat) (fuel : Nat) (hh : Heap), rest.Nodup →
    (∀ x ∈ rest, hh.next x = nextIn rest x) → rest.length < fuel →
    ∃ h', sortLast p fuel hh rest.head? = .ok h' ∧
      h'.parent = hh.parent ∧ h'.first = hh.first ∧ h'.next = hh.next ∧ h'.prev = hh.prev ∧
      h'.count = hh.count ∧
      ∀ q, h'.last q = if q = p then (rest.getLast?).or (hh.last p) else hh.last q := by
  intro rest
  induction rest with
  | nil =>
    intro fuel hh _ _ _
    refine ⟨hh, by cases fuel <;> simp [sortLast], rfl, rfl, rfl, rfl, rfl, ?_⟩
    intro q; by_cases hq : q = p <;> simp [hq]
  | cons a t ih =>
    intro fuel hh nd hn hf
    cases fuel with
    | zero => simp at hf
    | succ k =>
      obtain ⟨hna, hnt⟩ := chain_cons nd hn
      obtain ⟨h', e, f1, f2, f3, f4, f5, f6⟩ := ih k { hh with last := set hh.last p (some a) }
        (List.nodup_cons.1 nd).2 hnt
        (by simpa using hf)
      refine ⟨h', ?_, f1, f2, f3, f4, f5, ?_⟩
      · simp only [List.head?_cons, sortLast, hna]; exact e
      · intro q
        rw [f6]
        by_cases hq : q = p
        · simp only [hq, ↓reduceIte, set_apply]
          cases t with
          | nil => simp
          | cons b u =>
            have : ∃ z, (b :: u).getLast? = some z := by
              cases hg : (b :: u).getLast? with
              | none => simp at hg
              | some z => exact ⟨z, rfl⟩
            obtain ⟨z, hz⟩ := this
            simp [List.getLast?_cons_cons, hz]
        · simp [hq]

theorem sortChildren_abs {h : Heap} {f : Forest} (A : Abs h f) (p : Nat) (cmp : Nat → Nat → Int)
    {fuel : Nat} (hf : (f p).length < fuel) :
    ∃ h', sortChildren fuel h p cmp = .ok h' ∧ Abs h' (upd f p (sortList cmp (f p))) := by
  have I0 : SortInv h h (f p) [] (f p) :=
    ⟨rfl, rfl, rfl, rfl, by simp, by simp, fun x hx => A.next x p hx, fun _ _ => rfl, fun _ _ => rfl⟩
  obtain ⟨hh, e1, I⟩ := sortOuter_spec (h0 := h) (cmp := cmp) (l := f p) (fuel0 := fuel) (f p) fuel h []
    I0 (by simpa using A.nodup p) (by intro x hx; simpa using hx) hf (by simp; omega)
  have hL : (f p).foldl (fun acc x => sortIns cmp x acc) [] = sortList cmp (f p) := rfl
  rw [hL] at e1 I
  have perm := perm_sortList cmp (f p)
  have ndL : (sortList cmp (f p)).Nodup := perm.nodup_iff.2 (A.nodup p)
  have memL : ∀ x, x ∈ sortList cmp (f p) ↔ x ∈ f p := fun x => perm.mem_iff
  obtain ⟨h3, e3, g1, g2, g3, g4, g5, g6⟩ := sortLast_spec p (sortList cmp (f p)) fuel
    { hh with first := set hh.first p (sortList cmp (f p)).head? } ndL
    (fun x hx => I.accN x hx) (by rw [perm.length_eq]; exact hf)
  refine ⟨h3, ?_, ?_⟩
  · simp only [sortChildren]
    simp only [List.head?_nil] at e1
    rw [A.first, e1]
    simp only [set_apply, ↓reduceIte]
    exact e3
  · refine A.upd_of_local ndL (fun x hx => Or.inl ((memL x).1 hx)) ⟨?_, ?_, ?_⟩ ?_ ?_ ?_ ?_
    · rw [g2]; simp
    · rw [g6, if_pos rfl]
      cases hg : (sortList cmp (f p)).getLast? with
      | some z => rfl
      | none =>
        have : f p = [] := (List.getLast?_eq_none_iff.1 hg ▸ perm).symm.eq_nil
        simp [I.lst, A.last, this]
    · rw [g5]; simp [I.cnt, A.count, perm.length_eq]
    · intro q hqp; simp [g2, g6, g5, hqp, I.fst, I.lst, I.cnt]
    · intro x hx
      refine ⟨?_, by rw [g3]; exact I.accN x hx, by rw [g4]; exact I.accP x hx⟩
      rw [g1]; exact (congrFun I.par x).trans ((A.parent x p).2 ((memL x).1 hx))
    · intro x hx hl; exact absurd ((memL x).2 hx) hl
    · intro x _ hx; rw [g1, g3, g4]; exact ⟨congrFun I.par x, I.outN x hx, I.outP x hx⟩

end GM.Proof.AstHeap
