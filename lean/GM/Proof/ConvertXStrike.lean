/-
  GM.Proof.ConvertXStrike — Strikethrough on a source without `~`: no `~` delimiter ever stands among `parent`'s children
  (`NT`), on such children the generalised ProcessDelimiters / link parser ARE the default ones, so the trigger table with the
  member, the entry of `~` emptied, simulates the table without it (`tbl_sim`; the inline phase: GM.Proof.ConvertLConservative).
-/
import GM.Proof.ConvertXSim
import GM.Proof.ConvertXTotal
import GM.Proof.InlinesLinkG

namespace GM.Proof.ConvertXStrike
open GM GM.Text GM.Spec GM.Inl GM.Proof.Inlines GM.Proof.InlinesTotal GM.Proof.InlinesLink GM.Proof.ConvertXRelv
open GM.Proof.ConvertXSim GM.Proof.InlinesDelims GM.Proof.InlinesLinkG

/-- not a `~` delimiter -/
def NT (n : Inl.Node) : Prop := ∀ id d, n = .delim id d → d.char ≠ 126

theorem NT_inv : NodeInv NT where
  text := fun _ _ _ _ _ _ h => by cases h
  emph := fun _ _ _ _ _ h => by cases h
  cons := fun id d n h id' d' e => by
    simp only [Node.delim.injEq] at e
    obtain ⟨rfl, rfl⟩ := e
    exact h id d rfl

theorem NT_of_not_delim {n : Inl.Node} (h : n.isDelim = false) : NT n := by
  intro id d e; subst e; simp [Node.isDelim] at h

theorem nt_on : GOn NT true false id := by
  intro oid od c hQ _ ks
  have hod : od.char ≠ 126 := hQ oid od rfl
  simp [onMatch, isStrikeDelim, hod, relv_id, relvL_id]

theorem closerStepG_NT (b : Bottom) (pre : List Inl.Node) (cid : Nat) (cd : Delim) (post : List Inl.Node)
    (hp : allQ NT pre) : closerStepG true b pre cid cd post = closerStep b pre cid cd post := by
  have h := closerStepG_relv' nt_on b hp cid cd post
  rw [relvL_id, relvL_id, closerStepG_false, show relvL id = id from funext relvL_id, mapC_id] at h
  exact h.symm

theorem processDelimitersG_NT (b : Bottom) (kids : List Inl.Node) (hk : allQ NT kids) :
    processDelimitersG true b kids = processDelimiters b kids := by
  have h := processDelimitersG_relv' nt_on b
    (fun hp hcd hq => by rw [closerStepG_NT _ _ _ _ _ hp]; exact closerStep_allQ NT_inv hp hcd hq) hk
  rw [relvL_id, processDelimitersG_false, show relvL id = id from funext relvL_id] at h
  rw [h]; cases processDelimitersG true b kids <;> rfl

theorem nt_link : LinkInv NT where
  text := fun _ _ _ _ => NT_of_not_delim rfl
  label := fun _ _ _ => NT_of_not_delim rfl
  link := fun _ _ _ _ _ => NT_of_not_delim rfl

theorem pdnt_default : PDKeeps NT processDelimiters := fun _ _ _ h hk => processDelimiters_allQ NT_inv h hk

theorem pdnt_G : PDKeeps NT (processDelimitersG true) := fun b k r h hk => by
  rw [processDelimitersG_NT b k hk] at h
  exact processDelimiters_allQ NT_inv h hk

abbrev pdS : PD := processDelimitersG true

theorem processLinkLabelG_eq (st : St) (hk : allQ NT st.kids) :
    processLinkLabelG pdS st = processLinkLabel st := by
  unfold processLinkLabelG processLinkLabel
  have : pdS (popBottom st).1 (popBottom st).2.kids = processDelimiters (popBottom st).1 (popBottom st).2.kids :=
    processDelimitersG_NT _ _ (by rw [popBottom_kids]; exact hk)
  simp only [this]
  rfl

theorem linkFinishG_eq (st : St) (hk : allQ NT st.kids) (a : LinkArgs) (rd : BlockReader) :
    linkFinishG pdS st a rd = linkFinishG processDelimiters st a rd := by
  unfold linkFinishG
  rw [processLinkLabelG_eq { st with rd := rd } hk]
  rfl

theorem linkShortcutG_eq (env : Env) (st : St) (lseg segment : Segment) (l : Int) (pos : Segment) (im : Bool)
    (pre post : List Inl.Node) (hk : allQ NT st.kids) :
    linkShortcutG pdS env st lseg segment l pos im pre post = linkShortcut env st lseg segment l pos im pre post := by
  have h1 : ∀ rd, processLinkLabelG pdS { st with rd := rd } = processLinkLabel { st with rd := rd } :=
    fun rd => processLinkLabelG_eq _ hk
  unfold linkShortcutG linkShortcut
  simp only [h1]
  rfl

theorem linkTryG_eq (env : Env) (st : St) (lseg : Segment) (c : UInt8) (hk : allQ NT st.kids) :
    linkTryG pdS env st lseg c = linkTry env st lseg c := by
  show _ = linkTryG processDelimiters env st lseg c
  unfold linkTryG
  simp only [parseLinkInlineG_rd, parseReferenceLinkG_rd, linkFinishG_eq st hk]

theorem parseLinkCloseG_eq (env : Env) (st : St) (segment : Segment) (hk : allQ NT st.kids) :
    parseLinkCloseG pdS env st segment = parseLinkClose env st segment := by
  unfold parseLinkCloseG parseLinkClose
  cases hs : splitLastLabel st.kids with
  | none => rfl
  | some x =>
    obtain ⟨pre, ⟨lid, lseg, im⟩, post⟩ := x
    simp only [bind, Except.bind, pure, Except.pure]
    cases st.rd.advance 1 with
    | error e => rfl
    | ok rd =>
      simp only []
      split
      · rfl
      · split
        · rfl
        · cases rd.peek with
          | error e => rfl
          | ok c =>
            simp only []
            have hk' : allQ NT ({ st with rd := rd } : St).kids := hk
            rw [linkTryG_eq env { st with rd := rd } lseg c hk']
            cases ht : linkTry env { st with rd := rd } lseg c with
            | error e => rfl
            | ok r =>
              obtain ⟨link, hv, st'⟩ := r
              have htG : linkTryG pdS env { st with rd := rd } lseg c = .ok (link, hv, st') := by
                rw [linkTryG_eq env _ lseg c hk', ht]
              obtain ⟨t1, _⟩ := linkTryG_allQ nt_link pdnt_G htG hk'
              simp only []
              cases link with
              | some info => rfl
              | none =>
                simp only []
                split
                · rfl
                · exact linkShortcutG_eq env st' lseg segment _ _ im pre post t1

theorem parseLinkG_eq (env : Env) (st : St) (hk : allQ NT st.kids) : parseLinkG pdS env st = parseLink env st := by
  unfold parseLinkG parseLink
  simp only [bind, Except.bind, pure, Except.pure]
  cases st.rd.peekLine with
  | error e => rfl
  | ok v =>
    simp only []
    cases v.1.1.getD [] with
    | nil => rfl
    | cons c rest =>
      simp only []
      split
      · rfl
      · split
        · rfl
        · exact parseLinkCloseG_eq env { st with rd := v.2 } _ hk

theorem nt_closed : IClosed (allQ NT) := iclosed_allQ fun _ _ _ _ => NT_of_not_delim rfl

theorem scanDelimiter_char {env : Env} {line : Bytes} {before : Nat} {d : Delim}
    (h : scanDelimiter env line before = .ok (some d)) : d.char ≠ 126 := by
  unfold scanDelimiter at h
  split at h
  · contradiction
  · rename_i c rest
    simp only at h
    split at h
    · simp at h
    · rename_i hc
      simp at h
      rw [← h]
      simp only
      intro e
      subst e
      simp at hc

theorem parseEmphasis_NT {env : Env} {id : Nat} {r r' : BlockReader} {nd : Inl.Node}
    (h : parseEmphasis env id r = .ok (some nd, r')) : NT nd := by
  unfold parseEmphasis at h
  simp only [bind, Except.bind, pure, Except.pure] at h
  split at h
  · contradiction
  · split at h
    · contradiction
    · split at h
      · contradiction
      · rename_i d hd
        split at h
        · simp at h
        · rename_i dd
          split at h
          · contradiction
          · simp at h
            obtain ⟨rfl, _⟩ := h
            intro id' d' e
            simp only [Node.delim.injEq] at e
            obtain ⟨_, rfl⟩ := e
            show dd.char ≠ 126
            exact scanDelimiter_char hd

theorem builtin_NT (env : Env) (ip : Ip) (st : St) (n : Option Inl.Node) (st' : St) (hk : allQ NT st.kids)
    (h : ip.parse env st = .ok (n, st')) : POKQ NT (n, st') := by
  cases ip with
  | codeSpan => exact liftR_allQ h hk (fun _ _ e => NT_of_not_delim (parseCodeSpan_nd e))
  | autoLink => exact liftR_allQ h hk (fun _ _ e => NT_of_not_delim (parseAutoLink_nd e))
  | rawHTML => exact liftR_allQ h hk (fun _ _ e => NT_of_not_delim (parseRawHTML_nd e))
  | link =>
    have : parseLinkG processDelimiters env st = .ok (n, st') := by rw [parseLinkG_default]; exact h
    exact parseLinkG_allQ nt_link pdnt_default this hk
  | emphasis => exact liftR_allQ (st := { st with nextId := _ }) h hk (fun _ _ e => parseEmphasis_NT e)

section block
open GM.ConvertX GM.Convert GM.Proof.ConvertXTotal GM.Proof.InlinesReader GM.Proof.Reader

/-- the trigger table with Strikethrough, the entry of `~` emptied -/
def tblNoTilde (c : XCfg) (inItem : Bool) (b : UInt8) : List XIp :=
  if b == 126 then [] else inlineTbl { c with strikethrough := true } inItem b

theorem linkEntry_sim (c : XCfg) (env : Env) :
    EntrySim id (allQ NT) env (linkX { c with strikethrough := true }) (linkX { c with strikethrough := false }) := by
  have e1 : linkX { c with strikethrough := true } = .ext { triggers := [33, 91, 93], parse := parseLinkG pdS } := by
    simp [linkX, pdX, pdS]
  have e2 : linkX { c with strikethrough := false } = .builtin .link := by simp [linkX]
  rw [e1, e2]
  exact .of_eq (fun st hk => (parseLinkG_eq env st hk).symm) (keeps_allQ fun st r h hk => parseLinkG_allQ nt_link pdnt_G h hk)

theorem tbl_sim (c : XCfg) (inItem : Bool) (env : Env) (b : UInt8) :
    ListSim id (allQ NT) env (tblNoTilde c inItem b) (inlineTbl { c with strikethrough := false } inItem b) := by
  unfold tblNoTilde inlineTbl
  by_cases h126 : (b == 126) = true
  · simp only [h126, if_true]
    exact .nil
  · simp only [h126, Bool.false_eq_true, if_false]
    by_cases h91 : (b == 91) = true
    · simp only [h91, if_true]
      by_cases ht : c.tasklist = true
      · simp only [ht, if_true, List.singleton_append]
        exact .cons (.of_eq (fun _ _ => rfl) (keeps_allQ fun _ _ h hk => parseTask_allQ (env := env) (fun _ => NT_of_not_delim rfl) h hk))
          (.cons (linkEntry_sim c env) .nil)
      · have ht' : c.tasklist = false := by simpa using ht
        simp only [ht', Bool.false_eq_true, if_false, List.nil_append]
        exact .cons (linkEntry_sim c env) .nil
    · simp only [h91, Bool.false_eq_true, if_false]
      split
      · exact .cons (linkEntry_sim c env) .nil
      · refine ListSim.refl fun ip hip => ?_
        obtain ⟨ip0, _, rfl⟩ := List.mem_map.1 hip
        exact keeps_allQ fun st r h hk => builtin_NT env ip0 st r.1 r.2 hk h

end block
end GM.Proof.ConvertXStrike
