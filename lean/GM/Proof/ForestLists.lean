import GM.Spec.Forest
namespace GM.Proof.ForestLists
open GM.Spec GM.Spec.Forest

@[simp] theorem nextIn_nil (x : Nat) : nextIn [] x = none := rfl
theorem nextIn_cons (a : Nat) (t : List Nat) (x : Nat) :
    nextIn (a :: t) x = if a = x then t.head? else nextIn t x := rfl
@[simp] theorem prevIn_nil (x : Nat) : prevIn [] x = none := rfl
@[simp] theorem prevIn_single (a x : Nat) : prevIn [a] x = none := rfl
theorem prevIn_cons_cons (a b : Nat) (t : List Nat) (x : Nat) :
    prevIn (a :: b :: t) x = if b = x then some a else prevIn (b :: t) x := rfl

theorem nextIn_mem {l : List Nat} {x y : Nat} (h : nextIn l x = some y) : x ∈ l ∧ y ∈ l := by
  induction l with
  | nil => simp at h
  | cons a t ih =>
    rw [nextIn_cons] at h
    split at h
    · subst_vars
      cases t with
      | nil => simp at h
      | cons b t => simp at h; simp [h]
    · have := ih h; simp [this]

theorem prevIn_mem {l : List Nat} {x y : Nat} (h : prevIn l x = some y) : x ∈ l ∧ y ∈ l := by
  induction l with
  | nil => simp at h
  | cons a t ih =>
    cases t with
    | nil => simp at h
    | cons b t =>
      rw [prevIn_cons_cons] at h
      split at h
      · simp at h; subst_vars; simp
      · have := ih h
        exact ⟨List.mem_cons_of_mem _ this.1, List.mem_cons_of_mem _ this.2⟩

theorem nextIn_not_mem {l : List Nat} {x : Nat} (h : x ∉ l) : nextIn l x = none := by
  cases hn : nextIn l x with
  | none => rfl
  | some y => exact absurd (nextIn_mem hn).1 h

theorem prevIn_not_mem {l : List Nat} {x : Nat} (h : x ∉ l) : prevIn l x = none := by
  cases hn : prevIn l x with
  | none => rfl
  | some y => exact absurd (prevIn_mem hn).1 h

theorem next_prev {l : List Nat} (nd : l.Nodup) {x y : Nat} :
    nextIn l x = some y ↔ prevIn l y = some x := by
  induction l with
  | nil => simp
  | cons a t ih =>
    cases t with
    | nil => simp [nextIn_cons]
    | cons b t =>
      have nd' : (b :: t).Nodup := (List.nodup_cons.mp nd).2
      have ha : a ∉ b :: t := (List.nodup_cons.mp nd).1
      have hb : b ∉ t := (List.nodup_cons.mp nd').1
      rw [nextIn_cons, prevIn_cons_cons]
      by_cases hax : a = x
      · subst hax
        simp only [if_true, List.head?_cons, Option.some.injEq]
        by_cases hby : b = y
        · simp [hby]
        · simp only [hby, if_false, false_iff]
          intro hp
          exact ha (prevIn_mem hp).2
      · simp only [hax, if_false]
        by_cases hby : b = y
        · subst hby
          simp only [if_true, Option.some.injEq]
          constructor
          · intro hn
            rw [nextIn_cons] at hn
            split at hn
            · subst_vars
              exfalso
              cases t with
              | nil => simp at hn
              | cons c t => simp at hn; simp [hn] at hb
            · exact absurd (nextIn_mem hn).2 hb
          · intro h; exact absurd h hax
        · simp only [hby, if_false]
          exact ih nd'

theorem nextIn_ne_self {l : List Nat} (nd : l.Nodup) (x : Nat) : nextIn l x ≠ some x := by
  induction l with
  | nil => simp
  | cons a t ih =>
    have nd' : t.Nodup := (List.nodup_cons.mp nd).2
    have ha : a ∉ t := (List.nodup_cons.mp nd).1
    rw [nextIn_cons]
    split
    · subst_vars
      intro h
      exact ha (List.mem_of_mem_head? h)
    · exact ih nd'

theorem prevIn_ne_self {l : List Nat} (nd : l.Nodup) (x : Nat) : prevIn l x ≠ some x := by
  intro h
  exact nextIn_ne_self nd x ((next_prev nd).mpr h)

theorem nextIn_none_iff {l : List Nat} (nd : l.Nodup) {x : Nat} (hx : x ∈ l) :
    nextIn l x = none ↔ l.getLast? = some x := by
  induction l with
  | nil => simp at hx
  | cons a t ih =>
    have nd' : t.Nodup := (List.nodup_cons.mp nd).2
    have ha : a ∉ t := (List.nodup_cons.mp nd).1
    rw [nextIn_cons]
    cases t with
    | nil => simp at hx; simp [hx]
    | cons b t =>
      rw [List.getLast?_cons_cons]
      by_cases hax : a = x
      · subst hax
        simp only [if_true, List.head?_cons]
        constructor
        · intro h; simp at h
        · intro h; exact absurd (List.mem_of_getLast? h) ha
      · simp only [hax, if_false]
        have hx' : x ∈ b :: t := by
          rcases List.mem_cons.mp hx with h | h
          · exact absurd h.symm hax
          · exact h
        exact ih nd' hx'

theorem prevIn_none_iff {l : List Nat} (nd : l.Nodup) {x : Nat} (hx : x ∈ l) :
    prevIn l x = none ↔ l.head? = some x := by
  induction l with
  | nil => simp at hx
  | cons a t ih =>
    have nd' : t.Nodup := (List.nodup_cons.mp nd).2
    have ha : a ∉ t := (List.nodup_cons.mp nd).1
    cases t with
    | nil => simp at hx; simp [hx]
    | cons b t =>
      rw [prevIn_cons_cons]
      simp only [List.head?_cons, Option.some.injEq]
      by_cases hbx : b = x
      · subst hbx
        simp only [if_true]
        constructor
        · intro h; simp at h
        · intro h; subst h; simp at ha
      · simp only [hbx, if_false]
        by_cases hax : a = x
        · subst hax
          simp [prevIn_not_mem ha]
        · have hx' : x ∈ b :: t := by
            rcases List.mem_cons.mp hx with h | h
            · exact absurd h.symm hax
            · exact h
          have := ih nd' hx'
          simp only [List.head?_cons, Option.some.injEq] at this
          simp [this, hbx, hax]

/-- head/tail step along a forward-linked chain -/
theorem chain_cons {nx : Nat → Option Nat} {a : Nat} {t : List Nat} (nd : (a :: t).Nodup)
    (hn : ∀ x ∈ a :: t, nx x = nextIn (a :: t) x) : nx a = t.head? ∧ ∀ x ∈ t, nx x = nextIn t x := by
  refine ⟨by rw [hn a List.mem_cons_self, nextIn_cons, if_pos rfl], fun x hx => ?_⟩
  rw [hn x (List.mem_cons_of_mem _ hx), nextIn_cons, if_neg]
  exact fun e => (List.nodup_cons.1 nd).1 (e ▸ hx)

/-! ## erase (removing a child) -/

theorem head?_erase' (l : List Nat) (c : Nat) :
    (l.erase c).head? = if l.head? = some c then nextIn l c else l.head? := by
  cases l with
  | nil => simp
  | cons a t =>
    by_cases h : a = c
    · subst h; simp [nextIn_cons]
    · simp [h]

theorem getLast?_erase' {l : List Nat} (nd : l.Nodup) (c : Nat) :
    (l.erase c).getLast? = if l.getLast? = some c then prevIn l c else l.getLast? := by
  induction l with
  | nil => rfl
  | cons a t ih =>
    obtain ⟨ha, nd'⟩ := List.nodup_cons.mp nd
    cases t with
    | nil => by_cases h : a = c <;> simp [h]
    | cons b t =>
      have ih := ih nd'
      rw [List.getLast?_cons_cons, prevIn_cons_cons]
      by_cases hac : a = c
      · -- the head goes; it is not the last element
        subst hac
        rw [List.erase_cons_head, if_neg (fun h => ha (List.mem_of_getLast? h))]
      · rw [List.erase_cons_tail (by simpa using hac)]
        by_cases hbc : b = c
        · subst hbc
          rw [List.erase_cons_head, if_pos rfl]
          cases t with
          | nil => simp
          | cons d t =>
            rw [List.getLast?_cons_cons, List.getLast?_cons_cons,
              if_neg (fun h => (List.nodup_cons.mp nd').1 (List.mem_of_getLast? h))]
        · rw [if_neg hbc, ← ih, List.erase_cons_tail (by simpa using hbc), List.getLast?_cons_cons]

set_option linter.unusedVariables false in
theorem head?_erase {l : List Nat} (nd : l.Nodup) {c : Nat} (hc : c ∈ l) :
    (l.erase c).head? = if l.head? = some c then nextIn l c else l.head? := head?_erase' l c

set_option linter.unusedVariables false in
theorem getLast?_erase {l : List Nat} (nd : l.Nodup) {c : Nat} (hc : c ∈ l) :
    (l.erase c).getLast? = if l.getLast? = some c then prevIn l c else l.getLast? :=
  getLast?_erase' nd c

theorem prevIn_head {b : Nat} {t : List Nat} (nd : (b :: t).Nodup) : prevIn (b :: t) b = none :=
  (prevIn_none_iff nd (List.mem_cons_self)).mpr rfl

theorem nextIn_erase {l : List Nat} (nd : l.Nodup) {c x : Nat} (hx : x ≠ c) :
    nextIn (l.erase c) x = if nextIn l x = some c then nextIn l c else nextIn l x := by
  induction l with
  | nil => simp
  | cons a t ih =>
    have nd' : t.Nodup := (List.nodup_cons.mp nd).2
    have ha : a ∉ t := (List.nodup_cons.mp nd).1
    have ih := ih nd'
    by_cases hac : a = c
    · subst hac
      have : nextIn t x ≠ some a := fun h => ha (nextIn_mem h).2
      simp [nextIn_cons, Ne.symm hx, this]
    · have hh := head?_erase' t c
      grind [nextIn_cons]

theorem prevIn_erase {l : List Nat} (nd : l.Nodup) {c x : Nat} (hx : x ≠ c) :
    prevIn (l.erase c) x = if prevIn l x = some c then prevIn l c else prevIn l x := by
  induction l with
  | nil => simp
  | cons a t ih =>
    have nd' : t.Nodup := (List.nodup_cons.mp nd).2
    have ha : a ∉ t := (List.nodup_cons.mp nd).1
    have ih := ih nd'
    cases t with
    | nil => grind [prevIn_single, prevIn_nil]
    | cons b t =>
      have hb : b ∉ t := (List.nodup_cons.mp nd').1
      by_cases hac : a = c
      · subst hac
        have h1 : prevIn (b :: t) x ≠ some a := fun h => ha (prevIn_mem h).2
        have h2 := prevIn_head nd'
        have h3 := prevIn_not_mem ha
        grind [prevIn_cons_cons]
      · by_cases hbc : b = c
        · subst hbc
          cases t with
          | nil => grind [prevIn_single, prevIn_cons_cons]
          | cons d t =>
            have h1 : prevIn (d :: t) x ≠ some b := fun h => hb (prevIn_mem h).2
            grind [prevIn_cons_cons]
        · grind [prevIn_cons_cons]

theorem nextIn_append_single {l : List Nat} (nd : l.Nodup) {c : Nat} (hc : c ∉ l) (x : Nat) :
    nextIn (l ++ [c]) x = if l.getLast? = some x then some c else nextIn l x := by
  induction l with
  | nil => simp [nextIn_cons]
  | cons a t ih =>
    obtain ⟨ha, nd'⟩ := List.nodup_cons.mp nd
    have ih := ih nd' (fun h => hc (List.mem_cons_of_mem _ h))
    rw [List.cons_append, nextIn_cons, nextIn_cons]
    by_cases hax : a = x
    · subst hax
      rw [if_pos rfl, if_pos rfl]
      cases t with
      | nil => simp
      | cons b t => rw [List.getLast?_cons_cons, if_neg (fun h => ha (List.mem_of_getLast? h))]; rfl
    · rw [if_neg hax, if_neg hax, ih]
      cases t with
      | nil => simp [hax]
      | cons b t => rw [List.getLast?_cons_cons]

theorem prevIn_append_single {l : List Nat} {c : Nat} (hc : c ∉ l) (x : Nat) :
    prevIn (l ++ [c]) x = if x = c then l.getLast? else prevIn l x := by
  induction l with
  | nil => simp
  | cons a t ih =>
    have ih := ih (fun h => hc (List.mem_cons_of_mem _ h))
    cases t with
    | nil =>
      rw [List.cons_append, List.nil_append, prevIn_cons_cons, prevIn_single, prevIn_single]
      by_cases h : c = x
      · rw [if_pos h, if_pos h.symm]; rfl
      · rw [if_neg h, if_neg (fun e => h e.symm)]
    | cons b t =>
      rw [List.cons_append, List.cons_append, prevIn_cons_cons, ← List.cons_append, ih, prevIn_cons_cons,
        List.getLast?_cons_cons]
      by_cases hbx : b = x
      · have : x ≠ c := fun e => hc (by rw [← e, ← hbx]; simp)
        rw [if_pos hbx, if_neg this, if_pos hbx]
      · rw [if_neg hbx, if_neg hbx]

@[simp] theorem insBefore_nil (c v : Nat) : insBefore c v [] = [c] := rfl
theorem insBefore_cons (c v a : Nat) (t : List Nat) :
    insBefore c v (a :: t) = if a = v then c :: a :: t else a :: insBefore c v t := rfl

theorem insBefore_not_mem {l : List Nat} {c v : Nat} (hv : v ∉ l) : insBefore c v l = l ++ [c] := by
  induction l with
  | nil => rfl
  | cons a t ih => grind [insBefore_cons]

theorem length_insBefore (c v : Nat) (l : List Nat) : (insBefore c v l).length = l.length + 1 := by
  induction l with
  | nil => rfl
  | cons a t ih => grind [insBefore_cons]

theorem mem_insBefore {c v x : Nat} {l : List Nat} : x ∈ insBefore c v l ↔ x = c ∨ x ∈ l := by
  induction l with
  | nil => simp
  | cons a t ih => grind [insBefore_cons]

theorem nodup_insBefore {l : List Nat} (nd : l.Nodup) {c : Nat} (hc : c ∉ l) (v : Nat) :
    (insBefore c v l).Nodup := by
  induction l with
  | nil => simp
  | cons a t ih =>
    have := @mem_insBefore c v a t
    grind [insBefore_cons]

theorem head?_insBefore {l : List Nat} {c v : Nat} (hv : v ∈ l) :
    (insBefore c v l).head? = if l.head? = some v then some c else l.head? := by
  cases l with
  | nil => simp at hv
  | cons a t => grind [insBefore_cons]

theorem getLast?_insBefore {l : List Nat} {c v : Nat} (hv : v ∈ l) :
    (insBefore c v l).getLast? = l.getLast? := by
  induction l with
  | nil => simp at hv
  | cons a t ih =>
    rw [insBefore_cons]
    by_cases hav : a = v
    · rw [if_pos hav, List.getLast?_cons_cons]
    · rw [if_neg hav]
      have hv' : v ∈ t := (List.mem_cons.mp hv).resolve_left (fun e => hav e.symm)
      obtain ⟨b, t', rfl⟩ := List.exists_cons_of_ne_nil (List.ne_nil_of_mem hv')
      obtain ⟨d, u, hu⟩ : ∃ d u, insBefore c v (b :: t') = d :: u := by
        rw [insBefore_cons]; split <;> exact ⟨_, _, rfl⟩
      rw [List.getLast?_cons_cons, ← ih hv', hu, List.getLast?_cons_cons]

theorem nextIn_insBefore {l : List Nat} (nd : l.Nodup) {c v : Nat} (hv : v ∈ l) (hc : c ∉ l) (x : Nat) :
    nextIn (insBefore c v l) x =
      if x = c then some v else if nextIn l x = some v then some c else nextIn l x := by
  induction l with
  | nil => simp at hv
  | cons a t ih =>
    have nd' : t.Nodup := (List.nodup_cons.mp nd).2
    have ha : a ∉ t := (List.nodup_cons.mp nd).1
    by_cases hav : a = v
    · subst hav
      have h1 : nextIn (a :: t) x ≠ some a := by
        intro h
        rw [nextIn_cons] at h
        split at h
        · exact ha (List.mem_of_mem_head? h)
        · exact ha (nextIn_mem h).2
      grind [insBefore_cons, nextIn_cons]
    · have hv' : v ∈ t := by grind
      have hh := @head?_insBefore t c v hv'
      grind [insBefore_cons, nextIn_cons]

theorem prevIn_insBefore {l : List Nat} (nd : l.Nodup) {c v : Nat} (hv : v ∈ l) (hc : c ∉ l) (x : Nat) :
    prevIn (insBefore c v l) x =
      if x = v then some c else if x = c then prevIn l v else prevIn l x := by
  induction l with
  | nil => simp at hv
  | cons a t ih =>
    have nd' : t.Nodup := (List.nodup_cons.mp nd).2
    have ha : a ∉ t := (List.nodup_cons.mp nd).1
    by_cases hav : a = v
    · subst hav
      have h1 := prevIn_head nd
      have h2 := prevIn_not_mem hc
      grind [insBefore_cons, prevIn_cons_cons]
    · have hv' : v ∈ t := by grind
      cases t with
      | nil => simp at hv'
      | cons b t =>
        grind [insBefore_cons, prevIn_cons_cons]

/-- insertion before an optional reference (`none` = append) -/
def insBeforeOpt (c : Nat) (ref : Option Nat) (l : List Nat) : List Nat :=
  match ref with
  | some v => insBefore c v l
  | none => l ++ [c]

/-- predecessor of the insertion point `ref` -/
def prevOf (l : List Nat) : Option Nat → Option Nat
  | some d => prevIn l d
  | none => l.getLast?

theorem prevOf_mem {l : List Nat} {ref : Option Nat} {x : Nat} (h : prevOf l ref = some x) : x ∈ l := by
  cases ref with
  | none => exact List.mem_of_getLast? h
  | some d => exact (prevIn_mem h).2

theorem prevOf_nextIn {l : List Nat} (nd : l.Nodup) {c : Nat} (hc : c ∈ l) : prevOf l (nextIn l c) = some c := by
  cases hn : nextIn l c with
  | none => exact (nextIn_none_iff nd hc).1 hn
  | some d => exact (next_prev nd).1 hn

theorem mem_insBeforeOpt {c x : Nat} {ref : Option Nat} {l : List Nat} :
    x ∈ insBeforeOpt c ref l ↔ x = c ∨ x ∈ l := by
  cases ref with
  | none => simp [insBeforeOpt, or_comm]
  | some v => exact mem_insBefore

theorem length_insBeforeOpt (c : Nat) (ref : Option Nat) (l : List Nat) :
    (insBeforeOpt c ref l).length = l.length + 1 := by
  cases ref with
  | none => simp [insBeforeOpt]
  | some v => exact length_insBefore c v l

theorem nodup_insBeforeOpt {l : List Nat} (nd : l.Nodup) {c : Nat} (hc : c ∉ l) (ref : Option Nat) :
    (insBeforeOpt c ref l).Nodup := by
  cases ref with
  | none => simpa [insBeforeOpt, List.nodup_append, nd] using fun x hx (e : x = c) => hc (e ▸ hx)
  | some v => exact nodup_insBefore nd hc v

section
variable {l : List Nat} (nd : l.Nodup) {c : Nat} {ref : Option Nat} (href : ∀ d, ref = some d → d ∈ l)
include href

theorem getLast?_insBeforeOpt : (insBeforeOpt c ref l).getLast? = if ref = none then some c else l.getLast? := by
  cases ref with
  | none => simp [insBeforeOpt]
  | some v => simpa [insBeforeOpt] using getLast?_insBefore (href v rfl)

include nd

theorem head?_insBeforeOpt : (insBeforeOpt c ref l).head? = if prevOf l ref = none then some c else l.head? := by
  cases ref with
  | none => cases l <;> simp [insBeforeOpt, prevOf]
  | some v =>
    simp only [insBeforeOpt, prevOf, head?_insBefore (href v rfl), prevIn_none_iff nd (href v rfl)]

theorem nextIn_insBeforeOpt (hc : c ∉ l) (x : Nat) : nextIn (insBeforeOpt c ref l) x =
    if x = c then ref else if prevOf l ref = some x then some c else nextIn l x := by
  cases ref with
  | none =>
    show nextIn (l ++ [c]) x = if x = c then none else if l.getLast? = some x then some c else nextIn l x
    rw [nextIn_append_single nd hc]
    by_cases hx : x = c
    · subst hx; rw [if_neg fun e => hc (List.mem_of_getLast? e), if_pos rfl, nextIn_not_mem hc]
    · rw [if_neg hx]
  | some v =>
    show nextIn (insBefore c v l) x = if x = c then some v else if prevIn l v = some x then some c else nextIn l x
    simp only [nextIn_insBefore nd (href v rfl) hc, next_prev nd]

theorem prevIn_insBeforeOpt (hc : c ∉ l) (x : Nat) : prevIn (insBeforeOpt c ref l) x =
    if x = c then prevOf l ref else if ref = some x then some c else prevIn l x := by
  cases ref with
  | none => simp [insBeforeOpt, prevOf, prevIn_append_single hc]
  | some v =>
    have hvc : c ≠ v := fun e => hc (e ▸ href v rfl)
    show prevIn (insBefore c v l) x = if x = c then prevIn l v else if some v = some x then some c else prevIn l x
    rw [prevIn_insBefore nd (href v rfl) hc]
    by_cases hx : x = c
    · subst hx; simp [hvc]
    · by_cases hv : x = v
      · subst hv; simp [hx]
      · simp [hx, hv, Ne.symm hv]

/-- the sibling links after `c` went in before `ref`, from those before -/
theorem link_chain (hc : c ∉ l) {nx nx' pv pv' : Nat → Option Nat}
    (hl : ∀ x ∈ l, nx x = nextIn l x ∧ pv x = prevIn l x)
    (en : ∀ x, nx' x = if x = c then ref else if prevOf l ref = some x then some c else nx x)
    (ep : ∀ x, pv' x = if x = c then prevOf l ref else if ref = some x then some c else pv x)
    {x : Nat} (hx : x ∈ insBeforeOpt c ref l) :
    nx' x = nextIn (insBeforeOpt c ref l) x ∧ pv' x = prevIn (insBeforeOpt c ref l) x := by
  rw [en, ep, nextIn_insBeforeOpt nd href hc, prevIn_insBeforeOpt nd href hc]
  by_cases hxc : x = c
  · simp [hxc]
  · have := hl x ((mem_insBeforeOpt.1 hx).resolve_left hxc)
    simp only [hxc, ↓reduceIte, this.1, this.2, and_self]

end

/-! ## insAfter / replaceIn in terms of insBefore -/

@[simp] theorem insAfter_nil (c v : Nat) : insAfter c v [] = [c] := rfl
theorem insAfter_cons (c v a : Nat) (t : List Nat) :
    insAfter c v (a :: t) = if a = v then a :: c :: t else a :: insAfter c v t := rfl
@[simp] theorem replaceIn_nil (c v : Nat) : replaceIn c v [] = [c] := rfl
theorem replaceIn_cons (c v a : Nat) (t : List Nat) :
    replaceIn c v (a :: t) = if a = v then c :: t else a :: replaceIn c v t := rfl

theorem insAfter_not_mem {l : List Nat} {c v : Nat} (hv : v ∉ l) : insAfter c v l = l ++ [c] := by
  induction l with
  | nil => rfl
  | cons a t ih => grind [insAfter_cons]

theorem insAfter_eq {l : List Nat} (nd : l.Nodup) {c v : Nat} (hv : v ∈ l) :
    insAfter c v l = match nextIn l v with | some w => insBefore c w l | none => l ++ [c] := by
  induction l with
  | nil => simp at hv
  | cons a t ih =>
    have nd' : t.Nodup := (List.nodup_cons.mp nd).2
    have ha : a ∉ t := (List.nodup_cons.mp nd).1
    by_cases hav : a = v
    · subst hav
      cases t with
      | nil => simp [insAfter_cons, nextIn_cons]
      | cons b t =>
        have hab : a ≠ b := by intro h; subst h; simp at ha
        simp [insAfter_cons, nextIn_cons, insBefore_cons, hab]
    · have hv' : v ∈ t := by grind
      have ih := ih nd' hv'
      rw [insAfter_cons, nextIn_cons, if_neg hav, if_neg hav, ih]
      cases hn : nextIn t v with
      | none => simp
      | some w =>
        have haw : a ≠ w := by intro h; subst h; exact ha (nextIn_mem hn).2
        simp [insBefore_cons, haw]

theorem replaceIn_not_mem {l : List Nat} {c v : Nat} (hv : v ∉ l) : replaceIn c v l = l ++ [c] := by
  induction l with
  | nil => rfl
  | cons a t ih => grind [replaceIn_cons]

set_option linter.unusedVariables false in
theorem insBefore_erase {l : List Nat} (nd : l.Nodup) {c v : Nat} (hv : v ∈ l) (hc : c ∉ l) (hne : v ≠ c) :
    (insBefore c v l).erase v = replaceIn c v l := by
  induction l with
  | nil => simp at hv
  | cons a t ih => grind [insBefore_cons, replaceIn_cons]

theorem length_le_of_nodup_lt {l : List Nat} (nd : l.Nodup) {n : Nat} (h : ∀ x ∈ l, x < n) :
    l.length ≤ n := by
  induction n generalizing l with
  | zero =>
    cases l with
    | nil => simp
    | cons a t => exact absurd (h a List.mem_cons_self) (Nat.not_lt_zero _)
  | succ n ih =>
    have nd' : (l.erase n).Nodup := nd.erase n
    have h' : ∀ x ∈ l.erase n, x < n := by
      intro x hx
      have h1 := (nd.mem_erase_iff).mp hx
      have := h x h1.2
      omega
    have := ih nd' h'
    have hl : l.length ≤ (l.erase n).length + 1 := by
      rw [List.length_erase]; split <;> omega
    omega

@[simp] theorem sortIns_nil (cmp : Nat → Nat → Int) (x : Nat) : sortIns cmp x [] = [x] := rfl
theorem sortIns_cons (cmp : Nat → Nat → Int) (x a : Nat) (t : List Nat) :
    sortIns cmp x (a :: t) = if cmp a x < 0 then a :: sortIns cmp x t else x :: a :: t := rfl

theorem perm_sortIns (cmp : Nat → Nat → Int) (x : Nat) (l : List Nat) :
    (sortIns cmp x l).Perm (x :: l) := by
  induction l with
  | nil => exact List.Perm.refl _
  | cons a t ih =>
    rw [sortIns_cons]
    split
    · exact ((List.Perm.cons a ih).trans (List.Perm.swap x a t))
    · exact List.Perm.refl _

theorem length_sortIns (cmp : Nat → Nat → Int) (x : Nat) (l : List Nat) :
    (sortIns cmp x l).length = l.length + 1 := by
  simpa using (perm_sortIns cmp x l).length_eq

theorem mem_sortIns {cmp : Nat → Nat → Int} {x y : Nat} {l : List Nat} :
    y ∈ sortIns cmp x l ↔ y = x ∨ y ∈ l := by
  simpa using (perm_sortIns cmp x l).mem_iff (a := y)

theorem nodup_sortIns {cmp : Nat → Nat → Int} {x : Nat} {l : List Nat} (nd : l.Nodup) (hx : x ∉ l) :
    (sortIns cmp x l).Nodup :=
  (perm_sortIns cmp x l).nodup_iff.mpr (List.nodup_cons.mpr ⟨hx, nd⟩)

theorem perm_foldl_sortIns (cmp : Nat → Nat → Int) (l acc : List Nat) :
    (l.foldl (fun acc x => sortIns cmp x acc) acc).Perm (acc ++ l) := by
  induction l generalizing acc with
  | nil => simp
  | cons x t ih =>
    rw [List.foldl_cons]
    refine (ih (sortIns cmp x acc)).trans ?_
    refine ((perm_sortIns cmp x acc).append_right t).trans ?_
    exact (List.perm_middle (a := x) (l₁ := acc) (l₂ := t)).symm

theorem perm_sortList (cmp : Nat → Nat → Int) (l : List Nat) : (sortList cmp l).Perm l := by
  simpa [sortList] using perm_foldl_sortIns cmp l []

theorem sorted_sortIns {cmp : Nat → Nat → Int} (tot : ∀ a b, cmp a b < 0 ∨ cmp b a ≤ 0)
    (trans : ∀ a b c, cmp a b ≤ 0 → cmp b c ≤ 0 → cmp a c ≤ 0) (x : Nat) {l : List Nat}
    (hl : l.Pairwise (fun a b => cmp a b ≤ 0)) :
    (sortIns cmp x l).Pairwise (fun a b => cmp a b ≤ 0) := by
  induction l with
  | nil => simp
  | cons a t ih =>
    rw [List.pairwise_cons] at hl
    rw [sortIns_cons]
    split
    · rename_i hlt
      rw [List.pairwise_cons]
      refine ⟨?_, ih hl.2⟩
      intro b hb
      rcases mem_sortIns.mp hb with h | h
      · subst h; omega
      · exact hl.1 b h
    · rename_i hnlt
      have hxa : cmp x a ≤ 0 := by
        rcases tot a x with h | h
        · exact absurd h hnlt
        · exact h
      rw [List.pairwise_cons]
      refine ⟨?_, List.pairwise_cons.mpr hl⟩
      intro b hb
      rcases List.mem_cons.mp hb with h | h
      · subst h; exact hxa
      · exact trans x a b hxa (hl.1 b h)

theorem sorted_sortList {cmp : Nat → Nat → Int} (tot : ∀ a b, cmp a b < 0 ∨ cmp b a ≤ 0)
    (trans : ∀ a b c, cmp a b ≤ 0 → cmp b c ≤ 0 → cmp a c ≤ 0) (l : List Nat) :
    (sortList cmp l).Pairwise (fun a b => cmp a b ≤ 0) := by
  unfold sortList
  suffices h : ∀ acc : List Nat, acc.Pairwise (fun a b => cmp a b ≤ 0) →
      (l.foldl (fun acc x => sortIns cmp x acc) acc).Pairwise (fun a b => cmp a b ≤ 0) from
    h [] List.Pairwise.nil
  induction l with
  | nil => intro acc h; exact h
  | cons x t ih =>
    intro acc h
    rw [List.foldl_cons]
    exact ih _ (sorted_sortIns tot trans x h)

end GM.Proof.ForestLists
