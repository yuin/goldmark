/-
  GM.Proof.CMFragRep — what `docTree` reads from the node of a block, said once. `Rep X b m`: node `m` of a run on `X`
  represents the block `b` (its lines lie somewhere in `X`, in order). The closed node of a block of the fragment's own
  run represents it, with the final line feed or without (`rep_base`, `rep_baseE`), and so does every related node of a
  prefixed run (`rep_step`, GM.Proof.CMFragQuote). `RepDT env b n`: `docTree` reads every node that represents `b` as `n`;
  `BlockDT`, `BlockDTE` are `RepDT` at the closed node (GM.Proof.CMFrag6Main, GM.Proof.CMFragGen).
-/
import GM.Proof.CMFrag7Inl
import GM.Proof.CMFrag7Run

namespace GM.Proof.CMFrag
open GM GM.Text GM.Blocks GM.Spec

/-- segments with natural bounds inside `X`, no padding -/
def NatSegs (X : Bytes) (L : List Segment) : Prop :=
  ∀ s ∈ L, ∃ (a b : Nat) (fn : Bool),
    s = { start := (a : Int), stop := (b : Int), padding := 0, forceNewline := fn } ∧ a < b ∧ b ≤ X.length

/-- node `m` of the run on `X` represents the block `b` -/
def Rep (X : Bytes) : Raw5 → Blocks.Node → Prop
  | .old (.para ls), m => m.kind = .paragraph ∧ ∃ ps, m.lines = paraSegsG ps ls ∧ LinesAtG X ps ls
  | .old (.atx level l), m =>
    m.kind = .heading ∧ m.level = (level : Int) ∧ ∃ A : Nat, m.lines = paraSegsG [A] [l] ∧ LinesAtG X [A] [l]
  | .old (.hr _), m => m.kind = .thematicBreak ∧ m.lines = []
  | .fence _ _ info ls, m =>
    m.kind = .fencedCodeBlock ∧ NatSegs X m.lines ∧ GM.Convert.segValues X m.lines = .ok (ls.map (· ++ [10])) ∧
      (if info.isEmpty then m.info = none
       else ∃ t, m.info = some t ∧ NatSegs X [t] ∧ t.value X = .ok info)
  | .icode ls, m => m.kind = .codeBlock ∧ GM.Convert.segValues X m.lines = .ok (ls.map (· ++ [10]))

/-! ### the closed node of a block represents it -/

theorem csegs_shape {S : Bytes} : ∀ (ls tail : List Bytes) (P : Nat), ParaAt S P (ls ++ tail) → NatSegs S (csegs P ls)
  | [], _, _, _, s, hs => by simp [csegs] at hs
  | l :: rest, tail, P, h, s, hs => by
    simp only [csegs, List.mem_cons] at hs
    rcases hs with rfl | hs
    · exact ⟨P, P + l.length + 1, true, rfl, by omega, h.1.le⟩
    · exact csegs_shape rest tail (P + l.length + 1) h.2 s hs

theorem rep_para {S : Bytes} (ls : List Bytes) (p : Nat) (bk : Bool) (h : LinesAtE S p ls) :
    Rep S (.old (.para ls)) (node5 p (.old (.para ls)) bk) :=
  ⟨rfl, contigG p ls, by simp [node5, node4, paraN, paraSegsG_contigG], linesAtG_contigG ls p h⟩

theorem rep_atx {S : Bytes} (level : Nat) (l : Bytes) (p : Nat) (bk : Bool)
    (hsub : sub S (p + level + 1) (p + level + 1 + l.length) = l) (hle : p + level + 1 + l.length ≤ S.length) :
    Rep S (.old (.atx level l)) (node5 p (.old (.atx level l)) bk) :=
  ⟨rfl, rfl, p + level + 1, by simp [node5, node4, headN, paraSegsG, sg], hsub, hle⟩

/-- a fenced code block: the opening line and the content lines, whatever follows them (`tail`: the closing fence with
    its line feed, or nothing where the closing fence ends the source) -/
theorem rep_fence {S : Bytes} (fc : UInt8) (n : Nat) (info : Bytes) (ls tail : List Bytes) (p : Nat) (bk : Bool)
    (hl0 : Ln S p (p + (n + 3 + info.length) + 1) ((List.replicate (n + 3) fc ++ info) ++ [10]))
    (hrest : ParaAt S (p + (n + 3 + info.length) + 1) (ls ++ tail)) :
    Rep S (.fence fc n info ls) (node5 p (.fence fc n info ls) bk) := by
  have e1 : p + n + 3 + info.length + 1 = p + (n + 3 + info.length) + 1 := by omega
  have hshape := csegs_shape ls tail (p + (n + 3 + info.length) + 1) hrest
  have hsv := segValues_csegs ls tail (p + (n + 3 + info.length) + 1) hrest
  rw [← e1] at hshape hsv
  have hle := hl0.le
  refine ⟨rfl, hshape, hsv, ?_⟩
  by_cases hi : info = []
  · subst hi; simp [node5, fenceN]
  · have hie : info.isEmpty = false := by cases info with
      | nil => exact absurd rfl hi
      | cons a t => rfl
    have hpos : 0 < info.length := by cases info with
      | nil => exact absurd rfl hi
      | cons a t => simp
    have hsub : sub S (p + n + 3) (p + (n + 3 + info.length) + 1) = info ++ [10] := by
      have := sub_drop_prefix S p (p + (n + 3 + info.length) + 1) (List.replicate (n + 3) fc) (info ++ [10])
        (by rw [hl0.sub]; simp) (by simp; omega)
      simpa [Nat.add_assoc] using this
    have hinfo : sub S (p + n + 3) (p + n + 3 + info.length) = info :=
      sub_prefix S (p + n + 3) info.length info 10 rfl (by rw [e1]; exact hsub)
    have hval : (sg (p + n + 3) (p + n + 3 + info.length)).value S = .ok info :=
      seg_value_nat S (p + n + 3) (p + n + 3 + info.length) false info hinfo (by omega) (by omega) (fun h => by cases h)
    simp only [hie, Bool.false_eq_true, if_false, node5, fenceN]
    refine ⟨_, rfl, ?_, hval⟩
    intro s hs
    simp only [List.mem_singleton] at hs
    subst hs
    exact ⟨p + n + 3, p + n + 3 + info.length, false, rfl, by omega, by omega⟩

/-- the closed node of a block of the fragment's own run represents the block -/
theorem rep_base {S : Bytes} (b : Raw5) (p : Nat) (bk : Bool) (h : ParaAt S p (lines5 b)) : Rep S b (node5 p b bk) := by
  cases b with
  | icode ls => exact ⟨rfl, segValues_icsegs ls p h⟩
  | old b' =>
    cases b' with
    | hr x => exact ⟨rfl, rfl⟩
    | para ls => exact rep_para ls p bk (linesAtE_of_paraAtLfE ls p (by simpa [lines5, lines4] using h))
    | atx level l =>
      have hln : Ln S p (p + (List.replicate level 35 ++ 32 :: l).length + 1)
          ((List.replicate level 35 ++ 32 :: l) ++ [10]) := h.1
      have hE : p + (List.replicate level 35 ++ 32 :: l).length + 1 = p + level + 1 + l.length + 1 := by simp; omega
      rw [hE] at hln
      have hsub : sub S (p + level + 1) (p + level + 1 + l.length + 1) = l ++ [10] := by
        have := sub_drop_prefix S p (p + level + 1 + l.length + 1) (List.replicate level 35 ++ [32]) (l ++ [10])
          (by rw [hln.sub]; simp) (by simp; omega)
        simpa [Nat.add_assoc] using this
      exact rep_atx level l p bk (sub_prefix S (p + level + 1) l.length l 10 rfl hsub) (by have := hln.le; omega)
  | fence fc n info ls =>
    obtain ⟨hl0, hrest⟩ := h
    have elen : (List.replicate (n + 3) fc ++ info).length = n + 3 + info.length := by simp
    rw [elen] at hl0 hrest
    exact rep_fence fc n info ls [List.replicate (n + 3) fc] p bk hl0 hrest

/-- … and so does the closed node of the LAST block of a source without final line feed -/
theorem rep_baseE {S : Bytes} (b : Raw5) (p : Nat) (bk : Bool) (hnic : isIcB b = false)
    (h : ParaAtE S p (lines5 b)) : Rep S b (node5 p b bk) := by
  cases b with
  | icode ls => exact absurd hnic (by simp [isIcB])
  | old b' =>
    cases b' with
    | hr x => exact ⟨rfl, rfl⟩
    | para ls => exact rep_para ls p bk (linesAtE_of_paraAtE ls p (by simpa [lines5, lines4] using h))
    | atx level l =>
      have hln : Ln S p (p + (List.replicate level 35 ++ 32 :: l).length) (List.replicate level 35 ++ 32 :: l) := h.1
      have hE : p + (List.replicate level 35 ++ 32 :: l).length = p + level + 1 + l.length := by simp; omega
      rw [hE] at hln
      have hsub : sub S (p + level + 1) (p + level + 1 + l.length) = l := by
        have := sub_drop_prefix S p (p + level + 1 + l.length) (List.replicate level 35 ++ [32]) l
          (by rw [hln.sub]; simp) (by simp; omega)
        simpa [Nat.add_assoc] using this
      exact rep_atx level l p bk hsub hln.le
  | fence fc n info ls =>
    have hE' : ParaAtE S p (((List.replicate (n + 3) fc ++ info) :: ls) ++ [List.replicate (n + 3) fc]) := by
      simpa [lines5] using h
    obtain ⟨⟨hl0, hrest⟩, _⟩ := (paraAtE_snoc _ _ p).mp hE'
    have elen : (List.replicate (n + 3) fc ++ info).length = n + 3 + info.length := by simp
    rw [elen] at hl0 hrest
    exact rep_fence fc n info ls [] p bk hl0 (by simpa using hrest)

theorem segValues_icsegsE {src : Bytes} : ∀ (ls : List Bytes) (P : Nat), ParaAtE src P (icLines ls) → (∀ l ∈ ls, IcLine l) →
    GM.Convert.segValues src (icsegsE P ls) = .ok (ls.map (· ++ [10]))
  | [], _, h, _ => h.elim
  | [l], P, h, hg => by
    have hl : LastLn src P (ind4 ++ l) := ⟨h.1, h.2⟩
    obtain ⟨c, t, hlc, hc⟩ := (hg l (by simp)).first
    have hln := hl.ln
    have hlen : (ind4 ++ l).length = 4 + l.length := by simp [ind4]; omega
    rw [hlen] at hln
    have hsub : sub src (P + 4) (P + (4 + l.length)) = l := by
      have := sub_shift (src := src) (p := P) (e := P + (4 + l.length)) (a := ind4) (w := l) (by rw [hln.sub])
      simpa [ind4] using this
    have e : P + 4 + l.length = P + (4 + l.length) := by omega
    have hval : (csg (P + 4) (P + 4 + l.length)).value src = .ok (l ++ [10]) := by
      rw [e]
      exact seg_value12E (P + 4) (P + (4 + l.length)) l hsub (by omega) hln.le (by rw [hlc]; simp)
        (fun h => (hg l (by simp)).noNl 10 (List.mem_of_getLast? h) rfl)
    simp only [icsegsE, GM.Convert.segValues, hval, bind, Except.bind, pure, Except.pure, List.map_cons, List.map_nil]
  | l :: l' :: rest, P, h, hg => by
    have e : P + (ind4 ++ l).length + 1 = P + 4 + l.length + 1 := by simp [ind4]; omega
    have h1 : Ln src P (P + 4 + l.length + 1) ((ind4 ++ l) ++ [10]) := by
      have := h.1; simp only [icLines, List.map_cons] at this; rw [e] at this; exact this
    have h2 : ParaAtE src (P + 4 + l.length + 1) (icLines (l' :: rest)) := by
      have := h.2; simp only [icLines, List.map_cons] at this ⊢; rw [e] at this; exact this
    have ih := segValues_icsegsE (l' :: rest) (P + 4 + l.length + 1) h2 (fun x hx => hg x (by simp [hx]))
    have hsub : sub src (P + 4) (P + 4 + l.length + 1) = l ++ [10] := by
      have := sub_drop_prefix src P (P + 4 + l.length + 1) ind4 (l ++ [10]) (by rw [h1.sub]; simp)
        (by simp [ind4]; omega)
      simpa [ind4] using this
    have hval : (csg (P + 4) (P + 4 + l.length + 1)).value src = .ok (l ++ [10]) :=
      seg_value_nat src (P + 4) (P + 4 + l.length + 1) true (l ++ [10]) hsub (by omega) h1.le (fun _ => by simp)
    simp only [icsegsE, GM.Convert.segValues, hval, ih, bind, Except.bind, pure, Except.pure, List.map_cons]

/-- the node `node5E` of the last block of a source without final line feed, every kind of block -/
theorem rep_baseL {S : Bytes} (b : Raw5) (p : Nat) (bk : Bool) (hg : Good5 b) (h : ParaAtE S p (lines5 b)) :
    Rep S b (node5E p b bk) := by
  cases b with
  | icode ls => exact ⟨rfl, segValues_icsegsE ls p h hg.2⟩
  | old b' => exact rep_baseE _ p bk rfl h
  | fence fc n info ls => exact rep_baseE _ p bk rfl h

/-! ### what `docTree` reads from a representing node -/

/-- `docTree` reads every node that represents block `b` as the node `n` -/
def RepDT (env : GM.Inl.Env) (b : Raw5) (n : GM.Node) : Prop :=
  ∀ (X : Bytes) (m : Blocks.Node), Rep X b m → m.children = [] →
    GM.Convert.docTree true env X (.node m []) = .ok n

/-- what the inline phase and `inlineTrees` make of the lines `ls`, line `j` lying at byte `ps[j]` of whatever source -/
def ParaDTG (env : GM.Inl.Env) (ls : List Bytes) (ns : List GM.Node) : Prop :=
  ∃ kidsAt : List Nat → List GM.Inl.Node,
    (∀ src ps, LinesAtG src ps ls → GM.Inl.parseBlock env src (paraSegsG ps ls) = .ok (kidsAt ps)) ∧
    (∀ src ps, LinesAtG src ps ls → GM.Convert.inlineTrees src (kidsAt ps) = .ok ns)

theorem blkLine_ne {l : Bytes} (h : BlkLine l) : l ≠ [] := by
  obtain ⟨c, t, e, _⟩ := h.first; rw [e]; simp

/-- `docTree` on a leaf that is not a code block and whose lines are the lines `ls`, line `j` at byte `ps[j]` -/
theorem docTree_linesG {src : Bytes} (env : GM.Inl.Env) (ls : List Bytes) (ps : List Nat) (m : Blocks.Node) (K : GM.Kind)
    (hlines : m.lines = paraSegsG ps ls) (hraw : GM.Convert.isRawKind m.kind = false)
    (hK : GM.Convert.blockKind src m = .ok K)
    (hne : ls ≠ []) (hnel : ∀ l ∈ ls, l ≠ []) (h : LinesAtG src ps ls) (kids : List GM.Inl.Node) (ns : List GM.Node)
    (hpb : GM.Inl.parseBlock env src (paraSegsG ps ls) = .ok kids)
    (hit : GM.Convert.inlineTrees src kids = .ok ns) :
    GM.Convert.docTree true env src (.node m []) = .ok (.mk K none ns) := by
  have hw := wf0B_linesG ps ls hne h hnel
  have hle : (paraSegsG ps ls).isEmpty = false := by
    cases hs : paraSegsG ps ls with
    | nil => rw [hs] at hw; simp [GM.LinkRef.wf0B, GM.LinkRef.wfSegsB] at hw
    | cons _ _ => rfl
  simp only [GM.Convert.docTree, GM.Convert.docTrees, GM.Convert.inlinePhase, hraw, hlines, hle, hw,
    hpb, GM.Convert.liftErr, hK, bind, Except.bind, pure, Except.pure]
  simp [hit]

theorem repDT_para (env : GM.Inl.Env) (ls : List Bytes) (hne : ls ≠ []) (hb : ∀ l ∈ ls, BlkLine l)
    (ns : List GM.Node) (hin : ParaDTG env ls ns) : RepDT env (.old (.para ls)) (.mk .paragraph none ns) := by
  obtain ⟨kidsAt, hpb, hit⟩ := hin
  intro X m h _
  obtain ⟨hk, ps, hL, hG⟩ := h
  exact docTree_linesG env ls ps m .paragraph hL (by rw [hk]; rfl)
    (by simp [GM.Convert.blockKind, hk, pure, Except.pure]) hne (fun l hl => blkLine_ne (hb l hl)) hG _ ns
    (hpb _ ps hG) (hit _ ps hG)

theorem repDT_atx (env : GM.Inl.Env) (level : Nat) (l : Bytes) (hb : BlkLine l) (ns : List GM.Node)
    (hin : ParaDTG env [l] ns) : RepDT env (.old (.atx level l)) (.mk (.heading level) none ns) := by
  obtain ⟨kidsAt, hpb, hit⟩ := hin
  intro X m h _
  obtain ⟨hk, hlv, A, hL, hG⟩ := h
  exact docTree_linesG env [l] [A] m (.heading level) hL (by rw [hk]; rfl)
    (by simp [GM.Convert.blockKind, hk, hlv, pure, Except.pure]) (by simp) (by simpa using blkLine_ne hb) hG _ ns
    (hpb _ [A] hG) (hit _ [A] hG)

theorem repDT_hr (env : GM.Inl.Env) (x : Bytes) : RepDT env (.old (.hr x)) (.mk .thematicBreak none []) := by
  intro X m h _
  obtain ⟨hk, hl⟩ := h
  simp only [GM.Convert.docTree, GM.Convert.docTrees, GM.Convert.inlinePhase, hk, hl, GM.Convert.isRawKind,
    GM.Convert.inlineTrees, GM.Convert.liftErr, GM.Convert.blockKind, List.isEmpty_nil, bind, Except.bind, pure,
    Except.pure]
  simp [GM.Convert.inlineTrees, pure, Except.pure]

theorem repDT_fence (env : GM.Inl.Env) (fc : UInt8) (n : Nat) (info : Bytes) (ls : List Bytes) :
    RepDT env (.fence fc n info ls) (rawNode5 (.fence fc n info ls)) := by
  intro X m h _
  obtain ⟨hk, _, hv, hi⟩ := h
  by_cases hie : info.isEmpty = true
  · simp only [hie, if_true] at hi
    simp only [GM.Convert.docTree, GM.Convert.docTrees, GM.Convert.inlinePhase, hk, GM.Convert.isRawKind,
      GM.Convert.inlineTrees, GM.Convert.liftErr, GM.Convert.blockKind, hi, hv, hie, if_true,
      bind, Except.bind, pure, Except.pure, rawNode5]
    simp [GM.Convert.inlineTrees, pure, Except.pure]
  · simp only [hie, Bool.false_eq_true, if_false] at hi
    obtain ⟨t, ht, _, htv⟩ := hi
    simp only [GM.Convert.docTree, GM.Convert.docTrees, GM.Convert.inlinePhase, hk, GM.Convert.isRawKind,
      GM.Convert.inlineTrees, GM.Convert.liftErr, GM.Convert.blockKind, ht, htv, hv, hie, Bool.false_eq_true, if_false,
      bind, Except.bind, pure, Except.pure, rawNode5]
    simp [GM.Convert.inlineTrees, pure, Except.pure]

theorem repDT_icode (env : GM.Inl.Env) (ls : List Bytes) : RepDT env (.icode ls) (rawNode5 (.icode ls)) := by
  intro X m h _
  obtain ⟨hk, hv⟩ := h
  simp only [GM.Convert.docTree, GM.Convert.docTrees, GM.Convert.inlinePhase, hk, GM.Convert.isRawKind,
    GM.Convert.inlineTrees, GM.Convert.liftErr, GM.Convert.blockKind, hv, bind, Except.bind, pure, Except.pure, rawNode5]
  simp [GM.Convert.inlineTrees, pure, Except.pure]

theorem paraDTG_plain (env : GM.Inl.Env) (henv : env.escapedSpace = false) (ls : List Bytes) (hne : ls ≠ [])
    (hg : ∀ l ∈ ls, GoodLine l) : ParaDTG env ls (textNodes ls) :=
  ⟨fun ps => paraKidsG ps ls, fun src ps h => parseBlock_linesG env henv src ps ls hne hg h,
    fun _ ps h => inlineTrees_linesG ps ls h⟩

/-- the blocks of stage 6: lines of plain text -/
theorem repDT_good (env : GM.Inl.Env) (henv : env.escapedSpace = false) (b : Raw5) (hg : Good5' b) :
    RepDT env b (rawNode5 b) := by
  cases b with
  | old b' =>
    cases b' with
    | para ls =>
      exact repDT_para env ls hg.1 (fun l hl => (hg.2 l hl).blk (quiet_no_nl l 0 false (hg.2 l hl).quiet)) _
        (paraDTG_plain env henv ls hg.1 hg.2)
    | atx level l =>
      have hgl := hg.2.2.1
      have := repDT_atx env level l (hgl.blk (quiet_no_nl l 0 false hgl.quiet)) _
        (paraDTG_plain env henv [l] (by simp) (by simpa using hgl))
      simpa [rawNode5, rawNode, textNodes] using this
    | hr x => exact repDT_hr env x
  | fence fc n info ls => exact repDT_fence env fc n info ls
  | icode ls => exact repDT_icode env ls

/-- `docTree` on the closed node of one block of stage 6 -/
theorem docTree_block5 {src : Bytes} (env : GM.Inl.Env) (henv : env.escapedSpace = false) (b : Raw5) (p : Nat)
    (bk : Bool) (hg : Good5' b) (h : ParaAt src p (lines5 b)) :
    GM.Convert.docTree true env src (.node (node5 p b bk) []) = .ok (rawNode5 b) :=
  repDT_good env henv b hg src _ (rep_base b p bk h) (node5_children p b bk)

/-- `docTree` on the closed node of the LAST block (no final line feed) -/
theorem docTree_block7 {src : Bytes} (env : GM.Inl.Env) (henv : env.escapedSpace = false) (b : Raw5) (p : Nat)
    (bk : Bool) (hg : Good5' b) (hnic : isIcB b = false) (h : ParaAtE src p (lines5 b)) :
    GM.Convert.docTree true env src (.node (node5 p b bk) []) = .ok (rawNode5 b) :=
  repDT_good env henv b hg src _ (rep_baseE b p bk hnic h) (node5_children p b bk)

end GM.Proof.CMFrag
