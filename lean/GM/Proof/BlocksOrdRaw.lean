/-
  GM.Proof.BlocksOrdRaw — the ORDER clause for the three RAW kinds (CodeBlock, FencedCodeBlock, HTMLBlock): which
  segment their parsers append, relative to the start `L` of the current source line.

  * `PadL L c` — the sharp form of `PadOK`: virtual padding exists only behind a tab OF THIS LINE (`c.pad ≠ 0 → L < c.p`).
    It is what makes `preserveLeadingTabInCodeBlock` (code_block.go:93-102), which moves a segment start one byte back,
    stay on the line. `advPadCur_padl`: `AdvanceAndSetPadding(n, p)` keeps it when a padding can only be set after a
    real byte was consumed; `ipp_pos`: `util.IndentPosition` consumes at least one byte when it succeeds.
  * `codeTakeLine_app`, `codeContinue_app`, `fencedContinue_app`, `htmlContinue_app`, `codeOpen_new`, `htmlOpen_new`:
    the node's lines afterwards are the old ones, or the old ones plus ONE segment `t` with `L ≤ t.start` and
    `t.stop ≤` the reader's line end.
-/
import GM.Proof.BlocksOrdCopy

namespace GM.Blocks
open GM GM.Text GM.Spec GM.Proof.Reader
open GM.Proof.BlocksWF0 (isRaw)

/-- virtual padding only exists behind a tab of the current source line (which starts at `L`) -/
def PadL (L : Int) (c : RCur) : Prop := c.pad ≠ 0 → L < c.p

theorem advN_prog (src : Bytes) : ∀ (n : Nat) (c : RCur), c.pad = 0 → c.p < src.length → 1 ≤ n →
    c.p < (RCur.advN src n c).p := by
  intro n c hz hlt hn
  cases n with
  | zero => omega
  | succ k =>
    simp only [RCur.advN]
    rcases adv1_cases src c with ⟨_, h⟩ | ⟨_, h, _⟩ | ⟨_, _, ln', e⟩
    · exact absurd hlt h
    · exact absurd hz h
    · rw [e]
      have := (advN_mono src k { c with p := c.p + 1, ln := ln' } (by show c.p + 1 ≤ src.length; omega)).1
      have e2 : ({ c with p := c.p + 1, ln := ln' } : RCur).p = c.p + 1 := rfl
      omega

theorem advPadCur_padl {src : Bytes} {L : Int} {c : RCur} {n p : Int} (hL : L ≤ c.p) (hpl : PadL L c)
    (hin : c.p ≤ src.length) (hprog : c.pad = 0 → 0 < p → 1 ≤ n ∧ c.p < src.length) :
    PadL L (advPadCur src n p c) ∧ L ≤ (advPadCur src n p c).p := by
  unfold advPadCur
  obtain ⟨m1, _⟩ := advN_mono src n.toNat c hin
  have hpadle := advN_pad_le src n.toNat c
  simp only
  split
  · next hset =>
    refine ⟨fun _ => ?_, by show L ≤ ((RCur.advN src n.toNat c).p : Int); omega⟩
    show L < ((RCur.advN src n.toNat c).p : Int)
    by_cases hz : c.pad = 0
    · obtain ⟨h1, h2⟩ := hprog hz (by omega)
      have := advN_prog src n.toNat c hz h2 (by omega)
      omega
    · have := hpl hz; omega
  · refine ⟨fun hne => ?_, by omega⟩
    have hz : c.pad ≠ 0 := by omega
    have := hpl hz; omega

/-! ### `Advance(n)` at the reader level: a padding is never created -/

/-- the reader-level form of `PadL` (with the line end not negative, which `AdvanceLine` needs) -/
def PadR (L : Int) (r : Reader) : Prop := 0 ≤ r.pos.stop ∧ (r.pos.padding ≠ 0 → L < r.pos.start)

theorem advanceLoop_padr {L : Int} : ∀ (k : Nat) (r r' : Reader), PadR L r → r.advanceLoop k = .ok r' → PadR L r' := by
  intro k
  induction k with
  | zero => intro r r' hp h; unfold Reader.advanceLoop at h; cases h; exact hp
  | succ k ih =>
    intro r r' hp h
    unfold Reader.advanceLoop at h
    split at h
    · split at h
      · next hpad =>
        refine ih _ r' ?_ h
        refine ⟨hp.1, fun _ => ?_⟩
        apply hp.2
        intro h0; rw [h0] at hpad; exact absurd hpad (by decide)
      · next hpad =>
        have hz : r.pos.padding = 0 := by
          cases hh : (r.pos.padding != 0) with
          | true => exact absurd hh hpad
          | false => simpa using hh
        cases hb : getByte r.source r.pos.start with
        | error e => rw [hb] at h; simp [bind, Except.bind] at h
        | ok c =>
          rw [hb] at h
          simp only [bind, Except.bind] at h
          split at h
          · refine ih _ r' ?_ h
            unfold Reader.advanceLine
            simp only
            rw [if_neg (by have := hp.1; omega)]
            exact ⟨by show (0 : Int) ≤ ((lineEnd r.source r.pos.stop.toNat : Nat) : Int); omega,
              fun hne => absurd rfl hne⟩
          · refine ih _ r' ?_ h
            exact ⟨hp.1, fun hne => absurd hz hne⟩
    · cases h; exact hp

theorem advance_padr {L : Int} {n : Int} {r r' : Reader} (hp : PadR L r) (h : r.advance n = .ok r') : PadR L r' := by
  unfold Reader.advance at h
  simp only at h
  have fast : ∀ (pl : Int), n < pl ∧ (r.pos.padding == 0) = true →
      (pure { r with lineOffset := -1, pos := { r.pos with start := r.pos.start + n }, peekedLine := none } :
        Except Panic Reader) = .ok r' → PadR L r' := by
    intro pl hc h
    cases h
    refine ⟨hp.1, fun hne => ?_⟩
    exfalso
    have := hc.2
    simp only [beq_iff_eq] at this
    exact hne this
  have slow : Reader.advanceLoop { r with lineOffset := -1, peekedLine := none } n.toNat = .ok r' → PadR L r' :=
    fun h => advanceLoop_padr _ { r with lineOffset := -1, peekedLine := none } r' hp h
  split at h <;> split at h
  · next hc => exact fast _ hc h
  · exact slow h
  · next hc => exact fast _ hc h
  · exact slow h

theorem padr_of_ri {src : Bytes} {L : Int} {r : Reader} {c : RCur} (h : RI src r c) (hpl : PadL L c) : PadR L r := by
  rw [PadR, h.pos]
  refine ⟨by show (0 : Int) ≤ (lineEnd src c.p : Int); omega, fun hne => ?_⟩
  have : c.pad ≠ 0 := by
    intro h0; apply hne; show ((c.pad : Nat) : Int) = 0; omega
  exact hpl this

theorem padl_of_padr {src : Bytes} {L : Int} {r : Reader} {c : RCur} (h : RI src r c) (hp : PadR L r) : PadL L c := by
  intro hne
  have e := h.pos
  have h1 : r.pos.padding = (c.pad : Int) := by rw [e]
  have h2 : r.pos.start = (c.p : Int) := by rw [e]
  have := hp.2 (by rw [h1]; omega)
  omega

/-- two cursors of the same reader agree on position and padding -/
theorem padl_of_ri_ri {src : Bytes} {L : Int} {r : Reader} {c c' : RCur} (h : RI src r c) (h' : RI src r c') (hpl : PadL L c) :
    PadL L c' := by
  have e := h.pos
  rw [h'.pos] at e
  simp only [Segment.mk.injEq] at e
  obtain ⟨e1, _, e3, _⟩ := e
  intro hne
  have : c.pad ≠ 0 := by omega
  have := hpl this
  omega

theorem ippLoop_pos (cur width : Int) (bs : Bytes) (i w : Int) :
    ippLoop cur width bs i 0 w = (i, w) ∨ i < (ippLoop cur width bs i 0 w).1 := by
  obtain ⟨n, e, _, _, h0, _⟩ := ippLoop_passed cur width bs i 0 w
  by_cases hn : n = 0
  · exact .inl (Prod.ext (by simp [e, hn]) (h0 hn))
  · exact .inr (by omega)

/-- without a virtual padding, `IndentPositionPadding` for a positive width consumes at least one byte when it
    succeeds -/
theorem ipp_pos {bs : Bytes} {cur width pos padding : Int} (h : indentPositionPadding bs cur 0 width = (pos, padding))
    (hw : 0 < width) (hp : 0 ≤ pos) : 1 ≤ pos := by
  unfold indentPositionPadding at h
  rw [if_neg (by simp; omega)] at h
  simp only at h
  split at h
  · next hge =>
    cases h
    rcases ippLoop_pos cur width bs 0 0 with e | e
    · rw [e] at hge; simp only at hge; omega
    · omega
  · cases h; omega

/-- with a virtual padding `pv ≥ 0` and a width `≥ 0`: a non-zero result padding means a consumed byte or `pv ≠ 0` -/
theorem ipp_pos_pad {bs : Bytes} {cur pv width pos padding : Int}
    (h : indentPositionPadding bs cur pv width = (pos, padding)) (hw : 0 ≤ width) (hp : 0 ≤ pos) (hne : padding ≠ 0) :
    1 ≤ pos ∨ pv ≠ 0 := by
  by_cases hpv : pv = 0
  · subst hpv
    by_cases hw0 : width = 0
    · subst hw0
      unfold indentPositionPadding at h
      rw [if_pos (by rfl)] at h
      cases h
      exact absurd rfl hne
    · exact .inl (ipp_pos h (by omega) hp)
  · exact .inr hpv

theorem olineOffset_ok {s : St} {a : Int} {s' : St} (h : GM.Blocks.lineOffset s = .ok (a, s')) :
    ∃ r', s' = { s with r := r' } := by
  unfold GM.Blocks.lineOffset at h
  cases hf : s.r.lineOffsetOp with
  | error e => simp [hf, bind, Except.bind] at h
  | ok p => simp only [hf, bind, Except.bind, pure, Except.pure] at h; cases h; exact ⟨_, rfl⟩

theorem oadvance_ok {n : Int} {s : St} {a : Unit} {s' : St} (h : GM.Blocks.advance n s = .ok (a, s')) :
    ∃ r', s' = { s with r := r' } := by
  unfold GM.Blocks.advance at h
  cases hf : s.r.advance n with
  | error e => simp [hf, bind, Except.bind] at h
  | ok p => simp only [hf, bind, Except.bind, pure, Except.pure] at h; cases h; exact ⟨_, rfl⟩

theorem oadvance_ok' {n : Int} {s : St} {a : Unit} {s' : St} (h : GM.Blocks.advance n s = .ok (a, s')) :
    ∃ r', s' = { s with r := r' } ∧ s.r.advance n = .ok r' := by
  unfold GM.Blocks.advance at h
  cases hf : s.r.advance n with
  | error e => simp [hf, bind, Except.bind] at h
  | ok p => simp only [hf, bind, Except.bind, pure, Except.pure] at h; cases h; exact ⟨_, rfl, rfl⟩

theorem oadvanceAndSetPadding_ok {n p : Int} {s : St} {a : Unit} {s' : St}
    (h : GM.Blocks.advanceAndSetPadding n p s = .ok (a, s')) : ∃ r', s' = { s with r := r' } := by
  unfold GM.Blocks.advanceAndSetPadding at h
  cases hf : s.r.advanceAndSetPadding n p with
  | error e => simp [hf, bind, Except.bind] at h
  | ok q => simp only [hf, bind, Except.bind, pure, Except.pure] at h; cases h; exact ⟨_, rfl⟩

theorem oposition_ok {s : St} {a : Int × Segment} {s' : St} (h : position s = .ok (a, s')) :
    a = s.r.position ∧ s' = s := by cases h; exact ⟨rfl, rfl⟩

theorem osetPosition_ok {l : Int} {p : Segment} {s : St} {a : Unit} {s' : St} (h : setPosition l p s = .ok (a, s')) :
    s' = { s with r := s.r.setPosition l p } := by cases h; rfl

theorem osource_ok {s : St} {a : Bytes} {s' : St} (h : source s = .ok (a, s')) : a = s.r.source ∧ s' = s := by
  cases h; exact ⟨rfl, rfl⟩

/-- preserveLeadingTabInCodeBlock: the segment stays, or moves its start one byte back (padding 0); the store and the
    context are untouched -/
theorem preserveLeadingTab_inv {seg : Segment} {ind : Int} {s : St} {seg' : Segment} {s' : St}
    (h : preserveLeadingTab seg ind s = .ok (seg', s')) :
    (seg' = seg ∨ seg' = { seg with padding := 0, start := seg.start - 1 }) ∧ s'.nodes = s.nodes ∧ s'.pc = s.pc := by
  unfold preserveLeadingTab at h
  obtain ⟨lo1, s1, h1, k1⟩ := bind_ok h
  obtain ⟨r1, hs1⟩ := olineOffset_ok h1
  subst s1
  obtain ⟨ps, s2, h2, k2⟩ := bind_ok k1
  obtain ⟨hps, hs2⟩ := oposition_ok h2
  subst s2
  obtain ⟨sl, ss⟩ := ps
  dsimp only at k2
  obtain ⟨_, s3, h3, k3⟩ := bind_ok k2
  have hs3 := osetPosition_ok h3
  subst s3
  obtain ⟨lo2, s4, h4, k4⟩ := bind_ok k3
  obtain ⟨r4, hs4⟩ := olineOffset_ok h4
  subst s4
  obtain ⟨_, s5, h5, k5⟩ := bind_ok k4
  have hs5 := osetPosition_ok h5
  subst s5
  obtain ⟨hseg, hs'⟩ := pure_ok k5
  subst s'
  refine ⟨?_, rfl, rfl⟩
  rw [hseg]
  split
  · right; rfl
  · left; rfl

/-- `node.Lines().Append(seg)`: the lines of the node afterwards -/
theorem appendLine_lines {X : Nat} {seg : Segment} {s : St} {a : Unit} {s' : St} (h : appendLine X seg s = .ok (a, s')) :
    ((nd s' X).lines = (nd s X).lines ∨ (nd s' X).lines = (nd s X).lines ++ [seg]) ∧ s'.r = s.r ∧ s'.pc = s.pc := by
  have e := modNode_ok h
  have hnd : nd s' X = nd (upd s X fun n => { n with lines := n.lines ++ [seg], linesNil := false }) X := by
    rw [e]; rfl
  refine ⟨?_, by rw [e], by rw [e]⟩
  rw [hnd, nd_upd]
  split
  · right; rfl
  · left; rfl

/-- the lines of `X` afterwards: the old ones, or one more segment that starts at or behind `L` and ends at or before
    the reader's line end -/
def RawApp (L E : Int) (X : Nat) (s s' : St) : Prop :=
  (nd s' X).lines = (nd s X).lines ∨
    ∃ t, (nd s' X).lines = (nd s X).lines ++ [t] ∧ L ≤ t.start ∧ t.stop ≤ E

/-- `RawApp`, and no line at all when `Continue` answered `Close` -/
def RawC (src : Bytes) (L E : Int) (X : Nat) (s s' : St) (st : PState) : Prop :=
  RawApp L E X s s' ∧
    (st.cont = false → (nd s' X).lines = (nd s X).lines ∧ ∀ c', RI src s'.r c' → PadL L c')

/-- existing nodes keep their lines, new nodes have none -/
def LinesKept (s s' : St) : Prop :=
  s.nodes.length ≤ s'.nodes.length ∧ (∀ i, i < s.nodes.length → (nd s' i).lines = (nd s i).lines) ∧
    (∀ i, s.nodes.length ≤ i → (nd s' i).lines = [])

theorem LinesKept.trans {a b c : St} (h1 : LinesKept a b) (h2 : LinesKept b c) : LinesKept a c := by
  refine ⟨Nat.le_trans h1.1 h2.1, fun i hi => ?_, fun i hi => ?_⟩
  · exact (h2.2.1 i (Nat.lt_of_lt_of_le hi h1.1)).trans (h1.2.1 i hi)
  · rcases Nat.lt_or_ge i b.nodes.length with hb | hb
    · exact (h2.2.1 i hb).trans (h1.2.2 i hi)
    · exact h2.2.2 i hb

theorem LinesKept.of_nodes {s s' : St} (h : s'.nodes = s.nodes) : LinesKept s s' := by
  have : ∀ i, nd s' i = nd s i := fun i => by simp only [nd, h]
  exact ⟨by rw [h]; exact Nat.le_refl _, fun i _ => by rw [this], fun i hi => by rw [this, nd_default_of_ge s hi]; rfl⟩

structure FrK {α : Type} (m : M α) : Prop where
  h : ∀ s a s', m s = .ok (a, s') → LinesKept s s'

theorem FrK.throw {α} (e : Panic) : FrK (throw e : M α) := ⟨fun _ _ _ h => by cases h⟩

theorem linesKeptFrame : FrameRel LinesKept := ⟨LinesKept.trans, LinesKept.of_nodes⟩

theorem newNode_frk (n : Node) (hn : n.lines = []) : IFr LinesKept (newNode n) := by
  constructor
  intro s a s' h
  obtain ⟨_, hs⟩ := newNode_ok h
  have hsn : s'.nodes = s.nodes ++ [n] := by rw [hs]
  refine ⟨by rw [hsn]; simp, fun i hi => ?_, fun i hi => ?_⟩
  · simp only [nd, hsn, List.getD_eq_getElem?_getD, List.getElem?_append_left hi]
  · simp only [nd, hsn, List.getD_eq_getElem?_getD, List.getElem?_append_right hi]
    rcases Nat.eq_or_lt_of_le hi with e | e
    · rw [← e]; simp [hn]
    · have : i - s.nodes.length ≠ 0 := by omega
      cases hk : i - s.nodes.length with
      | zero => exact absurd hk this
      | succ k => simp; rfl

theorem fencedOpen_frk (p : Nat) : FrK (fencedOpen p) := by
  have := linesKeptFrame
  have := newNode_frk
  unfold fencedOpen
  exact ⟨IFr.h (by stepsR)⟩

/-- the node fencedCodeBlockParser.Open builds has no lines -/
theorem fencedOpen_new {parent : Nat} {s s' : St} {a : Option Nat × PState} {n : Node}
    (h : fencedOpen parent s = .ok (a, s')) (hn : s'.nodes = s.nodes ++ [n]) : n.lines = [] := by
  have hk := (fencedOpen_frk parent).h s a s' h
  have := hk.2.2 s.nodes.length (Nat.le_refl _)
  simpa [nd, hn] using this


section leaf
variable {src : Bytes}

theorem RI.stop {s : St} {c : RCur} (h : RI src s.r c) : Stop src (lineEnd src c.p : Int) s := by
  have hp := h.pos
  have h1 := lineEnd_le src c.p
  refine ⟨h.source, ?_, ?_, ?_⟩ <;> rw [hp] <;> simp only <;> omega

/-- the reader's line end does not move back over a reader call that keeps `Stop` -/
theorem stop_le_of_pres {α} {m : M α} {b : Int} (hm : Pres (Stop src b) m) {s : St} (hs : Stop src b s) {a : α} {s' : St}
    (h : m s = .ok (a, s')) : b ≤ s'.r.pos.stop := (hm.ok hs h).lb

/-- the common tail of codeBlockParser.Open / Continue: one segment, on this line -/
theorem codeTakeLine_app {L : Int} {X : Nat} {pos padding : Int} {s s' : St} {c : RCur} (hri : RI src s.r c)
    (hlt : c.p < src.length) (hL : L ≤ c.p) (hpl : PadL L c) (hpos : 1 ≤ pos)
    (hwithin : pos.toNat + 1 ≤ c.pad + (lineEnd src c.p - c.p))
    (h : codeTakeLine X pos padding s = .ok ((), s')) : RawApp L (lineEnd src c.p : Int) X s s' := by
  unfold codeTakeLine at h
  obtain ⟨_, s1, h1, k1⟩ := bind_ok h
  obtain ⟨r1, hs1, hri1⟩ := (advanceAndSetPadding_okl hri (by omega : (0 : Int) ≤ pos) padding).of_ok h1
  subst s1
  obtain ⟨hpl1, hL1⟩ := advPadCur_padl (src := src) (n := pos) (p := padding) hL hpl (Nat.le_of_lt hlt)
    (fun _ _ => ⟨hpos, hlt⟩)
  have hline : lineEnd src (advPadCur src pos padding c).p = lineEnd src c.p := by
    obtain ⟨_, _, _, i4, _, _⟩ := advN_within src pos.toNat c hlt hwithin
    unfold advPadCur
    simp only
    split
    · exact i4
    · exact i4
  generalize advPadCur src pos padding c = c1 at hri1 hpl1 hL1 hline
  obtain ⟨y, s2, h2, k2⟩ := bind_ok k1
  obtain ⟨rfl, r2, hs2, hri2⟩ := peekLine_inv hri1 h2
  subst s2
  dsimp only at k2
  have hst2 : Stop src (lineEnd src c1.p : Int) ({ s with r := r2 } : St) := RI.stop (s := { s with r := r2 }) hri2
  -- the append, for the segment `seg` that was chosen
  have tail : ∀ (seg : Segment) (s3 : St), (seg.start = c1.p ∨ (seg.start = (c1.p : Int) - 1 ∧ c1.pad ≠ 0)) →
      seg.stop = (lineEnd src c1.p : Int) → s3.nodes = s.nodes → Stop src (lineEnd src c1.p : Int) s3 →
      (do appendLine X { start := seg.start, stop := seg.stop, padding := seg.padding, forceNewline := true }
          advance (({ start := seg.start, stop := seg.stop, padding := seg.padding, forceNewline := true } : Segment).len - 1)
        : M Unit) s3 = .ok ((), s') → RawApp L (lineEnd src c.p : Int) X s s' := by
    intro seg s3 hstart hstop hn3 hst3 k3
    obtain ⟨_, s4, h4, k4⟩ := bind_ok k3
    obtain ⟨hl4, hr4, hpc4⟩ := appendLine_lines h4
    have hst4 : Stop src (lineEnd src c1.p : Int) s4 := (appendLine_pres (Stop.ronly src _) X _).ok hst3 h4
    have hle := stop_le_of_pres ((stop_prims src (lineEnd src c1.p : Int)).advance _) hst4 k4
    obtain ⟨r5, hs5⟩ := oadvance_ok k4
    have hnd3 : nd s3 X = nd s X := by simp only [nd, hn3]
    have hnd5 : nd s' X = nd s4 X := by rw [hs5]
    rw [hnd3] at hl4
    rcases hl4 with e | e
    · left; rw [hnd5]; exact e
    · right
      refine ⟨_, by rw [hnd5]; exact e, ?_, ?_⟩
      · show L ≤ seg.start
        rcases hstart with e1 | ⟨e1, hne⟩
        · rw [e1]; exact hL1
        · rw [e1]; have := hpl1 hne; omega
      · show seg.stop ≤ (lineEnd src c.p : Int)
        rw [hstop, hline]; exact Int.le_refl _
  split at k2
  · next hp =>
    have hne : c1.pad ≠ 0 := by
      intro h0
      have : (RCur.seg src c1).padding = 0 := by show ((c1.pad : Nat) : Int) = 0; omega
      rw [this] at hp; exact absurd hp (by decide)
    obtain ⟨seg, s3, h3, k3⟩ := bind_ok k2
    obtain ⟨hd, hn, hpc⟩ := preserveLeadingTab_inv h3
    have hst3 := ((stop_prims src (lineEnd src c1.p : Int)).preserveLeadingTab _ _).ok hst2 h3
    rcases hd with e | e
    · exact tail seg s3 (.inl (by rw [e]; rfl)) (by rw [e]; rfl) hn hst3 k3
    · exact tail seg s3 (.inr ⟨by rw [e]; rfl, hne⟩) (by rw [e]; rfl) hn hst3 k3
  · obtain ⟨seg, s3, h3, k3⟩ := bind_ok k2
    obtain ⟨e, hs3⟩ := pure_ok h3
    subst s3
    exact tail seg { s with r := r2 } (.inl (by rw [e]; rfl)) (by rw [e]; rfl) rfl hst2 k3

/-- the tail of htmlBlockParser.Open / Continue: the peeked segment is appended, the reader advances -/
theorem html_tail {L : Int} {X : Nat} {n : Int} {s0 s s' : St} {c : RCur} {α : Type} {a a' : α} (hri : RI src s.r c)
    (hL : L ≤ c.p) (hn : nd s X = nd s0 X)
    (h : (do appendLine X (RCur.seg src c); advance n; pure a : M α) s = .ok (a', s')) :
    RawApp L (lineEnd src c.p : Int) X s0 s' ∧ a' = a := by
  obtain ⟨_, s1, h1, k1⟩ := bind_ok h
  obtain ⟨hl1, hr1, hpc1⟩ := appendLine_lines h1
  have hst : Stop src (lineEnd src c.p : Int) s := RI.stop hri
  have hst1 : Stop src (lineEnd src c.p : Int) s1 := (appendLine_pres (Stop.ronly src _) X _).ok hst h1
  obtain ⟨_, s2, h2, k2⟩ := bind_ok k1
  have hle := stop_le_of_pres ((stop_prims src (lineEnd src c.p : Int)).advance _) hst1 h2
  obtain ⟨r2, hs2⟩ := oadvance_ok h2
  obtain ⟨ha, hs'⟩ := pure_ok k2
  subst s'
  have hnd2 : nd s2 X = nd s1 X := by rw [hs2]
  rw [hn] at hl1
  refine ⟨?_, ha⟩
  rcases hl1 with e | e
  · left; rw [hnd2]; exact e
  · right; exact ⟨_, by rw [hnd2]; exact e, hL, Int.le_refl _⟩

/-- htmlBlockParser.Open: the new node has no line or the one peeked segment -/
theorem htmlOpen_new {L : Int} {parent : Nat} {s s' : St} {c : RCur} {a : Option Nat × PState} (hri : RI src s.r c)
    (hL : L ≤ c.p) (h : htmlOpen parent s = .ok (a, s')) :
    ∀ id, a.1 = some id → id = s.nodes.length ∧ ((nd s' id).lines = [] ∨
      ∃ t, (nd s' id).lines = [t] ∧ L ≤ t.start ∧ t.stop ≤ (lineEnd src c.p : Int)) := by
  unfold htmlOpen at h
  obtain ⟨y, s1, h1, k1⟩ := bind_ok h
  obtain ⟨rfl, r1, hs1, hri1⟩ := peekLine_inv hri h1
  subst s1
  dsimp only at k1
  obtain ⟨lp, s2, h2, k2⟩ := bind_ok k1
  obtain ⟨_, hs2⟩ := lastOpenedBlock_ok h2
  subst s2
  have rest : ∀ (lip : Bool),
      (do let __do_lift ← getPc
          if __do_lift.blockOffset < 0 then pure (none, stNoChildren)
            else do
              let __do_lift ← liftE (idx ((RCur.view src c).getD []) __do_lift.blockOffset)
              if (__do_lift != 60) = true then pure (none, stNoChildren)
                else
                  match htmlOpenType ((RCur.view src c).getD []) lip with
                  | some t => do
                    let node ← newNode { kind := Kind.htmlBlock, htmlType := t }
                    advance ((RCur.seg src c).len - ↑(trimRightSpaceLength ((RCur.view src c).getD [])))
                    appendLine node (RCur.seg src c)
                    pure (some node, stNoChildren)
                  | none => pure (none, stNoChildren) : M (Option Nat × PState)) { s with r := r1 } = .ok (a, s') →
      ∀ id, a.1 = some id → id = s.nodes.length ∧ ((nd s' id).lines = [] ∨
        ∃ t, (nd s' id).lines = [t] ∧ L ≤ t.start ∧ t.stop ≤ (lineEnd src c.p : Int)) := by
    intro lip k2
    obtain ⟨pc, s3, h3, k3⟩ := bind_ok k2
    obtain ⟨_, hs3⟩ := getPc_ok h3
    subst s3
    split at k3
    · obtain ⟨ha, _⟩ := pure_ok k3
      intro id hid; rw [ha] at hid; cases hid
    · obtain ⟨ch, s4, h4, k4⟩ := bind_ok k3
      obtain ⟨_, hs4⟩ := liftE_ok h4
      subst s4
      split at k4
      · obtain ⟨ha, _⟩ := pure_ok k4
        intro id hid; rw [ha] at hid; cases hid
      · cases ht : htmlOpenType ((RCur.view src c).getD []) lip with
        | some t =>
          rw [ht] at k4
          dsimp only at k4
          obtain ⟨node, s5, h5, k5⟩ := bind_ok k4
          obtain ⟨hnode, hs5⟩ := newNode_ok h5
          subst s5
          have hnd5 : (nd ({ s with r := r1, nodes := s.nodes ++ [{ kind := .htmlBlock, htmlType := t }] } : St) node).lines = [] := by
            rw [hnode]; simp [nd]
          have hst5 : Stop src (lineEnd src c.p : Int)
              ({ s with r := r1, nodes := s.nodes ++ [{ kind := .htmlBlock, htmlType := t }] } : St) :=
            RI.stop (s := { s with r := r1, nodes := s.nodes ++ [{ kind := .htmlBlock, htmlType := t }] }) hri1
          obtain ⟨_, s6, h6, k6⟩ := bind_ok k5
          have hle := stop_le_of_pres ((stop_prims src (lineEnd src c.p : Int)).advance _) hst5 h6
          obtain ⟨r6, hs6⟩ := oadvance_ok h6
          obtain ⟨_, s7, h7, k7⟩ := bind_ok k6
          obtain ⟨hl7, hr7, _⟩ := appendLine_lines h7
          obtain ⟨ha, hs'⟩ := pure_ok k7
          subst s'
          intro id hid
          rw [ha] at hid
          cases hid
          have hnd6 : nd s6 node = nd ({ s with r := r1, nodes := s.nodes ++ [{ kind := .htmlBlock, htmlType := t }] } : St) node := by
            rw [hs6]
          rw [hnd6, hnd5] at hl7
          refine ⟨hnode, ?_⟩
          rcases hl7 with e | e
          · left; exact e
          · right
            exact ⟨_, by rw [e]; rfl, hL, Int.le_refl _⟩
        | none =>
          rw [ht] at k4
          dsimp only at k4
          obtain ⟨ha, _⟩ := pure_ok k4
          intro id hid; rw [ha] at hid; cases hid
  cases lp with
  | some lb =>
    dsimp only at k2
    obtain ⟨nn, s4, h4, k4⟩ := bind_ok k2
    obtain ⟨_, hs4⟩ := getNode_ok h4
    subst s4
    obtain ⟨lip, s5, h5, k5⟩ := bind_ok k4
    obtain ⟨_, hs5⟩ := pure_ok h5
    subst s5
    exact rest lip k5
  | none =>
    dsimp only at k2
    obtain ⟨lip, s5, h5, k5⟩ := bind_ok k2
    obtain ⟨_, hs5⟩ := pure_ok h5
    subst s5
    exact rest lip k5

theorem modNode_lines_same {X : Nat} {f : Node → Node} {s : St} {a : Unit} {s' : St} (hf : ∀ n, (f n).lines = n.lines)
    (h : modNode X f s = .ok (a, s')) : (nd s' X).lines = (nd s X).lines ∧ s'.r = s.r := by
  have e := modNode_ok h
  have hnd : nd s' X = nd (upd s X f) X := by rw [e]; rfl
  refine ⟨?_, by rw [e]⟩
  rw [hnd, nd_upd]
  split
  · exact hf _
  · rfl

/-- htmlBlockParser.Continue: no line, or the peeked segment -/
theorem htmlContinue_app {L : Int} {X : Nat} {s s' : St} {c : RCur} {st : PState} (hri : RI src s.r c) (hL : L ≤ c.p)
    (hpl : PadL L c) (h : htmlContinue X s = .ok (st, s')) : RawC src L (lineEnd src c.p : Int) X s s' st := by
  unfold htmlContinue at h
  obtain ⟨n, s0, h0, k0⟩ := bind_ok h
  obtain ⟨_, hs0⟩ := getNode_ok h0
  subst s0
  obtain ⟨y, s1, h1, k1⟩ := bind_ok k0
  obtain ⟨rfl, r1, hs1, hri1⟩ := peekLine_inv hri h1
  subst s1
  dsimp (config := { zeta := false }) only at k1
  extract_lets line closes jpA jpB at k1
  dsimp only [jpA, jpB] at k1
  have same : ∀ (sA : St), (nd sA X).lines = (nd s X).lines → sA.r = r1 → (pure stClose : M PState) sA = .ok (st, s') →
      RawC src L (lineEnd src c.p : Int) X s s' st := by
    intro sA hn hr k
    obtain ⟨_, hs⟩ := pure_ok k
    subst s'
    exact ⟨.inl hn, fun _ => ⟨hn, fun c' hc' => padl_of_ri_ri hri1 (by rw [← hr]; exact hc') hpl⟩⟩
  have tail : ∀ (sA : St) (n' : Int), sA = { s with r := r1 } →
      (do appendLine X (RCur.seg src c); advance n'; pure stContinueNoChildren : M PState) sA = .ok (st, s') →
      RawC src L (lineEnd src c.p : Int) X s s' st := by
    intro sA n' hsA k
    subst hsA
    obtain ⟨q1, q2⟩ := html_tail (s0 := s) (s := { s with r := r1 }) hri1 hL rfl k
    exact ⟨q1, fun hc => by rw [q2] at hc; cases hc⟩
  have close2 : ∀ (sA : St) (f : Node → Node) (n' : Int) (a : PState), (nd sA X).lines = (nd s X).lines → sA.r = r1 →
      (do modNode X f; advance n'; pure a : M PState) sA = .ok (st, s') →
      (∀ m, (f m).lines = m.lines) → RawC src L (lineEnd src c.p : Int) X s s' st := by
    intro sA f n' a hn hrA k hf
    obtain ⟨_, s2, h2, k2⟩ := bind_ok k
    obtain ⟨hl2, hr2⟩ := modNode_lines_same hf h2
    obtain ⟨_, s3, h3, k3⟩ := bind_ok k2
    obtain ⟨r3, hs3, hadv⟩ := oadvance_ok' h3
    obtain ⟨_, hs'⟩ := pure_ok k3
    subst s'
    have : nd s3 X = nd s2 X := by rw [hs3]
    have hsame : (nd s3 X).lines = (nd s X).lines := by rw [this, hl2, hn]
    have hpr : PadR L r3 := advance_padr (padr_of_ri (r := s2.r) (by rw [hr2, hrA]; exact hri1) hpl) hadv
    exact ⟨.inl hsame, fun _ => ⟨hsame, fun c' hc' => padl_of_padr (r := r3) (by rw [hs3] at hc'; exact hc') hpr⟩⟩
  rcases ite_ok k1 with ⟨_, k1⟩ | ⟨_, k1⟩
  · rcases ite_ok k1 with ⟨_, k1⟩ | ⟨_, k1⟩
    · obtain ⟨fl, s2, h2, k2⟩ := bind_ok k1
      obtain ⟨_, hs2⟩ := liftE_ok h2
      subst s2
      obtain ⟨sr, s3, h3, k3⟩ := bind_ok k2
      obtain ⟨_, hs3⟩ := osource_ok h3
      subst s3
      obtain ⟨v, s4, h4, k4⟩ := bind_ok k3
      obtain ⟨_, hs4⟩ := liftE_ok h4
      subst s4
      split at k4
      · exact same { s with r := r1 } rfl rfl k4
      · split at k4
        · exact close2 { s with r := r1 } _ _ _ rfl rfl k4 (fun _ => rfl)
        · exact tail _ _ rfl k4
    · split at k1
      · exact close2 { s with r := r1 } _ _ _ rfl rfl k1 (fun _ => rfl)
      · exact tail _ _ rfl k1
  · split at k1
    · split at k1
      · exact same { s with r := r1 } rfl rfl k1
      · exact tail _ _ rfl k1
    · exact tail _ _ rfl k1

/-- `TrimLeftSpaceWidth` moves the start forward only and keeps the stop -/
theorem trimLeftSpaceWidth_start {t t' : Segment} {w : Int} {buf : Bytes} (h1 : t.start ≤ t.stop)
    (h : t.trimLeftSpaceWidth w buf = .ok t') : t.start ≤ t'.start ∧ t'.stop = t.stop := by
  unfold Segment.trimLeftSpaceWidth at h
  generalize tlswPad w t.padding = wp at h
  obtain ⟨w1, p1⟩ := wp
  simp only at h
  split at h
  · cases h; exact ⟨Int.le_refl _, rfl⟩
  · cases hs : sliceB buf t.start t.stop with
    | error e => rw [hs] at h; simp [bind, Except.bind] at h
    | ok text =>
      rw [hs] at h
      simp only [bind, Except.bind, pure, Except.pure] at h
      have hb := tlswLoop_bounds t.stop text t.start w1 h1
      generalize tlswLoop t.stop text t.start w1 = sw at hb h
      obtain ⟨st, w'⟩ := sw
      simp only at hb h
      cases h
      exact ⟨hb.1, rfl⟩

/-- codeBlockParser.Continue: no line, or one segment on this line -/
theorem codeContinue_app {L : Int} {X : Nat} {s s' : St} {c : RCur} {st : PState} (hri : RI src s.r c)
    (hlt : c.p < src.length) (hL : L ≤ c.p) (hpl : PadL L c) (h : codeContinue X s = .ok (st, s')) :
    RawC src L (lineEnd src c.p : Int) X s s' st := by
  unfold codeContinue at h
  obtain ⟨y, s1, h1, k1⟩ := bind_ok h
  obtain ⟨rfl, r1, hs1, hri1⟩ := peekLine_inv hri h1
  subst s1
  dsimp only at k1
  split at k1
  · -- a blank line: the peeked segment, trimmed on the left
    obtain ⟨sr, s2, h2, k2⟩ := bind_ok k1
    obtain ⟨_, hs2⟩ := osource_ok h2
    subst s2
    obtain ⟨seg, s3, h3, k3⟩ := bind_ok k2
    obtain ⟨htr, hs3⟩ := liftE_ok h3
    subst s3
    have hge := lineEnd_ge src hri.inRange
    obtain ⟨b1, b2⟩ := trimLeftSpaceWidth_start (t := RCur.seg src c) (by show (c.p : Int) ≤ (lineEnd src c.p : Int); omega) htr
    obtain ⟨_, s4, h4, k4⟩ := bind_ok k3
    obtain ⟨hl4, hr4, _⟩ := appendLine_lines h4
    obtain ⟨hst, hs'⟩ := pure_ok k4
    subst s'
    refine ⟨?_, fun hc => by rw [hst] at hc; cases hc⟩
    rcases hl4 with e | e
    · left; exact e
    · right
      refine ⟨_, e, ?_, ?_⟩
      · have : (RCur.seg src c).start = (c.p : Int) := rfl
        omega
      · rw [b2]
        exact Int.le_refl _
  · obtain ⟨lo, s2, h2, k2⟩ := bind_ok k1
    obtain ⟨_, r2, hs2, hri2⟩ := (lineOffset_okl (s := { s with r := r1 }) hri1).of_ok h2
    subst s2
    generalize hip : indentPosition ((RCur.view src c).getD []) lo 4 = pp at k2
    obtain ⟨pos, padding⟩ := pp
    dsimp only at k2
    split at k2
    · obtain ⟨_, hs'⟩ := pure_ok k2
      subst s'
      exact ⟨.inl rfl, fun _ => ⟨rfl, fun c' hc' => padl_of_ri_ri hri2 hc' hpl⟩⟩
    · next hneg =>
      obtain ⟨_, s3, h3, k3⟩ := bind_ok k2
      obtain ⟨hst, hs'⟩ := pure_ok k3
      subst s'
      have hpos : 1 ≤ pos := ipp_pos (show indentPositionPadding _ lo 0 4 = (pos, padding) from hip) (by decide) (by omega)
      have hvl := view_getD_length_nat src c hlt
      have hb := indentPosition_bounds ((RCur.view src c).getD []) lo
      rw [hip] at hb
      have hnb : isBlank ((RCur.view src c).getD []) = false := by
        cases hbb : isBlank ((RCur.view src c).getD []) with
        | false => rfl
        | true => exact absurd hbb (by assumption)
      have hwithin : pos.toNat + 1 ≤ c.pad + (lineEnd src c.p - c.p) := by
        have := (hb (by simp only; omega)).2.2.1 hnb
        simp only at this
        omega
      exact ⟨codeTakeLine_app (s := { s with r := r2 }) hri2 hlt hL hpl hpos hwithin h3,
        fun hc => by rw [hst] at hc; cases hc⟩

/-- codeBlockParser.Open: the new node has one segment on this line -/
theorem codeOpen_new {L : Int} {parent : Nat} {s s' : St} {c : RCur} {a : Option Nat × PState} (hri : RI src s.r c)
    (hlt : c.p < src.length) (hL : L ≤ c.p) (hpl : PadL L c) (h : codeOpen parent s = .ok (a, s')) :
    ∀ id, a.1 = some id → id = s.nodes.length ∧ ((nd s' id).lines = [] ∨
      ∃ t, (nd s' id).lines = [t] ∧ L ≤ t.start ∧ t.stop ≤ (lineEnd src c.p : Int)) := by
  unfold codeOpen at h
  obtain ⟨y, s1, h1, k1⟩ := bind_ok h
  obtain ⟨rfl, r1, hs1, hri1⟩ := peekLine_inv hri h1
  subst s1
  dsimp only at k1
  obtain ⟨lo, s2, h2, k2⟩ := bind_ok k1
  obtain ⟨_, r2, hs2, hri2⟩ := (lineOffset_okl (s := { s with r := r1 }) hri1).of_ok h2
  subst s2
  generalize hip : indentPosition ((RCur.view src c).getD []) lo 4 = pp at k2
  obtain ⟨pos, padding⟩ := pp
  dsimp only at k2
  split at k2
  · obtain ⟨ha, _⟩ := pure_ok k2
    intro id hid; rw [ha] at hid; cases hid
  · next hneg =>
    obtain ⟨node, s3, h3, k3⟩ := bind_ok k2
    obtain ⟨hnode, hs3⟩ := newNode_ok h3
    subst s3
    obtain ⟨_, s4, h4, k4⟩ := bind_ok k3
    obtain ⟨ha, hs'⟩ := pure_ok k4
    subst s'
    have hpos : 1 ≤ pos := by
      have : ¬ pos < 0 := by
        intro hlt0; apply hneg; simp [hlt0]
      exact ipp_pos (show indentPositionPadding _ lo 0 4 = (pos, padding) from hip) (by decide) (by omega)
    have hvl := view_getD_length_nat src c hlt
    have hb := indentPosition_bounds ((RCur.view src c).getD []) lo
    rw [hip] at hb
    have hnb : isBlank ((RCur.view src c).getD []) = false := by
      cases hbb : isBlank ((RCur.view src c).getD []) with
      | false => rfl
      | true => exfalso; apply hneg; simp [hbb]
    have hwithin : pos.toNat + 1 ≤ c.pad + (lineEnd src c.p - c.p) := by
      have := (hb (by simp only; omega)).2.2.1 hnb
      simp only at this
      omega
    have happ := codeTakeLine_app (L := L) (X := node)
      (s := ({ s with r := r2, nodes := s.nodes ++ [{ kind := .codeBlock }] } : St)) hri2 hlt hL hpl hpos hwithin h4
    have hnd3 : (nd ({ s with r := r2, nodes := s.nodes ++ [{ kind := .codeBlock }] } : St) node).lines = [] := by
      rw [hnode]; simp [nd]
    intro id hid
    rw [ha] at hid
    cases hid
    refine ⟨hnode, ?_⟩
    rcases happ with e | ⟨t, e, b1, b2⟩
    · left; rw [e, hnd3]
    · right; exact ⟨t, by rw [e, hnd3]; rfl, b1, b2⟩

/-- fencedCodeBlockParser.Continue: no line (the closing fence), or one segment on this line -/
theorem fencedContinue_app {L : Int} {X : Nat} {s s' : St} {c : RCur} {st : PState} (hri : RI src s.r c)
    (hlt : c.p < src.length) (hL : L ≤ c.p) (hpl : PadL L c) (hind : ∀ f, s.pc.fence = some f → 0 ≤ f.indent)
    (h : fencedContinue X s = .ok (st, s')) : RawC src L (lineEnd src c.p : Int) X s s' st := by
  unfold fencedContinue at h
  obtain ⟨y, s1, h1, k1⟩ := bind_ok h
  obtain ⟨rfl, r1, hs1, hri1⟩ := peekLine_inv hri h1
  subst s1
  dsimp only at k1
  obtain ⟨pc, s2, h2, k2⟩ := bind_ok k1
  obtain ⟨hpc, hs2⟩ := getPc_ok h2
  subst s2
  subst pc
  cases hf : s.pc.fence with
  | none =>
    have hf' : ({ s with r := r1 } : St).pc.fence = none := hf
    rw [hf'] at k2
    obtain ⟨_, _, h3, _⟩ := bind_ok k2
    cases h3
  | some f =>
    have hf' : ({ s with r := r1 } : St).pc.fence = some f := hf
    rw [hf'] at k2
    dsimp only at k2
    obtain ⟨fdata, s3, h3, k3⟩ := bind_ok k2
    obtain ⟨hfd, hs3⟩ := pure_ok h3
    subst s3
    subst fdata
    obtain ⟨lo, s4, h4, k4⟩ := bind_ok k3
    obtain ⟨_, r2, hs4, hri2⟩ := (lineOffset_okl (s := { s with r := r1 }) hri1).of_ok h4
    subst s4
    have hst2 : Stop src (lineEnd src c.p : Int) ({ s with r := r2 } : St) := RI.stop (s := { s with r := r2 }) hri2
    -- the append, for the offset `pos` and the padding `padding` that were computed
    have tailF : ∀ (pos padding n' : Int), 0 ≤ pos → (padding ≠ 0 → 1 ≤ pos ∨ c.pad ≠ 0) →
        (if (padding != 0) = true then do
            let seg ← preserveLeadingTab
              { start := (RCur.seg src c).start + pos, stop := (RCur.seg src c).stop, padding := padding } f.indent
            appendLine X { start := seg.start, stop := seg.stop, padding := seg.padding, forceNewline := true }
            advanceAndSetPadding n' padding
            pure stContinueNoChildren
          else do
            let seg ← pure
              ({ start := (RCur.seg src c).start + pos, stop := (RCur.seg src c).stop, padding := padding } : Segment)
            appendLine X { start := seg.start, stop := seg.stop, padding := seg.padding, forceNewline := true }
            advanceAndSetPadding n' padding
            pure stContinueNoChildren : M PState) { s with r := r2 } = .ok (st, s') → RawC src L (lineEnd src c.p : Int) X s s' st := by
      intro pos padding n' hpos hpadc k
      have fin : ∀ (seg : Segment) (sA : St), L ≤ seg.start → seg.stop = (lineEnd src c.p : Int) → sA.nodes = s.nodes →
          Stop src (lineEnd src c.p : Int) sA →
          (do appendLine X { start := seg.start, stop := seg.stop, padding := seg.padding, forceNewline := true }
              advanceAndSetPadding n' padding
              pure stContinueNoChildren : M PState) sA = .ok (st, s') → RawC src L (lineEnd src c.p : Int) X s s' st := by
        intro seg sA hst hsp hn hstA k3
        obtain ⟨_, s5, h5, k5⟩ := bind_ok k3
        obtain ⟨hl5, _, _⟩ := appendLine_lines h5
        have hst5 : Stop src (lineEnd src c.p : Int) s5 := (appendLine_pres (Stop.ronly src _) X _).ok hstA h5
        obtain ⟨_, s6, h6, k6⟩ := bind_ok k5
        have hle := stop_le_of_pres ((stop_prims src (lineEnd src c.p : Int)).advanceAndSetPadding _ _) hst5 h6
        obtain ⟨r6, hs6⟩ := oadvanceAndSetPadding_ok h6
        obtain ⟨hst', hs'⟩ := pure_ok k6
        subst s'
        have hndA : nd sA X = nd s X := by simp only [nd, hn]
        have hnd6 : nd s6 X = nd s5 X := by rw [hs6]
        rw [hndA] at hl5
        refine ⟨?_, fun hc => by rw [hst'] at hc; cases hc⟩
        rcases hl5 with e | e
        · left; rw [hnd6]; exact e
        · right
          exact ⟨{ start := seg.start, stop := seg.stop, padding := seg.padding, forceNewline := true }, by rw [hnd6]; exact e,
            hst, by show seg.stop ≤ (lineEnd src c.p : Int); rw [hsp]; exact Int.le_refl _⟩
      have hs0 : (RCur.seg src c).start = (c.p : Int) := rfl
      have hs1 : (RCur.seg src c).stop = (lineEnd src c.p : Int) := rfl
      split at k
      · next hp =>
        have hne : padding ≠ 0 := by
          intro h0; rw [h0] at hp; exact absurd hp (by decide)
        obtain ⟨seg, s5, h5, k5⟩ := bind_ok k
        obtain ⟨hd, hn, _⟩ := preserveLeadingTab_inv h5
        have hst5 := ((stop_prims src (lineEnd src c.p : Int)).preserveLeadingTab _ _).ok hst2 h5
        have hb : L ≤ (c.p : Int) + pos - 1 := by
          rcases hpadc hne with h1 | h1
          · omega
          · have := hpl h1; omega
        rcases hd with e | e
        · exact fin seg s5 (by rw [e]; show L ≤ (RCur.seg src c).start + pos; omega) (by rw [e]; rfl) hn hst5 k5
        · exact fin seg s5 (by rw [e]; show L ≤ (RCur.seg src c).start + pos - 1; omega) (by rw [e]; rfl) hn hst5 k5
      · obtain ⟨seg, s5, h5, k5⟩ := bind_ok k
        obtain ⟨e, hs5⟩ := pure_ok h5
        subst s5
        exact fin seg { s with r := r2 } (by rw [e]; show L ≤ (RCur.seg src c).start + pos; omega) (by rw [e]; rfl) rfl hst2 k5
    generalize hq : indentPositionPadding ((RCur.view src c).getD []) lo (RCur.seg src c).padding f.indent = q at k4
    obtain ⟨q1, q2⟩ := q
    dsimp only at k4
    generalize hpp : (if q1 < 0
        then ((if firstNonSpacePos ((RCur.view src c).getD []) - (RCur.seg src c).padding < 0 then 0
                else firstNonSpacePos ((RCur.view src c).getD []) - (RCur.seg src c).padding), (0 : Int))
        else (q1, q2)) = pp at k4
    have hpos : 0 ≤ pp.1 := by
      rw [← hpp]
      split
      · simp only; split <;> omega
      · simp only; omega
    have hpadc : pp.2 ≠ 0 → 1 ≤ pp.1 ∨ c.pad ≠ 0 := by
      rw [← hpp]
      split
      · intro h0; exact absurd rfl h0
      · next hge =>
        intro hne
        have hpv : (RCur.seg src c).padding = (c.pad : Int) := rfl
        have hne' : q2 ≠ 0 := hne
        rcases ipp_pos_pad hq (hind f hf) (by omega) hne' with h1 | h1
        · exact .inl h1
        · right; rw [hpv] at h1; omega
    have closeB : ∀ (n' : Int) (sA : St), sA.nodes = s.nodes → sA.r = r2 →
        (do advance n'; pure stClose : M PState) sA = .ok (st, s') → RawC src L (lineEnd src c.p : Int) X s s' st := by
      intro n' sA hn hrA k
      obtain ⟨_, s5, h5, k5⟩ := bind_ok k
      obtain ⟨r5, hs5, hadv⟩ := oadvance_ok' h5
      obtain ⟨_, hs'⟩ := pure_ok k5
      subst s'
      have hsame : (nd s5 X).lines = (nd s X).lines := by
        rw [hs5]
        simp only [nd, hn]
      have hpr : PadR L r5 := advance_padr (padr_of_ri (r := sA.r) (by rw [hrA]; exact hri2) hpl) hadv
      exact ⟨.inl hsame, fun _ => ⟨hsame, fun c' hc' => padl_of_padr (r := r5) (by rw [hs5] at hc'; exact hc') hpr⟩⟩
    rcases ite_ok k4 with ⟨_, k4⟩ | ⟨_, k4⟩
    · rcases ite_ok k4 with ⟨_, k4⟩ | ⟨_, k4⟩
      · obtain ⟨v, s5, h5, k5⟩ := bind_ok k4
        obtain ⟨_, hs5⟩ := liftE_ok h5
        subst s5
        split at k5
        · obtain ⟨last, s6, h6, k6⟩ := bind_ok k5
          obtain ⟨_, hs6⟩ := liftE_ok h6
          subst s6
          exact closeB _ { s with r := r2 } rfl rfl k6
        · exact tailF pp.1 pp.2 _ hpos hpadc k5
      · exact tailF pp.1 pp.2 _ hpos hpadc k4
    · exact tailF pp.1 pp.2 _ hpos hpadc k4

/-- a raw node whose lines increase and end at or before the line start `L` keeps increasing lines, which end at or
    before the line end `E` -/
theorem RawApp.nodeR {L E : Int} {X : Nat} {s s' : St} (h : RawApp L E X s s')
    (hold : OrdFrom 0 (nd s X).lines ∧ Below L (nd s X).lines) (hLE : L ≤ E)
    (h0 : ∀ t ∈ (nd s' X).lines, 0 ≤ t.start) : OrdFrom 0 (nd s' X).lines ∧ Below E (nd s' X).lines := by
  rcases h with e | ⟨t, e, b1, b2⟩
  · rw [e]; exact ⟨hold.1, hold.2.mono hLE⟩
  · have ht0 := h0 t (by rw [e]; simp)
    rw [e]; exact ⟨OrdFrom.append_fresh b1 hold.1 hold.2 ht0, Below.append hold.2 hLE b2⟩

theorem bpContinue_rawC {L : Int} {s s' : St} {c : RCur} {st : PState} (bp : BP) (node : Nat)
    (hraw : isRaw bp.kind = true) (hri : RI src s.r c) (hlt : c.p < src.length) (hL : L ≤ c.p) (hpl : PadL L c)
    (hind : ∀ f, s.pc.fence = some f → 0 ≤ f.indent) (e : bpContinue bp node s = .ok (st, s')) :
    RawC src L (lineEnd src c.p : Int) node s s' st := by
  cases bp
  case code => exact codeContinue_app hri hlt hL hpl e
  case fenced => exact fencedContinue_app hri hlt hL hpl hind e
  case html => exact htmlContinue_app hri hL hpl e
  all_goals exact absurd hraw (by decide)

/-- `Open` of the three raw leaf parsers: the new node has no line, or one on this line -/
theorem bpOpen_raw_new {L : Int} {s s' : St} {c : RCur} {a : Option Nat × PState} (bp : BP) (parent : Nat)
    (hraw : isRaw bp.kind = true) (hri : RI src s.r c) (hlt : c.p < src.length) (hL : L ≤ c.p) (hpl : PadL L c)
    (e : bpOpen bp parent s = .ok (a, s')) {n : Node} (hn : s'.nodes = s.nodes ++ [n]) (hid : a.1.isSome = true)
    (h0 : ∀ t ∈ n.lines, 0 ≤ t.start) :
    OrdFrom 0 n.lines ∧ Below (lineEnd src c.p : Int) n.lines := by
  have hndn : nd s' s.nodes.length = n := by simp [nd, hn]
  have fin : (∀ id, a.1 = some id → id = s.nodes.length ∧ ((nd s' id).lines = [] ∨
      ∃ t, (nd s' id).lines = [t] ∧ L ≤ t.start ∧ t.stop ≤ (lineEnd src c.p : Int))) →
      OrdFrom 0 n.lines ∧ Below (lineEnd src c.p : Int) n.lines := by
    intro hall
    cases ha : a.1 with
    | none => rw [ha] at hid; cases hid
    | some id =>
      obtain ⟨e1, e2⟩ := hall id ha
      rw [e1, hndn] at e2
      rcases e2 with e2 | ⟨t, e2, _, b2⟩
      · rw [e2]; exact ⟨trivial, Below.nil _⟩
      · have := h0 t (by rw [e2]; simp)
        rw [e2]
        exact ⟨⟨this, trivial⟩, fun u hu => by simp only [List.mem_singleton] at hu; rw [hu]; exact b2⟩
  cases bp
  case code => exact fin (codeOpen_new (parent := parent) hri hlt hL hpl e)
  case fenced =>
    have := fencedOpen_new (parent := parent) e hn
    rw [this]; exact ⟨trivial, Below.nil _⟩
  case html => exact fin (htmlOpen_new (parent := parent) hri hL e)
  all_goals exact absurd hraw (by decide)

/-! ### listItemParser.Continue keeps `PadL` -/

theorem advN_padl {L : Int} {c : RCur} (n : Nat) (hL : L ≤ c.p) (hpl : PadL L c) (hin : c.p ≤ src.length) :
    PadL L (RCur.advN src n c) ∧ L ≤ (RCur.advN src n c).p := by
  obtain ⟨m1, _⟩ := advN_mono src n c hin
  have hpadle := advN_pad_le src n c
  refine ⟨fun hne => ?_, by omega⟩
  have hz : c.pad ≠ 0 := by omega
  have := hpl hz; omega

/-- `Advance(n)` for a negative `n` (what `AdvanceAndSetPadding(-1,-1)` does): the padding stays, and so does the
    position when there is a padding -/
theorem advance_neg {n : Int} {r r' : Reader} (hn : n < 0) (h : r.advance n = .ok r') :
    r'.pos.padding = r.pos.padding ∧ (r.pos.padding ≠ 0 → r'.pos.start = r.pos.start) := by
  unfold Reader.advance at h
  simp only at h
  have fast : ∀ (pl : Int), n < pl ∧ (r.pos.padding == 0) = true →
      (pure { r with lineOffset := -1, pos := { r.pos with start := r.pos.start + n }, peekedLine := none } :
        Except Panic Reader) = .ok r' →
      r'.pos.padding = r.pos.padding ∧ (r.pos.padding ≠ 0 → r'.pos.start = r.pos.start) := by
    intro pl hc h
    cases h
    refine ⟨rfl, fun hne => ?_⟩
    exfalso
    have := hc.2
    simp only [beq_iff_eq] at this
    exact hne this
  have slow : Reader.advanceLoop { r with lineOffset := -1, peekedLine := none } n.toNat = .ok r' →
      r'.pos.padding = r.pos.padding ∧ (r.pos.padding ≠ 0 → r'.pos.start = r.pos.start) := by
    intro h
    have : n.toNat = 0 := by omega
    rw [this] at h
    unfold Reader.advanceLoop at h
    cases h
    exact ⟨rfl, fun _ => rfl⟩
  split at h <;> split at h
  · next hc => exact fast _ hc h
  · exact slow h
  · next hc => exact fast _ hc h
  · exact slow h

theorem listItemContinue_padl {L : Int} {node : Nat} {s s' : St} {c : RCur} {st : PState} (hri : RI src s.r c)
    (hlt : c.p < src.length) (hL : L ≤ c.p) (hpl : PadL L c) (p : Nat) (hp : (nd s node).parent = some p)
    (hk : li_ListKidsOK s p) (hoff : 0 ≤ li_lastOff s p) (h : listItemContinue node s = .ok (st, s')) :
    ∀ c', RI src s'.r c' → PadL L c' := by
  unfold listItemContinue at h
  obtain ⟨y, s1, h1, k1⟩ := bind_ok h
  obtain ⟨rfl, r1, hs1, hri1⟩ := peekLine_inv hri h1
  subst s1
  dsimp only at k1
  rcases ite_ok k1 with ⟨_, k1⟩ | ⟨_, k1⟩
  · -- a blank line
    obtain ⟨_, s2, h2, k2⟩ := bind_ok k1
    have hvl := view_getD_length_nat src c hlt
    have hle := lt_lineEnd src hlt
    obtain ⟨r2, hs2, hri2⟩ := (advance_okl (s := { s with r := r1 }) hri1
      (by omega : (0 : Int) ≤ (((RCur.view src c).getD []).length : Int) - 1)).of_ok h2
    subst s2
    obtain ⟨_, hs'⟩ := pure_ok k2
    subst s'
    intro c' hc'
    exact padl_of_ri_ri hri2 hc' (advN_padl _ hL hpl (Nat.le_of_lt hlt)).1
  · obtain ⟨n, s2, h2, k2⟩ := bind_ok k1
    obtain ⟨hn, hs2⟩ := getNode_ok h2
    subst s2
    subst n
    have hp' : (({ s with r := r1 } : St).nodes.getD node default).parent = some p := hp
    rw [hp'] at k2
    dsimp only at k2
    obtain ⟨offset, s3, h3, k3⟩ := bind_ok k2
    obtain ⟨hov, hs3⟩ := (li_lastOffset_okl { s with r := r1 } p hk).of_ok h3
    subst s3
    have hoff' : 0 ≤ offset := by rw [hov]; exact hoff
    obtain ⟨pc, s4, h4, k4⟩ := bind_ok k3
    obtain ⟨_, hs4⟩ := getPc_ok h4
    subst s4
    obtain ⟨lo, s5, h5, k5⟩ := bind_ok k4
    obtain ⟨_, r2, hs5, hri2⟩ := (lineOffset_okl (s := { s with r := r1 }) hri1).of_ok h5
    subst s5
    -- the states the function can end in: the reader `r2` (any context), or one `AdvanceAndSetPadding` later
    have same : ∀ (sA : St), sA.r = r2 → ∀ c', RI src sA.r c' → PadL L c' := by
      intro sA hr c' hc'
      rw [hr] at hc'
      exact padl_of_ri_ri hri2 hc' hpl
    have rest : ∀ (pos padding : Int), indentPosition ((RCur.view src c).getD []) lo offset = (pos, padding) →
        (do advanceAndSetPadding pos padding; pure stContinueHasChildren : M PState) { s with r := r2 } = .ok (st, s') →
        ∀ c', RI src s'.r c' → PadL L c' := by
      intro pos padding hip k
      obtain ⟨_, s6, h6, k6⟩ := bind_ok k
      obtain ⟨_, hs'⟩ := pure_ok k6
      subst s'
      by_cases hpos : 0 ≤ pos
      · obtain ⟨r6, hs6, hri6⟩ := (advanceAndSetPadding_okl (s := { s with r := r2 }) hri2 hpos padding).of_ok h6
        subst s6
        intro c' hc'
        refine padl_of_ri_ri hri6 hc' (advPadCur_padl hL hpl (Nat.le_of_lt hlt) (fun _ hpp => ?_)).1
        refine ⟨?_, hlt⟩
        by_cases ho0 : offset = 0
        · exfalso
          subst ho0
          unfold indentPosition indentPositionPadding at hip
          rw [if_pos (by rfl)] at hip
          cases hip
          omega
        · exact ipp_pos hip (by omega) hpos
      · -- `AdvanceAndSetPadding(-1, -1)`
        have hneg : pos < 0 := by omega
        have hpp : padding = -1 ∧ pos = -1 := by
          unfold indentPosition indentPositionPadding at hip
          split at hip
          · cases hip; omega
          · simp only at hip
            split at hip
            · cases hip
              have := ippLoop_pos lo offset ((RCur.view src c).getD []) 0 0
              rcases this with e | e
              · rw [e] at hneg; simp at hneg
              · omega
            · cases hip; exact ⟨rfl, rfl⟩
        obtain ⟨r6, hs6⟩ := oadvanceAndSetPadding_ok h6
        subst s6
        unfold GM.Blocks.advanceAndSetPadding Reader.advanceAndSetPadding at h6
        cases ha : r2.advance pos with
        | error e => rw [ha] at h6; simp [bind, Except.bind] at h6
        | ok ra =>
          rw [ha] at h6
          simp only [bind, Except.bind, pure, Except.pure] at h6
          obtain ⟨q1, q2⟩ := advance_neg hneg ha
          have hpad2 : r2.pos.padding = (c.pad : Int) := by rw [hri2.pos]
          have hnset : ¬ padding > ra.pos.padding := by rw [q1, hpad2, hpp.1]; omega
          rw [if_neg hnset] at h6
          have hr6 : r6 = ra := by
            have := congrArg (fun x => x.map (fun y => y.2.r)) h6
            simpa [Except.map] using this.symm
          intro c' hc'
          have hc'' : RI src ra c' := by rw [← hr6]; exact hc'
          have e := hc''.pos
          intro hne
          have hcp : (c'.pad : Int) = ra.pos.padding := by rw [e]
          have hcs : (c'.p : Int) = ra.pos.start := by rw [e]
          have hz : c.pad ≠ 0 := by omega
          have hs2 : r2.pos.start = (c.p : Int) := by rw [hri2.pos]
          have := q2 (by rw [hpad2]; omega)
          have := hpl hz
          omega
    rcases ite_ok k5 with ⟨_, k5⟩ | ⟨_, k5⟩
    · rcases ite_ok k5 with ⟨_, k5⟩ | ⟨_, k5⟩
      · obtain ⟨_, s6, h6, k6⟩ := bind_ok k5
        have e6 := modPc_ok h6
        obtain ⟨_, hs'⟩ := pure_ok k6
        subst s'
        exact same s6 (by rw [e6])
      · rcases ite_ok k5 with ⟨_, k5⟩ | ⟨_, k5⟩
        · obtain ⟨_, hs'⟩ := pure_ok k5
          subst s'
          exact same _ rfl
        · exact rest _ _ rfl k5
    · exact rest _ _ rfl k5

end leaf

end GM.Blocks
