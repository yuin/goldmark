import GM.Proof.QuoteSimLeaf

/-
  part Setext — the remaining tree operations of ast.go (NextSibling, InsertBefore, InsertAfter,
  ReplaceChild) under the simulation relation, and the one-line-step simulation of the setext heading parser
  (parser/setext_headings.go): `setextOpen_sim`, `setextClose_sim'`.
-/
section Setext
namespace GM.Blocks
open GM GM.Text GM.Spec GM.Proof.Reader

theorem nextIn_map_succ (c : Nat) : ∀ l : List Nat, nextIn (c + 1) (l.map (· + 1)) = (nextIn c l).map (· + 1)
  | [] => rfl
  | [_] => rfl
  | a :: b :: rest => by
    have ih := nextIn_map_succ c (b :: rest)
    simp only [List.map_cons] at ih ⊢
    unfold nextIn
    by_cases h : a = c
    · subst h; simp
    · have h1 : (a == c) = false := beq_eq_false_iff_ne.mpr h
      have h2 : (a + 1 == c + 1) = false := beq_eq_false_iff_ne.mpr (by omega)
      rw [h1, h2]
      simp only [Bool.false_eq_true, if_false]
      exact ih

theorem insertBeforeIn_map_succ (v ins : Nat) : ∀ l : List Nat,
    insertBeforeIn (v + 1) (ins + 1) (l.map (· + 1)) = (insertBeforeIn v ins l).map (· + 1)
  | [] => rfl
  | a :: rest => by
    have ih := insertBeforeIn_map_succ v ins rest
    simp only [List.map_cons]
    unfold insertBeforeIn
    by_cases h : a = v
    · subst h; simp
    · have h1 : (a == v) = false := beq_eq_false_iff_ne.mpr h
      have h2 : (a + 1 == v + 1) = false := beq_eq_false_iff_ne.mpr (by omega)
      rw [h1, h2]
      simp only [Bool.false_eq_true, if_false, List.map_cons, ih]

/-- Node.NextSibling; holds for every node (for A's Document `0`, B's Blockquote `1` is the only child of B's
    Document, so both answers are `none`) -/
theorem nextSibling_s2 {src k ls p} {sA sB : St} (h : SR src k ls p sA sB) (c : Nat) :
    S2 (fun a b sA' sB' => b = a.map (· + 1) ∧ SR src k ls p sA' sB') (nextSibling c sA) (nextSibling (c + 1) sB) := by
  unfold nextSibling
  refine S2.bind (getNode_s2 h c) (fun a b sA1 sB1 hq => ?_)
  obtain ⟨hab, h1⟩ := hq
  by_cases hc0 : c = 0
  · subst hc0
    have hp := hab.parent
    simp only [beq_self_eq_true, if_true] at hp
    rw [hp.1, hp.2]
    show S2 _ ((pure none : M (Option Nat)) sA1) ((getNode 0 >>= fun pn => pure (nextIn (0 + 1) pn.children)) sB1)
    refine S2.bindR (b := sB1.nodes.getD 0 default) (sB1 := sB1) rfl ?_
    rw [h1.n.doc.2]
    exact S2.pure ⟨rfl, h1⟩
  · have hc : (c == 0) = false := beq_eq_false_iff_ne.mpr hc0
    rw [hc] at hab
    have hp := hab.parent
    simp only [Bool.false_eq_true, if_false] at hp
    rw [hp]
    cases a.parent with
    | none => exact S2.pure ⟨rfl, h1⟩
    | some q =>
      show S2 _ ((getNode q >>= fun pn => pure (nextIn c pn.children)) sA1)
        ((getNode (q + 1) >>= fun pn => pure (nextIn (c + 1) pn.children)) sB1)
      refine S2.bind (getNode_s2 h1 q) (fun a' b' sA2 sB2 hq => ?_)
      obtain ⟨hab', h2⟩ := hq
      rw [hab'.children, nextIn_map_succ]
      exact S2.pure ⟨rfl, h2⟩

theorem insertBefore_s2 {src k ls p} {sA sB : St} (h : SR src k ls p sA sB) (q : Nat) (v1 : Option Nat) (ins : Nat)
    (hins : ins ≠ 0) :
    S2 (fun _ _ sA' sB' => SR src k ls p sA' sB') (insertBefore q v1 ins sA)
      (insertBefore (q + 1) (v1.map (· + 1)) (ins + 1) sB) := by
  unfold insertBefore
  cases v1 with
  | none => exact appendChild_s2 h q ins hins
  | some v =>
    simp only [Option.map_some]
    refine S2.bind (getNode_s2 h v) (fun a b sA1 sB1 hq => ?_)
    obtain ⟨hab, h1⟩ := hq
    by_cases hv0 : v = 0
    · subst hv0
      have hp := hab.parent
      simp only [beq_self_eq_true, if_true] at hp
      have e1 : (a.parent != some q) = true := by rw [hp.2]; rfl
      have e2 : (b.parent != some (q + 1)) = true := by rw [hp.1]; simp
      rw [if_pos e1, if_pos e2]
      exact appendChild_s2 h1 q ins hins
    · have hc : (v == 0) = false := beq_eq_false_iff_ne.mpr hv0
      rw [hc] at hab
      have hp := hab.parent
      simp only [Bool.false_eq_true, if_false] at hp
      rw [hp, opt_succ_bne]
      by_cases hcond : (a.parent != some q) = true
      · rw [if_pos hcond, if_pos hcond]; exact appendChild_s2 h1 q ins hins
      · rw [if_neg hcond, if_neg hcond]
        refine S2.bind (ensureIsolated_s2 h1 ins hins) (fun _ _ sA2 sB2 h2 => ?_)
        refine S2.bind (modNode_s2 h2 q _ _ (fun a b hab => ?_)) (fun _ _ sA3 sB3 h3 => ?_)
        · exact { hab with children := by simp only [hab.children, insertBeforeIn_map_succ] }
        · refine modNode_s2 h3 ins _ _ (fun a b hab => ?_)
          have hi : (ins == 0) = false := beq_eq_false_iff_ne.mpr hins
          rw [hi] at hab ⊢
          exact { hab with parent := by simp }

theorem insertAfter_s2 {src k ls p} {sA sB : St} (h : SR src k ls p sA sB) (q : Nat) (v1 : Option Nat) (ins : Nat)
    (hins : ins ≠ 0) :
    S2 (fun _ _ sA' sB' => SR src k ls p sA' sB') (insertAfter q v1 ins sA)
      (insertAfter (q + 1) (v1.map (· + 1)) (ins + 1) sB) := by
  unfold insertAfter
  cases v1 with
  | none => exact appendChild_s2 h q ins hins
  | some v =>
    simp only [Option.map_some]
    refine S2.bind (nextSibling_s2 h v) (fun a b sA1 sB1 hq => ?_)
    obtain ⟨hb, h1⟩ := hq
    subst hb
    rw [opt_succ_beq]
    by_cases hc : (a == some ins) = true
    · rw [if_pos hc, if_pos hc]
      refine S2.bind (nextSibling_s2 h1 ins) (fun a' b' sA2 sB2 hq => ?_)
      obtain ⟨hb, h2⟩ := hq
      subst hb
      exact insertBefore_s2 h2 q a' ins hins
    · rw [if_neg hc, if_neg hc]
      exact insertBefore_s2 h1 q a ins hins

theorem replaceChild_s2 {src k ls p} {sA sB : St} (h : SR src k ls p sA sB) (q v1 ins : Nat) (hins : ins ≠ 0) :
    S2 (fun _ _ sA' sB' => SR src k ls p sA' sB') (replaceChild q v1 ins sA)
      (replaceChild (q + 1) (v1 + 1) (ins + 1) sB) := by
  unfold replaceChild
  refine S2.bind (insertBefore_s2 h q (some v1) ins hins) (fun _ _ sA1 sB1 h1 => ?_)
  exact removeChild_s2 h1 q v1

theorem matchesSetextHeadingBar_nil : matchesSetextHeadingBar [] = .error .index := by rfl

theorem setextOpen_sim (src : Bytes) : OpenSim src .setext := by
  intro k ls p parent sA sB h
  show S2 _ (setextOpen parent sA) (setextOpen (parent + 1) sB)
  unfold setextOpen
  refine S2.bind (lastOpenedBlock_s2 h) (fun a b sA0 sB0 hq => ?_)
  obtain ⟨hl, _, hA, hB⟩ := hq
  subst hA hB
  rcases hl with ⟨ha, hb⟩ | ⟨x, ha, hb⟩
  · subst ha hb
    show S2 _ ((pure (none, stNoChildren) : M (Option Nat × PState)) sA0) ((getNode 1 >>= _) sB0)
    refine S2.bindR (b := sB0.nodes.getD 1 default) (sB1 := sB0) rfl ?_
    have hk := (h.n.node 0).kind
    simp only [beq_self_eq_true, if_true] at hk
    have e : ((sB0.nodes.getD (0 + 1) default).kind != Kind.paragraph ||
        (sB0.nodes.getD (0 + 1) default).parent != some (parent + 1)) = true := by rw [hk.1]; rfl
    rw [if_pos e]
    exact S2.pure ⟨⟨rfl, .inl ⟨rfl, rfl⟩⟩, p, Nat.le_refl _, h⟩
  · subst ha hb
    show S2 _ ((getNode x.node >>= _) sA0) ((getNode (x.node + 1) >>= _) sB0)
    refine S2.bind (getNode_s2 h x.node) (fun a b sA1 sB1 hq => ?_)
    obtain ⟨hab, h1⟩ := hq
    by_cases hx0 : x.node = 0
    · have hk := hab.kind
      rw [hx0] at hk
      simp only [beq_self_eq_true, if_true] at hk
      have e1 : (a.kind != Kind.paragraph || a.parent != some parent) = true := by rw [hk.2]; rfl
      have e2 : (b.kind != Kind.paragraph || b.parent != some (parent + 1)) = true := by rw [hk.1]; rfl
      rw [if_pos e1, if_pos e2]
      exact S2.pure ⟨⟨rfl, .inl ⟨rfl, rfl⟩⟩, p, Nat.le_refl _, h1⟩
    · have hc : (x.node == 0) = false := beq_eq_false_iff_ne.mpr hx0
      rw [hc] at hab
      have hk := hab.kind
      have hp := hab.parent
      simp only [Bool.false_eq_true, if_false] at hk hp
      rw [hk, hp, opt_succ_bne]
      by_cases hcond : (a.kind != Kind.paragraph || a.parent != some parent) = true
      · rw [if_pos hcond, if_pos hcond]
        exact S2.pure ⟨⟨rfl, .inl ⟨rfl, rfl⟩⟩, p, Nat.le_refl _, h1⟩
      · rw [if_neg hcond, if_neg hcond]
        refine S2.bind (peekLine_s2 h1) (fun a' b' sA2 sB2 hq => ?_)
        obtain ⟨ha', hb', h2⟩ := hq
        subst ha' hb'
        simp only
        refine S2.bind (P := fun x' y' sA' sB' => y' = x' ∧
            matchesSetextHeadingBar ((viewA src ls p).getD []) = .ok x' ∧ SR src k ls p sA' sB')
          (S2.liftE (fun x' hx' => ⟨x', hx', rfl, hx', h2⟩)) (fun x' y' sA3 sB3 hq => ?_)
        obtain ⟨hy', hm, h3⟩ := hq
        subst hy'
        obtain ⟨c, ok⟩ := y'
        simp only
        by_cases hok : (!ok) = true
        · rw [if_pos hok, if_pos hok]
          exact S2.pure ⟨⟨rfl, .inl ⟨rfl, rfl⟩⟩, p, Nat.le_refl _, h3⟩
        · rw [if_neg hok, if_neg hok]
          have hi := h.r.inl
          have hplt : p < lineEnd src ls := lt_of_viewA_ne fun e => by
            rw [e, matchesSetextHeadingBar_nil] at hm; cases hm
          have hseg : SegRel src (segA src ls p) (shK k (segA src ls p)) :=
            segRel_of_in (segA_in hi) (by simp [segA]; exact hplt)
          refine S2.bind (newNode_s2 h3 _ _ (nodeRel_new src { kind := .heading, level := if (c == 45) = true then 2 else 1 }
            rfl rfl rfl rfl (by show (-1 : Int) < 0; decide))) (fun n m sA4 sB4 hq => ?_)
          obtain ⟨_, hm', hn0, h4⟩ := hq
          subst hm'
          refine S2.bind (appendLine_s2 h4 n hseg (.inl (by simp only [segA]; omega))) (fun _ _ sA5 sB5 h5 => ?_)
          refine S2.bind (modPc_s2 h5 _ _ (fun ca cb hcc => ?_)) (fun _ _ sA6 sB6 h6 => ?_)
          · exact { hcc with tmpPara := rfl }
          · exact S2.pure ⟨⟨rfl, .inr ⟨n, hn0, rfl, rfl⟩⟩, p, Nat.le_refl _, h6⟩

theorem getNode_pc {id : Nat} {s s' : St} {a : Node} (e : getNode id s = .ok (a, s')) : s'.pc = s.pc := by
  unfold getNode at e; cases e; rfl

theorem modNode_pc {id : Nat} {f : Node → Node} {s s' : St} {a : Unit} (e : modNode id f s = .ok (a, s')) :
    s'.pc = s.pc := by
  unfold modNode at e; cases e; rfl

theorem S2.pureBind {α β α' β'} {Q : α' → β' → St → St → Prop} {a : α} {b : β} {fA : α → M α'} {fB : β → M β'}
    {sA sB : St} (h : S2 Q (fA a sA) (fB b sB)) : S2 Q (((Pure.pure a : M α) >>= fA) sA) (((Pure.pure b : M β) >>= fB) sB) := by
  refine S2.bind (P := fun x y sA' sB' => a = x ∧ b = y ∧ sA = sA' ∧ sB = sB') (S2.pure ⟨rfl, rfl, rfl, rfl⟩)
    (fun x y sA' sB' hq => ?_)
  obtain ⟨e1, e2, e3, e4⟩ := hq
  subst e1 e2 e3 e4
  exact h

/-- `Segment.TrimLeftSpace` on a stored segment -/
theorem trimLeftSpace_rel {src : Bytes} {a b : Segment} (h : SegRel src a b) (a' : Segment)
    (e : a.trimLeftSpace src = .ok a') :
    ∃ b', b.trimLeftSpace (quotePrefix src) = .ok b' ∧ SegRel src a' b' := by
  obtain ⟨k, ls, hl, g1, g2, g3, hb⟩ := h
  subst hb
  obtain ⟨t, e1, e2, t1, t2, t3, t4⟩ := trimLeftSpace_q (s := a) ⟨hl, g1, g2, g3⟩
  rw [e1] at e; cases e
  refine ⟨shK k a', e2, k, ls, hl, by omega, ?_, by omega, rfl⟩
  have := trimLeftSpaceLength_le (sub src a.start.toNat a.stop.toNat)
  have hlen := length_sub src (a := a.start.toNat) (b := a.stop.toNat) (by have := lineEnd_le src ls; omega)
  omega

/-- setext_headings.go:90-92 and 96: a new paragraph with the heading's line behind the heading, which is removed -/
theorem setextClose_newPara {src k ls p} {sA sB : St} (h : SR src k ls p sA sB) (hp node : Nat) {s t : Segment}
    (hst : SegRel src s t) :
    S2 (fun _ _ sA' sB' => SR src k ls p sA' sB')
      ((do
        let para ← newNode { kind := .paragraph }
        appendLine para s
        insertAfter hp (some node) para
        removeChild hp node : M Unit) sA)
      ((do
        let para ← newNode { kind := .paragraph }
        appendLine para t
        insertAfter (hp + 1) (some (node + 1)) para
        removeChild (hp + 1) (node + 1) : M Unit) sB) := by
  refine S2.bind (newNode_s2k h _ _ (nodeRel_new src { kind := .paragraph } rfl rfl rfl rfl (by decide)))
    (fun n m sA1 sB1 hq => ?_)
  obtain ⟨_, hm, hn0, h1, hk1⟩ := hq
  subst hm
  refine S2.bind (appendLine_s2 h1 n hst (.inr (by rw [hk1]; rfl))) (fun _ _ sA2 sB2 h2 => ?_)
  refine S2.bind (insertAfter_s2 h2 hp (some node) n hn0) (fun _ _ sA3 sB3 h3 => ?_)
  exact removeChild_s2 h3 hp node

theorem getNode_eq {id : Nat} {s s' : St} {a : Node} (e : getNode id s = .ok (a, s')) :
    a = s.nodes.getD id default ∧ s' = s := by
  unfold getNode at e; cases e; exact ⟨rfl, rfl⟩

theorem modNode_kinds {id : Nat} {f : Node → Node} (hf : ∀ n, (f n).kind = n.kind) {s s' : St} {a : Unit}
    (e : modNode id f s = .ok (a, s')) : ∀ i, (s'.nodes.getD i default).kind = (s.nodes.getD i default).kind := by
  unfold modNode at e; cases e
  intro i
  simp only [List.getD_eq_getElem?_getD, List.getElem?_set]
  by_cases hi : id = i
  · subst hi
    by_cases hl : id < s.nodes.length
    · simp [hl, hf]
    · simp [hl]
  · simp [hi]

theorem modPc_nodes {f : Ctx → Ctx} {s s' : St} {a : Unit} (e : modPc f s = .ok (a, s')) : s'.nodes = s.nodes := by
  unfold modPc at e; cases e; rfl

/-- `setextHeadingParser.Close` on a node that is not the Document and not raw (the driver calls it on Heading nodes
    only: `AInv.pk`; a raw node could receive the paragraph's possibly shorter … lines, see `NodeRel.rawNE`) -/
theorem setextClose_sim' (src : Bytes) : ∀ k ls p node sA sB, SR src k ls p sA sB → node ≠ 0 →
    sA.pc.tmpPara ≠ some 0 → rawK (sA.nodes.getD node default).kind = false →
    S2 (fun _ _ sA' sB' => SR src k ls p sA' sB') (setextClose node sA) (setextClose (node + 1) sB) := by
  intro k ls p node sA sB h hnode htmp hnr
  unfold setextClose
  have hn0 : (node == 0) = false := beq_eq_false_iff_ne.mpr hnode
  refine S2.bind ((getNode_s2 h node).andL (F := fun _ s => s.pc = sA.pc ∧ s.nodes = sA.nodes)
    (fun _ _ e => ⟨getNode_pc e, by rw [(getNode_eq e).2]⟩)) (fun a b sA1 sB1 hq => ?_)
  obtain ⟨⟨hab, h1⟩, hpc1, hnd1⟩ := hq
  rw [hn0] at hab
  refine S2.bind (P := fun x y sA' sB' => SegRel src x y ∧ SR src k ls p sA' sB' ∧ sA'.pc = sA.pc ∧ sA'.nodes = sA.nodes)
    (S2.liftE (fun x hx => ?_)) (fun x y sA2 sB2 hq => ?_)
  · obtain ⟨y, hy, hxy⟩ := lineAt_q hab.lines _ x hx
    exact ⟨y, hy, hxy, h1, hpc1, hnd1⟩
  obtain ⟨hxy, h2, hpc2, hnd2⟩ := hq
  refine S2.bind ((modNode_s2 h2 node _ _ (fun a b hab => ?_)).andL
    (F := fun _ s => s.pc = sA2.pc ∧ ∀ i, (s.nodes.getD i default).kind = (sA2.nodes.getD i default).kind)
    (fun _ _ e => ⟨modNode_pc e, modNode_kinds (f := fun n => { n with lines := [], linesNil := true }) (fun _ => rfl) e⟩))
    (fun _ _ sA3 sB3 hq => ?_)
  · exact { hab with lines := trivial, linesNil := rfl, rawNE := fun _ l hl => by cases hl }
  obtain ⟨h3, hpc3, hk3⟩ := hq
  have hnr3 : rawK (sA3.nodes.getD node default).kind = false := by rw [hk3, hnd2]; exact hnr
  refine S2.bind (getPc_s2 h3) (fun ca cb sA4 sB4 hq => ?_)
  obtain ⟨hca, hcb, hcc, hA4, hB4⟩ := hq
  subst hA4 hB4
  have htmp' : ca.tmpPara ≠ some 0 := by rw [hca, hpc3, hpc2]; exact htmp
  rw [hcc.tmpPara]
  cases hct : ca.tmpPara with
  | none => exact S2.err
  | some t =>
    have ht0 : (t == 0) = false := beq_eq_false_iff_ne.mpr (fun e => htmp' (by rw [hct, e]))
    dsimp only [Option.map_some]
    refine S2.bind (P := fun x y sA' sB' => t = x ∧ t + 1 = y ∧ sA4 = sA' ∧ sB4 = sB') (S2.pure ⟨rfl, rfl, rfl, rfl⟩)
      (fun t1 t2 sA4' sB4' hq => ?_)
    obtain ⟨e1, e2, e3, e4⟩ := hq
    subst e1 e2 e3 e4
    refine S2.bind ((modPc_s2 h3 _ _ (fun ca cb hcc => ?_)).andL (F := fun _ s => s.nodes = sA4.nodes)
      (fun _ _ e => modPc_nodes e)) (fun _ _ sA5 sB5 hq => ?_)
    · exact { hcc with tmpPara := rfl }
    obtain ⟨h5, hnd5⟩ := hq
    refine S2.bind ((getNode_s2 h5 t).andL (F := fun _ s => s = sA5) (fun _ _ e => (getNode_eq e).2))
      (fun tn tn' sA6 sB6 hq => ?_)
    obtain ⟨⟨htn, h6⟩, hs6⟩ := hq
    have hnr6 : rawK (sA6.nodes.getD node default).kind = false := by rw [hs6, hnd5]; exact hnr3
    rw [ht0] at htn
    rw [SegsRel.length htn.lines]
    by_cases hc : (tn.lines.length == 0) = true
    · rw [if_pos hc, if_pos hc]
      refine S2.bind (nextSibling_s2 h6 node) (fun nxt nxt' sA7 sB7 hq => ?_)
      obtain ⟨hnx, h7⟩ := hq
      subst hnx
      refine S2.bind (source_s2 h7) (fun sa sb sA8 sB8 hq => ?_)
      obtain ⟨ha, hb, h8⟩ := hq
      rw [ha, hb]
      refine S2.bind (P := fun x' y' sA' sB' => SegRel src x' y' ∧ SR src k ls p sA' sB')
        (S2.liftE (fun x' hx' => ?_)) (fun x' y' sA9 sB9 hq => ?_)
      · obtain ⟨y', hy', hxy'⟩ := trimLeftSpace_rel hxy x' hx'
        exact ⟨y', hy', hxy', h8⟩
      obtain ⟨hxy', h9⟩ := hq
      refine S2.bind (getNode_s2 h9 node) (fun hn hn' sA10 sB10 hq => ?_)
      obtain ⟨hhn, h10⟩ := hq
      rw [hn0] at hhn
      have hp := hhn.parent
      simp only [Bool.false_eq_true, if_false] at hp
      rw [hp]
      cases hn.parent with
      | none => exact S2.err
      | some hp =>
        dsimp only [Option.map_some]
        refine S2.pureBind ?_
        cases nxt with
        | none =>
          dsimp only [Option.map_none]
          refine S2.pureBind ?_
          rw [if_pos (show (!false) = true from rfl), if_pos (show (!false) = true from rfl)]
          exact setextClose_newPara h10 hp node hxy'
        | some nx =>
          dsimp only [Option.map_some]
          refine S2.bind ((getNode_s2 h10 nx).andL (F := fun a s => a = sA10.nodes.getD nx default ∧ s = sA10)
            (fun _ _ e => getNode_eq e)) (fun nn nn' sA11 sB11 hq => ?_)
          obtain ⟨⟨hnn, h11⟩, hnn_eq, hs11⟩ := hq
          refine S2.pureBind ?_
          have hkind : (nn'.kind == Kind.paragraph) = (nn.kind == Kind.paragraph) := by
            have hk := hnn.kind
            by_cases hx0 : nx = 0
            · subst hx0
              simp only [beq_self_eq_true, if_true] at hk
              rw [hk.1, hk.2]; rfl
            · have hx : (nx == 0) = false := beq_eq_false_iff_ne.mpr hx0
              rw [hx] at hk
              simp only [Bool.false_eq_true, if_false] at hk
              rw [hk]
          rw [hkind]
          by_cases hpara : (!(nn.kind == Kind.paragraph)) = true
          · rw [if_pos hpara, if_pos hpara]
            exact setextClose_newPara h11 hp node hxy'
          · rw [if_neg hpara, if_neg hpara]
            refine S2.bind ((getNode_s2 h11 nx).andL (F := fun _ s => s = sA11) (fun _ _ e => (getNode_eq e).2))
              (fun n2 n2' sA12 sB12 hq => ?_)
            obtain ⟨⟨hn2, h12⟩, hs12⟩ := hq
            have hnx : rawK (sA12.nodes.getD nx default).kind = false := by
              rw [hs12, hs11, ← hnn_eq]
              have : nn.kind = Kind.paragraph := by simpa using hpara
              rw [this]; rfl
            rw [hn2.linesNil]
            by_cases hnil : n2.linesNil = true
            · rw [if_pos hnil]; exact S2.err
            · rw [if_neg hnil, if_neg hnil]
              refine S2.bind (modNode_s2' h12 nx _ _ (fun hab => ?_)) (fun _ _ sA13 sB13 h13 => ?_)
              · exact { hab with lines := ⟨hxy', hab.lines⟩, rawNE := fun hr => by rw [hnx] at hr; cases hr }
              exact removeChild_s2 h13 hp node
    · rw [if_neg hc, if_neg hc]
      refine S2.bind (modNode_s2' h6 node _ _ (fun hab => ?_)) (fun _ _ sA7 sB7 h7 => ?_)
      · exact { hab with lines := htn.lines, linesNil := htn.linesNil, rawNE := (fun hr => by rw [hnr6] at hr; cases hr),
                         blank := (fun hfl _ => htn.blank hfl rfl) }
      have hp := htn.parent
      simp only [Bool.false_eq_true, if_false] at hp
      rw [hp]
      cases tn.parent with
      | none => exact S2.pure h7
      | some tp => exact removeChild_s2 h7 tp t

end GM.Blocks
end Setext

/-
  part ListClose — `listParser.Close` (list.go:247-279) under the simulation relation, with ONE named side
  condition: the `HasBlankPreviousLines` flags that the tightness loop reads agree in the two runs (`FlagsOK`: the own
  flag of every item but the first, and the flags of every item's children but the first). The relation relates these
  flags only for sources without a blank line (`NodeRel.blank`; otherwise they differ for the direct children of the
  quote); the side condition is met from `FL` (`flagsOK_node`) or from the weak flag relation `FE` (`flagsOK_of_fe`), both
  in GM.Proof.QuoteSimFE4. Given the side condition: the same `IsTight`, and the same Paragraph → TextBlock
  replacement (`tightenItems`, through `replaceChild_s2`).
-/
section ListClose
namespace GM.Blocks
open GM GM.Text GM.Spec GM.Proof.Reader

/-- the flags `listParser.Close` reads below the items `cs` (`first`: the head of `cs` is the list's first item) -/
def FlagsOK (nA nB : List Node) : List Nat → Bool → Prop
  | [], _ => True
  | c :: cs, first =>
    ((first = false → (nB.getD (c + 1) default).blankPrev = (nA.getD c default).blankPrev) ∧
      ∀ c1 ∈ (nA.getD c default).children.drop 1,
        (nB.getD (c1 + 1) default).blankPrev = (nA.getD c1 default).blankPrev) ∧
    FlagsOK nA nB cs false

theorem any_map_congr {α β} (f : α → β) (g : β → Bool) (g' : α → Bool) :
    ∀ (l : List α), (∀ x ∈ l, g (f x) = g' x) → (l.map f).any g = l.any g'
  | [], _ => rfl
  | x :: l, h => by
    simp only [List.map_cons, List.any_cons]
    rw [h x (List.mem_cons_self ..), any_map_congr f g g' l (fun y hy => h y (List.mem_cons_of_mem _ hy))]

theorem itemLoose_q {src : Bytes} {nA nB : List Node} (hn : StoreRel src nA nB) (first : Bool) (c : Nat)
    (h1 : first = false → (nB.getD (c + 1) default).blankPrev = (nA.getD c default).blankPrev)
    (h2 : ∀ c1 ∈ (nA.getD c default).children.drop 1,
      (nB.getD (c1 + 1) default).blankPrev = (nA.getD c1 default).blankPrev) :
    itemLoose nB first (c + 1) = itemLoose nA first c := by
  unfold itemLoose
  simp only
  have hc := (hn.node c).children
  rw [hc, ← List.map_drop, any_map_congr (· + 1) _ (fun c1 => (nA.getD c1 default).blankPrev) _ h2]
  cases first with
  | true => simp
  | false => simp only [Bool.not_false, Bool.true_and]; rw [h1 rfl]

theorem listTight_q {src : Bytes} {nA nB : List Node} (hn : StoreRel src nA nB) :
    ∀ (cs : List Nat) (first t : Bool), FlagsOK nA nB cs first →
      listTight nB t (cs.map (· + 1)) first = listTight nA t cs first
  | [], _, _, _ => rfl
  | c :: cs, first, t, h => by
    simp only [List.map_cons]
    unfold listTight
    by_cases ht : (!t) = true
    · rw [if_pos ht, if_pos ht]
    · rw [if_neg ht, if_neg ht, itemLoose_q hn first c h.1.1 h.1.2]
      exact listTight_q hn cs false _ h.2

theorem nodeRel_textBlock {src : Bytes} {root : Bool} {g g' : Node} (hg : NodeRel src root g g') :
    NodeRel src false { kind := .textBlock, lines := g.lines, linesNil := g.linesNil }
      { kind := .textBlock, lines := g'.lines, linesNil := g'.linesNil } :=
  ⟨rfl, rfl, rfl, hg.lines, hg.linesNil, rfl, rfl, rfl, rfl, rfl, rfl, trivial,
    .inl ⟨by show (-1 : Int) < 0; decide, rfl⟩, (fun h => by cases h), (fun i hi => by cases hi),
    (fun h => absurd h (by show ¬ (0 : Int) ≤ -1; decide)), (fun _ _ => rfl)⟩

theorem kind_para_q {src : Bytes} {id : Nat} {g g' : Node} (hg : NodeRel src (id == 0) g g') :
    (g'.kind == Kind.paragraph) = (g.kind == Kind.paragraph) := by
  have hk := hg.kind
  by_cases hx0 : id = 0
  · subst hx0
    simp only [beq_self_eq_true, if_true] at hk
    rw [hk.1, hk.2]; rfl
  · have hx : (id == 0) = false := beq_eq_false_iff_ne.mpr hx0
    rw [hx] at hk
    simp only [Bool.false_eq_true, if_false] at hk
    rw [hk]

/-- list.go:268-276: the paragraphs among the grandchildren `gcs` of `child` become text blocks -/
theorem tightenItem_s2 {src k ls p} (child : Nat) : ∀ (gcs : List Nat) {sA sB : St}, SR src k ls p sA sB →
    S2 (fun _ _ sA' sB' => SR src k ls p sA' sB') (tightenItem child gcs sA)
      (tightenItem (child + 1) (gcs.map (· + 1)) sB)
  | [], sA, sB, h => by
    simp only [List.map_nil]
    unfold tightenItem
    exact S2.pure h
  | gc :: gcs, sA, sB, h => by
    simp only [List.map_cons]
    unfold tightenItem
    refine S2.bind (getNode_s2 h gc) (fun g g' sA1 sB1 hq => ?_)
    obtain ⟨hg, h1⟩ := hq
    rw [kind_para_q hg]
    by_cases hp : (g.kind == Kind.paragraph) = true
    · rw [if_pos hp, if_pos hp]
      refine S2.bind (newNode_s2 h1 _ _ (nodeRel_textBlock hg)) (fun tb tb' sA2 sB2 hq => ?_)
      obtain ⟨_, hm, hn0, h2⟩ := hq
      subst hm
      exact S2.bind (replaceChild_s2 h2 child gc tb hn0) (fun _ _ sA3 sB3 h3 => tightenItem_s2 child gcs h3)
    · rw [if_neg hp, if_neg hp]
      exact tightenItem_s2 child gcs h1

/-- list.go:267-277 -/
theorem tightenItems_s2 {src k ls p} : ∀ (cs : List Nat) {sA sB : St}, SR src k ls p sA sB →
    S2 (fun _ _ sA' sB' => SR src k ls p sA' sB') (tightenItems cs sA) (tightenItems (cs.map (· + 1)) sB)
  | [], sA, sB, h => by
    simp only [List.map_nil]
    unfold tightenItems
    exact S2.pure h
  | c :: cs, sA, sB, h => by
    simp only [List.map_cons]
    unfold tightenItems
    refine S2.bind (getNode_s2 h c) (fun cn cn' sA1 sB1 hq => ?_)
    obtain ⟨hc, h1⟩ := hq
    rw [hc.children]
    exact S2.bind (tightenItem_s2 c cn.children h1) (fun _ _ sA2 sB2 h2 => tightenItems_s2 cs h2)

/-- **`listParser.Close`**, given that the flags it reads agree in the two runs -/
theorem listClose_sim' (src : Bytes) : ∀ k ls p node sA sB, SR src k ls p sA sB →
    FlagsOK sA.nodes sB.nodes (sA.nodes.getD node default).children true →
    S2 (fun _ _ sA' sB' => SR src k ls p sA' sB') (bpClose .list node sA) (bpClose .list (node + 1) sB) := by
  intro k ls p node sA sB h hfl
  show S2 _ (listClose node sA) (listClose (node + 1) sB)
  unfold listClose
  have eA : getNode node sA = .ok (sA.nodes.getD node default, sA) := rfl
  have eB : getNode (node + 1) sB = .ok (sB.nodes.getD (node + 1) default, sB) := rfl
  rw [bind_run eA, bind_run eB]
  have gA : (get : M St) sA = .ok (sA, sA) := rfl
  have gB : (get : M St) sB = .ok (sB, sB) := rfl
  rw [bind_run gA, bind_run gB]
  have hab := h.n.node node
  have ht : listTight sB.nodes (sB.nodes.getD (node + 1) default).tight (sB.nodes.getD (node + 1) default).children true =
      listTight sA.nodes (sA.nodes.getD node default).tight (sA.nodes.getD node default).children true := by
    rw [hab.tight, hab.children]
    exact listTight_q h.n _ true _ hfl
  rw [ht, hab.children]
  generalize listTight sA.nodes (sA.nodes.getD node default).tight (sA.nodes.getD node default).children true = t
  refine S2.bind (modNode_s2 h node _ _ (fun a b hab' => ?_)) (fun _ _ sA1 sB1 h1 => ?_)
  · exact { hab' with tight := rfl }
  · by_cases htt : t = true
    · rw [if_pos htt, if_pos htt]
      exact tightenItems_s2 _ h1
    · rw [if_neg htt, if_neg htt]
      exact S2.pure h1

end GM.Blocks
end ListClose
