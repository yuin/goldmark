/-
  GM.Proof.CMFragSpec13 — the atoms and blocks of stages 8, 11, 12, 13, 20 inside the spec model GM.Spec.CommonMark: prescribed
  HTML and source of an embedded atom (code spans, `*` and `_` emphasis), of an indented code block, of a stage-13 block.
-/
import GM.Proof.CMFragSpec

/-
  section CMFragSpec8 — code spans in the spec model GM.Spec.CommonMark: a code span of letters and digits is spelled with
  one backtick on each side (`spellCode_alnum8`). The relations of whole stage-8 documents are instances of the union
  fragment's (GM.Proof.CMFragStagesText).
-/
section CMFragSpec8
namespace GM.Proof.CMFrag
open GM GM.Spec.CM GM.Spec.CMFrag

theorem maxRun_none8 (c : UInt8) (b : Bytes) (h : ∀ x ∈ b, x ≠ c) (acc : Nat × Nat) :
    (b.foldl (fun (acc : Nat × Nat) x => if x == c then (acc.1 + 1, max acc.2 (acc.1 + 1)) else (0, acc.2)) acc).2 =
      acc.2 := by
  induction b generalizing acc with
  | nil => rfl
  | cons x rest ih =>
    have hx : (x == c) = false := by simpa using h x (by simp)
    rw [List.foldl_cons, ih (fun y hy => h y (by simp [hy]))]
    simp [hx]

theorem alnum_facts8 : ∀ c : UInt8, isAlnumC c = true → c ≠ 96 ∧ c ≠ 32 ∧ printable c = true := by
  apply forall_uint8; decide +kernel

theorem spellCode_alnum8 (c : Bytes) (h : ∀ x ∈ c, isAlnumC x = true) : spellCode c 0 false = [96] ++ c ++ [96] := by
  have hr : maxRun 96 c = 0 := by
    rw [maxRun, maxRun_none8 96 c (fun x hx => (alnum_facts8 x (h x hx)).1)]
  have hh : (c.head? == some 96) = false := by
    cases c with
    | nil => rfl
    | cons x rest => simpa using (alnum_facts8 x (h x (by simp))).1
  have hl : (c.getLast? == some 96) = false := by
    cases hg : c.getLast? with
    | none => rfl
    | some z =>
      obtain ⟨ys, hys⟩ := List.getLast?_eq_some_iff.mp hg
      simpa using (alnum_facts8 z (h z (by rw [hys]; simp))).1
  have hs : (c.head? == some 32) = false := by
    cases c with
    | nil => rfl
    | cons x rest => simpa using (alnum_facts8 x (h x (by simp))).2.1
  simp [spellCode, hr, hh, hl, hs]

end GM.Proof.CMFrag
end CMFragSpec8

/-
  section CMFragSpec11 — the atoms of stage 11 (text, code spans, `*x*`, `**x**`) in the spec model GM.Spec.CommonMark:
  the prescribed HTML of an embedded atom and of a line of atoms (`render_expI_atom11`, `render_expIs_line11`), the source
  of an embedded atom (`spellI_rembedAtom11`) and that it is printable. The relations of whole stage-11 documents are
  instances of the union fragment's (GM.Proof.CMFragStagesText).
-/
section CMFragSpec11
namespace GM.Proof.CMFrag
open GM GM.Spec.CM GM.Spec.CMFrag

/-! ### S1: prescribed HTML -/

theorem expIs_append11 (a b : List Inline) : expIs (a ++ b) = expIs a ++ expIs b := by
  induction a with
  | nil => simp [expIs]
  | cons x rest ih => simp [expIs, ih]

theorem render_expIs_elits11 (c : Bytes) : render (expIs [.text (elits c)]) = escHtml c := by
  have : plain (elits c) = c := by
    induction c with
    | nil => rfl
    | cons x rest ih =>
      simp only [plain, elits, List.map_cons] at ih ⊢
      rw [ih]
  simp [expIs, expI, render, renderPiece, this]

theorem render_wrap11 (tag : Bytes) (inner : List Piece) :
    render (wrap tag [] inner) = [60] ++ tag ++ [62] ++ render inner ++ [60, 47] ++ tag ++ [62] := by
  simp [wrap, render, renderPiece]

theorem render_expI_atom11 (a : EAtomS) : render (expI (eembedAtom a)) = expEAtom a := by
  cases a with
  | txt cs => simp [eembedAtom, expI, render, renderPiece, expEAtom]
  | code c =>
    have h1 : strBytes "<code>" = [60] ++ strBytes "code" ++ [62] := by decide +kernel
    have h2 : strBytes "</code>" = [60, 47] ++ strBytes "code" ++ [62] := by decide +kernel
    simp [eembedAtom, expI, wrap, render, renderPiece, expEAtom, h1, h2]
  | em c =>
    have h1 : strBytes "<em>" = [60] ++ strBytes "em" ++ [62] := by decide +kernel
    have h2 : strBytes "</em>" = [60, 47] ++ strBytes "em" ++ [62] := by decide +kernel
    rw [eembedAtom, expI, render_wrap11, render_expIs_elits11, expEAtom, h1, h2]
    simp
  | strong c =>
    have h1 : strBytes "<strong>" = [60] ++ strBytes "strong" ++ [62] := by decide +kernel
    have h2 : strBytes "</strong>" = [60, 47] ++ strBytes "strong" ++ [62] := by decide +kernel
    rw [eembedAtom, expI, render_wrap11, render_expIs_elits11, expEAtom, h1, h2]
    simp

theorem render_expIs_line11 (l : ELine) : render (expIs (l.map eembedAtom)) = expELine l := by
  induction l with
  | nil => simp [expIs, render, expELine]
  | cons a rest ih =>
    rw [List.map_cons, expIs, render_append, ih, render_expI_atom11]
    simp [expELine]

/-! ### S2: source -/

theorem spellI_rembedAtom11 (a : EAtomS) (h : eatomOKS a = true) : spellI false false (eembedAtom a) = spellEAtom a := by
  cases a with
  | txt cs => simp only [eembedAtom, spellI, spellEAtom]
  | code c =>
    simp only [eatomOKS, Bool.and_eq_true, List.all_eq_true] at h
    simp only [eembedAtom, spellI, spellEAtom, spellCode_alnum8 c h.2]
  | em c =>
    simp only [eatomOKS, Bool.and_eq_true, List.all_eq_true] at h
    simp [eembedAtom, spellI, spellIs, spellEAtom, escSpell_elits_s11 c h.2]
  | strong c =>
    simp only [eatomOKS, Bool.and_eq_true, List.all_eq_true] at h
    simp [eembedAtom, spellI, spellIs, spellEAtom, escSpell_elits_s11 c h.2]

theorem spellRAtom_printable11 (a : EAtomS) (h : eatomOKS a = true) : (spellEAtom a).all printable = true := by
  cases a with
  | txt cs =>
    simp only [eatomOKS, Bool.and_eq_true, List.all_eq_true] at h
    exact escSpell_printable cs (fun t ht => charOK_printable t (h.2 t ht))
  | code c =>
    simp only [eatomOKS, Bool.and_eq_true, List.all_eq_true] at h
    simp only [spellEAtom, List.all_append, Bool.and_eq_true, List.all_eq_true]
    refine ⟨⟨by decide, fun x hx => (alnum_facts8 x (h.2 x hx)).2.2⟩, by decide⟩
  | em c =>
    simp only [eatomOKS, Bool.and_eq_true, List.all_eq_true] at h
    simp only [spellEAtom, List.all_append, Bool.and_eq_true, List.all_eq_true]
    refine ⟨⟨by decide, fun x hx => (alnum_facts8 x (h.2 x hx)).2.2⟩, by decide⟩
  | strong c =>
    simp only [eatomOKS, Bool.and_eq_true, List.all_eq_true] at h
    simp only [spellEAtom, List.all_append, Bool.and_eq_true, List.all_eq_true]
    refine ⟨⟨by decide, fun x hx => (alnum_facts8 x (h.2 x hx)).2.2⟩, by decide⟩

end GM.Proof.CMFrag
end CMFragSpec11

/-
  section CMFragSpec12 — indented code blocks (stage 12) in the spec model GM.Spec.CommonMark: the prescribed HTML of an
  embedded block (`render_expB_iembed`; an indented code block is the spec model's `Block.icode lines`), the source line
  of a code line (`renderLine_ic`), the kind of an embedded block (`kindOf_iembed`). The relations of whole stage-12
  documents are instances of the union fragment's (GM.Proof.CMFragStagesBlock).
-/
section CMFragSpec12
namespace GM.Proof.CMFrag
open GM GM.Spec.CM GM.Spec.CMFrag

theorem render_expB_iembed (a : Bool) (b : IBlock) (hok : iblockOK b = true) :
    render (expB false false (iembedBlock a b)) = expIBlock b := by
  cases b with
  | h b =>
    rw [iembedBlock, expIBlock, expB_kembedK]
    exact render_expB_hembedH b hok
  | icode lines =>
    rw [iembedBlock, expB, expIBlock]
    have h1 : strBytes "<pre><code>" = [60] ++ strBytes "pre" ++ [62] ++ [60] ++ strBytes "code" ++ [62] := by
      decide +kernel
    have h2 : strBytes "</code></pre>\n" = [60, 47] ++ strBytes "code" ++ [62] ++ [60, 47] ++ strBytes "pre" ++ [62, 10] := by
      decide +kernel
    rw [h1, h2]
    simp [wrap, render, renderPiece, nl, codeText]

theorem renderLine_ic (l : Bytes) (h : l.all printable = true) :
    renderLine 0 0 0 0 ((4, l) : Line) = [32, 32, 32, 32] ++ l := by
  simp [renderLine, lcol, spellIndent, spaces, renderBody_id 0 0 0 l (printable_plainH l h)]

theorem map_renderLine_ic (lines : List Bytes) (h : ∀ l ∈ lines, l.all printable = true) :
    (lines.map (fun l => ((4, l) : Line))).map (renderLine 0 0 0 0) = lines.map fun l => [32, 32, 32, 32] ++ l := by
  induction lines with
  | nil => rfl
  | cons l rest ih =>
    rw [List.map_cons, List.map_cons, List.map_cons, ih (fun x hx => h x (by simp [hx])), renderLine_ic l (h l (by simp))]

/-- the kind (of the spec model) of an embedded block does not depend on the `abut` choice -/
def ikind : IBlock → Nat
  | .h b => kindOf (hembedBlock b)
  | .icode _ => 5

theorem kindOf_kembedK (a : Bool) (b : HBlock) : kindOf (kembedBlock a b) = kindOf (hembedBlock b) := by
  cases b with
  | base b => cases b <;> rfl
  | fcode tilde n info lines => rfl

theorem kindOf_iembed (a : Bool) (b : IBlock) : kindOf (iembedBlock a b) = ikind b := by
  cases b with
  | h b => exact kindOf_kembedK a b
  | icode lines => rfl

end GM.Proof.CMFrag
end CMFragSpec12

/-
  section CMFragSpec13 — the blocks of stage 13 (the blocks of stage 6 / 12 whose paragraph lines and heading texts are the
  rich lines of stage 11, paragraph lines optionally followed by a backslash hard line break) in the spec model
  GM.Spec.CommonMark: the prescribed HTML of an embedded block (`render_expB_uembed13`), the inlines whose source does not
  depend on their neighbours (`simple13`), the kind of an embedded block (`kindOf_uembed13`). The relations of whole
  stage-13 documents are instances of the union fragment's (GM.Proof.CMFragStagesBlock).
-/
section CMFragSpec13
namespace GM.Proof.CMFrag
open GM GM.Spec.CM GM.Spec.CMFrag

/-! ### U1: prescribed HTML -/

theorem render_expIs_uembedLines13 (ls : List ULineS) : render (expIs (uembedLines ls)) = expULines ls := by
  induction ls with
  | nil => simp [uembedLines, expIs, render, expULines]
  | cons x rest ih =>
    cases rest with
    | nil => simp [uembedLines, expULines, render_expIs_line11]
    | cons y rest =>
      obtain ⟨atoms, hard⟩ := x
      have e : uembedLines (⟨atoms, hard⟩ :: y :: rest) =
          atoms.map eembedAtom ++ (if hard then .hardBreak true 0 else .softBreak) :: uembedLines (y :: rest) := rfl
      have e2 : expULines (⟨atoms, hard⟩ :: y :: rest) =
          expELine atoms ++ (if hard then strBytes "<br />\n" else [10]) ++ expULines (y :: rest) := rfl
      rw [e, e2, expIs_append11, render_append, render_expIs_line11, expIs, render_append, ih]
      have hbr : strBytes "<br />\n" = [60] ++ strBytes "br" ++ strBytes " />" ++ [10] := by decide +kernel
      cases hard
      · simp [expI, render, renderPiece, nl]
      · rw [if_pos rfl, if_pos rfl, hbr]
        simp [expI, render, renderPiece, nl]

theorem render_expB_upara13 (a : Bool) (ls : List ULineS) :
    render (expB false false (.para { abut := a } (uembedLines ls) 0)) = expUBlock (.para ls) := by
  rw [expB]
  simp only [wrap, Bool.false_eq_true, if_false, List.cons_append]
  have h1 : strBytes "<p>" = [60] ++ strBytes "p" ++ [62] := by decide +kernel
  have h2 : strBytes "</p>\n" = [60, 47] ++ strBytes "p" ++ [62] ++ [10] := by decide +kernel
  rw [expUBlock, h1, h2, ← render_expIs_uembedLines13]
  simp [render, renderPiece, nl]

theorem render_expB_uheading13 (a : Bool) (level : Nat) (text : ELine) (hl1 : 1 ≤ level) (hl6 : level ≤ 6) :
    render (expB false false (.heading { abut := a } level false 0 0 (text.map eembedAtom))) =
      expUBlock (.heading level text) := by
  rw [expB, expUBlock, decStr_level4 level hl1 hl6, ← render_expIs_line11]
  have h1 : strBytes "<h" = [60, 104] := by decide +kernel
  have h2 : strBytes "</h" = [60, 47, 104] := by decide +kernel
  have h3 : strBytes ">\n" = [62, 10] := by decide +kernel
  rw [h1, h2, h3]
  simp [wrap, render, renderPiece, nl]

theorem render_expB_uembed13 (a : Bool) (b : UBlockS) (hok : ublockOKS b = true) :
    render (expB false false (uembedBlock a b)) = expUBlock b := by
  cases b with
  | para lines => exact render_expB_upara13 a lines
  | heading level text =>
    simp only [ublockOKS, Bool.and_eq_true, decide_eq_true_eq] at hok
    exact render_expB_uheading13 a level text hok.1.1 hok.1.2
  | thematic c n =>
    have h := render_expB_hembedH (.base (.thematic c n)) rfl
    have e : expB false false (uembedBlock a (.thematic c n)) = expB false false (hembedBlock (.base (.thematic c n))) := by
      simp [uembedBlock, hembedBlock, gembedBlock, expB]
    rw [e, h]
    rfl
  | fcode tilde n info lines =>
    have h := render_expB_hembedH (.fcode tilde n info lines) hok
    have e : expB false false (uembedBlock a (.fcode tilde n info lines)) =
        expB false false (hembedBlock (.fcode tilde n info lines)) := by
      simp [uembedBlock, hembedBlock, expB]
    rw [e, h]
    rfl
  | icode lines => exact render_expB_iembed a (.icode lines) hok

/-! ### U2: source -/

def simple13 : Inline → Bool
  | .text _ => true
  | .code .. => true
  | .softBreak => true
  | .hardBreak .. => true
  | .emph us _ => !us
  | .strong us _ => !us
  | _ => false

theorem spellI_simple13 (x : Inline) (h : simple13 x = true) (pa na : Bool) :
    spellI pa na x = spellI false false x := by
  cases x with
  | emph us kids =>
    have : us = false := by simpa [simple13] using h
    subst this; simp [spellI]
  | strong us kids =>
    have : us = false := by simpa [simple13] using h
    subst this; simp [spellI]
  | text _ => simp only [spellI]
  | code _ _ _ => simp only [spellI]
  | softBreak => simp only [spellI]
  | hardBreak _ _ => simp only [spellI]
  | _ => cases h

theorem map_renderLine_id13 (ls : List Bytes) (h : ∀ b ∈ ls, ∀ c ∈ b, printable c = true) :
    ls.map (fun b => renderLine 0 0 0 0 ((0, b) : Line)) = ls := by
  conv => rhs; rw [← List.map_id ls]
  apply List.map_congr_left
  intro b hb
  exact renderLine_plain b (fun c hc => (printable_facts c (h b hb c hc)).2)

/-- the kind of the embedded block (`kindOf`) -/
def ukind13 : UBlockS → Nat
  | .para _ => 1
  | .heading _ _ => 2
  | .thematic _ _ => 4
  | .fcode _ _ _ _ => 6
  | .icode _ => 5

theorem kindOf_uembed13 (a : Bool) (b : UBlockS) : kindOf (uembedBlock a b) = ukind13 b := by
  cases b <;> rfl

end GM.Proof.CMFrag
end CMFragSpec13

/-
  section CMFragSpec20 — the atoms of stage 20 (text, `_x_`, `__x__`) in the spec model GM.Spec.CommonMark: the prescribed
  HTML and the source of an embedded atom (`render_expI_atom20`, `spellI_rembedAtom20`), which inlines are underscore
  emphasis and whether a list of inlines begins with a letter or digit (`isEm20`, `nextAl20`: the spec model writes `_`
  exactly when the source bytes next to the emphasis are not letters or digits). The relations of whole stage-20
  documents are instances of the union fragment's (GM.Proof.CMFragStagesText).
-/
section CMFragSpec20
namespace GM.Proof.CMFrag
open GM GM.Spec.CM GM.Spec.CMFrag

/-! ### S1: prescribed HTML -/

theorem render_expI_atom20 (a : UnAtomS) : render (expI (unembedAtom a)) = expUnAtom a := by
  cases a with
  | txt cs => simp [unembedAtom, expI, render, renderPiece, expUnAtom]
  | em c =>
    have h1 : strBytes "<em>" = [60] ++ strBytes "em" ++ [62] := by decide +kernel
    have h2 : strBytes "</em>" = [60, 47] ++ strBytes "em" ++ [62] := by decide +kernel
    rw [unembedAtom, expI, render_wrap11, render_expIs_elits11, expUnAtom, h1, h2]
    simp
  | strong c =>
    have h1 : strBytes "<strong>" = [60] ++ strBytes "strong" ++ [62] := by decide +kernel
    have h2 : strBytes "</strong>" = [60, 47] ++ strBytes "strong" ++ [62] := by decide +kernel
    rw [unembedAtom, expI, render_wrap11, render_expIs_elits11, expUnAtom, h1, h2]
    simp

/-! ### S2: source -/

def isEm20 : Inline → Bool
  | .emph .. => true
  | .strong .. => true
  | _ => false

def nextAl20 : List Inline → Bool
  | y :: _ => startsAlnum y
  | [] => false

theorem spellI_rembedAtom20 (a : UnAtomS) (h : unatomOKS a = true) : spellI false false (unembedAtom a) = spellUnAtom a := by
  cases a with
  | txt cs => simp only [unembedAtom, spellI, spellUnAtom]
  | em c =>
    simp only [unatomOKS, Bool.and_eq_true, List.all_eq_true] at h
    simp [unembedAtom, spellI, spellIs, spellUnAtom, escSpell_elits_s11 c h.2]
  | strong c =>
    simp only [unatomOKS, Bool.and_eq_true, List.all_eq_true] at h
    simp [unembedAtom, spellI, spellIs, spellUnAtom, escSpell_elits_s11 c h.2]

theorem spellRAtom_printable20 (a : UnAtomS) (h : unatomOKS a = true) : (spellUnAtom a).all printable = true := by
  cases a with
  | txt cs =>
    simp only [unatomOKS, Bool.and_eq_true, List.all_eq_true] at h
    exact escSpell_printable cs (fun t ht => charOK_printable t (h.2 t ht))
  | em c =>
    simp only [unatomOKS, Bool.and_eq_true, List.all_eq_true] at h
    simp only [spellUnAtom, List.all_append, Bool.and_eq_true, List.all_eq_true]
    refine ⟨⟨by decide, fun x hx => (alnum_facts8 x (h.2 x hx)).2.2⟩, by decide⟩
  | strong c =>
    simp only [unatomOKS, Bool.and_eq_true, List.all_eq_true] at h
    simp only [spellUnAtom, List.all_append, Bool.and_eq_true, List.all_eq_true]
    refine ⟨⟨by decide, fun x hx => (alnum_facts8 x (h.2 x hx)).2.2⟩, by decide⟩

end GM.Proof.CMFrag
end CMFragSpec20
