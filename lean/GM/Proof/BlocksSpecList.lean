/-
  GM.Proof.BlocksSpecList — the list parser (list.go): the pure recognisers `parseListItem` / `matchesListItem` /
  `calcListOffset` / `matchesSetextHeadingBar` with the bounds every list lemma needs, then `listOpen`, `listContinue`
  (total, with what list_item.go relies on) and `listClose_spec : CloseSpec src .list`.
-/
import GM.Proof.BlocksSpecCode
import GM.Proof.BlocksAtx
namespace GM.Blocks
open GM GM.Text GM.Spec GM.Proof.Reader

theorem drop_eq_cons_getElem? {α} {l : List α} {k : Nat} {c : α} {cs : List α} (h : l.drop k = c :: cs) :
    l[k]? = some c ∧ k < l.length := by
  have h1 : (l.drop k)[0]? = some c := by rw [h]; rfl
  rw [List.getElem?_drop] at h1
  have h2 : l[k]? = some c := by simpa using h1
  refine ⟨h2, ?_⟩
  rcases Nat.lt_or_ge k l.length with hh | hh
  · exact hh
  · rw [List.getElem?_eq_none hh] at h2; cases h2

theorem takeWhile_getElem? {α} (p : α → Bool) : ∀ (l : List α) (i : Nat), i < (l.takeWhile p).length →
    ∃ b, l[i]? = some b ∧ p b = true := by
  intro l
  induction l with
  | nil => intro i h; simp at h
  | cons a l ih =>
    intro i h
    simp only [List.takeWhile] at h
    cases hp : p a with
    | false => rw [hp] at h; simp at h
    | true =>
      rw [hp] at h
      cases i with
      | zero => exact ⟨a, rfl, hp⟩
      | succ i =>
        simp only [List.length_cons, Nat.add_lt_add_iff_right] at h
        obtain ⟨b, hb, hpb⟩ := ih i h
        exact ⟨b, by simpa using hb, hpb⟩

theorem drop_takeWhile_head {α} (p : α → Bool) : ∀ (l : List α) (b : α) (rest : List α),
    l.drop (l.takeWhile p).length = b :: rest → p b = false := by
  intro l
  induction l with
  | nil => intro b rest h; simp at h
  | cons a l ih =>
    intro b rest h
    simp only [List.takeWhile] at h
    cases hp : p a with
    | false => rw [hp] at h; simp at h; rw [← h.1]; exact hp
    | true => rw [hp] at h; simp at h; exact ih b rest h

theorem countLeading_getElem? (c : UInt8) (l : Bytes) (i : Nat) (h : i < countLeading c l) : l[i]? = some c := by
  obtain ⟨b, hb, hp⟩ := takeWhile_getElem? (· == c) l i h
  have : b = c := by simpa using hp
  rw [hb, this]

/-! ### util.IndentWidth -/

theorem indentWidthI_pos (b : UInt8) (bs : Bytes) (cur : Int) (h : b = 32 ∨ b = 9) :
    1 ≤ (indentWidthI (b :: bs) cur).1 := by
  have := (indentWidthI_eq (b :: bs) cur).2.1
  rcases h with h | h <;> subst h <;> simp [indentOf, List.takeWhile_cons] at this <;> omega

theorem indentWidthI_zero (b : UInt8) (bs : Bytes) (cur : Int) (h32 : b ≠ 32) (h9 : b ≠ 9) :
    (indentWidthI (b :: bs) cur).1 = 0 := by
  unfold indentWidthI indentWidthGo
  simp [h32, h9]

/-! ### parser.parseListItem -/

/-- what `parseListItem` guarantees about the match array when it recognises an item. With this
    `slice line m.r2 (m.r3 - 1)`, `idx line (m.r3 - 1)`, `sliceFrom line (m.r3 - 1)`, and (when `m.r4 ≥ 0`)
    `slice line m.r4 m.r5`, `sliceFrom line m.r4` are all in range. -/
structure ListMatchOK (line : Bytes) (m : M6) (typ : ListTyp) : Prop where
  r1_ge : 0 ≤ m.r1
  r1_le : m.r1 ≤ 3
  r2 : m.r2 = m.r1
  /-- the marker (with the digits of an ordered one) is not empty -/
  r3_gt : m.r2 ≤ m.r3 - 1
  r3_le : m.r3 ≤ line.length
  bullet : typ = .bullet → m.r3 = m.r2 + 1
  /-- 1 to 9 digits -/
  ordered : typ = .ordered → m.r2 < m.r3 - 1 ∧ m.r3 - 1 - m.r2 ≤ 9
  /-- the bytes in front of `m.r1` are spaces -/
  spaces : ∀ i : Nat, (i : Int) < m.r1 → line[i]? = some 32
  /-- the byte at `m.r3 - 1` is the marker byte -/
  marker : ∃ b, line[(m.r3 - 1).toNat]? = some b ∧ (typ = .bullet → b = 45 ∨ b = 42 ∨ b = 43) ∧
      (typ = .ordered → b = 46 ∨ b = 41) ∧ (b = 45 ∨ b = 42 ∨ b = 43 ∨ b = 46 ∨ b = 41)
  /-- the digits of an ordered marker -/
  digits : typ = .ordered → ∀ i : Nat, m.r2 ≤ (i : Int) → (i : Int) < m.r3 - 1 → ∃ b, line[i]? = some b ∧ isNumeric b = true
  /-- either the line ends behind the marker, or the marker is followed by a newline, a space or a tab -/
  tail : (m.r4 = -1 ∧ m.r5 = -1 ∧ m.r3 = line.length) ∨
      (m.r4 = m.r3 ∧ m.r4 ≤ m.r5 ∧ m.r5 ≤ line.length ∧ m.r4 < line.length ∧ (line.length : Int) - 1 ≤ m.r5 ∧
        ∃ b, line[m.r4.toNat]? = some b ∧ (b = 10 ∨ b = 32 ∨ b = 9))

theorem pliFinish_ok (line : Bytes) (k i : Nat) (typ : ListTyp) (hi : i ≤ line.length) (m : M6) (t : ListTyp)
    (h : pliFinish line k i typ = (m, t)) (ht : t ≠ .notList) :
    t = typ ∧ m.r1 = k ∧ m.r2 = k ∧ m.r3 = i ∧
    ((m.r4 = -1 ∧ m.r5 = -1 ∧ m.r3 = line.length) ∨
      (m.r4 = m.r3 ∧ m.r4 ≤ m.r5 ∧ m.r5 ≤ line.length ∧ m.r4 < line.length ∧ (line.length : Int) - 1 ≤ m.r5 ∧
        ∃ b, line[m.r4.toNat]? = some b ∧ (b = 10 ∨ b = 32 ∨ b = 9))) := by
  unfold pliFinish at h
  split at h
  · rename_i hd
    cases h
    have : line.length ≤ i := by
      have := congrArg List.length hd; simp at this; omega
    refine ⟨rfl, rfl, rfl, rfl, .inl ⟨rfl, rfl, ?_⟩⟩
    simp only; omega
  · rename_i c cs hd
    obtain ⟨hc, hlt⟩ := drop_eq_cons_getElem? hd
    split at h
    · cases h; exact absurd rfl ht
    · rename_i hcond
      cases h
      refine ⟨rfl, rfl, rfl, rfl, .inr ⟨rfl, ?_, ?_, by simp only; omega, ?_, c, by simpa using hc, ?_⟩⟩
      · simp only; split <;> omega
      · simp only; split <;> omega
      · simp only; split <;> omega
      · by_cases h10 : c = 10
        · exact .inl h10
        · by_cases h32 : c = 32
          · exact .inr (.inl h32)
          · by_cases h9 : c = 9
            · exact .inr (.inr h9)
            · exfalso; apply hcond
              simp [h10, indentWidthI_zero c cs 0 h32 h9]

theorem parseListItem_ok (line : Bytes) (m : M6) (typ : ListTyp) (h : parseListItem line = (m, typ))
    (ht : typ ≠ .notList) : ListMatchOK line m typ := by
  unfold parseListItem at h
  simp only at h
  split at h
  · cases h; exact absurd rfl ht
  · rename_i hk
    have hk3 : countLeading 32 line ≤ 3 := by omega
    have hsp := countLeading_getElem? 32 line
    generalize countLeading 32 line = k at h hk3 hsp
    split at h
    · cases h; exact absurd rfl ht
    · rename_i c cs hd
      obtain ⟨hc, hlt⟩ := drop_eq_cons_getElem? hd
      split at h
      · rename_i hb
        obtain ⟨e1, e2, e3, e4, e5⟩ := pliFinish_ok line k (k + 1) .bullet (by omega) m typ h ht
        have hmk : c = 45 ∨ c = 42 ∨ c = 43 := by
          simpa [Bool.or_eq_true, beq_iff_eq, or_assoc] using hb
        have hidx : (m.r3 - 1).toNat = k := by rw [e4]; omega
        exact { r1_ge := by omega, r1_le := by omega, r2 := by omega, r3_gt := by omega, r3_le := by omega,
                bullet := fun _ => by omega,
                ordered := fun hh => (by rw [e1] at hh; cases hh),
                spaces := fun i hi => hsp i (by omega),
                marker := ⟨c, (by rw [hidx]; exact hc), fun _ => hmk, fun hh => (by rw [e1] at hh; cases hh),
                  (by rcases hmk with h | h | h <;> simp [h])⟩,
                digits := fun hh => (by rw [e1] at hh; cases hh),
                tail := e5 }
      · rename_i hb
        have hdig := takeWhile_getElem? isNumeric (c :: cs)
        have hlen := length_takeWhile_le'' isNumeric (c :: cs)
        generalize ((c :: cs).takeWhile isNumeric).length = nd at h hdig hlen
        split at h
        · cases h; exact absurd rfl ht
        · rename_i hnd
          have hnd1 : 1 ≤ nd ∧ nd ≤ 9 := by
            simp only [Bool.or_eq_true, beq_iff_eq, decide_eq_true_eq, not_or] at hnd; omega
          split at h
          · rename_i d ds hdd
            split at h
            · rename_i hd2
              rw [← hd, List.drop_drop] at hdd
              obtain ⟨hcd, hltd⟩ := drop_eq_cons_getElem? hdd
              obtain ⟨e1, e2, e3, e4, e5⟩ := pliFinish_ok line k (k + nd + 1) .ordered (by omega) m typ h ht
              have hmk : d = 46 ∨ d = 41 := by simpa [Bool.or_eq_true, beq_iff_eq] using hd2
              have hidx : (m.r3 - 1).toNat = k + nd := by rw [e4]; omega
              exact { r1_ge := by omega, r1_le := by omega, r2 := by omega, r3_gt := by omega, r3_le := by omega,
                      bullet := fun hh => (by rw [e1] at hh; cases hh),
                      ordered := fun _ => by omega,
                      spaces := fun i hi => hsp i (by omega),
                      marker := ⟨d, (by rw [hidx]; exact hcd), fun hh => (by rw [e1] at hh; cases hh), fun _ => hmk,
                        (by rcases hmk with h | h <;> simp [h])⟩,
                      digits := fun _ i h1 h2 => by
                        obtain ⟨b, hb1, hb2⟩ := hdig (i - k) (by omega)
                        refine ⟨b, ?_, hb2⟩
                        rw [← hd, List.getElem?_drop] at hb1
                        have : k + (i - k) = i := by omega
                        rw [this] at hb1; exact hb1,
                      tail := e5 }
            · cases h; exact absurd rfl ht
          · cases h; exact absurd rfl ht

theorem parseListItem_bounds (line : Bytes) (m : M6) (typ : ListTyp) (h : parseListItem line = (m, typ))
    (ht : typ ≠ .notList) :
    0 ≤ m.r1 ∧ m.r1 ≤ 3 ∧ m.r2 = m.r1 ∧ m.r2 ≤ m.r3 - 1 ∧ m.r3 ≤ line.length ∧
    (typ = .ordered → m.r2 < m.r3 - 1) ∧
    ((m.r4 = -1 ∧ m.r5 = -1) ∨ (m.r4 = m.r3 ∧ m.r4 ≤ m.r5 ∧ m.r5 ≤ line.length ∧ m.r4 < line.length)) := by
  have ok := parseListItem_ok line m typ h ht
  refine ⟨ok.r1_ge, ok.r1_le, ok.r2, ok.r3_gt, ok.r3_le, fun hh => (ok.ordered hh).1, ?_⟩
  rcases ok.tail with ⟨a, b, _⟩ | ⟨a, b, c, d, _⟩
  · exact .inl ⟨a, b⟩
  · exact .inr ⟨a, b, c, d⟩

/-- parser.matchesListItem answers `parseListItem`'s match, with the type possibly replaced by `notList` -/
theorem matchesListItem_eq (line : Bytes) (strict : Bool) (m : M6) (typ : ListTyp)
    (h : matchesListItem line strict = (m, typ)) (ht : typ ≠ .notList) : parseListItem line = (m, typ) := by
  unfold matchesListItem at h
  simp only at h
  split at h
  · exact h
  · cases h; exact absurd rfl ht

theorem matchesListItem_ok (line : Bytes) (strict : Bool) (m : M6) (typ : ListTyp)
    (h : matchesListItem line strict = (m, typ)) (ht : typ ≠ .notList) : ListMatchOK line m typ :=
  parseListItem_ok line m typ (matchesListItem_eq line strict m typ h ht) ht

/-- `strict` makes no difference: a recognised item never has more than 3 leading spaces -/
theorem matchesListItem_of_parse (line : Bytes) (strict : Bool) (m : M6) (typ : ListTyp)
    (h : parseListItem line = (m, typ)) (ht : typ ≠ .notList) : matchesListItem line strict = (m, typ) := by
  have ok := parseListItem_ok line m typ h ht
  unfold matchesListItem
  simp only [h]
  have h1 : (typ != ListTyp.notList) = true := by simpa using ht
  have h2 : decide (m.r1 < 4) = true := by have := ok.r1_le; simp; omega
  simp [h1, h2]

theorem matchesListItem_strict_irrel (line : Bytes) (s1 s2 : Bool) (m : M6) (typ : ListTyp)
    (h : matchesListItem line s1 = (m, typ)) (ht : typ ≠ .notList) : matchesListItem line s2 = (m, typ) :=
  matchesListItem_of_parse line s2 m typ (matchesListItem_eq line s1 m typ h ht) ht

/-! the slices and index expressions of list.go / list_item.go on a recognised item -/

theorem ListMatchOK.idx_marker {line m typ} (ok : ListMatchOK line m typ) :
    ∃ b, idx line (m.r3 - 1) = .ok b ∧ line[(m.r3 - 1).toNat]? = some b ∧ (b = 45 ∨ b = 42 ∨ b = 43 ∨ b = 46 ∨ b = 41) := by
  obtain ⟨b, hb, _, _, h4⟩ := ok.marker
  obtain ⟨b', h1, h2⟩ := idx_ok line (m.r3 - 1) (by have := ok.r1_ge; have := ok.r2; have := ok.r3_gt; omega)
    (by have := ok.r3_le; omega)
  rw [hb] at h2; cases h2
  exact ⟨b, h1, hb, h4⟩

theorem ListMatchOK.slice_number {line m typ} (ok : ListMatchOK line m typ) : ∃ v, slice line m.r2 (m.r3 - 1) = .ok v :=
  slice_ok' line m.r2 (m.r3 - 1) (by have := ok.r1_ge; have := ok.r2; omega) ok.r3_gt (by have := ok.r3_le; omega)

theorem ListMatchOK.sliceFrom_marker {line m typ} (ok : ListMatchOK line m typ) :
    sliceFrom line (m.r3 - 1) = .ok (line.drop (m.r3 - 1).toNat) ∧ line.drop (m.r3 - 1).toNat ≠ [] := by
  have := ok.r1_ge; have := ok.r2; have := ok.r3_gt; have := ok.r3_le
  refine ⟨sliceFrom_ok line (m.r3 - 1) (by omega) (by omega), fun e => ?_⟩
  have := congrArg List.length e
  simp at this; omega

theorem ListMatchOK.slice_tail {line m typ} (ok : ListMatchOK line m typ) (h4 : ¬ m.r4 < 0) :
    ∃ v, slice line m.r4 m.r5 = .ok v := by
  rcases ok.tail with ⟨a, _⟩ | ⟨a, b, c, d, _⟩
  · omega
  · exact slice_ok' line m.r4 m.r5 (by omega) b c

theorem ListMatchOK.sliceFrom_tail {line m typ} (ok : ListMatchOK line m typ) (h4 : ¬ m.r4 < 0) :
    sliceFrom line m.r4 = .ok (line.drop m.r4.toNat) := by
  rcases ok.tail with ⟨a, _⟩ | ⟨a, b, c, d, _⟩
  · omega
  · exact sliceFrom_ok line m.r4 (by omega) (by omega)

/-! ### parser.matchesSetextHeadingBar, parser.calcListOffset -/

theorem ite_ok_total {ε α} (c : Prop) [Decidable c] (a b : α) :
    ∃ r, (if c then (Except.ok a : Except ε α) else Except.ok b) = .ok r := by
  split <;> exact ⟨_, rfl⟩

/-- the only panic site is `line[len(line)-1]` on an empty line -/
theorem matchesSetextHeadingBar_total (l : Bytes) (hne : l ≠ []) : ∃ r, matchesSetextHeadingBar l = .ok r := by
  have hlen : 0 < l.length := List.length_pos_iff.mpr hne
  unfold matchesSetextHeadingBar
  have hcl := countLeading_le 32 l
  simp only [bind, Except.bind, pure, Except.pure]
  split
  · exact ⟨_, rfl⟩
  · obtain ⟨v, hv⟩ := slice_ok' l (countLeading 32 l : Int) (l.length : Int) (by omega) (by omega) (Int.le_refl _)
    obtain ⟨b, hb, _⟩ := idx_ok l ((l.length : Int) - 1) (by omega) (by omega)
    rw [hv]; simp only
    rw [hb]; simp only
    exact ite_ok_total _ _ _

/-- parser.calcListOffset: total when `m.r4` is -1 or an index of the line; the answer is 1, or the indent width (≤ 4) of a
    non-blank rest of the line, and never more than that width; it is ≥ 1 when that rest starts with a space or a tab (as
    `pliFinish` guarantees unless the byte at `m.r4` is a newline, which a line view has only at its end, where the rest
    is blank). No condition on `lo` (the reader's LineOffset, which may be negative): `util.TabWidth` is ≥ 1 for every int. -/
theorem calcListOffset_total (line : Bytes) (m : M6) (lo : Int) (h : m.r4 < 0 ∨ m.r4 ≤ line.length) :
    ∃ r, calcListOffset line m lo = .ok r ∧ 0 ≤ r ∧ r ≤ 4 ∧
      (r = 1 ∨ (0 ≤ m.r4 ∧ isBlank (line.drop m.r4.toNat) = false ∧
                 r = (indentWidthI (line.drop m.r4.toNat) (lo + m.r4)).1)) ∧
      ((∀ b, line[m.r4.toNat]? = some b → b = 32 ∨ b = 9) → 1 ≤ r) ∧
      (0 ≤ m.r4 → isBlank (line.drop m.r4.toNat) = false → r ≤ (indentWidthI (line.drop m.r4.toNat) (lo + m.r4)).1) := by
  unfold calcListOffset
  by_cases h4 : m.r4 < 0
  · rw [if_pos h4]; exact ⟨1, rfl, by omega, by omega, .inl rfl, fun _ => Int.le_refl _, fun h => by omega⟩
  · rw [if_neg h4]
    have hle : m.r4 ≤ line.length := by omega
    rw [sliceFrom_ok line m.r4 (by omega) hle]
    simp only [bind, Except.bind, pure, Except.pure]
    by_cases hb : isBlank (line.drop m.r4.toNat) = true
    · rw [if_pos hb]
      exact ⟨1, rfl, by omega, by omega, .inl rfl, fun _ => Int.le_refl _, fun _ hnb => by rw [hb] at hnb; cases hnb⟩
    · rw [if_neg hb]
      have hnn := indentWidthI_nonneg (line.drop m.r4.toNat) (lo + m.r4)
      have hbf : isBlank (line.drop m.r4.toNat) = false := by
        cases hh : isBlank (line.drop m.r4.toNat) with
        | true => exact absurd hh hb
        | false => rfl
      by_cases hw : (indentWidthI (line.drop m.r4.toNat) (lo + m.r4)).1 > 4
      · rw [if_pos hw]; exact ⟨1, rfl, by omega, by omega, .inl rfl, fun _ => Int.le_refl _, fun _ _ => by omega⟩
      · rw [if_neg hw]
        refine ⟨_, rfl, hnn, by omega, .inr ⟨by omega, hbf, rfl⟩, fun hsp => ?_, fun _ _ => Int.le_refl _⟩
        cases hd : line.drop m.r4.toNat with
        | nil => rw [hd] at hbf; simp [isBlank] at hbf
        | cons b bs =>
          obtain ⟨hb1, _⟩ := drop_eq_cons_getElem? hd
          exact indentWidthI_pos b bs _ (hsp b hb1)

theorem ListMatchOK.calcOffset_total {line m typ} (ok : ListMatchOK line m typ) (lo : Int) :
    ∃ r, calcListOffset line m lo = .ok r ∧ 0 ≤ r ∧ r ≤ 4 ∧
      (r = 1 ∨ (0 ≤ m.r4 ∧ isBlank (line.drop m.r4.toNat) = false ∧
                 r = (indentWidthI (line.drop m.r4.toNat) (lo + m.r4)).1)) := by
  obtain ⟨r, h1, h2, h3, h4, _⟩ := calcListOffset_total line m lo
    (by rcases ok.tail with ⟨a, _⟩ | ⟨a, b, c, d, _⟩ <;> omega)
  exact ⟨r, h1, h2, h3, h4⟩

/-- no newline strictly inside a line -/
theorem no_nl_before_lineEnd (src : Bytes) : ∀ (n p : Nat), p + n + 1 < lineEnd src p → src[p + n]? ≠ some 10 := by
  intro n
  induction n with
  | zero =>
    intro p h hb
    simp only [Nat.add_zero] at h hb
    rw [lineEnd_nl src hb] at h; omega
  | succ n ih =>
    intro p h
    have hle := lineEnd_le src p
    have hb : src[p]? ≠ some 10 := by
      intro hb; rw [lineEnd_nl src hb] at h; omega
    rw [lineEnd_succ src (by omega) hb] at h
    have := ih (p + 1) (by omega)
    have e : p + 1 + n = p + (n + 1) := by omega
    rw [e] at this; exact this

/-- a line view has a newline at most as its last byte -/
theorem view_no_nl (src : Bytes) (c : RCur) (i : Nat) (hi : i + 1 < ((RCur.view src c).getD []).length) :
    ((RCur.view src c).getD [])[i]? ≠ some 10 := by
  by_cases hp : c.p < src.length
  · have hlen := view_getD_length_nat src c hp
    rw [hlen] at hi
    rw [view_eq src c hp]
    simp only [Option.getD_some]
    by_cases h1 : i < c.pad
    · rw [spaces_getElem c.pad _ i h1]; intro hh; cases hh
    · have hle := lineEnd_le src c.p
      rw [List.getElem?_append_right (by simp [spaces]; omega)]
      simp only [spaces, List.length_replicate, sub]
      rw [List.getElem?_take_of_lt (by omega), List.getElem?_drop]
      exact no_nl_before_lineEnd src (i - c.pad) c.p (by omega)
  · rw [view_none src c hp] at hi; simp at hi

/-- over a line with a newline at most at its end (a line view), `calcListOffset` of a recognised item is between 1 and 4 -/
theorem ListMatchOK.calcOffset_pos {line m typ} (ok : ListMatchOK line m typ) (lo : Int)
    (hnl : ∀ i : Nat, i + 1 < line.length → line[i]? ≠ some 10) :
    ∃ r, calcListOffset line m lo = .ok r ∧ 1 ≤ r ∧ r ≤ 4 := by
  obtain ⟨r, h1, h2, h3, h4, h5, _⟩ := calcListOffset_total line m lo
    (by rcases ok.tail with ⟨a, _⟩ | ⟨a, b, c, d, _⟩ <;> omega)
  refine ⟨r, h1, ?_, h3⟩
  rcases ok.tail with ⟨a, _⟩ | ⟨a, b, c, d, e, bb, hbb, hcase⟩
  · rcases h4 with h4 | h4 <;> omega
  · rcases hcase with h10 | h32 | h9
    · rcases h4 with h4 | ⟨_, h4, _⟩
      · omega
      · exfalso
        have hlast : ¬ (m.r4.toNat + 1 < line.length) := fun hh => hnl _ hh (by rw [hbb, h10])
        have hlt : m.r4.toNat < line.length := by omega
        rw [List.drop_eq_getElem_cons hlt, List.drop_eq_nil_of_le (by omega)] at h4
        have : line[m.r4.toNat] = 10 := by
          rw [List.getElem?_eq_getElem hlt] at hbb; cases hbb; exact h10
        rw [this] at h4
        simp [isBlank, isSpace] at h4
    · exact h5 (fun b hb => by rw [hbb] at hb; cases hb; exact .inl h32)
    · exact h5 (fun b hb => by rw [hbb] at hb; cases hb; exact .inr h9)

/-! ### the tree surgery of listParser.Close: a frame calculus

`Fr src s s'`: reader and context untouched; the store only grew; every old node keeps `kind`, `lines`, `linesNil`
(the tree operations only touch `children` / `parent` / `tight`); and the store invariant is carried along. -/

structure Fr (src : Bytes) (s s' : St) : Prop where
  r : s'.r = s.r
  pc : s'.pc = s.pc
  len : s.nodes.length ≤ s'.nodes.length
  keep : ∀ i, i < s.nodes.length →
    (nd s' i).kind = (nd s i).kind ∧ (nd s' i).lines = (nd s i).lines ∧ (nd s' i).linesNil = (nd s i).linesNil
  ok : NodesOK src s → NodesOK src s'

theorem Fr.refl (src : Bytes) (s : St) : Fr src s s :=
  ⟨rfl, rfl, Nat.le_refl _, fun _ _ => ⟨rfl, rfl, rfl⟩, fun h => h⟩

theorem Fr.trans {src : Bytes} {s1 s2 s3 : St} (h1 : Fr src s1 s2) (h2 : Fr src s2 s3) : Fr src s1 s3 where
  r := by rw [h2.r, h1.r]
  pc := by rw [h2.pc, h1.pc]
  len := Nat.le_trans h1.len h2.len
  keep := fun i hi => by
    obtain ⟨a1, a2, a3⟩ := h1.keep i hi
    obtain ⟨b1, b2, b3⟩ := h2.keep i (Nat.lt_of_lt_of_le hi h1.len)
    exact ⟨by rw [b1, a1], by rw [b2, a2], by rw [b3, a3]⟩
  ok := fun h => h2.ok (h1.ok h)

theorem Fr.ext {src : Bytes} {s s' : St} (h : Fr src s s') : Ext s s' where
  len := h.len
  kind := fun i hi => (h.keep i hi).1
  linesNE := fun i hi _ hl => by rw [(h.keep i hi).2.1]; exact hl

theorem nodeOK_of_eq {src : Bytes} {n n' : Node} (h : NodeOK src n) (h1 : n'.lines = n.lines)
    (h2 : n'.linesNil = n.linesNil) : NodeOK src n' :=
  ⟨by rw [h1]; exact h.lines, fun hh => by rw [h1]; exact h.nil (by rw [← h2]; exact hh)⟩

theorem Fr.bind {α β} {src : Bytes} {m : M α} {f : α → M β} {s : St} {P : α → St → Prop}
    (hm : OKL (fun a s1 => Fr src s s1 ∧ P a s1) (m s))
    (hf : ∀ a s1, Fr src s s1 → P a s1 → OKL (fun _ s2 => Fr src s1 s2) (f a s1)) :
    OKL (fun _ s2 => Fr src s s2) ((m >>= f) s) :=
  OKL.bind hm (fun a s1 h => (hf a s1 h.1 h.2).mono (fun _ _ h2 => h.1.trans h2))

theorem Fr.seq {α β} {src : Bytes} {m : M α} {f : α → M β} {s : St}
    (hm : OKL (fun _ s1 => Fr src s s1) (m s))
    (hf : ∀ a s1, OKL (fun _ s2 => Fr src s1 s2) (f a s1)) :
    OKL (fun _ s2 => Fr src s s2) ((m >>= f) s) :=
  OKL.bind hm (fun a s1 h => (hf a s1).mono (fun _ _ h2 => h.trans h2))

theorem getNode_okl (id : Nat) (s : St) : OKL (fun a s' => a = nd s id ∧ s' = s) (getNode id s) :=
  OKL.ok ⟨rfl, rfl⟩

theorem Fr.getNode {β} {src : Bytes} (id : Nat) {f : Node → M β} {s : St}
    (hf : OKL (fun _ s2 => Fr src s s2) (f (nd s id) s)) :
    OKL (fun _ s2 => Fr src s s2) ((getNode id >>= f) s) :=
  OKL.bind (getNode_okl id s) (fun a s1 h => by obtain ⟨h1, h2⟩ := h; subst h1 h2; exact hf)

theorem modNode_fr (src : Bytes) (i : Nat) (f : Node → Node)
    (hf : ∀ n, (f n).kind = n.kind ∧ (f n).lines = n.lines ∧ (f n).linesNil = n.linesNil) (s : St) :
    OKL (fun _ s' => Fr src s s') (modNode i f s) := by
  unfold modNode
  refine OKL.ok ?_
  by_cases hi : i < s.nodes.length
  · exact {
      r := rfl
      pc := rfl
      len := by simp
      keep := fun j _ => by
        simp only [nd, nd_set _ _ _ _ hi]
        split
        · rename_i e; subst e; exact hf _
        · exact ⟨rfl, rfl, rfl⟩
      ok := fun h n hn => by
        rcases List.mem_or_eq_of_mem_set hn with h1 | h1
        · exact h n h1
        · subst h1
          exact nodeOK_of_eq (nodeOK_nd h i) (hf _).2.1 (hf _).2.2 }
  · have e : s.nodes.set i (f (s.nodes.getD i default)) = s.nodes := List.set_eq_of_length_le (by omega)
    rw [e]
    exact Fr.refl src s

/-- `modNode` with an update that is syntactically a change of `children` / `parent` / `tight` -/
macro "mod_fr" : term => `(by apply modNode_fr; intro _; exact ⟨rfl, rfl, rfl⟩)

/-- a new node whose lines are those of a node of the store -/
theorem newNode_fr (src : Bytes) (n : Node) (s : St) (hn : NodesOK src s → NodeOK src n) :
    OKL (fun id s' => Fr src s s' ∧ id = s.nodes.length) (newNode n s) := by
  unfold newNode
  refine OKL.ok ⟨?_, rfl⟩
  exact {
    r := rfl
    pc := rfl
    len := by simp
    keep := fun j hj => by
      refine ⟨?_, ?_, ?_⟩ <;> simp [nd, List.getD_eq_getElem?_getD, List.getElem?_append_left hj]
    ok := fun h x hx => by
      simp only [List.mem_append, List.mem_singleton] at hx
      rcases hx with hx | hx
      · exact h x hx
      · subst hx; exact hn h }

theorem removeChild_fr (src : Bytes) (p c : Nat) (s : St) : OKL (fun _ s' => Fr src s s') (removeChild p c s) := by
  unfold removeChild
  refine Fr.getNode c ?_
  split
  · exact OKL.ok (Fr.refl src s)
  · exact Fr.seq (mod_fr) (fun _ s1 => mod_fr)

theorem ensureIsolated_fr (src : Bytes) (c : Nat) (s : St) : OKL (fun _ s' => Fr src s s') (ensureIsolated c s) := by
  unfold ensureIsolated
  refine Fr.getNode c ?_
  generalize (nd s c).parent = q
  cases q with
  | some q => exact removeChild_fr src q c s
  | none => exact OKL.ok (Fr.refl src s)

theorem appendChild_fr (src : Bytes) (p c : Nat) (s : St) : OKL (fun _ s' => Fr src s s') (appendChild p c s) := by
  unfold appendChild
  exact Fr.seq (ensureIsolated_fr src c s) (fun _ s1 =>
    Fr.seq (mod_fr) (fun _ s2 => mod_fr))

theorem insertBefore_fr (src : Bytes) (p : Nat) (v1 : Option Nat) (ins : Nat) (s : St) :
    OKL (fun _ s' => Fr src s s') (insertBefore p v1 ins s) := by
  unfold insertBefore
  cases v1 with
  | none => exact appendChild_fr src p ins s
  | some v =>
    simp only
    refine Fr.getNode v ?_
    split
    · exact appendChild_fr src p ins s
    · exact Fr.seq (ensureIsolated_fr src ins s) (fun _ s1 =>
        Fr.seq (mod_fr) (fun _ s2 =>
          mod_fr))

theorem replaceChild_fr (src : Bytes) (p v1 ins : Nat) (s : St) :
    OKL (fun _ s' => Fr src s s') (replaceChild p v1 ins s) := by
  unfold replaceChild
  exact Fr.seq (insertBefore_fr src p (some v1) ins s) (fun _ s1 => removeChild_fr src p v1 s1)

theorem tightenItem_fr (src : Bytes) (child : Nat) : ∀ (gcs : List Nat) (s : St),
    OKL (fun _ s' => Fr src s s') (tightenItem child gcs s) := by
  intro gcs
  induction gcs with
  | nil => intro s; exact OKL.ok (Fr.refl src s)
  | cons gc gcs ih =>
    intro s
    unfold tightenItem
    refine Fr.getNode gc ?_
    simp only
    split
    · refine Fr.bind (P := fun _ _ => True)
        ((newNode_fr src { kind := .textBlock, lines := (nd s gc).lines, linesNil := (nd s gc).linesNil } s
          (fun h => nodeOK_of_eq (nodeOK_nd h gc) rfl rfl)).mono (fun _ _ h => ⟨h.1, trivial⟩)) (fun tb s1 _ _ => ?_)
      exact Fr.seq (replaceChild_fr src child gc tb s1) (fun _ s2 => ih s2)
    · exact ih s

theorem tightenItems_fr (src : Bytes) : ∀ (cs : List Nat) (s : St),
    OKL (fun _ s' => Fr src s s') (tightenItems cs s) := by
  intro cs
  induction cs with
  | nil => intro s; exact OKL.ok (Fr.refl src s)
  | cons child rest ih =>
    intro s
    unfold tightenItems
    refine Fr.getNode child ?_
    exact Fr.seq (tightenItem_fr src child _ s) (fun _ s1 => ih s1)

/-- listParser.Close never panics, from any state -/
theorem listClose_fr (src : Bytes) (node : Nat) (s : St) : OKL (fun _ s' => Fr src s s') (listClose node s) := by
  unfold listClose
  refine Fr.getNode node ?_
  refine Fr.bind (m := get) (P := fun a s1 => s1 = s) (OKL.ok ⟨Fr.refl src s, rfl⟩) (fun a s1 _ h1 => ?_)
  subst h1
  simp only
  refine Fr.seq (mod_fr) (fun _ s2 => ?_)
  split
  · exact tightenItems_fr src _ s2
  · exact OKL.ok (Fr.refl src s2)

theorem W.listClose_spec (src : Bytes) : W.CloseSpecW src .list := by
  intro node s _ hnodes _ _
  show OKL _ (listClose node s)
  refine (listClose_fr src node s).mono (fun _ s' h => ?_)
  exact { r := h.r, opened := by rw [h.pc], ext := h.ext, nodes := h.ok hnodes,
          tmp := .inl (by rw [h.pc]), fence := .inl (by rw [h.pc]), para := fun hh => (by cases hh) }

theorem listClose_spec (src : Bytes) : CloseSpec src .list := (W.listClose_spec src).toSpec

/-! ### listParser.Open

`listOpen` is cut into the pieces its join points delimit (`listOpen_eq` is `rfl`): the decision on the last opened
block (`listOpenRest`), the decision on the line (`listOpenLine`), and the tail that builds the node (`listOpenFinish`). -/

def listOpenFinish (parent : Nat) (lastNode : Option Node) (line : Bytes) (m : M6) (typ : ListTyp) (start : Int) :
    M (Option Nat × PState) := do
  let lastIsParaOfParent := match lastNode with
    | some n => n.kind == Kind.paragraph && n.parent == some parent
    | none => false
  if lastIsParaOfParent then
    if typ == ListTyp.ordered && start != 1 then return (none, stNoChildren)
    if m.r4 < 0 then return (none, stNoChildren)
    if isBlank (← liftE (slice line m.r4 m.r5)) then return (none, stNoChildren)
  let marker ← liftE (idx line (m.r3 - 1))
  let node ← newNode { kind := .list, marker := marker, start := if start > -1 then start else 0 }
  modPc fun pc => { pc with emptyItemBlank := false }
  return (some node, stHasChildren)

def listOpenLine (parent : Nat) (lastNode : Option Node) (line : Bytes) : M (Option Nat × PState) := do
  let (m, typ) := matchesListItem line true
  if typ == .notList then return (none, stNoChildren)
  let mut start : Int := -1
  if typ == .ordered then
    let number ← liftE (slice line m.r2 (m.r3 - 1))
    start := atoiDigits number
  listOpenFinish parent lastNode line m typ start

def listOpenRest (parent : Nat) (lastNode : Option Node) : M (Option Nat × PState) := do
  let lok := match lastNode with | some n => n.kind == .list | none => false
  if lok || (← getPc).skipList then
    modPc fun pc => { pc with skipList := false }
    return (none, stNoChildren)
  let (line, _) ← peekLine
  let line := line.getD []
  listOpenLine parent lastNode line

theorem listOpen_eq (parent : Nat) : listOpen parent = (do
    let last ← lastOpenedBlock
    let lastNode : Option Node ← match last with
      | some lb => do pure (some (← getNode lb.node))
      | none => pure none
    listOpenRest parent lastNode) := rfl

def ListOpened (s : St) (a : Option Nat × PState) (s' : St) : Prop :=
  (a = (none, stNoChildren) ∧ s' = s) ∨
  (∃ n : Node, a = (some s.nodes.length, stHasChildren) ∧
    s' = { s with nodes := s.nodes ++ [n], pc := { s.pc with emptyItemBlank := false } } ∧
    n.kind = .list ∧ n.children = [] ∧ n.lines = [] ∧ n.linesNil = true ∧ n.parent = none)

theorem listOpenFinish_okl (parent : Nat) (lastNode : Option Node) (line : Bytes) (m : M6) (typ : ListTyp) (start : Int)
    (ok : ListMatchOK line m typ) (s : St) :
    OKL (ListOpened s) (listOpenFinish parent lastNode line m typ start s) := by
  unfold listOpenFinish
  obtain ⟨b, hb, _⟩ := ok.idx_marker
  have fin : OKL (ListOpened s) ((do
      let marker ← liftE (idx line (m.r3 - 1))
      let node ← newNode { kind := .list, marker := marker, start := if start > -1 then start else 0 }
      modPc fun pc => { pc with emptyItemBlank := false }
      return (some node, stHasChildren) : M (Option Nat × PState)) s) := by
    simp only [bind, StateT.bind, liftE, hb, Except.map, Except.bind, pure, StateT.pure, Except.pure, newNode, modPc]
    exact OKL.ok (.inr ⟨_, rfl, rfl, rfl, rfl, rfl, rfl, rfl⟩)
  have no : OKL (ListOpened s) (.ok ((none, stNoChildren), s)) := OKL.ok (.inl ⟨rfl, rfl⟩)
  simp only
  generalize (match lastNode with
    | some n => n.kind == Kind.paragraph && n.parent == some parent
    | none => false) = lp
  cases lp with
  | false => simp only [Bool.false_eq_true, if_false]; exact fin
  | true =>
    simp only [if_true]
    by_cases h1 : (typ == ListTyp.ordered && start != 1) = true
    · rw [if_pos h1]; exact no
    · rw [if_neg h1]
      by_cases h4 : m.r4 < 0
      · rw [if_pos h4]; exact no
      · rw [if_neg h4]
        obtain ⟨v, hv⟩ := ok.slice_tail h4
        simp only [bind, StateT.bind, liftE, hv, Except.map, Except.bind]
        by_cases h5 : isBlank v = true
        · rw [if_pos h5]; exact no
        · rw [if_neg h5]; exact fin

theorem listOpenLine_okl (parent : Nat) (lastNode : Option Node) (line : Bytes) (s : St) :
    OKL (fun a s' => ListOpened s a s' ∧
        (a.1.isSome = true → ∃ m typ, matchesListItem line true = (m, typ) ∧ typ ≠ .notList))
      (listOpenLine parent lastNode line s) := by
  unfold listOpenLine
  generalize hm : matchesListItem line true = x
  obtain ⟨m, typ⟩ := x
  simp only
  by_cases h1 : (typ == ListTyp.notList) = true
  · rw [if_pos h1]; exact OKL.ok ⟨.inl ⟨rfl, rfl⟩, fun hh => (by cases hh)⟩
  · rw [if_neg h1]
    have ht : typ ≠ .notList := by simpa using h1
    have ok := matchesListItem_ok line true m typ hm ht
    have fin : ∀ start, OKL (fun a s' => ListOpened s a s' ∧
        (a.1.isSome = true → ∃ m' typ', (m, typ) = (m', typ') ∧ typ' ≠ .notList))
        (listOpenFinish parent lastNode line m typ start s) :=
      fun start => (listOpenFinish_okl parent lastNode line m typ start ok s).mono
        (fun a s' h => ⟨h, fun _ => ⟨m, typ, rfl, ht⟩⟩)
    by_cases h2 : (typ == ListTyp.ordered) = true
    · rw [if_pos h2]
      obtain ⟨v, hv⟩ := ok.slice_number
      simp only [bind, StateT.bind, liftE, hv, Except.map, Except.bind]
      exact fin _
    · rw [if_neg h2]; exact fin _

theorem listOpenRest_okl (src : Bytes) (parent : Nat) (lastNode : Option Node) (s : St) (c : RCur) (h : RI src s.r c) :
    OKL (fun a s' => ∃ r', s'.r = r' ∧ RI src r' c ∧
        ((a = (none, stNoChildren) ∧ s'.nodes = s.nodes ∧
            ((s'.pc = s.pc ∧ s.pc.skipList = false) ∨ s'.pc = { s.pc with skipList := false })) ∨
         (∃ n : Node, a = (some s.nodes.length, stHasChildren) ∧ s'.nodes = s.nodes ++ [n] ∧
            s'.pc = { s.pc with emptyItemBlank := false } ∧
            n.kind = .list ∧ n.children = [] ∧ n.lines = [] ∧ n.linesNil = true ∧ n.parent = none ∧
            (match lastNode with | some n => n.kind == .list | none => false) = false ∧ s.pc.skipList = false ∧
            ∃ m typ, matchesListItem ((RCur.view src c).getD []) true = (m, typ) ∧ typ ≠ .notList)))
      (listOpenRest parent lastNode s) := by
  unfold listOpenRest
  simp only
  generalize hlok : (match lastNode with | some n => n.kind == Kind.list | none => false) = lok
  refine OKL.bind (m := getPc) (P := fun v s' => v = s.pc ∧ s' = s) (OKL.ok ⟨rfl, rfl⟩) (fun pc s1 hv => ?_)
  obtain ⟨hv, hs1⟩ := hv
  subst hv hs1
  by_cases h1 : (lok || s1.pc.skipList) = true
  · rw [if_pos h1]
    simp only [bind, StateT.bind, modPc, pure, StateT.pure, Except.bind, Except.pure]
    exact OKL.ok ⟨_, rfl, h, .inl ⟨rfl, rfl, .inr rfl⟩⟩
  · rw [if_neg h1]
    have hl : lok = false ∧ s1.pc.skipList = false := by
      cases lok <;> cases hsk : s1.pc.skipList <;> simp [hsk] at h1 ⊢
    refine OKL.bind (peekLine_okl h) (fun x s2 hx => ?_)
    obtain ⟨hx, r1, hs2, h1'⟩ := hx
    subst hx hs2
    simp only
    refine (listOpenLine_okl parent lastNode ((RCur.view src c).getD []) { s1 with r := r1 }).mono (fun a s' hp => ?_)
    obtain ⟨hp, hm⟩ := hp
    rcases hp with ⟨ha, hs'⟩ | ⟨n, ha, hs', k1, k2, k3, k4, k5⟩
    · subst hs'; exact ⟨_, rfl, h1', .inl ⟨ha, rfl, .inl ⟨rfl, hl.2⟩⟩⟩
    · subst hs'
      exact ⟨_, rfl, h1', .inr ⟨n, ha, rfl, rfl, k1, k2, k3, k4, k5, hl.1, hl.2, hm (by rw [ha]; rfl)⟩⟩

/-- listParser.Open: total on an `RI` reader. The cursor stays where it is (a list consumes nothing: this is why
    `listOpen` does not meet the progress clause of `OpenPost.ri`); of the context only `skipListParserKey` and
    `emptyListItemWithBlankLines` may change; a new List node is the next node of the store, and then the line is
    a list item (so listItemParser.Open, which the driver tries next on the same line, finds one). -/
theorem listOpen_okl_ri (src : Bytes) (parent : Nat) (s : St) (c : RCur) (h : RI src s.r c) :
    OKL (fun a s' => ∃ r', s'.r = r' ∧ RI src r' c ∧
        s'.pc.opened = s.pc.opened ∧ s'.pc.blockOffset = s.pc.blockOffset ∧ s'.pc.blockIndent = s.pc.blockIndent ∧
        s'.pc.tmpPara = s.pc.tmpPara ∧ s'.pc.fence = s.pc.fence ∧ s'.pc.skipList = false ∧
        (a.1 = none → s'.nodes = s.nodes ∧ a.2 = stNoChildren ∧ s'.pc.emptyItemBlank = s.pc.emptyItemBlank) ∧
        (∀ id, a.1 = some id → id = s.nodes.length ∧ a.2 = stHasChildren ∧
            s'.pc.emptyItemBlank = false ∧ s.pc.skipList = false ∧
            (∃ n, s'.nodes = s.nodes ++ [n] ∧ n.kind = .list ∧ n.children = [] ∧ n.lines = [] ∧ n.linesNil = true ∧
              n.parent = none ∧ NodeOK src n) ∧
            (∃ m typ, matchesListItem ((RCur.view src c).getD []) true = (m, typ) ∧
              matchesListItem ((RCur.view src c).getD []) false = (m, typ) ∧ typ ≠ .notList ∧
              ListMatchOK ((RCur.view src c).getD []) m typ) ∧
            ¬ (match s.pc.opened.getLast? with | some lb => (nd s lb.node).kind = .list | none => False)))
      (listOpen parent s) := by
  rw [listOpen_eq]
  refine OKL.bind (m := lastOpenedBlock) (P := fun v s' => v = s.pc.opened.getLast? ∧ s' = s) (OKL.ok ⟨rfl, rfl⟩)
    (fun last s1 hv => ?_)
  obtain ⟨hv, hs1⟩ := hv
  subst hs1
  suffices tail : ∀ lastNode, lastNode = last.map (fun lb => nd s1 lb.node) → OKL _ (listOpenRest parent lastNode s1) by
    cases last with
    | none => exact tail none rfl
    | some lb => exact tail (some (nd s1 lb.node)) rfl
  intro lastNode hv2
  refine (listOpenRest_okl src parent lastNode s1 c h).mono (fun a s' hp => ?_)
  obtain ⟨r', hr', hri, hp⟩ := hp
  refine ⟨r', hr', hri, ?_⟩
  rcases hp with ⟨ha, hn, hpc⟩ | ⟨n, ha, hn, hpc, k1, k2, k3, k4, k5, hlok, hskip, m, typ, hm, ht⟩
  · have hpc' : s'.pc = s1.pc ∨ s'.pc = { s1.pc with skipList := false } := by
      rcases hpc with ⟨e, _⟩ | e
      · exact .inl e
      · exact .inr e
    have hsk : s'.pc.skipList = false := by
      rcases hpc with ⟨e, e2⟩ | e
      · rw [e]; exact e2
      · rw [e]
    rw [ha]
    refine ⟨?_, ?_, ?_, ?_, ?_, hsk, fun _ => ⟨hn, rfl, ?_⟩, fun id hid => (by cases hid)⟩ <;>
      rcases hpc' with e | e <;> rw [e]
  · rw [ha, hpc]
    refine ⟨rfl, rfl, rfl, rfl, rfl, hskip, fun hh => (by cases hh), fun id hid => ?_⟩
    cases hid
    have ok := matchesListItem_ok _ true m typ hm ht
    refine ⟨rfl, rfl, rfl, hskip, ⟨n, hn, k1, k2, k3, k4, k5, ⟨(by rw [k3]; intro _ hh; cases hh), fun _ => k3⟩⟩,
      ⟨m, typ, hm, matchesListItem_strict_irrel _ true false m typ hm ht, ht, ok⟩, ?_⟩
    rw [← hv]
    cases last with
    | none => exact fun hh => hh
    | some lb =>
      simp only [hv2, Option.map_some] at hlok
      simp only
      intro hk; rw [hk] at hlok; simp at hlok

theorem listOpen_okl (src : Bytes) (parent : Nat) (s : St) (c : RCur) (h : LineCtx src s c) :
    OKL (fun a s' => ∃ r', s'.r = r' ∧ RI src r' c ∧
        s'.pc.opened = s.pc.opened ∧ s'.pc.blockOffset = s.pc.blockOffset ∧ s'.pc.blockIndent = s.pc.blockIndent ∧
        s'.pc.tmpPara = s.pc.tmpPara ∧ s'.pc.fence = s.pc.fence ∧ s'.pc.skipList = false ∧
        (a.1 = none → s'.nodes = s.nodes ∧ a.2 = stNoChildren ∧ s'.pc.emptyItemBlank = s.pc.emptyItemBlank) ∧
        (∀ id, a.1 = some id → id = s.nodes.length ∧ a.2 = stHasChildren ∧
            s'.pc.emptyItemBlank = false ∧ s.pc.skipList = false ∧
            (∃ n, s'.nodes = s.nodes ++ [n] ∧ n.kind = .list ∧ n.children = [] ∧ n.lines = [] ∧ n.linesNil = true ∧
              n.parent = none ∧ NodeOK src n) ∧
            (∃ m typ, matchesListItem ((RCur.view src c).getD []) true = (m, typ) ∧
              matchesListItem ((RCur.view src c).getD []) false = (m, typ) ∧ typ ≠ .notList ∧
              ListMatchOK ((RCur.view src c).getD []) m typ) ∧
            ¬ (match s.pc.opened.getLast? with | some lb => (nd s lb.node).kind = .list | none => False)))
      (listOpen parent s) :=
  listOpen_okl_ri src parent s c h.ri

/-! ### listParser.Continue

Again cut along the join points (`listContinue_eq` is `rfl`): `listContLine` (list.go:181-245 once `offset`, `lastIsEmpty`,
`indent` are known), `listContNewItem` (the line starts with a marker), `listContSetext`, `listContTail`. -/

/-- list.go:196-204: a thematic break that is not a setext heading underline ends the list -/
def listContSetext (tail : Bytes) (lastIsPara : Bool) : M PState := do
  let mut isHeading := false
  if lastIsPara then
    let (c, ok) ← liftE (matchesSetextHeadingBar tail)
    if ok && c == 45 then isHeading := true
  if !isHeading then return stClose
  return stContinueHasChildren

/-- list.go:187-207: the line starts with a list marker -/
def listContNewItem (list : Node) (line : Bytes) (m : M6) (typ : ListTyp) : M PState := do
  let marker ← liftE (idx line (m.r3 - 1))
  if !(marker == list.marker && (typ == .ordered) == markerOrdered list.marker) then return stClose
  let tail ← liftE (sliceFrom line (m.r3 - 1))
  if isThematicBreak tail 0 then
    let lastIsPara ← match ← lastOpenedBlock with
      | some lb => do pure ((← getNode lb.node).kind == .paragraph)
      | none => pure false
    listContSetext tail lastIsPara
  else
    return stContinueHasChildren

/-- list.go:237-244 -/
def listContTail (offset : Int) (lastIsEmpty : Bool) (indent : Int) : M PState :=
  if (lastIsEmpty && decide (indent < offset)) = true then pure stClose
  else do
    if (← getPc).emptyItemBlank then return stClose
    return stContinueHasChildren

/-- list.go:181-245 once `offset`, `lastIsEmpty`, `indent` are known -/
def listContLine (list : Node) (line : Bytes) (offset : Int) (lastIsEmpty : Bool) (indent : Int) : M PState :=
  if (decide (indent < offset) || lastIsEmpty) = true then
    let jp2 : Unit → M PState := fun _ =>
      if (!lastIsEmpty) = true then pure stClose else listContTail offset lastIsEmpty indent
    if indent < 4 then
      match matchesListItem line false with
      | (m, typ) =>
        if (typ != ListTyp.notList && decide (m.r1 - offset < 4)) = true then listContNewItem list line m typ
        else jp2 ()
    else jp2 ()
  else listContTail offset lastIsEmpty indent

theorem listContinue_eq (node : Nat) : listContinue node = (do
    let list ← getNode node
    let (line, _) ← peekLine
    let line := line.getD []
    if isBlank line then
      if (← lastChildCount node) == 0 then
        modPc fun pc => { pc with emptyItemBlank := true }
      return stContinueHasChildren
    let offset ← lastOffset node
    let lastIsEmpty := (← lastChildCount node) == 0
    let (indent, _) := indentWidthI line (← lineOffset)
    listContLine list line offset lastIsEmpty indent) := rfl

/-- List.CanContinue (ast/block.go) on the marker byte of the line -/
def MarkerFits (list : Node) (line : Bytes) (m : M6) (typ : ListTyp) : Prop :=
  line[(m.r3 - 1).toNat]? = some list.marker ∧ (typ == .ordered) = markerOrdered list.marker

theorem listContSetext_okl (tail : Bytes) (lastIsPara : Bool) (hne : tail ≠ []) (s : St) :
    OKL (fun st s' => s' = s ∧ (st = stClose ∨ st = stContinueHasChildren)) (listContSetext tail lastIsPara s) := by
  unfold listContSetext
  obtain ⟨⟨c, okb⟩, hr⟩ := matchesSetextHeadingBar_total tail hne
  cases lastIsPara with
  | false => exact OKL.ok ⟨rfl, .inl rfl⟩
  | true =>
    simp only [if_true, bind, StateT.bind, liftE, hr, Except.map, Except.bind]
    by_cases h : (okb && c == 45) = true
    · rw [if_pos h]; exact OKL.ok ⟨rfl, .inr rfl⟩
    · rw [if_neg h]; exact OKL.ok ⟨rfl, .inl rfl⟩

theorem listContNewItem_okl (list : Node) (line : Bytes) (m : M6) (typ : ListTyp) (ok : ListMatchOK line m typ) (s : St) :
    OKL (fun st s' => s' = s ∧ (st = stClose ∨ (st = stContinueHasChildren ∧ MarkerFits list line m typ)))
      (listContNewItem list line m typ s) := by
  unfold listContNewItem
  obtain ⟨b, hb, hb', _⟩ := ok.idx_marker
  obtain ⟨hsf, hne⟩ := ok.sliceFrom_marker
  refine OKL.bind (liftE_okl (P := fun a s' => a = b ∧ s' = s) hb ⟨rfl, rfl⟩) (fun a s1 ha => ?_)
  obtain ⟨ha, hs1⟩ := ha
  subst ha hs1
  by_cases h1 : (!(a == list.marker && (typ == ListTyp.ordered) == markerOrdered list.marker)) = true
  · rw [if_pos h1]; exact OKL.ok ⟨rfl, .inl rfl⟩
  · rw [if_neg h1]
    have hfit : MarkerFits list line m typ := by
      simp only [Bool.not_eq_true', Bool.not_eq_false] at h1
      simp only [Bool.and_eq_true, beq_iff_eq] at h1
      exact ⟨by rw [hb', h1.1], h1.2⟩
    refine OKL.bind (liftE_okl (P := fun a s' => a = line.drop (m.r3 - 1).toNat ∧ s' = s1) hsf ⟨rfl, rfl⟩)
      (fun tail s2 ht => ?_)
    obtain ⟨ht, hs2⟩ := ht
    subst ht hs2
    by_cases h2 : isThematicBreak (List.drop (m.r3 - 1).toNat line) 0 = true
    · rw [if_pos h2]
      refine OKL.bind (m := lastOpenedBlock) (P := fun v s' => s' = s2) (OKL.ok rfl) (fun last s3 hs3 => ?_)
      subst hs3
      suffices tl : ∀ lp, OKL (fun st s' => s' = s3 ∧ (st = stClose ∨ (st = stContinueHasChildren ∧ MarkerFits list line m typ)))
          (listContSetext (List.drop (m.r3 - 1).toNat line) lp s3) by
        cases last with
        | none => exact tl false
        | some lb => exact tl ((nd s3 lb.node).kind == .paragraph)
      intro lp
      refine (listContSetext_okl _ lp hne s3).mono (fun st s' h => ?_)
      obtain ⟨h, h'⟩ := h
      rcases h' with h' | h'
      · exact ⟨h, .inl h'⟩
      · exact ⟨h, .inr ⟨h', hfit⟩⟩
    · rw [if_neg h2]; exact OKL.ok ⟨rfl, .inr ⟨rfl, hfit⟩⟩

/-- the line is a list item that listItemParser.Open accepts below an item of offset `offset` -/
def LineIsItem (line : Bytes) (offset : Int) : Prop :=
  ∃ m typ, matchesListItem line false = (m, typ) ∧ typ ≠ .notList ∧ m.r1 - offset < 4

/-- … and its marker continues the list -/
def LineIsNextItem (list : Node) (line : Bytes) (offset : Int) : Prop :=
  ∃ m typ, matchesListItem line false = (m, typ) ∧ typ ≠ .notList ∧ m.r1 - offset < 4 ∧ MarkerFits list line m typ

/-- the answer of listParser.Continue on a non-blank line, from `offset`, `lastIsEmpty`, `indent` and the context key
    `emptyListItemWithBlankLines` (`eib`): it goes on either because the line starts the next item, or because the line
    is indented to the last item's offset (and then no blank line followed an empty item, and, when the last item is
    empty, the line is not a list item indented less than 4) -/
def ListGoesOn (list : Node) (line : Bytes) (offset : Int) (lastIsEmpty : Bool) (indent : Int) (eib : Bool)
    (st : PState) : Prop :=
  (st = stClose ∨ st = stContinueHasChildren) ∧
  (st.cont = true →
    (indent < 4 ∧ (indent < offset ∨ lastIsEmpty = true) ∧ LineIsNextItem list line offset) ∨
    (offset ≤ indent ∧ eib = false ∧ (lastIsEmpty = true → ¬ (indent < 4 ∧ LineIsItem line offset))))

theorem listContTail_okl (list : Node) (line : Bytes) (offset : Int) (lastIsEmpty : Bool) (indent : Int) (s : St)
    (h : ¬ (indent < offset ∨ lastIsEmpty = true) ∨ (lastIsEmpty = true ∧ ¬ (indent < 4 ∧ LineIsItem line offset))) :
    OKL (fun st s' => s' = s ∧ ListGoesOn list line offset lastIsEmpty indent s.pc.emptyItemBlank st)
      (listContTail offset lastIsEmpty indent s) := by
  unfold listContTail
  by_cases h1 : (lastIsEmpty && decide (indent < offset)) = true
  · rw [if_pos h1]; exact OKL.ok ⟨rfl, .inl rfl, fun hh => (by cases hh)⟩
  · rw [if_neg h1]
    refine OKL.bind (m := getPc) (P := fun v s' => v = s.pc ∧ s' = s) (OKL.ok ⟨rfl, rfl⟩) (fun pc s1 hv => ?_)
    obtain ⟨hv, hs1⟩ := hv
    subst hv hs1
    by_cases h2 : s1.pc.emptyItemBlank = true
    · rw [if_pos h2]; exact OKL.ok ⟨rfl, .inl rfl, fun hh => (by cases hh)⟩
    · rw [if_neg h2]
      refine OKL.ok ⟨rfl, .inr rfl, fun _ => .inr ⟨?_, by simpa using h2, ?_⟩⟩
      · rcases h with h | h
        · omega
        · simp only [h.1, Bool.true_and, decide_eq_true_eq] at h1; omega
      · intro hl
        rcases h with h | h
        · exact absurd (.inr hl) h
        · exact h.2

theorem listContLine_okl (list : Node) (line : Bytes) (offset : Int) (lastIsEmpty : Bool) (indent : Int) (s : St) :
    OKL (fun st s' => s' = s ∧ ListGoesOn list line offset lastIsEmpty indent s.pc.emptyItemBlank st)
      (listContLine list line offset lastIsEmpty indent s) := by
  unfold listContLine
  by_cases h1 : (decide (indent < offset) || lastIsEmpty) = true
  · rw [if_pos h1]
    have h1' : indent < offset ∨ lastIsEmpty = true := by simpa using h1
    simp only
    have j2 : ¬ (indent < 4 ∧ LineIsItem line offset) →
        OKL (fun st s' => s' = s ∧ ListGoesOn list line offset lastIsEmpty indent s.pc.emptyItemBlank st)
          ((if (!lastIsEmpty) = true then pure stClose else listContTail offset lastIsEmpty indent) s) := by
      intro hni
      by_cases h3 : (!lastIsEmpty) = true
      · rw [if_pos h3]; exact OKL.ok ⟨rfl, .inl rfl, fun hh => (by cases hh)⟩
      · rw [if_neg h3]
        exact listContTail_okl list line offset lastIsEmpty indent s (.inr ⟨by simpa using h3, hni⟩)
    by_cases h2 : indent < 4
    · rw [if_pos h2]
      generalize hm : matchesListItem line false = x
      obtain ⟨m, typ⟩ := x
      simp only
      by_cases h4 : (typ != ListTyp.notList && decide (m.r1 - offset < 4)) = true
      · rw [if_pos h4]
        have h4' : typ ≠ .notList ∧ m.r1 - offset < 4 := by simpa using h4
        have ok := matchesListItem_ok line false m typ hm h4'.1
        refine (listContNewItem_okl list line m typ ok s).mono (fun st s' h => ?_)
        obtain ⟨h, h'⟩ := h
        rcases h' with h' | ⟨h', hfit⟩
        · exact ⟨h, .inl h', fun hh => (by rw [h'] at hh; cases hh)⟩
        · exact ⟨h, .inr h', fun _ => .inl ⟨h2, h1', m, typ, hm, h4'.1, h4'.2, hfit⟩⟩
      · rw [if_neg h4]
        refine j2 (fun hh => ?_)
        obtain ⟨_, m', typ', e, k1, k2⟩ := hh
        rw [hm] at e; cases e
        apply h4; simp [k1, k2]
    · rw [if_neg h2]
      exact j2 (fun hh => h2 hh.1)
  · rw [if_neg h1]
    exact listContTail_okl list line offset lastIsEmpty indent s (.inl (by simpa using h1))

/-- what list_item.go relies on (list_item.go:75 must not see `IndentPosition = -1`): when the list goes on over a
    non-blank line, the line is indented at least as far as the last item's offset, or it is (indented less than 4)
    a list item — in which case listItemParser.Continue closes the item -/
theorem ListGoesOn.indent_or_item {list line offset lastIsEmpty indent eib st}
    (h : ListGoesOn list line offset lastIsEmpty indent eib st) (hc : st.cont = true) :
    offset ≤ indent ∨ (indent < 4 ∧ ∃ m typ, matchesListItem line true = (m, typ) ∧ typ ≠ .notList) := by
  rcases h.2 hc with ⟨h1, _, m, typ, hm, ht, _⟩ | ⟨h1, _⟩
  · exact .inr ⟨h1, m, typ, matchesListItem_strict_irrel line false true m typ hm ht, ht⟩
  · exact .inl h1

theorem ListGoesOn.not_short {list line offset lastIsEmpty indent eib st}
    (h : ListGoesOn list line offset lastIsEmpty indent eib st) (hc : st.cont = true) :
    ¬ (indent < offset ∧ 4 ≤ indent) ∧ ¬ (lastIsEmpty = true ∧ indent < offset ∧ ¬ LineIsItem line offset) ∧
    ¬ (indent < offset ∧ ¬ LineIsNextItem list line offset) ∧
    ¬ (lastIsEmpty = false ∧ offset ≤ indent ∧ eib = true) := by
  rcases h.2 hc with ⟨h1, h2, m, typ, hm, ht, h3, h4⟩ | ⟨h1, h2, _⟩
  · refine ⟨fun hh => by omega, fun hh => hh.2.2 ⟨m, typ, hm, ht, h3⟩, fun hh => hh.2 ⟨m, typ, hm, ht, h3, h4⟩, fun hh => ?_⟩
    rcases h2 with h2 | h2
    · omega
    · rw [hh.1] at h2; cases h2
  · refine ⟨fun hh => by omega, fun hh => by omega, fun hh => by omega, fun hh => ?_⟩
    rw [hh.2.2] at h2; cases h2

/-- a List node as listParser.Continue needs it: it has a last child and that child is a ListItem -/
def ListHasItem (s : St) (node : Nat) : Prop :=
  ∃ lc, (nd s node).children.getLast? = some lc ∧ (nd s lc).kind = .listItem

theorem lastChildCount_okl (s : St) (node lc : Nat) (h : (nd s node).children.getLast? = some lc) :
    OKL (fun v s' => v = ((nd s lc).children.length : Int) ∧ s' = s) (lastChildCount node s) := by
  unfold lastChildCount
  refine OKL.bind (getNode_okl node s) (fun n s0 hn => ?_)
  obtain ⟨hn, hs0⟩ := hn
  subst hn hs0
  rw [h]
  exact OKL.ok ⟨rfl, rfl⟩

theorem lastOffset_okl (s : St) (node lc : Nat) (h : (nd s node).children.getLast? = some lc)
    (hk : (nd s lc).kind = .listItem) :
    OKL (fun v s' => v = (nd s lc).offset ∧ s' = s) (lastOffset node s) := by
  unfold lastOffset
  refine OKL.bind (getNode_okl node s) (fun n s0 hn => ?_)
  obtain ⟨hn, hs0⟩ := hn
  subst hn hs0
  rw [h]
  simp only
  refine OKL.bind (getNode_okl lc s0) (fun n s1 hn => ?_)
  obtain ⟨hn, hs1⟩ := hn
  subst hn hs1
  have : ((nd s1 lc).kind != Kind.listItem) = false := by rw [hk]; rfl
  rw [this]
  exact OKL.ok ⟨rfl, rfl⟩

theorem length_beq_zero {α} (l : List α) : (((l.length : Nat) : Int) == 0) = l.isEmpty := by
  cases l with
  | nil => rfl
  | cons a l =>
    simp only [List.length_cons, List.isEmpty_cons, beq_eq_false_iff_ne, ne_eq]
    omega

/-- listParser.Continue on a List whose last child is a ListItem: total on an `RI` reader; cursor, store and the
    context apart from `emptyListItemWithBlankLines` stay; on a blank line the list goes on (and the key is set when
    the last item is empty); on a non-blank line the answer is as `ListGoesOn` says, with `offset` the last item's
    `Offset`, `lastIsEmpty` = the last item has no children, `indent` = the indent width of the line at the
    reader's line offset. -/
theorem listContinue_okl (src : Bytes) (node : Nat) (s : St) (c : RCur) (h : RI src s.r c) (hlt : c.p < src.length)
    (hitem : ListHasItem s node) :
    OKL (fun st s' => ∃ r', s'.r = r' ∧ RI src r' c ∧ s'.nodes = s.nodes ∧ s'.pc.opened = s.pc.opened ∧
        s'.pc.blockOffset = s.pc.blockOffset ∧ s'.pc.blockIndent = s.pc.blockIndent ∧
        s'.pc.tmpPara = s.pc.tmpPara ∧ s'.pc.fence = s.pc.fence ∧ s'.pc.skipList = s.pc.skipList ∧
        (st.cont = true → st.hasChildren = true) ∧
        ∀ lc, (nd s node).children.getLast? = some lc →
          (isBlank ((RCur.view src c).getD []) = true → st = stContinueHasChildren ∧
            s'.pc = (if (nd s lc).children.isEmpty then { s.pc with emptyItemBlank := true } else s.pc)) ∧
          (isBlank ((RCur.view src c).getD []) = false → s'.pc = s.pc ∧
            ListGoesOn (nd s node) ((RCur.view src c).getD []) (nd s lc).offset (nd s lc).children.isEmpty
              (indentWidthI ((RCur.view src c).getD []) (loVal src c)).1 s.pc.emptyItemBlank st))
      (listContinue node s) := by
  rw [listContinue_eq]
  obtain ⟨lc, hlc, hk⟩ := hitem
  refine OKL.bind (getNode_okl node s) (fun list s0 hl => ?_)
  obtain ⟨hl, hs0⟩ := hl
  subst hl hs0
  refine OKL.bind (peekLine_okl h) (fun x s1 hx => ?_)
  obtain ⟨hx, r1, hs1, h1⟩ := hx
  subst hx hs1
  simp only
  generalize (RCur.view src c).getD [] = line
  by_cases hb : isBlank line = true
  · rw [if_pos hb]
    refine OKL.bind (lastChildCount_okl { s0 with r := r1 } node lc hlc) (fun cnt s2 hc => ?_)
    obtain ⟨hc, hs2⟩ := hc
    subst hc hs2
    rw [length_beq_zero]
    have hnb : ¬ isBlank line = false := by rw [hb]; simp
    by_cases h0 : (nd s0 lc).children.isEmpty = true
    · rw [if_pos h0]
      simp only [bind, StateT.bind, modPc, pure, StateT.pure, Except.bind, Except.pure]
      refine OKL.ok ⟨r1, rfl, h1, rfl, rfl, rfl, rfl, rfl, rfl, rfl, fun _ => rfl, fun lc' hlc' => ?_⟩
      rw [hlc] at hlc'; cases hlc'
      exact ⟨fun _ => ⟨rfl, by rw [if_pos h0]⟩, fun hh => absurd hh hnb⟩
    · rw [if_neg h0]
      refine OKL.ok ⟨r1, rfl, h1, rfl, rfl, rfl, rfl, rfl, rfl, rfl, fun _ => rfl, fun lc' hlc' => ?_⟩
      rw [hlc] at hlc'; cases hlc'
      exact ⟨fun _ => ⟨rfl, by rw [if_neg h0]⟩, fun hh => absurd hh hnb⟩
  · rw [if_neg hb]
    refine OKL.bind (lastOffset_okl { s0 with r := r1 } node lc hlc hk) (fun off s2 ho => ?_)
    obtain ⟨ho, hs2⟩ := ho
    subst ho hs2
    refine OKL.bind (lastChildCount_okl { s0 with r := r1 } node lc hlc) (fun cnt s3 hc => ?_)
    obtain ⟨hc, hs3⟩ := hc
    subst hc hs3
    rw [length_beq_zero]
    refine OKL.bind (lineOffset_okl (s := { s0 with r := r1 }) h1) (fun lo s4 hlo => ?_)
    obtain ⟨hlo, r2, hs4, h2⟩ := hlo
    have hlo := hlo hlt
    subst hlo hs4
    generalize hiw : indentWidthI line (loVal src c) = iw
    obtain ⟨indent, pos⟩ := iw
    simp only
    refine (listContLine_okl (nd s0 node) line (nd s0 lc).offset (nd s0 lc).children.isEmpty indent
      { s0 with r := r2 }).mono (fun st s' hp => ?_)
    obtain ⟨hs', hgo⟩ := hp
    subst hs'
    refine ⟨r2, rfl, h2, rfl, rfl, rfl, rfl, rfl, rfl, rfl, fun hc => ?_, fun lc' hlc' => ?_⟩
    · rcases hgo.1 with e | e <;> rw [e] at hc ⊢
      · cases hc
      · rfl
    · rw [hlc] at hlc'; cases hlc'
      exact ⟨fun hh => absurd hh hb, fun _ => ⟨rfl, hgo⟩⟩

end GM.Blocks
