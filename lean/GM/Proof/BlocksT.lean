/-
  GM.Proof.BlocksT — termination of the block phase WITH paragraph transformers (GM.Model.Blocks.DriverT):
  for every list of paragraph transformers that keep every reader-only invariant and never exhaust fuel (`PTsOK`),
  `runT pts src ≠ .error .loop` for every source. The driver without transformers (`run`) is the case `pts = []`
  (`run_noLoop`, GM.Proof.BlocksNoPanicAll). The parser-level lemmas are those of GM.Proof.BlocksPres, the measures and the
  retry invariant those of GM.Proof.BlocksTerm.
-/
import GM.Proof.BlocksTerm
import GM.Model.Blocks.DriverT

namespace GM.Blocks
open GM GM.Text

/-- a paragraph transformer that keeps every invariant that only looks at the reader and is kept by the reader
    primitives, and never exhausts fuel -/
def PTOK (pt : PT) : Prop := ∀ (I : St → Prop), RPrims I → ∀ n, Pres I (pt n)

def PTsOK (pts : List PT) : Prop := ∀ pt ∈ pts, PTOK pt

theorem ptsOK_nil : PTsOK [] := fun _ h => by cases h

theorem transformParagraph_pres {I : St → Prop} (h : RPrims I) :
    ∀ (pts : List PT), PTsOK pts → ∀ n, Pres I (transformParagraph pts n)
  | [], _, n => by unfold transformParagraph; pres
  | pt :: pts, hp, n => by
    have h1 : ∀ n, Pres I (pt n) := (hp pt (List.mem_cons_self ..)) I h
    have h2 := transformParagraph_pres h pts (fun q hq => hp q (List.mem_cons_of_mem _ hq))
    unfold transformParagraph; pres

section driver
variable {I : St → Prop} (h : RPrims I) {pts : List PT} (hp : PTsOK pts)
include h hp

theorem closeLoopT_pres (blocks : List Block) (to : Int) (k : Nat) : Pres I (closeLoopT pts blocks to k) := by
  have := bpClose_pres h
  have := transformParagraph_pres h pts hp
  induction k with
  | zero => unfold closeLoopT; pres
  | succ k ih => unfold closeLoopT; pres

theorem closeBlocksT_pres (frm to : Int) : Pres I (closeBlocksT pts frm to) := by
  have := h.ronly
  have := closeLoopT_pres h hp
  unfold closeBlocksT; pres

theorem requireParaT_pres (parent : Nat) (last : Option Nat) (lastBlock : Option Block) :
    Pres I (requireParaT pts parent last lastBlock) := by
  have := h.ronly
  have := bpClose_pres h
  have := transformParagraph_pres h pts hp
  unfold requireParaT; pres

theorem tryParsersT_pres (parent : Nat) (blankLine continuable : Bool) (w : Int) (bps : List BP)
    (result : OpenResult) (lastBlock : Option Block) :
    Pres I (tryParsersT pts parent blankLine continuable w bps result lastBlock) := by
  have := h.ronly
  have := bpOpen_pres h
  have := requireParaT_pres h hp
  have := closeBlocksT_pres h hp
  have := appendChild_pres h
  have := lastOpenedBlock_pres h
  induction bps generalizing result lastBlock with
  | nil => unfold tryParsersT; pres
  | cons bp bps ih => unfold tryParsersT; pres

end driver

/-- what the transformed-paragraph retry may still cost -/
def tcost (tdone : Bool) : Nat := if tdone then 0 else 1

theorem retryStepT_ok {src : Bytes} {pts : List PT} (hp : PTsOK pts) (b : Int) (blank : Bool) (fuel : Nat)
    (again : Bool → Bool → Nat → OpenResult → Option Block → M OpenResult)
    (hk : ∀ td c p r l, Tr (fun s => Stop src b s ∧ phi src s + tcost td < fuel) (again td c p r l) (fun _ s' => Stop src b s'))
    (tdone cont : Bool) (parent : Nat) (w : Int) (bps : List BP) (result : OpenResult) (lb : Option Block) :
    Tr (fun s => Stop src b s ∧ phi src s + tcost tdone < fuel + 1)
      (retryStepT pts blank tdone cont parent w bps result lb again) (fun _ s' => Stop src b s') := by
  have prims := stop_prims src b
  unfold retryStepT
  refine Tr.bind (R := fun s0 s => Stop src b s ∧ retryMeasure s0 + tcost tdone < fuel + 1) ⟨fun s hs => ⟨hs.1, hs.2⟩⟩ (fun s0 => ?_)
  refine Tr.bind (R := fun _ s => Stop src b s ∧ retryMeasure s0 + tcost tdone < fuel + 1) ?_ (fun x => ?_)
  · constructor
    intro s hs
    have hpres := tryParsersT_pres prims hp parent blank cont w bps result lb
    have h1 := hpres.h s hs.1
    cases ht : tryParsersT pts parent blank cont w bps result lb s with
    | error e => rw [ht] at h1; exact h1
    | ok y => rw [ht] at h1; exact ⟨h1, hs.2⟩
  · obtain ⟨outcome, res, lb'⟩ := x
    cases outcome with
    | retry p' =>
      simp only
      refine Tr.bind (R := fun s1 s => Stop src b s ∧ retryMeasure s0 + tcost tdone < fuel + 1 ∧ s1 = s)
        ⟨fun s hs => ⟨hs.1, hs.2, rfl⟩⟩ (fun s1 => ?_)
      refine Tr.ite (fun _ => ⟨fun _ _ => (by decide : Panic.pre ≠ Panic.loop)⟩) (fun hc => ?_)
      have hlt : retryMeasure s1 < retryMeasure s0 := by simpa using hc
      exact (hk tdone cont p' res lb').weaken (fun s hs => ⟨hs.1, by rw [← hs.2.2]; have := hs.2.1; unfold phi; omega⟩)
    | retryTransformed =>
      simp only
      refine Tr.bind (R := fun s1 s => Stop src b s ∧ retryMeasure s0 + tcost tdone < fuel + 1 ∧ s1 = s)
        ⟨fun s hs => ⟨hs.1, hs.2, rfl⟩⟩ (fun s1 => ?_)
      refine Tr.ite (fun _ => ⟨fun _ _ => (by decide : Panic.pre ≠ Panic.loop)⟩) (fun hc => ?_)
      have hc' : tdone = false ∧ retryMeasure s1 ≤ retryMeasure s0 := by
        cases tdone <;> simp at hc ⊢
        exact hc
      obtain ⟨htd, hle⟩ := hc'
      subst htd
      exact (hk true false parent res lb').weaken
        (fun s hs => ⟨hs.1, by rw [← hs.2.2]; have := hs.2.1; unfold phi tcost at *; simp at *; omega⟩)
    | done =>
      simp only
      exact Tr.of_pres (toContinuable_pres prims cont res lb') (fun s hs => hs.1)

theorem openBlocksLoopT_ok {src : Bytes} {pts : List PT} (hp : PTsOK pts) (b : Int) (blank : Bool) :
    ∀ (fuel : Nat) (tdone cont : Bool) (parent : Nat) (result : OpenResult) (lb : Option Block),
      Tr (fun s => Stop src b s ∧ phi src s + tcost tdone < fuel) (openBlocksLoopT pts blank fuel tdone cont parent result lb)
        (fun _ s' => Stop src b s') := by
  intro fuel
  induction fuel with
  | zero => intro _ _ _ _ _; exact ⟨fun s hs => by have := hs.2; omega⟩
  | succ fuel ih =>
    intro tdone cont parent result lb
    have prims := stop_prims src b
    -- the bound of RetryInv for this iteration
    have hn : ∀ s, phi src s + tcost tdone < fuel + 1 ↔ phi src s < fuel + 1 - tcost tdone := by
      intro s; unfold tcost; split <;> omega
    have exit : ∀ hl r l, Tr (RetryInv src b (fuel + 1 - tcost tdone) hl) (toContinuable cont r l) (fun _ s' => Stop src b s') :=
      fun hl r l => Tr.of_pres (toContinuable_pres prims cont r l) (fun s hs => hs.stop)
    have step : ∀ hl w bps, Tr (RetryInv src b (fuel + 1 - tcost tdone) hl)
        (retryStepT pts blank tdone cont parent w bps result lb (openBlocksLoopT pts blank fuel)) (fun _ s' => Stop src b s') :=
      fun hl w bps => (retryStepT_ok hp b blank fuel _ ih tdone cont parent w bps result lb).weaken
        (fun s hs => ⟨hs.stop, (hn s).2 hs.fuel⟩)
    unfold openBlocksLoopT
    refine Tr.bind (retryInv_peekLine.weaken (fun s hs => ⟨hs.1, (hn s).1 hs.2⟩)) (fun x => ?_)
    obtain ⟨line, seg⟩ := x
    simp only
    refine Tr.bind (Tr.of_pres retryInv_lineOffset (fun _ h => h)) (fun lo => ?_)
    refine Tr.bind (R := fun _ s => RetryInv src b (fuel + 1 - tcost tdone) line.isSome s) ?_ (fun _ => ?_)
    · exact Tr.of_pres (retryInv_modPc _ (fun pc => by split <;> rfl)) (fun _ h => h)
    · refine Tr.ite (fun _ => exit _ _ _) (fun hnone => ?_)
      refine Tr.bind (Tr.of_pres (retryInv_liftE _ (idx_noLoop _ _)) (fun _ h => h)) (fun c => ?_)
      refine Tr.ite (fun _ => exit _ _ _) (fun _ => ?_)
      refine Tr.ite (fun _ => ?_) (fun _ => ?_)
      · refine Tr.bind (Tr.of_pres (retryInv_liftE _ (idx_noLoop _ _)) (fun _ h => h)) (fun c => ?_)
        refine Tr.bind (R := fun _ s => RetryInv src b (fuel + 1 - tcost tdone) line.isSome s) (Tr.pure _ (fun _ h => h)) (fun bps => ?_)
        exact step _ _ bps
      · refine Tr.bind (R := fun _ s => RetryInv src b (fuel + 1 - tcost tdone) line.isSome s) (Tr.pure _ (fun _ h => h)) (fun bps => ?_)
        exact step _ _ bps

/-- what the line loops need from `openBlocksT` -/
def OpenOKT (pts : List PT) (src : Bytes) : Prop := ∀ b parent blank, Pres (Stop src b) (openBlocksT pts parent blank)

/-- `openBlocksT` keeps the line-level invariant and its retry loop has enough fuel -/
theorem openOKT {pts : List PT} (hp : PTsOK pts) (src : Bytes) : OpenOKT pts src := by
  intro b parent blank
  have prims := stop_prims src b
  apply Tr.toPres
  unfold openBlocksT
  refine Tr.bind (Tr.of_pres (lastOpenedBlock_pres prims) (fun _ h => h)) (fun lb => ?_)
  have jp : ∀ cont : Bool, Tr (fun s => Stop src b s)
      (do let v ← source; openBlocksLoopT pts blank (retryFuel v) false cont parent OpenResult.noBlocksOpened lb)
      (fun _ s => Stop src b s) := by
    intro cont
    refine Tr.bind (R := fun v s => Stop src b s ∧ v = src) ⟨fun s hs => ⟨hs, hs.source⟩⟩ (fun v => ?_)
    refine (openBlocksLoopT_ok hp b blank (retryFuel v) false cont parent .noBlocksOpened lb).weaken (fun s hs => ?_)
    obtain ⟨h1, h2⟩ := hs
    subst h2
    have : phi s.r.source s + tcost false < retryFuel s.r.source := by
      unfold phi retryMeasure retryFuel tcost; split <;> simp <;> omega
    rw [h1.source] at this
    exact ⟨h1, this⟩
  simp only
  split
  · refine Tr.bind (Tr.of_pres (getNode_pres _) (fun _ h => h)) (fun n => ?_)
    refine Tr.bind (R := fun _ s => Stop src b s) (Tr.pure _ (fun _ h => h)) (fun cont => jp cont)
  · refine Tr.bind (R := fun _ s => Stop src b s) (Tr.pure _ (fun _ h => h)) (fun cont => jp cont)

theorem lineLoopT_pres {src : Bytes} {pts : List PT} (hp : PTsOK pts) (hob : OpenOKT pts src) (b : Int) (parent : Nat)
    (ob : List Block) (li : Int) (rest : List Block) (i : Int) (bl : List LineStat) :
    Pres (Stop src b) (lineLoopT pts parent ob li rest i bl) := by
  have hpr := stop_prims src b
  have := hpr.ronly; have := hpr.peekLine
  have := closeBlocksT_pres hpr hp
  have := advanceLine_stop src b
  have := bpContinue_pres hpr
  have := hob b
  induction rest generalizing i bl with
  | nil => unfold lineLoopT; pres
  | cons be rest ih => unfold lineLoopT; pres

theorem lineLoopT_next_hasLine (pts : List PT) (parent : Nat) (ob : List Block) (li : Int) (rest0 : List Block)
    (hne : rest0 ≠ []) (i : Int) (bl bl' : List LineStat) (s s' : St)
    (h : lineLoopT pts parent ob li rest0 i bl s = .ok ((.next, bl'), s')) : hasLine s.r = true := by
  obtain ⟨be, rest, rfl⟩ := List.exists_cons_of_ne_nil hne
  cases hl : hasLine s.r with
  | true => rfl
  | false =>
    exfalso
    have hp := peekLine_none_of_noLine s.r hl
    unfold lineLoopT at h
    simp only [bind, StateT.bind, GM.Blocks.peekLine, hp, Except.bind, pure, Except.pure] at h
    cases hc : closeBlocksT pts li 0 s with
    | error e => simp [hc] at h
    | ok x =>
      simp only [hc, advanceLine, StateT.pure, pure, Except.pure] at h
      cases h

theorem linesLoopT_ok {src : Bytes} {pts : List PT} (hp : PTsOK pts) (hob : OpenOKT pts src) (parent : Nat) :
    ∀ (fuel : Nat) (bl : List LineStat) (s : St) (b : Int), Stop src b s → mu src s.r < fuel →
      match linesLoopT pts parent fuel bl s with
      | .ok ((ret, _), s') => Stop src b s' ∧ (ret = false → mu src s'.r ≤ mu src s.r)
      | .error e => e ≠ Panic.loop := by
  intro fuel
  induction fuel with
  | zero => intro bl s b _ h; omega
  | succ fuel ih =>
    intro bl s b hs hmu
    unfold linesLoopT
    simp only [bind, StateT.bind, getPc, Except.bind, pure, Except.pure, StateT.pure]
    by_cases hl0 : (s.pc.opened.length == 0) = true
    · simp only [hl0, if_true]
      exact ⟨hs, fun _ => Nat.le_refl _⟩
    · simp only [hl0, Bool.false_eq_true, if_false, StateT.bind]
      have hne : s.pc.opened ≠ [] := by
        intro e; rw [e] at hl0; simp at hl0
      obtain ⟨be, rest, hbr⟩ := List.exists_cons_of_ne_nil hne
      have hpres := lineLoopT_pres hp hob b parent s.pc.opened ((s.pc.opened.length : Int) - 1) s.pc.opened 0 bl
      have hpres2 := lineLoopT_pres hp hob s.r.pos.stop parent s.pc.opened ((s.pc.opened.length : Int) - 1) s.pc.opened 0 bl
      have hs2 : Stop src s.r.pos.stop s := ⟨hs.source, hs.stop0, hs.stop_le, Int.le_refl _⟩
      cases hr : lineLoopT pts parent s.pc.opened ((s.pc.opened.length : Int) - 1) s.pc.opened 0 bl s with
      | error e => simp only [bind, Except.bind]; exact fun he => hpres.noLoop hs (he ▸ hr)
      | ok x =>
        obtain ⟨⟨outcome, bl1⟩, s1⟩ := x
        have h1 : Stop src b s1 := hpres.ok hs hr
        have h1' : Stop src s.r.pos.stop s1 := hpres2.ok hs2 hr
        cases outcome with
        | eof => simp only [bind, Except.bind, StateT.pure, pure, Except.pure]; exact ⟨h1, fun h => by cases h⟩
        | next =>
          simp only [bind, Except.bind, StateT.bind, advanceLine, pure, Except.pure]
          have hline : hasLine s.r = true :=
            lineLoopT_next_hasLine pts parent _ _ _ hne 0 bl bl1 s s1 hr
          have hdec := mu_next hline h1'.toR hs.toR
          have h2 : Stop src b { s1 with r := s1.r.advanceLine } := h1.toR.advanceLine.toS
          have := ih bl1 { s1 with r := s1.r.advanceLine } b h2 (by simp only; omega)
          revert this
          cases linesLoopT pts parent fuel bl1 { s1 with r := s1.r.advanceLine } with
          | error e => exact id
          | ok y =>
            obtain ⟨⟨ret, bl2⟩, s3⟩ := y
            intro this
            exact ⟨this.1, fun hr' => by have := this.2 hr'; simp only at this; omega⟩

theorem blocksLoopT_ok {src : Bytes} {pts : List PT} (hp : PTsOK pts) (hob : OpenOKT pts src) (parent : Nat) :
    ∀ (fuel : Nat) (bl : List LineStat) (s : St) (b : Int), Stop src b s → mu src s.r < fuel →
      match blocksLoopT pts parent fuel bl s with
      | .ok (_, s') => Stop src b s'
      | .error e => e ≠ Panic.loop := by
  intro fuel
  induction fuel with
  | zero => intro bl s b _ h; omega
  | succ fuel ih =>
    intro bl s b hs hmu
    unfold blocksLoopT
    simp only [bind, StateT.bind, skipBlankLinesR]
    have hsk := skipBlank_ok (loopFuel s.r.source) 0 s.r b hs.toR (by rw [hs.source]; exact mu_lt_loopFuel src s.r)
    cases hr : skipBlankLines readerOps (loopFuel s.r.source) 0 s.r with
    | error e => simp only [Except.bind]; exact hsk.err e hr
    | ok x =>
      obtain ⟨c1, c2, c3⟩ := hsk.ok x hr
      obtain ⟨⟨seg, lines, ok⟩, r0⟩ := x
      simp only at c1 c2 c3
      simp only [Except.bind, pure, Except.pure]
      cases ok with
      | false => simp only [Bool.not_false, if_true, StateT.pure, pure, Except.pure]; exact c1.toS
      | true =>
        simp only [Bool.not_true, Bool.false_eq_true, if_false, StateT.bind, position, getPc, StateT.pure, pure,
          Except.pure, bind, Except.bind, Reader.position]
        have hl0 : hasLine r0 = true := c3 rfl
        generalize hbl2 : (if (lines != 0) = true then blankStats r0.line lines s.pc.opened.length else bl) = bl'
        generalize hbl : isBlankLine _ _ _ = blank
        generalize hs0 : ({ s with r := r0 } : St) = s0
        have hS0 : Stop src b s0 := by subst hs0; exact c1.toS
        have hS0' : Stop src r0.pos.stop s0 := by
          subst hs0; exact ⟨c1.source, c1.stop0, c1.stop_le, Int.le_refl _⟩
        have hr0 : s0.r = r0 := by subst hs0; rfl
        cases ho : openBlocksT pts parent blank s0 with
        | error e => exact fun he => (hob b parent blank).noLoop hS0 (he ▸ ho)
        | ok y =>
          obtain ⟨res, s1⟩ := y
          have h1 : Stop src b s1 := (hob b parent blank).ok hS0 ho
          have h1' : Stop src r0.pos.stop s1 := (hob _ parent blank).ok hS0' ho
          simp only
          by_cases hres : res = OpenResult.newBlocksOpened
          · subst hres
            simp only [bne_self_eq_false, Bool.false_eq_true, if_false, StateT.bind, advanceLine, StateT.pure, pure, Except.pure,
              bind, Except.bind]
            have hdec := mu_next hl0 h1'.toR c1
            have h2 : Stop src b { s1 with r := s1.r.advanceLine } := h1.toR.advanceLine.toS
            have hl := linesLoopT_ok hp hob parent fuel bl' { s1 with r := s1.r.advanceLine } b h2 (by simp only; omega)
            revert hl
            cases linesLoopT pts parent fuel bl' { s1 with r := s1.r.advanceLine } with
            | error e => exact id
            | ok z =>
              obtain ⟨⟨ret, bl2⟩, s3⟩ := z
              intro hl
              simp only
              cases ret with
              | true => simp only [if_true]; exact hl.1
              | false =>
                simp only [Bool.false_eq_true, if_false]
                have := hl.2 rfl
                exact ih bl2 s3 b hl.1 (by simp only at this; omega)
          · have : (res != OpenResult.newBlocksOpened) = true := by simpa using hres
            simp only [this, if_true]
            exact h1

/-- **Termination of the block phase with paragraph transformers**: no loop of the driver exhausts its fuel, for
    every source and every list of transformers that themselves never exhaust fuel and leave the reader alone. -/
theorem runT_noLoop {pts : List PT} (hp : PTsOK pts) (src : Bytes) : runT pts src ≠ .error .loop := by
  have hob := openOKT hp src
  unfold runT parseBlocksT
  simp only [bind, StateT.bind, modPc, source, Except.bind, pure, Except.pure]
  have h0 := stop_init src
  have hm := mu_init src
  have := blocksLoopT_ok hp hob 0 (linesFuel src) [] { initSt src with pc := { (initSt src).pc with opened := [] } } 0
    ⟨h0.source, h0.stop0, h0.stop_le, h0.lb⟩ hm
  revert this
  have e : (initSt src).r.source = src := h0.source
  simp only [e]
  cases blocksLoopT pts 0 (linesFuel src) [] { initSt src with pc := { (initSt src).pc with opened := [] } } with
  | error e => intro h; simp only [Except.map]; intro he; cases he; exact h rfl
  | ok y => intro _; simp [Except.map]

end GM.Blocks
