/-
  GM.Proof.ConvertXE2ETable — C01 end to end with extensions, all 16 member sets: tableASTTransformer's walk below a cell (`escNodes`) keeps `csH` and, for ascending positions,
  "segments in range"; `convertL` answers HTML whenever `blockPhaseX` answers a store with `HeadOK`, `NodeTotX` and ascending escaped-pipe positions — the
  interface to a totality theorem of the block phase with the table paragraph transformer.
-/
import GM.Proof.ConvertXE2E
import GM.Proof.ConvertXE2EKeeps

section ConvertXE2ECells
/-
  tableASTTransformer's walk below a cell (GM.TableX.escNodes: every Text child of a CodeSpan is cut
  at the recorded positions of escaped pipes) keeps what the renderer side of C01 needs of the inline tree, for ANY list of
  positions: CodeSpans still hold Text nodes only (`csH`); and, when the positions are
  ascending (they are recorded in document order), every segment stays in range. Pieces for C01 end to end with Table.
-/

namespace GM.Proof.ConvertXE2ECells
open GM GM.Text GM.Spec GM.Inl GM.TableX GM.Proof.Inlines GM.Proof.InlinesTotal GM.Proof.ConvertXE2E GM.E2E.Pad

theorem escCut_allText (a b : Int) : ∀ (ps : List Int) (done : List Inl.Node) (cur : Segment) (cut : Bool),
    done.all isText = true → (escCut a b ps done cur cut).1.all isText = true
  | [], _, _, _, h => by simpa [escCut] using h
  | pos :: rest, done, cur, cut, h => by
    unfold escCut
    split
    · exact escCut_allText a b rest _ _ _ (by simp [List.all_append, h, isText, rawTextOf])
    · exact escCut_allText a b rest _ _ _ h

theorem escSpanKids_allText (ps : List Int) : ∀ ks : List Inl.Node, ks.all isText = true →
    (escSpanKids ps ks).all isText = true
  | [], _ => rfl
  | .text seg so ha ra :: rest, h => by
    simp only [List.all_cons, Bool.and_eq_true] at h
    simp only [escSpanKids, List.all_append, Bool.and_eq_true]
    refine ⟨?_, escSpanKids_allText ps rest h.2⟩
    split
    · simp only [List.all_append, Bool.and_eq_true]
      exact ⟨escCut_allText _ _ ps [] seg false rfl, by simp [isText, rawTextOf]⟩
    · simp [isText]
  | .codeSpan _ :: _, h => by simp [isText] at h
  | .emphasis _ _ :: _, h => by simp [isText] at h
  | .link _ _ _ _ :: _, h => by simp [isText] at h
  | .autoLink _ _ :: _, h => by simp [isText] at h
  | .rawHTML _ :: _, h => by simp [isText] at h
  | .delim _ _ :: _, h => by simp [isText] at h
  | .label _ _ _ :: _, h => by simp [isText] at h

mutual
theorem escNode_csH (ps : List Int) : ∀ n : Inl.Node, csH n = true → csH (escNode ps n) = true
  | .codeSpan ks, h => by
    simp only [csH] at h
    simp only [escNode, csH]; exact escSpanKids_allText ps ks h
  | .emphasis lv ks, h => by
    simp only [csH] at h
    simp only [escNode, csH]; exact escNodes_csHL ps ks h
  | .link _ _ _ ks, h => by
    simp only [csH] at h
    simp only [escNode, csH]; exact escNodes_csHL ps ks h
  | .text .., _ => rfl
  | .autoLink .., _ => rfl
  | .rawHTML .., _ => rfl
  | .delim .., _ => rfl
  | .label .., _ => rfl
theorem escNodes_csHL (ps : List Int) : ∀ ns : List Inl.Node, csHL ns = true → csHL (escNodes ps ns) = true
  | [], _ => rfl
  | n :: rest, h => by
    simp only [csHL, Bool.and_eq_true] at h
    simp only [escNodes, csHL, Bool.and_eq_true]
    exact ⟨escNode_csH ps n h.1, escNodes_csHL ps rest h.2⟩
end

/-- the property of a segment the cut keeps: `segInRange` -/
def SR (src : Bytes) (s : Segment) : Prop := segInRange src s

theorem escCut_range (src : Bytes) (a b : Int) : ∀ (ps : List Int) (done : List Inl.Node) (cur : Segment) (cut : Bool),
    ps.Pairwise (· < ·) → (∀ p ∈ ps, a ≤ p → cur.start ≤ p) → (∀ s ∈ segsOfL done, segInRange src s) → segInRange src cur → b ≤ cur.stop →
    (∀ s ∈ segsOfL (escCut a b ps done cur cut).1, segInRange src s) ∧ segInRange src (escCut a b ps done cur cut).2.1
  | [], done, cur, cut, _, _, hd, hc, _ => by simpa [escCut] using ⟨hd, hc⟩
  | pos :: rest, done, cur, cut, hs, hlo, hd, hc, hb => by
    have hs' := List.pairwise_cons.mp hs
    unfold escCut
    split
    · rename_i hin
      simp only [Bool.and_eq_true, decide_eq_true_eq] at hin
      have hp := hlo pos (by simp) hin.1
      obtain ⟨c1, c2, c3, c4⟩ := hc
      apply escCut_range src a b rest _ _ _ hs'.2
      · intro p hp' _
        have := hs'.1 p hp'
        show (cur.withStart (pos + 1)).start ≤ p
        simp only [Segment.withStart]; omega
      · intro s hs2
        simp only [segsOfL_append, List.mem_append] at hs2
        rcases hs2 with hs2 | hs2
        · exact hd s hs2
        · simp only [rawTextOf, segsOfL, segsOf, List.append_nil, List.mem_singleton] at hs2
          subst hs2
          exact ⟨c1, by simp only [Segment.withStop]; omega, by simp only [Segment.withStop]; omega, c4⟩
      · exact ⟨by simp only [Segment.withStart]; omega, by simp only [Segment.withStart]; omega, c3, c4⟩
      · exact hb
    · exact escCut_range src a b rest _ _ _ hs'.2 (fun p hp' ha => hlo p (by simp [hp']) ha) hd hc hb

mutual
theorem escNode_range (src : Bytes) (ps : List Int) (hs : ps.Pairwise (· < ·)) : ∀ n : Inl.Node,
    (∀ s ∈ segsOf n, segInRange src s) → ∀ s ∈ segsOf (escNode ps n), segInRange src s
  | .codeSpan ks, h => by
    simp only [escNode, segsOf]; exact escSpanKids_range src ps hs ks (by simpa [segsOf] using h)
  | .emphasis lv ks, h => by
    simp only [escNode, segsOf]; exact escNodes_range src ps hs ks (by simpa [segsOf] using h)
  | .link _ _ _ ks, h => by
    simp only [escNode, segsOf]; exact escNodes_range src ps hs ks (by simpa [segsOf] using h)
  | .text .., h => by simpa [escNode] using h
  | .autoLink .., h => by simpa [escNode] using h
  | .rawHTML .., h => by simpa [escNode] using h
  | .delim .., h => by simpa [escNode] using h
  | .label .., h => by simpa [escNode] using h
theorem escNodes_range (src : Bytes) (ps : List Int) (hs : ps.Pairwise (· < ·)) : ∀ ns : List Inl.Node,
    (∀ s ∈ segsOfL ns, segInRange src s) → ∀ s ∈ segsOfL (escNodes ps ns), segInRange src s
  | [], _ => by simp [escNodes, segsOfL]
  | n :: rest, h => by
    intro s hs2
    simp only [escNodes, segsOfL, List.mem_append] at hs2
    rcases hs2 with hs2 | hs2
    · exact escNode_range src ps hs n (fun t ht => h t (by simp [segsOfL, ht])) s hs2
    · exact escNodes_range src ps hs rest (fun t ht => h t (by simp [segsOfL, ht])) s hs2
theorem escSpanKids_range (src : Bytes) (ps : List Int) (hs : ps.Pairwise (· < ·)) : ∀ ns : List Inl.Node,
    (∀ s ∈ segsOfL ns, segInRange src s) → ∀ s ∈ segsOfL (escSpanKids ps ns), segInRange src s
  | [], _ => by simp [escSpanKids, segsOfL]
  | n :: rest, h => by
    have hrest := escSpanKids_range src ps hs rest (fun t ht => h t (by simp [segsOfL, ht]))
    cases n with
    | text seg so ha ra =>
      have hseg : segInRange src seg := h seg (by simp [segsOfL, segsOf])
      have hc := escCut_range src seg.start seg.stop ps [] seg false hs (fun _ _ ha => ha) (by simp [segsOfL]) hseg
        (Int.le_refl _)
      intro s hs2
      simp only [escSpanKids, segsOfL_append, List.mem_append] at hs2
      rcases hs2 with hs2 | hs2
      · split at hs2
        · simp only [segsOfL_append, List.mem_append] at hs2
          rcases hs2 with hs2 | hs2
          · exact hc.1 s hs2
          · simp only [rawTextOf, segsOfL, segsOf, List.append_nil, List.mem_singleton] at hs2
            subst hs2; exact hc.2
        · simp only [segsOfL, segsOf, List.append_nil, List.mem_singleton] at hs2
          subst hs2; exact hseg
      · exact hrest s hs2
    | _ =>
      intro s hs2
      simp only [escSpanKids, segsOfL, List.mem_append] at hs2
      rcases hs2 with hs2 | hs2
      · exact escNode_range src ps hs _ (fun t ht => h t (by simp [segsOfL, ht])) s hs2
      · exact hrest s hs2
end

theorem cell_children_resolve (c : GM.ConvertX.GCfg) (src : Bytes) (ps : List Int) (hs : ps.Pairwise (· < ·))
    (kids : List Inl.Node) (h : ∀ s ∈ segsOfL kids, segInRange src s) :
    ∃ ts, GM.ConvertX.inlineTreesL c src (escNodes ps kids) = .ok ts :=
  inlineTreesL_total c _ (escNodes_range src ps hs kids h)

end GM.Proof.ConvertXE2ECells
end ConvertXE2ECells

section ConvertXE2ETable
/-
  C01 END TO END WITH EXTENSIONS, the tree phases and the renderer side for ALL 16 member sets
  (Table, `extension.GFM`), as an interface to a totality theorem of the block phase with the table paragraph
  transformer: `convertL` answers HTML whenever `blockPhaseX` answers a store in which
    * Heading levels are ≤ 6 (`HeadOK`; a frame invariant for the default transformer),
    * every node of the tree has `NodeTotX`: raw segments in range; the lines of an inline-bearing node — not raw, not a
      TableHeader / TableRow (whose `lines` are the model's bookkeeping), not an empty cell — are `WF0`,
    * the recorded escaped-pipe positions are ascending.
-/

namespace GM.Proof.ConvertXE2E
open GM GM.Text GM.Spec GM.Inl GM.ConvertX GM.Convert GM.Proof.ConvertX GM.E2E GM.Proof.ConvertXE2ECS
open GM.Proof.ConvertXE2ECells

variable {src : Bytes}

/-- what `docTreeL` needs of a block node, any member set -/
structure NodeTotX (c : GCfg) (src : Bytes) (n : GM.Blocks.Node) : Prop where
  raw : RawSegsP src n
  wf0 : isRawKind n.kind = false → (c.base.table && GM.TableX.isRowNode src n) = false →
    (c.base.table && GM.TableX.isCellNode src n && n.lines.all (fun s => s.start == s.stop && s.padding == 0)) = false →
    n.lines ≠ [] → GM.Proof.InlinesReader.WF0 src n.lines

theorem inlinePhaseL_totalX (c : GCfg) {env : Env} {inItem : Bool} {n : GM.Blocks.Node} (h : NodeTotX c src n) :
    ∃ kids, inlinePhaseL c true env src inItem n = .ok kids ∧ (∀ s ∈ GM.Proof.InlinesTotal.segsOfL kids, segInRange src s) ∧
      csHL kids = true := by
  unfold inlinePhaseL
  split
  · exact ⟨[], rfl, fun s hs => by simp [GM.Proof.InlinesTotal.segsOfL] at hs, rfl⟩
  · rename_i hr
    split
    · exact ⟨[], rfl, fun s hs => by simp [GM.Proof.InlinesTotal.segsOfL] at hs, rfl⟩
    · rename_i hrow
      split
      · exact ⟨[], rfl, fun s hs => by simp [GM.Proof.InlinesTotal.segsOfL] at hs, rfl⟩
      · rename_i hcell
        unfold inlineLinesL
        split
        · exact ⟨[], rfl, fun s hs => by simp [GM.Proof.InlinesTotal.segsOfL] at hs, rfl⟩
        · rename_i he
          have hw : GM.Proof.InlinesReader.WF0 src n.lines :=
            h.wf0 (by simpa using hr) (by simpa using hrow) (by simpa using hcell) (by intro e; rw [e] at he; simp at he)
          have hb : GM.LinkRef.wf0B src n.lines = true := wf0B_complete hw
          rw [hb]
          simp only [Bool.not_true, Bool.and_false, Bool.false_eq_true, if_false]
          obtain ⟨kids, hk, hs⟩ := parseBlockL_total_segs c inItem hw.1 hw.2 env
          exact ⟨kids, by rw [hk]; rfl, hs, parseBlockG_csHL c inItem env src _ kids hk⟩

theorem blockKindX_total (c : XCfg) {n : GM.Blocks.Node} (h : RawSegsP src n) : ∃ k, blockKindX c src n = .ok k := by
  unfold blockKindX
  split
  · split
    · exact ⟨_, rfl⟩
    · exact blockKind_total h
  · exact blockKind_total h

theorem blockKindX_okN (c : XCfg) {n : GM.Blocks.Node} {k : Kind} (hn : HeadP n) (h : blockKindX c src n = .ok k)
    (cs : List GM.Node) (hc : okL cs = true) : okN (.mk k none cs) = true := by
  unfold blockKindX at h
  split at h
  · rcases GM.Proof.ConvertLDoc.kindOf_cases src n with e | e | e | e | ⟨a, e⟩
    · rw [e] at h
      exact okN_block k cs (blockKind_ok hn h) hc
    all_goals (rw [e] at h; rw [epure_ok h]; simp [okN, hc])
  · exact okN_block k cs (blockKind_ok hn h) hc

mutual
theorem docTreeL_totalX (c : GCfg) (env : Env) (escs : List Int) (hE : escs.Pairwise (· < ·)) :
    ∀ (inItem : Bool) (t : GM.Blocks.Tree), treeAll (fun n => NodeTotX c src n ∧ HeadP n) t →
    ∃ x, docTreeL c true env src escs inItem t = .ok x ∧ okN x = true
  | inItem, .node n cs, ha => by
    simp only [treeAll] at ha
    obtain ⟨bs, hbs, hbo⟩ := docTreesL_totalX c env escs hE (n.kind == .listItem) true cs ha.2
    obtain ⟨kids, hk, hsegs, hcs⟩ := inlinePhaseL_totalX c (env := env) (inItem := inItem) ha.1.1
    have hkids' : (∀ s ∈ GM.Proof.InlinesTotal.segsOfL
          (if c.base.table && GM.TableX.isCellNode src n then GM.TableX.escNodes escs kids else kids), segInRange src s) ∧
        csHL (if c.base.table && GM.TableX.isCellNode src n then GM.TableX.escNodes escs kids else kids) = true := by
      split
      · exact ⟨escNodes_range src escs hE kids hsegs, escNodes_csHL escs kids hcs⟩
      · exact ⟨hsegs, hcs⟩
    obtain ⟨is, his⟩ := inlineTreesL_total (src := src) c _ hkids'.1
    have hio := inlineTreesL_okL c _ hkids'.2 is his
    obtain ⟨k, hkk⟩ := blockKindX_total c.base (src := src) ha.1.1.raw
    refine ⟨.mk k none (bs ++ is), ?_, blockKindX_okN c.base ha.1.2 hkk _ (by rw [okL_append, hbo, hio]; rfl)⟩
    unfold docTreeL
    simp only [bind, Except.bind, hbs, hk, his, hkk, liftErr, pure, Except.pure]
theorem docTreesL_totalX (c : GCfg) (env : Env) (escs : List Int) (hE : escs.Pairwise (· < ·)) :
    ∀ (pi first : Bool) (ts : List GM.Blocks.Tree), treesAll (fun n => NodeTotX c src n ∧ HeadP n) ts →
    ∃ xs, docTreesL c true env src escs pi first ts = .ok xs ∧ okL xs = true
  | _, _, [], _ => ⟨[], by unfold docTreesL; rfl, rfl⟩
  | pi, first, t :: rest, ha => by
    simp only [treesAll] at ha
    obtain ⟨x, hx, hxo⟩ := docTreeL_totalX c env escs hE (pi && first) t ha.1
    obtain ⟨xs, hxs, hxso⟩ := docTreesL_totalX c env escs hE pi false rest ha.2
    refine ⟨x :: xs, ?_, by simp [okL, hxo, hxso]⟩
    unfold docTreesL
    simp only [bind, Except.bind, hx, hxs, pure, Except.pure]
end

theorem convertL_total_of_treeX (c : GCfg) (uc : List (Nat × (Bool × Bool))) (o : ROpts)
    (st : GM.Blocks.St) (hst : blockPhaseX c.base true src = .ok st)
    (h0 : NodeTotX c src (st.nodes.getD 0 default) ∧ HeadP (st.nodes.getD 0 default))
    (hk : ∀ p ch, ch ∈ (st.nodes.getD p default).children →
      NodeTotX c src (st.nodes.getD ch default) ∧ HeadP (st.nodes.getD ch default))
    (hE : (if c.base.table then GM.TableX.escOfTree src (GM.Blocks.treeOf st.nodes st.nodes.length 0) else []).Pairwise (· < ·)) :
    ∃ html, convertL c uc o src = .ok html := by
  obtain ⟨t, htree, hok⟩ := docTreeL_totalX (src := src) c { refs := st.pc.refs, uc := uc } _ hE false _
    (treeOf_all_reach st.nodes hk st.nodes.length 0 h0)
  have hpd : parseDocL c true uc src = .ok t := by
    unfold parseDocL
    simp only [bind, Except.bind, hst, liftErr]
    exact htree
  refine ⟨render (rcfgX c.base o) t, ?_⟩
  unfold convertL convertLWith renderDocX
  simp only [bind, Except.bind, hpd, renderPanics_none_of_okN _ t hok]

/-- the same with the frame invariants discharged (GM.Proof.ConvertXE2EKeeps: the table transformer keeps heading levels and
    the info / closure segments): what is left are facts about LINES and the escaped-pipe positions only -/
theorem convertL_total_of_lines_facts (c : GCfg) (uc : List (Nat × (Bool × Bool))) (o : ROpts)
    (st : GM.Blocks.St) (hst : blockPhaseX c.base true src = .ok st)
    (hL : ∀ n ∈ st.nodes, isRawKind n.kind = true → ∀ t ∈ n.lines, segInRange src t)
    (hW : ∀ p ch, ch ∈ (st.nodes.getD p default).children → isRawKind (st.nodes.getD ch default).kind = false →
      (c.base.table && GM.TableX.isRowNode src (st.nodes.getD ch default)) = false →
      (c.base.table && GM.TableX.isCellNode src (st.nodes.getD ch default) &&
        (st.nodes.getD ch default).lines.all (fun s => s.start == s.stop && s.padding == 0)) = false →
      (st.nodes.getD ch default).lines ≠ [] → GM.Proof.InlinesReader.WF0 src (st.nodes.getD ch default).lines)
    (h0 : (st.nodes.getD 0 default).lines = [])
    (hE : (if c.base.table then GM.TableX.escOfTree src (GM.Blocks.treeOf st.nodes st.nodes.length 0) else []).Pairwise (· < ·)) :
    ∃ html, convertL c uc o src = .ok html := by
  have hx := blockPhaseX_xsegs c.base true src st hst
  have hH := blockPhaseX_headOK c.base true src st hst
  have raw : ∀ i, RawSegsP src (st.nodes.getD i default) := by
    intro i
    by_cases hlt : i < st.nodes.length
    · have e : st.nodes.getD i default = st.nodes[i] := by simp [List.getD, hlt]
      have hm : st.nodes[i] ∈ st.nodes := List.getElem_mem hlt
      rw [e]
      exact ⟨fun hr t ht => hL _ hm hr t ht, (hx _ hm).info, (hx _ hm).closure⟩
    · have e : st.nodes.getD i default = default := by
        simp [List.getD, List.getElem?_eq_none (Nat.le_of_not_lt hlt)]
      rw [e]; exact rawSegsP_default src
  exact convertL_total_of_treeX c uc o st hst
    ⟨⟨raw 0, fun _ _ _ hne => absurd h0 hne⟩, headOK_getD hH 0⟩
    (fun p ch hc => ⟨⟨raw ch, hW p ch hc⟩, headOK_getD hH ch⟩) hE

end GM.Proof.ConvertXE2E
end ConvertXE2ETable
