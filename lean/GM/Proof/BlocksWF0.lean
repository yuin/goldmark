/-
  GM.Proof.BlocksWF0 — the interface between the block phase and the inline phase, as a statement.

  The inline-phase theorems (GM.Props.Inlines: `parseBlock_total`, `text_segments_in_range_and_ordered`, …) are
  about ONE block and assume `WF0 src segs` of its line list (GM.Proof.InlinesReader.WF0: `WFSegs` — a non-empty
  list, every line `prev.stop ≤ start < stop ≤ len(src)`, `padding ≥ 0`, no ForceNewline — and `padding = 0`).
  This file says which nodes of the block model's store the inline phase runs on (`inlineBearing`), gives a
  decidable checker for `WF0` (`wf0B`, `wf0B_iff`), and states that the block phase establishes `WF0` for every
  inline-bearing block (`BlocksEstablishWF0`; the proof, for every byte string, is `inline_lines_wf0` of GM.Props.Wf0).
  The `example`s evaluate the statement on samples.

  Which blocks (parser/parser.go): `Parse` (876-881) runs `parseBlocks`, then `walkBlock(root, cb)` (1130-1135:
  post-order over FirstChild/NextSibling — i.e. exactly the nodes reachable from the Document through child
  lists) with `cb = parseBlock(blockReader, node, pc)`; `parseBlock` (1152-1155) returns at once when
  `parent.IsRaw()` (CodeBlock, FencedCodeBlock, HTMLBlock: ast/block.go:249, 307, 490; BaseBlock: false), and
  otherwise does `block.Reset(parent.Lines())` and loops until `PeekLine` answers nil — which it does
  immediately when the block has no lines (Document, Blockquote, List, ListItem, ThematicBreak, an empty ATX
  heading): for those the loop body never runs and the reader is never asked anything. So the blocks whose line
  list the inline phase READS are: reachable, not raw, at least one line. With the default block parsers these
  are Paragraph, TextBlock and Heading nodes; the definition below does not depend on that.
-/
import GM.Model.Blocks
import GM.Proof.InlinesReader

namespace GM.Proof.BlocksWF0
open GM GM.Text GM.Spec GM.Blocks
open GM.Proof.InlinesReader (WF0)

/-- `Node.IsRaw()` of the block kinds (ast/block.go:23, 249, 307, 490) -/
def isRaw : Kind → Bool
  | .codeBlock | .fencedCodeBlock | .htmlBlock => true
  | _ => false

/-- the inline phase reads this node's lines: `!IsRaw()` (parser.go:1153) and `Lines().Len() > 0` (with no lines
    the first `PeekLine`, parser.go:1161, is nil and the loop ends). Reachability from the Document (walkBlock,
    parser.go:1130) is a property of the store, see `reachable`. -/
def inlineBearing (n : Node) : Bool := !isRaw n.kind && !n.lines.isEmpty

/-- `WFSegsFrom src lo segs` with `padding = 0`, as a Boolean (`len` = `len(src)`) -/
def wf0FromB (len : Int) : Int → List Segment → Bool
  | _, [] => true
  | lo, s :: rest =>
    decide (lo ≤ s.start) && decide (s.start < s.stop) && decide (s.stop ≤ len) && decide (s.padding = 0) &&
      !s.forceNewline && wf0FromB len s.stop rest

/-- `WF0 src segs` as a Boolean -/
def wf0B (src : Bytes) (segs : List Segment) : Bool := !segs.isEmpty && wf0FromB src.length 0 segs

theorem wf0FromB_iff (src : Bytes) : ∀ (segs : List Segment) (lo : Int),
    wf0FromB src.length lo segs = true ↔ (WFSegsFrom src lo segs ∧ ∀ s ∈ segs, s.padding = 0) := by
  intro segs
  induction segs with
  | nil => intro lo; simp [wf0FromB, WFSegsFrom]
  | cons a rest ih =>
    intro lo
    simp only [wf0FromB, WFSegsFrom, Bool.and_eq_true, decide_eq_true_eq, Bool.not_eq_true', ih a.stop,
      List.mem_cons, forall_eq_or_imp]
    constructor
    · rintro ⟨⟨⟨⟨⟨h1, h2⟩, h3⟩, h4⟩, h5⟩, h6, h7⟩
      exact ⟨⟨h1, h2, h3, by omega, h5, h6⟩, h4, h7⟩
    · rintro ⟨⟨h1, h2, h3, _, h5, h6⟩, h4, h7⟩
      exact ⟨⟨⟨⟨⟨h1, h2⟩, h3⟩, h4⟩, h5⟩, h6, h7⟩

theorem wf0B_iff (src : Bytes) (segs : List Segment) : wf0B src segs = true ↔ WF0 src segs := by
  unfold wf0B WF0 WFSegs
  rw [Bool.and_eq_true, wf0FromB_iff]
  have : (!segs.isEmpty) = true ↔ segs ≠ [] := by cases segs <;> simp
  rw [this]
  exact ⟨fun ⟨a, b, c⟩ => ⟨⟨a, b⟩, c⟩, fun ⟨⟨a, b⟩, c⟩ => ⟨a, b, c⟩⟩

instance (src : Bytes) (segs : List Segment) : Decidable (WF0 src segs) :=
  decidable_of_iff _ (wf0B_iff src segs)

/-- ids reachable from `id` through child lists in at most `fuel` steps (`fuel` = size of the store is enough for
    a tree), pre-order — the nodes `walkBlock` (parser.go:1130-1135) calls back on -/
def reach (nodes : List Node) : Nat → Nat → List Nat
  | 0, id => [id]
  | fuel + 1, id => id :: ((nodes.getD id default).children.map (reach nodes fuel)).flatten

/-- the nodes of the final tree (reachable from the Document, node 0) -/
def reachable (s : St) : List Node := (reach s.nodes s.nodes.length 0).map fun id => s.nodes.getD id default

/-- every inline-bearing node of the STORE — attached to the tree or not — has `WF0` lines -/
def allInlineWF0 (src : Bytes) (s : St) : Bool := s.nodes.all fun n => !inlineBearing n || wf0B src n.lines

/-- the same for the nodes of the final tree only (what `Parse` needs) -/
def treeInlineWF0 (src : Bytes) (s : St) : Bool := (reachable s).all fun n => !inlineBearing n || wf0B src n.lines

/-- THE INTERFACE STATEMENT (proved as `inline_lines_wf0` of GM.Props.Wf0): whenever the block phase returns, every block the inline phase
    will read has `WF0` lines, so `parseBlock_total` & co. apply to it. -/
def BlocksEstablishWF0 (src : Bytes) : Prop := ∀ s, GM.Blocks.run src = .ok s → allInlineWF0 src s = true

/-- the weaker form: only the nodes of the final tree -/
def BlocksEstablishTreeWF0 (src : Bytes) : Prop := ∀ s, GM.Blocks.run src = .ok s → treeInlineWF0 src s = true

/-- what the statement gives, node by node, in terms of the `Prop` the inline theorems assume -/
theorem wf0_of_allInlineWF0 {src : Bytes} {s : St} (h : allInlineWF0 src s = true) {n : Node} (hn : n ∈ s.nodes)
    (hb : inlineBearing n = true) : WF0 src n.lines := by
  have := (List.all_eq_true.mp h) n hn
  rw [hb] at this
  exact (wf0B_iff src n.lines).mp (by simpa using this)

/-- evaluation of the statement on one source (`false` also when the block phase panics) -/
def check (src : Bytes) : Bool :=
  match GM.Blocks.run src with
  | .ok s => allInlineWF0 src s && treeInlineWF0 src s
  | .error _ => false

/-- number of inline-bearing nodes in the final tree (so that a `check` is not vacuous) -/
def bearing (src : Bytes) : Nat :=
  match GM.Blocks.run src with
  | .ok s => ((reachable s).filter inlineBearing).length
  | .error _ => 0

/-- `inlineBearing` is false on the node a dangling id would read (`getD … default`) -/
theorem inlineBearing_default : inlineBearing (default : Node) = false := by decide

/-- the store-wide form implies the tree form: a reachable node is a node of the store (or the default node,
    which has no lines) -/
theorem treeInlineWF0_of_all {src : Bytes} {s : St} (h : allInlineWF0 src s = true) : treeInlineWF0 src s = true := by
  simp only [treeInlineWF0, reachable, List.all_eq_true, List.mem_map]
  rintro n ⟨id, _, rfl⟩
  by_cases hid : id < s.nodes.length
  · have hm : s.nodes.getD id default ∈ s.nodes := by
      rw [List.getD_eq_getElem?_getD, List.getElem?_eq_getElem hid]; simp
    exact List.all_eq_true.mp h _ hm
  · rw [List.getD_eq_getElem?_getD, List.getElem?_eq_none (by omega)]
    simp [inlineBearing_default]

theorem tree_of_store (src : Bytes) (h : BlocksEstablishWF0 src) : BlocksEstablishTreeWF0 src :=
  fun s hs => treeInlineWF0_of_all (h s hs)

/-! ### evaluation on samples (`(check src, bearing src)`: the statement holds — for the whole store and for the
tree — and the number of inline-bearing blocks in the tree, so that no sample is vacuous). Exhaustive evaluation
(not part of this file): all 8^n sources, n ≤ 7, over `' ' \t \n # - > a =`, all 13^5 over that plus `\r 1 . ` <`,
all 9^6 over `' ' \t \n - > a 1 . *`: `check = true` every time. -/

/-- paragraph: indentation, trailing spaces and tab, interior line -/
example : (check (strBytes "  a  \n   b \t \n"), bearing (strBytes "  a  \n   b \t \n")) = (true, 1) := by decide +kernel

/-- ATX headings: closing sequence, empty `#` (no lines: not inline-bearing), `##` + spaces, tab after `#`, no
    final newline -/
example : (check (strBytes "# h #\n#\n##   \n### x ###  \n#\tt"), bearing (strBytes "# h #\n#\n##   \n### x ###  \n#\tt"))
    = (true, 3) := by decide +kernel

/-- setext headings (two-line and one-line); the replaced paragraphs stay in the store, unreachable, with the
    same lines -/
example : (check (strBytes "a\n  b  \n===\nc\n---\n"), bearing (strBytes "a\n  b  \n===\nc\n---\n")) = (true, 2) := by
  decide +kernel

/-- tight list: TextBlocks replace the paragraphs (which stay in the store) -/
example : (check (strBytes "- a\n- b\n  c\n"), bearing (strBytes "- a\n- b\n  c\n")) = (true, 2) := by decide +kernel

/-- loose list -/
example : (check (strBytes "- a\n\n- b\n\n  c\n"), bearing (strBytes "- a\n\n- b\n\n  c\n")) = (true, 3) := by
  decide +kernel

/-- block quote, lazy continuation, last line without newline -/
example : (check (strBytes "> a\nb\n> c\n  d"), bearing (strBytes "> a\nb\n> c\n  d")) = (true, 1) := by decide +kernel

/-- tabs after the list marker and the quote marker, tab-indented continuation -/
example : (check (strBytes "-\ta\n\n\tb\n>\tc\n\t\td"), bearing (strBytes "-\ta\n\n\tb\n>\tc\n\t\td")) = (true, 3) := by
  decide +kernel

/-- CR LF -/
example : (check (strBytes "a\r\n b \r\n\r\n# h\r\n"), bearing (strBytes "a\r\n b \r\n\r\n# h\r\n")) = (true, 2) := by
  decide +kernel

/-- nested ordered / bullet lists -/
example : (check (strBytes "1. a\n   - b\n     c\n2. d"), bearing (strBytes "1. a\n   - b\n     c\n2. d")) = (true, 3) := by
  decide +kernel

/-- raw blocks (fenced code, HTML, indented code: padding and ForceNewline in their lines) are not inline-bearing -/
example : (check (strBytes "a  \n```\nx\n```\n<div>\ny\n\n    code\nz"),
    bearing (strBytes "a  \n```\nx\n```\n<div>\ny\n\n    code\nz")) = (true, 2) := by decide +kernel

/-- list in a quote with a lazy line, heading in a quote -/
example : (check (strBytes "> - a\n> b\n>\n> # h\n"), bearing (strBytes "> - a\n> b\n>\n> # h\n")) = (true, 2) := by
  decide +kernel

/-- setext heading inside a list item; quote with lazy line followed by a thematic break inside an item -/
example : (check (strBytes "- a\n  ===\n- > b\n  c\n  ---"), bearing (strBytes "- a\n  ===\n- > b\n  c\n  ---")) = (true, 2) := by
  decide +kernel

/-- the checker does reject: padding, ForceNewline, an empty line, lines out of order, no line at all -/
example : wf0B [97, 98] [{ start := 0, stop := 1, padding := 1 }] = false := by decide
example : wf0B [97, 98] [{ start := 0, stop := 1, forceNewline := true }] = false := by decide
example : wf0B [97, 98] [{ start := 1, stop := 1 }] = false := by decide
example : wf0B [97, 98] [{ start := 1, stop := 2 }, { start := 0, stop := 1 }] = false := by decide
example : wf0B [97, 98] [] = false := by decide
example : wf0B [97, 98] [{ start := 0, stop := 1 }, { start := 1, stop := 2 }] = true := by decide

end GM.Proof.BlocksWF0
