/-
  GM.Proof.UrlSafe — C04: what a browser reads out of the `href` / `src` values the renderer model writes.
  util.URLEscape leaves no space, control byte, `"`, `<`, `>` (`plainUrl`); on such a value character-reference
  decoding and the browser's cleaning are the identity, and the spec's scheme reader calls it dangerous only if
  html.IsDangerousURL does.
-/
import GM.Proof.UrlEscape
import GM.Model.Render
import GM.Spec.Url
import GM.Proof.Util

section PlainBytes
/-
  Which bytes util.URLEscape (model: urlEscapeLoop / urlCopies / urlEscapeRaw) can leave in
  its result: never a space or control byte (≤ 0x20, 0x7f), never `"`, `<`, `>`. `plainUrl` is the spec's
  `urlBytesClean`, so this is `urlEscapeRaw_clean` of GM.Proof.UrlEscape, where every branch of the loop is
  covered, including "input returned unchanged" (`urlCopies = false`).
-/

namespace GM.Proof
open GM

/-- a byte that a browser's URL parser does not strip and that cannot end a quoted attribute value -/
def plainUrlByte (c : UInt8) : Bool := c > 32 && c != 127 && c != 34 && c != 60 && c != 62

/-- no space, control, double-quote or angle-bracket byte anywhere -/
def plainUrl (b : Bytes) : Bool := b.all plainUrlByte

theorem plainUrl_append (a b : Bytes) : plainUrl (a ++ b) = (plainUrl a && plainUrl b) := by
  simp [plainUrl]

/-- (a): the escaping half of util.URLEscape returns a plain byte string, for every input -/
theorem urlEscapeRaw_plain (v : Bytes) : plainUrl (urlEscapeRaw v) = true := urlEscapeRaw_clean v

theorem urlEscape_plain (v : Bytes) (r : Bool) : plainUrl (urlEscape v r) = true :=
  urlEscapeRaw_plain _

end GM.Proof
end PlainBytes

section UrlSafe
/-
  Route: let d = urlEscape dest _ (the value that is classified AND written).
   (a) d is plain (first section): nothing for the browser to strip.
   (b) decoding the character references of escapeHTML d gives back d.
   (c) urlClean d = d.
   (d) the spec's scheme reader calls d dangerous only if html.IsDangerousURL does (for every byte string).
  So the guard and the browser look at the same bytes and the guard is at least as strict.
-/

namespace GM.Proof
open GM GM.Spec

/-! ### (b) character-reference decoding undoes EscapeHTML -/

/-- the four rows of the regenerated HTML5 entity table that EscapeHTML's output relies on -/
theorem ent_amp : lookupEntity [97, 109, 112] = some [38] := lookupEntity_ascii (by decide +kernel)
theorem ent_lt : lookupEntity [108, 116] = some [60] := lookupEntity_ascii (by decide +kernel)
theorem ent_gt : lookupEntity [103, 116] = some [62] := lookupEntity_ascii (by decide +kernel)
theorem ent_quot : lookupEntity [113, 117, 111, 116] = some [34] := lookupEntity_ascii (by decide +kernel)

theorem attrDecode_nil (named : Bytes → Option Bytes) (n : Nat) : attrDecode named n [] = [] := by
  unfold attrDecode; rfl

theorem attrDecode_cons_ne (named : Bytes → Option Bytes) (n : Nat) (c : UInt8) (r : Bytes) (h : c ≠ 38) :
    attrDecode named (n + 1) (c :: r) = c :: attrDecode named n r := by
  rw [attrDecode.eq_def]
  split <;> simp_all

theorem attrDecode_amp (named : Bytes → Option Bytes) (h : named [97, 109, 112] = some [38]) (n : Nat) (r : Bytes) :
    attrDecode named (n + 1) (38 :: 97 :: 109 :: 112 :: 59 :: r) = 38 :: attrDecode named n r := by
  simp [attrDecode, List.dropWhile, List.takeWhile, isAlnumB, isAlphaB, isDigitB, h]

theorem attrDecode_lt (named : Bytes → Option Bytes) (h : named [108, 116] = some [60]) (n : Nat) (r : Bytes) :
    attrDecode named (n + 1) (38 :: 108 :: 116 :: 59 :: r) = 60 :: attrDecode named n r := by
  simp [attrDecode, List.dropWhile, List.takeWhile, isAlnumB, isAlphaB, isDigitB, h]

theorem attrDecode_gt (named : Bytes → Option Bytes) (h : named [103, 116] = some [62]) (n : Nat) (r : Bytes) :
    attrDecode named (n + 1) (38 :: 103 :: 116 :: 59 :: r) = 62 :: attrDecode named n r := by
  simp [attrDecode, List.dropWhile, List.takeWhile, isAlnumB, isAlphaB, isDigitB, h]

theorem attrDecode_quot (named : Bytes → Option Bytes) (h : named [113, 117, 111, 116] = some [34]) (n : Nat)
    (r : Bytes) :
    attrDecode named (n + 1) (38 :: 113 :: 117 :: 111 :: 116 :: 59 :: r) = 34 :: attrDecode named n r := by
  simp [attrDecode, List.dropWhile, List.takeWhile, isAlnumB, isAlphaB, isDigitB, h]

/-- (b) for every byte string and every sufficient fuel -/
theorem attrDecode_escapeHTML (d : Bytes) :
    ∀ n, (escapeHTML d).length ≤ n → attrDecode lookupEntity n (escapeHTML d) = d := by
  induction d with
  | nil => intro n _; exact attrDecode_nil _ _
  | cons c d ih =>
    intro n hn
    rw [escapeHTML_cons] at hn ⊢
    rcases escByte_cases c with ⟨hc, h⟩ | ⟨hc, h⟩ | ⟨hc, h⟩ | ⟨hc, h⟩ | ⟨_, h2, _, _, h⟩ <;> rw [h] at hn ⊢ <;>
      simp only [List.length_append, List.length_cons, List.length_nil] at hn <;>
      obtain ⟨m, rfl⟩ : ∃ m, n = m + 1 := ⟨n - 1, by omega⟩
    · show attrDecode _ (m + 1) (38 :: 113 :: 117 :: 111 :: 116 :: 59 :: escapeHTML d) = _
      rw [attrDecode_quot _ ent_quot, ih m (by omega), hc]
    · show attrDecode _ (m + 1) (38 :: 97 :: 109 :: 112 :: 59 :: escapeHTML d) = _
      rw [attrDecode_amp _ ent_amp, ih m (by omega), hc]
    · show attrDecode _ (m + 1) (38 :: 108 :: 116 :: 59 :: escapeHTML d) = _
      rw [attrDecode_lt _ ent_lt, ih m (by omega), hc]
    · show attrDecode _ (m + 1) (38 :: 103 :: 116 :: 59 :: escapeHTML d) = _
      rw [attrDecode_gt _ ent_gt, ih m (by omega), hc]
    · show attrDecode _ (m + 1) (c :: escapeHTML d) = _
      rw [attrDecode_cons_ne _ _ _ _ h2, ih m (by omega)]

/-! ### (c) nothing to trim or strip in a plain value -/

theorem dropWhile_none (p : UInt8 → Bool) (l : Bytes) (h : ∀ a ∈ l, p a = false) : l.dropWhile p = l := by
  cases l with
  | nil => rfl
  | cons c cs => simp [List.dropWhile, h c (by simp)]

theorem plain_notC0 : ∀ c : UInt8, plainUrlByte c = true → isC0OrSpace c = false := by
  apply forall_uint8; decide +kernel

theorem plain_notTabNl : ∀ c : UInt8, plainUrlByte c = true → isTabNl c = false := by
  apply forall_uint8; decide +kernel

theorem urlClean_plain (s : Bytes) (h : plainUrl s = true) : urlClean s = s := by
  have hall : ∀ a ∈ s, plainUrlByte a = true := by simpa [plainUrl] using h
  unfold urlClean
  rw [dropWhile_none _ s (fun a ha => plain_notC0 a (hall a ha)),
    dropWhile_none _ s.reverse (fun a ha => plain_notC0 a (hall a (by simpa using ha))), List.reverse_reverse,
    List.filter_eq_self.2 (fun a ha => by simp [plain_notTabNl a (hall a ha)])]

/-! ### (d) the spec's scheme reader against html.IsDangerousURL -/

theorem lower_eq : Spec.lower = lowerAscii := rfl

/-- shape of a successful scheme split -/
theorem splitScheme_some {s sch rest : Bytes} (h : splitScheme s = some (sch, rest)) :
    ∃ pre, s = pre ++ 58 :: rest ∧ pre.map lowerAscii = sch := by
  unfold splitScheme at h
  split at h
  · rename_i c r
    split at h
    · simp only at h
      split at h
      · rename_i rest' hd
        cases h
        refine ⟨c :: r.takeWhile _, ?_, rfl⟩
        rw [List.cons_append, ← hd, List.takeWhile_append_dropWhile]
      · cases h
    · cases h
  · cases h

/-- a value that reads `<pre>:<rest>` has the case-folded prefix `lower(pre):` in the sense of html.hasPrefix -/
theorem hasPrefixFold_split (pre rest : Bytes) :
    hasPrefixFold (pre ++ 58 :: rest) (pre.map lowerAscii ++ [58]) = true := by
  unfold hasPrefixFold
  have h1 : (pre.map lowerAscii ++ [58]).length = pre.length + 1 := by simp
  have h2 : (pre ++ 58 :: rest).take (pre.length + 1) = pre ++ [58] := by
    rw [List.take_append, List.take_of_length_le (Nat.le_succ _)]; simp
  rw [h1, h2]
  simp [lowerAscii]

theorem hasPrefixFold_head {s : Bytes} {x : UInt8} {p : Bytes} (h : hasPrefixFold s (x :: p) = true) :
    ∃ c r, s = c :: r ∧ lowerAscii c = x := by
  unfold hasPrefixFold at h
  cases s with
  | nil => simp at h
  | cons c r =>
    refine ⟨c, r, rfl, ?_⟩
    simp only [List.length_cons, List.take_succ_cons, List.map_cons, Bool.and_eq_true, beq_iff_eq] at h
    exact (List.cons.inj h.2).1

theorem bJs_eq : bJs = strBytes "javascript" ++ [58] := by decide +kernel
theorem bVb_eq : bVb = strBytes "vbscript" ++ [58] := by decide +kernel
theorem bFile_eq : bFile = strBytes "file" ++ [58] := by decide +kernel
theorem bData_eq : bData = strBytes "data" ++ [58] := by decide +kernel
theorem bDataImage_eq : bDataImage = 100 :: strBytes "ata:image/" := by decide +kernel
theorem bJs_head : bJs = 106 :: strBytes "avascript:" := by decide +kernel
theorem bVb_head : bVb = 118 :: strBytes "bscript:" := by decide +kernel
theorem bFile_head : bFile = 102 :: strBytes "ile:" := by decide +kernel

/-- the spec's allowed media types are exactly the code's, each behind `image/` -/
theorem allowed_eq : allowedDataTypes = imageTypes.map (strBytes "image/" ++ ·) := by decide +kernel
theorem image_len : (strBytes "image/").length = 6 := by decide +kernel
theorem bDataImage_split : bDataImage = strBytes "data" ++ 58 :: strBytes "image/" := by
  decide +kernel
theorem data_len : (strBytes "data").length = 4 := by decide +kernel

/-- a scheme that is not `data` cannot also match the `data:image/` guard (first letters differ) -/
theorem not_dataImage_of_head {s : Bytes} {x : UInt8} {p : Bytes} (hx : x ≠ 100)
    (h : hasPrefixFold s (x :: p) = true) : hasPrefixFold s bDataImage = false := by
  obtain ⟨c, r, hs, hc⟩ := hasPrefixFold_head h
  cases hd : hasPrefixFold s bDataImage with
  | false => rfl
  | true =>
    rw [bDataImage_eq] at hd
    obtain ⟨c', r', hs', hc'⟩ := hasPrefixFold_head hd
    rw [hs] at hs'
    cases hs'
    exact absurd (hc.symm.trans hc') hx

/-- the code lower-cases only the media-type prefix, the spec the whole remainder: same verdict -/
theorem startsWith_of_hasPrefixFold (rest it : Bytes) (h6 : (rest.take 6).map lowerAscii = strBytes "image/")
    (h : hasPrefixFold (rest.drop 6) it = true) :
    startsWith (strBytes "image/" ++ it) (rest.map lowerAscii) = true := by
  unfold hasPrefixFold at h
  simp only [Bool.and_eq_true, beq_iff_eq] at h
  unfold startsWith
  rw [List.length_append, image_len, List.take_add, ← List.map_take, ← List.map_drop, ← List.map_take, h6, h.2]
  simp

/-- (d) for EVERY byte string: whatever the spec's scheme reader calls dangerous, html.IsDangerousURL rejects -/
theorem dangerousUrl_imp (d : Bytes) (h : dangerousUrl d = true) : isDangerousURL d = true := by
  unfold dangerousUrl at h
  split at h
  · rename_i sch rest hs
    obtain ⟨pre, hd, hpre⟩ := splitScheme_some hs
    have hfold := hasPrefixFold_split pre rest
    rw [← hd, hpre] at hfold
    simp only [Bool.or_eq_true, Bool.and_eq_true, beq_iff_eq] at h
    unfold isDangerousURL
    rcases h with ((hj | hv) | hf) | ⟨hdt, hty⟩
    · have h1 : hasPrefixFold d bJs = true := by rw [bJs_eq, ← hj]; exact hfold
      have h2 := not_dataImage_of_head (by decide) (bJs_head ▸ h1)
      simp [h1, h2]
    · have h1 : hasPrefixFold d bVb = true := by rw [bVb_eq, ← hv]; exact hfold
      have h2 := not_dataImage_of_head (by decide) (bVb_head ▸ h1)
      simp [h1, h2]
    · have h1 : hasPrefixFold d bFile = true := by rw [bFile_eq, ← hf]; exact hfold
      have h2 := not_dataImage_of_head (by decide) (bFile_head ▸ h1)
      simp [h1, h2]
    · have h1 : hasPrefixFold d bData = true := by rw [bData_eq, ← hdt]; exact hfold
      cases hdi : hasPrefixFold d bDataImage && decide (d.length ≥ 11) with
      | false => simp [h1]
      | true =>
        simp only [if_true]
        simp only [Bool.and_eq_true] at hdi
        -- d = pre ++ ':' :: rest with |pre| = 4, so d.drop 11 = rest.drop 6 and rest starts with image/ (folded)
        have hlen : pre.length = 4 := by
          have := congrArg List.length hpre
          rw [List.length_map, hdt, data_len] at this; exact this
        have hdrop : d.drop 11 = rest.drop 6 := by
          rw [hd, List.drop_append, List.drop_of_length_le (by omega), hlen]; rfl
        have h6 : (rest.take 6).map lowerAscii = strBytes "image/" := by
          have hdi1 := hdi.1
          unfold hasPrefixFold at hdi1
          simp only [Bool.and_eq_true, beq_iff_eq] at hdi1
          have hl : bDataImage.length = pre.length + (6 + 1) := by rw [hlen]; decide +kernel
          rw [hl, hd, List.take_append, bDataImage_split] at hdi1
          simp only [List.take_of_length_le (Nat.le_add_right _ _), Nat.add_sub_cancel_left, List.map_append] at hdi1
          have h2 := hdi1.2
          rw [hpre, hdt] at h2
          have h3 := List.append_cancel_left h2
          simp only [List.take_succ_cons, List.map_cons] at h3
          exact (List.cons.inj h3).2
        rw [hdrop]
        rw [allowed_eq, List.any_map] at hty
        simp only [Bool.not_eq_eq_eq_not, Bool.not_true, List.any_eq_false, Function.comp] at hty ⊢
        intro it hit
        cases hh : hasPrefixFold (rest.drop 6) it with
        | false => simp
        | true =>
          have := startsWith_of_hasPrefixFold rest it h6 hh
          rw [← lower_eq] at this
          exact absurd this (by simpa using hty it hit)
  · cases h

/-- what the browser-like reader sees in an escaped plain value is the value itself -/
theorem hrefDangerous_escapeHTML (s : Bytes) (h : plainUrl s = true) :
    hrefDangerous lookupEntity (escapeHTML s) = dangerousUrl s := by
  unfold hrefDangerous
  rw [attrDecode_escapeHTML s _ (Nat.le_refl _), urlClean_plain s h]

theorem hrefDangerous_nil : hrefDangerous lookupEntity [] = false := rfl

/-- the guarded write of an escaped URL is harmless, whatever was escaped -/
theorem safe_urlOut_raw (v : Bytes) : hrefDangerous lookupEntity (urlOut false (urlEscapeRaw v)) = false := by
  unfold urlOut
  cases hd : isDangerousURL (urlEscapeRaw v) with
  | true => simpa using hrefDangerous_nil
  | false =>
    simp only [Bool.false_or, Bool.not_false, if_true]
    rw [hrefDangerous_escapeHTML _ (urlEscapeRaw_plain v)]
    cases hs : dangerousUrl (urlEscapeRaw v) with
    | false => rfl
    | true => rw [dangerousUrl_imp _ hs] at hd; cases hd

/-- decoder-independent form of the guarded write: nothing, or the EscapeHTML image of a plain value the guard
    accepted — so every `&` in it begins one of `&amp; &lt; &gt; &quot;` and there is no other reference for any
    HTML decoder (with or without the semicolon-less forms browsers accept) to expand -/
theorem urlOut_form (d : Bytes) (hp : plainUrl d = true) :
    urlOut false d = [] ∨
      (urlOut false d = escapeHTML d ∧ plainUrl d = true ∧ isDangerousURL d = false ∧
        ampsOK4 (escapeHTML d) = true) := by
  unfold urlOut
  cases hd : isDangerousURL d with
  | true => left; simp
  | false => right; exact ⟨by simp, hp, rfl, escapeHTML_amps d⟩

/-- links and images -/
theorem safe_href (dest : Bytes) :
    hrefDangerous lookupEntity (urlOut false (urlEscape dest true)) = false := safe_urlOut_raw _

theorem escapeHTML_append (a b : Bytes) : escapeHTML (a ++ b) = escapeHTML a ++ escapeHTML b := by
  simp [escapeHTML]

theorem mailto_lit : strBytes "mailto:" = [109, 97, 105, 108, 116, 111, 58] := by decide +kernel

/-- a value the renderer prefixed with `mailto:` has scheme `mailto`, whatever follows -/
theorem mailto_not_dangerous (d : Bytes) : dangerousUrl (strBytes "mailto:" ++ d) = false := by
  rw [mailto_lit]
  have : splitScheme ([109, 97, 105, 108, 116, 111, 58] ++ d) = some ([109, 97, 105, 108, 116, 111], d) := by
    simp [splitScheme, List.takeWhile, List.dropWhile, isAlphaB, isAlnumB, isDigitB, lower]
  unfold dangerousUrl
  rw [this]
  have e1 : ([109, 97, 105, 108, 116, 111] == strBytes "javascript") = false := by decide +kernel
  have e2 : ([109, 97, 105, 108, 116, 111] == strBytes "vbscript") = false := by decide +kernel
  have e3 : ([109, 97, 105, 108, 116, 111] == strBytes "file") = false := by decide +kernel
  have e4 : ([109, 97, 105, 108, 116, 111] == strBytes "data") = false := by decide +kernel
  simp only [e1, e2, e3, e4, Bool.false_and, Bool.or_false]

/-- `<...>` autolinks and linkified URLs/e-mail addresses, with the optional `mailto:` the renderer adds -/
theorem safe_autolink (email : Bool) (url : Bytes) :
    hrefDangerous lookupEntity
      ((if email && !mailtoPrefixed url (strBytes "mailto:") then strBytes "mailto:" else []) ++
        urlOut false (urlEscape url false)) = false := by
  split
  · unfold urlOut
    have hm : plainUrl (strBytes "mailto:") = true := by decide +kernel
    have hme : escapeHTML (strBytes "mailto:") = strBytes "mailto:" := by decide +kernel
    cases hd : isDangerousURL (urlEscape url false) with
    | true =>
      simp only [Bool.not_true, Bool.or_false, Bool.false_eq_true, if_false, List.append_nil]
      rw [← hme, hrefDangerous_escapeHTML _ hm]
      simpa using mailto_not_dangerous []
    | false =>
      simp only [Bool.false_or, Bool.not_false, if_true]
      rw [← hme, ← escapeHTML_append, hrefDangerous_escapeHTML _ (by
        rw [plainUrl_append, hm, urlEscape_plain]; rfl)]
      exact mailto_not_dangerous _
  · rw [List.nil_append]; exact safe_urlOut_raw _

/-! ### footnote hrefs -/

theorem dropWhile_snoc (p : UInt8 → Bool) (a : Bytes) (c : UInt8) (hc : p c = false) :
    (a ++ [c]).dropWhile p = a.dropWhile p ++ [c] := by
  induction a with
  | nil => simp [List.dropWhile, hc]
  | cons x a ih =>
    simp only [List.cons_append, List.dropWhile]
    split
    · exact ih
    · rfl

/-- a value that starts with `#` has no scheme: after decoding and cleaning it still starts with `#` -/
theorem hash_not_dangerous (rest : Bytes) : hrefDangerous lookupEntity (35 :: rest) = false := by
  unfold hrefDangerous
  rw [List.length_cons, attrDecode_cons_ne _ _ _ _ (by decide)]
  generalize attrDecode lookupEntity rest.length rest = x
  unfold urlClean
  have h35 : isC0OrSpace 35 = false := by decide
  rw [show (35 :: x).dropWhile isC0OrSpace = 35 :: x by simp [List.dropWhile, h35], List.reverse_cons,
    dropWhile_snoc _ _ _ h35, List.reverse_append]
  simp [dangerousUrl, splitScheme, isTabNl, isAlphaB]

end GM.Proof
end UrlSafe
