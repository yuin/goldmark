/-
  GM.Proof.ShiftSimListB — the list parsers under the shift simulation, second part: `listItemOpen` without the
  hypothesis on run A's reader, and the step lemmas of GM.Proof.ShiftSimList with their side conditions derived from `K`.
-/
import GM.Proof.ShiftSimList
import GM.Proof.ShiftSimAcyc2
import GM.Proof.BlocksSpecList

namespace GM.Blocks.Sh
open GM GM.Text GM.Spec GM.Proof.Reader GM.Blocks

def lb_RIs (b : Bytes) (s : St) : Prop := ∃ c, RI b s.r c

theorem lb_noNodes (b : Bytes) : NoNodes (lb_RIs b) := ⟨fun _ _ hs => hs⟩

theorem lb_peekLine_keeps (b : Bytes) : Keeps (lb_RIs b) peekLine := by
  intro s a s' ⟨c, hc⟩ h
  obtain ⟨r', h1, h2⟩ := ri_peekLine hc
  unfold GM.Blocks.peekLine at h
  rw [h1] at h
  cases h
  exact ⟨c, h2⟩

theorem lb_lineOffset_keeps (b : Bytes) : Keeps (lb_RIs b) lineOffset := by
  intro s a s' ⟨c, hc⟩ h
  obtain ⟨v, r', h1, h2, _⟩ := ri_lineOffset hc
  unfold GM.Blocks.lineOffset at h
  rw [h1] at h
  cases h
  exact ⟨c, h2⟩

theorem lb_advPad_keeps (b : Bytes) (n p : Int) (hn : 0 ≤ n) : Keeps (lb_RIs b) (advanceAndSetPadding n p) := by
  intro s a s' ⟨c, hc⟩ h
  obtain ⟨r', h1, h2⟩ := ri_advanceAndSetPadding hc hn p
  unfold GM.Blocks.advanceAndSetPadding at h
  rw [h1] at h
  cases h
  exact ⟨_, h2⟩

theorem lb_lastOffset_keeps (I : St → Prop) (node : Nat) : Keeps I (lastOffset node) := by
  intro s a s' hs h
  rw [li_sim_lastOffset_st h]; exact hs

theorem lb_indentPosition_ge (bs : Bytes) (cur width : Int) : -1 ≤ (indentPosition bs cur width).1 := by
  unfold indentPosition indentPositionPadding
  by_cases hz : (width == 0) = true
  · rw [if_pos hz]; simp
  · rw [if_neg hz]
    have hge := (ippLoop_ge cur width bs 0 0 0).1
    simp only
    split
    · simp only; omega
    · simp

theorem lb_listItemOpen_keeps (b : Bytes) (parent : Nat) : Keeps (lb_RIs b) (listItemOpen parent) := by
  unfold listItemOpen
  refine Keeps.bind (getNode_keeps _) (fun n => ?_)
  by_cases c0 : (n.kind != Kind.list) = true
  · rw [if_pos c0]; exact Keeps.pure _
  · rw [if_neg c0]
    refine Keeps.bind (lb_lastOffset_keeps _ _) (fun off => ?_)
    refine Keeps.bind (lb_peekLine_keeps b) (fun x => ?_)
    obtain ⟨l, sg⟩ := x
    simp only []
    generalize l.getD [] = line
    generalize hmt : matchesListItem line false = mt
    obtain ⟨m, typ⟩ := mt
    simp only []
    by_cases c1 : (typ == ListTyp.notList) = true
    · rw [if_pos c1]; exact Keeps.pure _
    · rw [if_neg c1]
      have ok : ListMatchOK line m typ := matchesListItem_ok line false m typ hmt (by simpa using c1)
      by_cases c2 : m.r1 - off > 3
      · rw [if_pos c2]; exact Keeps.pure _
      · rw [if_neg c2]
        refine Keeps.bind (modPc_keeps _ (fun _ hs => hs)) (fun _ => ?_)
        refine Keeps.bind (lb_lineOffset_keeps b) (fun lo => ?_)
        refine Keeps.bind (liftE_keeps _) (fun io => ?_)
        refine Keeps.bind (newNode_keeps (lb_noNodes b) _) (fun nd => ?_)
        by_cases c3 : m.r4 < 0
        · rw [if_pos c3]; exact Keeps.pure _
        · rw [if_neg c3]
          refine Keeps.bind (liftE_keeps _) (fun sl => ?_)
          by_cases c4 : isBlank sl = true
          · rw [if_pos c4]; exact Keeps.pure _
          · rw [if_neg c4]
            refine Keeps.bind (liftE_keeps _) (fun sf => ?_)
            have hpos := lb_indentPosition_ge sf (lo + m.r4) io
            have h3 : 1 ≤ m.r3 := by
              have := ok.r1_ge; have := ok.r2; have := ok.r3_gt; omega
            refine Keeps.bind (lb_advPad_keeps b _ _ (by omega)) (fun _ => ?_)
            exact Keeps.pure _

theorem listItemOpen_sim (F : Frame) (b : Bytes) : OpenSim F b .listItem := by
  intro parent sA sB h hl
  exact listItemOpen_simH F b parent sA sB h hl
    (fun a sA' e => lb_listItemOpen_keeps b parent sA a sA' h.ri e)

theorem lb_lastNot0 {s : St} (hk : K s) (node : Nat) : li_sim_LastNot0 s node := by
  intro hl
  exact hk.doc.2.2 node (List.mem_of_getLast? hl)

theorem lb_kids_ne0 {s : St} (hk : K s) (node : Nat) : ∀ c ∈ (s.nodes.getD node default).children, c ≠ 0 := by
  intro c hc e
  subst e
  exact hk.doc.2.2 node hc

theorem listClose_simK (F : Frame) (hF : F.OK) (b : Bytes) : ∀ node rA rB sA sB, SRL F b rA rB sA sB → K sA → 0 < node →
    P2 (fun _ _ sA' sB' => SRL F b rA rB sA' sB') (bpClose .list node sA) (bpClose .list (F.ι node) sB) := by
  intro node rA rB sA sB h hk hn
  exact listClose_simN F hF b node rA rB sA sB (by omega) (lb_kids_ne0 hk node) h

theorem listContinue_simK (F : Frame) (hfl : F.flag = true) (b : Bytes) : ∀ node sA sB, SR F b sA sB → K sA →
    P2 (fun x y sA' sB' => y = x ∧ SRLim F b sA' sB' ∧ ((x.cont = true ∧ x.hasChildren = false) ∨ SR F b sA' sB'))
      (bpContinue .list node sA) (bpContinue .list (F.ι node) sB) := by
  intro node sA sB h hk
  exact listContinue_simW' F hfl b node sA sB h (lb_lastNot0 hk node)

theorem listContinue_eofK (F : Frame) (hfl : F.flag = true) (b : Bytes) : ∀ node sA sB, SR F b sA sB → K sA →
    P2 (fun x y sA' sB' => y = x ∧ SRLim F b sA' sB') (bpContinue .list node sA) (bpContinue .list (F.ι node) sB) := by
  intro node sA sB h hk
  exact listContinue_eof' F hfl b node sA sB h (lb_lastNot0 hk node)

theorem listItemContinue_simK (F : Frame) (hfl : F.flag = true) (b : Bytes) : ∀ node sA sB, SR F b sA sB →
    HasLine b sA → K sA → 0 < node → (∀ p, (sA.nodes.getD node default).parent = some p → p ≠ 0) →
    (∀ a sA', listItemContinue node sA = .ok (a, sA') → ∃ c', RI b sA'.r c') →
    P2 (fun x y sA' sB' => y = x ∧ SR F b sA' sB') (bpContinue .listItem node sA)
      (bpContinue .listItem (F.ι node) sB) := by
  intro node sA sB h hl _ hn hpar hri
  exact listItemContinue_simH F hfl b node sA sB h hl (by omega) hpar hri

end GM.Blocks.Sh
