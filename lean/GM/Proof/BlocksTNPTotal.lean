/-
  GM.Proof.BlocksTNPTotal — **the block phase with paragraph transformers of the WIDE contract ends normally for every source**
  (or with the transformers' error `e`): `runT_totalX`. `PTsSpecX` (GM.Proof.BlocksTNPXClose) allows transformers that, besides
  what `PTPost` allows, attach fresh subtrees behind the paragraph and keep a PREFIX of its lines (GFM tables).
  The theorems for the narrow contract `PTsSpec` (`runT_total`) and for restricted sources (`runT_total_noBar`,
  `runT_total_noSetext`, `runT_total_base`) are special cases: `PTsSpec → PTsSpecX`.
-/
import GM.Proof.BlocksTNPXRun
import GM.Proof.BlocksNoPanicAll
import GM.Proof.BlocksT

namespace GM.Blocks.T
open GM GM.Text GM.Spec GM.Proof.Reader

theorem runT_totalX (src : Bytes) (e : Panic) (pts : List PT) (hs : L.G.X.PTsSpecX src e pts) (hl : PTsOK pts) :
    (∃ s, runT pts src = .ok s ∧ NodesOK src s ∧ KidsOK s) ∨ runT pts src = .error e := by
  have := L.G.X.runG (lsp_all src) hs (closeLike_bpClose src)
  rw [← runT_eqC] at this
  rcases this with h | h | h
  · exact .inl h
  · exact absurd h (runT_noLoop hl src)
  · exact .inr h

/-- the theorem for the narrow contract, from the wide one -/
theorem runT_total_of_X (src : Bytes) (e : Panic) (pts : List PT) (hs : PTsSpec src e pts) (hl : PTsOK pts) :
    (∃ s, runT pts src = .ok s ∧ NodesOK src s ∧ KidsOK s) ∨ runT pts src = .error e :=
  runT_totalX src e pts (L.G.X.ptsSpecX_of_ptsSpec hs) hl

/-- **the block phase WITH paragraph transformers ends normally for EVERY source** (or with the transformers' run-time guard
    error `e`). No Go panic of `parseBlocks` / `openBlocks` / `closeBlocks` / `transformParagraph` and the ten default block
    parsers — including the RequireParagraph path (parser.go:985-997: `last == parent.LastChild()` always holds there,
    `paragraph.Close`, pop, transform, `goto retry` with `continuable = false`), `closeBlocks(lastIndex, i)` after a transformed
    retry (something is opened on the underline, so the stale slice read and the loop bounds are right) —, no fuel exhaustion,
    and neither contract monitor of `retryStepT` fires. The final state satisfies `NodesOK` (all line segments inside the
    source) and `KidsOK`. -/
theorem runT_total (src : Bytes) (e : Panic) (pts : List PT) (hs : PTsSpec src e pts) (hl : PTsOK pts) :
    (∃ s, runT pts src = .ok s ∧ NodesOK src s ∧ KidsOK s) ∨ runT pts src = .error e :=
  runT_total_of_X src e pts hs hl

/-- `runT_total` stated for a source no line view of which is a setext heading underline (there the RequireParagraph path is
    never entered and `.retryTransformed` is never answered) -/
theorem runT_total_noBar_kids (src : Bytes) (e : Panic) (pts : List PT) (hs : PTsSpec src e pts) (hl : PTsOK pts)
    (_hsrc : L.B.NoSetextBar src) :
    (∃ s, runT pts src = .ok s ∧ NodesOK src s ∧ KidsOK s) ∨ runT pts src = .error e :=
  runT_total src e pts hs hl

theorem runT_total_noBar (src : Bytes) (e : Panic) (pts : List PT) (hs : PTsSpec src e pts) (hl : PTsOK pts)
    (hsrc : L.B.NoSetextBar src) :
    (∃ s, runT pts src = .ok s ∧ NodesOK src s) ∨ runT pts src = .error e :=
  (runT_total_noBar_kids src e pts hs hl hsrc).imp (fun ⟨s, h, hn, _⟩ => ⟨s, h, hn⟩) id

/-- … for a source without `-` and `=`, the trigger bytes of the setext heading parser -/
theorem runT_total_noSetext (src : Bytes) (e : Panic) (pts : List PT) (hs : PTsSpec src e pts) (hl : PTsOK pts)
    (hsrc : SetextFree src) :
    (∃ s, runT pts src = .ok s ∧ NodesOK src s) ∨ runT pts src = .error e :=
  runT_total_noBar src e pts hs hl (noBar_of_setextFree src hsrc)

/-- … for a source without the trigger bytes of the setext heading, list and list item parsers -/
theorem runT_total_base (src : Bytes) (e : Panic) (pts : List PT) (hs : PTsSpec src e pts) (hl : PTsOK pts)
    (hsrc : SetextListFree src) :
    (∃ s, runT pts src = .ok s ∧ NodesOK src s) ∨ runT pts src = .error e :=
  runT_total_noSetext src e pts hs hl (fun b hb => ⟨(hsrc b hb).1, (hsrc b hb).2.1⟩)

end GM.Blocks.T
