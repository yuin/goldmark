/-
  GM.Proof.CMFragQuote — documents of blocks inside nested block quotes: what related segments and nodes of the block-quote
  simulation look like in bytes, one more quote level keeps the shape and the representation (`qshape_stepN`, `rep_step`),
  the iteration over the depth (`nest_of_base`, `convert_nest_genS`, `convert_nest_genSE`), `SimOK` for the classes of
  GM.Props.C08, and the class of a stage-10 source.
-/
import GM.Proof.QuoteSimTop
import GM.Proof.CMFrag6Main
import GM.Proof.CMFragBlockPhase
import GM.Proof.CMFrag5Defs
import GM.Proof.CMFragRep
import GM.Proof.CMFragGen

/-
  section CMFragClassQ — the source `spellK d` of a stage-10 document's contents (`QFrag d`) is in the class
  `GM.Blocks.C08Class` of the block-quote simulation (GM.Proof.QuoteSimTop): no tab, no carriage return, a final line
  feed, no byte that could start a list item; and it contains no `[`.
-/
section CMFragClassQ
namespace GM.Proof.CMFrag
open GM GM.Spec.CM GM.Spec.CMFrag

theorem qclean_facts : ∀ c : UInt8, qcleanByte c = true →
    c ≠ 9 ∧ c ≠ 13 ∧ c ≠ 91 ∧ (c ≠ 45 ∧ c ≠ 42 ∧ c ≠ 43 ∧ isNumeric c = false) := by
  apply forall_uint8; decide +kernel

theorem qfrag_partsQ (d : KDoc) (h : QFrag d) :
    KFrag d ∧ d.items ≠ [] ∧ ∀ c ∈ spellK d, qcleanByte c = true := by
  have := h
  simp only [QFrag, qfragB, Bool.and_eq_true, List.all_eq_true, Bool.not_eq_true', List.isEmpty_eq_false_iff] at this
  exact ⟨this.1.1, this.1.2, this.2⟩

def EndsNlQ (s : Bytes) : Prop := ∃ t, s = t ++ [10]

theorem EndsNlQ.getLast {s : Bytes} (h : EndsNlQ s) : s.getLast? = some 10 := by
  obtain ⟨t, rfl⟩ := h; simp

theorem EndsNlQ.prepend {s : Bytes} (h : EndsNlQ s) (a : Bytes) : EndsNlQ (a ++ s) := by
  obtain ⟨t, rfl⟩ := h; exact ⟨a ++ t, by simp⟩

theorem EndsNlQ.trailQ {s : Bytes} (h : EndsNlQ s) (n : Nat) : EndsNlQ (s ++ GM.Spec.CMFrag.blanks n) := by
  cases n with
  | zero => simpa [GM.Spec.CMFrag.blanks] using h
  | succ k =>
    refine ⟨s ++ List.replicate k 10, ?_⟩
    rw [GM.Spec.CMFrag.blanks, List.replicate_succ', List.append_assoc]

theorem endsNl_flatMapQ {α : Type} (f : α → Bytes) (xs : List α) (hne : xs ≠ []) (hf : ∀ x ∈ xs, EndsNlQ (f x)) :
    EndsNlQ (xs.flatMap f) := by
  have e : xs = xs.dropLast ++ [xs.getLast hne] := (List.dropLast_concat_getLast hne).symm
  rw [e, List.flatMap_append]
  refine EndsNlQ.prepend ?_ _
  simpa using hf _ (List.getLast_mem hne)

theorem endsNl_spellHBlockQ (b : HBlock) (hok : hblockOK b = true) : EndsNlQ (spellHBlock b) := by
  cases b with
  | base g =>
    cases g with
    | para lines =>
      simp only [hblockOK, gblockOK, Bool.and_eq_true, Bool.not_eq_true', List.isEmpty_eq_false_iff] at hok
      rw [spellHBlock, spellGBlock]
      exact endsNl_flatMapQ _ lines hok.1 (fun l _ => ⟨escSpell l, rfl⟩)
    | heading level text => exact ⟨_, rfl⟩
    | thematic c n => exact ⟨_, rfl⟩
  | fcode tilde n info lines => exact ⟨_, rfl⟩

theorem endsNl_spellKQ (d : KDoc) (hok : ∀ it ∈ d.items, hblockOK it.block = true) (hne : d.items ≠ []) :
    EndsNlQ (spellK d) := by
  rw [spellK]
  refine EndsNlQ.trailQ ?_ _
  exact endsNl_flatMapQ _ d.items hne (fun it hit => (endsNl_spellHBlockQ it.block (hok it hit)).prepend _)

theorem qclean_class (d : KDoc) (h : QFrag d) : GM.Blocks.C08Class (spellK d) := by
  obtain ⟨hk, hne, hc⟩ := qfrag_partsQ d h
  exact
    { tf := fun c hcm => (qclean_facts c (hc c hcm)).1
      cr := fun c hcm => (qclean_facts c (hc c hcm)).2.1
      nl := (endsNl_spellKQ d (kfrag_okK d hk).1 hne).getLast
      nolist := fun c hcm => (qclean_facts c (hc c hcm)).2.2.2 }

/-- no `[` in the contents: no link reference definition, no link -/
theorem qclean_no_bracket (d : KDoc) (h : QFrag d) : ∀ c ∈ spellK d, c ≠ 91 :=
  fun c hcm => (qclean_facts c ((qfrag_partsQ d h).2.2 c hcm)).2.2.1

theorem qfrag_kfrag (d : KDoc) (h : QFrag d) : KFrag d := (qfrag_partsQ d h).1

theorem qfrag_items_ne (d : KDoc) (h : QFrag d) : d.items ≠ [] := (qfrag_partsQ d h).2.1

end GM.Proof.CMFrag
end CMFragClassQ

/-
  section CMFragQSeg — what a segment of the run on `quotePrefix S` that is related (`SegRel`, GM.Proof.QuoteSimRel) to
  a segment `{ start := a, stop := b, padding := 0, forceNewline := fn }` of the run on `S` looks like, in natural
  numbers and bytes: it is `{ start := A, stop := A + (b - a), padding := 0, forceNewline := fn }` with the same
  bytes, the images keep the order, and the values of related segment lists agree. `sg` (fn = false) and `csg`
  (fn = true) are the instances (`…_sg`, `…_csg`).
-/
section CMFragQSeg
namespace GM.Proof.CMFrag
open GM GM.Text GM.Blocks

/-- `SegRel` for a padding-free segment, in natural numbers -/
theorem segRel_natQ {S : Bytes} {a b : Nat} {fn : Bool} {t : Segment}
    (h : SegRel S { start := (a : Nat), stop := (b : Nat), padding := 0, forceNewline := fn } t) :
    ∃ k ls, LineAt S k ls ∧ ls ≤ a ∧ a ≤ b ∧ b ≤ lineEnd S ls ∧
      t = { start := ((a + 2 * (k + 1) : Nat) : Int), stop := ((b + 2 * (k + 1) : Nat) : Int), padding := 0,
            forceNewline := fn } := by
  obtain ⟨k, ls, hl, h1, h2, h3, rfl⟩ := h
  simp only at h1 h2 h3
  refine ⟨k, ls, hl, by omega, by omega, by omega, ?_⟩
  simp only [shK, Segment.mk.injEq, and_true]
  constructor <;> omega

/-- a non-empty segment of `S` that lies in one line (its stop may be behind the line's line feed) and its image -/
theorem segRel_transportQ {S : Bytes} {a b : Nat} {fn : Bool} {t : Segment}
    (h : SegRel S { start := (a : Nat), stop := (b : Nat), padding := 0, forceNewline := fn } t) (hab : a < b)
    (hb : b ≤ S.length) :
    ∃ A : Nat, t = { start := (A : Nat), stop := ((A + (b - a) : Nat) : Int), padding := 0, forceNewline := fn } ∧
      A + (b - a) ≤ (quotePrefix S).length ∧
      sub (quotePrefix S) A (A + (b - a)) = sub S a b ∧ a + 2 ≤ A := by
  obtain ⟨k, ls, hl, h1, h2, h3, rfl⟩ := segRel_natQ h
  have hlen := qp_length_ge hl
  have e : a + 2 * (k + 1) + (b - a) = b + 2 * (k + 1) := by omega
  refine ⟨a + 2 * (k + 1), by rw [e], by omega, ?_, by omega⟩
  rw [e]
  exact qp_sub hl h1 h2 h3

/-- images keep the order -/
theorem segRel_orderQ {S : Bytes} {a b a' b' A B A' B' : Nat} {fn fn' gn gn' : Bool}
    (h : SegRel S { start := (a : Nat), stop := (b : Nat), padding := 0, forceNewline := fn }
      { start := (A : Nat), stop := (B : Nat), padding := 0, forceNewline := gn })
    (h' : SegRel S { start := (a' : Nat), stop := (b' : Nat), padding := 0, forceNewline := fn' }
      { start := (A' : Nat), stop := (B' : Nat), padding := 0, forceNewline := gn' })
    (hab : a < b) (hab' : a' < b') (hle : b ≤ a') (hb' : b' ≤ S.length) :
    B ≤ A' := by
  obtain ⟨k, ls, hl, h1, h2, h3, e⟩ := segRel_natQ h
  obtain ⟨k', ls', hl', h1', h2', h3', e'⟩ := segRel_natQ h'
  have hk : lineNo S a = k := lineNo_in hl h1 (by omega)
  have hk' : lineNo S a' = k' := lineNo_in hl' h1' (by omega)
  have hm : lineNo S a ≤ lineNo S a' := lineNo_mono S (by omega)
  simp only [Segment.mk.injEq, true_and] at e e'
  omega

theorem segRel_valueQ {S : Bytes} {a b : Nat} {fn : Bool} {t : Segment}
    (h : SegRel S { start := (a : Nat), stop := (b : Nat), padding := 0, forceNewline := fn } t) (hab : a < b)
    (hb : b ≤ S.length) :
    t.value (quotePrefix S) =
      Segment.value { start := (a : Nat), stop := (b : Nat), padding := 0, forceNewline := fn } S :=
  html_value_q h

/-- the values of related lists of such segments -/
theorem segsRel_valuesQ {S : Bytes} : ∀ (L L' : List Segment), SegsRel S L L' →
    (∀ s ∈ L, ∃ (a b : Nat) (fn : Bool),
      s = { start := (a : Nat), stop := (b : Nat), padding := 0, forceNewline := fn } ∧ a < b ∧ b ≤ S.length) →
    GM.Convert.segValues (quotePrefix S) L' = GM.Convert.segValues S L
  | [], [], _, _ => rfl
  | [], _ :: _, h, _ => h.elim
  | _ :: _, [], h, _ => h.elim
  | s :: L, t :: L', ⟨h1, h2⟩, hs => by
    have ih := segsRel_valuesQ L L' h2 (fun x hx => hs x (List.mem_cons_of_mem _ hx))
    have hv : t.value (quotePrefix S) = s.value S := html_value_q h1
    simp only [GM.Convert.segValues]
    rw [hv, ih]

theorem segRel_transportQ_sg {S : Bytes} {a b : Nat} {t : Segment} (h : SegRel S (sg a b) t) (hab : a < b)
    (hb : b ≤ S.length) :
    ∃ A : Nat, t = sg A (A + (b - a)) ∧ A + (b - a) ≤ (quotePrefix S).length ∧
      sub (quotePrefix S) A (A + (b - a)) = sub S a b ∧ a + 2 ≤ A :=
  segRel_transportQ (fn := false) h hab hb

theorem segRel_transportQ_csg {S : Bytes} {a b : Nat} {t : Segment} (h : SegRel S (csg a b) t) (hab : a < b)
    (hb : b ≤ S.length) :
    ∃ A : Nat, t = csg A (A + (b - a)) ∧ A + (b - a) ≤ (quotePrefix S).length ∧
      sub (quotePrefix S) A (A + (b - a)) = sub S a b ∧ a + 2 ≤ A :=
  segRel_transportQ (fn := true) h hab hb

theorem segRel_orderQ_sg {S : Bytes} {a b a' b' A B A' B' : Nat} (h : SegRel S (sg a b) (sg A B))
    (h' : SegRel S (sg a' b') (sg A' B')) (hab : a < b) (hab' : a' < b') (hle : b ≤ a') (hb' : b' ≤ S.length) :
    B ≤ A' :=
  segRel_orderQ (fn := false) (fn' := false) (gn := false) (gn' := false) h h' hab hab' hle hb'

theorem segRel_orderQ_csg {S : Bytes} {a b a' b' A B A' B' : Nat} (h : SegRel S (csg a b) (csg A B))
    (h' : SegRel S (csg a' b') (csg A' B')) (hab : a < b) (hab' : a' < b') (hle : b ≤ a') (hb' : b' ≤ S.length) :
    B ≤ A' :=
  segRel_orderQ (fn := true) (fn' := true) (gn := true) (gn' := true) h h' hab hab' hle hb'

theorem segRel_valueQ_csg {S : Bytes} {a b : Nat} {t : Segment} (h : SegRel S (csg a b) t) (hab : a < b)
    (hb : b ≤ S.length) : t.value (quotePrefix S) = (csg a b).value S :=
  segRel_valueQ (fn := true) h hab hb

theorem segsRel_valuesQ_sg {S : Bytes} (L L' : List Segment) (h : SegsRel S L L')
    (hs : ∀ s ∈ L, ∃ a b : Nat, s = sg a b ∧ a < b ∧ b ≤ S.length) :
    GM.Convert.segValues (quotePrefix S) L' = GM.Convert.segValues S L :=
  segsRel_valuesQ L L' h (fun s m => by obtain ⟨a, b, e, h1, h2⟩ := hs s m; exact ⟨a, b, false, e, h1, h2⟩)

theorem segsRel_valuesQ_csg {S : Bytes} (L L' : List Segment) (h : SegsRel S L L')
    (hs : ∀ s ∈ L, ∃ a b : Nat, s = csg a b ∧ a < b ∧ b ≤ S.length) :
    GM.Convert.segValues (quotePrefix S) L' = GM.Convert.segValues S L :=
  segsRel_valuesQ L L' h (fun s m => by obtain ⟨a, b, e, h1, h2⟩ := hs s m; exact ⟨a, b, true, e, h1, h2⟩)

end GM.Proof.CMFrag
end CMFragQSeg

/-
  section CMFragNSeg — the segment facts of section CMFragQSeg for one more block quote around lines in position-list
  form (`LinesAtG`): the related segments of a paragraph are the same lines somewhere in `quotePrefix S`, in order
  (`segsRel_paraG_N`); the shape "natural-number bounds, non-empty, inside the source" (`NatSegs`) is kept by the
  images, and the classes (`C08Class`, no `[`) are kept by `quotePrefix`.
-/
section CMFragNSeg
namespace GM.Proof.CMFrag
open GM GM.Text GM.Blocks

/-- cast normalisation: a segment written with default fields and any `Int` expressions -/
theorem seg_eqQ {a b c d : Int} (h1 : a = c) (h2 : b = d) :
    ({ start := a, stop := b } : Segment) = { start := c, stop := d, padding := 0, forceNewline := false } := by
  subst h1; subst h2; rfl

/-- `segRel_transportQ` for a segment written the way `paraSegs` writes it -/
theorem segRel_transportQ_int {S : Bytes} {p n : Nat} {e : Int} {t : Segment}
    (h : SegRel S { start := (p : Int), stop := e } t) (he : e = (p : Int) + (n : Int)) (hn : 0 < n)
    (hb : p + n ≤ S.length) :
    ∃ A : Nat, (∀ e' : Int, e' = (A : Int) + (n : Int) → t = { start := (A : Int), stop := e' }) ∧
      A + n ≤ (quotePrefix S).length ∧
      sub (quotePrefix S) A (A + n) = sub S p (p + n) ∧
      SegRel S { start := (p : Nat), stop := ((p + n : Nat) : Int), padding := 0, forceNewline := false }
        { start := (A : Nat), stop := ((A + n : Nat) : Int), padding := 0, forceNewline := false } := by
  have e1 : ({ start := (p : Int), stop := e } : Segment) =
      { start := ((p : Nat) : Int), stop := ((p + n : Nat) : Int), padding := 0, forceNewline := false } :=
    seg_eqQ rfl (by omega)
  rw [e1] at h
  obtain ⟨A, ht, h2, h3, _⟩ := segRel_transportQ h (by omega) hb
  have hd : p + n - p = n := by omega
  rw [hd] at ht h2 h3
  refine ⟨A, ?_, h2, h3, ?_⟩
  · intro e' he'
    rw [ht]
    exact (seg_eqQ rfl (by omega)).symm
  · rw [← ht]; exact h

/-- `segRel_orderQ` with the second pair written the way `paraSegs` / `paraSegsG` write it -/
theorem segRel_orderQ_int {S : Bytes} {p n q m A B : Nat} {e f : Int}
    (h1 : SegRel S { start := (p : Nat), stop := ((p + n : Nat) : Int), padding := 0, forceNewline := false }
      { start := (A : Nat), stop := ((A + n : Nat) : Int), padding := 0, forceNewline := false })
    (h2 : SegRel S { start := (q : Int), stop := e } { start := (B : Int), stop := f })
    (he : e = (q : Int) + (m : Int)) (hf : f = (B : Int) + (m : Int)) (hn : 0 < n) (hm : 0 < m)
    (hle : p + n ≤ q) (hb : q + m ≤ S.length) : A + n ≤ B := by
  have e1 : ({ start := (q : Int), stop := e } : Segment) =
      { start := ((q : Nat) : Int), stop := ((q + m : Nat) : Int), padding := 0, forceNewline := false } :=
    seg_eqQ rfl (by omega)
  have e2 : ({ start := (B : Int), stop := f } : Segment) =
      { start := ((B : Nat) : Int), stop := ((B + m : Nat) : Int), padding := 0, forceNewline := false } :=
    seg_eqQ rfl (by omega)
  rw [e1, e2] at h2
  exact segRel_orderQ h1 h2 (by omega) (by omega) hle hb

/-- a non-last line of `LinesAtG` and its line feed lie inside the source -/
theorem linesAtG_boundN {S : Bytes} {p p' : Nat} {ps : List Nat} {l l' : Bytes} {rest : List Bytes}
    (h : LinesAtG S (p :: p' :: ps) (l :: l' :: rest)) : p + l.length + 1 ≤ S.length := by
  have hbd := paraEndG_boundsG rest ps p' l' h.2.2
  have hpp := h.2.1
  omega

/-- the line segments of a paragraph of the run on `S` and the related (`SegsRel`) segments of the run on
    `quotePrefix S`: the same lines, lying somewhere in `quotePrefix S`, in order -/
theorem segsRel_paraG_N {S : Bytes} : ∀ (ls : List Bytes) (ps : List Nat) (L' : List Segment), LinesAtG S ps ls →
    (∀ l ∈ ls, l ≠ []) → SegsRel S (paraSegsG ps ls) L' →
    ∃ ps' : List Nat, L' = paraSegsG ps' ls ∧ LinesAtG (quotePrefix S) ps' ls
  | [], [], L', _, _, h => by
    cases L' with
    | nil => exact ⟨[], rfl, trivial⟩
    | cons _ _ => exact h.elim
  | [], [_], _, hla, _, _ => hla.elim
  | [], _ :: _ :: _, _, hla, _, _ => hla.elim
  | [_], [], _, hla, _, _ => hla.elim
  | [_], _ :: _ :: _, _, hla, _, _ => hla.elim
  | _ :: _ :: _, [], _, hla, _, _ => hla.elim
  | _ :: _ :: _, [_], _, hla, _, _ => hla.elim
  | [l], [p], L', hla, hne, h => by
    cases L' with
    | nil => exact h.elim
    | cons t L'' =>
      cases L'' with
      | cons _ _ => exact h.2.elim
      | nil =>
        have hl : 0 < l.length := List.length_pos_iff.mpr (hne l (List.mem_singleton.mpr rfl))
        have h1 : SegRel S { start := (p : Int), stop := (p : Int) + (l.length : Int) } t := h.1
        obtain ⟨A, ht, h2, h3, _⟩ := segRel_transportQ_int (n := l.length) h1 rfl hl hla.2
        refine ⟨[A], ?_, ?_, h2⟩
        · show [t] = [{ start := (A : Int), stop := (A : Int) + (l.length : Int) }]
          rw [ht ((A : Int) + (l.length : Int)) rfl]
        · rw [h3]; exact hla.1
  | l :: l' :: rest, p :: p' :: ps0, L', hla, hne, h => by
    cases L' with
    | nil => exact h.elim
    | cons t1 L1 =>
      have h1 : SegRel S { start := (p : Int), stop := (p : Int) + (l.length : Int) + 1 } t1 := h.1
      have hr : SegsRel S (paraSegsG (p' :: ps0) (l' :: rest)) L1 := h.2
      have hb : p + l.length + 1 ≤ S.length := linesAtG_boundN hla
      obtain ⟨hs, hpp, hla'⟩ := hla
      have hl' : 0 < l'.length :=
        List.length_pos_iff.mpr (hne l' (List.mem_cons_of_mem _ (List.mem_cons_self ..)))
      obtain ⟨ps, hL1, hG⟩ := segsRel_paraG_N (l' :: rest) (p' :: ps0) L1 hla'
        (fun x hx => hne x (List.mem_cons_of_mem _ hx)) hr
      obtain ⟨A1, ht1, _, s1, r1⟩ := segRel_transportQ_int (n := l.length + 1) h1 (by omega) (by omega) hb
      cases ps with
      | nil => exact hG.elim
      | cons A2 ps' =>
        have key : A1 + (l.length + 1) ≤ A2 := by
          subst hL1
          cases rest with
          | nil =>
            cases ps0 with
            | cons _ _ => exact hla'.elim
            | nil =>
              cases ps' with
              | cons _ _ => exact hG.elim
              | nil =>
                have h2 : SegRel S
                    { start := (p' : Int), stop := (p' : Int) + (l'.length : Int) }
                    { start := (A2 : Int), stop := (A2 : Int) + (l'.length : Int) } := hr.1
                exact segRel_orderQ_int (m := l'.length) r1 h2 rfl rfl (by omega) hl' (by omega) hla'.2
          | cons l'' rest' =>
            cases ps0 with
            | nil => exact hla'.elim
            | cons p'' ps00 =>
              cases ps' with
              | nil => exact hG.elim
              | cons A3 ps'' =>
                have hb' : p' + l'.length + 1 ≤ S.length := linesAtG_boundN hla'
                have h2 : SegRel S
                    { start := (p' : Int), stop := (p' : Int) + (l'.length : Int) + 1 }
                    { start := (A2 : Int), stop := (A2 : Int) + (l'.length : Int) + 1 } := hr.1
                exact segRel_orderQ_int (m := l'.length + 1) r1 h2 (by omega) (by omega) (by omega) (by omega)
                  (by omega) (by omega)
        refine ⟨A1 :: A2 :: ps', ?_, ?_, by omega, hG⟩
        · show t1 :: L1 = { start := (A1 : Int), stop := (A1 : Int) + (l.length : Int) + 1 } ::
            paraSegsG (A2 :: ps') (l' :: rest)
          rw [hL1, ht1 ((A1 : Int) + (l.length : Int) + 1) (by omega)]
        · exact s1.trans hs

theorem natSegs_imageN {S : Bytes} : ∀ (L L' : List Segment), SegsRel S L L' → NatSegs S L →
    NatSegs (quotePrefix S) L'
  | [], [], _, _ => fun _ hm => nomatch hm
  | [], _ :: _, h, _ => h.elim
  | _ :: _, [], h, _ => h.elim
  | s :: L, t :: L', ⟨h1, h2⟩, hs => by
    have ih := natSegs_imageN L L' h2 (fun x hx => hs x (List.mem_cons_of_mem _ hx))
    obtain ⟨a, b, fn, rfl, hab, hb⟩ := hs s (List.mem_cons_self ..)
    obtain ⟨A, ht, hA, _, _⟩ := segRel_transportQ h1 hab hb
    intro x hx
    rcases List.mem_cons.mp hx with rfl | hx
    · exact ⟨A, A + (b - a), fn, ht, by omega, hA⟩
    · exact ih x hx

theorem natSeg_imageN {S : Bytes} {s t : Segment} (h : SegRel S s t) (hs : NatSegs S [s]) :
    NatSegs (quotePrefix S) [t] :=
  natSegs_imageN [s] [t] ⟨h, trivial⟩ hs

/-- the value of a related segment of that shape (general form of `segRel_valueQ`) -/
theorem segRel_valueN {S : Bytes} {s t : Segment} (h : SegRel S s t) (_hs : NatSegs S [s]) :
    t.value (quotePrefix S) = s.value S :=
  html_value_q h

theorem getLast_quotePrefixGoN : ∀ (s : Bytes) (b : Bool) (c : UInt8), s.getLast? = some c →
    (quotePrefixGo s b).getLast? = some c
  | [], _, _, h => by cases h
  | [x], b, c, h => by
    have e : x = c := by simpa using h
    subst e
    cases b <;> simp [quotePrefixGo]
  | x :: y :: ys, b, c, h => by
    have h' : (y :: ys).getLast? = some c := by rw [List.getLast?_cons_cons] at h; exact h
    have ih := getLast_quotePrefixGoN (y :: ys) (x == 10) c h'
    have hne : quotePrefixGo (y :: ys) (x == 10) ≠ [] := by
      intro e; rw [e] at ih; cases ih
    obtain ⟨z, zs, ez⟩ := List.exists_cons_of_ne_nil hne
    rw [ez] at ih
    cases b
    · show ([] ++ x :: quotePrefixGo (y :: ys) (x == 10)).getLast? = some c
      rw [ez]
      simp only [List.nil_append, List.getLast?_cons_cons]
      exact ih
    · show ([62, 32] ++ x :: quotePrefixGo (y :: ys) (x == 10)).getLast? = some c
      rw [ez]
      simp only [List.cons_append, List.nil_append, List.getLast?_cons_cons]
      exact ih

theorem c08Class_prefixN {S : Bytes} (h : C08Class S) : C08Class (quotePrefix S) where
  tf := fun c hc => by
    rcases mem_quotePrefixGo S true c hc with rfl | rfl | hm
    · decide
    · decide
    · exact h.tf c hm
  cr := fun c hc => by
    rcases mem_quotePrefixGo S true c hc with rfl | rfl | hm
    · decide
    · decide
    · exact h.cr c hm
  nl := getLast_quotePrefixGoN S true 10 h.nl
  nolist := fun c hc => by
    rcases mem_quotePrefixGo S true c hc with rfl | rfl | hm
    · decide
    · decide
    · exact h.nolist c hm

theorem noBracket_prefixN {S : Bytes} (h : ∀ b ∈ S, b ≠ 91) : ∀ b ∈ quotePrefix S, b ≠ 91 := by
  intro b hb
  rcases mem_quotePrefixGo S true b hb with rfl | rfl | hm
  · decide
  · decide
  · exact h b hm

end GM.Proof.CMFrag
end CMFragNSeg

/-
  section CMFragNMain — one more block quote: the simulation `GM.Blocks.run_sim` relates the store of the run on `X` to
  the store of the run on `quotePrefix X` (`StoreRel`). The shape Document, `k` Blockquotes, leaves gets one more
  Blockquote (`qshape_stepN`); the node related (`NodeRel`) to a node that represents a block represents the block again
  (`rep_step`), so `RepDT` (GM.Proof.CMFragRep) says what `docTree` reads from it at every depth.
-/
section CMFragNMain
namespace GM.Proof.CMFrag
open GM GM.Text GM.Blocks GM.Spec

/-- the block phase with the link-reference-definition transformer is the plain block phase on a source without `[`
    (from `GM.Props.ConvertE2E.block_phase_bracket_free` and `GM.Props.ConvertNP.block_phase_total`) -/
def BPFree : Prop :=
  ∀ src : Bytes, (∀ b ∈ src, b ≠ 91) → GM.Convert.blockPhase true src = GM.Blocks.run src

theorem qshape_stepN {S : Bytes} {k n : Nat} {nA nB leavesA : List Blocks.Node} (h : QShapeN k n nA leavesA)
    (hr : StoreRel S nA nB) : ∃ leavesB, QShapeN (k + 1) n nB leavesB ∧ RelL (NodeRel S false) leavesA leavesB := by
  have hlen : nB.length = k + 1 + 1 + n := by rw [hr.len, h.eq]; omega
  have hleaf : ∀ j, (nA.getD (k + 1 + j) default).children = [] := by
    intro j
    by_cases hj : j < n
    · apply h.leaf
      rw [h.leavesEq, ← getD_dropN]
      exact getD_mem _ _ (by simp [h.eq] <;> omega)
    · rw [getD_out nA _ (by rw [h.eq]; omega)]; rfl
  refine ⟨nB.drop (k + 1 + 1), ⟨hlen, rfl, ?_, ?_, ?_⟩, ?_⟩
  · rw [hr.doc0]
    exact ⟨rfl, rfl, by simp⟩
  · intro i h1 h2
    obtain ⟨j, rfl⟩ : ∃ j, i = j + 1 := ⟨i - 1, by omega⟩
    have hn := hr.node j
    by_cases hj : j = 0
    · subst hj
      have hk0 := hn.kind
      simp only [beq_self_eq_true, if_true] at hk0
      have hl0 := hn.lines
      rw [h.root.2.1] at hl0
      refine ⟨hk0.1, segsRel_nil hl0, ?_⟩
      rw [hn.children, h.root.2.2]
      by_cases hk : k = 0
      · subst hk; simp [map_succ_rangeN]
      · rw [if_neg hk, if_neg (by omega)]; rfl
    · have e : ((j == 0) : Bool) = false := beq_eq_false_iff_ne.mpr hj
      rw [e] at hn
      have hk0 := hn.kind
      simp only [Bool.false_eq_true, if_false] at hk0
      have hq := h.quote j (by omega) (by omega)
      have hl0 := hn.lines
      rw [hq.2.1] at hl0
      refine ⟨by rw [hk0, hq.1], segsRel_nil hl0, ?_⟩
      rw [hn.children, hq.2.2]
      by_cases hk : j = k
      · subst hk; simp [map_succ_rangeN]
      · rw [if_neg hk, if_neg (by omega)]; rfl
  · intro m hm
    obtain ⟨j, hj, rfl⟩ := List.getElem_of_mem hm
    rw [List.getElem_drop]
    have hn := (hr.node (k + 1 + j)).children
    rw [hleaf j] at hn
    have e : nB.getD (k + 1 + j + 1) default = nB[k + 1 + 1 + j]'(by simp at hj; omega) := by
      rw [List.getD_eq_getElem?_getD, List.getElem?_eq_getElem (by simp at hj; omega)]
      simp only [Option.getD_some]
      congr 1; omega
    rw [← e, hn]; rfl
  · rw [h.leavesEq]
    apply relL_of_index
    · simp [hlen, h.eq]
    · intro j _
      rw [getD_dropN, getD_dropN]
      have hn := hr.node (k + 1 + j)
      have e : ((k + 1 + j == 0) : Bool) = false := beq_eq_false_iff_ne.mpr (by omega)
      rw [e] at hn
      have e2 : k + 1 + 1 + j = k + 1 + j + 1 := by omega
      rw [e2]
      exact hn

/-- what the block phase needs beyond `Good5` for the transport: no line of a paragraph / heading is empty -/
def LinesNE : Raw5 → Prop
  | .old (.para ls) => ∀ l ∈ ls, l ≠ []
  | .old (.atx _ l) => l ≠ []
  | .icode _ => False          -- indented code blocks are not covered inside block quotes
  | _ => True

theorem linesNE_of_good (b : Raw5) (h : Good5 b) (hnic : isIcB b = false) : LinesNE b := by
  cases b with
  | old b' =>
    cases b' with
    | para ls => exact fun l hl => blkLine_ne (h.2 l hl)
    | atx level l => exact blkLine_ne h.2.2.1
    | hr x => trivial
  | fence fc n info ls => trivial
  | icode ls => exact Bool.noConfusion hnic

theorem rep_step {X : Bytes} (b : Raw5) (hne : LinesNE b) (m m' : Blocks.Node) (h : Rep X b m)
    (hr : NodeRel X false m m') : Rep (quotePrefix X) b m' := by
  have hk := hr.kind
  have hli := hr.lines
  simp only [Bool.false_eq_true, if_false] at hk
  cases b with
  | icode ls => exact hne.elim
  | old b' =>
    cases b' with
    | hr x =>
      obtain ⟨h1, h2⟩ := h
      rw [h2] at hli
      exact ⟨by rw [hk, h1], segsRel_nil hli⟩
    | para ls =>
      obtain ⟨h1, ps, h2, h3⟩ := h
      rw [h2] at hli
      obtain ⟨ps', hL, hG⟩ := segsRel_paraG_N ls ps m'.lines h3 hne hli
      exact ⟨by rw [hk, h1], ps', hL, hG⟩
    | atx level l =>
      obtain ⟨h1, h2, A, h3, h4⟩ := h
      rw [h3] at hli
      have hne' : l ≠ [] := hne
      obtain ⟨ps', hL, hG⟩ := segsRel_paraG_N [l] [A] m'.lines h4 (by simpa using hne') hli
      have : ∃ A', ps' = [A'] := by
        cases ps' with
        | nil => simp [LinesAtG] at hG
        | cons a t =>
          cases t with
          | nil => exact ⟨a, rfl⟩
          | cons _ _ => simp [LinesAtG] at hG
      obtain ⟨A', rfl⟩ := this
      exact ⟨by rw [hk, h1], by rw [hr.level, h2], A', hL, hG⟩
  | fence fc n info ls =>
    obtain ⟨h1, h2, h3, h4⟩ := h
    have hin := hr.info
    refine ⟨by rw [hk, h1], natSegs_imageN _ _ hli h2, by rw [segsRel_valuesQ _ _ hli h2, h3], ?_⟩
    by_cases hi : info.isEmpty = true
    · simp only [hi, if_true] at h4 ⊢
      rw [h4] at hin
      cases hx : m'.info with
      | none => rfl
      | some s => rw [hx] at hin; exact hin.elim
    · simp only [hi, Bool.false_eq_true, if_false] at h4 ⊢
      obtain ⟨t, ht, hts, htv⟩ := h4
      rw [ht] at hin
      cases hx : m'.info with
      | none => rw [hx] at hin; exact hin.elim
      | some s =>
        rw [hx] at hin
        exact ⟨s, rfl, natSeg_imageN hin hts, by rw [segRel_valueN hin hts, htv]⟩

end GM.Proof.CMFrag
end CMFragNMain

/-
  section CMFragNIter — a document of blocks inside `k` nested block quotes, for every `k`: the iteration over `k` of a
  simulation of the run on `X` by the run on `quotePrefix X` (`SimOK X`; `GM.Blocks.run_sim` gives it for the classes
  of GM.Props.C08) carries a `NestRun` (GM.Proof.CMFrag6Main) from depth 0 to depth `k` (`nest_of_base`); composed with
  `convert_of_nest` for a stage-6 document with its final line feed (`convert_nest_genS`) or without
  (`convert_nest_genSE`).
-/
section CMFragNIter
namespace GM.Proof.CMFrag
open GM GM.Text GM.Blocks GM.Spec

/-- the run on the prefixed source simulates the run on `X` -/
def SimOK (X : Bytes) : Prop :=
  ∀ sA : St, GM.Blocks.run X = .ok sA →
    ∃ sB : St, GM.Blocks.run (quotePrefix X) = .ok sB ∧ StoreRel X sA.nodes sB.nodes

theorem simOK_L {X : Bytes} (h : C08ClassL X) : SimOK X := fun _ hA => by
  obtain ⟨sB, hB, hrel, _⟩ := run_sim h hA
  exact ⟨sB, hB, hrel⟩

theorem simOK_levelsL {S : Bytes} (h : C08Class S) : ∀ k, SimOK (qpN k S) := by
  have key : ∀ k, C08Class (qpN k S) := by
    intro k
    induction k with
    | zero => exact h
    | succ k ih => exact c08Class_prefixN ih
  exact fun k => simOK_L (key k).wide.wider

/-- one block quote around a source of the class `C08ClassL` -/
theorem simOK_one {X : Bytes} (h : C08ClassL X) : ∀ j, j < 1 → SimOK (qpN j X)
  | 0, _ => simOK_L h

theorem repL_step {X : Bytes} : ∀ (blks : List Raw5) (leavesA leavesB : List Blocks.Node),
    (∀ b ∈ blks, LinesNE b) → RelL (Rep X) blks leavesA → RelL (NodeRel X false) leavesA leavesB →
    RelL (Rep (quotePrefix X)) blks leavesB
  | [], [], [], _, _, _ => trivial
  | [], [], _ :: _, _, _, h => h.elim
  | [], _ :: _, _, _, h, _ => h.elim
  | _ :: _, [], _, _, h, _ => h.elim
  | _ :: _, _ :: _, [], _, _, h => h.elim
  | b :: blks, m :: ms, m' :: ms', hne, h1, h2 =>
    ⟨rep_step b (hne b (by simp)) m m' h1.1 h2.1, repL_step blks ms ms' (fun x hx => hne x (by simp [hx])) h1.2 h2.2⟩

theorem noBracket_qpN {X : Bytes} (h : ∀ b ∈ X, b ≠ 91) : ∀ k, ∀ b ∈ qpN k X, b ≠ 91
  | 0 => h
  | k + 1 => noBracket_prefixN (noBracket_qpN h k)

/-- from the block phase on `X` to the block phase on `qpN k X`, every level below `k` simulated by the next; on a
    source without `[` the block phase is the plain run (`BPFree`) -/
theorem nest_of_base (H : BPFree) {X : Bytes} (hnb : ∀ b ∈ X, b ≠ 91) {blks : List Raw5} {n : Nat}
    (hne : ∀ b ∈ blks, LinesNE b) (h0 : NestRun X blks n 0) :
    ∀ k, (∀ j, j < k → SimOK (qpN j X)) → NestRun X blks n k
  | 0, _ => h0
  | k + 1, hsim => by
    obtain ⟨s, leaves, hBP, hq, hrep⟩ := nest_of_base H hnb hne h0 k (fun j hj => hsim j (Nat.lt_succ_of_lt hj))
    obtain ⟨sB, hB, hrel⟩ := hsim k (Nat.lt_succ_self k) s ((H _ (noBracket_qpN hnb k)).symm.trans hBP)
    obtain ⟨leavesB, hqB, hrl⟩ := qshape_stepN hq hrel
    exact ⟨sB, leavesB, (H _ (noBracket_qpN hnb (k + 1))).trans hB, hqB, repL_step _ leaves leavesB hne hrep hrl⟩

theorem linesNE_items (items : List (Nat × Raw5)) (hgood : ∀ it ∈ items, Good5 it.2)
    (hnoic : ∀ it ∈ items, isIcB it.2 = false) : ∀ b ∈ items.map (·.2), LinesNE b := by
  intro b hb
  obtain ⟨it, hit, rfl⟩ := List.mem_map.mp hb
  exact linesNE_of_good it.2 (hgood it hit) (hnoic it hit)

/-- **the model of `goldmark.Convert` on a stage-6 document of blocks good for the block phase inside `k` nested block
    quotes**, every level below `k` simulated by the next, given what `docTree` reads from a representing node and what
    the renderer writes -/
theorem convert_nest_genS (H : BPFree) (uc : List (Nat × (Bool × Bool))) (items : List (Nat × Raw5)) (trail : Nat)
    (hgood : ∀ it ∈ items, Good5 it.2) (hseps : SepsOK6 none items) (hnoic : ∀ it ∈ items, isIcB it.2 = false)
    (hno : ∀ it ∈ items, ∀ l ∈ lines5 it.2, ∀ c ∈ l, c ≠ 10)
    (k : Nat) (hsim : ∀ j, j < k → SimOK (qpN j (rawDoc6 items trail))) (hnb : ∀ b ∈ rawDoc6 items trail, b ≠ 91)
    (ns : List GM.Node) (html : Bytes)
    (hblk : ∀ env : GM.Inl.Env, env.escapedSpace = false → RelL (RepDT env) (items.map (·.2)) ns)
    (hr : GM.Convert.renderDoc cmOpts (nestNodeN k ns) = .ok html) :
    GM.Convert.convertCore uc cmOpts (qpN k (rawDoc6 items trail)) = .ok html :=
  convert_of_nest uc cmOpts (nest_of_base H hnb (linesNE_items items hgood hnoic)
    (nestRun_doc6 items trail hgood hseps (icOK6_of_none _ false hnoic) hno) k hsim) ns html hblk hr

/-- … without the final line feed -/
theorem convert_nest_genSE (H : BPFree) (uc : List (Nat × (Bool × Bool))) (items : List (Nat × Raw5)) (hne : items ≠ [])
    (hgood : ∀ it ∈ items, Good5 it.2) (hseps : SepsOK6 none items) (hnoic : ∀ it ∈ items, isIcB it.2 = false)
    (hno : ∀ it ∈ items, lines5 it.2 ≠ [] ∧ (∀ l, (lines5 it.2).getLast? = some l → l ≠ []) ∧
      ∀ l ∈ lines5 it.2, ∀ c ∈ l, c ≠ 10)
    (k : Nat) (hsim : ∀ j, j < k → SimOK (qpN j (rawDoc6E items))) (hnb : ∀ b ∈ rawDoc6E items, b ≠ 91)
    (ns : List GM.Node) (html : Bytes)
    (hblk : ∀ env : GM.Inl.Env, env.escapedSpace = false → RelL (RepDT env) (items.map (·.2)) ns)
    (hr : GM.Convert.renderDoc cmOpts (nestNodeN k ns) = .ok html) :
    GM.Convert.convertCore uc cmOpts (qpN k (rawDoc6E items)) = .ok html :=
  convert_of_nest uc cmOpts (nest_of_base H hnb (linesNE_items items hgood hnoic)
    (nestRun_doc7 items hne hgood hseps (icOK6_of_none _ false hnoic) hno) k hsim) ns html hblk hr

end GM.Proof.CMFrag
end CMFragNIter

/-
  section CMFragNSim — `SimOK` for the class `C08ClassG` of GM.Props.C08 (lists and blank lines
  allowed, no setext underline).
-/
section CMFragNSim
namespace GM.Proof.CMFrag
open GM GM.Text GM.Blocks GM.Spec

theorem simOK_G {X : Bytes} (h : C08ClassG X) : SimOK X := fun _ hA => by
  obtain ⟨sB, hB, hrel, _⟩ := run_sim_listsG h hA
  exact ⟨sB, hB, hrel⟩

/-- every level of a source of class `C08ClassG` that ends with a line feed simulates: from a prefix lemma for the class -/
theorem simOK_levelsG (S : Bytes)
    (hpre : ∀ X : Bytes, C08ClassG X → X.getLast? = some 10 →
      C08ClassG (quotePrefix X) ∧ (quotePrefix X).getLast? = some 10)
    (h : C08ClassG S) (hnl : S.getLast? = some 10) : ∀ k, SimOK (qpN k S) := by
  have key : ∀ k, C08ClassG (qpN k S) ∧ (qpN k S).getLast? = some 10 := by
    intro k
    induction k with
    | zero => exact ⟨h, hnl⟩
    | succ k ih => exact hpre _ ih.1 ih.2
  exact fun k => simOK_G (key k).1

end GM.Proof.CMFrag
end CMFragNSim
