/-
  GM.Proof.ConvertFInl — C11 for the INLINE PHASE: while the context holds no FootnoteList the inline phase over the trigger
  table with the footnote parser is the default inline phase (GM.Inl.parseBlock), for every block with well-formed
  padding-free lines. The parser IS consulted (at every `!` and `[`) and may ADVANCE the reader before it returns nil
  (`list == nil` is tested behind `block.Advance`); the loop's SetPosition gives back the very reader it saved: under the
  invariant of the totality proof (GM.Proof.InlinesLoopTotal: the reader stands for a cursor) every field but `lineOffset`
  is determined by the cursor, and `lineOffset` is −1 behind `Advance` and behind `SetPosition`.
-/
import GM.Model.ExtFootnoteX
import GM.Proof.InlinesLoopX
import GM.Proof.BlockReaderFuel

namespace GM.ConvertF
open GM GM.Text GM.Spec GM.Inl GM.Proof.Reader GM.Proof.InlinesReader GM.Proof.Inlines GM.Proof.InlinesTotal
open GM.Proof.InlinesLink GM.Proof.BlockReaderFuel

variable {src : Bytes} {segs : List Segment}

/-! ### `lineOffset` behind Advance / SetPosition -/

theorem setPosition_lo {r r' : BlockReader} {l : Int} {p : Segment} (h : r.setPosition l p = .ok r') : r'.lineOffset = -1 := by
  unfold BlockReader.setPosition at h
  simp only at h
  split at h
  · split at h
    · simp only [bind, Except.bind] at h
      cases hs : segAt r.segments l with
      | error e => rw [hs] at h; cases h
      | ok s => rw [hs] at h; cases h; rfl
    · cases h; rfl
  · split at h
    · simp only [bind, Except.bind] at h
      cases hs : segAt r.segments l with
      | error e => rw [hs] at h; cases h
      | ok s => rw [hs] at h; cases h; rfl
    · cases h; rfl

theorem advanceLine_lo {r r' : BlockReader} (h : r.advanceLine = .ok r') : r'.lineOffset = -1 := by
  unfold BlockReader.advanceLine at h
  simp only [bind, Except.bind] at h
  cases hs : BlockReader.setPosition (r.line + 1) { start := -1, stop := -1 } r with
  | error e => rw [hs] at h; cases h
  | ok x =>
    rw [hs] at h
    simp only [pure, Except.pure, Except.ok.injEq] at h
    rw [← h]
    exact (setPosition_lo hs : x.lineOffset = -1)

theorem advanceLoop_lo : ∀ (n : Nat) (r r' : BlockReader), r.lineOffset = -1 → r.advanceLoop n = .ok r' → r'.lineOffset = -1
  | 0, r, r', hl, h => by unfold BlockReader.advanceLoop at h; cases h; exact hl
  | n + 1, r, r', hl, h => by
    unfold BlockReader.advanceLoop at h
    split at h
    · exact advanceLoop_lo n _ r' (by exact hl) h
    · split at h
      · simp only [bind, Except.bind] at h
        cases ha : r.advanceLine with
        | error e => rw [ha] at h; cases h
        | ok x =>
          rw [ha] at h
          exact advanceLoop_lo n x r' (advanceLine_lo ha) h
      · exact advanceLoop_lo n _ r' (by exact hl) h

theorem advance_lo {r r' : BlockReader} {n : Int} (h : r.advance n = .ok r') : r'.lineOffset = -1 := by
  unfold BlockReader.advance at h
  simp only at h
  split at h
  · cases h; rfl
  · exact advanceLoop_lo _ _ r' rfl h

/-- two readers that stand for the same live cursor and have dropped their cached line offset are equal -/
theorem rs_eq {r r' : BlockReader} {c : BCur} (h : RS src segs r c) (h' : RS src segs r' c) (hl : c.ln < BCur.k segs)
    (h1 : r.lineOffset = -1) (h2 : r'.lineOffset = -1) : r' = r := by
  obtain ⟨a, _⟩ := h
  obtain ⟨a', _⟩ := h'
  cases r with
  | mk s1 s2 s3 s4 s5 s6 s7 s8 =>
    cases r' with
    | mk t1 t2 t3 t4 t5 t6 t7 t8 =>
      have e1 := a.source; have e1' := a'.source
      have e2 := a.segments; have e2' := a'.segments
      have e3 := a.segLen; have e3' := a'.segLen
      have e4 := a.line; have e4' := a'.line
      have e5 := a.pos; have e5' := a'.pos
      have e6 := a.head hl; have e6' := a'.head hl
      have e7 := a.last; have e7' := a'.last
      simp only at e1 e1' e2 e2' e3 e3' e4 e4' e5 e5' e6 e6' e7 e7' h1 h2
      subst e1 e2 e3 e4 e5 e6 e7 h1
      subst e1' e2' e3' e4' e5' e6' e7' h2
      rfl

/-! ### the parser run without a FootnoteList -/

theorem findClosureBr_lt : ∀ (bs : Bytes) (i j : Nat), GM.Ext.findClosureBr bs i = some j → i ≤ j ∧ j < i + bs.length
  | [], _, _, h => by simp [GM.Ext.findClosureBr] at h
  | [c], i, j, h => by
    simp only [GM.Ext.findClosureBr] at h
    split at h
    · cases h; simp
    · cases h
  | c :: d :: rest, i, j, h => by
    simp only [GM.Ext.findClosureBr] at h
    split at h
    · have := findClosureBr_lt rest (i + 2) j h
      simp only [List.length_cons]; omega
    · split at h
      · cases h; simp
      · split at h
        · cases h
        · have := findClosureBr_lt (d :: rest) (i + 1) j h
          simp only [List.length_cons] at this ⊢; omega

/-- (*footnoteParser).Parse without a list, from a state of the default loop: nil, only the reader may have moved — to a
    state that still stands for a cursor -/
theorem parseFootnote_none_run (F : SegFacts src segs) (Z : ∀ s ∈ segs, s.padding = 0) (env : Env) (st : St) (c : BCur)
    (line : Bytes) (h : RS src segs st.rd c) (hv : BCur.view src segs c = some line) :
    ∃ rdX cX, parseFootnote none env st = .ok (none, { st with rd := rdX }) ∧ RS src segs rdX cX := by
  obtain ⟨hpl, hpos⟩ := peekLine_facts F h
  obtain ⟨v1, v2, v3, v4, v5, v6, v7, v8⟩ := view_some F h.abs.wf h.pad hv
  have hsame : ({ st with rd := st.rd } : St) = st := by cases st; rfl
  have helper : ∀ p0 closure : Nat, p0 + 1 + closure < line.length →
      ∃ v r' c', BlockReader.valueOp (Segment.mk (st.rd.pos.start + ((p0 + 1 : Nat) : Int))
          (st.rd.pos.start + ((p0 + 1 + closure : Nat) : Int)) 0 false) st.rd = .ok v ∧
        st.rd.advance (((p0 + 1 + closure : Nat) : Int) + 1) = .ok r' ∧ RS src segs r' c' := by
    intro p0 closure hlt
    obtain ⟨v, hval⟩ := valueOp_ok F h.abs
      { start := st.rd.pos.start + ((p0 + 1 : Nat) : Int), stop := st.rd.pos.start + ((p0 + 1 + closure : Nat) : Int) }
      (by have := first_le_p F h.abs.wf; rw [hpos]; simp only; omega) (by simp only; omega)
    obtain ⟨r', c', e1, e2, _⟩ := advance_ok F Z h (n := ((p0 + 1 + closure : Nat) : Int) + 1) (by omega) (by omega)
    exact ⟨v, r', c', hval, e1, e2⟩
  unfold parseFootnote
  simp only [hpl, hv, bind, Except.bind, pure, Except.pure, Option.getD_some]
  split
  · split
    · exact ⟨st.rd, c, by rw [hsame], h⟩
    · split
      · exact ⟨st.rd, c, by rw [hsame], h⟩
      · split
        · exact ⟨st.rd, c, by rw [hsame], h⟩
        · rename_i hp1 hp2 _ closure hcl
          have hb := findClosureBr_lt _ 0 closure hcl
          simp only [List.length_drop, Nat.zero_add] at hb
          obtain ⟨v, r', c', hval, e1, e2⟩ := helper 2 closure (by omega)
          simp only [hval, e1]
          exact ⟨r', c', rfl, e2⟩
  · split
    · exact ⟨st.rd, c, by rw [hsame], h⟩
    · split
      · exact ⟨st.rd, c, by rw [hsame], h⟩
      · split
        · exact ⟨st.rd, c, by rw [hsame], h⟩
        · rename_i hp1 hp2 _ closure hcl
          have hb := findClosureBr_lt _ 0 closure hcl
          simp only [List.length_drop, Nat.zero_add] at hb
          obtain ⟨v, r', c', hval, e1, e2⟩ := helper 1 closure (by omega)
          simp only [hval, e1]
          exact ⟨r', c', rfl, e2⟩

/-! ### the loop -/

open GM.Proof.InlinesLoopX in
/-- consulted first, the footnote parser returns nil and the loop's SetPosition gives back the saved reader: the rest of
    the table entry sees the very state the default loop sees -/
theorem tryParsersX_fn (F : SegFacts src segs) (Z : ∀ s ∈ segs, s.padding = 0) (env : Env) {r1 : BlockReader} {c1 : BCur}
    {line : Bytes} (a2 : RS src segs r1 c1) (hlo : r1.lineOffset = -1) (vs1 : BCur.view src segs c1 = some line)
    (ips : List Ip) (st0 : St) (hrd : st0.rd = r1) :
    tryParsersX env r1.position.1 r1.position.2 (.ext (footnoteParser none) :: ips.map .builtin) st0 =
      tryParsers env r1.position.1 r1.position.2 ips st0 := by
  obtain ⟨rdX, cX, e, hX⟩ := parseFootnote_none_run F Z env st0 c1 line (by rw [hrd]; exact a2) vs1
  obtain ⟨r3, s1, s2⟩ := setPosition_restore F a2 hX
  obtain ⟨v1, _⟩ := view_some F a2.abs.wf a2.pad vs1
  have h3 : r3 = r1 := rs_eq a2 s2 v1 hlo (setPosition_lo s1)
  have hst : ({ ({ st0 with rd := rdX } : St) with rd := r3 } : St) = st0 := by
    rw [h3, ← hrd]
  rw [tryParsersX]
  simp only [XIp.parse, footnoteParser, e, bind, Except.bind, s1, hst]
  exact tryParsersX_builtin env _ _ ips st0

/-- a trigger table that is the default one with the footnote parser (no list) in front of some entries -/
def FnTable (tbl : UInt8 → List XIp) : Prop :=
  ∀ b, tbl b = baseTbl b ∨ (tbl b = .ext (footnoteParser none) :: baseTbl b ∧ (parsersFor b).isEmpty = false)

theorem fnTable_inlineTblF : FnTable (inlineTblF true none) := by
  intro b
  unfold inlineTblF
  by_cases h : (b == 33 || b == 91) = true
  · right
    simp only [Bool.true_and, h, if_true, true_and]
    simp only [Bool.or_eq_true, beq_iff_eq] at h
    rcases h with h | h <;> subst h <;> rfl
  · left
    simp only [Bool.true_and, h, Bool.false_eq_true, if_false]

theorem fnTable_isEmpty {tbl : UInt8 → List XIp} (hT : FnTable tbl) (b : UInt8) :
    (tbl b).isEmpty = (parsersFor b).isEmpty := by
  rcases hT b with h | ⟨h, h2⟩
  · rw [h]; simp [baseTbl]
  · rw [h, h2]; rfl

open GM.Proof.InlinesLoopX in
/-- the `retry:` loop over such a table is the default loop, from any state the loop invariant of the default run holds for: the
    entries do the same on the states of the run (GM.Proof.InlinesLoopTotal `lineLoopX_agreeAt`) -/
theorem lineLoopX_fn (X : Ctx) (F : SegFacts src segs) (Z : ∀ s ∈ segs, s.padding = 0) (env : Env)
    (hC : ∀ ip, PContract X src segs (trigOf ip) (ip.parse env)) (tbl : UInt8 → List XIp) (hT : FnTable tbl) :
    ∀ (fuel : Nat) (esc : Bool) (st : St) (c : BCur), LInv X src segs st c →
    (BCur.remaining segs c).toNat < fuel → lineLoopX env tbl fuel esc st = lineLoop env fuel esc st := by
  intro fuel esc st c hI hf
  rw [← lineLoopX_base]
  refine lineLoopX_agreeAt (lo0 := 0) X (Int.le_refl 0) F Z env baseTbl tbl (base32 X env)
    (base_contracts X env (fun ip => pcontractLo_zero.mpr (hC ip))) (fun b _ i => ⟨?_, fun st1 c1 l r0 n hadv hI1 hv => ?_⟩)
    fuel esc st c (linvLo_zero.mpr hI) hf
  · rw [fnTable_isEmpty hT]; simp [baseTbl]
  · rcases hT (parserChar b i) with h | ⟨h, _⟩
    · rw [h]
    · rw [h]
      show tryParsersX env _ _ (.ext (footnoteParser none) :: (parsersFor (parserChar b i)).map .builtin) st1 =
        tryParsersX env _ _ ((parsersFor (parserChar b i)).map .builtin) st1
      rw [tryParsersX_fn F Z env (linvLo_zero.mp hI1).rs (advance_lo hadv) hv (parsersFor _) st1 rfl]
      exact (tryParsersX_builtin ..).symm

open GM.Proof.InlinesLoopX in
/-- **the inline phase of a block while the context holds no FootnoteList is the default inline phase** -/
theorem parseBlockX_fn (W : WFSegs src segs) (Z : ∀ s ∈ segs, s.padding = 0) (env : Env) :
    parseBlockX env (inlineTblF true none) src segs = parseBlock env src segs := by
  have F := segFacts W
  obtain ⟨r0, e0, a0⟩ := blockReader_init F
  have hz0 : (BCur.init segs).pad = 0 := segOf_pad F Z 0 (Int.le_refl _) F.kpos
  have hI : LInv (linkCtx (BCur.segOf segs 0).start) src segs { rd := r0 } (BCur.init segs) :=
    ⟨⟨a0, hz0⟩, by simp only [segsOfL, chain, BCur.init]; exact (F.rng 0 (Int.le_refl _) F.kpos).1, LK_base _⟩
  have h := lineLoopX_fn _ F Z env (all_contracts W Z env) (inlineTblF true none) fnTable_inlineTblF (blockFuel src segs)
    false _ _ hI (blockFuel_gt W Z a0.wf hz0)
  unfold parseBlockX parseBlock
  simp only [e0, bind, Except.bind, h]

end GM.ConvertF
