/-
  GM.Proof.IndepReset — C09, first half, mechanism (ii) "reset": one pass of parseBlocks' line loop
  (parser.go:1081-1123) over a NON-INDENTED ATX HEADING LINE, from ANY state (reachable or not) in which the first
  open block does not continue on that line, ends with exactly one open block — the new heading — whatever was
  open before (`headingLine_unwinds`); and the pass over the following BLANK line closes the heading too
  (`blankLine_closes_heading`): the open-block stack is empty again, the list parser's flags are what they were.

  Backward symbolic execution (`bind_ok` & co. of GM.Proof.IndepFrame) from the hypothesis that the pass ended
  normally; a Go panic on the way makes the statements vacuous (absence of panics is C01's subject).
-/
import GM.Proof.IndepFrame
import GM.Proof.BlocksLeaf

namespace GM.Blocks
open GM GM.Text

/-- the reader stands at the beginning of (the rest of) a line whose bytes are `line`: `PeekLine` answers `line` -/
structure AtLine (line : Bytes) (r : Reader) : Prop where
  start0 : 0 ≤ r.pos.start
  startLt : r.pos.start < r.sourceLength
  value : r.pos.value r.source = .ok line
  cache : r.peekedLine = none ∨ r.peekedLine = some line

theorem AtLine.peekLine {line : Bytes} {r : Reader} (h : AtLine line r) :
    ∃ r', r.peekLine = .ok ((some line, r.pos), r') ∧ AtLine line r' ∧ r'.pos = r.pos ∧ r'.source = r.source := by
  unfold Reader.peekLine
  rw [if_pos ⟨h.start0, h.startLt⟩]
  rcases h.cache with hc | hc
  · rw [hc]
    simp only [h.value, bind, Except.bind, pure, Except.pure]
    exact ⟨_, rfl, ⟨h.start0, h.startLt, h.value, .inr rfl⟩, rfl, rfl⟩
  · rw [hc]
    exact ⟨_, rfl, h, rfl, rfl⟩

theorem AtLine.lineOffsetOp {line : Bytes} {r r' : Reader} {lo : Int} (h : AtLine line r)
    (hl : r.lineOffsetOp = .ok (lo, r')) : AtLine line r' ∧ r'.pos = r.pos ∧ r'.source = r.source := by
  unfold Reader.lineOffsetOp at hl
  split at hl
  · cases hc : colLoop r.source r.head r.pos.start with
    | error e => simp [hc, bind, Except.bind] at hl
    | ok v =>
      simp only [hc, bind, Except.bind, pure, Except.pure] at hl
      cases hl
      exact ⟨⟨h.start0, h.startLt, h.value, h.cache⟩, rfl, rfl⟩
  · cases hl; exact ⟨h, rfl, rfl⟩

/-- the reader's cursor (position and source) is the same; its caches may differ -/
def Cur (s s' : St) : Prop := s'.r.pos = s.r.pos ∧ s'.r.source = s.r.source

theorem Cur.rfl' (s : St) : Cur s s := ⟨rfl, rfl⟩
theorem Cur.trans {a b c : St} (h1 : Cur a b) (h2 : Cur b c) : Cur a c := ⟨h2.1.trans h1.1, h2.2.trans h1.2⟩
theorem Cur.of_sameReader {a b : St} (h : SameReader a b) : Cur a b := by unfold SameReader at h; exact ⟨by rw [h], by rw [h]⟩

theorem peekLine_atLine {line : Bytes} {s : St} {x : Option Bytes × Segment} {s' : St} (h : AtLine line s.r)
    (hp : peekLine s = .ok (x, s')) :
    x = (some line, s.r.pos) ∧ AtLine line s'.r ∧ s'.nodes = s.nodes ∧ s'.pc = s.pc ∧ Cur s s' := by
  obtain ⟨r', h1, h2, h3⟩ := h.peekLine
  unfold GM.Blocks.peekLine at hp
  simp only [h1, bind, Except.bind, pure, Except.pure] at hp
  cases hp
  exact ⟨rfl, h2, rfl, rfl, h3⟩

theorem lineOffset_atLine {line : Bytes} {s : St} {lo : Int} {s' : St} (h : AtLine line s.r)
    (hp : lineOffset s = .ok (lo, s')) :
    AtLine line s'.r ∧ s'.nodes = s.nodes ∧ s'.pc = s.pc ∧ Cur s s' := by
  unfold GM.Blocks.lineOffset at hp
  cases hl : s.r.lineOffsetOp with
  | error e => simp [hl, bind, Except.bind] at hp
  | ok p =>
    simp only [hl, bind, Except.bind, pure, Except.pure] at hp
    cases hp
    obtain ⟨h1, h2⟩ := h.lineOffsetOp (lo := p.1) (r' := p.2) hl
    exact ⟨h1, rfl, rfl, h2⟩

/-! ### lines that start with `#` -/

theorem indentWidthI_hash (rest : Bytes) (cur : Int) : indentWidthI (35 :: rest) cur = (0, 0) := by
  simp [indentWidthI, indentWidthGo]

theorem indentPosition_hash (rest : Bytes) (cur w : Int) (hw : 0 < w) :
    indentPosition (35 :: rest) cur w = (-1, -1) := by
  have hw0 : (w == 0) = false := by simp; omega
  have : ¬ (0 : Int) ≥ w := by omega
  simp [indentPosition, indentPositionPadding, hw0, ippLoop, this]

/-- on the line the reader stands on, `Continue` of the open block `be` answers `Close` and changes nothing but
    the reader's caches — in every state with the node store and context of `s` -/
def ClosesAt (line : Bytes) (be : Block) (s : St) : Prop :=
  ∀ s1 st s2, AtLine line s1.r → s1.nodes = s.nodes → s1.pc = s.pc → bpContinue be.bp be.node s1 = .ok (st, s2) →
    st.cont = false ∧ AtLine line s2.r ∧ s2.nodes = s.nodes ∧ s2.pc = s.pc ∧ Cur s1 s2

theorem closesAt_oneLine (line : Bytes) (be : Block) (s : St)
    (hbp : be.bp = .atx ∨ be.bp = .thematic ∨ be.bp = .setext) : ClosesAt line be s := by
  intro s1 st s2 hl hn hp h
  rcases hbp with hb | hb | hb <;> rw [hb] at h <;> simp only [bpContinue] at h <;>
    obtain ⟨rfl, rfl⟩ := pure_ok h <;> exact ⟨rfl, hl, hn, hp, Cur.rfl' _⟩

/-- a block quote does not continue on a line that starts with `#` (blockquote.go:20-40, :53-58) -/
theorem closesAt_blockquote (rest : Bytes) (be : Block) (s : St) (hbp : be.bp = .blockquote) :
    ClosesAt (35 :: rest) be s := by
  intro s1 st s2 hl hn hp h
  rw [hbp] at h
  simp only [bpContinue] at h
  unfold blockquoteContinue at h
  obtain ⟨b, s3, hb, h⟩ := bind_ok h
  unfold blockquoteProcess at hb
  obtain ⟨x, s4, h4, hb⟩ := bind_ok hb
  obtain ⟨rfl, hl4, hn4, hp4, c4⟩ := peekLine_atLine hl h4
  dsimp only at hb
  obtain ⟨lo, s5, h5, hb⟩ := bind_ok hb
  obtain ⟨hl5, hn5, hp5, c5⟩ := lineOffset_atLine hl4 h5
  simp only [Option.getD, indentWidthI_hash] at hb
  have c1 : (decide ((0:Int) > 3) || decide ((0:Int) ≥ ((35 :: rest : Bytes).length : Int))) = false := by
    simp
  rw [c1] at hb
  simp only [Bool.false_eq_true, if_false] at hb
  obtain ⟨c, s6, h6, hb⟩ := bind_ok hb
  obtain ⟨hc, rfl⟩ := liftE_ok h6
  have hc' : idx (35 :: rest) 0 = .ok 35 := rfl
  rw [hc'] at hc
  cases hc
  simp only [show ((35 : UInt8) != 62) = true from rfl, if_true] at hb
  obtain ⟨rfl, rfl⟩ := pure_ok hb
  simp only [Bool.false_eq_true, if_false] at h
  obtain ⟨rfl, rfl⟩ := pure_ok h
  exact ⟨rfl, hl5, hn5.trans (hn4.trans hn), hp5.trans (hp4.trans hp), c4.trans c5⟩
theorem isBlank_hash (rest : Bytes) : isBlank (35 :: rest) = false := by
  simp [isBlank, isSpace]

/-- an indented code block does not continue on a line that starts with `#` (code_block.go:45-67) -/
theorem closesAt_code (rest : Bytes) (be : Block) (s : St) (hbp : be.bp = .code) :
    ClosesAt (35 :: rest) be s := by
  intro s1 st s2 hl hn hp h
  rw [hbp] at h
  simp only [bpContinue] at h
  unfold codeContinue at h
  obtain ⟨x, s4, h4, h⟩ := bind_ok h
  obtain ⟨rfl, hl4, hn4, hp4, c4⟩ := peekLine_atLine hl h4
  dsimp only at h
  simp only [Option.getD, isBlank_hash, Bool.false_eq_true, if_false] at h
  obtain ⟨lo, s5, h5, h⟩ := bind_ok h
  obtain ⟨hl5, hn5, hp5, c5⟩ := lineOffset_atLine hl4 h5
  simp only [indentPosition_hash rest lo 4 (by omega)] at h
  rw [if_pos (by omega)] at h
  obtain ⟨rfl, rfl⟩ := pure_ok h
  exact ⟨rfl, hl5, hn5.trans (hn4.trans hn), hp5.trans (hp4.trans hp), c4.trans c5⟩

theorem parseListItem_hash (rest : Bytes) : (parseListItem (35 :: rest)).2 = .notList := by
  simp [parseListItem, countLeading, isNumeric]

theorem matchesListItem_hash (rest : Bytes) (strict : Bool) : (matchesListItem (35 :: rest) strict).2 = .notList := by
  unfold matchesListItem
  have := parseListItem_hash rest
  dsimp only
  split <;> simp_all

/-- the last item of the list `id` is a list item with a positive content offset (true of every list the parser
    builds: list_item.go:41-44 makes the offset at least 2) -/
def LastItemIndented (nodes : List Node) (id : Nat) : Prop :=
  ∃ lc, (nodes.getD id default).children.getLast? = some lc ∧ (nodes.getD lc default).kind = .listItem ∧
    0 < (nodes.getD lc default).offset

theorem lastOffset_invI {id lc : Nat} {s : St} {v : Int} {s' : St}
    (hlc : (s.nodes.getD id default).children.getLast? = some lc) (hk : (s.nodes.getD lc default).kind = .listItem)
    (h : lastOffset id s = .ok (v, s')) : v = (s.nodes.getD lc default).offset ∧ s' = s := by
  unfold lastOffset at h
  obtain ⟨n, s1, h1, h⟩ := bind_ok h
  obtain ⟨rfl, rfl⟩ := getNode_ok h1
  rw [hlc] at h
  dsimp only at h
  obtain ⟨c, s2, h2, h⟩ := bind_ok h
  obtain ⟨rfl, rfl⟩ := getNode_ok h2
  simp only [hk, bne_self_eq_false, Bool.false_eq_true, if_false] at h
  obtain ⟨rfl, rfl⟩ := pure_ok h
  exact ⟨rfl, rfl⟩

theorem lastChildCount_invI {id : Nat} {s : St} {v : Int} {s' : St} (h : lastChildCount id s = .ok (v, s')) :
    s' = s := by
  unfold lastChildCount at h
  obtain ⟨n, s1, h1, h⟩ := bind_ok h
  obtain ⟨rfl, rfl⟩ := getNode_ok h1
  cases hc : (s1.nodes.getD id default).children.getLast? with
  | none => rw [hc] at h; exact (throw_ok h).elim
  | some lc =>
    rw [hc] at h
    obtain ⟨c, s2, h2, h⟩ := bind_ok h
    obtain ⟨rfl, rfl⟩ := getNode_ok h2
    obtain ⟨_, rfl⟩ := pure_ok h
    rfl

/-- a list does not continue on a line that starts with `#` in column 0 (list.go:166-246: the line is not
    indented to the content offset of the last item and is not a list item) -/
theorem closesAt_list (rest : Bytes) (be : Block) (s : St) (hbp : be.bp = .list)
    (hli : LastItemIndented s.nodes be.node) : ClosesAt (35 :: rest) be s := by
  intro s1 st s2 hl hn hp h
  obtain ⟨lc, hlc, hk, hoff⟩ := hli
  rw [hbp] at h
  simp only [bpContinue] at h
  unfold listContinue at h
  obtain ⟨list, s3, h3, h⟩ := bind_ok h
  obtain ⟨rfl, rfl⟩ := getNode_ok h3
  obtain ⟨x, s4, h4, h⟩ := bind_ok h
  obtain ⟨rfl, hl4, hn4, hp4, c4⟩ := peekLine_atLine hl h4
  dsimp only at h
  simp only [Option.getD, isBlank_hash, Bool.false_eq_true, if_false] at h
  have hn3 : s4.nodes = s.nodes := hn4.trans hn
  obtain ⟨offset, s5, h5, h⟩ := bind_ok h
  obtain ⟨hoffv, hs5⟩ := lastOffset_invI (by rw [hn3]; exact hlc) (by rw [hn3]; exact hk) h5
  rw [hn3] at hoffv
  obtain ⟨cnt, s6, h6, h⟩ := bind_ok h
  have hs6 := lastChildCount_invI h6
  obtain ⟨lo, s7, h7, h⟩ := bind_ok h
  rw [hs6, hs5] at h7
  obtain ⟨hl7, hn7, hp7, c7⟩ := lineOffset_atLine hl4 h7
  have hfin : ∀ (x : PState), (pure x : M PState) s7 = .ok (st, s2) → x.cont = false →
      st.cont = false ∧ AtLine (35 :: rest) s2.r ∧ s2.nodes = s.nodes ∧ s2.pc = s.pc ∧ Cur s3 s2 := by
    intro x hx hc
    obtain ⟨rfl, rfl⟩ := pure_ok hx
    exact ⟨hc, hl7, hn7.trans hn3, hp7.trans (hp4.trans hp), c4.trans c7⟩
  have hoff' : 0 < offset := by rw [hoffv]; exact hoff
  simp only [indentWidthI_hash, matchesListItem_hash, bne_self_eq_false, Bool.false_and, Bool.false_eq_true,
    if_false, hoff', decide_true, Bool.true_or, if_true, Bool.and_true, show ((0:Int) < 4) from by omega] at h
  by_cases hc : (cnt == 0) = true
  · simp only [hc, Bool.not_true, Bool.false_eq_true, if_false, if_true] at h
    exact hfin _ h rfl
  · simp only [hc, Bool.not_false, if_true] at h
    exact hfin _ h rfl
def GrowSamePc (s s' : St) : Prop := s.nodes.length ≤ s'.nodes.length ∧ s'.pc = s.pc

theorem growSamePc_prims : FrPrims GrowSamePc where
  refl := fun _ => ⟨Nat.le_refl _, rfl⟩
  trans := fun h1 h2 => ⟨Nat.le_trans h1.1 h2.1, h2.2.trans h1.2⟩
  modNode := fun s id f => ⟨by simp, rfl⟩
  newNode := fun s n => ⟨by simp, rfl⟩

theorem Ret.apply {α} {m : M α} {Q : α → Prop} {s : St} {a : α} {s' : St} (h : m s = .ok (a, s')) (hm : Ret m Q) :
    Q a := hm.h s a s' h

/-- atxHeadingParser.Open on the line `# …` with BlockOffset 0 opens a heading: the value is the fresh node -/
theorem atxOpen_heading (rest : Bytes) (s : St) (parent : Nat) (hl : AtLine (35 :: 32 :: rest) s.r)
    (hbo : s.pc.blockOffset = 0) (x : Option Nat × PState) (s' : St) (h : atxOpen parent s = .ok (x, s')) :
    x = (some s.nodes.length, stNoChildren) ∧ s'.pc = s.pc ∧ s.nodes.length < s'.nodes.length ∧ Cur s s' := by
  rw [atxOpen_eq] at h
  cases hp : peekLine s with
  | error e => rw [hp] at h; cases h
  | ok xs =>
    obtain ⟨y, s1⟩ := xs
    obtain ⟨rfl, hl1, hn1, hp1, cu1⟩ := peekLine_atLine hl hp
    obtain ⟨tx, htx⟩ := atxScan_hash_space rest
    rw [hp] at h
    simp only [Except.bind, Option.getD_some, hp1, hbo, htx, Option.map, atxFinish] at h
    cases h
    exact ⟨by rw [hn1], rfl, by simp [hn1], cu1⟩

/-- what the open-block stack looks like after the heading was opened: the heading is pushed, possibly after the
    last open block was popped (parser.go:1000-1003: a paragraph that removed itself from the tree) -/
def HeadingPushed (s s' : St) : Prop :=
  s'.pc.opened = s.pc.opened ++ [⟨s.nodes.length, .atx⟩] ∨
  (s.pc.opened ≠ [] ∧ s'.pc.opened = s.pc.opened.take (s.pc.opened.length - 1) ++ [⟨s.nodes.length, .atx⟩])

theorem push_tail {α} (hd : Nat) (v : α) (s3 : St) (x : α) (s' : St)
    (h : (appendChild 0 hd >>= fun _ => modPc (fun pc => { pc with opened := pc.opened ++ [{ node := hd, bp := BP.atx }] })
      >>= fun _ => (pure v : M α)) s3 = .ok (x, s')) :
    x = v ∧ s'.pc.opened = s3.pc.opened ++ [⟨hd, .atx⟩] ∧ s3.nodes.length ≤ s'.nodes.length ∧
      s'.pc.skipList = s3.pc.skipList ∧ s'.pc.emptyItemBlank = s3.pc.emptyItemBlank ∧ s'.r = s3.r := by
  obtain ⟨u, s4, h4, h⟩ := bind_ok h
  have hg : GrowSamePc s3 s4 := IFr.apply h4 (appendChild_frI growSamePc_prims 0 hd)
  have hsr : SameReader s3 s4 := IFr.apply h4 (appendChild_frI sameReader_prims 0 hd)
  obtain ⟨u2, s5, h5, h⟩ := bind_ok h
  have hs5 := modPc_ok h5
  obtain ⟨rfl, rfl⟩ := pure_ok h
  subst hs5
  refine ⟨rfl, ?_, hg.1, ?_, ?_, hsr⟩
  · show s4.pc.opened ++ _ = _; rw [hg.2]
  · show s4.pc.skipList = _; rw [hg.2]
  · show s4.pc.emptyItemBlank = _; rw [hg.2]

theorem tryParsers_heading (rest : Bytes) (blank cont : Bool) (lb : Option Block) (s : St)
    (hl : AtLine (35 :: 32 :: rest) s.r) (hbo : s.pc.blockOffset = 0)
    (x : TryOutcome × OpenResult × Option Block) (s' : St)
    (h : tryParsers 0 blank cont 0 [.atx, .code, .paragraph] .noBlocksOpened lb s = .ok (x, s')) :
    (match x.1 with | .done => True | .retry _ => False) ∧ x.2.1 = .newBlocksOpened ∧ HeadingPushed s s' ∧
      s.nodes.length < s'.nodes.length ∧ s'.pc.skipList = s.pc.skipList ∧
      s'.pc.emptyItemBlank = s.pc.emptyItemBlank ∧ Cur s s' := by
  unfold tryParsers at h
  simp only [BP.canInterruptParagraph, Bool.not_true, Bool.and_false, Bool.false_eq_true, if_false,
    show ¬ ((0:Int) > 3) from by omega, decide_false, Bool.false_and] at h
  obtain ⟨lb', s1, h1, h⟩ := bind_ok h
  obtain ⟨rfl, rfl⟩ := lastOpenedBlock_ok h1
  obtain ⟨y, s2, h2, h⟩ := bind_ok h
  simp only [bpOpen] at h2
  obtain ⟨rfl, hp2, hn2, cu2⟩ := atxOpen_heading rest s1 0 hl hbo y s2 h2
  simp only [stNoChildren, Bool.false_eq_true, if_false] at h
  obtain ⟨u, s3, h3, h⟩ := bind_ok h
  have hs3 := modNode_ok h3
  have hp3 : s3.pc = s1.pc := by rw [hs3]; exact hp2
  have hn3 : s1.nodes.length < s3.nodes.length := by rw [hs3]; simpa using hn2
  have cu3 : Cur s1 s3 := by rw [hs3]; exact cu2
  cases hlast : s1.pc.opened.getLast? with
  | none =>
    rw [hlast] at h
    simp only [Option.map] at h
    obtain ⟨rfl, ho, hn, hk1, hk2, hr⟩ := push_tail _ _ s3 x s' h
    refine ⟨trivial, rfl, .inl (by rw [ho, hp3]), by omega, by rw [hk1, hp3], by rw [hk2, hp3],
      cu3.trans (Cur.of_sameReader hr)⟩
  | some lb =>
    rw [hlast] at h
    simp only [Option.map] at h
    obtain ⟨ln, s4, h4, k1⟩ := bind_ok h
    obtain ⟨_, e4⟩ := getNode_ok h4
    rw [e4] at k1
    split at k1
    · obtain ⟨pc, s5, h5, k2⟩ := bind_ok k1
      obtain ⟨epc, e5⟩ := getPc_ok h5
      rw [e5, epc] at k2
      obtain ⟨u, s6, h6, k3⟩ := bind_ok k2
      obtain ⟨_, ho6⟩ := closeBlocks_opened _ _ _ _ h6
      have hg6 : NodesGrow s3 s6 := IFr.apply h6 (closeBlocks_nodesGrow _ _)
      have hk6 : SameListKeys s3 s6 := IFr.apply h6 (closeBlocks_sameListKeys _ _)
      have hr6 : SameReader s3 s6 := IFr.apply h6 (closeBlocks_sameReader _ _)
      obtain ⟨rfl, ho, hn, hk1, hk2, hr⟩ := push_tail _ _ s6 x s' k3
      have hne : s1.pc.opened ≠ [] := by intro e; rw [e] at hlast; cases hlast
      have hlen : 0 < s1.pc.opened.length := List.length_pos_iff.mpr hne
      refine ⟨trivial, rfl, .inr ⟨hne, ?_⟩, ?_, by rw [hk1, hk6.1, hp3], by rw [hk2, hk6.2, hp3],
        cu3.trans ((Cur.of_sameReader hr6).trans (Cur.of_sameReader hr))⟩
      · rw [ho, ho6, hp3]
        congr 1
        have e1 : ((s1.pc.opened.length : Int) - 1).toNat = s1.pc.opened.length - 1 := by omega
        have e2 : ((s1.pc.opened.length : Int) - 1 + 1).toNat = s1.pc.opened.length := by omega
        rw [e1, e2, List.drop_length, List.append_nil]
      · have := hg6; unfold NodesGrow at this; omega
    · obtain ⟨rfl, ho, hn, hk1, hk2, hr⟩ := push_tail _ _ s3 x s' k1
      refine ⟨trivial, rfl, .inl (by rw [ho, hp3]), by omega, by rw [hk1, hp3], by rw [hk2, hp3],
        cu3.trans (Cur.of_sameReader hr)⟩
theorem openBlocksLoop_heading (rest : Bytes) (blank cont : Bool) (fuel : Nat) (lb : Option Block) (s : St)
    (hl : AtLine (35 :: 32 :: rest) s.r) (res : OpenResult) (s' : St)
    (h : openBlocksLoop blank cont (fuel + 1) 0 .noBlocksOpened lb s = .ok (res, s')) :
    res = .newBlocksOpened ∧ HeadingPushed s s' ∧ s.nodes.length < s'.nodes.length ∧
      s'.pc.skipList = s.pc.skipList ∧ s'.pc.emptyItemBlank = s.pc.emptyItemBlank ∧ Cur s s' := by
  unfold openBlocksLoop at h
  obtain ⟨y, s1, h1, k1⟩ := bind_ok h
  obtain ⟨rfl, hl1, hn1, hp1, cu1⟩ := peekLine_atLine hl h1
  dsimp only at k1
  obtain ⟨lo, s2, h2, k2⟩ := bind_ok k1
  obtain ⟨hl2, hn2, hp2, cu2⟩ := lineOffset_atLine hl1 h2
  simp only [Option.getD, indentWidthI_hash] at k2
  obtain ⟨u, s3, h3, k3⟩ := bind_ok k2
  have e3 := modPc_ok h3
  have hlen : ¬ ((0:Int) ≥ ((35 :: 32 :: rest : Bytes).length : Int)) := by
    simp only [List.length_cons]; omega
  rw [if_neg hlen] at e3
  have hidx : idx (35 :: 32 :: rest) 0 = .ok 35 := rfl
  have htrig : triggered 35 = some [.atx, .code, .paragraph] := by decide
  simp only [Option.isNone, Bool.false_eq_true, if_false, hidx] at k3
  obtain ⟨c, s4, h4, k4⟩ := bind_ok k3
  obtain ⟨ec, e4⟩ := liftE_ok h4
  cases ec
  simp only [show ((35:UInt8) == 10) = false from rfl, Bool.false_eq_true, if_false,
    if_pos (show (0:Int) < ((35 :: 32 :: rest : Bytes).length : Int) from by simp only [List.length_cons]; omega)] at k4
  obtain ⟨c', s5, h5, k5⟩ := bind_ok k4
  obtain ⟨ec', e5⟩ := liftE_ok h5
  cases ec'
  obtain ⟨bps, s6, h6, k6⟩ := bind_ok k5
  obtain ⟨ebps, e6⟩ := pure_ok h6
  rw [htrig] at ebps
  obtain ⟨s0, s7, h7, k7⟩ := bind_ok k6
  have e7 : s7 = s6 := by cases h7; rfl
  obtain ⟨x, s8, h8, k8⟩ := bind_ok k7
  rw [ebps, e7, e6, e5, e4] at h8
  have hl3 : AtLine (35 :: 32 :: rest) s3.r := by rw [e3]; exact hl2
  have hbo3 : s3.pc.blockOffset = 0 := by rw [e3]
  obtain ⟨hdone, hres, hpush, hnl, hk1, hk2, cu8⟩ := tryParsers_heading rest blank cont lb s3 hl3 hbo3 x s8 h8
  have cu3 : Cur s s3 := by
    have : Cur s2 s3 := by rw [e3]; exact ⟨rfl, rfl⟩
    exact (cu1.trans cu2).trans this
  have ho3 : s3.pc.opened = s.pc.opened := by rw [e3]; show s2.pc.opened = _; rw [hp2, hp1]
  have hn3 : s3.nodes = s.nodes := by rw [e3]; show s2.nodes = _; rw [hn2, hn1]
  have hs3 : s3.pc.skipList = s.pc.skipList := by rw [e3]; show s2.pc.skipList = _; rw [hp2, hp1]
  have he3 : s3.pc.emptyItemBlank = s.pc.emptyItemBlank := by rw [e3]; show s2.pc.emptyItemBlank = _; rw [hp2, hp1]
  cases hx : x.1 with
  | retry p => rw [hx] at hdone; exact hdone.elim
  | done =>
    rw [hx] at k8
    dsimp only at k8
    unfold toContinuable at k8
    rw [hres] at k8
    simp only [show (OpenResult.newBlocksOpened == OpenResult.noBlocksOpened) = false from rfl, Bool.false_and,
      Bool.false_eq_true, if_false] at k8
    obtain ⟨rfl, rfl⟩ := pure_ok k8
    refine ⟨rfl, ?_, by rw [← hn3]; exact hnl, by rw [hk1, hs3], by rw [hk2, he3], cu3.trans cu8⟩
    unfold HeadingPushed at hpush ⊢
    rw [ho3, hn3] at hpush
    exact hpush
/-- parser.openBlocks (parser.go:928-1024) under the Document on the line `# …`: the heading is opened -/
theorem openBlocks_heading (rest : Bytes) (blank : Bool) (s : St)
    (hl : AtLine (35 :: 32 :: rest) s.r) (res : OpenResult) (s' : St)
    (h : openBlocks 0 blank s = .ok (res, s')) :
    res = .newBlocksOpened ∧ HeadingPushed s s' ∧ s.nodes.length < s'.nodes.length ∧
      s'.pc.skipList = s.pc.skipList ∧ s'.pc.emptyItemBlank = s.pc.emptyItemBlank ∧ Cur s s' := by
  unfold openBlocks at h
  obtain ⟨lb, s1, h1, k1⟩ := bind_ok h
  obtain ⟨_, e1⟩ := lastOpenedBlock_ok h1
  rw [e1] at k1
  have fin : ∀ cont, (do let v ← source; openBlocksLoop blank cont (retryFuel v) 0 OpenResult.noBlocksOpened lb : M OpenResult) s
      = .ok (res, s') → res = .newBlocksOpened ∧ HeadingPushed s s' ∧ s.nodes.length < s'.nodes.length ∧
      s'.pc.skipList = s.pc.skipList ∧ s'.pc.emptyItemBlank = s.pc.emptyItemBlank ∧ Cur s s' := by
    intro cont k2
    obtain ⟨v, s3, h3, k3⟩ := bind_ok k2
    have e3 : s3 = s := by cases h3; rfl
    rw [e3] at k3
    exact openBlocksLoop_heading rest blank cont (2 * v.length + 7) lb s hl res s' k3
  dsimp only at k1
  cases lb with
  | none =>
    dsimp only at k1
    obtain ⟨cont, s2, h2, k2⟩ := bind_ok k1
    obtain ⟨_, e2⟩ := pure_ok h2
    rw [e2] at k2
    exact fin cont k2
  | some b =>
    dsimp only at k1
    obtain ⟨n, s2, h2, k2⟩ := bind_ok k1
    obtain ⟨_, e2⟩ := getNode_ok h2
    rw [e2] at k2
    obtain ⟨cont, s3, h3, k3⟩ := bind_ok k2
    obtain ⟨_, e3⟩ := pure_ok h3
    rw [e3] at k3
    exact fin cont k3
theorem blockAt_okI {l : List Block} {i : Int} {b : Block} (h : blockAt l i = .ok b) :
    0 ≤ i ∧ l[i.toNat]? = some b := by
  unfold blockAt at h
  split at h
  · cases h
  · rename_i hi
    cases hg : l[i.toNat]? with
    | none => rw [hg] at h; cases h
    | some x => rw [hg] at h; cases h; exact ⟨by omega, rfl⟩

/-- the end of the pass (parser.go:1106-1122): after `openBlocks` pushed the heading, `closeBlocks` removes every
    block that was open before -/
theorem unwind_tail (rest : Bytes) (s sA sB sC : St) (be : Block) (obs : List Block) (blank : Bool)
    (hl : AtLine (35 :: 32 :: rest) sA.r) (hnA : sA.nodes = s.nodes) (hpA : sA.pc = s.pc)
    (hop : s.pc.opened = be :: obs) (hids : ∀ b ∈ be :: obs, b.node < s.nodes.length)
    (lastNode : Block) (hln : blockAt (be :: obs) (obs.length : Int) = .ok lastNode)
    (res : OpenResult) (hopen : openBlocks 0 blank sA = .ok (res, sB))
    (hclose : closeBlocks
      (if (Option.map (fun x => x.node) (slotAfter (be :: obs) sB.pc.opened ((obs.length : Int)).toNat) !=
          some lastNode.node) = true then (obs.length : Int) - 1 else (obs.length : Int)) 0 sB = .ok ((), sC)) :
    res = .newBlocksOpened ∧ sC.pc.opened = [⟨s.nodes.length, .atx⟩] ∧ s.nodes.length < sC.nodes.length ∧
      sC.pc.skipList = s.pc.skipList ∧ sC.pc.emptyItemBlank = s.pc.emptyItemBlank ∧ Cur sA sC := by
  obtain ⟨hres, hpush, hgrow, hk1, hk2, cuB⟩ := openBlocks_heading rest blank sA hl res sB hopen
  obtain ⟨_, hlast⟩ := blockAt_okI hln
  simp only [Int.toNat_natCast] at hlast hclose
  have hmem : lastNode ∈ be :: obs := List.mem_of_getElem? hlast
  have hlt : lastNode.node < s.nodes.length := hids _ hmem
  have hgC : NodesGrow sB sC := IFr.apply hclose (closeBlocks_nodesGrow _ _)
  have hkC : SameListKeys sB sC := IFr.apply hclose (closeBlocks_sameListKeys _ _)
  have hrC : SameReader sB sC := IFr.apply hclose (closeBlocks_sameReader _ _)
  obtain ⟨_, hoC⟩ := closeBlocks_opened _ _ _ _ hclose
  rw [hpA] at hk1 hk2
  rw [hnA] at hgrow
  refine ⟨hres, ?_, by have := hgC; unfold NodesGrow at this; omega, by rw [hkC.1, hk1], by rw [hkC.2, hk2],
    cuB.trans (Cur.of_sameReader hrC)⟩
  unfold HeadingPushed at hpush
  rw [hpA, hop, hnA] at hpush
  rcases hpush with hA | ⟨_, hB⟩
  · -- the heading was pushed on top of the old stack
    have hslot : slotAfter (be :: obs) sB.pc.opened obs.length = some lastNode := by
      unfold slotAfter
      rw [hA, List.getElem?_append_left (by simp), hlast]
    have hidx : (if (Option.map (fun x => x.node) (slotAfter (be :: obs) sB.pc.opened obs.length) !=
        some lastNode.node) = true then (obs.length : Int) - 1 else (obs.length : Int)) = obs.length := by
      rw [hslot]; simp
    rw [hidx] at hoC
    rw [hoC, hA]
    have : ((obs.length : Int) + 1).toNat = (be :: obs).length := by simp only [List.length_cons]; omega
    rw [this, List.drop_left]
    simp
  · -- the last open block was popped first
    have hB' : sB.pc.opened = (be :: obs).take obs.length ++ [⟨s.nodes.length, .atx⟩] := by
      rw [hB]; simp
    have hlenT : ((be :: obs).take obs.length).length = obs.length := by simp
    have hslot : slotAfter (be :: obs) sB.pc.opened obs.length = some ⟨s.nodes.length, .atx⟩ := by
      unfold slotAfter
      rw [hB', List.getElem?_append_right (by omega), hlenT]
      simp
    have hidx : (if (Option.map (fun x => x.node) (slotAfter (be :: obs) sB.pc.opened obs.length) !=
        some lastNode.node) = true then (obs.length : Int) - 1 else (obs.length : Int)) = (obs.length : Int) - 1 := by
      rw [hslot]
      have hne : ((some s.nodes.length : Option Nat) != some lastNode.node) = true := by
        simp only [bne_iff_ne, ne_eq, Option.some.injEq]; omega
      simp only [Option.map, hne, if_true]
    rw [hidx] at hoC
    rw [hoC, hB']
    have : ((obs.length : Int) - 1 + 1).toNat = ((be :: obs).take obs.length).length := by rw [hlenT]; omega
    rw [this, List.drop_left]
    simp
/-- **Reset, first step** (parser.go:1081-1123, one pass of the line loop): the reader stands on a non-indented
    ATX heading line `# …`; at least one block is open; the first open block is a paragraph or does not continue on
    this line (`ClosesAt`: block quotes, lists whose last item is indented, indented code blocks, headings and
    thematic breaks — see `closesAt_*`); the open blocks are valid node ids. Then, if the pass ends normally, it
    ends with EXACTLY ONE open block, the new heading (a fresh node), whatever and however many blocks were open
    before — and the list parser's two cross-line flags are untouched. From any state, reachable or not. -/
theorem headingLine_unwinds (rest : Bytes) (s : St) (be : Block) (obs : List Block) (stats : List LineStat)
    (hl : AtLine (35 :: 32 :: rest) s.r)
    (hop : s.pc.opened = be :: obs)
    (hids : ∀ b ∈ be :: obs, b.node < s.nodes.length)
    (hfirst : (s.nodes.getD be.node default).kind = .paragraph ∨ ClosesAt (35 :: 32 :: rest) be s)
    (out : LineOutcome) (stats' : List LineStat) (s' : St)
    (h : lineLoop 0 (be :: obs) (obs.length : Int) (be :: obs) 0 stats s = .ok ((out, stats'), s')) :
    out = .next ∧ s'.pc.opened = [⟨s.nodes.length, .atx⟩] ∧ s.nodes.length < s'.nodes.length ∧
      s'.pc.skipList = s.pc.skipList ∧ s'.pc.emptyItemBlank = s.pc.emptyItemBlank ∧ Cur s s' := by
  unfold lineLoop at h
  obtain ⟨y, s1, h1, k1⟩ := bind_ok h
  obtain ⟨rfl, hl1, hn1, hp1, cu1⟩ := peekLine_atLine hl h1
  dsimp only at k1
  obtain ⟨pos, s2, h2, k2⟩ := bind_ok k1
  have e2 : s2 = s1 := by cases h2; rfl
  rw [e2] at k2
  obtain ⟨beNode, s3, h3, k3⟩ := bind_ok k2
  obtain ⟨eb, e3⟩ := getNode_ok h3
  rw [e3] at k3
  have hn1' : s1.nodes = s.nodes := hn1
  -- the fall-through part of the pass, from a state that still has the store and the context of `s`
  have tail : ∀ (sA : St) (blank : Bool) (stv : List LineStat), AtLine (35 :: 32 :: rest) sA.r → sA.nodes = s.nodes →
      sA.pc = s.pc → Cur s sA →
      (do let thisParent ← (pure 0 : M Nat)
          let lastNode ← liftE (blockAt (be :: obs) (obs.length : Int))
          let result ← openBlocks thisParent blank
          if (result != OpenResult.paragraphContinuation) = true then do
              let __do_lift ← getPc
              closeBlocks
                  (if (Option.map (fun x => x.node) (slotAfter (be :: obs) __do_lift.opened ((obs.length : Int)).toNat) !=
                        some lastNode.node) = true then (obs.length : Int) - 1 else (obs.length : Int)) 0
              pure (LineOutcome.next, stv)
            else pure (LineOutcome.next, stv) : M (LineOutcome × List LineStat)) sA = .ok ((out, stats'), s') →
      out = .next ∧ s'.pc.opened = [⟨s.nodes.length, .atx⟩] ∧ s.nodes.length < s'.nodes.length ∧
        s'.pc.skipList = s.pc.skipList ∧ s'.pc.emptyItemBlank = s.pc.emptyItemBlank ∧ Cur s s' := by
    intro sA blank stv hlA hnA hpA cuA k
    obtain ⟨tp, sB, hB, kB⟩ := bind_ok k
    obtain ⟨rfl, eB⟩ := pure_ok hB
    rw [eB] at kB
    obtain ⟨lastNode, sC, hC, kC⟩ := bind_ok kB
    obtain ⟨hln, eC⟩ := liftE_ok hC
    rw [eC] at kC
    obtain ⟨res, sD, hD, kD⟩ := bind_ok kC
    obtain ⟨hres, _⟩ := openBlocks_heading rest blank sA hlA res sD hD
    rw [hres] at kD
    simp only [show (OpenResult.newBlocksOpened != OpenResult.paragraphContinuation) = true from rfl, if_true] at kD
    obtain ⟨pc, sE, hE, kE⟩ := bind_ok kD
    obtain ⟨epc, eE⟩ := getPc_ok hE
    rw [eE, epc] at kE
    obtain ⟨u, sF, hF, kF⟩ := bind_ok kE
    obtain ⟨eo, eF⟩ := pure_ok kF
    obtain ⟨_, h2, h3, h4, h5, h6⟩ := unwind_tail rest s sA sD sF be obs blank hlA hnA hpA hop hids lastNode hln res hD hF
    cases eo
    rw [eF]
    exact ⟨rfl, h2, h3, h4, h5, cuA.trans h6⟩
  by_cases hkind : (s.nodes.getD be.node default).kind = .paragraph
  · have hk : (beNode.kind != Kind.paragraph) = false := by rw [eb, hn1, hkind]; rfl
    rw [hk] at k3
    simp only [Bool.false_eq_true, if_false, Bool.not_true, bne_self_eq_false] at k3
    exact tail s1 _ _ hl1 hn1 hp1 cu1 k3
  · have hcl : ClosesAt (35 :: 32 :: rest) be s := by
      rcases hfirst with h | h
      · exact absurd h hkind
      · exact h
    have hk : (beNode.kind != Kind.paragraph) = true := by
      rw [eb, hn1]; simp only [bne_iff_ne, ne_eq]; exact hkind
    rw [hk] at k3
    simp only [if_true] at k3
    obtain ⟨st, s4, h4, k4⟩ := bind_ok k3
    obtain ⟨hcont, hl4, hn4, hp4, cu4⟩ := hcl s1 st s4 hl1 hn1 hp1 h4
    rw [hcont] at k4
    simp only [Bool.false_eq_true, if_false, Bool.not_true, bne_self_eq_false] at k4
    exact tail s4 _ _ hl4 hn4 hp4 (cu1.trans cu4) k4
theorem indentWidthI_nl (cur : Int) : indentWidthI [10] cur = (0, 0) := by
  simp [indentWidthI, indentWidthGo]

/-- parser.openBlocks on the blank line `\n` when the last open block is an ATX heading: nothing is opened,
    nothing is continued -/
theorem openBlocks_blank (parent : Nat) (blank : Bool) (s : St) (hd : Nat) (pre : List Block)
    (hl : AtLine [10] s.r) (hop : s.pc.opened = pre ++ [⟨hd, .atx⟩]) (res : OpenResult) (s' : St)
    (h : openBlocks parent blank s = .ok (res, s')) :
    res = .noBlocksOpened ∧ s'.pc.opened = s.pc.opened ∧ s'.nodes = s.nodes ∧
      s'.pc.skipList = s.pc.skipList ∧ s'.pc.emptyItemBlank = s.pc.emptyItemBlank ∧ Cur s s' := by
  unfold openBlocks at h
  obtain ⟨lb, s1, h1, k1⟩ := bind_ok h
  obtain ⟨elb, e1⟩ := lastOpenedBlock_ok h1
  rw [e1] at k1
  have hlb : lb = some ⟨hd, .atx⟩ := by rw [elb, hop]; simp
  have fin : ∀ cont, (do let v ← source; openBlocksLoop blank cont (retryFuel v) parent OpenResult.noBlocksOpened lb : M OpenResult) s
      = .ok (res, s') → res = .noBlocksOpened ∧ s'.pc.opened = s.pc.opened ∧ s'.nodes = s.nodes ∧
      s'.pc.skipList = s.pc.skipList ∧ s'.pc.emptyItemBlank = s.pc.emptyItemBlank ∧ Cur s s' := by
    intro cont k2
    obtain ⟨v, s3, h3, k3⟩ := bind_ok k2
    have e3 : s3 = s := by cases h3; rfl
    rw [e3] at k3
    have hf : retryFuel v = (2 * v.length + 7) + 1 := rfl
    rw [hf] at k3
    unfold openBlocksLoop at k3
    obtain ⟨y, s4, h4, k4⟩ := bind_ok k3
    obtain ⟨rfl, hl4, hn4, hp4, cu4⟩ := peekLine_atLine hl h4
    dsimp only at k4
    obtain ⟨lo, s5, h5, k5⟩ := bind_ok k4
    obtain ⟨hl5, hn5, hp5, cu5⟩ := lineOffset_atLine hl4 h5
    simp only [Option.getD, indentWidthI_nl] at k5
    obtain ⟨u, s6, h6, k6⟩ := bind_ok k5
    have e6 := modPc_ok h6
    have hidx : idx [10] 0 = .ok 10 := rfl
    simp only [Option.isNone, Bool.false_eq_true, if_false, hidx] at k6
    obtain ⟨c, s7, h7, k7⟩ := bind_ok k6
    obtain ⟨ec, e7⟩ := liftE_ok h7
    cases ec
    simp only [beq_self_eq_true, if_true] at k7
    rw [e7] at k7
    unfold toContinuable at k7
    rw [hlb] at k7
    have hres : res = .noBlocksOpened ∧ s' = s6 := by
      cases cont
      · simp only [Bool.and_false, Bool.false_eq_true, if_false] at k7
        exact pure_ok k7
      · simp only [beq_self_eq_true, Bool.and_true, if_true, bpContinue] at k7
        obtain ⟨st, s8, h8, k8⟩ := bind_ok k7
        obtain ⟨est, e8⟩ := pure_ok h8
        rw [est, e8] at k8
        simp only [stClose, Bool.false_eq_true] at k8
        exact pure_ok k8
    obtain ⟨hr, hs'⟩ := hres
    have hp6 : s6.pc.opened = s.pc.opened ∧ s6.pc.skipList = s.pc.skipList ∧
        s6.pc.emptyItemBlank = s.pc.emptyItemBlank := by
      rw [e6]
      have : s5.pc = s.pc := hp5.trans hp4
      refine ⟨?_, ?_, ?_⟩ <;> (dsimp only; split <;> rw [← this])
    have cu6 : Cur s s6 := by
      have : Cur s5 s6 := by rw [e6]; exact ⟨rfl, rfl⟩
      exact (cu4.trans cu5).trans this
    refine ⟨hr, by rw [hs']; exact hp6.1, by rw [hs', e6]; exact hn5.trans hn4, by rw [hs']; exact hp6.2.1,
      by rw [hs']; exact hp6.2.2, by rw [hs']; exact cu6⟩
  dsimp only at k1
  cases lb with
  | none =>
    dsimp only at k1
    obtain ⟨cont, s2, h2, k2⟩ := bind_ok k1
    obtain ⟨_, e2⟩ := pure_ok h2
    rw [e2] at k2
    exact fin cont k2
  | some b =>
    dsimp only at k1
    obtain ⟨n, s2, h2, k2⟩ := bind_ok k1
    obtain ⟨_, e2⟩ := getNode_ok h2
    rw [e2] at k2
    obtain ⟨cont, s3, h3, k3⟩ := bind_ok k2
    obtain ⟨_, e3⟩ := pure_ok h3
    rw [e3] at k3
    exact fin cont k3
/-- **Reset, second step**: the pass of the line loop over the blank line `\n` that follows the heading, when the
    heading is the only open block, closes it: no block is open afterwards, the node store has not shrunk and the
    list parser's flags are untouched. From any state. -/
theorem blankLine_closes_heading (s : St) (hd : Nat) (stats : List LineStat)
    (hl : AtLine [10] s.r) (hop : s.pc.opened = [⟨hd, .atx⟩])
    (out : LineOutcome) (stats' : List LineStat) (s' : St)
    (h : lineLoop 0 [⟨hd, .atx⟩] 0 [⟨hd, .atx⟩] 0 stats s = .ok ((out, stats'), s')) :
    out = .next ∧ s'.pc.opened = [] ∧ s.nodes.length ≤ s'.nodes.length ∧
      s'.pc.skipList = s.pc.skipList ∧ s'.pc.emptyItemBlank = s.pc.emptyItemBlank ∧ Cur s s' := by
  unfold lineLoop at h
  obtain ⟨y, s1, h1, k1⟩ := bind_ok h
  obtain ⟨rfl, hl1, hn1, hp1, cu1⟩ := peekLine_atLine hl h1
  dsimp only at k1
  obtain ⟨pos, s2, h2, k2⟩ := bind_ok k1
  have e2 : s2 = s1 := by cases h2; rfl
  rw [e2] at k2
  obtain ⟨beNode, s3, h3, k3⟩ := bind_ok k2
  obtain ⟨eb, e3⟩ := getNode_ok h3
  rw [e3] at k3
  have tail : ∀ (sA : St) (blank : Bool) (stv : List LineStat), AtLine [10] sA.r → sA.nodes = s.nodes →
      sA.pc = s.pc → Cur s sA →
      (do let thisParent ← (pure 0 : M Nat)
          let lastNode ← liftE (blockAt [⟨hd, .atx⟩] 0)
          let result ← openBlocks thisParent blank
          if (result != OpenResult.paragraphContinuation) = true then do
              let __do_lift ← getPc
              closeBlocks
                  (if (Option.map (fun x => x.node) (slotAfter [⟨hd, .atx⟩] __do_lift.opened (0 : Int).toNat) !=
                        some lastNode.node) = true then (0 : Int) - 1 else (0 : Int)) 0
              pure (LineOutcome.next, stv)
            else pure (LineOutcome.next, stv) : M (LineOutcome × List LineStat)) sA = .ok ((out, stats'), s') →
      out = .next ∧ s'.pc.opened = [] ∧ s.nodes.length ≤ s'.nodes.length ∧
        s'.pc.skipList = s.pc.skipList ∧ s'.pc.emptyItemBlank = s.pc.emptyItemBlank ∧ Cur s s' := by
    intro sA blank stv hlA hnA hpA cuA k
    obtain ⟨tp, sB, hB, kB⟩ := bind_ok k
    obtain ⟨rfl, eB⟩ := pure_ok hB
    rw [eB] at kB
    obtain ⟨lastNode, sC, hC, kC⟩ := bind_ok kB
    obtain ⟨hln, eC⟩ := liftE_ok hC
    have hln' : lastNode = ⟨hd, .atx⟩ := by cases hln; rfl
    rw [eC] at kC
    obtain ⟨res, sD, hD, kD⟩ := bind_ok kC
    have hopA : sA.pc.opened = [] ++ [⟨hd, .atx⟩] := by rw [hpA, hop]; rfl
    obtain ⟨hres, hoD, hnD, hk1, hk2, cuD⟩ := openBlocks_blank 0 blank sA hd [] hlA hopA res sD hD
    rw [hres] at kD
    simp only [show (OpenResult.noBlocksOpened != OpenResult.paragraphContinuation) = true from rfl, if_true] at kD
    obtain ⟨pc, sE, hE, kE⟩ := bind_ok kD
    obtain ⟨epc, eE⟩ := getPc_ok hE
    rw [eE, epc] at kE
    obtain ⟨u, sF, hF, kF⟩ := bind_ok kE
    obtain ⟨eo, eF⟩ := pure_ok kF
    have hoD' : sD.pc.opened = [⟨hd, .atx⟩] := by rw [hoD, hopA]; rfl
    rw [hoD', hln'] at hF
    have hidx : (if (Option.map (fun x => x.node) (slotAfter [(⟨hd, .atx⟩ : Block)] [⟨hd, .atx⟩] (0 : Int).toNat) !=
        some (⟨hd, .atx⟩ : Block).node) = true then (0 : Int) - 1 else (0 : Int)) = 0 := by
      simp [slotAfter]
    rw [hidx] at hF
    obtain ⟨_, hoF⟩ := closeBlocks_opened _ _ _ _ hF
    have hgF : NodesGrow sD sF := IFr.apply hF (closeBlocks_nodesGrow _ _)
    have hkF : SameListKeys sD sF := IFr.apply hF (closeBlocks_sameListKeys _ _)
    have hrF : SameReader sD sF := IFr.apply hF (closeBlocks_sameReader _ _)
    cases eo
    rw [eF]
    refine ⟨rfl, ?_, ?_, by rw [hkF.1, hk1, hpA], by rw [hkF.2, hk2, hpA],
      (cuA.trans cuD).trans (Cur.of_sameReader hrF)⟩
    · rw [hoF, hoD']; rfl
    · have := hgF; unfold NodesGrow at this; rw [hnD, hnA] at this; exact this
  by_cases hk : (beNode.kind != Kind.paragraph) = true
  · rw [hk] at k3
    simp only [if_true, bpContinue] at k3
    obtain ⟨st, s4, h4, k4⟩ := bind_ok k3
    obtain ⟨est, e4⟩ := pure_ok h4
    rw [est, e4] at k4
    simp only [stClose, Bool.false_eq_true, if_false, Bool.not_true, bne_self_eq_false] at k4
    exact tail s1 _ _ hl1 hn1 hp1 cu1 k4
  · have hk' : (beNode.kind != Kind.paragraph) = false := by simpa using hk
    rw [hk'] at k3
    simp only [Bool.false_eq_true, if_false, Bool.not_true, bne_self_eq_false] at k3
    exact tail s1 _ _ hl1 hn1 hp1 cu1 k3
/-- with no block open the line loop of parseBlocks stops at once (parser.go:1076-1079) and hands control back to
    the outer loop, which treats what follows like the beginning of a document -/
theorem linesLoop_empty (parent fuel : Nat) (stats : List LineStat) (s : St) (h : s.pc.opened = []) :
    linesLoop parent (fuel + 1) stats s = .ok ((false, stats), s) := by
  unfold linesLoop
  simp [bind, StateT.bind, getPc, pure, StateT.pure, Except.bind, Except.pure, h]

theorem advanceLine_source (r : Reader) : r.advanceLine.source = r.source := by
  unfold Reader.advanceLine; dsimp only; split <;> rfl

theorem advanceLine_pos_congr {r1 r2 : Reader} (hp : r1.pos = r2.pos) (hs : r1.source = r2.source) :
    r1.advanceLine.pos = r2.advanceLine.pos := by
  unfold Reader.advanceLine
  simp only [hp, hs]
  split <;> rfl

/-- `AdvanceLine` looks at the cursor only -/
theorem atLine_advanceLine_of_cur {line : Bytes} {a b : St} (h : Cur a b) (ha : AtLine line a.r.advanceLine) :
    AtLine line b.r.advanceLine := by
  obtain ⟨hp, hs⟩ := h
  have e1 : b.r.advanceLine.pos = a.r.advanceLine.pos := advanceLine_pos_congr hp hs
  have e2 : b.r.advanceLine.source = a.r.advanceLine.source := by
    rw [advanceLine_source, advanceLine_source, hs]
  have e3 : b.r.advanceLine.peekedLine = none := Proof.Reader.advanceLine_peeked _
  refine ⟨by rw [e1]; exact ha.start0, ?_, by rw [e1, e2]; exact ha.value, .inl e3⟩
  have := ha.startLt
  unfold Reader.sourceLength at this ⊢
  rw [e1, e2]; exact this

theorem advanceLine_ok {s : St} {u : Unit} {s' : St} (h : advanceLine s = .ok (u, s')) :
    s' = { s with r := s.r.advanceLine } := by cases h; rfl

/-- **Reset** (mechanism (ii) of C09's first half, at the level of parseBlocks' line loop, parser.go:1074-1126).
    The reader stands on a non-indented ATX heading line `# …` that is followed by the blank line `\n`; some blocks
    are open, all of them valid node ids, and the first one is a paragraph or does not continue on the heading line.
    Then the line loop — if it ends normally — hands control back to the outer loop of parseBlocks after exactly
    these two lines with NO BLOCK OPEN (every block that was open, and the heading, have been closed), with the
    list parser's cross-line flags `skipListParser` / `emptyListItemWithBlankLines` as they were, the node store
    grown by at least the heading, and the reader at the line after the blank line. From any state, reachable or
    not; any number and kind of open blocks after the first. -/
theorem heading_blank_resets (rest : Bytes) (s : St) (be : Block) (obs : List Block) (stats : List LineStat) (fuel : Nat)
    (hl : AtLine (35 :: 32 :: rest) s.r) (hnext : AtLine [10] s.r.advanceLine)
    (hop : s.pc.opened = be :: obs)
    (hids : ∀ b ∈ be :: obs, b.node < s.nodes.length)
    (hfirst : (s.nodes.getD be.node default).kind = .paragraph ∨ ClosesAt (35 :: 32 :: rest) be s)
    (ret : Bool) (stats' : List LineStat) (s' : St)
    (h : linesLoop 0 (fuel + 3) stats s = .ok ((ret, stats'), s')) :
    ret = false ∧ s'.pc.opened = [] ∧ s.nodes.length < s'.nodes.length ∧
      s'.pc.skipList = s.pc.skipList ∧ s'.pc.emptyItemBlank = s.pc.emptyItemBlank ∧
      s'.r.pos = s.r.advanceLine.advanceLine.pos ∧ s'.r.source = s.r.source := by
  unfold linesLoop at h
  obtain ⟨pc, s1, h1, k1⟩ := bind_ok h
  obtain ⟨epc, e1⟩ := getPc_ok h1
  rw [e1, epc, hop] at k1
  dsimp only at k1
  have hl0 : ((be :: obs).length == 0) = false := by simp
  rw [hl0] at k1
  simp only [Bool.false_eq_true, if_false] at k1
  have hlen : (((be :: obs).length : Nat) : Int) - 1 = (obs.length : Int) := by
    simp only [List.length_cons]; omega
  rw [hlen] at k1
  obtain ⟨x, s2, h2, k2⟩ := bind_ok k1
  obtain ⟨out, st1⟩ := x
  obtain ⟨ho, hop2, hn2, hk21, hk22, cu2⟩ := headingLine_unwinds rest s be obs stats hl hop hids hfirst out st1 s2 h2
  subst ho
  dsimp only at k2
  obtain ⟨u, s3, h3, k3⟩ := bind_ok k2
  have e3 := advanceLine_ok h3
  have hl3 : AtLine [10] s3.r := by rw [e3]; exact atLine_advanceLine_of_cur cu2 hnext
  have hop3 : s3.pc.opened = [⟨s.nodes.length, .atx⟩] := by rw [e3]; exact hop2
  -- second line
  unfold linesLoop at k3
  obtain ⟨pc3, s4, h4, k4⟩ := bind_ok k3
  obtain ⟨epc3, e4⟩ := getPc_ok h4
  rw [e4, epc3, hop3] at k4
  dsimp only at k4
  have hl1 : (([⟨s.nodes.length, .atx⟩] : List Block).length == 0) = false := by simp
  rw [hl1] at k4
  simp only [Bool.false_eq_true, if_false] at k4
  have hlen1 : ((([⟨s.nodes.length, .atx⟩] : List Block).length : Nat) : Int) - 1 = 0 := by simp
  rw [hlen1] at k4
  obtain ⟨x5, s5, h5, k5⟩ := bind_ok k4
  obtain ⟨out5, st5⟩ := x5
  obtain ⟨ho5, hop5, hn5, hk51, hk52, cu5⟩ := blankLine_closes_heading s3 s.nodes.length st1 hl3 hop3 out5 st5 s5 h5
  subst ho5
  dsimp only at k5
  obtain ⟨u6, s6, h6, k6⟩ := bind_ok k5
  have e6 := advanceLine_ok h6
  have hop6 : s6.pc.opened = [] := by rw [e6]; exact hop5
  rw [linesLoop_empty 0 fuel st5 s6 hop6] at k6
  cases k6
  have hs3n : s3.nodes = s2.nodes := by rw [e3]
  have hs3p : s3.pc = s2.pc := by rw [e3]
  refine ⟨rfl, hop6, ?_, ?_, ?_, ?_, ?_⟩
  · rw [e6]; show s.nodes.length < s5.nodes.length; rw [hs3n] at hn5; omega
  · rw [e6]; show s5.pc.skipList = _; rw [hk51, hs3p, hk21]
  · rw [e6]; show s5.pc.emptyItemBlank = _; rw [hk52, hs3p, hk22]
  · rw [e6]
    show s5.r.advanceLine.pos = _
    rw [advanceLine_pos_congr cu5.1 cu5.2, e3]
    show s2.r.advanceLine.advanceLine.pos = _
    exact advanceLine_pos_congr (advanceLine_pos_congr cu2.1 cu2.2)
      (by rw [advanceLine_source, advanceLine_source, cu2.2])
  · rw [e6]
    show s5.r.advanceLine.source = _
    rw [advanceLine_source, cu5.2, e3]
    show s2.r.advanceLine.source = _
    rw [advanceLine_source, cu2.2]
theorem isBlank_hash2 (rest : Bytes) : isBlank (35 :: 32 :: rest) = false := isBlank_hash _

/-- `reader.SkipBlankLines` on a reader that stands on the non-blank line `# …` skips nothing -/
theorem skipBlankLinesR_heading (rest : Bytes) (s : St) (hl : AtLine (35 :: 32 :: rest) s.r)
    (x : Segment × Int × Bool) (s' : St) (h : skipBlankLinesR s = .ok (x, s')) :
    x.2.1 = 0 ∧ x.2.2 = true ∧ AtLine (35 :: 32 :: rest) s'.r ∧ s'.nodes = s.nodes ∧ s'.pc = s.pc ∧ Cur s s' := by
  unfold skipBlankLinesR at h
  have hf : loopFuel s.r.source = (4 * s.r.source.length + 63) + 1 := rfl
  rw [hf] at h
  unfold skipBlankLines at h
  obtain ⟨r', h1, h2, h3, h4⟩ := hl.peekLine
  simp only [readerOps, h1, bind, Except.bind, isBlank_hash2, Bool.false_eq_true, if_false, pure, Except.pure] at h
  cases h
  exact ⟨rfl, rfl, h2, rfl, rfl, h3, h4⟩
/-- **Reset when nothing is open** (the other path through parseBlocks, parser.go:1055-1127): the outer loop stands
    on a non-indented ATX heading line `# …` followed by the blank line `\n`, no block is open. Then — if the run
    ends normally — the rest of the run is the outer loop started again, after exactly these two lines, in a state
    with no block open, the list parser's flags as they were, the node store grown by the heading, the reader at
    the line after the blank line. From any state. -/
theorem heading_blank_resets_top (rest : Bytes) (s : St) (stats : List LineStat) (fuel : Nat)
    (hl : AtLine (35 :: 32 :: rest) s.r) (hnext : AtLine [10] s.r.advanceLine)
    (hop : s.pc.opened = []) (s' : St)
    (h : blocksLoop 0 (fuel + 3) stats s = .ok ((), s')) :
    ∃ stats'' s'', s''.pc.opened = [] ∧ s.nodes.length < s''.nodes.length ∧
      s''.pc.skipList = s.pc.skipList ∧ s''.pc.emptyItemBlank = s.pc.emptyItemBlank ∧
      s''.r.pos = s.r.advanceLine.advanceLine.pos ∧ s''.r.source = s.r.source ∧
      blocksLoop 0 (fuel + 2) stats'' s'' = .ok ((), s') := by
  unfold blocksLoop at h
  obtain ⟨x, s1, h1, k1⟩ := bind_ok h
  obtain ⟨hx1, hx2, hl1, hn1, hp1, cu1⟩ := skipBlankLinesR_heading rest s hl x s1 h1
  obtain ⟨seg, lines, ok⟩ := x
  simp only at hx1 hx2
  subst hx1 hx2
  simp only [Bool.not_true, Bool.false_eq_true, if_false] at k1
  obtain ⟨pos, s2, h2, k2⟩ := bind_ok k1
  have e2 : s2 = s1 := by cases h2; rfl
  rw [e2] at k2
  obtain ⟨pc, s3, h3, k3⟩ := bind_ok k2
  obtain ⟨epc, e3⟩ := getPc_ok h3
  rw [e3] at k3
  simp only [bne_self_eq_false, Bool.false_eq_true, if_false] at k3
  obtain ⟨res, s4, h4, k4⟩ := bind_ok k3
  obtain ⟨hres, hpush, hn4, hk41, hk42, cu4⟩ := openBlocks_heading rest _ s1 hl1 res s4 h4
  rw [hres] at k4
  simp only [bne_self_eq_false, Bool.false_eq_true, if_false] at k4
  have hop1 : s1.pc.opened = [] := by rw [hp1]; exact hop
  have hop4 : s4.pc.opened = [⟨s.nodes.length, .atx⟩] := by
    unfold HeadingPushed at hpush
    rw [hop1, hn1] at hpush
    rcases hpush with hA | ⟨hne, _⟩
    · simpa using hA
    · exact absurd rfl hne
  obtain ⟨u, s5, h5, k5⟩ := bind_ok k4
  have e5 := advanceLine_ok h5
  have cu14 : Cur s s4 := cu1.trans cu4
  have hl5 : AtLine [10] s5.r := by rw [e5]; exact atLine_advanceLine_of_cur cu14 hnext
  have hop5 : s5.pc.opened = [⟨s.nodes.length, .atx⟩] := by rw [e5]; exact hop4
  obtain ⟨y, s6, h6, k6⟩ := bind_ok k5
  -- the line loop: one pass over the blank line, then it stops
  unfold linesLoop at h6
  obtain ⟨pc6, s7, h7, k7⟩ := bind_ok h6
  obtain ⟨epc6, e7⟩ := getPc_ok h7
  rw [e7, epc6, hop5] at k7
  dsimp only at k7
  have hl1' : (([⟨s.nodes.length, .atx⟩] : List Block).length == 0) = false := by simp
  rw [hl1'] at k7
  simp only [Bool.false_eq_true, if_false] at k7
  have hlen1 : ((([⟨s.nodes.length, .atx⟩] : List Block).length : Nat) : Int) - 1 = 0 := by simp
  rw [hlen1] at k7
  obtain ⟨x8, s8, h8, k8⟩ := bind_ok k7
  obtain ⟨out8, st8⟩ := x8
  obtain ⟨ho8, hop8, hn8, hk81, hk82, cu8⟩ := blankLine_closes_heading s5 s.nodes.length _ hl5 hop5 out8 st8 s8 h8
  subst ho8
  dsimp only at k8
  obtain ⟨u9, s9, h9, k9⟩ := bind_ok k8
  have e9 := advanceLine_ok h9
  have hop9 : s9.pc.opened = [] := by rw [e9]; exact hop8
  rw [linesLoop_empty 0 fuel st8 s9 hop9] at k9
  obtain ⟨ey, es6⟩ : (false, st8) = y ∧ s9 = s6 := by simpa using k9
  subst ey
  rw [← es6] at k6
  dsimp only at k6
  simp only [Bool.false_eq_true, if_false] at k6
  have hs5n : s5.nodes = s4.nodes := by rw [e5]
  have hs5p : s5.pc = s4.pc := by rw [e5]
  refine ⟨st8, s9, hop9, ?_, ?_, ?_, ?_, ?_, k6⟩
  · rw [e9]; show s.nodes.length < s8.nodes.length; rw [hs5n] at hn8; rw [hn1] at hn4; omega
  · rw [e9]; show s8.pc.skipList = _; rw [hk81, hs5p, hk41, hp1]
  · rw [e9]; show s8.pc.emptyItemBlank = _; rw [hk82, hs5p, hk42, hp1]
  · rw [e9]
    show s8.r.advanceLine.pos = _
    rw [advanceLine_pos_congr cu8.1 cu8.2, e5]
    show s4.r.advanceLine.advanceLine.pos = _
    exact advanceLine_pos_congr (advanceLine_pos_congr cu14.1 cu14.2)
      (by rw [advanceLine_source, advanceLine_source, cu14.2])
  · rw [e9]
    show s8.r.advanceLine.source = _
    rw [advanceLine_source, cu8.2, e5]
    show s4.r.advanceLine.source = _
    rw [advanceLine_source, cu14.2]
end GM.Blocks
