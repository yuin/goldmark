/-
  GM.Proof.QuoteSimList — one-line-step simulation of the list parsers (parser/list.go, parser/list_item.go):
  `listOpen_sim`, `listContinue_sim`, `listItemOpen_sim` (all three for ALL related states) and
  `listItemContinue_sim'` (with two named hypotheses: a line is there, and `ListItemContPre` when the rest of the line is not blank; without them the
  statement is false: goldmark then calls `Advance(-1)` / `AdvanceAndSetPadding(-1, -1)` and the reader moves back).
  `listClose` reads `HasBlankPreviousLines`, which the relation relates only in sources without a blank line: it is
  simulated under a hypothesis on those flags (`listClose_sim'`, GM.Proof.QuoteSimSetext).
-/
import GM.Proof.QuoteSimLeaf
import GM.Proof.QuoteSimCode

namespace GM.Blocks
open GM GM.Text GM.Spec GM.Proof.Reader

theorem lastOffset_s2 {src k ls p} {sA sB : St} (h : SR src k ls p sA sB) (node : Nat) :
    S2 (fun a b sA' sB' => b = a ∧ SR src k ls p sA' sB') (lastOffset node sA) (lastOffset (node + 1) sB) := by
  unfold lastOffset
  refine S2.bind (getNode_s2 h node) (fun a b sA1 sB1 hq => ?_)
  obtain ⟨hab, h1⟩ := hq
  rw [hab.children, List.getLast?_map]
  cases a.children.getLast? with
  | none => exact S2.pure ⟨rfl, h1⟩
  | some lc =>
    simp only [Option.map_some]
    refine S2.bind (getNode_s2 h1 lc) (fun c d sA2 sB2 hq => ?_)
    obtain ⟨hcd, h2⟩ := hq
    have hk : (d.kind != Kind.listItem) = (c.kind != Kind.listItem) := by
      have hkk := hcd.kind
      by_cases h0 : lc = 0
      · subst h0
        simp only [beq_self_eq_true, if_true] at hkk
        rw [hkk.1, hkk.2]; rfl
      · rw [beq_eq_false_iff_ne.mpr h0] at hkk
        simp only [Bool.false_eq_true, if_false] at hkk
        rw [hkk]
    rw [hk, hcd.offset]
    by_cases hc : (c.kind != Kind.listItem) = true
    · rw [if_pos hc]
      exact S2.bind (P := fun _ _ _ _ => False) S2.throwL (fun _ _ _ _ hf => hf.elim)
    · rw [if_neg hc]
      exact S2.pure ⟨rfl, h2⟩

theorem lastChildCount_s2 {src k ls p} {sA sB : St} (h : SR src k ls p sA sB) (node : Nat) :
    S2 (fun a b sA' sB' => b = a ∧ SR src k ls p sA' sB') (lastChildCount node sA) (lastChildCount (node + 1) sB) := by
  unfold lastChildCount
  refine S2.bind (getNode_s2 h node) (fun a b sA1 sB1 hq => ?_)
  obtain ⟨hab, h1⟩ := hq
  rw [hab.children, List.getLast?_map]
  cases a.children.getLast? with
  | none => exact S2.throwL
  | some lc =>
    simp only [Option.map_some]
    refine S2.bind (getNode_s2 h1 lc) (fun c d sA2 sB2 hq => ?_)
    obtain ⟨hcd, h2⟩ := hq
    rw [hcd.children, List.length_map]
    exact S2.pure ⟨rfl, h2⟩

/-- the part of `listOpen` behind the lookup of the last opened block's node (a copy of the text of the model) -/
def listOpenRest_qs (parent : Nat) (lastNode : Option Node) : M (Option Nat × PState) := do
  let lok := match lastNode with | some n => n.kind == .list | none => false
  if lok || (← getPc).skipList then
    modPc fun pc => { pc with skipList := false }
    return (none, stNoChildren)
  let (line, _) ← peekLine
  let line := line.getD []
  let (m, typ) := matchesListItem line true
  if typ == .notList then return (none, stNoChildren)
  let mut start : Int := -1
  if typ == .ordered then
    let number ← liftE (slice line m.r2 (m.r3 - 1))
    start := atoiDigits number
  let lastIsParaOfParent := match lastNode with
    | some n => n.kind == Kind.paragraph && n.parent == some parent
    | none => false
  if lastIsParaOfParent then
    if typ == ListTyp.ordered && start != 1 then return (none, stNoChildren)
    if m.r4 < 0 then return (none, stNoChildren)
    if isBlank (← liftE (slice line m.r4 m.r5)) then return (none, stNoChildren)
  let marker ← liftE (idx line (m.r3 - 1))
  let node ← newNode { kind := .list, marker := marker, start := if start > -1 then start else 0 }
  modPc fun pc => { pc with emptyItemBlank := false }
  return (some node, stHasChildren)

/-- the end of `listOpen`: the node is built -/
def listOpenFin (line : Bytes) (m : M6) (start : Int) : M (Option Nat × PState) := do
  let marker ← liftE (idx line (m.r3 - 1))
  let node ← newNode { kind := .list, marker := marker, start := if start > -1 then start else 0 }
  modPc fun pc => { pc with emptyItemBlank := false }
  return (some node, stHasChildren)

/-- the tests of `listOpen` when the last opened block is a paragraph of the parent, then `listOpenFin` -/
def listOpenMid (line : Bytes) (m : M6) (typ : ListTyp) (lip : Bool) (start : Int) : M (Option Nat × PState) := do
  if lip then
    if typ == ListTyp.ordered && start != 1 then return (none, stNoChildren)
    if m.r4 < 0 then return (none, stNoChildren)
    if isBlank (← liftE (slice line m.r4 m.r5)) then return (none, stNoChildren)
  listOpenFin line m start

theorem listOpenFin_s2 {src k ls p} {sA sB : St} (h : SR src k ls p sA sB) (line : Bytes) (m : M6) (start : Int) :
    S2 (fun a b sA' sB' => OpenRel a b ∧ ∃ p', p ≤ p' ∧ SR src k ls p' sA' sB')
      (listOpenFin line m start sA) (listOpenFin line m start sB) := by
  unfold listOpenFin
  refine S2.bind_liftE (fun c _ => ?_)
  refine S2.bind (newNode_s2 h _ _ (nodeRel_new src _ rfl rfl rfl rfl (by show (-1 : Int) < 0; decide))) (fun n n' sA2 sB2 hq => ?_)
  obtain ⟨_, hm, hn0, h2⟩ := hq
  subst hm
  refine S2.bind (modPc_s2 h2 _ _ (fun a b hab => ?_)) (fun _ _ sA3 sB3 h3 => ?_)
  · exact { hab with emptyItemBlank := rfl }
  · exact S2.pure ⟨⟨rfl, .inr ⟨n, hn0, rfl, rfl⟩⟩, p, Nat.le_refl _, h3⟩

theorem listOpenMid_s2 {src k ls p} {sA sB : St} (h : SR src k ls p sA sB) (line : Bytes) (m : M6) (typ : ListTyp)
    (lip : Bool) (start : Int) :
    S2 (fun a b sA' sB' => OpenRel a b ∧ ∃ p', p ≤ p' ∧ SR src k ls p' sA' sB')
      (listOpenMid line m typ lip start sA) (listOpenMid line m typ lip start sB) := by
  unfold listOpenMid
  by_cases hc1 : lip = true
  · simp only [if_pos hc1]
    by_cases hc2 : (typ == ListTyp.ordered && start != 1) = true
    · simp only [if_pos hc2]
      exact S2.pure ⟨⟨rfl, .inl ⟨rfl, rfl⟩⟩, p, Nat.le_refl _, h⟩
    simp only [if_neg hc2]
    by_cases hc3 : m.r4 < 0
    · simp only [if_pos hc3]
      exact S2.pure ⟨⟨rfl, .inl ⟨rfl, rfl⟩⟩, p, Nat.le_refl _, h⟩
    simp only [if_neg hc3]
    refine S2.bind_liftE (fun v _ => ?_)
    by_cases hc4 : isBlank v = true
    · simp only [if_pos hc4]
      exact S2.pure ⟨⟨rfl, .inl ⟨rfl, rfl⟩⟩, p, Nat.le_refl _, h⟩
    simp only [if_neg hc4]
    exact listOpenFin_s2 h line m start
  · simp only [if_neg hc1]
    exact listOpenFin_s2 h line m start

/-- what `listOpen` reads of the last opened block's node is the same in both runs -/
def LastNodeRel (parent : Nat) (x y : Option Node) : Prop :=
  (match y with | some n => n.kind == Kind.list | none => false) =
    (match x with | some n => n.kind == Kind.list | none => false) ∧
  (match y with | some n => n.kind == Kind.paragraph && n.parent == some (parent + 1) | none => false) =
    (match x with | some n => n.kind == Kind.paragraph && n.parent == some parent | none => false)

theorem listOpenRest_s2 {src k ls p} {sA sB : St} (h : SR src k ls p sA sB) (parent : Nat) (x y : Option Node)
    (hxy : LastNodeRel parent x y) :
    S2 (fun a b sA' sB' => OpenRel a b ∧ ∃ p', p ≤ p' ∧ SR src k ls p' sA' sB')
      (listOpenRest_qs parent x sA) (listOpenRest_qs (parent + 1) y sB) := by
  obtain ⟨hlok, hlip⟩ := hxy
  unfold listOpenRest_qs
  rw [hlok, hlip]
  generalize (match x with | some n => n.kind == Kind.list | none => false) = lok
  generalize (match x with | some n => n.kind == Kind.paragraph && n.parent == some parent | none => false) = lip
  refine S2.bind (getPc_s2 h) (fun ca cb sA1 sB1 hq => ?_)
  obtain ⟨_, _, hcr, hsa, hsb⟩ := hq
  subst hsa hsb
  rw [hcr.skipList]
  by_cases hc1 : (lok || ca.skipList) = true
  · simp only [if_pos hc1]
    refine S2.bind (modPc_s2 h _ _ (fun a b hab => ?_)) (fun _ _ sA2 sB2 h2 => ?_)
    · exact { hab with skipList := rfl }
    · exact S2.pure ⟨⟨rfl, .inl ⟨rfl, rfl⟩⟩, p, Nat.le_refl _, h2⟩
  simp only [if_neg hc1]
  refine S2.bind (peekLine_s2 h) (fun a b sA2 sB2 hq => ?_)
  obtain ⟨ha, hb, h2⟩ := hq
  subst ha hb
  simp only
  generalize hr : matchesListItem ((viewA src ls p).getD []) true = r
  obtain ⟨m, typ⟩ := r
  simp only
  by_cases hc2 : (typ == ListTyp.notList) = true
  · simp only [if_pos hc2]
    exact S2.pure ⟨⟨rfl, .inl ⟨rfl, rfl⟩⟩, p, Nat.le_refl _, h2⟩
  simp only [if_neg hc2]
  by_cases hc3 : (typ == ListTyp.ordered) = true
  · simp only [if_pos hc3]
    refine S2.bind_liftE (fun v _ => ?_)
    exact listOpenMid_s2 h2 _ m typ lip (atoiDigits v)
  · simp only [if_neg hc3]
    exact listOpenMid_s2 h2 _ m typ lip (-1)

theorem listOpen_sim (src : Bytes) : OpenSim src .list := by
  intro k ls p parent sA sB h
  show S2 _ (listOpen parent sA) (listOpen (parent + 1) sB)
  unfold listOpen
  refine S2.bind (lastOpenedBlock_s2 h) (fun la lb sA1 sB1 hq => ?_)
  obtain ⟨hlr, _, hsA, hsB⟩ := hq
  subst hsA hsB
  rcases hlr with ⟨ha, hb⟩ | ⟨blk, ha, hb⟩
  · subst ha hb
    have hk := (h.n.node 0).kind
    simp only [beq_self_eq_true, if_true] at hk
    have e : getNode bqBlock.node sB1 = .ok (sB1.nodes.getD 1 default, sB1) := rfl
    refine S2.bindR e ?_
    refine listOpenRest_s2 h parent none (some (sB1.nodes.getD 1 default)) ⟨?_, ?_⟩
    · show ((sB1.nodes.getD 1 default).kind == Kind.list) = false
      rw [hk.1]; rfl
    · show ((sB1.nodes.getD 1 default).kind == Kind.paragraph && _) = false
      rw [hk.1]; rfl
  · subst ha hb
    refine S2.bind (getNode_s2 h blk.node) (fun a b sA2 sB2 hq => ?_)
    obtain ⟨hab, h2⟩ := hq
    have hkp : (b.kind == Kind.list) = (a.kind == Kind.list) ∧
        (b.kind == Kind.paragraph && b.parent == some (parent + 1)) =
          (a.kind == Kind.paragraph && a.parent == some parent) := by
      have hkk := hab.kind
      have hpp := hab.parent
      by_cases h0 : blk.node = 0
      · rw [h0] at hkk hpp
        simp only [beq_self_eq_true, if_true] at hkk hpp
        rw [hkk.1, hkk.2]; exact ⟨rfl, rfl⟩
      · rw [beq_eq_false_iff_ne.mpr h0] at hkk hpp
        simp only [Bool.false_eq_true, if_false] at hkk hpp
        rw [hkk, hpp, opt_succ_beq]; exact ⟨rfl, rfl⟩
    exact listOpenRest_s2 h2 parent (some a) (some b) ⟨hkp.1, hkp.2⟩

/-- the last two tests of `listContinue` -/
def listContFin (lastIsEmpty : Bool) (indent offset : Int) : M PState := do
  if lastIsEmpty && indent < offset then return stClose
  if (← getPc).emptyItemBlank then return stClose
  return stContinueHasChildren

/-- `if !lastIsEmpty { return Close }`, then the last two tests -/
def listContMid (lastIsEmpty : Bool) (indent offset : Int) : M PState := do
  if !lastIsEmpty then return stClose
  listContFin lastIsEmpty indent offset

/-- list.go:210-222 behind the lookup of the last opened block -/
def listContTb2 (tail : Bytes) (lastIsPara : Bool) : M PState := do
  let mut isHeading := false
  if lastIsPara then
    let (c, ok) ← liftE (matchesSetextHeadingBar tail)
    if ok && c == 45 then isHeading := true
  if !isHeading then return stClose
  return stContinueHasChildren

/-- list.go:208-222: a thematic break ends the list unless it is a setext heading bar -/
def listContTb (tail : Bytes) : M PState := do
  if isThematicBreak tail 0 then
    let lastIsPara ← match ← lastOpenedBlock with
      | some lb => do pure ((← getNode lb.node).kind == .paragraph)
      | none => pure false
    listContTb2 tail lastIsPara
  else return stContinueHasChildren

theorem listContFin_s2 {src k ls p} {sA sB : St} (h : SR src k ls p sA sB) (lastIsEmpty : Bool) (indent offset : Int) :
    S2 (fun a b sA' sB' => b = a ∧ ∃ p', p ≤ p' ∧ SR src k ls p' sA' sB')
      (listContFin lastIsEmpty indent offset sA) (listContFin lastIsEmpty indent offset sB) := by
  unfold listContFin
  by_cases hc1 : (lastIsEmpty && decide (indent < offset)) = true
  · simp only [if_pos hc1]
    exact S2.pure ⟨rfl, p, Nat.le_refl _, h⟩
  simp only [if_neg hc1]
  refine S2.bind (getPc_s2 h) (fun ca cb sA1 sB1 hq => ?_)
  obtain ⟨_, _, hcr, hsa, hsb⟩ := hq
  subst hsa hsb
  rw [hcr.emptyItemBlank]
  by_cases hc2 : ca.emptyItemBlank = true
  · simp only [if_pos hc2]
    exact S2.pure ⟨rfl, p, Nat.le_refl _, h⟩
  · simp only [if_neg hc2]
    exact S2.pure ⟨rfl, p, Nat.le_refl _, h⟩

theorem listContMid_s2 {src k ls p} {sA sB : St} (h : SR src k ls p sA sB) (lastIsEmpty : Bool) (indent offset : Int) :
    S2 (fun a b sA' sB' => b = a ∧ ∃ p', p ≤ p' ∧ SR src k ls p' sA' sB')
      (listContMid lastIsEmpty indent offset sA) (listContMid lastIsEmpty indent offset sB) := by
  unfold listContMid
  by_cases hc1 : (!lastIsEmpty) = true
  · simp only [if_pos hc1]
    exact S2.pure ⟨rfl, p, Nat.le_refl _, h⟩
  · simp only [if_neg hc1]
    exact listContFin_s2 h lastIsEmpty indent offset

theorem listContTb2_s2 {src k ls p} {sA sB : St} (h : SR src k ls p sA sB) (tail : Bytes) (lastIsPara : Bool) :
    S2 (fun a b sA' sB' => b = a ∧ ∃ p', p ≤ p' ∧ SR src k ls p' sA' sB')
      (listContTb2 tail lastIsPara sA) (listContTb2 tail lastIsPara sB) := by
  unfold listContTb2
  by_cases hc1 : lastIsPara = true
  · simp only [if_pos hc1]
    refine S2.bind_liftE (fun v _ => ?_)
    obtain ⟨c, ok⟩ := v
    simp only
    by_cases hc2 : (ok && c == 45) = true
    · simp only [if_pos hc2]
      exact S2.pure ⟨rfl, p, Nat.le_refl _, h⟩
    · simp only [if_neg hc2]
      exact S2.pure ⟨rfl, p, Nat.le_refl _, h⟩
  · simp only [if_neg hc1]
    exact S2.pure ⟨rfl, p, Nat.le_refl _, h⟩

theorem listContTb_s2 {src k ls p} {sA sB : St} (h : SR src k ls p sA sB) (tail : Bytes) :
    S2 (fun a b sA' sB' => b = a ∧ ∃ p', p ≤ p' ∧ SR src k ls p' sA' sB')
      (listContTb tail sA) (listContTb tail sB) := by
  unfold listContTb
  by_cases hc1 : isThematicBreak tail 0 = true
  · simp only [if_pos hc1]
    refine S2.bind (lastOpenedBlock_s2 h) (fun la lb sA1 sB1 hq => ?_)
    obtain ⟨hlr, _, hsA, hsB⟩ := hq
    subst hsA hsB
    rcases hlr with ⟨ha, hb⟩ | ⟨blk, ha, hb⟩
    · subst ha hb
      have hk := (h.n.node 0).kind
      simp only [beq_self_eq_true, if_true] at hk
      have e : getNode bqBlock.node sB1 = .ok (sB1.nodes.getD 1 default, sB1) := rfl
      refine S2.bindR e ?_
      have e2 : ((sB1.nodes.getD 1 default).kind == Kind.paragraph) = false := by rw [hk.1]; rfl
      rw [e2]
      exact listContTb2_s2 h tail false
    · subst ha hb
      refine S2.bind (getNode_s2 h blk.node) (fun a b sA2 sB2 hq => ?_)
      obtain ⟨hab, h2⟩ := hq
      have hkp : (b.kind == Kind.paragraph) = (a.kind == Kind.paragraph) := by
        have hkk := hab.kind
        by_cases h0 : blk.node = 0
        · rw [h0] at hkk
          simp only [beq_self_eq_true, if_true] at hkk
          rw [hkk.1, hkk.2]; rfl
        · rw [beq_eq_false_iff_ne.mpr h0] at hkk
          simp only [Bool.false_eq_true, if_false] at hkk
          rw [hkk]
      rw [hkp]
      exact listContTb2_s2 h2 tail _
  · simp only [if_neg hc1]
    exact S2.pure ⟨rfl, p, Nat.le_refl _, h⟩

theorem listContinue_sim (src : Bytes) : ContinueSim src .list := by
  intro k ls p node sA sB h
  show S2 _ (listContinue node sA) (listContinue (node + 1) sB)
  unfold listContinue
  refine S2.bind (getNode_s2 h node) (fun la lb sA1 sB1 hq => ?_)
  obtain ⟨hlist, h1⟩ := hq
  refine S2.bind (peekLine_s2 h1) (fun a b sA2 sB2 hq => ?_)
  obtain ⟨ha, hb, h2⟩ := hq
  subst ha hb
  simp only
  have htf := viewA_tf h.r.tf ls p
  by_cases hc1 : isBlank ((viewA src ls p).getD []) = true
  · simp only [if_pos hc1]
    refine S2.bind (lastChildCount_s2 h2 node) (fun ca0 ca sA3 sB3 hq => ?_)
    obtain ⟨hcc, h3⟩ := hq
    subst hcc
    by_cases hc2 : (ca == 0) = true
    · simp only [if_pos hc2]
      refine S2.bind (modPc_s2 h3 _ _ (fun a b hab => ?_)) (fun _ _ sA4 sB4 h4 => ?_)
      · exact { hab with emptyItemBlank := rfl }
      · exact S2.pure ⟨rfl, p, Nat.le_refl _, h4⟩
    · simp only [if_neg hc2]
      exact S2.pure ⟨rfl, p, Nat.le_refl _, h3⟩
  simp only [if_neg hc1]
  refine S2.bind (lastOffset_s2 h2 node) (fun offset0 offset sA3 sB3 hq => ?_)
  obtain ⟨hoo, h3⟩ := hq
  subst hoo
  refine S2.bind (lastChildCount_s2 h3 node) (fun ca0 ca sA4 sB4 hq => ?_)
  obtain ⟨hcc, h4⟩ := hq
  subst hcc
  refine S2.bind (lineOffset_s2 h4) (fun oa ob sA5 sB5 hq => ?_)
  obtain ⟨_, h5⟩ := hq
  rw [indentWidthI_tf _ htf ob oa]
  generalize indentWidthI ((viewA src ls p).getD []) oa = r
  obtain ⟨indent, _⟩ := r
  simp only
  generalize (ca == 0) = lastIsEmpty
  by_cases hc2 : (decide (indent < offset) || lastIsEmpty) = true
  · simp only [if_pos hc2]
    by_cases hc3 : indent < 4
    · simp only [if_pos hc3]
      generalize matchesListItem ((viewA src ls p).getD []) false = r
      obtain ⟨m, typ⟩ := r
      simp only
      by_cases hc4 : (typ != ListTyp.notList && decide (m.r1 - offset < 4)) = true
      · simp only [if_pos hc4]
        refine S2.bind_liftE (fun mk _ => ?_)
        rw [hlist.marker]
        by_cases hc5 : (!(mk == la.marker && (typ == ListTyp.ordered) == markerOrdered la.marker)) = true
        · simp only [if_pos hc5]
          exact S2.pure ⟨rfl, p, Nat.le_refl _, h5⟩
        simp only [if_neg hc5]
        refine S2.bind_liftE (fun tl _ => ?_)
        exact listContTb_s2 h5 tl
      · simp only [if_neg hc4]
        exact listContMid_s2 h5 lastIsEmpty indent offset
    · simp only [if_neg hc3]
      exact listContMid_s2 h5 lastIsEmpty indent offset
  · simp only [if_neg hc2]
    exact listContFin_s2 h5 lastIsEmpty indent offset

theorem drop_tf_ls {l : Bytes} (h : ∀ c ∈ l, c ≠ 9) (n : Nat) : ∀ c ∈ l.drop n, c ≠ 9 :=
  fun c hc => h c (List.mem_of_mem_drop hc)

theorem calcListOffset_tf (line : Bytes) (h : ∀ c ∈ line, c ≠ 9) (m : M6) (lo lo' : Int) :
    calcListOffset line m lo = calcListOffset line m lo' := by
  unfold calcListOffset
  by_cases h4 : m.r4 < 0
  · simp only [if_pos h4]
  · simp only [if_neg h4]
    unfold sliceFrom
    split
    · simp only [bind, Except.bind]
      rw [indentWidthI_tf _ (drop_tf_ls h _) (lo + m.r4) (lo' + m.r4)]
    · rfl

theorem calcListOffset_tf_nonneg_ls (line : Bytes) (h : ∀ c ∈ line, c ≠ 9) (m : M6) (lo v : Int)
    (hv : calcListOffset line m lo = .ok v) : 0 ≤ v := by
  unfold calcListOffset at hv
  by_cases h4 : m.r4 < 0
  · simp only [if_pos h4] at hv; cases hv; decide
  · simp only [if_neg h4] at hv
    unfold sliceFrom at hv
    split at hv
    · simp only [bind, Except.bind] at hv
      split at hv
      · cases hv; decide
      · simp only [pure, Except.pure] at hv
        cases hv
        have := indentWidthI_nonneg (line.drop m.r4.toNat) (lo + m.r4)
        split
        · decide
        · exact this
    · cases hv

theorem pliFinish_spec (line : Bytes) (k i : Nat) (typ : ListTyp) (hi : 1 ≤ i)
    (h : (pliFinish line k i typ).2 ≠ .notList) :
    1 ≤ (pliFinish line k i typ).1.r3 ∧ ((pliFinish line k i typ).1.r4 < 0 ∨
      ((pliFinish line k i typ).1.r4 = (pliFinish line k i typ).1.r3 ∧
        (pliFinish line k i typ).1.r3 < line.length)) := by
  unfold pliFinish at h ⊢
  cases hd : line.drop i with
  | nil =>
    simp only
    exact ⟨by omega, .inl (by decide)⟩
  | cons c cs =>
    rw [hd] at h
    simp only at h ⊢
    have hlt : i < line.length := by
      rcases Nat.lt_or_ge i line.length with h' | h'
      · exact h'
      · rw [List.drop_eq_nil_of_le h'] at hd; cases hd
    split
    · next hc => rw [if_pos hc] at h; exact absurd rfl h
    · simp only
      exact ⟨by omega, .inr ⟨trivial, by omega⟩⟩

theorem parseListItem_spec (line : Bytes) (h : (parseListItem line).2 ≠ .notList) :
    1 ≤ (parseListItem line).1.r3 ∧ ((parseListItem line).1.r4 < 0 ∨
      ((parseListItem line).1.r4 = (parseListItem line).1.r3 ∧ (parseListItem line).1.r3 < line.length)) := by
  unfold parseListItem at h ⊢
  simp only at h ⊢
  split
  · next hc => rw [if_pos hc] at h; exact absurd rfl h
  · next hc =>
    rw [if_neg hc] at h
    split
    · next hd => rw [hd] at h; exact absurd rfl h
    · next c cs hd =>
      rw [hd] at h
      simp only at h ⊢
      split
      · next hb => rw [if_pos hb] at h; exact pliFinish_spec line _ _ _ (by omega) h
      · next hb =>
        rw [if_neg hb] at h
        split
        · next hn => rw [if_pos hn] at h; exact absurd rfl h
        · next hn =>
          rw [if_neg hn] at h
          split
          · next d ds hdd =>
            rw [hdd] at h
            simp only at h ⊢
            split
            · next hd2 => rw [if_pos hd2] at h; exact pliFinish_spec line _ _ _ (by omega) h
            · next hd2 => rw [if_neg hd2] at h; exact absurd rfl h
          · next hdd => rw [hdd] at h; exact absurd rfl h

theorem matchesListItem_spec (line : Bytes) (strict : Bool) (h : (matchesListItem line strict).2 ≠ .notList) :
    1 ≤ (matchesListItem line strict).1.r3 ∧ ((matchesListItem line strict).1.r4 < 0 ∨
      ((matchesListItem line strict).1.r4 = (matchesListItem line strict).1.r3 ∧
        (matchesListItem line strict).1.r3 < line.length)) := by
  unfold matchesListItem at h ⊢
  simp only at h ⊢
  split
  · next hc =>
    rw [if_pos hc] at h
    exact parseListItem_spec line h
  · next hc => rw [if_neg hc] at h; exact absurd rfl h

theorem indentPosition_tf_ge_ls (bs : Bytes) (h : ∀ c ∈ bs, c ≠ 9) (cur width : Int) (hw : 0 ≤ width) :
    -1 ≤ (indentPosition bs cur width).1 := by
  unfold indentPosition indentPositionPadding
  split
  · simp
  · have := ippLoop_tf_le cur width bs 0 0 h hw
    simp only
    split
    · simp only; omega
    · simp

theorem listItemOpen_sim (src : Bytes) : OpenSim src .listItem := by
  intro k ls p parent sA sB h
  show S2 _ (listItemOpen parent sA) (listItemOpen (parent + 1) sB)
  unfold listItemOpen
  refine S2.bind (getNode_s2 h parent) (fun pa pb sA1 sB1 hq => ?_)
  obtain ⟨hpar, h1⟩ := hq
  have hkp : (pb.kind != Kind.list) = (pa.kind != Kind.list) := by
    have hkk := hpar.kind
    by_cases h0 : parent = 0
    · rw [h0] at hkk
      simp only [beq_self_eq_true, if_true] at hkk
      rw [hkk.1, hkk.2]; rfl
    · rw [beq_eq_false_iff_ne.mpr h0] at hkk
      simp only [Bool.false_eq_true, if_false] at hkk
      rw [hkk]
  rw [hkp]
  by_cases hc1 : (pa.kind != Kind.list) = true
  · simp only [if_pos hc1]
    exact S2.pure ⟨⟨rfl, .inl ⟨rfl, rfl⟩⟩, p, Nat.le_refl _, h1⟩
  simp only [if_neg hc1]
  refine S2.bind (lastOffset_s2 h1 parent) (fun offset0 offset sA2 sB2 hq => ?_)
  obtain ⟨hoo, h2⟩ := hq
  subst hoo
  refine S2.bind (peekLine_s2 h2) (fun a b sA3 sB3 hq => ?_)
  obtain ⟨ha, hb, h3⟩ := hq
  subst ha hb
  simp only
  have htf := viewA_tf h.r.tf ls p
  have hlen := viewA_length (src := src) ls p
  have hms := matchesListItem_spec ((viewA src ls p).getD []) false
  generalize matchesListItem ((viewA src ls p).getD []) false = r at hms
  obtain ⟨m, typ⟩ := r
  simp only at hms ⊢
  by_cases hc2 : (typ == ListTyp.notList) = true
  · simp only [if_pos hc2]
    exact S2.pure ⟨⟨rfl, .inl ⟨rfl, rfl⟩⟩, p, Nat.le_refl _, h3⟩
  simp only [if_neg hc2]
  have hms := hms (by simpa using hc2)
  by_cases hc3 : m.r1 - offset > 3
  · simp only [if_pos hc3]
    exact S2.pure ⟨⟨rfl, .inl ⟨rfl, rfl⟩⟩, p, Nat.le_refl _, h3⟩
  simp only [if_neg hc3]
  refine S2.bind (modPc_s2 h3 _ _ (fun a b hab => ?_)) (fun _ _ sA4 sB4 h4 => ?_)
  · exact { hab with emptyItemBlank := rfl }
  refine S2.bind (lineOffset_s2 h4) (fun oa ob sA5 sB5 hq => ?_)
  obtain ⟨_, h5⟩ := hq
  rw [calcListOffset_tf _ htf m ob oa]
  refine S2.bind_liftE (fun io hio => ?_)
  have hio0 : 0 ≤ io := calcListOffset_tf_nonneg_ls _ htf m oa io hio
  refine S2.bind (newNode_s2 h5 _ _ (nodeRel_new src _ rfl rfl rfl rfl (by show (-1 : Int) < 0; decide)))
    (fun n n' sA7 sB7 hq => ?_)
  obtain ⟨_, hm, hn0, h7⟩ := hq
  subst hm
  by_cases hc4 : m.r4 < 0
  · simp only [if_pos hc4]
    exact S2.pure ⟨⟨rfl, .inr ⟨n, hn0, rfl, rfl⟩⟩, p, Nat.le_refl _, h7⟩
  simp only [if_neg hc4]
  refine S2.bind_liftE (fun v hv => ?_)
  by_cases hc5 : isBlank v = true
  · simp only [if_pos hc5]
    exact S2.pure ⟨⟨rfl, .inr ⟨n, hn0, rfl, rfl⟩⟩, p, Nat.le_refl _, h7⟩
  simp only [if_neg hc5]
  refine S2.bind_liftE (fun tl htl => ?_)
  obtain ⟨ht0, ht1, htv⟩ := sliceFrom_ok_eq htl
  have httf : ∀ c ∈ tl, c ≠ 9 := by rw [htv]; exact drop_tf_ls htf _
  rw [indentPosition_tf _ httf (ob + m.r4) (oa + m.r4) io]
  have hpad := indentPosition_tf_pad tl httf (oa + m.r4) io hio0
  have hge := indentPosition_tf_ge_ls tl httf (oa + m.r4) io hio0
  have hsp := indentPosition_tf_spaces tl httf (oa + m.r4) io
  generalize indentPosition tl (oa + m.r4) io = r at hpad hge hsp
  obtain ⟨pos, padding⟩ := r
  simp only at hpad hge hsp ⊢
  obtain ⟨hr3, hr4⟩ := hms
  have hr4 := hr4.resolve_left hc4
  have htlen : tl.length = ((viewA src ls p).getD []).length - m.r4.toNat := by rw [htv]; simp
  have hchild : 0 ≤ m.r3 + pos ∧ m.r3 + pos < ((viewA src ls p).getD []).length := by
    by_cases hneg : pos < 0
    · omega
    · obtain ⟨nn, e1, e2, e3⟩ := hsp (by omega)
      rcases Nat.lt_or_ge nn tl.length with h' | h'
      · omega
      · exfalso; apply hc5
        rw [List.take_of_length_le h'] at e3
        obtain ⟨_, _, _, hvs⟩ := sliceB_ok_inv_la hv
        apply isBlank_of_spaces
        intro c hc
        rw [hvs] at hc
        apply e3
        rw [htv]
        exact List.mem_of_mem_take hc
  have hi := h.r.inl
  clear hsp
  refine S2.bind (advanceAndSetPadding_lt_s2 h7 rfl rfl hchild.1 hpad.1 (by omega)) (fun _ _ sA10 sB10 h10 => ?_)
  exact S2.pure ⟨⟨rfl, .inr ⟨n, hn0, rfl, rfl⟩⟩, _, Nat.le_add_right _ _, h10⟩

theorem S2.withL_ls {α β} {Q : α → β → St → St → Prop} {x : Except Panic (α × St)} {y : Except Panic (β × St)}
    (h : S2 Q x y) (P : α → St → Prop) (hp : ∀ a sA, x = .ok (a, sA) → P a sA) :
    S2 (fun a b sA sB => Q a b sA sB ∧ P a sA) x y := by
  intro a sA e
  obtain ⟨b, sB, h1, h2⟩ := h a sA e
  exact ⟨b, sB, h1, h2, hp a sA e⟩

theorem peekLine_keeps_ls {s s' : St} {a} (e : peekLine s = .ok (a, s')) : s'.nodes = s.nodes ∧ s'.pc = s.pc := by
  unfold GM.Blocks.peekLine at e
  cases hr : s.r.peekLine with
  | error x => rw [hr] at e; cases e
  | ok v => rw [hr] at e; obtain ⟨x, r⟩ := v; cases e; exact ⟨rfl, rfl⟩

theorem lineOffset_keeps_ls {s s' : St} {a} (e : lineOffset s = .ok (a, s')) : s'.nodes = s.nodes ∧ s'.pc = s.pc := by
  unfold GM.Blocks.lineOffset at e
  cases hr : s.r.lineOffsetOp with
  | error x => rw [hr] at e; cases e
  | ok v => rw [hr] at e; obtain ⟨x, r⟩ := v; cases e; exact ⟨rfl, rfl⟩

theorem getNode_keeps_ls {s s' : St} {id a} (e : getNode id s = .ok (a, s')) : a = s.nodes.getD id default ∧ s' = s := by
  cases e; exact ⟨rfl, rfl⟩

/-- the value `lastOffset q` returns when it does not panic -/
def lastOffsetVal (nodes : List Node) (q : Nat) : Int :=
  match (nodes.getD q default).children.getLast? with
  | none => 0
  | some lc => (nodes.getD lc default).offset

theorem lastOffset_keeps_ls {s s' : St} {q a} (e : lastOffset q s = .ok (a, s')) :
    a = lastOffsetVal s.nodes q ∧ s' = s := by
  unfold lastOffset at e
  rw [bind_run (rfl : getNode q s = .ok (s.nodes.getD q default, s))] at e
  unfold lastOffsetVal
  cases hl : (s.nodes.getD q default).children.getLast? with
  | none => rw [hl] at e; cases e; exact ⟨rfl, rfl⟩
  | some lc =>
    rw [hl] at e
    simp only at e ⊢
    rw [bind_run (rfl : getNode lc s = .ok (s.nodes.getD lc default, s))] at e
    by_cases hc : ((s.nodes.getD lc default).kind != Kind.listItem) = true
    · rw [if_pos hc] at e; cases e
    · rw [if_neg hc] at e; cases e; exact ⟨rfl, rfl⟩

theorem indentPosition_tf_nonneg_ls (bs : Bytes) (h : ∀ c ∈ bs, c ≠ 9) (cur cur' width : Int) (hw : 0 ≤ width)
    (hge : width ≤ (indentWidthI bs cur').1) : 0 ≤ (indentPosition bs cur width).1 := by
  unfold indentPosition indentPositionPadding
  split
  · simp
  · have h1 := ippLoop_tf_le cur width bs 0 0 h hw
    have h2 := ippLoop_reach cur width bs 0 0 0 0 (Int.le_refl 0) (show width ≤ (indentWidthI bs cur).1 by rw [indentWidthI_tf bs h cur cur']; exact hge)
    simp only
    rw [if_pos h2]
    simp only; omega

/-- the end of `listItemContinue`: the item's indentation is skipped -/
def listItemContFin (line : Bytes) (lo offset : Int) : M PState := do
  advanceAndSetPadding (indentPosition line lo offset).1 (indentPosition line lo offset).2
  return stContinueHasChildren

theorem listItemContFin_s2 {src k ls p} {sA sB : St} (h : SR src k ls p sA sB) (oa ob offset : Int)
    (h0 : 0 ≤ offset) (hge : offset ≤ (indentWidthI ((viewA src ls p).getD []) 0).1)
    (hnb : ¬ isBlank ((viewA src ls p).getD []) = true) :
    S2 (fun a b sA' sB' => b = a ∧ ∃ p', p ≤ p' ∧ SR src k ls p' sA' sB')
      (listItemContFin ((viewA src ls p).getD []) oa offset sA)
      (listItemContFin ((viewA src ls p).getD []) ob offset sB) := by
  unfold listItemContFin
  have htf := viewA_tf h.r.tf ls p
  rw [indentPosition_tf _ htf ob oa offset]
  have hpos := indentPosition_tf_nonneg_ls _ htf oa 0 offset h0 hge
  have hlt := indentPosition_tf_lt _ htf oa offset hpos hnb
  rw [viewA_length] at hlt
  have hpad := (indentPosition_tf_pad _ htf oa offset h0).1
  have hi := h.r.inl
  refine S2.bind (advanceAndSetPadding_lt_s2 h rfl rfl hpos hpad (by omega)) (fun _ _ sA1 sB1 h1 => ?_)
  exact S2.pure ⟨rfl, _, Nat.le_add_right _ _, h1⟩

/-- What `listItemContinue_sim'` needs of A's state (`node` is the list item, `q` its parent list): the offset of
    the list's last item is not negative, and a line that is indented less than that offset makes
    `listItemContinue` answer `Close` (so that `IndentPosition` is only asked for an indentation that is there;
    otherwise goldmark calls `AdvanceAndSetPadding(-1, -1)`, which moves the reader BACK). -/
def ListItemContPre (src : Bytes) (ls p node : Nat) (sA : St) : Prop :=
  ∀ q, (sA.nodes.getD node default).parent = some q →
    0 ≤ lastOffsetVal sA.nodes q ∧
    ((indentWidthI ((viewA src ls p).getD []) 0).1 < lastOffsetVal sA.nodes q →
      (indentWidthI ((viewA src ls p).getD []) 0).1 < 4 ∧
      ((matchesListItem ((viewA src ls p).getD []) true).2 ≠ ListTyp.notList ∨
        ((sA.nodes.getD node default).children.length == 0 && sA.pc.emptyItemBlank) = false))

/-- the simplest way to get `ListItemContPre`: the line is indented at least as far as the last item's offset -/
theorem ListItemContPre.of_ge {src : Bytes} {ls p node : Nat} {sA : St}
    (h : ∀ q, (sA.nodes.getD node default).parent = some q →
      0 ≤ lastOffsetVal sA.nodes q ∧
        lastOffsetVal sA.nodes q ≤ (indentWidthI ((viewA src ls p).getD []) 0).1) :
    ListItemContPre src ls p node sA := by
  intro q hq
  obtain ⟨h1, h2⟩ := h q hq
  exact ⟨h1, fun hlt => by omega⟩

/-- `listItemContinue` is simulated when a line is there (`hline`; at the end of the source the peeked line is
    empty and goldmark calls `Advance(-1)`) and `ListItemContPre` holds. -/
theorem listItemContinue_sim' (src : Bytes) : ∀ k ls p node sA sB, SR src k ls p sA sB → p < src.length →
    (isBlank ((viewA src ls p).getD []) = false → ListItemContPre src ls p node sA) →
    S2 (fun a b sA' sB' => b = a ∧ ∃ p', p ≤ p' ∧ SR src k ls p' sA' sB')
      (bpContinue .listItem node sA) (bpContinue .listItem (node + 1) sB) := by
  intro k ls p node sA sB h hline hpre0
  show S2 _ (listItemContinue node sA) (listItemContinue (node + 1) sB)
  unfold listItemContinue
  refine S2.bind ((peekLine_s2 h).withL_ls (fun _ s' => s'.nodes = sA.nodes ∧ s'.pc = sA.pc)
    (fun _ _ e => peekLine_keeps_ls e)) (fun a b sA1 sB1 hq => ?_)
  obtain ⟨⟨ha, hb, h1⟩, hk1⟩ := hq
  subst ha hb
  simp only
  have htf := viewA_tf h.r.tf ls p
  have hi := h.r.inl
  have hplt := hi.lt_iff.mp hline
  have hlen := viewA_length (src := src) ls p
  by_cases hc1 : isBlank ((viewA src ls p).getD []) = true
  · simp only [if_pos hc1]
    refine S2.bind (advance_lt_s2 h1 rfl (by omega) (by omega)) (fun _ _ sA2 sB2 h2 => ?_)
    exact S2.pure ⟨rfl, _, Nat.le_add_right _ _, h2⟩
  simp only [if_neg hc1]
  have hpre := hpre0 (by simpa using hc1)
  refine S2.bind ((getNode_s2 h1 node).withL_ls (fun a s' => a = sA1.nodes.getD node default ∧ s' = sA1)
    (fun _ _ e => getNode_keeps_ls e)) (fun na nb sA2 sB2 hq => ?_)
  obtain ⟨⟨hab, h2⟩, hna, hk2⟩ := hq
  subst hk2
  rw [hk1.1] at hna
  by_cases hn0 : node = 0
  · have hp := hab.parent
    rw [hn0] at hp
    simp only [beq_self_eq_true, if_true] at hp
    rw [hp.2]
    simp only
    exact S2.bindL (sB := sB2) (P := fun _ _ _ => False) (fun a sA' e => by cases e) (fun _ _ hf => hf.elim)
  have hp := hab.parent
  rw [beq_eq_false_iff_ne.mpr hn0] at hp
  simp only [Bool.false_eq_true, if_false] at hp
  rw [hp]
  cases hpa : na.parent with
  | none =>
    simp only
    exact S2.bind (P := fun _ _ _ _ => False) S2.throwL (fun _ _ _ _ hf => hf.elim)
  | some q =>
    simp only [Option.map_some]
    refine S2.bind ((lastOffset_s2 h2 q).withL_ls (fun a s' => a = lastOffsetVal sA2.nodes q ∧ s' = sA2)
      (fun _ _ e => lastOffset_keeps_ls e)) (fun offset0 offset sA3 sB3 hq => ?_)
    obtain ⟨⟨hoo, h3⟩, hov, hk3⟩ := hq
    subst hk3
    rw [hk1.1] at hov
    refine S2.bind (getPc_s2 h3) (fun ca cb sA4 sB4 hq => ?_)
    obtain ⟨hca, _, hcr, hsa, hsb⟩ := hq
    subst hsa hsb
    rw [hk1.2] at hca
    refine S2.bind (lineOffset_s2 h3) (fun oa ob sA5 sB5 hq => ?_)
    obtain ⟨_, h5⟩ := hq
    rw [hab.children, List.length_map, hcr.emptyItemBlank, hoo,
      indentWidthI_tf _ htf ob 0, indentWidthI_tf _ htf oa 0]
    obtain ⟨hpre0, hpre1⟩ := hpre q (by rw [← hna]; exact hpa)
    rw [← hov] at hpre0 hpre1
    rw [← hna, ← hca] at hpre1
    by_cases hc2 : ((na.children.length == 0 && ca.emptyItemBlank ||
        decide ((indentWidthI ((viewA src ls p).getD []) 0).fst < offset0)) &&
        decide ((indentWidthI ((viewA src ls p).getD []) 0).fst < 4)) = true
    · simp only [if_pos hc2]
      by_cases hc3 : ((matchesListItem ((viewA src ls p).getD []) true).snd != ListTyp.notList) = true
      · simp only [if_pos hc3]
        refine S2.bind (modPc_s2 h5 _ _ (fun a b hab => ?_)) (fun _ _ sA6 sB6 h6 => ?_)
        · exact { hab with skipList := rfl }
        · exact S2.pure ⟨rfl, p, Nat.le_refl _, h6⟩
      simp only [if_neg hc3]
      by_cases hc4 : (!(na.children.length == 0 && ca.emptyItemBlank)) = true
      · simp only [if_pos hc4]
        exact S2.pure ⟨rfl, p, Nat.le_refl _, h5⟩
      simp only [if_neg hc4]
      refine listItemContFin_s2 h5 oa ob offset0 hpre0 ?_ hc1
      by_cases hlt : (indentWidthI ((viewA src ls p).getD []) 0).fst < offset0
      · exfalso
        rcases (hpre1 hlt).2 with h' | h'
        · exact hc3 (by simpa using h')
        · rw [h'] at hc4; exact hc4 rfl
      · exact Int.not_lt.mp hlt
    · simp only [if_neg hc2]
      refine listItemContFin_s2 h5 oa ob offset0 hpre0 ?_ hc1
      by_cases hlt : (indentWidthI ((viewA src ls p).getD []) 0).fst < offset0
      · exfalso
        apply hc2
        have := (hpre1 hlt).1
        simp [hlt, this]
      · exact Int.not_lt.mp hlt

end GM.Blocks
