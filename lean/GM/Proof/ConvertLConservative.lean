/-
  GM.Proof.ConvertLConservative — Strikethrough, TaskList and Table are conservative at whole-document level for all 16 member sets of GM.Model.ConvertL (those of GM.Model.ConvertX are
  the ones without Linkify): on a source without the member's trigger byte the trees with and without the member are the same and the renderer does not
  see the flag (`convertL_strike`, `convertL_task`, `convertL_table`).
-/
import GM.Proof.ConvertXStrike
import GM.Proof.ConvertXNoNode
import GM.Proof.ConvertLFlush
import GM.Proof.ConvertXMon

section ConvertLStrike
/-
  Strikethrough is conservative, for all 16 member sets (GM.Model.ConvertL; those of GM.Model.ConvertX
  are the ones without Linkify): on a source without `~` the inline phase of a block is the one without the member (the pieces
  of GM.Proof.ConvertXStrike; the Linkify parser keeps `NT`), a member set without Strikethrough never builds its
  representation (its inline phase is a fixed point of the relabellings of GM.Proof.ConvertXLevels, with which the Linkify
  parser commutes), so the trees are the same (GM.Proof.ConvertLDoc) and the renderer does not see the flag.
-/

namespace GM.Proof.ConvertLStrike
open GM GM.Text GM.Spec GM.Inl GM.Convert GM.ConvertX GM.Proof.ConvertX GM.Proof.ConvertXRelv GM.Proof.ConvertXSim
open GM.Proof.ConvertXStrike GM.Proof.ConvertXLevels GM.Proof.ConvertXTotal GM.Proof.ConvertLTotal
open GM.Proof.ConvertXStrikeDoc (noS noSL noS_eq noSL_eq noS_level fixL_noSL notStrike handled_strike memberKind_notStrike)
open GM.Proof.ConvertL GM.Proof.ConvertLDoc
open GM.Proof.Inlines GM.Proof.InlinesTotal GM.Proof.InlinesLink GM.Proof.InlinesReader GM.Proof.Reader GM.Proof.InlinesDelims

theorem relvL_any_isLabel (g : Int → Int) (l : List Inl.Node) : (relvL g l).any Node.isLabel = l.any Node.isLabel := by
  induction l with
  | nil => rfl
  | cons n r ih => simp [ih]

theorem linkify_selfsim (g : Int → Int) (env : Env) : EntrySim g Tr env (.ext linkifyParser) (.ext linkifyParser) :=
  entry_selfsim_of env _ <| shape_selfsim (GM.Proof.ExtShape.parseLinkify_shape env)
    (fun st => by rw [relvSt_kids, relvL_any_isLabel]) fun _ seg rd _ ⟨k, i, proto, email, _, _, _, _, hf⟩ st => by
      subst hf
      simp only [bind, Except.bind]
      cases rd.advance _ with
      | error e => rfl
      | ok rd' =>
        simp only [pure, Except.pure, Except.map, relvPR, Option.map_some, relv_autoLink]
        split <;> simp [relvSt, relvL_mergeOrAppend]

theorem ListSim.append {g : Int → Int} {I : List Inl.Node → Prop} {env : Env} {a b a' b' : List XIp}
    (h1 : ListSim g I env a b) (h2 : ListSim g I env a' b') : ListSim g I env (a ++ a') (b ++ b') := by
  induction h1 with
  | nil => exact h2
  | cons h hr ih => exact .cons h ih

/-- the entry Linkify adds behind the others -/
def lkSuffix (lk : Bool) (b : UInt8) : List XIp := if lk && GM.Ext.linkifyStrip b then [.ext linkifyParser] else []

theorem inlineTblL_eq (c : GCfg) (inItem : Bool) (b : UInt8) :
    inlineTblL c inItem b = inlineTbl c.base inItem b ++ lkSuffix c.linkify b := rfl

theorem lkSuffix_simNT (lk : Bool) (env : Env) (b : UInt8) : ListSim id (allQ NT) env (lkSuffix lk b) (lkSuffix lk b) := by
  unfold lkSuffix
  split
  · exact ListSim.refl fun ip hip => by
      cases List.mem_singleton.1 hip
      exact keeps_allQ fun _ _ h hk =>
        parseLinkify_allQ (env := env) (fun _ _ _ _ => NT_of_not_delim rfl) (fun _ _ => NT_of_not_delim rfl) h hk
  · exact .nil

theorem lkSuffix_selfsim (g : Int → Int) (lk : Bool) (env : Env) (b : UInt8) : ListSim g Tr env (lkSuffix lk b) (lkSuffix lk b) := by
  unfold lkSuffix
  split
  · exact .cons (linkify_selfsim g env) .nil
  · exact .nil

/-- every member set with Linkify: the table simulates itself under a relabelling that fixes what its members build -/
theorem tblL_selfsim {g : Int → Int} (c : GCfg) (GS : GOKS c.base.strikethrough g) (G0 : GOK false g)
    (ht : c.base.tasklist = true → g (-1) = -1 ∧ g (-2) = -2) (inItem : Bool) (env : Env) (b : UInt8) :
    ListSim g Tr env (inlineTblL c inItem b) (inlineTblL c inItem b) := by
  rw [inlineTblL_eq]
  exact ListSim.append (tbl_selfsim c.base GS G0 ht inItem env b) (lkSuffix_selfsim g c.linkify env b)

/-- the inline children of a block under any of the 16 member sets are a fixed point of every relabelling that fixes 1, 2 and
    the levels the members of the set build -/
theorem parseBlockL_fixS {g : Int → Int} (c : GCfg) (GS : GOKS c.base.strikethrough g) (G0 : GOK false g)
    (ht : c.base.tasklist = true → g (-1) = -1 ∧ g (-2) = -2)
    (inItem : Bool) (env : Env) (src : Bytes) (segs : List Segment) (kids : List Inl.Node)
    (h : parseBlockG env (inlineTblL c inItem) (pdX c.base) src segs = .ok kids) : relvL g kids = kids :=
  parseBlockG_fix_of (tblL_selfsim c GS G0 ht inItem env) (pdX_selfsim c.base GS G0 Bottom.nil) h

def onS (c : GCfg) : GCfg := { c with base := { c.base with strikethrough := true } }
def offS (c : GCfg) : GCfg := { c with base := { c.base with strikethrough := false } }

/-- the table with Strikethrough, the entry of `~` replaced by the one without it -/
def tblNoTildeL (c : GCfg) (inItem : Bool) (b : UInt8) : List XIp :=
  if b == 126 then inlineTblL (offS c) inItem 126 else inlineTblL (onS c) inItem b

theorem tblL_sim (c : GCfg) (inItem : Bool) (env : Env) (b : UInt8) :
    ListSim id (allQ NT) env (tblNoTildeL c inItem b) (inlineTblL (offS c) inItem b) := by
  unfold tblNoTildeL
  by_cases h126 : (b == 126) = true
  · have hb : b = 126 := by simpa using h126
    subst hb
    simp only [beq_self_eq_true, if_true]
    rw [inlineTblL_eq]
    have he : inlineTbl (offS c).base inItem 126 = [] := by simp [inlineTbl, offS]
    rw [he]
    exact ListSim.append .nil (lkSuffix_simNT _ env _)
  · simp only [h126, Bool.false_eq_true, if_false]
    rw [inlineTblL_eq, inlineTblL_eq]
    have ht := tbl_sim c.base inItem env b
    simp only [tblNoTilde, h126, Bool.false_eq_true, if_false] at ht
    exact ListSim.append ht (lkSuffix_simNT _ env _)

theorem parseBlockL_strike_unused (c : GCfg) (inItem : Bool) {src : Bytes} {segs : List Segment}
    (W : WFSegs src segs) (Z : ∀ s ∈ segs, s.padding = 0) (env : Env) (hsrc : (126 : UInt8) ∉ src) :
    parseBlockG env (inlineTblL (onS c) inItem) (pdX (onS c).base) src segs =
      parseBlockG env (inlineTblL (offS c) inItem) (pdX (offS c).base) src segs := by
  have F := segFacts W
  obtain ⟨r0, e0, hI, hfuel⟩ := block_start W Z
  have h1 := lineLoopX_eq2 _ F Z env (inlineTblL (onS c) inItem) (tblNoTildeL c inItem)
    (inlineTblL_32 _ inItem W Z env) (inlineTblL_contracts _ inItem W Z env)
    (by simp [tblNoTildeL])
    (fun b hb => by
      have : b ≠ 126 := fun h => hsrc (h ▸ hb)
      simp [tblNoTildeL, this])
    (blockFuel src segs) false _ _ hI hfuel
  obtain ⟨h2, h3⟩ := lineLoopX_sim (g := id) nt_closed (tblL_sim c inItem env) (blockFuel src segs) false
    ({ rd := r0 } : St) allQ_nil
  rw [relvSt_id] at h2
  unfold parseBlockG
  simp only [e0, bind, Except.bind, ← h1, h2]
  cases hl : lineLoopX env (tblNoTildeL c inItem) (blockFuel src segs) false { rd := r0 } with
  | error e => rfl
  | ok st' =>
    have hnt := h3 st' hl
    simp only [Except.map, relvSt_id]
    have hp : pdX (onS c).base Bottom.nil st'.kids = pdX (offS c).base Bottom.nil st'.kids := by
      have e1 : pdX (onS c).base = processDelimitersG true := by simp [pdX, onS]
      have e2 : pdX (offS c).base = processDelimiters := by simp [pdX, offS]
      rw [e1, e2]
      exact processDelimitersG_NT _ _ hnt
    rw [hp]

/-- on a tree without the representations the decoding does not depend on the Strikethrough flag -/
theorem inlineTreeL_sflag (c1 c2 : GCfg) (ht : c1.base.tasklist = c2.base.tasklist) (hl : c1.linkify = c2.linkify) (src : Bytes) : ∀ n : Inl.Node, noS n = true →
    inlineTreeL c1 src n = inlineTreeL c2 src n := by
  intro n h
  rw [noS_eq] at h
  exact inlineTreeL_lvAll c1 c2 hl (.inr noS_level) (.inl ht) src n h

theorem inlineTreeL_notStrike (c : GCfg) (ht : c.base.strikethrough = false) (src : Bytes) : ∀ (n : Inl.Node) (t : GM.Node),
    inlineTreeL c src n = .ok t → allKinds notStrike t = true := by
  intro n t h
  exact allKinds_mono memberKind_notStrike t (ht ▸ inlineTreeL_kinds c src n t h)

theorem docTreesL_notStrike (c : GCfg) (ht : c.base.strikethrough = false) (g : Bool) (env : Env) (src : Bytes) (escs : List Int) :
    ∀ (pi first : Bool) (ts : List GM.Blocks.Tree) (xs : List GM.Node),
    docTreesL c g env src escs pi first ts = .ok xs → allKindsL notStrike xs = true := by
  intro pi first ts xs h
  exact allKindsL_mono memberKind_notStrike xs (ht ▸ docTreesL_kinds c g env src escs pi first ts xs h)

theorem inlineLines_strike (c : GCfg) (env : Env) (src : Bytes) (hsrc : (126 : UInt8) ∉ src) (inItem : Bool)
    (lines : List Segment) :
    inlineLinesL (onS c) true env src inItem lines =
      inlineLinesL (offS c) true env src inItem lines := by
  unfold inlineLinesL
  split
  · rfl
  · split
    · rfl
    · rename_i hw
      have hw' : GM.LinkRef.wf0B src lines = true := by simpa using hw
      obtain ⟨W, Z⟩ := GM.Proof.LinkRefTotal.wf0B_sound hw'
      rw [parseBlockL_strike_unused c inItem W Z env hsrc]

theorem inlinePhaseL_strike (c : GCfg) (env : Env) (src : Bytes) (hsrc : (126 : UInt8) ∉ src) (inItem : Bool)
    (n : GM.Blocks.Node) :
    inlinePhaseL (onS c) true env src inItem n =
      inlinePhaseL (offS c) true env src inItem n := by
  unfold inlinePhaseL
  rw [inlineLines_strike c env src hsrc]
  rfl

/-- without Strikethrough the inline children of a block hold no Strikethrough representation -/
theorem inlinePhaseL_noS (c : GCfg) (hs : c.base.strikethrough = false) (g : Bool) (env : Env) (src : Bytes) (inItem : Bool)
    (n : GM.Blocks.Node) (kids : List Inl.Node) (h : inlinePhaseL c g env src inItem n = .ok kids) : noSL kids = true := by
  unfold inlinePhaseL at h
  split at h
  · cases h; rfl
  · split at h
    · cases h; rfl
    · split at h
      · cases h; rfl
      · unfold inlineLinesL at h
        split at h
        · cases h; rfl
        · split at h
          · cases h
          · exact fixL_noSL kids (parseBlockL_fixS c (by rw [hs]; exact ⟨by decide, by decide, fun h => absurd h (by decide), fun h => absurd h (by decide)⟩) g0_ok (fun _ => ⟨by decide, by decide⟩) inItem env src n.lines kids
              (liftErr_ok' h))

theorem sameTree_strike (c : GCfg) (env : Env) (src : Bytes) (hsrc : (126 : UInt8) ∉ src) (escs : List Int) :
    SameTree (fun lv => !(lv == -3 || lv == -4)) (onS c) (offS c) true env src escs escs where
  kind := fun _ => rfl
  phase := inlinePhaseL_strike c env src hsrc
  esc := fun _ _ => rfl
  kids := fun inItem n kids h => by
    rw [← noSL_eq]; exact inlinePhaseL_noS (offS c) rfl true env src inItem n kids h
  dec := fun ns h => inlineTreesL_lvAll (onS c) (offS c) rfl (.inr noS_level) (.inl rfl) src ns h

theorem docTreesL_strike (c : GCfg) (env : Env) (src : Bytes) (hsrc : (126 : UInt8) ∉ src) (escs : List Int) :
    ∀ (pi first : Bool) (ts : List GM.Blocks.Tree),
    docTreesL (onS c) true env src escs pi first ts =
      docTreesL (offS c) true env src escs pi first ts :=
  docTreesL_congr (sameTree_strike c env src hsrc escs)

/-- **Strikethrough is conservative at whole-document level**, for EVERY member set: a source without `~` converts to the
    same HTML / outcome with and without Strikethrough -/
theorem convertL_strike (c : GCfg) (uc : List (Nat × (Bool × Bool))) (o : ROpts) (src : Bytes)
    (hsrc : (126 : UInt8) ∉ src) :
    convertL (onS c) uc o src = convertL (offS c) uc o src :=
  convertL_congr (parseDocL_congr (c1 := onS c) (c2 := offS c) rfl (fun env _ => sameTree_strike c env src hsrc _) uc)
    (fun k hk => handled_strike c.base.exts true false (memberKind_notStrike k hk)) o

end GM.Proof.ConvertLStrike

/-! ### the member sets without Linkify -/

namespace GM.Proof.ConvertXStrikeDoc
open GM GM.Text GM.Inl GM.Convert GM.ConvertX GM.Proof.ConvertL GM.Proof.ConvertLStrike

theorem inlineLines_strike (c : XCfg) (env : Env) (src : Bytes) (hsrc : (126 : UInt8) ∉ src) (inItem : Bool)
    (lines : List Segment) :
    inlineLines { c with strikethrough := true } true env src inItem lines =
      inlineLines { c with strikethrough := false } true env src inItem lines := by
  rw [← inlineLinesL_off, ← inlineLinesL_off]
  exact GM.Proof.ConvertLStrike.inlineLines_strike { base := c, linkify := false } env src hsrc inItem lines

theorem docTreesX_strike (c : XCfg) (env : Env) (src : Bytes) (hsrc : (126 : UInt8) ∉ src) (escs : List Int) :
    ∀ (pi first : Bool) (ts : List GM.Blocks.Tree),
    docTreesX { c with strikethrough := true } true env src escs pi first ts =
      docTreesX { c with strikethrough := false } true env src escs pi first ts := by
  intro pi first ts
  rw [← docTreesL_off, ← docTreesL_off]
  exact docTreesL_strike { base := c, linkify := false } env src hsrc escs pi first ts

theorem convertX_strike (c : XCfg) (uc : List (Nat × (Bool × Bool))) (o : ROpts) (src : Bytes)
    (hsrc : (126 : UInt8) ∉ src) :
    convertX { c with strikethrough := true } uc o src = convertX { c with strikethrough := false } uc o src := by
  unfold convertX
  rw [← convertLWith_off, ← convertLWith_off]
  exact convertL_strike { base := c, linkify := false } uc o src hsrc

end GM.Proof.ConvertXStrikeDoc
end ConvertLStrike

section ConvertLTask
/-
  TaskList and Table are conservative at whole-document level, for all 16 member sets (GM.Model.ConvertL;
  those of GM.Model.ConvertX are the ones without Linkify): on a source without `[` the checkbox parser is never consulted
  (GM.Proof.ConvertXTotal.lineLoopX_eq2) and a member set without TaskList never builds the representation of a TaskCheckBox
  (GM.Proof.ConvertLStrike.parseBlockL_fixS); on a source without `-` no node decodes as a table node. The trees are then the
  same by GM.Proof.ConvertLDoc.
-/

namespace GM.Proof.ConvertLTask
open GM GM.Text GM.Spec GM.Inl GM.Convert GM.ConvertX GM.Proof.ConvertX GM.Proof.ConvertXRelv GM.Proof.ConvertXLevels
open GM.Proof.ConvertXTotal GM.Proof.ConvertLTotal GM.Proof.ConvertLStrike
open GM.Proof.InlinesTotal GM.Proof.InlinesLink GM.Proof.InlinesReader GM.Proof.Reader
open GM.Proof.ConvertXTaskDoc (noT noTL noT_eq noTL_eq noT_level fixL_noTL)
open GM.Proof.ConvertL GM.Proof.ConvertLDoc

def onT (c : GCfg) : GCfg := { c with base := { c.base with tasklist := true } }
def offT (c : GCfg) : GCfg := { c with base := { c.base with tasklist := false } }

/-- on a tree without the representations the decoding does not depend on the TaskList flag -/
theorem inlineTreeL_tflag (c1 c2 : GCfg) (ht : c1.base.strikethrough = c2.base.strikethrough) (hl : c1.linkify = c2.linkify) (src : Bytes) : ∀ n : Inl.Node, noT n = true →
    inlineTreeL c1 src n = inlineTreeL c2 src n := by
  intro n h
  rw [noT_eq] at h
  exact inlineTreeL_lvAll c1 c2 hl (.inl ht) (.inr noT_level) src n h

theorem inlineTreeL_notTask (c : GCfg) (ht : c.base.tasklist = false) (src : Bytes) : ∀ (n : Inl.Node) (t : GM.Node),
    inlineTreeL c src n = .ok t → allKinds notTask t = true := by
  intro n t h
  exact allKinds_mono memberKind_notTask t (ht ▸ inlineTreeL_kinds c src n t h)

theorem docTreesL_notTask (c : GCfg) (ht : c.base.tasklist = false) (g : Bool) (env : Env) (src : Bytes) (escs : List Int) :
    ∀ (pi first : Bool) (ts : List GM.Blocks.Tree) (xs : List GM.Node),
    docTreesL c g env src escs pi first ts = .ok xs → allKindsL notTask xs = true := by
  intro pi first ts xs h
  exact allKindsL_mono memberKind_notTask xs (ht ▸ docTreesL_kinds c g env src escs pi first ts xs h)

theorem parseBlockL_task_unused (c : GCfg) (inItem : Bool) {src : Bytes} {segs : List Segment}
    (W : WFSegs src segs) (Z : ∀ s ∈ segs, s.padding = 0) (env : Env) (hsrc : (91 : UInt8) ∉ src) :
    parseBlockG env (inlineTblL (onT c) inItem) (pdX (onT c).base) src segs =
      parseBlockG env (inlineTblL (offT c) inItem) (pdX (offT c).base) src segs := by
  have F := segFacts W
  obtain ⟨r0, e0, hI, hfuel⟩ := block_start W Z
  have h1 := lineLoopX_eq2 _ F Z env (inlineTblL (onT c) inItem)
    (inlineTblL (offT c) inItem)
    (inlineTblL_32 _ inItem W Z env) (inlineTblL_contracts _ inItem W Z env)
    (by simp [inlineTblL, inlineTbl_32, onT, offT])
    (fun b hb => by
      have : b ≠ 91 := fun h => hsrc (h ▸ hb)
      have h91 : (b == 91) = false := by simpa using this
      simp only [inlineTblL, inlineTbl, onT, offT, h91, Bool.false_eq_true, if_false]
      rfl)
    (blockFuel src segs) false _ _ hI hfuel
  unfold parseBlockG
  simp only [e0, bind, Except.bind, h1]
  rfl

theorem inlineLines_task (c : GCfg) (env : Env) (src : Bytes) (hsrc : (91 : UInt8) ∉ src) (inItem : Bool)
    (lines : List Segment) :
    inlineLinesL (onT c) true env src inItem lines =
      inlineLinesL (offT c) true env src inItem lines := by
  unfold inlineLinesL
  split
  · rfl
  · split
    · rfl
    · rename_i hw
      have hw' : GM.LinkRef.wf0B src lines = true := by simpa using hw
      obtain ⟨W, Z⟩ := GM.Proof.LinkRefTotal.wf0B_sound hw'
      rw [parseBlockL_task_unused c inItem W Z env hsrc]

theorem inlinePhaseL_task2 (c : GCfg) (env : Env) (src : Bytes) (hsrc : (91 : UInt8) ∉ src) (inItem : Bool)
    (n : GM.Blocks.Node) :
    inlinePhaseL (onT c) true env src inItem n =
      inlinePhaseL (offT c) true env src inItem n := by
  unfold inlinePhaseL
  rw [inlineLines_task c env src hsrc]
  rfl

/-- without TaskList the inline children of a block hold no TaskCheckBox representation -/
theorem inlinePhaseL_noT (c : GCfg) (ht : c.base.tasklist = false) (g : Bool) (env : Env) (src : Bytes) (inItem : Bool)
    (n : GM.Blocks.Node) (kids : List Inl.Node) (h : inlinePhaseL c g env src inItem n = .ok kids) : noTL kids = true := by
  unfold inlinePhaseL at h
  split at h
  · cases h; rfl
  · split at h
    · cases h; rfl
    · split at h
      · cases h; rfl
      · unfold inlineLinesL at h
        split at h
        · cases h; rfl
        · split at h
          · cases h
          · exact fixL_noTL kids (parseBlockL_fixS c (g1_okS _) g1_ok0 (fun h => by rw [ht] at h; cases h) inItem env src
              n.lines kids (liftErr_ok' h))

theorem sameTree_task (c : GCfg) (env : Env) (src : Bytes) (hsrc : (91 : UInt8) ∉ src) (escs : List Int) :
    SameTree (fun lv => !(lv == -1 || lv == -2)) (onT c) (offT c) true env src escs escs where
  kind := fun _ => rfl
  phase := inlinePhaseL_task2 c env src hsrc
  esc := fun _ _ => rfl
  kids := fun inItem n kids h => by
    rw [← noTL_eq]; exact inlinePhaseL_noT (offT c) rfl true env src inItem n kids h
  dec := fun ns h => inlineTreesL_lvAll (onT c) (offT c) rfl (.inl rfl) (.inr noT_level) src ns h

theorem docTreesL_task2 (c : GCfg) (env : Env) (src : Bytes) (hsrc : (91 : UInt8) ∉ src) (escs : List Int) :
    ∀ (pi first : Bool) (ts : List GM.Blocks.Tree),
    docTreesL (onT c) true env src escs pi first ts =
      docTreesL (offT c) true env src escs pi first ts :=
  docTreesL_congr (sameTree_task c env src hsrc escs)

/-- **TaskList is conservative at whole-document level, for EVERY member set** -/
theorem convertL_task (c : GCfg) (uc : List (Nat × (Bool × Bool))) (o : ROpts) (src : Bytes)
    (hsrc : (91 : UInt8) ∉ src) :
    convertL (onT c) uc o src = convertL (offT c) uc o src :=
  convertL_congr (parseDocL_congr (c1 := onT c) (c2 := offT c) rfl (fun env _ => sameTree_task c env src hsrc _) uc)
    (fun k hk => handled_task c.base.exts true false (memberKind_notTask k hk)) o

section tableL
open GM.Proof.ConvertXRel

def onTb (c : GCfg) : GCfg := { c with base := { c.base with table := true } }
def offTb (c : GCfg) : GCfg := { c with base := { c.base with table := false } }

/-- decoding reads the flags of Strikethrough, TaskList and Linkify only -/
theorem inlineTreeL_congr (c1 c2 : GCfg) (hs : c1.base.strikethrough = c2.base.strikethrough) (ht : c1.base.tasklist = c2.base.tasklist) (hl : c1.linkify = c2.linkify)
    (src : Bytes) : ∀ n : Inl.Node, inlineTreeL c1 src n = inlineTreeL c2 src n :=
  fun n => inlineTreeL_lvAll c1 c2 hl (.inl hs) (.inl ht) src n (lvAll_true n)

theorem docTreesL_table (c : GCfg) (g : Bool) (env : Env) (src : Bytes) (h : (45 : UInt8) ∉ src) (escs : List Int) :
    ∀ (pi first : Bool) (ts : List GM.Blocks.Tree),
    docTreesL (onTb c) g env src escs pi first ts = docTreesL (offTb c) g env src [] pi first ts :=
  docTreesL_congr (sameTree_table c g env src h escs [])

theorem inlineTreeL_notTable (c : GCfg) (src : Bytes) : ∀ (n : Inl.Node) (t : GM.Node),
    inlineTreeL c src n = .ok t → allKinds notTable t = true :=
  fun n t h => allKinds_mono memberKind_notTable t (inlineTreeL_kinds c src n t h)

theorem docTreesL_notTable (c : GCfg) (hc : c.base.table = false) (g : Bool) (env : Env) (src : Bytes) (escs : List Int) :
    ∀ (pi first : Bool) (ts : List GM.Blocks.Tree) (xs : List GM.Node),
    docTreesL c g env src escs pi first ts = .ok xs → allKindsL notTable xs = true := by
  intro pi first ts xs h
  exact allKindsL_mono memberKind_notTable xs (hc ▸ docTreesL_kinds c g env src escs pi first ts xs h)

/-- **Table is conservative at whole-document level**, every member set, no proviso -/
theorem convertL_table (c : GCfg) (uc : List (Nat × (Bool × Bool))) (o : ROpts) (src : Bytes)
    (h : (45 : UInt8) ∉ src) :
    convertL (onTb c) uc o src = convertL (offTb c) uc o src :=
  convertL_congr
    (parseDocL_congr (c1 := onTb c) (c2 := offTb c) (GM.Proof.ConvertXMon.blockPhaseX_table_guarded c.base src h)
      (fun env _ => sameTree_table c true env src h _ _) uc)
    (fun k hk => handled_table c.base.exts true false (memberKind_notTable k hk)) o

end tableL

end GM.Proof.ConvertLTask

/-! ### the member sets without Linkify -/

namespace GM.Proof.ConvertXTaskDoc
open GM GM.Text GM.Inl GM.Convert GM.ConvertX GM.Proof.ConvertL GM.Proof.ConvertLTask

theorem inlineLines_task (c : XCfg) (env : Env) (src : Bytes) (hsrc : (91 : UInt8) ∉ src) (inItem : Bool)
    (lines : List Segment) :
    inlineLines { c with tasklist := true } true env src inItem lines =
      inlineLines { c with tasklist := false } true env src inItem lines := by
  rw [← inlineLinesL_off, ← inlineLinesL_off]
  exact GM.Proof.ConvertLTask.inlineLines_task { base := c, linkify := false } env src hsrc inItem lines

theorem docTreesX_task2 (c : XCfg) (env : Env) (src : Bytes) (hsrc : (91 : UInt8) ∉ src) (escs : List Int) :
    ∀ (pi first : Bool) (ts : List GM.Blocks.Tree),
    docTreesX { c with tasklist := true } true env src escs pi first ts =
      docTreesX { c with tasklist := false } true env src escs pi first ts := by
  intro pi first ts
  rw [← docTreesL_off, ← docTreesL_off]
  exact docTreesL_task2 { base := c, linkify := false } env src hsrc escs pi first ts

/-- **TaskList is conservative at whole-document level, for EVERY member set** -/
theorem convertX_task_all (c : XCfg) (uc : List (Nat × (Bool × Bool))) (o : ROpts) (src : Bytes)
    (hsrc : (91 : UInt8) ∉ src) :
    convertX { c with tasklist := true } uc o src = convertX { c with tasklist := false } uc o src := by
  unfold convertX
  rw [← convertLWith_off, ← convertLWith_off]
  exact convertL_task { base := c, linkify := false } uc o src hsrc

end GM.Proof.ConvertXTaskDoc

namespace GM.Proof.ConvertXMon
open GM GM.Text GM.Convert GM.ConvertX GM.Proof.ConvertL GM.Proof.ConvertLTask

/-- **Table is conservative at whole-document level**, every member set, no proviso -/
theorem convertX_table_guarded (c : XCfg) (uc : List (Nat × (Bool × Bool))) (o : ROpts) (src : Bytes)
    (h : (45 : UInt8) ∉ src) :
    convertX { c with table := true } uc o src = convertX { c with table := false } uc o src := by
  unfold convertX
  rw [← convertLWith_off, ← convertLWith_off]
  exact convertL_table { base := c, linkify := false } uc o src h

end GM.Proof.ConvertXMon

namespace GM.Proof.ConvertX
open GM GM.Text GM.Inl GM.Convert GM.ConvertX

theorem docTreesX_task (c : XCfg) (hs : c.strikethrough = false) (env : Env) (src : Bytes) (hsrc : (91 : UInt8) ∉ src)
    (escs : List Int) : ∀ (pi first : Bool) (ts : List GM.Blocks.Tree),
    docTreesX { c with tasklist := true } true env src escs pi first ts =
      docTreesX { c with tasklist := false } true env src escs pi first ts :=
  GM.Proof.ConvertXTaskDoc.docTreesX_task2 c env src hsrc escs

end GM.Proof.ConvertX
end ConvertLTask
