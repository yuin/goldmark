/-
  GM.Proof.ShiftSimDriverL — the driver of the block phase (`closeBlocks`, the candidate loop, `openBlocks`, one pass of the
  per-line loop `lineLoop`) under the shift relation for ALL ten parsers (contracts `PSimL`): the instance `sideL` of the
  driver lemmas of GM.Proof.ShiftSimXDriver (`Xs.G`) — run A's invariant is `K`, a stack block is not the Document, a parent is
  a node of the store, steps never shrink the store, and the exit `continuable:` never asks `listItemParser.Continue`.
  In the per-line loop the conditional contracts of the list parsers are discharged with the unary facts the no-panic
  proof (`lineLoopL`, GM.Proof.BlocksDriverL) has about run A in the middle of a pass (`MidA`).
-/
import GM.Proof.ShiftSimMainW
import GM.Proof.ShiftSimLDefs
import GM.Proof.ShiftSimList

namespace GM.Blocks.Sh
open GM GM.Text GM.Spec GM.Proof.Reader GM.Blocks GM.Blocks.L

variable {F : Frame} {b : Bytes}

/-- all ten parsers are candidates; a stack block (and `lastBlock`) is not the Document; run A's invariant is `K`; a parent
    is a node of the store; a node opened under a parent is younger than it; steps never shrink the store; at the exit
    `continuable:` `Continue` is not asked of `listItemParser` -/
def sideL : Xs.G.Side where
  Cv := fun _ => True
  Bk := fun x => 0 < x.node
  CoOK := fun x => x.bp ≠ .listItem
  I := K
  J := fun _ => True
  P := fun p s => p < s.nodes.length
  Att := fun c p s => p < c ∧ c < s.nodes.length
  R := fun s s' => s.nodes.length ≤ s'.nodes.length

theorem sideL_ok : sideL.OK b where
  rRefl := fun _ => Nat.le_refl _
  rTrans := Nat.le_trans
  pR := fun _ r h => Nat.lt_of_lt_of_le h r
  attR := fun _ _ r h => ⟨h.1, Nat.lt_of_lt_of_le h.2 r⟩
  attP := fun _ _ _ h => h.2
  stack := fun _ hk x hx => hk.opened x hx
  same := fun _ _ hk en ho _ => a2_KS_same hk ⟨en, ho⟩
  shrink := fun _ _ hk hl => ⟨⟨hk.acyc, hk.doc, fun x hx => hk.opened x (hl x hx)⟩, Nat.le_refl _⟩
  push := fun s bp c p _ hk hat => by
    refine ⟨⟨hk.acyc, hk.doc, fun x hx => ?_⟩, Nat.le_refl _⟩
    rcases List.mem_append.mp hx with hx | hx
    · exact hk.opened x hx
    · simp at hx; subst hx; exact ⟨Nat.lt_of_le_of_lt (Nat.zero_le _) hat.1, hat.2⟩
  blank := fun c _ bl s a s' hk _ e =>
    a2_KS_mk hk (ac_modNode_acyc c (fun n => { n with blankPrev := bl }) (fun _ => ⟨rfl, rfl⟩) s a s' hk.acyc e)
      (a2_modNode_ch c (fun n => { n with blankPrev := bl }) (fun _ => ⟨rfl, rfl, fun x hx => Or.inl hx⟩) s a s' hk.doc e)
      (modNode_opened _ _ _ _ _ e) (ac_modNode_len s.nodes.length c _ s a s' (Nat.le_refl _) e)
  append := fun c p s a s' hk hat e =>
    a2_KS_mk hk (ac_appendChild p c hat.1 s a s' hk.acyc e)
      (a2_appendChild p c (Nat.pos_iff_ne_zero.1 (Nat.lt_of_le_of_lt (Nat.zero_le _) hat.1)) s a s' hk.doc e)
      (appendChild_opened p c s s' a e) (ac_appendChild_len s.nodes.length p c s a s' (Nat.le_refl _) e)
  opn := fun bp _ p s a s' hk hp e => ⟨a2_bpOpen_KS bp p s s' a hk e, fun id hid => by
    obtain ⟨f1, f2, _, _⟩ := bpOpen_fresh bp p s s' id a.2 (by rw [← hid]; exact e)
    exact ⟨Nat.lt_of_lt_of_le hp f1, f2⟩⟩
  cont := fun x hx s a s' hk e => a2_bpContinue_KS x.bp x.node hx s s' a hk e
  close := fun x hx s a s' hk e => a2_bpClose_KS x.bp x.node hx s s' a hk e
  jPos := fun _ _ _ _ _ => trivial
  strictO := fun _ _ _ _ _ _ _ _ _ _ => trivial

theorem PSimL.toG (hP : PSimL F b) : Xs.G.Sim F.toX b sideL where
  op := fun bp _ => openSim_toX F ▸ hP.op bp
  cl := fun x hx rA rB sA sB h hk => by
    rw [srl_toX] at h ⊢
    exact hP.cl x.bp x.node rA rB sA sB h hk hx

/-- `Continue` at the exit `continuable:` is asked for the limbo relation only: on a line `co` gives it, at the end of the
    source `coEof` -/
theorem PSimL.toO (hP : PSimL F b) : Xs.G.SimO F.toX b sideL where
  toSim := hP.toG
  coLim := fun x hx hne sA sB h _ hk => by
    rw [sr_toX] at h; rw [srLim_toX]
    obtain ⟨c, hri⟩ := h.ri
    by_cases hp : c.p < b.length
    · exact (hP.co x.bp hne x.node sA sB h ⟨c, hri, hp⟩ hk hx).mono (fun _ _ _ _ ⟨h1, h2, _⟩ => ⟨h1, h2⟩)
    · exact hP.coEof x.bp x.node sA sB h ⟨c, hri, hp⟩ hk hx
  jQ := fun _ _ => .inl rfl
  free := fun _ _ => trivial
  trig := fun _ _ _ _ _ _ _ _ _ _ _ _ _ => trivial

theorem closeBlocks_L (hP : PSimL F b) : CloseBlocksSimL F b := by
  intro frm to rA rB sA sB h hk
  rw [← srl_toX] at h ⊢
  exact (Xs.G.closeBlocks_l2 sideL_ok hP.toG frm to hk h).mono fun _ _ _ _ ⟨h1, h2, _⟩ => ⟨h1, h2⟩

/-- what the "a node was opened" paths establish (the binary part) -/
def dl_TpQ (F : Frame) (b : Bytes) (rA rB : Reader) (node : Nat) (state : PState)
    (lastBlock : Option Block) (x y : TryOutcome × OpenResult × Option Block) (sA' sB' : St) : Prop :=
  x = ((if state.hasChildren = true then TryOutcome.retry node else TryOutcome.done), OpenResult.newBlocksOpened, lastBlock) ∧
  y = (shO F x.1, x.2.1, x.2.2.map (shB F)) ∧ SRL F b rA rB sA' sB' ∧ sA'.pc.opened ≠ []

def TpQL (F : Frame) (b : Bytes) (rA rB : Reader) (node : Nat) (state : PState)
    (lastBlock : Option Block) (x y : TryOutcome × OpenResult × Option Block) (sA' sB' : St) : Prop :=
  dl_TpQ F b rA rB node state lastBlock x y sA' sB' ∧ K sA'

theorem TpQL.ofG {sA0 : St} {rA rB : Reader} {node : Nat} {state : PState} {lastBlock : Option Block}
    {x y : TryOutcome × OpenResult × Option Block} {sA' sB' : St}
    (h : Xs.G.TpQ F.toX b sideL sA0 rA rB node state lastBlock x y sA' sB') : TpQL F b rA rB node state lastBlock x y sA' sB' :=
  ⟨⟨h.1, h.2.1, srl_toX F ▸ h.2.2.1, h.2.2.2.2⟩, h.2.2.2.1.1⟩

theorem tpJp2_L (hF : F.OK) {rA rB : Reader} {sA sB : St} (parent node : Nat) (bp : BP) (state : PState)
    (lastBlock : Option Block) (h : SRL F b rA rB sA sB) (hk : K sA) (hpn : parent < node)
    (hn : node < sA.nodes.length) :
    P2 (TpQL F b rA rB node state lastBlock) (tpJp2 parent node bp state lastBlock sA)
      (tpJp2 (F.ι parent) (F.ι node) bp state (lastBlock.map (shB F)) sB) := by
  rw [← srl_toX] at h
  exact (Xs.G.tpJp2_p2 sideL_ok (toX_ok hF) parent node bp state lastBlock h hk trivial ⟨hpn, hn⟩).mono
    fun _ _ _ _ q => TpQL.ofG q

theorem tpJp1_L (hP : PSimL F b) (hF : F.OK) {rA rB : Reader} {sA sB : St} (parent node : Nat) (bp : BP)
    (state : PState) (lastBlock : Option Block) (blankLine : Bool) (last : Option Nat)
    (h : SRL F b rA rB sA sB) (hk : K sA) (hpn : parent < node) (hn : node < sA.nodes.length) :
    P2 (TpQL F b rA rB node state lastBlock) (tpJp1 parent node bp state lastBlock blankLine last sA)
      (tpJp1 (F.ι parent) (F.ι node) bp state (lastBlock.map (shB F)) blankLine (last.map F.ι) sB) := by
  rw [← srl_toX] at h
  exact (Xs.G.tpJp1_p2 sideL_ok hP.toG (toX_ok hF) parent node bp state lastBlock blankLine last h hk trivial ⟨hpn, hn⟩).mono
    fun _ _ _ _ q => TpQL.ofG q

theorem tpJp3_L (hP : PSimL F b) (hF : F.OK) {rA rB : Reader} {sA sB : St} (parent node : Nat) (bp : BP)
    (state : PState) (lastBlock : Option Block) (blankLine : Bool) (last : Option Nat) (lb : Block) (blocks : List Block)
    (h : SRL F b rA rB sA sB) (hk : K sA) (hb : ∀ z ∈ blocks, z ∈ sA.pc.opened) (hpn : parent < node)
    (hn : node < sA.nodes.length) :
    P2 (TpQL F b rA rB node state lastBlock) (tpJp3 parent node bp state lastBlock blankLine last lb blocks sA)
      (tpJp3 (F.ι parent) (F.ι node) bp state (lastBlock.map (shB F)) blankLine (last.map F.ι) (shB F lb)
        (blocks.map (shB F)) sB) := by
  rw [← srl_toX] at h
  exact (Xs.G.tpJp3_p2 sideL_ok hP.toG (toX_ok hF) parent node bp state lastBlock blankLine last lb blocks h hb hk trivial
    ⟨hpn, hn⟩).mono fun _ _ _ _ q => TpQL.ofG q

theorem tpSome_L (hP : PSimL F b) (hF : F.OK) {rA rB : Reader} {sA sB : St} (parent node : Nat) (bp : BP)
    (state : PState) (lastBlock : Option Block) (blankLine : Bool)
    (h : SRL F b rA rB sA sB) (hk : K sA) (hlb : ∀ l, lastBlock = some l → 0 < l.node) (hpn : parent < node)
    (hn : node < sA.nodes.length) :
    P2 (TpQL F b rA rB node state lastBlock)
      (tpSome parent node bp state lastBlock blankLine (lastBlock.map (·.node)) sA)
      (tpSome (F.ι parent) (F.ι node) bp state (lastBlock.map (shB F)) blankLine
        ((lastBlock.map (shB F)).map (·.node)) sB) := by
  rw [← srl_toX] at h
  exact (Xs.G.tpSome_p2 sideL_ok hP.toG (toX_ok hF) parent node bp state lastBlock blankLine h hk trivial ⟨hpn, hn⟩ hlb).mono
    fun _ _ _ _ q => TpQL.ofG q

theorem tryParsers_L (hP : PSimL F b) (hF : F.OK) : TryParsersSimL F b := by
  intro parent blankLine continuable w bps result lastBlock sA sB hlb h hl hk hp
  rw [← sr_toX] at h
  refine (Xs.G.tryParsers_p2 sideL_ok hP.toG (toX_ok hF) (.inl rfl) parent blankLine continuable w bps result lastBlock sA sB
    (fun _ _ => trivial) hlb h trivial hl hk hp).mono fun _ _ _ _ ⟨h1, t⟩ => ⟨h1, ?_⟩
  exact ⟨srLim_toX F ▸ t.lim, t.ai, t.lb, t.par, fun e => sr_toX F ▸ t.sr e, t.line, fun e => (t.hasLine e).2, t.ne, t.same,
    t.retryNew⟩

theorem openBlocks_L (hP : PSimL F b) (hF : F.OK) (_hT : TryParsersSimL F b) : OpenBlocksSimL F b := by
  intro parent blank sA sB h hk hp hli
  rw [← srw_toX] at h; rw [← srLim_toX]
  exact (Xs.G.openBlocks_p2 sideL_ok hP.toO (toX_ok hF) (.inl rfl) parent blank sA sB h hk trivial hp hli).mono
    fun _ _ _ _ ⟨h1, h2, h3, h4, h5⟩ => ⟨h1, h2, h3.1, h4, h5⟩

/-- what run A's state satisfies in the middle of a pass (the invariant of `lineLoopL`, root 0) -/
structure MidA (b : Bytes) (ob pre rest : List Block) (i : Int) (s : St) : Prop where
  split : ob = pre ++ rest
  idx : i = (pre.length : Int)
  opened : s.pc.opened = ob
  st : StableL b 0 s
  rd : ∃ c, RI b s.r c ∧ PadOK c ∧ ∀ Lb, pre.getLast? = some Lb → Lb.bp = .list → ListHint b s c Lb.node

def LineQL (F : Frame) (b : Bytes) (sA : St) (rest : List Block) (x y : LineOutcome × List LineStat) (sA' sB' : St) :
    Prop :=
  y.1 = x.1 ∧ StatsRel F x.2 y.2 ∧ SRLim F b sA' sB' ∧ K sA' ∧ sA.r.line ≤ sA'.r.line ∧
    (x.1 = LineOutcome.next → rest ≠ [] → x.2 ≠ [])

theorem MidA.congr_r {ob pre rest : List Block} {i : Int} {s : St} (hm : MidA b ob pre rest i s) {c : RCur}
    (hc : RI b s.r c) {r' : Reader} (hc' : RI b r' c) : MidA b ob pre rest i { s with r := r' } := by
  obtain ⟨h1, h2, h3, h4, c0, hri, hpad, hhint⟩ := hm
  have := ri_unique hri hc
  subst this
  exact ⟨h1, h2, h3, h4.congr_r r', c0, hc', hpad, hhint⟩

/-- the premises of `listItemContinue_okl2` in the middle of a pass -/
theorem lL_liPre {ob pre rest : List Block} {be : Block} {i : Int} {s : St}
    (hm : MidA b ob pre (be :: rest) i s) (hline : ∃ c, RI b s.r c ∧ c.p < b.length) (hbi : be.bp = .listItem) :
    ∃ c p, RI b s.r c ∧ PadOK c ∧ c.p < b.length ∧ (nd s be.node).parent = some p ∧ (nd s p).kind = .list ∧
      li_ListKidsOK s p ∧ 0 ≤ li_lastOff s p ∧ li_ListContinued b s c be.node p := by
  obtain ⟨hob, hi, hop, hst, c, hri, hpad, hhint⟩ := hm
  obtain ⟨c0, hri0, hp⟩ := hline
  have := ri_unique hri hri0
  subst this
  have hbemem : be ∈ s.pc.opened := by rw [hop, hob]; simp
  have hbeok := hst.blocks be hbemem
  obtain ⟨hchpre, hlink, hchrest⟩ := chainedO_split (hob ▸ hop ▸ hst.chain)
  have hkL : (nd s (lastNode 0 pre)).kind = .list := hlink.up hbi
  obtain ⟨_, hparL, hlastL⟩ := hlink.down hkL
  obtain ⟨Lb, hLb, hLn⟩ : ∃ Lb, pre.getLast? = some Lb ∧ Lb.node = lastNode 0 pre := by
    unfold lastNode
    cases hg : pre.getLast? with
    | none =>
      exfalso
      have : lastNode 0 pre = 0 := by unfold lastNode; rw [hg]; rfl
      rw [this, hst.ls.rootKind] at hkL; cases hkL
    | some Lb => exact ⟨Lb, rfl, rfl⟩
  have hLbm : Lb ∈ s.pc.opened := by rw [hop, hob]; exact List.mem_append_left _ (List.mem_of_getLast? hLb)
  have hLbl : Lb.bp = .list := by
    have := (hst.blocks Lb hLbm).kind
    rw [hLn, hkL] at this
    exact kind_list this.symm
  obtain ⟨lc, hlc, hg⟩ := hhint Lb hLb hLbl
  rw [hLn] at hlc hg
  have hlcbe : lc = be.node := by rw [hlastL] at hlc; cases hlc; rfl
  subst hlcbe
  have hkk := li_kidsOK_of hst.ls.kids (lastNode 0 pre) hkL
  have hoffe : li_lastOff s (lastNode 0 pre) = (nd s be.node).offset := by
    unfold li_lastOff; rw [hlastL]
  have hoff : 0 ≤ li_lastOff s (lastNode 0 pre) := by
    rw [hoffe]; exact hst.ls.kids.off be.node (by rw [hbeok.kind, hbi]; rfl)
  have hlist : li_ListContinued b s c be.node (lastNode 0 pre) := by
    unfold li_ListContinued
    simp only
    intro hnb
    rw [hoffe]
    obtain ⟨hgo, _⟩ := hg hnb
    have hns := hgo.not_short rfl
    refine ⟨hns.1, fun hh => ?_⟩
    refine hns.2.1 ⟨?_, hh.2.1, fun ⟨m, typ, hm, ht, _⟩ => ?_⟩
    · have := hh.1
      simp only [Bool.and_eq_true, beq_iff_eq] at this
      exact List.isEmpty_iff_length_eq_zero.2 this.1
    · have := hh.2.2.2
      rw [li_matchesListItem_strict] at this
      have hm' : matchesListItem (lineOf b c) false = (m, typ) := hm
      unfold lineOf at hm'
      rw [hm'] at this
      exact ht this
  exact ⟨c, lastNode 0 pre, hri, hpad, hp, hparL, hkL, hkk, hoff, hlist⟩

/-- the side conditions of `PSimL.coLI` -/
theorem lL_coLI {ob pre rest : List Block} {be : Block} {i : Int} {s : St}
    (hm : MidA b ob pre (be :: rest) i s) (hline : ∃ c, RI b s.r c ∧ c.p < b.length) (hbi : be.bp = .listItem) :
    (∀ p, (s.nodes.getD be.node default).parent = some p → p ≠ 0) ∧
      (∀ a s', listItemContinue be.node s = .ok (a, s') → ∃ c', RI b s'.r c') := by
  obtain ⟨c, p, hri, hpad, hp, hpar, hkL, hkk, hoff, hlist⟩ := lL_liPre hm hline hbi
  refine ⟨fun q hq hq0 => ?_, fun a s' e => ?_⟩
  · have e1 : (nd s be.node).parent = some q := hq
    rw [hpar] at e1
    cases e1
    subst hq0
    rw [hm.st.ls.rootKind] at hkL
    cases hkL
  · obtain ⟨c2, hri2, _⟩ := okl_ok (listItemContinue_okl2 b be.node s c hri hpad hp p hpar hkk hoff hlist) e
    exact ⟨c2, hri2⟩

/-- one `Continue` in the middle of a pass: run A's invariant afterwards -/
theorem lL_step {ob pre rest : List Block} {be : Block} {i : Int} {s s2 : St} {st : PState}
    (hm : MidA b ob pre (be :: rest) i s) (hline : ∃ c, RI b s.r c ∧ c.p < b.length)
    (e : bpContinue be.bp be.node s = .ok (st, s2)) :
    StableL b 0 s2 ∧ s2.pc.opened = ob ∧
      (st.cont = true → st.hasChildren = true → MidA b ob (pre ++ [be]) rest (i + 1) s2) := by
  have hm0 := hm
  obtain ⟨hob, hi, hop, hst, c, hri, hpad, hhint⟩ := hm
  have hline0 := hline
  obtain ⟨c0, hri0, hp⟩ := hline
  have := ri_unique hri hri0
  subst this
  have hbemem : be ∈ s.pc.opened := by rw [hop, hob]; simp
  have hbeok := hst.blocks be hbemem
  obtain ⟨hchpre, hlink, hchrest⟩ := chainedO_split (hob ▸ hop ▸ hst.chain)
  have hsplit : ob = (pre ++ [be]) ++ rest := by rw [hob]; simp
  have hidx : i + 1 = ((pre ++ [be]).length : Int) := by simp; omega
  by_cases hbl : be.bp = .list
  · -- listParser.Continue
    have hkl : (nd s be.node).kind = .list := by rw [hbeok.kind, hbl]; rfl
    have hitem : ListHasItem s be.node := by
      cases hr : rest with
      | nil =>
        exfalso
        have := hst.endOK
        have hob1 : s.pc.opened = pre ++ [be] := by rw [hop, hob, hr]
        rw [hob1, lastNode_concat] at this
        exact this hkl
      | cons b' rs =>
        rw [hr] at hchrest
        obtain ⟨h1', h2', h3'⟩ := hchrest.1.down hkl
        refine ⟨b'.node, h3', ?_⟩
        have hb'm : b' ∈ s.pc.opened := by rw [hop, hob, hr]; simp
        rw [(hst.blocks b' hb'm).kind, h1']; rfl
    obtain ⟨lc, hlc, hlk⟩ := hitem
    have hitem : ListHasItem s be.node := ⟨lc, hlc, hlk⟩
    have hcs := listContinue_okl2 b be.node s c hri hp hitem
    have ebp : bpContinue be.bp be.node = listContinue be.node := by rw [hbl]; rfl
    rw [ebp] at e
    obtain ⟨r2, hr2, hri2, hn2, ho2, _, _, ht2, hf2, _, hcc2, hlc2⟩ := okl_ok hcs e
    obtain ⟨hbl2, hnb2⟩ := hlc2 lc hlc
    have hst2 : StableL b 0 s2 := hst.congr hn2 ho2 ht2 hf2
    have hri2' : RI b s2.r c := by rw [hr2]; exact hri2
    have hop2 : s2.pc.opened = ob := by rw [ho2]; exact hop
    refine ⟨hst2, hop2, fun hcont _ => ⟨hsplit, hidx, hop2, hst2, c, hri2', hpad, ?_⟩⟩
    intro Lb hLb hLbl
    rw [List.getLast?_concat] at hLb
    cases hLb
    refine ⟨lc, by rw [nd_eq_of_nodes_eq hn2]; exact hlc, fun hnb => ?_⟩
    obtain ⟨hpc, hg, hth⟩ := hnb2 hnb
    have hst' : st = stContinueHasChildren := by
      rcases hg.1 with h | h
      · rw [h] at hcont; cases hcont
      · exact h
    rw [nd_eq_of_nodes_eq hn2, nd_eq_of_nodes_eq hn2, hpc, ← hst']
    exact ⟨hg, fun a b' c' => hth hcont a b' c'⟩
  · by_cases hbi : be.bp = .listItem
    · -- listItemParser.Continue
      obtain ⟨c1, p, hri1, hpad1, hp1, hpar, hkL, hkk, hoff, hlist⟩ := lL_liPre hm0 hline0 hbi
      have hcs := listItemContinue_okl2 b be.node s c1 hri1 hpad1 hp1 p hpar hkk hoff hlist
      have ebp : bpContinue be.bp be.node = listItemContinue be.node := by rw [hbi]; rfl
      rw [ebp] at e
      obtain ⟨c2, hri2, hpad2, _, hn2, ho2, ht2, hf2, hcc2, hpcc2, hclose2⟩ := okl_ok hcs e
      have hst2 : StableL b 0 s2 := hst.congr hn2 ho2 ht2 hf2
      have hop2 : s2.pc.opened = ob := by rw [ho2]; exact hop
      refine ⟨hst2, hop2, fun _ _ => ⟨hsplit, hidx, hop2, hst2, c2, hri2, hpad2, ?_⟩⟩
      intro Lb' hLb' hLbl'
      rw [List.getLast?_concat] at hLb'
      cases hLb'
      rw [hbi] at hLbl'; cases hLbl'
    · -- the other parsers
      have hnl : NotList be.bp := ⟨hbl, hbi⟩
      have hcs := (specs_notList b).cont be.bp hnl be.node s c hri hpad hp hst.nodes hst.keys hbeok
      have h2 := okl_ok hcs e
      have hts2 : TreeSame s s2 := (lsp_all b).contTS be.bp be.node s st s2 e
      obtain ⟨c2, hria2, hpad2, _, _, hcase2⟩ := h2.ria
      have hst2 : StableL b 0 s2 := hst.same h2.ext h2.nodes hts2 (by rw [h2.pc]) (by rw [h2.pc]) (by rw [h2.pc])
      have hop2 : s2.pc.opened = ob := by rw [h2.pc]; exact hop
      refine ⟨hst2, hop2, fun hcont hch => ?_⟩
      have hri2 : RI b s2.r c2 := by
        rcases hcase2 with ⟨_, h⟩ | h
        · rw [hch] at h; cases h
        · exact h
      refine ⟨hsplit, hidx, hop2, hst2, c2, hri2, hpad2, ?_⟩
      intro Lb' hLb' hLbl'
      rw [List.getLast?_concat] at hLb'
      cases hLb'
      exact absurd hLbl' hbl

theorem lL_cont : ∀ bp : BP, bp.isContainer = true → ∀ node s s' (st : PState),
    bpContinue bp node s = .ok (st, s') → st.cont = true → st.hasChildren = true := by
  intro bp hcn node s s' st h hc
  by_cases hbl : bp = .list
  · subst hbl; exact listContinue_cont node s s' st h hc
  · by_cases hbi : bp = .listItem
    · subst hbi; exact listItemContinue_cont node s s' st h hc
    · exact leafCont_notList bp ⟨hbl, hbi⟩ hcn node s s' st h hc

/-- the hypothesis of `OpenBlocksSimL` about the last open block -/
theorem lL_lastOK {s : St} (hst : StableL b 0 s) :
    ∀ x, s.pc.opened.getLast? = some x → (s.nodes.getD x.node default).kind = .paragraph → x.bp ≠ .listItem := by
  intro x hx hk hbi
  have hk' : (nd s x.node).kind = .paragraph := hk
  rw [(hst.blocks x (List.mem_of_getLast? hx)).kind, hbi] at hk'
  cases hk'

/-- what is known of run A in the middle of a pass when the blocks `rest` are still to be asked -/
def MidR (b : Bytes) (ob rest : List Block) (s : St) : Prop := ∃ pre, MidA b ob pre rest (pre.length : Int) s

/-- `Continue` of a block in the middle of a pass: `coLI` with the premises of `lL_coLI` for `listItemParser`, `co` for the
    others; a block whose `Continue` answers "Continue, no children" is a leaf, hence the last open block -/
theorem lL_coAt (hP : PSimL F b) (ob : List Block) (be : Block) (rest : List Block) :
    Xs.G.CoAt F.toX b sideL (MidR b ob) be rest := by
  intro sA sB h ⟨pre, hm⟩ hline hk
  rw [sr_toX] at h ⊢; rw [srLim_toX]
  have hbemem : be ∈ sA.pc.opened := by rw [hm.opened, hm.split]; simp
  have hbe := hk.opened be hbemem
  have hco : P2 (fun x y sA' sB' => y = x ∧ SRLim F b sA' sB' ∧
        ((x.cont = true ∧ x.hasChildren = false) ∨ SR F b sA' sB'))
      (bpContinue be.bp be.node sA) (bpContinue be.bp (F.ι be.node) sB) := by
    by_cases hbi : be.bp = .listItem
    · obtain ⟨q1, q2⟩ := lL_coLI hm hline hbi
      rw [hbi]
      exact (hP.coLI be.node sA sB h hline hk hbe.1 q1 q2).mono
        (fun x y sA' sB' ⟨hy, hs⟩ => ⟨hy, hs.limbo, .inr hs⟩)
    · exact hP.co be.bp hbi be.node sA sB h hline hk hbe.1
  refine (hco.withL (R := fun a sA' => bpContinue be.bp be.node sA = .ok (a, sA')) (fun _ _ e => e)).mono
    (fun st _ sA2 sB2 ⟨⟨hst', hlim2, hdis⟩, heq⟩ => ⟨hst', hlim2, a2_bpContinue_KS be.bp be.node hbe.1 _ _ _ hk heq, ?_⟩)
  obtain ⟨hsta2, _, hmid2⟩ := lL_step hm hline heq
  by_cases hc : st.cont = true
  · by_cases hch : st.hasChildren = true
    · have h2 : SR F b sA2 sB2 := by
        rcases hdis with ⟨_, hf⟩ | h2
        · rw [hch] at hf; cases hf
        · exact h2
      refine .inr ⟨h2, trivial, lL_lastOK hsta2, fun _ => ⟨pre ++ [be], ?_⟩⟩
      have e : ((pre ++ [be]).length : Int) = (pre.length : Int) + 1 := by simp
      rw [e]; exact hmid2 hc hch
    · refine .inl ⟨hc, by simpa using hch, ?_⟩
      have hnc : ¬ be.bp.isContainer = true := fun hcn => hch (lL_cont be.bp hcn be.node sA sA2 st heq hc)
      apply Classical.byContradiction
      intro hne
      exact hnc (leaf_of_stable hm.st pre be rest (by rw [hm.opened, hm.split]) hne)
  · have h2 : SR F b sA2 sB2 := by
      rcases hdis with ⟨hf, _⟩ | h2
      · exact absurd hf hc
      · exact h2
    exact .inr ⟨h2, trivial, lL_lastOK hsta2, fun hc' => absurd hc' hc⟩

theorem lineLoop_L (hP : PSimL F b) (_hC : CloseBlocksSimL F b) (hO : OpenBlocksSimL F b)
    (ob : List Block) (li : Int) (_hli : li = (ob.length : Int) - 1) :
    ∀ (rest pre : List Block) (i : Int) (sa sb : List LineStat) (sA sB : St),
      MidA b ob pre rest i sA → SR F b sA sB → K sA → StatsRel F sa sb → 1 ≤ sA.r.line → i ≤ (sa.length : Int) →
      P2 (LineQL F b sA rest) (lineLoop 0 ob li rest i sa sA)
        (lineLoop (F.ι 0) (ob.map (shB F)) li (rest.map (shB F)) i sb sB) := by
  intro rest pre i sa sb sA sB hm h hk hst h1 hi
  have hO' : Xs.G.OpenG F.toX b sideL := by
    intro parent blank sA sB h hk _ hp hli
    rw [srw_toX] at h; rw [srLim_toX]
    exact ((hO parent blank sA sB h hk hp hli).withL (R := fun _ sA' => sA.nodes.length ≤ sA'.nodes.length)
      (fun a sA' e => (a2_openBlocks parent blank sA sA' a hk hp e).2)).mono
      fun _ _ _ _ ⟨⟨h1, h2, h3, h4, h5⟩, hr⟩ => ⟨h1, h2, ⟨h3, hr⟩, h4, h5⟩
  have hi' := hm.idx
  subst hi'
  rw [← sr_toX] at h
  refine (Xs.G.lineLoop_p2 sideL_ok hP.toG (.inl rfl) (fun _ _ => .inl rfl) hO' 0 ob li (MidR b ob)
    (fun _ _ ⟨_, hm⟩ => ⟨trivial, lL_lastOK hm.st⟩)
    (fun be r s ⟨_, hm⟩ hk => (hk.opened be (by rw [hm.opened, hm.split]; simp)).2)
    (fun _ _ _ _ ⟨p, hm⟩ hc hc' => ⟨p, hm.congr_r hc hc'⟩) (lL_coAt hP ob)
    rest _ sa sb sA sB ⟨pre, hm⟩ h hk hk.doc.1 (fun x hx => (hk.opened x (hm.opened ▸ hx)).2) hst h1 hi).mono
    fun _ _ _ _ ⟨q1, q2, q3, q4, q5, q6⟩ => ⟨q1, q2, srLim_toX F ▸ q3, q4, q5, q6⟩

end GM.Blocks.Sh
