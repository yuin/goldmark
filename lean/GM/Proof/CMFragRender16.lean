/-
  GM.Proof.CMFragRender16 — the renderer on the atoms of stages 16–20: inline links, images, URI autolinks, raw inline tags,
  `_` emphasis, and the bridges from the spec-side atoms to the proof-side atoms.
-/
import GM.Proof.CMFrag16Defs
import GM.Proof.CMFragRender8
import GM.Proof.CMFragSpec16
import GM.Proof.CMFrag17Defs
import GM.Proof.CMFrag18Defs
import GM.Proof.CMFrag19Defs
import GM.Proof.CMFrag20Defs
import GM.Proof.CMFragSpec

/-
  section CMFragRender16 — the renderer on an inline link (stage 16):
  * `urlEscape_dest16`, `urlOut_dest16`: the renderer's URL escaping (util.URLEscape with reference resolution, then
    util.EscapeHTML) is the identity on a destination of letters, digits and `/`;
  * `renderNode_link16`: what the renderer writes for a Link around one Text;
  * the bridge to the spec side: `latomOfS`, `llineSrc_latomOfS16` (the source of a line), what `latomOKS` and
    `litemOKS` say.
-/
section CMFragRender16
namespace GM.Proof.CMFrag
open GM GM.Spec.CM GM.Spec.CMFrag

/-- every byte the reference renderer's percent-encoding keeps, util.URLEscape passes through untouched -/
theorem urlSafe_of_urlKeep : ∀ c : UInt8, urlKeep c = true → urlSafe c = true := GM.forall_uint8 _ (by decide +kernel)

theorem destC_facts16 (c : UInt8) (h : isDestC16 c = true) : urlSafe c = true ∧ c ≠ 92 ∧ c ≠ 38 ∧ escByte c = [c] :=
  ⟨urlSafe_of_urlKeep c (destC_facts_s16 c h).1, destC_ne_s16 h 92 (by decide), destC_ne_s16 h 38 (by decide),
    (GM.Proof.CMSpec.escHtmlByte_eq c).symm.trans (destC_facts_s16 c h).2.1⟩

theorem unescapeAndResolve_dest16 (d : Bytes) (h : ∀ c ∈ d, isDestC16 c = true) : unescapeAndResolve d = d := by
  induction d with
  | nil => simp [unescapeAndResolve]
  | cons c rest ih =>
    have ih' := ih (fun x hx => h x (by simp [hx]))
    obtain ⟨_, h92, h38, _⟩ := destC_facts16 c (h c (by simp))
    cases rest with
    | nil => simp [unescapeAndResolve]
    | cons e rest0 =>
      rw [unescapeAndResolve]
      have e1 : (c == 92) = false := by simpa using h92
      have e2 : (c == 38) = false := by simpa using h38
      simp only [e1, e2, Bool.false_and, Bool.false_eq_true, if_false, ih']

theorem urlCopies_dest16 (total : Nat) (d : Bytes) (h : ∀ c ∈ d, isDestC16 c = true) :
    urlCopies total d = false := by
  induction d with
  | nil => simp [urlCopies]
  | cons c rest ih =>
    rw [urlCopies]
    simp only [(destC_facts16 c (h c (by simp))).1, if_true]
    exact ih (fun x hx => h x (by simp [hx]))

theorem urlEscape_dest16 (d : Bytes) (h : ∀ c ∈ d, isDestC16 c = true) : urlEscape d true = d := by
  simp [urlEscape, urlEscapeRaw, unescapeAndResolve_dest16 d h, urlCopies_dest16 _ d h]

theorem escapeHTML_dest16 (d : Bytes) (h : ∀ c ∈ d, isDestC16 c = true) : escapeHTML d = d := by
  induction d with
  | nil => rfl
  | cons c rest ih =>
    have := ih (fun x hx => h x (by simp [hx]))
    simp only [escapeHTML, List.flatMap_cons] at this ⊢
    rw [this, (destC_facts16 c (h c (by simp))).2.2.2]
    rfl

/-- what the renderer writes into `href` (option Unsafe set: no dangerous-URL filter) -/
theorem urlOut_dest16 (d : Bytes) (h : ∀ c ∈ d, isDestC16 c = true) : urlOut true (urlEscape d true) = d := by
  simp [urlOut, urlEscape_dest16 d h, escapeHTML_dest16 d h]

theorem handled_link16 (e : Exts) (d : Bytes) (t : Option Bytes) : handled e (.link d t) = true := rfl

theorem renderNode_link16 (rc : RCfg) (hes : rc.core.escSpace = false) (hhw : rc.core.hardWraps = false)
    (hea : rc.core.ea = 0) (hu : rc.core.unsafe_ = true) (ph : Bool) (next : Option Node) (t d : Bytes)
    (hd : ∀ c ∈ d, isDestC16 c = true) :
    renderNode rc ph next (.mk (.link d none) none [.mk (.text t false false false false) none []]) =
      strBytes "<a href=\"" ++ d ++ strBytes "\">" ++ GM.write false t ++ strBytes "</a>" := by
  rw [renderNode]
  have h2 : strBytes "\">" = [34, 62] := by decide +kernel
  simp [enter, leave, handled_link16, skipsChildren, renderAttrs, renderNodes, renderNode_text rc hes hhw hea, hu,
    urlOut_dest16 d hd, h2]

theorem rcfg_unsafe16 (o : GM.Convert.ROpts) : o.rcfg.core.unsafe_ = o.unsafe_ := by
  cases o with | mk u x h => cases u <;> rfl

/-- a spec-side atom as source bytes -/
def latomOfS : LAtomS → LAtom
  | .txt cs => .txt (escSpell cs)
  | .link t d => .link t d

theorem latomSrc_latomOfS16 (a : LAtomS) : latomSrc (latomOfS a) = spellLAtom a := by
  cases a <;> rfl

theorem llineSrc_latomOfS16 (l : LLine) : llineSrc (l.map latomOfS) = spellLLine l := by
  simp only [llineSrc, spellLLine, List.flatMap_map]
  congr 1; funext a; exact latomSrc_latomOfS16 a

theorem latomOKS_txt16 (cs : List TChar) (h : latomOKS (.txt cs) = true) : cs ≠ [] ∧ ∀ t ∈ cs, charOK t = true := by
  simp only [latomOKS, Bool.and_eq_true, Bool.not_eq_true', List.isEmpty_eq_false_iff, List.all_eq_true] at h
  exact h

theorem litemOKS_lines16 (it : LItem) (h : litemOKS it = true) :
    it.lines ≠ [] ∧ ∀ l ∈ it.lines, llineOKS l = true := by
  simp only [litemOKS, Bool.and_eq_true, Bool.not_eq_true', List.isEmpty_eq_false_iff, List.all_eq_true] at h
  exact h

end GM.Proof.CMFrag
end CMFragRender16

/-
  section CMFragRender17 — the renderer on an image (stage 17):
  * `renderNode_img17`: an image node writes `<img src="d" alt="t" />` (XHTML, option Unsafe), its children are not
    walked (the alternative text is collected by `altTexts`);
  * the bridge to the spec side: `imatomOfS`, `imlineSrc_imatomOfS17` (the source of a line), what `imgatomOKS` and
    `imgitemOKS` say.
-/
section CMFragRender17
namespace GM.Proof.CMFrag
open GM GM.Spec.CM GM.Spec.CMFrag

theorem handled_img17 (e : Exts) (d : Bytes) (t : Option Bytes) : handled e (.image d t) = true := rfl

theorem renderNode_img17 (rc : RCfg) (hes : rc.core.escSpace = false) (hu : rc.core.unsafe_ = true)
    (hx : rc.core.xhtml = true) (ph : Bool) (next : Option Node) (t d : Bytes)
    (hd : ∀ c ∈ d, isDestC16 c = true) :
    renderNode rc ph next (.mk (.image d none) none [.mk (.text t false false false false) none []]) =
      strBytes "<img src=\"" ++ d ++ strBytes "\" alt=\"" ++ GM.write false t ++ strBytes "\" />" := by
  rw [renderNode]
  have h2 : strBytes "\" />" = [34] ++ strBytes " />" := by decide +kernel
  simp [enter, leave, handled_img17, skipsChildren, renderAttrs, altTexts, altText, hes, hu, hx,
    urlOut_dest16 d hd, h2]

/-- a spec-side atom as source bytes -/
def imatomOfS : ImgAtomS → ImAtom
  | .txt cs => .txt (escSpell cs)
  | .img t d => .img t d

theorem imatomSrc_imatomOfS17 (a : ImgAtomS) : imatomSrc (imatomOfS a) = spellImgAtom a := by
  cases a <;> rfl

theorem imlineSrc_imatomOfS17 (l : ImgLine) : imlineSrc (l.map imatomOfS) = spellImgLine l := by
  simp only [imlineSrc, spellImgLine, List.flatMap_map]
  congr 1; funext a; exact imatomSrc_imatomOfS17 a

theorem imgatomOKS_txt17 (cs : List TChar) (h : imgatomOKS (.txt cs) = true) : cs ≠ [] ∧ ∀ t ∈ cs, charOK t = true := by
  simp only [imgatomOKS, Bool.and_eq_true, Bool.not_eq_true', List.isEmpty_eq_false_iff, List.all_eq_true] at h
  exact h

theorem imgitemOKS_lines17 (it : ImgItem) (h : imgitemOKS it = true) :
    it.lines ≠ [] ∧ ∀ l ∈ it.lines, imglineOKS l = true := by
  simp only [imgitemOKS, Bool.and_eq_true, Bool.not_eq_true', List.isEmpty_eq_false_iff, List.all_eq_true] at h
  exact h

end GM.Proof.CMFrag
end CMFragRender17

/-
  section CMFragRender18 — the renderer on an autolink node of stage 18 (URI autolinks inside the text lines):
  * `urlOut_uri18`, `escapeHTML_uri18`: the renderer's URL escaping (util.URLEscape without reference resolution, then
    util.EscapeHTML) and the escaping of the label are the identity on a URI of letters, digits, `/`, `.` and `:`;
  * `renderNode_auto18`: what the renderer writes for the node;
  * `aatomOfS`: a spec-side atom as source bytes (`alineSrc_aatomOfS18`: the source of a line).
-/
section CMFragRender18
namespace GM.Proof.CMFrag
open GM GM.Spec.CM GM.Spec.CMFrag

theorem uriC_facts18 (c : UInt8) (h : isUriC18 c = true) : urlSafe c = true ∧ escByte c = [c] :=
  ⟨urlSafe_of_urlKeep c (uriC_facts_s18 c h).1, (GM.Proof.CMSpec.escHtmlByte_eq c).symm.trans (uriC_facts_s18 c h).2.1⟩

theorem urlCopies_uri18 (total : Nat) (d : Bytes) (h : ∀ c ∈ d, isUriC18 c = true) :
    urlCopies total d = false := by
  induction d with
  | nil => simp [urlCopies]
  | cons c rest ih =>
    rw [urlCopies]
    simp only [(uriC_facts18 c (h c (by simp))).1, if_true]
    exact ih (fun x hx => h x (by simp [hx]))

theorem escapeHTML_uri18 (d : Bytes) (h : ∀ c ∈ d, isUriC18 c = true) : escapeHTML d = d := by
  induction d with
  | nil => rfl
  | cons c rest ih =>
    have := ih (fun x hx => h x (by simp [hx]))
    simp only [escapeHTML, List.flatMap_cons] at this ⊢
    rw [this, (uriC_facts18 c (h c (by simp))).2]
    rfl

/-- what the renderer writes into `href` of an autolink (option Unsafe set: no dangerous-URL filter) -/
theorem urlOut_uri18 (d : Bytes) (h : ∀ c ∈ d, isUriC18 c = true) : urlOut true (urlEscape d false) = d := by
  simp [urlOut, urlEscape, urlEscapeRaw, urlCopies_uri18 _ d h, escapeHTML_uri18 d h]

theorem handled_auto18 (e : Exts) (m : Bool) (u l : Bytes) : handled e (.autoLink m u l) = true := rfl

theorem renderNode_auto18 (rc : RCfg) (hu : rc.core.unsafe_ = true) (ph : Bool) (next : Option Node) (u : Bytes)
    (hd : ∀ c ∈ u, isUriC18 c = true) :
    renderNode rc ph next (.mk (.autoLink false u u) none []) =
      strBytes "<a href=\"" ++ u ++ strBytes "\">" ++ u ++ strBytes "</a>" := by
  rw [renderNode]
  have h2 : strBytes "\">" = [34, 62] := by decide +kernel
  simp [enter, leave, handled_auto18, skipsChildren, renderNodes, hu, urlOut_uri18 u hd, escapeHTML_uri18 u hd, h2]

/-- a spec-side atom as source bytes -/
def aatomOfS : AAtomS → AAtom
  | .txt cs => .txt (escSpell cs)
  | .auto s r => .auto s r

theorem aatomSrc_aatomOfS18 (a : AAtomS) : aatomSrc (aatomOfS a) = spellAAtom a := by
  cases a with
  | txt cs => rfl
  | auto s r => simp [aatomOfS, aatomSrc, spellAAtom, autoUri]

theorem alineSrc_aatomOfS18 (l : ALine) : alineSrc (l.map aatomOfS) = spellALine l := by
  simp only [alineSrc, spellALine, List.flatMap_map]
  congr 1; funext a; exact aatomSrc_aatomOfS18 a

theorem aatomOKS_txt18 (cs : List TChar) (h : aatomOKS (.txt cs) = true) : cs ≠ [] ∧ ∀ t ∈ cs, charOK t = true := by
  simp only [aatomOKS, Bool.and_eq_true, Bool.not_eq_true', List.isEmpty_eq_false_iff, List.all_eq_true] at h
  exact h

theorem aatomOKS_auto18 (s r : Bytes) (h : aatomOKS (.auto s r) = true) :
    (2 ≤ s.length ∧ s.length ≤ 32 ∧ ∀ c ∈ s, isLetter c = true) ∧ (r ≠ [] ∧ ∀ c ∈ r, isAutoC18 c = true) := by
  simp only [aatomOKS, Bool.and_eq_true, Bool.not_eq_true', List.isEmpty_eq_false_iff, List.all_eq_true,
    decide_eq_true_eq] at h
  exact ⟨⟨h.1.1.1.1, h.1.1.1.2, h.1.1.2⟩, ⟨h.1.2, h.2⟩⟩

end GM.Proof.CMFrag
end CMFragRender18

/-
  section CMFragRender19 — the renderer on a raw-HTML node of stage 19 (raw inline HTML tags inside the text lines):
  with the option Unsafe it writes the segment as it is (`renderNode_raw19`); `hatomOfS19`: a spec-side atom as source
  bytes (`hlineSrc19_hatomOfS19`: the source of a line).
-/
section CMFragRender19
namespace GM.Proof.CMFrag
open GM GM.Spec.CM GM.Spec.CMFrag

theorem handled_raw19 (e : Exts) (segs : List Bytes) : handled e (.rawHTML segs) = true := rfl

/-- raw inline HTML is written as it is (option Unsafe set); its children are not walked -/
theorem renderNode_raw19 (rc : RCfg) (hu : rc.core.unsafe_ = true) (ph : Bool) (next : Option Node) (b : Bytes) :
    renderNode rc ph next (.mk (.rawHTML [b]) none []) = b := by
  rw [renderNode]
  simp [enter, leave, handled_raw19, skipsChildren, hu]

/-- a spec-side atom as source bytes -/
def hatomOfS19 : H19AtomS → HAtom
  | .txt cs => .txt (escSpell cs)
  | .open n => .open n
  | .close n => .close n

theorem hatomSrc_hatomOfS19 (a : H19AtomS) : hatomSrc (hatomOfS19 a) = spellH19Atom a := by
  cases a <;> rfl

theorem hlineSrc19_hatomOfS19 (l : H19Line) : hlineSrc19 (l.map hatomOfS19) = spellH19Line l := by
  simp only [hlineSrc19, spellH19Line, List.flatMap_map]
  congr 1; funext a; exact hatomSrc_hatomOfS19 a

theorem h19atomOKS_txt19 (cs : List TChar) (h : h19atomOKS (.txt cs) = true) : cs ≠ [] ∧ ∀ t ∈ cs, charOK t = true := by
  simp only [h19atomOKS, Bool.and_eq_true, Bool.not_eq_true', List.isEmpty_eq_false_iff, List.all_eq_true] at h
  exact h

theorem tagNameOK_of19 (n : Bytes) (h : tagNameOK19 n = true) : TagNameOK19 n := by
  cases n with
  | nil => cases h
  | cons c rest =>
    simp only [tagNameOK19, Bool.and_eq_true, List.all_eq_true] at h
    refine ⟨by simp, ?_, ?_⟩
    · intro x hx
      simp only [List.head?_cons, Option.some.injEq] at hx
      subst hx; exact h.1
    · intro x hx
      rcases List.mem_cons.mp hx with rfl | hx
      · simp [isAlnumC, h.1]
      · exact h.2 x hx

end GM.Proof.CMFrag
end CMFragRender19

/-
  section CMFragRender20 — underscore emphasis, the bridge to the spec side: `unatomOfS`, `unlineSrc_unatomOfS20` (the
  source of a line); the outer source byte of the character next to a `_` run (`getLast_escSpell20`, `head_escSpell20`) and
  that a printable byte which is no letter or digit is white space or punctuation for the model (`nb_byte20`).
-/
section CMFragRender20
namespace GM.Proof.CMFrag
open GM GM.Spec.CM GM.Spec.CMFrag

theorem handled_emph20 (e : Exts) (level : Nat) : handled e (.emphasis level) = true := rfl

/-- a spec-side atom as source bytes -/
def unatomOfS : UnAtomS → UnAtom
  | .txt cs => .txt (escSpell cs)
  | .em c => .em c
  | .strong c => .strong c

theorem unatomSrc_unatomOfS20 (a : UnAtomS) : unatomSrc (unatomOfS a) = spellUnAtom a := by
  cases a <;> rfl

theorem unlineSrc_unatomOfS20 (l : UnLine) : unlineSrc (l.map unatomOfS) = spellUnLine l := by
  simp only [unlineSrc, spellUnLine, List.flatMap_map]
  congr 1; funext a; exact unatomSrc_unatomOfS20 a

theorem spellChar_ne_nil20 (t : TChar) : spellChar t ≠ [] := by
  obtain ⟨c, e⟩ := t
  cases e <;> simp only [spellChar] <;> (try split) <;> (try split) <;> simp

/-- a printable byte that is not a letter or digit is white space or punctuation for the model -/
theorem nb_byte20 : ∀ c : UInt8, printable c = true → isAlnumC c = false → unNbOK c = true := by
  apply forall_uint8; decide +kernel

theorem getLast_append_ne20 (a b : Bytes) (hb : b ≠ []) : (a ++ b).getLast? = b.getLast? := by
  rw [List.getLast?_append]
  cases hg : b.getLast? with
  | none => exact absurd (List.getLast?_eq_none_iff.mp hg) hb
  | some z => rfl

theorem head_append_ne20 (a b : Bytes) (ha : a ≠ []) : (a ++ b).head? = a.head? := by
  cases a with
  | nil => exact absurd rfl ha
  | cons x xs => rfl

theorem getLast_escSpell20 (cinit : List TChar) (t : TChar) (c : UInt8)
    (h : (escSpell (cinit ++ [t])).getLast? = some c) : srcLast t = c := by
  have e : escSpell (cinit ++ [t]) = escSpell cinit ++ spellChar t := by simp [escSpell]
  rw [e, getLast_append_ne20 _ _ (spellChar_ne_nil20 t)] at h
  simp only [srcLast, List.getLastD_eq_getLast?, h, Option.getD_some]

theorem head_escSpell20 (t : TChar) (ts : List TChar) (c : UInt8)
    (h : (escSpell (t :: ts)).head? = some c) : srcFirst t = c := by
  have e : escSpell (t :: ts) = spellChar t ++ escSpell ts := by simp [escSpell]
  rw [e, head_append_ne20 _ _ (spellChar_ne_nil20 t)] at h
  simp only [srcFirst, List.headD_eq_head?_getD, h, Option.getD_some]

theorem mem_printable20 (cs : List TChar) (hc : ∀ t ∈ cs, charOK t = true) (c : UInt8) (h : c ∈ escSpell cs) :
    printable c = true :=
  List.all_eq_true.mp (escSpell_printable cs (fun t ht => charOK_printable t (hc t ht))) c h

end GM.Proof.CMFrag
end CMFragRender20
