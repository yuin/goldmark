/-
  GM.Proof.ConvertFWF — the parser-level part of store well-formedness for the block driver WITH the footnote block parser
  (GM.Model.ConvertF, `MF`): the steps that keep the node store tree-shaped (`GM.ConvertH.TreeWF`: every child edge is
  mirrored by the parent pointer, child lists are duplicate-free, node 0 is the parentless Document), and
  (*footnoteBlockParser).Close keeps the tree and a footnote state that only names existing nodes other than node 0
  (`IdsOK`). The driver carries both as part of its invariant `FJ` (GM.Proof.ConvertFDisc*).

  The parser-level step lemmas of GM.Proof.ConvertHWF* (`Stp`, `OJ`, `OpR`, `RmR`) are reused as they are.
-/
import GM.Proof.ConvertHWFOpen
import GM.Proof.ConvertHWFClose
import GM.Proof.ConvertHWFRun
import GM.Proof.ConvertFSim

namespace GM.ConvertF
open GM GM.Text GM.Blocks GM.Convert GM.ConvertH

/-! ### steps that keep the tree -/

structure WStep (s s' : St) : Prop where
  len : s.nodes.length ≤ s'.nodes.length
  wf : TreeWF s → TreeWF s'

theorem WStep.refl (s : St) : WStep s s := ⟨Nat.le_refl _, id⟩
theorem WStep.trans {a b c : St} (h1 : WStep a b) (h2 : WStep b c) : WStep a c :=
  ⟨Nat.le_trans h1.len h2.len, fun w => h2.wf (h1.wf w)⟩
theorem WStep.of_stepR {s s' : St} (h : StepR s s') : WStep s s' := ⟨h.len, fun w => (h.wf w).1⟩
theorem WStep.of_lr {s s' : St} (h : LR s s') : WStep s s' := ⟨h.len, h.wf⟩

theorem treeWF_nodes {s s' : St} (h : s'.nodes = s.nodes) (w : TreeWF s) : TreeWF s' :=
  ⟨fun p c hc => by
      have e : ∀ i, ndx s' i = ndx s i := fun i => by simp [ndx, h]
      rw [e] at hc; rw [e, h]; exact w.edge p c hc,
   fun p => by have e : ndx s' p = ndx s p := by simp [ndx, h]
               rw [e]; exact w.nodup p,
   by have e : ndx s' 0 = ndx s 0 := by simp [ndx, h]
      rw [e]; exact w.root,
   by rw [h]; exact w.ne,
   by have e : ndx s' 0 = ndx s 0 := by simp [ndx, h]
      rw [e]; exact w.rootKind⟩

theorem WStep.of_nodes {s s' : St} (h : s'.nodes = s.nodes) : WStep s s' := ⟨by rw [h]; exact Nat.le_refl _, treeWF_nodes h⟩

/-- an `M` program all of whose normal ends are such steps -/
structure Wk {α : Type} (m : M α) : Prop where
  h : ∀ s a s', m s = .ok (a, s') → WStep s s'

theorem Wk.of_stp {α} {m : M α} (h : Stp m) : Wk m := ⟨fun s a s' e => .of_stepR (h.h s a s' e)⟩
theorem Wk.of_lk {α} {m : M α} (h : Lk m) : Wk m := ⟨fun s a s' e => .of_lr (h.h s a s' e)⟩
theorem Wk.modPc (g : Ctx → Ctx) : Wk (modPc g) := ⟨fun s a s' e => by have := modPc_ok e; subst this; exact .of_nodes rfl⟩

/-! ### the invariant -/

/-- the footnote state names existing nodes other than node 0 -/
def IdsOK (f : FS) (s : St) : Prop :=
  (∀ l, f.list = some l → 0 < l ∧ l < s.nodes.length) ∧ (∀ p ∈ f.refs, 0 < p.1 ∧ p.1 < s.nodes.length)

def Mono (P : Nat → Prop) : Prop := ∀ a b, a ≤ b → P a → P b

def FI (P : Nat → Prop) (f : FS) (s : St) : Prop := TreeWF s ∧ IdsOK f s ∧ P s.nodes.length

theorem FI.step {P : Nat → Prop} (hP : Mono P) {f : FS} {s s' : St} (h : FI P f s) (st : WStep s s') : FI P f s' :=
  ⟨st.wf h.1, ⟨fun l hl => ⟨(h.2.1.1 l hl).1, Nat.lt_of_lt_of_le (h.2.1.1 l hl).2 st.len⟩,
    fun p hp => ⟨(h.2.1.2 p hp).1, Nat.lt_of_lt_of_le (h.2.1.2 p hp).2 st.len⟩⟩, hP _ _ st.len h.2.2⟩

/-- every normal end of `m` from a state with the invariant has the invariant, and the value satisfies `Q` there -/
structure InvF (P : Nat → Prop) {α : Type} (Q : α → Nat → Prop) (m : MF α) : Prop where
  h : ∀ f s a f' s', FI P f s → m f s = .ok ((a, f'), s') → FI P f' s' ∧ Q a s'.nodes.length

abbrev QT' {α : Type} : α → Nat → Prop := fun _ _ => True

variable {P : Nat → Prop}

theorem InvF.weaken {α} {Q Q' : α → Nat → Prop} {m : MF α} (h : InvF P Q m) (hq : ∀ a n, Q a n → Q' a n) : InvF P Q' m :=
  ⟨fun f s a f' s' hi e => ⟨(h.h f s a f' s' hi e).1, hq _ _ (h.h f s a f' s' hi e).2⟩⟩

/-- a stronger size predicate may be dropped -/
theorem InvF.strengthen {P' : Nat → Prop} {α} {Q : α → Nat → Prop} {m : MF α} (h : InvF P Q m) (hP' : Mono P')
    (h' : InvF P' QT' m) : InvF (fun n => P n ∧ P' n) Q m :=
  ⟨fun f s a f' s' hi e =>
    have r1 := h.h f s a f' s' ⟨hi.1, hi.2.1, hi.2.2.1⟩ e
    have r2 := h'.h f s a f' s' ⟨hi.1, hi.2.1, hi.2.2.2⟩ e
    ⟨⟨r1.1.1, r1.1.2.1, r1.1.2.2, r2.1.2.2⟩, r1.2⟩⟩

macro "wk_leaf" : tactic =>
  `(tactic| first
    | apply_hyp
    | with_reducible exact Wk.modPc _
    | with_reducible exact Wk.of_stp (toContinuable_stp _ _ _)
    | with_reducible exact Wk.of_stp (bpContinue_stp _ _)
    | with_reducible exact Wk.of_stp (bpClose_stp _ _)
    | with_reducible exact Wk.of_stp (bpOpen_stp _ _)
    | with_reducible exact Wk.of_lk lastOpenedBlock_lk
    | ((with_reducible apply Wk.of_lk); lk_leaf))

theorem upF_ok {α} {x : M α} {f : FS} {s : St} {a : α} {f' : FS} {s' : St} (e : (GM.ConvertF.up x) f s = .ok ((a, f'), s')) :
    x s = .ok (a, s') ∧ f = f' := ⟨(Hoare.lift_ok₂ e).2, (Hoare.lift_ok₂ e).1.symm⟩

theorem WStep.of_op {p ins : Nat} {s s' : St} (h : OpR p ins s s') (hv : ins < s.nodes.length) (h0 : ins ≠ 0) : WStep s s' :=
  ⟨Nat.le_of_eq h.len.symm, fun w => h.wf w hv h0⟩

theorem WStep.of_rm {s s' : St} (h : RmR s s') : WStep s s' := ⟨Nat.le_of_eq h.len.symm, h.wf⟩

/-- the tail of (*footnoteBlockParser).Close: `node.Parent().RemoveChild(node); list.AppendChild(list, node)` -/
def fnCloseTail (list node : Nat) : MF Unit := do
  match (← GM.ConvertF.up (getNode node)).parent with
  | none => throw .nil
  | some p => GM.ConvertF.up (removeChild p node)
  GM.ConvertF.up (appendChild list node)

theorem fnCloseTail_inv (hP : Mono P) (list node : Nat) (f2 : FS) (s2 : St) (a : Unit) (f' : FS) (s' : St) (hi2 : FI P f2 s2)
    (hlist : 0 < list ∧ list < s2.nodes.length) (hn : 0 < node ∧ node < s2.nodes.length)
    (e : fnCloseTail list node f2 s2 = .ok ((a, f'), s')) : FI P f' s' := by
  unfold fnCloseTail at e
  obtain ⟨nd, f8, s8, g5, ee⟩ := Hoare.bind_ok₂ e
  clear e
  obtain ⟨hgn, rfl⟩ := upF_ok g5
  obtain ⟨hnd, rfl⟩ := getNode_ok hgn
  dsimp only at ee
  cases hpar : nd.parent with
  | none =>
    rw [hpar] at ee
    obtain ⟨_, f6, s6, g4, e1⟩ := Hoare.bind_ok₂ ee
    cases g4
  | some p =>
    rw [hpar] at ee
    obtain ⟨_, f7, s7, e2, e⟩ := Hoare.bind_ok₂ ee
    obtain ⟨hr, rfl⟩ := upF_ok e2
    have hrm := (removeChild_rm p node _ s7 hr).1
    have hi7 := hi2.step hP (.of_rm hrm)
    have hl7 := hrm.len
    obtain ⟨hap, rfl⟩ := upF_ok e
    have hop := appendChild_op list node s7 s' hap
    exact hi7.step hP (.of_op hop (by omega) (by omega))

/-- (*footnoteBlockParser).Close on a Footnote node keeps the tree and the footnote state well-formed -/
theorem fnClose_inv (hP : Mono P) (node : Nat) (f : FS) (s : St) (a : Unit) (f' : FS) (s' : St) (hi : FI P f s)
    (hn : 0 < node ∧ node < s.nodes.length) (e : fnClose node f s = .ok ((a, f'), s')) : FI P f' s' := by
  unfold fnClose at e
  obtain ⟨f0, f1, s1, e0, ee⟩ := Hoare.bind_ok₂ e
  have hf0 : f = f0 ∧ f = f1 ∧ s = s1 := by cases e0; exact ⟨rfl, rfl, rfl⟩
  clear e e0
  obtain ⟨h0, h1, h2⟩ := hf0
  subst h0 h1 h2
  dsimp only at ee
  cases hl : f.list with
  | some l =>
    rw [hl] at ee
    obtain ⟨list, f2, s2, e1, e⟩ := Hoare.bind_ok₂ ee
    cases e1
    exact fnCloseTail_inv hP _ node _ _ a f' s' hi (hi.2.1.1 _ hl) hn e
  | none =>
    rw [hl] at ee
    obtain ⟨l, f3, s3, g1, e1⟩ := Hoare.bind_ok₂ ee
    obtain ⟨hnew, rfl⟩ := upF_ok g1
    have hnew' : Blocks.newNode { kind := Blocks.Kind.blockquote } s = .ok (l, s3) := hnew
    obtain ⟨rfl, rfl⟩ := newNode_ok hnew'
    have hst : WStep s { s with nodes := s.nodes ++ [{ kind := Blocks.Kind.blockquote }] } :=
      .of_lr ((GM.ConvertH.newNode_lk _ rfl rfl).h s _ _ hnew')
    have hi3 := hi.step hP hst
    obtain ⟨_, f4, s4, g2, e1⟩ := Hoare.bind_ok₂ e1
    have hg2 : f4 = { f with list := some s.nodes.length } ∧ s4 = { s with nodes := s.nodes ++ [{ kind := Blocks.Kind.blockquote }] } := by
      cases g2; exact ⟨rfl, rfl⟩
    obtain ⟨rfl, rfl⟩ := hg2
    have hlv : 0 < s.nodes.length ∧ s.nodes.length < (s.nodes ++ [({ kind := Blocks.Kind.blockquote } : Blocks.Node)]).length :=
      ⟨hi.1.ne, by simp⟩
    have hi4 : FI P { f with list := some s.nodes.length } { s with nodes := s.nodes ++ [{ kind := Blocks.Kind.blockquote }] } :=
      ⟨hi3.1, ⟨fun l' hl' => by simp only [Option.some.injEq] at hl'; subst hl'; exact hlv, hi3.2.1.2⟩, hi3.2.2⟩
    obtain ⟨st, f5, s5, g3, e1⟩ := Hoare.bind_ok₂ e1
    obtain ⟨hget, rfl⟩ := upF_ok g3
    have hget' : st = ({ s with nodes := s.nodes ++ [{ kind := Blocks.Kind.blockquote }] } : St) ∧
        s5 = ({ s with nodes := s.nodes ++ [{ kind := Blocks.Kind.blockquote }] } : St) := by cases hget; exact ⟨rfl, rfl⟩
    obtain ⟨rfl, rfl⟩ := hget'
    dsimp only at e1
    generalize anchorLoop f _ _ _ node = r at e1
    cases r with
    | none =>
      obtain ⟨_, f6, s6, g4, e1⟩ := Hoare.bind_ok₂ e1
      cases g4
    | some anchor =>
      dsimp only at e1
      generalize Blocks.Node.parent _ = q at e1
      cases q with
      | none =>
        obtain ⟨_, f6, s6, g4, e1⟩ := Hoare.bind_ok₂ e1
        cases g4
      | some ap =>
        obtain ⟨_, f6, s6, g4, e1⟩ := Hoare.bind_ok₂ e1
        obtain ⟨hins, rfl⟩ := upF_ok g4
        have hop := insertBefore_op ap (some anchor) s.nodes.length _ s6 hins
        have hw : WStep _ s6 := .of_op hop hlv.2 (by have := hlv.1; omega)
        have hi6 := hi4.step hP hw
        have hl6 := hw.len
        obtain ⟨list, f2, s2, e2, e⟩ := Hoare.bind_ok₂ e1
        cases e2
        refine fnCloseTail_inv hP _ node _ _ a f' s' hi6 ⟨hlv.1, by simp at hl6 ⊢; omega⟩ ⟨hn.1, by simp at hl6 ⊢; omega⟩ e

theorem lookup_mem : ∀ (l : List (Nat × Bytes)) (a : Nat), (l.lookup a).isSome = true → ∃ p ∈ l, p.1 = a
  | [], _, h => by simp [List.lookup] at h
  | (k, v) :: l, a, h => by
    by_cases hk : a = k
    · exact ⟨(k, v), List.mem_cons_self .., hk.symm⟩
    · have : (a == k) = false := by simpa using hk
      rw [List.lookup, this] at h
      obtain ⟨p, hp, e⟩ := lookup_mem l a h
      exact ⟨p, List.mem_cons_of_mem _ hp, e⟩

theorem isFn_valid {f : FS} {s : St} {node : Nat} (h : IdsOK f s) (hf : f.isFn node = true) : 0 < node ∧ node < s.nodes.length := by
  obtain ⟨p, hp, e⟩ := lookup_mem f.refs node hf
  subst e
  exact h.2 p hp

/-- node 0 is never the FootnoteList and never a Footnote -/
theorem tagIn_root {f : FS} {st : St} (h : IdsOK f st) : tagIn f .body 0 = .plain := by
  unfold tagIn
  have h1 : (f.list == some 0) = false := by
    cases hl : f.list with
    | none => rfl
    | some l =>
      have := (h.1 l hl).1
      simp only [beq_eq_false_iff_ne, ne_eq, Option.some.injEq]
      omega
  have h2 : f.isFn 0 = false := by
    cases hf : f.isFn 0 with
    | false => rfl
    | true => have := (isFn_valid h hf).1; omega
  simp [h1, h2]

end GM.ConvertF
