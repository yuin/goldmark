/-
  GM.Proof.ConvertFOnce — the FootnoteList is met at most once by the walk `treeOfF` over the final store of the block phase
  with the footnote block parser. With `blockPhaseF_wf` (node 0 stays the plain Document) this is: the domain monitor
  `GM.ConvertF.monitorFires` never fires.

  Argument: the walk with tags meets the list no more often than the walk with ids (`treeOfH`) meets the list's id, whatever the store
  (`listCount_le_count`), and in a tree-shaped store (`GM.ConvertH.TreeWF`) the walk with ids meets no id twice (`ids_nodup_root`).
-/
import GM.Proof.ConvertFDiscRun
import GM.Proof.ConvertFShape
import GM.Proof.ConvertHWFMain

namespace GM.ConvertF
open GM GM.Text GM.Blocks GM.Convert GM.ConvertH

/-! ### counting -/

theorem listCountL_mapIdx_zero (g : Nat → Nat → FTree) (hg : ∀ i c, (g i c).listCount = 0) :
    ∀ (k : Nat) (cs : List Nat), FTree.listCountL (mapIdxFrom g k cs) = 0
  | _, [] => rfl
  | k, c :: rest => by simp [mapIdxFrom, FTree.listCountL, hg k c, listCountL_mapIdx_zero g hg (k + 1) rest]

theorem tagIn_nonbody_notList (f : FS) (m : Mode) (hm : m ≠ .body) (id : Nat) : (tagIn f m id).isList = false := by
  cases m with
  | body => exact absurd rfl hm
  | noteRoot i => rcases tagIn_noteRoot f i id with h | h <;> rw [h] <;> rfl
  | note => rcases tagIn_note f id with h | h <;> rw [h] <;> rfl

/-- below the list the walk meets no list -/
theorem treeOfF_nonbody (f : FS) (nodes : List Blocks.Node) : ∀ (fuel : Nat) (m : Mode), m ≠ .body → ∀ id : Nat,
    (treeOfF f nodes fuel m id).listCount = 0
  | 0, m, hm, id => by
    simp [treeOfF, tagIn_nonbody_notList f m hm id, FTree.listCount, FTree.listCountL]
  | fuel + 1, m, hm, id => by
    simp only [treeOfF, tagIn_nonbody_notList f m hm id, Bool.false_eq_true, if_false, FTree.listCount, Nat.zero_add]
    refine listCountL_map_zero _ (fun c => treeOfF_nonbody f nodes fuel _ ?_ c) _
    cases m with
    | body => exact absurd rfl hm
    | noteRoot i => simp
    | note => simp

theorem count_idsL_map (l : Nat) (g : Nat → FTree) (h : Nat → TreeH) (hg : ∀ c, (g c).listCount ≤ (ids (h c)).count l) :
    ∀ cs : List Nat, FTree.listCountL (cs.map g) ≤ (idsL (cs.map h)).count l
  | [] => by simp [FTree.listCountL, idsL]
  | c :: rest => by
    have := count_idsL_map l g h hg rest
    have := hg c
    simp only [List.map_cons, FTree.listCountL, idsL, List.count_append]
    omega

/-- no store invariant: the walk with tags meets the list no more often than the walk with ids meets its id -/
theorem listCount_le_count (f : FS) (l : Nat) (hl : f.list = some l) (nodes : List Blocks.Node) : ∀ (fuel x : Nat),
    (treeOfF f nodes fuel .body x).listCount ≤ (ids (treeOfH nodes fuel x)).count l
  | 0, x => by
    simp only [treeOfF, treeOfH, FTree.listCount, FTree.listCountL, ids, idsL, Nat.add_zero]
    by_cases hc : ((tagIn f .body x).isList && !(nodes.getD x default).children.isEmpty) = true
    · rw [if_pos hc]; simp [FTag.isList]
    · rw [if_neg hc]
      by_cases ht : (tagIn f .body x).isList = true
      · have := tagIn_list f .body x ((isList_iff _).1 ht)
        rw [hl] at this; cases this
        simp [ht]
      · simp [ht]
  | fuel + 1, x => by
    by_cases ht : (tagIn f .body x).isList = true
    · have := tagIn_list f .body x ((isList_iff _).1 ht)
      rw [hl] at this; cases this
      simp only [treeOfF, ht, if_true, FTree.listCount, treeOfH, ids]
      rw [listCountL_mapIdx_zero _ (fun i c => treeOfF_nonbody f nodes fuel (.noteRoot i) (by simp) c)]
      simp [FTag.isList]
    · have ht' : (tagIn f .body x).isList = false := by simpa using ht
      simp only [treeOfF, ht', Bool.false_eq_true, if_false, FTree.listCount, Nat.zero_add, treeOfH, ids]
      have := count_idsL_map l (treeOfF f nodes fuel .body) (treeOfH nodes fuel) (listCount_le_count f l hl nodes fuel)
        (nodes.getD x default).children
      rw [List.count_cons]
      omega

theorem treeOfF_count_le_one (f : FS) (s : St) (w : TreeWF s) (fuel : Nat) :
    (treeOfF f s.nodes fuel .body 0).listCount ≤ 1 := by
  cases hl : f.list with
  | none => rw [treeOfF_nolist f hl]; omega
  | some l =>
    exact Nat.le_trans (listCount_le_count f l hl s.nodes fuel 0) (List.nodup_iff_count.1 (ids_nodup_root s w fuel) l)

/-- **THE MONITOR `monitorFires` NEVER FIRES**: for every source, guard setting and registration flag, in the final
    state of the block phase the walk meets the FootnoteList at most once and node 0 is the plain Document -/
theorem monitor_never_fires (on guard : Bool) (src : Bytes) (f : FS) (st : St)
    (e : blockPhaseF on guard src = .ok (f, st)) :
    monitorFires f st (treeOfF f st.nodes st.nodes.length .body 0) = false := by
  obtain ⟨w, i⟩ := blockPhaseF_wf on guard src f st e
  have hroot : (f.list.isSome && !(tagIn f .body 0 == .plain && (st.nodes.getD 0 default).kind == .document)) = false := by
    have hk : (st.nodes.getD 0 default).kind = .document := w.rootKind
    rw [tagIn_root i, hk]
    simp
  unfold monitorFires
  rw [hroot, Bool.or_false]
  have hle := treeOfF_count_le_one f st w st.nodes.length
  simp only [decide_eq_false_iff_not]
  omega

end GM.ConvertF
