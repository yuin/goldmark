/-
  GM.Proof.BlocksDriverKeeps — the driver of the block phase keeps a unary invariant, and two drivers that differ in the
  paragraph transformers answer the same: ONE walk over the driver functions `closeLoopC` … `parseBlocksC` of
  GM.Proof.BlocksDriverC, generic in the `Close` function (so for `runT`, `runV`, and `run = runT []`).

  What the driver itself does to the state is little: it moves the reader, writes the parse context, sets `blankPrev` on the
  node an `Open` answered, appends that node to its parent, pushes and pops the open-block stack. Everything else is done by
  the calls it makes (`Open`, `Continue`, `Close`, the paragraph transformers). But the arguments of those calls are values
  read EARLIER — the block `pc.LastOpenedBlock()` returned, the stack `closeBlocks` copied before its loop, the node `Open`
  answered before `closeBlocks` ran — so what an invariant `I` knows of them has to survive the steps in between. That is
  the only idea of the rule: the walk is done for `fun s => I s ∧ A s` with a SIDE FACT `A` of a class `S` that every step
  keeps, and what is known of a value is added to `A` where the value is read:
    `B b`        of a block `b` on the open-block stack (`stack`); asked for by `Continue`, `Close`, the transformers;
    `P p`        of a node `p` below which blocks are opened: given for the root; answered by a container parser's `Open`;
                 and (`hcon`, `hfall`, `hin`) asked of a block of the stack that is a container parser's or not the last
                 (only a container parser answers `HasChildren`: GM.Proof.BlocksLeaf);
    `Att bp c p` of the node `c` that `bp.Open` answered below `p`; asked for by the two writes that attach `c`.
  An invariant that needs none of this takes `B = P = Att = True`. A two-state reading (every step keeps `I` and is an
  `R`-step of a preorder `R` along which `B`, `P`, `Att` persist) is the case `S A := ∀ s s', R s s' → A s → A s'`
  (`DriverOps.ofRel`); "`R s0 ·` for every `s0`" then gives the two-state conclusion.
  The judgement is `GM.Hoare.Inv Top`: both `Keeps` (GM.Proof.QuoteSimFoot, GM.Proof.E2EKeeps) are it (`keeps_iff`).

  The walk itself is done for TWO transformer lists (`parseBlocksC_rel`, judgement `GM.Hoare.Tri₂`: the left run answers what the
  right one answers, or errs; the right run keeps `I ∧ A`), which need be related only where the driver calls them
  (`DriverRel`); the unary rule is the diagonal (`DriverOps.diag`, `Tri₂.right`). GM.Proof.E2ERel is the relational instance.
-/
import GM.Proof.Hoare
import GM.Proof.BlocksDriverC
import GM.Proof.BlocksRunEq
import GM.Proof.BlocksLeaf

namespace GM.Blocks
open GM GM.Text GM.Hoare

section calculus
variable {J : St → Prop} {α β : Type}

theorem inv_read {m : M α} {a : St → α} (hm : ∀ s, m s = .ok (a s, s)) : Inv Top J m := Tri.det hm fun _ h => h

theorem inv_liftE (e : Except Panic α) : Inv Top J (liftE e) := Tri.lift e fun _ h => Out.top_iff.2 fun _ _ => h

/-- the rest may be any triple at the same invariant -/
theorem inv_seq {Q : β → St → Prop} {m : M α} {f : α → M β} (hm : Inv Top J m) (hf : ∀ a, Tri Top J (f a) Q) :
    Tri Top J (m >>= f) Q := Tri.bind hm hf

/-- a value computed without the state carries its equation -/
theorem liftE_seq {Q : β → St → Prop} (e : Except Panic α) (k : α → M β) (h : ∀ a, e = .ok a → Tri Top J (k a) Q) :
    Tri Top J (liftE e >>= k) Q :=
  Tri.bind (Q := Q) (R := fun a s => e = .ok a ∧ J s) (Tri.lift e fun _ hs => Out.top_iff.2 fun _ ha => ⟨ha, hs⟩)
    fun a => Tri.frame (h a)

theorem pure_seq {Q : β → St → Prop} (a : α) (k : α → M β) (h : Tri Top J (k a) Q) : Tri Top J (pure a >>= k) Q := h

/-- one step of the walk: a rule of `GM.Hoare`, a step that only reads the state, or a hypothesis. Every alternative is an
    `apply` (a failing `exact` ends in a search for a coercion); `intro` under `with_reducible` does not unfold `Tri` -/
macro "inv_walk_step" : tactic =>
  `(tactic| first
    | with_reducible intro _
    | with_reducible apply liftE_seq
    | with_reducible apply pure_seq
    | with_reducible apply inv_seq
    | with_reducible apply Inv.pure
    | with_reducible apply Tri.ite
    | (with_reducible apply Tri.throw; exact trivial)
    | with_reducible apply inv_read (getNode_run _)
    | with_reducible apply inv_read getPc_run
    | with_reducible apply inv_read source_run
    | with_reducible apply inv_read position_run
    | with_reducible apply inv_read get_run
    | with_reducible apply inv_read lastOpenedBlock_run
    | with_reducible apply inv_liftE
    | apply_hyp
    | split)

macro "inv_walk" : tactic => `(tactic| repeat' inv_walk_step)

/-- a common first step, with what it establishes -/
theorem Tri₂.seq {R : α → St → Prop} {Q : β → St → Prop} {m : M α} {f1 f2 : α → M β} (hm : Tri Top J m R)
    (hf : ∀ a, Tri₂ (R a) (f1 a) (f2 a) Q) : Tri₂ J (m >>= f1) (m >>= f2) Q := Tri₂.bind (Tri₂.refl hm) hf

theorem Tri₂.iseq {Q : β → St → Prop} {m : M α} {f1 f2 : α → M β} (hm : Inv Top J m) (hf : ∀ a, Tri₂ J (f1 a) (f2 a) Q) :
    Tri₂ J (m >>= f1) (m >>= f2) Q := Tri₂.seq hm hf

theorem Tri₂.ibind {Q : β → St → Prop} {m1 m2 : M α} {f1 f2 : α → M β} (hm : Tri₂ J m1 m2 fun _ => J)
    (hf : ∀ a, Tri₂ J (f1 a) (f2 a) Q) : Tri₂ J (m1 >>= f1) (m2 >>= f2) Q := Tri₂.bind hm hf

theorem Tri₂.liftE_seq {Q : β → St → Prop} (e : Except Panic α) (k1 k2 : α → M β)
    (h : ∀ a, e = .ok a → Tri₂ J (k1 a) (k2 a) Q) : Tri₂ J (liftE e >>= k1) (liftE e >>= k2) Q :=
  Tri₂.seq (R := fun a s => e = .ok a ∧ J s) (Tri.lift e fun _ hs => Out.top_iff.2 fun _ ha => ⟨ha, hs⟩) fun a => Tri₂.frame (h a)

theorem Tri₂.pure_seq {Q : β → St → Prop} (a : α) (k1 k2 : α → M β) (h : Tri₂ J (k1 a) (k2 a) Q) :
    Tri₂ J (pure a >>= k1) (pure a >>= k2) Q := h

/-- one step of the walk over two `do` blocks of the same text that differ in calls for which a `Tri₂` hypothesis is at
    hand: a common step is walked as in `inv_walk` (`Tri₂.iseq`), a differing one is a hypothesis (`Tri₂.ibind`) -/
macro "rel_walk_step" : tactic =>
  `(tactic| first
    | with_reducible intro _
    | apply_hyp
    | with_reducible apply Tri₂.liftE_seq
    | with_reducible apply Tri₂.pure_seq
    | with_reducible apply Tri₂.iseq
    | with_reducible apply Tri₂.ibind
    | with_reducible apply Tri₂.ite
    | with_reducible exact Tri₂.refl (Inv.pure _)
    | with_reducible exact Tri₂.refl (Tri.throw _ trivial)
    | inv_walk_step)

macro "rel_walk" : tactic => `(tactic| repeat' rel_walk_step)

end calculus

/-- what the walk over the driver asks of an invariant `I`, of the class `S` of side facts, and of what is known of a block of
    the stack (`B`), of a parent (`P`), of a node that is attached (`Att`) -/
structure DriverOps (I : St → Prop) (S : (St → Prop) → Prop) (B : Block → St → Prop) (P : Nat → St → Prop)
    (Att : BP → Nat → Nat → St → Prop) (cls : BP → Nat → M Unit) (tp : Nat → M Bool) : Prop where
  sAnd : ∀ {A A' : St → Prop}, S A → S A' → S (fun s => A s ∧ A' s)
  sImp : ∀ (c : Prop) {A : St → Prop}, S A → S (fun s => c → A s)
  sAll : ∀ {ι : Type} {A : ι → St → Prop}, (∀ i, S (A i)) → S (fun s => ∀ i, A i s)
  sB : ∀ b, S (B b)
  sP : ∀ p, S (P p)
  sAtt : ∀ bp c p, S (Att bp c p)
  stack : ∀ s, I s → ∀ b ∈ s.pc.opened, B b s
  peekLine : ∀ {A}, S A → Inv Top (fun s => I s ∧ A s) peekLine
  lineOffset : ∀ {A}, S A → Inv Top (fun s => I s ∧ A s) lineOffset
  advanceLine : ∀ {A}, S A → Inv Top (fun s => I s ∧ A s) advanceLine
  skipBlank : ∀ {A}, S A → Inv Top (fun s => I s ∧ A s) skipBlankLinesR
  pcw : ∀ {A}, S A → ∀ f : Ctx → Ctx, (∀ pc, (f pc).opened = pc.opened) → Inv Top (fun s => I s ∧ A s) (modPc f)
  opened : ∀ {A}, S A → ∀ g : Ctx → List Block, (∀ s, I s ∧ A s → ∀ b ∈ g s.pc, B b s) →
    Inv Top (fun s => I s ∧ A s) (modPc fun pc => { pc with opened := g pc })
  blank : ∀ {A}, S A → ∀ bp c p (bl : Bool), (∀ s, I s ∧ A s → B ⟨c, bp⟩ s ∧ Att bp c p s) →
    Inv Top (fun s => I s ∧ A s) (modNode c fun n => { n with blankPrev := bl })
  append : ∀ {A}, S A → ∀ bp c p, (∀ s, I s ∧ A s → B ⟨c, bp⟩ s ∧ Att bp c p s) →
    Inv Top (fun s => I s ∧ A s) (appendChild p c)
  opn : ∀ {A}, S A → ∀ bp p, (∀ s, I s ∧ A s → P p s) →
    Tri Top (fun s => I s ∧ A s) (bpOpen bp p)
      (fun a s => I s ∧ (A s ∧ ∀ id, a.1 = some id →
        B ⟨id, bp⟩ s ∧ Att bp id p s ∧ (bp.isContainer = true → P id s)))
  cont : ∀ {A}, S A → ∀ b : Block, (∀ s, I s ∧ A s → B b s) → Inv Top (fun s => I s ∧ A s) (bpContinue b.bp b.node)
  close : ∀ {A}, S A → ∀ b : Block, (∀ s, I s ∧ A s → B b s) → Inv Top (fun s => I s ∧ A s) (cls b.bp b.node)
  tp : ∀ {A}, S A → ∀ b : Block, (∀ s, I s ∧ A s → B b s) → Inv Top (fun s => I s ∧ A s) (tp b.node)

namespace DriverOps
variable {I : St → Prop} {S : (St → Prop) → Prop} {B : Block → St → Prop} {P : Nat → St → Prop}
  {Att : BP → Nat → Nat → St → Prop} {cls : BP → Nat → M Unit} {pts : List PT} {A : St → Prop} {α β : Type}

section facts
variable {tp : Nat → M Bool} (h : DriverOps I S B P Att cls tp)
include h

theorem sList (l : List Block) : S (fun s => ∀ b ∈ l, B b s) := h.sAll fun b => h.sImp _ (h.sB b)

theorem sLast (lb : Option Block) : S (fun s => ∀ b, lb = some b → B b s) := h.sAll fun b => h.sImp _ (h.sB b)

theorem sOpen (bp : BP) (p : Nat) (a : Option Nat × PState) :
    S (fun s => ∀ id, a.1 = some id → B ⟨id, bp⟩ s ∧ Att bp id p s ∧ (bp.isContainer = true → P id s)) :=
  h.sAll fun id => h.sImp _ (h.sAnd (h.sB _) (h.sAnd (h.sAtt bp id p) (h.sImp _ (h.sP id))))

theorem sRet (x : TryOutcomeT × OpenResult × Option Block) :
    S (fun s => (∀ p, x.1 = .retry p → P p s) ∧ ∀ b, x.2.2 = some b → B b s) :=
  h.sAnd (h.sAll fun p => h.sImp _ (h.sP p)) (h.sLast x.2.2)

theorem getPc_stack : Tri Top (fun s => I s ∧ A s) getPc (fun pc s => I s ∧ (A s ∧ ∀ b ∈ pc.opened, B b s)) :=
  Tri.det getPc_run fun s hs => ⟨hs.1, hs.2, h.stack s hs.1⟩

theorem lastOpened_stack :
    Tri Top (fun s => I s ∧ A s) lastOpenedBlock (fun lb s => I s ∧ (A s ∧ ∀ b, lb = some b → B b s)) :=
  Tri.det lastOpenedBlock_run fun s hs => ⟨hs.1, hs.2, fun b hb => h.stack s hs.1 b (List.mem_of_getLast? hb)⟩

/-- only a container parser's `Open` answers `HasChildren` (GM.Proof.BlocksLeaf) -/
theorem opn_kids (hA : S A) (bp : BP) (p : Nat) (hp : ∀ s, I s ∧ A s → P p s) :
    Tri Top (fun s => I s ∧ A s) (bpOpen bp p) (fun a s => (a.2.hasChildren = true → bp.isContainer = true) ∧
      (I s ∧ (A s ∧ ∀ id, a.1 = some id → B ⟨id, bp⟩ s ∧ Att bp id p s ∧ (bp.isContainer = true → P id s)))) :=
  Tri.top_iff.2 fun s a s' hs e =>
    ⟨hasChildren_only_containers bp p s s' a e, Tri.top_iff.1 (h.opn hA bp p hp) s a s' hs e⟩

/-- likewise `Continue` -/
theorem cont_kids (hA : S A) (b : Block) (hb : ∀ s, I s ∧ A s → B b s) :
    Tri Top (fun s => I s ∧ A s) (bpContinue b.bp b.node)
      (fun st s => (st.hasChildren = true → b.bp.isContainer = true) ∧ (I s ∧ A s)) :=
  Tri.top_iff.2 fun s st s' hs e =>
    ⟨continue_only_containers b.bp b.node s s' st e, Tri.top_iff.1 (h.cont hA b hb) s st s' hs e⟩

theorem toContinuable_keeps (hA : S A) (cont : Bool) (result : OpenResult) (lb : Option Block)
    (hlb : ∀ s, I s ∧ A s → ∀ b, lb = some b → B b s) : Inv Top (fun s => I s ∧ A s) (toContinuable cont result lb) := by
  unfold toContinuable
  cases lb with
  | none => dsimp only; inv_walk
  | some b =>
    have := h.cont hA b fun s hs => hlb s hs b rfl
    dsimp only; inv_walk

end facts

/-- what the relational rule asks beyond `DriverOps`, of two lists of paragraph transformers: they are related where the DRIVER
    calls them — on the node of a block of the stack, under a call-site fact `T` about the node store. The driver's own guard
    gives `T` at the first call site (parser.go:904-907: an attached Paragraph). At the second (parser.go:982-991,
    RequireParagraph) the driver tests the kind only; there `T` is what `Close` leaves of a FRESH fact `Rq` about the block —
    not a side fact of the class `S`: it holds where `Open`, which read the block as the top of the stack, has just answered -/
structure _root_.GM.Blocks.DriverRel (I : St → Prop) (S : (St → Prop) → Prop) (B : Block → St → Prop) (cls : BP → Nat → M Unit)
    (pts1 pts2 : List PT) (T : Nat → St → Prop) (Rq : Block → St → Prop) : Prop where
  tp : ∀ {A}, S A → ∀ b : Block, (∀ s, I s ∧ A s → B b s) →
    Tri₂ (fun s => (I s ∧ A s) ∧ T b.node s) (transformParagraph pts1 b.node) (transformParagraph pts2 b.node)
      (fun _ s => I s ∧ A s)
  guard : ∀ n s, (s.nodes.getD n default).kind = .paragraph → (s.nodes.getD n default).parent.isSome = true → T n s
  pc : ∀ n (s : St) (pc' : Ctx), T n s → T n { s with pc := pc' }
  close : ∀ {A}, S A → ∀ b : Block, (∀ s, I s ∧ A s → B b s) →
    Tri Top (fun s => (I s ∧ A s) ∧ Rq b s) (cls b.bp b.node)
      (fun _ s => (I s ∧ A s) ∧ ((s.nodes.getD b.node default).kind = .paragraph → T b.node s))
  opn : ∀ {A}, S A → ∀ (bp : BP) (p : Nat) (lb : Option Block),
    Tri Top (fun s => (I s ∧ A s) ∧ lb = s.pc.opened.getLast?) (bpOpen bp p)
      (fun a s => a.2.requirePara = true → ∀ b, lb = some b → Rq b s)

/-- one list: nothing is asked -/
theorem diag (h : DriverOps I S B P Att cls (transformParagraph pts)) :
    DriverRel I S B cls pts pts (fun _ _ => True) (fun _ _ => True) where
  tp := fun hA b hb => Tri₂.refl ((h.tp hA b hb).conseq (fun _ he => he) (fun _ hs => hs.1) fun _ _ hs => hs)
  guard := fun _ _ _ _ => trivial
  pc := fun _ _ _ _ => trivial
  close := fun hA b hb => (h.close hA b hb).conseq (fun _ he => he) (fun _ hs => hs.1) fun _ _ hs => ⟨hs, fun _ => trivial⟩
  opn := fun _ _ _ _ => Tri.trivial fun _ _ _ _ _ => trivial

section walk
variable {pts1 pts2 : List PT} {T : Nat → St → Prop} {Rq : Block → St → Prop}
  (h : DriverOps I S B P Att cls (transformParagraph pts2)) (r : DriverRel I S B cls pts1 pts2 T Rq)
include h r

theorem closeLoopC_rel (hA : S A) (blocks : List Block) (hb : ∀ s, I s ∧ A s → ∀ b ∈ blocks, B b s) (to : Int) (k : Nat) :
    Tri₂ (fun s => I s ∧ A s) (closeLoopC cls pts1 blocks to k) (closeLoopC cls pts2 blocks to k) (fun _ s => I s ∧ A s) := by
  induction k with
  | zero => unfold closeLoopC; exact Tri₂.refl (Inv.pure _)
  | succ k ih =>
    unfold closeLoopC
    refine Tri₂.liftE_seq _ _ _ fun b hbk => ?_
    have hB := fun s hs => hb s hs b (mem_of_blockAt hbk)
    -- the node read here is the one the guard tests
    refine Tri₂.seq (R := fun n s => (I s ∧ A s) ∧ n = s.nodes.getD b.node default)
      (Tri.det (getNode_run _) fun _ hs => ⟨hs, rfl⟩) fun n => ?_
    have rest : Tri₂ (fun s => I s ∧ A s)
        (getNode b.node >>= fun n5 => if n5.parent.isSome = true then cls b.bp b.node >>= fun _ => closeLoopC cls pts1 blocks to k
          else closeLoopC cls pts1 blocks to k)
        (getNode b.node >>= fun n5 => if n5.parent.isSome = true then cls b.bp b.node >>= fun _ => closeLoopC cls pts2 blocks to k
          else closeLoopC cls pts2 blocks to k) (fun _ s => I s ∧ A s) :=
      Tri₂.iseq (inv_read (getNode_run _)) fun _ => Tri₂.ite (fun _ => Tri₂.iseq (h.close hA b hB) fun _ => ih) fun _ => ih
    dsimp only
    refine Tri₂.ite (fun hc => ?_) fun _ => rest.conseq (fun _ hs => hs.1) fun _ _ hs => hs
    simp only [Bool.and_eq_true, beq_iff_eq] at hc
    exact Tri₂.bind ((r.tp hA b hB).conseq (fun s hs => ⟨hs.1, r.guard _ s (hs.2 ▸ hc.1) (hs.2 ▸ hc.2)⟩) fun _ _ hs => hs)
      fun _ => rest

theorem closeBlocksC_rel (hA : S A) (frm to : Int) :
    Tri₂ (fun s => I s ∧ A s) (closeBlocksC cls pts1 frm to) (closeBlocksC cls pts2 frm to) (fun _ s => I s ∧ A s) := by
  unfold closeBlocksC
  refine Tri₂.seq h.getPc_stack fun pc => ?_
  have hA' := h.sAnd hA (h.sList pc.opened)
  dsimp only
  refine Tri₂.conseq (P := fun s => I s ∧ (A s ∧ ∀ b ∈ pc.opened, B b s)) (Q := fun _ s => I s ∧ (A s ∧ ∀ b ∈ pc.opened, B b s))
    (Tri₂.bind (closeLoopC_rel h r hA' pc.opened (fun _ hs => hs.2.2) to _) fun _ => Tri₂.refl ?_)
    (fun _ hs => hs) fun _ _ hs => ⟨hs.1, hs.2.1⟩
  have := fun l (hl : ∀ x ∈ l, x ∈ pc.opened) => h.opened hA' (fun _ => l) fun s hs b hb => hs.2.2 b (hl b hb)
  inv_walk
  · exact mem_of_slice' (by assumption) _ ‹_›
  · rcases List.mem_append.1 ‹_› with h1 | h1 <;> exact mem_of_slice' (by assumption) _ h1

theorem requireParaC_rel (hA : S A) (parent : Nat) (last : Option Nat) (lastBlock : Option Block)
    (hlb : ∀ s, I s ∧ A s → ∀ b, lastBlock = some b → B b s) :
    Tri₂ (fun s => (I s ∧ A s) ∧ ∀ b, lastBlock = some b → Rq b s) (requireParaC cls pts1 parent last lastBlock)
      (requireParaC cls pts2 parent last lastBlock) (fun _ s => I s ∧ A s) := by
  unfold requireParaC
  refine Tri₂.iseq (inv_read (getNode_run _)) fun pn => Tri₂.ite (fun _ => ?_) fun _ => Tri₂.refl (Tri.pure _ fun _ hs => hs.1)
  cases lastBlock with
  | none => exact Tri₂.refl (Tri.throw _ trivial)
  | some lb =>
    dsimp only
    have hB := fun s hs => hlb s hs lb rfl
    -- `T` of the node, should it still be a Paragraph: a fact about the node store, so it survives the pop
    let T' : St → Prop := fun s => (s.nodes.getD lb.node default).kind = .paragraph → T lb.node s
    refine Tri₂.seq (R := fun _ s => (I s ∧ A s) ∧ T' s)
      ((r.close hA lb hB).conseq (fun _ he => he) (fun s hs => ⟨hs.1, hs.2 lb rfl⟩) fun _ _ hs => hs) fun _ => ?_
    refine Tri₂.seq (R := fun pc s => (I s ∧ (A s ∧ ∀ b ∈ pc.opened, B b s)) ∧ T' s)
      (Tri.det getPc_run fun s hs => ⟨⟨hs.1.1, hs.1.2, h.stack s hs.1.1⟩, hs.2⟩) fun pc => ?_
    have hA' := h.sAnd hA (h.sList pc.opened)
    refine Tri₂.ite (fun _ => Tri₂.refl (Tri.throw _ trivial)) fun _ => ?_
    refine Tri₂.iseq (Tri.partial_and
      (h.opened hA' (fun _ => pc.opened.dropLast) fun s hs b hb => hs.2.2 b (List.dropLast_subset _ hb))
      (Tri.det (modPc_run _) fun s (hs : T' s) hk => r.pc _ s _ (hs hk))) fun _ => ?_
    refine Tri₂.seq (R := fun n s => ((I s ∧ (A s ∧ ∀ b ∈ pc.opened, B b s)) ∧ T' s) ∧ n = s.nodes.getD lb.node default)
      (Tri.det (getNode_run _) fun _ hs => ⟨hs, rfl⟩) fun n => ?_
    refine Tri₂.ite (fun _ => Tri₂.refl (Tri.throw _ trivial)) fun hk => ?_
    have hk' : n.kind = .paragraph := by simpa using hk
    exact (r.tp hA' lb fun s hs => hB s ⟨hs.1, hs.2.1⟩).conseq (fun s hs => ⟨hs.1.1, hs.1.2 (hs.2 ▸ hk')⟩)
      fun _ _ hs => ⟨hs.1, hs.2.1⟩

/-- parser.go:960-1014. The answer carries what the caller needs of it: `P` of the parent a retry is asked for (the node a container
    parser has just opened), `B` of the block read last -/
theorem tryParsersC_rel (parent : Nat) (blankLine continuable : Bool) (w : Int) :
    ∀ (bps : List BP) (A : St → Prop), S A → (∀ s, I s ∧ A s → P parent s) →
      ∀ (result : OpenResult) (lastBlock : Option Block), (∀ s, I s ∧ A s → ∀ b, lastBlock = some b → B b s) →
      Tri₂ (fun s => I s ∧ A s) (tryParsersC cls pts1 parent blankLine continuable w bps result lastBlock)
        (tryParsersC cls pts2 parent blankLine continuable w bps result lastBlock)
        (fun x s => I s ∧ (A s ∧ ((∀ p, x.1 = .retry p → P p s) ∧ ∀ b, x.2.2 = some b → B b s)))
  | [], A, _, _, result, lastBlock, hlb => by
    unfold tryParsersC
    exact Tri₂.refl (Tri.pure _ fun s hs => ⟨hs.1, hs.2, fun _ e => TryOutcomeT.noConfusion e, hlb s hs⟩)
  | bp :: bps, A, hA, hpar, result, lastBlock, hlb => by
    have ih := tryParsersC_rel parent blankLine continuable w bps
    unfold tryParsersC
    refine Tri₂.ite (fun _ => ih A hA hpar result lastBlock hlb) fun _ =>
      Tri₂.ite (fun _ => ih A hA hpar result lastBlock hlb) fun _ => ?_
    -- the block read here is a block of the stack (a side fact) and IS its top (fresh)
    refine Tri₂.seq (R := fun lb s => (I s ∧ (A s ∧ ∀ b, lb = some b → B b s)) ∧ lb = s.pc.opened.getLast?)
      (Tri.det lastOpenedBlock_run fun s hs =>
        ⟨⟨hs.1, hs.2, fun b hb => h.stack s hs.1 b (List.mem_of_getLast? hb)⟩, rfl⟩) fun lb => ?_
    have hA1 := h.sAnd hA (h.sLast lb)
    have hop := Tri.partial_and (h.opn_kids hA1 bp parent fun s hs => hpar s ⟨hs.1, hs.2.1⟩) (r.opn hA1 bp parent lb)
    refine Tri₂.seq (R := fun a s => (a.2.hasChildren = true → bp.isContainer = true) ∧
        ((I s ∧ ((A s ∧ ∀ b, lb = some b → B b s) ∧ ∀ id, a.1 = some id →
          B ⟨id, bp⟩ s ∧ Att bp id parent s ∧ (bp.isContainer = true → P id s))) ∧
          (a.2.requirePara = true → ∀ b, lb = some b → Rq b s)))
      (hop.conseq (fun _ he => he) (fun s hs => ⟨hs.1, hs⟩) fun _ _ hs => ⟨hs.1.1, hs.1.2, hs.2⟩) fun a => Tri₂.frame fun hk => ?_
    obtain ⟨node, state⟩ := a
    have hA2 := h.sAnd hA1 (h.sOpen bp parent (node, state))
    dsimp only
    cases node with
    | none =>
      exact (ih _ hA2 (fun s hs => hpar s ⟨hs.1, hs.2.1.1⟩) result lb fun s hs => hs.2.1.2).conseq (fun _ hs => hs.1)
        fun _ _ hs => ⟨hs.1, hs.2.1.1.1, hs.2.2⟩
    | some id =>
      have hreq := requireParaC_rel h r hA2 parent (lb.map (·.node)) lb fun s hs => hs.2.1.2
      have := closeBlocksC_rel h r hA2
      have := h.blank hA2 bp id parent blankLine fun s hs => ⟨(hs.2.2 id rfl).1, (hs.2.2 id rfl).2.1⟩
      have := h.append hA2 bp id parent fun s hs => ⟨(hs.2.2 id rfl).1, (hs.2.2 id rfl).2.1⟩
      have := h.opened hA2 (fun pc => pc.opened ++ [{ node := id, bp := bp }]) fun s hs x hx => by
        rcases List.mem_append.1 hx with h1 | h1
        · exact h.stack s hs.1 x h1
        · rw [List.mem_singleton.1 h1]; exact (hs.2.2 id rfl).1
      dsimp only
      refine Tri₂.ite (fun hr => Tri₂.bind (Tri₂.conseq hreq (fun s hs => ⟨hs.1, hs.2 hr⟩) fun _ _ hs => hs) fun transformed => ?_)
        fun _ => Tri₂.conseq ?_ (fun s hs => hs.1) (fun _ _ hs => hs)
      · cases lb <;> dsimp only [Option.map] <;> rel_walk
        all_goals first
          | exact Tri₂.refl (Tri.pure _ fun s hs => ⟨hs.1, hs.2.1.1, fun _ e => TryOutcomeT.noConfusion e, hs.2.1.2⟩)
          | exact Tri₂.refl (Tri.pure _ fun s hs =>
              ⟨hs.1, hs.2.1.1, fun _ e => TryOutcomeT.retry.inj e ▸ (hs.2.2 id rfl).2.2 (hk ‹_›), hs.2.1.2⟩)
      · simp only [pure_bind]
        cases lb <;> dsimp only [Option.map] <;> rel_walk
        all_goals first
          | exact Tri₂.refl (Tri.pure _ fun s hs => ⟨hs.1, hs.2.1.1, fun _ e => TryOutcomeT.noConfusion e, hs.2.1.2⟩)
          | exact Tri₂.refl (Tri.pure _ fun s hs =>
              ⟨hs.1, hs.2.1.1, fun _ e => TryOutcomeT.retry.inj e ▸ (hs.2.2 id rfl).2.2 (hk ‹_›), hs.2.1.2⟩)

theorem retryStepC_rel (hA : S A) (blank tdone cont : Bool) (parent : Nat) (hpar : ∀ s, I s ∧ A s → P parent s) (w : Int)
    (bps : List BP) (result : OpenResult) (lb : Option Block) (hlb : ∀ s, I s ∧ A s → ∀ b, lb = some b → B b s)
    (again1 again2 : Bool → Bool → Nat → OpenResult → Option Block → M OpenResult)
    (hk : ∀ (A' : St → Prop), S A' → ∀ td c p r l, (∀ s, I s ∧ A' s → P p s) → (∀ s, I s ∧ A' s → ∀ b, l = some b → B b s) →
      Tri₂ (fun s => I s ∧ A' s) (again1 td c p r l) (again2 td c p r l) (fun _ s => I s ∧ A' s)) :
    Tri₂ (fun s => I s ∧ A s) (retryStepC cls pts1 blank tdone cont parent w bps result lb again1)
      (retryStepC cls pts2 blank tdone cont parent w bps result lb again2) (fun _ s => I s ∧ A s) := by
  unfold retryStepC
  refine Tri₂.iseq (inv_read get_run) fun _ => Tri₂.conseq (Q := fun _ s => I s ∧ A s)
    (Tri₂.bind (tryParsersC_rel h r parent blank cont w bps A hA hpar result lb hlb) fun x => ?_) (fun _ hs => hs) fun _ _ hs => hs
  obtain ⟨outcome, result', lb'⟩ := x
  have hA' := h.sAnd hA (h.sRet (outcome, result', lb'))
  have := h.toContinuable_keeps hA' cont result' lb' fun s hs => hs.2.2.2
  have := fun td c => hk _ hA' td c parent result' lb' (fun s hs => hpar s ⟨hs.1, hs.2.1⟩) fun s hs => hs.2.2.2
  refine Tri₂.conseq (P := fun s => I s ∧ (A s ∧ (∀ p, outcome = .retry p → P p s) ∧ ∀ b, lb' = some b → B b s))
    (Q := fun _ s => I s ∧ (A s ∧ (∀ p, outcome = .retry p → P p s) ∧ ∀ b, lb' = some b → B b s)) ?_ (fun _ hs => hs)
    fun _ _ hs => ⟨hs.1, hs.2.1⟩
  cases outcome with
  | retry p' =>
    have := hk _ hA' tdone cont p' result' lb' (fun s hs => hs.2.2.1 p' rfl) fun s hs => hs.2.2.2
    clear hk; dsimp only; rel_walk
  | retryTransformed => clear hk; dsimp only; rel_walk
  | done => clear hk; dsimp only; exact Tri₂.refl (by assumption)

theorem openBlocksLoopC_rel (blank : Bool) :
    ∀ (fuel : Nat) (A : St → Prop), S A → ∀ (tdone cont : Bool) (parent : Nat) (result : OpenResult) (lb : Option Block),
      (∀ s, I s ∧ A s → P parent s) → (∀ s, I s ∧ A s → ∀ b, lb = some b → B b s) →
      Tri₂ (fun s => I s ∧ A s) (openBlocksLoopC cls pts1 blank fuel tdone cont parent result lb)
        (openBlocksLoopC cls pts2 blank fuel tdone cont parent result lb) (fun _ s => I s ∧ A s)
  | 0, _, _, _, _, _, _, _, _, _ => by unfold openBlocksLoopC; exact Tri₂.refl (Tri.throw _ trivial)
  | fuel + 1, A, hA, tdone, cont, parent, result, lb, hpar, hlb => by
    have := h.peekLine hA
    have := h.lineOffset hA
    have := h.pcw hA
    have := h.toContinuable_keeps hA cont result lb hlb
    have := fun w bps => retryStepC_rel h r hA blank tdone cont parent hpar w bps result lb hlb
      (openBlocksLoopC cls pts1 blank fuel) (openBlocksLoopC cls pts2 blank fuel) (openBlocksLoopC_rel blank fuel)
    unfold openBlocksLoopC; rel_walk
    all_goals first | rfl | exact Tri₂.refl (by assumption)

theorem openBlocksC_rel (hA : S A) (parent : Nat) (hpar : ∀ s, I s ∧ A s → P parent s) (blank : Bool) :
    Tri₂ (fun s => I s ∧ A s) (openBlocksC cls pts1 parent blank) (openBlocksC cls pts2 parent blank) (fun _ s => I s ∧ A s) := by
  unfold openBlocksC
  refine Tri₂.conseq (Q := fun _ s => I s ∧ A s) (Tri₂.seq h.lastOpened_stack fun lb => ?_) (fun _ hs => hs) fun _ _ hs => hs
  have := fun fuel c => openBlocksLoopC_rel h r blank fuel _ (h.sAnd hA (h.sLast lb)) false c parent .noBlocksOpened lb
    (fun s hs => hpar s ⟨hs.1, hs.2.1⟩) fun s hs => hs.2.2
  refine Tri₂.conseq (Q := fun _ s => I s ∧ (A s ∧ ∀ b, lb = some b → B b s)) ?_ (fun _ hs => hs) fun _ _ hs => ⟨hs.1, hs.2.1⟩
  rel_walk

/-- one pass over the open blocks `ob` (a copy of the stack): `Continue` is called on its blocks; `openBlocks` below `parent`,
    below a block whose `Continue` has just answered `HasChildren` (a container parser's, `hcon`), or (`hfall`) below the
    block in front of the one the pass has reached -/
theorem lineLoopC_rel (hA : S A) (parent : Nat) (hpar : ∀ s, I s ∧ A s → P parent s) (ob : List Block)
    (hob : ∀ s, I s ∧ A s → ∀ b ∈ ob, B b s) (hcon : ∀ s, I s ∧ A s → ∀ b ∈ ob, b.bp.isContainer = true → P b.node s)
    (li : Int) :
    ∀ (rest : List Block), (∀ b ∈ rest, b ∈ ob) → ∀ (i : Int),
      (∀ s, I s ∧ A s → ∀ j : Int, i ≤ j → j < i + rest.length → ∀ b, blockAt ob (j - 1) = .ok b → P b.node s) →
      ∀ (bl : List LineStat), Tri₂ (fun s => I s ∧ A s) (lineLoopC cls pts1 parent ob li rest i bl)
        (lineLoopC cls pts2 parent ob li rest i bl) (fun _ s => I s ∧ A s)
  | [], _, _, _, _ => by unfold lineLoopC; exact Tri₂.refl (Inv.pure _)
  | be :: rest, hr, i, hfall, bl => by
    have hlen : ((be :: rest).length : Int) = rest.length + 1 := by simp
    have := lineLoopC_rel hA parent hpar ob hob hcon li rest (fun b hb => hr b (List.mem_cons_of_mem _ hb)) (i + 1)
      fun s hs j h1 h2 => hfall s hs j (by omega) (by omega)
    have := h.peekLine hA
    have := h.advanceLine hA
    have := closeBlocksC_rel h r hA
    have := openBlocksC_rel h r hA parent hpar
    have hfa := fun (b : Block) (hb : blockAt ob (i - 1) = .ok b) =>
      openBlocksC_rel h r hA b.node fun s hs => hfall s hs i (Int.le_refl _) (by omega) b hb
    unfold lineLoopC
    refine Tri₂.iseq (h.peekLine hA) fun x => ?_
    obtain ⟨line, _⟩ := x
    cases line with
    | none => dsimp only; rel_walk
    | some line =>
      dsimp only
      refine Tri₂.iseq (inv_read position_run) fun y => Tri₂.iseq (inv_read (getNode_run _)) fun beNode => ?_
      refine Tri₂.ite (fun _ => Tri₂.seq (h.cont_kids hA be fun s hs => hob s hs be (hr be List.mem_cons_self)) fun st =>
        Tri₂.frame fun hk => ?_) fun _ => by rel_walk
      have : (st.hasChildren && i == li) = true → ∀ blank,
          Tri₂ (fun s => I s ∧ A s) (openBlocksC cls pts1 be.node blank) (openBlocksC cls pts2 be.node blank) (fun _ s => I s ∧ A s) :=
        fun hc => openBlocksC_rel h r hA be.node fun s hs =>
          hcon s hs be (hr be List.mem_cons_self) (hk (Bool.and_eq_true_iff.1 hc).1)
      have := hfa
      clear hfa; rel_walk

/-- `hin`: a block of the stack may be a parent when it is a container parser's or not the last -/
theorem linesLoopC_rel
    (hin : ∀ s, I s → ∀ b ∈ s.pc.opened, b.bp.isContainer = true ∨ b ∈ s.pc.opened.dropLast → P b.node s) (parent : Nat) :
    ∀ (fuel : Nat) (A : St → Prop), S A → (∀ s, I s ∧ A s → P parent s) → ∀ (bl : List LineStat),
      Tri₂ (fun s => I s ∧ A s) (linesLoopC cls pts1 parent fuel bl) (linesLoopC cls pts2 parent fuel bl) (fun _ s => I s ∧ A s)
  | 0, _, _, _, _ => by unfold linesLoopC; exact Tri₂.refl (Tri.throw _ trivial)
  | fuel + 1, A, hA, hpar, bl => by
    unfold linesLoopC
    refine Tri₂.conseq (Q := fun _ s => I s ∧ A s) (Tri₂.seq (R := fun pc s => I s ∧ (A s ∧ ((∀ b ∈ pc.opened, B b s) ∧
        ∀ b ∈ pc.opened, b.bp.isContainer = true ∨ b ∈ pc.opened.dropLast → P b.node s)))
      (Tri.det getPc_run fun s hs => ⟨hs.1, hs.2, h.stack s hs.1, hin s hs.1⟩) fun pc => ?_) (fun _ hs => hs) fun _ _ hs => hs
    have hA' := h.sAnd hA (h.sAnd (h.sList pc.opened)
      (h.sAll fun b => h.sImp (b ∈ pc.opened) (h.sImp (b.bp.isContainer = true ∨ b ∈ pc.opened.dropLast) (h.sP b.node))))
    have hpar' := fun s (hs : I s ∧ (A s ∧ ((∀ b ∈ pc.opened, B b s) ∧
        ∀ b ∈ pc.opened, b.bp.isContainer = true ∨ b ∈ pc.opened.dropLast → P b.node s))) => hpar s ⟨hs.1, hs.2.1⟩
    have := lineLoopC_rel h r hA' parent hpar' pc.opened (fun _ hs => hs.2.2.1) (fun s hs b hb hc => hs.2.2.2 b hb (.inl hc))
      ((pc.opened.length : Int) - 1) pc.opened (fun _ hb => hb) 0 fun s hs j _ h2 b hb =>
        hs.2.2.2 b (mem_of_blockAt hb) (.inr (mem_dropLast_of_blockAt hb (by omega)))
    have := linesLoopC_rel hin parent fuel _ hA' hpar'
    have := h.advanceLine hA'
    refine Tri₂.conseq (Q := fun _ s => I s ∧ (A s ∧ ((∀ b ∈ pc.opened, B b s) ∧
        ∀ b ∈ pc.opened, b.bp.isContainer = true ∨ b ∈ pc.opened.dropLast → P b.node s))) ?_ (fun _ hs => hs)
      fun _ _ hs => ⟨hs.1, hs.2.1⟩
    rel_walk

theorem blocksLoopC_rel (hin : ∀ s, I s → ∀ b ∈ s.pc.opened, b.bp.isContainer = true ∨ b ∈ s.pc.opened.dropLast → P b.node s)
    (hA : S A) (parent : Nat) (hpar : ∀ s, I s ∧ A s → P parent s) :
    ∀ (fuel : Nat) (bl : List LineStat),
      Tri₂ (fun s => I s ∧ A s) (blocksLoopC cls pts1 parent fuel bl) (blocksLoopC cls pts2 parent fuel bl) (fun _ s => I s ∧ A s)
  | 0, _ => by unfold blocksLoopC; exact Tri₂.refl (Tri.throw _ trivial)
  | fuel + 1, bl => by
    have := blocksLoopC_rel hin hA parent hpar fuel
    have := h.skipBlank hA
    have := h.advanceLine hA
    have := openBlocksC_rel h r hA parent hpar
    have := linesLoopC_rel h r hin parent fuel A hA hpar
    unfold blocksLoopC; rel_walk

/-- **the rule**: the run with `pts1` answers what the run with `pts2` answers, or it errs; the run with `pts2` keeps `I ∧ A` -/
theorem parseBlocksC_rel (hin : ∀ s, I s → ∀ b ∈ s.pc.opened, b.bp.isContainer = true ∨ b ∈ s.pc.opened.dropLast → P b.node s)
    (hA : S A) (parent : Nat) (hpar : ∀ s, I s ∧ A s → P parent s) :
    Tri₂ (fun s => I s ∧ A s) (parseBlocksC cls pts1 parent) (parseBlocksC cls pts2 parent) (fun _ s => I s ∧ A s) := by
  have := h.opened hA (fun _ => []) fun _ _ _ hb => nomatch hb
  have := blocksLoopC_rel h r hin hA parent hpar
  unfold parseBlocksC; rel_walk

end walk

section unary
variable (h : DriverOps I S B P Att cls (transformParagraph pts))
include h

theorem closeBlocksC_keeps (hA : S A) (frm to : Int) : Inv Top (fun s => I s ∧ A s) (closeBlocksC cls pts frm to) :=
  (h.closeBlocksC_rel h.diag hA frm to).right

theorem requireParaC_keeps (hA : S A) (parent : Nat) (last : Option Nat) (lastBlock : Option Block)
    (hlb : ∀ s, I s ∧ A s → ∀ b, lastBlock = some b → B b s) :
    Inv Top (fun s => I s ∧ A s) (requireParaC cls pts parent last lastBlock) :=
  (h.requireParaC_rel h.diag hA parent last lastBlock hlb).right.conseq (fun _ he => he) (fun _ hs => ⟨hs, fun _ _ => trivial⟩)
    fun _ _ hs => hs

theorem tryParsersC_keeps (parent : Nat) (blankLine continuable : Bool) (w : Int) :
    ∀ (bps : List BP) (A : St → Prop), S A → (∀ s, I s ∧ A s → P parent s) →
      ∀ (result : OpenResult) (lastBlock : Option Block), (∀ s, I s ∧ A s → ∀ b, lastBlock = some b → B b s) →
      Tri Top (fun s => I s ∧ A s) (tryParsersC cls pts parent blankLine continuable w bps result lastBlock)
        (fun x s => I s ∧ (A s ∧ ((∀ p, x.1 = .retry p → P p s) ∧ ∀ b, x.2.2 = some b → B b s))) :=
  fun bps A hA hpar result lastBlock hlb =>
    (h.tryParsersC_rel h.diag parent blankLine continuable w bps A hA hpar result lastBlock hlb).right

theorem openBlocksC_keeps (hA : S A) (parent : Nat) (hpar : ∀ s, I s ∧ A s → P parent s) (blank : Bool) :
    Inv Top (fun s => I s ∧ A s) (openBlocksC cls pts parent blank) := (h.openBlocksC_rel h.diag hA parent hpar blank).right

theorem lineLoopC_keeps (hA : S A) (parent : Nat) (hpar : ∀ s, I s ∧ A s → P parent s) (ob : List Block)
    (hob : ∀ s, I s ∧ A s → ∀ b ∈ ob, B b s) (hcon : ∀ s, I s ∧ A s → ∀ b ∈ ob, b.bp.isContainer = true → P b.node s)
    (li : Int) :
    ∀ (rest : List Block), (∀ b ∈ rest, b ∈ ob) → ∀ (i : Int),
      (∀ s, I s ∧ A s → ∀ j : Int, i ≤ j → j < i + rest.length → ∀ b, blockAt ob (j - 1) = .ok b → P b.node s) →
      ∀ (bl : List LineStat), Inv Top (fun s => I s ∧ A s) (lineLoopC cls pts parent ob li rest i bl) :=
  fun rest hr i hfall bl => (h.lineLoopC_rel h.diag hA parent hpar ob hob hcon li rest hr i hfall bl).right

theorem linesLoopC_keeps
    (hin : ∀ s, I s → ∀ b ∈ s.pc.opened, b.bp.isContainer = true ∨ b ∈ s.pc.opened.dropLast → P b.node s) (parent : Nat) :
    ∀ (fuel : Nat) (A : St → Prop), S A → (∀ s, I s ∧ A s → P parent s) → ∀ (bl : List LineStat),
      Inv Top (fun s => I s ∧ A s) (linesLoopC cls pts parent fuel bl) :=
  fun fuel A hA hpar bl => (h.linesLoopC_rel h.diag hin parent fuel A hA hpar bl).right

theorem blocksLoopC_keeps (hin : ∀ s, I s → ∀ b ∈ s.pc.opened, b.bp.isContainer = true ∨ b ∈ s.pc.opened.dropLast → P b.node s) (hA : S A) (parent : Nat)
    (hpar : ∀ s, I s ∧ A s → P parent s) :
    ∀ (fuel : Nat) (bl : List LineStat), Inv Top (fun s => I s ∧ A s) (blocksLoopC cls pts parent fuel bl) :=
  fun fuel bl => (h.blocksLoopC_rel h.diag hin hA parent hpar fuel bl).right

/-- **the rule**, for one driver -/
theorem parseBlocksC_keeps (hin : ∀ s, I s → ∀ b ∈ s.pc.opened, b.bp.isContainer = true ∨ b ∈ s.pc.opened.dropLast → P b.node s) (hA : S A) (parent : Nat)
    (hpar : ∀ s, I s ∧ A s → P parent s) : Inv Top (fun s => I s ∧ A s) (parseBlocksC cls pts parent) :=
  (h.parseBlocksC_rel h.diag hin hA parent hpar).right

end unary

/-! ### whole runs: `runC cls`, `runT = runC bpClose`, `run = runT []` (`runV pts src = runC bpCloseV pts src` is `runV_eqC` of
    GM.Proof.BlocksVT) -/

section runs
variable {A : St → Prop}

theorem runC_keeps (h : DriverOps I S B P Att cls (transformParagraph pts))
    (hin : ∀ s, I s → ∀ b ∈ s.pc.opened, b.bp.isContainer = true ∨ b ∈ s.pc.opened.dropLast → P b.node s) (hA : S A) (hpar : ∀ s, I s ∧ A s → P 0 s)
    (src : Bytes) (h0 : I (initSt src) ∧ A (initSt src)) (st : St) (hr : runC cls pts src = .ok st) : I st ∧ A st := by
  unfold runC at hr
  cases hp : parseBlocksC cls pts 0 (initSt src) with
  | error e => rw [hp] at hr; cases hr
  | ok x =>
    rw [hp] at hr
    cases hr
    exact Tri.top_iff.1 (parseBlocksC_keeps h hin hA 0 hpar) _ x.1 x.2 h0 hp

theorem runT_keeps (h : DriverOps I S B P Att bpClose (transformParagraph pts))
    (hin : ∀ s, I s → ∀ b ∈ s.pc.opened, b.bp.isContainer = true ∨ b ∈ s.pc.opened.dropLast → P b.node s) (hA : S A) (hpar : ∀ s, I s ∧ A s → P 0 s)
    (src : Bytes) (h0 : I (initSt src) ∧ A (initSt src)) (st : St) (hr : runT pts src = .ok st) : I st ∧ A st :=
  runC_keeps h hin hA hpar src h0 st (runT_eqC pts src ▸ hr)

theorem run_keeps (h : DriverOps I S B P Att bpClose (transformParagraph []))
    (hin : ∀ s, I s → ∀ b ∈ s.pc.opened, b.bp.isContainer = true ∨ b ∈ s.pc.opened.dropLast → P b.node s) (hA : S A) (hpar : ∀ s, I s ∧ A s → P 0 s)
    (src : Bytes) (h0 : I (initSt src) ∧ A (initSt src)) (st : St) (hr : run src = .ok st) : I st ∧ A st :=
  runT_keeps h hin hA hpar src h0 st (runT_nil src ▸ hr)

theorem parseBlocks_keeps (h : DriverOps I S B P Att bpClose (transformParagraph []))
    (hin : ∀ s, I s → ∀ b ∈ s.pc.opened, b.bp.isContainer = true ∨ b ∈ s.pc.opened.dropLast → P b.node s) (hA : S A) (parent : Nat)
    (hpar : ∀ s, I s ∧ A s → P parent s) : Inv Top (fun s => I s ∧ A s) (parseBlocks parent) :=
  parseBlocksT_nil parent ▸ parseBlocksT_eqC [] parent ▸ h.parseBlocksC_keeps hin hA parent hpar

end runs

/-! ### the functions of the plain driver: `…T []` is the plain function (`…T_nil`), `…T` the one generic in `Close` at `bpClose`
    (`…T_eqC`) -/

section plain
variable {A : St → Prop} (h : DriverOps I S B P Att bpClose (transformParagraph []))
include h

theorem closeBlocks_keeps (hA : S A) (frm to : Int) : Inv Top (fun s => I s ∧ A s) (closeBlocks frm to) :=
  closeBlocksT_nil frm to ▸ closeBlocksT_eqC (pts := []) frm to ▸ h.closeBlocksC_keeps hA frm to

theorem tryParsers_keeps (parent : Nat) (blankLine continuable : Bool) (w : Int) (bps : List BP) (hA : S A)
    (hpar : ∀ s, I s ∧ A s → P parent s) (result : OpenResult) (lastBlock : Option Block)
    (hlb : ∀ s, I s ∧ A s → ∀ b, lastBlock = some b → B b s) :
    Tri Top (fun s => I s ∧ A s) (tryParsers parent blankLine continuable w bps result lastBlock)
      (fun x s => I s ∧ (A s ∧ ((∀ p, x.1 = .retry p → P p s) ∧ ∀ b, x.2.2 = some b → B b s))) := by
  intro s hs
  have := h.tryParsersC_keeps (pts := []) parent blankLine continuable w bps A hA hpar result lastBlock hlb s hs
  rw [← tryParsersT_eqC, tryParsersT_nil] at this
  cases ht : tryParsers parent blankLine continuable w bps result lastBlock s with
  | error e => trivial
  | ok x =>
    rw [ht] at this
    refine ⟨this.1, this.2.1, fun p e => this.2.2.1 p ?_, this.2.2.2⟩
    show liftO x.1.1 = .retry p
    rw [e]; rfl

theorem openBlocks_keeps (hA : S A) (parent : Nat) (hpar : ∀ s, I s ∧ A s → P parent s) (blank : Bool) :
    Inv Top (fun s => I s ∧ A s) (openBlocks parent blank) :=
  openBlocksT_nil parent blank ▸ openBlocksT_eqC (pts := []) parent blank ▸ h.openBlocksC_keeps hA parent hpar blank

theorem lineLoop_keeps (hA : S A) (parent : Nat) (hpar : ∀ s, I s ∧ A s → P parent s) (ob : List Block)
    (hob : ∀ s, I s ∧ A s → ∀ b ∈ ob, B b s) (hcon : ∀ s, I s ∧ A s → ∀ b ∈ ob, b.bp.isContainer = true → P b.node s)
    (li : Int) (rest : List Block) (hr : ∀ b ∈ rest, b ∈ ob) (i : Int)
    (hfall : ∀ s, I s ∧ A s → ∀ j : Int, i ≤ j → j < i + rest.length → ∀ b, blockAt ob (j - 1) = .ok b → P b.node s)
    (bl : List LineStat) : Inv Top (fun s => I s ∧ A s) (lineLoop parent ob li rest i bl) :=
  lineLoopT_nil parent ob li rest i bl ▸ lineLoopT_eqC (pts := []) parent ob li rest i bl ▸
    h.lineLoopC_keeps hA parent hpar ob hob hcon li rest hr i hfall bl

theorem linesLoop_keeps (hin : ∀ s, I s → ∀ b ∈ s.pc.opened, b.bp.isContainer = true ∨ b ∈ s.pc.opened.dropLast → P b.node s) (hA : S A) (parent : Nat)
    (hpar : ∀ s, I s ∧ A s → P parent s) (fuel : Nat) (bl : List LineStat) :
    Inv Top (fun s => I s ∧ A s) (linesLoop parent fuel bl) :=
  linesLoopT_nil parent fuel bl ▸ linesLoopT_eqC (pts := []) parent fuel bl ▸ h.linesLoopC_keeps hin parent fuel A hA hpar bl

theorem blocksLoop_keeps (hin : ∀ s, I s → ∀ b ∈ s.pc.opened, b.bp.isContainer = true ∨ b ∈ s.pc.opened.dropLast → P b.node s) (hA : S A) (parent : Nat)
    (hpar : ∀ s, I s ∧ A s → P parent s) (fuel : Nat) (bl : List LineStat) :
    Inv Top (fun s => I s ∧ A s) (blocksLoop parent fuel bl) :=
  blocksLoopT_nil parent fuel bl ▸ blocksLoopT_eqC (pts := []) parent fuel bl ▸ h.blocksLoopC_keeps hin hA parent hpar fuel bl

end plain

theorem inv_of_rel {R : St → St → Prop} {pre : St → Prop} {m : M α}
    (hm : ∀ s a s', I s → pre s → m s = .ok (a, s') → I s' ∧ R s s') (hA : ∀ s s', R s s' → A s → A s')
    (hpre : ∀ s, I s ∧ A s → pre s) : Inv Top (fun s => I s ∧ A s) m :=
  Tri.top_iff.2 fun s a s' hs e => (hm s a s' hs.1 (hpre s hs) e).imp_right fun r => hA s s' r hs.2

/-- every step of the driver keeps `I` and is a step of `R`, along which `B`, `P`, `Att` persist: the side facts are all the
    facts that persist along `R` -/
theorem ofRel {R : St → St → Prop} {tp : Nat → M Bool} (hB : ∀ b s s', R s s' → B b s → B b s')
    (hP : ∀ p s s', R s s' → P p s → P p s') (hAtt : ∀ bp c p s s', R s s' → Att bp c p s → Att bp c p s')
    (stack : ∀ s, I s → ∀ b ∈ s.pc.opened, B b s)
    (hpeek : ∀ s a s', I s → Blocks.peekLine s = .ok (a, s') → I s' ∧ R s s')
    (hoff : ∀ s a s', I s → Blocks.lineOffset s = .ok (a, s') → I s' ∧ R s s')
    (hadv : ∀ s a s', I s → Blocks.advanceLine s = .ok (a, s') → I s' ∧ R s s')
    (hskip : ∀ s a s', I s → skipBlankLinesR s = .ok (a, s') → I s' ∧ R s s')
    (hpcw : ∀ s pc, I s → pc.opened = s.pc.opened → I { s with pc := pc } ∧ R s { s with pc := pc })
    (hopened : ∀ s l, I s → (∀ b ∈ l, B b s) →
      I { s with pc := { s.pc with opened := l } } ∧ R s { s with pc := { s.pc with opened := l } })
    (hblank : ∀ bp c p (bl : Bool) s a s', I s → B ⟨c, bp⟩ s ∧ Att bp c p s →
      modNode c (fun n => { n with blankPrev := bl }) s = .ok (a, s') → I s' ∧ R s s')
    (happend : ∀ bp c p s a s', I s → B ⟨c, bp⟩ s ∧ Att bp c p s → appendChild p c s = .ok (a, s') → I s' ∧ R s s')
    (hopn : ∀ bp p s a s', I s → P p s → bpOpen bp p s = .ok (a, s') →
      (I s' ∧ R s s') ∧ ∀ id, a.1 = some id → B ⟨id, bp⟩ s' ∧ Att bp id p s' ∧ (bp.isContainer = true → P id s'))
    (hcont : ∀ (b : Block) s a s', I s → B b s → bpContinue b.bp b.node s = .ok (a, s') → I s' ∧ R s s')
    (hclose : ∀ (b : Block) s a s', I s → B b s → cls b.bp b.node s = .ok (a, s') → I s' ∧ R s s')
    (htp : ∀ (b : Block) s a s', I s → B b s → tp b.node s = .ok (a, s') → I s' ∧ R s s') :
    DriverOps I (fun A => ∀ s s', R s s' → A s → A s') B P Att cls tp where
  sAnd := fun hA hA' s s' r a => ⟨hA s s' r a.1, hA' s s' r a.2⟩
  sImp := fun _ _ hA s s' r a c => hA s s' r (a c)
  sAll := fun hA s s' r a i => hA i s s' r (a i)
  sB := hB
  sP := hP
  sAtt := hAtt
  stack := stack
  peekLine := fun hA => inv_of_rel (pre := fun _ => True) (fun s a s' hs _ => hpeek s a s' hs) hA fun _ _ => trivial
  lineOffset := fun hA => inv_of_rel (pre := fun _ => True) (fun s a s' hs _ => hoff s a s' hs) hA fun _ _ => trivial
  advanceLine := fun hA => inv_of_rel (pre := fun _ => True) (fun s a s' hs _ => hadv s a s' hs) hA fun _ _ => trivial
  skipBlank := fun hA => inv_of_rel (pre := fun _ => True) (fun s a s' hs _ => hskip s a s' hs) hA fun _ _ => trivial
  pcw := fun hA f hf => Tri.det (modPc_run f) fun s hs =>
    (hpcw s (f s.pc) hs.1 (hf s.pc)).imp_right fun r => hA _ _ r hs.2
  opened := fun hA g hg => Tri.det (modPc_run _) fun s hs =>
    (hopened s (g s.pc) hs.1 (hg s hs)).imp_right fun r => hA _ _ r hs.2
  blank := fun hA bp c p bl hc => inv_of_rel (hblank bp c p bl) hA hc
  append := fun hA bp c p hc => inv_of_rel (happend bp c p) hA hc
  opn := fun hA bp p hp => Tri.top_iff.2 fun s a s' hs e =>
    have h1 := hopn bp p s a s' hs.1 (hp s hs) e
    ⟨h1.1.1, hA s s' h1.1.2 hs.2, h1.2⟩
  cont := fun hA b hb => inv_of_rel (hcont b) hA hb
  close := fun hA b hb => inv_of_rel (hclose b) hA hb
  tp := fun hA b hb => inv_of_rel (htp b) hA hb

end DriverOps

end GM.Blocks
