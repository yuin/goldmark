/-
  GM.Proof.CMFrag7Run — stage 7 (a missing final line feed): the LAST block of such a source — a paragraph, a leaf block, a
  fenced code block whose closing fence ends the source, an indented code block whose last line ends the source — and
  the two claims of stage 6 for documents whose last line has no line feed (`claim7_all`).
-/
import GM.Proof.CMFrag7Inl
import GM.Proof.CMFrag7Defs

/-
  section CMFrag7Para — stage 7: the LAST paragraph of a source without final line feed: its lines `xs` (with line
  feeds) and its last line `l` (without, ending the source): open segments, the transformer declines, `Close` changes
  nothing, the end of the source closes it.
-/
section CMFrag7Para
namespace GM.Proof.CMFrag
open GM GM.Text GM.Blocks GM.Spec

/-- the last line `l` of the source, without line feed, starts at `q` -/
structure LastLn (src : Bytes) (q : Nat) (l : Bytes) : Prop where
  ln : Ln src q (q + l.length) l
  eof : q + l.length = src.length

theorem paraAtE_snoc {src : Bytes} : ∀ (xs : List Bytes) (l : Bytes) (p : Nat),
    ParaAtE src p (xs ++ [l]) ↔ (ParaAt src p xs ∧ LastLn src (p + (paraBytes xs).length) l)
  | [], l, p => by
    simp only [List.nil_append, ParaAtE, ParaAt, paraBytes, List.flatMap_nil, List.length_nil, Nat.add_zero, true_and]
    exact ⟨fun h => ⟨h.1, h.2⟩, fun h => ⟨h.ln, h.eof⟩⟩
  | x :: xs, l, p => by
    have ih := paraAtE_snoc (src := src) xs l (p + x.length + 1)
    have e : p + (paraBytes (x :: xs)).length = p + x.length + 1 + (paraBytes xs).length := by simp [paraBytes]; omega
    cases hxs : xs ++ [l] with
    | nil => simp at hxs
    | cons y ys =>
      simp only [List.cons_append, hxs, ParaAtE, ParaAt]
      rw [← hxs, ih, e]
      exact ⟨fun h => ⟨⟨h.1, h.2.1⟩, h.2.2⟩, fun h => ⟨h.1.1, h.1.2, h.2⟩⟩

theorem paraSegs_snoc : ∀ (xs : List Bytes) (l : Bytes) (p : Nat),
    paraSegs p (xs ++ [l]) = openSegs p xs ++ [sg (p + (paraBytes xs).length) (p + (paraBytes xs).length + l.length)]
  | [], l, p => by simp [paraSegs, openSegs, paraBytes, sg]
  | x :: xs, l, p => by
    have ih := paraSegs_snoc xs l (p + x.length + 1)
    have e : p + (paraBytes (x :: xs)).length = p + x.length + 1 + (paraBytes xs).length := by simp [paraBytes]; omega
    cases hxs : xs ++ [l] with
    | nil => simp at hxs
    | cons y ys =>
      simp only [List.cons_append, hxs, paraSegs, openSegs]
      rw [← hxs, ih, e]
      simp [sg]

section lastPara
variable {src : Bytes} {p q : Nat} {xs : List Bytes} {l : Bytes}

/-- the open (= closed) line segments of the last paragraph -/
def lastSegs (p : Nat) (xs : List Bytes) (l : Bytes) : List Segment :=
  openSegs p xs ++ [sg (p + (paraBytes xs).length) (p + (paraBytes xs).length + l.length)]

/-- the run-time check of the link-reference transformer: the lines of the last paragraph are those of a paragraph
    after `Close` (`paraSegs_snoc`), for which `wf0B_linesG` is the general statement -/
theorem wf0B_last (hpa : ParaAt src p xs) (hbx : ∀ x ∈ xs, BlkLine x) (hl : LastLn src (p + (paraBytes xs).length) l)
    (hb : BlkLine l) : GM.LinkRef.wf0B src (lastSegs p xs l) = true := by
  have hne : ∀ x ∈ xs ++ [l], x ≠ [] := by
    intro x hx
    obtain ⟨c, t, hc, _⟩ := (show BlkLine x by
      rcases List.mem_append.mp hx with h | h
      · exact hbx x h
      · rw [List.mem_singleton.mp h]; exact hb).first
    rw [hc]; simp
  rw [lastSegs, ← paraSegs_snoc, ← paraSegsG_contigG]
  exact wf0B_linesG _ _ (by simp)
    (linesAtG_contigG _ _ (linesAtE_of_paraAtE _ _ ((paraAtE_snoc xs l p).mpr ⟨hpa, hl⟩))) hne

theorem trimLeftAll_last : ∀ (xs : List Bytes) (p : Nat), ParaAt src p xs → (∀ x ∈ xs, BlkLine x) →
    LastLn src (p + (paraBytes xs).length) l → BlkLine l →
    trimLeftAll src (lastSegs p xs l) = .ok (lastSegs p xs l)
  | [], p, _, _, hl, hb => by
    obtain ⟨c, t, hlc, hc⟩ := hb.first
    obtain ⟨_, _, _, hsp, _, _⟩ := letter_facts c hc
    have hln := hl.ln
    simp only [paraBytes, List.flatMap_nil, List.length_nil, Nat.add_zero] at hln
    have h1 := trimLeft_id (src := src) (p := p) (e := p + l.length) (c := c) (t := t)
      (by rw [hln.sub, hlc]) (by omega) hln.le hsp
    simp only [lastSegs, openSegs, paraBytes, List.flatMap_nil, List.length_nil, Nat.add_zero, List.nil_append,
      trimLeftAll, h1, bind, Except.bind, pure, Except.pure]
  | x :: xs, p, h, hbx, hl, hb => by
    have e : p + (paraBytes (x :: xs)).length = p + x.length + 1 + (paraBytes xs).length := by simp [paraBytes]; omega
    rw [e] at hl
    obtain ⟨c, t, hlc, hc⟩ := (hbx x (by simp)).first
    obtain ⟨_, _, _, hsp, _, _⟩ := letter_facts c hc
    have ih := trimLeftAll_last xs (p + x.length + 1) h.2 (fun y hy => hbx y (by simp [hy])) hl hb
    have h1 := trimLeft_id (src := src) (p := p) (e := p + x.length + 1) (c := c) (t := t ++ [10])
      (by rw [h.1.sub, hlc]; rfl) (by omega) h.1.le hsp
    simp only [lastSegs, openSegs, e, List.cons_append, trimLeftAll, h1, bind, Except.bind, pure, Except.pure] at ih ⊢
    rw [ih]

/-- the link-reference transformer declines on the last paragraph -/
theorem transformScan_last (hpa : ParaAt src p xs) (hbx : ∀ x ∈ xs, BlkLine x)
    (hl : LastLn src (p + (paraBytes xs).length) l) (hb : BlkLine l) (refs : GM.LinkRef.RefMap) :
    GM.LinkRef.transformScan src (lastSegs p xs l) refs = .ok ([], refs) := by
  have hw := wf0B_last hpa hbx hl hb
  cases xs with
  | nil =>
    obtain ⟨c, t, hlc, hc⟩ := hb.first
    obtain ⟨_, _, _, hsp, _, hbr⟩ := letter_facts c hc
    refine transformScan_first hw c t ?_ hsp hbr refs
    have hsub := hl.ln.sub
    simp only [paraBytes, List.flatMap_nil, List.length_nil, Nat.add_zero] at hsub ⊢
    simp only [sg, Int.toNat_natCast]
    rw [hsub, hlc]
  | cons x xs' =>
    obtain ⟨c, t, hlc, hc⟩ := (hbx x (by simp)).first
    obtain ⟨_, _, _, hsp, _, hbr⟩ := letter_facts c hc
    refine transformScan_first hw c (t ++ [10]) ?_ hsp hbr refs
    simp only [sg, Int.toNat_natCast]
    rw [hpa.1.sub, hlc]; rfl

theorem closeBlocks_last (hpa : ParaAt src p xs) (hbx : ∀ x ∈ xs, BlkLine x)
    (hl : LastLn src (p + (paraBytes xs).length) l) (hb : BlkLine l)
    (r : Reader) (hr : r.source = src) (d : Blocks.Node) (rest : List Blocks.Node) (b : Bool) (pc : Ctx)
    (hop : pc.opened = [{ node := rest.length + 1, bp := .paragraph }]) :
    closeBlocksT pts 0 0 ⟨r, d :: (rest ++ [paraN (lastSegs p xs l) b]), pc⟩ =
      .ok ((), ⟨r, d :: (rest ++ [paraN (lastSegs p xs l) b]), { pc with opened := [] }⟩) := by
  have hx := getD_last d rest (paraN (lastSegs p xs l) b)
  have hcl := paragraphClose_segs (openSegs p xs) _ _ (trimLeftAll_last xs p hpa hbx hl hb) (trimRight_line [] (Or.inr rfl) (by simpa using hl.ln) hb) r hr _
    (rest.length + 1) b (by simp) hx pc
  rw [set_last] at hcl
  exact closeBlocks_first r _ pc { node := rest.length + 1, bp := .paragraph } [] hop 0 (by rw [hx]; rfl)
    (fun _ => guardedTransform_decl _ (wf0B_last hpa hbx hl hb) (by simp [lastSegs]) (transformScan_last hpa hbx hl hb) r hr _ _ b
      hx pc) _ hcl

/-- the per-line loop at the end of the source with the last paragraph open: it is closed, parseBlocks returns -/
theorem linesLoop_last_eof (hpa : ParaAt src p xs) (hbx : ∀ x ∈ xs, BlkLine x)
    (hl : LastLn src (p + (paraBytes xs).length) l) (hb : BlkLine l)
    (k : Int) (e : Nat) (d : Blocks.Node) (rest : List Blocks.Node) (b : Bool) (pc : Ctx)
    (hop : pc.opened = [{ node := rest.length + 1, bp := .paragraph }]) (bl : List LineStat) (fuel : Nat) :
    linesLoopT pts 0 (fuel + 1) bl ⟨rdr src k src.length src.length e none (-1), d :: (rest ++ [paraN (lastSegs p xs l) b]), pc⟩ =
      .ok ((true, bl), ⟨rdr src (k + 1) e e (lineEnd src e) none (-1), d :: (rest ++ [paraN (lastSegs p xs l) b]),
        { pc with opened := [] }⟩) := by
  have e1 : (((1 : Nat) : Int) - 1) = 0 := by decide
  have e0 : ((1 : Nat) == 0) = false := rfl
  rw [linesLoopT]
  simp only [bind_apply, getPc_run, hop, List.length_singleton, e1, e0, Bool.false_eq_true, if_false]
  rw [lineLoopT]
  simp only [bind_apply, peekLine_eof (Nat.le_refl _),
    closeBlocks_last hpa hbx hl hb _ (rdr_source ..) d rest b pc hop, advanceLine_run, pure_apply]
end lastPara

end GM.Proof.CMFrag
end CMFrag7Para

/-
  section CMFrag7Leaf — stage 7 (a missing final line feed): `openBlocks` at the end of the source, and the per-line
  loop on a closing fence that is the LAST line and has no line feed (`fencedContinue_close` with `tl = []`).
-/
section CMFrag7Leaf
namespace GM.Proof.CMFrag
open GM GM.Text GM.Blocks GM.Spec

theorem openBlocks_eofE {src : Bytes} {h p e : Nat} (hp : src.length ≤ p) (hhp : h ≤ p) (hpl : p ≤ src.length) (k : Int) (nodes : List Blocks.Node)
    (pi : Nat) (pbp : BP) (hk : ((nodes.getD pi default).kind == .paragraph) = false) (pc : Ctx)
    (hop : pc.opened = [{ node := pi, bp := pbp }]) (blank : Bool) :
    ∃ lo' : Int, openBlocksT pts 0 blank ⟨rdr src k h p e none (-1), nodes, pc⟩ =
      .ok (.noBlocksOpened, ⟨rdr src k h p e none lo', nodes, { pc with blockOffset := -1, blockIndent := -1 }⟩) := by
  obtain ⟨lo', hlo⟩ := lineOffset_any (src := src) (h := h) (p := p) hhp hpl k e none nodes pc
  refine ⟨lo', ?_⟩
  unfold openBlocksT
  simp only [bind_apply, lastOpenedBlock_run, hop, List.getLast?_singleton, pure_apply, source_run, retryFuel,
    getNode_run, hk]
  rw [openBlocksLoopT]
  have hiw : ∀ lo : Int, indentWidthI [] lo = (0, 0) := by
    intro lo; unfold GM.Blocks.indentWidthI GM.Blocks.indentWidthGo; rfl
  simp only [bind_apply, peekLine_eof hp, Option.getD_none, hlo, hiw]
  simp [modPc_run, toContinuable, pure_apply, hop]

theorem lineLoop_fence_closeE {src : Bytes} {p e : Nat} {v : Bytes} (hl : Ln src p e v) (he : e = src.length)
    (fc : UInt8) (hfc : fc = 96 ∨ fc = 126) (n : Nat) (hv : v = List.replicate (n + 3) fc) (k : Int) (d : Blocks.Node)
    (rest : List Blocks.Node) (x : Blocks.Node) (hk : x.kind = .fencedCodeBlock) (hpar : x.parent = some 0) (pc : Ctx)
    (hfd : pc.fence = some (fdOf fc n (rest.length + 1)))
    (hop : pc.opened = [{ node := rest.length + 1, bp := .fenced }]) (bl : List LineStat) :
    ∃ lo' : Int,
    lineLoopT pts 0 [{ node := rest.length + 1, bp := .fenced }] 0 [{ node := rest.length + 1, bp := .fenced }] 0 bl
        ⟨rdr src k p p e none (-1), d :: (rest ++ [x]), pc⟩ =
      .ok ((.next, bl ++ [{ lineNum := k, level := 0, isBlank := isBlank v }]),
        ⟨rdr src k p e e none lo', d :: (rest ++ [x]),
          { pc with blockOffset := -1, blockIndent := -1, opened := [], fence := none }⟩) := by
  have hp : p < src.length := by have := hl.le; have := hl.lt; omega
  have hlt := hl.lt
  have hle := hl.le
  have hk1 : (x.kind != .paragraph) = true := by rw [hk]; rfl
  have hk2 : (((d :: (rest ++ [x])).getD (rest.length + 1) default).kind == .paragraph) = false := by
    rw [getD_last, hk]; rfl
  obtain ⟨lo', hob'⟩ := openBlocks_eofE (src := src) (h := p) (p := e) (e := e) (by omega) (by omega) hle k
    (d :: (rest ++ [x])) (rest.length + 1) .fenced hk2 pc hop
    (isBlankLine (k - 1) 0 (bl ++ [{ lineNum := k, level := 0, isBlank := isBlank v }]))
  refine ⟨lo', ?_⟩
  rw [lineLoopT]
  simp only [bind_apply, peekLine_fresh hl.sub hp (Nat.le_of_lt hl.lt) hl.le, position_run, getNode_run, getD_last, hk1,
    if_true, bpContinue, fencedContinue_close hl [] (Or.inr rfl) fc hfc n (by simpa using hv) k _ pc _ hfd, stClose,
    List.length_nil, Nat.sub_zero]
  simp [liftE_ok, rdr_line, hob', pure_apply, getPc_run, hop, slotAfter, bind_apply, map_apply, blockAt]
  rw [closeBlocks_fence _ d rest x hk hpar
    { pc with blockOffset := -1, blockIndent := -1, opened := [{ node := rest.length + 1, bp := .fenced }] } fc n hfd rfl]

end GM.Proof.CMFrag
end CMFrag7Leaf

/-
  section CMFrag7Last — stage 7: the LAST block of a source without final line feed, from behind its first line to the
  end of parseBlocks: a paragraph of one or of several lines, an ATX heading or thematic break, a fenced code block.
-/
section CMFrag7Last
namespace GM.Proof.CMFrag
open GM GM.Text GM.Blocks GM.Spec

section last
variable {src : Bytes}

theorem blocksLoop_eof (k : Int) (e : Nat) (nodes : List Blocks.Node) (pc : Ctx) (bl : List LineStat) (f : Nat)
    (pk : Option Bytes) (lo : Int) (h : Nat) :
    ∃ r', blocksLoopT pts 0 (f + 1) bl ⟨rdr src k h src.length e pk lo, nodes, pc⟩ = .ok ((), ⟨r', nodes, pc⟩) := by
  have hsk : ∀ fuel lines, skipBlankLines readerOps (fuel + 1) lines (rdr src k h src.length e pk lo) =
      .ok ((sg src.length e, lines, false), rdr src k h src.length e pk lo) := by
    intro fuel lines
    rw [skipBlankLines]
    simp only [ops_peek, rpeek_eof (Nat.le_refl _), bind, Except.bind]
    simp [pure, Except.pure]
  refine ⟨rdr src k h src.length e pk lo, ?_⟩
  rw [blocksLoopT]
  have : loopFuel src = (loopFuel src - 1) + 1 := by unfold loopFuel; omega
  simp only [bind_apply, skipBlankLinesR, rdr_source]
  rw [this, hsk]
  simp [bind, Except.bind, pure, Except.pure]
  rfl


/-- the per-line loop over the remaining lines `more` (with line feeds) and the last line `l` (without) of the last
    paragraph, which is then closed by the end of the source -/
theorem para_run_last (d : Blocks.Node) (rest : List Blocks.Node) (b : Bool) (P : Nat) (done more : List Bytes) (l : Bytes)
    (hdne : done ≠ []) (hpa : ParaAt src P (done ++ more)) (hbx : ∀ x ∈ done ++ more, BlkLine x)
    (hl : LastLn src (P + (paraBytes (done ++ more)).length) l) (hb : BlkLine l)
    (k : Int) (fl : Nat) (bl : List LineStat) (pc : Ctx)
    (hop : pc.opened = [{ node := rest.length + 1, bp := .paragraph }]) (hfl : more.length + 2 ≤ fl) :
    ∃ bl' s', linesLoopT pts 0 fl bl
        ⟨rdr src k (P + (paraBytes done).length) (P + (paraBytes done).length)
          (lineEnd src (P + (paraBytes done).length)) none (-1), d :: (rest ++ [paraN (openSegs P done) b]), pc⟩ =
        .ok ((true, bl'), s') ∧
      s'.nodes = d :: (rest ++ [paraN (lastSegs P (done ++ more) l) b]) ∧ s'.pc.refs = pc.refs := by
  obtain ⟨fl', rfl⟩ : ∃ fl', fl = (fl' + 2) + more.length := ⟨fl - more.length - 2, by omega⟩
  have hm : ParaAt src (P + (paraBytes done).length) more := paraAt_drop done more P hpa
  obtain ⟨bl1, k1, pc1, ho1, hr1, hbody⟩ :=
    para_body (src := src) d rest b P more done k (fl' + 2) bl pc hm (fun x hx => hbx x (by simp [hx])) hop
  obtain ⟨c, t, hlc, hc⟩ := hb.first
  have hln := hl.ln
  have hop1 : pc1.opened = [{ node := rest.length + 1, bp := .paragraph }] := by rw [ho1]; exact hop
  have hpa' : ParaAt src P (done ++ more) := hpa
  refine ⟨bl1 ++ [{ lineNum := k1, level := 0, isBlank := isBlank l }],
    ⟨rdr src (k1 + 1 + 1) (lineEnd src src.length) (lineEnd src src.length) (lineEnd src (lineEnd src src.length)) none (-1),
      d :: (rest ++ [paraN (lastSegs P (done ++ more) l) b]),
      { ({ pc1 with blockOffset := 0, blockIndent := 0 } : Ctx) with opened := [] }⟩, ?_, rfl, ?_⟩
  · rw [hbody, pass_next hln k1 _ _ pc1 _ _ hop1 bl1 _ _ _ (fl' + 1)
      (lineLoop_cont hln (c := c) (t := t) hlc hc k1 d rest (openSegs P (done ++ more)) b pc1 hop1 bl1), hl.eof]
    have hnode : paraN (openSegs P (done ++ more) ++ [sg (P + (paraBytes (done ++ more)).length) src.length]) b =
        paraN (lastSegs P (done ++ more) l) b := by
      simp only [lastSegs, hl.eof]
    rw [hnode]
    rw [linesLoop_last_eof hpa' hbx hl hb (k1 + 1) _ d rest b { pc1 with blockOffset := 0, blockIndent := 0 } hop1]
  · simp only; rw [hr1]

theorem lastSegs_nil (p : Nat) (l : Bytes) : lastSegs p [] l = [sg p (p + l.length)] := by
  simp [lastSegs, openSegs, paraBytes]

/-- the last block is a paragraph of one line -/
theorem para_tail_single (l : Bytes) (hb : BlkLine l) {p : Nat} (hl : LastLn src p l) (k : Int) (fl fb : Nat)
    (BL : List LineStat) (d : Blocks.Node) (cs : List Blocks.Node) (bk : Bool) (pc : Ctx) (hfl : 1 ≤ fl) :
    ∃ s', tailT fl fb BL (AF src [] k src.length d cs (.old (.para [l])) p bk pc) = .ok ((), s') ∧
      s'.nodes = { d with children := d.children ++ [cs.length + 1] } :: (cs ++ [node5E p (.old (.para [l])) bk]) ∧
      s'.pc.refs = pc.refs := by
  obtain ⟨fl', rfl⟩ : ∃ fl', fl = fl' + 1 := ⟨fl - 1, by omega⟩
  have hl' : LastLn src (p + (paraBytes []).length) l := by simpa [paraBytes] using hl
  have hn : paraN [sg p src.length] bk = paraN (lastSegs p [] l) bk := by rw [lastSegs_nil, hl.eof]
  have hfin := linesLoop_last_eof (src := src) (p := p) (xs := []) (l := l) trivial (by simp) hl' hb k
    (lineEnd src src.length) { d with children := d.children ++ [cs.length + 1] } cs bk
    (pcAF (.old (.para [l])) cs.length pc) rfl BL fl'
  rw [← hn] at hfin
  refine ⟨_, tailT_of_lines hfin, ?_, rfl⟩
  simp [node5E, node5, node4, paraSegs, ← hl.eof, sg]

/-- the last block is a paragraph of several lines -/
theorem para_tail_multi (x0 : Bytes) (mid : List Bytes) (l : Bytes) (hbk : ∀ x ∈ x0 :: (mid ++ [l]), BlkLine x) {p : Nat}
    (hE : ParaAtE src p (x0 :: (mid ++ [l]))) (k : Int) (fl fb : Nat)
    (BL : List LineStat) (d : Blocks.Node) (cs : List Blocks.Node) (bk : Bool) (pc : Ctx) (hfl : mid.length + 2 ≤ fl) :
    ∃ s', tailT fl fb BL (AF src [10] k (p + x0.length + 1) d cs (.old (.para (x0 :: (mid ++ [l])))) p bk pc) =
        .ok ((), s') ∧
      s'.nodes = { d with children := d.children ++ [cs.length + 1] } ::
        (cs ++ [node5E p (.old (.para (x0 :: (mid ++ [l])))) bk]) ∧
      s'.pc.refs = pc.refs := by
  obtain ⟨hpa, hl⟩ := (paraAtE_snoc (x0 :: mid) l p).mp hE
  have e0 : p + (paraBytes [x0]).length = p + x0.length + 1 := by simp [paraBytes]; omega
  obtain ⟨bl', s', h1, h2, h3⟩ :=
    para_run_last (src := src) { d with children := d.children ++ [cs.length + 1] } cs bk p [x0] mid l
      (by simp) hpa (fun x hx => hbk x (by
        rcases List.mem_append.mp hx with h | h
        · simp at h; simp [h]
        · simp [h])) hl (hbk l (by simp)) k fl BL
      (pcAF (.old (.para (x0 :: (mid ++ [l])))) cs.length pc) rfl hfl
  rw [e0] at h1
  refine ⟨s', ?_, ?_, by rw [h3]; rfl⟩
  · rw [tailT_of_lines (by simpa [AF, first5, openSegs] using h1)]
    simp [pure_apply]
  · rw [h2]
    have := paraSegs_snoc (x0 :: mid) l p
    simp only [List.cons_append] at this
    simp [node5E, node5, node4, this, lastSegs]

/-- the per-line loop over the content lines `more` and the closing fence (without line feed, ending the source) -/
theorem linesLoop_fenceE (fc : UInt8) (hfc : fc = 96 ∨ fc = 126) (n : Nat) (d : Blocks.Node)
    (rest : List Blocks.Node) (info : Option Segment) (b : Bool) (P : Nat) (more done : List Bytes) (k : Int) (fuel : Nat)
    (bl : List LineStat) (pc : Ctx) (hpa : ParaAt src (P + (paraBytes done).length) more)
    (hl : LastLn src (P + (paraBytes (done ++ more)).length) (List.replicate (n + 3) fc))
    (hcode : ∀ l ∈ more, CodeLine fc l) (hf : more.length + 2 ≤ fuel)
    (hop : pc.opened = [{ node := rest.length + 1, bp := .fenced }]) (hfd : pc.fence = some (fdOf fc n (rest.length + 1))) :
    ∃ bl' s',
      linesLoopT pts 0 fuel bl
          ⟨rdr src k (P + (paraBytes done).length) (P + (paraBytes done).length)
            (lineEnd src (P + (paraBytes done).length)) none (-1),
            d :: (rest ++ [fenceN info (csegs P done) b]), pc⟩ = .ok ((false, bl'), s') ∧
        s'.nodes = d :: (rest ++ [fenceN info (csegs P (done ++ more)) b]) ∧ s'.pc.opened = [] ∧
        s'.pc.refs = pc.refs ∧
        ∃ k', s'.r = rdr src k' src.length src.length (lineEnd src src.length) none (-1) := by
  obtain ⟨f, rfl⟩ : ∃ f, fuel = (f + 1 + 1) + more.length := ⟨fuel - more.length - 2, by omega⟩
  obtain ⟨bl1, k1, hbody⟩ := fence_body (src := src) fc n d rest info b P more done k (f + 1 + 1) bl pc hpa hcode hop hfd
  have hln := hl.ln
  have heof := hl.eof
  simp only [List.length_replicate] at hln heof
  obtain ⟨lo', hcl⟩ := lineLoop_fence_closeE hln heof fc hfc n rfl k1 d rest (fenceN info (csegs P (done ++ more)) b) rfl
    rfl pc hfd hop bl1
  refine ⟨bl1 ++ [{ lineNum := k1, level := 0, isBlank := isBlank (List.replicate (n + 3) fc) }],
    ⟨rdr src (k1 + 1) src.length src.length (lineEnd src src.length) none (-1),
      d :: (rest ++ [fenceN info (csegs P (done ++ more)) b]),
      { pc with blockOffset := -1, blockIndent := -1, opened := [], fence := none }⟩, ?_, rfl, rfl, rfl, k1 + 1, rfl⟩
  rw [hbody, pass_next hln k1 _ _ pc _ _ hop bl1 _ _ _ (f + 1) hcl, heof]
  exact linesLoop_done f _ _ _ _ rfl

/-- the last block is a fenced code block: from behind its opening fence to the end -/
theorem fence_tail_last (fc : UInt8) (n : Nat) (info : Bytes) (ls : List Bytes)
    (hg : Good5 (.fence fc n info ls)) (p e : Nat) (hl : Ln src p e (firstLineT [10] (.fence fc n info ls)))
    (hE : ParaAtE src p (lines5 (.fence fc n info ls))) (k : Int) (fl fb : Nat) (BL : List LineStat) (d : Blocks.Node)
    (cs : List Blocks.Node) (bk : Bool) (pc : Ctx) (hfl : ls.length + 2 ≤ fl) (hfb : 1 ≤ fb) :
    ∃ s', tailT fl fb BL (AF src [10] k e d cs (.fence fc n info ls) p bk pc) = .ok ((), s') ∧
      s'.nodes = { d with children := d.children ++ [cs.length + 1] } :: (cs ++ [node5E p (.fence fc n info ls) bk]) ∧
      s'.pc.refs = pc.refs := by
  obtain ⟨hfc, hinfo, hcode⟩ := hg
  have hlen := hl.len
  have hlt := hl.lt
  have he : e = p + (n + 3 + info.length) + 1 := by simp [firstLineT, lines5] at hlen; omega
  subst he
  have hE' : ParaAtE src p (((List.replicate (n + 3) fc ++ info) :: ls) ++ [List.replicate (n + 3) fc]) := by
    simpa [lines5] using hE
  obtain ⟨hpa, hlast⟩ := (paraAtE_snoc _ _ p).mp hE'
  have e0 : p + (paraBytes ((List.replicate (n + 3) fc ++ info) :: ls)).length =
      p + (n + 3 + info.length) + 1 + (paraBytes ([] ++ ls)).length := by simp [paraBytes]; omega
  rw [e0] at hlast
  obtain ⟨bl', s1, h1, h2, h3, h4, k', h5⟩ :=
    linesLoop_fenceE (src := src) fc hfc n { d with children := d.children ++ [cs.length + 1] } cs
      (if info.isEmpty then none else some (sg (p + n + 3) (p + (n + 3 + info.length) + 1 - 1))) bk
      (p + (n + 3 + info.length) + 1) ls [] k fl BL (pcAF (.fence fc n info ls) cs.length pc)
      (by have := hpa.2; simpa [paraBytes] using this) hlast hcode hfl rfl rfl
  obtain ⟨fb', rfl⟩ : ∃ fb', fb = fb' + 1 := ⟨fb - 1, by omega⟩
  have es1 : s1 = ⟨rdr src k' src.length src.length (lineEnd src src.length) none (-1), s1.nodes, s1.pc⟩ := by
    cases s1; simp only at h5 ⊢; rw [h5]
  obtain ⟨r', hb⟩ := blocksLoop_eof (src := src) k' (lineEnd src src.length) s1.nodes s1.pc bl' fb' none (-1) src.length
  have en : node5 p (.fence fc n info ls) bk =
      fenceN (if info.isEmpty then none else some (sg (p + n + 3) (p + (n + 3 + info.length) + 1 - 1)))
        (csegs (p + (n + 3 + info.length) + 1) ([] ++ ls)) bk := by
    simp only [node5, List.nil_append]
    have a1 : p + n + 3 + info.length = p + (n + 3 + info.length) + 1 - 1 := by omega
    have a2 : p + (n + 3 + info.length) + 1 - 1 + 1 = p + (n + 3 + info.length) + 1 := by omega
    rw [a1, a2]
  have h1' : linesLoopT pts 0 fl BL (AF src [10] k (p + (n + 3 + info.length) + 1) d cs (.fence fc n info ls) p bk pc) =
      .ok ((false, bl'), s1) := by
    simp only [paraBytes, List.flatMap_nil, List.length_nil, Nat.add_zero, csegs] at h1
    simpa [AF, first5] using h1
  refine ⟨⟨r', s1.nodes, s1.pc⟩, ?_, by simp only [node5E]; rw [h2, ← en], by simp only; rw [h4]; rfl⟩
  rw [tailT_of_lines h1']
  simp only [Bool.false_eq_true, if_false]
  rw [es1]; exact hb

/-- the last block is an ATX heading or a thematic break -/
theorem leaf_tail_last (b : RawBlock) (hnp : ∀ ls, b ≠ .para ls) (hg : Good5 (.old b)) {p : Nat} {l : Bytes}
    (hlines : lines5 (.old b) = [l]) (hl : LastLn src p l) (k : Int) (fl fb : Nat)
    (BL : List LineStat) (d : Blocks.Node) (cs : List Blocks.Node) (bk : Bool) (pc : Ctx) (hfl : 2 ≤ fl) :
    ∃ s', tailT fl fb BL (AF src [] k src.length d cs (.old b) p bk pc) = .ok ((), s') ∧
      s'.nodes = { d with children := d.children ++ [cs.length + 1] } :: (cs ++ [node5E p (.old b) bk]) ∧
      s'.pc.refs = pc.refs := by
  have key : ∀ (x : Blocks.Node) (bp : BP), closingBP bp → x.kind ≠ .paragraph → x.parent = some 0 →
      first5 [] p src.length (.old b) bk = x → pcAF (.old b) cs.length pc =
        { pc with blockOffset := 0, blockIndent := 0, opened := [{ node := cs.length + 1, bp := bp }] } →
      x = node5E p (.old b) bk →
      ∃ s', tailT fl fb BL (AF src [] k src.length d cs (.old b) p bk pc) = .ok ((), s') ∧
        s'.nodes = { d with children := d.children ++ [cs.length + 1] } :: (cs ++ [node5E p (.old b) bk]) ∧
        s'.pc.refs = pc.refs := by
    intro x bp hbp hk hpar hx hpc hnode
    obtain ⟨ret, bl', s1, h1, h2, h3, h4, h5⟩ :=
      linesLoop_leaf (src := src) bp hbp { d with children := d.children ++ [cs.length + 1] } cs x hk hpar src.length k fl
        BL (pcAF (.old b) cs.length pc) (Or.inl rfl) hfl (by rw [hpc])
    have hret : ret = true := by
      rcases h5 with h | h
      · exact h.1
      · have := h.2.1.le; omega
    subst hret
    refine ⟨s1, ?_, by rw [h2, hnode], by rw [h4, hpc]⟩
    rw [AF, hx, tailT_of_lines h1]
    simp [pure_apply]
  cases b with
  | para ls => exact absurd rfl (hnp ls)
  | atx level l' =>
    have hll : l = List.replicate level 35 ++ 32 :: l' := by simpa [lines5, lines4] using hlines.symm
    have he : p + level + 1 + l'.length = src.length := by
      have := hl.eof; rw [hll] at this; simp at this; omega
    exact key _ .atx (Or.inl rfl) (by simp [first5, headN]) rfl rfl rfl (by simp [first5, node5E, node5, node4, he])
  | hr h =>
    exact key _ .thematic (Or.inr rfl) (by simp [first5, hrN]) rfl rfl rfl (by simp [first5, node5E, node5, node4])

end last

end GM.Proof.CMFrag
end CMFrag7Last

/-
  section CMFrag12Last — stage 12 without the final line feed: the LAST block is an indented code block whose last line
  ends the source. The line is taken by `codeBlockParser.Open` / `Continue` like every other line (the segment ends with
  the source, ForceNewline supplies the line feed of its value), the end of the source closes the block.
-/
section CMFrag12Last
namespace GM.Proof.CMFrag
open GM GM.Text GM.Blocks GM.Spec

section last12
variable {src : Bytes}

theorem seg_value12E (p e : Nat) (v : Bytes) (hsub : sub src p e = v) (hpe : p ≤ e) (he : e ≤ src.length)
    (hne : v ≠ []) (hnn : v.getLast? ≠ some 10) : (csg p e).value src = .ok (v ++ [10]) := by
  have c2 : (0 ≤ (p : Int) ∧ (p : Int) ≤ (e : Int) ∧ (e : Int) ≤ (src.length : Int)) := by omega
  have h1 : v.isEmpty = false := by cases v with
    | nil => exact absurd rfl hne
    | cons a t => rfl
  have h2 : (v.getLast? != some 10) = true := by simpa [bne_iff_ne] using hnn
  simp [csg, Segment.value, sliceB, c2, needsNewline, hsub, h1, h2, bind, Except.bind, pure, Except.pure]

/-- the segment of the last line (no line feed) of an indented code block -/
theorem fullSeg_icE {Q : Nat} {l : Bytes} (hl : LastLn src Q (ind4 ++ l)) (hg : IcLine l) :
    FullSeg src (csg (Q + 4) (Q + 4 + l.length)) := by
  obtain ⟨c, t, rfl, hc⟩ := hg.first
  have hln := hl.ln
  have hle := hln.le
  have hlen : (ind4 ++ c :: t).length = 4 + (c :: t).length := by simp [ind4]; omega
  rw [hlen] at hln hle
  have hsub : sub src (Q + 4) (Q + (4 + (c :: t).length)) = c :: t := by
    have := sub_shift (src := src) (p := Q) (e := Q + (4 + (c :: t).length)) (a := ind4) (w := c :: t) (by rw [hln.sub])
    simpa [ind4] using this
  have e : Q + 4 + (c :: t).length = Q + (4 + (c :: t).length) := by omega
  rw [e]
  refine ⟨(c :: t) ++ [10], ?_, by simp [isBlank, hc]⟩
  refine seg_value12E (Q + 4) (Q + (4 + (c :: t).length)) (c :: t) hsub (by omega) hle (by simp) ?_
  intro h
  exact hg.noNl 10 (List.mem_of_getLast? h) rfl

theorem icsegsE_snoc : ∀ (xs : List Bytes) (l : Bytes) (p : Nat),
    icsegsE p (xs ++ [l]) = icsegs p xs ++
      [csg (p + (paraBytes (icLines xs)).length + 4) (p + (paraBytes (icLines xs)).length + 4 + l.length)]
  | [], l, p => by simp [icsegsE, icsegs, paraBytes, icLines]
  | a :: rest, l, p => by
    have ih := icsegsE_snoc rest l (p + 4 + a.length + 1)
    have e : p + 4 + a.length + 1 + (paraBytes (icLines rest)).length = p + (paraBytes (icLines (a :: rest))).length := by
      simp [icLines, paraBytes, ind4]; omega
    cases h : rest ++ [l] with
    | nil => simp at h
    | cons y ys =>
      rw [h] at ih
      simp only [List.cons_append, h, icsegsE, icsegs, ih, e]

/-- the end of the source with the CodeBlock (no blank line absorbed) open -/
theorem linesLoop_code_eofA (k : Int) (d : Blocks.Node) (rest : List Blocks.Node) (A : List Segment) (s : Segment)
    (b : Bool) (hs : FullSeg src s) (pc : Ctx) (hop : pc.opened = [{ node := rest.length + 1, bp := .code }])
    (bl : List LineStat) (f : Nat) :
    linesLoopT pts 0 (f + 1) bl
        ⟨rdr src k src.length src.length (lineEnd src src.length) none (-1), d :: (rest ++ [codeN (A ++ [s]) b]), pc⟩ =
      .ok ((true, bl),
        ⟨rdr src (k + 1) (lineEnd src src.length) (lineEnd src src.length) (lineEnd src (lineEnd src src.length)) none (-1),
          d :: (rest ++ [codeN (A ++ [s]) b]), { pc with opened := [] }⟩) := by
  have h := lineLoop_code_eof (src := src) k (lineEnd src src.length) d rest A s [] b hs (by simp) pc hop bl
  simp only [List.append_nil] at h
  exact pass_eof k _ pc _ hop bl bl f _ h

/-- the per-line loop over the further lines `mid` (with line feed) and the last line `l` (without) of the open indented
    code block, to the end of the source -/
theorem ic_run_last (d : Blocks.Node) (rest : List Blocks.Node) (b : Bool) (P : Nat) (done mid : List Bytes) (l : Bytes)
    (hmid : ParaAt src (P + (paraBytes (icLines done)).length) (icLines mid)) (hgm : ∀ x ∈ mid, IcLine x)
    (hl : LastLn src (P + (paraBytes (icLines (done ++ mid))).length) (ind4 ++ l)) (hgl : IcLine l)
    (k : Int) (fl : Nat) (bl : List LineStat) (pc : Ctx)
    (hop : pc.opened = [{ node := rest.length + 1, bp := .code }]) (hf : mid.length + 2 ≤ fl) :
    ∃ bl' s',
      linesLoopT pts 0 fl bl
          ⟨rdr src k (P + (paraBytes (icLines done)).length) (P + (paraBytes (icLines done)).length)
            (lineEnd src (P + (paraBytes (icLines done)).length)) none (-1),
            d :: (rest ++ [codeN (icsegs P done) b]), pc⟩ = .ok ((true, bl'), s') ∧
        s'.nodes = d :: (rest ++ [codeN (icsegsE P (done ++ mid ++ [l])) b]) ∧ s'.pc.refs = pc.refs := by
  obtain ⟨f, rfl⟩ : ∃ f, fl = (f + 1 + 1) + mid.length := ⟨fl - mid.length - 2, by omega⟩
  obtain ⟨bl1, k1, hbody⟩ := code_body (src := src) d rest b P mid done k (f + 1 + 1) bl pc hmid hgm hop
  obtain ⟨c, t, hlc, hc⟩ := hgl.first
  have hln := hl.ln
  have hlen : (ind4 ++ l).length = 4 + l.length := by simp [ind4]; omega
  have hpass := pass_next hln k1 _ _ pc _ _ hop bl1 _ _ _ (f + 1)
    (lineLoop_code_cont hln (c := c) (t := t) (by rw [hlc]) hc k1 d rest (icsegs P (done ++ mid)) b pc bl1)
  rw [hl.eof] at hpass
  have hfs := fullSeg_icE hl hgl
  have hfin := linesLoop_code_eofA (src := src) (k1 + 1) d rest (icsegs P (done ++ mid))
    (csg (P + (paraBytes (icLines (done ++ mid))).length + 4) (P + (paraBytes (icLines (done ++ mid))).length + 4 + l.length))
    b hfs pc hop (bl1 ++ [{ lineNum := k1, level := 0, isBlank := isBlank (ind4 ++ l) }]) f
  have eend : P + (paraBytes (icLines (done ++ mid))).length + 4 + l.length = src.length := by
    have := hl.eof; rw [hlen] at this; omega
  rw [eend] at hfin
  refine ⟨_, _, hbody.trans (hpass.trans hfin), ?_, rfl⟩
  simp only
  rw [icsegsE_snoc, eend]
theorem icLines_snoc (xs : List Bytes) (l : Bytes) : icLines (xs ++ [l]) = icLines xs ++ [ind4 ++ l] := by
  simp [icLines]

/-- the last block is an indented code block of one line -/
theorem ic_tail_single (l : Bytes) (hgl : IcLine l) {p : Nat} (hl : LastLn src p (ind4 ++ l)) (k : Int) (fl fb : Nat)
    (BL : List LineStat) (d : Blocks.Node) (cs : List Blocks.Node) (bk : Bool) (pc : Ctx) (hfl : 1 ≤ fl) :
    ∃ s', tailT fl fb BL (AF src [] k src.length d cs (.icode [l]) p bk pc) = .ok ((), s') ∧
      s'.nodes = { d with children := d.children ++ [cs.length + 1] } :: (cs ++ [node5E p (.icode [l]) bk]) ∧
      s'.pc.refs = pc.refs := by
  obtain ⟨fl', rfl⟩ : ∃ fl', fl = fl' + 1 := ⟨fl - 1, by omega⟩
  have hlen : (ind4 ++ l).length = 4 + l.length := by simp [ind4]; omega
  have eend : p + 4 + l.length = src.length := by have := hl.eof; rw [hlen] at this; omega
  have hfs : FullSeg src (csg (p + 4) src.length) := by rw [← eend]; exact fullSeg_icE hl hgl
  have hfin := linesLoop_code_eofA (src := src) k { d with children := d.children ++ [cs.length + 1] } cs []
    (csg (p + 4) src.length) bk hfs (pcAF (.icode [l]) cs.length pc) rfl BL fl'
  refine ⟨_, tailT_of_lines hfin, ?_, rfl⟩
  simp [node5E, icsegsE, eend]

/-- the last block is an indented code block of several lines -/
theorem ic_tail_multi (x0 : Bytes) (mid : List Bytes) (l : Bytes) (hg : ∀ x ∈ x0 :: (mid ++ [l]), IcLine x) {p : Nat}
    (hE : ParaAtE src p (lines5 (.icode (x0 :: (mid ++ [l]))))) (k : Int) (fl fb : Nat)
    (BL : List LineStat) (d : Blocks.Node) (cs : List Blocks.Node) (bk : Bool) (pc : Ctx) (hfl : mid.length + 2 ≤ fl) :
    ∃ s', tailT fl fb BL (AF src [10] k (p + 4 + x0.length + 1) d cs (.icode (x0 :: (mid ++ [l]))) p bk pc) =
        .ok ((), s') ∧
      s'.nodes = { d with children := d.children ++ [cs.length + 1] } ::
        (cs ++ [node5E p (.icode (x0 :: (mid ++ [l]))) bk]) ∧
      s'.pc.refs = pc.refs := by
  have hE' : ParaAtE src p (icLines (x0 :: mid) ++ [ind4 ++ l]) := by
    have := hE
    simp only [lines5, ← List.cons_append, icLines_snoc] at this
    exact this
  obtain ⟨hpa, hl⟩ := (paraAtE_snoc _ _ p).mp hE'
  have e4 : (ind4 ++ x0).length = 4 + x0.length := by simp [ind4]; omega
  have e0 : p + (paraBytes (icLines [x0])).length = p + 4 + x0.length + 1 := by
    simp [paraBytes, icLines, ind4]; omega
  have hmid : ParaAt src (p + (paraBytes (icLines [x0])).length) (icLines mid) := by
    have := hpa.2
    rw [e4] at this
    rw [e0]
    have e : p + (4 + x0.length) + 1 = p + 4 + x0.length + 1 := by omega
    rw [e] at this; exact this
  obtain ⟨bl', s', h1, h2, h3⟩ :=
    ic_run_last (src := src) { d with children := d.children ++ [cs.length + 1] } cs bk p [x0] mid l
      hmid (fun x hx => hg x (by simp [hx])) (by simpa using hl) (hg l (by simp)) k fl BL
      (pcAF (.icode (x0 :: (mid ++ [l]))) cs.length pc) rfl hfl
  rw [e0] at h1
  refine ⟨s', ?_, by rw [h2]; simp [node5E], by rw [h3]; rfl⟩
  rw [tailT_of_lines (by simpa [AF, first5, icsegs] using h1)]
  simp [pure_apply]
end last12

end GM.Proof.CMFrag
end CMFrag12Last

section CMFrag7Run
namespace GM.Proof.CMFrag
open GM GM.Text GM.Blocks GM.Spec

/-- a stage-6 document in a source WITHOUT final line feed: the last block's last line ends the source -/
def DocAt6E (src : Bytes) : Nat → List (Nat × Raw5) → Nat → Prop
  | _, [], _ => False
  | q, [(s, b)], trail => trail = 0 ∧ BlanksAt src q s ∧ ParaAtE src (q + s) (lines5 b)
  | q, (s, b) :: it :: rest, trail =>
    BlanksAt src q s ∧ ParaAt src (q + s) (lines5 b) ∧
      DocAt6E src (q + s + (paraBytes (lines5 b)).length) (it :: rest) trail

section run7
variable {src : Bytes}

/-- the last block `b` of a source without final line feed: from behind its first line to the end -/
theorem tail7_last (b : Raw5) : Tail6 node5E src b [] (fun p trail => trail = 0 ∧ ParaAtE src p (lines5 b)) := by
  intro p trail hg hT
  obtain ⟨rfl, hE⟩ := hT
  -- a block of one line, which ends the source
  have single : ∀ l, lines5 b = [l] →
      (∀ (k : Int) (fl fb : Nat) (BL : List LineStat) (d : Blocks.Node) (cs : List Blocks.Node) (bk : Bool) (pc : Ctx),
        2 ≤ fl → ∃ s', tailT fl fb BL (AF src [] k src.length d cs b p bk pc) = .ok ((), s') ∧
          s'.nodes = { d with children := d.children ++ [cs.length + 1] } :: (cs ++ [node5E p b bk]) ∧
          s'.pc.refs = pc.refs) →
      TailAt node5E src b [] p 0 := by
    intro l hlines hrun
    rw [hlines] at hE
    refine ⟨src.length, [], Or.inl rfl, fun _ => by rw [hlines]; rfl, ?_, fun _ _ _ k fl fb BL d cs bk pc hfl _ => ?_⟩
    · have := hE.1; rw [hE.2] at this
      simpa [firstLineT, hlines] using this
    · obtain ⟨s', h1, h2, h3⟩ := hrun k fl fb BL d cs bk pc (by rw [hlines] at hfl; simp [left6] at hfl; omega)
      exact ⟨s', [], h1, rfl, by rw [h2]; simp [addKids, mkNodes5L, closedOf6], h3⟩
  -- a block of several lines
  have multi : ∀ x0 y r, lines5 b = x0 :: y :: r →
      (∀ (k : Int) (fl fb : Nat) (BL : List LineStat) (d : Blocks.Node) (cs : List Blocks.Node) (bk : Bool) (pc : Ctx),
        r.length + 3 ≤ fl → 1 ≤ fb →
        ∃ s', tailT fl fb BL (AF src [10] k (p + x0.length + 1) d cs b p bk pc) = .ok ((), s') ∧
          s'.nodes = { d with children := d.children ++ [cs.length + 1] } :: (cs ++ [node5E p b bk]) ∧
          s'.pc.refs = pc.refs) →
      TailAt node5E src b [] p 0 := by
    intro x0 y r hlines hrun
    have hE' := hE
    rw [hlines] at hE'
    refine ⟨p + x0.length + 1, [10], Or.inr rfl, (fun h => by cases h), ?_, fun _ _ _ k fl fb BL d cs bk pc hfl hfb => ?_⟩
    · simpa [firstLineT, hlines] using hE'.1
    · obtain ⟨s', h1, h2, h3⟩ := hrun k fl fb BL d cs bk pc (by rw [hlines] at hfl; simp [left6] at hfl; omega)
        (by simp [left6] at hfb; omega)
      exact ⟨s', [], h1, rfl, by rw [h2]; simp [addKids, mkNodes5L, closedOf6], h3⟩
  cases b with
  | old b' =>
    cases b' with
    | para ls =>
      obtain ⟨hne, hbk⟩ := hg
      obtain ⟨xs, l, rfl⟩ : ∃ xs l, ls = xs ++ [l] := ⟨ls.dropLast, ls.getLast hne, (List.dropLast_concat_getLast hne).symm⟩
      cases xs with
      | nil =>
        exact single l rfl fun k fl fb BL d cs bk pc hfl =>
          para_tail_single l (hbk l (by simp)) ⟨hE.1, hE.2⟩ k fl fb BL d cs bk pc (by omega)
      | cons x0 mid =>
        cases hm : mid ++ [l] with
        | nil => simp at hm
        | cons y r =>
          refine multi x0 y r (by simp [lines5, lines4, hm]) fun k fl fb BL d cs bk pc hfl _ => ?_
          have hlen : (mid ++ [l]).length = r.length + 1 := by rw [hm]; rfl
          exact para_tail_multi x0 mid l hbk (by simpa [lines5, lines4] using hE) k fl fb BL d cs bk pc
            (by simp at hlen; omega)
    | atx level l =>
      exact single _ rfl fun k fl fb BL d cs bk pc hfl =>
        leaf_tail_last (.atx level l) (fun _ h => by cases h) hg rfl ⟨hE.1, hE.2⟩ k fl fb BL d cs bk pc hfl
    | hr h =>
      exact single _ rfl fun k fl fb BL d cs bk pc hfl =>
        leaf_tail_last (.hr h) (fun _ h => by cases h) hg rfl ⟨hE.1, hE.2⟩ k fl fb BL d cs bk pc hfl
  | fence fc n info ls =>
    cases hm : ls ++ [List.replicate (n + 3) fc] with
    | nil => simp at hm
    | cons y r =>
      refine multi (List.replicate (n + 3) fc ++ info) y r (by simp [lines5, hm]) fun k fl fb BL d cs bk pc hfl hfb => ?_
      have hlen : (ls ++ [List.replicate (n + 3) fc]).length = r.length + 1 := by rw [hm]; rfl
      have hE' : ParaAtE src p ((List.replicate (n + 3) fc ++ info) :: y :: r) := by simpa [lines5, hm] using hE
      exact fence_tail_last fc n info ls hg p _ (by simpa [firstLineT, lines5] using hE'.1) hE k fl fb BL d cs bk pc
        (by simp at hlen; omega) hfb
  | icode ls =>
    obtain ⟨hne, hg'⟩ := hg
    obtain ⟨xs, l, rfl⟩ : ∃ xs l, ls = xs ++ [l] := ⟨ls.dropLast, ls.getLast hne, (List.dropLast_concat_getLast hne).symm⟩
    cases xs with
    | nil =>
      exact single (ind4 ++ l) rfl fun k fl fb BL d cs bk pc hfl =>
        ic_tail_single l (hg' l (by simp)) ⟨hE.1, hE.2⟩ k fl fb BL d cs bk pc (by omega)
    | cons x0 mid =>
      cases hm : mid ++ [l] with
      | nil => simp at hm
      | cons y r =>
        refine multi (ind4 ++ x0) (ind4 ++ y) (icLines r) (by simp [lines5, icLines, hm]) fun k fl fb BL d cs bk pc hfl _ => ?_
        have hlen : (mid ++ [l]).length = r.length + 1 := by rw [hm]; rfl
        have e4 : p + (ind4 ++ x0).length + 1 = p + 4 + x0.length + 1 := by simp [ind4]; omega
        rw [e4]
        exact ic_tail_multi x0 mid l hg' hE k fl fb BL d cs bk pc (by simp [icLines] at hlen hfl; omega)

theorem claim7_last (b : Raw5) : ∀ s, Claim6 node5E (DocAt6E src) src [(s, b)] :=
  claim6_step node5E (DocAt6E src) [] b (fun p trail => trail = 0 ∧ ParaAtE src p (lines5 b))
    (fun q s trail => ⟨fun h => ⟨h.2.1, h.1, h.2.2⟩, fun h => ⟨h.2.1, h.1, h.2.2⟩⟩) (tail7_last b)

/-- the last block of the document is not an indented code block (whose node, when its last line has no line feed, is
    `node5E` and not `node5`: section CMFrag12Last) -/
def LastNotIc : List (Nat × Raw5) → Prop
  | [] => True
  | [(_, b)] => isIcB b = false
  | _ :: it :: rest => LastNotIc (it :: rest)

theorem lastNotIc_of_none : ∀ (items : List (Nat × Raw5)), (∀ it ∈ items, isIcB it.2 = false) → LastNotIc items
  | [], _ => trivial
  | [(s, b)], h => h (s, b) (by simp)
  | _ :: it :: rest, h => lastNotIc_of_none (it :: rest) (fun x hx => h x (by simp [hx]))

theorem lastNotIc_getLast : ∀ (items : List (Nat × Raw5)), LastNotIc items →
    ∀ b, (items.map (·.2)).getLast? = some b → isIcB b = false
  | [], _, b, h => by simp at h
  | [(s, b0)], hl, b, h => by
    simp at h; subst h; exact hl
  | _ :: it :: rest, hl, b, h => by
    rw [List.map_cons, List.map_cons, List.getLast?_cons_cons] at h
    exact lastNotIc_getLast (it :: rest) hl b (by simpa using h)

/-- both claims for every non-empty document without final line feed -/
theorem claim7_all :
    ∀ (items : List (Nat × Raw5)), items ≠ [] → Claim6 node5E (DocAt6E src) src items
  | [], h => absurd rfl h
  | [(s, b)], _ => claim7_last b s
  | (s, b) :: it :: rest, _ =>
    claim6_cons node5E (DocAt6E src) (it :: rest) (claim7_all (it :: rest) (by simp)) b
      (fun h => by simp at h) (fun _ _ _ => Iff.rfl) s
end run7

end GM.Proof.CMFrag
end CMFrag7Run
