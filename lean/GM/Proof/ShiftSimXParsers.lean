/-
  GM.Proof.ShiftSimXParsers — the per-parser contracts of the shift simulation for a source with a suffix (`OpenSim` /
  `ContinueSim` / `CloseSim`) and the parsers that meet them: the paragraph parser (parser/paragraph.go) as the pattern;
  the leaf parsers thematic_break.go, atx_heading.go, setext_headings.go (and the trivial Continue / Close functions); the
  indented code block parser (parser/code_block.go); the block quote parser (parser/blockquote.go) and the HTML block parser
  (parser/html_block.go). `cw_*`: `Continue` of the four parsers that read their line keeps the full relation whatever the
  end of run A's source is; a line (and a line feed at the end of `b`) is asked for only when the suffix is not empty.
-/
import GM.Proof.ShiftSimXRel
import GM.Proof.BlocksSpecFenced
import GM.Proof.BlocksSpecCode
import GM.Proof.BlocksInv
import GM.Proof.BlocksQuote

namespace GM.Blocks.Xs
open GM GM.Text GM.Spec GM.Proof.Reader GM.Blocks

/-- the reader of run A stands on a line -/
def HasLine (b : Bytes) (s : St) : Prop := ∃ c, RI b s.r c ∧ c.p < b.length

/-- the source of run A is empty or ends with a line feed -/
def NL (b : Bytes) : Prop := b = [] ∨ b.getLast? = some 10

theorem HasLine.last_of_nl {b : Bytes} {s : St} (hl : HasLine b s) (hnl : NL b) : b.getLast? = some 10 := by
  obtain ⟨c, _, hp⟩ := hl
  rcases hnl with e | e
  · subst e; simp at hp
  · exact e

theorem HasLine.at {b : Bytes} {s : St} (hl : HasLine b s) {c : RCur} (hc : RI b s.r c) : c.p < b.length := by
  obtain ⟨c', hc', hp⟩ := hl
  have e := hc'.pos
  rw [hc.pos] at e
  have : (c.p : Int) = c'.p := by have := congrArg Segment.start e; simpa using this
  omega

/-- `Open` from related states on a line: same answer (node id mapped), afterwards at least the limbo relation, and
    the full relation when the answer is nil (the next parser is tried) or HasChildren (`goto retry`); a list /
    list item that was opened leaves the flag `emptyListItemWithBlankLines` equal on both sides. -/
def OpenSim (F : Frame) (b : Bytes) (bp : BP) : Prop := ∀ parent sA sB, SR F b sA sB → HasLine b sA →
  P2 (fun x y sA' sB' => y = (x.1.map F.ι, x.2) ∧ SRLim F b sA' sB' ∧
      ((x.2.hasChildren = true ∨ x.1 = none) → SR F b sA' sB') ∧
      ((bp = .list ∨ bp = .listItem) → x.1.isSome = true → sB'.pc.emptyItemBlank = sA'.pc.emptyItemBlank))
    (bpOpen bp parent sA) (bpOpen bp (F.ι parent) sB)

/-- `Continue` from related states on a line: same answer, related states -/
def ContinueSim (F : Frame) (b : Bytes) (bp : BP) : Prop := ∀ node sA sB, SR F b sA sB → HasLine b sA → NL b →
  P2 (fun x y sA' sB' => y = x ∧ SR F b sA' sB') (bpContinue bp node sA) (bpContinue bp (F.ι node) sB)

/-- `Close` does not look at the reader (except for its source) -/
def CloseSim (F : Frame) (b : Bytes) (bp : BP) : Prop := ∀ node rA rB sA sB, SRL F b rA rB sA sB →
  P2 (fun _ _ sA' sB' => SRL F b rA rB sA' sB') (bpClose bp node sA) (bpClose bp (F.ι node) sB)

/-- facts about what `PeekLine` returned for the cursor `c` when a line is there -/
theorem _root_.GM.Blocks.view_some_facts {b : Bytes} {c : RCur} (hp : c.p < b.length) :
    ∃ l, RCur.view b c = some l ∧ (l.length : Int) = (RCur.seg b c).len ∧ 0 < l.length ∧
      (RCur.seg b c).start < (RCur.seg b c).stop ∧ 0 ≤ (RCur.seg b c).padding := by
  refine ⟨_, view_eq b c hp, view_len b c hp (view_eq b c hp), ?_, ?_, ?_⟩
  · have h1 := lt_lineEnd b hp
    have h2 := lineEnd_le b c.p
    simp [spaces, length_sub b h2]; omega
  · have h1 := lt_lineEnd b hp
    simp [RCur.seg]; omega
  · simp [RCur.seg]

theorem _root_.GM.Blocks.isBlank_nil : isBlank ([] : Bytes) = true := by decide

/-- `PeekLine` for the cursor `c` known in front: the cursor stays -/
theorem peekLine_p2c {F : Frame} {b : Bytes} {sA sB : St} (h : SR F b sA sB) {c : RCur} (hc : RI b sA.r c)
    (hq : F.q = [] ∨ c.p < b.length) :
    P2 (fun x y sA' sB' => RI b sA'.r c ∧ x = (RCur.view b c, RCur.seg b c) ∧ y = (x.1, moveSeg F.d x.2) ∧
        SR F b sA' sB') (peekLine sA) (peekLine sB) := by
  obtain ⟨r', h1, h2⟩ := ri_peekLine hc
  have hB : sB.r.peekLine = .ok ((RCur.view b c, moveSeg F.d (RCur.seg b c)), shR F r') := by
    rw [h.r, peekLine_sh F _ (RI.start_nonneg hc) (RI.peek_hq hc (hq.imp id (fun x => ⟨c, hc, x⟩))), h1]; rfl
  unfold GM.Blocks.peekLine
  rw [h1, hB]
  exact P2.ok ⟨h2, rfl, rfl, h.withR h2⟩

/-- `LineOffset` for the cursor `c` known in front: the cursor stays -/
theorem lineOffset_p2c {F : Frame} {b : Bytes} {sA sB : St} (h : SR F b sA sB) {c : RCur} (hc : RI b sA.r c) :
    P2 (fun x y sA' sB' => y = x ∧ RI b sA'.r c ∧ SR F b sA' sB') (lineOffset sA) (lineOffset sB) := by
  obtain ⟨v, r', h1, h2, h3⟩ := ri_lineOffset hc
  have hB : sB.r.lineOffsetOp = .ok (v, shR F r') := by
    rw [h.r, lineOffsetOp_sh F _ hc.head (.inr (by have := hc.inRange; rw [hc.source, hc.pos]; simp only; omega)), h1]; rfl
  unfold GM.Blocks.lineOffset
  rw [h1, hB]
  exact P2.ok ⟨rfl, h2, h.withR h2⟩

/-! ### paragraph.go -/

theorem trimLeftSpace_facts {src : Bytes} {t r : Segment} (h : t.trimLeftSpace src = .ok r) :
    t.start ≤ r.start ∧ r.stop = t.stop ∧ r.padding = 0 := by
  unfold Segment.trimLeftSpace at h
  cases hv : sliceB src t.start t.stop with
  | error e => rw [hv] at h; cases h
  | ok v =>
    rw [hv] at h
    simp only [bind, Except.bind, pure, Except.pure] at h
    cases h
    exact ⟨by simp only; omega, rfl, rfl⟩

theorem paragraphOpen_sim (F : Frame) (b : Bytes) (hq : QNL F b) : OpenSim F b .paragraph := by
  intro parent sA sB h hl
  show P2 _ (paragraphOpen parent sA) (paragraphOpen (F.ι parent) sB)
  unfold paragraphOpen
  refine P2.bind (peekLine_p2 h (.inr hl)) (fun x y sA1 sB1 ⟨⟨c, hc, hx⟩, hy, h1⟩ => ?_)
  subst hx hy
  refine P2.bind (source_p2 h1) (fun a a' sA2 sB2 ⟨ha, hb, e1, e2⟩ => ?_)
  subst e1 e2
  rw [ha, hb]
  refine P2.bind (P := fun s t sA' sB' => (t = moveSeg F.d s ∧ (RCur.seg b c).trimLeftSpace b = .ok s) ∧
      sA2 = sA' ∧ sB2 = sB')
    (P2.liftE (fun s t e1 e2 => ?_)) (fun s t sA3 sB3 ⟨⟨ht, htr⟩, e1, e2⟩ => ?_)
  · have := trimLeftSpace_sh F _ e1
    simp only at this e2
    rw [this] at e2; cases e2; exact ⟨⟨rfl, e1⟩, rfl, rfl⟩
  subst ht e1 e2
  rw [moveSeg_isEmpty]
  by_cases hemp : s.isEmpty = true
  · rw [if_pos hemp, if_pos hemp]
    exact P2.pure ⟨rfl, h1.limbo hq, fun _ => h1, fun hh => by cases hh <;> contradiction⟩
  · rw [if_neg hemp, if_neg hemp]
    refine P2.bind (newNode_l h1.l _ _ (by simp [shN, shClosure])) (fun n m sA4 sB4 ⟨_, hm, _, h4l⟩ => ?_)
    subst hm
    refine P2.bind (appendLine_l h4l n rfl) (fun _ _ sA5 sB5 h5l => ?_)
    have h5 := h5l.sr h1
    rw [moveSeg_len]
    have hr : sA5.r.pos.start < sA5.r.pos.stop ∧
        sA5.r.pos.start + (s.len - 1) < sA5.r.pos.stop + sA5.r.pos.padding := by
      obtain ⟨f1, f2, f3⟩ := trimLeftSpace_facts htr
      have f4 : s.start < s.stop := by
        simp only [Segment.isEmpty, f3] at hemp
        simp at hemp
        omega
      rw [h5l.ra, hc.pos]
      simp only [RCur.seg, Segment.len] at f1 f2 ⊢
      omega
    refine P2.bind (advance_limbo h5 _ hq (.inr (.inr hr))) (fun _ _ sA6 sB6 h6 => ?_)
    exact P2.pure ⟨rfl, h6, fun hh => by rcases hh with hh | hh <;> simp [stNoChildren] at hh,
      fun hh => by cases hh <;> contradiction⟩

/-- `Continue` keeps the full relation whatever the end of run A's source is; a line is asked for only when run B's
    source goes on behind run A's -/
theorem cw_paragraphContinue (F : Frame) (b : Bytes) : ∀ node sA sB, SR F b sA sB → (F.q = [] ∨ HasLine b sA) →
    P2 (fun x y sA' sB' => y = x ∧ SR F b sA' sB') (bpContinue .paragraph node sA) (bpContinue .paragraph (F.ι node) sB) := by
  intro node sA sB h hl
  show P2 _ (paragraphContinue node sA) (paragraphContinue (F.ι node) sB)
  unfold paragraphContinue
  refine P2.bind (peekLine_p2 h hl) (fun x y sA1 sB1 ⟨⟨c, hc, hx⟩, hy, h1⟩ => ?_)
  subst hx hy
  simp only
  by_cases hb : isBlank ((RCur.view b c).getD []) = true
  · rw [if_pos hb, if_pos hb]; exact P2.pure ⟨rfl, h1⟩
  · rw [if_neg hb, if_neg hb]
    refine P2.bind (appendLine_l h1.l node rfl) (fun _ _ sA2 sB2 h2l => ?_)
    have h2 := h2l.sr h1
    have hp : c.p < b.length := by
      apply Decidable.byContradiction
      intro hp
      rw [view_none b c hp] at hb
      exact hb isBlank_nil
    have hle := lt_lineEnd b hp
    have hn : 0 ≤ (RCur.seg b c).len - 1 := by
      simp only [RCur.seg, Segment.len]; omega
    have hr : sA2.r.pos.start < sA2.r.pos.stop ∧
        sA2.r.pos.start + ((RCur.seg b c).len - 1) < sA2.r.pos.stop + sA2.r.pos.padding := by
      rw [h2l.ra, hc.pos]
      simp only [RCur.seg, Segment.len]; omega
    refine P2.bind (advance_p2 h2 (by rw [moveSeg_len]) hn (.inr hr)) (fun _ _ sA3 sB3 h3 => ?_)
    exact P2.pure ⟨rfl, h3⟩

theorem paragraphContinue_sim (F : Frame) (b : Bytes) : ContinueSim F b .paragraph :=
  fun node sA sB h hl _ => cw_paragraphContinue F b node sA sB h (.inr hl)

theorem paragraphClose_sim (F : Frame) (hF : F.OK) (b : Bytes) : CloseSim F b .paragraph := by
  intro node rA rB sA sB h
  show P2 _ (paragraphClose node sA) (paragraphClose (F.ι node) sB)
  unfold paragraphClose
  refine P2.bind (getNode_l h node) (fun n m sA1 sB1 ⟨hn, hm, e1, e2⟩ => ?_)
  subst e1 e2 hm
  refine P2.bind (source_l h) (fun a a' sA2 sB2 ⟨ha, hb, e1, e2⟩ => ?_)
  subst e1 e2
  rw [ha, hb]
  rw [shN_lines, List.length_map]
  have tail : ∀ sA3 sB3, SRL F b rA rB sA3 sB3 → P2 (fun _ _ sA' sB' => SRL F b rA rB sA' sB')
      ((do let n ← getNode node
           if (n.lines.length == 0) = true then
             match n.parent with
             | none => throw Panic.nil
             | some p => removeChild p node
           else pure ()) sA3)
      ((do let n ← getNode (F.ι node)
           if (n.lines.length == 0) = true then
             match n.parent with
             | none => throw Panic.nil
             | some p => removeChild p (F.ι node)
           else pure ()) sB3) := by
    intro sA3 sB3 h3
    refine P2.bind (getNode_l h3 node) (fun n2 m2 sA4 sB4 ⟨hn2, hm2, e1, e2⟩ => ?_)
    subst e1 e2 hm2
    rw [shN_lines, List.length_map, shN_parent]
    by_cases hl : (n2.lines.length == 0) = true
    · rw [if_pos hl, if_pos hl]
      cases n2.parent with
      | none => exact P2.throwL
      | some p => exact removeChild_l hF h3 p node
    · rw [if_neg hl, if_neg hl]; exact P2.pure h3
  by_cases hl : (n.lines.length != 0) = true
  · rw [if_pos hl, if_pos hl]
    refine P2.bind (P := fun s t sA' sB' => t = s.map (moveSeg F.d) ∧ sA2 = sA' ∧ sB2 = sB')
      (P2.liftE (fun s t e1 e2 => ?_)) (fun s t sA3 sB3 ⟨ht, e1, e2⟩ => ?_)
    · rw [trimLeftAll_sh F _ e1] at e2; cases e2; exact ⟨rfl, rfl, rfl⟩
    subst ht e1 e2
    rw [List.length_map]
    refine P2.bind (P := fun s t sA' sB' => t = moveSeg F.d s ∧ sA2 = sA' ∧ sB2 = sB')
      (P2.liftE (fun s t e1 e2 => ?_)) (fun l1 l1' sA3 sB3 ⟨ht, e1, e2⟩ => ?_)
    · rw [lineAt_sh F.d e1] at e2; cases e2; exact ⟨rfl, rfl, rfl⟩
    subst ht e1 e2
    refine P2.bind (P := fun s t sA' sB' => t = moveSeg F.d s ∧ sA2 = sA' ∧ sB2 = sB')
      (P2.liftE (fun s t e1 e2 => ?_)) (fun l2 l2' sA3 sB3 ⟨ht, e1, e2⟩ => ?_)
    · rw [trimRightSpace_sh F _ e1] at e2; cases e2; exact ⟨rfl, rfl, rfl⟩
    subst ht e1 e2
    refine P2.bind (P := fun s t sA' sB' => t = s.map (moveSeg F.d) ∧ sA2 = sA' ∧ sB2 = sB')
      (P2.liftE (fun s t e1 e2 => ?_)) (fun ls ls' sA3 sB3 ⟨ht, e1, e2⟩ => ?_)
    · rw [lineSet_sh F.d e1] at e2; cases e2; exact ⟨rfl, rfl, rfl⟩
    subst ht e1 e2
    refine P2.bind (modNode_l h node (fun n => { n with lines := ls }) (fun n => { n with lines := ls.map (moveSeg F.d) }) (fun a => by simp [shN]) (fun _ => rfl)) (fun _ _ sA3 sB3 h3 => ?_)
    exact tail sA3 sB3 h3
  · rw [if_neg hl, if_neg hl]; exact tail _ _ h

end GM.Blocks.Xs

namespace GM.Blocks.Xs
open GM GM.Text GM.Spec GM.Proof.Reader GM.Blocks

theorem thematicContinue_sim (F : Frame) (b : Bytes) : ContinueSim F b .thematic := by
  intro node sA sB h _ _
  exact P2.pure ⟨rfl, h⟩

theorem atxContinue_sim (F : Frame) (b : Bytes) : ContinueSim F b .atx := by
  intro node sA sB h _ _
  exact P2.pure ⟨rfl, h⟩

theorem setextContinue_sim (F : Frame) (b : Bytes) : ContinueSim F b .setext := by
  intro node sA sB h _ _
  exact P2.pure ⟨rfl, h⟩

theorem thematicClose_sim (F : Frame) (b : Bytes) : CloseSim F b .thematic := by
  intro node rA rB sA sB h
  exact P2.pure h

theorem atxClose_sim (F : Frame) (b : Bytes) : CloseSim F b .atx := by
  intro node rA rB sA sB h
  exact P2.pure h

theorem listItemClose_sim (F : Frame) (b : Bytes) : CloseSim F b .listItem := by
  intro node rA rB sA sB h
  exact P2.pure h

theorem blockquoteClose_sim (F : Frame) (b : Bytes) : CloseSim F b .blockquote := by
  intro node rA rB sA sB h
  exact P2.pure h

theorem htmlClose_sim (F : Frame) (b : Bytes) : CloseSim F b .html := by
  intro node rA rB sA sB h
  exact P2.pure h

/-- from the limbo relation and a step under `SRL` with the readers fixed, the limbo relation again -/
theorem SRLim.of_l {F : Frame} {b : Bytes} {sA sB sA' sB' : St} (h : SRLim F b sA sB)
    (h' : SRL F b sA.r sB.r sA' sB') : SRLim F b sA' sB' := by
  unfold SRLim
  rw [h'.ra, h'.rb]
  exact ⟨h', h.2⟩

/-! ### thematic_break.go -/

theorem thematicOpen_sim (F : Frame) (b : Bytes) (hq : QNL F b) : OpenSim F b .thematic := by
  intro parent sA sB h hl
  show P2 _ (thematicOpen parent sA) (thematicOpen (F.ι parent) sB)
  unfold thematicOpen
  obtain ⟨c, hc0, hp⟩ := hl
  refine P2.bind (peekLine_p2c h hc0 (.inr hp)) (fun x y sA1 sB1 ⟨hc, hx, hy, h1⟩ => ?_)
  subst hx hy
  refine P2.bind (lineOffset_p2c h1 hc) (fun o o' sA2 sB2 ⟨ho, hc2, h2⟩ => ?_)
  subst ho
  simp only
  by_cases hb : isThematicBreak ((RCur.view b c).getD []) o' = true
  · rw [if_pos hb, if_pos hb]
    rw [moveSeg_len]
    have hr : sA2.r.pos.start < sA2.r.pos.stop ∧
        sA2.r.pos.start + ((RCur.seg b c).len - 1) < sA2.r.pos.stop + sA2.r.pos.padding := by
      have hle := lt_lineEnd b hp
      rw [hc2.pos]
      simp only [RCur.seg, Segment.len]; omega
    refine P2.bind (advance_limbo h2 _ hq (.inr (.inr hr))) (fun _ _ sA3 sB3 h3 => ?_)
    refine P2.bind (newNode_l h3.1 _ _ (by simp [shN, shClosure])) (fun n m sA4 sB4 ⟨_, hm, _, h4⟩ => ?_)
    subst hm
    exact P2.pure ⟨rfl, h3.of_l h4, fun hh => by rcases hh with hh | hh <;> simp [stNoChildren] at hh,
      fun hh => by cases hh <;> contradiction⟩
  · rw [if_neg hb, if_neg hb]
    exact P2.pure ⟨rfl, h2.limbo hq, fun _ => h2, fun hh => by cases hh <;> contradiction⟩

/-! ### atx_heading.go -/

/-- the postcondition of `OpenSim` -/
def OpenQ (F : Frame) (b : Bytes) (bp : BP) (x y : Option Nat × PState) (sA' sB' : St) : Prop :=
  y = (x.1.map F.ι, x.2) ∧ SRLim F b sA' sB' ∧
    ((x.2.hasChildren = true ∨ x.1 = none) → SR F b sA' sB') ∧
    ((bp = .list ∨ bp = .listItem) → x.1.isSome = true → sB'.pc.emptyItemBlank = sA'.pc.emptyItemBlank)

theorem atxMk_sh (F : Frame) (seg : Segment) (p : Int × Option (Int × Int)) :
    atxMk (moveSeg F.d seg) p = shN F false (atxMk seg p) := by
  obtain ⟨l, _ | ⟨a, z⟩⟩ := p
  · simp [atxMk, shN, shClosure]
  · simp only [atxMk, shN, shClosure, moveSeg, List.map, Option.map]
    congr 3 <;> omega

/-- both runs read the same line at the same BlockOffset (`atxOpen_eq`): the same reading `atxScan`, hence no node in both or
    the same Heading up to the shift of its line -/
theorem atxOpen_sim (F : Frame) (b : Bytes) (hq : QNL F b) : OpenSim F b .atx := by
  intro parent sA sB h hl
  show P2 (OpenQ F b .atx) (atxOpen parent sA) (atxOpen (F.ι parent) sB)
  intro x sA' y sB' eA eB
  rw [atxOpen_eq] at eA eB
  cases hpA : peekLine sA with
  | error e => rw [hpA] at eA; cases eA
  | ok xa =>
  cases hpB : peekLine sB with
  | error e => rw [hpB] at eB; cases eB
  | ok xb =>
  obtain ⟨xA, sA1⟩ := xa
  obtain ⟨xB, sB1⟩ := xb
  obtain ⟨⟨c, hc, hx⟩, hy, h1⟩ := peekLine_p2 h (.inr hl) _ _ _ _ hpA hpB
  subst hx hy
  obtain ⟨_, _, hcr, _, _⟩ := getPc_p2 h1 _ _ _ _ rfl rfl
  rw [hpA] at eA
  rw [hpB] at eB
  simp only [Except.bind, hcr.blockOffset] at eA eB
  cases ho : atxScan ((RCur.view b c).getD []) sA1.pc.blockOffset with
  | error e => rw [ho] at eA; cases eA
  | ok o =>
    rw [ho] at eA eB
    cases o with
    | none =>
      cases eA; cases eB
      exact ⟨rfl, h1.limbo hq, fun _ => h1, fun hh => by cases hh <;> contradiction⟩
    | some p =>
      obtain ⟨_, hm, _, h4⟩ := newNode_p2 h1 _ _ (atxMk_sh F (RCur.seg b c) p) _ _ _ _ rfl rfl
      cases eA; cases eB
      exact ⟨by rw [hm]; rfl, h4.limbo hq, fun _ => h4, fun hh => by cases hh <;> contradiction⟩

/-! ### setext_headings.go -/

theorem setextOpen_sim (F : Frame) (b : Bytes) (hq : QNL F b) : OpenSim F b .setext := by
  intro parent sA sB h hl
  show P2 (OpenQ F b .setext) (setextOpen parent sA) (setextOpen (F.ι parent) sB)
  unfold setextOpen
  have hnone : ∀ {sA' sB'}, SR F b sA' sB' → OpenQ F b .setext (none, stNoChildren) (none, stNoChildren) sA' sB' :=
    fun h' => ⟨rfl, h'.limbo hq, fun _ => h', fun hh => by cases hh <;> contradiction⟩
  refine P2.bind (lastOpenedBlock_p2 h) (fun x y sA1 sB1 ⟨_, hy, e1, e2⟩ => ?_)
  subst e1 e2 hy
  cases x with
  | none => exact P2.pure (hnone h)
  | some lb =>
    simp only [Option.map_some]
    have e : (shB F lb).node = F.ι lb.node := rfl
    rw [e]
    refine P2.bind (getNode_p2 h lb.node) (fun ln ln' sA2 sB2 ⟨_, hln, e1, e2⟩ => ?_)
    subst e1 e2 hln
    rw [shN_kind, shN_parent, map_ι_ne]
    by_cases hk : (ln.kind != Kind.paragraph || ln.parent != some parent) = true
    · rw [if_pos hk, if_pos hk]; exact P2.pure (hnone h)
    rw [if_neg hk, if_neg hk]
    refine P2.bind (peekLine_p2 h (.inr hl)) (fun x y sA1 sB1 ⟨⟨c, hc, hx⟩, hy, h1⟩ => ?_)
    subst hx hy
    simp only
    refine P2.bind (P := fun s t sA' sB' => s = t ∧ sA1 = sA' ∧ sB1 = sB')
      (P2.liftE_same (fun a _ => ⟨rfl, rfl, rfl⟩)) (fun r t sA3 sB3 ⟨ht, e1, e2⟩ => ?_)
    subst ht e1 e2
    by_cases hok : (!r.snd) = true
    · rw [if_pos hok, if_pos hok]; exact P2.pure (hnone h1)
    rw [if_neg hok, if_neg hok]
    refine P2.bind (newNode_p2 h1 _ _ (by simp [shN, shClosure])) (fun n m sA4 sB4 ⟨_, hm, _, h4⟩ => ?_)
    subst hm
    refine P2.bind (appendLine_p2 h4 n rfl) (fun _ _ sA5 sB5 h5 => ?_)
    refine P2.bind (modPc_p2 h5 _ _ (fun x y hxy => ?_)) (fun _ _ sA6 sB6 h6 => ?_)
    · exact ⟨⟨hxy.opened, rfl, hxy.fence, hxy.skipList, hxy.emptyItemBlank⟩, hxy.blockOffset, hxy.blockIndent⟩
    · exact P2.pure ⟨rfl, h6.limbo hq, fun _ => h6, fun hh => by cases hh <;> contradiction⟩

theorem setextClose_sim (F : Frame) (hF : F.OK) (b : Bytes) : CloseSim F b .setext := by
  intro node rA rB sA sB h
  show P2 _ (setextClose node sA) (setextClose (F.ι node) sB)
  unfold setextClose
  refine P2.bind (getNode_l h node) (fun hn m sA1 sB1 ⟨_, hm, e1, e2⟩ => ?_)
  subst e1 e2 hm
  rw [shN_lines]
  refine P2.bind (P := fun s t sA' sB' => t = moveSeg F.d s ∧ sA1 = sA' ∧ sB1 = sB')
    (P2.liftE (fun s t e1 e2 => ?_)) (fun seg t sA3 sB3 ⟨ht, e1, e2⟩ => ?_)
  · rw [lineAt_sh F.d e1] at e2; cases e2; exact ⟨rfl, rfl, rfl⟩
  subst ht e1 e2
  refine P2.bind (modNode_l h node (fun n => { n with lines := [], linesNil := true })
    (fun n => { n with lines := [], linesNil := true }) (fun a => by simp [shN]) (fun _ => rfl)) (fun _ _ sA2 sB2 h2 => ?_)
  refine P2.bind (getPc_l h2) (fun pa pb sA3 sB3 ⟨_, _, hcr, e1, e2⟩ => ?_)
  subst e1 e2
  rw [hcr.tmpPara]
  cases pa.tmpPara with
  | none => exact P2.errL
  | some tmp =>
    simp only [Option.map_some, pure_bind]
    refine P2.bind (modPc_l h2 _ _ (fun x y hxy => ?_)) (fun _ _ sA4 sB4 h4 => ?_)
    · exact ⟨⟨hxy.opened, rfl, hxy.fence, hxy.skipList, hxy.emptyItemBlank⟩, hxy.blockOffset, hxy.blockIndent⟩
    refine P2.bind (getNode_l h4 tmp) (fun tn m sA5 sB5 ⟨_, hm, e1, e2⟩ => ?_)
    subst e1 e2 hm
    rw [shN_lines, List.length_map, shN_parent, shN_linesNil, shN_blankPrev]
    by_cases hl : (tn.lines.length == 0) = true
    · rw [if_pos hl, if_pos hl]
      refine P2.bind (nextSibling_l hF h4 node) (fun next y sA6 sB6 ⟨hy, e1, e2⟩ => ?_)
      subst e1 e2 hy
      refine P2.bind (source_l h4) (fun a a' sA2 sB2 ⟨ha, hb, e1, e2⟩ => ?_)
      subst e1 e2
      rw [ha, hb]
      refine P2.bind (P := fun s t sA' sB' => t = moveSeg F.d s ∧ sA2 = sA' ∧ sB2 = sB')
        (P2.liftE (fun s t e1 e2 => ?_)) (fun s t sA3 sB3 ⟨ht, e1, e2⟩ => ?_)
      · rw [trimLeftSpace_sh F _ e1] at e2; cases e2; exact ⟨rfl, rfl, rfl⟩
      subst ht e1 e2
      refine P2.bind (getNode_l h4 node) (fun hn2 m sA5 sB5 ⟨_, hm, e1, e2⟩ => ?_)
      subst e1 e2 hm
      rw [shN_parent]
      cases hn2.parent with
      | none => exact P2.errL
      | some hp =>
        simp only [Option.map_some]
        cases next with
        | none =>
          simp only [Option.map_none]
          have ht : ((!false) = true) := rfl
          rw [if_pos ht, if_pos ht]
          refine P2.bind (newNode_l h4 _ _ (by simp [shN, shClosure])) (fun para m sA6 sB6 ⟨_, hm, _, h6⟩ => ?_)
          subst hm
          refine P2.bind (appendLine_l h6 para rfl) (fun _ _ sA7 sB7 h7 => ?_)
          refine P2.bind (insertAfter_l hF h7 hp (some node) para) (fun _ _ sA8 sB8 h8 => ?_)
          exact removeChild_l hF h8 hp node
        | some nx =>
          simp only [Option.map_some]
          refine P2.bind (getNode_l h4 nx) (fun nxn m sA6 sB6 ⟨_, hm, e1, e2⟩ => ?_)
          subst e1 e2 hm
          rw [shN_kind]
          by_cases hk : (!nxn.kind == Kind.paragraph) = true
          · rw [if_pos hk, if_pos hk]
            refine P2.bind (newNode_l h4 _ _ (by simp [shN, shClosure])) (fun para m sA6 sB6 ⟨_, hm, _, h6⟩ => ?_)
            subst hm
            refine P2.bind (appendLine_l h6 para rfl) (fun _ _ sA7 sB7 h7 => ?_)
            refine P2.bind (insertAfter_l hF h7 hp (some node) para) (fun _ _ sA8 sB8 h8 => ?_)
            exact removeChild_l hF h8 hp node
          · rw [if_neg hk, if_neg hk]
            refine P2.bind (getNode_l h4 nx) (fun nn m sA6 sB6 ⟨_, hm, e1, e2⟩ => ?_)
            subst e1 e2 hm
            rw [shN_linesNil]
            by_cases hnil : nn.linesNil = true
            · rw [if_pos hnil, if_pos hnil]
              exact P2.errL
            · rw [if_neg hnil, if_neg hnil]
              refine P2.bind (modNode_l h4 nx (fun n => { n with lines := s :: n.lines })
                (fun n => { n with lines := moveSeg F.d s :: n.lines }) (fun a => by simp [shN]) (fun _ => rfl))
                (fun _ _ sA6 sB6 h6 => ?_)
              exact removeChild_l hF h6 hp node
    · rw [if_neg hl, if_neg hl]
      refine P2.bind (modNode_l h4 node (fun n => { n with lines := tn.lines, linesNil := tn.linesNil, blankPrev := tn.blankPrev })
        (fun n => { n with lines := tn.lines.map (moveSeg F.d), linesNil := tn.linesNil, blankPrev := tn.blankPrev })
        (fun a => by simp [shN]) (fun _ => rfl)) (fun _ _ sA6 sB6 h6 => ?_)
      cases tn.parent with
      | none => exact P2.pure h6
      | some tp => exact removeChild_l hF h6 tp tmp

end GM.Blocks.Xs

namespace GM.Blocks.Xs
open GM GM.Text GM.Spec GM.Proof.Reader GM.Blocks

theorem codeClose_sim (F : Frame) (b : Bytes) : CloseSim F b .code := by
  intro node rA rB sA sB h
  show P2 _ (codeClose node sA) (codeClose (F.ι node) sB)
  unfold codeClose
  refine P2.bind (getNode_l h node) (fun n m sA1 sB1 ⟨hn, hm, e1, e2⟩ => ?_)
  subst e1 e2 hm
  refine P2.bind (source_l h) (fun a a' sA2 sB2 ⟨ha, hb, e1, e2⟩ => ?_)
  subst e1 e2
  rw [ha, hb]
  rw [shN_lines, shN_linesNil, List.length_map]
  refine P2.bind (P := fun s t sA' sB' => t = s ∧ sA2 = sA' ∧ sB2 = sB')
    (P2.liftE (fun s t e1 e2 => ?_)) (fun s t sA3 sB3 ⟨ht, e1, e2⟩ => ?_)
  · rw [codeTrimLoop_sh F _ _ _ e1] at e2; cases e2; exact ⟨rfl, rfl, rfl⟩
  subst ht e1 e2
  by_cases hc : (n.linesNil && t + 1 != 0) = true
  · rw [if_pos hc, if_pos hc]; exact P2.bind (P := fun _ _ _ _ => False) P2.throwL (fun _ _ _ _ hh => hh.elim)
  · rw [if_neg hc, if_neg hc]
    exact modNode_l h node _ _ (fun a => by simp [shN, List.map_take]) (fun _ => rfl)

/-! ### preserveLeadingTabInCodeBlock -/

/-- `LineOffset()` commutes with the shift also when `head` is negative, as long as the column loop does not run -/
theorem code_lineOffsetOp_sh (F : Frame) (r : Reader) (hh : 0 ≤ r.head ∨ r.head ≥ r.pos.start)
    (hq : F.q = [] ∨ r.pos.start ≤ r.source.length) :
    (shR F r).lineOffsetOp = r.lineOffsetOp.map (fun x => (x.1, shR F x.2)) := by
  rcases Int.lt_or_le r.head 0 with hneg | hpos
  · have hge : r.head ≥ r.pos.start := by
      rcases hh with h | h
      · omega
      · exact h
    unfold Reader.lineOffsetOp
    have e0 : (shR F r).lineOffset = r.lineOffset := rfl
    rw [e0]
    by_cases hc : r.lineOffset < 0
    · rw [if_pos hc, if_pos hc]
      unfold colLoop
      rw [if_pos hge, if_pos (by simp only [shR, moveSeg]; omega)]
      rfl
    · rw [if_neg hc, if_neg hc]; rfl
  · exact lineOffsetOp_sh F r hpos hq

theorem code_lineOffsetOp_source {r r' : Reader} {v : Int} (h : r.lineOffsetOp = .ok (v, r')) : r'.source = r.source := by
  unfold Reader.lineOffsetOp at h
  split at h
  · cases hv : colLoop r.source r.head r.pos.start with
    | error e => rw [hv] at h; cases h
    | ok x => rw [hv] at h; cases h; rfl
  · cases h; rfl

theorem code_lineOffset_raw_p2 {F : Frame} {sA sB : St} (hr : sB.r = shR F sA.r)
    (hh : 0 ≤ sA.r.head ∨ sA.r.head ≥ sA.r.pos.start)
    (hq : F.q = [] ∨ sA.r.pos.start ≤ sA.r.source.length) :
    P2 (fun x y sA' sB' => y = x ∧ ∃ r3, sA' = { sA with r := r3 } ∧ sB' = { sB with r := shR F r3 } ∧
        r3.source = sA.r.source) (lineOffset sA) (lineOffset sB) := by
  intro x sA' y sB' e1 e2
  unfold GM.Blocks.lineOffset at e1 e2
  rw [hr, code_lineOffsetOp_sh F _ hh hq] at e2
  cases hl : sA.r.lineOffsetOp with
  | error e => rw [hl] at e1; cases e1
  | ok v =>
    rw [hl] at e1 e2
    cases e1; cases e2
    exact ⟨rfl, v.2, rfl, rfl, code_lineOffsetOp_source hl⟩

theorem preserveLeadingTab_p2 {F b sA sB} (hF : F.OK) (h : SR F b sA sB) {c : RCur} (hc0 : RI b sA.r c)
    (seg : Segment) (ind : Int) :
    P2 (fun x y sA' sB' => (x = seg ∨ x = { seg with padding := 0, start := seg.start - 1 }) ∧ y = moveSeg F.d x ∧
        RI b sA'.r c ∧ SR F b sA' sB')
      (preserveLeadingTab seg ind sA) (preserveLeadingTab (moveSeg F.d seg) ind sB) := by
  unfold preserveLeadingTab
  refine P2.bind (lineOffset_p2c h hc0) (fun lo lo' sA1 sB1 ⟨e, hc, h1⟩ => ?_)
  subst e
  refine P2.bind (position_p2 h1) (fun x y sA2 sB2 ⟨hx, hy, e1, e2⟩ => ?_)
  subst e1 e2 hy hx
  simp only [Reader.position]
  have hpos := hc.pos
  have hin := hc.inRange
  have hst : sA2.r.pos.start = (c.p : Int) := by rw [hpos]
  generalize hr2 : sA2.r.setPosition sA2.r.line { start := sA2.r.pos.start - 1, stop := sA2.r.pos.stop } = r2
  have hB : sB2.r.setPosition (sA2.r.line + F.dl)
      { start := (moveSeg F.d sA2.r.pos).start - 1, stop := (moveSeg F.d sA2.r.pos).stop } = shR F r2 := by
    have es : ({ start := (moveSeg F.d sA2.r.pos).start - 1, stop := (moveSeg F.d sA2.r.pos).stop } : Segment) =
        moveSeg F.d { start := sA2.r.pos.start - 1, stop := sA2.r.pos.stop } := by
      simp only [moveSeg, Segment.mk.injEq, and_true]; omega
    rw [es, h1.r, setPosition_sh F hF _ _ _ (by simp only; omega)
      (.inr (by simp only; rw [hc.source]; omega)), hr2]
  refine P2.bind (P := fun _ _ sA' sB' => sA' = { sA2 with r := r2 } ∧ sB' = { sB2 with r := shR F r2 })
    (P2.ok ⟨by rw [hr2], by rw [hB]⟩) (fun _ _ sA3 sB3 ⟨e1, e2⟩ => ?_)
  subst e1 e2
  have hhead : 0 ≤ r2.head ∨ r2.head ≥ r2.pos.start := by
    rw [← hr2]; unfold Reader.setPosition; simp only
    split
    · exact .inl (by omega)
    · exact .inr (by omega)
  have hr2q : F.q = [] ∨ r2.pos.start ≤ r2.source.length := by
    right
    rw [← hr2]; simp only [Reader.setPosition]; rw [hc.source]; omega
  refine P2.bind (code_lineOffset_raw_p2 (sA := { sA2 with r := r2 }) (sB := { sB2 with r := shR F r2 }) rfl hhead hr2q)
    (fun lo2 lo2' sA4 sB4 ⟨e, r3, e1, e2, hs3⟩ => ?_)
  subst e e1 e2
  have hs3' : r3.source = b := by
    rw [hs3, ← hr2]; exact hc.source
  have hri := ri_setPosition_back hc hs3'
  have hB2 : (shR F r3).setPosition (sA2.r.line + F.dl) (moveSeg F.d sA2.r.pos) =
      shR F (r3.setPosition sA2.r.line sA2.r.pos) :=
    setPosition_sh F hF _ _ _ (by omega) (.inr (by rw [hs3']; omega))
  refine P2.bind (P := fun _ _ sA' sB' => RI b sA'.r c ∧ SR F b sA' sB')
    (P2.ok (by simp only; rw [hB2]; exact ⟨hri, h1.withR hri⟩)) (fun _ _ sA5 sB5 ⟨hc5, h5⟩ => ?_)
  refine P2.pure ⟨?_, ?_, hc5, h5⟩
  · split
    · exact .inr rfl
    · exact .inl rfl
  · split
    · simp only [moveSeg, Segment.mk.injEq, and_true]; omega
    · rfl

/-! ### the common tail of codeBlockParser.Open / Continue -/

/-- the line is not used up by `AdvanceAndSetPadding(pos, ·)`: the last `Advance(segment.Len() - 1)` goes forward -/
def CodeTakeOK (b : Bytes) (c : RCur) (pos : Int) : Prop :=
  c.p < b.length ∧ pos.toNat + 1 ≤ c.pad + (lineEnd b c.p - c.p)

theorem codeTakeLine_p2 {F b sA sB} (hF : F.OK) (hq : QNL F b) (h : SR F b sA sB) {c : RCur} (hc : RI b sA.r c)
    (node : Nat) {pos : Int} (hn : 0 ≤ pos) (pd : Int) (hk : F.q = [] ∨ CodeTakeOK b c pos) :
    P2 (fun _ _ sA' sB' => SRLim F b sA' sB' ∧ (CodeTakeOK b c pos → SR F b sA' sB'))
      (codeTakeLine node pos pd sA) (codeTakeLine (F.ι node) pos pd sB) := by
  unfold codeTakeLine
  obtain ⟨r1, e1, hr1⟩ := ri_advanceAndSetPadding hc hn pd
  have hk1 : F.q = [] ∨ NoLF sA.r pos.toNat := by
    refine hk.imp id (fun g => RI.noLF hc ?_)
    have hl := lt_lineEnd b g.1
    have g2 := g.2
    rw [hc.pos]; simp only; omega
  have hB1 : sB.r.advanceAndSetPadding pos pd = .ok (shR F r1) := by
    rw [h.r, advanceAndSetPadding_sh F _ _ _ (RI.start_nonneg hc) (RI.stop_nonneg hc) hk1, e1]; rfl
  refine P2.bind (P := fun _ _ sA' sB' => sA' = { sA with r := r1 } ∧ sB' = { sB with r := shR F r1 })
    (by unfold GM.Blocks.advanceAndSetPadding; rw [e1, hB1]; exact P2.ok ⟨rfl, rfl⟩) (fun _ _ sA1 sB1 ⟨q1, q2⟩ => ?_)
  subst q1 q2
  have hc1 : CodeTakeOK b c pos → (advPadCur b pos pd c).p < b.length := by
    intro ⟨hp, hlt⟩
    obtain ⟨_, _, _, _, _, i6⟩ := advN_within b pos.toNat c hp hlt
    unfold advPadCur
    simp only
    split <;> exact i6
  generalize advPadCur b pos pd c = c1 at hr1 hc1
  obtain ⟨r2, e2, hr2⟩ := ri_peekLine hr1
  have hB2 : (shR F r1).peekLine = .ok ((RCur.view b c1, moveSeg F.d (RCur.seg b c1)), shR F r2) := by
    rw [peekLine_sh F _ (RI.start_nonneg hr1) (RI.peek_hq hr1 (hk.imp id (fun g => ⟨c1, hr1, hc1 g⟩))), e2]; rfl
  refine P2.bind (P := fun x y sA' sB' => x = (RCur.view b c1, RCur.seg b c1) ∧
      y = (RCur.view b c1, moveSeg F.d (RCur.seg b c1)) ∧ sA' = { sA with r := r2 } ∧ sB' = { sB with r := shR F r2 })
    (by unfold GM.Blocks.peekLine; simp only; rw [e2, hB2]; exact P2.ok ⟨rfl, rfl, rfl, rfl⟩)
    (fun x y sA2 sB2 ⟨q1, q2, q3, q4⟩ => ?_)
  subst q1 q2 q3 q4
  simp only
  have h2 : SR F b { sA with r := r2 } { sB with r := shR F r2 } := h.withR hr2
  rw [moveSeg_padding]
  have tail : ∀ (x : Segment) (sA3 sB3 : St), (x = RCur.seg b c1 ∨
      (c1.pad ≠ 0 ∧ x = { RCur.seg b c1 with padding := 0, start := (RCur.seg b c1).start - 1 })) →
      RI b sA3.r c1 → SR F b sA3 sB3 →
      P2 (fun _ _ sA' sB' => SRLim F b sA' sB' ∧ (CodeTakeOK b c pos → SR F b sA' sB'))
        ((do appendLine node { x with forceNewline := true }
             advance (({ x with forceNewline := true } : Segment).len - 1)) sA3)
        ((do appendLine (F.ι node) { moveSeg F.d x with forceNewline := true }
             advance (({ moveSeg F.d x with forceNewline := true } : Segment).len - 1)) sB3) := by
    intro x sA3 sB3 hx hc3 h3
    refine P2.bind (appendLine_l h3.l node (s := { x with forceNewline := true }) rfl) (fun _ _ sA4 sB4 h4l => ?_)
    have h4 := h4l.sr h3
    have hm : ({ moveSeg F.d x with forceNewline := true } : Segment).len - 1 =
        ({ x with forceNewline := true } : Segment).len - 1 := by
      simp only [Segment.len, moveSeg]; omega
    rw [hm]
    by_cases h0 : 0 ≤ ({ x with forceNewline := true } : Segment).len - 1
    · refine (advance_p2 h4 rfl h0 (hk.imp id (fun g => ?_))).mono fun _ _ _ _ h5 => ⟨h5.limbo hq, fun _ => h5⟩
      have hp1 := hc1 g
      have hl := lt_lineEnd b hp1
      rw [h4l.ra, hc3.pos]
      rcases hx with e | ⟨e0, e⟩ <;> rw [e] <;> simp only [Segment.len, RCur.seg] <;> omega
    · refine (advance_limbo h4 _ hq (.inr (.inl (by omega)))).mono fun _ _ _ _ h5 => ⟨h5, fun g => ?_⟩
      exfalso; apply h0
      have hp1 := hc1 g
      have hl := lt_lineEnd b hp1
      rcases hx with e | ⟨_, e⟩ <;> rw [e] <;> simp only [Segment.len, RCur.seg] <;> omega
  by_cases hpd : ((RCur.seg b c1).padding != 0) = true
  · rw [if_pos hpd, if_pos hpd]
    refine P2.bind (preserveLeadingTab_p2 hF h2 (c := c1) hr2 _ 0) (fun x y sA3 sB3 ⟨hx, hy, hc3, h3⟩ => ?_)
    subst hy
    have hpad : c1.pad ≠ 0 := by
      intro e0; apply (bne_iff_ne.mp hpd); simp [RCur.seg, e0]
    exact tail x sA3 sB3 (hx.imp id (fun e => ⟨hpad, e⟩)) hc3 h3
  · rw [if_neg hpd, if_neg hpd]
    exact tail _ _ _ (.inl rfl) hr2 h2

theorem codeOpen_sim (F : Frame) (hF : F.OK) (b : Bytes) (hq : QNL F b) : OpenSim F b .code := by
  intro parent sA sB h hl
  show P2 _ (codeOpen parent sA) (codeOpen (F.ι parent) sB)
  unfold codeOpen
  obtain ⟨c, hc0, hp⟩ := hl
  refine P2.bind (peekLine_p2c h hc0 (.inr hp)) (fun x y sA1 sB1 ⟨hc, hx, hy, h1⟩ => ?_)
  subst hx hy
  refine P2.bind (lineOffset_p2c h1 hc) (fun lo lo' sA2 sB2 ⟨e, hc2, h2⟩ => ?_)
  subst e
  simp only
  have hvl := view_getD_length_nat b c hp
  generalize (RCur.view b c).getD [] = line at hvl ⊢
  have hbd := indentPosition_bounds line lo'
  generalize indentPosition line lo' 4 = pp at hbd ⊢
  obtain ⟨pos, pd⟩ := pp
  simp only at hbd ⊢
  by_cases hcnd : (decide (pos < 0) || isBlank line) = true
  · rw [if_pos hcnd]
    exact P2.pure ⟨rfl, h2.limbo hq, fun _ => h2, fun hh => by cases hh <;> contradiction⟩
  · rw [if_neg hcnd]
    have hpos0 : 0 ≤ pos := by
      rcases Int.lt_or_le pos 0 with hh | hh
      · exfalso; apply hcnd; simp [hh]
      · exact hh
    have hnb : isBlank line = false := by
      cases hh : isBlank line with
      | true => exfalso; apply hcnd; simp [hh]
      | false => rfl
    obtain ⟨_, _, hb3, _⟩ := hbd hpos0
    have hlt := hb3 hnb
    refine P2.bind (newNode_l h2.l _ _ (by simp [shN, shClosure])) (fun n m sA3 sB3 ⟨hn, hm, _, h3l⟩ => ?_)
    subst hm
    have h3 := h3l.sr h2
    have hc3 : RI b sA3.r c := by rw [h3l.ra]; exact hc2
    refine P2.bind (codeTakeLine_p2 hF hq h3 hc3 n hpos0 pd (.inr ⟨hp, by omega⟩)) (fun _ _ sA4 sB4 ⟨h4, _⟩ => ?_)
    exact P2.pure ⟨rfl, h4, fun hh => by rcases hh with hh | hh <;> simp [stNoChildren] at hh,
      fun hh => by cases hh <;> contradiction⟩

/-- `Continue` keeps the full relation whatever the end of run A's source is; a line, and a line feed at the end of `b`,
    are asked for only when run B's source goes on behind run A's -/
theorem cw_codeContinue (F : Frame) (hF : F.OK) (b : Bytes) : ∀ node sA sB, SR F b sA sB →
    (F.q = [] ∨ (HasLine b sA ∧ b.getLast? = some 10)) →
    P2 (fun x y sA' sB' => y = x ∧ SR F b sA' sB') (bpContinue .code node sA) (bpContinue .code (F.ι node) sB) := by
  intro node sA sB h hq
  show P2 _ (codeContinue node sA) (codeContinue (F.ι node) sB)
  unfold codeContinue
  refine P2.bind (peekLine_p2 h (hq.imp id (·.1))) (fun x y sA1 sB1 ⟨⟨c, hc, hx⟩, hy, h1⟩ => ?_)
  subst hx hy
  simp only
  by_cases hbl : isBlank ((RCur.view b c).getD []) = true
  · rw [if_pos hbl, if_pos hbl]
    refine P2.bind (source_p2 h1) (fun a a' sA2 sB2 ⟨ha, hb, e1, e2⟩ => ?_)
    subst e1 e2
    rw [ha, hb]
    refine P2.bind (P := fun s t sA' sB' => t = moveSeg F.d s ∧ sA2 = sA' ∧ sB2 = sB')
      (P2.liftE (fun s t e1 e2 => ?_)) (fun s t sA3 sB3 ⟨ht, e1, e2⟩ => ?_)
    · rw [trimLeftSpaceWidth_sh F _ 4 e1] at e2; cases e2; exact ⟨rfl, rfl, rfl⟩
    subst ht e1 e2
    refine P2.bind (appendLine_p2 h1 node rfl) (fun _ _ sA4 sB4 h4 => ?_)
    exact P2.pure ⟨rfl, h4⟩
  · rw [if_neg hbl, if_neg hbl]
    have hp : c.p < b.length := by
      apply Decidable.byContradiction
      intro hp
      rw [view_none b c hp] at hbl
      exact hbl isBlank_nil
    refine P2.bind (lineOffset_p2c h1 hc) (fun lo lo' sA2 sB2 ⟨e, hc2, h2⟩ => ?_)
    subst e
    have hvl := view_getD_length_nat b c hp
    generalize (RCur.view b c).getD [] = line at hvl hbl ⊢
    have hbd := indentPosition_bounds line lo'
    generalize indentPosition line lo' 4 = pp at hbd ⊢
    obtain ⟨pos, pd⟩ := pp
    simp only at hbd ⊢
    by_cases hneg : pos < 0
    · rw [if_pos hneg, if_pos hneg]
      exact P2.pure ⟨rfl, h2⟩
    · rw [if_neg hneg, if_neg hneg]
      have hnb : isBlank line = false := by
        cases hh : isBlank line with
        | true => exact absurd hh hbl
        | false => rfl
      obtain ⟨_, _, hb3, _⟩ := hbd (by omega)
      have hlt := hb3 hnb
      have hok : CodeTakeOK b c pos := ⟨hp, by omega⟩
      refine P2.bind (codeTakeLine_p2 hF (hq.imp id (·.2)) h2 hc2 node (by omega) pd (.inr hok))
        (fun _ _ sA4 sB4 ⟨_, h4⟩ => ?_)
      exact P2.pure ⟨rfl, h4 hok⟩

theorem codeContinue_sim (F : Frame) (hF : F.OK) (b : Bytes) : ContinueSim F b .code :=
  fun node sA sB h hl hnl => cw_codeContinue F hF b node sA sB h (.inr ⟨hl, hl.last_of_nl hnl⟩)

end GM.Blocks.Xs

namespace GM.Blocks.Xs
open GM GM.Text GM.Spec GM.Proof.Reader GM.Blocks

theorem qh_SRLim_of_l {F b sA sB sA' sB'} (h : SRLim F b sA sB) (h' : SRL F b sA.r sB.r sA' sB') : SRLim F b sA' sB' := by
  have ea := h'.ra
  have eb := h'.rb
  unfold SRLim
  rw [ea, eb]
  exact ⟨h', h.2⟩

theorem qh_advance_p2c {F b sA sB} (h : SR F b sA sB) {c : RCur} (hc : RI b sA.r c) {n : Int} (hn : 0 ≤ n)
    (hq : F.q = [] ∨ (sA.r.pos.start < sA.r.pos.stop ∧ sA.r.pos.start + n < sA.r.pos.stop + sA.r.pos.padding)) :
    P2 (fun _ _ sA' sB' => RI b sA'.r (RCur.advN b n.toNat c) ∧ SR F b sA' sB') (advance n sA) (advance n sB) := by
  obtain ⟨r', h1, h2⟩ := ri_advance hc hn
  have hB : sB.r.advance n = .ok (shR F r') := by
    rw [h.r, advance_sh F _ n (RI.start_nonneg hc) (RI.stop_nonneg hc) (hq.imp id (RI.noLF hc)), h1]; rfl
  unfold GM.Blocks.advance
  rw [h1, hB]
  exact P2.ok ⟨h2, h.withR h2⟩

theorem qh_lineLen_last : ∀ l : Bytes, l.getLast? = some 10 → 1 ≤ lineLen l ∧ l[lineLen l - 1]? = some 10 := by
  intro l
  induction l with
  | nil => intro h; cases h
  | cons c cs ih =>
    intro h
    simp only [lineLen]
    by_cases hc : (c == 10) = true
    · rw [if_pos hc]; simp only [beq_iff_eq] at hc; subst hc; exact ⟨Nat.le_refl _, rfl⟩
    · rw [if_neg hc]
      cases cs with
      | nil => simp only [List.getLast?_singleton, Option.some.injEq] at h; subst h; exact absurd rfl hc
      | cons d ds =>
        obtain ⟨h1, h2⟩ := ih (by rw [List.getLast?_cons_cons] at h; exact h)
        refine ⟨by omega, ?_⟩
        have : 1 + lineLen (d :: ds) - 1 = (lineLen (d :: ds) - 1) + 1 := by omega
        rw [this, List.getElem?_cons_succ]; exact h2

theorem qh_lineEnd_last (b : Bytes) (hnl : b.getLast? = some 10) {p : Nat} (hp : p < b.length) :
    b[lineEnd b p - 1]? = some 10 := by
  have h := qh_lineLen_last (b.drop p) (by rw [List.getLast?_drop, if_neg (by omega)]; exact hnl)
  unfold lineEnd
  rw [if_pos (by omega)]
  have h2 := h.2
  rw [List.getElem?_drop] at h2
  have e : p + lineLen (b.drop p) - 1 = p + (lineLen (b.drop p) - 1) := by omega
  rw [e]; exact h2

/-- the last byte of a line view is the line feed when the source ends with one -/
theorem qh_view_last (b : Bytes) (hnl : b.getLast? = some 10) (c : RCur) (hp : c.p < b.length) :
    ((RCur.view b c).getD [])[c.pad + (lineEnd b c.p - c.p) - 1]? = some 10 := by
  have hle := lineEnd_le b c.p
  have hlt := lt_lineEnd b hp
  rw [view_eq b c hp]
  simp only [Option.getD_some]
  rw [List.getElem?_append_right (by simp [spaces]; omega)]
  simp only [spaces, List.length_replicate, sub]
  rw [List.getElem?_take_of_lt (by omega), List.getElem?_drop]
  have e : c.p + (c.pad + (lineEnd b c.p - c.p) - 1 - c.pad) = lineEnd b c.p - 1 := by omega
  rw [e]; exact qh_lineEnd_last b hnl hp

theorem qh_view_not_last (b : Bytes) (hnl : b.getLast? = some 10) (c : RCur) (hp : c.p < b.length) {i : Nat} {x : UInt8}
    (hx : ((RCur.view b c).getD [])[i]? = some x) (hne : x ≠ 10) : i + 2 ≤ ((RCur.view b c).getD []).length := by
  have hlen := view_getD_length_nat b c hp
  have hlast := qh_view_last b hnl c hp
  obtain ⟨hi, _⟩ := List.getElem?_eq_some_iff.mp hx
  apply Decidable.byContradiction
  intro hcon
  have e : c.pad + (lineEnd b c.p - c.p) - 1 = i := by omega
  rw [e, hx] at hlast
  cases hlast
  exact hne rfl

theorem qh_trimRight_pos (l : Bytes) (h : l.getLast? = some 10) : 1 ≤ trimRightSpaceLength l := by
  unfold trimRightSpaceLength
  rw [List.getLast?_eq_head?_reverse] at h
  cases hr : l.reverse with
  | nil => rw [hr] at h; cases h
  | cons a t =>
    rw [hr] at h
    simp only [List.head?_cons, Option.some.injEq] at h
    subst h
    simp [List.takeWhile_cons, isSpace]

theorem qh_view_trimRight_pos (b : Bytes) (hnl : b.getLast? = some 10) (c : RCur) (hp : c.p < b.length) :
    1 ≤ trimRightSpaceLength ((RCur.view b c).getD []) := by
  apply qh_trimRight_pos
  rw [List.getLast?_eq_getElem?, view_getD_length_nat b c hp]
  exact qh_view_last b hnl c hp

theorem qh_idx_ok {l : Bytes} {i : Int} {c : UInt8} (h : idx l i = .ok c) : 0 ≤ i ∧ l[i.toNat]? = some c := by
  unfold idx getByte at h
  by_cases hn : i < 0
  · rw [if_pos hn] at h; cases h
  · rw [if_neg hn] at h
    cases hx : l[i.toNat]? with
    | none => rw [hx] at h; cases h
    | some x => rw [hx] at h; cases h; exact ⟨by omega, rfl⟩

/-! ### blockquote.go -/

/-- a line is asked for only when run B's source goes on behind run A's; without a line the parser declines before it
    advances -/
theorem blockquoteProcess_p2 {F b sA sB} (hq : QNL F b) (h : SR F b sA sB) (hl : F.q = [] ∨ HasLine b sA) :
    P2 (fun x y sA' sB' => y = x ∧ SR F b sA' sB') (blockquoteProcess sA) (blockquoteProcess sB) := by
  unfold blockquoteProcess
  obtain ⟨c, hc0⟩ := h.ri
  refine P2.bind (peekLine_p2c h hc0 (hl.imp id (fun g => g.at hc0))) (fun x y sA1 sB1 ⟨hc, hx, hy, h1⟩ => ?_)
  subst hx hy
  simp only
  refine P2.bind (lineOffset_p2c h1 hc) (fun lo lo' sA2 sB2 ⟨hlo, hri2, h2⟩ => ?_)
  subst hlo
  have hlen := view_getD_length_nat b c
  have hlast : c.p < b.length → b.getLast? = some 10 → ∀ (i : Nat) (x : UInt8),
      ((RCur.view b c).getD [])[i]? = some x → x ≠ 10 → i + 2 ≤ ((RCur.view b c).getD []).length :=
    fun hp hnl i x hx hne => qh_view_not_last b hnl c hp hx hne
  have hnone : ¬ c.p < b.length → (RCur.view b c).getD [] = [] := fun hp => by rw [view_none b c hp]; rfl
  generalize (RCur.view b c).getD [] = line at hlen hlast hnone ⊢
  have hpos : 0 ≤ (indentWidthI line lo').2 + 1 := by have := indentWidthI_bounds line lo'; omega
  have hpos0 : 0 ≤ (indentWidthI line lo').2 := (indentWidthI_bounds line lo').1
  generalize (indentWidthI line lo').2 = pos at hpos hpos0
  generalize (indentWidthI line lo').1 = w
  by_cases hc1 : (decide (w > 3) || decide (pos ≥ (line.length : Int))) = true
  · rw [if_pos hc1]; exact P2.pure ⟨rfl, h2⟩
  rw [if_neg hc1]
  have hp : c.p < b.length := by
    apply Decidable.byContradiction
    intro hp
    have := hnone hp
    subst this
    simp at hc1
    omega
  have hlen := hlen hp
  have hlast := hlast hp
  have hle0 := lt_lineEnd b hp
  have hrange : ∀ sA3 : St, RI b sA3.r c → pos + 1 < (line.length : Int) →
      (sA3.r.pos.start < sA3.r.pos.stop ∧ sA3.r.pos.start + (pos + 1) < sA3.r.pos.stop + sA3.r.pos.padding) := by
    intro sA3 hc3 hlt
    rw [hc3.pos]; simp only; omega
  have advT : ∀ sA3 sB3, SR F b sA3 sB3 → RI b sA3.r c → (F.q = [] ∨ pos + 1 < (line.length : Int)) →
      P2 (fun x y sA' sB' => y = x ∧ SR F b sA' sB')
      ((do advance (pos + 1); pure true : M Bool) sA3) ((do advance (pos + 1); pure true : M Bool) sB3) := by
    intro sA3 sB3 h3 hc3 hq3
    refine P2.bind (advance_p2 h3 rfl hpos (hq3.imp id (hrange _ hc3))) (fun _ _ sA4 sB4 h4 => ?_)
    exact P2.pure ⟨rfl, h4⟩
  refine P2.bind (P := fun s t sA' sB' => (t = s ∧ idx line pos = .ok s) ∧ sA' = sA2 ∧ sB' = sB2)
    (P2.liftE_same (fun a e => ⟨⟨rfl, e⟩, rfl, rfl⟩)) (fun ch ch' sA3 sB3 ⟨⟨ht, hch⟩, e1, e2⟩ => ?_)
  subst ht e1 e2
  by_cases hc2 : (ch' != 62) = true
  · rw [if_pos hc2]; exact P2.pure ⟨rfl, h2⟩
  rw [if_neg hc2]
  have hq1 : F.q = [] ∨ pos + 1 < (line.length : Int) := by
    refine hq.imp id (fun hnl => ?_)
    have h62 : ch' = 62 := by simpa using hc2
    have := hlast hnl pos.toNat ch' (qh_idx_ok hch).2 (by rw [h62]; decide)
    omega
  by_cases hc3 : pos + 1 ≥ (line.length : Int)
  · rw [if_pos hc3]; exact advT _ _ h2 hri2 hq1
  rw [if_neg hc3]
  refine P2.bind (P := fun s t sA' sB' => (t = s ∧ idx line (pos + 1) = .ok s) ∧ sA' = sA3 ∧ sB' = sB3)
    (P2.liftE_same (fun a e => ⟨⟨rfl, e⟩, rfl, rfl⟩)) (fun c1 c1' sA4 sB4 ⟨⟨ht, hch1⟩, e1, e2⟩ => ?_)
  subst ht e1 e2
  by_cases hc4 : (c1' == 10) = true
  · rw [if_pos hc4]; exact advT _ _ h2 hri2 (.inr (by omega))
  rw [if_neg hc4]
  refine P2.bind (qh_advance_p2c h2 hri2 hpos (.inr (hrange _ hri2 (by omega)))) (fun _ _ sA5 sB5 ⟨hc5, h5⟩ => ?_)
  have hw1 := advN_within b (pos + 1).toNat c hp (by omega)
  generalize RCur.advN b (pos + 1).toNat c = c4 at hc5 hw1
  obtain ⟨i1, i2, _, i4, _, i6⟩ := hw1
  have hq2 : F.q = [] ∨ pos + 2 < (line.length : Int) := by
    refine hq.imp id (fun hnl => ?_)
    have := hlast hnl (pos + 1).toNat c1' (qh_idx_ok hch1).2 (by simpa using hc4)
    omega
  have hr2 : ∀ sA6 : St, RI b sA6.r c4 → pos + 2 < (line.length : Int) →
      (sA6.r.pos.start < sA6.r.pos.stop ∧ sA6.r.pos.start + 1 < sA6.r.pos.stop + sA6.r.pos.padding) := by
    intro sA6 hc6 hlt
    have := lt_lineEnd b i6
    rw [hc6.pos]; simp only; omega
  by_cases hc5' : (c1' == 32 || c1' == 9) = true
  · rw [if_pos hc5']
    by_cases hc6 : (c1' == 9) = true
    · rw [if_pos hc6]
      refine P2.bind (lineOffset_p2c h5 hc5) (fun l2 l2' sA6 sB6 ⟨hl2, hc6', h6⟩ => ?_)
      subst hl2
      refine P2.bind (P := fun s t sA' sB' => t = s ∧ RI b sA'.r c4 ∧ SR F b sA' sB') (P2.pure ⟨rfl, hc6', h6⟩)
        (fun pd pd' sA7 sB7 ⟨hpd, hc7, h7⟩ => ?_)
      subst hpd
      refine P2.bind (advanceAndSetPadding_p2 h7 rfl rfl (by omega) (hq2.imp id (hr2 _ hc7))) (fun _ _ sA8 sB8 h8 => ?_)
      exact P2.pure ⟨rfl, h8⟩
    · rw [if_neg hc6]
      refine P2.bind (P := fun s t sA' sB' => t = s ∧ RI b sA'.r c4 ∧ SR F b sA' sB') (P2.pure ⟨rfl, hc5, h5⟩)
        (fun pd pd' sA7 sB7 ⟨hpd, hc7, h7⟩ => ?_)
      subst hpd
      refine P2.bind (advanceAndSetPadding_p2 h7 rfl rfl (by omega) (hq2.imp id (hr2 _ hc7))) (fun _ _ sA8 sB8 h8 => ?_)
      exact P2.pure ⟨rfl, h8⟩
  · rw [if_neg hc5']; exact P2.pure ⟨rfl, h5⟩

theorem blockquoteOpen_sim (F : Frame) (b : Bytes) (hq : QNL F b) : OpenSim F b .blockquote := by
  intro parent sA sB h hl
  show P2 _ (blockquoteOpen parent sA) (blockquoteOpen (F.ι parent) sB)
  unfold blockquoteOpen
  refine P2.bind (blockquoteProcess_p2 hq h (.inr hl)) (fun x y sA1 sB1 ⟨hy, h1⟩ => ?_)
  subst hy
  by_cases hx : y = true
  · rw [if_pos hx]
    refine P2.bind (newNode_p2 h1 _ _ (by simp [shN, shClosure])) (fun n m sA4 sB4 ⟨_, hm, _, h4⟩ => ?_)
    subst hm
    exact P2.pure ⟨rfl, h4.limbo hq, fun _ => h4, fun hh => by cases hh <;> contradiction⟩
  · rw [if_neg hx]
    exact P2.pure ⟨rfl, h1.limbo hq, fun _ => h1, fun hh => by cases hh <;> contradiction⟩

/-- `Continue` keeps the full relation whatever the end of run A's source is; a line, and a line feed at the end of `b`,
    are asked for only when run B's source goes on behind run A's -/
theorem cw_blockquoteContinue (F : Frame) (b : Bytes) : ∀ node sA sB, SR F b sA sB →
    (F.q = [] ∨ (HasLine b sA ∧ b.getLast? = some 10)) →
    P2 (fun x y sA' sB' => y = x ∧ SR F b sA' sB') (bpContinue .blockquote node sA)
      (bpContinue .blockquote (F.ι node) sB) := by
  intro node sA sB h hq
  show P2 _ (blockquoteContinue node sA) (blockquoteContinue (F.ι node) sB)
  unfold blockquoteContinue
  refine P2.bind (blockquoteProcess_p2 (hq.imp id (·.2)) h (hq.imp id (·.1))) (fun x y sA1 sB1 ⟨hy, h1⟩ => ?_)
  subst hy
  by_cases hx : y = true
  · rw [if_pos hx]; exact P2.pure ⟨rfl, h1⟩
  · rw [if_neg hx]; exact P2.pure ⟨rfl, h1⟩

theorem blockquoteContinue_sim (F : Frame) (b : Bytes) : ContinueSim F b .blockquote :=
  fun node sA sB h hl hnl => cw_blockquoteContinue F b node sA sB h (.inr ⟨hl, hl.last_of_nl hnl⟩)

/-! ### html_block.go -/

theorem htmlOpen_sim (F : Frame) (b : Bytes) (hq : QNL F b) : OpenSim F b .html := by
  intro parent sA sB h hl
  show P2 _ (htmlOpen parent sA) (htmlOpen (F.ι parent) sB)
  unfold htmlOpen
  obtain ⟨c, hc0, hp⟩ := hl
  refine P2.bind (peekLine_p2c h hc0 (.inr hp)) (fun x y sA1 sB1 ⟨hc, hx, hy, h1⟩ => ?_)
  subst hx hy
  simp only
  have hT : F.q = [] ∨ 1 ≤ trimRightSpaceLength ((RCur.view b c).getD []) :=
    hq.imp id (fun hnl => qh_view_trimRight_pos b hnl c hp)
  have hS : (RCur.seg b c).len = (c.pad : Int) + (lineEnd b c.p : Int) - (c.p : Int) := by
    simp only [RCur.seg, Segment.len]; omega
  have hle0 := lt_lineEnd b hp
  generalize (RCur.view b c).getD [] = line at hT ⊢
  generalize RCur.seg b c = segment at hS ⊢
  have tail : ∀ (lip : Bool) sA3 sB3, SR F b sA3 sB3 → RI b sA3.r c →
      P2 (fun x y sA' sB' => y = (x.1.map F.ι, x.2) ∧ SRLim F b sA' sB' ∧
        ((x.2.hasChildren = true ∨ x.1 = none) → SR F b sA' sB') ∧
        ((BP.html = .list ∨ BP.html = .listItem) → x.1.isSome = true → sB'.pc.emptyItemBlank = sA'.pc.emptyItemBlank))
      ((do
        let pos := (← getPc).blockOffset
        if pos < 0 then return (none, stNoChildren)
        if (← liftE (idx line pos)) != 60 then return (none, stNoChildren)
        match htmlOpenType line lip with
        | some t =>
          let node ← newNode { kind := .htmlBlock, htmlType := t }
          advance (segment.len - trimRightSpaceLength line)
          appendLine node segment
          return (some node, stNoChildren)
        | none => return (none, stNoChildren) : M (Option Nat × PState)) sA3)
      ((do
        let pos := (← getPc).blockOffset
        if pos < 0 then return (none, stNoChildren)
        if (← liftE (idx line pos)) != 60 then return (none, stNoChildren)
        match htmlOpenType line lip with
        | some t =>
          let node ← newNode { kind := .htmlBlock, htmlType := t }
          advance ((moveSeg F.d segment).len - trimRightSpaceLength line)
          appendLine node (moveSeg F.d segment)
          return (some node, stNoChildren)
        | none => return (none, stNoChildren) : M (Option Nat × PState)) sB3) := by
    intro lip sA3 sB3 h3 hc3
    refine P2.bind (getPc_p2 h3) (fun pc pc' sA4 sB4 ⟨_, _, hpc, e1, e2⟩ => ?_)
    subst e1 e2
    rw [hpc.blockOffset]
    have hnone : ∀ sA5 sB5, SR F b sA5 sB5 →
        P2 (fun x y sA' sB' => y = (x.1.map F.ι, x.2) ∧ SRLim F b sA' sB' ∧
          ((x.2.hasChildren = true ∨ x.1 = none) → SR F b sA' sB') ∧
          ((BP.html = .list ∨ BP.html = .listItem) → x.1.isSome = true → sB'.pc.emptyItemBlank = sA'.pc.emptyItemBlank))
        ((pure (none, stNoChildren) : M (Option Nat × PState)) sA5)
        ((pure (none, stNoChildren) : M (Option Nat × PState)) sB5) := fun sA5 sB5 h5 =>
      P2.pure ⟨rfl, h5.limbo hq, fun _ => h5, fun hh => by cases hh <;> contradiction⟩
    by_cases hc1 : pc.blockOffset < 0
    · rw [if_pos hc1, if_pos hc1]; exact hnone _ _ h3
    rw [if_neg hc1, if_neg hc1]
    refine P2.bind (P := fun s t sA' sB' => t = s ∧ sA' = sA4 ∧ sB' = sB4)
      (P2.liftE_same (fun a _ => ⟨rfl, rfl, rfl⟩)) (fun ch ch' sA5 sB5 ⟨ht, e1, e2⟩ => ?_)
    subst ht e1 e2
    by_cases hc2 : (ch' != 60) = true
    · rw [if_pos hc2, if_pos hc2]; exact hnone _ _ h3
    rw [if_neg hc2, if_neg hc2]
    cases htmlOpenType line lip with
    | none => exact hnone _ _ h3
    | some t =>
      simp only
      refine P2.bind (newNode_l h3.l _ _ (by simp [shN, shClosure])) (fun n m sA6 sB6 ⟨_, hm, _, h6l⟩ => ?_)
      subst hm
      have h6 := h6l.sr h3
      rw [moveSeg_len]
      have hr : F.q = [] ∨ segment.len - (trimRightSpaceLength line : Int) < 0 ∨
          (sA6.r.pos.start < sA6.r.pos.stop ∧
            sA6.r.pos.start + (segment.len - (trimRightSpaceLength line : Int)) < sA6.r.pos.stop + sA6.r.pos.padding) := by
        refine hT.imp id (fun t => .inr ?_)
        rw [h6l.ra, hc3.pos]; simp only; omega
      refine P2.bind (advance_limbo h6 _ hq hr) (fun _ _ sA7 sB7 h7 => ?_)
      refine P2.bind (appendLine_l h7.1 n rfl) (fun _ _ sA8 sB8 h8 => ?_)
      exact P2.pure ⟨rfl, qh_SRLim_of_l h7 h8, fun hh => by rcases hh with hh | hh <;> simp [stNoChildren] at hh,
        fun hh => by cases hh <;> contradiction⟩
  refine P2.bind (lastOpenedBlock_p2 h1) (fun lb lb' sA2 sB2 ⟨_, hlb, e1, e2⟩ => ?_)
  subst hlb e1 e2
  cases lb with
  | none => 
    refine P2.bind (P := fun s t sA' sB' => t = s ∧ RI b sA'.r c ∧ SR F b sA' sB') (P2.pure ⟨rfl, hc, h1⟩)
      (fun lp lp' sA7 sB7 ⟨hlp, hc7, h7⟩ => ?_)
    subst hlp
    exact tail _ _ _ h7 hc7
  | some lb =>
    simp only [Option.map_some]
    refine P2.bind (getNode_p2 h1 lb.node) (fun n m sA3 sB3 ⟨_, hm, e1, e2⟩ => ?_)
    subst hm e1 e2
    refine P2.bind (P := fun s t sA' sB' => t = s ∧ RI b sA'.r c ∧ SR F b sA' sB') (P2.pure ⟨by rw [shN_kind], hc, h1⟩)
      (fun lp lp' sA7 sB7 ⟨hlp, hc7, h7⟩ => ?_)
    subst hlp
    exact tail _ _ _ h7 hc7

/-- the `closes` test of htmlBlockParser.Continue -/
def qh_htmlCloses (ty : Nat) (v : Bytes) : Bool :=
  if ty == 1 then type1Close v
  else if ty == 2 then containsSub (strBytes "-->") v
  else if ty == 3 then containsSub (strBytes "?>") v
  else if ty == 4 then containsSub (strBytes ">") v
  else containsSub (strBytes "]]>") v

theorem qh_length_takeWhile_le {α} (p : α → Bool) (l : List α) : (l.takeWhile p).length ≤ l.length := by
  induction l with
  | nil => simp
  | cons a l ih =>
    simp only [List.takeWhile_cons]
    split
    · simp only [List.length_cons]; omega
    · simp

theorem qh_trimRight_le (l : Bytes) : trimRightSpaceLength l ≤ l.length := by
  unfold trimRightSpaceLength
  have := qh_length_takeWhile_le isSpace l.reverse
  simpa using this

theorem qh_html_adv_nonneg {b : Bytes} {r : Reader} {c : RCur} (hc : RI b r c) :
    0 ≤ (RCur.seg b c).len - (trimRightSpaceLength ((RCur.view b c).getD []) : Int) := by
  by_cases hp : c.p < b.length
  · obtain ⟨l, hv, h3, _, _, _⟩ := view_some_facts hp
    have := qh_trimRight_le l
    rw [hv]
    simp only [Option.getD_some]
    omega
  · rw [view_none b c hp]
    have h1 := hc.inRange
    have h2 := lineEnd_ge b h1
    have : trimRightSpaceLength ([] : Bytes) = 0 := by decide
    simp only [Option.getD_none, this, RCur.seg, Segment.len]
    omega

/-- `Continue` keeps the full relation whatever the end of run A's source is; a line, and a line feed at the end of `b`
    (the advance stops in front of it), are asked for only when run B's source goes on behind run A's -/
theorem cw_htmlContinue (F : Frame) (b : Bytes) : ∀ node sA sB, SR F b sA sB →
    (F.q = [] ∨ (HasLine b sA ∧ b.getLast? = some 10)) →
    P2 (fun x y sA' sB' => y = x ∧ SR F b sA' sB') (bpContinue .html node sA) (bpContinue .html (F.ι node) sB) := by
  intro node sA sB h hq
  show P2 _ (htmlContinue node sA) (htmlContinue (F.ι node) sB)
  unfold htmlContinue
  obtain ⟨c, hc0⟩ := h.ri
  refine P2.bind (getNode_p2 h node) (fun n m sA0 sB0 ⟨_, hm, e1, e2⟩ => ?_)
  subst hm e1 e2
  refine P2.bind (peekLine_p2c h hc0 (hq.imp id (fun g => g.1.at hc0))) (fun x y sA1 sB1 ⟨hc, hx, hy, h1⟩ => ?_)
  subst hx hy
  simp only
  have hty : (shN F (node == 0) n).htmlType = n.htmlType := rfl
  rw [hty, shN_lines, List.length_map]
  have hn := qh_html_adv_nonneg hc
  have hs0 : ¬ (RCur.seg b c).start < 0 := by simp [RCur.seg]
  have hrange : F.q = [] ∨ ∀ sA3 : St, sA3.r = sA1.r → (sA3.r.pos.start < sA3.r.pos.stop ∧
      sA3.r.pos.start + ((RCur.seg b c).len - (trimRightSpaceLength ((RCur.view b c).getD []) : Int)) <
        sA3.r.pos.stop + sA3.r.pos.padding) := by
    refine hq.imp id (fun g sA3 e => ?_)
    have hp := g.1.at hc0
    have hT : 1 ≤ trimRightSpaceLength ((RCur.view b c).getD []) := qh_view_trimRight_pos b g.2 c hp
    have hle0 := lt_lineEnd b hp
    rw [e, hc.pos]; simp only [RCur.seg, Segment.len]; omega
  generalize (RCur.view b c).getD [] = line at hn hrange ⊢
  generalize RCur.seg b c = segment at hn hs0 hrange ⊢
  have hcl : ∀ v, (if (n.htmlType == 1) = true then type1Close v
      else if (n.htmlType == 2) = true then containsSub (strBytes "-->") v
      else if (n.htmlType == 3) = true then containsSub (strBytes "?>") v
      else if (n.htmlType == 4) = true then containsSub (strBytes ">") v
      else containsSub (strBytes "]]>") v) = qh_htmlCloses n.htmlType v := fun v => rfl
  simp only [hcl]
  have fin : ∀ sA2 sB2, SR F b sA2 sB2 → sA2.r = sA1.r → P2 (fun x y sA' sB' => y = x ∧ SR F b sA' sB')
      ((do appendLine node segment
           advance (segment.len - trimRightSpaceLength line)
           pure stContinueNoChildren : M PState) sA2)
      ((do appendLine (F.ι node) (moveSeg F.d segment)
           advance ((moveSeg F.d segment).len - trimRightSpaceLength line)
           pure stContinueNoChildren : M PState) sB2) := by
    intro sA2 sB2 h2 hr2
    refine P2.bind (appendLine_l h2.l node rfl) (fun _ _ sA3 sB3 h3l => ?_)
    have h3 := h3l.sr h2
    refine P2.bind (advance_p2 h3 (by rw [moveSeg_len]) hn (hrange.imp id (fun f => f _ (by rw [h3l.ra, hr2]))))
      (fun _ _ sA4 sB4 h4 => ?_)
    exact P2.pure ⟨rfl, h4⟩
  have mid : ∀ sA2 sB2, SR F b sA2 sB2 → sA2.r = sA1.r → P2 (fun x y sA' sB' => y = x ∧ SR F b sA' sB')
      ((if qh_htmlCloses n.htmlType line = true then do
            modNode node fun n => { n with closure := segment }
            advance (segment.len - trimRightSpaceLength line)
            pure stClose
          else do
            appendLine node segment
            advance (segment.len - trimRightSpaceLength line)
            pure stContinueNoChildren : M PState) sA2)
      ((if qh_htmlCloses n.htmlType line = true then do
            modNode (F.ι node) fun n => { n with closure := moveSeg F.d segment }
            advance ((moveSeg F.d segment).len - trimRightSpaceLength line)
            pure stClose
          else do
            appendLine (F.ι node) (moveSeg F.d segment)
            advance ((moveSeg F.d segment).len - trimRightSpaceLength line)
            pure stContinueNoChildren : M PState) sB2) := by
    intro sA2 sB2 h2 hr2
    by_cases hc1 : qh_htmlCloses n.htmlType line = true
    · rw [if_pos hc1, if_pos hc1]
      refine P2.bind (modNode_l h2.l node _ _ (fun a => by simp [shN, shClosure, hs0]) (fun _ => rfl))
        (fun _ _ sA3 sB3 h3l => ?_)
      have h3 := h3l.sr h2
      refine P2.bind (advance_p2 h3 (by rw [moveSeg_len]) hn (hrange.imp id (fun f => f _ (by rw [h3l.ra, hr2]))))
        (fun _ _ sA4 sB4 h4 => ?_)
      exact P2.pure ⟨rfl, h4⟩
    · rw [if_neg hc1, if_neg hc1]; exact fin _ _ h2 hr2
  by_cases hc0 : (decide (1 ≤ n.htmlType) && decide (n.htmlType ≤ 5)) = true
  · rw [if_pos hc0, if_pos hc0]
    by_cases hc1 : (n.lines.length == 1) = true
    · rw [if_pos hc1, if_pos hc1]
      refine P2.bind (P := fun s t sA' sB' => t = moveSeg F.d s ∧ sA' = sA1 ∧ sB' = sB1)
        (P2.liftE (fun s t e1 e2 => ?_)) (fun l1 l1' sA3 sB3 ⟨ht, e1, e2⟩ => ?_)
      · rw [lineAt_sh F.d e1] at e2; cases e2; exact ⟨rfl, rfl, rfl⟩
      subst ht e1 e2
      refine P2.bind (source_p2 h1) (fun a a' sA2 sB2 ⟨ha, hb, e1, e2⟩ => ?_)
      subst e1 e2
      rw [ha, hb]
      refine P2.bind (P := fun s t sA' sB' => t = s ∧ sA' = sA2 ∧ sB' = sB2)
        (P2.liftE (fun s t e1 e2 => ?_)) (fun v v' sA3 sB3 ⟨ht, e1, e2⟩ => ?_)
      · rw [value_ok_shift F b e1] at e2; cases e2; exact ⟨rfl, rfl, rfl⟩
      subst ht e1 e2
      by_cases hc2 : qh_htmlCloses n.htmlType v' = true
      · rw [if_pos hc2, if_pos hc2]; exact P2.pure ⟨rfl, h1⟩
      · rw [if_neg hc2, if_neg hc2]; exact mid _ _ h1 rfl
    · rw [if_neg hc1, if_neg hc1]; exact mid _ _ h1 rfl
  · rw [if_neg hc0, if_neg hc0]
    by_cases hc1 : (n.htmlType == 6 || n.htmlType == 7) = true
    · rw [if_pos hc1, if_pos hc1]
      by_cases hc2 : isBlank line = true
      · rw [if_pos hc2, if_pos hc2]; exact P2.pure ⟨rfl, h1⟩
      · rw [if_neg hc2, if_neg hc2]; exact fin _ _ h1 rfl
    · rw [if_neg hc1, if_neg hc1]; exact fin _ _ h1 rfl

theorem htmlContinue_sim (F : Frame) (b : Bytes) : ContinueSim F b .html :=
  fun node sA sB h hl hnl => cw_htmlContinue F b node sA sB h (.inr ⟨hl, hl.last_of_nl hnl⟩)

theorem qh_okl_run {α} {P : α → St → Prop} {m : Except Panic (α × St)} {a : α} {s' : St} (h : OKL P m)
    (e : m = .ok (a, s')) : P a s' := by
  rcases h with ⟨a0, s0, h1, h2⟩ | h1
  · rw [h1] at e; cases e; exact h2
  · rw [h1] at e; cases e

end GM.Blocks.Xs
