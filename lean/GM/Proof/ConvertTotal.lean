/-
  GM.Proof.ConvertTotal — what the no-fuel-exhaustion theorems of the compositions share: a `Segment.Value` panic and a
  renderer outcome are no fuel outcomes; the inline phase of a block behind the run-time check `wf0B` answers or reports
  `linesNotWF0` (`parseBlock_total`). The theorem for `convertCore` is the case `core` of the one for `convertL`
  (GM.Proof.ConvertX).
-/
import GM.Proof.LinkRefPres
import GM.Model.Convert

namespace GM.Proof.ConvertTotal
open GM GM.Text GM.Convert GM.LinkRef GM.Proof.LinkRefTotal GM.Proof.InlinesReader

theorem liftErr_value_noLoop {α} {x : Except Panic α} {e : Err} (h : liftErr .value x = .error e) : e.isLoop = false := by
  cases x with
  | ok a => cases h
  | error p => simp only [liftErr, Except.error.injEq] at h; subst h; rfl

/-- the inline phase of one block behind the run-time check: a result, `linesNotWF0`, never a phase error -/
theorem inlinePhase_guarded (env : GM.Inl.Env) (src : Bytes) (n : GM.Blocks.Node) :
    (∃ kids, inlinePhase true env src n = .ok kids) ∨ inlinePhase true env src n = .error .linesNotWF0 := by
  unfold inlinePhase
  split
  · exact Or.inl ⟨_, rfl⟩
  · split
    · exact Or.inl ⟨_, rfl⟩
    · split
      · exact Or.inr rfl
      · rename_i hw
        have hw' : wf0B src n.lines = true := by simpa using hw
        obtain ⟨W, Z⟩ := wf0B_sound hw'
        obtain ⟨kids, hk⟩ := GM.Proof.InlinesLink.parseBlock_total W Z env
        rw [hk]
        exact Or.inl ⟨kids, rfl⟩

theorem inlinePhase_noLoop (env : GM.Inl.Env) (src : Bytes) (n : GM.Blocks.Node) {e : Err}
    (h : inlinePhase true env src n = .error e) : e.isLoop = false := by
  rcases inlinePhase_guarded env src n with ⟨k, hk⟩ | hk
  · rw [hk] at h; cases h
  · rw [hk] at h; cases h; rfl

theorem renderDoc_noLoop (o : ROpts) (t : GM.Node) {e : Err} (h : renderDoc o t = .error e) : e.isLoop = false := by
  unfold renderDoc at h
  split at h
  · cases h; rfl
  · cases h

end GM.Proof.ConvertTotal
