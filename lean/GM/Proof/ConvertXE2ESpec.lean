/-
  GM.Proof.ConvertXE2ESpec — the contract `GM.Blocks.PTPost` of the driver theorem of GM.Props.ConvertNP
  (`block_phase_with_transformers_total`: any transformer list with `PTsSpec src e`) does NOT admit the table paragraph
  transformer: `PTPost` lets a transformer add AT MOST ONE node to the store (the TextBlock of the link-reference
  transformer's GONE case); whenever `buildTable` runs it adds at least two (the Table node and its TableHeader). The contract it
  does meet is the wide one, `PTSpecX` of GM.Proof.BlocksTNPXClose (a call that keeps the paragraph may attach fresh subtrees
  behind it): `transformPT_specX` in GM.Proof.BlocksTNPTable, under the named hypothesis `TableNodesOK src`.
-/
import GM.Proof.BlocksTNPSpec
import GM.Proof.ConvertXMon
import GM.Model.ExtTableX

namespace GM.Proof.ConvertXE2ESpec
open GM GM.Text GM.Blocks GM.Proof.ConvertXMon

/-- the length of the node store after `m`, related to the length before by a reflexive, transitive `R` -/
structure LR (R : Nat → Nat → Prop) {α : Type} (m : M α) : Prop where
  h : ∀ s a s', m s = .ok (a, s') → R s.nodes.length s'.nodes.length

section lrcalc
variable {R : Nat → Nat → Prop} (hr : ∀ a, R a a) (ht : ∀ a b c, R a b → R b c → R a c)
include hr ht

theorem LR.pure {α} (a : α) : LR R (pure a : M α) :=
  ⟨fun s a' s' h => by
    simp only [Pure.pure, StateT.pure, Except.pure, Except.ok.injEq, Prod.mk.injEq] at h
    obtain ⟨_, rfl⟩ := h; exact hr _⟩

theorem LR.bind {α β} {m : M α} {f : α → M β} (hm : LR R m) (hf : ∀ a, LR R (f a)) : LR R (m >>= f) := by
  constructor
  intro s b s'' h
  obtain ⟨a, s', h1, h2⟩ := bind_ok h
  exact ht _ _ _ (hm.h s a s' h1) ((hf a).h s' b s'' h2)

theorem LR.ite {α} {c : Prop} [Decidable c] {a b : M α} (ha : LR R a) (hb : LR R b) : LR R (if c then a else b) := by
  split <;> assumption

theorem LR.throw {α} (e : Panic) : LR R (throw e : M α) := ⟨fun _ _ _ h => by cases h⟩

theorem getNode_lr (id : Nat) : LR R (getNode id) :=
  ⟨fun s a s' h => by
    simp only [getNode, Pure.pure, Except.pure, Except.ok.injEq, Prod.mk.injEq] at h
    obtain ⟨_, rfl⟩ := h; exact hr _⟩

theorem modNode_lr (id : Nat) (f : Blocks.Node → Blocks.Node) : LR R (modNode id f) :=
  ⟨fun s a s' h => by
    simp only [modNode, Pure.pure, Except.pure, Except.ok.injEq, Prod.mk.injEq] at h
    obtain ⟨_, rfl⟩ := h
    simp only [List.length_set]; exact hr _⟩

theorem removeChild_lr (p c : Nat) : LR R (removeChild p c) := by
  unfold removeChild
  refine LR.bind hr ht (getNode_lr hr ht _) (fun cn => ?_)
  refine LR.ite hr ht (LR.pure hr ht _) ?_
  exact LR.bind hr ht (modNode_lr hr ht _ _) (fun _ => modNode_lr hr ht _ _)

theorem ensureIsolated_lr (c : Nat) : LR R (ensureIsolated c) := by
  unfold ensureIsolated
  refine LR.bind hr ht (getNode_lr hr ht _) (fun cn => ?_)
  split
  · exact removeChild_lr hr ht _ _
  · exact LR.pure hr ht _

theorem appendChild_lr (p c : Nat) : LR R (appendChild p c) := by
  unfold appendChild
  refine LR.bind hr ht (ensureIsolated_lr hr ht _) (fun _ => ?_)
  exact LR.bind hr ht (modNode_lr hr ht _ _) (fun _ => modNode_lr hr ht _ _)

theorem insertBefore_lr (p : Nat) (v1 : Option Nat) (ins : Nat) : LR R (insertBefore p v1 ins) := by
  unfold insertBefore
  split
  · exact appendChild_lr hr ht _ _
  · refine LR.bind hr ht (getNode_lr hr ht _) (fun vn => ?_)
    refine LR.ite hr ht (appendChild_lr hr ht _ _) ?_
    refine LR.bind hr ht (ensureIsolated_lr hr ht _) (fun _ => ?_)
    exact LR.bind hr ht (modNode_lr hr ht _ _) (fun _ => modNode_lr hr ht _ _)

theorem replaceChild_lr (p v1 ins : Nat) : LR R (replaceChild p v1 ins) := by
  unfold replaceChild
  exact LR.bind hr ht (insertBefore_lr hr ht _ _ _) (fun _ => removeChild_lr hr ht _ _)

end lrcalc

theorem eq_refl' : ∀ a : Nat, a = a := fun _ => rfl
theorem eq_trans' : ∀ a b c : Nat, a = b → b = c → a = c := fun _ _ _ h1 h2 => h1.trans h2
theorem le_refl' : ∀ a : Nat, a ≤ a := Nat.le_refl
theorem le_trans' : ∀ a b c : Nat, a ≤ b → b ≤ c → a ≤ c := fun _ _ _ => Nat.le_trans

theorem newNode_len (n : Blocks.Node) (s : St) (a : Nat) (s' : St) (h : newNode n s = .ok (a, s')) :
    s'.nodes.length = s.nodes.length + 1 := by
  simp only [newNode, Pure.pure, Except.pure, Except.ok.injEq, Prod.mk.injEq] at h
  obtain ⟨_, rfl⟩ := h
  simp

theorem newNode_le (n : Blocks.Node) : LR (· ≤ ·) (newNode n) :=
  ⟨fun s a s' h => by rw [newNode_len n s a s' h]; omega⟩

theorem ptPost_adds_at_most_one {node : Nat} {s s' : St} (h : PTPost node s s') : s'.nodes.length ≤ s.nodes.length + 1 := by
  rcases h.res with ⟨refs, k, _, rfl⟩ | ⟨refs, p, _, hrep⟩
  · simp
  · unfold ptReplace at hrep
    obtain ⟨t, s1, h1, h2⟩ := bind_ok hrep
    have e1 := newNode_len _ _ _ _ h1
    have e2 := (replaceChild_lr (R := (· = ·)) eq_refl' eq_trans' p node t).h _ _ _ h2
    have e0 : (ptEmptied s node refs).nodes.length = s.nodes.length := by simp [ptEmptied]
    omega

open GM.TableX in
theorem addCells_le (src : Bytes) (row : Nat) : ∀ cells, LR (· ≤ ·) (addCells src row cells)
  | [] => by unfold addCells; exact LR.pure le_refl' le_trans' _
  | c :: rest => by
    unfold addCells
    refine LR.bind le_refl' le_trans' (newNode_le _) (fun id => ?_)
    exact LR.bind le_refl' le_trans' (appendChild_lr le_refl' le_trans' _ _) (fun _ => addCells_le src row rest)

open GM.TableX in
theorem addRows_le (src : Bytes) (table : Nat) : ∀ rows, LR (· ≤ ·) (addRows src table rows)
  | [] => by unfold addRows; exact LR.pure le_refl' le_trans' _
  | r :: rest => by
    unfold addRows addRow
    refine LR.bind le_refl' le_trans' ?_ (fun _ => addRows_le src table rest)
    refine LR.bind le_refl' le_trans' (newNode_le _) (fun id => ?_)
    exact LR.bind le_refl' le_trans' (addCells_le src id r) (fun _ => appendChild_lr le_refl' le_trans' _ _)

open GM.TableX in
theorem buildTable_adds_two (src : Bytes) (node : Nat) (parent : Option Nat) (para : List GM.Table.Seg) (t : GM.Table.Table)
    (s s' : St) (h : buildTable src node parent para t s = .ok ((), s')) : s.nodes.length + 2 ≤ s'.nodes.length := by
  unfold buildTable at h
  obtain ⟨table, s1, h1, h⟩ := bind_ok h
  have e1 := newNode_len _ _ _ _ h1
  obtain ⟨u, s2, h2, h⟩ := bind_ok h
  unfold addRow at h2
  obtain ⟨hid, s2a, h2a, h2⟩ := bind_ok h2
  have e2 := newNode_len _ _ _ _ h2a
  have e2b := (LR.bind le_refl' le_trans' (addCells_le src hid t.header)
    (fun _ => appendChild_lr (R := (· ≤ ·)) le_refl' le_trans' table hid)).h _ _ _ h2
  obtain ⟨u3, s3, h3, h⟩ := bind_ok h
  have e3 := (addRows_le src table t.rows).h _ _ _ h3
  obtain ⟨u4, s4, h4, h⟩ := bind_ok h
  have e4 := (modNode_lr (R := (· ≤ ·)) le_refl' le_trans' _ _).h _ _ _ h4
  have e5 : s4.nodes.length ≤ s'.nodes.length := by
    cases parent with
    | none => cases h
    | some p =>
      refine (LR.bind (R := (· ≤ ·)) le_refl' le_trans' (getNode_lr le_refl' le_trans' p) (fun pn => ?_)).h _ _ _ h
      refine LR.bind le_refl' le_trans' (insertBefore_lr le_refl' le_trans' _ _ _) (fun _ => ?_)
      exact LR.ite le_refl' le_trans' (removeChild_lr le_refl' le_trans' _ _) (LR.pure le_refl' le_trans' _)
  omega

open GM.TableX in
theorem transformPT_not_ptPost (src : Bytes) (node : Nat) (s s' : St) (t : GM.Table.Table)
    (ht : (GM.Table.transform src ((nd s node).lines.map toSeg)).table = some t)
    (h : transformPT src node s = .ok ((), s')) : ¬ PTPost node s s' := by
  intro hp
  have hle := ptPost_adds_at_most_one hp
  unfold transformPT at h
  simp only [bind, StateT.bind, getNode, source, pure, Except.pure, Except.bind, StateT.pure] at h
  split at h
  · cases h
  · have ht' : (GM.Table.transform src (List.map toSeg (s.nodes.getD node default).lines)).table = some t := ht
    rw [ht'] at h
    have := buildTable_adds_two src node _ _ t s s' h
    omega

end GM.Proof.ConvertXE2ESpec
