/-
  GM.Proof.BlocksTNOClRun — the close discipline `CInvW` through the LINE side of the driver with transformers and for whole runs: `closeBlocksT_mid`, `lineTailT_clG`, one pass and the outer loops
  (instances of GM.Proof.BlocksLoopRule), `runT_closed_aux`, and the twins' list agreeing with itself (`agreeT_twins`).
-/
import GM.Proof.BlocksTNOClOpen

section BlocksTNOClLineTail
/-
  The close discipline through the end of one iteration of the `for i` loop of parseBlocksT with both
  transformers: `closeBlocksT_mid`, `lineTailT_clG` — `openBlocksT`, then `closeBlocksT(lastIndex, i)`; the window of
  `openBlocksT` comes from the no-panic walk (`L.G.X.openBlocksL`, black box).
-/

namespace GM.Blocks.TX
open GM GM.Text GM.Spec GM.Proof.Reader GM.LinkRef GM.Blocks.L GM.Blocks.T GM.Blocks.TO GM.TableX
open GM.Proof.BlocksWF0 (isRaw)

variable {tb : Prop}

section mid
variable {src : Bytes} {pts : List PT} (hag : AgreeP tb src pts pts) (hagT : AgreeT tb src pts)
include hag hagT

/-- **closeBlocks on the middle of the stack** `pre ++ mid ++ new`, in the form the line loop calls it
    (`closeBlocks(len(pre)+len(mid)-1, len(pre))`): `mid` is closed, top first; `pre ++ new` stays -/
theorem closeBlocksT_mid {s s' : St} (pre mid new : List Block) (hop : s.pc.opened = pre ++ mid ++ new)
    (h : CInvW tb False src s s.pc.opened) (hsrc : s.r.source = src)
    (hcont : ∀ b ∈ mid.reverse.tail, b.bp.isContainer = true)
    (hG : ∀ g ∈ pre ++ new, PSb g → Guard s mid.reverse g)
    (e : closeBlocksT pts ((pre.length : Int) + (mid.length : Int) - 1) (pre.length : Int) s = .ok ((), s')) :
    CInvW tb False src s' s'.pc.opened ∧ s'.pc.opened = pre ++ new ∧ s'.r = s.r := by
  obtain ⟨a1, a2, a3⟩ := closeBlocksT_clM hag hagT pre mid new hop h hsrc hcont hG e
  exact ⟨by rw [a3]; exact a1, a3, a2.r⟩


section line
variable (lsp : LSp src) {e : Panic} (hsp : GM.Blocks.L.G.X.PTsSpecX src e pts)
include lsp hsp

/-- `openBlocks(thisParent)` then `closeBlocks(lastIndex, i)` (parser.go:1108-1121) under the close discipline;
    hypotheses as `lineTailL` -/
theorem lineTailT_clG {root : Nat} (Lb : Int) (pre : List Block) (be : Block) (rest : List Block) (ob : List Block)
    (li i : Int) (hob : ob = pre ++ be :: rest) (hli : li = (ob.length : Int) - 1) (hi : i = (pre.length : Int))
    (thisParent : Nat) (blank : Bool) (bl' : List LineStat) (s : St) (c : RCur)
    (x : LineOutcome × List LineStat) (s' : St)
    (hop : s.pc.opened = ob) (hri : RI src s.r c) (hpad : PadOK c) (hst : GM.Blocks.L.G.X.StableG src root s)
    (hpar : thisParent = lastNode root pre) (hmode : (nd s thisParent).kind = .list → Due src s c thisParent)
    (hinv : InvW0 tb src Lb s) (hle : Lb ≤ c.p) (hpl : PadL Lb c) (hci : CInvW tb False src s s.pc.opened)
    (e0 : lineTailT pts ob li i thisParent blank bl' s = .ok (x, s')) :
    CInvW tb False src s' s'.pc.opened ∧ (x.1 = LineOutcome.eof → s'.pc.opened = []) := by
  have hlen : ob.length = pre.length + rest.length + 1 := by rw [hob]; simp; omega
  have hliN : li = ((pre.length + rest.length : Nat) : Int) := by rw [hli, hlen]; omega
  have hlt : pre.length + rest.length < ob.length := by omega
  have hba : blockAt ob li = .ok ob[pre.length + rest.length] := by rw [hliN]; exact blockAt_ok ob _ hlt
  unfold lineTailT at e0
  obtain ⟨ln, s0, h0, k0⟩ := bind_ok e0
  obtain ⟨hln', hs0⟩ := liftE_ok h0
  subst s0
  have hln : ln = ob[pre.length + rest.length] := by rw [hba] at hln'; cases hln'; rfl
  have hlastmem : ln ∈ ob := by rw [hln]; exact List.getElem_mem _
  have hcl : Call s.pc.opened pre := ⟨⟨be :: rest, by rw [hop, hob], fun h => by cases h⟩⟩
  obtain ⟨res, s1, h1, k1⟩ := bind_ok k0
  obtain ⟨c1, new1, hria1, _, hw1, hleafy1, _, hpc1, _, _, _, _, _, hnewne⟩ :=
    oke_of_ok (GM.Blocks.L.G.X.openBlocksL (e := e) (pts := pts) lsp hsp pre thisParent blank s c hri hpad hst hcl hpar hmode) h1
  obtain ⟨hprec, hbec, hleafmid, hmidc⟩ := leafy_split (hob ▸ hop ▸ hst.leafy)
  -- the parent of the call
  have htplt : thisParent < s.nodes.length := by
    rw [hpar]
    rcases lastNode_mem root pre with e | ⟨b, hb, e⟩
    · rw [e]; exact hst.ls.rootLt
    · rw [e]; exact (hst.blocks b (by rw [hop, hob]; exact List.mem_append_left _ hb)).lt
  have htpk : (nd s thisParent).kind ≠ .paragraph := by
    rw [hpar]
    rcases lastNode_mem root pre with e | ⟨b, hb, e⟩
    · rw [e, hst.ls.rootKind]; decide
    · rw [e, (hst.blocks b (by rw [hop, hob]; exact List.mem_append_left _ hb)).kind]
      exact container_kind_ne_paragraph (hprec b hb)
  have how := (openBlocksT_clG hag hagT Lb thisParent blank s c res s1 ⟨hinv, hri, hpad, hle, hpl⟩ (ent_of_stable hst) hci htplt htpk h1).1
  split at k1
  · obtain ⟨pc, s2, h2, k2⟩ := bind_ok k1
    obtain ⟨hpc, hs2⟩ := getPc_ok h2
    subst s2
    subst pc
    obtain ⟨_, s3, h3, k3⟩ := bind_ok k2
    obtain ⟨hx, hs⟩ := pure_ok k3
    subst s'
    subst x
    refine (fun (p : CInvW tb False src s3 s3.pc.opened) => ⟨p, fun h => by cases h⟩) ?_
    -- the guards of the new leaf
    have hincr : (root :: (pre ++ be :: rest).map (·.node)).Pairwise (· < ·) := by
      have := hst.ls.incr; rw [hop, hob] at this; exact this
    have hguard : ∀ (mid : List Block), (∀ L ∈ mid, L ∈ be :: rest) → ∀ g ∈ pre ++ new1, PSb g →
        g ∈ s1.pc.opened → Guard s1 mid.reverse g := by
      intro mid hmid g hg hps hgo
      rcases List.mem_append.1 hg with hg | hg
      · exact absurd hps (not_ps_of_container (hprec g hg))
      · have hfr := hw1.fresh g hg
        have hatt := how.ci.att g hgo
        cases hq : (nd s1 g.node).parent with
        | none => rw [hq] at hatt; cases hatt
        | some q =>
          obtain ⟨q1, q2, q3⟩ := how.np g.node hfr q hq
          refine ⟨q, hq, q2, q3, fun L hL _ hpq => ?_⟩
          have hLm : L ∈ be :: rest := hmid L (by simpa using hL)
          have hLlt : L.node < s.nodes.length := hw1.oldlt L (by rw [hop, hob]; exact List.mem_append_right _ hLm)
          have htl : thisParent < L.node := by rw [hpar]; exact lastNode_lt_of_incr hincr hLm
          rcases q1 with q1 | q1
          · have := how.ci.tree.par_lt q L.node hpq
            omega
          · obtain ⟨r1, _, _⟩ := how.np q q1 L.node hpq
            omega
    rcases hw1.shape with e | ⟨hne, e⟩
    · have hslot : slotAfter ob s1.pc.opened li.toNat = some ln := by
        unfold slotAfter
        rw [e, hop, hliN, Int.toNat_natCast, List.getElem?_append_left hlt, List.getElem?_eq_getElem hlt, hln]
      rw [hslot] at h3
      simp only [Option.map, bne_self_eq_false, Bool.false_eq_true, if_false] at h3
      have harg : li = (pre.length : Int) + ((be :: rest).length : Int) - 1 := by rw [hliN]; simp; omega
      rw [harg, hi] at h3
      have hop1 : s1.pc.opened = pre ++ (be :: rest) ++ new1 := by rw [e, hop, hob]
      obtain ⟨a1, _, _⟩ := closeBlocksT_mid hag hagT pre (be :: rest) new1 hop1 how.ci hria1.source
        (fun b hb => hmidc b (by rw [List.tail_reverse] at hb; simpa using hb))
        (fun g hg hps => hguard (be :: rest) (fun L hL => hL) g hg hps (by
          rw [hop1]
          rcases List.mem_append.1 hg with hg | hg
          · exact List.mem_append_left _ (List.mem_append_left _ hg)
          · exact List.mem_append_right _ hg)) h3
      exact a1
    · obtain ⟨x, xs, hx⟩ : ∃ x xs, new1 = x :: xs := by
        cases new1 with
        | nil => exact absurd rfl (hnewne hne e)
        | cons x xs => exact ⟨x, xs, rfl⟩
      have hdl : ob.dropLast.length = pre.length + rest.length := by rw [List.length_dropLast]; omega
      have hslot : slotAfter ob s1.pc.opened li.toNat = some x := by
        unfold slotAfter
        rw [e, hop, hliN, Int.toNat_natCast, List.getElem?_append_right (by omega), hdl, Nat.sub_self, hx]
        rfl
      have hxne : (x.node == ln.node) = false := by
        have h1 := hw1.fresh x (by rw [hx]; simp)
        have h2 := hw1.oldlt ln (by rw [hop]; exact hlastmem)
        exact beq_false_of_ne (by omega)
      rw [hslot] at h3
      have hcond : (Option.map (fun x => x.node) (some x) != some ln.node) = true := by
        simp only [Option.map, bne, Option.some_beq_some, hxne, Bool.not_false]
      rw [if_pos hcond] at h3
      have hdrop : ob.dropLast = pre ++ (be :: rest).dropLast := by
        rw [hob]; exact List.dropLast_append_of_ne_nil (by simp)
      have harg : li - 1 = (pre.length : Int) + ((be :: rest).dropLast.length : Int) - 1 := by
        rw [hliN, List.length_dropLast]; simp
      rw [harg, hi] at h3
      have hop1 : s1.pc.opened = pre ++ (be :: rest).dropLast ++ new1 := by rw [e, hop, hdrop]
      obtain ⟨a1, _, _⟩ := closeBlocksT_mid hag hagT pre (be :: rest).dropLast new1 hop1 how.ci hria1.source
        (fun b hb => hmidc b (by simpa using List.mem_of_mem_tail hb))
        (fun g hg hps => hguard (be :: rest).dropLast (fun L hL => List.dropLast_subset _ hL) g hg hps (by
          rw [hop1]
          rcases List.mem_append.1 hg with hg | hg
          · exact List.mem_append_left _ (List.mem_append_left _ hg)
          · exact List.mem_append_right _ hg)) h3
      exact a1
  · obtain ⟨hx, hs⟩ := pure_ok k1
    subst s'
    subst x
    exact ⟨how.ci, fun h => by cases h⟩


end line

end mid

end GM.Blocks.TX
end BlocksTNOClLineTail

section BlocksTNOClLoop
/-
  The close discipline through one pass of the `for i` loop of parseBlocksT with both transformers.
  The hypotheses are those of `L.G.X.lineLoopL` (`X.StableG`, the list hints) with `InvW0` up to the line start; the walk
  (`lineLoopT_rule`) carries `CInvW tb False src s s.pc.opened` along.
-/

namespace GM.Blocks.TX
open GM GM.Text GM.Spec GM.Proof.Reader GM.LinkRef GM.Blocks.L GM.Blocks.T GM.Blocks.TO GM.TableX
open GM.Proof.BlocksWF0 (isRaw)

variable {tb : Prop}

/-- a step that writes only the lines of one raw node (`Continue` of a code block, a fenced code block, an HTML block) -/
theorem CInvW.onlyN {src : Bytes} {s s' : St} {U : List Block} {X : Nat} (h : CInvW tb False src s U) (ho : OnlyN X s s')
    (hraw : isRaw (nd s X).kind = true) (hpc : s'.pc = s.pc) (hinv' : ∃ B, InvW0 tb src B s') (hl : LinksKept s s') :
    CInvW tb False src s' U := by
  have hlinks : ∀ i, (nd s' i).parent = (nd s i).parent ∧ (nd s' i).children = (nd s i).children := by
    intro i
    rcases Nat.lt_or_ge i s.nodes.length with hi | hi
    · exact hl.2.1 i hi
    · rw [nd_default_of_ge s hi, nd_default_of_ge s' (by rw [ho.1]; exact hi)]; exact ⟨rfl, rfl⟩
  refine .ofA (h.toA.onlyX (by obtain ⟨B', hB'⟩ := hinv'; exact ⟨B', _, hB'⟩) hlinks ho.2.1 ho.2.2 hraw
    (fun i hx hab => by unfold AbW; rw [ho.2.1 i hx]; exact hab) (by rw [hpc])) h.nodup (fun i hn => ?_)
  by_cases hx : i = X
  · subst hx; rw [ho.2.2] at hn; have := hn.1; rw [noLinesKind_of_raw hraw] at this; cases this
  · rw [ho.2.1 i hx] at hn ⊢; exact h.nl i hn

/-- what a pass over the opened blocks ends in: the close discipline holds for the new stack, and at the end of the
    source the stack is empty -/
def QLG (tb : Prop) (src : Bytes) (x : LineOutcome × List LineStat) (s' : St) : Prop :=
  CInvW tb False src s' s'.pc.opened ∧ (x.1 = LineOutcome.eof → s'.pc.opened = [])

/-- a stack has one leaf at most: a Paragraph block and a setext block cannot both be open -/
theorem leaf_unique {ob : List Block} (h : Leafy ob) {g b : Block} (hg : g ∈ ob) (hb : b ∈ ob)
    (hgp : g.bp = .paragraph) (hbs : b.bp = .setext) : False :=
  TO.leaf_unique h hg hb hgp hbs

theorem bpContinue_cinvG {src : Bytes} {s s' : St} {st : PState} {U : List Block} (bp : BP) (node : Nat)
    (hi : CInvW tb False src s U) (c : RCur) (hri : RI src s.r c)
    (hnl : bp ≠ .list ∧ bp ≠ .listItem) (hnp : bp ≠ .paragraph) (hk : (nd s node).kind = bp.kind)
    (hpc : s'.pc = s.pc) (hinv' : ∃ B, InvW0 tb src B s') (e : bpContinue bp node s = .ok (st, s')) : CInvW tb False src s' U := by
  have same : s' = s → CInvW tb False src s' U := fun h => by rw [h]; exact hi
  have raw : isRaw bp.kind = true → FrN node (bpContinue bp node) → CInvW tb False src s' U := fun hr hf =>
    hi.onlyN (hf.h s st s' e) (by rw [hk]; exact hr) hpc hinv' ((bpContinue_frl bp node).h s st s' e)
  cases bp
  case setext => exact same (by have e' : (pure stClose : M PState) s = .ok (st, s') := e; exact (pure_ok e').2)
  case thematic => exact same (by have e' : (pure stClose : M PState) s = .ok (st, s') := e; exact (pure_ok e').2)
  case list => exact absurd rfl hnl.1
  case listItem => exact absurd rfl hnl.2
  case code => exact raw rfl codeContinue_frn
  case atx => exact same (by have e' : (pure stClose : M PState) s = .ok (st, s') := e; exact (pure_ok e').2)
  case fenced => exact raw rfl fencedContinue_frn
  case blockquote =>
    have e' : blockquoteContinue node s = .ok (st, s') := e
    unfold blockquoteContinue at e'
    obtain ⟨b, s1, h1, k1⟩ := bind_ok e'
    obtain ⟨r1, c1, hs1, _⟩ := (blockquoteProcess_okl hri).of_ok h1
    have hs' : s' = s1 := by
      split at k1
      · exact (pure_ok k1).2
      · exact (pure_ok k1).2
    rw [hs', hs1]
    exact hi.of_same rfl rfl rfl
  case html => exact raw rfl htmlContinue_frn
  case paragraph => exact absurd rfl hnp

section run
variable {src : Bytes} {pts : List PT} (hag : AgreeP tb src pts pts) (hagT : AgreeT tb src pts) (lsp : LSp src) {e : Panic} (hsp : GM.Blocks.L.G.X.PTsSpecX src e pts)
include hag hagT lsp hsp

/-- the fall-through continuation of one iteration of the `for i` loop; hypotheses as `lineFL` -/
theorem lineFTT_clG {root : Nat} (Lb : Int) (parent : Nat) (hroot : parent = root) (pre : List Block) (be : Block)
    (rest : List Block) (ob : List Block) (li i : Int)
    (hob : ob = pre ++ be :: rest) (hli : li = (ob.length : Int) - 1) (hi : i = (pre.length : Int))
    (blank : Bool) (bl' : List LineStat) (s : St) (c : RCur) (x : LineOutcome × List LineStat) (s' : St)
    (hop : s.pc.opened = ob) (hri : RI src s.r c) (hpad : PadOK c) (hst : GM.Blocks.L.G.X.StableG src root s)
    (hmode : (nd s (lastNode root pre)).kind = .list → Due src s c (lastNode root pre))
    (hinv : InvW0 tb src Lb s) (hle : Lb ≤ c.p) (hpl : PadL Lb c) (hci : CInvW tb False src s s.pc.opened)
    (e0 : lineFTT pts parent ob li i blank bl' s = .ok (x, s')) : QLG tb src x s' := by
  rw [lineFTT_eq pts hroot li hob hi] at e0
  exact lineTailT_clG hag hagT lsp hsp Lb pre be rest ob li i hob hli hi _ blank bl' s c x s' hop hri hpad hst rfl hmode hinv hle
    hpl hci e0

/-- **one pass of the `for i` loop (parser.go:1081-1123) keeps the close discipline**: `lineLoopT_rule` with the close discipline of the
    stack beside `InvW0` up to the bound (what the order walk GM.Proof.BlocksTNORunW knows of the states in between is asked of it) -/
theorem lineLoopT_clG {root : Nat} (parent : Nat) (hroot : parent = root) (ob : List Block) (li : Int)
    (hli : li = (ob.length : Int) - 1) (Lb : Int) :
    ∀ (rest pre : List Block) (i : Int) (bl : List LineStat) (s : St) (c : RCur)
      (x : LineOutcome × List LineStat) (s' : St), ob = pre ++ rest → i = (pre.length : Int) →
      s.pc.opened = ob → RI src s.r c → PadOK c → GM.Blocks.L.G.X.StableG src root s →
      (∀ Lk, pre.getLast? = some Lk → Lk.bp = .list → ListHint src s c Lk.node) →
      InvW0 tb src Lb s → Lb ≤ c.p → PadL Lb c → CInvW tb False src s s.pc.opened →
      lineLoopT pts parent ob li rest i bl s = .ok (x, s') → QLG tb src x s' := by
  intro rest pre i bl s c x s' hob hi hop hri hpad hst hhint hinv hle hpl hci h
  refine (lineLoopT_rule (K := fun s => InvW0 tb src Lb s ∧ CInvW tb False src s s.pc.opened)
    (Dy := fun s => CInvW tb False src s s.pc.opened) (Q := QLG tb src) lsp parent ob li Lb hli (lineLayer_stableG src root) loopCalc_eqv
    (fun h hn ho ht => ⟨h.1.of_same hn ho ht, by rw [ho]; exact h.2.of_same hn ho ht⟩) (fun h _ _ _ _ => h.2)
    (fun _ _ _ h => ⟨h, fun h => by cases h⟩)
    (fun bl s c hk hri hpad hle hpl hst hop hv => EQV.refl fun _ s2 h2 => ?_)
    (fun be s c c2 st s4 hk hri hpad hle hpl hst hop hbe hp hnl hnp h2c h4 => ?_)
    (fun _ be blank bl' s c hk hri hpad hle hpl hst hop hbe _ hbec => EQV.refl fun res s3 h3 => ?_)
    (fun pre be rest i hob hi blank bl' s c hk hri hpad hle hpl hst hop hmode => EQV.refl fun x s' e' =>
      lineFTT_clG hag hagT lsp hsp Lb parent hroot pre be rest ob li i hob hli hi blank bl' s c x s' hop hri hpad hst hmode hk.1 hle
        hpl hk.2 e')
    rest pre i bl s c hob hi hop hri hpad hst hhint ⟨hinv, hci⟩ hle hpl).2 x s' h
  · -- the end of the source: `closeBlocksT` closes the whole stack
    have e1 : li = (([] : List Block).length : Int) + (ob.length : Int) - 1 := by simp [hli]
    have h2' : closeBlocksT pts ((([] : List Block).length : Int) + (ob.length : Int) - 1) (([] : List Block).length : Int)
        s = .ok ((), s2) := by rw [← e1]; exact h2
    obtain ⟨a1, a2, _⟩ := closeBlocksT_mid hag hagT [] ob [] (by rw [hop]; simp) hk.2 hri.source
      (fun b hb => (hop ▸ hst.leafy) b (by rw [List.tail_reverse] at hb; simpa using hb))
      (fun g hg => by cases hg) h2'
    exact ⟨a1.of_same rfl rfl rfl, fun _ => by show s2.pc.opened = []; rw [a2]; rfl⟩
  · -- `Continue` of the eight list-free parsers
    have hbeok := hst.blocks be (hop ▸ hbe)
    obtain ⟨hinvE, hrest⟩ := bpContinue_cleanG (c2 := c2) be (CleanW.mk hk.1 hri hpad hle hpl) hp hst.keys hbeok.kind hnl hnp h2c h4
    have hci4 : CInvW tb False src s4 s4.pc.opened := by
      rw [h2c.pc]
      exact bpContinue_cinvG be.bp be.node hk.2 c hri hnl hnp hbeok.kind h2c.pc ⟨_, hinvE⟩ h4
    exact ⟨hci4, fun hor => ⟨⟨(hrest hor).1, hci4⟩, (hrest hor).2⟩⟩
  · -- `openBlocksT` below a container that goes on
    have hbe2 := hst.blocks be (hop ▸ hbe)
    exact ⟨(openBlocksT_clG hag hagT Lb be.node blank s c res s3 ⟨hk.1, hri, hpad, hle, hpl⟩ (ent_of_stable hst) hk.2
      hbe2.lt (by rw [hbe2.kind]; exact container_kind_ne_paragraph hbec) h3).1.ci, fun h => by cases h⟩

end run

end GM.Blocks.TX
end BlocksTNOClLoop

section BlocksTNOClRun
/-
  The close discipline for whole runs of the block phase with both paragraph transformers: at
  every line boundary `CInvW src s s.pc.opened` holds and the run ends with an empty stack (`runT_closed_aux`); the checked
  twins `[guardE e, tableE e src]` agree with themselves in the forms the walk needs (`agreeP_self_twins`, `agreeT_twins`),
  hence `runT_tableX_cinv` for the run with the link reference and the table transformer.
-/

namespace GM.Blocks.TX
open GM GM.Text GM.Spec GM.Proof.Reader GM.LinkRef GM.Blocks.L GM.Blocks.T GM.Blocks.TO GM.TableX
open GM.Proof.BlocksWF0 (isRaw)

variable {tb : Prop}

section run
variable {src : Bytes} {pts : List PT} (hag : AgreeP tb src pts pts) (hagT : AgreeT tb src pts) (lsp : LSp src) {e : Panic} (hsp : GM.Blocks.L.G.X.PTsSpecX src e pts)
include hag hagT lsp hsp

/-- the outer loop of parseBlocksT (parser.go:1055-1127) under the close discipline: `blocksLoopT_rule` with the close
    discipline of the stack beside `InvW0` / `DirtyW`, and "the stack is empty" at the end of the source -/
theorem blocksLoopT_clG {root : Nat} (parent : Nat) (hroot : parent = root) :
    ∀ (fuel : Nat) (bl : List LineStat) (s : St) (c : RCur) (s' : St), RI src s.r c → PadOK c →
      GM.Blocks.L.G.X.StableG src root s → s.pc.opened = [] → InvW0 tb src (c.p : Int) s → c.pad = 0 →
      CInvW tb False src s s.pc.opened →
      blocksLoopT pts parent fuel bl s = .ok ((), s') →
      CInvW tb False src s' s'.pc.opened ∧ s'.pc.opened = [] :=
  fun fuel bl s c s' hri hpad hst hemp hinv hp0 hci h =>
  (blocksLoopT_rule (ST := GM.Blocks.L.G.X.StableG src root)
    (K := fun B s => InvW0 tb src B s ∧ CInvW tb False src s s.pc.opened)
    (Dy := fun s => DirtyW tb src s ∧ CInvW tb False src s s.pc.opened) (De := fun s => s.pc.opened = [])
    (Fin := fun s => CInvW tb False src s s.pc.opened ∧ s.pc.opened = []) parent (fun r h => h.congr_r r)
    (fun h hi => ⟨hi.1.mono h, hi.2⟩) (fun r hi => ⟨hi.1.congr_r r, hi.2.of_same rfl rfl rfl⟩)
    (fun hd hria => ⟨dirty_nextG hd.1 hria, hd.2.of_same rfl rfl rfl⟩)
    (fun bl s c hri hpad hst hinv hp0 => EQV.refl fun y s1 h1 =>
      have w := (lineLoopT_top lsp hag hsp parent hroot bl s c hri hpad hst hinv.1 hp0).2 y s1 h1
      have q := lineLoopT_clG hag hagT lsp hsp parent hroot s.pc.opened ((s.pc.opened.length : Int) - 1) rfl (c.p : Int)
        s.pc.opened [] 0 bl s c y s1 (by simp) (by simp) rfl hri hpad hst (fun Lk h => by simp at h) hinv.1 (Int.le_refl _)
        (fun hne => absurd hp0 hne) hinv.2 h1
      ⟨⟨w.1, q.1⟩, q.2, w.2⟩)
    (fun blank s c hri hpad hst hemp hinv hp0 => EQV.refl fun res s4 h4 =>
      have w := (openBlocksT_top lsp hag hsp parent hroot blank s c hri hpad hst hemp hinv.1 hp0).2 res s4 h4
      have q := openBlocksT_clG hag hagT (c.p : Int) parent blank s c res s4
        ⟨hinv.1, hri, hpad, Int.le_refl _, fun hne => absurd hp0 hne⟩ (ent_of_stable hst) hinv.2 (by rw [hroot]; exact hst.ls.rootLt)
        (by rw [hroot, hst.ls.rootKind]; decide) h4
      ⟨⟨w.1, q.1.ci⟩, fun hne => List.eq_nil_of_sublist_nil (hemp ▸ q.2 hne), w.2⟩)
    (fun _ _ h he => ⟨h.2, he⟩) (fun _ hd he => ⟨hd.2, he⟩)
    fuel bl s c hri hpad hst hemp ⟨hinv, hci⟩ hp0).2 () s' h

end run

section fin
variable {src : Bytes} {pts : List PT} {e : Panic}

theorem runT_closed_aux (hag : AgreeP tb src pts pts) (hagT : AgreeT tb src pts) (hsp : GM.Blocks.L.G.X.PTsSpecX src e pts) (s : St) (h : runT pts src = .ok s) :
    CInvW tb False src s [] ∧ s.pc.opened = [] := by
  have hnd0 := nd_st0 src
  have hci0 : CInvW tb False src (st0 src) [] := by
    refine ⟨⟨_, _, invG_st0 src⟩, ⟨fun i p hp => ?_, fun x c hc => ?_, fun x => ?_⟩, fun i _ => .inl (fun t ht => ?_),
      (fun b hb => by cases hb), List.nodup_nil, (fun b hb => by cases hb), fun i _ => by rw [hnd0]; split <;> rfl⟩
    · rw [hnd0] at hp; split at hp <;> cases hp
    · rw [hnd0] at hc; split at hc <;> cases hc
    · rw [hnd0]; split <;> exact List.nodup_nil
    · rw [hnd0] at ht; split at ht <;> cases ht
  unfold runT at h
  rw [parseBlocksT_eq] at h
  cases hx : blocksLoopT pts 0 (linesFuel src) [] (st0 src) with
  | error e' => rw [hx] at h; cases h
  | ok p =>
    obtain ⟨u, s1⟩ := p
    rw [hx] at h
    have : s1 = s := by simpa [Except.map] using h
    subst this
    obtain ⟨a1, a2⟩ := blocksLoopT_clG hag hagT (lsp_all src) hsp 0 rfl (linesFuel src) [] (st0 src) RCur.init s1
      (ri_init src) (fun h => absurd rfl h) (stableG_st0 src) rfl (invG_st0 src) rfl hci0 hx
    rw [a2] at a1
    exact ⟨a1, a2⟩

end fin

theorem agreeP_self_twins (src : Bytes) (e : Panic) : AgreeP True src [guardE e, tableE e src] [guardE e, tableE e src] :=
  fun node s a b c d f => ⟨rfl, fun g s' h => by
    have h1 := agreeP_twins src e node s a b c d f
    exact h1.2 g s' h⟩

theorem agreeT_twins (src : Bytes) (e : Panic) : AgreeT True src [guardE e, tableE e src] := by
  intro node s hsrc hlt hk hn hok htr g s' hrun
  have hok' : linesOKB s.r.source (nd s node).lines = true := by rw [hsrc]; exact hok
  unfold transformParagraph at hrun
  obtain ⟨_, s1, h1, k1⟩ := bind_ok hrun
  rw [GM.Proof.LinkRefTot2.guardE_passes e node s hok'] at h1
  have hp1 : PTPost node s s1 := TO.transform_post node s s1 (GM.Proof.LinkRefTot2.linesOKB_sound hok') h1
  obtain ⟨n2, s2, h2, k2⟩ := bind_ok k1
  obtain ⟨hn2, hs2⟩ := getNode_ok h2
  subst s2
  split at k2
  · obtain ⟨_, hs'⟩ := pure_ok k2
    subst s'
    exact .inl hp1
  · have hv1 : TO.tblLinesB src (nd s1 node).lines = true := by
      obtain ⟨k, hk'⟩ := ptpost_lines hlt hp1 node
      rw [hk']; exact tblLinesB_drop k (tblLinesB_of_linesOKB hok)
    unfold transformParagraph at k2
    obtain ⟨_, s3, h3, k3⟩ := bind_ok k2
    rw [tableE_passes e src node s1 hv1] at h3
    have hs' : s' = s3 := by
      obtain ⟨n4, s4, h4, k4⟩ := bind_ok k3
      obtain ⟨_, hs4⟩ := getNode_ok h4
      subst s4
      split at k4
      · exact (pure_ok k4).2
      · unfold transformParagraph at k4
        exact (pure_ok k4).2
    subst hs'
    rcases transformPT_data src h3 with ⟨_, hs⟩ | ⟨t, htb, hpar, _⟩
    · subst hs; exact .inl hp1
    · obtain ⟨p, hp⟩ := Option.isSome_iff_exists.1 hpar
      refine .inr ⟨trivial, s1, t, p, hp1, htb, hp, fun htr1 => ?_⟩
      rcases transformPT_post src htr1 h3 with ⟨hnone, _⟩ | ⟨t', p', htb', hpar', hT⟩
      · rw [hnone] at htb; cases htb
      · rw [htb] at htb'; cases htb'
        rw [hp] at hpar'; cases hpar'
        exact hT

/-- the close discipline of the final store of the run with the link reference and the table transformer -/
theorem runT_tableX_cinv (src : Bytes) (s : St) (h : runT [transform, transformPT src] src = .ok s) :
    CInvG False src s [] ∧ s.pc.opened = [] := by
  rw [← twins_never_fire src .nil] at h
  obtain ⟨a1, a2⟩ := runT_closed_aux (agreeP_self_twins src .nil) (agreeT_twins src .nil) (twins_specX src .nil) s h
  exact ⟨a1.toX, a2⟩

end GM.Blocks.TX
end BlocksTNOClRun
