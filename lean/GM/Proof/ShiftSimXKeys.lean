/-
  The six block parsers thematic, code, atx, blockquote, html, paragraph never write the parse context: every
  invariant that does not look at the reader or the node store is kept (their steps are `Step False` of
  GM.Proof.BlocksStep; their `Close` is a frame of GM.Proof.IndepFrame). Instance: the four context keys `tmpPara`, `fence`, `skipList`,
  `emptyItemBlank`. Trigger fact: a source without `- * + 0-9 = ` ~` triggers only these six parsers.
-/
import GM.Proof.ShiftSimAcyc

namespace GM.Blocks.Xs
open GM GM.Text GM.Spec GM.Proof.Reader GM.Blocks

/-- the six block parsers that never touch the context keys -/
def Cov6 (bp : BP) : Prop := bp ≠ .list ∧ bp ≠ .listItem ∧ bp ≠ .setext ∧ bp ≠ .fenced

/-- the four context keys are unset -/
def KeysOff (s : St) : Prop :=
  s.pc.tmpPara = none ∧ s.pc.fence = none ∧ s.pc.skipList = false ∧ s.pc.emptyItemBlank = false

theorem KeysOff.congr_pc {s s' : St} (h : KeysOff s) (e1 : s'.pc.tmpPara = s.pc.tmpPara)
    (e2 : s'.pc.fence = s.pc.fence) (e3 : s'.pc.skipList = s.pc.skipList)
    (e4 : s'.pc.emptyItemBlank = s.pc.emptyItemBlank) : KeysOff s' :=
  ⟨e1.trans h.1, e2.trans h.2.1, e3.trans h.2.2.1, e4.trans h.2.2.2⟩

theorem Cov6.noKeys {bp : BP} (h : Cov6 bp) : ¬ bp.keyed = true := by
  obtain ⟨h1, h2, h3, h4⟩ := h
  cases bp <;> first | exact Bool.false_ne_true | contradiction

section parsers
variable {I : St → Prop} (hR : NoR I) (hN : NoNodes I)
include hR hN

/-- the primitive steps of `Open` / `Continue` that write no context key -/
theorem xk_step {W : Nat → Prop} {s s' : St} (h : Step False W s s') (hs : I s) : I s' := by
  induction h with
  | refl => exact hs
  | trans _ _ ih1 ih2 => exact ih2 (ih1 hs)
  | rd s r' _ _ => exact hR.h s r' hs
  | key _ _ hk _ => exact hk.elim
  | write s id v _ _ => exact hN.h s _ hs
  | push s n _ _ => exact hN.h s _ hs

omit hR in
theorem xk_prims : FrPrims (fun s s' => I s → I s') where
  refl := fun _ hs => hs
  trans := fun h1 h2 hs => h2 (h1 hs)
  modNode := fun s _ _ hs => hN.h s _ hs
  newNode := fun s _ hs => hN.h s _ hs

theorem xk_removeChild_keeps (p c : Nat) : Keeps I (removeChild p c) :=
  fun s a s' hs h => (removeChild_frI (xk_prims hN) p c).h s a s' h hs

theorem xk_bpOpen_keeps (bp : BP) (h : Cov6 bp) (p : Nat) : Keeps I (bpOpen bp p) :=
  fun _ _ _ hs e => xk_step hR hN ((bpOpen_step e).1.mono h.noKeys fun _ hw => hw) hs

theorem xk_bpContinue_keeps (bp : BP) (h : Cov6 bp) (n : Nat) : Keeps I (bpContinue bp n) :=
  fun _ _ _ hs e => xk_step hR hN ((bpContinue_step e).mono h.noKeys fun _ hw => hw) hs

theorem xk_bpClose_keeps (bp : BP) (h : Cov6 bp) (n : Nat) : Keeps I (bpClose bp n) := by
  have hP := xk_prims hN
  cases bp <;> unfold bpClose
  · exact absurd rfl h.2.2.1
  · exact Keeps.pure _
  · exact absurd rfl h.1
  · exact Keeps.pure _
  · exact fun s a s' hs e => (codeClose_fr hP n).h s a s' e hs
  · exact Keeps.pure _
  · exact absurd rfl h.2.2.2
  · exact Keeps.pure _
  · exact Keeps.pure _
  · exact fun s a s' hs e => (paragraphClose_fr hP n).h s a s' e hs

end parsers

/-- the four context keys have the given values -/
def xk_KeysAre (t : Option Nat) (f : Option FenceData) (k e : Bool) : St → Prop := fun s =>
  s.pc.tmpPara = t ∧ s.pc.fence = f ∧ s.pc.skipList = k ∧ s.pc.emptyItemBlank = e

theorem xk_keysAre_noR (t f k e) : NoR (xk_KeysAre t f k e) := ⟨fun _ _ h => h⟩
theorem xk_keysAre_noNodes (t f k e) : NoNodes (xk_KeysAre t f k e) := ⟨fun _ _ h => h⟩

theorem bpOpen_keys (bp : BP) (h : Cov6 bp) (parent : Nat) (s s' : St) (a)
    (e : bpOpen bp parent s = .ok (a, s')) :
    s'.pc.tmpPara = s.pc.tmpPara ∧ s'.pc.fence = s.pc.fence ∧ s'.pc.skipList = s.pc.skipList ∧
      s'.pc.emptyItemBlank = s.pc.emptyItemBlank :=
  xk_bpOpen_keeps (xk_keysAre_noR _ _ _ _) (xk_keysAre_noNodes _ _ _ _) bp h parent s a s'
    (⟨rfl, rfl, rfl, rfl⟩ : xk_KeysAre s.pc.tmpPara s.pc.fence s.pc.skipList s.pc.emptyItemBlank s) e

theorem bpContinue_keys (bp : BP) (h : Cov6 bp) (node : Nat) (s s' : St) (a)
    (e : bpContinue bp node s = .ok (a, s')) :
    s'.pc.tmpPara = s.pc.tmpPara ∧ s'.pc.fence = s.pc.fence ∧ s'.pc.skipList = s.pc.skipList ∧
      s'.pc.emptyItemBlank = s.pc.emptyItemBlank :=
  xk_bpContinue_keeps (xk_keysAre_noR _ _ _ _) (xk_keysAre_noNodes _ _ _ _) bp h node s a s'
    (⟨rfl, rfl, rfl, rfl⟩ : xk_KeysAre s.pc.tmpPara s.pc.fence s.pc.skipList s.pc.emptyItemBlank s) e

theorem bpClose_keys (bp : BP) (h : Cov6 bp) (node : Nat) (s s' : St) (a)
    (e : bpClose bp node s = .ok (a, s')) :
    s'.pc.tmpPara = s.pc.tmpPara ∧ s'.pc.fence = s.pc.fence ∧ s'.pc.skipList = s.pc.skipList ∧
      s'.pc.emptyItemBlank = s.pc.emptyItemBlank :=
  xk_bpClose_keeps (xk_keysAre_noR _ _ _ _) (xk_keysAre_noNodes _ _ _ _) bp h node s a s'
    (⟨rfl, rfl, rfl, rfl⟩ : xk_KeysAre s.pc.tmpPara s.pc.fence s.pc.skipList s.pc.emptyItemBlank s) e

theorem bpOpen_keysOff (bp : BP) (h : Cov6 bp) (parent : Nat) (s s' : St) (a)
    (e : bpOpen bp parent s = .ok (a, s')) (hk : KeysOff s) : KeysOff s' := by
  obtain ⟨e1, e2, e3, e4⟩ := bpOpen_keys bp h parent s s' a e
  exact hk.congr_pc e1 e2 e3 e4

theorem bpContinue_keysOff (bp : BP) (h : Cov6 bp) (node : Nat) (s s' : St) (a)
    (e : bpContinue bp node s = .ok (a, s')) (hk : KeysOff s) : KeysOff s' := by
  obtain ⟨e1, e2, e3, e4⟩ := bpContinue_keys bp h node s s' a e
  exact hk.congr_pc e1 e2 e3 e4

theorem bpClose_keysOff (bp : BP) (h : Cov6 bp) (node : Nat) (s s' : St) (a)
    (e : bpClose bp node s = .ok (a, s')) (hk : KeysOff s) : KeysOff s' := by
  obtain ⟨e1, e2, e3, e4⟩ := bpClose_keys bp h node s s' a e
  exact hk.congr_pc e1 e2 e3 e4

/-- no byte of the source triggers a list parser, the setext parser or the fenced code parser -/
def Plain6 (src : Bytes) : Prop :=
  ∀ c ∈ src, c ≠ 45 ∧ c ≠ 42 ∧ c ≠ 43 ∧ isNumeric c = false ∧ c ≠ 61 ∧ c ≠ 96 ∧ c ≠ 126

instance (src : Bytes) : Decidable (Plain6 src) := by unfold Plain6; infer_instance

theorem xk_free_cov6 : ∀ bp ∈ freeParsers, Cov6 bp := by
  intro bp hbp
  simp [freeParsers] at hbp
  rcases hbp with h | h <;> subst h <;> unfold Cov6 <;> decide

theorem xk_triggered_cov6 (src : Bytes) (hsrc : Plain6 src) :
    ∀ ch ∈ src, ∀ bps, triggered ch = some bps → ∀ bp ∈ bps, Cov6 bp := by
  intro ch hch bps htr bp hbp
  obtain ⟨h1, h2, h3, h4, h5, h6, h7⟩ := hsrc ch hch
  unfold triggered at htr
  have e1 : (ch == 45) = false := by simpa using h1
  have e2 : (ch == 42) = false := by simpa using h2
  have e3 : (ch == 43) = false := by simpa using h3
  have e5 : (ch == 61) = false := by simpa using h5
  have e6 : (ch == 96) = false := by simpa using h6
  have e7 : (ch == 126) = false := by simpa using h7
  simp only [e1, e2, e3, h4, e5, e6, e7, Bool.false_eq_true, if_false, Bool.or_self] at htr
  unfold Cov6
  repeat' split at htr
  all_goals first
    | (cases htr; simp [freeParsers] at hbp; rcases hbp with h | h | h <;> subst h <;> decide)
    | (cases htr; simp [freeParsers] at hbp; rcases hbp with h | h <;> subst h <;> decide)
    | cases htr

theorem triggers_cov6 (src : Bytes) (h : Plain6 src) :
    (∀ bp ∈ freeParsers, Cov6 bp) ∧
      ∀ c : UInt8, (c ∈ src ∨ c = 32) → ∀ bp ∈ (triggered c).getD freeParsers, Cov6 bp := by
  refine ⟨xk_free_cov6, ?_⟩
  intro c hc bp hbp
  rcases hc with hc | hc
  · cases ht : triggered c with
    | none => rw [ht] at hbp; exact xk_free_cov6 bp hbp
    | some bps => rw [ht] at hbp; exact xk_triggered_cov6 src h c hc bps ht bp hbp
  · subst hc
    have : triggered 32 = none := by decide
    rw [this] at hbp; exact xk_free_cov6 bp hbp

end GM.Blocks.Xs
