/-
  GM.Proof.EscFix — lemmas for the two repairs the models follow, for GM.Props.C02Esc
  (KNOWN_FINDINGS `fixed:` 24c9f23, 9e57c92):

  (E) parser/parser.go parseBlock: `escaped = false` at the top of the line loop (before `retry:`): the states in
      which an iteration of the outer `for` begins carry a cleared flag, in the abstract loop (GM.Model.InlineLoop)
      and in the concrete one (GM.Model.InlinesLoop / InlinesLoopX).
  (T) text/reader.go findClosureReader: `seg.WithStop(seg.Start + i - seg.Padding)`: the last segment FindClosure
      hands out stops at the SOURCE offset of the closer, whatever the virtual padding of the peeked line — on the
      block cursor `BCur` with any paddings and, through the simulation of GM.Proof.BlockReader, on the block reader.
-/
import GM.Proof.LinkRefCursor
import GM.Proof.InlineLoop
import GM.Model.InlinesLoopX

namespace GM.Proof.EscFix
open GM GM.Text GM.Spec GM.Proof.Reader GM.Proof.InlinesReader GM.Proof.BlockReaderFuel GM.Proof.LinkRefAdj

/-! ## (T) FindClosure: the stop of the closing segment -/

section closure
variable {src : Bytes} {segs : List Segment}

/-- the last of the segments is cut at a byte `cl` of the source -/
def ClosesAt (src : Bytes) (cl : UInt8) (sgs : List Segment) : Prop :=
  ∃ s, sgs.getLast? = some s ∧ 0 ≤ s.stop ∧ src[s.stop.toNat]? = some cl

/-- a byte of the peeked line behind the padding is the source byte at `p + i - pad` -/
theorem view_byte (F : SegFacts src segs) {c : BCur} (w : BWF segs c) {bs : Bytes}
    (hv : BCur.view src segs c = some bs) {i : Nat} {b : UInt8} (hi : c.pad ≤ (i : Int)) (hb : bs[i]? = some b) :
    0 ≤ c.p + i - c.pad ∧ src[(c.p + i - c.pad).toNat]? = some b := by
  have hl := view_live hv
  have h0 : 0 ≤ c.p := by
    have := (w.inLine hl).1
    have := (F.rng c.ln w.ln0 hl).1
    omega
  have hp0 := w.pad0
  unfold BCur.view at hv
  split at hv
  · simp only [Option.some.injEq] at hv
    rw [← hv] at hb
    have hlen : (spaces c.pad.toNat).length = c.pad.toNat := by simp [spaces]
    rw [List.getElem?_append_right (by rw [hlen]; omega), hlen] at hb
    unfold sub at hb
    rw [List.getElem?_take] at hb
    split at hb
    · rw [List.getElem?_drop] at hb
      refine ⟨by omega, ?_⟩
      have : (c.p + i - c.pad).toNat = c.p.toNat + (i - c.pad.toNat) := by omega
      rw [this]; exact hb
    · cases hb
  · cases hv

theorem getLast?_append_single {α : Type} (l : List α) (a : α) : (l ++ [a]).getLast? = some a := by
  simp

theorem fcl_stop (F : SegFacts src segs) (o cl : UInt8) (hcl : cl ≠ 32) (opts : FindClosureOptions) :
    ∀ (fuel opened cso : Nat) (ret : Option (List Segment)) (c : BCur) x c', BWF segs c →
    findClosureLoop (BCur.ops src segs) o cl opts fuel opened cso ret c = .ok (x, c') →
    x.2 = true → ClosesAt src cl (x.1.getD []) := by
  intro fuel
  induction fuel with
  | zero => intro opened cso ret c x c' _ h; simp [findClosureLoop] at h
  | succ f ih =>
    intro opened cso ret c x c' w h hx
    have hpl : (BCur.ops src segs).peekLine c = .ok ((BCur.view src segs c, BCur.seg segs c), c) := rfl
    simp only [findClosureLoop, hpl, bind, Except.bind] at h
    cases hv : BCur.view src segs c with
    | none =>
      rw [hv] at h
      simp only [pure, Except.pure, Except.ok.injEq, Prod.mk.injEq] at h
      obtain ⟨rfl, rfl⟩ := h
      simp at hx
    | some bs =>
      rw [hv] at h
      simp only at h
      split at h
      · rename_i i hsc
        cases ha : (BCur.ops src segs).advance (↑i + 1) c with
        | error er => rw [ha] at h; simp at h
        | ok c1 =>
          rw [ha] at h
          simp only [pure, Except.pure, Except.ok.injEq, Prod.mk.injEq] at h
          obtain ⟨rfl, rfl⟩ := h
          have hpad := found_behind_pad hv hcl hsc
          have hb := scanLine_found_closer _ _ _ _ _ _ _ _ _ hsc
          simp only [Nat.sub_zero] at hb
          obtain ⟨q1, q2⟩ := view_byte F w hv hpad hb
          refine ⟨_, by simp only [Option.getD_some]; exact getLast?_append_single _ _, ?_, ?_⟩
          · simpa only [Segment.withStop, BCur.seg] using q1
          · simpa only [Segment.withStop, BCur.seg] using q2
      · simp only [pure, Except.pure, Except.ok.injEq, Prod.mk.injEq] at h
        obtain ⟨rfl, rfl⟩ := h
        simp at hx
      · split at h
        · simp only [pure, Except.pure, Except.ok.injEq, Prod.mk.injEq] at h
          obtain ⟨rfl, rfl⟩ := h
          simp at hx
        · have hal : (BCur.ops src segs).advanceLine c = .ok (BCur.advanceLine segs c) := rfl
          rw [hal] at h
          simp only at h
          exact ih _ _ _ _ x c' (bwf_advanceLine F w) h hx

/-- FindClosure on the block cursor (any paddings, any options, a closer other than the space the padding is made
    of): when it reports a closure, the last segment stops at the source offset of a closer byte -/
theorem bcur_findClosure_stop (F : SegFacts src segs) (o cl : UInt8) (hcl : cl ≠ 32) (opts : FindClosureOptions)
    (fuel : Nat) {c c' : BCur} {x} (w : BWF segs c)
    (e : findClosure (BCur.ops src segs) fuel o cl opts c = .ok (x, c')) (hx : x.2 = true) :
    ClosesAt src cl (x.1.getD []) := by
  unfold findClosure at e
  obtain ⟨⟨y1, c1⟩, h1, h2⟩ := bind_ok e
  obtain ⟨c2, _, h4⟩ := bind_ok h2
  simp only at h4
  split at h4
  · rename_i hy
    simp only [pure, Except.pure, Except.ok.injEq, Prod.mk.injEq] at h4
    obtain ⟨rfl, _⟩ := h4
    exact fcl_stop F o cl hcl opts fuel 1 0 none c y1 c1 w h1 hy
  · simp only [pure, Except.pure, Except.ok.injEq, Prod.mk.injEq] at h4
    obtain ⟨rfl, _⟩ := h4
    simp at hx

/-- … and on the block READER that stands for the cursor -/
theorem blockReader_findClosure_stop (W : WFSegs src segs) {r r' : BlockReader} {c : BCur} (h : BAbs src segs r c)
    (o cl : UInt8) (hcl : cl ≠ 32) (opts : FindClosureOptions) (fuel : Nat)
    (hf : (BCur.remaining segs c).toNat < fuel) {sgs : List Segment}
    (e : findClosure blockOps fuel o cl opts r = .ok ((some sgs, true), r')) : ClosesAt src cl sgs := by
  have F := segFacts W
  obtain ⟨x, c', e1, _⟩ := bcur_findClosure_ok (src := src) F o cl opts fuel h.wf hf
  obtain ⟨r'', e2, _⟩ := findClosure_sim (blockSim F) fuel o cl opts h e1
  rw [e] at e2
  simp only [Except.ok.injEq, Prod.mk.injEq] at e2
  obtain ⟨rfl, _⟩ := e2
  exact bcur_findClosure_stop F o cl hcl opts fuel h.wf e1 rfl

end closure

/-! ## (E) the `escaped` flag at the top of the line loop -/

section abstractLoop
open GM.InlineLoop

theorem ite_escaped (c : Prop) [Decidable c] (a b : St) (ha : a.escaped = false) (hb : b.escaped = false) :
    (if c then a else b).escaped = false := by
  split <;> assumption

/-- the end of a line (parser.go:1241-1262 and back to the top of `for`) clears the flag -/
theorem eol_escaped (b : Block) (fl : Flags) (l : Nat) (st : St) (sp n : Nat) : (eol b fl l st sp n).escaped = false := by
  unfold eol
  exact ite_escaped _ _ _ rfl rfl

/-- … and what it hands to the next line does not depend on the flag the byte loop left -/
theorem eol_flag_irrelevant (b : Block) (fl : Flags) (l : Nat) (st : St) (sp n : Nat) (e : Bool) :
    eol b fl l { st with escaped := e } sp n = eol b fl l st sp n := rfl

/-- the states the loop of parseBlock passes through `retry:` with; the flag says whether the state is at the TOP of
    the outer `for` (the first iteration, or after the end of a line) rather than behind a `goto retry` -/
inductive Reach (P : Params) (b : Block) : Bool → St → Prop
  | init : Reach P b true (initSt b)
  | hit {k : Bool} {st st' : St} {line : Bytes} : Reach P b k st → peekLine b st.rd = .line line → line.isEmpty = false →
      scan P b (line.take (classify line).1) 0 0 st.rd.start st = .hit st' → Reach P b false st'
  | eol {k : Bool} {st st1 : St} {line : Bytes} {sp n : Nat} : Reach P b k st → peekLine b st.rd = .line line →
      line.isEmpty = false → scan P b (line.take (classify line).1) 0 0 st.rd.start st = .eol st1 sp n →
      Reach P b true (eol b (classify line).2 st.rd.line st1 sp n)

theorem reach_top_escaped {P : Params} {b : Block} {st : St} (h : Reach P b true st) : st.escaped = false := by
  cases h with
  | init => rfl
  | eol _ _ _ _ => exact eol_escaped _ _ _ _ _ _

/-- `Reach` is closed under `pass`: nothing else is ever handed to `retry:` -/
theorem reach_pass {P : Params} {b : Block} {k : Bool} {st st' : St} (h : Reach P b k st) (hp : pass P b st = .next st') :
    ∃ k', Reach P b k' st' := by
  unfold pass at hp
  cases hl : peekLine b st.rd with
  | none => rw [hl] at hp; cases hp
  | panic => rw [hl] at hp; cases hp
  | line line =>
    rw [hl] at hp
    simp only at hp
    cases hne : line.isEmpty with
    | true => rw [hne] at hp; simp at hp
    | false =>
      rw [hne] at hp
      simp only [Bool.false_eq_true, if_false] at hp
      cases hs : scan P b (line.take (classify line).1) 0 0 st.rd.start st with
      | hit st1 =>
        rw [hs] at hp
        simp only [Pass.next.injEq] at hp
        subst hp
        exact ⟨false, Reach.hit h hl hne hs⟩
      | eol st1 sp n =>
        rw [hs] at hp
        simp only [Pass.next.injEq] at hp
        subst hp
        exact ⟨true, Reach.eol h hl hne hs⟩

theorem reach_loop {P : Params} {b : Block} : ∀ (fuel : Nat) {k : Bool} {st : St}, Reach P b k st →
    ∃ k', Reach P b k' (loop P b fuel st).st := by
  intro fuel
  induction fuel with
  | zero => intro k st h; exact ⟨k, h⟩
  | succ f ih =>
    intro k st h
    simp only [loop]
    cases hp : pass P b st with
    | done => exact ⟨k, h⟩
    | panic kind => exact ⟨k, h⟩
    | next st' =>
      obtain ⟨k', h'⟩ := reach_pass h hp
      exact ih h'

end abstractLoop

section concreteLoop
open GM.Inl

/-- the concrete loop: after the end of a line the next pass starts with a cleared flag, whatever the byte loop left in
    `s.escaped` (and `endOfLine` does not read it) -/
theorem lineLoop_line_end (env : Env) (fuel : Nat) (esc : Bool) (st : St) {pl} {line : Bytes} {s : GM.Inl.Scan}
    (hpl : st.rd.peekLine = .ok pl) (hline : pl.1.1 = some line) (hne : line.isEmpty = false)
    (hscan : scan env (line.take (classify line).1) 0
      { st := { st with rd := pl.2 }, n := 0, sp := pl.2.position.2, escaped := esc } = .ok (.eol s)) :
    lineLoop env (fuel + 1) esc st =
      (endOfLine (classify line).2 pl.2.position.1 s >>= fun st' => lineLoop env fuel false st') := by
  simp only [lineLoop, hpl, bind, Except.bind, hline, hne, Bool.false_eq_true, if_false, hscan]

theorem endOfLine_flag_irrelevant (flags : Nat) (l : Int) (s : GM.Inl.Scan) (e : Bool) :
    endOfLine flags l { s with escaped := e } = endOfLine flags l s := rfl

/-- the same for the loop over an open trigger table -/
theorem lineLoopX_line_end (env : Env) (tbl : UInt8 → List XIp) (fuel : Nat) (esc : Bool) (st : St) {pl} {line : Bytes}
    {s : GM.Inl.Scan} (hpl : st.rd.peekLine = .ok pl) (hline : pl.1.1 = some line) (hne : line.isEmpty = false)
    (hscan : scanX env tbl (line.take (classify line).1) 0
      { st := { st with rd := pl.2 }, n := 0, sp := pl.2.position.2, escaped := esc } = .ok (.eol s)) :
    lineLoopX env tbl (fuel + 1) esc st =
      (endOfLine (classify line).2 pl.2.position.1 s >>= fun st' => lineLoopX env tbl fuel false st') := by
  simp only [lineLoopX, hpl, bind, Except.bind, hline, hne, Bool.false_eq_true, if_false, hscan]

end concreteLoop

end GM.Proof.EscFix
