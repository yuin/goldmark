/-
  GM.Proof.CMFrag21Link — stage 21: the link parser at `[` / `![` / `](d)` when the children in front of the label
  opener hold pending delimiter nodes (emphasis runs that `processDelimiters` resolves only at the end of the block).
  The bottom pushed at the opener is the last delimiter among the children (`bottomOf21`); at `]` the parser finds its
  label (the last label), `processDelimiters` with that bottom is a no-op (the last delimiter IS the bottom), the Text
  behind the label is wrapped and the delimiters in front stay as they are. The steps are stated for a line that may
  end in a backslash hard break, so that only the part `classify` keeps is scanned (instances of `passX21`):
  `link_stepX21`, `img_stepX21` (sharing their second pass, `close_stepX21`);
  `link_step21` / `img_step21` are the case of a line kept whole.
-/
import GM.Proof.CMFrag16Inl
import GM.Proof.CMFrag13Inl
import GM.Proof.InlinesDelims

namespace GM.Proof.CMFrag
open GM GM.Text GM.Inl
open GM.Spec (BCur WFSegs)

/-- no label among the children (delimiters are allowed) -/
def NoLab21 (ks : List Inl.Node) : Prop := ∀ n ∈ ks, n.isLabel = false

/-- what `pushLinkBottom` puts on the stack: the last delimiter among the children, a typed nil if there is none -/
def bottomOf21 (ks : List Inl.Node) : Bottom :=
  match splitLastDelim ks with
  | some (_, id, _, _) => .id id
  | none => .tnil

theorem pushBottom_eq21 (st : St) : pushBottom st = { st with bottoms := bottomOf21 st.kids :: st.bottoms } := rfl

theorem noLab_of_noDL21 {ks : List Inl.Node} (h : NoDL16 ks) : NoLab21 ks := fun n hn => (h n hn).2

theorem bottomOf_append21 (ks x : List Inl.Node) (hx : ∀ n ∈ x, n.isDelim = false) :
    bottomOf21 (ks ++ x) = bottomOf21 ks := by
  unfold bottomOf21
  rw [GM.Proof.InlinesDelims.splitLastDelim_prefix_none (splitLastDelim_noDelim11 x hx)]
  cases splitLastDelim ks with
  | none => rfl
  | some v => rfl

theorem processDelimiters_bottomOf21 (kids : List Inl.Node) :
    processDelimiters (bottomOf21 kids) kids = .ok kids := by
  unfold processDelimiters bottomOf21
  cases hs : splitLastDelim kids with
  | none => rfl
  | some v =>
    obtain ⟨preL, lastId, d, post⟩ := v
    have hk := GM.Proof.Inlines.splitLastDelim_eq hs
    simp only [beq_self_eq_true, if_true]
    unfold clearDelimiters
    rw [hs]
    simp only [clearRev, beq_self_eq_true, if_true, List.reverse_cons, List.reverse_reverse]
    rw [hk]
    simp

theorem processLinkLabel21 (rd : BlockReader) (pre : List Inl.Node) (lid : Nat) (lseg tseg : Segment) (nid : Nat)
    (im : Bool) (bts : List Bottom) :
    processLinkLabel { rd := rd, kids := pre ++ [.label lid lseg im, .text tseg false false false], nextId := nid,
                       bottoms := bottomOf21 pre :: bts } =
      .ok ([.text tseg false false false],
        { rd := rd, kids := pre ++ [.label lid lseg im], nextId := nid, bottoms := bts }) := by
  have hx : ∀ n ∈ [Inl.Node.label lid lseg im, .text tseg false false false], n.isDelim = false := by
    intro n hn
    simp only [List.mem_cons, List.not_mem_nil, or_false] at hn
    rcases hn with rfl | rfl <;> rfl
  have hpd : processDelimiters (bottomOf21 pre) (pre ++ [Inl.Node.label lid lseg im, .text tseg false false false]) =
      .ok (pre ++ [Inl.Node.label lid lseg im, .text tseg false false false]) := by
    rw [← bottomOf_append21 pre _ hx]
    exact processDelimiters_bottomOf21 _
  unfold processLinkLabel
  simp only [popBottom, splitLastLabel_tail16 pre lid lseg im (.text tseg false false false) rfl]
  simp [hasLabelL, hasLabel, hpd, splitLastLabel_tail16 pre lid lseg im (.text tseg false false false) rfl,
    Node.isDelim]

theorem labelLen_noLab21 (pre : List Inl.Node) (h : NoLab21 pre) : labelLen pre = 0 := by
  unfold labelLen
  rw [splitFirstLabel_none16 pre h]

/-- the inline part `(d)` of a link or image, the opener and the link text being the last two children -/
theorem parseLinkInline21 (src : Bytes) (segs : List Segment) (L j hd : Int) (a : Nat) (d rest : Bytes) (e : Int)
    (pre : List Inl.Node) (lid : Nat) (lseg tseg : Segment) (nid : Nat) (im : Bool) (bts : List Bottom)
    (h : At16 src L a e (40 :: (d ++ 41 :: rest))) (hj : j < segs.length)
    (hd0 : d ≠ []) (hdc : ∀ c ∈ d, isDestC16 c = true) (hrest : rest ≠ []) :
    parseLinkInline { rd := rdAt src segs L j { start := a, stop := e } hd,
                      kids := pre ++ [.label lid lseg im, .text tseg false false false], nextId := nid,
                      bottoms := bottomOf21 pre :: bts } =
      .ok (some { dest := d, title := none, kids := [.text tseg false false false] },
        { rd := rdAt src segs L j { start := ((a + 1 + d.length + 1 : Nat) : Int), stop := e } hd,
          kids := pre ++ [.label lid lseg im], nextId := nid, bottoms := bts }) := by
  have hrl : 0 < rest.length := List.length_pos_iff.mpr hrest
  obtain ⟨c0, d', hdd⟩ : ∃ c0 d', d = c0 :: d' := by
    cases d with
    | nil => exact absurd rfl hd0
    | cons x xs => exact ⟨x, xs, rfl⟩
  have h1 : At16 src L (a + 1) e (d ++ 41 :: rest) := h.drop [40] _
  have h2 : At16 src L (a + 1 + d.length) e (41 :: rest) := h1.drop d _
  have h1' : At16 src L (a + 1) e (c0 :: (d' ++ 41 :: rest)) := by rw [hdd] at h1; exact h1
  obtain ⟨_, _, h41, _, hs0⟩ := dest_facts16 c0 (hdc c0 (by simp [hdd]))
  obtain ⟨r1, hsk1⟩ := skipSpaces_at16 src segs L j hd (a + 1) e c0 _ h1' hj hs0 0
  obtain ⟨r2, hsk2⟩ := skipSpaces_at16 src segs L j hd (a + 1 + d.length) e 41 _ h2 hj (by decide) 0
  unfold parseLinkInline
  simp only [bind, Except.bind, advance1_at16 src segs L j hd a e _ h (by simp; omega), hsk1,
    peekByte_at16 src segs L j hd (a + 1) e c0 _ h1' hj, h41, Bool.false_eq_true, if_false,
    parseLinkDestination_at16 src segs L j hd (a + 1) d rest e h1 hj hd0 hdc, hsk2,
    peekByte_at16 src segs L j hd (a + 1 + d.length) e 41 _ h2 hj, beq_self_eq_true, if_true,
    advance1_at16 src segs L j hd (a + 1 + d.length) e _ h2 (by simp; omega),
    processLinkLabel21 _ pre lid lseg tseg nid im bts, pure, Except.pure]

/-- the link parser at `[`: a label opener; the bottom is the last pending delimiter -/
theorem parseLink_open21 (env : Env) (src : Bytes) (segs : List Segment) (L j hd : Int) (a : Nat) (tail : Bytes)
    (e : Int) (ks : List Inl.Node) (nid : Nat) (bts : List Bottom)
    (h : At16 src L a e (91 :: tail)) (hj : j < segs.length) (htail : tail ≠ []) :
    parseLink env { rd := rdAt src segs L j { start := a, stop := e } hd, kids := ks, nextId := nid, bottoms := bts } =
      .ok (some (.label nid { start := a, stop := (a : Int) + 1 } false),
        { rd := rdAt src segs L j { start := ((a + 1 : Nat) : Int), stop := e } hd, kids := ks, nextId := nid + 1,
          bottoms := bottomOf21 ks :: bts }) := by
  have htl : 0 < tail.length := List.length_pos_iff.mpr htail
  unfold parseLink
  simp only [bind, Except.bind, peekLine_at16 src segs L j hd a e 91 tail h hj, Option.getD_some,
    show ((91 : UInt8) == 33) = false by decide, show ((91 : UInt8) == 91) = true by decide, Bool.false_eq_true,
    if_false, if_true, pushBottom_eq21, labelOpen,
    advance1_at16 src segs L j hd a e _ h (by simp; omega), pure, Except.pure]

/-- the link parser at `![`: a label opener for an image -/
theorem parseLink_openImg21 (env : Env) (src : Bytes) (segs : List Segment) (L j hd : Int) (a : Nat) (tail : Bytes)
    (e : Int) (ks : List Inl.Node) (nid : Nat) (bts : List Bottom)
    (h : At16 src L a e (33 :: 91 :: tail)) (hj : j < segs.length) (htail : tail ≠ []) :
    ∃ lseg, parseLink env
        { rd := rdAt src segs L j { start := a, stop := e } hd, kids := ks, nextId := nid, bottoms := bts } =
      .ok (some (.label nid lseg true),
        { rd := rdAt src segs L j { start := ((a + 1 + 1 : Nat) : Int), stop := e } hd, kids := ks, nextId := nid + 1,
          bottoms := bottomOf21 ks :: bts }) := by
  have htl : 0 < tail.length := List.length_pos_iff.mpr htail
  have h1 : At16 src L (a + 1) e (91 :: tail) := h.drop [33] _
  refine ⟨{ start := (a : Int) + 1 - 1, stop := (a : Int) + 1 + 1 }, ?_⟩
  unfold parseLink
  simp only [bind, Except.bind, peekLine_at16 src segs L j hd a e 33 _ h hj, Option.getD_some,
    show ((33 : UInt8) == 33) = true by decide, if_true,
    advance1_at16 src segs L j hd a e _ h (by simp), pushBottom_eq21, labelOpen,
    advance1_at16 src segs L j hd (a + 1) e _ h1 (by simp; omega), pure, Except.pure]

/-- the link parser at `]` in front of `(d)`: the Link / Image around the text behind its opener; the children in
    front of the opener (pending delimiters included) stay as they are -/
theorem parseLink_close21 (env : Env) (src : Bytes) (segs : List Segment) (L j hd : Int) (a : Nat) (d rest : Bytes)
    (e : Int) (pre : List Inl.Node) (lid : Nat) (lseg tseg : Segment) (nid : Nat) (im : Bool) (bts : List Bottom)
    (h : At16 src L a e (93 :: 40 :: (d ++ 41 :: rest))) (hj : j < segs.length)
    (hd0 : d ≠ []) (hdc : ∀ c ∈ d, isDestC16 c = true) (hrest : rest ≠ []) (hpre : NoLab21 pre) :
    parseLink env { rd := rdAt src segs L j { start := a, stop := e } hd,
                    kids := pre ++ [.label lid lseg im, .text tseg false false false], nextId := nid,
                    bottoms := bottomOf21 pre :: bts } =
      .ok (some (.link im d none [.text tseg false false false]),
        { rd := rdAt src segs L j { start := ((a + 1 + 1 + d.length + 1 : Nat) : Int), stop := e } hd,
          kids := pre, nextId := nid, bottoms := bts }) := by
  have h1 : At16 src L (a + 1) e (40 :: (d ++ 41 :: rest)) := h.drop [93] _
  unfold parseLink
  simp only [bind, Except.bind, peekLine_at16 src segs L j hd a e 93 _ h hj, Option.getD_some,
    show ((93 : UInt8) == 33) = false by decide, show ((93 : UInt8) == 91) = false by decide, Bool.false_eq_true,
    if_false]
  unfold parseLinkClose
  simp only [splitLastLabel_tail16 pre lid lseg im (.text tseg false false false) rfl, bind, Except.bind,
    advance1_at16 src segs L j hd a e _ h (by simp), labelLen_noLab21 pre hpre,
    peekByte_at16 src segs L j hd (a + 1) e 40 _ h1 hj, linkTry, beq_self_eq_true, if_true,
    parseLinkInline21 src segs L j hd (a + 1) d rest e pre lid lseg tseg nid im bts h1 hj hd0 hdc hrest, linkDone]
  simp [containsLinkL, containsLink]

theorem tryLink21 (env : Env) (l : Int) (p : Segment) (st st' : St) (nd : Inl.Node)
    (h : parseLink env st = .ok (some nd, st')) : tryParsers env l p [.link] st = .ok (some nd, st') := by
  simp [tryParsers, Ip.parse, h, bind, Except.bind, pure, Except.pure]


/-- the second pass of a link or an image: the reader stands behind the opener, whose label is the last child -/
theorem close_stepX21 (im : Bool) (env : Env) (henv : env.escapedSpace = false) (src : Bytes) (segs : List Segment)
    (L j hd : Int) (p : Nat) (t d rest : Bytes) (e : Int) (ks : List Inl.Node) (lid : Nat) (lseg : Segment) (nid : Nat)
    (bts : List Bottom) (fuel : Nat)
    (h : At16 src L p e (t ++ 93 :: 40 :: (d ++ 41 :: rest))) (hj : j < segs.length) (hend : CutOK13 rest)
    (ht0 : t ≠ []) (htc : ∀ c ∈ t, GM.Spec.CM.isAlnumC c = true)
    (hd0 : d ≠ []) (hdc : ∀ c ∈ d, isDestC16 c = true) (hrest : rest ≠ []) (hks : NoLab21 ks) :
    lineLoop env (fuel + 1) false
      { rd := rdAt src segs L j { start := p, stop := e } hd, kids := ks ++ [.label lid lseg im], nextId := nid,
        bottoms := bottomOf21 ks :: bts } =
    lineLoop env fuel false
      { rd := rdAt src segs L j { start := ((p + t.length + 1 + 1 + d.length + 1 : Nat) : Int), stop := e } hd,
        kids := ks ++ [.link im d none [.text { start := p, stop := ((p + t.length : Nat) : Int) } false false false]],
        nextId := nid, bottoms := bts } := by
  have h3 : At16 src L (p + t.length) e (93 :: 40 :: (d ++ 41 :: rest)) := h.drop t _
  have hend2 : CutOK13 (40 :: (d ++ 41 :: rest)) := by
    have := cutOK_app13 (40 :: (d ++ [41])) rest hend
    simpa using this
  obtain ⟨hqt, hesct⟩ := alnum_quiet11 t 0 htc
  rw [passX21 env henv src segs L j hd p t 93 _ e (ks ++ [Inl.Node.label lid lseg im]) nid (bottomOf21 ks :: bts) fuel
    [.link] h hj hend2 ht0 hqt hesct (by decide) (by decide) (by decide) rfl
    (noMergeAt_of8_13 (noMerge_label16 _ _ _ _) _) _ _
    (tryLink21 env _ _ _ _ _ (by
      rw [List.append_assoc, List.singleton_append]
      exact parseLink_close21 env src segs L j hd (p + t.length) d rest e ks lid lseg _ nid im bts
        h3 hj hd0 hdc hrest hks))]

theorem noLab_text21 {ks : List Inl.Node} (hks : NoLab21 ks) (sg : Segment) :
    NoLab21 (ks ++ [.text sg false false false]) := by
  intro n hn
  rcases List.mem_append.mp hn with hn | hn
  · exact hks n hn
  · rw [List.mem_singleton.mp hn]; rfl

theorem link_stepX21 (env : Env) (henv : env.escapedSpace = false) (src : Bytes) (segs : List Segment) (L j hd : Int)
    (q : Nat) (bs t d rest : Bytes) (e : Int) (ks : List Inl.Node) (nid : Nat) (bts : List Bottom) (fuel : Nat)
    (h : At16 src L q e (bs ++ 91 :: (t ++ 93 :: 40 :: (d ++ 41 :: rest)))) (hj : j < segs.length)
    (hend : CutOK13 rest)
    (hbs : bs ≠ []) (hq : quiet bs 0 false = true) (hesc : escAfter bs false = false)
    (ht0 : t ≠ []) (htc : ∀ c ∈ t, GM.Spec.CM.isAlnumC c = true)
    (hd0 : d ≠ []) (hdc : ∀ c ∈ d, isDestC16 c = true) (hrest : rest ≠ [])
    (hnm : NoMergeAt13 ks q) (hks : NoLab21 ks) :
    lineLoop env (fuel + 1 + 1) false
      { rd := rdAt src segs L j { start := q, stop := e } hd, kids := ks, nextId := nid, bottoms := bts } =
    lineLoop env fuel false
      { rd := rdAt src segs L j { start := ((q + bs.length + 1 + t.length + 1 + 1 + d.length + 1 : Nat) : Int), stop := e } hd,
        kids := ks ++ [.text { start := q, stop := ((q + bs.length : Nat) : Int) } false false false,
          .link false d none [.text { start := ((q + bs.length + 1 : Nat) : Int),
                                      stop := ((q + bs.length + 1 + t.length : Nat) : Int) } false false false]],
        nextId := nid + 1, bottoms := bts } := by
  have h1 : At16 src L (q + bs.length) e (91 :: (t ++ 93 :: 40 :: (d ++ 41 :: rest))) := h.drop bs _
  have hend1 : CutOK13 (t ++ 93 :: 40 :: (d ++ 41 :: rest)) := by
    have := cutOK_app13 (t ++ 93 :: 40 :: (d ++ [41])) rest hend
    simpa using this
  rw [passX21 env henv src segs L j hd q bs 91 _ e ks nid bts (fuel + 1) [.link] h hj hend1 hbs hq hesc
    (by decide) (by decide) (by decide) rfl hnm _ _
    (tryLink21 env _ _ _ _ _ (parseLink_open21 env src segs L j hd (q + bs.length) _ e _ nid bts h1 hj (by simp)))]
  rw [close_stepX21 false env henv src segs L j hd (q + bs.length + 1) t d rest e _ nid _ (nid + 1) bts fuel
    (h1.drop [91] _) hj hend ht0 htc hd0 hdc hrest (noLab_text21 hks _)]
  simp

theorem img_stepX21 (env : Env) (henv : env.escapedSpace = false) (src : Bytes) (segs : List Segment) (L j hd : Int)
    (q : Nat) (bs t d rest : Bytes) (e : Int) (ks : List Inl.Node) (nid : Nat) (bts : List Bottom) (fuel : Nat)
    (h : At16 src L q e (bs ++ 33 :: 91 :: (t ++ 93 :: 40 :: (d ++ 41 :: rest)))) (hj : j < segs.length)
    (hend : CutOK13 rest)
    (hbs : bs ≠ []) (hq : quiet bs 0 false = true) (hesc : escAfter bs false = false)
    (ht0 : t ≠ []) (htc : ∀ c ∈ t, GM.Spec.CM.isAlnumC c = true)
    (hd0 : d ≠ []) (hdc : ∀ c ∈ d, isDestC16 c = true) (hrest : rest ≠ [])
    (hnm : NoMergeAt13 ks q) (hks : NoLab21 ks) :
    lineLoop env (fuel + 1 + 1) false
      { rd := rdAt src segs L j { start := q, stop := e } hd, kids := ks, nextId := nid, bottoms := bts } =
    lineLoop env fuel false
      { rd := rdAt src segs L j { start := ((q + bs.length + 1 + 1 + t.length + 1 + 1 + d.length + 1 : Nat) : Int), stop := e } hd,
        kids := ks ++ [.text { start := q, stop := ((q + bs.length : Nat) : Int) } false false false,
          .link true d none [.text { start := ((q + bs.length + 1 + 1 : Nat) : Int),
                                     stop := ((q + bs.length + 1 + 1 + t.length : Nat) : Int) } false false false]],
        nextId := nid + 1, bottoms := bts } := by
  have h1 : At16 src L (q + bs.length) e (33 :: 91 :: (t ++ 93 :: 40 :: (d ++ 41 :: rest))) := h.drop bs _
  have hend1 : CutOK13 (91 :: (t ++ 93 :: 40 :: (d ++ 41 :: rest))) := by
    have := cutOK_app13 (91 :: (t ++ 93 :: 40 :: (d ++ [41]))) rest hend
    simpa using this
  obtain ⟨lseg, hopen⟩ := parseLink_openImg21 env src segs L j hd (q + bs.length) _ e
    (ks ++ [.text { start := q, stop := ((q + bs.length : Nat) : Int) } false false false]) nid bts h1 hj (by simp)
  rw [passX21 env henv src segs L j hd q bs 33 _ e ks nid bts (fuel + 1) [.link] h hj hend1 hbs hq hesc
    (by decide) (by decide) (by decide) rfl hnm _ _ (tryLink21 env _ _ _ _ _ hopen)]
  rw [close_stepX21 true env henv src segs L j hd (q + bs.length + 1 + 1) t d rest e _ nid lseg (nid + 1) bts fuel
    ((h1.drop [33] _).drop [91] _) hj hend ht0 htc hd0 hdc hrest (noLab_text21 hks _)]
  simp

theorem link_step21 (env : Env) (henv : env.escapedSpace = false) (src : Bytes) (segs : List Segment) (L j hd : Int)
    (q : Nat) (bs t d rest : Bytes) (e : Int) (ks : List Inl.Node) (nid : Nat) (bts : List Bottom) (fuel : Nat)
    (h : At16 src L q e (bs ++ 91 :: (t ++ 93 :: 40 :: (d ++ 41 :: rest)))) (hj : j < segs.length)
    (hend : EndOK11 rest)
    (hbs : bs ≠ []) (hq : quiet bs 0 false = true) (hesc : escAfter bs false = false)
    (ht0 : t ≠ []) (htc : ∀ c ∈ t, GM.Spec.CM.isAlnumC c = true)
    (hd0 : d ≠ []) (hdc : ∀ c ∈ d, isDestC16 c = true) (hrest : rest ≠ [])
    (hnm : NoMerge8 ks) (hks : NoLab21 ks) :
    lineLoop env (fuel + 1 + 1) false
      { rd := rdAt src segs L j { start := q, stop := e } hd, kids := ks, nextId := nid, bottoms := bts } =
    lineLoop env fuel false
      { rd := rdAt src segs L j { start := ((q + bs.length + 1 + t.length + 1 + 1 + d.length + 1 : Nat) : Int), stop := e } hd,
        kids := ks ++ [.text { start := q, stop := ((q + bs.length : Nat) : Int) } false false false,
          .link false d none [.text { start := ((q + bs.length + 1 : Nat) : Int),
                                      stop := ((q + bs.length + 1 + t.length : Nat) : Int) } false false false]],
        nextId := nid + 1, bottoms := bts } :=
  link_stepX21 env henv src segs L j hd q bs t d rest e ks nid bts fuel h hj (cutOK_of_end13 hend) hbs hq hesc ht0 htc
    hd0 hdc hrest (noMergeAt_of8_13 hnm q) hks

theorem img_step21 (env : Env) (henv : env.escapedSpace = false) (src : Bytes) (segs : List Segment) (L j hd : Int)
    (q : Nat) (bs t d rest : Bytes) (e : Int) (ks : List Inl.Node) (nid : Nat) (bts : List Bottom) (fuel : Nat)
    (h : At16 src L q e (bs ++ 33 :: 91 :: (t ++ 93 :: 40 :: (d ++ 41 :: rest)))) (hj : j < segs.length)
    (hend : EndOK11 rest)
    (hbs : bs ≠ []) (hq : quiet bs 0 false = true) (hesc : escAfter bs false = false)
    (ht0 : t ≠ []) (htc : ∀ c ∈ t, GM.Spec.CM.isAlnumC c = true)
    (hd0 : d ≠ []) (hdc : ∀ c ∈ d, isDestC16 c = true) (hrest : rest ≠ [])
    (hnm : NoMerge8 ks) (hks : NoLab21 ks) :
    lineLoop env (fuel + 1 + 1) false
      { rd := rdAt src segs L j { start := q, stop := e } hd, kids := ks, nextId := nid, bottoms := bts } =
    lineLoop env fuel false
      { rd := rdAt src segs L j { start := ((q + bs.length + 1 + 1 + t.length + 1 + 1 + d.length + 1 : Nat) : Int), stop := e } hd,
        kids := ks ++ [.text { start := q, stop := ((q + bs.length : Nat) : Int) } false false false,
          .link true d none [.text { start := ((q + bs.length + 1 + 1 : Nat) : Int),
                                     stop := ((q + bs.length + 1 + 1 + t.length : Nat) : Int) } false false false]],
        nextId := nid + 1, bottoms := bts } :=
  img_stepX21 env henv src segs L j hd q bs t d rest e ks nid bts fuel h hj (cutOK_of_end13 hend) hbs hq hesc ht0 htc
    hd0 hdc hrest (noMergeAt_of8_13 hnm q) hks

end GM.Proof.CMFrag
