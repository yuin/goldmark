/-
  GM.Model.ExtStrike — the ACCEPT path of extension.Strikethrough (extension/strikethrough.go) on the concrete inline
  model, and what it needs of the delimiter machinery:

    strikethrough.go:13-27   strikethroughDelimiterProcessor  IsDelimiter (`~`), CanOpenCloser (`opener.Char == closer.Char`),
                             OnMatch (`ast.NewStrikethrough()`, whatever `consumes` is)
    strikethrough.go:46-57   (*strikethroughParser).Parse
    parser/delimiter.go:114-151   ScanDelimiter over an arbitrary `IsDelimiter` (`scanDelimiterP`)
    parser/delimiter.go:157-246   ProcessDelimiters with `opener.Processor.OnMatch(consume)` dispatched on the opener's
                                  processor (`closerStepG`, `closerLoopG`, `processDelimitersG`)
    parser/link.go:124-331   the link parser over that ProcessDelimiters (`parseLinkG pd`: the definitions of
                             GM.Model.InlinesParsers with `processDelimiters` replaced by the parameter `pd`)

  The processor of a delimiter is determined by its `Char`: `*`/`_` delimiters are only made by the emphasis parser,
  `~` delimiters only by this parser; `CanOpenCloser` of both processors is `opener.Char == closer.Char`, so a match
  always pairs two delimiters of one processor and GM.Inl.findOpener is already the search for both.

  ENCODING. GM.Inl.Node (GM.Model.Inlines, not editable in this package) has no Strikethrough constructor. A Strikethrough
  node with children `ks`, made by a match that consumed `consume` (1 or 2) tildes, is represented as
  `.emphasis (-2 - consume) ks` (level −3 or −4): the emphasis processor only ever builds levels 1 and 2 (`consume ≥ 1` is
  checked in closerStep), and every function of the inline model that walks the tree treats `.emphasis _ ks` exactly as Go's
  generic child walk treats any node with children (containsLink, hasLabel, closeLabels). GM.ConvertX.inlineTreeX decodes
  the two levels into the renderer's `.strikethrough`. (Keeping `consume` in the representation makes the generalised
  ProcessDelimiters the default one up to a relabelling of levels: GM.Proof.ConvertXRelv.)

  With the flag `strike = false` every definition here is the one of GM.Model.Inlines / InlinesParsers
  (GM.Proof.ConvertXRelv: `processDelimitersG_false`, `parseLinkG_default`). Core Lean only.
-/
import GM.Model.InlinesLoopX

namespace GM.Inl
open GM GM.Text

/-- the representation of `ast.NewStrikethrough()` with the given children, made by a match of `consume` tildes -/
def strikeNode (consume : Int) (kids : List Node) : Node := .emphasis (-2 - consume) kids

/-- ScanDelimiter(line, before, 1, processor) for a processor with the given `IsDelimiter` (delimiter.go:114-151) -/
def scanDelimiterP (isDelim : UInt8 → Bool) (env : Env) (line : Bytes) (before : Nat) : Except Panic (Option Delim) :=
  match line with
  | [] => .error .index                                            -- `c := line[0]`
  | c :: rest =>
    if !isDelim c then .ok none else
    let j := (rest.takeWhile (· == c)).length + 1
    let after : Nat := if j == line.length then 32 else toRune line j
    let bP := isPunctRune env before
    let bW := isSpaceRune env before
    let aP := isPunctRune env after
    let aW := isSpaceRune env after
    let isLeft := !aW && (!aP || bW || bP)
    let isRight := !bW && (!bP || aW || aP)
    let (canOpen, canClose) :=
      if c == 95 then (isLeft && (!isRight || bP), isRight && (!isLeft || aP)) else (isLeft, isRight)
    .ok (some { seg := { start := 0, stop := 0 }, canOpen := canOpen, canClose := canClose, length := j,
                origLength := j, char := c })

/-- emphasisDelimiterProcessor.IsDelimiter (emphasis.go:11-13) -/
def isEmphasisDelim (c : UInt8) : Bool := c == 42 || c == 95
/-- strikethroughDelimiterProcessor.IsDelimiter (strikethrough.go:16-18) -/
def isStrikeDelim (c : UInt8) : Bool := c == 126

/-- (*strikethroughParser).Parse (strikethrough.go:46-57); `pc.PushDelimiter(node)` is implicit (the node is appended
    by the caller), the new delimiter gets the id `st.nextId` -/
def parseStrike (env : Env) (st : St) : PRes := do
  let before ← st.rd.precendingCharacter
  let ((line, segment), rd) ← st.rd.peekLine
  let d ← scanDelimiterP isStrikeDelim env (line.getD []) before
  match d with
  | none => pure (none, { st with rd := rd })
  | some d =>
    if d.origLength > 2 || before == 126 then pure (none, { st with rd := rd })
    else
      let d := { d with seg := segment.withStop (segment.start + d.origLength) }
      let rd ← rd.advance d.origLength
      pure (some (.delim st.nextId d), { st with rd := rd, nextId := st.nextId + 1 })

/-- extension.NewStrikethroughParser(): Trigger() = {'~'} -/
def strikeParser : XParser := { triggers := [126], parse := parseStrike }

/-! ### ProcessDelimiters with both processors -/

/-- `opener.Processor.OnMatch(consume)` with the moved children: the processor is the one of the opener's `Char`;
    `strike` = the strikethrough parser is registered (without it no `~` delimiter exists) -/
def onMatch (strike : Bool) (od : Delim) (consume : Int) (kids : List Node) : Node :=
  if strike && isStrikeDelim od.char then strikeNode consume kids else .emphasis consume kids

/-- GM.Inl.closerStep with `OnMatch` dispatched on the opener's processor -/
def closerStepG (strike : Bool) (bottom : Bottom) (pre : List Node) (cid : Nat) (cd : Delim) (post : List Node) : CStep :=
  if cd.length < 1 then .bad else
  if !cd.canClose then advanceCloser (pre ++ [.delim cid cd]) post
  else
    match findOpener bottom cd pre.reverse [] false with
    | (none, maybeOpener) =>
      advanceCloser (if !maybeOpener && !cd.canOpen then removeDelim pre cd else pre ++ [.delim cid cd]) post
    | (some (p1, oid, od, mid, consume), _) =>
      if consume < 1 then .bad else
      let od' := od.consume consume
      let cd' := cd.consume consume
      let node := onMatch strike od consume (clearInner [] mid)
      let pre' := (if od'.length == 0 then p1 else p1 ++ [.delim oid od']) ++ [node]
      if cd'.length == 0 then advanceCloser pre' post
      else .next pre' cid cd' post

section closerStepG
variable {strike : Bool} {bottom : Bottom} {pre post : List Node} {cid : Nat} {cd : Delim}

/-! what a round answers, branch by branch -/

theorem closerStepG_short (h : cd.length < 1) : closerStepG strike bottom pre cid cd post = .bad := if_pos h

theorem closerStepG_stay (h1 : ¬cd.length < 1) (hc : cd.canClose = false) :
    closerStepG strike bottom pre cid cd post = advanceCloser (pre ++ [.delim cid cd]) post := by
  rw [closerStepG, if_neg h1, if_pos (by rw [hc]; rfl)]

theorem closerStepG_none {m : Bool} (h1 : ¬cd.length < 1) (hc : cd.canClose = true)
    (hf : findOpener bottom cd pre.reverse [] false = (none, m)) :
    closerStepG strike bottom pre cid cd post =
      advanceCloser (if !m && !cd.canOpen then removeDelim pre cd else pre ++ [.delim cid cd]) post := by
  rw [closerStepG, if_neg h1, if_neg (by rw [hc]; decide), hf]

theorem closerStepG_match {p1 mid pre' : List Node} {oid : Nat} {od : Delim} {c : Int} {m : Bool} (h1 : ¬cd.length < 1)
    (hc : cd.canClose = true) (hf : findOpener bottom cd pre.reverse [] false = (some (p1, oid, od, mid, c), m))
    (hp : pre' = (if (od.consume c).length == 0 then p1 else p1 ++ [.delim oid (od.consume c)]) ++
      [onMatch strike od c (clearInner [] mid)]) :
    closerStepG strike bottom pre cid cd post =
      if c < 1 then .bad
      else if (cd.consume c).length == 0 then advanceCloser pre' post else .next pre' cid (cd.consume c) post := by
  rw [closerStepG, if_neg h1, if_neg (by rw [hc]; decide), hf, hp]

end closerStepG

theorem closerStepG_dec {strike : Bool} {bottom : Bottom} {pre post pre' post' : List Node} {cid cid' : Nat}
    {cd cd' : Delim} (h : closerStepG strike bottom pre cid cd post = .next pre' cid' cd' post') :
    Prod.Lex (· < ·) (· < ·) (post'.length, cd'.length.toNat) (post.length, cd.length.toNat) := by
  by_cases h1 : cd.length < 1
  · rw [closerStepG_short h1] at h; cases h
  cases hc : cd.canClose with
  | false => rw [closerStepG_stay h1 hc] at h; exact .left _ _ (advanceCloser_dec h)
  | true =>
    cases hf : findOpener bottom cd pre.reverse [] false with
    | mk o m =>
      cases o with
      | none => rw [closerStepG_none h1 hc hf] at h; exact .left _ _ (advanceCloser_dec h)
      | some x =>
        obtain ⟨p1, oid, od, mid, c⟩ := x
        rw [closerStepG_match h1 hc hf rfl] at h
        split at h
        · cases h
        · split at h
          · exact .left _ _ (advanceCloser_dec h)
          · cases h
            apply Prod.Lex.right
            simp only [Delim.consume]
            omega

/-- the `for closer != nil` loop (delimiter.go:183-243) -/
def closerLoopG (strike : Bool) (bottom : Bottom) (pre : List Node) (cid : Nat) (cd : Delim) (post : List Node) :
    Except Panic (List Node) :=
  match h : closerStepG strike bottom pre cid cd post with
  | .done kids => .ok kids
  | .bad => .error .pre
  | .next pre' cid' cd' post' => closerLoopG strike bottom pre' cid' cd' post'
termination_by (post.length, cd.length.toNat)
decreasing_by exact closerStepG_dec h

/-- ProcessDelimiters(bottom, pc) on `parent`'s children, both processors -/
def processDelimitersG (strike : Bool) (bottom : Bottom) (kids : List Node) : Except Panic (List Node) :=
  match splitLastDelim kids with
  | none => .ok kids
  | some (preL, lastId, _, _) =>
    let closer : Option Nat :=
      match bottom with
      | .nil => (splitFirstDelim kids).map (·.2.1)
      | b => if b == .id lastId then none else firstCloserAfter b preL.reverse none
    match closer with
    | none => .ok (clearDelimiters bottom kids)
    | some cid =>
      match splitAtDelim cid kids with
      | none => .error .pre
      | some (pre, cd, post) =>
        match closerLoopG strike bottom pre cid cd post with
        | .ok kids' => .ok (clearDelimiters bottom kids')
        | .error e => .error e

/-! ### the link parser over a given ProcessDelimiters (link.go; GM.Model.InlinesParsers with `pd` for `processDelimiters`) -/

abbrev PD := Bottom → List Node → Except Panic (List Node)

/-- linkParser.processLinkLabel (link.go:238-247), as GM.Inl.processLinkLabel -/
def processLinkLabelG (pd : PD) (st : St) : Except Panic (List Node × St) :=
  let st := popBottom st
  match splitLastLabel st.2.kids with
  | none => .error .pre
  | some (_, _, post0) =>
    if hasLabelL post0 then .error .pre else
    match pd st.1 st.2.kids with
    | .error e => .error e
    | .ok kids =>
      match splitLastLabel kids with
      | none => .error .pre
      | some (pre, (lid, lseg, im), post) =>
        if post.any Node.isDelim || hasLabelL post then .error .pre
        else .ok (post, { st.2 with kids := pre ++ [.label lid lseg im] })

/-- linkParser.parseLink (link.go:296-331), as GM.Inl.parseLinkInline -/
def parseLinkInlineG (pd : PD) (st : St) : Except Panic (Option LinkInfo × St) := do
  let rd ← st.rd.advance 1
  let (_, rd) ← skipSpaces blockOps (rdFuel rd) 0 rd
  let finish (rd : BlockReader) (dest : Bytes) (title : Option Bytes) : Except Panic (Option LinkInfo × St) := do
    let (kids, st) ← processLinkLabelG pd { st with rd := rd }
    pure (some { dest := dest, title := title, kids := kids }, st)
  if (← rd.peek) == 41 then
    let rd ← rd.advance 1
    finish rd [] none
  else
    let (dest, rd) ← parseLinkDestination rd
    match dest with
    | none => pure (none, { st with rd := rd })
    | some dest =>
      let ((_, spaces, _), rd) ← skipSpaces blockOps (rdFuel rd) 0 rd
      if (← rd.peek) == 41 then
        let rd ← rd.advance 1
        finish rd dest none
      else if spaces == 0 then pure (none, { st with rd := rd })   -- link.go:313 (repair 8c83fd9): a title needs white space in front
      else
        let (title, rd) ← parseLinkTitle rd
        match title with
        | none => pure (none, { st with rd := rd })
        | some title =>
          let (_, rd) ← skipSpaces blockOps (rdFuel rd) 0 rd
          if (← rd.peek) == 41 then
            let rd ← rd.advance 1
            finish rd dest title
          else pure (none, { st with rd := rd })

/-- linkParser.parseReferenceLink (link.go:255-294), as GM.Inl.parseReferenceLink -/
def parseReferenceLinkG (pd : PD) (env : Env) (st : St) (lseg : Segment) :
    Except Panic ((Option LinkInfo × Bool) × St) := do
  let orgpos := st.rd.position.2
  let rd ← st.rd.advance 1
  let ((segs, found), rd) ← findClosure blockOps (rdFuel rd) 91 93 linkFindClosureOptions rd
  let st := { st with rd := rd }
  if !found then return ((none, false), st)
  let maybeReference ← segsValue rd (segs.getD [])
  -- link.go:274-281 (repair fb85ad2): only an EMPTY second pair of brackets is a collapsed reference; brackets with
  -- only white space between them are no label at all (`return nil, false`: the caller tries a shortcut reference)
  if !maybeReference.isEmpty && isBlank maybeReference then return ((none, false), st)
  let maybeReference ←
    if maybeReference.isEmpty then rd.valueOp { start := lseg.stop, stop := orgpos.start - 1 }
    else pure maybeReference
  if maybeReference.length > 999 then return ((none, true), st)
  match lookupRef env maybeReference with
  | none => return ((none, true), st)
  | some (dest, title) =>
    let (kids, st) ← processLinkLabelG pd st
    pure ((some { dest := dest, title := title, kids := kids }, true), st)

/-- link.go:176-203, as GM.Inl.linkShortcut -/
def linkShortcutG (pd : PD) (env : Env) (st : St) (lseg segment : Segment) (l : Int) (pos : Segment)
    (isImage : Bool) (pre post : List Node) : PRes := do
  let rd ← st.rd.setPosition l pos
  let st := { st with rd := rd }
  let maybeReference ← rd.valueOp { start := lseg.stop, stop := segment.start }
  if maybeReference.length > 999 then linkFail pre lseg post st
  else
    match lookupRef env maybeReference with
    | none => linkFail pre lseg post st
    | some (dest, title) => do
      let (kids, st) ← processLinkLabelG pd st
      linkDone isImage { dest := dest, title := title, kids := kids } st

/-- link.go:165-174, as GM.Inl.linkTry -/
def linkTryG (pd : PD) (env : Env) (st : St) (lseg : Segment) (c : UInt8) :
    Except Panic (Option LinkInfo × Bool × St) :=
  if c == 40 then
    match parseLinkInlineG pd st with
    | .ok (link, st) => .ok (link, false, st)
    | .error e => .error e
  else if c == 91 then
    match parseReferenceLinkG pd env st lseg with
    | .ok ((link, hasValue), st) => .ok (link, hasValue, st)
    | .error e => .error e
  else .ok (none, false, st)

/-- the `]` branch of linkParser.Parse (link.go:140-210), as GM.Inl.parseLinkClose -/
def parseLinkCloseG (pd : PD) (env : Env) (st : St) (segment : Segment) : PRes :=
  match splitLastLabel st.kids with
  | none => .ok (none, st)
  | some (pre, (_, lseg, isImage), post) => do
    let rd ← st.rd.advance 1
    let st := { st with rd := rd }
    if labelLen pre > 998 then linkFail pre lseg post st
    else if !isImage && containsLinkL post then linkFail pre lseg post st
    else do
      let c ← rd.peek
      let (l, pos) := rd.position
      let (link, hasValue, st) ← linkTryG pd env st lseg c
      match link with
      | some info => linkDone isImage info st
      | none =>
        if hasValue then linkFail pre lseg post st
        else linkShortcutG pd env st lseg segment l pos isImage pre post

/-- linkParser.Parse (link.go:124-210), as GM.Inl.parseLink -/
def parseLinkG (pd : PD) (env : Env) (st : St) : PRes := do
  let ((line, segment), rd) ← st.rd.peekLine
  let st := { st with rd := rd }
  match line.getD [] with
  | [] => throw .index
  | c :: rest =>
    if c == 33 then
      match rest with
      | 91 :: _ =>
        let rd ← st.rd.advance 1
        labelOpen (pushBottom { st with rd := rd }) (segment.start + 1) true
      | _ => pure (none, st)
    else if c == 91 then labelOpen (pushBottom st) segment.start false
    else parseLinkCloseG pd env st segment

end GM.Inl
