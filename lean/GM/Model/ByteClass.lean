/-
  GM.Model.ByteClass — closed forms of util/util.go's byte-class tables. Each closed form is tied to the
  table literal REGENERATED from /repo by a kernel-checked theorem (`*_tbl`: the closed form's 256 values
  compared with the table by `decide +kernel`): if a table entry changes in the code, the corresponding
  theorem stops checking.
-/
import GM.Model.Basic
import GM.Gen.UtilTables

namespace GM

def isSpace (c : UInt8) : Bool := c == 9 || c == 10 || c == 13 || c == 32
def isPunct (c : UInt8) : Bool :=
  (33 ≤ c && c ≤ 47) || (58 ≤ c && c ≤ 64) || (91 ≤ c && c ≤ 96) || (123 ≤ c && c ≤ 126)
def isNumeric (c : UInt8) : Bool := 48 ≤ c && c ≤ 57
def isHex (c : UInt8) : Bool := isNumeric c || (97 ≤ c && c ≤ 102) || (65 ≤ c && c ≤ 70)
def isAlpha (c : UInt8) : Bool := (97 ≤ c && c ≤ 122) || (65 ≤ c && c ≤ 90)
def isAlnum (c : UInt8) : Bool := isAlpha c || isNumeric c

/-- `urlEscapeTable[c] == 1`: bytes URLEscape passes through untouched. -/
def urlSafe (c : UInt8) : Bool :=
  c == 33 || c == 35 || c == 36 || (38 ≤ c && c ≤ 59) || c == 61 || (63 ≤ c && c ≤ 90) || c == 95 ||
  (97 ≤ c && c ≤ 122) || c == 126

/-- `utf8lenTable[c]` (99 = invalid leading byte). -/
def utf8len (c : UInt8) : Nat :=
  if c < 128 then 1 else if 194 ≤ c && c ≤ 223 then 2 else if 224 ≤ c && c ≤ 239 then 3
  else if 240 ≤ c && c ≤ 247 then 4 else 99

def urlTbl (c : UInt8) : Nat :=
  if isAlpha c then 7 else if c == 43 || c == 45 || c == 46 || isNumeric c then 5
  else if c ≤ 32 || c == 60 || c == 62 then 0 else 1

def emailTbl (c : UInt8) : Nat :=
  if c == 33 || (35 ≤ c && c ≤ 39) || c == 42 || c == 43 || (45 ≤ c && c ≤ 57) || c == 61 || c == 63 ||
     (65 ≤ c && c ≤ 90) || (94 ≤ c && c ≤ 126) then 1 else 0

/-- `htmlEscapeTable[c]` dereferenced (`[]` = nil entry). -/
def htmlEsc (c : UInt8) : Bytes :=
  if c == 34 then [38, 113, 117, 111, 116, 59]      -- &quot;
  else if c == 38 then [38, 97, 109, 112, 59]       -- &amp;
  else if c == 60 then [38, 108, 116, 59]           -- &lt;
  else if c == 62 then [38, 103, 116, 59]           -- &gt;
  else []

/-- The set `spaces` used by `TrimLeftSpace/TrimRightSpace` (note: includes \v \f, unlike `isSpace`). -/
def isTrimSpace (c : UInt8) : Bool := c == 32 || c == 9 || c == 10 || c == 11 || c == 12 || c == 13

/-! ### ties to the regenerated tables -/

/-- Reading a table at `c.toNat` is done here once, symbolically; a tie is then ONE comparison of two lists
    of 256 values (evaluating `getD tbl c.toNat` byte by byte walks the table 256 times). -/
theorem tbl_tie {α β : Type} (f : UInt8 → β) (g : α → β) (tbl : List α) (d : α)
    (h : (List.range 256).map (fun n => f (UInt8.ofNat n)) = tbl.map g) (c : UInt8) :
    f c = g (tbl.getD c.toNat d) := by
  have h1 := congrArg (fun l => l[c.toNat]?) h
  simp only [List.getElem?_map, List.getElem?_range c.toNat_lt, Option.map_some] at h1
  cases ht : tbl[c.toNat]? with
  | none => rw [ht] at h1; cases h1
  | some x =>
    rw [ht] at h1
    simp only [Option.map_some, Option.some.injEq] at h1
    rw [List.getD_eq_getElem?_getD, ht, Option.getD_some, ← h1]
    simp

theorem isSpace_tbl : ∀ c : UInt8, isSpace c = (Gen.spaceTable.getD c.toNat 0 == 1) :=
  tbl_tie isSpace (· == 1) Gen.spaceTable 0 (by decide +kernel)
theorem isPunct_tbl : ∀ c : UInt8, isPunct c = (Gen.punctTable.getD c.toNat 0 == 1) :=
  tbl_tie isPunct (· == 1) Gen.punctTable 0 (by decide +kernel)
theorem urlSafe_tbl : ∀ c : UInt8, urlSafe c = (Gen.urlEscapeTable.getD c.toNat 0 == 1) :=
  tbl_tie urlSafe (· == 1) Gen.urlEscapeTable 0 (by decide +kernel)
theorem utf8len_tbl : ∀ c : UInt8, utf8len c = Gen.utf8lenTable.getD c.toNat 0 :=
  tbl_tie utf8len id Gen.utf8lenTable 0 (by decide +kernel)
theorem urlTbl_tbl : ∀ c : UInt8, urlTbl c = Gen.urlTable.getD c.toNat 0 :=
  tbl_tie urlTbl id Gen.urlTable 0 (by decide +kernel)
theorem emailTbl_tbl : ∀ c : UInt8, emailTbl c = Gen.emailTable.getD c.toNat 0 :=
  tbl_tie emailTbl id Gen.emailTable 0 (by decide +kernel)
theorem htmlEsc_tbl : ∀ c : UInt8, htmlEsc c = Gen.htmlEscapeTable.getD c.toNat [] :=
  tbl_tie htmlEsc id Gen.htmlEscapeTable [] (by decide +kernel)
theorem isTrimSpace_tbl : ∀ c : UInt8, isTrimSpace c = Gen.spaces.contains c := by
  apply forall_uint8; decide +kernel
theorem tables_len :
    Gen.spaceTable.length = 256 ∧ Gen.punctTable.length = 256 ∧ Gen.urlEscapeTable.length = 256 ∧
    Gen.utf8lenTable.length = 256 ∧ Gen.urlTable.length = 256 ∧ Gen.emailTable.length = 256 ∧
    Gen.htmlEscapeTable.length = 256 := by decide +kernel
theorem htmlSpace_eq : Gen.htmlSpace = [37, 50, 48] := by decide

end GM
