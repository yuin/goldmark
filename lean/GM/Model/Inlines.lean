/-
  GM.Model.Inlines — the inline phase of one block, part 1: the inline tree under construction, the text
  merge helpers (ast/inline.go:204-227), delimiter nodes and `ScanDelimiter` (parser/delimiter.go:27-151),
  the delimiter list of the parse context (parser/parser.go:291-349) and `ProcessDelimiters`
  (parser/delimiter.go:157-246) with the emphasis processor (parser/emphasis.go:8-22). Core Lean only.

  Representation. Go builds the inline content as a pointer tree below `parent`, threads the open `*Delimiter`
  nodes into a doubly linked list kept in the context (`delimiters`/`lastDelimiter`) and the open
  `*linkLabelState` nodes into a second list (context key `linkLabelStateKey`). Every node of either list is a
  direct child of `parent` while it is in its list (a delimiter is pushed when it is appended to `parent`;
  `ProcessDelimiters` moves only nodes strictly between a matched opener and closer, and takes every delimiter
  among them off the list; `processLinkLabel` moves the nodes behind the popped `[`, after all delimiters behind
  its bottom were cleared). The model therefore keeps ONE thing, the list of `parent`'s children in order, and
  reads both context lists off it: the delimiter list is the sub-list of `.delim` children, the label list the
  sub-list of `.label` children. Where the Go code would behave differently should that invariant break, the
  model answers `Panic.pre` ("modelling invariant violated") instead of guessing; the differential runs compare
  that answer with the real code, and the `…_noPre` theorems show it is not reachable.
  Delimiters carry an id (allocation order) because `linkBottom` stores *pointers* to them.
-/
import GM.Model.Reader

namespace GM.Inl
open GM GM.Text

/-- parser.Delimiter (delimiter.go:27-59); `Processor` is always the emphasis processor -/
structure Delim where
  seg : Segment
  canOpen : Bool
  canClose : Bool
  length : Int
  origLength : Int
  char : UInt8
  deriving Repr, DecidableEq

/-- an inline node: the public kinds the default parsers create plus the two bookkeeping kinds -/
inductive Node
  | text (seg : Segment) (soft hard raw : Bool)
  | codeSpan (kids : List Node)
  | emphasis (level : Int) (kids : List Node)
  | link (image : Bool) (dest : Bytes) (title : Option Bytes) (kids : List Node)
  | autoLink (email : Bool) (seg : Segment)
  | rawHTML (segs : List Segment)
  | delim (id : Nat) (d : Delim)
  | label (id : Nat) (seg : Segment) (isImage : Bool)
  deriving Repr

/-- an entry of the `linkBottom` stack / the `bottom` argument of ProcessDelimiters: an `ast.Node` interface
    value that is the nil interface, a nil `*Delimiter` wrapped in a non-nil interface (what
    `pc.Set(linkBottom, pc.LastDelimiter())` stores when there is no delimiter), or a delimiter -/
inductive Bottom
  | nil
  | tnil
  | id (n : Nat)
  deriving Repr, DecidableEq

/-- what the inline phase reads besides the block: the reference map (keys already normalised by
    `util.ToLinkReference`, first definition wins) and the Unicode classes of the non-ASCII runes of the source
    (`util.IsPunctRune`, `util.IsSpaceRune`) -/
structure Env where
  refs : List (Bytes × (Bytes × Option Bytes)) := []
  uc : List (Nat × (Bool × Bool)) := []
  escapedSpace : Bool := false

def textOf (s : Segment) : Node := .text s false false false
def rawTextOf (s : Segment) : Node := .text s false false true

def Node.isDelim : Node → Bool
  | .delim .. => true
  | _ => false

def Node.isLabel : Node → Bool
  | .label .. => true
  | _ => false

/-- `c == bottom` for a sibling `c` (a non-nil interface holding a real node) -/
def Node.isBottom (b : Bottom) : Node → Bool
  | .delim id _ => b == .id id
  | _ => false

/-! ### ast.MergeOrAppendTextSegment / MergeOrReplaceTextSegment (ast/inline.go:204-227) -/

/-- `MergeOrAppendTextSegment(parent, s)` on the child list. `MergeOrReplaceTextSegment(parent, n, s)` is the
    same function applied to the siblings in front of `n` (the node `n` itself disappears either way). -/
def mergeOrAppend (kids : List Node) (s : Segment) : List Node :=
  match kids.getLast? with
  | some (.text seg soft hard raw) =>
    if seg.stop == s.start && !soft then kids.dropLast ++ [.text (seg.withStop s.stop) soft hard raw]
    else kids ++ [textOf s]
  | _ => kids ++ [textOf s]

/-! ### ScanDelimiter (delimiter.go:114-151) -/

/-- util.IsPunctRune (`unicode.IsSymbol || unicode.IsPunct`): decided for ASCII, looked up otherwise -/
def isPunctRune (env : Env) (r : Nat) : Bool :=
  if r < 128 then isPunct (UInt8.ofNat r) else
    match env.uc.lookup r with
    | some (p, _) => p
    | none => false

/-- util.IsSpaceRune (`r <= 256 && IsSpace(byte(r)) || unicode.IsSpace(r)`) -/
def isSpaceRune (env : Env) (r : Nat) : Bool :=
  if r < 128 then r == 9 || r == 10 || r == 11 || r == 12 || r == 13 || r == 32 else
    match env.uc.lookup r with
    | some (_, s) => s
    | none => false

/-- util.ToRune(source, pos) for `pos < len(source)` (util.go:502-514) -/
def toRune (src : Bytes) (pos : Nat) : Nat :=
  match runeStartBack src (pos + 1) with
  | some i => (decodeRune (src.drop i)).1
  | none => runeError

/-- ScanDelimiter(line, before, 1, emphasisDelimiterProcessor); the `Segment` is filled in by the caller -/
def scanDelimiter (env : Env) (line : Bytes) (before : Nat) : Except Panic (Option Delim) :=
  match line with
  | [] => .error .index                                            -- `c := line[0]`
  | c :: rest =>
    if !(c == 42 || c == 95) then .ok none else
    let j := (rest.takeWhile (· == c)).length + 1
    let after : Nat := if j == line.length then 32 else toRune line j
    let bP := isPunctRune env before
    let bW := isSpaceRune env before
    let aP := isPunctRune env after
    let aW := isSpaceRune env after
    let isLeft := !aW && (!aP || bW || bP)
    let isRight := !bW && (!bP || aW || aP)
    let (canOpen, canClose) :=
      if c == 95 then (isLeft && (!isRight || bP), isRight && (!isLeft || aP)) else (isLeft, isRight)
    .ok (some { seg := { start := 0, stop := 0 }, canOpen := canOpen, canClose := canClose, length := j,
                origLength := j, char := c })

/-! ### Delimiter methods -/

/-- Delimiter.ConsumeCharacters (delimiter.go:80-83) -/
def Delim.consume (d : Delim) (n : Int) : Delim :=
  { d with length := d.length - n, seg := d.seg.withStop (d.seg.start + (d.length - n)) }

/-- Delimiter.CalcComsumption (delimiter.go:87-95); `d` is the opener -/
def Delim.calcConsumption (d closer : Delim) : Int :=
  if (d.canClose || closer.canOpen) && (d.origLength + closer.origLength).tmod 3 == 0 &&
      closer.origLength.tmod 3 != 0 then 0
  else if d.length ≥ 2 && closer.length ≥ 2 then 2
  else 1

/-! ### the context's delimiter list, read off the child list -/

/-- the first `.delim` child and what surrounds it -/
def splitFirstDelim : List Node → Option (List Node × Nat × Delim × List Node)
  | [] => none
  | .delim id d :: rest => some ([], id, d, rest)
  | n :: rest =>
    match splitFirstDelim rest with
    | some (pre, id, d, post) => some (n :: pre, id, d, post)
    | none => none

/-- the last `.delim` child and what surrounds it -/
def splitLastDelim (kids : List Node) : Option (List Node × Nat × Delim × List Node) :=
  match splitFirstDelim kids.reverse with
  | some (postR, id, d, preR) => some (preR.reverse, id, d, postR.reverse)
  | none => none

/-- RemoveDelimiter (parser.go:311-335) of a delimiter whose previous siblings are `pre`: the list surgery is
    implicit, the node becomes text (merged into a preceding adjacent Text) or vanishes when it is used up -/
def removeDelim (pre : List Node) (d : Delim) : List Node :=
  if d.length != 0 then mergeOrAppend pre d.seg else pre

/-- the loop `for c := opener.NextDelimiter; c != nil && c != closer; … pc.RemoveDelimiter(c)` (delimiter.go:
    226-230) on the nodes that were moved into the new emphasis node: left to right, `acc` = the children
    already passed -/
def clearInner : List Node → List Node → List Node
  | acc, [] => acc
  | acc, .delim _ d :: rest => clearInner (removeDelim acc d) rest
  | acc, n :: rest => clearInner (acc ++ [n]) rest

/-- ClearDelimiters(bottom) (parser.go:337-349), on the REVERSED list of the children up to and including
    `lastDelimiter`: walks `PreviousSibling` until `bottom`, removing every delimiter it meets (each one merges
    into the Text in front of it, i.e. the next element here, or is replaced by a fresh Text) -/
def clearRev (bottom : Bottom) : List Node → List Node
  | [] => []
  | .delim id d :: rest =>
    if bottom == .id id then .delim id d :: rest
    else if d.length != 0 then
      -- the walk goes on from the previous sibling either way; a Text in front is passed unchanged by the
      -- rest of the walk, so "merge into it, then go on" = "go on, then merge into the head of the result"
      let r := clearRev bottom rest
      match rest, r with
      | .text seg soft hard raw :: _, _ :: r' =>
        if seg.stop == d.seg.start && !soft then .text (seg.withStop d.seg.stop) soft hard raw :: r'
        else textOf d.seg :: r
      | _, _ => textOf d.seg :: r
    else clearRev bottom rest
  | n :: rest => n :: clearRev bottom rest

/-- ClearDelimiters(bottom) -/
def clearDelimiters (bottom : Bottom) (kids : List Node) : List Node :=
  match splitLastDelim kids with
  | none => kids
  | some (pre, id, d, post) => (clearRev bottom (.delim id d :: pre.reverse)).reverse ++ post

/-! ### ProcessDelimiters (delimiter.go:157-246) -/

/-- the opener search `for opener = closer.PreviousDelimiter; opener != nil && opener != bottom; …`
    (delimiter.go:190-199) over the reversed previous siblings: the matched opener (the siblings in front of it
    in order, its id and fields, the siblings between it and the closer in order, `consume`) and `maybeOpener` -/
def findOpener (bottom : Bottom) (closer : Delim) :
    List Node → List Node → Bool → Option (List Node × Nat × Delim × List Node × Int) × Bool
  | [], _, maybe => (none, maybe)
  | .delim id d :: restR, mid, maybe =>
    if bottom == .id id then (none, maybe)
    else if d.canOpen && d.char == closer.char then
      let consume := d.calcConsumption closer
      if consume > 0 then (some (restR.reverse, id, d, mid, consume), true)
      else findOpener bottom closer restR (.delim id d :: mid) true
    else findOpener bottom closer restR (.delim id d :: mid) maybe
  | n :: restR, mid, maybe => findOpener bottom closer restR (n :: mid) maybe

theorem splitFirstDelim_len {l pre post : List Node} {id : Nat} {d : Delim}
    (h : splitFirstDelim l = some (pre, id, d, post)) : post.length < l.length := by
  induction l generalizing pre id d post with
  | nil => simp [splitFirstDelim] at h
  | cons n rest ih =>
    cases n with
    | delim i dd => simp [splitFirstDelim] at h; obtain ⟨_, _, _, rfl⟩ := h; simp
    | _ =>
      simp only [splitFirstDelim] at h
      split at h
      · rename_i p i dd po heq
        simp at h; obtain ⟨_, _, _, rfl⟩ := h
        have := ih heq; simp; omega
      · simp at h

/-- one round of the `for closer != nil` loop: finished, next round, or a broken modelling invariant -/
inductive CStep
  | done (kids : List Node)
  | next (pre : List Node) (cid : Nat) (cd : Delim) (post : List Node)
  | bad

/-- `closer = closer.NextDelimiter` (then `continue`): `pre` = everything in front of `post` -/
def advanceCloser (pre post : List Node) : CStep :=
  match splitFirstDelim post with
  | none => .done (pre ++ post)
  | some (mid, nid, nd, post') => .next (pre ++ mid) nid nd post'

/-- one round of the `for closer != nil` loop (delimiter.go:183-243) as a zipper: `pre` = the siblings in front
    of the current closer, `post` = those behind it. A delimiter of non-positive length on the list would make
    the Go loop spin or misbehave; the model answers `bad` (never reached: every listed delimiter has
    `Length ≥ 1`, and a match consumes 1 or 2). -/
def closerStep (bottom : Bottom) (pre : List Node) (cid : Nat) (cd : Delim) (post : List Node) : CStep :=
  if cd.length < 1 then .bad else
  if !cd.canClose then advanceCloser (pre ++ [.delim cid cd]) post
  else
    match findOpener bottom cd pre.reverse [] false with
    | (none, maybeOpener) =>
      advanceCloser (if !maybeOpener && !cd.canOpen then removeDelim pre cd else pre ++ [.delim cid cd]) post
    | (some (p1, oid, od, mid, consume), _) =>
      if consume < 1 then .bad else
      let od' := od.consume consume
      let cd' := cd.consume consume
      let node := Node.emphasis consume (clearInner [] mid)
      let pre' := (if od'.length == 0 then p1 else p1 ++ [.delim oid od']) ++ [node]
      if cd'.length == 0 then advanceCloser pre' post
      else .next pre' cid cd' post

theorem advanceCloser_dec {pre post pre' post' : List Node} {cid : Nat} {cd : Delim}
    (h : advanceCloser pre post = .next pre' cid cd post') : post'.length < post.length := by
  unfold advanceCloser at h
  split at h
  · simp at h
  · rename_i heq
    simp at h; obtain ⟨_, _, _, rfl⟩ := h
    exact splitFirstDelim_len heq

/-- the outcomes of one round: a broken modelling invariant; the closer stays or is removed and the next delimiter becomes
    the closer; a match, which wraps `mid` into an Emphasis and takes `c` characters off both delimiters -/
theorem closerStep_cases (bottom : Bottom) (pre : List Node) (cid : Nat) (cd : Delim) (post : List Node) :
    (closerStep bottom pre cid cd post = .bad ∧ (cd.length < 1 ∨ ∃ p1 oid od mid c m,
      findOpener bottom cd pre.reverse [] false = (some (p1, oid, od, mid, c), m) ∧ c < 1)) ∨
    (1 ≤ cd.length ∧ ∃ pre', (pre' = pre ++ [.delim cid cd] ∨ pre' = removeDelim pre cd) ∧
      closerStep bottom pre cid cd post = advanceCloser pre' post) ∨
    (1 ≤ cd.length ∧ ∃ p1 oid od mid c m pre',
      findOpener bottom cd pre.reverse [] false = (some (p1, oid, od, mid, c), m) ∧ 1 ≤ c ∧
      pre' = (if (od.consume c).length == 0 then p1 else p1 ++ [.delim oid (od.consume c)]) ++
        [.emphasis c (clearInner [] mid)] ∧
      closerStep bottom pre cid cd post =
        if (cd.consume c).length == 0 then advanceCloser pre' post else .next pre' cid (cd.consume c) post) := by
  unfold closerStep
  split
  · exact .inl ⟨rfl, .inl ‹_›⟩
  · split
    · exact .inr (.inl ⟨by omega, _, .inl rfl, rfl⟩)
    · split
      · refine .inr (.inl ⟨by omega, _, ?_, rfl⟩)
        split
        · exact .inr rfl
        · exact .inl rfl
      · rename_i p1 oid od mid c m hf
        split
        · exact .inl ⟨rfl, .inr ⟨_, _, _, _, _, _, hf, ‹_›⟩⟩
        · exact .inr (.inr ⟨by omega, _, _, _, _, _, _, _, hf, by omega, rfl, rfl⟩)

/-- a closer is dropped (`post` shrinks) or loses at least one character per round -/
theorem closerStep_dec {bottom : Bottom} {pre post pre' post' : List Node} {cid cid' : Nat} {cd cd' : Delim}
    (h : closerStep bottom pre cid cd post = .next pre' cid' cd' post') :
    Prod.Lex (· < ·) (· < ·) (post'.length, cd'.length.toNat) (post.length, cd.length.toNat) := by
  rcases closerStep_cases bottom pre cid cd post with ⟨e, _⟩ | ⟨_, _, _, e⟩ | ⟨_, _, _, _, _, c, _, _, _, hc, _, e⟩
  · rw [e] at h; cases h
  · rw [e] at h; exact .left _ _ (advanceCloser_dec h)
  · rw [e] at h
    split at h
    · exact .left _ _ (advanceCloser_dec h)
    · rename_i hz
      cases h
      apply Prod.Lex.right
      simp only [Delim.consume, beq_iff_eq] at hz ⊢
      omega

/-- the `for closer != nil` loop (delimiter.go:183-243) -/
def closerLoop (bottom : Bottom) (pre : List Node) (cid : Nat) (cd : Delim) (post : List Node) :
    Except Panic (List Node) :=
  match h : closerStep bottom pre cid cd post with
  | .done kids => .ok kids
  | .bad => .error .pre
  | .next pre' cid' cd' post' => closerLoop bottom pre' cid' cd' post'
termination_by (post.length, cd.length.toNat)
decreasing_by exact closerStep_dec h

/-- the search for the first closer when `bottom` is a non-nil interface (delimiter.go:164-174):
    `for c := lastDelimiter.PreviousSibling(); c != nil && c != bottom; …` keeps the left-most delimiter met.
    `preR` = the siblings in front of `lastDelimiter`, reversed. -/
def firstCloserAfter (bottom : Bottom) : List Node → Option Nat → Option Nat
  | [], acc => acc
  | .delim id _ :: rest, acc => if bottom == .id id then acc else firstCloserAfter bottom rest (some id)
  | _ :: rest, acc => firstCloserAfter bottom rest acc

/-- split at the top-level delimiter with the given id -/
def splitAtDelim (id : Nat) : List Node → Option (List Node × Delim × List Node)
  | [] => none
  | .delim i d :: rest =>
    if i == id then some ([], d, rest) else
      match splitAtDelim id rest with
      | some (pre, dd, post) => some (.delim i d :: pre, dd, post)
      | none => none
  | n :: rest =>
    match splitAtDelim id rest with
    | some (pre, dd, post) => some (n :: pre, dd, post)
    | none => none

/-- ProcessDelimiters(bottom, pc) on `parent`'s children -/
def processDelimiters (bottom : Bottom) (kids : List Node) : Except Panic (List Node) :=
  match splitLastDelim kids with
  | none => .ok kids                                                -- `lastDelimiter == nil`
  | some (preL, lastId, _, _) =>
    let closer : Option Nat :=
      match bottom with
      | .nil => (splitFirstDelim kids).map (·.2.1)                  -- `pc.FirstDelimiter()`
      | b => if b == .id lastId then none else firstCloserAfter b preL.reverse none
    match closer with
    | none => .ok (clearDelimiters bottom kids)
    | some cid =>
      match splitAtDelim cid kids with
      | none => .error .pre
      | some (pre, cd, post) =>
        match closerLoop bottom pre cid cd post with
        | .ok kids' => .ok (clearDelimiters bottom kids')
        | .error e => .error e

end GM.Inl
